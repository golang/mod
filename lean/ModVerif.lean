-- Root of the library: everything that `lake build ModVerif` (bin/setup) should build.
import ModVerif.Basic.Bytes
import ModVerif.Model.Semver
import ModVerif.Props.C04
import ModVerif.Tie.Semver
import ModVerif.Model.Dirhash
import ModVerif.Props.C19
import ModVerif.Tie.Dirhash
import ModVerif.Model.Pseudo
import ModVerif.Props.C18
import ModVerif.Tie.Pseudo
import ModVerif.Basic.Sha256
import ModVerif.Basic.Base64
import ModVerif.Basic.Decimal
import ModVerif.Model.Tlog
import ModVerif.Model.TlogNote
import ModVerif.Model.Tile
import ModVerif.Spec.RFC6962
import ModVerif.Props.C09
import ModVerif.Props.C03
import ModVerif.Props.C10
import ModVerif.Tie.Tlog
import ModVerif.Tie.FnTlogProof
import ModVerif.Tie.FnTlogProofC03
import ModVerif.Basic.Utf8
import ModVerif.Basic.PathMatch
import ModVerif.Basic.UnicodeLetter
import ModVerif.Model.Module
import ModVerif.Spec.PathSpec
import ModVerif.Props.C06
import ModVerif.Props.C11
import ModVerif.Tie.Module
import ModVerif.Basic.UnicodePrint
import ModVerif.Basic.GoStrings
import ModVerif.Basic.Quote
import ModVerif.Model.Modfile.Syntax
import ModVerif.Model.Modfile.Lex
import ModVerif.Model.Modfile.Parse
import ModVerif.Model.Modfile.Comments
import ModVerif.Model.Modfile.Print
import ModVerif.Model.Modfile.Rule
import ModVerif.Model.Modfile.Work
import ModVerif.Props.C20
import ModVerif.Props.C02
import ModVerif.Tie.Modfile
import ModVerif.Basic.PathClean
import ModVerif.Basic.FoldTable
import ModVerif.Model.Zip
import ModVerif.Spec.ZipSpec
import ModVerif.Props.C17
import ModVerif.Props.C05
import ModVerif.Props.C12
import ModVerif.Tie.Zip
import ModVerif.Spec.EditSpec
import ModVerif.Props.C08
import ModVerif.Props.C15
import ModVerif.Props.C16
import ModVerif.Model.Note
import ModVerif.Props.C07
import ModVerif.Tie.Note
import ModVerif.Model.Modfile.Edit
import ModVerif.Model.Modfile.EditAbs
import ModVerif.Model.ParCache
import ModVerif.Model.ClientLatest
import ModVerif.Model.ClientTrace
import ModVerif.Model.Client
import ModVerif.Proofs.ClientAuth
import ModVerif.Proofs.ClientHonest
import ModVerif.Props.C01
import ModVerif.Props.C13
import ModVerif.Props.C14
-- regenerated whole-function translations (go2lean) and their tie theorems
import ModVerif.Basic.GoRt
import ModVerif.Basic.GoRtUtf8
import ModVerif.Tie.FnSemver
import ModVerif.Tie.FnTlogInt
import ModVerif.Tie.FnPseudo
import ModVerif.Tie.FnModule
import ModVerif.Tie.FnModfile
import ModVerif.Tie.FnModfileCmp
import ModVerif.Tie.FnModfileCmpC16
import ModVerif.Tie.FnTlogNote
import ModVerif.Tie.FnNote
import ModVerif.Tie.FnNoteSign
import ModVerif.Tie.FnNoteSignC07
import ModVerif.Tie.FnNoteKey
import ModVerif.Tie.FnNoteKeyC07
import ModVerif.Tie.FnSemverC04
import ModVerif.Tie.FnZip
import ModVerif.Tie.FnZipCheckFiles
import ModVerif.Tie.FnZipC17
import ModVerif.Tie.FnZipDir
import ModVerif.Tie.FnZipDirC17
import ModVerif.Tie.FnZipIOCreate
import ModVerif.Tie.FnZipIOC05
import ModVerif.Tie.FnZipIOUnzip
import ModVerif.Tie.FnZipIOC12
import ModVerif.Tie.FnTlogIntC09
import ModVerif.Tie.FnPseudoC18
import ModVerif.Tie.FnTile
import ModVerif.Tie.FnTileW
import ModVerif.Tie.FnTlogW
import ModVerif.Tie.FnLex
import ModVerif.Tie.FnParseComments
import ModVerif.Tie.FnParse
import ModVerif.Tie.FnParseC20
import ModVerif.Tie.FnDirhash
import ModVerif.Tie.FnDirhashC19
import ModVerif.Tie.FnDirhashDir
import ModVerif.Tie.FnDirhashDirC19
import ModVerif.Tie.FnPrint
import ModVerif.Tie.FnPrintC02
import ModVerif.Tie.FnClientTiles
import ModVerif.Tie.FnClientMerge
import ModVerif.Tie.FnClientLookup
import ModVerif.Tie.FnClientC01
import ModVerif.Tie.FnEditTree
import ModVerif.Tie.FnEditAddLine
import ModVerif.Tie.FnEditStmt
import ModVerif.Tie.FnEditSort
import ModVerif.Tie.FnEditReq
import ModVerif.Tie.FnEditSet
import ModVerif.Tie.FnEditWork
import ModVerif.Tie.FnRuleLeaf
import ModVerif.Tie.FnRuleAdd
import ModVerif.Tie.FnRuleC20
import ModVerif.Tie.FnEditSession
import ModVerif.Tie.FnEditSessionWork
import ModVerif.Tie.FnEditC15
import ModVerif.Tie.FnEditC15Work
import ModVerif.Tie.FnRuleClosed
import ModVerif.Tie.FnEditClosed
import ModVerif.Tie.FnEditClosed2
import ModVerif.Tie.FnEditClosed3
import ModVerif.Tie.FnEditClosed4
import ModVerif.Tie.FnEditClosed5
