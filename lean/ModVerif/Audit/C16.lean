import ModVerif.AuditCmd
import ModVerif.Props.C16
import ModVerif.Tie.FnModfileCmp
import ModVerif.Tie.FnModfileCmpC16
import ModVerif.Tie.FnEditTree
import ModVerif.Tie.FnEditAddLine
import ModVerif.Tie.FnEditReq
import ModVerif.Tie.FnEditSet
import ModVerif.Tie.FnEditSort
import ModVerif.Tie.FnEditWork
#audit_module ModVerif.Props.C16
#audit_module ModVerif.Tie.FnModfileCmp
#audit_module ModVerif.Tie.FnModfileCmpC16
#audit_module ModVerif.Tie.FnEditTree
#audit_module ModVerif.Tie.FnEditAddLine
#audit_module ModVerif.Tie.FnEditReq
#audit_module ModVerif.Tie.FnEditSet
#audit_module ModVerif.Tie.FnEditSort
#audit_module ModVerif.Tie.FnEditWork
