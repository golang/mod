/-
  Tie theorems, sumdb/client.go, the tile layer of the client: the definitions regenerated from the Go source by go2lean
  (`Generated/FnClient.lean`: `Client.tileCacheKey`, `Client.tileRemotePath`, `Client.markTileSaved`, `Client.readTile` with
  the closure passed to `c.tileCache.Do`, `tileReader.Height`, `tileReader.ReadTiles`, `tileReader.SaveTiles` and their
  loops) compute what the hand model (`Model/Client.lean`: `tileCacheKey`, `tileRemotePath`, `markTileSaved`,
  `readTileWork`, `readTile`, `readTilesAll`/`firstError`/`readTiles`, `saveTiles`) says — result, world, and every
  external operation in order (the effect trace is part of the represented state).

  Representation (Proofs/TieFnClientRep.lean): the generated world `cw : CW (σ × List Effect) H` represents the model world
  `w` (`RepCore P E w cw`: state and trace, name, the parCache tables and `tileSaved` pointwise, …), the generated
  environment is `envOf P E`, tiles are embedded by `toGen` (Proofs/TieFnTile.lean), error texts are abstracted by `errAbs`
  (`RepRes`, `RepCached`).  Every theorem has the shape
      `RepCore P E w cw → ∃ r' cw', Generated.f (envOf P E) fuel args cw = .ok (r', cw') ∧ RepCore P E (Model.f …).2 cw' ∧
        RepRes r' (Model.f …).1 ∧ FrameG cw cw' ∧ FrameM w (Model.f …).2`
  (`FrameG`/`FrameM`: the fields left alone, so that `RepRun` / `RepW` carry over: `RepRun.of_frame`, `RepW.of_frame`);
  this is `TieFnClientRep.Ties (RepCore P E) FrameG FrameM …`, written out.

  Hypotheses: `TRange t` for every tile handled (`toGen` injective on it, `H ≤ 62` and `N < 2^63`: `Tile.Path` is the
  model's `tilePath`; `W ≤ 2^H`: the slice `data[:len(data)/full.W*tile.W]` is within `data` — for a wider tile the Go
  expression can panic where the model's `take` does not; `TileHashReader` only asks for tiles with `W ≤ 2^H`), and fuel:
  constant 8 for one tile (`Tile.Path`), `len(tiles) + 9` for the loops.  `SaveTiles` needs `len(data) = len(tiles)`
  (`data[i]` would panic otherwise; `ReadHashes` checks it before).
-/
import ModVerif.Generated.FnClient
import ModVerif.Model.Client
import ModVerif.Proofs.TieFnClientRep
import ModVerif.Proofs.TieFnClientTiles
set_option linter.unusedSectionVars false
namespace ModVerif.Tie.FnClientTiles
open ModVerif ModVerif.GoRt ModVerif.Generated.SumdbClient ModVerif.TieFnClientRep ModVerif.TieFnClientTiles
open ModVerif.TieFnTile (toGen)

section
variable {σ H : Type} [DecidableEq H] [Inhabited H] {P : Client.Params H} {E : Client.Env σ}
  {w : Client.World σ H} {cw : GW σ H}

/-- `c.tileCacheKey(tile)`: the name of the represented client, "/", `tile.Path()`; the world is not touched -/
theorem Client_tileCacheKey_tie (hc : RepCore P E w cw) (t : Tile.Tile) (hh : t.h ≤ 62) (hn : t.n < 2 ^ 63)
    (fuel : Nat) (hf : 8 ≤ fuel) :
    Client_tileCacheKey fuel (toGen t) cw = .ok (Client.tileCacheKey w.c.name t, cw) := by
  rw [tileCacheKey_eq fuel t hh hn hf cw, hc.name]

/-- `c.tileRemotePath(tile)` -/
theorem Client_tileRemotePath_tie (t : Tile.Tile) (hh : t.h ≤ 62) (hn : t.n < 2 ^ 63) (fuel : Nat) (hf : 8 ≤ fuel)
    (cw : GW σ H) :
    Client_tileRemotePath fuel (toGen t) cw = .ok (Client.tileRemotePath t, cw) :=
  tileRemotePath_eq fuel t hh hn hf cw

/-- `c.markTileSaved(tile)` -/
theorem Client_markTileSaved_tie (hc : RepCore P E w cw) (t : Tile.Tile) (ht : TOk t) :
    ∃ cw', Client_markTileSaved (toGen t) cw = ((), cw') ∧ RepCore P E (Client.markTileSaved w t) cw' ∧
      FrameG cw cw' ∧ FrameM w (Client.markTileSaved w t) :=
  ⟨_, markTileSaved_eq _ _, markTileSaved_core hc t ht, markG_frame _ _, markM_frame _ _⟩

/-- the closure passed to `c.tileCache.Do` in `readTile` = `readTileWork`: on-disk cache (requested tile, then the full
    tile), then the server (requested tile, then the full tile); the result as a `cached{data, err}` value -/
theorem Client_readTile_cacheFn1_tie (hc : RepCore P E w cw) (t : Tile.Tile) (ht : TRange t) (fuel : Nat) (hf : 8 ≤ fuel) :
    ∃ c cw', Client_readTile_cacheFn1 (envOf P E) fuel (toGen t) cw = .ok (c, cw') ∧
      RepCore P E (Client.readTileWork E w t).2 cw' ∧ RepCached c (Client.readTileWork E w t).1 ∧
      FrameG cw cw' ∧ FrameM w (Client.readTileWork E w t).2 :=
  cacheFn1_tie hc t ht fuel hf

/-- `c.readTile(tile)` = `readTile`: the memo table, and on a miss the closure and the new entry -/
theorem Client_readTile_tie (hc : RepCore P E w cw) (t : Tile.Tile) (ht : TRange t) (fuel : Nat) (hf : 8 ≤ fuel) :
    ∃ p cw', Client_readTile (envOf P E) fuel (toGen t) cw = .ok (p, cw') ∧
      RepCore P E (Client.readTile E w t).2 cw' ∧ RepRes p (Client.readTile E w t).1 ∧
      FrameG cw cw' ∧ FrameM w (Client.readTile E w t).2 :=
  readTile_tie hc t ht fuel hf

/-- `tileReader.Height()` of the running client: the model's `tileHeight P` -/
theorem tileReader_Height_tie (hr : RepRun P E w cw) :
    tileReader_Height cw = ((Client.tileHeight P : Int), cw) := by
  unfold tileReader_Height
  rw [hr.tileHeight]

/-- `tileReader.ReadTiles(tiles)` = `readTiles`: every tile is read, in list order; the first error in list order, or
    all the data -/
theorem tileReader_ReadTiles_tie (hc : RepCore P E w cw) (tiles : List Tile.Tile) (hr : ∀ t ∈ tiles, TRange t)
    (fuel : Nat) (hf : tiles.length + 9 ≤ fuel) :
    ∃ p cw', tileReader_ReadTiles (envOf P E) fuel (tiles.map toGen) cw = .ok (p, cw') ∧
      RepCore P E (Client.readTiles E w tiles).2 cw' ∧ RepRes p (Client.readTiles E w tiles).1 ∧
      FrameG cw cw' ∧ FrameM w (Client.readTiles E w tiles).2 :=
  ReadTiles_tie hc tiles hr fuel hf

/-- `tileReader.SaveTiles(tiles, data)` = `saveTiles` on the pairs: every tile not yet marked is marked and written -/
theorem tileReader_SaveTiles_tie (hc : RepCore P E w cw) (tiles : List Tile.Tile) (data : List Bytes)
    (hlen : data.length = tiles.length) (hr : ∀ t ∈ tiles, TRange t) (fuel : Nat) (hf : tiles.length + 9 ≤ fuel) :
    ∃ cw', tileReader_SaveTiles (envOf P E) fuel (tiles.map toGen) data cw = .ok ((), cw') ∧
      RepCore P E (Client.saveTiles E w (tiles.zip data)) cw' ∧
      FrameG cw cw' ∧ FrameM w (Client.saveTiles E w (tiles.zip data)) :=
  SaveTiles_tie hc tiles data hlen hr fuel hf

/-! ### the running client (`RepRun`) is preserved -/

theorem tileReader_ReadTiles_run (hr : RepRun P E w cw) (tiles : List Tile.Tile) (ht : ∀ t ∈ tiles, TRange t)
    (fuel : Nat) (hf : tiles.length + 9 ≤ fuel) :
    ∃ p cw', tileReader_ReadTiles (envOf P E) fuel (tiles.map toGen) cw = .ok (p, cw') ∧
      RepRun P E (Client.readTiles E w tiles).2 cw' ∧ RepRes p (Client.readTiles E w tiles).1 ∧
      FrameG cw cw' ∧ FrameM w (Client.readTiles E w tiles).2 := by
  obtain ⟨p, cw', h1, h2, h3, h4, h5⟩ := tileReader_ReadTiles_tie hr.toRepCore tiles ht fuel hf
  exact ⟨p, cw', h1, hr.of_frame h2 h4 h5, h3, h4, h5⟩

theorem tileReader_SaveTiles_run (hr : RepRun P E w cw) (tiles : List Tile.Tile) (data : List Bytes)
    (hlen : data.length = tiles.length) (ht : ∀ t ∈ tiles, TRange t) (fuel : Nat) (hf : tiles.length + 9 ≤ fuel) :
    ∃ cw', tileReader_SaveTiles (envOf P E) fuel (tiles.map toGen) data cw = .ok ((), cw') ∧
      RepRun P E (Client.saveTiles E w (tiles.zip data)) cw' ∧
      FrameG cw cw' ∧ FrameM w (Client.saveTiles E w (tiles.zip data)) := by
  obtain ⟨cw', h1, h2, h3, h4⟩ := tileReader_SaveTiles_tie hr.toRepCore tiles data hlen ht fuel hf
  exact ⟨cw', h1, hr.of_frame h2 h3 h4, h3, h4⟩

end

/-! ### non-vacuity: both sides on concrete inputs -/

/-- parameters with byte strings as hashes -/
def exP : Client.Params Bytes :=
  { leaf := id, node := fun a b => a ++ b, empty := [], hashSize := 32, dec := id, enc := id, height := 2, nosumdb := [],
    isLetter := fun _ => false, glob := fun _ _ => false, sha := id, edVerify := fun _ _ _ => false, retries := 1 }

/-- an environment that counts the operations: the cache is empty, the server answers a request with its path
    (`up = true`) or fails (`up = false`) -/
def exEnv (up : Bool) : Client.Env Nat :=
  { readRemote := fun s p => (if up then some p else none, s + 1)
    readCache := fun s _ => (none, s + 1)
    readConfig := fun s _ => (none, s + 1)
    writeCache := fun s _ _ => s + 1
    writeConfig := fun s _ _ _ => (.ok, s + 1)
    securityError := fun s _ => s + 1 }

def exW : Client.World Nat Bytes := { s := 0, c := Client.newClient exP, tr := [] }
def exCW : GW Nat Bytes := cw0 exP 0 []
/-- a partial tile (width 1 of 4) and the full tile next to it -/
def exT : Tile.Tile := ⟨2, 0, 0, 1, false⟩
def exT2 : Tile.Tile := ⟨2, 0, 1, 4, false⟩

example : RepCore exP (exEnv true) exW exCW := (rep_init exP (exEnv true) 0 []).toRepCore
example : TRange exT ∧ TRange exT2 := by
  refine ⟨⟨?_, ?_, ?_, ?_⟩, ⟨?_, ?_, ?_, ?_⟩⟩ <;> first | (intro h; cases h) | decide

example : (Client_tileCacheKey 8 (toGen exT) exCW).toOption.map (·.1) = some (B "/tile/2/0/000.p/1") ∧
    Client.tileCacheKey exW.c.name exT = B "/tile/2/0/000.p/1" := by constructor <;> decide +kernel

example : (Client_tileRemotePath 8 (toGen exT2) exCW).toOption.map (·.1) = some (B "/tile/2/0/001") ∧
    Client.tileRemotePath exT2 = B "/tile/2/0/001" := by constructor <;> decide +kernel

example : (mapGet (Client_markTileSaved (toGen exT) exCW).2.tileSaved (toGen exT) false).1 = true ∧
    (Client.markTileSaved exW exT).c.tileSaved.contains exT = true := by constructor <;> decide +kernel

-- the server answers: two cache misses (requested tile, full tile), then the requested tile from the server
example : (Client_readTile_cacheFn1 (envOf exP (exEnv true)) 8 (toGen exT) exCW).toOption.map (fun r => (r.1, r.2.s)) =
      some ({ data := B "/tile/2/0/000.p/1", err := none },
        (3, [.read .cache (B "/tile/2/0/000.p/1") false, .read .cache (B "/tile/2/0/000") false,
             .read .remote (B "/tile/2/0/000.p/1") true])) ∧
    (fun r => (r.1, r.2.s, r.2.tr)) (Client.readTileWork (exEnv true) exW exT) =
      (.ok (B "/tile/2/0/000.p/1"), 3, [.read .cache (B "/tile/2/0/000.p/1") false, .read .cache (B "/tile/2/0/000") false,
             .read .remote (B "/tile/2/0/000.p/1") true]) := by constructor <;> decide +kernel

-- the server is down: the error of the first remote read, after four reads
example : (Client_readTile (envOf exP (exEnv false)) 8 (toGen exT) exCW).toOption.map (fun r => (r.1, r.2.s.1)) =
      some (([], some "remote"), 4) ∧
    (fun r => (r.1, r.2.s)) (Client.readTile (exEnv false) exW exT) = (.error .remote, 4) ∧
    errAbs "remote" = .remote := by refine ⟨?_, ?_, errAbs_remote⟩ <;> decide +kernel

example : tileReader_Height exCW = (2, exCW) ∧ Client.tileHeight exP = 2 := ⟨rfl, rfl⟩

-- two tiles, the first one twice: the third read is answered from the memo table (five external reads in all)
example : (tileReader_ReadTiles (envOf exP (exEnv true)) 12 ([exT, exT2, exT].map toGen) exCW).toOption.map
        (fun r => (r.1, r.2.s.1)) =
      some (([B "/tile/2/0/000.p/1", B "/tile/2/0/001", B "/tile/2/0/000.p/1"], none), 5) ∧
    (fun r => (r.1, r.2.s)) (Client.readTiles (exEnv true) exW [exT, exT2, exT]) =
      (.ok [B "/tile/2/0/000.p/1", B "/tile/2/0/001", B "/tile/2/0/000.p/1"], 5) := by constructor <;> decide +kernel

example : (tileReader_ReadTiles (envOf exP (exEnv false)) 12 ([exT, exT2].map toGen) exCW).toOption.map
        (fun r => (r.1, r.2.s.1)) = some (([], some "remote"), 6) ∧
    (fun r => (r.1, r.2.s)) (Client.readTiles (exEnv false) exW [exT, exT2]) = (.error .remote, 6) := by
  constructor <;> decide +kernel

-- a tile given twice is written once
example : (tileReader_SaveTiles (envOf exP (exEnv true)) 12 ([exT, exT2, exT].map toGen) [[1], [2], [3]] exCW).toOption.map
        (fun r => r.2.s) =
      some (2, [.writeCache (B "/tile/2/0/000.p/1") [1], .writeCache (B "/tile/2/0/001") [2]]) ∧
    (fun r => (r.s, r.tr)) (Client.saveTiles (exEnv true) exW ([exT, exT2, exT].zip [[1], [2], [3]])) =
      (2, [.writeCache (B "/tile/2/0/000.p/1") [1], .writeCache (B "/tile/2/0/001") [2]]) := by
  constructor <;> decide +kernel

end ModVerif.Tie.FnClientTiles
