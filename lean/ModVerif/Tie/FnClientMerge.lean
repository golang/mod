/-
  Tie theorems, sumdb/client.go — the tree-head half of the client: `Client.checkTrees`, `Client.checkRecord`,
  `Client.mergeLatestMem`, `Client.mergeLatest` of the REGENERATED client (`Generated/FnClient.lean`, re-translated from the Go
  source on every check) compute what the hand model (`Model/Client.lean`: `checkTrees` with `securityHead` / `proofLines` /
  `indent`, `checkRecord`, `openTree`, `mergeLatestMem`, `mergeLatestLoop` / `mergeLatest`) says, in corresponding worlds.

  Shape (Proofs/TieFnClientRep.lean): the model world `w` is represented by the generated world `cw` (`RepRun P E w cw`; the
  generated state behind `ClientOps` is the model's state together with the model's effect trace), the generated environment
  is `envOf P E`; a tie says: the generated function returns `.ok (r', cw')` — no Go panic, no fuel exhaustion —, `cw'`
  represents the model's new world (so the two sides performed the SAME external operations with the SAME arguments, in the
  same order: `cw'.s = (w'.s, w'.tr)`), `r'` is the model's result (`RepUnit` / `RepResR`: `nil` against `.ok`, an error text
  whose abstraction `errAbs` is the model's error kind against `.error`), and the frames (`FrameG`/`FrameM`, resp.
  `FrameI`/`FrameJ`) list the fields left alone.  This is `TieFnClientRep.Ties (RepRun P E) …`, written out.

  Hypotheses, all explicit (Proofs/TieFnClientMergeSpec.lean):
  * `S : TileSpecs P E` — the ties of the three reads through tiles this unit calls (`readHashesW`, `treeHashW`,
    `proveTreeW` against `readHashes`, `treeHashVia`, `proveTreeVia`) with their fuel bounds.  The ties of this unit are
    proved for every such `S` (`checkTrees_tie`, `checkRecord_tie`, `mergeLatestMem_tie`, `mergeLatest_tie` in
    Proofs/TieFnClientMerge*.lean).  The three reads are PROVED below (`readHashesW_tie`, `treeHashW_tie`,
    `proveTreeW_tie`, bundled as `tileSpecs P E h32 h57`) for every `Params` with `hashSize = 32` (`tlog.HashSize`) and
    tile height `≤ 57`, by composing the world-mode ties of Tie/FnTileW.lean / Tie/FnTlogW.lean with the ties of the
    client's tile reader (Tie/FnClientTiles.lean); the `…_inst` theorems are the ties of this unit at that `S`, with no
    hypothesis about generated code left;
  * fuel: `checkTreesFuel`, `checkRecordFuel`, `memFuel`, `mergeFuel` — explicit functions of those bounds along the
    model's run, of the tree sizes (`CheckTree`, the proof lines) and of the length of the message (`note.Open`);
  * execution hypotheses `CheckTreesOk`, `CheckRecordOk`, `MergeMemOk`, `MergeOk`: tree sizes `< 2^62`; the reads through
    tiles end in a value or in an error that exists in Go (`Normal`: the model-only outcomes `.fuel`, `.panic`,
    `.tlog .panic`, `.tlog .fuel` are a thrown `Err` on the generated side); the `for` loop of `mergeLatest` ends within
    `P.retries` rounds (fuel against retries: see Proofs/TieFnClientMergeLoop.lean); and in the fork branch of
    `checkTrees`, `ProveTree` does not fail.

  THE ONE DIFFERENCE between model and code in what they tell the world (`checkTrees_proveErr_tie`): when a fork is
  detected and `ProveTree` itself fails, the Go code prints `"\tinternal error: %v\n"` with the error's own text, the model
  prints the canonical kind name `Err.name` (the Go harness canonicalises the text the same way before comparing).  In
  every other case the SecurityError message is equal byte for byte: `securityHead` (the `fmt.Fprintf` sequence, with
  `bytes.Replace(…, "\n", "\n\t", -1)` = `indent`) followed by `"\tinternal error: generated inconsistent proof\n"` or by
  the proof lines `proofLines`.
-/
import ModVerif.Generated.FnClient
import ModVerif.Model.Client
import ModVerif.Proofs.TieFnClientMergeLoop
import ModVerif.Proofs.TieFnClientMergeInstTile
import ModVerif.Proofs.BytesLit
namespace ModVerif.Tie.FnClientMerge
open ModVerif ModVerif.GoRt ModVerif.Client ModVerif.Generated.SumdbClient ModVerif.TieFnClientRep
open ModVerif.TieFnClientMerge

section
variable {σ H : Type} [DecidableEq H] [Inhabited H] {P : Params H} {E : Env σ}

/-- the loop over the proof in `checkTrees`: `for _, h := range p { fmt.Fprintf(&buf, "\n\t%v", h) }` appends the model's
    `proofLines` -/
theorem Client_checkTrees_loop1_tie (cw : GW σ H) (p : List H) (fuel : Nat) (buf : Bytes) (hf : p.length + 1 ≤ fuel) :
    Client_checkTrees_loop1 (envOf P E) p cw fuel 0 buf = .ok ((p.length : Int), buf ++ proofLines P p) :=
  checkTrees_loop1_tie (envOf P E) P (fun _ => rfl) cw p fuel buf hf

omit [DecidableEq H] [Inhabited H] in
/-- the text of the report up to the recomputed hash: the `fmt.Fprintf` sequence of `checkTrees` IS `securityHead` -/
theorem securityHead_tie (olderNote newerNote : Bytes) (h : H) :
    (((((([] : Bytes) ++ ([83, 69, 67, 85, 82, 73, 84, 89, 32, 69, 82, 82, 79, 82, 10] : Bytes)) ++
      ([103, 111, 46, 115, 117, 109, 32, 100, 97, 116, 97, 98, 97, 115, 101, 32, 115, 101, 114, 118, 101, 114, 32, 109, 105, 115, 98, 101, 104, 97, 118, 105, 111, 114, 32, 100, 101, 116, 101, 99, 116, 101, 100, 33, 10, 10] : Bytes)) ++
      (([111, 108, 100, 32, 100, 97, 116, 97, 98, 97, 115, 101, 58, 10, 9] : Bytes) ++ (replaceAll olderNote ([10] : Bytes) ([10, 9] : Bytes) (-1 : Int)) ++ ([10] : Bytes))) ++
      (([110, 101, 119, 32, 100, 97, 116, 97, 98, 97, 115, 101, 58, 10, 9] : Bytes) ++ (replaceAll newerNote ([10] : Bytes) ([10, 9] : Bytes) (-1 : Int)) ++ ([10] : Bytes))) ++
      (([112, 114, 111, 111, 102, 32, 111, 102, 32, 109, 105, 115, 98, 101, 104, 97, 118, 105, 111, 114, 58, 10, 9] : Bytes) ++ ((envOf P E).hashString h))) =
    securityHead P olderNote newerNote h :=
  securityHead_eq (envOf P E) P (fun _ => rfl) olderNote newerNote h

/-- the branch excluded by `CheckTreesOk` (fork detected, `ProveTree` fails with a normal error `e`): both sides answer
    `ErrSecurity` after ONE `SecurityError` call from corresponding worlds; the texts agree up to and including
    `"\tinternal error: "` and in the final newline, and differ in between — the code prints the error text `txt`
    (`errAbs txt = e`), the model prints `e.name`. -/
theorem checkTrees_proveErr_tie (S : TileSpecs P E) (w : World σ H) (cw : GW σ H) (older newer : Head H)
    (olderNote newerNote : Bytes) (fuel : Nat) (hr : RepRun P E w cw) (ho : older.n < 2 ^ 62) (hn : newer.n < 2 ^ 62)
    (hnorm : Normal (treeHashVia P E w older.n newer).1) (h1 : H)
    (hth : (treeHashVia P E w older.n newer).1 = .ok h1) (hne : h1 ≠ older.hash) (e : Client.Err)
    (hpe : (proveTreeVia P E (treeHashVia P E w older.n newer).2 newer.n older.n newer).1 = .error e)
    (hab : ¬ Abnormal e) (hf : checkTreesFuel S w older newer ≤ fuel) :
    ∃ txt cw', Client_checkTrees (envOf P E) fuel (headG older) olderNote (headG newer) newerNote cw =
        .ok (some "ErrSecurity", cw') ∧ errAbs txt = e ∧
      cw'.s = (E.securityError (proveTreeVia P E (treeHashVia P E w older.n newer).2 newer.n older.n newer).2.s
          (securityHead P olderNote newerNote h1 ++ (B "\tinternal error: " ++ errBytes (some txt) ++ [10])),
        (proveTreeVia P E (treeHashVia P E w older.n newer).2 newer.n older.n newer).2.tr ++
          [Effect.securityError (securityHead P olderNote newerNote h1 ++ (B "\tinternal error: " ++ errBytes (some txt) ++ [10]))]) ∧
      (checkTrees P E w older olderNote newer newerNote).2.tr =
        (proveTreeVia P E (treeHashVia P E w older.n newer).2 newer.n older.n newer).2.tr ++
          [Effect.securityError (securityHead P olderNote newerNote h1 ++ (B "\tinternal error: " ++ B e.name ++ [10]))] := by
  have hf1 : S.FT w older.n newer ≤ fuel := Nat.le_trans (Nat.le_max_left _ _) hf
  have hf2 : S.FP (treeHashVia P E w older.n newer).2 newer.n older.n newer ≤ fuel :=
    Nat.le_trans (Nat.le_trans (Nat.le_max_left _ _) (Nat.le_max_right _ _)) hf
  obtain ⟨r1, cw1, e1, rr1, rs1, fg1, fm1⟩ := S.treeHash w cw older.n newer fuel hr hn (Nat.le_of_lt ho) hf1 hnorm
  obtain ⟨h1', err1⟩ := r1
  rw [hth] at rs1
  obtain ⟨rfl, rfl⟩ := rs1
  have hnp : Normal (proveTreeVia P E (treeHashVia P E w older.n newer).2 newer.n older.n newer).1 := by
    intro e' he'; rw [hpe] at he'; cases he'; exact hab
  obtain ⟨r2, cw2, e2, rr2, rs2, fg2, fm2⟩ := S.proveTree _ cw1 newer.n older.n newer fuel rr1 hn (Nat.le_of_lt hn) hf2 hnp
  rw [hpe] at rs2
  obtain ⟨p2, err2⟩ := r2
  obtain ⟨txt, rfl, habs⟩ := rs2
  refine ⟨txt, withS cw2 (securityError E (proveTreeVia P E (treeHashVia P E w older.n newer).2 newer.n older.n newer).2
    (securityHead P olderNote newerNote h1' ++ (B "\tinternal error: " ++ errBytes (some txt) ++ [10]))), ?_, habs, rfl, ?_⟩
  · unfold Client_checkTrees
    simp only [tileHashReaderX]
    have hN : (headG older).N = (older.n : Int) := rfl
    have hN2 : (headG newer).N = (newer.n : Int) := rfl
    rw [hN, e1]
    simp only [bind, Except.bind]
    have hd : decide (h1' = (headG older).Hash) = false := decide_eq_false hne
    simp only [Option.isNone_none, Bool.not_true, Bool.false_eq_true, if_false, hd]
    rw [securityHead_eq (envOf P E) P (fun _ => rfl), hN2, e2, lit_internal]
    simp only [Option.isNone_some, Bool.not_false, if_true]
    have es := securityError_eq (P := P) (E := E) rr2.s
      (securityHead P olderNote newerNote h1' ++ (B "\tinternal error: " ++ errBytes (some txt) ++ [10]))
    show (pure ((some "ErrSecurity" : Option String), ((envOf P E).securityError _ cw2).2) : M _) = _
    rw [es]
    rfl
  · simp only [checkTrees, hth, hne, if_false, hpe]
    rfl

/-- the `for {}` loop of `mergeLatest`: FUEL AGAINST RETRIES.  If the model's loop from `w` ends within `f` rounds
    (`MergeLoopOk P E f w`; in particular `mergeLatestLoop P E f w ≠ .fuel`), the generated loop with ANY fuel
    `g ≥ loopFuel S f w` ends (`Ctl.ret`: never falls out of the loop, never `Err.fuel`) with the model's result in the
    corresponding world. -/
theorem Client_mergeLatest_loop1_tie (S : TileSpecs P E) (f g : Nat) (w : World σ H) (cw : GW σ H)
    (hr : RepRun P E w cw) (hok : MergeLoopOk P E f w) (hf : loopFuel S f w ≤ g) :
    ∃ r' cw', Client_mergeLatest_loop1 (envOf P E) g cw = .ok (Ctl.ret (r', cw')) ∧
      RepRun P E (mergeLatestLoop P E f w).2 cw' ∧ RepUnit r' (mergeLatestLoop P E f w).1 ∧
      FrameI cw cw' ∧ FrameJ w (mergeLatestLoop P E f w).2 :=
  mergeLatest_loop1_tie S f g w cw hr hok hf

omit [DecidableEq H] [Inhabited H] in
/-- `note.Open(msg, c.verifiers)` as `mergeLatestMem` calls it (the client's own verifier table) -/
theorem noteOpenX_tie (vs : List Note.Verifier) (hv : vs.length ≤ 1) (msg : Bytes) (fuel : Nat) (hf : msg.length + 1 ≤ fuel) :
    noteOpenX (envOf P E) fuel msg (verifiersOf vs) =
      .ok (TieFnNote.embedOpen (Note.Open msg (Note.VerifierList vs))) :=
  noteOpenX_eq P E vs hv msg fuel hf

/-- `tlog.ParseTree(note.Text)` as `mergeLatestMem` calls it (hash type `H`, decoded by `P.dec`) -/
theorem parseTreeX_tie (text : Bytes) :
    parseTreeX (envOf P E) text =
      .ok (match TlogNote.parseTree text with
        | some t => (({ N := t.n, Hash := P.dec t.hash } : Generated.Tile.Tree H), none)
        | none => (default, some "errMalformedTree")) :=
  parseTreeX_eq P E text

end



/-! ### the reads through tiles (the `TileSpecs` of the ties above), proved -/

section
variable {σ H : Type} [DecidableEq H] [Inhabited H]

/-- `tlog.TileHashReader(tree, &c.tileReader).ReadHashes(indexes)` of the regenerated client — the world-mode regeneration
    of `tileHashReader.ReadHashes` (Generated/FnTileW.lean) over the regenerated `tileReader.Height` / `ReadTiles` / `SaveTiles` —
    is the model's `Client.readHashes`: the same tiles read in the same order through the same caches, `SaveTiles` exactly when
    the model says so, the same hashes, resp. an error text whose abstraction is the model's error (in particular
    "TileReader returned bad result slice (%v len=%d, want %d)", `.tileLen`, exactly when a tile file has the wrong length).
    Tree size `< 2^62`, fewer than `2^56` indexes, fuel `64·len + 600`; no panic, no fuel exhaustion. -/
theorem readHashesW_tie (P : Params H) (E : Env σ) (h32 : P.hashSize = 32) (h57 : Client.tileHeight P ≤ 57)
    (w : World σ H) (cw : GW σ H) (tree : Head H) (idx : List Nat) (fuel : Nat)
    (hr : RepRun P E w cw) (htree : tree.n < 2 ^ 62) (hlen : idx.length < 2 ^ 56) (hf : 64 * idx.length + 600 ≤ fuel) :
    ∃ r' cw', readHashesW (envOf P E) fuel (headG tree) (idx.map Int.ofNat) cw = .ok (r', cw') ∧
      RepRun P E (readHashes P E w tree idx).2 cw' ∧ RepRes r' (readHashes P E w tree idx).1 ∧
      FrameG cw cw' ∧ FrameM w (readHashes P E w tree idx).2 :=
  readHashes_tie P E h32 h57 w cw tree idx fuel hr htree hlen hf

/-- `tlog.TreeHash(n, thr)` with `thr` the tile hash reader of `tree`: the model's `treeHashVia` (at most one
    `ReadHashes` call).  Fuel `treeHashFuel readHashesFuel w n tree = max (n + 127) (64·len(indexes) + 600)`. -/
theorem treeHashW_tie (P : Params H) (E : Env σ) (h32 : P.hashSize = 32) (h57 : Client.tileHeight P ≤ 57)
    (w : World σ H) (cw : GW σ H) (n : Nat) (tree : Head H) (fuel : Nat)
    (hr : RepRun P E w cw) (htree : tree.n < 2 ^ 62) (hn : n ≤ 2 ^ 62)
    (hf : treeHashFuel readHashesFuel w n tree ≤ fuel) (hnorm : Normal (treeHashVia P E w n tree).1) :
    ∃ r' cw', treeHashW (envOf P E) fuel (n : Int) (headG tree) cw = .ok (r', cw') ∧
      RepRun P E (treeHashVia P E w n tree).2 cw' ∧ RepRes r' (treeHashVia P E w n tree).1 ∧
      FrameG cw cw' ∧ FrameM w (treeHashVia P E w n tree).2 :=
  (tileSpecs P E h32 h57).treeHash w cw n tree fuel hr htree hn hf hnorm

/-- `tlog.ProveTree(t, n, thr)`: the model's `proveTreeVia` -/
theorem proveTreeW_tie (P : Params H) (E : Env σ) (h32 : P.hashSize = 32) (h57 : Client.tileHeight P ≤ 57)
    (w : World σ H) (cw : GW σ H) (t n : Nat) (tree : Head H) (fuel : Nat)
    (hr : RepRun P E w cw) (htree : tree.n < 2 ^ 62) (ht : t ≤ 2 ^ 62)
    (hf : proveTreeFuel readHashesFuel w t n tree ≤ fuel) (hnorm : Normal (proveTreeVia P E w t n tree).1) :
    ∃ r' cw', proveTreeW (envOf P E) fuel (t : Int) (n : Int) (headG tree) cw = .ok (r', cw') ∧
      RepRun P E (proveTreeVia P E w t n tree).2 cw' ∧ RepRes r' (proveTreeVia P E w t n tree).1 ∧
      FrameG cw cw' ∧ FrameM w (proveTreeVia P E w t n tree).2 :=
  (tileSpecs P E h32 h57).proveTree w cw t n tree fuel hr htree ht hf hnorm

variable (P : Params H) (E : Env σ) (h32 : P.hashSize = 32) (h57 : Client.tileHeight P ≤ 57)

/-- `Client.checkTrees(older, olderNote, newer, newerNote)`.  In particular the message handed to `SecurityError`
    (recorded in the trace of both worlds) is the model's `securityHead … ++ tail`, byte for byte. -/
theorem Client_checkTrees_tie_inst (w : World σ H) (cw : GW σ H) (older newer : Head H)
    (olderNote newerNote : Bytes) (fuel : Nat) (hr : RepRun P E w cw) (hok : CheckTreesOk P E w older newer)
    (hf : checkTreesFuel (tileSpecs P E h32 h57) w older newer ≤ fuel) :
    ∃ r' cw', Client_checkTrees (envOf P E) fuel (headG older) olderNote (headG newer) newerNote cw = .ok (r', cw') ∧
      RepRun P E (checkTrees P E w older olderNote newer newerNote).2 cw' ∧
      RepUnit r' (checkTrees P E w older olderNote newer newerNote).1 ∧
      FrameG cw cw' ∧ FrameM w (checkTrees P E w older olderNote newer newerNote).2 :=
  checkTrees_tie (tileSpecs P E h32 h57) w cw older newer olderNote newerNote fuel hr hok hf

/-- `Client.checkRecord(id, data)`, every `id` (negative ones included: `StoredHashIndex(0, id) = 0`) -/
theorem Client_checkRecord_tie_inst (w : World σ H) (cw : GW σ H) (id : Int) (data : Bytes) (fuel : Nat)
    (hr : RepRun P E w cw) (hok : CheckRecordOk P E w id data)
    (hf : checkRecordFuel (tileSpecs P E h32 h57) w id ≤ fuel) :
    ∃ r' cw', Client_checkRecord (envOf P E) fuel id data cw = .ok (r', cw') ∧
      RepRun P E (checkRecord P E w id data).2 cw' ∧ RepUnit r' (checkRecord P E w id data).1 ∧
      FrameG cw cw' ∧ FrameM w (checkRecord P E w id data).2 :=
  checkRecord_tie (tileSpecs P E h32 h57) w cw id data fuel hr hok hf

/-- `Client.mergeLatestMem(msg)`: `when` is 1 / 2 / 3 for the model's `.past` / `.now` / `.future` (`RepWhen`); the loop
    of the Go function never goes around in the regenerated (sequential) client -/
theorem Client_mergeLatestMem_tie_inst (w : World σ H) (cw : GW σ H) (msg : Bytes) (fuel : Nat)
    (hr : RepRun P E w cw) (hok : MergeMemOk P E w msg) (hf : memFuel (tileSpecs P E h32 h57) w msg ≤ fuel) :
    ∃ r' cw', Client_mergeLatestMem (envOf P E) fuel msg cw = .ok (r', cw') ∧
      RepRun P E (mergeLatestMem P E w msg).2 cw' ∧ RepResR RepWhen r' (mergeLatestMem P E w msg).1 ∧
      FrameI cw cw' ∧ FrameJ w (mergeLatestMem P E w msg).2 :=
  mergeLatestMem_tie (tileSpecs P E h32 h57) w cw msg fuel hr hok hf

/-- `Client.mergeLatest(msg)` -/
theorem Client_mergeLatest_tie_inst (w : World σ H) (cw : GW σ H) (msg : Bytes) (fuel : Nat)
    (hr : RepRun P E w cw) (hok : MergeOk P E w msg) (hf : mergeFuel (tileSpecs P E h32 h57) w msg ≤ fuel) :
    ∃ r' cw', Client_mergeLatest (envOf P E) fuel msg cw = .ok (r', cw') ∧
      RepRun P E (mergeLatest P E w msg).2 cw' ∧ RepUnit r' (mergeLatest P E w msg).1 ∧
      FrameI cw cw' ∧ FrameJ w (mergeLatest P E w msg).2 :=
  mergeLatest_tie (tileSpecs P E h32 h57) w cw msg fuel hr hok hf

end

/-! ### non-vacuity: both sides on concrete inputs

Hashes are byte strings; the cache is empty, the server answers every request with 32 zero bytes (a width-1 tile whose
one hash is 32 zero bytes) or fails; the environment state counts the operations. -/

def exP : Client.Params Bytes :=
  { leaf := id, node := fun a b => a ++ b, empty := [], hashSize := 32, dec := id, enc := id, height := 2, nosumdb := [],
    isLetter := fun _ => false, glob := fun _ _ => false, sha := id, edVerify := fun _ _ _ => false, retries := 2 }

def z32 : Bytes := List.replicate 32 0
def o32 : Bytes := List.replicate 32 1

/-- `cfg`: the answer of `ReadConfig`; `WriteConfig` answers ErrWriteConflict while the state is below 2 -/
def exEnv (up : Bool) (cfg : Option Bytes) : Client.Env Nat :=
  { readRemote := fun s _ => (if up then some z32 else none, s + 1)
    readCache := fun s _ => (none, s + 1)
    readConfig := fun s _ => (cfg, s + 1)
    writeCache := fun s _ _ => s + 1
    writeConfig := fun s _ _ _ => (if s < 2 then .conflict else .ok, s + 1)
    securityError := fun s _ => s + 1 }

/-- a running client whose latest tree head is `hd` -/
def exW (hd : Client.Head Bytes) : Client.World Nat Bytes :=
  { s := 0, c := { Client.newClient exP with inited := some none, latest := hd, latestMsg := B "L" }, tr := [] }
def exCW (hd : Client.Head Bytes) : GW Nat Bytes :=
  { cw0 exP 0 [] with initDone := true, latest := headG hd, latestMsg := B "L" }

example (up : Bool) (cfg : Option Bytes) (hd : Client.Head Bytes) : RepRun exP (exEnv up cfg) (exW hd) (exCW hd) :=
  { s := rfl, name := rfl, verifiers := rfl, vlen := Nat.zero_le _, nosumdb := rfl, record := fun _ => trivial,
    tileCache := fun _ _ => trivial, latestN := rfl, latestMsg := rfl, tileSaved := fun _ _ => rfl, tileHeight := rfl,
    latestHash := rfl }

/-- what is compared: the Go result, the state behind `ClientOps` and the trace -/
def obsG {α : Type} (r : M (α × GW Nat Bytes)) : Option (α × Nat × List Client.Effect) :=
  r.toOption.map fun x => (x.1, x.2.s.1, x.2.s.2)
def obsM {α : Type} (r : α × Client.World Nat Bytes) : α × Nat × List Client.Effect := (r.1, r.2.s, r.2.tr)

-- a FORK: two heads of size 1 with different hashes.  One tile is fetched (two cache misses, one remote read, one cache
-- write), the recomputed hash differs, the (empty) proof checks: the report is the head alone, byte for byte
example :
    obsG (Client_checkTrees (envOf exP (exEnv true none)) 700 (headG ⟨1, o32⟩) (B "old\nnote") (headG ⟨1, z32⟩) (B "new") (exCW ⟨0, []⟩)) =
      some (some "ErrSecurity", 5,
        [.read .cache (B "/tile/2/0/000.p/1") false, .read .cache (B "/tile/2/0/000") false,
         .read .remote (B "/tile/2/0/000.p/1") true, .writeCache (B "/tile/2/0/000.p/1") z32,
         .securityError (B "SECURITY ERROR\ngo.sum database server misbehavior detected!\n\nold database:\n\told\n\tnote\nnew database:\n\tnew\nproof of misbehavior:\n\tAAAAAAAAAAAAAAAAAAAAAAAAAAAAAAAAAAAAAAAAAAA=")]) ∧
    obsM (Client.checkTrees exP (exEnv true none) (exW ⟨0, []⟩) ⟨1, o32⟩ (B "old\nnote") ⟨1, z32⟩ (B "new")) =
      (.error .security, 5,
        [.read .cache (B "/tile/2/0/000.p/1") false, .read .cache (B "/tile/2/0/000") false,
         .read .remote (B "/tile/2/0/000.p/1") true, .writeCache (B "/tile/2/0/000.p/1") z32,
         .securityError (B "SECURITY ERROR\ngo.sum database server misbehavior detected!\n\nold database:\n\told\n\tnote\nnew database:\n\tnew\nproof of misbehavior:\n\tAAAAAAAAAAAAAAAAAAAAAAAAAAAAAAAAAAAAAAAAAAA=")]) ∧
    errAbs "ErrSecurity" = .security := by
  refine ⟨?_, ?_, errAbs_security⟩ <;> decide_bytes

-- the server is down: the error of `TreeHash`, wrapped by "checking tree#%d: %v" (transparent for `errAbs`)
example :
    obsG (Client_checkTrees (envOf exP (exEnv false none)) 700 (headG ⟨1, o32⟩) [] (headG ⟨1, z32⟩) [] (exCW ⟨0, []⟩)) =
      some (some "checking tree#%d: %v|remote", 4,
        [.read .cache (B "/tile/2/0/000.p/1") false, .read .cache (B "/tile/2/0/000") false,
         .read .remote (B "/tile/2/0/000.p/1") false, .read .remote (B "/tile/2/0/000") false]) ∧
    obsM (Client.checkTrees exP (exEnv false none) (exW ⟨0, []⟩) ⟨1, o32⟩ [] ⟨1, z32⟩ []) =
      (.error .remote, 4,
        [.read .cache (B "/tile/2/0/000.p/1") false, .read .cache (B "/tile/2/0/000") false,
         .read .remote (B "/tile/2/0/000.p/1") false, .read .remote (B "/tile/2/0/000") false]) ∧
    errAbs "checking tree#%d: %v|remote" = .remote := by
  refine ⟨?_, ?_, errAbs_lit _ rfl (by decide)⟩ <;> decide_bytes

-- checkRecord: record 0 of the latest tree ⟨1, z32⟩ is authenticated against the fetched tile; another text is not
example :
    obsG (Client_checkRecord (envOf exP (exEnv true none)) 700 0 z32 (exCW ⟨1, z32⟩)) =
      some (none, 4, [.read .cache (B "/tile/2/0/000.p/1") false, .read .cache (B "/tile/2/0/000") false,
         .read .remote (B "/tile/2/0/000.p/1") true, .writeCache (B "/tile/2/0/000.p/1") z32]) ∧
    obsM (Client.checkRecord exP (exEnv true none) (exW ⟨1, z32⟩) 0 z32) =
      (.ok (), 4, [.read .cache (B "/tile/2/0/000.p/1") false, .read .cache (B "/tile/2/0/000") false,
         .read .remote (B "/tile/2/0/000.p/1") true, .writeCache (B "/tile/2/0/000.p/1") z32]) ∧
    (obsG (Client_checkRecord (envOf exP (exEnv true none)) 700 0 o32 (exCW ⟨1, z32⟩))).map (·.1) =
      some (some "cannot authenticate record data in server response") ∧
    (Client.checkRecord exP (exEnv true none) (exW ⟨1, z32⟩) 0 o32).1 = .error .recordHash ∧
    (obsG (Client_checkRecord (envOf exP (exEnv true none)) 700 1 o32 (exCW ⟨1, z32⟩))).map (·.1) =
      some (some "cannot validate record %d in tree of size %d") ∧
    (Client.checkRecord exP (exEnv true none) (exW ⟨1, z32⟩) 1 o32).1 = .error .recordId := by
  refine ⟨?_, ?_, ?_, ?_, ?_, ?_⟩ <;> decide +kernel

-- mergeLatestMem: the empty message is the empty timeline; an unsigned message is refused (no verifier is known)
example :
    obsG (Client_mergeLatestMem (envOf exP (exEnv true none)) 700 [] (exCW ⟨1, z32⟩)) = some ((1, none), 0, []) ∧
    obsM (Client.mergeLatestMem exP (exEnv true none) (exW ⟨1, z32⟩) []) = (.ok .past, 0, []) ∧
    obsG (Client_mergeLatestMem (envOf exP (exEnv true none)) 700 [] (exCW ⟨0, []⟩)) = some ((2, none), 0, []) ∧
    obsM (Client.mergeLatestMem exP (exEnv true none) (exW ⟨0, []⟩) []) = (.ok .now, 0, []) ∧
    (obsG (Client_mergeLatestMem (envOf exP (exEnv true none)) 700 (B "x\n") (exCW ⟨0, []⟩))).map (·.1) =
      some (0, some "reading tree note: %v\nnote:\n%s|errMalformedNote") ∧
    (Client.mergeLatestMem exP (exEnv true none) (exW ⟨0, []⟩) (B "x\n")).1 = .error .note ∧
    errAbs "reading tree note: %v\nnote:\n%s|errMalformedNote" = .note := by
  refine ⟨?_, ?_, ?_, ?_, ?_, ?_, errAbs_lit _ rfl (by decide)⟩ <;> decide +kernel

-- the `for` loop of mergeLatest: the configuration holds the empty timeline, the client is ahead (`.past`): WriteConfig
-- answers ErrWriteConflict in the first round and succeeds in the second
example :
    obsG ((Client_mergeLatest_loop1 (envOf exP (exEnv true (some []))) 700 (exCW ⟨1, z32⟩)).map
      fun c => match c with | Ctl.ret x => x | Ctl.next w => (some "fell out", w)) =
      some (none, 4, [.read .config (B "/latest") true, .writeConfig (B "/latest") [] (B "L") .conflict,
        .read .config (B "/latest") true, .writeConfig (B "/latest") [] (B "L") .ok]) ∧
    obsM (Client.mergeLatestLoop exP (exEnv true (some [])) 2 (exW ⟨1, z32⟩)) =
      (.ok (), 4, [.read .config (B "/latest") true, .writeConfig (B "/latest") [] (B "L") .conflict,
        .read .config (B "/latest") true, .writeConfig (B "/latest") [] (B "L") .ok]) ∧
    (Client.mergeLatestLoop exP (exEnv true (some [])) 1 (exW ⟨1, z32⟩)).1 = .error .fuel := by
  refine ⟨?_, ?_, ?_⟩ <;> decide +kernel

-- mergeLatest with the empty message when nothing moves forward: no operation at all
example :
    obsG (Client_mergeLatest (envOf exP (exEnv true none)) 700 [] (exCW ⟨1, z32⟩)) = some (none, 0, []) ∧
    obsM (Client.mergeLatest exP (exEnv true none) (exW ⟨1, z32⟩) []) = (.ok (), 0, []) := by
  constructor <;> decide +kernel


-- the fork example through the theorem: the hypotheses of `Client_checkTrees_tie_inst` hold for it
example : ∃ r' cw', Client_checkTrees (envOf exP (exEnv true none)) 700 (headG ⟨1, o32⟩) (B "old\nnote") (headG ⟨1, z32⟩) (B "new")
      (exCW ⟨0, []⟩) = .ok (r', cw') ∧
    RepRun exP (exEnv true none) (Client.checkTrees exP (exEnv true none) (exW ⟨0, []⟩) ⟨1, o32⟩ (B "old\nnote") ⟨1, z32⟩ (B "new")).2 cw' ∧
    RepUnit r' (Client.checkTrees exP (exEnv true none) (exW ⟨0, []⟩) ⟨1, o32⟩ (B "old\nnote") ⟨1, z32⟩ (B "new")).1 := by
  have hth : (Client.treeHashVia exP (exEnv true none) (exW ⟨0, []⟩) 1 ⟨1, z32⟩).1 = .ok z32 := by decide +kernel
  have hpr : (Client.proveTreeVia exP (exEnv true none) (Client.treeHashVia exP (exEnv true none) (exW ⟨0, []⟩) 1 ⟨1, z32⟩).2 1 1
      ⟨1, z32⟩).1 = .ok [] := by decide +kernel
  have hok : CheckTreesOk exP (exEnv true none) (exW ⟨0, []⟩) ⟨1, o32⟩ ⟨1, z32⟩ :=
    ⟨by decide, by decide, by rw [hth]; exact Normal_ok _, fun _ _ _ => ⟨[], hpr⟩⟩
  have hr : RepRun exP (exEnv true none) (exW ⟨0, []⟩) (exCW ⟨0, []⟩) :=
    { s := rfl, name := rfl, verifiers := rfl, vlen := Nat.zero_le _, nosumdb := rfl, record := fun _ => trivial,
      tileCache := fun _ _ => trivial, latestN := rfl, latestMsg := rfl, tileSaved := fun _ _ => rfl, tileHeight := rfl,
      latestHash := rfl }
  obtain ⟨r', cw', h1, h2, h3, _, _⟩ := Client_checkTrees_tie_inst exP (exEnv true none) rfl (by decide) (exW ⟨0, []⟩)
    (exCW ⟨0, []⟩) ⟨1, o32⟩ ⟨1, z32⟩ (B "old\nnote") (B "new") 700 hr hok (by decide +kernel)
  exact ⟨r', cw', h1, h2, h3⟩

/-- the two base64 decoder models of the framework are the same function (the client has ONE `b64dec` for `note.Open`
    and `tlog.ParseTree`) -/
theorem b64_models_agree (s : Bytes) : Base64.decodeStd s = B64.b64dec s := decodeStd_eq_b64dec s

end ModVerif.Tie.FnClientMerge
