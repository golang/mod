/-
  Tie theorems for the WORLD-MODE regenerations of sumdb/tlog's readers-of-hashes (`Generated/FnTlogW.lean`, namespace
  ModVerif.Generated.TlogW: `TreeHash`, `ProveTree`, `ProveRecord`, the same Go code as in `Generated/FnTlog.lean` but
  with `r.ReadHashes` a WORLD function `List Int → W → M ((hashes, err) × W)` and the world threaded through).

  `*_world`: for ANY world type `W` and ANY world reader `rh` — no range or fuel hypothesis — the world-mode
  function performs at most ONE call of `rh` (none when the arguments are refused or the index list is empty), on the
  index list computed by the pure regenerated index function, and its result is the result of the PURE regenerated
  function run over the constant reader that answers what `rh` answered, paired with the world after the call
  (`viaRead`; an `M`-error of `rh` propagates).

  `*_tie`: the same in terms of the hand model (Model/Tlog.lean) through the pure tie theorems of
  Tie/FnTlogProof.lean / Tie/FnTlogInt.lean, with their range and fuel hypotheses (`t ≤ 2^62`, fuel `t + 127`).
-/
import ModVerif.Generated.FnTlogW
import ModVerif.Model.Tlog
import ModVerif.Proofs.TieFnTlogW
import ModVerif.Tie.FnTlogProof
import ModVerif.Tie.FnTlogInt
namespace ModVerif.Tie.FnTlogW
open ModVerif ModVerif.GoRt ModVerif.Tlog ModVerif.TlogTH ModVerif.TieFnTlogInt ModVerif.TieFnTlogW
open ModVerif.Tie.FnTlogProof (readOut okIs genReader idxOf toM)

section
variable {H : Type} [DecidableEq H] [Inhabited H] {W : Type} (node : H → H → H)
  (rh : List Int → W → M ((List H × Option String) × W))

/-! ### world mode = pure mode over the constant reader, any world, any reader -/

/-- ★ `TreeHash(n, r)` in world mode: `n = 0` answers the empty hash without touching the world; otherwise ONE call of
    the reader on `subTreeIndex(0, n, nil)`. -/
theorem TreeHash_world (empty : H) (fuel : Nat) (n : Int) (w : W) :
    Generated.TlogW.TreeHash empty node rh fuel n () w =
      if n = 0 then .ok ((empty, none), w) else
      match Generated.Tlog.subTreeIndex fuel 0 n [] with
      | .error e => .error e
      | .ok idx => viaRead rh idx w (Generated.Tlog.TreeHash empty node fuel n) :=
  TreeHash_eq empty node rh fuel n w

/-- ★ `ProveTree(t, n, r)` in world mode: refused arguments and an empty index list (`n = t`) do not touch the world;
    otherwise ONE call of the reader on `treeProofIndex(0, t, n, nil)`. -/
theorem ProveTree_world (fuel : Nat) (t n : Int) (w : W) :
    Generated.TlogW.ProveTree node rh fuel t n () w =
      if t < 1 ∨ n < 1 ∨ n > t then .ok (([], some "tlog: invalid inputs in ProveTree"), w) else
      match Generated.Tlog.treeProofIndex fuel 0 t n [] with
      | .error e => .error e
      | .ok idx =>
        if idx = [] then .ok (([], none), w) else viaRead rh idx w (Generated.Tlog.ProveTree node fuel t n) :=
  ProveTree_eq node rh fuel t n w

/-- ★ `ProveRecord(t, n, r)` in world mode. -/
theorem ProveRecord_world (fuel : Nat) (t n : Int) (w : W) :
    Generated.TlogW.ProveRecord node rh fuel t n () w =
      if t < 0 ∨ n < 0 ∨ n ≥ t then .ok (([], some "tlog: invalid inputs in ProveRecord"), w) else
      match Generated.Tlog.leafProofIndex fuel 0 t n [] with
      | .error e => .error e
      | .ok idx =>
        if idx = [] then .ok (([], none), w) else viaRead rh idx w (Generated.Tlog.ProveRecord node fuel t n) :=
  ProveRecord_eq node rh fuel t n w

/-! ### in terms of the hand model

`subTreeIndexOut [] (Tlog.subTreeIndex 0 n)` is the model's index list as a result of generated code (`Int` indexes; a
model error is a Go panic site); the continuation is the model function over `readerOf c` for the constant reader `c`
(`readerOf (fun _ => (hs, none)) = fun _ => some hs`, `readerOf (fun _ => (hs, some e)) = fun _ => none`:
`readerOf_const`), rendered by `readOut` exactly as in the pure tie theorems. -/

omit [DecidableEq H] [Inhabited H] in
theorem readerOf_const_none (hs : List H) : readerOf (fun _ => (hs, (none : Option String))) = fun _ => some hs := rfl

omit [DecidableEq H] [Inhabited H] in
theorem readerOf_const_some (hs : List H) (e : String) : readerOf (fun _ => (hs, some e)) = fun _ => none := rfl

/-- ★ world-mode `TreeHash` = the model's `treeHash`, `0 ≤ n ≤ 2^62`. -/
theorem TreeHash_tie (empty : H) (fuel : Nat) (n : Int) (w : W)
    (h0 : 0 ≤ n) (hn : n ≤ 2 ^ 62) (hf : n.toNat + 127 ≤ fuel) :
    Generated.TlogW.TreeHash empty node rh fuel n () w =
      if n = 0 then .ok ((empty, none), w) else
      match subTreeIndexOut [] (Tlog.subTreeIndex 0 n.toNat) with
      | .error e => .error e
      | .ok idx => viaRead rh idx w (fun c =>
          readOut default "" (readErrOf c (idxOf (Tlog.subTreeIndex 0 n.toNat)))
            (Tlog.treeHash node empty n.toNat (readerOf c))) := by
  rw [TreeHash_world, Tie.FnTlogInt.subTreeIndex_tie fuel 0 n [] (by omega) hn (by omega)]
  simp only [Int.toNat_zero]
  have : (Generated.Tlog.TreeHash empty node fuel n : (List Int → List H × Option String) → _) = fun c =>
      readOut default "" (readErrOf c (idxOf (Tlog.subTreeIndex 0 n.toNat)))
        (Tlog.treeHash node empty n.toNat (readerOf c)) := by
    funext c
    exact Tie.FnTlogProof.TreeHash_tie node empty fuel n c h0 hn hf
  rw [this]

/-- ★ world-mode `ProveTree` = the model's `proveTree`, EVERY `t ≤ 2^62` and every `n`. -/
theorem ProveTree_tie (fuel : Nat) (t n : Int) (w : W) (ht : t ≤ 2 ^ 62) (hf : t.toNat + 127 ≤ fuel) :
    Generated.TlogW.ProveTree node rh fuel t n () w =
      if t < 1 ∨ n < 1 ∨ n > t then .ok (([], some "tlog: invalid inputs in ProveTree"), w) else
      match subTreeIndexOut [] (Tlog.treeProofIndex 0 t.toNat n.toNat) with
      | .error e => .error e
      | .ok idx =>
        if idx = [] then .ok (([], none), w) else viaRead rh idx w (fun c =>
          readOut [] "tlog: invalid inputs in ProveTree" (readErrOf c (idxOf (Tlog.treeProofIndex 0 t.toNat n.toNat)))
            (Tlog.proveTree node t n (readerOf c))) := by
  rw [ProveTree_world]
  by_cases hg : t < 1 ∨ n < 1 ∨ n > t
  · simp only [hg, if_true]
  · simp only [hg, if_false]
    rw [Tie.FnTlogProof.treeProofIndex_tie fuel 0 t n [] (by omega) (by omega) ht (by omega)]
    simp only [Int.toNat_zero]
    have : (Generated.Tlog.ProveTree node fuel t n : (List Int → List H × Option String) → _) = fun c =>
        readOut [] "tlog: invalid inputs in ProveTree" (readErrOf c (idxOf (Tlog.treeProofIndex 0 t.toNat n.toNat)))
          (Tlog.proveTree node t n (readerOf c)) := by
      funext c
      exact Tie.FnTlogProof.ProveTree_tie node fuel t n c ht hf
    rw [this]

/-- ★ world-mode `ProveRecord` = the model's `proveRecord`, EVERY `t ≤ 2^62` and every `n`. -/
theorem ProveRecord_tie (fuel : Nat) (t n : Int) (w : W) (ht : t ≤ 2 ^ 62) (hf : t.toNat + 127 ≤ fuel) :
    Generated.TlogW.ProveRecord node rh fuel t n () w =
      if t < 0 ∨ n < 0 ∨ n ≥ t then .ok (([], some "tlog: invalid inputs in ProveRecord"), w) else
      match subTreeIndexOut [] (Tlog.leafProofIndex 0 t.toNat n.toNat) with
      | .error e => .error e
      | .ok idx =>
        if idx = [] then .ok (([], none), w) else viaRead rh idx w (fun c =>
          readOut [] "tlog: invalid inputs in ProveRecord" (readErrOf c (idxOf (Tlog.leafProofIndex 0 t.toNat n.toNat)))
            (Tlog.proveRecord node t n (readerOf c))) := by
  rw [ProveRecord_world]
  by_cases hg : t < 0 ∨ n < 0 ∨ n ≥ t
  · simp only [hg, if_true]
  · simp only [hg, if_false]
    rw [Tie.FnTlogProof.leafProofIndex_tie fuel 0 t n [] (by omega) (by omega) ht (by omega)]
    simp only [Int.toNat_zero]
    have : (Generated.Tlog.ProveRecord node fuel t n : (List Int → List H × Option String) → _) = fun c =>
        readOut [] "tlog: invalid inputs in ProveRecord" (readErrOf c (idxOf (Tlog.leafProofIndex 0 t.toNat n.toNat)))
          (Tlog.proveRecord node t n (readerOf c)) := by
      funext c
      exact Tie.FnTlogProof.ProveRecord_tie node fuel t n c ht hf
    rw [this]

end

/-! ### non-vacuity: the 7-record example log over the term algebra `TH`; the world is a call counter and a log of the
    index lists asked for; the reader is the honest dense-store reader -/

/-- world = the index lists the reader was asked for, latest last -/
def exRh (st : List TH) : List Int → List (List Int) → M ((List TH × Option String) × List (List Int)) :=
  fun idx w => .ok (genReader st idx, w ++ [idx])

example : okIs (Generated.TlogW.TreeHash TH.empty TH.node (exRh (store 13)) 134 7 () []) ((root 7, none), [[6, 9, 10]])
      = true ∧
    okIs (Generated.TlogW.TreeHash TH.empty TH.node (exRh (store 13)) 134 0 () []) ((TH.empty, none), []) = true ∧
    okIs (Generated.TlogW.TreeHash TH.empty TH.node (exRh (store 3)) 134 7 () [])
      ((default, some "missing hash"), [[6, 9, 10]]) = true ∧
    isOk (Tlog.treeHash TH.node TH.empty 7 (fun _ => some [(store 13)[6]!, (store 13)[9]!, (store 13)[10]!])) (root 7)
      = true ∧
    isOk (Tlog.subTreeIndex 0 7) [6, 9, 10] = true := by decide +kernel

example : Generated.TlogW.TreeHash TH.empty TH.node (exRh (store 13)) 134 7 () [] =
      match subTreeIndexOut [] (Tlog.subTreeIndex 0 7) with
      | .error e => .error e
      | .ok idx => viaRead (exRh (store 13)) idx [] (fun c =>
          readOut default "" (readErrOf c (idxOf (Tlog.subTreeIndex 0 7)))
            (Tlog.treeHash TH.node TH.empty 7 (readerOf c))) :=
  TreeHash_tie TH.node (exRh (store 13)) TH.empty 134 7 [] (by omega) (by omega) (by decide)

example : okIs (Generated.TlogW.ProveTree TH.node (exRh (store 13)) 134 7 3 () [])
      ((RFC6962.proof TH.node TH.empty 3 ((recs 7).map TH.leaf), none), [[2, 3, 4, 9, 10]]) = true ∧
    okIs (Generated.TlogW.ProveTree TH.node (exRh (store 13)) 134 7 7 () []) (([], none), []) = true ∧
    okIs (Generated.TlogW.ProveTree TH.node (exRh (store 13)) 134 7 8 () [])
      (([], some "tlog: invalid inputs in ProveTree"), []) = true ∧
    isOk (Tlog.treeProofIndex 0 7 3) [2, 3, 4, 9, 10] = true := by decide +kernel

example : Generated.TlogW.ProveTree TH.node (exRh (store 13)) 134 7 3 () [] =
      match subTreeIndexOut [] (Tlog.treeProofIndex 0 7 3) with
      | .error e => .error e
      | .ok idx =>
        if idx = [] then .ok (([], none), []) else viaRead (exRh (store 13)) idx [] (fun c =>
          readOut [] "tlog: invalid inputs in ProveTree" (readErrOf c (idxOf (Tlog.treeProofIndex 0 7 3)))
            (Tlog.proveTree TH.node 7 3 (readerOf c))) := by
  have := ProveTree_tie TH.node (exRh (store 13)) 134 7 3 [] (by omega) (by decide)
  simpa using this

example : okIs (Generated.TlogW.ProveRecord TH.node (exRh (store 13)) 134 7 2 () [])
      ((RFC6962.path TH.node TH.empty 2 ((recs 7).map TH.leaf), none), [[2, 4, 9, 10]]) = true ∧
    okIs (Generated.TlogW.ProveRecord TH.node (exRh (store 3)) 134 7 2 () [])
      (([], some "missing hash"), [[2, 4, 9, 10]]) = true ∧
    okIs (Generated.TlogW.ProveRecord TH.node (exRh (store 13)) 134 7 7 () [])
      (([], some "tlog: invalid inputs in ProveRecord"), []) = true ∧
    isOk (Tlog.leafProofIndex 0 7 2) [2, 4, 9, 10] = true := by decide +kernel

example : Generated.TlogW.ProveRecord TH.node (exRh (store 13)) 134 7 2 () [] =
      match subTreeIndexOut [] (Tlog.leafProofIndex 0 7 2) with
      | .error e => .error e
      | .ok idx =>
        if idx = [] then .ok (([], none), []) else viaRead (exRh (store 13)) idx [] (fun c =>
          readOut [] "tlog: invalid inputs in ProveRecord" (readErrOf c (idxOf (Tlog.leafProofIndex 0 7 2)))
            (Tlog.proveRecord TH.node 7 2 (readerOf c))) := by
  have := ProveRecord_tie TH.node (exRh (store 13)) 134 7 2 [] (by omega) (by decide)
  simpa using this

end ModVerif.Tie.FnTlogW
