/-
  C17 transported to the regenerated code: the headline theorems of Props/C17.lean (about the hand model Model/Zip.lean)
  restated about `Generated.Zip.checkFiles` / `Generated.Zip.isVendoredPackage` (Generated/FnZip.lean, re-translated from
  zip/zip.go on every run) through the tie theorems of Tie/FnZipCheckFiles.lean and Tie/FnZip.lean.

  Every statement is about the RESULT `.ok (cf, validFiles, validSizes)` of the generated function on the translated list
  `files.map toGFile`, so it also says: no panic and no fuel exhaustion.  The instantiation is the one of the tie theorem
  (`Inst`: `FoldsTo simpleFold K`, `E.toFold = Zip.strToFold`, `EqualFold` / `ToLower` agree with the model on "go.mod");
  the go-version flag is the one the generated code computes itself, `genFlag … = (version.Compare(vers, "go1.24") >= 0)`
  for the version string of the root go.mod — the C17 theorems hold for every flag, so no hypothesis on
  `parseGoVers` / `version.Lang` / `version.Compare` is needed.
-/
import ModVerif.Tie.FnZipCheckFiles
import ModVerif.Props.C17
namespace ModVerif.Tie.FnZipC17
open ModVerif ModVerif.GoRt ModVerif.GoRtZip ModVerif.TieFnZip ModVerif.TieFnZipCf
open ModVerif.Zip ModVerif.ZipSpec
open ModVerif.Drv.GenZip (toGFile)

/-- the hypotheses of the tie theorem on the parameters of the generated code -/
structure Inst (E : Env) (equalFold : Bytes → Bytes → Bool) (simpleFold : Int → Int) (toLower : Bytes → Bytes)
    (K : Nat) : Prop where
  foldsTo : FoldsTo simpleFold K
  toFold : E.toFold = Zip.strToFold
  equalFold : ∀ s, equalFold s goModName = equalFoldGoMod s
  toLower : ∀ s, decide (toLower s = goModName) = toLowerIsGoMod s

/-- the go ≥ 1.24 flag as the generated code computes it from the root go.mod of the list -/
def genFlag (parseGoVers : Bytes → Bytes → Bytes) (versionCompare : Bytes → Bytes → Int) (versionLang : Bytes → Bytes)
    (files : List FileInfo) : Bool :=
  decide (0 ≤ versionCompare (versOf parseGoVers versionLang files) go124)

/-- all paths a generated report mentions: valid, then omitted, then invalid -/
def reportedG (cf : Generated.Zip.CheckedFiles) : List Bytes := cf.Valid ++ cf.Omitted.map (·.Path) ++ cf.Invalid.map (·.Path)

theorem reportedG_embCF (c : Zip.CheckedFiles) : reportedG (embCF c) = reported c := by
  simp [reportedG, reported, embCF, embFE, List.map_map, Function.comp_def]

section
variable (E : Env) (equalFold : Bytes → Bytes → Bool) (parseGoVers : Bytes → Bytes → Bytes) (simpleFold : Int → Int)
  (toLower : Bytes → Bytes) (versionCompare : Bytes → Bytes → Int) (versionLang : Bytes → Bytes) (K : Nat)

/-- the generated `checkFiles` returns the embedding of the model's report for its own flag -/
theorem gen_checkFiles_ok (I : Inst E equalFold simpleFold toLower K) (files : List FileInfo) (fuel : Nat)
    (hfuel : fuelBound K files ≤ fuel) :
    Generated.Zip.checkFiles (cfpOf E) equalFold parseGoVers simpleFold toLower versionCompare versionLang fuel
        (files.map toGFile) =
      .ok (embedCf (checkFilesSt E files (genFlag parseGoVers versionCompare versionLang files))) :=
  FnZipCheckFiles.checkFiles_tie_vers E equalFold parseGoVers simpleFold toLower versionCompare versionLang K
    I.foldsTo I.toFold I.equalFold I.toLower files fuel hfuel

/-- ★ C17 `checkFiles_partition` on the regenerated code: for a list without repeated paths the generated `checkFiles`
    returns a report whose paths (valid, then omitted, then invalid) are a permutation of the paths given — every file lands
    in exactly one of the three lists. -/
theorem gen_checkFiles_partition (I : Inst E equalFold simpleFold toLower K) (files : List FileInfo)
    (hnd : (files.map (·.path)).Nodup) (fuel : Nat) (hfuel : fuelBound K files ≤ fuel) :
    ∃ cf vf vs,
      Generated.Zip.checkFiles (cfpOf E) equalFold parseGoVers simpleFold toLower versionCompare versionLang fuel
        (files.map toGFile) = .ok (cf, vf, vs) ∧
      (reportedG cf).Perm (files.map (·.path)) := by
  refine ⟨_, _, _, gen_checkFiles_ok E equalFold parseGoVers simpleFold toLower versionCompare versionLang K I files
    fuel hfuel, ?_⟩
  rw [reportedG_embCF]
  exact Props.C17.checkFiles_partition E files _ hnd

/-- ★ … hence no path is reported twice by the generated function -/
theorem gen_checkFiles_reported_nodup (I : Inst E equalFold simpleFold toLower K) (files : List FileInfo)
    (hnd : (files.map (·.path)).Nodup) (fuel : Nat) (hfuel : fuelBound K files ≤ fuel) :
    ∃ cf vf vs,
      Generated.Zip.checkFiles (cfpOf E) equalFold parseGoVers simpleFold toLower versionCompare versionLang fuel
        (files.map toGFile) = .ok (cf, vf, vs) ∧
      (reportedG cf).Nodup := by
  obtain ⟨cf, vf, vs, h, hp⟩ := gen_checkFiles_partition E equalFold parseGoVers simpleFold toLower versionCompare
    versionLang K I files hnd fuel hfuel
  exact ⟨cf, vf, vs, h, hp.nodup_iff.mpr hnd⟩

/-- the error entry the generated code reports for the model's `(path, reason)` -/
def feOf (p : Bytes) (r : Reason) : Generated.Zip.FileError := { Path := p, Err := some (reasonText r) }

/-- ★ C17 `checkFiles_eq_classify` on the regenerated code: for a list without repeated paths, the generated `checkFiles`
    reports every file in the list, and with the error text (`reasonText` of the reason), that the documented rules
    (`ZipSpec.classify`, over the flag the code derives itself) give; nothing else is reported; the validFiles / validSizes
    results list the valid files; and `SizeError` is set exactly when a file that reaches the size rules has a negative
    size or their total exceeds `MaxZipFile`. -/
theorem gen_checkFiles_eq_classify (I : Inst E equalFold simpleFold toLower K) (files : List FileInfo)
    (hnd : (files.map (·.path)).Nodup) (fuel : Nat) (hfuel : fuelBound K files ≤ fuel) :
    ∃ cf vf vs,
      Generated.Zip.checkFiles (cfpOf E) equalFold parseGoVers simpleFold toLower versionCompare versionLang fuel
        (files.map toGFile) = .ok (cf, vf, vs) ∧
      (∀ pre f post, files = pre ++ f :: post →
        match classify E (genFlag parseGoVers versionCompare versionLang files) files pre f with
        | .valid => f.path ∈ cf.Valid
        | .omitted r => feOf f.path r ∈ cf.Omitted
        | .invalid r => feOf f.path r ∈ cf.Invalid) ∧
      (∀ p ∈ cf.Valid, ∃ pre f post, files = pre ++ f :: post ∧ f.path = p ∧
        classify E (genFlag parseGoVers versionCompare versionLang files) files pre f = .valid) ∧
      (∀ e ∈ cf.Omitted, ∃ pre f post r, files = pre ++ f :: post ∧ e = feOf f.path r ∧
        classify E (genFlag parseGoVers versionCompare versionLang files) files pre f = .omitted r) ∧
      (∀ e ∈ cf.Invalid, ∃ pre f post r, files = pre ++ f :: post ∧ e = feOf f.path r ∧
        classify E (genFlag parseGoVers versionCompare versionLang files) files pre f = .invalid r) ∧
      (cf.SizeError.isSome = true ↔
        (∃ x ∈ sizedSizes (classifyAll E (genFlag parseGoVers versionCompare versionLang files) files), x < 0) ∨
        (MaxZipFile : Int) <
          (sizedSizes (classifyAll E (genFlag parseGoVers versionCompare versionLang files) files)).sum) ∧
      cf.Valid = vf.map (·.Path) ∧ vs = vf.map (·.Lstat.1.Size) := by
  obtain ⟨c1, c2, c3, c4, c5⟩ :=
    Props.C17.checkFiles_eq_classify E files (genFlag parseGoVers versionCompare versionLang files) hnd
  refine ⟨_, _, _, gen_checkFiles_ok E equalFold parseGoVers simpleFold toLower versionCompare versionLang K I files
    fuel hfuel, ?_, c2, ?_, ?_, ?_, ?_, ?_⟩
  · intro pre f post hfs
    have := c1 pre f post hfs
    cases hc : classify E (genFlag parseGoVers versionCompare versionLang files) files pre f with
    | valid => rw [hc] at this; exact this
    | omitted r =>
      rw [hc] at this
      exact List.mem_map_of_mem (f := embFE) this
    | invalid r =>
      rw [hc] at this
      exact List.mem_map_of_mem (f := embFE) this
  · intro e he
    obtain ⟨⟨p, r⟩, h, rfl⟩ := List.mem_map.mp he
    obtain ⟨pre, f, post, h1, h2, h3⟩ := c3 p r h
    exact ⟨pre, f, post, r, h1, by rw [h2]; rfl, h3⟩
  · intro e he
    obtain ⟨⟨p, r⟩, h, rfl⟩ := List.mem_map.mp he
    obtain ⟨pre, f, post, h1, h2, h3⟩ := c4 p r h
    exact ⟨pre, f, post, r, h1, by rw [h2]; rfl, h3⟩
  · rw [← c5]
    show (if (checkFilesSt E files _).cf.sizeError then some sizeErrorText else none).isSome = true ↔
      (checkFilesSt E files _).cf.sizeError = true
    generalize (checkFilesSt E files (genFlag parseGoVers versionCompare versionLang files)).cf.sizeError = b
    cases b <;> simp
  · obtain ⟨hv1, hv2⟩ := Proofs.Zip.checkFilesSt_validFiles E (genFlag parseGoVers versionCompare versionLang files) files
    show (checkFilesSt E files _).cf.valid = ((checkFilesSt E files _).validFiles.map toGFile).map (·.Path)
    rw [hv2, List.map_map]
    rfl
  · have hinv := Proofs.Zip.checkFilesSt_validInv E (genFlag parseGoVers versionCompare versionLang files) files
    show (checkFilesSt E files _).validFiles.map (·.size) =
      ((checkFilesSt E files _).validFiles.map toGFile).map (·.Lstat.1.Size)
    rw [List.map_map]
    apply List.map_congr_left
    intro f hf
    have hreg := (hinv.nameOK f hf).regular
    simp [toGFile, hreg]

end

/-- ★ C17 `vendor_rule` on the regenerated `isVendoredPackage`: for a version that compares ≥ go1.24 it answers true
    exactly on the documented rule, below go1.24 exactly on the rule as implemented before (golang.org/issue/37397). -/
theorem gen_vendor_rule (versionCompare : Bytes → Bytes → Int) (name vers : Bytes) :
    (0 ≤ versionCompare vers go124 →
      (Generated.Zip.isVendoredPackage versionCompare name vers = .ok true ↔ Vendored124 name)) ∧
    (versionCompare vers go124 < 0 →
      (Generated.Zip.isVendoredPackage versionCompare name vers = .ok true ↔ VendoredPre124 name)) := by
  obtain ⟨r1, r2⟩ := Props.C17.vendor_rule name
  constructor
  · intro h
    rw [FnZip.isVendoredPackage_tie versionCompare name vers true (by simp [h]), ← r1]
    constructor
    · intro e; exact Except.ok.inj e
    · intro e; rw [e]
  · intro h
    rw [FnZip.isVendoredPackage_tie versionCompare name vers false (by simp; omega), ← r2]
    constructor
    · intro e; exact Except.ok.inj e
    · intro e; rw [e]

/-- the hypotheses hold for the driver's instance and the example of Tie/FnZipCheckFiles.lean -/
example : Inst FnZipCheckFiles.exEnv (fun a _ => equalFoldGoMod a) Drv.GenZip.simpleFoldI
    (fun s => s.map asciiLower) 1 :=
  ⟨FnZip.foldsTo_simpleFoldI, rfl, fun _ => rfl, FnZipCheckFiles.toLower_driver⟩

example : (FnZipCheckFiles.exFiles.map (·.path)).Nodup := by decide +kernel

example : genFlag (FnZipCheckFiles.pgvDriver FnZipCheckFiles.exFiles) Drv.GenZip.versionCompareI id
    FnZipCheckFiles.exFiles = true := by decide +kernel

end ModVerif.Tie.FnZipC17
