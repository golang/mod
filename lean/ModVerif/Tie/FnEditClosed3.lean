/-
  Tie, CLOSED FUEL of the go.mod edit sessions: the fuel hypotheses of the session ties from the BYTE LENGTH of the file text
  and the byte lengths of the operation arguments alone.

  Tie/FnEditClosed2.lean has `3 · sessSizeR f ops + 1 ≤ fuel` with `sessSizeR f ops = W (Edit.load f) + Σ (20·rawSize op + 32)`
  and `treeW (parse name data).stmts ≤ 4·|data| + 1`.  Here the step through the directive layer and `Edit.load`:

    * `file_add_growth` : one `File.add` step (strict; no fixer, or the identity fixer `File.add` uses for `retract`) maps the
         arguments to arguments of weight `≤ 16 · tokW args + 80` (tokens are rewritten only to `AutoQuote (unquote tok)`,
         `≤ 16·|tok| + 2`, or to the canonical version of the unquoted token, `≤ 4·|tok| + 17`; at most four per line) and
         adds at most `4 · tokW args + 1` to the typed part `fileP` of the potential (ONE typed entry per line at most;
         a recorded go version / module path is `≤ 4·|tok|`);
    * `parseStrict_growth` : `treeW f.syn.stmts + fileP f ≤ 102 · treeW (parse name data).stmts`;
    * `treeW_load` : `Edit.load` (`shiftSyntax`) renumbers ids only — the tree weight is unchanged; `W_load`;
    * `W_load_le` : `parseStrict name file none = .ok f → W (Edit.load f) ≤ 408 · |file| + 102`;
    * `fuelOK_of_length_partial`, `runOps_tie_closed_length_partial` : `3 · sessLen file ops + 1 ≤ fuel`,
         `sessLen file ops = 408·|file| + 102 + Σ_ops (20 · rawSize op + 32)` — no parsed object in the hypothesis.

  `…_partial`: `SetRequireSeparateIndirect` is excluded (`NotSep`); every operation: Tie/FnEditClosed4.lean.
-/
import ModVerif.Tie.FnEditClosed2
import ModVerif.Proofs.TieFnEditFuelI
import ModVerif.Proofs.BytesLit
namespace ModVerif.Tie.FnEditClosed3
open ModVerif ModVerif.GoRt ModVerif.Generated.Edit ModVerif.Tie.FnEditRep
open ModVerif.Tie.FnEditFuelA ModVerif.Tie.FnEditFuelB ModVerif.Tie.FnEditFuelC ModVerif.Tie.FnEditFuelD ModVerif.Tie.FnEditFuelE
open ModVerif.Tie.FnEditFuelF ModVerif.Tie.FnEditFuelG ModVerif.Tie.FnEditFuelI
open ModVerif.Tie.FnEditSessionA ModVerif.Tie.FnEditSessionB ModVerif.Tie.FnEditSessionC ModVerif.Tie.FnEditSessionE
open ModVerif.Tie.FnEditSession ModVerif.Tie.FnEditClosed ModVerif.Tie.FnEditClosed2
open ModVerif.Modfile.Edit (EFile applyMod)

/-- **growth of one `File.add` step** (every verb; strict; `fix = none` or the identity fixer): rewritten arguments
    `≤ 16 · tokW args + 80`, typed part of the potential `+ ≤ 4 · tokW args + 1` -/
theorem file_add_growth (st : Modfile.AddState) (block : Option Modfile.Comments) (line : Modfile.Line) (verb : Bytes)
    (args : List Bytes) (fix : Option Modfile.Fixer) (hfix : fix = none ∨ fix = some Modfile.dontFixRetract) :
    tokW (Modfile.File.add st block line verb args fix true).2 ≤ 16 * tokW args + 80 ∧
      fileP (Modfile.File.add st block line verb args fix true).1.file ≤ fileP st.file + 4 * tokW args + 1 :=
  add_growth st block line verb args hfix

-- a `replace` line with an old version: three tokens are rewritten (unquoted path, canonical versions stay)
example : (Modfile.File.add {} none {} (B "replace") [B "\"a.b/c\"", B "v1.0.0", B "=>", B "\"d.e/f\"", B "v1.2.3"] none true).2 =
    [B "a.b/c", B "v1.0.0", B "=>", B "d.e/f", B "v1.2.3"] := by decide +kernel

/-- **the typed file of a strict parse (tree + typed lists + go version + module path) weighs at most 102 times the parsed tree** -/
theorem parseStrict_growth (name data : Bytes) (f : Modfile.File) (h : Modfile.parseStrict name data none = .ok f) :
    ∃ fs, Modfile.parse name data = .ok fs ∧ treeW f.syn.stmts + fileP f ≤ 102 * treeW fs.stmts :=
  FnEditFuelJ.parseStrict_growth h

/-- **`Edit.load` keeps the tree weight** (`shiftSyntax` changes ids only) -/
theorem treeW_load (f : Modfile.File) : treeW (Modfile.Edit.load f).f.syn.stmts = treeW f.syn.stmts :=
  FnEditFuelJ.shiftSyntax_treeW f.syn

/-- the potential of the loaded file: the tree weight plus the typed part of the parsed file -/
theorem W_load (f : Modfile.File) : W (Modfile.Edit.load f) = treeW f.syn.stmts + fileP f := FnEditFuelJ.W_load f

/-- **the potential of the loaded file is linear in the byte length of the file text** -/
theorem W_load_le (name file : Bytes) (f : Modfile.File) (h : Modfile.parseStrict name file none = .ok f) :
    W (Modfile.Edit.load f) ≤ 408 * file.length + 102 := FnEditFuelJ.W_load_le h

-- on the example file (223 bytes): positive, and within the bound
example : ∀ f, Modfile.parseStrict (B "go.mod") exFile none = .ok f →
    0 < W (Modfile.Edit.load f) ∧ W (Modfile.Edit.load f) ≤ 408 * exFile.length + 102 :=
  fun f hp => by rw [FnEditClosed.ex_W f hp, B_lit exFile]; decide +kernel

/-- **the size of a session from byte lengths alone**: the file text and the operation arguments -/
def sessLen (file : Bytes) (ops : List EditSpec.Op) : Nat := 408 * file.length + 102 + opsR ops

theorem sessSizeR_le (name file : Bytes) (f : Modfile.File) (ops : List EditSpec.Op)
    (hp : Modfile.parseStrict name file none = .ok f) : sessSizeR f ops ≤ sessLen file ops := by
  have := W_load_le name file f hp
  unfold sessSizeR sessLen; omega

/-- **`FuelOK` / `FinalFuel` from `file.length + Σ rawSize` alone.**  Partial: sessions without `SetRequireSeparateIndirect`. -/
theorem fuelOK_of_length_partial (name file : Bytes) (f : Modfile.File) (ops : List EditSpec.Op) (fuel : Nat)
    (hp : Modfile.parseStrict name file none = .ok f) (hk : Modfile.Edit.WellFormedKeys f) (hs : Modfile.Edit.NoBlockSuffix f.syn)
    (hv : Modfile.Edit.StaticValid false (ops.map opM)) (hb : ∀ op ∈ ops, NotSep op)
    (hf : 3 * sessLen file ops + 1 ≤ fuel) :
    FuelOK fuel (Modfile.Edit.load f) ops ∧ FinalFuel fuel (Modfile.Edit.load f) ops :=
  fuelOK_of_rawsize_partial name file f ops fuel hp hk hs hv hb (by have := sessSizeR_le name file f ops hp; omega)

/-- `runOps_tie_valid` with the byte-length hypothesis only -/
theorem runOps_tie_closed_length_partial (name file : Bytes) (f : Modfile.File) (ops : List EditSpec.Op) (fuel : Nat)
    (hp : Modfile.parseStrict name file none = .ok f) (hk : Modfile.Edit.WellFormedKeys f) (hs : Modfile.Edit.NoBlockSuffix f.syn)
    (hv : Modfile.Edit.StaticValid false (ops.map opM)) (hm : ∀ op ∈ ops.map opM, Modfile.Edit.IsModOp op)
    (hb : ∀ op ∈ ops, NotSep op) (hf : 3 * sessLen file ops + 1 ≤ fuel) :
    ∃ e' res h', Modfile.Edit.runOps applyMod (Modfile.Edit.load f) (ops.map opM) [] 0 = .done e' res ∧
      Drv.GenEdit.runOps fuel (Drv.GenEdit.load f).2 (Drv.GenEdit.load f).1 ops [] = .done h' res ∧
      RepF h' (Drv.GenEdit.load f).2 e' ∧ Modfile.Edit.P.Inv e' :=
  runOps_tie_closed_raw_partial name file f ops fuel hp hk hs hv hm hb (by have := sessSizeR_le name file f ops hp; omega)

/-- the byte-length hypothesis of the example session of Tie/FnEditClosed.lean: `|file| = 223`, fuel 300000 suffices -/
theorem ex_length : 3 * sessLen exFile FnEditClosed.exOps + 1 ≤ 300000 := by rw [B_lit exFile]; decide +kernel

-- `fuelOK_of_length_partial` on the example
example : ∀ f, Modfile.parseStrict (B "go.mod") exFile none = .ok f →
    FuelOK 300000 (Modfile.Edit.load f) FnEditClosed.exOps ∧ FinalFuel 300000 (Modfile.Edit.load f) FnEditClosed.exOps :=
  fun f hp => fuelOK_of_length_partial (B "go.mod") exFile f FnEditClosed.exOps 300000 hp (FnEditSession.ex_keys f hp).1
    (FnEditSession.ex_keys f hp).2 FnEditClosed.ex_static FnEditClosed.ex_notSep ex_length

end ModVerif.Tie.FnEditClosed3
