/-
  C09 transported to the regenerated code: the property theorems of Props/C09.lean about the integer kernels of
  sumdb/tlog (hand model Model/Tlog.lean) restated about `Generated.Tlog.maxpow2 / StoredHashIndex / SplitStoredHashIndex /
  StoredHashCount / subTreeIndex / StoredHashesForRecordHash / TreeHash` (Generated/FnTlog.lean, re-translated from tlog.go
  on every run in CHECKED mode: every int64 result goes through `chk64`) through the tie theorems of Tie/FnTlogInt.lean
  (and `TreeHash_tie` of Tie/FnTlogProof.lean).

  Every statement is an equation about the RESULT `.ok …` of the generated function, so it also says: no panic
  ("bad math"), no fuel exhaustion and NO INT64 OVERFLOW on the stated range.  The statements mention the generated
  functions, the independent specification (Spec/RFC6962.lean: `layout`, `tz`, `splitPoint`, `mth`, `leavesOf`), the
  specification-level predicates `StoreOK`, `Cover`, `Aligned` (written over the spec notions) and ordinary data.
  The only extra hypotheses are fuel lower bounds (constants) and the range hypotheses of the ties: logs of fewer than
  `2^62` records (positions below `MaxInt64`), where Props/C09 allows `2^63` / `2^64` for the unbounded model.

  The model's own no-overflow bookkeeping (`storedHashIndex_int64`, `split_int64`, `subTreeIndex_int64`, for logs below
  `2^61`) is subsumed: the equations below hold up to `2^62` and a checked-mode `.ok` excludes overflow.
  Not transported here: the text codecs of C09 (FormatTree / ParseTree / FormatRecord / … : unit Tie/FnTlogNote.lean).
-/
import ModVerif.Tie.FnTlogInt
import ModVerif.Tie.FnTlogProof
import ModVerif.Props.C09
import ModVerif.Proofs.GenPropsUtil
namespace ModVerif.Tie.FnTlogIntC09
open ModVerif ModVerif.GoRt ModVerif.Tlog ModVerif.TlogTH ModVerif.TlogStore ModVerif.TieFnTlogInt ModVerif.Tie.FnTlogInt
open ModVerif.Tie.FnTlogProof ModVerif.GenPropsUtil

/-! ### maxpow2 is the RFC 6962 split point -/

/-- ★ the regenerated `maxpow2(n) = (k, l)`: `k = 2^l`, `k < n ≤ 2k`, for every `n` of the int64 range (`1 < n ≤ 2^63`). -/
theorem gen_maxpow2_spec (fuel : Nat) (n : Int) (h1 : 1 < n) (h2 : n ≤ 2 ^ 63) (hf : 63 ≤ fuel) :
    ∃ k l : Nat, Generated.Tlog.maxpow2 fuel n = .ok ((k : Int), (l : Int)) ∧ k = 2 ^ l ∧ (k : Int) < n ∧ n ≤ 2 * (k : Int) := by
  obtain ⟨a, b, c⟩ := Props.C09.maxpow2_spec n.toNat (by omega) (by omega)
  exact ⟨_, _, maxpow2_tie fuel n hf, a, by omega, by omega⟩

/-- ★ … and its first component is the specification's split point (largest power of two smaller than `n`). -/
theorem gen_maxpow2_eq_splitPoint (fuel : Nat) (n : Int) (h1 : 1 < n) (h2 : n ≤ 2 ^ 63) (hf : 63 ≤ fuel) :
    ∃ l : Nat, Generated.Tlog.maxpow2 fuel n = .ok ((RFC6962.splitPoint n.toNat : Nat), (l : Int)) ∧
      RFC6962.splitPoint n.toNat = 2 ^ l := by
  obtain ⟨a, _, _⟩ := Props.C09.maxpow2_spec n.toNat (by omega) (by omega)
  have e := Props.C09.maxpow2_eq_splitPoint n.toNat (by omega) (by omega)
  refine ⟨(Tlog.maxpow2 n.toNat).2, ?_, by rw [← e]; exact a⟩
  rw [maxpow2_tie fuel n hf, e]
  rfl

/-- beyond the int64 range the regenerated loop stops at `2^62` instead of running forever (F7) -/
theorem gen_maxpow2_terminates_beyond_range (fuel : Nat) (hf : 63 ≤ fuel) :
    Generated.Tlog.maxpow2 fuel (2 ^ 64 + 5) = .ok (2 ^ 62, 62) := by
  rw [maxpow2_tie fuel _ hf]
  have e : ((2 : Int) ^ 64 + 5).toNat = 2 ^ 64 + 5 := by decide
  rw [e, Props.C09.maxpow2_terminates_beyond_range]
  rfl

/-! ### the dense layout -/

theorem index_range {N l k : Nat} (hN : N ≤ 2 ^ 62) (h : (k + 1) * 2 ^ l ≤ N) : (k + 1) * 2 ^ l ≤ 2 ^ 62 :=
  Nat.le_trans h hN

/-- the regenerated `StoredHashIndex` on a complete subtree of a log of at most `2^62` records, as a natural number -/
theorem gen_StoredHashIndex_ok (fuel N l k : Nat) (hN : N ≤ 2 ^ 62) (h : (k + 1) * 2 ^ l ≤ N) (hf : 64 ≤ fuel) :
    Generated.Tlog.StoredHashIndex fuel (l : Int) (k : Int) = .ok ((storedHashIndex l k : Nat) : Int) := by
  have := StoredHashIndex_tie_of_le fuel (l : Int) (k : Int) (by omega) (by omega)
    (by simpa using index_range hN h) hf
  simpa using this

/-- ★ `StoredHashIndex(level, k)` is the position of coordinate `(level, k)` in the specification's layout (records in
    order, for record `i` the levels `0 .. tz (i+1)`) of every log of at most `2^62` records that contains the complete
    subtree `(level, k)`. -/
theorem gen_StoredHashIndex_layout (fuel N l k : Nat) (hN : N ≤ 2 ^ 62) (h : (k + 1) * 2 ^ l ≤ N) (hf : 64 ≤ fuel) :
    ∃ p : Nat, Generated.Tlog.StoredHashIndex fuel (l : Int) (k : Int) = .ok (p : Int) ∧
      (RFC6962.layout N)[p]? = some (l, k) :=
  ⟨_, gen_StoredHashIndex_ok fuel N l k hN h hf, Props.C09.storedHashIndex_layout N l k h⟩

/-- ★ hence the position map is injective on the coordinates of a log. -/
theorem gen_StoredHashIndex_injective (fuel N l k l' k' : Nat) (hN : N ≤ 2 ^ 62) (h : (k + 1) * 2 ^ l ≤ N)
    (h' : (k' + 1) * 2 ^ l' ≤ N) (hf : 64 ≤ fuel)
    (heq : Generated.Tlog.StoredHashIndex fuel (l : Int) (k : Int) = Generated.Tlog.StoredHashIndex fuel (l' : Int) (k' : Int)) :
    l = l' ∧ k = k' := by
  rw [gen_StoredHashIndex_ok fuel N l k hN h hf, gen_StoredHashIndex_ok fuel N l' k' hN h' hf] at heq
  have e : storedHashIndex l k = storedHashIndex l' k' := by
    have := Except.ok.inj heq
    omega
  exact Props.C09.storedHashIndex_injective N l k l' k' h h' e

theorem count_lt {n : Nat} (hn : n < 2 ^ 62) : storedHashCount n < 2 ^ 63 := by
  have := Props.C09.storedHashCount_int64 n (by omega)
  omega

/-- ★ the regenerated `StoredHashCount(n)` is the length of the specification's layout of a log of `n` records … -/
theorem gen_StoredHashCount_eq_layout_length (fuel n : Nat) (hn : n < 2 ^ 62) (hf : 64 ≤ fuel) :
    Generated.Tlog.StoredHashCount fuel (n : Int) = .ok (((RFC6962.layout n).length : Nat) : Int) := by
  have := StoredHashCount_tie fuel (n : Int) (by omega) (by simpa using count_lt hn) hf
  rw [this]
  simp only [Int.toNat_natCast]
  rw [Props.C09.storedHashCount_eq n (by omega)]
  rfl

/-- ★ … and the position at which the next record's hashes are to be stored: `StoredHashCount(n) = StoredHashIndex(0, n)`,
    both sides regenerated code. -/
theorem gen_StoredHashCount_eq_next_leaf (fuel n : Nat) (hn : n < 2 ^ 62) (hf : 64 ≤ fuel) :
    Generated.Tlog.StoredHashCount fuel (n : Int) = Generated.Tlog.StoredHashIndex fuel 0 (n : Int) := by
  have h1 := StoredHashCount_tie fuel (n : Int) (by omega) (by simpa using count_lt hn) hf
  have h2 := gen_StoredHashIndex_ok fuel (n + 1) 0 n (by omega) (by simp) hf
  simp only [Int.toNat_natCast] at h1
  rw [h1, Props.C09.storedHashCount_eq_next_leaf n (by omega)]
  exact h2.symm

/-- ★ "each new record n adds 1 + trailingZeros(n+1) hashes": consecutive leaf positions of the regenerated
    `StoredHashIndex` differ by `1 + tz (n+1)` (`tz` the specification's 2-adic valuation). -/
theorem gen_StoredHashIndex_zero_succ (fuel n : Nat) (hn : n + 1 < 2 ^ 62) (hf : 64 ≤ fuel) :
    ∃ p : Nat, Generated.Tlog.StoredHashIndex fuel 0 (n : Int) = .ok (p : Int) ∧
      Generated.Tlog.StoredHashIndex fuel 0 ((n : Int) + 1) = .ok ((p + 1 + RFC6962.tz (n + 1) : Nat) : Int) := by
  refine ⟨_, gen_StoredHashIndex_ok fuel (n + 1) 0 n (by omega) (by simp) hf, ?_⟩
  have := gen_StoredHashIndex_ok fuel (n + 2) 0 (n + 1) (by omega) (by simp) hf
  rw [Props.C09.storedHashIndex_zero_succ n] at this
  simpa using this

/-! ### position ↔ (level, offset): the two regenerated functions are mutually inverse -/

/-- ★ `SplitStoredHashIndex(StoredHashIndex(l, k)) = (l, k)` on the regenerated code, for every complete subtree of a log
    of fewer than `2^62` records. -/
theorem gen_Split_StoredHashIndex (fuel N l k : Nat) (hN : N < 2 ^ 62) (h : (k + 1) * 2 ^ l ≤ N) (hf : 64 ≤ fuel) :
    ∃ p : Nat, Generated.Tlog.StoredHashIndex fuel (l : Int) (k : Int) = .ok (p : Int) ∧
      Generated.Tlog.SplitStoredHashIndex fuel (p : Int) = .ok ((l : Int), (k : Int)) := by
  refine ⟨_, gen_StoredHashIndex_ok fuel N l k (by omega) h hf, ?_⟩
  obtain ⟨hlt, hsp⟩ := (Props.C09.position_coordinate_bijection N hN).2 l k h
  have hc := Props.C09.storedHashCount_int64 N (by omega)
  have := SplitStoredHashIndex_tie fuel ((storedHashIndex l k : Nat) : Int) (by omega) (by omega) hf
  rw [this]
  simp only [Int.toNat_natCast]
  rw [hsp]
  rfl

/-- ★ the same in hypothesis form, for ANY int64 arguments: whenever the regenerated `StoredHashIndex(l, k)` returns a
    position `p < MaxInt64` (without overflow), the regenerated `SplitStoredHashIndex(p)` returns `(l, k)`. -/
theorem gen_Split_of_StoredHashIndex (fuel l k : Nat) (p : Int) (hl : l < 2 ^ 63) (hk : k < 2 ^ 63) (hf : l + 64 ≤ fuel)
    (h : Generated.Tlog.StoredHashIndex fuel (l : Int) (k : Int) = .ok p) (hp : p < 2 ^ 63 - 1) :
    Generated.Tlog.SplitStoredHashIndex fuel p = .ok ((l : Int), (k : Int)) := by
  by_cases hr : storedHashIndex l k < 2 ^ 63
  · have e := StoredHashIndex_tie fuel (l : Int) (k : Int) (by omega) (by omega) (by simpa using hr) (by omega)
    simp only [Int.toNat_natCast] at e
    rw [e] at h
    have hp' : p = ((storedHashIndex l k : Nat) : Int) := (Except.ok.inj h).symm
    subst hp'
    have := SplitStoredHashIndex_tie fuel ((storedHashIndex l k : Nat) : Int) (by omega) hp (by omega)
    rw [this]
    simp only [Int.toNat_natCast]
    rw [Props.C09.split_storedHashIndex l k hr]
    rfl
  · have e := StoredHashIndex_tie_overflow fuel (l : Int) (k : Int) (by omega) (by omega) (by omega) (by omega)
      (by simpa using Nat.le_of_not_lt hr) (by simpa using hf)
    rw [e] at h
    cases h

/-- ★ `StoredHashIndex(SplitStoredHashIndex(p)) = p` on the regenerated code, and `SplitStoredHashIndex` is TOTAL — its
    "bad math" panic is unreachable, its loop ends, nothing overflows — for every position `0 ≤ p < MaxInt64`. -/
theorem gen_StoredHashIndex_Split (fuel : Nat) (p : Int) (h0 : 0 ≤ p) (hp : p < 2 ^ 63 - 1) (hf : 64 ≤ fuel) :
    ∃ l k : Nat, Generated.Tlog.SplitStoredHashIndex fuel p = .ok ((l : Int), (k : Int)) ∧
      Generated.Tlog.StoredHashIndex fuel (l : Int) (k : Int) = .ok p := by
  obtain ⟨l, k, hs⟩ := Props.C09.splitStoredHashIndex_total p.toNat (by omega)
  have hb := Props.C09.storedHashIndex_split p.toNat l k (by omega) hs
  refine ⟨l, k, ?_, ?_⟩
  · rw [SplitStoredHashIndex_tie fuel p h0 hp hf, hs]; rfl
  · have e := StoredHashIndex_tie fuel (l : Int) (k : Int) (by omega) (by omega) (by simp only [Int.toNat_natCast]; omega) hf
    simp only [Int.toNat_natCast] at e
    rw [e, hb]
    congr 1
    exact Int.toNat_of_nonneg h0

/-- ★ on the dense store of `N < 2^62` records the two regenerated functions are mutually inverse bijections between the
    positions `[0, |layout N|)` (`= StoredHashCount N`, `gen_StoredHashCount_eq_layout_length`) and the complete subtrees
    `(l, k)`, `(k+1)·2^l ≤ N`, and `SplitStoredHashIndex` reads off the specification's layout. -/
theorem gen_position_coordinate_bijection (fuel N : Nat) (hN : N < 2 ^ 62) (hf : 64 ≤ fuel) :
    (∀ p : Nat, p < (RFC6962.layout N).length →
      ∃ l k : Nat, Generated.Tlog.SplitStoredHashIndex fuel (p : Int) = .ok ((l : Int), (k : Int)) ∧
        (RFC6962.layout N)[p]? = some (l, k) ∧ (k + 1) * 2 ^ l ≤ N ∧
        Generated.Tlog.StoredHashIndex fuel (l : Int) (k : Int) = .ok (p : Int)) ∧
    (∀ l k : Nat, (k + 1) * 2 ^ l ≤ N →
      ∃ p : Nat, Generated.Tlog.StoredHashIndex fuel (l : Int) (k : Int) = .ok (p : Int) ∧
        p < (RFC6962.layout N).length ∧
        Generated.Tlog.SplitStoredHashIndex fuel (p : Int) = .ok ((l : Int), (k : Int))) := by
  obtain ⟨b1, b2⟩ := Props.C09.position_coordinate_bijection N hN
  have hlen := Props.C09.storedHashCount_eq N (by omega)
  have hc := Props.C09.storedHashCount_int64 N (by omega)
  constructor
  · intro p hp
    obtain ⟨l, k, c1, c2, c3, c4⟩ := b1 p (by omega)
    refine ⟨l, k, ?_, c2, c3, ?_⟩
    · rw [SplitStoredHashIndex_tie fuel (p : Int) (by omega) (by omega) hf]
      simp only [Int.toNat_natCast]
      rw [c1]; rfl
    · rw [gen_StoredHashIndex_ok fuel N l k (by omega) c3 hf, c4]
  · intro l k h
    obtain ⟨c1, c2⟩ := b2 l k h
    refine ⟨_, gen_StoredHashIndex_ok fuel N l k (by omega) h hf, by omega, ?_⟩
    rw [SplitStoredHashIndex_tie fuel _ (by omega) (by omega) hf]
    simp only [Int.toNat_natCast]
    rw [c2]; rfl

/-! ### subTreeIndex -/

/-- ★ the regenerated `subTreeIndex(lo, hi, need)` (no panic, no overflow) appends to `need` the positions — as computed
    by the regenerated `StoredHashIndex` — of the maximal complete subtrees `cs` covering `[lo, hi)` from left to right,
    for every interval inside one aligned block (in particular `lo = 0`) with `hi ≤ 2^62`. -/
theorem gen_subTreeIndex_spec (fuel lo hi : Nat) (need : List Int) (hle : lo ≤ hi) (hal : Aligned lo hi) (hr : hi ≤ 2 ^ 62)
    (hf : 127 ≤ fuel) :
    ∃ (cs : List (Nat × Nat)) (idx : List Int),
      Generated.Tlog.subTreeIndex fuel (lo : Int) (hi : Int) need = .ok (need ++ idx) ∧ Cover cs lo hi ∧
      idx.length = cs.length ∧
      ∀ (i : Nat) (c : Nat × Nat) (x : Int), cs[i]? = some c → idx[i]? = some x →
        Generated.Tlog.StoredHashIndex fuel (c.1 : Int) (c.2 : Int) = .ok x := by
  obtain ⟨cs, c1, _, c3⟩ := Props.C09.subTreeIndex_spec lo hi hle hal (by omega)
  refine ⟨cs, (cs.map fun c => storedHashIndex c.1 c.2).map Int.ofNat, ?_, c3, by simp, ?_⟩
  · have := subTreeIndex_tie fuel (lo : Int) (hi : Int) need (by omega) (by omega) hf
    simp only [Int.toNat_natCast] at this
    rw [this, c1]
    rfl
  · intro i c x hc hx
    simp only [List.map_map, List.getElem?_map, hc, Option.map_some, Function.comp, Option.some.injEq] at hx
    have hb := cover_bound cs lo hi c3 c (List.mem_of_getElem? hc)
    rw [gen_StoredHashIndex_ok fuel hi c.1 c.2 hr hb (by omega), ← hx]
    rfl

/-! ### the store invariant and the tree hash, for every log -/

section
variable {H : Type} [DecidableEq H] [Inhabited H] (leaf : Bytes → H) (node : H → H → H) (empty : H)

/-- ★ one step of the store invariant on the regenerated code.  Let `st` be a dense store satisfying the C09 invariant for
    the records `D` (`|D| < 2^62`) and `r` ANY reader that behaves like `st`.  Then the regenerated
    `StoredHashesForRecordHash(|D|, leaf d, r)` returns — nil error, no panic, no overflow — exactly `1 + tz(|D|+1)` hashes
    `hs`, and `st ++ hs` satisfies the invariant for `D ++ [d]`: every position whose layout coordinate is `(l, k)` holds
    the RFC 6962 tree hash of the records `[k·2^l, (k+1)·2^l)`. -/
theorem gen_StoredHashes_step (fuel : Nat) (D : List Bytes) (d : Bytes) (st : List H)
    (hst : StoreOK leaf node empty D st) (r : List Int → List H × Option String) (hr : readerOf r = storeReader st)
    (hD : D.length < 2 ^ 62) (hf : 128 ≤ fuel) :
    ∃ hs, Generated.Tlog.StoredHashesForRecordHash node fuel (D.length : Int) (leaf d) r = .ok (hs, none) ∧
      hs.length = 1 + RFC6962.tz (D.length + 1) ∧ StoreOK leaf node empty (D ++ [d]) (st ++ hs) := by
  obtain ⟨hs, h1, h2, _⟩ := storedHashes_ok leaf node empty D d st hst (by omega)
  obtain ⟨st', a1, a2⟩ := appendRecord_ok leaf node empty D d st hst (by omega)
  have e : st' = st ++ hs := by
    simp only [appendRecord, bind, Except.bind, h1, pure, Except.pure, Except.ok.injEq, Prod.mk.injEq] at a1
    exact a1.2.symm
  subst e
  refine ⟨hs, ?_, h2, a2⟩
  have := StoredHashesForRecordHash_tie_of_lt node fuel (D.length : Int) (leaf d) r (by omega) (by omega) hf
  simp only [Int.toNat_natCast] at this
  rw [this, hr]
  have h1' : storedHashesForRecordHash node D.length (leaf d) (storeReader st) = .ok hs := h1
  rw [h1']
  rfl

/-- the usage the documentation prescribes, with the REGENERATED `StoredHashesForRecordHash` as the only computation:
    append the records one at a time, each time reading through the honest reader `genReader` over the store so far and
    writing the returned hashes at the end of the store.  `none` = any error (reader error, panic, int64 overflow, fuel). -/
def stepOut (s : Nat × List H) : M (List H × Option String) → Option (Nat × List H)
  | .ok (hs, none) => some (s.1 + 1, s.2 ++ hs)
  | _ => none

def genAppendStep (fuel : Nat) (s : Nat × List H) (d : Bytes) : Option (Nat × List H) :=
  stepOut s (Generated.Tlog.StoredHashesForRecordHash node fuel (s.1 : Int) (leaf d) (genReader s.2))

def genAppendAll (fuel : Nat) : List Bytes → Nat × List H → Option (Nat × List H)
  | [], s => some s
  | d :: ds, s => (genAppendStep leaf node fuel s d).bind (genAppendAll fuel ds)

/-- the store after appending `records` to the empty log -/
def genBuildStore (fuel : Nat) (records : List Bytes) : Option (List H) :=
  (genAppendAll leaf node fuel records (0, [])).map (·.2)

theorem genAppendAll_cons (fuel : Nat) (d : Bytes) (ds : List Bytes) (s : Nat × List H) :
    genAppendAll leaf node fuel (d :: ds) s = (genAppendStep leaf node fuel s d).bind (genAppendAll leaf node fuel ds) := rfl

theorem genAppendStep_ok (fuel n : Nat) (st hs : List H) (d : Bytes)
    (h : Generated.Tlog.StoredHashesForRecordHash node fuel (n : Int) (leaf d) (genReader st) = .ok (hs, none)) :
    genAppendStep leaf node fuel (n, st) d = some (n + 1, st ++ hs) := by
  show stepOut (n, st) (Generated.Tlog.StoredHashesForRecordHash node fuel (n : Int) (leaf d) (genReader st)) = _
  rw [h]
  rfl

theorem genAppendAll_ok (fuel : Nat) (hf : 128 ≤ fuel) : ∀ (ds pre : List Bytes) (st : List H),
    StoreOK leaf node empty pre st → (pre ++ ds).length < 2 ^ 62 →
    ∃ st', genAppendAll leaf node fuel ds (pre.length, st) = some ((pre ++ ds).length, st') ∧
      StoreOK leaf node empty (pre ++ ds) st' := by
  intro ds
  induction ds with
  | nil =>
    intro pre st hok _
    rw [List.append_nil]
    exact ⟨st, rfl, hok⟩
  | cons d ds ih =>
    intro pre st hok hr
    have hr' : pre.length < 2 ^ 62 := by simp at hr; omega
    obtain ⟨hs, h1, _, h3⟩ := gen_StoredHashes_step leaf node empty fuel pre d st hok (genReader st)
      (readerOf_genReader st) hr' hf
    have e : pre ++ d :: ds = (pre ++ [d]) ++ ds := by simp
    obtain ⟨st2, h4, h5⟩ := ih (pre ++ [d]) (st ++ hs) h3 (by rw [← e]; exact hr)
    refine ⟨st2, ?_, by rw [e]; exact h5⟩
    have hlen : (pre ++ [d]).length = pre.length + 1 := by rw [List.length_append, List.length_singleton]
    rw [genAppendAll_cons, genAppendStep_ok leaf node fuel pre.length st hs d h1, e, ← hlen]
    exact h4

/-- ★ Store invariant on the regenerated code.  For every sequence `D` of fewer than `2^62` records, every `leaf`/`node`
    and every `empty`: appending the records one at a time with the regenerated `StoredHashesForRecordHash` never fails,
    the store has the length of the specification's layout, and every position `p`, whose layout coordinate is `(l, k)`,
    holds the RFC 6962 tree hash of the records `[k·2^l, (k+1)·2^l)`. -/
theorem gen_store_invariant (fuel : Nat) (D : List Bytes) (hD : D.length < 2 ^ 62) (hf : 128 ≤ fuel) :
    ∃ st, genBuildStore leaf node fuel D = some st ∧ st.length = (RFC6962.layout D.length).length ∧
      ∀ p l k : Nat, (RFC6962.layout D.length)[p]? = some (l, k) →
        st[p]? = some (RFC6962.mth node empty (RFC6962.leavesOf (D.map leaf) l k)) := by
  obtain ⟨st, h1, h2⟩ := genAppendAll_ok leaf node empty fuel hf D [] [] (storeOK_nil leaf node empty)
    (by rw [List.nil_append]; exact hD)
  rw [List.nil_append] at h1 h2
  have h2' : StoreOK leaf node empty D st := h2
  refine ⟨st, ?_, by rw [h2'.1, Tlog.layout_length], h2'.2⟩
  have : genAppendAll leaf node fuel D (0, []) = some (D.length, st) := h1
  simp only [genBuildStore, this, Option.map_some]

/-- ★ the regenerated `TreeHash(m)`, reading through ANY reader that behaves like a dense store satisfying the invariant
    for `D`, is the RFC 6962 Merkle tree hash of the first `m` records, with a nil error, for every `m ≤ |D|`, `m ≤ 2^62`. -/
theorem gen_TreeHash_eq_MTH (fuel : Nat) (D : List Bytes) (st : List H) (hst : StoreOK leaf node empty D st)
    (r : List Int → List H × Option String) (hr : readerOf r = storeReader st)
    (m : Nat) (hm : m ≤ D.length) (hr62 : m ≤ 2 ^ 62) (hf : m + 127 ≤ fuel) :
    Generated.Tlog.TreeHash empty node fuel (m : Int) r =
      .ok (RFC6962.mth node empty ((D.map leaf).take m), none) := by
  have := TreeHash_tie node empty fuel (m : Int) r (by omega) (by omega) (by simpa using hf)
  simp only [Int.toNat_natCast] at this
  rw [this, hr, treeHash_of_storeOK leaf node empty D st hst m hm (by omega)]
  rfl

/-- ★★ Property C09 in one statement, on the regenerated code.  For every sequence `D` of fewer than `2^62` records:
    building the store with the regenerated `StoredHashesForRecordHash` succeeds and yields `st` such that
    (1) its length is the regenerated `StoredHashCount(|D|)`;
    (2) every position `p` of the store is split by the regenerated `SplitStoredHashIndex` into the coordinate `(l, k)` of
        a complete subtree of the log, the regenerated `StoredHashIndex(l, k)` is `p`, and `st[p]` is the RFC 6962 hash of
        the records `[k·2^l, (k+1)·2^l)`;
    (3) conversely every complete subtree `(l, k)` of the log has its position inside the store and splits back;
    (4) for every `m ≤ |D|` the regenerated `TreeHash(m)` over the store is the RFC 6962 tree hash of the first `m` records. -/
theorem gen_C09_main (fuel : Nat) (D : List Bytes) (hD : D.length < 2 ^ 62) (hf : D.length + 128 ≤ fuel) :
    ∃ st, genBuildStore leaf node fuel D = some st ∧
      Generated.Tlog.StoredHashCount fuel (D.length : Int) = .ok ((st.length : Nat) : Int) ∧
      (∀ p : Nat, p < st.length →
        ∃ l k : Nat, Generated.Tlog.SplitStoredHashIndex fuel (p : Int) = .ok ((l : Int), (k : Int)) ∧
          Generated.Tlog.StoredHashIndex fuel (l : Int) (k : Int) = .ok (p : Int) ∧ (k + 1) * 2 ^ l ≤ D.length ∧
          st[p]? = some (RFC6962.mth node empty (RFC6962.leavesOf (D.map leaf) l k))) ∧
      (∀ l k : Nat, (k + 1) * 2 ^ l ≤ D.length →
        ∃ p : Nat, Generated.Tlog.StoredHashIndex fuel (l : Int) (k : Int) = .ok (p : Int) ∧ p < st.length ∧
          Generated.Tlog.SplitStoredHashIndex fuel (p : Int) = .ok ((l : Int), (k : Int))) ∧
      (∀ m : Nat, m ≤ D.length →
        Generated.Tlog.TreeHash empty node fuel (m : Int) (genReader st) =
          .ok (RFC6962.mth node empty ((D.map leaf).take m), none)) := by
  obtain ⟨st, h1, h2, h3⟩ := gen_store_invariant leaf node empty fuel D hD (by omega)
  obtain ⟨b1, b2⟩ := gen_position_coordinate_bijection fuel D.length hD (by omega)
  have hok : StoreOK leaf node empty D st := ⟨by rw [h2, Tlog.layout_length], h3⟩
  refine ⟨st, h1, ?_, ?_, ?_, ?_⟩
  · rw [h2]; exact gen_StoredHashCount_eq_layout_length fuel D.length hD (by omega)
  · intro p hp
    obtain ⟨l, k, c1, c2, c3, c4⟩ := b1 p (by omega)
    exact ⟨l, k, c1, c4, c3, h3 p l k c2⟩
  · intro l k hk
    rw [h2]
    exact b2 l k hk
  · intro m hm
    exact gen_TreeHash_eq_MTH leaf node empty fuel D st hok (genReader st) (readerOf_genReader st) m hm (by omega) (by omega)

end

/-! ### non-vacuity -/

example : Generated.Tlog.maxpow2 63 13 = .ok (8, 3) ∧ RFC6962.splitPoint 13 = 8 ∧
    Generated.Tlog.maxpow2 63 (2 ^ 63) = .ok (2 ^ 62, 62) := by decide +kernel

/-- `gen_maxpow2_spec` at the top of the range -/
example : ∃ k l : Nat, Generated.Tlog.maxpow2 63 (2 ^ 63) = .ok ((k : Int), (l : Int)) ∧ k = 2 ^ l ∧
    (k : Int) < 2 ^ 63 ∧ (2 ^ 63 : Int) ≤ 2 * (k : Int) :=
  gen_maxpow2_spec 63 (2 ^ 63) (by decide) (by decide) (by decide)

/-- the layout of the 13-record log: coordinate (2, 1) of the complete subtree of records [4, 8) sits at position 13; the
    two regenerated functions invert each other there; the count is the layout length -/
example : (1 + 1) * 2 ^ 2 ≤ 13 ∧ (13 : Nat) < 2 ^ 62 ∧
    Generated.Tlog.StoredHashIndex 64 2 1 = .ok 13 ∧ (RFC6962.layout 13)[13]? = some (2, 1) ∧
    Generated.Tlog.SplitStoredHashIndex 64 13 = .ok (2, 1) ∧
    Generated.Tlog.StoredHashCount 64 13 = .ok 23 ∧ (RFC6962.layout 13).length = 23 ∧
    Generated.Tlog.StoredHashIndex 64 0 13 = .ok 23 ∧
    Generated.Tlog.StoredHashIndex 64 0 11 = .ok 19 ∧ Generated.Tlog.StoredHashIndex 64 0 12 = .ok 22 ∧
    RFC6962.tz 12 = 2 := by decide +kernel

/-- `gen_StoredHashIndex_Split` near the top of the int64 range: position `MaxInt64 - 1` -/
example : ∃ l k : Nat, Generated.Tlog.SplitStoredHashIndex 64 (2 ^ 63 - 2) = .ok ((l : Int), (k : Int)) ∧
    Generated.Tlog.StoredHashIndex 64 (l : Int) (k : Int) = .ok (2 ^ 63 - 2) :=
  gen_StoredHashIndex_Split 64 (2 ^ 63 - 2) (by decide) (by decide) (by decide)

/-- `gen_Split_of_StoredHashIndex` instantiated -/
example : Generated.Tlog.SplitStoredHashIndex 70 92 = .ok (3, 5) :=
  gen_Split_of_StoredHashIndex 70 3 5 92 (by decide) (by decide) (by decide) (by decide +kernel) (by decide)

/-- `gen_subTreeIndex_spec`: [0, 13) is covered by the complete subtrees (3,0), (2,2), (0,12) at positions 14, 21, 22 -/
example : Aligned 0 13 ∧ Cover [(3, 0), (2, 2), (0, 12)] 0 13 ∧
    Generated.Tlog.subTreeIndex 127 0 13 [7] = .ok [7, 14, 21, 22] ∧
    Generated.Tlog.StoredHashIndex 127 3 0 = .ok 14 ∧ Generated.Tlog.StoredHashIndex 127 2 2 = .ok 21 ∧
    Generated.Tlog.StoredHashIndex 127 0 12 = .ok 22 := by
  refine ⟨aligned_zero 13, by simp [Cover], by decide +kernel, by decide +kernel, by decide +kernel, by decide +kernel⟩

/-- the store built by the regenerated code for the 13-record example log in the term algebra is the model's store, and
    the regenerated `TreeHash` over it yields the RFC 6962 roots -/
example : genBuildStore TH.leaf TH.node 128 (recs 13) = some (store 13) ∧
    okIs (Generated.Tlog.TreeHash TH.empty TH.node 141 13 (genReader (store 13)))
      (RFC6962.mth TH.node TH.empty ((recs 13).map TH.leaf), none) = true ∧
    okIs (Generated.Tlog.TreeHash TH.empty TH.node 141 7 (genReader (store 13)))
      (RFC6962.mth TH.node TH.empty (((recs 13).map TH.leaf).take 7), none) = true := by decide +kernel

/-- the hypotheses of `gen_StoredHashes_step` / `gen_TreeHash_eq_MTH` are satisfiable -/
example : ∃ st, StoreOK TH.leaf TH.node TH.empty (recs 13) st ∧ readerOf (genReader st) = storeReader st ∧
    (recs 13).length < 2 ^ 62 := by
  obtain ⟨st, _, h2, h3⟩ := gen_store_invariant TH.leaf TH.node TH.empty 128 (recs 13) (by decide) (by decide)
  exact ⟨st, ⟨by rw [h2, Tlog.layout_length], h3⟩, readerOf_genReader st, by decide⟩

end ModVerif.Tie.FnTlogIntC09
