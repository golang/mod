/-
  Tie theorems, sumdb/note/note.go: the definitions `keyHash` and `Sign` (with its three loops: over the signers,
  and the nested loops over `[][]Signature{n.Sigs, n.UnverifiedSigs}`) regenerated from the Go source by go2lean
  (`Generated/FnNote.lean`) compute exactly what the hand model (`Model/Note.lean`: `keyHash`, `Sign`, `signNew`,
  `signExisting`, `sigLine`, `putU32`) says, for ALL inputs — in particular no panic (`signers[i]`, `list[i]`,
  `binary.BigEndian.PutUint32(hbuf[:], hash)`, `binary.BigEndian.Uint32(raw)` behind the `len(raw) < 4` test) and no fuel
  exhaustion.

  Instantiation of the abstract parameters of the generated code, as in Drv/GenNote.lean (op "sign"):
  `b64dec := b64decI`, `b64enc := B64.b64enc`, `isSpace := isSpaceI`; a model `Signature` is passed as `gsig s`
  (`uint32` hash ↦ the integer `h.toNat`; the same function as `TieFnNote.embedSig`), a model `Signer` as `gsigner s`
  (`Name`, `KeyHash`, and `Sign` returning `(sig, nil)` for `some sig` and an error for `none`), a note as `gnote n`
  (= `TieFnNote.embedNote n`).  `embedSign` maps the model's `Except SignErr Bytes` to the `([]byte, error)` pair of the Go
  function: `errMalformedNote`, `errInvalidSigner`, resp. the error the failing signer returned.  The map `have` of the
  generated code is an association list (`GoRt.mapGet` / `mapSet`); `TieFnNoteSign.HaveRel` relates it to the model's list of
  (name, hash) pairs.  For `keyHash` the hash accumulator `h.Sum(nil)` is `shaSum acc pre := pre ++ sha acc` with the model's
  abstract `sha`; the Go function panics exactly when the model returns `none` (a `sha` shorter than 4 bytes).
-/
import ModVerif.Generated.FnNote
import ModVerif.Model.Note
import ModVerif.Proofs.TieFnNoteSign
namespace ModVerif.Tie.FnNoteSign
open ModVerif ModVerif.GoRt ModVerif.TieFnNote ModVerif.TieFnNoteSign

/-- `keyHash(name, key)`, every name, key and hash function: the first four bytes of `sha(name ‖ "\n" ‖ key)`, big endian;
    a panic (index out of range in `binary.BigEndian.Uint32`) exactly when `sha` returns fewer than four bytes -/
theorem keyHash_tie (sha : Bytes → Bytes) (name key : Bytes) :
    Generated.Note.keyHash (fun acc pre => pre ++ sha acc) name key =
      match Note.keyHash sha name key with
      | some h => .ok (hashI h)
      | none => .error .panic :=
  keyHash_eq sha name key

/-- `keyHash` for a hash function with at least four bytes of output (SHA-256): never a panic -/
theorem keyHash_tie_ok (sha : Bytes → Bytes) (hsha : ∀ x, 4 ≤ (sha x).length) (name key : Bytes) :
    ∃ h, Note.keyHash sha name key = some h ∧
      Generated.Note.keyHash (fun acc pre => pre ++ sha acc) name key = .ok (hashI h) := by
  have ht := keyHash_tie sha name key
  cases hk : Note.keyHash sha name key with
  | some h => rw [hk] at ht; exact ⟨h, rfl, ht⟩
  | none =>
    exfalso
    have hl := hsha (name ++ [10] ++ key)
    unfold Note.keyHash at hk
    generalize sha (name ++ [10] ++ key) = s at hk hl
    match s, hl, hk with
    | _ :: _ :: _ :: _ :: _, _, hk => simp [Note.be32] at hk
    | [], hl, _ => simp at hl
    | [_], hl, _ => simp at hl
    | [_, _], hl, _ => simp at hl
    | [_, _, _], hl, _ => simp at hl

example : Generated.Note.keyHash (fun acc pre => pre ++ (fun x => x.take 5) acc) (B "ab") (B "k") = .ok 1633815147 ∧
    Note.keyHash (fun x => x.take 5) (B "ab") (B "k") = some 1633815147 ∧ hashI 1633815147 = 1633815147 ∧
    Generated.Note.keyHash (fun acc pre => pre ++ (fun x => x.take 3) acc) (B "ab") (B "k") = .error .panic ∧
    Note.keyHash (fun x => x.take 3) (B "ab") (B "k") = none := by decide +kernel

/-- `Sign(n, signers...)`, every note and every list of signers (any names, any `Sign` functions, failing ones
    included); fuel: one unit per signer resp. per existing signature, plus the three tests of the outer loop:
    `fuelBound n signers = n.sigs.length + n.unverifiedSigs.length + signers.length + 3` -/
theorem Sign_tie (n : Note.Note) (signers : List Note.Signer) (fuel : Nat) (hf : fuelBound n signers ≤ fuel) :
    Generated.Note.Sign b64decI B64.b64enc isSpaceI fuel (gnote n) (signers.map gsigner) =
      .ok (embedSign (Note.Sign n signers)) :=
  Sign_eq n signers fuel hf

/-- "hi\n" -/
def exT : Bytes := B "hi\n"
/-- an existing signature by key ("a", 1): base64 of 00 00 00 01 01 02 03 -/
def exSigA : Note.Signature := ⟨B "a", 1, B "AAAAAQECAw=="⟩
def exSignerB : Note.Signer := ⟨B "b", 7, fun _ => some [9]⟩
def exSignerA : Note.Signer := ⟨B "a", 1, fun _ => some [4, 5]⟩
def exSignerFail : Note.Signer := ⟨B "c", 2, fun _ => none⟩
def exSignerBad : Note.Signer := ⟨B "a b", 2, fun _ => some [1]⟩

-- an existing signature is kept byte for byte, the new one appended
example : Generated.Note.Sign b64decI B64.b64enc isSpaceI 8 (gnote ⟨exT, [exSigA], []⟩) ([exSignerB].map gsigner) =
      .ok (B "hi\n\n— a AAAAAQECAw==\n— b AAAABwk=\n", none) ∧
    embedSign (Note.Sign ⟨exT, [exSigA], []⟩ [exSignerB]) = (B "hi\n\n— a AAAAAQECAw==\n— b AAAABwk=\n", none) := by
  decide +kernel

-- a new signer with the (name, hash) of an existing signature replaces it (the map `have`), also in the unverified list
example : Generated.Note.Sign b64decI B64.b64enc isSpaceI 8 (gnote ⟨exT, [exSigA], [exSigA]⟩) ([exSignerA].map gsigner) =
      .ok (B "hi\n\n— a AAAAAQQF\n", none) ∧
    embedSign (Note.Sign ⟨exT, [exSigA], [exSigA]⟩ [exSignerA]) = (B "hi\n\n— a AAAAAQQF\n", none) := by
  decide +kernel

-- the three error results: text without final newline / hash mismatch in an existing signature, bad signer name, failing signer
example : Generated.Note.Sign b64decI B64.b64enc isSpaceI 8 (gnote ⟨B "hi", [], []⟩) ([exSignerB].map gsigner) =
      .ok ([], some "errMalformedNote") ∧
    embedSign (Note.Sign ⟨B "hi", [], []⟩ [exSignerB]) = ([], some "errMalformedNote") ∧
    Generated.Note.Sign b64decI B64.b64enc isSpaceI 8 (gnote ⟨exT, [], [⟨B "a", 2, B "AAAAAQECAw=="⟩]⟩) ([exSignerB].map gsigner) =
      .ok ([], some "errMalformedNote") ∧
    embedSign (Note.Sign ⟨exT, [], [⟨B "a", 2, B "AAAAAQECAw=="⟩]⟩ [exSignerB]) = ([], some "errMalformedNote") ∧
    Generated.Note.Sign b64decI B64.b64enc isSpaceI 8 (gnote ⟨exT, [], []⟩) ([exSignerB, exSignerBad].map gsigner) =
      .ok ([], some "errInvalidSigner") ∧
    embedSign (Note.Sign ⟨exT, [], []⟩ [exSignerB, exSignerBad]) = ([], some "errInvalidSigner") ∧
    Generated.Note.Sign b64decI B64.b64enc isSpaceI 8 (gnote ⟨exT, [], []⟩) ([exSignerFail, exSignerBad].map gsigner) =
      .ok ([], some "sign failed") ∧
    embedSign (Note.Sign ⟨exT, [], []⟩ [exSignerFail, exSignerBad]) = ([], some "sign failed") := by
  decide +kernel

end ModVerif.Tie.FnNoteSign
