/- Tie: constants and leaf conditions of sumdb/note/note.go, regenerated from source by
   harness/cmd/extract (consts table + extra_note.go), equal the hand-written model's. -/
import ModVerif.Model.Note
import ModVerif.Generated.Facts
namespace ModVerif.Tie

theorem note_algEd25519_tie : Generated.note_algEd25519 = Note.algEd25519 := by decide

theorem note_sigSplit_tie : Generated.note_sigSplit = Note.sigSplit := by decide

theorem note_sigPrefix_tie : Generated.note_sigPrefix = Note.sigPrefix := by decide

/-- the cap `if numSig++; numSig > 100` of Open -/
theorem note_maxSigs_tie : Generated.note_maxSigs = Note.maxSigs := by decide

/-- the per-rune test of Open is still the one `Note.validMsg` transcribes -/
theorem note_Open_runeCheck_tie :
    Generated.note_Open_runeCheck_expr
      = ("r < 0x20 && r != '\\n' || r == utf8.RuneError && size == 1".toList.map fun c => UInt8.ofNat c.toNat) := by
  -- the unifier reads the literal as `String.ofList [..]`; the kernel's own `String.toList` on a literal is quadratic
  rw [String.toList_ofList]
  decide +kernel

/-- the per-line malformed test of Open is still the one `Note.parseSigLine` transcribes -/
theorem note_Open_lineCheck_tie :
    Generated.note_Open_lineCheck_expr
      = ("err != nil || !isValidName(name) || b64 == \"\" || len(sig) < 5".toList.map fun c => UInt8.ofNat c.toNat) := by
  rw [String.toList_ofList]
  decide +kernel

/-- isValidName is still the expression `Note.isValidName` transcribes -/
theorem note_isValidName_tie :
    Generated.note_isValidName_expr
      = ("name != \"\" && utf8.ValidString(name) && strings.IndexFunc(name, unicode.IsSpace) < 0 && !strings.Contains(name, \"+\") &&\n\tstrings.IndexFunc(name, func(r rune) bool { return r < 0x20 }) < 0".toList.map
          fun c => UInt8.ofNat c.toNat) := by
  rw [String.toList_ofList]
  decide +kernel

end ModVerif.Tie
