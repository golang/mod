/-
  Tie theorems, integer kernels of sumdb/tlog: the definitions regenerated from the Go source by go2lean
  (`Generated/FnTlog.lean`, CHECKED mode: every int64 result goes through `chk64`) compute exactly what the hand
  model (`Model/Tlog.lean`) says — in particular no panic, no fuel exhaustion and no int64 overflow on the stated range.
  Helper lemmas: `Proofs/TieFnTlogInt*.lean`, `Proofs/GoRtLemmasInt.lean`.
-/
import ModVerif.Generated.FnTlog
import ModVerif.Model.Tlog
import ModVerif.Proofs.TieFnTlogInt
import ModVerif.Proofs.TieFnTlogIntTree
import ModVerif.Proofs.TieFnTlogIntStore
namespace ModVerif.Tie.FnTlogInt
open ModVerif ModVerif.GoRt ModVerif.TieFnTlogInt

/-- `maxpow2`: for EVERY integer `n` (no range hypothesis; `n ≤ 1`, also negative, gives `(1, 0)` on both sides). -/
theorem maxpow2_tie (fuel : Nat) (n : Int) (hf : 63 ≤ fuel) :
    Generated.Tlog.maxpow2 fuel n =
      .ok (Int.ofNat (Tlog.maxpow2 n.toNat).1, Int.ofNat (Tlog.maxpow2 n.toNat).2) :=
  Tie.FnTlogProof.maxpow2_ok fuel n (by omega) (Or.inl hf)

example : Generated.Tlog.maxpow2 63 13 = .ok (8, 3) ∧ Tlog.maxpow2 (13 : Int).toNat = (8, 3) := ⟨rfl, rfl⟩

/-- `StoredHashIndex(level, n)` for `level ≥ 0`, `n ≥ 0` whenever the RESULT fits in int64 (then every intermediate
    does: the hypothesis is exactly "no int64 overflow"). -/
theorem StoredHashIndex_tie (fuel : Nat) (level n : Int) (hl : 0 ≤ level) (hn : 0 ≤ n)
    (hr : Tlog.storedHashIndex level.toNat n.toNat < 2 ^ 63) (hf : 64 ≤ fuel) :
    Generated.Tlog.StoredHashIndex fuel level n = .ok (Int.ofNat (Tlog.storedHashIndex level.toNat n.toNat)) := by
  have := StoredHashIndex_eq fuel level.toNat n.toNat hr hf
  rwa [Int.toNat_of_nonneg hl, Int.toNat_of_nonneg hn] at this

example : Generated.Tlog.StoredHashIndex 64 2 5 = .ok 44 ∧ Tlog.storedHashIndex (2 : Int).toNat (5 : Int).toNat = 44 := by
  exact ⟨rfl, rfl⟩

/-- the range hypothesis of `StoredHashIndex_tie` is exact: for int64 arguments `level ≥ 0`, `n ≥ 0` whose result does
    not fit in int64 the checked translation reports the overflow (the Go code wraps around). -/
theorem StoredHashIndex_tie_overflow (fuel : Nat) (level n : Int) (hl : 0 ≤ level) (hl' : level < 2 ^ 63) (hn : 0 ≤ n)
    (hn' : n < 2 ^ 63) (hr : 2 ^ 63 ≤ Tlog.storedHashIndex level.toNat n.toNat) (hf : level.toNat + 64 ≤ fuel) :
    Generated.Tlog.StoredHashIndex fuel level n = .error .overflow := by
  have := StoredHashIndex_overflow fuel level.toNat n.toNat (by omega) (by omega) hr hf
  rwa [Int.toNat_of_nonneg hl, Int.toNat_of_nonneg hn] at this

example : Generated.Tlog.StoredHashIndex 128 0 (2 ^ 62 + 1) = .error .overflow ∧
    2 ^ 63 ≤ Tlog.storedHashIndex (0 : Int).toNat ((2 ^ 62 + 1 : Int)).toNat := ⟨rfl, by decide⟩

/-- `SplitStoredHashIndex(index)` for `0 ≤ index ≤ MaxInt64 - 1`.  The model never fails there
    (`TlogStore.split_total`), so the right-hand side is `.ok (level, n)`; `splitOut` maps a model error to the
    "bad math" panic.  (At `index = MaxInt64` the value `x` of the loop is `2^63`: int64 overflow.) -/
theorem SplitStoredHashIndex_tie (fuel : Nat) (index : Int) (h0 : 0 ≤ index) (hr : index < 2 ^ 63 - 1) (hf : 64 ≤ fuel) :
    Generated.Tlog.SplitStoredHashIndex fuel index = splitOut (Tlog.splitStoredHashIndex index.toNat) := by
  have := SplitStoredHashIndex_eq fuel index.toNat (by omega) hf
  rwa [Int.toNat_of_nonneg h0] at this

example : Generated.Tlog.SplitStoredHashIndex 64 44 = .ok (2, 5) ∧
    splitOut (Tlog.splitStoredHashIndex (44 : Int).toNat) = .ok (2, 5) := ⟨rfl, rfl⟩

/-- the bound `index < MaxInt64` of `SplitStoredHashIndex_tie` is exact: `MaxInt64 = StoredHashIndex(0, 2^62)` is a valid
    stored-hash index (the model answers `(0, 2^62)`), but the loop then computes `indexN + 1 = 2^63`: int64 overflow. -/
theorem SplitStoredHashIndex_tie_maxInt64 (fuel : Nat) (hf : 64 ≤ fuel) :
    Generated.Tlog.SplitStoredHashIndex fuel (2 ^ 63 - 1) = .error .overflow := by
  have := SplitStoredHashIndex_maxInt64 fuel hf
  have e : (((2 ^ 63 - 1 : Nat)) : Int) = 2 ^ 63 - 1 := by omega
  rwa [e] at this

/-- `StoredHashCount(n)` for `n ≥ 0` whenever the result fits in int64. -/
theorem StoredHashCount_tie (fuel : Nat) (n : Int) (h0 : 0 ≤ n) (hr : Tlog.storedHashCount n.toNat < 2 ^ 63) (hf : 64 ≤ fuel) :
    Generated.Tlog.StoredHashCount fuel n = .ok (Int.ofNat (Tlog.storedHashCount n.toNat)) := by
  have := StoredHashCount_eq fuel n.toNat hr hf
  rwa [Int.toNat_of_nonneg h0] at this

/-- the range hypothesis of `StoredHashCount_tie` is exact: an int64 `n ≥ 0` whose count does not fit in int64 overflows -/
theorem StoredHashCount_tie_overflow (fuel : Nat) (n : Int) (h0 : 0 ≤ n) (hn : n < 2 ^ 63)
    (hr : 2 ^ 63 ≤ Tlog.storedHashCount n.toNat) (hf : 65 ≤ fuel) :
    Generated.Tlog.StoredHashCount fuel n = .error .overflow := by
  have := StoredHashCount_overflow fuel n.toNat (by omega) hr (by omega)
  rwa [Int.toNat_of_nonneg h0] at this

example : Generated.Tlog.StoredHashCount 64 13 = .ok 23 ∧ Tlog.storedHashCount (13 : Int).toNat = 23 := ⟨rfl, rfl⟩

/-- `subTreeIndex(lo, hi, need)` for `0 ≤ lo`, `hi ≤ 2^62`, constant fuel.  `subTreeIndexOut need` appends the model's
    indexes to `need`; the model's only error here is `panic` (`Tlog.subTreeIndex_ne_fuel`) and the generated code then
    panics as well ("tlog: bad math in subTreeIndex", reachable for unaligned `lo`, e.g. `lo = 1, hi = 3`); for the
    aligned intervals the provers use, `TlogStore.subTreeIndex_spec` shows the model is `.ok`.
    Beyond `hi = 2^62` StoredHashIndex overflows int64 (indexes are about `2·hi`). -/
theorem subTreeIndex_tie (fuel : Nat) (lo hi : Int) (need : List Int) (h0 : 0 ≤ lo) (hr : hi ≤ 2 ^ 62) (hf : 127 ≤ fuel) :
    Generated.Tlog.subTreeIndex fuel lo hi need = subTreeIndexOut need (Tlog.subTreeIndex lo.toNat hi.toNat) := by
  by_cases hh : 0 ≤ hi
  · have := subTreeIndex_eq fuel lo.toNat hi.toNat need (by omega) hf
    rwa [Int.toNat_of_nonneg h0, Int.toNat_of_nonneg hh] at this
  · rw [subTreeIndex_empty fuel lo hi need (by omega) (by omega),
      subTreeIndex_model_empty lo.toNat hi.toNat (by omega)]
    simp [subTreeIndexOut]

example : Generated.Tlog.subTreeIndex 127 0 13 [7] = .ok [7, 14, 21, 22] ∧
    subTreeIndexOut [7] (Tlog.subTreeIndex (0 : Int).toNat (13 : Int).toNat) = .ok [7, 14, 21, 22] := ⟨rfl, rfl⟩

example : Generated.Tlog.subTreeIndex 127 1 3 [] = .error .panic ∧
    subTreeIndexOut [] (Tlog.subTreeIndex (1 : Int).toNat (3 : Int).toNat) = .error .panic := ⟨rfl, rfl⟩

/-- `StoredHashesForRecordHash(n, h, r)` for an ARBITRARY hash type, node-hash function and reader `r`, for
    `0 ≤ n < MaxInt64` such that every index that is read (`shIndexes n` = the model's list
    `StoredHashIndex(i, n>>i - 1)`, `i < TrailingZeros64(n+1)`) fits in int64.  `readerOf r` is the model reader induced by
    `r`; `shOut` returns the model's hashes with a nil error, and for a failed read `nil` with the reader's own error or
    the "wrong number of hashes" message (`readErrOf`), which is what the Go code returns. -/
theorem StoredHashesForRecordHash_tie {H : Type} [DecidableEq H] [Inhabited H] (node : H → H → H) (fuel : Nat) (n : Int)
    (h : H) (r : List Int → List H × Option String) (h0 : 0 ≤ n) (hn : n < 2 ^ 63 - 1)
    (hr : ∀ x ∈ shIndexes n.toNat, x < 2 ^ 63) (hf : 128 ≤ fuel) :
    Generated.Tlog.StoredHashesForRecordHash node fuel n h r =
      .ok (shOut r n.toNat (Tlog.storedHashesForRecordHash node n.toNat h (readerOf r))) := by
  have := StoredHashesForRecordHash_eq' node fuel n.toNat h r (by omega) hr hf
  rwa [Int.toNat_of_nonneg h0] at this

/-- the same when the position `StoredHashIndex(0, n)` at which the record's hashes are to be stored fits in int64
    (every index read is smaller: `shIndexes_lt`) -/
theorem StoredHashesForRecordHash_tie_of_index {H : Type} [DecidableEq H] [Inhabited H] (node : H → H → H) (fuel : Nat)
    (n : Int) (h : H) (r : List Int → List H × Option String) (h0 : 0 ≤ n)
    (hr : Tlog.storedHashIndex 0 n.toNat < 2 ^ 63) (hf : 128 ≤ fuel) :
    Generated.Tlog.StoredHashesForRecordHash node fuel n h r =
      .ok (shOut r n.toNat (Tlog.storedHashesForRecordHash node n.toNat h (readerOf r))) := by
  rw [Tlog.storedHashIndex_zero_eq] at hr
  have := StoredHashesForRecordHash_eq node fuel n.toNat h r hr hf
  rwa [Int.toNat_of_nonneg h0] at this

/-- the same under the simple range hypothesis `n < 2^62` -/
theorem StoredHashesForRecordHash_tie_of_lt {H : Type} [DecidableEq H] [Inhabited H] (node : H → H → H) (fuel : Nat) (n : Int)
    (h : H) (r : List Int → List H × Option String) (h0 : 0 ≤ n) (hr : n < 2 ^ 62) (hf : 128 ≤ fuel) :
    Generated.Tlog.StoredHashesForRecordHash node fuel n h r =
      .ok (shOut r n.toNat (Tlog.storedHashesForRecordHash node n.toNat h (readerOf r))) := by
  apply StoredHashesForRecordHash_tie_of_index node fuel n h r h0 _ hf
  rw [Tlog.storedHashIndex_zero_eq]
  have := Tlog.S_le_two_mul n.toNat
  omega

/-- the same for StoredHashIndex: a complete subtree `(level, n)` of a log of at most `2^62` records -/
theorem StoredHashIndex_tie_of_le (fuel : Nat) (level n : Int) (hl : 0 ≤ level) (hn : 0 ≤ n)
    (hr : (n.toNat + 1) * 2 ^ level.toNat ≤ 2 ^ 62) (hf : 64 ≤ fuel) :
    Generated.Tlog.StoredHashIndex fuel level n = .ok (Int.ofNat (Tlog.storedHashIndex level.toNat n.toNat)) :=
  StoredHashIndex_tie fuel level n hl hn (storedHashIndex_lt_of_le _ _ hr) hf

-- non-vacuity on `H := Nat`: record 3 completes two subtrees; the reader returns 10·index, resp. fails
example : Generated.Tlog.StoredHashesForRecordHash (fun a b : Nat => 2 * a + 3 * b + 1) 128 3 5
      (fun idx => (idx.map fun i => i.toNat * 10, none)) = .ok ([5, 76, 269], none) ∧
    shOut (fun idx => (idx.map fun i => i.toNat * 10, none)) (3 : Int).toNat
      (Tlog.storedHashesForRecordHash (fun a b : Nat => 2 * a + 3 * b + 1) (3 : Int).toNat 5
        (readerOf fun idx => (idx.map fun i => i.toNat * 10, none))) = ([5, 76, 269], none) := ⟨rfl, rfl⟩

example : Generated.Tlog.StoredHashesForRecordHash (fun a b : Nat => a + b) 128 3 5
      (fun _ => ([], some "boom")) = .ok ([], some "boom") ∧
    shOut (fun _ => ([], some "boom")) (3 : Int).toNat
      (Tlog.storedHashesForRecordHash (fun a b : Nat => a + b) (3 : Int).toNat 5
        (readerOf fun _ => ([], some "boom"))) = ([], some "boom") := ⟨rfl, rfl⟩

end ModVerif.Tie.FnTlogInt
