/-
  TIE THEOREMS of the two bulk setters of the regenerated go.mod edit operations (Generated/FnEdit.lean, re-translated from
  /repo/modfile/rule.go on every run): `File.SetRequire` and `File.SetRequireSeparateIndirect` are the hand model's
  `setRequire` / `setRequireSeparateIndirect` (Model/Modfile/Edit.lean) on every heap that represents a model file
  (`FnEditRep.RepF`), for all sufficiently large fuel.

  * The local map `need` of both functions is an association list iterated in INSERTION order: the ties are for the model's
    parameter `perm = id` (= `permOf false`, what the drivers use).
  * The `[]*Require` argument is a list of pointers to `Require` objects of the heap: for SetRequire only their `Mod` and
    `Indirect` are read (`ReqArgs`); SetRequireSeparateIndirect appends the objects to `f.Require`, so they are FRESH
    (`ReqArgsS`: `Syntax == nil`) and not yet in `f.Require` — what the driver's `newReqs` / `allocReqs` below produces
    (`allocReqs_spec`).
  * The model's errors `conflictingVersions`, `nilDeref`, `badStatement` are Go panics: `.error .panic`.
  * SetRequireSeparateIndirect has one more hypothesis, `InTree`: the syntax line of every requirement is nil or a line OF THE
    TREE.  Without it model and code differ by design (moveReq copies the line object also when it is no longer in the graph;
    the model's `moveExisting` finds nothing and does nothing).  It holds for loaded files and is kept by the operations.
  * Fuel: `fuelSetRequire` / `fuelSep` are explicit (computable) functions of the model file and the request: one per loop
    iteration, plus what `AddNewRequire` (`nodeCount + 3`, `len(path) + 1`) and `SortBlocks` (`sortFuel`) ask for in the
    states the model passes through.
  Everything used is proved: `IndirectIdxOK` by FnEditTreeC.indirectIdx_all, `AddNewRequire` by Tie/FnEditReq,
  `SortBlocks` by Tie/FnEditSort, `AutoQuote` by Tie/FnModfile.
-/
import ModVerif.Proofs.TieFnEditSetP
import ModVerif.Proofs.TieFnEditSetQ
import ModVerif.Proofs.TieFnEditTreeC
import ModVerif.Proofs.TieFnEditSortEx
import ModVerif.Tie.FnEditTree
import ModVerif.Tie.FnEditReq
import ModVerif.Tie.FnEditSort
import ModVerif.Proofs.BytesLit
namespace ModVerif.Tie.FnEditSet
open ModVerif ModVerif.GoRt ModVerif.Generated.Edit ModVerif.Tie.FnEditRep
open ModVerif.Tie.FnEditSetA (ReqArgs ReqArg)
open ModVerif.Tie.FnEditSetB (IndirectIdxOK)
open ModVerif.Tie.FnEditSetC (AddNewRequireSpec SortBlocksSpec fuelSetRequire)
open ModVerif.Tie.FnEditSetD (ReqArgsS wantReq)
open ModVerif.Tie.FnEditSetH (AutoQuoteSpec)
open ModVerif.Tie.FnEditSetP (fuelSep)
open ModVerif.Tie.FnEditSetQ (allocReqs allocReqs_spec allocReqs_fresh InTree exMixed exFlat exReq exReqBad setRequireOp setRequireSepOp
  orSelf panics modelFails)
open ModVerif.Tie.FnEditSortE (sortFuel)
open ModVerif.Tie.FnEditSortEx (runFile modelFile exSortOld)
open ModVerif.TieFnEditAddLine (nodeCount)
open ModVerif.Modfile.Edit (EFile Want setRequire setRequireSeparateIndirect treeIds)
open ModVerif.Drv.GenEdit (isPrintI quoteI)

/-! ### the primitives, discharged -/

theorem indirectIdxOK : IndirectIdxOK := FnEditTreeC.indirectIdx_all

/-- fuel demand of `File_AddNewRequire` (Tie/FnEditReq.File_AddNewRequire_tie) -/
def addNewFuel (e : EFile) (path : Bytes) : Nat := max (nodeCount e.f.syn.stmts + 3) (path.length + 1)

theorem addNewRequireSpec : AddNewRequireSpec isPrintI quoteI addNewFuel := by
  intro h fp e path vers ind fuel R hf
  unfold addNewFuel at hf
  exact FnEditReq.File_AddNewRequire_tie R path vers ind fuel (by omega) (by omega)

theorem sortBlocksSpec : SortBlocksSpec sortFuel := fun _ _ _ fuel R hf => FnEditSort.File_SortBlocks_tie R fuel hf

theorem autoQuoteSpec : AutoQuoteSpec isPrintI quoteI := fun s fuel hf => FnEditReqB.AutoQuote_ok s fuel hf

/-- **`File.SetRequire` (rule.go:1204) = the model's `setRequire` with `perm = id`**: on a heap that represents `e`, with
    the request `ps` pointing at `Require` objects carrying the data of `req`, the regenerated function returns a heap that
    represents the model's result; where the model fails (`conflictingVersions`: two versions for one path;
    `nilDeref`: an existing entry already cleared) Go panics. -/
theorem File_SetRequire_tie {h : Heap} {fp : Int} {e : EFile} {ps : List Int} {req : List Want} {fuel : Nat}
    (R : RepF h fp e) (hq : ReqArgs h.requires ps req) (hf : fuelSetRequire addNewFuel sortFuel e req ≤ fuel) :
    match setRequire e req id with
    | .ok e' => ∃ h', File_SetRequire isPrintI quoteI fuel fp ps h = .ok ((), h') ∧ RepF h' fp e'
    | .error _ => File_SetRequire isPrintI quoteI fuel fp ps h = .error .panic :=
  FnEditSetC.File_SetRequire_sim indirectIdxOK addNewRequireSpec sortBlocksSpec R hq hf

/-- the form for the driver: the request allocated by `allocReqs` -/
theorem File_SetRequire_alloc_tie {h : Heap} {fp : Int} {e : EFile} (req : List Want) {fuel : Nat}
    (R : RepF h fp e) (hf : fuelSetRequire addNewFuel sortFuel e req ≤ fuel) :
    match setRequire e req id with
    | .ok e' => ∃ h', File_SetRequire isPrintI quoteI fuel fp (allocReqs req h).1 (allocReqs req h).2 = .ok ((), h') ∧ RepF h' fp e'
    | .error _ => File_SetRequire isPrintI quoteI fuel fp (allocReqs req h).1 (allocReqs req h).2 = .error .panic := by
  obtain ⟨R', hargs, _⟩ := allocReqs_spec req R
  exact File_SetRequire_tie R' hargs.toArgs hf


-- a require line and a block: `a.b/c` gets a new version and the indirect mark, `d.e/f` loses its mark, `x.y/z` is removed,
-- `g.h/i` and `k.l/m` are added (in the order of the request), SortBlocks
example : runFile exMixed (setRequireOp exReq 400) = modelFile exMixed (orSelf fun e => setRequire e exReq id) ∧
    (runFile exMixed (setRequireOp exReq 400)).isSome = true := by rw [B_lit exMixed]; decide +kernel

-- two versions for one path: the panic of SetRequire = the model's `conflictingVersions`
example : panics exMixed (setRequireOp exReqBad 400) = true ∧ modelFails exMixed (fun e => setRequire e exReqBad id) = true := by
  rw [B_lit exMixed]; decide +kernel

/-- the hypotheses of `File_SetRequire_alloc_tie` hold for the loaded example file with the fuel of the example -/
example : ∃ f, Modfile.parseStrict (B "go.mod") exMixed none = .ok f ∧
    RepF (Drv.GenEdit.load f).1 (Drv.GenEdit.load f).2 (Modfile.Edit.load f) ∧
    fuelSetRequire addNewFuel sortFuel (Modfile.Edit.load f) exReq ≤ 400 := by
  have h : (match Modfile.parseStrict (B "go.mod") exMixed none with
      | .ok f => decide (fuelSetRequire addNewFuel sortFuel (Modfile.Edit.load f) exReq ≤ 400) | .error _ => false) = true := by
    rw [B_lit exMixed]; decide +kernel
  cases hp : Modfile.parseStrict (B "go.mod") exMixed none with
  | error e => rw [hp] at h; cases h
  | ok f =>
    rw [hp] at h
    exact ⟨f, rfl, FnEditTree.load_parsed_rep hp, of_decide_eq_true h⟩

/-- **`File.SetRequireSeparateIndirect` (rule.go:1260) = the model's `setRequireSeparateIndirect` with `perm = id`**: the
    scan of the statements, `oneFlatUncommentedBlock`, the direct and the indirect block (inserted, or the existing line /
    block), the loop over the existing requirements (update / delete / move with `moveReq`), the additions, `SortBlocks`.
    The request objects are fresh (`ReqArgsS`) and not in `f.Require`; `InTree e`.  Where the model fails (`nilDeref`,
    `badStatement`) Go panics. -/
theorem File_SetRequireSeparateIndirect_tie {h : Heap} {fp : Int} {e : EFile} {ps : List Int} {req : List Want} {fuel : Nat}
    (R : RepF h fp e) (hq : ReqArgsS h.requires ps req)
    (hdis : ∀ o, heapGet h.mods fp = .ok o → ∀ p ∈ ps, p ∉ o.Require) (hT : InTree e)
    (hf : fuelSep sortFuel e req ≤ fuel) :
    match setRequireSeparateIndirect e req id with
    | .ok e' => ∃ h', File_SetRequireSeparateIndirect isPrintI quoteI fuel fp ps h = .ok ((), h') ∧ RepF h' fp e'
    | .error _ => File_SetRequireSeparateIndirect isPrintI quoteI fuel fp ps h = .error .panic :=
  FnEditSetP.File_SetRequireSeparateIndirect_sim indirectIdxOK autoQuoteSpec sortBlocksSpec R hq hdis hT hf

/-- the form for the driver: the request allocated by `allocReqs` -/
theorem File_SetRequireSeparateIndirect_alloc_tie {h : Heap} {fp : Int} {e : EFile} (req : List Want) {fuel : Nat}
    (R : RepF h fp e) (hT : InTree e) (hf : fuelSep sortFuel e req ≤ fuel) :
    match setRequireSeparateIndirect e req id with
    | .ok e' => ∃ h', File_SetRequireSeparateIndirect isPrintI quoteI fuel fp (allocReqs req h).1 (allocReqs req h).2 = .ok ((), h') ∧
        RepF h' fp e'
    | .error _ => File_SetRequireSeparateIndirect isPrintI quoteI fuel fp (allocReqs req h).1 (allocReqs req h).2 = .error .panic := by
  obtain ⟨R', hargs, _⟩ := allocReqs_spec req R
  exact File_SetRequireSeparateIndirect_tie R' hargs (allocReqs_fresh req R) hT hf

-- a require line and a mixed block: the line is wrapped into the direct block, a new indirect block is inserted after it,
-- `a.b/c` (now indirect) stays where it is (commented blocks / lines of other blocks are not moved), new entries go to
-- their blocks
example : runFile exMixed (setRequireSepOp exReq 400) = modelFile exMixed (orSelf fun e => setRequireSeparateIndirect e exReq id) ∧
    (runFile exMixed (setRequireSepOp exReq 400)).isSome = true := by rw [B_lit exMixed]; decide +kernel

-- one flat uncommented block: split into a direct and an indirect block (`moveReq` of existing requirements)
example : runFile exFlat (setRequireSepOp exReq 400) = modelFile exFlat (orSelf fun e => setRequireSeparateIndirect e exReq id) ∧
    (runFile exFlat (setRequireSepOp exReq 400)).isSome = true := by rw [B_lit exFlat]; decide +kernel

/-- the hypotheses of `File_SetRequireSeparateIndirect_alloc_tie` hold for the loaded example files with the fuel of the
    examples -/
example : ∃ f, Modfile.parseStrict (B "go.mod") exFlat none = .ok f ∧
    RepF (Drv.GenEdit.load f).1 (Drv.GenEdit.load f).2 (Modfile.Edit.load f) ∧ InTree (Modfile.Edit.load f) ∧
    fuelSep sortFuel (Modfile.Edit.load f) exReq ≤ 400 := by
  have h : (match Modfile.parseStrict (B "go.mod") exFlat none with
      | .ok f => decide (InTree (Modfile.Edit.load f)) && decide (fuelSep sortFuel (Modfile.Edit.load f) exReq ≤ 400)
      | .error _ => false) = true := by
    rw [B_lit exFlat]; decide +kernel
  cases hp : Modfile.parseStrict (B "go.mod") exFlat none with
  | error e => rw [hp] at h; cases h
  | ok f =>
    rw [hp] at h
    simp only [Bool.and_eq_true, decide_eq_true_eq] at h
    exact ⟨f, rfl, FnEditTree.load_parsed_rep hp, h.1, h.2⟩

end ModVerif.Tie.FnEditSet
