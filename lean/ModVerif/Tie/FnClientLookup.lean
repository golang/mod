/-
  Tie theorems, sumdb/client.go, the top of the client: `Client.initWork`, `Client.init`, `Client.skip`,
  `Client.Lookup` with its `c.record.Do` closure and its prefix filter, regenerated from the Go source by go2lean
  (`Generated/FnClient.lean`: `Client_initWork`, `Client_init`, `Client_skip`, `Client_Lookup`, `Client_Lookup_cacheFn1`,
  `Client_Lookup_loop2`), against the hand model (`Model/Client.lean`: `initWork`, `init`, `lookupWork`, `trimGoMod`,
  `filterLines`, `lookup`, `newClient`, `setInit`).

  Shape (Proofs/TieFnClientRep.lean): the generated code runs in the environment `envOf P E` built from the model's
  `Params` / `Env`; the generated world `cw` carries the model's state and effect trace; `RepW P E w cw` says that `cw`
  represents the model world `w`; a Go `error` text `g` represents the model's error kind `e` when `errAbs` maps it there
  (`RepErr`, `RepRes`, `RepCached`); the wrappers `"%s@%s: %v"` and `"initializing sumdb.Client: %v"` are transparent.
  Every tie says: from related worlds, with enough fuel, the generated function RETURNS (no panic, no fuel exhaustion),
  its result represents the model's result and its world represents the model's world — effects included, because the
  trace is part of the world.

  What is assumed:
  * `MergeLatestSpec P E AM` / `CheckRecordSpec P E AC`: the same statement for `Client_mergeLatest` / `Client_checkRecord`
    (unit of Tie/FnClientMerge.lean), with their side conditions `AM fuel w msg` / `AC fuel w id data` (fuel bound along
    the model's run, exclusion of the model-only outcomes); they are threaded through `InitAdm` / `LookupWorkAdm` /
    `LookupAdm`, which evaluate them at exactly the worlds in which the model makes the calls;
  * `hsha`: the key-hash function returns at least four bytes (SHA-256 returns 32): otherwise `binary.BigEndian.Uint32`
    panics inside `note.NewVerifier` (the model records `.key .panic`, the code panics);
  * explicit fuel: the `GONOSUMDB` scan, `EscapePath`, `EscapeVersion`, `ParseRecord` and the `strings.Split` filter need
    `|nosumdb| + |path| + 1`, `2|path| + 24`, `|vers'| + 23`, `|data| + 1`, `|data| + 2` units.
  `RepL` = `RepW` + "nothing is marked saved before `initWork` has run" (the Go `initWork` resets `c.tileSaved`; the model
  starts from the empty list and never touches it before): it holds initially (`newClient_tie`) and every `Lookup` keeps it.

-/
import ModVerif.Proofs.TieFnClientLookupMain
set_option linter.unusedSectionVars false
namespace ModVerif.Tie.FnClientLookup
open ModVerif ModVerif.GoRt ModVerif.Generated.SumdbClient ModVerif.TieFnClientRep ModVerif.TieFnClientLookup

section
variable {σ H : Type} [DecidableEq H] [Inhabited H]

/-- `strings.TrimSuffix(vers, "/go.mod")` -/
theorem trimGoMod_tie (vers : Bytes) :
    trimSuffix vers ([47, 103, 111, 46, 109, 111, 100] : Bytes) = Client.trimGoMod vers :=
  trimSuffix_gomod vers

example : trimSuffix (B "v1.0.0/go.mod") ([47, 103, 111, 46, 109, 111, 100] : Bytes) = B "v1.0.0" ∧
    Client.trimGoMod (B "v1.0.0/go.mod") = B "v1.0.0" := by decide +kernel

/-- loop 2 of `Lookup` over `strings.Split(data, "\n")`: the lines with the prefix, i.e. the model's `filterLines` -/
theorem filterLines_tie (E : ClientEnv σ H) (result : Cached) (pre data : Bytes) (world : CW σ H) (fuel : Nat)
    (hf : data.length + 2 ≤ fuel) :
    Client_Lookup_loop2 E (split data ([10] : Bytes)) result pre world fuel (0 : Int) ([] : List Bytes) =
      .ok (len (split data ([10] : Bytes)), Client.filterLines pre data) :=
  loop2_filterLines E result pre data world fuel hf

/-- `Client.skip`: `module.MatchPrefixPatterns(c.nosumdb, target)` with the model's `glob` as `path.Match` -/
theorem Client_skip_tie (P : Client.Params H) (E : Client.Env σ) (fuel : Nat) (target : Bytes) (cw : GW σ H)
    (hf : cw.nosumdb.length + target.length + 1 ≤ fuel) :
    Client_skip (envOf P E) fuel target cw = .ok (Module.matchPrefixPatterns P.glob cw.nosumdb target, cw) := by
  unfold Client_skip
  have h : matchPrefixPatternsX (envOf P E) fuel cw.nosumdb target =
      .ok (Module.matchPrefixPatterns P.glob cw.nosumdb target) :=
    Tie.FnModule.MatchPrefixPatterns_tie (fun p n => (P.glob p n, none)) cw.nosumdb target fuel hf
  rw [h]; rfl

/-- `NewClient` (+ `SetTileHeight`, `SetGONOSUMDB`): the initial worlds correspond; `z` is the zero hash of `NewClient` -/
theorem newClient_tie (P : Client.Params H) (E : Client.Env σ) (s : σ) (z : H) :
    RepL P E { s := s, c := Client.newClient P, tr := [] } (cw0 P s z) :=
  ⟨rep_init P E s z, fun _ => rfl⟩

/-- `Client.initWork`, run by `Client.init` after it has set `initDone`, from a world in which `initOnce` has not run -/
theorem Client_initWork_tie (P : Client.Params H) (E : Client.Env σ) (AM : Nat → Client.World σ H → Bytes → Prop)
    (hM : MergeLatestSpec P E AM) (hsha : ∀ x, 4 ≤ (P.sha x).length)
    (w : Client.World σ H) (cw : GW σ H) (fuel : Nat) (h : RepW P E w cw)
    (hin : w.c.inited = none) (hts : w.c.tileSaved = []) (ha : InitAdm P E AM fuel w) :
    ∃ cw', Client_initWork (envOf P E) fuel { cw with initDone := true } = .ok ((), cw') ∧
      RepW P E (Client.initWork P E w) cw' :=
  initWork_tie P E AM hM hsha w cw fuel h hin hts ha

/-- `Client.init`: `c.initOnce.Do(c.initWork)`, the result is `c.initErr` -/
theorem Client_init_tie (P : Client.Params H) (E : Client.Env σ) (AM : Nat → Client.World σ H → Bytes → Prop)
    (hM : MergeLatestSpec P E AM) (hsha : ∀ x, 4 ≤ (P.sha x).length)
    (w : Client.World σ H) (cw : GW σ H) (fuel : Nat) (h : RepL P E w cw)
    (ha : w.c.inited = none → InitAdm P E AM fuel w) :
    ∃ cw', Client_init (envOf P E) fuel cw = .ok (cw'.initErr, cw') ∧ RepL P E (Client.init P E w) cw' ∧
      (match (Client.init P E w).c.inited with
       | some (some e) => RepErr cw'.initErr e
       | _ => cw'.initErr = none) := by
  obtain ⟨cw', h1, h2⟩ := init_tie P E AM hM hsha w cw fuel h.1 h.2 ha
  refine ⟨cw', h1, ⟨h2, fun h0 => absurd h0 (init_inited P E w)⟩, ?_⟩
  have hi := h2.init
  unfold RepInit at hi
  cases hin : (Client.init P E w).c.inited with
  | none => exact absurd hin (init_inited P E w)
  | some x =>
    rw [hin] at hi
    cases x with
    | none => exact hi.2.1
    | some e => exact hi.2

/-- the closure of `Lookup` passed to `c.record.Do` (`Client_Lookup_cacheFn1`): cache, else server; `ParseRecord`,
    `mergeLatest`, `checkRecord`, `WriteCache` -/
theorem Client_Lookup_cacheFn1_tie (P : Client.Params H) (E : Client.Env σ) (AM : Nat → Client.World σ H → Bytes → Prop)
    (AC : Nat → Client.World σ H → Int → Bytes → Prop) (hM : MergeLatestSpec P E AM) (hC : CheckRecordSpec P E AC)
    (w : Client.World σ H) (cw : GW σ H) (fuel : Nat) (file remotePath : Bytes) (hr : RepRun P E w cw)
    (ha : LookupWorkAdm P E AM AC fuel w file remotePath) :
    ∃ cv cw', Client_Lookup_cacheFn1 (envOf P E) fuel remotePath file cw = .ok (cv, cw') ∧
      RepRun P E (Client.lookupWork P E w file remotePath).2 cw' ∧
      RepCached cv (Client.lookupWork P E w file remotePath).1 ∧
      cw'.initDone = cw.initDone ∧ cw'.initErr = cw.initErr := by
  obtain ⟨cv, cw', h1, h2, h3, ⟨h4, h5⟩, _⟩ := lookupWork_tie P E AM AC hM hC w cw fuel file remotePath hr ha
  exact ⟨cv, cw', h1, h2, h3, h4, h5⟩

/-- `Client.Lookup`: from related worlds the regenerated `Lookup` returns; its `(lines, error)` represents the
    model's result (equal lines, or an error text of the model's error kind) and its world — state behind `ClientOps`,
    trace of all external operations, both memo tables, latest tree head — represents the model's world. -/
theorem Lookup_tie (P : Client.Params H) (E : Client.Env σ) (AM : Nat → Client.World σ H → Bytes → Prop)
    (AC : Nat → Client.World σ H → Int → Bytes → Prop) (hM : MergeLatestSpec P E AM) (hC : CheckRecordSpec P E AC)
    (hsha : ∀ x, 4 ≤ (P.sha x).length)
    (w : Client.World σ H) (cw : GW σ H) (fuel : Nat) (path vers : Bytes) (h : RepL P E w cw)
    (ha : LookupAdm P E AM AC fuel w path vers) :
    ∃ r' cw', Client_Lookup (envOf P E) fuel path vers cw = .ok (r', cw') ∧
      RepL P E (Client.lookup P E w path vers).2 cw' ∧ RepRes r' (Client.lookup P E w path vers).1 :=
  lookup_tie P E AM AC hM hC hsha w cw fuel path vers h ha

/-- … in particular the lines are the model's lines and the effect trace is the model's trace -/
theorem Lookup_tie_lines (P : Client.Params H) (E : Client.Env σ) (AM : Nat → Client.World σ H → Bytes → Prop)
    (AC : Nat → Client.World σ H → Int → Bytes → Prop) (hM : MergeLatestSpec P E AM) (hC : CheckRecordSpec P E AC)
    (hsha : ∀ x, 4 ≤ (P.sha x).length)
    (w : Client.World σ H) (cw : GW σ H) (fuel : Nat) (path vers : Bytes) (h : RepL P E w cw)
    (ha : LookupAdm P E AM AC fuel w path vers) :
    ∃ r' cw', Client_Lookup (envOf P E) fuel path vers cw = .ok (r', cw') ∧
      cw'.s = ((Client.lookup P E w path vers).2.s, (Client.lookup P E w path vers).2.tr) ∧
      (∀ lines, r' = (lines, none) ↔ (Client.lookup P E w path vers).1 = .ok lines) := by
  obtain ⟨r', cw', h1, h2, h3⟩ := Lookup_tie P E AM AC hM hC hsha w cw fuel path vers h ha
  refine ⟨r', cw', h1, h2.1.s, fun lines => ?_⟩
  cases hr : (Client.lookup P E w path vers).1 with
  | ok l =>
    rw [hr] at h3
    rw [(RepRes_ok_iff r' l).mp h3]
    constructor
    · intro e; cases e; rfl
    · intro e; cases e; rfl
  | error e =>
    rw [hr] at h3
    obtain ⟨s, hs, _⟩ := h3
    constructor
    · intro e'; rw [e'] at hs; cases hs
    · intro e'; cases e'

end

/-! ### non-vacuity: a concrete client (toy hashes), an environment in which every read fails -/

def xP : Client.Params UInt8 :=
  { leaf := fun _ => 7, node := fun a b => a + b, empty := 0, hashSize := 1, dec := fun b => b.headD 0, enc := fun h => [h],
    height := 2, nosumdb := B "x.y", isLetter := fun _ => false, glob := fun p n => p == n, sha := fun _ => [0, 0, 0, 0],
    edVerify := fun _ _ _ => true, retries := 1 }

def xE : Client.Env Unit :=
  { readRemote := fun s _ => (none, s), readCache := fun s _ => (none, s), readConfig := fun s _ => (none, s),
    writeCache := fun s _ _ => s, writeConfig := fun s _ _ _ => (.ok, s), securityError := fun s _ => s }

def xW : Client.World Unit UInt8 := { s := (), c := Client.newClient xP, tr := [] }

/-- what a generated call returned, without the world -/
def resOf {α : Type} (r : M (α × GW Unit UInt8)) : Option α :=
  match r with
  | .ok (a, _) => some a
  | .error _ => none

-- skip: the module is excluded; both sides answer ErrGONOSUMDB
example : resOf (Client_skip (envOf xP xE) 20 (B "x.y") (cw0 xP () 0)) = some true ∧
    Module.matchPrefixPatterns xP.glob xP.nosumdb (B "x.y") = true ∧
    resOf (Client_Lookup (envOf xP xE) 20 (B "x.y") (B "v1.0.0") (cw0 xP () 0)) = some ([], some "ErrGONOSUMDB") ∧
    (Client.lookup xP xE xW (B "x.y") (B "v1.0.0")).1 = .error .gonosumdb ∧ errAbs "ErrGONOSUMDB" = .gonosumdb := by
  refine ⟨?_, ?_, ?_, ?_, errAbs_gonosumdb⟩ <;> decide +kernel

-- init: the key cannot be read; both sides record the configuration error, Lookup returns it (wrapped twice)
example : resOf (Client_init (envOf xP xE) 60 (cw0 xP () 0)) = some (some "initializing sumdb.Client: %v|config") ∧
    (Client.init xP xE xW).c.inited = some (some .config) ∧
    resOf (Client_Lookup (envOf xP xE) 60 (B "a.b/c") (B "v1.0.0") (cw0 xP () 0)) =
      some ([], some "%s@%s: %v|initializing sumdb.Client: %v|config") ∧
    (Client.lookup xP xE xW (B "a.b/c") (B "v1.0.0")).1 = .error .config ∧
    errAbs "%s@%s: %v|initializing sumdb.Client: %v|config" = .config ∧
    (Client.lookup xP xE xW (B "a.b/c") (B "v1.0.0")).2.tr = [.read .config (B "key") false] := by
  refine ⟨?_, ?_, ?_, ?_, errAbs_lit _ rfl (by decide), ?_⟩ <;> decide +kernel

-- the closure: neither the cache nor the server answers
example : (resOf (Client_Lookup_cacheFn1 (envOf xP xE) 10 (B "/lookup/a.b/c@v1.0.0") (B "k/lookup/a.b/c@v1.0.0") (cw0 xP () 0))).map
      (fun c => (c.data, c.err)) = some ([], some "remote") ∧
    (Client.lookupWork xP xE xW (B "k/lookup/a.b/c@v1.0.0") (B "/lookup/a.b/c@v1.0.0")).1 = .error .remote ∧
    errAbs "remote" = .remote := by
  refine ⟨?_, ?_, errAbs_remote⟩ <;> decide +kernel

-- the filter
example : Client_Lookup_loop2 (envOf xP xE) (split (B "a 1 x\nb 1 y\na 1 z") [10]) default (B "a 1 ") (cw0 xP () 0) 20 0 [] =
      .ok (3, [B "a 1 x", B "a 1 z"]) ∧
    Client.filterLines (B "a 1 ") (B "a 1 x\nb 1 y\na 1 z") = [B "a 1 x", B "a 1 z"] := by
  decide +kernel

end ModVerif.Tie.FnClientLookup
