/-
  C20 about the REGENERATED directive layer: `parseToFile_total`, `lax_superset` and `unknown_verb_unknownDirective` of
  Props/C20.lean restated about `Generated.Rule.parseToFile` / `Generated.Rule.File_add` (Generated/FnRule.lean,
  regenerated from modfile/rule.go on every check) through the ties of Tie/FnRuleAdd.lean.  The world parameters are the
  driver's (Drv/GenRule.lean); the syntax tree comes from `parseSynI` (the hand model's parser, tied to the regenerated
  parser by Tie/FnParse.lean, loaded into the heap); `fileM` is the driver's read-back of the typed file from the heap.
  The fuel hypothesis is `TreeFuel` on the parsed tree (decidable: `FnRuleAddP.treeFuelB`), see Tie/FnRuleAdd.lean.

  * `parseToFile_total_gen`: the regenerated Parse / ParseLax never runs out of fuel and never panics; it returns a
    pointer whose read-back is the model's file, or nil and an error value that stands for the model's NON-EMPTY error
    list — and which of the two is decided by the model.
  * `lax_superset_gen`: every file the regenerated strict parser accepts is accepted by the regenerated lax parser, with
    the same module, go, require and retract entries (read back from the two heaps).
  * `unknown_verb_unknownDirective_gen`: on a represented state the regenerated `File.add` in strict mode, for a verb
    outside `addVerbs`, appends exactly the "unknown directive" error at the start of the line and changes nothing else.
-/
import ModVerif.Tie.FnRuleAdd
import ModVerif.Props.C20
import ModVerif.Proofs.BytesLit
namespace ModVerif.Tie.FnRuleC20
open ModVerif ModVerif.GoRt ModVerif.Generated ModVerif.Tie.FnRuleRep
open ModVerif.Tie.FnRuleAddA ModVerif.Tie.FnRuleAddB ModVerif.Tie.FnRuleAddO ModVerif.Tie.FnRuleAddP ModVerif.Tie.FnRuleAddEx
open ModVerif.Drv.GenRule (isPrintI unquoteI laxSubI deprecatedSubI fixG parseSynI idOf idsOf fileM encErr)

/-- an error value that stands for an error list is not nil -/
theorem ErrValRep.isSome {e : Option String} {es : List Modfile.RuleErr} (h : ErrValRep e es) : e ≠ none := by
  rcases h with ⟨errs, rfl, _⟩ | ⟨_, _, _, rfl⟩ <;> simp [Rule.errListErr]

/-- **Parse / ParseLax, regenerated: a file or a NON-EMPTY error list, as the model says; never out of fuel, never a
    panic** -/
theorem parseToFile_total_gen (name data : Bytes) (fx : Option Modfile.Fixer) (strict : Bool) (F fuel : Nat)
    (hT : ∀ fs, Modfile.parse name data = .ok fs → TreeFuel F fuel fx fs) :
    (∃ fp h f, PTF fuel name data (fixG fx) strict default = .ok ((fp, none), h) ∧ fileM (idsOf name data) h fp = some f ∧
      Modfile.parseToFile name data fx strict = .ok f) ∨
    (∃ e h es, PTF fuel name data (fixG fx) strict default = .ok (((0 : Int), e), h) ∧ ErrValRep e es ∧ es ≠ [] ∧
      Modfile.parseToFile name data fx strict = .error es) := by
  have := FnRuleAdd.parseToFile_tie name data fx strict F fuel hT
  cases hm : Modfile.parseToFile name data fx strict with
  | ok f =>
    rw [hm] at this
    obtain ⟨fp, h, h1, h2⟩ := this
    exact Or.inl ⟨fp, h, f, h1, h2, rfl⟩
  | error es =>
    rw [hm] at this
    obtain ⟨e, h, h1, h2, h3⟩ := this
    exact Or.inr ⟨e, h, es, h1, h2, h3, rfl⟩

-- non-vacuity: both alternatives occur (evaluated), the fuel hypothesis holds for these inputs
set_option maxRecDepth 100000 in
example : (match PTF 5000 (B "go.mod") exMod (fixG (some Modfile.fixStub)) true default with
      | .ok ((fp, none), h) => (fileM (idsOf (B "go.mod") exMod) h fp).isSome
      | _ => false) = true ∧
    (match PTF 5000 (B "go.mod") exBad (fixG none) true default with
      | .ok ((fp, some _), _) => decide (fp = 0)
      | _ => false) = true ∧
    inputFuelB 4096 5000 (B "go.mod") exMod (some Modfile.fixStub) = true ∧ inputFuelB 4096 5000 (B "go.mod") exBad none = true := by
  rw [B_lit exBad, B_lit exMod]; decide +kernel

/-- **lax ⊇ strict, regenerated**: a file accepted by the regenerated strict parser is accepted by the regenerated lax
    parser with the same module, go, require and retract entries -/
theorem lax_superset_gen (name data : Bytes) (fx : Option Modfile.Fixer) (F fuel : Nat)
    (hT : ∀ fs, Modfile.parse name data = .ok fs → TreeFuel F fuel fx fs)
    (fp : Int) (h : Rule.Heap) (f : Modfile.File)
    (hs : PTF fuel name data (fixG fx) true default = .ok ((fp, none), h)) (hf : fileM (idsOf name data) h fp = some f) :
    ∃ fp' h' g, PTF fuel name data (fixG fx) false default = .ok ((fp', none), h') ∧ fileM (idsOf name data) h' fp' = some g ∧
      g.module = f.module ∧ g.go = f.go ∧ g.require = f.require ∧ g.retract = f.retract := by
  rcases parseToFile_total_gen name data fx true F fuel hT with ⟨fp1, h1, f1, r1, m1, hm⟩ | ⟨e, h1, es, r1, hv, _, _⟩
  · rw [hs] at r1
    cases r1
    rw [hf] at m1
    cases m1
    obtain ⟨g, hg, e1, e2, e3, e4⟩ := Props.C20.lax_superset name data fx f hm
    rcases parseToFile_total_gen name data fx false F fuel hT with ⟨fp2, h2, f2, r2, m2, hm2⟩ | ⟨_, _, es2, _, _, _, hm2⟩
    · rw [hg] at hm2
      cases hm2
      exact ⟨fp2, h2, g, r2, m2, e1, e2, e3, e4⟩
    · rw [hg] at hm2; cases hm2
  · rw [hs] at r1
    cases r1
    exact absurd rfl (ErrValRep.isSome hv)

-- non-vacuity: the strict and the lax run on the example file, the four fields agree
set_option maxRecDepth 100000 in
example : (match PTF 5000 (B "go.mod") exMod (fixG (some Modfile.fixStub)) true default,
      PTF 5000 (B "go.mod") exMod (fixG (some Modfile.fixStub)) false default with
    | .ok ((fp, none), h), .ok ((fp', none), h') =>
      (match fileM (idsOf (B "go.mod") exMod) h fp, fileM (idsOf (B "go.mod") exMod) h' fp' with
       | some f, some g => decide (g.module = f.module ∧ g.go = f.go ∧ g.require = f.require ∧ g.retract = f.retract ∧ f.retract ≠ [])
       | _, _ => false)
    | _, _ => false) = true := by rw [B_lit exMod]; decide +kernel

/-- **unknown verb, regenerated**: in strict mode the regenerated `File.add`, for a verb outside `addVerbs` (the case
    labels of File.add's switch, `Tie.modfile_addVerbs_tie`), appends the "unknown directive" error at the start of the
    line — the model's `unknown_verb_unknownDirective` result — and changes no token, no typed entry -/
theorem unknown_verb_unknownDirective_gen {ι : Int → Nat} {h : Rule.Heap} {fp : Int} {errs : List Rule.Error} {st : Modfile.AddState}
    {syn : Modfile.FileSyntax} {lp : Int} {l : Modfile.Line} {pre args : List Bytes}
    (R : RepRS ι h fp errs st syn) (hl : RLine ι h lp l) (htok : l.token = pre ++ args)
    (block : Int) (bc : Option Modfile.Comments) (verb : Bytes) (fx : Option Modfile.Fixer) (fuel : Nat)
    (hv : Modfile.verbIn verb Modfile.addVerbs = false) :
    ∃ errs' h',
      Rule.File_add deprecatedSubI Modfile.goVersionRE isPrintI laxSubI Quote.quote Modfile.toolchainRE unquoteI fuel fp errs block lp verb
        { owner := lp, lo := (pre.length : Int) } (fixG fx) true h = .ok (((), errs'), h') ∧
      StepPost ι h fp syn lp l pre (Modfile.File.add st bc l verb args fx true) errs' h' ∧
      Modfile.File.add st bc l verb args fx true = (st.err l.start .unknownDirective, args) := by
  have hm := Props.C20.unknown_verb_unknownDirective st bc l verb args fx hv
  obtain ⟨errs', h', h1, h2⟩ := FA_unknown R hl htok fuel block verb (fixG fx) hv
  exact ⟨errs', h', h1, by rw [hm]; exact h2, hm⟩

-- non-vacuity: `frob` is not a verb; the regenerated File.add reports it
set_option maxRecDepth 100000 in
example : Modfile.verbIn (B "frob") Modfile.addVerbs = false ∧
    (match Rule.File_add deprecatedSubI Modfile.goVersionRE isPrintI laxSubI Quote.quote Modfile.toolchainRE unquoteI 100 1 [] 0 1 (B "frob")
        { owner := 1, lo := 1 } none true (exLoad (B "frob x\n")) with
      | .ok ((_, errs), _) => errs.map (fun e => (e.Pos, e.Err))
      | .error _ => []) = [({ Line := 1, LineRune := 1, Byte := 0 }, some "unknown directive: %s")] := by decide +kernel

end ModVerif.Tie.FnRuleC20
