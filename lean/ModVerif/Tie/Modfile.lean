/-
  Tie: facts regenerated from modfile/{read,rule,work,print}.go by harness/cmd/extract equal the
  literals the hand-written model uses: verb lists of the directive switches, regexp source texts
  (the matchers in Model/Modfile/Rule.lean are hand translations of exactly these texts), the rune
  lists of the lexer and of MustQuote, and the printer's separator conditions.
-/
import ModVerif.Model.Modfile.Work
import ModVerif.Generated.Facts
namespace ModVerif.Tie
open ModVerif.Modfile

theorem modfile_blockVerbs_tie : Generated.modfile_parseToFile_blockVerbs = blockVerbs := rfl
theorem modfile_laxVerbs_tie : Generated.modfile_add_laxVerbs = laxVerbs := rfl
theorem modfile_addVerbs_tie : Generated.modfile_add_verbs = addVerbs := rfl
theorem modfile_workVerbs_tie : Generated.modfile_workAdd_verbs = workVerbs := rfl
theorem modfile_workBlockVerbs_tie : Generated.modfile_parseWork_blockVerbs = workBlockVerbs := rfl

theorem modfile_GoVersionRE_tie : Generated.modfile_GoVersionRE_src = goVersionRESrc := rfl
theorem modfile_laxGoVersionRE_tie : Generated.modfile_laxGoVersionRE_src = laxGoVersionRESrc := rfl
theorem modfile_ToolchainRE_tie : Generated.modfile_ToolchainRE_src = toolchainRESrc := rfl
theorem modfile_deprecatedRE_tie : Generated.modfile_deprecatedRE_src = deprecatedRESrc := rfl

theorem modfile_punct_tie : Generated.modfile_readToken_punct = punctRunes := rfl
theorem modfile_quotes_tie : Generated.modfile_readToken_quotes = quoteRunes := rfl
theorem modfile_identExcluded_tie : Generated.modfile_isIdent_excluded = identExcluded := rfl
theorem modfile_isIdent_default_tie :
    Generated.modfile_isIdent_default = "return !unicode.IsSpace(r) && unicode.IsPrint(r)" := by decide +kernel
theorem modfile_mustQuoteAlways_tie : Generated.modfile_MustQuote_always = mustQuoteAlways := rfl
theorem modfile_mustQuoteIfLong_tie : Generated.modfile_MustQuote_ifLong = mustQuoteIfLong := rfl

/-- print.go `tokens`: the two conditions are the ones `Printer.noSepBefore` / `noSepAfter` transcribe. -/
theorem modfile_noSepBefore_tie :
    Generated.modfile_tokens_noSepBefore = "t == \",\" || t == \")\" || t == \"]\" || t == \"}\"" ∧
    Printer.noSepBefore = [[44], [41], [93], [125]] := by decide +kernel
theorem modfile_noSepAfter_tie :
    Generated.modfile_tokens_noSepAfter = "t == \"(\" || t == \"[\" || t == \"{\"" ∧
    Printer.noSepAfter = [[40], [91], [123]] := by decide +kernel

end ModVerif.Tie
