/-
  Tie: `File.SortBlocks`, `File.removeDups`, `File.Cleanup` and the go.work counterparts `WorkFile.SortBlocks`,
  `WorkFile.removeDups`, `WorkFile.Cleanup` of the regenerated edit operations (Generated/FnEdit.lean, namespace
  ModVerif.Generated.Edit; pointer graph = heap) are the hand model's `sortBlocks`, `removeDups`, `cleanup`,
  `workSortBlocks`, `workCleanup` (Model/Modfile/Edit.lean).

  Shape: a simulation on the shared representation of Proofs/TieFnEditRep.lean.  For an operation `op` (all six are total on
  the model: no `EditErr`):
      RepF h fp e → bound e ≤ fuel → ∃ h', File_Op fuel fp h = .ok ((), h') ∧ RepF h' fp (Edit.op e)
  (`RepW` / `EWork` for go.work): the regenerated function terminates without a panic and without running out of fuel, and
  the heap it returns represents the model's result — line ids = line pointers are kept, no object is allocated, the
  `*File` pointer `fp` is unchanged.  `BlockTokOK` (every block has a verb; Go evaluates `block.Token[0]` in SortBlocks) is
  a field of `RepF`.  The fuel bounds are explicit functions of the model file (`dupsSize`, `sortFuel`, `cleanFuel`, …:
  typed-list lengths, number of statements and block lines, for the comparators `2 · bytes + #tokens + 1` per line, for
  `semver.Compare` of the go version `2·|version|`).

  Method (helper files Proofs/TieFnEditSort{A,…,G}.lean):
  * removeDups: the `kill` map (keys `*Line` pointers) is related to the model's list of killed ids as a SET (`KillRel`; the
    model concatenates `killLater`/`killEarlier` lists, Go inserts into a map: order differs, membership is all that is
    read), the `have…` maps to the model's `seen` lists (`SeenRel`); the typed lists are zipped pointer/entry lists
    (`ZEnts`), the filter loops are `List.filter`; the statement loop (`loop7`/`loop8`) is `dropKilled` on `RStmts`, it
    overwrites the `Line` list of every block, also of the dropped ones (they become garbage);
  * SortBlocks: `GoRt.sortStableW` with the world-reading comparator is the model's `stableSort`/`insertLine` on
    represented lines (`sortStableW_spec`); the comparators are the ties of Tie/FnEditTree.lean; the go-version test is
    `Tie.FnSemver.Compare_tie`;
  * Cleanup: the two-pointer compaction `f.X[w] = r; w++ … f.X = f.X[:w]` is `List.filter` (`compact_spec`); one such phase per
    typed list keeps the heap represented (`cleanPhase_sim`, any typed list of either file kind); the tree part is
    `FnEditAddLine.Cleanup_tie`.
  The go.work loops are literally the go.mod ones (`wloop3_eq`) or instances of the same generic loops.
-/
import ModVerif.Generated.FnEdit
import ModVerif.Model.Modfile.Edit
import ModVerif.Proofs.TieFnEditRep
import ModVerif.Proofs.TieFnEditSortE
import ModVerif.Proofs.TieFnEditSortG
import ModVerif.Tie.FnEditAddLine
import ModVerif.Proofs.TieFnEditSortEx
import ModVerif.Proofs.BytesLit
namespace ModVerif.Tie.FnEditSort
open ModVerif ModVerif.GoRt ModVerif.Generated.Edit ModVerif.Tie.FnEditRep
open ModVerif.Tie.FnEditSortB (nodes)
open ModVerif.Tie.FnEditSortC (removeDupsE workRemoveDupsE dupsSize workDupsSize)
open ModVerif.Tie.FnEditSortE (sortFuel workSortFuel)
open ModVerif.Tie.FnEditSortG (cleanSize workCleanSize CleanHyp)
open ModVerif.Modfile.Edit (EFile EWork sortBlocks workSortBlocks cleanup workCleanup removeDups)
open ModVerif.Tie.FnEditSortEx

/-- **`f.removeDups()` (rule.go:1671, the inlined generic `removeDups`)**: the model's `removeDups` on the three typed lists
    and the syntax tree (`removeDupsE e` = `e` with the four components of
    `Edit.removeDups e.f.syn (some e.f.exclude) e.f.replace (some e.f.tool)`);
    fuel: `#exclude + #replace + #tool + #statements + #block lines < fuel`. -/
theorem File_removeDups_tie {h : Heap} {fp : Int} {e : EFile} (R : RepF h fp e) (fuel : Nat) (hf : dupsSize e < fuel) :
    ∃ h', File_removeDups fuel fp h = .ok ((), h') ∧ RepF h' fp (removeDupsE e) :=
  FnEditSortC.File_removeDups_sim R fuel hf

-- a duplicate exclude (first wins), a duplicate replacement (last wins), a duplicate tool (first wins)
example : runFile exSort (fun fp h => File_removeDups 100 fp h) = modelFile exSort removeDupsE ∧
    (runFile exSort (fun fp h => File_removeDups 100 fp h)).map (fun f => (f.exclude.length, f.replace.length, f.tool.length)) =
      some (2, 2, 2) := by rw [B_lit exSort]; decide +kernel

/-- what `removeDupsE` is -/
theorem removeDupsE_spec (e : EFile) :
    removeDupsE e = { e with f := { e.f with
      exclude := ((removeDups e.f.syn (some e.f.exclude) e.f.replace (some e.f.tool)).2.1).getD []
      replace := (removeDups e.f.syn (some e.f.exclude) e.f.replace (some e.f.tool)).2.2.1
      tool := ((removeDups e.f.syn (some e.f.exclude) e.f.replace (some e.f.tool)).2.2.2).getD []
      syn := (removeDups e.f.syn (some e.f.exclude) e.f.replace (some e.f.tool)).1 } } := rfl

/-- **`f.removeDups()` of a go.work (work.go:343)**: `removeDups(syntax, nil, &replace, nil)` -/
theorem WorkFile_removeDups_tie {h : Heap} {fp : Int} {e : EWork} (R : RepW h fp e) (fuel : Nat) (hf : workDupsSize e < fuel) :
    ∃ h', WorkFile_removeDups fuel fp h = .ok ((), h') ∧ RepW h' fp (workRemoveDupsE e) :=
  FnEditSortC.WorkFile_removeDups_sim R fuel hf

example : runWork exWork (fun fp h => WorkFile_removeDups 100 fp h) = modelWork exWork workRemoveDupsE ∧
    (runWork exWork (fun fp h => WorkFile_removeDups 100 fp h)).map (fun f => f.replace.length) = some 2 := by rw [B_lit exWork]; decide +kernel

theorem workRemoveDupsE_spec (e : EWork) :
    workRemoveDupsE e = { e with f := { e.f with
      replace := (removeDups e.f.syn none e.f.replace none).2.2.1
      syn := (removeDups e.f.syn none e.f.replace none).1 } } := rfl

/-- **`File.SortBlocks` (rule.go:1634) = the model's `sortBlocks`**; fuel `sortFuel e`:
    `dupsSize e + #statements + Σ_lines (2·bytes + #tokens + 1) + 2·|go version| + 12`. -/
theorem File_SortBlocks_tie {h : Heap} {fp : Int} {e : EFile} (R : RepF h fp e) (fuel : Nat) (hf : sortFuel e ≤ fuel) :
    ∃ h', File_SortBlocks fuel fp h = .ok ((), h') ∧ RepF h' fp (sortBlocks e) :=
  FnEditSortE.File_SortBlocks_sim R fuel hf

-- go 1.21: the exclude block in semantic order (v1.2.0 before v1.10.0), retract block newest first, duplicates removed;
-- without a go directive: lexical order
example : runFile exSort (fun fp h => File_SortBlocks 400 fp h) = modelFile exSort sortBlocks ∧
    (runFile exSort (fun fp h => File_SortBlocks 400 fp h)).isSome = true ∧
    runFile exSortOld (fun fp h => File_SortBlocks 400 fp h) = modelFile exSortOld sortBlocks ∧
    (runFile exSortOld (fun fp h => File_SortBlocks 400 fp h)).isSome = true := by rw [B_lit exSort, B_lit exSortOld]; decide +kernel

/-- the hypotheses of `File_SortBlocks_tie` hold for the loaded example file with the fuel of the example -/
example : ∃ f, Modfile.parseStrict (B "go.mod") exSort none = .ok f ∧
    RepF (Drv.GenEdit.load f).1 (Drv.GenEdit.load f).2 (Modfile.Edit.load f) ∧ sortFuel (Modfile.Edit.load f) ≤ 400 := by
  have h : (match Modfile.parseStrict (B "go.mod") exSort none with
      | .ok f => loadOKB f && decide (sortFuel (Modfile.Edit.load f) ≤ 400) | .error _ => false) = true := by rw [B_lit exSort]; decide +kernel
  cases hp : Modfile.parseStrict (B "go.mod") exSort none with
  | error e => rw [hp] at h; cases h
  | ok f =>
    rw [hp] at h
    simp only [Bool.and_eq_true, decide_eq_true_eq] at h
    exact ⟨f, rfl, load_rep f (loadOKB_sound h.1), h.2⟩

/-- the name other operation proofs use (`File_AddTool` ends with `SortBlocks`) -/
theorem File_SortBlocks_sim {h : Heap} {fp : Int} {e : EFile} (R : RepF h fp e) {fuel : Nat} (hf : sortFuel e ≤ fuel) :
    ∃ h', File_SortBlocks fuel fp h = .ok ((), h') ∧ RepF h' fp (sortBlocks e) :=
  File_SortBlocks_tie R fuel hf

/-- **`WorkFile.SortBlocks` (work.go:320) = the model's `workSortBlocks`** -/
theorem WorkFile_SortBlocks_tie {h : Heap} {fp : Int} {e : EWork} (R : RepW h fp e) (fuel : Nat) (hf : workSortFuel e ≤ fuel) :
    ∃ h', WorkFile_SortBlocks fuel fp h = .ok ((), h') ∧ RepW h' fp (workSortBlocks e) :=
  FnEditSortE.WorkFile_SortBlocks_sim R fuel hf

example : runWork exWork (fun fp h => WorkFile_SortBlocks 200 fp h) = modelWork exWork workSortBlocks ∧
    (runWork exWork (fun fp h => WorkFile_SortBlocks 200 fp h)).isSome = true := by rw [B_lit exWork]; decide +kernel

theorem nodeCount_eq_nodes : ∀ ss : List Modfile.Expr, TieFnEditAddLine.nodeCount ss = nodes ss
  | [] => rfl
  | s :: ss => by
    cases s <;> simp only [TieFnEditAddLine.nodeCount, nodes, nodeCount_eq_nodes ss] <;> omega

/-- the `FileSyntax.Cleanup` tie of Tie/FnEditAddLine.lean in the form the compaction proofs use -/
theorem cleanHyp : CleanHyp (fun fs => nodes fs.stmts + 1) := by
  intro h x fs fuel r htok hf
  obtain ⟨h', a, b, c, d, e, _, F, _⟩ := FnEditAddLine.Cleanup_tie r htok fuel (by rw [nodeCount_eq_nodes]; exact hf)
  exact ⟨h', a, b, c, d, e,
    ⟨F.excludes, F.mods, F.gos, F.godebugs, F.modules, F.replaces, F.requires, F.retracts, F.tools, F.toolchains, F.uses, F.works⟩⟩

/-- **`File.Cleanup` (rule.go:994) = the model's `cleanup`**: the six typed lists are compacted (entries with an empty
    key / path / interval dropped, order kept), then `f.Syntax.Cleanup()`;
    fuel: the six list lengths together `< fuel`, `#statements + #block lines + 1 ≤ fuel`. -/
theorem File_Cleanup_tie {h : Heap} {fp : Int} {e : EFile} (R : RepF h fp e) (fuel : Nat)
    (hf : cleanSize e < fuel) (hf2 : nodes e.f.syn.stmts + 1 ≤ fuel) :
    ∃ h', File_Cleanup fuel fp h = .ok ((), h') ∧ RepF h' fp (cleanup e) :=
  FnEditSortG.File_Cleanup_sim _ cleanHyp R fuel hf hf2

-- an exclude, a replacement and a tool are dropped, then `Cleanup`: 3 → 2 entries each, the lines leave the tree
example : runFile exSort dropThenCleanup = modelFile exSort dropThenCleanupM ∧
    (runFile exSort dropThenCleanup).map (fun f => (f.exclude.length, f.replace.length, f.tool.length)) = some (2, 2, 2) := by
  rw [B_lit exSort]; decide +kernel

/-- **`WorkFile.Cleanup` (work.go:90) = the model's `workCleanup`** -/
theorem WorkFile_Cleanup_tie {h : Heap} {fp : Int} {e : EWork} (R : RepW h fp e) (fuel : Nat)
    (hf : workCleanSize e < fuel) (hf2 : nodes e.f.syn.stmts + 1 ≤ fuel) :
    ∃ h', WorkFile_Cleanup fuel fp h = .ok ((), h') ∧ RepW h' fp (workCleanup e) :=
  FnEditSortG.WorkFile_Cleanup_sim _ cleanHyp R fuel hf hf2

example : runWork exWork wDropThenCleanup = modelWork exWork wDropThenCleanupM ∧
    (runWork exWork wDropThenCleanup).map (fun f => (f.use.length, f.replace.length)) = some (1, 2) := by rw [B_lit exWork]; decide +kernel

end ModVerif.Tie.FnEditSort
