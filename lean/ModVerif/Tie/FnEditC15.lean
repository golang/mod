/-
  C15 on the REGENERATED edit operations: the property theorems `nilDeref_unreachable` and `typed_eq_tree_partial4_static`
  of Props/C15.lean, which are about the hand model's sessions, restated about the sessions of the code re-translated from
  modfile/{read,rule}.go (Generated/FnEdit.lean) as the driver `Drv.GenEdit` runs them, through the session tie
  Tie/FnEditSession.lean (`runOps_tie_valid`, `final_cleanup`, `fileM_rep`).

  * `nilDeref_unreachable_gen`: from every strictly parsed well-formed go.mod, every statically valid session of the
    regenerated operations runs to completion — NO operation fails with `Err.panic` (Go: nil `Syntax` dereference, the
    `ensureBlock` panic, the "two versions" panic) —, the regenerated final Cleanup succeeds, and the resulting heap
    represents a model file satisfying the tree invariant without the marker clause (`Edit.P.Inv`).
  * `typed_eq_tree_gen`: with settable `// indirect` markers on the starting file, after the session and the regenerated
    final Cleanup the regenerated typed lists and the regenerated syntax graph are (through `RepF`: line pointer = line id,
    typed object = model entry, `Syntax` pointer = `lineId`) a model file that satisfies what
    `typed_eq_tree_partial4_static` states: `Edit.Inv` (the typed lists are the directive-level reading of the tree) and
    `MarkersSettable`; the driver's read-back `fileM` of that heap is this model file.

  * `typed_eq_tree_work_gen`: the go.work counterpart (`typed_eq_tree_work_from_parse`, `Edit.InvW`, over `RepW`), for
    sessions with valid arguments in every state (`Edit.RunValidW`, SetUse included; `runValidW_of_all`: in particular for
    the sessions of `typed_eq_tree_work_from_parse`).  The go.work `nilDeref_unreachable` is Tie/FnEditC15Work.lean.

  Hypotheses beyond those of the model theorems: fuel only — `FuelOK fuel (Edit.load f) ops` (the fuel dominates the explicit
  bound `stepFuel` of every step of the model run) and `FinalFuel` (the final Cleanup); both have sound Boolean tests
  (`fuelOKB`, `finalFuelB`), evaluated in the examples with the fuel the driver uses.
-/
import ModVerif.Tie.FnEditSession
import ModVerif.Tie.FnEditSessionWork
import ModVerif.Props.C15
import ModVerif.Proofs.BytesLit
namespace ModVerif.Tie.FnEditC15
open ModVerif ModVerif.GoRt ModVerif.Generated.Edit ModVerif.Tie.FnEditRep
open ModVerif.Tie.FnEditSessionA ModVerif.Tie.FnEditSessionB ModVerif.Tie.FnEditSessionC ModVerif.Tie.FnEditSessionD
open ModVerif.Tie.FnEditSessionE ModVerif.Tie.FnEditSession
open ModVerif.Modfile (parseToFile)
open ModVerif.Modfile.Edit (EFile applyMod)
open ModVerif.Drv.GenEdit (applyOp)
open ModVerif.Tie.FnEditStmtEx (zeroIds)

/-- **C15 `nilDeref_unreachable` on the regenerated operations.**  For EVERY go.mod text accepted by the strict parser with
    well-formed keys (`WellFormedKeys`, `NoBlockSuffix`: as in `Props.C15.nilDeref_unreachable`) and EVERY statically valid
    session of go.mod operations (`Edit.StaticValid false`: non-empty keys; a bulk requirement setter has distinct non-empty
    paths and comes directly after a Cleanup), the run of the REGENERATED operations on the loaded heap completes:
    every operation, on the heap on which it runs, returns normally (`.ok (some b, _)`: nil or a documented Go `error`) — it
    never fails with `Err.panic` —; the per-operation results are the model's; the regenerated final `File.Cleanup`
    succeeds; and the final heap represents a model file satisfying `Edit.P.Inv`. -/
theorem nilDeref_unreachable_gen (name data : Bytes) (f : Modfile.File) (ops : List EditSpec.Op) (fuel : Nat)
    (hf : parseToFile name data none true = .ok f) (hk : Modfile.Edit.WellFormedKeys f) (hs : Modfile.Edit.NoBlockSuffix f.syn)
    (hv : Modfile.Edit.StaticValid false (ops.map opM)) (hmod : ∀ op ∈ ops.map opM, Modfile.Edit.IsModOp op)
    (hfu : FuelOK fuel (Modfile.Edit.load f) ops) (hfin : FinalFuel fuel (Modfile.Edit.load f) ops) :
    ∃ h' res, Drv.GenEdit.runOps fuel (Drv.GenEdit.load f).2 (Drv.GenEdit.load f).1 ops [] = .done h' res ∧
      (∀ (pre : List EditSpec.Op) (op : EditSpec.Op) (post : List EditSpec.Op), ops = pre ++ op :: post →
        ∃ h1 r1, Drv.GenEdit.runOps fuel (Drv.GenEdit.load f).2 (Drv.GenEdit.load f).1 pre [] = .done h1 r1 ∧
          applyOp fuel (Drv.GenEdit.load f).2 h1 op ≠ .error .panic ∧
          ∃ b h2, applyOp fuel (Drv.GenEdit.load f).2 h1 op = .ok (some b, h2)) ∧
      (∃ e', Modfile.Edit.runOps applyMod (Modfile.Edit.load f) (ops.map opM) [] 0 = .done e' res) ∧
      ∃ h'' e'', File_Cleanup fuel (Drv.GenEdit.load f).2 h' = .ok ((), h'') ∧ RepF h'' (Drv.GenEdit.load f).2 e'' ∧
        Modfile.Edit.P.Inv e'' := by
  have R := FnEditTree.load_parsed_rep (name := name) (data := data) hf
  have hi := Modfile.Edit.P.Inv.ofFull (Modfile.Edit.parseStrict_inv hf hk hs)
  have hl := Modfile.Edit.StaticValid.runValidLive _ false (Modfile.Edit.load f) hv (fun hc => by cases hc)
  obtain ⟨e', res, h', hrun, hgen, R', hi'⟩ := runOps_tie_valid fuel _ ops _ _ R hi hl hmod hfu
  obtain ⟨h'', hc, R'', _⟩ := final_cleanup R' fuel (hfin e' res hrun)
  refine ⟨h', res, hgen, ?_, ⟨e', hrun⟩, h'', _, hc, R'', Modfile.Edit.P.cleanup_inv e' hi'⟩
  intro pre op post hsplit
  obtain ⟨h1, r1, e1, b, h2, e2⟩ := FnEditSessionF.genDone_steps fuel _ ops _ [] h' res hgen pre op post hsplit
  refine ⟨h1, r1, e1, ?_, b, h2, e2⟩
  rw [e2]
  intro hc
  cases hc

/-- **C15 `typed_eq_tree` (partial 4, static form) on the regenerated operations.**  Hypotheses of
    `Props.C15.typed_eq_tree_partial4_static` (strict parse, well-formed keys, no block suffix comment, settable markers,
    statically valid session) plus fuel.  If the regenerated run completes with results `res` in the heap `h'`, then the
    regenerated final Cleanup succeeds, and the heap `h''` it returns represents a model file `e''` — its typed object lists
    are `e''`'s typed lists, `Syntax` pointers = `lineId`s, its syntax graph is `e''`'s tree — for which the typed lists are
    the directive-level reading of the tree (`Edit.Inv e''`) and the markers are settable again; `e''` is the state the
    MODEL session ends in (same results), and the driver's read-back of `h''` is `e''.f` (typed `lineId`s not read back). -/
theorem typed_eq_tree_gen (name data : Bytes) (f : Modfile.File) (ops : List EditSpec.Op) (fuel : Nat) (h' : Heap) (res : List Bool)
    (hf : parseToFile name data none true = .ok f) (hk : Modfile.Edit.WellFormedKeys f) (hs : Modfile.Edit.NoBlockSuffix f.syn)
    (hm : Modfile.Edit.MarkersSettable f.syn.stmts) (hv : Modfile.Edit.StaticValid false (ops.map opM))
    (hfu : FuelOK fuel (Modfile.Edit.load f) ops) (hfin : FinalFuel fuel (Modfile.Edit.load f) ops)
    (hrun : Drv.GenEdit.runOps fuel (Drv.GenEdit.load f).2 (Drv.GenEdit.load f).1 ops [] = .done h' res) :
    ∃ h'' e' e'', Modfile.Edit.runOps applyMod (Modfile.Edit.load f) (ops.map opM) [] 0 = .done e' res ∧
      e'' = Modfile.Edit.cleanup e' ∧
      File_Cleanup fuel (Drv.GenEdit.load f).2 h' = .ok ((), h'') ∧ RepF h'' (Drv.GenEdit.load f).2 e'' ∧
      Modfile.Edit.Inv e'' ∧ Modfile.Edit.MarkersSettable e''.f.syn.stmts ∧
      Drv.GenEdit.fileM h'' (Drv.GenEdit.load f).2 = some (zeroIds e''.f) := by
  have R := FnEditTree.load_parsed_rep (name := name) (data := data) hf
  have hi := Modfile.Edit.P.Inv.ofFull (Modfile.Edit.parseStrict_inv hf hk hs)
  have hl := Modfile.Edit.StaticValid.runValidLive _ false (Modfile.Edit.load f) hv (fun hc => by cases hc)
  have T := runOps_tie fuel _ ops _ _ R (runOK_of_valid fuel ops _ hi hl hfu)
  cases hx : Modfile.Edit.runOps applyMod (Modfile.Edit.load f) (ops.map opM) [] 0 with
  | badOp => rw [hx] at T; rw [hrun] at T; cases T
  | panic j => rw [hx] at T; obtain ⟨op, _, h2⟩ := T; rw [hrun] at h2; cases h2
  | done e' res' =>
    rw [hx] at T
    obtain ⟨h1, h2, R'⟩ := T
    rw [hrun] at h2
    cases h2
    obtain ⟨h'', hc, R'', hrd⟩ := final_cleanup R' fuel (hfin e' res hx)
    obtain ⟨i1, i2⟩ := Props.C15.typed_eq_tree_partial4_static name data f (ops.map opM) e' res hf hk hs hm hv hx
    exact ⟨h'', e', _, rfl, rfl, hc, R'', i1, i2, hrd⟩

/-! ### non-vacuity: the example session of Tie/FnEditSession.lean (both bulk setters, AddTool, a returned error) -/

section examples

theorem ex_parsed : ∃ f, parseToFile (B "go.mod") exFile none true = .ok f := by
  cases hp : parseToFile (B "go.mod") exFile none true with
  | error err =>
    have : (parseToFile (B "go.mod") exFile none true).toOption.isSome = true := by rw [B_lit exFile]; decide +kernel
    rw [hp] at this; cases this
  | ok f => exact ⟨f, rfl⟩

theorem ex_markers : ∀ f, Modfile.parseStrict (B "go.mod") exFile none = .ok f → Modfile.Edit.MarkersSettable f.syn.stmts :=
  parsedTest_sound exFile (fun f => decide (Modfile.Edit.MarkersSettable f.syn.stmts)) (fun f h => of_decide_eq_true h)
    (by rw [B_lit exFile]; decide +kernel)

-- `nilDeref_unreachable_gen` with the fuel the driver uses: all hypotheses hold of the example
example : ∃ f, parseToFile (B "go.mod") exFile none true = .ok f ∧
    ∃ h' res, Drv.GenEdit.runOps (driverFuel exFile exOps) (Drv.GenEdit.load f).2 (Drv.GenEdit.load f).1 exOps [] = .done h' res ∧
      ∃ h'' e'', File_Cleanup (driverFuel exFile exOps) (Drv.GenEdit.load f).2 h' = .ok ((), h'') ∧
        RepF h'' (Drv.GenEdit.load f).2 e'' ∧ Modfile.Edit.P.Inv e'' := by
  obtain ⟨f, hf⟩ := ex_parsed
  obtain ⟨h', res, h1, _, _, h4⟩ := nilDeref_unreachable_gen (B "go.mod") exFile f exOps (driverFuel exFile exOps) hf
    (ex_keys f hf).1 (ex_keys f hf).2 ex_static (isModOpB_sound (by decide +kernel)) (ex_fuel f hf).1 (ex_fuel f hf).2
  exact ⟨f, hf, h', res, h1, h4⟩

-- `typed_eq_tree_gen`: its hypotheses hold of the example (the run completes by the previous theorem)
example : ∃ f, parseToFile (B "go.mod") exFile none true = .ok f ∧
    ∃ h'' e'', RepF h'' (Drv.GenEdit.load f).2 e'' ∧ Modfile.Edit.Inv e'' ∧ Modfile.Edit.MarkersSettable e''.f.syn.stmts ∧
      Drv.GenEdit.fileM h'' (Drv.GenEdit.load f).2 = some (zeroIds e''.f) := by
  obtain ⟨f, hf⟩ := ex_parsed
  obtain ⟨h', res, h1, _⟩ := nilDeref_unreachable_gen (B "go.mod") exFile f exOps (driverFuel exFile exOps) hf
    (ex_keys f hf).1 (ex_keys f hf).2 ex_static (isModOpB_sound (by decide +kernel)) (ex_fuel f hf).1 (ex_fuel f hf).2
  obtain ⟨h'', e', e'', _, _, _, R, i1, i2, rd⟩ := typed_eq_tree_gen (B "go.mod") exFile f exOps (driverFuel exFile exOps) h' res hf
    (ex_keys f hf).1 (ex_keys f hf).2 (ex_markers f hf) ex_static (ex_fuel f hf).1 (ex_fuel f hf).2 h1
  exact ⟨f, hf, h'', e'', R, i1, i2, rd⟩

-- the regenerated session, kernel-evaluated: it completes, and the file read back after the regenerated Cleanup satisfies the
-- executable form of the invariant (`Edit.invB`, Props.C15.inv_checkable) once the model's line ids are put back — here
-- checked on the model side of the equality `genSession = modelSession` (Tie/FnEditSession.lean)
example : (match Modfile.parseStrict (B "go.mod") exFile none with
    | .ok f =>
      match Modfile.Edit.runOps applyMod (Modfile.Edit.load f) (exOps.map opM) [] 0 with
      | .done e _ => Modfile.Edit.invB (Modfile.Edit.cleanup e)
      | _ => false
    | .error _ => false) = true := by rw [B_lit exFile]; decide +kernel

end examples

/-! ### go.work -/

section work
open ModVerif.Tie.FnEditSessionW ModVerif.Tie.FnEditSessionWork
open ModVerif.Modfile.Edit (applyWork)
open ModVerif.Tie.FnEditWorkEx (strip)

/-- valid arguments in the sense of `typed_eq_tree_work_from_parse` are valid in every state -/
theorem runValidW_of_all : ∀ (ops : List Modfile.Edit.Op) (e : Modfile.Edit.EWork), (∀ op ∈ ops, Modfile.Edit.ValidArgsW op) →
    Modfile.Edit.RunValidW e ops
  | [], _, _ => trivial
  | op :: ops, e, hv => by
    have h1 : Modfile.Edit.ValidArgsWAll e op := by
      have := hv op List.mem_cons_self
      cases op <;> first | exact this | exact this.elim
    exact ⟨h1, fun e' _ => runValidW_of_all ops e' fun o ho => hv o (List.mem_cons_of_mem _ ho),
      fun _ _ _ => runValidW_of_all ops e fun o ho => hv o (List.mem_cons_of_mem _ ho)⟩

/-- **C15 `typed_eq_tree`, go.work, on the regenerated operations.**  From the parse of any go.work text with non-empty keys
    (`WorkKeys`, `NoBlockSuffix`: as `Props.C15.typed_eq_tree_work_from_parse`), for a session whose operations have valid
    arguments in the state in which they run (`Edit.RunValidW`), with enough fuel: if the regenerated run completes with
    results `res` in the heap `h'`, the regenerated final `WorkFile.Cleanup` succeeds and the heap it returns represents the
    state `e''` the model session ends in (same results), for which the typed lists are the directive-level reading of the
    tree (`Edit.InvW e''`); the driver's read-back of that heap is `e''.f`. -/
theorem typed_eq_tree_work_gen (name data : Bytes) (f : Modfile.WorkFile) (ops : List EditSpec.Op) (fuel : Nat) (h' : Heap)
    (res : List Bool) (hf : Modfile.parseWork name data none = .ok f) (hk : Modfile.Edit.WorkKeys f)
    (hs : Modfile.Edit.NoBlockSuffix f.syn) (hv : Modfile.Edit.RunValidW (Modfile.Edit.loadWork f) (ops.map opM))
    (hfu : FuelOKW fuel (Modfile.Edit.loadWork f) ops) (hfin : FinalFuelW fuel (Modfile.Edit.loadWork f) ops)
    (hrun : Drv.GenEdit.runWorkOps fuel (Drv.GenEdit.loadWork f).2 (Drv.GenEdit.loadWork f).1 ops [] = .done h' res) :
    ∃ h'' e' e'', Modfile.Edit.runOps applyWork (Modfile.Edit.loadWork f) (ops.map opM) [] 0 = .done e' res ∧
      e'' = Modfile.Edit.workCleanup e' ∧
      WorkFile_Cleanup fuel (Drv.GenEdit.loadWork f).2 h' = .ok ((), h'') ∧ RepW h'' (Drv.GenEdit.loadWork f).2 e'' ∧
      Modfile.Edit.InvW e'' ∧ Drv.GenEdit.workM h'' (Drv.GenEdit.loadWork f).2 = some (strip e''.f) := by
  have R := FnEditTree.loadWork_parsed_rep (name := name) (data := data) hf
  have hi := Modfile.Edit.parseWork_invW hf hk hs
  have T := runWorkOps_tie_valid fuel _ ops _ _ R hi hv hfu
  cases hx : Modfile.Edit.runOps applyWork (Modfile.Edit.loadWork f) (ops.map opM) [] 0 with
  | badOp => rw [hx] at T; rw [hrun] at T; cases T
  | panic j => rw [hx] at T; obtain ⟨op, _, h2⟩ := T; rw [hrun] at h2; cases h2
  | done e' res' =>
    rw [hx] at T
    obtain ⟨h1, h2, R', hi'⟩ := T
    rw [hrun] at h2
    cases h2
    obtain ⟨h'', hc, R'', hrd⟩ := final_cleanupW R' fuel (hfin e' res hx)
    exact ⟨h'', e', _, rfl, rfl, hc, R'', Modfile.Edit.workCleanup_inv e' hi', hrd⟩

-- non-vacuity: the example session of Tie/FnEditSessionWork.lean (SetUse after a Cleanup, a returned error): the hypotheses
-- hold with the driver's fuel, and the regenerated run completes (kernel-evaluated)
example : ∃ f, Modfile.parseWork (B "go.work") exWork none = .ok f ∧
    ∃ h' res h'' e'', Drv.GenEdit.runWorkOps (driverFuel exWork exWorkOps) (Drv.GenEdit.loadWork f).2 (Drv.GenEdit.loadWork f).1 exWorkOps [] =
        .done h' res ∧
      WorkFile_Cleanup (driverFuel exWork exWorkOps) (Drv.GenEdit.loadWork f).2 h' = .ok ((), h'') ∧
      RepW h'' (Drv.GenEdit.loadWork f).2 e'' ∧ Modfile.Edit.InvW e'' := by
  cases hp : Modfile.parseWork (B "go.work") exWork none with
  | error err =>
    have : (Modfile.parseWork (B "go.work") exWork none).toOption.isSome = true := by rw [B_lit exWork]; decide +kernel
    rw [hp] at this; cases this
  | ok f =>
    have hdone := parsedTestW_sound exWork (fun f =>
        match Drv.GenEdit.runWorkOps (driverFuel exWork exWorkOps) (Drv.GenEdit.loadWork f).2 (Drv.GenEdit.loadWork f).1 exWorkOps [] with
        | .done _ _ => true
        | _ => false)
      (P := fun f => ∃ h' res, Drv.GenEdit.runWorkOps (driverFuel exWork exWorkOps) (Drv.GenEdit.loadWork f).2
        (Drv.GenEdit.loadWork f).1 exWorkOps [] = .done h' res)
      (fun f h => by
        cases hr : Drv.GenEdit.runWorkOps (driverFuel exWork exWorkOps) (Drv.GenEdit.loadWork f).2 (Drv.GenEdit.loadWork f).1 exWorkOps [] with
        | done h' res => exact ⟨h', res, rfl⟩
        | panic n => rw [hr] at h; cases h
        | badOp => rw [hr] at h; cases h)
      (by rw [B_lit exWork]; decide +kernel) f hp
    obtain ⟨h', res, hrun⟩ := hdone
    obtain ⟨h'', e', e'', _, _, hc, R, hi, _⟩ := typed_eq_tree_work_gen (B "go.work") exWork f exWorkOps _ h' res hp
      (exWork_keys f hp).1 (exWork_keys f hp).2 (exWork_valid f hp) (exWork_fuel f hp).1 (exWork_fuel f hp).2 hrun
    exact ⟨f, rfl, h', res, h'', e'', hrun, hc, R, hi⟩

end work

end ModVerif.Tie.FnEditC15
