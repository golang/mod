/-
  Tie theorems for the WORLD-MODE regeneration of `tileHashReader.ReadHashes` (sumdb/tlog/tile.go:300;
  `Generated/FnTileW.lean`, namespace ModVerif.Generated.TileW): the same Go code as `Generated/FnTile.lean`'s, but
  `r.tr.Height()`, `r.tr.ReadTiles(tiles)`, `r.tr.SaveTiles(tiles, data)` are WORLD functions
  `height : W → M (Int × W)`, `readTiles : List Tile → W → M ((data, err) × W)`, `saveTiles : … → W → M (Unit × W)`
  and the world is threaded.

  What the code does with the world (read off the generated definition, proved below for ANY world type and ANY world
  functions): ONE `height` call first; then — only if planning succeeds and the tree is not empty — ONE `readTiles`
  call on the planned tiles (tree-hash tiles first, then the index tiles with their parents), in the world after
  `height`; then — only if every check passed — ONE `saveTiles` call on exactly those tiles and the data read, in the
  world after `readTiles`.  Everything else is pure.

  `tileHashReader_ReadHashes_world`: reduction to the PURE regeneration `Generated.Tile.tileHashReader_ReadHashes`
  run with the reader `{Height := h, ReadTiles := readTilesAt readTiles w1}` (what the world functions answered):
  `stagedW` (Proofs/TieFnTileW.lean) = `planG` (the planning phase: is `ReadTiles` called, with which tiles), the
  `readTiles` call, the pure result `(value, effect log)` and `saveLog` (`saveTiles` on each entry of the pure version's
  effect log).  No range or fuel hypothesis.  The statement is "same successful results": an `M`-level failure (fuel,
  panic, overflow; an `M`-error of a world function) happens on both sides together, but when the pure part AND
  `saveTiles` both fail at `M` level, which of the two errors is reported is not tracked.

  `tileHashReader_ReadHashes_world_tie`: the same in terms of the hand model `Tile.readHashes` through
  `Tie.FnTile.tileHashReader_ReadHashes_tie`, with its range hypotheses (`N < 2^62`, `1 ≤ h ≤ 57`, `len(indexes) < 2^56`)
  and fuel `64 * len(indexes) + 500`.

  Last, the C10 security theorems for the world-mode regeneration.
-/
import ModVerif.Generated.FnTileW
import ModVerif.Model.Tile
import ModVerif.Proofs.TieFnTileW
import ModVerif.Proofs.TieFnTileWPlan
import ModVerif.Tie.FnTile
namespace ModVerif.Tie.FnTileW
open ModVerif ModVerif.GoRt ModVerif.TieFnTile ModVerif.TieFnTlogInt ModVerif.TieFnTileW
open ModVerif.Generated.Tile (Tile Tree TileReader)

section
variable {H : Type} [DecidableEq H] [Inhabited H] {W : Type} (height : W → M (Int × W))
  (node : H → H → H) (ofBytes : Bytes → H)
  (readTiles : List Tile → W → M ((List Bytes × Option String) × W))
  (saveTiles : List Tile → List Bytes → W → M (Unit × W))

/-! ### world mode = pure mode, any world -/

/-- an `M`-error of `Height` aborts the function -/
theorem tileHashReader_ReadHashes_world_height_error (fuel : Nat) (r : Generated.TileW.tileHashReader H)
    (indexes : List Int) (w : W) (e : Err) (hh : height w = .error e) :
    Generated.TileW.tileHashReader_ReadHashes height node ofBytes readTiles saveTiles fuel r indexes w = .error e := by
  unfold Generated.TileW.tileHashReader_ReadHashes
  rw [hh]
  rfl

/-- ★ `ReadHashes` in world mode, after `Height` answered `h` in world `w1`: its successful results are those of
    `stagedW` over the pure regeneration run with the reader `{h, readTilesAt readTiles w1}`. -/
theorem tileHashReader_ReadHashes_world (fuel : Nat) (r : Generated.TileW.tileHashReader H) (indexes : List Int)
    (w w1 : W) (h : Int) (hh : height w = .ok (h, w1)) (a : (List H × Option String) × W) :
    Generated.TileW.tileHashReader_ReadHashes height node ofBytes readTiles saveTiles fuel r indexes w = .ok a ↔
      stagedW node ofBytes readTiles saveTiles fuel
        { tree := r.tree, tr := { Height := h, ReadTiles := readTilesAt readTiles w1 } } indexes w1 = .ok a :=
  ReadHashes_staged node ofBytes height readTiles saveTiles fuel r _ indexes w w1 h hh rfl rfl rfl a

/-- … and it fails (at `M` level) when `stagedW` does -/
theorem tileHashReader_ReadHashes_world_error (fuel : Nat) (r : Generated.TileW.tileHashReader H) (indexes : List Int)
    (w w1 : W) (h : Int) (hh : height w = .ok (h, w1)) (e : Err)
    (hs : stagedW node ofBytes readTiles saveTiles fuel
        { tree := r.tree, tr := { Height := h, ReadTiles := readTilesAt readTiles w1 } } indexes w1 = .error e) :
    ∃ e', Generated.TileW.tileHashReader_ReadHashes height node ofBytes readTiles saveTiles fuel r indexes w = .error e' :=
  EqE.error_left (ReadHashes_staged node ofBytes height readTiles saveTiles fuel r _ indexes w w1 h hh rfl rfl rfl) e hs

/-! ### in terms of the hand model

`stagedM`: the model's outcome `out = Tile.readHashes node N th h idx serve` in the world: if `planCall h N idx = none`
(planning failed — an index outside the tree — or the tree is empty) the world after `Height` is returned unchanged
(`saved_none_of_planCall_none`: the model's `saved` is `none` then); otherwise ONE `readTiles` call on the planned tiles
and, iff the model says `saved = some _`, ONE `saveTiles` call on the planned tiles and the data read (`rhOut` /
`finishW`).  `serve` is related to what `readTiles` answered by `ServeRel` exactly as in the pure tie theorem. -/

def stagedM (h N : Nat) (idx : List Nat) (w1 : W) (out : Tile.ReadOut H) (msg : Option String) :
    M ((List H × Option String) × W) :=
  let gt := (planTiles h N idx).map toGen
  let res := rhOut out gt (readTilesAt readTiles w1 gt).1 msg
  match planCall h N idx with
  | none => finishW saveTiles w1 (.ok res)
  | some _ =>
    match readTiles gt w1 with
    | .error e => .error e
    | .ok (_, w2) => finishW saveTiles w2 (.ok res)

/-- ★ world-mode `ReadHashes` = the model's `readHashes` against every server `serve` related (on the planned tiles)
    to what `readTiles` answers in the world after `Height`. -/
theorem tileHashReader_ReadHashes_world_tie (fuel h N : Nat) (th : H) (idx : List Nat) (w w1 : W)
    (serve : Tile.Tile → Option (List H))
    (hh : height w = .ok ((h : Int), w1)) (h1 : 1 ≤ h) (h57 : h ≤ 57) (hN : N < 2 ^ 62) (hidx : idx.length < 2 ^ 56)
    (hserve : ServeRel ofBytes (readTilesAt readTiles w1) serve (planTiles h N idx))
    (hf : 64 * idx.length + 500 ≤ fuel) :
    ∃ msg, (∀ a, Generated.TileW.tileHashReader_ReadHashes height node ofBytes readTiles saveTiles fuel
          { tree := { N := (N : Int), Hash := th }, tr := () } (idx.map Int.ofNat) w = .ok a ↔
        stagedM readTiles saveTiles h N idx w1 (Tile.readHashes node N th h idx serve) msg = .ok a) ∧
      ∀ e, (Tile.readHashes node N th h idx serve).result = .error e →
        MsgOK (readTilesAt readTiles w1 ((planTiles h N idx).map toGen)).2 e msg := by
  obtain ⟨msg, hp, hm⟩ := Tie.FnTile.tileHashReader_ReadHashes_tie node ofBytes fuel h N th idx
    (readTilesAt readTiles w1) serve h1 h57 hN hidx hserve hf
  refine ⟨msg, ?_, hm⟩
  intro a
  rw [tileHashReader_ReadHashes_world height node ofBytes readTiles saveTiles fuel _ _ w w1 h hh a]
  have hpl := planG_eq node ofBytes fuel h N idx
    ({ tree := { N := (N : Int), Hash := th }, tr := { Height := (h : Int), ReadTiles := readTilesAt readTiles w1 } } :
      Generated.Tile.tileHashReader H) h1 h57 hN rfl rfl (by omega)
  unfold stagedW stagedM
  simp only [hpl, hp]
  cases hc : planCall h N idx with
  | none => exact Iff.rfl
  | some tiles =>
    have := planCall_some h N idx tiles hc
    subst this
    exact Iff.rfl

/-- ★ … and for ANY world functions there is such a server (so every C10 theorem that holds against all servers speaks
    about the world-mode regeneration). -/
theorem tileHashReader_ReadHashes_world_tie_any (fuel h N : Nat) (th : H) (idx : List Nat) (w w1 : W)
    (hh : height w = .ok ((h : Int), w1)) (h1 : 1 ≤ h) (h57 : h ≤ 57) (hN : N < 2 ^ 62) (hidx : idx.length < 2 ^ 56)
    (hf : 64 * idx.length + 500 ≤ fuel) :
    ∃ (serve : Tile.Tile → Option (List H)) (msg : Option String),
      ServeRel ofBytes (readTilesAt readTiles w1) serve (planTiles h N idx) ∧
      (∀ a, Generated.TileW.tileHashReader_ReadHashes height node ofBytes readTiles saveTiles fuel
          { tree := { N := (N : Int), Hash := th }, tr := () } (idx.map Int.ofNat) w = .ok a ↔
        stagedM readTiles saveTiles h N idx w1 (Tile.readHashes node N th h idx serve) msg = .ok a) ∧
      ∀ e, (Tile.readHashes node N th h idx serve).result = .error e →
        MsgOK (readTilesAt readTiles w1 ((planTiles h N idx).map toGen)).2 e msg := by
  obtain ⟨serve, hs⟩ := exists_serve ofBytes (readTilesAt readTiles w1) (planTiles h N idx)
    (planTiles_nodup h N h1 hN idx)
  obtain ⟨msg, h2, h3⟩ := tileHashReader_ReadHashes_world_tie height node ofBytes readTiles saveTiles fuel h N th idx w w1
    serve hh h1 h57 hN hidx hs hf
  exact ⟨serve, msg, hs, h2, h3⟩

/-- under the range hypotheses the world-mode function terminates (no panic, no fuel exhaustion, no int64 overflow)
    whenever the world functions `readTiles` and `saveTiles` do -/
theorem tileHashReader_ReadHashes_world_terminates (fuel h N : Nat) (th : H) (idx : List Nat) (w w1 : W)
    (hh : height w = .ok ((h : Int), w1)) (h1 : 1 ≤ h) (h57 : h ≤ 57) (hN : N < 2 ^ 62) (hidx : idx.length < 2 ^ 56)
    (hf : 64 * idx.length + 500 ≤ fuel)
    (hrt : ∀ ts w, ∃ v, readTiles ts w = .ok v) (hst : ∀ ts ds w, ∃ v, saveTiles ts ds w = .ok v) :
    ∃ a, Generated.TileW.tileHashReader_ReadHashes height node ofBytes readTiles saveTiles fuel
      { tree := { N := (N : Int), Hash := th }, tr := () } (idx.map Int.ofNat) w = .ok a := by
  obtain ⟨serve, msg, _, h2, _⟩ := tileHashReader_ReadHashes_world_tie_any height node ofBytes readTiles saveTiles fuel h N th
    idx w w1 hh h1 h57 hN hidx hf
  have hfin : ∀ (w2 : W) (res : (List H × Option String) × Log), ∃ a, finishW saveTiles w2 (.ok res) = .ok a := by
    intro w2 res
    obtain ⟨v, log⟩ := res
    have hsl : ∀ (log : Log) (w2 : W), ∃ w3, saveLog saveTiles log w2 = .ok w3 := by
      intro log
      induction log with
      | nil => intro w2; exact ⟨w2, rfl⟩
      | cons e rest ih =>
        intro w2
        obtain ⟨ts, ds⟩ := e
        obtain ⟨⟨u, w3⟩, hv⟩ := hst ts ds w2
        obtain ⟨w4, h4⟩ := ih w3
        exact ⟨w4, by simp only [saveLog, hv, h4]⟩
    obtain ⟨w3, h3⟩ := hsl log w2
    exact ⟨(v, w3), by simp only [finishW, h3]⟩
  have : ∃ a, stagedM readTiles saveTiles h N idx w1 (Tile.readHashes node N th h idx serve) msg = .ok a := by
    unfold stagedM
    simp only
    cases planCall h N idx with
    | none => exact hfin _ _
    | some tiles =>
      obtain ⟨⟨de, w2⟩, hv⟩ := hrt ((planTiles h N idx).map toGen) w1
      simp only [hv]
      exact hfin _ _
  obtain ⟨a, ha⟩ := this
  exact ⟨a, (h2 a).2 ha⟩

end

/-! ### the C10 security theorems, for the world-mode regeneration

`Tie.FnTile.tileHashReader_ReadHashes_authenticated` / `…_error_saves_nothing` (statements about the pure regeneration
against ANY `ReadTiles` function) carried over by `tileHashReader_ReadHashes_world`: no model function occurs in the conclusions. -/

section
variable {H : Type} [DecidableEq H] [Inhabited H] {W : Type} (height : W → M (Int × W))
  (leaf : Bytes → H) (node : H → H → H) (empty : H) (ofBytes : Bytes → H)
  (readTiles : List Tile → W → M ((List Bytes × Option String) × W))
  (saveTiles : List Tile → List Bytes → W → M (Unit × W))

/-- ★ Against ANY world functions, for the true tree head of a log `D` of fewer than `2^62` records and a collision-free
    `NodeHash`, tile height `1 ≤ h ≤ 57`: whenever the world-mode `ReadHashes` returns `((hashes, err), w')`, (1) if
    `err = nil` the hashes are the true stored hashes of the requested positions; (2) `w'` is the world after `Height`,
    or after ONE `readTiles` call in it, followed by `saveTiles` calls (`saveLog`) whose every (tile, data) argument is
    the true tile content. -/
theorem tileHashReader_ReadHashes_world_authenticated (D : List Bytes) (st : List H)
    (hst : Tlog.buildStore leaf node D = .ok st) (hR : D.length < 2 ^ 62)
    (hcf : ∀ a b c d : H, node a b = node c d → a = c ∧ b = d)
    (h : Nat) (h1 : 1 ≤ h) (h57 : h ≤ 57) (idx : List Nat) (hidx : idx.length < 2 ^ 56)
    (fuel : Nat) (hf : 64 * idx.length + 500 ≤ fuel) (w w1 : W) (hh : height w = .ok ((h : Int), w1))
    (res : List H × Option String) (w' : W)
    (hok : Generated.TileW.tileHashReader_ReadHashes height node ofBytes readTiles saveTiles fuel
      { tree := { N := (D.length : Int), Hash := RFC6962.mth node empty (D.map leaf) }, tr := () }
      (idx.map Int.ofNat) w = .ok (res, w')) :
    (res.2 = none → idx.mapM (st[·]?) = some res.1) ∧
    ∃ (log : Log) (w2 : W), (w2 = w1 ∨ ∃ tiles de, readTiles tiles w1 = .ok (de, w2)) ∧
      saveLog saveTiles log w2 = .ok w' ∧
      ∀ entry ∈ log, entry.2.length = entry.1.length ∧
        ∀ i (_ : i < entry.1.length) (_ : i < entry.2.length),
          Tile.trueTile st (ofGen entry.1[i]) = some (unflatS ofBytes entry.2[i]) := by
  have hs := (tileHashReader_ReadHashes_world height node ofBytes readTiles saveTiles fuel _ _ w w1 h hh (res, w')).1 hok
  obtain ⟨log, w2, hp, hw2, hsl⟩ := stagedW_ok_pure node ofBytes readTiles saveTiles fuel _ _ w1 res w' hs
  obtain ⟨res', hp', ha, hb⟩ := Tie.FnTile.tileHashReader_ReadHashes_authenticated leaf node empty ofBytes D st hst hR hcf
    h h1 h57 idx hidx (readTilesAt readTiles w1) fuel hf
  rw [hp] at hp'
  cases hp'
  exact ⟨ha, log, w2, hw2, hsl, hb⟩

/-- ★ … and for `h ≤ 30`: `err ≠ nil` implies that `saveTiles` was not called — the returned world is the world after
    `Height`, or after the one `readTiles` call. -/
theorem tileHashReader_ReadHashes_world_error_saves_nothing (D : List Bytes) (st : List H)
    (hst : Tlog.buildStore leaf node D = .ok st) (hR : D.length < 2 ^ 62)
    (hcf : ∀ a b c d : H, node a b = node c d → a = c ∧ b = d)
    (h : Nat) (h1 : 1 ≤ h) (h30 : h ≤ 30) (idx : List Nat) (hidx : idx.length < 2 ^ 56)
    (fuel : Nat) (hf : 64 * idx.length + 500 ≤ fuel) (w w1 : W) (hh : height w = .ok ((h : Int), w1))
    (res : List H × Option String) (w' : W)
    (hok : Generated.TileW.tileHashReader_ReadHashes height node ofBytes readTiles saveTiles fuel
      { tree := { N := (D.length : Int), Hash := RFC6962.mth node empty (D.map leaf) }, tr := () }
      (idx.map Int.ofNat) w = .ok (res, w'))
    (herr : res.2 ≠ none) :
    w' = w1 ∨ ∃ tiles de, readTiles tiles w1 = .ok (de, w') := by
  have hs := (tileHashReader_ReadHashes_world height node ofBytes readTiles saveTiles fuel _ _ w w1 h hh (res, w')).1 hok
  obtain ⟨log, w2, hp, hw2, hsl⟩ := stagedW_ok_pure node ofBytes readTiles saveTiles fuel _ _ w1 res w' hs
  obtain ⟨res', hp', ha⟩ := Tie.FnTile.tileHashReader_ReadHashes_error_saves_nothing leaf node empty ofBytes D st hst hR hcf
    h h1 h30 idx hidx (readTilesAt readTiles w1) fuel hf
  rw [hp] at hp'
  cases hp'
  have hl : log = [] := ha herr
  subst hl
  simp only [saveLog, Except.ok.injEq] at hsl
  subst hsl
  exact hw2

end
/-! ### non-vacuity: the 7-record example log of C10 (as in Tie/FnTile.lean), tile height 2, stored hash 0.  The world
    records the calls: the tile lists `readTiles` was asked for and the (tiles, data) pairs `saveTiles` was given. -/

abbrev ExW := List (List Tile) × List (List Tile × List Bytes)

def exHeight : ExW → M (Int × ExW) := fun w => .ok (2, w)

def exReadTiles (RT : List Tile → List Bytes × Option String) : List Tile → ExW → M ((List Bytes × Option String) × ExW) :=
  fun ts w => .ok (RT ts, (w.1 ++ [ts], w.2))

def exSaveTiles : List Tile → List Bytes → ExW → M (Unit × ExW) := fun ts ds w => .ok ((), (w.1, w.2 ++ [(ts, ds)]))

set_option synthInstance.maxSize 512 in
open ModVerif.TlogTH ModVerif.Tie.FnTile in
/-- the honest run: one `readTiles` call and one `saveTiles` call on the three planned tiles, the true hash returned;
    the model side (`stagedM` over the honest model server) evaluates to the same value and world -/
example :
    ((Generated.TileW.tileHashReader_ReadHashes exHeight Tlog.TH.node exOfBytes (exReadTiles exRT) exSaveTiles 600
        ⟨⟨7, root 7⟩, ()⟩ [0] ([], [])).toOption.map fun r => (r.1, r.2.1, r.2.2.map (·.1))) =
      some (([Tlog.TH.leaf [0]], none), [[⟨2, 1, 0, 1⟩, ⟨2, 0, 1, 3⟩, ⟨2, 0, 0, 4⟩]],
        [[⟨2, 1, 0, 1⟩, ⟨2, 0, 1, 3⟩, ⟨2, 0, 0, 4⟩]]) ∧
    ((stagedM (exReadTiles exRT) exSaveTiles 2 7 [0] ([], [])
        (Tile.readHashes Tlog.TH.node 7 (root 7) 2 [0] (fun t => Tile.trueTile (store 7) t)) none).toOption.map
          fun r => (r.1, r.2.1, r.2.2.map (·.1))) =
      some (([Tlog.TH.leaf [0]], none), [[⟨2, 1, 0, 1⟩, ⟨2, 0, 1, 3⟩, ⟨2, 0, 0, 4⟩]],
        [[⟨2, 1, 0, 1⟩, ⟨2, 0, 1, 3⟩, ⟨2, 0, 0, 4⟩]]) ∧
    planCall 2 7 [0] = some [⟨2, 1, 0, 1, false⟩, ⟨2, 0, 1, 3, false⟩, ⟨2, 0, 0, 4, false⟩] := by
  decide +kernel

set_option synthInstance.maxSize 512 in
open ModVerif.TlogTH ModVerif.Tie.FnTile in
/-- a forged tile: refused, `readTiles` was called, `saveTiles` was not; an index outside the tree: no call at all -/
example :
    (Generated.TileW.tileHashReader_ReadHashes exHeight Tlog.TH.node exOfBytes (exReadTiles exRTevil) exSaveTiles 600
        ⟨⟨7, root 7⟩, ()⟩ [0] ([], [])).toOption =
      some (([], some "downloaded inconsistent tile"), [[⟨2, 1, 0, 1⟩, ⟨2, 0, 1, 3⟩, ⟨2, 0, 0, 4⟩]], []) ∧
    (Generated.TileW.tileHashReader_ReadHashes exHeight Tlog.TH.node exOfBytes (exReadTiles exRT) exSaveTiles 600
        ⟨⟨7, root 7⟩, ()⟩ [99] ([], [])).toOption = some (([], some "indexes not in tree"), [], []) ∧
    planCall 2 7 [99] = none := by
  decide +kernel

open ModVerif.TlogTH ModVerif.Tie.FnTile in
/-- the hypotheses of the tie theorem are satisfiable (the example above is an instance) -/
example : ∃ (serve : Tile.Tile → Option (List Tlog.TH)) (msg : Option String),
    ServeRel exOfBytes (readTilesAt (exReadTiles exRT) ([], [])) serve (planTiles 2 7 [0]) ∧
    (∀ a, Generated.TileW.tileHashReader_ReadHashes exHeight Tlog.TH.node exOfBytes (exReadTiles exRT) exSaveTiles 600
        ⟨⟨((7 : Nat) : Int), root 7⟩, ()⟩ ([0].map Int.ofNat) ([], []) = .ok a ↔
      stagedM (exReadTiles exRT) exSaveTiles 2 7 [0] ([], [])
        (Tile.readHashes Tlog.TH.node 7 (root 7) 2 [0] serve) msg = .ok a) ∧
    ∀ e, (Tile.readHashes Tlog.TH.node 7 (root 7) 2 [0] serve).result = .error e →
      MsgOK (readTilesAt (exReadTiles exRT) ([], []) ((planTiles 2 7 [0]).map toGen)).2 e msg :=
  tileHashReader_ReadHashes_world_tie_any exHeight Tlog.TH.node exOfBytes (exReadTiles exRT) exSaveTiles 600 2 7 (root 7)
    [0] ([], []) ([], []) rfl (by omega) (by omega) (by omega) (by decide) (by decide)

end ModVerif.Tie.FnTileW
