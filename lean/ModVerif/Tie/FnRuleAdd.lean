/-
  Tie: the DIRECTIVE LAYER of go.mod / go.work parsing regenerated from modfile/rule.go and work.go on every check
  (Generated/FnRule.lean, namespace ModVerif.Generated.Rule): `File.add`, `WorkFile.add`, `File.fixRetract`, `parseToFile`,
  `ParseWork` compute what the hand model (Model/Modfile/Rule.lean, Work.lean) says.

  The generated code works on a HEAP (`Rule.Heap`: one object list per Go struct type, a pointer is a 1-based position;
  `args = x.Token[1:]` is a VIEW `TokRef` into the line object, so `parseString(&args[0])` rewrites the token in place);
  the hand model works on a VALUE tree whose lines carry an id and returns the rewritten tokens next to its result.  The
  relation between the two is `RepRS ι h fp errs st syn` / `RepR` (go.mod) and `RepWS` / `RepW` (go.work) of
  Proofs/TieFnRuleRep.lean: the heap at the `*File` pointer `fp`, with the in-out error list `errs`,
  represents the model state `st` (typed file + reversed error list), the syntax graph representing the tree `syn`;
  `ι` maps line pointers to line ids.  The world parameters are those of the driver (Drv/GenRule.lean): regexps and
  strconv bound to the model's matchers, the version fixer `fixG fx`, `parseSyn = parseSynI` (the hand model's parser —
  tied to the regenerated parser by Tie/FnParse.lean — with its tree loaded into the heap).

  * `File_add_tie`: one call on a represented state (line object at `lp`, the arguments the tokens after `pre`) succeeds,
    and the new heap / error list represent the model's `File.add` result (`StepPost`): typed entries allocated and
    linked, errors appended at the line's start with an inner error of the model's kind, the tokens of THIS line
    replaced by the model's rewritten arguments, no other syntax object touched.
  * `WorkFile_add_tie`: the same for go.work.
  * `File_fixRetract_tie`: on a represented state whose retract entries point to represented lines with a token
    (`RetInv`, what `parseToFile` establishes), the result represents the model's `fixRetract`; the error list only grows.
  * `parseToFile_tie`: for EVERY input, fixer and `strict`: a pointer whose read-back `fileM` (the driver's) is the
    model's `File`, or an error value standing for the model's non-empty error list (`ErrValRep`).
  * `ParseWork_tie`: the same for go.work (`workM`).

  Fuel.  The loops pass their own decreasing fuel to the leaf functions, and a version fixer may return a version of any
  length (`module.CheckPathMajor` runs on it); the hypotheses are therefore stated on the parsed tree: `LineFuel F …`
  for one line (32 × the token lengths + 1 — `fixRetract` re-reads tokens that `File.add` rewrote, at most 4 × as long —,
  the number of comments of line and block + 3, twice the length of every version the fixer returns for the line) and
  `TreeFuel F fuel fx fs` for the file (`LineFuel` for every line, `fuel ≥ F` + statements + largest block + 2 and
  `F` + lines + 1).  They are explicit functions of the model's parse result; `parseToFile_tie` has no other hypothesis.

  Helper lemmas: Proofs/TieFnRuleAdd{A..H,J..P}.lean; leaf functions: Tie/FnRuleLeaf.lean.
-/
import ModVerif.Proofs.TieFnRuleAddO
import ModVerif.Proofs.TieFnRuleAddP
import ModVerif.Proofs.BytesLit
namespace ModVerif.Tie.FnRuleAdd
open ModVerif ModVerif.GoRt ModVerif.Generated ModVerif.Tie.FnRuleRep
open ModVerif.Tie.FnRuleAddA ModVerif.Tie.FnRuleAddC ModVerif.Tie.FnRuleAddD ModVerif.Tie.FnRuleAddE ModVerif.Tie.FnRuleAddF
open ModVerif.Tie.FnRuleAddH ModVerif.Tie.FnRuleAddM ModVerif.Tie.FnRuleAddO
open ModVerif.Drv.GenRule (isPrintI unquoteI laxSubI deprecatedSubI fixG parseSynI idOf idsOf fileM workM encErr)
open ModVerif.Tie.FnRuleAddP ModVerif.Tie.FnRuleAddEx

/-- **`File.add`**: one call on a represented state = the model's `File.add` -/
theorem File_add_tie {ι : Int → Nat} {h : Rule.Heap} {fp : Int} {errs : List Rule.Error} {st : Modfile.AddState} {syn : Modfile.FileSyntax}
    {lp : Int} {l : Modfile.Line} {pre args : List Bytes}
    (R : RepRS ι h fp errs st syn) (hl : RLine ι h lp l) (htok : l.token = pre ++ args)
    (block : Int) (bc : Option Modfile.Comments) (hb : BlockRep h block bc) (verb : Bytes) (fx : Option Modfile.Fixer) (strict : Bool)
    (F fuel : Nat) (hF : LineFuel F bc fx l args) (hfuel : F ≤ fuel) :
    ∃ errs' h',
      Rule.File_add deprecatedSubI Modfile.goVersionRE isPrintI laxSubI Quote.quote Modfile.toolchainRE unquoteI fuel fp errs block lp verb
        { owner := lp, lo := (pre.length : Int) } (fixG fx) strict h = .ok (((), errs'), h') ∧
      StepPost ι h fp syn lp l pre (Modfile.File.add st bc l verb args fx strict) errs' h' :=
  FA_step R hl htok fuel block bc verb fx strict (AddLeaf_of htok hF fuel hfuel h lp hl hb)

-- lax go-version fix: the token `1.21-foo` is rewritten to `1.21` in the line object, the `Go` entry is the model's
set_option maxRecDepth 100000 in
example :
    (match Rule.File_add deprecatedSubI Modfile.goVersionRE isPrintI laxSubI Quote.quote Modfile.toolchainRE unquoteI 100 1 [] 0 1 (B "go")
        { owner := 1, lo := 1 } none false (exLoad (B "go 1.21-foo\n")) with
      | .ok ((_, errs), h) => (errs.length, (heapGet h.lines 1).toOption.map (·.Token),
          (fileM (idsOf (B "go.mod") (B "go 1.21-foo\n")) h 1).map (·.go))
      | .error _ => (1, none, none)) =
      (0, some [B "go", B "1.21"], some (some { version := B "1.21", lineId := 0 })) ∧
    (let r := Modfile.File.add {} none (exLine (B "go 1.21-foo\n")) (B "go") [B "1.21-foo"] none false
     (r.1.errsRev.length, r.2, r.1.file.go)) = (0, [B "1.21"], some { version := B "1.21", lineId := 0 }) := by decide +kernel
-- an unknown directive in strict mode: one error at the start of the line, of the model's kind
set_option maxRecDepth 100000 in
example :
    (match Rule.File_add deprecatedSubI Modfile.goVersionRE isPrintI laxSubI Quote.quote Modfile.toolchainRE unquoteI 100 1 [] 0 1 (B "frob")
        { owner := 1, lo := 1 } none true (exLoad (B "frob x\n")) with
      | .ok ((_, errs), _) => errs.map (fun e => (e.Pos, e.Err))
      | .error _ => []) = [({ Line := 1, LineRune := 1, Byte := 0 }, some "unknown directive: %s")] ∧
    (Modfile.File.add {} none (exLine (B "frob x\n")) (B "frob") [B "x"] none true).1.errsRev =
      [⟨{ line := 1, lineRune := 1, byte := 0 }, .unknownDirective⟩] := by decide +kernel
-- the fuel hypothesis is decidable (`lineFuelB`)
example : LineFuel 1000 none none (exLine (B "go 1.21-foo\n")) [B "1.21-foo"] := lineFuelB_spec (by decide +kernel)

/-- **`WorkFile.add`**: one call on a represented state = the model's `WorkFile.add` -/
theorem WorkFile_add_tie {ι : Int → Nat} {h : Rule.Heap} {fp : Int} {errs : List Rule.Error} {st : Modfile.WorkState} {syn : Modfile.FileSyntax}
    {lp : Int} {l : Modfile.Line} {pre args : List Bytes}
    (R : RepWS ι h fp errs st syn) (hl : RLine ι h lp l) (htok : l.token = pre ++ args)
    (verb : Bytes) (fx : Option Modfile.Fixer) (F fuel : Nat) (hF : LineFuel F none fx l args) (hfuel : F ≤ fuel) :
    ∃ errs' h',
      Rule.WorkFile_add Modfile.goVersionRE isPrintI Quote.quote Modfile.toolchainRE unquoteI fuel fp errs lp verb
        { owner := lp, lo := (pre.length : Int) } (fixG fx) h = .ok (((), errs'), h') ∧
      StepPostW ι h fp syn lp l pre (Modfile.WorkFile.add st l verb args fx) errs' h' :=
  WA_step R hl htok fuel verb fx (WorkLeaf_of htok hF fuel hfuel h lp hl)

set_option maxRecDepth 100000 in
example :
    (match Rule.WorkFile_add Modfile.goVersionRE isPrintI Quote.quote Modfile.toolchainRE unquoteI 100 1 [] 1 (B "use")
        { owner := 1, lo := 1 } none (exLoad (B "use \"./a\"\n")) with
      | .ok ((_, errs), h) => (errs.length, (heapGet h.lines 1).toOption.map (·.Token),
          (workM (idsOf (B "go.mod") (B "use \"./a\"\n")) h 1).map (·.use))
      | .error _ => (1, none, none)) =
      (0, some [B "use", B "./a"], some [{ path := B "./a", lineId := 0 }]) ∧
    (let r := Modfile.WorkFile.add {} (exLine (B "use \"./a\"\n")) (B "use") [B "\"./a\""] none
     (r.1.errsRev.length, r.2, r.1.file.use)) = (0, [B "./a"], [{ path := B "./a", lineId := 0 }]) := by decide +kernel

/-- **`File.fixRetract`** on a represented state = the model's `fixRetract` -/
theorem File_fixRetract_tie {ι : Int → Nat} {h : Rule.Heap} {fp : Int} {errs : List Rule.Error} {st : Modfile.AddState}
    (R : RepR ι h fp errs st) (fx : Option Modfile.Fixer) (F fuel : Nat)
    (hfuel : F + st.file.retract.length + 1 ≤ fuel)
    (hinv : ∀ o, heapGet h.mods fp = .ok o → RetInv ι h o (QF F) st) :
    ∃ errs' h',
      Rule.File_fixRetract isPrintI Quote.quote unquoteI fuel fp (fixG fx) errs h = .ok (((), errs'), h') ∧
      RepR ι h' fp errs' (Modfile.fixRetract st fx) ∧ errs <+: errs' :=
  FR_spec R fx (QF F) F fuel hfuel hinv (fun fx' m _ _ _ => FixLeaf_of ι F m.mod.path fx')

-- inside `parseToFile`: the retract interval is re-read with the fixer (`latest` ↦ v1.0.0) and the token rewritten
set_option maxRecDepth 100000 in
example : (match PTF 5000 (B "go.mod") exMod (fixG (some Modfile.fixStub)) true default with
    | .ok ((fp, none), h) => ((fileM (idsOf (B "go.mod") exMod) h fp).map (·.retract), (heapGet h.lines 4).toOption.map (·.Token))
    | _ => (none, none)) =
    (some [{ interval := { low := B "v1.0.0", high := B "v1.0.0" }, rationale := B "bad", lineId := 3 }],
     some [B "retract", B "[", B "v1.0.0", B ",", B "v1.0.0", B "]"]) := by rw [B_lit exMod]; decide +kernel

/-- **`parseToFile`** (`Parse` / `ParseLax`), every input, fixer and `strict`: the model's `File` read back from the heap,
    or an error value that stands for the model's error list -/
theorem parseToFile_tie (name data : Bytes) (fx : Option Modfile.Fixer) (strict : Bool) (F fuel : Nat)
    (hT : ∀ fs, Modfile.parse name data = .ok fs → TreeFuel F fuel fx fs) :
    match Modfile.parseToFile name data fx strict with
    | .ok f => ∃ fp h,
        Rule.parseToFile deprecatedSubI Modfile.goVersionRE isPrintI laxSubI parseSynI Quote.quote Modfile.toolchainRE unquoteI
          fuel name data (fixG fx) strict default = .ok ((fp, none), h) ∧
        fileM (idsOf name data) h fp = some f
    | .error es => ∃ e h,
        Rule.parseToFile deprecatedSubI Modfile.goVersionRE isPrintI laxSubI parseSynI Quote.quote Modfile.toolchainRE unquoteI
          fuel name data (fixG fx) strict default = .ok (((0 : Int), e), h) ∧
        ErrValRep e es ∧ es ≠ [] := by
  cases hp : Modfile.parse name data with
  | ok fs => exact PTF_spec hp fx strict F fuel (hT fs hp)
  | error e =>
    have hm : Modfile.parseToFile name data fx strict = .error [⟨e.pos, .syn e.kind⟩] := by
      unfold Modfile.parseToFile; rw [hp]
    rw [hm]
    exact ⟨_, _, PTF_synErr hp fx strict fuel, Or.inr ⟨e.pos, e.kind, rfl, rfl⟩, by simp⟩

/-- the fuel hypothesis decided on the parsed tree -/
theorem parseToFile_tie_dec (name data : Bytes) (fx : Option Modfile.Fixer) (strict : Bool) (F fuel : Nat)
    (hB : inputFuelB F fuel name data fx = true) :
    match Modfile.parseToFile name data fx strict with
    | .ok f => ∃ fp h,
        Rule.parseToFile deprecatedSubI Modfile.goVersionRE isPrintI laxSubI parseSynI Quote.quote Modfile.toolchainRE unquoteI
          fuel name data (fixG fx) strict default = .ok ((fp, none), h) ∧
        fileM (idsOf name data) h fp = some f
    | .error es => ∃ e h,
        Rule.parseToFile deprecatedSubI Modfile.goVersionRE isPrintI laxSubI parseSynI Quote.quote Modfile.toolchainRE unquoteI
          fuel name data (fixG fx) strict default = .ok (((0 : Int), e), h) ∧
        ErrValRep e es ∧ es ≠ [] :=
  parseToFile_tie name data fx strict F fuel (treeFuel_of_input hB)

-- the hypothesis holds for the example files with the driver's fuel
set_option maxRecDepth 100000 in
example : inputFuelB 4096 5000 (B "go.mod") exMod (some Modfile.fixStub) = true ∧ inputFuelB 4096 5000 (B "go.mod") exBad none = true ∧
    inputFuelB 4096 5000 (B "go.work") exWork none = true := by rw [B_lit exBad, B_lit exMod, B_lit exWork]; decide +kernel
-- success: the file read back from the heap is the model's
set_option maxRecDepth 100000 in
example : (match PTF 5000 (B "go.mod") exMod (fixG (some Modfile.fixStub)) true default with
    | .ok ((fp, none), h) => fileM (idsOf (B "go.mod") exMod) h fp
    | _ => none) = (Modfile.parseToFile (B "go.mod") exMod (some Modfile.fixStub) true).toOption ∧
    (Modfile.parseToFile (B "go.mod") exMod (some Modfile.fixStub) true).toOption.isSome = true := by rw [B_lit exMod]; decide +kernel
-- errors: the regenerated code returns nil and an error value, the model the error list
set_option maxRecDepth 100000 in
example : (match PTF 5000 (B "go.mod") exBad (fixG none) true default with
    | .ok ((fp, some _), _) => fp
    | _ => 1) = 0 ∧
    (match Modfile.parseToFile (B "go.mod") exBad none true with
     | .error es => es.map (fun (e : ModVerif.Modfile.RuleErr) => (e.pos.line, e.pos.lineRune, e.pos.byte, e.kind))
     | .ok _ => []) = [(2, 1, 8, .unknownDirective)] := by rw [B_lit exBad]; decide +kernel

/-- **`ParseWork`**, every input and fixer -/
theorem ParseWork_tie (name data : Bytes) (fx : Option Modfile.Fixer) (F fuel : Nat)
    (hT : ∀ fs, Modfile.parse name data = .ok fs → TreeFuel F fuel fx fs) :
    match Modfile.parseWork name data fx with
    | .ok f => ∃ fp h,
        Rule.ParseWork Modfile.goVersionRE isPrintI parseSynI Quote.quote Modfile.toolchainRE unquoteI fuel name data (fixG fx) default =
          .ok ((fp, none), h) ∧
        workM (idsOf name data) h fp = some f
    | .error es => ∃ e h,
        Rule.ParseWork Modfile.goVersionRE isPrintI parseSynI Quote.quote Modfile.toolchainRE unquoteI fuel name data (fixG fx) default =
          .ok (((0 : Int), e), h) ∧
        ErrValRep e es ∧ es ≠ [] := by
  cases hp : Modfile.parse name data with
  | ok fs => exact PWK_spec hp fx F fuel (hT fs hp)
  | error e =>
    have hm : Modfile.parseWork name data fx = .error [⟨e.pos, .syn e.kind⟩] := by
      unfold Modfile.parseWork; rw [hp]
    rw [hm]
    exact ⟨_, _, PWK_synErr hp fx fuel, Or.inr ⟨e.pos, e.kind, rfl, rfl⟩, by simp⟩

set_option maxRecDepth 100000 in
example : (match PWK 5000 (B "go.work") exWork (fixG none) default with
    | .ok ((fp, none), h) => workM (idsOf (B "go.work") exWork) h fp
    | _ => none) = (Modfile.parseWork (B "go.work") exWork none).toOption ∧
    (Modfile.parseWork (B "go.work") exWork none).toOption.isSome = true := by rw [B_lit exWork]; decide +kernel

end ModVerif.Tie.FnRuleAdd
