/-
  Tie theorems (a simulation) of the SCALAR-STATEMENT, GODEBUG and TOOL edit operations of go.mod files, for the code
  regenerated from modfile/rule.go into Generated/FnEdit.lean (pointer graph = heap) against the hand model
  Model/Modfile/Edit.lean:

    File_AddModuleStmt      ↔ addModuleStmt        File_AddGodebug (+ loop 1)   ↔ addGodebug (addGodebugCore, firstRest)
    File_AddGoStmt          ↔ addGoStmt            File_addNewGodebug           ↔ the `first = none` branch of addGodebugCore
    File_DropGoStmt         ↔ dropGoStmt           File_DropGodebug (+ loop 1)  ↔ dropGodebug (clearAll)
    File_AddToolchainStmt   ↔ addToolchainStmt     File_AddTool (+ loop 1)      ↔ addTool
    File_DropToolchainStmt  ↔ dropToolchainStmt    File_DropTool (+ loop 1)     ↔ dropTool (clearAll)

  Shape (Proofs/TieFnEditRep.lean: `RepF h fp e` = the heap `h` at the `*File` pointer `fp` represents the model `EFile` `e`,
  line id = line pointer, `e.next = h.lines.length + 1`):
    `RepF h fp e → ∃ h', File_Op … fuel fp args h = .ok (none, h') ∧ RepF h' fp e'`      where `Edit.op e args = .ok e'`,
    `File_Op … = .ok (some msg, h)` (heap unchanged) where the model returns a "returned" error (invalid go version / toolchain),
    `File_Op … = .error .panic`                                   where the model gives `nilDeref` (a cleared list entry).
  Fuel hypotheses are explicit: `nodeCount e.f.syn.stmts + 3` (statements + block lines; `FileSyntax_addLine`),
  `path.length + 1` (`AutoQuote`), `list.length + 1` (the loops over `f.Godebug` / `f.Tool`).

  SCALAR POINTERS.  `f.Module`, `f.Go`, `f.Toolchain` are optional entries; the model's scalar operations do not check their
  `lineId` (`updateLine`/`markRemoved` of `nilId` are no-ops, the hint `some nilId` appends), Go dereferences `.Syntax`
  (panic) resp. tests `.Syntax != nil` before using it as a hint.  The two agree when the entry's `lineId ≠ 0` — true of
  every file made by the parser and by these operations (the new entry gets `lineId = e.next ≥ 1`).  These are the
  hypotheses `hm`/`hg`/`ht` below; the `…_nil` theorems state what the regenerated code does otherwise (it panics).

  `File.AddTool` ends with `f.SortBlocks()`: `File_AddTool_tie_partial` takes the tie of `File_SortBlocks` as the explicit
  hypothesis `SortSpec sortFuel`; `File_AddTool_tie` discharges it with `File_SortBlocks_sim`
  (Tie/FnEditSort.lean) and is unconditional.  `FileSyntax_addLine` is discharged by `Tie.FnEditAddLine.addLine_tie`,
  `Line_markRemoved` / `FileSyntax_updateLine` by Proofs/TieFnEditTreeA.lean, `AutoQuote` by `Tie.FnModfile.AutoQuote_tie`.

  Bridging: `isPrint := Drv.GenModfile.isPrintI`, `quote := Quote.quote`, `goVersionRE := Modfile.goVersionRE`,
  `toolchainRE := Modfile.toolchainRE` — the driver's instantiation (Drv/GenEdit.lean), run against Go on every check.

  Helper lemmas: Proofs/TieFnEditTyped{,Add}.lean (the rules for a typed list / a scalar entry of either file kind),
  …StmtA.lean (scalar statements), …StmtB.lean (godebug), …StmtC.lean (tool).  Examples: the driver's `load` of a parsed go.mod (`FnEditRep.load_rep`), kernel-evaluated.
-/
import ModVerif.Generated.FnEdit
import ModVerif.Model.Modfile.Edit
import ModVerif.Proofs.TieFnEditRep
import ModVerif.Proofs.TieFnEditStmtA
import ModVerif.Proofs.TieFnEditStmtB
import ModVerif.Proofs.TieFnEditStmtC
import ModVerif.Tie.FnEditAddLine
import ModVerif.Proofs.TieFnEditStmtEx
import ModVerif.Tie.FnEditSort
import ModVerif.Proofs.BytesLit
namespace ModVerif.Tie.FnEditStmt
open ModVerif ModVerif.GoRt ModVerif.Generated.Edit ModVerif.Tie.FnEditRep
open ModVerif.Tie.FnEditStmtA ModVerif.Tie.FnEditStmtB ModVerif.Tie.FnEditStmtC ModVerif.Tie.FnEditTyped
open ModVerif.TieFnEditAddLine (nodeCount)
open ModVerif.Modfile.Edit (EFile EditErr)

/-- **File.AddModuleStmt** (rule.go:198).  `f.Syntax == nil` does not occur under `RepF`. -/
theorem File_AddModuleStmt_tie {h : Heap} {fp : Int} {e : EFile} (R : RepF h fp e)
    (hm : ∀ m, e.f.module = some m → m.lineId ≠ 0) (path : Bytes) (fuel : Nat)
    (hf : nodeCount e.f.syn.stmts + 3 ≤ fuel) (hq : path.length + 1 ≤ fuel) :
    ∃ h', File_AddModuleStmt Drv.GenModfile.isPrintI Quote.quote fuel fp path h = .ok (none, h') ∧
      RepF h' fp (Modfile.Edit.addModuleStmt e path) := by
  cases hmm : e.f.module with
  | none =>
    obtain ⟨h', h1, h2⟩ := File_AddModuleStmt_insert R hmm path fuel hf hq
    refine ⟨h', h1, ?_⟩
    simp only [Modfile.Edit.addModuleStmt, hmm]
    exact h2
  | some m =>
    obtain ⟨h', h1, h2⟩ := File_AddModuleStmt_update R hmm (hm m hmm) path fuel hq
    refine ⟨h', h1, ?_⟩
    simp only [Modfile.Edit.addModuleStmt, hmm]
    exact h2

/-- a `Module` entry without a line: `updateLine(nil, …)` is a nil dereference -/
theorem File_AddModuleStmt_nil {h : Heap} {fp : Int} {e : EFile} (R : RepF h fp e) {m : Modfile.Module}
    (hs : e.f.module = some m) (h0 : m.lineId = 0) (path : Bytes) (fuel : Nat) (hq : path.length + 1 ≤ fuel) :
    File_AddModuleStmt Drv.GenModfile.isPrintI Quote.quote fuel fp path h = .error .panic :=
  File_AddModuleStmt_update_nil R hs h0 path fuel hq

/-- **File.AddGoStmt** (rule.go:1052) -/
theorem File_AddGoStmt_tie {h : Heap} {fp : Int} {e : EFile} (R : RepF h fp e)
    (hg : ∀ g, e.f.go = some g → g.lineId ≠ 0) (hm : ∀ m, e.f.module = some m → m.lineId ≠ 0) (version : Bytes) (fuel : Nat)
    (hf : nodeCount e.f.syn.stmts + 3 ≤ fuel) :
    match Modfile.Edit.addGoStmt e version with
    | .ok e' => ∃ h', File_AddGoStmt Modfile.goVersionRE fuel fp version h = .ok (none, h') ∧ RepF h' fp e'
    | .error err => err = .invalidGoVersion ∧
        File_AddGoStmt Modfile.goVersionRE fuel fp version h = .ok (some "invalid language version %q", h) := by
  cases hv : Modfile.goVersionRE version with
  | false =>
    simp only [Modfile.Edit.addGoStmt, hv, Bool.not_false, if_true]
    exact ⟨trivial, File_AddGoStmt_invalid fuel fp version h hv⟩
  | true =>
    cases hgg : e.f.go with
    | none =>
      simp only [Modfile.Edit.addGoStmt, hv, Bool.not_true, Bool.false_eq_true, if_false, hgg]
      exact File_AddGoStmt_insert R hgg hm version hv fuel hf
    | some g =>
      simp only [Modfile.Edit.addGoStmt, hv, Bool.not_true, Bool.false_eq_true, if_false, hgg]
      exact File_AddGoStmt_update R hgg (hg g hgg) version hv fuel

/-- a `Go` entry without a line: `updateLine(nil, …)` is a nil dereference -/
theorem File_AddGoStmt_nil {h : Heap} {fp : Int} {e : EFile} (R : RepF h fp e) {g : Modfile.Go}
    (hs : e.f.go = some g) (h0 : g.lineId = 0) (version : Bytes) (hv : Modfile.goVersionRE version = true) (fuel : Nat) :
    File_AddGoStmt Modfile.goVersionRE fuel fp version h = .error .panic :=
  File_AddGoStmt_update_nil R hs h0 version hv fuel

/-- **File.DropGoStmt** (rule.go:1075) -/
theorem File_DropGoStmt_tie {h : Heap} {fp : Int} {e : EFile} (R : RepF h fp e) (hg : ∀ g, e.f.go = some g → g.lineId ≠ 0) :
    ∃ h', File_DropGoStmt fp h = .ok ((), h') ∧ RepF h' fp (Modfile.Edit.dropGoStmt e) := by
  cases hgg : e.f.go with
  | none =>
    refine ⟨h, File_DropGoStmt_none R hgg, ?_⟩
    simp only [Modfile.Edit.dropGoStmt, hgg]
    exact R
  | some g => exact File_DropGoStmt_some R hgg (hg g hgg)

/-- a `Go` entry without a line: `f.Go.Syntax.markRemoved()` is a nil dereference -/
theorem File_DropGoStmt_nil {h : Heap} {fp : Int} {e : EFile} (R : RepF h fp e) {g : Modfile.Go}
    (hs : e.f.go = some g) (h0 : g.lineId = 0) : File_DropGoStmt fp h = .error .panic :=
  FnEditStmtA.File_DropGoStmt_nil R hs h0

/-- **File.AddToolchainStmt** (rule.go:1090) -/
theorem File_AddToolchainStmt_tie {h : Heap} {fp : Int} {e : EFile} (R : RepF h fp e)
    (ht : ∀ t, e.f.toolchain = some t → t.lineId ≠ 0) (hg : ∀ g, e.f.go = some g → g.lineId ≠ 0)
    (hm : ∀ m, e.f.module = some m → m.lineId ≠ 0) (name : Bytes) (fuel : Nat) (hf : nodeCount e.f.syn.stmts + 3 ≤ fuel) :
    match Modfile.Edit.addToolchainStmt e name with
    | .ok e' => ∃ h', File_AddToolchainStmt Modfile.toolchainRE fuel fp name h = .ok (none, h') ∧ RepF h' fp e'
    | .error err => err = .invalidToolchain ∧
        File_AddToolchainStmt Modfile.toolchainRE fuel fp name h = .ok (some "invalid toolchain name %q", h) := by
  cases hv : Modfile.toolchainRE name with
  | false =>
    simp only [Modfile.Edit.addToolchainStmt, hv, Bool.not_false, if_true]
    exact ⟨trivial, File_AddToolchainStmt_invalid fuel fp name h hv⟩
  | true =>
    cases htt : e.f.toolchain with
    | none =>
      simp only [Modfile.Edit.addToolchainStmt, hv, Bool.not_true, Bool.false_eq_true, if_false, htt]
      exact File_AddToolchainStmt_insert R htt hg hm name hv fuel hf
    | some t =>
      simp only [Modfile.Edit.addToolchainStmt, hv, Bool.not_true, Bool.false_eq_true, if_false, htt]
      exact File_AddToolchainStmt_update R htt (ht t htt) name hv fuel

/-- a `Toolchain` entry without a line: `updateLine(nil, …)` is a nil dereference -/
theorem File_AddToolchainStmt_nil {h : Heap} {fp : Int} {e : EFile} (R : RepF h fp e) {t : Modfile.Toolchain}
    (hs : e.f.toolchain = some t) (h0 : t.lineId = 0) (name : Bytes) (hv : Modfile.toolchainRE name = true) (fuel : Nat) :
    File_AddToolchainStmt Modfile.toolchainRE fuel fp name h = .error .panic :=
  File_AddToolchainStmt_update_nil R hs h0 name hv fuel

/-- **File.DropToolchainStmt** (rule.go:1083) -/
theorem File_DropToolchainStmt_tie {h : Heap} {fp : Int} {e : EFile} (R : RepF h fp e)
    (ht : ∀ t, e.f.toolchain = some t → t.lineId ≠ 0) :
    ∃ h', File_DropToolchainStmt fp h = .ok ((), h') ∧ RepF h' fp (Modfile.Edit.dropToolchainStmt e) := by
  cases htt : e.f.toolchain with
  | none =>
    refine ⟨h, File_DropToolchainStmt_none R htt, ?_⟩
    simp only [Modfile.Edit.dropToolchainStmt, htt]
    exact R
  | some t => exact File_DropToolchainStmt_some R htt (ht t htt)

/-- a `Toolchain` entry without a line: nil dereference -/
theorem File_DropToolchainStmt_nil {h : Heap} {fp : Int} {e : EFile} (R : RepF h fp e) {t : Modfile.Toolchain}
    (hs : e.f.toolchain = some t) (h0 : t.lineId = 0) : File_DropToolchainStmt fp h = .error .panic :=
  FnEditStmtA.File_DropToolchainStmt_nil R hs h0

/-- **File.AddGodebug** (rule.go:1118): the first entry with this key is updated (object and line), every later one is
    cleared and its line marked removed, else `addNewGodebug`; a matching CLEARED entry (`Syntax == nil`, the model's
    `nilDeref`) is a Go panic. -/
theorem File_AddGodebug_tie {h : Heap} {fp : Int} {e : EFile} (R : RepF h fp e) (key value : Bytes) (fuel : Nat)
    (hf1 : e.f.godebug.length + 1 ≤ fuel) (hf2 : nodeCount e.f.syn.stmts + 3 ≤ fuel) :
    match Modfile.Edit.addGodebug e key value with
    | .ok e' => ∃ h', File_AddGodebug fuel fp key value h = .ok (none, h') ∧ RepF h' fp e'
    | .error _ => File_AddGodebug fuel fp key value h = .error .panic :=
  File_AddGodebug_sim R key value fuel hf1 hf2

/-- **File.addNewGodebug** (rule.go:1141): the branch `first = none` of the model's `addGodebugCore` -/
theorem File_addNewGodebug_tie {h : Heap} {fp : Int} {e : EFile} (R : RepF h fp e) (key value : Bytes) (fuel : Nat)
    (hf : nodeCount e.f.syn.stmts + 3 ≤ fuel) :
    ∃ h', File_addNewGodebug fuel fp key value h = .ok ((), h') ∧
      RepF h' fp { f := { e.f with godebug := e.f.godebug ++ [{ key := key, value := value, lineId := e.next }],
                                   syn := Modfile.Edit.addLine e.f.syn none [B "godebug", key ++ [61] ++ value] e.next },
                   next := e.next + 1 } :=
  File_addNewGodebug_sim R key value fuel hf

/-- **File.DropGodebug** (rule.go:1458) -/
theorem File_DropGodebug_tie {h : Heap} {fp : Int} {e : EFile} (R : RepF h fp e) (key : Bytes) (fuel : Nat)
    (hf1 : e.f.godebug.length + 1 ≤ fuel) :
    match Modfile.Edit.dropGodebug e key with
    | .ok e' => ∃ h', File_DropGodebug fuel fp key h = .ok (none, h') ∧ RepF h' fp e'
    | .error _ => File_DropGodebug fuel fp key h = .error .panic :=
  tieF <| dropOp_sim modK_ok godebugT_ok (cleared := Modfile.Edit.clearedGodebug) rfl rfl (fun g => g.key == key)
    (fun _ _ a => pure (decide (a.Key = key))) (fun _ _ x _ => congrArg Except.ok (FnEditWorkA.bytes_beq_eq_decide _ _).symm)
    (fun fp o => File_DropGodebug_loop1 o.Godebug fp key) (fun fuel fp => File_DropGodebug fuel fp key)
    (fun fuel fp h o ho => by simp only [File_DropGodebug, show heapGet h.mods fp = .ok o from ho, bind_ok])
    (fun fp o => DropGodebug_body fp key o.Godebug) R fuel hf1

/-- **File.DropGodebug, the model succeeds** -/
theorem _root_.ModVerif.Tie.FnEditStmtB.File_DropGodebug_ok {h : Heap} {fp : Int} {e e' : Modfile.Edit.EFile} (R : RepF h fp e)
    (key : Bytes) (fuel : Nat) (hf1 : e.f.godebug.length + 1 ≤ fuel)
    (hm : Modfile.Edit.dropGodebug e key = .ok e') :
    ∃ h', File_DropGodebug fuel fp key h = .ok (none, h') ∧ RepF h' fp e' := by
  have := File_DropGodebug_tie R key fuel hf1
  rwa [hm] at this

/-- **File.DropGodebug, the model meets a cleared entry (`nilDeref`): Go panics** -/
theorem _root_.ModVerif.Tie.FnEditStmtB.File_DropGodebug_err {h : Heap} {fp : Int} {e : Modfile.Edit.EFile} (R : RepF h fp e)
    (key : Bytes) (fuel : Nat) (hf1 : e.f.godebug.length + 1 ≤ fuel) {err : Modfile.Edit.EditErr}
    (hm : Modfile.Edit.dropGodebug e key = .error err) :
    File_DropGodebug fuel fp key h = .error .panic := by
  have := File_DropGodebug_tie R key fuel hf1
  rwa [hm] at this

/-- **File.AddTool** (rule.go:1606) with the tie of the final `f.SortBlocks()` as the hypothesis `hSort`
    (`SortSpec sortFuel`: `RepF h fp e → sortFuel e ≤ fuel → ∃ h', File_SortBlocks fuel fp h = .ok ((), h') ∧
    RepF h' fp (sortBlocks e)`); `hf3` is its fuel bound at the file after the insertion.  `sortSpec` below discharges
    `hSort`, and `File_AddTool_tie` is this theorem without it: nothing is unproved, the name says only that this form
    has the hypothesis. -/
theorem File_AddTool_tie_partial {sortFuel : EFile → Nat} (hSort : SortSpec sortFuel)
    {h : Heap} {fp : Int} {e : EFile} (R : RepF h fp e) (path : Bytes) (fuel : Nat)
    (hf1 : e.f.tool.length + 1 ≤ fuel) (hf2 : nodeCount e.f.syn.stmts + 3 ≤ fuel)
    (hf3 : sortFuel { f := { e.f with tool := e.f.tool ++ [{ path := path, lineId := e.next }],
                                      syn := Modfile.Edit.addLine e.f.syn none [B "tool", path] e.next }, next := e.next + 1 } ≤ fuel) :
    ∃ h', File_AddTool fuel fp path h = .ok (none, h') ∧ RepF h' fp (Modfile.Edit.addTool e path) := by
  cases hp : e.f.tool.any (·.path == path) with
  | true =>
    refine ⟨h, File_AddTool_present R path fuel hf1 hp, ?_⟩
    simp only [Modfile.Edit.addTool, hp, if_true]
    exact R
  | false => exact File_AddTool_new hSort R path fuel hf1 hf2 hf3 hp

/-- `File_SortBlocks` simulates the model's `sortBlocks` (`File_SortBlocks_sim`, Tie/FnEditSort.lean) -/
theorem sortSpec : SortSpec ModVerif.Tie.FnEditSortE.sortFuel :=
  fun _ _ _ _ R hf => ModVerif.Tie.FnEditSort.File_SortBlocks_sim R hf

/-- **File.AddTool** (rule.go:1606): nothing if the path is present, else a new `tool` line (`addLine` with the no-hint
    search), a new `Tool` object at the end of `f.Tool`, then `f.SortBlocks()`.  `hf3` is the fuel bound of
    SortBlocks (`FnEditSortE.sortFuel`: typed-list lengths, statements, lines, token bytes, go version) at the file after
    the insertion. -/
theorem File_AddTool_tie {h : Heap} {fp : Int} {e : EFile} (R : RepF h fp e) (path : Bytes) (fuel : Nat)
    (hf1 : e.f.tool.length + 1 ≤ fuel) (hf2 : nodeCount e.f.syn.stmts + 3 ≤ fuel)
    (hf3 : ModVerif.Tie.FnEditSortE.sortFuel
      { f := { e.f with tool := e.f.tool ++ [{ path := path, lineId := e.next }],
                        syn := Modfile.Edit.addLine e.f.syn none [B "tool", path] e.next }, next := e.next + 1 } ≤ fuel) :
    ∃ h', File_AddTool fuel fp path h = .ok (none, h') ∧ RepF h' fp (Modfile.Edit.addTool e path) :=
  File_AddTool_tie_partial sortSpec R path fuel hf1 hf2 hf3

/-- **File.AddTool when the path is present** (no SortBlocks): unconditional -/
theorem File_AddTool_present_tie {h : Heap} {fp : Int} {e : EFile} (R : RepF h fp e) (path : Bytes) (fuel : Nat)
    (hf1 : e.f.tool.length + 1 ≤ fuel) (hp : e.f.tool.any (·.path == path) = true) :
    File_AddTool fuel fp path h = .ok (none, h) ∧ Modfile.Edit.addTool e path = e := by
  refine ⟨File_AddTool_present R path fuel hf1 hp, ?_⟩
  simp only [Modfile.Edit.addTool, hp, if_true]

/-- **File.DropTool** (rule.go:1624) -/
theorem File_DropTool_tie {h : Heap} {fp : Int} {e : EFile} (R : RepF h fp e) (path : Bytes) (fuel : Nat)
    (hf1 : e.f.tool.length + 1 ≤ fuel) :
    match Modfile.Edit.dropTool e path with
    | .ok e' => ∃ h', File_DropTool fuel fp path h = .ok (none, h') ∧ RepF h' fp e'
    | .error _ => File_DropTool fuel fp path h = .error .panic :=
  tieF <| dropOp_sim modK_ok toolT_ok (cleared := Modfile.Edit.clearedTool) rfl rfl (fun t => t.path == path)
    (fun _ _ a => pure (decide (a.Path = path))) (fun _ _ x _ => congrArg Except.ok (FnEditWorkA.bytes_beq_eq_decide _ _).symm)
    (fun fp o => File_DropTool_loop1 o.Tool fp path) (fun fuel fp => File_DropTool fuel fp path)
    (fun fuel fp h o ho => by simp only [File_DropTool, show heapGet h.mods fp = .ok o from ho, bind_ok])
    (fun fp o => DropTool_body fp path o.Tool) R fuel hf1

/-- **File.DropTool, the model succeeds** -/
theorem _root_.ModVerif.Tie.FnEditStmtC.File_DropTool_ok {h : Heap} {fp : Int} {e e' : Modfile.Edit.EFile} (R : RepF h fp e)
    (path : Bytes) (fuel : Nat) (hf1 : e.f.tool.length + 1 ≤ fuel)
    (hm : Modfile.Edit.dropTool e path = .ok e') :
    ∃ h', File_DropTool fuel fp path h = .ok (none, h') ∧ RepF h' fp e' := by
  have := File_DropTool_tie R path fuel hf1
  rwa [hm] at this

/-- **File.DropTool, the model meets a cleared entry (`nilDeref`): Go panics** -/
theorem _root_.ModVerif.Tie.FnEditStmtC.File_DropTool_err {h : Heap} {fp : Int} {e : Modfile.Edit.EFile} (R : RepF h fp e)
    (path : Bytes) (fuel : Nat) (hf1 : e.f.tool.length + 1 ≤ fuel) {err : Modfile.Edit.EditErr}
    (hm : Modfile.Edit.dropTool e path = .error err) :
    File_DropTool fuel fp path h = .error .panic := by
  have := File_DropTool_tie R path fuel hf1
  rwa [hm] at this

/-! ### non-vacuity

  (a) every theorem is instantiated on the heap that the driver's `load` builds from a parsed go.mod
      (`FnEditStmtEx.exRep`: `RepF (exH file) (exP file) (exE file)`), all hypotheses discharged by kernel evaluation;
  (b) for every operation both sides are kernel-evaluated on that heap and compared (`run … = model …`: the regenerated
      operation, the file read back with the driver's `fileM`, against the hand model on `Edit.load` of the file);
  (c) for the `…_nil` theorems a represented state with a scalar entry without a line is built from the loaded one. -/

section examples
open ModVerif.Tie.FnEditStmtEx

-- File.AddModuleStmt: `module m` is rewritten / a module line is added to a file without one
example : ∃ h', File_AddModuleStmt Drv.GenModfile.isPrintI Quote.quote 200 (exP exFile) (B "n/x") (exH exFile) = .ok (none, h') ∧
    RepF h' (exP exFile) (Modfile.Edit.addModuleStmt (exE exFile) (B "n/x")) :=
  (fun (h : _ ∧ _ ∧ _) =>
    File_AddModuleStmt_tie (exRep exFile h.1) (optOK_sound h.2.1) (B "n/x") 200
      h.2.2 (by decide +kernel))
    (by rw [B_lit exFile]; decide +kernel)
example : run exFile (fun fp h => File_AddModuleStmt Drv.GenModfile.isPrintI Quote.quote 200 fp (B "n/x") h) =
    modelU exFile (fun e => Modfile.Edit.addModuleStmt e (B "n/x")) := by rw [B_lit exFile]; decide +kernel
example : run exFile0 (fun fp h => File_AddModuleStmt Drv.GenModfile.isPrintI Quote.quote 200 fp (B "n x") h) =
    modelU exFile0 (fun e => Modfile.Edit.addModuleStmt e (B "n x")) := by rw [B_lit exFile0]; decide +kernel
example : ∃ h', File_AddModuleStmt Drv.GenModfile.isPrintI Quote.quote 200 (exP exFile0) (B "n x") (exH exFile0) = .ok (none, h') ∧
    RepF h' (exP exFile0) (Modfile.Edit.addModuleStmt (exE exFile0) (B "n x")) :=
  (fun (h : _ ∧ _ ∧ _) =>
    File_AddModuleStmt_tie (exRep exFile0 h.1) (optOK_sound h.2.1) (B "n x") 200
      h.2.2 (by decide +kernel))
    (by rw [B_lit exFile0]; decide +kernel)

-- File.AddGoStmt: update of `go 1.21`, insertion after the module line / into a file without module, invalid version
example : match Modfile.Edit.addGoStmt (exE exFile) (B "1.22") with
    | .ok e' => ∃ h', File_AddGoStmt Modfile.goVersionRE 200 (exP exFile) (B "1.22") (exH exFile) = .ok (none, h') ∧
        RepF h' (exP exFile) e'
    | .error err => err = .invalidGoVersion ∧
        File_AddGoStmt Modfile.goVersionRE 200 (exP exFile) (B "1.22") (exH exFile) = .ok (some "invalid language version %q", exH exFile) :=
  (fun (h : _ ∧ _ ∧ _ ∧ _) =>
    File_AddGoStmt_tie (exRep exFile h.1) (optOK_sound h.2.1) (optOK_sound h.2.2.1)
      (B "1.22") 200 h.2.2.2)
    (by rw [B_lit exFile]; decide +kernel)
example : run exFile (fun fp h => File_AddGoStmt Modfile.goVersionRE 200 fp (B "1.22") h) =
    model exFile (fun e => Modfile.Edit.addGoStmt e (B "1.22")) := by rw [B_lit exFile]; decide +kernel
example : run exFile2 (fun fp h => File_AddGoStmt Modfile.goVersionRE 200 fp (B "1.22") h) =
    model exFile2 (fun e => Modfile.Edit.addGoStmt e (B "1.22")) := by rw [B_lit exFile2]; decide +kernel
example : run exFile0 (fun fp h => File_AddGoStmt Modfile.goVersionRE 200 fp (B "1.22") h) =
    model exFile0 (fun e => Modfile.Edit.addGoStmt e (B "1.22")) := by rw [B_lit exFile0]; decide +kernel
example : run exFile0 (fun fp h => File_AddGoStmt Modfile.goVersionRE 200 fp (B "x") h) =
    model exFile0 (fun e => Modfile.Edit.addGoStmt e (B "x")) ∧
    (run exFile0 (fun fp h => File_AddGoStmt Modfile.goVersionRE 200 fp (B "x") h)).map (·.1) = some false := by rw [B_lit exFile0]; decide +kernel

-- File.DropGoStmt
example : ∃ h', File_DropGoStmt (exP exFile) (exH exFile) = .ok ((), h') ∧
    RepF h' (exP exFile) (Modfile.Edit.dropGoStmt (exE exFile)) :=
  (fun (h : _ ∧ _) =>
    File_DropGoStmt_tie (exRep exFile h.1) (optOK_sound h.2))
    (by rw [B_lit exFile]; decide +kernel)
example : runU exFile (fun fp h => File_DropGoStmt fp h) = modelU exFile Modfile.Edit.dropGoStmt := by rw [B_lit exFile]; decide +kernel
example : runU exFile0 (fun fp h => File_DropGoStmt fp h) = modelU exFile0 Modfile.Edit.dropGoStmt := by rw [B_lit exFile0]; decide +kernel

-- File.AddToolchainStmt: update, insertion after the go line (exFile minus toolchain is exFile after the drop), after the
-- module line (exFile2), at the end (exFile0), invalid name
example : match Modfile.Edit.addToolchainStmt (exE exFile) (B "go1.22.1") with
    | .ok e' => ∃ h', File_AddToolchainStmt Modfile.toolchainRE 200 (exP exFile) (B "go1.22.1") (exH exFile) = .ok (none, h') ∧
        RepF h' (exP exFile) e'
    | .error err => err = .invalidToolchain ∧
        File_AddToolchainStmt Modfile.toolchainRE 200 (exP exFile) (B "go1.22.1") (exH exFile) =
          .ok (some "invalid toolchain name %q", exH exFile) :=
  (fun (h : _ ∧ _ ∧ _ ∧ _ ∧ _) =>
    File_AddToolchainStmt_tie (exRep exFile h.1) (optOK_sound h.2.1) (optOK_sound h.2.2.1)
      (optOK_sound h.2.2.2.1) (B "go1.22.1") 200 h.2.2.2.2)
    (by rw [B_lit exFile]; decide +kernel)
example : run exFile (fun fp h => File_AddToolchainStmt Modfile.toolchainRE 200 fp (B "go1.22.1") h) =
    model exFile (fun e => Modfile.Edit.addToolchainStmt e (B "go1.22.1")) := by rw [B_lit exFile]; decide +kernel
example : run exFile (fun fp h => do
      let r ← File_DropToolchainStmt fp h
      File_AddToolchainStmt Modfile.toolchainRE 200 fp (B "go1.22.1") r.2) =
    model exFile (fun e => Modfile.Edit.addToolchainStmt (Modfile.Edit.dropToolchainStmt e) (B "go1.22.1")) := by rw [B_lit exFile]; decide +kernel
example : run exFile2 (fun fp h => File_AddToolchainStmt Modfile.toolchainRE 200 fp (B "default") h) =
    model exFile2 (fun e => Modfile.Edit.addToolchainStmt e (B "default")) := by rw [B_lit exFile2]; decide +kernel
example : run exFile0 (fun fp h => File_AddToolchainStmt Modfile.toolchainRE 200 fp (B "go1.22.1") h) =
    model exFile0 (fun e => Modfile.Edit.addToolchainStmt e (B "go1.22.1")) := by rw [B_lit exFile0]; decide +kernel
example : run exFile0 (fun fp h => File_AddToolchainStmt Modfile.toolchainRE 200 fp (B "1.22") h) =
    model exFile0 (fun e => Modfile.Edit.addToolchainStmt e (B "1.22")) := by rw [B_lit exFile0]; decide +kernel

-- File.DropToolchainStmt
example : ∃ h', File_DropToolchainStmt (exP exFile) (exH exFile) = .ok ((), h') ∧
    RepF h' (exP exFile) (Modfile.Edit.dropToolchainStmt (exE exFile)) :=
  (fun (h : _ ∧ _) =>
    File_DropToolchainStmt_tie (exRep exFile h.1) (optOK_sound h.2))
    (by rw [B_lit exFile]; decide +kernel)
example : runU exFile (fun fp h => File_DropToolchainStmt fp h) = modelU exFile Modfile.Edit.dropToolchainStmt := by
  rw [B_lit exFile]; decide +kernel

-- File.AddGodebug: `a` occurs twice in exFile2 (the first is updated, the second cleared), `q` does not occur (new line)
example : match Modfile.Edit.addGodebug (exE exFile2) (B "a") (B "z") with
    | .ok e' => ∃ h', File_AddGodebug 200 (exP exFile2) (B "a") (B "z") (exH exFile2) = .ok (none, h') ∧ RepF h' (exP exFile2) e'
    | .error _ => File_AddGodebug 200 (exP exFile2) (B "a") (B "z") (exH exFile2) = .error .panic :=
  (fun (h : _ ∧ _ ∧ _) =>
    File_AddGodebug_tie (exRep exFile2 h.1) (B "a") (B "z") 200 h.2.1 h.2.2)
    (by rw [B_lit exFile2]; decide +kernel)
example : run exFile2 (fun fp h => File_AddGodebug 200 fp (B "a") (B "z") h) =
    model exFile2 (fun e => Modfile.Edit.addGodebug e (B "a") (B "z")) := by rw [B_lit exFile2]; decide +kernel
example : run exFile2 (fun fp h => File_AddGodebug 200 fp (B "q") (B "z") h) =
    model exFile2 (fun e => Modfile.Edit.addGodebug e (B "q") (B "z")) := by rw [B_lit exFile2]; decide +kernel
-- after that the list has a CLEARED entry (key ""): AddGodebug / DropGodebug of the key "" dereference its nil `Syntax`
example : run exFile2 (fun fp h => do
      let r ← File_AddGodebug 200 fp (B "a") (B "z") h
      File_AddGodebug 200 fp [] (B "z") r.2) = none ∧
    model exFile2 (fun e => do
      let e1 ← Modfile.Edit.addGodebug e (B "a") (B "z")
      Modfile.Edit.addGodebug e1 [] (B "z")) = none := by rw [B_lit exFile2]; decide +kernel

-- File.addNewGodebug
example : ∃ h', File_addNewGodebug 200 (exP exFile) (B "k") (B "v") (exH exFile) = .ok ((), h') ∧
    RepF h' (exP exFile)
      { f := { (exE exFile).f with godebug := (exE exFile).f.godebug ++ [{ key := B "k", value := B "v", lineId := (exE exFile).next }],
                                   syn := Modfile.Edit.addLine (exE exFile).f.syn none [B "godebug", B "k" ++ [61] ++ B "v"] (exE exFile).next },
        next := (exE exFile).next + 1 } :=
  (fun (h : _ ∧ _) =>
    File_addNewGodebug_tie (exRep exFile h.1) (B "k") (B "v") 200 h.2)
    (by rw [B_lit exFile]; decide +kernel)
example : runU exFile (fun fp h => File_addNewGodebug 200 fp (B "k") (B "v") h) =
    model exFile (fun e => Modfile.Edit.addGodebug e (B "k") (B "v")) := by rw [B_lit exFile]; decide +kernel

-- File.DropGodebug
example : match Modfile.Edit.dropGodebug (exE exFile2) (B "a") with
    | .ok e' => ∃ h', File_DropGodebug 200 (exP exFile2) (B "a") (exH exFile2) = .ok (none, h') ∧ RepF h' (exP exFile2) e'
    | .error _ => File_DropGodebug 200 (exP exFile2) (B "a") (exH exFile2) = .error .panic :=
  (fun (h : _ ∧ _) =>
    File_DropGodebug_tie (exRep exFile2 h.1) (B "a") 200 h.2)
    (by rw [B_lit exFile2]; decide +kernel)
example : run exFile2 (fun fp h => File_DropGodebug 200 fp (B "a") h) =
    model exFile2 (fun e => Modfile.Edit.dropGodebug e (B "a")) := by rw [B_lit exFile2]; decide +kernel
example : run exFile2 (fun fp h => do
      let r ← File_DropGodebug 200 fp (B "a") h
      File_DropGodebug 200 fp [] r.2) = none ∧
    model exFile2 (fun e => do
      let e1 ← Modfile.Edit.dropGodebug e (B "a")
      Modfile.Edit.dropGodebug e1 []) = none := by rw [B_lit exFile2]; decide +kernel

-- File.AddTool: a present path (nothing happens); a new path (new line, converted to a block, sorted) — evaluated
example : File_AddTool 200 (exP exFile2) (B "x.y/z") (exH exFile2) = .ok (none, exH exFile2) ∧
    Modfile.Edit.addTool (exE exFile2) (B "x.y/z") = exE exFile2 :=
  (fun (h : _ ∧ _ ∧ _) =>
    File_AddTool_present_tie (exRep exFile2 h.1) (B "x.y/z") 200 h.2.1 h.2.2)
    (by rw [B_lit exFile2]; decide +kernel)
example : ∃ h', File_AddTool 400 (exP exFile2) (B "a.b/c") (exH exFile2) = .ok (none, h') ∧
    RepF h' (exP exFile2) (Modfile.Edit.addTool (exE exFile2) (B "a.b/c")) :=
  (fun (h : _ ∧ _ ∧ _ ∧ _) =>
    File_AddTool_tie (exRep exFile2 h.1) (B "a.b/c") 400 h.2.1 h.2.2.1 h.2.2.2)
    (by rw [B_lit exFile2]; decide +kernel)
example : ∃ h', File_AddTool 400 (exP exFile2) (B "a.b/c") (exH exFile2) = .ok (none, h') ∧
    RepF h' (exP exFile2) (Modfile.Edit.addTool (exE exFile2) (B "a.b/c")) :=
  (fun (h : _ ∧ _ ∧ _ ∧ _) =>
    File_AddTool_tie_partial sortSpec (exRep exFile2 h.1) (B "a.b/c") 400 h.2.1 h.2.2.1
      h.2.2.2)
    (by rw [B_lit exFile2]; decide +kernel)
example : run exFile2 (fun fp h => File_AddTool 200 fp (B "a.b/c") h) =
    modelU exFile2 (fun e => Modfile.Edit.addTool e (B "a.b/c")) := by rw [B_lit exFile2]; decide +kernel
example : run exFile0 (fun fp h => File_AddTool 200 fp (B "a.b/c") h) =
    modelU exFile0 (fun e => Modfile.Edit.addTool e (B "a.b/c")) := by rw [B_lit exFile0]; decide +kernel

-- File.DropTool
example : match Modfile.Edit.dropTool (exE exFile2) (B "x.y/z") with
    | .ok e' => ∃ h', File_DropTool 200 (exP exFile2) (B "x.y/z") (exH exFile2) = .ok (none, h') ∧ RepF h' (exP exFile2) e'
    | .error _ => File_DropTool 200 (exP exFile2) (B "x.y/z") (exH exFile2) = .error .panic :=
  (fun (h : _ ∧ _) =>
    File_DropTool_tie (exRep exFile2 h.1) (B "x.y/z") 200 h.2)
    (by rw [B_lit exFile2]; decide +kernel)
example : run exFile2 (fun fp h => File_DropTool 200 fp (B "x.y/z") h) =
    model exFile2 (fun e => Modfile.Edit.dropTool e (B "x.y/z")) := by rw [B_lit exFile2]; decide +kernel
example : run exFile2 (fun fp h => do
      let r ← File_DropTool 200 fp (B "x.y/z") h
      File_DropTool 200 fp [] r.2) = none ∧
    model exFile2 (fun e => do
      let e1 ← Modfile.Edit.dropTool e (B "x.y/z")
      Modfile.Edit.dropTool e1 []) = none := by rw [B_lit exFile2]; decide +kernel

-- the `…_nil` theorems: a represented file whose scalar entry has no line exists (exFile0 plus such an entry), and there
-- the regenerated operation panics
example : ∃ h fp e g, RepF h fp e ∧ e.f.go = some g ∧ g.lineId = 0 ∧ File_DropGoStmt fp h = .error .panic ∧
    File_AddGoStmt Modfile.goVersionRE 200 fp (B "1.22") h = .error .panic := by
  obtain ⟨o, ho, R⟩ := exRep exFile0 (by rw [B_lit exFile0]; decide +kernel)
  let g0 : Modfile.Go := { version := B "1.21", lineId := 0 }
  have R' := RepF.setMods (fp := exP exFile0) (h := { exH exFile0 with gos := (exH exFile0).gos ++ [goG g0] }) ho
    (R.withGo (l' := (exH exFile0).gos ++ [goG g0]) (x' := some g0) ⟨heapGet_alloc_new _ _, Nat.zero_le _⟩)
  exact ⟨_, _, _, g0, R', rfl, rfl, File_DropGoStmt_nil R' rfl rfl, File_AddGoStmt_nil R' rfl rfl (B "1.22") (by decide +kernel) 200⟩

example : ∃ h fp e t, RepF h fp e ∧ e.f.toolchain = some t ∧ t.lineId = 0 ∧ File_DropToolchainStmt fp h = .error .panic ∧
    File_AddToolchainStmt Modfile.toolchainRE 200 fp (B "default") h = .error .panic := by
  obtain ⟨o, ho, R⟩ := exRep exFile0 (by rw [B_lit exFile0]; decide +kernel)
  let t0 : Modfile.Toolchain := { name := B "default", lineId := 0 }
  have R' := RepF.setMods (fp := exP exFile0)
    (h := { exH exFile0 with toolchains := (exH exFile0).toolchains ++ [toolchainG t0] }) ho
    (R.withToolchain (l' := (exH exFile0).toolchains ++ [toolchainG t0]) (x' := some t0) ⟨heapGet_alloc_new _ _, Nat.zero_le _⟩)
  exact ⟨_, _, _, t0, R', rfl, rfl, File_DropToolchainStmt_nil R' rfl rfl,
    File_AddToolchainStmt_nil R' rfl rfl (B "default") (by decide +kernel) 200⟩

example : ∃ h fp e m, RepF h fp e ∧ e.f.module = some m ∧ m.lineId = 0 ∧
    File_AddModuleStmt Drv.GenModfile.isPrintI Quote.quote 200 fp (B "n") h = .error .panic := by
  obtain ⟨o, ho, R⟩ := exRep exFile0 (by rw [B_lit exFile0]; decide +kernel)
  let m0 : Modfile.Module := { mod := { path := B "m" }, lineId := 0 }
  have R' := RepF.setMods (fp := exP exFile0) (h := { exH exFile0 with modules := (exH exFile0).modules ++ [moduleG m0] }) ho
    (R.withModule (l' := (exH exFile0).modules ++ [moduleG m0]) (x' := some m0) ⟨heapGet_alloc_new _ _, Nat.zero_le _⟩)
  exact ⟨_, _, _, m0, R', rfl, rfl, File_AddModuleStmt_nil R' rfl rfl (B "n") 200 (by decide +kernel)⟩

end examples

end ModVerif.Tie.FnEditStmt
