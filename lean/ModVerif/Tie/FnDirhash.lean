/-
  Tie theorem for the dirhash unit: the regenerated `Hash1` (Generated/FnDirhash.lean, re-translated from
  sumdb/dirhash/hash.go on every run) computes exactly the hand model `Dirhash.hash1` (Model/Dirhash.lean), for ALL
  file lists (duplicates, empty names, names with newlines at any position), every `open` function and every fuel
  `≥ files.length + 1`.

  Reading of the parameters of the generated function (see the header of Generated/FnDirhash.lean):
    * the two `sha256.New()` hashers are byte accumulators, `shaSum acc prefix` is `h.Sum(prefix)`; here
      `shaSum := fun acc pre => pre ++ sha acc` for an abstract `sha : Bytes → Bytes`;
    * `b64enc` is `base64.StdEncoding.EncodeToString`; here `Base64.encodeStd`;
    * `open_ name` is the `open` callback whose reader is read to the end: `(content, nil)` or `(_, err)`; here it is
      `(c, none)` when the model's `openF name = some c` and `([], some e)` (any error text `e`) when `openF name = none`.

  Helper lemmas in Proofs/TieFnDirhash.lean.
-/
import ModVerif.Generated.FnDirhash
import ModVerif.Model.Dirhash
import ModVerif.Proofs.TieFnDirhash
namespace ModVerif.Tie.FnDirhash
open ModVerif ModVerif.GoRt ModVerif.TieFnDirhash ModVerif.TieFnDirhashDir

/-- `sort.Strings` of the run-time vocabulary is the model's `sortStrings` (both return THE sorted permutation). -/
theorem sortStrings_tie (l : List Bytes) : GoRt.sortStrings l = Dirhash.sortStrings l := by
  induction l with
  | nil => rfl
  | cons x xs ih =>
    simp only [GoRt.sortStrings, Dirhash.sortStrings, List.foldr_cons, Dirhash.insertionSort] at ih ⊢
    rw [ih]
    exact insertSorted_eq_orderedInsert x _ (Dirhash.insertionSort_sorted Dirhash.bytesLt_strictTotal xs)

/-- `%x` of the run-time vocabulary is the model's `hexEnc`. -/
theorem hexBytes_tie (b : Bytes) : GoRt.hexBytes b = Dirhash.hexEnc b := by
  induction b with
  | nil => rfl
  | cons c r ih =>
    simp only [hexBytes, hexNibble_eq] at ih ⊢
    simp [Dirhash.hexEnc, ih]

/-- `strings.Contains(file, "\n")` is the model's `hasNewline`. -/
theorem contains_newline_tie (file : Bytes) : GoRt.contains file [10] = Dirhash.hasNewline file := by
  rw [GoRtStr.contains_single, Bool.eq_iff_iff]
  simp [Dirhash.hasNewline]

/-- what the loop returns: early `return "", err`, or the final loop state (index = number of files, summary so far) -/
def loopResAny (err : Option String) (n : Int) (h : Bytes) :
    Except Dirhash.Err Bytes → Ctl (Bytes × Option String) (Int × Bytes)
  | .ok s => .next (n, h ++ s)
  | .error _ => .ret ([], err)

/-- the range loop of Hash1, started at any position of the (sorted) list with any accumulator, computes
    `Dirhash.summaryLoop` of the remaining names -/
theorem Hash1_loop1_any (b64enc : Bytes → Bytes) (sha : Bytes → Bytes) (open_ : Bytes → Bytes × Option String) :
    ∀ (rest pre : List Bytes) (h : Bytes) (fuel : Nat), rest.length < fuel →
      Generated.Dirhash.Hash1_loop1 b64enc (fun acc p => p ++ sha acc) (pre ++ rest) open_ fuel (pre.length : Int) h
        = .ok (loopResAny (firstErr open_ rest) ((pre ++ rest).length : Int) h
            (Dirhash.summaryLoop sha (openFOf open_) rest)) := by
  intro rest
  induction rest with
  | nil =>
    intro pre h fuel hf
    obtain ⟨f, rfl⟩ : ∃ f, fuel = f + 1 := ⟨fuel - 1, by simp at hf; omega⟩
    simp [Generated.Dirhash.Hash1_loop1, len_eq, Dirhash.summaryLoop, loopResAny, pure, Except.pure]
  | cons file rest ih =>
    intro pre h fuel hf
    obtain ⟨f, rfl⟩ : ∃ f, fuel = f + 1 := ⟨fuel - 1, by simp at hf; omega⟩
    have hf' : rest.length < f := by simp at hf; omega
    have hlt : ((pre.length : Int) < len (pre ++ file :: rest)) := by simp [len_eq]; omega
    have hnext : ((pre.length : Int) + 1) = ((pre ++ [file]).length : Int) := by simp
    have hlist : pre ++ file :: rest = (pre ++ [file]) ++ rest := by simp
    rw [Generated.Dirhash.Hash1_loop1]
    simp only [hlt, decide_true, if_true, idxL_mid, bind, Except.bind, contains_newline_tie]
    rw [Dirhash.summaryLoop, firstErr]
    cases hnl : Dirhash.hasNewline file with
    | true => simp [loopResAny, pure, Except.pure, newlineMsg]
    | false =>
      simp only [Bool.false_eq_true, if_false]
      cases hop : open_ file with
      | mk r err =>
        cases err with
        | some e => simp [openFOf, hop, loopResAny, pure, Except.pure]
        | none =>
          simp only [openFOf, hop, Option.isNone_none, Bool.not_true, Bool.false_eq_true, if_false, emptyBytes,
            List.nil_append, hexBytes_tie]
          rw [hnext, hlist, ih (pre ++ [file]) _ f hf']
          cases hs : Dirhash.summaryLoop sha (openFOf open_) rest with
          | error er => simp [loopResAny]
          | ok s => simp [loopResAny, Dirhash.summaryLine]

/-- ★ `Hash1` = `Dirhash.hash1` for an ARBITRARY `open` callback (error texts may depend on the name, a failing call may
    return any content): the model's `open` function is `openFOf open_` (the content when the error is nil), and in the
    error case the returned error is `firstErr`: that of the first name, in sorted order, that contains a newline (the fixed
    text) or cannot be opened (the callback's own error).  No panic, no fuel exhaustion. -/
theorem Hash1_tie_anyOpen (sha : Bytes → Bytes) (files : List Bytes) (open_ : Bytes → Bytes × Option String)
    (fuel : Nat) (hf : files.length + 1 ≤ fuel) :
    Generated.Dirhash.Hash1 Base64.encodeStd (fun acc pre => pre ++ sha acc) fuel files open_
      = .ok (match Dirhash.hash1 sha files (openFOf open_) with
          | .ok h => (h, none)
          | .error _ => ([], firstErr open_ (Dirhash.sortStrings files))) := by
  have hlen : (Dirhash.sortStrings files).length < fuel := by
    rw [(Dirhash.sortStrings_perm files).length_eq]; omega
  have hloop := Hash1_loop1_any Base64.encodeStd sha open_ (Dirhash.sortStrings files) [] [] fuel hlen
  simp only [List.nil_append, List.length_nil] at hloop
  unfold Generated.Dirhash.Hash1
  simp only [emptyBytes, List.nil_append, sortStrings_tie]
  show (Generated.Dirhash.Hash1_loop1 Base64.encodeStd (fun acc pre => pre ++ sha acc) (Dirhash.sortStrings files)
      open_ fuel ((0 : Nat) : Int) [] >>= _) = _
  rw [hloop]
  unfold Dirhash.hash1 Dirhash.summary
  cases hs : Dirhash.summaryLoop sha (openFOf open_) (Dirhash.sortStrings files) with
  | error er => simp [loopResAny, bind, Except.bind, pure, Except.pure]
  | ok s => simp [loopResAny, bind, Except.bind, pure, Except.pure, Dirhash.h1Prefix]

/-- the model's `hash1` reports no error other than `newline` and `openFail` (so the catch-all error branch in the
    statement of `Hash1_tie` below is the `openFail` branch) -/
theorem hash1_error_cases (sha : Bytes → Bytes) (files : List Bytes) (openF : Bytes → Option Bytes)
    (er : Dirhash.Err) (h : Dirhash.hash1 sha files openF = .error er) : er = .newline ∨ er = .openFail := by
  unfold Dirhash.hash1 Dirhash.summary at h
  split at h
  · next e' he' => cases h; exact summaryLoop_err sha openF _ _ he'
  · cases h

/-- the callback of a model `open` function (a failure carries the error text `e`): the model's result, embedded -/
theorem Hash1_tie_openOf (sha : Bytes → Bytes) (files : List Bytes) (openF : Bytes → Option Bytes) (e : String)
    (fuel : Nat) (hf : files.length + 1 ≤ fuel) :
    Generated.Dirhash.Hash1 Base64.encodeStd (fun acc pre => pre ++ sha acc) fuel files (openOf openF e)
      = .ok (embedHash e (Dirhash.hash1 sha files openF)) := by
  rw [Hash1_tie_anyOpen sha files (openOf openF e) fuel hf, openFOf_openOf]
  cases h : Dirhash.hash1 sha files openF with
  | ok r => rfl
  | error er =>
    unfold Dirhash.hash1 Dirhash.summary at h
    split at h
    · next e' he' => cases h; rw [firstErr_openOf sha openF e _ _ he']; rfl
    · cases h

/-- ★ the instance with a constant error text: the returned pair `(string, error)` is `(hash, nil)` when the model returns
    the hash, `("", errors.New("dirhash: filenames with newlines are not supported"))` when the model reports `newline`,
    and `("", e)` with the error of `open` when the model reports `openFail`. -/
theorem Hash1_tie (sha : Bytes → Bytes) (files : List Bytes) (openF : Bytes → Option Bytes) (e : String) (fuel : Nat)
    (hf : files.length + 1 ≤ fuel) :
    Generated.Dirhash.Hash1 Base64.encodeStd (fun acc pre => pre ++ sha acc) fuel files
        (fun name => match openF name with
          | some c => (c, none)
          | none => ([], some e))
      = .ok (match Dirhash.hash1 sha files openF with
          | .ok h => (h, none)
          | .error .newline => ([], some "dirhash: filenames with newlines are not supported")
          | .error _ => ([], some e)) := by
  rw [show (fun name => match openF name with | some c => (c, none) | none => ([], some e)) = openOf openF e from rfl,
    Hash1_tie_openOf sha files openF e fuel hf]
  cases h : Dirhash.hash1 sha files openF with
  | ok r => rfl
  | error er => rcases hash1_error_cases sha files openF er h with rfl | rfl <;> rfl

/-- in `Hash1_tie_anyOpen` the returned error is non-nil exactly when the model reports an error -/
theorem firstErr_isSome_iff (sha : Bytes → Bytes) (files : List Bytes) (open_ : Bytes → Bytes × Option String) :
    (∃ er, Dirhash.hash1 sha files (openFOf open_) = .error er) ↔
      (firstErr open_ (Dirhash.sortStrings files)).isSome = true := by
  rw [← summaryLoop_error_iff sha open_]
  unfold Dirhash.hash1 Dirhash.summary
  cases hs : Dirhash.summaryLoop sha (openFOf open_) (Dirhash.sortStrings files) with
  | error er => simp
  | ok s => simp

/-- Hash1 returns a hash exactly when the model does, and then the model's -/
theorem Hash1_ok_iff (sha : Bytes → Bytes) (files : List Bytes) (open_ : Bytes → Bytes × Option String) (fuel : Nat)
    (hf : files.length + 1 ≤ fuel) (r : Bytes) :
    Generated.Dirhash.Hash1 Base64.encodeStd (fun acc pre => pre ++ sha acc) fuel files open_ = .ok (r, none) ↔
      Dirhash.hash1 sha files (openFOf open_) = .ok r := by
  rw [Hash1_tie_anyOpen sha files open_ fuel hf, Except.ok.injEq]
  cases hh : Dirhash.hash1 sha files (openFOf open_) with
  | ok h => simp
  | error er =>
    have hsome := (firstErr_isSome_iff sha files open_).1 ⟨er, hh⟩
    constructor
    · intro h
      rw [(Prod.mk.inj h).2] at hsome
      cases hsome
    · intro h; cases h

/-! ### non-vacuity: both sides evaluated on concrete inputs (`sha := id`) -/

/-- two files listed out of order, both readable: the hash -/
example : Generated.Dirhash.Hash1 Base64.encodeStd (fun acc pre => pre ++ id acc) 3 [[98], [97]]
      (fun name => match (fun n => if n = [97] then some [1] else some [2]) name with
        | some c => (c, none) | none => ([], some "E"))
    = .ok (match Dirhash.hash1 id [[98], [97]] (fun n => if n = [97] then some [1] else some [2]) with
        | .ok h => (h, none)
        | .error .newline => ([], some "dirhash: filenames with newlines are not supported")
        | .error _ => ([], some "E")) := by decide

example : Generated.Dirhash.Hash1 Base64.encodeStd (fun acc pre => pre ++ id acc) 3 [[98], [97]]
      (fun name => match (fun n => if n = [97] then some [1] else some [2]) name with
        | some c => (c, none) | none => ([], some "E"))
    = .ok ([104, 49, 58] ++ Base64.encodeStd [48, 49, 32, 32, 97, 10, 48, 50, 32, 32, 98, 10], none) := by decide

/-- a name with a newline (sorted after a readable name): the newline error -/
example : Generated.Dirhash.Hash1 Base64.encodeStd (fun acc pre => pre ++ id acc) 3 [[98, 10], [97]]
      (fun name => match (fun _ => some []) name with | some c => (c, none) | none => ([], some "E"))
    = .ok ([], some "dirhash: filenames with newlines are not supported") := by decide

example : Dirhash.hash1 id [[98, 10], [97]] (fun _ => some []) = .error .newline := by decide

/-- an unreadable file sorted BEFORE a newline name: the error of `open` -/
example : Generated.Dirhash.Hash1 Base64.encodeStd (fun acc pre => pre ++ id acc) 3 [[98, 10], [97]]
      (fun name => match (fun _ => (none : Option Bytes)) name with | some c => (c, none) | none => ([], some "E"))
    = .ok ([], some "E") := by decide

example : Dirhash.hash1 id [[98, 10], [97]] (fun _ => none) = .error .openFail := by decide

/-- `Hash1_tie_anyOpen`: error texts that depend on the name; the first failing name in SORTED order decides -/
example : Generated.Dirhash.Hash1 Base64.encodeStd (fun acc pre => pre ++ id acc) 3 [[98], [97]]
      (fun n => ([7], some (if n = [97] then "Ea" else "Eb")))
    = .ok ([], some "Ea") := by decide

example : (match Dirhash.hash1 id [[98], [97]] (openFOf fun n => ([7], some (if n = [97] then "Ea" else "Eb"))) with
      | .ok h => (h, none)
      | .error _ => ([], firstErr (fun n => ([7], some (if n = [97] then "Ea" else "Eb")))
          (Dirhash.sortStrings [[98], [97]]))) = ([], some "Ea") := by decide

/-- the fuel bound is sharp: with `files.length` units of fuel the loop runs out -/
example : Generated.Dirhash.Hash1 Base64.encodeStd (fun acc pre => pre ++ id acc) 2 [[98], [97]]
      (fun _ => ([], none)) = .error .fuel := by decide

/-- the two sorts on a list with duplicates and an empty name -/
example : GoRt.sortStrings [[98], [], [97, 0], [98], [97]] = [[], [97], [97, 0], [98], [98]] ∧
    Dirhash.sortStrings [[98], [], [97, 0], [98], [97]] = [[], [97], [97, 0], [98], [98]] := by decide

end ModVerif.Tie.FnDirhash
