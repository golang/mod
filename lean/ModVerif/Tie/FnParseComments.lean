/-
  Tie: the COMMENT ASSIGNMENT of the go.mod parser regenerated from modfile/read.go on every check
  (Generated/FnParse.lean, namespace ModVerif.Generated.Parse: Position.add, the six Span methods, reverseComments,
  input.order, input.assignComments with its six loops) computes what the hand model (Model/Modfile/Comments.lean:
  `assignComments`, two walks over a VALUE tree) says, on every well-formed pointer graph.

  The generated code works on a HEAP (`Parse.Heap`: one list of objects per node type; a pointer is a 1-based position;
  `&x.LParen` / `&x.RParen` are the owning block's pointer; the interface `Expr` is a sum of pointers; `x.Comment()` is
  read / written by `Expr_getComments` / `Expr_setComments`).  The relation between a heap graph and a model tree is
  `RFile h p t` of Proofs/TieFnParseHeap.lean (the object at a pointer is the embedding of the model node; a line's
  pointer is its `id + 1`); it implies `fileOf h p = some t` for the read-back function of the driver
  (Drv/GenParse.lean).  `WF h p` says that the graph is allocated and that no pointer occurs twice in it — the
  assignment writes through pointers, so on a graph with sharing the pointer code and the value-tree model differ.

  * `Position_add_tie`, `*_Span_tie`: the spans of reified nodes are the model's `Expr.span` / `FileSyntax.span`;
  * `reverseComments_tie`: the in-place swap loop is `List.reverse`;
  * `order_tie`: `in.order(in.file)` appends to `in.pre` / `in.post` the preorder / postorder node lists
    (`prePtrs` / `postPtrs`, read off the heap); `order_tie_model`: on a reified graph these are the lists of the nodes
    of the model tree in the order of the model's walks (`stmtsNodes .pre` / `.post`, Proofs/TieFnParseCommentsNodes.lean);
  * `assignComments_tie`: on the graph that reifies to `t`, with `in.comments` the recorded comments `cs`,
    `input_assignComments` succeeds and the resulting heap reifies to `Modfile.assignComments t cs`.

  Hypotheses of `assignComments_tie` beyond reification, well-formedness and fuel: `in.pre`, `in.post` empty (as parse
  leaves them), the FILE node has at most one suffix comment (Go's last loop also reverses `in.file.Suffix`, the model
  does not; the parser leaves it empty), and a bound `m` on the suffix comments already present at a node (the
  reversal runs on fuel); for a parsed tree m = 0.

  Helper lemmas: Proofs/TieFnParseHeap.lean (shared), Proofs/TieFnParseComments{Order,Trav,Nodes,Pass,Assign,Ex}.lean.
-/
import ModVerif.Generated.FnParse
import ModVerif.Model.Modfile.Comments
import ModVerif.Drv.LexOps
import ModVerif.Proofs.GoRtLemmasLex
import ModVerif.Proofs.TieFnParseCommentsEx
namespace ModVerif.Tie.FnParseComments
open ModVerif ModVerif.GoRt ModVerif.Generated ModVerif.Generated.Parse ModVerif.Tie.FnParseHeap
open ModVerif.TieFnParseComments ModVerif.TieFnParseComments.Ex ModVerif.GoRtLex

/-! ### Position.add, Span -/

/-- `p.add(")")` — the only use of `Position.add` in the package: one byte, one rune, no newline -/
theorem Position_add_tie (p : Modfile.Position) : Position_add (posG p) [41] = .ok (posG p.add1) :=
  Position_add_rparen p

theorem CommentBlock_Span_tie {h : Heap} {p : Int} {c : Modfile.CommentBlock} (hg : heapGet h.cbs p = .ok (cbG c)) :
    CommentBlock_Span p h = .ok (spanG (Modfile.Expr.commentBlock c).span, h) := by
  simp [CommentBlock_Span, hg, cbG, spanG, Modfile.Expr.span]

theorem Line_Span_tie {h : Heap} {p : Int} {l : Modfile.Line} (hr : RLine h p l) :
    Line_Span p h = .ok (spanG (Modfile.Expr.line l).span, h) := by
  simp [Line_Span, hr.1, lineG, spanG, Modfile.Expr.span]

theorem LineBlock_Span_tie {h : Heap} {p : Int} {b : Modfile.LineBlock} {ps : List Int}
    (hg : heapGet h.blocks p = .ok (blockG b ps)) :
    LineBlock_Span p h = .ok (spanG (Modfile.Expr.lineBlock b).span, h) := by
  simp [LineBlock_Span, hg, blockG, rparenG, Position_add_rparen, spanG, Modfile.Expr.span]

/-- the translation of `&x.LParen`: the block's pointer -/
theorem LParen_Span_tie {h : Heap} {p : Int} {b : Modfile.LineBlock} {ps : List Int}
    (hg : heapGet h.blocks p = .ok (blockG b ps)) :
    LParen_Span p h = .ok (spanG (Modfile.Expr.lparen b.lparen).span, h) := by
  simp [LParen_Span, hg, blockG, lparenG, Position_add_rparen, spanG, Modfile.Expr.span]

theorem RParen_Span_tie {h : Heap} {p : Int} {b : Modfile.LineBlock} {ps : List Int}
    (hg : heapGet h.blocks p = .ok (blockG b ps)) :
    RParen_Span p h = .ok (spanG (Modfile.Expr.rparen b.rparen).span, h) := by
  simp [RParen_Span, hg, blockG, rparenG, Position_add_rparen, spanG, Modfile.Expr.span]

/-- `FileSyntax.Span`: start of the first statement, end of the last; interface dispatch on the statement kinds -/
theorem FileSyntax_Span_tie {h : Heap} {p : Int} {t : Modfile.FileSyntax} (hr : RFile h p t) (fuel : Nat)
    (hf : 1 ≤ fuel) : FileSyntax_Span fuel p h = .ok (spanG t.span, h) := by
  obtain ⟨f, rfl⟩ : ∃ f, fuel = f + 1 := ⟨fuel - 1, by omega⟩
  exact FileSyntax_Span_eq hr f

-- on the example graph (Proofs/TieFnParseCommentsEx.lean): the `require ( … )` block spans 4:1 – 9:2, its parentheses
-- one column each, the second block line 8:2 – 8:6, the file from the first statement (2:1) to the end of the block
example : Position_add { Line := 9, LineRune := 1, Byte := 54 } [41] = .ok { Line := 9, LineRune := 2, Byte := 55 } ∧
    ({ line := 9, lineRune := 1, byte := 54 } : Modfile.Position).add1 = { line := 9, lineRune := 2, byte := 55 } := by
  decide +kernel
set_option maxRecDepth 100000 in
example : (LineBlock_Span 1 exHeap).map (·.1) =
      .ok ({ Line := 4, LineRune := 1, Byte := 20 }, { Line := 9, LineRune := 2, Byte := 55 }) ∧
    (LParen_Span 1 exHeap).map (·.1) =
      .ok ({ Line := 4, LineRune := 9, Byte := 28 }, { Line := 4, LineRune := 10, Byte := 29 }) ∧
    (RParen_Span 1 exHeap).map (·.1) =
      .ok ({ Line := 9, LineRune := 1, Byte := 54 }, { Line := 9, LineRune := 2, Byte := 55 }) ∧
    (Line_Span 3 exHeap).map (·.1) =
      .ok ({ Line := 8, LineRune := 2, Byte := 49 }, { Line := 8, LineRune := 6, Byte := 53 }) ∧
    (FileSyntax_Span 2 1 exHeap).map (·.1) =
      .ok ({ Line := 2, LineRune := 1, Byte := 5 }, { Line := 9, LineRune := 2, Byte := 55 }) ∧
    spanG exTree.span = ({ Line := 2, LineRune := 1, Byte := 5 }, { Line := 9, LineRune := 2, Byte := 55 }) := by
  decide +kernel
-- the span of a comment block object is its start, twice
example : (CommentBlock_Span 1 { (default : Heap) with cbs := [{ (default : CommentBlock) with Start := { Line := 3, LineRune := 1, Byte := 7 } }] }).map (·.1) =
    .ok ({ Line := 3, LineRune := 1, Byte := 7 }, { Line := 3, LineRune := 1, Byte := 7 }) := by decide +kernel
-- the dispatch panics on a nil interface value, as `x.Span()` does in Go
example : Expr_Span 1 .nil exHeap = .error .panic := rfl

/-! ### reverseComments -/

theorem reverseComments_tie (l : List Comment) (fuel : Nat) (hf : l.length + 1 ≤ fuel) :
    reverseComments fuel l = .ok ((), l.reverse) :=
  reverseComments_eq fuel l hf

example : reverseComments 4 [{ (default : Comment) with Token := [1] }, { (default : Comment) with Token := [2] },
      { (default : Comment) with Token := [3] }] =
    .ok ((), [{ (default : Comment) with Token := [3] }, { (default : Comment) with Token := [2] },
      { (default : Comment) with Token := [1] }]) := by decide +kernel
-- without the fuel of the hypothesis the loop does run out
example : reverseComments 1 [{ (default : Comment) with Token := [1] }, { (default : Comment) with Token := [2] }] =
    .error .fuel := by decide +kernel

/-! ### order -/

/-- `in.order(in.file)` on a well-formed graph: the world is untouched, `pre` / `post` get the preorder / postorder
    node lists of the graph -/
theorem order_tie {h : Heap} {p : Int} (hwf : WF h p) (in_ : input) (fuel : Nat) :
    ∃ f, heapGet h.files p = .ok f ∧
      ((prePtrs h p f.Stmt).length + 2 ≤ fuel →
        input_order fuel in_ (.FileSyntax p) h =
          .ok (((), { in_ with pre := in_.pre ++ prePtrs h p f.Stmt, post := in_.post ++ postPtrs h p f.Stmt }), h)) := by
  obtain ⟨f, hf, hok, _⟩ := hwf.file
  exact ⟨f, hf, fun hfuel => order_file fuel in_ p h hf (fun e he => OrderOK_of_StmtOK (hok e he)) hfuel⟩

/-- on a reified graph these are the nodes of the model tree, in the orders of the model's two walks: preorder
    `file, stmt, (, lines, )` and postorder `(, lines, ), stmt, …, file` -/
theorem order_tie_model {h : Heap} {p : Int} {t : Modfile.FileSyntax} (hr : RFile h p t) (hwf : WF h p) (in_ : input)
    (fuel : Nat) (hfuel : nodeCount t.stmts + 3 ≤ fuel) :
    ∃ es, RStmts h es t.stmts ∧
      input_order fuel in_ (.FileSyntax p) h =
        .ok (((), { in_ with pre := in_.pre ++ .FileSyntax p :: stmtsNodes .pre es t.stmts,
                             post := in_.post ++ (stmtsNodes .post es t.stmts ++ [.FileSyntax p]) }), h) := by
  obtain ⟨es, hf, hs⟩ := hr
  obtain ⟨f0, hf0, hok, _⟩ := hwf.file
  have hf0' : f0 = fileG t es := by rw [hf] at hf0; cases hf0; rfl
  subst hf0'
  refine ⟨es, hs, ?_⟩
  have hPRE : prePtrs h p es = .FileSyntax p :: stmtsNodes .pre es t.stmts := by
    simp only [prePtrs, flatMap_pre_eq hs]
  have hPOST : postPtrs h p es = stmtsNodes .post es t.stmts ++ [.FileSyntax p] := by
    simp only [postPtrs, flatMap_post_eq hs]
  have := order_file fuel in_ p h hf (fun e he => OrderOK_of_StmtOK (hok e he))
    (by show (prePtrs h p es).length + 2 ≤ fuel
        rw [hPRE]; simp only [List.length_cons, stmtsNodes_length_le hs]; omega)
  simp only [fileG] at this
  rw [hPRE, hPOST] at this
  exact this

set_option maxRecDepth 100000 in
-- the example graph: file 1 = [line 1 (`module m`), block 1 (`require ( a v1 ; b v2 )`, lines 2 and 3)]
example : (input_order 300 exIn (.FileSyntax 1) exHeap).map (fun r => (r.1.2.pre, r.1.2.post)) =
    .ok ([.FileSyntax 1, .Line 1, .LineBlock 1, .LParen 1, .Line 2, .Line 3, .RParen 1],
         [.Line 1, .LParen 1, .Line 2, .Line 3, .RParen 1, .LineBlock 1, .FileSyntax 1]) ∧
    stmtsNodes .pre [.Line 1, .LineBlock 1] exTree.stmts = [.Line 1, .LineBlock 1, .LParen 1, .Line 2, .Line 3, .RParen 1] ∧
    stmtsNodes .post [.Line 1, .LineBlock 1] exTree.stmts = [.Line 1, .LParen 1, .Line 2, .Line 3, .RParen 1, .LineBlock 1] := by
  decide +kernel
-- the hypotheses of `order_tie_model` hold of it
example : ∃ es, RStmts exHeap es exTree.stmts := by
  obtain ⟨es, h1, _⟩ := order_tie_model exR.1 exR.2 exIn 300 (by decide +kernel)
  exact ⟨es, h1⟩

/-! ### assignComments -/

/-- `in.assignComments()`: the pointer walks over `in.pre` / `in.post` compute the model's tree walks -/
theorem assignComments_tie {h : Heap} {p : Int} {t : Modfile.FileSyntax} {cs : List Modfile.Comment} {in_ : input}
    {m fuel : Nat} (hr : RFile h p t) (hwf : WF h p) (hfile : in_.file = p) (hcs : in_.comments = cs.map comG)
    (hpre : in_.pre = []) (hpost : in_.post = []) (hfs : t.comments.suffix.length ≤ 1)
    (hsuf : ∀ s ∈ t.stmts, StmtP (fun c => c.suffix.length ≤ m) s)
    (hfuel : nodeCount t.stmts + cs.length + m + 8 ≤ fuel) :
    ∃ in' h', input_assignComments fuel in_ h = .ok (((), in'), h') ∧ RFile h' p (Modfile.assignComments t cs) ∧
      in'.file = p ∧ in'.comments = in_.comments :=
  assignComments_main hr hwf hfile hcs hpre hpost hfs hsuf hfuel

/-- … and so does the driver's read-back of the resulting heap -/
theorem assignComments_tie_fileOf {h : Heap} {p : Int} {t : Modfile.FileSyntax} {cs : List Modfile.Comment}
    {in_ : input} {m fuel : Nat} (hr : RFile h p t) (hwf : WF h p) (hfile : in_.file = p)
    (hcs : in_.comments = cs.map comG) (hpre : in_.pre = []) (hpost : in_.post = [])
    (hfs : t.comments.suffix.length ≤ 1) (hsuf : ∀ s ∈ t.stmts, StmtP (fun c => c.suffix.length ≤ m) s)
    (hfuel : nodeCount t.stmts + cs.length + m + 8 ≤ fuel) :
    ∃ in' h', input_assignComments fuel in_ h = .ok (((), in'), h') ∧
      fileOf h' in'.file = some (Modfile.assignComments t cs) := by
  obtain ⟨in', h', h1, h2, h3, _⟩ := assignComments_main hr hwf hfile hcs hpre hpost hfs hsuf hfuel
  exact ⟨in', h', h1, by rw [h3]; exact h2.fileOf⟩


set_option maxRecDepth 100000 in
-- both sides evaluated on the example: the regenerated pointer code on the regenerated parser's heap, read back by the
-- driver's `fileOf`, against the hand model (`// h` goes before `module m`, `// c` after it, `// d` after `a v1`, the
-- blank line and `// w` before `b v2`, `// e` after `)`)
example : (input_assignComments 300 exIn exHeap).map (fun r => fileOf r.2 r.1.2.file) =
      .ok (some (Modfile.assignComments exTree exComments)) ∧
    Modfile.parse [] exData = .ok (Modfile.assignComments exTree exComments) ∧
    (Modfile.assignComments exTree exComments).stmts.map (fun s => s.comments.suffix.length) = [1, 0] ∧
    exComments.length = 3 := by
  decide +kernel

-- the hypotheses of `assignComments_tie` hold of the example (so the theorem applies to what the parser produces)
example : ∃ in' h', input_assignComments 300 exIn exHeap = .ok (((), in'), h') ∧
    fileOf h' in'.file = some (Modfile.assignComments exTree exComments) :=
  assignComments_tie_fileOf (m := 0) exR.1 exR.2 exI.1 exI.2.1 exI.2.2.1 exI.2.2.2 exS.1 exS.2.1 exS.2.2

end ModVerif.Tie.FnParseComments
