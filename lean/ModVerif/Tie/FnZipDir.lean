/-
  Tie theorems, zip/zip.go, the directory functions: `listFilesInDir` (line 948, with its walk closure
  `listFilesInDir_walkFn1`), `dirFile.Path/Lstat/Open` (752–754), `CheckFiles` (193), `CheckDir` (368, with its three
  path-rewriting loops) and `CreateFromDir` (585), as regenerated from the Go source by go2lean (`Generated/FnZip.lean`),
  compute exactly what the hand model (`Model/Zip.lean`, section "directory trees": `Zip.listFilesInDir` = `Zip.walkChildren`,
  `Zip.checkDir`, `Zip.createFromDir`; `Zip.checkFilesV`) says — no panic, no fuel exhaustion.

  World.  `filepath.Walk(dir, fn)` is translated as `GoRt.walkTree fn fuel dir (walkRoot dir) (omitted, files)`
  (Basic/GoRtWalk.lean: the ASSUMED behaviour of Walk over a directory tree given as a value, `SkipDir` included — trusted
  base, proved against as it is).  `walkRoot`, `os.ReadFile`, `os.Lstat`, `os.Open` are parameters: what the file system
  holds.  The theorems hold for EVERY directory path `d` (clean or not, relative or absolute, "." and "/" included) and all
  parameters that present one model tree `children`:
  * `walkRoot d = toFs (.dir children)` (`toFs`: Drv/GenZipDir.lean — a file node becomes its `FileInfo` with the mode bits
    `modeBits`, a directory lists its entries in the given order);
  * `ChildrenOK osLstat osOpenRead d [] children` (Proofs/TieFnZipDirWalk.lean), a recursive predicate over the tree: every
    name is an ordinary path element (`NormalElem`: not empty, not "." or "..", no slash — as ReadDir returns them); no file
    node has `Mode.lstatErr` (the walk's own Lstat calls succeeded: `GoRt.walkTree` assumes that); `os.Open` of the file
    path `fp d rel` (= `filepath.Join(d, rel)`) of every REGULAR file yields the node's content; and for every directory
    below the root, `os.Lstat(filepath.Join(<its file path>, "go.mod"))` succeeds with a non-directory exactly when the
    directory has a non-directory entry "go.mod" (`lstatGoMod … = Zip.hasGoModFile cs`);
  * the go ≥ 1.24 flag of the model is `version.Compare(vers, "go1.24") >= 0` for the version string `versDir` the code
    extracts itself: `version.Lang(parseGoVers("go.mod", data))` when `os.ReadFile(filepath.Join(d, "go.mod"))` succeeds,
    "" otherwise.  `parseGoVers`, `version.Lang`, `version.Compare` stay arbitrary.
  `driver_reads_tree` proves that the functions the driver builds from a model tree (`Drv/GenZipDir.lean`: `lookup` by name
  below the root "t") satisfy these hypotheses for every tree with ordinary, pairwise distinct sibling names and no failed
  Lstat; the examples evaluate both sides in the kernel.

  Results.  Files are the model's `FileInfo` through the driver's `toGFile` (Path = slash path, Lstat = the node's info,
  Open = the content); the omitted list carries `Err := some (reasonTextD r)` ("errVendored" / "errVCS" / "errSubmoduleDir" /
  "errNotRegular").  `CheckDir` returns `embDir d (Zip.checkDir …)`: the model's report with every path `filepath.Join(d, ·)`,
  omitted entries with `reasonTextD`, invalid entries with `reasonText` (the texts of `checkFiles`), and as error the text of
  the model's `.err`.  `CheckFiles` / `CheckDir` / `CreateFromDir` take the remaining hypotheses of `checkFiles_tie` and
  `Create_tie` (Tie/FnZipCheckFiles.lean, Tie/FnZipIOCreate.lean) unchanged: `FoldsTo`, `E.toFold = Zip.strToFold`,
  `EqualFold`/`ToLower` agree with the model on "go.mod", `hv` (the flag `checkFiles` derives from the listed files is the
  model's `Zip.goVers`; `goVers_of_flags` there reduces it to facts about the go.mod contents) and, for `CreateFromDir`,
  `hmod`.  `CreateFromDir_tie` uses `Create_tie` of Tie/FnZipIOCreate.lean.

  Fuel: `listFuel children + 1` for the walk (one unit per node and per end of a directory);
  `dirFuel K ge124 children = 3 * listFuel children + fuelBound K <listed files>` for `CheckDir` / `CreateFromDir`.
-/
import ModVerif.Generated.FnZip
import ModVerif.Model.Zip
import ModVerif.Drv.GenZip
import ModVerif.Drv.GenZipDir
import ModVerif.Tie.FnZipCheckFiles
import ModVerif.Tie.FnZipIOCreate
import ModVerif.Proofs.TieFnZipDirCheck
import ModVerif.Proofs.TieFnZipDirDrv
namespace ModVerif.Tie.FnZipDir
open ModVerif ModVerif.GoRt ModVerif.GoRtZip ModVerif.TieFnZip ModVerif.TieFnZipCf ModVerif.TieFnZipIOCreate
open ModVerif.TieFnZipDir ModVerif.ZipSpec
open ModVerif.Generated.Zip (File FileError FileInfo CheckedFiles)
open ModVerif.Drv.GenZip (toGFile modeBits simpleFoldI versionCompareI)
open ModVerif.Drv.GenZipDir (toFs toFsList dirInfo lookup)
open ModVerif.Drv.Zip (tdir)

section
variable (osLstat : Bytes → (FileInfo × Option String)) (osOpenRead : Bytes → (Bytes × Option String))
  (osReadFile : Bytes → (Bytes × Option String)) (parseGoVers : Bytes → Bytes → Bytes)
  (versionCompare : Bytes → Bytes → Int) (versionLang : Bytes → Bytes) (walkRoot : Bytes → FsTree FileInfo)

/-- ★ `listFilesInDir(d)`: the files and the omitted entries are the model's listing, in walk order; no error. -/
theorem listFilesInDir_tie (d : Bytes) (ge124 : Bool)
    (hg : ge124 = decide (0 ≤ versionCompare (versDir osReadFile parseGoVers versionLang d) go124))
    (children : List (Bytes × Zip.Node)) (hroot : walkRoot d = toFs (.dir children))
    (hok : ChildrenOK osLstat osOpenRead d [] children) (fuel : Nat) (hfuel : listFuel children + 1 ≤ fuel) :
    Generated.Zip.listFilesInDir osLstat osOpenRead osReadFile parseGoVers versionCompare versionLang walkRoot fuel d =
      .ok ((Zip.listFilesInDir ge124 children).files.map toGFile,
           (Zip.listFilesInDir ge124 children).omitted.map embOm, none) := by
  obtain ⟨k, rfl⟩ : ∃ k, fuel = k + 1 := ⟨fuel - 1, by omega⟩
  have hk : listFuel children ≤ k := by omega
  have key : ∀ vers, ge124 = decide (0 ≤ versionCompare vers go124) →
      walkTree (cb osLstat osOpenRead osReadFile parseGoVers versionCompare versionLang walkRoot (k + 1) d vers) (k + 1) d
          (walkRoot d) ([], []) =
        .ok (none, (Zip.listFilesInDir ge124 children).omitted.map embOm,
          (Zip.listFilesInDir ge124 children).files.map toGFile) := by
    intro vers hv
    have h2 := walkChildren_sim osLstat osOpenRead osReadFile parseGoVers versionCompare versionLang walkRoot (k + 1) d vers
      ge124 hv children []
      ([], []) k (Or.inl rfl) hok hk
    rw [fp_nil] at h2
    unfold walkTree
    rw [hroot]
    simp only [toFs, GoRt.walkNode]
    rw [cb_root osLstat osOpenRead osReadFile parseGoVers versionCompare versionLang walkRoot (k + 1) d vers ge124 hv]
    simp only [Bind.bind, Except.bind, Option.isSome_none, Bool.false_eq_true, if_false, h2]
    simp [addL, Zip.listFilesInDir, pure, Except.pure]
  unfold versDir at hg
  unfold Generated.Zip.listFilesInDir
  cases hrd : osReadFile (GoRt.fpJoin d Zip.goModName) with
  | mk data err1 =>
    rw [hrd] at hg
    have hrd' : osReadFile (fpJoin d ([103, 111, 46, 109, 111, 100] : Bytes)) = (data, err1) := hrd
    simp only [hrd']
    cases err1 with
    | none =>
      have hfun : (fun wp wi we (x : List FileError × List File) =>
          Generated.Zip.listFilesInDir_walkFn1 osLstat osOpenRead osReadFile parseGoVers versionCompare versionLang walkRoot
            (k + 1) d (versionLang (parseGoVers [103, 111, 46, 109, 111, 100] data)) wp wi we x.fst x.snd) =
          cb osLstat osOpenRead osReadFile parseGoVers versionCompare versionLang walkRoot (k + 1) d
            (versionLang (parseGoVers Zip.goModName data)) := rfl
      simp only [Option.isNone_none, if_true]
      rw [hfun, key (versionLang (parseGoVers Zip.goModName data)) (by simpa using hg)]
      rfl
    | some e =>
      have hfun : (fun wp wi we (x : List FileError × List File) =>
          Generated.Zip.listFilesInDir_walkFn1 osLstat osOpenRead osReadFile parseGoVers versionCompare versionLang walkRoot
            (k + 1) d [] wp wi we x.fst x.snd) =
          cb osLstat osOpenRead osReadFile parseGoVers versionCompare versionLang walkRoot (k + 1) d [] := rfl
      simp only [Option.isNone_some, Bool.false_eq_true, if_false]
      rw [hfun, key [] (by simpa using hg)]
      rfl

/-- the simulation behind it: the assumed walk over the entries of a directory with slash path `rel`, running the closure
    of `listFilesInDir`, appends the model's `Zip.walkChildren` to the captured variables and ends without error -/
theorem walkChildren_tie (d vers : Bytes) (fuel0 : Nat) (ge124 : Bool)
    (hg : ge124 = decide (0 ≤ versionCompare vers go124)) (cs : List (Bytes × Zip.Node)) (rel : Bytes)
    (st : List FileError × List File) (fuel : Nat) (hr : RelOK rel) (hok : ChildrenOK osLstat osOpenRead d rel cs)
    (hfuel : listFuel cs ≤ fuel) :
    GoRt.walkChildren (cb osLstat osOpenRead osReadFile parseGoVers versionCompare versionLang walkRoot fuel0 d vers) fuel
        (fp d rel) (toFsList cs) st =
      .ok (none, addL st (Zip.walkChildren ge124 rel cs)) :=
  walkChildren_sim osLstat osOpenRead osReadFile parseGoVers versionCompare versionLang walkRoot fuel0 d vers ge124 hg cs rel
    st fuel hr hok hfuel

end

/-- `dirFile.Path` is the slash path -/
theorem dirFile_Path_tie (f : Generated.Zip.dirFile) : Generated.Zip.dirFile_Path f = f.slashPath := rfl

/-- `dirFile.Lstat` is the info the walk handed over, without error -/
theorem dirFile_Lstat_tie (f : Generated.Zip.dirFile) : Generated.Zip.dirFile_Lstat f = (f.info, none) := rfl

/-- `dirFile.Open` opens the file path -/
theorem dirFile_Open_tie (osOpenRead : Bytes → (Bytes × Option String)) (f : Generated.Zip.dirFile) :
    Generated.Zip.dirFile_Open osOpenRead f = osOpenRead f.filePath := rfl

/-- the `File` the walk appends for a regular file node is the model's file through `toGFile` -/
theorem dirFile_tie (osOpenRead : Bytes → (Bytes × Option String)) (d rel : Bytes) (size : Int) (content : Bytes) (g : Bool)
    (hopen : osOpenRead (fp d rel) = (content, none)) :
    let f : Generated.Zip.dirFile :=
      { filePath := fp d rel, slashPath := rel, info := { Mode := modeBits .regular, IsDir := false, Size := size } }
    ({ Path := Generated.Zip.dirFile_Path f, Lstat := Generated.Zip.dirFile_Lstat f,
       Open := Generated.Zip.dirFile_Open osOpenRead f } : File) = toGFile ⟨rel, .regular, size, content, g⟩ := by
  simp [Generated.Zip.dirFile_Path, Generated.Zip.dirFile_Lstat, Generated.Zip.dirFile_Open, hopen, toGFile, modeBits]

section
variable (E : Zip.Env) (equalFold : Bytes → Bytes → Bool)
  (osLstat : Bytes → (FileInfo × Option String)) (osOpenRead : Bytes → (Bytes × Option String))
  (osReadFile : Bytes → (Bytes × Option String)) (parseGoVers : Bytes → Bytes → Bytes) (simpleFold : Int → Int)
  (toLower : Bytes → Bytes) (versionCompare : Bytes → Bytes → Int) (versionLang : Bytes → Bytes)
  (walkRoot : Bytes → FsTree FileInfo) (K : Nat)

/-- ★ `CheckFiles(files)`: the model's report `Zip.checkFilesV` and the text of its `.err` -/
theorem CheckFiles_tie (hsf : FoldsTo simpleFold K) (hE : E.toFold = Zip.strToFold)
    (hef : ∀ s, equalFold s Zip.goModName = Zip.equalFoldGoMod s)
    (htl : ∀ s, decide (toLower s = Zip.goModName) = Zip.toLowerIsGoMod s) (files : List Zip.FileInfo)
    (hv : decide (0 ≤ versionCompare (versOf parseGoVers versionLang files) go124) = Zip.goVers files)
    (fuel : Nat) (hfuel : fuelBound K files ≤ fuel) :
    Generated.Zip.CheckFiles (cfpOf E) equalFold parseGoVers simpleFold toLower versionCompare versionLang fuel
        (files.map toGFile) =
      .ok (embCF (Zip.checkFilesV E files), (Zip.checkFilesV E files).err.map errKindText) := by
  unfold Generated.Zip.CheckFiles
  rw [FnZipCheckFiles.checkFiles_tie E equalFold parseGoVers simpleFold toLower versionCompare versionLang K hsf hE hef htl
    files hv fuel hfuel]
  simp only [Bind.bind, Except.bind, embedCf]
  show Except.ok (embCF (Zip.checkFilesV E files), Generated.Zip.CheckedFiles_Err (embCF (Zip.checkFilesV E files))) = _
  rw [FnZipIOCreate.CheckedFiles_Err_tie]

/-- ★ `CheckDir(d)`: the model's `Zip.checkDir` with every path joined with `d`, and the text of its `.err` -/
theorem CheckDir_tie (hsf : FoldsTo simpleFold K) (hE : E.toFold = Zip.strToFold)
    (hef : ∀ s, equalFold s Zip.goModName = Zip.equalFoldGoMod s)
    (htl : ∀ s, decide (toLower s = Zip.goModName) = Zip.toLowerIsGoMod s)
    (d : Bytes) (ge124 : Bool)
    (hg : ge124 = decide (0 ≤ versionCompare (versDir osReadFile parseGoVers versionLang d) go124))
    (children : List (Bytes × Zip.Node)) (hroot : walkRoot d = toFs (.dir children))
    (hok : ChildrenOK osLstat osOpenRead d [] children)
    (hv : decide (0 ≤ versionCompare (versOf parseGoVers versionLang (Zip.listFilesInDir ge124 children).files) go124) =
      Zip.goVers (Zip.listFilesInDir ge124 children).files)
    (fuel : Nat) (hfuel : dirFuel K ge124 children ≤ fuel) :
    Generated.Zip.CheckDir (cfpOf E) equalFold osLstat osOpenRead osReadFile parseGoVers simpleFold toLower versionCompare
        versionLang walkRoot fuel d =
      .ok (embDir d (Zip.checkDir E ge124 children), (Zip.checkDir E ge124 children).err.map errKindText) := by
  unfold dirFuel at hfuel
  have hcount := walkChildren_count ge124 children []
  have hpos := listFuel_pos children
  -- `checkFiles` omits nothing for the two reasons of `listFilesInDir`, so the merged `Omitted` list has one text embedding
  have hinv := inv_checkFilesSt E (Zip.listFilesInDir ge124 children).files
    (Zip.goVers (Zip.listFilesInDir ge124 children).files)
  have hlf : (Zip.listFilesInDir ge124 children).files.length + (Zip.listFilesInDir ge124 children).omitted.length ≤
      listFuel children := hcount
  unfold Generated.Zip.CheckDir
  rw [listFilesInDir_tie osLstat osOpenRead osReadFile parseGoVers versionCompare versionLang walkRoot d ge124 hg children hroot
    hok fuel (by omega)]
  simp only [Bind.bind, Except.bind, Option.isNone_none, Bool.not_true, Bool.false_eq_true, if_false]
  rw [CheckFiles_tie E equalFold parseGoVers simpleFold toLower versionCompare versionLang K hsf hE hef htl _ hv fuel
    (by omega)]
  simp only []
  generalize hl : Zip.listFilesInDir ge124 children = l at *
  have hcd : Zip.checkDir E ge124 children =
      { Zip.checkFilesV E l.files with omitted := (Zip.checkFilesV E l.files).omitted ++ l.omitted } := by
    unfold Zip.checkDir; rw [hl]
  have hcfv : Zip.checkFilesV E l.files = (Zip.checkFilesSt E l.files (Zip.goVers l.files)).cf := rfl
  generalize hc : Zip.checkFilesV E l.files = c at *
  have htot : c.valid.length + c.omitted.length + c.invalid.length ≤ 2 * l.files.length := by
    have := hinv.1; unfold tot at this; rw [← hcfv] at this; exact this
  have hom : ∀ e ∈ c.omitted, ListReason e.2 := by
    have := hinv.2; rw [← hcfv] at this; exact this
  rw [show (0 : Int) = ((0 : Nat) : Int) from rfl]
  rw [loop1_eq d c.valid (embCF c).Valid rfl fuel (embCF c) (by omega) rfl]
  simp only []
  rw [loop2_eq d ((embCF c).Omitted ++ l.omitted.map embOm) _ rfl fuel _
    (by simp only [embCF, List.length_append, List.length_map]; omega) (by rfl)]
  simp only []
  rw [loop3_eq d (embCF c).Invalid _ rfl fuel _ (by simp only [embCF, List.length_map]; omega) (by rfl)]
  simp only [pure, Except.pure]
  have hfinal : CheckedFiles.mk (c.valid.map (GoRt.fpJoin d))
        ((c.omitted.map embFE ++ l.omitted.map embOm).map (joinFE d)) ((c.invalid.map embFE).map (joinFE d))
        (embCF c).SizeError = embDir d (Zip.checkDir E ge124 children) := by
    rw [hcd]
    simp only [embDir, embCF, List.map_append, List.map_map, CheckedFiles.mk.injEq, true_and, and_true]
    refine ⟨?_, ?_⟩
    · congr 1
      · apply List.map_congr_left
        intro e he
        simp [joinFE, embFE, embDirOm, reasonTextD_of_listReason (hom e he)]
    · rfl
  have herr : Generated.Zip.CheckedFiles_Err (embDir d (Zip.checkDir E ge124 children)) =
      (Zip.checkDir E ge124 children).err.map errKindText := by
    have h1 := FnZipIOCreate.CheckedFiles_Err_tie (Zip.checkDir E ge124 children)
    rw [← h1]
    unfold Generated.Zip.CheckedFiles_Err embDir embCF
    simp [len_eq]
  rw [← herr, ← hfinal]
  rfl

/-- ★ `CreateFromDir(w, m, d)` from the empty writer world: the error is the embedding of the model's
    `Zip.createFromDir` (`none` iff it succeeds; a `zipError` passes the deferred wrapper unchanged), the world is what
    `Create` wrote for the listed files (`createWorld`, Proofs/TieFnZipIOCreate.lean) -/
theorem CreateFromDir_tie (canonicalVersion : Bytes → Bytes) (moduleCheck : Bytes → Bytes → Option String)
    (hsf : FoldsTo simpleFold K) (hE : E.toFold = Zip.strToFold)
    (hef : ∀ s, equalFold s Zip.goModName = Zip.equalFoldGoMod s)
    (htl : ∀ s, decide (toLower s = Zip.goModName) = Zip.toLowerIsGoMod s)
    (p v : Bytes) (hmod : (canonicalVersion v = v ∧ moduleCheck p v = none) ↔ E.modOK p v = true)
    (d : Bytes) (ge124 : Bool)
    (hg : ge124 = decide (0 ≤ versionCompare (versDir osReadFile parseGoVers versionLang d) go124))
    (children : List (Bytes × Zip.Node)) (hroot : walkRoot d = toFs (.dir children))
    (hok : ChildrenOK osLstat osOpenRead d [] children)
    (hv : decide (0 ≤ versionCompare (versOf parseGoVers versionLang (Zip.listFilesInDir ge124 children).files) go124) =
      Zip.goVers (Zip.listFilesInDir ge124 children).files)
    (fuel : Nat) (hfuel : dirFuel K ge124 children ≤ fuel) :
    Generated.Zip.CreateFromDir canonicalVersion (cfpOf E) equalFold moduleCheck osLstat osOpenRead osReadFile parseGoVers
        simpleFold toLower versionCompare versionLang walkRoot fuel () { Path := p, Version := v } d [] =
      .ok (embCreateRes (badModuleText canonicalVersion moduleCheck p v) (Zip.createFromDir E p v ge124 children),
           createWorld E p v (Zip.listFilesInDir ge124 children).files) := by
  unfold dirFuel at hfuel
  have hpos := listFuel_pos children
  unfold Generated.Zip.CreateFromDir
  rw [listFilesInDir_tie osLstat osOpenRead osReadFile parseGoVers versionCompare versionLang walkRoot d ge124 hg children hroot
    hok fuel (by omega)]
  simp only [Bind.bind, Except.bind, Option.isNone_none, Bool.not_true, Bool.false_eq_true, if_false]
  rw [FnZipIOCreate.Create_tie E canonicalVersion equalFold moduleCheck parseGoVers simpleFold toLower versionCompare
    versionLang K hsf hE hef htl p v hmod _ hv fuel (by omega)]
  simp only []
  show _ = Except.ok (embCreateRes _ (Zip.create E p v (Zip.listFilesInDir ge124 children).files), _)
  cases Zip.create E p v (Zip.listFilesInDir ge124 children).files with
  | ok es => rfl
  | error c =>
    simp only [embCreateRes, embCreateErr, errIs_zipError, if_true]
    rfl

/-- success: when the model creates the entries `es` from the directory, the generated `CreateFromDir` returns no error and
    has written exactly these entries (name, content), in order -/
theorem CreateFromDir_tie_ok (canonicalVersion : Bytes → Bytes) (moduleCheck : Bytes → Bytes → Option String)
    (hsf : FoldsTo simpleFold K) (hE : E.toFold = Zip.strToFold)
    (hef : ∀ s, equalFold s Zip.goModName = Zip.equalFoldGoMod s)
    (htl : ∀ s, decide (toLower s = Zip.goModName) = Zip.toLowerIsGoMod s)
    (p v : Bytes) (hmod : (canonicalVersion v = v ∧ moduleCheck p v = none) ↔ E.modOK p v = true)
    (d : Bytes) (ge124 : Bool)
    (hg : ge124 = decide (0 ≤ versionCompare (versDir osReadFile parseGoVers versionLang d) go124))
    (children : List (Bytes × Zip.Node)) (hroot : walkRoot d = toFs (.dir children))
    (hok : ChildrenOK osLstat osOpenRead d [] children)
    (hv : decide (0 ≤ versionCompare (versOf parseGoVers versionLang (Zip.listFilesInDir ge124 children).files) go124) =
      Zip.goVers (Zip.listFilesInDir ge124 children).files)
    (fuel : Nat) (hfuel : dirFuel K ge124 children ≤ fuel) (es : List Zip.Entry)
    (h : Zip.createFromDir E p v ge124 children = .ok es) :
    Generated.Zip.CreateFromDir canonicalVersion (cfpOf E) equalFold moduleCheck osLstat osOpenRead osReadFile parseGoVers
        simpleFold toLower versionCompare versionLang walkRoot fuel () { Path := p, Version := v } d [] =
      .ok (none, es.map (fun e => (e.name, e.content))) := by
  rw [CreateFromDir_tie E equalFold osLstat osOpenRead osReadFile parseGoVers simpleFold toLower versionCompare versionLang
    walkRoot K canonicalVersion moduleCheck hsf hE hef htl p v hmod d ge124 hg children hroot hok hv fuel hfuel, h,
    FnZipIOCreate.createWorld_ok E p v _ es h]
  rfl

end

/-- ★ the file system the driver builds from a model tree (`drvWalkRoot`, `drvLstat`, `drvOpen`: Proofs/TieFnZipDirDrv.lean,
    transcribed from `Drv/GenZipDir.lean` `env`: the tree sits at the directory "t", paths are looked up by name) satisfies
    the hypotheses of the ties for EVERY tree with ordinary, pairwise distinct sibling names and no failed `Lstat`
    (`DrvChildren`) -/
theorem driver_reads_tree (root : List (Bytes × Zip.Node)) (h : DrvChildren root) :
    drvWalkRoot root tdir = toFs (.dir root) ∧ ChildrenOK (drvLstat root) (drvOpen root) tdir [] root :=
  ⟨rfl, childrenOK_drv root root [] root (Or.inl rfl) rfl (find_self root h) h⟩

/-- `listFilesInDir` as the driver runs it -/
theorem listFilesInDir_tie_driver (g : Bool) (fs : List Zip.FileInfo) (root : List (Bytes × Zip.Node))
    (h : DrvChildren root) (ge124 : Bool)
    (hg : ge124 = decide (0 ≤ versionCompareI (versDir (drvReadFile g root) (drvPgv fs) id tdir) go124))
    (fuel : Nat) (hfuel : listFuel root + 1 ≤ fuel) :
    Generated.Zip.listFilesInDir (drvLstat root) (drvOpen root) (drvReadFile g root) (drvPgv fs) versionCompareI id
        (drvWalkRoot root) fuel tdir =
      .ok ((Zip.listFilesInDir ge124 root).files.map toGFile, (Zip.listFilesInDir ge124 root).omitted.map embOm, none) :=
  listFilesInDir_tie (drvLstat root) (drvOpen root) (drvReadFile g root) (drvPgv fs) versionCompareI id (drvWalkRoot root)
    tdir ge124 hg root (driver_reads_tree root h).1 (driver_reads_tree root h).2 fuel hfuel

/-- the flat list the example's `parseGoVers` stand-in knows: the root go.mod declares go 1.24 -/
def exFs : List Zip.FileInfo := [⟨B "go.mod", .regular, 7, B "go 1.24", true⟩]

def exPgv : Bytes → Bytes → Bytes := drvPgv exFs

def exEnv : Zip.Env := { cfp := fun p => !p.isEmpty, toFold := Zip.strToFold, modOK := fun _ _ => true }

/-- every rule of the walk occurs: a VCS directory (skipped), a nested module (skipped), a symbolic link (omitted), a
    vendored package directory (reported AND walked: its file is reported, too), `vendor/modules.txt` (omitted from
    go 1.24 on), and regular files at the root and below -/
def exTree : List (Bytes × Zip.Node) :=
  [(B ".git", .dir [(B "config", .file .regular 1 (B "c") false)]),
   (B "a", .dir [(B "b.go", .file .regular 1 (B "x") false)]),
   (B "go.mod", .file .regular 7 (B "go 1.24") true),
   (B "link", .file .symlink 0 [] false),
   (B "sub", .dir [(B "c.go", .file .regular 1 (B "y") false), (B "go.mod", .file .regular 0 [] false)]),
   (B "vendor", .dir [(B "modules.txt", .file .regular 1 (B "m") false),
     (B "p", .dir [(B "q", .dir [(B "r.go", .file .regular 1 (B "z") false)])])])]

/-- the hypotheses of the ties hold on the example tree with the driver's file system -/
theorem driverOK : DrvChildren exTree ∧
    true = decide (0 ≤ versionCompareI (versDir (drvReadFile true exTree) exPgv id tdir) go124) ∧
    decide (0 ≤ versionCompareI (versOf exPgv id (Zip.listFilesInDir true exTree).files) go124) =
      Zip.goVers (Zip.listFilesInDir true exTree).files := by
  exact ⟨by decide +kernel, by decide +kernel, by decide +kernel⟩

/-- `listFilesInDir` on the example: the generated function and the model agree (both sides evaluated by the kernel) … -/
example : Generated.Zip.listFilesInDir (drvLstat exTree) (drvOpen exTree) (drvReadFile true exTree) exPgv versionCompareI id
      (drvWalkRoot exTree) (listFuel exTree + 1) tdir =
    .ok ((Zip.listFilesInDir true exTree).files.map toGFile, (Zip.listFilesInDir true exTree).omitted.map embOm, none) := by
  decide +kernel

/-- … and this is the listing -/
example : (Zip.listFilesInDir true exTree).files.map (·.path) = [B "a/b.go", B "go.mod"] ∧
    (Zip.listFilesInDir true exTree).omitted.map embOm =
      [⟨B ".git", some "errVCS"⟩, ⟨B "link", some "errNotRegular"⟩, ⟨B "sub", some "errSubmoduleDir"⟩,
       ⟨B "vendor/modules.txt", some "errVendored"⟩, ⟨B "vendor/p/q", some "errVendored"⟩,
       ⟨B "vendor/p/q/r.go", some "errVendored"⟩] := by decide +kernel

/-- `CheckFiles` on the example list of Tie/FnZipCheckFiles.lean (every rule of `checkFiles` occurs): report and error -/
example : Generated.Zip.CheckFiles (cfpOf FnZipCheckFiles.exEnv) (fun a _ => Zip.equalFoldGoMod a)
      (FnZipCheckFiles.pgvDriver FnZipCheckFiles.exFiles) simpleFoldI (fun s => s.map Zip.asciiLower) versionCompareI id
      (FnZipCheckFiles.driverFuel FnZipCheckFiles.exFiles) (FnZipCheckFiles.exFiles.map toGFile) =
    .ok (embCF (Zip.checkFilesV FnZipCheckFiles.exEnv FnZipCheckFiles.exFiles), some "FileErrorList") ∧
    (Zip.checkFilesV FnZipCheckFiles.exEnv FnZipCheckFiles.exFiles).err.map errKindText = some "FileErrorList" := by
  decide +kernel

/-- `CheckDir` on the example: generated = embedded model; the paths carry the directory -/
example : Generated.Zip.CheckDir (cfpOf exEnv) (fun a _ => Zip.equalFoldGoMod a) (drvLstat exTree) (drvOpen exTree)
      (drvReadFile true exTree) exPgv simpleFoldI (fun s => s.map Zip.asciiLower) versionCompareI id (drvWalkRoot exTree)
      (dirFuel 1 true exTree) tdir =
    .ok (embDir tdir (Zip.checkDir exEnv true exTree), (Zip.checkDir exEnv true exTree).err.map errKindText) ∧
    (embDir tdir (Zip.checkDir exEnv true exTree)).Valid = [B "t/a/b.go", B "t/go.mod"] := by decide +kernel

/-- `CreateFromDir` on the example: the two listed files are written -/
example : Generated.Zip.CreateFromDir id (cfpOf exEnv) (fun a _ => Zip.equalFoldGoMod a) (fun _ _ => none)
      (drvLstat exTree) (drvOpen exTree) (drvReadFile true exTree) exPgv simpleFoldI (fun s => s.map Zip.asciiLower)
      versionCompareI id (drvWalkRoot exTree) (dirFuel 1 true exTree) () { Path := B "m", Version := B "v1.0.0" } tdir [] =
    .ok (none, [(B "m@v1.0.0/a/b.go", B "x"), (B "m@v1.0.0/go.mod", B "go 1.24")]) ∧
    Zip.createFromDir exEnv (B "m") (B "v1.0.0") true exTree =
      .ok [⟨B "m@v1.0.0/a/b.go", 1, B "x"⟩, ⟨B "m@v1.0.0/go.mod", 7, B "go 1.24"⟩] := by decide +kernel

end ModVerif.Tie.FnZipDir
