/-
  C12 about the REGENERATED code: the property theorems of `Props/C12.lean` (stated there for the hand model `Zip.unzip` /
  `Zip.checkZip`) restated for `Generated.Zip.Unzip` / `Generated.Zip.checkZip` — the definitions go2lean re-translates
  from zip/zip.go on every check — through the tie theorems `Tie.FnZipIOUnzip.Unzip_tie` / `checkZip_tie`.

  Setting of every theorem: `Inst E cv ef mc sf K` (the instantiation hypotheses of the ties), entries with 64-bit declared
  sizes, fuel `fuelBoundZ K es`, and a call
    `Generated.Zip.Unzip cv (cfpOf E) ef mc sf fuel d ⟨p, v⟩ zipFile (world0 d t zs es) = .ok (err, w)`
  (`Unzip_gen_total`: such `err`, `w` always exist — no panic, no fuel exhaustion).  `w.fx` is the list of file-system
  effects the call performed (Basic/GoRtZipIO.lean), `err = none` is success.
-/
import ModVerif.Tie.FnZipIOUnzip
import ModVerif.Props.C12
namespace ModVerif.Tie.FnZipIOC12
open ModVerif ModVerif.TieFnZip ModVerif.TieFnZipCf ModVerif.TieFnZipIOUnzip
open ModVerif.GoRt (FsW FsEffect ZReader fsCreatedFiles)
open ModVerif.PathClean ModVerif.Zip ModVerif.ZipSpec ModVerif.Proofs.Zip ModVerif.Proofs.ZipB
open ModVerif.Drv.GenZipIO (toZEntry toEffect targetCode)

/-- the instantiation hypotheses of the ties (see `Tie/FnZipIOUnzip.lean`) -/
structure Inst (E : Env) (cv : Bytes → Bytes) (ef : Bytes → Bytes → Bool) (mc : Bytes → Bytes → Option String)
    (sf : Int → Int) (K : Nat) : Prop where
  hsf : FoldsTo sf K
  hE : E.toFold = Zip.strToFold
  hef : ∀ s, ef s goModName = equalFoldGoMod s
  hrel : ∀ p, E.cfp p = true → isAbs p = false
  hmod : ∀ p v, (cv v = v ∧ mc p v = none) ↔ E.modOK p v = true

section
variable {E : Env} {cv : Bytes → Bytes} {ef : Bytes → Bytes → Bool} {mc : Bytes → Bytes → Option String}
  {sf : Int → Int} {K : Nat}

/-- the regenerated `Unzip` always returns (no panic, no fuel exhaustion) -/
theorem Unzip_gen_total (I : Inst E cv ef mc sf K) (d p v zipFile : Bytes) (zs : Nat) (es : List Entry)
    (hsz : ∀ e ∈ es, e.declSize < 2 ^ 64) (t : Target) (fuel : Nat) (hfuel : fuelBoundZ K es ≤ fuel) :
    ∃ err w, Generated.Zip.Unzip cv (cfpOf E) ef mc sf fuel d ⟨p, v⟩ zipFile (world0 d t zs es) = .ok (err, w) := by
  obtain ⟨err, w, h, _⟩ := FnZipIOUnzip.Unzip_tie_result cv ef mc sf E K I.hsf I.hE I.hef I.hrel d p v zipFile
    (I.hmod p v) zs es hsz t fuel hfuel
  exact ⟨err, w, h⟩

/-- what a call of the regenerated `Unzip` returned is what the model says -/
theorem Unzip_gen_model (I : Inst E cv ef mc sf K) {d p v zipFile : Bytes} {zs : Nat} {es : List Entry}
    (hsz : ∀ e ∈ es, e.declSize < 2 ^ 64) {t : Target} {fuel : Nat} (hfuel : fuelBoundZ K es ≤ fuel)
    {err : Option String} {w : FsW}
    (h : Generated.Zip.Unzip cv (cfpOf E) ef mc sf fuel d ⟨p, v⟩ zipFile (world0 d t zs es) = .ok (err, w)) :
    (err = none ↔ (unzip E d t p v zs es).err = none) ∧ w.fx.map toEffect = (unzip E d t p v zs es).effects := by
  obtain ⟨err', w', h', _, h2, h3⟩ := FnZipIOUnzip.Unzip_tie_result cv ef mc sf E K I.hsf I.hE I.hef I.hrel d p v
    zipFile (I.hmod p v) zs es hsz t fuel hfuel
  rw [h] at h'
  cases h'
  exact ⟨h2, h3⟩

/-- the regenerated `checkZip` returns no error exactly when the model's accepts -/
theorem checkZip_gen_accepts_iff (I : Inst E cv ef mc sf K) (p v : Bytes) (zs : Nat) (es : List Entry)
    (hsz : ∀ e ∈ es, e.declSize < 2 ^ 64) (fuel : Nat) (hfuel : fuelBoundZ K es ≤ fuel) :
    (∃ rd cfG, Generated.Zip.checkZip cv (cfpOf E) ef mc sf fuel ⟨p, v⟩ (osFileOf zs es) = .ok (rd, cfG, none)) ↔
      ∃ cf, checkZip E p v zs es = .ok cf ∧ cf.err = none := by
  have ht := FnZipIOUnzip.checkZip_tie cv ef mc sf E K I.hsf I.hE I.hef I.hrel p v (I.hmod p v) zs es hsz fuel hfuel
  constructor
  · rintro ⟨rd, cfG, h⟩
    rw [h] at ht
    cases hc : checkZip E p v zs es with
    | error k =>
      cases k
      have := (FnZipIOUnzip.checkZip_tie_badModule cv ef mc sf E K I.hsf I.hE I.hef I.hrel p v (I.hmod p v) zs es hsz
        fuel hfuel hc).2
      rw [hc] at ht
      simp only [Except.ok.injEq, Prod.mk.injEq] at ht
      exact absurd ht.2.2.symm this
    | ok cf =>
      rw [hc] at ht
      simp only [Except.ok.injEq, Prod.mk.injEq] at ht
      refine ⟨cf, rfl, ?_⟩
      have := ht.2.2
      cases hce : cf.err with
      | none => rfl
      | some k => rw [hce] at this; cases this
  · rintro ⟨cf, hc, hce⟩
    rw [hc] at ht
    simp only [hce, Option.map_none] at ht
    exact ⟨_, _, ht⟩

/-- `unzip_only_after_checkZip` for the regenerated code: if the regenerated `Unzip` performed any effect at all, the
    target was usable and the regenerated `checkZip` returned no error on the archive. -/
theorem unzip_only_after_checkZip_gen (I : Inst E cv ef mc sf K) (d p v zipFile : Bytes) (zs : Nat) (es : List Entry)
    (hsz : ∀ e ∈ es, e.declSize < 2 ^ 64) (t : Target) (fuel : Nat) (hfuel : fuelBoundZ K es ≤ fuel)
    (err : Option String) (w : FsW)
    (h : Generated.Zip.Unzip cv (cfpOf E) ef mc sf fuel d ⟨p, v⟩ zipFile (world0 d t zs es) = .ok (err, w))
    (hne : w.fx ≠ []) :
    t ≠ .nonEmptyDir ∧ t ≠ .notDir ∧
      ∃ rd cfG, Generated.Zip.checkZip cv (cfpOf E) ef mc sf fuel ⟨p, v⟩ (osFileOf zs es) = .ok (rd, cfG, none) := by
  obtain ⟨_, hfx⟩ := Unzip_gen_model I hsz hfuel h
  have hne' : (unzip E d t p v zs es).effects ≠ [] := by
    rw [← hfx]; intro h0; exact hne (List.map_eq_nil_iff.mp h0)
  obtain ⟨h1, h2, h3⟩ := Props.C12.unzip_only_after_checkZip E d t p v zs es hne'
  exact ⟨h1, h2, (checkZip_gen_accepts_iff I p v zs es hsz fuel hfuel).mpr h3⟩

/-- `unzip_ok_implies_checkZip` for the regenerated code: success implies that the regenerated `checkZip` returned no
    error, and every extracted entry had exactly its declared size and was created with its complete content. -/
theorem unzip_ok_implies_checkZip_gen (I : Inst E cv ef mc sf K) (d p v zipFile : Bytes) (zs : Nat) (es : List Entry)
    (hsz : ∀ e ∈ es, e.declSize < 2 ^ 64) (t : Target) (fuel : Nat) (hfuel : fuelBoundZ K es ≤ fuel) (w : FsW)
    (h : Generated.Zip.Unzip cv (cfpOf E) ef mc sf fuel d ⟨p, v⟩ zipFile (world0 d t zs es) = .ok (none, w)) :
    (∃ rd cfG, Generated.Zip.checkZip cv (cfpOf E) ef mc sf fuel ⟨p, v⟩ (osFileOf zs es) = .ok (rd, cfG, none)) ∧
    ∀ zf ∈ es, skipEntry (zipPrefix p v) zf = false →
      zf.content.length = zf.declSize ∧
      FsEffect.createExcl (dstOf d (zipPrefix p v) zf) (some zf.content) ∈ w.fx := by
  obtain ⟨herr, hfx⟩ := Unzip_gen_model I hsz hfuel h
  obtain ⟨h1, h2⟩ := Props.C12.unzip_ok_implies_checkZip E d t p v zs es (herr.mp rfl)
  refine ⟨(checkZip_gen_accepts_iff I p v zs es hsz fuel hfuel).mpr h1, fun zf hzf hs => ?_⟩
  obtain ⟨h3, h4⟩ := h2 zf hzf hs
  refine ⟨h3, ?_⟩
  rw [← hfx] at h4
  obtain ⟨fe, hfe, heq⟩ := List.mem_map.mp h4
  cases fe with
  | mkdirAll q => cases heq
  | createExcl q c =>
    simp only [toEffect, Effect.createExcl.injEq] at heq
    obtain ⟨rfl, rfl⟩ := heq
    exact hfe

/-- `unzip_effects_shape` for the regenerated code: every effect — success or failure, any entry list — is the creation of
    the target directory itself, or `MkdirAll(Dir(dst))` / the exclusive creation of `dst = filepath.Join(dir, name)` for a
    file entry. -/
theorem unzip_effects_shape_gen (I : Inst E cv ef mc sf K) (d p v zipFile : Bytes) (zs : Nat) (es : List Entry)
    (hsz : ∀ e ∈ es, e.declSize < 2 ^ 64) (t : Target) (fuel : Nat) (hfuel : fuelBoundZ K es ≤ fuel)
    (err : Option String) (w : FsW)
    (h : Generated.Zip.Unzip cv (cfpOf E) ef mc sf fuel d ⟨p, v⟩ zipFile (world0 d t zs es) = .ok (err, w)) :
    ∀ fe ∈ w.fx, fe = .mkdirAll d ∨ ∃ zf ∈ es, skipEntry (zipPrefix p v) zf = false ∧
      (fe = .mkdirAll (pathDir (dstOf d (zipPrefix p v) zf)) ∨ ∃ c, fe = .createExcl (dstOf d (zipPrefix p v) zf) c) := by
  obtain ⟨_, hfx⟩ := Unzip_gen_model I hsz hfuel h
  intro fe hfe
  have hm : toEffect fe ∈ (unzip E d t p v zs es).effects := by
    rw [← hfx]; exact List.mem_map_of_mem hfe
  rcases Props.C12.unzip_effects_shape E d t p v zs es _ hm with h1 | ⟨zf, hzf, hs, h2⟩
  · left
    cases fe with
    | mkdirAll q => simp only [toEffect, Effect.mkdirAll.injEq] at h1; rw [h1]
    | createExcl q c => cases h1
  · right
    refine ⟨zf, hzf, hs, ?_⟩
    rcases h2 with h2 | ⟨c, h2⟩
    · left
      cases fe with
      | mkdirAll q => simp only [toEffect, Effect.mkdirAll.injEq] at h2; rw [h2]
      | createExcl q c => cases h2
    · right
      cases fe with
      | mkdirAll q => cases h2
      | createExcl q c' =>
        simp only [toEffect, Effect.createExcl.injEq] at h2
        exact ⟨c', by rw [h2.1]⟩

/-- the path an effect touches -/
def fsPath : FsEffect → Bytes
  | .mkdirAll p => p
  | .createExcl p _ => p

theorem path_toEffect (fe : FsEffect) : (toEffect fe).path = fsPath fe := by cases fe <;> rfl

/-- `unzip_confined` for the regenerated code: nothing is ever created outside the target directory — every effect of the
    regenerated `Unzip`, success or failure, any entry list with arbitrary byte-string names, has a path under `dir`. -/
theorem unzip_confined_gen (I : Inst E cv ef mc sf K) (hS : CfpSound E.cfp) (d p v zipFile : Bytes) (zs : Nat)
    (es : List Entry) (hsz : ∀ e ∈ es, e.declSize < 2 ^ 64) (t : Target) (fuel : Nat) (hfuel : fuelBoundZ K es ≤ fuel)
    (err : Option String) (w : FsW)
    (h : Generated.Zip.Unzip cv (cfpOf E) ef mc sf fuel d ⟨p, v⟩ zipFile (world0 d t zs es) = .ok (err, w)) :
    ∀ fe ∈ w.fx, IsUnder d (fsPath fe) ∧ IsUnder (pathClean d) (fsPath fe) := by
  obtain ⟨_, hfx⟩ := Unzip_gen_model I hsz hfuel h
  intro fe hfe
  have hm : toEffect fe ∈ (unzip E d t p v zs es).effects := by
    rw [← hfx]; exact List.mem_map_of_mem hfe
  rw [← path_toEffect]
  exact Props.C12.unzip_confined E hS d t p v zs es _ hm

/-- `checkZip_ok_spec` for the regenerated code: when the regenerated `checkZip` returns no error, the archive satisfies
    every documented restriction (the conclusion of `Props.C12.checkZip_ok_spec` for the model's report). -/
theorem checkZip_ok_spec_gen (I : Inst E cv ef mc sf K) (p v : Bytes) (zs : Nat) (es : List Entry)
    (hsz : ∀ e ∈ es, e.declSize < 2 ^ 64) (fuel : Nat) (hfuel : fuelBoundZ K es ≤ fuel) (rd : ZReader)
    (cfG : Generated.Zip.CheckedFiles)
    (h : Generated.Zip.checkZip cv (cfpOf E) ef mc sf fuel ⟨p, v⟩ (osFileOf zs es) = .ok (rd, cfG, none)) :
    rd = { File := es.map toZEntry } ∧
    E.modOK p v = true ∧ zs ≤ MaxZipFile ∧
    (∀ e ∈ es, zipPrefix p v <+: e.name ∧
      (relName (zipPrefix p v) e ≠ [] →
        pathClean (stripName (zipPrefix p v) e) = stripName (zipPrefix p v) e ∧
        E.cfp (stripName (zipPrefix p v) e) = true)) ∧
    (∀ e ∈ fileEntries (zipPrefix p v) es,
      (equalFoldGoMod (pathBase (relName (zipPrefix p v) e)) = true → relName (zipPrefix p v) e = goModName) ∧
      0 ≤ int64OfU64 e.declSize ∧ (e.declSize < 2 ^ 64 → int64OfU64 e.declSize = e.declSize) ∧
      (relName (zipPrefix p v) e = goModName → int64OfU64 e.declSize ≤ MaxGoMod) ∧
      (relName (zipPrefix p v) e = licenseName → int64OfU64 e.declSize ≤ MaxLICENSE)) ∧
    ((fileEntries (zipPrefix p v) es).map (fun e => int64OfU64 e.declSize)).sum ≤ MaxZipFile ∧
    cfG.Valid = (fileEntries (zipPrefix p v) es).map (·.name) ∧
    (es.flatMap (regsOf (zipPrefix p v))).Pairwise (Compatible E.toFold) ∧
    (CfpSound E.cfp → es.Pairwise (NoClash E (zipPrefix p v))) := by
  obtain ⟨cf, hc, hce⟩ := (checkZip_gen_accepts_iff I p v zs es hsz fuel hfuel).mp ⟨rd, cfG, h⟩
  have ht := FnZipIOUnzip.checkZip_tie_ok cv ef mc sf E K I.hsf I.hE I.hef I.hrel p v (I.hmod p v) zs es hsz fuel hfuel
    cf hc
  rw [h] at ht
  simp only [Except.ok.injEq, Prod.mk.injEq] at ht
  obtain ⟨s1, s2, s3, s4, s5, s6, s7, s8⟩ := Props.C12.checkZip_ok_spec E p v zs es cf hc hce
  have hrd : rd = { File := es.map toZEntry } := by
    rw [ht.1]; unfold readerOf; rw [if_neg (by omega)]
  refine ⟨hrd, s1, s2, s3, s4, s5, ?_, s7, s8⟩
  rw [ht.2.1]
  exact s6

/-- `unzip_ok_iff_partial` for the regenerated code: the regenerated `Unzip` succeeds exactly when the regenerated
    `checkZip` returns no error (honest sizes, target missing or an empty directory, `dir` empty, clean or without `..`
    elements — the hypothesis on `dir` cannot be dropped, see Props/C12). -/
theorem unzip_ok_iff_partial_gen (I : Inst E cv ef mc sf K) (hS : CfpSound E.cfp) (d : Bytes)
    (hdir : d = [] ∨ pathClean d = d ∨ ([46, 46] : Bytes) ∉ splitOn 47 d) (t : Target)
    (ht : t = .missing ∨ t = .emptyDir) (p v zipFile : Bytes) (zs : Nat) (es : List Entry) (hon : HonestEntries es)
    (hsz : ∀ e ∈ es, e.declSize < 2 ^ 64) (fuel : Nat) (hfuel : fuelBoundZ K es ≤ fuel)
    (err : Option String) (w : FsW)
    (h : Generated.Zip.Unzip cv (cfpOf E) ef mc sf fuel d ⟨p, v⟩ zipFile (world0 d t zs es) = .ok (err, w)) :
    err = none ↔
      ∃ rd cfG, Generated.Zip.checkZip cv (cfpOf E) ef mc sf fuel ⟨p, v⟩ (osFileOf zs es) = .ok (rd, cfG, none) := by
  obtain ⟨herr, _⟩ := Unzip_gen_model I hsz hfuel h
  rw [herr, checkZip_gen_accepts_iff I p v zs es hsz fuel hfuel]
  exact Props.C12.unzip_ok_iff_partial E hS d hdir t ht p v zs es hon

/-- `unzip_tree_eq_entries` for the regenerated code: on success the effects are the creation of the target and then, for
    every file entry in archive order, `MkdirAll(Dir(dst))` and the exclusive creation of `dst = Join(dir, name)` with the
    entry's complete content, byte for byte; the created files are the destinations of the file entries, and no
    destination occurs twice. -/
theorem unzip_tree_eq_entries_gen (I : Inst E cv ef mc sf K) (d p v zipFile : Bytes) (zs : Nat) (es : List Entry)
    (hsz : ∀ e ∈ es, e.declSize < 2 ^ 64) (t : Target) (fuel : Nat) (hfuel : fuelBoundZ K es ≤ fuel) (w : FsW)
    (h : Generated.Zip.Unzip cv (cfpOf E) ef mc sf fuel d ⟨p, v⟩ zipFile (world0 d t zs es) = .ok (none, w)) :
    w.fx.map toEffect =
      .mkdirAll d :: expectedFx d (zipPrefix p v) (fileEntries (zipPrefix p v) es) ∧
    fsCreatedFiles w.fx = (fileEntries (zipPrefix p v) es).map (dstOf d (zipPrefix p v)) ∧
    ((fileEntries (zipPrefix p v) es).map (dstOf d (zipPrefix p v))).Nodup := by
  obtain ⟨herr, hfx⟩ := Unzip_gen_model I hsz hfuel h
  obtain ⟨h1, h2, h3⟩ := Props.C12.unzip_tree_eq_entries E d t p v zs es (herr.mp rfl)
  refine ⟨by rw [hfx]; exact h1, ?_, h3⟩
  rw [← createdFiles_map, hfx]
  exact h2

end

/-! ### non-vacuity: the driver's instance on the example of Tie/FnZipIOUnzip.lean -/

open ModVerif.Tie.FnZipIOUnzip (mchkOf exEnv exEnv_rel) in
/-- the example environment with the driver's functions is an instance -/
theorem exInst : Inst exEnv id (fun a _ => equalFoldGoMod a) (mchkOf fun _ _ => true) Drv.GenZip.simpleFoldI 1 :=
  { hsf := FnZip.foldsTo_simpleFoldI, hE := rfl, hef := fun _ => rfl, hrel := exEnv_rel,
    hmod := fun _ _ => by simp [mchkOf, exEnv] }

open ModVerif.Tie.FnZipIOUnzip (mchkOf exEnv exEntries) in
/-- `unzip_tree_eq_entries_gen` and `unzip_confined_gen` apply to the example call (which succeeds) -/
example : ∃ w, Generated.Zip.Unzip id (cfpOf exEnv) (fun a _ => equalFoldGoMod a) (mchkOf fun _ _ => true)
      Drv.GenZip.simpleFoldI (Drv.GenZipIO.entriesFuel exEntries) (B "t") ⟨B "m", B "v1"⟩ (B "z")
      (world0 (B "t") .missing 100 exEntries) = .ok (none, w) ∧
    fsCreatedFiles w.fx = [B "t/go.mod", B "t/a/b.go"] := by
  have hsz : ∀ e ∈ exEntries, e.declSize < 2 ^ 64 := by decide +kernel
  have hfuel := FnZipIOUnzip.fuelBoundZ_le_entriesFuel exEntries
  obtain ⟨err, w, h⟩ := Unzip_gen_total exInst (B "t") (B "m") (B "v1") (B "z") 100 exEntries hsz .missing _ hfuel
  have hm := Unzip_gen_model exInst hsz hfuel h
  have he : err = none := hm.1.mpr (by decide +kernel)
  subst he
  refine ⟨w, h, ?_⟩
  rw [(unzip_tree_eq_entries_gen exInst _ _ _ _ _ _ hsz _ _ hfuel w h).2.1]
  decide +kernel

end ModVerif.Tie.FnZipIOC12
