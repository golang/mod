/-
  C19 transported to the regenerated directory code: the property theorem of Props/C19.lean that is about
  `Dirhash.dirFiles` / `Dirhash.hashDir` (`zip_dir_agree`, hand model Model/Dirhash.lean) restated about
  `Generated.Dirhash.HashDir` / `DirFiles` / `Hash1` (Generated/FnDirhash.lean, re-translated from sumdb/dirhash/hash.go on
  every run) through the tie theorems of Tie/FnDirhashDir.lean and Tie/FnDirhash.lean.

  Setting of every statement: `files` is a well-formed flat directory listing (`WF`, decidable), the file system holds its
  name-sorted trie at `filepath.Clean(d)` (`walkRoot (pathClean d) = treeOf (.dir files)`), reading
  `filepath.Join(d, rel)` yields the content of the listed file `rel`, `d` is non-empty and does not clean to `/`,
  the `Hash` argument is the regenerated `Hash1` (`genHash sha`), the prefix `path@version` is a clean relative path.
  Every statement is about the RESULT `.ok (string, error)` of the generated function, so it also says: no index panic
  (`file[len(dir)+1:]`) and no fuel exhaustion.
-/
import ModVerif.Tie.FnDirhashDir
import ModVerif.Props.C19
namespace ModVerif.Tie.FnDirhashDirC19
open ModVerif ModVerif.GoRt ModVerif.Dirhash ModVerif.TieFnDirhashDir ModVerif.Tie.FnDirhashDir
open ModVerif.Generated.Dirhash (FileInfo DirFiles HashDir)
open ModVerif.Drv.GenDirhash (treeOf)

/-- the regenerated Hash1 over an abstract SHA-256 -/
abbrev genHash1 (sha : Bytes → Bytes) (fuel : Nat) (files : List Bytes) (open_ : Bytes → Bytes × Option String) :
    GoRt.M (Bytes × Option String) :=
  Generated.Dirhash.Hash1 Base64.encodeStd (fun acc pre => pre ++ sha acc) fuel files open_

/-- the regenerated HashDir applied to a directory that holds `files`, as the result of the model's `hashUnzipped`
    (= `hashDir` of that directory under the prefix `path@version`) -/
theorem hashUnzipped_gen (sha : Bytes → Bytes) (path version : Bytes) (files : List (Bytes × Bytes))
    (hpfx : CleanRel (modPrefix path version)) (hwf : WF files)
    (osOpenRead : Bytes → Bytes × Option String) (walkRoot : Bytes → Option (FsTree FileInfo)) (d : Bytes) (e : String)
    (fuel : Nat) (hw : walkRoot (pathClean d) = treeOf (.dir files)) (hd : pathClean d ≠ [47]) (hne : d ≠ [])
    (hf : walkFuel files + 2 ≤ fuel) (hopen : ∀ f ∈ files, osOpenRead (fpJoin d f.1) = (f.2, none)) :
    HashDir osOpenRead walkRoot fuel d (modPrefix path version) (genHash sha) =
      .ok (embedHash e (hashUnzipped sha path version files)) :=
  HashDir_tie_fs sha osOpenRead walkRoot (.dir files) d (modPrefix path version) e fuel hw hd hne hwf hpfx hf hopen

/-- ★ Zip/directory agreement (C19 `zip_dir_agree`) between the two REGENERATED functions: `HashDir` of the directory a
    module zip extracts to, under the prefix `path@version`, returns what `Hash1` returns on the listing of the archive
    `zip.Create` writes (entries `path@version/rel` in list order, opened through the last entry of a name, which is how
    `HashZip` calls `Hash1`).  `e` is the text of a failing zip `open` (none fails here). -/
theorem zip_dir_agree_gen (sha : Bytes → Bytes) (path version : Bytes) (files : List (Bytes × Bytes))
    (hpfx : CleanRel (modPrefix path version)) (hwf : WF files)
    (osOpenRead : Bytes → Bytes × Option String) (walkRoot : Bytes → Option (FsTree FileInfo)) (d : Bytes) (e : String)
    (fuel fuelZ : Nat) (hw : walkRoot (pathClean d) = treeOf (.dir files)) (hd : pathClean d ≠ [47]) (hne : d ≠ [])
    (hf : walkFuel files + 2 ≤ fuel) (hfz : files.length + 1 ≤ fuelZ)
    (hopen : ∀ f ∈ files, osOpenRead (fpJoin d f.1) = (f.2, none)) :
    HashDir osOpenRead walkRoot fuel d (modPrefix path version) (genHash sha) =
      genHash1 sha fuelZ (hashZipNames (modZipEntries path version files))
        (TieFnDirhash.openOf (lookupLast (modZipEntries path version files)) e) := by
  rw [hashUnzipped_gen sha path version files hpfx hwf osOpenRead walkRoot d e fuel hw hd hne hf hopen]
  unfold genHash1
  rw [Tie.FnDirhash.Hash1_tie_openOf sha _ _ e fuelZ (by simpa [hashZipNames, modZipEntries] using hfz)]
  rw [← Props.C19.zip_dir_agree sha path version files hpfx hwf.cleanRel hwf.nodup]
  rfl

/-- the same against the hand model of `HashZip` on the created archive -/
theorem zip_dir_agree_gen_model (sha : Bytes → Bytes) (path version : Bytes) (files : List (Bytes × Bytes))
    (hpfx : CleanRel (modPrefix path version)) (hwf : WF files)
    (osOpenRead : Bytes → Bytes × Option String) (walkRoot : Bytes → Option (FsTree FileInfo)) (d : Bytes) (e : String)
    (fuel : Nat) (hw : walkRoot (pathClean d) = treeOf (.dir files)) (hd : pathClean d ≠ [47]) (hne : d ≠ [])
    (hf : walkFuel files + 2 ≤ fuel) (hopen : ∀ f ∈ files, osOpenRead (fpJoin d f.1) = (f.2, none)) :
    HashDir osOpenRead walkRoot fuel d (modPrefix path version) (genHash sha) =
      .ok (embedHash e (hashModZip sha path version files)) := by
  rw [hashUnzipped_gen sha path version files hpfx hwf osOpenRead walkRoot d e fuel hw hd hne hf hopen,
    Props.C19.zip_dir_agree sha path version files hpfx hwf.cleanRel hwf.nodup]

/-- ★ The documented formula (C19 `hash1_formula`) for the regenerated HashDir of a module directory: for ANY listing `s`
    of the pairs (`path@version/rel`, content) in strictly increasing bytewise name order and newline-free names,
    HashDir = ("h1:" ++ base64 (sha256 (concatenation of the documented lines of `s`)), nil).  (The names are listed
    in WALK order by DirFiles and sorted again by Hash1: the walk order does not reach the result.) -/
theorem gen_HashDir_formula (sha : Bytes → Bytes) (path version : Bytes) (files s : List (Bytes × Bytes))
    (hpfx : CleanRel (modPrefix path version)) (hwf : WF files)
    (hperm : s.Perm (modZipEntries path version files)) (hsorted : s.Pairwise (fun a b => bytesLt a.1 b.1 = true))
    (hnl : ∀ p ∈ modZipEntries path version files, (10 : UInt8) ∉ p.1)
    (osOpenRead : Bytes → Bytes × Option String) (walkRoot : Bytes → Option (FsTree FileInfo)) (d : Bytes)
    (fuel : Nat) (hw : walkRoot (pathClean d) = treeOf (.dir files)) (hd : pathClean d ≠ [47]) (hne : d ≠ [])
    (hf : walkFuel files + 2 ≤ fuel) (hopen : ∀ f ∈ files, osOpenRead (fpJoin d f.1) = (f.2, none)) :
    HashDir osOpenRead walkRoot fuel d (modPrefix path version) (genHash sha) =
      .ok ([104, 49, 58] ++ Base64.encodeStd (sha (s.flatMap (Props.C19.docLine sha))), none) := by
  rw [zip_dir_agree_gen_model sha path version files hpfx hwf osOpenRead walkRoot d "" fuel hw hd hne hf hopen]
  have hsn : (s.map (·.1)).Pairwise (fun a b => bytesLt a b = true) := List.pairwise_map.2 hsorted
  have hnd : ((modZipEntries path version files).map (·.1)).Nodup :=
    ((hperm.map (·.1)).nodup_iff).1 (strictSorted_nodup bytesLt_strictTotal hsn)
  have hndr : ((modZipEntries path version files).reverse.map (·.1)).Nodup := by
    rw [List.map_reverse]
    unfold List.Nodup
    rw [List.pairwise_reverse]
    exact List.Pairwise.imp (fun h e => h e.symm) hnd
  have hcongr : hashModZip sha path version files = hash1Pairs sha (modZipEntries path version files) := by
    unfold hashModZip hashZip hash1Pairs hashZipNames
    apply TieFnDirhash.hash1_congr
    intro n hn
    obtain ⟨p, hp, rfl⟩ := List.mem_map.1 hn
    unfold lookupLast openPairs
    rw [lookup_of_mem_nodup _ p.1 p.2 hnd hp, lookup_of_mem_nodup _ p.1 p.2 hndr (List.mem_reverse.2 hp)]
  rw [hcongr, Props.C19.hash1_formula sha _ s hperm hsorted hnl]
  rfl

/-- the list DirFiles returns for a module directory: the entry names `path@version/rel` of the created zip, in walk
    order (C19: both sides of the zip/directory agreement list the same names) -/
theorem gen_DirFiles_names (path version : Bytes) (files : List (Bytes × Bytes))
    (hpfx : CleanRel (modPrefix path version)) (hwf : WF files)
    (walkRoot : Bytes → Option (FsTree FileInfo)) (d : Bytes) (fuel : Nat)
    (hw : walkRoot (pathClean d) = treeOf (.dir files)) (hd : pathClean d ≠ [47]) (hf : walkFuel files + 2 ≤ fuel) :
    ∃ names, DirFiles walkRoot fuel d (modPrefix path version) = .ok (names, none) ∧
      names.Perm (hashZipNames (modZipEntries path version files)) := by
  refine ⟨_, DirFiles_tie walkRoot (.dir files) d (modPrefix path version) fuel hw hd hwf hf, ?_⟩
  have hwalk : (walkOrder (files.map (·.1))).Perm (files.map (·.1)) := insertionSort_perm _
  have : hashZipNames (modZipEntries path version files) =
      (files.map (·.1)).map (fun rel => joinPath (modPrefix path version) rel) := by
    simp only [hashZipNames, modZipEntries, List.map_map]
    apply List.map_congr_left
    intro f hf'
    simp [joinPath_cleanRel hpfx (hwf.cleanRel f hf')]
  rw [this]
  exact hwalk.map _

/-- the hypotheses of `zip_dir_agree_gen` hold for the module `m@v` with the files `b`, `a/c` extracted to `/r`
    (`sha := id`), and both sides evaluate to the same hash -/
example : CleanRel (modPrefix [109] [118]) ∧ WF [([98], [1]), ([97, 47, 99], [2])] :=
  ⟨cleanRel_of_check _ (by decide), by decide⟩

example : HashDir (fun p => if p = [47, 114, 47, 98] then ([1], none) else if p = [47, 114, 47, 97, 47, 99] then ([2], none)
        else ([], some "open"))
      (fun p => if p = [47, 114] then treeOf (.dir [([98], [1]), ([97, 47, 99], [2])]) else none) 32 [47, 114]
      (modPrefix [109] [118]) (genHash id)
    = genHash1 id 3 (hashZipNames (modZipEntries [109] [118] [([98], [1]), ([97, 47, 99], [2])]))
        (TieFnDirhash.openOf (lookupLast (modZipEntries [109] [118] [([98], [1]), ([97, 47, 99], [2])])) "E") := by
  decide

/-- a sorted listing as `gen_HashDir_formula` wants it -/
example : ∃ s : List (Bytes × Bytes),
    s.Perm (modZipEntries [109] [118] [([98], [1]), ([97, 47, 99], [2])]) ∧
    s.Pairwise (fun a b => bytesLt a.1 b.1 = true) ∧
    (∀ p ∈ modZipEntries [109] [118] [([98], [1]), ([97, 47, 99], [2])], (10 : UInt8) ∉ p.1) :=
  ⟨[([109, 64, 118, 47, 97, 47, 99], [2]), ([109, 64, 118, 47, 98], [1])], List.Perm.swap _ _ _, by decide, by decide⟩

end ModVerif.Tie.FnDirhashDirC19
