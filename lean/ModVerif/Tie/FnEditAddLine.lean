/-
  Tie theorems of the two TREE operations every typed edit operation of modfile/rule.go and work.go is built on, for the
  regenerated code of Generated/FnEdit.lean (pointer graph = heap) against the hand model Model/Modfile/Edit.lean:

  * `addLine_tie`  — `FileSyntax.addLine` (read.go:104; hinted insertion: the no-hint search from the end of the file, the
    walk over `x.Stmt`, conversion of a line into a block, insertion after the hint inside a block, `newLineAfter`)
    = the model's `addLine` (`lastStmtWith`, `addLineWalk`).  The result pointer is the NEW line, its pointer is the model's
    fresh id `new = lines.length + 1` (= `EFile.next` under `RepF`).
  * `addLinePtr_tie` — the same for the model's `addLinePtr` (a nil `*Line` passed as the hint: `Expr.Line 0`).
  * `Cleanup_tie` — `FileSyntax.Cleanup` (read.go:209; two-pointer compaction of `x.Stmt` and of every block, removal of dead
    lines, collapse of a one-line block into its line keeping the Line object) = the model's `cleanupSyntax`.

  Representation: `RepSyn h x fs` of Proofs/TieFnEditRep.lean (line pointer = line id; no aliasing).  `BlockTokOK`: every
  block has a verb (Go evaluates `stmt.Token[0]`, the model `headIs`) — a field of `RepF`; both operations preserve it.
  Hypotheses besides the representation: `tokens = t0 :: trest` (Go evaluates `tokens[0]`; no caller passes none) and the
  fuel bound `nodeCount fs.stmts + 3 ≤ fuel` (`nodeCount` = statements + block lines).  The hint need NOT be a line of the
  graph (then the line is appended at the end, on both sides).
  Frame (what operation proofs need): `Frame` — `cbs`, `mods`, `works` and the ten typed object lists are untouched;
  `lines.length` grows by one (addLine) / is unchanged (Cleanup); other `FileSyntax` objects untouched; `LinesG` preserved.

  Helper lemmas: Proofs/TieFnEditAddLine{A,…,G}.lean.  Examples: the harness of Proofs/TieFnEditTreeEx.lean (a parsed
  two-block go.mod loaded with the driver's `load`, the graph read back with `synM`, kernel-evaluated).
-/
import ModVerif.Generated.FnEdit
import ModVerif.Model.Modfile.Edit
import ModVerif.Proofs.TieFnEditRep
import ModVerif.Proofs.TieFnEditAddLineG
import ModVerif.Proofs.TieFnEditTreeEx
import ModVerif.Proofs.BytesLit
namespace ModVerif.Tie.FnEditAddLine
open ModVerif ModVerif.GoRt ModVerif.Generated.Edit ModVerif.Tie.FnEditRep ModVerif.Tie.FnEditTreeEx
open ModVerif.TieFnEditAddLine (Frame CFrame nodeCount hintG)
open ModVerif.Modfile.Edit (mkLine)

/-! ### FileSyntax.addLine (read.go:104) = the model's `addLine` -/

/-- **`x.addLine(hint, tokens...)` on a represented syntax graph**: returns the pointer `lines.length + 1` of a NEW line
    object, and the new heap represents the model's `addLine fs hint tokens new` with that `new`.
    `hintG none = Expr.nil`, `hintG (some id) = Expr.Line id`. -/
theorem addLine_tie {h : Heap} {x : Int} {fs : Modfile.FileSyntax} (r : RepSyn h x fs) (htok : BlockTokOK fs.stmts)
    (hint : Option Nat) (t0 : Bytes) (trest : List Bytes) (fuel : Nat) (hfu : nodeCount fs.stmts + 3 ≤ fuel) :
    ∃ h', FileSyntax_addLine fuel x (hintG hint) (t0 :: trest) h = .ok (((h.lines.length + 1 : Nat) : Int), h') ∧
      RepSyn h' x (Modfile.Edit.addLine fs hint (t0 :: trest) (h.lines.length + 1)) ∧
      BlockTokOK (Modfile.Edit.addLine fs hint (t0 :: trest) (h.lines.length + 1)).stmts ∧
      (LinesG h → LinesG h') ∧ h'.lines.length = h.lines.length + 1 ∧ h.blocks.length ≤ h'.blocks.length ∧
      Frame h h' ∧ (∀ q, q ≠ x → heapGet h'.files q = heapGet h.files q) :=
  TieFnEditAddLine.addLine_rep r htok hint t0 trest fuel hfu

/-- the walk hinted by the nil line id finds nothing in a tree whose ids are positive -/
theorem addLineWalk_nil (tokens : List Bytes) (new : Nat) : ∀ (ss : List Modfile.Expr) (k : Nat),
    (∀ i ∈ TieFnEditAddLine.stmtIds ss, i ≠ 0) → Modfile.Edit.addLineWalk (.line 0) tokens new ss k = none
  | [], _, _ => rfl
  | s :: ss, k, hpos => by
    have hpos' : ∀ i ∈ TieFnEditAddLine.stmtIds ss, i ≠ 0 := by
      intro i hi
      refine hpos i ?_
      rw [TieFnEditAddLine.stmtIds_cons]; exact List.mem_append_right _ hi
    have ih := addLineWalk_nil tokens new ss (k + 1) hpos'
    cases s with
    | commentBlock c => rw [TieFnEditAddLine.walk_cb, ih]; rfl
    | lparen c => show (Modfile.Edit.addLineWalk _ _ _ ss (k + 1)).map _ = none; rw [ih]; rfl
    | rparen c => show (Modfile.Edit.addLineWalk _ _ _ ss (k + 1)).map _ = none; rw [ih]; rfl
    | line l =>
      have hl : l.id ≠ 0 := hpos l.id (by simp [TieFnEditAddLine.stmtIds])
      rw [TieFnEditAddLine.walk_line]
      have c : ((Modfile.Edit.Hint.line 0 == Modfile.Edit.Hint.line l.id) ||
          (Modfile.Edit.Hint.line 0 == Modfile.Edit.Hint.stmt k)) = false := by
        have : ¬ (0 = l.id) := fun e => hl e.symm
        simp [this]
      rw [c, ih]; rfl
    | lineBlock b =>
      rw [TieFnEditAddLine.walk_block]
      have c1 : (Modfile.Edit.Hint.line 0 == Modfile.Edit.Hint.stmt k) = false := by simp
      have c2 : b.lines.any (·.id == 0) = false := by
        cases hc : b.lines.any (·.id == 0) with
        | false => rfl
        | true =>
          obtain ⟨l, hl, he⟩ := List.any_eq_true.1 hc
          simp only [beq_iff_eq] at he
          exact absurd he (hpos l.id (by
            simp only [TieFnEditAddLine.stmtIds, TieFnEditAddLine.lineIds, List.mem_append]
            exact Or.inl (List.mem_map.2 ⟨l, hl, rfl⟩)))
      rw [c1]
      simp only [Bool.false_eq_true, if_false, c2, ih]
      rfl

/-- on a represented graph (all line ids positive) the model's pointer-hinted `addLinePtr` (hint `none` = a nil `*Line`
    variable, `some 0` = the nil `Syntax` of a cleared entry) is `addLine` hinted by that pointer -/
theorem addLinePtr_eq_addLine {h : Heap} {x : Int} {fs : Modfile.FileSyntax} (r : RepSyn h x fs) (hint : Option Nat)
    (tokens : List Bytes) (new : Nat) :
    Modfile.Edit.addLinePtr fs hint tokens new = Modfile.Edit.addLine fs (some (hint.getD 0)) tokens new := by
  obtain ⟨es, r⟩ := r
  have hw := addLineWalk_nil tokens new fs.stmts 0 (fun i hi => by
    rw [← TieFnEditAddLine.treeIds_eq_stmtIds] at hi
    have := (r.stmts.treeIds_le i hi).1
    omega)
  have h0 : Modfile.Edit.addLine fs (some 0) tokens new =
      { fs with stmts := fs.stmts ++ [.line (mkLine new tokens false)] } := by
    rw [TieFnEditAddLine.addLine_some, hw]
  unfold Modfile.Edit.addLinePtr
  cases hint with
  | none => exact h0.symm
  | some id =>
    by_cases hid : id = 0
    · subst hid
      simp only [Option.getD_some, h0]
      rfl
    · have : (id == Modfile.Edit.nilId) = false := by simpa [Modfile.Edit.nilId] using hid
      simp only [this, Bool.false_eq_true, if_false, Option.getD_some]

/-- **`addLine` with a `*Line` variable as the hint, which may be nil** (`var hint *Line`, `Exclude.Syntax` /
    `Replace.Syntax` of a cleared entry): the regenerated call is `FileSyntax_addLine … (Expr.Line hint) …` with `hint = 0`
    for nil, the model is `addLinePtr` -/
theorem addLinePtr_tie {h : Heap} {x : Int} {fs : Modfile.FileSyntax} (r : RepSyn h x fs) (htok : BlockTokOK fs.stmts)
    (hint : Option Nat) (t0 : Bytes) (trest : List Bytes) (fuel : Nat) (hfu : nodeCount fs.stmts + 3 ≤ fuel) :
    ∃ h', FileSyntax_addLine fuel x (Expr.Line ((hint.getD 0 : Nat) : Int)) (t0 :: trest) h =
        .ok (((h.lines.length + 1 : Nat) : Int), h') ∧
      RepSyn h' x (Modfile.Edit.addLinePtr fs hint (t0 :: trest) (h.lines.length + 1)) ∧
      BlockTokOK (Modfile.Edit.addLinePtr fs hint (t0 :: trest) (h.lines.length + 1)).stmts ∧
      (LinesG h → LinesG h') ∧ h'.lines.length = h.lines.length + 1 ∧ h.blocks.length ≤ h'.blocks.length ∧
      Frame h h' ∧ (∀ q, q ≠ x → heapGet h'.files q = heapGet h.files q) := by
  rw [addLinePtr_eq_addLine r]
  exact addLine_tie r htok (some (hint.getD 0)) t0 trest fuel hfu

/-- the new line object itself (what the typed operations store in `Syntax`) -/
theorem addLine_new_line {h' : Heap} {x : Int} {fs' : Modfile.FileSyntax} (r : RepSyn h' x fs') {new : Nat} {l : Modfile.Line}
    (hf : fs'.findLine new = some l) : heapGet h'.lines (new : Int) = .ok (lineG l) := (r.findLine hf).1

/-! non-vacuity: the file of Proofs/TieFnEditTreeEx.lean (`module m`, a two-line require block, an exclude block); the
    pointers of its lines are 1 (module), 2, 3 (require block), 4 (exclude block) -/

/-- run `addLine` on the loaded heap, read the graph back -/
def runAdd (hint : Expr) (tokens : List Bytes) : Option (Int × Option Modfile.FileSyntax) :=
  runVal exFile fun fp h => do
    let o ← heapGet h.mods fp
    let (p, h') ← FileSyntax_addLine 64 o.Syntax hint tokens h
    pure (p, Drv.GenEdit.synM h' o.Syntax)

def modelAdd (hint : Option Nat) (tokens : List Bytes) : Option (Int × Option Modfile.FileSyntax) :=
  modelVal exFile fun e => some ((e.next : Int), some (Modfile.Edit.addLine e.f.syn hint tokens e.next))

-- hint inside a block of the same verb: inserted after the hint
example : runAdd (Expr.Line 2) [B "require", B "q.r/s", B "v1.1.0"] = modelAdd (some 2) [B "require", B "q.r/s", B "v1.1.0"] := by
  unfold runAdd modelAdd; rw [B_lit exFile]; decide +kernel
-- hint inside a block of another verb: a new line after the block
example : runAdd (Expr.Line 3) [B "tool", B "q.r/s"] = modelAdd (some 3) [B "tool", B "q.r/s"] := by
  unfold runAdd modelAdd; rw [B_lit exFile]; decide +kernel
-- hint = a top-level line of the same verb: the line becomes a block
example : runAdd (Expr.Line 1) [B "module", B "n"] = modelAdd (some 1) [B "module", B "n"] := by
  unfold runAdd modelAdd; rw [B_lit exFile]; decide +kernel
-- no hint, the last statement with the verb is a block: appended to the block
example : runAdd Expr.nil [B "exclude", B "q.r/s", B "v1.1.0"] = modelAdd none [B "exclude", B "q.r/s", B "v1.1.0"] := by
  unfold runAdd modelAdd; rw [B_lit exFile]; decide +kernel
-- no hint, the last statement with the verb is a line: block conversion
example : runAdd Expr.nil [B "module", B "n"] = modelAdd none [B "module", B "n"] := by
  unfold runAdd modelAdd; rw [B_lit exFile]; decide +kernel
-- no hint, no statement with the verb: appended to the file
example : runAdd Expr.nil [B "go", B "1.21"] = modelAdd none [B "go", B "1.21"] := by
  unfold runAdd modelAdd; rw [B_lit exFile]; decide +kernel
-- a hint that is not in the graph (also the nil `*Line`): appended to the file
example : runAdd (Expr.Line 0) [B "require", B "q.r/s", B "v1.1.0"] = modelAdd (some 0) [B "require", B "q.r/s", B "v1.1.0"] := by
  unfold runAdd modelAdd; rw [B_lit exFile]; decide +kernel
example : runAdd (Expr.Line 0) [B "exclude", B "q.r/s", B "v1.1.0"] =
    modelVal exFile (fun e => some ((e.next : Int), some (Modfile.Edit.addLinePtr e.f.syn none [B "exclude", B "q.r/s", B "v1.1.0"] e.next))) := by
  unfold runAdd; rw [B_lit exFile]; decide +kernel
-- Go's `tokens[0]` on no tokens panics
example : runAdd (Expr.Line 2) [] = none := by unfold runAdd; rw [B_lit exFile]; decide +kernel

/-! ### FileSyntax.Cleanup (read.go:209) = the model's `cleanupSyntax` -/

/-- **`x.Cleanup()` on a represented syntax graph** -/
theorem Cleanup_tie {h : Heap} {x : Int} {fs : Modfile.FileSyntax} (r : RepSyn h x fs) (htok : BlockTokOK fs.stmts)
    (fuel : Nat) (hfu : nodeCount fs.stmts + 1 ≤ fuel) :
    ∃ h', FileSyntax_Cleanup fuel x h = .ok ((), h') ∧ RepSyn h' x (Modfile.Edit.cleanupSyntax fs) ∧
      BlockTokOK (Modfile.Edit.cleanupSyntax fs).stmts ∧
      (LinesG h → LinesG h') ∧ h'.lines.length = h.lines.length ∧ h'.blocks.length = h.blocks.length ∧
      Frame h h' ∧ (∀ q, q ≠ x → heapGet h'.files q = heapGet h.files q) := by
  obtain ⟨es, r⟩ := r
  obtain ⟨h', h1, h2, h3, h4⟩ := TieFnEditAddLine.Cleanup_sim r htok fuel hfu
  exact ⟨h', h1, h2, h3, h4.linesG, h4.llen, h4.blen, h4.frame, h4.files⟩

/-- mark the lines `ids` removed, run `Cleanup`, read the graph back -/
def runClean (ids : List Int) : Option (Option Modfile.FileSyntax) :=
  runVal exFile fun fp h => do
    let o ← heapGet h.mods fp
    let h ← ids.foldlM (fun h p => do let (_, h) ← Line_markRemoved p h; pure h) h
    let (_, h') ← FileSyntax_Cleanup 64 o.Syntax h
    pure (Drv.GenEdit.synM h' o.Syntax)

def modelClean (ids : List Nat) : Option (Option Modfile.FileSyntax) :=
  modelVal exFile fun e => some (some (Modfile.Edit.cleanupSyntax (ids.foldl Modfile.Edit.markRemoved e.f.syn)))

-- nothing removed
example : runClean [] = modelClean [] := by unfold runClean modelClean; rw [B_lit exFile]; decide +kernel
-- one of two lines of a block removed: the block collapses into the remaining line
example : runClean [2] = modelClean [2] := by unfold runClean modelClean; rw [B_lit exFile]; decide +kernel
-- all lines of a block, and a top-level line, removed
example : runClean [1, 4] = modelClean [1, 4] := by unfold runClean modelClean; rw [B_lit exFile]; decide +kernel
example : runClean [2, 3] = modelClean [2, 3] := by unfold runClean modelClean; rw [B_lit exFile]; decide +kernel

/-! the hypotheses of the ties are satisfiable: the driver's `load` of the parsed example file is a represented graph
    (`load_rep` of Proofs/TieFnEditRep.lean), so `addLine_tie` / `Cleanup_tie` apply to it -/

def exF : Modfile.File :=
  match Modfile.parseStrict (B "go.mod") exFile none with
  | .ok f => f
  | .error _ => default

example : ∃ o h', heapGet (Drv.GenEdit.load exF).1.mods (Drv.GenEdit.load exF).2 = .ok o ∧
    FileSyntax_addLine 64 o.Syntax (Expr.Line 2) [B "require", B "q.r/s", B "v1.1.0"] (Drv.GenEdit.load exF).1 =
      .ok ((((Drv.GenEdit.load exF).1.lines.length + 1 : Nat) : Int), h') ∧
    RepSyn h' o.Syntax (Modfile.Edit.addLine (Modfile.Edit.load exF).f.syn (some 2) [B "require", B "q.r/s", B "v1.1.0"]
      ((Drv.GenEdit.load exF).1.lines.length + 1)) := by
  obtain ⟨o, ho, rep⟩ := load_rep exF (loadOKB_sound (by rw [exF, B_lit exFile]; decide +kernel))
  obtain ⟨h', h1, h2, _⟩ := addLine_tie rep.syn rep.tok (some 2) (B "require") [B "q.r/s", B "v1.1.0"] 64
    (by rw [exF, B_lit exFile]; decide +kernel)
  exact ⟨o, h', ho, h1, h2⟩

example : ∃ o h', heapGet (Drv.GenEdit.load exF).1.mods (Drv.GenEdit.load exF).2 = .ok o ∧
    FileSyntax_Cleanup 64 o.Syntax (Drv.GenEdit.load exF).1 = .ok ((), h') ∧
    RepSyn h' o.Syntax (Modfile.Edit.cleanupSyntax (Modfile.Edit.load exF).f.syn) := by
  obtain ⟨o, ho, rep⟩ := load_rep exF (loadOKB_sound (by rw [exF, B_lit exFile]; decide +kernel))
  obtain ⟨h', h1, h2, _⟩ := Cleanup_tie rep.syn rep.tok 64 (by rw [exF, B_lit exFile]; decide +kernel)
  exact ⟨o, h', ho, h1, h2⟩

end ModVerif.Tie.FnEditAddLine
