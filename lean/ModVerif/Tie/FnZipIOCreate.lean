/-
  Tie theorems, zip/zip.go `Create` (lines 516–572) and `CheckedFiles.Err` (line 128): the definitions regenerated from the
  Go source by go2lean (`Generated/FnZip.lean`: `Create` with the hoisted closure `Create_addFile` and the hoisted loop
  `Create_loop1` over `validFiles`; `CheckedFiles_Err`) compute exactly what the hand model (`Model/Zip.lean`:
  `Zip.create` / `Zip.addFiles`, `Zip.CheckedFiles.err`) says — for every module path/version and every file list, no
  panic, no fuel exhaustion.

  `Create` talks to archive/zip's writer: the translator threads a world value `GoRt.ZipW` (the list of (name, content)
  of the entries written so far) through `zw.Create`, the `io.Copy` into the entry writer (through `io.LimitedReader`,
  `N = size + 1`) and `zw.Close`, whose assumed behaviour is Basic/GoRtZipIO.lean (trusted base).  The ties are proved
  against those definitions as they are.

  Instantiation (the one of the driver, `Drv/GenZipIO.lean`, op `create`): files, `CheckFilePath`, `EqualFold`,
  `ToLower`, `SimpleFold`, `parseGoVers`/`version.Lang`/`version.Compare` exactly as in `checkFiles_tie`
  (Tie/FnZipCheckFiles.lean); `module.CanonicalVersion` and `module.Check` are ANY functions that together decide what
  the model's `E.modOK` decides, for the module path/version at hand; the writer world starts empty (`[]`).

  Errors: the generated code returns `Option String` texts.  A model `CreateErr` `c` is the text
  `zipError|<createErrText bad c>` (`embCreateErr`), with `bad = badModuleText canonicalVersion moduleCheck p v` (the
  canonical-version format literal, or the text `module.Check` returned); size → the `SizeError` literal of checkFiles,
  invalid → `FileErrorList`, contentLarger → `file %q is larger than declared size`, nameTooLong → archive/zip's
  `zip: FileHeader.Name too long`.  The embedding is injective on the constructors whenever `bad` is none of the four other
  texts (`createErrText_injective`).

  World: on success it is EXACTLY the model's entries as (name, content) pairs (`Create_tie_ok`; the declared size of a
  model entry is its content length, `create_declSize`).  On failure it is stated explicitly, too (`createWorld`): empty
  for the errors before the loop; for a failure inside the loop the entries written before the failing file, plus —
  when the failing file is larger than declared — the entry of that file with the first `size + 1` bytes.
-/
import ModVerif.Generated.FnZip
import ModVerif.Model.Zip
import ModVerif.Drv.GenZip
import ModVerif.Drv.GenZipIO
import ModVerif.Tie.FnZipCheckFiles
import ModVerif.Proofs.TieFnZipIOCreate
namespace ModVerif.Tie.FnZipIOCreate
open ModVerif ModVerif.GoRt ModVerif.GoRtZip ModVerif.TieFnZip ModVerif.TieFnZipCf ModVerif.TieFnZipIOCreate
open ModVerif.Drv.GenZip (toGFile simpleFoldI versionCompareI)

/-- `CheckedFiles.Err()` on the embedding of a model report is the embedding of the model's `CheckedFiles.err`:
    `SizeError` first (its text), else `FileErrorList` when there are invalid files, else nil. -/
theorem CheckedFiles_Err_tie (cf : Zip.CheckedFiles) :
    Generated.Zip.CheckedFiles_Err (embCF cf) = cf.err.map errKindText := by
  unfold Generated.Zip.CheckedFiles_Err Zip.CheckedFiles.err embCF
  cases hs : cf.sizeError with
  | true => rfl
  | false =>
    cases hi : cf.invalid with
    | nil => rfl
    | cons a t =>
      have : decide (len (List.map embFE (a :: t)) > 0) = true := by
        simp [len_eq]
      simp only [Bool.false_eq_true, if_false, Option.isNone_none, Bool.not_true, this, if_true]
      rfl

/-- `Create(w, m, files)` from the empty writer world, as ONE equation: the returned error is the embedding of the
    model's outcome (`none` iff `Zip.create` succeeds), the final world is `createWorld`.
    Fuel: `fuelBound K files` as for `checkFiles` (the loop over `validFiles` needs no more). -/
theorem Create_tie (E : Zip.Env) (canonicalVersion : Bytes → Bytes) (equalFold : Bytes → Bytes → Bool)
    (moduleCheck : Bytes → Bytes → Option String) (parseGoVers : Bytes → Bytes → Bytes)
    (simpleFold : Int → Int) (toLower : Bytes → Bytes) (versionCompare : Bytes → Bytes → Int)
    (versionLang : Bytes → Bytes) (K : Nat)
    (hsf : FoldsTo simpleFold K) (hE : E.toFold = Zip.strToFold)
    (hef : ∀ s, equalFold s Zip.goModName = Zip.equalFoldGoMod s)
    (htl : ∀ s, decide (toLower s = Zip.goModName) = Zip.toLowerIsGoMod s)
    (p v : Bytes) (hmod : (canonicalVersion v = v ∧ moduleCheck p v = none) ↔ E.modOK p v = true)
    (files : List Zip.FileInfo)
    (hv : decide (0 ≤ versionCompare (versOf parseGoVers versionLang files) go124) = Zip.goVers files)
    (fuel : Nat) (hfuel : fuelBound K files ≤ fuel) :
    Generated.Zip.Create canonicalVersion (cfpOf E) equalFold moduleCheck parseGoVers simpleFold toLower versionCompare
        versionLang fuel () { Path := p, Version := v } (files.map toGFile) [] =
      .ok (embCreateRes (badModuleText canonicalVersion moduleCheck p v) (Zip.create E p v files),
           createWorld E p v files) := by
  unfold Generated.Zip.Create
  simp only []
  by_cases hc : ¬ canonicalVersion v = v
  · have hm : E.modOK p v = false := by
      cases h : E.modOK p v with
      | false => rfl
      | true => exact absurd (hmod.mpr h).1 hc
    simp only [hc, decide_false, Bool.not_false, if_true]
    simp [Zip.create, createWorld, hm, embCreateRes, embCreateErr, createErrText, badModuleText, hc, wrapErr]
  have hc : canonicalVersion v = v := Classical.not_not.mp hc
  simp only [hc, decide_true, Bool.not_true, Bool.false_eq_true, if_false]
  cases hmc : moduleCheck p v with
  | some e =>
    have hm : E.modOK p v = false := by
      cases h : E.modOK p v with
      | false => rfl
      | true => have := (hmod.mpr h).2; rw [hmc] at this; cases this
    simp [Zip.create, createWorld, hm, embCreateRes, embCreateErr, createErrText, badModuleText, hc, wrapErr, hmc]
  | none =>
    have hm : E.modOK p v = true := hmod.mp ⟨hc, hmc⟩
    rw [FnZipCheckFiles.checkFiles_tie E equalFold parseGoVers simpleFold toLower versionCompare versionLang K hsf hE hef
      htl files hv fuel hfuel]
    simp only [bind_ok, Option.isNone_none, Bool.not_true, Bool.false_eq_true, if_false, embedCf, CheckedFiles_Err_tie]
    rw [Proofs.Zip.create_eq]
    unfold createWorld
    simp only [hm, Bool.not_true, Bool.false_eq_true, if_false]
    generalize hst : Zip.checkFilesSt E files (Zip.goVers files) = st
    cases herr : st.cf.err with
    | some k =>
      cases k <;>
        simp [embCreateRes, embCreateErr, createErrText, errKindText, wrapErr]
    | none =>
      simp only [Option.map_none, Option.isNone_none, Bool.not_true, Bool.false_eq_true, if_false]
      have hlen : st.validFiles.length ≤ files.length := by
        rw [← hst]; exact validFiles_length_le E _ files
      have hl := loop1_from (cv := canonicalVersion) (cfp := cfpOf E) (ef := equalFold) (mc := moduleCheck) (pgv := parseGoVers)
        (sf := simpleFold) (tl := toLower) (vc := versionCompare) (vl := versionLang)
        (badModuleText canonicalVersion moduleCheck p v) (Zip.zipPrefix p v) st.validFiles [] fuel []
        (by unfold fuelBound at hfuel; omega)
      simp only [List.nil_append, List.length_nil] at hl
      have hz : ((0 : Nat) : Int) = 0 := rfl
      rw [hz] at hl
      unfold zipNewWriter
      show (Generated.Zip.Create_loop1 canonicalVersion (cfpOf E) equalFold moduleCheck parseGoVers simpleFold toLower
        versionCompare versionLang (st.validFiles.map toGFile) (st.validFiles.map (·.size)) () (Zip.zipPrefix p v) fuel 0
        [] >>= _) = _
      rw [hl, bind_ok]
      unfold loopOut
      cases Zip.addFiles (Zip.zipPrefix p v) st.validFiles with
      | ok es => simp [embCreateRes, zwClose]
      | error c => simp [embCreateRes]

/-- the world after a successful creation is the list of the model's entries -/
theorem createWorld_ok (E : Zip.Env) (p v : Bytes) (files : List Zip.FileInfo) (es : List Zip.Entry)
    (h : Zip.create E p v files = .ok es) : createWorld E p v files = es.map entryPair := by
  obtain ⟨hm, herr, _, _⟩ := Proofs.Zip.create_ok E p v files es h
  have herr' : (Zip.checkFilesSt E files (Zip.goVers files)).cf.err = none := herr
  rw [Proofs.Zip.create_eq] at h
  unfold createWorld
  simp only [hm, Bool.not_true, Bool.false_eq_true, if_false, herr'] at h ⊢
  exact writtenW_of_ok _ _ _ h

/-- every entry the model creates declares the length of its content -/
theorem create_declSize (E : Zip.Env) (p v : Bytes) (files : List Zip.FileInfo) (es : List Zip.Entry)
    (h : Zip.create E p v files = .ok es) : ∀ e ∈ es, e.declSize = e.content.length := by
  obtain ⟨_, _, h3, _⟩ := Proofs.Zip.create_ok E p v files es h
  intro e he; rw [h3] at he
  obtain ⟨f, _, rfl⟩ := List.mem_map.mp he; rfl

/-- success: when the model creates the entries `es`, the generated `Create` returns no error and has written exactly
    these entries (name, content), in order -/
theorem Create_tie_ok (E : Zip.Env) (canonicalVersion : Bytes → Bytes) (equalFold : Bytes → Bytes → Bool)
    (moduleCheck : Bytes → Bytes → Option String) (parseGoVers : Bytes → Bytes → Bytes)
    (simpleFold : Int → Int) (toLower : Bytes → Bytes) (versionCompare : Bytes → Bytes → Int)
    (versionLang : Bytes → Bytes) (K : Nat)
    (hsf : FoldsTo simpleFold K) (hE : E.toFold = Zip.strToFold)
    (hef : ∀ s, equalFold s Zip.goModName = Zip.equalFoldGoMod s)
    (htl : ∀ s, decide (toLower s = Zip.goModName) = Zip.toLowerIsGoMod s)
    (p v : Bytes) (hmod : (canonicalVersion v = v ∧ moduleCheck p v = none) ↔ E.modOK p v = true)
    (files : List Zip.FileInfo)
    (hv : decide (0 ≤ versionCompare (versOf parseGoVers versionLang files) go124) = Zip.goVers files)
    (fuel : Nat) (hfuel : fuelBound K files ≤ fuel) (es : List Zip.Entry) (h : Zip.create E p v files = .ok es) :
    Generated.Zip.Create canonicalVersion (cfpOf E) equalFold moduleCheck parseGoVers simpleFold toLower versionCompare
        versionLang fuel () { Path := p, Version := v } (files.map toGFile) [] =
      .ok (none, es.map (fun e => (e.name, e.content))) := by
  rw [Create_tie E canonicalVersion equalFold moduleCheck parseGoVers simpleFold toLower versionCompare versionLang K hsf
    hE hef htl p v hmod files hv fuel hfuel, createWorld_ok E p v files es h, h]
  rfl

/-- failure: when the model fails with `c`, the generated `Create` returns the embedding of `c`; what was written up to
    then is `createWorld` (explicit, see the head of the file) -/
theorem Create_tie_error (E : Zip.Env) (canonicalVersion : Bytes → Bytes) (equalFold : Bytes → Bytes → Bool)
    (moduleCheck : Bytes → Bytes → Option String) (parseGoVers : Bytes → Bytes → Bytes)
    (simpleFold : Int → Int) (toLower : Bytes → Bytes) (versionCompare : Bytes → Bytes → Int)
    (versionLang : Bytes → Bytes) (K : Nat)
    (hsf : FoldsTo simpleFold K) (hE : E.toFold = Zip.strToFold)
    (hef : ∀ s, equalFold s Zip.goModName = Zip.equalFoldGoMod s)
    (htl : ∀ s, decide (toLower s = Zip.goModName) = Zip.toLowerIsGoMod s)
    (p v : Bytes) (hmod : (canonicalVersion v = v ∧ moduleCheck p v = none) ↔ E.modOK p v = true)
    (files : List Zip.FileInfo)
    (hv : decide (0 ≤ versionCompare (versOf parseGoVers versionLang files) go124) = Zip.goVers files)
    (fuel : Nat) (hfuel : fuelBound K files ≤ fuel) (c : Zip.CreateErr) (h : Zip.create E p v files = .error c) :
    Generated.Zip.Create canonicalVersion (cfpOf E) equalFold moduleCheck parseGoVers simpleFold toLower versionCompare
        versionLang fuel () { Path := p, Version := v } (files.map toGFile) [] =
      .ok (some ("zipError|" ++ createErrText (badModuleText canonicalVersion moduleCheck p v) c),
           createWorld E p v files) := by
  rw [Create_tie E canonicalVersion equalFold moduleCheck parseGoVers simpleFold toLower versionCompare versionLang K hsf
    hE hef htl p v hmod files hv fuel hfuel, h]
  rfl

/-- the error embedding separates the constructors, for every module-rejection text that is none of the other texts
    (true of the canonical-version literal and of the driver's "badmodule") -/
theorem createErrText_injective (bad : String)
    (hb : bad ≠ sizeErrorText ∧ bad ≠ "FileErrorList" ∧ bad ≠ "file %q is larger than declared size" ∧
      bad ≠ "zip: FileHeader.Name too long") :
    ∀ a b : Zip.CreateErr, createErrText bad a = createErrText bad b → a = b := by
  obtain ⟨h1, h2, h3, h4⟩ := hb
  -- the four fixed texts are pairwise distinct (six comparisons by evaluation)
  have d12 : sizeErrorText ≠ "FileErrorList" := by decide +kernel
  have d13 : sizeErrorText ≠ "file %q is larger than declared size" := by decide +kernel
  have d14 : sizeErrorText ≠ "zip: FileHeader.Name too long" := by decide +kernel
  have d23 : "FileErrorList" ≠ "file %q is larger than declared size" := by decide +kernel
  have d24 : "FileErrorList" ≠ "zip: FileHeader.Name too long" := by decide +kernel
  have d34 : "file %q is larger than declared size" ≠ "zip: FileHeader.Name too long" := by decide +kernel
  intro a b h
  cases a <;> cases b <;> first
    | rfl
    | exact absurd h h1 | exact absurd h h2 | exact absurd h h3 | exact absurd h h4
    | exact absurd h.symm h1 | exact absurd h.symm h2 | exact absurd h.symm h3 | exact absurd h.symm h4
    | exact absurd h d12 | exact absurd h d13 | exact absurd h d14 | exact absurd h d23 | exact absurd h d24
    | exact absurd h d34 | exact absurd h.symm d12 | exact absurd h.symm d13 | exact absurd h.symm d14
    | exact absurd h.symm d23 | exact absurd h.symm d24 | exact absurd h.symm d34

/-- `Create` as the driver (`Drv.GenZipIO.handle`, op `create`) runs it — `module.Check` as `mcheck` with the text
    "badmodule", `simpleFoldI`, `versionCompareI`, `version.Lang = id`, its `parseGoVers` stand-in, its fuel, the empty
    world — returns the embedding of the model's `Zip.create` and the world `createWorld`. -/
theorem Create_tie_driver (E : Zip.Env) (hE : E.toFold = Zip.strToFold) (equalFold : Bytes → Bytes → Bool)
    (hef : ∀ s, equalFold s Zip.goModName = Zip.equalFoldGoMod s)
    (canon : Bytes → Bytes) (mcheck : Bytes → Bytes → Bool) (p v : Bytes)
    (hmod : (canon v = v ∧ mcheck p v = true) ↔ E.modOK p v = true) (fs : List Zip.FileInfo)
    (hcons : ∀ f ∈ fs, f.mode = .regular → f.path = Zip.goModName → f.goGe124 = false →
      ∀ g ∈ fs, g.content = f.content → g.goGe124 = false) :
    Generated.Zip.Create canon (cfpOf E) equalFold (fun p v => if mcheck p v then none else some "badmodule")
        (FnZipCheckFiles.pgvDriver fs) simpleFoldI (fun s => s.map Zip.asciiLower) versionCompareI id
        (FnZipCheckFiles.driverFuel fs) () { Path := p, Version := v } (fs.map toGFile) [] =
      .ok (embCreateRes (badModuleText canon (fun p v => if mcheck p v then none else some "badmodule") p v)
            (Zip.create E p v fs), createWorld E p v fs) := by
  apply Create_tie E canon equalFold _ (FnZipCheckFiles.pgvDriver fs) simpleFoldI _ versionCompareI id 1
    FnZip.foldsTo_simpleFoldI hE hef FnZipCheckFiles.toLower_driver p v _ fs (FnZipCheckFiles.goVers_driver fs hcons) _
    (FnZipCheckFiles.fuelBound_le_driverFuel fs)
  rw [← hmod]
  cases mcheck p v <;> simp

def exEnv : Zip.Env := { cfp := fun p => !p.isEmpty, toFold := Zip.strToFold, modOK := fun _ _ => true }

def exFiles : List Zip.FileInfo :=
  [⟨B "go.mod", .regular, 2, B "hi", false⟩, ⟨B "a/b.go", .regular, 1, B "x", false⟩,
   ⟨B "sub/go.mod", .regular, 0, [], false⟩, ⟨B "sub/c.go", .regular, 1, B "y", false⟩,
   ⟨B "vendor/p/q.go", .regular, 1, B "z", false⟩, ⟨B "link", .symlink, 0, [], false⟩]

/-- `a/b.go` holds three bytes but declares one: the copy stops after two bytes -/
def exFilesLarger : List Zip.FileInfo :=
  [⟨B "go.mod", .regular, 2, B "hi", false⟩, ⟨B "a/b.go", .regular, 1, B "xyz", false⟩, ⟨B "c", .regular, 0, [], false⟩]

/-- an invalid file (unclean path) -/
def exFilesInvalid : List Zip.FileInfo := [⟨B "./x", .regular, 0, [], false⟩]

/-- the generated function, evaluated by the kernel with the driver's instantiation: success … -/
example : Generated.Zip.Create id (cfpOf exEnv) (fun a _ => Zip.equalFoldGoMod a) (fun _ _ => none)
      (FnZipCheckFiles.pgvDriver exFiles) simpleFoldI (fun s => s.map Zip.asciiLower) versionCompareI id
      (FnZipCheckFiles.driverFuel exFiles) () { Path := B "m", Version := B "v1" } (exFiles.map toGFile) [] =
    .ok (none, [(B "m@v1/go.mod", B "hi"), (B "m@v1/a/b.go", B "x")]) := by decide +kernel

/-- … and the model side of `Create_tie` gives the same -/
example : Zip.create exEnv (B "m") (B "v1") exFiles =
      .ok [⟨B "m@v1/go.mod", 2, B "hi"⟩, ⟨B "m@v1/a/b.go", 1, B "x"⟩] ∧
    createWorld exEnv (B "m") (B "v1") exFiles = [(B "m@v1/go.mod", B "hi"), (B "m@v1/a/b.go", B "x")] := by
  refine ⟨by decide +kernel, by decide +kernel⟩

/-- a file larger than declared: both sides report it, and the truncated entry has been written -/
example : Generated.Zip.Create id (cfpOf exEnv) (fun a _ => Zip.equalFoldGoMod a) (fun _ _ => none)
      (FnZipCheckFiles.pgvDriver exFilesLarger) simpleFoldI (fun s => s.map Zip.asciiLower) versionCompareI id
      (FnZipCheckFiles.driverFuel exFilesLarger) () { Path := B "m", Version := B "v1" } (exFilesLarger.map toGFile) [] =
    .ok (some "zipError|file %q is larger than declared size", [(B "m@v1/go.mod", B "hi"), (B "m@v1/a/b.go", B "xy")]) := by
  decide +kernel

example : Zip.create exEnv (B "m") (B "v1") exFilesLarger = .error .contentLarger ∧
    createWorld exEnv (B "m") (B "v1") exFilesLarger = [(B "m@v1/go.mod", B "hi"), (B "m@v1/a/b.go", B "xy")] := by
  refine ⟨by decide +kernel, by decide +kernel⟩

/-- an invalid file, a non-canonical version -/
example : Generated.Zip.Create id (cfpOf exEnv) (fun a _ => Zip.equalFoldGoMod a) (fun _ _ => none)
      (FnZipCheckFiles.pgvDriver exFilesInvalid) simpleFoldI (fun s => s.map Zip.asciiLower) versionCompareI id
      (FnZipCheckFiles.driverFuel exFilesInvalid) () { Path := B "m", Version := B "v1" } (exFilesInvalid.map toGFile) [] =
    .ok (some "zipError|FileErrorList", []) ∧
    Zip.create exEnv (B "m") (B "v1") exFilesInvalid = .error .invalid := by
  refine ⟨by decide +kernel, by decide +kernel⟩

example : Generated.Zip.Create (fun _ => B "v1.0.0") (cfpOf exEnv) (fun a _ => Zip.equalFoldGoMod a) (fun _ _ => none)
      (FnZipCheckFiles.pgvDriver exFiles) simpleFoldI (fun s => s.map Zip.asciiLower) versionCompareI id
      (FnZipCheckFiles.driverFuel exFiles) () { Path := B "m", Version := B "v1" } (exFiles.map toGFile) [] =
    .ok (some "zipError|version %q is not canonical (should be %q)", []) := by decide +kernel

/-- `CheckedFiles_Err_tie` on the three kinds of report -/
example : Generated.Zip.CheckedFiles_Err (embCF { sizeError := true, invalid := [(B "x", .notClean)] }) =
      some "module source tree too large (max size is %d bytes)" ∧
    Generated.Zip.CheckedFiles_Err (embCF { invalid := [(B "x", .notClean)] }) = some "FileErrorList" ∧
    Generated.Zip.CheckedFiles_Err (embCF { valid := [B "x"] }) = none := by
  refine ⟨by decide +kernel, by decide +kernel, by decide +kernel⟩

/-- the hypotheses of `Create_tie_driver` hold for the example -/
example : exEnv.toFold = Zip.strToFold ∧
    ((id (B "v1") = B "v1" ∧ (fun _ _ => true) (B "m") (B "v1") = true) ↔ exEnv.modOK (B "m") (B "v1") = true) ∧
    (∀ f ∈ exFiles, f.mode = .regular → f.path = Zip.goModName → f.goGe124 = false →
      ∀ g ∈ exFiles, g.content = f.content → g.goGe124 = false) := by
  refine ⟨rfl, by simp [exEnv], ?_⟩
  decide +kernel

end ModVerif.Tie.FnZipIOCreate
