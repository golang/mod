/-
  Tie theorems: the Merkle proof functions of sumdb/tlog as REGENERATED from the Go source on every run
  (lean/ModVerif/Generated/FnTlog.lean, namespace ModVerif.Generated.Tlog; whole-function translation in checked mode:
  every int64 result goes through `chk64`) compute exactly what the hand model (Model/Tlog.lean) says.
  Tie theorems and their non-vacuity examples only; helpers in Proofs/TieFnTlogProof*.lean, Proofs/GoRtLemmas.lean, Proofs/GoRtLemmasInt.lean.

  Conventions.  `H` any hash type, `node : H → H → H`.  Go `error` is `Option String`; the model's error kinds are
  rendered by `errText`: `Err.proofFailed` ↦ "errProofFailed", `Err.invalid` ↦ the function's own
  "tlog: invalid inputs in …" text.  A conclusion `Generated.f … = .ok …` also states: no panic, no fuel exhaustion and
  no int64 overflow on the stated domain.
-/
import ModVerif.Generated.FnTlog
import ModVerif.Model.Tlog
import ModVerif.Proofs.TieFnTlogProofMax
import ModVerif.Proofs.TieFnTlogProofCheck
import ModVerif.Proofs.TieFnTlogProofHash
import ModVerif.Proofs.TieFnTlogProofProve
import ModVerif.Proofs.TieFnTlogProofIndex
import ModVerif.Proofs.TieFnTlogProofTop
import ModVerif.Proofs.TieFnTlogProofNeg
import ModVerif.Proofs.TlogTH
import ModVerif.Spec.RFC6962
namespace ModVerif.Tie.FnTlogProof
open ModVerif ModVerif.GoRt ModVerif.Tlog ModVerif.TlogTH ModVerif.TieFnTlogInt

section
variable {H : Type} [DecidableEq H] [Inhabited H] (node : H → H → H)

/-- `runRecordProof` (the recursive checker of inclusion proofs): for every proof of fewer than 2^63 hashes (a slice
    length is an `int`) and every `0 ≤ lo ≤ n < hi < 2^63`; fuel `hi - lo`. -/
theorem runRecordProof_tie (fuel : Nat) (p : List H) (lo hi n : Int) (leafHash : H)
    (h0 : 0 ≤ lo) (h1 : lo ≤ n) (h2 : n < hi) (h3 : hi < 2 ^ 63) (hp : p.length < 2 ^ 63)
    (hf : (hi - lo).toNat ≤ fuel) :
    Generated.Tlog.runRecordProof node fuel p lo hi n leafHash =
      .ok (encHash (Tlog.runRecordProof node p lo.toNat hi.toNat n.toNat leafHash)) := by
  obtain ⟨lo, rfl⟩ := Int.eq_ofNat_of_zero_le h0
  obtain ⟨n, rfl⟩ := Int.eq_ofNat_of_zero_le (Int.le_trans h0 h1)
  obtain ⟨hi, rfl⟩ := Int.eq_ofNat_of_zero_le (Int.le_trans (Int.le_trans h0 h1) (Int.le_of_lt h2))
  simp only [Int.toNat_natCast]
  exact runRecordProof_ok node fuel _ p lo hi n leafHash (by omega) (by omega) (by omega) hp (Nat.le_refl _) (by omega)

/-- non-vacuity: the hypotheses are satisfiable and both sides evaluate (interval [2,7), record 2, one-hash proof) -/
example : Generated.Tlog.runRecordProof TH.node 5 [TH.junk 0] 2 7 2 (TH.leaf [2]) =
    .ok (encHash (Tlog.runRecordProof TH.node [TH.junk 0] 2 7 2 (TH.leaf [2]))) :=
  runRecordProof_tie TH.node 5 [TH.junk 0] 2 7 2 (TH.leaf [2]) (by omega) (by omega) (by omega) (by omega)
    (by simp) (by decide)
example : okIs (Generated.Tlog.runRecordProof TH.node 5 [TH.junk 0] 2 7 2 (TH.leaf [2]))
    (default, some "errProofFailed") = true ∧
    isErr (Tlog.runRecordProof TH.node [TH.junk 0] 2 7 2 (TH.leaf [2])) .proofFailed = true := by decide +kernel

/-- ★ `CheckRecord`: for EVERY `t`, `n` in the int64 range (also negative and out-of-range ones) and every proof. -/
theorem CheckRecord_tie (fuel : Nat) (p : List H) (t : Int) (th : H) (n : Int) (h : H)
    (ht : t < 2 ^ 63) (hp : p.length < 2 ^ 63) (hf : t.toNat ≤ fuel) :
    Generated.Tlog.CheckRecord node fuel p t th n h =
      .ok (encErr "tlog: invalid inputs in CheckRecord" (Tlog.checkRecord node p t th n h)) := by
  unfold Generated.Tlog.CheckRecord Tlog.checkRecord
  by_cases hg : t < 0 ∨ n < 0 ∨ n ≥ t
  · have : (decide (t < 0) || decide (n < 0) || decide (n ≥ t)) = true := by
      rcases hg with h | h | h <;> simp [h]
    simp only [this, if_true, mpure, encErr, errText]
  · have : (decide (t < 0) || decide (n < 0) || decide (n ≥ t)) = false := by
      simp; omega
    simp only [this, Bool.false_eq_true, if_false]
    rw [runRecordProof_tie node fuel p 0 t n h (by omega) (by omega) (by omega) ht hp (by omega)]
    simp only [mbind_ok, Int.toNat_zero]
    have hc := Tlog.runRecordProofF_clean node (t.toNat - 0) p 0 t.toNat n.toNat h (Nat.zero_le _) (by omega)
      (Nat.le_refl _)
    unfold Tlog.runRecordProof
    rcases hc with hc | ⟨a, hc⟩
    · rw [hc]; rfl
    · rw [hc]
      by_cases hq : a = th
      · simp [encHash, encErr, hq, bind, Except.bind, pure, Except.pure]
      · simp [encHash, encErr, hq, errText, bind, Except.bind, pure, Except.pure]

/-- non-vacuity: an accepted tuple, a rejected tuple and refused arguments, both sides evaluated -/
example : Generated.Tlog.CheckRecord TH.node 7 (RFC6962.path TH.node TH.empty 2 ((recs 7).map TH.leaf)) 7 (root 7) 2
      (TH.leaf [2]) =
    .ok (encErr "tlog: invalid inputs in CheckRecord"
      (Tlog.checkRecord TH.node (RFC6962.path TH.node TH.empty 2 ((recs 7).map TH.leaf)) 7 (root 7) 2 (TH.leaf [2]))) :=
  CheckRecord_tie TH.node 7 _ 7 _ 2 _ (by omega) (by decide +kernel) (by decide)
example :
    okIs (Generated.Tlog.CheckRecord TH.node 7 (RFC6962.path TH.node TH.empty 2 ((recs 7).map TH.leaf)) 7 (root 7) 2
      (TH.leaf [2])) none = true ∧
    isOk (Tlog.checkRecord TH.node (RFC6962.path TH.node TH.empty 2 ((recs 7).map TH.leaf)) 7 (root 7) 2 (TH.leaf [2])) ()
      = true ∧
    okIs (Generated.Tlog.CheckRecord TH.node 7 [TH.junk 0] 7 (root 7) 2 (TH.leaf [2])) (some "errProofFailed") = true ∧
    isErr (Tlog.checkRecord TH.node [TH.junk 0] 7 (root 7) 2 (TH.leaf [2])) .proofFailed = true ∧
    okIs (Generated.Tlog.CheckRecord TH.node 0 [] 7 (root 7) 7 (TH.leaf [2]))
      (some "tlog: invalid inputs in CheckRecord") = true ∧
    isErr (Tlog.checkRecord TH.node [] 7 (root 7) 7 (TH.leaf [2])) .invalid = true := by decide +kernel

/-- `runTreeProof` (the recursive checker of consistency proofs): every proof of fewer than 2^63 hashes, every
    `0 ≤ lo < n ≤ hi < 2^63`; fuel `hi - lo`. -/
theorem runTreeProof_tie (fuel : Nat) (p : List H) (lo hi n : Int) (old : H)
    (h0 : 0 ≤ lo) (h1 : lo < n) (h2 : n ≤ hi) (h3 : hi < 2 ^ 63) (hp : p.length < 2 ^ 63)
    (hf : (hi - lo).toNat ≤ fuel) :
    Generated.Tlog.runTreeProof node fuel p lo hi n old =
      .ok (encHash2 (Tlog.runTreeProof node p lo.toNat hi.toNat n.toNat old)) := by
  obtain ⟨lo, rfl⟩ := Int.eq_ofNat_of_zero_le h0
  obtain ⟨n, rfl⟩ := Int.eq_ofNat_of_zero_le (Int.le_trans h0 (Int.le_of_lt h1))
  obtain ⟨hi, rfl⟩ := Int.eq_ofNat_of_zero_le (Int.le_trans (Int.le_trans h0 (Int.le_of_lt h1)) h2)
  simp only [Int.toNat_natCast]
  exact runTreeProof_ok node fuel _ p lo hi n old (by omega) (by omega) (by omega) hp (Nat.le_refl _) (by omega)

example : Generated.Tlog.runTreeProof TH.node 7 [TH.junk 0] 0 7 3 (root 3) =
    .ok (encHash2 (Tlog.runTreeProof TH.node [TH.junk 0] 0 7 3 (root 3))) :=
  runTreeProof_tie TH.node 7 [TH.junk 0] 0 7 3 (root 3) (by omega) (by omega) (by omega) (by omega) (by simp) (by decide)
example : okIs (Generated.Tlog.runTreeProof TH.node 7 [TH.junk 0] 0 7 3 (root 3))
    (default, default, some "errProofFailed") = true ∧
    isErr (Tlog.runTreeProof TH.node [TH.junk 0] 0 7 3 (root 3)) .proofFailed = true := by decide +kernel

/-- ★ `CheckTree`: for EVERY `t`, `n` in the int64 range and every proof. -/
theorem CheckTree_tie (fuel : Nat) (p : List H) (t : Int) (th : H) (n : Int) (h : H)
    (ht : t < 2 ^ 63) (hp : p.length < 2 ^ 63) (hf : t.toNat ≤ fuel) :
    Generated.Tlog.CheckTree node fuel p t th n h =
      .ok (encErr "tlog: invalid inputs in CheckTree" (Tlog.checkTree node p t th n h)) := by
  unfold Generated.Tlog.CheckTree Tlog.checkTree
  by_cases hg : t < 1 ∨ n < 1 ∨ n > t
  · have : (decide (t < 1) || decide (n < 1) || decide (n > t)) = true := by
      rcases hg with h | h | h <;> simp [h]
    simp only [this, if_true, mpure, encErr, errText]
  · have : (decide (t < 1) || decide (n < 1) || decide (n > t)) = false := by
      simp; omega
    simp only [this, Bool.false_eq_true, if_false]
    rw [runTreeProof_tie node fuel p 0 t n h (by omega) (by omega) (by omega) ht hp (by omega)]
    simp only [mbind_ok, Int.toNat_zero]
    have hc := Tlog.runTreeProofF_clean node (t.toNat - 0) p 0 t.toNat n.toNat h (by omega) (by omega)
      (Nat.le_refl _)
    unfold Tlog.runTreeProof
    rcases hc with hc | ⟨a, hc⟩
    · rw [hc]; rfl
    · rw [hc]
      obtain ⟨h2, th2⟩ := a
      by_cases hq : th2 = th ∧ h2 = h
      · simp [encHash2, encErr, hq, bind, Except.bind, pure, Except.pure]
      · have hq' : th2 = th → ¬ h2 = h := fun a b => hq ⟨a, b⟩
        simp [encHash2, encErr, hq, errText, bind, Except.bind, pure, Except.pure]
        intro a; exact decide_eq_false (hq' (of_decide_eq_true a))

example : Generated.Tlog.CheckTree TH.node 7 (RFC6962.proof TH.node TH.empty 3 ((recs 7).map TH.leaf)) 7 (root 7) 3
      (root 3) =
    .ok (encErr "tlog: invalid inputs in CheckTree"
      (Tlog.checkTree TH.node (RFC6962.proof TH.node TH.empty 3 ((recs 7).map TH.leaf)) 7 (root 7) 3 (root 3))) :=
  CheckTree_tie TH.node 7 _ 7 _ 3 _ (by omega) (by decide +kernel) (by decide)
example :
    okIs (Generated.Tlog.CheckTree TH.node 7 (RFC6962.proof TH.node TH.empty 3 ((recs 7).map TH.leaf)) 7 (root 7) 3
      (root 3)) none = true ∧
    isOk (Tlog.checkTree TH.node (RFC6962.proof TH.node TH.empty 3 ((recs 7).map TH.leaf)) 7 (root 7) 3 (root 3)) ()
      = true ∧
    okIs (Generated.Tlog.CheckTree TH.node 7 (RFC6962.proof TH.node TH.empty 3 ((recs 7).map TH.leaf)) 7 (root 7) 3
      (root 2)) (some "errProofFailed") = true ∧
    isErr (Tlog.checkTree TH.node (RFC6962.proof TH.node TH.empty 3 ((recs 7).map TH.leaf)) 7 (root 7) 3 (root 2))
      .proofFailed = true ∧
    okIs (Generated.Tlog.CheckTree TH.node 0 [] 7 (root 7) 8 (root 3)) (some "tlog: invalid inputs in CheckTree") = true ∧
    isErr (Tlog.checkTree TH.node [] 7 (root 7) 8 (root 3)) .invalid = true := by decide +kernel

/-! ### the provers

`toM` renders a model result as a result of generated code (every model error is a Go panic site), `subTreeIndexOut need`
the same for index lists appended to `need`, and `readOut dflt inv rerr` renders the result of an exported prover:
`.ok a ↦ (a, nil)`, `Err.invalid ↦ (dflt, inv)`, `Err.reader ↦ (dflt, readErrOf r indexes)` (the reader's own error or the
"ReadHashes(%d indexes) = %d hashes" text), any other model error ↦ panic.  The model reads through
`readerOf r` (a reader of the generated code seen as a model reader).  Range: `hi < 2^63` for the hash recursions
(`subTreeHash` additionally `hi - lo + 1 < 2^63`: the loop computes `hi - lo + 1`), `hi ≤ 2^62` wherever
`StoredHashIndex` is computed (beyond it the int64 index overflows in the Go code). -/

/-- `subTreeHash` — all panic cases included ("bad math", too few hashes, empty interval). -/
theorem subTreeHash_tie (fuel : Nat) (lo hi : Int) (hashes : List H)
    (h0 : 0 ≤ lo) (h1 : hi < 2 ^ 63) (h2 : hi - lo + 1 < 2 ^ 63) (hf : (hi - lo).toNat + 1 ≤ fuel) :
    Generated.Tlog.subTreeHash node fuel lo hi hashes =
      toM (Tlog.subTreeHash node lo.toNat hi.toNat hashes) := by
  by_cases h0' : 0 ≤ hi
  · obtain ⟨lo, rfl⟩ := Int.eq_ofNat_of_zero_le h0
    obtain ⟨hi, rfl⟩ := Int.eq_ofNat_of_zero_le h0'
    simp only [Int.toNat_natCast]
    exact subTreeHash_ok node fuel lo hi hashes (by omega) (by omega) (by omega)
  · rw [subTreeHash_empty node fuel lo hi hashes (by omega) (by omega),
      subTreeHash_model_empty node _ _ hashes (by omega)]
    rfl

/-- non-vacuity: interval [4,7) = subtrees [4,6), [6,7); three hashes given, two consumed; and a panic case (too few) -/
example : Generated.Tlog.subTreeHash TH.node 4 4 7 [TH.junk 0, TH.junk 1, TH.junk 2] =
    toM (Tlog.subTreeHash TH.node 4 7 [TH.junk 0, TH.junk 1, TH.junk 2]) :=
  subTreeHash_tie TH.node 4 4 7 _ (by omega) (by omega) (by omega) (by decide)
example :
    okIs (Generated.Tlog.subTreeHash TH.node 4 4 7 [TH.junk 0, TH.junk 1, TH.junk 2])
      (TH.node (TH.junk 0) (TH.junk 1), [TH.junk 2]) = true ∧
    isOk (Tlog.subTreeHash TH.node 4 7 [TH.junk 0, TH.junk 1, TH.junk 2])
      (TH.node (TH.junk 0) (TH.junk 1), [TH.junk 2]) = true ∧
    Generated.Tlog.subTreeHash TH.node 4 4 7 [TH.junk 0] = .error .panic ∧
    isErr (Tlog.subTreeHash TH.node 4 7 [TH.junk 0]) .panic = true := by
  refine ⟨by decide +kernel, by decide +kernel, ?_, by decide +kernel⟩
  rw [subTreeHash_tie TH.node 4 4 7 _ (by omega) (by omega) (by omega) (by decide)]
  rfl

/-- `leafProofIndex` -/
theorem leafProofIndex_tie (fuel : Nat) (lo hi n : Int) (need : List Int)
    (h0 : 0 ≤ lo) (h0'' : 0 ≤ n) (h1 : hi ≤ 2 ^ 62) (hf : (hi - lo).toNat + 127 ≤ fuel) :
    Generated.Tlog.leafProofIndex fuel lo hi n need =
      subTreeIndexOut need (Tlog.leafProofIndex lo.toNat hi.toNat n.toNat) := by
  by_cases h0' : 0 ≤ hi
  · obtain ⟨lo, rfl⟩ := Int.eq_ofNat_of_zero_le h0
    obtain ⟨hi, rfl⟩ := Int.eq_ofNat_of_zero_le h0'
    obtain ⟨n, rfl⟩ := Int.eq_ofNat_of_zero_le h0''
    simp only [Int.toNat_natCast]
    exact leafProofIndex_ok fuel _ lo hi n need (by omega) (Nat.le_refl _) (by omega)
  · have hz : hi.toNat = 0 := by omega
    rw [leafProofIndex_neg fuel lo hi n need h0'' (by omega) (by omega), hz]
    simp [Tlog.leafProofIndex, Tlog.leafProofIndexF, subTreeIndexOut]

example : Generated.Tlog.leafProofIndex 134 0 7 2 [5] = subTreeIndexOut [5] (Tlog.leafProofIndex 0 7 2) :=
  leafProofIndex_tie 134 0 7 2 [5] (by omega) (by omega) (by omega) (by decide)
example : okIs (Generated.Tlog.leafProofIndex 134 0 7 2 [5]) [5, 2, 4, 9, 10] = true ∧
    isOk (Tlog.leafProofIndex 0 7 2) [2, 4, 9, 10] = true := by decide +kernel

/-- `leafProof` -/
theorem leafProof_tie (fuel : Nat) (lo hi n : Int) (hashes : List H)
    (h0 : 0 ≤ lo) (h0'' : 0 ≤ n) (h1 : hi < 2 ^ 63) (hf : (hi - lo).toNat + 1 ≤ fuel) :
    Generated.Tlog.leafProof node fuel lo hi n hashes =
      toM (Tlog.leafProof node lo.toNat hi.toNat n.toNat hashes) := by
  by_cases h0' : 0 ≤ hi
  · obtain ⟨lo, rfl⟩ := Int.eq_ofNat_of_zero_le h0
    obtain ⟨hi, rfl⟩ := Int.eq_ofNat_of_zero_le h0'
    obtain ⟨n, rfl⟩ := Int.eq_ofNat_of_zero_le h0''
    simp only [Int.toNat_natCast]
    exact leafProof_ok node fuel _ _ _ _ hashes (by omega) (Nat.le_refl _) (by omega)
  · have hz : hi.toNat = 0 := by omega
    rw [leafProof_neg node fuel lo hi n hashes h0'' (by omega) (by omega), hz]
    simp [Tlog.leafProof, Tlog.leafProofF, toM]

example : Generated.Tlog.leafProof TH.node 4 4 7 5 [TH.junk 0, TH.junk 1, TH.junk 2] =
    toM (Tlog.leafProof TH.node 4 7 5 [TH.junk 0, TH.junk 1, TH.junk 2]) :=
  leafProof_tie TH.node 4 4 7 5 _ (by omega) (by omega) (by omega) (by decide)
example :
    okIs (Generated.Tlog.leafProof TH.node 4 4 7 5 [TH.junk 0, TH.junk 1, TH.junk 2])
      ([TH.junk 0, TH.junk 1], [TH.junk 2]) = true ∧
    isOk (Tlog.leafProof TH.node 4 7 5 [TH.junk 0, TH.junk 1, TH.junk 2]) ([TH.junk 0, TH.junk 1], [TH.junk 2]) = true := by
  decide +kernel

/-- `treeProofIndex` -/
theorem treeProofIndex_tie (fuel : Nat) (lo hi n : Int) (need : List Int)
    (h0 : 0 ≤ lo) (h0'' : 0 ≤ n) (h1 : hi ≤ 2 ^ 62) (hf : (hi - lo).toNat + 127 ≤ fuel) :
    Generated.Tlog.treeProofIndex fuel lo hi n need =
      subTreeIndexOut need (Tlog.treeProofIndex lo.toNat hi.toNat n.toNat) := by
  by_cases h0' : 0 ≤ hi
  · obtain ⟨lo, rfl⟩ := Int.eq_ofNat_of_zero_le h0
    obtain ⟨hi, rfl⟩ := Int.eq_ofNat_of_zero_le h0'
    obtain ⟨n, rfl⟩ := Int.eq_ofNat_of_zero_le h0''
    simp only [Int.toNat_natCast]
    exact treeProofIndex_ok fuel _ _ _ _ need (by omega) (Nat.le_refl _) (by omega)
  · have hz : hi.toNat = 0 := by omega
    rw [treeProofIndex_neg fuel lo hi n need h0'' (by omega) (by omega), hz]
    simp [Tlog.treeProofIndex, Tlog.treeProofIndexF, subTreeIndexOut]

example : Generated.Tlog.treeProofIndex 134 0 7 3 [5] = subTreeIndexOut [5] (Tlog.treeProofIndex 0 7 3) :=
  treeProofIndex_tie 134 0 7 3 [5] (by omega) (by omega) (by omega) (by decide)
example : okIs (Generated.Tlog.treeProofIndex 134 0 7 3 [5]) [5, 2, 3, 4, 9, 10] = true ∧
    isOk (Tlog.treeProofIndex 0 7 3) [2, 3, 4, 9, 10] = true := by decide +kernel

/-- `treeProof` -/
theorem treeProof_tie (fuel : Nat) (lo hi n : Int) (hashes : List H)
    (h0 : 0 ≤ lo) (h0'' : 0 ≤ n) (h1 : hi < 2 ^ 63) (hf : (hi - lo).toNat + 2 ≤ fuel) :
    Generated.Tlog.treeProof node fuel lo hi n hashes =
      toM (Tlog.treeProof node lo.toNat hi.toNat n.toNat hashes) := by
  by_cases h0' : 0 ≤ hi
  · obtain ⟨lo, rfl⟩ := Int.eq_ofNat_of_zero_le h0
    obtain ⟨hi, rfl⟩ := Int.eq_ofNat_of_zero_le h0'
    obtain ⟨n, rfl⟩ := Int.eq_ofNat_of_zero_le h0''
    simp only [Int.toNat_natCast]
    exact treeProof_ok node fuel _ _ _ _ hashes (by omega) (Nat.le_refl _) (by omega)
  · have hz : hi.toNat = 0 := by omega
    rw [treeProof_neg node fuel lo hi n hashes h0'' (by omega) (by omega), hz]
    simp [Tlog.treeProof, Tlog.treeProofF, toM]

example : Generated.Tlog.treeProof TH.node 5 4 7 6 [TH.junk 0, TH.junk 1, TH.junk 2] =
    toM (Tlog.treeProof TH.node 4 7 6 [TH.junk 0, TH.junk 1, TH.junk 2]) :=
  treeProof_tie TH.node 5 4 7 6 _ (by omega) (by omega) (by omega) (by decide)
example :
    okIs (Generated.Tlog.treeProof TH.node 5 4 7 6 [TH.junk 0, TH.junk 1, TH.junk 2])
      ([TH.junk 0, TH.junk 1], [TH.junk 2]) = true ∧
    isOk (Tlog.treeProof TH.node 4 7 6 [TH.junk 0, TH.junk 1, TH.junk 2]) ([TH.junk 0, TH.junk 1], [TH.junk 2]) = true := by
  decide +kernel

/-- ★ `TreeHash(n, r)` for `0 ≤ n ≤ 2^62` and every reader. -/
theorem TreeHash_tie (empty : H) (fuel : Nat) (n : Int) (r : List Int → List H × Option String)
    (h0 : 0 ≤ n) (hn : n ≤ 2 ^ 62) (hf : n.toNat + 127 ≤ fuel) :
    Generated.Tlog.TreeHash empty node fuel n r =
      readOut default "" (readErrOf r (idxOf (Tlog.subTreeIndex 0 n.toNat)))
        (Tlog.treeHash node empty n.toNat (readerOf r)) := by
  obtain ⟨n, rfl⟩ := Int.eq_ofNat_of_zero_le h0
  simp only [Int.toNat_natCast] at hf ⊢
  exact TreeHash_ok node empty fuel n r (by omega) hf

example : Generated.Tlog.TreeHash TH.empty TH.node 134 7 (genReader (store 13)) =
    readOut default "" (readErrOf (genReader (store 13)) (idxOf (Tlog.subTreeIndex 0 7)))
      (Tlog.treeHash TH.node TH.empty 7 (readerOf (genReader (store 13)))) :=
  TreeHash_tie TH.node TH.empty 134 7 _ (by omega) (by omega) (by decide)
example :
    okIs (Generated.Tlog.TreeHash TH.empty TH.node 134 7 (genReader (store 13))) (root 7, none) = true ∧
    isOk (Tlog.treeHash TH.node TH.empty 7 (readerOf (genReader (store 13)))) (root 7) = true ∧
    okIs (Generated.Tlog.TreeHash TH.empty TH.node 134 7 (genReader (store 3))) (default, some "missing hash") = true ∧
    isErr (Tlog.treeHash TH.node TH.empty 7 (readerOf (genReader (store 3)))) .reader = true := by decide +kernel

/-- ★ `ProveRecord(t, n, r)` for EVERY `t ≤ 2^62`, every `n` (also negative and out-of-range ones) and every reader. -/
theorem ProveRecord_tie (fuel : Nat) (t n : Int) (r : List Int → List H × Option String)
    (ht : t ≤ 2 ^ 62) (hf : t.toNat + 127 ≤ fuel) :
    Generated.Tlog.ProveRecord node fuel t n r =
      readOut [] "tlog: invalid inputs in ProveRecord" (readErrOf r (idxOf (Tlog.leafProofIndex 0 t.toNat n.toNat)))
        (Tlog.proveRecord node t n (readerOf r)) := by
  by_cases hg : t < 0 ∨ n < 0 ∨ n ≥ t
  · have : (decide (t < 0) || decide (n < 0) || decide (n ≥ t)) = true := by
      rcases hg with h | h | h <;> simp [h]
    unfold Generated.Tlog.ProveRecord Tlog.proveRecord
    simp only [this, if_true, mpure, readOut]
  · obtain ⟨t, rfl⟩ := Int.eq_ofNat_of_zero_le (show 0 ≤ t by omega)
    obtain ⟨n, rfl⟩ := Int.eq_ofNat_of_zero_le (show 0 ≤ n by omega)
    simp only [Int.toNat_natCast] at hf ⊢
    exact ProveRecord_ok node fuel t n r (by omega) (by omega) hf

/-- non-vacuity: the produced proof (= RFC 6962 audit path), a failing reader, a reader returning too few hashes, and
    refused arguments; both sides evaluated -/
example : Generated.Tlog.ProveRecord TH.node 134 7 2 (genReader (store 13)) =
    readOut [] "tlog: invalid inputs in ProveRecord"
      (readErrOf (genReader (store 13)) (idxOf (Tlog.leafProofIndex 0 7 2)))
      (Tlog.proveRecord TH.node 7 2 (readerOf (genReader (store 13)))) :=
  ProveRecord_tie TH.node 134 7 2 _ (by omega) (by decide)
example :
    okIs (Generated.Tlog.ProveRecord TH.node 134 7 2 (genReader (store 13)))
      (RFC6962.path TH.node TH.empty 2 ((recs 7).map TH.leaf), none) = true ∧
    isOk (Tlog.proveRecord TH.node 7 2 (readerOf (genReader (store 13))))
      (RFC6962.path TH.node TH.empty 2 ((recs 7).map TH.leaf)) = true ∧
    okIs (Generated.Tlog.ProveRecord TH.node 134 7 2 (genReader (store 3))) ([], some "missing hash") = true ∧
    isErr (Tlog.proveRecord TH.node 7 2 (readerOf (genReader (store 3)))) .reader = true ∧
    okIs (Generated.Tlog.ProveRecord TH.node 134 7 2 (fun _ => ([], none)))
      ([], some "tlog: ReadHashes(%d indexes) = %d hashes") = true ∧
    isErr (Tlog.proveRecord TH.node 7 2 (readerOf (fun _ => (([] : List TH), none)))) .reader = true ∧
    okIs (Generated.Tlog.ProveRecord TH.node 0 7 7 (genReader (store 13)))
      ([], some "tlog: invalid inputs in ProveRecord") = true ∧
    isErr (Tlog.proveRecord TH.node 7 7 (readerOf (genReader (store 13)))) .invalid = true := by decide +kernel

/-- ★ `ProveTree(t, n, r)` for EVERY `t ≤ 2^62`, every `n` and every reader. -/
theorem ProveTree_tie (fuel : Nat) (t n : Int) (r : List Int → List H × Option String)
    (ht : t ≤ 2 ^ 62) (hf : t.toNat + 127 ≤ fuel) :
    Generated.Tlog.ProveTree node fuel t n r =
      readOut [] "tlog: invalid inputs in ProveTree" (readErrOf r (idxOf (Tlog.treeProofIndex 0 t.toNat n.toNat)))
        (Tlog.proveTree node t n (readerOf r)) := by
  by_cases hg : t < 1 ∨ n < 1 ∨ n > t
  · have : (decide (t < 1) || decide (n < 1) || decide (n > t)) = true := by
      rcases hg with h | h | h <;> simp [h]
    unfold Generated.Tlog.ProveTree Tlog.proveTree
    simp only [this, if_true, mpure, readOut]
  · obtain ⟨t, rfl⟩ := Int.eq_ofNat_of_zero_le (show 0 ≤ t by omega)
    obtain ⟨n, rfl⟩ := Int.eq_ofNat_of_zero_le (show 0 ≤ n by omega)
    simp only [Int.toNat_natCast] at hf ⊢
    exact ProveTree_ok node fuel t n r (by omega) (by omega) (by omega) hf

example : Generated.Tlog.ProveTree TH.node 134 7 3 (genReader (store 13)) =
    readOut [] "tlog: invalid inputs in ProveTree"
      (readErrOf (genReader (store 13)) (idxOf (Tlog.treeProofIndex 0 7 3)))
      (Tlog.proveTree TH.node 7 3 (readerOf (genReader (store 13)))) :=
  ProveTree_tie TH.node 134 7 3 _ (by omega) (by decide)
example :
    okIs (Generated.Tlog.ProveTree TH.node 134 7 3 (genReader (store 13)))
      (RFC6962.proof TH.node TH.empty 3 ((recs 7).map TH.leaf), none) = true ∧
    isOk (Tlog.proveTree TH.node 7 3 (readerOf (genReader (store 13))))
      (RFC6962.proof TH.node TH.empty 3 ((recs 7).map TH.leaf)) = true ∧
    okIs (Generated.Tlog.ProveTree TH.node 134 7 3 (genReader (store 3))) ([], some "missing hash") = true ∧
    isErr (Tlog.proveTree TH.node 7 3 (readerOf (genReader (store 3)))) .reader = true ∧
    okIs (Generated.Tlog.ProveTree TH.node 0 7 8 (genReader (store 13)))
      ([], some "tlog: invalid inputs in ProveTree") = true ∧
    isErr (Tlog.proveTree TH.node 7 8 (readerOf (genReader (store 13)))) .invalid = true := by decide +kernel

end
end ModVerif.Tie.FnTlogProof
