/-
  Tie: the typed LIST operations of the regenerated go.mod edit operations (Generated/FnEdit.lean, namespace
  ModVerif.Generated.Edit, re-translated from modfile/rule.go on every check; the pointer graph is a heap) compute what the
  hand model Model/Modfile/Edit.lean says:

    File_AddRequire, File_AddNewRequire, File_DropRequire, File_AddExclude, File_DropExclude,
    addReplace (the function shared with go.work; in-out `replace` slice), File_AddReplace, File_DropReplace,
    File_AddRetract, File_DropRetract
  against
    addRequire, addNewRequire, dropRequire, addExclude, dropExclude, addReplaceCore, addReplace, dropReplace, addRetract,
    dropRetract   (`firstRest`, `clearAll`, `lastWith`, `markAll`, `addLine` / `addLinePtr`).

  Shape (a simulation; representation `RepF h fp e` of Proofs/TieFnEditRep.lean: the heap `h` at the `*File` pointer `fp`
  represents the model file `e`, line id = line pointer, `e.next = #lines + 1`):
    `RepF h fp e →  match Edit.op e args with
       | .ok e'      => ∃ h', File_Op … fuel fp args h = .ok (none, h') ∧ RepF h' fp e'
       | .error err  => File_Op … fuel fp args h = .error .panic`                      (err = nilDeref: a Go nil dereference)
  and for the operations that can return an error (`AddExclude`, `AddRetract`: the version check)
       `| .error err => err = .invalidVersion ∧ ∃ s, File_Op … = .ok (some s, h)`       (heap untouched).
  The fuel hypotheses are explicit lower bounds in the sizes of the inputs (`nodeCount` = #statements + #block lines of the
  syntax tree, Proofs/TieFnEditAddLineA.lean; `nodeCount_le` bounds it by #statements + #lines).  `isPrintI` / `quoteI` are
  the `unicode.IsPrint` / `strconv.Quote` the driver passes (Drv/GenEdit.lean).
  `addReplace` is stated on the part of the representation it works on (`RepR`: syntax graph + `Replace` pointer list,
  frame `FrameR`; Proofs/TieFnEditReqC.lean) so that go.work's `WorkFile.AddReplace` uses the same theorem.

  The primitives: `FileSyntax_addLine` (Tie/FnEditAddLine.lean), `Line_markRemoved`, `FileSyntax_updateLine`,
  `Require_setIndirect`, `AutoQuote`, `checkCanonicalVersion` (Tie/FnEditTree.lean) — all proved, no hypothesis
  about them is left in the statements below.

  Helper lemmas: Proofs/TieFnEditTyped{,Add}.lean (the loops over a typed list, a new entry, of either file kind),
  Proofs/TieFnEditReq{A,B,C,D,E}.lean.
-/
import ModVerif.Generated.FnEdit
import ModVerif.Model.Modfile.Edit
import ModVerif.Proofs.TieFnEditReqA
import ModVerif.Proofs.TieFnEditReqB
import ModVerif.Proofs.TieFnEditReqC
import ModVerif.Proofs.TieFnEditReqD
import ModVerif.Proofs.TieFnEditReqE
import ModVerif.Proofs.TieFnEditStmtEx
import ModVerif.Tie.FnEditAddLine
import ModVerif.Proofs.BytesLit
namespace ModVerif.Tie.FnEditReq
open ModVerif ModVerif.GoRt ModVerif.Generated.Edit ModVerif.Tie.FnEditRep ModVerif.Tie.FnEditTyped
open ModVerif.Tie.FnEditReqA (viG)
open ModVerif.Tie.FnEditReqC (AddLinePtrSpec RepR FrameR)
open ModVerif.Tie.FnEditReqE (modPath)
open ModVerif.TieFnEditAddLine (nodeCount)
open ModVerif.Modfile.Edit (EFile)
open ModVerif.Drv.GenEdit (isPrintI quoteI)

/-! ### the pointer-hinted form of the `addLine` tie -/

theorem addLinePtrSpec_holds : AddLinePtrSpec := by
  intro h x fs hint t0 trest fuel r htok hf
  obtain ⟨h', h1, h2, h3, h4, h5, _, h7, _⟩ := Tie.FnEditAddLine.addLinePtr_tie r htok hint t0 trest fuel hf
  exact ⟨h', h1, h2, h3, h4, h5, h7⟩

/-- `File.AddNewRequire` (rule.go:1180) = the model's `addNewRequire` (no error, no panic) -/
theorem File_AddNewRequire_tie {h : Heap} {fp : Int} {e : EFile} (R : RepF h fp e) (path vers : Bytes) (indirect : Bool)
    (fuel : Nat) (hf : nodeCount e.f.syn.stmts + 3 ≤ fuel) (hq : path.length + 1 ≤ fuel) :
    ∃ h', File_AddNewRequire isPrintI quoteI fuel fp path vers indirect h = .ok ((), h') ∧
      RepF h' fp (Modfile.Edit.addNewRequire e path vers indirect) := by
  obtain ⟨o, ho, R⟩ := R
  exact FnEditReqB.File_AddNewRequire_simAt ho R path vers indirect fuel hf hq

/-- `File.AddRequire` (rule.go:1157) = the model's `addRequire`: the first requirement of `path` gets the version and its line
    is rewritten, every later one is cleared (`*r = Require{}`, line marked removed); none: `AddNewRequire`.  A matching
    entry that is already cleared (`Syntax == nil`) is Go's nil dereference = the model's `nilDeref`. -/
theorem File_AddRequire_tie {h : Heap} {fp : Int} {e : EFile} (R : RepF h fp e) (path vers : Bytes) (fuel : Nat)
    (hf : e.f.require.length + path.length + 2 ≤ fuel) (hf2 : nodeCount e.f.syn.stmts + 3 ≤ fuel) :
    match Modfile.Edit.addRequire e path vers with
    | .ok e' => ∃ h', File_AddRequire isPrintI quoteI fuel fp path vers h = .ok (none, h') ∧ RepF h' fp e'
    | .error _ => File_AddRequire isPrintI quoteI fuel fp path vers h = .error .panic :=
  FnEditReqB.File_AddRequire_sim R path vers fuel hf hf2

/-- `File.DropRequire` (rule.go:1468) = the model's `dropRequire` -/
theorem File_DropRequire_tie {h : Heap} {fp : Int} {e : EFile} (R : RepF h fp e) (path : Bytes) (fuel : Nat)
    (hf : e.f.require.length + 1 ≤ fuel) :
    match Modfile.Edit.dropRequire e path with
    | .ok e' => ∃ h', File_DropRequire fuel fp path h = .ok (none, h') ∧ RepF h' fp e'
    | .error _ => File_DropRequire fuel fp path h = .error .panic :=
  FnEditReqA.File_DropRequire_sim R path fuel hf

/-- `File.AddExclude` (rule.go:1480) = the model's `addExclude`: the version check (a returned error, heap untouched), the
    early return at an exact match, else a new line hinted by the last exclusion of the same path (`var hint *Line`, nil when
    there is none or it is a cleared entry: the model's `addLinePtr`) -/
theorem File_AddExclude_tie {h : Heap} {fp : Int} {e : EFile} (R : RepF h fp e) (path vers : Bytes) (fuel : Nat)
    (hf1 : path.length + 1 ≤ fuel) (hf2 : 2 * vers.length ≤ fuel) (hf3 : e.f.exclude.length + 1 ≤ fuel)
    (hf4 : nodeCount e.f.syn.stmts + 3 ≤ fuel) :
    match Modfile.Edit.addExclude e path vers with
    | .ok e' => ∃ h', File_AddExclude isPrintI quoteI fuel fp path vers h = .ok (none, h') ∧ RepF h' fp e'
    | .error err => err = .invalidVersion ∧ ∃ s, File_AddExclude isPrintI quoteI fuel fp path vers h = .ok (some s, h) :=
  FnEditReqC.File_AddExclude_sim addLinePtrSpec_holds R path vers fuel hf1 hf2 hf3 hf4

/-- `File.DropExclude` (rule.go:1499) = the model's `dropExclude` -/
theorem File_DropExclude_tie {h : Heap} {fp : Int} {e : EFile} (R : RepF h fp e) (path vers : Bytes) (fuel : Nat)
    (hf : e.f.exclude.length + 1 ≤ fuel) :
    match Modfile.Edit.dropExclude e path vers with
    | .ok e' => ∃ h', File_DropExclude fuel fp path vers h = .ok (none, h') ∧ RepF h' fp e'
    | .error _ => File_DropExclude fuel fp path vers h = .error .panic :=
  FnEditReqA.File_DropExclude_sim R path vers fuel hf

/-- **`addReplace`** (rule.go:1513; `replace *[]*Replace` is the extra result `ps'`) = the model's `addReplaceCore`, on the
    syntax graph `x` and the `Replace` pointer list `ps` (`RepR`); everything else is left alone (`FrameR`) -/
theorem addReplace_tie {h : Heap} {x : Int} {ps : List Int} {fs : Modfile.FileSyntax} {rp : List Modfile.Replace}
    (R : RepR h x ps fs rp) (oldPath oldVers newPath newVers : Bytes) (fuel : Nat)
    (hf1 : oldPath.length + 1 ≤ fuel) (hf2 : newPath.length + 1 ≤ fuel) (hf3 : rp.length + 1 ≤ fuel)
    (hf4 : nodeCount fs.stmts + 3 ≤ fuel) :
    match Modfile.Edit.addReplaceCore fs rp (h.lines.length + 1) oldPath oldVers newPath newVers with
    | .ok (fs', rp', n') => ∃ h' ps', addReplace isPrintI quoteI fuel x ps oldPath oldVers newPath newVers h = .ok ((none, ps'), h') ∧
        RepR h' x ps' fs' rp' ∧ FrameR h h' ∧ n' = h'.lines.length + 1
    | .error _ => addReplace isPrintI quoteI fuel x ps oldPath oldVers newPath newVers h = .error .panic :=
  FnEditReqD.addReplace_sim addLinePtrSpec_holds R oldPath oldVers newPath newVers fuel hf1 hf2 hf3 hf4

/-- `File.AddReplace` (rule.go:1509) = the model's `addReplace` -/
theorem File_AddReplace_tie {h : Heap} {fp : Int} {e : EFile} (R : RepF h fp e)
    (oldPath oldVers newPath newVers : Bytes) (fuel : Nat)
    (hf1 : oldPath.length + 1 ≤ fuel) (hf2 : newPath.length + 1 ≤ fuel) (hf3 : e.f.replace.length + 1 ≤ fuel)
    (hf4 : nodeCount e.f.syn.stmts + 3 ≤ fuel) :
    match Modfile.Edit.addReplace e oldPath oldVers newPath newVers with
    | .ok e' => ∃ h', File_AddReplace isPrintI quoteI fuel fp oldPath oldVers newPath newVers h = .ok (none, h') ∧ RepF h' fp e'
    | .error _ => File_AddReplace isPrintI quoteI fuel fp oldPath oldVers newPath newVers h = .error .panic :=
  FnEditReqD.File_AddReplace_sim addLinePtrSpec_holds R oldPath oldVers newPath newVers fuel hf1 hf2 hf3 hf4

/-- `File.DropReplace` (rule.go:1551) = the model's `dropReplace` -/
theorem File_DropReplace_tie {h : Heap} {fp : Int} {e : EFile} (R : RepF h fp e) (oldPath oldVers : Bytes) (fuel : Nat)
    (hf : e.f.replace.length + 1 ≤ fuel) :
    match Modfile.Edit.dropReplace e oldPath oldVers with
    | .ok e' => ∃ h', File_DropReplace fuel fp oldPath oldVers h = .ok (none, h') ∧ RepF h' fp e'
    | .error _ => File_DropReplace fuel fp oldPath oldVers h = .error .panic :=
  FnEditReqA.File_DropReplace_sim R oldPath oldVers fuel hf

/-- `File.AddRetract` (rule.go:1563) = the model's `addRetract`: the two version checks against the module path (`modPath e`:
    the path of the module statement, "" without one; returned errors, heap untouched), the new `retract` line, the
    rationale lines as `//` comments before it, `Rationale` read back with `parseDirectiveComment`.  `viG vi` is the
    interval as the regenerated code has it (`{ Low := vi.low, High := vi.high }`). -/
theorem File_AddRetract_tie {h : Heap} {fp : Int} {e : EFile} (R : RepF h fp e)
    (vi : Modfile.VersionInterval) (rationale : Bytes) (fuel : Nat)
    (hf1 : (modPath e).length + 1 ≤ fuel) (hf2 : 2 * vi.high.length + 1 ≤ fuel) (hf3 : 2 * vi.low.length + 1 ≤ fuel)
    (hf4 : nodeCount e.f.syn.stmts + 3 ≤ fuel) (hf5 : rationale.length + 5 ≤ fuel) :
    match Modfile.Edit.addRetract e vi rationale with
    | .ok e' => ∃ h', File_AddRetract isPrintI quoteI fuel fp (viG vi) rationale h = .ok (none, h') ∧ RepF h' fp e'
    | .error err => err = .invalidVersion ∧ ∃ s, File_AddRetract isPrintI quoteI fuel fp (viG vi) rationale h = .ok (some s, h) :=
  FnEditReqE.File_AddRetract_sim R vi rationale fuel hf1 (by omega) (by omega) hf4 hf5 (by omega) (by omega)

/-- `File.DropRetract` (rule.go:1594) = the model's `dropRetract` -/
theorem File_DropRetract_tie {h : Heap} {fp : Int} {e : EFile} (R : RepF h fp e) (vi : Modfile.VersionInterval) (fuel : Nat)
    (hf : e.f.retract.length + 1 ≤ fuel) :
    match Modfile.Edit.dropRetract e vi with
    | .ok e' => ∃ h', File_DropRetract fuel fp (viG vi) h = .ok (none, h') ∧ RepF h' fp e'
    | .error _ => File_DropRetract fuel fp (viG vi) h = .error .panic :=
  FnEditReqA.File_DropRetract_sim R vi fuel hf

section examples
open ModVerif.Tie.FnEditStmtEx (exH exP exE exRep run runU model modelU parsed)

/-! ### non-vacuity: kernel-evaluated on a parsed go.mod loaded with the driver's `load` -/

/-- a module statement, `a.b/c` required twice (in a block and on a line of its own), two exclusions of one path, three
    replacements (two of `a.b/c`), two retractions -/
def exReq : Bytes :=
  B "module m.n/p\n\nrequire (\n\ta.b/c v1.0.0\n\td.e/f v1.2.3 // indirect\n)\n\nrequire a.b/c v1.1.0\n\nexclude (\n\tx.y/z v1.0.0\n\tx.y/z v1.1.0\n)\n\nreplace a.b/c => ../c\n\nreplace (\n\ta.b/c v1.0.0 => g.h/i v1.0.0\n\td.e/f v1.2.3 => g.h/i v1.0.0\n)\n\nretract v1.0.1\n\nretract [v1.0.2, v1.0.5] // bad\n"

theorem exReq_rep : RepF (exH exReq) (exP exReq) (exE exReq) := exRep exReq (by rw [B_lit exReq]; decide +kernel)

/-- the result of a run: `some (true, _)` returned nil, `some (false, _)` returned an error, `none` panicked -/
def outcome (r : Option (Bool × Modfile.File)) : Option Bool := r.map (·.1)

-- File.AddNewRequire
example : ∃ h', File_AddNewRequire isPrintI quoteI 200 (exP exReq) (B "q.r/s") (B "v1.0.0") true (exH exReq) = .ok ((), h') ∧
    RepF h' (exP exReq) (Modfile.Edit.addNewRequire (exE exReq) (B "q.r/s") (B "v1.0.0") true) :=
  File_AddNewRequire_tie exReq_rep _ _ true 200 (by rw [B_lit exReq]; decide +kernel) (by decide +kernel)
example : runU exReq (fun fp h => File_AddNewRequire isPrintI quoteI 200 fp (B "q.r/s") (B "v1.0.0") true h) =
    modelU exReq (fun e => Modfile.Edit.addNewRequire e (B "q.r/s") (B "v1.0.0") true) := by rw [B_lit exReq]; decide +kernel

-- File.AddRequire: `a.b/c` occurs twice (first rewritten, second cleared); `q.r/s` is new
example : match Modfile.Edit.addRequire (exE exReq) (B "a.b/c") (B "v1.5.0") with
    | .ok e' => ∃ h', File_AddRequire isPrintI quoteI 200 (exP exReq) (B "a.b/c") (B "v1.5.0") (exH exReq) = .ok (none, h') ∧
        RepF h' (exP exReq) e'
    | .error _ => File_AddRequire isPrintI quoteI 200 (exP exReq) (B "a.b/c") (B "v1.5.0") (exH exReq) = .error .panic :=
  (fun (h : _ ∧ _) =>
    File_AddRequire_tie exReq_rep _ _ 200 h.1 h.2)
    (by rw [B_lit exReq]; decide +kernel)
example : run exReq (fun fp h => File_AddRequire isPrintI quoteI 200 fp (B "a.b/c") (B "v1.5.0") h) =
    model exReq (fun e => Modfile.Edit.addRequire e (B "a.b/c") (B "v1.5.0")) ∧
    outcome (run exReq (fun fp h => File_AddRequire isPrintI quoteI 200 fp (B "a.b/c") (B "v1.5.0") h)) = some true := by rw [B_lit exReq]; decide +kernel
example : run exReq (fun fp h => File_AddRequire isPrintI quoteI 200 fp (B "q.r/s") (B "v1.0.0") h) =
    model exReq (fun e => Modfile.Edit.addRequire e (B "q.r/s") (B "v1.0.0")) := by rw [B_lit exReq]; decide +kernel

-- File.DropRequire; dropping the path "" afterwards reaches the cleared entries: nil dereference on both sides
example : match Modfile.Edit.dropRequire (exE exReq) (B "a.b/c") with
    | .ok e' => ∃ h', File_DropRequire 200 (exP exReq) (B "a.b/c") (exH exReq) = .ok (none, h') ∧ RepF h' (exP exReq) e'
    | .error _ => File_DropRequire 200 (exP exReq) (B "a.b/c") (exH exReq) = .error .panic :=
  File_DropRequire_tie exReq_rep _ 200 (by rw [B_lit exReq]; decide +kernel)
example : run exReq (fun fp h => File_DropRequire 200 fp (B "a.b/c") h) =
    model exReq (fun e => Modfile.Edit.dropRequire e (B "a.b/c")) ∧
    outcome (run exReq (fun fp h => File_DropRequire 200 fp (B "a.b/c") h)) = some true := by rw [B_lit exReq]; decide +kernel
example : run exReq (fun fp h => do
      let r ← File_DropRequire 200 fp (B "a.b/c") h
      File_DropRequire 200 fp [] r.2) =
    model exReq (fun e => do
      let e ← Modfile.Edit.dropRequire e (B "a.b/c")
      Modfile.Edit.dropRequire e []) ∧
    model exReq (fun e => do
      let e ← Modfile.Edit.dropRequire e (B "a.b/c")
      Modfile.Edit.dropRequire e []) = none := by rw [B_lit exReq]; decide +kernel

-- File.AddExclude: an exact match (nothing happens), a new version of a known path (hint = its last line), a new path
-- (nil hint: appended), a non-canonical version (returned error)
example : match Modfile.Edit.addExclude (exE exReq) (B "x.y/z") (B "v1.2.0") with
    | .ok e' => ∃ h', File_AddExclude isPrintI quoteI 200 (exP exReq) (B "x.y/z") (B "v1.2.0") (exH exReq) = .ok (none, h') ∧
        RepF h' (exP exReq) e'
    | .error err => err = .invalidVersion ∧
        ∃ s, File_AddExclude isPrintI quoteI 200 (exP exReq) (B "x.y/z") (B "v1.2.0") (exH exReq) = .ok (some s, exH exReq) :=
  (fun (h : _ ∧ _) =>
    File_AddExclude_tie exReq_rep _ _ 200 (by decide +kernel) (by decide +kernel) h.1 h.2)
    (by rw [B_lit exReq]; decide +kernel)
example : run exReq (fun fp h => File_AddExclude isPrintI quoteI 200 fp (B "x.y/z") (B "v1.1.0") h) =
    model exReq (fun e => Modfile.Edit.addExclude e (B "x.y/z") (B "v1.1.0")) := by rw [B_lit exReq]; decide +kernel
example : run exReq (fun fp h => File_AddExclude isPrintI quoteI 200 fp (B "x.y/z") (B "v1.2.0") h) =
    model exReq (fun e => Modfile.Edit.addExclude e (B "x.y/z") (B "v1.2.0")) := by rw [B_lit exReq]; decide +kernel
example : run exReq (fun fp h => File_AddExclude isPrintI quoteI 200 fp (B "q.r/s") (B "v1.2.0") h) =
    model exReq (fun e => Modfile.Edit.addExclude e (B "q.r/s") (B "v1.2.0")) := by rw [B_lit exReq]; decide +kernel
example : run exReq (fun fp h => File_AddExclude isPrintI quoteI 200 fp (B "x.y/z") (B "v1.2") h) =
    model exReq (fun e => Modfile.Edit.addExclude e (B "x.y/z") (B "v1.2")) ∧
    outcome (run exReq (fun fp h => File_AddExclude isPrintI quoteI 200 fp (B "x.y/z") (B "v1.2") h)) = some false := by rw [B_lit exReq]; decide +kernel

-- File.DropExclude
example : match Modfile.Edit.dropExclude (exE exReq) (B "x.y/z") (B "v1.0.0") with
    | .ok e' => ∃ h', File_DropExclude 200 (exP exReq) (B "x.y/z") (B "v1.0.0") (exH exReq) = .ok (none, h') ∧ RepF h' (exP exReq) e'
    | .error _ => File_DropExclude 200 (exP exReq) (B "x.y/z") (B "v1.0.0") (exH exReq) = .error .panic :=
  File_DropExclude_tie exReq_rep _ _ 200 (by rw [B_lit exReq]; decide +kernel)
example : run exReq (fun fp h => File_DropExclude 200 fp (B "x.y/z") (B "v1.0.0") h) =
    model exReq (fun e => Modfile.Edit.dropExclude e (B "x.y/z") (B "v1.0.0")) := by rw [B_lit exReq]; decide +kernel

-- addReplace / File.AddReplace: all versions of `a.b/c` (first rewritten, second cleared), one version of it, a new old path
-- next to the last replacement of the same path (hint), a new path
example : match Modfile.Edit.addReplace (exE exReq) (B "a.b/c") [] (B "k.l/m") (B "v1.0.0") with
    | .ok e' => ∃ h', File_AddReplace isPrintI quoteI 200 (exP exReq) (B "a.b/c") [] (B "k.l/m") (B "v1.0.0") (exH exReq) = .ok (none, h') ∧
        RepF h' (exP exReq) e'
    | .error _ => File_AddReplace isPrintI quoteI 200 (exP exReq) (B "a.b/c") [] (B "k.l/m") (B "v1.0.0") (exH exReq) = .error .panic :=
  (fun (h : _ ∧ _) =>
    File_AddReplace_tie exReq_rep _ _ _ _ 200 (by decide +kernel) (by decide +kernel) h.1 h.2)
    (by rw [B_lit exReq]; decide +kernel)
example : run exReq (fun fp h => File_AddReplace isPrintI quoteI 200 fp (B "a.b/c") [] (B "k.l/m") (B "v1.0.0") h) =
    model exReq (fun e => Modfile.Edit.addReplace e (B "a.b/c") [] (B "k.l/m") (B "v1.0.0")) ∧
    outcome (run exReq (fun fp h => File_AddReplace isPrintI quoteI 200 fp (B "a.b/c") [] (B "k.l/m") (B "v1.0.0") h)) = some true := by
  rw [B_lit exReq]; decide +kernel
example : run exReq (fun fp h => File_AddReplace isPrintI quoteI 200 fp (B "d.e/f") (B "v1.3.0") (B "k.l/m") (B "v1.0.0") h) =
    model exReq (fun e => Modfile.Edit.addReplace e (B "d.e/f") (B "v1.3.0") (B "k.l/m") (B "v1.0.0")) := by rw [B_lit exReq]; decide +kernel
example : run exReq (fun fp h => File_AddReplace isPrintI quoteI 200 fp (B "q.r/s") [] (B "k.l/m") (B "v1.0.0") h) =
    model exReq (fun e => Modfile.Edit.addReplace e (B "q.r/s") [] (B "k.l/m") (B "v1.0.0")) := by rw [B_lit exReq]; decide +kernel
example : match Modfile.Edit.addReplaceCore (exE exReq).f.syn (exE exReq).f.replace ((exH exReq).lines.length + 1) (B "a.b/c") [] (B "k.l/m") (B "v1.0.0") with
    | .ok (fs', rp', n') => ∃ h' ps', addReplace isPrintI quoteI 200 ((exH exReq).mods.head!).Syntax ((exH exReq).mods.head!).Replace
          (B "a.b/c") [] (B "k.l/m") (B "v1.0.0") (exH exReq) = .ok ((none, ps'), h') ∧
        RepR h' ((exH exReq).mods.head!).Syntax ps' fs' rp' ∧ FrameR (exH exReq) h' ∧ n' = h'.lines.length + 1
    | .error _ => addReplace isPrintI quoteI 200 ((exH exReq).mods.head!).Syntax ((exH exReq).mods.head!).Replace
          (B "a.b/c") [] (B "k.l/m") (B "v1.0.0") (exH exReq) = .error .panic := by
  obtain ⟨o, ho, R⟩ := exReq_rep
  have hoe : o = (exH exReq).mods.head! := by
    have : heapGet (exH exReq).mods (exP exReq) = .ok ((exH exReq).mods.head!) := by rw [B_lit exReq]; decide +kernel
    rw [this] at ho; exact (Except.ok.inj ho).symm
  subst hoe
  exact addReplace_tie (FnEditReqC.RepFAt.toRepR R) (B "a.b/c") [] (B "k.l/m") (B "v1.0.0") 200 (by decide +kernel) (by decide +kernel)
    (by rw [B_lit exReq]; decide +kernel) (by rw [B_lit exReq]; decide +kernel)

-- File.DropReplace
example : match Modfile.Edit.dropReplace (exE exReq) (B "a.b/c") (B "v1.0.0") with
    | .ok e' => ∃ h', File_DropReplace 200 (exP exReq) (B "a.b/c") (B "v1.0.0") (exH exReq) = .ok (none, h') ∧ RepF h' (exP exReq) e'
    | .error _ => File_DropReplace 200 (exP exReq) (B "a.b/c") (B "v1.0.0") (exH exReq) = .error .panic :=
  File_DropReplace_tie exReq_rep _ _ 200 (by rw [B_lit exReq]; decide +kernel)
example : run exReq (fun fp h => File_DropReplace 200 fp (B "a.b/c") (B "v1.0.0") h) =
    model exReq (fun e => Modfile.Edit.dropReplace e (B "a.b/c") (B "v1.0.0")) := by rw [B_lit exReq]; decide +kernel

-- File.AddRetract: one version with a two-line rationale, an interval without rationale, a non-canonical version
example : match Modfile.Edit.addRetract (exE exReq) { low := B "v1.0.9", high := B "v1.0.9" } (B "why\nmore") with
    | .ok e' => ∃ h', File_AddRetract isPrintI quoteI 200 (exP exReq) (viG { low := B "v1.0.9", high := B "v1.0.9" }) (B "why\nmore") (exH exReq)
          = .ok (none, h') ∧ RepF h' (exP exReq) e'
    | .error err => err = .invalidVersion ∧
        ∃ s, File_AddRetract isPrintI quoteI 200 (exP exReq) (viG { low := B "v1.0.9", high := B "v1.0.9" }) (B "why\nmore") (exH exReq)
          = .ok (some s, exH exReq) :=
  (fun (h : _ ∧ _) =>
    File_AddRetract_tie exReq_rep _ _ 200 h.1 (by decide +kernel) (by decide +kernel) h.2 (by decide +kernel))
    (by rw [B_lit exReq]; decide +kernel)
example : run exReq (fun fp h => File_AddRetract isPrintI quoteI 200 fp { Low := B "v1.0.9", High := B "v1.0.9" } (B "why\nmore") h) =
    model exReq (fun e => Modfile.Edit.addRetract e { low := B "v1.0.9", high := B "v1.0.9" } (B "why\nmore")) ∧
    outcome (run exReq (fun fp h => File_AddRetract isPrintI quoteI 200 fp { Low := B "v1.0.9", High := B "v1.0.9" } (B "why\nmore") h)) = some true ∧
    (run exReq (fun fp h => File_AddRetract isPrintI quoteI 200 fp { Low := B "v1.0.9", High := B "v1.0.9" } (B "why\nmore") h)).map
      (fun r => r.2.retract.map (·.rationale)) = some [[], B "bad", B "why\nmore"] := by rw [B_lit exReq]; decide +kernel
example : run exReq (fun fp h => File_AddRetract isPrintI quoteI 200 fp { Low := B "v1.1.0", High := B "v1.1.5" } [] h) =
    model exReq (fun e => Modfile.Edit.addRetract e { low := B "v1.1.0", high := B "v1.1.5" } []) := by rw [B_lit exReq]; decide +kernel
example : run exReq (fun fp h => File_AddRetract isPrintI quoteI 200 fp { Low := B "v1.1.0", High := B "v1.1" } [] h) =
    model exReq (fun e => Modfile.Edit.addRetract e { low := B "v1.1.0", high := B "v1.1" } []) ∧
    outcome (run exReq (fun fp h => File_AddRetract isPrintI quoteI 200 fp { Low := B "v1.1.0", High := B "v1.1" } [] h)) = some false := by
  rw [B_lit exReq]; decide +kernel

-- File.DropRetract
example : match Modfile.Edit.dropRetract (exE exReq) { low := B "v1.0.2", high := B "v1.0.5" } with
    | .ok e' => ∃ h', File_DropRetract 200 (exP exReq) (viG { low := B "v1.0.2", high := B "v1.0.5" }) (exH exReq) = .ok (none, h') ∧
        RepF h' (exP exReq) e'
    | .error _ => File_DropRetract 200 (exP exReq) (viG { low := B "v1.0.2", high := B "v1.0.5" }) (exH exReq) = .error .panic :=
  File_DropRetract_tie exReq_rep _ 200 (by rw [B_lit exReq]; decide +kernel)
example : run exReq (fun fp h => File_DropRetract 200 fp { Low := B "v1.0.2", High := B "v1.0.5" } h) =
    model exReq (fun e => Modfile.Edit.dropRetract e { low := B "v1.0.2", high := B "v1.0.5" }) := by rw [B_lit exReq]; decide +kernel

end examples

end ModVerif.Tie.FnEditReq
