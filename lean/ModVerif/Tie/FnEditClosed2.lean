/-
  Tie, CLOSED FUEL of the go.mod edit sessions from the RAW argument lengths.  Tie/FnEditClosed.lean derives the fuel
  hypotheses `FuelOK` / `FinalFuel` of the session ties from `3 · sessSize f ops + 1 ≤ fuel`, where the size of an operation
  (`opSize`) still contains the length of the `AutoQuote`d FORM of some arguments.  Here:

    * `quote_length`     : `|strconv.Quote s| ≤ 4·|s| + 2`   (4 = the true maximum per input byte: `\xNN`; attained by `\x00`)
    * `autoQuote_length` : `|AutoQuote s| ≤ 4·|s| + 2`
    * `opSize_le_raw`    : `opSize op ≤ 5 · rawSize op`, `rawSize` = byte lengths of the arguments only (+1 per argument)
    * `fuelOK_of_rawsize_partial`, `runOps_tie_closed_raw_partial`: the closed-fuel statements with
         `sessSizeR f ops = W (Edit.load f) + Σ_ops (20 · rawSize op + 32)`
    * `parse_tokens_le`  : the summed byte length of ALL tokens of the parsed tree is at most the length of the file text
         (`parse_w` of Proofs/TieFnRuleFuelC.lean gives this per line only); `parse_token_count_le`: so is their NUMBER;
    * `treeW_parse_le`   : `treeW (parse name data).stmts ≤ 4·|data| + 1` — the tree weight of the PARSE is linear in the file
         text (the first step of bounding `W (Edit.load f)` by `|file|`; the step through `File.add` is Tie/FnEditClosed3.lean).

  `…_partial`: `SetRequireSeparateIndirect` is excluded here (every operation: Tie/FnEditClosed4.lean), and the file enters
  through `W (Edit.load f)`, the weight of its parse (bounded by `file.length` in Tie/FnEditClosed3.lean).

  The lemmas about `strconv.Quote`, the token sums and the tree weight are stated here under the names the checks cite; they
  are proved in Proofs/TieFnEditFuelF.lean and Proofs/TieFnEditFuelG.lean (so are, in Tie/FnEditClosed3–5.lean, the growth
  lemmas of Proofs/TieFnEditFuelI.lean, TieFnEditFuelK.lean, TieFnEditFuelM.lean).
-/
import ModVerif.Tie.FnEditClosed
import ModVerif.Proofs.TieFnEditFuelF
import ModVerif.Proofs.TieFnEditFuelG
import ModVerif.Proofs.BytesLit
namespace ModVerif.Tie.FnEditClosed2
open ModVerif ModVerif.GoRt ModVerif.Generated.Edit ModVerif.Tie.FnEditRep
open ModVerif.Tie.FnEditFuelB ModVerif.Tie.FnEditFuelC ModVerif.Tie.FnEditFuelD ModVerif.Tie.FnEditFuelE
open ModVerif.Tie.FnEditFuelA ModVerif.Tie.FnEditFuelF ModVerif.Tie.FnEditFuelG
open ModVerif.Tie.FnEditSessionA ModVerif.Tie.FnEditSessionB ModVerif.Tie.FnEditSessionC ModVerif.Tie.FnEditSessionE
open ModVerif.Tie.FnEditSession ModVerif.Tie.FnEditClosed
open ModVerif.Modfile.Edit (EFile applyMod)

/-- **`strconv.Quote` expands every input byte to at most four bytes** (plus the two quotes) -/
theorem quote_length (s : Bytes) : (Quote.quote s).length ≤ 4 * s.length + 2 := FnEditFuelF.quote_length s

-- the constant 4 is attained
example : (Quote.quote [0, 0, 0]).length = 4 * 3 + 2 := by decide +kernel

/-- **`AutoQuote` quotes only where `MustQuote` says so: the same bound** -/
theorem autoQuote_length (s : Bytes) : (Modfile.autoQuote s).length ≤ 4 * s.length + 2 := FnEditFuelF.autoQuote_length s

example : (Modfile.autoQuote (B "a b")).length = 5 := by decide +kernel

/-- **the size of an operation is at most five times the byte lengths of its arguments** (`rawSize`: `|s| + 1` per argument,
    `|path| + |vers| + 4` per requested requirement) -/
theorem opSize_le_raw (op : EditSpec.Op) : opSize op ≤ 5 * rawSize op := opSize_le op

example : opSize (.addRequire (B "example.com/d") (B "v1.0.0")) = 32 ∧ rawSize (.addRequire (B "example.com/d") (B "v1.0.0")) = 21 := by
  decide +kernel

/-- the size of a session with the operations measured by the byte lengths of their arguments -/
def sessSizeR (f : Modfile.File) (ops : List EditSpec.Op) : Nat := W (Modfile.Edit.load f) + opsR ops

theorem sessSize_le (f : Modfile.File) (ops : List EditSpec.Op) : sessSize f ops ≤ sessSizeR f ops := by
  have := opsG_le ops; unfold sessSize sessSizeR; omega

/-- **`FuelOK` / `FinalFuel` from the raw size of the session.**  Partial: sessions without `SetRequireSeparateIndirect`; the file
    enters through the weight of its parse `W (Edit.load f)`. -/
theorem fuelOK_of_rawsize_partial (name file : Bytes) (f : Modfile.File) (ops : List EditSpec.Op) (fuel : Nat)
    (hp : Modfile.parseStrict name file none = .ok f) (hk : Modfile.Edit.WellFormedKeys f) (hs : Modfile.Edit.NoBlockSuffix f.syn)
    (hv : Modfile.Edit.StaticValid false (ops.map opM)) (hb : ∀ op ∈ ops, NotSep op)
    (hf : 3 * sessSizeR f ops + 1 ≤ fuel) :
    FuelOK fuel (Modfile.Edit.load f) ops ∧ FinalFuel fuel (Modfile.Edit.load f) ops :=
  fuelOK_of_size_partial name file f ops fuel hp hk hs hv hb (by have := sessSize_le f ops; omega)

/-- `runOps_tie_valid` with the raw size hypothesis only -/
theorem runOps_tie_closed_raw_partial (name file : Bytes) (f : Modfile.File) (ops : List EditSpec.Op) (fuel : Nat)
    (hp : Modfile.parseStrict name file none = .ok f) (hk : Modfile.Edit.WellFormedKeys f) (hs : Modfile.Edit.NoBlockSuffix f.syn)
    (hv : Modfile.Edit.StaticValid false (ops.map opM)) (hm : ∀ op ∈ ops.map opM, Modfile.Edit.IsModOp op)
    (hb : ∀ op ∈ ops, NotSep op) (hf : 3 * sessSizeR f ops + 1 ≤ fuel) :
    ∃ e' res h', Modfile.Edit.runOps applyMod (Modfile.Edit.load f) (ops.map opM) [] 0 = .done e' res ∧
      Drv.GenEdit.runOps fuel (Drv.GenEdit.load f).2 (Drv.GenEdit.load f).1 ops [] = .done h' res ∧
      RepF h' (Drv.GenEdit.load f).2 e' ∧ Modfile.Edit.P.Inv e' :=
  runOps_tie_closed_partial name file f ops fuel hp hk hs hv hm hb (by have := sessSize_le f ops; omega)

/-- the raw size hypothesis holds of the example session of Tie/FnEditClosed.lean with fuel 40000 -/
theorem ex_rawsize : ∀ f, Modfile.parseStrict (B "go.mod") exFile none = .ok f → 3 * sessSizeR f FnEditClosed.exOps + 1 ≤ 40000 :=
  fun f hp => by rw [sessSizeR, FnEditClosed.ex_W f hp]; decide +kernel

-- `fuelOK_of_rawsize_partial` on the example
example : ∀ f, Modfile.parseStrict (B "go.mod") exFile none = .ok f →
    FuelOK 40000 (Modfile.Edit.load f) FnEditClosed.exOps ∧ FinalFuel 40000 (Modfile.Edit.load f) FnEditClosed.exOps :=
  fun f hp => fuelOK_of_rawsize_partial (B "go.mod") exFile f FnEditClosed.exOps 40000 hp (FnEditSession.ex_keys f hp).1
    (FnEditSession.ex_keys f hp).2 FnEditClosed.ex_static FnEditClosed.ex_notSep (ex_rawsize f hp)

/-- **the tokens of the whole parsed tree are paid by the file text**: the summed byte length of the tokens of all lines and
    block heads (`ETs`) of `parse name data` is at most `data.length` -/
theorem parse_tokens_le (name data : Bytes) (fs : Modfile.FileSyntax) (h : Modfile.parse name data = .ok fs) :
    ETs fs.stmts ≤ data.length := parse_tok h

-- on the example file (223 bytes) the tokens sum to a positive number
example : (match Modfile.parse (B "go.mod") exFile with
    | .ok fs => decide (0 < ETs fs.stmts ∧ ETs fs.stmts ≤ exFile.length)
    | .error _ => false) = true := by rw [B_lit exFile]; decide +kernel

/-- **the number of tokens of the whole parsed tree is at most the length of the file text** -/
theorem parse_token_count_le (name data : Bytes) (fs : Modfile.FileSyntax) (h : Modfile.parse name data = .ok fs) :
    FnEditFuelH.ECs fs.stmts ≤ data.length := FnEditFuelH.parse_cnt h

/-- **the tree weight (`treeW`, the tree part of the potential `W`) of the PARSED tree is linear in the file text** -/
theorem treeW_parse_le (name data : Bytes) (fs : Modfile.FileSyntax) (h : Modfile.parse name data = .ok fs) :
    treeW fs.stmts ≤ 4 * data.length + 1 := FnEditFuelH.treeW_parse_le h

example : (match Modfile.parse (B "go.mod") exFile with
    | .ok fs => decide (0 < treeW fs.stmts ∧ treeW fs.stmts ≤ 4 * exFile.length + 1)
    | .error _ => false) = true := by rw [B_lit exFile]; decide +kernel

end ModVerif.Tie.FnEditClosed2
