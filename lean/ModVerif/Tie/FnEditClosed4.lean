/-
  Tie, CLOSED FUEL of the go.mod edit sessions without `NotSep` — the bulk setter
  `File.SetRequireSeparateIndirect` is covered, so the fuel hypotheses `FuelOK` / `FinalFuel` of EVERY go.mod session follow
  from the byte length of the file text and the raw sizes of the operation arguments alone.

  The setter's phases on the tree weight and its fuel demand (`fuelSep sortFuel e req ≤ 3·(W e + G op) + 12`) are
  Proofs/TieFnEditFuelK.lean.  Size hypothesis here: `3 · sessLen file ops + 13 ≤ fuel`; the constant is 13, not the 1 of
  the theorems that exclude the setter, because the two new `require` blocks of an EMPTY request are not paid by `G`.
-/
import ModVerif.Tie.FnEditClosed3
import ModVerif.Proofs.BytesLit
namespace ModVerif.Tie.FnEditClosed4
open ModVerif ModVerif.GoRt ModVerif.Generated.Edit ModVerif.Tie.FnEditRep
open ModVerif.Tie.FnEditFuelA ModVerif.Tie.FnEditFuelB ModVerif.Tie.FnEditFuelC ModVerif.Tie.FnEditFuelD ModVerif.Tie.FnEditFuelE
open ModVerif.Tie.FnEditFuelF ModVerif.Tie.FnEditFuelK ModVerif.Tie.FnEditFuelL
open ModVerif.Tie.FnEditSessionA ModVerif.Tie.FnEditSessionB ModVerif.Tie.FnEditSessionC ModVerif.Tie.FnEditSessionE
open ModVerif.Tie.FnEditSession ModVerif.Tie.FnEditClosed ModVerif.Tie.FnEditClosed2 ModVerif.Tie.FnEditClosed3
open ModVerif.Modfile (parseToFile)
open ModVerif.Modfile.Edit (EFile applyMod)
open ModVerif.Drv.GenEdit (applyOp)
open ModVerif.Tie.FnEditStmtEx (zeroIds)

/-- **fuel demand of one `File.SetRequireSeparateIndirect`**: linear in the potential and the request -/
theorem sep_stepFuel_le (e : EFile) (l : List EditSpec.Req) (hi : Modfile.Edit.P.Inv e)
    (hg : Modfile.Edit.GoodWant (l.map toWant)) :
    stepFuel e (.setRequireSeparateIndirect l) ≤ 3 * (W e + G (.setRequireSeparateIndirect l)) + 12 :=
  FnEditFuelL.sep_stepFuel_le e l (idOK_of_inv hi) hg

/-- **`FuelOK` / `FinalFuel` from the potential of ANY state with the invariant** — every operation -/
theorem fuelOK_of_state (fuel : Nat) (ops : List EditSpec.Op) (e : EFile) (hi : Modfile.Edit.P.Inv e)
    (hv : Modfile.Edit.RunValidLive e (ops.map opM)) (hf : 3 * (W e + opsG ops) + 13 ≤ fuel) :
    FuelOK fuel e ops ∧ FinalFuel fuel e ops :=
  ⟨fuelOK_of_W_all fuel ops e hi hv (by omega), finalFuel_of_W_all fuel ops e hi hv (by omega)⟩

/-- **`FuelOK` / `FinalFuel` of every go.mod session from `file.length + Σ rawSize` alone** -/
theorem fuelOK_of_length (name file : Bytes) (f : Modfile.File) (ops : List EditSpec.Op) (fuel : Nat)
    (hp : Modfile.parseStrict name file none = .ok f) (hk : Modfile.Edit.WellFormedKeys f) (hs : Modfile.Edit.NoBlockSuffix f.syn)
    (hv : Modfile.Edit.StaticValid false (ops.map opM)) (hf : 3 * sessLen file ops + 13 ≤ fuel) :
    FuelOK fuel (Modfile.Edit.load f) ops ∧ FinalFuel fuel (Modfile.Edit.load f) ops := by
  have hi := Modfile.Edit.P.Inv.ofFull (Modfile.Edit.parseStrict_inv hp hk hs)
  have hl := Modfile.Edit.StaticValid.runValidLive _ false (Modfile.Edit.load f) hv (fun hc => by cases hc)
  have h1 := sessSizeR_le name file f ops hp
  have h2 := sessSize_le f ops
  exact fuelOK_of_state fuel ops _ hi hl (by unfold sessSize at h2; omega)

/-- `runOps_tie_valid` with the byte-length hypothesis only, every operation -/
theorem runOps_tie_closed_length (name file : Bytes) (f : Modfile.File) (ops : List EditSpec.Op) (fuel : Nat)
    (hp : Modfile.parseStrict name file none = .ok f) (hk : Modfile.Edit.WellFormedKeys f) (hs : Modfile.Edit.NoBlockSuffix f.syn)
    (hv : Modfile.Edit.StaticValid false (ops.map opM)) (hm : ∀ op ∈ ops.map opM, Modfile.Edit.IsModOp op)
    (hf : 3 * sessLen file ops + 13 ≤ fuel) :
    ∃ e' res h', Modfile.Edit.runOps applyMod (Modfile.Edit.load f) (ops.map opM) [] 0 = .done e' res ∧
      Drv.GenEdit.runOps fuel (Drv.GenEdit.load f).2 (Drv.GenEdit.load f).1 ops [] = .done h' res ∧
      RepF h' (Drv.GenEdit.load f).2 e' ∧ Modfile.Edit.P.Inv e' :=
  runOps_tie_valid fuel _ ops _ _ (FnEditTree.load_parsed_rep hp)
    (Modfile.Edit.P.Inv.ofFull (Modfile.Edit.parseStrict_inv hp hk hs))
    (Modfile.Edit.StaticValid.runValidLive _ false _ hv (fun hc => by cases hc)) hm
    (fuelOK_of_length name file f ops fuel hp hk hs hv hf).1

/-- **C15 `nilDeref_unreachable` on the regenerated operations, closed fuel, every operation** -/
theorem nilDeref_unreachable_gen_closed (name data : Bytes) (f : Modfile.File) (ops : List EditSpec.Op) (fuel : Nat)
    (hf : parseToFile name data none true = .ok f) (hk : Modfile.Edit.WellFormedKeys f) (hs : Modfile.Edit.NoBlockSuffix f.syn)
    (hv : Modfile.Edit.StaticValid false (ops.map opM)) (hmod : ∀ op ∈ ops.map opM, Modfile.Edit.IsModOp op)
    (hfu : 3 * sessLen data ops + 13 ≤ fuel) :
    ∃ h' res, Drv.GenEdit.runOps fuel (Drv.GenEdit.load f).2 (Drv.GenEdit.load f).1 ops [] = .done h' res ∧
      (∀ (pre : List EditSpec.Op) (op : EditSpec.Op) (post : List EditSpec.Op), ops = pre ++ op :: post →
        ∃ h1 r1, Drv.GenEdit.runOps fuel (Drv.GenEdit.load f).2 (Drv.GenEdit.load f).1 pre [] = .done h1 r1 ∧
          applyOp fuel (Drv.GenEdit.load f).2 h1 op ≠ .error .panic ∧
          ∃ b h2, applyOp fuel (Drv.GenEdit.load f).2 h1 op = .ok (some b, h2)) ∧
      (∃ e', Modfile.Edit.runOps applyMod (Modfile.Edit.load f) (ops.map opM) [] 0 = .done e' res) ∧
      ∃ h'' e'', File_Cleanup fuel (Drv.GenEdit.load f).2 h' = .ok ((), h'') ∧ RepF h'' (Drv.GenEdit.load f).2 e'' ∧
        Modfile.Edit.P.Inv e'' :=
  have F := fuelOK_of_length name data f ops fuel hf hk hs hv hfu
  FnEditC15.nilDeref_unreachable_gen name data f ops fuel hf hk hs hv hmod F.1 F.2

/-- **C15 `typed_eq_tree` (partial 4, static form) on the regenerated operations, closed fuel, every operation** -/
theorem typed_eq_tree_gen_closed (name data : Bytes) (f : Modfile.File) (ops : List EditSpec.Op) (fuel : Nat) (h' : Heap)
    (res : List Bool) (hf : parseToFile name data none true = .ok f) (hk : Modfile.Edit.WellFormedKeys f)
    (hs : Modfile.Edit.NoBlockSuffix f.syn) (hm : Modfile.Edit.MarkersSettable f.syn.stmts)
    (hv : Modfile.Edit.StaticValid false (ops.map opM)) (hfu : 3 * sessLen data ops + 13 ≤ fuel)
    (hrun : Drv.GenEdit.runOps fuel (Drv.GenEdit.load f).2 (Drv.GenEdit.load f).1 ops [] = .done h' res) :
    ∃ h'' e' e'', Modfile.Edit.runOps applyMod (Modfile.Edit.load f) (ops.map opM) [] 0 = .done e' res ∧
      e'' = Modfile.Edit.cleanup e' ∧
      File_Cleanup fuel (Drv.GenEdit.load f).2 h' = .ok ((), h'') ∧ RepF h'' (Drv.GenEdit.load f).2 e'' ∧
      Modfile.Edit.Inv e'' ∧ Modfile.Edit.MarkersSettable e''.f.syn.stmts ∧
      Drv.GenEdit.fileM h'' (Drv.GenEdit.load f).2 = some (zeroIds e''.f) :=
  have F := fuelOK_of_length name data f ops fuel hf hk hs hv hfu
  FnEditC15.typed_eq_tree_gen name data f ops fuel h' res hf hk hs hm hv F.1 F.2 hrun

/-! ### non-vacuity: a session WITH `SetRequireSeparateIndirect` on the example file of Tie/FnEditSession.lean -/

section examples

/-- the session of Tie/FnEditClosed.lean followed by a Cleanup (the bulk setters are valid after a Cleanup only) and a
    `SetRequireSeparateIndirect` that keeps one requirement (flipping it to
    direct), drops the others and adds a new indirect one -/
def exOps4 : List EditSpec.Op :=
  FnEditClosed.exOps ++
    [.cleanup, .setRequireSeparateIndirect [⟨B "example.com/a", B "v1.6.0", false⟩, ⟨B "example.com/y", B "v0.2.0", true⟩],
     .cleanup]

theorem ex_static4 : Modfile.Edit.StaticValid false (exOps4.map opM) :=
  Modfile.Edit.staticValidB_sound _ _ (by decide +kernel)

/-- the byte-length hypothesis: `|file| = 223`, fuel 300000 suffices -/
theorem ex_length4 : 3 * sessLen exFile exOps4 + 13 ≤ 300000 := by rw [B_lit exFile]; decide +kernel

-- `fuelOK_of_length` on the example
example : ∀ f, Modfile.parseStrict (B "go.mod") exFile none = .ok f →
    FuelOK 300000 (Modfile.Edit.load f) exOps4 ∧ FinalFuel 300000 (Modfile.Edit.load f) exOps4 :=
  fun f hp => fuelOK_of_length (B "go.mod") exFile f exOps4 300000 hp (FnEditSession.ex_keys f hp).1
    (FnEditSession.ex_keys f hp).2 ex_static4 ex_length4

-- the step bound is met with room on the loaded example file: the fuel of the bulk setter against `3·(W + G) + 12`
example : ∀ f, Modfile.parseStrict (B "go.mod") exFile none = .ok f →
    0 < stepFuel (Modfile.Edit.load f) (.setRequireSeparateIndirect [⟨B "example.com/a", B "v1.6.0", false⟩]) :=
  parsedTest_sound exFile (fun f => decide (0 < stepFuel (Modfile.Edit.load f) (.setRequireSeparateIndirect [⟨B "example.com/a", B "v1.6.0", false⟩])))
    (fun f h => of_decide_eq_true h) (by rw [B_lit exFile]; decide +kernel)

-- `nilDeref_unreachable_gen_closed`: the regenerated run (SetRequireSeparateIndirect included) and the final Cleanup complete
example : ∃ f, parseToFile (B "go.mod") exFile none true = .ok f ∧
    ∃ h' res, Drv.GenEdit.runOps 300000 (Drv.GenEdit.load f).2 (Drv.GenEdit.load f).1 exOps4 [] = .done h' res ∧
      ∃ h'' e'', File_Cleanup 300000 (Drv.GenEdit.load f).2 h' = .ok ((), h'') ∧
        RepF h'' (Drv.GenEdit.load f).2 e'' ∧ Modfile.Edit.P.Inv e'' := by
  obtain ⟨f, hf⟩ := FnEditC15.ex_parsed
  obtain ⟨h', res, h1, _, _, h4⟩ := nilDeref_unreachable_gen_closed (B "go.mod") exFile f exOps4 300000 hf
    (FnEditSession.ex_keys f hf).1 (FnEditSession.ex_keys f hf).2 ex_static4 (isModOpB_sound (by decide +kernel)) ex_length4
  exact ⟨f, hf, h', res, h1, h4⟩

end examples

end ModVerif.Tie.FnEditClosed4
