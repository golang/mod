/-
  Tie: every regenerated function of module/module.go (Generated/FnModule.lean, namespace Generated.Module,
  re-translated from the Go source on every check) computes exactly what the hand model (Model/Module.lean) says,
  for ALL byte strings and all fuel above the stated bound.  The unit is translated in ideal integer mode (no int64
  checks), so a fuel lower bound is the only numeric hypothesis.  Each equation also proves: no panic (index / slice
  out of range, the `default: panic` of checkElem's kind switch) and no fuel exhaustion — except PathMajorPrefix,
  whose two explicit `panic(…)` sites are part of the equation (`= .error .panic` exactly where the model says `none`).

  How the statements bridge the translation:
  * `for i, r := range s` is a fuel loop over byte offsets with `GoRt.decodeRuneAt`; the model uses `Utf8.runes`
    (linked by `GoRtStr.range_step`, Proofs/GoRtLemmasStr.lean);
  * a rune is an `Int` in the generated code and a `Nat` in the model: `r.toNat` (negative values are rejected by
    every predicate on both sides); `unicode.IsLetter : Int → Bool` corresponds to the model's
    `natLetter isLetter = fun n => isLetter ↑n`;
  * `pathKind` is an `Int` (`kindInt`: modulePath = 0, importPath = 1, filePath = 2);
  * a Go `error` is `Option String`: `none`, or the message literal of the `fmt.Errorf` site.  `msg : PathErr → String`
    gives the literal for each error kind of the model, `kindOfMsg` is the inverse table (the same table as
    `Drv.GenModule.pathKind`), so every equation determines the ERROR KIND exactly, not only ok/error.
    Wrapped errors: `wrappedErrOf` = `&InvalidPathError{…, Err: err}` ("InvalidPathError|" ++ literal),
    `checkErrOf`, `escResOf`, `unescResOf` for Check / Escape* / Unescape*;
  * `strings.EqualFold` is the parameter `equalFold`; the hypothesis `FoldOK equalFold` says that against each of the
    22 reserved Windows names it is ASCII-case-insensitive equality (`Tie.module_badWindowsNames_fold_simple`: no
    reserved name contains K or S; the table itself is tied by `Tie.module_badWindowsNames_tie`).  `foldOK_driver`
    PROVES it for EqualFold by simple folding over the committed SimpleFold table, i.e. for the stand-in
    `Drv.GenModule.equalFoldI` with which the regenerated code is run against the real implementation; that Go's own
    strings.EqualFold agrees with that stand-in is what the correspondence run checks;
  * `path.Match` is the parameter `pathMatch`; the model's `glob` is its first component.

  Helper lemmas: Proofs/GoRtLemmasStr.lean, Proofs/TieFnModule{Char,Elem,Path,Split,Major,Esc,Glob,Top}.lean.
  The last section transfers the main C06 / C11 property theorems to the regenerated code.
-/
import ModVerif.Generated.FnModule
import ModVerif.Model.Module
import ModVerif.Proofs.TieFnModuleTop
import ModVerif.Proofs.TieFnModuleGlob
import ModVerif.Proofs.TieFnModuleFold
import ModVerif.Drv.GenModule
import ModVerif.Props.C06
import ModVerif.Props.C11
namespace ModVerif.Tie.FnModule
open ModVerif ModVerif.GoRt ModVerif.TieFnModule

/-- the hypothesis on `strings.EqualFold`: on the reserved Windows names it is ASCII-case-insensitive equality -/
def FoldOK (equalFold : Bytes → Bytes → Bool) : Prop :=
  ∀ bad ∈ Module.badWindowsNames, ∀ s, equalFold bad s = Module.equalFoldAscii bad s

/-- non-vacuity of the hypothesis: the model's own function satisfies it -/
theorem foldOK_ascii : FoldOK Module.equalFoldAscii := fun _ _ _ => rfl

/-- the hypothesis holds for EqualFold by simple case folding over the SimpleFold table (Basic/FoldTable.lean):
    no reserved name contains K or S (`Tie.module_badWindowsNames_fold_simple`), the only letters with a non-ASCII
    rune in their fold orbit -/
theorem foldOK_simple : FoldOK equalFoldSimple := by
  intro bad hbad s
  apply equalFoldSimple_eq
  intro c hc
  rw [← Tie.module_badWindowsNames_tie] at hbad
  exact Tie.module_badWindowsNames_fold_simple bad hbad c hc

/-- … which is, literally, the `strings.EqualFold` stand-in the regenerated code is executed with in the
    correspondence run (`gmodule.*` ops): every tie theorem below applies to those runs without a hypothesis on
    EqualFold -/
theorem foldOK_driver : FoldOK Drv.GenModule.equalFoldI := foldOK_simple

-- U+212A (Kelvin sign, bytes E2 84 AA) folds to 'K' but no reserved name contains K: "NUL" vs "nul" / "nu" + U+212A
example : Drv.GenModule.equalFoldI (B "NUL") (B "nul") = true ∧ Module.equalFoldAscii (B "NUL") (B "nul") = true ∧
    Drv.GenModule.equalFoldI (B "NUL") [110, 117, 226, 132, 170] = false ∧
    Drv.GenModule.equalFoldI (B "K") [226, 132, 170] = true ∧ Module.equalFoldAscii (B "K") [226, 132, 170] = false := by
  decide +kernel

/-! ### the error-kind table -/

/-- the message literals determine the error kind: `kindOfMsg` inverts `msg` -/
theorem kindOfMsg_msg (e : Module.PathErr) : kindOfMsg (msg e) = some e := TieFnModule.kindOfMsg_msg e

theorem msg_injective {a b : Module.PathErr} (h : msg a = msg b) : a = b := TieFnModule.msg_injective h

/-- the driver of the regenerated code (`gmodule.*` ops) maps each message literal to the canonical error name of the
    model's error kind: the two output tables agree -/
theorem pathKind_msg (e : Module.PathErr) : Drv.GenModule.pathKind (msg e) = e.name := by
  cases e <;> decide +kernel

example : msg .windows = "%q disallowed as path element component on Windows" ∧
    kindOfMsg "trailing tilde and digits in path element" = some .tildeDigits ∧ kindOfMsg "other" = none := by
  refine ⟨rfl, rfl, rfl⟩

/-! ### character classes (pure functions; all `Int` runes) -/

theorem firstPathOK_tie (r : Int) : Generated.Module.firstPathOK r = Module.firstPathOK r.toNat :=
  firstPathOK_int r

example : Generated.Module.firstPathOK 97 = true ∧ Module.firstPathOK 97 = true ∧
    Generated.Module.firstPathOK 65 = false ∧ Generated.Module.firstPathOK (-1) = false := by decide

theorem modPathOK_tie (r : Int) : Generated.Module.modPathOK r = Module.modPathOK r.toNat :=
  modPathOK_int r

example : Generated.Module.modPathOK 126 = true ∧ Module.modPathOK 126 = true ∧
    Generated.Module.modPathOK 43 = false ∧ Generated.Module.modPathOK 233 = false := by decide

theorem importPathOK_tie (r : Int) : Generated.Module.importPathOK r = Module.importPathOK r.toNat :=
  importPathOK_int r

example : Generated.Module.importPathOK 43 = true ∧ Module.importPathOK 43 = true ∧
    Generated.Module.importPathOK 32 = false := by decide

/-- for every `isLetter` (unicode.IsLetter is a parameter on both sides) -/
theorem fileNameOK_tie (isLetter : Int → Bool) (r : Int) :
    Generated.Module.fileNameOK isLetter r = Module.fileNameOK (natLetter isLetter) r.toNat :=
  fileNameOK_int isLetter r

example : Generated.Module.fileNameOK (fun r => decide (r = 233)) 32 = true ∧
    Generated.Module.fileNameOK (fun r => decide (r = 233)) 233 = true ∧
    Module.fileNameOK (natLetter (fun r => decide (r = 233))) 233 = true ∧
    Generated.Module.fileNameOK (fun r => decide (r = 233)) 42 = false := by decide +kernel

/-! ### checkElem, checkPath and the three exported checkers (C06 core) -/

theorem checkElem_tie (equalFold : Bytes → Bytes → Bool) (isLetter : Int → Bool) (kind : Module.Kind) (elem : Bytes)
    (fuel : Nat) (hfold : FoldOK equalFold) (hf : elem.length + 23 ≤ fuel) :
    Generated.Module.checkElem equalFold isLetter fuel elem (kindInt kind) =
      .ok (errOf (Module.checkElem (natLetter isLetter) kind elem)) :=
  checkElem_spec equalFold isLetter kind elem fuel hfold hf

-- "a.b" is fine; "con.txt" is a reserved Windows name; "x~1" looks like a short name (not for files)
example : Generated.Module.checkElem Module.equalFoldAscii (fun _ => false) 30 [97, 46, 98] 0 = .ok none ∧
    Module.checkElem (fun _ => false) .module [97, 46, 98] = .ok () ∧
    Generated.Module.checkElem Module.equalFoldAscii (fun _ => false) 30 [99, 111, 110, 46, 116, 120, 116] 1
      = .ok (some "%q disallowed as path element component on Windows") ∧
    Module.checkElem (fun _ => false) .import_ [99, 111, 110, 46, 116, 120, 116] = .error .windows ∧
    Generated.Module.checkElem Module.equalFoldAscii (fun _ => false) 30 [120, 126, 49] 1
      = .ok (some "trailing tilde and digits in path element") ∧
    Generated.Module.checkElem Module.equalFoldAscii (fun _ => false) 30 [120, 126, 49] 2 = .ok none := by
  decide +kernel

theorem checkPath_tie (equalFold : Bytes → Bytes → Bool) (isLetter : Int → Bool) (kind : Module.Kind) (path : Bytes)
    (fuel : Nat) (hfold : FoldOK equalFold) (hf : 2 * path.length + 24 ≤ fuel) :
    Generated.Module.checkPath equalFold isLetter fuel path (kindInt kind) =
      .ok (errOf (Module.checkPath (natLetter isLetter) kind path)) :=
  checkPath_spec equalFold isLetter kind path fuel hfold hf

-- "a/b" ok; "a//b" double slash; "a/.b" leading dot (module only)
example : Generated.Module.checkPath Module.equalFoldAscii (fun _ => false) 40 [97, 47, 98] 0 = .ok none ∧
    Module.checkPath (fun _ => false) .module [97, 47, 98] = .ok () ∧
    Generated.Module.checkPath Module.equalFoldAscii (fun _ => false) 40 [97, 47, 47, 98] 0 = .ok (some "double slash") ∧
    Module.checkPath (fun _ => false) .module [97, 47, 47, 98] = .error .doubleSlash ∧
    Generated.Module.checkPath Module.equalFoldAscii (fun _ => false) 40 [97, 47, 46, 98] 0
      = .ok (some "leading dot in path element") ∧
    Generated.Module.checkPath Module.equalFoldAscii (fun _ => false) 40 [97, 47, 46, 98] 1 = .ok none := by
  decide +kernel

/-- CheckPath (module paths): `nil`, or `&InvalidPathError{Kind: "module", Err: <the literal of the failing rule>}` -/
theorem CheckPath_tie (equalFold : Bytes → Bytes → Bool) (isLetter : Int → Bool) (path : Bytes) (fuel : Nat)
    (hfold : FoldOK equalFold) (hf : 2 * path.length + 24 ≤ fuel) :
    Generated.Module.CheckPath equalFold isLetter fuel path = .ok (wrappedErrOf (Module.checkModPath path)) :=
  CheckPath_spec equalFold isLetter path fuel hfold hf

-- "a.b/v2" ok; "a.b/v1" invalid version; "ab/c" missing dot
example : Generated.Module.CheckPath Module.equalFoldAscii (fun _ => false) 60 [97, 46, 98, 47, 118, 50] = .ok none ∧
    Module.checkModPath [97, 46, 98, 47, 118, 50] = .ok () ∧
    Generated.Module.CheckPath Module.equalFoldAscii (fun _ => false) 60 [97, 46, 98, 47, 118, 49]
      = .ok (some "InvalidPathError|invalid version") ∧
    Module.checkModPath [97, 46, 98, 47, 118, 49] = .error .invalidVersion ∧
    Generated.Module.CheckPath Module.equalFoldAscii (fun _ => false) 60 [97, 98, 47, 99]
      = .ok (some "InvalidPathError|missing dot in first path element") ∧
    Module.checkModPath [97, 98, 47, 99] = .error .missingDot := by
  decide +kernel

theorem CheckImportPath_tie (equalFold : Bytes → Bytes → Bool) (isLetter : Int → Bool) (path : Bytes) (fuel : Nat)
    (hfold : FoldOK equalFold) (hf : 2 * path.length + 24 ≤ fuel) :
    Generated.Module.CheckImportPath equalFold isLetter fuel path =
      .ok (wrappedErrOf (Module.checkImportPath path)) :=
  CheckImportPath_spec equalFold isLetter path fuel hfold hf

-- "a/b+" ok as an import path; "a b" has an invalid char
example : Generated.Module.CheckImportPath Module.equalFoldAscii (fun _ => false) 40 [97, 47, 98, 43] = .ok none ∧
    Module.checkImportPath [97, 47, 98, 43] = .ok () ∧
    Generated.Module.CheckImportPath Module.equalFoldAscii (fun _ => false) 40 [97, 32, 98]
      = .ok (some "InvalidPathError|invalid char %q") ∧
    Module.checkImportPath [97, 32, 98] = .error .invalidChar := by
  decide +kernel

theorem CheckFilePath_tie (equalFold : Bytes → Bytes → Bool) (isLetter : Int → Bool) (path : Bytes) (fuel : Nat)
    (hfold : FoldOK equalFold) (hf : 2 * path.length + 24 ≤ fuel) :
    Generated.Module.CheckFilePath equalFold isLetter fuel path =
      .ok (wrappedErrOf (Module.checkFilePath (natLetter isLetter) path)) :=
  CheckFilePath_spec equalFold isLetter path fuel hfold hf

-- "a b/é" with é a letter: ok; "a/" trailing slash
example : Generated.Module.CheckFilePath Module.equalFoldAscii (fun r => decide (r = 233)) 40 [97, 32, 98, 47, 195, 169]
      = .ok none ∧
    Module.checkFilePath (natLetter (fun r => decide (r = 233))) [97, 32, 98, 47, 195, 169] = .ok () ∧
    Generated.Module.CheckFilePath Module.equalFoldAscii (fun _ => false) 40 [97, 47]
      = .ok (some "InvalidPathError|trailing slash") ∧
    Module.checkFilePath (fun _ => false) [97, 47] = .error .trailingSlash := by
  decide +kernel

/-! ### SplitPathVersion, path/version matching, Check -/

theorem SplitPathVersion_tie (path : Bytes) (fuel : Nat) (hf : path.length + 1 ≤ fuel) :
    Generated.Module.SplitPathVersion fuel path = .ok (Module.splitPathVersion path) :=
  SplitPathVersion_spec path fuel hf

example : Generated.Module.SplitPathVersion 10 [97, 46, 98, 47, 118, 50] = .ok ([97, 46, 98], [47, 118, 50], true) ∧
    Module.splitPathVersion [97, 46, 98, 47, 118, 50] = ([97, 46, 98], [47, 118, 50], true) ∧
    Generated.Module.SplitPathVersion 10 [97, 46, 98, 47, 118, 49] = .ok ([97, 46, 98, 47, 118, 49], [], false) := by
  decide +kernel

theorem splitGopkgIn_tie (path : Bytes) (fuel : Nat) (hf : path.length + 1 ≤ fuel) :
    Generated.Module.splitGopkgIn fuel path = .ok (Module.splitGopkgIn path) :=
  splitGopkgIn_spec path fuel hf

example : Generated.Module.splitGopkgIn 40 (B "gopkg.in/yaml.v2-unstable") =
      .ok (B "gopkg.in/yaml", B ".v2-unstable", true) ∧
    Module.splitGopkgIn (B "gopkg.in/yaml.v2-unstable") = (B "gopkg.in/yaml", B ".v2-unstable", true) ∧
    Generated.Module.splitGopkgIn 40 (B "gopkg.in/yaml") = .ok (B "gopkg.in/yaml", [], false) := by
  decide +kernel

/-- CheckPathMajor: `nil` exactly when the model says true; the only error value is `majorErr`
    (`&InvalidVersionError{…, Err: "should be %s, not %s"}`) -/
theorem CheckPathMajor_tie (v pathMajor : Bytes) (fuel : Nat) (hf : 2 * v.length ≤ fuel) :
    Generated.Module.CheckPathMajor fuel v pathMajor =
      .ok (if Module.checkPathMajor v pathMajor = true then none else majorErr) :=
  CheckPathMajor_spec v pathMajor fuel hf

example : Generated.Module.CheckPathMajor 20 (B "v2.1.0") (B "/v2") = .ok none ∧
    Module.checkPathMajor (B "v2.1.0") (B "/v2") = true ∧
    Generated.Module.CheckPathMajor 20 (B "v1.0.0") (B "/v2") = .ok majorErr ∧
    Module.checkPathMajor (B "v1.0.0") (B "/v2") = false := by
  decide +kernel

theorem MatchPathMajor_tie (v pathMajor : Bytes) (fuel : Nat) (hf : 2 * v.length ≤ fuel) :
    Generated.Module.MatchPathMajor fuel v pathMajor = .ok (Module.matchPathMajor v pathMajor) :=
  MatchPathMajor_spec v pathMajor fuel hf

example : Generated.Module.MatchPathMajor 20 (B "v2.0.0+incompatible") [] = .ok true ∧
    Module.matchPathMajor (B "v2.0.0+incompatible") [] = true ∧
    Generated.Module.MatchPathMajor 20 (B "v2.0.0") [] = .ok false := by
  decide +kernel

/-- PathMajorPrefix: the two `panic(…)` sites of the Go function are exactly the inputs on which the model is `none` -/
theorem PathMajorPrefix_tie (pathMajor : Bytes) (fuel : Nat) (hf : 2 * pathMajor.length ≤ fuel) :
    Generated.Module.PathMajorPrefix fuel pathMajor =
      (match Module.pathMajorPrefix pathMajor with
       | some m => .ok m
       | none => .error .panic) :=
  PathMajorPrefix_spec pathMajor fuel hf

example : Generated.Module.PathMajorPrefix 40 (B ".v2-unstable") = .ok (B "v2") ∧
    Module.pathMajorPrefix (B ".v2-unstable") = some (B "v2") ∧
    Generated.Module.PathMajorPrefix 40 (B "v2") = .error .panic ∧ Module.pathMajorPrefix (B "v2") = none ∧
    Generated.Module.PathMajorPrefix 40 (B "/v2.1") = .error .panic := by
  decide +kernel

theorem Check_tie (equalFold : Bytes → Bytes → Bool) (isLetter : Int → Bool) (path version : Bytes) (fuel : Nat)
    (hfold : FoldOK equalFold) (hf : 2 * path.length + 2 * version.length + 24 ≤ fuel) :
    Generated.Module.Check equalFold isLetter fuel path version = .ok (checkErrOf (Module.check path version)) :=
  Check_spec equalFold isLetter path version fuel hfold hf

example : Generated.Module.Check Module.equalFoldAscii (fun _ => false) 80 (B "a.b/v2") (B "v2.1.0") = .ok none ∧
    Module.check (B "a.b/v2") (B "v2.1.0") = .ok () ∧
    Generated.Module.Check Module.equalFoldAscii (fun _ => false) 80 (B "a.b/v2") (B "v1.0.0")
      = .ok (some "ModuleError|InvalidVersionError|should be %s, not %s") ∧
    Module.check (B "a.b/v2") (B "v1.0.0") = .error .major ∧
    Generated.Module.Check Module.equalFoldAscii (fun _ => false) 80 (B "a.b") (B "1.0")
      = .ok (some "ModuleError|InvalidVersionError|not a semantic version") ∧
    Module.check (B "a.b") (B "1.0") = .error .notSemver := by
  decide +kernel

theorem CanonicalVersion_tie (v : Bytes) (fuel : Nat) (hf : 2 * v.length ≤ fuel) :
    Generated.Module.CanonicalVersion fuel v = .ok (Semver.canonicalVersion v) :=
  CanonicalVersion_spec v fuel hf

example : Generated.Module.CanonicalVersion 40 (B "v2.0.0+incompatible") = .ok (B "v2.0.0+incompatible") ∧
    Semver.canonicalVersion (B "v2.0.0+incompatible") = B "v2.0.0+incompatible" ∧
    Generated.Module.CanonicalVersion 40 (B "v2.0.0+meta") = .ok (B "v2.0.0") ∧
    Generated.Module.CanonicalVersion 40 (B "v2.0") = .ok (B "v2.0.0") := by
  decide +kernel

/-! ### escaping (C11) -/

theorem escapeString_tie (s : Bytes) (fuel : Nat) (hf : s.length + 1 ≤ fuel) :
    Generated.Module.escapeString fuel s =
      .ok (match Module.escapeString s with
           | some e => (e, none)
           | none => ([], some "internal error: inconsistency in EscapePath")) :=
  escapeString_spec s fuel hf

example : Generated.Module.escapeString 4 [97, 66, 99] = .ok ([97, 33, 98, 99], none) ∧
    Module.escapeString [97, 66, 99] = some [97, 33, 98, 99] ∧
    Generated.Module.escapeString 4 [33] = .ok ([], some "internal error: inconsistency in EscapePath") ∧
    Module.escapeString [33] = none := by
  decide +kernel

theorem unescapeString_tie (escaped : Bytes) (fuel : Nat) (hf : escaped.length + 1 ≤ fuel) :
    Generated.Module.unescapeString fuel escaped =
      .ok (match Module.unescapeString escaped with
           | some b => (b, true)
           | none => ([], false)) :=
  unescapeString_spec escaped fuel hf

example : Generated.Module.unescapeString 5 [97, 33, 98, 99] = .ok ([97, 66, 99], true) ∧
    Module.unescapeString [97, 33, 98, 99] = some [97, 66, 99] ∧
    Generated.Module.unescapeString 5 [97, 33] = .ok ([], false) ∧ Module.unescapeString [97, 33] = none := by
  decide +kernel

theorem EscapePath_tie (equalFold : Bytes → Bytes → Bool) (isLetter : Int → Bool) (path : Bytes) (fuel : Nat)
    (hfold : FoldOK equalFold) (hf : 2 * path.length + 24 ≤ fuel) :
    Generated.Module.EscapePath equalFold isLetter fuel path = .ok (escResOf (Module.escapePath path)) :=
  EscapePath_spec equalFold isLetter path fuel hfold hf

example : Generated.Module.EscapePath Module.equalFoldAscii (fun _ => false) 60 (B "a.b/Cd") = .ok (B "a.b/!cd", none) ∧
    Module.escapePath (B "a.b/Cd") = .ok (B "a.b/!cd") ∧
    Generated.Module.EscapePath Module.equalFoldAscii (fun _ => false) 60 (B "A.b")
      = .ok ([], some "InvalidPathError|invalid char %q in first path element") ∧
    Module.escapePath (B "A.b") = .error (.path .invalidCharFirst) := by
  decide +kernel

theorem EscapeVersion_tie (equalFold : Bytes → Bytes → Bool) (isLetter : Int → Bool) (v : Bytes) (fuel : Nat)
    (hfold : FoldOK equalFold) (hf : v.length + 23 ≤ fuel) :
    Generated.Module.EscapeVersion equalFold isLetter fuel v =
      .ok (escResOf (Module.escapeVersion (natLetter isLetter) v)) :=
  EscapeVersion_spec equalFold isLetter v fuel hfold hf

example : Generated.Module.EscapeVersion Module.equalFoldAscii (fun _ => false) 40 (B "v1.0.0-RC1")
      = .ok (B "v1.0.0-!r!c1", none) ∧
    Module.escapeVersion (fun _ => false) (B "v1.0.0-RC1") = .ok (B "v1.0.0-!r!c1") ∧
    Generated.Module.EscapeVersion Module.equalFoldAscii (fun _ => false) 40 (B "v1!")
      = .ok ([], some "InvalidVersionError|disallowed version string") ∧
    Module.escapeVersion (fun _ => false) (B "v1!") = .error .disallowed := by
  decide +kernel

theorem UnescapePath_tie (equalFold : Bytes → Bytes → Bool) (isLetter : Int → Bool) (escaped : Bytes) (fuel : Nat)
    (hfold : FoldOK equalFold) (hf : 2 * escaped.length + 24 ≤ fuel) :
    Generated.Module.UnescapePath equalFold isLetter fuel escaped =
      .ok (unescResOf "invalid escaped module path %q" "invalid escaped module path %q: %v"
        (fun e => "InvalidPathError|" ++ msg e) (Module.unescapePath escaped)) :=
  UnescapePath_spec equalFold isLetter escaped fuel hfold hf

example : Generated.Module.UnescapePath Module.equalFoldAscii (fun _ => false) 60 (B "a.b/!cd") = .ok (B "a.b/Cd", none) ∧
    Module.unescapePath (B "a.b/!cd") = .ok (B "a.b/Cd") ∧
    Generated.Module.UnescapePath Module.equalFoldAscii (fun _ => false) 60 (B "a.b/Cd")
      = .ok ([], some "invalid escaped module path %q") ∧
    Module.unescapePath (B "a.b/Cd") = .error .escaped ∧
    Generated.Module.UnescapePath Module.equalFoldAscii (fun _ => false) 60 (B "!a.b")
      = .ok ([], some "invalid escaped module path %q: %v|InvalidPathError|invalid char %q in first path element") ∧
    Module.unescapePath (B "!a.b") = .error (.invalid .invalidCharFirst) := by
  decide +kernel

theorem UnescapeVersion_tie (equalFold : Bytes → Bytes → Bool) (isLetter : Int → Bool) (escaped : Bytes) (fuel : Nat)
    (hfold : FoldOK equalFold) (hf : escaped.length + 23 ≤ fuel) :
    Generated.Module.UnescapeVersion equalFold isLetter fuel escaped =
      .ok (unescResOf "invalid escaped version %q" "invalid escaped version %q: %v" msg
        (Module.unescapeVersion (natLetter isLetter) escaped)) :=
  UnescapeVersion_spec equalFold isLetter escaped fuel hfold hf

example : Generated.Module.UnescapeVersion Module.equalFoldAscii (fun _ => false) 40 (B "v1.0.0-!r!c1")
      = .ok (B "v1.0.0-RC1", none) ∧
    Module.unescapeVersion (fun _ => false) (B "v1.0.0-!r!c1") = .ok (B "v1.0.0-RC1") ∧
    Generated.Module.UnescapeVersion Module.equalFoldAscii (fun _ => false) 40 (B "a/b")
      = .ok ([], some "invalid escaped version %q: %v|invalid char %q") ∧
    Module.unescapeVersion (fun _ => false) (B "a/b") = .error (.invalid .invalidChar) := by
  decide +kernel

/-! ### MatchPrefixPatterns -/

theorem MatchPrefixPatterns_tie (pathMatch : Bytes → Bytes → Bool × Option String) (globs target : Bytes) (fuel : Nat)
    (hf : globs.length + target.length + 1 ≤ fuel) :
    Generated.Module.MatchPrefixPatterns pathMatch fuel globs target =
      .ok (Module.matchPrefixPatterns (fun p n => (pathMatch p n).1) globs target) :=
  MatchPrefixPatterns_spec pathMatch globs target fuel hf

example : Generated.Module.MatchPrefixPatterns (fun p n => (p == n, none)) 12 (B "x,a/b/") (B "a/b/c") = .ok true ∧
    Module.matchPrefixPatterns (fun p n => p == n) (B "x,a/b/") (B "a/b/c") = true ∧
    Generated.Module.MatchPrefixPatterns (fun p n => (p == n, none)) 12 (B "a/b/c") (B "a/b") = .ok false := by
  decide +kernel

/-! ### the C06 / C11 property theorems, transferred to the regenerated code

  Each statement below is about `Generated.Module.*` only (plus the independent specification Spec/PathSpec.lean);
  the hand model has been eliminated through the tie theorems above. -/

theorem wrappedErrOf_none_iff (r : Except Module.PathErr Unit) : wrappedErrOf r = none ↔ r = .ok () := by
  cases r with
  | error x => simp [wrappedErrOf]
  | ok u => cases u; simp [wrappedErrOf]

theorem escResOf_ok_iff (r : Except Module.EscErr Bytes) (e : Bytes) : escResOf r = (e, none) ↔ r = .ok e := by
  cases r with
  | ok a => simp [escResOf]
  | error x => cases x <;> simp [escResOf, wrapErr]

theorem unescResOf_ok_iff (a b : String) (inner : Module.PathErr → String) (r : Except Module.UnescErr Bytes) (p : Bytes) :
    unescResOf a b inner r = (p, none) ↔ r = .ok p := by
  cases r with
  | ok x => simp [unescResOf]
  | error x => cases x <;> simp [unescResOf, wrapErr]

/-- C06: the regenerated CheckPath returns nil exactly on the paths that satisfy the documented rules
    (`Props.C06.checkModPath_iff`). -/
theorem CheckPath_nil_iff (equalFold : Bytes → Bytes → Bool) (isLetter : Int → Bool) (path : Bytes) (fuel : Nat)
    (hfold : FoldOK equalFold) (hf : 2 * path.length + 24 ≤ fuel) :
    Generated.Module.CheckPath equalFold isLetter fuel path = .ok none ↔
      PathSpec.ValidPath (fun _ => false) .module path ∧ PathSpec.FirstElemOK path ∧ PathSpec.MajorRuleOK path := by
  rw [CheckPath_tie equalFold isLetter path fuel hfold hf, ← Props.C06.checkModPath_iff]
  constructor
  · intro h; injection h with h; exact (wrappedErrOf_none_iff _).mp h
  · intro h; rw [(wrappedErrOf_none_iff _).mpr h]

/-- C06: the regenerated CheckImportPath returns nil exactly on the valid import paths. -/
theorem CheckImportPath_nil_iff (equalFold : Bytes → Bytes → Bool) (isLetter : Int → Bool) (path : Bytes) (fuel : Nat)
    (hfold : FoldOK equalFold) (hf : 2 * path.length + 24 ≤ fuel) :
    Generated.Module.CheckImportPath equalFold isLetter fuel path = .ok none ↔
      PathSpec.ValidPath (fun _ => false) .import_ path := by
  rw [CheckImportPath_tie equalFold isLetter path fuel hfold hf, ← Props.C06.checkImportPath_iff]
  constructor
  · intro h; injection h with h; exact (wrappedErrOf_none_iff _).mp h
  · intro h; rw [(wrappedErrOf_none_iff _).mpr h]

/-- C06: the regenerated CheckFilePath returns nil exactly on the valid file paths, for every `unicode.IsLetter`. -/
theorem CheckFilePath_nil_iff (equalFold : Bytes → Bytes → Bool) (isLetter : Int → Bool) (path : Bytes) (fuel : Nat)
    (hfold : FoldOK equalFold) (hf : 2 * path.length + 24 ≤ fuel) :
    Generated.Module.CheckFilePath equalFold isLetter fuel path = .ok none ↔
      PathSpec.ValidPath (natLetter isLetter) .file path := by
  rw [CheckFilePath_tie equalFold isLetter path fuel hfold hf, ← Props.C06.checkFilePath_iff]
  constructor
  · intro h; injection h with h; exact (wrappedErrOf_none_iff _).mp h
  · intro h; rw [(wrappedErrOf_none_iff _).mpr h]

/-- C06: the regenerated SplitPathVersion reports ok exactly under the documented major-version rule, and then
    prefix ++ pathMajor = path with a suffix of the documented shape. -/
theorem SplitPathVersion_ok_iff (path : Bytes) (fuel : Nat) (hf : path.length + 1 ≤ fuel) :
    (∃ pre maj, Generated.Module.SplitPathVersion fuel path = .ok (pre, maj, true)) ↔ PathSpec.MajorRuleOK path := by
  rw [SplitPathVersion_tie path fuel hf, ← Props.C06.split_ok_iff]
  constructor
  · rintro ⟨pre, maj, h⟩; injection h with h; rw [h]
  · intro h
    refine ⟨(Module.splitPathVersion path).1, (Module.splitPathVersion path).2.1, ?_⟩
    rw [← h]

theorem SplitPathVersion_shape (path pre maj : Bytes) (fuel : Nat) (hf : path.length + 1 ≤ fuel)
    (h : Generated.Module.SplitPathVersion fuel path = .ok (pre, maj, true)) :
    pre ++ maj = path ∧ PathSpec.MajorSuffix path maj := by
  rw [SplitPathVersion_tie path fuel hf] at h
  injection h with h
  exact Props.C06.split_spec path pre maj h

/-- C06: the regenerated MatchPrefixPatterns is the documented prefix-glob definition, for every `path.Match`. -/
theorem MatchPrefixPatterns_true_iff (pathMatch : Bytes → Bytes → Bool × Option String) (globs target : Bytes)
    (fuel : Nat) (hf : globs.length + target.length + 1 ≤ fuel) :
    Generated.Module.MatchPrefixPatterns pathMatch fuel globs target = .ok true ↔
      PathSpec.MatchSpec (fun p n => (pathMatch p n).1) globs target := by
  rw [MatchPrefixPatterns_tie pathMatch globs target fuel hf, ← Props.C06.matchPrefixPatterns_iff_spec]
  constructor
  · intro h; injection h
  · intro h; rw [h]

/-- C06: the regenerated Check returns nil exactly when the path is a valid module path, the version is a valid
    semantic version and the two correspond. -/
theorem Check_nil_iff (equalFold : Bytes → Bytes → Bool) (isLetter : Int → Bool) (path version : Bytes) (fuel : Nat)
    (hfold : FoldOK equalFold) (hf : 2 * path.length + 2 * version.length + 24 ≤ fuel) :
    Generated.Module.Check equalFold isLetter fuel path version = .ok none ↔
      Module.checkModPath path = .ok () ∧ Semver.isValid version = true ∧
        PathSpec.MajorMatches (Module.splitPathVersion path).2.1 version := by
  rw [Check_tie equalFold isLetter path version fuel hfold hf, ← Props.C06.check_iff]
  cases Module.check path version with
  | ok u => cases u; simp [checkErrOf]
  | error x => cases x <;> simp [checkErrOf, wrapErr, majorErr]

/-- C11: on the regenerated code, unescaping an escaped path gives the path back. -/
theorem UnescapePath_EscapePath (equalFold : Bytes → Bytes → Bool) (isLetter : Int → Bool) (path e : Bytes)
    (fuel fuel' : Nat) (hfold : FoldOK equalFold) (hf : 2 * path.length + 24 ≤ fuel) (hf' : 2 * e.length + 24 ≤ fuel')
    (h : Generated.Module.EscapePath equalFold isLetter fuel path = .ok (e, none)) :
    Generated.Module.UnescapePath equalFold isLetter fuel' e = .ok (path, none) := by
  rw [EscapePath_tie equalFold isLetter path fuel hfold hf] at h
  injection h with h
  have hm := Props.C11.unescapePath_escapePath path e ((escResOf_ok_iff _ _).mp h)
  rw [UnescapePath_tie equalFold isLetter e fuel' hfold hf', hm]
  rfl

/-- C11: an escaped path (regenerated EscapePath) is ASCII without upper-case letters. -/
theorem EscapePath_no_upper (equalFold : Bytes → Bytes → Bool) (isLetter : Int → Bool) (path e : Bytes) (fuel : Nat)
    (hfold : FoldOK equalFold) (hf : 2 * path.length + 24 ≤ fuel)
    (h : Generated.Module.EscapePath equalFold isLetter fuel path = .ok (e, none)) :
    ∀ c ∈ e, c.toNat < 128 ∧ ¬ (65 ≤ c.toNat ∧ c.toNat ≤ 90) := by
  rw [EscapePath_tie equalFold isLetter path fuel hfold hf] at h
  injection h with h
  exact Props.C11.escapePath_no_upper path e ((escResOf_ok_iff _ _).mp h)

/-- C11: two different paths never escape (regenerated EscapePath) to strings that are equal ignoring case. -/
theorem EscapePath_fold_inj (equalFold : Bytes → Bytes → Bool) (isLetter : Int → Bool) (p q e f : Bytes) (fuel fuel' : Nat)
    (hfold : FoldOK equalFold) (hf : 2 * p.length + 24 ≤ fuel) (hf' : 2 * q.length + 24 ≤ fuel')
    (hp : Generated.Module.EscapePath equalFold isLetter fuel p = .ok (e, none))
    (hq : Generated.Module.EscapePath equalFold isLetter fuel' q = .ok (f, none))
    (h : Module.lower e = Module.lower f) : p = q := by
  rw [EscapePath_tie equalFold isLetter p fuel hfold hf] at hp
  rw [EscapePath_tie equalFold isLetter q fuel' hfold hf'] at hq
  injection hp with hp
  injection hq with hq
  exact Props.C11.escapePath_fold_inj p q e f ((escResOf_ok_iff _ _).mp hp) ((escResOf_ok_iff _ _).mp hq) h

/-- C11: the regenerated EscapePath succeeds exactly on the paths the regenerated CheckPath accepts (its
    "internal error" return is unreachable). -/
theorem EscapePath_ok_iff_CheckPath (equalFold : Bytes → Bytes → Bool) (isLetter : Int → Bool) (path : Bytes) (fuel : Nat)
    (hfold : FoldOK equalFold) (hf : 2 * path.length + 24 ≤ fuel) :
    (∃ e, Generated.Module.EscapePath equalFold isLetter fuel path = .ok (e, none)) ↔
      Generated.Module.CheckPath equalFold isLetter fuel path = .ok none := by
  rw [EscapePath_tie equalFold isLetter path fuel hfold hf, CheckPath_tie equalFold isLetter path fuel hfold hf]
  constructor
  · rintro ⟨e, h⟩
    injection h with h
    have := (Props.C11.escapePath_ok_iff_valid path).mp ⟨e, (escResOf_ok_iff _ _).mp h⟩
    rw [(wrappedErrOf_none_iff _).mpr this]
  · intro h
    injection h with h
    obtain ⟨e, he⟩ := (Props.C11.escapePath_ok_iff_valid path).mpr ((wrappedErrOf_none_iff _).mp h)
    exact ⟨e, by rw [he]; rfl⟩

/-- C11: what the regenerated UnescapePath returns escapes back to its input. -/
theorem UnescapePath_image (equalFold : Bytes → Bytes → Bool) (isLetter : Int → Bool) (e path : Bytes) (fuel fuel' : Nat)
    (hfold : FoldOK equalFold) (hf : 2 * e.length + 24 ≤ fuel) (hf' : 2 * path.length + 24 ≤ fuel')
    (h : Generated.Module.UnescapePath equalFold isLetter fuel e = .ok (path, none)) :
    Generated.Module.EscapePath equalFold isLetter fuel' path = .ok (e, none) := by
  rw [UnescapePath_tie equalFold isLetter e fuel hfold hf] at h
  injection h with h
  have hm := Props.C11.unescapePath_image e path ((unescResOf_ok_iff _ _ _ _ _).mp h)
  rw [EscapePath_tie equalFold isLetter path fuel' hfold hf', hm]
  rfl

/-- C11 (versions): round trip on the regenerated code. -/
theorem UnescapeVersion_EscapeVersion (equalFold : Bytes → Bytes → Bool) (isLetter : Int → Bool) (v e : Bytes)
    (fuel fuel' : Nat) (hfold : FoldOK equalFold) (hf : v.length + 23 ≤ fuel) (hf' : e.length + 23 ≤ fuel')
    (h : Generated.Module.EscapeVersion equalFold isLetter fuel v = .ok (e, none)) :
    Generated.Module.UnescapeVersion equalFold isLetter fuel' e = .ok (v, none) := by
  rw [EscapeVersion_tie equalFold isLetter v fuel hfold hf] at h
  injection h with h
  have hm := Props.C11.unescapeVersion_escapeVersion (natLetter isLetter) v e ((escResOf_ok_iff _ _).mp h)
  rw [UnescapeVersion_tie equalFold isLetter e fuel' hfold hf', hm]
  rfl

-- non-vacuity of the transferred statements: a concrete accepted path and its escape
example : Generated.Module.CheckPath Module.equalFoldAscii (fun _ => false) 60 (B "a.b/Cd") = .ok none ∧
    Generated.Module.EscapePath Module.equalFoldAscii (fun _ => false) 60 (B "a.b/Cd") = .ok (B "a.b/!cd", none) ∧
    Generated.Module.UnescapePath Module.equalFoldAscii (fun _ => false) 60 (B "a.b/!cd") = .ok (B "a.b/Cd", none) := by
  decide +kernel

end ModVerif.Tie.FnModule
