/-
  Tie: the go.mod PARSER regenerated from modfile/read.go on every check (Generated/FnParse.lean, namespace
  ModVerif.Generated.Parse) computes what the hand model (Model/Modfile/{Lex,Parse,Comments}.lean) says, for ALL inputs.

  The generated parser builds Go's POINTER GRAPH in a heap (`Parse.Heap`: one list of objects per node type; a pointer is
  the 1-based position); the model builds a value tree whose lines carry `id` = creation order.  The two are related by
  the reification of Proofs/TieFnParseHeap.lean (`RFile h p t`: the graph at the file pointer `p` of heap `h` IS the tree
  `t`, every object being the embedding of the model node, a line's pointer being `id + 1`; it implies
  `fileOf h p = some t` for the read-back function of the driver Drv/GenParse.lean) and `WF h p` (everything reachable
  is allocated, no pointer is held twice).

  This file: the lexer of the parser unit (same Go code as Generated/FnLex.lean, whose ties are
  Tie/FnLex.lean; the `input` struct here has the three extra fields `file`, `pre`, `post`, which every lexer method
  leaves unchanged: `lift`), `input.parseLine`, `input.parseLineBlock`, `input.parseStmt`, `input.parseFile`, the
  composition `readToken; parseFile` (`parseFile_tie`) and the whole `parse` (`parse_tie`, with `assignComments_tie` of
  Tie/FnParseComments.lean).  `input.order`, `input.assignComments`, `reverseComments`, the `Span` methods and
  `Position.add` are in Tie/FnParseComments.lean.

  SHAPE of the parser ties: from a lexer state `embP f pre post mi` that represents the model state `mi` (with
  `in.file = f`) and a heap `h` with one Line object per line created so far (`h.lines.length = mi.nextId`): if the
  model function returns a value, the generated function returns `.ok` with the represented state and a heap in which
  the new objects are the embeddings of the model's nodes; if the model returns a syntax error, the generated function
  is `.error .panic` (Go's `in.Error` panics and `parse` recovers; positions / kinds of errors are not part of this tie).
  Hypotheses: `WF mi` (byte offset = consumed bytes, Proofs/TieFnLexA.lean), a lower bound on the model's own loop fuel
  (`m mi < fm`: what the model's `parseFile` supplies) and on the generated fuel (`m mi + c ≤ fg`), where
  `m mi = len(remaining) + (1 if the pending token is not EOF)`.

  Helper lemmas: Proofs/TieFnParseLoops{Lex,Stmt,File,Size}.lean.
-/
import ModVerif.Generated.FnParse
import ModVerif.Model.Modfile.Comments
import ModVerif.Drv.GenParse
import ModVerif.Proofs.TieFnParseLoopsFile
import ModVerif.Proofs.TieFnParseLoopsSize
import ModVerif.Tie.FnParseComments
namespace ModVerif.Tie.FnParse
open ModVerif ModVerif.GoRt ModVerif.Modfile ModVerif.TieFnLex ModVerif.TieFnParse
open ModVerif.Tie.FnParseHeap
open ModVerif.Proofs.ModfileParse (m)
open ModVerif.Drv.LexOps.G (isPrintI isSpaceI)
open ModVerif.Drv.LexOps.M (kindCode)

/-! ### the lexer of this unit = the lexer unit, the three extra fields untouched -/

section lexer
variable (f : Int) (pre post : List Generated.Parse.Expr) (li : Generated.Lex.input)

theorem isIdent_tie (P S : Int → Bool) (c : Int) : Generated.Parse.isIdent P S c = Generated.Lex.isIdent P S c := rfl

theorem tokenKind_isComment_tie (k : Int) :
    Generated.Parse.tokenKind_isComment k = Generated.Lex.tokenKind_isComment k := rfl

theorem tokenKind_isEOL_tie (k : Int) : Generated.Parse.tokenKind_isEOL k = Generated.Lex.tokenKind_isEOL k := rfl

theorem input_eof_tie : Generated.Parse.input_eof (lift f pre post li) = Generated.Lex.input_eof li := rfl

theorem input_peekRune_tie : Generated.Parse.input_peekRune (lift f pre post li) = Generated.Lex.input_peekRune li := rfl

theorem input_peek_tie : Generated.Parse.input_peek (lift f pre post li) = Generated.Lex.input_peek li := rfl

theorem input_peekPrefix_tie (p : Bytes) (fuel : Nat) :
    Generated.Parse.input_peekPrefix fuel (lift f pre post li) p = Generated.Lex.input_peekPrefix fuel li p :=
  peekPrefix_lift f pre post li p fuel

theorem input_readRune_tie :
    Generated.Parse.input_readRune (lift f pre post li) = liftR f pre post (Generated.Lex.input_readRune li) :=
  readRune_lift f pre post li

theorem input_startToken_tie :
    Generated.Parse.input_startToken (lift f pre post li) = ((), lift f pre post (Generated.Lex.input_startToken li).2) :=
  rfl

theorem input_endToken_tie (k : Int) :
    Generated.Parse.input_endToken (lift f pre post li) k = liftR f pre post (Generated.Lex.input_endToken li k) :=
  endToken_lift f pre post li k

theorem input_readToken_lift_tie (P S : Int → Bool) (fuel : Nat) :
    Generated.Parse.input_readToken P S fuel (lift f pre post li) =
      liftR f pre post (Generated.Lex.input_readToken P S fuel li) :=
  readToken_lift P S fuel li

theorem input_lex_lift_tie (P S : Int → Bool) (fuel : Nat) :
    Generated.Parse.input_lex P S fuel (lift f pre post li) =
      (match Generated.Lex.input_lex P S fuel li with
       | .ok (t, l) => .ok (tokP t, lift f pre post l)
       | .error e => .error e) :=
  lex_lift P S fuel li

end lexer

/-- every `input` of this unit is a lifted lexer-unit `input` -/
def proj (gi : Generated.Parse.input) : Generated.Lex.input :=
  { complete := gi.complete, remaining := gi.remaining, tokenStart := gi.tokenStart,
    token := { kind := gi.token.kind, pos := ⟨gi.token.pos.Line, gi.token.pos.LineRune, gi.token.pos.Byte⟩,
               endPos := ⟨gi.token.endPos.Line, gi.token.endPos.LineRune, gi.token.endPos.Byte⟩, text := gi.token.text },
    pos := ⟨gi.pos.Line, gi.pos.LineRune, gi.pos.Byte⟩,
    comments := gi.comments.map fun c => { Start := ⟨c.Start.Line, c.Start.LineRune, c.Start.Byte⟩, Token := c.Token, Suffix := c.Suffix } }

theorem lift_proj (gi : Generated.Parse.input) : lift gi.file gi.pre gi.post (proj gi) = gi := by
  obtain ⟨c, r, ts, ⟨tk, ⟨a1, a2, a3⟩, ⟨b1, b2, b3⟩, tt⟩, ⟨p1, p2, p3⟩, cs, fl, pr, po⟩ := gi
  simp only [lift, proj, tokP, posP, List.map_map]
  congr 1
  have : (comP ∘ fun (c : Generated.Parse.Comment) =>
      ({ Start := ⟨c.Start.Line, c.Start.LineRune, c.Start.Byte⟩, Token := c.Token, Suffix := c.Suffix } :
        Generated.Lex.Comment)) = id := by
    funext c; obtain ⟨⟨s1, s2, s3⟩, t, s⟩ := c; rfl
  rw [this, List.map_id]

example : Generated.Parse.input_eof (lift 1 [] [] (TieFnLex.emb (newInput [97]))) = false := by decide

/-- readToken of this unit against the model (transport of `Tie.FnLex.input_readToken_tie`): from the state of
    `newInput` or any later state -/
theorem input_readToken_tie (f : Int) (pre post : List Generated.Parse.Expr) (k : Int) (ts : Bytes) (mi : Input)
    (hw : WF mi) (fuel : Nat) (hf : mi.remaining.length + 4 ≤ fuel) :
    Generated.Parse.input_readToken isPrintI isSpaceI fuel (lift f pre post (embKT k ts mi)) =
      (match readToken mi with
       | .ok mi' => .ok ((), embP f pre post mi')
       | .error _ => .error .panic) :=
  (readTokenP_eq k ts mi hw fuel hf).1

/-- lex of this unit against the model -/
theorem input_lex_tie (f : Int) (pre post : List Generated.Parse.Expr) (mi : Input) (hw : WF mi) (fuel : Nat)
    (hf : mi.remaining.length + 4 ≤ fuel) :
    Generated.Parse.input_lex isPrintI isSpaceI fuel (embP f pre post mi) =
      (match lex mi with
       | .ok (t, mi') => .ok (tokG t, embP f pre post mi')
       | .error _ => .error .panic) :=
  (lexP_eq mi hw fuel hf).1

/-! ### parseLine, parseLineBlock, parseStmt, parseFile -/

/-- parseLine (read.go:896): the tokens up to the end of the line; allocates ONE Line object (pointer = number of lines
    so far + 1) that is the embedding of the model's line -/
theorem input_parseLine_tie (f : Int) (pre post : List Generated.Parse.Expr) (fm : Nat) (mi : Input) (hw : WF mi)
    (hm : m mi ≤ fm) (fg : Nat) (hfg : m mi + 5 ≤ fg) (h : Generated.Parse.Heap) :
    match parseLine fm mi with
    | .ok (l, mi') =>
        Generated.Parse.input_parseLine isPrintI isSpaceI fg (embP f pre post mi) h =
          .ok ((((h.lines.length + 1 : Nat) : Int), embP f pre post mi'), { h with lines := h.lines ++ [lineG l] }) ∧ WF mi'
    | .error _ =>
        Generated.Parse.input_parseLine isPrintI isSpaceI fg (embP f pre post mi) h = .error .panic := by
  have key := parseLine_sim (f := f) (pre := pre) (post := post) fm mi hw hm fg hfg h
  cases hr : parseLine fm mi with
  | error e => rw [hr] at key; exact key
  | ok p =>
    rw [hr] at key
    obtain ⟨_, hG, rfl, hw'⟩ := key
    exact ⟨hG, hw'⟩

/-- parseLineBlock (read.go:855): allocates the block object (pointer = number of blocks so far + 1) and one Line object
    per line; at the end the block object is the embedding of the model's block with the line pointers `ps'`, which
    reify to the model's lines -/
theorem input_parseLineBlock_tie (f : Int) (pre post : List Generated.Parse.Expr) (fm : Nat) (mi : Input) (s : Position)
    (ts : List Bytes) (lp : Token) (hw : WF mi) (hm : m mi < fm) (fg : Nat) (hfg : m mi + 6 ≤ fg)
    (h : Generated.Parse.Heap) (hn : h.lines.length = mi.nextId) :
    match parseLineBlock fm mi s ts lp with
    | .ok (b, mi') => ∃ h' ps',
        Generated.Parse.input_parseLineBlock isPrintI isSpaceI fg (embP f pre post mi) (posG s) ts (tokG lp) h =
          .ok ((((h.blocks.length + 1 : Nat) : Int), embP f pre post mi'), h') ∧ WF mi' ∧
        h'.cbs = h.cbs ∧ h'.files = h.files ∧ h.lines <+: h'.lines ∧
        h'.blocks = h.blocks ++ [blockG b ps'] ∧ RLines h' ps' b.lines ∧ h'.lines.length = mi'.nextId
    | .error _ =>
        Generated.Parse.input_parseLineBlock isPrintI isSpaceI fg (embP f pre post mi) (posG s) ts (tokG lp) h =
          .error .panic := by
  have key := parseLineBlock_sim (f := f) (pre := pre) (post := post) fm mi s ts lp hw hm fg hfg h hn
  cases hr : parseLineBlock fm mi s ts lp with
  | error e => rw [hr] at key; exact key
  | ok p =>
    rw [hr] at key
    obtain ⟨_, hG, h', ps', rfl, rest⟩ := key
    exact ⟨h', ps', hG, rest⟩

/-- parseStmt (read.go:807): the statement the model RETURNS is appended to `in.file.Stmt` (file object `fo` at `f`) as
    a pointer `ex` to a new Line or a new LineBlock that reifies to it; old objects are untouched -/
theorem input_parseStmt_tie (f : Int) (pre post : List Generated.Parse.Expr) (fm : Nat) (mi : Input) (hw : WF mi)
    (hm : m mi < fm) (fg : Nat) (hfg : m mi + 7 ≤ fg) (h : Generated.Parse.Heap) (fo : Generated.Parse.FileSyntax)
    (hfo : heapGet h.files f = .ok fo) (hn : h.lines.length = mi.nextId) :
    match parseStmt fm mi with
    | .ok (x, mi') => ∃ h' ex,
        Generated.Parse.input_parseStmt isPrintI isSpaceI fg (embP f pre post mi) h = .ok (((), embP f pre post mi'), h') ∧
        WF mi' ∧ h'.cbs = h.cbs ∧ h.lines <+: h'.lines ∧ h.blocks <+: h'.blocks ∧
        h'.files = h.files.set (f.toNat - 1) { fo with Stmt := fo.Stmt ++ [ex] } ∧
        RExpr h' ex x ∧ h'.lines.length = mi'.nextId ∧ NewStmt h h' ex
    | .error _ => Generated.Parse.input_parseStmt isPrintI isSpaceI fg (embP f pre post mi) h = .error .panic := by
  have key := parseStmt_sim (f := f) (pre := pre) (post := post) fm mi hw hm fg hfg h fo hfo hn
  cases hr : parseStmt fm mi with
  | error e => rw [hr] at key; exact key
  | ok p =>
    rw [hr] at key
    obtain ⟨⟨⟨_, gi⟩, h'⟩, hG, ex, rfl, rest⟩ := key
    exact ⟨h', ex, hG, rest⟩

/-- parseFile (read.go:774): allocates the file object (pointer = number of files so far + 1, stored in `in.file`) and
    runs the statement loop; the final graph reifies to the model's statement list and is well-formed -/
theorem input_parseFile_tie (f : Int) (pre post : List Generated.Parse.Expr) (fm : Nat) (mi : Input) (hw : WF mi)
    (hm : m mi < fm) (fg : Nat) (hfg : m mi + 8 ≤ fg) (h : Generated.Parse.Heap) (hn : h.lines.length = mi.nextId) :
    match parseFileLoop fm mi [] none with
    | .ok (stmts, mi') => ∃ h',
        Generated.Parse.input_parseFile isPrintI isSpaceI fg (embP f pre post mi) h =
          .ok (((), embP ((h.files.length + 1 : Nat) : Int) pre post mi'), h') ∧ WF mi' ∧
        RFile h' ((h.files.length + 1 : Nat) : Int) { stmts := stmts } ∧ h'.lines.length = mi'.nextId ∧
        ((Proofs.ModfileC20.idsOf stmts).Nodup → Tie.FnParseHeap.WF h' ((h.files.length + 1 : Nat) : Int))
    | .error _ =>
        Generated.Parse.input_parseFile isPrintI isSpaceI fg (embP f pre post mi) h = .error .panic := by
  have key := parseFile_fn_sim (f := f) (pre := pre) (post := post) fm mi hw hm fg hfg h hn
  cases hr : parseFileLoop fm mi [] none with
  | error e => rw [hr] at key; exact key
  | ok p =>
    rw [hr] at key
    obtain ⟨⟨_, h'⟩, hG, es', rfl, hw', hinv⟩ := key
    exact ⟨h', hG, hw', FInv_RFile hinv, hinv.lines, fun hids => FInv_WF hinv hids⟩

/-! ### non-vacuity of the function ties: both sides evaluated by the kernel -/

/-- the model state after priming the lexer on `data` -/
def primed (data : Bytes) : Input := match readToken (newInput data) with | .ok i => i | .error _ => newInput data

-- readToken / lex on `a b`: the first token is `a`, the second `b`
example : (Generated.Parse.input_readToken isPrintI isSpaceI 7 (lift 0 [] [] (embKT 0 [] (newInput [97, 32, 98])))).toOption.map
      (fun p => p.2.token.text) = some [97] ∧ (readToken (newInput [97, 32, 98])).toOption.map (·.token.text) = some [97] := by
  decide +kernel
example : (Generated.Parse.input_lex isPrintI isSpaceI 6 (embP 1 [] [] (primed [97, 32, 98]))).toOption.map
      (fun p => (p.1.text, p.2.token.text)) = some ([97], [98]) ∧
    (lex (primed [97, 32, 98])).toOption.map (fun p => (p.1.text, p.2.token.text)) = some ([97], [98]) := by
  decide +kernel
-- parseLine on `a b⏎`: ONE Line object, pointer 1, the embedding of the model's line (id 0)
example : (match parseLine 5 (primed [97, 32, 98, 10]),
      Generated.Parse.input_parseLine isPrintI isSpaceI 9 (embP 1 [] [] (primed [97, 32, 98, 10])) default with
    | .ok (l, _), .ok ((p, _), h) => decide (p = 1 ∧ h.lines = [lineG l] ∧ l.token = [[97], [98]] ∧ l.id = 0)
    | _, _ => false) = true := by
  decide +kernel
-- parseLineBlock on the rest of `r (⏎a⏎b⏎)⏎` after `r (`: block object 1 with the line pointers [1, 2]
example : (match parseLineBlock 9 (primed [10, 97, 10, 98, 10, 41, 10]) {} [[114]] {},
      Generated.Parse.input_parseLineBlock isPrintI isSpaceI 14 (embP 1 [] [] (primed [10, 97, 10, 98, 10, 41, 10]))
        (posG {}) [[114]] (tokG {}) default with
    | .ok (b, _), .ok ((p, _), h) => decide (p = 1 ∧ h.blocks = [blockG b [1, 2]] ∧ h.lines = b.lines.map lineG ∧
        b.lines.map (·.id) = [0, 1])
    | _, _ => false) = true := by
  decide +kernel
-- parseStmt on `r (⏎a⏎)⏎` with the file object at pointer 1: `Stmt = [LineBlock 1]`, one line
example : (match parseStmt 9 (primed [114, 32, 40, 10, 97, 10, 41, 10]),
      Generated.Parse.input_parseStmt isPrintI isSpaceI 16 (embP 1 [] [] (primed [114, 32, 40, 10, 97, 10, 41, 10]))
        { (default : Generated.Parse.Heap) with files := [default] } with
    | .ok (.lineBlock b, _), .ok (_, h) => decide (h.files.map (·.Stmt) = [[Generated.Parse.Expr.LineBlock 1]] ∧
        h.blocks = [blockG b [1]] ∧ h.lines = b.lines.map lineG)
    | _, _ => false) = true := by
  decide +kernel
-- parseFile on `//c⏎⏎m⏎`: file object 1 with a comment block and a line
example : (match parseFileLoop 9 (primed [47, 47, 99, 10, 10, 109, 10]) [] none,
      Generated.Parse.input_parseFile isPrintI isSpaceI 16 (embP 0 [] [] (primed [47, 47, 99, 10, 10, 109, 10])) default with
    | .ok (stmts, _), .ok ((_, gi), h) => decide (gi.file = 1 ∧ fileOf h 1 = some { stmts := stmts } ∧ stmts.length = 2)
    | _, _ => false) = true := by
  decide +kernel
-- an unterminated block: both sides fail
example : (match parseStmt 9 (primed [114, 32, 40, 10, 97, 10]),
      Generated.Parse.input_parseStmt isPrintI isSpaceI 16 (embP 1 [] [] (primed [114, 32, 40, 10, 97, 10]))
        { (default : Generated.Parse.Heap) with files := [default] } with
    | .error _, .error .panic => true
    | _, _ => false) = true := by
  decide +kernel

/-! ### `in.readToken(); in.parseFile()` from `newInput` and the empty heap -/

/-- Go's `newInput` (read.go:344; a struct literal, as the driver Drv/GenParse.lean writes it) -/
def gNewInput (data : Bytes) : Generated.Parse.input :=
  { (default : Generated.Parse.input) with complete := data, remaining := data, pos := { Line := 1, LineRune := 1, Byte := 0 } }

/-- the first half of `parse` as the driver composes it: prime the lexer, parse the file into the empty heap -/
def runParseFile (fuel : Nat) (data : Bytes) : M (Generated.Parse.input × Generated.Parse.Heap) := do
  let (_, i1) ← Generated.Parse.input_readToken isPrintI isSpaceI fuel (gNewInput data)
  let ((_, i2), h2) ← Generated.Parse.input_parseFile isPrintI isSpaceI fuel i1 (default : Generated.Parse.Heap)
  pure (i2, h2)

/-- `parseFile_tie`: for every input and fuel ≥ `len(data) + 16`, the regenerated `readToken; parseFile` succeeds iff
    the model's `parseFile` does; then `in.file = 1`, the graph at `in.file` reifies (before comment assignment: name and
    file comments empty) to the model's statement list, `in.comments` are the model's recorded comments, `pre` / `post`
    are still empty, the heap has exactly one Line object per model line (`id = position − 1` is part of `RFile`) and
    is well-formed.  On a syntax error the generated code is `.error .panic`. -/
theorem parseFile_tie (data : Bytes) (fuel : Nat) (hf : data.length + 16 ≤ fuel) :
    match Modfile.parseFile data with
    | .ok (stmts, mi) => ∃ gi h,
        runParseFile fuel data = .ok (gi, h) ∧ gi.file = 1 ∧ gi.pre = [] ∧ gi.post = [] ∧
        gi.comments = mi.commentsRev.reverse.map comG ∧
        RFile h gi.file { stmts := stmts } ∧ Tie.FnParseHeap.WF h gi.file ∧ h.lines.length = mi.nextId
    | .error _ => runParseFile fuel data = .error .panic := by
  unfold runParseFile
  rw [show gNewInput data = lift 0 [] [] (embKT 0 [] (newInput data)) from rfl]
  have hw0 : WF (newInput data) := rfl
  obtain ⟨hG, hP⟩ := readTokenP_eq (f := 0) (pre := []) (post := []) 0 [] (newInput data) hw0 fuel
    (by show data.length + 4 ≤ fuel; omega)
  rw [hG]
  have hids := @Proofs.ModfileC20.parseFile_ids data
  unfold Modfile.parseFile at hids ⊢
  cases hr : readToken (newInput data) with
  | error e => rfl
  | ok i0 =>
    have hw1 := hP i0 hr
    have hle : i0.remaining.length ≤ data.length := by
      rcases Proofs.ModfileLex.readToken_spec (newInput data) with ⟨i', h1, h2, _⟩ | ⟨e, h1, _⟩
      · rw [hr] at h1; cases h1; exact h2
      · rw [hr] at h1; cases h1
    have hn0 : i0.nextId = 0 := Proofs.ModfileC20.readToken_nextId hr
    have hm : m i0 ≤ data.length + 1 := by unfold m; split <;> omega
    have key := input_parseFile_tie 0 [] [] (data.length + 2) i0 hw1 (by omega) fuel (by omega)
      (default : Generated.Parse.Heap) (by rw [hn0]; rfl)
    simp only [hr, ebind_ok] at hids ⊢
    cases hl : parseFileLoop (data.length + 2) i0 [] none with
    | error e =>
      rw [hl] at key
      simp only [key, bind_error]
    | ok p =>
      obtain ⟨stmts, mi⟩ := p
      rw [hl] at key
      obtain ⟨h', hG', hw', hrf, hnl, hwf⟩ := key
      simp only [hG', bind_ok, pure_eq_ok]
      refine ⟨_, h', rfl, rfl, rfl, rfl, embP_comments mi, hrf, hwf ?_, hnl⟩
      exact hids (stmts := stmts) (i' := mi) (by rw [hl])

/-- `// c⏎⏎module m // s⏎⏎require (⏎⇥a v1 // x⏎⏎⇥// w⏎⇥b v2⏎)⏎`: a comment block, a line with a suffix comment, a blank line,
    a block with a suffix comment, a blank-line placeholder and a whole-line comment inside -/
def ex1 : Bytes := [47, 47, 32, 99, 10, 10, 109, 111, 100, 117, 108, 101, 32, 109, 32, 47, 47, 32, 115, 10, 10, 114, 101, 113,
  117, 105, 114, 101, 32, 40, 10, 9, 97, 32, 118, 49, 32, 47, 47, 32, 120, 10, 10, 9, 47, 47, 32, 119, 10, 9, 98, 32,
  118, 50, 10, 41, 10]

/-- `require (⏎a v1⏎`: an unterminated block -/
def ex2 : Bytes := [114, 101, 113, 117, 105, 114, 101, 32, 40, 10, 97, 32, 118, 49, 10]

-- non-vacuity: the graph of the regenerated parser read back (`fileOf` = the driver's read-back) is the model's
-- statement list (3 statements: the block has 2 lines), the recorded comments agree (2 suffix comments)
example : (runParseFile 73 ex1).toOption.map (fun p => (fileOf p.2 p.1.file, p.1.comments, p.1.file)) =
      (Modfile.parseFile ex1).toOption.map (fun p => (some { stmts := p.1 }, p.2.commentsRev.reverse.map comG, 1)) ∧
    (Modfile.parseFile ex1).toOption.map (fun p => (p.1.length, p.2.commentsRev.length, p.2.nextId)) = some (3, 2, 3) := by
  decide +kernel

example : (match runParseFile 31 ex2 with | .error .panic => true | _ => false) = true ∧
    (Modfile.parseFile ex2).toOption.isNone = true := by
  decide +kernel

-- with less fuel than the bound the generated loops do run out
example : (match runParseFile 4 ex2 with | .error .fuel => true | _ => false) = true := by decide +kernel

/-! ### the whole `parse`: readToken, parseFile, `in.file.Name = name`, assignComments -/

open ModVerif.TieFnParseComments (nodeCount StmtP)

/-- `parse` as the driver Drv/GenParse.lean composes it from the regenerated functions -/
def runParse (fuel : Nat) (name data : Bytes) : M (Generated.Parse.input × Generated.Parse.Heap) := do
  let (i2, h2) ← runParseFile fuel data
  let f ← heapGet h2.files i2.file
  let fl ← heapSet h2.files i2.file { f with Name := name }
  let ((_, i3), h3) ← Generated.Parse.input_assignComments fuel i2 { h2 with files := fl }
  pure (i3, h3)

/-- `parse_tie`: for every file name, input and fuel ≥ `len(data) + 16`, the regenerated parser as the driver
    composes it (readToken, parseFile, `in.file.Name = name`, assignComments) succeeds iff the model's `parse` does; then
    `in.file = 1` and the final graph reifies to the model's tree — so the driver's read-back `fileOf` returns exactly
    `Modfile.parse name data`; on a syntax error the generated code is `.error .panic`.  (Uses `assignComments_tie` of
    Tie/FnParseComments.lean; its fuel demand `nodes + comments + 8` is met because the model's tree has at most
    `len(data) + 1` nodes and recorded comments together: `parseFile_size`.) -/
theorem parse_tie (name data : Bytes) (fuel : Nat) (hf : data.length + 16 ≤ fuel) :
    match Modfile.parse name data with
    | .ok t => ∃ gi h, runParse fuel name data = .ok (gi, h) ∧ gi.file = 1 ∧ RFile h gi.file t ∧ fileOf h gi.file = some t
    | .error _ => runParse fuel name data = .error .panic := by
  have h1 := parseFile_tie data fuel hf
  unfold runParse Modfile.parse
  cases hp : Modfile.parseFile data with
  | error e =>
    rw [hp] at h1
    simp only [h1, ebind_error]
  | ok r =>
    obtain ⟨stmts, mi⟩ := r
    rw [hp] at h1
    obtain ⟨gi, h, hG, hfile, hpre, hpost, hcom, hrf, hwf, hnl⟩ := h1
    obtain ⟨f, hget, hrf2, hwf2⟩ := setName_RFile hrf hwf name
    have hsize := parseFile_size hp
    have hsuf := parseFile_noSuffix hp
    obtain ⟨in', h', hA, hR, hfile', _⟩ := Tie.FnParseComments.assignComments_tie (cs := mi.commentsRev.reverse)
      (m := 0) (fuel := fuel) hrf2 hwf2 rfl hcom hpre hpost (by simp) hsuf
      (by simp only [List.length_reverse]; omega)
    simp only [hG, ebind_ok, hget, heapSet_of_get _ hget, hA, pure_eq_ok]
    exact ⟨in', h', rfl, by rw [hfile', hfile], by rw [hfile']; exact hR, by rw [hfile']; exact hR.fileOf⟩

-- non-vacuity: the whole regenerated parse on the example with comments, a blank line and a block = the model's tree
-- (the suffix comments `// s`, `// x` are assigned to the line `module m` and to the block line `a v1`)
example : (runParse 73 [103, 111, 46, 109, 111, 100] ex1).toOption.map (fun p => fileOf p.2 p.1.file) =
      (Modfile.parse [103, 111, 46, 109, 111, 100] ex1).toOption.map some ∧
    (Modfile.parse [103, 111, 46, 109, 111, 100] ex1).toOption.map
      (fun t => (t.stmts.length, (Proofs.ModfileC20.linesOf t.stmts).map (·.comments.suffix.length))) =
      some (3, [1, 1, 0]) := by
  decide +kernel

example : (match runParse 31 [] ex2 with | .error .panic => true | _ => false) = true ∧
    (Modfile.parse [] ex2).toOption.isNone = true := by
  decide +kernel

/-- The op of the correspondence run: on every input the regenerated parser prints exactly what the hand model prints
    (`gmodfile.parsetree` of Drv/GenParse.lean: the tree dump, or `err`).  The check compares both with the real
    implementation on sampled inputs; this is their agreement with each other on ALL inputs. -/
theorem run_tie (d : String) : Drv.GenParse.handle "parsetree" [d] = Drv.GenParse.handleModel "parsetree" [d] := by
  rw [Drv.GenParse.handle.eq_1, Drv.GenParse.handleModel.eq_1]
  cases hd : Drv.hx d with
  | none => rfl
  | some data =>
    show some _ = some _
    congr 1
    have key := parse_tie Drv.Modfile.fileName data (4 * data.length + 64) (by omega)
    have hrun : ∀ (r : M (Generated.Parse.input × Generated.Parse.Heap)),
        r = runParse (4 * data.length + 64) Drv.Modfile.fileName data →
        (match r with
          | .ok (i, h) => (match Drv.GenParse.fileOf h i.file with | some f => Drv.Modfile.showFile f | none => "bad-heap")
          | .error _ => "err") =
        (match Modfile.parse Drv.Modfile.fileName data with
          | .error _ => "err"
          | .ok f => Drv.Modfile.showFile f) := by
      intro r hr
      subst hr
      cases hp : Modfile.parse Drv.Modfile.fileName data with
      | error e => rw [hp] at key; rw [key]
      | ok t =>
        rw [hp] at key
        obtain ⟨gi, h, hG, _, _, hfo⟩ := key
        rw [hG]
        have : Drv.GenParse.fileOf h gi.file = some t := hfo
        simp only [this]
    refine hrun _ ?_
    unfold runParse runParseFile gNewInput
    simp only [bind_assoc, pure_bind]

end ModVerif.Tie.FnParse
