/-
  Tie theorems, sumdb/note/note.go: `NewVerifier` and `NewSigner` regenerated from the Go source by go2lean
  (`Generated/FnNoteKey.lean`, with the trivial methods `verifier.Name` … `signer.Sign`) compute exactly what the hand model
  (`Model/Note.lean`: `NewVerifier`, `NewSigner`, `parseHash16`) says, for EVERY key string — in particular no panic in
  `key[0]`, `key[1:]`, `key[32:]`.

  Instantiation of the abstract parameters of the generated code, as in Drv/GenNoteKey.lean: `b64dec := b64decI`,
  `isSpace := isSpaceI` (Proofs/TieFnNoteUtf8.lean), `shaSum acc pre := pre ++ sha acc` with the model's abstract `sha`
  (`h.Sum(nil)` of a SHA-256 accumulator), `edVerify` the model's `edVerify`; for NewSigner
  `ed25519.NewKeyFromSeed seed := seed ++ edPub seed` with the model's (arbitrary) `edPub`, and any `ed25519.Sign` function
  `edSignG` on 64-byte private keys that agrees with the model's seed-indexed `edSign` (`edSignG (seed ++ edPub seed) = edSign seed`
  for 32-byte seeds; e.g. `fun key => edSign (key.take 32)`).  `strconv.ParseUint` is the run-time vocabulary
  `GoRt.parseUint` (Basic/GoRtStrconv.lean).

  `embedVerifier` / `embedSigner` (Proofs/TieFnNoteKey.lean) map the model's `Except KeyErr _` to the result of the generated
  function: `.ok v ↦ .ok (⟨v.name, v.hash.toNat, v.verify⟩, nil)`, `.error .id / .alg / .hash ↦ .ok (zero value, errVerifierID /
  errVerifierAlg / errVerifierHash)` (resp. `errSigner…`), and the model's `.error .panic` (a `sha` returning fewer than four
  bytes: `binary.BigEndian.Uint32` in `keyHash` panics) ↦ `.error .panic`, as in `keyHash_tie`.
-/
import ModVerif.Generated.FnNoteKey
import ModVerif.Model.Note
import ModVerif.Tie.FnNote
import ModVerif.Tie.FnNoteSign
import ModVerif.Proofs.TieFnNoteKey
namespace ModVerif.Tie.FnNoteKey
open ModVerif ModVerif.GoRt ModVerif.TieFnNote ModVerif.TieFnNoteSign ModVerif.TieFnNoteKey

/-- `len(hash16) == 8 && strconv.ParseUint(hash16, 16, 32)` succeeds, exactly when the model's `parseHash16` returns a value
    (exactly eight hex digits, either case); the parsed number is then that value (eight hex digits always fit 32 bits, so
    the range error of ParseUint cannot occur behind the length test) -/
theorem parseUint_hash16 (hash16 : Bytes) :
    ((len hash16 = 8 ∧ (parseUint hash16 16 32).2 = none) ↔ ∃ h, Note.parseHash16 hash16 = some h) ∧
    ∀ h, Note.parseHash16 hash16 = some h → parseUint hash16 16 32 = (Int.ofNat h.toNat, none) := by
  refine ⟨⟨fun hc => ?_, fun ⟨h, hp⟩ => ?_⟩, fun h hp => (parseHash16_some hp).2⟩
  · cases hp : Note.parseHash16 hash16 with
    | none => exact absurd hc (parseHash16_none hp)
    | some h => exact ⟨h, rfl⟩
  · obtain ⟨h8, hu⟩ := parseHash16_some hp
    exact ⟨h8, by rw [hu]⟩

example : parseUint (B "00fF0a2b") 16 32 = (16714283, none) ∧ Note.parseHash16 (B "00fF0a2b") = some 16714283 ∧
    len (B "00fF0a2b") = 8 ∧
    (parseUint (B "00fg0a2b") 16 32).2 ≠ none ∧ Note.parseHash16 (B "00fg0a2b") = none ∧
    (parseUint (B "0000001") 16 32).2 = none ∧ len (B "0000001") ≠ 8 ∧ Note.parseHash16 (B "0000001") = none ∧
    (parseUint (B "100000000") 16 32).2 ≠ none ∧ Note.parseHash16 (B "100000000") = none := by decide +kernel

/-- `NewVerifier(vkey)`, every key string, hash function and `ed25519.Verify`: the complete result, the panic of
    `binary.BigEndian.Uint32` (only with a `sha` of fewer than four bytes) included -/
theorem NewVerifier_tie (sha : Bytes → Bytes) (edVerify : Bytes → Bytes → Bytes → Bool) (vkey : Bytes) :
    Generated.NoteKey.NewVerifier b64decI edVerify isSpaceI (fun acc pre => pre ++ sha acc) vkey =
      embedVerifier (Note.NewVerifier sha edVerify vkey) :=
  NewVerifier_eq sha edVerify vkey

/-- the model's NewVerifier reports a panic only for a hash function with fewer than four bytes of output -/
theorem NewVerifier_no_panic (sha : Bytes → Bytes) (hsha : ∀ x, 4 ≤ (sha x).length)
    (edVerify : Bytes → Bytes → Bytes → Bool) (vkey : Bytes) :
    Note.NewVerifier sha edVerify vkey ≠ .error .panic := by
  have hk : ∀ n k, Note.keyHash sha n k ≠ none := fun n k h => by
    obtain ⟨kh, h', _⟩ := Tie.FnNoteSign.keyHash_tie_ok sha hsha n k
    rw [h] at h'; cases h'
  unfold Note.NewVerifier
  repeat' split
  all_goals first
    | (simp; done)
    | (exfalso; apply hk _ _; assumption)

/-- `NewVerifier` for a hash function with at least four bytes of output (SHA-256): never a panic, the result is the
    `(Verifier, error)` pair of the Go function -/
theorem NewVerifier_tie_ok (sha : Bytes → Bytes) (hsha : ∀ x, 4 ≤ (sha x).length)
    (edVerify : Bytes → Bytes → Bytes → Bool) (vkey : Bytes) :
    ∃ r, Generated.NoteKey.NewVerifier b64decI edVerify isSpaceI (fun acc pre => pre ++ sha acc) vkey = .ok r ∧
      embedVerifier (Note.NewVerifier sha edVerify vkey) = .ok r := by
  rw [NewVerifier_tie]
  have hn := NewVerifier_no_panic sha hsha edVerify vkey
  cases hr : Note.NewVerifier sha edVerify vkey with
  | ok v => exact ⟨_, rfl, rfl⟩
  | error e =>
    cases e with
    | panic => exact absurd hr hn
    | id => exact ⟨_, rfl, rfl⟩
    | alg => exact ⟨_, rfl, rfl⟩
    | hash => exact ⟨_, rfl, rfl⟩

/-- a toy hash function: always 00 00 00 01 -/
def exSha : Bytes → Bytes := fun _ => [0, 0, 0, 1]
/-- "a+00000001+" ‖ base64(0x01 ‖ 32 zero bytes): accepted with `exSha` -/
def exVkey : Bytes := [97, 43, 48, 48, 48, 48, 48, 48, 48, 49, 43] ++ B64.b64enc (1 :: List.replicate 32 0)

/-- what the examples compare (functions are not comparable): name, key hash, error -/
def obsV (r : M (GVerifier × Option String)) : Option (Bytes × Int × Option String) :=
  match r with
  | .ok (v, e) => some (v.Name, v.KeyHash, e)
  | .error _ => none

-- accepted; bad hash field (seven digits); wrong hash; unknown algorithm; short key; a `sha` of three bytes panics
example :
    obsV (Generated.NoteKey.NewVerifier b64decI (fun _ _ _ => true) isSpaceI (fun acc pre => pre ++ exSha acc) exVkey) =
      some (B "a", 1, none) ∧
    obsV (embedVerifier (Note.NewVerifier exSha (fun _ _ _ => true) exVkey)) = some (B "a", 1, none) := by decide +kernel
example :
    obsV (Generated.NoteKey.NewVerifier b64decI (fun _ _ _ => true) isSpaceI (fun acc pre => pre ++ exSha acc)
      (B "a+0000001+AQ==")) = some ([], 0, some "errVerifierID") ∧
    obsV (embedVerifier (Note.NewVerifier exSha (fun _ _ _ => true) (B "a+0000001+AQ=="))) = some ([], 0, some "errVerifierID") := by decide +kernel
example :
    obsV (Generated.NoteKey.NewVerifier b64decI (fun _ _ _ => true) isSpaceI (fun acc pre => pre ++ exSha acc)
      (B "a+00000002+AQ==")) = some ([], 0, some "errVerifierHash") ∧
    obsV (embedVerifier (Note.NewVerifier exSha (fun _ _ _ => true) (B "a+00000002+AQ=="))) = some ([], 0, some "errVerifierHash") := by decide +kernel
example :
    obsV (Generated.NoteKey.NewVerifier b64decI (fun _ _ _ => true) isSpaceI (fun acc pre => pre ++ exSha acc)
      (B "a+00000001+Ag==")) = some ([], 0, some "errVerifierAlg") ∧
    obsV (embedVerifier (Note.NewVerifier exSha (fun _ _ _ => true) (B "a+00000001+Ag=="))) = some ([], 0, some "errVerifierAlg") := by decide +kernel
example :
    obsV (Generated.NoteKey.NewVerifier b64decI (fun _ _ _ => true) isSpaceI (fun acc pre => pre ++ exSha acc)
      (B "a+00000001+AQ==")) = some ([], 0, some "errVerifierID") ∧
    obsV (embedVerifier (Note.NewVerifier exSha (fun _ _ _ => true) (B "a+00000001+AQ=="))) = some ([], 0, some "errVerifierID") := by decide +kernel
example :
    obsV (Generated.NoteKey.NewVerifier b64decI (fun _ _ _ => true) isSpaceI (fun acc pre => pre ++ (fun _ => [0, 0, 1]) acc)
      exVkey) = none ∧
    obsV (embedVerifier (Note.NewVerifier (fun _ => [0, 0, 1]) (fun _ _ _ => true) exVkey)) = none := by decide +kernel

-- the accepted verifier verifies with the 32 key bytes
example : (match Generated.NoteKey.NewVerifier b64decI (fun pub msg sig => pub == List.replicate 32 0 && msg == sig) isSpaceI
      (fun acc pre => pre ++ exSha acc) exVkey with
    | .ok (v, _) => (v.Verify [1] [1], v.Verify [1] [2])
    | .error _ => (false, false)) = (true, false) := by decide +kernel

/-- `NewSigner(skey)`, every key string, hash function, public-key derivation `edPub` and signing function: the complete
    result, the panic of `binary.BigEndian.Uint32` (only with a `sha` of fewer than four bytes) included.
    `ed25519.NewKeyFromSeed(seed) = seed ‖ edPub seed`; `edSignG` is `ed25519.Sign` on the 64-byte private key. -/
theorem NewSigner_tie (sha : Bytes → Bytes) (edPub : Bytes → Bytes) (edSign edSignG : Bytes → Bytes → Bytes)
    (hsign : ∀ seed msg, seed.length = 32 → edSignG (seed ++ edPub seed) msg = edSign seed msg) (skey : Bytes) :
    Generated.NoteKey.NewSigner b64decI (fun seed => seed ++ edPub seed) edSignG isSpaceI (fun acc pre => pre ++ sha acc) skey =
      embedSigner (Note.NewSigner sha edPub edSign skey) :=
  NewSigner_eq sha edPub edSign edSignG hsign skey

/-- the instance without any hypothesis: `ed25519.Sign(key, msg)` signs with the seed half of the private key -/
theorem NewSigner_tie_take (sha : Bytes → Bytes) (edPub : Bytes → Bytes) (edSign : Bytes → Bytes → Bytes) (skey : Bytes) :
    Generated.NoteKey.NewSigner b64decI (fun seed => seed ++ edPub seed) (fun key => edSign (key.take 32)) isSpaceI
        (fun acc pre => pre ++ sha acc) skey =
      embedSigner (Note.NewSigner sha edPub edSign skey) :=
  NewSigner_tie sha edPub edSign _ (fun seed msg hl => by simp [← hl]) skey

/-- the model's NewSigner reports a panic only for a hash function with fewer than four bytes of output -/
theorem NewSigner_no_panic (sha : Bytes → Bytes) (hsha : ∀ x, 4 ≤ (sha x).length) (edPub : Bytes → Bytes)
    (edSign : Bytes → Bytes → Bytes) (skey : Bytes) :
    Note.NewSigner sha edPub edSign skey ≠ .error .panic := by
  have hk : ∀ n k, Note.keyHash sha n k ≠ none := fun n k h => by
    obtain ⟨kh, h', _⟩ := Tie.FnNoteSign.keyHash_tie_ok sha hsha n k
    rw [h] at h'; cases h'
  unfold Note.NewSigner
  repeat' split
  all_goals first
    | (simp; done)
    | (simp only []
       split
       · exfalso; apply hk _ _; assumption
       · split <;> simp)

/-- `NewSigner` for a hash function with at least four bytes of output (SHA-256): never a panic -/
theorem NewSigner_tie_ok (sha : Bytes → Bytes) (hsha : ∀ x, 4 ≤ (sha x).length) (edPub : Bytes → Bytes)
    (edSign edSignG : Bytes → Bytes → Bytes)
    (hsign : ∀ seed msg, seed.length = 32 → edSignG (seed ++ edPub seed) msg = edSign seed msg) (skey : Bytes) :
    ∃ r, Generated.NoteKey.NewSigner b64decI (fun seed => seed ++ edPub seed) edSignG isSpaceI
        (fun acc pre => pre ++ sha acc) skey = .ok r ∧
      embedSigner (Note.NewSigner sha edPub edSign skey) = .ok r := by
  rw [NewSigner_tie sha edPub edSign edSignG hsign]
  have hn := NewSigner_no_panic sha hsha edPub edSign skey
  cases hr : Note.NewSigner sha edPub edSign skey with
  | ok v => exact ⟨_, rfl, rfl⟩
  | error e =>
    cases e with
    | panic => exact absurd hr hn
    | id => exact ⟨_, rfl, rfl⟩
    | alg => exact ⟨_, rfl, rfl⟩
    | hash => exact ⟨_, rfl, rfl⟩

/-- "PRIVATE+KEY+a+00000001+" ‖ base64(0x01 ‖ 32 bytes 07): accepted with `exSha` -/
def exSkey : Bytes :=
  [80, 82, 73, 86, 65, 84, 69, 43, 75, 69, 89, 43, 97, 43, 48, 48, 48, 48, 48, 48, 48, 49, 43] ++
    B64.b64enc (1 :: List.replicate 32 7)

def obsS (r : M (GSigner × Option String)) : Option (Bytes × Int × Bytes × Option String) :=
  match r with
  | .ok (s, e) => some (s.Name, s.KeyHash, (s.Sign [5]).1, e)
  | .error _ => none

/-- toy signature: the seed's first byte, then the message -/
def exSign : Bytes → Bytes → Bytes := fun seed msg => seed.take 1 ++ msg

-- accepted (and signs with the seed); "PRIVATE" missing; wrong hash; unknown algorithm; a `sha` of three bytes panics
example :
    obsS (Generated.NoteKey.NewSigner b64decI (fun seed => seed ++ List.replicate 32 0) (fun key => exSign (key.take 32))
      isSpaceI (fun acc pre => pre ++ exSha acc) exSkey) = some (B "a", 1, [7, 5], none) ∧
    obsS (embedSigner (Note.NewSigner exSha (fun _ => List.replicate 32 0) exSign exSkey)) = some (B "a", 1, [7, 5], none) := by decide +kernel
example :
    obsS (Generated.NoteKey.NewSigner b64decI (fun seed => seed ++ List.replicate 32 0) (fun key => exSign (key.take 32))
      isSpaceI (fun acc pre => pre ++ exSha acc) (exSkey.drop 1)) = some ([], 0, [], some "errSignerID") ∧
    obsS (embedSigner (Note.NewSigner exSha (fun _ => List.replicate 32 0) exSign (exSkey.drop 1))) =
      some ([], 0, [], some "errSignerID") := by decide +kernel
example :
    obsS (Generated.NoteKey.NewSigner b64decI (fun seed => seed ++ List.replicate 32 0) (fun key => exSign (key.take 32))
      isSpaceI (fun acc pre => pre ++ (fun _ => [0, 0, 0, 2]) acc) exSkey) = some ([], 0, [], some "errSignerHash") ∧
    obsS (embedSigner (Note.NewSigner (fun _ => [0, 0, 0, 2]) (fun _ => List.replicate 32 0) exSign exSkey)) =
      some ([], 0, [], some "errSignerHash") := by decide +kernel
example :
    obsS (Generated.NoteKey.NewSigner b64decI (fun seed => seed ++ List.replicate 32 0) (fun key => exSign (key.take 32))
      isSpaceI (fun acc pre => pre ++ exSha acc) (B "PRIVATE+KEY+a+00000001+Ag==")) = some ([], 0, [], some "errSignerAlg") ∧
    obsS (embedSigner (Note.NewSigner exSha (fun _ => List.replicate 32 0) exSign (B "PRIVATE+KEY+a+00000001+Ag=="))) =
      some ([], 0, [], some "errSignerAlg") := by decide +kernel
example :
    obsS (Generated.NoteKey.NewSigner b64decI (fun seed => seed ++ List.replicate 32 0) (fun key => exSign (key.take 32))
      isSpaceI (fun acc pre => pre ++ (fun _ => [0, 0, 1]) acc) exSkey) = none ∧
    obsS (embedSigner (Note.NewSigner (fun _ => [0, 0, 1]) (fun _ => List.replicate 32 0) exSign exSkey)) = none := by decide +kernel

end ModVerif.Tie.FnNoteKey
