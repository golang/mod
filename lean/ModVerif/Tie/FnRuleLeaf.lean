/-
  Tie: the LEAF FUNCTIONS of the directive layer of go.mod / go.work parsing, regenerated from modfile/rule.go on every check
  (Generated/FnRule.lean, namespace ModVerif.Generated.Rule): MustQuote, AutoQuote, IsDirectoryPath, isIndirect,
  parseString, parseVersion, parseVersionInterval, modulePathMajor, parseDirectiveComment, parseDeprecation, parseReplace
  compute what the hand model (Model/Modfile/Rule.lean) says.

  The generated code works on a HEAP (`Rule.Heap`); a Go `[]string` that aliases the tail of a line's tokens is a VIEW
  `TokRef = (owner line pointer, offset)`.  Vocabulary (Proofs/TieFnRuleRep.lean): `lineG l` is the heap object of the
  model line `l`; `TokView h r pre toks` says that the view `r` denotes the tokens `toks` of its owner line, which come
  after the tokens `pre` of that line; `setToksH h p ts` is the heap after the tokens of the line at `p` were replaced by
  `ts` (every other object untouched: `setToksH_*`, `heapGet_setToksH_other`); `errAbs e k`: the Go error value `e` is an
  error of the model's kind `k` (`errStrs`: one format literal per kind, wrapped errors as `Outer|inner`).

  Parameters of the regenerated code are instantiated as the driver Drv/GenRule.lean runs them against the real
  implementation on every check: `isPrintI`, `Quote.quote`, `unquoteI`, `deprecatedSubI`, and the version fixer `fixG fx` for
  a model fixer `fx : Option Modfile.Fixer` (plain error ↦ "fix-plain", `*module.ModuleError` ↦ "ModuleError|fix-mod").

  Shape of the statements.  Functions with an in-out `*string` return `(((value, err), new token), heap)`.
  * `parseString_tie`, `parseVersion_tie`: equations with `psOut` / `pvOut`, which are the model's `parseString` /
    `parseVersion` in Go's result shape (`pvOut_ok`, `pvOut_error`; `parseVersion_error_kind`: the error is of the model's
    kind); the token is rewritten exactly when the model rewrites it, the heap is unchanged.
  * `parseVersionInterval_tie`, `parseReplace_tie`: equations with `pviOut` / `prOut`, the Go function on a token LIST in
    rule.go's branch order; `parseVersionInterval_model` / `parseReplace_model` state that these are the hand model's
    functions (`PviRel`, `PrRel`): same rewritten tokens, same interval / a NEW `Replace` object with the model's fields /
    a NEW `Error` object at the line's start with an error of the model's kind; `parseVersionInterval_view`: the returned
    view denotes the model's remaining tokens.  `parseVersionInterval_sim`, `parseReplace_sim` put both together.
  * Fuel: `4·|token| + 1` (parseString: AutoQuote runs on the unquoted value), `8·|token| + 1` (parseVersion),
    `8·Σ|tokens| + 1` (parseVersionInterval, parseReplace), plus for parseReplace `2·|old version|` for
    module.CheckPathMajor (the fixed version is not bounded by the token: `(prOut …).vlen`); number of comments + 3
    (parseDirectiveComment).

  Helper lemmas: Proofs/TieFnRuleRep.lean (shared), Proofs/TieFnRuleLeaf{A..D}.lean.
-/
import ModVerif.Generated.FnRule
import ModVerif.Model.Modfile.Rule
import ModVerif.Drv.GenRule
import ModVerif.Proofs.TieFnRuleRep
import ModVerif.Proofs.TieFnRuleLeafA
import ModVerif.Proofs.TieFnRuleLeafB
import ModVerif.Proofs.TieFnRuleLeafC
import ModVerif.Proofs.TieFnRuleLeafD
namespace ModVerif.Tie.FnRuleLeaf
open ModVerif ModVerif.GoRt ModVerif.Generated ModVerif.Tie.FnRuleRep
open ModVerif.Tie.FnRuleLeafA ModVerif.Tie.FnRuleLeafB ModVerif.Tie.FnRuleLeafC ModVerif.Tie.FnRuleLeafD
open ModVerif.Drv.GenModfile (isPrintI unquoteI)
open ModVerif.Drv.GenRule (fixG deprecatedSubI parseSynI)

/-! ### MustQuote, AutoQuote, IsDirectoryPath (the same text as in Generated/FnModfile.lean) -/

theorem MustQuote_tie (s : Bytes) (fuel : Nat) (hf : s.length + 1 ≤ fuel) :
    Rule.MustQuote isPrintI fuel s = .ok (Modfile.mustQuote s) := by
  rw [MustQuote_eq]; exact Tie.FnModfile.MustQuote_tie s fuel hf

example : Rule.MustQuote isPrintI 4 [97, 32, 98] = .ok true ∧ Modfile.mustQuote [97, 32, 98] = true := by decide +kernel
example : Rule.MustQuote isPrintI 2 [40] = .ok false ∧ Modfile.mustQuote [40] = false := by decide +kernel

theorem AutoQuote_tie (s : Bytes) (fuel : Nat) (hf : s.length + 1 ≤ fuel) :
    Rule.AutoQuote isPrintI Quote.quote fuel s = .ok (Modfile.autoQuote s) :=
  AutoQuote_spec s fuel hf

example : Rule.AutoQuote isPrintI Quote.quote 4 [97, 32, 98] = .ok [34, 97, 32, 98, 34] ∧
    Modfile.autoQuote [97, 32, 98] = [34, 97, 32, 98, 34] := by decide +kernel

theorem IsDirectoryPath_tie (ns : Bytes) : Rule.IsDirectoryPath ns = .ok (Modfile.isDirectoryPath ns) :=
  IsDirectoryPath_spec ns

example : Rule.IsDirectoryPath [46, 47, 120] = .ok true ∧ Modfile.isDirectoryPath [46, 47, 120] = true := by decide +kernel
example : Rule.IsDirectoryPath [120, 47, 121] = .ok false ∧ Modfile.isDirectoryPath [120, 47, 121] = false := by decide +kernel

/-! ### a concrete heap for the examples: a small go.mod loaded by the driver's `parseSynI` -/

/-- five statements; the line pointers are 1 … 5 in this order -/
def exSrc : Bytes := B ("require a.b/c v1.0.0 // indirect\n" ++ "retract [v1.0.0, \"v1.1.0\"] // why\n" ++
  "replace a.b/c v1.0.0 => ./d\n" ++ "// Deprecated: use x\nmodule m\n" ++ "replace a.b/c => a.b/d@v1\n")

/-- the character-wise form of the text (`B_lit` for a text written as five pieces); an evaluation over `exHeap` /
    `exLine` first rewrites with the defining equations (`rw [exHeap, exLine, exLines, exSrc_lit]`) -/
theorem exSrc_lit {c1 c2 c3 c4 c5 : List Char}
    (h : exSrc = B (String.ofList c1 ++ String.ofList c2 ++ String.ofList c3 ++ String.ofList c4 ++ String.ofList c5) := by rfl) :
    exSrc = (c1 ++ c2 ++ c3 ++ c4 ++ c5).flatMap String.utf8EncodeChar := by
  rw [h, B_append, B_append, B_append, B_append]; simp only [B_ofList, List.flatMap_append]

def exHeap : Rule.Heap :=
  match parseSynI (B "go.mod") exSrc default with
  | .ok (_, h) => h
  | .error _ => default

/-- the model's tree -/
def exLines : List Modfile.Line :=
  match Modfile.parse (B "go.mod") exSrc with
  | .ok fs => fs.allLines
  | .error _ => []

def exLine (i : Nat) : Modfile.Line := exLines.getD i default

/-- the five line objects of the loaded heap are the embeddings of the model's five lines -/
example : exLines.length = 5 ∧ ∀ i ∈ [0, 1, 2, 3, 4], heapGet exHeap.lines ((i + 1 : Nat) : Int) = .ok (lineG (exLine i)) := by
  simp only [List.forall_mem_cons, List.not_mem_nil, false_imp_iff, implies_true, and_true]
  rw [exHeap, exLine, exLine, exLine, exLine, exLine, exLines, exSrc_lit]; decide +kernel

/-! ### isIndirect -/

theorem isIndirect_tie {w : Rule.Heap} {p : Int} {l : Modfile.Line} (hg : heapGet w.lines p = .ok (lineG l)) :
    Rule.isIndirect p w = .ok (Modfile.isIndirect l, w) :=
  isIndirect_spec hg

-- the `require` line is marked indirect, the `retract` line is not
example : (Rule.isIndirect 1 exHeap).toOption.map (·.1) = some true ∧ Modfile.isIndirect (exLine 0) = true ∧
    (Rule.isIndirect 2 exHeap).toOption.map (·.1) = some false ∧ Modfile.isIndirect (exLine 1) = false := by
  rw [exHeap, exLine, exLine, exLines, exSrc_lit]; decide +kernel

/-! ### parseString -/

/-- parseString: value, error, rewritten token are the model's (`psOut`), the heap is unchanged -/
theorem parseString_tie (s : Bytes) (fuel : Nat) (hf : 4 * s.length + 1 ≤ fuel) (w : Rule.Heap) :
    Rule.parseString isPrintI Quote.quote unquoteI fuel s w =
      .ok ((match Modfile.parseString s with
            | some (t, tok) => ((t, none), tok)
            | none => (([], TieFnModfile.parseStringErr s), s)), w) :=
  parseString_spec s fuel hf w

-- "\"ab\"" ↦ value ab, token rewritten to ab;  a'b is an error, token kept
example : (Rule.parseString isPrintI Quote.quote unquoteI 17 [34, 97, 98, 34] exHeap).toOption.map (·.1) =
      some (([97, 98], none), [97, 98]) ∧ Modfile.parseString [34, 97, 98, 34] = some ([97, 98], [97, 98]) := by decide +kernel
example : (Rule.parseString isPrintI Quote.quote unquoteI 13 [97, 39, 98] exHeap).toOption.map (·.1) =
      some (([], some "unquoted string cannot contain quote"), [97, 39, 98]) ∧ Modfile.parseString [97, 39, 98] = none := by
  decide +kernel

/-! ### parseVersion -/

/-- parseVersion, every branch (unquote error, fixer plain error, fixer ModuleError, not canonical, success): value, error
    and rewritten token are `pvOut`, i.e. the model's `parseVersion` in Go's shape; the heap is unchanged -/
theorem parseVersion_tie (verb path s : Bytes) (fx : Option Modfile.Fixer) (fuel : Nat) (hf : 8 * s.length + 1 ≤ fuel)
    (w : Rule.Heap) :
    Rule.parseVersion isPrintI Quote.quote unquoteI fuel verb path s (fixG fx) w =
      .ok ((match Modfile.parseVersion path s fx with
            | (tok, .ok v) => ((v, none), tok)
            | (tok, .error k) => (([], parseVersionErr s k), tok)), w) :=
  parseVersion_spec verb path s fx fuel hf w

/-- the error value is of the model's kind -/
theorem parseVersion_error_kind {path s : Bytes} {fx : Option Modfile.Fixer} {tok : Bytes} {k : Modfile.RuleErrKind}
    (h : Modfile.parseVersion path s fx = (tok, .error k)) : errAbs (parseVersionErr s k) k :=
  parseVersion_errAbs h

-- no fixer: v1.2 is canonicalised (token rewritten), "x" is not a version; with the stub fixer: latest ↦ v1.0.0,
-- bad… a plain error, modbad… a ModuleError
example : (Rule.parseVersion isPrintI Quote.quote unquoteI 40 [] [97] (B "v1.2") (fixG none) exHeap).toOption.map (·.1) =
      some ((B "v1.2.0", none), B "v1.2.0") ∧ Modfile.parseVersion [97] (B "v1.2") none = (B "v1.2.0", .ok (B "v1.2.0")) := by
  decide +kernel
example : (Rule.parseVersion isPrintI Quote.quote unquoteI 40 [] [97] (B "x") (fixG none) exHeap).toOption.map (·.1) =
      some (([], some "Error|InvalidVersionError|must be of the form v1.2.3"), B "x") ∧
    Modfile.parseVersion [97] (B "x") none = (B "x", .error .versionNotCanonical) := by decide +kernel
example : (Rule.parseVersion isPrintI Quote.quote unquoteI 60 [] [97] (B "latest") (fixG (some Modfile.fixStub)) exHeap).toOption.map (·.1) =
      some ((B "v1.0.0", none), B "v1.0.0") ∧
    Modfile.parseVersion [97] (B "latest") (some Modfile.fixStub) = (B "v1.0.0", .ok (B "v1.0.0")) := by decide +kernel
example : (Rule.parseVersion isPrintI Quote.quote unquoteI 60 [] [97] (B "badx") (fixG (some Modfile.fixStub)) exHeap).toOption.map (·.1) =
      some (([], some "fix-plain"), B "badx") ∧
    Modfile.parseVersion [97] (B "badx") (some Modfile.fixStub) = (B "badx", .error .fixError) := by decide +kernel
example : (Rule.parseVersion isPrintI Quote.quote unquoteI 60 [] [97] (B "modbadx") (fixG (some Modfile.fixStub)) exHeap).toOption.map (·.1) =
      some (([], some "Error|fix-mod"), B "modbadx") ∧
    Modfile.parseVersion [97] (B "modbadx") (some Modfile.fixStub) = (B "modbadx", .error .fixModuleError) := by decide +kernel
example : (Rule.parseVersion isPrintI Quote.quote unquoteI 60 [] [97] (B "\"v1") (fixG none) exHeap).toOption.map (·.1) =
      some (([], some "Error|InvalidVersionError|invalid syntax"), B "\"v1") ∧
    Modfile.parseVersion [97] (B "\"v1") none = (B "\"v1", .error .versionString) := by decide +kernel

/-! ### modulePathMajor -/

theorem modulePathMajor_tie (path : Bytes) (fuel : Nat) (hf : path.length + 1 ≤ fuel) :
    Rule.modulePathMajor fuel path = .ok (match Modfile.modulePathMajor path with
      | some major => (major, none)
      | none => ([], some "invalid module path")) :=
  modulePathMajor_spec path fuel hf

example : Rule.modulePathMajor 10 (B "a.b/v2") = .ok (B "/v2", none) ∧ Modfile.modulePathMajor (B "a.b/v2") = some (B "/v2") ∧
    Rule.modulePathMajor 10 (B "a.b/v1") = .ok ([], some "invalid module path") ∧ Modfile.modulePathMajor (B "a.b/v1") = none := by
  decide +kernel

/-! ### parseDirectiveComment, parseDeprecation -/

/-- `block` is nil (`bc = none`) or a block object of the heap whose comments are `bc` (`BlockArg`) -/
theorem parseDirectiveComment_tie {w : Rule.Heap} {block p : Int} {l : Modfile.Line} {bc : Option Modfile.Comments}
    (hg : heapGet w.lines p = .ok (lineG l)) (hb : BlockArg w block bc) (fuel : Nat)
    (hf : comLen l.comments + (bc.map comLen).getD 0 + 3 ≤ fuel) :
    Rule.parseDirectiveComment fuel block p w = .ok (Modfile.parseDirectiveComment bc l.comments, w) :=
  parseDirectiveComment_spec hg hb fuel hf

theorem parseDeprecation_tie {w : Rule.Heap} {block p : Int} {l : Modfile.Line} {bc : Option Modfile.Comments}
    (hg : heapGet w.lines p = .ok (lineG l)) (hb : BlockArg w block bc) (fuel : Nat)
    (hf : comLen l.comments + (bc.map comLen).getD 0 + 3 ≤ fuel) :
    Rule.parseDeprecation deprecatedSubI fuel block p w = .ok (Modfile.parseDeprecation bc l.comments, w) :=
  parseDeprecation_spec hg hb fuel hf

-- the rationale of the retract line, the deprecation message of the module line
example : (Rule.parseDirectiveComment 10 0 2 exHeap).toOption.map (·.1) = some (B "why") ∧
    Modfile.parseDirectiveComment none (exLine 1).comments = B "why" := by
  rw [exHeap, exLine, exLines, exSrc_lit]; decide +kernel
example : (Rule.parseDeprecation deprecatedSubI 10 0 4 exHeap).toOption.map (·.1) = some (B "use x") ∧
    Modfile.parseDeprecation none (exLine 3).comments = B "use x" := by
  rw [exHeap, exLine, exLines, exSrc_lit]; decide +kernel

/-! ### parseVersionInterval -/

/-- parseVersionInterval on a view: interval, error, the returned view (the argument advanced by the number of consumed
    tokens) and the heap (the line's tokens after the in-place stores of parseVersion) are those of `pviOut`, the Go
    function on the token list -/
theorem parseVersionInterval_tie {h : Rule.Heap} {r : Rule.TokRef} {pre toks : List Bytes} (v : TokView h r pre toks)
    (verb path : Bytes) (fx : Option Modfile.Fixer) (fuel : Nat) (hf : 8 * tokSum toks + 1 ≤ fuel) :
    Rule.parseVersionInterval isPrintI Quote.quote unquoteI fuel verb path r (fixG fx) h =
      .ok ((((pviOut path toks fx).vi, (pviOut path toks fx).err), { r with lo := r.lo + (pviOut path toks fx).dropped }),
        setToksH h r.owner (pre ++ (pviOut path toks fx).toks)) :=
  parseVersionInterval_spec v verb path fx fuel hf

/-- `pviOut` is the hand model's parseVersionInterval: the same tokens are rewritten; on success the same interval and the
    remaining tokens are the model's, on failure an error of the model's kind -/
theorem parseVersionInterval_model (path : Bytes) (toks : List Bytes) (fx : Option Modfile.Fixer) :
    PviRel (pviOut path toks fx) (Modfile.parseVersionInterval path toks fx) :=
  pviOut_model path toks fx

/-- the returned view denotes the remaining tokens in the new heap -/
theorem parseVersionInterval_view {h : Rule.Heap} {r : Rule.TokRef} {pre toks : List Bytes} (v : TokView h r pre toks) (path : Bytes)
    (fx : Option Modfile.Fixer) :
    TokView (setToksH h r.owner (pre ++ (pviOut path toks fx).toks)) { r with lo := r.lo + (pviOut path toks fx).dropped }
      (pre ++ (pviOut path toks fx).toks.take (pviOut path toks fx).dropped.toNat)
      ((pviOut path toks fx).toks.drop (pviOut path toks fx).dropped.toNat) :=
  pviOut_view v path fx

/-- all of it in one statement about the model -/
theorem parseVersionInterval_sim {h : Rule.Heap} {r : Rule.TokRef} {pre toks : List Bytes} (v : TokView h r pre toks)
    (verb path : Bytes) (fx : Option Modfile.Fixer) (fuel : Nat) (hf : 8 * tokSum toks + 1 ≤ fuel) :
    ∃ vi err r', Rule.parseVersionInterval isPrintI Quote.quote unquoteI fuel verb path r (fixG fx) h =
        .ok (((vi, err), r'), setToksH h r.owner (pre ++ (Modfile.parseVersionInterval path toks fx).1)) ∧ r'.owner = r.owner ∧
      match (Modfile.parseVersionInterval path toks fx).2 with
      | .ok (mvi, rest) => err = none ∧ vi = viG mvi ∧
          ∃ pre', TokView (setToksH h r.owner (pre ++ (Modfile.parseVersionInterval path toks fx).1)) r' pre' rest
      | .error k => errAbs err k ∧ vi = default ∧ r' = r := by
  have hm := pviOut_model path toks fx
  have hv := pviOut_view v path fx
  refine ⟨(pviOut path toks fx).vi, (pviOut path toks fx).err, { r with lo := r.lo + (pviOut path toks fx).dropped }, ?_, rfl, ?_⟩
  · rw [parseVersionInterval_spec v verb path fx fuel hf, hm.1]
  · obtain ⟨h1, h2⟩ := hm
    rcases hr : (Modfile.parseVersionInterval path toks fx).2 with k | ⟨mvi, rest⟩
    · rw [hr] at h2
      refine ⟨h2.1, h2.2.1, ?_⟩
      rw [h2.2.2]; cases r; simp
    · rw [hr] at h2
      obtain ⟨e1, e2, _, _, e5⟩ := h2
      rw [h1, e5] at hv
      exact ⟨e1, e2, _, hv⟩

-- the arguments of the `retract` line (pointer 2, after the verb): `[ v1.0.0 , "v1.1.0" ]`; the quoted bound is rewritten
example : (Rule.parseVersionInterval isPrintI Quote.quote unquoteI 200 (B "retract") [] { owner := 2, lo := 1 }
        (fixG (some Modfile.dontFixRetract)) exHeap).toOption.map (fun x => (x.1, (heapGet x.2.lines 2).toOption.map (·.Token))) =
      some ((({ Low := B "v1.0.0", High := B "v1.1.0" }, none), { owner := 2, lo := 6 }),
        some [B "retract", B "[", B "v1.0.0", B ",", B "v1.1.0", B "]"]) ∧
    Modfile.parseVersionInterval [] ((exLine 1).token.drop 1) (some Modfile.dontFixRetract) =
      ([B "[", B "v1.0.0", B ",", B "v1.1.0", B "]"], .ok ({ low := B "v1.0.0", high := B "v1.1.0" }, [])) := by
  rw [exHeap, exLine, exLines, exSrc_lit]; decide +kernel
-- … and the hypothesis of the tie holds there
example : TokView exHeap { owner := 2, lo := 1 } [B "retract"] ((exLine 1).token.drop 1) :=
  (fun (h : _ ∧ _) => ⟨lineG (exLine 1), h.1, h.2, rfl⟩) (by rw [exHeap, exLine, exLines, exSrc_lit]; decide +kernel)

/-! ### parseReplace -/

/-- parseReplace on a view `r` of the arguments of its own line (`r.owner` is the `line` argument, `L` its object): the
    result pointers and the heap are `prFinal h (prOut …)`: the tokens after the stores, plus ONE allocation — a `Replace`
    object (`(p, nil)`) or an `Error` object (`(nil, p)`) -/
theorem parseReplace_tie {h : Rule.Heap} {r : Rule.TokRef} {pre args : List Bytes}
    (v : TokView h r pre args) {L : Rule.Line} (hg : heapGet h.lines r.owner = .ok L) (fn verb : Bytes)
    (fx : Option Modfile.Fixer) (fuel : Nat) (hf : 8 * tokSum args + 1 ≤ fuel)
    (hv : 2 * (prOut fn L.Start r.owner verb args fx).vlen ≤ fuel) :
    Rule.parseReplace isPrintI Quote.quote unquoteI fuel fn r.owner verb r (fixG fx) h =
      .ok (prFinal h (prOut fn L.Start r.owner verb args fx) r.owner pre) :=
  parseReplace_spec v hg fn verb fx fuel hf hv

/-- `prOut` is the hand model's parseReplace: same rewritten tokens; the new `Replace` object has the model's fields and
    `Syntax = line`; the new `Error` object is at `pos` with an error of the model's kind -/
theorem parseReplace_model (fn : Bytes) (pos : Rule.Position) (line : Int) (verb : Bytes) (fx : Option Modfile.Fixer) (lineId : Nat)
    (args : List Bytes) :
    PrRel pos line (prOut fn pos line verb args fx) (Modfile.parseReplace lineId args fx) :=
  prOut_model fn pos line verb fx lineId args

/-- the fuel for module.CheckPathMajor in terms of the model: twice the length of the old version, when there is one (a
    fixer may return a version of any length) -/
theorem parseReplace_fuel (fn : Bytes) (pos : Rule.Position) (line : Int) (verb : Bytes) (args : List Bytes) (fx : Option Modfile.Fixer)
    (fuel : Nat)
    (hv : ∀ a0 a1 rest s a0' a1' v, args = a0 :: a1 :: rest → Modfile.parseString a0 = some (s, a0') →
      Modfile.parseVersion s a1 fx = (a1', .ok v) → 2 * v.length ≤ fuel) :
    2 * (prOut fn pos line verb args fx).vlen ≤ fuel := by
  rcases prOut_vlen_cases fn pos line verb args fx with h0 | ⟨a0, a1, rest, s, a0', a1', v, h1, h2, h3, h4⟩
  · rw [h0]; omega
  · rw [h4]; exact hv a0 a1 rest s a0' a1' v h1 h2 h3

/-- both together, on a represented line: the result pointer is a NEW Replace object / a NEW Error object with the model's
    content, the line's tokens are the model's new arguments -/
theorem parseReplace_sim {h : Rule.Heap} {r : Rule.TokRef} {pre args : List Bytes} (v : TokView h r pre args) {l : Modfile.Line}
    (hg : heapGet h.lines r.owner = .ok (lineG l)) (fn verb : Bytes) (fx : Option Modfile.Fixer) (fuel : Nat)
    (hf : 8 * tokSum args + 1 ≤ fuel)
    (hv : ∀ a0 a1 rest s a0' a1' v, args = a0 :: a1 :: rest → Modfile.parseString a0 = some (s, a0') →
      Modfile.parseVersion s a1 fx = (a1', .ok v) → 2 * v.length ≤ fuel) (lineId : Nat) :
    match (Modfile.parseReplace lineId args fx).2 with
    | .ok R => ∃ obj, obj.Old = mvG R.old ∧ obj.New = mvG R.new ∧ obj.Syntax = r.owner ∧
        Rule.parseReplace isPrintI Quote.quote unquoteI fuel fn r.owner verb r (fixG fx) h =
          .ok ((((h.replaces.length + 1 : Nat) : Int), 0),
            { setToksH h r.owner (pre ++ (Modfile.parseReplace lineId args fx).1) with replaces := h.replaces ++ [obj] })
    | .error k => ∃ e, e.Pos = posG l.start ∧ errAbs e.Err k ∧
        Rule.parseReplace isPrintI Quote.quote unquoteI fuel fn r.owner verb r (fixG fx) h =
          .ok ((0, ((h.errors.length + 1 : Nat) : Int)),
            { setToksH h r.owner (pre ++ (Modfile.parseReplace lineId args fx).1) with errors := h.errors ++ [e] }) := by
  have hs := parseReplace_spec v hg fn verb fx fuel hf (parseReplace_fuel fn _ r.owner verb args fx fuel hv)
  have hm := prOut_model fn (posG l.start) r.owner verb fx lineId args
  simp only [lineG_Start] at hs
  obtain ⟨h1, h2⟩ := hm
  rcases hr : (Modfile.parseReplace lineId args fx).2 with k | R
  · rw [hr] at h2
    obtain ⟨e, he, hp, ha⟩ := h2
    refine ⟨e, hp, ha, ?_⟩
    rw [hs, prFinal, he, h1]
  · rw [hr] at h2
    obtain ⟨obj, ho, h3, h4, h5⟩ := h2
    refine ⟨obj, h3, h4, h5, ?_⟩
    rw [hs, prFinal, ho, h1]

-- the first `replace` line (pointer 3): a NEW Replace object, the tokens unchanged;
-- the second one (pointer 5): `a.b/d@v1` is no directory path: a NEW Error object at the line's start
example : (Rule.parseReplace isPrintI Quote.quote unquoteI 400 (B "go.mod") 3 (B "replace") { owner := 3, lo := 1 } (fixG none)
        exHeap).toOption.map (fun x => (x.1, x.2.replaces, x.2.errors)) =
      some ((1, 0), [{ Old := { Path := B "a.b/c", Version := B "v1.0.0" }, New := { Path := B "./d", Version := [] }, Syntax := 3 }], []) ∧
    Modfile.parseReplace (exLine 2).id ((exLine 2).token.drop 1) none =
      ([B "a.b/c", B "v1.0.0", B "=>", B "./d"],
        .ok { old := { path := B "a.b/c", version := B "v1.0.0" }, new := { path := B "./d", version := [] }, lineId := (exLine 2).id }) := by
  rw [exHeap, exLine, exLines, exSrc_lit]; decide +kernel
example : (Rule.parseReplace isPrintI Quote.quote unquoteI 400 (B "go.mod") 5 (B "replace") { owner := 5, lo := 1 } (fixG none)
        exHeap).toOption.map (fun x => (x.1, x.2.replaces, x.2.errors.map (fun e => (e.Pos, e.Err)))) =
      some ((0, 1), [], [(posG (exLine 4).start,
        some "replacement module must match format 'path version', not 'path@version'")]) ∧
    (Modfile.parseReplace (exLine 4).id ((exLine 4).token.drop 1) none).2 = .error .replaceAtVersion := by
  rw [exHeap, exLine, exLines, exSrc_lit]; decide +kernel
example : TokView exHeap { owner := 3, lo := 1 } [B "replace"] ((exLine 2).token.drop 1) :=
  (fun (h : _ ∧ _) => ⟨lineG (exLine 2), h.1, h.2, rfl⟩) (by rw [exHeap, exLine, exLines, exSrc_lit]; decide +kernel)

end ModVerif.Tie.FnRuleLeaf
