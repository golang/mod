/-
  C05 transported to the regenerated code: the theorems of Props/C05.lean that are about `Zip.create` (hand model,
  Model/Zip.lean) restated about `Generated.Zip.Create` (Generated/FnZip.lean, re-translated from zip/zip.go on every
  run; archive/zip's writer as the threaded world `GoRt.ZipW` of Basic/GoRtZipIO.lean) through the tie theorem
  `Create_tie` (Tie/FnZipIOCreate.lean), and — for the file check — about `Generated.Zip.checkFiles` /
  `Generated.Zip.CheckedFiles_Err` through `checkFiles_tie` / `CheckedFiles_Err_tie`.

  "Creation succeeds" is `Create … [] = .ok (none, w)`: no panic, no fuel exhaustion, nil error, `w` = the entries
  (name, content) the writer received, in order.  `entriesOfW w` reads them back as archive entries whose declared size
  is the length of their content (what archive/zip's writer records; the driver `Drv/GenZipIO.lean` does the same).

  `create_checkZip_gen` / `create_unzip_gen`: the archive written by the REGENERATED `Create` passes the zip check and
  extracts to exactly the valid files — the check and the extraction are the hand model's `Zip.checkZip` /
  `Zip.unzip` here (their ties are `checkZip_tie` / `Unzip_tie`, Tie/FnZipIOUnzip.lean).
-/
import ModVerif.Tie.FnZipIOCreate
import ModVerif.Tie.FnZipC17
import ModVerif.Props.C05
namespace ModVerif.Tie.FnZipIOC05
open ModVerif ModVerif.TieFnZip ModVerif.TieFnZipCf ModVerif.TieFnZipIOCreate
open ModVerif.GoRt (ZipW M)
open ModVerif.PathClean ModVerif.Zip ModVerif.ZipSpec
open ModVerif.Drv.GenZip (toGFile simpleFoldI versionCompareI)
open ModVerif.Tie.FnZipC17 (Inst)

/-- the entries the writer received, as archive entries (declared size = length of the content) -/
def entriesOfW (w : ZipW) : List Entry := w.map fun e => ⟨e.1, e.2.length, e.2⟩

theorem entriesOfW_entryPair (es : List Entry) (h : ∀ e ∈ es, e.declSize = e.content.length) :
    entriesOfW (es.map entryPair) = es := by
  unfold entriesOfW
  rw [List.map_map]
  conv => rhs; rw [← List.map_id es]
  apply List.map_congr_left
  intro e he
  have := h e he
  cases e
  simp only [Function.comp, entryPair, id] at this ⊢
  rw [this]

section
variable (E : Env) (canonicalVersion : Bytes → Bytes) (equalFold : Bytes → Bytes → Bool)
  (moduleCheck : Bytes → Bytes → Option String) (parseGoVers : Bytes → Bytes → Bytes) (simpleFold : Int → Int)
  (toLower : Bytes → Bytes) (versionCompare : Bytes → Bytes → Int) (versionLang : Bytes → Bytes) (K : Nat)

/-- the generated `Create` on the translated list, from the empty writer world -/
abbrev genCreate (fuel : Nat) (p v : Bytes) (files : List FileInfo) : M (Option String × ZipW) :=
  Generated.Zip.Create canonicalVersion (cfpOf E) equalFold moduleCheck parseGoVers simpleFold toLower versionCompare
    versionLang fuel () { Path := p, Version := v } (files.map toGFile) []

/-- the generated `checkFiles` on the translated list -/
abbrev genCheckFiles (fuel : Nat) (files : List FileInfo) :
    M (Generated.Zip.CheckedFiles × List Generated.Zip.File × List Int) :=
  Generated.Zip.checkFiles (cfpOf E) equalFold parseGoVers simpleFold toLower versionCompare versionLang fuel
    (files.map toGFile)

/-- the regenerated `Create` succeeds with world `w` exactly when the model creates the entries `entriesOfW w`
    (and then `w` is those entries as pairs) -/
theorem genCreate_ok_iff (I : Inst E equalFold simpleFold toLower K) (p v : Bytes)
    (hmod : (canonicalVersion v = v ∧ moduleCheck p v = none) ↔ E.modOK p v = true) (files : List FileInfo)
    (hv : decide (0 ≤ versionCompare (versOf parseGoVers versionLang files) go124) = goVers files)
    (fuel : Nat) (hfuel : fuelBound K files ≤ fuel) (w : ZipW) :
    genCreate E canonicalVersion equalFold moduleCheck parseGoVers simpleFold toLower versionCompare versionLang fuel
        p v files = .ok (none, w) ↔
      (create E p v files = .ok (entriesOfW w) ∧ w = (entriesOfW w).map entryPair) := by
  unfold genCreate
  rw [FnZipIOCreate.Create_tie E canonicalVersion equalFold moduleCheck parseGoVers simpleFold toLower versionCompare
    versionLang K I.foldsTo I.toFold I.equalFold I.toLower p v hmod files hv fuel hfuel]
  constructor
  · intro h
    cases hc : create E p v files with
    | error c => rw [hc] at h; simp [embCreateRes, embCreateErr] at h
    | ok es =>
      have hw : createWorld E p v files = w := by
        injection h with h; exact (Prod.mk.inj h).2
      rw [FnZipIOCreate.createWorld_ok E p v files es hc] at hw
      have he := entriesOfW_entryPair es (FnZipIOCreate.create_declSize E p v files es hc)
      rw [← hw, he]
      exact ⟨rfl, rfl⟩
  · rintro ⟨hc, hw⟩
    rw [hc, FnZipIOCreate.createWorld_ok E p v files _ hc, ← hw]
    rfl

/-- ★ C05 `create_ok_iff_partial` on the regenerated code: for an accepted module path/version and files whose content has
    the size they report, the regenerated `Create` succeeds exactly when the regenerated `checkFiles` returns a report
    whose `Err()` is nil — PARTIAL as the original: under the hypothesis that every valid file's entry name
    `<module>@<version>/<path>` is at most 65535 bytes long (without it: `long_name_finding_gen`). -/
theorem create_ok_iff_partial_gen (I : Inst E equalFold simpleFold toLower K) (p v : Bytes)
    (hmod : (canonicalVersion v = v ∧ moduleCheck p v = none) ↔ E.modOK p v = true) (files : List FileInfo)
    (hv : decide (0 ≤ versionCompare (versOf parseGoVers versionLang files) go124) = goVers files)
    (fuel : Nat) (hfuel : fuelBound K files ≤ fuel)
    (hm : canonicalVersion v = v ∧ moduleCheck p v = none) (hh : HonestFiles files)
    (hlen : ∀ cf vf vs, genCheckFiles E equalFold parseGoVers simpleFold toLower versionCompare versionLang fuel files =
        .ok (cf, vf, vs) → ∀ q ∈ cf.Valid, (zipPrefix p v ++ q).length ≤ 65535) :
    (∃ w, genCreate E canonicalVersion equalFold moduleCheck parseGoVers simpleFold toLower versionCompare versionLang
        fuel p v files = .ok (none, w)) ↔
      (∃ cf vf vs, genCheckFiles E equalFold parseGoVers simpleFold toLower versionCompare versionLang fuel files =
        .ok (cf, vf, vs) ∧ Generated.Zip.CheckedFiles_Err cf = none) := by
  have hcf := FnZipCheckFiles.checkFiles_tie E equalFold parseGoVers simpleFold toLower versionCompare versionLang K
    I.foldsTo I.toFold I.equalFold I.toLower files hv fuel hfuel
  have hlen' : ∀ q ∈ (checkFilesV E files).valid, (zipPrefix p v ++ q).length ≤ 65535 :=
    hlen _ _ _ hcf
  have hmain := Props.C05.create_ok_iff_partial E p v files (hmod.mp hm) hh hlen'
  have herr : (∃ cf vf vs, genCheckFiles E equalFold parseGoVers simpleFold toLower versionCompare versionLang fuel
      files = .ok (cf, vf, vs) ∧ Generated.Zip.CheckedFiles_Err cf = none) ↔ (checkFilesV E files).err = none := by
    unfold genCheckFiles
    rw [hcf]
    constructor
    · rintro ⟨cf, vf, vs, h, he⟩
      injection h with h
      have : cf = embCF (checkFilesSt E files (goVers files)).cf := (Prod.mk.inj h).1.symm
      rw [this, FnZipIOCreate.CheckedFiles_Err_tie] at he
      cases hx : (checkFilesSt E files (goVers files)).cf.err with
      | none => exact hx
      | some k => rw [hx] at he; cases he
    · intro h
      refine ⟨_, _, _, rfl, ?_⟩
      rw [FnZipIOCreate.CheckedFiles_Err_tie]
      have : (checkFilesSt E files (goVers files)).cf.err = none := h
      rw [this]; rfl
  rw [herr, ← hmain]
  constructor
  · rintro ⟨w, h⟩
    exact ⟨_, ((genCreate_ok_iff E canonicalVersion equalFold moduleCheck parseGoVers simpleFold toLower versionCompare
      versionLang K I p v hmod files hv fuel hfuel w).mp h).1⟩
  · rintro ⟨es, h⟩
    refine ⟨es.map entryPair, ?_⟩
    exact FnZipIOCreate.Create_tie_ok E canonicalVersion equalFold moduleCheck parseGoVers simpleFold toLower
      versionCompare versionLang K I.foldsTo I.toFold I.equalFold I.toLower p v hmod files hv fuel hfuel es h

/-- ★ C05 `create_entries` on the regenerated code: when the regenerated `Create` succeeds, the module was accepted, the
    regenerated file check reported `Valid` with a nil `Err()`, and the writer received exactly the valid files, in that
    order, each under the module prefix and with the content the file yields (byte for byte). -/
theorem create_entries_gen (I : Inst E equalFold simpleFold toLower K) (p v : Bytes)
    (hmod : (canonicalVersion v = v ∧ moduleCheck p v = none) ↔ E.modOK p v = true) (files : List FileInfo)
    (hv : decide (0 ≤ versionCompare (versOf parseGoVers versionLang files) go124) = goVers files)
    (fuel : Nat) (hfuel : fuelBound K files ≤ fuel) (w : ZipW)
    (h : genCreate E canonicalVersion equalFold moduleCheck parseGoVers simpleFold toLower versionCompare versionLang
        fuel p v files = .ok (none, w)) :
    (canonicalVersion v = v ∧ moduleCheck p v = none) ∧
    (∃ cf vf vs, genCheckFiles E equalFold parseGoVers simpleFold toLower versionCompare versionLang fuel files =
        .ok (cf, vf, vs) ∧ Generated.Zip.CheckedFiles_Err cf = none ∧ w.map (·.1) = cf.Valid.map (zipPrefix p v ++ ·)) ∧
    (∀ e ∈ w, ∃ f ∈ files, f.mode = .regular ∧ e.1 = zipPrefix p v ++ f.path ∧ e.2 = f.content) := by
  obtain ⟨hc, hw⟩ := (genCreate_ok_iff E canonicalVersion equalFold moduleCheck parseGoVers simpleFold toLower
    versionCompare versionLang K I p v hmod files hv fuel hfuel w).mp h
  obtain ⟨h1, h2, h3, _, h5⟩ := Props.C05.create_entries E p v files _ hc
  have hcf := FnZipCheckFiles.checkFiles_tie E equalFold parseGoVers simpleFold toLower versionCompare versionLang K
    I.foldsTo I.toFold I.equalFold I.toLower files hv fuel hfuel
  refine ⟨hmod.mpr h1, ⟨_, _, _, hcf, ?_, ?_⟩, ?_⟩
  · rw [FnZipIOCreate.CheckedFiles_Err_tie]
    have : (checkFilesSt E files (goVers files)).cf.err = none := h2
    rw [this]; rfl
  · have : w.map (·.1) = (entriesOfW w).map (·.name) := by simp [entriesOfW]
    rw [this, h3]; rfl
  · intro e he
    obtain ⟨f, hf, hr, hn, hcn⟩ := h5 ⟨e.1, e.2.length, e.2⟩ (List.mem_map.mpr ⟨e, he, rfl⟩)
    exact ⟨f, hf, hr, hn, hcn⟩

/-- ★ C05 `create_restrictions` on the regenerated code: every entry the regenerated `Create` writes obeys the documented
    restrictions — its name is the module prefix followed by a clean, relative path that `CheckFilePath` accepts; a last
    path element `go.mod` (any case) is the root `go.mod`; `go.mod` and `LICENSE` respect their size limits; and no two
    entries have the same case-folded path. -/
theorem create_restrictions_gen (I : Inst E equalFold simpleFold toLower K) (p v : Bytes)
    (hmod : (canonicalVersion v = v ∧ moduleCheck p v = none) ↔ E.modOK p v = true) (files : List FileInfo)
    (hv : decide (0 ≤ versionCompare (versOf parseGoVers versionLang files) go124) = goVers files)
    (fuel : Nat) (hfuel : fuelBound K files ≤ fuel) (w : ZipW)
    (h : genCreate E canonicalVersion equalFold moduleCheck parseGoVers simpleFold toLower versionCompare versionLang
        fuel p v files = .ok (none, w)) :
    (∀ e ∈ w, ∃ rel, e.1 = zipPrefix p v ++ rel ∧
        pathClean rel = rel ∧ isAbs rel = false ∧ E.cfp rel = true ∧
        (equalFoldGoMod (lastElem rel) = true → rel = goModName) ∧
        (rel = goModName → e.2.length ≤ MaxGoMod) ∧
        (rel = licenseName → e.2.length ≤ MaxLICENSE)) ∧
    w.Pairwise (fun a b => E.toFold (a.1.drop (zipPrefix p v).length) ≠ E.toFold (b.1.drop (zipPrefix p v).length)) := by
  obtain ⟨hc, hw⟩ := (genCreate_ok_iff E canonicalVersion equalFold moduleCheck parseGoVers simpleFold toLower
    versionCompare versionLang K I p v hmod files hv fuel hfuel w).mp h
  obtain ⟨r1, r2⟩ := Props.C05.create_restrictions E p v files _ hc
  refine ⟨?_, ?_⟩
  · intro e he
    exact r1 ⟨e.1, e.2.length, e.2⟩ (List.mem_map.mpr ⟨e, he, rfl⟩)
  · unfold entriesOfW at r2
    rw [List.pairwise_map] at r2
    exact r2

/-- ★ C05 `create_checkZip` for the archive the regenerated `Create` writes: it passes the zip check (hand model
    `Zip.checkZip`) with no invalid entries and no size error, and the check's valid list is
    the list of entry names. -/
theorem create_checkZip_gen (I : Inst E equalFold simpleFold toLower K) (p v : Bytes)
    (hmod : (canonicalVersion v = v ∧ moduleCheck p v = none) ↔ E.modOK p v = true) (files : List FileInfo)
    (hv : decide (0 ≤ versionCompare (versOf parseGoVers versionLang files) go124) = goVers files)
    (fuel : Nat) (hfuel : fuelBound K files ≤ fuel) (w : ZipW) (zipSize : Nat)
    (h : genCreate E canonicalVersion equalFold moduleCheck parseGoVers simpleFold toLower versionCompare versionLang
        fuel p v files = .ok (none, w)) (hz : zipSize ≤ MaxZipFile) :
    ∃ cf, checkZip E p v zipSize (entriesOfW w) = .ok cf ∧ cf.invalid = [] ∧ cf.sizeError = false ∧
      cf.valid = w.map (·.1) ∧ cf.err = none := by
  obtain ⟨hc, _⟩ := (genCreate_ok_iff E canonicalVersion equalFold moduleCheck parseGoVers simpleFold toLower
    versionCompare versionLang K I p v hmod files hv fuel hfuel w).mp h
  obtain ⟨cf, c1, c2, c3, c4, c5⟩ := Props.C05.create_checkZip E p v files _ zipSize hc hz
  refine ⟨cf, c1, c2, c3, ?_, c5⟩
  rw [c4]; simp [entriesOfW]

/-- ★ C05 `create_unzip` for the archive the regenerated `Create` writes: it extracts (hand model `Zip.unzip`) without error into a missing or empty target directory, and the created files are exactly the written
    entries at their destinations, pairwise distinct, each with its complete content. -/
theorem create_unzip_gen (I : Inst E equalFold simpleFold toLower K) (hEs : CfpSound E.cfp) (dir : Bytes)
    (hdir : dir = [] ∨ pathClean dir = dir ∨ ([46, 46] : Bytes) ∉ splitOn 47 dir) (t : Target)
    (ht : t = .missing ∨ t = .emptyDir) (p v : Bytes)
    (hmod : (canonicalVersion v = v ∧ moduleCheck p v = none) ↔ E.modOK p v = true) (files : List FileInfo)
    (hv : decide (0 ≤ versionCompare (versOf parseGoVers versionLang files) go124) = goVers files)
    (fuel : Nat) (hfuel : fuelBound K files ≤ fuel) (w : ZipW) (zipSize : Nat)
    (h : genCreate E canonicalVersion equalFold moduleCheck parseGoVers simpleFold toLower versionCompare versionLang
        fuel p v files = .ok (none, w)) (hz : zipSize ≤ MaxZipFile) :
    (unzip E dir t p v zipSize (entriesOfW w)).err = none ∧
    (unzip E dir t p v zipSize (entriesOfW w)).effects =
      .mkdirAll dir :: w.flatMap (fun e =>
        [.mkdirAll (pathDir (fpJoin dir (e.1.drop (zipPrefix p v).length))),
         .createExcl (fpJoin dir (e.1.drop (zipPrefix p v).length)) (some e.2)]) ∧
    createdFiles (unzip E dir t p v zipSize (entriesOfW w)).effects =
      w.map (fun e => fpJoin dir (e.1.drop (zipPrefix p v).length)) ∧
    (w.map (fun e => fpJoin dir (e.1.drop (zipPrefix p v).length))).Nodup := by
  obtain ⟨hc, _⟩ := (genCreate_ok_iff E canonicalVersion equalFold moduleCheck parseGoVers simpleFold toLower
    versionCompare versionLang K I p v hmod files hv fuel hfuel w).mp h
  obtain ⟨u1, u2, u3, u4⟩ := Props.C05.create_unzip E hEs dir hdir t ht p v files _ zipSize hc hz
  refine ⟨u1, ?_, ?_, ?_⟩
  · rw [u2]; simp [entriesOfW, List.flatMap_map, dstOf, Zip.fpJoin]
  · rw [u3]; simp [entriesOfW, dstOf, Zip.fpJoin, Function.comp_def]
  · have : (entriesOfW w).map (dstOf dir (zipPrefix p v)) =
        w.map (fun e => Zip.fpJoin dir (e.1.drop (zipPrefix p v).length)) := by
      simp [entriesOfW, dstOf, Function.comp_def]
    rw [this] at u4; exact u4

end

/-! ### the known finding on the regenerated code -/

def exEnv : Env := { cfp := fun p => !p.isEmpty, toFold := Zip.strToFold, modOK := fun _ _ => true }

/-- the general form of the finding, for the driver's instantiation: a single file that the file check accepts and whose
    entry name is too long for archive/zip -/
theorem long_name_gen (E : Env) (hE : E.toFold = Zip.strToFold) (p v : Bytes) (hm : E.modOK p v = true)
    (fs : List FileInfo) (f : FileInfo) (hfs : fs = [f]) (hg : f.goGe124 = false)
    (a1 : (checkFilesV E fs).err = none) (a2 : (checkFilesV E fs).valid = [f.path])
    (hlong : (zipPrefix p v ++ f.path).length > 65535) :
    (∃ cf vf vs, Generated.Zip.checkFiles (cfpOf E) (fun a _ => equalFoldGoMod a)
        (FnZipCheckFiles.pgvDriver fs) simpleFoldI (fun s => s.map asciiLower) versionCompareI id
        (FnZipCheckFiles.driverFuel fs) (fs.map toGFile) =
        .ok (cf, vf, vs) ∧ Generated.Zip.CheckedFiles_Err cf = none ∧ cf.Valid = [f.path]) ∧
    Generated.Zip.Create id (cfpOf E) (fun a _ => equalFoldGoMod a)
        (fun p v => if (fun _ _ => true) p v then none else some "badmodule")
        (FnZipCheckFiles.pgvDriver fs) simpleFoldI (fun s => s.map asciiLower) versionCompareI id
        (FnZipCheckFiles.driverFuel fs) () { Path := p, Version := v } (fs.map toGFile) [] =
      .ok (some "zipError|zip: FileHeader.Name too long", []) := by
  have ecf : checkFilesV E fs = (checkFilesSt E fs (goVers fs)).cf := rfl
  rw [ecf] at a1 a2
  have hcons : ∀ f ∈ fs, f.mode = .regular → f.path = goModName → f.goGe124 = false →
      ∀ g ∈ fs, g.content = f.content → g.goGe124 = false := by
    intro f' _ _ _ _ g hgm _
    rw [hfs] at hgm
    rw [List.mem_singleton.mp hgm]; exact hg
  refine ⟨?_, ?_⟩
  · have hcf := FnZipCheckFiles.checkFiles_tie_driver E hE (fun a _ => equalFoldGoMod a) (fun _ => rfl) fs hcons
    refine ⟨_, _, _, hcf, ?_, a2⟩
    rw [FnZipIOCreate.CheckedFiles_Err_tie, a1]; rfl
  · have hcr := FnZipIOCreate.Create_tie_driver E hE (fun a _ => equalFoldGoMod a) (fun _ => rfl) id
      (fun _ _ => true) p v (by simp [hm]) fs hcons
    rw [hcr]
    obtain ⟨hv1, hv2⟩ := Proofs.Zip.checkFilesSt_validFiles E (goVers fs) fs
    rw [a2] at hv2
    have hvf : (checkFilesSt E fs (goVers fs)).validFiles = [f] := by
      generalize (checkFilesSt E fs (goVers fs)).validFiles = vf at hv1 hv2
      match vf, hv1, hv2 with
      | [], _, h => cases h
      | [g], hv1, _ =>
        have := (hv1 g List.mem_cons_self).1
        rw [hfs] at this
        rw [List.mem_singleton.mp this]
      | _ :: _ :: _, _, h => simp at h
    have hcw : createWorld E p v fs = [] := by
      unfold createWorld
      rw [a1, hvf]
      simp only [hm, Bool.not_true, Bool.false_eq_true, if_false]
      unfold writtenW
      rw [if_pos hlong]
    have hc : create E p v fs = .error .nameTooLong := by
      rw [Proofs.Zip.create_eq, a1, hvf]
      simp only [hm, Bool.not_true, Bool.false_eq_true, if_false]
      unfold addFiles
      rw [if_pos hlong]
    rw [hcw, hc]
    rfl

/-- 65515 × `a` -/
def longPath : Bytes := List.replicate 65515 97

/-- the single regular file `aaa…` with content `x` (honest size) -/
def longFile : FileInfo := ⟨longPath, .regular, 1, [120], false⟩

/-- **Known finding (entry names longer than 65535 bytes) on the regenerated code.**  For the module
    `example.com/m@v1.0.0` and the single regular file whose path is 65515 × `a` (content `x`, honest size), with the
    driver's instantiation: the regenerated `checkFiles` reports the file valid with a nil `Err()` — and the regenerated
    `Create` fails with archive/zip's `zip: FileHeader.Name too long` (nothing written).  So `create_ok_iff_partial_gen`
    without its hypothesis on the name length is false.  (Through the tie: nothing is evaluated over the 65 kB path.) -/
theorem long_name_finding_gen :
    HonestFiles [longFile] ∧
    (∃ cf vf vs, Generated.Zip.checkFiles (cfpOf exEnv) (fun a _ => equalFoldGoMod a)
        (FnZipCheckFiles.pgvDriver [longFile]) simpleFoldI (fun s => s.map asciiLower) versionCompareI id
        (FnZipCheckFiles.driverFuel [longFile]) ([longFile].map toGFile) =
        .ok (cf, vf, vs) ∧ Generated.Zip.CheckedFiles_Err cf = none ∧ cf.Valid = [longFile.path]) ∧
    Generated.Zip.Create id (cfpOf exEnv) (fun a _ => equalFoldGoMod a)
        (fun p v => if (fun _ _ => true) p v then none else some "badmodule")
        (FnZipCheckFiles.pgvDriver [longFile]) simpleFoldI (fun s => s.map asciiLower) versionCompareI id
        (FnZipCheckFiles.driverFuel [longFile]) () { Path := B "example.com/m", Version := B "v1.0.0" }
        ([longFile].map toGFile) [] =
      .ok (some "zipError|zip: FileHeader.Name too long", []) := by
  have hns : (47 : UInt8) ∉ longPath := by
    unfold longPath
    intro h; have := (List.mem_replicate.mp h).2; exact absurd this (by decide)
  have hlp : longPath.length = 65515 := by unfold longPath; rw [List.length_replicate]
  have hlen : 20 < longPath.length := by rw [hlp]; decide
  have hvd : isPrefixOfB vendorSlash longPath = false := by
    show isPrefixOfB vendorSlash (List.replicate (65514 + 1) (97 : UInt8)) = false
    rw [List.replicate_succ]; rfl
  have hcfp : exEnv.cfp longPath = true := by
    show (!(List.replicate (65514 + 1) (97 : UInt8)).isEmpty) = true
    rw [List.replicate_succ]; rfl
  have h1 : (B "example.com/m").length = 13 := by decide +kernel
  have h2 : (B "v1.0.0").length = 6 := by decide +kernel
  have hlong : (zipPrefix (B "example.com/m") (B "v1.0.0") ++ longPath).length > 65535 := by
    simp only [zipPrefix, List.length_append, hlp, h1, h2, List.length_cons, List.length_nil]
    decide
  have hfs : (⟨longPath, .regular, (([120] : Bytes).length : Int), [120], false⟩ : FileInfo) = longFile := rfl
  have hnt := Proofs.ZipA.create_nameTooLong exEnv (B "example.com/m") (B "v1.0.0")
    longPath [120] rfl hns hlen hvd hcfp (by unfold MaxZipFile; simp) hlong
  rw [hfs] at hnt
  obtain ⟨a1, a2, a3, _⟩ := hnt
  exact ⟨a3, long_name_gen exEnv rfl (B "example.com/m") (B "v1.0.0") rfl [longFile] longFile rfl rfl a1 a2 hlong⟩

/-! ### non-vacuity of the corollaries: the driver's instantiation on a small module -/

/-- the driver's instantiation satisfies `Inst` -/
theorem inst_driver : Inst exEnv (fun a _ => equalFoldGoMod a) simpleFoldI (fun s => s.map asciiLower) 1 :=
  ⟨FnZip.foldsTo_simpleFoldI, rfl, fun _ => rfl, FnZipCheckFiles.toLower_driver⟩

/-- the hypotheses of the corollaries hold on the example of Tie/FnZipIOCreate.lean, and the regenerated `Create`
    succeeds there with two entries (evaluated by the kernel) -/
example :
    ((id (B "v1") = B "v1" ∧ (fun _ _ => (none : Option String)) (B "m") (B "v1") = none) ↔
      exEnv.modOK (B "m") (B "v1") = true) ∧
    decide (0 ≤ versionCompareI (versOf (FnZipCheckFiles.pgvDriver FnZipIOCreate.exFiles) id FnZipIOCreate.exFiles) go124) =
      goVers FnZipIOCreate.exFiles ∧
    fuelBound 1 FnZipIOCreate.exFiles ≤ FnZipCheckFiles.driverFuel FnZipIOCreate.exFiles ∧
    HonestFiles FnZipIOCreate.exFiles ∧
    genCreate exEnv id (fun a _ => equalFoldGoMod a) (fun _ _ => none) (FnZipCheckFiles.pgvDriver FnZipIOCreate.exFiles)
        simpleFoldI (fun s => s.map asciiLower) versionCompareI id (FnZipCheckFiles.driverFuel FnZipIOCreate.exFiles)
        (B "m") (B "v1") FnZipIOCreate.exFiles =
      .ok (none, [(B "m@v1/go.mod", B "hi"), (B "m@v1/a/b.go", B "x")]) := by
  refine ⟨by simp [exEnv], by decide +kernel, by decide +kernel, ?_, by decide +kernel⟩
  intro f hf _
  simp [FnZipIOCreate.exFiles] at hf
  rcases hf with rfl | rfl | rfl | rfl | rfl | rfl <;> decide +kernel

end ModVerif.Tie.FnZipIOC05
