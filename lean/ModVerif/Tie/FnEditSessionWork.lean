/-
  Tie, COMPOSITION for go.work: whole edit sessions of the regenerated go.work operations (Generated/FnEdit.lean, from
  modfile/work.go) as the driver `Drv.GenEdit` runs them (`applyWorkOp`, `runWorkOps`, `workSession`), against the hand
  model's sessions (`Edit.applyWork`, `Edit.runOps Edit.applyWork`, `Drv.Edit.M.sessionWork`) — the go.work counterpart of
  Tie/FnEditSession.lean, over `RepW` and the operation ties of Tie/FnEditWork.lean / Tie/FnEditSort.lean.

  (1) `applyWorkOp_tie`: one operation (`.ok e'` ↔ `.ok (some true, h')` + `RepW`; returned error ↔ `.ok (some false, h)`,
      heap unchanged; `nilDeref` ↔ `.error .panic`; a go.mod-only operation ↔ `.ok (none, h)`).  Side conditions `StepOKW`:
      fuel (`stepFuelW`), and the go / toolchain entries point at a line (from `Edit.InvW`: `stepOKW_of_InvW`).  SetUse: the
      driver's fresh `Use` objects (`newUses`) satisfy the `DirsOK` of Tie/FnEditWork.lean (`allocUses_spec`).
  (2) `runWorkOps_tie` (under `RunOKW`), `runWorkOps_tie_valid` (under `Edit.InvW` + `Edit.RunValidW`: only `FuelOKW`; the
      conclusion is a correspondence — that a statically valid session completes is Tie/FnEditC15Work.lean).
  (3) `workSession_tie`: `gedit.worksession` prints what `edit.worksession` prints.
  Fuel: abstract, as in Tie/FnEditSession.lean (the driver's `8·|file| + 64·#ops + 4096` is not a bound in general).
-/
import ModVerif.Proofs.TieFnEditSessionW
import ModVerif.Tie.FnEditSession
import ModVerif.Proofs.BytesLit
namespace ModVerif.Tie.FnEditSessionWork
open ModVerif ModVerif.GoRt ModVerif.Generated.Edit ModVerif.Tie.FnEditRep
open ModVerif.Tie.FnEditSessionA ModVerif.Tie.FnEditSessionW
open ModVerif.Modfile.Edit (EWork EditErr applyWork SessionResult)
open ModVerif.Drv.GenEdit (applyWorkOp opNameD Run)
open ModVerif.Tie.FnEditWorkEx (strip)
open ModVerif.Tie.FnEditSession (driverFuel)

/-! ### (1) one operation -/

/-- **`Drv.GenEdit.applyWorkOp` = `Edit.applyWork`**, every operation -/
theorem applyWorkOp_tie {h : Heap} {fp : Int} {e : EWork} (R : RepW h fp e) (op : EditSpec.Op) (fuel : Nat)
    (ok : StepOKW fuel e op) :
    match applyWork e (opM op) with
    | none => applyWorkOp fuel fp h op = .ok (none, h)
    | some (.ok e') => ∃ h', applyWorkOp fuel fp h op = .ok (some true, h') ∧ RepW h' fp e'
    | some (.error err) =>
      (err.isReturned = true ∧ applyWorkOp fuel fp h op = .ok (some false, h)) ∨
      (err.isReturned = false ∧ applyWorkOp fuel fp h op = .error .panic) := by
  have T := applyWorkOp_out R op ok.scalars fuel ok.fuel
  cases hx : applyWork e (opM op) with
  | none => rw [hx] at T; exact T
  | some x => cases x <;> (rw [hx] at T; exact T)

theorem stepOKW_of_InvW {e : EWork} {op : EditSpec.Op} {fuel : Nat} (hi : Modfile.Edit.InvW e) (hf : stepFuelW e op ≤ fuel) :
    StepOKW fuel e op := ⟨hf, scalarsLiveW_of_InvW hi⟩

/-! ### (2) an operation list -/

/-- **`Drv.GenEdit.runWorkOps` = `Edit.runOps Edit.applyWork`** -/
theorem runWorkOps_tie (fuel : Nat) (fp : Int) (ops : List EditSpec.Op) (h : Heap) (e : EWork) (R : RepW h fp e)
    (ok : RunOKW fuel e ops) :
    match Modfile.Edit.runOps applyWork e (ops.map opM) [] 0 with
    | .done e' res => ∃ h', Drv.GenEdit.runWorkOps fuel fp h ops [] = .done h' res ∧ RepW h' fp e'
    | .panic j => ∃ op, ops[j]? = some op ∧ Drv.GenEdit.runWorkOps fuel fp h ops [] = .panic (opNameD op)
    | .badOp => Drv.GenEdit.runWorkOps fuel fp h ops [] = .badOp := by
  have T := runWorkOps_rel fuel fp ops h e [] 0 R ok
  cases hx : Modfile.Edit.runOps applyWork e (ops.map opM) [] 0 with
  | done e' res => rw [hx] at T; exact T
  | panic j => rw [hx] at T; obtain ⟨op, _, h2, h3⟩ := T; exact ⟨op, h2, h3⟩
  | badOp => rw [hx] at T; exact T

/-- the same from a state satisfying the go.work invariant, for a session with valid arguments (`Edit.RunValidW`; SetUse:
    distinct non-empty directories, on live `use` entries): only fuel is asked for; when the model run completes, so does
    the regenerated one, in a heap representing a state that satisfies the invariant again -/
theorem runWorkOps_tie_valid (fuel : Nat) (fp : Int) (ops : List EditSpec.Op) (h : Heap) (e : EWork) (R : RepW h fp e)
    (hi : Modfile.Edit.InvW e) (hv : Modfile.Edit.RunValidW e (ops.map opM)) (hf : FuelOKW fuel e ops) :
    match Modfile.Edit.runOps applyWork e (ops.map opM) [] 0 with
    | .done e' res => ∃ h', Drv.GenEdit.runWorkOps fuel fp h ops [] = .done h' res ∧ RepW h' fp e' ∧ Modfile.Edit.InvW e'
    | .panic j => ∃ op, ops[j]? = some op ∧ Drv.GenEdit.runWorkOps fuel fp h ops [] = .panic (opNameD op)
    | .badOp => Drv.GenEdit.runWorkOps fuel fp h ops [] = .badOp := by
  have T := runWorkOps_tie fuel fp ops h e R (runOKW_of_valid fuel ops e hi hv hf)
  cases hx : Modfile.Edit.runOps applyWork e (ops.map opM) [] 0 with
  | done e' res =>
    rw [hx] at T
    obtain ⟨h', h1, R'⟩ := T
    exact ⟨h', h1, R', Modfile.Edit.runOpsWork_inv_all _ e [] 0 e' res hv hi hx⟩
  | panic j => rw [hx] at T; exact T
  | badOp => rw [hx] at T; exact T

/-! ### (3) the session line -/

theorem final_cleanupW {h : Heap} {fp : Int} {e : EWork} (R : RepW h fp e) (fuel : Nat) (hf : stepFuelW e .cleanup ≤ fuel) :
    ∃ h', WorkFile_Cleanup fuel fp h = .ok ((), h') ∧ RepW h' fp (Modfile.Edit.workCleanup e) ∧
      Drv.GenEdit.workM h' fp = some (strip (Modfile.Edit.workCleanup e).f) := by
  simp only [stepFuelW] at hf
  obtain ⟨h', h1, R'⟩ := FnEditSort.WorkFile_Cleanup_tie R fuel (by omega) (by omega)
  exact ⟨h', h1, R', workM_rep R'⟩

/-- **`gedit.worksession` prints what `edit.worksession` prints** -/
theorem workSession_tie (file : Bytes) (ops : List EditSpec.Op)
    (ok : ∀ f, Modfile.parseWork (B "go.work") file none = .ok f →
      RunOKW (driverFuel file ops) (Modfile.Edit.loadWork f) ops ∧ FinalFuelW (driverFuel file ops) (Modfile.Edit.loadWork f) ops) :
    Drv.GenEdit.workSession file ops = Drv.Edit.M.sessionWork file (ops.map opM) := by
  unfold Drv.GenEdit.workSession Drv.Edit.M.sessionWork
  cases hp : Modfile.parseWork (B "go.work") file none with
  | error err => rfl
  | ok f =>
    obtain ⟨hrun, hfin⟩ := ok f hp
    have R := FnEditTree.loadWork_parsed_rep hp
    have T := runWorkOps_tie (driverFuel file ops) (Drv.GenEdit.loadWork f).2 ops (Drv.GenEdit.loadWork f).1 _ R hrun
    simp only []
    show (match Drv.GenEdit.runWorkOps (driverFuel file ops) (Drv.GenEdit.loadWork f).2 (Drv.GenEdit.loadWork f).1 ops [] with
      | .badOp => "bad-op"
      | .panic n => "panic:" ++ n
      | .done h res => _) = _
    cases hx : Modfile.Edit.runOps applyWork (Modfile.Edit.loadWork f) (ops.map opM) [] 0 with
    | badOp =>
      rw [hx] at T
      simp only [T]
    | panic j =>
      rw [hx] at T
      obtain ⟨op, h1, h2⟩ := T
      simp only [h2, List.getElem?_map, h1, Option.map_some, Option.getD_some, opName_opM]
    | done e' res =>
      rw [hx] at T
      obtain ⟨h', h1, R'⟩ := T
      obtain ⟨h'', h2, R'', h3⟩ := final_cleanupW R' (driverFuel file ops) (hfin e' res hx)
      simp only [h1]
      show (match WorkFile_Cleanup (driverFuel file ops) (Drv.GenEdit.loadWork f).2 h' with
        | .error _ => "panic:final-cleanup"
        | .ok (_, h) => _) = _
      simp only [h2, h3, strip_syn, dumpWork_strip]
      rfl

/-- the form under the hypotheses of C15's `typed_eq_tree_work_from_parse` (parsed file with non-empty keys; valid
    arguments in every state: `Edit.RunValidW`): only fuel is asked for -/
theorem workSession_tie_valid (file : Bytes) (ops : List EditSpec.Op)
    (hk : ∀ f, Modfile.parseWork (B "go.work") file none = .ok f → Modfile.Edit.WorkKeys f ∧ Modfile.Edit.NoBlockSuffix f.syn)
    (hv : ∀ f, Modfile.parseWork (B "go.work") file none = .ok f → Modfile.Edit.RunValidW (Modfile.Edit.loadWork f) (ops.map opM))
    (hf : ∀ f, Modfile.parseWork (B "go.work") file none = .ok f →
      FuelOKW (driverFuel file ops) (Modfile.Edit.loadWork f) ops ∧ FinalFuelW (driverFuel file ops) (Modfile.Edit.loadWork f) ops) :
    Drv.GenEdit.workSession file ops = Drv.Edit.M.sessionWork file (ops.map opM) := by
  refine workSession_tie file ops fun f hp => ⟨?_, (hf f hp).2⟩
  exact runOKW_of_valid _ ops _ (Modfile.Edit.parseWork_invW hp (hk f hp).1 (hk f hp).2) (hv f hp) (hf f hp).1

/-! ### non-vacuity: a kernel-evaluated session on a parsed go.work (a comment block, `go`, a two-line `use` block, a
    `replace` line, a `godebug` line) -/

section examples

def exWork : Bytes := B "// c\n\ngo 1.21\n\nuse (\n\t./a\n\t\"./b c\" // note\n)\n\nreplace example.com/a => ../a\n\ngodebug x=y\n"

def exWorkOps : List EditSpec.Op :=
  [.addUse (B "./d") [], .dropUse (B "./a"), .addGo (B "1.x"), .addToolchain (B "go1.22.0"), .cleanup,
   .setUse [(B "./b c", B "m"), (B "./e", [])], .addReplace (B "x.y/z") [] (B "../z") [], .addGodebug (B "k") (B "v"), .sortBlocks]

/-- a session that panics: the second drop of the key "" hits the cleared godebug entry -/
def exWorkBad : List EditSpec.Op := [.dropGodebug (B "x"), .dropGo, .dropGodebug [], .cleanup]

theorem exWork_ok : ∀ f, Modfile.parseWork (B "go.work") exWork none = .ok f →
    RunOKW (driverFuel exWork exWorkOps) (Modfile.Edit.loadWork f) exWorkOps ∧
      FinalFuelW (driverFuel exWork exWorkOps) (Modfile.Edit.loadWork f) exWorkOps :=
  parsedTestW_sound exWork (fun f => runOKWB (driverFuel exWork exWorkOps) (Modfile.Edit.loadWork f) exWorkOps &&
      finalFuelWB (driverFuel exWork exWorkOps) (Modfile.Edit.loadWork f) exWorkOps)
    (fun f h => by
      simp only [Bool.and_eq_true] at h
      exact ⟨runOKWB_sound _ _ _ h.1, finalFuelWB_sound h.2⟩)
    (by rw [B_lit exWork]; decide +kernel)

/-- the hypotheses of `workSession_tie_valid` / `runWorkOps_tie_valid` hold of the example (with the driver's fuel) -/
theorem exWork_keys : ∀ f, Modfile.parseWork (B "go.work") exWork none = .ok f →
    Modfile.Edit.WorkKeys f ∧ Modfile.Edit.NoBlockSuffix f.syn :=
  parsedTestW_sound exWork (fun f => Modfile.Edit.workStartOKb f && FnEditSessionE.noBlockSuffixB f.syn)
    (fun f h => by
      simp only [Bool.and_eq_true] at h
      have s := Modfile.Edit.workStartOKb_sound f h.1
      exact ⟨⟨s.godebug, s.use, s.replace⟩, FnEditSessionE.noBlockSuffixB_sound h.2⟩)
    (by rw [B_lit exWork]; decide +kernel)

theorem exWork_valid : ∀ f, Modfile.parseWork (B "go.work") exWork none = .ok f →
    Modfile.Edit.RunValidW (Modfile.Edit.loadWork f) (exWorkOps.map opM) :=
  parsedTestW_sound exWork (fun f => Modfile.Edit.runValidWB (Modfile.Edit.loadWork f) (exWorkOps.map opM))
    (fun f h => Modfile.Edit.runValidWB_sound _ _ h) (by rw [B_lit exWork]; decide +kernel)

theorem exWork_fuel : ∀ f, Modfile.parseWork (B "go.work") exWork none = .ok f →
    FuelOKW (driverFuel exWork exWorkOps) (Modfile.Edit.loadWork f) exWorkOps ∧
      FinalFuelW (driverFuel exWork exWorkOps) (Modfile.Edit.loadWork f) exWorkOps :=
  parsedTestW_sound exWork (fun f => fuelOKWB (driverFuel exWork exWorkOps) (Modfile.Edit.loadWork f) exWorkOps &&
      finalFuelWB (driverFuel exWork exWorkOps) (Modfile.Edit.loadWork f) exWorkOps)
    (fun f h => by
      simp only [Bool.and_eq_true] at h
      exact ⟨fuelOKWB_sound _ _ _ h.1, finalFuelWB_sound h.2⟩)
    (by rw [B_lit exWork]; decide +kernel)

-- `workSession_tie`: the two drivers print the same line
example : Drv.GenEdit.workSession exWork exWorkOps = Drv.Edit.M.sessionWork exWork (exWorkOps.map opM) :=
  workSession_tie exWork exWorkOps exWork_ok

-- the regenerated session is kernel-evaluated and compared with the model session (results, typed lists, whole tree)
example : genWorkSession (driverFuel exWork exWorkOps) exWork exWorkOps = modelWorkSession exWork exWorkOps ∧
    (genWorkSession (driverFuel exWork exWorkOps) exWork exWorkOps).map (·.1) =
      some [true, true, false, true, true, true, true, true, true] := by rw [B_lit exWork]; decide +kernel

-- `workSession_tie_valid` on the example
example : Drv.GenEdit.workSession exWork exWorkOps = Drv.Edit.M.sessionWork exWork (exWorkOps.map opM) :=
  workSession_tie_valid exWork exWorkOps exWork_keys exWork_valid exWork_fuel

-- a panicking session: same `panic:` line
example : Drv.GenEdit.workSession exWork exWorkBad = Drv.Edit.M.sessionWork exWork (exWorkBad.map opM) :=
  workSession_tie exWork exWorkBad
    (parsedTestW_sound exWork (fun f => runOKWB (driverFuel exWork exWorkBad) (Modfile.Edit.loadWork f) exWorkBad &&
        finalFuelWB (driverFuel exWork exWorkBad) (Modfile.Edit.loadWork f) exWorkBad)
      (fun f h => by
        simp only [Bool.and_eq_true] at h
        exact ⟨runOKWB_sound _ _ _ h.1, finalFuelWB_sound h.2⟩)
      (by rw [B_lit exWork]; decide +kernel))

example : (match Modfile.parseWork (B "go.work") exWork none with
    | .ok f =>
      (match Modfile.Edit.runOps applyWork (Modfile.Edit.loadWork f) (exWorkBad.map opM) [] 0 with
       | .panic j => j == 2
       | _ => false) &&
      (match Drv.GenEdit.runWorkOps (driverFuel exWork exWorkBad) (Drv.GenEdit.loadWork f).2 (Drv.GenEdit.loadWork f).1 exWorkBad [] with
       | .panic n => n == "dropgodebug"
       | _ => false)
    | .error _ => false) = true := by rw [B_lit exWork]; decide +kernel

end examples

end ModVerif.Tie.FnEditSessionWork
