/-
  Tie theorems of the go.work EDIT OPERATIONS of modfile/work.go, for the regenerated code of Generated/FnEdit.lean (pointer
  graph = heap, namespace ModVerif.Generated.Edit) against the hand model Model/Modfile/Edit.lean, as simulations over the
  representation `RepW h fp e` of Proofs/TieFnEditRep.lean ("heap `h` at the `*WorkFile` pointer `fp` represents the model
  go.work `e`": line pointer = line id, a typed entry's `Syntax` = its `lineId`, `e.next = lines.length + 1`):

    WorkFile_AddGoStmt        = workAddGoStmt         (scan `firstNonComment`)
    WorkFile_AddToolchainStmt = workAddToolchainStmt  (scan `afterGoLine`: the forward `goto` out of the loop is `Ctl.ret`)
    WorkFile_DropGoStmt       = workDropGoStmt
    WorkFile_DropToolchainStmt= workDropToolchainStmt
    WorkFile_AddGodebug       = workAddGodebug        (`firstRest`, `markAll`, `addLine`)
    WorkFile_addNewGodebug    = the `none` branch of `addGodebugCore`
    WorkFile_DropGodebug      = workDropGodebug       (`clearAll`, `markAll`)
    WorkFile_AddUse           = addUse
    WorkFile_AddNewUse        = addNewUse
    WorkFile_SetUse           = setUse … (perm := id) (the map `need` is iterated in insertion order; `permOf false`)
    WorkFile_DropUse          = dropUse
    WorkFile_AddReplace       = workAddReplace        (around the shared `addReplace`)
    WorkFile_DropReplace      = workDropReplace

  Shape: `match Model.op e args with | .ok e' => ∃ h', Generated.op … fuel fp args h = .ok (none, h') ∧ RepW h' fp e'
  | .error _ => <the Go method returns its error with the heap unchanged / the generated code panics>`.  The model's errors
  are `invalidGoVersion` / `invalidToolchain` (returned; the heap is unchanged) and `nilDeref` (a Go panic: `Err.panic`).
  World functions are instantiated as the driver does (`isPrintI`, `quoteI = Quote.quote`, `goVersionRE`, `toolchainRE`).

  Hypotheses besides `RepW` and fuel: for the four scalar statements `lineId ≠ 0` of `f.Go` / `f.Toolchain` — Go
  dereferences `f.Go.Syntax`, the model updates "the line with that id" (a no-op for the nil id 0); it follows from the tree
  invariant `InvW` of the property theorems (`scalarsLive_of_InvW`).  `SetUse`: `dirs` are pointers to `Use` objects
  carrying the wanted pairs (`DirsOK`), and the fuel of the final `SortBlocks` is asked of the model state before it
  (`setUsePre`).

  Built on: Tie/FnEditTree.lean (leaf functions), Tie/FnEditAddLine.lean (`addLine`),
  Tie/FnEditSort.lean (`WorkFile_SortBlocks`), Proofs/TieFnEditReqD.lean (`addReplace`).
  Helper lemmas: Proofs/TieFnEditWork{A,…,F}.lean; example harness: Proofs/TieFnEditWorkEx.lean.
-/
import ModVerif.Generated.FnEdit
import ModVerif.Model.Modfile.Edit
import ModVerif.Proofs.TieFnEditRep
import ModVerif.Proofs.TieFnEditWorkB
import ModVerif.Proofs.TieFnEditWorkC
import ModVerif.Proofs.TieFnEditWorkD
import ModVerif.Proofs.TieFnEditWorkE
import ModVerif.Proofs.TieFnEditWorkF
import ModVerif.Proofs.TieFnEditWorkEx
import ModVerif.Proofs.TieFnEditReqD
import ModVerif.Proofs.EditRefineInvWork
import ModVerif.Tie.FnEditAddLine
import ModVerif.Tie.FnEditSort
namespace ModVerif.Tie.FnEditWork
open ModVerif ModVerif.GoRt ModVerif.Generated.Edit ModVerif.Tie.FnEditRep ModVerif.Tie.FnEditWorkEx
open ModVerif.TieFnEditAddLine (nodeCount)
open ModVerif.Tie.FnEditWorkE (DirsOK setUsePre)
open ModVerif.Tie.FnEditSortE (workSortFuel)
open ModVerif.Drv.GenEdit (isPrintI quoteI)
open ModVerif.Modfile.Edit (EWork)

theorem ok_of_isSome {ε α : Type} {x : Except ε α} (hx : x.toOption.isSome = true) : ∃ a, x = .ok a := by
  cases x with
  | ok a => exact ⟨a, rfl⟩
  | error e => cases hx

/-- from a tie in `match` form and the model's success: the `ok` branch.  (In the examples the side conditions and the
    success of the model are one conjunction, so that the kernel evaluates the loaded example once.) -/
theorem tie_okW {x : Except Modfile.Edit.EditErr EWork} {P : EWork → Prop} {Q : Prop}
    (h : match (generalizing := false) x with | .ok a => P a | .error _ => Q) (hx : x.toOption.isSome = true) :
    ∃ a, x = .ok a ∧ P a := by
  cases x with
  | ok a => exact ⟨a, rfl, h⟩
  | error e => cases hx

/-- the hypothesis `lineId ≠ 0` of the scalar statements follows from the tree invariant of the edit model -/
theorem scalarsLive_of_InvW {e : EWork} (hi : Modfile.Edit.InvW e) :
    (∀ g, e.f.go = some g → g.lineId ≠ 0) ∧ (∀ t, e.f.toolchain = some t → t.lineId ≠ 0) := by
  constructor
  · intro g hg
    have hm : Modfile.Edit.entGo g ∈ Modfile.Edit.entriesW e.f := by
      simp [Modfile.Edit.entriesW, hg]
    obtain ⟨v, hv, hid, _⟩ := hi.mtch.cover _ hm
    have := hi.tree.pos _ (Modfile.Edit.view_id_mem_treeIds hv)
    rw [hid] at this
    exact this
  · intro t ht
    have hm : Modfile.Edit.entTc t ∈ Modfile.Edit.entriesW e.f := by
      simp [Modfile.Edit.entriesW, ht]
    obtain ⟨v, hv, hid, _⟩ := hi.mtch.cover _ hm
    have := hi.tree.pos _ (Modfile.Edit.view_id_mem_treeIds hv)
    rw [hid] at this
    exact this

/-- **`WorkFile.AddGoStmt` (work.go:121) = the model's `workAddGoStmt`** -/
theorem WorkFile_AddGoStmt_tie {h : Heap} {fp : Int} {e : EWork} (R : RepW h fp e) (version : Bytes) (fuel : Nat)
    (hlive : ∀ g, e.f.go = some g → g.lineId ≠ 0) (hf : e.f.syn.stmts.length + 1 ≤ fuel) :
    match Modfile.Edit.workAddGoStmt e version with
    | .ok e' => ∃ h', WorkFile_AddGoStmt Modfile.goVersionRE fuel fp version h = .ok (none, h') ∧ RepW h' fp e'
    | .error _ => ∃ msg, WorkFile_AddGoStmt Modfile.goVersionRE fuel fp version h = .ok (some msg, h) :=
  FnEditWorkD.WorkFile_AddGoStmt_sim R version fuel hlive hf

/-- **`WorkFile.AddToolchainStmt` (work.go:147) = the model's `workAddToolchainStmt`** -/
theorem WorkFile_AddToolchainStmt_tie {h : Heap} {fp : Int} {e : EWork} (R : RepW h fp e) (name : Bytes) (fuel : Nat)
    (hlive : ∀ t, e.f.toolchain = some t → t.lineId ≠ 0) (hf : e.f.syn.stmts.length + 1 ≤ fuel) :
    match Modfile.Edit.workAddToolchainStmt e name with
    | .ok e' => ∃ h', WorkFile_AddToolchainStmt Modfile.toolchainRE fuel fp name h = .ok (none, h') ∧ RepW h' fp e'
    | .error _ => ∃ msg, WorkFile_AddToolchainStmt Modfile.toolchainRE fuel fp name h = .ok (some msg, h) :=
  FnEditWorkD.WorkFile_AddToolchainStmt_sim R name fuel hlive hf

/-- **`WorkFile.DropGoStmt` (work.go:182) = the model's `workDropGoStmt`** -/
theorem WorkFile_DropGoStmt_tie {h : Heap} {fp : Int} {e : EWork} (R : RepW h fp e)
    (hlive : ∀ g, e.f.go = some g → g.lineId ≠ 0) :
    ∃ h', WorkFile_DropGoStmt fp h = .ok ((), h') ∧ RepW h' fp (Modfile.Edit.workDropGoStmt e) :=
  FnEditWorkD.WorkFile_DropGoStmt_sim R hlive

/-- **`WorkFile.DropToolchainStmt` (work.go:190) = the model's `workDropToolchainStmt`** -/
theorem WorkFile_DropToolchainStmt_tie {h : Heap} {fp : Int} {e : EWork} (R : RepW h fp e)
    (hlive : ∀ t, e.f.toolchain = some t → t.lineId ≠ 0) :
    ∃ h', WorkFile_DropToolchainStmt fp h = .ok ((), h') ∧ RepW h' fp (Modfile.Edit.workDropToolchainStmt e) :=
  FnEditWorkD.WorkFile_DropToolchainStmt_sim R hlive

-- the example go.work (Proofs/TieFnEditWorkEx.lean): `// c`, `go 1.21`, `use ( ./a ./b )`, `replace x.y/z => ../z`
example : runW (WorkFile_AddGoStmt Modfile.goVersionRE 64 · (B "1.22")) = modelW (Modfile.Edit.workAddGoStmt · (B "1.22")) := by
  decide +kernel
example : runW (fun fp h => do let (_, h) ← WorkFile_DropGoStmt fp h; WorkFile_AddGoStmt Modfile.goVersionRE 64 fp (B "1.22") h) =
    modelW (fun e => Modfile.Edit.workAddGoStmt (Modfile.Edit.workDropGoStmt e) (B "1.22")) := by decide +kernel
-- a returned error: the heap is untouched
example : ∃ msg, WorkFile_AddGoStmt Modfile.goVersionRE 64 exFp (B "x") exHeap = .ok (some msg, exHeap) := by
  have H : (∀ g, exW.f.go = some g → g.lineId ≠ 0) ∧ exW.f.syn.stmts.length + 1 ≤ 64 ∧
      (Modfile.Edit.workAddGoStmt exW (B "x")).toOption.isSome = false := by decide +kernel
  have T := WorkFile_AddGoStmt_tie exR (B "x") 64 H.1 H.2.1
  cases hx : Modfile.Edit.workAddGoStmt exW (B "x") with
  | ok e' => have hn := H.2.2; rw [hx] at hn; cases hn
  | error er => rw [hx] at T; exact T
-- the toolchain line goes after the `go` line (the `goto` branch) …
example : runW (WorkFile_AddToolchainStmt Modfile.toolchainRE 64 · (B "go1.21.0")) =
    modelW (Modfile.Edit.workAddToolchainStmt · (B "go1.21.0")) := by decide +kernel
-- … and, without a `go` line, after the leading comment blocks; a second call rewrites the line
example : runW (fun fp h => do
      let (_, h) ← WorkFile_DropGoStmt fp h
      let (_, h) ← WorkFile_AddToolchainStmt Modfile.toolchainRE 64 fp (B "go1.21.0") h
      WorkFile_AddToolchainStmt Modfile.toolchainRE 64 fp (B "go1.22.1") h) =
    modelW (fun e => do
      let e ← Modfile.Edit.workAddToolchainStmt (Modfile.Edit.workDropGoStmt e) (B "go1.21.0")
      Modfile.Edit.workAddToolchainStmt e (B "go1.22.1")) := by decide +kernel
example : runW (fun fp h => do
      let (_, h) ← WorkFile_AddToolchainStmt Modfile.toolchainRE 64 fp (B "go1.21.0") h
      WorkFile_DropToolchainStmt fp h) =
    modelW (fun e => do
      let e ← Modfile.Edit.workAddToolchainStmt e (B "go1.21.0")
      pure (Modfile.Edit.workDropToolchainStmt e)) := by decide +kernel
-- the hypotheses hold of the example (so the theorems apply to what the parser produces)
example : ∃ h', WorkFile_DropGoStmt exFp exHeap = .ok ((), h') ∧ RepW h' exFp (Modfile.Edit.workDropGoStmt exW) :=
  WorkFile_DropGoStmt_tie exR (by decide +kernel)
example : ∃ e', Modfile.Edit.workAddGoStmt exW (B "1.22") = .ok e' ∧
    ∃ h', WorkFile_AddGoStmt Modfile.goVersionRE 64 exFp (B "1.22") exHeap = .ok (none, h') ∧ RepW h' exFp e' :=
  (fun (H : _ ∧ _ ∧ _) => tie_okW (WorkFile_AddGoStmt_tie exR (B "1.22") 64 H.1 H.2.1) H.2.2) (by decide +kernel)

/-- **`WorkFile.addNewGodebug` (work.go:226)**: the `none` branch of the model's `addGodebugCore` -/
theorem WorkFile_addNewGodebug_tie {h : Heap} {fp : Int} {e : EWork} (R : RepW h fp e) (key value : Bytes) (fuel : Nat)
    (hf : nodeCount e.f.syn.stmts + 3 ≤ fuel) :
    ∃ h', WorkFile_addNewGodebug fuel fp key value h = .ok ((), h') ∧
      RepW h' fp { f := { e.f with godebug := e.f.godebug ++ [{ key := key, value := value, lineId := e.next }],
                                   syn := Modfile.Edit.addLine e.f.syn none [B "godebug", key ++ [61] ++ value] e.next },
                   next := e.next + 1 } :=
  FnEditWorkC.WorkFile_addNewGodebug_sim R key value fuel hf

/-- **`WorkFile.AddGodebug` (work.go:203) = the model's `workAddGodebug`** -/
theorem WorkFile_AddGodebug_tie {h : Heap} {fp : Int} {e : EWork} (R : RepW h fp e) (key value : Bytes) (fuel : Nat)
    (hf : nodeCount e.f.syn.stmts + 3 ≤ fuel) (hf2 : e.f.godebug.length + 1 ≤ fuel) :
    match Modfile.Edit.workAddGodebug e key value with
    | .ok e' => ∃ h', WorkFile_AddGodebug fuel fp key value h = .ok (none, h') ∧ RepW h' fp e'
    | .error _ => WorkFile_AddGodebug fuel fp key value h = .error .panic :=
  FnEditWorkC.WorkFile_AddGodebug_sim R key value fuel hf hf2

/-- **`WorkFile.DropGodebug` (work.go:236) = the model's `workDropGodebug`** -/
theorem WorkFile_DropGodebug_tie {h : Heap} {fp : Int} {e : EWork} (R : RepW h fp e) (key : Bytes) (fuel : Nat)
    (hf : e.f.godebug.length + 1 ≤ fuel) :
    match Modfile.Edit.workDropGodebug e key with
    | .ok e' => ∃ h', WorkFile_DropGodebug fuel fp key h = .ok (none, h') ∧ RepW h' fp e'
    | .error _ => WorkFile_DropGodebug fuel fp key h = .error .panic :=
  FnEditWorkB.WorkFile_DropGodebug_sim R key fuel hf

-- a new godebug line; the same key again: the line is rewritten; another key: the two lines become a block; drop
example : runW (fun fp h => do
      let (_, h) ← WorkFile_AddGodebug 64 fp (B "a") (B "1") h
      let (_, h) ← WorkFile_AddGodebug 64 fp (B "a") (B "2") h
      let (_, h) ← WorkFile_AddGodebug 64 fp (B "b") (B "3") h
      WorkFile_DropGodebug 64 fp (B "a") h) =
    modelW (fun e => do
      let e ← Modfile.Edit.workAddGodebug e (B "a") (B "1")
      let e ← Modfile.Edit.workAddGodebug e (B "a") (B "2")
      let e ← Modfile.Edit.workAddGodebug e (B "b") (B "3")
      Modfile.Edit.workDropGodebug e (B "a")) := by decide +kernel
-- dropping the empty key after a drop reaches a cleared entry: nil dereference on both sides
example : runW (fun fp h => do
      let (_, h) ← WorkFile_AddGodebug 64 fp (B "a") (B "1") h
      let (_, h) ← WorkFile_DropGodebug 64 fp (B "a") h
      WorkFile_DropGodebug 64 fp [] h) = none ∧
    modelW (fun e => do
      let e ← Modfile.Edit.workAddGodebug e (B "a") (B "1")
      let e ← Modfile.Edit.workDropGodebug e (B "a")
      Modfile.Edit.workDropGodebug e []) = none := by decide +kernel
example : ∃ e', Modfile.Edit.workAddGodebug exW (B "a") (B "1") = .ok e' ∧
    ∃ h', WorkFile_AddGodebug 64 exFp (B "a") (B "1") exHeap = .ok (none, h') ∧ RepW h' exFp e' :=
  (fun (H : _ ∧ _ ∧ _) => tie_okW (WorkFile_AddGodebug_tie exR (B "a") (B "1") 64 H.1 H.2.1) H.2.2) (by decide +kernel)
example : ∃ e', Modfile.Edit.workDropGodebug exW (B "a") = .ok e' ∧
    ∃ h', WorkFile_DropGodebug 64 exFp (B "a") exHeap = .ok (none, h') ∧ RepW h' exFp e' :=
  (fun (H : _ ∧ _) => tie_okW (WorkFile_DropGodebug_tie exR (B "a") 64 H.1) H.2) (by decide +kernel)

/-- **`WorkFile.AddNewUse` (work.go:267) = the model's `addNewUse`** -/
theorem WorkFile_AddNewUse_tie {h : Heap} {fp : Int} {e : EWork} (R : RepW h fp e) (diskPath modulePath : Bytes) (fuel : Nat)
    (hf : nodeCount e.f.syn.stmts + 3 ≤ fuel) (hq : diskPath.length + 1 ≤ fuel) :
    ∃ h', WorkFile_AddNewUse isPrintI quoteI fuel fp diskPath modulePath h = .ok ((), h') ∧
      RepW h' fp (Modfile.Edit.addNewUse e diskPath modulePath) :=
  FnEditWorkC.WorkFile_AddNewUse_sim R diskPath modulePath fuel hf hq

/-- **`WorkFile.AddUse` (work.go:246) = the model's `addUse`** -/
theorem WorkFile_AddUse_tie {h : Heap} {fp : Int} {e : EWork} (R : RepW h fp e) (diskPath modulePath : Bytes) (fuel : Nat)
    (hf : nodeCount e.f.syn.stmts + 3 ≤ fuel) (hf2 : e.f.use.length + diskPath.length + 1 ≤ fuel) :
    match Modfile.Edit.addUse e diskPath modulePath with
    | .ok e' => ∃ h', WorkFile_AddUse isPrintI quoteI fuel fp diskPath modulePath h = .ok (none, h') ∧ RepW h' fp e'
    | .error _ => WorkFile_AddUse isPrintI quoteI fuel fp diskPath modulePath h = .error .panic :=
  FnEditWorkC.WorkFile_AddUse_sim R diskPath modulePath fuel hf hf2

/-- **`WorkFile.DropUse` (work.go:296) = the model's `dropUse`** -/
theorem WorkFile_DropUse_tie {h : Heap} {fp : Int} {e : EWork} (R : RepW h fp e) (path : Bytes) (fuel : Nat)
    (hf : e.f.use.length + 1 ≤ fuel) :
    match Modfile.Edit.dropUse e path with
    | .ok e' => ∃ h', WorkFile_DropUse fuel fp path h = .ok (none, h') ∧ RepW h' fp e'
    | .error _ => WorkFile_DropUse fuel fp path h = .error .panic :=
  FnEditWorkB.WorkFile_DropUse_sim R path fuel hf

/-- **`WorkFile.SetUse` (work.go:272) = the model's `setUse` with `perm = id`**: Go iterates the map `need` in random order,
    the regenerated code in insertion order, which is the model's `perm := fun l => l` (`permOf false`) -/
theorem WorkFile_SetUse_tie {h : Heap} {fp : Int} {e : EWork} (R : RepW h fp e) (dirs : List Int) (ws : List (Bytes × Bytes))
    (hd : DirsOK h dirs ws) (M : Nat) (hM : ∀ w ∈ ws, w.1.length ≤ M) (fuel : Nat)
    (hf1 : nodeCount e.f.syn.stmts + 3 * ws.length + 3 ≤ fuel) (hf2 : M + ws.length + 1 ≤ fuel)
    (hf3 : e.f.use.length + 1 ≤ fuel) (hf4 : ∀ e2, setUsePre e ws = .ok e2 → workSortFuel e2 ≤ fuel) :
    match Modfile.Edit.setUse e ws (Modfile.Edit.permOf false) with
    | .ok e' => ∃ h', WorkFile_SetUse isPrintI quoteI fuel fp dirs h = .ok ((), h') ∧ RepW h' fp e'
    | .error _ => WorkFile_SetUse isPrintI quoteI fuel fp dirs h = .error .panic := by
  have hp : (Modfile.Edit.permOf false : List (Bytes × Bytes) → List (Bytes × Bytes)) = fun l => l := by
    funext l; simp [Modfile.Edit.permOf]
  rw [hp]
  exact FnEditWorkE.WorkFile_SetUse_sim workSortFuel (fun R fuel hf => FnEditSort.WorkFile_SortBlocks_tie R fuel hf)
    R dirs ws hd M hM fuel hf1 hf2 hf3 hf4

example : runW (fun fp h => do
      let (_, h) ← WorkFile_AddUse isPrintI quoteI 64 fp (B "./c d") (B "m") h
      let (_, h) ← WorkFile_AddUse isPrintI quoteI 64 fp (B "./a") (B "n") h
      WorkFile_DropUse 64 fp (B "./b") h) =
    modelW (fun e => do
      let e ← Modfile.Edit.addUse e (B "./c d") (B "m")
      let e ← Modfile.Edit.addUse e (B "./a") (B "n")
      Modfile.Edit.dropUse e (B "./b")) := by decide +kernel
example : runW (WorkFile_AddNewUse isPrintI quoteI 64 · (B "./a") []) = modelW (fun e => pure (Modfile.Edit.addNewUse e (B "./a") [])) := by
  decide +kernel
-- SetUse: `./b` is kept, `./a` dropped, `./q` and `./p` added in the order of the request, the block sorted
example : runW (fun fp h =>
      let h := { h with uses := h.uses ++ [{ Path := B "./q", ModulePath := B "m", Syntax := 0 },
        { Path := B "./b", ModulePath := B "n", Syntax := 0 }, { Path := B "./p", ModulePath := [], Syntax := 0 }] }
      WorkFile_SetUse isPrintI quoteI 256 fp [3, 4, 5] h) =
    modelW (fun e => Modfile.Edit.setUse e [(B "./q", B "m"), (B "./b", B "n"), (B "./p", [])] (Modfile.Edit.permOf false)) := by
  decide +kernel
example : ∃ e', Modfile.Edit.addUse exW (B "./a") (B "n") = .ok e' ∧
    ∃ h', WorkFile_AddUse isPrintI quoteI 64 exFp (B "./a") (B "n") exHeap = .ok (none, h') ∧ RepW h' exFp e' :=
  (fun (H : _ ∧ _ ∧ _) => tie_okW (WorkFile_AddUse_tie exR (B "./a") (B "n") 64 H.1 H.2.1) H.2.2) (by decide +kernel)
example : ∃ e', Modfile.Edit.dropUse exW (B "./a") = .ok e' ∧
    ∃ h', WorkFile_DropUse 64 exFp (B "./a") exHeap = .ok (none, h') ∧ RepW h' exFp e' :=
  (fun (H : _ ∧ _) => tie_okW (WorkFile_DropUse_tie exR (B "./a") 64 H.1) H.2) (by decide +kernel)
example : ∃ h', WorkFile_AddNewUse isPrintI quoteI 64 exFp (B "./c") [] exHeap = .ok ((), h') ∧
    RepW h' exFp (Modfile.Edit.addNewUse exW (B "./c") []) :=
  WorkFile_AddNewUse_tie exR (B "./c") [] 64 (by decide +kernel) (by decide +kernel)
-- SetUse with the empty request (no new `Use` objects needed): every entry is dropped
example : ∃ e', Modfile.Edit.setUse exW [] (Modfile.Edit.permOf false) = .ok e' ∧
    ∃ h', WorkFile_SetUse isPrintI quoteI 64 exFp [] exHeap = .ok ((), h') ∧ RepW h' exFp e' := by
  have hb : (((setUsePre exW []).toOption.map workSortFuel).getD 0) ≤ 64 ∧
      (Modfile.Edit.setUse exW [] (Modfile.Edit.permOf false)).toOption.isSome = true := by decide +kernel
  exact (fun (H : _ ∧ _ ∧ _) => tie_okW (WorkFile_SetUse_tie exR [] [] trivial 0 (fun _ hw => nomatch hw) 64 H.1 H.2.1 H.2.2
    (fun e2 he2 => by have := hb.1; rw [he2] at this; exact this)) hb.2) (by decide +kernel)

/-- `FileSyntax.addLine` hinted by a `*Line` that may be nil: the statement the `addReplace` tie asks for -/
theorem addLinePtrSpec : FnEditReqC.AddLinePtrSpec := by
  intro h x fs hint t0 trest fuel r ht hf
  obtain ⟨h', a, b, c, d, e, _, f, _⟩ := FnEditAddLine.addLinePtr_tie r ht hint t0 trest fuel hf
  exact ⟨h', a, b, c, d, e, f⟩

/-- **`WorkFile.AddReplace` (work.go:306) = the model's `workAddReplace`** -/
theorem WorkFile_AddReplace_tie {h : Heap} {fp : Int} {e : EWork} (R : RepW h fp e) (oldPath oldVers newPath newVers : Bytes)
    (fuel : Nat) (hf1 : oldPath.length + 1 ≤ fuel) (hf2 : newPath.length + 1 ≤ fuel) (hf3 : e.f.replace.length + 1 ≤ fuel)
    (hf4 : nodeCount e.f.syn.stmts + 3 ≤ fuel) :
    match Modfile.Edit.workAddReplace e oldPath oldVers newPath newVers with
    | .ok e' => ∃ h', WorkFile_AddReplace isPrintI quoteI fuel fp oldPath oldVers newPath newVers h = .ok (none, h') ∧ RepW h' fp e'
    | .error _ => WorkFile_AddReplace isPrintI quoteI fuel fp oldPath oldVers newPath newVers h = .error .panic := by
  exact FnEditWorkF.WorkFile_AddReplace_sim
    (fuelOK := fun fs rp op np fuel => op.length + 1 ≤ fuel ∧ np.length + 1 ≤ fuel ∧ rp.length + 1 ≤ fuel ∧
      nodeCount fs.stmts + 3 ≤ fuel)
    (fun R op ov np nv fuel hf => FnEditReqD.addReplace_sim' addLinePtrSpec R op ov np nv fuel hf.1 hf.2.1 hf.2.2.1 hf.2.2.2)
    R oldPath oldVers newPath newVers fuel ⟨hf1, hf2, hf3, hf4⟩

/-- **`WorkFile.DropReplace` (work.go:310) = the model's `workDropReplace`** -/
theorem WorkFile_DropReplace_tie {h : Heap} {fp : Int} {e : EWork} (R : RepW h fp e) (oldPath oldVers : Bytes) (fuel : Nat)
    (hf : e.f.replace.length + 1 ≤ fuel) :
    match Modfile.Edit.workDropReplace e oldPath oldVers with
    | .ok e' => ∃ h', WorkFile_DropReplace fuel fp oldPath oldVers h = .ok (none, h') ∧ RepW h' fp e'
    | .error _ => WorkFile_DropReplace fuel fp oldPath oldVers h = .error .panic :=
  FnEditWorkB.WorkFile_DropReplace_sim R oldPath oldVers fuel hf

-- the existing replacement is rewritten; a second one with the same old path becomes a block with it; drop the first
example : runW (fun fp h => do
      let (_, h) ← WorkFile_AddReplace isPrintI quoteI 64 fp (B "x.y/z") [] (B "../w") [] h
      let (_, h) ← WorkFile_AddReplace isPrintI quoteI 64 fp (B "x.y/z") (B "v1.0.0") (B "../v") [] h
      WorkFile_DropReplace 64 fp (B "x.y/z") [] h) =
    modelW (fun e => do
      let e ← Modfile.Edit.workAddReplace e (B "x.y/z") [] (B "../w") []
      let e ← Modfile.Edit.workAddReplace e (B "x.y/z") (B "v1.0.0") (B "../v") []
      Modfile.Edit.workDropReplace e (B "x.y/z") []) := by decide +kernel
example : ∃ e', Modfile.Edit.workAddReplace exW (B "a.b/c") [] (B "../c") [] = .ok e' ∧
    ∃ h', WorkFile_AddReplace isPrintI quoteI 64 exFp (B "a.b/c") [] (B "../c") [] exHeap = .ok (none, h') ∧ RepW h' exFp e' :=
  (fun (H : _ ∧ _ ∧ _ ∧ _ ∧ _) => tie_okW (WorkFile_AddReplace_tie exR (B "a.b/c") [] (B "../c") [] 64 H.1 H.2.1 H.2.2.1 H.2.2.2.1) H.2.2.2.2) (by decide +kernel)
example : ∃ e', Modfile.Edit.workDropReplace exW (B "x.y/z") [] = .ok e' ∧
    ∃ h', WorkFile_DropReplace 64 exFp (B "x.y/z") [] exHeap = .ok (none, h') ∧ RepW h' exFp e' :=
  (fun (H : _ ∧ _) => tie_okW (WorkFile_DropReplace_tie exR (B "x.y/z") [] 64 H.1) H.2) (by decide +kernel)

end ModVerif.Tie.FnEditWork
