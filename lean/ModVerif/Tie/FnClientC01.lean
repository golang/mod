/-
  C01 on the REGENERATED client.  The two main theorems of Props/C01.lean (`lookup_authentic`, `honest_never_fails`),
  which are about the hand model `Client.lookup`, restated about `Generated.SumdbClient.Client_Lookup` — the Lean
  definition re-translated from sumdb/client.go on every check — through `Tie.FnClientLookup.Lookup_tie`.

  The regenerated client starts in `cw0 P s0 z` (`NewClient`, `SetTileHeight(P.height)`, `SetGONOSUMDB(P.nosumdb)`; `z` the
  zero hash), runs in `envOf P E` (the `ClientOps` of the model's environment `E`, hashes / base64 / Ed25519 / `path.Match` /
  `unicode.IsLetter` from `P`), and `genRun` calls `Lookup` for each earlier `(path, vers)`.  The effect trace is the second
  component of the state behind `ClientOps` (`cw.s.2`): every `WriteCache`, `WriteConfig`, `SecurityError` and read the
  generated code performs is appended to it by `envOf`.

  Hypotheses beyond those of the model theorems (named, see Tie/FnClientLookup.lean):
  * `hM : MergeLatestSpec P E AM`, `hC : CheckRecordSpec P E AC` — the ties of `Client_mergeLatest` / `Client_checkRecord`
    (Tie/FnClientMerge.lean) with their side conditions `AM` / `AC`;
  * `hsha` — the key-hash function returns at least four bytes;
  * `hadm`, `hadm'` — enough fuel and the side conditions `AM` / `AC` at every call the model makes (`RunAdm`, `LookupAdm`).
  The statements say: under these, the regenerated `Lookup` RETURNS, and what it returns / has written is authentic.

  Last section: `hM` / `hC` discharged by the ties of the merge unit (`mergeLatest_tie`, `checkRecord_tie`,
  Proofs/TieFnClientMergeLoop.lean, …MergeCheck.lean) for any `S : TileSpecs P E` (the ties of the three reads through tiles with their fuel
  bounds): `AM fuel w msg` is `MergeOk P E w msg ∧ mergeFuel S w msg ≤ fuel`, `AC fuel w id data` is
  `CheckRecordOk P E w id data ∧ checkRecordFuel S w id ≤ fuel`; then `S` by `tileSpecs P E h32 h57`.
-/
import ModVerif.Tie.FnClientLookup
import ModVerif.Proofs.TieFnClientLookupMain
import ModVerif.Props.C01
import ModVerif.Proofs.TieFnClientMergeLoop
import ModVerif.Proofs.TieFnClientMergeInstTile
import ModVerif.Proofs.BytesLit
set_option linter.unusedSectionVars false
namespace ModVerif.Tie.FnClientC01
open ModVerif ModVerif.GoRt ModVerif.Generated.SumdbClient ModVerif.TieFnClientRep ModVerif.TieFnClientLookup
open ModVerif.Client (Effect)

section
variable {σ H : Type} [DecidableEq H] [Inhabited H]

/-- `lookup_authentic` for the regenerated `Lookup`.  For every environment and every log `D` of fewer than `2^62`
records, under signature soundness of the configured key and injectivity of `NodeHash` / `RecordHash`: after any sequence
of earlier lookups the regenerated `Client_Lookup` returns `(lines, err)` and a world such that
  (1) if `err` is nil, `lines` are exactly the lines with the prefix `path vers ` of a response whose record text is the
      record of `D` with the id of the response and whose remainder is empty or a tree note accepted under the configured
      key (`cw'.verifiers` is `note.VerifierList` of that key), itself a head of `D`;
  (2) every `WriteCache` in the trace carries such a response or, under the tile's cache key, the bytes of a true tile;
  (3) every `WriteConfig` in the trace carries an accepted head of `D`, replacing the empty value or an accepted
      strictly smaller head. -/
theorem lookup_authentic_gen (P : Client.Params H) (D : List Bytes) (hD : D.length < 2 ^ 62)
    (hnode : ∀ a b c d : H, P.node a b = P.node c d → a = c ∧ b = d)
    (hleaf : ∀ x y : Bytes, P.leaf x = P.leaf y → x = y)
    (E : Client.Env σ) (hkey : Client.KeySound P D E) (s0 : σ) (z : H) (earlier : List (Bytes × Bytes)) (path vers : Bytes)
    (AM : Nat → Client.World σ H → Bytes → Prop) (AC : Nat → Client.World σ H → Int → Bytes → Prop)
    (hM : MergeLatestSpec P E AM) (hC : CheckRecordSpec P E AC) (hsha : ∀ x, 4 ≤ (P.sha x).length) (fuel : Nat)
    (hadm : RunAdm P E AM AC fuel ⟨s0, Client.newClient P, []⟩ earlier)
    (hadm' : LookupAdm P E AM AC fuel (Client.runLookups P E ⟨s0, Client.newClient P, []⟩ earlier) path vers) :
    ∃ cw1 r' cw' vs, genRun (envOf P E) fuel (cw0 P s0 z) earlier = .ok cw1 ∧
      Client_Lookup (envOf P E) fuel path vers cw1 = .ok (r', cw') ∧ cw'.verifiers = verifiersOf vs ∧
      (∀ lines, r' = (lines, none) → ∃ data id text rest,
          TlogNote.parseRecord data = some (id, text, rest) ∧ D[Client.recIndex id]? = some text ∧
          (rest = [] ∨ ∃ hd, Client.openTree P vs rest = .ok hd ∧ Client.IsHead P D hd) ∧
          lines = Client.filterLines (path ++ [32] ++ vers ++ [32]) data) ∧
      (∀ f d, Effect.writeCache f d ∈ cw'.s.2 →
          (∃ id text rest, TlogNote.parseRecord d = some (id, text, rest) ∧ D[Client.recIndex id]? = some text) ∨
          (∃ t, f = Client.tileCacheKey cw'.name t ∧ Client.AuthTile P D t d)) ∧
      (∀ f old new res, Effect.writeConfig f old new res ∈ cw'.s.2 →
          ∃ hd, Client.openTree P vs new = .ok hd ∧ Client.IsHead P D hd ∧
            (old = [] ∨ ∃ ho, Client.openTree P vs old = .ok ho ∧ Client.IsHead P D ho ∧ ho.n < hd.n)) := by
  obtain ⟨cw1, hrun, hL1⟩ :=
    run_tie P E AM AC hM hC hsha fuel earlier _ _ (Tie.FnClientLookup.newClient_tie P E s0 z) hadm
  obtain ⟨r', cw', hlk, hL2, hres⟩ :=
    Tie.FnClientLookup.Lookup_tie P E AM AC hM hC hsha _ cw1 fuel path vers hL1 hadm'
  obtain ⟨a1, a2, a3⟩ := Props.C01.lookup_authentic P D hD hnode hleaf E hkey s0 earlier path vers
  have hs := hL2.1.s
  have htr : cw'.s.2 = (Client.lookup P E (Client.runLookups P E ⟨s0, Client.newClient P, []⟩ earlier) path vers).2.tr := by
    rw [hs]
  refine ⟨cw1, r', cw', _, hrun, hlk, hL2.1.verifiers, ?_, ?_, ?_⟩
  · intro lines hl
    subst hl
    apply a1 lines
    cases hr : (Client.lookup P E (Client.runLookups P E ⟨s0, Client.newClient P, []⟩ earlier) path vers).1 with
    | ok l =>
      rw [hr] at hres
      have := (RepRes_ok_iff _ l).mp hres
      cases this; rfl
    | error e =>
      rw [hr] at hres
      obtain ⟨s, hs', _⟩ := hres
      cases hs'
  · intro f d hm
    rw [htr] at hm
    rw [hL2.1.name]
    exact a2 f d hm
  · intro f old new res hm
    rw [htr] at hm
    exact a3 f old new res hm

end

section
variable {H : Type} [DecidableEq H] [Inhabited H]
open ModVerif.Client (Honest HonestState HState Server honestEnv HonestLookup)

/-- `honest_never_fails` for the regenerated `Lookup`.  In the honest world for a log `D` (honest server, persistent
cache, compare-and-swap configuration, any honest initial state), after any sequence of earlier lookups, the regenerated
`Client_Lookup` of a module the server has a record for — not excluded by GONOSUMDB, escapable — RETURNS, with a nil error,
exactly the lines with the prefix `path vers ` of an honest response for that module. -/
theorem honest_never_fails_gen (P : Client.Params H) (D : List Bytes) (S : Server) (stN : List H) (hon : Honest P D S stN)
    (s0 : HState) (hs0 : HonestState P D S stN s0) (z : H) (earlier : List (Bytes × Bytes))
    (path vers epath evers : Bytes) (id : Nat)
    (hskip : Module.matchPrefixPatterns P.glob P.nosumdb path = false)
    (hep : Module.escapePath path = .ok epath)
    (hev : Module.escapeVersion P.isLetter (Client.trimGoMod vers) = .ok evers)
    (hidx : S.index (B "/lookup/" ++ (epath ++ ([64] ++ evers))) = some id)
    (AM : Nat → Client.World HState H → Bytes → Prop) (AC : Nat → Client.World HState H → Int → Bytes → Prop)
    (hM : MergeLatestSpec P (honestEnv S) AM) (hC : CheckRecordSpec P (honestEnv S) AC)
    (hsha : ∀ x, 4 ≤ (P.sha x).length) (fuel : Nat)
    (hadm : RunAdm P (honestEnv S) AM AC fuel ⟨s0, Client.newClient P, []⟩ earlier)
    (hadm' : LookupAdm P (honestEnv S) AM AC fuel (Client.runLookups P (honestEnv S) ⟨s0, Client.newClient P, []⟩ earlier)
      path vers) :
    ∃ cw1 cw' d, genRun (envOf P (honestEnv S)) fuel (cw0 P s0 z) earlier = .ok cw1 ∧
      HonestLookup P D S (B "/lookup/" ++ (epath ++ ([64] ++ evers))) d ∧
      Client_Lookup (envOf P (honestEnv S)) fuel path vers cw1 =
        .ok ((Client.filterLines (path ++ [32] ++ vers ++ [32]) d, none), cw') := by
  obtain ⟨cw1, hrun, hL1⟩ :=
    run_tie P (honestEnv S) AM AC hM hC hsha fuel earlier _ _ (Tie.FnClientLookup.newClient_tie P (honestEnv S) s0 z) hadm
  obtain ⟨r', cw', hlk, _, hres⟩ :=
    Tie.FnClientLookup.Lookup_tie P (honestEnv S) AM AC hM hC hsha _ cw1 fuel path vers hL1 hadm'
  obtain ⟨d, hd1, hd2⟩ :=
    Props.C01.honest_never_fails P D S stN hon s0 hs0 earlier path vers epath evers id hskip hep hev hidx
  rw [hd2] at hres
  have := (RepRes_ok_iff _ _).mp hres
  rw [this] at hlk
  exact ⟨cw1, cw', d, hrun, hd1, hlk⟩

end

/-! ### the hypotheses `MergeLatestSpec` / `CheckRecordSpec`, discharged by the merge unit -/

section
variable {σ H : Type} [DecidableEq H] [Inhabited H]
open ModVerif.TieFnClientMerge

/-- the side condition of `mergeLatest` of the merge unit's tie -/
def amOf {P : Client.Params H} {E : Client.Env σ} (S : TileSpecs P E) : Nat → Client.World σ H → Bytes → Prop :=
  fun fuel w msg => MergeOk P E w msg ∧ mergeFuel S w msg ≤ fuel

/-- the side condition of `checkRecord` of the merge unit's tie -/
def acOf {P : Client.Params H} {E : Client.Env σ} (S : TileSpecs P E) : Nat → Client.World σ H → Int → Bytes → Prop :=
  fun fuel w id data => CheckRecordOk P E w id data ∧ checkRecordFuel S w id ≤ fuel

theorem mergeLatestSpec_of {P : Client.Params H} {E : Client.Env σ} (S : TileSpecs P E) :
    MergeLatestSpec P E (amOf S) := by
  intro w cw msg fuel hr ha
  obtain ⟨r', cw', h1, h2, h3, h4, _⟩ := mergeLatest_tie S w cw msg fuel hr ha.1 ha.2
  exact ⟨r', cw', h1, h2, h3, h4.initDone, h4.initErr⟩

theorem checkRecordSpec_of {P : Client.Params H} {E : Client.Env σ} (S : TileSpecs P E) :
    CheckRecordSpec P E (acOf S) := by
  intro w cw id data fuel hr ha
  obtain ⟨r', cw', h1, h2, h3, h4, _⟩ := checkRecord_tie S w cw id data fuel hr ha.1 ha.2
  exact ⟨r', cw', h1, h2, h3, h4.initDone, h4.initErr⟩

end

/-! ### … and `TileSpecs` by the tile units: no hypothesis about generated code left

  `TieFnClientMerge.tileSpecs P E h32 h57` (Proofs/TieFnClientMergeInstTile.lean) constructs `TileSpecs P E` from the ties of
  `tileHashReader.ReadHashes` / `TreeHash` / `ProveTree` in world mode and of the client's tile methods, for every `Params`
  with `hashSize = 32` (`tlog.HashSize`) and tile height at most 57.  What remains are hypotheses about the MODEL's run
  (`RunAdm` / `LookupAdm`: fuel, sizes `< 2^62`, no model-only outcome) and `hsha`. -/

section
variable {σ H : Type} [DecidableEq H] [Inhabited H]
open ModVerif.TieFnClientMerge

/-- `Lookup_tie`, closed -/
theorem Lookup_tie_closed (P : Client.Params H) (E : Client.Env σ) (h32 : P.hashSize = 32)
    (h57 : Client.tileHeight P ≤ 57) (hsha : ∀ x, 4 ≤ (P.sha x).length)
    (w : Client.World σ H) (cw : GW σ H) (fuel : Nat) (path vers : Bytes) (h : RepL P E w cw)
    (ha : LookupAdm P E (amOf (tileSpecs P E h32 h57)) (acOf (tileSpecs P E h32 h57)) fuel w path vers) :
    ∃ r' cw', Client_Lookup (envOf P E) fuel path vers cw = .ok (r', cw') ∧
      RepL P E (Client.lookup P E w path vers).2 cw' ∧ RepRes r' (Client.lookup P E w path vers).1 :=
  Tie.FnClientLookup.Lookup_tie P E _ _ (mergeLatestSpec_of _) (checkRecordSpec_of _) hsha w cw fuel path vers h ha

/-- `lookup_authentic` for the regenerated `Lookup`, closed -/
theorem lookup_authentic_gen_closed (P : Client.Params H) (D : List Bytes) (hD : D.length < 2 ^ 62)
    (hnode : ∀ a b c d : H, P.node a b = P.node c d → a = c ∧ b = d)
    (hleaf : ∀ x y : Bytes, P.leaf x = P.leaf y → x = y)
    (E : Client.Env σ) (hkey : Client.KeySound P D E) (s0 : σ) (z : H) (earlier : List (Bytes × Bytes)) (path vers : Bytes)
    (h32 : P.hashSize = 32) (h57 : Client.tileHeight P ≤ 57) (hsha : ∀ x, 4 ≤ (P.sha x).length) (fuel : Nat)
    (hadm : RunAdm P E (amOf (tileSpecs P E h32 h57)) (acOf (tileSpecs P E h32 h57)) fuel ⟨s0, Client.newClient P, []⟩ earlier)
    (hadm' : LookupAdm P E (amOf (tileSpecs P E h32 h57)) (acOf (tileSpecs P E h32 h57)) fuel
      (Client.runLookups P E ⟨s0, Client.newClient P, []⟩ earlier) path vers) :
    ∃ cw1 r' cw' vs, genRun (envOf P E) fuel (cw0 P s0 z) earlier = .ok cw1 ∧
      Client_Lookup (envOf P E) fuel path vers cw1 = .ok (r', cw') ∧ cw'.verifiers = verifiersOf vs ∧
      (∀ lines, r' = (lines, none) → ∃ data id text rest,
          TlogNote.parseRecord data = some (id, text, rest) ∧ D[Client.recIndex id]? = some text ∧
          (rest = [] ∨ ∃ hd, Client.openTree P vs rest = .ok hd ∧ Client.IsHead P D hd) ∧
          lines = Client.filterLines (path ++ [32] ++ vers ++ [32]) data) ∧
      (∀ f d, Effect.writeCache f d ∈ cw'.s.2 →
          (∃ id text rest, TlogNote.parseRecord d = some (id, text, rest) ∧ D[Client.recIndex id]? = some text) ∨
          (∃ t, f = Client.tileCacheKey cw'.name t ∧ Client.AuthTile P D t d)) ∧
      (∀ f old new res, Effect.writeConfig f old new res ∈ cw'.s.2 →
          ∃ hd, Client.openTree P vs new = .ok hd ∧ Client.IsHead P D hd ∧
            (old = [] ∨ ∃ ho, Client.openTree P vs old = .ok ho ∧ Client.IsHead P D ho ∧ ho.n < hd.n)) :=
  lookup_authentic_gen P D hD hnode hleaf E hkey s0 z earlier path vers _ _ (mergeLatestSpec_of _) (checkRecordSpec_of _)
    hsha fuel hadm hadm'

end

section
variable {H : Type} [DecidableEq H] [Inhabited H]
open ModVerif.Client (Honest HonestState HState Server honestEnv HonestLookup)
open ModVerif.TieFnClientMerge

/-- `honest_never_fails` for the regenerated `Lookup`, closed -/
theorem honest_never_fails_gen_closed (P : Client.Params H) (D : List Bytes) (S : Server) (stN : List H)
    (hon : Honest P D S stN) (s0 : HState) (hs0 : HonestState P D S stN s0) (z : H) (earlier : List (Bytes × Bytes))
    (path vers epath evers : Bytes) (id : Nat)
    (hskip : Module.matchPrefixPatterns P.glob P.nosumdb path = false)
    (hep : Module.escapePath path = .ok epath)
    (hev : Module.escapeVersion P.isLetter (Client.trimGoMod vers) = .ok evers)
    (hidx : S.index (B "/lookup/" ++ (epath ++ ([64] ++ evers))) = some id)
    (h32 : P.hashSize = 32) (h57 : Client.tileHeight P ≤ 57) (hsha : ∀ x, 4 ≤ (P.sha x).length) (fuel : Nat)
    (hadm : RunAdm P (honestEnv S) (amOf (tileSpecs P (honestEnv S) h32 h57)) (acOf (tileSpecs P (honestEnv S) h32 h57)) fuel
      ⟨s0, Client.newClient P, []⟩ earlier)
    (hadm' : LookupAdm P (honestEnv S) (amOf (tileSpecs P (honestEnv S) h32 h57)) (acOf (tileSpecs P (honestEnv S) h32 h57)) fuel
      (Client.runLookups P (honestEnv S) ⟨s0, Client.newClient P, []⟩ earlier) path vers) :
    ∃ cw1 cw' d, genRun (envOf P (honestEnv S)) fuel (cw0 P s0 z) earlier = .ok cw1 ∧
      HonestLookup P D S (B "/lookup/" ++ (epath ++ ([64] ++ evers))) d ∧
      Client_Lookup (envOf P (honestEnv S)) fuel path vers cw1 =
        .ok ((Client.filterLines (path ++ [32] ++ vers ++ [32]) d, none), cw') :=
  honest_never_fails_gen P D S stN hon s0 hs0 z earlier path vers epath evers id hskip hep hev hidx _ _
    (mergeLatestSpec_of _) (checkRecordSpec_of _) hsha fuel hadm hadm'

end

/-! ### non-vacuity of the added hypotheses

  The hypotheses `hM`, `hC`, `hsha`, `hadm`, `hadm'` are jointly satisfiable, here in the world of Tie/FnClientLookup.lean in
  which every read fails (so `initWork` fails before `mergeLatest` is reached and the side conditions `AM`, `AC` are never
  consulted: they can be `False`).  First lookup: an excluded module; second: `initWork` runs and fails.  On this instance
  the conclusion of `lookup_authentic_gen` is the run evaluated in Tie/FnClientLookup.lean (`ErrGONOSUMDB`, then the
  configuration error). -/

open ModVerif.Tie.FnClientLookup (xP xE xW)

example :
    MergeLatestSpec xP xE (fun _ _ _ => False) ∧ CheckRecordSpec xP xE (fun _ _ _ _ => False) ∧
    (∀ x, 4 ≤ (xP.sha x).length) ∧
    RunAdm xP xE (fun _ _ _ => False) (fun _ _ _ _ => False) 60 xW [(B "x.y", B "v1.0.0")] ∧
    LookupAdm xP xE (fun _ _ _ => False) (fun _ _ _ _ => False) 60
      (Client.runLookups xP xE xW [(B "x.y", B "v1.0.0")]) (B "a.b/c") (B "v1.0.0") := by
  have hsk : Module.matchPrefixPatterns xP.glob xP.nosumdb (B "x.y") = true := by decide +kernel
  have hw : Client.runLookups xP xE xW [(B "x.y", B "v1.0.0")] = xW := by
    show (Client.lookup xP xE xW (B "x.y") (B "v1.0.0")).2 = xW
    unfold Client.lookup
    rw [if_pos hsk]
  refine ⟨fun _ _ _ _ _ h => h.elim, fun _ _ _ _ _ _ h => h.elim, fun _ => Nat.le_refl 4, ⟨?_, trivial⟩, ?_⟩
  · refine ⟨by decide +kernel, by decide +kernel, by decide +kernel, fun h => ?_⟩
    rw [hsk] at h; cases h
  · rw [hw]
    refine ⟨by decide +kernel, by decide +kernel, by decide +kernel, fun _ => ⟨fun _ => ?_, fun h => ?_⟩⟩
    · unfold InitAdm
      exact trivial
    · exact absurd h (by decide +kernel)

/-! ### non-vacuity, second instance: a world in which `initWork` SUCCEEDS

  `MergeLatestSpec` / `CheckRecordSpec` are proved here outright for the two calls that read nothing (`mergeLatest("")`:
  the empty timeline; `checkRecord(id)` with `id` beyond the latest tree), which is what a client with an empty stored head
  meets when the server answers a record without a tree note.  With them `Lookup_tie` applies, without any open hypothesis,
  to the instance below: key file of `Props.C01.HonestExample`, empty stored head, cold cache, the server answers the lookup
  path; both sides evaluated by the kernel. -/

section
variable {σ H : Type} [DecidableEq H] [Inhabited H]

/-- `mergeLatest("")`: the empty message is the unsigned empty timeline; nothing is read -/
theorem mergeLatestSpec_empty (P : Client.Params H) (E : Client.Env σ) :
    MergeLatestSpec P E (fun _ _ msg => msg = []) := by
  intro w cw msg fuel hr hm
  subst hm
  refine ⟨none, cw, ?_, ?_, ?_, rfl, rfl⟩
  · unfold Client_mergeLatest Client_mergeLatestMem
    by_cases h0 : cw.latest.N = 0 <;> simp [h0, pure, Except.pure, bind, Except.bind]
  · have : Client.mergeLatest P E w [] = (.ok (), w) := by
      simp [Client.mergeLatest, Client.mergeLatestMem]
      split <;> simp
    rw [this]; exact hr
  · have : (Client.mergeLatest P E w []).1 = .ok () := by
      simp [Client.mergeLatest, Client.mergeLatestMem]
      split <;> simp
    rw [this]; rfl

/-- `checkRecord(id, _)` with `id` beyond the latest tree: "cannot validate record"; nothing is read -/
theorem checkRecordSpec_beyond (P : Client.Params H) (E : Client.Env σ) :
    CheckRecordSpec P E (fun _ w id _ => id ≥ (w.c.latest.n : Int)) := by
  intro w cw id data fuel hr hid
  have hid' : id ≥ cw.latest.N := by rw [hr.latestN]; exact hid
  refine ⟨some "cannot validate record %d in tree of size %d", cw, ?_, ?_, ?_, rfl, rfl⟩
  · unfold Client_checkRecord
    simp [hid', pure, Except.pure]
  · have : Client.checkRecord P E w id data = (.error .recordId, w) := by
      simp [Client.checkRecord, hid]
    rw [this]; exact hr
  · have : (Client.checkRecord P E w id data).1 = .error .recordId := by
      simp [Client.checkRecord, hid]
    rw [this]; exact ⟨_, rfl, errAbs_recordId⟩
end

namespace InitExample
open ModVerif.Props.C01.HonestExample (hP hKeyFile hV hText hPath hkey_ok)

/-- a server response without a tree note: record 0, text `hText` -/
def yResp : Bytes := B "0\n" ++ hText ++ [10]

/-- the key file parses, the stored head is empty, the cache is cold, the server answers the one lookup path -/
def yE : Client.Env Unit :=
  { readRemote := fun s p => (if p = hPath then some yResp else none, s), readCache := fun s _ => (none, s),
    readConfig := fun s f => (if f = B "key" then some hKeyFile else some [], s),
    writeCache := fun s _ _ => s, writeConfig := fun s _ _ _ => (.ok, s), securityError := fun s _ => s }

def yW : Client.World Unit UInt8 := { s := (), c := Client.newClient hP, tr := [] }

def yAM : Nat → Client.World Unit UInt8 → Bytes → Prop := fun _ _ msg => msg = []
def yAC : Nat → Client.World Unit UInt8 → Int → Bytes → Prop := fun _ w id _ => id ≥ (w.c.latest.n : Int)

theorem y_sha : ∀ x, 4 ≤ (hP.sha x).length := fun _ => Nat.le_refl 4

-- both sides on this instance: `initWork` succeeds (key parsed, empty stored head merged), the response is fetched from
-- the server and parsed, `mergeLatest("")`, then `checkRecord(0)` refuses record 0 of the empty tree
example : (Client.lookup hP yE yW (B "example.com/m") (B "v1.0.0")).1 = .error .recordId ∧
    (Client.init hP yE yW).c.inited = some none ∧
    Tie.FnClientLookup.resOf (Client_Lookup (envOf hP yE) 200 (B "example.com/m") (B "v1.0.0") (cw0 hP () 0)) =
      some ([], some "%s@%s: %v|cannot validate record %d in tree of size %d") ∧
    errAbs "%s@%s: %v|cannot validate record %d in tree of size %d" = .recordId :=
  (fun (h : _ ∧ _ ∧ _) => ⟨h.1, h.2.1, h.2.2, errAbs_lit _ rfl (by decide)⟩) (by unfold yE; rw [B_lit hKeyFile]; decide +kernel)

/-- the side conditions of `Lookup_tie` hold on this instance -/
theorem y_adm : LookupAdm hP yE yAM yAC 200 yW (B "example.com/m") (B "v1.0.0") := by
  refine ⟨by decide +kernel, by decide +kernel, by decide +kernel, fun _ => ⟨fun _ => ?_, fun _ epath evers hp hv => ?_⟩⟩
  · unfold InitAdm
    have h1 : (Client.readConfig yE yW (B "key")).1 = some hKeyFile := by rw [B_lit hKeyFile]; decide +kernel
    simp only [h1, hkey_ok]
    have h2 : (Client.readConfig yE
        { (Client.readConfig yE yW (B "key")).2 with
          c := { (Client.readConfig yE yW (B "key")).2.c with verifiers := [hV], name := hV.name } }
        (Client.latestFile hV.name)).1 = some [] := by decide +kernel
    simp only [h2]
    rfl
  · have hp' : Module.escapePath (B "example.com/m") = .ok (B "example.com/m") := by decide +kernel
    have hv' : Module.escapeVersion hP.isLetter (Client.trimGoMod (B "v1.0.0")) = .ok (B "v1.0.0") := by decide +kernel
    rw [hp'] at hp; rw [hv'] at hv
    cases hp; cases hv
    refine ⟨fun _ => ?_, fun data hd => ?_⟩
    · unfold LookupWorkAdm
      have hg : (lwGot yE (Client.init hP yE yW)
          ((Client.init hP yE yW).c.name ++ (B "/lookup/" ++ B "example.com/m" ++ [64] ++ B "v1.0.0"))
          (B "/lookup/" ++ B "example.com/m" ++ [64] ++ B "v1.0.0")).1 = some (yResp, true) := by decide +kernel
      simp only [hg]
      unfold ContAdm
      refine ⟨by decide +kernel, ?_⟩
      have hpr : TlogNote.parseRecord yResp = some (0, hText, []) := by decide +kernel
      simp only [hpr]
      refine ⟨rfl, ?_⟩
      split
      · trivial
      · show (0 : Int) ≥ _
        have : ∀ (w : Client.World Unit UInt8), w.c.latest.n = 0 → (0 : Int) ≥ (w.c.latest.n : Int) := by
          intro w h; rw [h]; exact Int.le_refl 0
        apply this
        decide +kernel
    · exfalso
      have : (lookupRes hP yE (Client.init hP yE yW)
          ((Client.init hP yE yW).c.name ++ (B "/lookup/" ++ B "example.com/m" ++ [64] ++ B "v1.0.0"))
          (B "/lookup/" ++ B "example.com/m" ++ [64] ++ B "v1.0.0")).1 = .error .recordId := by decide +kernel
      rw [this] at hd; cases hd

/-- … so the tie applies: hypotheses jointly satisfiable in a world where `initWork` succeeds and `Lookup` goes through
    its closure -/
example : ∃ r' cw', Client_Lookup (envOf hP yE) 200 (B "example.com/m") (B "v1.0.0") (cw0 hP () 0) = .ok (r', cw') ∧
    RepL hP yE (Client.lookup hP yE yW (B "example.com/m") (B "v1.0.0")).2 cw' ∧
    RepRes r' (Client.lookup hP yE yW (B "example.com/m") (B "v1.0.0")).1 :=
  Tie.FnClientLookup.Lookup_tie hP yE yAM yAC (mergeLatestSpec_empty hP yE) (checkRecordSpec_beyond hP yE) y_sha yW _ 200
    (B "example.com/m") (B "v1.0.0") (Tie.FnClientLookup.newClient_tie hP yE () 0) y_adm

end InitExample
end ModVerif.Tie.FnClientC01
