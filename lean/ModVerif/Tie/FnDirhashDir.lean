/-
  Tie theorems for the directory half of the dirhash unit: the regenerated `DirFiles` (with its walk closure
  `DirFiles_walkFn1`) and `HashDir` (Generated/FnDirhash.lean, re-translated from sumdb/dirhash/hash.go on every run)
  compute exactly the hand model `Dirhash.dirFiles` / `Dirhash.hashDir` (Model/Dirhash.lean).

  Reading of the parameters of the generated functions:
    * `filepath.Walk(dir, fn)` is `GoRt.walkTreeOpt fn fuel dir (walkRoot dir)` (Basic/GoRtWalk.lean, trusted-base
      vocabulary): `walkRoot p` is what the file system holds at the path `p`, as a tree VALUE.  The theorems take any
      `walkRoot` that holds, at the cleaned directory, the tree `treeOf root` of the model's `Root` exactly as the mirror
      driver builds it (Drv/GenDirhash.lean: missing / a file / the name-sorted trie `Zip.treeOfList` of the flat list);
    * `osOpenRead p` is `os.Open(p)` read to the end: `(content, nil)` or `(_, err)`;
    * `hash` is the `Hash` argument (`Hash1` in practice).

  Domain.  `WF files` (Proofs/TieFnDirhashDirOrder.lean, decidable): every listed path is a non-empty clean relative
  slash path (no empty, `.` or `..` element) and no path is an element-prefix of another (so: pairwise distinct, no file
  below a file) - what a directory tree can hold.  The directory `d` is ARBITRARY (relative, unclean, `.`) except that
  it must not clean to `/`: there `file[len(dir)+1:]` cuts the first byte of every relative path (example below), which
  the model does not describe.  Fuel: `walkFuel files + 2`, `walkFuel files = 3 * Σ (len path + 1) + 1`.

  `filepath.Join`: the model's `joinPath` / `clean` and the vocabulary's `fpJoin` / `pathClean` are different
  definitions; they are PROVED equal (`clean_tie`, `joinPath_tie`: equal unless both arguments are empty), so the
  theorems are stated with the model's `joinPath`.

  Helper lemmas in Proofs/TieFnDirhashDir{Trie,Order,Path,Walk,Main}.lean.
-/
import ModVerif.Generated.FnDirhash
import ModVerif.Model.Dirhash
import ModVerif.Drv.GenDirhash
import ModVerif.Tie.FnDirhash
import ModVerif.Proofs.TieFnDirhashDirMain
namespace ModVerif.Tie.FnDirhashDir
open ModVerif ModVerif.GoRt ModVerif.TieFnDirhashDir
open ModVerif.Generated.Dirhash (FileInfo DirFiles HashDir)
open ModVerif.Drv.GenDirhash (toFs toFsList treeOf rootPath)

/-- the model's `filepath.Clean` is the vocabulary's (both on all byte strings) -/
theorem clean_tie (p : Bytes) : Dirhash.clean p = GoRt.pathClean p := clean_eq_pathClean p

/-- the model's `filepath.Join` is the vocabulary's unless both arguments are empty (then `""` vs `"."`; DirFiles joins
    the prefix with a non-empty relative path) -/
theorem joinPath_tie (a b : Bytes) (h : a ≠ [] ∨ b ≠ []) : Dirhash.joinPath a b = GoRt.fpJoin a b :=
  joinPath_eq_fpJoin a b h

/-- `strings.TrimPrefix` -/
theorem trimPrefix_tie (s p : Bytes) : GoRt.trimPrefix s p = Dirhash.trimPrefix s p := rfl

/-! ### (1) the core: the assumed `filepath.Walk` order on the trie is the model's `walkOrder` -/

/-- ★ For a well-formed flat list, walking the name-sorted trie (`GoRt.walkChildren`, the assumed behaviour of
    `filepath.Walk` below the root) from ANY root path `d` with the callback that collects the paths of the regular files
    visits them in `walkOrder` (insertion sort by the element-wise lexical order `walkLt`), each as
    `filepath.Join(d, rel)`: pre-order traversal of a name-sorted trie = sort by element-wise lexical order. -/
theorem walk_visits_in_walkOrder (files : List (Bytes × Bytes)) (h : WF files) (d : Bytes) (fuel : Nat)
    (hf : walkFuel files < fuel) :
    walkChildren collectFiles fuel d (toFsList (Zip.treeOfList (files.map leafOf))) [] =
      .ok (none, (Dirhash.walkOrder (files.map (·.1))).map (fun rel => fpJoin d rel)) := by
  have hsz : szList (trieOf files) < fuel := Nat.lt_of_le_of_lt (szList_trieOf files) hf
  have := walkChildren_spec collectFiles (PathClean.isRooted d) (PathClean.comps d)
    (fun q => Proofs.ZipB.render (PathClean.isRooted d) (PathClean.comps d ++ q))
    (fun p st => by simp [collectFiles, pure, Except.pure])
    (fun q st _ _ => by simp [collectFiles, pure, Except.pure])
    fuel d [] (trieOf files) [] rfl (by simp) (by simp) (trieOf_spec h).1 hsz
  show walkChildren collectFiles fuel d (toFsList (trieOf files)) [] = _
  rw [this, walkOrder_eq_flat h, List.map_map]
  simp only [List.nil_append]
  congr 2
  apply List.map_congr_left
  intro q hq
  exact (fpJoin_flat h d hq).symm

/-- the same for a clean root other than `/` and `.`: the visited paths are `d/rel` -/
theorem walk_visits_in_walkOrder_clean (files : List (Bytes × Bytes)) (h : WF files) (d : Bytes)
    (hc : pathClean d = d) (h1 : d ≠ [47]) (h2 : d ≠ [46]) (fuel : Nat) (hf : walkFuel files < fuel) :
    walkChildren collectFiles fuel d (toFsList (Zip.treeOfList (files.map leafOf))) [] =
      .ok (none, (Dirhash.walkOrder (files.map (·.1))).map (fun rel => d ++ [47] ++ rel)) := by
  rw [walk_visits_in_walkOrder files h d fuel hf]
  congr 2
  apply List.map_congr_left
  intro rel hrel
  obtain ⟨f, hf', rfl⟩ := List.mem_map.1 ((Dirhash.insertionSort_perm _).subset hrel)
  exact fpJoin_clean hc h1 h2 (normalName_of_WF h hf')

/-- the pre-order of the trie is `walkOrder`, as lists of element lists (no walk, no paths) -/
theorem trie_preorder_eq_walkOrder (files : List (Bytes × Bytes)) (h : WF files) :
    (flatList (Zip.treeOfList (files.map leafOf))).map (joinWith [Dirhash.slash]) =
      Dirhash.walkOrder (files.map (·.1)) :=
  (walkOrder_eq_flat h).symm

/-! ### (2) DirFiles -/

/-- ★ `DirFiles` = `Dirhash.dirFiles`: for every directory argument `d` that does not clean to `/`, every prefix and every
    root whose file list is well formed, when the file system holds `treeOf root` at `filepath.Clean(d)`:
    the returned pair is `(names, nil)` with the model's names, `(nil, lstat error)` for a missing root and
    `(nil, "%s is not a directory")` for a file.  No panic (the slice `file[len(dir)+1:]` is in range), no fuel
    exhaustion. -/
theorem DirFiles_tie (walkRoot : Bytes → Option (FsTree FileInfo)) (root : Dirhash.Root) (d pfx : Bytes) (fuel : Nat)
    (hw : walkRoot (pathClean d) = treeOf root) (hd : pathClean d ≠ [47]) (hwf : WF (Dirhash.rootFiles root))
    (hf : walkFuel (Dirhash.rootFiles root) + 2 ≤ fuel) :
    DirFiles walkRoot fuel d pfx = .ok (embedFiles (Dirhash.dirFiles root pfx)) := by
  cases root with
  | missing => exact DirFiles_missing walkRoot fuel d pfx hw
  | file => exact DirFiles_file walkRoot fuel d pfx hw (by omega)
  | dir files => exact DirFiles_dir walkRoot fuel d pfx hwf hd hw hf

/-- the model's `dirFiles` reports no other error than the two `embedFiles` maps to Go errors of DirFiles -/
theorem dirFiles_error_cases (root : Dirhash.Root) (pfx : Bytes) (er : Dirhash.Err)
    (h : Dirhash.dirFiles root pfx = .error er) : er = .walk ∨ er = .notDir := by
  cases root <;> simp [Dirhash.dirFiles] at h <;> simp [← h]

/-- the same with the walk order spelled out and the vocabulary's `filepath.Join` -/
theorem DirFiles_tie_dir (walkRoot : Bytes → Option (FsTree FileInfo)) (files : List (Bytes × Bytes)) (d pfx : Bytes)
    (fuel : Nat) (hw : walkRoot (pathClean d) = treeOf (.dir files)) (hd : pathClean d ≠ [47]) (hwf : WF files)
    (hf : walkFuel files + 2 ≤ fuel) :
    DirFiles walkRoot fuel d pfx =
      .ok ((Dirhash.walkOrder (files.map (·.1))).map (fun rel => fpJoin pfx rel), none) := by
  rw [DirFiles_dir walkRoot fuel d pfx hwf hd hw hf]
  congr 2
  apply List.map_congr_left
  intro rel hrel
  obtain ⟨f, hf', rfl⟩ := List.mem_map.1 ((Dirhash.insertionSort_perm _).subset hrel)
  exact joinPath_eq_fpJoin pfx _ (Or.inr (Proofs.ZipB.normalName_ne_nil (normalName_of_WF hwf hf')))

/-! ### (3) HashDir -/

/-- ★ `HashDir` for ANY `hash` argument: the error of DirFiles, or `hash` applied to the model's names and to the
    `osOpen` closure `name ↦ os.Open(filepath.Join(dir, strings.TrimPrefix(name, prefix)))`. -/
theorem HashDir_tie (osOpenRead : Bytes → Bytes × Option String) (walkRoot : Bytes → Option (FsTree FileInfo))
    (root : Dirhash.Root) (d pfx : Bytes)
    (hash : List Bytes → (Bytes → Bytes × Option String) → Bytes × Option String) (fuel : Nat)
    (hw : walkRoot (pathClean d) = treeOf root) (hd : pathClean d ≠ [47]) (hwf : WF (Dirhash.rootFiles root))
    (hf : walkFuel (Dirhash.rootFiles root) + 2 ≤ fuel) :
    HashDir osOpenRead walkRoot fuel d pfx hash =
      .ok (match Dirhash.dirFiles root pfx with
        | .ok names => hash names (fun name => osOpenRead (fpJoin d (Dirhash.trimPrefix name pfx)))
        | .error er => ([], embedErr "" er)) := by
  unfold HashDir
  rw [DirFiles_tie walkRoot root d pfx fuel hw hd hwf hf]
  cases h : Dirhash.dirFiles root pfx with
  | ok names => simp [embedFiles, bind, Except.bind, pure, Except.pure]; rfl
  | error er =>
    rcases dirFiles_error_cases root pfx er h with rfl | rfl <;>
      simp [embedFiles, embedErr, bind, Except.bind, pure, Except.pure]

/-- ★ `HashDir` with the regenerated `Hash1` as its `hash` argument (`genHash sha`, as the driver wraps it) =
    `Dirhash.hashDir`, for a file system whose `os.Open` behaves on the paths HashDir opens for the listed names as the
    model's `osOpen` says (`(content, nil)`, or an error with the text `e`). -/
theorem HashDir_tie_hash1 (sha : Bytes → Bytes) (osOpenRead : Bytes → Bytes × Option String)
    (walkRoot : Bytes → Option (FsTree FileInfo)) (root : Dirhash.Root) (d pfx : Bytes) (e : String) (fuel : Nat)
    (hw : walkRoot (pathClean d) = treeOf root) (hd : pathClean d ≠ [47]) (hwf : WF (Dirhash.rootFiles root))
    (hf : walkFuel (Dirhash.rootFiles root) + 2 ≤ fuel)
    (hopen : ∀ names, Dirhash.dirFiles root pfx = .ok names → ∀ name ∈ names,
      osOpenRead (fpJoin d (Dirhash.trimPrefix name pfx)) =
        TieFnDirhash.openOf (Dirhash.osOpen (Dirhash.rootFiles root) pfx) e name) :
    HashDir osOpenRead walkRoot fuel d pfx (genHash sha) = .ok (embedHash e (Dirhash.hashDir sha root pfx)) := by
  rw [HashDir_tie osOpenRead walkRoot root d pfx (genHash sha) fuel hw hd hwf hf]
  unfold Dirhash.hashDir
  cases h : Dirhash.dirFiles root pfx with
  | ok names =>
    simp only []
    rw [genHash_eq sha names (Dirhash.osOpen (Dirhash.rootFiles root) pfx) e _ (hopen names h)]
  | error er =>
    rcases dirFiles_error_cases root pfx er h with rfl | rfl <;> rfl

/-- ★ the same with the file-system assumption stated on the files: for a non-empty `d` and a clean relative prefix
    (`path@version`), if reading `filepath.Join(d, rel)` yields the content of every listed file `rel`, then
    `HashDir` = `Dirhash.hashDir` (no `open` fails, so the error text `e` is immaterial). -/
theorem HashDir_tie_fs (sha : Bytes → Bytes) (osOpenRead : Bytes → Bytes × Option String)
    (walkRoot : Bytes → Option (FsTree FileInfo)) (root : Dirhash.Root) (d pfx : Bytes) (e : String) (fuel : Nat)
    (hw : walkRoot (pathClean d) = treeOf root) (hd : pathClean d ≠ [47]) (hne : d ≠ [])
    (hwf : WF (Dirhash.rootFiles root)) (hpfx : Dirhash.CleanRel pfx)
    (hf : walkFuel (Dirhash.rootFiles root) + 2 ≤ fuel)
    (hopen : ∀ f ∈ Dirhash.rootFiles root, osOpenRead (fpJoin d f.1) = (f.2, none)) :
    HashDir osOpenRead walkRoot fuel d pfx (genHash sha) = .ok (embedHash e (Dirhash.hashDir sha root pfx)) := by
  apply HashDir_tie_hash1 sha osOpenRead walkRoot root d pfx e fuel hw hd hwf hf
  intro names hnames name hname
  cases root with
  | missing => simp [Dirhash.dirFiles] at hnames
  | file => simp [Dirhash.dirFiles] at hnames
  | dir files =>
    simp only [Dirhash.dirFiles, Except.ok.injEq] at hnames
    subst hnames
    obtain ⟨rel, hrel, rfl⟩ := List.mem_map.1 hname
    obtain ⟨f, hf', rfl⟩ := List.mem_map.1 ((Dirhash.insertionSort_perm _).subset hrel)
    have hcr := hwf.cleanRel f hf'
    rw [opened_path hne hpfx hcr (normalName_of_WF hwf hf'), hopen f hf', Dirhash.joinPath_cleanRel hpfx hcr]
    simp only [TieFnDirhash.openOf, Dirhash.rootFiles, Dirhash.osOpen_joined files pfx f.1 hcr,
      Dirhash.lookup_of_mem_nodup files f.1 f.2 hwf.nodup hf']

/-! ### the mirror driver's instance (Drv/GenDirhash.lean `run`) satisfies the hypotheses -/

/-- the fuel the driver passes is enough -/
theorem driver_fuel_suffices (files : List (Bytes × Bytes)) :
    walkFuel files + 2 ≤ 4 * (files.map fun f => f.1.length).sum + 4 * files.length + 64 := by
  have h : ∀ l : List (Bytes × Bytes), (l.map (fun f => f.1.length + 1)).sum = (l.map fun f => f.1.length).sum + l.length := by
    intro l
    induction l with
    | nil => rfl
    | cons a l ih => simp only [List.map_cons, List.sum_cons, List.length_cons, ih]; omega
  unfold walkFuel
  rw [h]
  omega

/-- the scratch directory of the driver, spelled out (kernel evaluation of the string literal) -/
theorem rootPath_eq : rootPath = [47, 83, 47, 99, 49, 57, 114, 111, 111, 116] := by decide +kernel

/-- the driver's `walkRoot` for the working directory `/` holds the tree of the op at the scratch directory -/
example (root : Dirhash.Root) :
    (fun p => if Drv.GenDirhash.resolve [47] p == rootPath then treeOf root else none) (pathClean rootPath)
      = treeOf root := by
  have h : (Drv.GenDirhash.resolve [47] (pathClean rootPath) == rootPath) = true := by
    rw [rootPath_eq]; decide
  simp only [h, if_true]

example : pathClean rootPath ≠ [47] ∧ rootPath ≠ [] := by rw [rootPath_eq]; decide

/-! ### non-vacuity: both sides evaluated on concrete inputs -/

/-- four files in three directories, listed out of walk order (`b`, `a/c`, `a/b/x`, `a.go`): well formed -/
example : WF [([98], [1]), ([97, 47, 99], [2]), ([97, 47, 98, 47, 120], [3]), ([97, 46, 103, 111], [4])] := by decide

/-- a file below a file, a repeated path, an unclean path: not well formed -/
example : ¬ WF [([97], [1]), ([97, 47, 98], [2])] ∧ ¬ WF [([97], [1]), ([97], [2])] ∧
    ¬ WF [([97, 47, 47, 98], [1])] ∧ ¬ WF [([46, 46, 47, 98], [1])] ∧ ¬ WF [([], [1])] := by decide

/-- the core on that list: the walk from `/r` visits `/r/a/b/x`, `/r/a/c`, `/r/a.go`, `/r/b`: the ELEMENT `a` sorts before
    the element `a.go`, so the directory `a` is walked first (plain string order would put `a.go` before `a/b/x`,
    since `.` < `/`) -/
example : walkChildren collectFiles 64 [47, 114]
      (toFsList (Zip.treeOfList ([([98], [1]), ([97, 47, 99], [2]), ([97, 47, 98, 47, 120], [3]),
        ([97, 46, 103, 111], [4])].map leafOf))) []
    = .ok (none, [[47, 114, 47, 97, 47, 98, 47, 120], [47, 114, 47, 97, 47, 99], [47, 114, 47, 97, 46, 103, 111],
        [47, 114, 47, 98]]) := by decide

example : (Dirhash.walkOrder ([(([98] : Bytes), ([1] : Bytes)), ([97, 47, 99], [2]), ([97, 47, 98, 47, 120], [3]),
      ([97, 46, 103, 111], [4])].map (·.1))).map (fun rel => ([47, 114] : Bytes) ++ [47] ++ rel)
    = [[47, 114, 47, 97, 47, 98, 47, 120], [47, 114, 47, 97, 47, 99], [47, 114, 47, 97, 46, 103, 111],
        [47, 114, 47, 98]] := by decide

/-- `DirFiles_tie` on the three kinds of root, `d = "/r/"` (unclean), prefix `p` -/
example : DirFiles (fun p => if p = [47, 114] then treeOf (.dir [([98], [1]), ([97, 47, 99], [2])]) else none) 32
      [47, 114, 47] [112]
    = .ok (embedFiles (Dirhash.dirFiles (.dir [([98], [1]), ([97, 47, 99], [2])]) [112])) := by decide

example : embedFiles (Dirhash.dirFiles (.dir [([98], [1]), ([97, 47, 99], [2])]) [112])
    = ([[112, 47, 97, 47, 99], [112, 47, 98]], none) := by decide

example : DirFiles (fun p => if p = [47, 114] then treeOf .file else none) 32 [47, 114, 47] [112]
    = .ok ([], some "%s is not a directory") ∧
    embedFiles (Dirhash.dirFiles .file [112]) = ([], some "%s is not a directory") := by decide

example : DirFiles (fun p => if p = [47, 114] then treeOf .missing else none) 32 [47, 114, 47] [112]
    = .ok ([], some "lstat: no such file or directory") ∧
    embedFiles (Dirhash.dirFiles .missing [112]) = ([], some "lstat: no such file or directory") := by decide

/-- the directory `.` (the `dir == "."` branch of the closure) -/
example : DirFiles (fun p => if p = [46] then treeOf (.dir [([98], [1]), ([97, 47, 99], [2])]) else none) 32 [] [112]
    = .ok ([[112, 47, 97, 47, 99], [112, 47, 98]], none) := by decide

/-- the hypothesis `pathClean d ≠ "/"` is needed: at the root directory `file[len(dir)+1:]` cuts the first byte of every
    relative path (the model lists `p/ab`) -/
example : DirFiles (fun p => if p = [47] then treeOf (.dir [([97, 98], [1])]) else none) 32 [47] [112]
    = .ok ([[112, 47, 98]], none) ∧
    Dirhash.dirFiles (.dir [([97, 98], [1])]) [112] = .ok [[112, 47, 97, 98]] := by decide

/-- `HashDir_tie_fs` on a concrete directory (`sha := id`): the hypotheses hold and both sides are the same hash -/
example : HashDir (fun p => if p = [47, 114, 47, 98] then ([1], none) else if p = [47, 114, 47, 97, 47, 99] then ([2], none)
        else ([], some "open"))
      (fun p => if p = [47, 114] then treeOf (.dir [([98], [1]), ([97, 47, 99], [2])]) else none) 32 [47, 114] [112]
      (genHash id)
    = .ok (embedHash "open" (Dirhash.hashDir id (.dir [([98], [1]), ([97, 47, 99], [2])]) [112])) := by decide

example : (match Dirhash.hashDir id (.dir [([98], [1]), ([97, 47, 99], [2])]) [112] with
    | .ok h => h.take 3 == [104, 49, 58] | .error _ => false) = true := by decide

example : (∀ f ∈ Dirhash.rootFiles (.dir [([98], [1]), ([97, 47, 99], [2])]),
      (fun p => if p = [47, 114, 47, 98] then (([1] : Bytes), (none : Option String))
        else if p = [47, 114, 47, 97, 47, 99] then ([2], none) else ([], some "open")) (fpJoin [47, 114] f.1) = (f.2, none)) ∧
    Dirhash.CleanRel [112] := ⟨by decide, Dirhash.cleanRel_of_check _ (by decide)⟩

end ModVerif.Tie.FnDirhashDir
