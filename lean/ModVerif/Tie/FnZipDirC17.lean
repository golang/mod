/-
  C17 transported to the regenerated directory functions: the directory-tree theorems of Props/C17.lean (`dir_vs_list`,
  `allFiles_wellformed`, about the hand model Model/Zip.lean) restated about `Generated.Zip.CheckDir` / `CheckFiles` /
  `CreateFromDir` / `Create` / `listFilesInDir` (Generated/FnZip.lean, re-translated from zip/zip.go on every run) through
  the tie theorems of Tie/FnZipDir.lean, Tie/FnZipCheckFiles.lean and Tie/FnZipIOCreate.lean.

  The instantiation is the one of the ties: `Inst` (Tie/FnZipC17.lean: `FoldsTo`, `E.toFold = Zip.strToFold`, EqualFold /
  ToLower agree with the model on "go.mod"); the file-system parameters present the tree `t` at the directory `d`
  (`walkRoot d = toFs (.dir t)`, `ChildrenOK osLstat osOpenRead d [] t`); "" compares below go1.24 and every regular root
  go.mod of the tree carries the flag its content says (`h0`, `hfl`: what `goVers_of_flags` needs); the root go.mod as
  `os.ReadFile` sees it gives the flag of the tree (`hg`).
-/
import ModVerif.Tie.FnZipDir
import ModVerif.Tie.FnZipC17
import ModVerif.Props.C17
namespace ModVerif.Tie.FnZipDirC17
open ModVerif ModVerif.GoRt ModVerif.GoRtZip ModVerif.TieFnZip ModVerif.TieFnZipCf ModVerif.TieFnZipIOCreate
open ModVerif.TieFnZipDir ModVerif.ZipSpec ModVerif.Zip
open ModVerif.Generated.Zip (File FileError CheckedFiles)
open ModVerif.Drv.GenZip (toGFile modeBits)
open ModVerif.Drv.GenZipDir (toFs toFsList dirInfo)
open ModVerif.Tie.FnZipC17 (Inst)

section
variable (E : Env) (equalFold : Bytes → Bytes → Bool)
  (osLstat : Bytes → (Generated.Zip.FileInfo × Option String)) (osOpenRead : Bytes → (Bytes × Option String))
  (osReadFile : Bytes → (Bytes × Option String)) (parseGoVers : Bytes → Bytes → Bytes) (simpleFold : Int → Int)
  (toLower : Bytes → Bytes) (versionCompare : Bytes → Bytes → Int) (versionLang : Bytes → Bytes)
  (walkRoot : Bytes → FsTree Generated.Zip.FileInfo) (K : Nat)

/-- the two flags `checkFiles` derives (from the listed files, from all files of the tree) are the model's -/
theorem flags_of_tree (g : Bool) (t : List (Bytes × Node)) (h0 : versionCompare [] go124 < 0)
    (hfl : ∀ f ∈ allFiles t, f.mode = .regular → f.path = goModName →
      decide (0 ≤ versionCompare (versionLang (parseGoVers goModName f.content)) go124) = f.goGe124) :
    decide (0 ≤ versionCompare (versOf parseGoVers versionLang (listFilesInDir g t).files) go124) =
        goVers (listFilesInDir g t).files ∧
    decide (0 ≤ versionCompare (versOf parseGoVers versionLang (allFiles t)) go124) = goVers (allFiles t) := by
  have hsub : ∀ f ∈ (listFilesInDir g t).files, f ∈ allFiles t := fun f hf =>
    (Proofs.ZipA.walkChildren_sub g t []).1.subset hf
  exact ⟨FnZipCheckFiles.goVers_of_flags parseGoVers versionCompare versionLang _ h0
      (fun f hf => hfl f (hsub f hf)),
    FnZipCheckFiles.goVers_of_flags parseGoVers versionCompare versionLang _ h0 hfl⟩

/-- ★ C17 `dir_vs_list` on the regenerated code.  For a directory tree made only of regular files and directories with
    ordinary, pairwise distinct names and no VCS metadata directory (`WFChildren`): the generated `CheckDir` on the
    directory and the generated `CheckFiles` on the list of all files of the tree (`allFiles`, in walk order) both succeed
    and report the same valid files and the same invalid files — `CheckDir`'s paths joined with the directory —, the same
    size error and the same error; and the generated `CreateFromDir` on the directory and the generated `Create` on that
    list return the same error and leave the same archive. -/
theorem dir_vs_list_gen (I : Inst E equalFold simpleFold toLower K) (canonicalVersion : Bytes → Bytes)
    (moduleCheck : Bytes → Bytes → Option String) (p v : Bytes)
    (hmod : (canonicalVersion v = v ∧ moduleCheck p v = none) ↔ E.modOK p v = true)
    (d : Bytes) (t : List (Bytes × Node)) (hw : WFChildren t) (hroot : walkRoot d = toFs (.dir t))
    (hok : ChildrenOK osLstat osOpenRead d [] t)
    (hg : goVers (allFiles t) = decide (0 ≤ versionCompare (versDir osReadFile parseGoVers versionLang d) go124))
    (h0 : versionCompare [] go124 < 0)
    (hfl : ∀ f ∈ allFiles t, f.mode = .regular → f.path = goModName →
      decide (0 ≤ versionCompare (versionLang (parseGoVers goModName f.content)) go124) = f.goGe124)
    (fuel : Nat) (hfuel : dirFuel K (goVers (allFiles t)) t ≤ fuel) (hfuel' : fuelBound K (allFiles t) ≤ fuel) :
    ∃ cfD cfL err,
      Generated.Zip.CheckDir (cfpOf E) equalFold osLstat osOpenRead osReadFile parseGoVers simpleFold toLower
        versionCompare versionLang walkRoot fuel d = .ok (cfD, err) ∧
      Generated.Zip.CheckFiles (cfpOf E) equalFold parseGoVers simpleFold toLower versionCompare versionLang fuel
        ((allFiles t).map toGFile) = .ok (cfL, err) ∧
      cfD.Valid = cfL.Valid.map (GoRt.fpJoin d) ∧ cfD.Invalid = cfL.Invalid.map (joinFE d) ∧
      cfD.SizeError = cfL.SizeError ∧
      Generated.Zip.CreateFromDir canonicalVersion (cfpOf E) equalFold moduleCheck osLstat osOpenRead osReadFile parseGoVers
          simpleFold toLower versionCompare versionLang walkRoot fuel () { Path := p, Version := v } d [] =
        Generated.Zip.Create canonicalVersion (cfpOf E) equalFold moduleCheck parseGoVers simpleFold toLower versionCompare
          versionLang fuel () { Path := p, Version := v } ((allFiles t).map toGFile) [] := by
  obtain ⟨hvL, hvA⟩ := flags_of_tree parseGoVers versionCompare versionLang (goVers (allFiles t)) t h0 hfl
  obtain ⟨d1, d2, d3, d4, d5⟩ := Props.C17.dir_vs_list E p v (goVers (allFiles t)) t hw rfl
  obtain ⟨s1, _, s3, s4⟩ := Proofs.ZipA.dir_vs_list_state E (goVers (allFiles t)) t hw rfl
  refine ⟨embDir d (checkDir E (goVers (allFiles t)) t), embCF (checkFilesV E (allFiles t)),
    (checkDir E (goVers (allFiles t)) t).err.map errKindText,
    FnZipDir.CheckDir_tie E equalFold osLstat osOpenRead osReadFile parseGoVers simpleFold toLower versionCompare versionLang
      walkRoot K I.foldsTo I.toFold I.equalFold I.toLower d _ hg t hroot hok hvL fuel hfuel, ?_, ?_, ?_, ?_, ?_⟩
  · rw [FnZipDir.CheckFiles_tie E equalFold parseGoVers simpleFold toLower versionCompare versionLang K I.foldsTo I.toFold
      I.equalFold I.toLower _ hvA fuel hfuel', d4]
  · simp only [embDir, embCF, d1]
  · simp only [embDir, embCF, d2, List.map_map]
    apply List.map_congr_left
    intro e _
    rfl
  · simp only [embDir, embCF, d3]
  · rw [FnZipDir.CreateFromDir_tie E equalFold osLstat osOpenRead osReadFile parseGoVers simpleFold toLower versionCompare
      versionLang walkRoot K canonicalVersion moduleCheck I.foldsTo I.toFold I.equalFold I.toLower p v hmod d _ hg t hroot hok
      hvL fuel hfuel,
      FnZipIOCreate.Create_tie E canonicalVersion equalFold moduleCheck parseGoVers simpleFold toLower versionCompare
      versionLang K I.foldsTo I.toFold I.equalFold I.toLower p v hmod _ hvA fuel hfuel', d5]
    have herr : (checkFilesSt E (listFilesInDir (goVers (allFiles t)) t).files
          (goVers (listFilesInDir (goVers (allFiles t)) t).files)).cf.err =
        (checkFilesSt E (allFiles t) (goVers (allFiles t))).cf.err := by
      unfold CheckedFiles.err; rw [s3, s4]
    have hworld : createWorld E p v (listFilesInDir (goVers (allFiles t)) t).files = createWorld E p v (allFiles t) := by
      unfold createWorld
      rw [herr, s1]
    rw [hworld]

/-- ★ C17 `allFiles_wellformed` on the regenerated code: on such a tree the generated `listFilesInDir` succeeds, and the
    files it returns have pairwise distinct paths, a successful `Lstat` with a regular mode, and clean relative paths. -/
theorem listFilesInDir_wellformed_gen (d : Bytes) (g : Bool)
    (hg : g = decide (0 ≤ versionCompare (versDir osReadFile parseGoVers versionLang d) go124))
    (t : List (Bytes × Node)) (hw : WFChildren t) (hroot : walkRoot d = toFs (.dir t))
    (hok : ChildrenOK osLstat osOpenRead d [] t) (fuel : Nat) (hfuel : listFuel t + 1 ≤ fuel) :
    ∃ files omitted,
      Generated.Zip.listFilesInDir osLstat osOpenRead osReadFile parseGoVers versionCompare versionLang walkRoot fuel d =
        .ok (files, omitted, none) ∧
      (files.map (·.Path)).Nodup ∧
      ∀ f ∈ files, f.Lstat.2 = none ∧ modeIsRegular f.Lstat.1.Mode = true ∧ f.Lstat.1.IsDir = false ∧
        GoRt.pathClean f.Path = f.Path ∧ GoRt.pathIsAbs f.Path = false := by
  obtain ⟨hnd, hfacts⟩ := Props.C17.allFiles_wellformed t hw
  have hsl : (listFilesInDir g t).files.Sublist (allFiles t) := (Proofs.ZipA.walkChildren_sub g t []).1
  refine ⟨_, _, FnZipDir.listFilesInDir_tie osLstat osOpenRead osReadFile parseGoVers versionCompare versionLang walkRoot d g
    hg t hroot hok fuel hfuel, ?_, ?_⟩
  · rw [List.map_map]
    exact hnd.sublist (hsl.map _)
  · intro f hf
    obtain ⟨m, hm, rfl⟩ := List.mem_map.mp hf
    obtain ⟨h1, h2, h3⟩ := hfacts m (hsl.subset hm)
    have hb : (Mode.regular == Mode.lstatErr) = false := by decide
    simp only [toGFile, h1, hb, Bool.false_eq_true, if_false]
    exact ⟨trivial, by decide, by decide, h2, h3⟩

end

mutual
theorem drvNode_of_wf : ∀ n : Node, WFNode n → DrvNode n
  | .file mode _ _ _, h => by
    simp only [WFNode] at h
    simp only [DrvNode, h]
    decide
  | .dir cs, h => by
    simp only [WFNode] at h
    simp only [DrvNode]
    exact drvChildren_of_wf cs h
/-- a well-formed tree in the sense of C17 is one the driver's lookup by name reads faithfully -/
theorem drvChildren_of_wf : ∀ cs : List (Bytes × Node), WFChildren cs → DrvChildren cs
  | [], _ => by simp only [DrvChildren]
  | (name, n) :: rest, h => by
    simp only [WFChildren] at h
    simp only [DrvChildren]
    exact ⟨h.1, h.2.2.1, drvNode_of_wf n h.2.2.2.1, drvChildren_of_wf rest h.2.2.2.2⟩
end

/-- the example tree of Props/C17.lean (a nested module and a vendored package) -/
def exTree : List (Bytes × Node) := Props.C17.exTree

/-- the hypotheses of `dir_vs_list_gen` hold on the example tree with the file system the driver builds from it
    (`driver_reads_tree`) -/
example : WFChildren exTree ∧
    drvWalkRoot exTree Drv.Zip.tdir = toFs (.dir exTree) ∧
    ChildrenOK (drvLstat exTree) (drvOpen exTree) Drv.Zip.tdir [] exTree ∧
    goVers (allFiles exTree) = decide (0 ≤ Drv.GenZip.versionCompareI
      (versDir (drvReadFile false exTree) (drvPgv (allFiles exTree)) id Drv.Zip.tdir) go124) ∧
    Drv.GenZip.versionCompareI [] go124 < 0 ∧
    (∀ f ∈ allFiles exTree, f.mode = .regular → f.path = goModName →
      decide (0 ≤ Drv.GenZip.versionCompareI (id (drvPgv (allFiles exTree) goModName f.content)) go124) = f.goGe124) := by
  have hw : WFChildren exTree := by
    simp only [exTree, Props.C17.exTree, WFChildren, WFNode, NormalElem, Node.isDir, List.forall_mem_cons,
      List.not_mem_nil, false_imp_iff, implies_true, true_imp_iff, and_true]
    repeat' apply And.intro
    all_goals decide +kernel
  have hd := FnZipDir.driver_reads_tree exTree (drvChildren_of_wf exTree hw)
  exact ⟨hw, hd.1, hd.2, by decide +kernel, by decide +kernel, by decide +kernel⟩

end ModVerif.Tie.FnZipDirC17
