/-
  Tie for module/pseudo.go: the timestamp layout constant and the source text of pseudoVersionRE,
  regenerated from /repo on every check, are pinned to the literal values that the hand-written
  `fmtTime` and `matchPseudoVersionRE` were translated from.  An edit to either breaks these theorems.
-/
import ModVerif.Model.Pseudo
import ModVerif.Generated.Facts
namespace ModVerif.Tie
open ModVerif

/-- ASCII string literal as bytes, in a form the kernel evaluates. -/
def asciiBytes (s : String) : Bytes := s.toList.map (fun c => UInt8.ofNat c.toNat)

/-- the layout that `Pseudo.fmtTime` implements: year(4) month(2) day(2) hour(2) minute(2) second(2). -/
def assumedTimestampFormat : String := "20060102150405"

/-- the regular expression that `Pseudo.matchPseudoVersionRE` was translated from. -/
def assumedPseudoVersionRE : String :=
  "^v[0-9]+\\.(0\\.0-|\\d+\\.\\d+-([^+]*\\.)?0\\.)\\d{14}-[A-Za-z0-9]+(\\+[0-9A-Za-z-]+(\\.[0-9A-Za-z-]+)*)?$"

/-- the body of IsPseudoVersion that `Pseudo.isPseudoVersion` was translated from. -/
def assumedIsPseudoVersionExpr : String :=
  "strings.Count(v, \"-\") >= 2 && semver.IsValid(v) && pseudoVersionRE.MatchString(v)"

theorem pseudo_TimestampFormat_tie :
    Generated.pseudo_TimestampFormat = asciiBytes assumedTimestampFormat := by decide +kernel

/-- Go's layout string is its reference time (2006-01-02 15:04:05) written in that layout: the model's
    `fmtTime` applied to the reference time reproduces the regenerated constant. -/
theorem pseudo_fmtTime_reference_tie :
    Pseudo.fmtTime 2006 1 2 15 4 5 = Generated.pseudo_TimestampFormat := by decide +kernel

theorem pseudo_pseudoVersionRE_tie :
    Generated.pseudo_pseudoVersionRE = asciiBytes assumedPseudoVersionRE := by decide +kernel

theorem pseudo_IsPseudoVersion_expr_tie :
    Generated.pseudo_IsPseudoVersion_expr = asciiBytes assumedIsPseudoVersionExpr := by decide +kernel

/-- `time.Time{}` is 0001-01-01 00:00:00 UTC, Unix second -62135596800: the zero timestamp the model uses. -/
theorem pseudo_zeroTimestamp_tie : Pseudo.formatUnix (-62135596800) = Pseudo.zeroTimestamp := by decide +kernel

end ModVerif.Tie
