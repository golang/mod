/-
  Tie, CLOSED fuel: `parseToFile` / `ParseWork` of the directive layer regenerated from modfile/rule.go and work.go
  (Generated/FnRule.lean) compute what the hand model says, with a fuel hypothesis that is an explicit LINEAR function of
  the input length — no hypothesis on the parse result any more.

  Tie/FnRuleAdd.lean states `parseToFile_tie` / `ParseWork_tie` under `∀ fs, parse name data = .ok fs → TreeFuel F fuel fx fs`
  (per line `32·Σ|token| + 1 ≤ F`, comments of line and block `+ 3 ≤ F`, `2·|v| ≤ F` for every version computed for the
  line, loop bounds on `fuel`).  Here that hypothesis is DERIVED:

  * `treeFuel_of_length`: for every `name data`, every fixer `fx` with `FixBound B fx` (every output is at most `B` bytes
    longer than the fixer's two arguments together — in particular every fixer whose outputs are at most `B` bytes,
    `fixBound_const`; vacuous for `fx = none`, `fixBound_none`), `F := 32·|data| + 2·B + 64` and `fuel := F + |data| + 16`
    satisfy `TreeFuel F fuel fx fs` for the parsed tree (`treeFuel_of_length_ge`: every larger `F`, `fuel`).
  * `parseToFile_tie_closed`, `ParseWork_tie_closed`: the ties with ONLY `33·|data| + 2·B + 80 ≤ fuel` (and `FixBound B fx`);
    `…_nofix`: without a fixer, `33·|data| + 80 ≤ fuel`.

  The facts about the parser (Proofs/TieFnRuleFuel{A,B,C}.lean) are LINEAR, from the forward movement of the lexer: the
  text of a delivered token is paid by the bytes `readToken` consumed for it (so the tokens of one line have disjoint
  spans: `Σ|token| ≤ |data|` per line), every token other than EOF consumes a byte and every recorded end-of-line comment a
  second one (so statements + block lines + whole-line comments + blank-line placeholders + end-of-line comments
  `≤ |data| + 1`), and comment assignment only moves recorded comments into the tree (`parse_w`).  Without a fixer a
  version is `module.CanonicalVersion` of an unquoted token: `≤ 4·|token| + 17` bytes.

  Helper lemmas: Proofs/TieFnRuleFuel{A,B,C,D}.lean.
-/
import ModVerif.Tie.FnRuleAdd
import ModVerif.Proofs.TieFnRuleFuelD
import ModVerif.Proofs.BytesLit
namespace ModVerif.Tie.FnRuleClosed
open ModVerif ModVerif.GoRt ModVerif.Generated ModVerif.Tie.FnRuleRep
open ModVerif.Tie.FnRuleAddO ModVerif.Tie.FnRuleAddP ModVerif.Tie.FnRuleAddEx ModVerif.Tie.FnRuleAdd
open ModVerif.Tie.FnRuleFuelD
open ModVerif.Drv.GenRule (isPrintI unquoteI laxSubI deprecatedSubI fixG parseSynI idOf idsOf fileM workM encErr)

/-- **the fuel hypothesis of the ties from the input length**: `F = 32·|data| + 2·B + 64`, `fuel = F + |data| + 16` -/
theorem treeFuel_of_length (name data : Bytes) (fx : Option Modfile.Fixer) (B : Nat) (hB : FixBound B fx) :
    ∀ fs, Modfile.parse name data = .ok fs →
      TreeFuel (32 * data.length + 2 * B + 64) ((32 * data.length + 2 * B + 64) + data.length + 16) fx fs :=
  FnRuleFuelD.treeFuel_of_length name data fx B hB _ _ (Nat.le_refl _) (Nat.le_refl _)

/-- the same for every larger `F` and `fuel` -/
theorem treeFuel_of_length_ge (name data : Bytes) (fx : Option Modfile.Fixer) (B : Nat) (hB : FixBound B fx) (F fuel : Nat)
    (hF : 32 * data.length + 2 * B + 64 ≤ F) (hfuel : F + data.length + 16 ≤ fuel) :
    ∀ fs, Modfile.parse name data = .ok fs → TreeFuel F fuel fx fs :=
  FnRuleFuelD.treeFuel_of_length name data fx B hB F fuel hF hfuel

/-- **`parseToFile`** (`Parse` / `ParseLax`), every input, every bounded fixer, `strict` or lax, with a fuel bound LINEAR in
    the input length as the only hypothesis -/
theorem parseToFile_tie_closed (name data : Bytes) (fx : Option Modfile.Fixer) (strict : Bool) (B fuel : Nat)
    (hB : FixBound B fx) (hfuel : 33 * data.length + 2 * B + 80 ≤ fuel) :
    match Modfile.parseToFile name data fx strict with
    | .ok f => ∃ fp h,
        Rule.parseToFile deprecatedSubI Modfile.goVersionRE isPrintI laxSubI parseSynI Quote.quote Modfile.toolchainRE unquoteI
          fuel name data (fixG fx) strict default = .ok ((fp, none), h) ∧
        fileM (idsOf name data) h fp = some f
    | .error es => ∃ e h,
        Rule.parseToFile deprecatedSubI Modfile.goVersionRE isPrintI laxSubI parseSynI Quote.quote Modfile.toolchainRE unquoteI
          fuel name data (fixG fx) strict default = .ok (((0 : Int), e), h) ∧
        ErrValRep e es ∧ es ≠ [] :=
  parseToFile_tie name data fx strict (32 * data.length + 2 * B + 64) fuel
    (treeFuel_of_length_ge name data fx B hB _ fuel (Nat.le_refl _) (by omega))

/-- **`parseToFile`** without a version fixer: `33·|data| + 80 ≤ fuel` -/
theorem parseToFile_tie_closed_nofix (name data : Bytes) (strict : Bool) (fuel : Nat) (hfuel : 33 * data.length + 80 ≤ fuel) :
    match Modfile.parseToFile name data none strict with
    | .ok f => ∃ fp h,
        Rule.parseToFile deprecatedSubI Modfile.goVersionRE isPrintI laxSubI parseSynI Quote.quote Modfile.toolchainRE unquoteI
          fuel name data (fixG none) strict default = .ok ((fp, none), h) ∧
        fileM (idsOf name data) h fp = some f
    | .error es => ∃ e h,
        Rule.parseToFile deprecatedSubI Modfile.goVersionRE isPrintI laxSubI parseSynI Quote.quote Modfile.toolchainRE unquoteI
          fuel name data (fixG none) strict default = .ok (((0 : Int), e), h) ∧
        ErrValRep e es ∧ es ≠ [] :=
  parseToFile_tie_closed name data none strict 0 fuel (fixBound_none 0) (by omega)

/-- **`ParseWork`**, every input and every bounded fixer, with a fuel bound LINEAR in the input length as the only hypothesis -/
theorem ParseWork_tie_closed (name data : Bytes) (fx : Option Modfile.Fixer) (B fuel : Nat)
    (hB : FixBound B fx) (hfuel : 33 * data.length + 2 * B + 80 ≤ fuel) :
    match Modfile.parseWork name data fx with
    | .ok f => ∃ fp h,
        Rule.ParseWork Modfile.goVersionRE isPrintI parseSynI Quote.quote Modfile.toolchainRE unquoteI fuel name data (fixG fx) default =
          .ok ((fp, none), h) ∧
        workM (idsOf name data) h fp = some f
    | .error es => ∃ e h,
        Rule.ParseWork Modfile.goVersionRE isPrintI parseSynI Quote.quote Modfile.toolchainRE unquoteI fuel name data (fixG fx) default =
          .ok (((0 : Int), e), h) ∧
        ErrValRep e es ∧ es ≠ [] :=
  ParseWork_tie name data fx (32 * data.length + 2 * B + 64) fuel
    (treeFuel_of_length_ge name data fx B hB _ fuel (Nat.le_refl _) (by omega))

/-- **`ParseWork`** without a version fixer: `33·|data| + 80 ≤ fuel` -/
theorem ParseWork_tie_closed_nofix (name data : Bytes) (fuel : Nat) (hfuel : 33 * data.length + 80 ≤ fuel) :
    match Modfile.parseWork name data none with
    | .ok f => ∃ fp h,
        Rule.ParseWork Modfile.goVersionRE isPrintI parseSynI Quote.quote Modfile.toolchainRE unquoteI fuel name data (fixG none) default =
          .ok ((fp, none), h) ∧
        workM (idsOf name data) h fp = some f
    | .error es => ∃ e h,
        Rule.ParseWork Modfile.goVersionRE isPrintI parseSynI Quote.quote Modfile.toolchainRE unquoteI fuel name data (fixG none) default =
          .ok (((0 : Int), e), h) ∧
        ErrValRep e es ∧ es ≠ [] :=
  ParseWork_tie_closed name data none 0 fuel (fixBound_none 0) (by omega)

/-! ### non-vacuity -/

-- `exFix` (Proofs/TieFnRuleFuelD.lean): `latest ↦ v1.0.0`, everything else canonicalised; `exFix_bound : FixBound 17 (some exFix)`
example : FixBound 17 (some exFix) := exFix_bound
-- the closed fuel of the example files (94, 43 and 52 bytes)
example : 33 * exMod.length + 2 * 17 + 80 = 3216 ∧ 33 * exBad.length + 80 = 1499 ∧ 33 * exWork.length + 80 = 1796 := by rw [B_lit exBad, B_lit exMod, B_lit exWork]; decide +kernel
-- the derived bound is what the check `inputFuelB` of Tie/FnRuleAdd.lean confirms on the example
example : inputFuelB (32 * exMod.length + 2 * 17 + 64) 3216 (B "go.mod") exMod (some exFix) = true := by rw [B_lit exMod]; decide +kernel
-- success with exactly the closed fuel: the file read back from the heap is the model's (the retract interval goes through the fixer)
set_option maxRecDepth 100000 in
example : (match PTF 3216 (B "go.mod") exMod (fixG (some exFix)) true default with
    | .ok ((fp, none), h) => fileM (idsOf (B "go.mod") exMod) h fp
    | _ => none) = (Modfile.parseToFile (B "go.mod") exMod (some exFix) true).toOption ∧
    ((Modfile.parseToFile (B "go.mod") exMod (some exFix) true).toOption.map (·.retract)) =
      some [{ interval := { low := B "v1.0.0", high := B "v1.0.0" }, rationale := B "bad", lineId := 3 }] := by rw [B_lit exMod]; decide +kernel
-- errors with exactly the closed fuel (no fixer): nil and an error value / the model's error list
set_option maxRecDepth 100000 in
example : (match PTF 1499 (B "go.mod") exBad (fixG none) true default with
    | .ok ((fp, some _), _) => fp
    | _ => 1) = 0 ∧
    (match Modfile.parseToFile (B "go.mod") exBad none true with
     | .error es => es.map (fun (e : ModVerif.Modfile.RuleErr) => (e.pos.line, e.pos.lineRune, e.pos.byte, e.kind))
     | .ok _ => []) = [(2, 1, 8, .unknownDirective)] := by rw [B_lit exBad]; decide +kernel
-- go.work with exactly the closed fuel
set_option maxRecDepth 100000 in
example : (match PWK 1796 (B "go.work") exWork (fixG none) default with
    | .ok ((fp, none), h) => workM (idsOf (B "go.work") exWork) h fp
    | _ => none) = (Modfile.parseWork (B "go.work") exWork none).toOption ∧
    (Modfile.parseWork (B "go.work") exWork none).toOption.isSome = true := by rw [B_lit exWork]; decide +kernel

end ModVerif.Tie.FnRuleClosed
