/-
  C15 `nilDeref_unreachable`, go.work, on the REGENERATED operations: the property theorem
  `Props.C15.nilDeref_unreachable_work` (every statically valid go.work session from a parsed well-formed go.work runs to
  completion in the hand model) restated about the sessions of the code re-translated from modfile/{read,rule,work}.go
  (Generated/FnEdit.lean) as the driver `Drv.GenEdit` runs them (`applyWorkOp`, `runWorkOps`), through the go.work session tie
  Tie/FnEditSessionWork.lean (`runWorkOps_tie_valid`, `final_cleanupW`).

  * `nilDeref_unreachable_work_gen`: from every `ParseWork`-accepted go.work with non-empty keys, every statically valid
    session of the regenerated go.work operations runs to completion — NO operation fails with `Err.panic` (Go: nil
    `Syntax` dereference on a cleared entry) —, the per-operation results are the model's, the regenerated final
    `WorkFile.Cleanup` succeeds, and the resulting heap represents a model file satisfying the tree invariant `Edit.InvW`.

  With `nilDeref_unreachable_work` the conclusion of `runWorkOps_tie_valid` is a completion, not only a correspondence.
  Hypotheses beyond those of the model theorem: fuel only (`FuelOKW`, `FinalFuelW`; sound Boolean tests `fuelOKWB`,
  `finalFuelWB`, evaluated in the example with the fuel the driver uses).
-/
import ModVerif.Tie.FnEditC15
import ModVerif.Proofs.BytesLit
namespace ModVerif.Tie.FnEditC15Work
open ModVerif ModVerif.GoRt ModVerif.Generated.Edit ModVerif.Tie.FnEditRep
open ModVerif.Tie.FnEditSessionA ModVerif.Tie.FnEditSessionW ModVerif.Tie.FnEditSessionWork
open ModVerif.Tie.FnEditSession (driverFuel)
open ModVerif.Modfile.Edit (EWork applyWork)
open ModVerif.Drv.GenEdit (applyWorkOp)

/-- **C15 `nilDeref_unreachable`, go.work, on the regenerated operations.**  For EVERY go.work text accepted by `ParseWork`
    with non-empty keys (`WorkKeys`, `NoBlockSuffix`: as in `Props.C15.nilDeref_unreachable_work`) and EVERY statically valid
    session of go.work operations (`Edit.StaticValidW false`: non-empty keys; SetUse has distinct non-empty directories and
    comes directly after a Cleanup), the run of the REGENERATED operations on the loaded heap completes: every operation, on
    the heap on which it runs, returns normally (`.ok (some b, _)`: nil or a documented Go `error`) — it never fails with
    `Err.panic` —; the per-operation results are the model's; the regenerated final `WorkFile.Cleanup` succeeds; and the
    final heap represents the state the model session ends in, which satisfies `Edit.InvW`. -/
theorem nilDeref_unreachable_work_gen (name data : Bytes) (f : Modfile.WorkFile) (ops : List EditSpec.Op) (fuel : Nat)
    (hf : Modfile.parseWork name data none = .ok f) (hk : Modfile.Edit.WorkKeys f) (hs : Modfile.Edit.NoBlockSuffix f.syn)
    (hv : Modfile.Edit.StaticValidW false (ops.map opM)) (hw : ∀ op ∈ ops.map opM, Modfile.Edit.IsWorkOp op)
    (hfu : FuelOKW fuel (Modfile.Edit.loadWork f) ops) (hfin : FinalFuelW fuel (Modfile.Edit.loadWork f) ops) :
    ∃ h' res, Drv.GenEdit.runWorkOps fuel (Drv.GenEdit.loadWork f).2 (Drv.GenEdit.loadWork f).1 ops [] = .done h' res ∧
      (∀ (pre : List EditSpec.Op) (op : EditSpec.Op) (post : List EditSpec.Op), ops = pre ++ op :: post →
        ∃ h1 r1, Drv.GenEdit.runWorkOps fuel (Drv.GenEdit.loadWork f).2 (Drv.GenEdit.loadWork f).1 pre [] = .done h1 r1 ∧
          applyWorkOp fuel (Drv.GenEdit.loadWork f).2 h1 op ≠ .error .panic ∧
          ∃ b h2, applyWorkOp fuel (Drv.GenEdit.loadWork f).2 h1 op = .ok (some b, h2)) ∧
      (∃ e', Modfile.Edit.runOps applyWork (Modfile.Edit.loadWork f) (ops.map opM) [] 0 = .done e' res) ∧
      ∃ h'' e'', WorkFile_Cleanup fuel (Drv.GenEdit.loadWork f).2 h' = .ok ((), h'') ∧
        RepW h'' (Drv.GenEdit.loadWork f).2 e'' ∧ Modfile.Edit.InvW e'' ∧
        Drv.GenEdit.workM h'' (Drv.GenEdit.loadWork f).2 = some (FnEditWorkEx.strip e''.f) := by
  have R := FnEditTree.loadWork_parsed_rep (name := name) (data := data) hf
  have hi := Modfile.Edit.parseWork_invW hf hk hs
  have hl := Modfile.Edit.StaticValidW.runValidW _ false (Modfile.Edit.loadWork f) hv (fun hc => by cases hc)
  obtain ⟨e', res, hrun, _, _⟩ := Props.C15.nilDeref_unreachable_work name data f (ops.map opM) hf hk hs hv hw
  have T := runWorkOps_tie_valid fuel _ ops _ _ R hi hl hfu
  rw [hrun] at T
  obtain ⟨h', hgen, R', hi'⟩ := T
  obtain ⟨h'', hc, R'', hrd⟩ := final_cleanupW R' fuel (hfin e' res hrun)
  refine ⟨h', res, hgen, ?_, ⟨e', hrun⟩, h'', _, hc, R'', Modfile.Edit.workCleanup_inv e' hi', hrd⟩
  intro pre op post hsplit
  obtain ⟨h1, r1, e1, b, h2, e2⟩ := done_steps (run := Drv.GenEdit.runWorkOps fuel _) (step := applyWorkOp fuel _)
    (fun _ _ => rfl) (fun _ _ _ _ => rfl) ops _ [] h' res hgen pre op post hsplit
  refine ⟨h1, r1, e1, ?_, b, h2, e2⟩
  rw [e2]
  intro hc
  cases hc

/-! ### non-vacuity: the example session of Tie/FnEditSessionWork.lean (a parsed go.work with a `use` block; DropUse, a
    returned error, SetUse directly after a Cleanup) -/

section examples

-- `nilDeref_unreachable_work_gen` with the fuel the driver uses: all hypotheses hold of the example
example : ∃ f, Modfile.parseWork (B "go.work") exWork none = .ok f ∧
    ∃ h' res, Drv.GenEdit.runWorkOps (driverFuel exWork exWorkOps) (Drv.GenEdit.loadWork f).2 (Drv.GenEdit.loadWork f).1 exWorkOps [] =
        .done h' res ∧
      ∃ h'' e'', WorkFile_Cleanup (driverFuel exWork exWorkOps) (Drv.GenEdit.loadWork f).2 h' = .ok ((), h'') ∧
        RepW h'' (Drv.GenEdit.loadWork f).2 e'' ∧ Modfile.Edit.InvW e'' := by
  cases hp : Modfile.parseWork (B "go.work") exWork none with
  | error err =>
    have : (Modfile.parseWork (B "go.work") exWork none).toOption.isSome = true := by rw [B_lit exWork]; decide +kernel
    rw [hp] at this; cases this
  | ok f =>
    have hstatic : Modfile.Edit.StaticValidW false (exWorkOps.map opM) :=
      Modfile.Edit.staticValidWB_sound _ _ (by decide +kernel)
    have hwork : ∀ op ∈ exWorkOps.map opM, Modfile.Edit.IsWorkOp op := Modfile.Edit.isWorkOpB_all (by decide +kernel)
    obtain ⟨h', res, h1, _, _, h'', e'', hc, R, hi, _⟩ := nilDeref_unreachable_work_gen (B "go.work") exWork f exWorkOps
      (driverFuel exWork exWorkOps) hp (exWork_keys f hp).1 (exWork_keys f hp).2 hstatic hwork (exWork_fuel f hp).1 (exWork_fuel f hp).2
    exact ⟨f, rfl, h', res, h1, h'', e'', hc, R, hi⟩

end examples

end ModVerif.Tie.FnEditC15Work
