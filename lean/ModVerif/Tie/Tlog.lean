/-
  Tie: facts regenerated from /repo's working tree by harness/cmd/extract (extra_tlog.go) equal the
  texts and constants the hand-written tlog / tile / note models were written against.
  An edit to a guard, a loop bound, a loop start (`i := nstx`), a domain-separation prefix or a
  constant of sumdb/tlog changes the regenerated definition and the corresponding theorem here fails.
-/
import ModVerif.Model.Tlog
import ModVerif.Model.TlogNote
import ModVerif.Model.Tile
import ModVerif.Drv.TlogUtil
import ModVerif.Generated.Facts
namespace ModVerif.Tie.Tlog
open ModVerif

theorem hashSize_tie : Generated.tlog_HashSize = Tlog.HashSize := rfl

theorem pathBase_tie : Generated.tile_pathBase = Tile.pathBase := rfl

theorem treePrefix_tie : Generated.tlog_treePrefix = TlogNote.treePrefix := by decide +kernel

/-- the driver's hash instance uses the code's domain-separation prefixes -/
theorem leafPrefix_tie : ∀ d, Drv.TlogUtil.leafH d = Sha256.sha256 (UInt8.ofNat Generated.tlog_leafPrefix :: d) := fun _ => rfl

theorem nodePrefix_tie : ∀ a b, Drv.TlogUtil.nodeH a b = Sha256.sha256 (UInt8.ofNat Generated.tlog_nodePrefix :: (a ++ b)) := fun _ _ => rfl

/-- `emptyHash` in tlog.go is SHA-256 of the empty string, which is what the driver passes as `emptyHash` -/
theorem emptyHash_tie : Generated.tlog_emptyHash = Drv.TlogUtil.emptyH := by decide +kernel

theorem tlog_headers_maxpow2_tie : Generated.tlog_headers_maxpow2 = [
  "for ; l < 62 && 1<<uint(l+1) < n; "] := rfl

theorem tlog_headers_StoredHashIndex_tie : Generated.tlog_headers_StoredHashIndex = [
  "for l := level; l > 0; l--",
  "for ; n > 0; n >>= 1"] := rfl

theorem tlog_headers_SplitStoredHashIndex_tie : Generated.tlog_headers_SplitStoredHashIndex = [
  "if indexN > index",
  "for ; ; ",
  "if x > index"] := rfl

theorem tlog_headers_StoredHashCount_tie : Generated.tlog_headers_StoredHashCount = [
  "if n == 0",
  "for i := uint64(n - 1); i&1 != 0; i >>= 1"] := rfl

theorem tlog_headers_StoredHashesForRecordHash_tie : Generated.tlog_headers_StoredHashesForRecordHash = [
  "for i := 0; i < m; i++",
  "if err != nil",
  "if len(old) != len(indexes)",
  "for i := 0; i < m; i++"] := rfl

theorem tlog_headers_TreeHash_tie : Generated.tlog_headers_TreeHash = [
  "if n == 0",
  "if err != nil",
  "if len(hashes) != len(indexes)",
  "if len(hashes) != 0"] := rfl

theorem tlog_headers_subTreeIndex_tie : Generated.tlog_headers_subTreeIndex = [
  "for ; lo < hi; ",
  "if lo&(k-1) != 0"] := rfl

theorem tlog_headers_subTreeHash_tie : Generated.tlog_headers_subTreeHash = [
  "for ; lo < hi; ",
  "if lo&(k-1) != 0 || lo >= hi",
  "if len(hashes) < numTree",
  "for i := numTree - 2; i >= 0; i--"] := rfl

theorem tlog_headers_ProveRecord_tie : Generated.tlog_headers_ProveRecord = [
  "if t < 0 || n < 0 || n >= t",
  "if len(indexes) == 0",
  "if err != nil",
  "if len(hashes) != len(indexes)",
  "if len(hashes) != 0"] := rfl

theorem tlog_headers_leafProofIndex_tie : Generated.tlog_headers_leafProofIndex = [
  "if !(lo <= n && n < hi)",
  "if lo+1 == hi",
  "if k, _ := maxpow2(hi - lo); n < lo+k"] := rfl

theorem tlog_headers_leafProof_tie : Generated.tlog_headers_leafProof = [
  "if !(lo <= n && n < hi)",
  "if lo+1 == hi",
  "if k, _ := maxpow2(hi - lo); n < lo+k"] := rfl

theorem tlog_headers_CheckRecord_tie : Generated.tlog_headers_CheckRecord = [
  "if t < 0 || n < 0 || n >= t",
  "if err != nil",
  "if th2 == th"] := rfl

theorem tlog_headers_runRecordProof_tie : Generated.tlog_headers_runRecordProof = [
  "if !(lo <= n && n < hi)",
  "if lo+1 == hi",
  "if len(p) != 0",
  "if len(p) == 0",
  "if n < lo+k",
  "if err != nil",
  "if err != nil"] := rfl

theorem tlog_headers_ProveTree_tie : Generated.tlog_headers_ProveTree = [
  "if t < 1 || n < 1 || n > t",
  "if len(indexes) == 0",
  "if err != nil",
  "if len(hashes) != len(indexes)",
  "if len(hashes) != 0"] := rfl

theorem tlog_headers_treeProofIndex_tie : Generated.tlog_headers_treeProofIndex = [
  "if !(lo < n && n <= hi)",
  "if n == hi",
  "if lo == 0",
  "if k, _ := maxpow2(hi - lo); n <= lo+k"] := rfl

theorem tlog_headers_treeProof_tie : Generated.tlog_headers_treeProof = [
  "if !(lo < n && n <= hi)",
  "if n == hi",
  "if lo == 0",
  "if k, _ := maxpow2(hi - lo); n <= lo+k"] := rfl

theorem tlog_headers_CheckTree_tie : Generated.tlog_headers_CheckTree = [
  "if t < 1 || n < 1 || n > t",
  "if err != nil",
  "if th2 == th && h2 == h"] := rfl

theorem tlog_headers_runTreeProof_tie : Generated.tlog_headers_runTreeProof = [
  "if !(lo < n && n <= hi)",
  "if n == hi",
  "if lo == 0",
  "if len(p) != 0",
  "if len(p) != 1",
  "if len(p) == 0",
  "if n <= lo+k",
  "if err != nil",
  "if err != nil"] := rfl

theorem tlog_headers_HashFromTile_tie : Generated.tlog_headers_HashFromTile = [
  "if t.H < 1 || t.H > 30 || t.L < 0 || t.L >= 64 || t.W < 1 || t.W > 1<<uint(t.H)",
  "if len(data) < t.W*HashSize",
  "if t.L != t1.L || t.N != t1.N || t.W < t1.W"] := rfl

theorem tlog_headers_tileHash_tie : Generated.tlog_headers_tileHash = [
  "if len(data) == 0",
  "if len(data) == HashSize"] := rfl

theorem tlog_headers_NewTiles_tie : Generated.tlog_headers_NewTiles = [
  "if h <= 0",
  "for level := uint(0); newTreeSize>>(H*level) > 0; level++",
  "if oldN == newN",
  "for n := oldN >> H; n < newN>>H; n++",
  "if w := int(newN - n<<H); w > 0"] := rfl

theorem tlog_headers_ReadTileData_tie : Generated.tlog_headers_ReadTileData = [
  "if size == 0",
  "for i := 0; i < size; i++",
  "if err != nil",
  "if len(hashes) != len(indexes)",
  "for i := 0; i < size; i++"] := rfl

theorem tlog_headers_Path_tie : Generated.tlog_headers_Path = [
  "for ; n >= pathBase; ",
  "if t.W != 1<<uint(t.H)",
  "if t.L == -1"] := rfl

theorem tlog_headers_ParseTilePath_tie : Generated.tlog_headers_ParseTilePath = [
  "if len(f) < 4 || f[0] != \"tile\"",
  "if f[2] == \"data\"",
  "if err1 != nil || err2 != nil || h < 1 || l < 0 || h > 30",
  "if dotP := f[len(f)-2]; strings.HasSuffix(dotP, \".p\")",
  "if err != nil || ww <= 0 || ww >= w",
  "range f",
  "if err != nil || nn < 0 || nn >= pathBase",
  "if isData",
  "if path != t.Path()"] := rfl

theorem tlog_headers_tileParent_tie : Generated.tlog_headers_tileParent = [
  "if max := n >> uint(t.L*t.H); t.N<<uint(t.H)+int64(t.W) >= max",
  "if t.N<<uint(t.H) >= max"] := rfl

theorem tlog_headers_ReadHashes_tie : Generated.tlog_headers_ReadHashes = [
  "range stx",
  "if j, ok := tileOrder[tile]; ok",
  "range indexes",
  "if x >= StoredHashIndex(0, r.tree.N)",
  "for ; ; k++",
  "if j, ok := tileOrder[p]; ok",
  "if k == 0",
  "for k--; k >= 0; k--",
  "if p.W != 1<<uint(p.H)",
  "if k == 0",
  "if len(stx) == 0",
  "if err != nil",
  "if len(data) != len(tiles)",
  "range tiles",
  "if len(data[i]) != tile.W*HashSize",
  "if err != nil",
  "for i := len(stx) - 2; i >= 0; i--",
  "if err != nil",
  "if th != r.tree.Hash",
  "for i := nstx; i < len(tiles); i++",
  "if !ok",
  "if err != nil",
  "if h != tileHash(data[i])",
  "range indexes",
  "if err != nil"] := rfl

theorem tlog_headers_ParseTree_tie : Generated.tlog_headers_ParseTree = [
  "if !bytes.HasPrefix(text, treePrefix) || bytes.Count(text, []byte(\"\\n\")) < 3 || len(text) > 1e6",
  "if err != nil || n < 0 || lines[1] != strconv.FormatInt(n, 10)",
  "if err != nil || len(h) != HashSize"] := rfl

theorem tlog_headers_isValidRecordText_tie : Generated.tlog_headers_isValidRecordText = [
  "for i := 0; i < len(text); ",
  "if r < 0x20 && r != '\\n' || r == utf8.RuneError && size == 1 || last == '\\n' && r == '\\n'",
  "if last != '\\n'"] := rfl

theorem tlog_headers_ParseRecord_tie : Generated.tlog_headers_ParseRecord = [
  "if i < 0",
  "if err != nil",
  "if i < 0",
  "if !isValidRecordText(text)"] := rfl

theorem tlog_stmts_tileForIndex_tie : Generated.tlog_stmts_tileForIndex = [
  "level, n := SplitStoredHashIndex(index)",
  "t.H = h",
  "t.L = level / h",
  "level -= t.L * h",
  "t.N = n << uint(level) >> uint(t.H)",
  "n -= t.N << uint(t.H) >> uint(level)",
  "t.W = int((n + 1) << uint(level))",
  "return t, int(n<<uint(level)) * HashSize, int((n+1)<<uint(level)) * HashSize"] := rfl

end ModVerif.Tie.Tlog
