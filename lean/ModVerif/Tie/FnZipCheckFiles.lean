/-
  Tie theorem, zip/zip.go `checkFiles` (lines 217–353): the definition regenerated from the Go source by go2lean
  (`Generated/FnZip.lean`: `checkFiles` with the hoisted closures `checkFiles_addError`, `checkFiles_inSubmodule` and the
  hoisted loops `checkFiles_loop1` = go.mod pre-pass, `checkFiles_loop2` = inside `inSubmodule`, `checkFiles_loop3` = main
  pass) computes exactly what the hand model `Zip.checkFilesSt` (`Model/Zip.lean`) says — for every file list, no panic,
  no fuel exhaustion.  C17 (and C05 through `Create`) rest on this function.

  Instantiation (the one of the driver, `Drv/GenZip.lean` `handleCf`):
  * a model file `Zip.FileInfo` is the generated `File` `toGFile f` (mode bits `modeBits`, `Lstat` fails with "lstat" for
    `Mode.lstatErr`, `Open` yields the content);
  * `module.CheckFilePath` is `cfpOf E` (= `fun p => if E.cfp p then none else some "filepath"`);
  * `strings.EqualFold(·, "go.mod")` and `strings.ToLower(·) == "go.mod"` are any functions that agree with the model's
    `equalFoldGoMod` / `toLowerIsGoMod` (hypotheses `hef`, `htl`; the driver's `fun s => s.map asciiLower` satisfies `htl`
    by `rfl`);
  * `unicode.SimpleFold` is any `simpleFold` with `TieFnZip.FoldsTo simpleFold K`, and the model's `E.toFold` is
    `Zip.strToFold`;
  * `parseGoVers` / `version.Lang` / `version.Compare` are arbitrary: the generated code extracts the version string
    `versOf parseGoVers versionLang files` from the last regular root `go.mod` and tests `Compare(vers, "go1.24") >= 0`;
    the model takes that boolean as its argument (`checkFiles_tie_vers`), and `checkFiles_tie` states the result for the
    model's own flag `Zip.goVers files` under the hypothesis that the two agree (`goVers_of_flags`: they do when "" compares
    below go1.24 and every regular root go.mod carries the flag its content says).

  Result representation `embedCf` (Proofs/TieFnZipCfBase.lean): `CheckedFiles` with `Valid` = the model's list, `Omitted` /
  `Invalid` = the model's lists with `Err := some (reasonText r)` (`reasonText` inverts the driver's `reasonOf`),
  `SizeError = some <format literal>` iff the model's `sizeError`; `validFiles` through `toGFile`; `validSizes` = their sizes.
  Maps inside the proof: `errPaths` ↔ `St.errPaths` (`epOf`), `haveGoMod` ↔ `Pre.haveGoMod` (`hgOf`), `collisions` ↔ `CC`
  (`TieFnZip.ofCC` / `toCC`).

  No extra assumption on the paths is needed: the main pass reaches the collision check only for paths with
  `path.Clean(p) == p` and `!path.IsAbs(p)`, for which the model's fuel `p.length + 1` of `ccCheckTop` is enough
  (`Proofs.ZipA.fuelOK_cleanRel`).
-/
import ModVerif.Generated.FnZip
import ModVerif.Model.Zip
import ModVerif.Drv.GenZip
import ModVerif.Tie.FnZip
import ModVerif.Proofs.TieFnZipCfMain
namespace ModVerif.Tie.FnZipCheckFiles
open ModVerif ModVerif.GoRt ModVerif.GoRtZip ModVerif.TieFnZip ModVerif.TieFnZipCf
open ModVerif.Drv.GenZip (toGFile simpleFoldI versionCompareI)

/-- `checkFiles(files)` for every file list, with the go-version flag the generated code derives itself:
    `version.Compare(vers, "go1.24") >= 0` where `vers = versOf …` is the version string of the last regular root go.mod
    ("" if there is none).  Fuel: `fuelBound K files = len(files) + 3 * (longest path) + K + 6`. -/
theorem checkFiles_tie_vers (E : Zip.Env) (equalFold : Bytes → Bytes → Bool) (parseGoVers : Bytes → Bytes → Bytes)
    (simpleFold : Int → Int) (toLower : Bytes → Bytes) (versionCompare : Bytes → Bytes → Int)
    (versionLang : Bytes → Bytes) (K : Nat)
    (hsf : FoldsTo simpleFold K) (hE : E.toFold = Zip.strToFold)
    (hef : ∀ s, equalFold s Zip.goModName = Zip.equalFoldGoMod s)
    (htl : ∀ s, decide (toLower s = Zip.goModName) = Zip.toLowerIsGoMod s)
    (files : List Zip.FileInfo) (fuel : Nat) (hfuel : fuelBound K files ≤ fuel) :
    Generated.Zip.checkFiles (cfpOf E) equalFold parseGoVers simpleFold toLower versionCompare versionLang fuel
        (files.map toGFile) =
      .ok (embedCf (Zip.checkFilesSt E files
        (decide (0 ≤ versionCompare (versOf parseGoVers versionLang files) go124)))) := by
  unfold fuelBound at hfuel
  unfold Generated.Zip.checkFiles
  simp only []
  rw [loop1_eq hef files fuel (by omega)]
  simp only [bind_ok]
  obtain ⟨h3, h1, h2⟩ : (Zip.prePass files).st.validFiles = [] ∧ (Zip.prePass files).st.cc = [] ∧
      (Zip.prePass files).st.maxSize = 524288000 := Proofs.Zip.prePass_rest files {}
  have key := loop3_from (ef := equalFold) (pgv := parseGoVers) (vl := versionLang) E K hsf hE htl
    (versOf parseGoVers versionLang files) (decide (0 ≤ versionCompare (versOf parseGoVers versionLang files) go124)) rfl
    (Zip.prePass files).haveGoMod (3 * maxPathLen files + K + 5) files [] fuel (Zip.prePass files).st
    (fun f hf => by have := le_maxPathLen files f hf; omega) (by omega)
  unfold run3 at key
  rw [h1, h2, h3] at key
  simp only [List.nil_append, List.length_nil, List.map_nil] at key
  have e : ofCC [] = ([] : List (Bytes × Generated.Zip.pathInfo)) := rfl
  have z : ((0 : Nat) : Int) = (0 : Int) := rfl
  rw [e, z] at key
  rw [key]
  rfl

/-- the flag the model derives from the list (`Zip.goVers`: the `goGe124` bit of the last regular root go.mod) is the
    comparison the generated code makes, when "" compares below go1.24 and every regular root go.mod carries the flag its
    content says -/
theorem goVers_of_flags (parseGoVers : Bytes → Bytes → Bytes) (versionCompare : Bytes → Bytes → Int)
    (versionLang : Bytes → Bytes) (files : List Zip.FileInfo) (h0 : versionCompare [] go124 < 0)
    (hfl : ∀ f ∈ files, f.mode = .regular → f.path = Zip.goModName →
      decide (0 ≤ versionCompare (versionLang (parseGoVers Zip.goModName f.content)) go124) = f.goGe124) :
    decide (0 ≤ versionCompare (versOf parseGoVers versionLang files) go124) = Zip.goVers files := by
  -- the two folds of the first loop (`versStep`, `preStep`) keep the comparison and the flag equal: both change at the
  -- root go.mod only
  have hstep : ∀ v f, versStep parseGoVers versionLang v f =
      if Proofs.Zip.isRootGoMod f then versionLang (parseGoVers Zip.goModName f.content) else v := fun v f => by
    simp only [versStep, Proofs.Zip.isRootGoMod, Proofs.Zip.isGoModFile, Bool.and_assoc]
  have gen : ∀ (l : List Zip.FileInfo) (a : Zip.Pre) (v : Bytes), (∀ f ∈ l, f ∈ files) →
      decide (0 ≤ versionCompare v go124) = a.ge124 →
      decide (0 ≤ versionCompare (l.foldl (versStep parseGoVers versionLang) v) go124) =
        (l.foldl Zip.preStep a).ge124 := by
    intro l
    induction l with
    | nil => intro a v _ h; exact h
    | cons f rest ih =>
      intro a v hl h
      simp only [List.foldl_cons]
      apply ih _ _ (fun g hg => hl g (List.mem_cons_of_mem _ hg))
      rw [Proofs.Zip.preStep_eq, hstep]
      by_cases hr : Proofs.Zip.isRootGoMod f = true
      · simp only [hr, if_true]
        have hm : f.mode = .regular := by
          simp only [Proofs.Zip.isRootGoMod, Proofs.Zip.isGoModFile, Bool.and_eq_true, beq_iff_eq] at hr
          exact hr.1.1.2
        exact hfl f (hl f List.mem_cons_self) hm (Proofs.Zip.isRootGoMod_path f hr)
      · simp only [hr, Bool.false_eq_true, if_false]; exact h
  unfold versOf Zip.goVers Zip.prePass
  apply gen files {} [] (fun _ h => h)
  simp only [decide_eq_false_iff_not, Int.not_le]
  exact h0

/-- `checkFiles(files)` = the model's `checkFilesSt E files (goVers files)` (whose `.cf` is `Zip.checkFilesV E files`),
    when the version comparison of the generated code gives the model's flag (`goVers_of_flags`). -/
theorem checkFiles_tie (E : Zip.Env) (equalFold : Bytes → Bytes → Bool) (parseGoVers : Bytes → Bytes → Bytes)
    (simpleFold : Int → Int) (toLower : Bytes → Bytes) (versionCompare : Bytes → Bytes → Int)
    (versionLang : Bytes → Bytes) (K : Nat)
    (hsf : FoldsTo simpleFold K) (hE : E.toFold = Zip.strToFold)
    (hef : ∀ s, equalFold s Zip.goModName = Zip.equalFoldGoMod s)
    (htl : ∀ s, decide (toLower s = Zip.goModName) = Zip.toLowerIsGoMod s)
    (files : List Zip.FileInfo)
    (hv : decide (0 ≤ versionCompare (versOf parseGoVers versionLang files) go124) = Zip.goVers files)
    (fuel : Nat) (hfuel : fuelBound K files ≤ fuel) :
    Generated.Zip.checkFiles (cfpOf E) equalFold parseGoVers simpleFold toLower versionCompare versionLang fuel
        (files.map toGFile) =
      .ok (embedCf (Zip.checkFilesSt E files (Zip.goVers files))) := by
  rw [← hv]
  exact checkFiles_tie_vers E equalFold parseGoVers simpleFold toLower versionCompare versionLang K hsf hE hef htl files
    fuel hfuel

/-- the report alone: `CheckFiles` returns the model's `checkFilesV` -/
theorem checkFiles_tie_report (E : Zip.Env) (equalFold : Bytes → Bytes → Bool) (parseGoVers : Bytes → Bytes → Bytes)
    (simpleFold : Int → Int) (toLower : Bytes → Bytes) (versionCompare : Bytes → Bytes → Int)
    (versionLang : Bytes → Bytes) (K : Nat)
    (hsf : FoldsTo simpleFold K) (hE : E.toFold = Zip.strToFold)
    (hef : ∀ s, equalFold s Zip.goModName = Zip.equalFoldGoMod s)
    (htl : ∀ s, decide (toLower s = Zip.goModName) = Zip.toLowerIsGoMod s)
    (files : List Zip.FileInfo)
    (hv : decide (0 ≤ versionCompare (versOf parseGoVers versionLang files) go124) = Zip.goVers files)
    (fuel : Nat) (hfuel : fuelBound K files ≤ fuel) :
    (Generated.Zip.checkFiles (cfpOf E) equalFold parseGoVers simpleFold toLower versionCompare versionLang fuel
        (files.map toGFile)).map (·.1) = .ok (embCF (Zip.checkFilesV E files)) := by
  rw [checkFiles_tie E equalFold parseGoVers simpleFold toLower versionCompare versionLang K hsf hE hef htl files hv
    fuel hfuel]
  rfl

/-- `strings.ToLower` as the driver instantiates it -/
theorem toLower_driver (s : Bytes) :
    decide ((fun s : Bytes => s.map Zip.asciiLower) s = Zip.goModName) = Zip.toLowerIsGoMod s := by
  unfold Zip.toLowerIsGoMod Zip.lowerAscii
  rw [Bool.beq_eq_decide_eq]

/-- the driver's `parseGoVers` stand-in for the list `fs` (the harness supplies the go ≥ 1.24 bit per content) -/
def pgvDriver (fs : List Zip.FileInfo) : Bytes → Bytes → Bytes :=
  fun _ data => if fs.any (fun f => f.content == data && f.goGe124) then B "go1.24" else B "go1.0"

/-- fuel the driver passes -/
def driverFuel (fs : List Zip.FileInfo) : Nat := 8 * (fs.map fun f => f.path.length).sum + 4 * fs.length + 64

theorem fuelBound_le_driverFuel (fs : List Zip.FileInfo) : fuelBound 1 fs ≤ driverFuel fs := by
  unfold fuelBound driverFuel
  have := maxPathLen_le_sum fs
  omega

/-- the driver's version functions derive the model's flag, for every list in which files with the content of a regular
    root go.mod agree on the go ≥ 1.24 bit -/
theorem goVers_driver (fs : List Zip.FileInfo)
    (hcons : ∀ f ∈ fs, f.mode = .regular → f.path = Zip.goModName → f.goGe124 = false →
      ∀ g ∈ fs, g.content = f.content → g.goGe124 = false) :
    decide (0 ≤ versionCompareI (versOf (pgvDriver fs) id fs) go124) = Zip.goVers fs := by
  have h124 : B "go1.24" = go124 := by decide +kernel
  apply goVers_of_flags
  · unfold versionCompareI
    rw [h124]; decide
  · intro f hf hm hp
    unfold versionCompareI pgvDriver
    simp only [id]
    cases hg : f.goGe124 with
    | true =>
      have : fs.any (fun g => g.content == f.content && g.goGe124) = true :=
        List.any_eq_true.mpr ⟨f, hf, by simp [hg]⟩
      rw [this]; simp
    | false =>
      have : fs.any (fun g => g.content == f.content && g.goGe124) = false := by
        rw [List.any_eq_false]
        intro g hgm
        by_cases hc : g.content = f.content
        · simp [hcons f hf hm hp hg g hgm hc]
        · simp [hc]
      rw [this]
      decide +kernel

/-- `checkFiles` as the driver (`Drv.GenZip.handleCf`) runs it — `simpleFoldI`, `versionCompareI`, `version.Lang = id`,
    its `parseGoVers` stand-in, its fuel — returns the model's `checkFilesSt` with the model's own flag, for every list
    in which files with the content of a regular root go.mod agree on the go ≥ 1.24 bit (what the harness sends: the bit is
    computed from the content).  `equalFold` (the driver passes `GenModule.equalFoldI`) only has to agree with the model's
    `equalFoldGoMod` on "go.mod". -/
theorem checkFiles_tie_driver (E : Zip.Env) (hE : E.toFold = Zip.strToFold) (equalFold : Bytes → Bytes → Bool)
    (hef : ∀ s, equalFold s Zip.goModName = Zip.equalFoldGoMod s) (fs : List Zip.FileInfo)
    (hcons : ∀ f ∈ fs, f.mode = .regular → f.path = Zip.goModName → f.goGe124 = false →
      ∀ g ∈ fs, g.content = f.content → g.goGe124 = false) :
    Generated.Zip.checkFiles (cfpOf E) equalFold (pgvDriver fs) simpleFoldI (fun s => s.map Zip.asciiLower)
        versionCompareI id (driverFuel fs) (fs.map toGFile) =
      .ok (embedCf (Zip.checkFilesSt E fs (Zip.goVers fs))) :=
  checkFiles_tie E equalFold (pgvDriver fs) simpleFoldI _ versionCompareI id 1 FnZip.foldsTo_simpleFoldI hE hef
    toLower_driver fs (goVers_driver fs hcons) _ (fuelBound_le_driverFuel fs)

def exEnv : Zip.Env := { cfp := fun p => !p.isEmpty, toFold := Zip.strToFold, modOK := fun _ _ => true }

/-- every kind of rule occurs: a root go.mod declaring go ≥ 1.24 (so `vendor/modules.txt` is omitted and `pkg/vendor/v.go`
    is kept), a case collision, a nested module, a vendored package, a symlink, an unclean path, a failing `Lstat` (once on
    a go.mod: reported by the first loop) -/
def exFiles : List Zip.FileInfo :=
  [⟨B "go.mod", .regular, 2, B "hi", true⟩, ⟨B "a/b.go", .regular, 1, B "x", false⟩, ⟨B "a/B.go", .regular, 1, B "x", false⟩,
   ⟨B "sub/go.mod", .regular, 0, [], false⟩, ⟨B "sub/c.go", .regular, 1, B "y", false⟩,
   ⟨B "vendor/p/q.go", .regular, 1, B "z", false⟩, ⟨B "vendor/modules.txt", .regular, 1, B "m", false⟩,
   ⟨B "pkg/vendor/v.go", .regular, 1, B "v", false⟩, ⟨B "link", .symlink, 0, [], false⟩, ⟨B "./x", .regular, 0, [], false⟩,
   ⟨B "t/GO.MOD", .lstatErr, 0, [], false⟩, ⟨B "gone", .lstatErr, 0, [], false⟩, ⟨B "d", .dir, 0, [], false⟩]

/-- the generated function and the model agree on the example (both sides evaluated by the kernel) … -/
example : Generated.Zip.checkFiles (cfpOf exEnv) (fun a _ => Zip.equalFoldGoMod a) (pgvDriver exFiles) simpleFoldI
      (fun s => s.map Zip.asciiLower) versionCompareI id (driverFuel exFiles) (exFiles.map toGFile) =
    .ok (embedCf (Zip.checkFilesSt exEnv exFiles (Zip.goVers exFiles))) := by decide +kernel

/-- … and this is the report -/
example : (embedCf (Zip.checkFilesSt exEnv exFiles (Zip.goVers exFiles))).1 =
    { Valid := [B "go.mod", B "a/b.go", B "pkg/vendor/v.go"],
      Omitted := [⟨B "sub/go.mod", some "errSubmoduleFile"⟩, ⟨B "sub/c.go", some "errSubmoduleFile"⟩,
        ⟨B "vendor/p/q.go", some "errVendored"⟩, ⟨B "vendor/modules.txt", some "errVendored"⟩,
        ⟨B "link", some "errSymlink"⟩, ⟨B "d", some "errNotRegular"⟩],
      Invalid := [⟨B "t/GO.MOD", some "lstat"⟩, ⟨B "a/B.go", some "case-insensitive file name collision: %q and %q"⟩,
        ⟨B "./x", some "errPathNotClean"⟩, ⟨B "gone", some "lstat"⟩],
      SizeError := none } := by decide +kernel

/-- the hypotheses of `checkFiles_tie_driver` hold for the example -/
example : exEnv.toFold = Zip.strToFold ∧ Zip.goVers exFiles = true ∧
    (∀ f ∈ exFiles, f.mode = .regular → f.path = Zip.goModName → f.goGe124 = false →
      ∀ g ∈ exFiles, g.content = f.content → g.goGe124 = false) := by
  refine ⟨rfl, by decide +kernel, ?_⟩
  decide +kernel

end ModVerif.Tie.FnZipCheckFiles
