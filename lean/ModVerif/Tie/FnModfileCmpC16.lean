/-
  Tie, continuation of Tie/FnModfileCmp.lean (same namespace): `checkCanonicalVersion` against C08's validity predicate,
  and the C16 comparator theorems (Props/C16.lean) carried over to the regenerated comparators.  This part needs
  Props/C08 and Props/C16; the comparator ties themselves (Tie/FnModfileCmp.lean) do not.
-/
import ModVerif.Tie.FnModfileCmp
import ModVerif.Props.C16
import ModVerif.Props.C08
namespace ModVerif.Tie.FnModfileCmp
open ModVerif ModVerif.GoRt ModVerif.Modfile ModVerif.TieFnModfileCmp

/-- C08's validity predicate for versions (`EditSpec.stdValidity.version`, the precondition of AddRequire, AddExclude,
    AddReplace, AddRetract … in the specification) is exactly "the regenerated checkCanonicalVersion returns nil". -/
theorem checkCanonicalVersion_nil_iff_valid (fuel : Nat) (path vers : Bytes)
    (hf1 : path.length + 1 ≤ fuel) (hf2 : 2 * vers.length ≤ fuel) :
    Generated.Modfile.checkCanonicalVersion fuel path vers = .ok none ↔
      EditSpec.stdValidity.version path vers = true := by
  rw [checkCanonicalVersion_ok fuel path vers hf1 hf2, ← Props.C08.validity_checks_eq.2.2 path vers,
    ← canonErrOf_none_iff]
  constructor
  · intro h; injection h
  · intro h; rw [h]

/-! ### the C16 comparator theorems, transferred to the regenerated code

  `genLess fuelOf f a b` is the Boolean the regenerated comparator `f` returns on the lines with token lists `a`, `b`,
  run with fuel `fuelOf a b`; every `fuelOf ≥ cmpFuel` (`min #tokens + 1 + 2 * total bytes`) will do.  The model has
  been eliminated: the statements are about the regenerated functions and the specification's order notions only. -/

/-- the regenerated comparators ARE the specification's documented block orders -/
theorem genLess_eq_spec (fuelOf : List Bytes → List Bytes → Nat) (hfu : ∀ a b, cmpFuel a b ≤ fuelOf a b) :
    genLess fuelOf Generated.Modfile.lineLess = EditSpec.lineLess ∧
    genLess fuelOf Generated.Modfile.lineExcludeLess = EditSpec.lineExcludeLess ∧
    genLess fuelOf Generated.Modfile.lineRetractLess = EditSpec.lineRetractLess :=
  ⟨genLess_lineLess fuelOf hfu, genLess_lineExcludeLess fuelOf hfu, genLess_lineRetractLess fuelOf hfu⟩

/-- C16 `lineLess_strict_total`: the regenerated lineLess is a strict weak order, and total -/
theorem lineLess_strict_total (fuelOf : List Bytes → List Bytes → Nat) (hfu : ∀ a b, cmpFuel a b ≤ fuelOf a b) :
    EditSpec.StrictWeak (genLess fuelOf Generated.Modfile.lineLess) ∧
    ∀ a b, genLess fuelOf Generated.Modfile.lineLess a b = false →
      genLess fuelOf Generated.Modfile.lineLess b a = false → a = b := by
  rw [genLess_lineLess fuelOf hfu]
  exact Props.C16.lineLess_strict_total

/-- the same facts without `genLess`: on any lines, with any sufficient fuel -/
theorem lineLess_irrefl_asymm_total (fuel : Nat) (la lb : Generated.Modfile.Line)
    (hf : max la.Token.length lb.Token.length + 1 ≤ fuel) :
    Generated.Modfile.lineLess fuel la la = .ok false ∧
    (Generated.Modfile.lineLess fuel la lb = .ok true → Generated.Modfile.lineLess fuel lb la = .ok false) ∧
    (Generated.Modfile.lineLess fuel la lb = .ok false → Generated.Modfile.lineLess fuel lb la = .ok false →
      la.Token = lb.Token) := by
  have hsw := Props.C16.lineLess_strict_total
  rw [lineLess_ok fuel la la (by omega), lineLess_ok fuel la lb (by omega), lineLess_ok fuel lb la (by omega),
    Edit.lineLess_eq_spec, Edit.lineLess_eq_spec, Edit.lineLess_eq_spec]
  refine ⟨by rw [hsw.1.irrefl], ?_, ?_⟩
  · intro h; injection h with h; rw [hsw.1.asymm _ _ h]
  · intro h1 h2; injection h1 with h1; injection h2 with h2; exact hsw.2 _ _ h1 h2

/-- C16 `lineExcludeLess_strictWeak_on_pairs`: on two-token lines the regenerated lineExcludeLess is the strict weak
    order "path by string order, then version by semver order" -/
theorem lineExcludeLess_strictWeak_on_pairs (fuel : Nat) (la lb : Generated.Modfile.Line) (p v q w : Bytes)
    (ha : la.Token = [p, v]) (hb : lb.Token = [q, w]) (hf : 2 * max v.length w.length ≤ fuel) (hf0 : 3 ≤ fuel) :
    EditSpec.StrictWeak EditSpec.excludeLess2 ∧
    Generated.Modfile.lineExcludeLess fuel la lb = .ok (EditSpec.excludeLess2 (p, v) (q, w)) := by
  refine ⟨Props.C16.lineExcludeLess_strictWeak_on_pairs.1, ?_⟩
  rw [lineExcludeLess_ok fuel la lb (by rw [ha, hb]; simpa using hf0) (by rw [ha, hb]; simpa using hf), ha, hb,
    Edit.lineExcludeLess_model_eq_spec, Props.C16.lineExcludeLess_strictWeak_on_pairs.2]

/-- C16 `lineExcludeLess_cycle_on_mixed_lengths`, on the regenerated code: why "two-token lines" is needed -/
theorem lineExcludeLess_cycle_on_mixed_lengths :
    Generated.Modfile.lineExcludeLess 64 (mkLine [B "p", B "v1.10.0"]) (mkLine [B "p", B "v1.5.0", B "x"]) = .ok true ∧
    Generated.Modfile.lineExcludeLess 64 (mkLine [B "p", B "v1.5.0", B "x"]) (mkLine [B "p", B "v1.9.0"]) = .ok true ∧
    Generated.Modfile.lineExcludeLess 64 (mkLine [B "p", B "v1.9.0"]) (mkLine [B "p", B "v1.10.0"]) = .ok true := by
  decide +kernel

/-- C16 `lineRetractLess_strict_weak`: the regenerated lineRetractLess is a strict weak order on ALL token lists -/
theorem lineRetractLess_strict_weak (fuelOf : List Bytes → List Bytes → Nat) (hfu : ∀ a b, cmpFuel a b ≤ fuelOf a b) :
    EditSpec.StrictWeak (genLess fuelOf Generated.Modfile.lineRetractLess) := by
  rw [genLess_lineRetractLess fuelOf hfu]
  exact Props.C16.lineRetractLess_strict_weak

/-- C16 `sort_sorted_perm` + `sort_idempotent` for the two regenerated comparators that are strict weak orders
    everywhere: the stable sort by them yields a sorted permutation and is idempotent -/
theorem sort_sorted_perm_idem (fuelOf : List Bytes → List Bytes → Nat) (hfu : ∀ a b, cmpFuel a b ≤ fuelOf a b)
    (l : List (List Bytes)) :
    (EditSpec.Sorted (genLess fuelOf Generated.Modfile.lineLess) (EditSpec.sortBy (genLess fuelOf Generated.Modfile.lineLess) l) ∧
      (EditSpec.sortBy (genLess fuelOf Generated.Modfile.lineLess) l).Perm l ∧
      EditSpec.sortBy (genLess fuelOf Generated.Modfile.lineLess) (EditSpec.sortBy (genLess fuelOf Generated.Modfile.lineLess) l) =
        EditSpec.sortBy (genLess fuelOf Generated.Modfile.lineLess) l) ∧
    (EditSpec.Sorted (genLess fuelOf Generated.Modfile.lineRetractLess)
        (EditSpec.sortBy (genLess fuelOf Generated.Modfile.lineRetractLess) l) ∧
      (EditSpec.sortBy (genLess fuelOf Generated.Modfile.lineRetractLess) l).Perm l ∧
      EditSpec.sortBy (genLess fuelOf Generated.Modfile.lineRetractLess)
          (EditSpec.sortBy (genLess fuelOf Generated.Modfile.lineRetractLess) l) =
        EditSpec.sortBy (genLess fuelOf Generated.Modfile.lineRetractLess) l) := by
  have h1 := (lineLess_strict_total fuelOf hfu).1
  have h2 := lineRetractLess_strict_weak fuelOf hfu
  exact ⟨⟨(Props.C16.sort_sorted_perm h1 l).1, (Props.C16.sort_sorted_perm h1 l).2.1, Props.C16.sort_idempotent h1 l⟩,
    ⟨(Props.C16.sort_sorted_perm h2 l).1, (Props.C16.sort_sorted_perm h2 l).2.1, Props.C16.sort_idempotent h2 l⟩⟩

/-- C16 `sort_lineLess_perm_invariant`: sorting by the regenerated lineLess gives a result that depends only on the
    multiset of lines — the order in which Go's map iteration appended new lines is unobservable -/
theorem sort_lineLess_perm_invariant (fuelOf : List Bytes → List Bytes → Nat) (hfu : ∀ a b, cmpFuel a b ≤ fuelOf a b)
    (l1 l2 : List (List Bytes)) (hp : l1.Perm l2) :
    EditSpec.sortBy (genLess fuelOf Generated.Modfile.lineLess) l1 =
      EditSpec.sortBy (genLess fuelOf Generated.Modfile.lineLess) l2 := by
  rw [genLess_lineLess fuelOf hfu]
  exact Props.C16.sort_lineLess_perm_invariant l1 l2 hp

-- non-vacuity: `cmpFuel` itself is an admissible fuel function, and `genLess` evaluates
example : genLess cmpFuel Generated.Modfile.lineLess [B "a"] [B "b"] = true ∧
    genLess cmpFuel Generated.Modfile.lineRetractLess [B "v1.9.0"] [B "v1.0.0"] = true ∧
    EditSpec.sortBy (genLess cmpFuel Generated.Modfile.lineLess) [[B "b"], [B "a", B "x"], [B "a"]] =
      [[B "a"], [B "a", B "x"], [B "b"]] := by
  decide +kernel

end ModVerif.Tie.FnModfileCmp
