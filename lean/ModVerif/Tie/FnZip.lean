/-
  Tie theorems, zip/zip.go: the definitions regenerated from the Go source by go2lean (`Generated/FnZip.lean`:
  `isVendoredPackage`, `strToFold`, `collisionChecker.check`) compute exactly what the hand model (`Model/Zip.lean`) says —
  in particular no panic and no fuel exhaustion on the stated domain.  These are the three leaf functions the properties
  C17 (checkFiles / listFilesInDir), C05 (Create) and C12 (checkZip / Unzip) rest on.

  Bridges (helpers in `Proofs/TieFnZip{Fold,Path,CC}.lean`, `Proofs/GoRtLemmasZip.lean`):
  * `isVendoredPackage`: the generated code gets the go version string and an abstract `versionCompare`; the model gets the
    boolean `ge124`; tie under `ge124 = decide (0 ≤ versionCompare vers "go1.24")`.
  * `strToFold`: `unicode.SimpleFold` is the abstract `simpleFold : Int → Int`; the model uses the committed orbit-minimum
    table `FoldTable.foldMin`.  Hypothesis `FoldsTo simpleFold K`: from every code point `r < 0x110000` the inner loop
    (`orbitMinBy`: iterate `simpleFold` until the value stops increasing) ends within `K` iterations at `foldMin r`.
    The driver's stand-in `Drv.GenZip.simpleFoldI` satisfies it with `K = 1` unconditionally (`foldsTo_simpleFoldI`).
  * `collisionChecker.check`: the Go map is an association list keyed by the folded path; `toCC` / `ofCC` (mutually inverse)
    turn it into the model's table and back; the model's `toFold` is `Zip.strToFold`; the three `fmt.Errorf` literals are
    `errText` of the model's three collision reasons; `path.Dir` is `PathClean.pathDir` on both sides.  The model bounds the
    recursion by its own fuel `n` and reports `Reason.panic` when it runs out (absolute paths: the Go code recurses for
    ever); the tie holds for every `n` that is enough for the model, and `n = p.length + 1` (the model's `ccCheckTop`) is
    enough for every clean relative path.  Where the model IS out of fuel at `n`, the generated function is out of fuel
    (`Err.fuel`) for every `fuel ≤ n` (`collisionChecker_check_tie_outOfFuel`): the two notions of "does not end" agree.
-/
import ModVerif.Generated.FnZip
import ModVerif.Model.Zip
import ModVerif.Drv.GenZip
import ModVerif.Proofs.TieFnZipFold
import ModVerif.Proofs.TieFnZipPath
import ModVerif.Proofs.TieFnZipCC

/-- "go1.24" -/
def ModVerif.TieFnZip.go124 : ModVerif.Bytes := [103, 111, 49, 46, 50, 52]

namespace ModVerif.Tie.FnZip
open ModVerif ModVerif.GoRt ModVerif.GoRtZip ModVerif.TieFnZip
open ModVerif.Generated.Zip (pathInfo)
open ModVerif.Proofs.ZipA (ccStep_ne_panic ccCheckTop_ne_panic)

theorem indexOf_eq (pat : Bytes) : ∀ s : Bytes, Zip.indexOf pat s = indexOpt pat s
  | [] => rfl
  | c :: rest => by
    unfold Zip.indexOf indexOpt
    rw [indexOf_eq pat rest]

/-- `isVendoredPackage(name, vers)` for every name, version string and comparison function; the model's flag is
    `version.Compare(vers, "go1.24") >= 0`. -/
theorem isVendoredPackage_tie (versionCompare : Bytes → Bytes → Int) (name vers : Bytes) (ge124 : Bool)
    (hg : ge124 = decide (0 ≤ versionCompare vers go124)) :
    Generated.Zip.isVendoredPackage versionCompare name vers = .ok (Zip.isVendoredPackage name ge124) := by
  have hg' : decide (versionCompare vers [103, 111, 49, 46, 50, 52] ≥ 0) = ge124 := by rw [hg]; rfl
  unfold Generated.Zip.isVendoredPackage Zip.isVendoredPackage
  simp only [hg']
  have e1 : (name == Zip.vendorModulesTxt) =
      decide (name = [118, 101, 110, 100, 111, 114, 47, 109, 111, 100, 117, 108, 101, 115, 46, 116, 120, 116]) := by
    rw [Bool.eq_iff_iff]; simp [Zip.vendorModulesTxt, Zip.vendorSlash]
  rw [e1]
  by_cases h1 : (ge124 &&
      decide (name = [118, 101, 110, 100, 111, 114, 47, 109, 111, 100, 117, 108, 101, 115, 46, 116, 120, 116])) = true
  · rw [if_pos h1, if_pos h1]; rfl
  rw [if_neg h1, if_neg h1]
  show (if hasPrefix name [118, 101, 110, 100, 111, 114, 47] = true then _ else _) = _
  have e2 : hasPrefix name [118, 101, 110, 100, 111, 114, 47] = isPrefixOfB Zip.vendorSlash name := rfl
  rw [e2]
  -- every remaining branch ends with `strings.Contains(name[i:], "/")` for an offset `i` within the name
  have tail : ∀ i : Nat, i ≤ name.length →
      (sliceFrom name (i : Int) >>= fun t1 => (pure (contains t1 [47]) : M Bool)) =
        .ok (Zip.contains (name.drop i) 47) := by
    intro i hi
    rw [sliceFrom_natCast hi]
    simp only [bind, Except.bind, pure, Except.pure]
    rw [contains_single_any]; rfl
  by_cases h2 : isPrefixOfB Zip.vendorSlash name = true
  · rw [if_pos h2, if_pos h2]
    exact tail 7 (isPrefixOfB_length_le h2)
  rw [if_neg h2, if_neg h2]
  have e3 : index name [47, 118, 101, 110, 100, 111, 114, 47] =
      match indexOpt Zip.slashVendorSlash name with | some j => (j : Int) | none => -1 := index_eq name _
  simp only [e3, indexOf_eq]
  cases hi : indexOpt Zip.slashVendorSlash name with
  | none => simp
  | some j =>
    have hr : j + 8 ≤ name.length := indexOpt_range _ _ _ hi
    have hj : decide ((j : Int) ≥ 0) = true := by simp
    simp only [hj, if_true]
    cases ge124 with
    | true =>
      simp only [if_true]
      rw [show ((j : Int) + 8) = ((j + 8 : Nat) : Int) by omega]
      exact tail (j + 8) hr
    | false =>
      simp only [Bool.false_eq_true, if_false]
      exact tail 8 (by omega)

/-- the driver's instance (`Drv/GenZip.lean`: "go1.24" compares equal, everything else below) -/
theorem isVendoredPackage_tie_driver (name vers : Bytes) :
    Generated.Zip.isVendoredPackage Drv.GenZip.versionCompareI name vers =
      .ok (Zip.isVendoredPackage name (vers == go124)) := by
  apply isVendoredPackage_tie
  unfold Drv.GenZip.versionCompareI
  have : B "go1.24" = go124 := by decide +kernel
  rw [this]
  cases vers == go124 <;> simp

-- "pkg/vendor/vendor.go": vendored before go1.24 only
example : Generated.Zip.isVendoredPackage Drv.GenZip.versionCompareI (B "pkg/vendor/vendor.go") (B "go1.23") = .ok true ∧
    Zip.isVendoredPackage (B "pkg/vendor/vendor.go") false = true := by decide +kernel
example : Generated.Zip.isVendoredPackage Drv.GenZip.versionCompareI (B "pkg/vendor/vendor.go") (B "go1.24") = .ok false ∧
    Zip.isVendoredPackage (B "pkg/vendor/vendor.go") true = false := by decide +kernel

/-- `strToFold(s)` for every byte string, for every `simpleFold` whose orbit loop agrees with the table. -/
theorem strToFold_tie (simpleFold : Int → Int) (K : Nat) (hsf : FoldsTo simpleFold K) (fuel : Nat) (s : Bytes)
    (hf : 2 * s.length + K + 2 ≤ fuel) :
    Generated.Zip.strToFold simpleFold fuel s = .ok (Zip.strToFold s) :=
  (strToFold_runs simpleFold K hsf fuel s).ok hf

/-- the driver's stand-in for `unicode.SimpleFold` jumps straight to the orbit minimum: no hypothesis needed -/
theorem foldsTo_simpleFoldI : FoldsTo Drv.GenZip.simpleFoldI 1 := foldsTo_foldMin

/-- `strToFold` with the driver's `simpleFoldI`, for every fuel from `2 * len + 3` on (the driver passes `2 * len + 8`) -/
theorem strToFold_tie_driver (fuel : Nat) (s : Bytes) (hf : 2 * s.length + 3 ≤ fuel) :
    Generated.Zip.strToFold Drv.GenZip.simpleFoldI fuel s = .ok (Zip.strToFold s) :=
  strToFold_tie _ 1 foldsTo_simpleFoldI fuel s hf

-- "aK" with K = U+212A KELVIN SIGN (folds to 'K' = 75, written as 'k'); "Go" takes the slow path, "go" the fast one
example : Generated.Zip.strToFold Drv.GenZip.simpleFoldI 20 [97, 0xE2, 0x84, 0xAA] = .ok [97, 107] ∧
    Zip.strToFold [97, 0xE2, 0x84, 0xAA] = [97, 107] := by decide +kernel
example : Generated.Zip.strToFold Drv.GenZip.simpleFoldI 20 (B "Go") = .ok (B "go") ∧ Zip.strToFold (B "Go") = B "go" := by
  decide +kernel
example : Generated.Zip.strToFold Drv.GenZip.simpleFoldI 20 (B "go") = .ok (B "go") ∧ Zip.strToFold (B "go") = B "go" := by
  decide +kernel

/-- `cc.check(p, isDir)` for every map, path and flag: whenever the model's recursion ends within its fuel `n` (result not
    `Reason.panic`), the generated function returns the model's error (as its format literal) and the model's table (as a
    map), given fuel for `n` levels of recursion and for `strToFold` (which receives the remaining fuel) on `p`. -/
theorem collisionChecker_check_tie (simpleFold : Int → Int) (K : Nat) (hsf : FoldsTo simpleFold K) (n fuel : Nat)
    (cc : List (Bytes × pathInfo)) (p : Bytes) (isDir : Bool)
    (hn : (Zip.ccCheck Zip.strToFold n (toCC cc) p isDir).2 ≠ some .panic)
    (hf : n + 2 * max p.length 1 + K + 2 ≤ fuel) :
    Generated.Zip.collisionChecker_check simpleFold fuel cc p isDir =
      .ok (ccOut (Zip.ccCheck Zip.strToFold n (toCC cc) p isDir)) := by
  induction n generalizing fuel cc p isDir with
  | zero => exact absurd rfl hn
  | succ n ih =>
    obtain ⟨f, rfl⟩ : ∃ f, fuel = f + 1 := ⟨fuel - 1, by omega⟩
    rw [check_step_of simpleFold f cc p isDir ((strToFold_runs simpleFold K hsf f p).ok (by omega))]
    unfold Zip.ccCheck at hn ⊢
    cases hs : Zip.ccStep Zip.strToFold (toCC cc) p isDir with
    | mk cc' o =>
      rw [hs] at hn
      cases o with
      | some e => rfl
      | none =>
        simp only at hn ⊢
        by_cases hd : (PathClean.pathDir p != [46]) = true
        · simp only [if_pos hd] at hn ⊢
          -- `path.Dir` never lengthens a path: the fuel left is enough for `strToFold` on every level
          have hl := pathDir_length_le p
          rw [ih f (ofCC cc') (PathClean.pathDir p) true (by rw [toCC_ofCC]; exact hn) (by omega), toCC_ofCC]
        · simp only [if_neg hd]; rfl

/-- clean relative paths (everything `checkFiles` / `checkZip` pass to the checker): the generated function computes the
    model's top-level call `ccCheckTop` (model fuel `p.length + 1`). -/
theorem collisionChecker_check_tie_cleanRel (simpleFold : Int → Int) (K : Nat) (hsf : FoldsTo simpleFold K) (fuel : Nat)
    (cc : List (Bytes × pathInfo)) (p : Bytes) (isDir : Bool) (hp : Proofs.ZipA.CleanRel p)
    (hf : 3 * p.length + K + 5 ≤ fuel) :
    Generated.Zip.collisionChecker_check simpleFold fuel cc p isDir =
      .ok (ccOut (Zip.ccCheckTop Zip.strToFold (toCC cc) p isDir)) :=
  collisionChecker_check_tie simpleFold K hsf (p.length + 1) fuel cc p isDir (ccCheckTop_ne_panic _ _ _ hp) (by omega)

/-- as the driver runs it: `simpleFoldI`, fuel `4 * len + 16` -/
theorem collisionChecker_check_tie_driver (cc : List (Bytes × pathInfo)) (p : Bytes) (isDir : Bool)
    (hp : Proofs.ZipA.CleanRel p) :
    Generated.Zip.collisionChecker_check Drv.GenZip.simpleFoldI (4 * p.length + 16) cc p isDir =
      .ok (ccOut (Zip.ccCheckTop Zip.strToFold (toCC cc) p isDir)) :=
  collisionChecker_check_tie_cleanRel _ 1 foldsTo_simpleFoldI _ cc p isDir hp (by omega)

-- "a/b" as a file into the empty map registers "a/b" and "a"; then "A" as a file clashes with the directory "a"
example : Generated.Zip.collisionChecker_check Drv.GenZip.simpleFoldI 28 [] (B "a/b") false =
      .ok (none, [(B "a/b", ⟨B "a/b", false⟩), (B "a", ⟨B "a", true⟩)]) ∧
    ccOut (Zip.ccCheckTop Zip.strToFold (toCC []) (B "a/b") false) =
      (none, [(B "a/b", ⟨B "a/b", false⟩), (B "a", ⟨B "a", true⟩)]) := by decide +kernel
example : Generated.Zip.collisionChecker_check Drv.GenZip.simpleFoldI 20
      [(B "a/b", ⟨B "a/b", false⟩), (B "a", ⟨B "a", true⟩)] (B "A") false =
      .ok (some "case-insensitive file name collision: %q and %q", [(B "a/b", ⟨B "a/b", false⟩), (B "a", ⟨B "a", true⟩)]) ∧
    ccOut (Zip.ccCheckTop Zip.strToFold (toCC [(B "a/b", ⟨B "a/b", false⟩), (B "a", ⟨B "a", true⟩)]) (B "A") false) =
      (some "case-insensitive file name collision: %q and %q", [(B "a/b", ⟨B "a/b", false⟩), (B "a", ⟨B "a", true⟩)]) := by
  decide +kernel

/-- the non-terminating side: where the model runs out of ITS fuel `n` (no clash on the first `n` levels and `path.Dir` has
    not reached "." — e.g. every absolute directory path: the Go code recurses until the stack overflows), the generated
    function runs out of fuel for every `fuel ≤ n`.  Together with `collisionChecker_check_tie`: if the model ends for some
    `n`, the generated function returns its result for all large fuel; if it ends for no `n`, the generated function
    returns `Err.fuel` for every fuel. -/
theorem collisionChecker_check_tie_outOfFuel (simpleFold : Int → Int) (K : Nat) (hsf : FoldsTo simpleFold K) (n fuel : Nat)
    (cc : List (Bytes × pathInfo)) (p : Bytes) (isDir : Bool)
    (hn : (Zip.ccCheck Zip.strToFold n (toCC cc) p isDir).2 = some .panic) (hf : fuel ≤ n) :
    Generated.Zip.collisionChecker_check simpleFold fuel cc p isDir = .error .fuel := by
  induction fuel generalizing n cc p isDir with
  | zero => rfl
  | succ f ih =>
    obtain ⟨n', rfl⟩ : ∃ n', n = n' + 1 := ⟨n - 1, by omega⟩
    rcases (strToFold_runs simpleFold K hsf f p).weak with hst | hst
    · rw [Generated.Zip.collisionChecker_check, hst]; rfl
    rw [check_step_of simpleFold f cc p isDir hst]
    unfold Zip.ccCheck at hn
    have hne := ccStep_ne_panic Zip.strToFold (toCC cc) p isDir
    cases hs : Zip.ccStep Zip.strToFold (toCC cc) p isDir with
    | mk cc' o =>
      rw [hs] at hn hne
      cases o with
      | some e => exact absurd hn hne
      | none =>
        simp only at hn ⊢
        by_cases hd : (PathClean.pathDir p != [46]) = true
        · simp only [if_pos hd] at hn ⊢
          exact ih n' (ofCC cc') (PathClean.pathDir p) true (by rw [toCC_ofCC]; exact hn) (by omega)
        · simp only [if_neg hd] at hn
          cases hn

-- the directory "/": `path.Dir("/") = "/"`, the recursion never ends
example : Generated.Zip.collisionChecker_check Drv.GenZip.simpleFoldI 30 [] [47] true = .error .fuel ∧
    (Zip.ccCheck Zip.strToFold 30 (toCC []) [47] true).2 = some .panic := by decide +kernel

end ModVerif.Tie.FnZip
