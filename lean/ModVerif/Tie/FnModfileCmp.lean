/-
  Tie: the block-sorting comparators and the version check of modfile/rule.go (lines 1763-1850), regenerated on every
  check in Generated/FnModfile.lean (namespace ModVerif.Generated.Modfile) — `lineLess` (one loop over token indexes),
  `lineExcludeLess`, `lineRetractLess` with its hoisted closure `lineRetractLess_interval`, `checkCanonicalVersion` —
  compute exactly what the hand model (Model/Modfile/Edit.lean: `Edit.lineLess`, `Edit.lineExcludeLess`,
  `Edit.retractInterval`, `Edit.lineRetractLess`, `Edit.checkCanonicalVersion`) says, for ALL `Line` structures (any
  token list, any comments/positions) and all fuel above the stated bound.  The only hypotheses are fuel lower bounds.
  Each equation also proves: no Go panic (`Token[k]` never out of range) and no fuel exhaustion.

  * Go `error` is `Option String` (`nil` = `none`); `checkCanonicalVersion_tie` gives the error VALUE in every case
    (`TieFnModfileCmp.canonErrOf`), `checkCanonicalVersion_nil_iff` relates `nil` to the model's Boolean.
  * The translator keeps only the format string of `fmt.Errorf(…)`; the ARGUMENTS `module.PathMajorPrefix(pathMajor)`
    (which has two `panic` sites) and `semver.Major(vers)` are not evaluated by the regenerated `checkCanonicalVersion`.
    `checkCanonicalVersion_errarg_no_panic` closes that gap: on the suffix `SplitPathVersion` returns — with or without
    ok — the regenerated `PathMajorPrefix` returns normally, and `semver.Major` is total (`Tie.FnSemver.Major_tie`).
  * `*_tie_driver`: the bound is met by the fuel Drv/CmpOps.lean passes (`4 * total bytes + 64`); for the loop of
    `lineLess` this needs the tokens of one of the two lines to be non-empty strings (as the lexer guarantees): the loop
    makes one iteration per common token, and a line of n empty tokens has n tokens and 0 bytes.

  Tie/FnModfileCmpC16.lean (same namespace) relates `checkCanonicalVersion` to C08's validity predicate and carries the
  C16 comparator theorems (Props/C16.lean: strict weak / total orders, sorted permutation, idempotence, independence of
  the map-iteration order) over to the regenerated functions.

  Helper lemmas: Proofs/TieFnModfileCmp.lean, Proofs/TieFnModfileCmpOrd.lean.
-/
import ModVerif.Generated.FnModfile
import ModVerif.Model.Modfile.Edit
import ModVerif.Proofs.TieFnModfileCmp
import ModVerif.Proofs.TieFnModfileCmpOrd
namespace ModVerif.Tie.FnModfileCmp
open ModVerif ModVerif.GoRt ModVerif.Modfile ModVerif.TieFnModfileCmp

/-! ### lineLess -/

/-- lineLess (rule.go:1763): the loop `for k := 0; k < len(li.Token) && k < len(lj.Token); k++` with the early
    `return li.Token[k] < lj.Token[k]`, then `len(li.Token) < len(lj.Token)`. -/
theorem lineLess_tie (fuel : Nat) (la lb : Generated.Modfile.Line)
    (hf : min la.Token.length lb.Token.length + 1 ≤ fuel) :
    Generated.Modfile.lineLess fuel la lb = .ok (Edit.lineLess la.Token lb.Token) :=
  lineLess_ok fuel la lb hf

-- ["a","b"] < ["a","c"];  ["a"] < ["a","b"] (proper prefix first);  not ["a","b"] < ["a"]
example : Generated.Modfile.lineLess 3 (mkLine [B "a", B "b"]) (mkLine [B "a", B "c"]) = .ok true ∧
    Edit.lineLess [B "a", B "b"] [B "a", B "c"] = true ∧
    Generated.Modfile.lineLess 2 (mkLine [B "a"]) (mkLine [B "a", B "b"]) = .ok true ∧
    Edit.lineLess [B "a"] [B "a", B "b"] = true ∧
    Generated.Modfile.lineLess 2 (mkLine [B "a", B "b"]) (mkLine [B "a"]) = .ok false := by
  decide +kernel

/-- with the fuel the driver passes; the tokens of one of the two lines are non-empty strings -/
theorem lineLess_tie_driver (fuel : Nat) (la lb : Generated.Modfile.Line)
    (hne : (∀ t ∈ la.Token, t ≠ []) ∨ (∀ t ∈ lb.Token, t ≠ []))
    (hf : 4 * ((la.Token ++ lb.Token).map List.length).sum + 64 ≤ fuel) :
    Generated.Modfile.lineLess fuel la lb = .ok (Edit.lineLess la.Token lb.Token) := by
  have := min_length_le la.Token lb.Token hne
  unfold tokBytes at this
  exact lineLess_ok fuel la lb (by omega)

/-! ### lineExcludeLess -/

/-- lineExcludeLess (rule.go:1774): falls back to `lineLess` unless both lines have exactly two tokens; then path by
    string order, version by `semver.Compare`.  (`getD 1 []` is the version token when there is one.) -/
theorem lineExcludeLess_tie (fuel : Nat) (la lb : Generated.Modfile.Line)
    (hf1 : min la.Token.length lb.Token.length + 1 ≤ fuel)
    (hf2 : 2 * max (la.Token.getD 1 []).length (lb.Token.getD 1 []).length ≤ fuel) :
    Generated.Modfile.lineExcludeLess fuel la lb = .ok (Edit.lineExcludeLess la.Token lb.Token) :=
  lineExcludeLess_ok fuel la lb hf1 hf2

-- same path: v1.9.0 before v1.10.0 (semver, not string order); different length: lexical fallback
example : Generated.Modfile.lineExcludeLess 20 (mkLine [B "a", B "v1.9.0"]) (mkLine [B "a", B "v1.10.0"]) = .ok true ∧
    Edit.lineExcludeLess [B "a", B "v1.9.0"] [B "a", B "v1.10.0"] = true ∧
    Generated.Modfile.lineExcludeLess 20 (mkLine [B "a", B "v1.10.0"]) (mkLine [B "a", B "v1.9.0"]) = .ok false ∧
    Generated.Modfile.lineExcludeLess 20 (mkLine [B "a", B "v1.10.0"]) (mkLine [B "a", B "v1.9.0", B "x"]) = .ok true ∧
    Edit.lineExcludeLess [B "a", B "v1.10.0"] [B "a", B "v1.9.0", B "x"] = true := by
  decide +kernel

theorem lineExcludeLess_tie_driver (fuel : Nat) (la lb : Generated.Modfile.Line)
    (hne : (∀ t ∈ la.Token, t ≠ []) ∨ (∀ t ∈ lb.Token, t ≠ []))
    (hf : 4 * ((la.Token ++ lb.Token).map List.length).sum + 64 ≤ fuel) :
    Generated.Modfile.lineExcludeLess fuel la lb = .ok (Edit.lineExcludeLess la.Token lb.Token) := by
  have h0 := min_length_le la.Token lb.Token hne
  have h1 := getD_length_le_tokBytes la.Token 1
  have h2 := getD_length_le_tokBytes lb.Token 1
  rw [tokBytes_append] at h0
  have h3 := tokBytes_append la.Token lb.Token
  unfold tokBytes at h0 h1 h2 h3
  exact lineExcludeLess_ok fuel la lb (by omega) (by omega)

/-! ### lineRetractLess and its closure -/

/-- the closure `interval` of lineRetractLess (rule.go:1794), hoisted by the translator: a one-token line is the
    interval [v, v], a five-token line `[ lo , hi ]` is [lo, hi], anything else the zero interval.  No fuel needed. -/
theorem lineRetractLess_interval_tie (fuel : Nat) (l : Generated.Modfile.Line) :
    Generated.Modfile.lineRetractLess_interval fuel l =
      .ok { Low := (Edit.retractInterval l.Token).low, High := (Edit.retractInterval l.Token).high } :=
  interval_ok fuel l

example : Generated.Modfile.lineRetractLess_interval 0 (mkLine [B "[", B "v1.0.0", B ",", B "v1.2.0", B "]"]) =
      .ok { Low := B "v1.0.0", High := B "v1.2.0" } ∧
    Edit.retractInterval [B "[", B "v1.0.0", B ",", B "v1.2.0", B "]"] = { low := B "v1.0.0", high := B "v1.2.0" } ∧
    Generated.Modfile.lineRetractLess_interval 0 (mkLine [B "v1.0.0"]) = .ok { Low := B "v1.0.0", High := B "v1.0.0" } ∧
    Generated.Modfile.lineRetractLess_interval 0 (mkLine [B "(", B "v1.0.0", B ",", B "v1.2.0", B "]"]) =
      .ok { Low := [], High := [] } := by
  decide +kernel

/-- lineRetractLess (rule.go:1793): descending by low version, then by high version -/
theorem lineRetractLess_tie (fuel : Nat) (la lb : Generated.Modfile.Line)
    (hf1 : 2 * max (Edit.retractInterval la.Token).low.length (Edit.retractInterval lb.Token).low.length ≤ fuel)
    (hf2 : 2 * max (Edit.retractInterval la.Token).high.length (Edit.retractInterval lb.Token).high.length ≤ fuel) :
    Generated.Modfile.lineRetractLess fuel la lb = .ok (Edit.lineRetractLess la.Token lb.Token) :=
  lineRetractLess_ok fuel la lb hf1 hf2

-- v1.9.0 sorts before the interval [v1.2.0, v1.3.0] (descending), which sorts before v1.0.0
example : Generated.Modfile.lineRetractLess 20 (mkLine [B "v1.9.0"]) (mkLine [B "[", B "v1.2.0", B ",", B "v1.3.0", B "]"])
      = .ok true ∧
    Edit.lineRetractLess [B "v1.9.0"] [B "[", B "v1.2.0", B ",", B "v1.3.0", B "]"] = true ∧
    Generated.Modfile.lineRetractLess 20 (mkLine [B "[", B "v1.2.0", B ",", B "v1.3.0", B "]"]) (mkLine [B "v1.0.0"])
      = .ok true ∧
    Generated.Modfile.lineRetractLess 20 (mkLine [B "v1.0.0"]) (mkLine [B "v1.9.0"]) = .ok false := by
  decide +kernel

/-- with the fuel the driver passes — for ALL token lists (no loop over tokens here) -/
theorem lineRetractLess_tie_driver (fuel : Nat) (la lb : Generated.Modfile.Line)
    (hf : 4 * ((la.Token ++ lb.Token).map List.length).sum + 64 ≤ fuel) :
    Generated.Modfile.lineRetractLess fuel la lb = .ok (Edit.lineRetractLess la.Token lb.Token) := by
  have h1 := retractInterval_le_tokBytes la.Token
  have h2 := retractInterval_le_tokBytes lb.Token
  have h3 := tokBytes_append la.Token lb.Token
  unfold tokBytes at h1 h2 h3
  exact lineRetractLess_ok fuel la lb (by omega) (by omega)

/-! ### checkCanonicalVersion -/

/-- checkCanonicalVersion (rule.go:1817): the exact `error` value in every case (`canonErrOf`: "must be of the form
    v1.2.3" / "must be of the form %s.2.3" when `vers` is empty or not `module.CanonicalVersion(vers)`;
    CheckPathMajor's error, or "should be %s+incompatible (or module %s/%v)" for a path without major suffix, when the
    path splits and the majors do not match; `nil` otherwise). -/
theorem checkCanonicalVersion_tie (fuel : Nat) (path vers : Bytes)
    (hf1 : path.length + 1 ≤ fuel) (hf2 : 2 * vers.length ≤ fuel) :
    Generated.Modfile.checkCanonicalVersion fuel path vers = .ok (canonErrOf path vers) :=
  checkCanonicalVersion_ok fuel path vers hf1 hf2

/-- `canonErrOf` spelled out, so that the statement above can be read without the helper file -/
theorem canonErrOf_eq (path vers : Bytes) :
    canonErrOf path vers =
      (if vers = [] ∨ vers ≠ Semver.canonicalVersion vers then
        (if (Module.splitPathVersion path).2.1 = [] then
           wrapErr "InvalidVersionError" (some "must be of the form v1.2.3")
         else wrapErr "InvalidVersionError" (some "must be of the form %s.2.3"))
       else if (Module.splitPathVersion path).2.2 = true ∧
            Module.checkPathMajor vers (Module.splitPathVersion path).2.1 = false then
        (if (Module.splitPathVersion path).2.1 = [] then
           wrapErr "InvalidVersionError" (some "should be %s+incompatible (or module %s/%v)")
         else wrapErr "InvalidVersionError" (some "should be %s, not %s"))
       else none) := rfl

/-- the error is `nil` exactly when the model's Boolean check holds -/
theorem checkCanonicalVersion_nil_iff (fuel : Nat) (path vers : Bytes)
    (hf1 : path.length + 1 ≤ fuel) (hf2 : 2 * vers.length ≤ fuel) :
    ∃ e, Generated.Modfile.checkCanonicalVersion fuel path vers = .ok e ∧
      (e = none ↔ Edit.checkCanonicalVersion path vers = true) :=
  ⟨_, checkCanonicalVersion_ok fuel path vers hf1 hf2, canonErrOf_none_iff path vers⟩

/-- with the fuel the driver passes -/
theorem checkCanonicalVersion_tie_driver (fuel : Nat) (path vers : Bytes)
    (hf : 4 * (path.length + vers.length) + 64 ≤ fuel) :
    Generated.Modfile.checkCanonicalVersion fuel path vers = .ok (canonErrOf path vers) :=
  checkCanonicalVersion_ok fuel path vers (by omega) (by omega)

example : Generated.Modfile.checkCanonicalVersion 40 (B "a.b/v2") (B "v2.1.0") = .ok none ∧
    Edit.checkCanonicalVersion (B "a.b/v2") (B "v2.1.0") = true ∧
    Generated.Modfile.checkCanonicalVersion 40 (B "a.b/v2") (B "v1.0.0")
      = .ok (some "InvalidVersionError|should be %s, not %s") ∧
    Edit.checkCanonicalVersion (B "a.b/v2") (B "v1.0.0") = false ∧
    Generated.Modfile.checkCanonicalVersion 40 (B "a.b") (B "v2.0.0")
      = .ok (some "InvalidVersionError|should be %s+incompatible (or module %s/%v)") ∧
    Generated.Modfile.checkCanonicalVersion 40 (B "a.b") (B "v2.0.0+incompatible") = .ok none ∧
    Generated.Modfile.checkCanonicalVersion 40 (B "a.b/v2") (B "v2.1")
      = .ok (some "InvalidVersionError|must be of the form %s.2.3") ∧
    Generated.Modfile.checkCanonicalVersion 40 (B "a.b") []
      = .ok (some "InvalidVersionError|must be of the form v1.2.3") ∧
    Generated.Modfile.checkCanonicalVersion 40 (B "a.b/v1") (B "v3.0.0") = .ok none ∧
    Edit.checkCanonicalVersion (B "a.b/v1") (B "v3.0.0") = true := by
  decide +kernel

/-- **The dropped error-message arguments cannot panic.**  `fmt.Errorf("must be of the form %s.2.3",
    module.PathMajorPrefix(pathMajor))` calls a function with two `panic` sites
    (`Tie.FnModule.PathMajorPrefix_tie`: panic exactly where the model is `none`); the translator keeps only the format
    string.  For the `pathMajor` that `SplitPathVersion(path)` returns (ok or not: a failed split returns "") the
    regenerated `PathMajorPrefix` returns normally — "" or "vN" — so the Go function has no panic the regenerated
    `checkCanonicalVersion` misses.  (`semver.Major(vers)`, the other dropped argument, is total.) -/
theorem checkCanonicalVersion_errarg_no_panic (fuel : Nat) (path vers : Bytes)
    (hf : 2 * path.length ≤ fuel) (hf2 : 2 * vers.length ≤ fuel) :
    (∃ m, Generated.Module.PathMajorPrefix fuel (Module.splitPathVersion path).2.1 = .ok m) ∧
    Generated.Semver.Major fuel vers = .ok (Semver.major vers) := by
  refine ⟨pathMajorPrefix_ok_on_split path fuel ?_, Tie.FnSemver.Major_tie vers fuel hf2⟩
  have := splitPathVersion_major_le path
  omega

example : Generated.Module.PathMajorPrefix 20 (Module.splitPathVersion (B "a.b/v2")).2.1 = .ok (B "v2") ∧
    Generated.Module.PathMajorPrefix 20 (Module.splitPathVersion (B "a.b/v02")).2.1 = .ok [] ∧
    Generated.Module.PathMajorPrefix 20 (B "/v02") = .error .panic := by
  decide +kernel

end ModVerif.Tie.FnModfileCmp
