/-
  Tie, COMPOSITION: whole edit sessions of the regenerated go.mod edit operations (Generated/FnEdit.lean, re-translated from
  modfile/{read,rule}.go on every check) as the driver `Drv.GenEdit` runs them, against the hand model's sessions
  (Model/Modfile/Edit.lean: `Edit.applyMod`, `Edit.runOps`; driver `Drv.Edit.M.sessionMod`).  Everything here is plumbing of
  the operation ties Tie/FnEdit{Tree,AddLine,Stmt,Req,Set,Sort}.lean over the shared representation `RepF`
  (Proofs/TieFnEditRep.lean: heap `h` at the `*File` pointer `fp` represents the model file `e`, line id = line pointer).

  (1) `applyOp_tie`: ONE operation.  For every `EditSpec.Op` `op`, with `opM op` the model operation the drivers decode it to
      (`rev = false`: the regenerated code iterates its maps in insertion order = `permOf false`):
        model `some (.ok e')`                    ↔ `applyOp … = .ok (some true, h')` and `RepF h' fp e'`;
        model returned error (`isReturned`)       ↔ `applyOp … = .ok (some false, h)`, the heap unchanged;
        model `nilDeref` / `badStatement` / `conflictingVersions` ↔ `applyOp … = .error .panic`;
        model `none` (a go.work operation)        ↔ `applyOp … = .ok (none, h)`.
      Side conditions `StepOK fuel e op`: the fuel bound `stepFuel e op ≤ fuel` (explicit, computable: the maximum of the
      bounds of the operation's tie); `ScalarsLive e` (the module / go / toolchain entries point at a line) and, for
      SetRequireSeparateIndirect, `InTree e` — both follow from the MODEL INVARIANT `Edit.P.Inv` that the C15 theorems
      maintain (`stepOK_of_Inv`).
  (2) `runOps_tie`: an operation LIST, by induction: same per-operation results, the final heap represents the final model
      state; a model panic at operation `j` is the driver's panic at that operation (same name); under `RunOK`
      (`StepOK` in every state of the model run).  `runOps_tie_valid`: under `Edit.P.Inv` and `Edit.RunValidLive` only the
      fuel part `FuelOK` is left, and the run completes.
      FUEL.  The driver runs with `driverFuel file ops = 8·|file| + 64·#ops + 4096`.  The ties' bounds are NOT below that in
      general (an operation's arguments are unbounded — `path.length + 1 ≤ fuel` —, and `sortFuel` grows with the bytes
      added by earlier operations), so the fuel is abstract and `FuelOK fuel e ops` says that it dominates each step's bound;
      `fuelOKB` is a sound Boolean test (kernel-evaluated in the examples with the driver's fuel).
  (3) `session_tie`: the whole `gedit.session` line — parse with the model, `load`, the regenerated operations, the
      regenerated final Cleanup, read back with `fileM`, print — is the string `edit.session` prints
      (`Drv.Edit.M.sessionMod file (ops.map opM)`): the typed dump is equal because `fileM` of a represented heap is the model
      file up to the typed `lineId`s, which the dump does not print (`fileM_rep`, `dumpMod_zeroIds`); the formatted bytes and
      the reparse are equal because the tree is read back exactly (`RepSyn.synM`, Proofs/TieFnEditRep.lean).

-/
import ModVerif.Proofs.TieFnEditSessionB
import ModVerif.Tie.FnEditTree
import ModVerif.Proofs.BytesLit
namespace ModVerif.Tie.FnEditSession
open ModVerif ModVerif.GoRt ModVerif.Generated.Edit ModVerif.Tie.FnEditRep
open ModVerif.Tie.FnEditSessionA ModVerif.Tie.FnEditSessionB ModVerif.Tie.FnEditSessionC ModVerif.Tie.FnEditSessionD
open ModVerif.Tie.FnEditSessionE
open ModVerif.Modfile.Edit (EFile EditErr applyMod SessionResult)
open ModVerif.Drv.GenEdit (applyOp opNameD Run)
open ModVerif.Tie.FnEditSetQ (InTree)
open ModVerif.Tie.FnEditStmtEx (zeroIds)

/-! ### (1) one operation -/

/-- **`Drv.GenEdit.applyOp` = `Edit.applyMod`**, every operation; `StepOK`: fuel, `ScalarsLive`, `InTree` -/
theorem applyOp_tie {h : Heap} {fp : Int} {e : EFile} (R : RepF h fp e) (op : EditSpec.Op) (fuel : Nat)
    (ok : StepOK fuel e op) :
    match applyMod e (opM op) with
    | none => applyOp fuel fp h op = .ok (none, h)
    | some (.ok e') => ∃ h', applyOp fuel fp h op = .ok (some true, h') ∧ RepF h' fp e'
    | some (.error err) =>
      (err.isReturned = true ∧ applyOp fuel fp h op = .ok (some false, h)) ∨
      (err.isReturned = false ∧ applyOp fuel fp h op = .error .panic) := by
  have T := applyOp_out R op ok.scalars ok.inTree fuel ok.fuel
  cases hx : applyMod e (opM op) with
  | none => rw [hx] at T; exact T
  | some x => cases x <;> (rw [hx] at T; exact T)

/-- the errors of the model that are not returned errors are exactly the three Go panics -/
theorem not_returned_iff (err : EditErr) :
    err.isReturned = false ↔ err = .nilDeref ∨ err = .badStatement ∨ err = .conflictingVersions := by
  cases err <;> simp [Modfile.Edit.EditErr.isReturned]

/-- the driver panics EXACTLY when the model gives `nilDeref` / `badStatement` / `conflictingVersions` -/
theorem applyOp_panic_iff {h : Heap} {fp : Int} {e : EFile} (R : RepF h fp e) (op : EditSpec.Op) (fuel : Nat)
    (ok : StepOK fuel e op) :
    applyOp fuel fp h op = .error .panic ↔
      applyMod e (opM op) = some (.error .nilDeref) ∨ applyMod e (opM op) = some (.error .badStatement) ∨
      applyMod e (opM op) = some (.error .conflictingVersions) := by
  have T := applyOp_tie R op fuel ok
  cases hx : applyMod e (opM op) with
  | none => rw [hx] at T; simp only [T]; simp
  | some x =>
    cases x with
    | ok e' => rw [hx] at T; obtain ⟨h', h1, _⟩ := T; simp [h1]
    | error err =>
      rw [hx] at T
      rcases T with ⟨hr, h1⟩ | ⟨hr, h1⟩
      · simp only [h1]
        cases err <;> simp [Modfile.Edit.EditErr.isReturned] at hr ⊢
      · simp only [h1, true_iff]
        rcases (not_returned_iff err).1 hr with rfl | rfl | rfl <;> simp

/-- the side conditions other than fuel follow from the model invariant (and the validity of the arguments) -/
theorem stepOK_of_Inv {e : EFile} {op : EditSpec.Op} {fuel : Nat} (hi : Modfile.Edit.P.Inv e)
    (hv : Modfile.Edit.ValidArgsLive e (opM op)) (hf : stepFuel e op ≤ fuel) : StepOK fuel e op :=
  ⟨hf, scalarsLive_of_Inv hi, fun w hw => by subst hw; exact inTree_of_Inv_live hi hv.2⟩

/-! ### (2) an operation list -/

/-- **`Drv.GenEdit.runOps` = `Edit.runOps Edit.applyMod`** (`RunRel`: `.done e' res` ↔ `.done h' res` with `RepF h' fp e'`;
    `.panic j` ↔ `.panic (name of the j-th operation)`; `.badOp` ↔ `.badOp`) -/
theorem runOps_tie (fuel : Nat) (fp : Int) (ops : List EditSpec.Op) (h : Heap) (e : EFile) (R : RepF h fp e)
    (ok : RunOK fuel e ops) :
    match Modfile.Edit.runOps applyMod e (ops.map opM) [] 0 with
    | .done e' res => ∃ h', Drv.GenEdit.runOps fuel fp h ops [] = .done h' res ∧ RepF h' fp e'
    | .panic j => ∃ op, ops[j]? = some op ∧ Drv.GenEdit.runOps fuel fp h ops [] = .panic (opNameD op)
    | .badOp => Drv.GenEdit.runOps fuel fp h ops [] = .badOp := by
  have T := runOps_rel fuel fp ops h e [] 0 R ok
  cases hx : Modfile.Edit.runOps applyMod e (ops.map opM) [] 0 with
  | done e' res => rw [hx] at T; exact T
  | panic j => rw [hx] at T; obtain ⟨op, _, h2, h3⟩ := T; exact ⟨op, h2, h3⟩
  | badOp => rw [hx] at T; exact T

/-- a session with valid arguments from a state satisfying the model invariant (`Edit.P.Inv`, `Edit.RunValidLive`: the
    hypotheses of C15's `nilDeref_unreachable`): the regenerated run completes — no panic —, with the model's results, in a
    heap that represents the model's final state; only the fuel is asked for -/
theorem runOps_tie_valid (fuel : Nat) (fp : Int) (ops : List EditSpec.Op) (h : Heap) (e : EFile) (R : RepF h fp e)
    (hi : Modfile.Edit.P.Inv e) (hv : Modfile.Edit.RunValidLive e (ops.map opM))
    (hm : ∀ op ∈ ops.map opM, Modfile.Edit.IsModOp op) (hf : FuelOK fuel e ops) :
    ∃ e' res h', Modfile.Edit.runOps applyMod e (ops.map opM) [] 0 = .done e' res ∧
      Drv.GenEdit.runOps fuel fp h ops [] = .done h' res ∧ RepF h' fp e' ∧ Modfile.Edit.P.Inv e' :=
  runOps_valid fuel fp ops h e R hi hv hm hf

/-! ### (3) the session line -/

/-- the fuel `Drv.GenEdit.session` runs with -/
def driverFuel (file : Bytes) (ops : List EditSpec.Op) : Nat := 8 * file.length + 64 * ops.length + 4096

/-- the regenerated final Cleanup and the read-back, on a heap that represents `e` -/
theorem final_cleanup {h : Heap} {fp : Int} {e : EFile} (R : RepF h fp e) (fuel : Nat) (hf : stepFuel e .cleanup ≤ fuel) :
    ∃ h', File_Cleanup fuel fp h = .ok ((), h') ∧ RepF h' fp (Modfile.Edit.cleanup e) ∧
      Drv.GenEdit.fileM h' fp = some (zeroIds (Modfile.Edit.cleanup e).f) := by
  simp only [stepFuel] at hf
  obtain ⟨h', h1, R'⟩ := FnEditSort.File_Cleanup_tie R fuel (by omega) (by omega)
  exact ⟨h', h1, R', fileM_rep R'⟩

/-- **`gedit.session` prints what `edit.session` prints**: for every file and operation list, if (when the file parses) the
    model run from `Edit.load f` satisfies `RunOK` with the driver's fuel and the fuel covers the final Cleanup, the two
    output strings are EQUAL — parse error, bad operation, panic (same operation name), or the full line
    `ops=… typed: … fmt=… reparse: …` (equal per-operation results, equal typed dump, equal formatted bytes, equal reparse). -/
theorem session_tie (file : Bytes) (ops : List EditSpec.Op)
    (ok : ∀ f, Modfile.parseStrict (B "go.mod") file none = .ok f →
      RunOK (driverFuel file ops) (Modfile.Edit.load f) ops ∧ FinalFuel (driverFuel file ops) (Modfile.Edit.load f) ops) :
    Drv.GenEdit.session file ops = Drv.Edit.M.sessionMod file (ops.map opM) := by
  unfold Drv.GenEdit.session Drv.Edit.M.sessionMod
  cases hp : Modfile.parseStrict (B "go.mod") file none with
  | error err => rfl
  | ok f =>
    obtain ⟨hrun, hfin⟩ := ok f hp
    have R := FnEditTree.load_parsed_rep hp
    have T := runOps_tie (driverFuel file ops) (Drv.GenEdit.load f).2 ops (Drv.GenEdit.load f).1 _ R hrun
    simp only []
    show (match Drv.GenEdit.runOps (driverFuel file ops) (Drv.GenEdit.load f).2 (Drv.GenEdit.load f).1 ops [] with
      | .badOp => "bad-op"
      | .panic n => "panic:" ++ n
      | .done h res => _) = _
    cases hx : Modfile.Edit.runOps applyMod (Modfile.Edit.load f) (ops.map opM) [] 0 with
    | badOp =>
      rw [hx] at T
      simp only [T]
    | panic j =>
      rw [hx] at T
      obtain ⟨op, h1, h2⟩ := T
      simp only [h2, List.getElem?_map, h1, Option.map_some, Option.getD_some, opName_opM]
    | done e' res =>
      rw [hx] at T
      obtain ⟨h', h1, R'⟩ := T
      obtain ⟨h'', h2, R'', h3⟩ := final_cleanup R' (driverFuel file ops) (hfin e' res hx)
      simp only [h1]
      show (match File_Cleanup (driverFuel file ops) (Drv.GenEdit.load f).2 h' with
        | .error _ => "panic:final-cleanup"
        | .ok (_, h) => _) = _
      simp only [h2, h3, zeroIds_syn, dumpMod_zeroIds]
      rfl

/-- the form under the hypotheses of C15's `nilDeref_unreachable`: a strictly parsed well-formed file, a statically valid
    session of go.mod operations; only fuel is asked for (`FuelOK` / `FinalFuel` with the driver's fuel) -/
theorem session_tie_valid (file : Bytes) (ops : List EditSpec.Op)
    (hk : ∀ f, Modfile.parseStrict (B "go.mod") file none = .ok f → Modfile.Edit.WellFormedKeys f ∧ Modfile.Edit.NoBlockSuffix f.syn)
    (hv : Modfile.Edit.StaticValid false (ops.map opM))
    (hf : ∀ f, Modfile.parseStrict (B "go.mod") file none = .ok f →
      FuelOK (driverFuel file ops) (Modfile.Edit.load f) ops ∧ FinalFuel (driverFuel file ops) (Modfile.Edit.load f) ops) :
    Drv.GenEdit.session file ops = Drv.Edit.M.sessionMod file (ops.map opM) := by
  refine session_tie file ops fun f hp => ⟨?_, (hf f hp).2⟩
  have hi := Modfile.Edit.P.Inv.ofFull (Modfile.Edit.parseStrict_inv hp (hk f hp).1 (hk f hp).2)
  exact runOK_of_valid _ ops _ hi
    (Modfile.Edit.StaticValid.runValidLive _ false _ hv (fun hc => by cases hc)) (hf f hp).1

/-! ### non-vacuity: kernel-evaluated sessions on a parsed two-block go.mod

  `exFile`: module, go, a require block (one requirement `// indirect; why`, a comment line), a single require line, an
  exclude line, a retract line.  `exOps`: a session with both bulk setters (each directly after a Cleanup), AddTool
  (SortBlocks), a returned error (`go 1.x`).  `exBad`: a session that panics (a second drop of the key "" hits the cleared
  godebug entry: the model's `nilDeref`). -/

section examples

def exFile : Bytes :=
  B "module \"example.com/m\"\n\ngo 1.21\n\ngodebug a=b\n\nrequire (\n\texample.com/a v1.0.0 // indirect; why\n\t// keep\n\texample.com/b v1.2.3\n)\nrequire example.com/c v1.0.0 // c\nexclude example.com/b v1.0.0\nretract [v1.1.0, v1.2.0] // bad\n"

def exOps : List EditSpec.Op :=
  [.addRequire (B "example.com/d") (B "v1.0.0"), .addGo (B "1.x"), .cleanup,
   .setRequireSeparateIndirect [⟨B "example.com/a", B "v1.4.0", false⟩, ⟨B "example.com/e", B "v1.0.0", true⟩, ⟨B "example.com/c", B "v1.0.0", true⟩],
   .cleanup, .setRequire [⟨B "example.com/a", B "v1.5.0", true⟩], .addTool (B "example.com/t"), .dropGodebug (B "a"), .cleanup]

def exBad : List EditSpec.Op := [.dropGodebug (B "a"), .addModule (B "n"), .dropGodebug [], .dropGo]

/-- the hypotheses of `session_tie_valid` hold of the example (with the driver's fuel) -/
theorem ex_keys : ∀ f, Modfile.parseStrict (B "go.mod") exFile none = .ok f →
    Modfile.Edit.WellFormedKeys f ∧ Modfile.Edit.NoBlockSuffix f.syn :=
  parsedTest_sound exFile (fun f => Modfile.Edit.startOKb f && noBlockSuffixB f.syn)
    (fun f h => by
      simp only [Bool.and_eq_true] at h
      exact ⟨(Modfile.Edit.startOKb_sound f h.1).keys, noBlockSuffixB_sound h.2⟩)
    (by rw [B_lit exFile]; decide +kernel)

theorem ex_static : Modfile.Edit.StaticValid false (exOps.map opM) :=
  Modfile.Edit.staticValidB_sound _ _ (by decide +kernel)

theorem ex_fuel : ∀ f, Modfile.parseStrict (B "go.mod") exFile none = .ok f →
    FuelOK (driverFuel exFile exOps) (Modfile.Edit.load f) exOps ∧ FinalFuel (driverFuel exFile exOps) (Modfile.Edit.load f) exOps :=
  parsedTest_sound exFile (fun f => fuelOKB (driverFuel exFile exOps) (Modfile.Edit.load f) exOps &&
      finalFuelB (driverFuel exFile exOps) (Modfile.Edit.load f) exOps)
    (fun f h => by
      simp only [Bool.and_eq_true] at h
      exact ⟨fuelOKB_sound _ _ _ h.1, finalFuelB_sound h.2⟩)
    (by rw [B_lit exFile]; decide +kernel)

-- `session_tie_valid` / `session_tie` on the example: the two drivers print the same line
example : Drv.GenEdit.session exFile exOps = Drv.Edit.M.sessionMod exFile (exOps.map opM) :=
  session_tie_valid exFile exOps ex_keys ex_static ex_fuel

-- … and the regenerated session is kernel-evaluated and compared with the model session: per-operation results (the second
-- operation returns an error), the typed lists and the whole syntax tree after the final Cleanup
example : genSession (driverFuel exFile exOps) exFile exOps = modelSession exFile exOps ∧
    (genSession (driverFuel exFile exOps) exFile exOps).map (·.1) =
      some [true, false, true, true, true, true, true, true, true] := by rw [B_lit exFile]; decide +kernel

-- `runOps_tie_valid` on the example
example : ∃ f, Modfile.parseStrict (B "go.mod") exFile none = .ok f ∧
    ∃ e' res h', Modfile.Edit.runOps applyMod (Modfile.Edit.load f) (exOps.map opM) [] 0 = .done e' res ∧
      Drv.GenEdit.runOps (driverFuel exFile exOps) (Drv.GenEdit.load f).2 (Drv.GenEdit.load f).1 exOps [] = .done h' res ∧
      RepF h' (Drv.GenEdit.load f).2 e' ∧ Modfile.Edit.P.Inv e' := by
  cases hp : Modfile.parseStrict (B "go.mod") exFile none with
  | error err =>
    have : (Modfile.parseStrict (B "go.mod") exFile none).toOption.isSome = true := by rw [B_lit exFile]; decide +kernel
    rw [hp] at this; cases this
  | ok f =>
    refine ⟨f, rfl, runOps_tie_valid _ _ exOps _ _ (FnEditTree.load_parsed_rep hp)
      (Modfile.Edit.P.Inv.ofFull (Modfile.Edit.parseStrict_inv hp (ex_keys f hp).1 (ex_keys f hp).2))
      (Modfile.Edit.StaticValid.runValidLive _ false _ ex_static (fun hc => by cases hc))
      (isModOpB_sound (by decide +kernel)) (ex_fuel f hp).1⟩

-- a panicking session: `RunOK` holds (Boolean test), the model panics at operation 2, the regenerated run panics at
-- "dropgodebug", and the two drivers print the same `panic:` line (`session_tie`)
theorem exBad_ok : ∀ f, Modfile.parseStrict (B "go.mod") exFile none = .ok f →
    RunOK (driverFuel exFile exBad) (Modfile.Edit.load f) exBad ∧ FinalFuel (driverFuel exFile exBad) (Modfile.Edit.load f) exBad :=
  parsedTest_sound exFile (fun f => runOKB (driverFuel exFile exBad) (Modfile.Edit.load f) exBad &&
      finalFuelB (driverFuel exFile exBad) (Modfile.Edit.load f) exBad)
    (fun f h => by
      simp only [Bool.and_eq_true] at h
      exact ⟨runOKB_sound _ _ _ h.1, finalFuelB_sound h.2⟩)
    (by rw [B_lit exFile]; decide +kernel)

example : Drv.GenEdit.session exFile exBad = Drv.Edit.M.sessionMod exFile (exBad.map opM) :=
  session_tie exFile exBad exBad_ok

example : modelPanic exFile exBad = some 2 ∧ genPanic (driverFuel exFile exBad) exFile exBad = some "dropgodebug" := by
  rw [B_lit exFile]; decide +kernel

-- `applyOp_tie` / `applyOp_panic_iff` on the loaded example: one operation (a returned error: the heap is unchanged)
example : ∀ f, Modfile.parseStrict (B "go.mod") exFile none = .ok f →
    applyOp 4096 (Drv.GenEdit.load f).2 (Drv.GenEdit.load f).1 (.addGo (B "1.x")) = .ok (some false, (Drv.GenEdit.load f).1) := by
  intro f hp
  have ok : StepOK 4096 (Modfile.Edit.load f) (.addGo (B "1.x")) :=
    parsedTest_sound exFile (fun f => stepOKB 4096 (Modfile.Edit.load f) (.addGo (B "1.x"))) (fun f h => stepOKB_sound h)
      (by rw [B_lit exFile]; decide +kernel) f hp
  have T := applyOp_tie (FnEditTree.load_parsed_rep hp) (.addGo (B "1.x")) 4096 ok
  have hx : applyMod (Modfile.Edit.load f) (opM (.addGo (B "1.x"))) = some (.error .invalidGoVersion) := by
    simp only [opM, opR, applyMod, Modfile.Edit.addGoStmt]
    rw [if_pos (by decide +kernel)]
  rw [hx] at T
  rcases T with ⟨_, h1⟩ | ⟨hr, _⟩
  · exact h1
  · cases hr

end examples

end ModVerif.Tie.FnEditSession
