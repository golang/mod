/-
  C19 transported to the regenerated code: the property theorems of Props/C19.lean that are about `hash1` (hand model
  Model/Dirhash.lean) restated about `Generated.Dirhash.Hash1` (Generated/FnDirhash.lean, re-translated from
  sumdb/dirhash/hash.go on every run) through the tie theorems of Tie/FnDirhash.lean.

  `genHash1 sha fuel files open_` is the regenerated Hash1 with SHA-256 read as the abstract function `sha`
  (`h.Sum(prefix) = prefix ++ sha (bytes written)`) and `base64.StdEncoding.EncodeToString = Base64.encodeStd`.
  The `open` callback is ARBITRARY in every statement (`open_ : Bytes → Bytes × Option String`, content read to the end
  and error); a callback "reads the pairs of `l`" when `open_ p.1 = (p.2, none)` for every `p ∈ l`.  The only extra
  hypothesis is the fuel bound `files.length + 1 ≤ fuel`.  Every statement is about the RESULT `.ok (string, error)` of
  the generated function, so it also says: no index panic and no fuel exhaustion.  The hand model does not occur in the
  statements (only `Dirhash.sortStrings` in `gen_summary_injective`, which `Props.C19.sortStrings_unique` characterises
  as THE sorted permutation, and `Props.C19.docLine`, the documented line).

  `zip_dir_agree` is transported in Tie/FnDirhashDirC19.lean.
-/
import ModVerif.Tie.FnDirhash
import ModVerif.Props.C19
namespace ModVerif.Tie.FnDirhashC19
open ModVerif ModVerif.Dirhash ModVerif.TieFnDirhash ModVerif.Tie.FnDirhash

/-- the regenerated Hash1 over an abstract SHA-256 -/
abbrev genHash1 (sha : Bytes → Bytes) (fuel : Nat) (files : List Bytes) (open_ : Bytes → Bytes × Option String) :
    GoRt.M (Bytes × Option String) :=
  Generated.Dirhash.Hash1 Base64.encodeStd (fun acc pre => pre ++ sha acc) fuel files open_

/-- the text of the newline error -/
abbrev newlineError : String := "dirhash: filenames with newlines are not supported"

/-! ### the documented formula -/

/-- ★ The documented formula (C19 `hash1_formula`) for the regenerated Hash1.  For a file set `l` without newline
    names, ANY listing `s` of the same pairs in strictly increasing bytewise name order, and any callback that reads
    the pairs of `l`:  Hash1 = ("h1:" ++ base64 (sha256 (concatenation of the documented lines of `s`)), nil). -/
theorem gen_Hash1_formula (sha : Bytes → Bytes) (l s : List (Bytes × Bytes))
    (hperm : s.Perm l) (hsorted : s.Pairwise (fun a b => bytesLt a.1 b.1 = true))
    (hnl : ∀ p ∈ l, (10 : UInt8) ∉ p.1)
    (open_ : Bytes → Bytes × Option String) (hopen : ∀ p ∈ l, open_ p.1 = (p.2, none))
    (fuel : Nat) (hf : l.length + 1 ≤ fuel) :
    genHash1 sha fuel (l.map (·.1)) open_ =
      .ok ([104, 49, 58] ++ Base64.encodeStd (sha (s.flatMap (Props.C19.docLine sha))), none) := by
  have hsn : (s.map (·.1)).Pairwise (fun a b => bytesLt a b = true) := List.pairwise_map.2 hsorted
  have hnd : (l.map (·.1)).Nodup := ((hperm.map (·.1)).nodup_iff).1 (strictSorted_nodup bytesLt_strictTotal hsn)
  have hh : hash1 sha (l.map (·.1)) (openFOf open_) = hash1Pairs sha l :=
    hash1_congr sha _ _ _ (openFOf_eq_openPairs hnd hopen)
  unfold genHash1
  rw [Hash1_tie_anyOpen sha _ open_ fuel (by simpa using hf), hh,
    Props.C19.hash1_formula sha l s hperm hsorted hnl]

/-- Conversely (C19 `hash1_ok`) a newline-free file set with distinct names whose files all open is never refused. -/
theorem gen_Hash1_ok (sha : Bytes → Bytes) (l : List (Bytes × Bytes)) (hnd : (l.map (·.1)).Nodup)
    (hnl : ∀ p ∈ l, (10 : UInt8) ∉ p.1)
    (open_ : Bytes → Bytes × Option String) (hopen : ∀ p ∈ l, open_ p.1 = (p.2, none))
    (fuel : Nat) (hf : l.length + 1 ≤ fuel) :
    ∃ r, genHash1 sha fuel (l.map (·.1)) open_ = .ok (r, none) := by
  obtain ⟨r, hr⟩ := Props.C19.hash1_ok sha l hnd hnl
  have hh : hash1 sha (l.map (·.1)) (openFOf open_) = hash1Pairs sha l :=
    hash1_congr sha _ _ _ (openFOf_eq_openPairs hnd hopen)
  refine ⟨r, ?_⟩
  unfold genHash1
  rw [Hash1_tie_anyOpen sha _ open_ fuel (by simpa using hf), hh, hr]

/-! ### independence of the listing order -/

/-- ★ Independence of the listing order (C19 `hash1_perm`) for the regenerated Hash1: the returned pair — hash or
    error, including WHICH error — depends only on the multiset of listed names and on the callback (and not on the
    fuel, once sufficient). -/
theorem gen_Hash1_perm (sha : Bytes → Bytes) (open_ : Bytes → Bytes × Option String) {l₁ l₂ : List Bytes}
    (h : l₁.Perm l₂) (fuel₁ fuel₂ : Nat) (hf₁ : l₁.length + 1 ≤ fuel₁) (hf₂ : l₂.length + 1 ≤ fuel₂) :
    genHash1 sha fuel₁ l₁ open_ = genHash1 sha fuel₂ l₂ open_ := by
  unfold genHash1
  rw [Hash1_tie_anyOpen sha l₁ open_ fuel₁ hf₁, Hash1_tie_anyOpen sha l₂ open_ fuel₂ hf₂,
    Props.C19.hash1_perm sha (openFOf open_) h, sortStrings_eq_of_perm h]

/-- ★ Independence of the listing order for file sets (C19 `hash1Pairs_perm`): with distinct names, any two listings
    of the same pairs, read by any two callbacks that read these pairs, hash alike. -/
theorem gen_Hash1_pairs_perm (sha : Bytes → Bytes) {l₁ l₂ : List (Bytes × Bytes)} (h : l₁.Perm l₂)
    (hnd : (l₁.map (·.1)).Nodup)
    (open₁ open₂ : Bytes → Bytes × Option String)
    (hopen₁ : ∀ p ∈ l₁, open₁ p.1 = (p.2, none)) (hopen₂ : ∀ p ∈ l₂, open₂ p.1 = (p.2, none))
    (hnl : ∀ p ∈ l₁, (10 : UInt8) ∉ p.1)
    (fuel₁ fuel₂ : Nat) (hf₁ : l₁.length + 1 ≤ fuel₁) (hf₂ : l₂.length + 1 ≤ fuel₂) :
    genHash1 sha fuel₁ (l₁.map (·.1)) open₁ = genHash1 sha fuel₂ (l₂.map (·.1)) open₂ := by
  have hnd₂ : (l₂.map (·.1)).Nodup := ((h.map (·.1)).nodup_iff).1 hnd
  obtain ⟨r₁, hr₁⟩ := gen_Hash1_ok sha l₁ hnd hnl open₁ hopen₁ fuel₁ hf₁
  obtain ⟨r₂, hr₂⟩ := gen_Hash1_ok sha l₂ hnd₂ (fun p hp => hnl p (h.symm.subset hp)) open₂ hopen₂ fuel₂ hf₂
  have h₁ : hash1 sha (l₁.map (·.1)) (openFOf open₁) = hash1Pairs sha l₁ :=
    hash1_congr sha _ _ _ (openFOf_eq_openPairs hnd hopen₁)
  have h₂ : hash1 sha (l₂.map (·.1)) (openFOf open₂) = hash1Pairs sha l₂ :=
    hash1_congr sha _ _ _ (openFOf_eq_openPairs hnd₂ hopen₂)
  have e₁ := hr₁
  have e₂ := hr₂
  unfold genHash1 at e₁ e₂
  replace e₁ := (Hash1_ok_iff sha _ open₁ fuel₁ (by simpa using hf₁) _).1 e₁
  rw [h₁] at e₁
  replace e₂ := (Hash1_ok_iff sha _ open₂ fuel₂ (by simpa using hf₂) _).1 e₂
  rw [h₂] at e₂
  rw [Props.C19.hash1Pairs_perm sha h hnd, e₂] at e₁
  rw [hr₁, hr₂, Except.ok.inj e₁]

/-! ### newline names -/

/-- ★ Names containing a newline are refused (C19 `newline_rejected`): for a list with such a name the regenerated
    Hash1 returns the empty string and a non-nil error, whatever the callback does ... -/
theorem gen_newline_rejected (sha : Bytes → Bytes) (files : List Bytes) (open_ : Bytes → Bytes × Option String)
    (n : Bytes) (hm : n ∈ files) (hn : (10 : UInt8) ∈ n) (fuel : Nat) (hf : files.length + 1 ≤ fuel) :
    ∃ msg, genHash1 sha fuel files open_ = .ok ([], some msg) := by
  unfold genHash1
  rw [Hash1_tie_anyOpen sha files open_ fuel hf]
  cases hh : hash1 sha files (openFOf open_) with
  | ok r => exact absurd hh (Props.C19.newline_rejected sha files _ n hm hn r)
  | error er =>
    obtain ⟨msg, hmsg⟩ := Option.isSome_iff_exists.1 ((firstErr_isSome_iff sha files open_).1 ⟨er, hh⟩)
    exact ⟨msg, by simp [hmsg]⟩

/-- ... in particular it never returns a hash ... -/
theorem gen_newline_never_ok (sha : Bytes → Bytes) (files : List Bytes) (open_ : Bytes → Bytes × Option String)
    (n : Bytes) (hm : n ∈ files) (hn : (10 : UInt8) ∈ n) (fuel : Nat) (hf : files.length + 1 ≤ fuel) (r : Bytes) :
    genHash1 sha fuel files open_ ≠ .ok (r, none) := by
  obtain ⟨msg, h⟩ := gen_newline_rejected sha files open_ n hm hn fuel hf
  rw [h]; intro e; cases e

/-- ... and when every listed file can be read (C19 `newline_rejected_err`), the error is the newline error. -/
theorem gen_newline_rejected_err (sha : Bytes → Bytes) (files : List Bytes) (open_ : Bytes → Bytes × Option String)
    (n : Bytes) (hm : n ∈ files) (hn : (10 : UInt8) ∈ n) (ho : ∀ m ∈ files, (open_ m).2 = none)
    (fuel : Nat) (hf : files.length + 1 ≤ fuel) :
    genHash1 sha fuel files open_ = .ok ([], some newlineError) := by
  have hfe := firstErr_newline open_ (sortStrings files) n ((sortStrings_perm files).symm.subset hm)
    (hasNewline_of_mem hn) (fun m hm' => ho m ((sortStrings_perm files).subset hm'))
  unfold genHash1
  rw [Hash1_tie_anyOpen sha files open_ fuel hf]
  cases hh : hash1 sha files (openFOf open_) with
  | ok r => exact absurd hh (Props.C19.newline_rejected sha files _ n hm hn r)
  | error er => simp [hfe, newlineMsg]

/-! ### the hash determines the files -/

/-- ★ The summary determines the files (C19 `summary_injective`), read off the RETURNED hash: for a collision-free
    `sha`, if two calls of the regenerated Hash1 (any lists, any callbacks) return the same hash, then the sorted name
    lists are equal and every listed name was opened successfully on both sides with the same content.
    (Collision freedom is needed only because the summary is observed through `sha`; see `gen_summary_injective_loop`
    for the statement on the summary itself, without any assumption on `sha`.) -/
theorem gen_summary_injective (sha : Bytes → Bytes) (hsha : Function.Injective sha)
    {files₁ files₂ : List Bytes} {open₁ open₂ : Bytes → Bytes × Option String} {r : Bytes}
    (fuel₁ fuel₂ : Nat) (hf₁ : files₁.length + 1 ≤ fuel₁) (hf₂ : files₂.length + 1 ≤ fuel₂)
    (h₁ : genHash1 sha fuel₁ files₁ open₁ = .ok (r, none)) (h₂ : genHash1 sha fuel₂ files₂ open₂ = .ok (r, none)) :
    sortStrings files₁ = sortStrings files₂ ∧
    ∀ n ∈ files₁, ∃ c, open₁ n = (c, none) ∧ open₂ n = (c, none) := by
  unfold genHash1 at h₁ h₂
  replace h₁ := (Hash1_ok_iff sha _ open₁ fuel₁ hf₁ _).1 h₁
  replace h₂ := (Hash1_ok_iff sha _ open₂ fuel₂ hf₂ _).1 h₂
  obtain ⟨s, hs₁, hs₂⟩ := summary_of_hash1_eq sha hsha h₁ h₂
  obtain ⟨hnames, hfiles⟩ := Props.C19.summary_injective sha hs₁ hs₂
  refine ⟨hnames, ?_⟩
  intro n hn
  obtain ⟨c₁, c₂, e₁, e₂, e⟩ := hfiles n hn
  have : c₁ = c₂ := hsha e
  subst this
  exact ⟨c₁, openFOf_eq_some e₁, openFOf_eq_some e₂⟩

/-- ★ Different sets of (name, content) pairs hash differently (C19 `summary_injective_sets`): for file sets with
    distinct names, callbacks that read them and a collision-free `sha`, equal returned hashes imply the same set of
    pairs. -/
theorem gen_Hash1_injective_sets (sha : Bytes → Bytes) (hsha : Function.Injective sha)
    {l₁ l₂ : List (Bytes × Bytes)} (hnd₁ : (l₁.map (·.1)).Nodup) (hnd₂ : (l₂.map (·.1)).Nodup)
    (open₁ open₂ : Bytes → Bytes × Option String)
    (hopen₁ : ∀ p ∈ l₁, open₁ p.1 = (p.2, none)) (hopen₂ : ∀ p ∈ l₂, open₂ p.1 = (p.2, none))
    {r : Bytes} (fuel₁ fuel₂ : Nat) (hf₁ : l₁.length + 1 ≤ fuel₁) (hf₂ : l₂.length + 1 ≤ fuel₂)
    (h₁ : genHash1 sha fuel₁ (l₁.map (·.1)) open₁ = .ok (r, none))
    (h₂ : genHash1 sha fuel₂ (l₂.map (·.1)) open₂ = .ok (r, none)) : l₁.Perm l₂ := by
  unfold genHash1 at h₁ h₂
  replace h₁ := (Hash1_ok_iff sha _ open₁ fuel₁ (by simpa using hf₁) _).1 h₁
  replace h₂ := (Hash1_ok_iff sha _ open₂ fuel₂ (by simpa using hf₂) _).1 h₂
  obtain ⟨s, hs₁, hs₂⟩ := summary_of_hash1_eq sha hsha h₁ h₂
  rw [summary_congr sha _ _ _ (openFOf_eq_openPairs hnd₁ hopen₁)] at hs₁
  rw [summary_congr sha _ _ _ (openFOf_eq_openPairs hnd₂ hopen₂)] at hs₂
  exact Props.C19.summary_injective_sets sha hsha hnd₁ hnd₂ hs₁ hs₂

/-- ★ `summary_injective` on the summary itself (no assumption on `sha`): the bytes written to `h` are the final
    accumulator of the regenerated range loop `Hash1_loop1`, run as Hash1 runs it (over `sort.Strings(files)`, from
    index 0 with the empty accumulator).  If two such runs finish (no early return) with the same accumulator, then
    the sorted name lists are equal and every name opened on both sides with contents of equal digest. -/
theorem gen_summary_injective_loop (sha : Bytes → Bytes) (b64enc : Bytes → Bytes)
    {files₁ files₂ : List Bytes} {open₁ open₂ : Bytes → Bytes × Option String} {s : Bytes} {i₁ i₂ : Int}
    (fuel₁ fuel₂ : Nat) (hf₁ : files₁.length + 1 ≤ fuel₁) (hf₂ : files₂.length + 1 ≤ fuel₂)
    (h₁ : Generated.Dirhash.Hash1_loop1 b64enc (fun acc pre => pre ++ sha acc) (GoRt.sortStrings files₁) open₁
            fuel₁ 0 [] = .ok (.next (i₁, s)))
    (h₂ : Generated.Dirhash.Hash1_loop1 b64enc (fun acc pre => pre ++ sha acc) (GoRt.sortStrings files₂) open₂
            fuel₂ 0 [] = .ok (.next (i₂, s))) :
    sortStrings files₁ = sortStrings files₂ ∧
    ∀ n ∈ files₁, ∃ c₁ c₂, open₁ n = (c₁, none) ∧ open₂ n = (c₂, none) ∧ sha c₁ = sha c₂ := by
  have key : ∀ (files : List Bytes) (open_ : Bytes → Bytes × Option String) (fuel : Nat) (i : Int),
      files.length + 1 ≤ fuel →
      Generated.Dirhash.Hash1_loop1 b64enc (fun acc pre => pre ++ sha acc) (GoRt.sortStrings files) open_
        fuel 0 [] = .ok (.next (i, s)) → summary sha files (openFOf open_) = .ok s := by
    intro files open_ fuel i hf h
    have hlen : (sortStrings files).length < fuel := by
      rw [(sortStrings_perm files).length_eq]; omega
    have hloop := Hash1_loop1_any b64enc sha open_ (sortStrings files) [] [] fuel hlen
    simp only [List.nil_append, List.length_nil] at hloop
    rw [sortStrings_tie] at h
    have h0 : ((0 : Nat) : Int) = 0 := rfl
    rw [h0, h] at hloop
    unfold summary
    cases hs : summaryLoop sha (openFOf open_) (sortStrings files) with
    | error er => rw [hs] at hloop; simp [loopResAny] at hloop
    | ok s' =>
      rw [hs] at hloop
      simp only [loopResAny, List.nil_append] at hloop
      have := Except.ok.inj hloop
      injection this with this
      rw [(Prod.mk.inj this).2]
  obtain ⟨hnames, hfiles⟩ := Props.C19.summary_injective sha (key files₁ open₁ fuel₁ i₁ hf₁ h₁)
    (key files₂ open₂ fuel₂ i₂ hf₂ h₂)
  refine ⟨hnames, ?_⟩
  intro n hn
  obtain ⟨c₁, c₂, e₁, e₂, e⟩ := hfiles n hn
  exact ⟨c₁, c₂, openFOf_eq_some e₁, openFOf_eq_some e₂, e⟩

/-! ### non-vacuity (with `sha := id`) -/

/-- `gen_Hash1_formula`: a two-file set listed out of order, its sorted listing, a callback that reads it -/
example : ∃ (l s : List (Bytes × Bytes)) (open_ : Bytes → Bytes × Option String),
    s.Perm l ∧ s.Pairwise (fun a b => bytesLt a.1 b.1 = true) ∧ (∀ p ∈ l, (10 : UInt8) ∉ p.1) ∧
    (∀ p ∈ l, open_ p.1 = (p.2, none)) ∧
    genHash1 id 3 (l.map (·.1)) open_ =
      .ok ([104, 49, 58] ++ Base64.encodeStd (id (s.flatMap (Props.C19.docLine id))), none) :=
  ⟨[([98], [1]), ([97], [2, 3])], [([97], [2, 3]), ([98], [1])],
    fun n => if n = [97] then ([2, 3], none) else ([1], none),
    List.Perm.swap _ _ _, by decide, by decide, by decide, by decide⟩

/-- `gen_Hash1_perm`: the two listing orders of a list with a duplicate name and an unreadable file -/
example : genHash1 id 4 [[98], [97], [98]] (fun n => if n = [98] then ([], some "E") else ([1], none)) =
    genHash1 id 5 [[98], [98], [97]] (fun n => if n = [98] then ([], some "E") else ([1], none)) := by decide

/-- `gen_newline_rejected_err` on a concrete list (newline in the middle of a name) -/
example : genHash1 id 3 [[97], [97, 10, 98]] (fun _ => ([], none)) = .ok ([], some newlineError) := by decide

/-- `gen_newline_rejected`: with an unreadable file sorted first the error is the callback's -/
example : genHash1 id 3 [[97], [97, 10, 98]] (fun _ => ([], some "E")) = .ok ([], some "E") := by decide

/-- `gen_summary_injective` / `gen_Hash1_injective_sets`: the hypotheses are satisfiable — `id` is injective and a
    one-file set returns a hash -/
example : Function.Injective (id : Bytes → Bytes) ∧
    genHash1 id 2 [[97]] (fun _ => ([255], none)) =
      .ok ([104, 49, 58] ++ Base64.encodeStd [102, 102, 32, 32, 97, 10], none) :=
  ⟨fun _ _ h => h, by decide⟩

/-- `gen_summary_injective_loop`: a run of the loop that finishes, with the summary as accumulator -/
example : Generated.Dirhash.Hash1_loop1 Base64.encodeStd (fun acc pre => pre ++ id acc) (GoRt.sortStrings [[98], [97]])
    (fun _ => ([255], none)) 3 0 [] = .ok (.next (2, [102, 102, 32, 32, 97, 10, 102, 102, 32, 32, 98, 10])) := by
  rfl

end ModVerif.Tie.FnDirhashC19
