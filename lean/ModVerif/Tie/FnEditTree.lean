/-
  Tie: the LEAF and simple TREE functions of the regenerated go.mod / go.work edit operations (Generated/FnEdit.lean,
  namespace ModVerif.Generated.Edit, re-translated from modfile/read.go and modfile/rule.go on every check; the pointer
  graph is a heap) compute what the hand model Model/Modfile/Edit.lean says.

  Shape.  The functions that work on a `*Line` are stated on a heap whose line object at the pointer is `lineG l`, the
  embedding of a model line `l` (Proofs/TieFnEditRep.lean; in a represented heap EVERY allocated line object is one,
  `LinesG`): the result is an EQUATION giving the heap after the call, `setLineH h p (g l)`, with `g` the model's line
  function (`markRemovedLine`, `updateTokLine tokens`, `Edit.setVersionLine v`, `Edit.setIndirectLine b`).  The `_rep`
  corollaries say what that means for a represented syntax graph (`RepSyn`: the graph now represents
  `Edit.markRemoved fs p` / `Edit.updateLine fs p tokens` / `fs.updateLine p g`), the `_sim` corollaries are the simulation
  step on a represented FILE (`RepFAt`), the `_nil` / `_panic` theorems give Go's panics (nil `*Line`, `tokens[1:]` of an
  empty token list, a cleared `Require` whose `Syntax` is nil = the model's `EditErr.nilDeref` at the caller).
  No fuel: these functions have no loops.  The pure functions regenerated once more in this unit (`MustQuote`,
  `AutoQuote`, `checkCanonicalVersion`) are the definitions of Generated/FnModfile.lean, and the block comparators read
  the two line objects from the heap and then are the value versions of Generated/FnModfile.lean: their ties
  (Tie/FnModfile.lean, Tie/FnModfileCmp.lean) are transported, same fuel bounds.

  Helper lemmas: Proofs/TieFnEditRep.lean, Proofs/TieFnEditTreeA.lean, TieFnEditTreeB.lean, TieFnEditTreeC.lean; examples:
  Proofs/TieFnEditTreeEx.lean.
-/
import ModVerif.Generated.FnEdit
import ModVerif.Model.Modfile.Edit
import ModVerif.Proofs.TieFnEditRep
import ModVerif.Proofs.TieFnEditTreeA
import ModVerif.Proofs.TieFnEditTreeB
import ModVerif.Proofs.TieFnEditTreeC
import ModVerif.Proofs.TieFnEditTreeEx
import ModVerif.Proofs.TieFnEditLoadParse
import ModVerif.Proofs.BytesLit
import ModVerif.Tie.FnModfileCmp
namespace ModVerif.Tie.FnEditTree
open ModVerif ModVerif.GoRt ModVerif.Generated.Edit ModVerif.Tie.FnEditRep ModVerif.Tie.FnEditTreeA ModVerif.Tie.FnEditTreeEx
open ModVerif.Drv.GenEdit (isPrintI quoteI)

/-! ### commentsAdd, stringsAdd (read.go:251, 255): `append(x[:len(x):len(x)], y...)` -/

theorem commentsAdd_tie (x y : List Comment) : commentsAdd x y = .ok (x ++ y) := commentsAdd_eq x y

example : commentsAdd [{ (default : Comment) with Token := B "// a" }] [{ (default : Comment) with Token := B "// b" }] =
    .ok [{ (default : Comment) with Token := B "// a" }, { (default : Comment) with Token := B "// b" }] := by decide +kernel

theorem stringsAdd_tie (x y : List Bytes) : stringsAdd x y = .ok (x ++ y) := stringsAdd_eq x y

example : stringsAdd [B "require"] [B "a.b/c", B "v1.0.0"] = .ok [B "require", B "a.b/c", B "v1.0.0"] := by decide +kernel

/-! ### Line.markRemoved (read.go:199) = the model's `markRemoved` -/

/-- the heap after `line.markRemoved()`: `Token = nil`, `Comments.Suffix = nil` -/
theorem Line_markRemoved_tie {h : Heap} {p : Int} {l : Modfile.Line} (hg : heapGet h.lines p = .ok (lineG l)) :
    Line_markRemoved p h = .ok ((), setLineH h p (markRemovedLine l)) := Line_markRemoved_eq hg

/-- a nil `*Line` -/
theorem Line_markRemoved_panic {h : Heap} {p : Int} (hp : p ≤ 0) : Line_markRemoved p h = .error .panic :=
  Line_markRemoved_nil hp

/-- on a represented syntax graph (the line may or may not be in the graph) -/
theorem Line_markRemoved_rep {h : Heap} {x p : Int} {fs : Modfile.FileSyntax} {l : Modfile.Line} (r : RepSyn h x fs)
    (hg : heapGet h.lines p = .ok (lineG l)) :
    RepSyn (setLineH h p (markRemovedLine l)) x (Modfile.Edit.markRemoved fs p.toNat) := by
  rw [markRemoved_eq]; exact r.setLineH IdEquiv_markRemoved hg

/-- simulation step on a represented file: any allocated line pointer -/
theorem Line_markRemoved_sim {h : Heap} {o : File} {e : Modfile.Edit.EFile} (R : RepFAt h o e) {p : Int} (hp : 0 < p)
    (hl : p.toNat ≤ h.lines.length) :
    ∃ h', Line_markRemoved p h = .ok ((), h') ∧ h'.mods = h.mods ∧
      RepFAt h' o { e with f := { e.f with syn := Modfile.Edit.markRemoved e.f.syn p.toNat } } := by
  obtain ⟨l, hg⟩ := R.linesG.get hp hl
  exact ⟨_, Line_markRemoved_eq hg, rfl, R.setLine IdEquiv_markRemoved hg⟩

-- the second line of the require block (pointer 3) is removed
example : runSyn exFile (fun _ h => Line_markRemoved 3 h) =
    modelSyn exFile (fun e => (Modfile.Edit.markRemoved e.f.syn 3, e.f.require)) := by rw [B_lit exFile]; decide +kernel
example : runVal exFile (fun _ h => (Line_markRemoved 0 h).map fun _ => ()) = none := by rw [B_lit exFile]; decide +kernel

/-! ### FileSyntax.updateLine (read.go:190) = the model's `updateLine` -/

/-- `line.Token = tokens` (`tokens[1:]` for a line in a block) -/
theorem FileSyntax_updateLine_tie {h : Heap} {x p : Int} {l : Modfile.Line} {tokens : List Bytes}
    (hg : heapGet h.lines p = .ok (lineG l)) (ht : l.inBlock = true → tokens ≠ []) :
    FileSyntax_updateLine x p tokens h = .ok ((), setLineH h p (updateTokLine tokens l)) := FileSyntax_updateLine_eq hg ht

/-- Go's `tokens[1:]` on an empty list (the model's `drop 1` is total; no caller passes `[]`), and a nil `*Line` -/
theorem FileSyntax_updateLine_panic {h : Heap} {x p : Int} :
    (∀ l : Modfile.Line, heapGet h.lines p = .ok (lineG l) → l.inBlock = true → FileSyntax_updateLine x p [] h = .error .panic) ∧
    (∀ tokens, p ≤ 0 → FileSyntax_updateLine x p tokens h = .error .panic) :=
  ⟨fun _ hg hb => FnEditTreeA.FileSyntax_updateLine_panic hg hb, fun tokens hp => FileSyntax_updateLine_nil tokens hp⟩

theorem FileSyntax_updateLine_rep {h : Heap} {x p : Int} {fs : Modfile.FileSyntax} {l : Modfile.Line} (r : RepSyn h x fs)
    (tokens : List Bytes) (hg : heapGet h.lines p = .ok (lineG l)) :
    RepSyn (setLineH h p (updateTokLine tokens l)) x (Modfile.Edit.updateLine fs p.toNat tokens) := by
  rw [updateLine_eq]; exact r.setLineH (IdEquiv_updateTok tokens) hg

theorem FileSyntax_updateLine_sim {h : Heap} {o : File} {e : Modfile.Edit.EFile} (R : RepFAt h o e) {x p : Int} (hp : 0 < p)
    (hl : p.toNat ≤ h.lines.length) {tokens : List Bytes} (ht : tokens ≠ []) :
    ∃ h', FileSyntax_updateLine x p tokens h = .ok ((), h') ∧ h'.mods = h.mods ∧
      RepFAt h' o { e with f := { e.f with syn := Modfile.Edit.updateLine e.f.syn p.toNat tokens } } := by
  obtain ⟨l, hg⟩ := R.linesG.get hp hl
  exact ⟨_, FileSyntax_updateLine_eq hg (fun _ => ht), rfl, R.setLine (IdEquiv_updateTok tokens) hg⟩

-- the module line (top level) and the first require line (in a block: the verb is dropped)
example : runSyn exFile (fun _ h => FileSyntax_updateLine 1 1 [B "module", B "n"] h) =
    modelSyn exFile (fun e => (Modfile.Edit.updateLine e.f.syn 1 [B "module", B "n"], e.f.require)) := by rw [B_lit exFile]; decide +kernel
example : runSyn exFile (fun _ h => FileSyntax_updateLine 1 2 [B "require", B "a.b/c", B "v1.1.0"] h) =
    modelSyn exFile (fun e => (Modfile.Edit.updateLine e.f.syn 2 [B "require", B "a.b/c", B "v1.1.0"], e.f.require)) := by
  rw [B_lit exFile]; decide +kernel
example : runVal exFile (fun _ h => (FileSyntax_updateLine 1 2 [] h).map fun _ => ()) = none := by rw [B_lit exFile]; decide +kernel

/-! ### isIndirect (rule.go:190) = the model's `isIndirect` -/

theorem isIndirect_tie {h : Heap} {p : Int} {l : Modfile.Line} (hg : heapGet h.lines p = .ok (lineG l)) :
    isIndirect p h = .ok (Modfile.isIndirect l, h) := isIndirect_eq hg

theorem isIndirect_panic {h : Heap} {p : Int} (hp : p ≤ 0) : isIndirect p h = .error .panic := isIndirect_nil hp

/-- on a represented syntax graph: the line with the id `id` -/
theorem isIndirect_rep {h : Heap} {x : Int} {fs : Modfile.FileSyntax} (r : RepSyn h x fs) {id : Nat} {l : Modfile.Line}
    (hf : fs.findLine id = some l) : isIndirect (id : Int) h = .ok (Modfile.isIndirect l, h) :=
  isIndirect_eq (r.findLine hf).1

example : runVal exFile (fun _ h => (isIndirect 3 h).map (·.1)) = modelVal exFile (fun e => (e.f.syn.findLine 3).map Modfile.isIndirect) ∧
    runVal exFile (fun _ h => (isIndirect 3 h).map (·.1)) = some true ∧
    runVal exFile (fun _ h => (isIndirect 2 h).map (·.1)) = modelVal exFile (fun e => (e.f.syn.findLine 2).map Modfile.isIndirect) ∧
    runVal exFile (fun _ h => (isIndirect 2 h).map (·.1)) = some false := by rw [B_lit exFile]; decide +kernel

/-! ### Require.markRemoved (rule.go:118): `r.Syntax.markRemoved(); *r = Require{}` -/

theorem Require_markRemoved_tie {h : Heap} {r : Int} {rq : Modfile.Require} {l : Modfile.Line}
    (hr : heapGet h.requires r = .ok (requireG rq)) (hg : heapGet h.lines (rq.lineId : Int) = .ok (lineG l)) :
    Require_markRemoved r h =
      .ok ((), { setLineH h (rq.lineId : Int) (markRemovedLine l) with
                   requires := h.requires.set (r.toNat - 1) (requireG Modfile.Edit.clearedRequire) }) :=
  Require_markRemoved_eq hr hg

/-- a cleared entry (`Syntax == nil`, the model's `nilId`): Go's nil dereference, the model's `EditErr.nilDeref` -/
theorem Require_markRemoved_panic {h : Heap} {r : Int} {rq : Modfile.Require}
    (hr : heapGet h.requires r = .ok (requireG rq)) (h0 : rq.lineId = Modfile.Edit.nilId) :
    Require_markRemoved r h = .error .panic := Require_markRemoved_nil hr h0

/-- simulation step on a represented file: the `i`-th requirement -/
theorem Require_markRemoved_sim {h : Heap} {o : File} {e : Modfile.Edit.EFile} (R : RepFAt h o e) {i : Nat} {r : Int}
    {rq : Modfile.Require} (hi : o.Require[i]? = some r) (hx : e.f.require[i]? = some rq) (h0 : rq.lineId ≠ Modfile.Edit.nilId) :
    ∃ h', Require_markRemoved r h = .ok ((), h') ∧ h'.mods = h.mods ∧
      RepFAt h' o { e with f := { e.f with require := e.f.require.set i Modfile.Edit.clearedRequire,
                                            syn := Modfile.Edit.markRemoved e.f.syn rq.lineId } } := by
  obtain ⟨hr, hle⟩ := R.require.rel.get i r rq hi hx
  obtain ⟨l, hg, _⟩ := R.linesG.ofId h0 hle
  refine ⟨_, Require_markRemoved_eq hr hg, rfl, ?_⟩
  have R1 := R.setLine IdEquiv_markRemoved hg
  have R2 := R1.setRequire hi Modfile.Edit.clearedRequire (Nat.zero_le _)
  exact R2

example : runSyn exFile (fun _ h => Require_markRemoved 2 h) =
    modelSyn exFile (fun e => (Modfile.Edit.markRemoved e.f.syn 3, e.f.require.set 1 Modfile.Edit.clearedRequire)) := by
  rw [B_lit exFile]; decide +kernel
-- a second call on the cleared entry dereferences nil
example : runVal exFile (fun _ h => (do let (_, h) ← Require_markRemoved 2 h; Require_markRemoved 2 h).map fun _ => ()) = none := by
  rw [B_lit exFile]; decide +kernel

/-! ### Require.setVersion (rule.go:123) = `setVersionLine` on the line -/

theorem Require_setVersion_tie {h : Heap} {r : Int} {rq : Modfile.Require} {l : Modfile.Line} (v : Bytes)
    (hr : heapGet h.requires r = .ok (requireG rq)) (hg : heapGet h.lines (rq.lineId : Int) = .ok (lineG l)) :
    Require_setVersion r v h =
      .ok ((), { setLineH h (rq.lineId : Int) (Modfile.Edit.setVersionLine v l) with
                   requires := h.requires.set (r.toNat - 1) (requireG { rq with mod := { rq.mod with version := v } }) }) :=
  Require_setVersion_eq v hr hg

theorem Require_setVersion_panic {h : Heap} {r : Int} {rq : Modfile.Require} (v : Bytes)
    (hr : heapGet h.requires r = .ok (requireG rq)) (h0 : rq.lineId = Modfile.Edit.nilId) :
    Require_setVersion r v h = .error .panic := Require_setVersion_nil v hr h0

theorem Require_setVersion_sim {h : Heap} {o : File} {e : Modfile.Edit.EFile} (R : RepFAt h o e) {i : Nat} {r : Int}
    {rq : Modfile.Require} (v : Bytes) (hi : o.Require[i]? = some r) (hx : e.f.require[i]? = some rq)
    (h0 : rq.lineId ≠ Modfile.Edit.nilId) :
    ∃ h', Require_setVersion r v h = .ok ((), h') ∧ h'.mods = h.mods ∧
      RepFAt h' o { e with f := { e.f with require := e.f.require.set i { rq with mod := { rq.mod with version := v } },
                                            syn := e.f.syn.updateLine rq.lineId (Modfile.Edit.setVersionLine v) } } := by
  obtain ⟨hr, hle⟩ := R.require.rel.get i r rq hi hx
  obtain ⟨l, hg, _⟩ := R.linesG.ofId h0 hle
  refine ⟨_, Require_setVersion_eq v hr hg, rfl, ?_⟩
  have R1 := R.setLine (IdEquiv_setVersionLine v) hg
  have R2 := R1.setRequire hi { rq with mod := { rq.mod with version := v } } (by simpa using hle)
  simpa using R2

example : runSyn exFile (fun _ h => Require_setVersion 1 (B "v1.5.0") h) =
    modelSyn exFile (fun e => (e.f.syn.updateLine 2 (Modfile.Edit.setVersionLine (B "v1.5.0")),
      e.f.require.map fun r => if r.lineId = 2 then { r with mod := { r.mod with version := B "v1.5.0" } } else r)) := by
  rw [B_lit exFile]; decide +kernel

/-! ### Require.setIndirect (rule.go:145) = `setIndirectLine` on the line -/

/-- all inputs, both directions.  The branch that removes the marker from a comment `// indirect; …` slices
    `tok[strings.Index(tok, "indirect;")+9:]`; that the index exists whenever `isIndirect` holds and the comment is not
    exactly `// indirect` is `FnEditTreeC.indirect_index` (two facts about `strings.Fields`, Proofs/TieFnEditTreeC.lean) -/
theorem Require_setIndirect_tie {h : Heap} {r : Int} {rq : Modfile.Require} {l : Modfile.Line} (ind : Bool)
    (hr : heapGet h.requires r = .ok (requireG rq)) (hg : heapGet h.lines (rq.lineId : Int) = .ok (lineG l)) :
    Require_setIndirect r ind h =
      .ok ((), { setLineH h (rq.lineId : Int) (Modfile.Edit.setIndirectLine ind l) with
                   requires := h.requires.set (r.toNat - 1) (requireG { rq with indirect := ind }) }) :=
  FnEditTreeC.Require_setIndirect_full ind hr hg

theorem Require_setIndirect_panic {h : Heap} {r : Int} {rq : Modfile.Require} (ind : Bool)
    (hr : heapGet h.requires r = .ok (requireG rq)) (h0 : rq.lineId = Modfile.Edit.nilId) :
    Require_setIndirect r ind h = .error .panic := Require_setIndirect_nil ind hr h0

/-- simulation step on a represented file: the `i`-th requirement -/
theorem Require_setIndirect_sim {h : Heap} {o : File} {e : Modfile.Edit.EFile} (R : RepFAt h o e) {i : Nat} {r : Int}
    {rq : Modfile.Require} (ind : Bool) (hi : o.Require[i]? = some r) (hx : e.f.require[i]? = some rq)
    (h0 : rq.lineId ≠ Modfile.Edit.nilId) :
    ∃ h', Require_setIndirect r ind h = .ok ((), h') ∧ h'.mods = h.mods ∧
      RepFAt h' o { e with f := { e.f with require := e.f.require.set i { rq with indirect := ind },
                                            syn := e.f.syn.updateLine rq.lineId (Modfile.Edit.setIndirectLine ind) } } := by
  obtain ⟨hr, hle⟩ := R.require.rel.get i r rq hi hx
  obtain ⟨l, hg, _⟩ := R.linesG.ofId h0 hle
  refine ⟨_, FnEditTreeC.Require_setIndirect_full ind hr hg, rfl, ?_⟩
  have R1 := R.setLine (IdEquiv_setIndirectLine ind) hg
  have R2 := R1.setRequire hi { rq with indirect := ind } (by simpa using hle)
  simpa using R2

-- mark the first requirement, unmark the second; remove the marker from `// indirect; why`
example :
    let rq : Require := { Mod := default, Indirect := true, Syntax := 1 }
    let c : Comment := { Start := default, Token := B "// indirect; why", Suffix := true }
    let ln : Line := { Comments := { Before := [], Suffix := [c], After := [] }, Start := default,
                       Token := [B "a.b/c", B "v1.0.0"], InBlock := true, End := default }
    let h0 : Heap := { (default : Heap) with requires := [rq], lines := [ln] }
    (do let (_, h) ← Require_setIndirect 1 false h0
        pure (h.lines.map fun l => l.Comments.Suffix.map (·.Token))) = (.ok [[B "// why"]] : M (List (List Bytes))) := by
  decide +kernel
example : runSyn exFile (fun _ h => Require_setIndirect 1 true h) =
    modelSyn exFile (fun e => (e.f.syn.updateLine 2 (Modfile.Edit.setIndirectLine true),
      e.f.require.map fun r => if r.lineId = 2 then { r with indirect := true } else r)) := by rw [B_lit exFile]; decide +kernel
example : runSyn exFile (fun _ h => Require_setIndirect 2 false h) =
    modelSyn exFile (fun e => (e.f.syn.updateLine 3 (Modfile.Edit.setIndirectLine false),
      e.f.require.map fun r => if r.lineId = 3 then { r with indirect := false } else r)) := by rw [B_lit exFile]; decide +kernel

/-! ### MustQuote, AutoQuote, checkCanonicalVersion: the ties of Tie/FnModfile*.lean transported -/

theorem MustQuote_tie (s : Bytes) (fuel : Nat) (hf : s.length + 1 ≤ fuel) :
    MustQuote isPrintI fuel s = .ok (Modfile.mustQuote s) := by
  rw [FnEditTreeB.MustQuote_eq]; exact Tie.FnModfile.MustQuote_tie s fuel hf

example : MustQuote isPrintI 4 [97, 32, 98] = .ok true ∧ Modfile.mustQuote [97, 32, 98] = true ∧
    MustQuote isPrintI 3 [97, 98] = .ok false ∧ MustQuote isPrintI 1 [97] = .error .fuel := by decide +kernel

theorem AutoQuote_tie (s : Bytes) (fuel : Nat) (hf : s.length + 1 ≤ fuel) :
    AutoQuote isPrintI quoteI fuel s = .ok (Modfile.autoQuote s) := by
  rw [FnEditTreeB.AutoQuote_eq]; exact Tie.FnModfile.AutoQuote_tie s fuel hf

example : AutoQuote isPrintI quoteI 4 [97, 32, 98] = .ok [34, 97, 32, 98, 34] ∧ Modfile.autoQuote [97, 32, 98] = [34, 97, 32, 98, 34] := by
  decide +kernel

/-- the `error` value in every case (`TieFnModfileCmp.canonErrOf`, spelled out by `Tie.FnModfileCmp.canonErrOf_eq`) -/
theorem checkCanonicalVersion_tie (fuel : Nat) (path vers : Bytes) (hf1 : path.length + 1 ≤ fuel) (hf2 : 2 * vers.length ≤ fuel) :
    checkCanonicalVersion fuel path vers = .ok (TieFnModfileCmp.canonErrOf path vers) := by
  rw [FnEditTreeB.checkCanonicalVersion_eq]; exact Tie.FnModfileCmp.checkCanonicalVersion_tie fuel path vers hf1 hf2

/-- `nil` ↔ the model's Boolean -/
theorem checkCanonicalVersion_nil_iff (fuel : Nat) (path vers : Bytes) (hf1 : path.length + 1 ≤ fuel) (hf2 : 2 * vers.length ≤ fuel) :
    ∃ err, checkCanonicalVersion fuel path vers = .ok err ∧ (err = none ↔ Modfile.Edit.checkCanonicalVersion path vers = true) := by
  rw [FnEditTreeB.checkCanonicalVersion_eq]; exact Tie.FnModfileCmp.checkCanonicalVersion_nil_iff fuel path vers hf1 hf2

example : checkCanonicalVersion 40 (B "a.b/v2") (B "v2.1.0") = .ok none ∧
    Modfile.Edit.checkCanonicalVersion (B "a.b/v2") (B "v2.1.0") = true ∧
    (checkCanonicalVersion 40 (B "a.b/v2") (B "v1.1.0")).toOption.map (·.isNone) = some false ∧
    Modfile.Edit.checkCanonicalVersion (B "a.b/v2") (B "v1.1.0") = false := by decide +kernel

/-! ### the block comparators: two line pointers, the heap is only read -/

/-- lineLess (rule.go:1763) -/
theorem lineLess_tie {h : Heap} {li lj : Int} {a b : Line} (fuel : Nat)
    (ha : heapGet h.lines li = .ok a) (hb : heapGet h.lines lj = .ok b)
    (hf : min a.Token.length b.Token.length + 1 ≤ fuel) :
    lineLess fuel li lj h = .ok (Modfile.Edit.lineLess a.Token b.Token, h) := by
  rw [FnEditTreeB.lineLess_eq ha hb, Tie.FnModfileCmp.lineLess_tie fuel _ _ (by simpa using hf)]; rfl

/-- lineExcludeLess (rule.go:1774) -/
theorem lineExcludeLess_tie {h : Heap} {li lj : Int} {a b : Line} (fuel : Nat)
    (ha : heapGet h.lines li = .ok a) (hb : heapGet h.lines lj = .ok b)
    (hf1 : min a.Token.length b.Token.length + 1 ≤ fuel)
    (hf2 : 2 * max (a.Token.getD 1 []).length (b.Token.getD 1 []).length ≤ fuel) :
    lineExcludeLess fuel li lj h = .ok (Modfile.Edit.lineExcludeLess a.Token b.Token, h) := by
  rw [FnEditTreeB.lineExcludeLess_eq ha hb,
    Tie.FnModfileCmp.lineExcludeLess_tie fuel _ _ (by simpa using hf1) (by simpa using hf2)]; rfl

/-- lineRetractLess (rule.go:1793) -/
theorem lineRetractLess_tie {h : Heap} {li lj : Int} {a b : Line} (fuel : Nat)
    (ha : heapGet h.lines li = .ok a) (hb : heapGet h.lines lj = .ok b)
    (hf1 : 2 * max (Modfile.Edit.retractInterval a.Token).low.length (Modfile.Edit.retractInterval b.Token).low.length ≤ fuel)
    (hf2 : 2 * max (Modfile.Edit.retractInterval a.Token).high.length (Modfile.Edit.retractInterval b.Token).high.length ≤ fuel) :
    lineRetractLess fuel li lj h = .ok (Modfile.Edit.lineRetractLess a.Token b.Token, h) := by
  rw [FnEditTreeB.lineRetractLess_eq ha hb,
    Tie.FnModfileCmp.lineRetractLess_tie fuel _ _ (by simpa using hf1) (by simpa using hf2)]; rfl

/-- all three with the fuel of the driver (`4 * total bytes of the two lines + 64`); `lineLess` and `lineExcludeLess` need
    the tokens of one of the two lines to be non-empty strings (as the lexer and the edit operations guarantee) -/
theorem comparators_tie_driver {h : Heap} {li lj : Int} {a b : Line} (fuel : Nat)
    (ha : heapGet h.lines li = .ok a) (hb : heapGet h.lines lj = .ok b)
    (hf : 4 * ((a.Token ++ b.Token).map List.length).sum + 64 ≤ fuel) :
    ((∀ t ∈ a.Token, t ≠ []) ∨ (∀ t ∈ b.Token, t ≠ []) →
      lineLess fuel li lj h = .ok (Modfile.Edit.lineLess a.Token b.Token, h) ∧
      lineExcludeLess fuel li lj h = .ok (Modfile.Edit.lineExcludeLess a.Token b.Token, h)) ∧
    lineRetractLess fuel li lj h = .ok (Modfile.Edit.lineRetractLess a.Token b.Token, h) := by
  refine ⟨fun hne => ⟨?_, ?_⟩, ?_⟩
  · rw [FnEditTreeB.lineLess_eq ha hb, Tie.FnModfileCmp.lineLess_tie_driver fuel _ _ (by simpa using hne) (by simpa using hf)]; rfl
  · rw [FnEditTreeB.lineExcludeLess_eq ha hb,
      Tie.FnModfileCmp.lineExcludeLess_tie_driver fuel _ _ (by simpa using hne) (by simpa using hf)]; rfl
  · rw [FnEditTreeB.lineRetractLess_eq ha hb, Tie.FnModfileCmp.lineRetractLess_tie_driver fuel _ _ (by simpa using hf)]; rfl

-- the two lines of the require block (pointers 2, 3): "a.b/c v1.0.0" < "d.e/f v1.2.3"
example : runVal exFile (fun _ h => (lineLess 8 2 3 h).map (·.1)) = some true ∧
    runVal exFile (fun _ h => (lineLess 8 3 2 h).map (·.1)) = some false ∧
    runVal exFile (fun _ h => (lineExcludeLess 40 2 3 h).map (·.1)) = some true ∧
    runVal exFile (fun _ h => (lineRetractLess 40 2 3 h).map (·.1)) = some false ∧
    Modfile.Edit.lineLess [B "a.b/c", B "v1.0.0"] [B "d.e/f", B "v1.2.3"] = true ∧
    Modfile.Edit.lineExcludeLess [B "a.b/c", B "v1.0.0"] [B "d.e/f", B "v1.2.3"] = true ∧
    Modfile.Edit.lineRetractLess [B "a.b/c", B "v1.0.0"] [B "d.e/f", B "v1.2.3"] = false := by rw [B_lit exFile]; decide +kernel

/-! ### the session start: the loaded heap of ANY parsed file is represented -/

/-- the heap the driver loads (`Drv.GenEdit.load`) from any strictly parsed go.mod (no version fixer, as `gedit.session`
    parses) represents the model's start state `Edit.load f`: line pointer = renumbered line id, typed objects point to
    their lines, `next = #lines + 1` -/
theorem load_parsed_rep {name data : Bytes} {f : Modfile.File} (h : Modfile.parseStrict name data none = .ok f) :
    RepF (Drv.GenEdit.load f).1 (Drv.GenEdit.load f).2 (Modfile.Edit.load f) :=
  FnEditLoadParse.parseStrict_load_rep h

/-- go.work (`gedit.worksession`) -/
theorem loadWork_parsed_rep {name data : Bytes} {f : Modfile.WorkFile} (h : Modfile.parseWork name data none = .ok f) :
    RepW (Drv.GenEdit.loadWork f).1 (Drv.GenEdit.loadWork f).2 (Modfile.Edit.loadWork f) :=
  FnEditLoadParse.parseWork_load_rep h

example : (Modfile.parseStrict (B "go.mod") exFile none).toOption.isSome = true ∧
    (Modfile.parseWork (B "go.work") (B "go 1.21\n\nuse (\n\t./a\n\t./b\n)\n") none).toOption.isSome = true := by rw [B_lit exFile]; decide +kernel

/-! ### the hypotheses of the `_sim` theorems are satisfiable: the loaded example file is represented (`load_rep`) -/

example : ∃ f, Modfile.parseStrict (B "go.mod") exFile none = .ok f ∧
    RepF (Drv.GenEdit.load f).1 (Drv.GenEdit.load f).2 (Modfile.Edit.load f) := by
  have h : (match Modfile.parseStrict (B "go.mod") exFile none with | .ok f => loadOKB f | .error _ => false) = true := by
    rw [B_lit exFile]; decide +kernel
  cases hp : Modfile.parseStrict (B "go.mod") exFile none with
  | error e => rw [hp] at h; cases h
  | ok f => rw [hp] at h; exact ⟨f, rfl, load_rep f (loadOKB_sound h)⟩

example : ∃ f, Modfile.parseWork (B "go.work") (B "go 1.21\n\nuse (\n\t./a\n\t./b\n)\n\nreplace x.y/z => ../z\n") none = .ok f ∧
    RepW (Drv.GenEdit.loadWork f).1 (Drv.GenEdit.loadWork f).2 (Modfile.Edit.loadWork f) := by
  have h : (match Modfile.parseWork (B "go.work") (B "go 1.21\n\nuse (\n\t./a\n\t./b\n)\n\nreplace x.y/z => ../z\n") none with
      | .ok f => loadWorkOKB f | .error _ => false) = true := by decide_bytes
  cases hp : Modfile.parseWork (B "go.work") (B "go 1.21\n\nuse (\n\t./a\n\t./b\n)\n\nreplace x.y/z => ../z\n") none with
  | error e => rw [hp] at h; cases h
  | ok f => rw [hp] at h; exact ⟨f, rfl, loadWork_rep f (loadWorkOKB_sound h)⟩

end ModVerif.Tie.FnEditTree
