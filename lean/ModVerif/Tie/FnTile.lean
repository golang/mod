/-
  Tie theorems, sumdb/tlog/tile.go: the definitions regenerated from the Go source by go2lean
  (`Generated/FnTile.lean`, CHECKED mode: every int64 result goes through `chk64`) compute exactly what the hand model
  (`Model/Tile.lean`) says — in particular no panic, no fuel exhaustion and no int64 overflow on the stated range.

  Representation (Proofs/TieFnTile.lean): the generated `Tile` has `Int` fields `H L N W` with `L = -1` for data tiles,
  the model `Tile` has `Nat` fields and a `data` flag; `toGen : Tile.Tile → Generated.Tile.Tile` and
  `ofGen` the other way (`toGen (ofGen t) = t` for non-negative fields and `L ≥ -1`, `ofGen (toGen t) = t` for
  `data → l = 0`).  Helper lemmas: `Proofs/TieFnTile*.lean`, `Proofs/GoRtLemmasTile.lean`.
-/
import ModVerif.Generated.FnTile
import ModVerif.Model.Tile
import ModVerif.Proofs.TieFnTile
import ModVerif.Proofs.TieFnTilePath
import ModVerif.Proofs.TieFnTileParse
import ModVerif.Proofs.TieFnTileNew
import ModVerif.Proofs.TieFnTileHash
import ModVerif.Proofs.TieFnTileRead
import ModVerif.Proofs.TlogTH
import ModVerif.Proofs.TieFnTileSecure
namespace ModVerif.Tie.FnTile
open ModVerif ModVerif.GoRt ModVerif.TieFnTile ModVerif.TieFnTlogInt

/-- `tileParent(t, k, n)` for a tile with non-negative fields (not a data tile), `k ≥ 0`, `0 ≤ n ≤ MaxInt64`.  The range
    hypotheses `h1 … h4` say exactly that the int64 intermediates `t.L + k`, `k * t.H`, `(t.L + k) * t.H` and
    `(t.N >> (k*t.H)) << t.H + 1 << t.H` do not overflow (in particular `t.H ≤ 62`).  `Tile{}` is `toGen Tile.zero`. -/
theorem tileParent_tie (t : Generated.Tile.Tile) (k n : Int)
    (hH : 0 ≤ t.H) (hL : 0 ≤ t.L) (hN : 0 ≤ t.N) (hW : 0 ≤ t.W) (hk : 0 ≤ k) (hn0 : 0 ≤ n) (hn : n < 2 ^ 63)
    (h1 : t.L + k < 2 ^ 63) (h2 : k * t.H < 2 ^ 63) (h3 : (t.L + k) * t.H < 2 ^ 63)
    (h4 : (t.N.toNat >>> (k.toNat * t.H.toNat) + 1) * 2 ^ t.H.toNat < 2 ^ 63) :
    Generated.Tile.tileParent t k n = .ok (toGen (Tile.tileParent (ofGen t) k.toNat n.toNat)) := by
  have hne : ¬ t.L = -1 := by omega
  have hd : (ofGen t).data = false := by simp [ofGen, hne]
  have e : toGen (ofGen t) = t := toGen_ofGen t hH (by omega) hN hW
  have hfld : (ofGen t).h = t.H.toNat ∧ (ofGen t).l = t.L.toNat ∧ (ofGen t).n = t.N.toNat := by simp [ofGen, hne]
  obtain ⟨f1, f2, f3⟩ := hfld
  have h2' : k.toNat * t.H.toNat < 2 ^ 63 := by
    have : ((k.toNat * t.H.toNat : Nat) : Int) = k * t.H := by
      rw [Int.natCast_mul, Int.toNat_of_nonneg hk, Int.toNat_of_nonneg hH]
    omega
  have h3' : (t.L.toNat + k.toNat) * t.H.toNat < 2 ^ 63 := by
    have : (((t.L.toNat + k.toNat) * t.H.toNat : Nat) : Int) = (t.L + k) * t.H := by
      rw [Int.natCast_mul, Int.natCast_add, Int.toNat_of_nonneg hk, Int.toNat_of_nonneg hH, Int.toNat_of_nonneg hL]
    omega
  have := tileParent_eq (ofGen t) k.toNat n.toNat hd (by rw [f2]; omega) (by rw [f1]; exact h2')
    (by rw [f1, f2]; exact h3') (by rw [f1, f3]; exact h4) (by omega)
  rwa [e, Int.toNat_of_nonneg hk, Int.toNat_of_nonneg hn0] at this

example : Generated.Tile.tileParent ⟨2, 0, 1, 3⟩ 1 7 = .ok ⟨2, 1, 0, 1⟩ ∧
    toGen (Tile.tileParent (ofGen ⟨2, 0, 1, 3⟩) (1 : Int).toNat (7 : Int).toNat) = ⟨2, 1, 0, 1⟩ := ⟨rfl, rfl⟩

/-- `tileForIndex(h, index)` for `h ≥ 0`, `0 ≤ index ≤ MaxInt64 - 1`, and (`h ≤ 57` or `index < 2^57`: the returned byte
    offsets are at most `2^h * HashSize` and at most `(index + 1) * HashSize`, beyond both bounds the Go code wraps around
    silently and the checked translation reports the overflow).  `tfiOut` maps the model's hash offsets to byte offsets
    (`× 32`) and the model's only error here (`h = 0`: integer division by zero in the code) to the panic. -/
theorem tileForIndex_tie (fuel : Nat) (h index : Int) (hh : 0 ≤ h) (hh2 : h < 2 ^ 63) (h0 : 0 ≤ index)
    (hr : index < 2 ^ 63 - 1) (hr2 : h ≤ 57 ∨ index < 2 ^ 57) (hf : 64 ≤ fuel) :
    Generated.Tile.tileForIndex fuel h index = tfiOut (Tile.tileForIndex h.toNat index.toNat) := by
  have := tileForIndex_eq fuel h.toNat index.toNat (by omega) (by omega) (by omega) hf
  rwa [Int.toNat_of_nonneg hh, Int.toNat_of_nonneg h0] at this

example : Generated.Tile.tileForIndex 64 2 44 = .ok (⟨2, 1, 1, 2⟩, 32, 64) ∧
    tfiOut (Tile.tileForIndex (2 : Int).toNat (44 : Int).toNat) = .ok (⟨2, 1, 1, 2⟩, 32, 64) := ⟨rfl, rfl⟩

example : Generated.Tile.tileForIndex 64 0 44 = .error .panic ∧
    tfiOut (Tile.tileForIndex (0 : Int).toNat (44 : Int).toNat) = .error .panic := ⟨rfl, rfl⟩

/-- the disjunction `h ≤ 57 ∨ index < 2^57` cannot be dropped: for `h = 60` and the level-0 position of record `2^60 - 1` the
    byte offsets are `2^60 * HashSize` — the checked translation reports the int64 overflow (the Go code wraps silently; its
    callers in `ReadHashes` discard these two results), the unbounded model answers `(H=60, L=0, N=0, W=2^60)` -/
example : (match Generated.Tile.tileForIndex 64 60 2305843009213693890 with | .error .overflow => true | _ => false) = true ∧
    ((Tile.tileForIndex 60 2305843009213693890).toOption.map (·.1)) = some ⟨60, 0, 0, 2 ^ 60, false⟩ := by
  constructor <;> decide +kernel

/-- the model's `TileForIndex` result as a result of the generated function -/
def tfiPubOut : Except Tlog.Err Tile.Tile → M Generated.Tile.Tile
  | .ok t => .ok (toGen t)
  | .error _ => .error .panic

/-- `TileForIndex(h, index)`: EVERY `h < 2^63` (`h ≤ 0` panics on both sides), `index` as for `tileForIndex`. -/
theorem TileForIndex_tie (fuel : Nat) (h index : Int) (hh2 : h < 2 ^ 63) (h0 : 0 ≤ index)
    (hr : index < 2 ^ 63 - 1) (hr2 : h ≤ 57 ∨ index < 2 ^ 57) (hf : 64 ≤ fuel) :
    Generated.Tile.TileForIndex fuel h index = tfiPubOut (Tile.tileForIndexPub h.toNat index.toNat) := by
  by_cases hle : h ≤ 0
  · have e : h.toNat = 0 := by omega
    simp only [Generated.Tile.TileForIndex, hle, decide_true, ↓reduceIte, e, Tile.tileForIndexPub, Tile.tileForIndex]
    rfl
  · have := tileForIndex_tie fuel h index (by omega) hh2 h0 hr hr2 hf
    simp only [Generated.Tile.TileForIndex, hle, decide_false, Bool.false_eq_true, ↓reduceIte, this, Tile.tileForIndexPub]
    cases Tile.tileForIndex h.toNat index.toNat with
    | error e => rfl
    | ok r => obtain ⟨t, s, e⟩ := r; rfl

example : Generated.Tile.TileForIndex 64 2 44 = .ok ⟨2, 1, 1, 2⟩ ∧
    tfiPubOut (Tile.tileForIndexPub (2 : Int).toNat (44 : Int).toNat) = .ok ⟨2, 1, 1, 2⟩ := ⟨rfl, rfl⟩

/-- `Tile.Path()` of (the image of) any model tile — data tiles included (`L = -1` prints as "data") — with `H ≤ 62`
    (`1 << H` is an int64; for larger `H` the Go shift gives 0 or MinInt64 and the model's `2^h` no longer describes it)
    and `N` an int64.  Constant fuel: `N < 2^63` has at most seven 3-digit groups. -/
theorem Tile_Path_tie (fuel : Nat) (t : Tile.Tile) (hh : t.h ≤ 62) (hn : t.n < 2 ^ 63) (hf : 8 ≤ fuel) :
    Generated.Tile.Tile_Path fuel (toGen t) = .ok (Tile.tilePath t) :=
  Tile_Path_eq fuel t hh hn hf

example : (Generated.Tile.Tile_Path 8 (toGen ⟨3, 4, 1234067, 1, false⟩)).toOption = some (B "tile/3/4/x001/x234/067.p/1") ∧
    Tile.tilePath ⟨3, 4, 1234067, 1, false⟩ = B "tile/3/4/x001/x234/067.p/1" := by
  constructor <;> decide +kernel

/-- `ParseTilePath(path)`: `ptpOut` maps the model's `some t` to `(toGen t, nil)` and `none` to `(Tile{}, badPathError)`.
    Range hypotheses: `len(path)` is an int (`len(f) - 2` is computed), and `hfit`: the running value of the
    `n = n*pathBase + nn` loop over the `NNN` elements (`nSegs path`, exactly the list the model's `parseN` is applied to)
    stays below `2^63` at every step (`Fits`).  Without it the Go code wraps around silently — and then rejects the path
    because `t.Path()` differs — whereas the checked translation reports the overflow; the model rejects `n ≥ 2^63`
    directly.  `fits_of_short`: every path with at most 9 `/`-separated elements satisfies `hfit`. -/
theorem ParseTilePath_tie (fuel : Nat) (path : Bytes) (hfit : Fits (nSegs path) 0)
    (hplen : path.length + 1 < 2 ^ 63) (hf : path.length + 9 ≤ fuel) :
    Generated.Tile.ParseTilePath fuel path = .ok (ptpOut (Tile.parseTilePath path)) :=
  ParseTilePath_eq fuel path hfit hplen hf

/-- the same for paths of at most 9 elements (`tile/H/L/` + up to six `NNN` elements: every `N < 10^18`, or `N < 10^15`
    with a `.p/W` suffix), without reference to `Fits` -/
theorem ParseTilePath_tie_short (fuel : Nat) (path : Bytes) (hshort : (splitOn 47 path).length ≤ 9)
    (hplen : path.length + 1 < 2 ^ 63) (hf : path.length + 9 ≤ fuel) :
    Generated.Tile.ParseTilePath fuel path = .ok (ptpOut (Tile.parseTilePath path)) :=
  ParseTilePath_eq fuel path (fits_of_short path hshort) hplen hf

example : (Generated.Tile.ParseTilePath 40 (B "tile/3/4/x001/x234/067.p/1")).toOption = some (⟨3, 4, 1234067, 1⟩, none) ∧
    ptpOut (Tile.parseTilePath (B "tile/3/4/x001/x234/067.p/1")) = (⟨3, 4, 1234067, 1⟩, none) := by
  constructor <;> decide +kernel

example : (Generated.Tile.ParseTilePath 40 (B "tile/3/data/x001/067")).toOption = some (⟨3, -1, 1067, 8⟩, none) ∧
    ptpOut (Tile.parseTilePath (B "tile/3/data/x001/067")) = (⟨3, -1, 1067, 8⟩, none) := by
  constructor <;> decide +kernel

example : (Generated.Tile.ParseTilePath 40 (B "tile/3/4/1067")).toOption = some (default, some "badPathError") ∧
    ptpOut (Tile.parseTilePath (B "tile/3/4/1067")) = (default, some "badPathError") := by
  constructor <;> decide +kernel

/-- `NewTiles(h, oldTreeSize, newTreeSize)` for EVERY `h < 2^63` (`h ≤ 0` panics on both sides) and tree sizes in
    `[0, 2^63)`; `ntOut` maps the model's tiles through `toGen` (the model's fuel error is unreachable:
    `TileAuth.newTilesF_spec`).  The fuel covers the number of level-0 tiles (at most `newTreeSize`) plus the levels. -/
theorem NewTiles_tie (fuel : Nat) (h old new : Int) (hh : h < 2 ^ 63) (ho0 : 0 ≤ old) (ho : old < 2 ^ 63)
    (hn0 : 0 ≤ new) (hn : new < 2 ^ 63) (hf : new.toNat + 67 ≤ fuel) :
    Generated.Tile.NewTiles fuel h old new = ntOut (Tile.newTiles h.toNat old.toNat new.toNat) := by
  by_cases hle : h ≤ 0
  · have e : h.toNat = 0 := by omega
    simp only [Generated.Tile.NewTiles, hle, decide_true, ↓reduceIte, e, Tile.newTiles]
    rfl
  · have := NewTiles_eq fuel h.toNat old.toNat new.toNat (by omega) (by omega) (by omega) (by omega) hf
    rwa [Int.toNat_of_nonneg (by omega : 0 ≤ h), Int.toNat_of_nonneg ho0, Int.toNat_of_nonneg hn0] at this

example : Generated.Tile.NewTiles 80 2 3 7 = .ok [⟨2, 0, 0, 4⟩, ⟨2, 0, 1, 3⟩, ⟨2, 1, 0, 1⟩] ∧
    ntOut (Tile.newTiles (2 : Int).toNat (3 : Int).toNat (7 : Int).toNat) = .ok [⟨2, 0, 0, 4⟩, ⟨2, 0, 1, 3⟩, ⟨2, 1, 0, 1⟩] :=
  ⟨rfl, rfl⟩

section
variable {H : Type} [DecidableEq H] [Inhabited H] (node : H → H → H) (ofBytes : Bytes → H) (toBytes : H → Bytes)

/-! ### tile data: flat bytes (generated) vs lists of hashes (model)

The hash type `H` is ABSTRACT, `ofBytes : Bytes → H` arbitrary (no hypothesis): `unflat ofBytes data` is the list of the
complete 32-byte groups of `data`, each through `ofBytes`.  Only `ReadTileData` (which produces bytes) needs
`toBytes : H → Bytes` with the explicit hypothesis that every hash has 32 bytes. -/

/-- `tileHash(data)` for `len(data) = HashSize * 2^j` (the only lengths it is applied to: `HashFromTile`, the tile
    authentication): `errOut` turns a model error into a panic (there is none: `TileAuth.tileHash_ptree`).  On every other
    non-empty length the byte-level code splits inside a hash and eventually panics in `tileHash("")`, the list model is not
    meaningful there (Model/Tile.lean). -/
theorem tileHash_tie (j fuel : Nat) (data : Bytes) (hl : data.length = 32 * 2 ^ j) (hf : j < fuel) :
    Generated.Tile.tileHash node ofBytes fuel data = errOut (Tile.tileHash node (unflat ofBytes data)) :=
  tileHash_eq node ofBytes j fuel data hl hf

/-- … and on the empty string both sides panic ("bad math in tileHash") -/
theorem tileHash_tie_nil (fuel : Nat) (hf : 0 < fuel) :
    Generated.Tile.tileHash node ofBytes fuel [] = errOut (Tile.tileHash node (unflat ofBytes [])) :=
  tileHash_nil node ofBytes fuel hf

/-- `HashFromTile(t, data, index)` for EVERY model tile (data tiles and out-of-range `H`, `L`, `W` are rejected on both
    sides), every byte string `data` (any length), `0 ≤ index ≤ MaxInt64 - 1`.  `hftOut` gives `(hash, nil)` for the model's
    `.ok hash` and `(Hash{}, error)` otherwise, the text chosen by `hftMsg` among the three `fmt.Errorf` formats (the model
    has the single kind `badTile` for them). -/
theorem HashFromTile_tie (fuel : Nat) (t : Tile.Tile) (data : Bytes) (index : Int) (h0 : 0 ≤ index)
    (hr : index < 2 ^ 63 - 1) (hf : 64 ≤ fuel) :
    Generated.Tile.HashFromTile node ofBytes fuel (toGen t) data index =
      .ok (hftOut t (data.length / 32) (Tile.hashFromTile node t (unflat ofBytes data) index.toNat)) := by
  have := HashFromTile_eq node ofBytes fuel t data index.toNat (by omega) hf
  rwa [Int.toNat_of_nonneg h0] at this

/-- `ReadTileData(t, r)` for an ordinary (non-data) tile with `H ≤ 62`; `size = W`, or `2^H` if `W = 0`; range: `size *
    HashSize` and the largest stored-hash index of the tile are int64 values.  The reader `r` of the generated code is seen
    by the model as `readerOf r`; `rtdOut` flattens the model's hashes through `toBytes` (32 bytes each: `hb`) and returns
    the reader's error / the "wrong number of hashes" text (`readErrOf`) where the model says `Err.reader`. -/
theorem ReadTileData_tie (hb : ∀ x : H, (toBytes x).length = 32) (fuel : Nat) (t : Tile.Tile)
    (r : List Int → List H × Option String) (hd : t.data = false) (hh : t.h ≤ 62)
    (hsz : 32 * (if t.w == 0 then 2 ^ t.h else t.w) < 2 ^ 63)
    (hr : Tlog.storedHashIndex (t.h * t.l) (t.n <<< t.h + (if t.w == 0 then 2 ^ t.h else t.w) - 1) < 2 ^ 63)
    (hf : (if t.w == 0 then 2 ^ t.h else t.w) + 65 ≤ fuel) :
    Generated.Tile.ReadTileData toBytes fuel (toGen t) r =
      .ok (rtdOut toBytes r t (Tile.readTileData t (readerOf r))) :=
  ReadTileData_eq toBytes hb fuel t r hd hh hsz hr hf

end

/-! non-vacuity of the hash-level ties: term-algebra hashes, `ofBytes b = TH.leaf b`, tile (H=2, L=0, N=0, W=4) of the
    7-record example log with data = four 32-byte strings, stored-hash position 3 = (level 1, node 0) -/

/-- four distinguishable 32-byte "hashes" -/
def exData : Bytes := (List.replicate 32 1 ++ List.replicate 32 2 ++ List.replicate 32 3 ++ List.replicate 32 4 : List UInt8)

instance : Inhabited Tlog.TH := ⟨Tlog.TH.empty⟩

example : (Generated.Tile.tileHash Tlog.TH.node Tlog.TH.leaf 3 (exData.take 64)).toOption =
      some (Tlog.TH.node (Tlog.TH.leaf (List.replicate 32 1)) (Tlog.TH.leaf (List.replicate 32 2))) ∧
    (errOut (Tile.tileHash Tlog.TH.node (unflat Tlog.TH.leaf (exData.take 64)))).toOption =
      some (Tlog.TH.node (Tlog.TH.leaf (List.replicate 32 1)) (Tlog.TH.leaf (List.replicate 32 2))) := by
  constructor <;> decide +kernel

example : (Generated.Tile.HashFromTile Tlog.TH.node Tlog.TH.leaf 64 (toGen ⟨2, 0, 0, 4, false⟩) exData 2).toOption =
      some (Tlog.TH.node (Tlog.TH.leaf (List.replicate 32 1)) (Tlog.TH.leaf (List.replicate 32 2)), none) ∧
    hftOut ⟨2, 0, 0, 4, false⟩ (exData.length / 32)
        (Tile.hashFromTile Tlog.TH.node ⟨2, 0, 0, 4, false⟩ (unflat Tlog.TH.leaf exData) (2 : Int).toNat) =
      (Tlog.TH.node (Tlog.TH.leaf (List.replicate 32 1)) (Tlog.TH.leaf (List.replicate 32 2)), none) := by
  constructor <;> decide +kernel

example : (Generated.Tile.HashFromTile Tlog.TH.node Tlog.TH.leaf 64 (toGen ⟨2, 0, 1, 4, false⟩) exData 2).toOption =
      some (Tlog.TH.empty, some "index %v is in %v not %v") ∧
    hftOut ⟨2, 0, 1, 4, false⟩ (exData.length / 32)
        (Tile.hashFromTile Tlog.TH.node ⟨2, 0, 1, 4, false⟩ (unflat Tlog.TH.leaf exData) (2 : Int).toNat) =
      (Tlog.TH.empty, some "index %v is in %v not %v") := by
  constructor <;> decide +kernel

/-- `ReadTileData` with `H := Bytes`, `toBytes = id` over a reader that returns the index as a 32-byte string -/
def exReader : List Int → List Bytes × Option String := fun idx => (idx.map fun i => List.replicate 32 (UInt8.ofNat i.toNat), none)

example : (Generated.Tile.ReadTileData (H := Bytes) id 80 (toGen ⟨1, 1, 1, 0, false⟩) exReader).toOption =
      some (List.replicate 32 9 ++ List.replicate 32 12, none) ∧
    rtdOut (H := Bytes) id exReader ⟨1, 1, 1, 0, false⟩ (Tile.readTileData ⟨1, 1, 1, 0, false⟩ (readerOf exReader)) =
      (List.replicate 32 9 ++ List.replicate 32 12, none) := by
  constructor <;> decide +kernel

/-! ### tileHashReader.ReadHashes

The generated function takes the reader `r = {tree: {N, Hash}, tr: {Height, ReadTiles}}` and returns
`((hashes, err), effLog)` where `effLog` records the arguments of the `SaveTiles` call (if any).  The model is
`Tile.readHashes node N treeHash h indexes serve` with a per-tile server `serve : Tile → Option (List H)`.

* Hash type: ABSTRACT `H`, `ofBytes : Bytes → H` arbitrary; tile data `data[i]` (flat bytes) is seen by the model as
  `unflatS ofBytes data[i]` (the 32-byte groups through `ofBytes`; `[]` if `len(data[i])` is not a multiple of 32 — such data
  fails the width check on both sides, planned tiles having `W ≥ 1`).
* Tile server: `ServeRel ofBytes RT serve tiles` relates `ReadTiles = RT` and `serve` ON THE PLANNED TILES (the one
  `ReadTiles` call): `err ≠ nil` ↔ `mapM serve = none`; a result of the wrong length ↔ all-empty tiles (both sides then fail
  with kind `badTile`); otherwise `mapM serve = some (data.map (unflatS ofBytes))`.  `exists_serve`: for EVERY `RT` there is
  such a `serve` (`tileHashReader_ReadHashes_tie_any`).
* Result: `rhOut out gtiles data msg` = (`(hs, nil)` if the model's result is `.ok hs`, else `(nil, msg)`; effect log
  `[(gtiles, data)]` iff the model's `saved` is `some _`).  The error TEXT `msg` is existentially quantified and constrained
  by `MsgOK`: it is one of the `fmt.Errorf` texts the code has for the model's error kind (the model merges e.g. the three
  `HashFromTile` errors and the two `bad result slice` errors into `badTile`); for `Err.reader` it is `ReadTiles`' own error.
* Range: `N < 2^62` (as in every C10 theorem), `1 ≤ h ≤ 57` (for `h ≥ 58` the byte offsets `… * HashSize` computed — and
  discarded — by `tileForIndex` overflow int64: the Go code wraps silently, the checked translation reports the overflow;
  `TileReader.Height` is documented to be at most 30), `len(indexes) < 2^56`; indexes are natural numbers (out-of-range
  ones are refused on both sides with "indexes not in tree"). -/

section
variable {H : Type} [DecidableEq H] [Inhabited H] (node : H → H → H) (ofBytes : Bytes → H)

/-- ★ `tileHashReader.ReadHashes`, for every tree size `N < 2^62`, tree hash, tile height `1 ≤ h ≤ 57`, index list, every
    `ReadTiles` function and every model server related to it on the planned tiles. -/
theorem tileHashReader_ReadHashes_tie (fuel h N : Nat) (th : H) (idx : List Nat)
    (RT : List Generated.Tile.Tile → List Bytes × Option String) (serve : Tile.Tile → Option (List H))
    (h1 : 1 ≤ h) (h57 : h ≤ 57) (hN : N < 2 ^ 62) (hidx : idx.length < 2 ^ 56)
    (hserve : ServeRel ofBytes RT serve (planTiles h N idx)) (hf : 64 * idx.length + 500 ≤ fuel) :
    ∃ msg, Generated.Tile.tileHashReader_ReadHashes node ofBytes fuel
        { tree := { N := (N : Int), Hash := th }, tr := { Height := (h : Int), ReadTiles := RT } } (idx.map Int.ofNat) =
      .ok (rhOut (Tile.readHashes node N th h idx serve) ((planTiles h N idx).map toGen)
        (RT ((planTiles h N idx).map toGen)).1 msg) ∧
      ∀ e, (Tile.readHashes node N th h idx serve).result = .error e → MsgOK (RT ((planTiles h N idx).map toGen)).2 e msg := by
  have hlen := planTiles_length h N h1 hN idx
  exact ReadHashes_eq node ofBytes fuel h N th idx RT serve h1 h57 hN hserve (by omega) (by omega)

/-- the same tie with the `badTile` text pinned down (`MsgRefine`, about the SAME `msg`): for a successful plan with a
    non-empty tree-hash index list, when `ReadTiles` returned no error and the right number of tiles, a failed width check gives
    "TileReader returned bad result slice (%v len=%d, want %d)", and a `badTile` after a passed width check is one of the three
    `HashFromTile` texts (`HftMsg`).  (Used to compose with the sumdb client model, whose errors separate the two.) -/
theorem tileHashReader_ReadHashes_tie_msg (fuel h N : Nat) (th : H) (idx : List Nat)
    (RT : List Generated.Tile.Tile → List Bytes × Option String) (serve : Tile.Tile → Option (List H))
    (h1 : 1 ≤ h) (h57 : h ≤ 57) (hN : N < 2 ^ 62) (hidx : idx.length < 2 ^ 56)
    (hserve : ServeRel ofBytes RT serve (planTiles h N idx)) (hf : 64 * idx.length + 500 ≤ fuel) :
    ∃ msg, Generated.Tile.tileHashReader_ReadHashes node ofBytes fuel
        { tree := { N := (N : Int), Hash := th }, tr := { Height := (h : Int), ReadTiles := RT } } (idx.map Int.ofNat) =
      .ok (rhOut (Tile.readHashes node N th h idx serve) ((planTiles h N idx).map toGen)
        (RT ((planTiles h N idx).map toGen)).1 msg) ∧
      (∀ e, (Tile.readHashes node N th h idx serve).result = .error e → MsgOK (RT ((planTiles h N idx).map toGen)).2 e msg) ∧
      (∀ p, Tile.plan h N idx = .ok p → p.stx ≠ [] →
        MsgRefine ofBytes (planTiles h N idx) (RT ((planTiles h N idx).map toGen)).1 (RT ((planTiles h N idx).map toGen)).2
          (Tile.readHashes node N th h idx serve).result msg) := by
  have hlen := planTiles_length h N h1 hN idx
  exact ReadHashes_eq_msg node ofBytes fuel h N th idx RT serve h1 h57 hN hserve (by omega) (by omega)

/-- ★ … and for EVERY `ReadTiles` function there is such a model server: whatever a `TileReader` does, the generated
    `ReadHashes` behaves like the model against SOME tile server (so every theorem of `Props/C10.lean` that holds against
    all servers — `readHashes_authenticated`, `error_saves_nothing` — speaks about the generated code). -/
theorem tileHashReader_ReadHashes_tie_any (fuel h N : Nat) (th : H) (idx : List Nat)
    (RT : List Generated.Tile.Tile → List Bytes × Option String)
    (h1 : 1 ≤ h) (h57 : h ≤ 57) (hN : N < 2 ^ 62) (hidx : idx.length < 2 ^ 56) (hf : 64 * idx.length + 500 ≤ fuel) :
    ∃ (serve : Tile.Tile → Option (List H)) (msg : Option String),
      ServeRel ofBytes RT serve (planTiles h N idx) ∧
      Generated.Tile.tileHashReader_ReadHashes node ofBytes fuel
        { tree := { N := (N : Int), Hash := th }, tr := { Height := (h : Int), ReadTiles := RT } } (idx.map Int.ofNat) =
      .ok (rhOut (Tile.readHashes node N th h idx serve) ((planTiles h N idx).map toGen)
        (RT ((planTiles h N idx).map toGen)).1 msg) ∧
      ∀ e, (Tile.readHashes node N th h idx serve).result = .error e → MsgOK (RT ((planTiles h N idx).map toGen)).2 e msg := by
  obtain ⟨serve, hs⟩ := exists_serve ofBytes RT (planTiles h N idx) (planTiles_nodup h N h1 hN idx)
  obtain ⟨msg, h2, h3⟩ := tileHashReader_ReadHashes_tie node ofBytes fuel h N th idx RT serve h1 h57 hN hidx hs hf
  exact ⟨serve, msg, hs, h2, h3⟩

end

/-! non-vacuity: the 7-record example log of C10 (`Props.C10.C10_honest_witness`), tile height 2, stored hash 0.  Hashes are
    the term algebra `TH`; stored hash number `i` travels as the 32 bytes `i, i, …` (`exOfBytes` decodes it), so the tile
    server `exRT` is honest.  Both sides return the true hash `leaf [0]` and save the three planned tiles. -/

open ModVerif.TlogTH in
def exRT : List Generated.Tile.Tile → List Bytes × Option String := fun ts =>
  (ts.map fun t => ((rtdIndexes (ofGen t)).map fun i => List.replicate 32 (UInt8.ofNat i)).flatten, none)

open ModVerif.TlogTH in
def exOfBytes (b : Bytes) : Tlog.TH := ((store 7)[(b.headD 0).toNat]?).getD Tlog.TH.empty

open ModVerif.TlogTH in
example :
    ((Generated.Tile.tileHashReader_ReadHashes Tlog.TH.node exOfBytes 600 ⟨⟨7, root 7⟩, ⟨2, exRT⟩⟩ [0]).toOption.map
        fun r => (r.1, r.2.map (·.1))) =
      some (([Tlog.TH.leaf [0]], none), [[⟨2, 1, 0, 1⟩, ⟨2, 0, 1, 3⟩, ⟨2, 0, 0, 4⟩]]) ∧
    planTiles 2 7 [0] = [⟨2, 1, 0, 1, false⟩, ⟨2, 0, 1, 3, false⟩, ⟨2, 0, 0, 4, false⟩] ∧
    (let out := Tile.readHashes Tlog.TH.node 7 (root 7) 2 [0]
        (fun t => (Tile.trueTile (store 7) t));
      isOk out.result [Tlog.TH.leaf [0]] = true ∧ out.saved.isSome = true) := by
  decide +kernel

/-- … a forged tile is rejected by both sides ("downloaded inconsistent tile", nothing saved) -/
def exRTevil : List Generated.Tile.Tile → List Bytes × Option String := fun ts =>
  (ts.map fun t => ((rtdIndexes (ofGen t)).map fun i =>
    List.replicate 32 (UInt8.ofNat (if t = ⟨2, 0, 0, 4⟩ ∧ i = 0 then 1 else i))).flatten, none)

open ModVerif.TlogTH in
example :
    (Generated.Tile.tileHashReader_ReadHashes Tlog.TH.node exOfBytes 600 ⟨⟨7, root 7⟩, ⟨2, exRTevil⟩⟩ [0]).toOption =
      some (([], some "downloaded inconsistent tile"), []) := by
  decide +kernel

/-! ### the C10 security theorems, for the REGENERATED code

`Props.C10.readHashes_authenticated` / `error_saves_nothing` (theorems about the hand model against every tile server)
composed with `tileHashReader_ReadHashes_tie_any`: statements about `Generated.Tile.tileHashReader_ReadHashes` alone —
no model function occurs in the conclusions (`Tile.trueTile st t` is the specification's tile content of the log,
`st[·]?` its stored hashes; `unflatS ofBytes` reads flat tile bytes as hashes). -/

section
variable {H : Type} [DecidableEq H] [Inhabited H] (leaf : Bytes → H) (node : H → H → H) (empty : H) (ofBytes : Bytes → H)

/-- ★ Against ANY `ReadTiles` function, for the true tree head of a log `D` of fewer than `2^62` records and a
    collision-free `NodeHash`, tile height `1 ≤ h ≤ 57`: the regenerated `tileHashReader.ReadHashes` terminates (no panic,
    no int64 overflow); if it returns `err = nil` the hashes are the true stored hashes of the requested positions; and every
    (tile, data) pair passed to `SaveTiles` (the effect log) is the true tile content. -/
theorem tileHashReader_ReadHashes_authenticated (D : List Bytes) (st : List H) (hst : Tlog.buildStore leaf node D = .ok st)
    (hR : D.length < 2 ^ 62) (hcf : ∀ a b c d : H, node a b = node c d → a = c ∧ b = d)
    (h : Nat) (h1 : 1 ≤ h) (h57 : h ≤ 57) (idx : List Nat) (hidx : idx.length < 2 ^ 56)
    (RT : List Generated.Tile.Tile → List Bytes × Option String) (fuel : Nat) (hf : 64 * idx.length + 500 ≤ fuel) :
    ∃ res, Generated.Tile.tileHashReader_ReadHashes node ofBytes fuel
        { tree := { N := (D.length : Int), Hash := RFC6962.mth node empty (D.map leaf) },
          tr := { Height := (h : Int), ReadTiles := RT } } (idx.map Int.ofNat) = .ok res ∧
      (res.1.2 = none → idx.mapM (st[·]?) = some res.1.1) ∧
      (∀ entry ∈ res.2, entry.2.length = entry.1.length ∧
        ∀ i (_ : i < entry.1.length) (_ : i < entry.2.length),
          Tile.trueTile st (ofGen entry.1[i]) = some (unflatS ofBytes entry.2[i])) :=
  ReadHashes_generated_authenticated leaf node empty ofBytes D st hst hR hcf h h1 h57 idx hidx RT fuel hf

/-- ★ … and for `h ≤ 30`: `err ≠ nil` implies that `SaveTiles` was not called. -/
theorem tileHashReader_ReadHashes_error_saves_nothing (D : List Bytes) (st : List H)
    (hst : Tlog.buildStore leaf node D = .ok st) (hR : D.length < 2 ^ 62)
    (hcf : ∀ a b c d : H, node a b = node c d → a = c ∧ b = d)
    (h : Nat) (h1 : 1 ≤ h) (h30 : h ≤ 30) (idx : List Nat) (hidx : idx.length < 2 ^ 56)
    (RT : List Generated.Tile.Tile → List Bytes × Option String) (fuel : Nat) (hf : 64 * idx.length + 500 ≤ fuel) :
    ∃ res, Generated.Tile.tileHashReader_ReadHashes node ofBytes fuel
        { tree := { N := (D.length : Int), Hash := RFC6962.mth node empty (D.map leaf) },
          tr := { Height := (h : Int), ReadTiles := RT } } (idx.map Int.ofNat) = .ok res ∧
      (res.1.2 ≠ none → res.2 = []) :=
  ReadHashes_generated_error_saves_nothing leaf node empty ofBytes D st hst hR hcf h h1 h30 idx hidx RT fuel hf

end

/-- non-vacuity of the hypotheses: the 7-record example log has a store, the term algebra is collision free (the
    conclusions are exercised by the two evaluated examples above: the honest read returns the true hash `leaf [0]`,
    the forged tile is refused with an empty effect log) -/
example : (∃ st, Tlog.buildStore Tlog.TH.leaf Tlog.TH.node (TlogTH.recs 7) = .ok st) ∧ (TlogTH.recs 7).length < 2 ^ 62 ∧
    (∀ a b c d : Tlog.TH, Tlog.TH.node a b = Tlog.TH.node c d → a = c ∧ b = d) := by
  obtain ⟨st, h1, _⟩ := TlogStore.buildStore_ok Tlog.TH.leaf Tlog.TH.node Tlog.TH.empty (TlogTH.recs 7) (by decide)
  exact ⟨⟨st, h1⟩, by decide, fun a b c d h => by cases h; exact ⟨rfl, rfl⟩⟩

end ModVerif.Tie.FnTile
