/-
  Tie theorems, zip/zip.go `checkZip` (lines 417–505) and `Unzip` (lines 840–906): the definitions regenerated from the Go
  source by go2lean (`Generated/FnZip.lean`: `checkZip` with closure `checkZip_addError` and loop `checkZip_loop1`; `Unzip`
  with loop `Unzip_loop1`, the file system threaded as a world value `GoRt.FsW`) compute exactly what the hand model
  (`Zip.checkZip` / `Zip.unzip`, Model/Zip.lean) says — for every module path/version, archive size, entry list and
  target state; no panic, no fuel exhaustion.  C12 rests on these two functions.

  Instantiation (the one of the driver, `Drv/GenZipIO.lean`):
  * an archive entry `Zip.Entry` is `toZEntry e`; the opened archive is `osFileOf zs es` (Stat succeeds with size `zs`,
    `zip.NewReader` yields the entries); the world before `Unzip` is `world0 d t zs es` (`target := targetCode t`, no
    effects yet);
  * `module.CheckFilePath` is `cfpOf E`; `module.CanonicalVersion` / `module.Check` are any functions with
    `(canonicalVersion v = v ∧ moduleCheck p v = none) ↔ E.modOK p v = true`; `strings.EqualFold(·, "go.mod")` and
    `unicode.SimpleFold` as in the checkFiles tie (`hef`, `FoldsTo simpleFold K`, `E.toFold = Zip.strToFold`).

  Hypotheses beyond the instantiation:
  * `hrel : ∀ p, E.cfp p = true → isAbs p = false` — `CheckFilePath` rejects absolute paths (implied by the model's
    `CfpSound`, `cfpRel_of_cfpSound`; `unzip_confined` of Props/C12 carries `CfpSound`).  `checkZip` has no `path.IsAbs` test
    of its own: on an accepted clean absolute name `collisionChecker.check` recurses for ever in Go, the model reports
    `Reason.panic`, the generated function runs out of fuel (`FnZip.collisionChecker_check_tie_outOfFuel`).
  * `hsz : every declSize < 2^64` — `UncompressedSize64` is a uint64; then GoRt's `toI64` is the model's `int64OfU64`
    (values ≥ 2^63 are negative on both sides: size error).

  Errors: the generated errors are texts.  `checkZip` returns `cf.err.map (errKindText txt)` (`"FileErrorList"` / the text of
  the size error, `sizeTextOf zs` = one of the two `fmt.Errorf` literals), the report is `embCFZ txt cf` (entries of
  `Invalid` carry `reasonTextZ r`); for a rejected module path/version the error is `modErr canonicalVersion moduleCheck p v`
  and the report is empty.  `Unzip` returns `uerrText …` = `wrapErr "zipError" (uerrInner …)` of the model's `UnzipErr` (the texts the driver's
  classifier `Drv.GenZipIO.unzipErr` maps back to the model's kinds; that classification is exercised by the correspondence
  run, not proved: the kernel does not evaluate `String.splitOn`).
-/
import ModVerif.Generated.FnZip
import ModVerif.Model.Zip
import ModVerif.Drv.GenZipIO
import ModVerif.Tie.FnZip
import ModVerif.Proofs.TieFnZipIOUnzipCz
import ModVerif.Proofs.TieFnZipIOUnzipLoop
namespace ModVerif.Tie.FnZipIOUnzip
open ModVerif ModVerif.GoRt ModVerif.GoRtZip ModVerif.TieFnZip ModVerif.TieFnZipCf ModVerif.TieFnZipIOUnzip
open ModVerif.Drv.GenZipIO (toZEntry toEffect targetCode entriesFuel)
open ModVerif.Drv.GenZip (simpleFoldI)

/-- the model's assumption on `CheckFilePath` (no empty, `.` or `..` element) implies the one the tie needs -/
theorem cfpRel_of_cfpSound (cfp : Bytes → Bool) (h : ZipSpec.CfpSound cfp) :
    ∀ p, cfp p = true → PathClean.isAbs p = false := by
  intro p hp
  unfold PathClean.isAbs PathClean.isRooted
  split
  · have := (h _ hp [] (by simp [splitOn])).1
    exact absurd rfl this
  · rfl

section
variable (canonicalVersion : Bytes → Bytes) (equalFold : Bytes → Bytes → Bool)
  (moduleCheck : Bytes → Bytes → Option String) (simpleFold : Int → Int)

/-- `checkZip(m, f)` for every module version, archive size and entry list: the reader, the model's report and the model's
    error; for a rejected module path / version the error of the module check and an empty report.
    Fuel: `fuelBoundZ K es = len(es) + 3 * (longest name) + K + 6`. -/
theorem checkZip_tie (E : Zip.Env) (K : Nat) (hsf : FoldsTo simpleFold K) (hE : E.toFold = Zip.strToFold)
    (hef : ∀ s, equalFold s Zip.goModName = Zip.equalFoldGoMod s)
    (hrel : ∀ p, E.cfp p = true → PathClean.isAbs p = false) (p v : Bytes)
    (hmod : (canonicalVersion v = v ∧ moduleCheck p v = none) ↔ E.modOK p v = true)
    (zs : Nat) (es : List Zip.Entry) (hsz : ∀ e ∈ es, e.declSize < 2 ^ 64) (fuel : Nat)
    (hfuel : fuelBoundZ K es ≤ fuel) :
    Generated.Zip.checkZip canonicalVersion (cfpOf E) equalFold moduleCheck simpleFold fuel ⟨p, v⟩ (osFileOf zs es) =
      match Zip.checkZip E p v zs es with
      | .ok cf => .ok (readerOf zs es, embCFZ (sizeTextOf zs) cf, cf.err.map (errKindText (sizeTextOf zs)))
      | .error _ => .ok (default, default, modErr canonicalVersion moduleCheck p v) := by
  replace hmod := (modErr_none_iff canonicalVersion moduleCheck p v).trans hmod
  unfold Zip.checkZip
  by_cases hm : E.modOK p v = true
  · have hme := hmod.mpr hm
    obtain ⟨h1, h2⟩ := (modErr_none_iff canonicalVersion moduleCheck p v).mp hme
    simp only [hm, Bool.not_true, Bool.false_eq_true, if_false]
    unfold Generated.Zip.checkZip
    simp only [h1, h2, decide_true, Bool.not_true, Bool.false_eq_true, if_false, Option.isNone_none,
      Generated.Zip.osStat, osFileOf]
    by_cases hz : zs > Zip.MaxZipFile
    · have hz' : (zs : Int) > 524288000 := by
        have := maxZipFile_cast
        omega
      simp only [hz', decide_true, if_true, hz, sizeTextOf, readerOf]
      rfl
    · have hz' : ¬ ((zs : Int) > 524288000) := by
        have := maxZipFile_cast
        omega
      simp only [hz', decide_false, Bool.false_eq_true, if_false, hz, sizeTextOf, readerOf, zipNewReader,
        Option.isNone_none, Bool.not_true]
      have hl := loopZ_from (cv := canonicalVersion) (mc := moduleCheck) E K hsf hE hef hrel { File := es.map toZEntry }
        (p ++ [64] ++ v ++ [47])
        (3 * maxNameLen es + K + 5) es [] fuel {}
        (fun e he => ⟨hsz e he, by have := le_maxNameLen es e he; omega⟩)
        (by unfold fuelBoundZ at hfuel; omega)
      unfold zrun at hl
      simp only [List.nil_append, List.length_nil] at hl
      have hl' : Generated.Zip.checkZip_loop1 canonicalVersion (cfpOf E) equalFold moduleCheck simpleFold
          (List.map toZEntry es) { File := es.map toZEntry }
          (p ++ [64] ++ v ++ [47]) fuel 0 default [] 0 = _ := hl
      rw [hl']
      simp only [bind_ok, Zip.zipPrefix, checkedFiles_Err_emb]
      rfl
  · have hm' : E.modOK p v = false := by simpa using hm
    have hne : modErr canonicalVersion moduleCheck p v ≠ none := fun h => hm (hmod.mp h)
    simp only [hm', Bool.not_false, if_true]
    exact checkZip_bad _ p v _ fuel hne

/-- the accepted-module case: `Zip.checkZip = .ok cf` -/
theorem checkZip_tie_ok (E : Zip.Env) (K : Nat) (hsf : FoldsTo simpleFold K) (hE : E.toFold = Zip.strToFold)
    (hef : ∀ s, equalFold s Zip.goModName = Zip.equalFoldGoMod s)
    (hrel : ∀ p, E.cfp p = true → PathClean.isAbs p = false) (p v : Bytes)
    (hmod : (canonicalVersion v = v ∧ moduleCheck p v = none) ↔ E.modOK p v = true)
    (zs : Nat) (es : List Zip.Entry) (hsz : ∀ e ∈ es, e.declSize < 2 ^ 64) (fuel : Nat)
    (hfuel : fuelBoundZ K es ≤ fuel) (cf : Zip.CheckedFiles) (hcf : Zip.checkZip E p v zs es = .ok cf) :
    Generated.Zip.checkZip canonicalVersion (cfpOf E) equalFold moduleCheck simpleFold fuel ⟨p, v⟩ (osFileOf zs es) =
      .ok (readerOf zs es, embCFZ (sizeTextOf zs) cf, cf.err.map (errKindText (sizeTextOf zs))) := by
  rw [checkZip_tie canonicalVersion equalFold moduleCheck simpleFold E K hsf hE hef hrel p v hmod zs es hsz fuel hfuel,
    hcf]

/-- the rejected-module case: an error (the one of the canonical-version test or of `module.Check`) and an empty report -/
theorem checkZip_tie_badModule (E : Zip.Env) (K : Nat) (hsf : FoldsTo simpleFold K) (hE : E.toFold = Zip.strToFold)
    (hef : ∀ s, equalFold s Zip.goModName = Zip.equalFoldGoMod s)
    (hrel : ∀ p, E.cfp p = true → PathClean.isAbs p = false) (p v : Bytes)
    (hmod : (canonicalVersion v = v ∧ moduleCheck p v = none) ↔ E.modOK p v = true)
    (zs : Nat) (es : List Zip.Entry) (hsz : ∀ e ∈ es, e.declSize < 2 ^ 64) (fuel : Nat)
    (hfuel : fuelBoundZ K es ≤ fuel) (hcf : Zip.checkZip E p v zs es = .error .badModule) :
    Generated.Zip.checkZip canonicalVersion (cfpOf E) equalFold moduleCheck simpleFold fuel ⟨p, v⟩ (osFileOf zs es) =
        .ok (default, default, modErr canonicalVersion moduleCheck p v) ∧
      modErr canonicalVersion moduleCheck p v ≠ none := by
  rw [checkZip_tie canonicalVersion equalFold moduleCheck simpleFold E K hsf hE hef hrel p v hmod zs es hsz fuel hfuel,
    hcf]
  refine ⟨rfl, fun h => ?_⟩
  have hm := hmod.mp ((modErr_none_iff _ _ p v).mp h)
  unfold Zip.checkZip at hcf
  simp [hm] at hcf
  split at hcf <;> cases hcf

/-- `Unzip(dir, m, zipFile)` from the world `world0 d t zs es`: the returned error is the model's (as `uerrText`) and the
    effects performed (the world's `fx`, through the driver's `toEffect`) are the model's effect list.  No precondition on
    the target: `os.ReadDir` fails for a missing target or a file (ignored by the Go code), `os.MkdirAll(dir)` fails for a
    file (`targetCode .notDir = 3`), as in the model. -/
theorem Unzip_tie (E : Zip.Env) (K : Nat) (hsf : FoldsTo simpleFold K) (hE : E.toFold = Zip.strToFold)
    (hef : ∀ s, equalFold s Zip.goModName = Zip.equalFoldGoMod s)
    (hrel : ∀ p, E.cfp p = true → PathClean.isAbs p = false) (d p v zipFile : Bytes)
    (hmod : (canonicalVersion v = v ∧ moduleCheck p v = none) ↔ E.modOK p v = true)
    (zs : Nat) (es : List Zip.Entry) (hsz : ∀ e ∈ es, e.declSize < 2 ^ 64) (t : Zip.Target) (fuel : Nat)
    (hfuel : fuelBoundZ K es ≤ fuel) :
    (Generated.Zip.Unzip canonicalVersion (cfpOf E) equalFold moduleCheck simpleFold fuel d ⟨p, v⟩ zipFile
        (world0 d t zs es)).map (fun r => (r.1, r.2.fx.map toEffect)) =
      .ok ((Zip.unzip E d t p v zs es).err.bind (uerrText (modErr canonicalVersion moduleCheck p v) zs),
        (Zip.unzip E d t p v zs es).effects) := by
  unfold Generated.Zip.Unzip Zip.unzip
  by_cases ht : t = .nonEmptyDir
  · subst ht
    simp [world0, targetCode, osReadDir, len_eq, Except.map, uerrText, uerrInner]
  have hrd : osReadDir d (world0 d t zs es) = (([], if targetCode t = 1 then none else some "readdir"), world0 d t zs es) := by
    unfold osReadDir world0
    cases t <;> first | exact absurd rfl ht | simp [targetCode]
  have hopn : osOpen zipFile (world0 d t zs es) = ((osFileOf zs es, none), world0 d t zs es) := rfl
  have htb : (t == Zip.Target.nonEmptyDir) = false := by simpa using ht
  have hcz := checkZip_tie canonicalVersion equalFold moduleCheck simpleFold E K hsf hE hef hrel p v hmod zs es hsz fuel
    hfuel
  replace hmod := (modErr_none_iff canonicalVersion moduleCheck p v).trans hmod
  simp only [hrd, hopn, len_nil, show ¬ ((0 : Int) > 0) by omega, decide_false, Bool.false_eq_true, if_false,
    Option.isNone_none, Bool.not_true, hcz, htb]
  cases hc : Zip.checkZip E p v zs es with
  | error a =>
    have hne : modErr canonicalVersion moduleCheck p v ≠ none := by
      intro h
      have hm := hmod.mp h
      unfold Zip.checkZip at hc
      simp [hm] at hc
      split at hc <;> cases hc
    cases hme : modErr canonicalVersion moduleCheck p v with
    | none => exact absurd hme hne
    | some txt =>
      simp only [bind_ok, Option.isNone_some, Bool.not_false, if_true, Except.map, uerrText, uerrInner,
        Option.bind_some, pure_eq_ok, world0, List.map_nil]
  | ok cf =>
    simp only [bind_ok]
    cases hce : cf.err with
    | some k =>
      cases k <;>
        simp only [Option.map_some, Option.isNone_some, Bool.not_false, if_true, Except.map, uerrText, uerrInner,
          Option.bind_some, pure_eq_ok, world0, List.map_nil, errKindText]
    | none =>
      have hzs : ¬ zs > Zip.MaxZipFile := by
        intro hz
        unfold Zip.checkZip at hc
        rw [if_pos hz] at hc
        split at hc
        · cases hc
        · injection hc with hc
          subst hc
          exact absurd hce (by decide)
      have hrdr : readerOf zs es = { File := es.map toZEntry } := by unfold readerOf; rw [if_neg hzs]
      simp only [Option.map_none, Option.isNone_none, Bool.not_true, Bool.false_eq_true, if_false,
        checkedFiles_Err_emb, hce, hrdr]
      have hmk : osMkdirAll d 511 (world0 d t zs es) =
          if t = .notDir then (some "mkdir: not a directory", world0 d t zs es)
          else (none, { world0 d t zs es with fx := [.mkdirAll d] }) := by
        unfold osMkdirAll world0
        cases t <;> simp [targetCode, fsCreatedFiles]
      by_cases htn : t = .notDir
      · subst htn
        rw [if_pos rfl] at hmk
        simp only [hmk, Option.isNone_some, Bool.not_false, if_true, Except.map, uerrText, uerrInner, pure_eq_ok,
          beq_self_eq_true, Option.bind_some]
        rfl
      · rw [if_neg htn] at hmk
        have htnb : (t == Zip.Target.notDir) = false := by simpa using htn
        simp only [hmk, Option.isNone_none, Bool.not_true, Bool.false_eq_true, if_false, htnb]
        obtain ⟨_, _, hok, _⟩ := ModVerif.Proofs.ZipB.checkZip_ok_spec E p v zs es cf hc hce
        have hw3 : ({ world0 d t zs es with fx := [.mkdirAll d] } : FsW).target ≠ 3 := by
          unfold world0
          cases t <;> first | exact absurd rfl htn | simp [targetCode]
        have hloop := loopU_from (cv := canonicalVersion) (cfp := cfpOf E) (ef := equalFold) (mc := moduleCheck)
          (sf := simpleFold)
          (modErr canonicalVersion moduleCheck p v) zs d { File := es.map toZEntry }
          (p ++ [64] ++ v ++ [47]) es [] fuel { world0 d t zs es with fx := [.mkdirAll d] } hw3
          (fun e he => ⟨(hok e he).hasPrefix, fun hs => ⟨(hok e he).nonneg hs, hsz e he⟩⟩)
          (by unfold fuelBoundZ at hfuel; omega)
        simp only [List.nil_append, List.length_nil] at hloop
        exact (ctl_finish _).trans hloop

/-- the same without the projection: the call returns some error value and world, which are the model's -/
theorem Unzip_tie_result (E : Zip.Env) (K : Nat) (hsf : FoldsTo simpleFold K) (hE : E.toFold = Zip.strToFold)
    (hef : ∀ s, equalFold s Zip.goModName = Zip.equalFoldGoMod s)
    (hrel : ∀ p, E.cfp p = true → PathClean.isAbs p = false) (d p v zipFile : Bytes)
    (hmod : (canonicalVersion v = v ∧ moduleCheck p v = none) ↔ E.modOK p v = true)
    (zs : Nat) (es : List Zip.Entry) (hsz : ∀ e ∈ es, e.declSize < 2 ^ 64) (t : Zip.Target) (fuel : Nat)
    (hfuel : fuelBoundZ K es ≤ fuel) :
    ∃ err w, Generated.Zip.Unzip canonicalVersion (cfpOf E) equalFold moduleCheck simpleFold fuel d ⟨p, v⟩ zipFile
        (world0 d t zs es) = .ok (err, w) ∧
      err = (Zip.unzip E d t p v zs es).err.bind (uerrText (modErr canonicalVersion moduleCheck p v) zs) ∧
      (err = none ↔ (Zip.unzip E d t p v zs es).err = none) ∧
      w.fx.map toEffect = (Zip.unzip E d t p v zs es).effects := by
  have h := Unzip_tie canonicalVersion equalFold moduleCheck simpleFold E K hsf hE hef hrel d p v zipFile hmod zs es hsz
    t fuel hfuel
  cases hu : Generated.Zip.Unzip canonicalVersion (cfpOf E) equalFold moduleCheck simpleFold fuel d ⟨p, v⟩ zipFile
      (world0 d t zs es) with
  | error x => rw [hu] at h; cases h
  | ok r =>
    obtain ⟨err, w⟩ := r
    rw [hu] at h
    simp only [Except.map, Except.ok.injEq, Prod.mk.injEq] at h
    refine ⟨err, w, rfl, h.1, ?_, h.2⟩
    rw [h.1]
    cases (Zip.unzip E d t p v zs es).err with
    | none => simp
    | some k => simp [uerrText, wrapErr]

end

/-- `module.Check` as the driver wraps the model's boolean -/
def mchkOf (mcheck : Bytes → Bytes → Bool) : Bytes → Bytes → Option String :=
  fun p v => if mcheck p v then none else some "badmodule"

theorem fuelBoundZ_le_entriesFuel (es : List Zip.Entry) : fuelBoundZ 1 es ≤ entriesFuel es := by
  unfold fuelBoundZ entriesFuel
  have := maxNameLen_le_sum es
  omega

/-- `Unzip` as the driver (`Drv.GenZipIO.handle`, op `unzip`) runs it: `simpleFoldI`, its fuel, `module.Check` wrapped from
    a boolean, any `canon` — for an environment whose `modOK` is that module check -/
theorem Unzip_tie_driver (E : Zip.Env) (hE : E.toFold = Zip.strToFold) (equalFold : Bytes → Bytes → Bool)
    (hef : ∀ s, equalFold s Zip.goModName = Zip.equalFoldGoMod s)
    (hrel : ∀ p, E.cfp p = true → PathClean.isAbs p = false) (canon : Bytes → Bytes) (mcheck : Bytes → Bytes → Bool)
    (hmod : ∀ p v, E.modOK p v = (decide (canon v = v) && mcheck p v)) (d p v zipFile : Bytes)
    (zs : Nat) (es : List Zip.Entry) (hsz : ∀ e ∈ es, e.declSize < 2 ^ 64) (t : Zip.Target) :
    (Generated.Zip.Unzip canon (cfpOf E) equalFold (mchkOf mcheck) simpleFoldI (entriesFuel es) d ⟨p, v⟩ zipFile
        (world0 d t zs es)).map (fun r => (r.1, r.2.fx.map toEffect)) =
      .ok ((Zip.unzip E d t p v zs es).err.bind (uerrText (modErr canon (mchkOf mcheck) p v) zs),
        (Zip.unzip E d t p v zs es).effects) := by
  apply Unzip_tie canon equalFold (mchkOf mcheck) simpleFoldI E 1 FnZip.foldsTo_simpleFoldI hE hef hrel d p v zipFile _
    zs es hsz t _ (fuelBoundZ_le_entriesFuel es)
  rw [hmod]
  unfold mchkOf
  cases mcheck p v <;> simp

/-- `checkZip` as the driver runs it (op `checkzip`) -/
theorem checkZip_tie_driver (E : Zip.Env) (hE : E.toFold = Zip.strToFold) (equalFold : Bytes → Bytes → Bool)
    (hef : ∀ s, equalFold s Zip.goModName = Zip.equalFoldGoMod s)
    (hrel : ∀ p, E.cfp p = true → PathClean.isAbs p = false) (canon : Bytes → Bytes) (mcheck : Bytes → Bytes → Bool)
    (hmod : ∀ p v, E.modOK p v = (decide (canon v = v) && mcheck p v)) (p v : Bytes)
    (zs : Nat) (es : List Zip.Entry) (hsz : ∀ e ∈ es, e.declSize < 2 ^ 64) :
    Generated.Zip.checkZip canon (cfpOf E) equalFold (mchkOf mcheck) simpleFoldI (entriesFuel es) ⟨p, v⟩
        (osFileOf zs es) =
      match Zip.checkZip E p v zs es with
      | .ok cf => .ok (readerOf zs es, embCFZ (sizeTextOf zs) cf, cf.err.map (errKindText (sizeTextOf zs)))
      | .error _ => .ok (default, default, modErr canon (mchkOf mcheck) p v) := by
  apply checkZip_tie canon equalFold (mchkOf mcheck) simpleFoldI E 1 FnZip.foldsTo_simpleFoldI hE hef hrel p v _
    zs es hsz _ (fuelBoundZ_le_entriesFuel es)
  rw [hmod]
  unfold mchkOf
  cases mcheck p v <;> simp

def exEnv : Zip.Env :=
  { cfp := fun p => !p.isEmpty && (splitOn 47 p).all (fun c => c != [] && c != [46] && c != [46, 46]),
    toFold := Zip.strToFold, modOK := fun _ _ => true }

def exEntries : List Zip.Entry :=
  [⟨B "m@v1/go.mod", 2, B "hi"⟩, ⟨B "m@v1/a/", 0, []⟩, ⟨B "m@v1/a/b.go", 1, B "x"⟩]

/-- a lying size, a name with `..`, a case collision, a go.mod outside the root -/
def exBad : List Zip.Entry :=
  [⟨B "m@v1/a.go", 2, B "x"⟩, ⟨B "m@v1/../x", 1, B "x"⟩, ⟨B "m@v1/A.go", 1, B "y"⟩, ⟨B "m@v1/s/go.mod", 0, []⟩,
   ⟨B "other/x", 0, []⟩]

theorem exEnv_rel : ∀ p, exEnv.cfp p = true → PathClean.isAbs p = false := by
  apply cfpRel_of_cfpSound
  intro p hp c hc
  have h2 : ((splitOn 47 p).all (fun c => c != [] && c != [46] && c != [46, 46])) = true := by
    simp only [exEnv, Bool.and_eq_true] at hp; exact hp.2
  have := List.all_eq_true.mp h2 c hc
  simp at this
  exact ⟨this.1.1, this.1.2, this.2⟩

/-- the generated `checkZip` and the model agree on the examples (both sides evaluated by the kernel) -/
example : Generated.Zip.checkZip id (cfpOf exEnv) (fun a _ => Zip.equalFoldGoMod a) (mchkOf fun _ _ => true) simpleFoldI
      (entriesFuel exBad) ⟨B "m", B "v1"⟩ (osFileOf 100 exBad) =
    match Zip.checkZip exEnv (B "m") (B "v1") 100 exBad with
    | .ok cf => .ok (readerOf 100 exBad, embCFZ (sizeTextOf 100) cf, cf.err.map (errKindText (sizeTextOf 100)))
    | .error _ => .ok (default, default, none) := by decide +kernel

example : (Zip.checkZip exEnv (B "m") (B "v1") 100 exBad).toOption.map (fun cf => embCFZ totalSizeText cf) =
    some { Valid := [B "m@v1/a.go"], Omitted := [],
           Invalid := [⟨B "m@v1/../x", some "filepath"⟩,
             ⟨B "m@v1/A.go", some "case-insensitive file name collision: %q and %q"⟩,
             ⟨B "m@v1/s/go.mod", some "go.mod file not in module root directory"⟩,
             ⟨B "other/x", some "path does not have prefix %q"⟩],
           SizeError := none } := by decide +kernel

/-- a good archive into a missing target: no error, and the effects of the model -/
example : (Generated.Zip.Unzip id (cfpOf exEnv) (fun a _ => Zip.equalFoldGoMod a) (mchkOf fun _ _ => true) simpleFoldI
      (entriesFuel exEntries) (B "t") ⟨B "m", B "v1"⟩ (B "z") (world0 (B "t") .missing 100 exEntries)).map
        (fun r => (r.1, r.2.fx.map toEffect)) =
    .ok (none, [.mkdirAll (B "t"), .mkdirAll (B "t"), .createExcl (B "t/go.mod") (some (B "hi")),
       .mkdirAll (B "t/a"), .createExcl (B "t/a/b.go") (some (B "x"))]) ∧
    (Zip.unzip exEnv (B "t") .missing (B "m") (B "v1") 100 exEntries).err = none := by decide +kernel

/-- a lying size: the file is created, the copy fails -/
example : (Generated.Zip.Unzip id (cfpOf exEnv) (fun a _ => Zip.equalFoldGoMod a) (mchkOf fun _ _ => true) simpleFoldI
      64 (B "t") ⟨B "m", B "v1"⟩ (B "z") (world0 (B "t") .emptyDir 100 [⟨B "m@v1/a.go", 2, B "x"⟩])).map
        (fun r => (r.1, r.2.fx.map toEffect)) =
    .ok (some "zipError|zip: format error",
      [.mkdirAll (B "t"), .mkdirAll (B "t"), .createExcl (B "t/a.go") none]) ∧
    (Zip.unzip exEnv (B "t") .emptyDir (B "m") (B "v1") 100 [⟨B "m@v1/a.go", 2, B "x"⟩]).err = some .contentSize := by
  decide +kernel

/-- a rejected archive, a non-empty target, a target that is a file: nothing is written -/
example : (Generated.Zip.Unzip id (cfpOf exEnv) (fun a _ => Zip.equalFoldGoMod a) (mchkOf fun _ _ => true) simpleFoldI
      (entriesFuel exBad) (B "t") ⟨B "m", B "v1"⟩ (B "z") (world0 (B "t") .missing 100 exBad)).map
        (fun r => (r.1, r.2.fx.map toEffect)) = .ok (some "zipError|FileErrorList", []) ∧
    (Generated.Zip.Unzip id (cfpOf exEnv) (fun a _ => Zip.equalFoldGoMod a) (mchkOf fun _ _ => true) simpleFoldI
      (entriesFuel exEntries) (B "t") ⟨B "m", B "v1"⟩ (B "z") (world0 (B "t") .nonEmptyDir 100 exEntries)).map
        (fun r => (r.1, r.2.fx.map toEffect)) =
      .ok (some "zipError|target directory %v exists and is not empty", []) ∧
    (Generated.Zip.Unzip id (cfpOf exEnv) (fun a _ => Zip.equalFoldGoMod a) (mchkOf fun _ _ => true) simpleFoldI
      (entriesFuel exEntries) (B "t") ⟨B "m", B "v1"⟩ (B "z") (world0 (B "t") .notDir 100 exEntries)).map
        (fun r => (r.1, r.2.fx.map toEffect)) = .ok (some "zipError|mkdir: not a directory", []) := by decide +kernel

/-- the hypotheses of the ties hold for the example environment -/
example : exEnv.toFold = Zip.strToFold ∧ (∀ p, exEnv.cfp p = true → PathClean.isAbs p = false) ∧
    (∀ e ∈ exEntries ++ exBad, e.declSize < 2 ^ 64) :=
  ⟨rfl, exEnv_rel, by decide +kernel⟩

end ModVerif.Tie.FnZipIOUnzip
