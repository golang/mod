/-
  Model of /repo/sumdb/tlog/tile.go as of the `fix:` commits 939e2a3 (`nstx`: the parent-authentication
  loop starts at the number of tree-hash tiles) and da3c0ec (empty tree: return before fetching).

  * Tile data is a list of hashes (`List H`); the byte layer `len(data) == W*HashSize` is the list length.
  * `Tile.L = -1` (data tiles) is the flag `data := true` (then `l = 0`); every other field is a `Nat`
    (negative `H`, `N`, `W` are not representable — the harness never sends them).
  * Go's "no such tile" value `Tile{}` is `Tile.zero`, exactly as in the code (it is used as a map key there).
  * The `tileOrder` map is an association list with the latest binding first (`List.lookup` = map read).
  * `readHashes` is split into `plan` / `authenticate` / `extract`; the environment is
    `serve : Tile → Option (List H)` (`none` = ReadTiles fails); the result records what was passed to
    `SaveTiles` (`saved = none`: SaveTiles was not called).
-/
import ModVerif.Basic.Bytes
import ModVerif.Basic.Decimal
import ModVerif.Model.Tlog
namespace ModVerif.Tile
open ModVerif ModVerif.Tlog

structure Tile where
  h : Nat
  l : Nat
  n : Nat
  w : Nat
  data : Bool := false
  deriving DecidableEq, Repr

/-- Go's `Tile{}` -/
def Tile.zero : Tile := { h := 0, l := 0, n := 0, w := 0 }

section
variable {H : Type}

/-- `tileForIndex(h, index) = (t, start, end)`; `start`/`end` count hashes (the code multiplies by HashSize).
    `h = 0`: integer division by zero in the code (TileForIndex panics explicitly for `h ≤ 0`). -/
def tileForIndex (h index : Nat) : Except Err (Tile × Nat × Nat) :=
  if h == 0 then .error .panic else do
    let (level, n) ← splitStoredHashIndex index
    let L := level / h
    let level := level - L * h                       -- now level within tile
    let N := (n <<< level) >>> h
    let n := n - ((N <<< h) >>> level)               -- now n within tile at level
    let W := (n + 1) <<< level
    pure ({ h := h, l := L, n := N, w := W }, n <<< level, (n + 1) <<< level)

/-- `TileForIndex` -/
def tileForIndexPub (h index : Nat) : Except Err Tile := (tileForIndex h index).map (·.1)

/-- `tileHash(data)`.  Only ever applied to `2^k` hashes (see `hashFromTile`, `authenticate`);
    on other lengths the byte-level code splits inside a hash and panics or returns garbage — the list
    model is not meaningful there. Fuel = length. -/
def tileHashF (node : H → H → H) : Nat → List H → Except Err H
  | 0, _ => .error .panic
  | f + 1, d =>
    match d with
    | [] => .error .panic
    | [x] => .ok x
    | _ => do
      let n := d.length / 2
      let a ← tileHashF node f (d.take n)
      let b ← tileHashF node f (d.drop n)
      pure (node a b)

def tileHash (node : H → H → H) (d : List H) : Except Err H := tileHashF node d.length d

/-- `HashFromTile(t, data, index)` -/
def hashFromTile (node : H → H → H) (t : Tile) (data : List H) (index : Nat) : Except Err H :=
  if t.h < 1 || t.h > 30 || t.data || t.l ≥ 64 || t.w < 1 || t.w > 2 ^ t.h then .error .badTile
  else if data.length < t.w then .error .badTile
  else do
    let (t1, start, end_) ← tileForIndex t.h index
    if t.l != t1.l || t.n != t1.n || t.w < t1.w then .error .badTile
    else tileHash node ((data.take end_).drop start)

/-- the loop body of NewTiles for one level -/
def newTilesLevel (h level old new : Nat) : List Tile :=
  let oldN := old >>> (h * level)
  let newN := new >>> (h * level)
  if oldN == newN then [] else
    let full := (List.range ((newN >>> h) - (oldN >>> h))).map fun i =>
      ({ h := h, l := level, n := (oldN >>> h) + i, w := 2 ^ h } : Tile)
    let n := newN >>> h
    let w := newN - (n <<< h)
    if w > 0 then full ++ [{ h := h, l := level, n := n, w := w }] else full

/-- `for level := uint(0); newTreeSize>>(H*level) > 0; level++` -/
def newTilesF (h old new : Nat) : Nat → Nat → Except Err (List Tile)
  | 0, level => if new >>> (h * level) > 0 then .error .fuel else .ok []
  | f + 1, level =>
    if new >>> (h * level) > 0 then do
      let rest ← newTilesF h old new f (level + 1)
      pure (newTilesLevel h level old new ++ rest)
    else .ok []

/-- `NewTiles(h, oldTreeSize, newTreeSize)`; `h = 0` panics in the code. -/
def newTiles (h old new : Nat) : Except Err (List Tile) :=
  if h == 0 then .error .panic else newTilesF h old new (new.log2 + 2) 0

/-- `ReadTileData(t, r)` (as a list of hashes) -/
def readTileData (t : Tile) (r : HashReader H) : Except Err (List H) :=
  let size := if t.w == 0 then 2 ^ t.h else t.w
  let start := t.n <<< t.h
  let indexes := (List.range size).map fun i => storedHashIndex (t.h * t.l) (start + i)
  readChecked r indexes

/-! ### paths -/

def pathBase : Nat := 1000

/-- `for n >= pathBase { n /= pathBase; nStr = fmt.Sprintf("x%03d/%s", n%pathBase, nStr) }` -/
def pathN : Nat → Nat → Bytes → Bytes
  | 0, _, acc => acc
  | f + 1, n, acc =>
    if n ≥ pathBase then
      let n := n / pathBase
      pathN f n ([120] ++ Decimal.pad3 (n % pathBase) ++ [47] ++ acc)
    else acc

/-- `Tile.Path` -/
def tilePath (t : Tile) : Bytes :=
  let nStr := pathN t.n t.n (Decimal.pad3 (t.n % pathBase))
  let pStr := if t.w != 2 ^ t.h then B ".p/" ++ Decimal.formatNat t.w else []
  let L := if t.data then B "data" else Decimal.formatNat t.l
  B "tile/" ++ Decimal.formatNat t.h ++ [47] ++ L ++ [47] ++ nStr ++ pStr

/-- `strings.TrimPrefix(s, "x")` -/
def trimX : Bytes → Bytes
  | 120 :: rest => rest
  | s => s

/-- the `for _, s := range f` loop of ParseTilePath -/
def parseN : List Bytes → Nat → Option Nat
  | [], n => some n
  | s :: rest, n =>
    match Decimal.parseInt64 (trimX s) with
    | none => none
    | some nn => if nn < 0 || nn ≥ 1000 then none else parseN rest (n * pathBase + nn.toNat)

/-- `ParseTilePath`; `none` = badPathError.
    int64: the code computes `n = n*pathBase + nn` with wrap-around and then rejects the path because
    `t.Path()` of the wrapped value differs from the input; here `n` is unbounded and a value that does not
    fit int64 is rejected directly. -/
def parseTilePath (path : Bytes) : Option Tile :=
  let f := splitOn 47 path
  if f.length < 4 || f[0]? != some (B "tile") then none else
  let h? := (f[1]?).bind Decimal.parseInt64
  let isData := f[2]? == some (B "data")
  let f := if isData then f.set 2 (B "0") else f
  let l? := (f[2]?).bind Decimal.parseInt64
  match h?, l? with
  | some h, some l =>
    if h < 1 || l < 0 || h > 30 then none else
    let w : Int := 2 ^ h.toNat
    let dotP := (f[f.length - 2]?).getD []
    let wf? : Option (Int × List Bytes) :=
      if hasSuffixB dotP (B ".p") then
        match (f[f.length - 1]?).bind Decimal.parseInt64 with
        | none => none
        | some ww =>
          if ww ≤ 0 || ww ≥ w then none
          else some (ww, (f.set (f.length - 2) (dotP.take (dotP.length - 2))).take (f.length - 1))
      else some (w, f)
    match wf? with
    | none => none
    | some (w, f) =>
      match parseN (f.drop 3) 0 with
      | none => none
      | some n =>
        if n ≥ 2 ^ 63 then none else
        let t : Tile := { h := h.toNat, l := if isData then 0 else l.toNat, n := n, w := w.toNat, data := isData }
        if path != tilePath t then none else some t
  | _, _ => none

/-! ### tileHashReader.ReadHashes -/

/-- `tileParent(t, k, n)`; `Tile.zero` = no such parent -/
def tileParent (t : Tile) (k n : Nat) : Tile :=
  let l := t.l + k
  let tn := t.n >>> (k * t.h)
  let w := 2 ^ t.h
  let max := n >>> (l * t.h)
  if (tn <<< t.h) + w ≥ max then
    if (tn <<< t.h) ≥ max then Tile.zero
    else { t with l := l, n := tn, w := max - (tn <<< t.h) }
  else { t with l := l, n := tn, w := w }

structure Plan where
  tiles : List Tile
  order : List (Tile × Nat)       -- the tileOrder map, latest binding first
  stx : List Nat
  stxTileOrder : List Nat
  nstx : Nat
  indexTileOrder : List Nat
  deriving Repr

/-- first planning loop: tiles needed to recompute the tree hash (de-duplicated through the map) -/
def planStx (h N : Nat) : List Nat → List Tile × List (Tile × Nat) × List Nat →
    Except Err (List Tile × List (Tile × Nat) × List Nat)
  | [], acc => .ok acc
  | x :: xs, (tiles, order, sto) => do
    let (tile, _, _) ← tileForIndex h x
    let tile := tileParent tile 0 N
    match order.lookup tile with
    | some j => planStx h N xs (tiles, order, sto ++ [j])
    | none => planStx h N xs (tiles ++ [tile], (tile, tiles.length) :: order, sto ++ [tiles.length])

/-- `for ; ; k++ { p := tileParent(tile, k, N); if j, ok := tileOrder[p]; ok {…break} }`: returns `(k, j)`.
    The Go loop has no bound; fuel exhaustion = the loop would not terminate. -/
def walkUp (N : Nat) (order : List (Tile × Nat)) (tile : Tile) : Nat → Nat → Except Err (Nat × Nat)
  | 0, _ => .error .fuel
  | f + 1, k =>
    match order.lookup (tileParent tile k N) with
    | some j => .ok (k, j)
    | none => walkUp N order tile f (k + 1)

/-- `for k--; k >= 0; k-- {…}`: called with the `k` found by `walkUp`, handles parents `k-1 … 0`.
    State: tiles, order, the index-tile position if it has been set. -/
def walkDown (N : Nat) (tile : Tile) : Nat → List Tile × List (Tile × Nat) × Option Nat →
    Except Err (List Tile × List (Tile × Nat) × Option Nat)
  | 0, st => .ok st
  | k + 1, (tiles, order, ito) =>
    let p := tileParent tile k N
    if p.w != 2 ^ p.h then .error .badMath     -- "bad math in tileHashReader: … must be full"
    else walkDown N tile k (tiles ++ [p], (p, tiles.length) :: order, if k == 0 then some tiles.length else ito)

/-- second planning loop, one requested index -/
def planIndex (h N : Nat) (st : List Tile × List (Tile × Nat) × List Nat) (x : Nat) :
    Except Err (List Tile × List (Tile × Nat) × List Nat) := do
  let (tiles, order, ito) := st
  if x ≥ storedHashIndex 0 N then .error .indexRange
  else do
    let (tile, _, _) ← tileForIndex h x
    let (k, j) ← walkUp N order tile (N.log2 + 2) 0
    let (tiles, order, pos) ← walkDown N tile k (tiles, order, if k == 0 then some j else none)
    match pos with
    | some p => pure (tiles, order, ito ++ [p])
    | none => .error .panic                    -- unreachable: k = 0 sets it above, k > 0 in walkDown

def planIndexes (h N : Nat) : List Nat → List Tile × List (Tile × Nat) × List Nat →
    Except Err (List Tile × List (Tile × Nat) × List Nat)
  | [], st => .ok st
  | x :: xs, st => do
    let st' ← planIndex h N st x
    planIndexes h N xs st'

/-- the planning part of ReadHashes -/
def plan (h N : Nat) (indexes : List Nat) : Except Err Plan := do
  let stx ← subTreeIndex 0 N
  let (tiles, order, sto) ← planStx h N stx ([], [], [])
  let nstx := tiles.length
  let (tiles, order, ito) ← planIndexes h N indexes (tiles, order, [])
  pure { tiles := tiles, order := order, stx := stx, stxTileOrder := sto, nstx := nstx, indexTileOrder := ito }

/-- `HashFromTile(tiles[j], data[j], x)`; a bad `j` is a Go index-out-of-range panic -/
def hashAt (node : H → H → H) (tiles : List Tile) (data : List (List H)) (j x : Nat) : Except Err H :=
  match tiles[j]?, data[j]? with
  | some t, some d => hashFromTile node t d x
  | _, _ => .error .panic

/-- `th = HashFromTile(last); for i := len(stx)-2; i >= 0; i-- { h = HashFromTile(i); th = NodeHash(h, th) }`
    over the (index, tile position) pairs reversed. -/
def stxFold (node : H → H → H) (tiles : List Tile) (data : List (List H)) : List (Nat × Nat) → H → Except Err H
  | [], th => .ok th
  | (x, j) :: rest, th => do
    let h ← hashAt node tiles data j x
    stxFold node tiles data rest (node h th)

/-- "Authenticate full tiles against their parents": tiles `i = nstx + d`, `d < fuel` -/
def authChildren [DecidableEq H] (node : H → H → H) (N : Nat) (p : Plan) (data : List (List H)) : Nat → Nat → Except Err Unit
  | 0, _ => .ok ()
  | f + 1, i =>
    match p.tiles[i]?, data[i]? with
    | some tile, some di =>
      let par := tileParent tile 1 N
      match p.order.lookup par with
      | none => .error .badMath                                   -- "lost parent of"
      | some j =>
        match data[j]? with
        | none => .error .panic
        | some dj =>
          match hashFromTile node par dj (storedHashIndex (par.l * par.h) tile.n) with
          | .error .panic => .error .panic
          | .error .fuel => .error .fuel
          | .error _ => .error .badMath                           -- "lost hash of"
          | .ok h => do
            let th ← tileHash node di
            if h != th then .error .inconsistent
            else authChildren node N p data f (i + 1)
    | _, _ => .error .panic

/-- the authentication part of ReadHashes -/
def authenticate [DecidableEq H] (node : H → H → H) (N : Nat) (treeHash : H) (p : Plan) (data : List (List H)) :
    Except Err Unit := do
  match (p.stx.zip p.stxTileOrder).reverse with
  | [] => .error .panic                        -- stx[len(stx)-1] with len(stx) = 0 (N = 0)
  | (x, j) :: rest =>
    let th ← hashAt node p.tiles data j x
    let th ← stxFold node p.tiles data rest th
    if th != treeHash then .error .inconsistent
    else authChildren node N p data (p.tiles.length - p.nstx) p.nstx

/-- "Pull out the requested hashes." -/
def extract (node : H → H → H) (p : Plan) (data : List (List H)) : List (Nat × Nat) → Except Err (List H)
  | [] => .ok []
  | (x, j) :: rest =>
    match hashAt node p.tiles data j x with
    | .error .panic => .error .panic
    | .error .fuel => .error .fuel
    | .error _ => .error .badMath                                 -- "lost hash"
    | .ok h => do
      let hs ← extract node p data rest
      pure (h :: hs)

structure ReadOut (H : Type) where
  saved : Option (List (Tile × List H))      -- arguments of SaveTiles, `none` if it was not called
  result : Except Err (List H)

/-- the `len(data[i]) != tile.W*HashSize` check -/
def widthsOk : List Tile → List (List H) → Bool
  | [], [] => true
  | t :: ts, d :: ds => d.length == t.w && widthsOk ts ds
  | _, _ => false

/-- `tileHashReader.ReadHashes(indexes)` for tree `(N, treeHash)`, tile height `h`, environment `serve`. -/
def readHashes [DecidableEq H] (node : H → H → H) (N : Nat) (treeHash : H) (h : Nat) (indexes : List Nat)
    (serve : Tile → Option (List H)) : ReadOut H :=
  match plan h N indexes with
  | .error e => { saved := none, result := .error e }
  | .ok p =>
    -- `if len(stx) == 0 { return make([]Hash, len(indexes)), nil }` (fix da3c0ec): the tree is empty, so every
    -- index was rejected by `plan` and `indexes = []` here (`Tile.plan_stx_nil`, Proofs/TileAuthPlan.lean): the result is `[]`.
    if p.stx.isEmpty then { saved := none, result := .ok [] } else
    match p.tiles.mapM serve with
    | none => { saved := none, result := .error .reader }
    | some data =>
      if !widthsOk p.tiles data then { saved := none, result := .error .badTile } else
      match authenticate node N treeHash p data with
      | .error e => { saved := none, result := .error e }
      | .ok () =>
        { saved := some (p.tiles.zip data)
          result := extract node p data (indexes.zip p.indexTileOrder) }

/-- the honest environment over the true store -/
def trueTile (store : List H) (t : Tile) : Option (List H) :=
  match readTileData t (storeReader store) with
  | .ok d => some d
  | .error _ => none

end
end ModVerif.Tile
