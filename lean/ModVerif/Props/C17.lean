/-
  C17 — which files belong in a module zip is a fixed function of the tree.
  Property theorems only; helper lemmas live in ModVerif/Proofs/Zip*.lean.  All theorems hold for every
  environment `E` (CheckFilePath, strToFold, module check are parameters of the model).
-/
import ModVerif.Spec.ZipSpec
import ModVerif.Proofs.ZipCheckFiles
import ModVerif.Proofs.ZipNameOK
import ModVerif.Proofs.ZipSubmodule
import ModVerif.Proofs.ZipASpec
import ModVerif.Proofs.ZipAClassify
import ModVerif.Proofs.ZipAVendor
import ModVerif.Proofs.ZipAPerm
import ModVerif.Proofs.ZipADir
import ModVerif.Proofs.BytesLit
namespace ModVerif.Props.C17
open ModVerif ModVerif.PathClean ModVerif.Zip ModVerif.ZipSpec ModVerif.Proofs.Zip

/-- Every file given to the file check lands in exactly one of valid, omitted or invalid: for a list
    without repeated paths, the paths reported (valid, then omitted, then invalid) are a permutation of
    the paths given.  (With repeated paths this fails: observation O2, see `checkFiles_duplicates`.) -/
theorem checkFiles_partition (E : Env) (files : List FileInfo) (ge124 : Bool)
    (hnd : (files.map (·.path)).Nodup) :
    (reported (checkFiles E files ge124)).Perm (files.map (·.path)) :=
  Proofs.ZipA.checkFilesSt_reported_perm E ge124 files hnd

/-- the same for the go version the function derives itself from the root go.mod of the list -/
theorem checkFilesV_partition (E : Env) (files : List FileInfo) (hnd : (files.map (·.path)).Nodup) :
    (reported (checkFilesV E files)).Perm (files.map (·.path)) :=
  checkFiles_partition E files (goVers files) hnd

/-- hence no path is reported twice, in one list or in two of them. -/
theorem checkFiles_reported_nodup (E : Env) (files : List FileInfo) (ge124 : Bool)
    (hnd : (files.map (·.path)).Nodup) : (reported (checkFiles E files ge124)).Nodup :=
  (checkFiles_partition E files ge124 hnd).nodup_iff.mpr hnd

/-- and every given file is reported exactly once. -/
theorem checkFiles_exactly_once (E : Env) (files : List FileInfo) (ge124 : Bool)
    (hnd : (files.map (·.path)).Nodup) (f : FileInfo) (hf : f ∈ files) :
    (reported (checkFiles E files ge124)).count f.path = 1 := by
  rw [(checkFiles_partition E files ge124 hnd).count_eq]
  rw [List.Nodup.count hnd, if_pos (List.mem_map_of_mem (f := fun x : FileInfo => x.path) hf)]


/-- Nested modules: the test `inSubmodule` of the file check holds for a path exactly when one of its
    proper directory prefixes (ending in a slash) is a module root of the list, i.e. holds a regular
    file named go.mod in any case. -/
theorem submodule_rule (files : List FileInfo) (p : Bytes) :
    inSubmodule (prePass files).haveGoMod p = true ↔ ∃ d ∈ dirPrefixes p, IsModuleDir files d :=
  inSubmodule_iff files p

/-- the directory prefixes of a path are exactly its prefixes that end in a slash -/
theorem dirPrefixes_spec (p d : Bytes) : d ∈ dirPrefixes p ↔ ∃ a b, p = a ++ 47 :: b ∧ d = a ++ [47] :=
  mem_dirPrefixes_iff p d

/-- Everything reported as valid is a regular file of the input whose path is clean, relative,
    accepted by `CheckFilePath`, not in a vendored package (for the given go version), not inside a
    nested module, not `.hg_archival.txt`, not a mis-cased or misplaced go.mod, and within the go.mod /
    LICENSE size limits. -/
theorem valid_files_rules (E : Env) (files : List FileInfo) (ge124 : Bool) :
    ∀ p ∈ (checkFiles E files ge124).valid, ∃ f ∈ files, f.path = p ∧ f.mode = .regular ∧
      pathClean p = p ∧ isAbs p = false ∧ isVendoredPackage p ge124 = false ∧
      (¬ ∃ d ∈ dirPrefixes p, IsModuleDir files d) ∧ p ≠ hgArchivalName ∧ E.cfp p = true ∧
      (equalFoldGoMod (lastElem p) = true → p = goModName) ∧
      (p = goModName → f.size ≤ MaxGoMod) ∧ (p = licenseName → f.size ≤ MaxLICENSE) := by
  intro p hp
  obtain ⟨hv1, hv2⟩ := checkFilesSt_validFiles E ge124 files
  have hinv := checkFilesSt_validInv E ge124 files
  have hp' : p ∈ (checkFilesSt E files ge124).cf.valid := hp
  rw [hv2] at hp'
  obtain ⟨f, hf, rfl⟩ := List.mem_map.mp hp'
  have ok := hinv.nameOK f hf
  refine ⟨f, (hv1 f hf).1, rfl, ok.regular, ok.clean, ok.notAbs, ok.notVendored, ?_, ok.notHg, ok.cfp,
    valid_goMod_is_root E ge124 files f (hv1 f hf).1 ok, ok.goModSize, ok.licenseSize⟩
  intro hsub
  have := (inSubmodule_iff files f.path).mpr hsub
  rw [ok.notInSubmodule] at this; cases this

/-- no two valid files have the same case-folded path -/
theorem valid_files_fold_distinct (E : Env) (files : List FileInfo) (ge124 : Bool) :
    (checkFiles E files ge124).valid.Pairwise (fun a b => E.toFold a ≠ E.toFold b) := by
  obtain ⟨_, hv2⟩ := checkFilesSt_validFiles E ge124 files
  have hinv := checkFilesSt_validInv E ge124 files
  show (checkFilesSt E files ge124).cf.valid.Pairwise _
  rw [hv2, List.pairwise_map]
  exact hinv.foldDistinct

/-- The vendoring rule in its two variants on the documented examples (golang.org/issue/37397):
    `vendor/modules.txt` is omitted only from go 1.24 on; `pkg/vendor/vendor.go` was (wrongly) taken for
    vendored before go 1.24 and is kept from 1.24 on; `pkg/vendor/foo/foo.go` and `vendor/a/b.go` are
    vendored in both; `vendor/x.go` in neither. -/
theorem vendor_rule_examples :
    isVendoredPackage (B "vendor/modules.txt") true = true ∧ isVendoredPackage (B "vendor/modules.txt") false = false ∧
    isVendoredPackage (B "pkg/vendor/vendor.go") false = true ∧ isVendoredPackage (B "pkg/vendor/vendor.go") true = false ∧
    isVendoredPackage (B "pkg/vendor/foo/foo.go") false = true ∧ isVendoredPackage (B "pkg/vendor/foo/foo.go") true = true ∧
    isVendoredPackage (B "vendor/a/b.go") false = true ∧ isVendoredPackage (B "vendor/a/b.go") true = true ∧
    isVendoredPackage (B "vendor/x.go") false = false ∧ isVendoredPackage (B "vendor/x.go") true = false := by
  decide_bytes

/-- Observation O2: with a path listed three times, the third occurrence appears in none of the three
    lists (the error reports are de-duplicated by path), so the partition needs duplicate-free input. -/
theorem checkFiles_duplicates :
    let E : Env := { cfp := fun p => !p.isEmpty, toFold := lowerAscii, modOK := fun _ _ => true }
    let f : FileInfo := ⟨B "a.go", .regular, 1, B "x", false⟩
    reported (checkFiles E [f, f, f] false) = [B "a.go", B "a.go"] := by
  decide +kernel

/-! ### non-vacuity -/

def exEnv : Env := { cfp := fun p => !p.isEmpty, toFold := lowerAscii, modOK := fun _ _ => true }

def exFiles : List FileInfo :=
  [⟨B "go.mod", .regular, 2, B "hi", false⟩, ⟨B "a/b.go", .regular, 1, B "x", false⟩, ⟨B "a/B.go", .regular, 1, B "x", false⟩,
   ⟨B "sub/go.mod", .regular, 0, [], false⟩, ⟨B "sub/c.go", .regular, 1, B "y", false⟩,
   ⟨B "vendor/p/q.go", .regular, 1, B "z", false⟩, ⟨B "link", .symlink, 0, [], false⟩, ⟨B "./x", .regular, 0, [], false⟩]

example : (exFiles.map (·.path)).Nodup := by decide +kernel

example : checkFiles exEnv exFiles false =
    { valid := [B "go.mod", B "a/b.go"],
      omitted := [(B "sub/go.mod", .submoduleFile), (B "sub/c.go", .submoduleFile), (B "vendor/p/q.go", .vendored), (B "link", .symlink)],
      invalid := [(B "a/B.go", .caseCollision), (B "./x", .notClean)], sizeError := false } := by decide +kernel

example : IsModuleDir exFiles (B "sub/") := ⟨⟨B "sub/go.mod", .regular, 0, [], false⟩, by decide +kernel, rfl, by decide +kernel, by decide +kernel⟩


/-! ### the classification is the documented rules (`ZipSpec.classify`, Proofs/ZipASpec.lean) -/

/-- Which list a file lands in is determined only by the documented rules: for a list without repeated
    paths, every file `f` (preceded in the list by `pre`) is reported in the list, and with the reason,
    that `ZipSpec.classify` gives — the first applicable rule, in the documented order, over its path,
    mode and size, the go version flag, the module roots of the list and the paths registered by `pre`:
    a go.mod that cannot be examined, unclean, absolute → invalid; vendored (variant by `ge124`), below a
    module root, `.hg_archival.txt` → omitted; rejected by CheckFilePath, mis-cased go.mod, lstat error →
    invalid; collision of the path or one of its parent directories with what the earlier files
    registered (different path with the same case-folded form / file vs directory / same file twice) →
    invalid, blamed on the later file; symlink, irregular → omitted; oversized go.mod / LICENSE →
    invalid; otherwise valid.  Nothing else is reported (parts 2–4; with `checkFiles_partition`: each path
    exactly once).  The size error is set exactly when one of the files that reach the size rules
    (`Class.sized`: valid, or oversized go.mod / LICENSE) has a negative size or their total exceeds
    `MaxZipFile`; no file is blamed for it. -/
theorem checkFiles_eq_classify (E : Env) (files : List FileInfo) (ge124 : Bool)
    (hnd : (files.map (·.path)).Nodup) :
    (∀ pre f post, files = pre ++ f :: post →
      match classify E ge124 files pre f with
      | .valid => f.path ∈ (checkFiles E files ge124).valid
      | .omitted r => (f.path, r) ∈ (checkFiles E files ge124).omitted
      | .invalid r => (f.path, r) ∈ (checkFiles E files ge124).invalid) ∧
    (∀ p ∈ (checkFiles E files ge124).valid, ∃ pre f post, files = pre ++ f :: post ∧ f.path = p ∧
      classify E ge124 files pre f = .valid) ∧
    (∀ p r, (p, r) ∈ (checkFiles E files ge124).omitted → ∃ pre f post, files = pre ++ f :: post ∧ f.path = p ∧
      classify E ge124 files pre f = .omitted r) ∧
    (∀ p r, (p, r) ∈ (checkFiles E files ge124).invalid → ∃ pre f post, files = pre ++ f :: post ∧ f.path = p ∧
      classify E ge124 files pre f = .invalid r) ∧
    ((checkFiles E files ge124).sizeError = true ↔
      (∃ x ∈ sizedSizes (classifyAll E ge124 files), x < 0) ∨
      (MaxZipFile : Int) < (sizedSizes (classifyAll E ge124 files)).sum) :=
  Proofs.ZipA.checkFiles_eq_classify E files ge124 hnd

/-- `classifyAll` (used for the size rule above) lists every file with its `classify` -/
theorem classifyAll_spec (E : Env) (ge124 : Bool) (files : List FileInfo) (f : FileInfo) (c : Class) :
    (f, c) ∈ classifyAll E ge124 files ↔
      ∃ pre post, files = pre ++ f :: post ∧ c = classify E ge124 files pre f :=
  Proofs.ZipA.mem_classifyAll E ge124 files f c

/-- The same in list form: the valid and omitted lists are, in order, the files classified valid resp.
    omitted; the invalid list is the unreadable go.mod files (first loop) followed by the other files
    classified invalid, in order. -/
theorem checkFiles_lists (E : Env) (files : List FileInfo) (ge124 : Bool) (hnd : (files.map (·.path)).Nodup) :
    (checkFiles E files ge124).valid =
      ((classifyAll E ge124 files).filter (fun x => x.2 = .valid)).map (·.1.path) ∧
    (checkFiles E files ge124).omitted = (classifyAll E ge124 files).filterMap Proofs.ZipA.oOf ∧
    (checkFiles E files ge124).invalid =
      (files.filter goModUnreadable).map (fun f => (f.path, Reason.lstat)) ++
        (classifyAll E ge124 files).filterMap Proofs.ZipA.iOf := by
  obtain ⟨_, s2, s3, s4, _⟩ := Proofs.ZipA.checkFilesSt_spec E files ge124 hnd
  refine ⟨?_, s3, s4⟩
  show (checkFilesSt E files ge124).cf.valid = _
  rw [s2]
  generalize classifyAll E ge124 files = cl
  induction cl with
  | nil => rfl
  | cons x t ih =>
    obtain ⟨f, c⟩ := x
    cases c <;> simp [List.filterMap_cons, Proofs.ZipA.vOf] at ih ⊢ <;> exact ih

/-- The vendoring rule, general form: the test of the file check is the documented rule, in the
    go ≥ 1.24 variant (`vendor/modules.txt`, or a slash after a `vendor/` that starts the name or follows
    a slash) and in the variant before go 1.24 (below a top-level `vendor/` as above; for an interior
    `/vendor/` the package part is taken to start at byte 8 of the name, wherever the `/vendor/` is:
    golang.org/issue/37397). -/
theorem vendor_rule (name : Bytes) :
    (isVendoredPackage name true = true ↔ Vendored124 name) ∧
    (isVendoredPackage name false = true ↔ VendoredPre124 name) :=
  ⟨Proofs.ZipA.vendor_rule_ge124 name, Proofs.ZipA.vendor_rule_pre124 name⟩

/-- a reason that reports a collision -/
def CollisionReason (r : Reason) : Prop := r = .caseCollision ∨ r = .fileAndDir ∨ r = .multiple

/-- The report does not depend on the order of the list: for a list without repeated paths whose
    report has no collision error, every permutation of the list yields the same valid, omitted and
    invalid files (the lists are permutations of each other) and the same size error. -/
theorem checkFiles_perm (E : Env) (files files' : List FileInfo) (ge124 : Bool) (hp : files'.Perm files)
    (hnd : (files.map (·.path)).Nodup)
    (hnc : ∀ p r, (p, r) ∈ (checkFiles E files ge124).invalid → ¬ CollisionReason r) :
    (checkFiles E files' ge124).valid.Perm (checkFiles E files ge124).valid ∧
    (checkFiles E files' ge124).omitted.Perm (checkFiles E files ge124).omitted ∧
    (checkFiles E files' ge124).invalid.Perm (checkFiles E files ge124).invalid ∧
    (checkFiles E files' ge124).sizeError = (checkFiles E files ge124).sizeError :=
  Proofs.ZipA.checkFiles_perm E files files' ge124 hp hnd hnc

/-- the same for the function as Go computes it: the go version flag, taken from the file whose path is
    `go.mod`, does not depend on the order either -/
theorem checkFilesV_perm (E : Env) (files files' : List FileInfo) (hp : files'.Perm files)
    (hnd : (files.map (·.path)).Nodup)
    (hnc : ∀ p r, (p, r) ∈ (checkFilesV E files).invalid → ¬ CollisionReason r) :
    (checkFilesV E files').valid.Perm (checkFilesV E files).valid ∧
    (checkFilesV E files').omitted.Perm (checkFilesV E files).omitted ∧
    (checkFilesV E files').invalid.Perm (checkFilesV E files).invalid ∧
    (checkFilesV E files').sizeError = (checkFilesV E files).sizeError :=
  Proofs.ZipA.checkFilesV_perm E files files' hp hnd hnc

/-! ### non-vacuity of the classification theorems -/

/-- the classes of the example list: every kind of rule occurs (the collision is blamed on `a/B.go`) -/
example : (classifyAll exEnv false exFiles).map (·.2) =
    [.valid, .valid, .invalid .caseCollision, .omitted .submoduleFile, .omitted .submoduleFile,
     .omitted .vendored, .omitted .symlink, .invalid .notClean] := by decide +kernel

def exFilesNoColl : List FileInfo :=
  [⟨B "go.mod", .regular, 2, B "hi", false⟩, ⟨B "a/b.go", .regular, 1, B "x", false⟩,
   ⟨B "vendor/p/q.go", .regular, 1, B "z", false⟩, ⟨B "link", .symlink, 0, [], false⟩]

/-- hypotheses of `checkFiles_perm` on an example: distinct paths, no collision error, a permutation -/
example : (exFilesNoColl.map (·.path)).Nodup ∧
    (∀ p r, (p, r) ∈ (checkFiles exEnv exFilesNoColl false).invalid → ¬ CollisionReason r) ∧
    exFilesNoColl.reverse.Perm exFilesNoColl := by
  refine ⟨by decide +kernel, ?_, List.reverse_perm _⟩
  have : (checkFiles exEnv exFilesNoColl false).invalid = [] := by decide +kernel
  intro p r h; rw [this] at h; cases h


/-- the hypothesis of `checkFilesV_perm` on the same example -/
example : ∀ p r, (p, r) ∈ (checkFilesV exEnv exFilesNoColl).invalid → ¬ CollisionReason r := by
  have : (checkFilesV exEnv exFilesNoColl).invalid = [] := by decide +kernel
  intro p r h; rw [this] at h; cases h

/-! ### directory tree vs list of its files -/

/-- For a directory tree made only of regular files and directories, with ordinary names (no empty, `.`
    or `..` name, no slash in a name, sibling names distinct: `WFChildren`, as every real directory) and
    containing no VCS metadata directory, and with `g` the go version flag of its root go.mod: the
    directory check and the check of the list of all its files (`allFiles`, in walk order) report the
    same valid files, the same invalid files, the same size error and the same error; and creating from
    the directory and creating from that list succeed or fail together, with the same entries (the same
    files with the same content).  (`listFilesInDir` leaves out vendored files and the contents of nested
    module directories; the list check omits exactly these anyway.) -/
theorem dir_vs_list (E : Env) (mpath mvers : Bytes) (g : Bool) (t : List (Bytes × Node)) (hw : WFChildren t)
    (hg : g = goVers (allFiles t)) :
    (checkDir E g t).valid = (checkFilesV E (allFiles t)).valid ∧
    (checkDir E g t).invalid = (checkFilesV E (allFiles t)).invalid ∧
    (checkDir E g t).sizeError = (checkFilesV E (allFiles t)).sizeError ∧
    (checkDir E g t).err = (checkFilesV E (allFiles t)).err ∧
    createFromDir E mpath mvers g t = create E mpath mvers (allFiles t) :=
  Proofs.ZipA.dir_vs_list E mpath mvers g t hw hg

/-- the files of such a tree are regular and have clean, relative, pairwise distinct paths -/
theorem allFiles_wellformed (t : List (Bytes × Node)) (hw : WFChildren t) :
    ((allFiles t).map (·.path)).Nodup ∧
    ∀ f ∈ allFiles t, f.mode = .regular ∧ pathClean f.path = f.path ∧ isAbs f.path = false :=
  Proofs.ZipA.allFiles_facts t hw

def exTree : List (Bytes × Node) :=
  [(B "a", .dir [(B "b.go", .file .regular 1 (B "x") false)]),
   (B "go.mod", .file .regular 2 (B "hi") false),
   (B "sub", .dir [(B "c.go", .file .regular 1 (B "y") false), (B "go.mod", .file .regular 0 [] false)]),
   (B "vendor", .dir [(B "p", .dir [(B "q.go", .file .regular 1 (B "z") false)])])]

/-- the hypotheses of `dir_vs_list` on an example tree with a nested module and a vendored package, and
    what both sides evaluate to -/
example : WFChildren exTree ∧ false = goVers (allFiles exTree) ∧
    (allFiles exTree).map (·.path) = [B "a/b.go", B "go.mod", B "sub/c.go", B "sub/go.mod", B "vendor/p/q.go"] ∧
    (listFilesInDir false exTree).files.map (·.path) = [B "a/b.go", B "go.mod"] ∧
    (checkDir exEnv false exTree).valid = [B "a/b.go", B "go.mod"] := by
  refine ⟨?_, by decide +kernel, by decide +kernel, by decide +kernel, by decide +kernel⟩
  simp only [exTree, WFChildren, WFNode, NormalElem, Node.isDir, List.forall_mem_cons, List.not_mem_nil,
    false_imp_iff, implies_true, true_imp_iff, and_true]
  repeat' apply And.intro
  all_goals decide +kernel

end ModVerif.Props.C17
