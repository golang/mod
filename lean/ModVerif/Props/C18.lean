/-
  C18 — pseudo-versions round-trip and sort between their base and the next release.
  Property theorems only (plus non-vacuity examples); helper lemmas live in ModVerif/Proofs/Pseudo*.lean.

  Vocabulary (ModVerif/Spec/PseudoSpec.lean): `Num d` — a decimal number without leading zeros;
  `decValue d` — its value; `Ts ts` — fourteen digits; `Rev rev` — non-empty, letters and digits;
  `MajorArg major` — "" or "v" and a number.  The commit time enters as the string
  `ts = t.UTC().Format("20060102150405")`; `fmtTime`/`formatUnix` (compared with Go's time package in
  the correspondence) produce it from civil fields / a Unix second.
-/
import ModVerif.Proofs.PseudoFinal
import ModVerif.Proofs.PseudoTime
import ModVerif.Proofs.PseudoCivil
namespace ModVerif.Props.C18
open ModVerif ModVerif.PseudoSpec ModVerif.Proofs.Pseudo
open ModVerif.Pseudo hiding isDigit isAlnum

/-! The admissible (major, base) pairs are written out in each statement:
    `Semver.isValid older = true` (a valid base version; `major` is then ignored by PseudoVersion), or
    `older = [] ∧ MajorArg major` (no base, and a major version prefix). -/

/-! ## incDecimal / decDecimal -/

/-- incDecimal on a number of any length: no panic, the value grows by exactly one, and the result is
    again a number without leading zeros. -/
theorem incDecimal_spec (d : Bytes) (hd : Num d) :
    ∃ r, incDecimal d = some r ∧ decValue r = decValue d + 1 ∧ Num r := by
  obtain ⟨r, h1, h2, h3, _, _⟩ := incDecimal_num hd
  exact ⟨r, h1, h3, h2⟩

/-- decDecimal undoes incDecimal. -/
theorem decDecimal_incDecimal (d : Bytes) (hd : Num d) :
    ∃ r, incDecimal d = some r ∧ decDecimal r = d := by
  obtain ⟨r, h1, _, _, _, h5⟩ := incDecimal_num hd
  exact ⟨r, h1, h5⟩

example : Num [49, 57, 57] ∧ incDecimal [49, 57, 57] = some [50, 48, 48] := by decide          -- "199" ↦ "200"
example : Num (List.replicate 40 57) ∧ (incDecimal (List.replicate 40 57)).map List.length = some 41 := by decide

/-! ## the generated pseudo-version is valid and recognised -/

/-- PseudoVersion never panics on admissible inputs, and its result is a valid version that
    IsPseudoVersion recognises. -/
theorem pseudo_valid_and_recognised (major older ts rev : Bytes)
    (hbase : Semver.isValid older = true ∨ (older = [] ∧ MajorArg major)) (hts : Ts ts) (hrev : Rev rev) :
    ∃ pv, pseudoVersion major older ts rev = .ok pv ∧ Semver.isValid pv = true ∧ isPseudoVersion pv = true :=
  valid_recognised_aux hbase hts hrev

/-- "v1.2.9-rc.1+incompatible", "20231114221320", "abc123" -/
example : Semver.isValid [118, 49, 46, 50, 46, 57, 45, 114, 99, 46, 49, 43, 105, 110, 99, 111, 109, 112, 97, 116, 105, 98, 108, 101] = true
    ∧ Ts [50, 48, 50, 51, 49, 49, 49, 52, 50, 50, 49, 51, 50, 48] ∧ Rev [97, 98, 99, 49, 50, 51] :=
  ⟨by decide, by decide, by decide⟩
/-- no base, major "v2" -/
example : MajorArg [118, 50] := Or.inr ⟨[50], by decide, rfl⟩

/-! ## round trip -/

/-- From the generated pseudo-version, PseudoVersionBase recovers the canonical base with its build
    suffix (the empty string when there is no base), PseudoVersionRev the revision, and
    PseudoVersionTime the time stamp (it fails exactly when the fourteen digits are not a date and time). -/
theorem pseudo_roundtrip (major older ts rev : Bytes)
    (hbase : Semver.isValid older = true ∨ (older = [] ∧ MajorArg major)) (hts : Ts ts) (hrev : Rev rev) :
    ∃ pv, pseudoVersion major older ts rev = .ok pv ∧
      pseudoVersionBase pv = .ok (Semver.canonical older ++ Semver.build older) ∧
      pseudoVersionRev pv = .ok rev ∧
      pseudoVersionTime pv = (if timeValid ts then .ok ts else .error .time) :=
  roundtrip_aux hbase hts hrev

/-! ## ordering -/

/-- The pseudo-version sorts strictly after its base and strictly before the next release: for a release
    base vX.Y.Z that is vX.Y.(Z+1) (`z` is any number with value Z+1 — there is exactly one, and incDecimal
    computes it, see `incDecimal_spec`), for a prerelease base vX.Y.Z-pre it is vX.Y.Z. -/
theorem pseudo_between (major older ts rev : Bytes) (p : Semver.Parsed)
    (hp : Semver.parse older = some p) (hts : Ts ts) (hrev : Rev rev) :
    ∃ pv, pseudoVersion major older ts rev = .ok pv ∧ Semver.compare older pv = -1 ∧
      (p.prerelease = [] → ∀ z, Num z → decValue z = decValue p.patch + 1 →
          Semver.compare pv (118 :: p.major ++ 46 :: p.minor ++ 46 :: z) = -1) ∧
      (p.prerelease ≠ [] → Semver.compare pv (118 :: p.major ++ 46 :: p.minor ++ 46 :: p.patch) = -1) :=
  between_aux hp hts hrev

/-- "v1.2.9" parses, with an empty prerelease -/
example : ∃ p, Semver.parse [118, 49, 46, 50, 46, 57] = some p ∧ p.prerelease = [] := ⟨_, rfl, rfl⟩
/-- "v1.2.9-rc" parses, with a non-empty prerelease -/
example : ∃ p, Semver.parse [118, 49, 46, 50, 46, 57, 45, 114, 99] = some p ∧ p.prerelease ≠ [] := ⟨_, rfl, by decide⟩

/-- A pseudo-version with no base sorts strictly below vX.0.0 (X = 0 when major is ""). -/
theorem pseudo_nobase_below (major ts rev : Bytes) (hm : MajorArg major) (hts : Ts ts) (hrev : Rev rev) :
    ∃ pv, pseudoVersion major [] ts rev = .ok pv ∧
      Semver.compare pv ((if major = [] then [118, 48] else major) ++ [46, 48, 46, 48]) = -1 :=
  nobase_aux hm hts hrev

/-- For the same (major, base), an earlier time stamp gives a strictly lower pseudo-version, whatever the
    two revisions are. -/
theorem pseudo_time_mono (major older ts1 ts2 rev1 rev2 : Bytes) (hbase : Semver.isValid older = true ∨ (older = [] ∧ MajorArg major))
    (h1 : Ts ts1) (h2 : Ts ts2) (r1 : Rev rev1) (r2 : Rev rev2) (hlt : bytesLt ts1 ts2 = true) :
    ∃ pv1 pv2, pseudoVersion major older ts1 rev1 = .ok pv1 ∧ pseudoVersion major older ts2 rev2 = .ok pv2 ∧
      Semver.compare pv1 pv2 = -1 :=
  time_mono_aux hbase h1 h2 r1 r2 hlt

/-- two stamps one second apart, the earlier one with the "larger" revision -/
example : bytesLt [50, 48, 50, 51, 49, 49, 49, 52, 50, 50, 49, 51, 49, 57] [50, 48, 50, 51, 49, 49, 49, 52, 50, 50, 49, 51, 50, 48] = true
    ∧ Rev [122, 122] ∧ Rev [48] := by decide

/-! ## the time stamp -/

/-- The layout is fixed-width and zero-padded: for civil times in range (year below 10000) the result is a
    time stamp, and the order of instants is the bytewise order of their stamps. -/
theorem fmtTime_mono (Y M D h m s Y' M' D' h' m' s' : Nat)
    (hr : Y < 10000 ∧ M < 100 ∧ D < 100 ∧ h < 100 ∧ m < 100 ∧ s < 100)
    (hr' : Y' < 10000 ∧ M' < 100 ∧ D' < 100 ∧ h' < 100 ∧ m' < 100 ∧ s' < 100) :
    Ts (fmtTime Y M D h m s) ∧
    (bytesLt (fmtTime Y M D h m s) (fmtTime Y' M' D' h' m' s') = true ↔
      civilLt (Y, M, D, h, m, s) (Y', M', D', h', m', s')) :=
  fmtTime_mono_aux hr hr'

example : civilLt (1999, 12, 31, 23, 59, 59) (2000, 1, 1, 0, 0, 0) := by decide

/-- The stamp of every real date and time of day (proleptic Gregorian, year below 10000) passes the range
    validation that PseudoVersionTime applies (time.Parse), so `pseudo_roundtrip` returns it. -/
theorem timeValid_fmtTime (Y M D h m s : Nat) (hY : Y < 10000) (hM : 1 ≤ M ∧ M ≤ 12)
    (hD : 1 ≤ D ∧ D ≤ daysIn M Y) (hh : h < 24) (hm : m < 60) (hs : s < 60) :
    timeValid (fmtTime Y M D h m s) = true :=
  timeValid_fmtTime_aux hY hM hD hh hm hs

example : (1 ≤ 29 ∧ 29 ≤ daysIn 2 2024) ∧ ¬ (29 ≤ daysIn 2 1900) := by decide

/-- Every instant whose UTC year is 0001–9999 (Unix seconds -62135596800 … 253402300799) has civil fields in
    range, so its stamp `formatUnix secs` is `fmtTime` of in-range fields: a `Ts`, ordered as `fmtTime_mono` says. -/
theorem civilFromUnix_range (secs : Int) (h1 : -62135596800 ≤ secs) (h2 : secs ≤ 253402300799) :
    1 ≤ (civilFromUnix secs).1 ∧ (civilFromUnix secs).1 ≤ 9999 ∧
    1 ≤ (civilFromUnix secs).2.1 ∧ (civilFromUnix secs).2.1 ≤ 12 ∧
    1 ≤ (civilFromUnix secs).2.2.1 ∧ (civilFromUnix secs).2.2.1 ≤ 31 ∧
    (civilFromUnix secs).2.2.2.1 < 24 ∧ (civilFromUnix secs).2.2.2.2.1 < 60 ∧ (civilFromUnix secs).2.2.2.2.2 < 60 :=
  civilFromUnix_range_aux secs h1 h2

/-- the stamp of an instant in years 0001–9999 is a time stamp in the sense of the theorems above -/
theorem formatUnix_ts (secs : Int) (h1 : -62135596800 ≤ secs) (h2 : secs ≤ 253402300799) : Ts (formatUnix secs) := by
  have hr := civilFromUnix_range secs h1 h2
  rw [formatUnix_eq secs h1 h2]
  exact (fmtTime_spec ⟨by omega, by omega, by omega, by omega, by omega, by omega⟩).1

example : (-62135596800 : Int) ≤ 1700000000 ∧ (1700000000 : Int) ≤ 253402300799 := by decide

/-! ## from the Unix instant (not only from the stamp) -/

/-- The civil date computed for an instant in years 0001–9999 is a real calendar date: the day exists in the
    month of that year (28/29/30/31 days, Gregorian leap rule). -/
theorem civilFromUnix_validDate (secs : Int) (h1 : -62135596800 ≤ secs) (h2 : secs ≤ 253402300799) :
    1 ≤ (civilFromUnix secs).2.2.1 ∧
    (civilFromUnix secs).2.2.1 ≤ daysIn (civilFromUnix secs).2.1 (civilFromUnix secs).1.toNat :=
  civilFromUnix_validDate_aux secs (by have := (civilFromUnix_range secs h1 h2).1; omega)

/-- Hence the stamp of every such instant passes the validation of PseudoVersionTime (time.Parse): the `if` of
    `pseudo_roundtrip` is always the `ok` branch for `ts = formatUnix secs`. -/
theorem timeValid_formatUnix (secs : Int) (h1 : -62135596800 ≤ secs) (h2 : secs ≤ 253402300799) :
    timeValid (formatUnix secs) = true :=
  timeValid_formatUnix_aux secs h1 h2

/-- Round trip from the instant: PseudoVersionTime of the generated pseudo-version returns the stamp of the instant. -/
theorem pseudo_roundtrip_unix (major older rev : Bytes) (secs : Int)
    (hbase : Semver.isValid older = true ∨ (older = [] ∧ MajorArg major)) (hrev : Rev rev)
    (h1 : -62135596800 ≤ secs) (h2 : secs ≤ 253402300799) :
    ∃ pv, pseudoVersion major older (formatUnix secs) rev = .ok pv ∧
      pseudoVersionBase pv = .ok (Semver.canonical older ++ Semver.build older) ∧
      pseudoVersionRev pv = .ok rev ∧ pseudoVersionTime pv = .ok (formatUnix secs) := by
  obtain ⟨pv, a, b, c, d⟩ := pseudo_roundtrip major older (formatUnix secs) rev hbase (formatUnix_ts secs h1 h2) hrev
  rw [timeValid_formatUnix secs h1 h2] at d
  exact ⟨pv, a, b, c, d⟩

/-- The civil fields are strictly monotone in the instant (lexicographic order, year as a natural number). -/
theorem civilFromUnix_mono (s1 s2 : Int) (h11 : -62135596800 ≤ s1) (_h12 : s1 ≤ 253402300799)
    (_h21 : -62135596800 ≤ s2) (h22 : s2 ≤ 253402300799) (h : s1 < s2) :
    civilLt ((civilFromUnix s1).1.toNat, (civilFromUnix s1).2) ((civilFromUnix s2).1.toNat, (civilFromUnix s2).2) :=
  civilFromUnix_mono_aux s1 s2 h
    (by have := (civilFromUnix_range s1 h11 (by omega)).1; omega)
    (by have := (civilFromUnix_range s2 (by omega) h22).1; omega)

/-- … and so are the stamps, bytewise. -/
theorem formatUnix_mono (s1 s2 : Int) (h11 : -62135596800 ≤ s1) (h12 : s1 ≤ 253402300799)
    (h21 : -62135596800 ≤ s2) (h22 : s2 ≤ 253402300799) (h : s1 < s2) :
    bytesLt (formatUnix s1) (formatUnix s2) = true :=
  formatUnix_mono_aux s1 s2 h11 h12 h21 h22 h

/-- "A later time gives a higher version", from the Unix instants: for the same (major, base), the commit with the
    earlier instant gets the strictly lower pseudo-version, whatever the two revisions are. -/
theorem pseudo_time_mono_unix (major older rev1 rev2 : Bytes) (s1 s2 : Int)
    (hbase : Semver.isValid older = true ∨ (older = [] ∧ MajorArg major)) (r1 : Rev rev1) (r2 : Rev rev2)
    (h11 : -62135596800 ≤ s1) (h12 : s1 ≤ 253402300799) (h21 : -62135596800 ≤ s2) (h22 : s2 ≤ 253402300799)
    (h : s1 < s2) :
    ∃ pv1 pv2, pseudoVersion major older (formatUnix s1) rev1 = .ok pv1 ∧
      pseudoVersion major older (formatUnix s2) rev2 = .ok pv2 ∧ Semver.compare pv1 pv2 = -1 :=
  pseudo_time_mono major older _ _ rev1 rev2 hbase (formatUnix_ts s1 h11 h12) (formatUnix_ts s2 h21 h22) r1 r2
    (formatUnix_mono s1 s2 h11 h12 h21 h22 h)

/-- two instants one second apart across a leap day: 2024-02-29T23:59:59Z and 2024-03-01T00:00:00Z -/
example : (-62135596800 : Int) ≤ 1709251199 ∧ (1709251200 : Int) ≤ 253402300799 ∧ (1709251199 : Int) < 1709251200
    ∧ civilFromUnix 1709251199 = (2024, 2, 29, 23, 59, 59) ∧ civilFromUnix 1709251200 = (2024, 3, 1, 0, 0, 0) := by decide

/-- The zero pseudo-version (time.Time{} and twelve zeros) is recognised as a pseudo-version and is
    exactly what IsZeroPseudoVersion accepts for its major version. -/
theorem zeroPseudo_recognised :
    (zeroPseudoVersion []).toOption = some [118, 48, 46, 48, 46, 48, 45, 48, 48, 48, 49, 48, 49, 48, 49, 48, 48, 48, 48, 48, 48, 45,
      48, 48, 48, 48, 48, 48, 48, 48, 48, 48, 48, 48]                          -- "v0.0.0-00010101000000-000000000000"
    ∧ (zeroPseudoVersion []).toOption.map isPseudoVersion = some true
    ∧ (zeroPseudoVersion []).toOption.map isZeroPseudoVersion = some true := by decide

end ModVerif.Props.C18
