/-
  C06 — Path validity rules and path/version matching follow the documented rules.
  Property theorems only; helper lemmas live in ModVerif/Proofs/Module*.lean.
  `isLetter` (unicode.IsLetter) and `glob` (path.Match) are universally quantified parameters.
-/
import ModVerif.Model.Module
import ModVerif.Proofs.ModulePath
import ModVerif.Proofs.ModuleSplit
import ModVerif.Proofs.ModuleSpec
import ModVerif.Proofs.ModuleGlob
import ModVerif.Proofs.ModuleMajor
import ModVerif.Proofs.ModuleFullSplit
import ModVerif.Proofs.ModuleFullCheck
import ModVerif.Proofs.ModuleFullPrefix
import ModVerif.Spec.PathSpec
import ModVerif.Proofs.BytesLit
namespace ModVerif.Props.C06
open ModVerif ModVerif.Module

/-! ### acceptance = the documented rules (Spec/PathSpec.lean) -/

/-- checkPath (the common part of the three checkers) accepts exactly the paths that satisfy the
    documented rules of the kind: well-formed UTF-8, non-empty, no leading dash (non-file kinds), and
    every slash-separated element non-empty, not all dots, no leading dot (module), no trailing dot,
    only characters of the kind's class, first-dot prefix not a reserved Windows name in any case,
    and (non-file kinds) first-dot prefix not ending in ~digits. -/
theorem checkPath_iff (isLetter : Nat → Bool) (k : Kind) (p : Bytes) :
    checkPath isLetter k p = .ok () ↔ PathSpec.ValidPath isLetter (toSpec k) p :=
  checkPath_iff_spec isLetter k p

/-- CheckImportPath accepts exactly the valid import paths. -/
theorem checkImportPath_iff (p : Bytes) :
    checkImportPath p = .ok () ↔ PathSpec.ValidPath (fun _ => false) .import_ p :=
  checkPath_iff_spec _ .import_ p

/-- CheckFilePath accepts exactly the valid file paths (for every `isLetter`). -/
theorem checkFilePath_iff (isLetter : Nat → Bool) (p : Bytes) :
    checkFilePath isLetter p = .ok () ↔ PathSpec.ValidPath isLetter .file p :=
  checkPath_iff_spec isLetter .file p

/-- CheckPath (module paths) accepts exactly the paths that satisfy the three documented rules, each stated
    on the path alone (Spec/PathSpec.lean and `PathSpec.FirstElemOK` / `PathSpec.MajorRuleOK` in
    Proofs/ModuleFullSplit.lean, none of which mentions a function of the model):
    the general rules for kind `module`; the first element (up to the first slash) contains a dot, does not
    start with a dash and consists of lower-case ASCII letters, digits, '-' and '.'; and the major-version
    rule — outside gopkg.in the path does not end in "/v" followed by a run of digits and dots that contains
    a dot, starts with '0' or is "1"; under gopkg.in it ends in ".vN" or ".vN-unstable" (N decimal without
    leading zero, ".v0-unstable" excluded). -/
theorem checkModPath_iff (p : Bytes) :
    checkModPath p = .ok () ↔
      PathSpec.ValidPath (fun _ => false) .module p ∧ PathSpec.FirstElemOK p ∧ PathSpec.MajorRuleOK p :=
  checkModPath_iff_full p

/-- SplitPathVersion reports ok exactly under the documented major-version rule (both directions; `split_spec`
    below adds the shape of the returned suffix). -/
theorem split_ok_iff (p : Bytes) : (splitPathVersion p).2.2 = true ↔ PathSpec.MajorRuleOK p :=
  splitPathVersion_ok_iff p

/-- The `leading slash` and `leading dash in first path element` error returns of CheckPath are dead code:
    no input reaches them (the general checker has already rejected an empty first element and a leading
    dash).  (The third dead return, EscapePath's internal error, is `Props.C11.escapePath_total_on_valid`.) -/
theorem checkModPath_dead_branches (p : Bytes) :
    checkModPath p ≠ .error .leadingSlash ∧ checkModPath p ≠ .error .leadingDashFirst :=
  checkModPath_dead p

-- non-vacuity of the three conjuncts on a concrete accepted path, and each major-rule failure mode
example : checkModPath (B "gopkg.in/yaml.v2-unstable") = .ok () ∧ checkModPath (B "example.com/m/v2") = .ok () := by
  decide_bytes
example : PathSpec.BadSlashMajor (B "example.com/m/v1") :=
  ⟨B "example.com/m", [49], by decide_bytes, by simp, by intro c hc; simp at hc; subst hc; left; unfold PathSpec.isAsciiDigit; decide,
    Or.inr (Or.inr rfl)⟩
example : PathSpec.GopkgPathOK (B "gopkg.in/yaml.v2-unstable") :=
  ⟨B "gopkg.in/yaml", [50], ⟨by simp, by intro c hc; simp at hc; subst hc; unfold PathSpec.isAsciiDigit; decide, by simp⟩,
    Or.inr ⟨by decide_bytes, by simp⟩⟩
example : checkModPath (B "example.com/m/v1") = .error .invalidVersion ∧ checkModPath (B "gopkg.in/yaml.v0-unstable") = .error .invalidVersion
    ∧ checkModPath (B "/x.y") = .error .emptyElem ∧ checkModPath (B "-x.y") = .error .leadingDash := by decide_bytes

/-! ### inclusions: module ⊆ import ⊆ file -/

/-- Every valid module path is a valid import path. -/
theorem mod_imp_import (p : Bytes) (h : checkModPath p = .ok ()) : checkImportPath p = .ok () := by
  have h1 := ((checkModPath_ok_iff p).mp h).1
  exact checkPath_mono _ _ .module .import_ p (fun r hr => importPathOK_of_mod r hr)
    (fun hk => by cases hk) (fun hk => by cases hk) h1

/-- Every valid import path is a valid file path (for every `isLetter`). -/
theorem import_imp_file (isLetter : Nat → Bool) (p : Bytes) (h : checkImportPath p = .ok ()) :
    checkFilePath isLetter p = .ok () :=
  checkPath_mono _ isLetter .import_ .file p (fun r hr => fileNameOK_of_import isLetter r hr)
    (fun hk => by cases hk) (fun hk => by cases hk) h

example : checkModPath (B "golang.org/x/mod") = .ok () := by decide_bytes
example : checkFilePath (fun r => r == 233) (B "caf\u00e9/LICENSE") = .ok () := by decide +kernel
example : checkImportPath (B "example.com/NUL.txt") = .error .windows ∧ checkImportPath (B "example.com/x~1.go") = .error .tildeDigits
    ∧ checkImportPath (B "example.com/a..b") = .ok () := by decide_bytes
example : checkImportPath (B "example.com/c++") = .ok () ∧ checkModPath (B "example.com/c++") = .error .invalidChar := by
  decide +kernel
example : checkFilePath (fun _ => false) (B "a b/x~1") = .ok () ∧ checkImportPath (B "a b/x~1") = .error .invalidChar := by
  decide +kernel

/-! ### SplitPathVersion -/

/-- Whenever SplitPathVersion reports ok, prefix ++ suffix is the path and the suffix is empty, "/vN" with
    N ≥ 2 (no leading zero), or — for paths starting with "gopkg.in/" — ".vN" or ".vN-unstable". -/
theorem split_spec (p pre maj : Bytes) (h : splitPathVersion p = (pre, maj, true)) :
    pre ++ maj = p ∧ PathSpec.MajorSuffix p maj :=
  Module.split_spec p pre maj h

/-- With ok = false SplitPathVersion returns (path, "", false). -/
theorem split_not_ok (p : Bytes) (h : (splitPathVersion p).2.2 = false) : splitPathVersion p = (p, [], false) :=
  Module.split_not_ok p h

/-- Splitting a valid module path: ok, prefix ++ suffix = path, documented suffix shape. -/
theorem split_valid_module_path (p : Bytes) (h : checkModPath p = .ok ()) :
    ∃ pre maj, splitPathVersion p = (pre, maj, true) ∧ pre ++ maj = p ∧ PathSpec.MajorSuffix p maj := by
  have hok := ((checkModPath_ok_iff p).mp h).2.2.2.2.2
  refine ⟨(splitPathVersion p).1, (splitPathVersion p).2.1, ?_, ?_⟩
  · rw [← hok]
  · exact split_spec p _ _ (by rw [← hok])

example : splitPathVersion (B "example.com/A~b/v2") = (B "example.com/A~b", B "/v2", true) := by decide_bytes
example : splitPathVersion (B "gopkg.in/yaml.v2-unstable") = (B "gopkg.in/yaml", B ".v2-unstable", true) := by decide_bytes
example : splitPathVersion (B "golang.org/x/mod") = (B "golang.org/x/mod", [], true) := by decide_bytes
example : (splitPathVersion (B "example.com/m/v1")).2.2 = false ∧ (splitPathVersion (B "example.com/m/v02")).2.2 = false
    ∧ (splitPathVersion (B "example.com/m/v2.1")).2.2 = false ∧ (splitPathVersion (B "gopkg.in/yaml.v-unstable")).2.2 = false
    ∧ (splitPathVersion (B "gopkg.in/yaml")).2.2 = false := by decide_bytes

/-! ### Check and CheckPathMajor -/

/-- Check(path, version) accepts exactly when CheckPath accepts the path, the version is a valid semantic
    version, and the path's major-version suffix matches the version under the documented correspondence
    `PathSpec.MajorMatches` (no suffix: v0, v1 or "+incompatible"; "/vN": major vN; gopkg.in ".vN[-unstable]":
    major vN, or N = 1 with a "v0.0.0-" pseudo-version).  With `checkModPath_iff` and `C04.isValid_iff` all
    three conjuncts are specification-level. -/
theorem check_iff (p v : Bytes) :
    check p v = .ok () ↔
      checkModPath p = .ok () ∧ Semver.isValid v = true ∧ PathSpec.MajorMatches (splitPathVersion p).2.1 v :=
  check_iff_full p v

/-- CheckPathMajor is the documented correspondence on every suffix of the documented shape (in particular
    on every suffix SplitPathVersion returns, `split_spec`). -/
theorem checkPathMajor_iff (p maj v : Bytes) (hs : PathSpec.MajorSuffix p maj) :
    checkPathMajor v maj = true ↔ PathSpec.MajorMatches maj v :=
  checkPathMajor_iff_matches p maj v hs

example : PathSpec.MajorSuffix (B "gopkg.in/yaml.v2") (B ".v2") :=
  Or.inr (Or.inr ⟨by decide_bytes, [50], ⟨by simp, by intro c hc; simp at hc; subst hc; unfold PathSpec.isAsciiDigit; decide, by simp⟩,
    Or.inl (by decide_bytes)⟩)

/-- no suffix: the version's major is v0 or v1, or the version ends in "+incompatible". -/
theorem major_match_empty (v : Bytes) :
    checkPathMajor v [] = true ↔
      (Semver.major v = B "v0" ∨ Semver.major v = B "v1" ∨ Semver.build v = B "+incompatible") := by
  rw [checkPathMajor_nil]
  unfold PathSpec.MajorMatches
  simp

/-- suffix "/vN": the version's major is "vN". -/
theorem major_match_slash (v n : Bytes) :
    checkPathMajor v (47 :: 118 :: n) = true ↔ Semver.major v = 118 :: n := by
  rw [checkPathMajor_slash]
  unfold PathSpec.MajorMatches
  simp

/-- gopkg.in suffix ".vN" or ".vN-unstable" (N digits): the version's major is "vN", or N = 1 and the
    version is a "v0.0.0-" pseudo-version. -/
theorem major_match_gopkg (v n : Bytes) (hn : ∀ d ∈ n, PathSpec.isAsciiDigit d.toNat) (uns : Bool) :
    checkPathMajor v (46 :: 118 :: (n ++ if uns then B "-unstable" else [])) = true ↔
      (Semver.major v = 118 :: n ∨ (n = [49] ∧ isPrefixOfB (B "v0.0.0-") v = true)) :=
  checkPathMajor_gopkg v n hn uns

/-- MatchPathMajor is CheckPathMajor == nil. -/
theorem matchPathMajor_eq (v maj : Bytes) : matchPathMajor v maj = checkPathMajor v maj := rfl

example : check (B "example.com/m/v2") (B "v2.1.0") = .ok () ∧ check (B "example.com/m/v2") (B "v1.0.0") = .error .major
    ∧ check (B "example.com/m") (B "v2.0.0+incompatible") = .ok () ∧ check (B "example.com/m") (B "v2.0.0") = .error .major
    ∧ check (B "gopkg.in/check.v1") (B "v0.0.0-20161208181325-20d25e280405") = .ok ()
    ∧ check (B "gopkg.in/yaml.v2-unstable") (B "v2.0.0") = .ok ()
    ∧ check (B "example.com/m") (B "1.0.0") = .error .notSemver := by decide_bytes
example : ∀ d ∈ ([49, 50] : Bytes), PathSpec.isAsciiDigit d.toNat := by
  intro d hd; simp at hd; rcases hd with rfl | rfl <;> (unfold PathSpec.isAsciiDigit; decide)

/-! ### PathMajorPrefix -/

/-- PathMajorPrefix returns (does not panic) exactly on: "" (result ""), the bare separators "/" and "."
    (result ""), and "/vN", ".vN", ".vN-unstable" with N a decimal number without leading zero (result "vN"). -/
theorem pathMajorPrefix_spec (maj m : Bytes) :
    pathMajorPrefix maj = some m ↔
      (maj = [] ∧ m = []) ∨ ((maj = [47] ∨ maj = [46]) ∧ m = []) ∨
      ∃ n, PathSpec.Num n ∧ m = 118 :: n ∧
        (maj = 47 :: 118 :: n ∨ maj = 46 :: 118 :: n ∨ maj = 46 :: 118 :: (n ++ B "-unstable")) :=
  pathMajorPrefix_iff maj m

/-- Both panics of PathMajorPrefix are unreachable on the suffixes SplitPathVersion returns with ok: the result
    is "" for the empty suffix and "vN" for "/vN", ".vN", ".vN-unstable". -/
theorem pathMajorPrefix_no_panic_on_split (p pre maj : Bytes) (h : splitPathVersion p = (pre, maj, true)) :
    (maj = [] ∧ pathMajorPrefix maj = some []) ∨
    ∃ n, PathSpec.Num n ∧ pathMajorPrefix maj = some (118 :: n) ∧
      (maj = 47 :: 118 :: n ∨ maj = 46 :: 118 :: n ∨ maj = 46 :: 118 :: (n ++ B "-unstable")) :=
  pathMajorPrefix_total_on_split p pre maj h

example : pathMajorPrefix (B ".v2-unstable") = some (B "v2") ∧ pathMajorPrefix (B "/v3") = some (B "v3")
    ∧ pathMajorPrefix (B "v2") = none ∧ pathMajorPrefix (B "/v2-unstable") = none ∧ pathMajorPrefix (B "/v02") = none := by
  decide_bytes

/-! ### MatchPrefixPatterns -/

/-- Private-module pattern matching is the documented prefix-glob definition, for every `glob`
    (path.Match is a parameter): some comma-separated pattern, after dropping one trailing slash, is
    non-empty, has N slashes, the target has at least N+1 slash-separated elements, and the pattern
    matches the first N+1 elements of the target. -/
theorem matchPrefixPatterns_iff_spec (glob : Bytes → Bytes → Bool) (globs target : Bytes) :
    matchPrefixPatterns glob globs target = true ↔ PathSpec.MatchSpec glob globs target := by
  unfold matchPrefixPatterns PathSpec.MatchSpec
  rw [List.any_eq_true]
  constructor
  · rintro ⟨g, hg, hm⟩; exact ⟨g, hg, (matchOne_iff glob g target).mp hm⟩
  · rintro ⟨g, hg, hm⟩; exact ⟨g, hg, (matchOne_iff glob g target).mpr hm⟩

-- non-vacuity with a concrete `glob` (literal equality): "golang.org/x/" matches the first two elements
example : matchPrefixPatterns (fun a b => a == b) (B ",example.com/,golang.org/x/") (B "golang.org/x/mod") = true := by
  decide_bytes
example : matchPrefixPatterns (fun a b => a == b) (B "golang.org/x/mod/sub") (B "golang.org/x/mod") = false := by
  decide_bytes

end ModVerif.Props.C06
