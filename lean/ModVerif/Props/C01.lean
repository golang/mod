/-
  C01 — the checksum-database client never returns or caches unauthenticated data.

  Part 1 (interleaved latest-head machine, Model/ClientLatest.lean): every value ever written to the stored head is a
  parseable (validly signed) message that `checkTrees` related to the value it replaces.
  Part 2 (sequential client, Model/Client.lean, against an ARBITRARY environment): `lookup_authentic` — composition of
  C07 `open_sound`, C09 `store_get` / `treeHash_eq_mth` and C10 `readHashes_authenticated`; helpers in
  Proofs/ClientRuns.lean and Proofs/ClientAuth.lean.  `honest_never_fails`: Proofs/ClientHonest.lean.
-/
import ModVerif.Proofs.ClientLatestInv
import ModVerif.Proofs.ClientAuth
import ModVerif.Proofs.ClientHonest
import ModVerif.Proofs.BytesLit
namespace ModVerif.Props.C01
open ModVerif ModVerif.ClientLatest

variable {M T : Type} [DecidableEq M] [DecidableEq T]

/-- message `om` opens under the configured key and parses as a tree (the empty message is the empty tree) -/
def Verified (P : Params M T) : Option M → Prop
  | none => True
  | some m => (P.parse m).isSome = true

/-- **(partial) Only verified tree heads reach the stored latest tree head.**  In every reachable state of the
latest-head machine (any clients, goroutines, interleaving, server) each value ever installed in memory and each value
ever written to the configuration is a message that opened under the configured key (`parse` succeeded), and each
configuration write replaced a value whose tree is a prefix of the new one.
Partial with respect to C01: this is the clause "nothing that has not been authenticated is written to the stored latest
tree head"; the clauses about returned lines and about cache writes (records, tiles) need the sequential client model
(see lean/PENDING.md, `lookup_authentic`). -/
theorem stored_head_verified_partial (P : Params M T) (le : T → T → Prop) (hS : Sound P le) (cl : Nat → Nat)
    (presented : Nat → Option M) (priv : Nat → Bool) (c0 : Option M) (s : St M T)
    (h : Reachable P cl presented priv c0 s) :
    (∀ c, Verified P (s.latestMsg c) ∧ cfgTree P (s.latestMsg c) = s.latest c) ∧
    (∀ w ∈ s.writes, le (cfgTree P w.1) (cfgTree P w.2)) := by
  have hI := inv_reachable hS h
  refine ⟨fun c => ?_, hI.writes_up⟩
  have hm := hI.mem_msg c
  refine ⟨?_, cfgTree_of_MsgOf P _ _ hm⟩
  cases hl : s.latestMsg c with
  | none => simp [Verified]
  | some m => rw [hl] at hm; simp [MsgOf] at hm; simp [Verified, hm]


/-! ## The sequential client against an arbitrary environment -/

section sequential
open ModVerif.Client ModVerif.Tile
variable {σ H : Type} [DecidableEq H]

/-- ★ **lookup_authentic.**  For EVERY environment `E` (state type, `ReadRemote`, `ReadCache`, `ReadConfig`, the results
of `WriteConfig`: arbitrary functions of the whole history) and every log `D` of fewer than `2^62` records, under
  (i)  signature soundness of the configured key (`KeySound`: whatever text a key handed out by the configuration verifies
       and `ParseTree` reads as a tree head is a head `(n, MTH(D[0:n]))`, `n ≤ |D|`, of the one log `D`; see
       `keySound_of_formatTree` for the `FormatTree` wording), and
  (ii) injectivity of `NodeHash` and `RecordHash`:
after any sequence of earlier lookups on the same client,
  (1) if `Lookup(path, vers)` returns lines, they are exactly the lines with the prefix `path vers ` of a response
      `id ‖ text ‖ rest` whose record text IS record `recIndex id` of `D` (the id in the response; a negative id is read as 0,
      O5) and whose remainder is empty or a tree note accepted under the configured key, itself a head of `D`
      (O3: the prefix filter runs over the whole response);
  (2) every `WriteCache` ever performed carries such a response, or — under the tile's cache key — the bytes of the true
      tile of a prefix of `D`;
  (3) every `WriteConfig` ever attempted carries as its new value a message accepted under the configured key whose tree
      is a head of `D`, replacing the empty value or an accepted head of strictly smaller size. -/
theorem lookup_authentic (P : Params H) (D : List Bytes) (hD : D.length < 2 ^ 62)
    (hnode : ∀ a b c d : H, P.node a b = P.node c d → a = c ∧ b = d)
    (hleaf : ∀ x y : Bytes, P.leaf x = P.leaf y → x = y)
    (E : Env σ) (hkey : KeySound P D E) (s0 : σ) (earlier : List (Bytes × Bytes)) (path vers : Bytes) :
    let w := runLookups P E ⟨s0, newClient P, []⟩ earlier
    let r := lookup P E w path vers
    (∀ lines, r.1 = .ok lines → ∃ data id text rest,
        TlogNote.parseRecord data = some (id, text, rest) ∧ D[recIndex id]? = some text ∧
        (rest = [] ∨ ∃ hd, openTree P r.2.c.verifiers rest = .ok hd ∧ IsHead P D hd) ∧
        lines = filterLines (path ++ [32] ++ vers ++ [32]) data) ∧
    (∀ f d, Effect.writeCache f d ∈ r.2.tr →
        (∃ id text rest, TlogNote.parseRecord d = some (id, text, rest) ∧ D[recIndex id]? = some text) ∨
        (∃ t, f = tileCacheKey r.2.c.name t ∧ AuthTile P D t d)) ∧
    (∀ f old new res, Effect.writeConfig f old new res ∈ r.2.tr →
        ∃ hd, openTree P r.2.c.verifiers new = .ok hd ∧ IsHead P D hd ∧
          (old = [] ∨ ∃ ho, openTree P r.2.c.verifiers old = .ok ho ∧ IsHead P D ho ∧ ho.n < hd.n)) := by
  intro w r
  have hw : Inv P D w := inv_runLookups P D hD hnode E hkey earlier _ (inv_newClient P D s0)
  obtain ⟨hinv, hlines⟩ := lookup_spec P D hD hnode E hkey w hw path vers
  have hauth : ∀ d, AuthResponse P D r.2.c.verifiers d → ∃ id text rest,
      TlogNote.parseRecord d = some (id, text, rest) ∧ D[recIndex id]? = some text ∧
      (rest = [] ∨ ∃ hd, openTree P r.2.c.verifiers rest = .ok hd ∧ IsHead P D hd) := by
    intro d ⟨id, text, rest, hp, ⟨rec, hr1, hr2⟩, hrest⟩
    refine ⟨id, text, rest, hp, by rw [hr1, hleaf text rec hr2], ?_⟩
    rcases hrest with h | ⟨hd, h⟩
    · exact Or.inl h
    · exact Or.inr ⟨hd, h, hinv.core.sig rest hd h⟩
  refine ⟨?_, ?_, ?_⟩
  · intro lines hl
    obtain ⟨data, ha, hfl⟩ := hlines lines hl
    obtain ⟨id, text, rest, h1, h2, h3⟩ := hauth data ha
    exact ⟨data, id, text, rest, h1, h2, h3, hfl⟩
  · intro f d hmem
    rcases hinv.core.trace _ hmem with ha | ht
    · obtain ⟨id, text, rest, h1, h2, _⟩ := hauth d ha
      exact Or.inl ⟨id, text, rest, h1, h2⟩
    · exact Or.inr ht
  · intro f old new res hmem
    obtain ⟨hd, h1, h2, h3⟩ := hinv.core.trace _ hmem
    refine ⟨hd, h1, h2, ?_⟩
    rcases h3 with h | ⟨ho, h4, h5⟩
    · exact Or.inl h
    · exact Or.inr ⟨ho, h4, hinv.core.sig old ho h4, h5⟩

/-- hypothesis (i) in the wording "every message the verifier accepts has text `formatTree ⟨n, mth (D.take n)⟩` for some
`n ≤ |D|`" implies `KeySound` (hashes surviving their 32-byte encoding) -/
theorem keySound_of_formatTree (P : Params H) (D : List Bytes) (E : Env σ)
    (hD : (D.length : Int) ≤ Decimal.int64Max)
    (henc : ∀ h, (P.enc h).length = 32) (hdec : ∀ h, P.dec (P.enc h) = h)
    (hv : ∀ s k v, (E.readConfig s (B "key")).1 = some k →
      Note.NewVerifier P.sha P.edVerify (GoStrings.trimSpace k) = .ok v → ∀ text sig, v.verify text sig = true →
      ∃ n, n ≤ D.length ∧ text = TlogNote.formatTree ⟨(n : Int), P.enc (rootAt P D n)⟩) :
    KeySound P D E :=
  fun s k v h1 h2 => verifierSound_of_formatTree P D v hD henc hdec (hv s k v h1 h2)

/-- ★ the same for `checkTrees` alone — the hook `ClientLatest.Sound.chk_ok`: against any environment, in any state
satisfying the invariant, `checkTrees(older, newer)` with `newer` a head of `D` at least as large as `older` answers `nil`
only if `older` is a head of `D` too; whatever it answers, every cache write it causes is a true tile. -/
theorem checkTrees_sound (P : Params H) (D : List Bytes) (hD : D.length < 2 ^ 62)
    (hnode : ∀ a b c d : H, P.node a b = P.node c d → a = c ∧ b = d)
    (E : Env σ) (w : World σ H) (older newer : Head H) (olderNote newerNote : Bytes)
    (hnewer : IsHead P D newer) (hle : older.n ≤ newer.n)
    (hok : (checkTrees P E w older olderNote newer newerNote).1 = .ok ()) : IsHead P D older :=
  (checkTrees_spec P D hD hnode E w older olderNote newer newerNote hnewer hle).2 hok

/-! ### non-vacuity: term-algebra hashes (collision free by construction), a key that verifies exactly one genuine head -/

def exCode : Bytes := List.replicate 32 7
def exD : List Bytes := [B "example.com/m v1.0.0 h1:abc=\n"]
def exHeadText : Bytes := TlogNote.formatTree ⟨1, exCode⟩

def exParams : Params Tlog.TH :=
  { leaf := Tlog.TH.leaf, node := Tlog.TH.node, empty := Tlog.TH.empty, hashSize := 32,
    dec := fun b => if b = exCode then Tlog.TH.leaf (B "example.com/m v1.0.0 h1:abc=\n") else Tlog.TH.junk 0,
    enc := fun _ => exCode, height := 2, nosumdb := [], isLetter := fun _ => false, glob := fun _ _ => false,
    sha := fun _ => [0, 0, 0, 0], edVerify := fun _ text _ => text == exHeadText, retries := 3 }

/-- an environment that answers every read with the same bytes -/
def exEnv (answer : Bytes) : Env Unit :=
  { readRemote := fun s _ => (some answer, s), readCache := fun s _ => (none, s), readConfig := fun s _ => (some answer, s),
    writeCache := fun s _ _ => s, writeConfig := fun s _ _ _ => (.ok, s), securityError := fun s _ => s }

/-- the hypotheses of `lookup_authentic` are jointly satisfiable, with a key that does verify a genuine head of the log -/
example (answer : Bytes) :
    exD.length < 2 ^ 62 ∧
    (∀ a b c d : Tlog.TH, exParams.node a b = exParams.node c d → a = c ∧ b = d) ∧
    (∀ x y : Bytes, exParams.leaf x = exParams.leaf y → x = y) ∧
    KeySound exParams exD (exEnv answer) ∧
    (∀ pub sig, exParams.edVerify pub exHeadText sig = true) := by
  refine ⟨by decide, fun a b c d h => by cases h; exact ⟨rfl, rfl⟩, fun x y h => by cases h; rfl, ?_, fun _ _ => by simp [exParams]⟩
  intro s k v _ hv text sig t hver hp
  -- the verifier NewVerifier builds is `edVerify pub`
  have hvf : text = exHeadText := by
    unfold Note.NewVerifier at hv
    split at hv
    rename_i name vkey1 _
    split at hv
    rename_i hash16 key64 _
    split at hv
    · split at hv
      · cases hv
      · split at hv
        · cases hv
        · split at hv
          · cases hv
          · split at hv
            · cases hv
            · split at hv
              · cases hv
              · split at hv
                · cases hv
                · cases hv
                  simpa [exParams] using hver
    · cases hv
  subst hvf
  have hpt : TlogNote.parseTree exHeadText = some ⟨1, exCode⟩ :=
    Props.C09.parseTree_formatTree ⟨1, exCode⟩ (by decide) (by decide) (by decide)
  rw [hpt] at hp
  cases hp
  exact ⟨by decide, by simp [exParams, rootAt, exD, RFC6962.mth, RFC6962.mthF]⟩

/-! ### the honest world -/

/-- ★ **honest_never_fails.**  The honest world for a log `D` of fewer than `2^62` records (`Honest`): the configured key
parses (`NewVerifier`), the server (`S.serve`) answers the lookup path of every module it has a record for with
`id ‖ D[id] ‖ signed head of D containing id` (and other lookup paths with an error), and the path of every valid tile
that exists in `D` with the tile's true bytes; tile height at most 30, at least one `ErrWriteConflict` retry.
The environment is `honestEnv S`: a persistent cache that returns what was last written to a file, a configuration
file updated by compare-and-swap; its initial state is ANY honest one (`HonestState`: the stored head is empty or a signed
head of `D`; every cache file is the true bytes of a valid tile under that tile's key — possibly the full tile where a
partial one will be asked for — or an honest lookup response under its lookup file: cold, warm, or partially warm cache).
Then, after ANY sequence of earlier lookups on the same client (existing modules, unknown modules, malformed paths,
excluded paths), `Lookup(path, vers)` of a module the server has a record for — not excluded by GONOSUMDB, escapable —
succeeds and returns exactly the lines with the prefix `path vers ` of an honest response for that module: record
`id = S.index(path)`, text `D[id]`, followed by a signed head of `D`.  No collision-freedom hypothesis. -/
theorem honest_never_fails (P : Params H) (D : List Bytes) (S : Server) (stN : List H) (hon : Honest P D S stN)
    (s0 : HState) (hs0 : HonestState P D S stN s0) (earlier : List (Bytes × Bytes))
    (path vers epath evers : Bytes) (id : Nat)
    (hskip : Module.matchPrefixPatterns P.glob P.nosumdb path = false)
    (hep : Module.escapePath path = .ok epath) (hev : Module.escapeVersion P.isLetter (trimGoMod vers) = .ok evers)
    (hidx : S.index (B "/lookup/" ++ (epath ++ ([64] ++ evers))) = some id) :
    let w := runLookups P (honestEnv S) ⟨s0, newClient P, []⟩ earlier
    ∃ d, HonestLookup P D S (B "/lookup/" ++ (epath ++ ([64] ++ evers))) d ∧
      (lookup P (honestEnv S) w path vers).1 = .ok (filterLines (path ++ [32] ++ vers ++ [32]) d) := by
  intro w
  have hw : HI P D S stN w := hi_runLookups P D S stN hon earlier _ (hi_newClient P D S stN s0 hs0)
  exact (lookup_honest P D S stN hon w hw path vers).2 epath evers id hskip hep hev hidx

omit [DecidableEq H] in
/-- … and what an honest response is: its record is record `id` of `D`, so the returned lines are the lines of
`id ‖ D[id] ‖ head` with the prefix (the server's lines; O3 for the head part). -/
theorem honestLookup_record (P : Params H) (D : List Bytes) (S : Server) (p d : Bytes) (id : Nat)
    (h : HonestLookup P D S p d) (hidx : S.index p = some id) :
    ∃ text head n, TlogNote.parseRecord d = some ((id : Int), text, head) ∧ D[id]? = some text ∧ id < n ∧
      Signed P D S head n := by
  obtain ⟨id', n, head, text, h1, h2, h3, h4, h5⟩ := h
  have := h5 id hidx
  subst this
  exact ⟨text, head, n, h4, h3, h1, h2⟩

end sequential

/-! ### non-vacuity of `honest_never_fails`: a concrete honest world (one record, one-byte toy hashes, a key file that
`NewVerifier` accepts, a signed head that `note.Open` accepts — all evaluated by the kernel) -/

namespace HonestExample
open ModVerif.Client ModVerif.Tile

def hText : Bytes := B "example.com/m v1.0.0 h1:abc=\n"
def hD : List Bytes := [hText]
def hP : Params UInt8 :=
  { leaf := fun _ => 7, node := fun a b => a + b, empty := 0, hashSize := 1, dec := fun b => b.headD 0, enc := fun h => [h],
    height := 2, nosumdb := [], isLetter := fun _ => false, glob := fun _ _ => false, sha := fun _ => [0, 0, 0, 0],
    edVerify := fun _ _ _ => true, retries := 1 }
def hKeyFile : Bytes := B "k+00000000+AQAAAAAAAAAAAAAAAAAAAAAAAAAAAAAAAAAAAAAAAAAA\n"
def hV : Note.Verifier :=
  match Note.NewVerifier hP.sha hP.edVerify (GoStrings.trimSpace hKeyFile) with
  | .ok v => v
  | .error _ => ⟨[], 0, fun _ _ => false⟩
def hHead : Bytes := TlogNote.formatTree ⟨1, 7 :: List.replicate 31 0⟩ ++ [10] ++ Note.sigLine (B "k") (B "AAAAAAE=")
def hResp : Bytes := B "0\n" ++ hText ++ [10] ++ hHead
def hRest : Bytes := B "example.com/m" ++ ([64] ++ B "v1.0.0")
def hPath : Bytes := B "/lookup/" ++ hRest
def hS : Server :=
  { keyFile := hKeyFile, v := hV,
    serve := fun p => if p = hPath then some hResp else if isPrefixOfB (B "/lookup/") p then none else some [7],
    index := fun p => if p = hPath then some 0 else none }

theorem hkey_ok : Note.NewVerifier hP.sha hP.edVerify (GoStrings.trimSpace hKeyFile) = .ok hV := by
  have h : (match Note.NewVerifier hP.sha hP.edVerify (GoStrings.trimSpace hKeyFile) with
      | .ok _ => true | .error _ => false) = true := by rw [B_lit hKeyFile]; decide +kernel
  unfold hV
  cases hn : Note.NewVerifier hP.sha hP.edVerify (GoStrings.trimSpace hKeyFile) with
  | ok v => rfl
  | error e => rw [hn] at h; cases h

theorem hsigned : Signed hP hD hS hHead 1 := by
  have h : (match openTree hP [hV] hHead with | .ok t => t.n == 1 && t.hash == 7 | .error _ => false) = true := by
    decide +kernel
  refine ⟨?_, by decide⟩
  show openTree hP [hV] hHead = .ok ⟨1, rootAt hP hD 1⟩
  have hr : rootAt hP hD 1 = 7 := by simp [rootAt, hD, hP, RFC6962.mth, RFC6962.mthF]
  rw [hr]
  cases ho : openTree hP [hV] hHead with
  | error e => rw [ho] at h; cases h
  | ok t =>
    rw [ho] at h
    simp only [Bool.and_eq_true, beq_iff_eq] at h
    obtain ⟨tn, th⟩ := t
    simp only at h
    rw [h.1, h.2]

theorem hlookup : HonestLookup hP hD hS hPath hResp := by
  refine ⟨0, 1, hHead, hText, by decide, hsigned, rfl, ?_, ?_⟩
  · have h : (TlogNote.parseRecord hResp == some (0, hText, hHead)) = true := by decide +kernel
    simpa using h
  · intro id' h
    simp only [hS, if_true] at h
    cases h; rfl

theorem honest_example : Honest hP hD hS [7] := by
  refine ⟨by decide, by decide +kernel, by decide, by decide, by decide, hkey_ok, ?_, ?_, ?_⟩
  · intro t x ht hx
    obtain ⟨hx1, hw1⟩ := trueTile_single 7 t ht x hx
    subst hx1
    refine ⟨[7], ?_, by decide, by rw [hw1]; rfl⟩
    have hne : tileRemotePath t ≠ hPath := by
      intro h
      unfold tileRemotePath tilePath hPath at h
      rw [B_tile, B_lookup] at h
      simp at h
    have hnp : isPrefixOfB (B "/lookup/") (tileRemotePath t) = false := by
      unfold tileRemotePath tilePath
      rw [B_tile, B_lookup]
      simp [isPrefixOfB]
    simp only [hS, hne, if_false, hnp, Bool.false_eq_true]
  · intro rest id h
    simp only [hS] at h ⊢
    split at h
    · rename_i heq
      rw [heq]
      simp only [if_true]
      exact ⟨hResp, rfl, hlookup⟩
    · cases h
  · intro rest h
    simp only [hS] at h ⊢
    split at h
    · cases h
    · rename_i hne
      simp only [hne, if_false, Client.isPrefixOfB_append, if_true]

/-- the hypotheses of `honest_never_fails` are satisfiable (cold cache, empty configuration), and on this instance the
    theorem's conclusion is the lookup of `example.com/m v1.0.0` returning the record's line -/
example : Honest hP hD hS [7] ∧ HonestState hP hD hS [7] ⟨[], []⟩ ∧
    Module.matchPrefixPatterns hP.glob hP.nosumdb (B "example.com/m") = false ∧
    Module.escapePath (B "example.com/m") = .ok (B "example.com/m") ∧
    Module.escapeVersion hP.isLetter (trimGoMod (B "v1.0.0")) = .ok (B "v1.0.0") ∧
    hS.index (B "/lookup/" ++ (B "example.com/m" ++ ([64] ++ B "v1.0.0"))) = some 0 := by
  refine ⟨honest_example, ⟨Or.inl rfl, by intro f d h; simp at h⟩, by decide +kernel, by decide +kernel, by decide +kernel, ?_⟩
  simp [hS, hPath, hRest]


end HonestExample

end ModVerif.Props.C01
