/-
  C13 — the client follows one consistent timeline of signed tree heads.
  Property theorems only; the inductive invariant and the step lemmas are in ModVerif/Proofs/ClientLatestInv.lean.

  Machine: Model/ClientLatest.lean — `mergeLatest` / `mergeLatestMem` / the configuration compare-and-swap loop for ANY
  number of goroutines and ANY number of clients (a restart is a new client) sharing the stored head, every interleaving,
  hostile server allowed.  The verification layer enters through `Sound`: `le` is the prefix order on tree heads and an
  `ok` answer of `checkTrees(older, newer)` implies `older ≤ newer` (what C03/C10 deliver under collision freedom).
-/
import ModVerif.Proofs.ClientLatestInv
import ModVerif.Proofs.ClientAuth
import ModVerif.Proofs.ClientMoreFork
import ModVerif.Proofs.ClientMoreMax
import ModVerif.Props.C01
namespace ModVerif.Props.C13
open ModVerif ModVerif.ClientLatest

variable {M T : Type} [DecidableEq M] [DecidableEq T]

/-- the successive stored values: `writes` (newest first) is a chain of compare-and-swaps that starts at the initial
value `c0` and ends at the current value -/
def HistOK (c0 : Option M) : List (Option M × Option M) → Option M → Prop
  | [], cur => cur = c0
  | w :: rest, cur => cur = w.2 ∧ HistOK c0 rest w.1

/-- ★ **The in-memory head and the stored head only ever move forward along `le`** — along any continuation of any
reachable state, for every client, whatever the server and the other clients do. -/
theorem latest_monotone (P : Params M T) (le : T → T → Prop) (hS : Sound P le) (cl : Nat → Nat) (presented : Nat → Option M)
    (priv : Nat → Bool) (c0 : Option M) :
    ∀ (sched : List (Nat × Res)) (s s' : St M T), Reachable P cl presented priv c0 s →
      run P cl presented priv s sched = some s' →
      (∀ c, le (s.latest c) (s'.latest c)) ∧ le (cfgTree P s.config) (cfgTree P s'.config) := by
  intro sched
  induction sched with
  | nil => intro s s' _ hr; simp [run] at hr; subst hr; exact ⟨fun c => hS.refl _, hS.refl _⟩
  | cons x rest ih =>
    intro s s' h hr
    obtain ⟨t, r⟩ := x
    simp only [run] at hr
    cases hs : step P cl presented priv s t r with
    | none => simp [hs] at hr
    | some s1 =>
      simp [hs] at hr
      have hI := inv_reachable hS h
      obtain ⟨h1, h2⟩ := ih s1 s' (Reachable.step t r h hs) hr
      refine ⟨fun c => hS.trans _ _ _ (step_latest_mono hS hI hs c) (h1 c), ?_⟩
      rcases step_config hI hs with ⟨e, _⟩ | ⟨_, _, _, hle⟩
      · rw [← e]; exact h2
      · exact hS.trans _ _ _ hle h2

/-- … so the tree size never decreases (given that a prefix is not larger). -/
theorem latest_size_monotone (P : Params M T) (le : T → T → Prop) (hS : Sound P le) (hsz : ∀ a b, le a b → P.size a ≤ P.size b)
    (cl : Nat → Nat) (presented : Nat → Option M) (priv : Nat → Bool) (c0 : Option M)
    (sched : List (Nat × Res)) (s s' : St M T) (h : Reachable P cl presented priv c0 s)
    (hr : run P cl presented priv s sched = some s') :
    (∀ c, P.size (s.latest c) ≤ P.size (s'.latest c)) ∧ P.size (cfgTree P s.config) ≤ P.size (cfgTree P s'.config) := by
  obtain ⟨h1, h2⟩ := latest_monotone P le hS cl presented priv c0 sched s s' h hr
  exact ⟨fun c => hsz _ _ (h1 c), hsz _ _ h2⟩

/-- ★ **The stored head is only ever changed by a compare-and-swap from its current value to a head that contains it**,
across clients and restarts: in every reachable state the recorded writes form one chain from the initial value to the
current one, and every write goes up in `le`. -/
theorem config_cas_safe (P : Params M T) (le : T → T → Prop) (hS : Sound P le) (cl : Nat → Nat) (presented : Nat → Option M)
    (priv : Nat → Bool) (c0 : Option M) (s : St M T) (h : Reachable P cl presented priv c0 s) :
    HistOK c0 s.writes s.config ∧ ∀ w ∈ s.writes, le (cfgTree P w.1) (cfgTree P w.2) := by
  refine ⟨?_, (inv_reachable hS h).writes_up⟩
  induction h with
  | init => simp [init, HistOK]
  | step t r hreach hs ih =>
    have hI := inv_reachable hS hreach
    rcases step_config hI hs with ⟨e1, e2⟩ | ⟨_, _, e2, _⟩
    · rw [e1, e2]; exact ih
    · rw [e2]; exact ⟨rfl, ih⟩

/-- ★ **A detected fork changes nothing and is reported with both signed heads** (step form): when `checkTrees` answers
`fork`, the stored head, every in-memory head and the write history are unchanged, the thread ends with the security
error, and `SecurityError` receives exactly the two notes that were compared, older first. -/
theorem fork_rejected (P : Params M T) (le : T → T → Prop) (hS : Sound P le) (cl : Nat → Nat) (presented : Nat → Option M)
    (priv : Nat → Bool) (c0 : Option M) (s s' : St M T) (t : Nat) (o : Outer)
    (h : Reachable P cl presented priv c0 s) (hpc : (s.th t).pc = .memCheck o)
    (hs : step P cl presented priv s t .fork = some s') :
    s'.config = s.config ∧ s'.latest = s.latest ∧ s'.latestMsg = s.latestMsg ∧ s'.writes = s.writes ∧
    (s'.th t).pc = .done .security ∧
    ∃ older newer, s'.sec = (t, older, newer) :: s.sec ∧ Res.fork ∈ P.chk (cfgTree P older) (cfgTree P newer) ∧
      ((older = (s.th t).msg ∧ newer = (s.th t).latestMsg) ∨ (older = (s.th t).latestMsg ∧ newer = (s.th t).msg)) :=
  step_fork (inv_reachable hS h) hpc hs

/-- ★ **Whenever a failure is reported as a security error, the callback received both signed heads**: a thread that ended
with the security error has a `SecurityError` call on record, and every recorded call carries two notes whose trees
`checkTrees` found inconsistent. -/
theorem security_error_has_both_heads (P : Params M T) (le : T → T → Prop) (hS : Sound P le) (cl : Nat → Nat)
    (presented : Nat → Option M) (priv : Nat → Bool) (c0 : Option M) (s : St M T) (h : Reachable P cl presented priv c0 s) :
    (∀ t, (s.th t).pc = .done .security → ∃ a b, (t, a, b) ∈ s.sec) ∧
    (∀ e ∈ s.sec, Res.fork ∈ P.chk (cfgTree P e.2.1) (cfgTree P e.2.2)) := by
  have hI := inv_reachable hS h
  exact ⟨fun t ht => hasSec_mem _ t (hI.sec_done t ht), hI.sec_fork⟩

/-- **Every accepted head lies on the client's chain**: a `mergeLatest(m)` that returned success has `tree(m) ≤ latest`. -/
theorem accepted_on_chain (P : Params M T) (le : T → T → Prop) (hS : Sound P le) (cl : Nat → Nat)
    (presented : Nat → Option M) (priv : Nat → Bool) (c0 : Option M) (s : St M T) (h : Reachable P cl presented priv c0 s)
    (t : Nat) (m : M) (pt : T) (hm : presented t = some m) (hp : P.parse m = some pt) (hd : (s.th t).pc = .done .ok) :
    le pt (s.latest (cl t)) :=
  (inv_reachable hS h).accepted t m pt hm hp (by simp [PastFirst, hd])

/-- ★ **A presented tree that is inconsistent with the client's IN-MEMORY head is never accepted** (no hypothesis on
the run): if in some reachable state the tree of the message presented to thread `t` is incomparable with `latest` of its
client, then in no continuation does `t`'s `mergeLatest` return success (so the lookup depending on it fails).
`hlin` says that two prefixes of one tree are comparable (heads below a common head lie on one log).
The clause of C13 about the client's STORED head is `fork_rejected_stored` below; it needs a hypothesis on the run,
because the in-memory head of a long-lived instance can itself have left the stored head's log — see
`C13_violated_no_rollback_after_failed_reconciliation`. -/
theorem fork_rejected_in_memory (P : Params M T) (le : T → T → Prop) (hS : Sound P le)
    (hlin : ∀ a b c, le a c → le b c → le a b ∨ le b a)
    (cl : Nat → Nat) (presented : Nat → Option M) (priv : Nat → Bool) (c0 : Option M)
    (sched : List (Nat × Res)) (s s' : St M T) (h : Reachable P cl presented priv c0 s)
    (hr : run P cl presented priv s sched = some s')
    (t : Nat) (m : M) (pt : T) (hm : presented t = some m) (hp : P.parse m = some pt)
    (hinc : ¬ le pt (s.latest (cl t)) ∧ ¬ le (s.latest (cl t)) pt) :
    (s'.th t).pc ≠ .done .ok := by
  intro hd
  have hreach' := run_reachable P cl presented priv c0 sched s s' h hr
  have h1 := accepted_on_chain P le hS cl presented priv c0 s' hreach' t m pt hm hp hd
  have h2 := (latest_monotone P le hS cl presented priv c0 sched s s' h hr).1 (cl t)
  rcases hlin _ _ _ h1 h2 with h3 | h3
  · exact hinc.1 h3
  · exact hinc.2 h3

/-- ★ **A presented tree that is inconsistent with the client's STORED head is never accepted — in every run without a
failed reconciliation.**  The hypothesis that excludes the recorded finding is a predicate on the schedule,
`cleanRun` (Proofs/ClientMoreFork.lean): no step takes a goroutine from inside the flush loop of `mergeLatest` — i.e. after
it advanced the in-memory head, while it reconciles with the configuration — to an error return; in other words, the
in-memory head was never advanced by a lookup whose reconciliation failed.  Under it, for ANY server and any number of
clients and goroutines: if at some point of the run the tree presented to goroutine `t` is incomparable with the stored
head, then `t` has not returned success at any later point at which its client has no reconciliation under way
(`hquiet`; while one is pending the in-memory head is ahead of what was reconciled, and that pending goroutine can then
only fail — which `cleanRun` excludes — or keep running: see the example `pending_reconciliation_accepts` below).
`hzero`: the only tree of size 0 is the empty tree; `heq`: a prefix of the same size is the same tree; `hlin`: two
prefixes of one tree are comparable.  The conclusion is the contrapositive of "every accepted head is a prefix of the
stored head" (`accepted_below_stored`). -/
theorem fork_rejected_stored (P : Params M T) (le : T → T → Prop) (hS : Sound P le)
    (hlin : ∀ a b c, le a c → le b c → le a b ∨ le b a)
    (hzero : ∀ a, P.size a = 0 → le a P.zero) (heq : ∀ a b, le a b → P.size b ≤ P.size a → le b a)
    (cl : Nat → Nat) (presented : Nat → Option M) (priv : Nat → Bool) (c0 : Option M)
    (sched1 sched2 : List (Nat × Res)) (s s' : St M T)
    (hr1 : run P cl presented priv (init P c0) sched1 = some s)
    (hr2 : run P cl presented priv s sched2 = some s')
    (hclean : cleanRun P cl presented priv (init P c0) (sched1 ++ sched2) = true)
    (t : Nat) (m : M) (pt : T) (hm : presented t = some m) (hp : P.parse m = some pt)
    (hinc : ¬ le pt (cfgTree P s.config) ∧ ¬ le (cfgTree P s.config) pt)
    (hquiet : ∀ t', cl t' = cl t → inFlush (s'.th t').pc = false) :
    (s'.th t).pc ≠ .done .ok := by
  intro hd
  obtain ⟨hc1, hc2⟩ := cleanRun_append P cl presented priv sched1 sched2 _ s hr1 hclean
  have hcr : CReachable P cl presented priv c0 s :=
    cleanRun_creachable P cl presented priv c0 sched1 _ s CReachable.init hc1 hr1
  have hcr' : CReachable P cl presented priv c0 s' := cleanRun_creachable P cl presented priv c0 sched2 s s' hcr hc2 hr2
  obtain ⟨h1, h2⟩ := accepted_below_stored hS hzero heq hcr' t m pt hm hp hd hquiet
  have h3 := (latest_monotone P le hS cl presented priv c0 sched2 s s' hcr.reachable hr2).2
  rcases hlin _ _ _ (hS.trans _ _ _ h1 h2) h3 with h4 | h4
  · exact hinc.1 h4
  · exact hinc.2 h4

/-- The positive form: in a run without a failed reconciliation every accepted head is a prefix of the in-memory head,
which is a prefix of the stored head whenever the client has no reconciliation under way. -/
theorem accepted_on_stored_chain (P : Params M T) (le : T → T → Prop) (hS : Sound P le)
    (hzero : ∀ a, P.size a = 0 → le a P.zero) (heq : ∀ a b, le a b → P.size b ≤ P.size a → le b a)
    (cl : Nat → Nat) (presented : Nat → Option M) (priv : Nat → Bool) (c0 : Option M)
    (sched : List (Nat × Res)) (s : St M T)
    (hr : run P cl presented priv (init P c0) sched = some s)
    (hclean : cleanRun P cl presented priv (init P c0) sched = true)
    (t : Nat) (m : M) (pt : T) (hm : presented t = some m) (hp : P.parse m = some pt) (hd : (s.th t).pc = .done .ok)
    (hquiet : ∀ t', cl t' = cl t → inFlush (s.th t').pc = false) :
    le pt (s.latest (cl t)) ∧ le (s.latest (cl t)) (cfgTree P s.config) :=
  accepted_below_stored hS hzero heq
    (cleanRun_creachable P cl presented priv c0 sched _ s CReachable.init hclean hr) t m pt hm hp hd hquiet

/-! ## Non-vacuity and the no-rollback witness, on the concrete two-log instance `forkParams 3`
(logs A and B share their first 3 records). -/

def exLe (a b : Head) : Prop := forkLe 3 a b = true

/-- `Sound` is satisfiable: the honest and the hostile two-log instances satisfy it. -/
theorem forkParams_sound (hostile : Bool) : Sound (forkParams 3 hostile) exLe := by
  constructor
  · intro a; simp [exLe, forkLe]
  · intro a b c; simp only [exLe, forkLe, Bool.and_eq_true, Bool.or_eq_true, decide_eq_true_eq, beq_iff_eq]; omega
  · intro a; simp [exLe, forkLe, forkParams]
  · intro a b; cases hostile <;> simp only [forkParams, exLe] <;> by_cases h : forkLe 3 a b = true <;> simp [h]

def exCl : Nat → Nat := fun t => if t = 0 then 0 else 1
def exPresented : Nat → Option Head := fun t =>
  if t = 0 then some (0, 5) else if t = 1 then some (0, 3) else some (1, 4)
def exPriv : Nat → Bool := fun t => t = 9

/-- client 1 starts at the common prefix A@3 (thread 1); another process moves the stored head to A@5 (thread 0, client 0);
a hostile server shows client 1 the signed B@4 and withholds A's tiles (thread 2: installs B@4 in memory, reads the
configuration, cannot check A@5 against B@4 → error); a later lookup on B@4 (thread 3) succeeds. -/
def exSchedule : List (Nat × Res) :=
  [(1, .ok), (1, .ok), (1, .ok), (1, .ok), (1, .ok), (1, .ok), (1, .ok), (1, .ok),
   (0, .ok), (0, .ok), (0, .ok), (0, .ok), (0, .ok), (0, .ok), (0, .ok), (0, .ok), (0, .ok), (0, .ok),
   (2, .ok), (2, .ok), (2, .ok), (2, .ok), (2, .ok), (2, .ok), (2, .ok), (2, .error),
   (3, .ok), (3, .ok), (3, .ok), (3, .ok)]

def exFinal : Option (St Head Head) :=
  run (forkParams 3 true) exCl exPresented exPriv (init (forkParams 3 true) (some (0, 3))) exSchedule

/-- **Known finding (no rollback after a failed reconciliation).**  On the faithful model there is a reachable state in
which: the lookup of thread 3 has been ACCEPTED on the tree B@4, the in-memory head of client 1 is B@4, the stored head
is A@5 — mutually inconsistent —, the stored head was never moved to B, and no `SecurityError` was ever raised.
(`mergeLatest` installs the presented head in memory before reconciling with the configuration and does not roll back
when the reconciliation fails.)  So the unrestricted form of `fork_rejected_stored` — without the hypothesis `cleanRun` on the
schedule — is false: step 26 of `exSchedule` is a failed reconciliation (`exSchedule_not_clean`). -/
theorem C13_violated_no_rollback_after_failed_reconciliation :
    ∃ s, Reachable (forkParams 3 true) exCl exPresented exPriv (some (0, 3)) s ∧
      (s.th 3).pc = .done .ok ∧ (s.th 2).pc = .done .err ∧ s.sec = [] ∧
      s.latest 1 = (1, 4) ∧ s.config = some (0, 5) ∧ s.writes = [(some (0, 3), some (0, 5))] ∧
      forkLe 3 (1, 4) (0, 5) = false ∧ forkLe 3 (0, 5) (1, 4) = false := by
  have hrun : ∃ s, exFinal = some s := by
    unfold exFinal; exact Option.isSome_iff_exists.mp (by decide)
  obtain ⟨s, hs⟩ := hrun
  refine ⟨s, run_reachable _ _ _ _ _ exSchedule _ s Reachable.init hs, ?_⟩
  have key : (exFinal.map fun s => ((s.th 3).pc, (s.th 2).pc, s.sec, s.latest 1, s.config, s.writes)) =
      some (.done .ok, .done .err, [], (1, 4), some (0, 5), [(some (0, 3), some (0, 5))]) := by rfl
  rw [hs] at key
  simp only [Option.map_some, Option.some.injEq, Prod.mk.injEq] at key
  obtain ⟨k1, k2, k3, k4, k5, k6⟩ := key
  exact ⟨k1, k2, k3, k4, k5, k6, by decide, by decide⟩

/-- non-vacuity of `fork_rejected_in_memory`'s hypotheses: after thread 0 moved client 0 to A@5, the head B@4 is
incomparable with its in-memory head, and `forkLe` is linear below any head. -/
example : ¬ exLe (1, 4) (0, 5) ∧ ¬ exLe (0, 5) (1, 4) := by simp [exLe, forkLe]

/-- the honest instance detects the same fork and reports both heads: client at A@5 shown B@4 -/
example : ((run (forkParams 3 false) (fun _ => 0) (fun t => if t = 0 then some (0, 5) else some (1, 4)) (fun _ => false)
      (init (forkParams 3 false) none)
      [(0, .ok), (0, .ok), (0, .ok), (0, .ok), (0, .ok), (0, .ok), (0, .ok), (0, .ok), (0, .ok),
       (1, .ok), (1, .ok), (1, .ok), (1, .fork)]).map
      fun s => ((s.th 1).pc, s.sec, s.config, s.latest 0)) =
    some (.done .security, [(1, some (1, 4), some (0, 5))], some (0, 5), (0, 5)) := by rfl


/-- the schedule of the recorded finding is NOT clean: its 26th step is goroutine 2 failing inside the flush loop -/
theorem exSchedule_not_clean :
    cleanRun (forkParams 3 true) exCl exPresented exPriv (init (forkParams 3 true) (some (0, 3))) exSchedule = false := by
  rfl

/-- … while the same schedule cut before that step is clean (so `cleanRun` excludes exactly the failed reconciliation) -/
example : cleanRun (forkParams 3 true) exCl exPresented exPriv (init (forkParams 3 true) (some (0, 3)))
    (exSchedule.take 25) = true := by rfl

/-- the order hypotheses of `fork_rejected_stored` hold in the two-log instance -/
theorem exLe_hyps : (∀ a b c, exLe a c → exLe b c → exLe a b ∨ exLe b a) ∧
    (∀ a, (forkParams 3 true).size a = 0 → exLe a (forkParams 3 true).zero) ∧
    (∀ a b, exLe a b → (forkParams 3 true).size b ≤ (forkParams 3 true).size a → exLe b a) := by
  refine ⟨?_, ?_, ?_⟩
  · intro a b c; simp only [exLe, forkLe, Bool.and_eq_true, Bool.or_eq_true, decide_eq_true_eq, beq_iff_eq]; omega
  · intro a; simp only [exLe, forkLe, forkParams, Bool.and_eq_true, Bool.or_eq_true, decide_eq_true_eq, beq_iff_eq]; omega
  · intro a b; simp only [exLe, forkLe, forkParams, Bool.and_eq_true, Bool.or_eq_true, decide_eq_true_eq, beq_iff_eq]; omega

/-- non-vacuity of `fork_rejected_stored`: a hostile server, client 0; goroutine 0 brings the stored head to A@5
(`sched1`), then goroutine 1 is shown B@4, which is incomparable with the stored head; the fork is detected in the
first `mergeLatestMem` (`sched2`), nothing is pending afterwards, the whole schedule is clean — and goroutine 1 has
not returned success. -/
def nvSched1 : List (Nat × Res) := List.replicate 9 (0, .ok)
def nvSched2 : List (Nat × Res) := [(1, .ok), (1, .ok), (1, .ok), (1, .fork)]
def nvPresented : Nat → Option Head := fun t => if t = 0 then some (0, 5) else some (1, 4)

example : ∃ s s', run (forkParams 3 true) (fun _ => 0) nvPresented (fun _ => false) (init (forkParams 3 true) none) nvSched1 = some s ∧
    run (forkParams 3 true) (fun _ => 0) nvPresented (fun _ => false) s nvSched2 = some s' ∧
    cleanRun (forkParams 3 true) (fun _ => 0) nvPresented (fun _ => false) (init (forkParams 3 true) none) (nvSched1 ++ nvSched2) = true ∧
    (¬ exLe (1, 4) (cfgTree (forkParams 3 true) s.config) ∧ ¬ exLe (cfgTree (forkParams 3 true) s.config) (1, 4)) ∧
    (∀ t', inFlush (s'.th t').pc = false) ∧ (s'.th 1).pc = .done .security := by
  have h1 : ∃ s, run (forkParams 3 true) (fun _ => 0) nvPresented (fun _ => false) (init (forkParams 3 true) none) nvSched1 = some s :=
    Option.isSome_iff_exists.mp (by decide)
  obtain ⟨s, hs⟩ := h1
  have h2 : ∃ s', run (forkParams 3 true) (fun _ => 0) nvPresented (fun _ => false) (init (forkParams 3 true) none) (nvSched1 ++ nvSched2) = some s' :=
    Option.isSome_iff_exists.mp (by decide)
  obtain ⟨s', hs'⟩ := h2
  have hs2 : run (forkParams 3 true) (fun _ => 0) nvPresented (fun _ => false) s nvSched2 = some s' := by
    have k : (run (forkParams 3 true) (fun _ => 0) nvPresented (fun _ => false) (init (forkParams 3 true) none) nvSched1).bind
        (fun s => run (forkParams 3 true) (fun _ => 0) nvPresented (fun _ => false) s nvSched2) =
        run (forkParams 3 true) (fun _ => 0) nvPresented (fun _ => false) (init (forkParams 3 true) none) (nvSched1 ++ nvSched2) := by rfl
    rw [hs, hs'] at k; simpa using k
  have kc : (run (forkParams 3 true) (fun _ => 0) nvPresented (fun _ => false) (init (forkParams 3 true) none) nvSched1).map (·.config) =
      some (some (0, 5)) := by rfl
  rw [hs] at kc
  simp only [Option.map_some, Option.some.injEq] at kc
  have kp : (run (forkParams 3 true) (fun _ => 0) nvPresented (fun _ => false) (init (forkParams 3 true) none) (nvSched1 ++ nvSched2)).map
      (fun s => ((s.th 0).pc, (s.th 1).pc)) = some (.done .ok, .done .security) := by rfl
  rw [hs'] at kp
  simp only [Option.map_some, Option.some.injEq, Prod.mk.injEq] at kp
  refine ⟨s, s', hs, hs2, by rfl, ?_, ?_, kp.2⟩
  · rw [kc]; simp [exLe, forkLe, cfgTree, forkParams]
  · intro t'
    by_cases h : ∃ x ∈ nvSched1 ++ nvSched2, x.1 = t'
    · obtain ⟨x, hx, rfl⟩ := h
      have : x.1 = 0 ∨ x.1 = 1 := by
        simp only [nvSched1, nvSched2, List.mem_append, List.mem_replicate, List.mem_cons, List.not_mem_nil, or_false] at hx
        rcases hx with ⟨_, rfl⟩ | rfl | rfl | rfl | rfl <;> simp
      rcases this with e | e <;> rw [e]
      · rw [kp.1]; rfl
      · rw [kp.2]; rfl
    · rw [run_th_frame _ _ _ _ (nvSched1 ++ nvSched2) _ s' t' (fun x hx e => h ⟨x, hx, e⟩) hs']
      rfl

/-- why `hquiet` is needed (the same finding seen from a second goroutine): the stored head is A@5; goroutine 1 of a
fresh client is shown B@4, installs it in memory and is about to read the configuration; goroutine 2 of the same client
is shown B@4, finds it equal to the in-memory head and RETURNS SUCCESS — the run is clean so far.  Goroutine 1's
`checkTrees(B@4, A@5)` can then only answer `fork` or fail. -/
theorem pending_reconciliation_accepts :
    ((run (forkParams 3 true) (fun _ => 1) (fun _ => some (1, 4)) (fun _ => false) (init (forkParams 3 true) (some (0, 5)))
      (List.replicate 5 (1, .ok) ++ List.replicate 4 (2, .ok))).map
      fun s => ((s.th 1).pc, (s.th 2).pc, s.latest 1, s.config)) = some (.readConfig, .done .ok, (1, 4), some (0, 5)) ∧
    cleanRun (forkParams 3 true) (fun _ => 1) (fun _ => some (1, 4)) (fun _ => false) (init (forkParams 3 true) (some (0, 5)))
      (List.replicate 5 (1, .ok) ++ List.replicate 4 (2, .ok)) = true ∧
    Res.ok ∉ (forkParams 3 true).chk (1, 4) (0, 5) := by
  refine ⟨by rfl, by rfl, by decide⟩


/-! ## The verification layer instantiated with the sequential client model (Model/Client.lean)

The hypothesis `Sound.chk_ok` ("an `ok` of `checkTrees(older, newer)` implies that `older` is a prefix of `newer`") is
discharged for the client's own `checkTrees` — C07 + C09 + C10 composed in Proofs/ClientAuth.lean — so the theorems
above hold unconditionally (collision freedom of NodeHash) for the machine whose `parse` is `note.Open` + `ParseTree`
under the client's verifier list and whose `chk older newer` contains `ok` only if SOME state of SOME run of the
environment makes the model's `checkTrees older newer` return nil. -/

section client
open ModVerif.Client
variable {σ H : Type} [DecidableEq H]

/-- `a` is a prefix head of `b` with respect to the log `D`: not larger, and a head of `D` whenever `b` is one -/
def headLe (P : Client.Params H) (D : List Bytes) (a b : Head H) : Prop :=
  a.n ≤ b.n ∧ (IsHead P D b → IsHead P D a)

open Classical in
/-- the latest-head machine over the client model's verification layer -/
noncomputable def clientParams (P : Client.Params H) (E : Env σ) (vs : List Note.Verifier) :
    ClientLatest.Params Bytes (Head H) :=
  { parse := fun m => match openTree P vs m with
      | .ok t => some t
      | .error _ => none
    size := fun t => t.n
    zero := ⟨0, P.empty⟩
    chk := fun a b =>
      (if a.n ≤ b.n ∧ ∃ (w : World σ H) (o1 o2 : Bytes), (checkTrees P E w a o1 b o2).1 = .ok () then [Res.ok] else []) ++
        [Res.fork, Res.error] }

/-- ★ `Sound` holds for the client model's verification layer, for every environment -/
theorem client_sound (P : Client.Params H) (D : List Bytes) (hD : D.length < 2 ^ 62)
    (hnode : ∀ a b c d : H, P.node a b = P.node c d → a = c ∧ b = d) (E : Env σ) (vs : List Note.Verifier) :
    Sound (clientParams P E vs) (headLe P D) := by
  constructor
  · intro a; exact ⟨Nat.le_refl _, id⟩
  · intro a b c h1 h2; exact ⟨Nat.le_trans h1.1 h2.1, fun h => h1.2 (h2.2 h)⟩
  · intro a; exact ⟨Nat.zero_le _, fun _ => isHead_zero P D⟩
  · intro a b h
    simp only [clientParams, List.mem_append, List.mem_cons, List.not_mem_nil, or_false] at h
    rcases h with h | h | h
    · split at h
      · rename_i hc
        obtain ⟨hle, w, o1, o2, hok⟩ := hc
        exact ⟨hle, fun hb => (checkTrees_spec P D hD hnode E w a o1 b o2 hb hle).2 hok⟩
      · simp at h
    · cases h
    · cases h

/-- ★ `latest_monotone`, unconditional for the client model: along any interleaving, the in-memory head of every client and
the stored head only move forward in `headLe` — in particular, once a head of `D`, always a head of `D`, and sizes never
decrease. -/
theorem client_latest_monotone (P : Client.Params H) (D : List Bytes) (hD : D.length < 2 ^ 62)
    (hnode : ∀ a b c d : H, P.node a b = P.node c d → a = c ∧ b = d) (E : Env σ) (vs : List Note.Verifier)
    (cl : Nat → Nat) (presented : Nat → Option Bytes) (priv : Nat → Bool) (c0 : Option Bytes)
    (sched : List (Nat × Res)) (s s' : St Bytes (Head H))
    (h : Reachable (clientParams P E vs) cl presented priv c0 s)
    (hr : run (clientParams P E vs) cl presented priv s sched = some s') :
    (∀ c, headLe P D (s.latest c) (s'.latest c)) ∧
      headLe P D (cfgTree (clientParams P E vs) s.config) (cfgTree (clientParams P E vs) s'.config) :=
  latest_monotone _ _ (client_sound P D hD hnode E vs) cl presented priv c0 sched s s' h hr

/-- ★ `config_cas_safe`, unconditional for the client model -/
theorem client_config_cas_safe (P : Client.Params H) (D : List Bytes) (hD : D.length < 2 ^ 62)
    (hnode : ∀ a b c d : H, P.node a b = P.node c d → a = c ∧ b = d) (E : Env σ) (vs : List Note.Verifier)
    (cl : Nat → Nat) (presented : Nat → Option Bytes) (priv : Nat → Bool) (c0 : Option Bytes) (s : St Bytes (Head H))
    (h : Reachable (clientParams P E vs) cl presented priv c0 s) :
    HistOK c0 s.writes s.config ∧
      ∀ w ∈ s.writes, headLe P D (cfgTree (clientParams P E vs) w.1) (cfgTree (clientParams P E vs) w.2) :=
  config_cas_safe _ _ (client_sound P D hD hnode E vs) cl presented priv c0 s h

/-- … and with signature soundness of the verifier list every head the machine ever holds in memory is a head of the one
log `D` (the initial head is the empty tree; every later one was parsed from an accepted message). -/
theorem client_heads_on_log (P : Client.Params H) (D : List Bytes) (E : Env σ) (vs : List Note.Verifier)
    (hsig : SigSound P D vs) (m : Bytes) (t : Head H) (hp : (clientParams P E vs).parse m = some t) : IsHead P D t := by
  simp only [clientParams] at hp
  split at hp
  · rename_i t' ho; cases hp; exact hsig m _ ho
  · cases hp

/-- non-vacuity: the parameters of `Props.C01`'s example satisfy the hypotheses -/
example : Props.C01.exD.length < 2 ^ 62 ∧
    (∀ a b c d : Tlog.TH, Props.C01.exParams.node a b = Props.C01.exParams.node c d → a = c ∧ b = d) :=
  ⟨by decide, fun a b c d h => by cases h; exact ⟨rfl, rfl⟩⟩

end client

end ModVerif.Props.C13
