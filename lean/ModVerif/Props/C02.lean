/-
  C02 — Formatting a go.mod/go.work file preserves its meaning and is idempotent.
  Property theorems only; helper lemmas live in ModVerif/Proofs/Modfile*.lean (the C02 development is
  ModVerif/Proofs/ModfileFmt*.lean, ModfileEol*.lean, ModfileSrc*.lean, ModfileStrict*.lean).

  For every input: what the lexer delivers and what the printer writes for tokens and arguments (lex_emits_TokOK,
  relex_one, tokens_relex, autoQuote_single_token, unquote_quote, parseString_autoQuote).

  The three clauses are stated under conditions of which each implies the one before it:
    `EolCount t`           the parsed tree has at most one end-of-line comment per node (none on a comment block,
                           none left over for the header); inputs without end-of-line comments, the hypothesis of
                           the `_partial` theorems, are the special case `eolComments x = []` ⇒ `NoEol t` ⇒
                           `EolCount t` (noEol_source is the converse of the first arrow; eolCount_of_noEol);
    `NoMultiLineToken x`   no token of the input spans two source lines, a decidable condition on the bytes
                           (eolCount_of_single_line_tokens), implied by "no backslash directly followed by a newline"
                           (noMultiLineToken_of_noBackslashNewline);
    strict acceptance      every input `Parse` / `ParseWork` accept satisfies the source condition
                           (strict_noMultiLineToken, strict_noMultiLineToken_work).
  Clauses 1 and 2 (about the syntax layer `parse`): format_parse_syntax_partial2 and format_idempotent_partial2 under
  `EolCount`; the `_partial`, `_src` and `_strict` theorems are their instances along the chain.  Without a condition
  clause 2 is FALSE (C02_violated_format_not_idempotent, eol_single_comment_not_sufficient).
  Clause 3 (about the strict typed parsers, so the chain ends in no condition at all):
  format_preserves_directives_strict — directive values with the `// indirect` flags, `Module.Deprecated` and
  `Retract.Rationale` — and format_preserves_directives_work_strict; `_partial`, `_partial2`, `_partial3`, `_src`, `_src3`
  and the go.work twins are their instances.  Fixer: none, or idempotent on its image and never the empty string
  (C02_fixer_empty_string), and then no retract directive; with a fixer AND retract directives there are
  format_preserves_directives_fix_partial, _fix_partial2, _fix_partial3 and the lemmas around them, whose doc comments say
  which hypotheses are assumed.  Unproved statements are listed in lean/PENDING.md.
-/
import ModVerif.Model.Modfile.Work
import ModVerif.Proofs.ModfilePrint
import ModVerif.Proofs.ModfileFmtConserve
import ModVerif.Proofs.ModfileFmtFinal
import ModVerif.Proofs.ModfileFmtQuoteUnquote
import ModVerif.Proofs.ModfileEolWork
import ModVerif.Proofs.ModfileSrcDir
import ModVerif.Proofs.ModfileSrcBytes
import ModVerif.Proofs.ModfileFmtCom
import ModVerif.Proofs.ModfileStrictTokDir
import ModVerif.Proofs.ModfileFmtRetReparse
import ModVerif.Proofs.ModfileFmtRetFixpoints
import ModVerif.Proofs.ModfileFmtRetMapLines
import ModVerif.Proofs.BytesLit
namespace ModVerif.Props.C02
open ModVerif ModVerif.Modfile

/-- Stage (iv) of the plan, final step of `Format`: the output never ends in a blank line — it is not
    a lone newline and does not end with two newlines.  (This is what makes the second `Format` of
    `format_idempotent` leave the end of the file alone.) -/
theorem format_no_trailing_blank_line (f : FileSyntax) :
    format f ≠ [10] ∧ ∀ pre, format f ≠ pre ++ [10, 10] := by
  have h := Proofs.ModfilePrint.trimTrailingBlank_not_blank (Printer.file {} f).bufRev
  unfold format
  generalize trimTrailingBlank (Printer.file {} f).bufRev = b at h
  constructor
  · intro hb
    have : b = [10] := by
      have := congrArg List.reverse hb
      simpa using this
    rw [this] at h
    exact h (by simp [Proofs.ModfilePrint.EndsBlankRev])
  · intro pre hb
    have : b = 10 :: 10 :: pre.reverse := by
      have := congrArg List.reverse hb
      simpa using this
    rw [this] at h
    exact h (by simp [Proofs.ModfilePrint.EndsBlankRev])

/-- The final trimming of `Format` is idempotent: applying it to an already trimmed buffer changes
    nothing. -/
theorem format_final_trim_idempotent (b : Bytes) :
    trimTrailingBlank (trimTrailingBlank b) = trimTrailingBlank b :=
  Proofs.ModfilePrint.trimTrailingBlank_idem b

/-- `printer.trim` is idempotent (used before every newline and before every comment line). -/
theorem printer_trim_idempotent (p : Printer) : p.trim.trim = p.trim :=
  Proofs.ModfilePrint.trim_idem p

/-- Non-vacuity of clause 1 and 2 on a file with every layout feature (comments before / suffix /
    inside a block / before `)`, a blank line, quoting, CRLF): it is accepted; its formatted output
    parses again to the same statement tokens; formatting that again gives the same bytes. -/
example :
    let x := B "// doc\r\nmodule  \"example.com/m\" // c\n\nrequire (\n\ta.b/c v1.0.0 // indirect\n\n\t// why\n\td.e/f   v1.2.3\n\t// tail\n)\n"
    (match parse (B "go.mod") x with
     | .ok t => (match parse (B "go.mod") (format t) with
                 | .ok t' => decide (format t' = format t ∧
                                     t'.allLines.map (·.token) = t.allLines.map (·.token))
                 | .error _ => false)
     | .error _ => false) = true := by
  conv => zeta
  decide_bytes

/-- Non-vacuity of clause 3 (directive values survive formatting), without and with the stub fixer, on
    a file whose arguments get re-quoted and whose versions get canonicalised / fixed. -/
example :
    let x := B "module \"example.com/m\"\nrequire \"a.b/c\" v1\nreplace a.b/c => \"./x y\"\nretract [v1.0.0, v1.1]\n"
    (match parseToFile (B "go.mod") x (some fixStub) true with
     | .ok f => (match parseToFile (B "go.mod") (format f.syn) (some fixStub) true with
                 | .ok g => decide (g.require.map (·.mod) = f.require.map (·.mod) ∧
                                    g.replace.map (fun r => (r.old, r.new)) = f.replace.map (fun r => (r.old, r.new)) ∧
                                    g.retract.map (·.interval) = f.retract.map (·.interval) ∧
                                    f.retract.map (·.interval) = [{ low := B "v1.0.0", high := B "v1.1.0" }])
                 | .error _ => false)
     | .error _ => false) = true := by
  intro x
  rw [B_lit x]
  clear x
  decide +kernel

/-! ### Stage 1 — tokens (DESIGN §6 C02 (i)–(iii)) -/

open Proofs.ModfileFmtLex Proofs.ModfileFmtLine Proofs.ModfileFmtTok in
/-- ★ `lex_emits_TokOK` (stage (i)): whatever `readToken` delivers is the end of the input, a newline, a
    comment text (`//…` without newline), or a line token that is `TokOK` for the delivered kind: one
    punctuation byte; a quoted string closed by its quote (a backslash escapes the next rune in `"…"`); or a
    non-empty identifier all of whose runes are `isIdent`, with no `//` or `/*` at a rune boundary and not
    starting with a quote. -/
theorem lex_emits_TokOK (i i' : Input) (h : readToken i = .ok i') : LexOK i'.token.kind i'.token.text :=
  lex_emits_LexOK i i' h

example : (match readToken (newInput (B "require (")) with
    | .ok i' => decide (i'.token.text = B "require" ∧ i'.token.kind = .ident)
    | .error _ => false) = true := by decide +kernel

open Proofs.ModfileFmtLex Proofs.ModfileFmtLine Proofs.ModfileFmtTok in
/-- ★ `relex_one` (stage (ii)): a `TokOK` token, preceded by blanks (space, tab, CR) and followed by the end
    of the input, a blank, a newline or a punctuation byte (no condition after a punctuation token), is
    lexed by `readToken` as itself — same kind, same text — and exactly the blanks and the token are
    consumed; no comment is recorded. -/
theorem relex_one {k : TokKind} {t : Bytes} (hk : TokOK k t) (ws rest : Bytes)
    (hws : ∀ b ∈ ws, isBlank b = true) (hrest : DelimStart rest ∨ ∃ c, k = .punct c)
    (i : Input) (hi : i.remaining = ws ++ (t ++ rest)) :
    ∃ i', readToken i = .ok i' ∧ i'.token.kind = k ∧ i'.token.text = t ∧ i'.remaining = rest ∧
      i'.consumedRev = (ws ++ t).reverse ++ i.consumedRev ∧
      i'.commentsRev = i.commentsRev ∧ i'.nextId = i.nextId :=
  Proofs.ModfileFmtLex.relex_one hk ws rest hws hrest i hi

/-- non-vacuity: the punctuation token `(` after a blank, followed by anything -/
example : ∃ i', readToken (newInput (B " (x")) = .ok i' ∧ i'.token.text = [40] ∧ i'.remaining = B "x" := by
  obtain ⟨i', h1, _, h3, h4, _⟩ := relex_one (Proofs.ModfileFmtLex.TokOK.punct 40 (by decide)) [32] (B "x")
    (by decide) (Or.inr ⟨40, rfl⟩) (newInput (B " (x")) (by decide +kernel)
  exact ⟨i', h1, h3, h4⟩

open Proofs.ModfileFmtLex Proofs.ModfileFmtLine Proofs.ModfileFmtTok in
/-- ★ `tokens_relex` (stage (iii)): the bytes `Printer.tokens` writes for a non-empty list of line tokens
    (every text `TokOK` for the kind it determines), followed by a delimiter — in `Format`'s output a
    newline or ` (` —, are lexed by `ts.length` calls of `readToken` into exactly the same texts with the
    kinds the texts determine, and exactly the printed bytes are consumed.  (The separator is empty only
    next to punctuation, which is why adjacent tokens never fuse.) -/
theorem tokens_relex (ts : List Bytes) (hts : ∀ t ∈ ts, TokText t) (hne : ts ≠ [])
    (rest : Bytes) (hrest : DelimStart rest) (i : Input)
    (hi : i.remaining = (Printer.tokens {} ts).bufRev.reverse ++ rest) :
    ∃ i', lexN ts.length i = .ok (ts.map tk, i') ∧ i'.remaining = rest :=
  Proofs.ModfileFmtLine.tokens_relex {} ts hts hne rest hrest i (by simpa using hi)

/-- non-vacuity: `retract [v1.0.0, v1.1.0]` is printed as `retract [v1.0.0, v1.1.0]` and lexes back to its
    six tokens -/
example :
    let ts := [B "retract", B "[", B "v1.0.0", B ",", B "v1.1.0", B "]"]
    (decide ((Printer.tokens {} ts).bufRev.reverse = B "retract [v1.0.0, v1.1.0]") &&
    (match Proofs.ModfileFmtLine.lexN 6 (newInput (B "retract [v1.0.0, v1.1.0]\n")) with
     | .ok (l, i') => decide (l.map (·.2) = ts ∧ i'.remaining = B "\n")
     | .error _ => false)) = true := by decide +kernel

/-! ### Stage 2 — arguments print as one token -/

open Proofs.ModfileFmtLex in
/-- ★ `autoQuote_single_token`: whatever string the directive layer stores through `AutoQuote` is one
    `TokOK` token: unquoted it is an identifier (or, for a lone bracket/comma, that punctuation token);
    otherwise `strconv.Quote` produces a well-formed `"…"` string token. -/
theorem autoQuote_single_token (s : Bytes) : ∃ k, TokOK k (autoQuote s) :=
  Proofs.ModfileFmtQuote.autoQuote_single_token s

open Proofs.ModfileFmtLex in
/-- unquoted arguments other than a lone bracket or comma are identifier tokens -/
theorem autoQuote_unquoted_ident {s : Bytes} (h : mustQuote s = false) (hp : ∀ c ∈ punctBytes, s ≠ [c]) :
    TokOK .ident s :=
  Proofs.ModfileFmtQuote.autoQuote_unquoted_ident h hp

example : mustQuote (B "example.com/m") = false ∧ ∀ c ∈ Proofs.ModfileFmtLex.punctBytes, B "example.com/m" ≠ [c] := by
  decide_bytes

/-- `strconv.Unquote` inverts `strconv.Quote` on every byte string (valid UTF-8 or not). -/
theorem unquote_quote (s : Bytes) : Quote.unquote (Quote.quote s) = some s :=
  Proofs.ModfileFmtQuote.unquote_quote s

/-- ★ `parseString` reads the token `AutoQuote` wrote back to the same value and leaves the token alone —
    the step that makes directive values survive formatting. -/
theorem parseString_autoQuote (s : Bytes) : parseString (autoQuote s) = some (s, autoQuote s) :=
  Proofs.ModfileFmtQuote.parseString_autoQuote s

/-- `parseString` is idempotent on the token it rewrites. -/
theorem parseString_idem {tok v tok' : Bytes} (h : parseString tok = some (v, tok')) :
    parseString tok' = some (v, tok') :=
  Proofs.ModfileFmtQuote.parseString_idem h

example : parseString (B "\"a b\"") = some (B "a b", B "\"a b\"") := by decide +kernel

/-- the `IsPrint`/`IsSpace` table fact stage 2 rests on, by kernel evaluation over the 711-interval table -/
theorem isPrint_not_space : ∀ r, UnicodePrint.isPrint r = true → UnicodePrint.isSpace r = true → r = 32 :=
  Proofs.ModfileFmtQuote.isPrint_not_space

/-! ### Stage 3 — comments: `TrimSpace` algebra and whole-line / end-of-line classification -/

/-- `TrimSpace` is idempotent (every byte string), so printing a comment twice prints the same text. -/
theorem trimSpace_idem (s : Bytes) : GoStrings.trimSpace (GoStrings.trimSpace s) = GoStrings.trimSpace s :=
  Proofs.ModfileFmtTrim.trimSpace_idem s

open Proofs.ModfileFmtLex in
/-- a printed comment is still a `//` text without newline, is a prefix of the original, and does not end in
    a blank, CR or newline — so it is lexed back as exactly itself -/
theorem trimSpace_comment {c : Bytes} (h : CommentOK c) :
    (∃ e, c = GoStrings.trimSpace c ++ e ∧ CommentOK (GoStrings.trimSpace c)) ∧
    ∀ b, (GoStrings.trimSpace c).getLast? = some b → b ≠ 32 ∧ b ≠ 9 ∧ b ≠ 13 ∧ b ≠ 10 :=
  ⟨Proofs.ModfileFmtTrim.trimSpace_comment h, fun b hb =>
    let ⟨h1, h2, h3, h4, _⟩ := Proofs.ModfileFmtTrim.trimSpace_last c b hb; ⟨h1, h2, h3, h4⟩⟩

example : Proofs.ModfileFmtLex.CommentOK (B "// x \t") := by
  constructor <;> decide +kernel

open Proofs.ModfileFmtClass in
/-- ★ classification on the source side: `readToken` preserves the line-prefix invariant; after a line
    token the current line is `Used`; from a `Used` state a comment is never delivered as a whole-line
    comment token (it is an end-of-line comment). -/
theorem comment_classification (j i : Input) (h : readToken j = .ok i) (hj : Inv j) :
    Inv i ∧ (Used j → i.token.kind ≠ .comment) ∧ (∀ t, Proofs.ModfileFmtLex.TokOK i.token.kind t → Used i) :=
  readToken_class j i h hj

example (data : Bytes) : Proofs.ModfileFmtClass.Inv (newInput data) := Proofs.ModfileFmtClass.inv_newInput data

/-! ### Stage 3/4 — line → block → file, for inputs without end-of-line comments -/

open Proofs.ModfileFmtTree in
/-- ★ the shape of every parsed statement list (any input): token texts are `TokOK`, a top-level line does
    not end in `(` or `( )` in scanning position, no block line starts with `)`, blank-line placeholders obey
    the parser's rule, whole-line comments are `//` texts, and the parser populates no `suffix`/`after`
    list. -/
theorem parseFile_wellShaped (data : Bytes) (stmts : List Expr) (i : Input) (h : parseFile data = .ok (stmts, i)) :
    WFStmts stmts :=
  Proofs.ModfileFmtEmits.parseFile_wf data stmts i h

open Proofs.ModfileFmtTree Proofs.ModfileFmtRender in
/-- ★ what `Format` prints for a well-shaped tree without header comments, as a pure function of the tree
    (`rStmts`: comment lines, token lines, `verb (`, tab-indented block lines, `)`, one blank line between
    statements): the printer's `trim` / `newline` / margin / blank-line-suppression machinery computes
    exactly that. -/
theorem format_eq_render (f : FileSyntax) (hwf : WFStmts f.stmts) (hc : f.comments.before = []) :
    format f = rStmts f.stmts :=
  format_eq_rStmts f hwf hc

open Proofs.ModfileFmtMain Proofs.ModfileFmtConserve in
/-- conservation of end-of-line comments by `assignComments` (part of stage (vi)): if no `suffix` list of
    the parsed tree is populated and no comment was left over for the file header (`NoEol t`), then the lexer
    recorded no end-of-line comment. -/
theorem noEol_source (name x : Bytes) (t : FileSyntax) (h : parse name x = .ok t) (hno : NoEol t) :
    eolComments x = [] :=
  eolComments_nil_of_noEol name x t h hno

open Proofs.ModfileFmtTree Proofs.ModfileFmtConserve in
/-- ★ `format_parse_syntax_partial` — `format_parse_syntax` for every accepted input WHOSE TREE HAS NO
    END-OF-LINE COMMENT (`NoEol t`: no `suffix` list populated, no comment left over for the file header;
    whole-line comments, comment blocks, blank lines in blocks, blocks, the three `(` special cases, quoted
    strings, CRLF, invalid UTF-8 in identifiers are all covered).  The formatted output parses again, and the
    new tree is the old one up to positions and line identities with every comment text replaced by its
    `TrimSpace` — the same statements, tokens and comment texts, in the same places — and again has no
    end-of-line comment.  What is missing for the full statement: end-of-line comments, whose re-attachment
    by `assignComments` depends on token positions (line numbers and byte offsets in the formatted text);
    `format_parse_syntax_partial2` below covers them, and this theorem is its special case. -/
theorem format_parse_syntax_partial (name x : Bytes) (t : FileSyntax) (h : parse name x = .ok t)
    (hno : NoEol t) : ∃ t', parse name (format t) = .ok t' ∧ eraseFile t' = normFile t ∧ NoEol t' :=
  format_parse_syntax_noEol name x t h hno

open Proofs.ModfileFmtConserve in
/-- ★ `format_idempotent_partial` — `format_idempotent` under the same hypothesis.  Without a hypothesis that
    excludes displaced end-of-line comments the statement is FALSE: see `C02_violated_format_not_idempotent`
    below (a quoted string containing backslash-newline followed by an end-of-line comment).  `NoEol t`
    excludes that witness because it has end-of-line comments; strings with backslash-newline but without
    end-of-line comments are covered by this theorem. -/
theorem format_idempotent_partial (name x : Bytes) (t t' : FileSyntax) (h : parse name x = .ok t)
    (hno : NoEol t) (h' : parse name (format t) = .ok t') : format t' = format t :=
  format_idempotent_noEol name x t t' h hno h'

/-- non-vacuity of the hypotheses of the theorems above: an accepted file with whole-line comments, a
    comment block, a block with a blank line and comments before a line and before `)`, a quoted argument
    and CRLF — whose tree has no end-of-line comment -/
example :
    let x := B "// doc\r\nmodule  \"example.com/m\"\n\n// block\n\nrequire (\n\ta.b/c v1.0.0\n\n\t// why\n\td.e/f   v1.2.3\n\t// tail\n)\n"
    (match parse (B "go.mod") x with
     | .ok t => decide (t.comments.before = [] ∧ t.stmts.all fun s => match s with
         | .commentBlock c => c.comments.suffix.isEmpty
         | .line l => l.comments.suffix.isEmpty
         | .lineBlock b => b.comments.suffix.isEmpty && b.lparen.comments.suffix.isEmpty &&
             b.lines.all (·.comments.suffix.isEmpty) && b.rparen.comments.suffix.isEmpty
         | _ => false)
     | .error _ => false) = true := by
  conv => zeta
  decide_bytes

/-! ### Clause 3 — directive values survive formatting (strict go.mod, no end-of-line comments) -/

open Proofs.ModfileFmtDir in
/-- one strict `File.add` step: if it reports no error and its result is well-formed, then the rewritten
    arguments are line tokens other than parentheses, the state before the step was well-formed, and the
    step can be replayed on the REWRITTEN arguments — from any state with the same directive values, for any
    line without end-of-line comment — with the same rewritten arguments and the same values again (the
    rewritten tokens are fixpoints of `parseString` / `parseVersion` / `parseVersionInterval` /
    `parseReplace`). -/
theorem add_step_fixpoint (st st1 : AddState) (block : Option Comments) (l : Line) (verb : Bytes)
    (args args1 : List Bytes) (fix : Option Fixer)
    (h : File.add st block l verb args fix true = (st1, args1)) (he : st1.errsRev = [])
    (hfix : FixOK fix) (hne : FixNE fix) (hl : l.comments.suffix = []) (hwf : WellFormed st1.file)
    (horig : ∀ t ∈ args, Proofs.ModfileFmtLine.TokText t) :
    StepOK st st1 verb args1 fix ∧ WellFormed st.file ∧ ArgsTok args1 ∧ args1 ≠ [] :=
  Proofs.ModfileEol.add_step st st1 block l verb args args1 fix h he hfix hne hl hwf horig

open Proofs.ModfileFmtDir Proofs.ModfileFmtMain in
/-- ★ `format_preserves_directives_partial` (strict go.mod) — clause 3 of the property for inputs IN WHICH
    THE LEXER RECORDS NO END-OF-LINE COMMENT (`eolComments x = []`, equivalently `NoEol` of the parsed tree,
    see `noEol_source`): if the strict parser accepts `x` as a well-formed file `f` (every path non-empty and
    not a lone bracket/comma, every version a valid semantic version), then it accepts `Format(f.Syntax)`,
    and the directive values (module path, go, toolchain, godebug, require with indirect flag, exclude,
    replace, retract intervals, tool) are identical — without a version fixer, or with a fixer that is
    idempotent on its image and never returns the empty string, provided the file has no `retract` directive
    in that case (then the deferred `fixRetract` pass, which rewrites the tree by line identity, is not
    involved).  `Module.Deprecated` and `Retract.Rationale` are derived from comments, not from the
    directive's arguments, and are not among the values compared.  Missing for the full statement:
    end-of-line comments (as for clauses 1 and 2; in particular `// indirect`), `fixRetract` with a fixer,
    and `parseWork`. -/
theorem format_preserves_directives_partial (name x : Bytes) (fix : Option Fixer) (f : Modfile.File)
    (h : parseToFile name x fix true = .ok f) (hno : eolComments x = []) (hwf : WellFormed f)
    (hfix : FixOK fix) (hne : FixNE fix) (hret : fix ≠ none → f.retract = []) :
    ∃ f', parseToFile name (format f.syn) fix true = .ok f' ∧ values f' = values f :=
  let ⟨f', h1, h2, _⟩ := Proofs.ModfileFmtRet.format_preserves_directives_strict name x fix f h hwf hfix hne hret
  ⟨f', h1, h2⟩

open Proofs.ModfileFmtDir Proofs.ModfileFmtWork Proofs.ModfileFmtMain in
/-- ★ `format_preserves_directives_partial` for go.work (`ParseWork`): the same statement — inputs without
    end-of-line comments, well-formed file (every `use` and `replace` path non-empty and not a lone
    bracket/comma, replace versions valid when present), no fixer or a fixer idempotent on its image that never
    returns the empty string; values = go / toolchain / godebug / use paths / replace pairs. -/
theorem format_preserves_directives_work_partial (name x : Bytes) (fix : Option Fixer) (f : WorkFile)
    (h : parseWork name x fix = .ok f) (hno : eolComments x = []) (hwf : WorkWellFormed f)
    (hfix : FixOK fix) (hne : FixNE fix) :
    ∃ f', parseWork name (format f.syn) fix = .ok f' ∧ workValues f' = workValues f :=
  Proofs.ModfileStrictTok.format_preserves_directives_work_strict name x fix f h hwf hfix hne

/-- non-vacuity for go.work -/
example :
    let x := B "go 1.21\ntoolchain go1.21.0\ngodebug a=b\nuse (\n\t\"./x y\"\n\t\"./z\"\n\t./w\n)\nreplace a.b/c v1.2 => \"../c\"\n"
    (match parseWork (B "go.work") x none with
     | .ok f => Proofs.ModfileFmtWork.workWellFormedB f
     | .error _ => false) = true ∧ Proofs.ModfileFmtMain.eolComments x = [] := by
  conv => zeta
  decide_bytes

/-- non-vacuity (no fixer): a file with every kind of directive, re-quoted arguments, non-canonical
    versions and a retraction is accepted as a well-formed file, without end-of-line comments -/
example :
    let x := B "module \"example.com/m\"\ngo 1.21\ntoolchain go1.21.0\ngodebug a=b\nrequire \"a.b/c\" v1\nexclude a.b/c v1.2\nreplace a.b/c => \"./x y\"\nretract [v1.0.0, v1.1]\ntool a.b/c/cmd\n"
    (match parseToFile (B "go.mod") x none true with
     | .ok f => Proofs.ModfileFmtDir.wellFormedB f
     | .error _ => false) = true ∧ Proofs.ModfileFmtMain.eolComments x = [] := by
  conv => zeta
  decide_bytes

/-- a fixer that satisfies the hypotheses: canonicalise valid versions, reject everything else -/
def canonFix : Fixer := fun _ v => if Semver.isValid v then .ok (Semver.canonicalVersion v) else .error .plain

/-- non-vacuity (with a fixer): `canonFix` is idempotent on its image and never returns the empty string; a
    file is accepted with it as a well-formed file without retraction and without end-of-line comments -/
example : Proofs.ModfileFmtDir.FixOK (some canonFix) ∧ Proofs.ModfileFmtDir.FixNE (some canonFix) ∧
    (let x := B "module example.com/m\nrequire a.b/c v1\nreplace a.b/c v1 => d.e/f v2.0\n"
     (match parseToFile (B "go.mod") x (some canonFix) true with
      | .ok f => Proofs.ModfileFmtDir.wellFormedB f && f.retract.isEmpty
      | .error _ => false) = true ∧ Proofs.ModfileFmtMain.eolComments x = []) := by
  refine ⟨Or.inr ⟨canonFix, rfl, ?_⟩, ?_, by decide +kernel⟩
  · intro p v w h
    unfold canonFix at h ⊢
    split at h
    · rename_i hv
      simp only [Except.ok.injEq] at h
      subst h
      simp [Proofs.ModfileFmtFix.canonicalVersion_valid hv, Proofs.ModfileFmtFix.canonicalVersion_idem]
    · cases h
  · intro fx hfx p v h
    simp only [Option.some.injEq] at hfx
    subst hfx
    unfold canonFix at h
    split at h
    · rename_i hv
      simp only [Except.ok.injEq] at h
      exact (Proofs.ModfileFmtFix.canonicalVersion_ne_nil_iff v).2 hv h
    · cases h

/-! ### A violation of the idempotence clause (finding) -/

/-- An accepted input on which `Format` is NOT idempotent: the second line holds a quoted string with a
    backslash-newline (the lexer accepts any rune after a backslash, including a newline), so the line spans
    two source lines and `assignComments` cannot attach `// c2` to it; the comment moves to the first line,
    which now has two end-of-line comments.  `Format` prints the second one on a line of its own directly
    below; on re-parsing it is a whole-line comment followed by a blank line, i.e. a comment block, and the
    next `Format` separates it from the first line by a blank line. -/
def c02IdemInput : Bytes := B "a b // c1\nx \"p\\\nq\" // c2\n"

/-- `C02` clause 2 ("formatting that output again changes nothing") fails for `c02IdemInput`: the syntax
    parser accepts it, the formatted output parses again, and formatting that tree gives different bytes
    (`a b // c1␤// c2␤␤x …` versus `a b // c1␤␤// c2␤␤x …`).  The real `modfile.Format` behaves identically
    (checked with `ParseLax`/`Format` of the pinned tree).  Consequently the full `format_idempotent` is
    false; `format_idempotent_partial` above is the proved fragment. -/
theorem C02_violated_format_not_idempotent :
    ∃ t t', parse (B "go.mod") c02IdemInput = .ok t ∧ parse (B "go.mod") (format t) = .ok t' ∧
      format t' ≠ format t ∧
      format t = B "a b // c1\n// c2\n\nx \"p\\\nq\"\n" ∧
      format t' = B "a b // c1\n\n// c2\n\nx \"p\\\nq\"\n" := by
  have h : (match parse (B "go.mod") c02IdemInput with
      | .ok t => (match parse (B "go.mod") (format t) with
          | .ok t' => decide (format t' ≠ format t ∧
              format t = B "a b // c1\n// c2\n\nx \"p\\\nq\"\n" ∧
              format t' = B "a b // c1\n\n// c2\n\nx \"p\\\nq\"\n")
          | .error _ => false)
      | .error _ => false) = true := by decide +kernel
  cases h1 : parse (B "go.mod") c02IdemInput with
  | error e => rw [h1] at h; cases h
  | ok t =>
    rw [h1] at h
    simp only at h
    cases h2 : parse (B "go.mod") (format t) with
    | error e => rw [h2] at h; cases h
    | ok t' =>
      rw [h2] at h
      simp only at h
      have := of_decide_eq_true h
      exact ⟨t, t', rfl, h2, this⟩

/-! ### End-of-line comments (`// indirect`, …): the suffix-comment stage of clauses 1 and 2

  Helper files `Proofs/ModfileEol*.lean`.  Stages: (i) the printer with its pending-comment queue computes a
  pure render function; (ii) a printed line with its end-of-line comment lexes back to its tokens followed by
  an END-OF-LINE comment token (classification preserved); (iii) the re-parse of the formatted text yields a
  statement list in which every position is explicit and ordered as printed; (iv) the second
  `assignComments` re-attaches every comment to the node it was printed after; then the two clauses under
  the hypothesis `EolCount`.  `EolCount t` (a decidable counting condition on the parsed tree `t`): no line, `(`
  or `)` carries more than one end-of-line comment (a block and its `)` share one slot), a comment block
  carries none, and none is left over for the file header.  It holds unless some quoted token contains an
  escaped newline — the one input shape on which clause 2 is FALSE (`C02_violated_format_not_idempotent`
  below, and `eol_single_comment_not_sufficient`).  (`EolOK` = `EolCount` plus "a line that carries an
  end-of-line comment has no newline byte inside its tokens", which every parsed tree satisfies:
  `commented_line_one_source_line`.) -/

open Proofs.ModfileEol in
/-- ★ stage (i) `format_eq_render_eol`: what `Format` prints for a well-shaped tree with end-of-line comments
    (at most one per node, none on a comment block) and without header comments, as a pure function of the tree
    (`rStmtsE` = `rStmts` with ` //comment` appended to a line, to `verb (` and to `)`): the printer's
    pending-comment queue (`Printer.comment`, filled by `queueSuffix`, flushed by `newline`) computes exactly
    that. -/
theorem format_eq_render_eol (f : FileSyntax) (hwf : EWFStmts f.stmts) (hc : f.comments.before = []) :
    format f = rStmtsE f.stmts :=
  format_eq_rStmtsE f hwf hc

open Proofs.ModfileEol Proofs.ModfileFmtLex Proofs.ModfileFmtLine in
/-- ★ stage (ii) `relex_line_eol`: a printed token line followed by its end — a newline, or ` //comment` and
    a newline (`sufB cs R`) — lexes (from any state whose consumed/remaining split is the text `D`) to the
    records of its tokens followed by the newline token resp. an END-OF-LINE comment token carrying the trimmed
    text (`sufT`): the whole-line / end-of-line classification of the printed comment is preserved, the
    comment is recorded with the position where its text starts, and every token record carries its start and
    end position `pa D r` (= where the suffix `r` of `D` begins). -/
theorem relex_line_eol {D : Bytes} (ws : Bytes) (hws : ∀ b ∈ ws, isBlank b = true) (ts : List Bytes) (hne : ts ≠ [])
    (hts : ∀ t ∈ ts, TokText t) (cs : List Comment) (hcs : SufOK cs) {R : Bytes} {S : List Token}
    (hS : LexesToE D .bol R S) (m : Mode) :
    LexesToE D m (ws ++ (tokStr ts [] ++ sufB cs R)) (tokStrT D ts (sufB cs R) ++ sufT D cs R :: S) :=
  lexesE_tokline ws hws ts hne hts cs hcs hS m

open Proofs.ModfileEol in
/-- ★ stage (iii): the formatted text of a well-shaped tree is `stmtsB f.stmts`; parsing it gives (before
    comment assignment, up to line identities) the statement list `eStmts`, in which every position is
    `pa D r` for an explicit suffix `r` of the formatted text `D` — so byte offsets are ordered as printed and
    line numbers differ by the newlines in between — and the lexer records exactly the printed end-of-line
    comments `stmtsC`, each with the position where its text starts. -/
theorem reparse_positions (f : FileSyntax) (hwf : EWFStmts f.stmts) (hc : f.comments.before = []) :
    format f = stmtsB f.stmts ∧
    ∃ out i', parseFile (format f) = .ok (out, i') ∧ out.map zidE = eStmts (format f) f.stmts ∧
      i'.commentsRev.reverse = stmtsC (format f) f.stmts :=
  parseFile_rendered f hwf hc

open Proofs.ModfileEol in
/-- ★ stage (iv) `assign_reattach`: on that statement list and those comments, the backwards post-order walk
    of `assignComments` (`end.byte ≤ c.start.byte`, nodes with `start.line ≠ end.line` skipped) gives every
    line, `(` and `)` the comment that was printed after it (`aStmts`) and leaves none for the file header.
    `NlOK`: a line that carries an end-of-line comment has no newline byte inside its tokens. -/
theorem assign_reattach {D : Bytes} (name : Bytes) (ss : List Expr) (hwf : EWFStmts ss) (hnl : ∀ s ∈ ss, NlOK s)
    (hD : D = stmtsB ss) :
    assignComments { name := name, stmts := eStmts D ss } (stmtsC D ss) =
      { name := name, comments := {}, stmts := aStmts D ss } :=
  Proofs.ModfileEol.assign_reattach name ss hwf hnl hD

open Proofs.ModfileEol in
/-- In every parsed tree, a line that carries an end-of-line comment has no newline byte inside its tokens:
    `assignComments` gives a comment only to a node with `start.line = end.line`, and a parsed line ends at
    least as many source lines below its start as its tokens contain newline bytes
    (`Proofs.ModfileEol.parseFile_ln`, from the C20 position facts).  Hence `EolOK` = `EolCount` for parsed
    trees (`Proofs.ModfileEol.eolOK_of_count`). -/
theorem commented_line_one_source_line {name x : Bytes} {t : FileSyntax} (h : parse name x = .ok t) :
    ∀ s ∈ t.stmts, NlOK s :=
  parse_nlOK h

open Proofs.ModfileEol Proofs.ModfileFmtTree in
/-- ★ `format_parse_syntax_partial2` — `format_parse_syntax` for every accepted input whose tree satisfies the
    counting condition `EolCount` (strictly weaker than `NoEol`, see `eolCount_of_noEol`; end-of-line comments
    on lines, after `verb (` and after `)` are covered, in particular `// indirect`).  The formatted output
    parses again; the new tree is the old one in normal form — positions and line identities erased, every
    comment text replaced by its `TrimSpace`, the comment of a one-line block `x ( ) // c` moved from the block
    to its `)` (the only change of attachment side under `EolCount`) — and satisfies `EolCount` again.
    `format_parse_syntax_reading` spells the equation out as "same statements, same tokens, same comment texts
    in the same order".
    Why a hypothesis: without it the statement is false — in `C02_violated_format_not_idempotent` the re-parsed
    tree has an additional comment block.  `EolCount` is not the weakest possible hypothesis: several comments
    on one line INSIDE a block or after `verb (`, and comments left over for the file header, also survive (with
    a change of attachment side), see lean/PENDING.md. -/
theorem format_parse_syntax_partial2 (name x : Bytes) (t : FileSyntax) (h : parse name x = .ok t) (hok : EolCount t) :
    ∃ t', parse name (format t) = .ok t' ∧ eraseFile t' = normFileE t ∧ EolCount t' :=
  format_parse_syntax_count name x t h hok

open Proofs.ModfileEol Proofs.ModfileFmtTree in
/-- the conclusion of `format_parse_syntax_partial2` in the words of the property: same name, same statements
    (kind, header / line tokens, in order), same comment texts modulo `TrimSpace` in the same printing order -/
theorem format_parse_syntax_reading {t t' : FileSyntax} (h : eraseFile t' = normFileE t) :
    t'.name = t.name ∧ t'.stmts.map tokShape = t.stmts.map tokShape ∧
      fileTexts t' = (fileTexts t).map GoStrings.trimSpace :=
  same_syntax_of_normal_form h

open Proofs.ModfileEol in
/-- ★ `format_idempotent_partial2` — `format_idempotent` for every accepted input whose tree satisfies
    `EolCount`.  Without such a hypothesis the statement is FALSE (`C02_violated_format_not_idempotent`); "no
    node carries more than one end-of-line comment" alone is not enough either
    (`eol_single_comment_not_sufficient`: the comment of a two-line line moves to a preceding comment block). -/
theorem format_idempotent_partial2 (name x : Bytes) (t t' : FileSyntax) (h : parse name x = .ok t) (hok : EolCount t)
    (h' : parse name (format t) = .ok t') : format t' = format t :=
  format_idempotent_count name x t t' h hok h'

open Proofs.ModfileEol Proofs.ModfileFmtConserve in
/-- `NoEol` (the hypothesis of the `_partial` theorems) implies `EolCount` -/
theorem eolCount_of_noEol {t : FileSyntax} (h : NoEol t) : EolCount t :=
  eolCount_of_ok (Proofs.ModfileEol.eolOK_of_noEol h)

/-- non-vacuity of `EolCount`: an accepted file with end-of-line comments on a top-level line, on block lines
    (`// indirect`), after `verb (`, after `)` and after a one-line block, plus whole-line comments, a blank line
    in a block, quoting and CRLF, satisfies it (`eolCountB` is the decidable form, `eolCountB_sound`) -/
example :
    let x := B "// doc\r\nmodule  \"example.com/m\" // c\n\nrequire ( // lp\n\ta.b/c v1.0.0 // indirect\n\n\t// why\n\td.e/f   v1.2.3\n\t// tail\n) // end\nx ( ) // e\n"
    (match parse (B "go.mod") x with
     | .ok t => Proofs.ModfileEol.eolCountB t
     | .error _ => false) = true := by
  conv => zeta
  decide_bytes

/-- … and both clauses on that file, by evaluation: the formatted output parses to a tree with the same
    comment texts (trimmed) in the same order, and formats to the same bytes -/
example :
    let x := B "// doc\r\nmodule  \"example.com/m\" // c\n\nrequire ( // lp\n\ta.b/c v1.0.0 // indirect\n\n\t// why\n\td.e/f   v1.2.3\n\t// tail\n) // end\nx ( ) // e\n"
    (match parse (B "go.mod") x with
     | .ok t => (match parse (B "go.mod") (format t) with
                 | .ok t' => decide (format t' = format t ∧
                     Proofs.ModfileEol.fileTexts t' = (Proofs.ModfileEol.fileTexts t).map GoStrings.trimSpace)
                 | .error _ => false)
     | .error _ => false) = true := by
  conv => zeta
  decide_bytes

/-- non-vacuity of the hypotheses of stages (i)–(iv) (`EWFStmts`, `NlOK`, no header comment) is
    `Proofs.ModfileEol.parse_ewf`: every accepted input whose tree satisfies `EolCount` has them -/
example (name x : Bytes) (t : FileSyntax) (h : parse name x = .ok t) (hok : Proofs.ModfileEol.EolCount t) :
    Proofs.ModfileEol.EWFStmts t.stmts ∧ (∀ s ∈ t.stmts, Proofs.ModfileEol.NlOK s) ∧ t.comments = {} ∧ t.name = name :=
  Proofs.ModfileEol.parse_ewf h (Proofs.ModfileEol.eolOK_of_count h hok)

/-- The hypothesis "no node carries more than one end-of-line comment" alone does NOT make `Format` idempotent
    (second manifestation of the known finding `C02_violated_format_not_idempotent`, same cause): here the
    two-line line `x "a\⏎b"` is skipped by `assignComments` and its comment `// c1` becomes the (only) suffix
    comment of the preceding comment block; `Format` prints it as ` // c1` on its own line, the re-parse makes
    it a whole-line comment of `x`, and the next `Format` prints `// c1` without the blank.  This is why `EolCount`
    requires comment blocks to carry no end-of-line comment. -/
theorem eol_single_comment_not_sufficient :
    ∃ t t', parse (B "go.mod") (B "// hello\n\nx \"a\\\nb\" // c1\n") = .ok t ∧
      parse (B "go.mod") (format t) = .ok t' ∧ format t' ≠ format t ∧
      format t = B "// hello\n // c1\nx \"a\\\nb\"\n" ∧ format t' = B "// hello\n// c1\nx \"a\\\nb\"\n" ∧
      (∀ s ∈ t.stmts, Proofs.ModfileFmtConserve.sufCount s ≤ 1) := by
  have h : (match parse (B "go.mod") (B "// hello\n\nx \"a\\\nb\" // c1\n") with
      | .ok t => (match parse (B "go.mod") (format t) with
          | .ok t' => decide (format t' ≠ format t ∧
              format t = B "// hello\n // c1\nx \"a\\\nb\"\n" ∧ format t' = B "// hello\n// c1\nx \"a\\\nb\"\n" ∧
              (∀ s ∈ t.stmts, Proofs.ModfileFmtConserve.sufCount s ≤ 1))
          | .error _ => false)
      | .error _ => false) = true := by decide +kernel
  cases h1 : parse (B "go.mod") (B "// hello\n\nx \"a\\\nb\" // c1\n") with
  | error e => rw [h1] at h; cases h
  | ok t =>
    rw [h1] at h
    simp only at h
    cases h2 : parse (B "go.mod") (format t) with
    | error e => rw [h2] at h; cases h
    | ok t' =>
      rw [h2] at h
      simp only at h
      have := of_decide_eq_true h
      exact ⟨t, t', rfl, h2, this⟩

/-! ### Clause 3 with end-of-line comments (`// indirect`) -/

open Proofs.ModfileEol in
/-- `File.add` looks at a line (and at the block comments) only through its position (error messages), its
    identity, `isIndirect` (for `require`) and the deprecation / rationale texts: from the same state, two lines
    with the same `isIndirect` give the same directive values, the same number of errors and the same rewritten
    arguments. -/
theorem add_line_independent (st : AddState) (b b' : Option Comments) (l l' : Line) (verb : Bytes) (args : List Bytes)
    (fix : Option Fixer) (strict : Bool)
    (hind : (verb == B "require") = true → isIndirect l = isIndirect l') :
    obs (File.add st b l verb args fix strict) = obs (File.add st b' l' verb args fix strict) :=
  add_obs st b b' l l' verb args fix strict hind

open Proofs.ModfileEol Proofs.ModfileFmtLex in
/-- the `// indirect` marker survives formatting: `isIndirect` sees only the first end-of-line comment, and only
    modulo `TrimSpace` of its text (`strings.Fields` ignores the trailing white space `TrimSpace` removes) -/
theorem isIndirect_trimmed (l l' : Line) (c : Comment) (r r' : List Comment) (hc : CommentOK c.token)
    (h : l.comments.suffix = c :: r) (h' : l'.comments.suffix = { c with token := GoStrings.trimSpace c.token } :: r') :
    isIndirect l' = isIndirect l :=
  isIndirect_trim l l' c r r' hc h h'

open Proofs.ModfileFmtDir Proofs.ModfileEol in
/-- ★ `format_preserves_directives_partial2` (strict go.mod) — clause 3 for inputs WITH end-of-line comments, in
    particular `// indirect`: if the strict parser accepts `x` as a well-formed file `f` whose syntax tree
    satisfies the counting condition `EolCount` (no line, `(` or `)` with more than one end-of-line comment, none
    on a comment block, none left over for the header), then it accepts `Format(f.Syntax)`, and the directive
    values — module path, go, toolchain, godebug, require WITH THE INDIRECT FLAG, exclude, replace, retract
    intervals, tool — are identical; without a version fixer, or with a fixer that is idempotent on its image
    and never returns the empty string, provided the file has no `retract` directive in that case.  Still
    missing for the full statement: `fixRetract` with a fixer and fixers that return the empty string (see
    lean/PENDING.md); `Module.Deprecated` / `Retract.Rationale` are added by `format_preserves_directives_partial3`
    below. -/
theorem format_preserves_directives_partial2 (name x : Bytes) (fix : Option Fixer) (f : Modfile.File)
    (h : parseToFile name x fix true = .ok f) (hc : EolCount f.syn) (hwf : WellFormed f)
    (hfix : FixOK fix) (hne : FixNE fix) (hret : fix ≠ none → f.retract = []) :
    ∃ f', parseToFile name (format f.syn) fix true = .ok f' ∧ values f' = values f :=
  let ⟨f', h1, h2, _⟩ := Proofs.ModfileFmtRet.format_preserves_directives_strict name x fix f h hwf hfix hne hret
  ⟨f', h1, h2⟩

open Proofs.ModfileFmtDir Proofs.ModfileFmtWork Proofs.ModfileEol in
/-- ★ `format_preserves_directives_work_partial2` (go.work) — the same for `ParseWork`: inputs with end-of-line
    comments whose syntax tree satisfies `EolCount`. -/
theorem format_preserves_directives_work_partial2 (name x : Bytes) (fix : Option Fixer) (f : WorkFile)
    (h : parseWork name x fix = .ok f) (hc : EolCount f.syn) (hwf : WorkWellFormed f)
    (hfix : FixOK fix) (hne : FixNE fix) :
    ∃ f', parseWork name (format f.syn) fix = .ok f' ∧ workValues f' = workValues f :=
  Proofs.ModfileStrictTok.format_preserves_directives_work_strict name x fix f h hwf hfix hne

/-- non-vacuity (go.mod, no fixer): a file with `// indirect` markers inside a block and on a top-level line, and
    other end-of-line comments, is accepted as a well-formed file whose syntax tree satisfies `EolCount`; the
    indirect flags are `[true, false, true]` -/
example :
    let x := B "module \"example.com/m\" // mod\ngo 1.21\nrequire (\n\t\"a.b/c\" v1 // indirect\n\td.e/f v1.2.3\n)\nrequire g.h/i v2.0.0+incompatible // indirect; why\nreplace a.b/c => \"./x y\" // r\n"
    (match parseToFile (B "go.mod") x none true with
     | .ok f => Proofs.ModfileFmtDir.wellFormedB f && Proofs.ModfileEol.eolCountB f.syn &&
         decide (f.require.map (·.indirect) = [true, false, true])
     | .error _ => false) = true := by
  conv => zeta
  decide_bytes

/-- non-vacuity (go.work) -/
example :
    let x := B "go 1.21 // g\nuse (\n\t\"./x y\" // first\n\t./z\n) // done\nreplace a.b/c v1.2 => \"../c\" // r\n"
    (match parseWork (B "go.work") x none with
     | .ok f => Proofs.ModfileFmtWork.workWellFormedB f && Proofs.ModfileEol.eolCountB f.syn
     | .error _ => false) = true := by
  conv => zeta
  decide_bytes

/-! ### The three clauses under a condition on the SOURCE text: no token spans two source lines

  Helper files `Proofs/ModfileSrc*.lean`.  `NoMultiLineToken x`: every token the lexer of read.go delivers on
  `x`, other than the newline token itself, has no newline byte in its text (`tokensOf x` is the token stream:
  `readToken` iterated from `newInput x` up to the end-of-input token or the first lexical error).  Only a
  double-quoted string with a backslash-newline inside can violate it — the input shape of the known finding
  `C02_violated_format_not_idempotent`.  The condition is decidable, and implied by the byte-level condition
  `NoBackslashNewline x` (`x` does not contain the two bytes `\` `⏎` in sequence).

  `eolCount_of_single_line_tokens`: under it the tree condition `EolCount` of the `_partial2` theorems holds for
  every accepted input.  Proof: two passes over the five parser loops for the lexer states the parser reaches
  (`Reach`).  (1) `Proofs.ModfileSrc.parseFile_oneLine`: every line starts and ends on the same source line (a
  line token without newline ends on the line on which it starts, and only blanks separate it from the next
  token).  (2) `Proofs.ModfileSrc.parseFile_own`: the pass tracks `commentsRev` (it grows by the record of the
  pending token iff that token is an end-of-line comment token) and byte bounds; an end-of-line comment token is
  never the first token of a source line, so it directly follows the last token of exactly one line / `(` / `)`,
  whose end is the largest node end ≤ the comment's start and which is a one-line node by (1); the backwards
  post-order walk of `assignComments` therefore gives it to that node and to no other
  (`Proofs.ModfileEol.assignSuffix_take` / `assignSuffix_none` through `Slot` / `StmtOwn`). -/

open Proofs.ModfileSrc Proofs.ModfileEol in
/-- ★ `eolCount_of_single_line_tokens`: for every accepted input in which no token spans two source lines, the
    parsed tree satisfies the counting condition `EolCount` — no line, `(` or `)` carries more than one
    end-of-line comment (a block and its `)` share one slot), a comment block carries none, none is left over
    for the file header. -/
theorem eolCount_of_single_line_tokens {name x : Bytes} {t : FileSyntax} (h : parse name x = .ok t)
    (hN : NoMultiLineToken x) : EolCount t :=
  Proofs.ModfileSrc.eolCount_of_single_line_tokens h hN

open Proofs.ModfileSrc in
/-- a byte-level sufficient condition: an input that nowhere contains a backslash immediately followed by a
    newline has no token that spans two source lines (a newline byte inside a token other than the newline
    token can only be the escaped rune after a backslash in a double-quoted string) -/
theorem noMultiLineToken_of_noBackslashNewline {x : Bytes} (h : NoBackslashNewline x) : NoMultiLineToken x :=
  Proofs.ModfileSrc.noMultiLineToken_of_noBackslashNewline h

open Proofs.ModfileSrc Proofs.ModfileEol Proofs.ModfileFmtTree in
/-- ★ `format_parse_syntax_src` — `format_parse_syntax` for EVERY accepted input in which no token spans two
    source lines (`NoMultiLineToken x`, a decidable condition on the input bytes; end-of-line comments, `// indirect`
    markers, comment blocks, blank lines, blocks, CRLF all allowed): the formatted output parses again, and the
    new tree is the old one in normal form — positions and line identities erased, every comment text replaced
    by its `TrimSpace`, the comment of a one-line block `x ( ) // c` moved from the block to its `)` — i.e. same
    statements, same tokens, same comment texts in the same order (`format_parse_syntax_reading`).  Without the
    hypothesis the statement is false (`C02_violated_format_not_idempotent`). -/
theorem format_parse_syntax_src (name x : Bytes) (t : FileSyntax) (h : parse name x = .ok t)
    (hN : NoMultiLineToken x) :
    ∃ t', parse name (format t) = .ok t' ∧ eraseFile t' = normFileE t ∧ EolCount t' :=
  Proofs.ModfileSrc.format_parse_syntax_src name x t h hN

open Proofs.ModfileSrc in
/-- ★ `format_idempotent_src` — `format_idempotent` for EVERY accepted input in which no token spans two source
    lines: formatting the re-parsed formatted output gives the same bytes.  The two inputs on which the clause
    fails (`C02_violated_format_not_idempotent`, `eol_single_comment_not_sufficient`) both contain a quoted
    string with a backslash-newline, see the examples below. -/
theorem format_idempotent_src (name x : Bytes) (t t' : FileSyntax) (h : parse name x = .ok t)
    (hN : NoMultiLineToken x) (h' : parse name (format t) = .ok t') : format t' = format t :=
  Proofs.ModfileSrc.format_idempotent_src name x t t' h hN h'

open Proofs.ModfileFmtDir Proofs.ModfileSrc in
/-- ★ `format_preserves_directives_src` (strict go.mod) — clause 3 for every input in which no token spans two
    source lines: if the strict parser accepts `x` as a well-formed file `f`, it accepts `Format(f.Syntax)`, and
    the directive values — module path, go, toolchain, godebug, require WITH THE INDIRECT FLAG, exclude, replace,
    retract intervals, tool — are identical; fixer restrictions as in `format_preserves_directives_partial2`. -/
theorem format_preserves_directives_src (name x : Bytes) (fix : Option Fixer) (f : Modfile.File)
    (h : parseToFile name x fix true = .ok f) (hN : NoMultiLineToken x) (hwf : WellFormed f)
    (hfix : FixOK fix) (hne : FixNE fix) (hret : fix ≠ none → f.retract = []) :
    ∃ f', parseToFile name (format f.syn) fix true = .ok f' ∧ values f' = values f :=
  Proofs.ModfileSrc.format_preserves_directives_src name x fix f h hN hwf hfix hne hret

open Proofs.ModfileFmtDir Proofs.ModfileFmtWork Proofs.ModfileSrc in
/-- ★ `format_preserves_directives_work_src` (go.work) — the same for `ParseWork`. -/
theorem format_preserves_directives_work_src (name x : Bytes) (fix : Option Fixer) (f : WorkFile)
    (h : parseWork name x fix = .ok f) (hN : NoMultiLineToken x) (hwf : WorkWellFormed f)
    (hfix : FixOK fix) (hne : FixNE fix) :
    ∃ f', parseWork name (format f.syn) fix = .ok f' ∧ workValues f' = workValues f :=
  Proofs.ModfileSrc.format_preserves_directives_work_src name x fix f h hN hwf hfix hne

/-- non-vacuity of `eolCount_of_single_line_tokens`, `format_parse_syntax_src`, `format_idempotent_src`: a file with
    end-of-line comments on a top-level line, on block lines (`// indirect`), after `verb (`, after `)` and after a
    one-line block, whole-line comments, a blank line in a block, quoted strings (with an escape, but no escaped
    newline) and CRLF is accepted and satisfies `NoMultiLineToken` — and even the byte-level condition -/
example :
    let x := B "// doc\r\nmodule  \"example.com/m\" // c\n\nrequire ( // lp\n\ta.b/c v1.0.0 // indirect\n\n\t// why\n\t\"d.e/f\\x41\"   v1.2.3 // indirect\n\t// tail\n) // end\nx ( ) // e\n"
    (∃ t, parse (B "go.mod") x = .ok t) ∧ Proofs.ModfileSrc.NoMultiLineToken x ∧
      Proofs.ModfileSrc.NoBackslashNewline x := by
  refine ⟨?_, by decide_bytes, by decide_bytes⟩
  have h : (match parse (B "go.mod") (B "// doc\r\nmodule  \"example.com/m\" // c\n\nrequire ( // lp\n\ta.b/c v1.0.0 // indirect\n\n\t// why\n\t\"d.e/f\\x41\"   v1.2.3 // indirect\n\t// tail\n) // end\nx ( ) // e\n") with
      | .ok _ => true
      | .error _ => false) = true := by decide_bytes
  cases hp : parse (B "go.mod") (B "// doc\r\nmodule  \"example.com/m\" // c\n\nrequire ( // lp\n\ta.b/c v1.0.0 // indirect\n\n\t// why\n\t\"d.e/f\\x41\"   v1.2.3 // indirect\n\t// tail\n) // end\nx ( ) // e\n") with
  | ok t => exact ⟨t, rfl⟩
  | error e => rw [hp] at h; cases h

/-- the hypothesis is not vacuous in the other direction either: the two inputs on which `Format` is not
    idempotent violate `NoMultiLineToken` (their quoted string `"p\⏎q"` spans two source lines) -/
example :
    ¬ Proofs.ModfileSrc.NoMultiLineToken (B "a b // c1\nx \"p\\\nq\" // c2\n") ∧
    ¬ Proofs.ModfileSrc.NoMultiLineToken (B "// hello\n\nx \"a\\\nb\" // c1\n") := by
  exact ⟨by decide_bytes, by decide_bytes⟩

/-- `NoMultiLineToken` is weaker than the byte-level condition: a backslash at the end of a `//` comment is
    harmless -/
example :
    let x := B "a b // c1 \\\nx y // c2\n"
    Proofs.ModfileSrc.NoMultiLineToken x ∧ ¬ Proofs.ModfileSrc.NoBackslashNewline x := by
  exact ⟨by decide_bytes, by decide_bytes⟩

/-- non-vacuity of `format_preserves_directives_src` (go.mod, no fixer): a file with `// indirect` markers inside
    a block and on a top-level line and other end-of-line comments is accepted as a well-formed file (indirect
    flags `[true, false, true]`) and satisfies `NoMultiLineToken` -/
example :
    let x := B "module \"example.com/m\" // mod\ngo 1.21\nrequire (\n\t\"a.b/c\" v1 // indirect\n\td.e/f v1.2.3\n)\nrequire g.h/i v2.0.0+incompatible // indirect; why\nreplace a.b/c => \"./x y\" // r\n"
    (match parseToFile (B "go.mod") x none true with
     | .ok f => Proofs.ModfileFmtDir.wellFormedB f && decide (f.require.map (·.indirect) = [true, false, true])
     | .error _ => false) = true ∧ Proofs.ModfileSrc.NoMultiLineToken x := by
  exact ⟨by decide_bytes, by decide_bytes⟩

/-- non-vacuity of `format_preserves_directives_work_src` (go.work) -/
example :
    let x := B "go 1.21 // g\nuse (\n\t\"./x y\" // first\n\t./z\n) // done\nreplace a.b/c v1.2 => \"../c\" // r\n"
    (match parseWork (B "go.work") x none with
     | .ok f => Proofs.ModfileFmtWork.workWellFormedB f
     | .error _ => false) = true ∧ Proofs.ModfileSrc.NoMultiLineToken x := by
  exact ⟨by decide_bytes, by decide_bytes⟩

/-! ### Clause 3 with the comment-derived values `Module.Deprecated` and `Retract.Rationale`

  Helper files `Proofs/ModfileFmtCom{Trim,Block,}.lean`.  `File.add` reads the two values from the comments of the
  directive's line — or, for a block line without comments of its own, of the enclosing block
  (`parseDirectiveComment`: `len(comments.Before) == 0 && len(comments.Suffix) == 0`) — as
  `TrimSpace(TrimPrefix(c, "//"))` of every `Before` / `Suffix` comment that starts with `//` (blank-line
  placeholders are skipped), joined by newlines; `parseDeprecation` applies `deprecatedRE` to that text.
  The re-parse of the formatted text is the original tree up to positions with every comment text trimmed and the
  end-of-line comment of a block NODE moved to its `)` (`format_parse_syntax_partial2`).  Hence: the texts agree
  (`directive_comment_text_trimmed`), placeholders stay placeholders and list lengths are kept, so the line-vs-block
  choice is the same, and the moved comment belongs to a block without lines (`block_comment_no_lines`, a
  first-parse fact).  No counter-example exists under the hypotheses of `format_preserves_directives_partial2`: in
  particular a blank-line placeholder as the only `Before` entry of a retract line inside a commented block gives
  the empty rationale in BOTH parses, because the printer writes the blank line (example below; the real
  `modfile.Parse` / `modfile.Format` agree). -/

open Proofs.ModfileFmtLex in
/-- for a `//` comment text `c` (no newline): `TrimSpace(TrimPrefix(TrimSpace(c), "//")) = TrimSpace(TrimPrefix(c, "//"))`
    — `parseDirectiveComment` extracts the same text from the comment and from the trimmed comment the printer writes;
    for every byte string after the slashes, ill-formed UTF-8 and non-ASCII white space included -/
theorem directive_comment_text_trimmed {c : Bytes} (h : CommentOK c) :
    GoStrings.trimSpace ((GoStrings.trimSpace c).drop 2) = GoStrings.trimSpace (c.drop 2) :=
  Proofs.ModfileFmtCom.directiveText_trim h

/-- `TrimSpace (x ++ e) = TrimSpace x` when `e` is a concatenation of well-formed encodings of white-space runes —
    for every byte string `x` -/
theorem trimSpace_append_spaceSeq (x e : Bytes) (he : Proofs.ModfileFmtTrim.SpaceSeq e) :
    GoStrings.trimSpace (x ++ e) = GoStrings.trimSpace x :=
  Proofs.ModfileFmtTrim.trimSpace_append_spaceSeq x e he

example : Proofs.ModfileFmtLex.CommentOK (B "//  Deprecated: x \t\r") := by
  exact ⟨by decide_bytes, by decide_bytes⟩

example : Proofs.ModfileFmtTrim.SpaceSeq [32, 0xC2, 0xA0, 0xE3, 0x80, 0x80] :=
  .cons [32] _ 32 (by decide) (by decide) (.cons [0xC2, 0xA0] _ 0xA0 (by decide) (by decide)
    (.cons [0xE3, 0x80, 0x80] [] 0x3000 (by decide) (by decide) .nil))

/-- first-parse fact: in every parsed tree a block whose NODE carries an end-of-line comment has no lines (it is the
    one-line block `x ( ) // c`; a block built by `parseLineBlock` starts on an earlier source line than its `)`, and
    `assignComments` skips nodes that span several lines) — so the comments `parseDirectiveComment` reads from the
    enclosing block of a line are all `Before` comments -/
theorem block_comment_no_lines {name x : Bytes} {t : FileSyntax} (h : parse name x = .ok t) :
    ∀ b, Expr.lineBlock b ∈ t.stmts → b.comments.suffix ≠ [] → b.lines = [] :=
  fun b hb => Proofs.ModfileFmtCom.parse_blockSuf h (Expr.lineBlock b) hb

example : (match parse (B "go.mod") (B "retract ( ) // c\n") with
    | .ok t => t.stmts.any (fun s => match s with
        | .lineBlock b => !b.comments.suffix.isEmpty && b.lines.isEmpty
        | _ => false)
    | .error _ => false) = true := by decide_bytes

open Proofs.ModfileFmtCom in
/-- one strict `File.add` step that reports no error changes the comment-derived values exactly by `comStep`:
    `module` sets the deprecation text to `parseDeprecation block line.comments`, `retract` appends
    `parseDirectiveComment block line.comments`, every other verb leaves both alone -/
theorem add_step_comments (st : AddState) (block : Option Comments) (l : Line) (verb : Bytes) (args : List Bytes)
    (fix : Option Fixer) (he : (File.add st block l verb args fix true).1.errsRev = []) :
    comVals (File.add st block l verb args fix true).1.file = comStep block l verb (comVals st.file) :=
  add_com st block l verb args fix he

example : (File.add {} none { token := [B "retract", B "v1.0.0"], comments := { suffix := [{ token := B "// why " }] } }
    (B "retract") [B "v1.0.0"] none true).1.errsRev = [] := by decide +kernel

open Proofs.ModfileFmtDir Proofs.ModfileEol in
/-- ★ `format_preserves_directives_partial3` (strict go.mod) — clause 3 INCLUDING the values derived from comments:
    if the strict parser accepts `x` as a well-formed file `f` whose syntax tree satisfies the counting condition
    `EolCount`, then it accepts `Format(f.Syntax)`, the directive values — module path, go, toolchain, godebug,
    require with the indirect flag, exclude, replace, retract intervals, tool — are identical, AND so are
    `Module.Deprecated` and the `Retract.Rationale` of every retraction (equality, no weaker relation is needed);
    hypotheses exactly those of `format_preserves_directives_partial2`.  Still missing for the full statement:
    `fixRetract` with a fixer and fixers that return the empty string (see lean/PENDING.md). -/
theorem format_preserves_directives_partial3 (name x : Bytes) (fix : Option Fixer) (f : Modfile.File)
    (h : parseToFile name x fix true = .ok f) (hc : EolCount f.syn) (hwf : WellFormed f)
    (hfix : FixOK fix) (hne : FixNE fix) (hret : fix ≠ none → f.retract = []) :
    ∃ f', parseToFile name (format f.syn) fix true = .ok f' ∧ values f' = values f ∧
      f'.module.map (·.deprecated) = f.module.map (·.deprecated) ∧
      f'.retract.map (·.rationale) = f.retract.map (·.rationale) := by
  obtain ⟨f', h1, h2, h3⟩ := Proofs.ModfileFmtCom.format_preserves_directives_com name x fix f h hc hwf hfix hne hret
  exact ⟨f', h1, h2, congrArg Proofs.ModfileFmtCom.ComVals.deprecated h3,
    congrArg Proofs.ModfileFmtCom.ComVals.rationale h3⟩

open Proofs.ModfileFmtDir Proofs.ModfileSrc in
/-- ★ `format_preserves_directives_src3` — the same under the condition on the SOURCE text (no token spans two source
    lines) instead of `EolCount` -/
theorem format_preserves_directives_src3 (name x : Bytes) (fix : Option Fixer) (f : Modfile.File)
    (h : parseToFile name x fix true = .ok f) (hN : NoMultiLineToken x) (hwf : WellFormed f)
    (hfix : FixOK fix) (hne : FixNE fix) (hret : fix ≠ none → f.retract = []) :
    ∃ f', parseToFile name (format f.syn) fix true = .ok f' ∧ values f' = values f ∧
      f'.module.map (·.deprecated) = f.module.map (·.deprecated) ∧
      f'.retract.map (·.rationale) = f.retract.map (·.rationale) :=
  format_preserves_directives_partial3 name x fix f h (Proofs.ModfileFmtRet.eolCount_syn_fix name x fix f h) hwf hfix hne hret

/-- non-vacuity (no fixer, CRLF line ends): a go.mod with a `// Deprecated:` comment above the module directive
    (which also carries an end-of-line comment), a commented retract block with a line that has its own end-of-line
    rationale (trailing blanks), a line with a whole-line rationale, a line whose only `Before` entry is a blank-line
    PLACEHOLDER (own comment list not empty, so the block comment is NOT used: rationale empty), a line without
    comments (block rationale), and a top-level retract — is accepted as a well-formed file satisfying `EolCount`
    and `NoMultiLineToken`; the comment-derived values are as stated, and the strict parse of the formatted text
    has the same ones (the conclusion of the theorem, evaluated).  The real `modfile.Parse` gives the same values
    before and after `modfile.Format`. -/
example :
    let x := B "// Deprecated: use example.com/n instead. \r\nmodule example.com/m // mod\r\n\r\ngo 1.21\r\n\r\n// block rationale \t\r\nretract (\r\n\tv1.0.0 // line rationale\t \r\n\t// before\r\n\tv1.1.0\r\n\r\n\t[v1.2.0, v1.3.0]\r\n\tv1.4.0\r\n)\r\nretract v1.5.0 //top\r\n"
    (match parseToFile (B "go.mod") x none true with
     | .ok f => Proofs.ModfileFmtDir.wellFormedB f && Proofs.ModfileEol.eolCountB f.syn &&
         decide (f.module.map (·.deprecated) = some (B "use example.com/n instead.\nmod")) &&
         decide (f.retract.map (·.rationale) = [B "line rationale", B "before", [], B "block rationale", B "top"]) &&
         (match parseToFile (B "go.mod") (format f.syn) none true with
          | .ok f' => decide (f'.module.map (·.deprecated) = f.module.map (·.deprecated)) &&
              decide (f'.retract.map (·.rationale) = f.retract.map (·.rationale))
          | .error _ => false)
     | .error _ => false) = true ∧ Proofs.ModfileSrc.NoMultiLineToken x := by
  intro x
  rw [B_lit x]
  clear x
  exact ⟨by decide +kernel, by decide +kernel⟩

/-! ### Strictly accepted inputs: the source condition is automatic

  Helper files `Proofs/ModfileStrictTok{Lex,Dir}.lean`.  The STRICT directive layer never accepts a token that spans
  two source lines: every argument position of every verb is matched against a pattern whose matches do not start
  with a double quote (`GoVersionRE`, `ToolchainRE`, the godebug key=value test, the fixed tokens `=>` `[` `,` `]`) or
  goes through `parseString` (directly or inside `parseVersion`), which hands a token starting with `"` to
  `strconv.Unquote`, and `Unquote` rejects a newline byte; left-over tokens, unknown verbs and unknown blocks are
  errors in strict mode; verbs and block headers are fixed words.  A token the lexer delivers that does not start
  with `"` cannot contain a newline (identifiers, punctuation, `//` texts and back-quoted strings never do).  A
  backward pass over the five parser loops transfers this from the tokens of the tree to every token of the source
  (`Proofs.ModfileStrictTok.parse_noMultiLineToken`).  Hence the hypothesis `NoMultiLineToken x` of the `_src`
  theorems holds for every input `Parse` / `ParseWork` accepts, and the inputs on which clause 2 fails
  (`C02_violated_format_not_idempotent`) are confined to what only the syntax layer / `ParseLax` accepts. -/

open Proofs.ModfileSrc in
/-- ★ `strict_noMultiLineToken`: an input the STRICT go.mod parser accepts — with any version fixer, the fixer only
    sees values `parseString` returned — has no token that spans two source lines. -/
theorem strict_noMultiLineToken (name x : Bytes) (fix : Option Fixer) (f : Modfile.File)
    (h : parseToFile name x fix true = .ok f) : NoMultiLineToken x :=
  Proofs.ModfileStrictTok.strict_noMultiLineToken h

open Proofs.ModfileSrc in
/-- ★ `strict_noMultiLineToken_work`: the same for `ParseWork` (always strict). -/
theorem strict_noMultiLineToken_work (name x : Bytes) (fix : Option Fixer) (f : WorkFile)
    (h : parseWork name x fix = .ok f) : NoMultiLineToken x :=
  Proofs.ModfileStrictTok.strict_noMultiLineToken_work h

open Proofs.ModfileStrictTok in
/-- one strict `File.add` step that reports no error saw only "quote-good" tokens (`DG t`: if `t` starts with a
    double quote it contains no newline byte): the verb is one of the nine fixed words and every argument position
    was validated -/
theorem add_step_tokens_validated (st : AddState) (block : Option Comments) (l : Line) (verb : Bytes)
    (args : List Bytes) (fix : Option Fixer) (h : (File.add st block l verb args fix true).1.errsRev = []) :
    DG verb ∧ ∀ t ∈ args, DG t :=
  add_dg h

example : (File.add {} none { token := [B "require", B "\"a.b/c\"", B "v1.0.0"] } (B "require")
    [B "\"a.b/c\"", B "v1.0.0"] none true).1.errsRev = [] := by decide +kernel

open Proofs.ModfileStrictTok Proofs.ModfileSrc in
/-- the tree-to-source transfer: if every token of the tree `parse` returns (line tokens, block header tokens) is
    quote-good, no token of the source spans two source lines -/
theorem noMultiLineToken_of_tree_tokens {name x : Bytes} {t : FileSyntax} (h : parse name x = .ok t)
    (hd : ∀ s ∈ t.stmts, ∀ tok ∈ allToks s, DG tok) : NoMultiLineToken x :=
  parse_noMultiLineToken h hd

open Proofs.ModfileFmtDir in
/-- ★ `format_preserves_directives_strict` (strict go.mod) — clause 3, comment-derived values included, WITHOUT a
    condition on the source text or the tree: if the strict parser accepts `x` as a well-formed file `f`, it accepts
    `Format(f.Syntax)`, and the directive values — module path, go, toolchain, godebug, require with the indirect
    flag, exclude, replace, retract intervals, tool — `Module.Deprecated` and every `Retract.Rationale` are identical;
    fixer restrictions as in `format_preserves_directives_partial2` (still missing for the full statement:
    `fixRetract` with a fixer and fixers that return the empty string, see lean/PENDING.md). -/
theorem format_preserves_directives_strict (name x : Bytes) (fix : Option Fixer) (f : Modfile.File)
    (h : parseToFile name x fix true = .ok f) (hwf : WellFormed f)
    (hfix : FixOK fix) (hne : FixNE fix) (hret : fix ≠ none → f.retract = []) :
    ∃ f', parseToFile name (format f.syn) fix true = .ok f' ∧ values f' = values f ∧
      f'.module.map (·.deprecated) = f.module.map (·.deprecated) ∧
      f'.retract.map (·.rationale) = f.retract.map (·.rationale) :=
  format_preserves_directives_src3 name x fix f h (strict_noMultiLineToken name x fix f h) hwf hfix hne hret

open Proofs.ModfileFmtDir Proofs.ModfileFmtWork in
/-- ★ `format_preserves_directives_work_strict` (go.work) — the same for `ParseWork`, without a condition on the
    source text or the tree. -/
theorem format_preserves_directives_work_strict (name x : Bytes) (fix : Option Fixer) (f : WorkFile)
    (h : parseWork name x fix = .ok f) (hwf : WorkWellFormed f) (hfix : FixOK fix) (hne : FixNE fix) :
    ∃ f', parseWork name (format f.syn) fix = .ok f' ∧ workValues f' = workValues f :=
  Proofs.ModfileStrictTok.format_preserves_directives_work_strict name x fix f h hwf hfix hne

open Proofs.ModfileEol Proofs.ModfileFmtTree in
/-- ★ `format_parse_syntax_strict` — clause 1 for every input the STRICT go.mod parser accepts (`t` is the tree of
    the syntax layer for that input): the formatted output parses again to the same tree in normal form.  (Clause 1
    for inputs only the syntax layer accepts stays `format_parse_syntax_src`.) -/
theorem format_parse_syntax_strict (name x : Bytes) (fix : Option Fixer) (f : Modfile.File) (t : FileSyntax)
    (hs : parseToFile name x fix true = .ok f) (h : parse name x = .ok t) :
    ∃ t', parse name (format t) = .ok t' ∧ eraseFile t' = normFileE t ∧ EolCount t' :=
  format_parse_syntax_src name x t h (strict_noMultiLineToken name x fix f hs)

/-- ★ `format_idempotent_strict` — clause 2 for every input the STRICT go.mod parser accepts: formatting the re-parsed
    formatted output gives the same bytes.  The inputs on which clause 2 fails are rejected by `Parse` (example
    below). -/
theorem format_idempotent_strict (name x : Bytes) (fix : Option Fixer) (f : Modfile.File) (t t' : FileSyntax)
    (hs : parseToFile name x fix true = .ok f) (h : parse name x = .ok t) (h' : parse name (format t) = .ok t') :
    format t' = format t :=
  format_idempotent_src name x t t' h (strict_noMultiLineToken name x fix f hs) h'

open Proofs.ModfileEol Proofs.ModfileFmtTree in
/-- clause 1 for every input `ParseWork` accepts -/
theorem format_parse_syntax_work_strict (name x : Bytes) (fix : Option Fixer) (f : WorkFile) (t : FileSyntax)
    (hs : parseWork name x fix = .ok f) (h : parse name x = .ok t) :
    ∃ t', parse name (format t) = .ok t' ∧ eraseFile t' = normFileE t ∧ EolCount t' :=
  format_parse_syntax_src name x t h (strict_noMultiLineToken_work name x fix f hs)

/-- clause 2 for every input `ParseWork` accepts -/
theorem format_idempotent_work_strict (name x : Bytes) (fix : Option Fixer) (f : WorkFile) (t t' : FileSyntax)
    (hs : parseWork name x fix = .ok f) (h : parse name x = .ok t) (h' : parse name (format t) = .ok t') :
    format t' = format t :=
  format_idempotent_src name x t t' h (strict_noMultiLineToken_work name x fix f hs) h'

/-- the syntax tree exists whenever the typed parsers accept (the hypothesis `parse name x = .ok t` of the four
    theorems above only names it) -/
theorem parse_of_strict (name x : Bytes) (fix : Option Fixer) (f : Modfile.File)
    (hs : parseToFile name x fix true = .ok f) : ∃ t, parse name x = .ok t :=
  Proofs.ModfileStrictTok.parse_of_parseToFile hs

theorem parse_of_work (name x : Bytes) (fix : Option Fixer) (f : WorkFile)
    (hs : parseWork name x fix = .ok f) : ∃ t, parse name x = .ok t :=
  Proofs.ModfileStrictTok.parse_of_parseWork hs

/-- non-vacuity of the `_strict` theorems (go.mod, no fixer and with `canonFix`; go.work): files with quoted strings
    (one with an escape), end-of-line comments, `// indirect`, a block, a retraction with rationale and a deprecation
    comment are strictly accepted as well-formed files -/
example :
    (let x := B "// Deprecated: gone\nmodule \"example.com/m\" // mod\ngo 1.21\ntoolchain go1.21.0\ngodebug a=b\nrequire (\n\t\"a.b/c\\x41\" v1 // indirect\n\td.e/f v1.2.3\n)\nexclude a.b/c v1.2\nreplace a.b/c => \"./x y\" // r\nretract [v1.0.0, v1.1] // why\ntool a.b/c/cmd\n"
     (match parseToFile (B "go.mod") x none true with
      | .ok f => Proofs.ModfileFmtDir.wellFormedB f
      | .error _ => false) = true) ∧
    (let x := B "module example.com/m\nrequire \"a.b/c\" v1 // indirect\nreplace a.b/c v1 => d.e/f v2.0\n"
     (match parseToFile (B "go.mod") x (some canonFix) true with
      | .ok f => Proofs.ModfileFmtDir.wellFormedB f && f.retract.isEmpty
      | .error _ => false) = true) ∧
    (let x := B "go 1.21 // g\nuse (\n\t\"./x y\" // first\n\t./z\n) // done\nreplace a.b/c v1.2 => \"../c\" // r\n"
     (match parseWork (B "go.work") x none with
      | .ok f => Proofs.ModfileFmtWork.workWellFormedB f
      | .error _ => false) = true) := by
  refine ⟨?_, ?_, ?_⟩ <;> (intro x; rw [B_lit x]; clear x; decide +kernel)

/-- "strict" cannot be weakened: a quoted string with a backslash-newline is rejected by the strict parser in every
    argument position it could take — as a `parseString` argument (`invalid quoted string`), as a surplus argument
    (usage error), in an unknown directive — and likewise by `ParseWork`; but `ParseLax` ACCEPTS the last file (it
    ignores unknown directives), whose token `"p\⏎q"` spans two source lines, and so does the syntax layer.  The real
    `modfile.Parse` / `modfile.ParseLax` behave identically (checked with the harness: `invalid-quoted-string`,
    `toolchain-args`, `unknown-directive`; `ok` for `ParseLax`). -/
example :
    (∀ x ∈ [B "module \"a.b/c\\\nd\"\n", B "module a.b/c\nrequire \"x.y/z\\\n\" v1.0.0\n",
            B "module a.b/c\ntoolchain go1.21 \"x\\\ny\"\n", B "module a.b/c\nx \"p\\\nq\" // c\n"],
      (match parseToFile (B "go.mod") x none true with
       | .ok _ => false
       | .error _ => true) = true ∧ ¬ Proofs.ModfileSrc.NoMultiLineToken x) ∧
    (match parseWork (B "go.work") (B "go 1.21\nuse \"./a\\\nb\"\n") none with
     | .ok _ => false
     | .error _ => true) = true ∧
    (let x := B "module a.b/c\nx \"p\\\nq\" // c\n"
     (match parseToFile (B "go.mod") x none false with
      | .ok _ => true
      | .error _ => false) = true ∧
     (match parse (B "go.mod") x with
      | .ok _ => true
      | .error _ => false) = true) := by
  refine ⟨by decide_bytes, by decide_bytes, by decide_bytes, by decide_bytes⟩

/-! ### A version fixer AND retract directives: the deferred `fixRetract` pass on the re-parse

  Helper files `Proofs/ModfileFmtRet*.lean`. -/

open Proofs.ModfileFmtDir Proofs.ModfileEol in
/-- ★ `format_preserves_directives_fix_partial` — clause 3 WITH a version fixer and WITH `retract` directives: the
    re-parse, including its deferred `fixRetract` pass.  `T` is the tree that is formatted (`f.Syntax`
    after the first parse): a tree of the shape `Format` prints faithfully on which the directive layer with the
    fixer `fx` (idempotent on its image, never the empty string) reports no error, rewrites no token and reads a
    well-formed file `st1.file`, whose retract bounds are fixpoints of `fx` at the (non-empty) module path — they
    are, because the first parse's `fixRetract` wrote the fixer's results into the tree and the fixer is idempotent
    on its image.  Then the strict parser with the same fixer accepts `Format T` and reads the same values, the
    retract intervals included: `fixRetract` finds each retract line by its identity (identities of a parsed tree
    are pairwise distinct), the fixer sees its own image (`Proofs.ModfileFmtRet.pvi_fix_of_dontFix`), `updateLine`
    writes back the tokens that are there (`fixRetractLoop_fixpoint`).
    PARTIAL: that `f.syn` of `parseToFile name x (some fx) true = .ok f` satisfies these hypotheses
    with `values st1.file = values f` — is not proved (see lean/PENDING.md); for `f.retract = []` it is
    `format_preserves_directives_strict`. -/
theorem format_preserves_directives_fix_partial (name : Bytes) (T : FileSyntax) (fx : Fixer) (st1 : AddState)
    (hfix : FixOK (some fx)) (hne : FixNE (some fx))
    (hwf : EWFStmts T.stmts) (hnl : ∀ s ∈ T.stmts, NlOK s) (hc : T.comments.before = [])
    (ha : addStmts (some fx) true { file := { syn := T } } T.stmts = (st1, T.stmts))
    (he : st1.errsRev = []) (hw : WellFormed st1.file)
    (hmod : (values st1.file).retract ≠ [] → ((values st1.file).module.getD []) ≠ [])
    (himg : ∀ vi ∈ (values st1.file).retract,
      fx ((values st1.file).module.getD []) vi.low = .ok vi.low ∧
      fx ((values st1.file).module.getD []) vi.high = .ok vi.high) :
    ∃ f', parseToFile name (format T) (some fx) true = .ok f' ∧ values f' = values st1.file :=
  Proofs.ModfileFmtRet.reparse_of_first_run_fix name T fx st1 hfix hne hwf hnl hc ha he hw hmod himg

/-- ★ the key step of the theorem above: on a tree with pairwise distinct line identities in which every retract entry
    has a line whose interval tokens the fixer leaves alone, `fixRetractLoop` changes nothing -/
theorem fixRetractLoop_fixpoint (path : Bytes) (fx : Fixer) (rs : List Retract) (fs : FileSyntax) (e : List RuleErr)
    (hn : Proofs.ModfileC20.NodupIds fs.stmts) (h : ∀ r ∈ rs, Proofs.ModfileFmtRet.RetFix path fx fs r) :
    fixRetractLoop path fx rs fs e = (rs, fs, e) :=
  Proofs.ModfileFmtRet.fixRetractLoop_fixpoint path fx rs fs e hn h

/-- the situation of the theorem, evaluated with the fixer `fixStub` (symbolic versions `latest`, `master` resolve to
    versions; its results are canonical versions, which it maps to themselves): a go.mod with a retract line, a retract
    interval and a retract block whose versions need fixing is accepted; on the tree `f.syn` the directive layer
    reports no error, rewrites nothing and reads the values of `f`; the retract bounds are fixpoints of the fixer at
    the module path; and the strict parse of the formatted text with the same fixer has the same values
    (`[v1.0.0, v1.0.0]`, `[v1.2.0, v0.0.0-2020…]`, `[v1.3.0, v1.3.0]`). -/
example :
    let x := B "module example.com/m\n\nretract latest // r1\nretract [v1.2, master]\nretract (\n\tv1.3.0+meta // r3\n)\n"
    (match parseToFile (B "go.mod") x (some fixStub) true with
     | .ok f => Proofs.ModfileFmtDir.wellFormedB f &&
         decide (f.retract.map (·.interval) = [⟨B "v1.0.0", B "v1.0.0"⟩,
           ⟨B "v1.2.0", B "v0.0.0-20200101000000-000000000000"⟩, ⟨B "v1.3.0", B "v1.3.0"⟩]) &&
         (match addStmts (some fixStub) true { file := { syn := f.syn } } f.syn.stmts with
          | (st1, ss) => decide (ss = f.syn.stmts) && st1.errsRev.isEmpty &&
              decide (st1.file.retract.map (·.interval) = f.retract.map (·.interval)) &&
              st1.file.retract.all (fun r =>
                decide (fixStub (B "example.com/m") r.interval.low = .ok r.interval.low) &&
                decide (fixStub (B "example.com/m") r.interval.high = .ok r.interval.high))) &&
         (match parseToFile (B "go.mod") (format f.syn) (some fixStub) true with
          | .ok f' => decide (f'.retract.map (·.interval) = f.retract.map (·.interval)) &&
              decide (f'.module.map (·.mod.path) = f.module.map (·.mod.path))
          | .error _ => false)
     | .error _ => false) = true := by
  intro x
  rw [B_lit x]
  clear x
  decide +kernel

open Proofs.ModfileFmtDir in
/-- ★ `C02_fixer_empty_string` — the hypothesis "the fixer never returns the empty string" CANNOT be dropped (item (3) of
    lean/PENDING.md, settled negatively for the NEW version of a `replace`): with the fixer that maps every version to
    the empty string (idempotent on its image), the strict parser accepts `replace a => b v1.0.0` as the well-formed
    file with `Replace = [a => b ""]` and writes the empty token into the line; `Format` prints `replace a => b`,
    which the strict parser REJECTS (a replacement without version must be a directory path).  So clause 3 fails for
    this fixer: the formatted text of an accepted, well-formed file without retract directives is not accepted.
    (For the OLD version the values do agree — `replace a v => b` loses the token and re-parses with the absent
    version `""` — but a fixer returning `""` there is rejected by the path-major check unless the path has no major
    suffix, in which case `""` fails `checkPathMajor`; so the empty string only ever survives in the new position.) -/
theorem C02_fixer_empty_string : ∃ (fx : Fixer) (x : Bytes) (f : Modfile.File),
    FixOK (some fx) ∧ parseToFile (B "go.mod") x (some fx) true = .ok f ∧ WellFormed f ∧ f.retract = [] ∧
    ∀ f', parseToFile (B "go.mod") (format f.syn) (some fx) true ≠ .ok f' := by
  have key : (match parseToFile (B "go.mod") (B "module m\nreplace a => b v1.0.0\n") (some fun _ _ => .ok []) true with
     | .ok f => wellFormedB f && decide (f.retract = []) &&
        (match parseToFile (B "go.mod") (format f.syn) (some fun _ _ => .ok []) true with
         | .ok _ => false | .error _ => true)
     | .error _ => false) = true := by decide_bytes
  cases hp : parseToFile (B "go.mod") (B "module m\nreplace a => b v1.0.0\n") (some fun _ _ => .ok []) true with
  | error e => simp [hp] at key
  | ok f =>
    simp only [hp, Bool.and_eq_true, decide_eq_true_eq] at key
    obtain ⟨⟨h1, h2⟩, h3⟩ := key
    refine ⟨fun _ _ => .ok [], _, f, Or.inr ⟨_, rfl, fun p v w h => h⟩, hp, wellFormedB_sound h1, h2, ?_⟩
    intro f' hf'
    rw [hf'] at h3
    simp at h3

open Proofs.ModfileFmtRet Proofs.ModfileC20 in
/-- ★ `fixRetract_tokens` — what the deferred `fixRetract` pass of an ACCEPTED strict parse with a fixer leaves behind:
    line identities of `f.syn` are pairwise distinct, a file
    with retractions has a non-empty module path (`modPath f`, the path `fixRetract` hands to the fixer), and every
    typed retract entry has its line in `f.syn` (found by its identity) whose tokens are `keep ++ args'` — `keep` empty
    (line of a block) or the verb — with `args'` EXACTLY the fixed bounds of the typed interval (`[v]`, or
    `[ v , w ]`, then the untouched rest; the model writes the fixer's result itself, as `*s = t` in Go's
    `parseVersion`), both bounds being results of `fx` at the module path (`FixedArgs`).  No hypothesis on the fixer. -/
theorem fixRetract_tokens (name x : Bytes) (fx : Fixer) (f : Modfile.File)
    (h : parseToFile name x (some fx) true = .ok f) :
    NodupIds f.syn.stmts ∧ (f.retract ≠ [] → modPath f ≠ []) ∧
    ∀ r ∈ f.retract, ∃ l ∈ linesOf f.syn.stmts, l.id = r.lineId ∧ ∃ keep args' rest, l.token = keep ++ args' ∧
      (keep = [] ∨ keep = [B "retract"]) ∧ FixedArgs (modPath f) fx args' r.interval rest :=
  Proofs.ModfileFmtRet.fixRetract_tokens name x fx f h

open Proofs.ModfileFmtRet Proofs.ModfileFmtDir in
/-- ★ `retract_bounds_fixpoints` — with a fixer that is idempotent on its image, every retract bound of an
    accepted file is a fixpoint of the fixer at the module path, which is non-empty when there is a retraction (these
    are the last two hypotheses of `format_preserves_directives_fix_partial`). -/
theorem retract_bounds_fixpoints (name x : Bytes) (fx : Fixer) (f : Modfile.File)
    (h : parseToFile name x (some fx) true = .ok f) (hfix : FixOK (some fx)) :
    (f.retract ≠ [] → modPath f ≠ []) ∧
    ∀ r ∈ f.retract, fx (modPath f) r.interval.low = .ok r.interval.low ∧
      fx (modPath f) r.interval.high = .ok r.interval.high :=
  Proofs.ModfileFmtRet.retract_bounds_fixpoints name x fx f h hfix

open Proofs.ModfileFmtRet Proofs.ModfileFmtDir Proofs.ModfileC20 in
/-- the retract lines of the accepted tree: in the tree of an accepted WELL-FORMED file every retract line is a fixpoint of the
    placeholder parse `File.add` makes (`dontFixRetract`) and reads the typed interval — so a second run of the
    directive layer rewrites none of them and records them again (`Proofs.ModfileFmtRet.RetTokIn`). -/
theorem retract_lines_dontFix (name x : Bytes) (fx : Fixer) (f : Modfile.File)
    (h : parseToFile name x (some fx) true = .ok f) (hwf : WellFormed f) :
    ∀ r ∈ f.retract, ∃ l ∈ linesOf f.syn.stmts, l.id = r.lineId ∧ ∃ keep args rest, l.token = keep ++ args ∧
      (keep = [] ∨ keep = [B "retract"]) ∧
      parseVersionInterval [] args (some dontFixRetract) = (args, .ok (r.interval, rest)) :=
  Proofs.ModfileFmtRet.retract_lines_dontFix name x fx f h hwf

open Proofs.ModfileFmtDir Proofs.ModfileEol in
/-- ★ `format_preserves_directives_fix_partial2` — clause 3 WITH a version fixer and WITH `retract` directives, for the
    accepted file itself; the two fixer hypotheses of `format_preserves_directives_fix_partial` (non-empty module
    path, every retract bound a fixpoint of the fixer) are DISCHARGED (`retract_bounds_fixpoints`).  If the strict
    parser with the fixer `fx` (idempotent on its image, never the empty string) accepts `x` as the well-formed `f`,
    `f.syn` has the printable shape, and a second run of the directive layer over `f.syn` reports no error, rewrites
    no token and reads the values of `f`, then the strict parser with `fx` accepts `Format(f.syn)` with identical
    values, retract intervals included.
    PARTIAL: the three tree hypotheses (`hw`, `hnl`, `hc` — for `f.retract = []` they follow from the parse,
    `format_preserves_directives_strict`) and the second-run hypothesis (`ha`, `he`, `hv`) are not derived from the
    parse; for the retract lines the second run is settled by `retract_lines_dontFix`, what is missing is the replay
    of the non-retract lines around them (see lean/PENDING.md). -/
theorem format_preserves_directives_fix_partial2 (name x : Bytes) (fx : Fixer) (f : Modfile.File) (st1 : AddState)
    (h : parseToFile name x (some fx) true = .ok f) (hwf : WellFormed f)
    (hfix : FixOK (some fx)) (hne : FixNE (some fx))
    (hw : EWFStmts f.syn.stmts) (hnl : ∀ s ∈ f.syn.stmts, NlOK s) (hc : f.syn.comments.before = [])
    (ha : addStmts (some fx) true { file := { syn := f.syn } } f.syn.stmts = (st1, f.syn.stmts))
    (he : st1.errsRev = []) (hv : values st1.file = values f) :
    ∃ f', parseToFile name (format f.syn) (some fx) true = .ok f' ∧ values f' = values f :=
  Proofs.ModfileFmtRet.reparse_of_parse_fix name x fx f st1 h hwf hfix hne hw hnl hc ha he hv

open Proofs.ModfileFmtDir in
/-- non-vacuity of `fixRetract_tokens` / `retract_bounds_fixpoints` / `…_fix_partial2`, evaluated with `fixStub`: the
    go.mod with a retract line, an interval and a block is accepted as a well-formed file with three retractions and
    the module path `example.com/m`; the retract lines of `f.syn` carry exactly the fixed bounds; the second run over
    `f.syn` reports no error, rewrites nothing and reads the same values. -/
example :
    let x := B "module example.com/m\n\nretract latest // r1\nretract [v1.2, master]\nretract (\n\tv1.3.0+meta // r3\n)\n"
    (match parseToFile (B "go.mod") x (some fixStub) true with
     | .ok f => wellFormedB f && decide (f.retract.length = 3) &&
         decide (Proofs.ModfileFmtRet.modPath f = B "example.com/m") &&
         decide ((Proofs.ModfileC20.linesOf f.syn.stmts).map (·.token) =
           [[B "module", B "example.com/m"], [B "retract", B "v1.0.0"],
            [B "retract", B "[", B "v1.2.0", B ",", B "v0.0.0-20200101000000-000000000000", B "]"], [B "v1.3.0"]]) &&
         (match addStmts (some fixStub) true { file := { syn := f.syn } } f.syn.stmts with
          | (st1, ss) => decide (ss = f.syn.stmts) && st1.errsRev.isEmpty &&
              decide (st1.file.retract.map (·.interval) = f.retract.map (·.interval)) &&
              decide (st1.file.module.map (·.mod.path) = f.module.map (·.mod.path)))
     | .error _ => false) = true := by
  intro x
  rw [B_lit x]
  clear x
  decide +kernel

/-! ### Clause 3 with a fixer and retract directives: the comment skeleton of the accepted tree, the frame of `File.add`

  Helper files `Proofs/ModfileFmtRet*.lean`. -/

open Proofs.ModfileEol in
/-- ★ `updateLine_preserves_shape` — `FileSyntax.updateLine` with a function that only replaces the token list of a
    line (the only way `fixRetract` changes the tree) keeps every token-erased statement — comments, parentheses, block
    headers, identities, positions, `inBlock` — and the header and name of the tree. -/
theorem updateLine_preserves_shape (fs : FileSyntax) (id : Nat) (g : Line → Line)
    (hg : ∀ l, noTokL (g l) = noTokL l) :
    (fs.updateLine id g).stmts.map noTok = fs.stmts.map noTok ∧ (fs.updateLine id g).comments = fs.comments ∧
    (fs.updateLine id g).name = fs.name :=
  Proofs.ModfileFmtRet.updateLine_noTok fs id g hg

example : ∀ l : Line, Proofs.ModfileEol.noTokL { l with token := [B "v1.0.0"] } = Proofs.ModfileEol.noTokL l :=
  fun _ => rfl

open Proofs.ModfileEol in
/-- ★ `fsyn_skeleton_fix` — the tree of an accepted parse (ANY fixer, strict or lax, with or without retract
    directives) is the tree `parse` returned up to the tokens of its lines: `addStmts` and `fixRetract` rewrite tokens
    only. -/
theorem fsyn_skeleton_fix (name x : Bytes) (fix : Option Fixer) (strict : Bool) (f : Modfile.File)
    (h : parseToFile name x fix strict = .ok f) :
    ∃ fs, parse name x = .ok fs ∧ f.syn.stmts.map noTok = fs.stmts.map noTok ∧ f.syn.comments = fs.comments ∧
      f.syn.name = fs.name :=
  Proofs.ModfileFmtRet.fsyn_skeleton name x fix strict f h

open Proofs.ModfileEol in
/-- ★ `eolCount_syn_fix` — the tree of a STRICTLY accepted go.mod satisfies the counting condition `EolCount` (in
    particular no comment is left over for the file header) for any fixer and without the side condition
    `f.retract = []` that `eolCount_syn_of_parseToFile` needed. -/
theorem eolCount_syn_fix (name x : Bytes) (fix : Option Fixer) (f : Modfile.File)
    (h : parseToFile name x fix true = .ok f) : EolCount f.syn :=
  Proofs.ModfileFmtRet.eolCount_syn_fix name x fix f h

open Proofs.ModfileEol Proofs.ModfileFmtRet in
/-- ★ `fsyn_printable_shape_fix` — for the tree of a strictly accepted go.mod (any fixer, with or without retract
    directives) the printable shape `EWFStmts` holds as soon as the TOKENS of its lines are line tokens (`TokShape`:
    non-empty, every token a `TokText`, a top-level line does not look like a block, a block line does not start with
    `)`); everything `EWFStmts` says about comments, parentheses, block headers and `inBlock`, and "no header comment",
    follow from the parse. -/
theorem fsyn_printable_shape_fix (name x : Bytes) (fix : Option Fixer) (f : Modfile.File)
    (h : parseToFile name x fix true = .ok f) (ht : ∀ s ∈ f.syn.stmts, TokShape s) :
    EWFStmts f.syn.stmts ∧ f.syn.comments.before = [] :=
  Proofs.ModfileFmtRet.fsyn_printable_shape_fix name x fix f h ht

open Proofs.ModfileFmtRet Proofs.ModfileC20 in
/-- ★ `add_retract_frame` — `File.add` never reads `file.retract`: a step on a verb other than `retract` commutes with
    replacing the list of retractions of the state (`withRet`), with the same rewritten arguments. -/
theorem add_retract_frame (R : List Retract) (st : AddState) (block : Option Comments) (l : Line) (verb : Bytes)
    (args : List Bytes) (fix : Option Fixer) (strict : Bool) (hv : (verb == B "retract") = false) :
    File.add (withRet R st) block l verb args fix strict =
      (withRet R (File.add st block l verb args fix strict).1, (File.add st block l verb args fix strict).2) :=
  add_withRet R st block l verb args fix strict hv

example : (B "require" == B "retract") = false := by decide_bytes

open Proofs.ModfileFmtDir Proofs.ModfileEol Proofs.ModfileFmtRet in
/-- ★ `format_preserves_directives_fix_partial3` — clause 3 WITH a version fixer and WITH `retract` directives for the
    accepted file itself, the comment part of the tree hypotheses of `…_fix_partial2` DISCHARGED: if the strict parser
    with the fixer `fx` (idempotent on its image, never the empty string) accepts `x` as the well-formed `f`, the
    TOKENS of the lines of `f.syn` are line tokens (`TokShape`) without a newline byte on lines that carry an
    end-of-line comment (`NlOK`), and a second run of the directive layer over `f.syn` reports no error, rewrites no
    token and reads the values of `f`, then the strict parser with `fx` accepts `Format(f.syn)` with identical
    values, retract intervals included.
    PARTIAL: `ht`, `hnl` (for the retract lines they follow from `fixRetract_tokens` + `WellFormed f`, for the other
    lines from the first run, whose rewritten arguments are line tokens) and the second-run hypotheses `ha`, `he`,
    `hv` are not derived from the parse; `Module.Deprecated` / `Retract.Rationale` are not in the conclusion
    (see lean/PENDING.md). -/
theorem format_preserves_directives_fix_partial3 (name x : Bytes) (fx : Fixer) (f : Modfile.File) (st1 : AddState)
    (h : parseToFile name x (some fx) true = .ok f) (hwf : WellFormed f)
    (hfix : FixOK (some fx)) (hne : FixNE (some fx))
    (ht : ∀ s ∈ f.syn.stmts, TokShape s) (hnl : ∀ s ∈ f.syn.stmts, NlOK s)
    (ha : addStmts (some fx) true { file := { syn := f.syn } } f.syn.stmts = (st1, f.syn.stmts))
    (he : st1.errsRev = []) (hv : values st1.file = values f) :
    ∃ f', parseToFile name (format f.syn) (some fx) true = .ok f' ∧ values f' = values f :=
  reparse_of_parse_fix3 name x fx f st1 h hwf hfix hne ht hnl ha he hv

open Proofs.ModfileFmtDir Proofs.ModfileFmtRet in
/-- non-vacuity of `fsyn_printable_shape_fix` / `…_fix_partial3`, evaluated with `fixStub` (sound checkers
    `tokShapeB_sound`, `nlOKB_sound`): the go.mod with a retract line, an interval and a retract block whose versions
    need fixing, plus a require line with an end-of-line comment, is accepted as a well-formed file; every statement
    of `f.syn` satisfies `TokShape` and `NlOK`; `EolCount f.syn` holds; the second run over `f.syn` reports no error,
    rewrites nothing and reads the same retract intervals, module path and requirements. -/
example :
    let x := B "module example.com/m\n\nrequire a.b/c latest // indirect\nretract latest // r1\nretract [v1.2, master]\nretract (\n\tv1.3.0+meta // r3\n)\n"
    (match parseToFile (B "go.mod") x (some fixStub) true with
     | .ok f => wellFormedB f && decide (f.retract.length = 3) &&
         f.syn.stmts.all tokShapeB && f.syn.stmts.all nlOKB && Proofs.ModfileEol.eolCountB f.syn &&
         (match addStmts (some fixStub) true { file := { syn := f.syn } } f.syn.stmts with
          | (st1, ss) => decide (ss = f.syn.stmts) && st1.errsRev.isEmpty &&
              decide (st1.file.retract.map (·.interval) = f.retract.map (·.interval)) &&
              decide (st1.file.require.map (fun r => (r.mod, r.indirect)) = f.require.map (fun r => (r.mod, r.indirect))) &&
              decide (st1.file.module.map (·.mod.path) = f.module.map (·.mod.path)))
     | .error _ => false) = true := by
  conv => zeta
  decide_bytes

open Proofs.ModfileFmtRet Proofs.ModfileC20 in
/-- ★ `addStmts_retract_frame` — the frame lifted to the statement loop: over statements none of which is a `retract`
    line or block (`isRetStmt`) the directive layer does not read `file.retract` — same rewritten statements, same final
    state up to that list. -/
theorem addStmts_retract_frame (R : List Retract) (fix : Option Fixer) (strict : Bool) (xs : List Expr) (st : AddState)
    (h : ∀ x ∈ xs, isRetStmt x = false) :
    addStmts fix strict (withRet R st) xs =
      (withRet R (addStmts fix strict st xs).1, (addStmts fix strict st xs).2) :=
  addStmts_withRet R fix strict xs st h

example : ∀ x ∈ [Expr.line { token := [B "require", B "a.b/c", B "v1.0.0"] }, Expr.line { token := [B "go", B "1.21"] }],
    Proofs.ModfileFmtRet.isRetStmt x = false := by decide +kernel

open Proofs.ModfileFmtDir Proofs.ModfileEol Proofs.ModfileFmtTree Proofs.ModfileFmtRet in
/-- ★ `second_run_nonretract_fixpoint` — the NON-retract half of the second run, one statement at a time and from ANY
    state (its retractions may be the unfixed ones `File.add` records before `fixRetract`; `stepStmt` is one iteration
    of `addStmts`, `Proofs.ModfileFmtRet.addStmts_cons`): if the strict step on a statement that is not a `retract`
    line / block reports no error and the state after it is well-formed apart from its retractions, then the rewritten
    statement has the printable shape (`EWFStmt`, `NlOK`), and every statement equal to it up to positions / trimmed
    comments is a FIXPOINT of the directive layer (no error, no rewritten token) from every state that simulates the
    state before the step with its retractions removed, ending in a state that simulates the state after the step with
    its retractions removed.  Fixer: none, or idempotent on its image and never the empty string. -/
theorem second_run_nonretract_fixpoint (fix : Option Fixer) (hfix : FixOK fix) (hne : FixNE fix)
    (st : AddState) (x : Expr) (hx : isRetStmt x = false)
    (he : (stepStmt fix true st x).1.errsRev = [])
    (hwf : WellFormed (withRet [] (stepStmt fix true st x).1).file) (hw : EWFStmt x) (hnl : NlOK x) :
    EWFStmt (stepStmt fix true st x).2 ∧ NlOK (stepStmt fix true st x).2 ∧
    WellFormed (withRet [] st).file ∧ st.errsRev = [] ∧
    ∀ (st' : AddState) (x' : Expr), Sim (withRet [] st) st' →
      eraseExpr x' = normExprE (stepStmt fix true st x).2 →
      ∃ st1', addStmts fix true st' [x'] = (st1', [x']) ∧ Sim (withRet [] (stepStmt fix true st x).1) st1' :=
  Proofs.ModfileFmtRet.second_run_nonretract_fixpoint fix hfix hne st x hx he hwf hw hnl

open Proofs.ModfileFmtDir Proofs.ModfileEol Proofs.ModfileFmtTree Proofs.ModfileFmtRet in
/-- non-vacuity of `second_run_nonretract_fixpoint`: a `require` line, from a state that holds an UNFIXED retraction
    (`latest`, not a valid version) -/
example :
    let x : Expr := .line { token := [B "require", B "a.b/c", B "v1.0.0"] }
    let st : AddState := { file := { retract := [{ interval := ⟨B "latest", B "latest"⟩, rationale := [], lineId := 7 }] } }
    isRetStmt x = false ∧ (stepStmt none true st x).1.errsRev = [] ∧
    WellFormed (withRet [] (stepStmt none true st x).1).file ∧ EWFStmt x ∧ NlOK x := by
  refine ⟨by decide +kernel, by decide +kernel, wellFormedB_sound (by decide +kernel), ?_, ?_⟩
  · refine ⟨by decide, fun t ht => tokTextB_sound ?_, by decide +kernel, ?_, sufOK_nil, rfl, rfl⟩
    · revert t; decide +kernel
    · intro c hc; cases hc
  · intro h; exact absurd rfl h

open Proofs.ModfileEol Proofs.ModfileFmtRet Proofs.ModfileC20 in
/-- ★ `fsyn_lines_map` — the tree effect of the deferred `fixRetract` pass, statement by statement: for a strictly
    accepted go.mod with a fixer, `f.syn.stmts = mapLines F stmts`, where `stmts` are the statements the (error-free)
    first run of the directive layer over the parsed tree rewrote (pairwise distinct line identities), `F` replaces
    tokens only and leaves every line alone whose identity no retract entry of `f` carries; `f` is the state of that
    run except for `syn` and the INTERVALS of its retract entries (same identities and rationales in the same order). -/
theorem fsyn_lines_map (name x : Bytes) (fx : Fixer) (f : Modfile.File)
    (h : parseToFile name x (some fx) true = .ok f) :
    ∃ (fs : FileSyntax) (st : AddState) (stmts : List Expr) (F : Line → Line),
      parse name x = .ok fs ∧ addStmts (some fx) true { file := { syn := fs } } fs.stmts = (st, stmts) ∧
      st.errsRev = [] ∧ NodupIds stmts ∧ (∀ l, noTokL (F l) = noTokL l) ∧
      (∀ l, l.id ∉ f.retract.map (·.lineId) → F l = l) ∧ f.syn.stmts = mapLines F stmts ∧
      f.retract.map (·.lineId) = st.file.retract.map (·.lineId) ∧
      f.retract.map (·.rationale) = st.file.retract.map (·.rationale) ∧
      withRet [] ⟨{ f with syn := {} }, []⟩ = withRet [] ⟨{ st.file with syn := {} }, []⟩ :=
  Proofs.ModfileFmtRet.fsyn_lines_map name x fx f h

example : (match parseToFile (B "go.mod") (B "module example.com/m\n\nretract latest // r1\n") (some fixStub) true with
    | .ok f => decide (f.retract.length = 1) | .error _ => false) = true := by decide_bytes

end ModVerif.Props.C02
