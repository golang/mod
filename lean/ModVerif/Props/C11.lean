/-
  C11 — Path and version escaping is a lossless, case-collision-free encoding.
  Property theorems only; helper lemmas live in ModVerif/Proofs/ModuleEscape.lean and Utf8.lean.

  Reading of the property text:
  * "valid module path"   = `checkModPath p = .ok ()` (module.CheckPath returns nil);
  * "allowed version"     = the domain on which EscapeVersion succeeds, characterised by
                            `escapeVersion_ok_iff` as: valid file-name element, no '!', ASCII;
  * "equal ignoring case" = `lower e = lower f` (ASCII lower-casing).  Escaped strings are ASCII
                            (`escapePath_no_upper` / `escapeVersion_no_upper`, first conjunct), and on
                            ASCII strings this is strings.EqualFold.
  All version theorems hold for every `isLetter` (unicode.IsLetter is a parameter).
-/
import ModVerif.Model.Module
import ModVerif.Proofs.ModuleEscape
import ModVerif.Proofs.ModulePath
namespace ModVerif.Props.C11
open ModVerif ModVerif.Module

/-! ### module paths -/

/-- The escape of a module path is ASCII and has no upper-case letter. -/
theorem escapePath_no_upper (p e : Bytes) (h : escapePath p = .ok e) :
    ∀ c ∈ e, c.toNat < 128 ∧ ¬ (65 ≤ c.toNat ∧ c.toNat ≤ 90) := by
  obtain ⟨_, hs⟩ := (escapePath_ok_iff p e).mp h
  obtain ⟨hall, rfl⟩ := escapeString_some p e hs
  exact escapeRunes_out p (okByte_ascii p hall)

/-- Round trip: what EscapePath produces, UnescapePath maps back to the original. -/
theorem unescapePath_escapePath (p e : Bytes) (h : escapePath p = .ok e) : unescapePath e = .ok p := by
  obtain ⟨hv, hs⟩ := (escapePath_ok_iff p e).mp h
  obtain ⟨hall, rfl⟩ := escapeString_some p e hs
  exact (unescapePath_ok_iff _ p).mpr ⟨by rw [unescapeString_eq]; exact unescape_escapeRunes p hall, hv⟩

/-- Two different valid paths never escape to strings that are equal ignoring case. -/
theorem escapePath_fold_inj (p q e f : Bytes) (hp : escapePath p = .ok e) (hq : escapePath q = .ok f)
    (h : lower e = lower f) : p = q := by
  obtain ⟨_, hs⟩ := (escapePath_ok_iff p e).mp hp
  obtain ⟨_, ht⟩ := (escapePath_ok_iff q f).mp hq
  obtain ⟨hpa, rfl⟩ := escapeString_some p e hs
  obtain ⟨hqa, rfl⟩ := escapeString_some q f ht
  exact escapeRunes_lower_inj p q hpa hqa h

/-- UnescapePath succeeds only on the escape of a valid module path (its own result). -/
theorem unescapePath_image (e p : Bytes) (h : unescapePath e = .ok p) : escapePath p = .ok e := by
  obtain ⟨hu, hv⟩ := (unescapePath_ok_iff e p).mp h
  rw [unescapeString_eq] at hu
  refine (escapePath_ok_iff p e).mpr ⟨hv, ?_⟩
  rw [escapeString_eq, unescapeRunes_out e false p hu]
  simpa using escape_unescapeRunes e false p hu

/-- EscapePath rejects every invalid module path, with CheckPath's error. -/
theorem escapePath_rejects_invalid (p : Bytes) (x : PathErr) (h : checkModPath p = .error x) :
    escapePath p = .error (.path x) := by
  simp [escapePath, h]

/-- Every valid module path escapes: the "internal error" return of escapeString is unreachable
    from EscapePath. -/
theorem escapePath_total_on_valid (p : Bytes) (h : checkModPath p = .ok ()) : ∃ e, escapePath p = .ok e := by
  have hall : p.all okByte = true := by
    rw [List.all_eq_true]; intro b hb
    rcases checkModPath_bytes p h b hb with h47 | hok
    · subst h47; decide
    · have := modPathOK_lt _ hok
      have := modPathOK_not_bang _ hok
      simp [okByte, *]
  exact ⟨_, (escapePath_ok_iff p _).mpr ⟨h, by rw [escapeString_eq, hall]; rfl⟩⟩

/-- EscapePath succeeds exactly on the valid module paths. -/
theorem escapePath_ok_iff_valid (p : Bytes) : (∃ e, escapePath p = .ok e) ↔ checkModPath p = .ok () :=
  ⟨fun ⟨e, h⟩ => ((escapePath_ok_iff p e).mp h).1, escapePath_total_on_valid p⟩

/-! ### versions -/

/-- The domain of EscapeVersion ("allowed versions"): a valid file-name element, without '!', all ASCII. -/
theorem escapeVersion_ok_iff (isLetter : Nat → Bool) (v : Bytes) :
    (∃ e, escapeVersion isLetter v = .ok e) ↔
      checkElem isLetter .file v = .ok () ∧ v.contains 33 = false ∧ (∀ b ∈ v, b.toNat < 128) := by
  constructor
  · rintro ⟨e, h⟩
    obtain ⟨h1, h2, h3⟩ := (Module.escapeVersion_ok_iff isLetter v e).mp h
    exact ⟨h1, h2, okByte_ascii v (escapeString_some v e h3).1⟩
  · rintro ⟨h1, h2, h3⟩
    have hall : v.all okByte = true := by
      rw [List.all_eq_true]; intro b hb
      have hne : b ≠ 33 := by
        intro hb33; subst hb33
        have : v.contains 33 = true := by simpa using hb
        rw [h2] at this; cases this
      have : b.toNat ≠ 33 := fun hh => hne (eq_of_toNat_eq (by simpa using hh))
      simp [okByte, this, h3 b hb]
    exact ⟨_, (Module.escapeVersion_ok_iff isLetter v _).mpr ⟨h1, h2, by rw [escapeString_eq, hall]; rfl⟩⟩

/-- EscapeVersion rejects every string that is not a valid file-name element or contains '!'. -/
theorem escapeVersion_rejects_invalid (isLetter : Nat → Bool) (v : Bytes)
    (h : checkElem isLetter .file v ≠ .ok () ∨ v.contains 33 = true) :
    escapeVersion isLetter v = .error .disallowed := by
  unfold escapeVersion
  cases h1 : checkElem isLetter .file v with
  | error x => simp
  | ok u =>
    rcases h with h | h
    · exact absurd h1 h
    · have hm : (33 : UInt8) ∈ v := by simpa using h
      simp [hm]

/-- Observation O1: a valid file-name element without '!' that has a non-ASCII byte is rejected with
    the "internal error" return (nothing is mis-encoded). -/
theorem escapeVersion_nonascii_rejected (isLetter : Nat → Bool) (v : Bytes)
    (h1 : checkElem isLetter .file v = .ok ()) (h2 : v.contains 33 = false)
    (h3 : ∃ b ∈ v, 128 ≤ b.toNat) : escapeVersion isLetter v = .error .internal := by
  have hall : v.all okByte = false := by
    rw [List.all_eq_false]
    obtain ⟨b, hb, hge⟩ := h3
    refine ⟨b, hb, ?_⟩
    simp [okByte]; omega
  have hm : ¬ (33 : UInt8) ∈ v := by
    intro hm
    have : v.contains 33 = true := by simpa using hm
    rw [h2] at this; cases this
  unfold escapeVersion
  simp [h1, hm, escapeString_eq, hall]

/-- The escape of a version is ASCII and has no upper-case letter. -/
theorem escapeVersion_no_upper (isLetter : Nat → Bool) (v e : Bytes) (h : escapeVersion isLetter v = .ok e) :
    ∀ c ∈ e, c.toNat < 128 ∧ ¬ (65 ≤ c.toNat ∧ c.toNat ≤ 90) := by
  obtain ⟨_, _, hs⟩ := (Module.escapeVersion_ok_iff isLetter v e).mp h
  obtain ⟨hall, rfl⟩ := escapeString_some v e hs
  exact escapeRunes_out v (okByte_ascii v hall)

/-- Round trip for versions. -/
theorem unescapeVersion_escapeVersion (isLetter : Nat → Bool) (v e : Bytes)
    (h : escapeVersion isLetter v = .ok e) : unescapeVersion isLetter e = .ok v := by
  obtain ⟨hv, _, hs⟩ := (Module.escapeVersion_ok_iff isLetter v e).mp h
  obtain ⟨hall, rfl⟩ := escapeString_some v e hs
  exact (unescapeVersion_ok_iff isLetter _ v).mpr
    ⟨by rw [unescapeString_eq]; exact unescape_escapeRunes v hall, hv⟩

/-- Two different allowed versions never escape to strings that are equal ignoring case. -/
theorem escapeVersion_fold_inj (isLetter : Nat → Bool) (v w e f : Bytes)
    (hv : escapeVersion isLetter v = .ok e) (hw : escapeVersion isLetter w = .ok f)
    (h : lower e = lower f) : v = w := by
  obtain ⟨_, _, hs⟩ := (Module.escapeVersion_ok_iff isLetter v e).mp hv
  obtain ⟨_, _, ht⟩ := (Module.escapeVersion_ok_iff isLetter w f).mp hw
  obtain ⟨hva, rfl⟩ := escapeString_some v e hs
  obtain ⟨hwa, rfl⟩ := escapeString_some w f ht
  exact escapeRunes_lower_inj v w hva hwa h

/-- UnescapeVersion succeeds only on the escape of an allowed version (its own result). -/
theorem unescapeVersion_image (isLetter : Nat → Bool) (e v : Bytes)
    (h : unescapeVersion isLetter e = .ok v) : escapeVersion isLetter v = .ok e := by
  obtain ⟨hu, hv⟩ := (unescapeVersion_ok_iff isLetter e v).mp h
  rw [unescapeString_eq] at hu
  have hall := unescapeRunes_out e false v hu
  refine (Module.escapeVersion_ok_iff isLetter v e).mpr ⟨hv, okByte_no_bang v hall, ?_⟩
  rw [escapeString_eq, hall]
  simpa using escape_unescapeRunes e false v hu

/-! ### non-vacuity: concrete instances of every hypothesis -/

example : escapePath (B "github.com/Azure/azure-sdk-for-go/v2") = .ok (B "github.com/!azure/azure-sdk-for-go/v2") := by
  decide +kernel
example : unescapePath (B "github.com/!azure/azure-sdk-for-go/v2") = .ok (B "github.com/Azure/azure-sdk-for-go/v2") := by
  decide +kernel
-- two valid paths differing only in case: the escapes differ even after lower-casing
example : escapePath (B "example.com/Ab") = .ok (B "example.com/!ab") ∧ escapePath (B "example.com/aB") = .ok (B "example.com/a!b")
    ∧ lower (B "example.com/!ab") ≠ lower (B "example.com/a!b") := by decide +kernel
example : checkModPath (B "example.com/x!y") = .error .invalidChar := by decide +kernel
example : escapeVersion (fun _ => false) (B "v1.0.0-RC1") = .ok (B "v1.0.0-!r!c1") := by decide +kernel
example : unescapeVersion (fun _ => false) (B "v1.0.0-!r!c1") = .ok (B "v1.0.0-RC1") := by decide +kernel
example : checkElem (fun _ => false) .file (B "v1!0") = .ok () ∧ (B "v1!0").contains 33 = true := by decide +kernel
-- O1: é (C3 A9) is a letter; the version is a valid file name, and EscapeVersion returns the internal error
example : escapeVersion (fun r => r == 233) (B "v1.0.0-é") = .error .internal := by decide +kernel
example : checkElem (fun r => r == 233) .file (B "v1.0.0-é") = .ok () ∧ (B "v1.0.0-é").contains 33 = false
    ∧ ∃ b ∈ B "v1.0.0-é", 128 ≤ b.toNat := by decide +kernel

end ModVerif.Props.C11
