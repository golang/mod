/-
  C16 — bulk setters produce exactly the requested set; blocks are in their documented order.

  Specification-side theorems (Spec/EditSpec.lean): the exact-set postcondition of the step table, and the
  groundwork for `blocks_sorted`: the three documented comparators are strict weak orders, so the stable
  sort produces a sorted permutation, is idempotent, and — for the total order `lineLess` — its result
  does not depend on the order in which Go's map iteration added the new lines.
  Helper lemmas: Proofs/EditSpecSet.lean, EditSpecSort.lean, EditSpecCmp.lean.

  Then the property on the model: the typed lists after the bulk setters, the syntax tree (exactly the requested lines,
  sorted blocks, separate blocks, comments kept — also along sessions), and independence of the map-iteration order on the
  formatted file; each section names its proof modules.
-/
import ModVerif.Spec.EditSpec
import ModVerif.Proofs.EditSpecSet
import ModVerif.Proofs.EditSpecSort
import ModVerif.Proofs.EditSpecCmp
import ModVerif.Model.Modfile.EditAbs
import ModVerif.Proofs.EditModel
import ModVerif.Proofs.EditRefineExact
import ModVerif.Proofs.EditRefineSorted
import ModVerif.Proofs.EditRefineInvBulk
import ModVerif.Proofs.EditRefineInvWork
import ModVerif.Proofs.EditMoreSepG
import ModVerif.Proofs.EditMoreSepJ
import ModVerif.Proofs.EditMoreComD
import ModVerif.Proofs.EditWorkSorted
import ModVerif.Proofs.EditSession
import ModVerif.Proofs.EditPermE
import ModVerif.Proofs.EditWorkKeepB
import ModVerif.Proofs.BytesLit
namespace ModVerif.Props.C16
open ModVerif ModVerif.EditSpec ModVerif.Modfile

/-- **SetRequire, exact set (spec).** For a requested list with distinct paths, after `SetRequire want`
    the requirements are exactly `want` — one entry per requested path with the requested version and
    indirect marking, nothing else — whatever the file held before (duplicates included). -/
theorem setRequire_exact_spec (V : Validity) (f : AbsFile) (want : List Req)
    (hd : want.Pairwise (fun a b => a.path ≠ b.path)) :
    (step V f (.setRequire want)).require.Perm want := by
  simp only [step, stepOk, Bool.not_true, Bool.false_eq_true, if_false, removeDups]
  exact setExact_perm Req.path want f.require hd

/-- the separate-indirect variant has the same exact-set postcondition -/
theorem setRequireSeparateIndirect_exact_spec (V : Validity) (f : AbsFile) (want : List Req)
    (hd : want.Pairwise (fun a b => a.path ≠ b.path)) :
    (step V f (.setRequireSeparateIndirect want)).require.Perm want := by
  simp only [step, stepOk, Bool.not_true, Bool.false_eq_true, if_false, removeDups]
  exact setExact_perm Req.path want f.require hd

/-- **SetUse, exact set (spec).** -/
theorem setUse_exact_spec (V : Validity) (f : AbsFile) (want : List (Bytes × Bytes))
    (hd : (want.map Prod.fst).Pairwise (· ≠ ·)) :
    (step V f (.setUse want)).use.Perm (want.map Prod.fst) := by
  simp only [step, stepOk, Bool.not_true, Bool.false_eq_true, if_false, removeDups]
  exact setExact_perm id (want.map Prod.fst) f.use hd

/-- exactly one entry per requested path (consequence of the permutation) -/
theorem setRequire_one_per_path (V : Validity) (f : AbsFile) (want : List Req)
    (hd : want.Pairwise (fun a b => a.path ≠ b.path)) (r : Req) (hr : r ∈ want) :
    (step V f (.setRequire want)).require.filter (fun x => x.path == r.path) |>.Perm [r] := by
  have hp := (setRequire_exact_spec V f want hd).filter (fun x => x.path == r.path)
  refine hp.trans ?_
  have : want.filter (fun x => x.path == r.path) = [r] := by
    clear hp
    induction want with
    | nil => cases hr
    | cons x xs ih =>
      rcases List.pairwise_cons.1 hd with ⟨h1, h2⟩
      rw [List.mem_cons] at hr
      rcases hr with rfl | hr
      · have : xs.filter (fun x => x.path == r.path) = [] := by
          apply List.filter_eq_nil_iff.2
          intro a ha; have := h1 a ha; simp [Ne.symm this]
        simp [List.filter, this]
      · have hx : (x.path == r.path) = false := by
          have := h1 r hr; simp [this]
        simp [List.filter, hx, ih h2 hr]
  rw [this]


/-! ### The exact-set postcondition on the MODEL's typed lists

    `perm` is Go's map-iteration order (any function returning a permutation of its argument — both orders the
    driver exercises, `Edit.permOf false/true`, are instances); `Edit.GoodWant want` = pairwise distinct, non-empty
    requested paths; `Edit.TInv e` = the line-id invariant of Proofs/EditRefineAbs.lean (it holds for every loaded
    well-formed file and is preserved by every operation, `Props.C08.applyMod_refines_step`).
    The typed lists are read after Cleanup (`absOf (cleanup e')`). -/

/-- **setRequire_exact.**  After `SetRequire want` (+ Cleanup) the typed requirements are exactly the requested
    ones: the same multiset; exactly one entry per requested path, with the requested version and indirect marking;
    no entry for any other path — for EVERY map-iteration order. -/
theorem setRequire_exact (e e' : Edit.EFile) (want : List Edit.Want) (perm : List Edit.Want → List Edit.Want)
    (hperm : ∀ l, (perm l).Perm l) (hg : Edit.GoodWant want) (hi : Edit.TInv e) (h : Edit.setRequire e want perm = .ok e') :
    (Edit.absOf (Edit.cleanup e').f).require.Perm (want.map Edit.Want.toReq) ∧
    (∀ w ∈ want, (Edit.absOf (Edit.cleanup e').f).require.filter (fun r => r.path == w.path) = [w.toReq]) ∧
    (∀ r ∈ (Edit.absOf (Edit.cleanup e').f).require, ∃ w ∈ want, r = w.toReq) :=
  Edit.setRequire_exact e e' want perm hperm hg hi h

/-- **setRequireSeparateIndirect_exact.** -/
theorem setRequireSeparateIndirect_exact (e e' : Edit.EFile) (want : List Edit.Want) (perm : List Edit.Want → List Edit.Want)
    (hperm : ∀ l, (perm l).Perm l) (hg : Edit.GoodWant want) (hi : Edit.TInv e)
    (h : Edit.setRequireSeparateIndirect e want perm = .ok e') :
    (Edit.absOf (Edit.cleanup e').f).require.Perm (want.map Edit.Want.toReq) ∧
    (∀ w ∈ want, (Edit.absOf (Edit.cleanup e').f).require.filter (fun r => r.path == w.path) = [w.toReq]) ∧
    (∀ r ∈ (Edit.absOf (Edit.cleanup e').f).require, ∃ w ∈ want, r = w.toReq) :=
  Edit.setRequireSeparateIndirect_exact e e' want perm hperm hg hi h

/-- **setUse_exact.** -/
theorem setUse_exact (e e' : Edit.EWork) (dirs : List (Bytes × Bytes)) (perm : List (Bytes × Bytes) → List (Bytes × Bytes))
    (hperm : ∀ l, (perm l).Perm l) (hg : Edit.GoodUse dirs) (hi : Edit.WInv e) (h : Edit.setUse e dirs perm = .ok e') :
    (Edit.absOfWork (Edit.workCleanup e').f).use.Perm (dirs.map Prod.fst) ∧
    (∀ d ∈ dirs, (Edit.absOfWork (Edit.workCleanup e').f).use.filter (fun u => u == d.1) = [d.1]) ∧
    (∀ u ∈ (Edit.absOfWork (Edit.workCleanup e').f).use, ∃ d ∈ dirs, u = d.1) :=
  Edit.setUse_exact e e' dirs perm hperm hg hi h

/-- **perm_independent (partial: typed lists).**  Two runs of a bulk setter that differ only in the map-iteration
    order succeed or fail together, and leave the same typed lists: every list equal, the requirements (uses) the same
    multiset — equal per path — under the line-id invariant `TInv` alone.  The full statement (`Format` of the two trees is
    the same byte string, under the tree invariant) is `perm_independent` below. -/
theorem perm_independent_partial (e : Edit.EFile) (w : Edit.EWork) (want : List Edit.Want) (dirs : List (Bytes × Bytes))
    (p1 p2 : List Edit.Want → List Edit.Want) (q1 q2 : List (Bytes × Bytes) → List (Bytes × Bytes))
    (hp1 : ∀ l, (p1 l).Perm l) (hp2 : ∀ l, (p2 l).Perm l) (hq1 : ∀ l, (q1 l).Perm l) (hq2 : ∀ l, (q2 l).Perm l)
    (hg : Edit.GoodWant want) (hu : Edit.GoodUse dirs) (hi : Edit.TInv e) (hw : Edit.WInv w) :
    (Edit.setRequire e want p1).isOk = (Edit.setRequire e want p2).isOk ∧
    (∀ e1 e2, Edit.setRequire e want p1 = .ok e1 → Edit.setRequire e want p2 = .ok e2 →
      Rel (Edit.absOf (Edit.cleanup e1).f) (Edit.absOf (Edit.cleanup e2).f)) ∧
    (∀ e1 e2, Edit.setRequireSeparateIndirect e want p1 = .ok e1 → Edit.setRequireSeparateIndirect e want p2 = .ok e2 →
      Rel (Edit.absOf (Edit.cleanup e1).f) (Edit.absOf (Edit.cleanup e2).f)) ∧
    (∀ w1 w2, Edit.setUse w dirs q1 = .ok w1 → Edit.setUse w dirs q2 = .ok w2 →
      Rel (Edit.absOfWork (Edit.workCleanup w1).f) (Edit.absOfWork (Edit.workCleanup w2).f)) :=
  ⟨Edit.setRequire_ok_indep e want p1 p2,
   fun e1 e2 h1 h2 => Edit.setRequire_perm_independent e e1 e2 want p1 p2 hp1 hp2 hg hi h1 h2,
   fun e1 e2 h1 h2 => Edit.setRequireSeparateIndirect_perm_independent e e1 e2 want p1 p2 hp1 hp2 hg hi h1 h2,
   fun w1 w2 h1 h2 => Edit.setUse_perm_independent w w1 w2 dirs q1 q2 hq1 hq2 hu hw h1 h2⟩

/-- both driver orders are permutations (so the theorems above apply to `Op.setRequire _ rev` for both `rev`) -/
theorem permOf_is_perm {α : Type} (rev : Bool) (l : List α) : (Edit.permOf rev l).Perm l := Edit.permOf_perm rev l

/-- non-vacuity of the three `_exact` theorems and of `perm_independent_partial`: a loaded well-formed file satisfies
    the invariant (`Edit.TInv_load` from `startOKb`), the request is good, and both setters succeed in both orders -/
example : (match parseStrict (B "go.mod") (B "module example.com/m\n\nrequire (\n\texample.com/a v1.0.0 // indirect; why\n\texample.com/b v1.2.3\n)\n\nrequire example.com/c/v2 v2.0.0 // note\n") none with
    | .ok f =>
      let want : List Edit.Want := [⟨B "example.com/e", B "v1.0.0", true⟩, ⟨B "example.com/a", B "v1.9.0", false⟩]
      Edit.startOKb f && Edit.validArgsB (.setRequire want true) &&
        (Edit.setRequire (Edit.load f) want (Edit.permOf true)).isOk && (Edit.setRequire (Edit.load f) want (Edit.permOf false)).isOk &&
        (Edit.setRequireSeparateIndirect (Edit.load f) want (Edit.permOf true)).isOk &&
        (Edit.setRequireSeparateIndirect (Edit.load f) want (Edit.permOf false)).isOk
    | .error _ => false) = true := by decide_bytes

example : (match parseWork (B "go.work") (B "go 1.21\n\nuse (\n\t./a\n\t./b\n)\n") none with
    | .ok f =>
      Edit.workStartOKb f && Edit.validArgsB (.setUse [(B "./b", []), (B "./d", [])] true) &&
        (Edit.setUse (Edit.loadWork f) [(B "./b", []), (B "./d", [])] (Edit.permOf true)).isOk &&
        (Edit.setUse (Edit.loadWork f) [(B "./b", []), (B "./d", [])] (Edit.permOf false)).isOk
    | .error _ => false) = true := by decide_bytes

/-- `lineLess` (lexical by tokens) is a strict weak order, and total -/
theorem lineLess_strict_total :
    StrictWeak lineLess ∧ ∀ a b, lineLess a b = false → lineLess b a = false → a = b :=
  ⟨lineLess_strictWeak, lineLess_total⟩

/-- `lineExcludeLess` on the two-token lines of an exclude block is the strict weak order
    "path by string order, then version by semver order" -/
theorem lineExcludeLess_strictWeak_on_pairs :
    StrictWeak excludeLess2 ∧ ∀ p v q w, lineExcludeLess [p, v] [q, w] = excludeLess2 (p, v) (q, w) :=
  ⟨excludeLess2_strictWeak, lineExcludeLess_two⟩

/-- `lineRetractLess` (descending by low, then high version) is a strict weak order on ALL token lists -/
theorem lineRetractLess_strict_weak : StrictWeak lineRetractLess := lineRetractLess_strictWeak

/-- Why the hypothesis "two-token lines" is needed: on lines of mixed length `lineExcludeLess` has a cycle
    (it falls back to the lexical order when a line does not have exactly two tokens).  A strict parse never
    produces such a line inside an exclude block. -/
theorem lineExcludeLess_cycle_on_mixed_lengths :
    lineExcludeLess [B "p", B "v1.10.0"] [B "p", B "v1.5.0", B "x"] = true ∧
    lineExcludeLess [B "p", B "v1.5.0", B "x"] [B "p", B "v1.9.0"] = true ∧
    lineExcludeLess [B "p", B "v1.9.0"] [B "p", B "v1.10.0"] = true := by decide_bytes

/-- **The stable sort produces a sorted permutation** for each comparator. -/
theorem sort_sorted_perm {α : Type} {less : α → α → Bool} (h : StrictWeak less) (l : List α) :
    Sorted less (sortBy less l) ∧ (sortBy less l).Perm l ∧ sortedBy less (sortBy less l) = true :=
  ⟨sortBy_sorted h l, sortBy_perm less l, (sortedBy_iff h _).2 (sortBy_sorted h l)⟩

/-- **Sorting is idempotent** (SortBlocks twice = once, block by block). -/
theorem sort_idempotent {α : Type} {less : α → α → Bool} (h : StrictWeak less) (l : List α) :
    sortBy less (sortBy less l) = sortBy less l := sortBy_idem h l

/-- **Independence of map-iteration order.** Lines ordered by `lineLess` (every block but
    exclude-from-go-1.21 and retract): the sorted block depends only on the multiset of lines, so the order
    in which `SetRequire`/`SetUse` appended the missing entries (Go map iteration) is unobservable. -/
theorem sort_lineLess_perm_invariant (l1 l2 : List (List Bytes)) (hp : l1.Perm l2) :
    sortBy lineLess l1 = sortBy lineLess l2 :=
  sortBy_perm_invariant lineLess_strictWeak lineLess_total l1 l2 hp

/-- the go-version test of SortBlocks as the code computes it: `1.21` and later releases use the semantic
    order; a pre-release such as `1.21rc1` or `1.22rc1` does NOT (recorded finding G3: "v1.22rc1" is not a
    valid semantic version, so the comparison treats it as lowest). -/
theorem useSemanticSortForExclude_examples :
    useSemanticSortForExclude (some (B "1.21")) = true ∧ useSemanticSortForExclude (some (B "1.21.0")) = true ∧
    useSemanticSortForExclude (some (B "1.20")) = false ∧ useSemanticSortForExclude none = false ∧
    useSemanticSortForExclude (some (B "1.22rc1")) = false := by decide_bytes



/-- **blocks_sorted (partial).** `File.SortBlocks` is `removeDups` followed by `sortStmts useSemantic false`,
    `WorkFile.SortBlocks` by `sortStmts false true`; every bulk setter and `AddTool` end with it.  After
    `sortStmts` each block's lines are sorted by the comparator the code selects for it, and are a permutation of a
    block of the input — for every block except an `exclude` block under the semantic order, where
    `lineExcludeLess` is a strict weak order only on two-token lines (`lineExcludeLess_strictWeak_on_pairs`;
    missing: the invariant that a strictly parsed exclude block holds only two-token or removed lines).
    Sortedness is preserved by Cleanup, which only deletes lines. -/
theorem blocks_sorted_partial (sem work : Bool) (stmts : List Expr) (b : LineBlock)
    (hb : Expr.lineBlock b ∈ Edit.sortStmts sem work stmts)
    (hx : work = true ∨ (Edit.headIs b.token (B "exclude") && sem) = false) :
    StrictWeak (Edit.lessFor sem work b.token) ∧
    Sorted (Edit.onToken (Edit.lessFor sem work b.token)) b.lines ∧
    ∃ b0, Expr.lineBlock b0 ∈ stmts ∧ b.lines.Perm b0.lines := by
  rcases Edit.sortStmts_block sem work stmts b hb with ⟨b0, hb0, htok, hlines⟩
  have hsw := Edit.lessFor_strictWeak sem work b.token hx
  refine ⟨hsw, ?_, b0, hb0, ?_⟩
  · rw [hlines, ← htok]; exact (Edit.stableSort_sorted hsw _).1
  · rw [hlines, ← htok]; exact (Edit.stableSort_sorted hsw _).2

/-- **blocks_sorted (partial 2): exclude blocks under the semantic order too.**  On a file satisfying the tree
    invariant `Edit.Inv` (Props/C15: it holds for the empty file and is preserved by every go.mod operation but the two
    bulk requirement setters) every line of an exclude block has exactly two tokens or is removed; on those
    `lineExcludeLess` is a strict weak order, so after `File.SortBlocks` EVERY block is sorted by the comparator the code
    selects for it (`Edit.semOf` = the go-version test).  Missing for the full statement: the invariant for the state
    in which SetRequire / SetRequireSeparateIndirect call SortBlocks (lean/PENDING.md). -/
theorem blocks_sorted_partial2 (e : Edit.EFile) (hi : Edit.Inv e) (b : LineBlock)
    (hb : Expr.lineBlock b ∈ (Edit.sortBlocks e).f.syn.stmts) :
    Sorted (Edit.onToken (Edit.lessFor (Edit.semOf e.f) false b.token)) b.lines :=
  Edit.sortBlocks_blocks_sorted e hi b hb

/-- non-vacuity of `blocks_sorted_partial2`: from the empty file (`Props.C15.Inv_empty`) a session that builds an exclude
    block under `go 1.21`; SortBlocks puts it into the semantic order (`v1.9.0` before `v1.10.0`) -/
example :
    (match Edit.runOps Edit.applyMod (Edit.load {})
        [.addGo (B "1.21"), .addExclude (B "a") (B "v1.10.0"), .addExclude (B "a") (B "v1.9.0"), .addExclude (B "b") (B "v1.0.0"),
         .sortBlocks, .cleanup] [] 0 with
     | .done e res => res.all id &&
         Edit.blocksOf e.f.syn == [([B "exclude"], [[B "a", B "v1.9.0"], [B "a", B "v1.10.0"]])]
     | _ => false) = true := by decide +kernel

/-- Recorded finding G3 (known_findings.json): with a pre-release go version ≥ 1.21 (`go 1.21rc1`) SortBlocks
    orders an exclude block lexically — `v1.10.0` before `v1.9.0` — which is not the documented
    "path, then semantic version" order.  Witness on the model. -/
theorem C16_violated_exclude_order_go_prerelease :
    Edit.outcomeIs (Edit.sessionMod (B "go 1.21rc1\nexclude (\n\ta v1.9.0\n\ta v1.10.0\n)\n") [.setRequire [] false, .cleanup])
      (fun o => Edit.blocksOf o.tree == [([B "exclude"], [[B "a", B "v1.10.0"], [B "a", B "v1.9.0"]])] &&
                !sortedBy EditSpec.lineExcludeLess [[B "a", B "v1.10.0"], [B "a", B "v1.9.0"]]) = true := by
  decide_bytes

/-- **SetRequire on the syntax tree.**  From a state satisfying the tree invariant (Props/C15), with every typed
    requirement live (Cleanup has just run) and under `NoNestedIndirectMarker` (which excludes exactly the recorded finding
    `C16_violated_indirect_marker_survives` below), after `SetRequire want` + Cleanup, for EVERY map-iteration order:
    the invariant holds again; for every requested entry the tree has a live line `require <AutoQuoted path> <version>`
    carrying the `// indirect` marker iff requested; and every live `require` line of the tree is such a line — the file
    contains the requested requirements and no other. -/
theorem setRequire_tree_exact (e e' : Edit.EFile) (want : List Edit.Want) (perm : List Edit.Want → List Edit.Want)
    (hperm : ∀ l, (perm l).Perm l) (hg : Edit.GoodWant want) (hi : Edit.Inv e)
    (hlive : ∀ r ∈ e.f.require, Edit.liveRq r = true) (hset : Edit.NoNestedIndirectMarker e)
    (h : Edit.setRequire e want perm = .ok e') :
    Edit.Inv (Edit.cleanup e') ∧
    (∀ w ∈ want, ∃ v ∈ Edit.view (Edit.cleanup e').f.syn.stmts, v.toks = [B "require", autoQuote w.path, w.vers] ∧
      Edit.isIndirectS v.suffix = w.indirect) ∧
    (∀ v ∈ Edit.view (Edit.cleanup e').f.syn.stmts, v.toks.head? = some (B "require") →
      ∃ w ∈ want, v.toks = [B "require", autoQuote w.path, w.vers] ∧ Edit.isIndirectS v.suffix = w.indirect) :=
  Edit.setRequire_tree_exact e e' want perm hperm hg hi hlive hset h

/-- non-vacuity of `setRequire_tree_exact`: a state built from the empty file (invariant: `Props.C15.Inv_empty` +
    `typed_eq_tree_partial2`) ending with Cleanup: every requirement is live, every line's marker is settable, and
    SetRequire succeeds in both map-iteration orders -/
example :
    (match Edit.runOps Edit.applyMod (Edit.load {})
        [.addModule (B "example.com/m"), .addRequire (B "example.com/a") (B "v1.0.0"),
         .addNewRequire (B "example.com/b") (B "v1.2.3") true, .addNewRequire (B "example.com/a") (B "v1.1.0") false, .cleanup] [] 0 with
     | .done e _ =>
       let want : List Edit.Want := [⟨B "example.com/e", B "v1.0.0", true⟩, ⟨B "example.com/a", B "v1.9.0", true⟩,
         ⟨B "example.com/b", B "v1.2.3", false⟩]
       e.f.require.all Edit.liveRq && (Edit.view e.f.syn.stmts).all (fun v => decide (Edit.MarkerSettable v.suffix)) &&
         (Edit.setRequire e want (Edit.permOf true)).isOk && (Edit.setRequire e want (Edit.permOf false)).isOk
     | _ => false) = true := by decide +kernel

/-- **SetUse on the syntax tree.**  From a go.work state satisfying the invariant with every typed use live, after
    `SetUse dirs` + Cleanup, for EVERY map-iteration order: the invariant holds again, the tree has a live line
    `use <AutoQuoted dir>` for every requested directory, and every live `use` line of the tree is one of them. -/
theorem setUse_tree_exact (e e' : Edit.EWork) (dirs : List (Bytes × Bytes)) (perm : List (Bytes × Bytes) → List (Bytes × Bytes))
    (hperm : ∀ l, (perm l).Perm l) (hg : Edit.GoodUse dirs) (hi : Edit.InvW e) (hlive : ∀ u ∈ e.f.use, Edit.liveU u = true)
    (h : Edit.setUse e dirs perm = .ok e') :
    Edit.InvW (Edit.workCleanup e') ∧
    (∀ d ∈ dirs, ∃ v ∈ Edit.view (Edit.workCleanup e').f.syn.stmts, v.toks = [B "use", autoQuote d.1]) ∧
    (∀ v ∈ Edit.view (Edit.workCleanup e').f.syn.stmts, v.toks.head? = some (B "use") →
      ∃ d ∈ dirs, v.toks = [B "use", autoQuote d.1]) :=
  Edit.setUse_tree_exact e e' dirs perm hperm hg hi hlive h

/-- non-vacuity of `setUse_tree_exact` (invariant: `Props.C15.InvW_empty` + `typed_eq_tree_work`) -/
example :
    (match Edit.runOps Edit.applyWork (Edit.loadWork {})
        [.addGo (B "1.21"), .addUse (B "./a") [], .addNewUse (B "./b") [], .cleanup] [] 0 with
     | .done e res => res.all id && e.f.use.all Edit.liveU &&
         (Edit.setUse e [(B "./c", []), (B "./a", [])] (Edit.permOf true)).isOk &&
         (Edit.setUse e [(B "./c", []), (B "./a", [])] (Edit.permOf false)).isOk
     | _ => false) = true := by decide +kernel

/-- Recorded finding (known_findings.json, `c16-indirect:remainder-is-marker`): clearing the indirect marker rewrites
    `// indirect; T` to `// T` without looking at `T`; when `T` is itself an indirect marker (`// indirect; indirect`)
    the line stays indirect although `Indirect: false` was requested — the typed list says direct, the formatted file
    and its strict re-parse say indirect.  Same for `SetRequireSeparateIndirect`.  Witness on the model. -/
theorem C16_violated_indirect_marker_survives :
    Edit.outcomeIs (Edit.sessionMod (B "module m\nrequire a v1.0.0 // indirect; indirect\n")
        [.cleanup, .setRequire [⟨B "a", B "v1.0.0", false⟩] false, .cleanup])
      (fun o => o.typed.require == [⟨B "a", B "v1.0.0", false⟩] &&
                (o.reparsed.map (·.require)) == some [⟨B "a", B "v1.0.0", true⟩] &&
                o.out == B "module m\n\nrequire a v1.0.0 // indirect\n") = true ∧
    Edit.outcomeIs (Edit.sessionMod (B "module m\nrequire a v1.0.0 // indirect; indirect\n")
        [.cleanup, .setRequireSeparateIndirect [⟨B "a", B "v1.0.0", false⟩] false, .cleanup])
      (fun o => o.typed.require == [⟨B "a", B "v1.0.0", false⟩] &&
                (o.reparsed.map (·.require)) == some [⟨B "a", B "v1.0.0", true⟩]) = true := by
  constructor <;> (decide_bytes)

/-- the same request on a line whose payload is not a marker clears the marker (the witness is specific) -/
example :
    Edit.outcomeIs (Edit.sessionMod (B "module m\nrequire a v1.0.0 // indirect; because\n")
        [.cleanup, .setRequire [⟨B "a", B "v1.0.0", false⟩] false, .cleanup])
      (fun o => o.typed.require == [⟨B "a", B "v1.0.0", false⟩] &&
                (o.reparsed.map (·.require)) == some [⟨B "a", B "v1.0.0", false⟩]) = true := by
  decide_bytes

/-- the same file with `go 1.21` is put in the semantic order (the witness is specific to the pre-release form) -/
example :
    Edit.outcomeIs (Edit.sessionMod (B "go 1.21\nexclude (\n\ta v1.10.0\n\ta v1.9.0\n)\n") [.setRequire [] false, .cleanup])
      (fun o => Edit.blocksOf o.tree == [([B "exclude"], [[B "a", B "v1.9.0"], [B "a", B "v1.10.0"]])]) = true := by
  decide_bytes

/-- non-vacuity on the model: both bulk setters on a file with duplicates, comments and two blocks; both
    map-iteration orders give the same bytes; requirements are exactly the requested ones. -/
example :
    let file := B "module example.com/m\n\nrequire (\n\texample.com/a v1.0.0 // indirect; why\n\texample.com/b v1.2.3\n\texample.com/a v1.1.0\n)\n\nrequire example.com/c/v2 v2.0.0 // note\n"
    let want : List Edit.Want := [⟨B "example.com/e", B "v1.0.0", true⟩, ⟨B "example.com/a", B "v1.9.0", false⟩, ⟨B "example.com/d/v3", B "v3.0.0", false⟩]
    Edit.outcomeIs (Edit.sessionMod file [.cleanup, .setRequire want false, .cleanup])
      (fun o => (Edit.sessionMod file [.cleanup, .setRequire want true, .cleanup]).map (·.out) == some o.out &&
        (Edit.sessionMod file [.cleanup, .setRequireSeparateIndirect want true, .cleanup]).map (·.out)
          == (Edit.sessionMod file [.cleanup, .setRequireSeparateIndirect want false, .cleanup]).map (·.out) &&
        o.reparsed.map (·.require) == some [⟨B "example.com/a", B "v1.9.0", false⟩, ⟨B "example.com/d/v3", B "v3.0.0", false⟩, ⟨B "example.com/e", B "v1.0.0", true⟩]) = true := by
  intro file
  rw [B_lit file]
  clear file
  decide +kernel

/-- non-vacuity -/
example : (step stdValidity { require := [⟨B "a", B "v1.0.0", true⟩, ⟨B "c", B "v1.0.0", false⟩, ⟨B "a", B "v1.1.0", false⟩] }
      (.setRequire [⟨B "b", B "v1.0.0", false⟩, ⟨B "a", B "v1.5.0", false⟩])).require
    = [⟨B "a", B "v1.5.0", false⟩, ⟨B "b", B "v1.0.0", false⟩] := by decide +kernel
example : sortBy lineRetractLess [[B "v1.0.0"], [B "[", B "v1.2.0", B ",", B "v1.3.0", B "]"], [B "v1.9.0"]]
    = [[B "v1.9.0"], [B "[", B "v1.2.0", B ",", B "v1.3.0", B "]"], [B "v1.0.0"]] := by decide_bytes
example : sortBy lineExcludeLess [[B "a", B "v1.10.0"], [B "a", B "v1.9.0"]] = [[B "a", B "v1.9.0"], [B "a", B "v1.10.0"]] := by
  decide_bytes

/-! ### SetRequireSeparateIndirect on the syntax tree (Proofs/EditMoreSep*.lean) -/

/-- **SetRequireSeparateIndirect on the syntax tree.**  Same statement as `setRequire_tree_exact`, for the setter that
    also rearranges the blocks (`ensureBlock`, inserted empty blocks, requirement lines moved under fresh ids): after the
    call and Cleanup, for EVERY map-iteration order, the invariant holds again, every requested entry has a live line
    `require <AutoQuoted path> <version>` carrying the `// indirect` marker iff requested, and the tree has no other
    live `require` line. -/
theorem setRequireSeparateIndirect_tree_exact (e e' : Edit.EFile) (want : List Edit.Want) (perm : List Edit.Want → List Edit.Want)
    (hperm : ∀ l, (perm l).Perm l) (hg : Edit.GoodWant want) (hi : Edit.Inv e)
    (hlive : ∀ r ∈ e.f.require, Edit.liveRq r = true) (hset : Edit.NoNestedIndirectMarker e)
    (h : Edit.setRequireSeparateIndirect e want perm = .ok e') :
    Edit.Inv (Edit.cleanup e') ∧
    (∀ w ∈ want, ∃ v ∈ Edit.view (Edit.cleanup e').f.syn.stmts, v.toks = [B "require", autoQuote w.path, w.vers] ∧
      Edit.isIndirectS v.suffix = w.indirect) ∧
    (∀ v ∈ Edit.view (Edit.cleanup e').f.syn.stmts, v.toks.head? = some (B "require") →
      ∃ w ∈ want, v.toks = [B "require", autoQuote w.path, w.vers] ∧ Edit.isIndirectS v.suffix = w.indirect) :=
  Edit.setRequireSeparateIndirect_tree_exact e e' want perm hperm hg hi hlive hset h

/-- **blocks_sorted (partial 3): the bulk requirement setters.**  `SetRequire` and `SetRequireSeparateIndirect` end with
    SortBlocks on a state that satisfies the tree invariant (`Edit.setRequire_presort`,
    `Edit.setRequireSeparateIndirect_presort`), so in their result EVERY block — exclude blocks under the semantic order
    included — is sorted by the comparator the code selects for it.  With `blocks_sorted_partial2` (SortBlocks itself,
    AddTool) this covers every go.mod operation that sorts; go.work: `blocks_sorted_work` below. -/
theorem blocks_sorted_partial3 (e e' : Edit.EFile) (want : List Edit.Want) (perm : List Edit.Want → List Edit.Want)
    (hperm : ∀ l, (perm l).Perm l) (hg : Edit.GoodWant want) (hi : Edit.Inv e)
    (hlive : ∀ r ∈ e.f.require, Edit.liveRq r = true) (hset : Edit.NoNestedIndirectMarker e)
    (h : Edit.setRequire e want perm = .ok e' ∨ Edit.setRequireSeparateIndirect e want perm = .ok e')
    (b : LineBlock) (hb : Expr.lineBlock b ∈ e'.f.syn.stmts) :
    Sorted (Edit.onToken (Edit.lessFor (Edit.semOf e.f) false b.token)) b.lines :=
  Edit.bulk_blocks_sorted e e' want perm hperm hg hi hlive hset h b hb

/-- non-vacuity of `setRequireSeparateIndirect_tree_exact` / `blocks_sorted_partial3`: a state built from the empty file
    ending with Cleanup: every requirement is live, every line's marker is settable, and SetRequireSeparateIndirect
    succeeds in both map-iteration orders -/
example :
    (match Edit.runOps Edit.applyMod (Edit.load {})
        [.addModule (B "example.com/m"), .addGo (B "1.21"), .addRequire (B "example.com/a") (B "v1.0.0"),
         .addNewRequire (B "example.com/b") (B "v1.2.3") true, .addExclude (B "x") (B "v1.10.0"), .addExclude (B "x") (B "v1.9.0"),
         .cleanup] [] 0 with
     | .done e _ =>
       let want : List Edit.Want := [⟨B "example.com/e", B "v1.0.0", true⟩, ⟨B "example.com/a", B "v1.9.0", true⟩,
         ⟨B "example.com/b", B "v1.2.3", false⟩]
       Edit.invB e && Edit.bulkOKB e want &&
         (Edit.setRequireSeparateIndirect e want (Edit.permOf true)).isOk &&
         (Edit.setRequireSeparateIndirect e want (Edit.permOf false)).isOk
     | _ => false) = true := by decide +kernel

/-- **separate_blocks.**  When the file's requirements are ONE uncommented statement — a single `require` line or a single
    `require ( … )` block that carries no comment of its own (`Edit.sepOneFlat`, the code's `len(…)==1 && !hasComments`
    test on the scan of the statements) — then after `SetRequireSeparateIndirect want` and Cleanup, for EVERY
    map-iteration order, no `require` block of the tree holds both a line with and a line without the `// indirect`
    marker: direct and indirect requirements end in two different blocks (every kept requirement is moved, under a fresh
    line id, to the block of its kind; the two blocks are different statements: `Edit.SepGood.ne`; Cleanup, removeDups
    and the sort never merge statements: `Edit.cleanupStmts_block`, `Edit.dropKilled_block`, `Edit.sortStmts_block`).  Hypotheses as for `setRequireSeparateIndirect_tree_exact`. -/
theorem separate_blocks (e e' : Edit.EFile) (want : List Edit.Want) (perm : List Edit.Want → List Edit.Want)
    (hperm : ∀ l, (perm l).Perm l) (hg : Edit.GoodWant want) (hi : Edit.Inv e)
    (hlive : ∀ r ∈ e.f.require, Edit.liveRq r = true) (hset : Edit.NoNestedIndirectMarker e)
    (hone : Edit.sepOneFlat e.f.syn.stmts (Edit.scanStmts e.f.syn.stmts 0 {}) = true)
    (h : Edit.setRequireSeparateIndirect e want perm = .ok e')
    (b : LineBlock) (hb : Expr.lineBlock b ∈ (Edit.cleanup e').f.syn.stmts) (htok : b.token = [B "require"]) :
    (∀ l ∈ b.lines, isIndirect l = true) ∨ (∀ l ∈ b.lines, isIndirect l = false) :=
  Edit.separate_blocks e e' want perm hperm hg hi hlive hset hone h b hb htok

/-- non-vacuity of `separate_blocks`: a parsed file whose requirements are one uncommented block mixing direct and
    indirect lines satisfies the hypotheses, and the call yields two blocks (direct first) -/
example :
    (match parseStrict (B "go.mod") (B "module m\n\nrequire (\n\ta v1.0.0 // indirect\n\tb v1.0.0\n\tc v1.0.0\n)\n") none with
     | .ok f =>
       let e := Edit.load f
       let want : List Edit.Want := [⟨B "a", B "v1.0.0", true⟩, ⟨B "b", B "v1.1.0", false⟩, ⟨B "d", B "v1.0.0", true⟩, ⟨B "e", B "v1.0.0", false⟩]
       Edit.invB e && Edit.bulkOKB e want && Edit.sepOneFlat e.f.syn.stmts (Edit.scanStmts e.f.syn.stmts 0 {}) &&
         (match Edit.setRequireSeparateIndirect e want (Edit.permOf true) with
          | .ok e' => Edit.blocksOf (Edit.cleanup e').f.syn ==
              [([B "require"], [[B "b", B "v1.1.0"], [B "e", B "v1.0.0"]]), ([B "require"], [[B "a", B "v1.0.0"], [B "d", B "v1.0.0"]])]
          | .error _ => false)
     | .error _ => false) = true := by decide_bytes

/-- **comments_survive.**  `SetRequire` / `SetRequireSeparateIndirect` keep the comments of the requirement they keep.  For
    the FIRST existing requirement `r` of a requested path (`e.f.require = d ++ r :: t`, no requirement in `d` has its
    path; later duplicates are removed), with `x0` its line (full tokens, `Before` and `Suffix` comments: `Edit.viewX`),
    after the call and Cleanup, for EVERY map-iteration order, there is a live line with the requested version that carries
    * every `Before` comment of `x0` except blank-line placeholders (`Edit.BeforeKept`; the only comment ever dropped is
      the single blank-line placeholder removed by `setVersion`, golang.org/issue/33779);
    * the `Suffix` comments of `x0` as `setIndirect` rewrites them, `Edit.sfxAfter w.indirect x0.suffix`: only the text of
      the first comment changes (the marker `// indirect` is added or removed, the rest of the text — the payload after
      `// indirect;` — stays), and a comment that is nothing but the marker is dropped (`sfxAfter_rewrites_marker_only`).
    The line may have been moved to another block by SetRequireSeparateIndirect (`Edit.viewX_moveExisting`). -/
theorem comments_survive (e e' : Edit.EFile) (want : List Edit.Want) (perm : List Edit.Want → List Edit.Want)
    (hperm : ∀ l, (perm l).Perm l) (hg : Edit.GoodWant want) (hi : Edit.Inv e)
    (hlive : ∀ r ∈ e.f.require, Edit.liveRq r = true) (hset : Edit.NoNestedIndirectMarker e)
    (h : Edit.setRequire e want perm = .ok e' ∨ Edit.setRequireSeparateIndirect e want perm = .ok e')
    (d : List Require) (r : Require) (t : List Require) (hsplit : e.f.require = d ++ r :: t)
    (hfirst : ∀ r' ∈ d, r'.mod.path ≠ r.mod.path) (w : Edit.Want) (hw : w ∈ want) (hwp : w.path = r.mod.path)
    (x0 : Edit.XLine) (hx0 : x0 ∈ Edit.viewX e.f.syn.stmts) (hid0 : x0.id = r.lineId) :
    ∃ x' ∈ Edit.viewX (Edit.cleanup e').f.syn.stmts, x'.toks = [B "require", autoQuote r.mod.path, w.vers] ∧
      Edit.BeforeKept x0.before x'.before ∧ (Edit.sfxAfter w.indirect x0.suffix).Sublist x'.suffix := by
  have key : ∃ x' ∈ Edit.viewX (Edit.cleanup e').f.syn.stmts, x'.toks = [B "require", autoQuote r.mod.path, w.vers] ∧
      Edit.BeforeKept x0.before x'.before ∧ x'.suffix = Edit.sfxAfter w.indirect x0.suffix := by
    rcases h with h | h
    · exact Edit.setRequire_comments_eq e e' want perm hperm hg hi hlive hset h d r t hsplit hfirst w hw hwp x0 hx0 hid0
    · exact Edit.setRequireSeparateIndirect_comments_eq e e' want perm hperm hg hi hlive hset h d r t hsplit hfirst w hw hwp x0 hx0 hid0
  obtain ⟨x', hx', h1, h2, h3⟩ := key
  exact ⟨x', hx', h1, h2, h3 ▸ List.Sublist.refl _⟩

/-- `setIndirect` rewrites nothing but the marker in the text of the first end-of-line comment -/
theorem sfxAfter_rewrites_marker_only (b : Bool) (c : Comment) (rest : List Comment) :
    (∃ tok, Edit.sfxAfter b (c :: rest) = { c with token := tok } :: rest) ∨
    (b = false ∧ Edit.sfxAfter b (c :: rest) = [] ∧
      GoStrings.trimSpace (GoStrings.trimPrefix c.token Edit.slashSlash) = B "indirect") :=
  Edit.sfxAfter_cons b c rest

/-- non-vacuity of `comments_survive`: a parsed file whose requirement `a` (first of two lines for `a`) carries a `Before`
    comment and the end-of-line comment `// indirect; why`; both setters keep `// keep` and the payload `why` -/
example :
    (match parseStrict (B "go.mod") (B "module m\n\nrequire (\n\t// keep\n\ta v1.0.0 // indirect; why\n\tb v1.0.0\n\ta v1.1.0\n)\n") none with
     | .ok f =>
       let e := Edit.cleanup (Edit.load f)
       let want : List Edit.Want := [⟨B "a", B "v1.2.0", false⟩, ⟨B "c", B "v1.0.0", true⟩]
       Edit.invB e && Edit.bulkOKB e want &&
       (match Edit.setRequire e want (Edit.permOf false), Edit.setRequireSeparateIndirect e want (Edit.permOf true) with
        | .ok e1, .ok e2 =>
          (Edit.viewX (Edit.cleanup e1).f.syn.stmts).any (fun x => x.toks == [B "require", B "a", B "v1.2.0"] &&
            x.before.map (·.token) == [B "// keep"] && x.suffix.map (·.token) == [B "// why"]) &&
          (Edit.viewX (Edit.cleanup e2).f.syn.stmts).any (fun x => x.toks == [B "require", B "a", B "v1.2.0"] &&
            x.before.map (·.token) == [B "// keep"] && x.suffix.map (·.token) == [B "// why"])
        | _, _ => false)
     | .error _ => false) = true := by decide_bytes

/-! ### blocks_sorted for go.work (Proofs/EditWorkSorted.lean) -/

/-- **blocks_sorted, go.work: one operation.**  `WorkFile.SortBlocks` is `removeDups` (replacements) followed by
    `sortStmts false true`: every block is sorted by `lineLess`, whatever its verb.  A go.work operation that ends with it
    (`Edit.SortsW`: SortBlocks itself, SetUse) leaves EVERY block of the tree sorted by `lineLess` (a strict weak order on all
    token lists, `lineLess_strict_total`) — no hypothesis on the state. -/
theorem op_blocks_sorted_work (e e' : Edit.EWork) (op : Edit.Op) (hs : Edit.SortsW op = true)
    (h : Edit.applyWork e op = some (.ok e')) (b : LineBlock) (hb : Expr.lineBlock b ∈ e'.f.syn.stmts) :
    Sorted (Edit.onToken (Edit.lessFor false true b.token)) b.lines ∧ Edit.lessFor false true b.token = Edit.lineLess := by
  rw [Edit.lessFor_work]
  exact ⟨Edit.applyWork_sorts e e' op hs h b hb, rfl⟩

/-- **blocks_sorted, go.work sessions.**  A session of go.work operations (any arguments, any starting state — e.g.
    `Edit.loadWork f` for a parsed `f`) whose last operation ends with SortBlocks and that runs to completion leaves every
    block of the tree sorted by `lineLess`; the final Cleanup, which only deletes lines, keeps every block sorted
    (`Edit.cleanupStmts_block`).  With `blocks_sorted_partial2` / `blocks_sorted_partial3` (go.mod) every sorting operation of
    both file kinds is covered; the documented exclude order fails for pre-release go versions
    (`C16_violated_exclude_order_go_prerelease`). -/
theorem blocks_sorted_work (e e' : Edit.EWork) (ops : List Edit.Op) (op : Edit.Op) (res : List Bool)
    (hs : Edit.SortsW op = true) (h : Edit.runOps Edit.applyWork e (ops ++ [op]) [] 0 = .done e' res) :
    (∀ b, Expr.lineBlock b ∈ e'.f.syn.stmts → Sorted (Edit.onToken (Edit.lessFor false true b.token)) b.lines) ∧
    (∀ b, Expr.lineBlock b ∈ (Edit.workCleanup e').f.syn.stmts →
      Sorted (Edit.onToken (Edit.lessFor false true b.token)) b.lines) := by
  simp only [Edit.lessFor_work]
  exact Edit.blocks_sorted_work e e' ops op res hs h

/-- non-vacuity of `blocks_sorted_work` / `op_blocks_sorted_work`: a parsed go.work with an unsorted `use` block; a session
    ending with SetUse (both map-iteration orders) completes, and the block holds the requested directories in `lineLess` order -/
example :
    (match parseWork (B "go.work") (B "go 1.21\n\nuse (\n\t./z\n\t./b\n\t./m\n)\n") none with
     | .ok f =>
       [true, false].all fun rev =>
       (match Edit.runOps Edit.applyWork (Edit.loadWork f)
           ([.addUse (B "./c") [], .cleanup] ++ [.setUse [(B "./z", []), (B "./a", []), (B "./m", []), (B "./c", [])] rev]) [] 0 with
        | .done e res => res.all id &&
            Edit.blocksOf (Edit.workCleanup e).f.syn == [([B "use"], [[B "./a"], [B "./c"], [B "./m"], [B "./z"]])]
        | _ => false)
     | .error _ => false) = true := by decide_bytes

/-! ### comments_survive along a session (Proofs/EditSession.lean) -/

/-- **comments_survive_session: `comments_survive` composed with `untouched_lines_survive` along a session.**  Session
    `ops1 ++ [bulk setter, Cleanup] ++ ops2` (`Edit.bulkOp sep want rev` = SetRequireSeparateIndirect if `sep`, else SetRequire)
    from a state satisfying the tree invariant, every operation with valid arguments in the state in which it runs
    (`Edit.RunValid`), run to completion.  `x0`: a line of the STARTING tree that `ops1` spares (`Edit.Spared`, as in
    `Props.C08.untouched_lines_survive`) and that is, in the state `e1` in which the setter runs, the line of the FIRST
    requirement `r` of a requested path (`w ∈ want`, `w.path = r.mod.path`).  If no operation of `ops2` names the rewritten
    line `require <path> <requested version>` (`Edit.Targets`: a condition on the operations only), then after the final
    Cleanup the tree has a line with exactly these tokens that carries
    * every non-blank `Before` comment of `x0` (`Edit.BeforeKept`), and
    * the end-of-line comments the line had when the setter ran — `x1.suffix`, of which `x0.suffix` is a sublist — as
      `setIndirect` rewrites them (`Edit.sfxAfter`, `sfxAfter_rewrites_marker_only`).
    `x1` is the line in `e1` (same id, same tokens).  The `Keeps` relation of Proofs/EditMoreKeepA.lean only records
    sublists, because Cleanup appends a collapsed block's own suffix comments — which the invariant excludes: the version
    with `x1.suffix = x0.suffix` and `x'.suffix = sfxAfter w.indirect x0.suffix` is `comments_survive_session_eq` below. -/
theorem comments_survive_session (e e1 e' : Edit.EFile) (ops1 ops2 : List Edit.Op) (sep rev : Bool) (want : List Edit.Want)
    (res res1 : List Bool) (hi : Edit.Inv e) (hv : Edit.RunValid e (ops1 ++ Edit.bulkOp sep want rev :: .cleanup :: ops2))
    (h : Edit.runOps Edit.applyMod e (ops1 ++ Edit.bulkOp sep want rev :: .cleanup :: ops2) [] 0 = .done e' res)
    (h1 : Edit.runOps Edit.applyMod e ops1 [] 0 = .done e1 res1)
    (d : List Require) (r : Require) (t : List Require) (hsplit : e1.f.require = d ++ r :: t)
    (hfirst : ∀ r' ∈ d, r'.mod.path ≠ r.mod.path) (w : Edit.Want) (hw : w ∈ want) (hwp : w.path = r.mod.path)
    (x0 : Edit.XLine) (hx0 : x0 ∈ Edit.viewX e.f.syn.stmts) (hid0 : x0.id = r.lineId)
    (hsp1 : Edit.Spared x0.toks x0.id e ops1)
    (hsp2 : ∀ op ∈ ops2, ¬Edit.Targets op [B "require", autoQuote r.mod.path, w.vers]) :
    ∃ x1 ∈ Edit.viewX e1.f.syn.stmts, (x1.id = x0.id ∧ x1.toks = x0.toks ∧ x0.before.Sublist x1.before ∧
        x0.suffix.Sublist x1.suffix) ∧
      ∃ x' ∈ Edit.viewX (Edit.cleanup e').f.syn.stmts, x'.toks = [B "require", autoQuote r.mod.path, w.vers] ∧
        Edit.BeforeKept x0.before x'.before ∧ (Edit.sfxAfter w.indirect x1.suffix).Sublist x'.suffix :=
  Edit.comments_survive_session e e1 e' ops1 ops2 sep rev want res res1 hi hv h h1 d r t hsplit hfirst w hw hwp x0 hx0 hid0
    hsp1 hsp2

/-- a static form of `Props.C08.untouched_lines_survive` used for `ops2` above: `Edit.Targets` depends on the operation and
    the tokens only; SortBlocks' de-duplication (the state-dependent part of `Edit.Spared`) only ever removes `exclude`,
    `replace` and `tool` lines (`Edit.Inv.not_killed_of_verb`), so for every other line "no operation names its tokens" is enough -/
theorem untouched_lines_survive_static (e e' : Edit.EFile) (ops : List Edit.Op) (res : List Bool) (hi : Edit.Inv e)
    (hv : Edit.RunValid e ops) (h : Edit.runOps Edit.applyMod e ops [] 0 = .done e' res)
    (x : Edit.XLine) (hx : x ∈ Edit.viewX e.f.syn.stmts) (hnt : ∀ op ∈ ops, ¬Edit.Targets op x.toks)
    (hnd : Edit.NotDedupVerb x.toks) :
    ∃ x' ∈ Edit.viewX (Edit.cleanup e').f.syn.stmts, x'.id = x.id ∧ x'.toks = x.toks ∧ x.before.Sublist x'.before ∧
      x.suffix.Sublist x'.suffix := by
  obtain ⟨z, hz, h1, h2, h3, h4⟩ := Edit.untouched_lines_survive_static_eq e e' ops res hi hv h x hx hnt hnd
  exact ⟨z, hz, h1, h2, h3, h4 ▸ List.Sublist.refl _⟩

/-- non-vacuity of `comments_survive_session` / `untouched_lines_survive_static`, for both setters: the requirement `a` of a
    parsed file carries `// keep` and `// indirect; why`; `ops1` (go line, an exclude, Cleanup) spares it (`Edit.sparedB`), it is
    the first requirement when the setter runs, `ops2` names no `require` line (`Edit.opVerb`, sound by `Edit.targets_verb`);
    the whole session has valid arguments (`Edit.runValidB`), completes, and the final line `require a v1.2.0` carries
    `// keep` and the payload `// why` -/
example :
    (match parseStrict (B "go.mod") (B "module m\n\nrequire (\n\t// keep\n\ta v1.0.0 // indirect; why\n\tb v1.0.0\n)\n") none with
     | .ok f =>
       let e := Edit.load f
       let want : List Edit.Want := [⟨B "a", B "v1.2.0", false⟩, ⟨B "c", B "v1.0.0", true⟩]
       let ops1 : List Edit.Op := [.addGo (B "1.21"), .addExclude (B "x") (B "v1.0.0"), .cleanup]
       let ops2 : List Edit.Op := [.addTool (B "t"), .dropExclude (B "x") (B "v1.0.0")]
       [true, false].all fun sep =>
       Edit.invB e && Edit.runValidB e (ops1 ++ Edit.bulkOp sep want true :: .cleanup :: ops2) &&
       ops2.all (fun op => Edit.opVerb op != some (B "require")) &&
       (match Edit.runOps Edit.applyMod e ops1 [] 0,
              Edit.runOps Edit.applyMod e (ops1 ++ Edit.bulkOp sep want true :: .cleanup :: ops2) [] 0 with
        | .done e1 _, .done e' _ =>
          (match e1.f.require with
           | r :: _ => r.mod.path == B "a" &&
             (Edit.viewX e.f.syn.stmts).any (fun x0 => x0.id == r.lineId && Edit.sparedB x0.toks x0.id e ops1 &&
               x0.before.map (·.token) == [B "// keep"] && x0.suffix.map (·.token) == [B "// indirect; why"])
           | [] => false) &&
          (Edit.viewX (Edit.cleanup e').f.syn.stmts).any (fun x => x.toks == [B "require", B "a", B "v1.2.0"] &&
            x.before.map (·.token) == [B "// keep"] && x.suffix.map (·.token) == [B "// why"])
        | _, _ => false)
     | .error _ => false) = true := by decide_bytes

/-! ### … with EQUALITY of the end-of-line comments (Proofs/EditMoreKeep{A–F}.lean, EditSession.lean) -/

/-- **comments_survive_session_eq: the end-of-line comments survive EXACTLY.**  Same session and hypotheses as
    `comments_survive_session`.  (1) In the state `e1` in which the setter runs, the line `x0` that `ops1` spares is still there:
    same id, same tokens, its `Before` comments as a sublist (Cleanup prepends the whole-line comments of a collapsed one-line
    block: the example below) and `x1.suffix = x0.suffix`.  (2) After the final Cleanup the rewritten line
    `require <path> <requested version>` carries every non-blank `Before` comment of `x0`, and its end-of-line comments ARE
    `Edit.sfxAfter w.indirect x0.suffix` — those of `x0` as `setIndirect` rewrites them (`sfxAfter_rewrites_marker_only`), nothing
    added, nothing lost.  Route: the relation `Edit.KeepsS` (as `Edit.Keeps`, equality on `Suffix`) through every primitive —
    updateLine, markRemoved, addLine's hinted walk, Cleanup, removeDups, the sort, insertAt, appendToBlock, moveExisting,
    ensureBlock — and every go.mod operation (`Edit.applyMod_opKeepsS`).  The ONLY place where an end-of-line comment list can
    grow is Cleanup collapsing a one-line block that carries an end-of-line comment of its own (`cleanup_grows_block_suffix`),
    which the tree invariant excludes (`Edit.TreeWF.noBlockSuffix`, part of `Edit.Inv`, preserved by every operation). -/
theorem comments_survive_session_eq (e e1 e' : Edit.EFile) (ops1 ops2 : List Edit.Op) (sep rev : Bool) (want : List Edit.Want)
    (res res1 : List Bool) (hi : Edit.Inv e) (hv : Edit.RunValid e (ops1 ++ Edit.bulkOp sep want rev :: .cleanup :: ops2))
    (h : Edit.runOps Edit.applyMod e (ops1 ++ Edit.bulkOp sep want rev :: .cleanup :: ops2) [] 0 = .done e' res)
    (h1 : Edit.runOps Edit.applyMod e ops1 [] 0 = .done e1 res1)
    (d : List Require) (r : Require) (t : List Require) (hsplit : e1.f.require = d ++ r :: t)
    (hfirst : ∀ r' ∈ d, r'.mod.path ≠ r.mod.path) (w : Edit.Want) (hw : w ∈ want) (hwp : w.path = r.mod.path)
    (x0 : Edit.XLine) (hx0 : x0 ∈ Edit.viewX e.f.syn.stmts) (hid0 : x0.id = r.lineId)
    (hsp1 : Edit.Spared x0.toks x0.id e ops1)
    (hsp2 : ∀ op ∈ ops2, ¬Edit.Targets op [B "require", autoQuote r.mod.path, w.vers]) :
    ∃ x1 ∈ Edit.viewX e1.f.syn.stmts, (x1.id = x0.id ∧ x1.toks = x0.toks ∧ x0.before.Sublist x1.before ∧
        x1.suffix = x0.suffix) ∧
      ∃ x' ∈ Edit.viewX (Edit.cleanup e').f.syn.stmts, x'.toks = [B "require", autoQuote r.mod.path, w.vers] ∧
        Edit.BeforeKept x0.before x'.before ∧ x'.suffix = Edit.sfxAfter w.indirect x0.suffix :=
  Edit.comments_survive_session_eq e e1 e' ops1 ops2 sep rev want res res1 hi hv h h1 d r t hsplit hfirst w hw hwp x0 hx0 hid0
    hsp1 hsp2

/-- **an untouched line keeps its end-of-line comments exactly** (`Props.C08.untouched_lines_survive` with equality on
    `Suffix`): in a session of go.mod operations with valid arguments from a state satisfying the invariant, a line that no
    operation names and no SortBlocks removes as a duplicate (`Edit.Spared`) is in the tree after the final Cleanup with its id,
    its tokens, its `Before` comments as a sublist and EXACTLY its `Suffix` comments -/
theorem untouched_lines_survive_eq (e e' : Edit.EFile) (ops : List Edit.Op) (res : List Bool) (hi : Edit.Inv e)
    (hv : Edit.RunValid e ops) (h : Edit.runOps Edit.applyMod e ops [] 0 = .done e' res)
    (x : Edit.XLine) (hx : x ∈ Edit.viewX e.f.syn.stmts) (hsp : Edit.Spared x.toks x.id e ops) :
    ∃ x' ∈ Edit.viewX (Edit.cleanup e').f.syn.stmts, x'.id = x.id ∧ x'.toks = x.toks ∧ x.before.Sublist x'.before ∧
      x'.suffix = x.suffix :=
  Edit.untouched_lines_survive_eq e e' ops res hi hv h x hx hsp

/-- the static form (`untouched_lines_survive_static`) with equality on `Suffix` -/
theorem untouched_lines_survive_static_eq (e e' : Edit.EFile) (ops : List Edit.Op) (res : List Bool) (hi : Edit.Inv e)
    (hv : Edit.RunValid e ops) (h : Edit.runOps Edit.applyMod e ops [] 0 = .done e' res)
    (x : Edit.XLine) (hx : x ∈ Edit.viewX e.f.syn.stmts) (hnt : ∀ op ∈ ops, ¬Edit.Targets op x.toks)
    (hnd : Edit.NotDedupVerb x.toks) :
    ∃ x' ∈ Edit.viewX (Edit.cleanup e').f.syn.stmts, x'.id = x.id ∧ x'.toks = x.toks ∧ x.before.Sublist x'.before ∧
      x'.suffix = x.suffix :=
  Edit.untouched_lines_survive_static_eq e e' ops res hi hv h x hx hnt hnd

/-- one operation: a line the operation does not name (and no de-duplication removes) keeps id, tokens, `Before` comments
    (sublist) and exactly its `Suffix` comments -/
theorem op_untouched_line_survives_eq (e e' : Edit.EFile) (op : Edit.Op) (hv : Edit.ValidArgsAll e op) (hi : Edit.Inv e)
    (h : Edit.applyMod e op = some (.ok e')) (x : Edit.XLine) (hx : x ∈ Edit.viewX e.f.syn.stmts)
    (hnt : ¬Edit.Targets op x.toks) (hk : Edit.Sorts op = true → x.id ∉ Edit.kill3 e.f) :
    ∃ x' ∈ Edit.viewX e'.f.syn.stmts, x'.id = x.id ∧ x'.toks = x.toks ∧ x.before.Sublist x'.before ∧ x'.suffix = x.suffix :=
  Edit.applyMod_untouchedS e e' op hv hi h x hx hnt hk

/-- why the tree invariant is needed: on the tree `require ( // c` + `a v1 // s` + `)` — a block carrying an end-of-line
    comment of its own, which `Edit.TreeWF.noBlockSuffix` excludes — Cleanup collapses the block into the line
    `require a v1 // s // c`: the line's end-of-line comments grow, the equality fails (the sublist relation of
    `Props.C08.untouched_lines_survive` still holds) -/
theorem cleanup_grows_block_suffix : ¬ Edit.KeepsS [] Edit.growTree (Edit.cleanupStmts Edit.growTree) :=
  Edit.keepsS_cleanupStmts_needs_noBlockSuffix

/-- non-vacuity of `comments_survive_session_eq` / `untouched_lines_survive_eq`, for both setters: the requirement `a` is the
    only line of a block that carries the whole-line comment `// blk`; the line carries `// keep` and `// indirect; why`.
    `ops1` (go line, an exclude, Cleanup) spares it (`Edit.sparedB`) — its Cleanup collapses the block, so in `e1` the line's
    `Before` comments have GROWN to `// blk`, `// keep` while its `Suffix` comments are literally those of `x0`; the whole session
    has valid arguments (`Edit.runValidB`), completes, and the end-of-line comments of the final line `require a v1.2.0` are
    literally `sfxAfter false x0.suffix` = `// why` -/
example :
    (match parseStrict (B "go.mod") (B "module m\n\n// blk\nrequire (\n\t// keep\n\ta v1.0.0 // indirect; why\n)\n\nrequire b v1.0.0\n") none with
     | .ok f =>
       let e := Edit.load f
       let want : List Edit.Want := [⟨B "a", B "v1.2.0", false⟩, ⟨B "c", B "v1.0.0", true⟩]
       let ops1 : List Edit.Op := [.addGo (B "1.21"), .addExclude (B "x") (B "v1.0.0"), .cleanup]
       let ops2 : List Edit.Op := [.addTool (B "t"), .dropExclude (B "x") (B "v1.0.0")]
       [true, false].all fun sep =>
       Edit.invB e && Edit.runValidB e (ops1 ++ Edit.bulkOp sep want true :: .cleanup :: ops2) &&
       ops2.all (fun op => Edit.opVerb op != some (B "require")) &&
       (match Edit.runOps Edit.applyMod e ops1 [] 0,
              Edit.runOps Edit.applyMod e (ops1 ++ Edit.bulkOp sep want true :: .cleanup :: ops2) [] 0 with
        | .done e1 _, .done e' _ =>
          (match e1.f.require with
           | r :: _ => r.mod.path == B "a" &&
             (Edit.viewX e.f.syn.stmts).any (fun x0 => x0.id == r.lineId && Edit.sparedB x0.toks x0.id e ops1 &&
               x0.before.map (·.token) == [B "// keep"] && x0.suffix.map (·.token) == [B "// indirect; why"] &&
               (Edit.viewX e1.f.syn.stmts).any (fun x1 => x1.id == x0.id && x1.toks == x0.toks &&
                 x1.before.map (·.token) == [B "// blk", B "// keep"] && x1.suffix == x0.suffix) &&
               (Edit.viewX (Edit.cleanup e').f.syn.stmts).any (fun x => x.toks == [B "require", B "a", B "v1.2.0"] &&
                 x.before.map (·.token) == [B "// blk", B "// keep"] && x.suffix == Edit.sfxAfter false x0.suffix &&
                 x.suffix.map (·.token) == [B "// why"]))
           | [] => false)
        | _, _ => false)
     | .error _ => false) = true := by decide_bytes

/-! ### perm_independent on the formatted file (Proofs/EditPerm{,A,B,C,D,E}.lean) -/

/-- **perm_independent.**  Two runs of `SetRequire want`, of `SetRequireSeparateIndirect want`, of `SetUse dirs` from the same
    state — tree invariant, live requirements (uses), hypotheses as for `setRequire_tree_exact` /
    `setRequireSeparateIndirect_tree_exact` / `setUse_tree_exact` — that differ only in the map-iteration order give the SAME
    BYTE STRING under `Format`, directly after the call and after Cleanup.  Why: the entries still missing after the loop over
    the existing ones are added by `addLine` with the nil hint and all land in ONE statement — the last statement with the
    verb, which becomes / is a block, or a new block at the end of the file (`Edit.addMany_qual` /
    `addMany_none`) — resp., for SetRequireSeparateIndirect, are appended by index to the direct and the indirect block
    (`Edit.appendMany_get`); their tokens are pairwise different (distinct paths, `Edit.autoQuote_injective`); SortBlocks sorts
    these `require` / `use` blocks by `lineLess`, total on tokens, and the stable sort is determined by the multiset and the
    order inside each class of equal tokens (`sortBy_stable`, `sorted_stable_unique`, `sortBy_append_perm_invariant`); so the
    two trees are equal up to the line ids the call handed out (`Edit.setRequire_tree_perm_independent`, `Edit.normStmt`), which
    `Format` and Cleanup do not look at (`Edit.format_norm`, `Edit.cleanupStmts_norm`). -/
theorem perm_independent :
    (∀ (e e1 e2 : Edit.EFile) (want : List Edit.Want) (p1 p2 : List Edit.Want → List Edit.Want),
      (∀ l, (p1 l).Perm l) → (∀ l, (p2 l).Perm l) → Edit.GoodWant want → Edit.Inv e →
      (∀ r ∈ e.f.require, Edit.liveRq r = true) → Edit.NoNestedIndirectMarker e →
      ((Edit.setRequire e want p1 = .ok e1 → Edit.setRequire e want p2 = .ok e2 →
        format e1.f.syn = format e2.f.syn ∧ format (Edit.cleanup e1).f.syn = format (Edit.cleanup e2).f.syn) ∧
       (Edit.setRequireSeparateIndirect e want p1 = .ok e1 → Edit.setRequireSeparateIndirect e want p2 = .ok e2 →
        format e1.f.syn = format e2.f.syn ∧ format (Edit.cleanup e1).f.syn = format (Edit.cleanup e2).f.syn))) ∧
    (∀ (w w1 w2 : Edit.EWork) (dirs : List (Bytes × Bytes)) (q1 q2 : List (Bytes × Bytes) → List (Bytes × Bytes)),
      (∀ l, (q1 l).Perm l) → (∀ l, (q2 l).Perm l) → Edit.GoodUse dirs → Edit.InvW w →
      (∀ u ∈ w.f.use, Edit.liveU u = true) →
      Edit.setUse w dirs q1 = .ok w1 → Edit.setUse w dirs q2 = .ok w2 →
      format w1.f.syn = format w2.f.syn ∧ format (Edit.workCleanup w1).f.syn = format (Edit.workCleanup w2).f.syn) :=
  ⟨fun e e1 e2 want p1 p2 hp1 hp2 hg hi hlive hset =>
     ⟨fun h1 h2 => Edit.setRequire_format_perm_independent e e1 e2 want p1 p2 hp1 hp2 hg hi hlive hset h1 h2,
      fun h1 h2 => Edit.setRequireSeparateIndirect_format_perm_independent e e1 e2 want p1 p2 hp1 hp2 hg hi hlive hset h1 h2⟩,
   fun w w1 w2 dirs q1 q2 hq1 hq2 hg hi hlive h1 h2 =>
     Edit.setUse_format_perm_independent w w1 w2 dirs q1 q2 hq1 hq2 hg hi hlive h1 h2⟩

/-- the tree-level form: the two trees are equal once every line id `≥ e.next` (those handed out by the call) is erased -/
theorem setRequire_tree_perm_independent (e e1 e2 : Edit.EFile) (want : List Edit.Want) (p1 p2 : List Edit.Want → List Edit.Want)
    (hp1 : ∀ l, (p1 l).Perm l) (hp2 : ∀ l, (p2 l).Perm l) (hg : Edit.GoodWant want) (hi : Edit.Inv e)
    (hlive : ∀ r ∈ e.f.require, Edit.liveRq r = true) (hset : Edit.NoNestedIndirectMarker e)
    (h1 : Edit.setRequire e want p1 = .ok e1) (h2 : Edit.setRequire e want p2 = .ok e2) :
    e1.f.syn.stmts.map (Edit.normStmt e.next) = e2.f.syn.stmts.map (Edit.normStmt e.next) :=
  Edit.setRequire_tree_perm_independent e e1 e2 want p1 p2 hp1 hp2 hg hi hlive hset h1 h2

/-- the list-level core: appending lines with pairwise different tokens to a block in two different orders (and under
    different fresh ids: `f` erases them) gives the same `lineLess`-sorted block up to `f` -/
theorem stableSort_append_perm_invariant (f : Line → Line) (hf : ∀ l, (f l).token = l.token) (old new1 new2 : List Line)
    (hp : (new1.map f).Perm (new2.map f)) (hd : new1.Pairwise (fun a b => a.token ≠ b.token)) :
    (Edit.stableSort Edit.lineLess (old ++ new1)).map f = (Edit.stableSort Edit.lineLess (old ++ new2)).map f :=
  Edit.stableSort_lineLess_perm_invariant_modIds f hf old new1 new2 hp hd

/-- non-vacuity of `perm_independent` / `setRequire_tree_perm_independent`: a parsed go.mod (two requirement statements,
    comments) after Cleanup satisfies the hypotheses (`Edit.invB`, `Edit.bulkOKB`), both requirement setters with three missing
    entries succeed in both orders, the two trees differ (the fresh ids) and the formatted files agree; same for a go.work
    and SetUse (`Edit.invWB`, `Edit.goodUseB`) -/
example :
    (match parseStrict (B "go.mod") (B "module m\n\nrequire (\n\t// keep\n\ta v1.0.0 // indirect; why\n\tb v1.0.0\n)\n\nrequire c v1.0.0\n") none with
     | .ok f =>
       let e := Edit.cleanup (Edit.load f)
       let want : List Edit.Want := [⟨B "z", B "v1.0.0", true⟩, ⟨B "a", B "v1.2.0", false⟩, ⟨B "d", B "v1.0.0", false⟩, ⟨B "k", B "v0.1.0", true⟩]
       Edit.invB e && Edit.bulkOKB e want &&
       (match Edit.setRequire e want (Edit.permOf false), Edit.setRequire e want (Edit.permOf true) with
        | .ok e1, .ok e2 => e1.f.syn != e2.f.syn && format e1.f.syn == format e2.f.syn
        | _, _ => false) &&
       (match Edit.setRequireSeparateIndirect e want (Edit.permOf false), Edit.setRequireSeparateIndirect e want (Edit.permOf true) with
        | .ok e1, .ok e2 => e1.f.syn != e2.f.syn && format e1.f.syn == format e2.f.syn
        | _, _ => false)
     | .error _ => false) = true ∧
    (match parseWork (B "go.work") (B "go 1.21\n\nuse ./m\n") none with
     | .ok f =>
       let w := Edit.workCleanup (Edit.loadWork f)
       let dirs : List (Bytes × Bytes) := [(B "./z", []), (B "./a", []), (B "./m", [])]
       Edit.invWB w && Edit.goodUseB dirs && w.f.use.all Edit.liveU &&
       (match Edit.setUse w dirs (Edit.permOf false), Edit.setUse w dirs (Edit.permOf true) with
        | .ok w1, .ok w2 => w1.f.syn != w2.f.syn && format w1.f.syn == format w2.f.syn
        | _, _ => false)
     | .error _ => false) = true := by
  constructor <;> (decide_bytes)

end ModVerif.Props.C16
