/-
  C08 — go.mod / go.work edit operations do what a keyed-collection model says.

  `EditSpec.step` (Spec/EditSpec.lean) is the keyed-collection model of DESIGN.md §6; the Go oracle's abstract
  model is compared with it on every generated session (`edit.absstep`).  First part: the step table has the
  algebra the property text relies on ("keyed collections updated as each operation documents").  Second part:
  the MODEL of the operations (Model/Modfile/Edit.lean, tied to the Go code by the correspondence) refines the
  step table on the typed lists, for every go.mod and go.work operation and whole sessions (`refines_abs_typed`).
  Helper lemmas: Proofs/EditSpecLists.lean, Proofs/EditRefine*.lean.
-/
import ModVerif.Spec.EditSpec
import ModVerif.Proofs.EditSpecLists
import ModVerif.Model.Modfile.EditAbs
import ModVerif.Proofs.EditRefineWork
import ModVerif.Proofs.EditRefineValid
import ModVerif.Proofs.EditMoreStartW
import ModVerif.Proofs.EditMoreKeepF
import ModVerif.Proofs.EditWorkKeepB
import ModVerif.Proofs.EditReparseF
import ModVerif.Proofs.EditGoodBlocksC
import ModVerif.Proofs.EditWorkReparseD
import ModVerif.Proofs.BytesLit
namespace ModVerif.Props.C08
open ModVerif ModVerif.EditSpec ModVerif.Modfile

/-- Cleanup is the identity on the abstract file. -/
theorem cleanup_identity (V : Validity) (f : AbsFile) : step V f .cleanup = f := by
  simp [step, stepOk]

/-- An operation that reports an error leaves the abstract file unchanged. -/
theorem failed_op_unchanged (V : Validity) (f : AbsFile) (op : Op) (h : stepOk V f op = false) :
    step V f op = f := by
  simp [step, h]

/-- **Drop removes all.** After `DropX k` no entry with key `k` is left, for every keyed collection. -/
theorem dropX_removes_all (V : Validity) (f : AbsFile) :
    (∀ k, (step V f (.dropGodebug k)).godebug.any (fun e => e.1 == k) = false) ∧
    (∀ p, (step V f (.dropRequire p)).require.any (fun r => r.path == p) = false) ∧
    (∀ p v, (step V f (.dropExclude p v)).exclude.any (fun e => e == (p, v)) = false) ∧
    (∀ p v, (step V f (.dropReplace p v)).replace.any (fun r => r.oldPath == p && r.oldVers == v) = false) ∧
    (∀ lo hi, (step V f (.dropRetract lo hi)).retract.any (fun r => r.lo == lo && r.hi == hi) = false) ∧
    (∀ p, (step V f (.dropTool p)).tool.any (fun t => t == p) = false) ∧
    (∀ d, (step V f (.dropUse d)).use.any (fun u => u == d) = false) := by
  refine ⟨?_, ?_, ?_, ?_, ?_, ?_, ?_⟩ <;> intros <;> simp only [step, stepOk, Bool.not_true, Bool.false_eq_true, if_false] <;>
    exact dropAll_none _ _

/-- **Drop touches nothing else.** The entries with other keys are kept, in order (shown for requires
    and replaces; the other collections are instances of the same `dropAll_keeps`). -/
theorem dropX_keeps_others (V : Validity) (f : AbsFile) :
    (∀ p, (step V f (.dropRequire p)).require.filter (fun r => !(r.path == p)) = f.require.filter (fun r => !(r.path == p))) ∧
    (∀ p v, (step V f (.dropReplace p v)).replace.filter (fun r => !(r.oldPath == p && r.oldVers == v))
        = f.replace.filter (fun r => !(r.oldPath == p && r.oldVers == v))) := by
  refine ⟨?_, ?_⟩ <;> intros <;> simp only [step, stepOk, Bool.not_true, Bool.false_eq_true, if_false] <;>
    exact dropAll_keeps _ _

/-- **AddRequire sets exactly one line for the path**: afterwards there is exactly one requirement of
    `p`; it has version `v` and the indirect marking of the first previous requirement of `p`
    (direct if there was none). -/
theorem addRequire_unique (V : Validity) (f : AbsFile) (p v : Bytes) :
    (step V f (.addRequire p v)).require.filter (fun r => r.path == p)
      = [⟨p, v, ((f.require.find? (fun r => r.path == p)).map (·.indirect)).getD false⟩] := by
  simp only [step, stepOk, Bool.not_true, Bool.false_eq_true, if_false, setKeyed]
  by_cases h : f.require.any (fun r => r.path == p) = true
  · simp only [h, if_true]
    rw [updFirstDropRest_matched (fun r : Req => r.path == p) (fun r : Req => { r with vers := v }) (by intro x hx; exact hx)]
    rcases List.any_eq_true.1 h with ⟨a, ha, hpa⟩
    cases hf : f.require.find? (fun r => r.path == p) with
    | none => exact absurd hpa (by simpa using (List.find?_eq_none.1 hf) a ha)
    | some b =>
      have hb := List.find?_some hf
      have : b.path = p := by simpa using hb
      cases b; simp_all
  · simp only [Bool.not_eq_true] at h
    have h0 : f.require.filter (fun r => r.path == p) = [] := by
      apply List.filter_eq_nil_iff.2
      intro a ha; simpa using List.any_eq_false.1 h a ha
    have hn : f.require.find? (fun r => r.path == p) = none := by
      apply List.find?_eq_none.2
      intro a ha; simpa using List.any_eq_false.1 h a ha
    simp [h, List.filter_append, h0, hn]

/-- AddRequire leaves the requirements of every other path alone, in order. -/
theorem addRequire_keeps_others (V : Validity) (f : AbsFile) (p v : Bytes) :
    (step V f (.addRequire p v)).require.filter (fun r => !(r.path == p)) = f.require.filter (fun r => !(r.path == p)) := by
  simp only [step, stepOk, Bool.not_true, Bool.false_eq_true, if_false, setKeyed]
  by_cases h : f.require.any (fun r => r.path == p) = true
  · simp only [h, if_true]
    exact updFirstDropRest_others _ _ (by intro x hx; exact hx) _
  · simp only [Bool.not_eq_true] at h
    simp [h, List.filter_append]

/-- **Add then drop = drop**: a later operation sees what an earlier one did. -/
theorem addRequire_then_drop (V : Validity) (f : AbsFile) (p v : Bytes) :
    step V (step V f (.addRequire p v)) (.dropRequire p) = step V f (.dropRequire p) := by
  have h := addRequire_keeps_others V f p v
  simp only [step, stepOk, Bool.not_true, Bool.false_eq_true, if_false, dropAll] at h ⊢
  rw [h]

/-- the documented de-duplication is idempotent -/
theorem removeDups_idempotent (f : AbsFile) : removeDups (removeDups f) = removeDups f := by
  simp [removeDups, dedupFirst_idem, dedupLast_idem]

/-- SortBlocks is idempotent on the abstract file. -/
theorem sortBlocks_idempotent (V : Validity) (f : AbsFile) :
    step V (step V f .sortBlocks) .sortBlocks = step V f .sortBlocks := by
  simp [step, stepOk, removeDups_idempotent]

/-- after SortBlocks no two excludes, no two tools are equal and no two replacements share an `Old` -/
theorem sortBlocks_no_dups (V : Validity) (f : AbsFile) :
    let g := step V f .sortBlocks
    g.replace.Pairwise (fun a b => (a.oldPath, a.oldVers) ≠ (b.oldPath, b.oldVers)) := by
  simp only [step, stepOk, Bool.not_true, Bool.false_eq_true, if_false, removeDups]
  exact dedupLast_nodup _ _

/-- replacements: the LAST entry per `Old` is the one that survives SortBlocks -/
theorem sortBlocks_replace_last_wins (V : Validity) (f : AbsFile) (r : Repl) (rest : List Repl)
    (h : f.replace = rest ++ [r]) : r ∈ (step V f .sortBlocks).replace := by
  simp only [step, stepOk, Bool.not_true, Bool.false_eq_true, if_false, removeDups, h]
  clear h
  induction rest with
  | nil => simp [dedupLast]
  | cons x xs ih =>
    simp only [List.cons_append, dedupLast]
    split
    · exact ih
    · exact List.mem_cons_of_mem _ ih



/-! ### The MODEL of the operations refines the step table (typed lists)

    `stdValidity` = the specification's validity predicates; they ARE the checks the model of the Go functions performs
    (`validity_checks_eq`: the hand-translated matchers of `GoVersionRE`, `ToolchainRE` and `checkCanonicalVersion`);
    `Edit.StartOK f` = the starting file is well formed (no directive with an empty key, the
    exclude / replace / tool entries point at pairwise different lines of the tree); `Edit.ValidArgs op` = non-empty
    keys, bulk lists with pairwise distinct non-empty paths; `Rel` = equal scalars and lists, except that requirements
    (uses) are equal PER PATH — the order between different paths depends on Go's map iteration — and retractions are
    compared by interval (rationales: see the recorded findings below).  Helper lemmas: Proofs/EditRefine*.lean. -/

/-- **refines_abs_typed (go.mod).**  For every session of operations with valid arguments on a well-formed parsed
    file, for both map-iteration orders of every bulk setter: if the session completes (no Go panic), then the typed
    lists after the final Cleanup are exactly what the keyed-collection model predicts from the starting file, and
    each operation succeeds / returns an error exactly when the model says so. -/
theorem refines_abs_typed (f : File) (ops : List Edit.Op) (e' : Edit.EFile) (res : List Bool) (hs : Edit.StartOK f)
    (hv : ∀ op ∈ ops, Edit.ValidArgs op) (h : Edit.runOps Edit.applyMod (Edit.load f) ops [] 0 = .done e' res) :
    Rel (Edit.absOf (Edit.cleanup e').f) (run stdValidity (Edit.absOf f) (ops.map Edit.Op.toSpec)) ∧
    res = runOk stdValidity (Edit.absOf f) (ops.map Edit.Op.toSpec) := by
  rw [← Edit.mV_eq_std]; exact Edit.refines_abs_typed f ops e' res hs hv h

/-- **refines_abs_typed (go.work).** -/
theorem refines_abs_typed_work (f : WorkFile) (ops : List Edit.Op) (e' : Edit.EWork) (res : List Bool)
    (hs : Edit.WorkStartOK f) (hv : ∀ op ∈ ops, Edit.ValidArgs op)
    (h : Edit.runOps Edit.applyWork (Edit.loadWork f) ops [] 0 = .done e' res) :
    Rel (Edit.absOfWork (Edit.workCleanup e').f) (run stdValidity (Edit.absOfWork f) (ops.map Edit.Op.toSpec)) ∧
    res = runOk stdValidity (Edit.absOfWork f) (ops.map Edit.Op.toSpec) := by
  rw [← Edit.mV_eq_std]; exact Edit.refines_abs_typed_work f ops e' res hs hv h

/-- the same on the observable outcome of a whole `edit.session` (strict parse, operations, Cleanup) -/
theorem sessionMod_refines (file : Bytes) (ops : List Edit.Op) (o : Edit.Outcome) (f : File)
    (hf : parseStrict (B "go.mod") file none = .ok f) (hs : Edit.StartOK f) (hv : ∀ op ∈ ops, Edit.ValidArgs op)
    (h : Edit.sessionMod file ops = some o) :
    o.start = Edit.absOf f ∧ Rel o.typed (run stdValidity o.start (ops.map Edit.Op.toSpec)) ∧
    o.res = runOk stdValidity o.start (ops.map Edit.Op.toSpec) := by
  rw [← Edit.mV_eq_std]; exact Edit.sessionMod_refines file ops o f hf hs hv h

theorem sessionWork_refines (file : Bytes) (ops : List Edit.Op) (o : Edit.Outcome) (f : WorkFile)
    (hf : parseWork (B "go.work") file none = .ok f) (hs : Edit.WorkStartOK f) (hv : ∀ op ∈ ops, Edit.ValidArgs op)
    (h : Edit.sessionWork file ops = some o) :
    o.start = Edit.absOfWork f ∧ Rel o.typed (run stdValidity o.start (ops.map Edit.Op.toSpec)) ∧
    o.res = runOk stdValidity o.start (ops.map Edit.Op.toSpec) := by
  rw [← Edit.mV_eq_std]; exact Edit.sessionWork_refines file ops o f hf hs hv h

/-- what `Rel` means for an observer: every collection is the same multiset (retractions: of intervals), the scalars
    are equal, and more (order is preserved except between requirements / uses of different paths) -/
theorem Rel_observable {f g : AbsFile} (h : Rel f g) :
    f.module = g.module ∧ f.go = g.go ∧ f.toolchain = g.toolchain ∧ f.godebug = g.godebug ∧ f.require.Perm g.require ∧
    f.exclude = g.exclude ∧ f.replace = g.replace ∧ f.retract.map Retr.interval = g.retract.map Retr.interval ∧
    f.tool = g.tool ∧ f.use.Perm g.use :=
  ⟨h.module, h.go, h.toolchain, h.godebug, h.require.perm, h.exclude, h.replace, h.retract, h.tool, h.use.perm⟩

/-- one operation of the model = one step of the table (the per-operation refinement lemma): success ⇒ `stepOk` and
    the specified new state; a returned error ⇒ `stepOk` is false -/
theorem applyMod_refines_step (e : Edit.EFile) (op : Edit.Op) (hv : Edit.ValidArgs op) (hi : Edit.TInv e) :
    (∀ e', Edit.applyMod e op = some (.ok e') →
      stepOk stdValidity (Edit.absOf (Edit.cleanup e).f) op.toSpec = true ∧
      Rel (Edit.absOf (Edit.cleanup e').f) (step stdValidity (Edit.absOf (Edit.cleanup e).f) op.toSpec) ∧ Edit.TInv e') ∧
    (∀ err, Edit.applyMod e op = some (.error err) → err.isReturned = true →
      stepOk stdValidity (Edit.absOf (Edit.cleanup e).f) op.toSpec = false) := by
  rw [← Edit.mV_eq_std]
  exact ⟨fun e' h => (Edit.applyMod_refines e op hv hi _ h).1 e' rfl, fun err h => (Edit.applyMod_refines e op hv hi _ h).2 err rfl⟩

/-- the specification's validity predicates are the checks the Go functions perform (as the model computes them):
    `GoVersionRE`, `ToolchainRE`, `checkCanonicalVersion` -/
theorem validity_checks_eq :
    (∀ s, goVersionRE s = stdValidity.goVersion s) ∧ (∀ s, toolchainRE s = stdValidity.toolchain s) ∧
    (∀ p v, Edit.checkCanonicalVersion p v = stdValidity.version p v) :=
  ⟨Edit.goVersionRE_eq, Edit.toolchainRE_eq, Edit.checkCanonicalVersion_eq⟩

/-- non-vacuity of `refines_abs_typed` / `sessionMod_refines`: a concrete well-formed file and a valid session
    (duplicates, deferred removals, a bulk setter in reversed map order, a retraction, a tool) that completes -/
example : (match parseStrict (B "go.mod") (B "module example.com/m\n\ngo 1.21\n\nrequire (\n\texample.com/a v1.0.0 // indirect\n\texample.com/b v1.2.3\n\texample.com/a v1.1.0\n)\n\nexclude example.com/b v1.0.0\n\nreplace example.com/a v1.0.0 => ../a\n\ntool example.com/t\n") none with
    | .ok f =>
      let ops : List Edit.Op := [.addRequire (B "example.com/a") (B "v1.5.0"), .addExclude (B "example.com/b") (B "v1.0.0"),
        .dropRequire (B "example.com/b"), .cleanup,
        .setRequire [⟨B "example.com/e", B "v1.0.0", true⟩, ⟨B "example.com/a", B "v1.9.0", false⟩] true,
        .addRetract (B "v1.0.0") (B "v1.0.0") (B "bad"), .addTool (B "example.com/u")]
      Edit.startOKb f && ops.all Edit.validArgsB &&
        (match Edit.runOps Edit.applyMod (Edit.load f) ops [] 0 with
         | .done _ res => res.all id
         | _ => false)
    | .error _ => false) = true := by decide_bytes

/-- non-vacuity, go.work -/
example : (match parseWork (B "go.work") (B "go 1.21\n\nuse (\n\t./a\n\t./b\n)\n\nreplace example.com/a => ../a\n") none with
    | .ok f =>
      let ops : List Edit.Op := [.addUse (B "./c") [], .dropUse (B "./a"), .cleanup, .setUse [(B "./b", []), (B "./d", [])] true,
        .addReplace (B "example.com/a") [] (B "../b") []]
      Edit.workStartOKb f && ops.all Edit.validArgsB &&
        (match Edit.runOps Edit.applyWork (Edit.loadWork f) ops [] 0 with
         | .done _ res => res.all id
         | _ => false)
    | .error _ => false) = true := by decide_bytes

/-! ### Recorded findings (known_findings.json), C08 side: the keyed-collection prediction
    `run stdValidity start ops` and the strict re-parse of the model's output differ in a retraction's
    rationale (same three structural causes as in Props/C15.lean). -/

theorem C08_violated_retract_block_comment_inherited :
    Edit.outcomeIs (Edit.sessionMod (B "module m\n// bad block\nretract (\n\tv1.0.0\n\tv1.2.0\n)\n") [.addRetract (B "v1.1.0") (B "v1.1.0") []])
      (fun o => (run stdValidity o.start [.addRetract (B "v1.1.0") (B "v1.1.0") []]).retract.contains ⟨B "v1.1.0", B "v1.1.0", []⟩ &&
                (o.reparsed.map fun a => a.retract.contains ⟨B "v1.1.0", B "v1.1.0", B "bad block"⟩ &&
                                         !a.retract.contains ⟨B "v1.1.0", B "v1.1.0", []⟩) == some true) = true := by
  decide_bytes

theorem C08_violated_retract_collapse_merged_block_comment :
    Edit.outcomeIs (Edit.sessionMod (B "// x\nretract (\n\tv1.2.3 // c1\n)\n") [])
      (fun o => (run stdValidity o.start []).retract == [⟨B "v1.2.3", B "v1.2.3", B "c1"⟩] &&
                (o.reparsed.map (·.retract)) == some [⟨B "v1.2.3", B "v1.2.3", B "x\nc1"⟩]) = true := by
  decide_bytes

theorem C08_violated_retract_blank_line_dropped :
    Edit.outcomeIs (Edit.sessionMod (B "// note\nretract (\n\t[v2.9.0, v2.0.0-alpha.1]\n\n\tv2.9.0\n)\n") [.sortBlocks])
      (fun o => (run stdValidity o.start [.sortBlocks]).retract.contains ⟨B "v2.9.0", B "v2.9.0", []⟩ &&
                (o.reparsed.map fun a => a.retract.contains ⟨B "v2.9.0", B "v2.9.0", B "note"⟩ &&
                                         !a.retract.contains ⟨B "v2.9.0", B "v2.9.0", []⟩) == some true) = true := by
  decide_bytes

/-- non-vacuity of the refinement claim on the model: a session with duplicates, a commented block and a
    bulk setter — the model's strict re-parse has exactly the directives the step table predicts
    (requires compared as lists after the final sort: the prediction is a permutation in general). -/
example :
    Edit.outcomeIs (Edit.sessionMod (B "module example.com/m\n\ngo 1.21\n\nrequire (\n\texample.com/a v1.0.0 // indirect\n\t// keep\n\texample.com/b v1.2.3\n\texample.com/a v1.1.0\n)\n\nexclude example.com/b v1.0.0\n")
        [.addRequire (B "example.com/a") (B "v1.5.0"), .addExclude (B "example.com/b") (B "v1.0.0"), .dropRequire (B "example.com/b"), .cleanup])
      (fun o => o.reparsed == some (run stdValidity o.start
        [.addRequire (B "example.com/a") (B "v1.5.0"), .addExclude (B "example.com/b") (B "v1.0.0"), .dropRequire (B "example.com/b"), .cleanup])
        && o.res == [true, true, true, true] && o.reparsed == some o.typed) = true := by
  decide_bytes

/-- non-vacuity: a concrete session on a file with duplicates -/
example :
    (run stdValidity { require := [⟨B "a", B "v1.0.0", true⟩, ⟨B "b", B "v1.0.0", false⟩, ⟨B "a", B "v1.1.0", false⟩] }
        [.addRequire (B "a") (B "v1.2.0"), .cleanup]).require
      = [⟨B "a", B "v1.2.0", true⟩, ⟨B "b", B "v1.0.0", false⟩] := by decide +kernel

example : stepOk stdValidity {} (.addExclude (B "example.com/a") (B "v1.2")) = false := by decide +kernel
example : stepOk stdValidity {} (.addExclude (B "example.com/a") (B "v1.2.0")) = true := by decide_bytes
example : stepOk stdValidity {} (.addGo (B "1.21rc1")) = true ∧ stepOk stdValidity {} (.addGo (B "1.x")) = false := by decide_bytes

/-! ### Every strictly parsed starting file (Proofs/EditMoreStart*.lean) -/

/-- **refines_abs_typed for EVERY strictly parsed starting file.**  The structural half of `Edit.StartOK` (the exclude /
    replace / tool entries point at pairwise different lines of the tree) holds for every file the strict parser accepts
    (`Edit.parseStrict_startOK`: the parser creates one typed entry per line, line ids are pairwise different — C20
    `parse_ids_nodup`).  So for a whole `edit.session` the only condition on the starting file is the property's
    "well-formed": no directive with an empty key (`Edit.WellFormedKeys`, observation O5 of Props/C15.lean). -/
theorem sessionMod_refines_wellformed (file : Bytes) (ops : List Edit.Op) (o : Edit.Outcome) (f : File)
    (hf : parseStrict (B "go.mod") file none = .ok f) (hk : Edit.WellFormedKeys f) (hv : ∀ op ∈ ops, Edit.ValidArgs op)
    (h : Edit.sessionMod file ops = some o) :
    o.start = Edit.absOf f ∧ Rel o.typed (run stdValidity o.start (ops.map Edit.Op.toSpec)) ∧
    o.res = runOk stdValidity o.start (ops.map Edit.Op.toSpec) :=
  sessionMod_refines file ops o f hf (Edit.parseStrict_startOK hf hk) hv h

/-- … and for go.work (`Edit.WorkKeys`: godebug keys, use paths and replaced paths are non-empty) -/
theorem sessionWork_refines_wellformed (file : Bytes) (ops : List Edit.Op) (o : Edit.Outcome) (f : WorkFile)
    (hf : parseWork (B "go.work") file none = .ok f) (hk : Edit.WorkKeys f) (hv : ∀ op ∈ ops, Edit.ValidArgs op)
    (h : Edit.sessionWork file ops = some o) :
    o.start = Edit.absOfWork f ∧ Rel o.typed (run stdValidity o.start (ops.map Edit.Op.toSpec)) ∧
    o.res = runOk stdValidity o.start (ops.map Edit.Op.toSpec) :=
  sessionWork_refines file ops o f hf (Edit.parseWork_startOK hf hk) hv h

/-- non-vacuity of the two theorems above: parsed files with non-empty keys on which a valid session has an outcome -/
example :
    (match parseStrict (B "go.mod") (B "module example.com/m\n\nrequire example.com/a v1.0.0\nexclude example.com/b v1.0.0\ntool example.com/t\n") none with
     | .ok f => Edit.startOKb f && (Edit.sessionMod (B "module example.com/m\n\nrequire example.com/a v1.0.0\nexclude example.com/b v1.0.0\ntool example.com/t\n")
         [.addRequire (B "example.com/a") (B "v1.5.0"), .dropTool (B "example.com/t")]).isSome
     | .error _ => false) = true ∧
    (match parseWork (B "go.work") (B "go 1.21\nuse ./a\n") none with
     | .ok f => Edit.workStartOKb f && (Edit.sessionWork (B "go 1.21\nuse ./a\n") [.addUse (B "./b") []]).isSome
     | .error _ => false) = true := by
  constructor <;> (decide_bytes)

/-! ### Untouched lines survive (Proofs/EditMoreKeep*.lean)

    `Edit.viewX stmts` = the live lines of the tree with their FULL tokens (block verb in front), their whole-line
    comments (`Before`) and their end-of-line comments (`Suffix`).  `Edit.Targets op toks`: the tokens are those of the
    directive the operation names — `require <path> _` for AddRequire/DropRequire of that path, the `go` line for
    AddGoStmt/DropGoStmt, `replace <old path> …` for AddReplace/DropReplace, every `require` line for the two bulk
    setters (which rewrite all requirements), …; Add operations that only append name no line.  `Edit.Sorts op`: the
    operation ends with SortBlocks, whose documented de-duplication removes the lines in `Edit.kill3` (later duplicate
    excludes, earlier replacements of the same module, later duplicate tools). -/

/-- **one operation leaves every line it does not name as it is.**  From a state satisfying the tree invariant
    (Props/C15), for EVERY go.mod operation with valid arguments: a live line whose tokens the operation does not name
    and which is not removed as a duplicate by SortBlocks is still in the tree afterwards, with the same line id, the
    same full tokens, and `Before` / `Suffix` comments containing the old ones as sublists. -/
theorem op_untouched_line_survives (e e' : Edit.EFile) (op : Edit.Op) (hv : Edit.ValidArgsAll e op) (hi : Edit.Inv e)
    (h : Edit.applyMod e op = some (.ok e')) (x : Edit.XLine) (hx : x ∈ Edit.viewX e.f.syn.stmts)
    (hnt : ¬Edit.Targets op x.toks) (hk : Edit.Sorts op = true → x.id ∉ Edit.kill3 e.f) :
    ∃ x' ∈ Edit.viewX e'.f.syn.stmts, x'.id = x.id ∧ x'.toks = x.toks ∧ x.before.Sublist x'.before ∧
      x.suffix.Sublist x'.suffix := by
  obtain ⟨y, hy, r⟩ := Edit.applyMod_untouchedS e e' op hv hi h x hx hnt hk
  exact ⟨y, hy, r.le⟩

/-- **untouched_lines_survive.**  In a session of go.mod operations (bulk setters included) with valid arguments
    (`Edit.RunValid`) from a state satisfying the tree invariant — e.g. `Edit.load f` for any strictly parsed well-formed
    `f`: `Props.C15.parseStrict_inv` — a directive line that no operation of the session names and that no SortBlocks
    removes as a duplicate (`Edit.Spared`, a condition on the line's tokens and id along the run) is still in the tree after
    the final Cleanup: same line id, same full tokens; its `Before` and `Suffix` comments are sublists of the final ones
    (Cleanup may add the comments of a collapsed one-line block).  go.work sessions: `untouched_lines_survive_work` below. -/
theorem untouched_lines_survive (e e' : Edit.EFile) (ops : List Edit.Op) (res : List Bool) (hi : Edit.Inv e)
    (hv : Edit.RunValid e ops) (h : Edit.runOps Edit.applyMod e ops [] 0 = .done e' res)
    (x : Edit.XLine) (hx : x ∈ Edit.viewX e.f.syn.stmts) (hsp : Edit.Spared x.toks x.id e ops) :
    ∃ x' ∈ Edit.viewX (Edit.cleanup e').f.syn.stmts, x'.id = x.id ∧ x'.toks = x.toks ∧ x.before.Sublist x'.before ∧
      x.suffix.Sublist x'.suffix :=
  Edit.untouched_lines_survive e e' ops res hi hv h x hx hsp

/-- non-vacuity of `untouched_lines_survive` / `op_untouched_line_survives`: in a parsed file with comments, the `exclude`
    line (with its `Before` and `Suffix` comments) is spared by a session that edits requirements, the go line and tools
    (`Edit.sparedB` is a sound Boolean test of `Spared`, `Edit.runValidB` of `RunValid`, `Edit.invB` of `Inv`), and it is
    found unchanged in the final tree -/
example :
    (match parseStrict (B "go.mod") (B "module m\n\ngo 1.20\n\nrequire (\n\ta v1.0.0 // indirect\n\tb v1.0.0\n)\n\n// why\nexclude x v1.0.0 // note\n") none with
     | .ok f =>
       let e := Edit.load f
       let ops : List Edit.Op := [.addRequire (B "a") (B "v1.1.0"), .addGo (B "1.21"), .cleanup,
         .setRequireSeparateIndirect [⟨B "a", B "v1.2.0", false⟩, ⟨B "c", B "v1.0.0", true⟩] false, .addTool (B "t")]
       Edit.invB e && Edit.runValidB e ops &&
       (Edit.viewX e.f.syn.stmts).any (fun x => x.toks == [B "exclude", B "x", B "v1.0.0"] && x.before.length == 1 &&
         x.suffix.length == 1 && Edit.sparedB x.toks x.id e ops &&
         (match Edit.runOps Edit.applyMod e ops [] 0 with
          | .done e' _ => (Edit.viewX (Edit.cleanup e').f.syn.stmts).any (fun y => y.id == x.id && y.toks == x.toks &&
              y.before == x.before && y.suffix == x.suffix)
          | _ => false))
     | .error _ => false) = true := by decide_bytes

/-! ### Untouched lines survive, go.work (Proofs/EditWorkKeep{A,B}.lean)

    `Edit.TargetsW op toks`: the tokens are those of the directive the go.work operation names — the `go` / `toolchain`
    line for AddGoStmt / DropGoStmt / AddToolchainStmt / DropToolchainStmt, `godebug <key>=…`, `use <dir>` for AddUse /
    DropUse of that directory, every `use` line for SetUse (which may remove any of them), `replace <old path> …` for
    AddReplace / DropReplace.  `Edit.SortsW op`: the operation ends with WorkFile.SortBlocks (SortBlocks itself, SetUse),
    whose de-duplication removes the lines of earlier replacements of the same module (`Edit.killEarlier`).
    `Edit.ValidArgsWAll e op`: non-empty keys; SetUse with pairwise distinct non-empty directories on live `use` entries. -/

/-- **one go.work operation leaves every line it does not name as it is** (go.work counterpart of
    `op_untouched_line_survives`; `workAddGoStmt` / `workAddToolchainStmt` insert their line by index, SetUse included) -/
theorem op_untouched_line_survives_work (e e' : Edit.EWork) (op : Edit.Op) (hv : Edit.ValidArgsWAll e op) (hi : Edit.InvW e)
    (h : Edit.applyWork e op = some (.ok e')) (x : Edit.XLine) (hx : x ∈ Edit.viewX e.f.syn.stmts)
    (hnt : ¬Edit.TargetsW op x.toks) (hk : Edit.SortsW op = true → x.id ∉ Edit.killEarlier e.f.replace) :
    ∃ x' ∈ Edit.viewX e'.f.syn.stmts, x'.id = x.id ∧ x'.toks = x.toks ∧ x.before.Sublist x'.before ∧
      x.suffix.Sublist x'.suffix :=
  Edit.applyWork_untouched e e' op hv hi h x hx hnt hk

/-- **untouched_lines_survive, go.work.**  In a session of go.work operations (SetUse included) with valid arguments
    (`Edit.RunValidW`) from a state satisfying the go.work tree invariant — e.g. `Edit.loadWork f` for any file accepted by
    `parseWork` with non-empty keys: `Props.C15.parseWork_inv` — a directive line that no operation of the session names and
    that no SortBlocks removes as a duplicate replacement (`Edit.SparedW`) is still in the tree after the final Cleanup: same
    line id, same full tokens; its `Before` and `Suffix` comments are sublists of the final ones. -/
theorem untouched_lines_survive_work (e e' : Edit.EWork) (ops : List Edit.Op) (res : List Bool) (hi : Edit.InvW e)
    (hv : Edit.RunValidW e ops) (h : Edit.runOps Edit.applyWork e ops [] 0 = .done e' res)
    (x : Edit.XLine) (hx : x ∈ Edit.viewX e.f.syn.stmts) (hsp : Edit.SparedW x.toks x.id e ops) :
    ∃ x' ∈ Edit.viewX (Edit.workCleanup e').f.syn.stmts, x'.id = x.id ∧ x'.toks = x.toks ∧ x.before.Sublist x'.before ∧
      x.suffix.Sublist x'.suffix :=
  Edit.untouched_lines_survive_work e e' ops res hi hv h x hx hsp

/-- non-vacuity of `untouched_lines_survive_work` / `op_untouched_line_survives_work`: in a parsed go.work with comments, the
    `replace` line (with its `Before` and `Suffix` comments) is spared by a session that edits uses (AddUse, SetUse after a
    Cleanup), the go and toolchain lines and a godebug, and sorts (`Edit.invWB`, `Edit.runValidWB`, `Edit.sparedWB` are sound
    Boolean tests of `InvW`, `RunValidW`, `SparedW`); it is found unchanged in the final tree -/
example :
    (match parseWork (B "go.work") (B "go 1.21\n\nuse (\n\t./a\n\t./b\n)\n\n// why\nreplace example.com/x => ../x // note\n\ngodebug k=v\n") none with
     | .ok f =>
       let e := Edit.loadWork f
       let ops : List Edit.Op := [.addUse (B "./c") [], .addGo (B "1.22"), .addToolchain (B "go1.22.0"), .dropGodebug (B "k"), .cleanup,
         .setUse [(B "./b", []), (B "./d", [])] true, .sortBlocks]
       Edit.invWB e && Edit.runValidWB e ops &&
       (Edit.viewX e.f.syn.stmts).any (fun x => x.toks == [B "replace", B "example.com/x", B "=>", B "../x"] && x.before.length == 1 &&
         x.suffix.length == 1 && Edit.sparedWB x.toks x.id e ops &&
         (match Edit.runOps Edit.applyWork e ops [] 0 with
          | .done e' res => res.all id && (Edit.viewX (Edit.workCleanup e').f.syn.stmts).any (fun y => y.id == x.id && y.toks == x.toks &&
              y.before == x.before && y.suffix == x.suffix)
          | _ => false))
     | .error _ => false) = true := by decide_bytes

/-! ### `refines_abs`, the re-parse half (Proofs/EditReparse*.lean; C15 `typed_eq_reparse_partial2`) -/

/-- **refines_abs, re-parse half (partial).**  For every go.mod text accepted by the strict parser whose directives have
    non-empty keys and readable values (`Edit.AbsOK`: canonical versions fitting the path's major version, readable paths — C02's
    "well-formed"), without block suffix comment and with settable markers (the two recorded findings excluded by C15's
    `typed_eq_tree_partial4_static`), and every statically valid session of go.mod operations with readable arguments
    (`Edit.ArgsOK`): if the session has an outcome, the strict re-parse of the formatted file succeeds and holds exactly what
    the step table predicts from the starting file — scalars equal, every directive list equal as a multiset (`Edit.AbsPerm`;
    the ORDER of the re-parsed lists is the order of the lines in the file, which SortBlocks changes, so list equality would
    be false), retractions compared by interval (rationales: the recorded `C15_violated_retract_*` findings) — and each
    operation succeeds exactly when the table says so.
    Assumed of the final tree (decidable, `Edit.finalTreeB`): blocks carry block verbs, comments stand where the parser puts
    them (see Props/C15.lean, section "The typed lists equal the strict re-parse"). -/
theorem refines_abs_reparse_partial (file : Bytes) (ops : List Edit.Op) (o : Edit.Outcome) (f : File)
    (hf : parseStrict (B "go.mod") file none = .ok f) (hk : Edit.WellFormedKeys f) (hs : Edit.NoBlockSuffix f.syn)
    (hm : Edit.MarkersSettable f.syn.stmts) (hstart : Edit.AbsOK (Edit.absOf f)) (hv : Edit.StaticValid false ops)
    (hmod : ∀ op ∈ ops, Edit.IsModOp op) (hargs : ∀ op ∈ ops, Edit.ArgsOK op.toSpec)
    (h : Edit.sessionMod file ops = some o) (htree : Edit.finalTreeB o.tree = true) :
    ∃ r, o.reparsed = some r ∧ Edit.AbsPerm r (run stdValidity o.start (ops.map Edit.Op.toSpec)) ∧
      o.res = runOk stdValidity o.start (ops.map Edit.Op.toSpec) := by
  obtain ⟨r, hr, hp, hrel⟩ := Edit.typed_eq_reparse_session2 file ops o f hf hk hs hm hstart hv hmod hargs h htree
  have h3 := (sessionMod_refines_wellformed file ops o f hf hk (Edit.StaticValid.validArgs ops false hv hmod) h).2.2
  exact ⟨r, hr, hp.trans (Edit.absPerm_of_rel hrel), h3⟩

/-- non-vacuity: start conditions, static validity and readable arguments hold for a session that touches every list; the
    outcome passes `finalTreeB`, and the re-parse is the step table's prediction up to the order of the exclude list -/
example :
    let src := B "module example.com/m\n\ngo 1.21\n\nrequire (\n\texample.com/a v1.0.0 // indirect\n\t// keep\n\texample.com/b v1.2.3\n)\n\nexclude (\n\texample.com/z v1.0.0\n\texample.com/y v1.0.0\n)\n"
    let ops : List Edit.Op := [.addRequire (B "example.com/a") (B "v1.5.0"), .addExclude (B "example.com/z") (B "v1.1.0"),
      .dropRequire (B "example.com/b"), .addTool (B "example.com/t"), .addReplace (B "example.com/a") [] (B "../a") [],
      .cleanup, .setRequire [⟨B "example.com/a", B "v1.6.0", false⟩, ⟨B "example.com/c", B "v0.1.0", true⟩] false, .cleanup]
    (match parseStrict (B "go.mod") src none with
     | .ok f => Edit.startOKb f && f.syn.stmts.all (fun x => match x with
         | .lineBlock b => b.comments.suffix.isEmpty
         | _ => true) && decide (Edit.MarkersSettable f.syn.stmts) && Edit.absOKB (Edit.absOf f)
     | .error _ => false) &&
    Edit.staticValidB false ops && ops.all (fun op => Edit.argsOKB op.toSpec) &&
    Edit.outcomeIs (Edit.sessionMod src ops) (fun o => Edit.finalTreeB o.tree &&
      o.reparsed != some (run stdValidity o.start (ops.map Edit.Op.toSpec)) &&
      (o.reparsed.map (·.require)) == some (run stdValidity o.start (ops.map Edit.Op.toSpec)).require) = true := by
  intro src
  rw [B_lit src]
  clear src
  decide +kernel

/-- **refines_abs, the re-parse half (partial 2).**  As `refines_abs_reparse_partial`, with the comment placement
    `Edit.comShapeB o.tree` as the ONLY hypothesis on the final tree: the block-verb half of `Edit.finalTreeB` (no `go (` /
    `toolchain (` block) is an invariant of statically valid sessions from a strictly parsed file
    (C15 `goodBlocks_invariant_session`, Proofs/EditGoodBlocks{A,B,C}.lean), so it is derived, not assumed.
    What keeps the name `_partial`: `comShapeB` (whole-line comments are `//` texts, a blank-line placeholder only inside a
    block, not first, not doubled; at most one end-of-line comment per node; no header comment) is NOT an invariant —
    SortBlocks / Cleanup may move a blank-line placeholder to the top of a block (`C15_violated_retract_blank_line_dropped`);
    removing it needs C02's rendering lemma for trees with misplaced placeholders. -/
theorem refines_abs_reparse_partial2 (file : Bytes) (ops : List Edit.Op) (o : Edit.Outcome) (f : File)
    (hf : parseStrict (B "go.mod") file none = .ok f) (hk : Edit.WellFormedKeys f) (hs : Edit.NoBlockSuffix f.syn)
    (hm : Edit.MarkersSettable f.syn.stmts) (hstart : Edit.AbsOK (Edit.absOf f)) (hv : Edit.StaticValid false ops)
    (hmod : ∀ op ∈ ops, Edit.IsModOp op) (hargs : ∀ op ∈ ops, Edit.ArgsOK op.toSpec)
    (h : Edit.sessionMod file ops = some o) (hcom : Edit.comShapeB o.tree = true) :
    ∃ r, o.reparsed = some r ∧ Edit.AbsPerm r (run stdValidity o.start (ops.map Edit.Op.toSpec)) ∧
      o.res = runOk stdValidity o.start (ops.map Edit.Op.toSpec) := by
  obtain ⟨r, hr, hp, hrel⟩ := Edit.typed_eq_reparse_session4 file ops o f hf hk hs hm hv h hstart hmod hargs hcom
  have h3 := (sessionMod_refines_wellformed file ops o f hf hk (Edit.StaticValid.validArgs ops false hv hmod) h).2.2
  exact ⟨r, hr, hp.trans (Edit.absPerm_of_rel hrel), h3⟩

/-- non-vacuity: a session with DropGoStmt + AddGoStmt (the dead `go` line is still in the tree when the new one is added —
    the case in which a `go (` block could arise, and does not), both bulk setters and SortBlocks; the start conditions, static
    validity and readable arguments hold, the outcome passes `comShapeB`, and the re-parsed requirements are the step table's -/
example :
    let src := B "module example.com/m\n\ngo 1.21\n\nrequire (\n\texample.com/a v1.0.0 // indirect\n\t// keep\n\texample.com/b v1.2.3\n)\n\nexclude (\n\texample.com/z v1.0.0\n\texample.com/y v1.0.0\n)\n"
    let ops : List Edit.Op := [.dropGo, .addGo (B "1.22"), .addRequire (B "example.com/a") (B "v1.5.0"),
      .addExclude (B "example.com/z") (B "v1.1.0"), .sortBlocks,
      .cleanup, .setRequireSeparateIndirect [⟨B "example.com/a", B "v1.6.0", false⟩, ⟨B "example.com/c", B "v0.1.0", true⟩] false,
      .cleanup]
    (match parseStrict (B "go.mod") src none with
     | .ok f => Edit.startOKb f && f.syn.stmts.all (fun x => match x with
         | .lineBlock b => b.comments.suffix.isEmpty
         | _ => true) && decide (Edit.MarkersSettable f.syn.stmts) && Edit.absOKB (Edit.absOf f)
     | .error _ => false) &&
    Edit.staticValidB false ops && ops.all (fun op => Edit.argsOKB op.toSpec) &&
    Edit.outcomeIs (Edit.sessionMod src ops) (fun o => Edit.comShapeB o.tree &&
      (o.reparsed.map (·.require)) == some (run stdValidity o.start (ops.map Edit.Op.toSpec)).require &&
      (o.reparsed.map (·.go)) == some (some (B "1.22"))) = true := by
  intro src
  rw [B_lit src]
  clear src
  decide +kernel

/-- **refines_abs, the re-parse half, go.work (partial).**  For every go.work text accepted by `ParseWork` whose directives
    have non-empty keys and readable values (`Edit.W.AbsOKW`: readable `use` directories and replace paths, valid replace
    versions, go / toolchain / godebug texts that need no quotes — C02's "well-formed"), without block suffix comment, and every
    statically valid session of go.work operations (`Edit.StaticValidW`: SetUse directly after a Cleanup, distinct non-empty
    directories) with readable arguments (`Edit.W.ArgsOKW`): if the session has an outcome (it always runs to completion:
    C15 `nilDeref_unreachable_work`), `ParseWork` of the formatted file succeeds and holds exactly what the step table predicts
    from the starting file — go / toolchain equal, godebug / use / replace equal as multisets (`Edit.W.AbsPermW`) — and each
    operation succeeds exactly when the table says so.  = `sessionWork_refines` composed with C15
    `typed_eq_reparse_work_partial2`.  What keeps the name `_partial`: the comment placement `Edit.comShapeB o.tree` of the
    FINAL tree (not an invariant: see `refines_abs_reparse_partial2`); the block-verb condition is derived. -/
theorem refines_abs_reparse_work_partial (file : Bytes) (ops : List Edit.Op) (o : Edit.Outcome) (f : WorkFile)
    (hf : parseWork (B "go.work") file none = .ok f) (hk : Edit.WorkKeys f) (hs : Edit.NoBlockSuffix f.syn)
    (hstart : Edit.W.AbsOKW (Edit.absOfWork f)) (hv : Edit.StaticValidW false ops)
    (hw : ∀ op ∈ ops, Edit.IsWorkOp op) (hargs : ∀ op ∈ ops, Edit.W.ArgsOKW op.toSpec)
    (h : Edit.sessionWork file ops = some o) (hcom : Edit.comShapeB o.tree = true) :
    ∃ r, o.reparsed = some r ∧ Edit.W.AbsPermW r (run stdValidity o.start (ops.map Edit.Op.toSpec)) ∧
      o.res = runOk stdValidity o.start (ops.map Edit.Op.toSpec) := by
  obtain ⟨r, hr, hp, hrel, hres⟩ := Edit.W.typed_eq_reparse_work_session2 file ops o f hf hk hs hstart hv hw hargs h hcom
  exact ⟨r, hr, hp.trans (Edit.W.absPermW_of_rel hrel), hres⟩

/-- non-vacuity: a parsed go.work with a `use` block; start conditions, static validity, go.work operations and readable
    arguments hold; the outcome passes `comShapeB`, and the re-parsed `use` list is the step table's up to order -/
example :
    let src := B "// c\n\ngo 1.21\n\nuse (\n\t./a\n\t\"./b c\" // note\n)\n\nreplace example.com/a => ../a\n\ngodebug x=y\n"
    let ops : List Edit.Op := [.addUse (B "./d") [], .dropUse (B "./a"), .addGo (B "1.22"), .cleanup,
       .setUse [(B "./z", B "m"), (B "./b c", []), (B "./e", [])] true, .addReplace (B "x.y/z") [] (B "../z") [], .sortBlocks]
    (match parseWork (B "go.work") src none with
     | .ok f => Edit.workStartOKb f && f.syn.stmts.all (fun x => match x with
         | .lineBlock b => b.comments.suffix.isEmpty
         | _ => true) && Edit.W.absOKWB (Edit.absOfWork f)
     | .error _ => false) &&
    Edit.staticValidWB false ops && ops.all Edit.isWorkOpB && ops.all (fun op => Edit.W.argsOKWB op.toSpec) &&
    Edit.outcomeIs (Edit.sessionWork src ops) (fun o => Edit.comShapeB o.tree &&
      (o.reparsed.map (·.use)) == some [B "./b c", B "./e", B "./z"] &&
      (run stdValidity o.start (ops.map Edit.Op.toSpec)).use == [B "./b c", B "./z", B "./e"] &&
      (o.reparsed.map (·.go)) == some (some (B "1.22"))) = true := by
  intro src
  rw [B_lit src]
  clear src
  decide +kernel

end ModVerif.Props.C08
