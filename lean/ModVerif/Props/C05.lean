/-
  C05 — a created module zip always extracts to exactly the files that belong in it.
  Property theorems only; helper lemmas live in ModVerif/Proofs/Zip*.lean.  All theorems hold for every
  environment `E` (CheckFilePath, strToFold, module check are parameters of the model).
-/
import ModVerif.Spec.ZipSpec
import ModVerif.Proofs.ZipCreate
import ModVerif.Proofs.ZipNameOK
import ModVerif.Proofs.ZipSubmodule
import ModVerif.Proofs.ZipACreate
import ModVerif.Proofs.BytesLit
namespace ModVerif.Props.C05
open ModVerif ModVerif.PathClean ModVerif.Zip ModVerif.ZipSpec ModVerif.Proofs.Zip

/-- Given a valid module path with a matching canonical version and files whose content has the size
    they report, creation succeeds exactly when the file check reports no error — PARTIAL: under the
    extra hypothesis that every valid file's entry name `<module>@<version>/<path>` is at most 65535
    bytes long (the archive/zip limit).  Without it the statement is false, see
    `C05_violated_long_name`. -/
theorem create_ok_iff_partial (E : Env) (mpath mvers : Bytes) (files : List FileInfo)
    (hm : E.modOK mpath mvers = true) (hh : HonestFiles files)
    (hlen : ∀ p ∈ (checkFilesV E files).valid, (zipPrefix mpath mvers ++ p).length ≤ 65535) :
    (∃ es, create E mpath mvers files = .ok es) ↔ (checkFilesV E files).err = none := by
  constructor
  · rintro ⟨es, h⟩; exact (create_ok E mpath mvers files es h).2.1
  · intro herr
    obtain ⟨hv1, hv2⟩ := checkFilesSt_validFiles E (goVers files) files
    refine ⟨(checkFilesSt E files (goVers files)).validFiles.map (entryOf (zipPrefix mpath mvers)), ?_⟩
    rw [create_eq]
    simp only [hm, Bool.not_true, Bool.false_eq_true, if_false]
    have herr' : (checkFilesSt E files (goVers files)).cf.err = none := herr
    rw [herr']
    apply addFiles_of_addable
    intro f hf
    refine ⟨?_, ?_⟩
    · apply hlen
      show f.path ∈ (checkFilesSt E files (goVers files)).cf.valid
      rw [hv2]; exact List.mem_map_of_mem (f := fun x : FileInfo => x.path) hf
    · have := hh f (hv1 f hf).1 (hv1 f hf).2
      omega

/-- When creation succeeds, the module was accepted, the file check reported no error, and the
    archive holds exactly the files reported as valid, in that order, each under the module prefix
    and with the content the file yields (so: the same files with the same content, byte for byte). -/
theorem create_entries (E : Env) (mpath mvers : Bytes) (files : List FileInfo) (es : List Entry)
    (h : create E mpath mvers files = .ok es) :
    E.modOK mpath mvers = true ∧ (checkFilesV E files).err = none ∧
    es.map (·.name) = (checkFilesV E files).valid.map (zipPrefix mpath mvers ++ ·) ∧
    (∀ e ∈ es, e.declSize = e.content.length) ∧
    (∀ e ∈ es, ∃ f ∈ files, f.mode = .regular ∧ e.name = zipPrefix mpath mvers ++ f.path ∧ e.content = f.content) := by
  obtain ⟨h1, h2, h3, _⟩ := create_ok E mpath mvers files es h
  obtain ⟨hv1, hv2⟩ := checkFilesSt_validFiles E (goVers files) files
  refine ⟨h1, h2, ?_, ?_, ?_⟩
  · show _ = (checkFilesSt E files (goVers files)).cf.valid.map _
    rw [h3, hv2]; simp [entryOf, Function.comp_def]
  · intro e he; rw [h3] at he
    obtain ⟨f, _, rfl⟩ := List.mem_map.mp he; rfl
  · intro e he; rw [h3] at he
    obtain ⟨f, hf, rfl⟩ := List.mem_map.mp he
    exact ⟨f, (hv1 f hf).1, (hv1 f hf).2, rfl, rfl⟩


/-- Every produced archive obeys the documented restrictions: each entry name is the module prefix
    followed by a clean, relative path that `CheckFilePath` accepts; an entry whose last path element is
    `go.mod` in any case is the root `go.mod` (go.mod only at the root, in lower case); `go.mod` and
    `LICENSE` respect their size limits; and no two
    entries have the same case-folded path (`toFold a = toFold b ↔ EqualFold a b` is the contract of
    `strToFold`). -/
theorem create_restrictions (E : Env) (mpath mvers : Bytes) (files : List FileInfo) (es : List Entry)
    (h : create E mpath mvers files = .ok es) :
    (∀ e ∈ es, ∃ rel, e.name = zipPrefix mpath mvers ++ rel ∧
        pathClean rel = rel ∧ isAbs rel = false ∧ E.cfp rel = true ∧
        (equalFoldGoMod (lastElem rel) = true → rel = goModName) ∧
        (rel = goModName → e.content.length ≤ MaxGoMod) ∧
        (rel = licenseName → e.content.length ≤ MaxLICENSE)) ∧
    es.Pairwise (fun a b => E.toFold (relName (zipPrefix mpath mvers) a) ≠ E.toFold (relName (zipPrefix mpath mvers) b)) := by
  obtain ⟨_, _, h3, h4⟩ := create_ok E mpath mvers files es h
  have hinv := checkFilesSt_validInv E (goVers files) files
  obtain ⟨hv1, _⟩ := checkFilesSt_validFiles E (goVers files) files
  refine ⟨?_, ?_⟩
  · intro e he
    rw [h3] at he
    obtain ⟨f, hf, rfl⟩ := List.mem_map.mp he
    have ok := hinv.nameOK f hf
    have hadd := (h4 f hf).2
    refine ⟨f.path, rfl, ok.clean, ok.notAbs, ok.cfp,
      valid_goMod_is_root E (goVers files) files f (hv1 f hf).1 ok, ?_, ?_⟩
    · intro hp; have := ok.goModSize hp
      show f.content.length ≤ MaxGoMod
      omega
    · intro hp; have := ok.licenseSize hp
      show f.content.length ≤ MaxLICENSE
      omega
  · rw [h3, List.pairwise_map]
    refine hinv.foldDistinct.imp ?_
    intro a b hab
    simpa [relName, entryOf] using hab


/-! ### non-vacuity: a small module is created, and its entries are as the theorems say -/

/-- a tiny environment for examples: every non-empty path is acceptable, folding is ASCII lower-casing -/
def exEnv : Env := { cfp := fun p => !p.isEmpty, toFold := lowerAscii, modOK := fun _ _ => true }

def exFiles : List FileInfo :=
  [⟨B "go.mod", .regular, 2, B "hi", false⟩, ⟨B "a/b.go", .regular, 1, B "x", false⟩,
   ⟨B "sub/go.mod", .regular, 0, [], false⟩, ⟨B "sub/c.go", .regular, 1, B "y", false⟩,
   ⟨B "vendor/p/q.go", .regular, 1, B "z", false⟩, ⟨B "link", .symlink, 0, [], false⟩]

example : (create exEnv (B "m") (B "v1") exFiles).toOption =
    some [⟨B "m@v1/go.mod", 2, B "hi"⟩, ⟨B "m@v1/a/b.go", 1, B "x"⟩] := by unfold exFiles; decide_bytes

example : (checkFilesV exEnv exFiles).err = none ∧ HonestFiles exFiles := by
  refine ⟨by decide +kernel, ?_⟩
  intro f hf _
  simp [exFiles] at hf
  rcases hf with rfl | rfl | rfl | rfl | rfl | rfl <;> decide +kernel


/-! ### the produced archive passes the zip check and extracts to exactly the valid files -/

/-- Whenever creating a module zip from a list of files succeeds, the archive passes the zip check with
    no invalid entries and no size error (`zipSize` = size of the archive file, within the limit), and
    the check's valid list is the list of entry names. -/
theorem create_checkZip (E : Env) (mpath mvers : Bytes) (files : List FileInfo) (es : List Entry) (zipSize : Nat)
    (h : create E mpath mvers files = .ok es) (hz : zipSize ≤ MaxZipFile) :
    ∃ cf, checkZip E mpath mvers zipSize es = .ok cf ∧ cf.invalid = [] ∧ cf.sizeError = false ∧
      cf.valid = es.map (·.name) ∧ cf.err = none :=
  Proofs.ZipA.create_checkZip E mpath mvers files es zipSize h hz

/-- … and it extracts without error into a missing or empty target directory; the effects are the
    creation of the target and then, for every entry in order, `MkdirAll(Dir(dst))` and the exclusive
    creation of `dst = Join(dir, path)` with the entry's complete content; the created files are these
    destinations, pairwise distinct — with `create_entries`: exactly the files reported as valid by the
    file check, byte for byte, and nothing else.  Hypotheses as for the C12 theorem `unzip_ok_iff_partial`
    it instantiates: `CheckFilePath` rejects empty, `.` and `..` elements, and the target directory string
    is empty, clean, or written without `..` (for `dir = x/y/../..` extraction of a file `x` fails on the
    real implementation, too). -/
theorem create_unzip (E : Env) (hE : CfpSound E.cfp) (dir : Bytes)
    (hdir : dir = [] ∨ pathClean dir = dir ∨ ([46, 46] : Bytes) ∉ splitOn 47 dir) (t : Target)
    (ht : t = .missing ∨ t = .emptyDir) (mpath mvers : Bytes) (files : List FileInfo) (es : List Entry)
    (zipSize : Nat) (h : create E mpath mvers files = .ok es) (hz : zipSize ≤ MaxZipFile) :
    (unzip E dir t mpath mvers zipSize es).err = none ∧
    (unzip E dir t mpath mvers zipSize es).effects =
      .mkdirAll dir :: es.flatMap (fun e =>
        [.mkdirAll (pathDir (dstOf dir (zipPrefix mpath mvers) e)),
         .createExcl (dstOf dir (zipPrefix mpath mvers) e) (some e.content)]) ∧
    createdFiles (unzip E dir t mpath mvers zipSize es).effects = es.map (dstOf dir (zipPrefix mpath mvers)) ∧
    (es.map (dstOf dir (zipPrefix mpath mvers))).Nodup :=
  Proofs.ZipA.create_unzip E hE dir hdir t ht mpath mvers files es zipSize h hz

/-- **Known finding (entry names longer than 65535 bytes).**  For the module `example.com/m@v1.0.0` and
    the single regular file whose path is 65515 × `a` (content `x`, honest size): the module is accepted,
    the file check reports no error — and creation fails, because the entry name
    `example.com/m@v1.0.0/aaa…` is 65536 bytes long and archive/zip refuses it.  So `create_ok_iff_partial`
    without its hypothesis on the name length is false.  (Structured proof, `create_nameTooLong`: nothing
    is evaluated over the 65 kB path.) -/
theorem C05_violated_long_name :
    exEnv.modOK (B "example.com/m") (B "v1.0.0") = true ∧
    HonestFiles [⟨List.replicate 65515 97, .regular, 1, [120], false⟩] ∧
    (checkFilesV exEnv [⟨List.replicate 65515 97, .regular, 1, [120], false⟩]).err = none ∧
    create exEnv (B "example.com/m") (B "v1.0.0") [⟨List.replicate 65515 97, .regular, 1, [120], false⟩] =
      .error .nameTooLong := by
  have hns : (47 : UInt8) ∉ List.replicate 65515 (97 : UInt8) := by
    intro h; have := (List.mem_replicate.mp h).2; exact absurd this (by decide)
  have hlen : 20 < (List.replicate 65515 (97 : UInt8)).length := by rw [List.length_replicate]; decide
  have hv : isPrefixOfB vendorSlash (List.replicate 65515 (97 : UInt8)) = false := by
    show isPrefixOfB vendorSlash (List.replicate (65514 + 1) (97 : UInt8)) = false
    rw [List.replicate_succ]; rfl
  have hcfp : exEnv.cfp (List.replicate 65515 (97 : UInt8)) = true := by
    show (!(List.replicate (65514 + 1) (97 : UInt8)).isEmpty) = true
    rw [List.replicate_succ]; rfl
  have h1 : (B "example.com/m").length = 13 := by decide +kernel
  have h2 : (B "v1.0.0").length = 6 := by decide +kernel
  have hlong : (zipPrefix (B "example.com/m") (B "v1.0.0") ++ List.replicate 65515 (97 : UInt8)).length > 65535 := by
    simp only [zipPrefix, List.length_append, List.length_replicate, h1, h2, List.length_cons, List.length_nil]
    decide
  obtain ⟨a1, _, a3, a4⟩ := Proofs.ZipA.create_nameTooLong exEnv (B "example.com/m") (B "v1.0.0")
    (List.replicate 65515 97) [120] rfl hns hlen hv hcfp (by unfold MaxZipFile; simp) hlong
  exact ⟨rfl, a3, a1, a4⟩

/-! ### non-vacuity of the composition theorems -/

/-- an environment whose `CheckFilePath` rejects empty, `.` and `..` elements -/
def exEnvSound : Env :=
  { cfp := fun p => !p.isEmpty && (splitOn 47 p).all (fun c => c != [] && c != [46] && c != [46, 46]),
    toFold := lowerAscii, modOK := fun _ _ => true }

theorem exEnvSound_cfpSound : CfpSound exEnvSound.cfp := Proofs.ZipB.cfpSound_elemRule

/-- the hypotheses of `create_checkZip` / `create_unzip` hold on the example, and the conclusion is what
    evaluation gives: two files, created below the clean target `t` -/
example : ∃ es, create exEnvSound (B "m") (B "v1") exFiles = .ok es ∧
    (unzip exEnvSound (B "t") .missing (B "m") (B "v1") 100 es).err = none ∧
    createdFiles (unzip exEnvSound (B "t") .missing (B "m") (B "v1") 100 es).effects = [B "t/go.mod", B "t/a/b.go"] := by
  have hc : (create exEnvSound (B "m") (B "v1") exFiles).toOption =
      some [⟨B "m@v1/go.mod", 2, B "hi"⟩, ⟨B "m@v1/a/b.go", 1, B "x"⟩] := by unfold exFiles; decide_bytes
  cases hcr : create exEnvSound (B "m") (B "v1") exFiles with
  | error e => rw [hcr] at hc; cases hc
  | ok es =>
    rw [hcr] at hc
    have hes : es = [⟨B "m@v1/go.mod", 2, B "hi"⟩, ⟨B "m@v1/a/b.go", 1, B "x"⟩] := by
      simpa [Except.toOption] using hc
    obtain ⟨u1, _, u3, _⟩ := create_unzip exEnvSound exEnvSound_cfpSound (B "t") (Or.inr (Or.inl (by decide +kernel)))
      .missing (Or.inl rfl) (B "m") (B "v1") exFiles es 100 hcr (by decide)
    refine ⟨es, rfl, u1, ?_⟩
    rw [u3, hes]
    decide +kernel

end ModVerif.Props.C05
