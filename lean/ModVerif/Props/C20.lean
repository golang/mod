/-
  C20 — Parsing is total, positioned, and lax mode accepts everything strict mode does.
  Property theorems only; helper lemmas live in ModVerif/Proofs/Modfile*.lean.
  Statements not yet proved are in lean/PENDING.md.
-/
import ModVerif.Model.Modfile.Work
import ModVerif.Proofs.ModfileC20ModFinal
import ModVerif.Proofs.ModfileLex
import ModVerif.Proofs.ModfileParse
import ModVerif.Proofs.ModfileC20Rule
import ModVerif.Proofs.ModfilePos
import ModVerif.Proofs.ModfileC20Tree
import ModVerif.Proofs.ModfileC20Stmts
import ModVerif.Proofs.ModfileC20Lax
import ModVerif.Proofs.ModfileC20Comment
import ModVerif.Proofs.ModfileC20End
import ModVerif.Proofs.ModfileC20AppendVal
import ModVerif.Proofs.BytesLit
namespace ModVerif.Props.C20
open ModVerif ModVerif.Modfile

/-! ### total: a result or an error list, never anything else -/

/-- The syntax-only parser returns a tree or one positioned error (the model is a total function, so
    "never panics, never hangs" is by construction: all recursion is structural on explicit fuel). -/
theorem parse_total (name data : Bytes) :
    (∃ t, parse name data = .ok t) ∨ (∃ e, parse name data = .error e) := by
  cases h : parse name data with
  | ok t => exact Or.inl ⟨t, rfl⟩
  | error e => exact Or.inr ⟨e, rfl⟩

/-- Parse / ParseLax return a file or a NON-EMPTY error list. -/
theorem parseToFile_total (name data : Bytes) (fix : Option Fixer) (strict : Bool) :
    (∃ f, parseToFile name data fix strict = .ok f) ∨
    (∃ es, parseToFile name data fix strict = .error es ∧ es ≠ []) := by
  unfold parseToFile
  split
  · exact Or.inr ⟨_, rfl, by simp⟩
  · exact Proofs.ModfileC20.finish_total _ _

/-- ParseWork returns a file or a NON-EMPTY error list. -/
theorem parseWork_total (name data : Bytes) (fix : Option Fixer) :
    (∃ f, parseWork name data fix = .ok f) ∨
    (∃ es, parseWork name data fix = .error es ∧ es ≠ []) := by
  unfold parseWork
  split
  · exact Or.inr ⟨_, rfl, by simp⟩
  · exact Proofs.ModfileC20.finish_total _ _

/-! ### no internal error -/

/-- No input makes the syntax-only parser report an internal error: "internal lexer error: readRune at
    EOF", "internal parse error: parseLine at end of line" and the model's out-of-fuel marker (the
    counterpart of a hang) are unreachable, for every byte string. -/
theorem parse_no_internal_error (name data : Bytes) (e : SynErr) (h : parse name data = .error e) :
    ∀ t, e.kind ≠ .internal t :=
  Proofs.ModfileParse.parse_noInternal name data e h

/-- The lexer alone: whatever state it is called in, `readToken` reports no internal error, never
    reads past the end of the input, and every token other than EOF consumes at least one byte. -/
theorem readToken_no_internal_error (i : Input) :
    (∃ i', readToken i = .ok i' ∧ i'.remaining.length ≤ i.remaining.length ∧
        (i'.token.kind ≠ .eof → i'.remaining.length < i.remaining.length)) ∨
    (∃ e, readToken i = .error e ∧ ∀ t, e.kind ≠ .internal t) := by
  rcases Proofs.ModfileLex.readToken_spec i with ⟨i', h, h1, h2, _⟩ | ⟨e, h, hn⟩
  · exact Or.inl ⟨i', h, h1, h2⟩
  · exact Or.inr ⟨e, h, hn⟩

/-- When the syntax layer fails, Parse, ParseLax (any fixer) report exactly that one positioned error,
    and it is not an internal error. -/
theorem parseToFile_syntax_error (name data : Bytes) (fix : Option Fixer) (strict : Bool) (e : SynErr)
    (h : parse name data = .error e) :
    parseToFile name data fix strict = .error [⟨e.pos, .syn e.kind⟩] ∧ ∀ t, e.kind ≠ .internal t := by
  refine ⟨?_, parse_no_internal_error name data e h⟩
  unfold parseToFile
  simp [h]

/-- The directive layer never reports an internal error either (`directive_layer_no_internal_error`):
    whatever Parse / ParseLax return as an error list, no entry is "internal lexer error", "internal parse
    error" or the model's out-of-fuel marker — when the syntax layer succeeds no entry has a syntax-layer
    kind at all (`Proofs.ModfileC20.addStmts_errs`, `fixRetract_errs`: every error of `File.add`,
    `parseToFile` and `fixRetract` is created with a directive-layer kind). -/
theorem directive_layer_no_internal_error (name data : Bytes) (fix : Option Fixer) (strict : Bool)
    (es : List RuleErr) (h : parseToFile name data fix strict = .error es) :
    ∀ e ∈ es, ∀ t, e.kind ≠ .syn (.internal t) :=
  (Proofs.ModfileC20.parseToFile_errors name data fix strict es h).2

/-- The same for ParseWork. -/
theorem directive_layer_no_internal_error_work (name data : Bytes) (fix : Option Fixer)
    (es : List RuleErr) (h : parseWork name data fix = .error es) :
    ∀ e ∈ es, ∀ t, e.kind ≠ .syn (.internal t) :=
  (Proofs.ModfileC20.parseWork_errors name data fix es h).2

/-- Non-vacuity: a file with directive-layer errors (two of them) in strict mode, for go.mod and go.work. -/
example :
    (match parseToFile (B "go.mod") (B "module a\nfrobnicate x\ngo 1\n") none true with
     | .error es => decide (es.length = 2)
     | .ok _ => false) = true ∧
    (match parseWork (B "go.work") (B "go 1.21\nfrobnicate x\nuse (\n\ta b\n)\n") none with
     | .error es => decide (es.length = 2)
     | .ok _ => false) = true := by decide_bytes

/-- `File.add`'s if-chain and the regenerated verb list agree: a verb outside `addVerbs`
    (`Tie.modfile_addVerbs_tie`: the case labels of File.add's switch regenerated from rule.go) gets
    "unknown directive" in strict mode; likewise `WorkFile.add` and `workVerbs`. -/
theorem unknown_verb_unknownDirective (st : AddState) (block : Option Comments) (line : Line) (verb : Bytes)
    (args : List Bytes) (fix : Option Fixer) (h : verbIn verb addVerbs = false) :
    File.add st block line verb args fix true = (st.err line.start .unknownDirective, args) :=
  Proofs.ModfileC20.add_unknown_verb st block line verb args fix h

theorem unknown_verb_unknownDirective_work (st : WorkState) (line : Line) (verb : Bytes)
    (args : List Bytes) (fix : Option Fixer) (h : verbIn verb workVerbs = false) :
    WorkFile.add st line verb args fix = (st.err line.start .unknownDirective, args) :=
  Proofs.ModfileC20.workAdd_unknown_verb st line verb args fix h

/-- Non-vacuity: `frobnicate` is in neither list. -/
example : verbIn (B "frobnicate") addVerbs = false ∧ verbIn (B "frobnicate") workVerbs = false := by decide +kernel

/-! ### positions -/

open Proofs.ModfileC20 in
/-- `pos_consistent`.  `PosOK data p` (Proofs/ModfileC20Lex.lean) says that the three components of a
    position agree with the input: `p.byte ≤ data.length`, `p.line = 1 + (number of newline bytes in
    data.take p.byte)`, `p.lineRune = 1 + utf8.RuneCountInString(bytes of data.take p.byte after its last
    newline)`.  `PosAt data p text` adds that the input continues with `text` at `p.byte`.

    For every input: if `parse` fails, the error position is consistent (`PosOK`); if it succeeds, the tree
    satisfies `FileOK data` (Proofs/ModfileC20Tree.lean), i.e. for EVERY position stored in the tree:
    * `Line.start` is `PosAt` the line's first token; `LineBlock.start` is `PosAt` the block's first token;
    * `LParen.pos` is `PosAt` "(" and `RParen.pos` is `PosAt` ")";
    * `CommentBlock.start` is the start of its first comment and `PosAt` that comment's text;
    * every `Comment.start` in every `Comments` of the tree (file, comment blocks, lines, blocks, parens;
      before / suffix / after) is `PosAt` the comment's text (which excludes the line end, LF or CRLF) —
      except the blank-line placeholder `Comment{}` of blocks (empty token, zero position), `CommentOK`;
    * `Line.end` is consistent (`PosOK`) and the input before it ends with the line's last token
      (`EndsAt`).  `EndsAt` allows the LF / CRLF that `endToken` strips from a comment token between the
      token text and the end position; that slack is removed by `pos_consistent_exact` below (no token of
      a line is a comment token). -/
theorem pos_consistent (name data : Bytes) :
    match parse name data with
    | .ok t => FileOK data t
    | .error e => PosOK data e.pos :=
  parse_pos_consistent name data

open Proofs.ModfileC20 in
/-- `pos_consistent_exact` — `pos_consistent` with `Line.end` characterised EXACTLY: for every input, if `parse`
    fails the error position is consistent; if it succeeds the tree satisfies `FileOK data` (every position of the
    tree, see `pos_consistent`) and for EVERY line `l` of the tree, top-level or inside a block
    (`FileSyntax.allLines`), `l.end` is a consistent position and `data.take l.end.byte` ends with the last token of
    the line (`EndsExactly`) — no LF / CRLF in between, none of the three alternatives of `EndsAt` but the first.
    A `(` in the middle of a top-level line does not move `end` (read.go keeps the old value) and is never the last
    token of such a line: the token after it sets `end` before the line can end.
    Proof (Proofs/ModfileC20End.lean): every state the parser can be in satisfies the lexer's classification
    invariant (`reach_G`; `comment_after_token_is_eol_comment` below is its core: after a token of a line a `//`
    is an end-of-line comment, after an end-of-line token it is a whole-line comment; stated on the consumed bytes
    of the current source line decoded in context, so ill-formed UTF-8 and a quoted string with an escaped
    newline are covered), hence no token accumulated by `parseStmtLoop` / `parseLineLoop` has a comment kind
    (every such `lex` call of a run of the parser is a `TokCall`, Proofs/ModfileRunTok.lean: the first token of a
    statement is no end-of-line comment since a statement starts after an end-of-line token) and
    `pos_consistent_tokens`' exact clause applies to each (`TokCall.endx`);
    comment assignment leaves `token` and `end` of every line alone (`assignComments_endKeys`). -/
theorem pos_consistent_exact (name data : Bytes) :
    match parse name data with
    | .ok t => FileOK data t ∧
        ∀ l ∈ t.allLines, ∃ tok, l.token.getLast? = some tok ∧ EndsExactly data l.«end» tok
    | .error e => PosOK data e.pos :=
  parse_pos_consistent_exact name data

/-- Non-vacuity of `pos_consistent_exact`: a go.mod with CRLF line ends, end-of-line comments, a block, a `(` in
    the middle of a top-level line and a quoted string holding an escaped newline parses; the four lines end at
    bytes 8 (`m`, before ` // c\r\n`), 31 (`v1`), 43 (`v2`, before `\r\n`) and 59 (`y`, on line 7 because of the
    newline inside the string), each time right after the last token. -/
example :
    let data := B "module m // c\r\nrequire (\r\n\ta v1 // c\r\n\tb v2\r\n)\r\nx ( \"s\\\n\" y\r\n"
    (match parse (B "go.mod") data with
     | .ok t => decide (t.allLines.map (fun (l : Line) => (l.token.length, l.«end»)) =
                          [(2, ⟨1, 9, 8⟩), (2, ⟨3, 6, 31⟩), (2, ⟨4, 6, 43⟩), (4, ⟨7, 4, 59⟩)]) &&
                t.allLines.all (fun (l : Line) => match l.token.getLast? with
                  | some tok => tok.isSuffixOf (data.take l.«end».byte)
                  | none => false)
     | .error _ => false) = true := by
  conv => zeta
  decide_bytes

open Proofs.ModfileC20 in
/-- `pos_consistent` for the error lists: every error of Parse, ParseLax and ParseWork (syntax error or
    directive-layer error, including those of `fixRetract`) is at a consistent position — for a
    directive-layer error the start of a line or block of the tree (`addStmts_errs`). -/
theorem pos_consistent_errors (name data : Bytes) (fix : Option Fixer) :
    (∀ strict es, parseToFile name data fix strict = .error es → ∀ e ∈ es, PosOK data e.pos) ∧
    (∀ es, parseWork name data fix = .error es → ∀ e ∈ es, PosOK data e.pos) :=
  ⟨fun strict es h => (parseToFile_errors name data fix strict es h).1,
   fun es h => (parseWork_errors name data fix es h).1⟩

open Proofs.ModfileC20 in
/-- `pos_consistent`, token level: in every lexer state the parser can be in (`Reach`), the pending token
    starts at a consistent position where the input continues with its text, ends at a consistent position
    before which the input ends with its text (exactly, for every non-comment token), a punctuation token's
    text is its character, and the lexer's current position (the `Pos` of any error reported next) is
    consistent. -/
theorem pos_consistent_tokens (data : Bytes) (i : Input) (h : Proofs.ModfilePos.Reach data i) :
    PosAt data i.token.pos i.token.text ∧ EndsAt data i.token.endPos i.token.text ∧
    (i.token.kind.isComment = false → i.token.text <:+ data.take i.token.endPos.byte) ∧
    (∀ c, i.token.kind = .punct c → i.token.text = [c]) ∧ PosOK data i.pos :=
  ⟨(reach_facts h).start, (reach_facts h).«end», (reach_facts h).exactEnd, (reach_facts h).punct, reach_cur h⟩

/-- Non-vacuity: the states reached while lexing `module  x // c` are `Reach`able, and the second
    token `x` is reported at line 1, rune 9, byte 8. -/
example :
    let data := B "module  x // c\n"
    (match readToken (newInput data) with
     | .ok i1 => (match readToken i1 with
                  | .ok i2 => decide (i2.token.text = B "x" ∧ i2.token.pos = ⟨1, 9, 8⟩ ∧ i2.token.endPos = ⟨1, 10, 9⟩)
                  | .error _ => false)
     | .error _ => false) = true := by decide +kernel

/-- Non-vacuity of `pos_consistent`: a file with a multi-byte rune, a block, comments and a blank line
    parses; the positions of the second line of the block are line 4, rune 2 (after the tab), byte 26. -/
example :
    (match parse (B "go.mod") (B "// é\nmodule m\nrequire (\n\ta v1 // c\n\n\tb v2\n)\n") with
     | .ok t => (match t.stmts with
                 | [_, .lineBlock b] => decide ((b.lines.map (·.start)) = [⟨4, 2, 26⟩, ⟨6, 2, 38⟩])
                 | _ => false)
     | .error _ => false) = true := by decide_bytes

/-! ### lax ⊇ strict, piecewise -/

/-- Strict and lax mode fail identically on syntax errors (same error, same position). -/
theorem lax_eq_strict_on_syntax_error (name data : Bytes) (fix : Option Fixer) (e : SynErr)
    (h : parse name data = .error e) :
    parseToFile name data fix false = parseToFile name data fix true := by
  rw [(parseToFile_syntax_error name data fix false e h).1, (parseToFile_syntax_error name data fix true e h).1]

/-- `lax_superset`: every file the strict parser accepts (with any version fixer) is accepted by the lax
    parser with the same module, go, require and retract values (whole typed entries: paths, versions,
    the indirect flag, deprecation text, intervals, rationales and line identities).
    Proof (Proofs/ModfileC20Lax.lean): simulation over the calls of the statement loop (`addStmts_sim`, an instance
    of `ModfileWalk.foldl_sim` on the pairs of state and lines written back) — the strict and the lax state stay
    equal on those four fields and on the error list (`add_sim`, built from `lax_superset_line` and a
    congruence / frame lemma per verb); every retract entry refers to a line that both rewritten trees
    contain with identical tokens, and line identities are pairwise distinct (`parse_ids_nodup`), so
    `fixRetract` reads the same tokens and computes the same intervals in both runs. -/
theorem lax_superset (name data : Bytes) (fix : Option Fixer) (f : File)
    (h : parseToFile name data fix true = .ok f) :
    ∃ g, parseToFile name data fix false = .ok g ∧ g.module = f.module ∧ g.go = f.go ∧
      g.require = f.require ∧ g.retract = f.retract :=
  Proofs.ModfileC20.lax_superset name data fix f h

/-- Non-vacuity: a file using every directive, with retractions rewritten by the stub fixer, is accepted by
    the strict parser. -/
example :
    (parseToFile (B "go.mod")
      (B "module example.com/m\ngo 1.21\ntoolchain go1.21.0\nrequire a.b/c v1.0.0 // indirect\nexclude a.b/c v1.1.0\nreplace a.b/c => ../c\nretract [v1.0.0, latest] // bad\ntool a.b/c/cmd\n")
      (some fixStub) true).toOption.isSome = true := by decide_bytes

/-- The step of `lax_superset`: on a go / module / retract / require line that the strict directive
    layer accepts (it adds no error), the lax directive layer computes the same typed entries and the
    same rewritten tokens. -/
theorem lax_superset_line (st : AddState) (block : Option Comments) (line : Line) (verb : Bytes)
    (args : List Bytes) (fix : Option Fixer) (hv : verbIn verb laxVerbs = true)
    (hok : (File.add st block line verb args fix true).1.errsRev = st.errsRev) :
    File.add st block line verb args fix false = File.add st block line verb args fix true :=
  Proofs.ModfileRule.add_strict_ok_lax st block line verb args fix hv hok

/-- `lax_ignores_unknown`, line form: in lax mode a line whose verb is not go / module / retract /
    require changes neither the typed file, nor the error list, nor its own tokens. -/
theorem lax_ignores_unknown_line (st : AddState) (block : Option Comments) (line : Line) (verb : Bytes)
    (args : List Bytes) (fix : Option Fixer) (h : verbIn verb laxVerbs = false) :
    File.add st block line verb args fix false = (st, args) :=
  Proofs.ModfileRule.add_lax_ignores st block line verb args fix h

/-- `lax_ignores_unknown`, block form: in lax mode a block whose header is not a single known block
    verb is skipped without an error (whatever its lines contain). -/
theorem lax_ignores_unknown_block (st : AddState) (b : LineBlock) (fix : Option Fixer) (rest : List Expr)
    (h : ∀ verb, b.token = [verb] → verbIn verb blockVerbs = false) :
    addStmts fix false st (.lineBlock b :: rest) =
      ((addStmts fix false st rest).1, .lineBlock b :: (addStmts fix false st rest).2) := by
  simp only [addStmts]
  split
  · rename_i verb hv
    simp [h verb hv]
  · rfl

/-- `lax_ignores_unknown`, statement-list form: the lax directive layer's typed state (module, go,
    require, retract, error list) after a statement list equals its state after the list with every
    ignored statement removed — `laxIgnored`: lines whose verb is not go / module / retract / require,
    blocks whose header is not a single block verb that lax keeps, comment blocks — wherever they occur and
    however many there are.  (What is not proved is the parser-level fact that inserting such text into
    the input inserts exactly such statements into the statement list, lean/PENDING.md.) -/
theorem lax_ignores_unknown_stmts (fix : Option Fixer) (st : AddState) (xs : List Expr) :
    (addStmts fix false st xs).1 =
      (addStmts fix false st (xs.filter (fun x => !Proofs.ModfileC20.laxIgnored x))).1 :=
  Proofs.ModfileC20.addStmts_lax_filter fix xs st

/-- Non-vacuity of `lax_ignores_unknown_*`: a file with an unknown directive and an unknown block is
    rejected by the strict parser and accepted by the lax parser with the module / go / require of
    the same file without them. -/
example :
    let x := B "module example.com/m\ngo 1.21\nfrobnicate a b\nfuture (\n\tx y\n)\nrequire a.b/c v1.0.0\n"
    let y := B "module example.com/m\ngo 1.21\nrequire a.b/c v1.0.0\n"
    (parseToFile (B "go.mod") x none true).toOption.isNone = true ∧
    (match parseToFile (B "go.mod") x none false, parseToFile (B "go.mod") y none true with
     | .ok f, .ok g => decide (f.module.map (·.mod) = g.module.map (·.mod) ∧ f.go.map (·.version) = g.go.map (·.version) ∧
                                f.require.map (·.mod) = g.require.map (·.mod))
     | _, _ => false) = true := by
  conv => zeta
  decide_bytes

/-- `lax_ignores_unknown`, statement-list form with SHIFTED positions and line identities: the values of
    the lax typed state (module path / version / deprecation, go version, requirements with their indirect
    mark, retractions with rationale) and the kinds of the errors are the same for the list `A ++ B₁` and
    the list `A ++ I ++ B₂`, when `I` holds only ignored statements and `B₁`, `B₂` are the same statements
    `B` moved by two different shifts of positions (lines, bytes) and line identities — which is what
    inserting source lines between two statements does to the statements after the insertion point.  Any
    fixer; the two start states may differ in their syntax tree. -/
theorem lax_ignores_unknown_values (fix : Option Fixer) (A B I : List Expr) (s1 s2 : Proofs.ModfileC20Append.Sh)
    (st st' : AddState) (hV : Proofs.ModfileC20Append.V st st')
    (hI : ∀ x ∈ I, Proofs.ModfileC20.laxIgnored x = true) :
    Proofs.ModfileC20Append.V
      (addStmts fix false st (A ++ B.map (Proofs.ModfileC20Append.shE s1))).1
      (addStmts fix false st' (A ++ I ++ B.map (Proofs.ModfileC20Append.shE s2))).1 :=
  Proofs.ModfileC20Append.lax_vals_insert fix A B I s1 s2 st st' hV hI

/-- Non-vacuity of `lax_ignores_unknown_values`: equal start states are related, and an unknown line is ignored. -/
example : Proofs.ModfileC20Append.V {} {} ∧
    Proofs.ModfileC20.laxIgnored (.line { token := [B "frobnicate", B "x"] }) = true :=
  ⟨⟨rfl, rfl⟩, by decide +kernel⟩

/-- `lax_ignores_unknown` at the level of input bytes, PARTIAL: if the lax parser (no fixer) accepts `x`,
    and the syntax trees of `x` and `x'` are related as inserting source lines does — the statements of
    `x'` are those of `x` before the insertion point (`A`), then ignored statements (`I`: lines whose verb
    is not go / module / retract / require, blocks whose header is not a single block verb lax keeps), then
    the remaining statements of `x` (`B`) with positions and line identities shifted (`s1` in `x`, `s2` in
    `x'`) — then the lax parser accepts `x'` with the same module / go / require / retract VALUES (`vals`:
    everything but the `lineId`s, which shift).
    What is missing for the full statement: (1) the two tree hypotheses `ht`, `ht'` are ASSUMED here, not
    derived from `x = a ++ b`, `x' = a ++ ins ++ b`; they are the parser-level composition lemma
    "`parse (a ++ b)` = statements of `parse a` followed by the shifted statements of `parse b`" (proved so
    far: its lexer half for comment-free input, `Proofs.ModfileC20Append.readToken_sim` — one token read in
    the context `pre ++ · ++ suf` is the same token shifted, as long as `pre` is the consumed text and the
    last newline before `suf` is not yet consumed; the example below checks both tree hypotheses by kernel
    evaluation); (2) comments: the shift `shE` leaves comment lists untouched, which is what happens in
    comment-free files only — with comments the attachment of end-of-line comments across the insertion
    point has to be shown unchanged; (3) a fixer (then `fixRetract` looks lines up by identity). -/
theorem lax_ignores_unknown_bytes_partial (name x x' : Bytes) (t t' : FileSyntax) (A B I : List Expr)
    (s1 s2 : Proofs.ModfileC20Append.Sh)
    (hx : parse name x = .ok t) (hx' : parse name x' = .ok t')
    (ht : t.stmts = A ++ B.map (Proofs.ModfileC20Append.shE s1))
    (ht' : t'.stmts = A ++ I ++ B.map (Proofs.ModfileC20Append.shE s2))
    (hI : ∀ y ∈ I, Proofs.ModfileC20.laxIgnored y = true) (f : File)
    (hf : parseToFile name x none false = .ok f) :
    ∃ f', parseToFile name x' none false = .ok f' ∧
      Proofs.ModfileC20Append.vals f' = Proofs.ModfileC20Append.vals f :=
  Proofs.ModfileC20Append.parseToFile_insert name x x' t t' A B I s1 s2 hx hx' ht ht' hI f hf

/-- Non-vacuity of `lax_ignores_unknown_bytes_partial` and a kernel-checked instance of the missing parser
    composition lemma: for `a` = two directive lines, `ins` = an unknown line and an unknown block, `b` = a
    require line, the trees of `a ++ b` and `a ++ ins ++ b` are the trees of `a`, `ins`, `b` put together
    with the shifts (lines, bytes, line identities) of the text in front; the inserted statements are
    ignored; the lax parser accepts `a ++ b`. -/
example :
    let n := B "go.mod"
    let a := B "module example.com/m\ngo 1.21\n"
    let ins := B "frobnicate x y\nweird (\n\tp q\n)\n"
    let b := B "require a.b/c v1.0.0\n"
    let sa : Proofs.ModfileC20Append.Sh := ⟨2, a.length, 2⟩
    let sai : Proofs.ModfileC20Append.Sh := ⟨6, a.length + ins.length, 4⟩
    (match parse n a, parse n ins, parse n b, parse n (a ++ b), parse n (a ++ ins ++ b) with
     | .ok ta, .ok ti, .ok tb, .ok t, .ok t' =>
       decide (t.stmts = ta.stmts ++ tb.stmts.map (Proofs.ModfileC20Append.shE sa) ∧
               t'.stmts = ta.stmts ++ ti.stmts.map (Proofs.ModfileC20Append.shE sa) ++
                 tb.stmts.map (Proofs.ModfileC20Append.shE sai)) &&
       (ti.stmts.map (Proofs.ModfileC20Append.shE sa)).all Proofs.ModfileC20.laxIgnored
     | _, _, _, _, _ => false) = true ∧
    (parseToFile n (a ++ b) none false).toOption.isSome = true := by decide +kernel

/-! ### ModulePath -/

/-- The F8 input: a `require` block containing a line whose first token is `module`, before the real
    module directive. -/
def f8Input : Bytes := B "require (\n\tmodule v1.0.0\n)\nmodule example.com/m\n"

/-- The last clause of C20 is FALSE on the current tree (finding F8, oracle signature
    `modulepath-block-line`): the strict parser accepts `f8Input`, its module directive is the single
    line `module example.com/m` naming a valid import path, yet the quick module-path extractor
    returns `v1.0.0`. -/
theorem C20_violated_modulePath_block_line :
    ∃ f m, parseToFile (B "go.mod") f8Input none true = .ok f ∧ f.module = some m ∧
      (f.syn.findLine m.lineId).map (·.inBlock) = some false ∧
      Module.checkImportPath m.mod.path = .ok () ∧
      modulePath f8Input ≠ m.mod.path :=
  Proofs.ModfileWitness.modulePathDisagrees_spec (by rw [B_lit f8Input]; decide +kernel)

/-- A second input on which the same clause fails (found by the thorough-tier oracle, signature
    `modulepath-module-block-header`): an EMPTY `module ( )` block defines no module, the strict parser
    takes the later single-line directive, but the line scanner returns the `(` of the block header. -/
def f8bInput : Bytes := B "module (\n)\nmodule example.com/m\n"

theorem C20_violated_modulePath_module_block_header :
    ∃ f m, parseToFile (B "go.mod") f8bInput none true = .ok f ∧ f.module = some m ∧
      (f.syn.findLine m.lineId).map (·.inBlock) = some false ∧
      Module.checkImportPath m.mod.path = .ok () ∧
      modulePath f8bInput ≠ m.mod.path :=
  Proofs.ModfileWitness.modulePathDisagrees_spec (by decide +kernel)

/-- `modulePath_agrees_partial` — the last clause of C20 under the hypothesis that excludes exactly the
    recorded findings.  If the strict parser (no fixer) accepts `x`, its module directive is a single
    top-level line (`Expr.line l ∈ f.syn.stmts`, i.e. not a line of a `module ( … )` block) naming a valid
    import path, and the line scanner skips every source line before the line of that directive
    (`modulePathLine ln = none`: after cutting a `//` comment and trimming, `ln` does not consist of
    `module`, white space and something more — every line that is not a `module␣…` look-alike), then
    `ModulePath(x)` is the module path the strict parser reports.  The two `_violated` witnesses above are
    exactly the two ways the last hypothesis fails on strictly accepted files: a block line `module …`
    and the header `module (` of an empty block before the directive.
    Proof (Proofs/ModfileC20{Lay,Top,ModTree,ModStr,Unquote,ModFinal}.lean): the lexer leaves only blanks
    between tokens, a top-level line starts its source line and is followed by blanks and then a newline,
    a `//` comment or the end of the input (`TopLay`); the module entry of an accepted file comes from a
    line `module <tok>` (`module_line_of_strict`); a token that denotes a valid import path contains no
    `//`, no newline, and starts and ends with a non-space ASCII byte (`tokOK_of_parseString`, for `"…"`
    tokens via `unquote_facts`); hence `TrimSpace`, `Index "//"` and `Unquote` in the scanner recover exactly
    that token (`modulePathLine_directive`), on the element `line - 1` of `strings.Split(x, "\n")`
    (`splitOn_line`). -/
theorem modulePath_agrees_partial (name x : Bytes) (f : File) (m : Module)
    (h : parseToFile name x none true = .ok f) (hm : f.module = some m)
    (hvalid : Module.checkImportPath m.mod.path = .ok ())
    (htop : ∃ l, Expr.line l ∈ f.syn.stmts ∧ l.id = m.lineId ∧
      ∀ j, j + 1 < l.start.line → ∀ ln, (splitOn 10 x)[j]? = some ln → modulePathLine ln = none) :
    modulePath x = m.mod.path :=
  Proofs.ModfileC20.modulePath_agrees name x f m h hm hvalid htop

/-- Non-vacuity of `modulePath_agrees_partial`: a file with a doc comment, a quoted module path with a
    trailing comment and other directives satisfies all hypotheses (and the scanner has to skip a comment
    line first). -/
example :
    let x := B "// Deprecated: no\n  module\t\"example.com/m/v2\" // c\r\n\ngo 1.21\nrequire (\n\ta.b/c v1.0.0\n)\n"
    ∃ f m, parseToFile (B "go.mod") x none true = .ok f ∧ f.module = some m ∧
      Module.checkImportPath m.mod.path = .ok () ∧
      ∃ l, Expr.line l ∈ f.syn.stmts ∧ l.id = m.lineId ∧
        ∀ j, j + 1 < l.start.line → ∀ ln, (splitOn 10 x)[j]? = some ln → modulePathLine ln = none :=
  Proofs.ModfileC20.modulePathHyps_spec (by decide_bytes)

/-- Non-vacuity of the agreement clause: on an ordinary file ModulePath and the strict parser agree. -/
example :
    let x := B "// doc\nmodule \"example.com/m\" // c\n\ngo 1.21\n"
    (match parseToFile (B "go.mod") x none true with
     | .ok f => decide (f.module.map (·.mod.path) = some (modulePath x))
     | .error _ => false) = true := by
  intro x
  rw [B_lit x]
  clear x
  decide +kernel

/-! ### behind the exact `Line.end` statement `pos_consistent_exact`: whole-line comment tokens (lexer level) -/

/-- **A `//` comment that follows a token on its source line is an end-of-line comment, never a whole-line comment token.**
    `readComment` decides with `strings.TrimSpace(<bytes before the comment on its line>) == ""`; that test fails as soon as
    the consumed part of the line is `g ++ x` with `g` white space and `x` starting with a rune that is not white space —
    whatever follows in `x`, ill-formed UTF-8 included (`TrimSpace s = "" ↔ Fields s = []`,
    `Edit.trimSpace_eq_nil_iff_fields`; no reasoning about the backward decoder of `TrimRight` is needed).  This is the
    lexer half of the residual slack of `pos_consistent` for `Line.end` (lean/PENDING.md): only a whole-line comment token
    has its LF / CRLF stripped by `endToken`; the parser half is `pos_consistent_exact` above. -/
theorem comment_after_token_is_eol_comment (i i' : Input) (g x : Bytes) (h : readToken i = .ok i')
    (hpre : (i.consumedRev.takeWhile (· != 10)).reverse = g ++ x) (hg : Proofs.ModfileFmtTrim.SpaceSeq g) (hx : x ≠ [])
    (hs : UnicodePrint.isSpace (Utf8.decodeRune x).1 = false) : i'.token.kind ≠ .comment :=
  Proofs.ModfileC20.readToken_not_comment h g x hpre hg hx hs

/-- … and a whole-line comment token is delivered only when the bytes before it on its source line trim to nothing -/
theorem comment_token_alone_on_line (i i' : Input) (h : readToken i = .ok i') (hk : i'.token.kind = .comment) :
    ∃ gap, Proofs.ModfileC20.WS gap ∧
      GoStrings.trimSpace (((gap.reverse ++ i.consumedRev).takeWhile (· != 10)).reverse) = [] :=
  Proofs.ModfileC20.readToken_comment h hk

/-- non-vacuity: after `x\x80 ` (a token ending in an ill-formed byte) the comment is an end-of-line comment; at the start
    of a line it is a whole-line comment token -/
example :
    (match readToken { consumedRev := [32, 0x80, 120, 9, 10], remaining := [47, 47, 99] } with
     | .ok i => i.token.kind == .eolComment
     | .error _ => false) = true ∧
    (match readToken { consumedRev := [32, 9, 10], remaining := [47, 47, 99] } with
     | .ok i => i.token.kind == .comment
     | .error _ => false) = true := by decide +kernel

example : (([32, 0x80, 120, 9, 10] : Bytes).takeWhile (· != 10)).reverse = [9] ++ [120, 0x80, 32] ∧
    UnicodePrint.isSpace (Utf8.decodeRune ([120, 0x80, 32] : Bytes)).1 = false := by decide +kernel

end ModVerif.Props.C20
