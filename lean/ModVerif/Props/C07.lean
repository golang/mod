/-
  C07 — A signed note opens only with verified signatures over exactly its text.
  Property theorems only; helper lemmas live in ModVerif/Proofs/Note.lean (Open), NoteBytes.lean (base64, UTF-8) and
  NoteRoundtrip.lean (Sign → Open), the specification vocabulary in ModVerif/Spec/NoteSpec.lean.
-/
import ModVerif.Model.Note
import ModVerif.Spec.NoteSpec
import ModVerif.Proofs.Note
import ModVerif.Proofs.NoteRoundtrip
namespace ModVerif.Props.C07
open ModVerif ModVerif.Note ModVerif.B64

/-- ★ `open_sound`.  If `Open` returns a note then (1) it lists at least one verified signature,
    (2) the message is exactly `text ‖ "\n" ‖ block` with `text` ending in a newline and every verified
    signature being one of the lines of `block`, and (3) every verified signature's key is known under
    the signature's (name, hash) and that key's verifier accepted the decoded signature bytes over
    exactly the returned text. -/
theorem open_sound {msg : Bytes} {known : Verifiers} {n : Note} (h : Open msg known = .ok n) :
    n.sigs ≠ [] ∧
    (∃ block, msg = n.text ++ [10] ++ block ∧ n.text.getLast? = some 10 ∧
      ∀ s ∈ n.sigs, lineOf s ∈ sigLines block) ∧
    ∀ s ∈ n.sigs, Verified known n.text s := by
  obtain ⟨_, split, ps, hs, _, _, hps, _, hlook, hfirst, ⟨p0, hp0, hp0k⟩, rfl⟩ := Open_ok_iff.mp h
  obtain ⟨hmsg, hlast⟩ := split_spec hs
  -- a verified signature is the first line `p` of a known key
  have hsig : ∀ s ∈ (dedupFrom (fun p : SigLine => (p.name, p.hash)) [] (ps.filter (isKnown known))).map SigLine.toSig,
      ∃ p line, s = p.toSig ∧ p ∈ ps ∧ line ∈ sigLines (msg.drop (split + 2)) ∧ parseSigLine line = some p ∧
        ∃ k, known p.name p.hash = .found k ∧ k.verify (msg.take (split + 1)) p.sig = true := by
    intro s hs
    obtain ⟨p, hp, rfl⟩ := List.mem_map.mp hs
    have hpm := (List.mem_filter.mp (mem_dedupFrom _ _ _ _ hp)).1
    obtain ⟨line, hl, hpl⟩ := parseAll_mem _ _ hps p hpm
    exact ⟨p, line, rfl, hpm, hl, hpl, hfirst p hp⟩
  refine ⟨?_, ⟨msg.drop (split + 2), hmsg, hlast, fun s hs => ?_⟩, fun s hs => ?_⟩
  · simp only [ne_eq, List.map_eq_nil_iff]
    exact dedupFrom_nil_ne_nil _ (List.ne_nil_of_mem (List.mem_filter.mpr ⟨hp0, hp0k⟩))
  · obtain ⟨p, line, rfl, _, hl, hpl, _⟩ := hsig s hs
    have := parseSigLine_line hpl
    simp only [lineOf, SigLine.toSig]
    rw [← this]; exact hl
  · obtain ⟨p, line, rfl, hpm, _, hpl, k, hk, hver⟩ := hsig s hs
    obtain ⟨_, _, _, _, _, raw, hraw, hlen, hbe, hsg⟩ := parseSigLine_spec hpl
    rcases hlook p hpm with hu | ⟨k', hk', hvn, hvh⟩
    · rw [hu] at hk; cases hk
    · rw [hk] at hk'; cases hk'
      exact ⟨k, raw, hk, hvn, hvh, hraw, hlen, hbe, by rw [← hsg]; exact hver⟩

/-- ★ `open_bad_known_sig_fails`.  Let the message split (at the last blank line) into text and
    signature lines.  If some line parses to a signature of a known key, no earlier line is by the same
    (name, hash), and the key's verifier rejects that signature over the text, then `Open` returns no
    note.  (Reading O4 of DESIGN §7: the line `Open` checks for a key is its first.) -/
theorem open_bad_known_sig_fails {msg : Bytes} {known : Verifiers} {split i : Nat} {line : Bytes}
    {p : SigLine} {k : Verifier}
    (hs : lastIndexOf sigSplit msg = some split)
    (hl : (sigLines (msg.drop (split + 2)))[i]? = some line) (hp : parseSigLine line = some p)
    (hfirst : ∀ j, j < i → ∀ lj pj, (sigLines (msg.drop (split + 2)))[j]? = some lj →
      parseSigLine lj = some pj → (pj.name, pj.hash) ≠ (p.name, p.hash))
    (hk : known p.name p.hash = .found k) (hbad : k.verify (msg.take (split + 1)) p.sig = false) :
    ∀ n, Open msg known ≠ .ok n := by
  intro n h
  obtain ⟨split', st, _, hs', ht, _, _, hloop, _⟩ := Open_ok h
  rw [hs] at hs'
  simp only [Option.some.injEq] at hs'; subst hs'
  rw [ht] at hloop
  exact openLoop_bad_fails _ {} i line p k hl hp hfirst (by simp) hk hbad st hloop

/-- ★ `open_partition`.  If `Open` returns a note then every line of the signature block is a well-formed
    signature line, there are at most 100 of them, every lookup answered "found" or "unknown", and
    * the verified signatures are the lines by known keys, in message order, keeping only the FIRST line
      per (name, hash) — later lines by the same key are dropped without being verified (O4);
    * the unverified signatures are the lines by unknown keys, in message order, without repeats of
      an identical line. -/
theorem open_partition {msg : Bytes} {known : Verifiers} {n : Note} (h : Open msg known = .ok n) :
    ∃ split ps, lastIndexOf sigSplit msg = some split ∧ n.text = msg.take (split + 1) ∧
      parseAll (sigLines (msg.drop (split + 2))) = some ps ∧ ps.length ≤ maxSigs ∧
      (∀ p ∈ ps, isKnown known p = true ∨ isUnknown known p = true) ∧
      n.sigs = (dedupFrom (fun p : SigLine => (p.name, p.hash)) [] (ps.filter (isKnown known))).map SigLine.toSig ∧
      n.unverifiedSigs =
        (dedupFrom (fun p : SigLine => p.line) [] (ps.filter (isUnknown known))).map SigLine.toSig := by
  obtain ⟨_, split, ps, hs, _, _, hps, hlen, hlook, _, _, rfl⟩ := Open_ok_iff.mp h
  refine ⟨split, ps, hs, rfl, hps, hlen, fun p hp => ?_, rfl, rfl⟩
  rcases hlook p hp with hu | ⟨k, hk, _⟩
  · right; simp [isUnknown, hu]
  · left; simp [isKnown, hk]

/-- ★ `sign_open_roundtrip`.  For every valid note text `t` (UTF-8, no ASCII control character but newline,
    ends in newline — blank lines and lines that look like signature lines included), every list of at most
    100 signers with valid names whose `Sign` succeeds with a non-empty signature, and every `known` that
    answers each signer's (name, hash) either "unknown" or with a verifier of that name and hash which
    accepts the signer's signature over `t` (honest keys; no ambiguous / failing lookups), at least one
    signer being known:  `Sign` produces `t ‖ "\n" ‖ one line per signer`, and `Open` of that message
    returns exactly `t`, the signatures of known keys as verified (first per key, in signing order) and
    the signatures of unknown keys as unverified (in signing order, identical lines once). -/
theorem sign_open_roundtrip {t : Bytes} {ss : List Signer} {known : Verifiers}
    (ht : ValidText t)
    (hnames : ∀ s ∈ ss, isValidName s.name = true)
    (hcount : ss.length ≤ maxSigs)
    (hsign : ∀ s ∈ ss, ∃ x, s.sign t = some x ∧ x ≠ [])
    (hlook : ∀ s ∈ ss, ∀ x, s.sign t = some x →
      known s.name s.hash = .unknown ∨
      ∃ k, known s.name s.hash = .found k ∧ k.name = s.name ∧ k.hash = s.hash ∧ k.verify t x = true)
    (hone : ∃ s ∈ ss, ∃ k, known s.name s.hash = .found k) :
    let made := ss.filterMap (sigOfSigner t)
    Sign ⟨t, [], []⟩ ss = .ok (t ++ [10] ++ blockOf made) ∧
    Open (t ++ [10] ++ blockOf made) known = .ok ⟨t,
      dedupFrom (fun g : Signature => (g.name, g.hash)) [] (made.filter (sigKnown known)),
      dedupFrom (fun g : Signature => g.name ++ [32] ++ g.base64) [] (made.filter (sigUnknown known))⟩ := by
  refine sign_open_core ht hcount ?_ hone
  intro s hs
  obtain ⟨x, hx, hxne⟩ := hsign s hs
  exact ⟨hnames s hs, x, hx, hxne, hlook s hs x hx⟩

/-- `sign_open_roundtrip`, the documented other half of the partition: when NO signer's key is known, `Open`
    of the signed message returns UnverifiedNoteError carrying the note: the same text, no verified
    signature, every signature (identical lines once, in signing order) as unverified. -/
theorem sign_open_roundtrip_unverified {t : Bytes} {ss : List Signer} {known : Verifiers}
    (ht : ValidText t)
    (hnames : ∀ s ∈ ss, isValidName s.name = true)
    (hcount : ss.length ≤ maxSigs)
    (hsign : ∀ s ∈ ss, ∃ x, s.sign t = some x ∧ x ≠ [])
    (hunk : ∀ s ∈ ss, known s.name s.hash = .unknown)
    (hss : ss ≠ []) :
    let made := ss.filterMap (sigOfSigner t)
    Sign ⟨t, [], []⟩ ss = .ok (t ++ [10] ++ blockOf made) ∧
    Open (t ++ [10] ++ blockOf made) known = .error (.unverified ⟨t, [],
      dedupFrom (fun g : Signature => g.name ++ [32] ++ g.base64) [] made⟩) :=
  sign_open_unverified_core ht hcount (fun s hs => ⟨hnames s hs, hsign s hs⟩) hunk hss

/-- ★ `text_mutation_rejected`.  Unforgeability hypothesis: the verifiers of the known keys accept
    signatures over the signed text `t` only.  Then every message that opens — in particular every
    byte-level modification of a signed message — opens with text `t`; a message whose text part
    differs from `t` is rejected. -/
theorem text_mutation_rejected {known : Verifiers} {t : Bytes}
    (unforgeable : ∀ name hash k t' sig, known name hash = .found k → k.verify t' sig = true → t' = t)
    {msg' : Bytes} {n : Note} (h : Open msg' known = .ok n) : n.text = t := by
  obtain ⟨hne, _, hver⟩ := open_sound h
  cases hn : n.sigs with
  | nil => exact absurd hn hne
  | cons s rest =>
    obtain ⟨k, raw, hk, _, _, _, _, _, hv⟩ := hver s (by rw [hn]; exact List.mem_cons_self)
    exact unforgeable _ _ k _ _ hk hv

/-- the same, as a rejection statement about the text part of the message -/
theorem text_mutation_rejected' {known : Verifiers} {t : Bytes}
    (unforgeable : ∀ name hash k t' sig, known name hash = .found k → k.verify t' sig = true → t' = t)
    {msg' : Bytes} {split : Nat} (hs : lastIndexOf sigSplit msg' = some split)
    (hdiff : msg'.take (split + 1) ≠ t) : ∀ n, Open msg' known ≠ .ok n := by
  intro n h
  obtain ⟨split', _, _, hs', ht, _⟩ := Open_ok h
  rw [hs] at hs'
  simp only [Option.some.injEq] at hs'; subst hs'
  exact hdiff (ht ▸ text_mutation_rejected unforgeable h)

/-- ★ `verifierList_ambiguous`.  `VerifierList(list).Verifier(name, hash)` is: unknown iff no listed
    verifier has that name and hash; ambiguous iff at least two do; otherwise the unique one. -/
theorem verifierList_ambiguous (l : List Verifier) (name : Bytes) (hash : UInt32) :
    let ms := l.filter (fun v => v.name == name && v.hash == hash)
    (VerifierList l name hash = .unknown ↔ ms = []) ∧
    (VerifierList l name hash = .ambiguous ↔ 2 ≤ ms.length) ∧
    (∀ v, VerifierList l name hash = .found v → ms = [v] ∧ v ∈ l ∧ v.name = name ∧ v.hash = hash) ∧
    VerifierList l name hash ≠ .otherErr := by
  intro ms
  show (VerifierList l name hash = .unknown ↔ ms = []) ∧ _
  have hV : VerifierList l name hash =
      (match ms with | [] => .unknown | [v] => .found v | _ :: _ :: _ => .ambiguous) := rfl
  rw [hV]
  clear hV
  have hmem : ∀ v ∈ ms, v ∈ l ∧ v.name = name ∧ v.hash = hash := by
    intro v hv
    have := List.mem_filter.mp hv
    simpa using this
  generalize ms = m at hmem
  match m, hmem with
  | [], _ => simp
  | [v], hmem =>
    refine ⟨by simp, by simp, ?_, by simp⟩
    intro v' hv'
    simp only [Lookup.found.injEq] at hv'; subst hv'
    exact ⟨rfl, hmem v (by simp)⟩
  | _ :: _ :: _, _ => simp

/-- `sign_open_roundtrip` for `VerifierList`: the lookup hypotheses reduce to "no signer's key is listed
    twice" and "every listed verifier with a signer's name and hash accepts that signer's signature". -/
theorem sign_open_roundtrip_verifierList {t : Bytes} {ss : List Signer} {vs : List Verifier}
    (ht : ValidText t)
    (hnames : ∀ s ∈ ss, isValidName s.name = true)
    (hcount : ss.length ≤ maxSigs)
    (hsign : ∀ s ∈ ss, ∃ x, s.sign t = some x ∧ x ≠ [])
    (hunamb : ∀ s ∈ ss, VerifierList vs s.name s.hash ≠ .ambiguous)
    (honest : ∀ s ∈ ss, ∀ v ∈ vs, v.name = s.name → v.hash = s.hash → ∀ x, s.sign t = some x → v.verify t x = true)
    (hone : ∃ s ∈ ss, ∃ v ∈ vs, v.name = s.name ∧ v.hash = s.hash) :
    let made := ss.filterMap (sigOfSigner t)
    Sign ⟨t, [], []⟩ ss = .ok (t ++ [10] ++ blockOf made) ∧
    Open (t ++ [10] ++ blockOf made) (VerifierList vs) = .ok ⟨t,
      dedupFrom (fun g : Signature => (g.name, g.hash)) [] (made.filter (sigKnown (VerifierList vs))),
      dedupFrom (fun g : Signature => g.name ++ [32] ++ g.base64) [] (made.filter (sigUnknown (VerifierList vs)))⟩ := by
  refine sign_open_roundtrip ht hnames hcount hsign ?_ ?_
  · intro s hs x hx
    have hspec := verifierList_ambiguous vs s.name s.hash
    cases hl : VerifierList vs s.name s.hash with
    | unknown => exact Or.inl rfl
    | ambiguous => exact absurd hl (hunamb s hs)
    | otherErr => exact absurd hl hspec.2.2.2
    | found k =>
      obtain ⟨_, hmem, hn, hh⟩ := hspec.2.2.1 k hl
      exact Or.inr ⟨k, rfl, hn, hh, honest s hs k hmem hn hh x hx⟩
  · obtain ⟨s, hs, v, hv, hn, hh⟩ := hone
    have hspec := verifierList_ambiguous vs s.name s.hash
    cases hl : VerifierList vs s.name s.hash with
    | unknown =>
      have := hspec.1.mp hl
      have hm : v ∈ vs.filter (fun v => v.name == s.name && v.hash == s.hash) := by
        rw [List.mem_filter]; exact ⟨hv, by simp [hn, hh]⟩
      rw [this] at hm; cases hm
    | ambiguous => exact absurd hl (hunamb s hs)
    | otherErr => exact absurd hl hspec.2.2.2
    | found k => exact ⟨s, hs, k, hl⟩

/-- `newVerifier_binds_key` (the clause "NewVerifier/NewSigner bind key hash to name+key" of the property).  A verifier key string
    is accepted only in the form `name+hash16+base64(0x01 ‖ pub)` with a valid name, eight hex digits, a
    32-byte Ed25519 key, and `hash16` equal to the first four bytes of `sha(name ‖ "\n" ‖ 0x01 ‖ pub)`;
    the resulting verifier carries that name and hash and verifies with `pub`. -/
theorem newVerifier_binds_key {sha : Bytes → Bytes} {ed : Bytes → Bytes → Bytes → Bool} {vkey : Bytes}
    {v : Verifier} (h : NewVerifier sha ed vkey = .ok v) :
    ∃ hash16 key64 pub,
      v.name = (chop vkey [43]).1 ∧ (hash16, key64) = chop (chop vkey [43]).2 [43] ∧
      isValidName v.name = true ∧ parseHash16 hash16 = some v.hash ∧
      b64dec key64 = some (1 :: pub) ∧ pub.length = 32 ∧
      keyHash sha v.name (1 :: pub) = some v.hash ∧ v.verify = ed pub := by
  unfold NewVerifier at h
  simp only at h
  split at h
  · rename_i hash key hh hk
    split at h
    · cases h
    · rename_i hc
      split at h
      · cases h
      · rename_i kh hkh
        split at h
        · cases h
        · rename_i hne
          split at h
          · cases h
          · rename_i alg pub
            split at h
            · cases h
            · rename_i halg
              split at h
              · cases h
              · rename_i hlen
                simp only [Except.ok.injEq] at h
                subst h
                simp only [Bool.or_eq_true, Bool.not_eq_eq_eq_not, Bool.not_true, not_or, Bool.not_eq_false] at hc
                have halg' : alg = 1 := by
                  simp only [algEd25519, bne_iff_ne, ne_eq, Decidable.not_not] at halg
                  exact UInt8.toNat_inj.mp (by simpa using halg)
                subst halg'
                have hkh' : hash = kh := by simpa using hne
                subst hkh'
                refine ⟨_, _, pub, rfl, rfl, hc.1, hh, hk, by simpa using hlen, hkh, rfl⟩
  · cases h

/-- `newSigner_binds_key`.  A signer key string is accepted only in the form
    `PRIVATE+KEY+name+hash16+base64(0x01 ‖ seed)` with a valid name, a 32-byte seed, and `hash16` equal to the
    key hash of the PUBLIC key derived from the seed; the signer carries that name and hash — the same
    (name, hash) `NewVerifier` accepts for the matching public key. -/
theorem newSigner_binds_key {sha : Bytes → Bytes} {edPub : Bytes → Bytes} {edSign : Bytes → Bytes → Bytes}
    {skey : Bytes} {s : Signer} (h : NewSigner sha edPub edSign skey = .ok s) :
    ∃ hash16 key64 seed,
      (chop skey [43]).1 = B "PRIVATE" ∧ (chop (chop skey [43]).2 [43]).1 = B "KEY" ∧
      s.name = (chop (chop (chop skey [43]).2 [43]).2 [43]).1 ∧
      (hash16, key64) = chop (chop (chop (chop skey [43]).2 [43]).2 [43]).2 [43] ∧
      isValidName s.name = true ∧ parseHash16 hash16 = some s.hash ∧
      b64dec key64 = some (1 :: seed) ∧ seed.length = 32 ∧
      keyHash sha s.name (1 :: edPub seed) = some s.hash ∧ s.sign = fun msg => some (edSign seed msg) := by
  unfold NewSigner at h
  simp only at h
  split at h
  · rename_i hash key hh hk
    split at h
    · cases h
    · rename_i hc
      split at h
      · cases h
      · rename_i alg seed
        split at h
        · cases h
        · rename_i halg
          split at h
          · cases h
          · rename_i hlen
            split at h
            · cases h
            · rename_i kh hkh
              split at h
              · cases h
              · rename_i hne
                simp only [Except.ok.injEq] at h
                subst h
                simp only [Bool.or_eq_true, Bool.not_eq_eq_eq_not, Bool.not_true, not_or, Bool.not_eq_false,
                  bne_iff_ne, ne_eq, Decidable.not_not] at hc
                have halg' : alg = 1 := by
                  simp only [algEd25519, bne_iff_ne, ne_eq, Decidable.not_not] at halg
                  exact UInt8.toNat_inj.mp (by simpa using halg)
                subst halg'
                have hkh' : hash = kh := by simpa using hne
                subst hkh'
                exact ⟨_, _, seed, hc.1.1.1, hc.1.1.2, rfl, rfl, hc.1.2, hh, hk, by simpa using hlen, hkh, rfl⟩
  · cases h

/-- An ambiguous known key makes `Open` fail: if a signature line (reached by the loop, i.e. all
    earlier lines processed without error) names an ambiguous key, no note is returned.  Stated for
    the first line. -/
theorem open_ambiguous_fails {msg : Bytes} {known : Verifiers} {split : Nat} {line : Bytes}
    {rest : List Bytes} {p : SigLine}
    (hs : lastIndexOf sigSplit msg = some split)
    (hl : sigLines (msg.drop (split + 2)) = line :: rest) (hp : parseSigLine line = some p)
    (hk : known p.name p.hash = .ambiguous) : ∀ n, Open msg known ≠ .ok n := by
  intro n h
  obtain ⟨split', st, _, hs', _, _, _, hloop, _⟩ := Open_ok h
  rw [hs] at hs'
  simp only [Option.some.injEq] at hs'; subst hs'
  rw [hl] at hloop
  obtain ⟨st1, h1, _⟩ := openLoop_cons_ok hloop
  obtain ⟨p', hp', _, _, hcase⟩ := openStep_ok h1
  rw [hp] at hp'
  simp only [Option.some.injEq] at hp'; subst hp'
  rcases hcase with ⟨hu, _⟩ | ⟨v, hv, _⟩
  · rw [hk] at hu; cases hu
  · rw [hk] at hv; cases hv

/-- `open_ok_iff`: the exact acceptance condition of `Open`, for ARBITRARY messages (converse of `open_partition` and
    `open_sound` included).  `Open msg known` returns the note `n` if and only if
    * the message is valid UTF-8 without ASCII control characters other than newline,
    * it splits at its LAST blank line into a text (ending in a newline) and a non-empty block ending in a newline,
    * every line of the block is a well-formed signature line, and there are at most 100 of them,
    * every lookup answers "unknown", or "found" with a verifier of exactly the line's name and hash
      (`LookOK`; so no ambiguous, failing or mismatching lookup),
    * the FIRST line of every known key carries a signature that key's verifier accepts over the text (`FirstVerified`;
      later lines of the same key are not examined — O4),
    * at least one line is by a known key,
    and `n` is the text together with the partition of the lines described by `open_partition`. -/
theorem open_ok_iff {msg : Bytes} {known : Verifiers} {n : Note} :
    Open msg known = .ok n ↔
      validMsg msg = true ∧ ∃ split ps, lastIndexOf sigSplit msg = some split ∧
        msg.drop (split + 2) ≠ [] ∧ (msg.drop (split + 2)).getLast? = some 10 ∧
        parseAll (sigLines (msg.drop (split + 2))) = some ps ∧ ps.length ≤ maxSigs ∧
        (∀ p ∈ ps, LookOK known p) ∧ FirstVerified known (msg.take (split + 1)) [] ps ∧
        (∃ p ∈ ps, isKnown known p = true) ∧
        n = ⟨msg.take (split + 1),
          (dedupFrom (fun p : SigLine => (p.name, p.hash)) [] (ps.filter (isKnown known))).map SigLine.toSig,
          (dedupFrom (fun p : SigLine => p.line) [] (ps.filter (isUnknown known))).map SigLine.toSig⟩ :=
  Open_ok_iff

/-- `sign_existing_roundtrip`: re-signing an opened note.  Let `n` be a note returned by `Open msg known` (it carries
    verified and possibly unverified signatures, with whatever base64 text the message had), and `ss` further signers
    with valid names whose `Sign` succeeds with a non-empty signature over `n.text`, each either unknown to `known` or
    known under its own name and hash with a verifier accepting its signature (honest keys), at most 100 signatures in
    total.  Then `Sign n ss` succeeds; the message is `n.text ‖ "\n" ‖` the existing signatures of `n` whose
    (name, hash) is not that of a new signer — verified ones first, then unverified, in order, byte for byte —
    followed by one line per new signer; and `Open` of that message returns exactly `n.text`, the signatures of known
    keys as verified (first per key) and those of unknown keys as unverified (identical lines once). -/
theorem sign_existing_roundtrip {msg : Bytes} {known : Verifiers} {n : Note} {ss : List Signer}
    (hopen : Open msg known = .ok n)
    (hnames : ∀ s ∈ ss, isValidName s.name = true)
    (hcount : n.sigs.length + n.unverifiedSigs.length + ss.length ≤ maxSigs)
    (hsign : ∀ s ∈ ss, ∃ x, s.sign n.text = some x ∧ x ≠ [])
    (hlook : ∀ s ∈ ss, ∀ x, s.sign n.text = some x →
      known s.name s.hash = .unknown ∨
      ∃ k, known s.name s.hash = .found k ∧ k.name = s.name ∧ k.hash = s.hash ∧ k.verify n.text x = true) :
    let kept := (n.sigs ++ n.unverifiedSigs).filter
      (fun g => !(ss.map fun s => (s.name, s.hash)).contains (g.name, g.hash))
    let all := kept ++ ss.filterMap (sigOfSigner n.text)
    Sign n ss = .ok (n.text ++ [10] ++ blockOf all) ∧
    Open (n.text ++ [10] ++ blockOf all) known = .ok ⟨n.text,
      dedupFrom (fun g : Signature => (g.name, g.hash)) [] (all.filter (sigKnown known)),
      dedupFrom (fun g : Signature => g.name ++ [32] ++ g.base64) [] (all.filter (sigUnknown known))⟩ := by
  refine sign_existing_core hopen hcount ?_
  intro s hs
  obtain ⟨x, hx, hxne⟩ := hsign s hs
  exact ⟨hnames s hs, x, hx, hxne, hlook s hs x hx⟩

/-- Every note `Open` returns can be signed again as it is (no new signers): all its signatures are well-formed,
    its text is valid, and opening the re-written message gives the same text. -/
theorem sign_existing_no_new {msg : Bytes} {known : Verifiers} {n : Note} (hopen : Open msg known = .ok n)
    (hcount : n.sigs.length + n.unverifiedSigs.length ≤ maxSigs) :
    ∃ msg' n', Sign n [] = .ok msg' ∧ Open msg' known = .ok n' ∧ n'.text = n.text := by
  have h := sign_existing_roundtrip (ss := []) hopen (by simp) (by simpa using hcount) (by simp) (by simp)
  exact ⟨_, _, h.1, h.2, rfl⟩

/-! ## Non-vacuity: concrete instances of the hypotheses -/

namespace Ex
/-- "hi\n" -/
def t : Bytes := [104, 105, 10]
/-- a key named "a" with hash 1 whose verifier accepts exactly signature [1,2,3] over `t` -/
def vA : Verifier := ⟨[97], 1, fun x s => x == t && s == [1, 2, 3]⟩
/-- a key with the same name and hash that rejects everything -/
def vR : Verifier := ⟨[97], 1, fun _ _ => false⟩
/-- "hi\n" ‖ "\n" ‖ "— a AAAAAQECAw==\n" -/
def msg : Bytes := [104, 105, 10, 10, 226, 128, 148, 32, 97, 32, 65, 65, 65, 65, 65, 81, 69, 67, 65, 119, 61, 61, 10]
def b64 : Bytes := [65, 65, 65, 65, 65, 81, 69, 67, 65, 119, 61, 61]
def line : Bytes := [226, 128, 148, 32, 97, 32] ++ b64
def p : SigLine := ⟨[97], b64, 1, [1, 2, 3], [97, 32] ++ b64⟩
/-- "x\n\n— a AAAAAQECAw==\n": a text with a blank line followed by a line that looks like a signature -/
def t2 : Bytes := [120, 10, 10] ++ line ++ [10]
def sA : Signer := ⟨[97], 1, fun _ => some [1, 2, 3]⟩
def sB : Signer := ⟨[98], 7, fun _ => some [9]⟩
def vA2 : Verifier := ⟨[97], 1, fun x s => x == t2 && s == [1, 2, 3]⟩
def known2 : Verifiers := VerifierList [vA2]
end Ex

/-- `open_sound`: a message that opens -/
example : Open Ex.msg (VerifierList [Ex.vA]) = .ok ⟨Ex.t, [⟨[97], 1, Ex.b64⟩], []⟩ := by rfl

/-- `open_partition`: two lines by the same known key (the second one bad) and a repeated unknown line:
    only the first line of the key is verified and listed; the unknown line is listed once -/
example :
    Open (Ex.t ++ [10] ++ Ex.line ++ [10] ++ (Ex.line.dropLast.dropLast ++ [61, 61]).set 14 66 ++ [10]
            ++ (Ex.line.set 4 98) ++ [10] ++ (Ex.line.set 4 98) ++ [10]) (VerifierList [Ex.vA])
      = .ok ⟨Ex.t, [⟨[97], 1, Ex.b64⟩], [⟨[98], 1, Ex.b64⟩]⟩ := by rfl

/-- `sign_open_roundtrip`: a text with a blank line and a line that looks like a signature line
    ("x\n\n— a AAAAAQECAw==\n"), two signers (one known, one unknown) satisfy every hypothesis -/
example :
    ValidText Ex.t2 ∧ (∀ s ∈ [Ex.sA, Ex.sB], isValidName s.name = true) ∧ [Ex.sA, Ex.sB].length ≤ maxSigs ∧
    (∀ s ∈ [Ex.sA, Ex.sB], ∃ x, s.sign Ex.t2 = some x ∧ x ≠ []) ∧
    (∀ s ∈ [Ex.sA, Ex.sB], ∀ x, s.sign Ex.t2 = some x →
      Ex.known2 s.name s.hash = .unknown ∨
      ∃ k, Ex.known2 s.name s.hash = .found k ∧ k.name = s.name ∧ k.hash = s.hash ∧ k.verify Ex.t2 x = true) ∧
    (∃ s ∈ [Ex.sA, Ex.sB], ∃ k, Ex.known2 s.name s.hash = .found k) := by
  refine ⟨⟨by decide +kernel, by decide +kernel⟩, ?_, by decide, ?_, ?_, ?_⟩
  · intro s hs
    simp only [List.mem_cons, List.not_mem_nil, or_false] at hs
    rcases hs with rfl | rfl <;> rfl
  · intro s hs
    simp only [List.mem_cons, List.not_mem_nil, or_false] at hs
    rcases hs with rfl | rfl
    · exact ⟨[1, 2, 3], rfl, by simp⟩
    · exact ⟨[9], rfl, by simp⟩
  · intro s hs x hx
    simp only [List.mem_cons, List.not_mem_nil, or_false] at hs
    rcases hs with rfl | rfl
    · right
      have : x = [1, 2, 3] := by simpa [Ex.sA] using hx.symm
      subst this
      exact ⟨Ex.vA2, by rfl, rfl, rfl, by rfl⟩
    · left; rfl
  · exact ⟨Ex.sA, List.mem_cons_self, Ex.vA2, by rfl⟩

/-- and the round trip itself, evaluated: the text (with its embedded blank line and signature-like line) comes back -/
example : (Sign ⟨Ex.t2, [], []⟩ [Ex.sA, Ex.sB]).toOption.map (fun m => (Open m Ex.known2).toOption.map (·.text))
    = some (some Ex.t2) := by rfl

/-- `sign_open_roundtrip_unverified`: the same signers against an empty verifier list -/
example : (∀ s ∈ [Ex.sA, Ex.sB], VerifierList [] s.name s.hash = .unknown) ∧ [Ex.sA, Ex.sB] ≠ [] :=
  ⟨fun _ _ => rfl, by simp⟩

/-- `open_bad_known_sig_fails`: the same message against a key that rejects -/
example : lastIndexOf sigSplit Ex.msg = some 2 ∧
    (sigLines (Ex.msg.drop (2 + 2)))[0]? = some Ex.line ∧ parseSigLine Ex.line = some Ex.p ∧
    (∀ j, j < 0 → ∀ lj pj, (sigLines (Ex.msg.drop (2 + 2)))[j]? = some lj →
      parseSigLine lj = some pj → (pj.name, pj.hash) ≠ (Ex.p.name, Ex.p.hash)) ∧
    VerifierList [Ex.vR] Ex.p.name Ex.p.hash = .found Ex.vR ∧
    Ex.vR.verify (Ex.msg.take (2 + 1)) Ex.p.sig = false :=
  ⟨by rfl, by rfl, by rfl, fun j hj => absurd hj (Nat.not_lt_zero j), by rfl, by rfl⟩

/-- `text_mutation_rejected`: the key `vA` is unforgeable for `t` (it accepts only `t`), and a message opens -/
example : (∀ name hash k t' sig, VerifierList [Ex.vA] name hash = .found k → k.verify t' sig = true → t' = Ex.t) ∧
    ∃ n, Open Ex.msg (VerifierList [Ex.vA]) = .ok n := by
  refine ⟨?_, _, by rfl⟩
  intro name hash k t' sig hk hv
  obtain ⟨_, hmem, _⟩ := (verifierList_ambiguous [Ex.vA] name hash).2.2.1 k hk
  simp only [List.mem_singleton] at hmem
  subst hmem
  simp only [Ex.vA, Bool.and_eq_true, beq_iff_eq] at hv
  exact hv.1

/-- `text_mutation_rejected'`: a modified message ("hj\n" instead of "hi\n") that still splits -/
example : lastIndexOf sigSplit (Ex.msg.set 1 106) = some 2 ∧ (Ex.msg.set 1 106).take (2 + 1) ≠ Ex.t :=
  ⟨by rfl, by decide⟩

/-- `verifierList_ambiguous`: a list naming one key twice is ambiguous; Open then fails -/
example : VerifierList [Ex.vA, Ex.vR] [97] 1 = .ambiguous := by rfl

/-- `open_ambiguous_fails`: hypotheses hold for the example message and the ambiguous list -/
example : lastIndexOf sigSplit Ex.msg = some 2 ∧
    sigLines (Ex.msg.drop (2 + 2)) = Ex.line :: [] ∧ parseSigLine Ex.line = some Ex.p ∧
    VerifierList [Ex.vA, Ex.vR] Ex.p.name Ex.p.hash = .ambiguous :=
  ⟨by rfl, by rfl, by rfl, by rfl⟩

/-- `newVerifier_binds_key`: an accepted key string (with a toy `sha` returning 00 00 00 01):
    "a+00000001+" ‖ base64(0x01 ‖ 32 zero bytes) -/
example : (NewVerifier (fun _ => [0, 0, 0, 1]) (fun _ _ _ => true)
      ([97, 43, 48, 48, 48, 48, 48, 48, 48, 49, 43] ++ b64enc (1 :: List.replicate 32 0))).toOption.map
        (fun v => (v.name, v.hash)) = some ([97], 1) := by rfl

/-- `newSigner_binds_key`: an accepted key string "PRIVATE+KEY+a+00000001+" ‖ base64(0x01 ‖ 32 bytes) -/
example : (NewSigner (fun _ => [0, 0, 0, 1]) (fun _ => List.replicate 32 0) (fun _ _ => [])
      ([80, 82, 73, 86, 65, 84, 69, 43, 75, 69, 89, 43, 97, 43, 48, 48, 48, 48, 48, 48, 48, 49, 43] ++
        b64enc (1 :: List.replicate 32 7))).toOption.map (fun s => (s.name, s.hash)) = some ([97], 1) := by decide +kernel

/-- `open_ok_iff` / `sign_existing_roundtrip`: the example message opens; a further (unknown) signer "b" satisfies the
    hypotheses for re-signing the opened note -/
example : ∃ n, Open Ex.msg (VerifierList [Ex.vA]) = .ok n ∧
    (∀ s ∈ [Ex.sB], isValidName s.name = true) ∧ n.sigs.length + n.unverifiedSigs.length + [Ex.sB].length ≤ maxSigs ∧
    (∀ s ∈ [Ex.sB], ∃ x, s.sign n.text = some x ∧ x ≠ []) ∧
    (∀ s ∈ [Ex.sB], ∀ x, s.sign n.text = some x → VerifierList [Ex.vA] s.name s.hash = .unknown ∨
      ∃ k, VerifierList [Ex.vA] s.name s.hash = .found k ∧ k.name = s.name ∧ k.hash = s.hash ∧ k.verify n.text x = true) := by
  refine ⟨_, by rfl, ?_, by decide, ?_, ?_⟩
  · intro s hs; simp only [List.mem_singleton] at hs; subst hs; rfl
  · intro s hs; simp only [List.mem_singleton] at hs; subst hs; exact ⟨[9], rfl, by simp⟩
  · intro s hs x _; simp only [List.mem_singleton] at hs; subst hs; left; rfl

/-- … and evaluated: the re-signed message keeps the existing line byte for byte, appends the new one, and opens to the
    same text with the old signature verified and the new one unverified -/
example : (Sign ⟨Ex.t, [⟨[97], 1, Ex.b64⟩], []⟩ [Ex.sB]).toOption.map (fun m => (Open m (VerifierList [Ex.vA])).toOption)
    = some (some ⟨Ex.t, [⟨[97], 1, Ex.b64⟩], [⟨[98], 7, b64enc (putU32 7 ++ [9])⟩]⟩) := by decide +kernel

end ModVerif.Props.C07
