/-
  C19 — The module content hash is the documented formula over names and bytes only.
  Property theorems only; helper lemmas live in ModVerif/Proofs/Dirhash*.lean (zip/directory agreement over
  the C05/C12 zip models: Proofs/DirhashZipCompose.lean).

  `sha : Bytes → Bytes` is SHA-256 as an abstract function.  A "file set" is a list of (name, content)
  pairs with distinct names (`hash1Pairs`, `summaryPairs`: `open` looks the name up); the general form
  takes the list of names and an arbitrary `open` function as the Go code does.
-/
import ModVerif.Proofs.Dirhash
import ModVerif.Proofs.DirhashZip
import ModVerif.Proofs.DirhashZipCompose
import ModVerif.Proofs.BytesLit
namespace ModVerif.Props.C19
open ModVerif ModVerif.Dirhash

/-- one documented summary line: hex SHA-256 of the content, two spaces, the name, newline -/
def docLine (sha : Bytes → Bytes) (p : Bytes × Bytes) : Bytes :=
  hexEnc (sha p.2) ++ [32, 32] ++ p.1 ++ [10]

/-- `sort.Strings` is modelled by insertion sort; the bytewise order is a strict total order, so the model
    returns THE sorted permutation (no other sorting algorithm could return anything else). -/
theorem bytesLt_strict_total : StrictTotal bytesLt := bytesLt_strictTotal

theorem sortStrings_unique (l s : List Bytes) (hs : s.Pairwise (fun a b => bytesLt b a = false)) (p : s.Perm l) :
    sortStrings l = s :=
  insertionSort_eq_of_sorted_perm bytesLt_strictTotal hs p

/-- ★ The documented formula.  For a file set `l` without newline names, and ANY listing `s` of the same
    pairs in strictly increasing bytewise name order,
    Hash1 = "h1:" ++ base64 (sha256 (concatenation of the documented lines of `s`)). -/
theorem hash1_formula (sha : Bytes → Bytes) (l s : List (Bytes × Bytes))
    (hperm : s.Perm l) (hsorted : s.Pairwise (fun a b => bytesLt a.1 b.1 = true))
    (hnl : ∀ p ∈ l, (10 : UInt8) ∉ p.1) :
    hash1Pairs sha l = .ok ([104, 49, 58] ++ Base64.encodeStd (sha (s.flatMap (docLine sha)))) := by
  have hsn : (s.map (·.1)).Pairwise (fun a b => bytesLt a b = true) := List.pairwise_map.2 hsorted
  have hsort : sortStrings (l.map (·.1)) = s.map (·.1) :=
    insertionSort_eq_of_sorted_perm bytesLt_strictTotal (strictSorted_le bytesLt_strictTotal hsn) (hperm.map _)
  have hnd : (l.map (·.1)).Nodup := ((hperm.map (·.1)).nodup_iff).1 (strictSorted_nodup bytesLt_strictTotal hsn)
  have hloop := summaryLoop_ok sha (openPairs l) s
    (fun p hp => (hasNewline_false_iff p.1).2 (hnl p (hperm.subset hp)))
    (fun p hp => lookup_of_mem_nodup l p.1 p.2 hnd (hperm.subset hp))
  unfold hash1Pairs hash1 summary
  rw [hsort, hloop]
  rfl

/-- ★ Independence of the listing order, general form: the result (hash or error) depends only on the
    multiset of listed names and on the `open` function. -/
theorem hash1_perm (sha : Bytes → Bytes) (openF : Bytes → Option Bytes) {l₁ l₂ : List Bytes} (h : l₁.Perm l₂) :
    hash1 sha l₁ openF = hash1 sha l₂ openF := by
  unfold hash1 summary; rw [sortStrings_eq_of_perm h]

/-- ★ Independence of the listing order for file sets: with distinct names, any two listings of the same
    pairs hash alike.  (With a repeated name the content read for it is that of its first occurrence, so
    distinctness is needed; `hash1_perm_needs_distinct` below shows it.) -/
theorem hash1Pairs_perm (sha : Bytes → Bytes) {l₁ l₂ : List (Bytes × Bytes)} (h : l₁.Perm l₂)
    (hnd : (l₁.map (·.1)).Nodup) : hash1Pairs sha l₁ = hash1Pairs sha l₂ := by
  have hnd₂ : (l₂.map (·.1)).Nodup := ((h.map (·.1)).nodup_iff).1 hnd
  have hopen : ∀ n ∈ sortStrings (l₂.map (·.1)), openPairs l₁ n = openPairs l₂ n := by
    intro n hn
    have hn₂ : n ∈ l₂.map (·.1) := (sortStrings_perm _).subset hn
    obtain ⟨p, hp, rfl⟩ := List.mem_map.1 hn₂
    unfold openPairs
    rw [lookup_of_mem_nodup l₂ p.1 p.2 hnd₂ hp, lookup_of_mem_nodup l₁ p.1 p.2 hnd (h.symm.subset hp)]
  unfold hash1Pairs hash1 summary
  rw [sortStrings_eq_of_perm (h.map (·.1)), summaryLoop_congr sha _ _ _ hopen]

/-- ★ The summary determines the files, general form: if two listings produce the same summary then they
    have the same sorted name lists and every name carries the same content digest on both sides.
    (No assumption on `sha`: a digest is hex, hex contains no space, a name contains no newline.) -/
theorem summary_injective (sha : Bytes → Bytes) {files₁ files₂ : List Bytes} {open₁ open₂ : Bytes → Option Bytes}
    {s : Bytes} (h₁ : summary sha files₁ open₁ = .ok s) (h₂ : summary sha files₂ open₂ = .ok s) :
    sortStrings files₁ = sortStrings files₂ ∧
    ∀ n ∈ files₁, ∃ c₁ c₂, open₁ n = some c₁ ∧ open₂ n = some c₂ ∧ sha c₁ = sha c₂ := by
  unfold summary at h₁ h₂
  have ⟨a₁, b₁⟩ := summaryLoop_inv sha open₁ _ s h₁
  have ⟨a₂, b₂⟩ := summaryLoop_inv sha open₂ _ s h₂
  have hl := lines_injective _ _
    (by intro p hp; obtain ⟨n, hn, rfl⟩ := List.mem_map.1 hp; exact (hasNewline_false_iff n).1 (a₁ n hn).1)
    (by intro p hp; obtain ⟨n, hn, rfl⟩ := List.mem_map.1 hp; exact (hasNewline_false_iff n).1 (a₂ n hn).1)
    (b₁.symm.trans b₂)
  have hnames : sortStrings files₁ = sortStrings files₂ := by
    have := congrArg (List.map (·.2)) hl
    simpa [List.map_map, Function.comp_def] using this
  refine ⟨hnames, ?_⟩
  intro n hn
  have hn₁ : n ∈ sortStrings files₁ := (sortStrings_perm files₁).symm.subset hn
  have hd : digestOf sha open₁ n = digestOf sha open₂ n := by
    have := congrArg (List.map (·.1)) hl
    rw [← hnames] at this
    simp only [List.map_map, Function.comp_def] at this
    exact List.map_inj_left.1 this n hn₁
  obtain ⟨c₁, hc₁⟩ := (a₁ n hn₁).2
  obtain ⟨c₂, hc₂⟩ := (a₂ n (hnames ▸ hn₁)).2
  refine ⟨c₁, c₂, hc₁, hc₂, ?_⟩
  simpa [digestOf, hc₁, hc₂] using hd

/-- ★ Different sets of (name, content) pairs always produce different summaries: for file sets with
    distinct names and a collision-free `sha`, equal summaries imply the same set of pairs. -/
theorem summary_injective_sets (sha : Bytes → Bytes) (hsha : Function.Injective sha)
    {l₁ l₂ : List (Bytes × Bytes)} (hnd₁ : (l₁.map (·.1)).Nodup) (hnd₂ : (l₂.map (·.1)).Nodup) {s : Bytes}
    (h₁ : summaryPairs sha l₁ = .ok s) (h₂ : summaryPairs sha l₂ = .ok s) : l₁.Perm l₂ := by
  have key : ∀ {l l' : List (Bytes × Bytes)}, (l.map (·.1)).Nodup →
      summaryPairs sha l = .ok s → summaryPairs sha l' = .ok s → ∀ p, p ∈ l → p ∈ l' := by
    intro l l' hnd h h' p hp
    obtain ⟨c₁, c₂, e₁, e₂, e⟩ := (summary_injective sha h h').2 p.1 (List.mem_map.2 ⟨p, hp, rfl⟩)
    have : openPairs l p.1 = some p.2 := lookup_of_mem_nodup l p.1 p.2 hnd hp
    rw [this] at e₁; cases e₁
    have := hsha e
    rw [← this] at e₂
    exact mem_of_lookup_eq_some l' p.1 p.2 e₂
  exact (List.perm_ext_iff_of_nodup (nodup_of_keys_nodup hnd₁) (nodup_of_keys_nodup hnd₂)).2
    (fun p => ⟨key hnd₁ h₁ h₂ p, key hnd₂ h₂ h₁ p⟩)

/-- ★ Names containing a newline are refused: Hash1 never returns a hash for such a list ... -/
theorem newline_rejected (sha : Bytes → Bytes) (files : List Bytes) (openF : Bytes → Option Bytes) (n : Bytes)
    (hm : n ∈ files) (hn : (10 : UInt8) ∈ n) (r : Bytes) : hash1 sha files openF ≠ .ok r := by
  have hn' : hasNewline n = true := by
    cases e : hasNewline n with
    | true => rfl
    | false => exact absurd hn ((hasNewline_false_iff n).1 e)
  unfold hash1 summary
  cases e : summaryLoop sha openF (sortStrings files) with
  | error _ => simp
  | ok s => exact absurd e (summaryLoop_newline sha openF _ n ((sortStrings_perm files).symm.subset hm) hn' s)

/-- ... and when every listed file can be read, the error is the newline error. -/
theorem newline_rejected_err (sha : Bytes → Bytes) (files : List Bytes) (openF : Bytes → Option Bytes) (n : Bytes)
    (hm : n ∈ files) (hn : (10 : UInt8) ∈ n) (ho : ∀ m ∈ files, ∃ c, openF m = some c) :
    hash1 sha files openF = .error .newline := by
  have hn' : hasNewline n = true := by
    cases e : hasNewline n with
    | true => rfl
    | false => exact absurd hn ((hasNewline_false_iff n).1 e)
  unfold hash1 summary
  rw [summaryLoop_newline_err sha openF _ n ((sortStrings_perm files).symm.subset hm) hn'
    (fun m hm' => ho m ((sortStrings_perm files).subset hm'))]

/-- Conversely a newline-free list whose files all open is never refused. -/
theorem hash1_ok (sha : Bytes → Bytes) (l : List (Bytes × Bytes)) (hnd : (l.map (·.1)).Nodup)
    (hnl : ∀ p ∈ l, (10 : UInt8) ∉ p.1) : ∃ r, hash1Pairs sha l = .ok r := by
  obtain ⟨s, hs⟩ : ∃ s, summaryLoop sha (openPairs l) (sortStrings (l.map (·.1))) = .ok s := by
    have hperm := sortStrings_perm (l.map (·.1))
    let s' := (sortStrings (l.map (·.1))).map fun n => (n, ((openPairs l n).getD []))
    have hmap : s'.map (·.1) = sortStrings (l.map (·.1)) := by simp [s', List.map_map, Function.comp_def]
    have := summaryLoop_ok sha (openPairs l) s'
      (by
        intro p hp
        obtain ⟨n, hn, rfl⟩ := List.mem_map.1 hp
        obtain ⟨q, hq, rfl⟩ := List.mem_map.1 (hperm.subset hn)
        exact (hasNewline_false_iff _).2 (hnl q hq))
      (by
        intro p hp
        obtain ⟨n, hn, rfl⟩ := List.mem_map.1 hp
        obtain ⟨q, hq, rfl⟩ := List.mem_map.1 (hperm.subset hn)
        simp [openPairs, lookup_of_mem_nodup l q.1 q.2 hnd hq])
    rw [hmap] at this
    exact ⟨_, this⟩
  exact ⟨_, by unfold hash1Pairs hash1 summary; rw [hs]⟩

/-- ★ Zip/directory agreement at the level of names and contents: for files with distinct clean relative
    paths and a clean relative prefix `path@version`, hashing the archive `zip.Create` writes equals hashing
    the directory it extracts to under that prefix.  (That `zip.Create`/`zip.Unzip` write exactly these
    entries / files is C05/C12; here it is the naming convention `modZipEntries` / `Root.dir`.) -/
theorem zip_dir_agree (sha : Bytes → Bytes) (path version : Bytes) (files : List (Bytes × Bytes))
    (hpfx : CleanRel (modPrefix path version)) (hrel : ∀ f ∈ files, CleanRel f.1)
    (hnd : (files.map (·.1)).Nodup) :
    hashModZip sha path version files = hashUnzipped sha path version files :=
  hashModZip_eq_hashUnzipped sha path version files hpfx hrel hnd

/-! ### non-vacuity and sharpness -/

/-- a two-file module (listed out of order) satisfies the hypotheses of `hash1_formula` -/
example : ∃ s : List (Bytes × Bytes),
    s.Perm [([98], [1]), ([97], [2, 3])] ∧ s.Pairwise (fun a b => bytesLt a.1 b.1 = true) ∧
    (∀ p ∈ [(([98] : Bytes), ([1] : Bytes)), ([97], [2, 3])], (10 : UInt8) ∉ p.1) :=
  ⟨[([97], [2, 3]), ([98], [1])], List.Perm.swap _ _ _, by decide, by decide⟩

/-- distinctness is needed in `hash1Pairs_perm`: with the name `a` listed twice with different contents
    the two listing orders read different contents (shown for `sha := id`). -/
theorem hash1_perm_needs_distinct :
    hash1Pairs id [([97], [1]), ([97], [2])] ≠ hash1Pairs id [([97], [2]), ([97], [1])] := by decide

/-- `summary_injective_sets` is not vacuous: a one-file set produces a summary (with `sha := id`) -/
example : summaryPairs id [([97], [255])] = .ok [102, 102, 32, 32, 97, 10] := by decide

/-- the collision-freedom hypothesis of `summary_injective_sets` is satisfiable -/
example : Function.Injective (id : Bytes → Bytes) := fun _ _ h => h

/-- `newline_rejected_err` on a concrete list -/
example : hash1 id [[97], [97, 10, 98]] (fun _ => some []) = .error .newline := by decide

/-- `zip_dir_agree` is not vacuous: `m@v` and `a/b.go`, `c` satisfy `CleanRel` -/
example : CleanRel (modPrefix [109] [118]) ∧ CleanRel [97, 47, 98, 46, 103, 111] ∧ CleanRel [99] := by
  refine ⟨?_, ?_, ?_⟩ <;> exact cleanRel_of_check _ (by decide)


/-! ### zip/directory agreement over the zip models (C05 `create`, C12 `unzip`) -/

/-- (1) The entries a successful `zip.Create` writes ARE the naming convention of `zip_dir_agree`:
    `path@version/` ++ file path with the file's content, for the valid files of the file check, in order. -/
theorem create_is_modZipEntries (E : Zip.Env) (mpath mvers : Bytes) (files : List Zip.FileInfo)
    (es : List Zip.Entry) (h : Zip.create E mpath mvers files = .ok es) :
    DirhashZip.zipPairs es = modZipEntries mpath mvers (DirhashZip.validPairs E files) :=
  DirhashZip.zipPairs_create E mpath mvers files es h

/-- (2) Extracting the created archive into a fresh target succeeds, and the directory tree read off the
    extraction effects (`treeOfEffects`: the files created strictly below `dir`, by their path relative to
    `dir`, with the content written) is the directory holding exactly the valid files with their contents. -/
theorem unzip_tree_is_files (E : Zip.Env) (hE : ZipSpec.CfpSound E.cfp) (dir : Bytes)
    (hdir : dir = [] ∨ PathClean.pathClean dir = dir ∨ ([46, 46] : Bytes) ∉ splitOn 47 dir) (t : Zip.Target)
    (ht : t = .missing ∨ t = .emptyDir) (mpath mvers : Bytes) (files : List Zip.FileInfo) (es : List Zip.Entry)
    (zipSize : Nat) (h : Zip.create E mpath mvers files = .ok es) (hz : zipSize ≤ Zip.MaxZipFile) :
    (Zip.unzip E dir t mpath mvers zipSize es).err = none ∧
    DirhashZip.treeOfEffects dir (Zip.unzip E dir t mpath mvers zipSize es).effects =
      .dir (DirhashZip.validPairs E files) :=
  DirhashZip.treeOfEffects_unzip E hE dir hdir t ht mpath mvers files es zipSize h hz

/-- (3) Every `module.CheckFilePath`-accepted path is a clean relative path; so is `path@version` for every
    accepted module path and version; the valid files have pairwise distinct paths. -/
theorem valid_names_cleanRel (E : Zip.Env) (hE : ZipSpec.CfpSound E.cfp) (hM : DirhashZip.ModOKSound E.modOK)
    (mpath mvers : Bytes) (hm : E.modOK mpath mvers = true) (files : List Zip.FileInfo) :
    CleanRel (modPrefix mpath mvers) ∧ (∀ p, E.cfp p = true → CleanRel p) ∧
    (∀ q ∈ DirhashZip.validPairs E files, CleanRel q.1) ∧
    ((DirhashZip.validPairs E files).map (·.1)).Nodup :=
  ⟨DirhashZip.cleanRel_modPrefix_of_sound hM hm, fun _ hp => DirhashZip.cleanRel_of_cfpSound hE hp,
    DirhashZip.validPairs_cleanRel E hE files, DirhashZip.validPairs_nodup E files⟩

/-- The hypothesis `ModOKSound` (an accepted module path has no empty, `.` or `..` element, an accepted
    version no slash) holds for the models of `module.Check` / `module.CanonicalVersion` the zip driver plugs
    into `Env.modOK`; `CfpSound` holds for the model of `module.CheckFilePath` (`Props.C12.cfpSound_checkFilePath`). -/
theorem modOKSound_check : DirhashZip.ModOKSound DirhashZip.modOKOf := DirhashZip.modOKSound_check

/-- ★ Zip/directory agreement, composed over the zip models.  For every environment whose `CheckFilePath`
    rejects empty, `.` and `..` elements and whose module check rejects such elements in the path and a
    slash in the version, every target directory string that is empty, clean, or written without `..`
    (hypotheses of C05 `create_unzip`), every fresh target, module path, version and file list: if
    `zip.Create` succeeds with entries `es`, then `zip.Unzip` of `es` into the target succeeds, and
    `HashZip` of the archive equals `HashDir` of the directory tree the extraction effects build at `dir`,
    under the prefix `path@version`. -/
theorem zip_dir_agree_composed (sha : Bytes → Bytes) (E : Zip.Env) (hE : ZipSpec.CfpSound E.cfp)
    (hM : DirhashZip.ModOKSound E.modOK) (dir : Bytes)
    (hdir : dir = [] ∨ PathClean.pathClean dir = dir ∨ ([46, 46] : Bytes) ∉ splitOn 47 dir) (t : Zip.Target)
    (ht : t = .missing ∨ t = .emptyDir) (mpath mvers : Bytes) (files : List Zip.FileInfo) (es : List Zip.Entry)
    (zipSize : Nat) (h : Zip.create E mpath mvers files = .ok es) (hz : zipSize ≤ Zip.MaxZipFile) :
    (Zip.unzip E dir t mpath mvers zipSize es).err = none ∧
    hashZip sha (DirhashZip.zipPairs es) =
      hashDir sha (DirhashZip.treeOfEffects dir (Zip.unzip E dir t mpath mvers zipSize es).effects)
        (mpath ++ [64] ++ mvers) :=
  ⟨(DirhashZip.treeOfEffects_unzip E hE dir hdir t ht mpath mvers files es zipSize h hz).1,
    DirhashZip.hashZip_create_eq_hashDir_unzip sha E hE hM dir hdir t ht mpath mvers files es zipSize h hz⟩

/-! non-vacuity of `zip_dir_agree_composed`: a three-file module with a nested directory -/

/-- `CheckFilePath` reduced to the element rule, the real module check -/
def exEnv : Zip.Env :=
  { cfp := fun p => !p.isEmpty && (splitOn 47 p).all (fun c => c != [] && c != [46] && c != [46, 46]),
    toFold := Zip.lowerAscii, modOK := DirhashZip.modOKOf }

theorem exEnv_cfpSound : ZipSpec.CfpSound exEnv.cfp := Proofs.ZipB.cfpSound_elemRule

def exFiles : List Zip.FileInfo :=
  [⟨B "go.mod", .regular, 2, B "hi", false⟩, ⟨B "a/b.go", .regular, 1, B "x", false⟩,
   ⟨B "a/c/d.go", .regular, 1, B "y", false⟩]

def exEntries : List Zip.Entry :=
  [⟨B "example.com/m@v1.0.0/go.mod", 2, B "hi"⟩, ⟨B "example.com/m@v1.0.0/a/b.go", 1, B "x"⟩,
   ⟨B "example.com/m@v1.0.0/a/c/d.go", 1, B "y"⟩]

/-- kernel evaluation: `create` succeeds with the three entries; `unzip` into the missing target `t` succeeds
    and creates `t/go.mod`, `t/a/b.go`, `t/a/c/d.go`; the tree is the three files; both hashes are computed
    (with `sha := id`, as in the examples above) and are the same string -/
example : (Zip.create exEnv (B "example.com/m") (B "v1.0.0") exFiles).toOption = some exEntries ∧
    (Zip.unzip exEnv (B "t") .missing (B "example.com/m") (B "v1.0.0") 100 exEntries).err = none ∧
    Zip.createdFiles (Zip.unzip exEnv (B "t") .missing (B "example.com/m") (B "v1.0.0") 100 exEntries).effects =
      [B "t/go.mod", B "t/a/b.go", B "t/a/c/d.go"] ∧
    DirhashZip.filesUnder (B "t") (Zip.unzip exEnv (B "t") .missing (B "example.com/m") (B "v1.0.0") 100 exEntries).effects =
      [(B "go.mod", B "hi"), (B "a/b.go", B "x"), (B "a/c/d.go", B "y")] ∧
    (∃ r, hashZip id (DirhashZip.zipPairs exEntries) = .ok r ∧
      hashDir id (DirhashZip.treeOfEffects (B "t")
        (Zip.unzip exEnv (B "t") .missing (B "example.com/m") (B "v1.0.0") 100 exEntries).effects)
        (B "example.com/m@v1.0.0") = .ok r) := by
  -- the extraction is evaluated once
  have hu : (Zip.unzip exEnv (B "t") .missing (B "example.com/m") (B "v1.0.0") 100 exEntries).err = none ∧
      (Zip.unzip exEnv (B "t") .missing (B "example.com/m") (B "v1.0.0") 100 exEntries).effects =
      [.mkdirAll (B "t"), .mkdirAll (B "t"), .createExcl (B "t/go.mod") (some (B "hi")),
       .mkdirAll (B "t/a"), .createExcl (B "t/a/b.go") (some (B "x")),
       .mkdirAll (B "t/a/c"), .createExcl (B "t/a/c/d.go") (some (B "y"))] := by
    unfold exEntries; decide_bytes
  rw [hu.2]
  refine ⟨?_, hu.1, ?_, ?_, (hashZip id (DirhashZip.zipPairs exEntries)).toOption.getD [], ?_, ?_⟩
  · unfold exFiles exEntries; decide_bytes
  · decide_bytes
  · decide_bytes
  all_goals unfold exEntries; decide_bytes

/-- … and the theorem applies to it (all hypotheses hold) -/
example (sha : Bytes → Bytes) : ∃ es, Zip.create exEnv (B "example.com/m") (B "v1.0.0") exFiles = .ok es ∧
    (Zip.unzip exEnv (B "t") .missing (B "example.com/m") (B "v1.0.0") 100 es).err = none ∧
    hashZip sha (DirhashZip.zipPairs es) =
      hashDir sha (DirhashZip.treeOfEffects (B "t")
        (Zip.unzip exEnv (B "t") .missing (B "example.com/m") (B "v1.0.0") 100 es).effects)
        (B "example.com/m" ++ [64] ++ B "v1.0.0") := by
  have hc : (Zip.create exEnv (B "example.com/m") (B "v1.0.0") exFiles).toOption = some exEntries := by
    unfold exFiles exEntries; decide_bytes
  cases hcr : Zip.create exEnv (B "example.com/m") (B "v1.0.0") exFiles with
  | error e => rw [hcr] at hc; cases hc
  | ok es =>
    obtain ⟨u1, u2⟩ := zip_dir_agree_composed sha exEnv exEnv_cfpSound modOKSound_check (B "t")
      (Or.inr (Or.inl (by decide_bytes))) .missing (Or.inl rfl) (B "example.com/m") (B "v1.0.0") exFiles es 100
      hcr (by decide)
    exact ⟨es, rfl, u1, u2⟩

end ModVerif.Props.C19
