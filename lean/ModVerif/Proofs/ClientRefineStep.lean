/-
  The coupling invariant `Coupled` (Proofs/ClientRefineHead.lean) is preserved by every step of
  the lock-step product, one lemma per program counter; progress (the machine can always take the step the sequential
  environment dictates).
-/
import ModVerif.Proofs.ClientRefineHead
namespace ModVerif.ClientRefine
open ModVerif ModVerif.Client ModVerif.Tile

set_option linter.unusedSectionVars false

section
variable {σ H : Type} [DecidableEq H]
variable {P : Params H} {E : Env σ} {MP : MParams H} {cl : Nat → Nat} {presented : Nat → Option Bytes}
  {priv : Nat → Bool} {name : Bytes} {cfg : σ → Bytes} {vs : List Note.Verifier} {t : Nat} {msg0 : Bytes}
  {target : Except Err Unit × World σ H} {tr0 : List Effect} {bw : List (Option Bytes × Option Bytes)}
  {bs : List (Nat × Option Bytes × Option Bytes)}

theorem openTree_err (P : Params H) (vs : List Note.Verifier) (m : Bytes) (e : Err) (h : openTree P vs m = .error e) :
    e = .note := by
  unfold openTree at h
  split at h
  · cases h; rfl
  · split at h
    · cases h; rfl
    · cases h

theorem absRes_error_ne {e : Err} (h : e ≠ .security) : absRes (.error e) = .err := by
  cases e <;> simp_all [absRes]

theorem absChk_ok {x : Except Err Unit} (h : absChk x = .ok) : x = .ok () := by
  cases x with
  | ok u => cases u; rfl
  | error e => cases e <;> simp [absChk] at h

theorem absChk_fork {x : Except Err Unit} (h : absChk x = .fork) : x = .error .security := by
  cases x with
  | ok u => simp [absChk] at h
  | error e => cases e <;> simp [absChk] at h ⊢

theorem absChk_error {x : Except Err Unit} (h : absChk x = .error) : ∃ e, x = .error e ∧ e ≠ .security := by
  cases x with
  | ok u => simp [absChk] at h
  | error e => cases e <;> simp [absChk] at h ⊢

theorem relG_of_fr {w w' : World σ H} {s s' : MSt H} (hR : RelG cl name cfg vs t w s) (hf : Fr cfg w w')
    (h1 : s'.latest (cl t) = s.latest (cl t)) (h2 : s'.latestMsg (cl t) = s.latestMsg (cl t))
    (h3 : s'.config = s.config) : RelG cl name cfg vs t w' s' :=
  ⟨hf.name.trans hR.name, hf.verifiers.trans hR.verifiers, hf.nosec hR.nosec, by rw [h1, hf.latest]; exact hR.latest,
    by rw [h2, hf.latestMsg]; exact hR.latestMsg, by rw [h3, hf.cfg]; exact hR.config⟩

theorem obs_quiet {w w' : World σ H} {s s' : MSt H} (hO : Obs P t tr0 bw bs w s)
    (htr : ∃ es, w'.tr = w.tr ++ es ∧ ∀ e ∈ es, Quiet e) (h1 : s'.writes = s.writes) (h2 : s'.sec = s.sec) :
    Obs P t tr0 bw bs w' s' := by
  obtain ⟨ext, e1, e2, ns, e3, e4⟩ := hO
  obtain ⟨es, f1, f2⟩ := htr
  refine ⟨ext ++ es, by rw [f1, e1, List.append_assoc], ?_, ns, by rw [h2, e3], ?_⟩
  · rw [h1, e2, trWrites_append, trWrites_quiet es f2, List.append_nil]
  · rw [trSecs_append, trSecs_quiet es f2, List.append_nil]; exact e4

theorem obs_same {w : World σ H} {s s' : MSt H} (hO : Obs P t tr0 bw bs w s)
    (h1 : s'.writes = s.writes) (h2 : s'.sec = s.sec) : Obs P t tr0 bw bs w s' :=
  obs_quiet hO ⟨[], by simp, by simp⟩ h1 h2

theorem locOK_afterMem (o : ClientLatest.Outer) (when : Client.When) (w' : World σ H) (l' : MLoc H)
    (hpc : l'.pc = ClientLatest.afterMem o (absWhen when)) (hcfg : o = .loop → l'.cfg = optB (cfg w'.s))
    (ht : afterMemSeq P E o (P.retries - 1) (unB l'.cfg) (.ok when, w') = target) :
    LocOK P E vs cfg msg0 target w' l' := by
  cases o <;> cases when <;> simp only [absWhen, ClientLatest.afterMem] at hpc <;> simp only [LocOK, hpc] <;>
    simp [afterMemSeq] at ht ⊢
  all_goals (first | exact ht | (subst ht; exact ⟨rfl, rfl⟩) | skip)
  all_goals (first | exact ⟨hcfg rfl, by simpa [afterMemSeq] using ht⟩ | skip)

theorem step_entry {w : World σ H} {s s' : MSt H} {r : ClientLatest.Res} (hpriv : priv t = false)
    (hC : Coupled P E cl name cfg vs t msg0 target tr0 bw bs w s) (hpc : (s.th t).pc = .entry)
    (h : ClientLatest.step MP cl presented priv s t r = some s') :
    Coupled P E cl name cfg vs t msg0 target tr0 bw bs w s' := by
  obtain ⟨hR, hL, hO⟩ := hC
  simp only [LocOK, hpc] at hL
  unfold ClientLatest.step at h
  simp only [hpc, hpriv] at h
  simp at h; subst h
  refine ⟨⟨hR.name, hR.verifiers, hR.nosec, hR.latest, hR.latestMsg, hR.config⟩, ?_, obs_same hO rfl rfl⟩
  simp only [ClientLatest.upd_same, LocOK]
  exact hL

theorem step_start {w : World σ H} {s s' : MSt H} {r : ClientLatest.Res} (hpres : presented t = optB msg0)
    (hC : Coupled P E cl name cfg vs t msg0 target tr0 bw bs w s) (hpc : (s.th t).pc = .start)
    (h : ClientLatest.step MP cl presented priv s t r = some s') :
    Coupled P E cl name cfg vs t msg0 target tr0 bw bs w s' := by
  obtain ⟨hR, hL, hO⟩ := hC
  simp only [LocOK, hpc] at hL
  unfold ClientLatest.step at h
  simp only [hpc] at h
  simp at h; subst h
  refine ⟨⟨hR.name, hR.verifiers, hR.nosec, hR.latest, hR.latestMsg, hR.config⟩, ?_, obs_same hO rfl rfl⟩
  simp only [ClientLatest.upd_same, LocOK, hpres, unB_optB]
  refine And.intro trivial (And.intro (fun h => ?_) ?_)
  · cases h
  · rw [← mergeLatest_eq]; exact hL

theorem when_zero (n : Nat) : (if n = 0 then ClientLatest.When.now else ClientLatest.When.past) =
    absWhen (if n == 0 then Client.When.now else Client.When.past) := by
  by_cases h : n = 0 <;> simp [h, absWhen]

theorem step_memRead {w : World σ H} {s s' : MSt H} {r : ClientLatest.Res} (hA : Abs P E vs MP)
    (o : ClientLatest.Outer)
    (hC : Coupled P E cl name cfg vs t msg0 target tr0 bw bs w s) (hpc : (s.th t).pc = .memRead o)
    (h : ClientLatest.step MP cl presented priv s t r = some s') :
    Coupled P E cl name cfg vs t msg0 target tr0 bw bs w s' := by
  obtain ⟨hR, hL, hO⟩ := hC
  simp only [LocOK, hpc] at hL
  obtain ⟨hm, hc, ht⟩ := hL
  unfold ClientLatest.step at h
  simp only [hpc] at h
  cases hmsg : (s.th t).msg with
  | none =>
    simp only [hmsg] at h
    simp at h; subst h
    refine ⟨⟨hR.name, hR.verifiers, hR.nosec, hR.latest, hR.latestMsg, hR.config⟩, ?_, obs_same hO rfl rfl⟩
    simp only [ClientLatest.upd_same]
    rw [hmsg] at ht
    simp only [unB, mergeLatestMem_eq, List.isEmpty_nil, if_true] at ht
    refine locOK_afterMem o _ w _ ?_ hc ht
    simp only [hA.size, hR.latest]
    rw [when_zero]
  | some m =>
    simp only [hmsg] at h
    rw [hmsg] at hm ht
    simp only [unB] at hm ht
    obtain ⟨_, hne⟩ := optB_some hm.symm
    rw [mergeLatestMem_eq, hne, hR.verifiers] at ht
    simp only [Bool.false_eq_true, if_false] at ht
    rw [hA.parse] at h
    cases hot : openTree P vs m with
    | error e =>
      simp only [hot] at h ht
      simp at h; subst h
      refine ⟨⟨hR.name, hR.verifiers, hR.nosec, hR.latest, hR.latestMsg, hR.config⟩, ?_, obs_same hO rfl rfl⟩
      simp only [ClientLatest.upd_same, LocOK]
      have he := openTree_err P vs m e hot
      subst he
      cases o <;> simp only [afterMemSeq] at ht <;> subst ht <;> exact ⟨rfl, rfl⟩
    | ok tr =>
      simp only [hot] at h ht
      simp at h; subst h
      refine ⟨⟨hR.name, hR.verifiers, hR.nosec, hR.latest, hR.latestMsg, hR.config⟩, ?_, obs_same hO rfl rfl⟩
      simp only [ClientLatest.upd_same, LocOK, unB]
      exact ⟨hR.latest, hR.latestMsg, hm, hot, hc, ht⟩

theorem afterMemSeq_error (o : ClientLatest.Outer) (f : Nat) (c : Bytes) (e : Err) (w' : World σ H) :
    afterMemSeq P E o f c (.error e, w') = (.error e, w') := by
  cases o <;> rfl

theorem coupled_done_err {w w' : World σ H} {s : MSt H} (l' : MLoc H) (e : Err)
    (hR : RelG cl name cfg vs t w s) (hO : Obs P t tr0 bw bs w s) (hf : Fr cfg w w')
    (hpc' : l'.pc = .done .err) (he : e ≠ .security) (ht : (.error e, w') = target) :
    Coupled P E cl name cfg vs t msg0 target tr0 bw bs w' { s with th := ClientLatest.upd s.th t l' } := by
  refine ⟨relG_of_fr hR hf rfl rfl rfl, ?_, obs_quiet hO hf.trace rfl rfl⟩
  simp only [ClientLatest.upd_same, LocOK, hpc']
  subst ht
  exact ⟨absRes_error_ne he, rfl⟩

theorem coupled_done_fork (hE : CfgCell E name cfg) {w w1 : World σ H} {s : MSt H} (l' : MLoc H)
    (a b : Option Bytes) (h : H) (tail : Bytes)
    (hR : RelG cl name cfg vs t w s) (hO : Obs P t tr0 bw bs w s) (hf : Fr cfg w w1)
    (hpc' : l'.pc = .done .security)
    (ht : (.error .security, securityError E w1 (securityHead P (unB a) (unB b) h ++ tail)) = target) :
    Coupled P E cl name cfg vs t msg0 target tr0 bw bs
      (securityError E w1 (securityHead P (unB a) (unB b) h ++ tail))
      { s with th := ClientLatest.upd s.th t l', sec := (t, a, b) :: s.sec } := by
  have hR1 : RelG cl name cfg vs t w1 s := relG_of_fr hR hf rfl rfl rfl
  refine ⟨⟨hR1.name, hR1.verifiers, hR1.nosec, hR1.latest, hR1.latestMsg, ?_⟩, ?_, ?_⟩
  · show s.config = optB (cfg (E.securityError w1.s _))
    rw [hE.keep.securityError]; exact hR1.config
  · simp only [ClientLatest.upd_same, LocOK, hpc']
    subst ht
    exact ⟨rfl, rfl⟩
  · obtain ⟨ext, e1, e2, ns, e3, e4⟩ := hO
    obtain ⟨es, f1, f2⟩ := hf.trace
    refine ⟨ext ++ es ++ [.securityError (securityHead P (unB a) (unB b) h ++ tail)], ?_, ?_, (t, a, b) :: ns, ?_, ?_⟩
    · show w1.tr ++ _ = _
      rw [f1, e1]; simp
    · show s.writes = _
      rw [e2, trWrites_append, trWrites_append, trWrites_quiet es f2]
      simp [trWrites]
    · show (t, a, b) :: s.sec = _
      rw [e3]; rfl
    · rw [trSecs_append, trSecs_append, trSecs_quiet es f2, List.append_nil]
      exact SecRel.snoc a b h tail e4

theorem when_lt (a b : Nat) : (if a < b then ClientLatest.When.past else ClientLatest.When.now) =
    absWhen (if a < b then Client.When.past else Client.When.now) := by
  by_cases h : a < b <;> simp [h, absWhen]

theorem step_memCheck {w : World σ H} {s s' : MSt H} {r : ClientLatest.Res} (hA : Abs P E vs MP)
    (hE : CfgCell E name cfg) (o : ClientLatest.Outer)
    (hC : Coupled P E cl name cfg vs t msg0 target tr0 bw bs w s) (hpc : (s.th t).pc = .memCheck o)
    (hr : r = answer P E w (s.th t))
    (h : ClientLatest.step MP cl presented priv s t r = some s') :
    Coupled P E cl name cfg vs t msg0 target tr0 bw bs (wstep P E w (s.th t)) s' := by
  obtain ⟨hR, hL, hO⟩ := hC
  simp only [LocOK, hpc] at hL
  obtain ⟨hl, hlm, hm, hot, hc, ht⟩ := hL
  have hans : r = absChk (seqCheck P E w (s.th t)).1 := by rw [hr]; simp only [answer, hpc]
  have hws : wstep P E w (s.th t) = (seqCheck P E w (s.th t)).2 := by simp only [wstep, hpc]
  rw [hws]
  have hulm : unB (s.th t).latestMsg = w.c.latestMsg := by rw [hlm, unB_optB]
  unfold ClientLatest.step at h
  simp only [hpc, hA.size] at h
  by_cases hsz : (s.th t).tree.n ≤ (s.th t).latest.n
  · simp only [hsz, if_true] at h
    have hsc : seqCheck P E w (s.th t) =
        checkTrees P E w (s.th t).tree (unB (s.th t).msg) w.c.latest w.c.latestMsg := by
      rw [seqCheck, if_pos hsz, hulm, hl]
    have hsz' : (s.th t).tree.n ≤ w.c.latest.n := hl ▸ hsz
    simp only [memCheckSeq, hsz', if_true] at ht
    rw [hsc] at hans ⊢
    have hcases := checkTrees_cases hE.keep P w hR.nosec (s.th t).tree (unB (s.th t).msg) w.c.latest w.c.latestMsg
    generalize checkTrees P E w (s.th t).tree (unB (s.th t).msg) w.c.latest w.c.latestMsg = rc at *
    split at h
    · cases r
      · -- ok
        simp at h; subst h
        have hok := absChk_ok hans.symm
        rw [hok] at ht hcases
        simp only at ht
        rcases hcases with ⟨_, hf⟩ | ⟨hbad, _⟩
        · refine ⟨relG_of_fr hR hf rfl rfl rfl, ?_, obs_quiet hO hf.trace rfl rfl⟩
          simp only [ClientLatest.upd_same]
          refine locOK_afterMem o _ rc.2 _ ?_ (fun ho => by rw [hf.cfg]; exact hc ho) ht
          simp only [hl]
          rw [when_lt]
        · cases hbad
      · -- fork
        simp at h; subst h
        have hfk := absChk_fork hans.symm
        rw [hfk, afterMemSeq_error] at ht
        rcases hcases with ⟨hbad, _⟩ | ⟨_, w1, hh, tail, hf, hw1⟩
        · exact absurd hfk hbad
        · rw [hw1] at ht ⊢
          rw [← hulm] at ht ⊢
          exact coupled_done_fork hE _ _ _ hh tail hR hO hf rfl ht
      · -- error
        simp at h; subst h
        obtain ⟨e, he1, he2⟩ := absChk_error hans.symm
        rw [he1, afterMemSeq_error] at ht
        rcases hcases with ⟨_, hf⟩ | ⟨hbad, _⟩
        · exact coupled_done_err _ e hR hO hf rfl he2 ht
        · rw [he1] at hbad; cases hbad; exact absurd rfl he2
    · cases h
  · simp only [hsz, if_false] at h
    have hsc : seqCheck P E w (s.th t) =
        checkTrees P E w w.c.latest w.c.latestMsg (s.th t).tree (unB (s.th t).msg) := by
      rw [seqCheck, if_neg hsz, hulm, hl]
    have hsz' : ¬ (s.th t).tree.n ≤ w.c.latest.n := hl ▸ hsz
    simp only [memCheckSeq, hsz', if_false] at ht
    rw [hsc] at hans ⊢
    have hcases := checkTrees_cases hE.keep P w hR.nosec w.c.latest w.c.latestMsg (s.th t).tree (unB (s.th t).msg)
    generalize checkTrees P E w w.c.latest w.c.latestMsg (s.th t).tree (unB (s.th t).msg) = rc at *
    split at h
    · cases r
      · -- ok
        simp at h; subst h
        have hok := absChk_ok hans.symm
        rw [hok] at ht hcases
        simp only at ht
        rcases hcases with ⟨_, hf⟩ | ⟨hbad, _⟩
        · refine ⟨relG_of_fr hR hf rfl rfl rfl, ?_, obs_quiet hO hf.trace rfl rfl⟩
          simp only [ClientLatest.upd_same, LocOK]
          exact ⟨by rw [hl, hf.latest], hm, fun ho => by rw [hf.cfg]; exact hc ho, ht⟩
        · cases hbad
      · -- fork
        simp at h; subst h
        have hfk := absChk_fork hans.symm
        rw [hfk, afterMemSeq_error] at ht
        rcases hcases with ⟨hbad, _⟩ | ⟨_, w1, hh, tail, hf, hw1⟩
        · exact absurd hfk hbad
        · rw [hw1] at ht ⊢
          rw [← hulm] at ht ⊢
          exact coupled_done_fork hE _ _ _ hh tail hR hO hf rfl ht
      · -- error
        simp at h; subst h
        obtain ⟨e, he1, he2⟩ := absChk_error hans.symm
        rw [he1, afterMemSeq_error] at ht
        rcases hcases with ⟨_, hf⟩ | ⟨hbad, _⟩
        · exact coupled_done_err _ e hR hO hf rfl he2 ht
        · rw [he1] at hbad; cases hbad; exact absurd rfl he2
    · cases h

theorem step_memInstall {w : World σ H} {s s' : MSt H} {r : ClientLatest.Res} (o : ClientLatest.Outer)
    (hC : Coupled P E cl name cfg vs t msg0 target tr0 bw bs w s) (hpc : (s.th t).pc = .memInstall o)
    (h : ClientLatest.step MP cl presented priv s t r = some s') :
    Coupled P E cl name cfg vs t msg0 target tr0 bw bs (wstep P E w (s.th t)) s' := by
  obtain ⟨hR, hL, hO⟩ := hC
  simp only [LocOK, hpc] at hL
  obtain ⟨hl, hm, hc, ht⟩ := hL
  have hws : wstep P E w (s.th t) = installW w (s.th t).tree (unB (s.th t).msg) := by simp only [wstep, hpc, installW]
  rw [hws]
  unfold ClientLatest.step at h
  simp only [hpc] at h
  have heq : s.latest (cl t) = (s.th t).latest := by rw [hR.latest, hl]
  simp only [heq, if_true] at h
  simp at h; subst h
  refine ⟨⟨hR.name, hR.verifiers, hR.nosec, ?_, ?_, hR.config⟩, ?_, ?_⟩
  · simp [installW]
  · simp only [ClientLatest.upd_same, installW]; exact hm
  · simp only [ClientLatest.upd_same]
    exact locOK_afterMem o .future _ _ rfl hc ht
  · obtain ⟨ext, e1, e2, ns, e3, e4⟩ := hO
    exact ⟨ext, e1, e2, ns, e3, e4⟩

theorem step_readConfig {w : World σ H} {s s' : MSt H} {r : ClientLatest.Res} (hE : CfgCell E name cfg)
    (hret : 1 ≤ P.retries)
    (hC : Coupled P E cl name cfg vs t msg0 target tr0 bw bs w s) (hpc : (s.th t).pc = .readConfig)
    (hr : r = answer P E w (s.th t))
    (h : ClientLatest.step MP cl presented priv s t r = some s') :
    Coupled P E cl name cfg vs t msg0 target tr0 bw bs (wstep P E w (s.th t)) s' := by
  obtain ⟨hR, hL, hO⟩ := hC
  simp only [LocOK, hpc] at hL
  have hws : wstep P E w (s.th t) = (readConfig E w (latestFile w.c.name)).2 := by simp only [wstep, hpc]
  rw [hws]
  have hans : r = if (readConfig E w (latestFile w.c.name)).1.isSome then .ok else .error := by
    rw [hr]; simp only [answer, hpc]
  obtain ⟨f, hf⟩ : ∃ f, P.retries = f + 1 := ⟨P.retries - 1, by omega⟩
  have hf' : P.retries - 1 = f := by omega
  rw [hf, mergeLatestLoop_succ] at hL
  -- the frame of ReadConfig
  have hfr : Fr cfg w (readConfig E w (latestFile w.c.name)).2 := by
    refine ⟨rfl, rfl, rfl, rfl, rfl, rfl, ?_, id, _, rfl, by simp [Quiet]⟩
    show cfg (E.readConfig w.s (latestFile w.c.name)).2 = cfg w.s
    rw [hR.name]; exact hE.readConfig_keeps _
  unfold ClientLatest.step at h
  simp only [hpc] at h
  cases hrc : (readConfig E w (latestFile w.c.name)).1 with
  | none =>
    rw [hrc] at hans hL
    simp only [Option.isSome_none, Bool.false_eq_true, if_false] at hans
    subst hans
    simp at h; subst h
    exact coupled_done_err _ .config hR hO hfr rfl (by intro h; cases h) hL
  | some v =>
    rw [hrc] at hans hL
    simp only [Option.isSome_some, if_true] at hans
    subst hans
    simp at h; subst h
    have hv : v = cfg w.s := by
      have := hE.readConfig_val w.s v
      rw [← hR.name] at this
      exact this hrc
    subst hv
    refine ⟨relG_of_fr hR hfr rfl rfl rfl, ?_, obs_quiet hO hfr.trace rfl rfl⟩
    simp only [ClientLatest.upd_same, LocOK, hR.config, unB_optB, hf']
    exact ⟨trivial, fun _ => by rw [hfr.cfg], hL⟩

theorem step_readLatestMsg {w : World σ H} {s s' : MSt H} {r : ClientLatest.Res}
    (hC : Coupled P E cl name cfg vs t msg0 target tr0 bw bs w s) (hpc : (s.th t).pc = .readLatestMsg)
    (h : ClientLatest.step MP cl presented priv s t r = some s') :
    Coupled P E cl name cfg vs t msg0 target tr0 bw bs w s' := by
  obtain ⟨hR, hL, hO⟩ := hC
  simp only [LocOK, hpc] at hL
  unfold ClientLatest.step at h
  simp only [hpc] at h
  simp at h; subst h
  refine ⟨⟨hR.name, hR.verifiers, hR.nosec, hR.latest, hR.latestMsg, hR.config⟩, ?_, obs_same hO rfl rfl⟩
  simp only [ClientLatest.upd_same, LocOK]
  exact ⟨hL.1, hR.latestMsg, hL.2⟩

theorem step_writeConfig {w : World σ H} {s s' : MSt H} {r : ClientLatest.Res} (hE : CfgCell E name cfg)
    (hC : Coupled P E cl name cfg vs t msg0 target tr0 bw bs w s) (hpc : (s.th t).pc = .writeConfig)
    (hr : r = answer P E w (s.th t))
    (h : ClientLatest.step MP cl presented priv s t r = some s') :
    Coupled P E cl name cfg vs t msg0 target tr0 bw bs (wstep P E w (s.th t)) s' := by
  obtain ⟨hR, hL, hO⟩ := hC
  simp only [LocOK, hpc] at hL
  obtain ⟨hc, hlm, ht⟩ := hL
  have hucfg : unB (s.th t).cfg = cfg w.s := by rw [hc, unB_optB]
  have hulm : unB (s.th t).lm = w.c.latestMsg := by rw [hlm, unB_optB]
  have hws : wstep P E w (s.th t) = (writeConfig E w (latestFile w.c.name) (cfg w.s) w.c.latestMsg).2 := by
    simp only [wstep, hpc, hucfg, hulm]
  rw [hws]
  have hans : r = match (writeConfig E w (latestFile w.c.name) (cfg w.s) w.c.latestMsg).1 with
      | .error => .error
      | _ => .ok := by
    rw [hr]; simp only [answer, hpc, hucfg, hulm]
    cases (writeConfig E w (latestFile w.c.name) (cfg w.s) w.c.latestMsg).1 <;> rfl
  simp only [afterMemSeq, bne_self_eq_false, Bool.false_eq_true, if_false, hucfg] at ht
  have hcfgeq : s.config = (s.th t).cfg := by rw [hR.config, hc]
  unfold ClientLatest.step at h
  simp only [hpc] at h
  -- the three answers of WriteConfig
  have hwc : (writeConfig E w (latestFile w.c.name) (cfg w.s) w.c.latestMsg) =
      ((E.writeConfig w.s (latestFile name) (cfg w.s) w.c.latestMsg).1,
        { w with s := (E.writeConfig w.s (latestFile name) (cfg w.s) w.c.latestMsg).2,
                 tr := w.tr ++ [.writeConfig (latestFile name) (cfg w.s) w.c.latestMsg
                   (E.writeConfig w.s (latestFile name) (cfg w.s) w.c.latestMsg).1] }) := by
    simp only [writeConfig, hR.name]
  rw [hwc] at hans ht ⊢
  simp only at hans ht ⊢
  cases hres : (E.writeConfig w.s (latestFile name) (cfg w.s) w.c.latestMsg).1 with
  | conflict => exact absurd rfl (hE.write_conflict _ _ _ hres)
  | error =>
    rw [hres] at hans ht
    simp only at hans ht
    subst hans
    simp at h; subst h
    refine ⟨⟨hR.name, hR.verifiers, hR.nosec, hR.latest, hR.latestMsg, ?_⟩, ?_, ?_⟩
    · show s.config = optB (cfg (E.writeConfig w.s (latestFile name) (cfg w.s) w.c.latestMsg).2)
      rw [hE.write_error _ _ _ hres]; exact hR.config
    · simp only [ClientLatest.upd_same, LocOK]
      subst ht
      exact ⟨rfl, rfl⟩
    · obtain ⟨ext, e1, e2, ns, e3, e4⟩ := hO
      refine ⟨ext ++ [.writeConfig (latestFile name) (cfg w.s) w.c.latestMsg .error], ?_, ?_, ns, e3, ?_⟩
      · show w.tr ++ _ = _
        rw [e1, List.append_assoc]
      · show s.writes = _
        rw [e2, trWrites_append]; simp [trWrites]
      · rw [trSecs_append]; simpa [trSecs] using e4
  | ok =>
    rw [hres] at hans ht
    simp only at hans ht
    subst hans
    simp only [hcfgeq, if_true] at h
    simp at h; subst h
    obtain ⟨_, hnew⟩ := hE.write_ok _ _ _ hres
    refine ⟨⟨hR.name, hR.verifiers, hR.nosec, hR.latest, hR.latestMsg, ?_⟩, ?_, ?_⟩
    · show (s.th t).lm = optB (cfg (E.writeConfig w.s (latestFile name) (cfg w.s) w.c.latestMsg).2)
      rw [hnew]; exact hlm
    · simp only [ClientLatest.upd_same, LocOK]
      subst ht
      exact ⟨rfl, rfl⟩
    · obtain ⟨ext, e1, e2, ns, e3, e4⟩ := hO
      refine ⟨ext ++ [.writeConfig (latestFile name) (cfg w.s) w.c.latestMsg .ok], ?_, ?_, ns, e3, ?_⟩
      · show w.tr ++ _ = _
        rw [e1, List.append_assoc]
      · show ((s.th t).cfg, (s.th t).lm) :: s.writes = _
        rw [e2, trWrites_append, hc, hlm]; simp [trWrites]
      · rw [trSecs_append]; simpa [trSecs] using e4

end
end ModVerif.ClientRefine
