/-
  A valid semantic version is a plain identifier token.
  Its bytes are digits, ASCII letters, `-`, `.`, `+`; hence `MustQuote` is false, `AutoQuote` leaves it
  alone, it lexes as ONE identifier and `parseString` returns it unchanged.
-/
import ModVerif.Proofs.ModfileFmtQuoteUnquote
import ModVerif.Proofs.SemverCanonical
import ModVerif.Proofs.Utf8
namespace ModVerif.Proofs.ModfileFmtFix
open ModVerif ModVerif.Modfile ModVerif.SemverSpec
open ModVerif.Proofs.ModfileFmtQuote ModVerif.Proofs.ModfileFmtLex

def vchar (b : UInt8) : Bool := Semver.isIdentChar b || b == 46 || b == 43

theorem vchar_of_digit {b : UInt8} (h : SemverSpec.isDigit b = true) : vchar b = true := by
  simp only [SemverSpec.isDigit, Bool.and_eq_true, decide_eq_true_eq] at h
  simp only [vchar, Semver.isIdentChar, Bool.or_eq_true, Bool.and_eq_true, decide_eq_true_eq]
  exact Or.inl (Or.inl (Or.inl (Or.inr h)))

example : SemverSpec.isDigit 48 = true := by decide

theorem vchar_of_ident {b : UInt8} (h : SemverSpec.isIdentChar b = true) : vchar b = true := by
  rw [← Semver.isIdentChar_eq] at h
  simp [vchar, h]

example : SemverSpec.isIdentChar 97 = true := by decide

theorem num_vchar {x : Bytes} (h : Num x) : ∀ b ∈ x, vchar b = true := by
  intro b hb
  exact vchar_of_digit (List.all_eq_true.1 h.2.1 b hb)

example : Num [49, 48] := ⟨by simp, by decide, by simp⟩

theorem joinDots_vchar {ids : List Bytes} (h : ∀ i ∈ ids, Ident i) : ∀ b ∈ joinDots ids, vchar b = true := by
  intro b hb
  rcases Semver.mem_joinDots hb with rfl | ⟨i, hi, hbi⟩
  · decide
  · exact vchar_of_ident (List.all_eq_true.1 (h i hi).2 b hbi)

example : ∀ i ∈ [[97], [98, 45]], Ident i := by
  intro i hi
  simp only [List.mem_cons, List.not_mem_nil, or_false] at hi
  rcases hi with rfl | rfl <;> exact ⟨by simp, by decide⟩

theorem preOpt_vchar {pre : Bytes} (h : PreOpt pre) : ∀ b ∈ pre, vchar b = true := by
  rcases h with rfl | ⟨ids, _, hids, rfl⟩
  · intro b hb; simp at hb
  · intro b hb
    rcases List.mem_cons.1 hb with rfl | hb
    · decide
    · exact joinDots_vchar (fun i hi => (hids i hi).1) b hb

example : PreOpt [45, 97, 46, 49] :=
  Or.inr ⟨[[97], [49]], by simp, by
    intro i hi
    simp only [List.mem_cons, List.not_mem_nil, or_false] at hi
    rcases hi with rfl | rfl <;> exact ⟨⟨by simp, by decide⟩, by decide⟩, rfl⟩

theorem buildOpt_vchar {bld : Bytes} (h : BuildOpt bld) : ∀ b ∈ bld, vchar b = true := by
  rcases h with rfl | ⟨ids, _, hids, rfl⟩
  · intro b hb; simp at hb
  · intro b hb
    rcases List.mem_cons.1 hb with rfl | hb
    · decide
    · exact joinDots_vchar hids b hb

example : BuildOpt [43, 97] :=
  Or.inr ⟨[[97]], by simp, by
    intro i hi
    simp only [List.mem_cons, List.not_mem_nil, or_false] at hi
    subst hi; exact ⟨by simp, by decide⟩, rfl⟩

theorem decomp_vchar {v : Bytes} {p : Semver.Parsed} (h : Semver.Decomp v p) : ∀ b ∈ v, vchar b = true := by
  have h118 : vchar 118 = true := by decide
  have h46 : vchar 46 = true := by decide
  cases h with
  | short1 maj nmaj =>
    intro b hb
    rcases List.mem_cons.1 hb with rfl | hb
    · exact h118
    · exact num_vchar nmaj b hb
  | short2 maj min nmaj nmin =>
    intro b hb
    simp only [List.cons_append, List.mem_cons, List.mem_append] at hb
    rcases hb with rfl | hb | rfl | hb
    · exact h118
    · exact num_vchar nmaj b hb
    · exact h46
    · exact num_vchar nmin b hb
  | full maj min pat pre bld nmaj nmin npat hpre hbld =>
    intro b hb
    simp only [List.cons_append, List.mem_cons, List.mem_append, List.append_assoc] at hb
    rcases hb with rfl | hb | rfl | hb | rfl | hb | hb | hb
    · exact h118
    · exact num_vchar nmaj b hb
    · exact h46
    · exact num_vchar nmin b hb
    · exact h46
    · exact num_vchar npat b hb
    · exact preOpt_vchar hpre b hb
    · exact buildOpt_vchar hbld b hb

example : Semver.Decomp (118 :: [49]) { major := [49], minor := [48], patch := [48], short := B ".0.0" } :=
  Semver.Decomp.short1 [49] ⟨by simp, by decide, by simp⟩

theorem valid_decomp {v : Bytes} (h : Semver.isValid v = true) : ∃ p, Semver.parse v = some p := by
  unfold Semver.isValid at h
  cases hp : Semver.parse v with
  | none => rw [hp] at h; cases h
  | some p => exact ⟨p, rfl⟩

example : Semver.isValid (B "v1.2.3") = true := by decide +kernel

theorem valid_vchar {v : Bytes} (h : Semver.isValid v = true) : ∀ b ∈ v, vchar b = true := by
  obtain ⟨p, hp⟩ := valid_decomp h
  exact decomp_vchar (Semver.parse_decomp hp)

example : Semver.isValid (B "v1.2.3-pre.1+meta") = true := by decide +kernel

theorem vchar_cases : ∀ b : UInt8, vchar b = true →
    (48 ≤ b ∧ b ≤ 57) ∨ (65 ≤ b ∧ b ≤ 90) ∨ (97 ≤ b ∧ b ≤ 122) ∨ b = 45 ∨ b = 46 ∨ b = 43 := by
  intro b h
  simp only [vchar, Semver.isIdentChar, Bool.or_eq_true, Bool.and_eq_true, decide_eq_true_eq, beq_iff_eq] at h
  rcases h with ((((h | h) | h) | h) | h) | h
  · exact Or.inr (Or.inl h)
  · exact Or.inr (Or.inr (Or.inl h))
  · exact Or.inl h
  · exact Or.inr (Or.inr (Or.inr (Or.inl h)))
  · exact Or.inr (Or.inr (Or.inr (Or.inr (Or.inl h))))
  · exact Or.inr (Or.inr (Or.inr (Or.inr (Or.inr h))))

example : vchar 43 = true := by decide

theorem valid_bytes {v : Bytes} (h : Semver.isValid v = true) : ∀ b ∈ v,
    (48 ≤ b ∧ b ≤ 57) ∨ (65 ≤ b ∧ b ≤ 90) ∨ (97 ≤ b ∧ b ≤ 122) ∨ b = 45 ∨ b = 46 ∨ b = 43 :=
  fun b hb => vchar_cases b (valid_vchar h b hb)

example : Semver.isValid (B "v1.2.3+incompatible") = true := by decide +kernel

theorem valid_head {v : Bytes} (h : Semver.isValid v = true) : ∃ d t, v = 118 :: d :: t ∧ SemverSpec.isDigit d = true := by
  obtain ⟨p, hp⟩ := valid_decomp h
  have numHead : ∀ {x : Bytes}, Num x → ∃ d t, x = d :: t ∧ SemverSpec.isDigit d = true := by
    intro x hx
    cases x with
    | nil => exact absurd rfl hx.1
    | cons d t =>
      have := hx.2.1
      simp only [List.all_cons, Bool.and_eq_true] at this
      exact ⟨d, t, rfl, this.1⟩
  cases Semver.parse_decomp hp with
  | short1 maj nmaj =>
    obtain ⟨d, t, rfl, hd⟩ := numHead nmaj
    exact ⟨d, t, rfl, hd⟩
  | short2 maj min nmaj nmin =>
    obtain ⟨d, t, rfl, hd⟩ := numHead nmaj
    exact ⟨d, _, rfl, hd⟩
  | full maj min pat pre bld nmaj nmin npat hpre hbld =>
    obtain ⟨d, t, rfl, hd⟩ := numHead nmaj
    exact ⟨d, _, rfl, hd⟩

example : Semver.isValid (B "v0") = true := by decide +kernel

theorem valid_ne_nil {v : Bytes} (h : Semver.isValid v = true) : v ≠ [] := by
  obtain ⟨d, t, rfl, _⟩ := valid_head h
  simp

example : Semver.isValid (B "v1.2") = true := by decide +kernel

theorem vchar_plain_fin : ∀ n : Fin 256, vchar (UInt8.ofNat n.val) = true →
    n.val < 128 ∧ mustQuoteAlways.contains n.val = false ∧ mustQuoteIfLong.contains n.val = false ∧
    UnicodePrint.isPrint n.val = true ∧ n.val ≠ 47 ∧ n.val ≠ 34 := by decide +kernel

theorem vchar_plain {b : UInt8} (h : vchar b = true) :
    b.toNat < 128 ∧ mustQuoteAlways.contains b.toNat = false ∧ mustQuoteIfLong.contains b.toNat = false ∧
    UnicodePrint.isPrint b.toNat = true ∧ b.toNat ≠ 47 ∧ b.toNat ≠ 34 := by
  have := vchar_plain_fin ⟨b.toNat, b.toNat_lt⟩
  simp only [UInt8.ofNat_toNat] at this
  exact this h

example : vchar 118 = true := by decide

theorem mustQuoteRunes_plain (len : Nat) : ∀ rs : List Nat,
    (∀ r ∈ rs, mustQuoteAlways.contains r = false ∧ mustQuoteIfLong.contains r = false ∧ UnicodePrint.isPrint r = true) →
    mustQuoteRunes len rs = false := by
  intro rs
  induction rs with
  | nil => intro _; rfl
  | cons r rest ih =>
    intro h
    obtain ⟨h1, h2, h3⟩ := h r (by simp)
    unfold mustQuoteRunes
    rw [if_neg (by rw [h1]; simp), if_neg (by rw [h2]; simp), if_neg (by simp [h3])]
    exact ih (fun r' hr' => h r' (by simp [hr']))

example : ∀ r ∈ [118, 49], mustQuoteAlways.contains r = false ∧ mustQuoteIfLong.contains r = false ∧
    UnicodePrint.isPrint r = true := by decide

theorem contains_of_head_absent {s : Bytes} {c : UInt8} {sub : Bytes} (h : c ∉ s) :
    GoStrings.contains s (c :: sub) = false := by
  have aux : ∀ (s : Bytes) (i : Nat), c ∉ s → GoStrings.indexAux (c :: sub) s i = none := by
    intro s
    induction s with
    | nil => intro i _; simp [GoStrings.indexAux]
    | cons a rest ih =>
      intro i hc
      have hne : c ≠ a := fun e => hc (by simp [e])
      have hrest : c ∉ rest := fun e => hc (by simp [e])
      have hb : (c == a) = false := by simpa using hne
      simp only [GoStrings.indexAux, isPrefixOfB, hb, Bool.false_and]
      simpa using ih (i + 1) hrest
  simp [GoStrings.contains, GoStrings.index, aux s 0 h]

example : (47 : UInt8) ∉ ([118, 49] : Bytes) := by decide

theorem mustQuote_of_vchar {s : Bytes} (hne : s ≠ []) (h : ∀ b ∈ s, vchar b = true) : mustQuote s = false := by
  have hascii : ∀ b ∈ s, b.toNat < 128 := fun b hb => (vchar_plain (h b hb)).1
  have h47 : (47 : UInt8) ∉ s := by
    intro hm
    exact (vchar_plain (h 47 hm)).2.2.2.2.1 rfl
  have hr : mustQuoteRunes s.length (Utf8.runes s) = false := by
    rw [Utf8.runes_ascii s hascii]
    apply mustQuoteRunes_plain
    intro r hr
    obtain ⟨b, hb, rfl⟩ := List.mem_map.1 hr
    obtain ⟨_, h1, h2, h3, _⟩ := vchar_plain (h b hb)
    exact ⟨h1, h2, h3⟩
  have he : s.isEmpty = false := by
    cases s with
    | nil => exact absurd rfl hne
    | cons _ _ => rfl
  simp [mustQuote, hr, he, contains_of_head_absent h47]

example : ([118, 49] : Bytes) ≠ [] ∧ ∀ b ∈ ([118, 49] : Bytes), vchar b = true := by decide

theorem valid_mustQuote {v : Bytes} (h : Semver.isValid v = true) : mustQuote v = false :=
  mustQuote_of_vchar (valid_ne_nil h) (valid_vchar h)

example : Semver.isValid (B "v1.2.3-0.20200101000000-abcdef012345") = true := by decide +kernel

theorem valid_autoQuote {v : Bytes} (h : Semver.isValid v = true) : autoQuote v = v := by
  simp [autoQuote, valid_mustQuote h]

example : Semver.isValid (B "v2.0.0+incompatible") = true := by decide +kernel

theorem valid_tokOK {v : Bytes} (h : Semver.isValid v = true) : TokOK .ident v := by
  apply autoQuote_unquoted_ident (valid_mustQuote h)
  intro c hc hv
  obtain ⟨d, t, hvv, _⟩ := valid_head h
  rw [hvv] at hv
  simp at hv

example : Semver.isValid (B "v1") = true := by decide +kernel

theorem valid_parseString {v : Bytes} (h : Semver.isValid v = true) : parseString v = some (v, v) := by
  have := parseString_unquoted (valid_mustQuote h)
  rwa [valid_autoQuote h] at this

example : Semver.isValid (B "v1.0.0-rc.1") = true := by decide +kernel

end ModVerif.Proofs.ModfileFmtFix
