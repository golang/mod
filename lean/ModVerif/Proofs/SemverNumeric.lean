/- compareInt on numbers without leading zeros is numeric comparison, for numbers of any length -/
import ModVerif.Proofs.SemverCanonical
namespace ModVerif.Semver
open ModVerif ModVerif.SemverSpec

def decVal : Bytes → Nat
  | [] => 0
  | c :: cs => (c.toNat - 48) * 10 ^ cs.length + decVal cs

theorem digit_bounds {c : UInt8} (h : SemverSpec.isDigit c = true) : 48 ≤ c.toNat ∧ c.toNat ≤ 57 := by
  unfold SemverSpec.isDigit at h
  simp only [Bool.and_eq_true, decide_eq_true_eq] at h
  exact ⟨UInt8.le_iff_toNat_le.1 h.1, UInt8.le_iff_toNat_le.1 h.2⟩

theorem decVal_lt : ∀ x : Bytes, x.all SemverSpec.isDigit = true → decVal x < 10 ^ x.length
  | [], _ => by simp [decVal]
  | c :: cs, h => by
    simp only [List.all_cons, Bool.and_eq_true] at h
    have hb := digit_bounds h.1
    have ih := decVal_lt cs h.2
    simp only [decVal, List.length_cons, Nat.pow_succ]
    have : (c.toNat - 48) ≤ 9 := by omega
    calc (c.toNat - 48) * 10 ^ cs.length + decVal cs
        < (c.toNat - 48) * 10 ^ cs.length + 10 ^ cs.length := by omega
      _ = (c.toNat - 48 + 1) * 10 ^ cs.length := by rw [Nat.add_mul]; simp
      _ ≤ 10 * 10 ^ cs.length := Nat.mul_le_mul_right _ (by omega)
      _ = 10 ^ cs.length * 10 := Nat.mul_comm _ _

theorem decVal_ge {c : UInt8} {cs : Bytes} (hc : SemverSpec.isDigit c = true) (hnz : c ≠ 48) :
    10 ^ cs.length ≤ decVal (c :: cs) := by
  have hb := digit_bounds hc
  have : c.toNat ≠ 48 := fun e => hnz (UInt8.toNat_inj.1 (by simpa using e))
  have h1 : 1 ≤ c.toNat - 48 := by omega
  simp only [decVal]
  calc 10 ^ cs.length = 1 * 10 ^ cs.length := by simp
    _ ≤ (c.toNat - 48) * 10 ^ cs.length := Nat.mul_le_mul_right _ h1
    _ ≤ _ := Nat.le_add_right _ _

theorem bytesLt_iff_decVal : ∀ x y : Bytes, x.length = y.length →
    x.all SemverSpec.isDigit = true → y.all SemverSpec.isDigit = true →
    ((bytesLt x y = true ↔ decVal x < decVal y) ∧ (x = y ↔ decVal x = decVal y))
  | [], [], _, _, _ => by simp [bytesLt, decVal]
  | [], _ :: _, h, _, _ => by simp at h
  | _ :: _, [], h, _, _ => by simp at h
  | c :: cs, d :: ds, hl, hx, hy => by
    simp only [List.all_cons, Bool.and_eq_true] at hx hy
    simp only [List.length_cons, Nat.add_right_cancel_iff] at hl
    have ih := bytesLt_iff_decVal cs ds hl hx.2 hy.2
    have bc := digit_bounds hx.1
    have bd := digit_bounds hy.1
    have lc := decVal_lt cs hx.2
    have ld := decVal_lt ds hy.2
    rw [hl] at lc
    simp only [decVal, hl]
    generalize hP : 10 ^ ds.length = P at *
    have hPpos : 0 < P := by rw [← hP]; exact Nat.pow_pos (by omega)
    unfold bytesLt
    by_cases h1 : c < d
    · have h1' : c.toNat < d.toNat := UInt8.lt_iff_toNat_lt.1 h1
      have hne : c ≠ d := fun e => by subst e; exact UInt8.lt_irrefl _ h1
      have : (c.toNat - 48) * P + P ≤ (d.toNat - 48) * P := by
        have : c.toNat - 48 + 1 ≤ d.toNat - 48 := by omega
        calc (c.toNat - 48) * P + P = (c.toNat - 48 + 1) * P := by rw [Nat.add_mul]; simp
          _ ≤ (d.toNat - 48) * P := Nat.mul_le_mul_right _ this
      simp [h1, hne]
      constructor <;> omega
    · by_cases h2 : d < c
      · have h2' : d.toNat < c.toNat := UInt8.lt_iff_toNat_lt.1 h2
        have hne : c ≠ d := fun e => by subst e; exact UInt8.lt_irrefl _ h2
        have : (d.toNat - 48) * P + P ≤ (c.toNat - 48) * P := by
          have : d.toNat - 48 + 1 ≤ c.toNat - 48 := by omega
          calc (d.toNat - 48) * P + P = (d.toNat - 48 + 1) * P := by rw [Nat.add_mul]; simp
            _ ≤ (c.toNat - 48) * P := Nat.mul_le_mul_right _ this
        simp [h1, h2, hne]
        constructor <;> omega
      · have e := u8_trich c d h1 h2
        subst e
        simp [h1]
        constructor
        · rw [ih.1]
        · rw [ih.2]

theorem compareInt_numeric {x y : Bytes} (hx : Num x) (hy : Num y) :
    compareInt x y = natCmp (decVal x) (decVal y) := by
  obtain ⟨xne, xall, xz⟩ := hx
  obtain ⟨yne, yall, yz⟩ := hy
  unfold compareInt natCmp
  by_cases e : x = y
  · subst e; simp
  · simp only [e, if_false]
    -- a shorter number without leading zero is smaller
    have short : ∀ a b : Bytes, a ≠ [] → a.all SemverSpec.isDigit = true → b.all SemverSpec.isDigit = true →
        (b.head? = some 48 → b.length = 1) → a.length < b.length → decVal a < decVal b := by
      intro a b ane aall ball bz hl
      cases b with
      | nil => simp at hl
      | cons d ds =>
        simp only [List.all_cons, Bool.and_eq_true] at ball
        have hd : d ≠ 48 := by
          intro e; subst e
          have := bz rfl
          simp at this; subst this
          simp at hl; exact ane hl
        have h1 := decVal_ge (cs := ds) ball.1 hd
        have h2 := decVal_lt a aall
        have : 10 ^ a.length ≤ 10 ^ ds.length := Nat.pow_le_pow_right (by omega) (by simp at hl; omega)
        omega
    by_cases l : x.length < y.length
    · have := short x y xne xall yall yz l
      have ne : decVal x ≠ decVal y := by omega
      simp [l, ne, this]
    · by_cases g : x.length > y.length
      · have := short y x yne yall xall xz g
        have ne : decVal x ≠ decVal y := by omega
        have nl : ¬ decVal x < decVal y := by omega
        simp [l, g, ne, nl]
      · have el : x.length = y.length := by omega
        have := bytesLt_iff_decVal x y el xall yall
        have ne : decVal x ≠ decVal y := fun h => e (this.2.2 h)
        simp only [l, g, if_false, ne]
        cases hb : bytesLt x y
        · have : ¬ decVal x < decVal y := fun h => by rw [this.1.2 h] at hb; cases hb
          simp [this]
        · simp [this.1.1 hb]

end ModVerif.Semver
