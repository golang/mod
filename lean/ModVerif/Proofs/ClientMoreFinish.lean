/-
  Termination of a goroutine that is scheduled alone (`solo_finish`: at most 10 steps, by a rank
  that every step of the goroutine decreases) and reachability of a terminal state from every honest state
  (`can_finish`).  No liveness claim is made for arbitrary schedules: the `ErrWriteConflict` loop and the `latestMu`
  retry loop terminate only under fairness.
-/
import ModVerif.Proofs.ClientMoreSeen
namespace ModVerif.ClientLatest
variable {M T : Type} [DecidableEq M] [DecidableEq T]

def Quiescent (s : St M T) : Prop := ∀ t, (s.th t).pc = .entry ∨ ∃ x, (s.th t).pc = .done x

/-- upper bound on the number of steps a goroutine with locals `l` takes to return when it runs alone, `L` being the
head of its client and `C` the configuration (it matters whether its snapshot of `c.latest` is current and whether the
configuration still has the content it read) -/
def lrank (L : T) (C : Option M) (l : Loc M T) : Nat :=
  match l.pc with
  | .done _ => 0
  | .writeConfig => if C = l.cfg then 1 else 6
  | .readLatestMsg => if C = l.cfg then 2 else 7
  | .memInstall .loop => if L = l.latest then 1 else if C = l.cfg then 4 else 9
  | .memCheck .loop =>
      if L = l.latest then (if C = l.cfg then 3 else 8) else (if C = l.cfg then 5 else 10)
  | .memRead .loop => if C = l.cfg then 4 else 9
  | .readConfig => 5
  | .memInstall .first => if L = l.latest then 6 else 8
  | .memCheck .first => if L = l.latest then 7 else 9
  | .memRead .first => 8
  | .start => 9
  | .entry => 10

def rank (cl : Nat → Nat) (s : St M T) (t : Nat) : Nat := lrank (s.latest (cl t)) s.config (s.th t)

theorem rank_le (cl : Nat → Nat) (s : St M T) (t : Nat) : rank cl s t ≤ 10 := by
  unfold rank lrank
  split <;> (repeat' split) <;> omega

theorem rank_zero (cl : Nat → Nat) (s : St M T) (t : Nat) (h : rank cl s t = 0) : ∃ x, (s.th t).pc = .done x := by
  unfold rank lrank at h
  split at h <;> (try (repeat' split at h)) <;> (try omega)
  exact ⟨_, ‹_›⟩

theorem LStep.rank_lt {P : Params M T} {pres : Option M} {pv : Bool} {L : T} {LM C : Option M} {l l' : Loc M T}
    {r : Res} {e : Eff M} (hl : LStep P pres pv L LM C l r l' e) :
    lrank (e.head L l') (e.cfg C l') l' < lrank L C l := by
  cases hl
  all_goals have hpc : l.pc = _ := ‹_›
  case' entry => cases pv
  case' readEmpty => cases ‹Outer› <;> by_cases h0 : P.size L = 0 <;> simp only [h0, if_true, if_false]
  case' oldOk => cases ‹Outer› <;> by_cases h0 : P.size l.tree < P.size l.latest <;> simp only [h0, if_true, if_false]
  case' install | readBad | readOk | oldFork | oldErr | newOk | newFork | newErr | retry => cases ‹Outer›
  all_goals by_cases hc : C = l.cfg <;> by_cases hL : L = l.latest <;> simp_all [lrank, afterMem, Eff.head, Eff.cfg]

theorem rank_step (P : Params M T) (cl : Nat → Nat) (presented : Nat → Option M) (priv : Nat → Bool)
    (s s' : St M T) (t : Nat) (r : Res) (h : step P cl presented priv s t r = some s') :
    rank cl s' t < rank cl s t := by
  obtain ⟨l', e, hl, rfl⟩ := (step_iff ..).mp h
  unfold rank
  rw [Eff.apply_latest, Eff.apply_config, Eff.apply_th, upd_same]
  exact hl.rank_lt

omit [DecidableEq M] [DecidableEq T] in
theorem LStep.enabled (P : Params M T) (pres : Option M) (pv : Bool) (L : T) (LM C : Option M) (l : Loc M T) (r : Res)
    (hnd : ∀ x, l.pc ≠ .done x)
    (hchk : ∀ o, l.pc = .memCheck o →
      if P.size l.tree ≤ P.size l.latest then r ∈ P.chk l.tree l.latest else r ∈ P.chk l.latest l.tree) :
    ∃ l' e, LStep P pres pv L LM C l r l' e := by
  cases hpc : l.pc with
  | entry => exact ⟨_, _, .entry r hpc⟩
  | start => exact ⟨_, _, .start r hpc⟩
  | memRead o =>
    cases hm : l.msg with
    | none => exact ⟨_, _, .readEmpty r o hpc hm⟩
    | some m =>
      cases hp : P.parse m with
      | none => exact ⟨_, _, .readBad r o m hpc hm hp⟩
      | some tr => exact ⟨_, _, .readOk r o m tr hpc hm hp⟩
  | memCheck o =>
    have hc := hchk o hpc
    split at hc <;> cases r
    · exact ⟨_, _, .oldOk o hpc ‹_› hc⟩
    · exact ⟨_, _, .oldFork o hpc ‹_› hc⟩
    · exact ⟨_, _, .oldErr o hpc ‹_› hc⟩
    · exact ⟨_, _, .newOk o hpc ‹_› hc⟩
    · exact ⟨_, _, .newFork o hpc ‹_› hc⟩
    · exact ⟨_, _, .newErr o hpc ‹_› hc⟩
  | memInstall o =>
    by_cases hL : L = l.latest
    · exact ⟨_, _, .install r o hpc hL⟩
    · exact ⟨_, _, .retry r o hpc hL⟩
  | readConfig =>
    by_cases hr : r = .error
    · exact hr ▸ ⟨_, _, .readFail hpc⟩
    · exact ⟨_, _, .read r hpc hr⟩
  | readLatestMsg => exact ⟨_, _, .readMsg r hpc⟩
  | writeConfig =>
    by_cases hr : r = .error
    · exact hr ▸ ⟨_, _, .writeFail hpc⟩
    · by_cases hC : C = l.cfg
      · exact ⟨_, _, .write r hpc hr hC⟩
      · exact ⟨_, _, .conflict r hpc hr hC⟩
  | done x => exact absurd hpc (hnd x)

theorem step_ok_enabled (P : Params M T) (le : T → T → Prop) (Ch : T → Prop) (cl : Nat → Nat)
    (presented : Nat → Option M) (priv : Nat → Bool) (c0 : Option M) (hH : Honest P le Ch presented c0)
    (s : St M T) (t : Nat) (hC : ChainInv P Ch s) (hnd : ∀ x, (s.th t).pc ≠ .done x) :
    ∃ s', step P cl presented priv s t .ok = some s' := by
  obtain ⟨l', e, hl⟩ := LStep.enabled P (presented t) (priv t) (s.latest (cl t)) (s.latestMsg (cl t)) s.config
    (s.th t) .ok hnd fun o _ => by
      split
      · rw [hH.chk_honest _ _ (hC.loc t).tree (hC.loc t).latest ‹_›]; exact List.mem_singleton.mpr rfl
      · rw [hH.chk_honest _ _ (hC.loc t).latest (hC.loc t).tree (by omega)]; exact List.mem_singleton.mpr rfl
  exact ⟨_, (step_iff ..).mpr ⟨l', e, hl, rfl⟩⟩

omit [DecidableEq M] [DecidableEq T] in
theorem cfgOk_ok (s : St M T) (t : Nat) : CfgOk s t .ok := by
  intro _; simp

/-- C14 `solo_finishes` -/
theorem solo_finish (P : Params M T) (le : T → T → Prop) (Ch : T → Prop) (cl : Nat → Nat)
    (presented : Nat → Option M) (priv : Nat → Bool) (c0 : Option M) (hH : Honest P le Ch presented c0) (t : Nat) :
    ∀ (n : Nat) (s : St M T), HReachable P cl presented priv c0 s → rank cl s t ≤ n →
      ∃ k s', k ≤ n ∧ run P cl presented priv s (List.replicate k (t, Res.ok)) = some s' ∧
        HReachable P cl presented priv c0 s' ∧ (∃ x, (s'.th t).pc = .done x) ∧ ∀ t', t' ≠ t → s'.th t' = s.th t' := by
  intro n
  induction n with
  | zero =>
    intro s hr hn
    exact ⟨0, s, Nat.le_refl _, rfl, hr, rank_zero cl s t (by omega), fun _ _ => rfl⟩
  | succ n ih =>
    intro s hr hn
    by_cases hd : ∃ x, (s.th t).pc = .done x
    · exact ⟨0, s, by omega, rfl, hr, hd, fun _ _ => rfl⟩
    · have hnd : ∀ x, (s.th t).pc ≠ .done x := fun x hx => hd ⟨x, hx⟩
      obtain ⟨s1, hs1⟩ := step_ok_enabled P le Ch cl presented priv c0 hH s t
        (honest_invs hH hr).1 hnd
      have hr1 : HReachable P cl presented priv c0 s1 := HReachable.step t .ok hr (cfgOk_ok s t) hs1
      have hlt := rank_step P cl presented priv s s1 t .ok hs1
      obtain ⟨k, s', hk, hrun, hr', hdone, hfr⟩ := ih s1 hr1 (by omega)
      refine ⟨k + 1, s', by omega, ?_, hr', hdone, ?_⟩
      · simp only [List.replicate_succ, run, hs1]; exact hrun
      · intro t' ht'
        rw [hfr t' ht', step_th_frame hs1 t' ht']

theorem run_append (P : Params M T) (cl : Nat → Nat) (presented : Nat → Option M) (priv : Nat → Bool) :
    ∀ (a b : List (Nat × Res)) (s s1 s2 : St M T), run P cl presented priv s a = some s1 →
      run P cl presented priv s1 b = some s2 → run P cl presented priv s (a ++ b) = some s2 := by
  intro a
  induction a with
  | nil => intro b s s1 s2 h1 h2; simp [run] at h1; subst h1; simpa using h2
  | cons x a ih =>
    intro b s s1 s2 h1 h2
    obtain ⟨t, r⟩ := x
    simp only [run, List.cons_append] at h1 ⊢
    cases hs : step P cl presented priv s t r with
    | none => simp [hs] at h1
    | some s0 => simp only [hs] at h1 ⊢; exact ih b s0 s1 s2 h1 h2

theorem finite_active (P : Params M T) (cl : Nat → Nat) (presented : Nat → Option M) (priv : Nat → Bool) (c0 : Option M)
    (s : St M T) (h : Reachable P cl presented priv c0 s) : ∃ l : List Nat, ∀ t, t ∉ l → (s.th t).pc = .entry := by
  induction h with
  | init => exact ⟨[], fun _ _ => rfl⟩
  | step t r _ hs ih =>
    obtain ⟨l, hl⟩ := ih
    refine ⟨t :: l, fun t' ht' => ?_⟩
    simp only [List.mem_cons, not_or] at ht'
    rw [step_th_frame hs t' ht'.1]
    exact hl t' ht'.2

theorem finish_list (P : Params M T) (le : T → T → Prop) (Ch : T → Prop) (cl : Nat → Nat)
    (presented : Nat → Option M) (priv : Nat → Bool) (c0 : Option M) (hH : Honest P le Ch presented c0) :
    ∀ (l : List Nat) (s : St M T), HReachable P cl presented priv c0 s →
      ∃ sched s', (∀ x ∈ sched, x.2 = Res.ok) ∧ sched.length ≤ 10 * l.length ∧
        run P cl presented priv s sched = some s' ∧ HReachable P cl presented priv c0 s' ∧
        (∀ t ∈ l, ∃ x, (s'.th t).pc = .done x) ∧ ∀ t, t ∉ l → s'.th t = s.th t := by
  intro l
  induction l with
  | nil => intro s hr; exact ⟨[], s, by simp, by simp, rfl, hr, by simp, fun _ _ => rfl⟩
  | cons a l ih =>
    intro s hr
    obtain ⟨k, s1, hk, hrun1, hr1, hd1, hf1⟩ :=
      solo_finish P le Ch cl presented priv c0 hH a 10 s hr (rank_le cl s a)
    obtain ⟨sched, s2, hok, hlen, hrun2, hr2, hd2, hf2⟩ := ih s1 hr1
    refine ⟨List.replicate k (a, Res.ok) ++ sched, s2, ?_, ?_, run_append P cl presented priv _ _ s s1 s2 hrun1 hrun2,
      hr2, ?_, ?_⟩
    · intro x hx
      rcases List.mem_append.mp hx with h1 | h1
      · rw [(List.mem_replicate.mp h1).2]
      · exact hok x h1
    · simp only [List.length_append, List.length_replicate, List.length_cons]; omega
    · intro t ht
      by_cases htl : t ∈ l
      · exact hd2 t htl
      · have : t = a := by simpa [htl] using ht
        subst this
        rw [hf2 t htl]; exact hd1
    · intro t ht
      simp only [List.mem_cons, not_or] at ht
      rw [hf2 t ht.2, hf1 t ht.1]

/-- C14 `can_finish`: finish the goroutines that are under way one after the other; every answer is `ok`, so the
continuation is an honest run too -/
theorem can_finish (P : Params M T) (le : T → T → Prop) (Ch : T → Prop) (cl : Nat → Nat)
    (presented : Nat → Option M) (priv : Nat → Bool) (c0 : Option M) (hH : Honest P le Ch presented c0)
    (s : St M T) (h : HReachable P cl presented priv c0 s) :
    ∃ sched s', (∀ x ∈ sched, x.2 = Res.ok) ∧ run P cl presented priv s sched = some s' ∧
      HReachable P cl presented priv c0 s' ∧ Quiescent s' := by
  obtain ⟨l, hl⟩ := finite_active P cl presented priv c0 s h.reachable
  obtain ⟨sched, s', hok, _, hrun, hr', hd, hf⟩ := finish_list P le Ch cl presented priv c0 hH l s h
  refine ⟨sched, s', hok, hrun, hr', fun t => ?_⟩
  by_cases ht : t ∈ l
  · exact Or.inr (hd t ht)
  · left; rw [hf t ht]; exact hl t ht

end ModVerif.ClientLatest
