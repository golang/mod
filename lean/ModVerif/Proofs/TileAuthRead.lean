/-
  C10: the reading part of ReadHashes — `authenticate` and `extract` decomposed into per-tile statements.
-/
import ModVerif.Proofs.TileAuthPlan
namespace ModVerif.TileAuth
open ModVerif ModVerif.Tlog ModVerif.Tile ModVerif.TlogStore

section
variable {H : Type}

theorem widthsOk_spec : ∀ (tiles : List Tile) (data : List (List H)), widthsOk tiles data = true →
    data.length = tiles.length ∧
      ∀ (i : Nat) (t : Tile) (d : List H), tiles[i]? = some t → data[i]? = some d → d.length = t.w := by
  intro tiles
  induction tiles with
  | nil =>
    intro data h
    cases data with
    | nil => exact ⟨rfl, by intro i t d hi; simp at hi⟩
    | cons d ds => simp [widthsOk] at h
  | cons t ts ih =>
    intro data h
    cases data with
    | nil => simp [widthsOk] at h
    | cons d ds =>
      simp only [widthsOk, Bool.and_eq_true, beq_iff_eq] at h
      obtain ⟨h1, h2⟩ := ih ds h.2
      refine ⟨by simp [h1], ?_⟩
      intro i t' d' hi hd
      cases i with
      | zero =>
        simp only [List.getElem?_cons_zero, Option.some.injEq] at hi hd
        subst hi hd; exact h.1
      | succ i =>
        simp only [List.getElem?_cons_succ] at hi hd
        exact h2 i t' d' hi hd

theorem widthsOk_of : ∀ (tiles : List Tile) (data : List (List H)), data.length = tiles.length →
    (∀ (i : Nat) (t : Tile) (d : List H), tiles[i]? = some t → data[i]? = some d → d.length = t.w) →
    widthsOk tiles data = true := by
  intro tiles
  induction tiles with
  | nil =>
    intro data h _
    cases data with
    | nil => rfl
    | cons d ds => simp at h
  | cons t ts ih =>
    intro data h hw
    cases data with
    | nil => simp at h
    | cons d ds =>
      simp only [widthsOk, Bool.and_eq_true, beq_iff_eq]
      refine ⟨hw 0 t d rfl rfl, ih ds (by simpa using h) ?_⟩
      intro i t' d' hi hd
      exact hw (i + 1) t' d' (by simpa using hi) (by simpa using hd)

theorem tdata_of_pointwise (T : Nat → Nat → H) (h L n w : Nat) (d : List H) (hl : d.length = w)
    (hp : ∀ q, q < w → d[q]? = some (T (L * h) (n * 2 ^ h + q))) : d = tdata T h L n w := by
  apply List.ext_getElem?
  intro q
  by_cases hq : q < w
  · rw [hp q hq, tdata_get T h L n w q hq]
  · rw [List.getElem?_eq_none (by omega), List.getElem?_eq_none (by rw [tdata_length]; omega)]

variable (node : H → H → H)

/-! ### the hashes read for a list of (index, tile position) pairs -/

def hashList (tiles : List Tile) (data : List (List H)) : List (Nat × Nat) → Except Err (List H)
  | [] => .ok []
  | (x, j) :: rest => do
    let v ← hashAt node tiles data j x
    let vs ← hashList tiles data rest
    pure (v :: vs)

theorem hashList_cons (tiles : List Tile) (data : List (List H)) (x j : Nat) (l : List (Nat × Nat)) (hs : List H) :
    hashList node tiles data ((x, j) :: l) = .ok hs ↔
      ∃ v vs, hashAt node tiles data j x = .ok v ∧ hashList node tiles data l = .ok vs ∧ hs = v :: vs := by
  simp only [hashList, bind, Except.bind]
  cases hashAt node tiles data j x with
  | error e => simp
  | ok v =>
    cases hashList node tiles data l with
    | error e => simp
    | ok vs => simp [pure, Except.pure, eq_comm]

theorem hashList_get (tiles : List Tile) (data : List (List H)) : ∀ (l : List (Nat × Nat)) (hs : List H),
    hashList node tiles data l = .ok hs →
    hs.length = l.length ∧ ∀ (i x j : Nat), l[i]? = some (x, j) →
      ∃ v, hs[i]? = some v ∧ hashAt node tiles data j x = .ok v := by
  intro l
  induction l with
  | nil =>
    intro hs h
    simp only [hashList, Except.ok.injEq] at h
    subst h
    exact ⟨rfl, by intro i x j hi; simp at hi⟩
  | cons a l ih =>
    intro hs h
    obtain ⟨x, j⟩ := a
    obtain ⟨v, vs, hv, hr, rfl⟩ := (hashList_cons node tiles data x j l hs).mp h
    obtain ⟨h1, h2⟩ := ih vs hr
    refine ⟨by simp [h1], ?_⟩
    intro i x' j' hi
    cases i with
    | zero =>
      simp only [List.getElem?_cons_zero, Option.some.injEq, Prod.mk.injEq] at hi
      obtain ⟨e1, e2⟩ := hi
      subst e1 e2
      exact ⟨v, rfl, hv⟩
    | succ i =>
      simp only [List.getElem?_cons_succ] at hi ⊢
      exact h2 i x' j' hi

theorem hashList_of (tiles : List Tile) (data : List (List H)) (f : Nat × Nat → H) : ∀ (l : List (Nat × Nat)),
    (∀ a ∈ l, hashAt node tiles data a.2 a.1 = .ok (f a)) → hashList node tiles data l = .ok (l.map f) := by
  intro l
  induction l with
  | nil => intro _; rfl
  | cons a l ih =>
    intro h
    obtain ⟨x, j⟩ := a
    exact (hashList_cons node tiles data x j l _).mpr
      ⟨_, _, h (x, j) (by simp), ih (fun a ha => h a (by simp [ha])), rfl⟩

theorem hashList_append (tiles : List Tile) (data : List (List H)) : ∀ (a b : List (Nat × Nat)) (hs : List H),
    hashList node tiles data (a ++ b) = .ok hs ↔
      ∃ ha hb, hashList node tiles data a = .ok ha ∧ hashList node tiles data b = .ok hb ∧ hs = ha ++ hb := by
  intro a
  induction a with
  | nil => intro b hs; simp [hashList]
  | cons p a ih =>
    intro b hs
    obtain ⟨x, j⟩ := p
    simp only [List.cons_append, hashList_cons, ih]
    constructor
    · rintro ⟨v, _, hv, ⟨ha, hb, e1, e2, rfl⟩, rfl⟩
      exact ⟨v :: ha, hb, ⟨v, ha, hv, e1, rfl⟩, e2, rfl⟩
    · rintro ⟨_, hb, ⟨v, ha, hv, e1, rfl⟩, e2, rfl⟩
      exact ⟨v, _, hv, ⟨ha, hb, e1, e2, rfl⟩, rfl⟩

theorem hashList_reverse (tiles : List Tile) (data : List (List H)) : ∀ (l : List (Nat × Nat)) (hs : List H),
    hashList node tiles data l = .ok hs → hashList node tiles data l.reverse = .ok hs.reverse := by
  intro l
  induction l with
  | nil => intro hs h; simp only [hashList, Except.ok.injEq] at h; subst h; rfl
  | cons p l ih =>
    intro hs h
    obtain ⟨x, j⟩ := p
    obtain ⟨v, vs, hv, hr, rfl⟩ := (hashList_cons node tiles data x j l hs).mp h
    rw [List.reverse_cons, List.reverse_cons]
    exact (hashList_append node tiles data _ _ _).mpr
      ⟨_, [v], ih vs hr, (hashList_cons node tiles data x j [] _).mpr ⟨v, [], hv, rfl, rfl⟩, rfl⟩

theorem stxFold_eq (tiles : List Tile) (data : List (List H)) : ∀ (l : List (Nat × Nat)) (acc : H),
    stxFold node tiles data l acc = (do
      let hs ← hashList node tiles data l
      pure (hs.foldl (fun a v => node v a) acc)) := by
  intro l
  induction l with
  | nil => intro acc; rfl
  | cons p l ih =>
    intro acc
    obtain ⟨x, j⟩ := p
    simp only [stxFold, hashList, bind, Except.bind]
    cases hv : hashAt node tiles data j x with
    | error e => rfl
    | ok v =>
      simp only
      rw [ih (node v acc)]
      simp only [bind, Except.bind]
      cases hashList node tiles data l with
      | error e => rfl
      | ok vs => rfl

theorem extract_ok_iff (p : Plan) (data : List (List H)) : ∀ (l : List (Nat × Nat)) (hs : List H),
    extract node p data l = .ok hs ↔ hashList node p.tiles data l = .ok hs := by
  intro l
  induction l with
  | nil => intro hs; simp [extract, hashList]
  | cons a l ih =>
    intro hs
    obtain ⟨x, j⟩ := a
    simp only [extract, hashList, bind, Except.bind]
    cases hv : hashAt node p.tiles data j x with
    | error e => cases e <;> simp
    | ok v =>
      simp only
      cases hr : extract node p data l with
      | error e =>
        cases hr' : hashList node p.tiles data l with
        | error e' => simp
        | ok vs => have := (ih vs).mpr hr'; rw [hr] at this; cases this
      | ok vs =>
        rw [(ih vs).mp hr]

theorem foldR_inj (hcf : ∀ a b c d : H, node a b = node c d → a = c ∧ b = d) :
    ∀ (l l' : List H) (r : H), l.length = l'.length → foldR node l = some r → foldR node l' = some r → l = l' := by
  intro l
  induction l with
  | nil =>
    intro l' r hl _ _
    cases l' with
    | nil => rfl
    | cons _ _ => simp at hl
  | cons a t ih =>
    intro l' r hl h1 h2
    cases l' with
    | nil => simp at hl
    | cons a' t' =>
      cases t with
      | nil =>
        cases t' with
        | nil =>
          simp only [foldR, Option.some.injEq] at h1 h2
          rw [h1, h2]
        | cons _ _ => simp at hl
      | cons b t =>
        cases t' with
        | nil => simp at hl
        | cons b' t' =>
          simp only [foldR] at h1 h2
          cases hx : foldR node (b :: t) with
          | none => rw [hx] at h1; cases h1
          | some x =>
            cases hy : foldR node (b' :: t') with
            | none => rw [hy] at h2; cases h2
            | some y =>
              rw [hx] at h1; rw [hy] at h2
              simp only [Option.map_some, Option.some.injEq] at h1 h2
              obtain ⟨e1, e2⟩ := hcf a x a' y (by rw [h1, h2])
              subst e1 e2
              rw [ih (b' :: t') x (by simpa using hl) hx hy]

variable [DecidableEq H]

/-- what the parent-authentication loop checks for the tile at position `i` -/
def ChildOK (N : Nat) (p : Plan) (data : List (List H)) (i : Nat) : Prop :=
  ∃ tile di j dj v, p.tiles[i]? = some tile ∧ data[i]? = some di ∧
    p.order.lookup (tileParent tile 1 N) = some j ∧ data[j]? = some dj ∧
    hashFromTile node (tileParent tile 1 N) dj
      (storedHashIndex ((tileParent tile 1 N).l * (tileParent tile 1 N).h) tile.n) = .ok v ∧
    tileHash node di = .ok v

theorem authChildren_ok (N : Nat) (p : Plan) (data : List (List H)) : ∀ f i,
    authChildren node N p data f i = .ok () → ∀ i', i ≤ i' → i' < i + f → ChildOK node N p data i' := by
  intro f
  induction f with
  | zero => intro i _ i' h1 h2; omega
  | succ f ih =>
    intro i h i' h1 h2
    unfold authChildren at h
    split at h
    · rename_i tile di ht hd
      dsimp only at h
      split at h
      · cases h
      · rename_i j hj
        split at h
        · cases h
        · rename_i dj hdj
          split at h
          · cases h
          · cases h
          · cases h
          · rename_i v hv
            simp only [bind, Except.bind] at h
            cases hth : tileHash node di with
            | error e => rw [hth] at h; cases h
            | ok th =>
              rw [hth] at h
              simp only at h
              split at h
              · cases h
              · rename_i hne
                have hvt : v = th := by simpa using hne
                subst hvt
                by_cases hi : i' = i
                · subst hi
                  exact ⟨tile, di, j, dj, v, ht, hd, hj, hdj, hv, hth⟩
                · exact ih (i + 1) h i' (by omega) (by omega)
    · cases h

theorem authChildren_of (N : Nat) (p : Plan) (data : List (List H)) : ∀ f i,
    (∀ i', i ≤ i' → i' < i + f → ChildOK node N p data i') → authChildren node N p data f i = .ok () := by
  intro f
  induction f with
  | zero => intro i _; rfl
  | succ f ih =>
    intro i h
    obtain ⟨tile, di, j, dj, v, ht, hd, hj, hdj, hv, hth⟩ := h i (Nat.le_refl _) (by omega)
    unfold authChildren
    simp only [ht, hd, hj, hdj, hv, hth, bind, Except.bind, bne_self_eq_false, Bool.false_eq_true, ↓reduceIte]
    exact ih (i + 1) (fun i' a b => h i' (by omega) (by omega))

omit [DecidableEq H] in
theorem foldRight_cons (v0 : H) (hs1 : List H) :
    Tlog.foldRight node (v0 :: hs1) = some (hs1.foldl (fun a v => node v a) v0) := rfl

theorem authenticate_ok (N : Nat) (th : H) (p : Plan) (data : List (List H))
    (h : authenticate node N th p data = .ok ()) :
    ∃ hs, hashList node p.tiles data (p.stx.zip p.stxTileOrder) = .ok hs ∧ foldR node hs = some th ∧
      authChildren node N p data (p.tiles.length - p.nstx) p.nstx = .ok () := by
  unfold authenticate at h
  generalize hz : p.stx.zip p.stxTileOrder = z at h ⊢
  cases hrev : z.reverse with
  | nil => rw [hrev] at h; cases h
  | cons a rest =>
    obtain ⟨x, j⟩ := a
    rw [hrev] at h
    simp only [bind, Except.bind] at h
    cases hv : hashAt node p.tiles data j x with
    | error e => rw [hv] at h; cases h
    | ok v0 =>
      rw [hv] at h
      simp only at h
      rw [stxFold_eq] at h
      simp only [bind, Except.bind] at h
      cases hr : hashList node p.tiles data rest with
      | error e => rw [hr] at h; cases h
      | ok hs1 =>
        rw [hr] at h
        simp only [pure, Except.pure] at h
        split at h
        · cases h
        · rename_i hne
          have heq : hs1.foldl (fun a v => node v a) v0 = th := by simpa using hne
          have hl := (hashList_cons node p.tiles data x j rest _).mpr ⟨v0, hs1, hv, hr, rfl⟩
          rw [← hrev] at hl
          have hl2 := hashList_reverse node p.tiles data _ _ hl
          rw [List.reverse_reverse] at hl2
          refine ⟨_, hl2, ?_, h⟩
          rw [← foldRight_reverse, List.reverse_reverse, foldRight_cons, heq]

theorem authenticate_of (N : Nat) (th : H) (p : Plan) (data : List (List H)) (hs : List H)
    (h1 : hashList node p.tiles data (p.stx.zip p.stxTileOrder) = .ok hs) (h2 : foldR node hs = some th)
    (h3 : authChildren node N p data (p.tiles.length - p.nstx) p.nstx = .ok ()) :
    authenticate node N th p data = .ok () := by
  unfold authenticate
  generalize p.stx.zip p.stxTileOrder = z at h1 ⊢
  have hl := hashList_reverse node p.tiles data _ _ h1
  cases hrev : z.reverse with
  | nil =>
    rw [hrev] at hl
    simp only [hashList, Except.ok.injEq] at hl
    have : hs = [] := by simpa using hl.symm
    subst this
    simp [foldR] at h2
  | cons a rest =>
    obtain ⟨x, j⟩ := a
    rw [hrev] at hl
    obtain ⟨v0, hs1, hv, hr, hl⟩ := (hashList_cons node p.tiles data x j rest _).mp hl
    have hf : Tlog.foldRight node (v0 :: hs1) = some th := by
      rw [← hl, foldRight_reverse]; exact h2
    rw [foldRight_cons] at hf
    simp only [Option.some.injEq] at hf
    simp only [bind, Except.bind, hv]
    rw [stxFold_eq]
    simp only [hr, bind, Except.bind, pure, Except.pure, hf, bne_self_eq_false, Bool.false_eq_true, ↓reduceIte]
    exact h3

end
end ModVerif.TileAuth
