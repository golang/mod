/-
  Tie proof, zip/zip.go `CheckDir` (Generated/FnZip.lean) against the hand model `Zip.checkDir`: the three loops that rewrite
  every reported path to `filepath.Join(dir, path)` in place, and the representation of the result.
-/
import ModVerif.Proofs.TieFnZipDirWalk
import ModVerif.Proofs.GoRtLemmasInt
import ModVerif.Proofs.TieFnZipCfMain
namespace ModVerif.TieFnZipDir
open ModVerif ModVerif.GoRt ModVerif.GoRtZip ModVerif.TieFnZip ModVerif.TieFnZipCf
open ModVerif.Generated.Zip (File FileError FileInfo CheckedFiles)
open ModVerif.Drv.GenZip (toGFile modeBits)
open ModVerif.Drv.GenZipDir (toFs toFsList dirInfo)

theorem inplace_get {α : Type} (f : α → α) : ∀ (V : List α) (k : Nat) (h : k < V.length),
    ((V.take k).map f ++ V.drop k)[k]? = some V[k]
  | [], k, h => by simp at h
  | x :: V, 0, _ => by simp
  | x :: V, k + 1, h => by
    have := inplace_get f V k (by simpa using h)
    simpa using this

theorem inplace_set {α : Type} (f : α → α) : ∀ (V : List α) (k : Nat) (h : k < V.length),
    ((V.take k).map f ++ V.drop k).set k (f V[k]) = (V.take (k + 1)).map f ++ V.drop (k + 1)
  | [], k, h => by simp at h
  | x :: V, 0, _ => by simp
  | x :: V, k + 1, h => by
    have := inplace_set f V k (by simpa using h)
    simpa using this

theorem inplace_length {α : Type} (f : α → α) (V : List α) (k : Nat) (h : k ≤ V.length) :
    ((V.take k).map f ++ V.drop k).length = V.length := by
  simp; omega

theorem inplace_idxL {α : Type} (f : α → α) (V : List α) (k : Nat) (h : k < V.length) :
    idxL ((V.take k).map f ++ V.drop k) (k : Int) = .ok V[k] := by
  have hl : k < ((V.take k).map f ++ V.drop k).length := by rw [inplace_length f V k (Nat.le_of_lt h)]; exact h
  rw [idxL_natCast hl]
  have := inplace_get f V k h
  rw [List.getElem?_eq_getElem hl] at this
  injection this with this
  rw [this]

theorem inplace_setIdxL {α : Type} (f : α → α) (V : List α) (k : Nat) (h : k < V.length) :
    setIdxL ((V.take k).map f ++ V.drop k) (k : Int) (f V[k]) = .ok ((V.take (k + 1)).map f ++ V.drop (k + 1)) := by
  have hl : k < ((V.take k).map f ++ V.drop k).length := by rw [inplace_length f V k (Nat.le_of_lt h)]; exact h
  rw [setIdxL_natCast hl, inplace_set f V k h]

/-- a translated `for i := range xs { s.F[i] = g(s.F[i]) }` (the field `F` read by `get`, written by `set`; `n` = length of
    the ranged-over snapshot, whose elements the body does not use) maps `g` over the field -/
theorem inplace_loop {σ α : Type} (get : σ → List α) (set : σ → List α → σ) (g : α → α)
    (loop : Nat → Int → σ → M (Int × σ)) (n : Nat)
    (hset : ∀ s v w, set (set s v) w = set s w) (hid : ∀ s v, get s = v → set s v = s)
    (hunf : ∀ f (k : Nat) s, loop (f + 1) k s =
      if decide ((k : Int) < (n : Int)) then
        idxL (get s) k >>= fun x => setIdxL (get s) k (g x) >>= fun v => loop f ((k : Int) + 1) (set s v)
      else pure ((k : Int), s))
    (hget : ∀ s v, get (set s v) = v) (V : List α) (hn : n = V.length) :
    ∀ (fuel k : Nat) (s : σ), k ≤ V.length → V.length - k + 1 ≤ fuel → get s = (V.take k).map g ++ V.drop k →
      loop fuel k s = .ok ((V.length : Int), set s (V.map g))
  | 0, k, s, _, hf, _ => by omega
  | fuel + 1, k, s, hk, hf, hs => by
    rw [hunf]
    by_cases hlt : k < V.length
    · have hc : decide ((k : Int) < (n : Int)) = true := by simp [hn]; exact hlt
      simp only [hc, if_true, hs, inplace_idxL _ V k hlt, inplace_setIdxL _ V k hlt, bind_ok]
      rw [show ((k : Int) + 1) = ((k + 1 : Nat) : Int) from by omega,
        inplace_loop get set g loop n hset hid hunf hget V hn fuel (k + 1) _ hlt (by omega) (hget _ _), hset]
    · obtain rfl : k = V.length := by omega
      have hc : decide (((V.length : Nat) : Int) < (n : Int)) = false := by simp [hn]
      simp only [hc, Bool.false_eq_true, if_false]
      rw [hid s _ (by simpa using hs)]; rfl

/-- `e.Path = filepath.Join(dir, e.Path)` -/
def joinFE (d : Bytes) (e : FileError) : FileError := { e with Path := GoRt.fpJoin d e.Path }

section
variable {cfp : Bytes → Option String} {ef : Bytes → Bytes → Bool}
  {osLstat : Bytes → (FileInfo × Option String)} {osOpenRead : Bytes → (Bytes × Option String)}
  {osReadFile : Bytes → (Bytes × Option String)} {pgv : Bytes → Bytes → Bytes} {sf : Int → Int} {tl : Bytes → Bytes}
  {vc : Bytes → Bytes → Int} {vl : Bytes → Bytes} {walkRoot : Bytes → FsTree FileInfo} (d : Bytes)

theorem loop1_eq (V rx : List Bytes) (hrx : rx.length = V.length) (fuel : Nat) (cf : CheckedFiles)
    (hf : V.length + 1 ≤ fuel) (hcf : cf.Valid = V) :
    Generated.Zip.CheckDir_loop1 cfp ef osLstat osOpenRead osReadFile pgv sf tl vc vl walkRoot rx d fuel ((0 : Nat) : Int) cf =
      .ok ((V.length : Int), { cf with Valid := V.map (GoRt.fpJoin d) }) :=
  inplace_loop (·.Valid) (fun cf v => { cf with Valid := v }) (GoRt.fpJoin d) _ rx.length (fun _ _ _ => rfl)
    (fun s v h => by subst h; rfl) (fun f k s => by rw [Generated.Zip.CheckDir_loop1]; rfl) (fun _ _ => rfl) V hrx
    fuel 0 cf (Nat.zero_le _) (by omega) (by simpa using hcf)

/-- the two readings `t := s.F[i]` of the loops over `FileError`s are one -/
theorem bind_twice {α β : Type} (x : M α) (k : α → α → M β) : (x >>= fun a => x >>= fun b => k a b) = (x >>= fun a => k a a) := by
  cases x <;> rfl

theorem loop2_eq (V rx : List FileError) (hrx : rx.length = V.length) (fuel : Nat) (cf : CheckedFiles)
    (hf : V.length + 1 ≤ fuel) (hcf : cf.Omitted = V) :
    Generated.Zip.CheckDir_loop2 cfp ef osLstat osOpenRead osReadFile pgv sf tl vc vl walkRoot rx d fuel ((0 : Nat) : Int) cf =
      .ok ((V.length : Int), { cf with Omitted := V.map (joinFE d) }) :=
  inplace_loop (·.Omitted) (fun cf v => { cf with Omitted := v }) (joinFE d) _ rx.length (fun _ _ _ => rfl)
    (fun s v h => by subst h; rfl) (fun f k s => by rw [Generated.Zip.CheckDir_loop2, bind_twice]; rfl) (fun _ _ => rfl) V hrx
    fuel 0 cf (Nat.zero_le _) (by omega) (by simpa using hcf)

theorem loop3_eq (V rx : List FileError) (hrx : rx.length = V.length) (fuel : Nat) (cf : CheckedFiles)
    (hf : V.length + 1 ≤ fuel) (hcf : cf.Invalid = V) :
    Generated.Zip.CheckDir_loop3 cfp ef osLstat osOpenRead osReadFile pgv sf tl vc vl walkRoot rx d fuel ((0 : Nat) : Int) cf =
      .ok ((V.length : Int), { cf with Invalid := V.map (joinFE d) }) :=
  inplace_loop (·.Invalid) (fun cf v => { cf with Invalid := v }) (joinFE d) _ rx.length (fun _ _ _ => rfl)
    (fun s v h => by subst h; rfl) (fun f k s => by rw [Generated.Zip.CheckDir_loop3, bind_twice]; rfl) (fun _ _ => rfl) V hrx
    fuel 0 cf (Nat.zero_le _) (by omega) (by simpa using hcf)

end

/-- an omitted entry of the directory report -/
def embDirOm (d : Bytes) (e : Bytes × Zip.Reason) : FileError :=
  { Path := GoRt.fpJoin d e.1, Err := some (reasonTextD e.2) }

/-- an INVALID entry of the directory report -/
def embDirInv (d : Bytes) (e : Bytes × Zip.Reason) : FileError :=
  { Path := GoRt.fpJoin d e.1, Err := some (reasonText e.2) }

/-- the model's directory report (paths relative to the directory) as `CheckDir` returns it -/
def embDir (d : Bytes) (cf : Zip.CheckedFiles) : CheckedFiles :=
  { Valid := cf.valid.map (GoRt.fpJoin d), Omitted := cf.omitted.map (embDirOm d), Invalid := cf.invalid.map (embDirInv d),
    SizeError := if cf.sizeError then some sizeErrorText else none }

/-- fuel for `CheckDir` / `CreateFromDir`: the walk, `checkFiles`, and the path-rewriting loops -/
def dirFuel (K : Nat) (ge124 : Bool) (children : List (Bytes × Zip.Node)) : Nat :=
  3 * listFuel children + fuelBound K (Zip.listFilesInDir ge124 children).files

theorem listFuel_pos (cs : List (Bytes × Zip.Node)) : 1 ≤ listFuel cs := by
  cases cs with
  | nil => simp [listFuel]
  | cons c rest => obtain ⟨a, b⟩ := c; simp only [listFuel]; omega

theorem reasonTextD_of_listReason {r : Zip.Reason} (h : ListReason r) : reasonTextD r = reasonText r := by
  cases r <;> first | rfl | exact absurd rfl h.1 | exact absurd rfl h.2

theorem errIs_zipError (t : String) : errIs "zipError" (some ("zipError|" ++ t)) = true := by
  simp only [errIs, Bool.or_eq_true]
  right
  rw [String.startsWith_string_iff]
  simp [String.toList_append]

end ModVerif.TieFnZipDir
