/-
  Tie helpers for IsPseudoVersion / parsePseudoVersion / PseudoVersionRev of module/pseudo.go: the regenerated
  definitions (Generated/FnModule.lean) compute the hand model (Model/Pseudo.lean).

  Bridging conventions (see Tie/FnPseudo.lean): `pseudoRE` (pseudoVersionRE.MatchString) is instantiated with the
  model's matcher; a Go `error` is `Option String`, the model has `Except Pseudo.Err`; `errOf` maps the model's
  error kinds to the error values the translator emits; the model's `.panic` is the generated code's `Err.panic`.
-/
import ModVerif.Generated.FnModule
import ModVerif.Model.Pseudo
import ModVerif.Proofs.GoRtLemmas
import ModVerif.Proofs.GoRtLemmasPseudo
import ModVerif.Proofs.PseudoSemver
import ModVerif.Tie.FnSemver
namespace ModVerif.TieFnPseudo
open ModVerif ModVerif.GoRt ModVerif.GoRtPseudo

/-- the Go error value (as the translator renders it) of each error kind of the model -/
def errOf : Pseudo.Err → Option String
  | .syntax => wrapErr "InvalidVersionError" (some "errPseudoSyntax")
  | .time => wrapErr "InvalidVersionError" (some "malformed time %q")
  | .build => wrapErr "InvalidVersionError" (some "lacks base version, but has build metadata %q")
  | .negative => wrapErr "InvalidVersionError" (some "version before %s would have negative patch number")
  | .panic => none

theorem errOf_isSome_of_ne_panic : ∀ e : Pseudo.Err, e ≠ .panic → (errOf e).isSome = true := by
  intro e h; cases e <;> simp_all [errOf, wrapErr]

/-- the five results of parsePseudoVersion -/
def parseOut : Except Pseudo.Err Pseudo.PseudoParts → M (Bytes × Bytes × Bytes × Bytes × Option String)
  | .ok p => .ok (p.base, p.timestamp, p.rev, p.build, none)
  | .error .panic => .error .panic
  | .error e => .ok ([], [], [], [], errOf e)

/-- (string, error) results: the string is "" whenever the error is non-nil -/
def strErrOut : Except Pseudo.Err Bytes → M (Bytes × Option String)
  | .ok r => .ok (r, none)
  | .error .panic => .error .panic
  | .error e => .ok ([], errOf e)

/-! ### the last occurrence of a byte: strings.LastIndex and the slices around it = the model's splitLast -/

theorem last_cases (c : UInt8) (v : Bytes) :
    (c ∉ v ∧ lastIndex v [c] = -1 ∧ Pseudo.splitLast c v = none) ∨
    ∃ a b, v = a ++ c :: b ∧ c ∉ b ∧ lastIndex v [c] = (a.length : Int) ∧ Pseudo.splitLast c v = some (a, b) ∧
      sliceTo v (a.length : Int) = .ok a ∧ sliceFrom v ((a.length : Int) + 1) = .ok b := by
  by_cases h : c ∈ v
  · obtain ⟨a, b, e, hb⟩ := exists_last_split c v h
    refine Or.inr ⟨a, b, e, hb, ?_, ?_, ?_, ?_⟩
    · rw [e]; exact lastIndex_single_split c a b hb
    · rw [e]; exact Proofs.Pseudo.splitLast_append c a b hb
    · rw [e, sliceTo_natCast (by simp)]; simp
    · have : ((a.length : Int) + 1) = ((a.length + 1 : Nat) : Int) := by simp
      rw [e, this, sliceFrom_natCast (by simp)]; simp
  · exact Or.inl ⟨h, lastIndex_single_notMem c v h, Proofs.Pseudo.splitLast_none c v h⟩

theorem IsPseudoVersion_ok (re : Bytes → Bool) (v : Bytes) (fuel : Nat) (hf : 2 * v.length ≤ fuel) :
    Generated.Module.IsPseudoVersion re fuel v =
      .ok (decide (v.count 45 ≥ 2) && Semver.isValid v && re v) := by
  unfold Generated.Module.IsPseudoVersion
  rw [count_single 45 v, Tie.FnSemver.IsValid_tie v fuel hf]
  by_cases h : v.count 45 ≥ 2
  · have h' : ((v.count 45 : Nat) : Int) ≥ 2 := by omega
    simp [h, h']
  · have h' : ¬ (((v.count 45 : Nat) : Int) ≥ 2) := by omega
    simp [h, h']

/-- parsePseudoVersion after `build = semver.Build(v)` -/
def parseRest (v build : Bytes) : M (Bytes × Bytes × Bytes × Bytes × (Option String)) := do
    let v := (trimSuffix v build)
    let j := (lastIndex v ([45] : Bytes))
    let t3 ← sliceTo v j
    let a4 := t3
    let t5 ← sliceFrom v (j + (1 : Int))
    let a6 := t5
    let v := a4
    let rev := a6
    let i := (lastIndex v ([45] : Bytes))
    let j_1 := (lastIndex v ([46] : Bytes))
    if (decide (j_1 > i)) then (do
      let t7 ← sliceTo v j_1
      let base := t7
      let t8 ← sliceFrom v (j_1 + (1 : Int))
      let timestamp := t8
      pure (base, timestamp, rev, build, (none : Option String))) else (do
      let t9 ← sliceTo v i
      let base := t9
      let t10 ← sliceFrom v (i + (1 : Int))
      let timestamp := t10
      pure (base, timestamp, rev, build, (none : Option String)))

theorem parsePseudoVersion_unfold (re : Bytes → Bool) (fuel : Nat) (v : Bytes) :
    Generated.Module.parsePseudoVersion re fuel v =
      (Generated.Module.IsPseudoVersion re fuel v >>= fun t1 =>
        if (!t1) then (pure (([] : Bytes), ([] : Bytes), ([] : Bytes), ([] : Bytes),
            (wrapErr "InvalidVersionError" (some "errPseudoSyntax"))))
        else (ModVerif.Generated.Semver.Build fuel v >>= fun t2 => parseRest v t2)) := by
  unfold Generated.Module.parsePseudoVersion parseRest
  rfl

/-- the model's parsePseudoVersion after the IsPseudoVersion test -/
def parseRestModel (v build : Bytes) : Except Pseudo.Err Pseudo.PseudoParts :=
  match Pseudo.splitLast 45 (Pseudo.trimSuffix v build) with
  | none => .error .panic
  | some (v, rev) =>
    let i : Int := match Pseudo.splitLast 45 v with
      | none => -1
      | some (a, _) => a.length
    match Pseudo.splitLast 46 v with
    | some (a, b) =>
      if (a.length : Int) > i then .ok ⟨a, b, rev, build⟩
      else
        match Pseudo.splitLast 45 v with
        | none => .error .panic
        | some (a, b) => .ok ⟨a, b, rev, build⟩
    | none =>
      match Pseudo.splitLast 45 v with
      | none => .error .panic
      | some (a, b) => .ok ⟨a, b, rev, build⟩

theorem parsePseudoVersion_model_unfold (v : Bytes) :
    Pseudo.parsePseudoVersion v =
      if !Pseudo.isPseudoVersion v then .error .syntax else parseRestModel v (Semver.build v) := rfl

theorem parseRest_ok (v build : Bytes) : parseRest v build = parseOut (parseRestModel v build) := by
  unfold parseRest parseRestModel
  have htrim : trimSuffix v build = Pseudo.trimSuffix v build := rfl
  rw [htrim]
  generalize Pseudo.trimSuffix v build = w
  rcases last_cases 45 w with ⟨_, hi, hs⟩ | ⟨a, rev, _, _, hi, hs, hto, hfrom⟩
  · -- no '-' at all: v[:-1] panics
    simp only [hi, hs, parseOut]
    rw [sliceTo_panic (by omega)]; rfl
  · simp only [hi, hs, hto, hfrom, bind_ok]
    rcases last_cases 45 a with ⟨_, hi1, hs1⟩ | ⟨a1, a2, _, _, hi1, hs1, hto1, hfrom1⟩
    · rcases last_cases 46 a with ⟨_, hj, ht⟩ | ⟨p, q, _, _, hj, ht, htoj, hfromj⟩
      · have hgt : ¬ ((-1 : Int) > -1) := by omega
        simp only [hi1, hs1, hj, ht, hgt, decide_false, Bool.false_eq_true, if_false, parseOut]
        rw [sliceTo_panic (by omega)]; rfl
      · have hgt : ((p.length : Int) > -1) := by omega
        simp [hi1, hs1, hj, ht, hgt, htoj, hfromj, parseOut]
    · rcases last_cases 46 a with ⟨_, hj, ht⟩ | ⟨p, q, _, _, hj, ht, htoj, hfromj⟩
      · have hgt : ¬ ((-1 : Int) > (a1.length : Int)) := by omega
        simp [hi1, hs1, hj, ht, hgt, hto1, hfrom1, parseOut]
      · by_cases hgt : (p.length : Int) > (a1.length : Int)
        · simp [hi1, hs1, hj, ht, hgt, htoj, hfromj, parseOut]
        · simp [hi1, hs1, hj, ht, hgt, hto1, hfrom1, parseOut]

theorem parsePseudoVersion_ok (v : Bytes) (fuel : Nat) (hf : 2 * v.length ≤ fuel) :
    Generated.Module.parsePseudoVersion Pseudo.matchPseudoVersionRE fuel v =
      parseOut (Pseudo.parsePseudoVersion v) := by
  rw [parsePseudoVersion_unfold, IsPseudoVersion_ok _ v fuel hf, bind_ok, parsePseudoVersion_model_unfold]
  have hp : (decide (v.count 45 ≥ 2) && Semver.isValid v && Pseudo.matchPseudoVersionRE v) = Pseudo.isPseudoVersion v := rfl
  rw [hp]
  by_cases h : Pseudo.isPseudoVersion v = true
  · simp only [h, Bool.not_true, Bool.false_eq_true, if_false]
    rw [Tie.FnSemver.Build_tie v fuel hf, bind_ok, parseRest_ok]
  · have h' : Pseudo.isPseudoVersion v = false := by simpa using h
    simp [h', parseOut, errOf]

theorem PseudoVersionRev_ok (v : Bytes) (fuel : Nat) (hf : 2 * v.length ≤ fuel) :
    Generated.Module.PseudoVersionRev Pseudo.matchPseudoVersionRE fuel v =
      strErrOut (Pseudo.pseudoVersionRev v) := by
  unfold Generated.Module.PseudoVersionRev Pseudo.pseudoVersionRev
  rw [parsePseudoVersion_ok v fuel hf]
  cases h : Pseudo.parsePseudoVersion v with
  | ok p => simp [parseOut, strErrOut]
  | error e => cases e <;> simp [parseOut, strErrOut]

end ModVerif.TieFnPseudo
