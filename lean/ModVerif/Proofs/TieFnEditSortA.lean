/-
  The inlined generic `removeDups` of `File.SortBlocks` / `WorkFile.SortBlocks` (Generated/FnEdit.lean), list level.  Go maps
  are association lists; the `kill` map (keys `*Line` pointers) is compared with the model's list of killed line ids as a SET
  (`KillRel`: Go inserts into a map, the model concatenates lists), a `have…` map with the model's `seen` list (`SeenRel`).  A
  typed list is taken as a zipped list of (pointer, model entry) pairs, since a predicate indexed by pointers need not exist.
  The ten regenerated loops are three generic ones: `filterLoopG` (= `List.filter`), `seenLoopG` (first wins = the model's
  `killLater`), `seenBackLoopG` (last wins, downwards = the model's `killEarlier`).
-/
import ModVerif.Proofs.TieFnEditRep
namespace ModVerif.Tie.FnEditSortA
open ModVerif ModVerif.GoRt ModVerif.Generated.Edit ModVerif.Tie.FnEditRep ModVerif.Tie.FnEditLoop

theorem mapGet_cons {κ ν : Type} [DecidableEq κ] (p : κ × ν) (t : List (κ × ν)) (k : κ) (z : ν) :
    mapGet (p :: t) k z = if p.1 = k then (p.2, true) else mapGet t k z := by
  unfold mapGet
  by_cases h : p.1 = k <;> simp [h]

theorem mapGet_nil {κ ν : Type} [DecidableEq κ] (k : κ) (z : ν) : mapGet ([] : List (κ × ν)) k z = (z, false) := rfl

theorem mapSet_nil {κ ν : Type} [DecidableEq κ] (k : κ) (v : ν) : mapSet ([] : List (κ × ν)) k v = [(k, v)] := rfl

theorem mapSet_cons {κ ν : Type} [DecidableEq κ] (p : κ × ν) (t : List (κ × ν)) (k : κ) (v : ν) :
    mapSet (p :: t) k v = if p.1 = k then (k, v) :: t.map (fun q => if q.1 = k then (k, v) else q) else p :: mapSet t k v := by
  unfold mapSet
  by_cases h : p.1 = k
  · simp [h]
  · simp only [List.find?_cons, h, decide_false, List.map_cons, if_false]
    split <;> simp

theorem mapGet_map_other {κ ν : Type} [DecidableEq κ] (k k' : κ) (v z : ν) (hk : k' ≠ k) :
    ∀ t : List (κ × ν), mapGet (t.map (fun q => if q.1 = k then (k, v) else q)) k' z = mapGet t k' z
  | [] => rfl
  | q :: t => by
    rw [List.map_cons, mapGet_cons, mapGet_cons, mapGet_map_other k k' v z hk t]
    by_cases hq : q.1 = k
    · have h1 : ¬ (k = k') := fun e => hk e.symm
      have h2 : ¬ (q.1 = k') := fun e => hk (by rw [← e, hq])
      simp [hq, h1]
    · simp [hq]

theorem mapGet_mapSet {κ ν : Type} [DecidableEq κ] (k k' : κ) (v z : ν) :
    ∀ m : List (κ × ν), (mapGet (mapSet m k v) k' z).1 = if k' = k then v else (mapGet m k' z).1
  | [] => by
    rw [mapSet_nil, mapGet_cons, mapGet_nil]
    by_cases h : k' = k
    · simp [h]
    · have : ¬ (k = k') := fun e => h e.symm
      simp [h, this]
  | p :: t => by
    rw [mapSet_cons]
    by_cases hp : p.1 = k
    · simp only [hp, if_true]
      rw [mapGet_cons]
      by_cases h : k' = k
      · simp [h]
      · have h1 : ¬ (k = k') := fun e => h e.symm
        simp only [h1, h, if_false]
        rw [mapGet_map_other k k' v z h t, mapGet_cons]
        have h2 : ¬ (p.1 = k') := fun e => h (by rw [← e, hp])
        simp [h2]
    · simp only [hp, if_false]
      rw [mapGet_cons, mapGet_cons]
      by_cases h2 : p.1 = k'
      · have : ¬ (k' = k) := fun e => hp (by rw [h2, e])
        simp [h2, this]
      · simp only [h2, if_false]
        exact mapGet_mapSet k k' v z t

/-- the `kill` map of removeDups (keys: `*Line` pointers) against the model's list of killed line ids -/
def KillRel (km : List (Int × Bool)) (kl : List Nat) : Prop := ∀ n : Nat, (mapGet km (n : Int) false).1 = kl.contains n

theorem KillRel.nil : KillRel [] [] := fun _ => rfl

theorem KillRel.congr {km : List (Int × Bool)} {kl kl' : List Nat} (h : KillRel km kl) (e : ∀ n, kl'.contains n = kl.contains n) :
    KillRel km kl' := fun n => by rw [h n, e n]

theorem KillRel.set {km : List (Int × Bool)} {kl kl' : List Nat} (h : KillRel km kl) (i : Nat)
    (e : ∀ n, kl'.contains n = (n == i || kl.contains n)) : KillRel (mapSet km (i : Int) true) kl' := by
  intro n
  rw [mapGet_mapSet, e n, h n]
  by_cases hn : n = i
  · simp [hn]
  · have : ¬ ((n : Int) = (i : Int)) := by omega
    simp [hn, this]

/-- a `have…` map (keys embedded by `emb`) against the model's `seen` list -/
def SeenRel {κ κ' : Type} [DecidableEq κ] [BEq κ'] (emb : κ' → κ) (hv : List (κ × Bool)) (seen : List κ') : Prop :=
  ∀ k : κ', (mapGet hv (emb k) false).1 = seen.contains k

theorem SeenRel.nil {κ κ' : Type} [DecidableEq κ] [BEq κ'] (emb : κ' → κ) : SeenRel emb [] [] := fun _ => rfl

theorem SeenRel.set {κ κ' : Type} [DecidableEq κ] [BEq κ'] [LawfulBEq κ'] {emb : κ' → κ} (hinj : ∀ a b, emb a = emb b → a = b)
    {hv : List (κ × Bool)} {seen : List κ'} (h : SeenRel emb hv seen) (a : κ') : SeenRel emb (mapSet hv (emb a) true) (a :: seen) := by
  intro k
  rw [mapGet_mapSet, h k, List.contains_cons]
  by_cases hk : k = a
  · simp [hk]
  · have : ¬ (emb k = emb a) := fun e => hk (hinj _ _ e)
    simp [hk, this]

def ZEnts {α β : Type} (objs : List α) (g : β → α) (id : β → Nat) (nl : Nat) (zs : List (Int × β)) : Prop :=
  ∀ z ∈ zs, heapGet objs z.1 = .ok (g z.2) ∧ id z.2 ≤ nl

theorem REntsL.toZip {α β : Type} {objs : List α} {g : β → α} {id : β → Nat} {nl : Nat} :
    ∀ {ps : List Int} {xs : List β}, REntsL objs g id nl ps xs →
      ∃ zs : List (Int × β), ps = zs.map (·.1) ∧ xs = zs.map (·.2) ∧ ZEnts objs g id nl zs
  | [], [], _ => ⟨[], rfl, rfl, fun _ h => by cases h⟩
  | p :: ps, x :: xs, r => by
    obtain ⟨zs, h1, h2, h3⟩ := REntsL.toZip r.2
    refine ⟨(p, x) :: zs, by simp [h1], by simp [h2], ?_⟩
    intro z hz
    rcases List.mem_cons.1 hz with rfl | hz
    · exact r.1
    · exact h3 z hz
  | [], _ :: _, r => r.elim
  | _ :: _, [], r => r.elim

theorem REntsL.ofZip {α β : Type} {objs : List α} {g : β → α} {id : β → Nat} {nl : Nat} :
    ∀ {zs : List (Int × β)}, ZEnts objs g id nl zs → REntsL objs g id nl (zs.map (·.1)) (zs.map (·.2))
  | [], _ => trivial
  | z :: _, h => ⟨h z List.mem_cons_self, REntsL.ofZip (fun y hy => h y (List.mem_cons_of_mem _ hy))⟩

theorem ZEnts.filter {α β : Type} {objs : List α} {g : β → α} {id : β → Nat} {nl : Nat} {zs : List (Int × β)}
    (h : ZEnts objs g id nl zs) (q : Int × β → Bool) : ZEnts objs g id nl (zs.filter q) :=
  fun z hz => h z (List.mem_filter.1 hz).1

theorem map_snd_filter {β : Type} (zs : List (Int × β)) (q : β → Bool) :
    (zs.filter (fun z => q z.2)).map (·.2) = (zs.map (·.2)).filter q := by
  induction zs with
  | nil => rfl
  | cons z zs ih => by_cases h : q z.2 <;> simp [h, ih]

theorem REnts.filterZip {α β : Type} {objs : List α} {g : β → α} {id : β → Nat} {nl : Nat} {zs : List (Int × β)}
    (h : ZEnts objs g id nl zs) (hn : (zs.map (·.1)).Nodup) (q : β → Bool) :
    REnts objs g id nl ((zs.filter (fun z => q z.2)).map (·.1)) ((zs.map (·.2)).filter q) := by
  refine ⟨?_, ?_⟩
  · rw [← map_snd_filter]; exact REntsL.ofZip (h.filter _)
  · exact List.Nodup.sublist (List.Sublist.map _ List.filter_sublist) hn

def filterLoopG (keep : Int → M Bool) (rx : List Int) : Nat → Int → List Int → M (Int × List Int)
  | 0, _, _ => throw Err.fuel
  | fuel + 1, ri, acc => if decide (ri < len rx) then (do
      let x ← idxL rx ri
      let b ← keep x
      if b then filterLoopG keep rx fuel (ri + 1) (acc ++ [x]) else filterLoopG keep rx fuel (ri + 1) acc)
    else pure (ri, acc)

theorem filterLoopG_zip {β : Type} (keep : Int → M Bool) (q : β → Bool) (zs : List (Int × β)) (fuel : Nat)
    (hf : zs.length < fuel) (hk : ∀ z ∈ zs, keep z.1 = .ok (q z.2)) :
    filterLoopG keep (zs.map (·.1)) fuel 0 [] = .ok (len (zs.map (·.1)), (zs.filter (fun z => q z.2)).map (·.1)) := by
  -- a pointer-indexed predicate need not exist (pointers may repeat in general); go through positions instead
  have key : ∀ (rest : List (Int × β)) (pre : List Int) (rx : List Int) (ri : Int) (fuel : Nat) (acc : List Int),
      rx = pre ++ rest.map (·.1) → ri = (pre.length : Int) → rest.length < fuel → (∀ z ∈ rest, keep z.1 = .ok (q z.2)) →
      filterLoopG keep rx fuel ri acc = .ok (len rx, acc ++ (rest.filter (fun z => q z.2)).map (·.1)) := by
    intro rest
    induction rest with
    | nil =>
      intro pre rx ri fuel acc hrx hri hf _
      cases fuel with
      | zero => cases hf
      | succ fuel =>
        subst hrx hri
        have := not_lt_len_end pre
        simp [filterLoopG, pure, Except.pure, len_eq]
    | cons z rest ih =>
      intro pre rx ri fuel acc hrx hri hf hk
      cases fuel with
      | zero => cases hf
      | succ fuel =>
        have ih' := ih (pre ++ [z.1]) rx (ri + 1) fuel
        subst hrx hri
        have hz := hk z List.mem_cons_self
        simp only [List.map_cons] at ih' ⊢
        simp only [filterLoopG, lt_len_mid, decide_true, if_true, idxL_mid, bind, Except.bind, hz]
        have hf' : rest.length < fuel := by simp at hf; omega
        have hk' : ∀ y ∈ rest, keep y.1 = .ok (q y.2) := fun y hy => hk y (List.mem_cons_of_mem _ hy)
        cases hq : q z.2
        · simp only [Bool.false_eq_true, if_false]
          rw [ih' acc (by simp) (by simp) hf' hk']
          simp [hq]
        · simp only [if_true]
          rw [ih' (acc ++ [z.1]) (by simp) (by simp) hf' hk']
          simp [hq]
  have := key zs [] (zs.map (·.1)) 0 fuel [] (by simp) (by simp) hf hk
  simpa using this

theorem filterLoopG_spec (keep : Int → M Bool) (k : Int → Bool) (ps : List Int) (fuel : Nat) (hf : ps.length < fuel)
    (hk : ∀ x ∈ ps, keep x = .ok (k x)) : filterLoopG keep ps fuel 0 [] = .ok (len ps, ps.filter k) := by
  have := filterLoopG_zip keep k (ps.map fun x => (x, x)) fuel (by simpa using hf) (by simpa using hk)
  simpa [List.filter_map, Function.comp_def] using this

/-- generic "first wins" scan -/
def seenLoopG {κ : Type} [DecidableEq κ] (get : Int → M (κ × Int)) (rx : List Int) :
    Nat → Int → List (Int × Bool) → List (κ × Bool) → M (Int × List (Int × Bool) × List (κ × Bool))
  | 0, _, _, _ => throw Err.fuel
  | fuel + 1, ri, kill, hv => if decide (ri < len rx) then (do
      let x ← idxL rx ri
      let t ← get x
      if (mapGet hv t.1 false).1 then seenLoopG get rx fuel (ri + 1) (mapSet kill t.2 true) hv
      else seenLoopG get rx fuel (ri + 1) kill (mapSet hv t.1 true))
    else pure (ri, kill, hv)

open ModVerif.Modfile.Edit (killLater killEarlier) in
/-- the "first wins" scan computes the model's `killLater` (as a set of killed ids) -/
theorem seenLoopG_spec {κ κ' β : Type} [DecidableEq κ] [BEq κ'] [LawfulBEq κ'] (emb : κ' → κ) (hinj : ∀ a b, emb a = emb b → a = b)
    (get : Int → M (κ × Int)) (key : β → κ') (id : β → Nat) :
    ∀ (rest : List (Int × β)) (pre rx : List Int) (ri : Int) (fuel : Nat) (km : List (Int × Bool)) (hv : List (κ × Bool))
      (kl : List Nat) (seen : List κ'),
      rx = pre ++ rest.map (·.1) → ri = (pre.length : Int) → rest.length < fuel →
      (∀ z ∈ rest, get z.1 = .ok (emb (key z.2), (id z.2 : Int))) → KillRel km kl → SeenRel emb hv seen →
      ∃ km' hv', seenLoopG get rx fuel ri km hv = .ok (len rx, km', hv') ∧
        KillRel km' (kl ++ killLater key id (rest.map (·.2)) seen) := by
  intro rest
  induction rest with
  | nil =>
    intro pre rx ri fuel km hv kl seen hrx hri hf _ hK _
    cases fuel with
    | zero => cases hf
    | succ fuel =>
      subst hrx hri
      have := not_lt_len_end pre
      refine ⟨km, hv, by simp [seenLoopG, pure, Except.pure, len_eq], ?_⟩
      simpa [killLater] using hK
  | cons z rest ih =>
    intro pre rx ri fuel km hv kl seen hrx hri hf hg hK hS
    cases fuel with
    | zero => cases hf
    | succ fuel =>
      have ih' := ih (pre ++ [z.1]) rx (ri + 1) fuel
      subst hrx hri
      simp only [List.map_cons] at ih' ⊢
      have hz := hg z List.mem_cons_self
      have hf' : rest.length < fuel := by simp at hf; omega
      have hg' : ∀ y ∈ rest, get y.1 = .ok (emb (key y.2), (id y.2 : Int)) := fun y hy => hg y (List.mem_cons_of_mem _ hy)
      simp only [seenLoopG, lt_len_mid, decide_true, if_true, idxL_mid, bind, Except.bind, hz, hS (key z.2)]
      cases hc : seen.contains (key z.2)
      · simp only [Bool.false_eq_true, if_false]
        obtain ⟨km', hv', e1, e2⟩ := ih' km (mapSet hv (emb (key z.2)) true) kl (key z.2 :: seen) (by simp) (by simp) hf' hg' hK
          (hS.set hinj _)
        refine ⟨km', hv', e1, ?_⟩
        simp only [killLater, hc, Bool.false_eq_true, if_false]
        exact e2
      · simp only [if_true]
        obtain ⟨km', hv', e1, e2⟩ := ih' (mapSet km (id z.2 : Int) true) hv (kl ++ [id z.2]) seen (by simp) (by simp) hf' hg'
          (hK.set _ (by
            intro n
            rw [List.contains_append, List.contains_cons, List.contains_nil, Bool.or_false, Bool.or_comm])) hS
        refine ⟨km', hv', e1, ?_⟩
        simp only [killLater, hc, if_true]
        simpa using e2

/-- generic "last wins" scan (downwards from the end) -/
def seenBackLoopG {κ : Type} [DecidableEq κ] (get : Int → M (κ × Int)) (rx : List Int) :
    Nat → List (Int × Bool) → List (κ × Bool) → Int → M (List (Int × Bool) × List (κ × Bool) × Int)
  | 0, _, _, _ => throw Err.fuel
  | fuel + 1, kill, hv, i => if decide (i ≥ (0 : Int)) then (do
      let x ← idxL rx i
      let t ← get x
      if (mapGet hv t.1 false).1 then seenBackLoopG get rx fuel (mapSet kill t.2 true) hv (i - 1)
      else seenBackLoopG get rx fuel kill (mapSet hv t.1 true) (i - 1))
    else pure (kill, hv, i)

theorem contains_map_old (suf : List Modfile.Replace) (x : Modfile.Replace) :
    (suf.map (·.old)).contains x.old = suf.any (fun y => y.old == x.old) := by
  induction suf with
  | nil => rfl
  | cons y t ih =>
    simp only [List.map_cons, List.contains_cons, List.any_cons, ih]
    rw [BEq.comm]

open ModVerif.Modfile.Edit (killLater killEarlier) in
/-- the "last wins" scan over the replacements computes the model's `killEarlier` (as a set) -/
theorem seenBackLoopG_spec (get : Int → M (ModVersion × Int)) :
    ∀ (revpre suf : List (Int × Modfile.Replace)) (rx : List Int) (i : Int) (fuel : Nat) (km : List (Int × Bool))
      (hv : List (ModVersion × Bool)) (kl : List Nat),
      rx = (revpre.reverse ++ suf).map (·.1) → i = (revpre.length : Int) - 1 → revpre.length < fuel →
      (∀ z ∈ revpre, get z.1 = .ok (mvG z.2.old, (z.2.lineId : Int))) →
      KillRel km (kl ++ killEarlier (suf.map (·.2))) → SeenRel mvG hv (suf.map (·.2.old)) →
      ∃ km' hv', seenBackLoopG get rx fuel km hv i = .ok (km', hv', -1) ∧
        KillRel km' (kl ++ killEarlier ((revpre.reverse ++ suf).map (·.2))) := by
  intro revpre
  induction revpre with
  | nil =>
    intro suf rx i fuel km hv kl hrx hi hf _ hK _
    cases fuel with
    | zero => cases hf
    | succ fuel =>
      have hi' : i = -1 := by simpa using hi
      subst hi'
      refine ⟨km, hv, by simp [seenBackLoopG, pure, Except.pure], by simpa using hK⟩
  | cons z r ih =>
    intro suf rx i fuel km hv kl hrx hi hf hg hK hS
    cases fuel with
    | zero => cases hf
    | succ fuel =>
      have hz := hg z List.mem_cons_self
      have hf' : r.length < fuel := by simp at hf; omega
      have hg' : ∀ y ∈ r, get y.1 = .ok (mvG y.2.old, (y.2.lineId : Int)) := fun y hy => hg y (List.mem_cons_of_mem _ hy)
      have hi0 : i = (r.length : Int) := by simp at hi; omega
      have hidx : idxL rx i = .ok z.1 := by
        rw [hrx, hi0]
        have : (List.map (fun x => x.1) ((z :: r).reverse ++ suf)) = (r.reverse.map (·.1)) ++ z.1 :: suf.map (·.1) := by simp
        rw [this]
        have hl : (r.length : Int) = ((r.reverse.map (·.1)).length : Int) := by simp
        rw [hl]; exact idxL_mid _ _ _
      have hge : i ≥ 0 := by omega
      have hrx' : rx = (r.reverse ++ z :: suf).map (·.1) := by rw [hrx]; simp
      have hlist : (z :: r).reverse ++ suf = r.reverse ++ z :: suf := by simp
      simp only [seenBackLoopG, hge, decide_true, if_true, hidx, bind, Except.bind, hz]
      have hq := hS z.2.old
      have hq' : (mapGet hv (mvG z.2.old) false).1 = (suf.map (·.2)).any (fun y => y.old == z.2.old) := by
        rw [← contains_map_old, List.map_map]; exact hq
      rw [hq']
      cases hc : (suf.map (·.2)).any (fun y => y.old == z.2.old)
      · simp only [Bool.false_eq_true, if_false]
        obtain ⟨km', hv', e1, e2⟩ := ih (z :: suf) rx (i - 1) fuel km (mapSet hv (mvG z.2.old) true) kl hrx' (by omega) hf' hg'
          (by simpa [killEarlier, hc] using hK)
          (by simpa using hS.set (fun a b => mvG_inj) z.2.old)
        exact ⟨km', hv', e1, by rw [hlist]; exact e2⟩
      · simp only [if_true]
        obtain ⟨km', hv', e1, e2⟩ := ih (z :: suf) rx (i - 1) fuel (mapSet km (z.2.lineId : Int) true) hv kl hrx' (by omega) hf' hg'
          (by
            refine hK.set _ ?_
            intro n
            simp only [List.map_cons, killEarlier, hc, if_true, List.contains_append, List.contains_cons]
            rw [Bool.or_left_comm])
          (by
            intro k
            have := hS k
            simp only [List.map_cons, List.contains_cons]
            rw [this]
            -- the key of `z` is already in `seen`
            have hin : (suf.map (·.2.old)).contains z.2.old = true := by
              have := contains_map_old (suf.map (·.2)) z.2
              simp only [List.map_map] at this
              rw [hc] at this; exact this
            by_cases hk : k = z.2.old
            · rw [hk, hin]; simp
            · simp [hk])
        exact ⟨km', hv', e1, by rw [hlist]; exact e2⟩

theorem loop1_eq (rx : List Int) (f : Int) (world : Heap) :
    ∀ (fuel : Nat) (ri : Int) (kill : List (Int × Bool)) (hv : List (ModVersion × Bool)),
    File_removeDups_loop1 rx f world fuel ri kill hv =
      seenLoopG (fun x => do let t ← heapGet world.excludes x; pure (t.Mod, t.Syntax)) rx fuel ri kill hv := by
  intro fuel
  induction fuel with
  | zero => intro ri kill hv; rfl
  | succ n ih =>
    intro ri kill hv
    simp only [File_removeDups_loop1, seenLoopG, ih]
    split
    · cases idxL rx ri with
      | error e => rfl
      | ok x =>
        simp only [bind, Except.bind]
        cases hx : heapGet world.excludes x with
        | error e => rfl
        | ok t => simp [pure, Except.pure]
    · rfl

theorem loop2_eq (rx : List Int) (f : Int) (kill : List (Int × Bool)) (world : Heap) :
    ∀ (fuel : Nat) (ri : Int) (acc : List Int),
    File_removeDups_loop2 rx f kill world fuel ri acc =
      filterLoopG (fun x => do let t ← heapGet world.excludes x; pure (!(mapGet kill t.Syntax false).1)) rx fuel ri acc := by
  intro fuel
  induction fuel with
  | zero => intro ri acc; rfl
  | succ n ih =>
    intro ri acc
    simp only [File_removeDups_loop2, filterLoopG, ih, bind_assoc, pure_bind]

theorem loop4_eq (rx : List Int) (f : Int) (kill : List (Int × Bool)) (world : Heap) :
    ∀ (fuel : Nat) (ri : Int) (acc : List Int),
    File_removeDups_loop4 rx f kill world fuel ri acc =
      filterLoopG (fun x => do let t ← heapGet world.replaces x; pure (!(mapGet kill t.Syntax false).1)) rx fuel ri acc := by
  intro fuel
  induction fuel with
  | zero => intro ri acc; rfl
  | succ n ih =>
    intro ri acc
    simp only [File_removeDups_loop4, filterLoopG, ih, bind_assoc, pure_bind]

theorem loop6_eq (rx : List Int) (f : Int) (kill : List (Int × Bool)) (world : Heap) :
    ∀ (fuel : Nat) (ri : Int) (acc : List Int),
    File_removeDups_loop6 rx f kill world fuel ri acc =
      filterLoopG (fun x => do let t ← heapGet world.tools x; pure (!(mapGet kill t.Syntax false).1)) rx fuel ri acc := by
  intro fuel
  induction fuel with
  | zero => intro ri acc; rfl
  | succ n ih =>
    intro ri acc
    simp only [File_removeDups_loop6, filterLoopG, ih, bind_assoc, pure_bind]

theorem wloop2_eq (rx : List Int) (f : Int) (kill : List (Int × Bool)) (world : Heap) :
    ∀ (fuel : Nat) (ri : Int) (acc : List Int),
    WorkFile_removeDups_loop2 rx kill f world fuel ri acc =
      filterLoopG (fun x => do let t ← heapGet world.replaces x; pure (!(mapGet kill t.Syntax false).1)) rx fuel ri acc := by
  intro fuel
  induction fuel with
  | zero => intro ri acc; rfl
  | succ n ih =>
    intro ri acc
    simp only [WorkFile_removeDups_loop2, filterLoopG, ih, bind_assoc, pure_bind]

theorem loop8_eq (rx : List Int) (kill : List (Int × Bool)) (b : Int) (world : Heap) :
    ∀ (fuel : Nat) (ri : Int) (acc : List Int),
    File_removeDups_loop8 rx kill b world fuel ri acc =
      filterLoopG (fun x => pure (!(mapGet kill x false).1)) rx fuel ri acc := by
  intro fuel
  induction fuel with
  | zero => intro ri acc; rfl
  | succ n ih =>
    intro ri acc
    simp only [File_removeDups_loop8, filterLoopG, ih, pure_bind]

theorem wloop4_eq (rx : List Int) (kill : List (Int × Bool)) (b : Int) (world : Heap) :
    ∀ (fuel : Nat) (ri : Int) (acc : List Int),
    WorkFile_removeDups_loop4 rx kill b world fuel ri acc =
      filterLoopG (fun x => pure (!(mapGet kill x false).1)) rx fuel ri acc := by
  intro fuel
  induction fuel with
  | zero => intro ri acc; rfl
  | succ n ih =>
    intro ri acc
    simp only [WorkFile_removeDups_loop4, filterLoopG, ih, pure_bind]

theorem loop5_eq (rx : List Int) (f : Int) (world : Heap) :
    ∀ (fuel : Nat) (ri : Int) (kill : List (Int × Bool)) (hv : List (Bytes × Bool)),
    File_removeDups_loop5 rx f world fuel ri kill hv =
      seenLoopG (fun x => do let t ← heapGet world.tools x; pure (t.Path, t.Syntax)) rx fuel ri kill hv := by
  intro fuel
  induction fuel with
  | zero => intro ri kill hv; rfl
  | succ n ih =>
    intro ri kill hv
    simp only [File_removeDups_loop5, seenLoopG, ih]
    split
    · cases idxL rx ri with
      | error e => rfl
      | ok x =>
        simp only [bind, Except.bind]
        cases hx : heapGet world.tools x with
        | error e => rfl
        | ok t => simp [pure, Except.pure]
    · rfl

theorem loop3_eq (f : Int) (world : Heap) (o : File) (ho : heapGet world.mods f = .ok o) :
    ∀ (fuel : Nat) (kill : List (Int × Bool)) (hv : List (ModVersion × Bool)) (i : Int),
    File_removeDups_loop3 f world fuel kill hv i =
      seenBackLoopG (fun x => do let t ← heapGet world.replaces x; pure (t.Old, t.Syntax)) o.Replace fuel kill hv i := by
  intro fuel
  induction fuel with
  | zero => intro kill hv i; rfl
  | succ n ih =>
    intro kill hv i
    simp only [File_removeDups_loop3, seenBackLoopG, ih, ho]
    split
    · simp only [bind, Except.bind]
      cases idxL o.Replace i with
      | error e => rfl
      | ok x =>
        simp only []
        cases hx : heapGet world.replaces x with
        | error e => rfl
        | ok t => simp [pure, Except.pure]
    · rfl

theorem wloop1_eq (f : Int) (world : Heap) (o : WorkFile) (ho : heapGet world.works f = .ok o) :
    ∀ (fuel : Nat) (kill : List (Int × Bool)) (hv : List (ModVersion × Bool)) (i : Int),
    WorkFile_removeDups_loop1 f world fuel kill hv i =
      seenBackLoopG (fun x => do let t ← heapGet world.replaces x; pure (t.Old, t.Syntax)) o.Replace fuel kill hv i := by
  intro fuel
  induction fuel with
  | zero => intro kill hv i; rfl
  | succ n ih =>
    intro kill hv i
    simp only [WorkFile_removeDups_loop1, seenBackLoopG, ih, ho]
    split
    · simp only [bind, Except.bind]
      cases idxL o.Replace i with
      | error e => rfl
      | ok x =>
        simp only []
        cases hx : heapGet world.replaces x with
        | error e => rfl
        | ok t => simp [pure, Except.pure]
    · rfl

protected theorem idxL_cursor {α : Type} (pre : List α) (x : α) (rest : List α) :
    idxL (pre ++ x :: rest) (pre.length : Int) = .ok x := idxL_mid pre x rest

protected theorem lt_len_cursor {α : Type} (pre : List α) (x : α) (rest : List α) :
    ((pre.length : Int) < len (pre ++ x :: rest)) := lt_len_mid pre x rest

protected theorem not_lt_len_end {α : Type} (pre : List α) : ¬ ((pre.length : Int) < len (pre ++ ([] : List α))) :=
  FnEditLoop.not_lt_len_end pre

end ModVerif.Tie.FnEditSortA
