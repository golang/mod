/-
  The tree invariant along whole go.mod sessions (all operations but the two bulk requirement
  setters), and what it says about the typed lists.
-/
import ModVerif.Proofs.EditRefineInvOps
namespace ModVerif.Modfile.Edit
open ModVerif ModVerif.Modfile

/-- arguments valid for the tree-level theorem: non-empty keys also for the Drop operations; the two bulk
    requirement setters and the go.work operations are not covered -/
def ValidArgsT : Op → Prop
  | .addGodebug k _ => k ≠ []
  | .dropGodebug k => k ≠ []
  | .addRequire p _ => p ≠ []
  | .addNewRequire p _ _ => p ≠ []
  | .dropRequire p => p ≠ []
  | .setRequire _ _ => False
  | .setRequireSeparateIndirect _ _ => False
  | .addExclude p _ => p ≠ []
  | .dropExclude p _ => p ≠ []
  | .addReplace op _ _ _ => op ≠ []
  | .dropReplace op _ => op ≠ []
  | .dropRetract lo hi => lo ≠ [] ∨ hi ≠ []
  | .addTool p => p ≠ []
  | .dropTool p => p ≠ []
  | _ => True

theorem applyMod_invR {V : RqView} (e e' : EFile) (op : Op) (hv : ValidArgsT op) (hi : InvR V e) (h : applyMod e op = some (.ok e')) : InvR V e' := by
  cases op with
  | addModule p => simp only [applyMod, Option.some.injEq, Except.ok.injEq] at h; subst h; exact addModuleStmt_invR e p hi
  | addGo v => simp only [applyMod, Option.some.injEq] at h; exact addGoStmt_invR e e' v hi h
  | dropGo => simp only [applyMod, Option.some.injEq, Except.ok.injEq] at h; subst h; exact dropGoStmt_invR e hi
  | addToolchain n => simp only [applyMod, Option.some.injEq] at h; exact addToolchainStmt_invR e e' n hi h
  | dropToolchain => simp only [applyMod, Option.some.injEq, Except.ok.injEq] at h; subst h; exact dropToolchainStmt_invR e hi
  | addGodebug k v => simp only [applyMod, Option.some.injEq] at h; exact addGodebug_invR e e' k v hv hi h
  | dropGodebug k => simp only [applyMod, Option.some.injEq] at h; exact dropGodebug_invR e e' k hv hi h
  | addRequire p v => simp only [applyMod, Option.some.injEq] at h; exact addRequire_invR e e' p v hv hi h
  | addNewRequire p v i =>
    simp only [applyMod, Option.some.injEq, Except.ok.injEq] at h; subst h; exact addNewRequire_invR e p v i hv hi
  | dropRequire p => simp only [applyMod, Option.some.injEq] at h; exact dropRequire_invR e e' p hv hi h
  | setRequire w r => exact absurd hv (by simp [ValidArgsT])
  | setRequireSeparateIndirect w r => exact absurd hv (by simp [ValidArgsT])
  | addExclude p v => simp only [applyMod, Option.some.injEq] at h; exact addExclude_invR e e' p v hv hi h
  | dropExclude p v => simp only [applyMod, Option.some.injEq] at h; exact dropExclude_invR e e' p v hv hi h
  | addReplace a b c d => simp only [applyMod, Option.some.injEq] at h; exact addReplace_invR e e' a b c d hv hi h
  | dropReplace a b => simp only [applyMod, Option.some.injEq] at h; exact dropReplace_invR e e' a b hv hi h
  | addRetract lo hi' why => simp only [applyMod, Option.some.injEq] at h; exact addRetract_invR e e' _ why hi h
  | dropRetract lo hi' => simp only [applyMod, Option.some.injEq] at h; exact dropRetract_invR e e' lo hi' hv hi h
  | addTool p => simp only [applyMod, Option.some.injEq, Except.ok.injEq] at h; subst h; exact addTool_invR e p hv hi
  | dropTool p => simp only [applyMod, Option.some.injEq] at h; exact dropTool_invR e e' p hv hi h
  | sortBlocks => simp only [applyMod, Option.some.injEq, Except.ok.injEq] at h; subst h; exact sortBlocks_invR e hi
  | cleanup => simp only [applyMod, Option.some.injEq, Except.ok.injEq] at h; subst h; exact cleanup_invR e hi
  | addUse d m => simp [applyMod] at h
  | addNewUse d m => simp [applyMod] at h
  | dropUse d => simp [applyMod] at h
  | setUse w rev => simp [applyMod] at h

theorem applyMod_inv (e e' : EFile) (op : Op) (hv : ValidArgsT op) (hi : Inv e) (h : applyMod e op = some (.ok e')) : Inv e' :=
  (applyMod_invR e e' op hv hi.r h).full

theorem runOps_inv (ops : List Op) : ∀ (e : EFile) (res0 : List Bool) (i : Nat) (e' : EFile) (res : List Bool),
    (∀ op ∈ ops, ValidArgsT op) → Inv e → runOps applyMod e ops res0 i = .done e' res → Inv e' :=
  runOps_preserves applyMod Inv ValidArgsT (fun e e' op hv hi h => applyMod_inv e e' op hv hi h) ops

theorem Inv_empty : Inv (load {}) := by
  refine ⟨⟨by simp [load, shiftSyntax, treeIds, loc], by simp [load, shiftSyntax, treeIds, loc],
      by simp [load, shiftSyntax, treeIds, loc], by simp [load, shiftSyntax], by simp [load, shiftSyntax],
      by simp [load, shiftSyntax], by simp [load, shiftSyntax]⟩, ?_, ?_⟩
  · refine ⟨by simp [load, entries, entsOf], by simp [load, entries, entsOf], by simp [load, shiftSyntax, view, loc]⟩
  · exact TInv_load {} (startOKb_sound {} (by decide))

/-- **C15, tree half (all operations but SetRequire / SetRequireSeparateIndirect).**  From a state satisfying the
    invariant, after any session of operations with valid arguments and the final Cleanup: the tree is well formed
    and its live lines are exactly the renderings of the live typed entries (one line per entry, one entry per
    line; verb, AutoQuoted path, version, `// indirect` marker as the entry says). -/
theorem typed_eq_tree_partial2 (e e' : EFile) (ops : List Op) (res : List Bool) (hi : Inv e)
    (hv : ∀ op ∈ ops, ValidArgsT op) (h : runOps applyMod e ops [] 0 = .done e' res) : Inv (cleanup e') :=
  cleanup_inv e' (runOps_inv ops e [] 0 e' res hv hi h)

/-- what the invariant says about the requirements: every live typed requirement has its own live line
    `require <AutoQuoted path> <version>`, marked `// indirect` iff the entry is indirect -/
theorem Inv.require_line {e : EFile} (hi : Inv e) (r : Require) (hr : r ∈ e.f.require) (hl : r.mod.path ≠ []) :
    ∃ v ∈ view e.f.syn.stmts, v.id = r.lineId ∧ v.toks = [B "require", autoQuote r.mod.path, r.mod.version] ∧
      isIndirectS v.suffix = r.indirect := by
  have hen : entRq r ∈ entries e.f := by
    rw [entries_require]
    exact List.mem_append_right _ (List.mem_append_left _ ((mem_entsOf liveRq entRq).2 ⟨r, hr, ne_nil_live hl, rfl⟩))
  rcases hi.mtch.cover _ hen with ⟨v, hv, hid, hacc⟩
  exact ⟨v, hv, hid, hacc.1, hacc.2⟩

theorem InvR.line_entry {V : RqView} {e : EFile} (hi : InvR V e) (v : VLine) (hv : v ∈ view e.f.syn.stmts) :
    ∃ en ∈ entriesR V e.f, en.id = v.id ∧ en.acc v.toks v.suffix := hi.mtch.line_entry hi.tree v hv

theorem Inv.line_entry {e : EFile} (hi : Inv e) (v : VLine) (hv : v ∈ view e.f.syn.stmts) :
    ∃ en ∈ entries e.f, en.id = v.id ∧ en.acc v.toks v.suffix := hi.r.line_entry v hv

end ModVerif.Modfile.Edit
