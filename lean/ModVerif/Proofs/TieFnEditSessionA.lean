/-
  Sessions of the regenerated edit operations against sessions of the hand model: what go.mod and go.work share.

  * `opM`: the model operation the drivers decode an `EditSpec.Op` to (`rev = false`: the regenerated code iterates its
    association-list maps in insertion order, `permOf false = id`);
  * `Potential apply Inv V W G`: the potential argument along a model run, over `Edit.Along opM apply P e ops` of
    Proofs/EditRefineRun.lean (`P` holds of every operation in the state in which the model run reaches it: `Edit.RunValidLive`,
    the fuel hypotheses of the session ties and their Boolean tests all have this shape);
  * `Out`, `RunRel`, `run_rel`: one operation, and an operation list, of a driver loop against the model's `Edit.runOps`,
    over any representation relation `Rep h fp e`.
-/
import ModVerif.Drv.Edit
import ModVerif.Drv.GenEdit
import ModVerif.Proofs.EditPanicRun
import ModVerif.Proofs.TieFnEditSetQ
namespace ModVerif.Tie.FnEditSessionA
open ModVerif ModVerif.Modfile ModVerif.Modfile.Edit

abbrev toWant : EditSpec.Req → Want := Drv.Edit.M.toWant

/-- the model operation `Drv.Edit.M.decOp` makes of an `EditSpec.Op` and the reversal flag -/
def opR (rev : Bool) : EditSpec.Op → Edit.Op
  | .addModule p => .addModule p
  | .addGo v => .addGo v
  | .dropGo => .dropGo
  | .addToolchain n => .addToolchain n
  | .dropToolchain => .dropToolchain
  | .addGodebug k v => .addGodebug k v
  | .dropGodebug k => .dropGodebug k
  | .addRequire p v => .addRequire p v
  | .addNewRequire p v i => .addNewRequire p v i
  | .dropRequire p => .dropRequire p
  | .setRequire w => .setRequire (w.map toWant) rev
  | .setRequireSeparateIndirect w => .setRequireSeparateIndirect (w.map toWant) rev
  | .addExclude p v => .addExclude p v
  | .dropExclude p v => .dropExclude p v
  | .addReplace a b c d => .addReplace a b c d
  | .dropReplace a b => .dropReplace a b
  | .addRetract a b c => .addRetract a b c
  | .dropRetract a b => .dropRetract a b
  | .addTool p => .addTool p
  | .dropTool p => .dropTool p
  | .sortBlocks => .sortBlocks
  | .cleanup => .cleanup
  | .addUse d m => .addUse d m
  | .addNewUse d m => .addNewUse d m
  | .dropUse d => .dropUse d
  | .setUse w => .setUse w rev

/-- the model operation the drivers run for an `EditSpec.Op` (`Drv.Edit.M.decOp` with `rev = false`: the map-iteration
    order `permOf false = id`) -/
abbrev opM : EditSpec.Op → Edit.Op := opR false

/-- the reversal flag `Drv.Edit.M.decOp` reads off a three-token operation -/
def revOf (toks : List String) : Bool :=
  match toks with
  | [_, _, f] => f == "1"
  | _ => false

theorem decOp_eq (toks : List String) : Drv.Edit.M.decOp toks = (Drv.Edit.decOp toks).map (opR (revOf toks)) := by
  unfold Drv.Edit.M.decOp
  cases Drv.Edit.decOp toks with
  | none => rfl
  | some op => cases op <;> rfl

theorem opName_opM (op : EditSpec.Op) : Drv.Edit.M.opName (opM op) = Drv.GenEdit.opNameD op := by
  cases op <;> rfl

/-! ### the side conditions of the ties from the model invariant -/

/-- the hypotheses `hm` / `hg` / `ht` of Tie/FnEditStmt.lean -/
structure ScalarsLive (e : EFile) : Prop where
  module : ∀ m, e.f.module = some m → m.lineId ≠ 0
  go : ∀ g, e.f.go = some g → g.lineId ≠ 0
  toolchain : ∀ t, e.f.toolchain = some t → t.lineId ≠ 0

theorem scalarsLive_of_Inv {e : EFile} (hi : P.Inv e) : ScalarsLive e := by
  refine ⟨fun m hm => hi.entry_id_pos (entM m) ?_, fun g hg => hi.entry_id_pos (entGo g) ?_,
    fun t ht => hi.entry_id_pos (entTc t) ?_⟩
  · simp [P.entries, hm]
  · simp [P.entries, hg]
  · simp [P.entries, ht]

open ModVerif.Tie.FnEditSetQ (InTree)

theorem inTree_of_Inv_live {e : EFile} (hi : P.Inv e) (hl : ∀ r ∈ e.f.require, liveRq r = true) : InTree e := by
  intro rq hrq _
  have hm : P.entRq rq ∈ P.entries e.f := by
    rw [P.entries_require]
    exact List.mem_append_right _ (List.mem_append_left _ ((mem_entsOf liveRq P.entRq).2 ⟨rq, hrq, hl rq hrq, rfl⟩))
  obtain ⟨v, hv, hid, _⟩ := hi.mtch.cover _ hm
  have := view_id_mem_treeIds hv
  rw [hid] at this
  exact this

/-! ### the potential argument along a model run (`Edit.Along opM`: over the operations as the drivers decode them) -/

section along
variable {σ : Type} {apply : σ → Edit.Op → Option (Except EditErr σ)}

def allow (G : EditSpec.Op → Nat) (ops : List EditSpec.Op) : Nat := (ops.map G).sum

theorem allow_cons (G : EditSpec.Op → Nat) (op : EditSpec.Op) (ops : List EditSpec.Op) : allow G (op :: ops) = G op + allow G ops := by
  simp [allow]

/-- `W` is a potential with allowances `G`: an operation with valid arguments (`V`) keeps the invariant and raises `W` by at
    most `G op`.  Everything a session needs of the per-operation growth lemmas of a file kind. -/
def Potential (apply : σ → Edit.Op → Option (Except EditErr σ)) (Inv : σ → Prop) (V : σ → EditSpec.Op → Prop)
    (W : σ → Nat) (G : EditSpec.Op → Nat) : Prop :=
  ∀ e op e', Inv e → V e op → apply e (opM op) = some (.ok e') → Inv e' ∧ W e' ≤ W e + G op

variable {Inv : σ → Prop} {V : σ → EditSpec.Op → Prop} {W : σ → Nat} {G : EditSpec.Op → Nat}

theorem Potential.step (hP : Potential apply Inv V W G) (B : Nat) (e : σ) (op : EditSpec.Op) (ops : List EditSpec.Op)
    (h : Inv e ∧ W e + allow G (op :: ops) ≤ B) (hv : V e op) :
    (Inv e ∧ W e + allow G ops ≤ B) ∧ ∀ e', apply e (opM op) = some (.ok e') → Inv e' ∧ W e' + allow G ops ≤ B := by
  obtain ⟨hi, hw⟩ := h
  rw [allow_cons] at hw
  refine ⟨⟨hi, by omega⟩, fun e' hx => ?_⟩
  have := hP e op e' hi hv hx
  exact ⟨this.1, by omega⟩

theorem Potential.done (hP : Potential apply Inv V W G) (ops : List EditSpec.Op) (e : σ) (acc : List Bool) (i : Nat) (e' : σ)
    (res : List Bool) (hi : Inv e) (hv : Along opM apply V e ops) (h : Edit.runOps apply e (ops.map opM) acc i = .done e' res) :
    Inv e' ∧ W e' ≤ W e + allow G ops := by
  have := Along.done_inv (fun e1 ops1 => Inv e1 ∧ W e1 + allow G ops1 ≤ W e + allow G ops) (hP.step _)
    ops e acc i e' res ⟨hi, Nat.le_refl _⟩ hv h
  exact ⟨this.1, by have := this.2; simp only [allow, List.map_nil, List.sum_nil] at this; omega⟩

theorem Potential.along (hP : Potential apply Inv V W G) (Q : EditSpec.Op → Prop) (D : σ → EditSpec.Op → Nat) (a c : Nat)
    (hD : ∀ e op, Q op → Inv e → V e op → D e op ≤ a * (W e + G op) + c)
    (fuel : Nat) (ops : List EditSpec.Op) (e : σ) (hi : Inv e) (hv : Along opM apply V e ops) (hq : ∀ op ∈ ops, Q op)
    (hf : a * (W e + allow G ops) + c ≤ fuel) : Along opM apply (fun e op => D e op ≤ fuel) e ops :=
  Along.of_inv (fun e1 ops1 => (Inv e1 ∧ W e1 + allow G ops1 ≤ W e + allow G ops) ∧ ∀ op ∈ ops1, Q op)
    (fun e1 op ops1 h hv1 => by
      obtain ⟨h0, h1⟩ := hP.step _ e1 op ops1 h.1 hv1
      have hq' : ∀ o ∈ ops1, Q o := fun o ho => h.2 o (List.mem_cons_of_mem _ ho)
      refine ⟨?_, ⟨h0, hq'⟩, fun e' hx => ⟨h1 e' hx, hq'⟩⟩
      have h2 := hD e1 op (h.2 op List.mem_cons_self) h.1.1 hv1
      have h3 := h.1.2
      rw [allow_cons] at h3
      -- the demand is monotone in the potential
      have : a * (W e1 + G op) ≤ a * (W e + allow G ops) := Nat.mul_le_mul_left a (by omega)
      omega)
    ops e ⟨⟨hi, Nat.le_refl _⟩, hq⟩ hv

end along

/-! ### a driver loop against the model run -/

section loop
open ModVerif.GoRt ModVerif.Generated.Edit
open ModVerif.Drv.GenEdit (opNameD Run)
variable {σ : Type} {apply : σ → Edit.Op → Option (Except EditErr σ)}

/-- the wrappers of `Drv.GenEdit.applyOp` / `applyWorkOp` -/
def resW (r : M ((Option String) × Heap)) : M (Option Bool × Heap) := do let (e, h) ← r; pure (some e.isNone, h)
def unitW (r : M (Unit × Heap)) : M (Option Bool × Heap) := do let (_, h) ← r; pure (some true, h)

/-- what a tie says of one operation: the model's result `x` against the driver's result `a` from the heap `h` at `fp` -/
def Out (Rep : Heap → Int → σ → Prop) (x : Option (Except EditErr σ)) (a : M (Option Bool × Heap)) (h : Heap) (fp : Int) :
    Prop :=
  match x with
  | none => a = .ok (none, h)
  | some (.ok e') => ∃ h', a = .ok (some true, h') ∧ Rep h' fp e'
  | some (.error err) => (err.isReturned = true ∧ a = .ok (some false, h)) ∨ (err.isReturned = false ∧ a = .error .panic)

variable {Rep : Heap → Int → σ → Prop}

theorem out_res_ok {r : M ((Option String) × Heap)} {h : Heap} {fp : Int} {e' : σ}
    (T : ∃ h', r = .ok (none, h') ∧ Rep h' fp e') : Out Rep (some (.ok e')) (resW r) h fp := by
  obtain ⟨h', h1, h2⟩ := T
  exact ⟨h', by rw [h1]; rfl, h2⟩

theorem out_unit_ok {r : M (Unit × Heap)} {h : Heap} {fp : Int} {e' : σ}
    (T : ∃ h', r = .ok ((), h') ∧ Rep h' fp e') : Out Rep (some (.ok e')) (unitW r) h fp := by
  obtain ⟨h', h1, h2⟩ := T
  exact ⟨h', by rw [h1]; rfl, h2⟩

theorem out_res_error {r : M ((Option String) × Heap)} {h : Heap} {fp : Int} {err : EditErr} (hr : err.isReturned = false)
    (T : r = .error .panic) : Out Rep (some (.error err)) (resW r) h fp := Or.inr ⟨hr, by rw [T]; rfl⟩

theorem out_unit_error {r : M (Unit × Heap)} {h : Heap} {fp : Int} {err : EditErr} (hr : err.isReturned = false)
    (T : r = .error .panic) : Out Rep (some (.error err)) (unitW r) h fp := Or.inr ⟨hr, by rw [T]; rfl⟩

theorem out_res_ret {r : M ((Option String) × Heap)} {h : Heap} {fp : Int} {x : Except EditErr σ}
    (hok : ∀ e', x = .ok e' → ∃ h', r = .ok (none, h') ∧ Rep h' fp e')
    (herr : ∀ err, x = .error err → err.isReturned = true ∧ ∃ s, r = .ok (some s, h)) :
    Out Rep (some x) (resW r) h fp := by
  cases x with
  | ok e' => exact out_res_ok (hok e' rfl)
  | error err =>
    obtain ⟨hr, s, h2⟩ := herr err rfl
    exact Or.inl ⟨hr, by rw [h2]; rfl⟩

/-- `i`: the index of the first operation of `ops` in the whole session -/
def RunRel (Rep : Heap → Int → σ → Prop) (fp : Int) (ops : List EditSpec.Op) (i : Nat) : SessionResult σ → Run → Prop
  | .done e' res, r => ∃ h', r = .done h' res ∧ Rep h' fp e'
  | .panic j, r => ∃ op, i ≤ j ∧ ops[j - i]? = some op ∧ r = .panic (opNameD op)
  | .badOp, r => r = .badOp

theorem RunRel.shift {fp : Int} {op : EditSpec.Op} {ops : List EditSpec.Op} {i : Nat} {x : SessionResult σ} {r : Run}
    (h : RunRel Rep fp ops (i + 1) x r) : RunRel Rep fp (op :: ops) i x r := by
  cases x with
  | done e' res => exact h
  | badOp => exact h
  | panic j =>
    obtain ⟨o, h1, h2, h3⟩ := h
    refine ⟨o, by omega, ?_, h3⟩
    have : j - i = (j - (i + 1)) + 1 := by omega
    rw [this, List.getElem?_cons_succ]
    exact h2

variable {step : Heap → EditSpec.Op → M (Option Bool × Heap)} {run : Heap → List EditSpec.Op → List Bool → Run}

/-- `run` over `step`: the shape of `Drv.GenEdit.runOps` / `runWorkOps` -/
theorem run_rel (hnil : ∀ h acc, run h [] acc = .done h acc.reverse)
    (hcons : ∀ h op rest acc, run h (op :: rest) acc =
      match step h op with
      | .ok (some b, h') => run h' rest (b :: acc)
      | .ok (none, _) => .badOp
      | .error _ => .panic (opNameD op))
    {P : σ → EditSpec.Op → Prop} (fp : Int)
    (hout : ∀ h e op, Rep h fp e → P e op → Out Rep (apply e (opM op)) (step h op) h fp) :
    ∀ (ops : List EditSpec.Op) (h : Heap) (e : σ) (acc : List Bool) (i : Nat), Rep h fp e → Along opM apply P e ops →
      RunRel Rep fp ops i (Edit.runOps apply e (ops.map opM) acc i) (run h ops acc)
  | [], h, e, acc, i, R, _ => ⟨h, hnil h acc, R⟩
  | op :: ops, h, e, acc, i, R, ⟨hp, hnext, hret⟩ => by
    have O := hout h e op R hp
    rw [hcons]
    simp only [List.map_cons, Edit.runOps]
    cases hx : apply e (opM op) with
    | none =>
      rw [hx] at O
      simp only [Out] at O
      simp only [O]
      exact rfl
    | some x =>
      cases x with
      | ok e' =>
        rw [hx] at O
        obtain ⟨h', h1, R'⟩ := O
        simp only [h1]
        exact (run_rel hnil hcons fp hout ops h' e' (true :: acc) (i + 1) R' (hnext e' hx)).shift
      | error err =>
        rw [hx] at O
        rcases O with ⟨hr, h1⟩ | ⟨hr, h1⟩
        · simp only [h1, hr, if_true]
          exact (run_rel hnil hcons fp hout ops h e (false :: acc) (i + 1) R (hret err hx hr)).shift
        · simp only [h1, hr, Bool.false_eq_true, if_false]
          exact ⟨op, Nat.le_refl _, by simp, rfl⟩

theorem done_steps (hnil : ∀ h acc, run h [] acc = .done h acc.reverse)
    (hcons : ∀ h op rest acc, run h (op :: rest) acc =
      match step h op with
      | .ok (some b, h') => run h' rest (b :: acc)
      | .ok (none, _) => .badOp
      | .error _ => .panic (opNameD op)) :
    ∀ (ops : List EditSpec.Op) (h : Heap) (acc : List Bool) (h' : Heap) (res : List Bool), run h ops acc = .done h' res →
    ∀ (pre : List EditSpec.Op) (op : EditSpec.Op) (post : List EditSpec.Op), ops = pre ++ op :: post →
      ∃ h1 r1, run h pre acc = .done h1 r1 ∧ ∃ b h2, step h1 op = .ok (some b, h2)
  | [], h, acc, h', res, _, pre, op, post, hs => by cases pre <;> cases hs
  | o :: ops, h, acc, h', res, hd, pre, op, post, hs => by
    rw [hcons] at hd
    cases ha : step h o with
    | error er => rw [ha] at hd; cases hd
    | ok r =>
      obtain ⟨ob, h2⟩ := r
      cases ob with
      | none => rw [ha] at hd; cases hd
      | some b =>
        rw [ha] at hd
        cases pre with
        | nil =>
          simp only [List.nil_append, List.cons.injEq] at hs
          obtain ⟨rfl, rfl⟩ := hs
          exact ⟨h, acc.reverse, hnil h acc, b, h2, ha⟩
        | cons p pre =>
          simp only [List.cons_append, List.cons.injEq] at hs
          obtain ⟨rfl, rfl⟩ := hs
          obtain ⟨h1, r1, e1, e2⟩ := done_steps hnil hcons _ h2 (b :: acc) h' res hd pre op post rfl
          refine ⟨h1, r1, ?_, e2⟩
          rw [hcons, ha]
          exact e1

end loop

end ModVerif.Tie.FnEditSessionA
