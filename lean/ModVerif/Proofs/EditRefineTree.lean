/-
  What the tree operations that add, delete or move whole lines do to the list of live directive lines (`view`,
  Proofs/EditTreeView.lean): `addLine` (through its inversion `Grown`), `Cleanup` (through `Cleaned`), `SortBlocks` and
  `removeDups`; `ShapeWF` is the part of `TreeWF` that does not mention line ids.
-/
import ModVerif.Proofs.EditRefineRun
import ModVerif.Proofs.EditModel
import ModVerif.Proofs.EditAddLine
import ModVerif.Proofs.EditTreeView
namespace ModVerif.Modfile.Edit
open ModVerif ModVerif.Modfile

/-- the id-independent part of `TreeWF` -/
structure ShapeWF (stmts : List Expr) : Prop where
  blockTok : ∀ b, Expr.lineBlock b ∈ stmts → ∃ v, b.token = [v]
  flagTop : ∀ l, Expr.line l ∈ stmts → l.inBlock = false
  flagIn : ∀ b, Expr.lineBlock b ∈ stmts → ∀ l ∈ b.lines, l.inBlock = true
  noBlockSuffix : ∀ b, Expr.lineBlock b ∈ stmts → b.comments.suffix = []

theorem TreeWF.shape {stmts : List Expr} {next : Nat} (h : TreeWF stmts next) : ShapeWF stmts :=
  ⟨h.blockTok, h.flagTop, h.flagIn, h.noBlockSuffix⟩

theorem ShapeWF.of_subset {s1 s2 : List Expr} (h : ShapeWF s2) (hs : ∀ x ∈ s1, x ∈ s2) : ShapeWF s1 :=
  ⟨fun b hb => h.blockTok b (hs _ hb), fun l hl => h.flagTop l (hs _ hl), fun b hb => h.flagIn b (hs _ hb),
   fun b hb => h.noBlockSuffix b (hs _ hb)⟩

theorem ShapeWF.tail {x : Expr} {xs : List Expr} (h : ShapeWF (x :: xs)) : ShapeWF xs :=
  h.of_subset fun _ hy => List.mem_cons_of_mem _ hy

theorem ShapeWF.cons {x : Expr} {xs : List Expr} (hx : ShapeWF [x]) (hxs : ShapeWF xs) : ShapeWF (x :: xs) := by
  refine ⟨fun b hb => ?_, fun l hl => ?_, fun b hb => ?_, fun b hb => ?_⟩ <;> rcases List.mem_cons.1 ‹_› with h | h
  · exact hx.blockTok b (by rw [h]; exact List.mem_singleton.2 rfl)
  · exact hxs.blockTok b h
  · exact hx.flagTop l (by rw [h]; exact List.mem_singleton.2 rfl)
  · exact hxs.flagTop l h
  · exact hx.flagIn b (by rw [h]; exact List.mem_singleton.2 rfl)
  · exact hxs.flagIn b h
  · exact hx.noBlockSuffix b (by rw [h]; exact List.mem_singleton.2 rfl)
  · exact hxs.noBlockSuffix b h

theorem ShapeWF.head {x : Expr} {xs : List Expr} (h : ShapeWF (x :: xs)) : ShapeWF [x] :=
  h.of_subset fun y hy => by rw [List.mem_singleton.1 hy]; exact List.mem_cons_self

theorem ShapeWF.append {xs ys : List Expr} (hx : ShapeWF xs) (hy : ShapeWF ys) : ShapeWF (xs ++ ys) := by
  induction xs with
  | nil => exact hy
  | cons x xs ih => exact ShapeWF.cons hx.head (ih hx.tail)

theorem ShapeWF.newLine (new : Nat) (tokens : List Bytes) : ShapeWF [Expr.line (mkLine new tokens false)] :=
  ⟨fun b hb => by simp at hb, fun l hl => by simp at hl; subst hl; rfl, fun b hb => by simp at hb, fun b hb => by simp at hb⟩

/-- every live line has at least two full tokens (a verb and an argument) -/
def View2 (stmts : List Expr) : Prop := ∀ v ∈ view stmts, 2 ≤ v.toks.length

theorem View2.tail {x : Expr} {xs : List Expr} (h : View2 (x :: xs)) : View2 xs :=
  fun v hv => h v (by rw [view_cons]; exact List.mem_append_right _ hv)
theorem View2.head {x : Expr} {xs : List Expr} (h : View2 (x :: xs)) : View2 [x] :=
  fun v hv => h v (by rw [view_cons]; exact List.mem_append_left _ hv)

def vnew (new : Nat) (tokens : List Bytes) : VLine := ⟨new, tokens, []⟩

theorem view_newLine (new : Nat) (tokens : List Bytes) (h : tokens ≠ []) :
    view [Expr.line (mkLine new tokens false)] = [vnew new tokens] := by
  cases tokens with
  | nil => exact absurd rfl h
  | cons a as => simp [view, loc, locStmt, liveLoc, mkV, mkLine, vnew]

theorem treeIds_newLine (new : Nat) (tokens : List Bytes) : treeIds [Expr.line (mkLine new tokens false)] = [new] := by
  simp [treeIds, loc, locStmt, mkLine]

theorem headIs_cons {a : Bytes} {as : List Bytes} {v : Bytes} (h : headIs (a :: as) v = true) : a = v := by
  simpa [headIs] using h

theorem block_insert_spec (b : LineBlock) (new : Nat) (verb t : Bytes) (rest : List Bytes) (l1 l2 : List Line)
    (hb : b.lines = l1 ++ l2) (htok : b.token = [verb]) (hs : ShapeWF [Expr.lineBlock b]) :
    (view [Expr.lineBlock { b with lines := l1 ++ mkLine new (t :: rest) true :: l2 }]).Perm
        (view [Expr.lineBlock b] ++ [vnew new (verb :: t :: rest)]) ∧
    (treeIds [Expr.lineBlock { b with lines := l1 ++ mkLine new (t :: rest) true :: l2 }]).Perm
        (treeIds [Expr.lineBlock b] ++ [new]) ∧
    ShapeWF [Expr.lineBlock { b with lines := l1 ++ mkLine new (t :: rest) true :: l2 }] := by
  refine ⟨?_, ?_, ?_⟩
  · rw [view_block, view_block, hb]
    simp only [List.filter_append, List.map_append, List.filter_cons, htok, mkLine, List.isEmpty_cons, Bool.not_false,
      if_true, List.map_cons, List.append_assoc, List.singleton_append, vnew]
    exact List.Perm.append_left _ (List.perm_append_comm (l₁ := [_]))
  · rw [treeIds_block, treeIds_block, hb]
    simp only [List.map_append, List.map_cons, mkLine, List.append_assoc]
    exact List.Perm.append_left _ (List.perm_append_comm (l₁ := [new]))
  · have hb0 : Expr.lineBlock b ∈ [Expr.lineBlock b] := List.mem_singleton.2 rfl
    refine ⟨fun b' hb' => ?_, fun l' hl' => by simp at hl', fun b' hb' l' hl' => ?_, fun b' hb' => ?_⟩
    · simp only [List.mem_singleton, Expr.lineBlock.injEq] at hb'; subst hb'; exact hs.blockTok b hb0
    · simp only [List.mem_singleton, Expr.lineBlock.injEq] at hb'; subst hb'
      simp only [List.mem_append, List.mem_cons] at hl'
      rcases hl' with h | rfl | h
      · exact hs.flagIn b hb0 l' (by rw [hb]; exact List.mem_append_left _ h)
      · rfl
      · exact hs.flagIn b hb0 l' (by rw [hb]; exact List.mem_append_right _ h)
    · simp only [List.mem_singleton, Expr.lineBlock.injEq] at hb'; subst hb'; exact hs.noBlockSuffix b hb0

theorem Grown.spec {new : Nat} {verb t : Bytes} {rest : List Bytes} {x : Expr} {g : List Expr}
    (hg : Grown (verb :: t :: rest) new x g) (hs : ShapeWF [x]) (h2 : View2 [x]) :
    (view g).Perm (view [x] ++ [vnew new (verb :: t :: rest)]) ∧ (treeIds g).Perm (treeIds [x] ++ [new]) ∧ ShapeWF g := by
  cases hg with
  | after =>
    refine ⟨?_, ?_, ShapeWF.cons hs (ShapeWF.newLine _ _)⟩
    · rw [view_cons x, view_newLine _ _ (by simp)]
    · rw [treeIds_cons x, treeIds_newLine]
  | conv l hl hv =>
    -- a line `verb a2 …` becomes the block `verb ( a2 … ; t rest… )`
    have hlen : 2 ≤ l.token.length := by
      have := h2 ⟨l.id, l.token, l.comments.suffix⟩ (by
        cases hlt : l.token with
        | nil => simp [hlt] at hl
        | cons a as => simp [view, loc, locStmt, liveLoc, mkV, hlt])
      simpa using this
    rcases hlt : l.token with _ | ⟨a, _ | ⟨a2, as⟩⟩
    · rw [hlt] at hlen; simp at hlen
    · rw [hlt] at hlen; simp at hlen
    · have ha : a = verb := by rw [hlt] at hv; exact headIs_cons hv
      subst ha
      refine ⟨?_, ?_, ?_⟩
      · simp [convBlock, view, loc, locStmt, liveLoc, mkV, hlt, mkLine, vnew]
      · simp [convBlock, treeIds, loc, locStmt, mkLine]
      · refine ⟨fun b hb => ?_, fun l' hl' => by simp [convBlock] at hl', fun b hb l' hl' => ?_, fun b hb => ?_⟩
        · simp only [convBlock, List.mem_singleton, Expr.lineBlock.injEq] at hb; subst hb; exact ⟨a, by simp [hlt]⟩
        · simp only [convBlock, List.mem_singleton, Expr.lineBlock.injEq] at hb; subst hb
          simp only [List.mem_cons, List.mem_nil_iff, or_false] at hl'
          rcases hl' with rfl | rfl <;> rfl
        · simp only [convBlock, List.mem_singleton, Expr.lineBlock.injEq] at hb; subst hb; rfl
  | block b l1 l2 hb hv =>
    rcases hs.blockTok b (List.mem_singleton.2 rfl) with ⟨w, hw⟩
    have hwv : b.token = [verb] := by rw [hw] at hv ⊢; rw [headIs_cons hv]; rfl
    exact block_insert_spec b new verb t rest l1 l2 hb hwv hs

theorem grown_spec {new : Nat} {verb t : Bytes} {rest : List Bytes} {stmts r : List Expr} (hs : ShapeWF stmts) (h2 : View2 stmts)
    (hr : ∃ pre x post g, stmts = pre ++ x :: post ∧ Grown (verb :: t :: rest) new x g ∧ r = pre ++ g ++ post) :
    (view r).Perm (view stmts ++ [vnew new (verb :: t :: rest)]) ∧ (treeIds r).Perm (treeIds stmts ++ [new]) ∧ ShapeWF r := by
  obtain ⟨pre, x, post, g, rfl, hg, rfl⟩ := hr
  have hsx : ShapeWF [x] := hs.of_subset fun y hy => by rw [List.mem_singleton.1 hy]; simp
  have h2x : View2 [x] := fun v hv => h2 v (by rw [view_append, view_cons]; exact List.mem_append_right _ (List.mem_append_left _ hv))
  obtain ⟨p1, p2, p3⟩ := hg.spec hsx h2x
  refine ⟨?_, ?_, (ShapeWF.append (hs.of_subset fun y hy => by simp [hy]) p3).append (hs.of_subset fun y hy => by simp [hy])⟩
  · rw [view_append, view_append, view_append, view_cons x post, List.append_assoc, List.append_assoc, List.append_assoc]
    refine List.Perm.append_left _ ?_
    refine List.Perm.trans ?_ (List.Perm.append_left _ (List.perm_append_comm (l₁ := [_]) (l₂ := view post)))
    rw [← List.append_assoc]
    exact List.Perm.append_right _ p1
  · rw [treeIds_append, treeIds_append, treeIds_append, treeIds_cons x post, List.append_assoc, List.append_assoc, List.append_assoc]
    refine List.Perm.append_left _ ?_
    refine List.Perm.trans ?_ (List.Perm.append_left _ (List.perm_append_comm (l₁ := [new]) (l₂ := treeIds post)))
    rw [← List.append_assoc]
    exact List.Perm.append_right _ p2

theorem append_newLine_spec (stmts : List Expr) (new : Nat) (tokens : List Bytes) (htok : tokens ≠ []) (hs : ShapeWF stmts) :
    (view (stmts ++ [Expr.line (mkLine new tokens false)])).Perm (view stmts ++ [vnew new tokens]) ∧
    (treeIds (stmts ++ [Expr.line (mkLine new tokens false)])).Perm (treeIds stmts ++ [new]) ∧
    ShapeWF (stmts ++ [Expr.line (mkLine new tokens false)]) := by
  refine ⟨?_, ?_, hs.append (ShapeWF.newLine _ _)⟩
  · rw [view_append, view_newLine _ _ htok]
  · rw [treeIds_append, treeIds_newLine]

theorem addLine_cases (fs : FileSyntax) (hint : Option Nat) (tokens : List Bytes) (new : Nat) :
    (addLine fs hint tokens new).stmts = fs.stmts ++ [Expr.line (mkLine new tokens false)] ∨
    ∃ h stmts', addLineWalk h tokens new fs.stmts 0 = some stmts' ∧ (addLine fs hint tokens new).stmts = stmts' := by
  unfold addLine
  cases hint with
  | some id =>
    dsimp only
    cases hw : addLineWalk (Hint.line id) tokens new fs.stmts 0 with
    | none => left; rfl
    | some s => right; exact ⟨_, s, hw, rfl⟩
  | none =>
    dsimp only
    cases hl : lastStmtWith (tokens.head?.getD []) fs.stmts 0 none with
    | none => left; rfl
    | some i =>
      dsimp only
      cases hw : addLineWalk (Hint.stmt i) tokens new fs.stmts 0 with
      | none => left; rfl
      | some s => right; exact ⟨_, s, hw, rfl⟩

/-- **`FileSyntax.addLine`**: whatever the hint, the tree gains exactly one live line, with id `new` and the requested
    full tokens; every other line keeps its id, full tokens and end-of-line comments. -/
theorem addLine_spec (fs : FileSyntax) (hint : Option Nat) (new : Nat) (verb t : Bytes) (rest : List Bytes)
    (hs : ShapeWF fs.stmts) (h2 : View2 fs.stmts) :
    (view (addLine fs hint (verb :: t :: rest) new).stmts).Perm (view fs.stmts ++ [vnew new (verb :: t :: rest)]) ∧
    (treeIds (addLine fs hint (verb :: t :: rest) new).stmts).Perm (treeIds fs.stmts ++ [new]) ∧
    ShapeWF (addLine fs hint (verb :: t :: rest) new).stmts := by
  rcases addLine_grown fs hint (verb :: t :: rest) new with h | h
  · rw [h]; exact append_newLine_spec fs.stmts new (verb :: t :: rest) (by simp) hs
  · exact grown_spec hs h2 h

theorem addLinePtr_spec (fs : FileSyntax) (hint : Option Nat) (new : Nat) (verb t : Bytes) (rest : List Bytes)
    (hs : ShapeWF fs.stmts) (h2 : View2 fs.stmts) :
    (view (addLinePtr fs hint (verb :: t :: rest) new).stmts).Perm (view fs.stmts ++ [vnew new (verb :: t :: rest)]) ∧
    (treeIds (addLinePtr fs hint (verb :: t :: rest) new).stmts).Perm (treeIds fs.stmts ++ [new]) ∧
    ShapeWF (addLinePtr fs hint (verb :: t :: rest) new).stmts := by
  have happ := append_newLine_spec fs.stmts new (verb :: t :: rest) (by simp) hs
  unfold addLinePtr
  cases hint with
  | none => exact happ
  | some id =>
    dsimp only
    by_cases hn : (id == nilId) = true
    · rw [if_pos hn]; exact happ
    · rw [if_neg hn]; exact addLine_spec fs (some id) new verb t rest hs h2

theorem TreeWF.of_added {stmts stmts' : List Expr} {next : Nat} (h : TreeWF stmts next) (hnext : 0 < next)
    (hids : (treeIds stmts').Perm (treeIds stmts ++ [next])) (hs : ShapeWF stmts') : TreeWF stmts' (next + 1) := by
  have hnd : (treeIds stmts ++ [next]).Nodup := by
    apply List.nodup_append.2
    refine ⟨h.nodup, List.pairwise_singleton _ _, ?_⟩
    intro a ha b hb
    rw [List.mem_singleton] at hb
    have := h.lt a ha
    omega
  refine ⟨hids.symm.nodup hnd, ?_, ?_, hs.blockTok, hs.flagTop, hs.flagIn, hs.noBlockSuffix⟩
  · intro i hi
    rcases List.mem_append.1 (hids.subset hi) with h1 | h1
    · exact Nat.lt_succ_of_lt (h.lt i h1)
    · rw [List.mem_singleton.1 h1]; exact Nat.lt_succ_self _
  · intro i hi
    rcases List.mem_append.1 (hids.subset hi) with h1 | h1
    · exact h.pos i h1
    · rw [List.mem_singleton.1 h1]; exact Nat.ne_of_gt hnext

theorem TreeWF.mono {stmts : List Expr} {n m : Nat} (h : TreeWF stmts n) (hnm : n ≤ m) : TreeWF stmts m :=
  ⟨h.nodup, fun i hi => Nat.lt_of_lt_of_le (h.lt i hi) hnm, h.pos, h.blockTok, h.flagTop, h.flagIn, h.noBlockSuffix⟩

theorem ShapeWF.block {xs : List Expr} {b : LineBlock} (h : ShapeWF (Expr.lineBlock b :: xs)) (ls : List Line)
    (hsub : ∀ l ∈ ls, l ∈ b.lines) : ShapeWF [Expr.lineBlock { b with lines := ls }] := by
  have hb0 : Expr.lineBlock b ∈ Expr.lineBlock b :: xs := List.mem_cons_self
  refine ⟨fun b' hb' => ?_, fun l' hl' => by simp at hl', fun b' hb' l' hl' => ?_, fun b' hb' => ?_⟩
  · simp only [List.mem_singleton, Expr.lineBlock.injEq] at hb'; subst hb'; exact h.blockTok b hb0
  · simp only [List.mem_singleton, Expr.lineBlock.injEq] at hb'; subst hb'; exact h.flagIn b hb0 l' (hsub l' hl')
  · simp only [List.mem_singleton, Expr.lineBlock.injEq] at hb'; subst hb'; exact h.noBlockSuffix b hb0

theorem Cleaned.spec {x : Expr} {g : List Expr} (hc : Cleaned x g) (hs : ShapeWF [x]) :
    view g = view [x] ∧ (treeIds g).Sublist (treeIds [x]) ∧ ShapeWF g := by
  cases hc with
  | dead l h => exact ⟨by simp [view, loc, locStmt, liveLoc, h], List.nil_sublist _, hs.of_subset fun _ h => nomatch h⟩
  | live | other => exact ⟨rfl, List.Sublist.refl _, hs⟩
  | empty b h =>
    exact ⟨by rw [view_block, h]; rfl, List.nil_sublist _, hs.of_subset fun _ h => nomatch h⟩
  | collapse b l h =>
    -- the block collapses into a single line, keeping the Line identity
    have hbs := hs.noBlockSuffix b (List.mem_singleton.2 rfl)
    rcases hs.blockTok b (List.mem_singleton.2 rfl) with ⟨w, hw⟩
    have hmem : l ∈ b.lines.filter (!·.token.isEmpty) := by rw [h]; exact List.mem_singleton.2 rfl
    have hllive : l.token ≠ [] := by
      have := (List.mem_filter.1 hmem).2
      intro e; simp [e] at this
    refine ⟨?_, ?_, ?_⟩
    · rw [view_block, h]
      simp [view, loc, locStmt, liveLoc, mkV, hw, hbs]
    · have : (treeIds [Expr.lineBlock { b with lines := [l] }]).Sublist (treeIds [Expr.lineBlock b]) := by
        rw [treeIds_block, treeIds_block, ← h]; exact List.filter_sublist.map _
      simpa [treeIds, loc, locStmt] using this
    · exact ⟨fun b' hb' => by simp at hb', fun l' hl' => by simp at hl'; subst hl'; rfl,
        fun b' hb' => by simp at hb', fun b' hb' => by simp at hb'⟩
  | block b h =>
    refine ⟨?_, ?_, hs.block _ fun l hl => (List.mem_filter.1 hl).1⟩
    · rw [view_block, view_block, List.filter_filter]; simp
    · rw [treeIds_block, treeIds_block]; exact List.filter_sublist.map _

/-- A tree operation that acts statement by statement (Cleanup, the sort of SortBlocks, the tree half of removeDups): what it
    does to `view`, `treeIds` and `ShapeWF` is what it does to single statements, for relations that go through `++`. -/
theorem stmtwise_spec {f : List Expr → List Expr} (hnil : f [] = []) (hcons : ∀ x xs, f (x :: xs) = f [x] ++ f xs)
    {Rv : List VLine → List VLine → Prop} {Ri : List Nat → List Nat → Prop} (hv0 : Rv [] [])
    (hva : ∀ {a b c d}, Rv a b → Rv c d → Rv (a ++ c) (b ++ d)) (hi0 : Ri [] [])
    (hia : ∀ {a b c d}, Ri a b → Ri c d → Ri (a ++ c) (b ++ d))
    (h1 : ∀ x, ShapeWF [x] → Rv (view (f [x])) (view [x]) ∧ Ri (treeIds (f [x])) (treeIds [x]) ∧ ShapeWF (f [x])) :
    ∀ stmts, ShapeWF stmts → Rv (view (f stmts)) (view stmts) ∧ Ri (treeIds (f stmts)) (treeIds stmts) ∧ ShapeWF (f stmts)
  | [], hs => by rw [hnil]; exact ⟨hv0, hi0, hs⟩
  | x :: xs, hs => by
    obtain ⟨p1, p2, p3⟩ := h1 x hs.head
    obtain ⟨i1, i2, i3⟩ := stmtwise_spec hnil hcons hv0 hva hi0 hia h1 xs hs.tail
    rw [hcons, view_append, treeIds_append, view_cons x xs, treeIds_cons x xs]
    exact ⟨hva p1 i1, hia p2 i2, p3.append i3⟩

/-- **`FileSyntax.Cleanup`** leaves the live lines as they are (ids, full tokens, end-of-line comments, order);
    only removed lines disappear -/
theorem cleanupStmts_spec (stmts : List Expr) (hs : ShapeWF stmts) :
    view (cleanupStmts stmts) = view stmts ∧ (treeIds (cleanupStmts stmts)).Sublist (treeIds stmts) ∧
    ShapeWF (cleanupStmts stmts) :=
  stmtwise_spec (Rv := Eq) (Ri := List.Sublist) rfl cleanupStmts_cons rfl (fun h1 h2 => by rw [h1, h2]) (List.Sublist.refl _)
    List.Sublist.append (fun x hx => (cleanupStmts_one x).spec hx) stmts hs

theorem stableSort_perm (less : List Bytes → List Bytes → Bool) (l : List Line) : (stableSort less l).Perm l := by
  rw [stableSort_eq]; exact EditSpec.sortBy_perm _ l

theorem stmtwise_shape {f : List Expr → List Expr} (hnil : f [] = []) (hcons : ∀ x xs, f (x :: xs) = f [x] ++ f xs)
    (h1 : ∀ x, ShapeWF [x] → ShapeWF (f [x])) (stmts : List Expr) (hs : ShapeWF stmts) : ShapeWF (f stmts) :=
  (stmtwise_spec (Rv := fun _ _ => True) (Ri := fun _ _ => True) hnil hcons trivial (fun _ _ => trivial) trivial
    (fun _ _ => trivial) (fun x hx => ⟨trivial, trivial, h1 x hx⟩) stmts hs).2.2

/-- **`SortBlocks`' sort** only permutes the lines inside each block: on `loc`, of which `view`, `viewX` and `treeIds`
    are images -/
theorem loc_sortStmts (sem work : Bool) : ∀ stmts : List Expr, (loc (sortStmts sem work stmts)).Perm (loc stmts)
  | [] => List.Perm.refl _
  | x :: xs => by
    have hc : sortStmts sem work (x :: xs) = sortStmts sem work [x] ++ sortStmts sem work xs := by simp [sortStmts]
    rw [hc, loc_append, loc_cons x xs]
    refine List.Perm.append ?_ (loc_sortStmts sem work xs)
    cases x with
    | lineBlock b =>
      simp only [sortStmts, List.map_cons, List.map_nil, loc, List.flatMap_cons, List.flatMap_nil, List.append_nil, locStmt]
      exact (stableSort_perm _ b.lines).map _
    | _ => exact List.Perm.refl _

theorem sortStmts_spec (sem work : Bool) (stmts : List Expr) (hs : ShapeWF stmts) :
    (view (sortStmts sem work stmts)).Perm (view stmts) ∧ (treeIds (sortStmts sem work stmts)).Perm (treeIds stmts) ∧
    ShapeWF (sortStmts sem work stmts) := by
  refine ⟨((loc_sortStmts sem work stmts).filter _).map _, (loc_sortStmts sem work stmts).map _,
    stmtwise_shape (f := sortStmts sem work) rfl (fun x xs => by simp [sortStmts]) (fun x hx => ?_) stmts hs⟩
  cases x with
  | lineBlock b =>
    simp only [sortStmts, List.map_cons, List.map_nil]
    exact hx.block _ (fun l hl => (stableSort_perm _ b.lines).subset hl)
  | _ => exact hx

/-- **`removeDups`' tree half** drops exactly the lines whose id is in the kill list: on `loc` -/
theorem loc_dropKilled (kill : List Nat) : ∀ stmts : List Expr,
    loc (dropKilled kill stmts) = (loc stmts).filter fun p => !kill.contains p.2.id
  | [] => rfl
  | x :: xs => by
    rw [dropKilled_cons, loc_append, loc_cons, List.filter_append, loc_dropKilled kill xs]
    congr 1
    cases x with
    | line l =>
      unfold dropKilled
      by_cases hk : l.id ∈ kill <;> simp [hk, dropKilled, loc, locStmt]
    | lineBlock b =>
      have hf : (locStmt (.lineBlock b)).filter (fun p => !kill.contains p.2.id) =
          (b.lines.filter fun l => !kill.contains l.id).map fun l => (b.token, l) := by
        simp only [locStmt, List.filter_map]; rfl
      unfold dropKilled
      by_cases he : (b.lines.filter (fun l => !kill.contains l.id)).isEmpty = true
      · simp only [dropKilled, loc, hf, List.isEmpty_iff.1 he]; rfl
      · simp only [he, Bool.false_eq_true, if_false, dropKilled, loc, List.flatMap_nil, List.flatMap_cons, List.append_nil, hf]; rfl
    | commentBlock c => rfl
    | lparen c => rfl
    | rparen c => rfl

/-- … and so for any reading `mk` of the live lines (`view`: `mkV`, `viewX`: `mkX`) -/
theorem live_dropKilled (kill : List Nat) (stmts : List Expr) :
    (loc (dropKilled kill stmts)).filter liveLoc = ((loc stmts).filter liveLoc).filter fun p => !kill.contains p.2.id := by
  rw [loc_dropKilled, List.filter_filter, List.filter_filter]
  exact List.filter_congr fun p _ => Bool.and_comm _ _

theorem dropKilled_spec (kill : List Nat) (stmts : List Expr) (hs : ShapeWF stmts) :
    view (dropKilled kill stmts) = (view stmts).filter (fun v => !kill.contains v.id) ∧
    (treeIds (dropKilled kill stmts)).Sublist (treeIds stmts) ∧ ShapeWF (dropKilled kill stmts) := by
  refine ⟨by rw [view, live_dropKilled, view, List.filter_map]; rfl,
    by unfold treeIds; rw [loc_dropKilled]; exact List.filter_sublist.map _,
    stmtwise_shape (f := dropKilled kill) rfl (dropKilled_cons kill) (fun x hx => ?_) stmts hs⟩
  cases x with
  | line l => unfold dropKilled; split <;> first | exact hx | exact hx.of_subset fun _ h => nomatch h
  | lineBlock b =>
    unfold dropKilled
    dsimp only
    split
    · exact hx.of_subset fun _ h => nomatch h
    · exact hx.block _ (fun l hl => (List.mem_filter.1 hl).1)
  | _ => exact hx

theorem TreeWF.of_sublist {stmts stmts' : List Expr} {next : Nat} (h : TreeWF stmts next)
    (hids : (treeIds stmts').Sublist (treeIds stmts)) (hs : ShapeWF stmts') : TreeWF stmts' next :=
  ⟨List.Nodup.sublist hids h.nodup, fun i hi => h.lt i (hids.subset hi), fun i hi => h.pos i (hids.subset hi), hs.blockTok, hs.flagTop, hs.flagIn, hs.noBlockSuffix⟩

theorem TreeWF.of_perm {stmts stmts' : List Expr} {next : Nat} (h : TreeWF stmts next)
    (hids : (treeIds stmts').Perm (treeIds stmts)) (hs : ShapeWF stmts') : TreeWF stmts' next :=
  ⟨hids.symm.nodup h.nodup, fun i hi => h.lt i (hids.subset hi), fun i hi => h.pos i (hids.subset hi), hs.blockTok, hs.flagTop, hs.flagIn, hs.noBlockSuffix⟩

end ModVerif.Modfile.Edit
