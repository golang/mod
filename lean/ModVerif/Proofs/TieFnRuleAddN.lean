/-
  Helper lemmas for Tie/FnRuleAdd.lean: reading back.  A represented state read by the driver's `fileM` / `workM`
  (Drv/GenRule.lean) under `ι = idOf ids` is the model's typed file (`fileM_of_rep`, `workM_of_rep`).
-/
import ModVerif.Proofs.TieFnRuleRep
namespace ModVerif.Tie.FnRuleAddN
open ModVerif ModVerif.GoRt ModVerif.Generated ModVerif.Tie.FnRuleRep
open ModVerif.Drv.GenRule (idOf lineM exprM synM getAll fileM workM)

section
variable {ids : List (Int × Nat)} {h : Rule.Heap}

theorem lineM_of (hl : RLine (idOf ids) h p l) : lineM ids h p = some l := by
  obtain ⟨h1, h2⟩ := hl
  simp only [lineM, h1, lineG_Comments, comsM_comsG, lineG_Start, posM_posG, lineG_Token, lineG_InBlock, lineG_End, h2]

theorem mapM_lineM_of : ∀ {ps : List Int} {ls : List Modfile.Line}, RLines (idOf ids) h ps ls → ps.mapM (lineM ids h) = some ls
  | [], [], _ => rfl
  | p :: ps, l :: ls, r => by
    simp only [List.mapM_cons, lineM_of r.1, mapM_lineM_of r.2, bind, Option.bind, pure]
  | [], _ :: _, r => r.elim
  | _ :: _, [], r => r.elim

theorem exprM_of {e : Rule.Expr} {s : Modfile.Expr} (r : RExpr (idOf ids) h e s) : exprM ids h e = some s := by
  cases e <;> cases s <;> simp only [RExpr] at r <;> try exact r.elim
  · simp only [exprM, r, cbG, comsM_comsG, posM_posG]
  · simp only [exprM, lineM_of r, Option.map_some]
  · obtain ⟨ps, r1, r2⟩ := r
    simp only [exprM, r1, mapM_lineM_of r2, bind, Option.bind, pure, blockG, lparenG, rparenG, comsM_comsG, posM_posG]

theorem mapM_exprM_of : ∀ {es : List Rule.Expr} {ss : List Modfile.Expr}, RStmts (idOf ids) h es ss → es.mapM (exprM ids h) = some ss
  | [], [], _ => rfl
  | e :: es, s :: ss, r => by
    simp only [List.mapM_cons, exprM_of r.1, mapM_exprM_of r.2, bind, Option.bind, pure]
  | [], _ :: _, r => r.elim
  | _ :: _, [], r => r.elim

theorem synM_of {p : Int} {fs : Modfile.FileSyntax} (r : RepSyn (idOf ids) h p fs) : synM ids h p = some fs := by
  obtain ⟨es, r⟩ := r
  simp only [synM, r.file, fileG_Stmt, mapM_exprM_of r.stmts, bind, Option.bind, pure, fileG_Name, fileG_Comments, comsM_comsG]

theorem getAll_of {α β : Type} {objs : List α} {R : α → β → Prop} : ∀ {ps : List Int} {xs : List β}, REntsL objs R ps xs →
    ∃ os : List α, getAll objs ps = some os ∧ os.length = xs.length ∧ ∀ (i : Nat) (o : α) (x : β), os[i]? = some o → xs[i]? = some x → R o x
  | [], [], _ => ⟨[], rfl, rfl, fun i o x ho _ => by simp at ho⟩
  | p :: ps, x :: xs, r => by
    obtain ⟨o, h1, h2⟩ := r.1
    obtain ⟨os, e, hl, hR⟩ := getAll_of r.2
    refine ⟨o :: os, ?_, by simp [hl], ?_⟩
    · have hc : getAll objs (p :: ps) = (do let a ← (heapGet objs p).toOption; let as ← getAll objs ps; pure (a :: as)) := by
        simp [getAll, List.mapM_cons]
      rw [hc, h1, e]; rfl
    · intro i o' x' ho hx
      cases i with
      | zero => simp at ho hx; subst ho hx; exact h2
      | succ i => simp at ho hx; exact hR i o' x' ho hx
  | [], _ :: _, r => r.elim
  | _ :: _, [], r => r.elim

theorem map_of_rel {α β : Type} {R : α → β → Prop} (f : α → β) (hf : ∀ o x, R o x → f o = x) :
    ∀ {os : List α} {xs : List β}, os.length = xs.length → (∀ (i : Nat) (o : α) (x : β), os[i]? = some o → xs[i]? = some x → R o x) → os.map f = xs
  | [], [], _, _ => rfl
  | o :: os, x :: xs, hl, hR => by
    simp only [List.map_cons]
    rw [hf o x (hR 0 o x rfl rfl), map_of_rel f hf (by simpa using hl) (fun i o' x' ho hx => hR (i + 1) o' x' (by simpa using ho) (by simpa using hx))]
  | [], _ :: _, hl, _ => by simp at hl
  | _ :: _, [], hl, _ => by simp at hl

theorem readList {α β : Type} {objs : List α} {R : α → β → Prop} (f : α → β) (hf : ∀ o x, R o x → f o = x)
    {ps : List Int} {xs : List β} (r : REntsL objs R ps xs) : ∃ os, getAll objs ps = some os ∧ os.map f = xs := by
  obtain ⟨os, e, hl, hR⟩ := getAll_of r
  exact ⟨os, e, map_of_rel f hf hl hR⟩

theorem mv_eta (m : Modfile.ModVersion) : ({ path := m.path, version := m.version } : Modfile.ModVersion) = m := rfl

theorem fileM_of_rep {fp : Int} {errs : List Rule.Error} {st : Modfile.AddState} (R : RepR (idOf ids) h fp errs st) :
    fileM ids h fp = some st.file := by
  obtain ⟨o, ho, rt, rs⟩ := R.obj
  obtain ⟨gd, egd, mgd⟩ := readList (fun g : Rule.Godebug => ({ key := g.Key, value := g.Value, lineId := idOf ids g.Syntax } : Modfile.Godebug))
    (fun o x hr => by obtain ⟨a, b, c⟩ := hr; cases x; simp_all [c.id]) rt.godebug.rel
  obtain ⟨rq, erq, mrq⟩ := readList (fun r : Rule.Require => ({ mod := { path := r.Mod.Path, version := r.Mod.Version }, indirect := r.Indirect, lineId := idOf ids r.Syntax } : Modfile.Require))
    (fun o x hr => by obtain ⟨a, b, c⟩ := hr; obtain ⟨⟨mp, mv⟩, ind, lid⟩ := x; simp_all [c.id, mvG]) rt.require.rel
  obtain ⟨ex, eex, mex⟩ := readList (fun r : Rule.Exclude => ({ mod := { path := r.Mod.Path, version := r.Mod.Version }, lineId := idOf ids r.Syntax } : Modfile.Exclude))
    (fun o x hr => by obtain ⟨a, c⟩ := hr; obtain ⟨⟨mp, mv⟩, lid⟩ := x; simp_all [c.id, mvG]) rt.exclude.rel
  obtain ⟨rp, erp, mrp⟩ := readList (fun r : Rule.Replace => ({ old := { path := r.Old.Path, version := r.Old.Version }, new := { path := r.New.Path, version := r.New.Version }, lineId := idOf ids r.Syntax } : Modfile.Replace))
    (fun o x hr => by obtain ⟨a, b, c⟩ := hr; obtain ⟨⟨op, ov⟩, ⟨np, nv⟩, lid⟩ := x; simp_all [c.id, mvG]) rt.replace.rel
  obtain ⟨rr, err, mrr⟩ := readList (fun r : Rule.Retract => ({ interval := { low := r.VersionInterval.Low, high := r.VersionInterval.High }, rationale := r.Rationale, lineId := idOf ids r.Syntax } : Modfile.Retract))
    (fun o x hr => by obtain ⟨a, b, c, d⟩ := hr; obtain ⟨⟨lo, hi⟩, ra, lid⟩ := x; simp_all [d.id]) rt.retract.rel
  obtain ⟨tl, etl, mtl⟩ := readList (fun t : Rule.Tool => ({ path := t.Path, lineId := idOf ids t.Syntax } : Modfile.Tool))
    (fun o x hr => by obtain ⟨a, c⟩ := hr; cases x; simp_all [c.id]) rt.tool.rel
  have hmod : (if o.Module == 0 then some none else do
      let m ← (heapGet h.modules o.Module).toOption
      pure (some ({ mod := { path := m.Mod.Path, version := m.Mod.Version }, deprecated := m.Deprecated, lineId := idOf ids m.Syntax } : Modfile.Module))) =
      some st.file.module := by
    have hm := rt.module
    cases hmm : st.file.module with
    | none => rw [hmm] at hm; simp [show o.Module = 0 from hm]
    | some m =>
      rw [hmm] at hm
      obtain ⟨mo, h1, a, b, c⟩ := hm
      have hne : (o.Module == 0) = false := by have := heapGet_pos h1; simp; omega
      obtain ⟨⟨mp, mv⟩, dp, lid⟩ := m
      simp_all [Except.toOption, bind, Option.bind, pure, mvG, c.id]
  have hgo : (if o.Go == 0 then some none else do
      let g ← (heapGet h.gos o.Go).toOption
      pure (some ({ version := g.Version, lineId := idOf ids g.Syntax } : Modfile.Go))) = some st.file.go := by
    have hm := rt.go
    cases hmm : st.file.go with
    | none => rw [hmm] at hm; simp [show o.Go = 0 from hm]
    | some m =>
      rw [hmm] at hm
      obtain ⟨mo, h1, a, c⟩ := hm
      have hne : (o.Go == 0) = false := by have := heapGet_pos h1; simp; omega
      cases m
      simp_all [Except.toOption, bind, Option.bind, pure, c.id]
  have htc : (if o.Toolchain == 0 then some none else do
      let t ← (heapGet h.toolchains o.Toolchain).toOption
      pure (some ({ name := t.Name, lineId := idOf ids t.Syntax } : Modfile.Toolchain))) = some st.file.toolchain := by
    have hm := rt.toolchain
    cases hmm : st.file.toolchain with
    | none => rw [hmm] at hm; simp [show o.Toolchain = 0 from hm]
    | some m =>
      rw [hmm] at hm
      obtain ⟨mo, h1, a, c⟩ := hm
      have hne : (o.Toolchain == 0) = false := by have := heapGet_pos h1; simp; omega
      cases m
      simp_all [Except.toOption, bind, Option.bind, pure, c.id]
  unfold fileM
  simp only [ho, Except.toOption, Option.bind_eq_bind, Option.bind_some, synM_of rs]
  simp only [Except.toOption, Option.bind_eq_bind, Option.pure_def] at hmod hgo htc
  simp only [hmod, hgo, htc, egd, erq, eex, erp, err, etl, Option.bind_some, mgd, mrq, mex, mrp, mrr, mtl, Option.pure_def]

theorem workM_of_rep {fp : Int} {errs : List Rule.Error} {st : Modfile.WorkState} (R : RepW (idOf ids) h fp errs st) :
    workM ids h fp = some st.file := by
  obtain ⟨o, ho, rt, rs⟩ := R.obj
  obtain ⟨gd, egd, mgd⟩ := readList (fun g : Rule.Godebug => ({ key := g.Key, value := g.Value, lineId := idOf ids g.Syntax } : Modfile.Godebug))
    (fun o x hr => by obtain ⟨a, b, c⟩ := hr; cases x; simp_all [c.id]) rt.godebug.rel
  obtain ⟨us, eus, mus⟩ := readList (fun u : Rule.Use => ({ path := u.Path, modulePath := u.ModulePath, lineId := idOf ids u.Syntax } : Modfile.Use))
    (fun o x hr => by obtain ⟨a, b, c⟩ := hr; cases x; simp_all [c.id]) rt.use.rel
  obtain ⟨rp, erp, mrp⟩ := readList (fun r : Rule.Replace => ({ old := { path := r.Old.Path, version := r.Old.Version }, new := { path := r.New.Path, version := r.New.Version }, lineId := idOf ids r.Syntax } : Modfile.Replace))
    (fun o x hr => by obtain ⟨a, b, c⟩ := hr; obtain ⟨⟨op, ov⟩, ⟨np, nv⟩, lid⟩ := x; simp_all [c.id, mvG]) rt.replace.rel
  have hgo : (if o.Go == 0 then some none else do
      let g ← (heapGet h.gos o.Go).toOption
      pure (some ({ version := g.Version, lineId := idOf ids g.Syntax } : Modfile.Go))) = some st.file.go := by
    have hm := rt.go
    cases hmm : st.file.go with
    | none => rw [hmm] at hm; simp [show o.Go = 0 from hm]
    | some m =>
      rw [hmm] at hm
      obtain ⟨mo, h1, a, c⟩ := hm
      have hne : (o.Go == 0) = false := by have := heapGet_pos h1; simp; omega
      cases m
      simp_all [Except.toOption, bind, Option.bind, pure, c.id]
  have htc : (if o.Toolchain == 0 then some none else do
      let t ← (heapGet h.toolchains o.Toolchain).toOption
      pure (some ({ name := t.Name, lineId := idOf ids t.Syntax } : Modfile.Toolchain))) = some st.file.toolchain := by
    have hm := rt.toolchain
    cases hmm : st.file.toolchain with
    | none => rw [hmm] at hm; simp [show o.Toolchain = 0 from hm]
    | some m =>
      rw [hmm] at hm
      obtain ⟨mo, h1, a, c⟩ := hm
      have hne : (o.Toolchain == 0) = false := by have := heapGet_pos h1; simp; omega
      cases m
      simp_all [Except.toOption, bind, Option.bind, pure, c.id]
  unfold workM
  simp only [ho, Except.toOption, Option.bind_eq_bind, Option.bind_some, synM_of rs]
  simp only [Except.toOption, Option.bind_eq_bind, Option.pure_def] at hgo htc
  simp only [hgo, htc, egd, eus, erp, Option.bind_some, mgd, mus, mrp, Option.pure_def]

end
end ModVerif.Tie.FnRuleAddN
