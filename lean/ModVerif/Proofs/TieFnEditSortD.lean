/-
  `sort.SliceStable` of a block's line pointers with a comparator that reads
  the heap (`GoRt.sortStableW`) against the model's `stableSort` / `insertLine`; the block loop of `File.SortBlocks` /
  `WorkFile.SortBlocks` against `sortStmts`.
-/
import ModVerif.Proofs.TieFnEditSortC
import ModVerif.Tie.FnEditTree
namespace ModVerif.Tie.FnEditSortD
open ModVerif ModVerif.GoRt ModVerif.Generated.Edit ModVerif.Tie.FnEditRep ModVerif.Tie.FnEditLoop ModVerif.Tie.FnEditSortA ModVerif.Tie.FnEditSortB
  ModVerif.Tie.FnEditSortC
open ModVerif.Modfile.Edit (treeIds insertLine stableSort sortStmts headIs)

theorem mem_insertLine (less : List Bytes → List Bytes → Bool) (x : Modfile.Line) :
    ∀ (l : List Modfile.Line) (y : Modfile.Line), y ∈ insertLine less x l → y = x ∨ y ∈ l
  | [], y, hy => by simp only [insertLine, List.mem_singleton] at hy; exact Or.inl hy
  | z :: zs, y, hy => by
    simp only [insertLine] at hy
    split at hy
    · rcases List.mem_cons.1 hy with rfl | hy
      · exact Or.inr List.mem_cons_self
      · rcases mem_insertLine less x zs y hy with h | h
        · exact Or.inl h
        · exact Or.inr (List.mem_cons_of_mem _ h)
    · rcases List.mem_cons.1 hy with rfl | hy
      · exact Or.inl rfl
      · exact Or.inr hy

theorem mem_stableSort (less : List Bytes → List Bytes → Bool) : ∀ (l : List Modfile.Line) (y : Modfile.Line),
    y ∈ stableSort less l → y ∈ l
  | [], y, hy => by simp [stableSort] at hy
  | x :: xs, y, hy => by
    have : stableSort less (x :: xs) = insertLine less x (stableSort less xs) := rfl
    rw [this] at hy
    rcases mem_insertLine less x _ y hy with rfl | h
    · exact List.mem_cons_self
    · exact List.mem_cons_of_mem _ (mem_stableSort less xs y h)

section sort
variable (lessW : Int → Int → Heap → M (Bool × Heap)) (less : List Bytes → List Bytes → Bool) (h : Heap)
  (P : Modfile.Line → Prop)
  (hless : ∀ (p q : Int) (a b : Modfile.Line), RLine h p a → RLine h q b → P a → P b → lessW p q h = .ok (less a.token b.token, h))
include hless

theorem insertStableW_spec {x : Int} {xl : Modfile.Line} (rx : RLine h x xl) (px : P xl) :
    ∀ {r : List Int} {rs : List Modfile.Line}, RLines h r rs → (∀ l ∈ rs, P l) →
      ∃ r', insertStableW lessW x r h = .ok (r', h) ∧ RLines h r' (insertLine less xl rs)
  | [], [], _, _ => ⟨[x], rfl, ⟨rx, trivial⟩⟩
  | y :: ys, l :: ls, rr, hp => by
    have hl := hless y x l xl rr.1 rx (hp l List.mem_cons_self) px
    simp only [insertStableW, hl, bind, Except.bind, insertLine]
    cases hc : less l.token xl.token
    · exact ⟨x :: y :: ys, rfl, ⟨rx, rr⟩⟩
    · obtain ⟨r', e1, e2⟩ := insertStableW_spec rx px rr.2 (fun m hm => hp m (List.mem_cons_of_mem _ hm))
      refine ⟨y :: r', ?_, ⟨rr.1, e2⟩⟩
      simp only [if_true, e1]; rfl
  | [], _ :: _, rr, _ => rr.elim
  | _ :: _, [], rr, _ => rr.elim

theorem sortStableW_spec : ∀ {ps : List Int} {ls : List Modfile.Line}, RLines h ps ls → (∀ l ∈ ls, P l) →
      ∃ ps', sortStableW lessW ps h = .ok (ps', h) ∧ RLines h ps' (stableSort less ls)
  | [], [], _, _ => ⟨[], rfl, trivial⟩
  | p :: ps, l :: ls, rr, hp => by
    obtain ⟨r, e1, e2⟩ := sortStableW_spec rr.2 (fun m hm => hp m (List.mem_cons_of_mem _ hm))
    obtain ⟨r', e3, e4⟩ := insertStableW_spec lessW less h P hless rr.1 (hp l List.mem_cons_self) e2
      (fun m hm => hp m (List.mem_cons_of_mem _ (mem_stableSort less ls m hm)))
    refine ⟨r', ?_, e4⟩
    simp only [sortStableW, e1, bind, Except.bind, e3]
  | [], _ :: _, rr, _ => rr.elim
  | _ :: _, [], rr, _ => rr.elim

end sort

/-- enough fuel for any of the three comparators on a line with these tokens -/
def tokFuel (t : List Bytes) : Nat := 2 * (t.map List.length).sum + t.length + 1

theorem length_le_sum_of_mem {t : List Bytes} {x : Bytes} (hx : x ∈ t) : x.length ≤ (t.map List.length).sum := by
  induction t with
  | nil => cases hx
  | cons a t ih =>
    rcases List.mem_cons.1 hx with rfl | hx
    · simp
    · have := ih hx; simp; omega

theorem getD_length_le (t : List Bytes) (i : Nat) : (t.getD i []).length ≤ (t.map List.length).sum := by
  by_cases hi : i < t.length
  · have : t.getD i [] = t[i] := by simp [List.getD, hi]
    rw [this]; exact length_le_sum_of_mem (List.getElem_mem hi)
  · have : t.getD i [] = [] := by simp [List.getD, List.getElem?_eq_none (Nat.le_of_not_lt hi)]
    rw [this]; simp

theorem retract_low_le (t : List Bytes) : (Modfile.Edit.retractInterval t).low.length ≤ (t.map List.length).sum := by
  unfold Modfile.Edit.retractInterval
  split
  · simp
  · split <;> simp <;> omega
  · simp

theorem retract_high_le (t : List Bytes) : (Modfile.Edit.retractInterval t).high.length ≤ (t.map List.length).sum := by
  unfold Modfile.Edit.retractInterval
  split
  · simp
  · split <;> simp <;> omega
  · simp

/-- the three comparators (wrapped as `File_SortBlocks_loop1` wraps them) on represented lines -/
theorem wrapLess_ok {h : Heap} {F : Nat} {p q : Int} {a b : Modfile.Line} (ra : RLine h p a) (rb : RLine h q b)
    (fa : tokFuel a.token ≤ F) (fb : tokFuel b.token ≤ F) :
    lineLess F p q h = .ok (Modfile.Edit.lineLess a.token b.token, h) ∧
    lineExcludeLess F p q h = .ok (Modfile.Edit.lineExcludeLess a.token b.token, h) ∧
    lineRetractLess F p q h = .ok (Modfile.Edit.lineRetractLess a.token b.token, h) := by
  unfold tokFuel at fa fb
  refine ⟨?_, ?_, ?_⟩
  · exact FnEditTree.lineLess_tie F ra.1 rb.1 (by simp only [lineG_Token]; omega)
  · refine FnEditTree.lineExcludeLess_tie F ra.1 rb.1 (by simp only [lineG_Token]; omega) ?_
    simp only [lineG_Token]
    have := getD_length_le a.token 1; have := getD_length_le b.token 1; omega
  · refine FnEditTree.lineRetractLess_tie F ra.1 rb.1 ?_ ?_ <;> simp only [lineG_Token]
    · have := retract_low_le a.token; have := retract_low_le b.token; omega
    · have := retract_high_le a.token; have := retract_high_le b.token; omega

/-- comparator fuel of a statement list: the sum over all lines (every single line is below it) -/
def cmpSize : List Modfile.Expr → Nat
  | [] => 0
  | .lineBlock b :: xs => (b.lines.map fun l => tokFuel l.token).sum + cmpSize xs
  | _ :: xs => cmpSize xs

theorem le_sum_map {α : Type} (f : α → Nat) : ∀ {l : List α} {x : α}, x ∈ l → f x ≤ (l.map f).sum
  | a :: l, x, hx => by
    rcases List.mem_cons.1 hx with rfl | hx
    · simp
    · have := le_sum_map f hx; simp; omega

/-- the model's choice of the comparator of a go.mod block -/
def modLess (useSem : Bool) (tok : List Bytes) : List Bytes → List Bytes → Bool :=
  if headIs tok (B "exclude") && useSem then Modfile.Edit.lineExcludeLess
  else if headIs tok (B "retract") then Modfile.Edit.lineRetractLess
  else Modfile.Edit.lineLess

theorem sortStmts_cons_block (useSem : Bool) (b : Modfile.LineBlock) (ss : List Modfile.Expr) :
    sortStmts useSem false (.lineBlock b :: ss) =
      .lineBlock { b with lines := stableSort (modLess useSem b.token) b.lines } :: sortStmts useSem false ss := by
  simp only [sortStmts, List.map_cons, modLess, Bool.false_eq_true, if_false]

theorem sortStmts_cons_line (useSem work : Bool) (l : Modfile.Line) (ss : List Modfile.Expr) :
    sortStmts useSem work (.line l :: ss) = .line l :: sortStmts useSem work ss := rfl

theorem sortStmts_cons_cb (useSem work : Bool) (c : Modfile.CommentBlock) (ss : List Modfile.Expr) :
    sortStmts useSem work (.commentBlock c :: ss) = .commentBlock c :: sortStmts useSem work ss := rfl

theorem sortStmts_work_cons_block (useSem : Bool) (b : Modfile.LineBlock) (ss : List Modfile.Expr) :
    sortStmts useSem true (.lineBlock b :: ss) =
      .lineBlock { b with lines := stableSort Modfile.Edit.lineLess b.lines } :: sortStmts useSem true ss := by
  simp only [sortStmts, List.map_cons, if_true]

theorem B_exclude : B "exclude" = [101, 120, 99, 108, 117, 100, 101] := by decide +kernel
theorem B_retract : B "retract" = [114, 101, 116, 114, 97, 99, 116] := by decide +kernel

theorem sortBlock_run {h : Heap} {b : Modfile.LineBlock} {ps : List Int}
    (rl : RLines h ps b.lines) (F : Nat) (hF : ∀ l ∈ b.lines, tokFuel l.token ≤ F)
    (lessW : Int → Int → Heap → M (Bool × Heap)) (less : List Bytes → List Bytes → Bool)
    (hless : ∀ (p q : Int) (a b : Modfile.Line), RLine h p a → RLine h q b → tokFuel a.token ≤ F → tokFuel b.token ≤ F →
      lessW p q h = .ok (less a.token b.token, h)) :
    ∃ ps', sortStableW lessW ps h = .ok (ps', h) ∧ RLines h ps' (stableSort less b.lines) :=
  sortStableW_spec lessW less h (fun l => tokFuel l.token ≤ F) hless rl hF

/-- the block loop of `File.SortBlocks` / `WorkFile.SortBlocks`; `pick fuel blk` chooses the comparator of a block -/
def sortLoopG (pick : Nat → LineBlock → M (Int → Int → Heap → M (Bool × Heap))) (rx : List Expr) : Nat → Int → Heap → M (Int × Heap)
  | 0, _, _ => throw Err.fuel
  | fuel + 1, ri, world => if decide (ri < len rx) then (do
      let stmt ← idxL rx ri
      match stmt with
      | Expr.LineBlock block => do
        let t ← heapGet world.blocks block
        let less ← pick fuel t
        let t20 ← sortStableW (fun a b w => do let r ← less a b w; pure (r.1, r.2)) t.Line world
        let t22 ← heapGet t20.2.blocks block
        let t23 ← heapSet t20.2.blocks block { t22 with Line := t20.1 }
        sortLoopG pick rx fuel (ri + 1) { t20.2 with blocks := t23 }
      | _ => sortLoopG pick rx fuel (ri + 1) world)
    else pure (ri, world)

/-- the comparator `File.SortBlocks` chooses for a block -/
def pickF (useSem : Bool) (fuel : Nat) (t : LineBlock) : M (Int → Int → Heap → M (Bool × Heap)) := do
  let t14 ← idxL t.Token 0
  if decide (t14 = ([101, 120, 99, 108, 117, 100, 101] : Bytes)) && useSem then pure (lineExcludeLess fuel) else do
    let t26 ← idxL t.Token 0
    if decide (t26 = ([114, 101, 116, 114, 97, 99, 116] : Bytes)) then pure (lineRetractLess fuel) else pure (lineLess fuel)

theorem loop1_eq (rx : List Expr) (f : Int) (useSem : Bool) : ∀ (fuel : Nat) (ri : Int) (w : Heap),
    File_SortBlocks_loop1 rx f useSem fuel ri w = sortLoopG (pickF useSem) rx fuel ri w := by
  intro fuel
  induction fuel with
  | zero => intro ri w; rfl
  | succ n ih =>
    intro ri w
    simp only [File_SortBlocks_loop1, sortLoopG, ih, pickF]
    split
    · cases idxL rx ri with
      | error e => rfl
      | ok stmt =>
        simp only [bind, Except.bind]
        cases stmt <;> simp only [Bool.not_true, Bool.not_false, Bool.false_eq_true, if_false, if_true]
        rename_i p
        cases heapGet w.blocks p with
        | error e => rfl
        | ok t =>
          simp only []
          cases idxL t.Token 0 with
          | error e => rfl
          | ok t14 =>
            simp only []
            split
            · rfl
            · split <;> rfl
    · rfl

theorem wloop1_eq (rx : List Expr) (f : Int) : ∀ (fuel : Nat) (ri : Int) (w : Heap),
    WorkFile_SortBlocks_loop1 rx f fuel ri w = sortLoopG (fun fuel _ => pure (lineLess fuel)) rx fuel ri w := by
  intro fuel
  induction fuel with
  | zero => intro ri w; rfl
  | succ n ih =>
    intro ri w
    simp only [WorkFile_SortBlocks_loop1, sortLoopG, ih, pure_bind]
    split
    · cases idxL rx ri with
      | error e => rfl
      | ok stmt =>
        simp only [bind, Except.bind]
        cases stmt <;> simp only [Bool.not_true, Bool.not_false, Bool.false_eq_true, if_false, if_true]
    · rfl

/-- **the block loop is `sortStmts`**, `less tok` being the model's comparator of a block with the tokens `tok` -/
theorem sortLoopG_spec (pick : Nat → LineBlock → M (Int → Int → Heap → M (Bool × Heap))) (useSem work : Bool)
    (less : List Bytes → List Bytes → List Bytes → Bool)
    (hcons : ∀ (b : Modfile.LineBlock) (ss : List Modfile.Expr), sortStmts useSem work (.lineBlock b :: ss) =
      .lineBlock { b with lines := stableSort (less b.token) b.lines } :: sortStmts useSem work ss)
    (hpick : ∀ (fuel : Nat) (h : Heap) (b : Modfile.LineBlock) (ps : List Int), b.token ≠ [] →
      ∃ cmp, pick fuel (blockG b ps) = .ok cmp ∧ ∀ (p q : Int) (a c : Modfile.Line), RLine h p a → RLine h q c →
        tokFuel a.token ≤ fuel → tokFuel c.token ≤ fuel → cmp p q h = .ok (less b.token a.token c.token, h)) :
    ∀ (rest : List Expr) (ss : List Modfile.Expr) (pre rx : List Expr) (ri : Int) (fuel : Nat) (h : Heap),
      rx = pre ++ rest → ri = (pre.length : Int) → ss.length + cmpSize ss < fuel → RStmts h rest ss → (blockPtrs rest).Nodup →
      BlockTokOK ss →
      ∃ bl', sortLoopG pick rx fuel ri h = .ok (len rx, { h with blocks := bl' }) ∧
        bl'.length = h.blocks.length ∧ (∀ p, p ∉ blockPtrs rest → heapGet bl' p = heapGet h.blocks p) ∧
        RStmts { h with blocks := bl' } rest (sortStmts useSem work ss)
  | [], [], pre, rx, ri, fuel + 1, h, hrx, hri, _, _, _, _ => by
    subst hrx hri
    have := not_lt_len_end pre
    refine ⟨h.blocks, ?_, rfl, fun _ _ => rfl, trivial⟩
    simp [sortLoopG, pure, Except.pure, len_eq]
  | e :: rest, s :: ss, pre, rx, ri, fuel + 1, h, hrx, hri, hf, r, hnd, htok => by
    have ih := sortLoopG_spec pick useSem work less hcons hpick rest ss (pre ++ [e]) rx (ri + 1) fuel
    subst hrx hri
    have hrx' : pre ++ e :: rest = pre ++ [e] ++ rest := by simp
    have hri' : (pre.length : Int) + 1 = ((pre ++ [e]).length : Int) := by simp
    have htok' : BlockTokOK ss := fun b hb => htok b (List.mem_cons_of_mem _ hb)
    have hf' : ss.length + cmpSize ss < fuel := by cases s <;> simp only [cmpSize, List.length_cons] at hf <;> omega
    have r1 := r.1
    cases e <;> cases s <;> simp only [RExpr] at r1 <;> try exact r1.elim
    · -- comment block
      rename_i p c
      obtain ⟨bl', e1, e2, e3, e4⟩ := ih h hrx' hri' hf' r.2 hnd htok'
      refine ⟨bl', ?_, e2, e3, ⟨r1, e4⟩⟩
      simp only [sortLoopG, lt_len_mid, decide_true, if_true, idxL_mid, bind, Except.bind, e1]
    · rename_i p l
      obtain ⟨bl', e1, e2, e3, e4⟩ := ih h hrx' hri' hf' r.2 hnd htok'
      refine ⟨bl', ?_, e2, e3, ⟨RLine.mono (h := h) (h' := { h with blocks := bl' }) (fun _ _ x => x) r1, e4⟩⟩
      simp only [sortLoopG, lt_len_mid, decide_true, if_true, idxL_mid, bind, Except.bind, e1]
    · rename_i p b
      obtain ⟨ps, r2, r3⟩ := r1
      have hF : ∀ l ∈ b.lines, tokFuel l.token ≤ fuel := by
        intro l hl
        have := le_sum_map (fun l : Modfile.Line => tokFuel l.token) hl
        simp only [cmpSize, List.length_cons] at hf; omega
      rw [blockPtrs_cons_block, List.nodup_cons] at hnd
      obtain ⟨cmp, hcmp, hc⟩ := hpick fuel h b ps (htok b List.mem_cons_self)
      obtain ⟨ps', hs, rl'⟩ := sortBlock_run r3 fuel hF
        (fun sa sb world => Except.bind (cmp sa sb world) (fun v => pure (v.fst, v.snd))) (less b.token)
        (fun p q a c ra rc fa fc => by simp only [hc p q a c ra rc fa fc]; rfl)
      have rrest : RStmts { h with blocks := h.blocks.set (p.toNat - 1) ({ (blockG b ps) with Line := ps' } : LineBlock) } rest ss :=
        RStmts.blocksFrame r.2 (fun q hq => heapGet_listSet_other _ r2 (fun e => hnd.1 (e ▸ hq)))
      obtain ⟨bl', e1, e2, e3, e4⟩ := ih _ hrx' hri' hf' rrest hnd.2 htok'
      refine ⟨bl', ?_, by rw [e2]; simp, ?_, ?_⟩
      · simp only [Except.bind] at hs
        simp only [sortLoopG, lt_len_mid, decide_true, if_true, idxL_mid, bind, Except.bind, r2, hcmp, blockG_Line, hs,
          heapSet_of_get _ r2]
        exact e1
      · intro q hq
        rw [blockPtrs_cons_block, List.mem_cons, not_or] at hq
        rw [e3 q hq.2]
        exact heapGet_listSet_other _ r2 hq.1
      · rw [hcons]
        refine ⟨⟨ps', ?_, RLines.blocks bl' rl'⟩, e4⟩
        show heapGet bl' p = _
        rw [e3 p hnd.1]
        exact heapGet_listSet_same _ r2
  | [], _ :: _, _, _, _, _, _, _, _, _, r, _, _ => r.elim
  | _ :: _, [], _, _, _, _, _, _, _, _, r, _, _ => r.elim
  | _, _, _, _, _, 0, _, _, _, hf, _, _, _ => by cases hf

theorem sortLoop_spec (f : Int) (useSem : Bool) (rest : List Expr) (ss : List Modfile.Expr) (pre rx : List Expr) (ri : Int)
    (fuel : Nat) (h : Heap) (hrx : rx = pre ++ rest) (hri : ri = (pre.length : Int)) (hf : ss.length + cmpSize ss < fuel)
    (r : RStmts h rest ss) (hnd : (blockPtrs rest).Nodup) (htok : BlockTokOK ss) :
    ∃ bl', File_SortBlocks_loop1 rx f useSem fuel ri h = .ok (len rx, { h with blocks := bl' }) ∧
      bl'.length = h.blocks.length ∧ (∀ p, p ∉ blockPtrs rest → heapGet bl' p = heapGet h.blocks p) ∧
      RStmts { h with blocks := bl' } rest (sortStmts useSem false ss) := by
  rw [loop1_eq]
  refine sortLoopG_spec _ useSem false (modLess useSem) (sortStmts_cons_block useSem) ?_ rest ss pre rx ri fuel h hrx hri hf r hnd htok
  intro fuel h b ps hb
  obtain ⟨t0, ts, htk⟩ := List.exists_cons_of_ne_nil hb
  simp only [pickF, blockG_Token, htk, idxL_zero_cons, bind, Except.bind, modLess, headIs_cons, B_exclude, B_retract]
  by_cases c1 : (decide (t0 = [101, 120, 99, 108, 117, 100, 101]) && useSem) = true
  · simp only [c1, if_true]
    exact ⟨_, rfl, fun p q a c ra rc fa fc => (wrapLess_ok ra rc fa fc).2.1⟩
  · by_cases c2 : decide (t0 = [114, 101, 116, 114, 97, 99, 116]) = true
    · simp only [c1, c2, if_true, Bool.false_eq_true, if_false]
      exact ⟨_, rfl, fun p q a c ra rc fa fc => (wrapLess_ok ra rc fa fc).2.2⟩
    · simp only [c1, c2, Bool.false_eq_true, if_false]
      exact ⟨_, rfl, fun p q a c ra rc fa fc => (wrapLess_ok ra rc fa fc).1⟩

theorem workSortLoop_spec (f : Int) (useSem : Bool) (rest : List Expr) (ss : List Modfile.Expr) (pre rx : List Expr) (ri : Int)
    (fuel : Nat) (h : Heap) (hrx : rx = pre ++ rest) (hri : ri = (pre.length : Int)) (hf : ss.length + cmpSize ss < fuel)
    (r : RStmts h rest ss) (hnd : (blockPtrs rest).Nodup) (htok : BlockTokOK ss) :
    ∃ bl', WorkFile_SortBlocks_loop1 rx f fuel ri h = .ok (len rx, { h with blocks := bl' }) ∧
      bl'.length = h.blocks.length ∧ (∀ p, p ∉ blockPtrs rest → heapGet bl' p = heapGet h.blocks p) ∧
      RStmts { h with blocks := bl' } rest (sortStmts useSem true ss) := by
  rw [wloop1_eq]
  exact sortLoopG_spec _ useSem true (fun _ => Modfile.Edit.lineLess) (sortStmts_work_cons_block useSem)
    (fun fuel h b ps _ => ⟨_, rfl, fun p q a c ra rc fa fc => (wrapLess_ok ra rc fa fc).1⟩) rest ss pre rx ri fuel h hrx hri hf r hnd
    htok

end ModVerif.Tie.FnEditSortD
