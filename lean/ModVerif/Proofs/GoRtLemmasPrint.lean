/-
  General lemmas about the GoRt run-time vocabulary used by the tie proofs of the go.mod printer (Tie/FnPrint.lean):
  reads and truncations at the END of a byte buffer that is given by its reversed bytes (the hand model of print.go keeps
  the output buffer reversed: `bufRev.head?` is the last byte written).
-/
import ModVerif.Basic.GoRt
import ModVerif.Proofs.GoRtLemmas
namespace ModVerif.GoRtPrint
open ModVerif ModVerif.GoRt

/-- `b[n-1]` where `b` is the reverse of `P ++ c :: S` and `n = len(S)+1`: the byte `c` -/
theorem idx_reverse_split (P S : Bytes) (c : UInt8) :
    idx ((P ++ c :: S).reverse) (S.length : Int) = .ok ((c.toNat : Nat) : Int) := by
  have e : (P ++ c :: S).reverse = S.reverse ++ c :: P.reverse := by simp
  rw [e]
  have := idx_append_length S.reverse c P.reverse
  simpa using this

/-- the last byte of a non-empty buffer: `b[len(b)-1]` -/
theorem idx_last (c : UInt8) (R : Bytes) :
    idx ((c :: R).reverse) (len ((c :: R).reverse) - 1) = .ok ((c.toNat : Nat) : Int) := by
  have h : len ((c :: R).reverse) - 1 = (R.length : Int) := by simp [len_eq]
  rw [h]
  exact idx_reverse_split [] R c

/-- the last but one byte: `b[len(b)-2]` -/
theorem idx_last2 (c d : UInt8) (R : Bytes) :
    idx ((c :: d :: R).reverse) (len ((c :: d :: R).reverse) - 2) = .ok ((d.toNat : Nat) : Int) := by
  have h : len ((c :: d :: R).reverse) - 2 = (R.length : Int) := by simp [len_eq]
  rw [h]
  exact idx_reverse_split [c] R d

/-- `b[:n]` where `b` is the reverse of `P ++ S` and `n = len(S)`: truncation drops the last `len(P)` bytes -/
theorem sliceTo_reverse_split (P S : Bytes) :
    sliceTo ((P ++ S).reverse) (S.length : Int) = .ok S.reverse := by
  rw [sliceTo_natCast (by simp)]
  simp [List.reverse_append]

theorem sliceTo_reverse_dropWhile (p : UInt8 → Bool) (R : Bytes) :
    sliceTo R.reverse (((R.dropWhile p).length : Nat) : Int) = .ok (R.dropWhile p).reverse := by
  have := sliceTo_reverse_split (R.takeWhile p) (R.dropWhile p)
  rwa [List.takeWhile_append_dropWhile] at this

/-- `b[:len(b)-1]` -/
theorem sliceTo_drop_last (c : UInt8) (R : Bytes) :
    sliceTo ((c :: R).reverse) (len ((c :: R).reverse) - 1) = .ok R.reverse := by
  have h : len ((c :: R).reverse) - 1 = (R.length : Int) := by simp [len_eq]
  rw [h]
  exact sliceTo_reverse_split [c] R

theorem len_reverse {α : Type} (s : List α) : len s.reverse = len s := by simp [len_eq]

theorem len_pos_cons {α : Type} (a : α) (s : List α) : (len (a :: s) > 0) := by
  simp [len_eq]

theorem decide_byte_eq (c : UInt8) (k : Nat) (hk : k < 256) :
    decide (((c.toNat : Nat) : Int) = ((k : Nat) : Int)) = (c == UInt8.ofNat k) := by
  rw [Bool.eq_iff_iff]
  simp only [decide_eq_true_eq, beq_iff_eq]
  constructor
  · intro h
    apply UInt8.toNat_inj.mp
    have : c.toNat = k := by omega
    rw [this]; simp [Nat.mod_eq_of_lt hk]
  · intro h; subst h; simp [Nat.mod_eq_of_lt hk]

theorem idxL_append_length {α : Type} (pre : List α) (c : α) (suf : List α) :
    idxL (pre ++ c :: suf) (pre.length : Int) = .ok c := by
  have h : pre.length < (pre ++ c :: suf).length := by simp
  rw [idxL_natCast h]; simp

theorem range_cond_true {α : Type} (pre : List α) (c : α) (suf : List α) :
    decide ((pre.length : Int) < len (pre ++ c :: suf)) = true := by
  simp [len_eq]; omega

theorem range_cond_false {α : Type} (pre : List α) :
    decide ((pre.length : Int) < len (pre ++ ([] : List α))) = false := by
  simp [len_eq]

theorem range_next {α : Type} (pre : List α) (c : α) :
    (pre.length : Int) + 1 = ((pre ++ [c]).length : Int) := by
  simp

theorem length_dropWhile_le {α : Type} (p : α → Bool) (l : List α) : (l.dropWhile p).length ≤ l.length :=
  (List.dropWhile_sublist p).length_le

end ModVerif.GoRtPrint
