/-
  `FileSyntax.Cleanup` on a represented graph against the model's `cleanupStmts`: the frames of the two loops
  (`BFrame`, `CFrame`), loop 1 by induction over the statements (`cl1_sim`), and `Cleanup_sim`.
-/
import ModVerif.Proofs.TieFnEditAddLineF
import ModVerif.Proofs.EditModel
namespace ModVerif.TieFnEditAddLine
open ModVerif ModVerif.GoRt
open ModVerif.Generated.Edit
open ModVerif.Tie.FnEditRep
open ModVerif.Modfile.Edit (treeIds cleanupStmts cleanupSyntax)

theorem cleanup_line (l : Modfile.Line) (xs : List Modfile.Expr) :
    cleanupStmts (.line l :: xs) = if l.token.isEmpty then cleanupStmts xs else .line l :: cleanupStmts xs := by
  rw [cleanupStmts]

theorem cleanup_cb (c : Modfile.CommentBlock) (xs : List Modfile.Expr) :
    cleanupStmts (.commentBlock c :: xs) = .commentBlock c :: cleanupStmts xs := by
  rw [cleanupStmts]
  · intro l e; cases e
  · intro b e; cases e

def collapsed (b : Modfile.LineBlock) (l : Modfile.Line) : Modfile.Line :=
  { id := l.id,
    comments := { before := b.comments.before ++ l.comments.before,
                  suffix := l.comments.suffix ++ b.comments.suffix,
                  after := l.comments.after ++ b.comments.after },
    token := b.token ++ l.token }

theorem cleanup_block (b : Modfile.LineBlock) (xs : List Modfile.Expr) :
    cleanupStmts (.lineBlock b :: xs) =
      match b.lines.filter isLive with
      | [] => cleanupStmts xs
      | [l] => if b.rparen.comments.before.isEmpty then .line (collapsed b l) :: cleanupStmts xs
               else .lineBlock { b with lines := b.lines.filter isLive } :: cleanupStmts xs
      | _ => .lineBlock { b with lines := b.lines.filter isLive } :: cleanupStmts xs := by
  rw [cleanupStmts]
  rfl


/-! ### what `Cleanup` leaves untouched -/

structure CFrame (x : Int) (h h' : Heap) : Prop where
  frame : Frame h h'
  llen : h'.lines.length = h.lines.length
  blen : h'.blocks.length = h.blocks.length
  files : ∀ q, q ≠ x → heapGet h'.files q = heapGet h.files q
  linesG : LinesG h → LinesG h'

theorem CFrame.refl (x : Int) (h : Heap) : CFrame x h h := ⟨Frame.refl h, rfl, rfl, fun _ _ => rfl, fun g => g⟩

theorem CFrame.trans {x : Int} {h1 h2 h3 : Heap} (a : CFrame x h1 h2) (b : CFrame x h2 h3) : CFrame x h1 h3 :=
  ⟨a.frame.trans b.frame, b.llen.trans a.llen, b.blen.trans a.blen, fun q hq => (b.files q hq).trans (a.files q hq),
   fun g => b.linesG (a.linesG g)⟩

theorem CFrame.setFile {h : Heap} {x : Int} {fo : FileSyntax} (hf : heapGet h.files x = .ok fo) (v : FileSyntax) :
    CFrame x h { h with files := h.files.set (x.toNat - 1) v } :=
  ⟨⟨rfl, rfl, rfl, rfl, rfl, rfl, rfl, rfl, rfl, rfl, rfl, rfl, rfl⟩, rfl, rfl,
   fun _ hq => heapGet_listSet_other v hf hq, fun g => g.congr rfl⟩

theorem CFrame.ofB {x p : Int} {h h' : Heap} (b : BFrame p h h') : CFrame x h h' :=
  ⟨b.frame, by rw [b.lines], b.blen, fun q _ => by rw [b.files], fun g => g.congr b.lines⟩

theorem BFrame.blocksBut {p : Int} {h h' : Heap} (b : BFrame p h h') : BlocksBut p h h' :=
  ⟨b.frame.cbs, fun q v hq => by rw [b.lines]; exact hq, fun q v hne hq => by rw [b.other q hne]; exact hq⟩

theorem livePtrs_length (ls : List Modfile.Line) : (livePtrs ls).length = (ls.filter isLive).length := by
  simp [livePtrs]

theorem sublist_nodup_append {α : Type} {a a' b b' : List α} (ha : a'.Sublist a) (hb : b'.Sublist b)
    (h : (a ++ b).Nodup) : (a' ++ b').Nodup := (ha.append hb).nodup h

theorem blockPtrs_sublist_snoc_line (out : List Expr) (q : Int) : blockPtrs (out ++ [Expr.Line q]) = blockPtrs out := by
  rw [blockPtrs_append]; simp [blockPtrs]

theorem filter_ids_sublist (ls : List Modfile.Line) : (lineIds (ls.filter isLive)).Sublist (lineIds ls) := by
  unfold lineIds
  exact List.Sublist.map _ List.filter_sublist


/-! ### loop 1 of `Cleanup` against `cleanupStmts` -/

/-- the result of loop 1 started at the statement index `k` with the write index `out.length` -/
def CleanRes (x : Int) (nm : Bytes) (cm : Comments) (es0 : List Expr) (k : Int) (out : List Expr) (sres : List Modfile.Expr)
    (fuel : Nat) (h : Heap) : Prop :=
  ∃ h' out2 junk', FileSyntax_Cleanup_loop1 es0 x fuel k h (out.length : Int) =
      .ok (len es0, h', ((out ++ out2).length : Int)) ∧
    heapGet h'.files x = .ok { Name := nm, Comments := cm, Stmt := (out ++ out2) ++ junk' } ∧
    RStmts h' (out ++ out2) sres ∧ (blockPtrs (out ++ out2)).Nodup ∧ CFrame x h h'

theorem cl1_continue {x : Int} {nm : Bytes} {cm : Comments} {es0 pre : List Expr} {e : Expr} {out oe : List Expr}
    {sout se : List Modfile.Expr} {s : Modfile.Expr} {sxs : List Modfile.Expr} {h h1 : Heap} {f : Nat}
    (hstep : FileSyntax_Cleanup_loop1 es0 x (f + 1) (pre.length : Int) h (out.length : Int) =
      FileSyntax_Cleanup_loop1 es0 x f ((pre.length : Int) + 1) h1 (((out ++ oe).length : Nat) : Int))
    (hclean : cleanupStmts (s :: sxs) = se ++ cleanupStmts sxs) (hfr : CFrame x h h1)
    (ih : CleanRes x nm cm es0 (((pre ++ [e]).length : Nat) : Int) (out ++ oe) ((sout ++ se) ++ cleanupStmts sxs) f h1) :
    CleanRes x nm cm es0 (pre.length : Int) out (sout ++ cleanupStmts (s :: sxs)) (f + 1) h := by
  obtain ⟨h', out2, junk', i1, i2, i3, i4, i5⟩ := ih
  have e1 : (((pre ++ [e]).length : Nat) : Int) = (pre.length : Int) + 1 := by simp
  rw [e1] at i1
  refine ⟨h', oe ++ out2, junk', ?_, ?_, ?_, ?_, hfr.trans i5⟩
  · rw [hstep, i1]; simp [List.append_assoc]
  · rw [i2]; simp [List.append_assoc]
  · rw [hclean]; simpa [List.append_assoc] using i3
  · simpa [List.append_assoc] using i4


theorem blockPtrs_cons' (e : Expr) (xs : List Expr) : blockPtrs (e :: xs) = blockPtrs [e] ++ blockPtrs xs :=
  blockPtrs_append [e] xs

theorem nodup_step_ids {sout se : List Modfile.Expr} {s : Modfile.Expr} {sxs : List Modfile.Expr}
    (hsub : (stmtIds se).Sublist (stmtIds [s])) (nl : (stmtIds sout ++ stmtIds (s :: sxs)).Nodup) :
    (stmtIds (sout ++ se) ++ stmtIds sxs).Nodup := by
  rw [stmtIds_cons s sxs, ← List.append_assoc] at nl
  rw [stmtIds_append]
  exact ((List.Sublist.refl _).append hsub |>.append (List.Sublist.refl _)).nodup nl

theorem nodup_step_blk {out oe : List Expr} {e : Expr} {xs : List Expr}
    (hsub : (blockPtrs oe).Sublist (blockPtrs [e])) (nb : (blockPtrs out ++ blockPtrs (e :: xs)).Nodup) :
    (blockPtrs (out ++ oe) ++ blockPtrs xs).Nodup := by
  rw [blockPtrs_cons' e xs, ← List.append_assoc] at nb
  rw [blockPtrs_append]
  exact ((List.Sublist.refl _).append hsub |>.append (List.Sublist.refl _)).nodup nb

theorem lineG_collapsed (b : Modfile.LineBlock) (ps : List Int) (l : Modfile.Line) :
    ({ (default : Line) with
       Comments := ({ (default : Comments) with
         Before := (blockG b ps).Comments.Before ++ (lineG l).Comments.Before,
         Suffix := (lineG l).Comments.Suffix ++ (blockG b ps).Comments.Suffix,
         After := (lineG l).Comments.After ++ (blockG b ps).Comments.After } : Comments),
       Token := (blockG b ps).Token ++ (lineG l).Token } : Line) = lineG (collapsed b l) := by
  simp only [lineG, blockG, collapsed, Drv.GenEdit.comsG, List.map_append]
  rfl


theorem CFrame.setBlockFile {h : Heap} {x p : Int} {fo : FileSyntax} (hf : heapGet h.files x = .ok fo) (v : FileSyntax)
    (w : LineBlock) :
    CFrame x h { h with blocks := h.blocks.set (p.toNat - 1) w, files := h.files.set (x.toNat - 1) v } :=
  ⟨⟨rfl, rfl, rfl, rfl, rfl, rfl, rfl, rfl, rfl, rfl, rfl, rfl, rfl⟩, rfl, by simp,
   fun q hq => heapGet_listSet_other v hf hq, fun g => g.congr rfl⟩

theorem CFrame.setLineFile {h : Heap} {x : Int} {fo : FileSyntax} (hf : heapGet h.files x = .ok fo) (v : FileSyntax)
    (k : Nat) (l : Modfile.Line) :
    CFrame x h { h with lines := h.lines.set k (lineG l), files := h.files.set (x.toNat - 1) v } :=
  ⟨⟨rfl, rfl, rfl, rfl, rfl, rfl, rfl, rfl, rfl, rfl, rfl, rfl, rfl⟩, by simp, rfl,
   fun q hq => heapGet_listSet_other v hf hq, fun g => (g.setLine k l).congr rfl⟩

/-- **loop 1 of `Cleanup`** (read.go:210: `w := 0; for _, stmt := range x.Stmt`) from the statement index `pre.length`, with
    the statements kept so far (`out`, representing `sout`) in the first `w = out.length` slots of `x.Stmt` and anything
    (`junk`) behind them: the loop ends with `out` extended by what represents `cleanupStmts ssuf` (`CleanRes`). -/
theorem cl1_sim (x : Int) (nm : Bytes) (cm : Comments) (es0 : List Expr) :
    ∀ (suf : List Expr) (ssuf : List Modfile.Expr) (pre out junk : List Expr) (sout : List Modfile.Expr) (h : Heap)
      (fuel : Nat), es0 = pre ++ suf →
      heapGet h.files x = .ok { Name := nm, Comments := cm, Stmt := out ++ junk } →
      out.length + junk.length = es0.length → out.length ≤ pre.length →
      RStmts h out sout → RStmts h suf ssuf →
      (blockPtrs out ++ blockPtrs suf).Nodup → (stmtIds sout ++ stmtIds ssuf).Nodup →
      nodeCount ssuf + 1 ≤ fuel →
      CleanRes x nm cm es0 (pre.length : Int) out (sout ++ cleanupStmts ssuf) fuel h
  | [], [], pre, out, junk, sout, h, fuel, hes, hf, hlen, hle, rout, _, nb, _, hfu => by
    obtain ⟨f, rfl⟩ : ∃ f, fuel = f + 1 := ⟨fuel - 1, by omega⟩
    have hes' : es0 = pre := by simpa using hes
    refine ⟨h, [], junk, ?_, by simpa using hf, by simpa [cleanupStmts] using rout, by simpa [blockPtrs] using nb,
      CFrame.refl x h⟩
    rw [hes']
    simpa using cl1_end pre x f h (out.length : Int)
  | [], _ :: _, _, _, _, _, _, _, _, _, _, _, _, r, _, _, _ => r.elim
  | _ :: _, [], _, _, _, _, _, _, _, _, _, _, _, r, _, _, _ => r.elim
  | e :: xs, s :: sxs, pre, out, junk, sout, h, fuel, hes, hf, hlen, hle, rout, rsuf, nb, nl, hfu => by
    obtain ⟨f, rfl⟩ : ∃ f, fuel = f + 1 := ⟨fuel - 1, by omega⟩
    have re := rsuf.1
    have rxs := rsuf.2
    have hes' : es0 = (pre ++ [e]) ++ xs := by simp [hes]
    have hel : es0.length = pre.length + 1 + xs.length := by rw [hes]; simp; omega
    have hj : junk ≠ [] := by
      intro e; subst e; simp at hlen; omega
    have hjl : (junk.drop 1).length = junk.length - 1 := by simp
    have hjp : 0 < junk.length := List.length_pos_iff.2 hj
    have hpl : (pre ++ [e]).length = pre.length + 1 := by simp
    -- the continuation with one kept statement `e'` representing `s'`, in a heap `h1` that only differs in `files`
    have keep1 : ∀ (h1 : Heap) (e' : Expr) (s' : Modfile.Expr) (fo1 : FileSyntax),
        heapGet h1.files x = .ok fo1 → fo1 = { Name := nm, Comments := cm, Stmt := out ++ junk } →
        RStmts h1 out sout → RExpr h1 e' s' → RStmts h1 xs sxs →
        (blockPtrs [e']).Sublist (blockPtrs [e]) → (stmtIds [s']).Sublist (stmtIds [s]) → nodeCount sxs + 1 ≤ f →
        CleanRes x nm cm es0 (((pre ++ [e]).length : Nat) : Int) (out ++ [e']) ((sout ++ [s']) ++ cleanupStmts sxs) f
          { h1 with files := h1.files.set (x.toNat - 1) { fo1 with Stmt := (out ++ [e']) ++ junk.drop 1 } } := by
      intro h1 e' s' fo1 hf1 hfo r1 r2 r3 sb si hfu'
      subst hfo
      let fo2 : FileSyntax := { Name := nm, Comments := cm, Stmt := (out ++ [e']) ++ junk.drop 1 }
      let h2 : Heap := { h1 with files := h1.files.set (x.toNat - 1) fo2 }
      have c : ∀ {es : List Expr} {ss : List Modfile.Expr}, RStmts h1 es ss → RStmts h2 es ss :=
        fun r => RStmts.congr (h := h1) (h' := h2) rfl rfl rfl r
      exact cl1_sim x nm cm es0 xs sxs (pre ++ [e]) (out ++ [e']) (junk.drop 1) (sout ++ [s']) h2 f hes'
        (heapGet_listSet_same _ hf1) (by simp; omega) (by simp; omega)
        (RStmts.append (c r1) (show RStmts h2 [e'] [s'] from ⟨(c (show RStmts h1 [e'] [s'] from ⟨r2, trivial⟩)).1, trivial⟩))
        (c r3) (nodup_step_blk sb nb) (nodup_step_ids si nl) hfu'
    cases s with
    | lparen c => cases e <;> exact re.elim
    | rparen c => cases e <;> exact re.elim
    | commentBlock c =>
      cases e <;> simp only [RExpr] at re <;> try exact re.elim
      rename_i p
      have hstep := cl1_keep_other pre (Expr.CommentBlock p) xs x f h _ hf out junk rfl hj (by intro q; simp) (by intro q; simp)
      rw [← hes] at hstep
      refine cl1_continue (e := Expr.CommentBlock p) (oe := [Expr.CommentBlock p]) (se := [.commentBlock c]) hstep
        (by rw [cleanup_cb]; rfl) (CFrame.setFile hf _) ?_
      exact keep1 h _ _ _ hf rfl rout (show RExpr h (Expr.CommentBlock p) (.commentBlock c) from re) rxs
        (List.Sublist.refl _) (List.Sublist.refl _) (by simp only [nodeCount] at hfu; omega)
    | line l =>
      cases e <;> simp only [RExpr] at re <;> try exact re.elim
      rename_i p
      cases hc : l.token with
      | nil =>
        have hstep := cl1_drop_line pre p xs x f h (out.length : Int) _ re.1 (by simp [hc])
        rw [← hes] at hstep
        have e0 : out ++ [] = out := List.append_nil _
        refine cl1_continue (e := Expr.Line p) (oe := []) (se := []) (by rw [e0]; exact hstep)
          (by rw [cleanup_line]; simp [hc]) (CFrame.refl x h) ?_
        rw [e0, List.append_nil]
        exact cl1_sim x nm cm es0 xs sxs (pre ++ [Expr.Line p]) out junk sout h f hes' hf hlen (by simp; omega) rout rxs
          (by have := nodup_step_blk (oe := []) (List.nil_sublist _) nb; simpa using this)
          (by have := nodup_step_ids (se := []) (List.nil_sublist _) nl; simpa using this)
          (by simp only [nodeCount] at hfu; omega)
      | cons u us =>
        have hstep := cl1_keep_line pre p xs x f h _ hf out junk rfl hj _ re.1 (by simp [hc])
        rw [← hes] at hstep
        refine cl1_continue (e := Expr.Line p) (oe := [Expr.Line p]) (se := [.line l]) hstep
          (by rw [cleanup_line]; simp [hc]) (CFrame.setFile hf _) ?_
        exact keep1 h _ _ _ hf rfl rout (show RExpr h (Expr.Line p) (.line l) from re) rxs
          (List.Sublist.refl _) (List.Sublist.refl _) (by simp only [nodeCount] at hfu; omega)
    | lineBlock b =>
      cases e <;> simp only [RExpr] at re <;> try exact re.elim
      rename_i p
      obtain ⟨ps, hb, rps⟩ := re
      have hnc : b.lines.length + nodeCount sxs + 1 ≤ f := by simp only [nodeCount] at hfu; omega
      have nb' : (blockPtrs out ++ p :: blockPtrs xs).Nodup := nb
      have nb'' := List.nodup_append.1 nb'
      have hp_out : p ∉ blockPtrs out := fun hm => nb''.2.2 _ hm _ (List.mem_cons_self) rfl
      have hp_xs : p ∉ blockPtrs xs := (List.nodup_cons.1 nb''.2.1).1
      have nl' : (stmtIds sout ++ (lineIds b.lines ++ stmtIds sxs)).Nodup := nl
      have nl'' := List.nodup_append.1 nl'
      have nl3 := List.nodup_append.1 nl''.2.1
      obtain ⟨h1, junk1, c1, c2, c3, c4⟩ := cl2_sim p (blockG b ps) ps b.lines [] [] ps h f rps hb (by simp) (by simp)
        (by rw [rps.length]; omega)
      have c1' : FileSyntax_Cleanup_loop2 (blockG b ps).Line p f 0 h 0 =
          .ok (len ps, h1, (((livePtrs b.lines).length : Nat) : Int)) := by simpa using c1
      have c2' : heapGet h1.blocks p = .ok { blockG b ps with Line := livePtrs b.lines ++ junk1 } := by simpa using c2
      have hf1 : heapGet h1.files x = .ok { Name := nm, Comments := cm, Stmt := out ++ junk } := by rw [c4.files]; exact hf
      have bb := c4.blocksBut
      have rlive : RLines h1 (livePtrs b.lines) (b.lines.filter isLive) := (RLines_congr c4.lines).2 (RLines_filter rps isLive)
      -- the block is kept with its live lines
      have keepB : (2 ≤ (livePtrs b.lines).length ∨
            ((livePtrs b.lines).length = 1 ∧ (blockG b ps).RParen.Comments.Before ≠ [])) →
          cleanupStmts (.lineBlock b :: sxs) =
            [.lineBlock { b with lines := b.lines.filter isLive }] ++ cleanupStmts sxs →
          CleanRes x nm cm es0 (pre.length : Int) out (sout ++ cleanupStmts (.lineBlock b :: sxs)) (f + 1) h := by
        intro hc hclean
        have hstep := cl1_block_keep pre p xs x f h _ out junk rfl hj (blockG b ps) hb (len ps) h1 (livePtrs b.lines).length
          c1' hf1 _ c2' (livePtrs b.lines) junk1 rfl rfl hc
        rw [← hes] at hstep
        refine cl1_continue (e := Expr.LineBlock p) (oe := [Expr.LineBlock p]) (se := [_]) hstep hclean
          ((CFrame.ofB c4).trans (CFrame.setBlockFile hf1 _ _)) ?_
        let h1' : Heap := { h1 with blocks := h1.blocks.set (p.toNat - 1)
                                      (blockG { b with lines := b.lines.filter isLive } (livePtrs b.lines)) }
        have bb' : BlocksBut p h h1' :=
          ⟨c4.frame.cbs, fun q v hq => by show heapGet h1.lines q = _; rw [c4.lines]; exact hq,
           fun q v hne hq => by
            show heapGet (h1.blocks.set _ _) q = _
            rw [heapGet_listSet_other _ c2' hne, c4.other q hne]; exact hq⟩
        exact keep1 h1' (Expr.LineBlock p) (.lineBlock { b with lines := b.lines.filter isLive }) _ hf1 rfl
          (RStmts_blocksBut bb' rout hp_out)
          ⟨livePtrs b.lines, heapGet_listSet_same _ c2', (RLines_congr (h := h1) (h' := h1') rfl).2 rlive⟩
          (RStmts_blocksBut bb' rxs hp_xs) (List.Sublist.refl _)
          (by simp only [stmtIds, List.append_nil]; exact filter_ids_sublist b.lines) (by omega)
      cases hfl : b.lines.filter isLive with
      | nil =>
        have hlp : livePtrs b.lines = [] := by simp [livePtrs, hfl]
        rw [hlp] at c1'
        have hstep := cl1_block_drop pre p xs x f h (out.length : Int) (blockG b ps) hb (len ps) h1 (by simpa using c1')
        rw [← hes] at hstep
        have e0 : out ++ [] = out := List.append_nil _
        refine cl1_continue (e := Expr.LineBlock p) (oe := []) (se := []) (by rw [e0]; exact hstep)
          (by rw [cleanup_block, hfl]; rfl) (CFrame.ofB c4) ?_
        rw [e0, List.append_nil]
        exact cl1_sim x nm cm es0 xs sxs (pre ++ [Expr.LineBlock p]) out junk sout h1 f hes' hf1 hlen (by simp; omega)
          (RStmts_blocksBut bb rout hp_out) (RStmts_blocksBut bb rxs hp_xs)
          (by have := nodup_step_blk (oe := []) (List.nil_sublist _) nb; simpa using this)
          (by have := nodup_step_ids (se := []) (List.nil_sublist _) nl; simpa using this) (by omega)
      | cons l rest =>
        cases rest with
        | nil =>
          have hlp : livePtrs b.lines = [(l.id : Int)] := by simp [livePtrs, hfl]
          by_cases hr : b.rparen.comments.before = []
          · -- collapse
            rw [hlp, hfl] at rlive
            have hq : heapGet h1.lines (l.id : Int) = .ok (lineG l) := rlive.1.1
            have hlmem : l ∈ b.lines := by
              have : l ∈ b.lines.filter isLive := by rw [hfl]; exact List.mem_cons_self
              exact (List.mem_filter.1 this).1
            have hidm : l.id ∈ lineIds b.lines := List.mem_map.2 ⟨l, hlmem, rfl⟩
            have hid_out : l.id ∉ stmtIds sout := fun hm => nl''.2.2 _ hm _ (List.mem_append_left _ hidm) rfl
            have hid_xs : l.id ∉ stmtIds sxs := fun hm => nl3.2.2 _ hidm _ hm rfl
            rw [hlp] at c1' c2'
            have c2'' : heapGet h1.blocks p = .ok (blockG b (([(l.id : Int)] : List Int) ++ junk1)) := c2'
            have hstep := cl1_block_collapse pre p xs x f h _ out junk rfl hj (blockG b ps) hb (len ps) h1
              (by simpa using c1') hf1 _ c2'' (l.id : Int) junk1 rfl (by simp [hr]) (lineG l) hq
            rw [← hes] at hstep
            rw [lineG_collapsed b (([(l.id : Int)] : List Int) ++ junk1) l] at hstep
            refine cl1_continue (e := Expr.LineBlock p) (oe := [Expr.Line (l.id : Int)]) (se := [.line (collapsed b l)]) hstep
              (by rw [cleanup_block, hfl]; simp [hr]) ((CFrame.ofB c4).trans (CFrame.setLineFile hf1 _ _ _)) ?_
            let h1' : Heap := { h1 with lines := h1.lines.set ((l.id : Int).toNat - 1) (lineG (collapsed b l)) }
            have lb : LinesBut l.id h1 h1' :=
              ⟨rfl, fun q v hq' => hq', fun q v hne hq' => by
                show heapGet (h1.lines.set _ _) q = _
                rw [heapGet_listSet_other _ hq hne]; exact hq'⟩
            exact keep1 h1' (Expr.Line (l.id : Int)) (.line (collapsed b l)) _ hf1 rfl
              (RStmts_linesBut lb (RStmts_blocksBut bb rout hp_out) hid_out)
              ⟨heapGet_listSet_same _ hq, rfl⟩
              (RStmts_linesBut lb (RStmts_blocksBut bb rxs hp_xs) hid_xs) (by simp [blockPtrs])
              (by simp only [stmtIds, collapsed, List.append_nil]
                  exact List.singleton_sublist.2 hidm) (by omega)
          · refine keepB (Or.inr ⟨by simp [hlp], ?_⟩) (by rw [cleanup_block, hfl]; simp [hr])
            simp only [blockG_RParen_Before]
            intro e
            exact hr (List.map_eq_nil_iff.1 e)
        | cons l' rest' =>
          refine keepB (Or.inl ?_) (by rw [cleanup_block, hfl]; rfl)
          rw [livePtrs_length, hfl]; simp

/-! ### the model's `cleanupStmts`: ids and block verbs -/

theorem cleaned_ids {x : Modfile.Expr} {g : List Modfile.Expr} (hg : Modfile.Edit.Cleaned x g) :
    (stmtIds g).Sublist (stmtIds [x]) := by
  cases hg with
  | dead l h => exact List.nil_sublist _
  | live l h => exact List.Sublist.refl _
  | empty b h => exact List.nil_sublist _
  | collapse b l h hr =>
    have : l ∈ b.lines := (List.mem_filter.1 (by rw [h]; exact List.mem_cons_self)).1
    simp only [stmtIds, List.append_nil]
    exact List.singleton_sublist.2 (List.mem_map.2 ⟨l, this, rfl⟩)
  | block b h => simp only [stmtIds, List.append_nil]; exact filter_ids_sublist b.lines
  | other x h1 h2 => exact List.Sublist.refl _

theorem cleanup_spec (ss : List Modfile.Expr) (hb : BlockTokOK ss) :
    (stmtIds (cleanupStmts ss)).Sublist (stmtIds ss) ∧ BlockTokOK (cleanupStmts ss) := by
  refine ⟨?_, fun b' hm => ?_⟩
  · induction ss with
    | nil => exact List.Sublist.refl _
    | cons s xs ih =>
      rw [Modfile.Edit.cleanupStmts_cons, stmtIds_append, stmtIds_cons s xs]
      exact (cleaned_ids (Modfile.Edit.cleanupStmts_one s)).append (ih (BlockTokOK_cons hb))
  · obtain ⟨b, hb', ht, _⟩ := Modfile.Edit.cleanupStmts_block ss b' hm
    rw [ht]; exact hb b hb'

theorem Cleanup_sim {h : Heap} {x : Int} {fs : Modfile.FileSyntax} {es : List Expr} (r : RepSynAt h x fs es)
    (htok : BlockTokOK fs.stmts) (fuel : Nat) (hfu : nodeCount fs.stmts + 1 ≤ fuel) :
    ∃ h', FileSyntax_Cleanup fuel x h = .ok ((), h') ∧ RepSyn h' x (cleanupSyntax fs) ∧
      BlockTokOK (cleanupSyntax fs).stmts ∧ CFrame x h h' := by
  have hf : heapGet h.files x = .ok { Name := fs.name, Comments := comsG fs.comments, Stmt := [] ++ es } := r.file
  obtain ⟨h1, out2, junk', c1, c2, c3, c4, c5⟩ :=
    cl1_sim x fs.name (comsG fs.comments) es es fs.stmts [] [] es [] h fuel rfl hf (by simp) (Nat.le_refl _) trivial
      r.stmts (show (([] : List Int) ++ blockPtrs es).Nodup from r.nodupB)
      (show (([] : List Nat) ++ stmtIds fs.stmts).Nodup by rw [List.nil_append, ← treeIds_eq_stmtIds]; exact r.nodupL) hfu
  simp only [List.nil_append, List.length_nil] at c1 c2 c3 c4
  obtain ⟨m1, m2⟩ := cleanup_spec fs.stmts htok
  have hst : sliceTo (out2 ++ junk') ((out2.length : Nat) : Int) = .ok out2 := by
    rw [sliceTo_natCast (by simp)]; simp
  let fo2 : FileSyntax := { Name := fs.name, Comments := comsG fs.comments, Stmt := out2 }
  refine ⟨{ h1 with files := h1.files.set (x.toNat - 1) fo2 }, ?_, ⟨out2, ?_, ?_, c4, ?_⟩, m2,
    c5.trans (CFrame.setFile c2 _)⟩
  · unfold FileSyntax_Cleanup
    have c1' : FileSyntax_Cleanup_loop1 es x fuel 0 h 0 = .ok (len es, h1, ((out2.length : Nat) : Int)) := c1
    simp only [r.file, bind_ok, fileG_Stmt, c1', c2, hst, heapSet_of_get _ c2, pure_eq_ok]
    rfl
  · show heapGet (h1.files.set (x.toNat - 1) _) x = _
    rw [heapGet_listSet_same _ c2]; rfl
  · exact RStmts.congr (h := h1) (h' := { h1 with files := h1.files.set (x.toNat - 1) fo2 }) rfl rfl rfl c3
  · show (treeIds (cleanupStmts fs.stmts)).Nodup
    rw [treeIds_eq_stmtIds]
    exact m1.nodup (by rw [← treeIds_eq_stmtIds]; exact r.nodupL)

theorem nodeCount_le : ∀ (ss : List Modfile.Expr), nodeCount ss ≤ ss.length + (treeIds ss).length
  | [] => by simp [nodeCount]
  | s :: ss => by
    have ih := nodeCount_le ss
    rw [treeIds_eq_stmtIds] at ih ⊢
    cases s <;> simp only [nodeCount, stmtIds, lineIds, List.length_cons, List.length_append, List.length_map] <;> omega

end ModVerif.TieFnEditAddLine
