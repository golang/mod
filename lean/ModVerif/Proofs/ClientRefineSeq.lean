/-
  Interleaved runs of the latest-head machine against SEQUENTIAL runs of the same lookups
  (`SeqExec`: the goroutines run one after the other, each alone from `entry` until it has returned), and the COMPOSED
  system: the `parCache.Do` machine whose `runF` step is refined by the head machine's run of the same goroutine
  (`Composed`).  Helper for Props/C14.lean.
-/
import ModVerif.Proofs.ClientMoreSeq
namespace ModVerif.ClientLatest
variable {M T : Type} [DecidableEq M] [DecidableEq T]

/-- the schedule of a list of blocks `(goroutine, number of steps)` -/
def blockSched (bs : List (Nat × Nat)) : List (Nat × Res) := bs.flatMap fun b => List.replicate b.2 (b.1, Res.ok)

/-- **Sequential execution** of the lookups of the goroutines `bs.map (·.1)`, in that order: each goroutine starts (from
`entry`) when its predecessor has returned, runs alone until it has returned, and touches no other goroutine's
variables. -/
inductive SeqExec (P : Params M T) (cl : Nat → Nat) (presented : Nat → Option M) (priv : Nat → Bool) :
    St M T → List (Nat × Nat) → St M T → Prop
  | nil (s : St M T) : SeqExec P cl presented priv s [] s
  | cons {s s1 s2 : St M T} (t k : Nat) (bs : List (Nat × Nat)) :
      (s.th t).pc = .entry → run P cl presented priv s (List.replicate k (t, Res.ok)) = some s1 →
      (∃ x, (s1.th t).pc = .done x) → (∀ t', t' ≠ t → s1.th t' = s.th t') →
      SeqExec P cl presented priv s1 bs s2 → SeqExec P cl presented priv s ((t, k) :: bs) s2

theorem SeqExec.run_eq {P : Params M T} {cl : Nat → Nat} {presented : Nat → Option M} {priv : Nat → Bool}
    {s s' : St M T} {bs : List (Nat × Nat)} (h : SeqExec P cl presented priv s bs s') :
    run P cl presented priv s (blockSched bs) = some s' := by
  induction h with
  | nil s => rfl
  | cons t k bs _ hrun _ _ _ ih =>
    simp only [blockSched, List.flatMap_cons]
    exact run_append P cl presented priv _ _ _ _ _ hrun ih

theorem seqExec_exists (P : Params M T) (le : T → T → Prop) (Ch : T → Prop) (cl : Nat → Nat)
    (presented : Nat → Option M) (priv : Nat → Bool) (c0 : Option M) (hH : Honest P le Ch presented c0) :
    ∀ (l : List Nat) (s : St M T), l.Nodup → (∀ t ∈ l, (s.th t).pc = .entry) → HReachable P cl presented priv c0 s →
      ∃ bs s', bs.map (·.1) = l ∧ (∀ b ∈ bs, b.2 ≤ 10) ∧ SeqExec P cl presented priv s bs s' ∧
        HReachable P cl presented priv c0 s' ∧ (∀ t ∈ l, ∃ x, (s'.th t).pc = .done x) ∧
        ∀ t, t ∉ l → s'.th t = s.th t := by
  intro l
  induction l with
  | nil => intro s _ _ hr; exact ⟨[], s, rfl, by simp, SeqExec.nil s, hr, by simp, fun _ _ => rfl⟩
  | cons a l ih =>
    intro s hnd hent hr
    obtain ⟨k, s1, hk, hrun1, hr1, hd1, hf1⟩ :=
      solo_finish P le Ch cl presented priv c0 hH a 10 s hr (rank_le cl s a)
    have hnd' := (List.nodup_cons.mp hnd)
    have hent1 : ∀ t ∈ l, (s1.th t).pc = .entry := by
      intro t ht
      have hne : t ≠ a := fun e => hnd'.1 (e ▸ ht)
      rw [hf1 t hne]; exact hent t (List.mem_cons_of_mem _ ht)
    obtain ⟨bs, s2, hmap, hle, hex, hr2, hd2, hf2⟩ := ih s1 hnd'.2 hent1 hr1
    refine ⟨(a, k) :: bs, s2, by simp [hmap], ?_, SeqExec.cons a k bs (hent a (List.mem_cons_self ..)) hrun1 hd1 hf1 hex,
      hr2, ?_, ?_⟩
    · intro b hb
      rcases List.mem_cons.mp hb with rfl | hb
      · exact hk
      · exact hle b hb
    · intro t ht
      rcases List.mem_cons.mp ht with rfl | ht
      · rw [hf2 t hnd'.1]; exact hd1
      · exact hd2 t ht
    · intro t ht
      simp only [List.mem_cons, not_or] at ht
      rw [hf2 t ht.2, hf1 t ht.1]

/-- C14 `interleaved_eq_sequential_order` -/
theorem interleaved_eq_sequential_order (P : Params M T) (le : T → T → Prop) (Ch : T → Prop) (cl : Nat → Nat)
    (presented : Nat → Option M) (priv : Nat → Bool) (c0 : Option M) (hH : Honest P le Ch presented c0)
    (s : St M T) (h : HReachable P cl presented priv c0 s) (hq : Quiescent s)
    (l : List Nat) (hnd : l.Nodup) (hl : ∀ t, t ∈ l ↔ (s.th t).pc ≠ .entry) :
    ∃ bs s2, bs.map (·.1) = l ∧ (∀ b ∈ bs, b.2 ≤ 10) ∧ SeqExec P cl presented priv (init P c0) bs s2 ∧
      run P cl presented priv (init P c0) (blockSched bs) = some s2 ∧
      HReachable P cl presented priv c0 s2 ∧ Quiescent s2 ∧
      (∀ t, (s2.th t).pc = (s.th t).pc) ∧
      le (cfgTree P s.config) (cfgTree P s2.config) ∧ le (cfgTree P s2.config) (cfgTree P s.config) ∧
      (∀ c, IsMax le (ClientSaw P cl presented priv s c) (s.latest c) ∧ le (s.latest c) (cfgTree P s.config)) ∧
      (∀ c, IsMax le (ClientSaw P cl presented priv s2 c) (s2.latest c) ∧ le (s2.latest c) (cfgTree P s2.config)) := by
  obtain ⟨bs, s2, hmap, hle, hex, hr2, hd2, hf2⟩ :=
    seqExec_exists P le Ch cl presented priv c0 hH l (init P c0) hnd (fun _ _ => rfl) HReachable.init
  have hq2 : Quiescent s2 := by
    intro t
    by_cases ht : t ∈ l
    · exact Or.inr (hd2 t ht)
    · left; rw [hf2 t ht]; rfl
  have hsame : ∀ t, (s.th t).pc = .entry ↔ (s2.th t).pc = .entry := by
    intro t
    by_cases ht : t ∈ l
    · obtain ⟨x, hx⟩ := hd2 t ht
      have := (hl t).mp ht
      constructor
      · intro e; exact absurd e this
      · intro e; rw [hx] at e; cases e
    · have h1 : (s.th t).pc = .entry := by
        by_cases e : (s.th t).pc = .entry
        · exact e
        · exact absurd ((hl t).mpr e) ht
      have h2 : (s2.th t).pc = .entry := by rw [hf2 t ht]; rfl
      exact ⟨fun _ => h2, fun _ => h1⟩
  obtain ⟨hpcs, hc1, hc2⟩ := terminal_states_agree hH h hr2 hq hq2 hsame
  obtain ⟨_, m1, _, f1, _⟩ := latest_ends_at_max_inv hH h hq
  obtain ⟨_, m2, _, f2, _⟩ := latest_ends_at_max_inv hH hr2 hq2
  exact ⟨bs, s2, hmap, hle, hex, hex.run_eq, hr2, hq2, fun t => (hpcs t).symm, hc1, hc2,
    fun c => ⟨m1 c, f1 c⟩, fun c => ⟨m2 c, f2 c⟩⟩

theorem ran_enumeration (P : Params M T) (cl : Nat → Nat) (presented : Nat → Option M) (priv : Nat → Bool) (c0 : Option M)
    (s : St M T) (h : Reachable P cl presented priv c0 s) :
    ∃ l : List Nat, l.Nodup ∧ ∀ t, t ∈ l ↔ (s.th t).pc ≠ .entry := by
  induction h with
  | init => exact ⟨[], List.nodup_nil, fun t => by simp [init]⟩
  | @step s s' t r _ hs ih =>
    obtain ⟨l, hnd, hl⟩ := ih
    have hne := step_pc_ne_entry hs
    have hfr := step_th_frame hs
    by_cases ht : t ∈ l
    · refine ⟨l, hnd, fun t' => ?_⟩
      by_cases e : t' = t
      · subst e; exact ⟨fun _ => hne, fun _ => ht⟩
      · rw [hfr t' e]; exact hl t'
    · refine ⟨t :: l, List.nodup_cons.mpr ⟨ht, hnd⟩, fun t' => ?_⟩
      by_cases e : t' = t
      · subst e; exact ⟨fun _ => hne, fun _ => List.mem_cons_self ..⟩
      · rw [hfr t' e, List.mem_cons]
        constructor
        · rintro (h1 | h1)
          · exact absurd h1 e
          · exact (hl t').mp h1
        · intro h1; exact Or.inr ((hl t').mpr h1)

end ModVerif.ClientLatest

/-! ## The composed system: `parCache.Do` whose work function contains the goroutine's `mergeLatest`

`Client.Lookup` calls `c.record.Do(file, f)` and `f` (`lookupWork`) calls `mergeLatest` with the tree note of the
response.  The composed machine runs the `parCache` machine and the latest-head machine side by side: caller `i` of the
cache machine takes its own steps, except that at `runF` goroutine `i` of the head machine runs (interleaved with
everything else) and `runF` completes only when that goroutine has returned `x`; the value stored in the entry is then
`work i x` — everything else `f` does (ReadCache / ReadRemote / ParseRecord / checkRecord / WriteCache) is collapsed
into this function of the `mergeLatest` outcome. -/

namespace ModVerif.Composed
open ModVerif
variable {M T V : Type} [DecidableEq M] [DecidableEq T]

structure CSt (M T V : Type) where
  c : ParCache.St V
  l : ClientLatest.St M T

/-- one step of the composed system -/
inductive CStep (P : ClientLatest.Params M T) (cl : Nat → Nat) (presented : Nat → Option M) (key : Nat → Nat)
    (work : Nat → ClientLatest.Result → V) : CSt M T V → CSt M T V → Prop
  /-- caller `i` takes a step of `Do` other than running `f` -/
  | cache (s : CSt M T V) (i : Nat) (c' : ParCache.St V) (fv : Nat → V) : s.c.pc i ≠ .runF →
      ParCache.step key fv s.c i = some c' → CStep P cl presented key work s { s with c := c' }
  /-- inside `f`: goroutine `i` takes a step of its `mergeLatest` (configuration operations do not fail) -/
  | head (s : CSt M T V) (i : Nat) (r : ClientLatest.Res) (l' : ClientLatest.St M T) : s.c.pc i = .runF →
      ClientLatest.CfgOk s.l i r → ClientLatest.step P cl presented (fun _ => false) s.l i r = some l' →
      CStep P cl presented key work s { s with l := l' }
  /-- `f` returns: `mergeLatest` has returned `x`, the entry receives `work i x` -/
  | ret (s : CSt M T V) (i : Nat) (x : ClientLatest.Result) (c' : ParCache.St V) : s.c.pc i = .runF →
      (s.l.th i).pc = .done x → ParCache.step key (fun _ => work i x) s.c i = some c' →
      CStep P cl presented key work s { s with c := c' }

inductive CReach (P : ClientLatest.Params M T) (cl : Nat → Nat) (presented : Nat → Option M) (key : Nat → Nat)
    (work : Nat → ClientLatest.Result → V) (c0 : Option M) : CSt M T V → Prop
  | init : CReach P cl presented key work c0 ⟨ParCache.init V, ClientLatest.init P c0⟩
  | step {s s' : CSt M T V} : CReach P cl presented key work c0 s → CStep P cl presented key work s s' →
      CReach P cl presented key work c0 s'

omit [DecidableEq M] [DecidableEq T] in
theorem step_congr_fval (key : Nat → Nat) (f g : Nat → V) (s : ParCache.St V) (i : Nat)
    (h : s.pc i = .runF → f i = g i) : ParCache.step key f s i = ParCache.step key g s i := by
  unfold ParCache.step
  cases hpc : s.pc i <;> simp only []
  rw [h hpc]

theorem creach_head (P : ClientLatest.Params M T) (cl : Nat → Nat) (presented : Nat → Option M) (key : Nat → Nat)
    (work : Nat → ClientLatest.Result → V) (c0 : Option M) (s : CSt M T V)
    (h : CReach P cl presented key work c0 s) :
    ClientLatest.HReachable P cl presented (fun _ => false) c0 s.l := by
  induction h with
  | init => exact ClientLatest.HReachable.init
  | step _ hs ih =>
    cases hs with
    | cache i c' fv _ _ => exact ih
    | head i r l' _ hok hst => exact ClientLatest.HReachable.step i r ih hok hst
    | ret i x c' _ _ _ => exact ih

theorem creach_cache (P : ClientLatest.Params M T) (le : T → T → Prop) (Ch : T → Prop) (cl : Nat → Nat)
    (presented : Nat → Option M) (key : Nat → Nat) (work : Nat → ClientLatest.Result → V) (c0 : Option M)
    (hH : ClientLatest.Honest P le Ch presented c0) (s : CSt M T V) (h : CReach P cl presented key work c0 s) :
    ParCache.Reachable key (fun i => work i .ok) s.c := by
  induction h with
  | init => exact ParCache.Reachable.init
  | @step s s' hr hs ih =>
    cases hs with
    | cache i c' fv hne hst =>
      refine ParCache.Reachable.step i ih ?_
      rw [step_congr_fval key _ fv s.c i (fun e => absurd e hne)]; exact hst
    | head i r l' _ _ _ => exact ih
    | ret i x c' hpc hx hst =>
      have hxok : x = .ok := by
        have := (ClientLatest.honest_all_succeed_inv hH (creach_head P cl presented key work c0 s hr)).2.2 i x hx
        exact this.1 rfl
      subst hxok
      refine ParCache.Reachable.step i ih ?_
      rw [step_congr_fval key _ (fun _ => work i .ok) s.c i (fun _ => rfl)]; exact hst

theorem composed_honest (P : ClientLatest.Params M T) (le : T → T → Prop) (Ch : T → Prop) (cl : Nat → Nat)
    (presented : Nat → Option M) (key : Nat → Nat) (work : Nat → ClientLatest.Result → V) (F : Nat → V)
    (hF : ∀ i, work i .ok = F (key i)) (c0 : Option M)
    (hH : ClientLatest.Honest P le Ch presented c0) (s : CSt M T V) (h : CReach P cl presented key work c0 s) :
    (∀ k, s.c.runs k ≤ 1) ∧
    (∀ i, s.c.pc i = .returned → s.c.got i = some (F (key i))) ∧
    (∀ t, (s.l.th t).pc ≠ .done .err ∧ (s.l.th t).pc ≠ .done .security) ∧ s.l.sec = [] ∧
    (∀ t x, (s.l.th t).pc = .done x → x = .ok) := by
  have hc := creach_cache P le Ch cl presented key work c0 hH s h
  have hl := creach_head P cl presented key work c0 s h
  obtain ⟨h1, h2, h3⟩ := ClientLatest.honest_all_succeed_inv hH hl
  exact ⟨(ParCache.inv_reachable key _ s.c hc).runs_le,
    fun i hi => ParCache.results_deterministic key F (fun i => work i .ok) hF s.c hc i hi,
    h1, h2, fun t x hx => (h3 t x hx).1 rfl⟩

end ModVerif.Composed
