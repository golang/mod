/-
  The two models of `base64.StdEncoding.DecodeString` in the framework agree on every input:
  `Base64.decodeStd` (Basic/Base64.lean, used by the tlog note model `TlogNote.parseTree`) and `B64.b64dec`
  (Basic/Base64Note.lean, used by the note model `Note.Open` / `Note.NewVerifier`).  The regenerated sumdb client has ONE
  `b64dec` parameter for both `note.Open` and `tlog.ParseTree`; this equality lets one instantiation serve both ties.
-/
import ModVerif.Basic.Base64
import ModVerif.Basic.Base64Note
namespace ModVerif.TieFnClientMerge
open ModVerif

def noNL (s : Bytes) : Bytes := s.filter fun c => !B64.isCRLF c

theorem isNL_eq (c : UInt8) : Base64.isNL c = B64.isCRLF c := rfl

theorem decChar_eq (c : UInt8) : Base64.decChar c = B64.decChar c := rfl

theorem decChar_lt {c : UInt8} {v : Nat} (h : B64.decChar c = some v) : v < 64 := by
  unfold B64.decChar at h
  simp only at h
  split at h
  · injection h with h; omega
  · split at h
    · injection h with h; omega
    · split at h
      · injection h with h; omega
      · split at h
        · injection h with h; omega
        · split at h
          · injection h with h; omega
          · cases h

theorem decChar_nl {c : UInt8} (h : B64.isCRLF c = true) : B64.decChar c = none := by
  have : c = 10 ∨ c = 13 := by simpa [B64.isCRLF] using h
  rcases this with h | h <;> subst h <;> decide

theorem decChar_pad : B64.decChar 61 = none := by decide

/-! ### skipNL against the filter -/

theorem skipNL_noNL (r : Bytes) : Base64.skipNL (noNL r) = noNL r := by
  induction r with
  | nil => rfl
  | cons c rest ih =>
    by_cases hc : B64.isCRLF c = true
    · simp [noNL, hc] at ih ⊢; exact ih
    · have hc' : B64.isCRLF c = false := by simpa using hc
      simp [noNL, hc', Base64.skipNL, isNL_eq]

theorem noNL_skipNL (r : Bytes) : noNL (Base64.skipNL r) = noNL r := by
  induction r with
  | nil => rfl
  | cons c rest ih =>
    by_cases hc : B64.isCRLF c = true
    · simp [noNL, Base64.skipNL, isNL_eq, hc] at ih ⊢; exact ih
    · have hc' : B64.isCRLF c = false := by simpa using hc
      simp [Base64.skipNL, isNL_eq, hc']

theorem skipNL_head {r : Bytes} {d : UInt8} {r' : Bytes} (h : Base64.skipNL r = d :: r') : B64.isCRLF d = false := by
  induction r with
  | nil => simp [Base64.skipNL] at h
  | cons c rest ih =>
    by_cases hc : B64.isCRLF c = true
    · simp [Base64.skipNL, isNL_eq, hc] at h; exact ih h
    · have hc' : B64.isCRLF c = false := by simpa using hc
      simp [Base64.skipNL, isNL_eq, hc'] at h
      rw [← h.1]; exact hc'

theorem skipNL_nil_iff (r : Bytes) : Base64.skipNL r = [] ↔ noNL r = [] := by
  constructor
  · intro h; rw [← noNL_skipNL, h]; rfl
  · intro h
    cases hs : Base64.skipNL r with
    | nil => rfl
    | cons d r' =>
      have hd := skipNL_head hs
      have := noNL_skipNL r
      rw [hs, h] at this
      simp [noNL, hd] at this

theorem skipNL_isEmpty (r : Bytes) : (Base64.skipNL r).isEmpty = (noNL r).isEmpty := by
  have := skipNL_nil_iff r
  cases h1 : Base64.skipNL r <;> cases h2 : noNL r <;> simp_all

/-! ### newlines may be dropped beforehand -/

theorem decodeAux_noNL (s : Bytes) : ∀ q, Base64.decodeAux true s q = Base64.decodeAux true (noNL s) q := by
  induction s with
  | nil => intro q; rfl
  | cons c rest ih =>
    intro q
    cases hd : B64.decChar c with
    | some v =>
      have hnl : B64.isCRLF c = false := by
        cases h : B64.isCRLF c with
        | false => rfl
        | true => rw [decChar_nl h] at hd; cases hd
      have hf : noNL (c :: rest) = c :: noNL rest := by simp [noNL, hnl]
      rw [hf]
      simp only [Base64.decodeAux, decChar_eq, hd]
      split
      · rw [ih]
      · rw [ih]
    | none =>
      by_cases hnl : B64.isCRLF c = true
      · have hf : noNL (c :: rest) = noNL rest := by simp [noNL, hnl]
        rw [hf]
        simp only [Base64.decodeAux, decChar_eq, hd, isNL_eq, hnl, if_true]
        exact ih q
      · have hnl' : B64.isCRLF c = false := by simpa using hnl
        have hf : noNL (c :: rest) = c :: noNL rest := by simp [noNL, hnl']
        rw [hf]
        simp only [Base64.decodeAux, decChar_eq, hd, isNL_eq, hnl', Bool.false_eq_true, if_false]
        split
        · rfl
        · split
          · rfl
          · split
            · -- two sextets: `==` must follow
              cases hs : Base64.skipNL rest with
              | nil =>
                have : noNL rest = [] := (skipNL_nil_iff rest).1 hs
                simp [this, Base64.skipNL]
              | cons d r' =>
                have hdn := skipNL_head hs
                have h1 : noNL rest = d :: noNL r' := by
                  rw [← noNL_skipNL rest, hs]; simp [noNL, hdn]
                have h2 : Base64.skipNL (noNL rest) = d :: noNL r' := by rw [skipNL_noNL, h1]
                rw [h2]
                simp only [skipNL_isEmpty, skipNL_noNL]
            · simp only [skipNL_isEmpty, skipNL_noNL]

/-! ### on newline-free input, quantum by quantum -/

def NLFree (t : Bytes) : Prop := ∀ c ∈ t, B64.isCRLF c = false

theorem skipNL_of_free {t : Bytes} (h : NLFree t) : Base64.skipNL t = t := by
  cases t with
  | nil => rfl
  | cons c rest => simp [Base64.skipNL, isNL_eq, h c (by simp)]

theorem nlfree_noNL (s : Bytes) : NLFree (noNL s) := by
  intro c hc
  simp [noNL] at hc
  simpa using hc.2

theorem emit4 {a b c d : Nat} (_ha : a < 64) (_hb : b < 64) (hc : c < 64) (hd : d < 64) :
    Base64.emit [a, b, c, d] =
      [UInt8.ofNat (a * 4 + b / 16), UInt8.ofNat (b % 16 * 16 + c / 4), UInt8.ofNat (c % 4 * 64 + d)] := by
  simp only [Base64.emit]
  have h1 : (a * 262144 + b * 4096 + c * 64 + d) / 65536 = a * 4 + b / 16 := by omega
  have h2 : (a * 262144 + b * 4096 + c * 64 + d) / 256 % 256 = b % 16 * 16 + c / 4 := by omega
  have h3 : (a * 262144 + b * 4096 + c * 64 + d) % 256 = c % 4 * 64 + d := by omega
  rw [h1, h2, h3]

theorem emit3 {a b c : Nat} (_ha : a < 64) (_hb : b < 64) (hc : c < 64) :
    Base64.emit [a, b, c] = [UInt8.ofNat (a * 4 + b / 16), UInt8.ofNat (b % 16 * 16 + c / 4)] := by
  simp only [Base64.emit]
  have h1 : (a * 262144 + b * 4096 + c * 64) / 65536 = a * 4 + b / 16 := by omega
  have h2 : (a * 262144 + b * 4096 + c * 64) / 256 % 256 = b % 16 * 16 + c / 4 := by omega
  rw [h1, h2]

theorem emit2 {a b : Nat} (_ha : a < 64) (_hb : b < 64) :
    Base64.emit [a, b] = [UInt8.ofNat (a * 4 + b / 16)] := by
  simp only [Base64.emit]
  have h1 : (a * 262144 + b * 4096) / 65536 = a * 4 + b / 16 := by omega
  rw [h1]

theorem decodeAux_bad_lt2 (c : UInt8) (rest : Bytes) (q : List Nat) (hd : B64.decChar c = none)
    (hn : B64.isCRLF c = false) (hq : q.length < 2) : Base64.decodeAux true (c :: rest) q = none := by
  simp only [Base64.decodeAux, decChar_eq, hd, isNL_eq, hn, Bool.false_eq_true, if_false]
  split
  · rfl
  · simp

/-- `Base64.decodeAux` collects sextets byte by byte, `B64.decCore` takes the input four bytes at a time: on newline-free
    input one quantum of the second is four steps of the first (induction on the length, cases on the first four bytes) -/
theorem decodeAux_free : ∀ (n : Nat) (t : Bytes), t.length ≤ n → NLFree t → Base64.decodeAux true t [] = B64.decCore t := by
  intro n
  induction n with
  | zero =>
    intro t hl _
    have : t = [] := List.eq_nil_of_length_eq_zero (by omega)
    subst this; simp [Base64.decodeAux, B64.decCore]
  | succ n ih =>
    intro t hl hfree
    match t, hl, hfree with
    | [], _, _ => simp [Base64.decodeAux, B64.decCore]
    | [c0], _, hfree =>
      have hn0 := hfree c0 (by simp)
      cases h0 : B64.decChar c0 with
      | none => rw [decodeAux_bad_lt2 c0 [] [] h0 hn0 (by simp)]; simp [B64.decCore]
      | some v0 => simp [Base64.decodeAux, decChar_eq, h0, B64.decCore]
    | [c0, c1], _, hfree =>
      have hn0 := hfree c0 (by simp)
      have hn1 := hfree c1 (by simp)
      cases h0 : B64.decChar c0 with
      | none => rw [decodeAux_bad_lt2 c0 _ [] h0 hn0 (by simp)]; simp [B64.decCore]
      | some v0 =>
        cases h1 : B64.decChar c1 with
        | none =>
          have := decodeAux_bad_lt2 c1 [] [v0] h1 hn1 (by simp)
          simp [Base64.decodeAux, decChar_eq, h0, B64.decCore] at this ⊢
          exact this
        | some v1 => simp [Base64.decodeAux, decChar_eq, h0, h1, B64.decCore]
    | [c0, c1, c2], _, hfree =>
      have hn0 := hfree c0 (by simp)
      have hn1 := hfree c1 (by simp)
      have hn2 := hfree c2 (by simp)
      cases h0 : B64.decChar c0 with
      | none => rw [decodeAux_bad_lt2 c0 _ [] h0 hn0 (by simp)]; simp [B64.decCore]
      | some v0 =>
        cases h1 : B64.decChar c1 with
        | none =>
          have := decodeAux_bad_lt2 c1 [c2] [v0] h1 hn1 (by simp)
          simp [Base64.decodeAux, decChar_eq, h0, B64.decCore] at this ⊢
          exact this
        | some v1 =>
          cases h2 : B64.decChar c2 with
          | some v2 => simp [Base64.decodeAux, decChar_eq, h0, h1, h2, B64.decCore]
          | none =>
            simp [Base64.decodeAux, decChar_eq, h0, h1, h2, B64.decCore, isNL_eq, hn2, Base64.skipNL]
    | c0 :: c1 :: c2 :: c3 :: rest, hl, hfree =>
      have hn0 := hfree c0 (by simp)
      have hn1 := hfree c1 (by simp)
      have hn2 := hfree c2 (by simp)
      have hn3 := hfree c3 (by simp)
      have hfr : NLFree rest := fun c hc => hfree c (by simp [hc])
      have hsk : Base64.skipNL rest = rest := skipNL_of_free hfr
      have hrec : Base64.decodeAux true rest [] = B64.decCore rest := ih rest (by simp at hl; omega) hfr
      cases h0 : B64.decChar c0 with
      | none => rw [decodeAux_bad_lt2 c0 _ [] h0 hn0 (by simp)]; simp [B64.decCore, h0]
      | some v0 =>
        have b0 := decChar_lt h0
        cases h1 : B64.decChar c1 with
        | none =>
          have := decodeAux_bad_lt2 c1 (c2 :: c3 :: rest) [v0] h1 hn1 (by simp)
          simp [Base64.decodeAux, decChar_eq, h0, B64.decCore, h1] at this ⊢
          exact this
        | some v1 =>
          have b1 := decChar_lt h1
          cases h2 : B64.decChar c2 with
          | some v2 =>
            have b2 := decChar_lt h2
            cases h3 : B64.decChar c3 with
            | some v3 =>
              have b3 := decChar_lt h3
              simp only [Base64.decodeAux, decChar_eq, h0, h1, h2, h3, B64.decCore, List.nil_append, List.length_nil,
                List.length_cons, List.cons_append]
              simp only [show ((0 : Nat) == 3) = false from rfl, show ((0 + 1 : Nat) == 3) = false from rfl,
                show ((0 + 1 + 1 : Nat) == 3) = false from rfl, show ((0 + 1 + 1 + 1 : Nat) == 3) = true from rfl,
                Bool.false_eq_true, if_false, if_true, hrec, emit4 b0 b1 b2 b3]
              cases B64.decCore rest <;> simp
            | none =>
              simp only [Base64.decodeAux, decChar_eq, h0, h1, h2, h3, B64.decCore, List.nil_append, List.length_nil,
                List.length_cons, List.cons_append, isNL_eq, hn3, hsk, emit3 b0 b1 b2]
              simp only [show ((0 : Nat) == 3) = false from rfl, show ((0 + 1 : Nat) == 3) = false from rfl,
                show ((0 + 1 + 1 : Nat) == 3) = false from rfl, Bool.false_eq_true, if_false]
              by_cases hp : c3 = 61
              · subst hp
                cases rest <;> simp [Base64.padChar, B64.pad]
              · simp [Base64.padChar, B64.pad, hp]
          | none =>
            simp only [Base64.decodeAux, decChar_eq, h0, h1, h2, B64.decCore, List.nil_append, List.length_nil,
              List.length_cons, List.cons_append, isNL_eq, hn2, emit2 b0 b1]
            simp only [show ((0 : Nat) == 3) = false from rfl, show ((0 + 1 : Nat) == 3) = false from rfl,
              Bool.false_eq_true, if_false]
            have hsk3 : Base64.skipNL (c3 :: rest) = c3 :: rest := by simp [Base64.skipNL, isNL_eq, hn3]
            rw [hsk3]
            simp only [hsk]
            by_cases hp : c2 = 61
            · subst hp
              by_cases hp3 : c3 = 61
              · subst hp3
                cases rest <;> simp [Base64.padChar, B64.pad]
              · simp [Base64.padChar, B64.pad, hp3]
            · simp [Base64.padChar, B64.pad, hp]

theorem decodeStd_eq_b64dec (s : Bytes) : Base64.decodeStd s = B64.b64dec s := by
  unfold Base64.decodeStd Base64.decode B64.b64dec
  rw [decodeAux_noNL]
  exact decodeAux_free _ (noNL s) (Nat.le_refl _) (nlfree_noNL s)

end ModVerif.TieFnClientMerge
