/-
  The operations that ADD a typed entry, for any typed list of either file kind (`FnEditTyped.Kind`, `TList`):
  `pushNew_sim` — "a new line (`FileSyntax.addLine`), a new object (`heapAlloc`), its pointer appended, the file object stored";
  `addOp_sim` — an `Add…` operation: the update loop (`updLoop_sim`), and `pushNew` when nothing matched.
-/
import ModVerif.Proofs.TieFnEditTyped
import ModVerif.Proofs.TieFnEditAddLineE
import ModVerif.Proofs.EditRefineInv
namespace ModVerif.Tie.FnEditTyped
open ModVerif ModVerif.GoRt ModVerif.Generated.Edit ModVerif.Tie.FnEditRep ModVerif.Tie.FnEditTreeA ModVerif.Tie.FnEditLoop
open ModVerif.Tie.FnEditWorkA (updFirst)
open ModVerif.TieFnEditAddLine (Frame nodeCount hintG addLine_rep)
open ModVerif.Modfile.Edit (firstRest markAll EditErr EFile EWork)

/-- what a file kind offers to an operation that adds a line -/
structure Kind.Add {Ω S : Type} (K : Kind Ω S) where
  synP : Ω → Int
  next : S → Nat
  withSyn : S → Modfile.FileSyntax → Nat → S
  setFiles : Heap → List Ω → Heap

structure Kind.Add.OK {Ω S : Type} {K : Kind Ω S} (A : K.Add) : Prop where
  syn : ∀ {h o e}, K.Rep h o e → RepSyn h (A.synP o) (K.syn e)
  tok : ∀ {h o e}, K.Rep h o e → BlockTokOK (K.syn e).stmts
  next : ∀ {h o e}, K.Rep h o e → A.next e = h.lines.length + 1
  ofSyn : ∀ {h h' o e}, K.Rep h o e → SameTyped h h' → h.lines.length ≤ h'.lines.length → ∀ {syn'}, RepSyn h' (A.synP o) syn' →
    BlockTokOK syn'.stmts → LinesG h' → K.Rep h' o (A.withSyn e syn' (h'.lines.length + 1))
  congrFiles : ∀ {h o e}, K.Rep h o e → ∀ l, K.Rep (A.setFiles h l) o e
  files_frame : ∀ {h h'}, Frame h h' → K.files h' = K.files h
  files_setFiles : ∀ h l, K.files (A.setFiles h l) = l := by intros; rfl
  setFiles_setFiles : ∀ h l l', A.setFiles (A.setFiles h l) l' = A.setFiles h l' := by intros; rfl
  setFiles_files : ∀ h, A.setFiles h (K.files h) = h := by intros; rfl
  withSyn_next : ∀ e s, A.withSyn e s (A.next e) = K.setSyn e s := by intros; rfl

def modA : modK.Add := ⟨(·.Syntax), (·.next), fun e s n => { f := { e.f with syn := s }, next := n }, fun h l => { h with mods := l }⟩
def workA : workK.Add := ⟨(·.Syntax), (·.next), fun e s n => { f := { e.f with syn := s }, next := n }, fun h l => { h with works := l }⟩

theorem modA_ok : modA.OK :=
  { syn := fun R => R.syn, tok := fun R => R.tok, next := fun R => R.next, ofSyn := fun R st hl _ hs ht hG => R.ofSyn st hl hs ht hG,
    congrFiles := fun R l => R.congrMods l, files_frame := fun F => F.mods }
theorem workA_ok : workA.OK :=
  { syn := fun R => R.syn, tok := fun R => R.tok, next := fun R => R.next, ofSyn := fun R st hl _ hs ht hG => R.ofSyn st hl hs ht hG,
    congrFiles := fun R l => R.congrWorks l, files_frame := fun F => F.works }

section
variable {Ω S α β : Type} {K : Kind Ω S} {A : K.Add} (hK : K.OK) (hA : A.OK)

include hA in
theorem Kind.Add.OK.store {h : Heap} {fp : Int} {o o' : Ω} {e : S} (ho : heapGet (K.files h) fp = .ok o) (R : K.Rep h o' e) :
    K.RepP (A.setFiles h ((K.files h).set (fp.toNat - 1) o')) fp e :=
  ⟨o', by rw [hA.files_setFiles]; exact heapGet_listSet_same _ ho, hA.congrFiles R _⟩

include hK hA in
/-- `line := f.Syntax.addLine(hint, tokens…); f.X = append(f.X, &X{…, Syntax: line})`.  `hmk`: the typed list does not see the
    tree or the counter (`rfl` for every list). -/
theorem pushNew_sim {T : TList K α β} (hT : T.OK) (hmk : ∀ e s n, T.ents (A.withSyn e s n) = T.ents e)
    {h : Heap} {fp : Int} {o : Ω} {e : S} (ho : heapGet (K.files h) fp = .ok o) (R : K.Rep h o e) (hint : Option Nat)
    (t0 : Bytes) (trest : List Bytes) (y : β) (hy : T.id y = A.next e) (fuel : Nat) (hf : nodeCount (K.syn e).stmts + 3 ≤ fuel) :
    ∃ h1, FileSyntax_addLine fuel (A.synP o) (hintG hint) (t0 :: trest) h = .ok (((A.next e : Nat) : Int), h1) ∧
      heapGet (K.files h1) fp = .ok o ∧
      K.RepP (A.setFiles (T.setObjs h1 (T.objs h1 ++ [T.g y]))
          ((K.files h1).set (fp.toNat - 1) (T.setPtrs o (T.ptrs o ++ [(((T.objs h1).length + 1 : Nat) : Int)])))) fp
        (T.setEnts (A.withSyn e (Modfile.Edit.addLine (K.syn e) hint (t0 :: trest) (A.next e)) (A.next e + 1)) (T.ents e ++ [y])) := by
  obtain ⟨h1, hrun, hsyn, htok, hG, hlen, _, F, _⟩ := addLine_rep (hA.syn R) (hA.tok R) hint t0 trest fuel hf
  have hn := hA.next R
  have ho1 : heapGet (K.files h1) fp = .ok o := by rw [hA.files_frame F]; exact ho
  have R1 := hA.ofSyn R F.sameTyped (by omega) hsyn htok (hG (hK.linesG R))
  have R2 := hT.put R1 ((hT.rel R1).push y (by rw [hy, hn]; omega))
  rw [hmk, hlen, ← hn] at R2
  have R3 := hA.store (by rw [hT.files_setObjs]; exact ho1) R2
  rw [hT.files_setObjs] at R3
  exact ⟨h1, by rw [hn]; exact hrun, ho1, R3⟩

include hK hA in
theorem pushOpt_sim {P : TOpt K α β} (hP : P.OK) (hfo : ∀ h l, K.files (P.setObjs h l) = K.files h)
    {h : Heap} {fp : Int} {o : Ω} {e : S} (ho : heapGet (K.files h) fp = .ok o) (R : K.Rep h o e) (hint : Option Nat)
    (t0 : Bytes) (trest : List Bytes) (y : β) (hy : P.id y = A.next e) (fuel : Nat) (hf : nodeCount (K.syn e).stmts + 3 ≤ fuel) :
    ∃ h1, FileSyntax_addLine fuel (A.synP o) (hintG hint) (t0 :: trest) h = .ok (((A.next e : Nat) : Int), h1) ∧
      heapGet (K.files h1) fp = .ok o ∧
      K.RepP (A.setFiles (P.setObjs h1 (P.objs h1 ++ [P.g y]))
          ((K.files h1).set (fp.toNat - 1) (P.setPtr o (((P.objs h1).length + 1 : Nat) : Int)))) fp
        (P.setEnt (A.withSyn e (Modfile.Edit.addLine (K.syn e) hint (t0 :: trest) (A.next e)) (A.next e + 1)) (some y)) := by
  obtain ⟨h1, hrun, hsyn, htok, hG, hlen, _, F, _⟩ := addLine_rep (hA.syn R) (hA.tok R) hint t0 trest fuel hf
  have hn := hA.next R
  have ho1 : heapGet (K.files h1) fp = .ok o := by rw [hA.files_frame F]; exact ho
  have R1 := hA.ofSyn R F.sameTyped (by omega) hsyn htok (hG (hK.linesG R))
  have R2 := hP.put R1 (l := P.objs h1 ++ [P.g y]) (p := (((P.objs h1).length + 1 : Nat) : Int)) (x := some y)
    ⟨heapGet_alloc_new _ _, by rw [hy, hn]; omega⟩
  rw [hlen, ← hn] at R2
  have R3 := hA.store (by rw [hfo]; exact ho1) R2
  rw [hfo] at R3
  exact ⟨h1, by rw [hn]; exact hrun, ho1, R3⟩

end

section
variable {Ω S α β : Type} [Inhabited α] {K : Kind Ω S} {T : TList K α β} (hK : K.OK) (hT : T.OK) {cleared : β}
  (hc : T.g cleared = default) (hc0 : T.id cleared = 0)

include hK hT hc hc0 in
/-- `addNew` runs if no entry matched; the caller ties it to the model's `eNew`, from the untouched state and entries -/
theorem addOp_sim (m : β → Bool) (test : Heap → Int → α → M Bool)
    (htest : ∀ h r x, heapGet (T.objs h) r = .ok (T.g x) → test h r (T.g x) = .ok (m x))
    (upd : β → β) (updG : α → α) (hupdG : ∀ x, updG (T.g x) = T.g (upd x)) (hupd : ∀ x, T.id (upd x) = T.id x)
    (tokens : List Bytes) (htok : tokens ≠ []) (tokM : Nat → M (List Bytes)) (k : Nat) (htokM : ∀ fuel, k < fuel → tokM fuel = .ok tokens)
    (synP : Ω → Int) (fp : Int) (o : Ω) (loop : Nat → Int → Heap → Bool → M (Int × Heap × Bool))
    (hloop : ∀ fuel ri h need, loop (fuel + 1) ri h need = updBody T test updG tokM synP fp (T.ptrs o) fuel (loop fuel) ri h need)
    {h : Heap} {e : S} {fuel : Nat} (R : K.Rep h o e) (ho : heapGet (K.files h) fp = .ok o) (hf : (T.ents e).length + k < fuel)
    {addNew : Heap → M (Unit × Heap)} {eNew : List β → S}
    (hnew : ∀ h1, K.RepP h1 fp e → ∃ h2, addNew h1 = .ok ((), h2) ∧ K.RepP h2 fp (eNew (T.ents e))) :
    Sim (fun e' b => b.1 = none ∧ K.RepP b.2 fp e')
      (do let r ← firstRest m T.id upd cleared (T.ents e) true
          match r.2.1 with
          | some i => pure (K.setSyn (T.setEnts e r.1) (markAll (Modfile.Edit.updateLine (K.syn e) i tokens) r.2.2))
          | none => pure (eNew r.1))
      (do let r ← loop fuel 0 h true
          if r.2.2 = true then (do let t ← addNew r.2.1; pure ((none : Option String), t.2)) else pure (none, r.2.1)) := by
  refine (updLoop_sim hK hT hc hc0 m test htest upd updG hupdG hupd tokens htok tokM k htokM synP fp o loop hloop R ho hf).bind ?_
  rintro ⟨rest, first, dead⟩ ⟨n, h1, nd⟩ hr ⟨_, hn, hm, R1⟩
  dsimp only at hn hm R1 ⊢
  subst hn
  have ho1 : heapGet (K.files h1) fp = .ok o := by rw [hm]; exact ho
  cases first with
  | some i => exact ⟨(none, h1), rfl, rfl, o, ho1, R1⟩
  | none =>
    obtain ⟨_, hr1, hd1⟩ := Modfile.Edit.firstRest_none _ _ _ _ _ _ _ hr
    subst hr1 hd1
    obtain ⟨h2, a1, a2⟩ := hnew h1 ⟨o, ho1, by simpa [updFirst, markAll, hT.setEnts_ents, hK.setSyn_syn] using R1⟩
    simp only [Option.isNone_none, if_true, a1, bind_ok]
    exact ⟨(none, h2), rfl, rfl, a2⟩

end

end ModVerif.Tie.FnEditTyped
