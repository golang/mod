/-
  SetRequire preserves the tree invariant `InvR V` when `setIndirect` re-establishes on every requirement line what the
  view asks (`V.Settable`); for `Inv` that is `MarkerSettable`, the hypothesis that excludes the recorded finding "the text
  after `indirect;` is again an indirect marker".
-/
import ModVerif.Proofs.EditRefineInvRun
import ModVerif.Proofs.EditRefineExact
namespace ModVerif.Modfile.Edit
open ModVerif ModVerif.Modfile

/-- `setIndirect` achieves what it is asked for on these end-of-line comments.  For `b = true` (adding the marker)
    this always holds in the Go code; for `b = false` it fails exactly when the text after `// indirect;` is itself an
    indirect marker (recorded finding `C16_violated_indirect_marker_survives`). -/
def MarkerSettable (s : List Comment) : Prop := ∀ b, isIndirectS (sfxAfter b s) = b

instance (s : List Comment) : Decidable (MarkerSettable s) :=
  decidable_of_iff (isIndirectS (sfxAfter true s) = true ∧ isIndirectS (sfxAfter false s) = false)
    ⟨fun h b => by cases b; exact h.2; exact h.1, fun h => ⟨h true, h false⟩⟩

/-- the blank-line placeholder removal of `setVersion` -/
def dropBlank (l : Line) : Line :=
  match l.comments.before with
  | [c] => if c.token.isEmpty then { l with comments := { l.comments with before := [] } } else l
  | _ => l

theorem dropBlank_props (l : Line) : (dropBlank l).id = l.id ∧ (dropBlank l).token = l.token ∧
    (dropBlank l).inBlock = l.inBlock ∧ (dropBlank l).comments.suffix = l.comments.suffix := by
  unfold dropBlank
  split
  · split <;> exact ⟨rfl, rfl, rfl, rfl⟩
  · exact ⟨rfl, rfl, rfl, rfl⟩

theorem setVersionLine_eq (v' : Bytes) (l : Line) :
    setVersionLine v' l =
      if l.token.isEmpty then l else
      if l.inBlock then
        (if (dropBlank l).token.length ≥ 2 then { dropBlank l with token := (dropBlank l).token.set 1 v' } else dropBlank l)
      else
        (if l.token.length ≥ 3 then { l with token := l.token.set 2 v' } else l) := by
  unfold setVersionLine dropBlank
  rfl

theorem setVersionLine_props (v' : Bytes) (l : Line) :
    (setVersionLine v' l).id = l.id ∧ (setVersionLine v' l).inBlock = l.inBlock ∧
    (setVersionLine v' l).comments.suffix = l.comments.suffix := by
  rw [setVersionLine_eq]
  rcases dropBlank_props l with ⟨d1, d2, d3, d4⟩
  split
  · exact ⟨rfl, rfl, rfl⟩
  · split
    · split
      · exact ⟨d1, d3, d4⟩
      · exact ⟨d1, d3, d4⟩
    · split <;> exact ⟨rfl, rfl, rfl⟩

theorem setVersionLine_token (v' : Bytes) (p1 : List Bytes) (l : Line) (a ver : Bytes)
    (hshape : (p1 = [] ∧ l.inBlock = false) ∨ (∃ w, p1 = [w] ∧ l.inBlock = true))
    (htok : p1 ++ l.token = [B "require", a, ver]) :
    p1 ++ (setVersionLine v' l).token = [B "require", a, v'] := by
  rw [setVersionLine_eq]
  rcases dropBlank_props l with ⟨_, d2, _, _⟩
  rcases hshape with ⟨h1, h2⟩ | ⟨w, h1, h2⟩
  · subst h1
    simp only [List.nil_append] at htok ⊢
    simp [htok, h2]
  · subst h1
    have ht : l.token = [a, ver] ∧ w = B "require" := by
      cases hl : l.token with
      | nil => rw [hl] at htok; simp at htok
      | cons x xs =>
        rw [hl] at htok
        simp only [List.singleton_append, List.cons.injEq] at htok
        exact ⟨by rw [htok.2.1, htok.2.2], htok.1⟩
    simp [ht.1, h2, d2, ht.2]

theorem mem_view_setReq (fs : FileSyntax) (next i : Nat) (v' : Bytes) (b : Bool) (hw : TreeWF fs.stmts next)
    (v0 : VLine) (hv0 : v0 ∈ view fs.stmts) (hid0 : v0.id = i) (a ver : Bytes) (htoks : v0.toks = [B "require", a, ver])
    (v : VLine) :
    v ∈ view (fs.updateLine i fun l => setIndirectLine b (setVersionLine v' l)).stmts ↔
      (v.id ≠ i ∧ v ∈ view fs.stmts) ∨ v = ⟨i, [B "require", a, v'], sfxAfter b v0.suffix⟩ := by
  have hg : ∀ l : Line, (setIndirectLine b (setVersionLine v' l)).id = l.id := fun l => by
    rw [(setIndirectLine_props b _).1, (setVersionLine_props v' l).1]
  refine (mem_view_updateLine fs i (fun l => setIndirectLine b (setVersionLine v' l)) hw.nodup hg v).trans ?_
  rcases mem_view.1 hv0 with ⟨p0, hp0, hlive0, rfl⟩
  simp only [mkV] at hid0 htoks
  have key : mkV (p0.1, setIndirectLine b (setVersionLine v' p0.2)) = ⟨i, [B "require", a, v'], sfxAfter b (mkV p0).suffix⟩ ∧
      liveLoc (p0.1, setIndirectLine b (setVersionLine v' p0.2)) = true := by
    have hshape := hw.locShape p0 hp0
    have htok' := setVersionLine_token v' p0.1 p0.2 a ver hshape htoks
    rcases setIndirectLine_props b (setVersionLine v' p0.2) with ⟨e1, e2, _, e4⟩
    rcases setVersionLine_props v' p0.2 with ⟨f1, _, f3⟩
    constructor
    · simp only [mkV, e1, f1, hid0, e2, htok', e4, f3]
    · simp only [liveLoc, e2]
      cases hl : (setVersionLine v' p0.2).token with
      | nil =>
        rw [hl] at htok'
        rcases hshape with ⟨h1, _⟩ | ⟨w, h1, _⟩ <;> rw [h1] at htok' <;> simp at htok'
      | cons _ _ => rfl
  constructor
  · rintro (hl | ⟨p, hp, hid, _, rfl⟩)
    · exact Or.inl hl
    · have : p = p0 := loc_unique hw.nodup hp hp0 (hid.trans hid0.symm)
      subst this
      exact Or.inr key.1
  · rintro (hl | rfl)
    · exact Or.inl hl
    · exact Or.inr ⟨p0, hp0, hid0, key.2, key.1.symm⟩

theorem TreeWF.setReq {fs : FileSyntax} {next : Nat} (hw : TreeWF fs.stmts next) (i : Nat) (v' : Bytes) (b : Bool) :
    TreeWF (fs.updateLine i fun l => setIndirectLine b (setVersionLine v' l)).stmts next :=
  hw.updateLine i _ (fun l => by rw [(setIndirectLine_props b _).1, (setVersionLine_props v' l).1])
    (fun l => by rw [(setIndirectLine_props b _).2.2.1, (setVersionLine_props v' l).2.1])

/-! ### the steps of the loops of the bulk requirement setters, on `Match`, for any view -/

section
variable {V : RqView}

theorem Match.setReqStep {A C : List Ent} {done rs : List Require} {r : Require} {syn : FileSyntax} {next : Nat}
    (vers : Bytes) (ind : Bool) (hw : TreeWF syn.stmts next) (hlr : liveRq r = true)
    (hm : Match (A ++ (entsOf liveRq V.rq (done ++ r :: rs) ++ C)) (view syn.stmts))
    (hset : ∀ v ∈ view syn.stmts, v.id = r.lineId → V.Settable v.suffix) :
    Match (A ++ (entsOf liveRq V.rq (done ++ { r with mod := { r.mod with version := vers }, indirect := ind } :: rs) ++ C))
      (view (syn.updateLine r.lineId (fun l => setIndirectLine ind (setVersionLine vers l))).stmts) ∧
    ∃ v0 ∈ view syn.stmts, v0.id = r.lineId ∧
      (∀ v, v ∈ view (syn.updateLine r.lineId (fun l => setIndirectLine ind (setVersionLine vers l))).stmts ↔
        (v.id ≠ r.lineId ∧ v ∈ view syn.stmts) ∨ v = ⟨r.lineId, [B "require", autoQuote r.mod.path, vers], sfxAfter ind v0.suffix⟩) ∧
      V.C ind (sfxAfter ind v0.suffix) := by
  have hndK : (liveIds liveRq (·.lineId) (done ++ r :: rs)).Nodup := by
    rw [← entsOf_ids (·.lineId) liveRq V.rq (fun _ => rfl)]; exact seg_nodup hm
  have hne := mid_id_ne liveRq (·.lineId) done rs r hndK hlr
  rcases hm.cover (V.rq r) (List.mem_append_right _ (List.mem_append_left _
    ((mem_entsOf_mid liveRq V.rq done rs r _).2 (Or.inr ⟨hlr, rfl⟩)))) with ⟨v0, hv0, hv0id, hacc0⟩
  simp only [RqView.rq] at hv0id hacc0
  have hview := mem_view_setReq syn next r.lineId vers ind hw v0 hv0 hv0id _ _ hacc0.1
  have hlr' : liveRq { r with mod := { r.mod with version := vers }, indirect := ind } = true := hlr
  refine ⟨?_, v0, hv0, hv0id, hview, hset v0 hv0 hv0id ind⟩
  refine Match.frame [r.lineId] hm ?_ ?_ ?_ ?_ ?_ ?_ ?_
  · intro v hv
    simp only [List.mem_singleton] at hv
    rw [hview v]
    constructor
    · rintro (⟨_, a⟩ | rfl)
      · exact a
      · exact absurd rfl hv
    · intro a; exact Or.inl ⟨hv, a⟩
  · intro j hj
    rw [List.mem_singleton.1 hj]
    left
    rw [entsOf_ids (·.lineId) liveRq V.rq (fun _ => rfl)]
    exact (mem_liveIds liveRq (·.lineId)).2 ⟨r, List.mem_append_right _ List.mem_cons_self, hlr, rfl⟩
  · rw [entsOf_ids (·.lineId) liveRq V.rq (fun _ => rfl)]
    have : liveIds liveRq (·.lineId) (done ++ { r with mod := { r.mod with version := vers }, indirect := ind } :: rs)
        = liveIds liveRq (·.lineId) (done ++ r :: rs) := by
      simp only [liveIds_append, liveIds_cons, hlr, hlr', if_true]
    rw [this]; exact hndK
  · intro en' hen'
    left
    rcases (mem_entsOf_mid liveRq V.rq done rs _ en').1 hen' with ⟨y, hy, hly, rfl⟩ | ⟨_, rfl⟩
    · exact List.mem_map.2 ⟨V.rq y, (mem_entsOf_mid liveRq V.rq done rs r _).2 (Or.inl ⟨y, hy, hly, rfl⟩), rfl⟩
    · exact List.mem_map.2 ⟨V.rq r, (mem_entsOf_mid liveRq V.rq done rs r _).2 (Or.inr ⟨hlr, rfl⟩), rfl⟩
  · intro en' hen'
    rcases (mem_entsOf_mid liveRq V.rq done rs _ en').1 hen' with ⟨y, hy, hly, rfl⟩ | ⟨_, rfl⟩
    · rcases hm.cover (V.rq y) (List.mem_append_right _ (List.mem_append_left _
        ((mem_entsOf_mid liveRq V.rq done rs r _).2 (Or.inl ⟨y, hy, hly, rfl⟩)))) with ⟨v, hv, hvid, hacc⟩
      refine ⟨v, (hview v).2 (Or.inl ⟨?_, hv⟩), hvid, hacc⟩
      rw [hvid]; exact hne y hy hly
    · refine ⟨⟨r.lineId, [B "require", autoQuote r.mod.path, vers], sfxAfter ind v0.suffix⟩,
        (hview _).2 (Or.inr rfl), rfl, ?_⟩
      exact ⟨rfl, hset v0 hv0 hv0id ind⟩
  · intro v _ hs
    refine ⟨V.rq { r with mod := { r.mod with version := vers }, indirect := ind },
      (mem_entsOf_mid liveRq V.rq done rs _ _).2 (Or.inr ⟨hlr', rfl⟩), ?_⟩
    rw [List.mem_singleton.1 hs]; rfl
  · intro en hen hs
    simp only [List.mem_singleton] at hs
    rcases (mem_entsOf_mid liveRq V.rq done rs r en).1 hen with ⟨y, hy, hly, rfl⟩ | ⟨_, rfl⟩
    · exact ⟨V.rq y, (mem_entsOf_mid liveRq V.rq done rs _ _).2 (Or.inl ⟨y, hy, hly, rfl⟩), rfl⟩
    · exact absurd rfl hs

/-- a moved requirement: the line `r.lineId` is replaced by the same line under the fresh id `next` -/
theorem Match.moveStep {A C : List Ent} {done rs : List Require} {r : Require} {vs vs' : List VLine} {next : Nat}
    (hlr : liveRq r = true) (hm : Match (A ++ (entsOf liveRq V.rq (done ++ r :: rs) ++ C)) vs)
    (hlt : ∀ en ∈ A ++ (entsOf liveRq V.rq (done ++ r :: rs) ++ C), en.id < next)
    (v0 : VLine) (hacc0 : (V.rq r).acc v0.toks v0.suffix)
    (hview : ∀ v, v ∈ vs' ↔ (v.id ≠ r.lineId ∧ v ∈ vs) ∨ v = ⟨next, v0.toks, v0.suffix⟩) :
    Match (A ++ (entsOf liveRq V.rq (done ++ { r with lineId := next } :: rs) ++ C)) vs' := by
  have hndK : (liveIds liveRq (·.lineId) (done ++ r :: rs)).Nodup := by
    rw [← entsOf_ids (·.lineId) liveRq V.rq (fun _ => rfl)]; exact seg_nodup hm
  have hne := mid_id_ne liveRq (·.lineId) done rs r hndK hlr
  have hrK : V.rq r ∈ entsOf liveRq V.rq (done ++ r :: rs) := (mem_entsOf_mid liveRq V.rq done rs r _).2 (Or.inr ⟨hlr, rfl⟩)
  have hrlt : r.lineId < next := hlt (V.rq r) (List.mem_append_right _ (List.mem_append_left _ hrK))
  have hlr' : liveRq { r with lineId := next } = true := hlr
  refine Match.frame [r.lineId, next] hm ?_ ?_ ?_ ?_ ?_ ?_ ?_
  · intro v hv
    simp only [List.mem_cons, List.mem_nil_iff, or_false, not_or] at hv
    rw [hview v]
    constructor
    · rintro (⟨_, a⟩ | rfl)
      · exact a
      · exact absurd rfl hv.2
    · intro a; exact Or.inl ⟨hv.1, a⟩
  · intro j hj
    simp only [List.mem_cons, List.mem_nil_iff, or_false] at hj
    rcases hj with rfl | rfl
    · left
      rw [entsOf_ids (·.lineId) liveRq V.rq (fun _ => rfl)]
      exact (mem_liveIds liveRq (·.lineId)).2 ⟨r, List.mem_append_right _ List.mem_cons_self, hlr, rfl⟩
    · right
      intro en hen; exact Nat.ne_of_lt (hlt en hen)
  · rw [entsOf_ids (·.lineId) liveRq V.rq (fun _ => rfl)]
    simp only [liveIds_append, liveIds_cons, hlr, hlr', if_true] at hndK ⊢
    rcases List.nodup_append.1 hndK with ⟨n1, n2, n3⟩
    rcases List.nodup_cons.1 n2 with ⟨_, n4⟩
    have hfresh : ∀ y, (y ∈ done ∨ y ∈ rs) → liveRq y = true → y.lineId ≠ next := by
      intro y hy hly
      exact Nat.ne_of_lt (hlt (V.rq y) (List.mem_append_right _ (List.mem_append_left _
        ((mem_entsOf_mid liveRq V.rq done rs r _).2 (Or.inl ⟨y, hy, hly, rfl⟩)))))
    refine List.nodup_append.2 ⟨n1, List.nodup_cons.2 ⟨?_, n4⟩, ?_⟩
    · intro hmem
      rcases (mem_liveIds liveRq (·.lineId)).1 hmem with ⟨y, hy, hly, hyid⟩
      exact hfresh y (Or.inr hy) hly hyid
    · intro a ha b hb
      rcases List.mem_cons.1 hb with rfl | hb
      · rcases (mem_liveIds liveRq (·.lineId)).1 ha with ⟨y, hy, hly, hyid⟩
        rw [← hyid]; exact hfresh y (Or.inl hy) hly
      · exact n3 a ha b (List.mem_cons_of_mem _ hb)
  · intro en' hen'
    rcases (mem_entsOf_mid liveRq V.rq done rs _ en').1 hen' with ⟨y, hy, hly, rfl⟩ | ⟨_, rfl⟩
    · left
      exact List.mem_map.2 ⟨V.rq y, (mem_entsOf_mid liveRq V.rq done rs r _).2 (Or.inl ⟨y, hy, hly, rfl⟩), rfl⟩
    · right
      intro en hen; exact Nat.ne_of_lt (hlt en hen)
  · intro en' hen'
    rcases (mem_entsOf_mid liveRq V.rq done rs _ en').1 hen' with ⟨y, hy, hly, rfl⟩ | ⟨_, rfl⟩
    · rcases hm.cover (V.rq y) (List.mem_append_right _ (List.mem_append_left _
        ((mem_entsOf_mid liveRq V.rq done rs r _).2 (Or.inl ⟨y, hy, hly, rfl⟩)))) with ⟨v, hv, hvid, hacc⟩
      refine ⟨v, (hview v).2 (Or.inl ⟨?_, hv⟩), hvid, hacc⟩
      rw [hvid]; exact hne y hy hly
    · exact ⟨⟨next, v0.toks, v0.suffix⟩, (hview _).2 (Or.inr rfl), rfl, hacc0⟩
  · intro v hv hs
    simp only [List.mem_cons, List.mem_nil_iff, or_false] at hs
    rcases (hview v).1 hv with ⟨h1, h2⟩ | rfl
    · rcases hs with h | h
      · exact absurd h h1
      · rcases hm.surj v h2 with ⟨en, hen, henid⟩
        exact absurd (henid.trans h) (Nat.ne_of_lt (hlt en hen))
    · exact ⟨V.rq { r with lineId := next }, (mem_entsOf_mid liveRq V.rq done rs _ _).2 (Or.inr ⟨hlr', rfl⟩), rfl⟩
  · intro en hen hs
    simp only [List.mem_cons, List.mem_nil_iff, or_false, not_or] at hs
    rcases (mem_entsOf_mid liveRq V.rq done rs r en).1 hen with ⟨y, hy, hly, rfl⟩ | ⟨_, rfl⟩
    · exact ⟨V.rq y, (mem_entsOf_mid liveRq V.rq done rs _ _).2 (Or.inl ⟨y, hy, hly, rfl⟩), rfl⟩
    · exact absurd rfl hs.1

theorem setRequireLoop_inv {A C : List Ent} (next : Nat) (rs : List Require) :
    ∀ (done : List Require) (need : List Want) (syn : FileSyntax) (rs' : List Require) (need' : List Want) (syn' : FileSyntax),
      (∀ r ∈ rs, liveRq r = true) → TreeWF syn.stmts next →
      Match (A ++ (entsOf liveRq V.rq (done ++ rs) ++ C)) (view syn.stmts) →
      (∀ r ∈ rs, ∀ v ∈ view syn.stmts, v.id = r.lineId → V.Settable v.suffix) →
      setRequireLoop rs need syn = .ok (rs', need', syn') →
      TreeWF syn'.stmts next ∧ Match (A ++ (entsOf liveRq V.rq (done ++ rs') ++ C)) (view syn'.stmts) := by
  induction rs with
  | nil =>
    intro done need syn rs' need' syn' _ hw hm _ h
    simp only [setRequireLoop, Except.ok.injEq, Prod.mk.injEq] at h
    rcases h with ⟨rfl, _, rfl⟩
    exact ⟨hw, hm⟩
  | cons r rs ih =>
    intro done need syn rs' need' syn' hlive hw hm hset h
    have hlr := hlive r List.mem_cons_self
    have hlive' : ∀ r2 ∈ rs, liveRq r2 = true := fun r2 hr2 => hlive r2 (List.mem_cons_of_mem _ hr2)
    have hne := mid_id_ne liveRq (·.lineId) done rs r
      (by rw [← entsOf_ids (·.lineId) liveRq V.rq (fun _ => rfl)]; exact seg_nodup hm) hlr
    unfold setRequireLoop at h
    have hd : deref r.lineId = .ok r.lineId ∨ ∃ err, deref r.lineId = .error err := by
      unfold deref; split <;> simp
    rcases hd with hd | ⟨err, hd⟩
    case inr => cases hf : need.find? (fun a => a.path == r.mod.path) <;> simp [hf, hd, bind, Except.bind] at h
    cases hf : need.find? (fun a => a.path == r.mod.path) with
    | some w =>
      simp only [hf, hd, bind, Except.bind] at h
      cases hr : setRequireLoop rs (need.filter (fun a => a.path != r.mod.path))
          (syn.updateLine r.lineId (fun l => setIndirectLine w.indirect (setVersionLine w.vers l))) with
      | error err => simp [hr] at h
      | ok res =>
        rcases res with ⟨rs'', need'', syn''⟩
        simp only [hr, pure, Except.pure, Except.ok.injEq, Prod.mk.injEq] at h
        rcases h with ⟨rfl, _, rfl⟩
        -- the line of `r` gets the version and the marker asked for; the other requirements keep their lines
        rcases Match.setReqStep (A := A) (C := C) w.vers w.indirect hw hlr hm (hset r List.mem_cons_self)
          with ⟨hm1, v0, _, _, hview, _⟩
        rcases ih (done ++ [_]) _ _ _ _ _ hlive' (hw.setReq r.lineId w.vers w.indirect)
          (by rw [List.append_assoc]; exact hm1)
          (fun r2 hr2 v hv hvid => by
            rcases (hview v).1 hv with ⟨_, hvv⟩ | rfl
            · exact hset r2 (List.mem_cons_of_mem _ hr2) v hvv hvid
            · exact absurd hvid.symm (hne r2 (Or.inr hr2) (hlive' r2 hr2))) hr with ⟨r1, r2⟩
        exact ⟨r1, by rw [List.append_assoc] at r2; exact r2⟩
    | none =>
      simp only [hf, hd, bind, Except.bind] at h
      cases hr : setRequireLoop rs (need.filter (fun a => !a.path.isEmpty)) (markRemoved syn r.lineId) with
      | error err => simp [hr] at h
      | ok res =>
        rcases res with ⟨rs'', need'', syn''⟩
        simp only [hr, pure, Except.pure, Except.ok.injEq, Prod.mk.injEq] at h
        rcases h with ⟨rfl, _, rfl⟩
        rcases ih (done ++ [clearedRequire]) _ _ _ _ _ hlive' (hw.markRemoved r.lineId)
          (by rw [List.append_assoc]; exact Match.removeMid (live := liveRq) (mk := V.rq) (id := (·.lineId)) (cleared := clearedRequire) (fun _ => rfl) rfl hw hlr hm)
          (fun r2 hr2 v hv hvid =>
            hset r2 (List.mem_cons_of_mem _ hr2) v ((mem_view_markRemoved syn r.lineId hw.nodup v).1 hv).1 hvid) hr
          with ⟨r1, r2⟩
        exact ⟨r1, by rw [List.append_assoc] at r2; exact r2⟩

theorem foldl_addNewRequire_invR (ws : List Want) : ∀ e : EFile, InvR V e → (∀ w ∈ ws, w.path ≠ []) →
    InvR V (ws.foldl (fun e w => addNewRequire e w.path w.vers w.indirect) e) := by
  induction ws with
  | nil => intro e hi _; exact hi
  | cons w ws ih =>
    intro e hi hne
    exact ih _ (addNewRequire_invR e w.path w.vers w.indirect (hne w List.mem_cons_self) hi)
      (fun x hx => hne x (List.mem_cons_of_mem _ hx))

theorem setRequire_invR (e e' : EFile) (req : List Want) (perm : List Want → List Want) (hperm : ∀ l, (perm l).Perm l)
    (hg : GoodWant req) (hi : InvR V e) (hlive : ∀ r ∈ e.f.require, liveRq r = true)
    (hset : ∀ r ∈ e.f.require, ∀ v ∈ view e.f.syn.stmts, v.id = r.lineId → V.Settable v.suffix)
    (h : setRequire e req perm = .ok e') : InvR V e' := by
  unfold setRequire at h
  rw [needMap_distinct true req [] (by simpa using hg.1)] at h
  simp only [bind, Except.bind, List.nil_append] at h
  cases hr : setRequireLoop e.f.require req e.f.syn with
  | error err => simp [hr] at h
  | ok res =>
    rcases res with ⟨rq, need', syn'⟩
    simp only [hr, pure, Except.pure, Except.ok.injEq] at h
    subst h
    rcases setRequireLoop_abs _ _ _ _ _ _ hg hr with ⟨_, hsub⟩
    rcases setRequireLoop_inv (A := segA_require e.f) (C := segC_require e.f) e.next e.f.require [] req e.f.syn rq need' syn'
      hlive hi.tree (by simp only [List.nil_append]; rw [← entriesR_require]; exact hi.mtch) hset hr with ⟨hw', hm'⟩
    have hi1 : InvR V (⟨{ e.f with require := rq, syn := syn' }, e.next⟩ : EFile) := by
      refine ⟨hw', ?_, hi.tinv.of_same rfl rfl rfl (Nat.le_refl _)⟩
      simp only [List.nil_append] at hm'
      rw [entriesR_require]; exact hm'
    have hne : ∀ w ∈ perm need', w.path ≠ [] := fun w hw => hg.2 w (hsub.subset ((hperm need').subset hw))
    exact sortBlocks_invR _ (foldl_addNewRequire_invR (perm need') _ hi1 hne)

end

/-- **SetRequire preserves the tree invariant** — when every typed requirement is live (a Cleanup has just run, as the
    property prescribes) and every requirement line's indirect marker can be set as requested (`MarkerSettable`, which
    excludes exactly the recorded finding `C16_violated_indirect_marker_survives`). -/
theorem setRequire_inv (e e' : EFile) (req : List Want) (perm : List Want → List Want) (hperm : ∀ l, (perm l).Perm l)
    (hg : GoodWant req) (hi : Inv e) (hlive : ∀ r ∈ e.f.require, liveRq r = true)
    (hset : ∀ r ∈ e.f.require, ∀ v ∈ view e.f.syn.stmts, v.id = r.lineId → MarkerSettable v.suffix)
    (h : setRequire e req perm = .ok e') : Inv e' :=
  (setRequire_invR e e' req perm hperm hg hi.r hlive hset h).full

/-! ### the requirement lines of the tree after SetRequire -/

theorem verbs_ne_require : B "module" ≠ B "require" ∧ B "go" ≠ B "require" ∧ B "toolchain" ≠ B "require" ∧
    B "godebug" ≠ B "require" ∧ B "exclude" ≠ B "require" ∧ B "replace" ≠ B "require" ∧ B "retract" ≠ B "require" ∧
    B "tool" ≠ B "require" := by decide +kernel

theorem InvR.require_line_entry {V : RqView} {e : EFile} (hi : InvR V e) (v : VLine) (hv : v ∈ view e.f.syn.stmts)
    (hverb : v.toks.head? = some (B "require")) :
    ∃ r ∈ e.f.require, liveRq r = true ∧ r.lineId = v.id ∧ v.toks = [B "require", autoQuote r.mod.path, r.mod.version] ∧
      V.C r.indirect v.suffix := by
  rcases hi.line_entry v hv with ⟨en, hen, hid, hacc⟩
  rcases verbs_ne_require with ⟨n1, n2, n3, n4, n5, n6, n7, n8⟩
  simp only [entriesR, List.mem_append, List.mem_map, Option.mem_toList, entsOf, List.mem_filter] at hen
  rcases hen with ⟨x, _, rfl⟩ | ⟨x, _, rfl⟩ | ⟨x, _, rfl⟩ | ⟨x, _, rfl⟩ | ⟨x, hx, rfl⟩ | ⟨x, _, rfl⟩ | ⟨x, _, rfl⟩ |
    ⟨x, _, rfl⟩ | ⟨x, _, rfl⟩
  · simp only [entM] at hacc; rw [hacc] at hverb; simp at hverb; exact absurd hverb n1
  · simp only [entGo] at hacc; rw [hacc] at hverb; simp at hverb; exact absurd hverb n2
  · simp only [entTc] at hacc; rw [hacc] at hverb; simp at hverb; exact absurd hverb n3
  · simp only [entG] at hacc; rw [hacc] at hverb; simp at hverb; exact absurd hverb n4
  · exact ⟨x, hx.1, hx.2, hid, hacc.1, hacc.2⟩
  · simp only [entX] at hacc; rw [hacc] at hverb; simp at hverb; exact absurd hverb n5
  · simp only [entRp, replaceToks] at hacc; rw [hacc] at hverb; simp at hverb; exact absurd hverb n6
  · simp only [entRt] at hacc
    rcases hacc with ⟨x', h1, _⟩ | ⟨x', y', h1, _⟩ <;> rw [h1] at hverb <;> simp at hverb <;> exact absurd hverb n7
  · simp only [entT] at hacc
    rcases hacc with ⟨x', h1, _⟩; rw [h1] at hverb; simp at hverb; exact absurd hverb n8

/-- **SetRequire on the tree** (C16 at the level of the syntax tree): after `SetRequire want` and Cleanup, for every
    requested entry there is a live line `require <path> <version>` carrying the indirect marker iff requested, and
    every live `require` line of the tree is the line of a requested entry -/
theorem setRequire_tree_exact (e e' : EFile) (want : List Want) (perm : List Want → List Want) (hperm : ∀ l, (perm l).Perm l)
    (hg : GoodWant want) (hi : Inv e) (hlive : ∀ r ∈ e.f.require, liveRq r = true)
    (hset : ∀ r ∈ e.f.require, ∀ v ∈ view e.f.syn.stmts, v.id = r.lineId → MarkerSettable v.suffix)
    (h : setRequire e want perm = .ok e') :
    Inv (cleanup e') ∧
    (∀ w ∈ want, ∃ v ∈ view (cleanup e').f.syn.stmts, v.toks = [B "require", autoQuote w.path, w.vers] ∧
      isIndirectS v.suffix = w.indirect) ∧
    (∀ v ∈ view (cleanup e').f.syn.stmts, v.toks.head? = some (B "require") →
      ∃ w ∈ want, v.toks = [B "require", autoQuote w.path, w.vers] ∧ isIndirectS v.suffix = w.indirect) := by
  have hi' := cleanup_inv e' (setRequire_inv e e' want perm hperm hg hi hlive hset h)
  rcases setRequire_exact e e' want perm hperm hg hi.tinv h with ⟨hp, _, hsub⟩
  refine ⟨hi', ?_, ?_⟩
  · intro w hw
    have hmem : w.toReq ∈ (absOf (cleanup e').f).require := hp.symm.subset (List.mem_map.2 ⟨w, hw, rfl⟩)
    simp only [absOf, List.mem_map] at hmem
    rcases hmem with ⟨r, hr, hreq⟩
    simp only [Want.toReq, EditSpec.Req.mk.injEq] at hreq
    have hl : r.mod.path ≠ [] := by rw [hreq.1]; exact hg.2 w hw
    rcases hi'.require_line r hr hl with ⟨v, hv, _, htoks, hind⟩
    exact ⟨v, hv, by rw [htoks, hreq.1, hreq.2.1], by rw [hind, hreq.2.2]⟩
  · intro v hv hverb
    rcases hi'.r.require_line_entry v hv hverb with ⟨r, hr, _, _, htoks, hind⟩
    have hmem : (⟨r.mod.path, r.mod.version, r.indirect⟩ : EditSpec.Req) ∈ (absOf (cleanup e').f).require := by
      simp only [absOf, List.mem_map]; exact ⟨r, hr, rfl⟩
    rcases hsub _ hmem with ⟨w, hw, heq⟩
    simp only [Want.toReq, EditSpec.Req.mk.injEq] at heq
    exact ⟨w, hw, by rw [htoks, heq.1, heq.2.1], by rw [hind, heq.2.2]⟩

/-- no requirement line of the file has a comment whose text after `indirect;` is again an indirect marker (more
    precisely: `setIndirect` achieves what it is asked for on every requirement line) -/
def NoNestedIndirectMarker (e : EFile) : Prop :=
  ∀ r ∈ e.f.require, ∀ v ∈ view e.f.syn.stmts, v.id = r.lineId → MarkerSettable v.suffix

/-- a Boolean test implying `NoNestedIndirectMarker` (all lines, not only requirement lines) -/
theorem NoNestedIndirectMarker.of_all (e : EFile)
    (h : (view e.f.syn.stmts).all (fun v => decide (MarkerSettable v.suffix)) = true) : NoNestedIndirectMarker e := by
  intro r _ v hv _
  have := List.all_eq_true.1 h v hv
  simpa using this

end ModVerif.Modfile.Edit
