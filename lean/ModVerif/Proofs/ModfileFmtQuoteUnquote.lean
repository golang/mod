/-
  `strconv.Unquote(strconv.Quote(s)) = s` for EVERY byte string `s` (ill-formed UTF-8,
  control bytes, non-printable and astral runes included), and the consequences for `parseString`:
  the token `AutoQuote` makes parses back to the value and re-quotes to itself; `parseString` is
  idempotent on the token it returns.

  Each chunk `stepOut s` that `Quote` writes for the rune at the head of `s` is read back by `UnquoteChar`
  as a character whose bytes (`charBytes`) are exactly the input bytes of that rune.
-/
import ModVerif.Proofs.ModfileFmtQuoteString
namespace ModVerif.Proofs.ModfileFmtQuote
open ModVerif ModVerif.Modfile ModVerif.Proofs.ModfileLex ModVerif.Proofs.ModfileFmtUtf8
open ModVerif.Proofs.ModfileFmtTok ModVerif.Proofs.ModfileFmtLex

theorem unhex_lowerhex_fin : ∀ n : Fin 16, Quote.unhex (Quote.lowerhex n.val) = some n.val := by decide

theorem unhex_lowerhex {n : Nat} (hn : n < 16) : Quote.unhex (Quote.lowerhex n) = some n := unhex_lowerhex_fin ⟨n, hn⟩

theorem length_hexDigits (r : Nat) : ∀ k, (Quote.hexDigits r k).length = k := by
  intro k; induction k with
  | zero => rfl
  | succ k ih => simp [Quote.hexDigits, ih]

theorem foldlM_hexDigits (r : Nat) : ∀ (k v : Nat),
    (Quote.hexDigits r k).foldlM (fun v c => (Quote.unhex c).map fun x => v * 16 + x) v = some (v * 16 ^ k + r % 16 ^ k) := by
  intro k
  induction k with
  | zero => intro v; simp [Quote.hexDigits, Nat.mod_one]
  | succ k ih =>
    intro v
    simp only [Quote.hexDigits, List.foldlM_cons, unhex_lowerhex (Nat.mod_lt _ (by decide : 0 < 16)), Option.map_some,
      Option.bind_eq_bind, Option.bind_some, ih]
    congr 1
    rw [Nat.mod_pow_succ, Nat.pow_succ]
    generalize 16 ^ k = p
    generalize r / p % 16 = d
    generalize r % p = m
    rw [Nat.add_mul, Nat.mul_assoc, Nat.mul_comm 16 p, Nat.mul_comm d p]
    omega

theorem hexValue_hexDigits (r k : Nat) (hk : 0 < k) : Quote.hexValue (Quote.hexDigits r k) = some (r % 16 ^ k) := by
  obtain ⟨n, rfl⟩ : ∃ n, k = n + 1 := ⟨k - 1, by omega⟩
  have := foldlM_hexDigits r (n + 1) 0
  simp only [Nat.zero_mul, Nat.zero_add] at this
  rw [← this]
  simp [Quote.hexValue, Quote.hexDigits]


example : Quote.hexValue (Quote.hexDigits 0x20AC 4) = some 0x20AC := by decide

theorem unquoteChar_simple (rest : Bytes) :
    Quote.unquoteChar (92 :: 97 :: rest) = some (7, false, rest) ∧
    Quote.unquoteChar (92 :: 98 :: rest) = some (8, false, rest) ∧
    Quote.unquoteChar (92 :: 102 :: rest) = some (12, false, rest) ∧
    Quote.unquoteChar (92 :: 110 :: rest) = some (10, false, rest) ∧
    Quote.unquoteChar (92 :: 114 :: rest) = some (13, false, rest) ∧
    Quote.unquoteChar (92 :: 116 :: rest) = some (9, false, rest) ∧
    Quote.unquoteChar (92 :: 118 :: rest) = some (11, false, rest) ∧
    Quote.unquoteChar (92 :: 92 :: rest) = some (92, false, rest) ∧
    Quote.unquoteChar (92 :: 34 :: rest) = some (34, false, rest) := by
  refine ⟨rfl, rfl, rfl, rfl, rfl, rfl, rfl, rfl, rfl⟩

theorem unquoteChar_x {a b : Nat} (ha : a < 16) (hb : b < 16) (rest : Bytes) :
    Quote.unquoteChar (92 :: 120 :: Quote.lowerhex a :: Quote.lowerhex b :: rest) = some (a * 16 + b, false, rest) := by
  have hv : Quote.hexValue [Quote.lowerhex a, Quote.lowerhex b] = some (a * 16 + b) := by
    simp [Quote.hexValue, unhex_lowerhex ha, unhex_lowerhex hb]
  simp [Quote.unquoteChar, hv]

example : Quote.unquoteChar (92 :: 120 :: Quote.lowerhex 7 :: Quote.lowerhex 15 :: [34]) = some (7 * 16 + 15, false, [34]) :=
  unquoteChar_x (by decide) (by decide) _

theorem unquoteChar_u {r : Nat} (hr : r < 65536) (hv : Quote.validRune r = true) (rest : Bytes) :
    Quote.unquoteChar (92 :: 117 :: (Quote.hexDigits r 4 ++ rest)) = some (r, true, rest) := by
  have hl := length_hexDigits r 4
  have ht : (Quote.hexDigits r 4 ++ rest).take 4 = Quote.hexDigits r 4 := by
    rw [List.take_append_of_le_length (by omega), List.take_of_length_le (by omega)]
  have hd : (Quote.hexDigits r 4 ++ rest).drop 4 = rest := by
    rw [List.drop_append_of_le_length (by omega), List.drop_of_length_le (by omega)]; rfl
  have hx : Quote.hexValue (Quote.hexDigits r 4) = some r := by
    rw [hexValue_hexDigits r 4 (by decide), Nat.mod_eq_of_lt (by omega)]
  simp [Quote.unquoteChar, ht, hd, hx, hv, hl]

theorem unquoteChar_U {r : Nat} (hv : Quote.validRune r = true) (rest : Bytes) :
    Quote.unquoteChar (92 :: 85 :: (Quote.hexDigits r 8 ++ rest)) = some (r, true, rest) := by
  have hl := length_hexDigits r 8
  have hr : r < 16 ^ 8 := by
    simp only [Quote.validRune, Bool.or_eq_true, Bool.and_eq_true, decide_eq_true_eq] at hv
    omega
  have ht : (Quote.hexDigits r 8 ++ rest).take 8 = Quote.hexDigits r 8 := by
    rw [List.take_append_of_le_length (by omega), List.take_of_length_le (by omega)]
  have hd : (Quote.hexDigits r 8 ++ rest).drop 8 = rest := by
    rw [List.drop_append_of_le_length (by omega), List.drop_of_length_le (by omega)]; rfl
  have hx : Quote.hexValue (Quote.hexDigits r 8) = some r := by
    rw [hexValue_hexDigits r 8 (by decide), Nat.mod_eq_of_lt hr]
  simp [Quote.unquoteChar, ht, hd, hx, hv, hl]


example : (0xAD : Nat) < 65536 ∧ Quote.validRune 0xAD = true ∧ Quote.validRune 0xE0001 = true := by decide

theorem charBytes_false (r : Nat) : Quote.charBytes r false = [UInt8.ofNat r] := by
  simp [Quote.charBytes]

theorem charBytes_true {r : Nat} (h : 0x80 ≤ r) : Quote.charBytes r true = Utf8.encode r := by
  have : ¬ r < 128 := by omega
  simp [Quote.charBytes, this]

/-- what `UnquoteChar` makes of `appendEscapedRune r`: the printable case is left to the caller -/
theorem unquoteChar_escaped (r : Nat) (hv : Quote.validRune r = true) (rest : Bytes) :
    (Quote.appendEscapedRune r = Utf8.encode r ∧ UnicodePrint.isPrint r = true ∧ r ≠ 34 ∧ r ≠ 92) ∨
    (∃ tl mb, Quote.appendEscapedRune r = 92 :: tl ∧
      Quote.unquoteChar (Quote.appendEscapedRune r ++ rest) = some (r, mb, rest) ∧
      (mb = true → 0x80 ≤ r) ∧ (mb = false → r < 0x80)) := by
  obtain ⟨s1, s2, s3, s4, s5, s6, s7, s8, s9⟩ := unquoteChar_simple rest
  delta Quote.appendEscapedRune
  by_cases h : (r == 34 || r == 92) = true
  · rw [if_pos h]
    right
    simp only [Bool.or_eq_true, beq_iff_eq] at h
    rcases h with h | h <;> subst h
    · exact ⟨_, false, rfl, s9, by simp, by simp⟩
    · exact ⟨_, false, rfl, s8, by simp, by simp⟩
  · rw [if_neg h]
    simp only [Bool.or_eq_true, beq_iff_eq, not_or] at h
    by_cases hp : UnicodePrint.isPrint r = true
    · rw [if_pos hp]
      exact Or.inl ⟨rfl, hp, h.1, h.2⟩
    · rw [if_neg hp]
      right
      by_cases h7 : (r == 7) = true
      · rw [if_pos h7]; simp only [beq_iff_eq] at h7; subst h7; exact ⟨_, false, rfl, s1, by simp, by simp⟩
      rw [if_neg h7]
      by_cases h8 : (r == 8) = true
      · rw [if_pos h8]; simp only [beq_iff_eq] at h8; subst h8; exact ⟨_, false, rfl, s2, by simp, by simp⟩
      rw [if_neg h8]
      by_cases h12 : (r == 12) = true
      · rw [if_pos h12]; simp only [beq_iff_eq] at h12; subst h12; exact ⟨_, false, rfl, s3, by simp, by simp⟩
      rw [if_neg h12]
      by_cases h10 : (r == 10) = true
      · rw [if_pos h10]; simp only [beq_iff_eq] at h10; subst h10; exact ⟨_, false, rfl, s4, by simp, by simp⟩
      rw [if_neg h10]
      by_cases h13 : (r == 13) = true
      · rw [if_pos h13]; simp only [beq_iff_eq] at h13; subst h13; exact ⟨_, false, rfl, s5, by simp, by simp⟩
      rw [if_neg h13]
      by_cases h9 : (r == 9) = true
      · rw [if_pos h9]; simp only [beq_iff_eq] at h9; subst h9; exact ⟨_, false, rfl, s6, by simp, by simp⟩
      rw [if_neg h9]
      by_cases h11 : (r == 11) = true
      · rw [if_pos h11]; simp only [beq_iff_eq] at h11; subst h11; exact ⟨_, false, rfl, s7, by simp, by simp⟩
      rw [if_neg h11]
      by_cases hx : (decide (r < 32) || r == 127) = true
      · rw [if_pos hx]
        simp only [Bool.or_eq_true, decide_eq_true_eq, beq_iff_eq] at hx
        have := unquoteChar_x (a := r / 16) (b := r % 16) (by omega) (by omega) rest
        have e : r / 16 * 16 + r % 16 = r := by omega
        rw [e] at this
        exact ⟨_, false, rfl, this, by simp, fun _ => by omega⟩
      rw [if_neg hx]
      simp only [Bool.or_eq_true, decide_eq_true_eq, beq_iff_eq, not_or] at hx
      have hge : 0x80 ≤ r := by
        have hnp : ¬ (0x20 ≤ r ∧ r ≤ 0x7E) := by
          intro hh
          apply hp
          unfold UnicodePrint.isPrint
          rw [if_pos (by omega)]
          simp only [Bool.or_eq_true, Bool.and_eq_true, decide_eq_true_eq]
          exact Or.inl hh
        omega
      rw [if_neg (by simp [hv])]
      by_cases hs : r < 65536
      · rw [if_pos hs]
        exact ⟨_, true, rfl, unquoteChar_u hs hv rest, fun _ => hge, by simp⟩
      · rw [if_neg hs]
        exact ⟨_, true, rfl, unquoteChar_U hv rest, fun _ => hge, by simp⟩


example : Quote.validRune 0x2028 = true := by decide

theorem take_of_ascii_rune {s : Bytes} (hs : s ≠ []) (hr : (Utf8.decodeRune s).1 < 0x80) :
    s.take (Utf8.decodeRune s).2 = [UInt8.ofNat (Utf8.decodeRune s).1] := by
  obtain ⟨b, t, rfl, hb, hw⟩ := ascii_rune_head hs hr
  rw [hw, ← hb]
  simp

example : ([97] : Bytes) ≠ [] ∧ (Utf8.decodeRune [97]).1 < 0x80 := by decide

theorem unquoteChar_nonascii (c : UInt8) (x : Bytes) (hc : 128 ≤ c.toNat) :
    Quote.unquoteChar (c :: x) = some ((Utf8.decodeRune (c :: x)).1, true, (c :: x).drop (Utf8.decodeRune (c :: x)).2) := by
  have hc34 : c ≠ 34 := by intro h; subst h; revert hc; decide
  simp [Quote.unquoteChar, hc34, hc]

theorem unquoteChar_stepOut (s : Bytes) (hs : s ≠ []) (rest : Bytes) :
    ∃ h tl r mb, stepOut s = h :: tl ∧ h ≠ 34 ∧ h ≠ 10 ∧
      Quote.unquoteChar (stepOut s ++ rest) = some (r, mb, rest) ∧
      Quote.charBytes r mb = s.take (Utf8.decodeRune s).2 := by
  cases s with
  | nil => exact absurd rfl hs
  | cons c t =>
    simp only [stepOut]
    by_cases hb : badHead (c :: t) = true
    · rw [if_pos hb]
      have hw : (Utf8.decodeRune (c :: t)).2 = 1 := by
        simp only [badHead, Bool.and_eq_true, beq_iff_eq] at hb; exact hb.1
      have hc := c.toNat_lt
      have := unquoteChar_x (a := c.toNat / 16) (b := c.toNat % 16) (by omega) (by omega) rest
      have e : c.toNat / 16 * 16 + c.toNat % 16 = c.toNat := by omega
      rw [e] at this
      refine ⟨92, _, c.toNat, false, rfl, by decide, by decide, this, ?_⟩
      rw [charBytes_false, hw]; simp
    · rw [if_neg hb]
      have hd := decode_of_not_bad (s := c :: t) (by simpa using hb)
      have hv := validRune_of_decode (r := (Utf8.decodeRune (c :: t)).1) (w := (Utf8.decodeRune (c :: t)).2) hd
      have henc := encode_of_decode (r := (Utf8.decodeRune (c :: t)).1) (w := (Utf8.decodeRune (c :: t)).2) hd
      rcases unquoteChar_escaped (Utf8.decodeRune (c :: t)).1 hv rest with ⟨h1, hp, h34, h92⟩ | ⟨tl, mb, h1, h2, h3, h4⟩
      · -- printable: the input bytes themselves
        rw [h1, henc]
        have hwd := decodeRune_width (c :: t) hs
        obtain ⟨n, hn⟩ : ∃ n, (Utf8.decodeRune (c :: t)).2 = n + 1 := ⟨(Utf8.decodeRune (c :: t)).2 - 1, by omega⟩
        have htk : (c :: t).take (Utf8.decodeRune (c :: t)).2 = c :: t.take n := by rw [hn]; rfl
        by_cases hc : c.toNat < 0x80
        · have hdr := decodeRune_ascii c t hc
          have hw : (Utf8.decodeRune (c :: t)).2 = 1 := by rw [hdr]
          have hr : (Utf8.decodeRune (c :: t)).1 = c.toNat := by rw [hdr]
          rw [hr] at hp h34 h92
          have hc34 : c ≠ 34 := by intro h; subst h; exact h34 rfl
          have hc92 : c ≠ 92 := by intro h; subst h; exact h92 rfl
          have hc10 : c ≠ 10 := by intro h; subst h; revert hp; decide
          refine ⟨c, [], c.toNat, false, by rw [hw]; rfl, hc34, hc10, ?_, ?_⟩
          · rw [hw]
            have : ¬ (128 ≤ c.toNat) := by omega
            simp [Quote.unquoteChar, hc34, hc92, this]
          · rw [charBytes_false, hw]; simp
        · have hge := (decodeRune_nonascii c t (by omega)).1
          refine ⟨c, t.take n, (Utf8.decodeRune (c :: t)).1, true, htk, ?_, ?_, ?_, ?_⟩
          · intro h; subst h; exact hc (by decide)
          · intro h; subst h; exact hc (by decide)
          · have hctx : Utf8.decodeRune ((c :: t).take (Utf8.decodeRune (c :: t)).2 ++ rest) = Utf8.decodeRune (c :: t) :=
              decodeRune_of_decode (decode_take (r := (Utf8.decodeRune (c :: t)).1) (w := (Utf8.decodeRune (c :: t)).2) hd rest)
            have hlen := take_length_decodeRune (c :: t) hs
            have hdrop : ((c :: t).take (Utf8.decodeRune (c :: t)).2 ++ rest).drop (Utf8.decodeRune (c :: t)).2 = rest := by
              rw [List.drop_append, List.drop_of_length_le (by omega), hlen]; simp
            have hc34 : c ≠ 34 := by intro h; subst h; exact hc (by decide)
            have hge' : 128 ≤ c.toNat := by omega
            rw [htk] at hctx hdrop ⊢
            simp only [List.cons_append] at hctx hdrop ⊢
            rw [unquoteChar_nonascii c _ hge', hctx, hdrop]
          · rw [charBytes_true hge, henc]
      · rw [h1] at h2 ⊢
        refine ⟨92, tl, _, mb, rfl, by decide, by decide, h2, ?_⟩
        cases mb with
        | true => rw [charBytes_true (h3 rfl), henc]
        | false => rw [charBytes_false, take_of_ascii_rune hs (h4 rfl)]


example : ([0xFF, 97] : Bytes) ≠ [] := by simp

theorem unquoteLoop_step (fuel : Nat) {h : UInt8} {tl rest acc : Bytes} {r : Nat} {mb : Bool}
    (h34 : h ≠ 34) (h10 : h ≠ 10) (hu : Quote.unquoteChar (h :: tl ++ rest) = some (r, mb, rest)) :
    Quote.unquoteLoop (fuel + 1) (h :: tl ++ rest) acc =
      Quote.unquoteLoop fuel rest ((Quote.charBytes r mb).reverse ++ acc) := by
  simp only [List.cons_append] at hu ⊢
  simp only [Quote.unquoteLoop, beq_iff_eq, h34, if_false, hu, h10]

example : (97 : UInt8) ≠ 34 ∧ (97 : UInt8) ≠ 10 ∧ Quote.unquoteChar (97 :: [] ++ [34]) = some (97, false, [34]) := by
  refine ⟨by decide, by decide, rfl⟩

theorem stepOut_length_pos (s : Bytes) (hs : s ≠ []) : 0 < (stepOut s).length := by
  obtain ⟨h, tl, _, _, he, _⟩ := unquoteChar_stepOut s hs []
  rw [he]; simp

theorem unquoteLoop_qbody : ∀ (f : Nat) (s : Bytes), s.length < f → ∀ (fuel2 : Nat) (acc : Bytes),
    (qbody f s).length < fuel2 →
    Quote.unquoteLoop fuel2 (qbody f s ++ [34]) acc = some (acc.reverse ++ s, []) := by
  intro f
  induction f with
  | zero => intro s h; omega
  | succ n ih =>
    intro s hl fuel2 acc hf
    obtain ⟨m, rfl⟩ : ∃ m, fuel2 = m + 1 := ⟨fuel2 - 1, by omega⟩
    cases s with
    | nil => simp [qbody, Quote.unquoteLoop]
    | cons c t =>
      have hs : c :: t ≠ [] := by simp
      have hw := decodeRune_width (c :: t) hs
      simp only [qbody, List.append_assoc] at hf ⊢
      obtain ⟨h, tl, r, mb, he, h34, h10, hu, hcb⟩ :=
        unquoteChar_stepOut (c :: t) hs (qbody n ((c :: t).drop (Utf8.decodeRune (c :: t)).2) ++ [34])
      have hpos := stepOut_length_pos (c :: t) hs
      rw [he] at hu ⊢
      rw [unquoteLoop_step m h34 h10 hu, ih _ (by simp only [List.length_drop]; omega) m _ (by
        simp only [List.length_append] at hf; omega)]
      rw [hcb]
      simp only [List.reverse_append, List.reverse_reverse, List.append_assoc, List.take_append_drop]

example : ([0xFF] : Bytes).length < 2 ∧ (qbody 2 [0xFF]).length < 5 := by decide

theorem unquote_quote (s : Bytes) : Quote.unquote (Quote.quote s) = some s := by
  rw [quote_eq_qbody]
  have hloop := unquoteLoop_qbody (s.length + 1) s (by omega) ((qbody (s.length + 1) s ++ [34]).length + 1) []
    (by simp only [List.length_append]; omega)
  obtain ⟨x, xs, hx⟩ : ∃ x xs, qbody (s.length + 1) s ++ [34] = x :: xs := by
    cases h : qbody (s.length + 1) s ++ [34] with
    | nil => simp at h
    | cons x xs => exact ⟨x, xs, rfl⟩
  have hmem : (34 : UInt8) ∈ x :: xs := by rw [← hx]; simp
  rw [hx] at hloop ⊢
  have hc : (x :: xs).contains 34 = true := by simpa using hmem
  simp only [Quote.unquote, hc, hloop]
  simp

theorem ascii_byte_rune : ∀ (n : Nat) (s : Bytes), s.length ≤ n → ∀ b ∈ s, b.toNat < 0x80 → b.toNat ∈ Utf8.runes s := by
  intro n
  induction n with
  | zero =>
    intro s hl b hb
    have : s = [] := List.eq_nil_of_length_eq_zero (by omega)
    subst this; simp at hb
  | succ n ih =>
    intro s hl b hb hlt
    cases s with
    | nil => simp at hb
    | cons c t =>
      have hs : c :: t ≠ [] := by simp
      have hw := decodeRune_width (c :: t) hs
      rw [runes_step (c :: t) hs]
      rw [← List.take_append_drop (Utf8.decodeRune (c :: t)).2 (c :: t)] at hb
      rcases List.mem_append.1 hb with hb | hb
      · by_cases hc : c.toNat < 0x80
        · have hd := decodeRune_ascii c t hc
          rw [hd] at hb ⊢
          simp only [List.take_succ_cons, List.take_zero, List.mem_cons, List.not_mem_nil, or_false] at hb
          subst hb; simp
        · have := (decodeRune_nonascii c t (by omega)).2 b hb
          omega
      · exact List.mem_cons_of_mem _ (ih _ (by simp only [List.length_drop]; omega) b hb hlt)

example : ∀ b ∈ ([97, 0xC3, 0xA9] : Bytes), b.toNat < 0x80 → b.toNat ∈ Utf8.runes [97, 0xC3, 0xA9] := by decide

theorem parseString_unquoted {s : Bytes} (h : mustQuote s = false) : parseString s = some (s, autoQuote s) := by
  obtain ⟨hr, hne, _, _⟩ := mustQuote_false h
  have hall := mustQuoteRunes_false _ hr
  have hbyte : ∀ b ∈ s, b ≠ 34 ∧ b ≠ 39 ∧ b ≠ 96 := by
    intro b hb
    refine ⟨?_, ?_, ?_⟩ <;>
    · intro hh; subst hh
      have := (hall _ (ascii_byte_rune s.length s (Nat.le_refl _) _ hb (by decide))).1
      revert this; decide
  have hpre : isPrefixOfB [34] s = false := by
    cases s with
    | nil => exact absurd rfl hne
    | cons c t =>
      have := (hbyte c (by simp)).1
      simp [isPrefixOfB, this.symm]
  have hany : GoStrings.containsAny s [34, 39, 96] = false := by
    unfold GoStrings.containsAny
    rw [List.any_eq_false]
    intro b hb
    obtain ⟨h1, h2, h3⟩ := hbyte b hb
    simp [h1, h2, h3]
  simp [parseString, hpre, hany]

example : mustQuote [97, 47, 98] = false := by decide

theorem parseString_autoQuote (s : Bytes) : parseString (autoQuote s) = some (s, autoQuote s) := by
  cases h : mustQuote s with
  | false =>
    have : autoQuote s = s := by simp [autoQuote, h]
    rw [this]
    have := parseString_unquoted h
    rwa [‹autoQuote s = s›] at this
  | true =>
    have hq : autoQuote s = Quote.quote s := by simp [autoQuote, h]
    rw [hq]
    have hpre : isPrefixOfB [34] (Quote.quote s) = true := by rw [quote_eq_qbody]; simp [isPrefixOfB]
    simp only [parseString, hpre, if_true, unquote_quote, hq]

theorem parseString_tok {tok v tok' : Bytes} (h : parseString tok = some (v, tok')) : tok' = autoQuote v := by
  unfold parseString at h
  split at h
  · split at h
    · cases h
    · simp only [Option.some.injEq, Prod.mk.injEq] at h
      obtain ⟨rfl, rfl⟩ := h; rfl
  · split at h
    · cases h
    · simp only [Option.some.injEq, Prod.mk.injEq] at h
      obtain ⟨rfl, rfl⟩ := h; rfl

theorem parseString_idem {tok v tok' : Bytes} (h : parseString tok = some (v, tok')) :
    parseString tok' = some (v, tok') := by
  rw [parseString_tok h]
  exact parseString_autoQuote v

example : parseString [97] = some ([97], [97]) := by decide

end ModVerif.Proofs.ModfileFmtQuote
