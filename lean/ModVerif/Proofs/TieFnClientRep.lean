/-
  Tie proofs for the regenerated sumdb client (Generated/FnClient.lean), SHARED REPRESENTATION.

  * `GS σ = σ × List Client.Effect`: the state behind `ClientOps` on the generated side carries the model's state and the
    model's effect trace; `GW σ H = CW (GS σ) H` is the generated world.
  * `envOf P E : ClientEnv (GS σ) H`: the generated environment built from the model's `Params` / `Env` exactly as
    `Drv/GenClient.lean` builds its `env` (error texts "remote" / "cache" / "config", `ErrWriteConflict`); `envOf_driver`
    proves that the driver's `env` IS `envOf (shaParams …) replayEnv`.
  * `errAbs : String → Client.Err`: the abstraction of the error texts of the generated code to the model's error kinds
    (wrappers "%s@%s: %v", "initializing sumdb.Client: %v", "checking tree#…: %v" are transparent, as in the model), with
    `RepErr`, and the result relations `RepRes` (`α × Option String` against `Except Err α`), `RepUnit`, `RepCached`;
    `errAbs_lit` evaluates it on a literal text, `errAbs_of_prefix` on a text of which the first characters are known.
  * `toGen` (Proofs/TieFnTile.lean) embeds model tiles; it is injective on `TOk` tiles (`data → l = 0`).
  * `RepCore P E w cw`: what holds at every moment (state + trace, name, verifiers, nosumdb, the two parCache tables and
    `tileSaved` pointwise, `latest.N`, `latestMsg`); `RepRun` = core + tile height + `latest.Hash` (the running client,
    also inside `initWork` after the first assignments); `RepW` = core + `RepInit` (`initOnce`/`initErr` against `inited`;
    between two `Lookup` calls).  The tile / tree ties are stated on `RepCore` (+ `FrameG`/`FrameM`: what they leave alone).
  * `rep_init`: the initial worlds correspond (`cw0` is the driver's `w0`).
  * the six external operations: same answer, the generated world changes only in `s` (`readCache_eq`, …, `withS`).
  * `Ties Rep Fg Fm R ι w cw g m`: the statement every tie of the client has (the generated run returns; world and result
    represent the model's; the frames `Fg`, `Fm`), with the rules `Ties.ret` / `bind` / `bindF` / `after` / `ofCtl` by which
    a proof follows a generated function call by call.
-/
import ModVerif.Generated.FnClient
import ModVerif.Model.Client
import ModVerif.Proofs.TieFnTile
import ModVerif.Proofs.TieFnNoteUtf8
import ModVerif.Proofs.TieFnNoteOpen
import ModVerif.Proofs.GoRtLemmasTile
import ModVerif.Drv.GenModule
import ModVerif.Drv.GenClient
namespace ModVerif.TieFnClientRep
open ModVerif ModVerif.GoRt ModVerif.GoRtTile ModVerif.Generated.SumdbClient
open ModVerif.TieFnTile (toGen ofGen GTile)

/-- the state behind `ClientOps` on the generated side: the model's state and the model's effect trace -/
abbrev GS (σ : Type) := σ × List Client.Effect
abbrev GW (σ H : Type) := CW (GS σ) H

/-- the wrappers the model does not see (`fmt.Errorf("…: %v", err)` around an error the model passes on unchanged) -/
def passLits : List String :=
  ["%s@%s: %v", "initializing sumdb.Client: %v", "checking tree#%d: %v", "checking tree#%d against tree#%d: %v"]

def stripPass (l : List Char) : Option (List Char) :=
  passLits.findSome? fun lit => if (lit.toList ++ ['|']).isPrefixOf l then some (l.drop (lit.length + 1)) else none

def classify (l : List Char) : Client.Err :=
  let pre (p : String) : Bool := p.toList.isPrefixOf l
  if l = "ErrGONOSUMDB".toList then .gonosumdb
  else if l = "ErrSecurity".toList then .security
  else if l = "remote".toList then .remote
  else if l = "config".toList ∨ l = "cache".toList ∨ l = "ErrWriteConflict".toList then .config
  else if l = "errVerifierID".toList then .key .id
  else if l = "errVerifierAlg".toList then .key .alg
  else if l = "errVerifierHash".toList then .key .hash
  else if pre "InvalidPathError|" ∨ pre "InvalidVersionError|" ∨ l = "internal error: inconsistency in EscapePath".toList then .escape
  else if l = "errMalformedRecord".toList then .recordSyntax
  else if l = "cannot validate record %d in tree of size %d".toList then .recordId
  else if l = "cannot authenticate record data in server response".toList then .recordHash
  else if pre "reading tree note: %v\nnote:\n%s|" ∨ pre "reading tree: %v\ntree:\n%s|" then .note
  else if l = "TileReader returned bad result slice (%v len=%d, want %d)".toList then .tileLen
  else if l = "TileReader returned bad result slice (len=%d, want %d)".toList then .tlog .badTile
  else if l = "downloaded inconsistent tile".toList then .tlog .inconsistent
  else if l = "indexes not in tree".toList then .tlog .indexRange
  else if pre "bad math in tileHashReader" then .tlog .badMath
  else if l = "tlog: invalid inputs in ProveTree".toList ∨ l = "tlog: invalid inputs in ProveRecord".toList then .tlog .invalid
  else if l = "tlog: ReadHashes(%d indexes) = %d hashes".toList then .tlog .reader
  else .tlog .badTile

/-- fuel: the length of the text is enough (a wrapper stripped is at least one character) -/
def errAbsL : Nat → List Char → Client.Err
  | 0, l => classify l
  | f + 1, l =>
    match stripPass l with
    | some rest => errAbsL f rest
    | none => classify l

/-- the model's error kind of an error text of the generated code -/
def errAbs (s : String) : Client.Err := errAbsL s.length s.toList

def RepErr (g : Option String) (e : Client.Err) : Prop := ∃ s, g = some s ∧ errAbs s = e

theorem stripPass_length (l r : List Char) (h : stripPass l = some r) : r.length < l.length := by
  unfold stripPass at h
  obtain ⟨lit, _, h⟩ := List.exists_of_findSome?_eq_some h
  split at h
  · rename_i hp
    cases h
    have hl := (List.isPrefixOf_iff_prefix.mp hp).length_le
    simp only [List.length_append, List.length_cons, List.length_nil, String.length_toList] at hl
    simp only [List.length_drop]
    omega
  · cases h

theorem errAbsL_fuel : ∀ (f g : Nat) (l : List Char), l.length ≤ f → l.length ≤ g → errAbsL f l = errAbsL g l := by
  intro f
  induction f with
  | zero =>
    intro g l hf _
    cases g with
    | zero => rfl
    | succ g =>
      simp only [errAbsL]
      cases hs : stripPass l with
      | none => rfl
      | some r => have := stripPass_length l r hs; omega
  | succ f ih =>
    intro g l hf hg
    simp only [errAbsL]
    cases hs : stripPass l with
    | none => cases g <;> simp only [errAbsL, hs]
    | some r =>
      have := stripPass_length l r hs
      cases g with
      | zero => omega
      | succ g => simp only [errAbsL, hs]; exact ih g r (by omega) (by omega)

theorem errAbs_eq (s : String) (f : Nat) (hf : s.length ≤ f) : errAbs s = errAbsL f s.toList :=
  errAbsL_fuel _ _ _ (by rw [String.length_toList]; exact Nat.le_refl _) (by rw [String.length_toList]; exact hf)

/-! ### evaluating `errAbs`

The kernel decodes the UTF-8 bytes of a string literal slowly, and `classify` compares with some twenty of them.  The
texts are therefore kept a second time as lists of characters (`rules`, `passChars`), where they are decoded by nobody;
`classify_eq` and `stripPass_eq` carry `classify` and `stripPass` over, and a text is evaluated over the lists. -/

/-- The characters of a string literal, found by unification: `"ab"` unfolds to `String.ofList ['a', 'b']`. -/
abbrev charsOf (s : String) {l : List Char} (_ : s = String.ofList l := by rfl) : List Char := l

structure Rule where
  text : List Char
  pfx : Bool
  kind : Client.Err

def Rule.hit (r : Rule) (l : List Char) : Bool := if r.pfx then r.text.isPrefixOf l else l == r.text

/-- the rules of `classify`, in its order -/
def rules : List Rule :=
  [⟨charsOf "ErrGONOSUMDB", false, .gonosumdb⟩,
   ⟨charsOf "ErrSecurity", false, .security⟩,
   ⟨charsOf "remote", false, .remote⟩,
   ⟨charsOf "config", false, .config⟩,
   ⟨charsOf "cache", false, .config⟩,
   ⟨charsOf "ErrWriteConflict", false, .config⟩,
   ⟨charsOf "errVerifierID", false, .key .id⟩,
   ⟨charsOf "errVerifierAlg", false, .key .alg⟩,
   ⟨charsOf "errVerifierHash", false, .key .hash⟩,
   ⟨charsOf "InvalidPathError|", true, .escape⟩,
   ⟨charsOf "InvalidVersionError|", true, .escape⟩,
   ⟨charsOf "internal error: inconsistency in EscapePath", false, .escape⟩,
   ⟨charsOf "errMalformedRecord", false, .recordSyntax⟩,
   ⟨charsOf "cannot validate record %d in tree of size %d", false, .recordId⟩,
   ⟨charsOf "cannot authenticate record data in server response", false, .recordHash⟩,
   ⟨charsOf "reading tree note: %v\nnote:\n%s|", true, .note⟩,
   ⟨charsOf "reading tree: %v\ntree:\n%s|", true, .note⟩,
   ⟨charsOf "TileReader returned bad result slice (%v len=%d, want %d)", false, .tileLen⟩,
   ⟨charsOf "TileReader returned bad result slice (len=%d, want %d)", false, .tlog .badTile⟩,
   ⟨charsOf "downloaded inconsistent tile", false, .tlog .inconsistent⟩,
   ⟨charsOf "indexes not in tree", false, .tlog .indexRange⟩,
   ⟨charsOf "bad math in tileHashReader", true, .tlog .badMath⟩,
   ⟨charsOf "tlog: invalid inputs in ProveTree", false, .tlog .invalid⟩,
   ⟨charsOf "tlog: invalid inputs in ProveRecord", false, .tlog .invalid⟩,
   ⟨charsOf "tlog: ReadHashes(%d indexes) = %d hashes", false, .tlog .reader⟩]

def classifyBy : List Rule → List Char → Client.Err
  | [], _ => .tlog .badTile
  | r :: rs, l => if r.hit l then r.kind else classifyBy rs l

theorem ite_or {α : Sort _} (a b : Prop) [Decidable a] [Decidable b] (x y : α) :
    (if a ∨ b then x else y) = if a then x else if b then x else y := by
  by_cases ha : a <;> by_cases hb : b <;> simp [ha, hb]

theorem classify_eq (l : List Char) : classify l = classifyBy rules l := by
  simp only [classify]
  -- one literal at a time: `"…" =?= String.ofList ?l` finds its characters
  repeat rw [String.toList_ofList]
  simp only [ite_or, rules, classifyBy, Rule.hit, Bool.false_eq_true, if_false, if_true, beq_iff_eq]
  repeat rw [String.toList_ofList]

def passChars : List (List Char) :=
  [charsOf "%s@%s: %v", charsOf "initializing sumdb.Client: %v", charsOf "checking tree#%d: %v",
   charsOf "checking tree#%d against tree#%d: %v"]

theorem passChars_eq : passLits.map String.toList = passChars := by
  simp only [passLits, List.map]
  repeat rw [String.toList_ofList]
  rfl

def stripC (l : List Char) : Option (List Char) :=
  passChars.findSome? fun p => if (p ++ ['|']).isPrefixOf l then some (l.drop (p.length + 1)) else none

theorem stripPass_eq (l : List Char) : stripPass l = stripC l := by
  unfold stripPass stripC
  rw [← passChars_eq, List.findSome?_map]
  simp only [Function.comp_def, String.length_toList]

def errAbsC : Nat → List Char → Client.Err
  | 0, l => classifyBy rules l
  | f + 1, l =>
    match stripC l with
    | some rest => errAbsC f rest
    | none => classifyBy rules l

theorem errAbsL_eq (f : Nat) (l : List Char) : errAbsL f l = errAbsC f l := by
  induction f generalizing l with
  | zero => exact classify_eq l
  | succ f ih =>
    simp only [errAbsL, errAbsC, stripPass_eq, classify_eq]
    cases stripC l with
    | none => rfl
    | some r => exact ih r

/-- a literal text: `errAbs_lit "…" rfl (by decide)` -/
theorem errAbs_lit (s : String) {l : List Char} (h : s = String.ofList l) {k : Client.Err}
    (hk : errAbsC l.length l = k) : errAbs s = k := by
  subst h
  rw [errAbs, String.length_ofList, String.toList_ofList, errAbsL_eq, hk]

/-! A text of which only the first characters `p` are known has a kind if no wrapper and no rule up to the first that
hits `p` can match anything longer than `p`. -/

theorem not_isPrefixOf_append {p q : List Char} (h1 : q.isPrefixOf p = false) (h2 : p.isPrefixOf q = false)
    (rest : List Char) : q.isPrefixOf (p ++ rest) = false := by
  simp only [Bool.eq_false_iff, ne_eq, List.isPrefixOf_iff_prefix] at h1 h2 ⊢
  intro h
  exact (List.prefix_or_prefix_of_prefix h (List.prefix_append p rest)).elim h1 h2

/-- the kind of every text that starts with `p`, if the rules decide it from `p` alone -/
def kindOfPrefix (p : List Char) : List Rule → Option Client.Err
  | [] => some (.tlog .badTile)
  | r :: rs =>
    if r.pfx && r.text.isPrefixOf p then some r.kind
    else if p.isPrefixOf r.text then none
    else kindOfPrefix p rs

theorem classifyBy_append {p : List Char} {k : Client.Err} (rest : List Char) :
    ∀ {rs : List Rule}, kindOfPrefix p rs = some k → classifyBy rs (p ++ rest) = k
  | [], h => Option.some.inj h
  | r :: rs, h => by
    simp only [kindOfPrefix] at h
    simp only [classifyBy]
    split at h
    · rename_i hr
      simp only [Bool.and_eq_true] at hr
      have : r.hit (p ++ rest) = true := by
        rw [Rule.hit, hr.1, if_pos rfl, List.isPrefixOf_iff_prefix]
        exact (List.isPrefixOf_iff_prefix.mp hr.2).trans (List.prefix_append p rest)
      rw [if_pos this]; exact Option.some.inj h
    · rename_i hr
      split at h
      · cases h
      · rename_i hp
        have : r.hit (p ++ rest) = false := by
          rw [Rule.hit]
          cases hx : r.pfx with
          | true =>
            rw [hx] at hr
            simp only [Bool.true_and, Bool.not_eq_true] at hr hp
            rw [if_pos rfl]
            exact not_isPrefixOf_append hr hp rest
          | false =>
            simp only [Bool.false_eq_true, if_false, beq_eq_false_iff_ne]
            intro e
            apply hp
            rw [List.isPrefixOf_iff_prefix, ← e]
            exact List.prefix_append p rest
        rw [this]
        exact classifyBy_append rest h

def prefixKind (p : List Char) : Option Client.Err :=
  if passChars.all fun q => !(q ++ ['|']).isPrefixOf p && !p.isPrefixOf (q ++ ['|']) then kindOfPrefix p rules else none

theorem errAbs_of_prefix {s : String} {p rest : List Char} {k : Client.Err} (h : s.toList = p ++ rest)
    (hk : prefixKind p = some k) : errAbs s = k := by
  unfold prefixKind at hk
  split at hk
  · rename_i hp
    have hs : stripPass (p ++ rest) = none := by
      rw [stripPass_eq, stripC, List.findSome?_eq_none_iff]
      intro q hq
      have := List.all_eq_true.mp hp q hq
      simp only [Bool.and_eq_true, Bool.not_eq_eq_eq_not, Bool.not_true] at this
      rw [not_isPrefixOf_append this.1 this.2]
      rfl
    rw [errAbs, h]
    cases s.length with
    | zero => rw [errAbsL, classify_eq]; exact classifyBy_append rest hk
    | succ f => rw [errAbsL, hs, classify_eq]; exact classifyBy_append rest hk
  · cases hk

/-- `s ++ t` for a literal `s`: `errAbs_append "…" t rfl (by decide)` -/
theorem errAbs_append (s t : String) {l : List Char} (h : s = String.ofList l) {k : Client.Err}
    (hk : prefixKind l = some k) : errAbs (s ++ t) = k :=
  errAbs_of_prefix (by rw [String.toList_append, h, String.toList_ofList]) hk

/-- `fmt.Errorf(lit, …, err)` for a literal `lit` whose kind does not depend on `err` -/
theorem repErr_wrap (lit : String) (g : Option String) {l : List Char} (h : lit = String.ofList l)
    {k : Client.Err} (hk : prefixKind (l ++ ['|']) = some k) : RepErr (wrapErr lit g) k :=
  ⟨_, rfl, errAbs_of_prefix (rest := (g.getD "").toList)
    (by rw [String.toList_append, String.toList_append, h, String.toList_ofList]; rfl) hk⟩

theorem stripPass_lit (lit : String) (hl : lit ∈ passLits) (rest : List Char) :
    stripPass (lit.toList ++ '|' :: rest) = some rest := by
  have hm : lit.toList ∈ passChars := passChars_eq ▸ List.mem_map_of_mem hl
  simp only [passChars, List.mem_cons, List.mem_nil_iff, or_false] at hm
  rw [stripPass_eq]
  rcases hm with h | h | h | h <;> rw [h] <;> rfl

theorem errAbs_pass (lit : String) (hl : lit ∈ passLits) (inner : String) :
    errAbs (lit ++ "|" ++ inner) = errAbs inner := by
  rw [errAbs_eq (lit ++ "|" ++ inner) ((lit.length + inner.length) + 1)
    (by simp only [String.length_append]; have : "|".length = 1 := rfl; omega),
    errAbs_eq inner (lit.length + inner.length) (by omega)]
  have hst : stripPass (lit ++ "|" ++ inner).toList = some inner.toList := by
    have hbar : "|".toList = ['|'] := rfl
    rw [String.toList_append, String.toList_append, hbar, List.append_assoc]
    exact stripPass_lit lit hl _
  simp only [errAbsL, hst]

theorem errAbs_wrap (lit : String) (hl : lit ∈ passLits) (g : Option String) (e : Client.Err) (h : RepErr g e) :
    RepErr (wrapErr lit g) e := by
  obtain ⟨s, rfl, hs⟩ := h
  exact ⟨_, rfl, by simp only [Option.getD_some]; rw [errAbs_pass lit hl, hs]⟩

theorem errAbs_remote : errAbs "remote" = .remote := errAbs_lit _ rfl (by decide)
theorem errAbs_config : errAbs "config" = .config := errAbs_lit _ rfl (by decide)
theorem errAbs_cache : errAbs "cache" = .config := errAbs_lit _ rfl (by decide)
theorem errAbs_conflict : errAbs "ErrWriteConflict" = .config := errAbs_lit _ rfl (by decide)
theorem errAbs_gonosumdb : errAbs "ErrGONOSUMDB" = .gonosumdb := errAbs_lit _ rfl (by decide)
theorem errAbs_security : errAbs "ErrSecurity" = .security := errAbs_lit _ rfl (by decide)
theorem errAbs_recordSyntax : errAbs "errMalformedRecord" = .recordSyntax := errAbs_lit _ rfl (by decide)
theorem errAbs_recordId : errAbs "cannot validate record %d in tree of size %d" = .recordId := errAbs_lit _ rfl (by decide)
theorem errAbs_recordHash : errAbs "cannot authenticate record data in server response" = .recordHash :=
  errAbs_lit _ rfl (by decide)
theorem errAbs_keyId : errAbs "errVerifierID" = .key .id := errAbs_lit _ rfl (by decide)
theorem errAbs_keyAlg : errAbs "errVerifierAlg" = .key .alg := errAbs_lit _ rfl (by decide)
theorem errAbs_keyHash : errAbs "errVerifierHash" = .key .hash := errAbs_lit _ rfl (by decide)
theorem errAbs_inconsistent : errAbs "downloaded inconsistent tile" = .tlog .inconsistent := errAbs_lit _ rfl (by decide)
theorem errAbs_indexRange : errAbs "indexes not in tree" = .tlog .indexRange := errAbs_lit _ rfl (by decide)
theorem errAbs_tileLen : errAbs "TileReader returned bad result slice (%v len=%d, want %d)" = .tileLen :=
  errAbs_lit _ rfl (by decide)
theorem errAbs_invalidTree : errAbs "tlog: invalid inputs in ProveTree" = .tlog .invalid := errAbs_lit _ rfl (by decide)

def RepResR {α β : Type} (R : α → β → Prop) (p : α × Option String) : Except Client.Err β → Prop
  | .ok b => p.2 = none ∧ R p.1 b
  | .error e => RepErr p.2 e

abbrev RepRes {α : Type} (p : α × Option String) (r : Except Client.Err α) : Prop := RepResR Eq p r

def RepUnit (g : Option String) : Except Client.Err Unit → Prop
  | .ok () => g = none
  | .error e => RepErr g e

/-- an entry of a parCache table (`cached{data, err}`) against the model's entry -/
def RepCached (c : Cached) (r : Except Client.Err Bytes) : Prop := RepRes (c.data, c.err) r

def RepOpt {α β : Type} (R : α → β → Prop) : Option α → Option β → Prop
  | none, none => True
  | some a, some b => R a b
  | _, _ => False

theorem RepRes_ok {α : Type} (a : α) : RepRes (a, (none : Option String)) (.ok a) := ⟨rfl, rfl⟩

theorem RepRes_ok_iff {α : Type} (p : α × Option String) (a : α) : RepRes p (.ok a) ↔ p = (a, none) := by
  obtain ⟨x, e⟩ := p
  constructor
  · rintro ⟨h1, h2⟩; simp only at h1 h2; subst h1 h2; rfl
  · intro h; cases h; exact ⟨rfl, rfl⟩

theorem RepErr_isNone {g : Option String} {e : Client.Err} (h : RepErr g e) : g.isNone = false := by
  obtain ⟨s, rfl, _⟩ := h; rfl

theorem RepErr_not_isNone {g : Option String} {e : Client.Err} (h : RepErr g e) : (!g.isNone) = true := by
  rw [RepErr_isNone h]; rfl

/-- the tiles on which `toGen` is injective (`Tile.Path` does not print `l` for data tiles) -/
def TOk (t : Tile.Tile) : Prop := t.data = true → t.l = 0

theorem TOk_of_not_data (t : Tile.Tile) (h : t.data = false) : TOk t := by intro h'; rw [h] at h'; cases h'

theorem toGen_inj (t u : Tile.Tile) (ht : TOk t) (hu : TOk u) (h : toGen t = toGen u) : t = u := by
  have := congrArg ofGen h
  rwa [TieFnTile.ofGen_toGen t ht, TieFnTile.ofGen_toGen u hu] at this

theorem toGen_eq_iff (t u : Tile.Tile) (ht : TOk t) (hu : TOk u) : toGen t = toGen u ↔ t = u :=
  ⟨toGen_inj t u ht hu, fun h => by rw [h]⟩

section
variable {σ H : Type}

/-- a read operation of the model's environment as a read operation of the generated environment (as `Drv.GenClient.rd`) -/
def rdOf (f : σ → Bytes → Option Bytes × σ) (k : Client.ReadKind) (errText : String) (file : Bytes) (cw : GW σ H) :
    (Bytes × Option String) × GW σ H :=
  let r := f cw.s.1 file
  let tr := cw.s.2 ++ [Client.Effect.read k file r.1.isSome]
  match r.1 with
  | some d => ((d, none), { cw with s := (r.2, tr) })
  | none => (([], some errText), { cw with s := (r.2, tr) })

def writeResErr : Client.WriteRes → Option String
  | .ok => none
  | .conflict => some "ErrWriteConflict"
  | .error => some "config"

/-- the generated environment of a model `Params` / `Env` (as `Drv.GenClient.env`) -/
def envOf (P : Client.Params H) (E : Client.Env σ) : ClientEnv (GS σ) H :=
  { readRemote := rdOf E.readRemote .remote "remote"
    readCache := rdOf E.readCache .cache "cache"
    readConfig := rdOf E.readConfig .config "config"
    writeConfig := fun file old new cw =>
      let r := E.writeConfig cw.s.1 file old new
      (writeResErr r.1, { cw with s := (r.2, cw.s.2 ++ [Client.Effect.writeConfig file old new r.1]) })
    writeCache := fun file data cw =>
      ((), { cw with s := (E.writeCache cw.s.1 file data, cw.s.2 ++ [Client.Effect.writeCache file data]) })
    securityError := fun msg cw =>
      ((), { cw with s := (E.securityError cw.s.1 msg, cw.s.2 ++ [Client.Effect.securityError msg]) })
    node := P.node
    empty := P.empty
    recordHash := P.leaf
    ofBytes := P.dec
    toBytes := P.enc
    hashString := fun h => TlogNote.hashString (P.enc h)
    b64dec := TieFnNote.b64decI
    isSpace := TieFnNote.isSpaceI
    edVerify := P.edVerify
    shaSum := fun acc pre => pre ++ P.sha acc
    isLetter := fun r => P.isLetter r.toNat
    equalFold := Drv.GenModule.equalFoldI
    pathMatch := fun p n => (P.glob p n, none) }

/-- `c.name + "/latest"` of the generated code is the model's `latestFile` -/
theorem latestFile_eq (name : Bytes) : name ++ ([47, 108, 97, 116, 101, 115, 116] : Bytes) = Client.latestFile name := by
  have : ([47, 108, 97, 116, 101, 115, 116] : Bytes) = B "/latest" := by decide +kernel
  rw [this]; rfl

def headG (h : Client.Head H) : Generated.Tile.Tree H := { N := (h.n : Int), Hash := h.hash }

/-- `c.verifiers`: nothing before `initWork`, afterwards `note.VerifierList(verifier)` -/
def verifiersOf : List Note.Verifier → (Bytes → Int → (Generated.Note.Verifier × Option String))
  | [v] => verifierList1 (TieFnNote.toGV v)
  | _ => fun _ _ => (default, some "UnknownVerifierError")

/-- The CORE of the representation: everything that holds at every moment of a run (also inside `initWork`, where the
    generated `initDone` is already set and the model's `inited` is not yet).  It does not mention `initDone`, `initErr`,
    `inited`, `didLookup`, `tileHeight`, `latest.Hash`.
    * the two parCache tables and `tileSaved` are related pointwise (the generated `mapSet` appends or replaces in place,
      the model conses), tiles through `toGen` on `TOk` tiles. -/
structure RepCore (P : Client.Params H) (E : Client.Env σ) (w : Client.World σ H) (cw : GW σ H) : Prop where
  s : cw.s = (w.s, w.tr)
  name : cw.name = w.c.name
  verifiers : cw.verifiers = verifiersOf w.c.verifiers
  vlen : w.c.verifiers.length ≤ 1
  nosumdb : cw.nosumdb = P.nosumdb
  record : ∀ k, RepOpt RepCached (mapLookup cw.record k) (w.c.record.lookup k)
  tileCache : ∀ t, TOk t → RepOpt RepCached (mapLookup cw.tileCache (toGen t)) (w.c.tileCache.lookup t)
  latestN : cw.latest.N = (w.c.latest.n : Int)
  latestMsg : cw.latestMsg = w.c.latestMsg
  tileSaved : ∀ t, TOk t → (mapGet cw.tileSaved (toGen t) false).1 = w.c.tileSaved.contains t

/-- The representation while the client RUNS (from the point in `initWork` where the tile height and the hash of the
    empty tree have been set): the core, `c.tileHeight` is the model's `tileHeight P`, and the tree heads agree. -/
structure RepRun (P : Client.Params H) (E : Client.Env σ) (w : Client.World σ H) (cw : GW σ H) : Prop
    extends RepCore P E w cw where
  tileHeight : cw.tileHeight = (Client.tileHeight P : Int)
  latestHash : cw.latest.Hash = w.c.latest.hash

/-- `initOnce` / `initErr` / the fields `initWork` sets, against `inited`:
    * not yet run: `SetTileHeight`'s raw value (0 = default); `latest` is `NewClient`'s `{0, zero hash}` where the model
      has `{0, P.empty}` from the start (nothing reads the hash before `initWork` replaces it);
    * run without error: the client runs (`RepRun`);
    * run with an error: only the error matters (every later `Lookup` returns it). -/
def RepInit (P : Client.Params H) (w : Client.World σ H) (cw : GW σ H) : Prop :=
  match w.c.inited with
  | none => cw.initDone = false ∧ cw.initErr = none ∧ cw.tileHeight = (P.height : Int) ∧
      (w.c.latest.n = 0 → w.c.latest.hash = P.empty) ∧ (w.c.latest.n ≠ 0 → cw.latest.Hash = w.c.latest.hash)
  | some none => cw.initDone = true ∧ cw.initErr = none ∧ cw.tileHeight = (Client.tileHeight P : Int) ∧
      cw.latest.Hash = w.c.latest.hash
  | some (some e) => cw.initDone = true ∧ RepErr cw.initErr e

/-- The model world `w` is represented by the generated world `cw` (between two `Lookup` calls). -/
structure RepW (P : Client.Params H) (E : Client.Env σ) (w : Client.World σ H) (cw : GW σ H) : Prop
    extends RepCore P E w cw where
  init : RepInit P w cw

theorem RepRun.latest_eq {P : Client.Params H} {E : Client.Env σ} {w : Client.World σ H} {cw : GW σ H}
    (h : RepRun P E w cw) : cw.latest = headG w.c.latest := by
  have h1 := h.latestN
  have h2 := h.latestHash
  cases hc : cw.latest
  rw [hc] at h1 h2
  simp only at h1 h2
  subst h1 h2
  rfl

theorem RepW.run {P : Client.Params H} {E : Client.Env σ} {w : Client.World σ H} {cw : GW σ H}
    (h : RepW P E w cw) (hi : w.c.inited = some none) : RepRun P E w cw := by
  have := h.init
  unfold RepInit at this
  rw [hi] at this
  exact { toRepCore := h.toRepCore, tileHeight := this.2.2.1, latestHash := this.2.2.2 }

theorem RepRun.toW {P : Client.Params H} {E : Client.Env σ} {w : Client.World σ H} {cw : GW σ H}
    (h : RepRun P E w cw) (hi : w.c.inited = some none) (hd : cw.initDone = true) (he : cw.initErr = none) :
    RepW P E w cw := by
  refine { toRepCore := h.toRepCore, init := ?_ }
  unfold RepInit
  rw [hi]
  exact ⟨hd, he, h.tileHeight, h.latestHash⟩

/-- the generated fields no tile operation and no external operation touches -/
structure FrameG (cw cw' : GW σ H) : Prop where
  didLookup : cw'.didLookup = cw.didLookup
  initDone : cw'.initDone = cw.initDone
  initErr : cw'.initErr = cw.initErr
  name : cw'.name = cw.name
  verifiers : cw'.verifiers = cw.verifiers
  tileHeight : cw'.tileHeight = cw.tileHeight
  nosumdb : cw'.nosumdb = cw.nosumdb
  record : cw'.record = cw.record
  latest : cw'.latest = cw.latest
  latestMsg : cw'.latestMsg = cw.latestMsg

/-- the model fields no tile operation and no external operation touches -/
structure FrameM (w w' : Client.World σ H) : Prop where
  inited : w'.c.inited = w.c.inited
  name : w'.c.name = w.c.name
  verifiers : w'.c.verifiers = w.c.verifiers
  latest : w'.c.latest = w.c.latest
  latestMsg : w'.c.latestMsg = w.c.latestMsg
  record : w'.c.record = w.c.record

theorem FrameG.refl (cw : GW σ H) : FrameG cw cw := ⟨rfl, rfl, rfl, rfl, rfl, rfl, rfl, rfl, rfl, rfl⟩
theorem FrameM.refl (w : Client.World σ H) : FrameM w w := ⟨rfl, rfl, rfl, rfl, rfl, rfl⟩

theorem frameM_of_c {w w' : Client.World σ H} (h : w'.c = w.c) : FrameM w w' := by
  refine ⟨?_, ?_, ?_, ?_, ?_, ?_⟩ <;> rw [h]

theorem FrameG.trans {a b c : GW σ H} (h1 : FrameG a b) (h2 : FrameG b c) : FrameG a c :=
  ⟨h2.didLookup.trans h1.didLookup, h2.initDone.trans h1.initDone, h2.initErr.trans h1.initErr, h2.name.trans h1.name,
    h2.verifiers.trans h1.verifiers, h2.tileHeight.trans h1.tileHeight, h2.nosumdb.trans h1.nosumdb,
    h2.record.trans h1.record, h2.latest.trans h1.latest, h2.latestMsg.trans h1.latestMsg⟩

theorem FrameM.trans {a b c : Client.World σ H} (h1 : FrameM a b) (h2 : FrameM b c) : FrameM a c :=
  ⟨h2.inited.trans h1.inited, h2.name.trans h1.name, h2.verifiers.trans h1.verifiers, h2.latest.trans h1.latest,
    h2.latestMsg.trans h1.latestMsg, h2.record.trans h1.record⟩

theorem RepRun.of_frame {P : Client.Params H} {E : Client.Env σ} {w w' : Client.World σ H} {cw cw' : GW σ H}
    (h : RepRun P E w cw) (hc : RepCore P E w' cw') (fg : FrameG cw cw') (fm : FrameM w w') : RepRun P E w' cw' :=
  { toRepCore := hc
    tileHeight := by rw [fg.tileHeight]; exact h.tileHeight
    latestHash := by rw [fg.latest, fm.latest]; exact h.latestHash }

theorem RepW.of_frame {P : Client.Params H} {E : Client.Env σ} {w w' : Client.World σ H} {cw cw' : GW σ H}
    (h : RepW P E w cw) (hc : RepCore P E w' cw') (fg : FrameG cw cw') (fm : FrameM w w') : RepW P E w' cw' := by
  refine { toRepCore := hc, init := ?_ }
  have := h.init
  unfold RepInit at this ⊢
  rw [fm.inited, fm.latest, fg.initDone, fg.initErr, fg.tileHeight, fg.latest]
  exact this

def withS (cw : GW σ H) (w' : Client.World σ H) : GW σ H := { cw with s := (w'.s, w'.tr) }

theorem withS_frame (cw : GW σ H) (w' : Client.World σ H) : FrameG cw (withS cw w') :=
  ⟨rfl, rfl, rfl, rfl, rfl, rfl, rfl, rfl, rfl, rfl⟩

@[simp] theorem withS_tileCache (cw : GW σ H) (w' : Client.World σ H) : (withS cw w').tileCache = cw.tileCache := rfl
@[simp] theorem withS_tileSaved (cw : GW σ H) (w' : Client.World σ H) : (withS cw w').tileSaved = cw.tileSaved := rfl
@[simp] theorem withS_name (cw : GW σ H) (w' : Client.World σ H) : (withS cw w').name = cw.name := rfl
@[simp] theorem withS_s (cw : GW σ H) (w' : Client.World σ H) : (withS cw w').s = (w'.s, w'.tr) := rfl

theorem RepCore.withS {P : Client.Params H} {E : Client.Env σ} {w w' : Client.World σ H} {cw : GW σ H}
    (h : RepCore P E w cw) (hc : w'.c = w.c) : RepCore P E w' (withS cw w') := by
  obtain ⟨s', c', tr'⟩ := w'
  cases hc
  exact { h with s := rfl }

theorem RepRun.withS {P : Client.Params H} {E : Client.Env σ} {w w' : Client.World σ H} {cw : GW σ H}
    (h : RepRun P E w cw) (hc : w'.c = w.c) : RepRun P E w' (TieFnClientRep.withS cw w') :=
  h.of_frame (h.toRepCore.withS hc) (withS_frame _ _) (frameM_of_c hc)

/-- The statement every tie of the client has.  The generated computation `g`, run from `cw`, returns `ι (r', cw')` (`ι` is
    `id` for a function, `Ctl.ret` for a translated loop, which leaves by `return`); `cw'` and `r'` represent (`Rep`: `RepCore`
    or `RepRun`; `R`) the world and result `m` of the model's run from `w`; `Fg` and `Fm` say what the generated and the model's run left alone.
    The theorems of Tie/FnClientTiles.lean and Tie/FnClientMerge.lean are this, written out.  The ties that end in `RepW`
    (`initWork`, `init`, `Lookup`: between two lookups nothing is framed) and `SaveTiles` (no result) have fewer clauses and
    are written out too. -/
def Ties (Rep : Client.World σ H → GW σ H → Prop) (Fg : GW σ H → GW σ H → Prop)
    (Fm : Client.World σ H → Client.World σ H → Prop) {α β ρ : Type} (R : α → β → Prop) (ι : α × GW σ H → ρ)
    (w : Client.World σ H) (cw : GW σ H) (g : M ρ) (m : β × Client.World σ H) : Prop :=
  ∃ r' cw', g = .ok (ι (r', cw')) ∧ Rep m.2 cw' ∧ R r' m.1 ∧ Fg cw cw' ∧ Fm w m.2

/-- frames that compose.  The pairs in use: `FrameG` / `FrameM` (generated / model: what the tile layer and `checkTrees`
    leave alone); `FrameI` / `FrameJ` (Proofs/TieFnClientMergeSpec.lean; the letters are just the next ones: the same without
    `latest`, `latestMsg`, which `mergeLatest` replaces); `FrameD` with nothing on the model side
    (Proofs/TieFnClientLookupInit.lean; D for `initDone`: all `Lookup` needs of the calls below it). -/
structure Framing (Fg : GW σ H → GW σ H → Prop) (Fm : Client.World σ H → Client.World σ H → Prop) : Prop where
  reflG : ∀ a, Fg a a
  reflM : ∀ a, Fm a a
  transG : ∀ {a b c}, Fg a b → Fg b c → Fg a c
  transM : ∀ {a b c}, Fm a b → Fm b c → Fm a c

theorem framingG : Framing (σ := σ) (H := H) FrameG FrameM := ⟨FrameG.refl, FrameM.refl, FrameG.trans, FrameM.trans⟩

namespace Ties
variable {Rep : Client.World σ H → GW σ H → Prop} {Fg : GW σ H → GW σ H → Prop}
  {Fm : Client.World σ H → Client.World σ H → Prop}
  {α β γ δ ρ : Type} {R : α → β → Prop} {R2 : γ → δ → Prop} {w : Client.World σ H} {cw : GW σ H}

theorem ret (fr : Framing Fg Fm) {ι : α × GW σ H → ρ} {a : α} {b : β} (hr : Rep w cw) (h : R a b) :
    Ties Rep Fg Fm R ι w cw (pure (ι (a, cw))) (b, w) :=
  ⟨a, cw, rfl, hr, h, fr.reflG _, fr.reflM _⟩

/-- the callee may have narrower frames `Fg0`, `Fm0`, which the rest may use -/
theorem bindF (fr : Framing Fg Fm) {Fg0 : GW σ H → GW σ H → Prop} {Fm0 : Client.World σ H → Client.World σ H → Prop}
    (hF : ∀ {a b}, Fg0 a b → Fg a b) (hJ : ∀ {a b}, Fm0 a b → Fm a b) {ι : γ × GW σ H → ρ} {g1 : M (α × GW σ H)}
    {m1 : β × Client.World σ H} {k : α × GW σ H → M ρ} {m2 : δ × Client.World σ H} (h1 : Ties Rep Fg0 Fm0 R id w cw g1 m1)
    (h2 : ∀ a cw1, Rep m1.2 cw1 → R a m1.1 → Fg0 cw cw1 → Fm0 w m1.2 →
      Ties Rep Fg Fm R2 ι m1.2 cw1 (k (a, cw1)) m2) :
    Ties Rep Fg Fm R2 ι w cw (g1 >>= k) m2 := by
  obtain ⟨a, cw1, e1, rr1, rs1, f1, j1⟩ := h1
  obtain ⟨c, cw2, e2, rr2, rs2, f2, j2⟩ := h2 a cw1 rr1 rs1 f1 j1
  exact ⟨c, cw2, by rw [e1]; exact e2, rr2, rs2, fr.transG (hF f1) f2, fr.transM (hJ j1) j2⟩

theorem bind (fr : Framing Fg Fm) {ι : γ × GW σ H → ρ} {g1 : M (α × GW σ H)} {m1 : β × Client.World σ H}
    {k : α × GW σ H → M ρ} {m2 : δ × Client.World σ H} (h1 : Ties Rep Fg Fm R id w cw g1 m1)
    (h2 : ∀ a cw1, Rep m1.2 cw1 → R a m1.1 → Ties Rep Fg Fm R2 ι m1.2 cw1 (k (a, cw1)) m2) :
    Ties Rep Fg Fm R2 ι w cw (g1 >>= k) m2 :=
  bindF fr id id h1 fun a cw1 rr rs _ _ => h2 a cw1 rr rs

/-- a step that is not a call (an external operation, an assignment): go on from the worlds after it -/
theorem after (fr : Framing Fg Fm) {ι : α × GW σ H → ρ} {w1 : Client.World σ H} {cw1 : GW σ H} {g : M ρ} {m : β × Client.World σ H}
    (f0 : Fg cw cw1) (j0 : Fm w w1) (h : Ties Rep Fg Fm R ι w1 cw1 g m) : Ties Rep Fg Fm R ι w cw g m := by
  obtain ⟨a, cw2, e, rr, rs, f, j⟩ := h
  exact ⟨a, cw2, e, rr, rs, fr.transG f0 f, fr.transM j0 j⟩

/-- the function around a translated loop: what the loop returns -/
theorem ofCtl {ν : Type} {g : M (Ctl (α × GW σ H) ν)} {m : β × Client.World σ H} {k : Ctl (α × GW σ H) ν → M (α × GW σ H)}
    (hk : ∀ x, k (Ctl.ret x) = pure x) (h : Ties Rep Fg Fm R Ctl.ret w cw g m) : Ties Rep Fg Fm R id w cw (g >>= k) m := by
  obtain ⟨r', cw', e, rest⟩ := h
  exact ⟨r', cw', by rw [e]; exact hk _, rest⟩

end Ties

/-- the generated initial world (`NewClient` + `SetTileHeight` + `SetGONOSUMDB`); `z` is the zero hash -/
def cw0 (P : Client.Params H) (s : σ) (z : H) : GW σ H :=
  { s := (s, []), didLookup := 0, initDone := false, initErr := none, name := [],
    verifiers := fun _ _ => (default, some "UnknownVerifierError"), tileHeight := (P.height : Int), nosumdb := P.nosumdb,
    record := [], tileCache := [], latest := { N := 0, Hash := z }, latestMsg := [], tileSaved := [] }

theorem rep_init (P : Client.Params H) (E : Client.Env σ) (s : σ) (z : H) :
    RepW P E { s := s, c := Client.newClient P, tr := [] } (cw0 P s z) :=
  { s := rfl, name := rfl, verifiers := rfl, vlen := Nat.zero_le _,
    nosumdb := rfl, record := fun _ => trivial, tileCache := fun _ _ => trivial, latestN := rfl,
    latestMsg := rfl, tileSaved := fun _ _ => rfl,
    init := ⟨rfl, rfl, rfl, fun _ => rfl, fun h => absurd rfl h⟩ }

def readOut (errText : String) : Option Bytes → Bytes × Option String
  | some d => (d, none)
  | none => ([], some errText)

theorem readOut_some (t : String) (d : Bytes) : readOut t (some d) = (d, none) := rfl
theorem readOut_none (t : String) : readOut t none = ([], some t) := rfl

theorem rdOf_eq (f : σ → Bytes → Option Bytes × σ) (k : Client.ReadKind) (errText : String) (file : Bytes) (cw : GW σ H) :
    rdOf f k errText file cw =
      (readOut errText (f cw.s.1 file).1,
        { cw with s := ((f cw.s.1 file).2, cw.s.2 ++ [Client.Effect.read k file (f cw.s.1 file).1.isSome]) }) := by
  unfold rdOf readOut
  generalize f cw.s.1 file = r
  obtain ⟨a, b⟩ := r
  cases a <;> rfl

variable {P : Client.Params H} {E : Client.Env σ} {w : Client.World σ H} {cw : GW σ H}

theorem readCache_eq (hs : cw.s = (w.s, w.tr)) (file : Bytes) :
    (envOf P E).readCache file cw =
      (readOut "cache" (Client.readCache E w file).1, withS cw (Client.readCache E w file).2) := by
  show rdOf E.readCache .cache "cache" file cw = _
  rw [rdOf_eq, hs]; rfl

theorem readRemote_eq (hs : cw.s = (w.s, w.tr)) (file : Bytes) :
    (envOf P E).readRemote file cw =
      (readOut "remote" (Client.readRemote E w file).1, withS cw (Client.readRemote E w file).2) := by
  show rdOf E.readRemote .remote "remote" file cw = _
  rw [rdOf_eq, hs]; rfl

theorem readConfig_eq (hs : cw.s = (w.s, w.tr)) (file : Bytes) :
    (envOf P E).readConfig file cw =
      (readOut "config" (Client.readConfig E w file).1, withS cw (Client.readConfig E w file).2) := by
  show rdOf E.readConfig .config "config" file cw = _
  rw [rdOf_eq, hs]; rfl

theorem writeCache_eq (hs : cw.s = (w.s, w.tr)) (file data : Bytes) :
    (envOf P E).writeCache file data cw = ((), withS cw (Client.writeCache E w file data)) := by
  show ((), ({ cw with s := _ } : GW σ H)) = _
  rw [hs]; rfl

theorem securityError_eq (hs : cw.s = (w.s, w.tr)) (msg : Bytes) :
    (envOf P E).securityError msg cw = ((), withS cw (Client.securityError E w msg)) := by
  show ((), ({ cw with s := _ } : GW σ H)) = _
  rw [hs]; rfl

theorem writeConfig_eq (hs : cw.s = (w.s, w.tr)) (file old new : Bytes) :
    (envOf P E).writeConfig file old new cw =
      (writeResErr (Client.writeConfig E w file old new).1, withS cw (Client.writeConfig E w file old new).2) := by
  show (writeResErr _, ({ cw with s := _ } : GW σ H)) = _
  rw [hs]; rfl

theorem readCache_c (file : Bytes) : (Client.readCache E w file).2.c = w.c := rfl
theorem readRemote_c (file : Bytes) : (Client.readRemote E w file).2.c = w.c := rfl
theorem readConfig_c (file : Bytes) : (Client.readConfig E w file).2.c = w.c := rfl
theorem writeCache_c (file data : Bytes) : (Client.writeCache E w file data).c = w.c := rfl
theorem securityError_c (msg : Bytes) : (Client.securityError E w msg).c = w.c := rfl
theorem writeConfig_c (file old new : Bytes) : (Client.writeConfig E w file old new).2.c = w.c := rfl

end

/-- the parameters of the correspondence run (`Drv.Client.shaParams`), with the `copy(h[:], …)` of the generated side
    (`ofBytes32`: pad / cut to 32 bytes; the identity on the 32-byte strings both sides ever decode) as `dec` -/
def driverParams (h : Nat) (nosumdb pub : Bytes) (table : List (Bytes × Bytes)) : Client.Params Bytes :=
  { Drv.Client.shaParams h nosumdb pub table with dec := Drv.GenClient.ofBytes32 }

/-- the environment the regenerated client is executed with on every check (`Drv.GenClient.env`) is `envOf` of the
    parameters and the replay environment the hand model is executed with -/
theorem envOf_driver (h : Nat) (nosumdb pub : Bytes) (table : List (Bytes × Bytes)) :
    Drv.GenClient.env pub table = envOf (driverParams h nosumdb pub table) Drv.Client.replayEnv := rfl

/-- the initial world of the correspondence run (`w0` in `Drv.GenClient.handle`) is `cw0` -/
example (h : Nat) (nosumdb pub : Bytes) (table : List (Bytes × Bytes)) (reads : List (Client.ReadKind × Bytes × Option Bytes))
    (writes : List Client.WriteRes) :
    ({ s := ({ reads := reads, writes := writes }, []), didLookup := 0, initDone := false, initErr := none, name := [],
       verifiers := fun _ _ => (default, some "UnknownVerifierError"), tileHeight := h, nosumdb := nosumdb, record := [],
       tileCache := [], latest := { N := 0, Hash := List.replicate 32 0 }, latestMsg := [], tileSaved := [] } : Drv.GenClient.W) =
      cw0 (driverParams h nosumdb pub table) { reads := reads, writes := writes } (List.replicate 32 0) := rfl

end ModVerif.TieFnClientRep
