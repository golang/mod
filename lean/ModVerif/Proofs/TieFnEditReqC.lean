/-
  Helper lemmas for Tie/FnEditReq.lean: `File_AddExclude` of the regenerated go.mod edit operations
  (Generated/FnEdit.lean) against the model's `addExclude` (`lastWith`, `addLinePtr`), and the part of the representation
  that `addReplace` works on (`RepR`: syntax graph + `Replace` list; `FrameR`: what it leaves alone), shared by go.mod and
  go.work.

  `AddLinePtrSpec` is the simulation statement of `FileSyntax_addLine … (Expr.Line hint) …` with a `*Line` variable that may be
  nil (it IS `Tie.FnEditAddLine.addLinePtr_tie`; discharged in Tie/FnEditReq.lean).
-/
import ModVerif.Proofs.TieFnEditReqB
import ModVerif.Tie.FnModfileCmp
namespace ModVerif.Tie.FnEditReqC
open ModVerif ModVerif.GoRt ModVerif.Generated.Edit ModVerif.Tie.FnEditRep ModVerif.Tie.FnEditTreeA ModVerif.Tie.FnEditReqA
  ModVerif.Tie.FnEditReqB ModVerif.Tie.FnEditTyped
open ModVerif.Modfile.Edit (clearAll firstRest markAll markRemoved deref nilId EditErr EFile addLine addLinePtr addLineWalk Hint mkLine
  insertAfterId loc locStmt treeIds lastWith)
open ModVerif.TieFnEditAddLine (nodeCount Frame)
open ModVerif.Drv.GenEdit (isPrintI quoteI)

/-- the simulation statement of `FileSyntax_addLine … (Expr.Line hint) …` (it IS `Tie.FnEditAddLine.addLinePtr_tie`);
    discharged in Tie/FnEditReq.lean (`addLinePtrSpec_holds`) and Tie/FnEditWork.lean (`addLinePtrSpec`) -/
def AddLinePtrSpec : Prop :=
  ∀ (h : Heap) (x : Int) (fs : Modfile.FileSyntax) (hint : Option Nat) (t0 : Bytes) (trest : List Bytes) (fuel : Nat),
    RepSyn h x fs → BlockTokOK fs.stmts → nodeCount fs.stmts + 3 ≤ fuel →
    ∃ h', FileSyntax_addLine fuel x (Expr.Line ((hint.getD 0 : Nat) : Int)) (t0 :: trest) h =
        .ok (((h.lines.length + 1 : Nat) : Int), h') ∧
      RepSyn h' x (addLinePtr fs hint (t0 :: trest) (h.lines.length + 1)) ∧
      BlockTokOK (addLinePtr fs hint (t0 :: trest) (h.lines.length + 1)).stmts ∧ (LinesG h → LinesG h') ∧
      h'.lines.length = h.lines.length + 1 ∧ Frame h h'

theorem addLinePtr_new (fs : Modfile.FileSyntax) (hint : Option Nat) (tokens : List Bytes) (new : Nat) :
    ∃ q ∈ loc (addLinePtr fs hint tokens new).stmts, IsNew new q.2 := by
  have happ : ∃ q ∈ loc (fs.stmts ++ [Modfile.Expr.line (mkLine new tokens false)]), IsNew new q.2 :=
    ⟨([], mkLine new tokens false), by simp [locStmt, loc], isNew_mkLine _ _ _⟩
  unfold addLinePtr
  cases hint with
  | none => exact happ
  | some id =>
    dsimp only
    split
    · exact happ
    · exact addLine_new fs (some id) tokens new

theorem addLinePtr_syn (A : AddLinePtrSpec) {h : Heap} {x : Int} {fs : Modfile.FileSyntax} (r : RepSyn h x fs)
    (htok : BlockTokOK fs.stmts) (hG : LinesG h) (hint : Option Nat) (t0 : Bytes) (trest : List Bytes) (fuel : Nat)
    (hf : nodeCount fs.stmts + 3 ≤ fuel) :
    ∃ h' l, FileSyntax_addLine fuel x (Expr.Line ((hint.getD 0 : Nat) : Int)) (t0 :: trest) h =
        .ok (((h.lines.length + 1 : Nat) : Int), h') ∧ Frame h h' ∧ h'.lines.length = h.lines.length + 1 ∧
      RepSyn h' x (addLinePtr fs hint (t0 :: trest) (h.lines.length + 1)) ∧
      BlockTokOK (addLinePtr fs hint (t0 :: trest) (h.lines.length + 1)).stmts ∧ LinesG h' ∧
      heapGet h'.lines ((h.lines.length + 1 : Nat) : Int) = .ok (lineG l) ∧ IsNew (h.lines.length + 1) l ∧
      (addLinePtr fs hint (t0 :: trest) (h.lines.length + 1)).findLine (h.lines.length + 1) = some l := by
  obtain ⟨h', h1, h2, h3, h4, h5, h6⟩ := A h x fs hint t0 trest fuel r htok hf
  obtain ⟨q, hq, hnew⟩ := addLinePtr_new fs hint (t0 :: trest) (h.lines.length + 1)
  obtain ⟨es, r'⟩ := h2
  have hloc := (r'.stmts.loc q hq).2.2
  rw [hnew.1] at hloc
  have hfind := Modfile.Edit.findLine_of_loc _ r'.nodupL q hq
  rw [hnew.1] at hfind
  exact ⟨h', q.2, h1, h6, h5, ⟨es, r'⟩, h3, h4 hG, hloc, hnew, hfind⟩

/-- the scan of `AddExclude`: returns at an exact match, else the hint is the last entry with the same path -/
theorem AddExclude_loop_eq (f : Int) (path vers : Bytes) (h : Heap) (nl : Nat) :
    ∀ (suf : List Int) (xsuf : List Modfile.Exclude) (pre : List Int) (acc : Option Nat) (fuel : Nat),
      REntsL h.excludes excludeG (·.lineId) nl suf xsuf → suf.length + 1 ≤ fuel →
      File_AddExclude_loop1 isPrintI quoteI (pre ++ suf) f path vers h fuel (pre.length : Int) ((acc.getD 0 : Nat) : Int) =
        if xsuf.any (fun x => x.mod.path == path && x.mod.version == vers) = true then .ok (Ctl.ret (none, h))
        else .ok (Ctl.next (len (pre ++ suf),
          (((lastWith (fun x : Modfile.Exclude => x.mod.path == path) (·.lineId) xsuf acc).getD 0 : Nat) : Int)))
  | [], xsuf, pre, acc, fuel, rel, hf => by
    obtain ⟨fuel, rfl⟩ : ∃ k, fuel = k + 1 := ⟨fuel - 1, by omega⟩
    cases xsuf with
    | cons _ _ => exact rel.elim
    | nil =>
      unfold File_AddExclude_loop1
      simp [lastWith, len_eq]
  | r :: suf, xsuf, pre, acc, fuel, rel, hf => by
    obtain ⟨fuel, rfl⟩ : ∃ k, fuel = k + 1 := ⟨fuel - 1, by omega⟩
    cases xsuf with
    | nil => exact rel.elim
    | cons x xsuf =>
      have hg := rel.1.1
      have ih := fun acc' => AddExclude_loop_eq f path vers h nl suf xsuf (pre ++ [r]) acc' fuel rel.2 (by simp at hf; omega)
      simp only [List.append_assoc, List.singleton_append] at ih
      conv => lhs; unfold File_AddExclude_loop1
      simp only [lt_len_mid, decide_true, if_true, idxL_mid, bind_ok, hg, List.any_cons, lastWith]
      by_cases hp : x.mod.path = path
      · have h1 : decide ((excludeG x).Mod.Path = path) = true := decide_eq_true hp
        have hp' : (x.mod.path == path) = true := by simpa using hp
        rw [if_pos h1]
        simp only [bind_ok, pure_eq_ok]
        by_cases hv : x.mod.version = vers
        · have h3 : decide ((excludeG x).Mod.Version = vers) = true := decide_eq_true hv
          have hv' : (x.mod.version == vers) = true := by simpa using hv
          rw [if_pos h3]
          simp [hp', hv']
        · have h3 : ¬ (decide ((excludeG x).Mod.Version = vers) = true) := by
            intro hd; exact hv (of_decide_eq_true hd)
          have hv' : (x.mod.version == vers) = false := by simpa using hv
          rw [if_neg h3, if_pos h1]
          simp only [hp', hv', Bool.and_false, Bool.false_or, if_true]
          have := ih (some x.lineId)
          simp only [Option.getD_some] at this
          rw [← this, ← succ_len_snoc pre r]; rfl
      · have h1 : ¬ (decide ((excludeG x).Mod.Path = path) = true) := by
          intro hd; exact hp (of_decide_eq_true hd)
        have hp' : (x.mod.path == path) = false := by simpa using hp
        rw [if_neg h1]
        simp only [bind_ok, pure_eq_ok, Bool.false_eq_true, if_false]
        rw [if_neg h1]
        simp only [hp', Bool.false_and, Bool.false_or, Bool.false_eq_true, if_false]
        have := ih acc
        rw [← this, ← succ_len_snoc pre r]

theorem checkCanonicalVersion_ok (fuel : Nat) (path vers : Bytes) (hf1 : path.length + 1 ≤ fuel) (hf2 : 2 * vers.length ≤ fuel) :
    ∃ err, checkCanonicalVersion fuel path vers = .ok err ∧ (err = none ↔ Modfile.Edit.checkCanonicalVersion path vers = true) := by
  rw [FnEditTreeB.checkCanonicalVersion_eq]
  exact Tie.FnModfileCmp.checkCanonicalVersion_nil_iff fuel path vers hf1 hf2

def exclTokens (path vers : Bytes) : List Bytes := [B "exclude", Modfile.autoQuote path, vers]

theorem File_AddExclude_sim (A : AddLinePtrSpec) {h : Heap} {fp : Int} {e : EFile} (R : RepF h fp e) (path vers : Bytes) (fuel : Nat)
    (hf1 : path.length + 1 ≤ fuel) (hf2 : 2 * vers.length ≤ fuel) (hf3 : e.f.exclude.length + 1 ≤ fuel)
    (hf4 : nodeCount e.f.syn.stmts + 3 ≤ fuel) :
    match Modfile.Edit.addExclude e path vers with
    | .ok e' => ∃ h', File_AddExclude isPrintI quoteI fuel fp path vers h = .ok (none, h') ∧ RepF h' fp e'
    | .error err => err = .invalidVersion ∧ ∃ s, File_AddExclude isPrintI quoteI fuel fp path vers h = .ok (some s, h) := by
  obtain ⟨o, ho, R⟩ := R
  obtain ⟨err, hc1, hc2⟩ := checkCanonicalVersion_ok fuel path vers hf1 hf2
  unfold File_AddExclude Modfile.Edit.addExclude
  simp only [hc1, bind_ok]
  by_cases hv : Modfile.Edit.checkCanonicalVersion path vers = true
  · have he : err = none := hc2.2 hv
    subst he
    simp only [hv, Bool.not_true, Bool.false_eq_true, if_false, Option.isNone_none, ho, bind_ok]
    have hlen := R.exclude.rel.length
    have hloop := AddExclude_loop_eq fp path vers h h.lines.length o.Exclude e.f.exclude [] none fuel R.exclude.rel (by omega)
    simp only [List.nil_append, List.length_nil, Option.getD_none] at hloop
    rw [show ((0 : Nat) : Int) = 0 from rfl] at hloop
    rw [hloop]
    by_cases hany : (e.f.exclude.any fun x => x.mod.path == path && x.mod.version == vers) = true
    · simp only [hany, if_true, bind_ok, pure_eq_ok]
      exact ⟨h, rfl, o, ho, R⟩
    · simp only [hany, Bool.false_eq_true, if_false, bind_ok, AutoQuote_ok path fuel hf1]
      obtain ⟨h1, l, a1, F, hlen1, rs, ht, hG, hl, hnew, _⟩ := addLinePtr_syn A R.syn R.tok R.linesG
        (lastWith (fun x : Modfile.Exclude => x.mod.path == path) (·.lineId) e.f.exclude none) (B "exclude")
        [Modfile.autoQuote path, vers] fuel hf4
      have hB : ([101, 120, 99, 108, 117, 100, 101] : Bytes) = B "exclude" := by decide +kernel
      rw [hB, a1]
      simp only [bind_ok, heapAlloc]
      have hn := R.next
      have R1 := R.ofSyn F.sameTyped (by omega) rs ht hG
      have R2 := R1.withExclude (R1.exclude.push { mod := { path := path, version := vers }, lineId := h.lines.length + 1 } (by simp [hlen1]))
      have hm : h1.mods = h.mods := F.mods
      obtain ⟨m, hset, RF⟩ := RepF.ofSetMods (h := _) (fp := fp) (o := o) (by show heapGet h1.mods fp = .ok o; rw [hm]; exact ho) R2
      have hg1 : heapGet h1.mods fp = .ok o := by rw [hm]; exact ho
      have hset' : heapSet h1.mods fp { o with Exclude := o.Exclude ++ [((h1.excludes.length + 1 : Nat) : Int)] } = .ok m := hset
      simp only [hg1, bind_ok, hset', pure_eq_ok]
      refine ⟨_, rfl, ?_⟩
      rw [hn]
      rw [hlen1] at RF
      exact RF
  · have he : err ≠ none := fun hne => hv (hc2.1 hne)
    have hv' : Modfile.Edit.checkCanonicalVersion path vers = false := by simpa using hv
    obtain ⟨s, rfl⟩ : ∃ s, err = some s := by
      cases err with
      | none => exact absurd rfl he
      | some s => exact ⟨s, rfl⟩
    simp only [hv', Bool.not_false, if_true, Option.isNone_some, pure_eq_ok]
    exact ⟨trivial, s, rfl⟩

structure RepR (h : Heap) (x : Int) (ps : List Int) (fs : Modfile.FileSyntax) (rp : List Modfile.Replace) : Prop where
  syn : RepSyn h x fs
  tok : BlockTokOK fs.stmts
  linesG : LinesG h
  replace : REnts h.replaces replaceG (·.lineId) h.lines.length ps rp

structure FrameR (h h' : Heap) : Prop where
  excludes : h'.excludes = h.excludes
  mods : h'.mods = h.mods
  gos : h'.gos = h.gos
  godebugs : h'.godebugs = h.godebugs
  modules : h'.modules = h.modules
  requires : h'.requires = h.requires
  retracts : h'.retracts = h.retracts
  tools : h'.tools = h.tools
  toolchains : h'.toolchains = h.toolchains
  uses : h'.uses = h.uses
  works : h'.works = h.works
  lines : h.lines.length ≤ h'.lines.length

theorem FrameR.refl (h : Heap) : FrameR h h := ⟨rfl, rfl, rfl, rfl, rfl, rfl, rfl, rfl, rfl, rfl, rfl, Nat.le_refl _⟩

theorem FrameR.trans {h1 h2 h3 : Heap} (a : FrameR h1 h2) (b : FrameR h2 h3) : FrameR h1 h3 :=
  ⟨b.excludes.trans a.excludes, b.mods.trans a.mods, b.gos.trans a.gos, b.godebugs.trans a.godebugs,
   b.modules.trans a.modules, b.requires.trans a.requires, b.retracts.trans a.retracts,
   b.tools.trans a.tools, b.toolchains.trans a.toolchains, b.uses.trans a.uses, b.works.trans a.works,
   Nat.le_trans a.lines b.lines⟩

theorem FrameR.setLineH (h : Heap) (p : Int) (l : Modfile.Line) : FrameR h (FnEditRep.setLineH h p l) :=
  ⟨rfl, rfl, rfl, rfl, rfl, rfl, rfl, rfl, rfl, rfl, rfl, by simp⟩

theorem FrameR.setReplaces (h : Heap) (v : List Replace) : FrameR h { h with replaces := v } :=
  ⟨rfl, rfl, rfl, rfl, rfl, rfl, rfl, rfl, rfl, rfl, rfl, Nat.le_refl _⟩

theorem FrameR.ofFrame {h h' : Heap} (F : Frame h h') (hl : h.lines.length ≤ h'.lines.length) : FrameR h h' :=
  ⟨F.excludes, F.mods, F.gos, F.godebugs, F.modules, F.requires, F.retracts, F.tools, F.toolchains, F.uses, F.works, hl⟩

theorem RepR.setLine {h : Heap} {x : Int} {ps : List Int} {fs : Modfile.FileSyntax} {rp : List Modfile.Replace}
    (R : RepR h x ps fs rp) {p : Int} {l0 : Modfile.Line} {g : Modfile.Line → Modfile.Line} (hg : IdEquiv g)
    (hget : heapGet h.lines p = .ok (lineG l0)) : RepR (FnEditRep.setLineH h p (g l0)) x ps (fs.updateLine p.toNat g) rp where
  syn := R.syn.setLineH hg hget
  tok := R.tok.updateLine _ _
  linesG := R.linesG.setLineH _ _
  replace := by simpa using R.replace

theorem RepR.setReplace {h : Heap} {x : Int} {ps : List Int} {fs : Modfile.FileSyntax} {rp : List Modfile.Replace}
    (R : RepR h x ps fs rp) {i : Nat} {r : Int} (hi : ps[i]? = some r) (y : Modfile.Replace) (hy : y.lineId ≤ h.lines.length) :
    RepR { h with replaces := h.replaces.set (r.toNat - 1) (replaceG y) } x ps fs (rp.set i y) where
  syn := RepSyn.congr (h := h) (h' := { h with replaces := h.replaces.set (r.toNat - 1) (replaceG y) }) rfl rfl rfl rfl R.syn
  tok := R.tok
  linesG := LinesG.congr (h := h) (h' := { h with replaces := h.replaces.set (r.toNat - 1) (replaceG y) }) R.linesG rfl
  replace := R.replace.set hi y hy

theorem RepR.pushReplace {h : Heap} {x : Int} {ps : List Int} {fs : Modfile.FileSyntax} {rp : List Modfile.Replace}
    (R : RepR h x ps fs rp) (y : Modfile.Replace) (hy : y.lineId ≤ h.lines.length) :
    RepR { h with replaces := h.replaces ++ [replaceG y] } x (ps ++ [((h.replaces.length + 1 : Nat) : Int)]) fs (rp ++ [y]) where
  syn := RepSyn.congr (h := h) (h' := { h with replaces := h.replaces ++ [replaceG y] }) rfl rfl rfl rfl R.syn
  tok := R.tok
  linesG := LinesG.congr (h := h) (h' := { h with replaces := h.replaces ++ [replaceG y] }) R.linesG rfl
  replace := R.replace.push y hy

theorem RepFAt.toRepR {h : Heap} {o : File} {e : EFile} (R : RepFAt h o e) : RepR h o.Syntax o.Replace e.f.syn e.f.replace :=
  ⟨R.syn, R.tok, R.linesG, R.replace⟩

theorem RepFAt.ofRepR {h h' : Heap} {o : File} {e : EFile} (R : RepFAt h o e) (F : FrameR h h') {ps : List Int}
    {fs : Modfile.FileSyntax} {rp : List Modfile.Replace} (Rr : RepR h' o.Syntax ps fs rp) :
    RepFAt h' { o with Replace := ps } { f := { e.f with syn := fs, replace := rp }, next := h'.lines.length + 1 } where
  syn := Rr.syn
  tok := Rr.tok
  linesG := Rr.linesG
  next := rfl
  module := R.module.mono (get_of_eq F.modules) F.lines
  go := R.go.mono (get_of_eq F.gos) F.lines
  toolchain := R.toolchain.mono (get_of_eq F.toolchains) F.lines
  godebug := R.godebug.mono (get_of_eq F.godebugs) F.lines
  require := R.require.mono (get_of_eq F.requires) F.lines
  exclude := R.exclude.mono (get_of_eq F.excludes) F.lines
  replace := Rr.replace
  retract := R.retract.mono (get_of_eq F.retracts) F.lines
  tool := R.tool.mono (get_of_eq F.tools) F.lines

end ModVerif.Tie.FnEditReqC
