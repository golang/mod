/-
  Version fixer and `retract` directives: the statement loop one statement at a time, and the frame of `File.add` lifted to
  statements: the directive layer on a statement that is not a `retract` line / block does not read `file.retract`.
-/
import ModVerif.Proofs.ModfileFmtRetSkeleton
namespace ModVerif.Proofs.ModfileFmtRet
open ModVerif ModVerif.Modfile ModVerif.Proofs.ModfileC20
open ModVerif.Proofs.ModfileFmtDir ModVerif.Proofs.ModfileEol ModVerif.Proofs.ModfileFmtTree

def isRetStmt : Expr → Bool
  | .line l => l.token.head? == some (B "retract")
  | .lineBlock b => b.token == [B "retract"]
  | _ => false

theorem addBlockLines_withRet (R : List Retract) (block : Comments) (verb : Bytes) (fix : Option Fixer) (strict : Bool)
    (hv : (verb == B "retract") = false) :
    ∀ (ls : List Line) (st : AddState), addBlockLines block verb fix strict (withRet R st) ls =
      (withRet R (addBlockLines block verb fix strict st ls).1, (addBlockLines block verb fix strict st ls).2) := by
  intro ls
  induction ls with
  | nil => intro st; rfl
  | cons l ls ih =>
    intro st
    simp only [addBlockLines]
    rw [add_withRet R st (some block) l verb l.token fix strict hv]
    simp only [ih]

theorem err_withRet (R : List Retract) (st : AddState) (p : Position) (k : RuleErrKind) :
    (withRet R st).err p k = withRet R (st.err p k) := rfl

def stepStmt (fix : Option Fixer) (strict : Bool) (st : AddState) (x : Expr) : AddState × Expr :=
  match x with
  | .line l =>
    match l.token with
    | verb :: args =>
      ((File.add st none l verb args fix strict).1, .line { l with token := verb :: (File.add st none l verb args fix strict).2 })
    | [] => (st, x)
  | .lineBlock b =>
    match b.token with
    | [verb] =>
      if verbIn verb blockVerbs then
        ((addBlockLines b.comments verb fix strict st b.lines).1,
          .lineBlock { b with lines := (addBlockLines b.comments verb fix strict st b.lines).2 })
      else (if strict then st.err b.start .unknownBlock else st, x)
    | _ => (if strict then st.err b.start .unknownBlock else st, x)
  | _ => (st, x)

theorem stepStmt_eq_walkStmt (fix : Option Fixer) (strict : Bool) (st : AddState) (x : Expr) :
    stepStmt fix strict st x = Edit.walkStmt (fun st blk l verb args => File.add st blk l verb args fix strict)
      (verbIn · blockVerbs) (fun st p => if strict then st.err p .unknownBlock else st) st x := by
  cases x <;> simp only [stepStmt, Edit.walkStmt, Edit.addBlockLines_eq_walk] <;> rfl

theorem addStmts_cons (fix : Option Fixer) (strict : Bool) (st : AddState) (x : Expr) (xs : List Expr) :
    addStmts fix strict st (x :: xs) =
      ((addStmts fix strict (stepStmt fix strict st x).1 xs).1,
        (stepStmt fix strict st x).2 :: (addStmts fix strict (stepStmt fix strict st x).1 xs).2) := by
  simp only [Edit.addStmts_eq_walk, stepStmt_eq_walkStmt, Edit.walkStmts]

theorem addStmts_single (fix : Option Fixer) (strict : Bool) (st : AddState) (x : Expr) :
    addStmts fix strict st [x] = ((stepStmt fix strict st x).1, [(stepStmt fix strict st x).2]) := by
  rw [addStmts_cons]; rfl

theorem stepStmt_withRet (R : List Retract) (fix : Option Fixer) (strict : Bool) (st : AddState) (x : Expr)
    (hx : isRetStmt x = false) :
    stepStmt fix strict (withRet R st) x = (withRet R (stepStmt fix strict st x).1, (stepStmt fix strict st x).2) := by
  cases x with
  | line l =>
    cases l with
    | mk id comments start token inBlock «end» =>
      cases token with
      | nil => rfl
      | cons verb args =>
        have hv : (verb == B "retract") = false := by
          cases hb : verb == B "retract" with
          | false => rfl
          | true =>
            have : verb = B "retract" := by simpa using hb
            subst this
            simp [isRetStmt] at hx
        simp only [stepStmt, add_withRet R st none _ verb args fix strict hv]
  | lineBlock b =>
    cases b with
    | mk comments start lparen token lines rparen =>
      rcases token with _ | ⟨verb, _ | ⟨v2, r⟩⟩
      · cases strict <;> rfl
      · have hv : (verb == B "retract") = false := by
          cases hb : verb == B "retract" with
          | false => rfl
          | true =>
            have : verb = B "retract" := by simpa using hb
            subst this
            simp [isRetStmt] at hx
        cases hvb : verbIn verb blockVerbs with
        | true => simp [stepStmt, hvb, addBlockLines_withRet R comments verb fix strict hv]
        | false => cases strict <;> simp [stepStmt, hvb, err_withRet]
      · cases strict <;> rfl
  | commentBlock c => rfl
  | lparen p => rfl
  | rparen p => rfl

theorem addStmts_withRet (R : List Retract) (fix : Option Fixer) (strict : Bool) :
    ∀ (xs : List Expr) (st : AddState), (∀ x ∈ xs, isRetStmt x = false) →
    addStmts fix strict (withRet R st) xs =
      (withRet R (addStmts fix strict st xs).1, (addStmts fix strict st xs).2) := by
  intro xs
  induction xs with
  | nil => intro st _; rfl
  | cons x xs ih =>
    intro st h
    rw [addStmts_cons, addStmts_cons, stepStmt_withRet R fix strict st x (h x (by simp))]
    simp only [ih _ (fun y hy => h y (by simp [hy]))]

/-- The state is arbitrary — its retractions may be the unfixed ones `File.add` records before `fixRetract` — hence the
    comparison with the retractions removed (`withRet []`). -/
theorem second_run_nonretract_fixpoint (fix : Option Fixer) (hfix : ModfileFmtDir.FixOK fix) (hne : FixNE fix)
    (st : AddState) (x : Expr) (hx : isRetStmt x = false)
    (he : (stepStmt fix true st x).1.errsRev = [])
    (hwf : WellFormed (withRet [] (stepStmt fix true st x).1).file) (hw : EWFStmt x) (hnl : NlOK x) :
    EWFStmt (stepStmt fix true st x).2 ∧ NlOK (stepStmt fix true st x).2 ∧
    WellFormed (withRet [] st).file ∧ st.errsRev = [] ∧
    ∀ (st' : AddState) (x' : Expr), ModfileFmtDir.Sim (withRet [] st) st' →
      eraseExpr x' = normExprE (stepStmt fix true st x).2 →
      ∃ st1', addStmts fix true st' [x'] = (st1', [x']) ∧
        ModfileFmtDir.Sim (withRet [] (stepStmt fix true st x).1) st1' := by
  have hrun : addStmts fix true (withRet [] st) [x] =
      (withRet [] (stepStmt fix true st x).1, [(stepStmt fix true st x).2]) := by
    rw [addStmts_single, stepStmt_withRet [] fix true st x hx]
  obtain ⟨h1, h2, h3, h4, h5⟩ := addStmts_replayE fix hfix hne [x] _ _ _ hrun he hwf
    (fun s hs => by simp at hs; subst hs; exact hw) (fun s hs => by simp at hs; subst hs; exact hnl)
  refine ⟨h1 _ (by simp), h2 _ (by simp), h3, h4, ?_⟩
  intro st' x' hsim hrel
  exact h5 st' [x'] hsim (by simp [hrel])

end ModVerif.Proofs.ModfileFmtRet
