/-
  C16 `perm_independent` (full) for SetRequireSeparateIndirect: its missing entries are appended, by
  statement index, to the direct and the indirect `require` block (`appendToBlock`); the two trees agree statement by
  statement up to the order of the lines appended to those two blocks and their fresh ids (`appendMany_get`), hence after
  SortBlocks up to the fresh ids (`pointwise_sort_norm`, `block_perm_invariant`), and `Format` gives the same bytes.
-/
import ModVerif.Proofs.EditPermD
namespace ModVerif.Modfile.Edit
open ModVerif ModVerif.Modfile ModVerif.EditSpec

def appendMany (T : List Expr) (adds : List (Nat × Line)) : List Expr := adds.foldl (fun s a => appendToBlock s a.1 a.2) T

theorem appendToBlock_length (T : List Expr) (i : Nat) (l : Line) : (appendToBlock T i l).length = T.length := by
  unfold appendToBlock
  split <;> simp

theorem appendMany_length (adds : List (Nat × Line)) : ∀ T : List Expr, (appendMany T adds).length = T.length := by
  induction adds with
  | nil => intro T; rfl
  | cons a adds ih => intro T; simp only [appendMany, List.foldl_cons] at ih ⊢; rw [ih, appendToBlock_length]

/-- the statement at index `k` after the additions -/
def stmtAfter (x : Option Expr) (k : Nat) (adds : List (Nat × Line)) : Option Expr :=
  match x with
  | some (.lineBlock b) => some (.lineBlock { b with lines := b.lines ++ (adds.filter (fun a => a.1 == k)).map (·.2) })
  | x => x

theorem appendToBlock_get_same (T : List Expr) (k : Nat) (l : Line) :
    (appendToBlock T k l)[k]? = stmtAfter T[k]? k [(k, l)] := by
  unfold appendToBlock
  cases hk : T[k]? with
  | none => simp [stmtAfter, hk]
  | some x =>
    have hlt : k < T.length := (List.getElem?_eq_some_iff.1 hk).1
    cases x with
    | lineBlock b => simp [stmtAfter, hlt]
    | line l' => simp [stmtAfter, hk]
    | commentBlock c => simp [stmtAfter, hk]
    | lparen c => simp [stmtAfter, hk]
    | rparen c => simp [stmtAfter, hk]

theorem appendToBlock_get_other (T : List Expr) (i k : Nat) (l : Line) (h : i ≠ k) : (appendToBlock T i l)[k]? = T[k]? := by
  unfold appendToBlock
  split
  · rw [List.getElem?_set_ne h]
  · rfl

theorem stmtAfter_stmtAfter (x : Option Expr) (k : Nat) (a b : List (Nat × Line)) : stmtAfter (stmtAfter x k a) k b = stmtAfter x k (a ++ b) := by
  cases x with
  | none => rfl
  | some y =>
    cases y with
    | lineBlock blk => simp [stmtAfter, List.filter_append, List.append_assoc]
    | line l => rfl
    | commentBlock c => rfl
    | lparen c => rfl
    | rparen c => rfl

theorem grown_skip (x : Option Expr) (k : Nat) (a : Nat × Line) (adds : List (Nat × Line)) (h : a.1 ≠ k) :
    stmtAfter x k (a :: adds) = stmtAfter x k adds := by
  have : (a.1 == k) = false := by simp [h]
  cases x with
  | none => rfl
  | some y => cases y <;> simp [stmtAfter, this]

theorem appendMany_get (adds : List (Nat × Line)) : ∀ (T : List Expr) (k : Nat), (appendMany T adds)[k]? = stmtAfter T[k]? k adds := by
  induction adds with
  | nil =>
    intro T k
    cases hk : T[k]? with
    | none => simp [appendMany, stmtAfter, hk]
    | some y => cases y <;> simp [appendMany, stmtAfter, hk]
  | cons a adds ih =>
    intro T k
    have := ih (appendToBlock T a.1 a.2) k
    simp only [appendMany, List.foldl_cons] at this ⊢
    rw [this]
    by_cases h : a.1 = k
    · rw [h, appendToBlock_get_same, stmtAfter_stmtAfter]
      have : a = (k, a.2) := by rw [← h]
      rw [this]; rfl
    · rw [appendToBlock_get_other _ _ _ _ h, grown_skip _ _ _ _ h]

theorem pointwise_sort_norm (n : Nat) (K : List Nat) (sem work : Bool) : ∀ (T1 T2 : List Expr), T1.length = T2.length →
    (∀ (k : Nat) (x1 x2 : Expr), T1[k]? = some x1 → T2[k]? = some x2 →
      (sortStmts sem work (dropKilled K [x1])).map (normStmt n) = (sortStmts sem work (dropKilled K [x2])).map (normStmt n)) →
    (sortStmts sem work (dropKilled K T1)).map (normStmt n) = (sortStmts sem work (dropKilled K T2)).map (normStmt n) := by
  intro T1
  induction T1 with
  | nil =>
    intro T2 hl _
    cases T2 with
    | nil => rfl
    | cons _ _ => simp at hl
  | cons x xs ih =>
    intro T2 hl h
    cases T2 with
    | nil => simp at hl
    | cons y ys =>
      rw [dropKilled_cons K x xs, dropKilled_cons K y ys, sortStmts_append, sortStmts_append, List.map_append, List.map_append]
      rw [h 0 x y rfl rfl, ih ys (by simpa using hl) (fun k x1 x2 h1 h2 => h (k + 1) x1 x2 (by simpa using h1) (by simpa using h2))]

def sepIdx (ctx : SepCtx) (w : Want) : Nat := if w.indirect then ctx.indirectIdx else ctx.directIdx

def sepAdds (ctx : SepCtx) (n : Nat) : List Want → List (Nat × Line)
  | [] => []
  | w :: ws => (sepIdx ctx w, sepNewLine n w) :: sepAdds ctx (n + 1) ws

theorem foldl_addSepNew_stmts (ctx : SepCtx) (ws : List Want) : ∀ e : EFile,
    (ws.foldl (addSepNew ctx) e).f.syn.stmts = appendMany e.f.syn.stmts (sepAdds ctx e.next ws) := by
  induction ws with
  | nil => intro e; rfl
  | cons w ws ih =>
    intro e
    simp only [List.foldl_cons, sepAdds, appendMany]
    rw [ih]
    rfl

theorem foldl_addSepNew_hdr (ctx : SepCtx) (ws : List Want) : ∀ e : EFile,
    (ws.foldl (addSepNew ctx) e).f.syn.comments = e.f.syn.comments := by
  induction ws with
  | nil => intro e; rfl
  | cons w ws ih => intro e; simp only [List.foldl_cons]; rw [ih]; rfl

theorem sepNewLine_norm (n m : Nat) (h : n ≤ m) (w : Want) : normLine n (sepNewLine m w) = sepNewLine n w := by
  have hid := (sepNewLine_props m w).1
  unfold normLine
  rw [hid]
  simp only [h, if_true]
  unfold sepNewLine
  split
  · rw [setIndirectLine_setId]; rfl
  · rfl

theorem sepAdds_filter_norm (ctx : SepCtx) (n k : Nat) (ws : List Want) : ∀ m, n ≤ m →
    (((sepAdds ctx m ws).filter (fun a => a.1 == k)).map (·.2)).map (normLine n)
      = (ws.filter (fun w => sepIdx ctx w == k)).map (sepNewLine n) := by
  induction ws with
  | nil => intro m _; rfl
  | cons w ws ih =>
    intro m hm
    simp only [sepAdds, List.filter_cons]
    split
    · simp only [List.map_cons, ih (m + 1) (Nat.le_succ_of_le hm), sepNewLine_norm n m hm]
    · exact ih (m + 1) (Nat.le_succ_of_le hm)

theorem sepAdds_filter_tokens (ctx : SepCtx) (k : Nat) (ws : List Want) : ∀ m,
    (((sepAdds ctx m ws).filter (fun a => a.1 == k)).map (·.2)).map (·.token)
      = (ws.filter (fun w => sepIdx ctx w == k)).map (fun w => [autoQuote w.path, w.vers]) := by
  induction ws with
  | nil => intro m; rfl
  | cons w ws ih =>
    intro m
    simp only [sepAdds, List.filter_cons]
    split
    · simp only [List.map_cons, ih (m + 1), (sepNewLine_props m w).2.1]
    · exact ih (m + 1)

theorem sepAdds_ids_ge (ctx : SepCtx) (ws : List Want) : ∀ m, ∀ a ∈ sepAdds ctx m ws, m ≤ a.2.id := by
  induction ws with
  | nil => intro m a ha; cases ha
  | cons w ws ih =>
    intro m a ha
    simp only [sepAdds, List.mem_cons] at ha
    rcases ha with rfl | ha
    · rw [(sepNewLine_props m w).1]; exact Nat.le_refl _
    · exact Nat.le_trans (Nat.le_succ m) (ih (m + 1) a ha)

theorem sepAdds_idx (ctx : SepCtx) (ws : List Want) : ∀ m, ∀ a ∈ sepAdds ctx m ws, a.1 = ctx.directIdx ∨ a.1 = ctx.indirectIdx := by
  induction ws with
  | nil => intro m a ha; cases ha
  | cons w ws ih =>
    intro m a ha
    simp only [sepAdds, List.mem_cons] at ha
    rcases ha with rfl | ha
    · simp only [sepIdx]; split
      · exact Or.inr rfl
      · exact Or.inl rfl
    · exact ih (m + 1) a ha

/-- **C16 `perm_independent` (full), the tail of SetRequireSeparateIndirect** -/
theorem sepTail_format_perm_independent (e e1 e2 : EFile) (req : List Want) (p1 p2 : List Want → List Want)
    (hp1 : ∀ l, (p1 l).Perm l) (hp2 : ∀ l, (p2 l).Perm l)
    (hg : GoodWant req) (hi : Inv e) (hlive : ∀ r ∈ e.f.require, liveRq r = true) (hset : NoNestedIndirectMarker e)
    (ctx : SepCtx) (stmts : List Expr) (hgood : SepGood e.f.syn.stmts ctx.directIdx ctx.indirectIdx stmts)
    (h1 : sepTail e req p1 ctx stmts = .ok e1) (h2 : sepTail e req p2 ctx stmts = .ok e2) :
    format e1.f.syn = format e2.f.syn ∧ format (cleanup e1).f.syn = format (cleanup e2).f.syn := by
  unfold sepTail at h1 h2
  rw [needMap_distinct false req [] (by simpa using hg.1)] at h1 h2
  simp only [bind, Except.bind, List.nil_append] at h1 h2
  cases hr : sepLoop ctx req e.f.require [] { e.f.syn with stmts := stmts } e.next with
  | error err => simp [hr] at h1
  | ok res =>
    rcases res with ⟨rq, have', syn', next'⟩
    simp only [hr, pure, Except.pure, Except.ok.injEq] at h1 h2
    subst h1; subst h2
    -- the loop over the existing requirements does not see the permutation: both runs reach the same state `E0`,
    -- which satisfies the invariant, with the two `require` blocks at `directIdx` / `indirectIdx`
    have hw0 : TreeWF stmts e.next :=
      ⟨by rw [hgood.ids_eq]; exact hi.tree.nodup, by rw [hgood.ids_eq]; exact hi.tree.lt, by rw [hgood.ids_eq]; exact hi.tree.pos,
       hgood.shape.blockTok, hgood.shape.flagTop, hgood.shape.flagIn, hgood.shape.noBlockSuffix⟩
    have hm0 : Match (segA_require e.f ++ (entsOf liveRq entRq ([] ++ e.f.require) ++ segC_require e.f)) (view stmts) := by
      simp only [List.nil_append]; rw [← entries_require, hgood.view_eq]; exact hi.mtch
    have hset0 : ∀ r ∈ e.f.require, ∀ v ∈ view stmts, v.id = r.lineId → MarkerSettable v.suffix := by
      intro r hr v hv; rw [hgood.view_eq] at hv; exact hset r hr v hv
    rcases sepLoop_inv (V := fullView) (A := segA_require e.f) (C := segC_require e.f) ctx req e.f.require [] [] { e.f.syn with stmts := stmts } e.next
      rq have' syn' next' hlive hw0 hi.tinv.pos hm0 hgood.direct hgood.indirect hset0 hr with ⟨hw', hle, hm', hbd', hbi'⟩
    have hi1 : Inv (⟨{ e.f with require := rq, syn := syn' }, next'⟩ : EFile) := by
      refine ⟨hw', ?_, hi.tinv.of_same rfl rfl rfl hle⟩
      simp only [List.nil_append] at hm'
      rw [entries_require]; exact hm'
    generalize hE : (⟨{ e.f with require := rq, syn := syn' }, next'⟩ : EFile) = E0 at hi1
    have hbd : BlockAt E0.f.syn.stmts ctx.directIdx := by rw [← hE]; exact hbd'
    have hbi : BlockAt E0.f.syn.stmts ctx.indirectIdx := by rw [← hE]; exact hbi'
    -- what is still to be added, in the two orders: a permutation, the paths pairwise different
    generalize hw1 : (p1 req).filter (fun w => !have'.contains w.path) = ws1
    generalize hw2 : (p2 req).filter (fun w => !have'.contains w.path) = ws2
    have hperm : ws1.Perm ws2 := by
      rw [← hw1, ← hw2]; exact ((hp1 req).trans (hp2 req).symm).filter _
    have hpw : ws1.Pairwise (fun a b => a.path ≠ b.path) := by
      rw [← hw1]
      exact (((hp1 req).pairwise_iff (fun {a b} h => Ne.symm h)).2 hg.1).sublist List.filter_sublist
    -- the additions only append to the blocks (`appendMany`); then SortBlocks
    have hsort : ∀ ws : List Want, (sortBlocks (ws.foldl (addSepNew ctx) E0)).f.syn.stmts
        = sortStmts (semOf E0.f) false (dropKilled (kill3 E0.f) (appendMany E0.f.syn.stmts (sepAdds ctx E0.next ws))) := by
      intro ws
      rw [sortBlocks_stmts, foldl_addSepNew_stmts]
      rcases foldl_addSepNew_fields ctx ws E0 with ⟨f1, f2, f3⟩
      rw [kill3_congr (g := E0.f) f1 f2 f3]
      unfold semOf
      rw [foldl_addSepNew_go]
    -- statement by statement the two trees agree up to the fresh ids: a statement other than the two blocks is untouched,
    -- each of the two blocks receives the same lines in two orders, which the stable sort by distinct tokens undoes
    have htree : (sortBlocks (ws1.foldl (addSepNew ctx) E0)).f.syn.stmts.map (normStmt E0.next)
        = (sortBlocks (ws2.foldl (addSepNew ctx) E0)).f.syn.stmts.map (normStmt E0.next) := by
      rw [hsort, hsort]
      refine pointwise_sort_norm E0.next (kill3 E0.f) (semOf E0.f) false _ _ (by rw [appendMany_length, appendMany_length]) ?_
      intro k x1 x2 hx1 hx2
      rw [appendMany_get] at hx1 hx2
      cases hk : E0.f.syn.stmts[k]? with
      | none => rw [hk] at hx1; simp [stmtAfter] at hx1
      | some y =>
        rw [hk] at hx1 hx2
        have hsame : ∀ z, (∀ b, y ≠ .lineBlock b) → stmtAfter (some y) k z = some y := by
          intro z hnb
          cases y with
          | lineBlock b => exact absurd rfl (hnb b)
          | line l => rfl
          | commentBlock c => rfl
          | lparen c => rfl
          | rparen c => rfl
        cases y with
        | lineBlock blk =>
          simp only [stmtAfter, Option.some.injEq] at hx1 hx2
          subst hx1; subst hx2
          by_cases hkk : k = ctx.directIdx ∨ k = ctx.indirectIdx
          · have htok : blk.token = [B "require"] := by
              rcases hkk with rfl | rfl
              · rcases hbd with ⟨b', hb', ht⟩; rw [hk] at hb'; simp only [Option.some.injEq, Expr.lineBlock.injEq] at hb'; rw [hb']; exact ht
              · rcases hbi with ⟨b', hb', ht⟩; rw [hk] at hb'; simp only [Option.some.injEq, Expr.lineBlock.injEq] at hb'; rw [hb']; exact ht
            refine block_perm_invariant E0.next (kill3 E0.f) hi1.kill3_lt (semOf E0.f) false blk
              (lessFor_require _ _ (by rw [htok]; simp [headIs])) blk.lines _ _ ?_ ?_ ?_ ?_
            · intro l hl
              rcases List.mem_map.1 hl with ⟨a, ha, rfl⟩
              exact sepAdds_ids_ge ctx ws1 E0.next a (List.mem_filter.1 ha).1
            · intro l hl
              rcases List.mem_map.1 hl with ⟨a, ha, rfl⟩
              exact sepAdds_ids_ge ctx ws2 E0.next a (List.mem_filter.1 ha).1
            · rw [sepAdds_filter_norm ctx E0.next k ws1 E0.next (Nat.le_refl _),
                sepAdds_filter_norm ctx E0.next k ws2 E0.next (Nat.le_refl _)]
              exact (hperm.filter _).map _
            · have : (((sepAdds ctx E0.next ws1).filter (fun a => a.1 == k)).map (·.2)).Pairwise
                  (fun a b => (fun l : Line => l.token) a ≠ (fun l : Line => l.token) b) := by
                rw [← List.pairwise_map, sepAdds_filter_tokens, List.pairwise_map]
                refine (hpw.sublist List.filter_sublist).imp ?_
                intro a b hab heq
                simp only [List.cons.injEq, and_true] at heq
                exact hab (autoQuote_injective heq.1)
              exact this
          · have hnone : ∀ ws : List Want, (sepAdds ctx E0.next ws).filter (fun a => a.1 == k) = [] := by
              intro ws
              apply List.filter_eq_nil_iff.2
              intro a ha hak
              have := sepAdds_idx ctx ws E0.next a ha
              rw [eq_of_beq hak] at this
              exact hkk this
            rw [hnone, hnone]
        | line l =>
          rw [hsame _ (fun b hb => by cases hb)] at hx1 hx2
          simp only [Option.some.injEq] at hx1 hx2; rw [← hx1, ← hx2]
        | commentBlock c =>
          rw [hsame _ (fun b hb => by cases hb)] at hx1 hx2
          simp only [Option.some.injEq] at hx1 hx2; rw [← hx1, ← hx2]
        | lparen c =>
          rw [hsame _ (fun b hb => by cases hb)] at hx1 hx2
          simp only [Option.some.injEq] at hx1 hx2; rw [← hx1, ← hx2]
        | rparen c =>
          rw [hsame _ (fun b hb => by cases hb)] at hx1 hx2
          simp only [Option.some.injEq] at hx1 hx2; rw [← hx1, ← hx2]
    -- Format does not print ids, Cleanup commutes with erasing them
    have hc : (sortBlocks (ws1.foldl (addSepNew ctx) E0)).f.syn.comments = (sortBlocks (ws2.foldl (addSepNew ctx) E0)).f.syn.comments := by
      rw [sortBlocks_hdr, sortBlocks_hdr, foldl_addSepNew_hdr, foldl_addSepNew_hdr]
    refine ⟨format_eq_of_norm E0.next _ _ hc htree, format_eq_of_norm E0.next _ _ hc ?_⟩
    show (cleanupStmts _).map (normStmt E0.next) = (cleanupStmts _).map (normStmt E0.next)
    rw [← cleanupStmts_norm, ← cleanupStmts_norm, htree]

/-- C16 `perm_independent` (full), SetRequireSeparateIndirect -/
theorem setRequireSeparateIndirect_format_perm_independent (e e1 e2 : EFile) (want : List Want) (p1 p2 : List Want → List Want)
    (hp1 : ∀ l, (p1 l).Perm l) (hp2 : ∀ l, (p2 l).Perm l) (hg : GoodWant want) (hi : Inv e)
    (hlive : ∀ r ∈ e.f.require, liveRq r = true) (hset : NoNestedIndirectMarker e)
    (h1 : setRequireSeparateIndirect e want p1 = .ok e1) (h2 : setRequireSeparateIndirect e want p2 = .ok e2) :
    format e1.f.syn = format e2.f.syn ∧ format (cleanup e1).f.syn = format (cleanup e2).f.syn := by
  rw [setRSI_eq] at h1 h2
  cases hs1 : sepStage1 e.f.syn.stmts (scanStmts e.f.syn.stmts 0 {}) with
  | error err => simp [hs1] at h1
  | ok r1 =>
    rcases r1 with ⟨s1, dI, dO, lI, sh⟩
    simp only [hs1] at h1 h2
    cases hs2 : sepStage2 s1 dI lI sh with
    | error err => simp [hs2] at h1
    | ok r2 =>
      rcases r2 with ⟨s2, iI, iO⟩
      simp only [hs2] at h1 h2
      have hgood := sepStage_spec e.f.syn.stmts hi.tree.shape hi.view2 _ (scan_inv _) hs1 hs2
      exact sepTail_format_perm_independent e e1 e2 want p1 p2 hp1 hp2 hg hi hlive hset _ s2 hgood h1 h2

end ModVerif.Modfile.Edit
