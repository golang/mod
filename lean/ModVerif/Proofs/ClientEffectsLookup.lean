/-
  `Client.lookup` and sequences of lookups (`runLookups`): an `Other` effect is not a read of a lookup file or lookup
  path; the reads of a lookup file / lookup path occur only inside `lookupWork`, i.e. only on a miss of the record
  cache, at most once each; the record cache only grows.  `fetch_once` for the sequential model, for EVERY environment.
-/
import ModVerif.Proofs.ClientEffects
import ModVerif.Proofs.ClientHonest
import ModVerif.Proofs.ClientMoreTie
namespace ModVerif.ClientEffects
open ModVerif ModVerif.Client ModVerif.Tile ModVerif.ClientFetch

theorem other_not_cacheRead (name rest : Bytes) (e : Effect) (h : Other name e) :
    isCacheRead (name ++ (B "/lookup/" ++ rest)) e = false := by
  cases e with
  | read k f ok =>
    cases k with
    | cache =>
      obtain ⟨t, ht⟩ := h
      simp only [isCacheRead, beq_eq_false_iff_ne, ne_eq]
      intro hh
      exact Client.lookupFile_ne_tileKey name rest t (hh.symm.trans ht)
    | remote => rfl
    | config => rfl
  | _ => rfl

theorem other_not_remoteRead (name rest : Bytes) (e : Effect) (h : Other name e) :
    isRemoteRead (B "/lookup/" ++ rest) e = false := by
  cases e with
  | read k f ok =>
    cases k with
    | remote =>
      obtain ⟨t, ht⟩ := h
      simp only [isRemoteRead, beq_eq_false_iff_ne, ne_eq]
      intro hh
      rw [ht] at hh
      unfold tileRemotePath tilePath at hh
      rw [Client.B_tile, Client.B_lookup] at hh
      simp at hh
    | cache => rfl
    | config => rfl
  | _ => rfl

theorem cacheReads_other (name rest : Bytes) : ∀ (es : List Effect), (∀ e ∈ es, Other name e) →
    cacheReads (name ++ (B "/lookup/" ++ rest)) es = 0 := by
  intro es h
  unfold cacheReads
  rw [List.countP_eq_zero]
  intro e he
  rw [other_not_cacheRead name rest e (h e he)]
  simp

theorem remoteReads_other (name rest : Bytes) : ∀ (es : List Effect), (∀ e ∈ es, Other name e) →
    remoteReads (B "/lookup/" ++ rest) es = 0 := by
  intro es h
  unfold remoteReads
  rw [List.countP_eq_zero]
  intro e he
  rw [other_not_remoteRead name rest e (h e he)]
  simp

section
variable {σ H : Type} {E : Env σ} [DecidableEq H]

omit [DecidableEq H] in
theorem initWork_aux (w wa wb : World σ H) (e0 : Effect) (h0 : ∀ nm, Other nm e0)
    (hatr : wa.tr = w.tr ++ [e0]) (harec : wa.c.record = w.c.record) (l : EF wa wb) (o : Option Err) :
    (setInit wb o).c.inited ≠ none ∧ (setInit wb o).c.record = w.c.record ∧
    ∃ es, (setInit wb o).tr = w.tr ++ es ∧ ∀ e ∈ es, Other (setInit wb o).c.name e := by
  obtain ⟨es, e1, g1⟩ := l.trace
  refine ⟨by simp [setInit], ?_, e0 :: es, ?_, ?_⟩
  · simp only [setInit]; rw [l.record, harec]
  · simp only [setInit]; rw [e1, hatr]; simp
  · intro e he
    simp only [setInit]
    rw [l.name]
    rcases List.mem_cons.mp he with h | h
    · subst h; exact h0 _
    · exact g1 e h

/-- `Other` is for the name the client has AFTER the initialisation -/
theorem initWork_trace (P : Params H) (w : World σ H) :
    (initWork P E w).c.inited ≠ none ∧ (initWork P E w).c.record = w.c.record ∧
    ∃ es, (initWork P E w).tr = w.tr ++ es ∧ ∀ e ∈ es, Other (initWork P E w).c.name e := by
  unfold initWork
  simp only
  have h0 : ∀ nm, Other nm (Effect.read .config (B "key") (E.readConfig w.s (B "key")).1.isSome) := fun _ => trivial
  split
  · exact initWork_aux w (readConfig E w (B "key")).2 _ _ h0 rfl rfl (EF.refl _) _
  · split
    · exact initWork_aux w (readConfig E w (B "key")).2 _ _ h0 rfl rfl (EF.refl _) _
    · rename_i vkey _ _ v _
      generalize hw1 : ({ (readConfig E w (B "key")).2 with
            c := { (readConfig E w (B "key")).2.c with verifiers := [v], name := v.name } } : World σ H) = w1
      have ht1 : w1.tr = w.tr ++ [Effect.read .config (B "key") (E.readConfig w.s (B "key")).1.isSome] := by
        rw [← hw1]; rfl
      have hr1 : w1.c.record = w.c.record := by rw [← hw1]; rfl
      have l1 := ef_readConfig (E := E) w1 (latestFile v.name)
      split
      · exact initWork_aux w w1 _ _ h0 ht1 hr1 l1 _
      · rename_i data _
        have l2 := l1.trans (ef_mergeLatest (E := E) P _ data)
        split
        · exact initWork_aux w w1 _ _ h0 ht1 hr1 l2 _
        · exact initWork_aux w w1 _ _ h0 ht1 hr1 l2 _

theorem init_trace (P : Params H) (w : World σ H) :
    (init P E w).c.inited ≠ none ∧ (init P E w).c.record = w.c.record ∧
    (w.c.inited ≠ none → init P E w = w) ∧
    ∃ es, (init P E w).tr = w.tr ++ es ∧ ∀ e ∈ es, Other (init P E w).c.name e := by
  unfold init
  split
  · rename_i x hx
    exact ⟨by rw [hx]; simp, rfl, fun _ => rfl, [], by simp, by simp⟩
  · rename_i hx
    obtain ⟨h1, h2, h3⟩ := initWork_trace (E := E) P w
    exact ⟨h1, h2, fun h => absurd hx h, h3⟩

/-- what one `Lookup` call does to the trace and to the record cache, relative to the client name `name` after `init` -/
inductive StepShape (name : Bytes) (own : Option Bytes) (w w' : World σ H) : Prop
  | quiet (ext : List Effect) : w'.tr = w.tr ++ ext → w'.c.record = w.c.record → (∀ e ∈ ext, Other name e) →
      StepShape name own w w'
  | fetch (file : Bytes) (r : Except Err Bytes) (pre mid post : List Effect) (ok1 : Bool) :
      own = some file → w.c.record.lookup file = none → w'.c.record = (file, r) :: w.c.record →
      w'.tr = w.tr ++ (pre ++ (.read .cache file ok1 :: (mid ++ post))) →
      (mid = [] ∨ ∃ ok2, mid = [.read .remote (file.drop name.length) ok2]) →
      (∀ e ∈ pre, Other name e) → (∀ e ∈ post, Other name e) → StepShape name own w w'

/-- first disjunct: the call is refused before `init` (GONOSUMDB) -/
theorem lookup_step (P : Params H) (w : World σ H) (path vers : Bytes) :
    (lookup P E w path vers).2 = w ∨
    ((lookup P E w path vers).2.c.name = (init P E w).c.name ∧ (lookup P E w path vers).2.c.inited ≠ none ∧
      StepShape (init P E w).c.name (lookupFile P.isLetter (init P E w).c.name path vers) w (lookup P E w path vers).2) := by
  rw [lookup_eq_via_lookupFile]
  split
  · left; rfl
  · right
    obtain ⟨hi, hrec, _, es, he, hes⟩ := init_trace (E := E) P w
    simp only
    generalize init P E w = w0 at *
    have hq : StepShape w0.c.name (lookupFile P.isLetter w0.c.name path vers) w w0 := .quiet es he hrec hes
    split
    · exact ⟨rfl, hi, hq⟩
    · split
      · exact ⟨rfl, hi, hq⟩
      · rename_i file hfile
        cases hl : w0.c.record.lookup file with
        | some r =>
          simp only
          split <;> exact ⟨rfl, hi, hq⟩
        | none =>
          have lf := lf_lookupWork (E := E) P w0 file (file.drop w0.c.name.length)
          obtain ⟨ok1, mid, post, e1, hm, g1⟩ := lf.trace
          have hs : StepShape w0.c.name (lookupFile P.isLetter w0.c.name path vers) w
              ({ (lookupWork P E w0 file (file.drop w0.c.name.length)).2 with
                c := { (lookupWork P E w0 file (file.drop w0.c.name.length)).2.c with
                  record := (file, (lookupWork P E w0 file (file.drop w0.c.name.length)).1) ::
                    (lookupWork P E w0 file (file.drop w0.c.name.length)).2.c.record } } : World σ H) := by
            refine .fetch file (lookupWork P E w0 file (file.drop w0.c.name.length)).1 es mid post ok1 hfile (by rw [← hrec]; exact hl) ?_ ?_ hm hes g1
            · simp only; rw [lf.record, hrec]
            · simp only; rw [e1, he]; simp
          simp only
          split <;> exact ⟨lf.name, by simp only; rw [lf.inited]; exact hi, hs⟩

def hasRec (f : Bytes) (w : World σ H) : Nat := if (w.c.record.lookup f).isSome then 1 else 0

omit [DecidableEq H] in
theorem lookupFile_shape (isLetter : Nat → Bool) (name path vers file : Bytes)
    (h : lookupFile isLetter name path vers = some file) : ∃ rest, file = name ++ (B "/lookup/" ++ rest) := by
  unfold lookupFile at h
  split at h
  · cases h
  · split at h
    · cases h
    · rename_i ep _ _ ev _
      cases h
      exact ⟨ep ++ [64] ++ ev, by simp⟩

omit [DecidableEq H] in
theorem stepShape_counts (name : Bytes) (own : Option Bytes) (w w' : World σ H)
    (hown : ∀ f, own = some f → ∃ rest, f = name ++ (B "/lookup/" ++ rest))
    (h : StepShape name own w w') (rest : Bytes) :
    ∃ ext, w'.tr = w.tr ++ ext ∧
      cacheReads (name ++ (B "/lookup/" ++ rest)) ext + hasRec (name ++ (B "/lookup/" ++ rest)) w
        ≤ hasRec (name ++ (B "/lookup/" ++ rest)) w' ∧
      remoteReads (B "/lookup/" ++ rest) ext + hasRec (name ++ (B "/lookup/" ++ rest)) w
        ≤ hasRec (name ++ (B "/lookup/" ++ rest)) w' := by
  cases h with
  | quiet ext he hr ho =>
    refine ⟨ext, he, ?_, ?_⟩
    · rw [cacheReads_other name rest ext ho]; unfold hasRec; rw [hr]; omega
    · rw [remoteReads_other name rest ext ho]; unfold hasRec; rw [hr]; omega
  | fetch file r pre mid post ok1 hf hmiss hr he hm hpre hpost =>
    obtain ⟨rest', hfile⟩ := hown file hf
    have hdrop : file.drop name.length = B "/lookup/" ++ rest' := by rw [hfile]; simp
    refine ⟨_, he, ?_, ?_⟩
    · have c1 := cacheReads_other name rest pre hpre
      have c2 := cacheReads_other name rest post hpost
      have c3 : cacheReads (name ++ (B "/lookup/" ++ rest)) mid = 0 := by
        rcases hm with rfl | ⟨ok2, rfl⟩
        · rfl
        · simp [cacheReads, isCacheRead]
      unfold cacheReads at *
      simp only [List.countP_append, List.countP_cons, c1, c2, c3]
      unfold hasRec
      rw [hr, lookup_cons_eq]
      by_cases heq : name ++ (B "/lookup/" ++ rest) = file
      · rw [heq, hmiss]; simp [isCacheRead]
      · have : isCacheRead (name ++ (B "/lookup/" ++ rest)) (.read .cache file ok1) = false := by
          simp only [isCacheRead, beq_eq_false_iff_ne, ne_eq]
          exact fun h => heq h.symm
        simp only [this, heq, if_false]
        simp
    · have c1 := remoteReads_other name rest pre hpre
      have c2 := remoteReads_other name rest post hpost
      unfold remoteReads at *
      simp only [List.countP_append, List.countP_cons, c1, c2]
      unfold hasRec
      rw [hr, lookup_cons_eq]
      by_cases heq : name ++ (B "/lookup/" ++ rest) = file
      · rw [heq, hmiss]
        rcases hm with rfl | ⟨ok2, rfl⟩
        · simp [isRemoteRead]
        · simp only [isRemoteRead, Option.isSome_none, Option.isSome_some, if_true]
          simp
          split <;> omega
      · have hne : B "/lookup/" ++ rest' ≠ B "/lookup/" ++ rest := by
          intro h
          apply heq
          rw [hfile, h]
        have c3 : List.countP (isRemoteRead (B "/lookup/" ++ rest)) mid = 0 := by
          rcases hm with rfl | ⟨ok2, rfl⟩
          · rfl
          · rw [hdrop]
            simp [isRemoteRead, hne]
        simp only [c3, isRemoteRead, heq, if_false]
        simp

omit [DecidableEq H] in
theorem stepShape_record_mono (name : Bytes) (own : Option Bytes) (w w' : World σ H) (h : StepShape name own w w')
    (g : Bytes) (r : Except Err Bytes) (hg : w.c.record.lookup g = some r) : w'.c.record.lookup g = some r := by
  cases h with
  | quiet ext he hr ho => rw [hr]; exact hg
  | fetch file r' pre mid post ok1 hf hmiss hr he hm hpre hpost =>
    rw [hr, lookup_cons_eq]
    split
    · rename_i heq
      rw [heq, hmiss] at hg
      cases hg
    · exact hg

/-- C14 `fetch_once_sequential_call` -/
theorem lookup_reads_lookup_file_once (P : Params H) (w : World σ H) (path vers file : Bytes)
    (hfile : lookupFile P.isLetter (init P E w).c.name path vers = some file) :
    ∃ ext, (lookup P E w path vers).2.tr = w.tr ++ ext ∧
      cacheReads file ext ≤ 1 ∧ remoteReads (file.drop (init P E w).c.name.length) ext ≤ 1 ∧
      (∀ e ∈ ext, Other (init P E w).c.name e ∨ (∃ ok, e = .read .cache file ok) ∨
        (∃ ok, e = .read .remote (file.drop (init P E w).c.name.length) ok)) ∧
      (w.c.record.lookup file ≠ none → (∀ e ∈ ext, Other (init P E w).c.name e) ∧
        cacheReads file ext = 0 ∧ remoteReads (file.drop (init P E w).c.name.length) ext = 0) ∧
      (∀ g r, w.c.record.lookup g = some r → (lookup P E w path vers).2.c.record.lookup g = some r) := by
  obtain ⟨rest, hrest⟩ := lookupFile_shape _ _ _ _ _ hfile
  have hdrop : file.drop (init P E w).c.name.length = B "/lookup/" ++ rest := by rw [hrest]; simp
  rcases lookup_step (E := E) P w path vers with h | ⟨_, _, hs⟩
  · rw [h]
    exact ⟨[], by simp, by simp [cacheReads], by simp [remoteReads], by simp, fun _ => ⟨by simp, rfl, rfl⟩,
      fun _ _ h => h⟩
  · have hmono := stepShape_record_mono _ _ _ _ hs
    obtain ⟨ext, he, hc1, hc2⟩ := stepShape_counts _ _ _ _
      (fun f hf => lookupFile_shape _ _ _ _ _ hf) hs rest
    rw [← hrest] at hc1 hc2
    rw [← hdrop] at hc2
    have hle : hasRec file (lookup P E w path vers).2 ≤ 1 := by unfold hasRec; split <;> omega
    refine ⟨ext, he, by omega, by omega, ?_, ?_, hmono⟩
    · cases hs with
      | quiet ext' he' hr ho =>
        have : ext' = ext := List.append_cancel_left (he'.symm.trans he)
        subst this
        exact fun e h => Or.inl (ho e h)
      | fetch file' r' pre mid post ok1 hf hmiss hr he' hm hpre hpost =>
        have : pre ++ (.read .cache file' ok1 :: (mid ++ post)) = ext := List.append_cancel_left (he'.symm.trans he)
        subst this
        rw [hfile] at hf
        cases hf
        intro e h
        simp only [List.mem_append, List.mem_cons] at h
        rcases h with h | h | h | h
        · exact Or.inl (hpre e h)
        · exact Or.inr (Or.inl ⟨ok1, h⟩)
        · rcases hm with rfl | ⟨ok2, rfl⟩
          · cases h
          · simp only [List.mem_singleton] at h
            exact Or.inr (Or.inr ⟨ok2, h⟩)
        · exact Or.inl (hpost e h)
    · intro hhit
      have h1 : hasRec file w = 1 := by
        unfold hasRec
        cases hl : w.c.record.lookup file with
        | none => exact absurd hl hhit
        | some r => simp
      refine ⟨?_, by omega, by omega⟩
      cases hs with
      | quiet ext' he' hr ho =>
        have : ext' = ext := List.append_cancel_left (he'.symm.trans he)
        subst this
        exact ho
      | fetch file' r' pre mid post ok1 hf hmiss hr he' hm hpre hpost =>
        rw [hfile] at hf
        cases hf
        exact absurd hmiss hhit

theorem runLookups_name (P : Params H) : ∀ (qs : List (Bytes × Bytes)) (w : World σ H), w.c.inited ≠ none →
    (runLookups P E w qs).c.name = w.c.name ∧ (runLookups P E w qs).c.inited ≠ none := by
  intro qs
  induction qs with
  | nil => intro w h; exact ⟨rfl, h⟩
  | cons q qs ih =>
    intro w h
    simp only [runLookups]
    rcases lookup_step (E := E) P w q.1 q.2 with hw | ⟨hn, hi, _⟩
    · rw [hw]; exact ih w h
    · obtain ⟨h1, h2⟩ := ih _ hi
      rw [(init_trace (E := E) P w).2.2.1 h] at hn
      exact ⟨h1.trans hn, h2⟩

theorem runLookups_record_mono (P : Params H) : ∀ (qs : List (Bytes × Bytes)) (w : World σ H) (g : Bytes)
    (r : Except Err Bytes), w.c.record.lookup g = some r → (runLookups P E w qs).c.record.lookup g = some r := by
  intro qs
  induction qs with
  | nil => intro w g r h; exact h
  | cons q qs ih =>
    intro w g r h
    simp only [runLookups]
    rcases lookup_step (E := E) P w q.1 q.2 with hw | ⟨_, _, hs⟩
    · rw [hw]; exact ih w g r h
    · exact ih _ g r (stepShape_record_mono _ _ _ _ hs g r h)

/-- the form that composes along a run: reads + (1 if the entry was there at the start) ≤ (1 if it is there at the end) -/
theorem runLookups_counts (P : Params H) : ∀ (qs : List (Bytes × Bytes)) (w : World σ H) (rest : Bytes),
    ∃ ext, (runLookups P E w qs).tr = w.tr ++ ext ∧
      cacheReads ((runLookups P E w qs).c.name ++ (B "/lookup/" ++ rest)) ext +
          hasRec ((runLookups P E w qs).c.name ++ (B "/lookup/" ++ rest)) w
        ≤ hasRec ((runLookups P E w qs).c.name ++ (B "/lookup/" ++ rest)) (runLookups P E w qs) ∧
      remoteReads (B "/lookup/" ++ rest) ext + hasRec ((runLookups P E w qs).c.name ++ (B "/lookup/" ++ rest)) w
        ≤ hasRec ((runLookups P E w qs).c.name ++ (B "/lookup/" ++ rest)) (runLookups P E w qs) := by
  intro qs
  induction qs with
  | nil => intro w rest; exact ⟨[], by simp [runLookups], by simp [runLookups, cacheReads], by simp [runLookups, remoteReads]⟩
  | cons q qs ih =>
    intro w rest
    simp only [runLookups]
    rcases lookup_step (E := E) P w q.1 q.2 with hw | ⟨hn, hi, hs⟩
    · rw [hw]; exact ih w rest
    · obtain ⟨ext2, he2, ha2, hb2⟩ := ih (lookup P E w q.1 q.2).2 rest
      have hname := (runLookups_name (E := E) P qs _ hi).1
      rw [hname, hn] at ha2 hb2 ⊢
      obtain ⟨ext1, he1, ha1, hb1⟩ := stepShape_counts _ _ _ _ (fun f hf => lookupFile_shape _ _ _ _ _ hf) hs rest
      refine ⟨ext1 ++ ext2, by rw [he2, he1, List.append_assoc], ?_, ?_⟩
      · unfold cacheReads at *
        rw [List.countP_append]
        omega
      · unfold remoteReads at *
        rw [List.countP_append]
        omega

/-- C14 `fetch_once_sequential` -/
theorem runLookups_fetch_once (P : Params H) (qs : List (Bytes × Bytes)) (w : World σ H) (rest : Bytes) :
    ∃ ext, (runLookups P E w qs).tr = w.tr ++ ext ∧
      cacheReads ((runLookups P E w qs).c.name ++ (B "/lookup/" ++ rest)) ext ≤ 1 ∧
      remoteReads (B "/lookup/" ++ rest) ext ≤ 1 ∧
      (w.c.record.lookup ((runLookups P E w qs).c.name ++ (B "/lookup/" ++ rest)) ≠ none →
        cacheReads ((runLookups P E w qs).c.name ++ (B "/lookup/" ++ rest)) ext = 0 ∧
        remoteReads (B "/lookup/" ++ rest) ext = 0) := by
  obtain ⟨ext, he, ha, hb⟩ := runLookups_counts (E := E) P qs w rest
  have hle : hasRec ((runLookups P E w qs).c.name ++ (B "/lookup/" ++ rest)) (runLookups P E w qs) ≤ 1 := by
    unfold hasRec; split <;> omega
  refine ⟨ext, he, by omega, by omega, ?_⟩
  intro hhit
  have h1 : hasRec ((runLookups P E w qs).c.name ++ (B "/lookup/" ++ rest)) w = 1 := by
    unfold hasRec
    cases hl : w.c.record.lookup ((runLookups P E w qs).c.name ++ (B "/lookup/" ++ rest)) with
    | none => exact absurd hl hhit
    | some r => simp
  omega

end
end ModVerif.ClientEffects
