/-
  Tie proofs for the regenerated module.go functions: checkPath (the `range` loop that cuts the path at
  every '/' rune and calls checkElem on each element), CheckImportPath, CheckFilePath.
-/
import ModVerif.Proofs.TieFnModuleElem
import ModVerif.Proofs.ModulePath
namespace ModVerif.TieFnModule
open ModVerif ModVerif.GoRt ModVerif.GoRtStr

/-- the part of the element loop of checkPath that runs inside the `range` loop: every element but the last is
    checked, the last one is handed to the final `checkElem(path[elemStart:])` -/
def elemsInit (chk : Bytes → Except Module.PathErr Unit) : List Bytes → Except Module.PathErr Bytes
  | [] => .ok []
  | [e] => .ok e
  | e :: e' :: es =>
    match chk e with
    | .error x => .error x
    | .ok () => elemsInit chk (e' :: es)

theorem checkElems_eq_init (nl : Nat → Bool) (kind : Module.Kind) : ∀ (l : List Bytes), l ≠ [] →
    Module.checkElems nl kind l =
      (match elemsInit (Module.checkElem nl kind) l with
       | .error x => .error x
       | .ok last => Module.checkElem nl kind last)
  | [], h => absurd rfl h
  | [e], _ => by
    simp only [Module.checkElems, elemsInit]
    cases Module.checkElem nl kind e with
    | error x => rfl
    | ok u => cases u; rfl
  | e :: e' :: es, _ => by
    simp only [Module.checkElems, elemsInit]
    cases h : Module.checkElem nl kind e with
    | error x => rfl
    | ok u =>
      cases u
      have := checkElems_eq_init nl kind (e' :: es) (by simp)
      simp only [Module.checkElems] at this
      simp only [this]

/-! ### strings.Contains(path, "//") -/

theorem hasDoubleSlash_cons (x : UInt8) (xs : Bytes) :
    Module.hasDoubleSlash (x :: xs) = (isPrefixOfB [47, 47] (x :: xs) || Module.hasDoubleSlash xs) := by
  by_cases hx : x = 47
  · subst hx
    cases xs with
    | nil => simp [Module.hasDoubleSlash, isPrefixOfB]
    | cons y ys =>
      by_cases hy : y = 47
      · subst hy; simp [Module.hasDoubleSlash, isPrefixOfB]
      · have : (47 == y) = false := by simp; exact fun e => hy e.symm
        simp [isPrefixOfB, this]
        rw [Module.hasDoubleSlash]
        intro tl _ e; injection e with e _; exact hy e
  · have : (47 == x) = false := by simp; exact fun e => hx e.symm
    simp [isPrefixOfB, this]
    rw [Module.hasDoubleSlash]
    intro tl e; exact absurd e hx

theorem indexAux_dslash (s : Bytes) : ∀ (k : Nat), decide (0 ≤ indexAux [47, 47] s k) = Module.hasDoubleSlash s := by
  induction s with
  | nil => intro k; simp [indexAux, Module.hasDoubleSlash]
  | cons x xs ih =>
    intro k
    rw [indexAux, hasDoubleSlash_cons]
    by_cases hp : isPrefixOfB [47, 47] (x :: xs) = true
    · simp [hp]
    · simp only [hp, Bool.false_eq_true, if_false, ih (k + 1)]; simp

theorem contains_dslash (s : Bytes) : contains s [47, 47] = Module.hasDoubleSlash s := by
  simp only [contains, index]; exact indexAux_dslash s 0


/-- one step of `for i, r := range path { if r == '/' …`: the rune is '/' exactly when the byte is, and a rune
    other than '/' consumes no '/' byte -/
theorem range_step_slash (s : Bytes) (k : Nat) (hk : k < s.length) :
    ∃ r w : Nat, decodeRuneAt s (k : Int) = ((r : Int), (w : Int)) ∧ 1 ≤ w ∧ k + w ≤ s.length ∧
      ((r = 47 ∧ w = 1 ∧ s[k] = 47) ∨ (r ≠ 47 ∧ (47 : UInt8) ∉ (s.drop k).take w)) := by
  obtain ⟨r, w, hdec, hw1, hw2, _, hc⟩ := range_step s k hk
  refine ⟨r, w, hdec, hw1, hw2, ?_⟩
  rcases hc with ⟨h1, h2, h3⟩ | ⟨h1, h2, h3⟩
  · by_cases h47 : s[k] = 47
    · left; subst h3; rw [h2, h47]; exact ⟨rfl, rfl, rfl⟩
    · right
      constructor
      · intro e; apply h47; apply UInt8.toNat_inj.mp; rw [← h2, e]; rfl
      · subst h3
        intro hm
        rw [List.drop_eq_getElem_cons hk] at hm
        have e1 : (s[k] :: s.drop (k + 1)).take 1 = [s[k]] := rfl
        rw [e1] at hm
        exact h47 (List.mem_singleton.mp hm).symm
  · right
    constructor
    · omega
    · intro hm; have := h3 47 hm; simp at this

theorem take_add_drop {α : Type} (s : List α) (es k w : Nat) (h : es ≤ k) (hk : k ≤ s.length) :
    (s.take (k + w)).drop es = (s.take k).drop es ++ (s.drop k).take w := by
  rw [List.take_add, List.drop_append_of_le_length (by simp; omega)]

theorem take_drop_append_drop {α : Type} (s : List α) (es k : Nat) (h : es ≤ k) :
    (s.take k).drop es ++ s.drop k = s.drop es := by
  have : s.drop es = (s.drop es).take (k - es) ++ (s.drop es).drop (k - es) := (List.take_append_drop _ _).symm
  rw [this, List.drop_drop, List.drop_take]
  congr 2; omega

theorem checkPath_loop1_spec (ef : Bytes → Bytes → Bool) (il : Int → Bool) (path : Bytes) (kind : Module.Kind)
    (hfold : ∀ bad ∈ Module.badWindowsNames, ∀ s, ef bad s = Module.equalFoldAscii bad s) :
    ∀ (fuel k es : Nat), es ≤ k → k ≤ path.length → (47 : UInt8) ∉ (path.take k).drop es →
      2 * path.length + 24 ≤ fuel + k →
    ∃ res, Generated.Module.checkPath_loop1 ef il path (kindInt kind) fuel (k : Int) (es : Int) = .ok res ∧
      (match elemsInit (Module.checkElem (natLetter il) kind) (splitOn 47 (path.drop es)) with
       | .error x => res = Ctl.ret (some (msg x))
       | .ok last => ∃ es' : Nat, res = Ctl.next (len path, (es' : Int)) ∧ es' ≤ path.length ∧ path.drop es' = last) := by
  intro fuel
  induction fuel with
  | zero => intro k es _ hk _ hf; omega
  | succ f ih =>
    intro k es hes hk hcur hf
    unfold Generated.Module.checkPath_loop1
    by_cases hlt : k < path.length
    · obtain ⟨r, w, hdec, hw1, hw2, hc⟩ := range_step_slash path k hlt
      have hlt' : (k : Int) < len path := by simp [len_eq]; omega
      have hkw : (k : Int) + (w : Int) = ((k + w : Nat) : Int) := by simp
      simp only [hlt', decide_true, if_true, hdec]
      rcases hc with ⟨hr, hw, hb⟩ | ⟨hr, hb⟩
      · have hr' : (r : Int) = 47 := by omega
        subst hw
        have hsl : slice path (es : Int) (k : Int) = .ok ((path.take k).drop es) := slice_natCast hes (by omega)
        have hce := checkElem_spec ef il kind ((path.take k).drop es) f hfold (by simp; omega)
        have hsplit : splitOn 47 (path.drop es) = (path.take k).drop es :: splitOn 47 (path.drop (k + 1)) := by
          rw [← take_drop_append_drop path es k hes, List.drop_eq_getElem_cons hlt, hb]
          exact splitOn_noSep_append 47 _ _ hcur
        obtain ⟨res, h1, h2⟩ := ih (k + 1) (k + 1) (Nat.le_refl _) hw2 (by simp) (by omega)
        have hk1 : (k : Int) + 1 = ((k + 1 : Nat) : Int) := by simp
        simp only [hr', decide_true, if_true, hsl, bind_ok, hce, hk1]
        rw [hsplit]
        obtain ⟨e', es', hne⟩ : ∃ e' es', splitOn 47 (path.drop (k + 1)) = e' :: es' := by
          cases h : splitOn 47 (path.drop (k + 1)) with
          | nil => exact absurd h (splitOn_ne_nil _ _)
          | cons a b => exact ⟨a, b, rfl⟩
        rw [hne] at h2 ⊢
        simp only [elemsInit]
        cases hchk : Module.checkElem (natLetter il) kind ((path.take k).drop es) with
        | error x => exact ⟨_, by simp [errOf], rfl⟩
        | ok u =>
          cases u
          simp only [errOf, Option.isNone_none, Bool.not_true, Bool.false_eq_true, if_false, Int.natCast_add,
            Int.natCast_one] at h1 ⊢
          exact ⟨res, h1, h2⟩
      · have hne : ¬ ((r : Int) = 47) := by omega
        have hcur' : (47 : UInt8) ∉ (path.take (k + w)).drop es := by
          rw [take_add_drop path es k w hes (by omega)]
          simp only [List.mem_append, not_or]; exact ⟨hcur, hb⟩
        obtain ⟨res, h1, h2⟩ := ih (k + w) es (by omega) hw2 hcur' (by omega)
        simp only [hne, decide_false, Bool.false_eq_true, if_false, hkw]
        exact ⟨res, h1, h2⟩
    · have hk' : k = path.length := by omega
      subst hk'
      have hsp : splitOn 47 (path.drop es) = [path.drop es] := by
        apply splitOn_noSep
        simpa using hcur
      refine ⟨Ctl.next (len path, (es : Int)), by simp [len_eq], ?_⟩
      rw [hsp]
      simp only [elemsInit]
      exact ⟨es, rfl, hes, rfl⟩


theorem checkPath_spec (ef : Bytes → Bytes → Bool) (il : Int → Bool) (kind : Module.Kind) (path : Bytes) (fuel : Nat)
    (hfold : ∀ bad ∈ Module.badWindowsNames, ∀ s, ef bad s = Module.equalFoldAscii bad s)
    (hf : 2 * path.length + 24 ≤ fuel) :
    Generated.Module.checkPath ef il fuel path (kindInt kind) =
      .ok (errOf (Module.checkPath (natLetter il) kind path)) := by
  unfold Generated.Module.checkPath Module.checkPath
  simp only [validUtf8]
  cases hv : Utf8.validString path
  · simp [errOf, msg]
  simp only [Bool.not_true, Bool.false_eq_true, if_false]
  by_cases h0 : path = []
  · subst h0; simp [errOf, msg]
  have h0' : path.isEmpty = false := by cases path <;> simp at h0 ⊢
  simp only [h0, decide_false, Bool.false_eq_true, if_false, h0']
  rw [idx_zero_eq_head path h0, bind_ok, first_byte_test path h0 (n := 45) 45 rfl]
  have hk2 : (!decide (kindInt kind = 2)) = (kind != Module.Kind.file) := by cases kind <;> rfl
  rw [hk2]
  by_cases h1 : (path.head? == some 45 && kind != Module.Kind.file) = true
  · simp [h1, errOf, msg]
  simp only [h1, Bool.false_eq_true, if_false, contains_dslash]
  by_cases h2 : Module.hasDoubleSlash path = true
  · simp [h2, errOf, msg]
  simp only [h2, Bool.false_eq_true, if_false]
  rw [idx_last path h0, bind_ok, last_byte_test path h0 (n := 47) 47 rfl]
  by_cases h3 : (path.getLast? == some 47) = true
  · simp [h3, errOf, msg]
  simp only [h3, Bool.false_eq_true, if_false]
  obtain ⟨res, hl, hres⟩ := checkPath_loop1_spec ef il path kind hfold fuel 0 0 (Nat.le_refl _) (by omega)
    (by simp) (by omega)
  simp only [Int.natCast_zero, List.drop_zero] at hl hres
  rw [hl, bind_ok, checkElems_eq_init _ _ _ (splitOn_ne_nil 47 path)]
  cases hin : elemsInit (Module.checkElem (natLetter il) kind) (splitOn 47 path) with
  | error x =>
    rw [hin] at hres
    simp only at hres
    subst hres
    simp [errOf]
  | ok last =>
    rw [hin] at hres
    simp only at hres
    obtain ⟨es', rfl, hes', hlast⟩ := hres
    have hce := checkElem_spec ef il kind last fuel hfold (by rw [← hlast]; simp; omega)
    simp only [sliceFrom_natCast hes', hlast, bind_ok, hce]
    cases Module.checkElem (natLetter il) kind last with
    | error x => simp [errOf]
    | ok u => simp [errOf]

/-- `if err := checkPath(path, kind); err != nil { return &InvalidPathError{…, Err: err} }; return nil` -/
theorem wrap_errOf (r : Except Module.PathErr Unit) :
    (if (!(errOf r).isNone) = true then (pure (wrapErr "InvalidPathError" (errOf r)) : M (Option String))
      else pure none) = .ok (wrappedErrOf r) := by
  cases r with
  | error x => simp [errOf, wrappedErrOf, wrapErr]
  | ok u => simp [errOf, wrappedErrOf]

/-- `unicode.IsLetter` is consulted for file paths only -/
theorem checkElems_nonfile (nl nl' : Nat → Bool) (kind : Module.Kind) (hk : kind ≠ .file) :
    ∀ l : List Bytes, Module.checkElems nl kind l = Module.checkElems nl' kind l
  | [] => rfl
  | e :: es => by
    have he : Module.checkElem nl kind e = Module.checkElem nl' kind e := by
      cases kind
      · rfl
      · rfl
      · exact absurd rfl hk
    simp only [Module.checkElems, he, checkElems_nonfile nl nl' kind hk es]

theorem checkPath_nonfile (nl nl' : Nat → Bool) (kind : Module.Kind) (hk : kind ≠ .file) (p : Bytes) :
    Module.checkPath nl kind p = Module.checkPath nl' kind p := by
  simp only [Module.checkPath, checkElems_nonfile nl nl' kind hk]

theorem CheckImportPath_spec (ef : Bytes → Bytes → Bool) (il : Int → Bool) (path : Bytes) (fuel : Nat)
    (hfold : ∀ bad ∈ Module.badWindowsNames, ∀ s, ef bad s = Module.equalFoldAscii bad s)
    (hf : 2 * path.length + 24 ≤ fuel) :
    Generated.Module.CheckImportPath ef il fuel path =
      .ok (wrappedErrOf (Module.checkImportPath path)) := by
  unfold Generated.Module.CheckImportPath Module.checkImportPath
  rw [← checkPath_nonfile (natLetter il) _ .import_ (by decide)]
  have h := checkPath_spec ef il .import_ path fuel hfold hf
  simp only [kindInt] at h
  rw [h, bind_ok]
  exact wrap_errOf _

theorem CheckFilePath_spec (ef : Bytes → Bytes → Bool) (il : Int → Bool) (path : Bytes) (fuel : Nat)
    (hfold : ∀ bad ∈ Module.badWindowsNames, ∀ s, ef bad s = Module.equalFoldAscii bad s)
    (hf : 2 * path.length + 24 ≤ fuel) :
    Generated.Module.CheckFilePath ef il fuel path =
      .ok (wrappedErrOf (Module.checkFilePath (natLetter il) path)) := by
  unfold Generated.Module.CheckFilePath Module.checkFilePath
  have h := checkPath_spec ef il .file path fuel hfold hf
  simp only [kindInt] at h
  rw [h, bind_ok]
  exact wrap_errOf _

end ModVerif.TieFnModule
