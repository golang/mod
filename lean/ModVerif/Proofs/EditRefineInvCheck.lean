/-
  An executable check of the tree invariant: `invB e = true → Inv e`, so that `Inv` can be
  discharged by kernel evaluation for any concrete (e.g. freshly parsed and loaded) file.
-/
import ModVerif.Proofs.EditRefineInvBulk
namespace ModVerif.Modfile.Edit
open ModVerif ModVerif.Modfile

structure EntB where
  id : Nat
  accB : List Bytes → List Comment → Bool

def tokIsB (x v : Bytes) : Bool := x == v || x == autoQuote v

theorem tokIsB_sound {x v : Bytes} (h : tokIsB x v = true) : tokIs x v := by
  simp only [tokIsB, Bool.or_eq_true, beq_iff_eq] at h
  exact h

def entMB (m : Module) : EntB := ⟨m.lineId, fun t _ => t == [B "module", autoQuote m.mod.path]⟩
def entGoB (g : Go) : EntB := ⟨g.lineId, fun t _ => t == [B "go", g.version]⟩
def entTcB (t : Toolchain) : EntB := ⟨t.lineId, fun tk _ => tk == [B "toolchain", t.name]⟩
def entGB (g : Godebug) : EntB := ⟨g.lineId, fun t _ => t == [B "godebug", g.key ++ [61] ++ g.value]⟩
def entRqB (r : Require) : EntB :=
  ⟨r.lineId, fun t s => t == [B "require", autoQuote r.mod.path, r.mod.version] && isIndirectS s == r.indirect⟩
def entXB (x : Exclude) : EntB := ⟨x.lineId, fun t _ => t == [B "exclude", autoQuote x.mod.path, x.mod.version]⟩
def entRpB (r : Replace) : EntB := ⟨r.lineId, fun t _ => t == replaceToks r⟩
def entRtB (r : Retract) : EntB :=
  ⟨r.lineId, fun t _ =>
    (match t with
     | [a, x] => a == B "retract" && tokIsB x r.interval.low && r.interval.low == r.interval.high
     | _ => false) ||
    (match t with
     | [a, l, x, c, y, rb] => a == B "retract" && l == [91] && c == [44] && rb == [93] && tokIsB x r.interval.low &&
         tokIsB y r.interval.high
     | _ => false)⟩
def entTB (t : Tool) : EntB :=
  ⟨t.lineId, fun tk _ => match tk with
    | [a, x] => a == B "tool" && tokIsB x t.path
    | _ => false⟩

def entsOfB {α : Type} (live : α → Bool) (mk : α → EntB) (l : List α) : List EntB := (l.filter live).map mk

def entriesB (f : File) : List EntB :=
  f.module.toList.map entMB ++ (f.go.toList.map entGoB ++ (f.toolchain.toList.map entTcB ++
  (entsOfB liveG entGB f.godebug ++ (entsOfB liveRq entRqB f.require ++ (entsOfB liveX entXB f.exclude ++
  (entsOfB liveRp entRpB f.replace ++ (entsOfB liveRt entRtB f.retract ++ entsOfB liveT entTB f.tool)))))))

/-- an `EntB` decides (soundly) an `Ent` -/
def Decides (p : EntB) (en : Ent) : Prop := p.id = en.id ∧ ∀ t s, p.accB t s = true → en.acc t s

theorem dM (m : Module) : Decides (entMB m) (entM m) := ⟨rfl, fun t s h => by simpa [entMB, entM] using h⟩
theorem dGo (g : Go) : Decides (entGoB g) (entGo g) := ⟨rfl, fun t s h => by simpa [entGoB, entGo] using h⟩
theorem dTc (g : Toolchain) : Decides (entTcB g) (entTc g) := ⟨rfl, fun t s h => by simpa [entTcB, entTc] using h⟩
theorem dG (g : Godebug) : Decides (entGB g) (entG g) := ⟨rfl, fun t s h => by simpa [entGB, entG] using h⟩
theorem dRq (r : Require) : Decides (entRqB r) (entRq r) :=
  ⟨rfl, fun t s h => by simpa [entRqB, entRq] using h⟩
theorem dX (x : Exclude) : Decides (entXB x) (entX x) := ⟨rfl, fun t s h => by simpa [entXB, entX] using h⟩
theorem dRp (r : Replace) : Decides (entRpB r) (entRp r) := ⟨rfl, fun t s h => by simpa [entRpB, entRp] using h⟩
theorem dRt (r : Retract) : Decides (entRtB r) (entRt r) := by
  refine ⟨rfl, fun t s h => ?_⟩
  simp only [entRtB, Bool.or_eq_true] at h
  simp only [entRt]
  rcases h with h | h
  · split at h
    · rename_i a x
      simp only [Bool.and_eq_true, beq_iff_eq] at h
      exact Or.inl ⟨x, by rw [h.1.1], tokIsB_sound h.1.2, h.2⟩
    · cases h
  · split at h
    · rename_i a l x c y rb
      simp only [Bool.and_eq_true, beq_iff_eq] at h
      rcases h with ⟨⟨⟨⟨⟨h1, h2⟩, h3⟩, h4⟩, h5⟩, h6⟩
      exact Or.inr ⟨x, y, by rw [h1, h2, h3, h4], tokIsB_sound h5, tokIsB_sound h6⟩
    · cases h
theorem dT (x : Tool) : Decides (entTB x) (entT x) := by
  refine ⟨rfl, fun t s h => ?_⟩
  simp only [entTB] at h
  simp only [entT]
  split at h
  · rename_i a y
    simp only [Bool.and_eq_true, beq_iff_eq] at h
    exact ⟨y, by rw [h.1], tokIsB_sound h.2⟩
  · cases h

theorem mem_entries_iff (f : File) (en : Ent) : en ∈ entries f ↔
    (∃ x ∈ f.module.toList, entM x = en) ∨ (∃ x ∈ f.go.toList, entGo x = en) ∨ (∃ x ∈ f.toolchain.toList, entTc x = en) ∨
    (∃ x ∈ f.godebug.filter liveG, entG x = en) ∨ (∃ x ∈ f.require.filter liveRq, entRq x = en) ∨
    (∃ x ∈ f.exclude.filter liveX, entX x = en) ∨ (∃ x ∈ f.replace.filter liveRp, entRp x = en) ∨
    (∃ x ∈ f.retract.filter liveRt, entRt x = en) ∨ (∃ x ∈ f.tool.filter liveT, entT x = en) := by
  simp only [entries, entsOf, List.mem_append, List.mem_map]

theorem mem_entriesB_iff (f : File) (p : EntB) : p ∈ entriesB f ↔
    (∃ x ∈ f.module.toList, entMB x = p) ∨ (∃ x ∈ f.go.toList, entGoB x = p) ∨ (∃ x ∈ f.toolchain.toList, entTcB x = p) ∨
    (∃ x ∈ f.godebug.filter liveG, entGB x = p) ∨ (∃ x ∈ f.require.filter liveRq, entRqB x = p) ∨
    (∃ x ∈ f.exclude.filter liveX, entXB x = p) ∨ (∃ x ∈ f.replace.filter liveRp, entRpB x = p) ∨
    (∃ x ∈ f.retract.filter liveRt, entRtB x = p) ∨ (∃ x ∈ f.tool.filter liveT, entTB x = p) := by
  simp only [entriesB, entsOfB, List.mem_append, List.mem_map]

theorem entries_ids_eq (f : File) : (entries f).map (·.id) = (entriesB f).map (·.id) := by
  simp only [entries, entriesB, entsOf, entsOfB, List.map_append, List.map_map]
  rfl

theorem entries_to_B (f : File) : ∀ en ∈ entries f, ∃ p ∈ entriesB f, Decides p en := by
  intro en hen
  rw [mem_entries_iff] at hen
  rcases hen with ⟨x, hx, rfl⟩ | ⟨x, hx, rfl⟩ | ⟨x, hx, rfl⟩ | ⟨x, hx, rfl⟩ | ⟨x, hx, rfl⟩ | ⟨x, hx, rfl⟩ | ⟨x, hx, rfl⟩ |
    ⟨x, hx, rfl⟩ | ⟨x, hx, rfl⟩
  · exact ⟨entMB x, (mem_entriesB_iff f _).2 (Or.inl ⟨x, hx, rfl⟩), dM x⟩
  · exact ⟨entGoB x, (mem_entriesB_iff f _).2 (Or.inr (Or.inl ⟨x, hx, rfl⟩)), dGo x⟩
  · exact ⟨entTcB x, (mem_entriesB_iff f _).2 (Or.inr (Or.inr (Or.inl ⟨x, hx, rfl⟩))), dTc x⟩
  · exact ⟨entGB x, (mem_entriesB_iff f _).2 (Or.inr (Or.inr (Or.inr (Or.inl ⟨x, hx, rfl⟩)))), dG x⟩
  · exact ⟨entRqB x, (mem_entriesB_iff f _).2 (Or.inr (Or.inr (Or.inr (Or.inr (Or.inl ⟨x, hx, rfl⟩))))), dRq x⟩
  · exact ⟨entXB x, (mem_entriesB_iff f _).2 (Or.inr (Or.inr (Or.inr (Or.inr (Or.inr (Or.inl ⟨x, hx, rfl⟩)))))), dX x⟩
  · exact ⟨entRpB x, (mem_entriesB_iff f _).2 (Or.inr (Or.inr (Or.inr (Or.inr (Or.inr (Or.inr (Or.inl ⟨x, hx, rfl⟩))))))), dRp x⟩
  · exact ⟨entRtB x, (mem_entriesB_iff f _).2 (Or.inr (Or.inr (Or.inr (Or.inr (Or.inr (Or.inr (Or.inr (Or.inl ⟨x, hx, rfl⟩)))))))), dRt x⟩
  · exact ⟨entTB x, (mem_entriesB_iff f _).2 (Or.inr (Or.inr (Or.inr (Or.inr (Or.inr (Or.inr (Or.inr (Or.inr ⟨x, hx, rfl⟩)))))))), dT x⟩

theorem entriesB_to (f : File) : ∀ p ∈ entriesB f, ∃ en ∈ entries f, en.id = p.id := by
  intro p hp
  have : p.id ∈ (entries f).map (·.id) := by rw [entries_ids_eq]; exact List.mem_map.2 ⟨p, hp, rfl⟩
  rcases List.mem_map.1 this with ⟨en, hen, hid⟩
  exact ⟨en, hen, hid⟩

def matchB (es : List EntB) (vs : List VLine) : Bool :=
  decide ((es.map (·.id)).Nodup) && es.all (fun p => vs.any (fun v => v.id == p.id && p.accB v.toks v.suffix)) &&
    vs.all (fun v => es.any (fun p => p.id == v.id))

theorem matchB_sound (f : File) (vs : List VLine) (h : matchB (entriesB f) vs = true) : Match (entries f) vs := by
  simp only [matchB, Bool.and_eq_true, decide_eq_true_eq, List.all_eq_true, List.any_eq_true, beq_iff_eq] at h
  rcases h with ⟨⟨h1, h2⟩, h3⟩
  refine ⟨by rw [entries_ids_eq]; exact h1, ?_, ?_⟩
  · intro en hen
    rcases entries_to_B f en hen with ⟨p, hp, hid, hacc⟩
    rcases h2 p hp with ⟨v, hv, hvid, hb⟩
    exact ⟨v, hv, hvid.trans hid, hacc _ _ hb⟩
  · intro v hv
    rcases h3 v hv with ⟨p, hp, hid⟩
    rcases entriesB_to f p hp with ⟨en, hen, hid'⟩
    exact ⟨en, hen, hid'.trans hid⟩

def stmtWFB : Expr → Bool
  | .lineBlock b => b.token.length == 1 && b.lines.all (·.inBlock) && b.comments.suffix.isEmpty
  | .line l => !l.inBlock
  | _ => true

def treeWFB (stmts : List Expr) (next : Nat) : Bool :=
  decide (treeIds stmts).Nodup && (treeIds stmts).all (fun i => decide (i < next) && i != 0) && stmts.all stmtWFB

theorem treeWFB_sound (stmts : List Expr) (next : Nat) (h : treeWFB stmts next = true) : TreeWF stmts next := by
  simp only [treeWFB, Bool.and_eq_true, decide_eq_true_eq, List.all_eq_true, bne_iff_ne, ne_eq] at h
  rcases h with ⟨⟨h1, h2⟩, h3⟩
  refine ⟨h1, fun i hi => (h2 i hi).1, fun i hi => (h2 i hi).2, ?_, ?_, ?_, ?_⟩
  · intro b hb
    have := h3 _ hb
    simp only [stmtWFB, Bool.and_eq_true, beq_iff_eq] at this
    rcases hl : b.token with _ | ⟨v, _ | ⟨w, r⟩⟩
    · rw [hl] at this; simp at this
    · exact ⟨v, rfl⟩
    · rw [hl] at this; simp at this
  · intro l hl
    have := h3 _ hl
    simpa [stmtWFB] using this
  · intro b hb l hl
    have := h3 _ hb
    simp only [stmtWFB, Bool.and_eq_true, List.all_eq_true] at this
    exact this.1.2 l hl
  · intro b hb
    have := h3 _ hb
    simp only [stmtWFB, Bool.and_eq_true, List.isEmpty_iff] at this
    exact this.2

def idWFB {α : Type} (live : α → Bool) (id : α → Nat) (l : List α) : Bool :=
  l.all fun x => if live x then id x != 0 else id x == 0

theorem idWFB_sound {α : Type} (live : α → Bool) (id : α → Nat) (l : List α) (h : idWFB live id l = true) : IdWF live id l := by
  intro x hx
  have := List.all_eq_true.1 h x hx
  by_cases hl : live x = true
  · simp only [hl, if_true, bne_iff_ne, ne_eq] at this
    exact ⟨fun _ => this, fun h' => (by rw [hl] at h'; cases h')⟩
  · simp only [Bool.not_eq_true] at hl
    simp only [hl, Bool.false_eq_true, if_false, beq_iff_eq] at this
    exact ⟨fun h' => (by rw [hl] at h'; cases h'), fun _ => this⟩

def tinvB (e : EFile) : Bool :=
  idWFB liveX (·.lineId) e.f.exclude && idWFB liveRp (·.lineId) e.f.replace && idWFB liveT (·.lineId) e.f.tool &&
    decide (idsOf e.f).Nodup && (idsOf e.f).all (fun i => decide (i < e.next)) && decide (0 < e.next)

theorem tinvB_sound (e : EFile) (h : tinvB e = true) : TInv e := by
  simp only [tinvB, Bool.and_eq_true, decide_eq_true_eq, List.all_eq_true] at h
  rcases h with ⟨⟨⟨⟨⟨h1, h2⟩, h3⟩, h4⟩, h5⟩, h6⟩
  exact ⟨idWFB_sound _ _ _ h1, idWFB_sound _ _ _ h2, idWFB_sound _ _ _ h3, h4, h5, h6⟩

def invB (e : EFile) : Bool :=
  treeWFB e.f.syn.stmts e.next && matchB (entriesB e.f) (view e.f.syn.stmts) && tinvB e

theorem invB_sound (e : EFile) (h : invB e = true) : Inv e := by
  simp only [invB, Bool.and_eq_true] at h
  exact ⟨treeWFB_sound _ _ h.1.1, matchB_sound _ _ h.1.2, tinvB_sound _ h.2⟩

end ModVerif.Modfile.Edit
