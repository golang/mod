/-
  The checkers of the model recompute the root along the RFC 6962 recursion (C03):
  `runRecordProofF` = `RFC6962.inclRootF`, `runTreeProofF` = `RFC6962.consRootsF`, where the model's split `maxpow2` is the
  specification's `splitPoint` (sizes up to `2^63`).
-/
import ModVerif.Model.Tlog
import ModVerif.Spec.RFC6962
import ModVerif.Proofs.TlogBasic
import ModVerif.Proofs.TlogMerkleSpec
namespace ModVerif.Tlog
open ModVerif

theorem maxpow2_fst_eq_splitPoint (n : Nat) (h2 : n ≤ 2 ^ 63) :
    (maxpow2 n).1 = RFC6962.splitPoint n := by
  rw [maxpow2_of_le n h2]; rfl

theorem maxpow2_succ_spec (s : Nat) (h1 : 1 ≤ s) (h2 : s < 2 ^ 63) :
    (maxpow2 (s + 1)).1 = 2 ^ (maxpow2 (s + 1)).2 ∧ (maxpow2 (s + 1)).1 ≤ s ∧ s < 2 * (maxpow2 (s + 1)).1 := by
  have := maxpow2_lt (s + 1) (by omega)
  have := maxpow2_le_two_mul (s + 1) (by omega) (by omega)
  exact ⟨rfl, by omega, by omega⟩

theorem maxpow2_split_spec (s : Nat) (h1 : 2 ≤ s) (h2 : s ≤ 2 ^ 63) :
    (maxpow2 s).1 = 2 ^ (maxpow2 s).2 ∧ (maxpow2 s).1 < s ∧ s ≤ 2 * (maxpow2 s).1 ∧
      (maxpow2 s).1 = RFC6962.splitPoint s :=
  ⟨rfl, maxpow2_lt s (by omega), maxpow2_le_two_mul s (by omega) h2, maxpow2_fst_eq_splitPoint s h2⟩

section
variable {H : Type}

/-- outcome of the model's proof runner corresponding to an optional root of the specification -/
def ofRoot {α : Type} : Option α → Except Err α
  | some r => .ok r
  | none => .error .proofFailed

theorem ofRoot_bind_pure {α β : Type} (o : Option α) (g : α → β) :
    (ofRoot o >>= fun x => pure (g x)) = ofRoot (o.map g) := by
  cases o <;> rfl

theorem runRecordProofF_eq_spec (node : H → H → H) : ∀ f p lo hi n leafHash,
    lo ≤ n → n < hi → hi - lo ≤ f → hi - lo ≤ 2 ^ 63 →
    runRecordProofF node f p lo hi n leafHash = ofRoot (RFC6962.inclRootF node f p (hi - lo) (n - lo) leafHash) := by
  intro f
  induction f with
  | zero => intro p lo hi n lh h1 h2 h3; omega
  | succ f ih =>
    intro p lo hi n lh h1 h2 h3 h4
    unfold runRecordProofF RFC6962.inclRootF
    have hg : (!(decide (lo ≤ n) && decide (n < hi))) = false := by simp [h1, h2]
    simp only [hg, Bool.false_eq_true, ↓reduceIte]
    by_cases hone : lo + 1 = hi
    · have h5 : hi - lo ≤ 1 := by omega
      simp only [hone, beq_self_eq_true, ↓reduceIte, h5]
      cases p <;> simp [ofRoot]
    · have h5 : ¬ hi - lo ≤ 1 := by omega
      have h6 : (lo + 1 == hi) = false := by simp [hone]
      simp only [h6, Bool.false_eq_true, ↓reduceIte, h5]
      cases hp : p.getLast? with
      | none => simp [ofRoot]
      | some last =>
        simp only []
        have hk := maxpow2_fst_eq_splitPoint (hi - lo) h4
        have hlt := maxpow2_lt (hi - lo) (by omega)
        have hpos := maxpow2_fst_pos (hi - lo)
        rw [← hk]
        by_cases hb : n < lo + (maxpow2 (hi - lo)).1
        · have hb' : n - lo < (maxpow2 (hi - lo)).1 := by omega
          simp only [hb, ↓reduceIte, hb']
          rw [ih _ lo (lo + (maxpow2 (hi - lo)).1) n lh h1 hb (by omega) (by omega)]
          have : lo + (maxpow2 (hi - lo)).1 - lo = (maxpow2 (hi - lo)).1 := by omega
          rw [this]
          exact ofRoot_bind_pure _ _
        · have hb' : ¬ n - lo < (maxpow2 (hi - lo)).1 := by omega
          simp only [hb, ↓reduceIte, hb']
          rw [ih _ (lo + (maxpow2 (hi - lo)).1) hi n lh (by omega) h2 (by omega) (by omega)]
          have e1 : hi - (lo + (maxpow2 (hi - lo)).1) = hi - lo - (maxpow2 (hi - lo)).1 := by omega
          have e2 : n - (lo + (maxpow2 (hi - lo)).1) = n - lo - (maxpow2 (hi - lo)).1 := by omega
          rw [e1, e2]
          exact ofRoot_bind_pure _ _

theorem runTreeProofF_eq_spec (node : H → H → H) : ∀ f p lo hi n old,
    lo < n → n ≤ hi → hi - lo ≤ f → hi - lo ≤ 2 ^ 63 →
    runTreeProofF node f p lo hi n old =
      ofRoot (RFC6962.consRootsF node f p (hi - lo) (n - lo) (lo == 0) old) := by
  intro f
  induction f with
  | zero => intro p lo hi n old h1 h2 h3; omega
  | succ f ih =>
    intro p lo hi n old h1 h2 h3 h4
    unfold runTreeProofF RFC6962.consRootsF
    have hg : (!(decide (lo < n) && decide (n ≤ hi))) = false := by simp [h1, h2]
    simp only [hg, Bool.false_eq_true, ↓reduceIte]
    by_cases heq : n = hi
    · have h5 : n - lo = hi - lo := by omega
      simp only [heq, beq_self_eq_true, ↓reduceIte]
      by_cases hz : lo = 0
      · subst hz
        simp only [beq_self_eq_true, ↓reduceIte]
        cases p <;> simp [ofRoot]
      · have hz' : (lo == 0) = false := by simp [hz]
        simp only [hz', Bool.false_eq_true, ↓reduceIte]
        match p with
        | [] => simp [ofRoot]
        | [x] => simp [ofRoot]
        | _ :: _ :: _ => simp [ofRoot]
    · have h5 : ¬ n - lo = hi - lo := by omega
      have h6 : (n == hi) = false := by simp [heq]
      simp only [h6, Bool.false_eq_true, ↓reduceIte, h5]
      cases hp : p.getLast? with
      | none => simp [ofRoot]
      | some last =>
        simp only []
        have hk := maxpow2_fst_eq_splitPoint (hi - lo) h4
        have hlt := maxpow2_lt (hi - lo) (by omega)
        have hpos := maxpow2_fst_pos (hi - lo)
        rw [← hk]
        by_cases hb : n ≤ lo + (maxpow2 (hi - lo)).1
        · have hb' : n - lo ≤ (maxpow2 (hi - lo)).1 := by omega
          simp only [hb, ↓reduceIte, hb']
          rw [ih _ lo (lo + (maxpow2 (hi - lo)).1) n old h1 hb (by omega) (by omega)]
          have : lo + (maxpow2 (hi - lo)).1 - lo = (maxpow2 (hi - lo)).1 := by omega
          rw [this]
          exact ofRoot_bind_pure _ _
        · have hb' : ¬ n - lo ≤ (maxpow2 (hi - lo)).1 := by omega
          simp only [hb, ↓reduceIte, hb']
          rw [ih _ (lo + (maxpow2 (hi - lo)).1) hi n old (by omega) h2 (by omega) (by omega)]
          have e1 : hi - (lo + (maxpow2 (hi - lo)).1) = hi - lo - (maxpow2 (hi - lo)).1 := by omega
          have e2 : n - (lo + (maxpow2 (hi - lo)).1) = n - lo - (maxpow2 (hi - lo)).1 := by omega
          have e3 : (lo + (maxpow2 (hi - lo)).1 == 0) = false := by simp; omega
          rw [e1, e2, e3]
          exact ofRoot_bind_pure _ _

/-! ### in range the checkers accept or answer errProofFailed, for every size -/

theorem checkRecord_in_range [DecidableEq H] (node : H → H → H) (p : List H) (t n : Int) (th h : H)
    (h0 : 0 ≤ n) (h1 : n < t) :
    checkRecord node p t th n h = .ok () ∨ checkRecord node p t th n h = .error .proofFailed := by
  unfold checkRecord runRecordProof
  have hg : (decide (t < 0) || decide (n < 0) || decide (n ≥ t)) = false := by simp; omega
  simp only [hg, Bool.false_eq_true, ↓reduceIte]
  rcases runRecordProofF_clean node (t.toNat - 0) p 0 t.toNat n.toNat h (Nat.zero_le _) (by omega)
    (Nat.le_refl _) with hc | ⟨a, hc⟩
  · rw [hc]; right; rfl
  · rw [hc]
    by_cases hq : a = th
    · left; simp [bind, Except.bind, pure, Except.pure, hq]
    · right; simp [bind, Except.bind, hq]

theorem checkTree_in_range [DecidableEq H] (node : H → H → H) (p : List H) (t n : Int) (th h : H)
    (h0 : 1 ≤ n) (h1 : n ≤ t) :
    checkTree node p t th n h = .ok () ∨ checkTree node p t th n h = .error .proofFailed := by
  unfold checkTree runTreeProof
  have hg : (decide (t < 1) || decide (n < 1) || decide (n > t)) = false := by simp; omega
  simp only [hg, Bool.false_eq_true, ↓reduceIte]
  rcases runTreeProofF_clean node (t.toNat - 0) p 0 t.toNat n.toNat h (by omega) (by omega)
    (Nat.le_refl _) with hc | ⟨⟨h2, th2⟩, hc⟩
  · rw [hc]; right; rfl
  · rw [hc]
    by_cases hq : th2 = th ∧ h2 = h
    · left; simp [bind, Except.bind, pure, Except.pure, hq]
    · right; simp only [bind, Except.bind, if_neg hq]

end
end ModVerif.Tlog
