/-
  C20 `pos_consistent_exact`, parser half: `Line.end` is EXACTLY the end of the line's last token.

  `EndsAt` (Proofs/ModfileC20Lex.lean) allows the LF / CRLF that `endToken` strips from a comment token between the
  token text and the end position.  That slack is real only for a WHOLE-LINE comment token (`TokKind.comment`) inside a
  line.  Here: no token of a line is a comment token of either kind, hence `TokFacts.exactEnd` applies to each of them.

  * lexer level: the classification invariant `ModfileFmtEmits.G` of the C02 proofs
    (`readToken_class` / `readToken_eol`, Proofs/ModfileFmtClass.lean): after a line token the consumed part of the
    source line is "used" and the next token is not a whole-line comment token; after an end-of-line token or a
    whole-line comment the lexer is at the beginning of a line (or of nothing) and the next token is not an end-of-line
    comment.  Every state the parser can be in (`Reach`) satisfies it (`ModfileFmtEmits.reach_G`).  The invariant is stated
    on the consumed bytes of the CURRENT source line, decoded in the context of what follows, so a quoted string holding an
    escaped newline (`"a\` LF `b"`, accepted by `readString`) and ill-formed UTF-8 at the end of an identifier are
    covered (the closing quote, resp. the first rune of the identifier, is what makes the line "used").
  * parser level: over the classified runs of the parser (Proofs/ModfileRunTok.lean) every token pushed
    to a line is delivered by a `TokCall`, so it is `TokOK` and no comment token; a `(` in the middle of a line keeps
    the old `end` exactly as in read.go — the next token of that line overwrites it before the line can end
    (`… ∨ isEOL = false`, as in Proofs/ModfileC20Tree.lean).
  * comment assignment does not touch `token` / `end` of any line (`assignComments_endKeys`).
-/
import ModVerif.Proofs.ModfileC20Top
import ModVerif.Proofs.ModfileC20Ids
import ModVerif.Proofs.ModfileRunTok
namespace ModVerif.Proofs.ModfileC20
open ModVerif ModVerif.Modfile ModVerif.Proofs.ModfileLex ModVerif.Proofs.ModfilePos ModVerif.Proofs.ModfileRun

/-- the input before `Line.end` ends with the line's last token — exactly, no line end in between -/
def LineEndX (data : Bytes) (l : Line) : Prop :=
  ∃ t, l.token.getLast? = some t ∧ t <:+ data.take l.«end».byte

def ExprEndX (data : Bytes) : Expr → Prop
  | .line l => LineEndX data l
  | .lineBlock b => ∀ l ∈ b.lines, LineEndX data l
  | _ => True

variable {data : Bytes}

/-- a token of a line is no comment token of either kind -/
theorem TokCall.endx {i i1 : Input} (hc : TokCall data i i1) : i.token.text <:+ data.take i.token.endPos.byte := by
  refine (reach_facts hc.lx.inv).exactEnd ?_
  have := hc.ok
  generalize i.token.kind = k, i.token.text = t at this
  cases this <;> rfl

/-- `EndTop` of Proofs/ModfileC20Tree.lean asks `EndsAt`: a consistent position, and the raw text -/
def EndsAtTop (data : Bytes) (e : Position) (acc : List Bytes) : Prop := ∃ t, acc.head? = some t ∧ t <:+ data.take e.byte

theorem TokCall.endsAtTop {i i1 : Input} (hc : TokCall data i i1) (acc : List Bytes) :
    EndsAtTop data i.token.endPos (i.token.text :: acc) := ⟨_, rfl, TokCall.endx hc⟩

theorem PLine.endx {i : Input} {s e : Position} {acc : List Bytes} {l : Line} {i' : Input}
    (h : PLineC data i s e acc l i') (hend : EndsAtTop data e acc) : LineEndX data l := by
  induction h with
  | eol _ _ => obtain ⟨t, ht, hend⟩ := hend; exact ⟨t, by simp [List.getLast?_reverse, ht], hend⟩
  | tok hc _ _ ih => exact ih (TokCall.endsAtTop hc _)

/-- a `(` in the middle of a line keeps the old `end`, as in read.go; the next token of that line overwrites it before the
    line can end -/
theorem PStmt.endx {i : Input} {s e : Position} {acc : List Bytes} {x : Expr} {i' : Input}
    (h : PStmtC data i s e acc x i') (hend : EndsAtTop data e acc ∨ i.token.kind.isEOL = false) : ExprEndX data x := by
  induction h with
  | eol _ he =>
    rcases hend with ⟨t, ht, hend⟩ | hne
    · exact ⟨t, by simp [List.getLast?_reverse, ht], hend⟩
    · rw [hne] at he; cases he
  | block _ _ _ hb =>
    exact PBlock.all (fun _ _ h => h) (fun hc hl => PLine.endx hl (TokCall.endsAtTop hc _)) hb (by intro l hl; cases hl)
  | empty _ _ _ _ _ _ => intro l hl; cases hl
  | parens _ _ _ _ he2 _ ih => exact ih (Or.inr he2)
  | lparen _ _ he1 _ _ ih => exact ih (Or.inr he1)
  | tok hc _ _ _ ih => exact ih (Or.inl (TokCall.endsAtTop hc _))

theorem exprEndX_setComments {x : Expr} (c : Comments) (h : ExprEndX data x) : ExprEndX data (x.setComments c) := by
  cases x <;> first | exact h | trivial

theorem parseFile_endx {stmts : List Expr} {i' : Input} (h : parseFile data = .ok (stmts, i')) :
    ∀ x ∈ stmts, ExprEndX data x := by
  obtain ⟨i0, _, hrun, _⟩ := parseFile_runC h
  exact PFile.all (fun _ => trivial) (fun _ c hx => exprEndX_setComments c hx)
    (fun hc hs => PStmt.endx hs (Or.inl (TokCall.endsAtTop hc _))) hrun (by intro x hx; cases hx)

/-- what comment assignment never changes of a line (top-level or in a block) -/
def endKey (l : Line) : List Bytes × Position := (l.token, l.«end»)

theorem assignComments_endKeys (f : FileSyntax) (cs : List Comment) :
    (linesOf (assignComments f cs).stmts).map endKey = (linesOf f.stmts).map endKey :=
  assignComments_lines endKey (fun _ => rfl) f cs

theorem linesOf_endx {data : Bytes} : ∀ (xs : List Expr), (∀ x ∈ xs, ExprEndX data x) →
    ∀ l ∈ linesOf xs, LineEndX data l := by
  intro xs
  induction xs with
  | nil => intro _ l hl; simp at hl
  | cons x rest ih =>
    intro h l hl
    have hx := h x (by simp)
    have hrest := ih (fun y hy => h y (List.mem_cons_of_mem _ hy))
    cases x with
    | line x =>
      simp only [linesOf_line, List.mem_cons] at hl
      rcases hl with rfl | hl
      · exact hx
      · exact hrest l hl
    | lineBlock b =>
      simp only [linesOf_block, List.mem_append] at hl
      rcases hl with hl | hl
      · exact hx l hl
      · exact hrest l hl
    | commentBlock c => simp only [linesOf_commentBlock] at hl; exact hrest l hl
    | lparen c => simp only [linesOf_lparen] at hl; exact hrest l hl
    | rparen c => simp only [linesOf_rparen] at hl; exact hrest l hl

theorem parse_endx {name data : Bytes} {t : FileSyntax} (h : parse name data = .ok t) :
    ∀ l ∈ t.allLines, LineEndX data l := by
  unfold parse at h
  cases hp : parseFile data with
  | error e => simp [hp, bind, Except.bind] at h
  | ok v =>
    simp only [hp, bind, Except.bind, Except.ok.injEq] at h
    subst h
    intro l hl
    rw [allLines_eq] at hl
    have hc := assignComments_endKeys { name := name, stmts := v.1 } v.2.commentsRev.reverse
    have hm : endKey l ∈ (linesOf v.1).map endKey := by
      rw [← hc]; exact List.mem_map_of_mem hl
    obtain ⟨l0, hl0, heq⟩ := List.mem_map.mp hm
    have h0 : LineEndX data l0 :=
      linesOf_endx v.1 (parseFile_endx (show parseFile data = .ok (v.1, v.2) by rw [hp])) l0 hl0
    simp only [endKey, Prod.mk.injEq] at heq
    obtain ⟨tk, htk, hsuf⟩ := h0
    exact ⟨tk, by rw [← heq.1]; exact htk, by rw [← heq.2]; exact hsuf⟩

def EndsExactly (data : Bytes) (p : Position) (text : Bytes) : Prop :=
  PosOK data p ∧ text <:+ data.take p.byte

theorem EndsExactly.endsAt {data : Bytes} {p : Position} {text : Bytes} (h : EndsExactly data p text) :
    EndsAt data p text :=
  ⟨h.1, text, Or.inl rfl, h.2⟩

theorem fileOK_lines {data : Bytes} : ∀ (xs : List Expr), (∀ x ∈ xs, ExprOK data x) →
    ∀ l ∈ linesOf xs, LineOK data l := by
  intro xs
  induction xs with
  | nil => intro _ l hl; simp at hl
  | cons x rest ih =>
    intro h l hl
    have hx := h x (by simp)
    have hrest := ih (fun y hy => h y (List.mem_cons_of_mem _ hy))
    cases x with
    | line x =>
      simp only [linesOf_line, List.mem_cons] at hl
      rcases hl with rfl | hl
      · exact hx
      · exact hrest l hl
    | lineBlock b =>
      simp only [linesOf_block, List.mem_append] at hl
      rcases hl with hl | hl
      · exact hx.lines l hl
      · exact hrest l hl
    | commentBlock c => simp only [linesOf_commentBlock] at hl; exact hrest l hl
    | lparen c => exact hx.elim
    | rparen c => exact hx.elim

/-- `pos_consistent` with `Line.end` characterised exactly -/
theorem parse_pos_consistent_exact (name data : Bytes) :
    match parse name data with
    | .ok t => FileOK data t ∧
        ∀ l ∈ t.allLines, ∃ tok, l.token.getLast? = some tok ∧ EndsExactly data l.«end» tok
    | .error e => PosOK data e.pos := by
  have h := parse_pos_consistent name data
  cases hp : parse name data with
  | error e => rw [hp] at h; exact h
  | ok t =>
    rw [hp] at h
    refine ⟨h, ?_⟩
    intro l hl
    obtain ⟨tk, htk, hsuf⟩ := parse_endx hp l hl
    have hlo : LineOK data l := fileOK_lines t.stmts h.stmts l (by rw [← allLines_eq]; exact hl)
    obtain ⟨_, _, hend⟩ := hlo.«end»
    exact ⟨tk, htk, hend.1, hsuf⟩

end ModVerif.Proofs.ModfileC20
