/-
  `File.SetRequireSeparateIndirect`: the closure `hasComments`, the request
  as FRESH `Require` objects (`ReqArgsS`: `Syntax == nil`), the pointer-valued maps `need` (`NeedRel`, loop 3 =
  `needMap false`) and `have` (`HaveRel`).
-/
import ModVerif.Proofs.TieFnEditSetC
namespace ModVerif.Tie.FnEditSetD
open ModVerif ModVerif.GoRt ModVerif.Generated.Edit ModVerif.Tie.FnEditRep ModVerif.Tie.FnEditTreeA ModVerif.Tie.FnEditLoop ModVerif.Tie.FnEditSetA
  ModVerif.Tie.FnEditSetB
open ModVerif.Modfile.Edit (Want needMap EFile)

/-! ### hasComments -/

theorem hasComments_eq (isPrint : Int → Bool) (quote : Bytes → Bytes) (fuel : Nat) (c : Modfile.Comments) :
    File_SetRequireSeparateIndirect_hasComments isPrint quote fuel (comsG c) = .ok (Modfile.Edit.hasComments c) := by
  obtain ⟨bef, suf, aft⟩ := c
  unfold File_SetRequireSeparateIndirect_hasComments Modfile.Edit.hasComments
  simp only [comsG_Before, comsG_Suffix, comsG_After, bind, Except.bind, pure, Except.pure]
  rcases bef with _ | ⟨b, bt⟩
  · rcases aft with _ | ⟨a, at'⟩
    · rcases suf with _ | ⟨s, _ | ⟨s2, st⟩⟩
      · simp [len_eq]
      · by_cases ht : GoStrings.trimSpace (GoStrings.trimPrefix s.token [47, 47]) = [105, 110, 100, 105, 114, 101, 99, 116]
        · simp [len_eq, idxL_zero_cons, trimSpace_eq, trimPrefix_eq, Modfile.Edit.slashSlash, B_indirect, ht]
        · simp [len_eq, idxL_zero_cons, trimSpace_eq, trimPrefix_eq, Modfile.Edit.slashSlash, B_indirect, ht]
      · have : ((st.length : Int) + 1 + 1 > 1) := by omega
        simp [len_eq, this]
    · have : ((at'.length : Int) + 1 > 0) := by omega
      simp [len_eq, this]
  · have : ((bt.length : Int) + 1 > 0) := by omega
    simp [len_eq, this]

/-! ### the request: fresh objects -/

/-- the `Require` value a caller builds for a wanted requirement (`Syntax == nil`) -/
def wantReq (w : Want) : Modfile.Require := { mod := { path := w.path, version := w.vers }, indirect := w.indirect, lineId := 0 }

def ReqArgsS (objs : List Require) : List Int → List Want → Prop
  | [], [] => True
  | p :: ps, w :: ws => heapGet objs p = .ok (requireG (wantReq w)) ∧ ReqArgsS objs ps ws
  | _, _ => False

theorem ReqArgsS.toArgs {objs : List Require} : ∀ {ps : List Int} {ws : List Want}, ReqArgsS objs ps ws → ReqArgs objs ps ws
  | [], [], _ => trivial
  | _ :: _, _ :: _, r => ⟨⟨_, r.1, rfl, rfl, rfl⟩, ReqArgsS.toArgs r.2⟩
  | [], _ :: _, r => r.elim
  | _ :: _, [], r => r.elim

theorem ReqArgsS.mem {objs : List Require} : ∀ {ps : List Int} {ws : List Want}, ReqArgsS objs ps ws →
    ∀ p ∈ ps, ∃ w ∈ ws, heapGet objs p = .ok (requireG (wantReq w))
  | [], [], _, p, hp => by cases hp
  | _ :: _, w :: _, r, p, hp => by
    rcases List.mem_cons.1 hp with rfl | hp'
    · exact ⟨w, List.mem_cons_self, r.1⟩
    · obtain ⟨w', hw, hg⟩ := ReqArgsS.mem r.2 p hp'
      exact ⟨w', List.mem_cons_of_mem _ hw, hg⟩
  | [], _ :: _, r, _, _ => r.elim
  | _ :: _, [], r, _, _ => r.elim

theorem ReqArgsS.mono {objs objs' : List Require} (ho : ∀ p v, heapGet objs p = .ok v → heapGet objs' p = .ok v) :
    ∀ {ps : List Int} {ws : List Want}, ReqArgsS objs ps ws → ReqArgsS objs' ps ws
  | [], [], _ => trivial
  | _ :: _, _ :: _, r => ⟨ho _ _ r.1, ReqArgsS.mono ho r.2⟩
  | [], _ :: _, r => r.elim
  | _ :: _, [], r => r.elim

/-! ### the map `need : map[string]*Require` -/

/-- the generated `need : map[string]*Require` ↔ the model's association list -/
def NeedRel (objs : List Require) : List (Bytes × Int) → List Want → Prop
  | [], [] => True
  | kp :: t, w :: ws => (kp.1 = w.path ∧ heapGet objs kp.2 = .ok (requireG (wantReq w))) ∧ NeedRel objs t ws
  | _, _ => False

theorem NeedRel.length {objs : List Require} : ∀ {np : List (Bytes × Int)} {ws : List Want}, NeedRel objs np ws → np.length = ws.length
  | [], [], _ => rfl
  | _ :: _, _ :: _, r => by simp [NeedRel.length r.2]
  | [], _ :: _, r => r.elim
  | _ :: _, [], r => r.elim

theorem NeedRel.mono {objs objs' : List Require} (ho : ∀ p v, heapGet objs p = .ok v → heapGet objs' p = .ok v) :
    ∀ {np : List (Bytes × Int)} {ws : List Want}, NeedRel objs np ws → NeedRel objs' np ws
  | [], [], _ => trivial
  | _ :: _, _ :: _, r => ⟨⟨r.1.1, ho _ _ r.1.2⟩, NeedRel.mono ho r.2⟩
  | [], _ :: _, r => r.elim
  | _ :: _, [], r => r.elim

theorem NeedRel.append {objs : List Require} : ∀ {np nq : List (Bytes × Int)} {ws vs : List Want},
    NeedRel objs np ws → NeedRel objs nq vs → NeedRel objs (np ++ nq) (ws ++ vs)
  | [], _, [], _, _, r2 => r2
  | _ :: _, _, _ :: _, _, r1, r2 => ⟨r1.1, NeedRel.append r1.2 r2⟩
  | [], _, _ :: _, _, r1, _ => r1.elim
  | _ :: _, _, [], _, r1, _ => r1.elim

theorem NeedRel.find {objs : List Require} (k : Bytes) : ∀ {np : List (Bytes × Int)} {ws : List Want}, NeedRel objs np ws →
    match ws.find? (·.path == k) with
    | some w => ∃ p, np.find? (fun q => decide (q.1 = k)) = some (k, p) ∧ heapGet objs p = .ok (requireG (wantReq w))
    | none => np.find? (fun q => decide (q.1 = k)) = none
  | [], [], _ => by simp
  | kp :: t, w :: ws, r => by
    obtain ⟨⟨h1, h2⟩, r'⟩ := r
    simp only [List.find?_cons]
    by_cases e : w.path = k
    · have e' : (w.path == k) = true := by simpa using e
      have e'' : decide (kp.1 = k) = true := by simp [h1, e]
      simp only [e', e'']
      refine ⟨kp.2, ?_, h2⟩
      rw [← e, ← h1]
    · have e' : (w.path == k) = false := by simpa using e
      have e'' : decide (kp.1 = k) = false := by simp [h1, e]
      simp only [e', e'']
      exact NeedRel.find k r'
  | [], _ :: _, r => r.elim
  | _ :: _, [], r => r.elim

/-- `need[path]` as the generated code reads it -/
theorem NeedRel.mapGet {objs : List Require} (k : Bytes) {np : List (Bytes × Int)} {ws : List Want} (r : NeedRel objs np ws) :
    match ws.find? (·.path == k) with
    | some w => 0 < (mapGet np k (0 : Int)).1 ∧ heapGet objs (mapGet np k (0 : Int)).1 = .ok (requireG (wantReq w))
    | none => (mapGet np k (0 : Int)).1 = 0 := by
  have := r.find k
  unfold GoRt.mapGet
  cases hf : ws.find? (·.path == k) with
  | none => rw [hf] at this; simp only at this; rw [this]
  | some w =>
    rw [hf] at this
    obtain ⟨p, hp, hg⟩ := this
    rw [hp]
    exact ⟨heapGet_pos hg, hg⟩

/-- `need[w.path] = p` -/
theorem NeedRel.mapSet {objs : List Require} (w : Want) (p : Int) (hp : heapGet objs p = .ok (requireG (wantReq w))) :
    ∀ {np : List (Bytes × Int)} {ws : List Want}, NeedRel objs np ws →
    NeedRel objs (mapSet np w.path p) (match ws.find? (·.path == w.path) with
        | some _ => ws.map fun a => if a.path == w.path then w else a
        | none => ws ++ [w]) := by
  intro np ws r
  have hfind := r.find w.path
  unfold GoRt.mapSet
  cases hf : ws.find? (·.path == w.path) with
  | none =>
    rw [hf] at hfind
    simp only at hfind
    simp only [hfind, Option.isSome_none, Bool.false_eq_true, if_false]
    exact r.append ⟨⟨rfl, hp⟩, trivial⟩
  | some v =>
    rw [hf] at hfind
    obtain ⟨q, hq, _⟩ := hfind
    simp only [hq, Option.isSome_some, if_true]
    clear hq hf
    induction np generalizing ws with
    | nil => cases ws with
      | nil => trivial
      | cons _ _ => exact r.elim
    | cons kp t ih => cases ws with
      | nil => exact r.elim
      | cons a ws =>
        obtain ⟨⟨h1, h2⟩, r'⟩ := r
        simp only [List.map_cons]
        refine ⟨?_, ih r'⟩
        by_cases e : a.path = w.path
        · have e' : (a.path == w.path) = true := by simpa using e
          have e2 : kp.1 = w.path := by rw [h1, e]
          rw [if_pos e2, if_pos e']
          exact ⟨rfl, hp⟩
        · have e' : ¬ ((a.path == w.path) = true) := by simpa using e
          have e2 : ¬ (kp.1 = w.path) := by rw [h1]; exact e
          rw [if_neg e2, if_neg e']
          exact ⟨h1, h2⟩

theorem mem_mapSet {κ ν : Type} [DecidableEq κ] {m : List (κ × ν)} {k : κ} {v : ν} {q : κ × ν} (h : q ∈ GoRt.mapSet m k v) :
    q ∈ m ∨ q = (k, v) := by
  unfold GoRt.mapSet at h
  split at h
  · obtain ⟨x, hx, rfl⟩ := List.mem_map.1 h
    by_cases e : x.1 = k
    · rw [if_pos e]; exact Or.inr rfl
    · rw [if_neg e]; exact Or.inl hx
  · rcases List.mem_append.1 h with h | h
    · exact Or.inl h
    · simp only [List.mem_singleton] at h; exact Or.inr h

/-- loop 3 of SetRequireSeparateIndirect: `need[r.Mod.Path] = r` over the request = `needMap false`; every value of the
    map is one of the request pointers (`P`: any property of these) -/
theorem loop3S_sim (isPrint : Int → Bool) (quote : Bytes → Bytes) (h : Heap) (P : Int → Prop) :
    ∀ (rest : List Want) (ps pre rx : List Int) (ri : Int) (acc : List Want) (np : List (Bytes × Int)) (fuel : Nat),
      rx = pre ++ ps → ri = (pre.length : Int) → ReqArgsS h.requires ps rest → NeedRel h.requires np acc → rest.length < fuel →
      (∀ kp ∈ np, P kp.2) → (∀ p ∈ ps, P p) →
      ∃ need np', needMap false rest acc = .ok need ∧
        File_SetRequireSeparateIndirect_loop3 isPrint quote rx h fuel ri np = .ok (len rx, np') ∧ NeedRel h.requires np' need ∧
        ∀ kp ∈ np', P kp.2
  | [], [], pre, rx, ri, acc, np, fuel + 1, hrx, hri, _, hn, _, hP, _ => by
    subst hrx hri
    have := not_lt_len_end pre
    refine ⟨acc, np, rfl, ?_, hn, hP⟩
    simp [File_SetRequireSeparateIndirect_loop3, pure, Except.pure, len_eq]
  | w :: ws, p :: ps, pre, rx, ri, acc, np, fuel + 1, hrx, hri, hr, hn, hf, hP, hPs => by
    obtain ⟨ho, hr'⟩ := hr
    have hn' := hn.mapSet w p ho
    have hP' : ∀ kp ∈ GoRt.mapSet np w.path p, P kp.2 := by
      intro kp hkp
      rcases mem_mapSet hkp with h1 | h1
      · exact hP kp h1
      · rw [h1]; exact hPs p List.mem_cons_self
    obtain ⟨need, np', hm, hrun, hrel, hPn⟩ := loop3S_sim isPrint quote h P ws ps (pre ++ [p]) rx (ri + 1) _ _ fuel (by simp [hrx])
      (by simp [hri]) hr' hn' (by simp at hf; omega) hP' (fun q hq => hPs q (List.mem_cons_of_mem _ hq))
    subst hrx hri
    refine ⟨need, np', ?_, ?_, hrel, hPn⟩
    · unfold needMap
      cases hfind : acc.find? (·.path == w.path) with
      | none => simpa [hfind] using hm
      | some prev => simpa [hfind] using hm
    · simp only [File_SetRequireSeparateIndirect_loop3, lt_len_mid, decide_true, if_true, idxL_mid, bind, Except.bind, ho,
        requireG_Mod, mvG_Path]
      exact hrun
  | [], _ :: _, _, _, _, _, _, _, _, _, hr, _, _, _, _ => hr.elim
  | _ :: _, [], _, _, _, _, _, _, _, _, hr, _, _, _, _ => hr.elim

/-! ### the map `have : map[string]*Require` -/

/-- the generated `have` map (keys in insertion order, non-nil values) ↔ the model's list of kept paths (newest first) -/
def HaveRel (hp : List (Bytes × Int)) (hv : List Bytes) : Prop := hp.map (·.1) = hv.reverse ∧ ∀ kp ∈ hp, 0 < kp.2

theorem HaveRel.nil : HaveRel [] [] := ⟨rfl, fun _ h => by cases h⟩

theorem find_none_of_keys {κ ν : Type} [DecidableEq κ] {hp : List (κ × ν)} {k : κ} (h : k ∉ hp.map (·.1)) :
    hp.find? (fun q => decide (q.1 = k)) = none := by
  rw [List.find?_eq_none]
  intro q hq hqk
  exact h (List.mem_map.2 ⟨q, hq, by simpa using hqk⟩)

/-- `have[path] == nil` -/
theorem HaveRel.mapGet {hp : List (Bytes × Int)} {hv : List Bytes} (r : HaveRel hp hv) (k : Bytes) :
    decide ((mapGet hp k (0 : Int)).1 = 0) = !hv.contains k := by
  unfold GoRt.mapGet
  cases hf : hp.find? (fun q => decide (q.1 = k)) with
  | none =>
    have : k ∉ hv := by
      intro hk
      have : k ∈ hp.map (·.1) := by rw [r.1]; simpa using hk
      obtain ⟨q, hq, hqk⟩ := List.mem_map.1 this
      have := List.find?_eq_none.1 hf q hq
      simp [hqk] at this
    simp [this]
  | some q =>
    have hq := List.mem_of_find?_eq_some hf
    have hk : q.1 = k := by simpa using List.find?_some hf
    have : k ∈ hv := by
      have : k ∈ hp.map (·.1) := List.mem_map.2 ⟨q, hq, hk⟩
      rw [r.1] at this; simpa using this
    have hpos := r.2 q hq
    have : ¬ (q.2 = 0) := by omega
    simp [*]

/-- `have[k] = p` for a key that is not there -/
theorem HaveRel.mapSet {hp : List (Bytes × Int)} {hv : List Bytes} (r : HaveRel hp hv) (k : Bytes) (p : Int) (hpos : 0 < p)
    (hk : hv.contains k = false) : HaveRel (mapSet hp k p) (k :: hv) := by
  have hnk : k ∉ hp.map (·.1) := by rw [r.1]; simpa using hk
  unfold GoRt.mapSet
  rw [find_none_of_keys hnk]
  simp only [Option.isSome_none, Bool.false_eq_true, if_false]
  refine ⟨by simp [r.1], ?_⟩
  intro kp hkp
  rcases List.mem_append.1 hkp with h1 | h1
  · exact r.2 kp h1
  · simp only [List.mem_singleton] at h1; subst h1; exact hpos

end ModVerif.Tie.FnEditSetD
