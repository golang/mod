/-
  SetRequireSeparateIndirect, the phase that locates or creates the two blocks, as two plain functions (`sepStage1`,
  `sepStage2`; the model writes them inline in the Except monad) followed by `sepTail`; one iteration of the loops of the
  two bulk setters as a function (`setReqStep`, `sepStep`), with the loops' equations.  `BulkPres`: a property of trees
  that the tree steps of the two setters preserve is preserved by them.
-/
import ModVerif.Proofs.EditRefineTree
namespace ModVerif.Modfile.Edit
open ModVerif ModVerif.Modfile

def isBlockAt (stmts : List Expr) (d : Nat) : Bool :=
  match stmts[d]? with
  | some (.lineBlock _) => true
  | _ => false

/-- the direct block of SetRequireSeparateIndirect: statements, index, index during the scan, the (shifted) index of
    the last indirect-only statement, its index during the scan -/
def sepStage1 (stmts : List Expr) (sc : Scan) : Except EditErr (List Expr × Nat × Option Nat × Option Nat × Option Nat) :=
  match sc.lastDirect with
  | none =>
    match sc.lastIndirect with
    | some j => .ok (insertAt stmts j emptyRequireBlock, j, none, some (j + 1), some j)
    | none =>
      match sc.lastRequire with
      | some k => .ok (insertAt stmts (k + 1) emptyRequireBlock, k + 1, none, none, none)
      | none => .ok (stmts ++ [emptyRequireBlock], stmts.length, none, none, none)
  | some d =>
    match ensureBlock stmts d with
    | .ok s => .ok (s, d, (if isBlockAt stmts d then some d else none), sc.lastIndirect, sc.lastIndirect)
    | .error err => .error err

def sepStage2 (stmts : List Expr) (directIdx : Nat) (lastIndirect indirectShift : Option Nat) :
    Except EditErr (List Expr × Nat × Option Nat) :=
  match lastIndirect with
  | none => .ok (insertAt stmts (directIdx + 1) emptyRequireBlock, directIdx + 1, none)
  | some j =>
    match ensureBlock stmts j with
    | .ok s => .ok (s, j, (if isBlockAt stmts j then indirectShift else none))
    | .error err => .error err

def sepOneFlat (stmts : List Expr) (sc : Scan) : Bool :=
  sc.count == 1 &&
    (match sc.lastRequire with
     | some i => !hasComments ((stmts[i]?.map Expr.comments).getD {})
     | none => false)

theorem setRSI_eq (e : EFile) (req : List Want) (perm : List Want → List Want) :
    setRequireSeparateIndirect e req perm =
      match sepStage1 e.f.syn.stmts (scanStmts e.f.syn.stmts 0 {}) with
      | .error err => .error err
      | .ok (s1, dI, dO, lI, sh) =>
        match sepStage2 s1 dI lI sh with
        | .error err => .error err
        | .ok (s2, iI, iO) =>
          sepTail e req perm { oneFlat := sepOneFlat e.f.syn.stmts (scanStmts e.f.syn.stmts 0 {}), directIdx := dI, indirectIdx := iI,
                               directOrig := dO, indirectOrig := iO,
                               lineToBlock := (scanStmts e.f.syn.stmts 0 {}).lineToBlock } s2 := by
  unfold setRequireSeparateIndirect sepStage1 sepOneFlat
  dsimp only
  cases hld : (scanStmts e.f.syn.stmts 0 {}).lastDirect with
  | none =>
    dsimp only
    cases hli : (scanStmts e.f.syn.stmts 0 {}).lastIndirect with
    | some j =>
      simp only [sepStage2, bind, Except.bind, pure, Except.pure]
      cases hE : ensureBlock (insertAt e.f.syn.stmts j emptyRequireBlock) (j + 1) with
      | error err => rfl
      | ok s => rfl
    | none =>
      dsimp only
      cases hlr : (scanStmts e.f.syn.stmts 0 {}).lastRequire with
      | some k => rfl
      | none => rfl
  | some d =>
    simp only [bind, Except.bind, pure, Except.pure]
    cases hE : ensureBlock e.f.syn.stmts d with
    | error err => rfl
    | ok s =>
      simp only [sepStage2]
      cases hli : (scanStmts e.f.syn.stmts 0 {}).lastIndirect with
      | none => rfl
      | some j =>
        simp only []
        cases hE2 : ensureBlock s j with
        | error err => rfl
        | ok s2 => rfl

theorem setRequire_shape {e e' : EFile} {req : List Want} {perm : List Want → List Want} (h : setRequire e req perm = .ok e') :
    ∃ need rq need' syn', needMap true req [] = .ok need ∧ setRequireLoop e.f.require need e.f.syn = .ok (rq, need', syn') ∧
      e' = sortBlocks ((perm need').foldl (fun e w => addNewRequire e w.path w.vers w.indirect)
        ⟨{ e.f with require := rq, syn := syn' }, e.next⟩) := by
  unfold setRequire at h
  simp only [bind, Except.bind] at h
  cases hn : needMap true req [] with
  | error err => simp [hn] at h
  | ok need =>
    cases hr : setRequireLoop e.f.require need e.f.syn with
    | error err => simp [hn, hr] at h
    | ok res =>
      rcases res with ⟨rq, need', syn'⟩
      simp only [hn, hr, pure, Except.pure, Except.ok.injEq] at h
      exact ⟨need, rq, need', syn', rfl, hr, h.symm⟩

theorem sepTail_shape {e e' : EFile} {req : List Want} {perm : List Want → List Want} {ctx : SepCtx} {stmts : List Expr}
    (h : sepTail e req perm ctx stmts = .ok e') :
    ∃ need rq have' syn' next', needMap false req [] = .ok need ∧
      sepLoop ctx need e.f.require [] { e.f.syn with stmts := stmts } e.next = .ok (rq, have', syn', next') ∧
      e' = sortBlocks (((perm need).filter fun w => !have'.contains w.path).foldl (addSepNew ctx)
        ⟨{ e.f with require := rq, syn := syn' }, next'⟩) := by
  unfold sepTail at h
  simp only [bind, Except.bind] at h
  cases hn : needMap false req [] with
  | error err => simp [hn] at h
  | ok need =>
    cases hr : sepLoop ctx need e.f.require [] { e.f.syn with stmts := stmts } e.next with
    | error err => simp [hn, hr] at h
    | ok res =>
      rcases res with ⟨rq, have', syn', next'⟩
      simp only [hn, hr, pure, Except.pure, Except.ok.injEq] at h
      exact ⟨need, rq, have', syn', next', rfl, hr, h.symm⟩

theorem setRequire_loop {e e' : EFile} {req : List Want} {perm : List Want → List Want} (hg : GoodWant req)
    (h : setRequire e req perm = .ok e') :
    ∃ rq need' syn', setRequireLoop e.f.require req e.f.syn = .ok (rq, need', syn') ∧
      e' = sortBlocks ((perm need').foldl (fun e w => addNewRequire e w.path w.vers w.indirect)
        ⟨{ e.f with require := rq, syn := syn' }, e.next⟩) := by
  obtain ⟨need, rq, need', syn', hn, hr, he⟩ := setRequire_shape h
  rw [needMap_distinct true req [] (by simpa using hg.1)] at hn
  cases hn
  exact ⟨rq, need', syn', hr, he⟩

theorem sepTail_loop {e e' : EFile} {req : List Want} {perm : List Want → List Want} {ctx : SepCtx} {stmts : List Expr}
    (hg : GoodWant req) (h : sepTail e req perm ctx stmts = .ok e') :
    ∃ rq have' syn' next', sepLoop ctx req e.f.require [] { e.f.syn with stmts := stmts } e.next = .ok (rq, have', syn', next') ∧
      e' = sortBlocks (((perm req).filter fun w => !have'.contains w.path).foldl (addSepNew ctx)
        ⟨{ e.f with require := rq, syn := syn' }, next'⟩) := by
  obtain ⟨need, rq, have', syn', next', hn, hr, he⟩ := sepTail_shape h
  rw [needMap_distinct false req [] (by simpa using hg.1)] at hn
  cases hn
  exact ⟨rq, have', syn', next', hr, he⟩

theorem setRSI_stages {e e' : EFile} {req : List Want} {perm : List Want → List Want}
    (h : setRequireSeparateIndirect e req perm = .ok e') :
    ∃ s1 dI dO lI sh s2 iI iO, sepStage1 e.f.syn.stmts (scanStmts e.f.syn.stmts 0 {}) = .ok (s1, dI, dO, lI, sh) ∧
      sepStage2 s1 dI lI sh = .ok (s2, iI, iO) ∧
      sepTail e req perm { oneFlat := sepOneFlat e.f.syn.stmts (scanStmts e.f.syn.stmts 0 {}), directIdx := dI, indirectIdx := iI,
                           directOrig := dO, indirectOrig := iO,
                           lineToBlock := (scanStmts e.f.syn.stmts 0 {}).lineToBlock } s2 = .ok e' := by
  rw [setRSI_eq] at h
  cases h1 : sepStage1 e.f.syn.stmts (scanStmts e.f.syn.stmts 0 {}) with
  | error err => simp [h1] at h
  | ok r1 =>
    rcases r1 with ⟨s1, dI, dO, lI, sh⟩
    simp only [h1] at h
    cases h2 : sepStage2 s1 dI lI sh with
    | error err => simp [h2] at h
    | ok r2 =>
      rcases r2 with ⟨s2, iI, iO⟩
      simp only [h2] at h
      exact ⟨s1, dI, dO, lI, sh, s2, iI, iO, rfl, h2, h⟩

theorem deref_eq_ok {id i : Nat} (h : deref id = .ok i) : i = id ∧ id ≠ 0 := by
  unfold deref at h
  split at h
  · cases h
  · rename_i hne
    cases h
    exact ⟨rfl, by simpa [nilId] using hne⟩

/-- one iteration of the loop of SetRequire: the requirement, the entries still needed and the tree afterwards -/
def setReqStep (need : List Want) (r : Require) (syn : FileSyntax) : Require × List Want × FileSyntax :=
  match need.find? (·.path == r.mod.path) with
  | some w =>
    ({ r with mod := { r.mod with version := w.vers }, indirect := w.indirect }, need.filter (·.path != r.mod.path),
      syn.updateLine r.lineId fun l => setIndirectLine w.indirect (setVersionLine w.vers l))
  | none => (clearedRequire, need.filter (!·.path.isEmpty), markRemoved syn r.lineId)

theorem setRequireLoop_cons (r : Require) (rs : List Require) (need : List Want) (syn : FileSyntax) :
    setRequireLoop (r :: rs) need syn = (do
      let _ ← deref r.lineId
      let (rs', need', syn') ← setRequireLoop rs (setReqStep need r syn).2.1 (setReqStep need r syn).2.2
      pure ((setReqStep need r syn).1 :: rs', need', syn')) := by
  rw [setRequireLoop]
  unfold setReqStep deref
  cases hf : need.find? (·.path == r.mod.path) <;> dsimp only <;> split <;> rfl

theorem setRequireLoop_cons_ok {r : Require} {rs : List Require} {need : List Want} {syn : FileSyntax}
    {rs' : List Require} {need' : List Want} {syn' : FileSyntax} (h : setRequireLoop (r :: rs) need syn = .ok (rs', need', syn')) :
    r.lineId ≠ 0 ∧ ∃ rs'', rs' = (setReqStep need r syn).1 :: rs'' ∧
      setRequireLoop rs (setReqStep need r syn).2.1 (setReqStep need r syn).2.2 = .ok (rs'', need', syn') := by
  rw [setRequireLoop_cons] at h
  cases hd : deref r.lineId with
  | error err => simp [hd, bind, Except.bind] at h
  | ok i =>
    cases hr : setRequireLoop rs (setReqStep need r syn).2.1 (setReqStep need r syn).2.2 with
    | error err => simp [hd, hr, bind, Except.bind] at h
    | ok res =>
      simp only [hd, hr, bind, Except.bind, pure, Except.pure, Except.ok.injEq, Prod.mk.injEq] at h
      rcases h with ⟨rfl, rfl, rfl⟩
      exact ⟨(deref_eq_ok hd).2, _, rfl, rfl⟩

/-- one iteration of the loop of SetRequireSeparateIndirect: the requirement, the paths seen, the tree and the fresh-id
    counter afterwards -/
def sepStep (ctx : SepCtx) (need : List Want) (r : Require) (have_ : List Bytes) (syn : FileSyntax) (next : Nat) :
    Require × List Bytes × FileSyntax × Nat :=
  match need.find? (·.path == r.mod.path) with
  | some w =>
    if have_.contains r.mod.path then (clearedRequire, have_, markRemoved syn r.lineId, next) else
      let syn := syn.updateLine r.lineId (fun l => setIndirectLine w.indirect (setVersionLine w.vers l))
      let r := { r with mod := { r.mod with version := w.vers }, indirect := w.indirect }
      let (r, syn, next) :=
        if w.indirect && (ctx.oneFlat || inBlockOrig ctx r.lineId ctx.directOrig) then
          ({ r with lineId := next }, moveExisting syn r.lineId ctx.indirectIdx next, next + 1)
        else if !w.indirect && (ctx.oneFlat || inBlockOrig ctx r.lineId ctx.indirectOrig) then
          ({ r with lineId := next }, moveExisting syn r.lineId ctx.directIdx next, next + 1)
        else (r, syn, next)
      (r, r.mod.path :: have_, syn, next)
  | none => (clearedRequire, have_, markRemoved syn r.lineId, next)

theorem sepLoop_cons (ctx : SepCtx) (need : List Want) (r : Require) (rs : List Require) (have_ : List Bytes) (syn : FileSyntax)
    (next : Nat) :
    sepLoop ctx need (r :: rs) have_ syn next = (do
      let _ ← deref r.lineId
      let (rs', h', syn', next') ← sepLoop ctx need rs (sepStep ctx need r have_ syn next).2.1
        (sepStep ctx need r have_ syn next).2.2.1 (sepStep ctx need r have_ syn next).2.2.2
      pure ((sepStep ctx need r have_ syn next).1 :: rs', h', syn', next')) := by
  rw [sepLoop]
  unfold sepStep deref
  cases hf : need.find? (·.path == r.mod.path) with
  | none => dsimp only; split <;> rfl
  | some w =>
    dsimp only
    by_cases hc : have_.contains r.mod.path = true
    · simp only [hc, if_true]; split <;> rfl
    · simp only [hc, if_false, Bool.false_eq_true]
      split <;> rfl

theorem sepLoop_cons_ok {ctx : SepCtx} {need : List Want} {r : Require} {rs : List Require} {have_ : List Bytes} {syn : FileSyntax}
    {next : Nat} {rs' : List Require} {have' : List Bytes} {syn' : FileSyntax} {next' : Nat}
    (h : sepLoop ctx need (r :: rs) have_ syn next = .ok (rs', have', syn', next')) :
    r.lineId ≠ 0 ∧ ∃ rs'', rs' = (sepStep ctx need r have_ syn next).1 :: rs'' ∧
      sepLoop ctx need rs (sepStep ctx need r have_ syn next).2.1 (sepStep ctx need r have_ syn next).2.2.1
        (sepStep ctx need r have_ syn next).2.2.2 = .ok (rs'', have', syn', next') := by
  rw [sepLoop_cons] at h
  cases hd : deref r.lineId with
  | error err => simp [hd, bind, Except.bind] at h
  | ok i =>
    cases hr : sepLoop ctx need rs (sepStep ctx need r have_ syn next).2.1 (sepStep ctx need r have_ syn next).2.2.1
        (sepStep ctx need r have_ syn next).2.2.2 with
    | error err => simp [hd, hr, bind, Except.bind] at h
    | ok res =>
      simp only [hd, hr, bind, Except.bind, pure, Except.pure, Except.ok.injEq, Prod.mk.injEq] at h
      rcases h with ⟨rfl, rfl, rfl, rfl⟩
      exact ⟨(deref_eq_ok hd).2, _, rfl, rfl⟩

/-- the three kinds of iteration of `sepStep` (`sepStep_spec`) -/
inductive SepStep (ctx : SepCtx) (need : List Want) (r : Require) (have_ : List Bytes) (syn : FileSyntax) (next : Nat) :
    Require × List Bytes × FileSyntax × Nat → Prop
  | drop (h : need.find? (·.path == r.mod.path) = none ∨ have_.contains r.mod.path = true) :
      SepStep ctx need r have_ syn next (clearedRequire, have_, markRemoved syn r.lineId, next)
  | keep (w : Want) (hf : need.find? (·.path == r.mod.path) = some w) (hc : have_.contains r.mod.path = false)
      (hof : ctx.oneFlat = false) :
      SepStep ctx need r have_ syn next
        ({ r with mod := { r.mod with version := w.vers }, indirect := w.indirect }, r.mod.path :: have_,
          syn.updateLine r.lineId (fun l => setIndirectLine w.indirect (setVersionLine w.vers l)), next)
  | move (w : Want) (hf : need.find? (·.path == r.mod.path) = some w) (hc : have_.contains r.mod.path = false) :
      SepStep ctx need r have_ syn next
        ({ r with mod := { r.mod with version := w.vers }, indirect := w.indirect, lineId := next }, r.mod.path :: have_,
          moveExisting (syn.updateLine r.lineId (fun l => setIndirectLine w.indirect (setVersionLine w.vers l))) r.lineId
            (if w.indirect then ctx.indirectIdx else ctx.directIdx) next, next + 1)

theorem sepStep_spec (ctx : SepCtx) (need : List Want) (r : Require) (have_ : List Bytes) (syn : FileSyntax) (next : Nat) :
    SepStep ctx need r have_ syn next (sepStep ctx need r have_ syn next) := by
  unfold sepStep
  cases hf : need.find? (·.path == r.mod.path) with
  | none => exact .drop (Or.inl hf)
  | some w =>
    dsimp only
    by_cases hc : have_.contains r.mod.path = true
    · rw [if_pos hc]; exact .drop (Or.inr hc)
    · rw [if_neg hc]
      simp only [Bool.not_eq_true] at hc
      split
      · rename_i h1
        have hwi : w.indirect = true := by simp only [Bool.and_eq_true] at h1; exact h1.1
        have := SepStep.move (ctx := ctx) (need := need) (syn := syn) (next := next) w hf hc
        rw [hwi] at this ⊢; exact this
      · split
        · rename_i h1 h2
          have hwi : w.indirect = false := by simp only [Bool.and_eq_true, Bool.not_eq_true'] at h2; exact h2.1
          have := SepStep.move (ctx := ctx) (need := need) (syn := syn) (next := next) w hf hc
          rw [hwi] at this ⊢; exact this
        · rename_i h1 h2
          refine .keep w hf hc ?_
          cases hwi : w.indirect <;> cases hof : ctx.oneFlat <;> simp [hwi, hof] at h1 h2 ⊢
/-- a property of trees that every tree step of the two bulk requirement setters preserves; the setters then preserve it
    (`BulkPres.setRequire`, `BulkPres.setRequireSeparateIndirect`) -/
structure BulkPres (Q : List Expr → Prop) : Prop where
  setReq : ∀ (fs : FileSyntax) (i : Nat) (v : Bytes) (b : Bool), Q fs.stmts →
    Q (fs.updateLine i fun l => setIndirectLine b (setVersionLine v l)).stmts
  remove : ∀ (fs : FileSyntax) (i : Nat), Q fs.stmts → Q (markRemoved fs i).stmts
  addNew : ∀ (e : EFile) (p v : Bytes) (b : Bool), Q e.f.syn.stmts → Q (addNewRequire e p v b).f.syn.stmts
  sort : ∀ e : EFile, Q e.f.syn.stmts → Q (sortBlocks e).f.syn.stmts
  emptyBlock : ∀ (stmts : List Expr) (i : Nat), Q stmts → Q (insertAt stmts i emptyRequireBlock)
  ensure : ∀ (stmts s : List Expr) (i : Nat), ensureBlock stmts i = .ok s → Q stmts → Q s
  move : ∀ (syn : FileSyntax) (i idx new : Nat), Q syn.stmts → Q (moveExisting syn i idx new).stmts
  sepNew : ∀ (ctx : SepCtx) (e : EFile) (w : Want), Q e.f.syn.stmts → Q (addSepNew ctx e w).f.syn.stmts

theorem foldl_pres {Q : List Expr → Prop} {α : Type} (f : EFile → α → EFile) (hf : ∀ e a, Q e.f.syn.stmts → Q (f e a).f.syn.stmts) :
    ∀ (ws : List α) (e : EFile), Q e.f.syn.stmts → Q (ws.foldl f e).f.syn.stmts
  | [], _, h => h
  | w :: ws, e, h => foldl_pres f hf ws _ (hf e w h)

theorem insertAt_length {α : Type} (l : List α) (x : α) : insertAt l l.length x = l ++ [x] := by simp [insertAt]

namespace BulkPres
variable {Q : List Expr → Prop} (hQ : BulkPres Q)
include hQ

theorem setRequireLoop : ∀ (rs : List Require) (need : List Want) (syn : FileSyntax) (rs' : List Require) (need' : List Want)
    (syn' : FileSyntax), setRequireLoop rs need syn = .ok (rs', need', syn') → Q syn.stmts → Q syn'.stmts
  | [], _, _, _, _, _, he, h => by
    simp only [Edit.setRequireLoop, Except.ok.injEq, Prod.mk.injEq] at he
    rw [← he.2.2]; exact h
  | r :: rs, need, syn, _, _, _, he, h => by
    rcases setRequireLoop_cons_ok he with ⟨_, _, _, hrec⟩
    refine setRequireLoop rs _ _ _ _ _ hrec ?_
    unfold setReqStep; split
    · exact hQ.setReq _ _ _ _ h
    · exact hQ.remove _ _ h

theorem setRequire {e e' : EFile} {req : List Want} {perm : List Want → List Want} (he : setRequire e req perm = .ok e')
    (h : Q e.f.syn.stmts) : Q e'.f.syn.stmts := by
  obtain ⟨need, rq, need', syn', _, hr, rfl⟩ := setRequire_shape he
  exact hQ.sort _ (foldl_pres _ (fun e w => hQ.addNew e _ _ _) _ _ (hQ.setRequireLoop _ _ _ _ _ _ hr h))

theorem sepStep {ctx : SepCtx} {need : List Want} {r : Require} {have_ : List Bytes} {syn : FileSyntax} {next : Nat}
    {t : Require × List Bytes × FileSyntax × Nat} (ht : SepStep ctx need r have_ syn next t) (h : Q syn.stmts) : Q t.2.2.1.stmts := by
  cases ht with
  | drop _ => exact hQ.remove _ _ h
  | keep w _ _ _ => exact hQ.setReq _ _ _ _ h
  | move w _ _ => exact hQ.move _ _ _ _ (hQ.setReq _ _ _ _ h)

theorem sepLoop (ctx : SepCtx) (need : List Want) : ∀ (rs : List Require) (have_ : List Bytes) (syn : FileSyntax) (next : Nat)
    (rs' : List Require) (h' : List Bytes) (syn' : FileSyntax) (next' : Nat),
    sepLoop ctx need rs have_ syn next = .ok (rs', h', syn', next') → Q syn.stmts → Q syn'.stmts
  | [], _, _, _, _, _, _, _, he, h => by
    simp only [Edit.sepLoop, Except.ok.injEq, Prod.mk.injEq] at he
    rw [← he.2.2.1]; exact h
  | r :: rs, have_, syn, next, _, _, _, _, he, h => by
    rcases sepLoop_cons_ok he with ⟨_, _, _, hrec⟩
    exact sepLoop ctx need rs _ _ _ _ _ _ _ hrec (hQ.sepStep (sepStep_spec ctx need r have_ syn next) h)

theorem sepStage1 {stmts : List Expr} {sc : Scan} {r : List Expr × Nat × Option Nat × Option Nat × Option Nat}
    (he : sepStage1 stmts sc = .ok r) (h : Q stmts) : Q r.1 := by
  unfold Edit.sepStage1 at he
  split at he
  · split at he
    · cases he; exact hQ.emptyBlock _ _ h
    · split at he
      · cases he; exact hQ.emptyBlock _ _ h
      · cases he; rw [← insertAt_length]; exact hQ.emptyBlock _ _ h
  · split at he
    · rename_i s hs; cases he; exact hQ.ensure _ _ _ hs h
    · cases he

theorem sepStage2 {stmts : List Expr} {dI : Nat} {lI sh : Option Nat} {r : List Expr × Nat × Option Nat}
    (he : sepStage2 stmts dI lI sh = .ok r) (h : Q stmts) : Q r.1 := by
  unfold Edit.sepStage2 at he
  split at he
  · cases he; exact hQ.emptyBlock _ _ h
  · split at he
    · rename_i s hs; cases he; exact hQ.ensure _ _ _ hs h
    · cases he

theorem setRequireSeparateIndirect {e e' : EFile} {req : List Want} {perm : List Want → List Want}
    (he : setRequireSeparateIndirect e req perm = .ok e') (h : Q e.f.syn.stmts) : Q e'.f.syn.stmts := by
  obtain ⟨s1, dI, dO, lI, sh, s2, iI, iO, h1, h2, ht⟩ := setRSI_stages he
  obtain ⟨need, rq, have', syn', next', _, hr, rfl⟩ := sepTail_shape ht
  exact hQ.sort _ (foldl_pres _ (hQ.sepNew _) _ _
    (hQ.sepLoop _ _ _ _ _ _ _ _ _ _ hr (hQ.sepStage2 h2 (hQ.sepStage1 h1 h))))

end BulkPres

end ModVerif.Modfile.Edit
