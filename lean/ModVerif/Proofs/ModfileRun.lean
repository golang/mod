/-
  The successful runs of the go.mod parser as inductive relations (`PLine`, `PBlock`, `PStmt`, `PFile`): one
  constructor per branch of a loop that can lead to a result, carrying for every `lex` call a premise `T i i1` (the call
  delivers a token of a line) or `E i i1` (it delivers an end-of-line token or a whole-line comment) and the test on
  the pending token's kind that selected the branch.  No fuel, no error branches, no monad.

  `parseFile_run` walks the parser loops once, with `T = E = Step` (`readToken i = .ok i1`).  What holds of every tree
  the parser can return is a rule induction over these relations.  `PFile.lift` puts an invariant of the lexer state
  (preserved by `readToken` and by the parser's bump of `nextId`) at every call: `Call I`; `Lx data = Call (Reach data)`.
  The failing runs, and the converse (a run is what the parser returns): Proofs/ModfileParse.lean.
-/
import ModVerif.Model.Modfile.Parse
import ModVerif.Proofs.ModfilePos
namespace ModVerif.Proofs.ModfileRun
open ModVerif ModVerif.Modfile ModVerif.Proofs.ModfilePos

/-- a `lex` call delivers the PENDING token `i.token`; `i1` holds the next one -/
def Step (i i1 : Input) : Prop := readToken i = .ok i1

/-- `step` is `Step i i1` written out, so that it rewrites -/
structure Call (I : Input → Prop) (i i1 : Input) : Prop where
  inv : I i
  step : readToken i = .ok i1

abbrev Lx (data : Bytes) := Call (Reach data)

theorem lex_cases (i : Input) :
    (∃ i1, lex i = .ok (i.token, i1) ∧ Step i i1) ∨ ∃ e, lex i = .error e ∧ readToken i = .error e := by
  unfold lex
  cases h : readToken i with
  | ok i1 => exact Or.inl ⟨i1, rfl, h⟩
  | error e => exact Or.inr ⟨e, rfl, rfl⟩

theorem Step.lex {i i1 : Input} (h : Step i i1) : lex i = .ok (i.token, i1) := by
  unfold Step at h
  simp [Modfile.lex, h, bind, Except.bind]

/-- read.go, block loop at a blank line: an empty comment is added to preserve the blank line unless it would be the first item of
    the block or follow another such placeholder -/
def allowOf (linesRev : List Line) (crev : List Comment) : Bool :=
  match crev with
  | [] => !linesRev.isEmpty
  | c :: _ => !c.token.isEmpty

/-- read.go, file loop: `if cb != nil { file.Stmt = append(file.Stmt, cb); cb = nil }` -/
def flush (stmtsRev : List Expr) : Option CommentBlock → List Expr
  | some c => .commentBlock c :: stmtsRev
  | none => stmtsRev

/-- read.go, file loop at a whole-line comment: the pending comment block (a new one starting at the token if none is pending) with
    the comment appended to its `Before` list -/
def cbAdd (ocb : Option CommentBlock) (tok : Token) : CommentBlock :=
  let c : CommentBlock := match ocb with
    | some c => c
    | none => { start := tok.pos }
  { c with comments := { c.comments with before := c.comments.before ++ [{ start := tok.pos, token := tok.text }] } }

/-- read.go, file loop after a statement: the comments of the pending comment block become the statement's `Before` list -/
def attach (ocb : Option CommentBlock) (s : Expr) : Expr :=
  match ocb with
  | some c => s.setComments { s.comments with before := c.comments.before }
  | none => s

section
variable (T E : Input → Input → Prop)

/-- `parseLineLoop` -/
inductive PLine : Input → Position → Position → List Bytes → Line → Input → Prop
  | eol {i i1 : Input} {s e : Position} {acc : List Bytes} : E i i1 → i.token.kind.isEOL = true →
      PLine i s e acc { id := i1.nextId, start := s, token := acc.reverse, «end» := e, inBlock := true }
        { i1 with nextId := i1.nextId + 1 }
  | tok {i i1 : Input} {s e : Position} {acc : List Bytes} {l : Line} {i' : Input} : T i i1 →
      i.token.kind.isEOL = false → PLine i1 s i.token.endPos (i.token.text :: acc) l i' → PLine i s e acc l i'

/-- `parseLineBlockLoop` -/
inductive PBlock : Input → LineBlock → List Line → List Comment → LineBlock → Input → Prop
  | eolComment {i i1 x ls cs b i'} : i.token.kind = .eolComment → E i i1 → PBlock i1 x ls cs b i' →
      PBlock i x ls cs b i'
  | blank {i i1 x ls cs b i'} : i.token.kind = .punct 10 → E i i1 →
      PBlock i1 x ls (if allowOf ls cs then ({} : Comment) :: cs else cs) b i' → PBlock i x ls cs b i'
  | comment {i i1 x ls cs b i'} : i.token.kind = .comment → E i i1 →
      PBlock i1 x ls ({ start := i.token.pos, token := i.token.text } :: cs) b i' → PBlock i x ls cs b i'
  | close {i i1 i2 : Input} {x : LineBlock} {ls : List Line} {cs : List Comment} : i.token.kind = .punct 41 →
      T i i1 → i1.token.kind.isEOL = true → E i1 i2 →
      PBlock i x ls cs { x with lines := ls.reverse,
                                rparen := { comments := { before := cs.reverse }, pos := i.token.pos } } i2
  | line {i i1 i2 x ls cs l b i'} : i.token.kind ≠ .eolComment → i.token.kind ≠ .punct 10 → i.token.kind ≠ .comment →
      i.token.kind ≠ .eof → i.token.kind ≠ .punct 41 → T i i1 → i.token.kind.isEOL = false →
      PLine T E i1 i.token.pos i.token.endPos [i.token.text] l i2 →
      PBlock i2 x ({ l with comments := { l.comments with before := cs.reverse } } :: ls) [] b i' →
      PBlock i x ls cs b i'

/-- `parseStmtLoop` -/
inductive PStmt : Input → Position → Position → List Bytes → Expr → Input → Prop
  | eol {i i1 : Input} {s e : Position} {acc : List Bytes} : E i i1 → i.token.kind.isEOL = true →
      PStmt i s e acc (.line { id := i1.nextId, start := s, token := acc.reverse, «end» := e })
        { i1 with nextId := i1.nextId + 1 }
  | block {i i1 s e acc b i'} : T i i1 → i.token.kind = .punct 40 → i1.token.kind.isEOL = true →
      PBlock T E i1 { start := s, token := acc.reverse, lparen := { pos := i.token.pos } } [] [] b i' →
      PStmt i s e acc (.lineBlock b) i'
  | empty {i i1 i2 i3 : Input} {s e : Position} {acc : List Bytes} : T i i1 → i.token.kind = .punct 40 →
      i1.token.kind = .punct 41 → T i1 i2 → i2.token.kind.isEOL = true → E i2 i3 →
      PStmt i s e acc (.lineBlock { start := s, token := acc.reverse, lparen := { pos := i.token.pos },
                                    rparen := { pos := i1.token.pos } }) i3
  | parens {i i1 i2 s e acc x i'} : T i i1 → i.token.kind = .punct 40 → i1.token.kind = .punct 41 →
      T i1 i2 → i2.token.kind.isEOL = false →
      PStmt i2 s e (i1.token.text :: i.token.text :: acc) x i' → PStmt i s e acc x i'
  | lparen {i i1 s e acc x i'} : T i i1 → i.token.kind = .punct 40 → i1.token.kind.isEOL = false →
      i1.token.kind ≠ .punct 41 → PStmt i1 s e (i.token.text :: acc) x i' → PStmt i s e acc x i'
  | tok {i i1 s e acc x i'} : T i i1 → i.token.kind.isEOL = false → i.token.kind ≠ .punct 40 →
      PStmt i1 s i.token.endPos (i.token.text :: acc) x i' → PStmt i s e acc x i'

/-- `parseFileLoop` -/
inductive PFile : Input → List Expr → Option CommentBlock → List Expr → Input → Prop
  | blank {i i1 sr cb out i'} : i.token.kind = .punct 10 → E i i1 → PFile i1 (flush sr cb) none out i' →
      PFile i sr cb out i'
  | comment {i i1 sr cb out i'} : i.token.kind = .comment → E i i1 →
      PFile i1 sr (some (cbAdd cb i.token)) out i' → PFile i sr cb out i'
  | eof {i : Input} {sr : List Expr} {cb : Option CommentBlock} : i.token.kind = .eof →
      PFile i sr cb (flush sr cb).reverse i
  | stmt {i i1 i2 sr cb x out i'} : i.token.kind ≠ .punct 10 → i.token.kind ≠ .comment → i.token.kind ≠ .eof →
      T i i1 → PStmt T E i1 i.token.pos i.token.endPos [i.token.text] x i2 →
      PFile i2 (attach cb x :: sr) none out i' → PFile i sr cb out i'

end

theorem PBlock.header {T E : Input → Input → Prop} {i : Input} {x : LineBlock} {ls : List Line} {cs : List Comment}
    {b : LineBlock} {i' : Input} (h : PBlock T E i x ls cs b i') :
    b.token = x.token ∧ b.comments = x.comments ∧ b.lparen = x.lparen ∧ b.start = x.start := by
  induction h with
  | close _ _ _ _ => exact ⟨rfl, rfl, rfl, rfl⟩
  | eolComment _ _ _ ih | blank _ _ _ ih | comment _ _ _ ih => exact ih
  | line _ _ _ _ _ _ _ _ _ ih => exact ih

section all
variable {T E : Input → Input → Prop}

theorem PBlock.all {P : Line → Prop} (hset : ∀ (l : Line) (cs : List Comment), P l →
      P { l with comments := { l.comments with before := cs } })
    (hline : ∀ {i i1 : Input} {l : Line} {i2 : Input}, T i i1 →
      PLine T E i1 i.token.pos i.token.endPos [i.token.text] l i2 → P l)
    {i : Input} {x : LineBlock} {ls : List Line} {cs : List Comment} {b : LineBlock} {i' : Input}
    (h : PBlock T E i x ls cs b i') (hls : ∀ l ∈ ls, P l) : ∀ l ∈ b.lines, P l := by
  induction h with
  | eolComment _ _ _ ih | blank _ _ _ ih | comment _ _ _ ih => exact ih hls
  | close _ _ _ _ => intro l hl; exact hls l (by simpa using hl)
  | line _ _ _ _ _ hc _ hl _ ih => exact ih (List.forall_mem_cons.2 ⟨hset _ _ (hline hc hl), hls⟩)

theorem PStmt.kind {i : Input} {s e : Position} {acc : List Bytes} {x : Expr} {i' : Input}
    (h : PStmt T E i s e acc x i') : (∃ l, x = .line l) ∨ (∃ b, x = .lineBlock b) := by
  induction h with
  | eol _ _ => exact Or.inl ⟨_, rfl⟩
  | block _ _ _ _ | empty _ _ _ _ _ _ => exact Or.inr ⟨_, rfl⟩
  | parens _ _ _ _ _ _ ih | lparen _ _ _ _ _ ih | tok _ _ _ _ ih => exact ih

theorem PFile.all {P : Expr → Prop} (hcb : ∀ c, P (.commentBlock c)) (hset : ∀ x c, P x → P (x.setComments c))
    (hstmt : ∀ {i i1 : Input} {x : Expr} {i2 : Input}, T i i1 →
      PStmt T E i1 i.token.pos i.token.endPos [i.token.text] x i2 → P x)
    {i : Input} {sr : List Expr} {cb : Option CommentBlock} {out : List Expr} {i' : Input}
    (h : PFile T E i sr cb out i') (hsr : ∀ s ∈ sr, P s) : ∀ s ∈ out, P s := by
  have hflush : ∀ {sr : List Expr} (cb : Option CommentBlock), (∀ s ∈ sr, P s) → ∀ s ∈ flush sr cb, P s := by
    intro sr cb h
    cases cb with
    | none => exact h
    | some c => exact List.forall_mem_cons.2 ⟨hcb c, h⟩
  induction h with
  | blank _ _ _ ih => exact ih (hflush _ hsr)
  | comment _ _ _ ih => exact ih hsr
  | eof _ => intro s hs; exact hflush _ hsr s (List.mem_reverse.1 hs)
  | @stmt _ _ _ _ cb _ _ _ _ _ _ hc hs _ ih =>
    refine ih (List.forall_mem_cons.2 ⟨?_, hsr⟩)
    cases cb with
    | none => exact hstmt hc hs
    | some c => exact hset _ _ (hstmt hc hs)

end all

theorem parseLineLoop_run : ∀ (fuel : Nat) (i : Input) (s e : Position) (acc : List Bytes) (l : Line) (i' : Input),
    parseLineLoop fuel i s e acc = .ok (l, i') → PLine Step Step i s e acc l i' := by
  intro fuel
  induction fuel with
  | zero => intro i s e acc l i' h; cases h
  | succ n ih =>
    intro i s e acc l i' h
    unfold parseLineLoop at h
    rcases lex_cases i with ⟨i1, hl, hx⟩ | ⟨err, hl, _⟩
    · simp only [hl, bind, Except.bind] at h
      split at h
      · rename_i he
        cases h
        exact .eol hx he
      · rename_i he
        exact .tok hx (by simpa using he) (ih _ _ _ _ _ _ h)
    · simp [hl, bind, Except.bind] at h

theorem parseLine_run {fuel : Nat} {i : Input} {l : Line} {i' : Input} 
    (h : parseLine fuel i = .ok (l, i')) :
    ∃ i1, Step i i1 ∧ i.token.kind.isEOL = false ∧ PLine Step Step i1 i.token.pos i.token.endPos [i.token.text] l i' := by
  unfold parseLine at h
  rcases lex_cases i with ⟨i1, hl, hx⟩ | ⟨err, hl, _⟩
  · simp only [hl, bind, Except.bind] at h
    split at h
    · cases h
    · rename_i he
      exact ⟨i1, hx, by simpa using he, parseLineLoop_run _ _ _ _ _ _ _ h⟩
  · simp [hl, bind, Except.bind] at h

theorem parseLineBlockLoop_run : ∀ (fuel : Nat) (i : Input) (x : LineBlock) (ls : List Line) (cs : List Comment)
    (b : LineBlock) (i' : Input), parseLineBlockLoop fuel i x ls cs = .ok (b, i') →
    PBlock Step Step i x ls cs b i' := by
  intro fuel
  induction fuel with
  | zero => intro i x ls cs b i' h; cases h
  | succ n ih =>
    intro i x ls cs b i' h
    unfold parseLineBlockLoop at h
    simp only [Input.peek] at h
    split at h
    · rename_i hk
      rcases lex_cases i with ⟨i1, hl, hx⟩ | ⟨err, hl, _⟩
      · simp only [hl, bind, Except.bind] at h
        exact .eolComment hk hx (ih _ _ _ _ _ _ h)
      · simp [hl, bind, Except.bind] at h
    · rename_i hk
      rcases lex_cases i with ⟨i1, hl, hx⟩ | ⟨err, hl, _⟩
      · simp only [hl, bind, Except.bind] at h
        exact .blank hk hx (ih _ _ _ _ _ _ h)
      · simp [hl, bind, Except.bind] at h
    · rename_i hk
      rcases lex_cases i with ⟨i1, hl, hx⟩ | ⟨err, hl, _⟩
      · simp only [hl, bind, Except.bind] at h
        exact .comment hk hx (ih _ _ _ _ _ _ h)
      · simp [hl, bind, Except.bind] at h
    · cases h
    · rename_i hk
      rcases lex_cases i with ⟨i1, hl, hx⟩ | ⟨err, hl, _⟩
      · simp only [hl, bind, Except.bind] at h
        by_cases he : i1.token.kind.isEOL = true
        · simp only [he, Bool.not_true, Bool.false_eq_true, if_false] at h
          rcases lex_cases i1 with ⟨i2, hl2, hx2⟩ | ⟨err, hl2⟩
          · simp only [hl2] at h
            cases h
            exact .close hk hx he hx2
          · simp [hl2] at h
        · simp [he] at h
      · simp [hl, bind, Except.bind] at h
    · rename_i h1 h2 h3 h4 h5
      cases hp : parseLine (n + 1) i with
      | error err => simp [hp, bind, Except.bind] at h
      | ok v =>
        simp only [hp, bind, Except.bind] at h
        obtain ⟨i1, hx, he, hpl⟩ := parseLine_run hp
        exact .line h1 h2 h3 h4 h5 hx he hpl (ih _ _ _ _ _ _ h)

theorem parseStmtLoop_run : ∀ (fuel : Nat) (i : Input) (s e : Position) (acc : List Bytes) (x : Expr) (i' : Input),
    parseStmtLoop fuel i s e acc = .ok (x, i') → PStmt Step Step i s e acc x i' := by
  intro fuel
  induction fuel with
  | zero => intro i s e acc x i' h; cases h
  | succ n ih =>
    intro i s e acc x i' h
    unfold parseStmtLoop at h
    rcases lex_cases i with ⟨i1, hl, hx⟩ | ⟨err, hl, _⟩
    · simp only [hl, bind, Except.bind, Input.peek] at h
      split at h
      · rename_i he
        cases h
        exact .eol hx he
      · rename_i he
        have he : i.token.kind.isEOL = false := by simpa using he
        split at h
        · rename_i hk
          have hk : i.token.kind = .punct 40 := by simpa using hk
          by_cases he1 : i1.token.kind.isEOL = true
          · simp only [he1, if_true] at h
            cases hb : parseLineBlock (n + 1) i1 s acc.reverse i.token with
            | error err => simp [hb] at h
            | ok v =>
              simp only [hb] at h
              cases h
              exact .block hx hk he1 (parseLineBlockLoop_run _ _ _ _ _ _ _ hb)
          · simp only [he1, Bool.false_eq_true, if_false] at h
            have he1 : i1.token.kind.isEOL = false := by simpa using he1
            by_cases hk1 : i1.token.kind = .punct 41
            · simp only [hk1, beq_self_eq_true, if_true] at h
              rcases lex_cases i1 with ⟨i2, hl2, hx2⟩ | ⟨err, hl2⟩
              · simp only [hl2] at h
                by_cases he2 : i2.token.kind.isEOL = true
                · simp only [he2, if_true] at h
                  rcases lex_cases i2 with ⟨i3, hl3, hx3⟩ | ⟨err, hl3⟩
                  · simp only [hl3] at h
                    cases h
                    exact .empty hx hk hk1 hx2 he2 hx3
                  · simp [hl3] at h
                · simp only [he2, Bool.false_eq_true, if_false] at h
                  exact .parens hx hk hk1 hx2 (by simpa using he2) (ih _ _ _ _ _ _ h)
              · simp [hl2] at h
            · have : (i1.token.kind == TokKind.punct 41) = false := by simpa using hk1
              simp only [this, Bool.false_eq_true, if_false] at h
              exact .lparen hx hk he1 hk1 (ih _ _ _ _ _ _ h)
        · rename_i hk
          exact .tok hx he (by simpa using hk) (ih _ _ _ _ _ _ h)
    · simp [hl, bind, Except.bind] at h

theorem parseStmt_run {fuel : Nat} {i : Input} {x : Expr} {i' : Input} (h : parseStmt fuel i = .ok (x, i')) :
    ∃ i1, Step i i1 ∧ PStmt Step Step i1 i.token.pos i.token.endPos [i.token.text] x i' := by
  unfold parseStmt at h
  rcases lex_cases i with ⟨i1, hl, hx⟩ | ⟨err, hl, _⟩
  · simp only [hl, bind, Except.bind] at h
    exact ⟨i1, hx, parseStmtLoop_run _ _ _ _ _ _ _ h⟩
  · simp [hl, bind, Except.bind] at h

theorem parseFileLoop_run : ∀ (fuel : Nat) (i : Input) (sr : List Expr) (cb : Option CommentBlock) (out : List Expr)
    (i' : Input), parseFileLoop fuel i sr cb = .ok (out, i') → PFile Step Step i sr cb out i' := by
  intro fuel
  induction fuel with
  | zero => intro i sr cb out i' h; cases h
  | succ n ih =>
    intro i sr cb out i' h
    unfold parseFileLoop at h
    simp only [Input.peek] at h
    split at h
    · rename_i hk
      rcases lex_cases i with ⟨i1, hl, hx⟩ | ⟨err, hl, _⟩
      · simp only [hl, bind, Except.bind] at h
        refine .blank hk hx (ih _ _ _ _ _ ?_)
        cases cb <;> exact h
      · simp [hl, bind, Except.bind] at h
    · rename_i hk
      rcases lex_cases i with ⟨i1, hl, hx⟩ | ⟨err, hl, _⟩
      · simp only [hl, bind, Except.bind] at h
        exact .comment hk hx (ih _ _ _ _ _ h)
      · simp [hl, bind, Except.bind] at h
    · rename_i hk
      cases cb <;> (cases h; exact .eof hk)
    · rename_i h1 h2 h3
      cases hp : parseStmt (n + 1) i with
      | error err => simp [hp, bind, Except.bind] at h
      | ok v =>
        simp only [hp, bind, Except.bind] at h
        obtain ⟨i1, hx, hs⟩ := parseStmt_run hp
        refine .stmt h1 h2 h3 hx hs (ih _ _ _ _ _ ?_)
        cases cb <;> exact h

theorem parseFile_run {stmts : List Expr} {i' : Input} (h : parseFile data = .ok (stmts, i')) :
    ∃ i0, readToken (newInput data) = .ok i0 ∧ PFile Step Step i0 [] none stmts i' := by
  unfold parseFile at h
  cases hr : readToken (newInput data) with
  | error err => simp [hr, bind, Except.bind] at h
  | ok i0 =>
    simp only [hr, bind, Except.bind] at h
    exact ⟨i0, rfl, parseFileLoop_run _ _ _ _ _ _ h⟩

section lift
variable {I : Input → Prop} (hstep : ∀ i i1, I i → readToken i = .ok i1 → I i1)
  (hid : ∀ i n, I i → I { i with nextId := n })
include hstep hid

theorem PLine.lift {i : Input} {s e : Position} {acc : List Bytes} {l : Line} {i' : Input}
    (h : PLine Step Step i s e acc l i') (hi : I i) : PLine (Call I) (Call I) i s e acc l i' ∧ I i' := by
  induction h with
  | eol hx he => exact ⟨.eol ⟨hi, hx⟩ he, hid _ _ (hstep _ _ hi hx)⟩
  | tok hx he _ ih => exact ⟨.tok ⟨hi, hx⟩ he (ih (hstep _ _ hi hx)).1, (ih (hstep _ _ hi hx)).2⟩

theorem PBlock.lift {i : Input} {x : LineBlock} {ls : List Line} {cs : List Comment} {b : LineBlock} {i' : Input}
    (h : PBlock Step Step i x ls cs b i') (hi : I i) : PBlock (Call I) (Call I) i x ls cs b i' ∧ I i' := by
  induction h with
  | eolComment hk hx _ ih => exact ⟨.eolComment hk ⟨hi, hx⟩ (ih (hstep _ _ hi hx)).1, (ih (hstep _ _ hi hx)).2⟩
  | blank hk hx _ ih => exact ⟨.blank hk ⟨hi, hx⟩ (ih (hstep _ _ hi hx)).1, (ih (hstep _ _ hi hx)).2⟩
  | comment hk hx _ ih => exact ⟨.comment hk ⟨hi, hx⟩ (ih (hstep _ _ hi hx)).1, (ih (hstep _ _ hi hx)).2⟩
  | close hk hx he hx2 => exact ⟨.close hk ⟨hi, hx⟩ he ⟨hstep _ _ hi hx, hx2⟩, hstep _ _ (hstep _ _ hi hx) hx2⟩
  | line h1 h2 h3 h4 h5 hx he hl _ ih =>
    have hl' := PLine.lift hstep hid hl (hstep _ _ hi hx)
    exact ⟨.line h1 h2 h3 h4 h5 ⟨hi, hx⟩ he hl'.1 (ih hl'.2).1, (ih hl'.2).2⟩

theorem PStmt.lift {i : Input} {s e : Position} {acc : List Bytes} {x : Expr} {i' : Input}
    (h : PStmt Step Step i s e acc x i') (hi : I i) : PStmt (Call I) (Call I) i s e acc x i' ∧ I i' := by
  induction h with
  | eol hx he => exact ⟨.eol ⟨hi, hx⟩ he, hid _ _ (hstep _ _ hi hx)⟩
  | block hx hk he hb =>
    have hb' := PBlock.lift hstep hid hb (hstep _ _ hi hx)
    exact ⟨.block ⟨hi, hx⟩ hk he hb'.1, hb'.2⟩
  | empty hx hk hk1 hx2 he2 hx3 =>
    have h1 := hstep _ _ hi hx
    have h2 := hstep _ _ h1 hx2
    exact ⟨.empty ⟨hi, hx⟩ hk hk1 ⟨h1, hx2⟩ he2 ⟨h2, hx3⟩, hstep _ _ h2 hx3⟩
  | parens hx hk hk1 hx2 he2 _ ih =>
    have h1 := hstep _ _ hi hx
    have h2 := hstep _ _ h1 hx2
    exact ⟨.parens ⟨hi, hx⟩ hk hk1 ⟨h1, hx2⟩ he2 (ih h2).1, (ih h2).2⟩
  | lparen hx hk he1 hk1 _ ih => exact ⟨.lparen ⟨hi, hx⟩ hk he1 hk1 (ih (hstep _ _ hi hx)).1, (ih (hstep _ _ hi hx)).2⟩
  | tok hx he hk _ ih => exact ⟨.tok ⟨hi, hx⟩ he hk (ih (hstep _ _ hi hx)).1, (ih (hstep _ _ hi hx)).2⟩

theorem PFile.lift {i : Input} {sr : List Expr} {cb : Option CommentBlock} {out : List Expr} {i' : Input}
    (h : PFile Step Step i sr cb out i') (hi : I i) : PFile (Call I) (Call I) i sr cb out i' ∧ I i' := by
  induction h with
  | blank hk hx _ ih => exact ⟨.blank hk ⟨hi, hx⟩ (ih (hstep _ _ hi hx)).1, (ih (hstep _ _ hi hx)).2⟩
  | comment hk hx _ ih => exact ⟨.comment hk ⟨hi, hx⟩ (ih (hstep _ _ hi hx)).1, (ih (hstep _ _ hi hx)).2⟩
  | eof hk => exact ⟨.eof hk, hi⟩
  | stmt h1 h2 h3 hx hs _ ih =>
    have hs' := PStmt.lift hstep hid hs (hstep _ _ hi hx)
    exact ⟨.stmt h1 h2 h3 ⟨hi, hx⟩ hs'.1 (ih hs'.2).1, (ih hs'.2).2⟩

omit hid in
/-- for a proof that holds an inner run and not the `lift` it came from; lines and files need no such lemma -/
theorem PBlock.final {i : Input} {x : LineBlock} {ls : List Line} {cs : List Comment} {b : LineBlock} {i' : Input}
    (h : PBlock (Call I) (Call I) i x ls cs b i') : I i' := by
  induction h with
  | eolComment _ _ _ ih | blank _ _ _ ih | comment _ _ _ ih => exact ih
  | close _ _ _ hc2 => exact hstep _ _ hc2.inv hc2.step
  | line _ _ _ _ _ _ _ _ _ ih => exact ih

theorem PStmt.final {i : Input} {s e : Position} {acc : List Bytes} {x : Expr} {i' : Input}
    (h : PStmt (Call I) (Call I) i s e acc x i') : I i' := by
  induction h with
  | eol hc _ => exact hid _ _ (hstep _ _ hc.inv hc.step)
  | block _ _ _ hb => exact PBlock.final hstep hb
  | empty _ _ _ _ _ hc3 => exact hstep _ _ hc3.inv hc3.step
  | parens _ _ _ _ _ _ ih | lparen _ _ _ _ _ ih | tok _ _ _ _ ih => exact ih

end lift

theorem parseFile_reach {data : Bytes} {stmts : List Expr} {i' : Input} (h : parseFile data = .ok (stmts, i')) :
    ∃ i0, readToken (newInput data) = .ok i0 ∧ PFile (Lx data) (Lx data) i0 [] none stmts i' ∧ Reach data i' := by
  obtain ⟨i0, h0, hrun⟩ := parseFile_run h
  exact ⟨i0, h0, hrun.lift (fun _ _ hr hs => Reach.lex hr hs) (fun _ n hr => Reach.setId n hr) (Reach.start h0)⟩

end ModVerif.Proofs.ModfileRun
