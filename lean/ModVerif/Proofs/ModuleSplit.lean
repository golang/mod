/-
  SplitPathVersion and splitGopkgIn scan the path from its end.  Each has a "cases" lemma (either the
  trivial result, or the path ends in "/v" resp. ".v" and a run of digits) and an "evaluation" lemma on
  paths of that form; the shape of the results (C06 `split_spec`) and the exact conditions for ok
  (Proofs/ModuleFullSplit.lean) are read off these two.
  Bytes in the statements: 47 '/', 118 'v', 46 '.', 45 '-', 48 '0', 49 '1'.
-/
import ModVerif.Model.Module
import ModVerif.Spec.PathSpec
import ModVerif.Proofs.ListLemmas
namespace ModVerif.Module
open ModVerif

theorem trimSuffixB_append (x suf : Bytes) : trimSuffixB (x ++ suf) suf = x := by
  unfold trimSuffixB
  simp [hasSuffixB_append]

theorem isDigit_iff (c : UInt8) : isDigit c = true ↔ 48 ≤ c.toNat ∧ c.toNat ≤ 57 := by
  simp [isDigit, UInt8.le_iff_toNat_le]

theorem B_slash_v1 : B "/v1" = [47, 118, 49] := by decide +kernel
theorem B_dot_v : B ".v" = [46, 118] := by decide +kernel
theorem B_dot_v0 : B ".v0" = [46, 118, 48] := by decide +kernel
theorem B_unstable : B "-unstable" = [45, 117, 110, 115, 116, 97, 98, 108, 101] := by decide +kernel

theorem hasSuffixB_last_digit (x : Bytes) (d : UInt8) (hd : isDigit d = true) :
    hasSuffixB (x ++ [d]) (B "-unstable") = false := by
  have hne : (101 : UInt8) ≠ d := by
    intro h; subst h; revert hd; decide
  simp [hasSuffixB, B_unstable, isPrefixOfB, hne]

/-- `revScan` with the byte in front of the stop byte named: `d` is what SplitPathVersion looks at next -/
theorem scan_run (q : UInt8 → Bool) (pre n : Bytes) (d c : UInt8) (hc : q c = false)
    (hn : ∀ x ∈ n, q x = true) :
    (pre ++ d :: c :: n).reverse.takeWhile q = n.reverse ∧
    (pre ++ d :: c :: n).reverse.dropWhile q = c :: d :: pre.reverse := by
  simpa using revScan q (pre ++ [d]) n c hc hn

/-- the converse reading of `revScan` -/
theorem scan_split (q : UInt8 → Bool) (p : Bytes) :
    p = (p.reverse.dropWhile q).reverse ++ (p.reverse.takeWhile q).reverse ∧
    ∀ x ∈ (p.reverse.takeWhile q).reverse, q x = true := by
  constructor
  · have := congrArg List.reverse (List.takeWhile_append_dropWhile (p := q) (l := p.reverse))
    rw [List.reverse_append, List.reverse_reverse] at this
    exact this.symm
  · intro x hx
    exact List.all_eq_true.mp List.all_takeWhile x (by simpa using hx)

theorem splitPathVersion_cases (p : Bytes) (hg : isPrefixOfB (B "gopkg.in/") p = false) :
    splitPathVersion p = (p, [], true) ∨
    ∃ pre n, p = pre ++ 47 :: 118 :: n ∧ n ≠ [] ∧ ∀ c ∈ n, (isDigit c || c == 46) = true := by
  obtain ⟨hsplit, hall⟩ := scan_split (fun c => isDigit c || c == 46) p
  unfold splitPathVersion
  simp only [hg, Bool.false_eq_true, if_false]
  split
  · exact Or.inl rfl
  · rename_i hne
    split
    · rename_i pre' hdrop
      rw [hdrop] at hsplit
      exact Or.inr ⟨pre'.reverse, _, by simpa using hsplit, by simpa using hne, hall⟩
    · exact Or.inl rfl

theorem splitPathVersion_compute (p pre n : Bytes) (hg : isPrefixOfB (B "gopkg.in/") p = false)
    (hp : p = pre ++ 47 :: 118 :: n) (hne : n ≠ [])
    (hn : ∀ c ∈ n, (isDigit c || c == 46) = true) :
    splitPathVersion p =
      if (n.contains 46 || n.head? == some 48 || n == [49]) = true then (p, [], false)
      else (pre, 47 :: 118 :: n, true) := by
  obtain ⟨htake, hdrop⟩ := scan_run (fun c => isDigit c || c == 46) pre n 47 118 (by decide) hn
  unfold splitPathVersion
  rw [if_neg (by rw [hg]; decide), ← hp] at *
  simp only [htake, hdrop, List.reverse_reverse, B_slash_v1, List.contains_eq_mem, List.mem_reverse]
  obtain ⟨a, t, rfl⟩ := List.exists_cons_of_ne_nil hne
  simp

theorem splitPathVersion_nongopkg (p pre maj : Bytes) (hg : isPrefixOfB (B "gopkg.in/") p = false)
    (h : splitPathVersion p = (pre, maj, true)) :
    pre ++ maj = p ∧ (maj = [] ∨ PathSpec.SlashMajor maj) := by
  rcases splitPathVersion_cases p hg with h0 | ⟨pre', n, hp, hne, hn⟩
  · rw [h0] at h
    obtain ⟨rfl, rfl, _⟩ := Prod.mk.inj h |>.imp id Prod.mk.inj
    simp
  · rw [splitPathVersion_compute p pre' n hg hp hne hn] at h
    split at h
    · cases (Prod.mk.inj (Prod.mk.inj h).2).2
    · rename_i hc
      obtain ⟨rfl, rfl, _⟩ := Prod.mk.inj h |>.imp id Prod.mk.inj
      simp only [Bool.or_eq_true, not_or, Bool.not_eq_true, beq_eq_false_iff_ne, ne_eq, List.contains_eq_mem,
        decide_eq_false_iff_not] at hc
      obtain ⟨⟨hdot, h0⟩, h1⟩ := hc
      refine ⟨hp.symm, Or.inr ⟨n, rfl, ⟨hne, ?_, fun h48 => absurd h48 h0⟩, ?_, h1⟩⟩
      · intro d hd
        have hd46 : d ≠ 46 := fun e => hdot (e ▸ hd)
        exact (isDigit_iff d).mp (by simpa [hd46] using hn d hd)
      · intro h48; rw [h48] at h0; exact h0 rfl

theorem splitGopkgIn_cases (p : Bytes) :
    splitGopkgIn p = (p, [], false) ∨
    ∃ pre n sfx, p = pre ++ 46 :: 118 :: (n ++ sfx) ∧ n ≠ [] ∧ (∀ c ∈ n, isDigit c = true) ∧
      (sfx = [] ∨ sfx = B "-unstable") := by
  -- the reversed path without the optional "-unstable"
  obtain ⟨sfx, hsfx, hp⟩ : ∃ sfx : Bytes, (sfx = [] ∨ sfx = B "-unstable") ∧
      p = ((if hasSuffixB p (B "-unstable") = true then p.reverse.drop 9 else p.reverse)).reverse ++ sfx := by
    cases hu : hasSuffixB p (B "-unstable")
    · exact ⟨[], Or.inl rfl, by simp⟩
    · obtain ⟨x, hx⟩ := (hasSuffixB_iff _ _).mp hu
      refine ⟨B "-unstable", Or.inr rfl, ?_⟩
      have : p.reverse.drop 9 = x.reverse := by
        rw [hx, List.reverse_append, ← show (B "-unstable").reverse.length = 9 by decide +kernel, List.drop_left]
      simp [this, ← hx]
  unfold splitGopkgIn
  dsimp only
  generalize (if hasSuffixB p (B "-unstable") = true then p.reverse.drop 9 else p.reverse) = rev1 at hp
  obtain ⟨hsplit, hall⟩ := scan_split isDigit rev1.reverse
  rw [List.reverse_reverse] at hsplit hall
  split
  · exact Or.inl rfl
  · split
    · exact Or.inl rfl
    · rename_i hne
      split
      · rename_i pre' hdrop
        rw [hdrop] at hsplit
        refine Or.inr ⟨pre'.reverse, _, sfx, ?_, by simpa using hne, hall, hsfx⟩
        rw [hp, hsplit]; simp
      · exact Or.inl rfl

theorem splitGopkgIn_compute (p pre n sfx : Bytes) (hg : isPrefixOfB (B "gopkg.in/") p = true)
    (hp : p = pre ++ 46 :: 118 :: (n ++ sfx)) (hne : n ≠ [])
    (hn : ∀ c ∈ n, isDigit c = true) (hsfx : sfx = [] ∨ sfx = B "-unstable") :
    splitGopkgIn p =
      if (n.head? == some 48 && !(n == [48] && sfx == [])) = true then (p, [], false)
      else (pre, 46 :: 118 :: (n ++ sfx), true) := by
  obtain ⟨htake, hdrop⟩ := scan_run isDigit pre n 46 118 (by decide) hn
  -- the part of the reversed path that is scanned for digits
  have hrev1 : (if hasSuffixB p (B "-unstable") = true then p.reverse.drop 9 else p.reverse)
      = (pre ++ 46 :: 118 :: n).reverse ∧
      (if hasSuffixB p (B "-unstable") = true then B "-unstable" else []) = sfx := by
    rcases hsfx with rfl | rfl
    · have hu : hasSuffixB p (B "-unstable") = false := by
        rw [hp, List.append_nil, ← List.dropLast_concat_getLast hne,
          show pre ++ 46 :: 118 :: (n.dropLast ++ [n.getLast hne]) = (pre ++ 46 :: 118 :: n.dropLast) ++ [n.getLast hne] by simp]
        exact hasSuffixB_last_digit _ _ (hn _ (List.getLast_mem hne))
      simp only [hu, Bool.false_eq_true, if_false]
      exact ⟨by rw [hp, List.append_nil], trivial⟩
    · have e : p = (pre ++ 46 :: 118 :: n) ++ B "-unstable" := by rw [hp]; simp
      have : p.reverse.drop 9 = (pre ++ 46 :: 118 :: n).reverse := by
        rw [e, List.reverse_append, ← show (B "-unstable").reverse.length = 9 by decide +kernel, List.drop_left]
      simp only [show hasSuffixB p (B "-unstable") = true from e ▸ hasSuffixB_append _ _, if_true]
      exact ⟨this, trivial⟩
  unfold splitGopkgIn
  simp only [hg, Bool.not_true, Bool.false_eq_true, if_false, hrev1.1, hrev1.2, htake, hdrop, List.reverse_reverse,
    B_dot_v0]
  obtain ⟨a, t, rfl⟩ := List.exists_cons_of_ne_nil hne
  rcases hsfx with rfl | rfl <;> cases t <;> simp [B_unstable, bne]

theorem num_digits {n : Bytes} (h : PathSpec.Num n) : ∀ c ∈ n, isDigit c = true :=
  fun c hc => (isDigit_iff c).mpr (h.2.1 c hc)

theorem splitGopkgIn_ok (p pre maj : Bytes) (h : splitGopkgIn p = (pre, maj, true)) :
    pre ++ maj = p ∧ isPrefixOfB (B "gopkg.in/") p = true ∧ PathSpec.GopkgMajor maj := by
  have hg : isPrefixOfB (B "gopkg.in/") p = true := by
    cases hg : isPrefixOfB (B "gopkg.in/") p
    · simp [splitGopkgIn, hg] at h
    · rfl
  rcases splitGopkgIn_cases p with h0 | ⟨pre', n, sfx, hp, hne, hn, hsfx⟩
  · rw [h0] at h; cases (Prod.mk.inj (Prod.mk.inj h).2).2
  · rw [splitGopkgIn_compute p pre' n sfx hg hp hne hn hsfx] at h
    split at h
    · cases (Prod.mk.inj (Prod.mk.inj h).2).2
    · rename_i hc
      obtain ⟨rfl, rfl, _⟩ := Prod.mk.inj h |>.imp id Prod.mk.inj
      refine ⟨hp.symm, hg, n, ⟨hne, fun d hd => (isDigit_iff d).mp (hn d hd), fun h48 => ?_⟩, ?_⟩
      · simp only [h48, beq_self_eq_true, Bool.true_and, Bool.not_eq_true', Bool.not_eq_false, Bool.and_eq_true,
          beq_iff_eq] at hc
        exact hc.1
      · rcases hsfx with rfl | rfl
        · exact Or.inl (by simp)
        · exact Or.inr rfl

/-- `Props.C06.split_spec` -/
theorem split_spec (p pre maj : Bytes) (h : splitPathVersion p = (pre, maj, true)) :
    pre ++ maj = p ∧ PathSpec.MajorSuffix p maj := by
  cases hg : isPrefixOfB (B "gopkg.in/") p
  · obtain ⟨h1, h2⟩ := splitPathVersion_nongopkg p pre maj hg h
    exact ⟨h1, h2.elim Or.inl (fun x => Or.inr (Or.inl x))⟩
  · have h' : splitGopkgIn p = (pre, maj, true) := by
      unfold splitPathVersion at h; simpa [hg] using h
    obtain ⟨h1, h2, h3⟩ := splitGopkgIn_ok p pre maj h'
    exact ⟨h1, Or.inr (Or.inr ⟨h2, h3⟩)⟩

/-- `Props.C06.split_not_ok` -/
theorem split_not_ok (p : Bytes) (h : (splitPathVersion p).2.2 = false) : splitPathVersion p = (p, [], false) := by
  cases hg : isPrefixOfB (B "gopkg.in/") p
  · rcases splitPathVersion_cases p hg with h0 | ⟨pre, n, hp, hne, hn⟩
    · rw [h0] at h; cases h
    · rw [splitPathVersion_compute p pre n hg hp hne hn] at h ⊢
      split at h
      · rw [if_pos ‹_›]
      · cases h
  · have e : splitPathVersion p = splitGopkgIn p := by unfold splitPathVersion; simp [hg]
    rw [e] at h ⊢
    rcases splitGopkgIn_cases p with h0 | ⟨pre, n, sfx, hp, hne, hn, hsfx⟩
    · exact h0
    · rw [splitGopkgIn_compute p pre n sfx hg hp hne hn hsfx] at h ⊢
      split at h
      · rw [if_pos ‹_›]
      · cases h

end ModVerif.Module
