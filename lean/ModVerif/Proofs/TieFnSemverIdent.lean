/-
  Tie proofs for the regenerated semver functions: parsePrerelease and parseBuild.
  The Go loops track `start` (begin of the identifier in progress); the model uses `splitOn 46` and `all`.
  Bridge: `identScan good cur rest` (a structural recursion over the unread input, carrying the identifier in
  progress), shown equal to the loop (+ the code after the loop) on one side and to the model formula on the other.
-/
import ModVerif.Proofs.TieFnSemverScan
import ModVerif.Proofs.SemverOrder
namespace ModVerif.TieFnSemver
open ModVerif ModVerif.GoRt

/-- the identifier scan shared by parsePrerelease and parseBuild, as a function of the identifier in progress
    (`cur = v[start:i]`) and the unread input: every byte is an identifier character or '.', and every
    identifier (closed by a '.' or by the end) is `good`. -/
def identScan (good : Bytes → Bool) (cur : Bytes) : Bytes → Bool
  | [] => good cur
  | c :: s =>
    if !Semver.isIdentChar c && c != 46 then false
    else if c == 46 then good cur && identScan good [] s
    else identScan good (cur ++ [c]) s

def okc : UInt8 → Bool := fun c => Semver.isIdentChar c || c == 46

def splitGood (good : Bytes → Bool) (cur : Bytes) (body : Bytes) : Bool :=
  match splitOn 46 body with
  | h :: t => good (cur ++ h) && t.all good
  | [] => false

theorem identScan_eq (good : Bytes → Bool) : ∀ (body cur : Bytes),
    identScan good cur body = (body.all okc && splitGood good cur body) := by
  intro body
  induction body with
  | nil => intro cur; simp [identScan, splitGood, splitOn]
  | cons c s ih =>
    intro cur
    by_cases hdot : c = 46
    · subst hdot
      have : Semver.isIdentChar 46 = false := by decide
      simp [identScan, this, ih, okc, splitGood, splitOn]
      cases h : splitOn 46 s with
      | nil => exact absurd h (splitOn_ne_nil 46 s)
      | cons a t => simp; cases good cur <;> cases s.all okc <;> simp
    · have hb : (c == 46) = false := by simp [hdot]
      have hb' : (c != 46) = true := by simp [hdot]
      by_cases hid : Semver.isIdentChar c = true
      · simp [identScan, hid, hb, ih, okc, splitGood, splitOn]
        cases h : splitOn 46 s with
        | nil => exact absurd h (splitOn_ne_nil 46 s)
        | cons a t => simp
      · simp [identScan, hid, hb, hb', okc]

/-- what parseBuild does with the result of its loop -/
def buildCont (v : Bytes) (r : Ctl (Bytes × Bytes × Bool) (Int × Int)) : M (Bytes × Bytes × Bool) :=
  match r with
  | Ctl.ret rv => pure rv
  | Ctl.next (start, i) => (if (decide (start = i)) then (pure (([] : Bytes), ([] : Bytes), false)) else (do
      let t9 ← sliceTo v i
      let t10 ← sliceFrom v i
      pure (t9, t10, true)))

theorem parseBuild_unfold (fuel : Nat) (c : UInt8) (rest : Bytes) :
    Generated.Semver.parseBuild fuel (c :: rest) =
      if c = 43 then Generated.Semver.parseBuild_loop1 (c :: rest) [] [] false fuel 1 1 >>= buildCont (c :: rest)
      else .ok ([], [], false) := by
  unfold Generated.Semver.parseBuild
  simp only [idx_zero_cons, bind_ok, pure_eq_ok, byte_eq_int (n := 43) (d := 43) rfl]
  by_cases h : c = 43
  · simp [h]
    congr 1; funext r
    rcases r with rv | ⟨s, i⟩ <;> simp [buildCont]
  · simp [h]

def nonEmpty : Bytes → Bool := fun s => !s.isEmpty

theorem parseBuild_loop1_spec : ∀ (suf pre : Bytes) (start fuel : Nat), suf.length < fuel → start ≤ pre.length →
    (Generated.Semver.parseBuild_loop1 (pre ++ suf) [] [] false fuel (start : Int) (pre.length : Int)
        >>= buildCont (pre ++ suf))
      = .ok (if identScan nonEmpty (pre.drop start) suf then (pre ++ suf, [], true) else ([], [], false)) := by
  intro suf
  induction suf with
  | nil =>
    intro pre start fuel hf hs
    obtain ⟨f, rfl⟩ : ∃ f, fuel = f + 1 := ⟨fuel - 1, by omega⟩
    simp [Generated.Semver.parseBuild_loop1, len_eq, buildCont, identScan, nonEmpty]
    have h1 := sliceTo_natCast (v := pre) (k := pre.length) (Nat.le_refl _)
    have h2 := sliceFrom_natCast (v := pre) (k := pre.length) (Nat.le_refl _)
    by_cases hs' : start = pre.length
    · simp [hs']
    · have : start < pre.length := by omega
      have hne : ¬ ((start : Int) = (pre.length : Int)) := by omega
      simp [hne, this, h1, h2]
  | cons c suf ih =>
    intro pre start fuel hf hs
    obtain ⟨f, rfl⟩ : ∃ f, fuel = f + 1 := ⟨fuel - 1, by simp at hf; omega⟩
    have hlt : (pre.length : Int) < len (pre ++ c :: suf) := by simp [len_eq]; omega
    unfold Generated.Semver.parseBuild_loop1
    simp only [hlt, decide_true, if_true, idx_append_length, bind_ok, pure_eq_ok, isIdentChar_byte,
      byte_eq_int (n := 46) (d := 46) rfl]
    by_cases hdot : c = 46
    · subst hdot
      have h46 : Semver.isIdentChar 46 = false := by decide
      have hrec := ih (pre ++ [46]) (pre.length + 1) f (by simp at hf; omega) (by simp)
      simp only [List.append_assoc, List.singleton_append, List.length_append, List.length_singleton,
        Int.natCast_add, Int.natCast_one] at hrec
      by_cases hs' : start = pre.length
      · simp [hs', h46, identScan, nonEmpty, buildCont]
      · have hlt' : start < pre.length := by omega
        have hne : ¬ ((start : Int) = (pre.length : Int)) := by omega
        simp [hne, h46, identScan, nonEmpty, hrec, hlt']
    · have hrec := ih (pre ++ [c]) start f (by simp at hf; omega) (by simp; omega)
      simp only [List.append_assoc, List.singleton_append, List.length_append, List.length_singleton,
        Int.natCast_add, Int.natCast_one, List.drop_append_of_le_length hs] at hrec
      by_cases hid : Semver.isIdentChar c = true
      · simp [hid, hdot, identScan, hrec]
      · simp [hid, hdot, identScan, buildCont]

theorem splitGood_nil (good : Bytes → Bool) (body : Bytes) :
    splitGood good [] body = (splitOn 46 body).all good := by
  unfold splitGood
  cases h : splitOn 46 body with
  | nil => exact absurd h (splitOn_ne_nil 46 body)
  | cons a t => simp

theorem parseBuild_ok (v : Bytes) (fuel : Nat) (hf : v.length ≤ fuel) :
    Generated.Semver.parseBuild fuel v =
      .ok (match Semver.parseBuild v with | some (t, r) => (t, r, true) | none => ([], [], false)) := by
  cases v with
  | nil => simp [Generated.Semver.parseBuild, Semver.parseBuild]
  | cons c rest =>
    rw [parseBuild_unfold]
    by_cases h : c = 43
    · subst h
      have hl := parseBuild_loop1_spec rest [43] 1 fuel (by simp at hf; omega) (by simp)
      simp only [List.singleton_append, List.length_singleton, Int.natCast_one] at hl
      simp only [if_true, hl, Semver.parseBuild, identScan_eq, List.drop_one, List.tail_cons, splitGood_nil]
      unfold okc nonEmpty
      split <;> rfl
    · simp [h, Semver.parseBuild]

def goodPre : Bytes → Bool := fun s => !s.isEmpty && !Semver.isBadNum s

/-- what parsePrerelease does with the result of its loop (`fuel` is the fuel of the final isBadNum call) -/
def preCont (v : Bytes) (fuel : Nat) (r : Ctl (Bytes × Bytes × Bool) (Int × Int)) : M (Bytes × Bytes × Bool) :=
  match r with
  | Ctl.ret rv => pure rv
  | Ctl.next (start, i) => (do
      let t16 ← (if (decide (start = i)) then pure true else (do
        let t14 ← slice v start i
        let t15 ← (Generated.Semver.isBadNum fuel t14)
        pure t15))
      if t16 then (pure (([] : Bytes), ([] : Bytes), false)) else (do
        let t17 ← sliceTo v i
        let t18 ← sliceFrom v i
        pure (t17, t18, true)))

theorem parsePrerelease_unfold (fuel : Nat) (c : UInt8) (rest : Bytes) :
    Generated.Semver.parsePrerelease fuel (c :: rest) =
      if c = 45 then Generated.Semver.parsePrerelease_loop1 (c :: rest) [] [] false fuel 1 1 >>= preCont (c :: rest) fuel
      else .ok ([], [], false) := by
  unfold Generated.Semver.parsePrerelease
  simp only [idx_zero_cons, bind_ok, pure_eq_ok, byte_eq_int (n := 45) (d := 45) rfl]
  by_cases h : c = 45
  · simp [h]
    congr 1; funext r
    rcases r with rv | ⟨s, i⟩ <;> simp [preCont]
  · simp [h]

theorem slice_split (pre suf : Bytes) (start : Nat) (hs : start ≤ pre.length) :
    slice (pre ++ suf) (start : Int) (pre.length : Int) = .ok (pre.drop start) := by
  rw [slice_natCast hs (by simp)]
  simp

theorem preCont_next (pre suf : Bytes) (start F : Nat) (hs : start ≤ pre.length)
    (hF : (pre.drop start).length + 1 ≤ F) :
    preCont (pre ++ suf) F (Ctl.next ((start : Int), (pre.length : Int)))
      = .ok (if goodPre (pre.drop start) then (pre, suf, true) else ([], [], false)) := by
  have h1 := sliceTo_natCast (v := pre ++ suf) (k := pre.length) (by simp)
  have h2 := sliceFrom_natCast (v := pre ++ suf) (k := pre.length) (by simp)
  simp only [List.take_left', List.drop_left'] at h1 h2
  by_cases hs' : start = pre.length
  · simp [preCont, hs', goodPre]
  · have hne : ¬ ((start : Int) = (pre.length : Int)) := by omega
    have hlt : start < pre.length := by omega
    simp only [preCont, hne, decide_false, slice_split pre suf start hs, isBadNum_ok _ _ hF, bind_ok, pure_eq_ok, h1, h2]
    simp [goodPre, hlt]
    cases Semver.isBadNum (List.drop start pre) <;> simp

theorem parsePrerelease_loop1_spec : ∀ (suf pre : Bytes) (start fuel F : Nat), start ≤ pre.length →
    pre.length + 2 * suf.length + 1 ≤ fuel → pre.length + suf.length + 1 ≤ F →
    (Generated.Semver.parsePrerelease_loop1 (pre ++ suf) [] [] false fuel (start : Int) (pre.length : Int)
        >>= preCont (pre ++ suf) F)
      = .ok (if identScan goodPre (pre.drop start) (suf.takeWhile (· != 43))
              then (pre ++ suf.takeWhile (· != 43), suf.dropWhile (· != 43), true) else ([], [], false)) := by
  intro suf
  induction suf with
  | nil =>
    intro pre start fuel F hs hf hF
    obtain ⟨f, rfl⟩ : ∃ f, fuel = f + 1 := ⟨fuel - 1, by omega⟩
    have hc := preCont_next pre [] start F hs (by simp; omega)
    simp only [List.append_nil] at hc
    simp [Generated.Semver.parsePrerelease_loop1, len_eq, identScan, hc]
  | cons c suf ih =>
    intro pre start fuel F hs hf hF
    obtain ⟨f, rfl⟩ : ∃ f, fuel = f + 1 := ⟨fuel - 1, by omega⟩
    have hlt : (pre.length : Int) < len (pre ++ c :: suf) := by simp [len_eq]; omega
    unfold Generated.Semver.parsePrerelease_loop1
    simp only [hlt, decide_true, if_true, idx_append_length, bind_ok, pure_eq_ok, isIdentChar_byte,
      byte_eq_int (n := 46) (d := 46) rfl, byte_eq_int (n := 43) (d := 43) rfl]
    by_cases hplus : c = 43
    · subst hplus
      have hc := preCont_next pre (43 :: suf) start F hs (by simp; omega)
      simp [identScan, hc]
    · have hne43 : (c != 43) = true := by simp [hplus]
      simp only [hplus, decide_false, Bool.not_false, if_true, List.takeWhile_cons, List.dropWhile_cons, hne43]
      simp only [List.length_cons] at hf hF
      by_cases hdot : c = 46
      · subst hdot
        have h46 : Semver.isIdentChar 46 = false := by decide
        have hrec := ih (pre ++ [46]) (pre.length + 1) f F (by simp) (by simp; omega) (by simp; omega)
        simp only [List.append_assoc, List.singleton_append, List.length_append, List.length_singleton,
          Int.natCast_add, Int.natCast_one] at hrec
        by_cases hs' : start = pre.length
        · simp [hs', h46, identScan, goodPre, preCont]
        · have hlt' : start < pre.length := by omega
          have hne : ¬ ((start : Int) = (pre.length : Int)) := by omega
          have hbn := isBadNum_ok (pre.drop start) f (by simp; omega)
          simp only [hne, h46, decide_false, decide_true, slice_split pre (46 :: suf) start hs, hbn, bind_ok,
            Bool.not_false, Bool.not_true, if_true, if_false, Bool.false_eq_true]
          cases hb : Semver.isBadNum (List.drop start pre)
          · simp [identScan, goodPre, hb, hrec, hlt']
          · simp [identScan, goodPre, hb, preCont]
      · have hrec := ih (pre ++ [c]) start f F (by simp; omega) (by simp; omega) (by simp; omega)
        simp only [List.append_assoc, List.singleton_append, List.length_append, List.length_singleton,
          Int.natCast_add, Int.natCast_one, List.drop_append_of_le_length hs] at hrec
        by_cases hid : Semver.isIdentChar c = true
        · simp [hid, hdot, identScan, hrec]
        · simp [hid, hdot, identScan, preCont]

theorem parsePrerelease_ok (v : Bytes) (fuel : Nat) (hf : 2 * v.length ≤ fuel) :
    Generated.Semver.parsePrerelease fuel v =
      .ok (match Semver.parsePrerelease v with | some (t, r) => (t, r, true) | none => ([], [], false)) := by
  cases v with
  | nil => simp [Generated.Semver.parsePrerelease, Semver.parsePrerelease]
  | cons c rest =>
    rw [parsePrerelease_unfold]
    by_cases h : c = 45
    · subst h
      simp only [List.length_cons] at hf
      have hl := parsePrerelease_loop1_spec rest [45] 1 fuel fuel (by simp) (by simp; omega) (by simp; omega)
      simp only [List.singleton_append, List.length_singleton, Int.natCast_one] at hl
      simp only [if_true, hl, Semver.parsePrerelease, identScan_eq, List.drop_one, List.tail_cons, splitGood_nil]
      unfold okc goodPre
      split <;> rfl
    · simp [h, Semver.parsePrerelease]

end ModVerif.TieFnSemver
