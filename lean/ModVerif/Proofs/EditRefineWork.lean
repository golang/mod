/-
  go.work: every operation of the model refines the specification's `step` on the typed lists, and whole sessions
  refine `run`.
-/
import ModVerif.Proofs.EditRefineRun
namespace ModVerif.Modfile.Edit
open ModVerif ModVerif.Modfile ModVerif.EditSpec

theorem WInv.of_sublist {e e' : EWork} (h : WInv e) (wfR : IdWF liveRp (·.lineId) e'.f.replace)
    (hs : (liveIds liveRp (·.lineId) e'.f.replace).Sublist (liveIds liveRp (·.lineId) e.f.replace)) (hn : e.next ≤ e'.next) :
    WInv e' :=
  ⟨wfR, List.Nodup.sublist hs h.nodup, fun i hi => Nat.lt_of_lt_of_le (h.lt i (hs.subset hi)) hn, Nat.lt_of_lt_of_le h.pos hn⟩

theorem WInv.of_same {e e' : EWork} (h : WInv e) (hR : e'.f.replace = e.f.replace) (hn : e.next ≤ e'.next) : WInv e' :=
  h.of_sublist (by rw [hR]; exact h.wfR) (by rw [hR]; exact List.Sublist.refl _) hn

abbrev RefinesW (e : EWork) (r : Except EditErr EWork) (op : EditSpec.Op) : Prop :=
  Refines (fun e => absLiveWork e.f) WInv e r op

theorem workAddGoStmt_refines (e : EWork) (v : Bytes) (h : WInv e) : RefinesW e (workAddGoStmt e v) (.addGo v) := by
  unfold workAddGoStmt
  by_cases hv : goVersionRE v = true
  · simp only [hv, Bool.not_true, Bool.false_eq_true, if_false]
    cases hg : e.f.go with
    | none => exact Refines.ok hv (by simp [absLiveWork, step, stepOk, mV, hv]) (h.of_same rfl (Nat.le_succ _))
    | some g => exact Refines.ok hv (by simp [absLiveWork, step, stepOk, mV, hv]) (h.of_same rfl (Nat.le_refl _))
  · simp only [Bool.not_eq_true] at hv
    simp only [hv, Bool.not_false, if_true]
    exact Refines.error hv

theorem workAddToolchainStmt_refines (e : EWork) (n : Bytes) (h : WInv e) :
    RefinesW e (workAddToolchainStmt e n) (.addToolchain n) := by
  unfold workAddToolchainStmt
  by_cases hv : toolchainRE n = true
  · simp only [hv, Bool.not_true, Bool.false_eq_true, if_false]
    cases hg : e.f.toolchain with
    | none => exact Refines.ok hv (by simp [absLiveWork, step, stepOk, mV, hv]) (h.of_same rfl (Nat.le_succ _))
    | some g => exact Refines.ok hv (by simp [absLiveWork, step, stepOk, mV, hv]) (h.of_same rfl (Nat.le_refl _))
  · simp only [Bool.not_eq_true] at hv
    simp only [hv, Bool.not_false, if_true]
    exact Refines.error hv

theorem workDropGoStmt_refines (e : EWork) (h : WInv e) : RefinesW e (.ok (workDropGoStmt e)) .dropGo := by
  unfold workDropGoStmt
  cases hg : e.f.go with
  | none => exact Refines.ok rfl (by simp [absLiveWork, step, stepOk, hg]) h
  | some g => exact Refines.ok rfl (by simp [absLiveWork, step, stepOk]) (h.of_same rfl (Nat.le_refl _))

theorem workDropToolchainStmt_refines (e : EWork) (h : WInv e) : RefinesW e (.ok (workDropToolchainStmt e)) .dropToolchain := by
  unfold workDropToolchainStmt
  cases hg : e.f.toolchain with
  | none => exact Refines.ok rfl (by simp [absLiveWork, step, stepOk, hg]) h
  | some g => exact Refines.ok rfl (by simp [absLiveWork, step, stepOk]) (h.of_same rfl (Nat.le_refl _))

theorem workAddGodebug_refines (e : EWork) (k v : Bytes) (hk : k ≠ []) (hi : WInv e) :
    RefinesW e (workAddGodebug e k v) (.addGodebug k v) := by
  rw [workAddGodebug_eq]
  exact Refines.ite fun _ => Refines.ok rfl (by simp [absLiveWork, step, stepOk, addGodebugRes_abs _ _ _ v hk])
    (hi.of_same rfl (setKeyedRes_next ..))

theorem workDropGodebug_refines (e : EWork) (k : Bytes) (hi : WInv e) : RefinesW e (workDropGodebug e k) (.dropGodebug k) := by
  rw [workDropGodebug_eq]
  exact Refines.ite fun _ => Refines.ok rfl (by simp [absLiveWork, step, stepOk, dropGodebug_abs]) (hi.of_same rfl (Nat.le_refl _))

theorem workAddReplace_refines (e : EWork) (op ov np nv : Bytes) (hop : op ≠ []) (hi : WInv e) :
    RefinesW e (workAddReplace e op ov np nv) (.addReplace op ov np nv) := by
  rw [workAddReplace_eq]
  obtain ⟨h1, h2, h3⟩ := addReplaceRes_abs e.f.syn e.f.replace e.next ov np nv hop (Nat.ne_of_gt hi.pos) hi.wfR
  refine Refines.ite fun _ => Refines.ok rfl (by simp [absLiveWork, step, stepOk, h1]) ?_
  rcases h3 with ⟨hn, hs⟩ | ⟨hn, hs⟩
  · exact hi.of_sublist h2 hs (by simp [hn])
  · have hnd : (liveIds liveRp (·.lineId) e.f.replace ++ [e.next]).Nodup :=
      List.nodup_append.2 ⟨hi.nodup, List.pairwise_singleton _ _, fun a ha b hb => by
        rw [List.mem_singleton.1 hb]; exact Nat.ne_of_lt (hi.lt a ha)⟩
    refine ⟨h2, by rw [hs]; exact hnd, fun i hi' => ?_, by rw [hn]; exact Nat.succ_pos _⟩
    rw [hs] at hi'
    rcases List.mem_append.1 hi' with h | h
    · rw [hn]; exact Nat.lt_succ_of_lt (hi.lt i h)
    · rw [hn, List.mem_singleton.1 h]; exact Nat.lt_succ_self _

theorem workDropReplace_refines (e : EWork) (op ov : Bytes) (hi : WInv e) :
    RefinesW e (workDropReplace e op ov) (.dropReplace op ov) := by
  rw [workDropReplace_eq]
  exact Refines.ite fun _ => Refines.ok rfl (by simp [absLiveWork, step, stepOk, dropReplace_abs])
    (hi.of_sublist (IdWF_clearM hi.wfR) (liveIds_clearM _) (Nat.le_refl _))

theorem workSortBlocks_abs (e : EWork) (h : WInv e) :
    absLiveWork (workSortBlocks e).f = EditSpec.removeDups (absLiveWork e.f) ∧ WInv (workSortBlocks e) := by
  have hk := killEarlier_abs liveRp aRp (fun r : Repl => (r.oldPath, r.oldVers)) (fun x y _ _ => modVersion_beq x.old y.old)
    replace_old_live e.f.replace [] h.wfR h.nodup (fun _ _ _ => by simp)
  constructor
  · simp only [workSortBlocks, Edit.removeDups, absLiveWork, EditSpec.removeDups, List.nil_append] at hk ⊢
    rw [hk]
    simp [dedupFirst, dedupLast]
  · simp only [workSortBlocks, Edit.removeDups]
    exact h.of_sublist (IdWF_filter _ h.wfR) (liveIds_filter_sublist _ _ _ _) (Nat.le_refl _)

theorem workCleanup_abs (e : EWork) (h : WInv e) : absLiveWork (workCleanup e).f = absLiveWork e.f ∧ WInv (workCleanup e) := by
  constructor
  · simp only [absLiveWork, workCleanup]
    congr 1 <;> exact liveAbs_filter_live _ _ _
  · exact h.of_sublist (IdWF_filter _ h.wfR) (liveIds_filter_sublist _ _ _ _) (Nat.le_refl _)

theorem addNewUse_abs (e : EWork) (d m : Bytes) (hd : d ≠ []) :
    absLiveWork (addNewUse e d m).f = { absLiveWork e.f with use := (absLiveWork e.f).use ++ [d] } := by
  simp only [addNewUse, absLiveWork, liveAbs_snoc, liveU, aU, ne_nil_live hd]

theorem addUse_refines (e : EWork) (d m : Bytes) (hd : d ≠ []) (hi : WInv e) : RefinesW e (addUse e d m) (.addUse d m) := by
  rw [addUse_eq]
  have hs : liveAbs liveU aU (addUseRes e d m).2.1 = setKeyed (fun u => u == d) id d (liveAbs liveU aU e.f.use) :=
    liveAbs_setKeyed (R := addUseRes e d m) rfl (fun _ _ => rfl) (fun x hx => ne_nil_of_beq hd hx)
      (fun x hx => ne_nil_of_beq hd hx) (fun _ _ => rfl) (ne_nil_live hd)
  exact Refines.ite fun _ => Refines.ok rfl (by simp [absLiveWork, step, stepOk, hs]) (hi.of_same rfl (setKeyedRes_next ..))

theorem dropUse_refines (e : EWork) (d : Bytes) (hi : WInv e) : RefinesW e (dropUse e d) (.dropUse d) := by
  rw [dropUse_eq]
  exact Refines.ite fun _ => Refines.ok rfl (by simp [absLiveWork, step, stepOk, dropUse_abs]) (hi.of_same rfl (Nat.le_refl _))

def GoodUse (ws : List (Bytes × Bytes)) : Prop := ws.Pairwise (fun a b => a.1 ≠ b.1) ∧ ∀ w ∈ ws, w.1 ≠ []

theorem GoodUse.sublist {l1 l2 : List (Bytes × Bytes)} (hs : l1.Sublist l2) (h : GoodUse l2) : GoodUse l1 :=
  ⟨h.1.sublist hs, fun w hw => h.2 w (hs.subset hw)⟩

theorem useNeedMap_distinct (ws : List (Bytes × Bytes)) : ∀ acc : List (Bytes × Bytes),
    (acc ++ ws).Pairwise (fun a b => a.1 ≠ b.1) → useNeedMap ws acc = acc ++ ws := by
  induction ws with
  | nil => intro acc _; simp [useNeedMap]
  | cons w ws ih =>
    intro acc h
    have hnone : acc.any (fun a => a.1 == w.1) = false := by
      apply List.any_eq_false.2
      intro a ha hb
      have := (List.pairwise_append.1 h).2.2 a ha w List.mem_cons_self
      exact this (eq_of_beq hb)
    unfold useNeedMap
    simp only [hnone, Bool.false_eq_true, if_false]
    have : acc ++ w :: ws = (acc ++ [w]) ++ ws := by simp
    rw [this] at h ⊢
    exact ih _ h

theorem setUseLoop_step (d : Use) (ds : List Use) (need : List (Bytes × Bytes)) (syn : FileSyntax) :
    setUseLoop (d :: ds) need syn =
      match need.find? (·.1 == d.path) with
      | some w => (setUseLoop ds (need.filter (·.1 != d.path)) syn).map fun t => ({ d with modulePath := w.2 } :: t.1, t.2)
      | none =>
        if d.lineId = 0 then .error .nilDeref
        else (setUseLoop ds need (markRemoved syn d.lineId)).map fun t => (clearedUse :: t.1, t.2) := by
  conv => lhs; unfold setUseLoop
  cases need.find? (·.1 == d.path) with
  | some w => simp only [bind, Except.bind]; cases setUseLoop ds _ _ <;> rfl
  | none =>
    by_cases h0 : d.lineId = 0
    · simp [h0, deref, nilId, bind, Except.bind]
    · simp only [if_neg h0, deref_ok h0, bind, Except.bind]; cases setUseLoop ds _ _ <;> rfl

theorem setUseLoop_abs (us : List Use) : ∀ (need : List (Bytes × Bytes)) (syn : FileSyntax) (us' : List Use)
    (need' : List (Bytes × Bytes)) (syn' : FileSyntax), GoodUse need → setUseLoop us need syn = .ok (us', need', syn') →
    (liveAbs liveU aU us' ++ need'.map Prod.fst).Perm (need.map Prod.fst) ∧ need'.Sublist need := by
  induction us with
  | nil =>
    intro need syn us' need' syn' _ h
    simp only [setUseLoop, Except.ok.injEq, Prod.mk.injEq] at h
    rcases h with ⟨rfl, rfl, _⟩
    exact ⟨by simp [liveAbs], List.Sublist.refl _⟩
  | cons d ds ih =>
    intro need syn us' need' syn' hg h
    rw [setUseLoop_step] at h
    cases hf : need.find? (fun a => a.1 == d.path) with
    | some w =>
      simp only [hf] at h
      obtain ⟨⟨ds'', need'', syn''⟩, hr, ⟨⟩⟩ := map_eq_ok.1 h
      have hwmem := List.mem_of_find?_eq_some hf
      have hwp : w.1 = d.path := by simpa using List.find?_some hf
      have hsub : (need.filter (fun a => a.1 != d.path)).Sublist need := List.filter_sublist
      rcases ih _ _ _ _ _ (hg.sublist hsub) hr with ⟨h1, h2⟩
      refine ⟨?_, h2.trans hsub⟩
      have hlive : liveU { d with modulePath := w.2 } = true := by
        simp only [liveU]; rw [← hwp]; exact ne_nil_live (hg.2 w hwmem)
      have ha : aU { d with modulePath := w.2 } = w.1 := by simp only [aU, hwp]
      rw [liveAbs_cons, if_pos hlive, ha, List.cons_append]
      refine (h1.cons _).trans ?_
      rw [← hwp]
      exact ((cons_filter_perm Prod.fst need w hwmem hg.1).map Prod.fst)
    | none =>
      simp only [hf] at h
      split at h
      · cases h
      obtain ⟨⟨ds'', need'', syn''⟩, hr, ⟨⟩⟩ := map_eq_ok.1 h
      rcases ih _ _ _ _ _ hg hr with ⟨h1, h2⟩
      exact ⟨by rw [liveAbs_cons]; simpa [liveU, clearedUse] using h1, h2⟩

theorem setUse_ok {e e' : EWork} {dirs : List (Bytes × Bytes)} {perm : List (Bytes × Bytes) → List (Bytes × Bytes)}
    (hg : GoodUse dirs) (h : setUse e dirs perm = .ok e') :
    ∃ us need' syn', setUseLoop e.f.use dirs e.f.syn = .ok (us, need', syn') ∧
      e' = workSortBlocks ((perm need').foldl (fun e w => addNewUse e w.1 w.2) ⟨{ e.f with use := us, syn := syn' }, e.next⟩) := by
  unfold setUse at h
  rw [useNeedMap_distinct dirs [] (by simpa using hg.1)] at h
  obtain ⟨⟨us, need', syn'⟩, hr, h⟩ := bind_eq_ok.1 h
  exact ⟨us, need', syn', hr, by cases h; rfl⟩

theorem setUse_abs (e e' : EWork) (dirs : List (Bytes × Bytes)) (perm : List (Bytes × Bytes) → List (Bytes × Bytes))
    (hperm : ∀ l, (perm l).Perm l) (hg : GoodUse dirs) (hi : WInv e) (h : setUse e dirs perm = .ok e') :
    (absLiveWork e'.f).use.Perm (dirs.map Prod.fst) ∧
    absLiveWork e'.f = EditSpec.removeDups { absLiveWork e.f with use := (absLiveWork e'.f).use } ∧ WInv e' := by
  obtain ⟨us, need', syn', hr, he⟩ := setUse_ok hg h
  obtain ⟨h1, h2⟩ := setUseLoop_abs _ _ _ _ _ _ hg hr
  have hfold : ∀ (ws : List (Bytes × Bytes)) (e0 : EWork), (∀ w ∈ ws, w.1 ≠ []) → WInv e0 →
      absLiveWork (ws.foldl (fun e w => addNewUse e w.1 w.2) e0).f
        = { absLiveWork e0.f with use := (absLiveWork e0.f).use ++ ws.map Prod.fst } ∧
      WInv (ws.foldl (fun e w => addNewUse e w.1 w.2) e0) := by
    intro ws
    induction ws with
    | nil => intro e0 _ h0; exact ⟨by simp, h0⟩
    | cons w ws ih =>
      intro e0 hne h0
      obtain ⟨h3, h4⟩ := ih (addNewUse e0 w.1 w.2) (fun x hx => hne x (List.mem_cons_of_mem _ hx)) (h0.of_same rfl (Nat.le_succ _))
      exact ⟨by rw [List.foldl_cons, h3, addNewUse_abs e0 w.1 w.2 (hne w List.mem_cons_self)]; simp, h4⟩
  obtain ⟨h3, h4⟩ := hfold (perm need') _ (fun w hw => hg.2 w (h2.subset ((hperm need').subset hw)))
    (hi.of_same (e' := ⟨{ e.f with use := us, syn := syn' }, e.next⟩) rfl (Nat.le_refl _))
  obtain ⟨h5, h6⟩ := workSortBlocks_abs _ h4
  subst he
  have hreq : (absLiveWork (workSortBlocks ((perm need').foldl (fun e w => addNewUse e w.1 w.2)
      (⟨{ e.f with use := us, syn := syn' }, e.next⟩ : EWork))).f).use = liveAbs liveU aU us ++ (perm need').map Prod.fst := by
    rw [h5, h3]; rfl
  exact ⟨by rw [hreq]; exact (List.Perm.append_left _ ((hperm need').map _)).trans h1, by rw [hreq, h5, h3]; rfl, h6⟩

theorem NoRet.setUseLoop (us : List Use) : ∀ need syn, NoRet (setUseLoop us need syn) := by
  induction us with
  | nil => intro need syn; exact NoRet.ok _
  | cons d ds ih =>
    intro need syn
    rw [setUseLoop_step]
    split
    · exact (ih _ _).map _
    · split
      · intro err h; cases h; rfl
      · exact (ih _ _).map _

theorem NoRet.setUse (e : EWork) (dirs : List (Bytes × Bytes)) (perm : List (Bytes × Bytes) → List (Bytes × Bytes)) :
    NoRet (setUse e dirs perm) := by
  unfold Edit.setUse
  refine NoRet.bind (NoRet.setUseLoop _ _ _) ?_
  rintro ⟨a, b, c⟩
  exact NoRet.ok _

theorem rel_bulk_use (f : AbsFile) (l : List Bytes) (want : List Bytes) (hl : l.Perm want)
    (hW : want.Pairwise (fun a b => id a ≠ id b)) :
    Rel (EditSpec.removeDups { f with use := l })
        (EditSpec.removeDups { f with use := setExact id want f.use }) :=
  Rel.removeDups { Rel.refl f with use := KeyEq.of_perm hl (setExact_perm id want f.use hW) hW }

theorem applyWork_refines (e : EWork) (op : Op) (hv : ValidArgs op) (hi : WInv e) (r : Except EditErr EWork)
    (h : applyWork e op = some r) : RefinesW e r op.toSpec := by
  cases op <;> simp only [applyWork, Option.some.injEq, reduceCtorEq] at h <;> subst h
  case addGo v => exact workAddGoStmt_refines e v hi
  case dropGo => exact workDropGoStmt_refines e hi
  case addToolchain n => exact workAddToolchainStmt_refines e n hi
  case dropToolchain => exact workDropToolchainStmt_refines e hi
  case addGodebug k v => exact workAddGodebug_refines e k v hv hi
  case dropGodebug k => exact workDropGodebug_refines e k hi
  case addUse d m => exact addUse_refines e d m hv hi
  case addNewUse d m =>
    exact Refines.ok rfl (addNewUse_abs e d m hv) (hi.of_same rfl (Nat.le_succ _))
  case dropUse d => exact dropUse_refines e d hi
  case setUse w rev =>
    refine ⟨fun e' he => ?_, fun err he hr => by rw [NoRet.setUse e w _ err he] at hr; cases hr⟩
    obtain ⟨h1, h2, h3⟩ := setUse_abs e e' w (permOf rev) (permOf_perm rev) ⟨List.pairwise_map.1 hv.1, hv.2⟩ hi he
    refine ⟨rfl, ?_, h3⟩
    show Rel (absLiveWork e'.f) _
    rw [h2]
    exact rel_bulk_use (absLiveWork e.f) _ _ h1 hv.1
  case addReplace a b c d => exact workAddReplace_refines e a b c d hv hi
  case dropReplace a b => exact workDropReplace_refines e a b hi
  case sortBlocks => exact Refines.ok rfl (workSortBlocks_abs e hi).1 (workSortBlocks_abs e hi).2
  case cleanup => exact Refines.ok rfl (workCleanup_abs e hi).1 (workCleanup_abs e hi).2

structure WorkStartOK (f : WorkFile) : Prop where
  godebug : ∀ g ∈ f.godebug, g.key ≠ []
  use : ∀ u ∈ f.use, u.path ≠ []
  replace : ∀ r ∈ f.replace, r.old.path ≠ []
  idsNodup : (f.replace.map (·.lineId)).Nodup
  idsInTree : ∀ i ∈ f.replace.map (·.lineId), ∃ l ∈ f.syn.allLines, l.id = i

theorem absLiveWork_load (f : WorkFile) (h : WorkStartOK f) : absLiveWork (loadWork f).f = absOfWork f := by
  simp only [absLiveWork, loadWork, absOfWork, Option.map_map, Function.comp_def]
  congr 1
  · exact liveAbs_load _ (fun x hx => ne_nil_live (h.godebug x hx)) fun _ => rfl
  · exact liveAbs_load _ (fun x hx => ne_nil_live (h.replace x hx)) fun _ => rfl
  · exact liveAbs_load _ (fun x hx => ne_nil_live (h.use x hx)) fun _ => rfl

theorem WInv_load (f : WorkFile) (h : WorkStartOK f) : WInv (loadWork f) := by
  have hids : liveIds liveRp (·.lineId) (loadWork f).f.replace = (f.replace.map (·.lineId)).map (· + 1) := by
    simp only [loadWork]
    rw [liveIds_all]
    · simp [List.map_map, Function.comp_def]
    · intro x hx; rcases List.mem_map.1 hx with ⟨y, hy, rfl⟩; exact ne_nil_live (h.replace y hy)
  refine ⟨?_, ?_, ?_, Nat.succ_pos _⟩
  · refine IdWF_of_live fun x hx => ?_
    rcases List.mem_map.1 hx with ⟨y, hy, rfl⟩
    exact ⟨ne_nil_live (h.replace y hy), Nat.succ_ne_zero _⟩
  · rw [hids]
    have hn := h.idsNodup
    unfold List.Nodup at *
    rw [List.pairwise_map]
    exact hn.imp (fun hab e => hab (Nat.succ.inj e))
  · rw [hids]
    intro i hi
    rcases List.mem_map.1 hi with ⟨j, hj, rfl⟩
    rcases h.idsInTree j hj with ⟨l, hl, rfl⟩
    exact id_lt_maxId_shift f.syn l hl

/-- **C08 `refines_abs_typed`, go.work.** -/
theorem refines_abs_typed_work (f : WorkFile) (ops : List Op) (e' : EWork) (res : List Bool) (hs : WorkStartOK f)
    (hv : ∀ op ∈ ops, ValidArgs op) (h : runOps applyWork (loadWork f) ops [] 0 = .done e' res) :
    Rel (absOfWork (workCleanup e').f) (run mV (absOfWork f) (ops.map Op.toSpec)) ∧
    res = runOk mV (absOfWork f) (ops.map Op.toSpec) := by
  have := runOps_refines_gen applyWork (fun e => absLiveWork e.f) WInv ValidArgs (fun _ h => ValidArgs.toSpec h)
    applyWork_refines ops (loadWork f) [] 0 e' res hv (WInv_load f hs) h
  simp only [List.reverse_nil, List.nil_append, absLiveWork_load f hs] at this
  exact ⟨this.1, this.2.1⟩

theorem sessionWork_refines (file : Bytes) (ops : List Op) (o : Outcome) (f : WorkFile)
    (hf : parseWork (B "go.work") file none = .ok f) (hs : WorkStartOK f) (hv : ∀ op ∈ ops, ValidArgs op)
    (h : sessionWork file ops = some o) :
    o.start = absOfWork f ∧ Rel o.typed (run mV o.start (ops.map Op.toSpec)) ∧ o.res = runOk mV o.start (ops.map Op.toSpec) := by
  unfold sessionWork at h
  simp only [hf] at h
  cases hr : runOps applyWork (loadWork f) ops [] 0 with
  | done e res =>
    simp only [hr, Option.some.injEq] at h
    subst h
    rcases refines_abs_typed_work f ops e res hs hv hr with ⟨h1, h2⟩
    exact ⟨rfl, h1, h2⟩
  | panic i => simp [hr] at h
  | badOp => simp [hr] at h

def workStartOKb (f : WorkFile) : Bool :=
  f.godebug.all (fun g => !g.key.isEmpty) && f.use.all (fun u => !u.path.isEmpty) &&
  f.replace.all (fun r => !r.old.path.isEmpty) && decide (f.replace.map (·.lineId)).Nodup &&
  (f.replace.map (·.lineId)).all (fun i => f.syn.allLines.any (fun l => l.id == i))

theorem workStartOKb_sound (f : WorkFile) (h : workStartOKb f = true) : WorkStartOK f := by
  unfold workStartOKb at h
  simp only [Bool.and_eq_true, List.all_eq_true, decide_eq_true_eq, List.any_eq_true] at h
  rcases h with ⟨⟨⟨⟨h1, h2⟩, h3⟩, h4⟩, h5⟩
  refine ⟨fun g hg => isEmpty_false_ne (h1 g hg), fun g hg => isEmpty_false_ne (h2 g hg),
    fun g hg => isEmpty_false_ne (h3 g hg), h4, ?_⟩
  intro i hi
  rcases h5 i hi with ⟨l, hl, he⟩
  exact ⟨l, hl, eq_of_beq he⟩

end ModVerif.Modfile.Edit
