/-
  Helper lemmas for Props/C01.lean (`honest_never_fails`): the sequential client (Model/Client.lean) against the honest
  environment — an honest server for the log `D`, a persistent cache that returns what was written to it (and initially
  holds only honest files), a configuration file that is updated by compare-and-swap.  No collision-freedom hypothesis.
  Composition of C09 (`treeHash_eq_mth`, `store_get`, codecs) and C10 (`honest_reads_true`, `trueTile_stable`, tile paths).
-/
import ModVerif.Proofs.ClientAuth
namespace ModVerif.Client
open ModVerif ModVerif.Tlog ModVerif.Tile

set_option linter.unusedSectionVars false

theorem chunksF_fuel2 (size : Nat) (hs : 0 < size) : ∀ (f g : Nat) (d : Bytes), d.length ≤ f → d.length ≤ g →
    chunksF size f d = chunksF size g d := by
  intro f
  induction f with
  | zero =>
    intro g d h _
    have : d = [] := List.eq_nil_of_length_eq_zero (by omega)
    subst this
    cases g <;> rfl
  | succ f ih =>
    intro g d h hg
    cases d with
    | nil => cases g <;> rfl
    | cons x xs =>
      cases g with
      | zero => simp at hg
      | succ g =>
        simp only [chunksF, List.isEmpty_cons, Bool.false_eq_true, if_false]
        congr 1
        have hl : ((x :: xs).drop size).length ≤ xs.length := by
          simp only [List.length_drop, List.length_cons]; omega
        simp only [List.length_cons] at h hg
        exact ih g _ (by omega) (by omega)

theorem chunksF_fuel (size : Nat) (hs : 0 < size) (f : Nat) (d : Bytes) (h : d.length ≤ f) :
    chunksF size f d = chunksF size d.length d :=
  chunksF_fuel2 size hs f d.length d h (Nat.le_refl _)

theorem chunks_nil (size : Nat) : chunks size [] = [] := rfl

theorem chunks_cons (size : Nat) (hs : 0 < size) (d : Bytes) (hd : d ≠ []) :
    chunks size d = d.take size :: chunks size (d.drop size) := by
  cases d with
  | nil => exact absurd rfl hd
  | cons x xs =>
    unfold chunks
    simp only [List.length_cons, chunksF, List.isEmpty_cons, Bool.false_eq_true, if_false]
    congr 1
    exact chunksF_fuel size hs _ _ (by simp only [List.length_drop, List.length_cons]; omega)

theorem chunks_take (size : Nat) (hs : 0 < size) : ∀ (k : Nat) (d : Bytes),
    chunks size (d.take (k * size)) = (chunks size d).take k := by
  intro k
  induction k with
  | zero => intro d; simp [chunks_nil]
  | succ k ih =>
    intro d
    by_cases hd : d = []
    · subst hd; simp [chunks_nil]
    · have hne : d.take ((k + 1) * size) ≠ [] := by
        cases d with
        | nil => exact absurd rfl hd
        | cons x xs =>
          have : (k + 1) * size = ((k + 1) * size - 1) + 1 := by
            have : 0 < (k + 1) * size := Nat.mul_pos (by omega) hs
            omega
          rw [this]; simp
      rw [chunks_cons size hs _ hne, chunks_cons size hs d hd, List.take_succ_cons]
      congr 1
      · rw [List.take_take]
        congr 1
        have : size ≤ (k + 1) * size := Nat.le_mul_of_pos_left _ (by omega)
        omega
      · rw [List.drop_take]
        have : (k + 1) * size - size = k * size := by rw [Nat.add_mul]; omega
        rw [this]
        exact ih _

theorem decodeTile_take {H : Type} (P : Params H) (hs : 0 < P.hashSize) (k : Nat) (d : Bytes) :
    decodeTile P (d.take (k * P.hashSize)) = (decodeTile P d).take k := by
  unfold decodeTile
  rw [chunks_take _ hs, List.map_take]

/-- `data[:len(data)/full.W*tile.W]` of a full tile file of the right length -/
theorem cutFull_eq (d : Bytes) (size fullW tw : Nat) (hf : 0 < fullW) (hl : d.length = fullW * size) :
    cutFull d fullW tw = d.take (tw * size) := by
  unfold cutFull
  rw [hl, Nat.mul_div_cancel_left _ hf, Nat.mul_comm]

theorem mapM_take {α β : Type} (f : α → Option β) : ∀ (l : List α) (r : List β) (k : Nat), l.mapM f = some r →
    (l.take k).mapM f = some (r.take k)
  | _, _, 0, _ => by simp
  | [], r, _ + 1, h => by simp only [List.mapM_nil] at h; cases h; simp
  | a :: l, r, k + 1, h => by
    obtain ⟨b, r', hfa, hl, rfl⟩ := (TileAuth.mapM_option_cons f a l r).mp h
    rw [List.take_succ_cons, List.take_succ_cons, TileAuth.mapM_option_cons]
    exact ⟨b, r'.take k, hfa, mapM_take f l r' k hl, rfl⟩

theorem trueTile_prefix {H : Type} (st : List H) (t : Tile) (w : Nat) (hw : 0 < w) (hle : w ≤ 2 ^ t.h) (x : List H)
    (hfull : trueTile st { t with w := 2 ^ t.h } = some x) :
    trueTile st { t with w := w } = some (x.take w) := by
  have h2 : (2 ^ t.h == 0) = false := by
    have := Nat.two_pow_pos t.h
    simp
  have hw0 : (w == 0) = false := by simp; omega
  unfold trueTile readTileData at hfull ⊢
  simp only [h2, hw0, Bool.false_eq_true, if_false] at hfull ⊢
  unfold readChecked storeReader at hfull ⊢
  cases hm : ((List.range (2 ^ t.h)).map fun i => storedHashIndex (t.h * t.l) ((t.n <<< t.h) + i)).mapM (st[·]?) with
  | none => simp [hm] at hfull
  | some r =>
    have hlen := (TileAuth.mapM_option_get _ _ _ hm).1
    simp only [hm, hlen, bne_self_eq_false, Bool.false_eq_true, if_false] at hfull
    cases hfull
    have hpre : ((List.range w).map fun i => storedHashIndex (t.h * t.l) ((t.n <<< t.h) + i)) =
        (((List.range (2 ^ t.h)).map fun i => storedHashIndex (t.h * t.l) ((t.n <<< t.h) + i))).take w := by
      rw [← List.map_take, List.take_range, Nat.min_eq_left hle]
    rw [hpre, mapM_take _ _ _ w hm]
    simp only [List.length_take, List.length_map, List.length_range, hlen]
    simp

/-- a tile whose path determines it (`Props.C10.tilePath_injective`) -/
def ValidTile (t : Tile) : Prop :=
  (1 ≤ t.h ∧ t.h ≤ 30) ∧ (1 ≤ t.w ∧ t.w ≤ 2 ^ t.h) ∧ t.n < 2 ^ 63 ∧ t.l < 2 ^ 63 ∧ t.data = false

theorem tileCacheKey_inj (name : Bytes) (t u : Tile) (ht : ValidTile t) (hu : ValidTile u)
    (h : tileCacheKey name t = tileCacheKey name u) : t = u := by
  unfold tileCacheKey at h
  have h1 := List.append_cancel_left h
  exact Props.C10.tilePath_injective t u ht.1 ht.2.1 ht.2.2.1 ht.2.2.2.1 (fun hd => by rw [ht.2.2.2.2] at hd; cases hd)
    hu.1 hu.2.1 hu.2.2.1 hu.2.2.2.1 (fun hd => by rw [hu.2.2.2.2] at hd; cases hd) h1

theorem B_tile : B "tile/" = [116, 105, 108, 101, 47] := by decide +kernel
theorem B_lookup : B "/lookup/" = [47, 108, 111, 111, 107, 117, 112, 47] := by decide +kernel

theorem lookupFile_ne_tileKey (name rest : Bytes) (t : Tile) : name ++ (B "/lookup/" ++ rest) ≠ tileCacheKey name t := by
  intro h
  unfold tileCacheKey tilePath at h
  rw [List.append_assoc] at h
  have h1 := List.append_cancel_left h
  rw [B_lookup, B_tile] at h1
  simp at h1

theorem full_valid (t : Tile) (ht : ValidTile t) : ValidTile { t with w := 2 ^ t.h } :=
  ⟨ht.1, ⟨Nat.two_pow_pos _, Nat.le_refl _⟩, ht.2.2.1, ht.2.2.2.1, ht.2.2.2.2⟩

theorem planned_tile (h n : Nat) (h1 : 1 ≤ h) (h2 : h ≤ 30) (hn : n < 2 ^ 62) (idx : List Nat) (p : Plan)
    (hp : plan h n idx = .ok p) (t : Tile) (ht : t ∈ p.tiles) :
    ValidTile t ∧ t.h = h ∧ t.n * 2 ^ t.h + t.w ≤ TileAuth.cnt t.h n t.l := by
  have hidx := TileAuth.plan_ok_lt h n idx p hp
  obtain ⟨cs, p', hp', ok⟩ := TileAuth.plan_spec h n (by omega) (by omega) (TileAuth.split_valid n hn) idx
    (TileAuth.hidx_of_lt n hn idx hidx)
  rw [hp] at hp'; cases hp'
  obtain ⟨L, k, e, hlt⟩ := ok.inv.std t ht
  have hf := TileAuth.stdTile_fields (N := n) h L k hlt
  rw [← e] at hf
  obtain ⟨f1, f2, f3, f4, f5⟩ := hf
  have hpow := Nat.two_pow_pos h
  have hcnt : TileAuth.cnt h n L ≤ n := Nat.div_le_self _ _
  have hk : k < 2 ^ 63 := by
    have : k * 1 ≤ k * 2 ^ h := Nat.mul_le_mul_left _ hpow
    have : (2:Nat) ^ 62 < 2 ^ 63 := by decide
    omega
  have hL : L < 2 ^ 63 := by
    have hpos : 0 < TileAuth.cnt h n L := by omega
    have := TileAuth.cnt_pos_level h n L (by omega) hpos
    have hlog : n.log2 < 62 := by
      by_cases hn0 : n = 0
      · subst hn0; simp
      · exact (Nat.log2_lt hn0).mpr hn
    have : (62:Nat) < 2 ^ 63 := by decide
    omega
  refine ⟨⟨⟨by omega, by omega⟩, ⟨by rw [f4]; omega, by rw [f4, f1]; omega⟩, by rw [f3]; exact hk, by rw [f2]; exact hL, f5⟩,
    f1, ?_⟩
  rw [f1, f2, f3, f4]
  omega

section
variable {H : Type} [DecidableEq H]

/-- state of the honest environment: the cache files (latest write first) and the stored latest tree head -/
structure HState where
  cache : List (Bytes × Bytes)
  latest : Bytes

/-- the honest side: the key file, its verifier, the server's answers and the record number it has for a lookup path -/
structure Server where
  keyFile : Bytes
  v : Note.Verifier
  serve : Bytes → Option Bytes
  index : Bytes → Option Nat

/-- `ClientOps` of the honest world: a persistent cache, a compare-and-swap configuration file, the server -/
def honestEnv (S : Server) : Env HState :=
  { readRemote := fun s p => (S.serve p, s)
    readCache := fun s f => (s.cache.lookup f, s)
    readConfig := fun s f =>
      if f = B "key" then (some S.keyFile, s)
      else if f = latestFile S.v.name then (some s.latest, s) else (none, s)
    writeCache := fun s f d => { s with cache := (f, d) :: s.cache }
    writeConfig := fun s f old new =>
      if f = latestFile S.v.name ∧ s.latest = old then (.ok, { s with latest := new }) else (.conflict, s)
    securityError := fun s _ => s }

def Signed (P : Params H) (D : List Bytes) (S : Server) (msg : Bytes) (n : Nat) : Prop :=
  openTree P [S.v] msg = .ok ⟨n, rootAt P D n⟩ ∧ n ≤ D.length

def HonestLookup (P : Params H) (D : List Bytes) (S : Server) (p d : Bytes) : Prop :=
  ∃ (id n : Nat) (head text : Bytes), id < n ∧ Signed P D S head n ∧ D[id]? = some text ∧
    TlogNote.parseRecord d = some ((id : Int), text, head) ∧ ∀ id', S.index p = some id' → id' = id

def TrueBytes (P : Params H) (stN : List H) (t : Tile) (d : Bytes) : Prop :=
  trueTile stN t = some (decodeTile P d) ∧ d.length = t.w * P.hashSize

def HonestFile (P : Params H) (D : List Bytes) (S : Server) (stN : List H) (f d : Bytes) : Prop :=
  (∃ t, ValidTile t ∧ f = tileCacheKey S.v.name t ∧ TrueBytes P stN t d) ∨
  (∃ rest, f = S.v.name ++ (B "/lookup/" ++ rest) ∧ HonestLookup P D S (B "/lookup/" ++ rest) d)

/-- the honest world for the log `D` (whose store is `stN`) -/
structure Honest (P : Params H) (D : List Bytes) (S : Server) (stN : List H) : Prop where
  hN : D.length < 2 ^ 62
  hst : buildStore P.leaf P.node D = .ok stN
  hh : tileHeight P ≤ 30
  hsz : 0 < P.hashSize
  hret : 1 ≤ P.retries
  hkey : Note.NewVerifier P.sha P.edVerify (GoStrings.trimSpace S.keyFile) = .ok S.v
  tiles : ∀ t x, ValidTile t → trueTile stN t = some x →
    ∃ d, S.serve (tileRemotePath t) = some d ∧ decodeTile P d = x ∧ d.length = t.w * P.hashSize
  lookups : ∀ rest id, S.index (B "/lookup/" ++ rest) = some id →
    ∃ d, S.serve (B "/lookup/" ++ rest) = some d ∧ HonestLookup P D S (B "/lookup/" ++ rest) d
  unknown : ∀ rest, S.index (B "/lookup/" ++ rest) = none → S.serve (B "/lookup/" ++ rest) = none

/-- the invariant of the honest run -/
structure HW (P : Params H) (D : List Bytes) (S : Server) (stN : List H) (w : World HState H) : Prop where
  latest : ∃ n, n ≤ D.length ∧ w.c.latest = ⟨n, rootAt P D n⟩ ∧ (n ≠ 0 → Signed P D S w.c.latestMsg n)
  cfg : w.s.latest = [] ∨ ∃ m, Signed P D S w.s.latest m
  cache : ∀ f d, w.s.cache.lookup f = some d → HonestFile P D S stN f d
  tileCache : ∀ t r, w.c.tileCache.lookup t = some r → ∃ d, r = .ok d ∧ TrueBytes P stN t d
  record : ∀ rest r, w.c.record.lookup (S.v.name ++ (B "/lookup/" ++ rest)) = some r →
    (∃ d, r = .ok d ∧ HonestLookup P D S (B "/lookup/" ++ rest) d) ∨
    ((∃ e, r = .error e) ∧ S.index (B "/lookup/" ++ rest) = none)

/-- frame of the operations below `mergeLatestMem` -/
structure HLow (w w' : World HState H) : Prop where
  verifiers : w'.c.verifiers = w.c.verifiers
  name : w'.c.name = w.c.name
  record : w'.c.record = w.c.record
  inited : w'.c.inited = w.c.inited
  latest : w'.c.latest = w.c.latest
  latestMsg : w'.c.latestMsg = w.c.latestMsg
  cfg : w'.s.latest = w.s.latest

theorem HLow.refl (w : World HState H) : HLow w w := ⟨rfl, rfl, rfl, rfl, rfl, rfl, rfl⟩

theorem HLow.trans {w1 w2 w3 : World HState H} (a : HLow w1 w2) (b : HLow w2 w3) : HLow w1 w3 :=
  ⟨b.verifiers.trans a.verifiers, b.name.trans a.name, b.record.trans a.record, b.inited.trans a.inited,
   b.latest.trans a.latest, b.latestMsg.trans a.latestMsg, b.cfg.trans a.cfg⟩

theorem HW.of_eq {P : Params H} {D : List Bytes} {S : Server} {stN : List H} {w w' : World HState H}
    (hw : HW P D S stN w) (l : HLow w w') (hs : w'.s.cache = w.s.cache)
    (htc : ∀ t r, w'.c.tileCache.lookup t = some r → ∃ d, r = .ok d ∧ TrueBytes P stN t d) : HW P D S stN w' :=
  ⟨by rw [l.latest, l.latestMsg]; exact hw.latest, by rw [l.cfg]; exact hw.cfg, by rw [hs]; exact hw.cache, htc,
   by rw [l.record]; exact hw.record⟩

theorem cache_tile {P : Params H} {D : List Bytes} {S : Server} {stN : List H} {w : World HState H}
    (hw : HW P D S stN w) (t : Tile) (ht : ValidTile t) (d : Bytes)
    (h : w.s.cache.lookup (tileCacheKey S.v.name t) = some d) : TrueBytes P stN t d := by
  rcases hw.cache _ _ h with ⟨u, hu, hk, hb⟩ | ⟨rest, hk, _⟩
  · have := tileCacheKey_inj _ t u ht hu hk
    subst this; exact hb
  · exact absurd hk.symm (lookupFile_ne_tileKey _ _ _)

theorem readTileWork_honest (P : Params H) (D : List Bytes) (S : Server) (stN : List H) (hon : Honest P D S stN)
    (w : World HState H) (hw : HW P D S stN w) (hname : w.c.name = S.v.name) (t : Tile) (ht : ValidTile t)
    (x : List H) (hx : trueTile stN t = some x) :
    ∃ d, (readTileWork (honestEnv S) w t).1 = .ok d ∧ TrueBytes P stN t d ∧
      HLow w (readTileWork (honestEnv S) w t).2 ∧ (readTileWork (honestEnv S) w t).2.s = w.s ∧
      (readTileWork (honestEnv S) w t).2.c.tileCache = w.c.tileCache := by
  generalize hr : readTileWork (honestEnv S) w t = r
  simp only [readTileWork, readCache, readRemote, honestEnv, markTileSaved, hname] at hr
  cases h1 : w.s.cache.lookup (tileCacheKey S.v.name t) with
  | some d =>
    rw [h1] at hr; simp only at hr; subst hr
    exact ⟨d, rfl, cache_tile hw t ht d h1, (by constructor <;> first | rfl | exact hname.symm), rfl, rfl⟩
  | none =>
    rw [h1] at hr; simp only at hr
    by_cases hfull : (t != { t with w := 2 ^ t.h }) = true
    · simp only [hfull, if_true] at hr
      cases h2 : w.s.cache.lookup (tileCacheKey S.v.name { t with w := 2 ^ t.h }) with
      | some d =>
        rw [h2] at hr; simp only at hr; subst hr
        have hb := cache_tile hw _ (full_valid t ht) d h2
        have hcut := cutFull_eq d P.hashSize (2 ^ t.h) t.w (Nat.two_pow_pos _) hb.2
        refine ⟨_, rfl, ?_, (by constructor <;> first | rfl | exact hname.symm), rfl, rfl⟩
        rw [hcut]
        have hp := trueTile_prefix stN t t.w ht.2.1.1 ht.2.1.2 _ hb.1
        have ht' : ({ t with w := t.w } : Tile) = t := rfl
        rw [ht'] at hp
        refine ⟨by rw [decodeTile_take P hon.hsz]; exact hp, ?_⟩
        rw [List.length_take, hb.2]
        have := Nat.mul_le_mul_right P.hashSize ht.2.1.2
        simp only
        omega
      | none =>
        rw [h2] at hr; simp only at hr
        obtain ⟨d, hd1, hd2, hd3⟩ := hon.tiles t x ht hx
        rw [hd1] at hr; simp only at hr; subst hr
        exact ⟨d, rfl, ⟨by rw [hd2]; exact hx, hd3⟩, (by constructor <;> first | rfl | exact hname.symm), rfl, rfl⟩
    · simp only [hfull, Bool.false_eq_true, if_false] at hr
      obtain ⟨d, hd1, hd2, hd3⟩ := hon.tiles t x ht hx
      rw [hd1] at hr; simp only at hr; subst hr
      exact ⟨d, rfl, ⟨by rw [hd2]; exact hx, hd3⟩, (by constructor <;> first | rfl | exact hname.symm), rfl, rfl⟩

inductive Rel2 {α β : Type} (R : α → β → Prop) : List α → List β → Prop
  | nil : Rel2 R [] []
  | cons {a b l r} : R a b → Rel2 R l r → Rel2 R (a :: l) (b :: r)

theorem lookup_cons_tile {β : Type} (t u : Tile) (b : β) (l : List (Tile × β)) :
    ((t, b) :: l).lookup u = if u = t then some b else l.lookup u := lookup_cons_eq u t b l

theorem readTile_honest (P : Params H) (D : List Bytes) (S : Server) (stN : List H) (hon : Honest P D S stN)
    (w : World HState H) (hw : HW P D S stN w) (hname : w.c.name = S.v.name) (t : Tile) (ht : ValidTile t)
    (x : List H) (hx : trueTile stN t = some x) :
    ∃ d, (readTile (honestEnv S) w t).1 = .ok d ∧ TrueBytes P stN t d ∧
      HW P D S stN (readTile (honestEnv S) w t).2 ∧ HLow w (readTile (honestEnv S) w t).2 := by
  generalize hr : readTile (honestEnv S) w t = r
  simp only [readTile] at hr
  cases hc : w.c.tileCache.lookup t with
  | some res =>
    rw [hc] at hr; simp only at hr; subst hr
    obtain ⟨d, hd, hb⟩ := hw.tileCache t res hc
    exact ⟨d, hd, hb, hw, HLow.refl w⟩
  | none =>
    rw [hc] at hr; simp only at hr; subst hr
    obtain ⟨d, h1, h2, h3, h4, h5⟩ := readTileWork_honest P D S stN hon w hw hname t ht x hx
    have hl : HLow w ({ (readTileWork (honestEnv S) w t).2 with
        c := { (readTileWork (honestEnv S) w t).2.c with
          tileCache := (t, (readTileWork (honestEnv S) w t).1) :: (readTileWork (honestEnv S) w t).2.c.tileCache } } : World HState H) :=
      ⟨h3.verifiers, h3.name, h3.record, h3.inited, h3.latest, h3.latestMsg, h3.cfg⟩
    refine ⟨d, h1, h2, hw.of_eq hl (by simp only; rw [h4]) ?_, hl⟩
    intro u r hu
    simp only at hu
    rw [lookup_cons_tile, h5] at hu
    by_cases hut : u = t
    · rw [if_pos hut] at hu
      cases hu
      subst hut
      exact ⟨d, h1, h2⟩
    · rw [if_neg hut] at hu
      exact hw.tileCache u r hu

theorem readTilesAll_honest (P : Params H) (D : List Bytes) (S : Server) (stN : List H) (hon : Honest P D S stN) :
    ∀ (tiles : List Tile) (w : World HState H), HW P D S stN w → w.c.name = S.v.name →
      (∀ t ∈ tiles, ValidTile t ∧ ∃ x, trueTile stN t = some x) →
      ∃ datas, (readTiles (honestEnv S) w tiles).1 = .ok datas ∧ Rel2 (TrueBytes P stN) tiles datas ∧
        HW P D S stN (readTiles (honestEnv S) w tiles).2 ∧ HLow w (readTiles (honestEnv S) w tiles).2 := by
  intro tiles
  induction tiles with
  | nil => intro w hw _ _; exact ⟨[], rfl, Rel2.nil, hw, HLow.refl w⟩
  | cons t ts ih =>
    intro w hw hname hall
    obtain ⟨ht, x, hx⟩ := hall t (List.mem_cons_self ..)
    obtain ⟨d, h1, h2, h3, h4⟩ := readTile_honest P D S stN hon w hw hname t ht x hx
    obtain ⟨ds, g1, g2, g3, g4⟩ := ih _ h3 (by rw [h4.name]; exact hname) (fun u hu => hall u (List.mem_cons_of_mem _ hu))
    refine ⟨d :: ds, ?_, Rel2.cons h2 g2, g3, h4.trans g4⟩
    simp only [readTiles, readTilesAll] at g1 ⊢
    rw [h1]
    simp only [firstError, g1]

theorem saveTiles_honest (P : Params H) (D : List Bytes) (S : Server) (stN : List H) :
    ∀ (l : List (Tile × Bytes)) (w : World HState H), HW P D S stN w → w.c.name = S.v.name →
      (∀ td ∈ l, ValidTile td.1 ∧ TrueBytes P stN td.1 td.2) →
      HW P D S stN (saveTiles (honestEnv S) w l) ∧ HLow w (saveTiles (honestEnv S) w l) := by
  intro l
  induction l with
  | nil => intro w hw _ _; exact ⟨hw, HLow.refl w⟩
  | cons td rest ih =>
    intro w hw hname hall
    obtain ⟨t, d⟩ := td
    have hrest : ∀ td ∈ rest, ValidTile td.1 ∧ TrueBytes P stN td.1 td.2 := fun td h => hall td (List.mem_cons_of_mem _ h)
    unfold saveTiles
    split
    · exact ih w hw hname hrest
    · obtain ⟨hv, hb⟩ := hall (t, d) (List.mem_cons_self ..)
      have hl : HLow w (writeCache (honestEnv S) (markTileSaved w t) (tileCacheKey w.c.name t) d) :=
        ⟨rfl, rfl, rfl, rfl, rfl, rfl, rfl⟩
      have hw' : HW P D S stN (writeCache (honestEnv S) (markTileSaved w t) (tileCacheKey w.c.name t) d) := by
        refine ⟨hw.latest, hw.cfg, ?_, hw.tileCache, hw.record⟩
        intro f d' hf
        simp only [writeCache, honestEnv, markTileSaved, List.lookup] at hf
        split at hf
        · cases hf
          rename_i heq
          have : f = tileCacheKey w.c.name t := by simpa using heq
          subst this
          exact Or.inl ⟨t, hv, by rw [hname], hb⟩
        · exact hw.cache f d' hf
      obtain ⟨a, b⟩ := ih _ hw' (by rw [hl.name]; exact hname) hrest
      exact ⟨a, hl.trans b⟩

theorem forall₂_zip {α β : Type} (R : α → β → Prop) : ∀ (l : List α) (r : List β), Rel2 R l r →
    l.length = r.length ∧ ∀ ab ∈ l.zip r, R ab.1 ab.2 := by
  intro l r h
  induction h with
  | nil => simp
  | cons hab _ ih =>
    refine ⟨by simp [ih.1], ?_⟩
    intro ab hmem
    simp only [List.zip_cons_cons, List.mem_cons] at hmem
    rcases hmem with e | e
    · subst e; exact hab
    · exact ih.2 ab e

theorem forall₂_get {α β : Type} (R : α → β → Prop) : ∀ (l : List α) (r : List β), Rel2 R l r →
    ∀ (i : Nat) (a : α) (b : β), l[i]? = some a → r[i]? = some b → R a b := by
  intro l r h
  induction h with
  | nil => intro i a b h; simp at h
  | cons hab _ ih =>
    intro i a b h1 h2
    cases i with
    | zero => simp at h1 h2; subst h1 h2; exact hab
    | succ k => simp at h1 h2; exact ih k a b h1 h2

theorem bytesWidthsOk_of {P : Params H} {stN : List H} : ∀ (tiles : List Tile) (ds : List Bytes),
    Rel2 (TrueBytes P stN) tiles ds → bytesWidthsOk P.hashSize tiles ds = true := by
  intro tiles ds h
  induction h with
  | nil => rfl
  | cons hab _ ih => simp [bytesWidthsOk, hab.2, ih]

theorem readHashes_honest (P : Params H) (D : List Bytes) (S : Server) (stN : List H) (hon : Honest P D S stN)
    (w : World HState H) (hw : HW P D S stN w) (hname : w.c.name = S.v.name) (n : Nat) (hn0 : 0 < n) (hn : n ≤ D.length)
    (idx : List Nat) (hidx : ∀ x ∈ idx, x < storedHashIndex 0 n) :
    ∃ hs stn, (readHashes P (honestEnv S) w ⟨n, rootAt P D n⟩ idx).1 = .ok hs ∧
      buildStore P.leaf P.node (D.take n) = .ok stn ∧ idx.mapM (stn[·]?) = some hs ∧
      HW P D S stN (readHashes P (honestEnv S) w ⟨n, rootAt P D n⟩ idx).2 ∧
      HLow w (readHashes P (honestEnv S) w ⟨n, rootAt P D n⟩ idx).2 := by
  have hN := hon.hN
  obtain ⟨stn, hstn⟩ := store_exists P D hN n
  have hlen : (D.take n).length = n := by rw [List.length_take]; exact Nat.min_eq_left hn
  have h64 : (2:Nat) ^ 62 < 2 ^ 64 := by decide
  have hokn := TlogStore.storeOK_of_buildStore P.leaf P.node P.empty (D.take n) (by rw [hlen]; omega) stn hstn
  have hokN := TlogStore.storeOK_of_buildStore P.leaf P.node P.empty D (by omega) stN hon.hst
  obtain ⟨p, data, hs, hp, hdata, hhs, hsaved, hres⟩ := Props.C10.honest_reads_true P.leaf P.node P.empty (D.take n) stn hstn
    (by rw [hlen]; omega) (by rw [hlen]; exact hn0) (tileHeight P) (tileHeight_pos P) hon.hh idx (by rw [hlen]; exact hidx)
  rw [hlen] at hp hsaved hres
  have hroot : RFC6962.mth P.node P.empty ((D.take n).map P.leaf) = rootAt P D n := rfl
  rw [hroot] at hsaved hres
  -- every planned tile is valid, inside the tree, and has the same true content in the full log
  have hdl := (TileAuth.mapM_option_get _ _ _ hdata).1
  have htiles : ∀ t ∈ p.tiles, ValidTile t ∧ ∃ x, trueTile stN t = some x := by
    intro t ht
    obtain ⟨hv, _, hin⟩ := planned_tile (tileHeight P) n (tileHeight_pos P) hon.hh (by omega) idx p hp t ht
    obtain ⟨i, hi, hti⟩ := List.mem_iff_getElem.mp ht
    have hx := (TileAuth.mapM_option_get _ _ _ hdata).2 i t (by rw [List.getElem?_eq_getElem hi, hti])
    obtain ⟨x, _, hx⟩ := hx
    have hstab := TileAuth.trueTile_stable P.leaf P.node P.empty D stN stn hokN hN n hn hokn t hv.2.1.1 hin
    exact ⟨hv, x, by rw [← hstab]; exact hx⟩
  obtain ⟨datas, hrd, hf2, hw1, hl1⟩ := readTilesAll_honest P D S stN hon p.tiles w hw hname htiles
  obtain ⟨hlen2, hzip⟩ := forall₂_zip _ _ _ hf2
  -- the fetched table decodes to the true tiles of the first n records
  have hdec : datas.map (decodeTile P) = data := by
    apply List.ext_getElem?
    intro i
    by_cases hi : i < p.tiles.length
    · have hi2 : i < datas.length := by omega
      have hi3 : i < data.length := by omega
      have hti : p.tiles[i]? = some p.tiles[i] := List.getElem?_eq_getElem hi
      have hb := forall₂_get _ _ _ hf2 i _ _ hti (List.getElem?_eq_getElem hi2)
      obtain ⟨x, hx1, hx2⟩ := (TileAuth.mapM_option_get _ _ _ hdata).2 i _ hti
      obtain ⟨hv, _, hin⟩ := planned_tile (tileHeight P) n (tileHeight_pos P) hon.hh (by omega) idx p hp _ (List.getElem_mem hi)
      have hstab := TileAuth.trueTile_stable P.leaf P.node P.empty D stN stn hokN hN n hn hokn _ hv.2.1.1 hin
      rw [hstab, hb.1] at hx2
      simp only [List.getElem?_map, List.getElem?_eq_getElem hi2, Option.map_some]
      rw [hx1]
      exact congrArg some (Option.some.inj hx2)
    · have h1 : datas.length ≤ i := by omega
      have h2 : data.length ≤ i := by omega
      simp [h1, h2]
  have hnd := (Props.C10.plan_parents_first (tileHeight P) n (tileHeight_pos P) (by omega) idx p hp).2.2.1
  -- the table lookup is the honest server of the first n records on the planned tiles
  have hcongr := TileAuth.readHashes_congr P.node n (rootAt P D n) (tileHeight P) idx
    (fun t => (p.tiles.zip (datas.map (decodeTile P))).lookup t) (trueTile stn) (by
      intro p' hp' t ht
      rw [hp] at hp'; cases hp'
      obtain ⟨i, hi, hti⟩ := List.mem_iff_getElem.mp ht
      have hti' : p.tiles[i]? = some t := by rw [List.getElem?_eq_getElem hi, hti]
      obtain ⟨x, hx1, hx2⟩ := (TileAuth.mapM_option_get _ _ _ hdata).2 i t hti'
      rw [hx2, hdec]
      exact lookup_zip_get p.tiles data hnd i t x hti' hx1)
  generalize hr : readHashes P (honestEnv S) w ⟨n, rootAt P D n⟩ idx = r
  simp only [readHashes, hp] at hr
  have hstx : p.stx.isEmpty = false := by
    cases hse : p.stx.isEmpty with
    | false => rfl
    | true =>
      have := (Tile.plan_stx_nil (tileHeight P) n idx p hp (by simpa using hse)).1
      omega
  simp only [hstx, Bool.false_eq_true, if_false, hrd, bytesWidthsOk_of _ _ hf2, Bool.not_true, hcongr, hsaved, hres] at hr
  subst hr
  obtain ⟨hw2, hl2⟩ := saveTiles_honest P D S stN (p.tiles.zip datas) _ hw1 (by rw [hl1.name]; exact hname) (by
    intro td htd
    exact ⟨(htiles td.1 (List.of_mem_zip htd).1).1, hzip td htd⟩)
  exact ⟨hs, stn, rfl, hstn, hhs, hw2, hl1.trans hl2⟩

theorem treeHashVia_honest (P : Params H) (D : List Bytes) (S : Server) (stN : List H) (hon : Honest P D S stN)
    (w : World HState H) (hw : HW P D S stN w) (hname : w.c.name = S.v.name) (m n : Nat) (hm : m ≤ n) (hn : n ≤ D.length) :
    (treeHashVia P (honestEnv S) w m ⟨n, rootAt P D n⟩).1 = .ok (rootAt P D m) ∧
      HW P D S stN (treeHashVia P (honestEnv S) w m ⟨n, rootAt P D n⟩).2 ∧
      HLow w (treeHashVia P (honestEnv S) w m ⟨n, rootAt P D n⟩).2 := by
  have hN := hon.hN
  generalize hr : treeHashVia P (honestEnv S) w m ⟨n, rootAt P D n⟩ = r
  simp only [treeHashVia] at hr
  by_cases h0 : (m == 0) = true
  · rw [if_pos h0] at hr; subst hr
    have : m = 0 := by simpa using h0
    subst this
    exact ⟨by rw [rootAt_zero], hw, HLow.refl w⟩
  · rw [if_neg h0] at hr
    have hm0 : m ≠ 0 := by simpa using h0
    have h63 : (2:Nat) ^ 62 < 2 ^ 63 := by decide
    obtain ⟨cs, hsub, _, hcov⟩ := Props.C09.subTreeIndex_spec 0 m (Nat.zero_le _) (TlogStore.aligned_zero m) (by omega)
    rw [hsub] at hr; simp only at hr
    have hidx : ∀ x ∈ cs.map (fun c => storedHashIndex c.1 c.2), x < storedHashIndex 0 n := by
      intro x hx
      obtain ⟨c, hc, rfl⟩ := List.mem_map.mp hx
      have hb := TlogStore.cover_bound cs 0 m hcov c hc
      rw [Tlog.storedHashIndex_zero_eq]
      exact TileAuth.idx_lt_S n c.1 c.2 (by omega)
    obtain ⟨hs, stn, h1, hstn, hmap, hw1, hl1⟩ := readHashes_honest P D S stN hon w hw hname n (by omega) hn _ hidx
    rw [h1] at hr; simp only at hr; subst hr
    refine ⟨?_, hw1, hl1⟩
    simp only
    rw [treeHash_of_store P D hN m n hm hn stn hstn _ hsub hs hmap]
    rfl

theorem checkTrees_honest (P : Params H) (D : List Bytes) (S : Server) (stN : List H) (hon : Honest P D S stN)
    (w : World HState H) (hw : HW P D S stN w) (hname : w.c.name = S.v.name) (m n : Nat) (hm : m ≤ n) (hn : n ≤ D.length)
    (o1 o2 : Bytes) :
    (checkTrees P (honestEnv S) w ⟨m, rootAt P D m⟩ o1 ⟨n, rootAt P D n⟩ o2).1 = .ok () ∧
      HW P D S stN (checkTrees P (honestEnv S) w ⟨m, rootAt P D m⟩ o1 ⟨n, rootAt P D n⟩ o2).2 ∧
      HLow w (checkTrees P (honestEnv S) w ⟨m, rootAt P D m⟩ o1 ⟨n, rootAt P D n⟩ o2).2 := by
  obtain ⟨h1, h2, h3⟩ := treeHashVia_honest P D S stN hon w hw hname m n hm hn
  generalize hr : checkTrees P (honestEnv S) w ⟨m, rootAt P D m⟩ o1 ⟨n, rootAt P D n⟩ o2 = r
  simp only [checkTrees, h1, if_true] at hr
  subst hr
  exact ⟨rfl, h2, h3⟩

/-- frame of `mergeLatest` in the honest world -/
structure HMid (w w' : World HState H) : Prop where
  verifiers : w'.c.verifiers = w.c.verifiers
  name : w'.c.name = w.c.name
  record : w'.c.record = w.c.record
  inited : w'.c.inited = w.c.inited
  mono : w.c.latest.n ≤ w'.c.latest.n

theorem HLow.mid' {w w' : World HState H} (l : HLow w w') : HMid w w' :=
  ⟨l.verifiers, l.name, l.record, l.inited, by rw [l.latest]; exact Nat.le_refl _⟩

theorem HMid.trans {w1 w2 w3 : World HState H} (a : HMid w1 w2) (b : HMid w2 w3) : HMid w1 w3 :=
  ⟨b.verifiers.trans a.verifiers, b.name.trans a.name, b.record.trans a.record, b.inited.trans a.inited,
   Nat.le_trans a.mono b.mono⟩

theorem openTree_nil (P : Params H) (vs : List Note.Verifier) : ∀ hd, openTree P vs [] ≠ .ok hd := by
  intro hd h
  simp [openTree, Note.Open, Note.validMsg, Note.runesOf, Note.lastIndexOf, Note.sigSplit] at h

theorem signed_ne_nil {P : Params H} {D : List Bytes} {S : Server} {msg : Bytes} {n : Nat} (h : Signed P D S msg n) :
    msg.isEmpty = false := by
  cases msg with
  | nil => exact absurd h.1 (openTree_nil P _ _)
  | cons x xs => rfl

theorem mergeLatestMem_honest (P : Params H) (D : List Bytes) (S : Server) (stN : List H) (hon : Honest P D S stN)
    (w : World HState H) (hw : HW P D S stN w) (hname : w.c.name = S.v.name) (hvs : w.c.verifiers = [S.v])
    (msg : Bytes) (hmsg : msg = [] ∨ ∃ m, Signed P D S msg m) :
    ∃ wh, (mergeLatestMem P (honestEnv S) w msg).1 = .ok wh ∧
      HW P D S stN (mergeLatestMem P (honestEnv S) w msg).2 ∧ HMid w (mergeLatestMem P (honestEnv S) w msg).2 ∧
      (mergeLatestMem P (honestEnv S) w msg).2.s.latest = w.s.latest ∧
      (∀ m, Signed P D S msg m → m ≤ (mergeLatestMem P (honestEnv S) w msg).2.c.latest.n) ∧
      (wh = .past → (mergeLatestMem P (honestEnv S) w msg).2.c.latest.n ≠ 0) := by
  obtain ⟨n, hn, hlat, hlm⟩ := hw.latest
  generalize hr : mergeLatestMem P (honestEnv S) w msg = r
  simp only [mergeLatestMem] at hr
  rcases hmsg with hnil | ⟨m, hs⟩
  · subst hnil
    simp only [List.isEmpty_nil, if_true] at hr
    subst hr
    refine ⟨_, rfl, hw, (HLow.refl w).mid', rfl, ?_, ?_⟩
    · intro m hm; exact absurd hm.1 (openTree_nil P _ _)
    · intro h
      simp only at h ⊢
      intro h0
      rw [h0] at h
      simp at h
  · rw [signed_ne_nil hs] at hr
    simp only [Bool.false_eq_true, if_false, hvs, hs.1] at hr
    have hsame : ∀ m', Signed P D S msg m' → m' = m := by
      intro m' hs'
      have := hs'.1.symm.trans hs.1
      simp only [Except.ok.injEq, Head.mk.injEq] at this
      exact this.1
    by_cases hle : m ≤ w.c.latest.n
    · rw [if_pos hle] at hr
      rw [hlat] at hr hle
      obtain ⟨h1, h2, h3⟩ := checkTrees_honest P D S stN hon w hw hname m n hle hn msg w.c.latestMsg
      rw [h1] at hr; simp only at hr; subst hr
      refine ⟨_, rfl, h2, h3.mid', h3.cfg, ?_, ?_⟩
      · intro m' hs'
        rw [hsame m' hs']
        simp only
        rw [h3.latest, hlat]; exact hle
      · intro hp
        simp only at hp ⊢
        rw [h3.latest, hlat]
        simp only
        split at hp
        · omega
        · cases hp
    · rw [if_neg hle] at hr
      rw [hlat] at hr hle
      simp only at hle
      obtain ⟨h1, h2, h3⟩ := checkTrees_honest P D S stN hon w hw hname n m (by omega) hs.2 w.c.latestMsg msg
      rw [h1] at hr; simp only at hr; subst hr
      refine ⟨_, rfl, ⟨⟨m, hs.2, rfl, fun _ => hs⟩, h2.cfg, h2.cache, h2.tileCache, h2.record⟩,
        ⟨h3.verifiers, h3.name, h3.record, h3.inited, by rw [hlat]; simp only; omega⟩, h3.cfg, ?_, ?_⟩
      · intro m' hs'
        rw [hsame m' hs']
        exact Nat.le_refl _
      · intro hp; cases hp

theorem B_latest : B "/latest" = [47, 108, 97, 116, 101, 115, 116] := by decide +kernel
theorem B_key : B "key" = [107, 101, 121] := by decide +kernel

theorem latestFile_ne_key (name : Bytes) : latestFile name ≠ B "key" := by
  intro h
  have := congrArg List.length h
  rw [latestFile, B_latest, B_key] at this
  simp at this

theorem writeConfig_cas (S : Server) (x : World HState H) (old new : Bytes) (h : x.s.latest = old) :
    writeConfig (honestEnv S) x (latestFile S.v.name) old new =
      (.ok, { s := { x.s with latest := new }, c := x.c,
              tr := x.tr ++ [.writeConfig (latestFile S.v.name) old new .ok] }) := by
  simp only [writeConfig, honestEnv, h, and_self, if_true]

/-- one round suffices: no write conflict in the honest world -/
theorem mergeLatestLoop_honest (P : Params H) (D : List Bytes) (S : Server) (stN : List H) (hon : Honest P D S stN)
    (f : Nat) (w : World HState H) (hw : HW P D S stN w) (hname : w.c.name = S.v.name) (hvs : w.c.verifiers = [S.v]) :
    (mergeLatestLoop P (honestEnv S) (f + 1) w).1 = .ok () ∧
      HW P D S stN (mergeLatestLoop P (honestEnv S) (f + 1) w).2 ∧ HMid w (mergeLatestLoop P (honestEnv S) (f + 1) w).2 := by
  generalize hr : mergeLatestLoop P (honestEnv S) (f + 1) w = r
  simp only [mergeLatestLoop] at hr
  -- ReadConfig(name/latest) returns the stored head
  have hrc : readConfig (honestEnv S) w (latestFile w.c.name) =
      (some w.s.latest, { w with tr := w.tr ++ [.read .config (latestFile w.c.name) true] }) := by
    simp only [readConfig, honestEnv, hname, latestFile_ne_key, if_false, if_true, Option.isSome_some]
  rw [hrc] at hr; simp only at hr
  have hw0 : HW P D S stN ({ w with tr := w.tr ++ [.read .config (latestFile w.c.name) true] } : World HState H) :=
    ⟨hw.latest, hw.cfg, hw.cache, hw.tileCache, hw.record⟩
  have hl0 : HLow w ({ w with tr := w.tr ++ [.read .config (latestFile w.c.name) true] } : World HState H) :=
    ⟨rfl, rfl, rfl, rfl, rfl, rfl, rfl⟩
  obtain ⟨wh, h1, h2, h3, h4, _, h6⟩ := mergeLatestMem_honest P D S stN hon _ hw0 hname hvs w.s.latest hw.cfg
  rw [h1] at hr; simp only at hr
  by_cases hp : (wh != When.past) = true
  · rw [if_pos hp] at hr; subst hr; exact ⟨rfl, h2, hl0.mid'.trans h3⟩
  · rw [if_neg hp] at hr
    have hwp : wh = .past := by simpa using hp
    have hn0 := h6 hwp
    obtain ⟨n, hn, hlat, hlm⟩ := h2.latest
    have hname2 : (mergeLatestMem P (honestEnv S) ({ w with tr := w.tr ++ [.read .config (latestFile w.c.name) true] } : World HState H)
        w.s.latest).2.c.name = S.v.name := by rw [h3.name]; exact hname
    -- WriteConfig is a compare-and-swap on the value just read: it succeeds
    rw [hname2, writeConfig_cas S _ _ _ h4] at hr
    simp only at hr; subst hr
    have hn' : n ≠ 0 := by rw [hlat] at hn0; exact hn0
    exact ⟨rfl, ⟨⟨n, hn, hlat, hlm⟩, Or.inr ⟨n, hlm hn'⟩, h2.cache, h2.tileCache, h2.record⟩,
      (hl0.mid'.trans h3).trans ⟨rfl, rfl, rfl, rfl, Nat.le_refl _⟩⟩

theorem mergeLatest_honest (P : Params H) (D : List Bytes) (S : Server) (stN : List H) (hon : Honest P D S stN)
    (w : World HState H) (hw : HW P D S stN w) (hname : w.c.name = S.v.name) (hvs : w.c.verifiers = [S.v])
    (msg : Bytes) (hmsg : msg = [] ∨ ∃ m, Signed P D S msg m) :
    (mergeLatest P (honestEnv S) w msg).1 = .ok () ∧
      HW P D S stN (mergeLatest P (honestEnv S) w msg).2 ∧ HMid w (mergeLatest P (honestEnv S) w msg).2 ∧
      (∀ m, Signed P D S msg m → m ≤ (mergeLatest P (honestEnv S) w msg).2.c.latest.n) := by
  obtain ⟨wh, h1, h2, h3, _, h5, _⟩ := mergeLatestMem_honest P D S stN hon w hw hname hvs msg hmsg
  generalize hr : mergeLatest P (honestEnv S) w msg = r
  simp only [mergeLatest, h1] at hr
  by_cases hf : (wh != When.future) = true
  · rw [if_pos hf] at hr; subst hr; exact ⟨rfl, h2, h3, h5⟩
  · rw [if_neg hf] at hr; subst hr
    obtain ⟨k, hk⟩ : ∃ k, P.retries = k + 1 := ⟨P.retries - 1, by have := hon.hret; omega⟩
    rw [hk]
    obtain ⟨g1, g2, g3⟩ := mergeLatestLoop_honest P D S stN hon k _ h2 (by rw [h3.name]; exact hname)
      (by rw [h3.verifiers]; exact hvs)
    exact ⟨g1, g2, h3.trans g3, fun m hm => Nat.le_trans (h5 m hm) g3.mono⟩

theorem initWork_honest (P : Params H) (D : List Bytes) (S : Server) (stN : List H) (hon : Honest P D S stN)
    (w : World HState H) (hw : HW P D S stN w) :
    HW P D S stN (initWork P (honestEnv S) w) ∧ (initWork P (honestEnv S) w).c.inited = some none ∧
      (initWork P (honestEnv S) w).c.verifiers = [S.v] ∧ (initWork P (honestEnv S) w).c.name = S.v.name ∧
      (initWork P (honestEnv S) w).c.record = w.c.record := by
  generalize hr : initWork P (honestEnv S) w = r
  simp only [initWork] at hr
  have hrk : readConfig (honestEnv S) w (B "key") =
      (some S.keyFile, { w with tr := w.tr ++ [.read .config (B "key") true] }) := by
    simp only [readConfig, honestEnv, if_true, Option.isSome_some]
  rw [hrk] at hr; simp only [hon.hkey] at hr
  have hrl : ∀ (c1 : Client H) (tr1 : List Effect), readConfig (honestEnv S) (World.mk w.s c1 tr1) (latestFile S.v.name) =
      (some w.s.latest, World.mk w.s c1 (tr1 ++ [.read .config (latestFile S.v.name) true])) := by
    intro c1 tr1
    simp only [readConfig, honestEnv, latestFile_ne_key, if_false, if_true, Option.isSome_some]
  rw [hrl] at hr; simp only at hr
  have hw1 : ∀ tr1, HW P D S stN (World.mk w.s ({ w.c with verifiers := [S.v], name := S.v.name } : Client H) tr1) :=
    fun _ => ⟨hw.latest, hw.cfg, hw.cache, hw.tileCache, hw.record⟩
  obtain ⟨g1, g2, g3, _⟩ := mergeLatest_honest P D S stN hon _ (hw1 _) rfl rfl w.s.latest hw.cfg
  rw [g1] at hr; simp only at hr; subst hr
  exact ⟨⟨g2.latest, g2.cfg, g2.cache, g2.tileCache, g2.record⟩, rfl, g3.verifiers, g3.name, g3.record⟩

theorem checkRecord_honest (P : Params H) (D : List Bytes) (S : Server) (stN : List H) (hon : Honest P D S stN)
    (w : World HState H) (hw : HW P D S stN w) (hname : w.c.name = S.v.name) (id : Nat) (text : Bytes)
    (hid : id < w.c.latest.n) (htext : D[id]? = some text) :
    (checkRecord P (honestEnv S) w (id : Int) text).1 = .ok () ∧
      HW P D S stN (checkRecord P (honestEnv S) w (id : Int) text).2 ∧
      HLow w (checkRecord P (honestEnv S) w (id : Int) text).2 := by
  obtain ⟨n, hn, hlat, _⟩ := hw.latest
  have hN := hon.hN
  rw [hlat] at hid
  simp only at hid
  generalize hr : checkRecord P (honestEnv S) w (id : Int) text = r
  simp only [checkRecord] at hr
  rw [hlat] at hr
  have h1 : ¬ ((id : Int) ≥ ((n : Nat) : Int)) := by omega
  have h2 : ¬ ((id : Int) < 0) := by omega
  simp only [h1, h2, if_false, Int.toNat_natCast] at hr
  have hidx : ∀ x ∈ [storedHashIndex 0 id], x < storedHashIndex 0 n := by
    intro x hx
    simp only [List.mem_singleton] at hx
    subst hx
    rw [Tlog.storedHashIndex_zero_eq n]
    exact TileAuth.idx_lt_S n 0 id (by omega)
  obtain ⟨hs, stn, g1, hstn, hmap, g2, g3⟩ := readHashes_honest P D S stN hon w hw hname n (by omega) hn _ hidx
  rw [g1] at hr; simp only at hr
  obtain ⟨b, hb, hbs⟩ := mapM_single _ _ _ hmap
  subst hbs
  simp only at hr
  have hbt : b = P.leaf text :=
    Option.some.inj (hb.symm.trans (store_leaf P D hN n hn stn hstn id hid text htext))
  rw [if_pos hbt] at hr
  subst hr
  exact ⟨rfl, g2, g3⟩

theorem lookupValidate_honest (P : Params H) (D : List Bytes) (S : Server) (stN : List H) (hon : Honest P D S stN)
    (w : World HState H) (hw : HW P D S stN w) (hname : w.c.name = S.v.name) (hvs : w.c.verifiers = [S.v])
    (rest data : Bytes) (hd : HonestLookup P D S (B "/lookup/" ++ rest) data) (wc : Bool) :
    (lookupValidate P (honestEnv S) w (S.v.name ++ (B "/lookup/" ++ rest)) data wc).1 = .ok data ∧
    HW P D S stN (lookupValidate P (honestEnv S) w (S.v.name ++ (B "/lookup/" ++ rest)) data wc).2 ∧
    HMid w (lookupValidate P (honestEnv S) w (S.v.name ++ (B "/lookup/" ++ rest)) data wc).2 := by
  generalize hr : lookupValidate P (honestEnv S) w (S.v.name ++ (B "/lookup/" ++ rest)) data wc = r
  simp only [lookupValidate] at hr
  obtain ⟨id, n, head, text, hidn, hsig, htext, hparse, _⟩ := hd
  rw [hparse] at hr; simp only at hr
  obtain ⟨g1, g2, g3, g4⟩ := mergeLatest_honest P D S stN hon w hw hname hvs head (Or.inr ⟨n, hsig⟩)
  rw [g1] at hr; simp only at hr
  have hname2 : (mergeLatest P (honestEnv S) w head).2.c.name = S.v.name := by rw [g3.name]; exact hname
  obtain ⟨k1, k2, k3⟩ := checkRecord_honest P D S stN hon _ g2 hname2 id text (by have := g4 n hsig; omega) htext
  rw [k1] at hr; simp only at hr
  cases wc with
  | false =>
    simp only [Bool.false_eq_true, if_false] at hr; subst hr
    exact ⟨rfl, k2, g3.trans k3.mid'⟩
  | true =>
    simp only [if_true] at hr; subst hr
    refine ⟨rfl, ⟨k2.latest, k2.cfg, ?_, k2.tileCache, k2.record⟩,
      (g3.trans k3.mid').trans ⟨rfl, rfl, rfl, rfl, Nat.le_refl _⟩⟩
    intro f d' hf
    simp only [writeCache, honestEnv, List.lookup] at hf
    split at hf
    · cases hf
      rename_i heq
      have : f = S.v.name ++ (B "/lookup/" ++ rest) := by simpa using heq
      subst this
      exact Or.inr ⟨rest, rfl, ⟨id, n, head, text, hidn, hsig, htext, hparse, by assumption⟩⟩
    · exact k2.cache f d' hf

theorem lookupWork_honest (P : Params H) (D : List Bytes) (S : Server) (stN : List H) (hon : Honest P D S stN)
    (w : World HState H) (hw : HW P D S stN w) (hname : w.c.name = S.v.name) (hvs : w.c.verifiers = [S.v]) (rest : Bytes) :
    HW P D S stN (lookupWork P (honestEnv S) w (S.v.name ++ (B "/lookup/" ++ rest)) (B "/lookup/" ++ rest)).2 ∧
    HMid w (lookupWork P (honestEnv S) w (S.v.name ++ (B "/lookup/" ++ rest)) (B "/lookup/" ++ rest)).2 ∧
    ((∃ d, (lookupWork P (honestEnv S) w (S.v.name ++ (B "/lookup/" ++ rest)) (B "/lookup/" ++ rest)).1 = .ok d ∧
        HonestLookup P D S (B "/lookup/" ++ rest) d) ∨
     ((∃ e, (lookupWork P (honestEnv S) w (S.v.name ++ (B "/lookup/" ++ rest)) (B "/lookup/" ++ rest)).1 = .error e) ∧
        S.index (B "/lookup/" ++ rest) = none)) := by
  rw [lookupWork_eq]
  -- the two reads change the trace only
  have hwt : ∀ tr1, HW P D S stN (World.mk w.s w.c tr1) := fun _ => ⟨hw.latest, hw.cfg, hw.cache, hw.tileCache, hw.record⟩
  have hmt : ∀ tr1, HMid w (World.mk w.s w.c tr1) := fun _ => ⟨rfl, rfl, rfl, rfl, Nat.le_refl _⟩
  have hc1 : (readCache (honestEnv S) w (S.v.name ++ (B "/lookup/" ++ rest))).1 =
      w.s.cache.lookup (S.v.name ++ (B "/lookup/" ++ rest)) := rfl
  have hr1 : (readRemote (honestEnv S) (readCache (honestEnv S) w (S.v.name ++ (B "/lookup/" ++ rest))).2
      (B "/lookup/" ++ rest)).1 = S.serve (B "/lookup/" ++ rest) := rfl
  have hw1 : HW P D S stN (readCache (honestEnv S) w (S.v.name ++ (B "/lookup/" ++ rest))).2 := hwt _
  have hm1 : HMid w (readCache (honestEnv S) w (S.v.name ++ (B "/lookup/" ++ rest))).2 := hmt _
  have hw2 : HW P D S stN (readRemote (honestEnv S) (readCache (honestEnv S) w
      (S.v.name ++ (B "/lookup/" ++ rest))).2 (B "/lookup/" ++ rest)).2 := hwt _
  have hm2 : HMid w (readRemote (honestEnv S) (readCache (honestEnv S) w
      (S.v.name ++ (B "/lookup/" ++ rest))).2 (B "/lookup/" ++ rest)).2 := hmt _
  rcases lwGot_cases (honestEnv S) w (S.v.name ++ (B "/lookup/" ++ rest)) (B "/lookup/" ++ rest) with
    ⟨data, h1, e⟩ | ⟨data, _, h2, e⟩ | ⟨_, h2, e⟩ <;> rw [e] <;> simp only
  · have hd : HonestLookup P D S (B "/lookup/" ++ rest) data := by
      rcases hw.cache _ _ (hc1 ▸ h1) with ⟨t, _, hk, _⟩ | ⟨rest', hk, hl⟩
      · exact absurd hk (lookupFile_ne_tileKey _ _ _)
      · have := List.append_cancel_left (List.append_cancel_left hk)
        subst this; exact hl
    obtain ⟨a, b, c⟩ := lookupValidate_honest P D S stN hon _ hw1 hname hvs rest data hd false
    exact ⟨b, hm1.trans c, Or.inl ⟨data, a, hd⟩⟩
  · rw [hr1] at h2
    cases hidx : S.index (B "/lookup/" ++ rest) with
    | none => rw [hon.unknown rest hidx] at h2; cases h2
    | some id =>
      obtain ⟨data', hsv, hd⟩ := hon.lookups rest id hidx
      have : data' = data := Option.some.inj (hsv.symm.trans h2)
      subst this
      obtain ⟨a, b, c⟩ := lookupValidate_honest P D S stN hon _ hw2 hname hvs rest data' hd true
      exact ⟨b, hm2.trans c, Or.inl ⟨data', a, hd⟩⟩
  · rw [hr1] at h2
    refine ⟨hw2, hm2, Or.inr ⟨⟨_, rfl⟩, ?_⟩⟩
    cases hidx : S.index (B "/lookup/" ++ rest) with
    | none => rfl
    | some id =>
      obtain ⟨_, hsv, _⟩ := hon.lookups rest id hidx
      rw [hsv] at h2; cases h2

/-- the honest-run invariant between two calls of `Lookup` -/
structure HI (P : Params H) (D : List Bytes) (S : Server) (stN : List H) (w : World HState H) : Prop where
  hw : HW P D S stN w
  ready : w.c.inited = none ∨ (w.c.inited = some none ∧ w.c.verifiers = [S.v] ∧ w.c.name = S.v.name)

theorem lookup_honest (P : Params H) (D : List Bytes) (S : Server) (stN : List H) (hon : Honest P D S stN)
    (w : World HState H) (hi : HI P D S stN w) (path vers : Bytes) :
    HI P D S stN (lookup P (honestEnv S) w path vers).2 ∧
    ∀ epath evers id, Module.matchPrefixPatterns P.glob P.nosumdb path = false →
      Module.escapePath path = .ok epath → Module.escapeVersion P.isLetter (trimGoMod vers) = .ok evers →
      S.index (B "/lookup/" ++ (epath ++ ([64] ++ evers))) = some id →
      ∃ d, HonestLookup P D S (B "/lookup/" ++ (epath ++ ([64] ++ evers))) d ∧
        (lookup P (honestEnv S) w path vers).1 = .ok (filterLines (path ++ [32] ++ vers ++ [32]) d) := by
  generalize hr : lookup P (honestEnv S) w path vers = r
  simp only [lookup] at hr
  by_cases hskip : Module.matchPrefixPatterns P.glob P.nosumdb path = true
  · rw [if_pos hskip] at hr; subst hr
    exact ⟨hi, by intro _ _ _ h; rw [hskip] at h; cases h⟩
  · rw [if_neg hskip] at hr
    -- initialisation succeeds (or has succeeded)
    have hinit : HW P D S stN (init P (honestEnv S) w) ∧ (init P (honestEnv S) w).c.inited = some none ∧
        (init P (honestEnv S) w).c.verifiers = [S.v] ∧ (init P (honestEnv S) w).c.name = S.v.name := by
      unfold init
      rcases hi.ready with h0 | ⟨h1, h2, h3⟩
      · rw [h0]; simp only
        obtain ⟨a, b, c, d, _⟩ := initWork_honest P D S stN hon w hi.hw
        exact ⟨a, b, c, d⟩
      · rw [h1]; simp only; exact ⟨hi.hw, h1, h2, h3⟩
    obtain ⟨hw1, hin1, hvs1, hname1⟩ := hinit
    have hi1 : HI P D S stN (init P (honestEnv S) w) := ⟨hw1, Or.inr ⟨hin1, hvs1, hname1⟩⟩
    rw [hin1] at hr; simp only at hr
    cases hep : Module.escapePath path with
    | error e =>
      rw [hep] at hr; simp only at hr; subst hr
      exact ⟨hi1, by intro _ _ _ _ h; cases h⟩
    | ok epath =>
      rw [hep] at hr; simp only at hr
      cases hev : Module.escapeVersion P.isLetter (trimGoMod vers) with
      | error e =>
        rw [hev] at hr; simp only at hr; subst hr
        exact ⟨hi1, by intro _ _ _ _ _ h; cases h⟩
      | ok evers =>
        rw [hev] at hr; simp only at hr
        have hrp : B "/lookup/" ++ epath ++ [64] ++ evers = B "/lookup/" ++ (epath ++ ([64] ++ evers)) := by
          simp only [List.append_assoc]
        rw [hrp, hname1] at hr
        cases hlk : (init P (honestEnv S) w).c.record.lookup (S.v.name ++ (B "/lookup/" ++ (epath ++ ([64] ++ evers)))) with
        | some res =>
          rw [hlk] at hr; simp only at hr
          rcases hw1.record _ res hlk with ⟨d, hd1, hd2⟩ | ⟨⟨e, he⟩, hnone⟩
          · subst hd1; simp only at hr; subst hr
            refine ⟨hi1, ?_⟩
            intro ep ev id _ h1 h2 _
            cases h1; cases h2
            exact ⟨d, hd2, rfl⟩
          · subst he; simp only at hr; subst hr
            refine ⟨hi1, ?_⟩
            intro ep ev id _ h1 h2 h3
            cases h1; cases h2
            rw [hnone] at h3; cases h3
        | none =>
          rw [hlk] at hr; simp only at hr
          obtain ⟨g1, g2, g3⟩ := lookupWork_honest P D S stN hon _ hw1 hname1 hvs1 (epath ++ ([64] ++ evers))
          -- the result is recorded in c.record
          have hrec : ∀ (res : Except Err Bytes),
              ((∃ d, res = .ok d ∧ HonestLookup P D S (B "/lookup/" ++ (epath ++ ([64] ++ evers))) d) ∨
                ((∃ e, res = .error e) ∧ S.index (B "/lookup/" ++ (epath ++ ([64] ++ evers))) = none)) →
              ∀ (x : World HState H), HW P D S stN x →
              HW P D S stN (World.mk x.s { x.c with record := (S.v.name ++ (B "/lookup/" ++ (epath ++ ([64] ++ evers))), res) :: x.c.record } x.tr) := by
            intro res hres x hx
            refine ⟨hx.latest, hx.cfg, hx.cache, hx.tileCache, ?_⟩
            intro rest' r' hl'
            simp only at hl'
            rw [lookup_cons_eq] at hl'
            split at hl'
            · rename_i heq
              cases hl'
              have := List.append_cancel_left (List.append_cancel_left heq)
              subst this
              exact hres
            · exact hx.record rest' r' hl'
          rcases g3 with ⟨d, hd1, hd2⟩ | ⟨⟨e, he⟩, hnone⟩
          · rw [hd1] at hr; simp only at hr; subst hr
            refine ⟨⟨hrec _ (Or.inl ⟨d, rfl, hd2⟩) _ g1, Or.inr ⟨by simp only; rw [g2.inited]; exact hin1,
              by simp only; rw [g2.verifiers]; exact hvs1, by simp only; rw [g2.name]; exact hname1⟩⟩, ?_⟩
            intro ep ev id _ h1 h2 _
            cases h1; cases h2
            exact ⟨d, hd2, rfl⟩
          · rw [he] at hr; simp only at hr; subst hr
            refine ⟨⟨hrec _ (Or.inr ⟨⟨e, rfl⟩, hnone⟩) _ g1, Or.inr ⟨by simp only; rw [g2.inited]; exact hin1,
              by simp only; rw [g2.verifiers]; exact hvs1, by simp only; rw [g2.name]; exact hname1⟩⟩, ?_⟩
            intro ep ev id _ h1 h2 h3
            cases h1; cases h2
            rw [hnone] at h3; cases h3

def HonestState (P : Params H) (D : List Bytes) (S : Server) (stN : List H) (s : HState) : Prop :=
  (s.latest = [] ∨ ∃ m, Signed P D S s.latest m) ∧ ∀ f d, s.cache.lookup f = some d → HonestFile P D S stN f d

theorem hi_newClient (P : Params H) (D : List Bytes) (S : Server) (stN : List H) (s : HState)
    (hs : HonestState P D S stN s) : HI P D S stN ⟨s, newClient P, []⟩ :=
  ⟨⟨⟨0, Nat.zero_le _, by simp [newClient, rootAt_zero], fun h => absurd rfl h⟩, hs.1, hs.2,
    by intro t r h; simp [newClient] at h, by intro rest r h; simp [newClient] at h⟩, Or.inl rfl⟩

theorem hi_runLookups (P : Params H) (D : List Bytes) (S : Server) (stN : List H) (hon : Honest P D S stN) :
    ∀ (qs : List (Bytes × Bytes)) (w : World HState H), HI P D S stN w → HI P D S stN (runLookups P (honestEnv S) w qs) := by
  intro qs
  induction qs with
  | nil => intro w h; exact h
  | cons q qs ih => intro w h; exact ih _ (lookup_honest P D S stN hon w h q.1 q.2).1

end

/-! ### helpers for the non-vacuity instance of Props/C01.lean (a log of one record) -/

theorem storedHashIndex_eq_zero (l k : Nat) (h : storedHashIndex l k = 0) : l = 0 ∧ k = 0 := by
  have h1 := Props.C09.split_storedHashIndex l k (by rw [h]; decide)
  rw [h] at h1
  have h2 : splitStoredHashIndex 0 = .ok (0, 0) := by decide +kernel
  rw [h2] at h1
  simp only [Except.ok.injEq, Prod.mk.injEq] at h1
  exact ⟨h1.1.symm, h1.2.symm⟩

theorem trueTile_single (a : UInt8) (t : Tile) (ht : ValidTile t) (x : List UInt8) (h : trueTile [a] t = some x) :
    x = [a] ∧ t.w = 1 := by
  have hw0 : (t.w == 0) = false := by have := ht.2.1.1; simp; omega
  unfold trueTile readTileData at h
  simp only [hw0, Bool.false_eq_true, if_false] at h
  unfold readChecked storeReader at h
  cases hm : ((List.range t.w).map fun i => storedHashIndex (t.h * t.l) ((t.n <<< t.h) + i)).mapM ([a][·]?) with
  | none => simp [hm] at h
  | some r =>
    have hlen := (TileAuth.mapM_option_get _ _ _ hm).1
    simp only [hm, hlen, bne_self_eq_false, Bool.false_eq_true, if_false] at h
    cases h
    have hget := (TileAuth.mapM_option_get _ _ _ hm).2
    have hw1 : t.w = 1 := by
      apply Nat.le_antisymm _ ht.2.1.1
      apply Nat.le_of_not_lt
      intro h2
      obtain ⟨b, _, hb⟩ := hget 1 (storedHashIndex (t.h * t.l) ((t.n <<< t.h) + 1))
        (by simp [List.getElem?_map, List.getElem?_range h2])
      have hz : storedHashIndex (t.h * t.l) ((t.n <<< t.h) + 1) = 0 := by
        cases hi : storedHashIndex (t.h * t.l) ((t.n <<< t.h) + 1) with
        | zero => rfl
        | succ j => rw [hi] at hb; simp at hb
      have := (storedHashIndex_eq_zero _ _ hz).2
      exact Nat.succ_ne_zero _ this
    refine ⟨?_, hw1⟩
    rw [hw1] at hm
    obtain ⟨b, hb1, hb2⟩ := mapM_single _ _ _ (by simpa using hm)
    have hz : storedHashIndex (t.h * t.l) (t.n <<< t.h) = 0 := by
      cases hi : storedHashIndex (t.h * t.l) (t.n <<< t.h) with
      | zero => rfl
      | succ j => rw [hi] at hb1; simp at hb1
    rw [hz] at hb1
    simp at hb1
    rw [hb2, ← hb1]

theorem isPrefixOfB_append (a b : Bytes) : isPrefixOfB a (a ++ b) = true :=
  ModVerif.isPrefixOfB_append a b


end ModVerif.Client
