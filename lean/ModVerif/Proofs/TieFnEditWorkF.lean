/-
  `WorkFile_AddReplace` around the shared `addReplace` (rule.go:1513).  The tie of `addReplace` over `RepR` / `FrameR`
  (`addReplace_sim`, Proofs/TieFnEditReqD.lean) enters as the hypothesis `AddReplaceSpec` of `WorkFile_AddReplace_sim`; it
  is discharged in Tie/FnEditWork.lean (`WorkFile_AddReplace_tie`).
-/
import ModVerif.Proofs.TieFnEditWorkA
import ModVerif.Proofs.TieFnEditReqC
namespace ModVerif.Tie.FnEditWorkF
open ModVerif ModVerif.GoRt ModVerif.Generated.Edit ModVerif.Tie.FnEditRep ModVerif.Tie.FnEditTreeA ModVerif.Tie.FnEditWorkA
open ModVerif.Tie.FnEditReqC (RepR FrameR)
open ModVerif.Modfile.Edit (EWork addReplaceCore)

theorem RepWAt_toRepR {h : Heap} {o : WorkFile} {e : EWork} (R : RepWAt h o e) :
    RepR h o.Syntax o.Replace e.f.syn e.f.replace := ⟨R.syn, R.tok, R.linesG, R.replace⟩

theorem get_of_eq' {α : Type} {l l' : List α} (hl : l' = l) : ∀ p v, heapGet l p = .ok v → heapGet l' p = .ok v := by
  subst hl; exact fun _ _ x => x

theorem RepWAt_ofRepR {h h' : Heap} {o : WorkFile} {e : EWork} (R : RepWAt h o e) (F : FrameR h h') {ps : List Int}
    {fs : Modfile.FileSyntax} {rp : List Modfile.Replace} (Rr : RepR h' o.Syntax ps fs rp) (w : List WorkFile) :
    RepWAt { h' with works := w } { o with Replace := ps }
      { f := { e.f with syn := fs, replace := rp }, next := h'.lines.length + 1 } where
  syn := RepSyn.congr (h := h') (h' := { h' with works := w }) rfl rfl rfl rfl Rr.syn
  tok := Rr.tok
  linesG := LinesG.congr (h := h') (h' := { h' with works := w }) Rr.linesG rfl
  next := rfl
  go := R.go.mono (get_of_eq' F.gos) F.lines
  toolchain := R.toolchain.mono (get_of_eq' F.toolchains) F.lines
  godebug := R.godebug.mono (get_of_eq' F.godebugs) F.lines
  use := R.use.mono (get_of_eq' F.uses) F.lines
  replace := Rr.replace

/-- the simulation statement of the shared `addReplace` (rule.go:1513) over the part of the
    representation it works on; discharged by `FnEditReqD.addReplace_sim'` in Tie/FnEditWork.lean -/
def AddReplaceSpec (fuelOK : Modfile.FileSyntax → List Modfile.Replace → Bytes → Bytes → Nat → Prop) : Prop :=
  ∀ {h : Heap} {x : Int} {ps : List Int} {fs : Modfile.FileSyntax} {rp : List Modfile.Replace}, RepR h x ps fs rp →
    ∀ (op ov np nv : Bytes) (fuel : Nat), fuelOK fs rp op np fuel →
    (∀ fs' rp' n', addReplaceCore fs rp (h.lines.length + 1) op ov np nv = .ok (fs', rp', n') →
      ∃ h' ps', addReplace Drv.GenEdit.isPrintI Drv.GenEdit.quoteI fuel x ps op ov np nv h = .ok ((none, ps'), h') ∧
        RepR h' x ps' fs' rp' ∧ FrameR h h' ∧ n' = h'.lines.length + 1) ∧
    (∀ er, addReplaceCore fs rp (h.lines.length + 1) op ov np nv = .error er →
      addReplace Drv.GenEdit.isPrintI Drv.GenEdit.quoteI fuel x ps op ov np nv h = .error .panic)

theorem WorkFile_AddReplace_sim {fuelOK : Modfile.FileSyntax → List Modfile.Replace → Bytes → Bytes → Nat → Prop}
    (hAR : AddReplaceSpec fuelOK) {h : Heap} {fp : Int} {e : EWork} (R : RepW h fp e) (op ov np nv : Bytes) (fuel : Nat)
    (hf : fuelOK e.f.syn e.f.replace op np fuel) :
    match Modfile.Edit.workAddReplace e op ov np nv with
    | .ok e' => ∃ h', WorkFile_AddReplace Drv.GenEdit.isPrintI Drv.GenEdit.quoteI fuel fp op ov np nv h = .ok (none, h') ∧ RepW h' fp e'
    | .error _ => WorkFile_AddReplace Drv.GenEdit.isPrintI Drv.GenEdit.quoteI fuel fp op ov np nv h = .error .panic := by
  obtain ⟨o, hw, R⟩ := R
  have A := hAR (RepWAt_toRepR R) op ov np nv fuel hf
  unfold Modfile.Edit.workAddReplace
  rw [R.next]
  simp only [bind, Except.bind]
  unfold WorkFile_AddReplace
  simp only [hw, bind, Except.bind]
  cases hc : addReplaceCore e.f.syn e.f.replace (h.lines.length + 1) op ov np nv with
  | error er => rw [A.2 er hc]
  | ok r =>
    obtain ⟨fs', rp', n'⟩ := r
    obtain ⟨h1, ps', ha, Rr, F, hn⟩ := A.1 fs' rp' n' hc
    have hw1 : heapGet h1.works fp = .ok o := by rw [F.works]; exact hw
    refine ⟨{ h1 with works := h1.works.set (fp.toNat - 1) { o with Replace := ps' } }, ?_, { o with Replace := ps' },
      heapGet_listSet_same _ hw1, ?_⟩
    · simp only [ha, hw1, heapSet_of_get _ hw1, pure, Except.pure]
    · rw [hn]
      exact RepWAt_ofRepR R F Rr _
end ModVerif.Tie.FnEditWorkF
