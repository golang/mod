/-
  Fuel of the regenerated directive layer from the INPUT LENGTH: what the go.mod lexer model consumes.
  `readToken` pays for everything it delivers with bytes of the input: the text of the delivered token is not longer than
  the bytes consumed (`readToken_w`, first part), a token other than EOF consumes at least one byte and a recorded
  end-of-line comment a second one (second part).  Stated with two potentials of a lexer state: `Bp` (bytes: the text of
  the pending token + what remains) and `Cn` (count: 1 for a pending non-EOF token + recorded comments + what remains).
-/
import ModVerif.Model.Modfile.Comments
import ModVerif.Proofs.ModfileC20Lex
import ModVerif.Proofs.ModfileScan
namespace ModVerif.Tie.FnRuleFuelA
open ModVerif ModVerif.Modfile ModVerif.Proofs.ModfileLex ModVerif.Proofs.ModfileC20 ModVerif.Proofs.ModfileScan

def pc (i : Input) : Nat := if i.token.kind = .eof then 0 else 1
def Bp (i : Input) : Nat := i.token.text.length + i.remaining.length
def Cn (i : Input) : Nat := pc i + i.commentsRev.length + i.remaining.length

@[simp] theorem pc_nextId (i : Input) (n : Nat) : pc { i with nextId := n } = pc i := rfl
@[simp] theorem Bp_nextId (i : Input) (n : Nat) : Bp { i with nextId := n } = Bp i := rfl
@[simp] theorem Cn_nextId (i : Input) (n : Nat) : Cn { i with nextId := n } = Cn i := rfl

theorem readRune_w {i i' : Input} {r : Nat} (h : readRune i = .ok (r, i')) :
    i'.remaining.length < i.remaining.length ∧
    i'.tokRev.length + i'.remaining.length = i.tokRev.length + i.remaining.length ∧
    i'.commentsRev = i.commentsRev ∧ i'.token = i.token := by
  unfold readRune at h
  split at h
  · cases h
  · rename_i a t hr
    have hw := decodeRune_width i.remaining (by rw [hr]; simp)
    simp only [Except.ok.injEq, Prod.mk.injEq] at h
    obtain ⟨_, rfl⟩ := h
    refine ⟨?_, ?_, rfl, rfl⟩ <;>
      simp only [List.length_append, List.length_reverse, List.length_take, List.length_drop] <;> omega

/-- the state between `startToken` and `endToken` -/
def P2 (R0 : Nat) (C : List Comment) (j : Input) : Prop := j.tokRev.length + j.remaining.length = R0 ∧ j.commentsRev = C

theorem P2_readRune (R0 : Nat) (C : List Comment) : ∀ i r i', P2 R0 C i → readRune i = .ok (r, i') → P2 R0 C i' := by
  intro i r i' hp h
  obtain ⟨_, h2, h3, _⟩ := readRune_w h
  exact ⟨by rw [h2]; exact hp.1, by rw [h3]; exact hp.2⟩

theorem strip_len (l : Bytes) : (match l with | 10 :: 13 :: r => r | 10 :: r => r | r => r).length ≤ l.length := by
  split <;> (try simp only [List.length_cons]) <;> omega

theorem endToken_w (k : TokKind) (j : Input) :
    (endToken k j).token.text.length ≤ j.tokRev.length ∧ (endToken k j).remaining = j.remaining ∧
    (endToken k j).commentsRev = j.commentsRev ∧ (endToken k j).token.kind = k := by
  refine ⟨?_, rfl, rfl, rfl⟩
  unfold endToken
  simp only [List.length_reverse]
  split
  · exact strip_len j.tokRev
  · exact Nat.le_refl _

theorem P2_endToken {R0 : Nat} {C : List Comment} {j : Input} (k : TokKind) (hp : P2 R0 C j) :
    (endToken k j).token.text.length + (endToken k j).remaining.length ≤ R0 ∧ (endToken k j).commentsRev = C := by
  obtain ⟨h1, h2, h3, _⟩ := endToken_w k j
  rw [h2, h3]
  exact ⟨by have := hp.1; omega, hp.2⟩

theorem readComment_w {i i' : Input} (h : readComment i = .ok i') :
    i'.token.text.length + i'.remaining.length ≤ i.remaining.length ∧
    (i'.commentsRev = i.commentsRev ∨ (i'.commentsRev.length = i.commentsRev.length + 1 ∧ i'.remaining.length + 2 ≤ i.remaining.length)) := by
  let P3 : Input → Prop := fun j => j.tokRev.length + j.remaining.length = i.remaining.length ∧
    j.remaining.length + 2 ≤ i.remaining.length ∧ j.commentsRev = i.commentsRev
  have hP3 : ∀ j r j', P3 j → readRune j = .ok (r, j') → P3 j' := by
    intro j r j' hp hr
    obtain ⟨c1, c2, c3, _⟩ := readRune_w hr
    exact ⟨by rw [c2]; exact hp.1, by have := hp.2.1; omega, by rw [c3]; exact hp.2.2⟩
  -- after the two slashes `P3` holds, and it is kept to the end of the line
  have key : ∀ {a b c d : Input} {r1 r2 : Nat}, readRune (startToken i) = .ok (r1, a) → readRune a = .ok (r2, b) →
      Runes InLine b c → (c.eof = true ∧ d = c ∨ ∃ r, readRune c = .ok (r, d)) → P3 d := by
    intro a b c d r1 r2 h1 h2 hl hd
    obtain ⟨a1, a2, a3, _⟩ := readRune_w h1
    obtain ⟨b1, b2, b3, _⟩ := readRune_w h2
    have hs : (startToken i).tokRev.length + (startToken i).remaining.length = i.remaining.length := by
      simp [startToken]
    have hsr : (startToken i).remaining = i.remaining := rfl
    have hc := Runes.pres hP3 hl ⟨by omega, by rw [hsr] at a1; omega, b3.trans a3⟩
    rcases hd with ⟨_, rfl⟩ | ⟨r, hr⟩
    · exact hc
    · exact hP3 _ _ _ hc hr
  cases readComment_com h with
  | comment h1 h2 hl _ _ d hd =>
    obtain ⟨d1, d2, d3⟩ := key h1 h2 hl hd
    obtain ⟨e1, e2, e3, _⟩ := endToken_w .comment d
    rw [e2, e3]
    exact ⟨by omega, Or.inl d3⟩
  | eolComment h1 h2 hl _ _ d hd =>
    obtain ⟨d1, d2, d3⟩ := key h1 h2 hl hd
    obtain ⟨e1, e2, e3, _⟩ := endToken_w .eolComment d
    simp only [pushSuffix, List.length_cons]
    rw [e2]
    exact ⟨by omega, Or.inr ⟨by rw [e3, d3], by omega⟩⟩

theorem readToken_w {i i' : Input} (h : readToken i = .ok i') :
    Bp i' ≤ i.remaining.length ∧ Cn i' ≤ i.commentsRev.length + i.remaining.length := by
  -- the count of the token itself: `readToken_spec`
  have hcount : pc i' + i'.remaining.length ≤ i.remaining.length := by
    rcases readToken_spec i with ⟨i1, h1, hle, hlt, _⟩ | ⟨e, h1, _⟩
    · rw [h1] at h; cases h
      unfold pc
      split
      · omega
      · rename_i hk; have := hlt hk; omega
    · rw [h1] at h; cases h
  suffices hm : i'.token.text.length + i'.remaining.length ≤ i.remaining.length ∧
      (i'.commentsRev = i.commentsRev ∨ (i'.commentsRev.length = i.commentsRev.length + 1 ∧ i'.remaining.length + 2 ≤ i.remaining.length)) by
    refine ⟨hm.1, ?_⟩
    unfold Cn
    rcases hm.2 with hc | ⟨hc, hr⟩
    · rw [hc]; omega
    · rw [hc]; unfold pc; split <;> omega
  let P1 : Input → Prop := fun j => j.remaining.length ≤ i.remaining.length ∧ j.commentsRev = i.commentsRev
  have hP1 : ∀ j r j', P1 j → readRune j = .ok (r, j') → P1 j' := by
    intro j r j' hp hr
    obtain ⟨c1, _, c3, _⟩ := readRune_w hr
    exact ⟨by have := hp.1; omega, by rw [c3]; exact hp.2⟩
  obtain ⟨i0, hb, _, ht⟩ := readToken_tok h
  obtain ⟨s1, s2⟩ : P1 i0 := hb.pres hP1 ⟨Nat.le_refl _, rfl⟩
  have hst : P2 i0.remaining.length i.commentsRev (startToken i0) := ⟨by simp [startToken], s2⟩
  have fin : ∀ (k : TokKind) (j : Input), P2 i0.remaining.length i.commentsRev j →
      (endToken k j).token.text.length + (endToken k j).remaining.length ≤ i.remaining.length ∧
      ((endToken k j).commentsRev = i.commentsRev ∨ ((endToken k j).commentsRev.length = i.commentsRev.length + 1 ∧
        (endToken k j).remaining.length + 2 ≤ i.remaining.length)) := by
    intro k j hp
    obtain ⟨e1, e2⟩ := P2_endToken k hp
    exact ⟨by omega, Or.inl e2⟩
  have hR := P2_readRune i0.remaining.length i.commentsRev
  cases ht with
  | comment _ _ hrc =>
    obtain ⟨c1, c2⟩ := readComment_w hrc
    refine ⟨by omega, ?_⟩
    rcases c2 with c2 | ⟨c2, c3⟩
    · exact Or.inl (by rw [c2, s2])
    · exact Or.inr ⟨by rw [c2, s2], by omega⟩
  | eof _ => exact fin _ _ hst
  | punct _ _ _ _ h1 => exact fin _ _ (hR _ _ _ hst h1)
  | string _ _ _ _ _ h1 hs => exact fin _ _ (Str.pres hR hs (hR _ _ _ hst h1))
  | ident _ _ _ _ _ _ hi _ => exact fin _ _ (Runes.pres hR hi hst)

theorem lex_w {i i' : Input} {t : Token} (h : lex i = .ok (t, i')) :
    t = i.token ∧ Bp i' + t.text.length ≤ Bp i ∧ Cn i' + pc i ≤ Cn i := by
  unfold lex at h
  cases h1 : readToken i with
  | error e => simp [h1, bind, Except.bind] at h
  | ok j =>
    simp only [h1, bind, Except.bind, Except.ok.injEq, Prod.mk.injEq] at h
    obtain ⟨rfl, rfl⟩ := h
    obtain ⟨a, b⟩ := readToken_w h1
    refine ⟨rfl, ?_, ?_⟩
    · unfold Bp at a ⊢; omega
    · have : Cn i = pc i + i.commentsRev.length + i.remaining.length := rfl
      omega

end ModVerif.Tie.FnRuleFuelA
