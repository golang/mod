/-
  Readable values along a session, read off the STARTING file and the OPERATION LIST
  (C15 `typed_eq_reparse`, C08 `refines_abs`, re-parse half).

  `AbsOK` (every directive value is one the strict parser accepts and reads back unchanged) is preserved by every step of
  the specification's step table `EditSpec.step` when the arguments of the operation are readable (`ArgsOK`), and it is
  invariant under the observational equivalence `Rel`.  With C08's `refines_abs_typed` (typed lists after Cleanup `Rel` the
  prediction of the step table) this turns the condition `AbsOK` on the FINAL typed lists into `AbsOK` of the starting
  file plus `ArgsOK` of every operation (`Start.absOK`, Proofs/EditGoodBlocksC.lean).
-/
import ModVerif.Proofs.EditReparseE
import ModVerif.Proofs.EditRefineRun
import ModVerif.Proofs.EditRefineValid
import ModVerif.Proofs.EditRefineNoPanic
namespace ModVerif.Modfile.Edit
open ModVerif ModVerif.Modfile ModVerif.EditSpec

structure AbsOKF (a : AbsFile) : Prop where
  module : ∀ p, a.module = some p → ItemOK (.module p)
  go : ∀ v, a.go = some v → ItemOK (.go v)
  toolchain : ∀ n, a.toolchain = some n → ItemOK (.toolchain n)
  godebug : ∀ g ∈ a.godebug, ItemOK (.godebug g.1 g.2)
  require : ∀ r ∈ a.require, ItemOK (.require ⟨r.path, r.vers⟩ r.indirect)
  exclude : ∀ x ∈ a.exclude, ItemOK (.exclude ⟨x.1, x.2⟩)
  replace : ∀ r ∈ a.replace, ItemOK (.replace ⟨r.oldPath, r.oldVers⟩ ⟨r.newPath, r.newVers⟩)
  retract : ∀ r ∈ a.retract, ItemOK (.retract ⟨r.lo, r.hi⟩)
  tool : ∀ t ∈ a.tool, ItemOK (.tool t)

theorem absOK_iff (a : AbsFile) : AbsOK a ↔ AbsOKF a := by
  simp only [AbsOK, absItems, List.forall_mem_append, List.forall_mem_map, Option.mem_toList]
  exact ⟨fun ⟨h1, h2, h3, h4, h5, h6, h7, h8, h9⟩ => ⟨h1, h2, h3, h4, h5, h6, h7, h8, h9⟩,
    fun h => ⟨h.module, h.go, h.toolchain, h.godebug, h.require, h.exclude, h.replace, h.retract, h.tool⟩⟩

section lists
variable {α : Type}

theorem mem_updFirstDropRest (m : α → Bool) (u : α → α) : ∀ (l : List α) (a : α), a ∈ updFirstDropRest m u l →
    a ∈ l ∨ ∃ x ∈ l, m x = true ∧ a = u x := by
  intro l
  induction l with
  | nil => intro a h; simp [updFirstDropRest] at h
  | cons x xs ih =>
    intro a h
    unfold updFirstDropRest at h
    split at h
    · rename_i hm
      rcases List.mem_cons.1 h with rfl | h
      · exact Or.inr ⟨x, by simp, hm, rfl⟩
      · exact Or.inl (List.mem_cons_of_mem _ (List.mem_filter.1 h).1)
    · rcases List.mem_cons.1 h with rfl | h
      · exact Or.inl (by simp)
      · rcases ih a h with h | ⟨y, hy, hmy, rfl⟩
        · exact Or.inl (List.mem_cons_of_mem _ h)
        · exact Or.inr ⟨y, List.mem_cons_of_mem _ hy, hmy, rfl⟩

theorem mem_setKeyed (m : α → Bool) (u : α → α) (new : α) (l : List α) (a : α) (h : a ∈ setKeyed m u new l) :
    a ∈ l ∨ (∃ x ∈ l, m x = true ∧ a = u x) ∨ a = new := by
  unfold setKeyed at h
  split at h
  · rcases mem_updFirstDropRest m u l a h with h | h
    · exact Or.inl h
    · exact Or.inr (Or.inl h)
  · rcases List.mem_append.1 h with h | h
    · exact Or.inl h
    · exact Or.inr (Or.inr (by simpa using h))

theorem mem_dropAll (m : α → Bool) (l : List α) (a : α) (h : a ∈ dropAll m l) : a ∈ l := (List.mem_filter.1 h).1

theorem mem_dedupLast {κ : Type} [BEq κ] (key : α → κ) (l : List α) (a : α) (h : a ∈ dedupLast key l) : a ∈ l :=
  (dedupLast_sublist key l).subset h

theorem mem_dedupFirst {κ : Type} [BEq κ] (key : α → κ) (l : List α) (a : α) (h : a ∈ dedupFirst key l) : a ∈ l := by
  unfold dedupFirst at h
  exact List.mem_reverse.1 (mem_dedupLast key _ a (List.mem_reverse.1 h))

theorem mem_setExact (key : α → Bytes) (want old : List α) (a : α) (h : a ∈ setExact key want old) : a ∈ want := by
  unfold setExact at h
  rcases List.mem_append.1 h with h | h
  · rcases List.mem_filterMap.1 h with ⟨e, _, hf⟩
    exact List.mem_of_find?_eq_some hf
  · exact (List.mem_filter.1 h).1

end lists

theorem AbsOKF.removeDups {a : AbsFile} (h : AbsOKF a) : AbsOKF (EditSpec.removeDups a) :=
  ⟨h.module, h.go, h.toolchain, h.godebug, h.require,
   fun x hx => h.exclude x (mem_dedupFirst _ _ _ hx), fun x hx => h.replace x (mem_dedupLast _ _ _ hx), h.retract,
   fun x hx => h.tool x (mem_dedupFirst _ _ _ hx)⟩

theorem AbsOKF.of_rel {a b : AbsFile} (hr : Rel a b) (h : AbsOKF b) : AbsOKF a := by
  refine ⟨?_, ?_, ?_, ?_, ?_, ?_, ?_, ?_, ?_⟩
  · rw [hr.module]; exact h.module
  · rw [hr.go]; exact h.go
  · rw [hr.toolchain]; exact h.toolchain
  · rw [hr.godebug]; exact h.godebug
  · intro r hrm; exact h.require r (hr.require.perm.mem_iff.1 hrm)
  · rw [hr.exclude]; exact h.exclude
  · rw [hr.replace]; exact h.replace
  · intro r hrm
    have : Retr.interval r ∈ b.retract.map Retr.interval := by
      rw [← hr.retract]; exact List.mem_map.2 ⟨r, hrm, rfl⟩
    obtain ⟨r', hr', he⟩ := List.mem_map.1 this
    have := h.retract r' hr'
    simp only [Retr.interval, Prod.mk.injEq] at he
    rw [← he.1, ← he.2]; exact this
  · rw [hr.tool]; exact h.tool

def ArgsOK : EditSpec.Op → Prop
  | .addModule p => ItemOK (.module p)
  | .addGo v => ItemOK (.go v)
  | .addToolchain n => ItemOK (.toolchain n)
  | .addGodebug k v => ItemOK (.godebug k v)
  | .addRequire p v => ModOK ⟨p, v⟩
  | .addNewRequire p v _ => ModOK ⟨p, v⟩
  | .setRequire want => ∀ w ∈ want, ModOK ⟨w.path, w.vers⟩
  | .setRequireSeparateIndirect want => ∀ w ∈ want, ModOK ⟨w.path, w.vers⟩
  | .addExclude p v => ModOK ⟨p, v⟩
  | .addReplace a b c d => ItemOK (.replace ⟨a, b⟩ ⟨c, d⟩)
  | .addRetract lo hi _ => ItemOK (.retract ⟨lo, hi⟩)
  | .addTool p => ItemOK (.tool p)
  | _ => True

def argsOKB : EditSpec.Op → Bool
  | .addModule p => itemOKB (.module p)
  | .addGo v => itemOKB (.go v)
  | .addToolchain n => itemOKB (.toolchain n)
  | .addGodebug k v => itemOKB (.godebug k v)
  | .addRequire p v => modOKB ⟨p, v⟩
  | .addNewRequire p v _ => modOKB ⟨p, v⟩
  | .setRequire want => want.all fun w => modOKB ⟨w.path, w.vers⟩
  | .setRequireSeparateIndirect want => want.all fun w => modOKB ⟨w.path, w.vers⟩
  | .addExclude p v => modOKB ⟨p, v⟩
  | .addReplace a b c d => itemOKB (.replace ⟨a, b⟩ ⟨c, d⟩)
  | .addRetract lo hi _ => itemOKB (.retract ⟨lo, hi⟩)
  | .addTool p => itemOKB (.tool p)
  | _ => true

theorem argsOKB_sound {op : EditSpec.Op} (h : argsOKB op = true) : ArgsOK op := by
  cases op <;> simp only [argsOKB, ArgsOK] at h ⊢ <;>
    first
      | trivial
      | exact itemOKB_sound h
      | exact modOKB_sound h
      | (intro w hw; exact modOKB_sound (List.all_eq_true.1 h w hw))

theorem AbsOKF.step (V : Validity) {a : AbsFile} (h : AbsOKF a) (op : EditSpec.Op) (ho : ArgsOK op) : AbsOKF (step V a op) := by
  unfold EditSpec.step
  split
  · exact h
  · cases op with
    | addModule p => exact { h with module := fun q hq => by simp only [Option.some.injEq] at hq; subst hq; exact ho }
    | addGo v => exact { h with go := fun q hq => by simp only [Option.some.injEq] at hq; subst hq; exact ho }
    | dropGo => exact { h with go := fun q hq => by cases hq }
    | addToolchain n => exact { h with toolchain := fun q hq => by simp only [Option.some.injEq] at hq; subst hq; exact ho }
    | dropToolchain => exact { h with toolchain := fun q hq => by cases hq }
    | addGodebug k v =>
      refine { h with godebug := ?_ }
      intro g hg
      rcases mem_setKeyed _ _ _ _ g hg with hg | ⟨x, _, _, rfl⟩ | rfl
      · exact h.godebug g hg
      · exact ho
      · exact ho
    | dropGodebug k => exact { h with godebug := fun g hg => h.godebug g (mem_dropAll _ _ _ hg) }
    | addRequire p v =>
      refine { h with require := ?_ }
      intro r hr
      rcases mem_setKeyed _ _ _ _ r hr with hr | ⟨x, _, hm, rfl⟩ | rfl
      · exact h.require r hr
      · have : x.path = p := by simpa using hm
        simp only [this]; exact ho
      · exact ho
    | addNewRequire p v i =>
      refine { h with require := ?_ }
      intro r hr
      rcases List.mem_append.1 hr with hr | hr
      · exact h.require r hr
      · simp only [List.mem_singleton] at hr; subst hr; exact ho
    | dropRequire p => exact { h with require := fun g hg => h.require g (mem_dropAll _ _ _ hg) }
    | setRequire want =>
      exact AbsOKF.removeDups { h with require := fun r hr => ho r (mem_setExact _ _ _ r hr) }
    | setRequireSeparateIndirect want =>
      exact AbsOKF.removeDups { h with require := fun r hr => ho r (mem_setExact _ _ _ r hr) }
    | addExclude p v =>
      dsimp only
      split
      · exact h
      · refine { h with exclude := ?_ }
        intro x hx
        rcases List.mem_append.1 hx with hx | hx
        · exact h.exclude x hx
        · simp only [List.mem_singleton] at hx; subst hx; exact ho
    | dropExclude p v => exact { h with exclude := fun g hg => h.exclude g (mem_dropAll _ _ _ hg) }
    | addReplace a1 b1 c1 d1 =>
      refine { h with replace := ?_ }
      intro r hr
      rcases mem_setKeyed _ _ _ _ r hr with hr | ⟨x, _, _, rfl⟩ | rfl
      · exact h.replace r hr
      · exact ho
      · exact ho
    | dropReplace a1 b1 => exact { h with replace := fun g hg => h.replace g (mem_dropAll _ _ _ hg) }
    | addRetract lo hi why =>
      refine { h with retract := ?_ }
      intro r hr
      rcases List.mem_append.1 hr with hr | hr
      · exact h.retract r hr
      · simp only [List.mem_singleton] at hr; subst hr; exact ho
    | dropRetract lo hi => exact { h with retract := fun g hg => h.retract g (mem_dropAll _ _ _ hg) }
    | addTool p =>
      dsimp only
      split
      · exact h
      · refine AbsOKF.removeDups { h with tool := ?_ }
        intro t ht
        rcases List.mem_append.1 ht with ht | ht
        · exact h.tool t ht
        · simp only [List.mem_singleton] at ht; subst ht; exact ho
    | dropTool p => exact { h with tool := fun g hg => h.tool g (mem_dropAll _ _ _ hg) }
    | sortBlocks => exact AbsOKF.removeDups h
    | cleanup => exact h
    | addUse d m => exact { h with }
    | addNewUse d m => exact { h with }
    | dropUse d => exact { h with }
    | setUse want => exact AbsOKF.removeDups { h with }

theorem run_keeps {P : AbsFile → Prop} {A : EditSpec.Op → Prop} (V : Validity)
    (hstep : ∀ a op, P a → A op → P (step V a op)) : ∀ (ops : List EditSpec.Op) (a : AbsFile), P a → (∀ op ∈ ops, A op) →
    P (run V a ops)
  | [], _, h, _ => h
  | op :: ops, a, h, ho =>
    run_keeps V hstep ops _ (hstep a op h (ho op List.mem_cons_self)) fun o' ho' => ho o' (List.mem_cons_of_mem _ ho')

theorem AbsOKF.run (V : Validity) (ops : List EditSpec.Op) (a : AbsFile) (h : AbsOKF a) (ho : ∀ op ∈ ops, ArgsOK op) :
    AbsOKF (run V a ops) :=
  run_keeps V (fun _ op h ho => h.step V op ho) ops a h ho

theorem validArgs_of_T {op : Op} (h : ValidArgsT op) (hm : IsModOp op) : ValidArgs op := by
  cases op <;> simp only [ValidArgsT, ValidArgs, IsModOp] at h hm ⊢ <;> first | exact h | trivial | exact absurd h (by simp)

theorem StaticValid.validArgs : ∀ (ops : List Op) (c : Bool), StaticValid c ops → (∀ op ∈ ops, IsModOp op) →
    ∀ op ∈ ops, ValidArgs op := by
  intro ops
  induction ops with
  | nil => intro _ _ _ op hop; cases hop
  | cons o ops ih =>
    intro c hs hmod op hop
    rcases List.mem_cons.1 hop with rfl | hop
    · have := hs.1
      have hm := hmod op (by simp)
      cases op <;> first
        | exact this.1
        | exact validArgs_of_T this hm
    · exact ih _ hs.2 (fun o' ho' => hmod o' (by simp [ho'])) op hop

/-- requirements per path ⇒ as multisets -/
theorem absPerm_of_rel {a b : AbsFile} (h : Rel a b) : AbsPerm a b :=
  ⟨h.module, h.go, h.toolchain, .of_eq h.godebug, h.require.perm, .of_eq h.exclude, .of_eq h.replace, .of_eq h.retract,
   .of_eq h.tool⟩

end ModVerif.Modfile.Edit
