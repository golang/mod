/-
  The loop of SetRequireSeparateIndirect preserves tree well-formedness, the `Match` between the typed entries and the live
  lines, and the two `require` blocks (`SepLoopInv`, `sepLoop_loopInv`), by the three kinds of iteration (drop / keep / move);
  when the requirements are one uncommented statement every kept line is moved, which is what C16 `separate_blocks` needs
  (`SepInv`).
-/
import ModVerif.Proofs.EditMoreSepD
import ModVerif.Proofs.EditRefineInvBulk
namespace ModVerif.Modfile.Edit
open ModVerif ModVerif.Modfile

def SepInv (dI iI : Nat) (stmts : List Expr) (rs : List Require) : Prop :=
  ∀ v ∈ view stmts, v.toks.head? = some (B "require") →
    (∃ r ∈ rs, r.lineId = v.id) ∨ (InAt stmts dI v.id ∧ isIndirectS v.suffix = false) ∨
      (InAt stmts iI v.id ∧ isIndirectS v.suffix = true)


theorem SepInv.remove {dI iI : Nat} {stmts stmts2 : List Expr} {r : Require} {rs : List Require}
    (hsep : SepInv dI iI stmts (r :: rs)) (hview : ∀ v ∈ view stmts2, v ∈ view stmts ∧ v.id ≠ r.lineId)
    (hin : ∀ k x, InAt stmts k x → InAt stmts2 k x) : SepInv dI iI stmts2 rs := by
  intro v hv hverb
  rcases hview v hv with ⟨hv0, hne⟩
  rcases hsep v hv0 hverb with ⟨r', hr', hid⟩ | ⟨h1, h2⟩ | ⟨h1, h2⟩
  · rcases List.mem_cons.1 hr' with rfl | hr'
    · exact absurd hid.symm hne
    · exact Or.inl ⟨r', hr', hid⟩
  · exact Or.inr (Or.inl ⟨hin _ _ h1, h2⟩)
  · exact Or.inr (Or.inr ⟨hin _ _ h1, h2⟩)

theorem SepInv.move {dI iI next : Nat} (b : Bool) {stmts stmts2 : List Expr} {r : Require} {rs : List Require}
    (hsep : SepInv dI iI stmts (r :: rs))
    (hview : ∀ v ∈ view stmts2, (v.id ≠ r.lineId ∧ v ∈ view stmts) ∨ (v.id = next ∧ isIndirectS v.suffix = b))
    (hin : ∀ k x, InAt stmts k x → InAt stmts2 k x) (hnew : InAt stmts2 (if b then iI else dI) next) :
    SepInv dI iI stmts2 rs := by
  intro v hv hverb
  rcases hview v hv with ⟨hne, hv0⟩ | ⟨hid, hmark⟩
  · rcases hsep v hv0 hverb with ⟨r', hr', hid⟩ | ⟨h1, h2⟩ | ⟨h1, h2⟩
    · rcases List.mem_cons.1 hr' with rfl | hr'
      · exact absurd hid.symm hne
      · exact Or.inl ⟨r', hr', hid⟩
    · exact Or.inr (Or.inl ⟨hin _ _ h1, h2⟩)
    · exact Or.inr (Or.inr ⟨hin _ _ h1, h2⟩)
  · cases b with
    | false => exact Or.inr (Or.inl ⟨by rw [hid]; exact hnew, hmark⟩)
    | true => exact Or.inr (Or.inr ⟨by rw [hid]; exact hnew, hmark⟩)

section
variable {V : RqView}

/-- `done`: the requirements already processed, `rs`: those still to come -/
structure SepLoopInv (V : RqView) (A C : List Ent) (ctx : SepCtx) (done rs : List Require) (syn : FileSyntax) (next : Nat) : Prop where
  live : ∀ r ∈ rs, liveRq r = true
  tree : TreeWF syn.stmts next
  pos : 0 < next
  mtch : Match (A ++ (entsOf liveRq V.rq (done ++ rs) ++ C)) (view syn.stmts)
  direct : BlockAt syn.stmts ctx.directIdx
  indirect : BlockAt syn.stmts ctx.indirectIdx
  settable : ∀ r ∈ rs, ∀ v ∈ view syn.stmts, v.id = r.lineId → V.Settable v.suffix

section step
variable {A C : List Ent} {ctx : SepCtx} {done rs : List Require} {r : Require} {syn : FileSyntax} {next : Nat}

theorem SepLoopInv.id_ne (h : SepLoopInv V A C ctx done (r :: rs) syn next) :
    ∀ y, y ∈ done ∨ y ∈ rs → liveRq y = true → y.lineId ≠ r.lineId := by
  have hndK : (liveIds liveRq (·.lineId) (done ++ r :: rs)).Nodup := by
    rw [← entsOf_ids (·.lineId) liveRq V.rq (fun _ => rfl)]; exact seg_nodup h.mtch
  exact mid_id_ne liveRq (·.lineId) done rs r hndK (h.live r List.mem_cons_self)

theorem SepLoopInv.drop (h : SepLoopInv V A C ctx done (r :: rs) syn next) :
    SepLoopInv V A C ctx (done ++ [clearedRequire]) rs (markRemoved syn r.lineId) next ∧
    ((∀ b s, V.C b s → isIndirectS s = b) → SepInv ctx.directIdx ctx.indirectIdx syn.stmts (r :: rs) →
      SepInv ctx.directIdx ctx.indirectIdx (markRemoved syn r.lineId).stmts rs) := by
  have hview := mem_view_markRemoved syn r.lineId h.tree.nodup
  refine ⟨⟨fun r2 hr2 => h.live r2 (List.mem_cons_of_mem _ hr2), h.tree.markRemoved r.lineId, h.pos, ?_,
    h.direct.updateLine h.tree.nodup _ _, h.indirect.updateLine h.tree.nodup _ _, ?_⟩, ?_⟩
  · rw [List.append_assoc]; exact Match.removeMid (live := liveRq) (mk := V.rq) (id := (·.lineId)) (cleared := clearedRequire) (fun _ => rfl) rfl h.tree
      (h.live r List.mem_cons_self) h.mtch
  · intro r2 hr2 v hv hvid
    exact h.settable r2 (List.mem_cons_of_mem _ hr2) v ((hview v).1 hv).1 hvid
  · intro _ hsep
    exact hsep.remove (fun v hv => (hview v).1 hv) (fun k x hx => (InAt.markRemoved h.tree.nodup _).2 hx)

theorem SepLoopInv.keep (h : SepLoopInv V A C ctx done (r :: rs) syn next) (w : Want) :
    SepLoopInv V A C ctx (done ++ [{ r with mod := { r.mod with version := w.vers }, indirect := w.indirect }]) rs
      (syn.updateLine r.lineId fun l => setIndirectLine w.indirect (setVersionLine w.vers l)) next ∧
    ∃ sfx, V.C w.indirect sfx ∧
      ∀ v, v ∈ view (syn.updateLine r.lineId fun l => setIndirectLine w.indirect (setVersionLine w.vers l)).stmts ↔
        (v.id ≠ r.lineId ∧ v ∈ view syn.stmts) ∨ v = ⟨r.lineId, [B "require", autoQuote r.mod.path, w.vers], sfx⟩ := by
  have hlr := h.live r List.mem_cons_self
  rcases Match.setReqStep (A := A) (C := C) w.vers w.indirect h.tree hlr h.mtch (h.settable r List.mem_cons_self)
    with ⟨hm1, v0, _, _, hview1, hind⟩
  refine ⟨⟨fun r2 hr2 => h.live r2 (List.mem_cons_of_mem _ hr2), h.tree.setReq r.lineId w.vers w.indirect, h.pos, ?_,
    h.direct.updateLine h.tree.nodup _ _, h.indirect.updateLine h.tree.nodup _ _, ?_⟩, _, hind, hview1⟩
  · rw [List.append_assoc]; exact hm1
  · intro r2 hr2 v hv hvid
    rcases (hview1 v).1 hv with ⟨_, hvv⟩ | rfl
    · exact h.settable r2 (List.mem_cons_of_mem _ hr2) v hvv hvid
    · exact absurd hvid.symm (h.id_ne r2 (Or.inr hr2) (h.live r2 (List.mem_cons_of_mem _ hr2)))

theorem SepLoopInv.move (h : SepLoopInv V A C ctx done (r :: rs) syn next) (w : Want) :
    SepLoopInv V A C ctx (done ++ [{ r with mod := { r.mod with version := w.vers }, indirect := w.indirect, lineId := next }]) rs
      (moveExisting (syn.updateLine r.lineId fun l => setIndirectLine w.indirect (setVersionLine w.vers l)) r.lineId
        (if w.indirect then ctx.indirectIdx else ctx.directIdx) next) (next + 1) ∧
    ((∀ b s, V.C b s → isIndirectS s = b) → SepInv ctx.directIdx ctx.indirectIdx syn.stmts (r :: rs) →
      SepInv ctx.directIdx ctx.indirectIdx
        (moveExisting (syn.updateLine r.lineId fun l => setIndirectLine w.indirect (setVersionLine w.vers l)) r.lineId
          (if w.indirect then ctx.indirectIdx else ctx.directIdx) next).stmts rs) := by
  rcases h.keep w with ⟨h1, sfx, hind, hview1⟩
  have hlive' : ∀ r2 ∈ rs, liveRq r2 = true := fun r2 hr2 => h.live r2 (List.mem_cons_of_mem _ hr2)
  have hidx : BlockAt (syn.updateLine r.lineId fun l => setIndirectLine w.indirect (setVersionLine w.vers l)).stmts
      (if w.indirect then ctx.indirectIdx else ctx.directIdx) := by
    split
    · exact h1.indirect
    · exact h1.direct
  have hm1 := h1.mtch
  rw [List.append_assoc] at hm1
  have hlt1 := hm1.ids_lt h1.tree
  rcases moveExisting_spec _ next r.lineId _ h1.tree h.pos ⟨r.lineId, [B "require", autoQuote r.mod.path, w.vers], sfx⟩
    ((hview1 _).2 (Or.inr rfl)) rfl _ _ rfl hidx with ⟨m1, m2, m3⟩
  have hin2 := moveExisting_inAt _ next r.lineId _ h1.tree ⟨r.lineId, [B "require", autoQuote r.mod.path, w.vers], sfx⟩
    ((hview1 _).2 (Or.inr rfl)) rfl hidx
  refine ⟨⟨hlive', m1, Nat.succ_pos _, ?_, m3 _ h1.direct, m3 _ h1.indirect, ?_⟩, ?_⟩
  · rw [List.append_assoc]
    exact Match.moveStep (r := { r with mod := { r.mod with version := w.vers }, indirect := w.indirect })
      (h.live r List.mem_cons_self) hm1 hlt1 _ ⟨rfl, hind⟩ m2
  · intro r2 hr2 v hv hvid
    rcases (m2 v).1 hv with ⟨_, hvv⟩ | rfl
    · exact h1.settable r2 hr2 v hvv hvid
    · have := hlt1 (V.rq r2) (List.mem_append_right _ (List.mem_append_left _
        ((mem_entsOf_mid liveRq V.rq done rs _ _).2 (Or.inl ⟨r2, Or.inr hr2, hlive' r2 hr2, rfl⟩))))
      simp only [RqView.rq] at this hvid
      omega
  · intro hfull hsep
    refine SepInv.move (next := next) w.indirect hsep ?_ ?_ ((hin2 _ _).2 (Or.inr ⟨rfl, rfl⟩))
    · intro v hv
      rcases (m2 v).1 hv with ⟨hvne, hvv⟩ | rfl
      · rcases (hview1 v).1 hvv with ⟨_, hvv0⟩ | rfl
        · exact Or.inl ⟨hvne, hvv0⟩
        · exact absurd rfl hvne
      · exact Or.inr ⟨rfl, hfull _ _ hind⟩
    · intro k x hx
      refine (hin2 k x).2 (Or.inl ((InAt.updateLine h.tree.nodup _ _ fun l => ?_).2 hx))
      rw [(setIndirectLine_props w.indirect _).1, (setVersionLine_props w.vers l).1]

/-- under `oneFlat` every kept requirement is moved, so `SepInv` is maintained as well -/
theorem SepLoopInv.step {need : List Want} {have_ : List Bytes} {t : Require × List Bytes × FileSyntax × Nat}
    (h : SepLoopInv V A C ctx done (r :: rs) syn next) (ht : SepStep ctx need r have_ syn next t) :
    SepLoopInv V A C ctx (done ++ [t.1]) rs t.2.2.1 t.2.2.2 ∧ next ≤ t.2.2.2 ∧
    ((∀ b s, V.C b s → isIndirectS s = b) → ctx.oneFlat = true → SepInv ctx.directIdx ctx.indirectIdx syn.stmts (r :: rs) →
      SepInv ctx.directIdx ctx.indirectIdx t.2.2.1.stmts rs) := by
  cases ht with
  | drop _ => exact ⟨h.drop.1, Nat.le_refl _, fun hf _ => h.drop.2 hf⟩
  | keep w _ _ hof => exact ⟨(h.keep w).1, Nat.le_refl _, fun _ ho => by rw [hof] at ho; cases ho⟩
  | move w _ _ => exact ⟨(h.move w).1, Nat.le_succ _, fun hf _ => (h.move w).2 hf⟩

end step

theorem sepLoop_loopInv {A C : List Ent} (ctx : SepCtx) (need : List Want) : ∀ (rs done : List Require) (have_ : List Bytes)
    (syn : FileSyntax) (next : Nat) (rs' : List Require) (have' : List Bytes) (syn' : FileSyntax) (next' : Nat),
    SepLoopInv V A C ctx done rs syn next → sepLoop ctx need rs have_ syn next = .ok (rs', have', syn', next') →
    SepLoopInv V A C ctx (done ++ rs') [] syn' next' ∧ next ≤ next' ∧
    ((∀ b s, V.C b s → isIndirectS s = b) → ctx.oneFlat = true → SepInv ctx.directIdx ctx.indirectIdx syn.stmts rs →
      SepInv ctx.directIdx ctx.indirectIdx syn'.stmts [])
  | [], done, _, _, _, _, _, _, _, hi, h => by
    simp only [sepLoop, Except.ok.injEq, Prod.mk.injEq] at h
    rcases h with ⟨rfl, _, rfl, rfl⟩
    exact ⟨by rw [List.append_nil]; exact hi, Nat.le_refl _, fun _ _ hs => hs⟩
  | r :: rs, done, have_, syn, next, _, _, _, _, hi, h => by
    rcases sepLoop_cons_ok h with ⟨_, rs'', rfl, hrec⟩
    rcases hi.step (sepStep_spec ctx need r have_ syn next) with ⟨s1, s2, s3⟩
    rcases sepLoop_loopInv ctx need rs _ _ _ _ _ _ _ _ s1 hrec with ⟨q1, q2, q3⟩
    rw [List.append_assoc] at q1
    exact ⟨q1, Nat.le_trans s2 q2, fun hf ho hs => q3 hf ho (s3 hf ho hs)⟩

theorem sepLoop_inv {A C : List Ent} (ctx : SepCtx) (need : List Want) (rs : List Require) :
    ∀ (done : List Require) (have_ : List Bytes) (syn : FileSyntax) (next : Nat) (rs' : List Require) (have' : List Bytes)
      (syn' : FileSyntax) (next' : Nat),
      (∀ r ∈ rs, liveRq r = true) → TreeWF syn.stmts next → 0 < next →
      Match (A ++ (entsOf liveRq V.rq (done ++ rs) ++ C)) (view syn.stmts) →
      BlockAt syn.stmts ctx.directIdx → BlockAt syn.stmts ctx.indirectIdx →
      (∀ r ∈ rs, ∀ v ∈ view syn.stmts, v.id = r.lineId → V.Settable v.suffix) →
      sepLoop ctx need rs have_ syn next = .ok (rs', have', syn', next') →
      TreeWF syn'.stmts next' ∧ next ≤ next' ∧ Match (A ++ (entsOf liveRq V.rq (done ++ rs') ++ C)) (view syn'.stmts) ∧
      BlockAt syn'.stmts ctx.directIdx ∧ BlockAt syn'.stmts ctx.indirectIdx := by
  intro done have_ syn next rs' have' syn' next' h1 h2 h3 h4 h5 h6 h7 h
  rcases sepLoop_loopInv ctx need rs done have_ syn next rs' have' syn' next' ⟨h1, h2, h3, h4, h5, h6, h7⟩ h with ⟨q, hle, _⟩
  have hm := q.mtch
  rw [List.append_nil] at hm
  exact ⟨q.tree, hle, hm, q.direct, q.indirect⟩

end

end ModVerif.Modfile.Edit
