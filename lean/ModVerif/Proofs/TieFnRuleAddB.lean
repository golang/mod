/-
  Helper lemmas for Tie/FnRuleAdd.lean: the regenerated `File.add` (Generated/FnRule.lean, with the driver's world
  parameters: `FA`) verb by verb against the per-verb twins `addGo … addToolV` of the model's `File.add`
  (Proofs/ModfileC20Rule.lean, `add_eq`): the verbs that call no leaf function — `go` (with the lax go-version fix that
  REWRITES the token), `toolchain`, `godebug`, an unknown verb, the lax early return.
-/
import ModVerif.Proofs.TieFnRuleAddA
namespace ModVerif.Tie.FnRuleAddB
open ModVerif ModVerif.GoRt ModVerif.Generated ModVerif.Tie.FnRuleRep ModVerif.Tie.FnRuleAddA
open ModVerif.Drv.GenRule (isPrintI unquoteI laxSubI deprecatedSubI fixG)
open ModVerif.Proofs.ModfileC20 (addGo addToolchain addModule addGodebugV addReqExc addReplaceV addRetractV addToolV add_eq)

section
variable {ι : Int → Nat} {h : Rule.Heap} {fp : Int} {errs : List Rule.Error} {st : Modfile.AddState} {syn : Modfile.FileSyntax}
  {lp : Int} {l : Modfile.Line} {pre args : List Bytes}

theorem view_of (hl : RLine ι h lp l) (htok : l.token = pre ++ args) : TokView h { owner := lp, lo := (pre.length : Int) } pre args :=
  ⟨lineG l, hl.1, htok, rfl⟩

theorem TR_of (hl : RLine ι h lp l) (n : Nat) (hn : n = h.lines.length) : TR ι n lp l.id := ⟨hl.2, hl.pos, hn ▸ hl.le⟩

theorem FA_go (R : RepRS ι h fp errs st syn) (hl : RLine ι h lp l) (htok : l.token = pre ++ args)
    (fuel : Nat) (block : Int) (fix : Option (Bytes → Bytes → (Bytes × Option String))) (strict : Bool) :
    ∃ errs' h', FA fuel fp errs block lp [103, 111] { owner := lp, lo := (pre.length : Int) } fix strict h = .ok (((), errs'), h') ∧
      StepPost ι h fp syn lp l pre (addGo st l args strict) errs' h' := by
  obtain ⟨o, es, ho, hF, rt⟩ := R.objs
  have V := view_of hl htok
  unfold FA Rule.File_add
  simp +decide only [↓reduceIte, ite_self, ho, bind, Except.bind, pure, Except.pure,
    TokRef_len_eq, TokRef_get_eq, TokRef_set_eq, V.tkLen]
  unfold addGo
  cases hgo : st.file.go with
  | some g =>
    have hne : o.Go ≠ 0 := fun e => by have := (rt.go.eq_zero_iff).1 e; rw [hgo] at this; cases this
    simp only [hgo, hne, decide_false, Bool.not_false, if_true, errorf_eq ho hF hl.1, Option.isSome_some]
    exact ⟨_, _, rfl, StepPost.errf R hl htok (by decide +kernel)⟩
  | none =>
    have h0 : o.Go = 0 := (rt.go.eq_zero_iff).2 hgo
    simp only [hgo, h0, decide_true, Bool.not_true, Bool.false_eq_true, if_false, Option.isSome_none]
    match args, htok, V with
    | [], htok, V =>
      simp only [List.length_nil, Int.natCast_zero, Int.reduceEq, decide_false, Bool.not_false, if_true, errorf_eq ho hF hl.1] 
      exact ⟨_, _, rfl, StepPost.errf R hl htok (by decide +kernel)⟩
    | a :: b :: c, htok, V =>
      have : ¬ (((List.length (a :: b :: c) : Nat) : Int) = 1) := by simp; omega
      simp only [this, decide_false, Bool.not_false, if_true, errorf_eq ho hF hl.1] 
      exact ⟨_, _, rfl, StepPost.errf R hl htok (by decide +kernel)⟩
    | [a], htok, V =>
      simp only [List.length_singleton, Int.natCast_one, decide_true, Bool.not_true, Bool.false_eq_true, if_false, V.tkGet0 rfl]
      cases hre : Modfile.goVersionRE a with
      | true =>
        simp only [Bool.not_true, Bool.false_eq_true, if_false, if_true, heapAlloc, heapSet_of_get _ ho, 
          heapGet_listSet_same _ ho, heapGet_alloc_new, heapSet_alloc_new]
        refine ⟨_, _, rfl, ?_⟩
        exact StepPost.build R hl ho (heapGet_listSet_same _ ho) (lines_same hl htok) rfl rfl rfl
          (fun rt1 => ⟨rt1.linkGo ⟨rfl, TR_of hl _ rfl⟩ _, rfl⟩) R.errs
      | false =>
        simp only [Bool.not_false, if_true, Bool.false_eq_true, if_false]
        cases strict with
        | true =>
          simp only [Bool.not_true, Bool.false_eq_true, if_false, if_true, errorf_eq ho hF hl.1]
          exact ⟨_, _, rfl, StepPost.errf R hl htok (by decide +kernel)⟩
        | false =>
          simp only [Bool.not_false, if_true, Bool.false_eq_true, if_false, laxSubI]
          obtain hlax | ⟨m1, hlax⟩ : Modfile.laxGoVersionRE a = none ∨ ∃ m, Modfile.laxGoVersionRE a = some m := by
            cases Modfile.laxGoVersionRE a <;> simp
          ·
            simp only [hlax, decide_true, Bool.not_true, Bool.false_eq_true, if_false, errorf_eq ho hF hl.1]
            exact ⟨_, _, rfl, StepPost.errf R hl htok (by decide +kernel)⟩
          ·
            have hi : idxL [a, m1] 1 = .ok m1 := rfl
            have V1 : TokView (setToksH h lp (pre ++ [m1])) { owner := lp, lo := (pre.length : Int) } pre [m1] := (V.set (i := 0) (by simp) m1).2
            simp only [hlax, reduceCtorEq, decide_false, Bool.not_false, if_true, hi, V.tkSet0 (by simp) m1, List.set_cons_zero,
              heapAlloc]
            simp only [ho, heapSet_of_get _ ho, V1.tkGet0 rfl, heapGet_listSet_same _ ho, heapGet_alloc_new, heapSet_alloc_new]
            refine ⟨_, _, rfl, ?_⟩
            exact StepPost.build R hl ho (heapGet_listSet_same _ ho) rfl rfl rfl rfl
              (fun rt1 => ⟨(rt1.linkGo ⟨rfl, TR_of hl _ rfl⟩ _).withLines _ (by simp), rfl⟩) R.errs

theorem FA_toolchain (R : RepRS ι h fp errs st syn) (hl : RLine ι h lp l) (htok : l.token = pre ++ args)
    (fuel : Nat) (block : Int) (fix : Option (Bytes → Bytes → (Bytes × Option String))) :
    ∃ errs' h', FA fuel fp errs block lp [116, 111, 111, 108, 99, 104, 97, 105, 110] { owner := lp, lo := (pre.length : Int) } fix true h =
        .ok (((), errs'), h') ∧
      StepPost ι h fp syn lp l pre (addToolchain st l args) errs' h' := by
  obtain ⟨o, es, ho, hF, rt⟩ := R.objs
  have V := view_of hl htok
  unfold FA Rule.File_add
  simp +decide only [↓reduceIte, ho, bind, Except.bind, pure, Except.pure,
    TokRef_len_eq, TokRef_get_eq, V.tkLen]
  unfold addToolchain
  cases htc : st.file.toolchain with
  | some g =>
    have hne : o.Toolchain ≠ 0 := fun e => by have := (rt.toolchain.eq_zero_iff).1 e; rw [htc] at this; cases this
    simp only [htc, hne, decide_false, Bool.not_false, if_true, errorf_eq ho hF hl.1, Option.isSome_some]
    exact ⟨_, _, rfl, StepPost.errf R hl htok (by decide +kernel)⟩
  | none =>
    have h0 : o.Toolchain = 0 := (rt.toolchain.eq_zero_iff).2 htc
    simp only [htc, h0, decide_true, Bool.not_true, Bool.false_eq_true, if_false, Option.isSome_none]
    match args, htok, V with
    | [], htok, V =>
      simp only [List.length_nil, Int.natCast_zero, Int.reduceEq, decide_false, Bool.not_false, if_true, errorf_eq ho hF hl.1]
      exact ⟨_, _, rfl, StepPost.errf R hl htok (by decide +kernel)⟩
    | a :: b :: c, htok, V =>
      have : ¬ (((List.length (a :: b :: c) : Nat) : Int) = 1) := by simp; omega
      simp only [this, decide_false, Bool.not_false, if_true, errorf_eq ho hF hl.1]
      exact ⟨_, _, rfl, StepPost.errf R hl htok (by decide +kernel)⟩
    | [a], htok, V =>
      simp only [List.length_singleton, Int.natCast_one, decide_true, Bool.not_true, Bool.false_eq_true, if_false, V.tkGet0 rfl]
      cases hre : Modfile.toolchainRE a with
      | false =>
        simp only [Bool.not_false, if_true, errorf_eq ho hF hl.1]
        exact ⟨_, _, rfl, StepPost.errf R hl htok (by decide +kernel)⟩
      | true =>
        simp only [Bool.not_true, Bool.false_eq_true, if_false, heapAlloc, heapSet_of_get _ ho, 
          heapGet_listSet_same _ ho, heapGet_alloc_new, heapSet_alloc_new]
        refine ⟨_, _, rfl, ?_⟩
        exact StepPost.build R hl ho (heapGet_listSet_same _ ho) (lines_same hl htok) rfl rfl rfl
          (fun rt1 => ⟨rt1.linkToolchain ⟨rfl, TR_of hl _ rfl⟩ _, rfl⟩) R.errs

theorem FA_godebug (R : RepRS ι h fp errs st syn) (hl : RLine ι h lp l) (htok : l.token = pre ++ args)
    (fuel : Nat) (block : Int) (fix : Option (Bytes → Bytes → (Bytes × Option String))) :
    ∃ errs' h', FA fuel fp errs block lp [103, 111, 100, 101, 98, 117, 103] { owner := lp, lo := (pre.length : Int) } fix true h =
        .ok (((), errs'), h') ∧
      StepPost ι h fp syn lp l pre (addGodebugV st l args) errs' h' := by
  obtain ⟨o, es, ho, hF, rt⟩ := R.objs
  have V := view_of hl htok
  unfold FA Rule.File_add
  simp +decide only [↓reduceIte, ho, bind, Except.bind, pure, Except.pure,
    TokRef_len_eq, TokRef_get_eq, V.tkLen]
  unfold addGodebugV Modfile.addGodebug
  match args, htok, V with
  | [], htok, V =>
    simp only [List.length_nil, Int.natCast_zero, Int.reduceEq, decide_false, Bool.not_false, if_true, errorf_eq ho hF hl.1]
    exact ⟨_, _, rfl, StepPost.errf R hl htok (by decide +kernel)⟩
  | a :: b :: c, htok, V =>
    have : ¬ (((List.length (a :: b :: c) : Nat) : Int) = 1) := by simp; omega
    simp only [this, decide_false, Bool.not_false, if_true, errorf_eq ho hF hl.1]
    exact ⟨_, _, rfl, StepPost.errf R hl htok (by decide +kernel)⟩
  | [a], htok, V =>
    simp only [List.length_singleton, Int.natCast_one, decide_true, Bool.not_true, Bool.false_eq_true, if_false, V.tkGet0 rfl,
      GoRt.containsAny]
    cases hca : GoStrings.containsAny a [34, 96, 39, 44] with
    | true =>
      simp only [if_true, errorf_eq ho hF hl.1]
      exact ⟨_, _, rfl, StepPost.errf R hl htok (by decide +kernel)⟩
    | false =>
      simp only [Bool.false_eq_true, if_false, cut_one]
      cases hcut : GoStrings.cut a 61 with
      | none =>
        simp only [Bool.not_false, if_true, errorf_eq ho hF hl.1]
        exact ⟨_, _, rfl, StepPost.errf R hl htok (by decide +kernel)⟩
      | some kv =>
        obtain ⟨k, v⟩ := kv
        simp only [Bool.not_true, Bool.false_eq_true, if_false, heapAlloc, heapSet_of_get _ ho]
        refine ⟨_, _, rfl, ?_⟩
        exact StepPost.build R hl ho (heapGet_listSet_same _ ho) (lines_same hl htok) rfl rfl rfl
          (fun rt1 => ⟨rt1.pushGodebug ⟨rfl, rfl, TR_of hl _ rfl⟩ _, rfl⟩) R.errs

/-- an unknown verb in strict mode -/
theorem FA_unknown (R : RepRS ι h fp errs st syn) (hl : RLine ι h lp l) (htok : l.token = pre ++ args)
    (fuel : Nat) (block : Int) (verb : Bytes) (fix : Option (Bytes → Bytes → (Bytes × Option String)))
    (hv : Modfile.verbIn verb Modfile.addVerbs = false) :
    ∃ errs' h', FA fuel fp errs block lp verb { owner := lp, lo := (pre.length : Int) } fix true h = .ok (((), errs'), h') ∧
      StepPost ι h fp syn lp l pre (st.err l.start .unknownDirective, args) errs' h' := by
  obtain ⟨o, es, ho, hF, rt⟩ := R.objs
  obtain ⟨h1, h2, h3, h4, h5, h6, h7, h8, h9⟩ := not_addVerbs hv
  unfold FA Rule.File_add
  simp +decide only [↓reduceIte, h1, h2, h3, h4, h5, h6, h7, h8, h9, decide_false, Bool.false_eq_true, Bool.or_false, 
    errorf_eq ho hF hl.1, bind, Except.bind, pure, Except.pure]
  exact ⟨_, _, rfl, StepPost.errf R hl htok (by decide +kernel)⟩

/-- the lax early return -/
theorem FA_laxSkip (R : RepRS ι h fp errs st syn) (hl : RLine ι h lp l) (htok : l.token = pre ++ args)
    (fuel : Nat) (block : Int) (verb : Bytes) (fix : Option (Bytes → Bytes → (Bytes × Option String)))
    (hv : Modfile.verbIn verb Modfile.laxVerbs = false) :
    ∃ errs' h', FA fuel fp errs block lp verb { owner := lp, lo := (pre.length : Int) } fix false h = .ok (((), errs'), h') ∧
      StepPost ι h fp syn lp l pre (st, args) errs' h' := by
  rw [laxVerbs_iff] at hv
  unfold FA Rule.File_add
  simp +decide only [↓reduceIte, hv, Bool.false_eq_true, pure, Except.pure]
  exact ⟨_, _, rfl, StepPost.skip R hl htok⟩
end
end ModVerif.Tie.FnRuleAddB
