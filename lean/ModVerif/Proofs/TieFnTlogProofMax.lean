/-
  The generated `maxpow2` (Generated/FnTlog.lean, checked mode) computes the model's `Tlog.maxpow2`, with the sharp fuel
  bound the Merkle recursions need: fuel 63 always suffices, and for `n ≥ 2` fuel `n - 1` suffices.
-/
import ModVerif.Generated.FnTlog
import ModVerif.Model.Tlog
import ModVerif.Proofs.TlogBasic
import ModVerif.Proofs.GoRtLemmas
import ModVerif.Proofs.GoRtLemmasInt
namespace ModVerif.Tie.FnTlogProof
open ModVerif ModVerif.GoRt

theorem maxpow2_loop1_ok (n : Int) : ∀ (fuel l : Nat), l ≤ 62 → 1 ≤ fuel →
    (63 ≤ l + fuel ∨ (n.toNat ≤ l + fuel + 1 ∧ 2 ^ l < n.toNat)) →
    Generated.Tlog.maxpow2_loop1 n fuel (l : Int) = .ok ((Tlog.maxpow2Go (62 - l) n.toNat l : Nat) : Int) := by
  intro fuel
  induction fuel with
  | zero => intro l _ h; omega
  | succ fuel ih =>
    intro l hl _ hf
    unfold Generated.Tlog.maxpow2_loop1
    by_cases h62 : l < 62
    · have h1 : decide ((l : Int) < (62 : Int)) = true := by simp; omega
      have hp : 2 ^ (l + 1) ≤ 2 ^ 62 := Nat.pow_le_pow_right (by omega) (show l + 1 ≤ 62 by omega)
      have hsub : 62 - l = (62 - (l + 1)) + 1 := by omega
      have hpl : l + 2 ≤ 2 ^ (l + 1) := by
        have := @Nat.lt_two_pow_self (l + 1); omega
      have hpp : 2 ^ (l + 1) = 2 * 2 ^ l := by rw [Nat.pow_succ]; omega
      simp only [h1, if_true]
      rw [chk64_ok _ (by omega) (by omega)]
      simp only [mbind_ok]
      rw [toU64_of_range _ (by omega) (by omega)]
      rw [show ((l : Int) + 1) = ((l + 1 : Nat) : Int) by omega, shl_one_natCast]
      simp only [mbind_ok]
      rw [hsub, Tlog.maxpow2Go]
      have ih' := ih (l + 1) (by omega)
      generalize 2 ^ (l + 1) = K at *
      generalize 2 ^ l = K' at *
      rw [chk64_ok _ (by omega) (by omega)]
      simp only [mbind_ok, mpure]
      by_cases hlt : K < n.toNat
      · have hlt' : (K : Int) < n := by omega
        simp only [hlt, hlt', decide_true, if_true]
        exact ih' (by omega) (by omega)
      · have hlt' : ¬ (K : Int) < n := by omega
        simp only [hlt, hlt', decide_false, if_false]; rfl
    · have h1 : decide ((l : Int) < (62 : Int)) = false := by simp; omega
      have : 62 - l = 0 := by omega
      simp only [h1, this, Tlog.maxpow2Go]; rfl

/-- the `maxpow2` tie: for EVERY integer `n` (also `n ≤ 1` and negative `n`: `(1, 0)`), no overflow.
    Fuel 63 always suffices; for `n ≥ 2`, fuel `n - 1` suffices. -/
theorem maxpow2_ok (fuel : Nat) (n : Int) (h1 : 1 ≤ fuel) (hf : 63 ≤ fuel ∨ (2 ≤ n ∧ n ≤ fuel + 1)) :
    Generated.Tlog.maxpow2 fuel n =
      .ok (((Tlog.maxpow2 n.toNat).1 : Int), ((Tlog.maxpow2 n.toNat).2 : Int)) := by
  unfold Generated.Tlog.maxpow2
  simp only []
  have := maxpow2_loop1_ok n fuel 0 (by omega) h1 (by omega)
  simp only [Int.natCast_zero] at this
  rw [this]
  have hl : Tlog.maxpow2Go 62 n.toNat 0 ≤ 62 := by rw [Tlog.maxpow2Go_eq]; omega
  simp only [mbind_ok, Tlog.maxpow2]
  generalize Tlog.maxpow2Go 62 n.toNat 0 = L at *
  have hp : 2 ^ L ≤ 2 ^ 62 := Nat.pow_le_pow_right (by omega) hl
  rw [toU64_of_range _ (by omega) (by omega), shl_one_natCast]
  simp only [mbind_ok]
  generalize 2 ^ L = K at *
  rw [chk64_ok _ (by omega) (by omega)]
  rfl

theorem maxpow2_ok_sub (fuel : Nat) (lo hi : Nat) (h : lo + 2 ≤ hi) (hf : hi - lo ≤ fuel + 1) :
    Generated.Tlog.maxpow2 fuel ((hi : Int) - (lo : Int)) =
      .ok (((Tlog.maxpow2 (hi - lo)).1 : Int), ((Tlog.maxpow2 (hi - lo)).2 : Int)) := by
  have e : ((hi : Int) - (lo : Int)) = ((hi - lo : Nat) : Int) := by omega
  rw [e, maxpow2_ok fuel _ (by omega) (Or.inr ⟨by omega, by omega⟩)]
  simp

end ModVerif.Tie.FnTlogProof
