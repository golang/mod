/-
  End-of-line comments on the SOURCE text: the source condition `NoMultiLineToken` (no token of the token stream
  `tokensOf x`, other than the newline token, contains a newline byte; decidable).

  The lexer neither reads nor changes the line-identity counter `nextId` (`readToken_withId`), so the lexer states the
  parser reaches (`Reach`, which includes the parser's `setId` steps) are, up to that counter, the states of the pure
  token stream (`LexSeq`); hence under `NoMultiLineToken` no token the parser ever sees, other than the newline token,
  contains a newline byte (`reach_tok_no_nl`).
-/
import ModVerif.Proofs.ModfileC20Lay
namespace ModVerif.Proofs.ModfileSrc
open ModVerif ModVerif.Modfile ModVerif.Proofs.ModfileLex
open ModVerif.Proofs.ModfilePos ModVerif.Proofs.ModfileC20

def withId (n : Nat) (i : Input) : Input := { i with nextId := n }

@[simp] theorem withId_remaining (n : Nat) (i : Input) : (withId n i).remaining = i.remaining := rfl
@[simp] theorem withId_eof (n : Nat) (i : Input) : (withId n i).eof = i.eof := rfl
@[simp] theorem withId_peekRune (n : Nat) (i : Input) : (withId n i).peekRune = i.peekRune := rfl
@[simp] theorem withId_peekPrefix (n : Nat) (i : Input) (p : Bytes) : (withId n i).peekPrefix p = i.peekPrefix p := rfl
@[simp] theorem withId_error (n : Nat) (i : Input) (k : SynErrKind) : (withId n i).error k = i.error k := rfl
@[simp] theorem withId_token (n : Nat) (i : Input) : (withId n i).token = i.token := rfl
@[simp] theorem withId_withId (n m : Nat) (i : Input) : withId n (withId m i) = withId n i := rfl
theorem withId_self (i : Input) : withId i.nextId i = i := rfl
@[simp] theorem withId_startToken (n : Nat) (i : Input) : startToken (withId n i) = withId n (startToken i) := rfl
@[simp] theorem withId_endToken (n : Nat) (k : TokKind) (i : Input) : endToken k (withId n i) = withId n (endToken k i) := rfl

theorem readRune_withId (n : Nat) (i : Input) :
    readRune (withId n i) = (readRune i).map (fun p => (p.1, withId n p.2)) := by
  cases i with
  | mk c r t tok pos cm nid => cases r <;> rfl

theorem skipSpaces_withId (n : Nat) : ∀ (fuel : Nat) (i : Input),
    skipSpaces fuel (withId n i) = (skipSpaces fuel i).map (withId n) := by
  intro fuel
  induction fuel with
  | zero => intro i; rfl
  | succ f ih =>
    intro i
    unfold skipSpaces
    simp only [withId_eof, withId_peekRune, readRune_withId]
    split
    · rfl
    · split
      · cases readRune i with
        | error e => rfl
        | ok v => simp only [Except.map, bind, Except.bind]; exact ih v.2
      · rfl

theorem consumeLine_withId (n : Nat) : ∀ (fuel : Nat) (i : Input),
    consumeLine fuel (withId n i) = (consumeLine fuel i).map (withId n) := by
  intro fuel
  induction fuel with
  | zero => intro i; rfl
  | succ f ih =>
    intro i
    unfold consumeLine
    simp only [withId_eof, readRune_withId]
    split
    · rfl
    · cases readRune i with
      | error e => rfl
      | ok v =>
        simp only [Except.map, bind, Except.bind]
        split
        · rfl
        · exact ih v.2

theorem readString_withId (n q : Nat) : ∀ (fuel : Nat) (i : Input),
    readString q fuel (withId n i) = (readString q fuel i).map (withId n) := by
  intro fuel
  induction fuel with
  | zero => intro i; rfl
  | succ f ih =>
    intro i
    unfold readString
    simp only [withId_eof, withId_peekRune, withId_token, withId_error, readRune_withId]
    split
    · rfl
    · split
      · rfl
      · cases readRune i with
        | error e => rfl
        | ok v =>
          simp only [Except.map, bind, Except.bind]
          split
          · rfl
          · split
            · simp only [withId_eof, withId_token, readRune_withId]
              split
              · rfl
              · cases readRune v.2 with
                | error e => rfl
                | ok w => simp only [Except.map]; exact ih w.2
            · exact ih v.2

theorem readIdent_withId (n : Nat) : ∀ (fuel : Nat) (i : Input),
    readIdent fuel (withId n i) = (readIdent fuel i).map (withId n) := by
  intro fuel
  induction fuel with
  | zero => intro i; rfl
  | succ f ih =>
    intro i
    unfold readIdent
    simp only [withId_peekRune, withId_peekPrefix, withId_error, readRune_withId]
    split
    · split
      · rfl
      · split
        · rfl
        · cases readRune i with
          | error e => rfl
          | ok v => simp only [Except.map, bind, Except.bind]; exact ih v.2
    · rfl

theorem readComment_withId (n : Nat) (i : Input) :
    readComment (withId n i) = (readComment i).map (withId n) := by
  unfold readComment
  simp only [withId_startToken, readRune_withId, bind, Except.bind]
  cases readRune (startToken i) with
  | error e => rfl
  | ok v1 =>
    simp only [Except.map, readRune_withId]
    cases readRune v1.2 with
    | error e => rfl
    | ok v2 =>
      simp only [Except.map, withId_remaining, consumeLine_withId]
      cases consumeLine (v2.2.remaining.length + 1) v2.2 with
      | error e => rfl
      | ok v3 =>
        have hcr : (withId n (startToken i)).consumedRev = (startToken i).consumedRev := rfl
        dsimp only
        simp only [hcr]
        split
        · next hc => first | rfl | (rw [if_pos hc]; rfl)
        · next hc => first | rfl | (rw [if_neg hc]; rfl)

theorem readToken_withId (n : Nat) (i : Input) :
    readToken (withId n i) = (readToken i).map (withId n) := by
  unfold readToken
  simp only [withId_remaining, skipSpaces_withId, bind, Except.bind]
  cases skipSpaces (i.remaining.length + 1) i with
  | error e => rfl
  | ok i0 =>
    simp only [Except.map, withId_eof, withId_peekPrefix, withId_error, readComment_withId, withId_startToken,
      withId_peekRune, readRune_withId, withId_endToken, withId_remaining]
    split
    · rfl
    · split
      · rfl
      · split
        · rfl
        · split
          · cases readRune (startToken i0) with
            | error e => rfl
            | ok v1 => rfl
          · split
            · cases readRune (startToken i0) with
              | error e => rfl
              | ok v1 =>
                simp only [Except.map, withId_remaining, readString_withId]
                cases readString (startToken i0).peekRune (v1.2.remaining.length + 1) v1.2 with
                | error e => rfl
                | ok v2 => rfl
            · split
              · next hc => simp only [hc, ↓reduceIte]
              · next hc =>
                simp only [hc]
                simp only [readIdent_withId]
                cases readIdent ((startToken i0).remaining.length + 1) (startToken i0) with
                | error e => rfl
                | ok v2 => rfl

/-- the tokens `readToken` delivers from state `i` on, up to and including the end-of-input token, or up to the
    first lexical error.  `fuel`: every token other than end-of-input consumes a byte (`readToken_spec`), so one more
    than the number of remaining bytes suffices — `lexSeq_mem`: the token of EVERY state reached by iterating
    `readToken` from `newInput x` is the end-of-input token or occurs in `tokensOf x`. -/
def lexAll : Nat → Input → List Token
  | 0, _ => []
  | fuel + 1, i =>
    match readToken i with
    | .error _ => []
    | .ok i' => i'.token :: (if i'.token.kind = .eof then [] else lexAll fuel i')

def tokensOf (x : Bytes) : List Token := lexAll (x.length + 2) (newInput x)

/-- ★ No token of the input spans two source lines: every token the lexer delivers on `x`, other than the
    newline token itself, has no newline byte in its text.  (Only a double-quoted string with a
    backslash-newline inside can violate this: identifiers, punctuation and back-quoted strings never contain
    a newline, and the newline that ends a `//` comment is not part of its text.) -/
def NoMultiLineToken (x : Bytes) : Prop :=
  ∀ t ∈ tokensOf x, t.kind ≠ .punct 10 → (10 : UInt8) ∉ t.text

instance (x : Bytes) : Decidable (NoMultiLineToken x) := by
  unfold NoMultiLineToken
  infer_instance

/-- the lexer states reached by `readToken` alone -/
inductive LexSeq (data : Bytes) : Input → Prop
  | start {i : Input} : readToken (newInput data) = .ok i → LexSeq data i
  | lex {i i' : Input} : LexSeq data i → readToken i = .ok i' → LexSeq data i'

theorem LexSeq.reach {data : Bytes} {i : Input} (h : LexSeq data i) : Reach data i := by
  induction h with
  | start h => exact Reach.start h
  | lex _ h ih => exact Reach.lex ih h

theorem reach_lexSeq {data : Bytes} {i : Input} (h : Reach data i) : ∃ j, LexSeq data j ∧ i = withId i.nextId j := by
  induction h with
  | start h => exact ⟨_, LexSeq.start h, rfl⟩
  | @lex i i' _ h ih =>
    obtain ⟨j, hj, hij⟩ := ih
    rw [hij, readToken_withId] at h
    cases hr : readToken j with
    | error e => rw [hr] at h; cases h
    | ok j' =>
      rw [hr] at h
      simp only [Except.map, Except.ok.injEq] at h
      refine ⟨j', LexSeq.lex hj hr, ?_⟩
      rw [← h]
      rfl
  | @setId i n _ ih =>
    obtain ⟨j, hj, hij⟩ := ih
    refine ⟨j, hj, ?_⟩
    show ({ i with nextId := n } : Input) = withId n j
    rw [hij]
    rfl

theorem lexAll_succ_ok {f : Nat} {i i' : Input} (h : readToken i = .ok i') :
    lexAll (f + 1) i = i'.token :: (if i'.token.kind = .eof then [] else lexAll f i') := by
  simp only [lexAll, h]

theorem lexSeq_mem {data : Bytes} {j : Input} (h : LexSeq data j) :
    (j.token.kind = .eof → j.remaining = []) ∧
    (j.token.kind = .eof ∨
      (j.token ∈ tokensOf data ∧ ∃ f, j.remaining.length < f ∧ ∀ t ∈ lexAll f j, t ∈ tokensOf data)) := by
  induction h with
  | @start i h =>
    refine ⟨fun hk => ((readToken_lay h).eof hk).1, ?_⟩
    by_cases hk : i.token.kind = .eof
    · exact Or.inl hk
    · right
      have htk : tokensOf data = i.token :: lexAll (data.length + 1) i := by
        unfold tokensOf
        rw [lexAll_succ_ok h, if_neg hk]
      have hlen : i.remaining.length ≤ data.length := by
        rcases readToken_spec (newInput data) with ⟨i2, h2, hle, _, _⟩ | ⟨e, h2, _⟩
        · rw [h] at h2; cases h2; simpa [newInput] using hle
        · rw [h] at h2; cases h2
      refine ⟨by rw [htk]; simp, data.length + 1, by omega, ?_⟩
      intro t ht
      rw [htk]
      exact List.mem_cons_of_mem _ ht
  | @lex i i' hi h ih =>
    refine ⟨fun hk => ((readToken_lay h).eof hk).1, ?_⟩
    obtain ⟨heof, hmem⟩ := ih
    by_cases hk' : i'.token.kind = .eof
    · exact Or.inl hk'
    · right
      rcases hmem with hk | ⟨_, f, hf, hsub⟩
      · exact absurd (readToken_at_eof (heof hk) h) hk'
      · cases f with
        | zero => omega
        | succ f =>
          rw [lexAll_succ_ok h, if_neg hk'] at hsub
          have hlt : i'.remaining.length < i.remaining.length := by
            rcases readToken_spec i with ⟨i2, h2, _, hlt, _⟩ | ⟨e, h2, _⟩
            · rw [h] at h2; cases h2; exact hlt hk'
            · rw [h] at h2; cases h2
          exact ⟨hsub _ (by simp), f, by omega, fun t ht => hsub t (List.mem_cons_of_mem _ ht)⟩

theorem reach_tok_no_nl {data : Bytes} (hN : NoMultiLineToken data) {i : Input} (h : Reach data i)
    (hk : i.token.kind ≠ .punct 10) : (10 : UInt8) ∉ i.token.text := by
  obtain ⟨j, hj, hij⟩ := reach_lexSeq h
  have htok : i.token = j.token := by rw [hij]; rfl
  rw [htok] at hk ⊢
  rcases (lexSeq_mem hj).2 with he | ⟨hm, _⟩
  · rw [(reach_rlay hj.reach).eofText he]
    simp
  · exact hN _ hm hk

end ModVerif.Proofs.ModfileSrc
