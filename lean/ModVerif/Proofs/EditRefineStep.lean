/-
  One step of a go.mod session: `applyMod` refines `EditSpec.step`, and which errors the operations can return.
-/
import ModVerif.Proofs.EditRefineBulk
namespace ModVerif.Modfile.Edit
open ModVerif ModVerif.Modfile ModVerif.EditSpec

/-! ### the only errors that are RETURNED (not panics) come from the three validity checks -/

/-- the computation never fails with a returned error (only with a panic) -/
def NoRet {α : Type} (x : Except EditErr α) : Prop := ∀ err, x = .error err → err.isReturned = false

theorem NoRet.ok {α : Type} (a : α) : NoRet (Except.ok a : Except EditErr α) := fun _ h => nomatch h

theorem NoRet.bind {α β : Type} {x : Except EditErr α} {f : α → Except EditErr β} (hx : NoRet x) (hf : ∀ a, NoRet (f a)) :
    NoRet (x >>= f) := by
  cases x with
  | error err => intro err' h; cases h; exact hx err rfl
  | ok a => exact hf a

theorem NoRet.map {α β : Type} {x : Except EditErr α} (hx : NoRet x) (g : α → β) : NoRet (x.map g) := by
  intro err h
  cases x with
  | error e => exact hx err (by simpa [Except.map] using h)
  | ok a => simp [Except.map] at h

theorem NoRet.ite {α : Type} {c : Prop} [Decidable c] (a : α) : NoRet (if c then Except.ok a else .error .nilDeref) := by
  split
  · exact NoRet.ok a
  · intro err h; cases h; rfl

theorem NoRet.addGodebug (e : EFile) (k v : Bytes) : NoRet (addGodebug e k v) := by
  rw [addGodebug_eq]; exact NoRet.ite _

theorem NoRet.dropGodebug (e : EFile) (k : Bytes) : NoRet (dropGodebug e k) := by
  rw [dropGodebug_eq]; exact NoRet.ite _

theorem NoRet.addRequire (e : EFile) (p v : Bytes) : NoRet (addRequire e p v) := by
  rw [addRequire_eq]; exact NoRet.ite _

theorem NoRet.dropRequire (e : EFile) (p : Bytes) : NoRet (dropRequire e p) := by
  rw [dropRequire_eq]; exact NoRet.ite _

theorem NoRet.dropExclude (e : EFile) (p v : Bytes) : NoRet (dropExclude e p v) := by
  rw [dropExclude_eq]; exact NoRet.ite _

theorem NoRet.addReplace (e : EFile) (a b c d : Bytes) : NoRet (addReplace e a b c d) := by
  rw [addReplace_eq]; exact NoRet.ite _

theorem NoRet.dropReplace (e : EFile) (a b : Bytes) : NoRet (dropReplace e a b) := by
  rw [dropReplace_eq]; exact NoRet.ite _

theorem NoRet.dropRetract (e : EFile) (vi : VersionInterval) : NoRet (dropRetract e vi) := by
  rw [dropRetract_eq]; exact NoRet.ite _

theorem NoRet.dropTool (e : EFile) (p : Bytes) : NoRet (dropTool e p) := by
  rw [dropTool_eq]; exact NoRet.ite _

theorem NoRet.needMap (strict : Bool) (ws : List Want) : ∀ acc, NoRet (needMap strict ws acc) := by
  induction ws with
  | nil => intro acc; exact NoRet.ok _
  | cons w ws ih =>
    intro acc
    unfold Edit.needMap
    split
    · split
      · intro err h; cases h; rfl
      · exact ih _
    · exact ih _

theorem NoRet.setRequireLoop (rs : List Require) : ∀ need syn, NoRet (setRequireLoop rs need syn) := by
  induction rs with
  | nil => intro need syn; exact NoRet.ok _
  | cons r rs ih =>
    intro need syn
    rw [setRequireLoop_step]
    split
    · intro err h; cases h; rfl
    · split <;> exact (ih _ _).map _

theorem NoRet.setRequire (e : EFile) (req : List Want) (perm : List Want → List Want) : NoRet (setRequire e req perm) := by
  unfold Edit.setRequire
  refine NoRet.bind (NoRet.needMap _ _ _) (fun need => NoRet.bind (NoRet.setRequireLoop _ _ _) ?_)
  rintro ⟨a, b, c⟩
  exact NoRet.ok _

theorem NoRet.sepLoop (ctx : SepCtx) (need : List Want) (rs : List Require) :
    ∀ have_ syn next, NoRet (sepLoop ctx need rs have_ syn next) := by
  induction rs with
  | nil => intro have_ syn next; exact NoRet.ok _
  | cons r rs ih =>
    intro have_ syn next
    rw [sepLoop_step]
    split
    · intro err h; cases h; rfl
    · split
      · split <;> exact (ih _ _ _).map _
      · exact (ih _ _ _).map _

theorem NoRet.sepTail (e : EFile) (req : List Want) (perm : List Want → List Want) (ctx : SepCtx) (stmts : List Expr) :
    NoRet (sepTail e req perm ctx stmts) := by
  unfold Edit.sepTail
  refine NoRet.bind (NoRet.needMap _ _ _) (fun need => NoRet.bind (NoRet.sepLoop _ _ _ _ _ _) ?_)
  rintro ⟨a, b, c, d⟩
  exact NoRet.ok _

theorem NoRet.setRequireSeparateIndirect (e : EFile) (req : List Want) (perm : List Want → List Want) :
    NoRet (setRequireSeparateIndirect e req perm) :=
  setRSI_ind e req perm NoRet (fun err h => by cases h; rfl) (fun ctx stmts => NoRet.sepTail e req perm ctx stmts)

/-- the arguments are valid in the sense of the property: keys non-empty, bulk lists with pairwise distinct
    non-empty paths -/
def ValidArgs : Op → Prop
  | .addGodebug k _ => k ≠ []
  | .addRequire p _ => p ≠ []
  | .addNewRequire p _ _ => p ≠ []
  | .setRequire w _ => GoodWant w
  | .setRequireSeparateIndirect w _ => GoodWant w
  | .addExclude p _ => p ≠ []
  | .addReplace op _ _ _ => op ≠ []
  | .addTool p => p ≠ []
  | .addUse d _ => d ≠ []
  | .addNewUse d _ => d ≠ []
  | .setUse w _ => (w.map Prod.fst).Pairwise (· ≠ ·) ∧ ∀ x ∈ w, x.1 ≠ []
  | _ => True

theorem GoodWant.toSpec {w : List Want} (h : GoodWant w) :
    (w.map fun x => (⟨x.path, x.vers, x.indirect⟩ : Req)).Pairwise (fun a b => a.path ≠ b.path) := by
  rw [List.pairwise_map]; exact h.1

theorem ValidArgs.toSpec {op : Op} (h : ValidArgs op) : ValidOp op.toSpec := by
  cases op <;> simp only [Op.toSpec, ValidOp] <;> first | trivial | exact GoodWant.toSpec h | exact h.1

theorem permOf_perm {α : Type} (rev : Bool) (l : List α) : (permOf rev l).Perm l := by
  unfold permOf; cases rev
  · exact List.Perm.refl _
  · exact List.reverse_perm l

/-- the bulk-setter case: both sides are `removeDups` of files that differ only in a `require` list which is, on
    both sides, a permutation of the requested list -/
theorem rel_bulk (f : AbsFile) (l : List Req) (want : List Req) (hl : l.Perm want)
    (hW : want.Pairwise (fun a b => a.path ≠ b.path)) :
    Rel (EditSpec.removeDups { f with require := l })
        (EditSpec.removeDups { f with require := setExact Req.path want f.require }) :=
  Rel.removeDups { Rel.refl f with require := KeyEq.of_perm hl (setExact_perm Req.path want f.require hW) hW }

theorem bulk_refines {e : EFile} {r : Except EditErr EFile} {w : List Want} {op : EditSpec.Op} (hg : GoodWant w) (hn : NoRet r)
    (hop : ∀ f, step mV f op = EditSpec.removeDups { f with require := setExact Req.path (w.map Want.toReq) f.require })
    (hok : stepOk mV (absLive e.f) op = true)
    (h : ∀ e', r = .ok e' → (absLive e'.f).require.Perm (w.map Want.toReq) ∧
      absLive e'.f = EditSpec.removeDups { absLive e.f with require := (absLive e'.f).require } ∧ TInv e') :
    RefinesM e r op := by
  refine ⟨fun e' he => ?_, fun err he hr => by rw [hn err he] at hr; cases hr⟩
  obtain ⟨h1, h2, h3⟩ := h e' he
  refine ⟨hok, ?_, h3⟩
  show Rel (absLive e'.f) (step mV (absLive e.f) op)
  rw [h2, hop]
  exact rel_bulk (absLive e.f) _ _ h1 (GoodWant.toSpec hg)

/-- **One operation of the model refines one step of the specification** (typed lists; retraction rationales
    compared separately): success ⇒ `stepOk` and the new abstract file is the specified one; a returned error ⇒
    `stepOk` is false (and the file is unchanged by `runOps`). -/
theorem applyMod_refines (e : EFile) (op : Op) (hv : ValidArgs op) (hi : TInv e) (r : Except EditErr EFile)
    (h : applyMod e op = some r) : RefinesM e r op.toSpec := by
  cases op <;> simp only [applyMod, Option.some.injEq, reduceCtorEq] at h <;> subst h
  case addModule p => exact addModuleStmt_refines e p hi
  case addGo v => exact addGoStmt_refines e v hi
  case dropGo => exact dropGoStmt_refines e hi
  case addToolchain n => exact addToolchainStmt_refines e n hi
  case dropToolchain => exact dropToolchainStmt_refines e hi
  case addGodebug k v => exact addGodebug_refines e k v hv hi
  case dropGodebug k => exact dropGodebug_refines e k hi
  case addRequire p v => exact addRequire_refines e p v hv hi
  case addNewRequire p v i => exact addNewRequire_refines e p v i hv hi
  case dropRequire p => exact dropRequire_refines e p hi
  case setRequire w rev =>
    exact bulk_refines hv (NoRet.setRequire e w _) (fun _ => rfl) rfl
      (fun e' he => setRequire_abs e e' w (permOf rev) (permOf_perm rev) hv hi he)
  case setRequireSeparateIndirect w rev =>
    exact bulk_refines hv (NoRet.setRequireSeparateIndirect e w _) (fun _ => rfl) rfl
      (fun e' he => setRequireSeparateIndirect_abs e e' w (permOf rev) (permOf_perm rev) hv hi he)
  case addExclude p v => exact addExclude_refines e p v hv hi
  case dropExclude p v => exact dropExclude_refines e p v hi
  case addReplace a b c d => exact addReplace_refines e a b c d hv hi
  case dropReplace a b => exact dropReplace_refines e a b hi
  case addRetract lo hi' why => exact addRetract_refines e lo hi' why hi
  case dropRetract lo hi' => exact dropRetract_refines e lo hi' hi
  case addTool p => exact addTool_refines e p hv hi
  case dropTool p => exact dropTool_refines e p hi
  case sortBlocks => exact Refines.ok rfl (sortBlocks_abs e hi).1 (sortBlocks_abs e hi).2
  case cleanup => exact Refines.ok rfl (cleanup_abs e hi).1 (cleanup_abs e hi).2

end ModVerif.Modfile.Edit
