/-
  Helper lemmas for C06 (and the completeness half of C11): acceptance conditions of
  checkElem / checkElems / checkPath / checkModPath as conjunctions, monotonicity between kinds,
  and the byte-level consequences of validity.
-/
import ModVerif.Model.Module
import ModVerif.Proofs.Utf8
import ModVerif.Proofs.ListLemmas
namespace ModVerif.Module
open ModVerif

theorem ite_error_eq_ok {ε α : Type} {c : Prop} [Decidable c] {e : ε} {r : Except ε α} {a : α} :
    (if c then Except.error e else r) = .ok a ↔ ¬ c ∧ r = .ok a := by
  by_cases h : c <;> simp [h]

theorem ite_ok_eq_ok {ε α : Type} {c : Prop} [Decidable c] {r : Except ε α} {a : α} :
    (if c then Except.ok a else r) = .ok a ↔ c ∨ r = .ok a := by
  by_cases h : c <;> simp [h]

theorem ite_error_of {ε α : Type} (P : ε → Prop) {c : Prop} [Decidable c] {e x : ε} {r : Except ε α}
    (he : P e) (hr : r = .error x → P x) : (if c then Except.error e else r) = .error x → P x := by
  split
  · intro h; injection h with h; exact h ▸ he
  · exact hr

theorem ite_ok_of {ε α : Type} (P : ε → Prop) {c : Prop} [Decidable c] {a : α} {x : ε} {r : Except ε α}
    (hr : r = .error x → P x) : (if c then Except.ok a else r) = .error x → P x := by
  split
  · intro h; cases h
  · exact hr

theorem checkElem_ok_iff (isLetter : Nat → Bool) (kind : Kind) (e : Bytes) :
    checkElem isLetter kind e = .ok () ↔
      e.isEmpty = false ∧ e.all (· == 46) = false ∧ (e.head? == some 46 && kind == .module) = false ∧
      (e.getLast? == some 46) = false ∧
      (Utf8.runes e).all (charOK isLetter kind) = true ∧
      badWindowsNames.any (equalFoldAscii · (shortOf e)) = false ∧
      (kind == .file || !looksLikeShortName (shortOf e)) = true := by
  unfold checkElem
  simp only [ite_error_eq_ok, ite_ok_eq_ok, Bool.not_eq_true, Bool.not_eq_false, Bool.not_eq_true',
    Bool.or_eq_true, and_true]

theorem checkElems_ok_iff (isLetter : Nat → Bool) (kind : Kind) (l : List Bytes) :
    checkElems isLetter kind l = .ok () ↔ ∀ e ∈ l, checkElem isLetter kind e = .ok () := by
  induction l with
  | nil => simp [checkElems]
  | cons e es ih =>
    simp only [checkElems, List.mem_cons, forall_eq_or_imp]
    cases h : checkElem isLetter kind e with
    | error x => simp
    | ok u => simp [ih]

theorem checkPath_ok_iff (isLetter : Nat → Bool) (kind : Kind) (p : Bytes) :
    checkPath isLetter kind p = .ok () ↔
      Utf8.validString p = true ∧ p.isEmpty = false ∧ (p.head? == some 45 && kind != .file) = false ∧
      hasDoubleSlash p = false ∧ (p.getLast? == some 47) = false ∧
      ∀ e ∈ splitOn 47 p, checkElem isLetter kind e = .ok () := by
  unfold checkPath
  simp only [ite_error_eq_ok, checkElems_ok_iff, Bool.not_eq_true, Bool.not_eq_false, Bool.not_eq_true']

theorem checkModPath_ok_iff (p : Bytes) :
    checkModPath p = .ok () ↔
      checkPath (fun _ => false) .module p = .ok () ∧
      (p.takeWhile (· != 47)).isEmpty = false ∧ (p.takeWhile (· != 47)).contains 46 = true ∧
      (p.head? == some 45) = false ∧ (Utf8.runes (p.takeWhile (· != 47))).all firstPathOK = true ∧
      (splitPathVersion p).2.2 = true := by
  unfold checkModPath
  cases h : checkPath (fun _ => false) .module p with
  | error x => simp
  | ok u =>
    simp only [ite_error_eq_ok, Bool.not_eq_true, Bool.not_eq_false, Bool.not_eq_true', true_and,
      and_true]

theorem modPathOK_lt (r : Nat) (h : modPathOK r = true) : r < 128 := by
  unfold modPathOK at h
  split at h
  · assumption
  · simp at h

theorem importPathOK_lt (r : Nat) (h : importPathOK r = true) : r < 128 := by
  unfold importPathOK at h
  simp only [Bool.or_eq_true] at h
  rcases h with h | h
  · exact modPathOK_lt r h
  · simp at h; omega

theorem importPathOK_of_mod (r : Nat) (h : modPathOK r = true) : importPathOK r = true := by
  simp [importPathOK, h]

theorem fileNameOK_of_import (isLetter : Nat → Bool) (r : Nat) (h : importPathOK r = true) :
    fileNameOK isLetter r = true := by
  have hlt := importPathOK_lt r h
  have key : ∀ n, n < 128 → importPathOK n = true → fileNameOK (fun _ => false) n = true := by decide +kernel
  have := key r hlt h
  unfold fileNameOK at this ⊢
  simpa [hlt] using this

theorem checkElem_mono (il1 il2 : Nat → Bool) (k1 k2 : Kind) (e : Bytes)
    (hchar : ∀ r, charOK il1 k1 r = true → charOK il2 k2 r = true)
    (hmod : k2 = .module → k1 = .module) (hfile : k1 = .file → k2 = .file)
    (h : checkElem il1 k1 e = .ok ()) : checkElem il2 k2 e = .ok () := by
  rw [checkElem_ok_iff] at h ⊢
  obtain ⟨h1, h2, h3, h4, h5, h6, h7⟩ := h
  refine ⟨h1, h2, ?_, h4, ?_, h6, ?_⟩
  · cases hk : (k2 == Kind.module)
    · simp
    · have : k1 = .module := hmod (by simpa using hk)
      subst this
      simpa using h3
  · rw [List.all_eq_true] at h5 ⊢
    intro r hr; exact hchar r (h5 r hr)
  · cases hk : (k1 == Kind.file)
    · rw [hk] at h7; simp at h7; simp [h7]
    · have : k2 = .file := hfile (by simpa using hk)
      subst this; simp

theorem checkPath_mono (il1 il2 : Nat → Bool) (k1 k2 : Kind) (p : Bytes)
    (hchar : ∀ r, charOK il1 k1 r = true → charOK il2 k2 r = true)
    (hmod : k2 = .module → k1 = .module) (hfile : k1 = .file → k2 = .file)
    (h : checkPath il1 k1 p = .ok ()) : checkPath il2 k2 p = .ok () := by
  rw [checkPath_ok_iff] at h ⊢
  obtain ⟨h1, h2, h3, h4, h5, h6⟩ := h
  refine ⟨h1, h2, ?_, h4, h5, fun e he => checkElem_mono il1 il2 k1 k2 e hchar hmod hfile (h6 e he)⟩
  cases hk : (k2 != Kind.file)
  · simp
  · have hk1 : (k1 != Kind.file) = true := by
      cases hk1 : (k1 != Kind.file)
      · have : k1 = .file := by simpa using hk1
        have := hfile this
        subst this; simp at hk
      · rfl
    rw [hk1] at h3
    simpa using h3

theorem looksLikeShortName_not_mem (s : Bytes) (h : (126 : UInt8) ∉ s) : looksLikeShortName s = false := by
  simp [looksLikeShortName, afterLastTilde, h]

theorem looksLikeShortName_split (pre suf : Bytes) (h : (126 : UInt8) ∉ suf) :
    looksLikeShortName (pre ++ 126 :: suf) = (!suf.isEmpty && suf.all isDigit) := by
  have hc : (pre ++ 126 :: suf).contains 126 = true := by simp
  have := (revScan (· != 126) pre suf 126 (by simp) fun x hx => by simp; intro e; exact h (e ▸ hx)).1
  simp only [looksLikeShortName, afterLastTilde, hc, if_true, this, List.reverse_reverse]

/-- `ModVerif.splitOn_cons_ne` with head and tail of the split named -/
theorem splitOn_cons_ne_head (sep c : UInt8) (s : Bytes) (h : c ≠ sep) :
    ∃ hd tl, splitOn sep s = hd :: tl ∧ splitOn sep (c :: s) = (c :: hd) :: tl := by
  rw [ModVerif.splitOn_cons_ne sep c s (by simpa using h)]
  cases hs : splitOn sep s with
  | nil => exact absurd hs (splitOn_ne_nil sep s)
  | cons hd tl => exact ⟨hd, tl, rfl, rfl⟩

theorem mem_splitOn_of_mem (sep : UInt8) (s : Bytes) (b : UInt8) (hb : b ∈ s) (hne : b ≠ sep) :
    ∃ e ∈ splitOn sep s, b ∈ e := by
  induction s with
  | nil => cases hb
  | cons c rest ih =>
    by_cases hc : c = sep
    · subst hc
      rw [splitOn_cons_sep]
      have : b ∈ rest := by
        rcases List.mem_cons.mp hb with h | h
        · exact absurd h hne
        · exact h
      obtain ⟨e, he, hbe⟩ := ih this
      exact ⟨e, List.mem_cons_of_mem _ he, hbe⟩
    · obtain ⟨hd, tl, h1, h2⟩ := splitOn_cons_ne_head sep c rest hc
      rw [h2]
      rcases List.mem_cons.mp hb with h | h
      · exact ⟨c :: hd, by simp, by simp [h]⟩
      · obtain ⟨e, he, hbe⟩ := ih h
        rw [h1] at he
        rcases List.mem_cons.mp he with h' | h'
        · subst h'; exact ⟨c :: e, by simp, by simp [hbe]⟩
        · exact ⟨e, by simp [h'], hbe⟩

theorem checkElem_module_bytes (il : Nat → Bool) (e : Bytes) (h : checkElem il .module e = .ok ()) :
    ∀ b ∈ e, modPathOK b.toNat = true := by
  have h5 := ((checkElem_ok_iff il .module e).mp h).2.2.2.2.1
  have : (Utf8.runes e).all modPathOK = true := h5
  rw [Utf8.runes_all_of_ascii_pred modPathOK modPathOK_lt] at this
  intro b hb
  exact List.all_eq_true.mp this b hb

theorem checkModPath_bytes (p : Bytes) (h : checkModPath p = .ok ()) :
    ∀ b ∈ p, b = 47 ∨ modPathOK b.toNat = true := by
  have h1 := ((checkModPath_ok_iff p).mp h).1
  have h6 := ((checkPath_ok_iff _ .module p).mp h1).2.2.2.2.2
  intro b hb
  by_cases hb47 : b = 47
  · exact Or.inl hb47
  · obtain ⟨e, he, hbe⟩ := mem_splitOn_of_mem 47 p b hb hb47
    exact Or.inr (checkElem_module_bytes _ e (h6 e he) b hbe)

theorem modPathOK_not_bang (r : Nat) (h : modPathOK r = true) : r ≠ 33 := by
  intro h33; subst h33; simp [modPathOK] at h

end ModVerif.Module
