/-
  The drop operations of go.work (`WorkFile_DropGodebug`, `WorkFile_DropUse`, `WorkFile_DropReplace`) as instances of
  `FnEditTyped.dropOp_sim`: the unfolding of each regenerated loop is `dropBody`.
-/
import ModVerif.Proofs.TieFnEditReqA
namespace ModVerif.Tie.FnEditWorkB
open ModVerif ModVerif.GoRt ModVerif.Generated.Edit ModVerif.Tie.FnEditRep ModVerif.Tie.FnEditTreeA ModVerif.Tie.FnEditLoop
  ModVerif.Tie.FnEditTyped
open ModVerif.Modfile.Edit (EWork EditErr clearedUse clearedGodebug clearedReplace)

theorem DropGodebug_body (f : Int) (key : Bytes) (rx : List Int) (fuel : Nat) (ri : Int) (h : Heap) :
    WorkFile_DropGodebug_loop1 rx f key (fuel + 1) ri h =
      dropBody wgodebugT (fun _ _ a => pure (decide (a.Key = key))) rx (WorkFile_DropGodebug_loop1 rx f key fuel) ri h := by
  conv => lhs; unfold WorkFile_DropGodebug_loop1
  rfl

theorem WorkFile_DropGodebug_sim {h : Heap} {fp : Int} {e : EWork} (R : RepW h fp e) (key : Bytes) (fuel : Nat)
    (hf : e.f.godebug.length + 1 ≤ fuel) :
    match Modfile.Edit.workDropGodebug e key with
    | .ok e' => ∃ h', WorkFile_DropGodebug fuel fp key h = .ok (none, h') ∧ RepW h' fp e'
    | .error _ => WorkFile_DropGodebug fuel fp key h = .error .panic :=
  tieW <| dropOp_sim workK_ok wgodebugT_ok (cleared := clearedGodebug) rfl rfl (fun g => g.key == key)
    (fun _ _ a => pure (decide (a.Key = key))) (fun _ _ x _ => congrArg Except.ok (FnEditWorkA.bytes_beq_eq_decide _ _).symm)
    (fun fp o => WorkFile_DropGodebug_loop1 o.Godebug fp key) (fun fuel fp => WorkFile_DropGodebug fuel fp key)
    (fun fuel fp h o ho => by simp only [WorkFile_DropGodebug, show heapGet h.works fp = .ok o from ho, bind_ok])
    (fun fp o => DropGodebug_body fp key o.Godebug) R fuel hf

theorem DropUse_body (f : Int) (path : Bytes) (rx : List Int) (fuel : Nat) (ri : Int) (h : Heap) :
    WorkFile_DropUse_loop1 rx f path (fuel + 1) ri h =
      dropBody useT (fun _ _ a => pure (decide (a.Path = path))) rx (WorkFile_DropUse_loop1 rx f path fuel) ri h := by
  conv => lhs; unfold WorkFile_DropUse_loop1
  rfl

theorem WorkFile_DropUse_sim {h : Heap} {fp : Int} {e : EWork} (R : RepW h fp e) (path : Bytes) (fuel : Nat)
    (hf : e.f.use.length + 1 ≤ fuel) :
    match Modfile.Edit.dropUse e path with
    | .ok e' => ∃ h', WorkFile_DropUse fuel fp path h = .ok (none, h') ∧ RepW h' fp e'
    | .error _ => WorkFile_DropUse fuel fp path h = .error .panic :=
  tieW <| dropOp_sim workK_ok useT_ok (cleared := clearedUse) rfl rfl (fun u => u.path == path)
    (fun _ _ a => pure (decide (a.Path = path))) (fun _ _ x _ => congrArg Except.ok (FnEditWorkA.bytes_beq_eq_decide _ _).symm)
    (fun fp o => WorkFile_DropUse_loop1 o.Use fp path) (fun fuel fp => WorkFile_DropUse fuel fp path)
    (fun fuel fp h o ho => by simp only [WorkFile_DropUse, show heapGet h.works fp = .ok o from ho, bind_ok])
    (fun fp o => DropUse_body fp path o.Use) R fuel hf

theorem DropReplace_body (f : Int) (path vers : Bytes) (rx : List Int) (fuel : Nat) (ri : Int) (h : Heap) :
    WorkFile_DropReplace_loop1 rx f path vers (fuel + 1) ri h =
      dropBody wreplaceT (FnEditReqA.mvTest (·.replaces) (·.Old) path vers) rx (WorkFile_DropReplace_loop1 rx f path vers fuel) ri h := by
  conv => lhs; unfold WorkFile_DropReplace_loop1
  rfl

theorem WorkFile_DropReplace_sim {h : Heap} {fp : Int} {e : EWork} (R : RepW h fp e) (oldPath oldVers : Bytes) (fuel : Nat)
    (hf : e.f.replace.length + 1 ≤ fuel) :
    match Modfile.Edit.workDropReplace e oldPath oldVers with
    | .ok e' => ∃ h', WorkFile_DropReplace fuel fp oldPath oldVers h = .ok (none, h') ∧ RepW h' fp e'
    | .error _ => WorkFile_DropReplace fuel fp oldPath oldVers h = .error .panic := by
  have X := dropOp_sim workK_ok wreplaceT_ok (cleared := clearedReplace) rfl rfl
    (fun x => x.old.path == oldPath && x.old.version == oldVers)
    (FnEditReqA.mvTest (·.replaces) (·.Old) oldPath oldVers)
    (fun _ _ x hg => by rw [FnEditReqA.mvTest_eq hg]; simp only [FnEditWorkA.bytes_beq_eq_decide]; rfl)
    (fun fp o => WorkFile_DropReplace_loop1 o.Replace fp oldPath oldVers) (fun fuel fp => WorkFile_DropReplace fuel fp oldPath oldVers)
    (fun fuel fp h o ho => by simp only [WorkFile_DropReplace, show heapGet h.works fp = .ok o from ho, bind_ok])
    (fun fp o => DropReplace_body fp oldPath oldVers o.Replace) R fuel hf
  have hm : Modfile.Edit.workDropReplace e oldPath oldVers = _ := bind_assoc _ _ _
  exact tieW (hm ▸ X)

end ModVerif.Tie.FnEditWorkB
