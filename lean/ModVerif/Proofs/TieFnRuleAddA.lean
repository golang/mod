/-
  The regenerated `File.add` / `WorkFile.add` (Generated/FnRule.lean) against the hand model over `FnRuleRep.RepRS` / `RepWS`:
  what every verb's case uses — the hoisted closures `wrapError` / `errorf` / `wrapModPathError` as functions of the three
  object lists they read, the typed part under an allocation that is linked or appended, token views on `lines` alone —
  and `StepPost`, what one call guarantees: every case ends in `StepPost.build` or one of its corollaries.
-/
import ModVerif.Proofs.TieFnRuleRep
import ModVerif.Proofs.ModfileC20Rule
namespace ModVerif.Tie.FnRuleAddA
open ModVerif ModVerif.GoRt ModVerif.Generated ModVerif.Tie.FnRuleRep
open ModVerif.Drv.GenRule (isPrintI unquoteI laxSubI deprecatedSubI fixG)

/-- `File.add` and `WorkFile.add` at the world parameters the driver (Drv/GenRule.lean) runs them with -/
abbrev FA := Rule.File_add deprecatedSubI Modfile.goVersionRE isPrintI laxSubI Quote.quote Modfile.toolchainRE unquoteI
abbrev WA := Rule.WorkFile_add Modfile.goVersionRE isPrintI Quote.quote Modfile.toolchainRE unquoteI

theorem B_go : B "go" = [103, 111] := by decide +kernel
theorem B_toolchain : B "toolchain" = [116, 111, 111, 108, 99, 104, 97, 105, 110] := by decide +kernel
theorem B_module : B "module" = [109, 111, 100, 117, 108, 101] := by decide +kernel
theorem B_godebug : B "godebug" = [103, 111, 100, 101, 98, 117, 103] := by decide +kernel
theorem B_require : B "require" = [114, 101, 113, 117, 105, 114, 101] := by decide +kernel
theorem B_exclude : B "exclude" = [101, 120, 99, 108, 117, 100, 101] := by decide +kernel
theorem B_replace : B "replace" = [114, 101, 112, 108, 97, 99, 101] := by decide +kernel
theorem B_retract : B "retract" = [114, 101, 116, 114, 97, 99, 116] := by decide +kernel
theorem B_tool : B "tool" = [116, 111, 111, 108] := by decide +kernel
theorem B_use : B "use" = [117, 115, 101] := by decide +kernel

theorem bytes_beq_eq_decide (a b : Bytes) : (a == b) = decide (a = b) := by
  by_cases h : a = b
  · subst h; simp
  · simp [h]

theorem not_addVerbs {verb : Bytes} (hv : Modfile.verbIn verb Modfile.addVerbs = false) :
    verb ≠ [103, 111] ∧ verb ≠ [116, 111, 111, 108, 99, 104, 97, 105, 110] ∧ verb ≠ [109, 111, 100, 117, 108, 101] ∧
    verb ≠ [103, 111, 100, 101, 98, 117, 103] ∧ verb ≠ [114, 101, 113, 117, 105, 114, 101] ∧ verb ≠ [101, 120, 99, 108, 117, 100, 101] ∧
    verb ≠ [114, 101, 112, 108, 97, 99, 101] ∧ verb ≠ [114, 101, 116, 114, 97, 99, 116] ∧ verb ≠ [116, 111, 111, 108] := by
  simp only [Modfile.verbIn, Modfile.addVerbs, List.any_cons, List.any_nil, Bool.or_false, Bool.or_eq_false_iff,
    beq_eq_false_iff_ne, ne_eq, B_go, B_toolchain, B_module, B_godebug, B_require, B_exclude, B_replace, B_retract, B_tool] at hv
  obtain ⟨h1, h2, h3, h4, h5, h6, h7, h8, h9⟩ := hv
  exact ⟨Ne.symm h1, Ne.symm h2, Ne.symm h3, Ne.symm h4, Ne.symm h5, Ne.symm h6, Ne.symm h7, Ne.symm h8, Ne.symm h9⟩

theorem not_workVerbs {verb : Bytes} (hv : Modfile.verbIn verb Modfile.workVerbs = false) :
    verb ≠ [103, 111] ∧ verb ≠ [116, 111, 111, 108, 99, 104, 97, 105, 110] ∧ verb ≠ [103, 111, 100, 101, 98, 117, 103] ∧
    verb ≠ [117, 115, 101] ∧ verb ≠ [114, 101, 112, 108, 97, 99, 101] := by
  simp only [Modfile.verbIn, Modfile.workVerbs, List.any_cons, List.any_nil, Bool.or_false, Bool.or_eq_false_iff,
    beq_eq_false_iff_ne, ne_eq, B_go, B_toolchain, B_godebug, B_use, B_replace] at hv
  obtain ⟨h1, h2, h3, h4, h5⟩ := hv
  exact ⟨Ne.symm h1, Ne.symm h2, Ne.symm h3, Ne.symm h4, Ne.symm h5⟩

theorem laxVerbs_iff (verb : Bytes) : Modfile.verbIn verb Modfile.laxVerbs =
    (decide (verb = ([103, 111] : Bytes)) || decide (verb = ([109, 111, 100, 117, 108, 101] : Bytes)) ||
      decide (verb = ([114, 101, 116, 114, 97, 99, 116] : Bytes)) || decide (verb = ([114, 101, 113, 117, 105, 114, 101] : Bytes))) := by
  simp only [Modfile.verbIn, Modfile.laxVerbs, List.any_cons, List.any_nil, Bool.or_false, B_go, B_module, B_retract, B_require,
    bytes_beq_eq_decide]
  simp only [eq_comm (a := verb), Bool.or_assoc]

theorem heapSet_alloc_new {α : Type} (l : List α) (v v' : α) :
    heapSet (l ++ [v]) ((l.length + 1 : Nat) : Int) v' = .ok (l ++ [v']) := by
  rw [heapSet_of_get v' (heapGet_alloc_new l v)]
  have : ((l.length + 1 : Nat) : Int).toNat - 1 = l.length := by omega
  rw [this, set_alloc_last]

theorem heapGet_alloc_new' {α : Type} (l : List α) (v : α) {p : Int} (hp : p = ((l.length + 1 : Nat) : Int)) :
    heapGet (l ++ [v]) p = .ok v := by subst hp; exact heapGet_alloc_new l v

section closures
variable {h : Rule.Heap} {fp line : Int} {o : Rule.File} {F : Rule.FileSyntax} {L : Rule.Line}

/-- the `Error` value `wrapError` builds -/
def errV (F : Rule.FileSyntax) (L : Rule.Line) (e : Option String) : Rule.Error :=
  { (default : Rule.Error) with Filename := F.Name, Pos := L.Start, Err := e }

/-- the `Error` value `wrapModPathError` builds -/
def errMV (F : Rule.FileSyntax) (L : Rule.Line) (verb modPath : Bytes) (e : Option String) : Rule.Error :=
  { (default : Rule.Error) with Filename := F.Name, Pos := L.Start, ModPath := modPath, Verb := verb, Err := e }

theorem wrapError_eq (ho : heapGet h.mods fp = .ok o) (hF : heapGet h.files o.Syntax = .ok F) (hL : heapGet h.lines line = .ok L)
    (fuel : Nat) (e : Option String) (errs : List Rule.Error) :
    Rule.File_add_wrapError deprecatedSubI Modfile.goVersionRE isPrintI laxSubI Quote.quote Modfile.toolchainRE unquoteI fuel fp line h e errs =
      .ok ((), errs ++ [errV F L e]) := by
  simp [Rule.File_add_wrapError, errV, ho, hF, hL, bind, Except.bind, pure, Except.pure]

theorem errorf_eq (ho : heapGet h.mods fp = .ok o) (hF : heapGet h.files o.Syntax = .ok F) (hL : heapGet h.lines line = .ok L)
    (fuel : Nat) (fmt : Bytes) (a : List Unit) (errs : List Rule.Error) :
    Rule.File_add_errorf deprecatedSubI Modfile.goVersionRE isPrintI laxSubI Quote.quote Modfile.toolchainRE unquoteI fuel fp line h fmt a errs =
      .ok ((), errs ++ [errV F L (some (bytesToStr fmt))]) := by
  simp [Rule.File_add_errorf, wrapError_eq ho hF hL, bind, Except.bind, pure, Except.pure]

theorem wrapModPathError_eq (ho : heapGet h.mods fp = .ok o) (hF : heapGet h.files o.Syntax = .ok F) (hL : heapGet h.lines line = .ok L)
    (fuel : Nat) (verb modPath : Bytes) (e : Option String) (errs : List Rule.Error) :
    Rule.File_add_wrapModPathError deprecatedSubI Modfile.goVersionRE isPrintI laxSubI Quote.quote Modfile.toolchainRE unquoteI fuel fp line verb h
        modPath e errs = .ok ((), errs ++ [errMV F L verb modPath e]) := by
  simp [Rule.File_add_wrapModPathError, errMV, ho, hF, hL, bind, Except.bind, pure, Except.pure]

end closures

section closuresW
variable {h : Rule.Heap} {fp line : Int} {o : Rule.WorkFile} {F : Rule.FileSyntax} {L : Rule.Line}

theorem wrapErrorW_eq (ho : heapGet h.works fp = .ok o) (hF : heapGet h.files o.Syntax = .ok F) (hL : heapGet h.lines line = .ok L)
    (fuel : Nat) (e : Option String) (errs : List Rule.Error) :
    Rule.WorkFile_add_wrapError Modfile.goVersionRE isPrintI Quote.quote Modfile.toolchainRE unquoteI fuel fp line h e errs =
      .ok ((), errs ++ [errV F L e]) := by
  simp [Rule.WorkFile_add_wrapError, errV, ho, hF, hL, bind, Except.bind, pure, Except.pure]

theorem errorfW_eq (ho : heapGet h.works fp = .ok o) (hF : heapGet h.files o.Syntax = .ok F) (hL : heapGet h.lines line = .ok L)
    (fuel : Nat) (fmt : Bytes) (a : List Unit) (errs : List Rule.Error) :
    Rule.WorkFile_add_errorf Modfile.goVersionRE isPrintI Quote.quote Modfile.toolchainRE unquoteI fuel fp line h fmt a errs =
      .ok ((), errs ++ [errV F L (some (bytesToStr fmt))]) := by
  simp [Rule.WorkFile_add_errorf, wrapErrorW_eq ho hF hL, bind, Except.bind, pure, Except.pure]

end closuresW

theorem errV_rep {F : Rule.FileSyntax} {l : Modfile.Line} {e : Option String} {k : Modfile.RuleErrKind} (he : errAbs e k) :
    ErrRep (errV F (lineG l) e) ⟨l.start, k⟩ := ⟨rfl, he⟩

theorem errMV_rep {F : Rule.FileSyntax} {l : Modfile.Line} {verb mp : Bytes} {e : Option String} {k : Modfile.RuleErrKind} (he : errAbs e k) :
    ErrRep (errMV F (lineG l) verb mp e) ⟨l.start, k⟩ := ⟨rfl, he⟩

theorem errAbs_fmt {fmt : Bytes} {k : Modfile.RuleErrKind} (h : bytesToStr fmt ∈ errStrs k) : errAbs (some (bytesToStr fmt)) k :=
  ⟨_, rfl, h⟩

/-! ### the closures read `mods`, `files`, `lines` only -/

/-- `wrapError` / `errorf` on the three object lists they read -/
def errfL (ms : List Rule.File) (fs : List Rule.FileSyntax) (ls : List Rule.Line) (fp line : Int) (e : Option String)
    (errs : List Rule.Error) : M (Unit × List Rule.Error) := do
  let t4 ← heapGet ms fp
  let t5 ← heapGet fs t4.Syntax
  let t6 ← heapGet ls line
  pure ((), errs ++ [({ (default : Rule.Error) with Filename := t5.Name, Pos := t6.Start, Err := e } : Rule.Error)])

def errfML (ms : List Rule.File) (fs : List Rule.FileSyntax) (ls : List Rule.Line) (fp line : Int) (verb modPath : Bytes)
    (e : Option String) (errs : List Rule.Error) : M (Unit × List Rule.Error) := do
  let t4 ← heapGet ms fp
  let t5 ← heapGet fs t4.Syntax
  let t6 ← heapGet ls line
  pure ((), errs ++ [({ (default : Rule.Error) with Filename := t5.Name, Pos := t6.Start, ModPath := modPath, Verb := verb, Err := e } : Rule.Error)])

theorem wrapError_L (fuel : Nat) (fp line : Int) (w : Rule.Heap) (e : Option String) (errs : List Rule.Error) :
    Rule.File_add_wrapError deprecatedSubI Modfile.goVersionRE isPrintI laxSubI Quote.quote Modfile.toolchainRE unquoteI fuel fp line w e errs =
      errfL w.mods w.files w.lines fp line e errs := rfl

theorem errorf_L (fuel : Nat) (fp line : Int) (w : Rule.Heap) (fmt : Bytes) (a : List Unit) (errs : List Rule.Error) :
    Rule.File_add_errorf deprecatedSubI Modfile.goVersionRE isPrintI laxSubI Quote.quote Modfile.toolchainRE unquoteI fuel fp line w fmt a errs =
      errfL w.mods w.files w.lines fp line (some (bytesToStr fmt)) errs := by
  simp only [Rule.File_add_errorf, wrapError_L, errfL, bind, Except.bind, pure, Except.pure]
  cases heapGet w.mods fp with
  | error _ => rfl
  | ok t4 =>
    simp only []
    cases heapGet w.files t4.Syntax with
    | error _ => rfl
    | ok t5 =>
      simp only []
      cases heapGet w.lines line <;> rfl

theorem wrapModPathError_L (fuel : Nat) (fp line : Int) (verb : Bytes) (w : Rule.Heap) (mp : Bytes) (e : Option String) (errs : List Rule.Error) :
    Rule.File_add_wrapModPathError deprecatedSubI Modfile.goVersionRE isPrintI laxSubI Quote.quote Modfile.toolchainRE unquoteI fuel fp line verb w
        mp e errs = errfML w.mods w.files w.lines fp line verb mp e errs := rfl

theorem errfL_eq {ms : List Rule.File} {fs : List Rule.FileSyntax} {ls : List Rule.Line} {fp line : Int} {o : Rule.File}
    {F : Rule.FileSyntax} {L : Rule.Line}
    (ho : heapGet ms fp = .ok o) (hF : heapGet fs o.Syntax = .ok F) (hL : heapGet ls line = .ok L) (e : Option String) (errs : List Rule.Error) :
    errfL ms fs ls fp line e errs = .ok ((), errs ++ [errV F L e]) := by
  simp [errfL, errV, ho, hF, hL, bind, Except.bind, pure, Except.pure]

theorem errfML_eq {ms : List Rule.File} {fs : List Rule.FileSyntax} {ls : List Rule.Line} {fp line : Int} {o : Rule.File}
    {F : Rule.FileSyntax} {L : Rule.Line}
    (ho : heapGet ms fp = .ok o) (hF : heapGet fs o.Syntax = .ok F) (hL : heapGet ls line = .ok L) (verb mp : Bytes) (e : Option String)
    (errs : List Rule.Error) :
    errfML ms fs ls fp line verb mp e errs = .ok ((), errs ++ [errMV F L verb mp e]) := by
  simp [errfML, errMV, ho, hF, hL, bind, Except.bind, pure, Except.pure]

theorem errV_rep' {F : Rule.FileSyntax} {L : Rule.Line} {l : Modfile.Line} (hL : L.Start = posG l.start) {e : Option String}
    {k : Modfile.RuleErrKind} (he : errAbs e k) : ErrRep (errV F L e) ⟨l.start, k⟩ := ⟨hL, he⟩

theorem errMV_rep' {F : Rule.FileSyntax} {L : Rule.Line} {l : Modfile.Line} (hL : L.Start = posG l.start) {verb mp : Bytes} {e : Option String}
    {k : Modfile.RuleErrKind} (he : errAbs e k) : ErrRep (errMV F L verb mp e) ⟨l.start, k⟩ := ⟨hL, he⟩

/-! ### `isIndirect` reads `lines` only -/

def indL (line : Int) (ls : List Rule.Line) : M Bool := do
  let r ← Rule.isIndirect line { (default : Rule.Heap) with lines := ls }
  pure r.1

theorem isIndirect_L (line : Int) (w : Rule.Heap) :
    Rule.isIndirect line w = (do let b ← indL line w.lines; pure (b, w)) := by
  simp only [indL, Rule.isIndirect, bind, Except.bind, pure, Except.pure]
  cases heapGet w.lines line with
  | error _ => rfl
  | ok t1 =>
    simp only []
    split
    · rfl
    · cases idxL t1.Comments.Suffix 0 with
      | error _ => rfl
      | ok t3 =>
        simp only []
        repeat' split
        all_goals first | rfl | (simp_all; done)

section typed
variable {ι : Int → Nat} {h : Rule.Heap} {o : Rule.File} {f : Modfile.File}
/-- `f.Module = &Module{…}` -/
theorem _root_.ModVerif.Tie.FnRuleRep.RepTyped.linkModule (r : RepTyped ι h o f) {x : Rule.Module} {X : Modfile.Module} (hx : moduleR ι h.lines.length x X) (m : List Rule.File) :
    RepTyped ι { h with modules := h.modules ++ [x], mods := m } { o with Module := ((h.modules.length + 1 : Nat) : Int) } { f with module := some X } :=
  { r with module := ⟨x, heapGet_alloc_new _ _, hx⟩ }
/-- `f.Go = &Go{…}` -/
theorem _root_.ModVerif.Tie.FnRuleRep.RepTyped.linkGo (r : RepTyped ι h o f) {x : Rule.Go} {X : Modfile.Go} (hx : goR ι h.lines.length x X) (m : List Rule.File) :
    RepTyped ι { h with gos := h.gos ++ [x], mods := m } { o with Go := ((h.gos.length + 1 : Nat) : Int) } { f with go := some X } :=
  { r with go := ⟨x, heapGet_alloc_new _ _, hx⟩ }
/-- `f.Toolchain = &Toolchain{…}` -/
theorem _root_.ModVerif.Tie.FnRuleRep.RepTyped.linkToolchain (r : RepTyped ι h o f) {x : Rule.Toolchain} {X : Modfile.Toolchain} (hx : toolchainR ι h.lines.length x X) (m : List Rule.File) :
    RepTyped ι { h with toolchains := h.toolchains ++ [x], mods := m } { o with Toolchain := ((h.toolchains.length + 1 : Nat) : Int) } { f with toolchain := some X } :=
  { r with toolchain := ⟨x, heapGet_alloc_new _ _, hx⟩ }
/-- `f.Godebug = append(f.Godebug, &Godebug{…})` -/
theorem _root_.ModVerif.Tie.FnRuleRep.RepTyped.pushGodebug (r : RepTyped ι h o f) {x : Rule.Godebug} {X : Modfile.Godebug} (hx : godebugR ι h.lines.length x X) (m : List Rule.File) :
    RepTyped ι { h with godebugs := h.godebugs ++ [x], mods := m } { o with Godebug := o.Godebug ++ [((h.godebugs.length + 1 : Nat) : Int)] }
      { f with godebug := f.godebug ++ [X] } :=
  { r with godebug := r.godebug.snocAlloc x X hx }
/-- `f.Require = append(f.Require, &Require{…})` -/
theorem _root_.ModVerif.Tie.FnRuleRep.RepTyped.pushRequire (r : RepTyped ι h o f) {x : Rule.Require} {X : Modfile.Require} (hx : requireR ι h.lines.length x X) (m : List Rule.File) :
    RepTyped ι { h with requires := h.requires ++ [x], mods := m } { o with Require := o.Require ++ [((h.requires.length + 1 : Nat) : Int)] }
      { f with require := f.require ++ [X] } :=
  { r with require := r.require.snocAlloc x X hx }
/-- `f.Exclude = append(f.Exclude, &Exclude{…})` -/
theorem _root_.ModVerif.Tie.FnRuleRep.RepTyped.pushExclude (r : RepTyped ι h o f) {x : Rule.Exclude} {X : Modfile.Exclude} (hx : excludeR ι h.lines.length x X) (m : List Rule.File) :
    RepTyped ι { h with excludes := h.excludes ++ [x], mods := m } { o with Exclude := o.Exclude ++ [((h.excludes.length + 1 : Nat) : Int)] }
      { f with exclude := f.exclude ++ [X] } :=
  { r with exclude := r.exclude.snocAlloc x X hx }
/-- `f.Replace = append(f.Replace, &Replace{…})` -/
theorem _root_.ModVerif.Tie.FnRuleRep.RepTyped.pushReplace (r : RepTyped ι h o f) {x : Rule.Replace} {X : Modfile.Replace} (hx : replaceR ι h.lines.length x X) (m : List Rule.File) :
    RepTyped ι { h with replaces := h.replaces ++ [x], mods := m } { o with Replace := o.Replace ++ [((h.replaces.length + 1 : Nat) : Int)] }
      { f with replace := f.replace ++ [X] } :=
  { r with replace := r.replace.snocAlloc x X hx }
/-- `f.Retract = append(f.Retract, &Retract{…})` -/
theorem _root_.ModVerif.Tie.FnRuleRep.RepTyped.pushRetract (r : RepTyped ι h o f) {x : Rule.Retract} {X : Modfile.Retract} (hx : retractR ι h.lines.length x X) (m : List Rule.File) :
    RepTyped ι { h with retracts := h.retracts ++ [x], mods := m } { o with Retract := o.Retract ++ [((h.retracts.length + 1 : Nat) : Int)] }
      { f with retract := f.retract ++ [X] } :=
  { r with retract := r.retract.snocAlloc x X hx }
/-- `f.Tool = append(f.Tool, &Tool{…})` -/
theorem _root_.ModVerif.Tie.FnRuleRep.RepTyped.pushTool (r : RepTyped ι h o f) {x : Rule.Tool} {X : Modfile.Tool} (hx : toolR ι h.lines.length x X) (m : List Rule.File) :
    RepTyped ι { h with tools := h.tools ++ [x], mods := m } { o with Tool := o.Tool ++ [((h.tools.length + 1 : Nat) : Int)] }
      { f with tool := f.tool ++ [X] } :=
  { r with tool := r.tool.snocAlloc x X hx }
/-- the typed part reads only the NUMBER of lines -/
theorem _root_.ModVerif.Tie.FnRuleRep.RepTyped.withLines (r : RepTyped ι h o f) (ls : List Rule.Line) (hn : ls.length = h.lines.length) :
    RepTyped ι { h with lines := ls } o f := by
  obtain ⟨a, b, c, d, e, f, g, i, j⟩ := r
  rw [← hn] at a b c d e f g i j
  exact ⟨a, b, c, d, e, f, g, i, j⟩

theorem _root_.ModVerif.Tie.FnRuleRep.RepTyped.frameEM (r : RepTyped ι h o f) (e : List Rule.Error) (m : List Rule.File) :
    RepTyped ι { h with errors := e, mods := m } o f :=
  { r with }

theorem _root_.ModVerif.Tie.FnRuleRep.ROpt.eq_zero_iff {α β : Type} {objs : List α} {R : α → β → Prop} {p : Int} {x : Option β} (r : ROpt objs R p x) :
    p = 0 ↔ x = none := by
  cases x with
  | none => exact ⟨fun _ => rfl, fun _ => r⟩
  | some x =>
    obtain ⟨o, h1, _⟩ := r
    have := heapGet_pos h1
    constructor
    · intro e; omega
    · intro e; cases e

end typed

/-! ### token views only read and write `lines` -/

def tkToks (r : Rule.TokRef) (ls : List Rule.Line) : M (List Bytes) := do
  let l ← heapGet ls r.owner
  sliceFrom l.Token r.lo
def tkLen (r : Rule.TokRef) (ls : List Rule.Line) : M Int := do
  let t ← tkToks r ls
  pure (GoRt.len t)
def tkGet (r : Rule.TokRef) (i : Int) (ls : List Rule.Line) : M Bytes := do
  let t ← tkToks r ls
  idxL t i
def tkDrop (r : Rule.TokRef) (k : Int) (ls : List Rule.Line) : M Rule.TokRef := do
  let t ← tkToks r ls
  let _ ← sliceFrom t k
  pure { r with lo := r.lo + k }
def tkSet (r : Rule.TokRef) (i : Int) (x : Bytes) (ls : List Rule.Line) : M (List Rule.Line) := do
  let l ← heapGet ls r.owner
  let t ← sliceFrom l.Token r.lo
  let _ ← idxL t i
  let t' ← setIdxL l.Token (r.lo + i) x
  heapSet ls r.owner { l with Token := t' }
def tkMake (p : Int) (k : Int) (ls : List Rule.Line) : M Rule.TokRef := do
  let l ← heapGet ls p
  let _ ← sliceFrom l.Token k
  pure { owner := p, lo := k }

theorem TokRef_len_eq (r : Rule.TokRef) (w : Rule.Heap) : r.len w = tkLen r w.lines := rfl
theorem TokRef_get_eq (r : Rule.TokRef) (i : Int) (w : Rule.Heap) : r.get i w = tkGet r i w.lines := rfl
theorem TokRef_drop_eq (r : Rule.TokRef) (k : Int) (w : Rule.Heap) : r.drop k w = tkDrop r k w.lines := rfl
theorem TokRef_make_eq (p k : Int) (w : Rule.Heap) : Rule.TokRef.make p k w = tkMake p k w.lines := rfl
theorem TokRef_set_eq (r : Rule.TokRef) (i : Int) (x : Bytes) (w : Rule.Heap) :
    r.set i x w = (do let ls ← tkSet r i x w.lines; pure { w with lines := ls }) := by
  simp only [Rule.TokRef.set, tkSet, bind_assoc]

section viewL
variable {h : Rule.Heap} {r : Rule.TokRef} {pre toks : List Bytes}

theorem _root_.ModVerif.Tie.FnRuleRep.TokView.tkLen (v : TokView h r pre toks) : tkLen r h.lines = .ok (toks.length : Int) := by
  rw [← TokRef_len_eq]; exact v.len

theorem _root_.ModVerif.Tie.FnRuleRep.TokView.tkGet (v : TokView h r pre toks) {i : Nat} {t : Bytes} (hi : toks[i]? = some t) : tkGet r (i : Int) h.lines = .ok t := by
  rw [← TokRef_get_eq]; exact v.get hi

theorem _root_.ModVerif.Tie.FnRuleRep.TokView.tkGet0 (v : TokView h r pre toks) {t : Bytes} (hi : toks[0]? = some t) : tkGet r 0 h.lines = .ok t := v.tkGet (i := 0) hi
theorem _root_.ModVerif.Tie.FnRuleRep.TokView.tkGet1 (v : TokView h r pre toks) {t : Bytes} (hi : toks[1]? = some t) : tkGet r 1 h.lines = .ok t := v.tkGet (i := 1) hi

theorem _root_.ModVerif.Tie.FnRuleRep.TokView.tkSet (v : TokView h r pre toks) {i : Nat} (hi : i < toks.length) (x : Bytes) :
    tkSet r (i : Int) x h.lines = .ok (setToksH h r.owner (pre ++ toks.set i x)).lines := by
  have h1 := (v.set hi x).1
  rw [TokRef_set_eq] at h1
  cases hs : FnRuleAddA.tkSet r (i : Int) x h.lines with
  | error e => rw [hs] at h1; cases h1
  | ok ls =>
    rw [hs] at h1
    simp only [bind, Except.bind, pure, Except.pure, Except.ok.injEq] at h1
    rw [← h1]

theorem _root_.ModVerif.Tie.FnRuleRep.TokView.tkSet0 (v : TokView h r pre toks) (hi : 0 < toks.length) (x : Bytes) :
    tkSet r 0 x h.lines = .ok (setToksH h r.owner (pre ++ toks.set 0 x)).lines := v.tkSet (i := 0) hi x
theorem _root_.ModVerif.Tie.FnRuleRep.TokView.tkSet1 (v : TokView h r pre toks) (hi : 1 < toks.length) (x : Bytes) :
    tkSet r 1 x h.lines = .ok (setToksH h r.owner (pre ++ toks.set 1 x)).lines := v.tkSet (i := 1) hi x

end viewL

/-! ### `strings.Cut` with a one-byte separator -/

theorem indexAux_one (c : UInt8) : ∀ (s : Bytes) (k : Nat),
    GoRt.indexAux [c] s k = if s.contains c then ((k + (s.takeWhile (· != c)).length : Nat) : Int) else -1
  | [], k => by simp [GoRt.indexAux]
  | x :: xs, k => by
    unfold GoRt.indexAux
    by_cases hx : x = c
    · subst hx
      simp [isPrefixOfB, List.takeWhile]
    · have h1 : isPrefixOfB [c] (x :: xs) = false := by
        simp only [isPrefixOfB, Bool.and_eq_false_imp, beq_iff_eq]
        intro e; exact absurd e.symm hx
      have h2 : (x != c) = true := by simp [hx]
      have h3 : (x == c) = false := by simp [hx]
      rw [h1, indexAux_one c xs (k + 1)]
      simp only [Bool.false_eq_true, if_false, List.contains_cons, List.takeWhile, h2, List.length_cons]
      have h4 : (c == x) = false := by simp; exact fun e => hx e.symm
      simp only [h4, Bool.false_or]
      split <;> simp <;> omega

theorem cut_one (s : Bytes) (c : UInt8) :
    GoRt.cut s [c] = (match GoStrings.cut s c with | some (k, v) => (k, v, true) | none => (s, [], false)) := by
  unfold GoRt.cut GoStrings.cut GoRt.index
  rw [indexAux_one]
  by_cases hc : s.contains c
  · have h0 : ¬ ((((0 + (s.takeWhile (· != c)).length : Nat) : Int)) < 0) := by omega
    simp only [hc, if_true, h0, if_false]
    have h1 : (((0 + (s.takeWhile (· != c)).length : Nat) : Int)).toNat = (s.takeWhile (· != c)).length := by omega
    rw [h1, take_length_takeWhile, List.length_singleton, ← List.drop_drop, drop_length_takeWhile]
  · have hc' : s.contains c = false := by simpa using hc
    simp only [hc', Bool.false_eq_true, if_false]
    rfl

/-- what one call of `File.add` on the line `l` (object at `lp`; `pre` = its tokens before the argument view) guarantees -/
structure StepPost (ι : Int → Nat) (h : Rule.Heap) (fp : Int) (syn : Modfile.FileSyntax) (lp : Int) (l : Modfile.Line) (pre : List Bytes)
    (res : Modfile.AddState × List Bytes) (errs' : List Rule.Error) (h' : Rule.Heap) : Prop where
  rep : RepRS ι h' fp errs' res.1 (syn.updateLine l.id fun x => { x with token := pre ++ res.2 })
  lines : h'.lines = (setToksH h lp (pre ++ res.2)).lines
  blocks : h'.blocks = h.blocks
  cbs : h'.cbs = h.cbs
  files : h'.files = h.files
  fsyn : ∀ o o', heapGet h.mods fp = .ok o → heapGet h'.mods fp = .ok o' → o'.Syntax = o.Syntax

section step
variable {ι : Int → Nat} {h : Rule.Heap} {fp : Int} {errs : List Rule.Error} {st : Modfile.AddState} {syn : Modfile.FileSyntax}
  {lp : Int} {l : Modfile.Line} {pre : List Bytes}

theorem _root_.ModVerif.Tie.FnRuleRep.RepRS.objs (R : RepRS ι h fp errs st syn) :
    ∃ o es, heapGet h.mods fp = .ok o ∧ heapGet h.files o.Syntax = .ok (fileG syn es) ∧ RepTyped ι h o st.file := by
  obtain ⟨o, ho, rt, es, rs⟩ := R.obj
  exact ⟨o, es, ho, rs.file, rt⟩

theorem StepPost.build (R : RepRS ι h fp errs st syn) (hl : RLine ι h lp l) {o : Rule.File}
    (ho : heapGet h.mods fp = .ok o) {args' : List Bytes}
    {h' : Rule.Heap} {o' : Rule.File} {errs' : List Rule.Error} {st' : Modfile.AddState}
    (ho' : heapGet h'.mods fp = .ok o')
    (hlines : h'.lines = (setToksH h lp (pre ++ args')).lines) (hb : h'.blocks = h.blocks) (hc : h'.cbs = h.cbs) (hf : h'.files = h.files)
    (ht : RepTyped ι h o st.file → RepTyped ι h' o' st'.file ∧ o'.Syntax = o.Syntax)
    (he : ErrsRep errs' st'.errsRev.reverse) : StepPost ι h fp syn lp l pre (st', args') errs' h' := by
  have R1 := R.setToks hl.1 (pre ++ args')
  obtain ⟨o0, ho0, rt, _⟩ := R.obj
  obtain ⟨o1, ho1, _, rs⟩ := R1.obj
  simp only [setToksH_mods] at ho1
  rw [ho] at ho0 ho1; cases ho0; cases ho1
  obtain ⟨rt', hs⟩ := ht rt
  refine ⟨⟨⟨o', ho', rt', ?_⟩, R1.inj.congr (by rw [hlines]), he⟩, hlines, hb, hc, hf, ?_⟩
  · rw [hs, ← hl.2]
    exact rs.congr (by rw [hf]; simp) hlines (by rw [hb]; simp) (by rw [hc]; simp)
  · intro a a' ha ha'
    rw [ho] at ha; rw [ho'] at ha'; cases ha; cases ha'; exact hs

theorem setToksH_same (hl : RLine ι h lp l) {args : List Bytes} (htok : l.token = pre ++ args) : h = setToksH h lp (pre ++ args) := by
  have := setToksH_self hl.1
  rw [lineG_Token, htok] at this
  exact this.symm

theorem lines_same (hl : RLine ι h lp l) {args : List Bytes} (htok : l.token = pre ++ args) : h.lines = (setToksH h lp (pre ++ args)).lines :=
  congrArg (·.lines) (setToksH_same hl htok)

/-- lax mode: the verb is ignored -/
theorem StepPost.skip (R : RepRS ι h fp errs st syn) (hl : RLine ι h lp l) {args : List Bytes} (htok : l.token = pre ++ args) :
    StepPost ι h fp syn lp l pre (st, args) errs h := by
  obtain ⟨o, ho, _, _⟩ := R.obj
  exact StepPost.build R hl ho ho (lines_same hl htok) rfl rfl rfl
    (fun rt => ⟨rt, rfl⟩) R.errs

theorem StepPost.err (R : RepRS ι h fp errs st syn) (hl : RLine ι h lp l) {args : List Bytes} (htok : l.token = pre ++ args)
    {e : Rule.Error} {k : Modfile.RuleErrKind} (he : ErrRep e ⟨l.start, k⟩) :
    StepPost ι h fp syn lp l pre (st.err l.start k, args) (errs ++ [e]) h := by
  obtain ⟨o, ho, _, _⟩ := R.obj
  exact StepPost.build R hl ho ho (lines_same hl htok) rfl rfl rfl
    (fun rt => ⟨rt, rfl⟩) (R.errs.snoc_rev he)

/-- `W` in `skipW`, `errW`: the step rewrites tokens of the line -/
theorem StepPost.skipW (R : RepRS ι h fp errs st syn) (hl : RLine ι h lp l) (args' : List Bytes) :
    StepPost ι h fp syn lp l pre (st, args') errs { h with lines := (setToksH h lp (pre ++ args')).lines } := by
  obtain ⟨o, ho, _, _⟩ := R.obj
  exact StepPost.build R hl ho ho rfl rfl rfl rfl
    (fun rt => ⟨rt.withLines _ (by simp), rfl⟩) R.errs

theorem StepPost.errW (R : RepRS ι h fp errs st syn) (hl : RLine ι h lp l) (args' : List Bytes)
    {e : Rule.Error} {k : Modfile.RuleErrKind} (he : ErrRep e ⟨l.start, k⟩) :
    StepPost ι h fp syn lp l pre (st.err l.start k, args') (errs ++ [e]) { h with lines := (setToksH h lp (pre ++ args')).lines } := by
  obtain ⟨o, ho, _, _⟩ := R.obj
  exact StepPost.build R hl ho ho rfl rfl rfl rfl
    (fun rt => ⟨rt.withLines _ (by simp), rfl⟩) (R.errs.snoc_rev he)

theorem line_after (hl : RLine ι h lp l) (ts : List Bytes) :
    heapGet (setToksH h lp ts).lines lp = .ok { lineG l with Token := ts } := heapGet_setToksH_same hl.1 ts

theorem line_after' (hl : RLine ι h lp l) (ts : List Bytes) :
    heapGet (setToksH h lp ts).lines lp = .ok (lineG { l with token := ts }) := heapGet_setToksH_same hl.1 ts

theorem setToksH_eq_lines (h : Rule.Heap) (p : Int) (ts : List Bytes) : setToksH h p ts = { h with lines := (setToksH h p ts).lines } := by
  unfold setToksH; split <;> rfl

/-- … by `errorf` with a format literal -/
theorem StepPost.errf (R : RepRS ι h fp errs st syn) (hl : RLine ι h lp l) {args : List Bytes} (htok : l.token = pre ++ args)
    {F : Rule.FileSyntax} {fmt : Bytes} {k : Modfile.RuleErrKind} (hk : bytesToStr fmt ∈ errStrs k) :
    StepPost ι h fp syn lp l pre (st.err l.start k, args) (errs ++ [errV F (lineG l) (some (bytesToStr fmt))]) h :=
  StepPost.err R hl htok (errV_rep (errAbs_fmt hk))

end step

end ModVerif.Tie.FnRuleAddA
