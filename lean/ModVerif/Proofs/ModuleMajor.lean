/-
  Helper lemmas for C06: CheckPathMajor against the documented correspondence (PathSpec.MajorMatches).
-/
import ModVerif.Model.Module
import ModVerif.Spec.PathSpec
import ModVerif.Proofs.ModuleSplit
namespace ModVerif.Module
open ModVerif

theorem check_ok_iff (p v : Bytes) :
    check p v = .ok () ↔
      checkModPath p = .ok () ∧ Semver.isValid v = true ∧ checkPathMajor v (splitPathVersion p).2.1 = true := by
  unfold check
  cases h1 : checkModPath p with
  | error x => simp
  | ok u =>
    cases h2 : Semver.isValid v <;> cases h3 : checkPathMajor v (splitPathVersion p).2.1 <;> simp

theorem isPrefixOfB_dotv (maj : Bytes) : isPrefixOfB (B ".v") maj = true ↔ ∃ t, maj = 46 :: 118 :: t := by
  rw [isPrefixOfB_iff, B_dot_v]; simp

/-- the "-unstable" trimming step shared by CheckPathMajor and PathMajorPrefix -/
def trimUnstable (maj : Bytes) : Bytes :=
  if isPrefixOfB (B ".v") maj && hasSuffixB maj (B "-unstable")
  then trimSuffixB maj (B "-unstable") else maj

theorem trimUnstable_cases (maj : Bytes) :
    (trimUnstable maj = maj ∧ ¬ (∃ t, maj = 46 :: 118 :: t ++ B "-unstable")) ∨
    (∃ t, maj = 46 :: 118 :: t ++ B "-unstable" ∧ trimUnstable maj = 46 :: 118 :: t) := by
  unfold trimUnstable
  by_cases h : (isPrefixOfB (B ".v") maj && hasSuffixB maj (B "-unstable")) = true
  · right
    rw [if_pos h]
    simp only [Bool.and_eq_true] at h
    obtain ⟨t, ht⟩ := (isPrefixOfB_dotv maj).mp h.1
    obtain ⟨x, hx⟩ := (hasSuffixB_iff _ _).mp h.2
    -- x = ".v" ++ t' : the suffix "-unstable" cannot overlap ".v"
    have hx2 : ∃ t', x = 46 :: 118 :: t' := by
      rw [hx, B_unstable] at ht
      cases x with
      | nil => simp at ht
      | cons a x1 =>
        cases x1 with
        | nil => simp at ht
        | cons b x2 =>
          simp at ht
          exact ⟨x2, by rw [ht.1, ht.2.1]⟩
    obtain ⟨t', rfl⟩ := hx2
    refine ⟨t', by rw [hx], ?_⟩
    rw [hx, trimSuffixB_append]
  · left
    rw [if_neg h]
    refine ⟨rfl, ?_⟩
    rintro ⟨t, ht⟩
    apply h
    simp only [Bool.and_eq_true]
    exact ⟨(isPrefixOfB_dotv maj).mpr ⟨t ++ B "-unstable", by rw [ht]; rfl⟩,
      (hasSuffixB_iff _ _).mpr ⟨46 :: 118 :: t, by rw [ht]⟩⟩

theorem trimUnstable_of_not_dot {c : UInt8} (h : c ≠ 46) (t : Bytes) : trimUnstable (c :: t) = c :: t := by
  have : isPrefixOfB (B ".v") (c :: t) = false := by simp [B_dot_v, isPrefixOfB, Ne.symm h]
  simp [trimUnstable, this]

theorem trimUnstable_gopkg (n : Bytes) (hn : ∀ d ∈ n, isDigit d = true) (uns : Bool) :
    trimUnstable (46 :: 118 :: (n ++ if uns then B "-unstable" else [])) = 46 :: 118 :: n := by
  cases uns
  · have hs : hasSuffixB (46 :: 118 :: n) (B "-unstable") = false := by
      rcases List.eq_nil_or_concat n with rfl | ⟨x, d, rfl⟩
      · decide +kernel
      · simpa using hasSuffixB_last_digit (46 :: 118 :: x) d (hn d (by simp))
    simp [trimUnstable, hs]
  · rcases trimUnstable_cases (46 :: 118 :: (n ++ B "-unstable")) with ⟨_, hnot⟩ | ⟨t, ht, htr⟩
    · exact absurd ⟨n, by simp⟩ hnot
    · rw [if_pos rfl, htr, List.append_cancel_right (by simpa using ht : n ++ B "-unstable" = t ++ B "-unstable")]

theorem checkPathMajor_eq (v maj : Bytes) :
    checkPathMajor v maj =
      if (isPrefixOfB (B "v0.0.0-") v && trimUnstable maj == B ".v1") = true then true
      else match trimUnstable maj with
        | [] => Semver.major v == B "v0" || Semver.major v == B "v1" || Semver.build v == B "+incompatible"
        | c :: rest => if (c == 47 || c == 46) = true then Semver.major v == rest else false := rfl

theorem checkPathMajor_nil (v : Bytes) :
    checkPathMajor v [] = true ↔ PathSpec.MajorMatches [] v := by
  have h1 : trimUnstable [] = [] := by decide +kernel
  have h2 : (([] : Bytes) == B ".v1") = false := by decide +kernel
  simp [checkPathMajor_eq, PathSpec.MajorMatches, h1, h2, or_assoc]

theorem checkPathMajor_slash (v n : Bytes) :
    checkPathMajor v (47 :: 118 :: n) = true ↔ PathSpec.MajorMatches (47 :: 118 :: n) v := by
  have hB1 : B ".v1" = [46, 118, 49] := by decide +kernel
  simp [checkPathMajor_eq, PathSpec.MajorMatches, trimUnstable_of_not_dot (by decide : (47 : UInt8) ≠ 46), hB1]

theorem checkPathMajor_gopkg (v n : Bytes) (hn : ∀ d ∈ n, PathSpec.isAsciiDigit d.toNat) (uns : Bool) :
    checkPathMajor v (46 :: 118 :: (n ++ if uns then B "-unstable" else [])) = true ↔
      (Semver.major v = 118 :: n ∨ (n = [49] ∧ isPrefixOfB (B "v0.0.0-") v = true)) := by
  have hB1 : B ".v1" = [46, 118, 49] := by decide +kernel
  rw [checkPathMajor_eq, trimUnstable_gopkg n (fun d hd => (isDigit_iff d).mpr (hn d hd)) uns, hB1]
  cases hp : isPrefixOfB (B "v0.0.0-") v
  · simp
  · by_cases h1 : n = [49]
    · simp [h1]
    · simp [h1]

end ModVerif.Module
