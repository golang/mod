/-
  C10 groundwork: `hashFromTile` in closed form (tileForIndex_spec, second half): on true tile data it returns the
  true hash of the index; conversely (collision freedom) a correct result forces the slice that was read to be true.
-/
import ModVerif.Proofs.TileAuthHash
namespace ModVerif.TileAuth
open ModVerif ModVerif.Tlog ModVerif.Tile

/-- start of the hashes of coordinate `(lv, k)` inside its tile (in hashes); they are `2 ^ (lv % h)` many -/
def ts (h lv k : Nat) : Nat := (k % 2 ^ (h - lv % h)) * 2 ^ (lv % h)

/-- tile number of coordinate `(lv, k)` -/
def tnum (h lv k : Nat) : Nat := k / 2 ^ (h - lv % h)

theorem two_pow_split (h lv : Nat) (hh : 0 < h) : 2 ^ h = 2 ^ (h - lv % h) * 2 ^ (lv % h) := by
  have := Nat.mod_lt lv hh
  rw [← Nat.pow_add]; congr 1; omega

/-- the slice starts at the level-`L*h` coordinate `k * 2^r` -/
theorem tnum_ts (h lv k : Nat) (hh : 0 < h) : tnum h lv k * 2 ^ h + ts h lv k = k * 2 ^ (lv % h) := by
  unfold tnum ts
  rw [two_pow_split h lv hh, ← Nat.mul_assoc, ← Nat.add_mul]
  congr 1
  have := Nat.div_add_mod k (2 ^ (h - lv % h))
  rw [Nat.mul_comm] at this
  exact this

theorem ts_le (h lv k : Nat) (hh : 0 < h) : ts h lv k + 2 ^ (lv % h) ≤ 2 ^ h := by
  unfold ts
  rw [two_pow_split h lv hh]
  have := Nat.mod_lt k (Nat.two_pow_pos (h - lv % h))
  have : (k % 2 ^ (h - lv % h) + 1) * 2 ^ (lv % h) ≤ 2 ^ (h - lv % h) * 2 ^ (lv % h) :=
    Nat.mul_le_mul_right _ (by omega)
  rw [Nat.add_mul] at this
  omega

theorem lv_split (h lv : Nat) : lv / h * h + lv % h = lv := by
  have := Nat.div_add_mod lv h
  rw [Nat.mul_comm] at this
  exact this

theorem coord_in_tile (h N lv k : Nat) (hh : 0 < h) (hv : (k + 1) * 2 ^ lv ≤ N) :
    tnum h lv k * 2 ^ h + ts h lv k + 2 ^ (lv % h) ≤ cnt h N (lv / h) := by
  rw [tnum_ts h lv k hh]
  have : (k + 1) * 2 ^ (lv % h) ≤ cnt h N (lv / h) := by
    rw [← valid_iff', lv_split]; exact hv
  rw [Nat.add_mul] at this
  omega

section
variable {H : Type} (node : H → H → H) (T : Nat → Nat → H) (N : Nat)

theorem hashFromTile_eq (t : Tile) (d : List H) (x lv k : Nat) (hh : 0 < t.h)
    (hs : splitStoredHashIndex x = .ok (lv, k)) :
    hashFromTile node t d x =
      if t.h < 1 || t.h > 30 || t.data || t.l ≥ 64 || t.w < 1 || t.w > 2 ^ t.h then .error .badTile
      else if d.length < t.w then .error .badTile
      else if t.l != lv / t.h || t.n != tnum t.h lv k || t.w < ts t.h lv k + 2 ^ (lv % t.h) then .error .badTile
      else tileHash node ((d.take (ts t.h lv k + 2 ^ (lv % t.h))).drop (ts t.h lv k)) := by
  unfold hashFromTile
  rw [tileForIndex_eq t.h x lv k hh hs]
  simp only [bind, Except.bind, ts, tnum, Nat.add_mul, Nat.one_mul]
  rfl

theorem hashFromTile_ok (t : Tile) (d : List H) (x lv k : Nat) (v : H) (hh : 0 < t.h)
    (hs : splitStoredHashIndex x = .ok (lv, k)) (hok : hashFromTile node t d x = .ok v) :
    t.l = lv / t.h ∧ t.n = tnum t.h lv k ∧ ts t.h lv k + 2 ^ (lv % t.h) ≤ t.w ∧ t.w ≤ d.length ∧
      tileHash node ((d.take (ts t.h lv k + 2 ^ (lv % t.h))).drop (ts t.h lv k)) = .ok v := by
  rw [hashFromTile_eq node t d x lv k hh hs] at hok
  split at hok
  · cases hok
  · split at hok
    · cases hok
    · split at hok
      · cases hok
      · rename_i h1 h2 h3
        simp only [Bool.or_eq_true, bne_iff_ne, ne_eq, decide_eq_true_eq, not_or, Decidable.not_not, Nat.not_lt] at h3
        exact ⟨h3.1.1, h3.1.2, h3.2, by omega, hok⟩

theorem hashFromTile_pass (t : Tile) (d : List H) (x lv k : Nat)
    (hs : splitStoredHashIndex x = .ok (lv, k))
    (h1 : 1 ≤ t.h) (h2 : t.h ≤ 30) (h3 : t.data = false) (h4 : t.l < 64) (h5 : 1 ≤ t.w) (h6 : t.w ≤ 2 ^ t.h)
    (h7 : t.w ≤ d.length) (h8 : t.l = lv / t.h) (h9 : t.n = tnum t.h lv k) (h10 : ts t.h lv k + 2 ^ (lv % t.h) ≤ t.w) :
    hashFromTile node t d x = tileHash node ((d.take (ts t.h lv k + 2 ^ (lv % t.h))).drop (ts t.h lv k)) := by
  rw [hashFromTile_eq node t d x lv k (by omega) hs]
  rw [if_neg (by simp [h3]; omega), if_neg (by omega), if_neg (by simp [← h8, ← h9]; omega)]

theorem hashFromTile_good (hstep : StepOK node T N) (t : Tile) (x lv k : Nat)
    (hs : splitStoredHashIndex x = .ok (lv, k)) (hv : (k + 1) * 2 ^ lv ≤ N)
    (h1 : 1 ≤ t.h) (h2 : t.h ≤ 30) (h3 : t.data = false) (h4 : t.l < 64) (h6 : t.w ≤ 2 ^ t.h)
    (h8 : t.l = lv / t.h) (h9 : t.n = tnum t.h lv k) (h10 : ts t.h lv k + 2 ^ (lv % t.h) ≤ t.w) :
    hashFromTile node t (tdata T t.h t.l t.n t.w) x = .ok (T lv k) := by
  have hp := Nat.two_pow_pos (lv % t.h)
  rw [hashFromTile_pass node t _ x lv k hs h1 h2 h3 h4 (by omega) h6 (by rw [tdata_length]; omega) h8 h9 h10]
  rw [tdata_slice T _ _ _ _ _ _ h10, h9, tnum_ts t.h lv k (by omega)]
  apply tileHash_ptree node (lv % t.h) _ _ (by simp)
  rw [h8, ptree_T node T N hstep (lv % t.h) (lv / t.h * t.h) k (by rw [lv_split]; exact hv), lv_split]

theorem hashFromTile_auth (hcf : ∀ a b c d : H, node a b = node c d → a = c ∧ b = d) (hstep : StepOK node T N)
    (t : Tile) (d : List H) (x lv k : Nat) (hh : 0 < t.h)
    (hs : splitStoredHashIndex x = .ok (lv, k)) (hv : (k + 1) * 2 ^ lv ≤ N)
    (hok : hashFromTile node t d x = .ok (T lv k)) :
    ∀ q, ts t.h lv k ≤ q → q < ts t.h lv k + 2 ^ (lv % t.h) → d[q]? = some (T (t.l * t.h) (t.n * 2 ^ t.h + q)) := by
  obtain ⟨h8, h9, h10, h7, hth⟩ := hashFromTile_ok node t d x lv k _ hh hs hok
  have hp := Nat.two_pow_pos (lv % t.h)
  have hlen : ((d.take (ts t.h lv k + 2 ^ (lv % t.h))).drop (ts t.h lv k)).length = 2 ^ (lv % t.h) := by
    rw [List.length_drop, List.length_take, Nat.min_eq_left (by omega)]; omega
  have hp1 := ptree_of_tileHash node (lv % t.h) _ _ hlen hth
  have hp2 := ptree_T node T N hstep (lv % t.h) (lv / t.h * t.h) k (by rw [lv_split]; exact hv)
  rw [lv_split] at hp2
  have heq := ptree_inj node hcf (lv % t.h) _ _ _ hlen (by simp) hp1 hp2
  intro q hq1 hq2
  have : d[q]? = ((d.take (ts t.h lv k + 2 ^ (lv % t.h))).drop (ts t.h lv k))[q - ts t.h lv k]? := by
    rw [List.getElem?_drop, List.getElem?_take, if_pos (by omega)]
    congr 1; omega
  rw [this, heq, List.getElem?_map, List.getElem?_range' (by omega), h8, h9]
  simp only [Option.map_some, Nat.one_mul]
  congr 2
  rw [← tnum_ts t.h lv k hh]
  omega

end
end ModVerif.TileAuth
