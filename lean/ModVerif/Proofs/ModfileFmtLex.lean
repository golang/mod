/-
  What `readToken` delivers and what it reads back.  `TokOK k t`: the texts of the tokens of a line.  `Emit`: the four
  things a call can do after the leading blanks (`readToken_emits`; `lex_emits_LexOK` reads the delivered token off it).
  `relex_one`: a `TokOK` token between blanks and a delimiter is lexed as itself.  `readComment_char`: exactly what
  `readComment` consumes, delivers and records.
-/
import ModVerif.Proofs.ModfileFmtTok
namespace ModVerif.Proofs.ModfileFmtLex
open ModVerif ModVerif.Modfile ModVerif.Proofs.ModfileLex ModVerif.Proofs.ModfileFmtUtf8
open ModVerif.Proofs.ModfileFmtTok ModVerif.Proofs.ModfileScan

/-- the punctuation bytes other than newline -/
def punctBytes : List UInt8 := [40, 41, 91, 93, 123, 125, 44]

/-- `t` is the text of a token of kind `k` that can occur in a line -/
inductive TokOK : TokKind → Bytes → Prop
  | punct (c : UInt8) (hc : c ∈ punctBytes) : TokOK (.punct c) [c]
  | string (q : UInt8) (a : Bytes) (hq : q = 34 ∨ q = 96) (hb : StrBody q.toNat a) : TokOK .string (q :: a)
  | ident (a : Bytes) (hne : a ≠ []) (hb : IdentBody a)
      (hnq : quoteRunes.contains (Utf8.decodeRune a).1 = false) : TokOK .ident a

def CommentOK (t : Bytes) : Prop := isPrefixOfB [47, 47] t = true ∧ (10 : UInt8) ∉ t

/-- everything `readToken` can deliver -/
inductive LexOK : TokKind → Bytes → Prop
  | eof : LexOK .eof []
  | newline : LexOK (.punct 10) [10]
  | comment (t : Bytes) (h : CommentOK t) : LexOK .comment t
  | eolComment (t : Bytes) (h : CommentOK t) : LexOK .eolComment t
  | tok (k : TokKind) (t : Bytes) (h : TokOK k t) : LexOK k t

def isBlank (b : UInt8) : Bool := b == 32 || b == 9 || b == 13

theorem isBlank_cases {b : UInt8} (h : isBlank b = true) : b = 32 ∨ b = 9 ∨ b = 13 := by
  simpa [isBlank, or_assoc] using h

theorem peek_not_blank (b : UInt8) (t : Bytes) (hb : isBlank b = false) :
    let c := (Utf8.decodeRune (b :: t)).1
    (c == 32 || c == 9 || c == 13) = false := by
  intro c
  by_cases hlt : b.toNat < 0x80
  · have hc : c = b.toNat := by
      show (Utf8.decodeRune (b :: t)).1 = _
      rw [decodeRune_ascii b t hlt]
    rw [hc]
    simp only [isBlank, Bool.or_eq_false_iff, beq_eq_false_iff_ne, ne_eq] at hb
    obtain ⟨⟨h1, h2⟩, h3⟩ := hb
    have e1 : b.toNat ≠ 32 := fun h => h1 (UInt8.toNat_inj.1 (by simpa using h))
    have e2 : b.toNat ≠ 9 := fun h => h2 (UInt8.toNat_inj.1 (by simpa using h))
    have e3 : b.toNat ≠ 13 := fun h => h3 (UInt8.toNat_inj.1 (by simpa using h))
    simp [e1, e2, e3]
  · have := (decodeRune_nonascii b t (by omega)).1
    have e1 : c ≠ 32 := by show (Utf8.decodeRune (b :: t)).1 ≠ 32; omega
    have e2 : c ≠ 9 := by show (Utf8.decodeRune (b :: t)).1 ≠ 9; omega
    have e3 : c ≠ 13 := by show (Utf8.decodeRune (b :: t)).1 ≠ 13; omega
    simp [e1, e2, e3]

theorem skipSpaces_relex : ∀ (ws rest : Bytes), (∀ b ∈ ws, isBlank b = true) →
    (∀ b ∈ rest.head?, isBlank b = false) → ∀ (fuel : Nat) (i : Input), i.remaining = ws ++ rest →
    ws.length < fuel → ∃ i', skipSpaces fuel i = .ok i' ∧ Adv i i' ws := by
  intro ws
  induction ws with
  | nil =>
    intro rest _ hrest fuel i hi hf
    obtain ⟨n, rfl⟩ : ∃ n, fuel = n + 1 := ⟨fuel - 1, by omega⟩
    unfold skipSpaces
    cases he : i.eof with
    | true => exact ⟨i, by simp, Adv.refl _⟩
    | false =>
      simp only [Bool.false_eq_true, if_false]
      have hne := (eof_false_iff i).1 he
      simp only [List.nil_append] at hi
      cases hr : rest with
      | nil => rw [hi, hr] at hne; exact absurd rfl hne
      | cons b t =>
        have hb : isBlank b = false := hrest b (by rw [hr]; simp)
        have := peek_not_blank b t hb
        rw [peekRune_eq hne, hi, hr]
        simp only at this
        simp only [this, Bool.false_eq_true, if_false]
        exact ⟨i, rfl, Adv.refl _⟩
  | cons b ws ih =>
    intro rest hws hrest fuel i hi hf
    obtain ⟨n, rfl⟩ : ∃ n, fuel = n + 1 := ⟨fuel - 1, by omega⟩
    have hb := isBlank_cases (hws b (by simp))
    have hlt : b.toNat < 0x80 := by rcases hb with h | h | h <;> subst h <;> decide
    have hne : i.remaining ≠ [] := by rw [hi]; simp
    have hdec : Utf8.decodeRune i.remaining = (b.toNat, 1) := by
      rw [hi]; exact decodeRune_ascii b _ hlt
    obtain ⟨i1, hr1, hadv1, hrem1⟩ := readRune_adv i hne
    rw [hdec] at hr1 hadv1 hrem1
    have hrem1' : i1.remaining = ws ++ rest := by rw [hrem1, hi]; rfl
    have htake : i.remaining.take 1 = [b] := by rw [hi]; rfl
    obtain ⟨i', hr', hadv'⟩ := ih rest (fun c hc => hws c (by simp [hc])) hrest n i1 hrem1' (by simp at hf; omega)
    unfold skipSpaces
    have he : i.eof = false := (eof_false_iff i).2 hne
    have hc : (i.peekRune == 32 || i.peekRune == 9 || i.peekRune == 13) = true := by
      rw [peekRune_eq hne, hdec]
      rcases hb with h | h | h <;> subst h <;> decide
    simp only [he, Bool.false_eq_true, if_false, hc, if_true, hr1, bind, Except.bind, hr']
    refine ⟨i', rfl, ?_⟩
    have := hadv1.trans hadv'
    rwa [htake] at this

/-- the bytes `consumeLine` consumes: up to and including the first newline, or everything -/
def lineOf : Bytes → Bytes
  | [] => []
  | b :: t => if b = 10 then [10] else b :: lineOf t

theorem lineOf_append (x y : Bytes) (hx : (10 : UInt8) ∉ x) : lineOf (x ++ y) = x ++ lineOf y := by
  induction x with
  | nil => rfl
  | cons b t ih =>
    have hb : b ≠ 10 := fun h => hx (by simp [h])
    simp only [List.cons_append, lineOf, hb, if_false]
    rw [ih (fun h => hx (by simp [h]))]

theorem lineOf_length_le (s : Bytes) : (lineOf s).length ≤ s.length := by
  induction s with
  | nil => simp [lineOf]
  | cons b t ih =>
    simp only [lineOf]
    split <;> simp <;> omega

theorem consumeLine_char : ∀ (fuel : Nat) (i : Input), i.remaining.length < fuel →
    ∃ i', consumeLine fuel i = .ok i' ∧ Adv i i' (lineOf i.remaining) := by
  intro fuel
  induction fuel with
  | zero => intro i h; omega
  | succ n ih =>
    intro i h
    unfold consumeLine
    cases he : i.eof with
    | true =>
      have : i.remaining = [] := by
        unfold Input.eof at he
        cases hr : i.remaining with
        | nil => rfl
        | cons _ _ => rw [hr] at he; cases he
      refine ⟨i, by simp, ?_⟩
      rw [this]; exact Adv.refl _
    | false =>
      simp only [Bool.false_eq_true, if_false]
      have hne := (eof_false_iff i).1 he
      obtain ⟨i1, hr1, hadv1, hrem1⟩ := readRune_adv i hne
      simp only [hr1, bind, Except.bind]
      obtain ⟨b, t, hbt⟩ : ∃ b t, i.remaining = b :: t := by
        cases hr : i.remaining with
        | nil => exact absurd hr hne
        | cons b t => exact ⟨b, t, rfl⟩
      have hnl := decodeRune_newline b t
      rw [← hbt] at hnl
      by_cases h10 : (Utf8.decodeRune i.remaining).1 = 10
      · obtain ⟨hb, hw⟩ := hnl.1 h10
        simp only [h10, beq_self_eq_true, if_true]
        refine ⟨i1, rfl, ?_⟩
        have : lineOf i.remaining = i.remaining.take (Utf8.decodeRune i.remaining).2 := by
          rw [hw, hbt, hb]; rfl
        rw [this]; exact hadv1
      · have : ((Utf8.decodeRune i.remaining).1 == 10) = false := by simpa using h10
        simp only [this, Bool.false_eq_true, if_false]
        have hw := decodeRune_width i.remaining hne
        obtain ⟨i', hr', hadv'⟩ := ih i1 (by rw [hrem1]; simp only [List.length_drop]; omega)
        refine ⟨i', hr', ?_⟩
        have hl : lineOf i.remaining = i.remaining.take (Utf8.decodeRune i.remaining).2 ++ lineOf i1.remaining := by
          rw [hrem1, ← lineOf_append _ _ (fun hh => hnl.2 h10 10 hh rfl), List.take_append_drop]
        rw [hl]
        exact hadv1.trans hadv'

/-- remove one trailing LF or CRLF (what `endToken` does to comment tokens) -/
def stripRev : Bytes → Bytes
  | 10 :: 13 :: r => r
  | 10 :: r => r
  | r => r

def stripEOL (s : Bytes) : Bytes := (stripRev s.reverse).reverse

theorem peekPrefix_slashes {i : Input} (hp : i.peekPrefix [47, 47] = true) : ∃ t, i.remaining = 47 :: 47 :: t := by
  unfold Input.peekPrefix at hp
  cases hr : i.remaining with
  | nil => rw [hr] at hp; simp [isPrefixOfB] at hp
  | cons a r1 =>
    rw [hr] at hp
    cases r1 with
    | nil => simp [isPrefixOfB] at hp
    | cons b r2 =>
      simp [isPrefixOfB] at hp
      exact ⟨r2, by rw [← hp.1, ← hp.2]⟩

theorem readComment_char (i : Input) (hp : i.peekPrefix [47, 47] = true) :
    ∃ i', readComment i = .ok i' ∧
      i.remaining = lineOf i.remaining ++ i'.remaining ∧
      i'.consumedRev = (lineOf i.remaining).reverse ++ i.consumedRev ∧
      i'.nextId = i.nextId ∧
      i'.token.text = stripEOL (lineOf i.remaining) ∧
      (let suffix := !(GoStrings.trimSpace (i.consumedRev.takeWhile (· != 10)).reverse).isEmpty
       i'.token.kind = (if suffix then TokKind.eolComment else TokKind.comment) ∧
       i'.commentsRev = if suffix then
           ({ start := i'.token.pos, token := i'.token.text, suffix := true } : Comment) :: i.commentsRev
         else i.commentsRev) := by
  obtain ⟨t, ht⟩ := peekPrefix_slashes hp
  unfold readComment
  have hne0 : (startToken i).remaining ≠ [] := by simp [ht]
  obtain ⟨i1, hr1, hadv1, hrem1⟩ := readRune_adv (startToken i) hne0
  have hdec0 : Utf8.decodeRune (startToken i).remaining = (47, 1) := by
    rw [startToken_remaining, ht]; exact decodeRune_ascii 47 _ (by decide)
  rw [hdec0] at hr1 hadv1 hrem1
  have hrem1' : i1.remaining = 47 :: t := by rw [hrem1, startToken_remaining, ht]; rfl
  have hne1 : i1.remaining ≠ [] := by rw [hrem1']; simp
  obtain ⟨i2, hr2, hadv2, hrem2⟩ := readRune_adv i1 hne1
  have hdec1 : Utf8.decodeRune i1.remaining = (47, 1) := by
    rw [hrem1']; exact decodeRune_ascii 47 _ (by decide)
  rw [hdec1] at hr2 hadv2 hrem2
  have hrem2' : i2.remaining = t := by rw [hrem2, hrem1']; rfl
  obtain ⟨i3, hr3, hadv3⟩ := consumeLine_char (i2.remaining.length + 1) i2 (by omega)
  have hadv := (hadv1.trans hadv2).trans hadv3
  have hbytes : (startToken i).remaining.take 1 ++ i1.remaining.take 1 ++ lineOf i2.remaining = lineOf i.remaining := by
    rw [startToken_remaining, ht, hrem1', hrem2']
    simp [lineOf]
  rw [hbytes] at hadv
  have htok : i3.tokRev = (lineOf i.remaining).reverse := by
    have := hadv.tok
    simpa [startToken] using this
  simp only [hr1, hr2, hr3, bind, Except.bind]
  have hrem : i.remaining = lineOf i.remaining ++ i3.remaining := by
    have := hadv.rem; simpa using this
  have hcons : i3.consumedRev = (lineOf i.remaining).reverse ++ i.consumedRev := by
    have := hadv.cons; simpa [startToken] using this
  have hnext : i3.nextId = i.nextId := by
    have := hadv.nextId; simpa using this
  have hcomm : i3.commentsRev = i.commentsRev := by
    have := hadv.comments; simpa using this
  have htext : ∀ k : TokKind, k.isComment = true → (endToken k i3).token.text = stripEOL (lineOf i.remaining) := by
    intro k hk
    simp only [endToken, hk, if_true, htok, stripEOL]
    rfl
  have hsc : (startToken i).consumedRev = i.consumedRev := rfl
  cases hs : (!(GoStrings.trimSpace (List.takeWhile (fun x => x != 10) i.consumedRev).reverse).isEmpty) with
  | false =>
    simp only [hsc, hs, Bool.not_false, if_true, Bool.false_eq_true, if_false]
    exact ⟨_, rfl, hrem, hcons, hnext, htext .comment rfl, rfl, hcomm⟩
  | true =>
    simp only [hsc, hs, Bool.not_true, Bool.false_eq_true, if_false, if_true]
    refine ⟨_, rfl, hrem, hcons, hnext, htext .eolComment rfl, rfl, ?_⟩
    show _ :: i3.commentsRev = _
    rw [hcomm]

theorem lineOf_no_newline_strip (s : Bytes) : (10 : UInt8) ∉ stripEOL (lineOf s) := by
  -- `lineOf s` is a newline-free string, optionally followed by one newline
  have key : ∀ s : Bytes, ∃ body, (10 : UInt8) ∉ body ∧ (lineOf s = body ∨ lineOf s = body ++ [10]) := by
    intro s
    induction s with
    | nil => exact ⟨[], by simp, Or.inl rfl⟩
    | cons b t ih =>
      simp only [lineOf]
      split
      · exact ⟨[], by simp, Or.inr rfl⟩
      · rename_i hb
        obtain ⟨body, hbody, h⟩ := ih
        refine ⟨b :: body, ?_, ?_⟩
        · simp only [List.mem_cons, not_or]
          exact ⟨fun h => hb h.symm, hbody⟩
        · rcases h with h | h
          · exact Or.inl (by rw [h])
          · exact Or.inr (by rw [h]; rfl)
  obtain ⟨body, hbody, h⟩ := key s
  have hrev : (10 : UInt8) ∉ body.reverse := by simpa using hbody
  rcases h with h | h
  · rw [h]
    unfold stripEOL stripRev
    split
    · rename_i r heq; rw [heq] at hrev; simp at hrev
    · rename_i r heq; rw [heq] at hrev; simp at hrev
    · simpa using hbody
  · rw [h]
    unfold stripEOL stripRev
    have hr : (body ++ [10]).reverse = 10 :: body.reverse := by simp
    rw [hr]
    split
    · rename_i r heq
      simp only [List.cons.injEq, true_and] at heq
      intro hmem
      apply hrev
      rw [heq]
      simp only [List.mem_reverse] at hmem
      simp [hmem]
    · rename_i r _ heq
      simp only [List.cons.injEq, true_and] at heq
      intro hmem
      apply hrev
      rw [heq]
      simpa using hmem
    · rename_i h1 h2
      exact absurd rfl (h2 body.reverse)

theorem isIdent_not_punct {c : Nat} (h : isIdent c = true) : isPunct c = false := by
  cases hp : isPunct c with
  | false => rfl
  | true =>
    exfalso
    have : c = 10 ∨ c = 40 ∨ c = 41 ∨ c = 91 ∨ c = 93 ∨ c = 123 ∨ c = 125 ∨ c = 44 := by
      simpa [isPunct, punctRunes] using hp
    rcases this with h' | h' | h' | h' | h' | h' | h' | h' <;> subst h' <;> revert h <;> decide

theorem punctBytes_cases {c : UInt8} (h : c ∈ punctBytes) :
    c = 40 ∨ c = 41 ∨ c = 91 ∨ c = 93 ∨ c = 123 ∨ c = 125 ∨ c = 44 := by
  simpa [punctBytes] using h

theorem TokOK.ne_nil {k : TokKind} {t : Bytes} (h : TokOK k t) : t ≠ [] := by
  cases h <;> simp_all

theorem TokOK.head_not_blank {k : TokKind} {t : Bytes} (h : TokOK k t) : ∀ b ∈ t.head?, isBlank b = false := by
  cases h with
  | punct c hc =>
    intro b hb; simp at hb; subst hb
    rcases punctBytes_cases hc with h | h | h | h | h | h | h <;> subst h <;> decide
  | string q a hq hb =>
    intro b hb; simp at hb; subst hb
    rcases hq with h | h <;> subst h <;> decide
  | ident _ hne hbody hnq =>
    intro b hb
    cases t with
    | nil => exact absurd rfl hne
    | cons c t' =>
      simp at hb; subst hb
      cases hbl : isBlank c with
      | false => rfl
      | true =>
        exfalso
        cases hbody with
        | cons _ hid _ _ _ =>
          have hc := isBlank_cases hbl
          have hlt : c.toNat < 0x80 := by rcases hc with h | h | h <;> subst h <;> decide
          rw [decodeRune_ascii c t' hlt] at hid
          rcases hc with h | h | h <;> subst h <;> revert hid <;> decide

theorem TokOK.no_comment_start {k : TokKind} {t : Bytes} (h : TokOK k t) (rest : Bytes)
    (hrest : DelimStart rest ∨ ∃ c, k = .punct c) :
    isPrefixOfB [47, 47] (t ++ rest) = false ∧ isPrefixOfB [47, 42] (t ++ rest) = false := by
  cases h with
  | punct c hc =>
    rcases punctBytes_cases hc with h | h | h | h | h | h | h <;> subst h <;> simp [isPrefixOfB]
  | string q a hq hb =>
    rcases hq with h | h <;> subst h <;> simp [isPrefixOfB]
  | ident _ hne hb hnq =>
    have hd : DelimStart rest := by
      rcases hrest with h | ⟨c, h⟩
      · exact h
      · cases h
    cases hb with
    | nil => exact absurd rfl hne
    | cons _ _ h1 h2 _ =>
      constructor
      · cases hh : isPrefixOfB [47, 47] (t ++ rest) with
        | false => rfl
        | true =>
          rcases isPrefixOfB_two_append hne hh with h | ⟨_, h⟩
          · rw [h] at h1; cases h1
          · exact absurd h (hd.head_ne (by decide))
      · cases hh : isPrefixOfB [47, 42] (t ++ rest) with
        | false => rfl
        | true =>
          rcases isPrefixOfB_two_append hne hh with h | ⟨_, h⟩
          · rw [h] at h2; cases h2
          · exact absurd h (hd.head_ne (by decide))

/-- ★ C02 stage (ii) (`Props.C02.relex_one`); after a punctuation token nothing is asked of what follows -/
theorem relex_one {k : TokKind} {t : Bytes} (hk : TokOK k t) (ws rest : Bytes)
    (hws : ∀ b ∈ ws, isBlank b = true) (hrest : DelimStart rest ∨ ∃ c, k = .punct c)
    (i : Input) (hi : i.remaining = ws ++ (t ++ rest)) :
    ∃ i', readToken i = .ok i' ∧ i'.token.kind = k ∧ i'.token.text = t ∧ i'.remaining = rest ∧
      i'.consumedRev = (ws ++ t).reverse ++ i.consumedRev ∧
      i'.commentsRev = i.commentsRev ∧ i'.nextId = i.nextId := by
  have htne := hk.ne_nil
  have hhead : ∀ b ∈ (t ++ rest).head?, isBlank b = false := by
    intro b hb
    apply hk.head_not_blank b
    cases t with
    | nil => exact absurd rfl htne
    | cons c t' => simpa using hb
  obtain ⟨i0, hs0, hadv0⟩ := skipSpaces_relex ws (t ++ rest) hws hhead (i.remaining.length + 1) i hi
    (by rw [hi]; simp only [List.length_append]; omega)
  have hrem0 : i0.remaining = t ++ rest := hadv0.rem_of hi
  have hne0 : i0.remaining ≠ [] := by rw [hrem0]; simp [htne]
  have heof0 : i0.eof = false := (eof_false_iff i0).2 hne0
  obtain ⟨hc1, hc2⟩ := hk.no_comment_start rest hrest
  unfold readToken
  simp only [hs0, bind, Except.bind, heof0, Input.peekPrefix, hrem0, hc1, hc2, Bool.not_false, Bool.and_false,
    Bool.false_eq_true, if_false]
  have hj : (startToken i0).remaining = t ++ rest := hrem0
  have hjeof : (startToken i0).eof = false := heof0
  simp only [hjeof, Bool.false_eq_true, if_false]
  have hfin : ∀ (i2 : Input) (k' : TokKind), k'.isComment = false → Adv (startToken i0) i2 t →
      (endToken k' i2).token.kind = k' ∧ (endToken k' i2).token.text = t ∧ (endToken k' i2).remaining = rest ∧
      (endToken k' i2).consumedRev = (ws ++ t).reverse ++ i.consumedRev ∧
      (endToken k' i2).commentsRev = i.commentsRev ∧ (endToken k' i2).nextId = i.nextId := by
    intro i2 k' hk' hadv
    refine ⟨rfl, ?_, ?_, ?_, ?_, ?_⟩
    · have := hadv.tok
      simp only [endToken, hk', Bool.false_eq_true, if_false, this]
      simp [startToken]
    · exact hadv.rem_of hj
    · show i2.consumedRev = _
      rw [hadv.cons]
      show t.reverse ++ i0.consumedRev = _
      rw [hadv0.cons]; simp
    · show i2.commentsRev = _
      rw [hadv.comments]
      show i0.commentsRev = _
      exact hadv0.comments
    · show i2.nextId = _
      rw [hadv.nextId]
      show i0.nextId = _
      exact hadv0.nextId
  cases hk with
  | punct c hc =>
    have hlt : c.toNat < 0x80 := by
      rcases punctBytes_cases hc with h | h | h | h | h | h | h <;> subst h <;> decide
    have hne : (startToken i0).remaining ≠ [] := by rw [hj]; simp
    have hdec : Utf8.decodeRune (startToken i0).remaining = (c.toNat, 1) := by
      rw [hj]; exact decodeRune_ascii c _ hlt
    have hpk : (startToken i0).peekRune = c.toNat := by rw [peekRune_eq hne, hdec]
    have hpunct : isPunct c.toNat = true := by
      rcases punctBytes_cases hc with h | h | h | h | h | h | h <;> subst h <;> decide
    obtain ⟨i1, hr1, hadv1, _⟩ := readRune_adv (startToken i0) hne
    rw [hdec] at hr1 hadv1
    have : (startToken i0).remaining.take 1 = [c] := by rw [hj]; rfl
    simp only [this] at hadv1
    simp only [hpk, hpunct, if_true, hr1]
    have hkk : TokKind.punct (UInt8.ofNat c.toNat) = TokKind.punct c := by simp
    rw [hkk]
    exact ⟨_, rfl, hfin i1 (.punct c) rfl hadv1⟩
  | string q a hq hb =>
    have hlt : q.toNat < 0x80 := by rcases hq with h | h <;> subst h <;> decide
    have hne : (startToken i0).remaining ≠ [] := by rw [hj]; simp
    have hdec : Utf8.decodeRune (startToken i0).remaining = (q.toNat, 1) := by
      rw [hj]; exact decodeRune_ascii q _ hlt
    have hpk : (startToken i0).peekRune = q.toNat := by rw [peekRune_eq hne, hdec]
    have hpunct : isPunct q.toNat = false := by rcases hq with h | h <;> subst h <;> decide
    have hquote : quoteRunes.contains q.toNat = true := by rcases hq with h | h <;> subst h <;> decide
    obtain ⟨i1, hr1, hadv1, hrem1⟩ := readRune_adv (startToken i0) hne
    rw [hdec] at hr1 hadv1 hrem1
    have : (startToken i0).remaining.take 1 = [q] := by rw [hj]; rfl
    simp only [this] at hadv1
    have hrem1' : i1.remaining = a ++ rest := by rw [hrem1, hj]; rfl
    have hd : AsciiStart rest := by
      rcases hrest with h | ⟨c, h⟩
      · exact h.ascii
      · cases h
    obtain ⟨i2, hr2, hadv2⟩ := readString_relex hb rest hd (i1.remaining.length + 1) i1 hrem1'
      (by rw [hrem1']; simp only [List.length_append]; omega)
    simp only [hpk, hpunct, Bool.false_eq_true, if_false, hquote, if_true, hr1, hr2]
    exact ⟨_, rfl, hfin i2 .string rfl (hadv1.trans hadv2)⟩
  | ident _ hne hb hnq =>
    have hd : DelimStart rest := by
      rcases hrest with h | ⟨c, h⟩
      · exact h
      · cases h
    have hrne : (startToken i0).remaining ≠ [] := by rw [hj]; simp [hne]
    have hdec : Utf8.decodeRune (startToken i0).remaining = Utf8.decodeRune t := by
      rw [hj]; exact decodeRune_append t rest hne hd.ascii
    have hpk : (startToken i0).peekRune = (Utf8.decodeRune t).1 := by rw [peekRune_eq hrne, hdec]
    have hid : isIdent (Utf8.decodeRune t).1 = true := by
      cases hb with
      | nil => exact absurd rfl hne
      | cons _ hid _ _ _ => exact hid
    obtain ⟨i2, hr2, hadv2⟩ := readIdent_relex hb rest hd ((startToken i0).remaining.length + 1) (startToken i0) hj
      (by rw [hj]; simp only [List.length_append]; omega)
    simp only [hpk, isIdent_not_punct hid, Bool.false_eq_true, if_false, hnq, hid, Bool.not_true, hr2]
    exact ⟨_, rfl, hfin i2 .ident rfl hadv2⟩

theorem stripRev_append (r : Bytes) (a b : UInt8) (hb : b ≠ 10 ∧ b ≠ 13) :
    stripRev (r ++ [b, a]) = stripRev r ++ [b, a] := by
  match r with
  | [] =>
    have h1 : b ≠ 10 := hb.1
    simp [stripRev]
    split <;> simp_all
  | [x] =>
    by_cases hx : x = 10
    · subst hx
      simp [stripRev]
      split <;> simp_all
    · simp [stripRev]
      split <;> simp_all
  | x :: y :: r' =>
    by_cases hx : x = 10
    · subst hx
      by_cases hy : y = 13
      · subst hy; simp [stripRev]
      · have e1 : stripRev (10 :: y :: r' ++ [b, a]) = y :: r' ++ [b, a] := by
          show stripRev (10 :: y :: (r' ++ [b, a])) = _
          unfold stripRev
          split
          · rename_i heq; simp only [List.cons.injEq, true_and] at heq; exact absurd heq.1 hy
          · rename_i heq; simp only [List.cons.injEq, true_and] at heq; rw [← heq]; rfl
          · rename_i h1 h2; exact absurd rfl (h2 _)
        have e2 : stripRev (10 :: y :: r') = y :: r' := by
          unfold stripRev
          split
          · rename_i heq; simp only [List.cons.injEq, true_and] at heq; exact absurd heq.1 hy
          · rename_i heq; simp only [List.cons.injEq, true_and] at heq; rw [← heq]
          · rename_i h1 h2; exact absurd rfl (h2 _)
        rw [e1, e2]
    · have e1 : ∀ l, stripRev (x :: l) = x :: l := by
        intro l
        unfold stripRev
        split
        · rename_i heq; simp only [List.cons.injEq] at heq; exact absurd heq.1 hx
        · rename_i heq; simp only [List.cons.injEq] at heq; exact absurd heq.1 hx
        · rfl
      show stripRev (x :: (y :: r' ++ [b, a])) = _
      rw [e1, e1]; rfl

theorem stripEOL_cons_cons (a b : UInt8) (l : Bytes) (hb : b ≠ 10 ∧ b ≠ 13) :
    stripEOL (a :: b :: l) = a :: b :: stripEOL l := by
  unfold stripEOL
  have hrev : (a :: b :: l).reverse = l.reverse ++ [b, a] := by simp
  rw [hrev, stripRev_append _ _ _ hb]
  simp

theorem lineOf_slashes (t : Bytes) : lineOf (47 :: 47 :: t) = 47 :: 47 :: lineOf t := by
  simp [lineOf]

theorem commentOK_of_slashes (t : Bytes) : CommentOK (stripEOL (lineOf (47 :: 47 :: t))) := by
  refine ⟨?_, lineOf_no_newline_strip _⟩
  rw [lineOf_slashes, stripEOL_cons_cons 47 47 _ (by decide)]
  simp [isPrefixOfB]

theorem ascii_rune_head {s : Bytes} (hs : s ≠ []) (hc : (Utf8.decodeRune s).1 < 0x80) :
    ∃ b t, s = b :: t ∧ b.toNat = (Utf8.decodeRune s).1 ∧ (Utf8.decodeRune s).2 = 1 := by
  cases s with
  | nil => exact absurd rfl hs
  | cons b t =>
    by_cases hb : b.toNat < 0x80
    · refine ⟨b, t, rfl, ?_, ?_⟩ <;> rw [decodeRune_ascii b t hb]
    · have := (decodeRune_nonascii b t (by omega)).1
      omega

theorem skipSpaces_emits {i i' : Input} (h : Runes Blank i i') :
    ∃ ws, (∀ b ∈ ws, isBlank b = true) ∧ Adv i i' ws := by
  induction h with
  | nil i => exact ⟨[], by simp, Adv.refl _⟩
  | @cons i i1 i' r hg h1 _ ih =>
    obtain ⟨_, hc⟩ := hg
    obtain ⟨hne, _, hadv1, _⟩ := readRune_inv h1
    obtain ⟨ws, hws, hadv⟩ := ih
    -- the rune read is an ASCII blank
    rw [peekRune_eq hne] at hc
    have hc' : (Utf8.decodeRune i.remaining).1 = 32 ∨ (Utf8.decodeRune i.remaining).1 = 9 ∨
        (Utf8.decodeRune i.remaining).1 = 13 := by
      simpa [or_assoc] using hc
    have hlt : (Utf8.decodeRune i.remaining).1 < 0x80 := by
      rcases hc' with h | h | h <;> rw [h] <;> decide
    obtain ⟨b, t, hbt, hb, hw⟩ := ascii_rune_head hne hlt
    have htake : i.remaining.take (Utf8.decodeRune i.remaining).2 = [b] := by rw [hw, hbt]; rfl
    rw [htake] at hadv1
    refine ⟨b :: ws, ?_, hadv1.trans hadv⟩
    intro x hx
    rcases List.mem_cons.1 hx with rfl | hx
    · rw [← hb] at hc'
      simp only [isBlank, Bool.or_eq_true, beq_iff_eq]
      rcases hc' with h | h | h
      · exact Or.inl (Or.inl (UInt8.toNat_inj.1 (by simpa using h)))
      · exact Or.inl (Or.inr (UInt8.toNat_inj.1 (by simpa using h)))
      · exact Or.inr (UInt8.toNat_inj.1 (by simpa using h))
    · exact hws x hx

theorem isIdent_not_space {r : Nat} (h : isIdent r = true) : UnicodePrint.isSpace r = false := by
  unfold isIdent at h
  split at h
  · cases h
  · simp only [Bool.and_eq_true, Bool.not_eq_true'] at h
    exact h.1

/-- What one `readToken` call delivers and consumes, relative to the state `i0` after the leading blanks; the first
    rune of a line token is decoded in the source context. -/
inductive Emit (i0 i : Input) : Prop
  | eof (hk : i.token.kind = .eof) (ht : i.token.text = []) (hrem : i0.remaining = [])
      (hc : i.consumedRev = i0.consumedRev) (hr : i.remaining = []) (hcm : i.commentsRev = i0.commentsRev) : Emit i0 i
  | comment (hp : i0.peekPrefix [47, 47] = true) (hrem : i0.remaining = lineOf i0.remaining ++ i.remaining)
      (hc : i.consumedRev = (lineOf i0.remaining).reverse ++ i0.consumedRev)
      (hk : i.token.kind =
        (if !(GoStrings.trimSpace (i0.consumedRev.takeWhile (· != 10)).reverse).isEmpty
         then TokKind.eolComment else TokKind.comment))
      (hcm : i.commentsRev = if i.token.kind = .eolComment then
          ({ start := i.token.pos, token := i.token.text, suffix := true } : Comment) :: i0.commentsRev
        else i0.commentsRev)
      (ht : CommentOK i.token.text) : Emit i0 i
  | newline (hk : i.token.kind = .punct 10) (ht : i.token.text = [10]) (hrem : i0.remaining = 10 :: i.remaining)
      (hc : i.consumedRev = 10 :: i0.consumedRev) (hcm : i.commentsRev = i0.commentsRev) : Emit i0 i
  | tok (t : Bytes) (hk : TokOK i.token.kind t) (ht : i.token.text = t) (hrem : i0.remaining = t ++ i.remaining)
      (hc : i.consumedRev = t.reverse ++ i0.consumedRev) (hcm : i.commentsRev = i0.commentsRev)
      (hfirst : UnicodePrint.isSpace (Utf8.decodeRune i0.remaining).1 = false)
      (hwidth : (Utf8.decodeRune i0.remaining).2 ≤ t.length) : Emit i0 i

theorem readToken_emits (j i' : Input) (h : readToken j = .ok i') :
    ∃ ws i0, (∀ b ∈ ws, isBlank b = true) ∧ Adv j i0 ws ∧ Emit i0 i' := by
  obtain ⟨i0, hb, _, ht⟩ := readToken_tok h
  obtain ⟨ws, hws, hadv0⟩ := skipSpaces_emits hb
  refine ⟨ws, i0, hws, hadv0, ?_⟩
  -- a token of kind `k` that ends in `i2` after the bytes `a`
  have hfin : ∀ (i2 : Input) (k : TokKind) (a : Bytes), k.isComment = false → Adv (startToken i0) i2 a →
      (endToken k i2).token.text = a ∧ i0.remaining = a ++ (endToken k i2).remaining ∧
      (endToken k i2).consumedRev = a.reverse ++ i0.consumedRev ∧
      (endToken k i2).commentsRev = i0.commentsRev := by
    intro i2 k a hk hadv
    refine ⟨?_, hadv.rem, hadv.cons, hadv.comments⟩
    have := hadv.tok
    simp only [endToken, hk, Bool.false_eq_true, if_false, this]
    simp [startToken]
  cases ht with
  | comment _ hp hc =>
    obtain ⟨i'', hr, hrem, hcons, _, htext, hkind, hcomm⟩ := readComment_char i0 hp
    rw [hc] at hr
    cases hr
    obtain ⟨t, ht⟩ := peekPrefix_slashes hp
    have hok := commentOK_of_slashes t
    rw [← ht, ← htext] at hok
    refine .comment hp hrem hcons hkind ?_ hok
    rw [hcomm, hkind]
    split <;> simp
  | eof he =>
    have hr : i0.remaining = [] := by
      unfold Input.eof at he
      cases hh : i0.remaining with
      | nil => rfl
      | cons _ _ => rw [hh] at he; cases he
    exact .eof rfl rfl hr rfl hr rfl
  | @punct a r he _ _ hp h1 =>
    have hne : i0.remaining ≠ [] := (eof_false_iff i0).1 he
    obtain ⟨_, _, hadv1, _⟩ := readRune_inv h1
    rw [peekRune_eq hne] at hp ⊢
    have hcs : (Utf8.decodeRune i0.remaining).1 = 10 ∨ (Utf8.decodeRune i0.remaining).1 = 40 ∨
        (Utf8.decodeRune i0.remaining).1 = 41 ∨ (Utf8.decodeRune i0.remaining).1 = 91 ∨
        (Utf8.decodeRune i0.remaining).1 = 93 ∨ (Utf8.decodeRune i0.remaining).1 = 123 ∨
        (Utf8.decodeRune i0.remaining).1 = 125 ∨ (Utf8.decodeRune i0.remaining).1 = 44 := by
      simpa [isPunct, punctRunes] using hp
    have hlt : (Utf8.decodeRune i0.remaining).1 < 0x80 := by
      rcases hcs with h | h | h | h | h | h | h | h <;> rw [h] <;> decide
    obtain ⟨b, t, hbt, hb, hw⟩ := ascii_rune_head hne hlt
    have htake : (startToken i0).remaining.take (Utf8.decodeRune (startToken i0).remaining).2 = [b] := by
      show i0.remaining.take (Utf8.decodeRune i0.remaining).2 = [b]
      rw [hw, hbt]; rfl
    rw [htake] at hadv1
    obtain ⟨htext, hrem, hcons, hcomm⟩ := hfin a (.punct (UInt8.ofNat (Utf8.decodeRune i0.remaining).1)) [b] rfl hadv1
    have hkind : (endToken (.punct (UInt8.ofNat (Utf8.decodeRune i0.remaining).1)) a).token.kind = .punct b := by
      show TokKind.punct _ = _
      rw [← hb]; simp
    rw [← hb] at hcs
    have hb' : b = 10 ∨ b = 40 ∨ b = 41 ∨ b = 91 ∨ b = 93 ∨ b = 123 ∨ b = 125 ∨ b = 44 := by
      rcases hcs with h | h | h | h | h | h | h | h
      · exact Or.inl (UInt8.toNat_inj.1 (by simpa using h))
      · exact Or.inr (Or.inl (UInt8.toNat_inj.1 (by simpa using h)))
      · exact Or.inr (Or.inr (Or.inl (UInt8.toNat_inj.1 (by simpa using h))))
      · exact Or.inr (Or.inr (Or.inr (Or.inl (UInt8.toNat_inj.1 (by simpa using h)))))
      · exact Or.inr (Or.inr (Or.inr (Or.inr (Or.inl (UInt8.toNat_inj.1 (by simpa using h))))))
      · exact Or.inr (Or.inr (Or.inr (Or.inr (Or.inr (Or.inl (UInt8.toNat_inj.1 (by simpa using h)))))))
      · exact Or.inr (Or.inr (Or.inr (Or.inr (Or.inr (Or.inr (Or.inl (UInt8.toNat_inj.1 (by simpa using h))))))))
      · exact Or.inr (Or.inr (Or.inr (Or.inr (Or.inr (Or.inr (Or.inr (UInt8.toNat_inj.1 (by simpa using h))))))))
    rcases hb' with h10 | hb'
    · subst h10
      exact .newline hkind htext (by simpa using hrem) (by simpa using hcons) hcomm
    · have hpb : b ∈ punctBytes := by simpa [punctBytes] using hb'
      refine .tok [b] (by rw [hkind]; exact .punct b hpb) htext hrem hcons hcomm ?_ ?_
      · rw [← hb]
        rcases hb' with h | h | h | h | h | h | h <;> subst h <;> decide
      · rw [hw]; simp
  | @string a i2 r he _ _ _ hq h1 hs =>
    have hne : i0.remaining ≠ [] := (eof_false_iff i0).1 he
    obtain ⟨_, _, hadv1, _⟩ := readRune_inv h1
    obtain ⟨body, hadv2, hbody⟩ := readString_emits hs
    rw [peekRune_eq hne] at hq hbody
    have hcs : (Utf8.decodeRune i0.remaining).1 = 34 ∨ (Utf8.decodeRune i0.remaining).1 = 96 := by
      simpa [quoteRunes] using hq
    have hlt : (Utf8.decodeRune i0.remaining).1 < 0x80 := by
      rcases hcs with h | h <;> rw [h] <;> decide
    obtain ⟨b, t, hbt, hb, hw⟩ := ascii_rune_head hne hlt
    have htake : (startToken i0).remaining.take (Utf8.decodeRune (startToken i0).remaining).2 = [b] := by
      show i0.remaining.take (Utf8.decodeRune i0.remaining).2 = [b]
      rw [hw, hbt]; rfl
    rw [htake] at hadv1
    obtain ⟨htext, hrem, hcons, hcomm⟩ := hfin i2 .string ([b] ++ body) rfl (hadv1.trans hadv2)
    rw [← hb] at hcs hbody
    have hbq : b = 34 ∨ b = 96 := by
      rcases hcs with h | h
      · exact Or.inl (UInt8.toNat_inj.1 (by simpa using h))
      · exact Or.inr (UInt8.toNat_inj.1 (by simpa using h))
    refine .tok (b :: body) (.string b body hbq hbody) htext hrem hcons hcomm ?_ ?_
    · rw [← hb]
      rcases hbq with h | h <;> subst h <;> decide
    · rw [hw]; simp
  | @ident i2 he hc1 _ _ hnq hid hi hex =>
    have hne : i0.remaining ≠ [] := (eof_false_iff i0).1 he
    have hpk := peekRune_eq hne
    obtain ⟨a, hadv2, hbody, hdec⟩ := readIdent_emits hi
    -- the loop takes a step: the first rune is an identifier rune and no comment starts here
    have hane : a ≠ [] := by
      intro ha
      subst ha
      have hr : i0.remaining = i2.remaining := hadv2.rem
      have h1 : i2.peekRune = i0.peekRune := by unfold Input.peekRune; rw [hr]
      have h2 : i2.peekPrefix [47, 47] = i0.peekPrefix [47, 47] := by unfold Input.peekPrefix; rw [hr]
      rw [h1, h2, hid, hc1] at hex
      rcases hex with h | h <;> cases h
    have hdec : Utf8.decodeRune a = Utf8.decodeRune i0.remaining := hdec hane
    obtain ⟨htext, hrem, hcons, hcomm⟩ := hfin i2 .ident a rfl hadv2
    refine .tok a (.ident a hane hbody (by rw [hdec, ← hpk]; exact hnq)) htext hrem hcons hcomm ?_ ?_
    · rw [← hpk]
      exact isIdent_not_space hid
    · rw [← hdec]
      exact (decodeRune_width a hane).2

/-- ★ C02 stage (i) (`Props.C02.lex_emits_TokOK`) -/
theorem lex_emits_LexOK (i i' : Input) (h : readToken i = .ok i') : LexOK i'.token.kind i'.token.text := by
  obtain ⟨ws, i0, _, _, hem⟩ := readToken_emits i i' h
  cases hem with
  | eof hk ht _ _ _ _ => rw [hk, ht]; exact .eof
  | comment _ _ _ hk _ ht =>
    rw [hk]
    split
    · exact .eolComment _ ht
    · exact .comment _ ht
  | newline hk ht _ _ _ => rw [hk, ht]; exact .newline
  | tok t hk ht _ _ _ _ _ => rw [ht]; exact .tok _ _ hk

end ModVerif.Proofs.ModfileFmtLex
