/-
  Tie helpers for incDecimal / decDecimal of module/pseudo.go: the regenerated byte-slice loops
  (Generated/FnModule.lean, `incDecimal_loop1`, `decDecimal_loop1`: right-to-left scans that overwrite
  `digits[i]` through `GoRt.setIdx`) compute the hand model's `Pseudo.incDecimal` / `Pseudo.decDecimal`.

  The loops walk a string from its right end.  The invariant is stated on the REVERSED not-yet-visited prefix
  `rp` and the already rewritten suffix `suf`: the slice is `rp.reverse ++ suf` and the index is `rp.length - 1`.
-/
import ModVerif.Generated.FnModule
import ModVerif.Model.Pseudo
import ModVerif.Proofs.GoRtLemmas
import ModVerif.Proofs.GoRtLemmasPseudo
import ModVerif.Proofs.PseudoDecimal
namespace ModVerif.TieFnPseudo
open ModVerif ModVerif.GoRt ModVerif.GoRtPseudo
open ModVerif.Proofs.Pseudo (decAux_zeros)

/-- what loop 1 of incDecimal leaves behind: (digits, i) -/
def incLoopOut : Bytes → Bytes → Bytes × Int
  | [], suf => (suf, -1)
  | c :: rp, suf => if c = 57 then incLoopOut rp (48 :: suf) else ((c :: rp).reverse ++ suf, (rp.length : Int))

theorem reverse_cons_append (c : UInt8) (rp suf : Bytes) : (c :: rp).reverse ++ suf = rp.reverse ++ c :: suf := by
  simp

theorem incDecimal_loop1_ok : ∀ (rp suf : Bytes) (fuel : Nat), rp.length + 1 ≤ fuel →
    Generated.Module.incDecimal_loop1 fuel (rp.reverse ++ suf) ((rp.length : Int) - 1) = .ok (incLoopOut rp suf)
  | _, _, 0, h => by omega
  | [], suf, fuel + 1, _ => by
    simp [Generated.Module.incDecimal_loop1, incLoopOut]
  | c :: rp, suf, fuel + 1, h => by
    have hl : rp.length + 1 ≤ fuel := by simp at h; omega
    have hi : ((((c :: rp).length : Nat) : Int) - 1) = ((rp.reverse.length : Nat) : Int) := by simp
    have hge : (((rp.reverse.length : Nat) : Int) ≥ 0) := by omega
    rw [reverse_cons_append, hi]
    unfold Generated.Module.incDecimal_loop1
    simp only [hge, decide_true, if_true, idx_append_length, bind_ok, pure_eq_ok, byte_eq_57]
    by_cases hc : c = 57
    · subst hc
      simp only [decide_true, if_true, setIdx_append_length, bind_ok, mkByte_48]
      have := incDecimal_loop1_ok rp (48 :: suf) fuel hl
      simp only [List.length_reverse] at this ⊢
      rw [this]; simp [incLoopOut]
    · simp [hc, incLoopOut]

/-- the statements of incDecimal after the loop, as a function of the loop's result -/
def incFinish (digits : Bytes) (i : Int) : M Bytes :=
  if (decide (i ≥ (0 : Int))) then (do
    let t3 ← idx digits i
    let digits ← setIdx digits i (toU8 (t3 + (1 : Int)))
    pure digits) else (do
    let digits ← setIdx digits (0 : Int) (49 : Int)
    let digits := (digits ++ [mkByte (48 : Int)])
    pure digits)

theorem incDecimal_unfold (fuel : Nat) (decimal : Bytes) :
    Generated.Module.incDecimal fuel decimal =
      (Generated.Module.incDecimal_loop1 fuel decimal (len decimal - 1) >>= fun p => incFinish p.1 p.2) := by
  unfold Generated.Module.incDecimal incFinish
  rfl

theorem incAux_nines : ∀ k, Pseudo.incAux (List.replicate k 57) = (List.replicate k 48, true)
  | 0 => rfl
  | k + 1 => by simp [List.replicate_succ, Pseudo.incAux, incAux_nines k]

theorem incAux_split (c : UInt8) (hc : c ≠ 57) (k : Nat) : ∀ pre : Bytes,
    Pseudo.incAux (pre ++ c :: List.replicate k 57) = (pre ++ (c + 1) :: List.replicate k 48, false)
  | [] => by
    have : (c == 57) = false := by simpa using hc
    simp [Pseudo.incAux, incAux_nines k, this]
  | x :: pre => by simp [Pseudo.incAux, incAux_split c hc k pre]

/-- the model's result as a value of the generated code's monad: `none` is the Go index panic -/
def optM {α : Type} : Option α → M α
  | some a => .ok a
  | none => .error .panic

theorem incFinish_ok : ∀ (rp : Bytes) (k : Nat),
    incFinish (incLoopOut rp (List.replicate k 48)).1 (incLoopOut rp (List.replicate k 48)).2 =
      optM (Pseudo.incDecimal (rp.reverse ++ List.replicate k 57))
  | [], k => by
    simp only [incLoopOut, List.reverse_nil, List.nil_append, Pseudo.incDecimal, incAux_nines, if_true]
    cases k with
    | zero => simp [incFinish, setIdx_zero_nil, optM]
    | succ k => simp [incFinish, List.replicate_succ, setIdx_zero_cons, optM]
  | c :: rp, k => by
    by_cases hc : c = 57
    · subst hc
      have := incFinish_ok rp (k + 1)
      simp only [List.replicate_succ] at this
      simp only [incLoopOut, if_true, this, List.reverse_cons, List.append_assoc, List.singleton_append]
    · have hi : ((rp.length : Nat) : Int) = ((rp.reverse.length : Nat) : Int) := by simp
      simp only [incLoopOut, hc, if_false, reverse_cons_append]
      rw [hi]
      have hge : (((rp.reverse.length : Nat) : Int) ≥ 0) := by omega
      simp only [incFinish, hge, decide_true, if_true, idx_append_length, bind_ok, setIdx_append_length,
        mkByte_succ, pure_eq_ok, Pseudo.incDecimal, incAux_split c hc k, optM]
      simp

theorem incDecimal_ok (decimal : Bytes) (fuel : Nat) (hf : decimal.length + 1 ≤ fuel) :
    Generated.Module.incDecimal fuel decimal = optM (Pseudo.incDecimal decimal) := by
  rw [incDecimal_unfold]
  have h1 := incDecimal_loop1_ok decimal.reverse [] fuel (by simpa using hf)
  simp only [List.reverse_reverse, List.append_nil, List.length_reverse] at h1
  rw [len_eq, h1, bind_ok]
  have h2 := incFinish_ok decimal.reverse 0
  simpa using h2

def decLoopOut : Bytes → Bytes → Bytes × Int
  | [], suf => (suf, -1)
  | c :: rp, suf => if c = 48 then decLoopOut rp (57 :: suf) else ((c :: rp).reverse ++ suf, (rp.length : Int))

theorem decDecimal_loop1_ok : ∀ (rp suf : Bytes) (fuel : Nat), rp.length + 1 ≤ fuel →
    Generated.Module.decDecimal_loop1 fuel (rp.reverse ++ suf) ((rp.length : Int) - 1) = .ok (decLoopOut rp suf)
  | _, _, 0, h => by omega
  | [], suf, fuel + 1, _ => by
    simp [Generated.Module.decDecimal_loop1, decLoopOut]
  | c :: rp, suf, fuel + 1, h => by
    have hl : rp.length + 1 ≤ fuel := by simp at h; omega
    have hi : ((((c :: rp).length : Nat) : Int) - 1) = ((rp.reverse.length : Nat) : Int) := by simp
    have hge : (((rp.reverse.length : Nat) : Int) ≥ 0) := by omega
    rw [reverse_cons_append, hi]
    unfold Generated.Module.decDecimal_loop1
    simp only [hge, decide_true, if_true, idx_append_length, bind_ok, pure_eq_ok, byte_eq_48]
    by_cases hc : c = 48
    · subst hc
      simp only [decide_true, if_true, setIdx_append_length, bind_ok, mkByte_57]
      have := decDecimal_loop1_ok rp (57 :: suf) fuel hl
      simp only [List.length_reverse] at this ⊢
      rw [this]; simp [decLoopOut]
    · simp [hc, decLoopOut]

/-- the statements of decDecimal after the loop -/
def decFinish (digits : Bytes) (i : Int) : M Bytes :=
  if (decide (i < (0 : Int))) then (pure ([] : Bytes)) else (do
    let t4 ← (if (decide (i = (0 : Int))) then (do
      let t3 ← idx digits i
      pure (decide (t3 = (49 : Int)))) else pure false)
    if (t4 && (decide ((len digits) > (1 : Int)))) then (do
      let t5 ← sliceFrom digits (1 : Int)
      let digits := t5
      pure digits) else (do
      let t6 ← idx digits i
      let digits ← setIdx digits i (toU8 (t6 - (1 : Int)))
      pure digits))

theorem decDecimal_unfold (fuel : Nat) (decimal : Bytes) :
    Generated.Module.decDecimal fuel decimal =
      (Generated.Module.decDecimal_loop1 fuel decimal (len decimal - 1) >>= fun p => decFinish p.1 p.2) := by
  unfold Generated.Module.decDecimal decFinish
  rfl

theorem decAux_split (c : UInt8) (hc : c ≠ 48) (k : Nat) : ∀ pre : Bytes,
    Pseudo.decAux (pre ++ c :: List.replicate k 48) = (pre ++ (c - 1) :: List.replicate k 57, false)
  | [] => by
    have : (c == 48) = false := by simpa using hc
    simp [Pseudo.decAux, decAux_zeros k, this]
  | x :: pre => by simp [Pseudo.decAux, decAux_split c hc k pre]

theorem decDecimal_zeros : ∀ k, Pseudo.decDecimal (List.replicate k 48) = []
  | 0 => rfl
  | k + 1 => by simp [List.replicate_succ, Pseudo.decDecimal, decAux_zeros k]

theorem decDecimal_lead (c : UInt8) (hc : c ≠ 48) (k : Nat) :
    Pseudo.decDecimal (c :: List.replicate k 48) =
      if c = 49 ∧ k ≠ 0 then List.replicate k 57 else (c - 1) :: List.replicate k 57 := by
  have hcb : (c == 48) = false := by simpa using hc
  simp only [Pseudo.decDecimal, decAux_zeros, if_true, hcb, Bool.false_eq_true, if_false]
  by_cases h49 : c = 49 <;> simp [h49]

theorem decFinish_ok : ∀ (rp : Bytes) (k : Nat),
    decFinish (decLoopOut rp (List.replicate k 57)).1 (decLoopOut rp (List.replicate k 57)).2 =
      .ok (Pseudo.decDecimal (rp.reverse ++ List.replicate k 48))
  | [], k => by
    simp [decLoopOut, decFinish, decDecimal_zeros]
  | c :: rp, k => by
    by_cases hc : c = 48
    · subst hc
      have := decFinish_ok rp (k + 1)
      simp only [List.replicate_succ] at this
      simp only [decLoopOut, if_true, this, List.reverse_cons, List.append_assoc, List.singleton_append]
    · simp only [decLoopOut, hc, if_false]
      cases rp with
      | nil =>
        -- i = 0: the leading digit is decremented, or dropped when it is '1' and more digits follow
        simp only [decFinish, List.reverse_cons, List.reverse_nil, List.nil_append,
          List.singleton_append, List.length_nil, Int.natCast_zero, decide_true, if_true, idx_zero_cons, bind_ok,
          pure_eq_ok, byte_eq_49, decDecimal_lead c hc k, len_eq, List.length_cons, List.length_replicate]
        have hlt : ¬ ((0 : Int) < 0) := by omega
        simp only [hlt, decide_false, Bool.false_eq_true, if_false]
        by_cases h49 : c = 49
        · by_cases hk : k = 0
          · subst hk; subst h49; simp [setIdx_zero_cons]; decide
          · have hk' : ¬ ((k : Int) + 1 ≤ 1) := by omega
            simp [h49, hk, hk']
        · simp [h49, setIdx_zero_cons, mkByte_pred]
      | cons d rp =>
        have hi : (((d :: rp).length : Nat) : Int) = (((d :: rp).reverse.length : Nat) : Int) := by simp
        have hlt : ¬ ((((d :: rp).reverse.length : Nat) : Int) < 0) := by omega
        have hne : ¬ ((((d :: rp).reverse.length : Nat) : Int) = 0) := by simp; omega
        simp only [reverse_cons_append c]
        rw [hi]
        simp only [decFinish, hlt, hne, decide_false, if_false, pure_eq_ok, bind_ok, Bool.false_and,
          Bool.false_eq_true, idx_append_length, setIdx_append_length, mkByte_pred]
        -- model side: the string starts with the last element of the reversed prefix
        obtain ⟨x, pre, hxp⟩ : ∃ x pre, (d :: rp).reverse = x :: pre := by
          cases h : (d :: rp).reverse with
          | nil => simp at h
          | cons x pre => exact ⟨x, pre, rfl⟩
        rw [hxp]
        simp [Pseudo.decDecimal, decAux_split c hc k pre]

theorem decDecimal_ok (decimal : Bytes) (fuel : Nat) (hf : decimal.length + 1 ≤ fuel) :
    Generated.Module.decDecimal fuel decimal = .ok (Pseudo.decDecimal decimal) := by
  rw [decDecimal_unfold]
  have h1 := decDecimal_loop1_ok decimal.reverse [] fuel (by simpa using hf)
  simp only [List.reverse_reverse, List.append_nil, List.length_reverse] at h1
  rw [len_eq, h1, bind_ok]
  have h2 := decFinish_ok decimal.reverse 0
  simpa using h2

end ModVerif.TieFnPseudo
