/-
  `concurrent_results_eq_sequential` at the abstract level: with an honest server the result every
  goroutine receives is a function of its request alone, so every interleaving — in particular the sequential one —
  returns the same results; and two terminal states in which the same goroutines ran hold equivalent stored heads.
-/
import ModVerif.Proofs.ClientMoreMax
import ModVerif.Proofs.ParCacheInv
namespace ModVerif.ParCache
variable {V : Type}

theorem EStep.ran {v u : V} {p p' : PC} {x x' : View V} (h : EStep v p x p' x') (hu : x'.ran = some u) :
    x.ran = some u ∨ u = v := by
  cases h
  case run => cases hr : x.ran <;> simp_all
  all_goals exact .inl hu

theorem ran_from (key : Nat → Nat) (fval : Nat → V) (s : St V) (h : Reachable key fval s) :
    ∀ k v, s.ran k = some v → ∃ i, key i = k ∧ fval i = v := by
  induction h with
  | init => intro k v h; simp [init] at h
  | @step s s' i hr hs ih =>
    intro k v hv
    obtain ⟨p', x', he, -, hview, -, -⟩ := step_local hs
    have e : s'.ran k = (if k = key i then x' else view s k).ran := congrArg View.ran (hview k)
    rw [hv] at e
    by_cases hki : k = key i
    · rw [if_pos hki] at e
      rcases he.ran e.symm with h | h
      · exact ih k v (hki ▸ h)
      · exact ⟨i, hki.symm, h.symm⟩
    · rw [if_neg hki] at e; exact ih k v e.symm

/-- C14 `concurrent_results_eq_sequential`, first half -/
theorem results_deterministic (key : Nat → Nat) (F : Nat → V) (fval : Nat → V) (hF : ∀ i, fval i = F (key i))
    (s : St V) (h : Reachable key fval s) (i : Nat) (hi : s.pc i = .returned) : s.got i = some (F (key i)) := by
  have hI := inv_reachable key fval s h
  obtain ⟨h1, h2, _⟩ := hI.returned_ok i hi
  obtain ⟨v, hv⟩ := Option.isSome_iff_exists.mp h2
  obtain ⟨j, hj, hjv⟩ := ran_from key fval s h _ v hv
  rw [h1, hv, ← hjv, hF j, hj]

/-- C14 `concurrent_results_eq_sequential`, second half -/
theorem results_eq_any_two (key : Nat → Nat) (F : Nat → V) (fval : Nat → V) (hF : ∀ i, fval i = F (key i))
    (s1 s2 : St V) (h1 : Reachable key fval s1) (h2 : Reachable key fval s2) (i : Nat)
    (hi1 : s1.pc i = .returned) (hi2 : s2.pc i = .returned) : s1.got i = s2.got i := by
  rw [results_deterministic key F fval hF s1 h1 i hi1, results_deterministic key F fval hF s2 h2 i hi2]

end ModVerif.ParCache

namespace ModVerif.ClientLatest
variable {M T : Type} [DecidableEq M] [DecidableEq T]

def honestResult (priv : Nat → Bool) (t : Nat) : Result := if priv t then .gonosumdb else .ok

variable {P : Params M T} {le : T → T → Prop} {Ch : T → Prop} {cl : Nat → Nat} {presented : Nat → Option M}
  {priv : Nat → Bool} {c0 : Option M} {s s' s1 s2 : St M T}

theorem honest_result_deterministic (hH : Honest P le Ch presented c0) (h : HReachable P cl presented priv c0 s)
    (t : Nat) (x : Result) (hx : (s.th t).pc = .done x) : x = honestResult priv t := by
  obtain ⟨_, _, hres⟩ := honest_all_succeed_inv hH h
  unfold honestResult
  cases hp : priv t with
  | false => simpa using (hres t x hx).1 hp
  | true => simpa using (hres t x hx).2 hp

/-- C14 `concurrent_heads_eq_sequential` -/
theorem terminal_states_agree (hH : Honest P le Ch presented c0) (h1 : HReachable P cl presented priv c0 s1)
    (h2 : HReachable P cl presented priv c0 s2) (q1 : Quiescent s1) (q2 : Quiescent s2)
    (hsame : ∀ t, (s1.th t).pc = .entry ↔ (s2.th t).pc = .entry) :
    (∀ t, (s1.th t).pc = (s2.th t).pc) ∧
    le (cfgTree P s1.config) (cfgTree P s2.config) ∧ le (cfgTree P s2.config) (cfgTree P s1.config) := by
  have hseen : ∀ x, Seen P presented priv c0 s1 x ↔ Seen P presented priv c0 s2 x := by
    intro x
    simp only [Seen, Started]
    constructor
    · rintro (h | h | ⟨t, m, ⟨hp, hne⟩, hm, hq⟩)
      · exact Or.inl h
      · exact Or.inr (Or.inl h)
      · exact Or.inr (Or.inr ⟨t, m, ⟨hp, fun e => hne ((hsame t).mpr e)⟩, hm, hq⟩)
    · rintro (h | h | ⟨t, m, ⟨hp, hne⟩, hm, hq⟩)
      · exact Or.inl h
      · exact Or.inr (Or.inl h)
      · exact Or.inr (Or.inr ⟨t, m, ⟨hp, fun e => hne ((hsame t).mp e)⟩, hm, hq⟩)
  obtain ⟨_, _, m1, _, _⟩ := latest_ends_at_max_inv hH h1 q1
  obtain ⟨_, _, m2, _, _⟩ := latest_ends_at_max_inv hH h2 q2
  refine ⟨fun t => ?_, m2.2 _ ((hseen _).mp m1.1), m1.2 _ ((hseen _).mpr m2.1)⟩
  rcases q1 t with e1 | ⟨x1, e1⟩
  · rw [e1, (hsame t).mp e1]
  · rcases q2 t with e2 | ⟨x2, e2⟩
    · rw [(hsame t).mpr e2, e2]
    · rw [e1, e2, honest_result_deterministic hH h1 t x1 e1,
        honest_result_deterministic hH h2 t x2 e2]

end ModVerif.ClientLatest
