/-
  For ONE client the in-memory head at the end of an honest run does not depend on the
  interleaving either (up to equivalence): two more invariants of the latest-head machine.
   * `PosInv`: a goroutine that has entered the flush loop of `mergeLatest` (or has read the configuration) was
     presented a tree of positive size (it installed it over a smaller head).
   * `BaseInv` (honest runs): a client's in-memory head is the empty tree, or it contains the initial configuration's
     tree, or one of the client's goroutines is still going to merge the configuration content into it.
  Helper for Props/C14.lean.
-/
import ModVerif.Proofs.ClientMoreSeq
namespace ModVerif.ClientLatest
variable {M T : Type}

/-- the goroutine has installed its presented head and not yet returned -/
def flushPC : PC → Bool
  | .memInstall .first => true
  | p => inFlush p

/-- the goroutine is still going to merge the configuration content into the in-memory head -/
def pendingPC : PC → Bool
  | .readConfig | .memRead .loop | .memCheck .loop | .memInstall .loop => true
  | _ => false

/-- the goroutine holds a configuration content it read -/
def holdsCfg : PC → Bool
  | .memRead .loop | .memCheck .loop | .memInstall .loop | .readLatestMsg | .writeConfig => true
  | _ => false

def Pos (P : Params M T) (pres : Option M) : Prop := ∃ m pt, pres = some m ∧ P.parse m = some pt ∧ 0 < P.size pt

section
variable {P : Params M T} {le : T → T → Prop} {Ch : T → Prop} {presented : Nat → Option M} {c0 : Option M}
  {pres : Option M} {pv : Bool} {t : Nat} {L : T} {LM C : Option M} {sec : List (Nat × Option M × Option M)}
  {l l' : Loc M T} {r : Res} {e : Eff M}

/-- A goroutine enters the flush loop only by installing what it was presented over a smaller head. -/
theorem LStep.pos
    (hl : LStep P pres pv L LM C l r l' e) (h : LocInv P le pres pv t L C sec l)
    (hp : flushPC l.pc = true ∨ l.cfg ≠ none → Pos P pres) : flushPC l'.pc = true ∨ l'.cfg ≠ none → Pos P pres := by
  intro hpre
  by_cases hf : flushPC l.pc = true
  · exact hp (.inl hf)
  by_cases hc : l.cfg = none
  case neg => exact hp (.inr hc)
  cases hl
  case newOk o hpc hsz _ =>
    cases o
    · obtain ⟨_, _, m, hm1, hm2⟩ := h.snap .first (.inl hpc)
      exact ⟨m, _, h.first_msg (.inr (.inl hpc)) ▸ hm1, hm2, by omega⟩
    · simp [hpc, flushPC, inFlush] at hf
  case' entry => cases pv
  case' readEmpty => by_cases h0 : P.size L = 0 <;> simp only [h0, if_true, if_false] at hpre
  case' oldOk => by_cases h0 : P.size l.tree < P.size l.latest <;> simp only [h0, if_true, if_false] at hpre
  all_goals try cases ‹Outer›
  all_goals simp_all [flushPC, inFlush, afterMem]

end

structure PosInv (P : Params M T) (presented : Nat → Option M) (s : St M T) : Prop where
  pos : ∀ t, (flushPC (s.th t).pc = true ∨ (s.th t).cfg ≠ none) → Pos P (presented t)

section
variable {P : Params M T} {le : T → T → Prop} {Ch : T → Prop} {presented : Nat → Option M} {c0 : Option M}
  {pres : Option M} {pv : Bool} {t : Nat} {L : T} {LM C : Option M} {sec : List (Nat × Option M × Option M)}
  {l l' : Loc M T} {r : Res} {e : Eff M}

theorem LStep.cfg_base (hl : LStep P pres pv L LM C l r l' e)
    (hge : le (cfgTree P c0) (cfgTree P C)) (h : holdsCfg l.pc = true → le (cfgTree P c0) (cfgTree P l.cfg)) :
    holdsCfg l'.pc = true → le (cfgTree P c0) (cfgTree P l'.cfg) := by
  intro hpre
  cases hl
  case read => exact hge
  case' entry => cases pv
  case' readEmpty => by_cases h0 : P.size L = 0 <;> simp only [h0, if_true, if_false] at hpre
  case' oldOk => by_cases h0 : P.size l.tree < P.size l.latest <;> simp only [h0, if_true, if_false] at hpre
  all_goals try cases ‹Outer›
  all_goals simp_all [holdsCfg, afterMem]

def Based (P : Params M T) (le : T → T → Prop) (c0 : Option M) (L : T) : Prop := L = P.zero ∨ le (cfgTree P c0) L

structure BaseInv (P : Params M T) (le : T → T → Prop) (cl : Nat → Nat) (c0 : Option M) (s : St M T) : Prop where
  cfg_base : ∀ t, holdsCfg (s.th t).pc = true → le (cfgTree P c0) (cfgTree P (s.th t).cfg)
  base : ∀ c, Based P le c0 (s.latest c) ∨ ∃ t, cl t = c ∧ pendingPC (s.th t).pc = true

theorem LStep.base_own (hH : Honest P le Ch presented c0)
   
    (hl : LStep P pres pv L LM C l r l' e) (h : LocInv P le pres pv t L C sec l)
    (hb : holdsCfg l.pc = true → le (cfgTree P c0) (cfgTree P l.cfg))
    (hgood : l'.pc ≠ .done .err ∧ l'.pc ≠ .done .security)
    (hpre : pendingPC l.pc = true ∨ Based P le c0 L ∨ e = .install) :
    pendingPC l'.pc = true ∨ Based P le c0 (e.head L l') := by
  have hS := hH.sound
  cases hpd : pendingPC l.pc
  · cases e
    case install =>
      obtain ⟨o, hpc, _, rfl⟩ := hl.of_install
      cases o
      · exact .inl rfl
      · simp [hpc, pendingPC] at hpd
    all_goals exact .inr ((hpre.resolve_left (by simp [hpd])).resolve_right nofun)
  -- in `memRead loop`, `memCheck loop`, `memInstall loop` the argument is a configuration content
  have hcfg : ∀ {p}, l.pc = p → holdsCfg p = true → le (cfgTree P c0) (cfgTree P l.cfg) := fun hpc hp => hb (hpc ▸ hp)
  have arg : ∀ {p}, l.pc = p → (p = .memCheck .loop ∨ p = .memInstall .loop) → le (cfgTree P c0) l.tree := by
    intro p hpc hp
    have ho : l.pc = .memCheck .loop ∨ l.pc = .memInstall .loop := hpc ▸ hp
    obtain ⟨_, _, m, hm1, hm2⟩ := h.snap .loop ho
    have := hb (by rcases ho with ho | ho <;> rw [ho] <;> rfl)
    rwa [← h.loop_msg (.inr ho), hm1, cfgTree_some P m _ hm2] at this
  cases hl
  case readBad | oldFork | oldErr | newFork | newErr | readFail | writeFail => simp at hgood
  case read => exact .inl rfl
  all_goals have hpc : l.pc = _ := ‹_›
  case entry | start | readMsg | write | conflict => simp [hpc, pendingPC] at hpd
  all_goals
    cases ‹Outer›
    · simp [hpc, pendingPC] at hpd
  case readOk.loop | newOk.loop | retry.loop => exact .inl rfl
  case readEmpty.loop =>
    refine .inr (.inr (hS.trans _ _ _ ?_ (hS.zero_le L)))
    have := hcfg hpc rfl
    rwa [← h.loop_msg (.inl hpc), ‹l.msg = none›] at this
  case oldOk.loop =>
    exact .inr (.inr (hS.trans _ _ _ (arg hpc (.inl rfl))
      (hS.trans _ _ _ (hS.chk_ok _ _ ‹_›) (h.snap .loop (.inl hpc)).1)))
  case install.loop => exact .inr (.inr (arg hpc (.inr rfl)))

end

variable [DecidableEq M] [DecidableEq T]

variable {P : Params M T} {le : T → T → Prop} {Ch : T → Prop} {cl : Nat → Nat} {presented : Nat → Option M}
  {priv : Nat → Bool} {c0 : Option M} {s s' s1 s2 : St M T}

theorem pos_reachable (hS : Sound P le) (h : Reachable P cl presented priv c0 s) : PosInv P presented s := by
  induction h with
  | init => exact ⟨fun t h => by simp [init, flushPC, inFlush] at h⟩
  | @step s s' t r hr hs ih =>
    have hI := fullInv_reachable hS hr
    obtain ⟨l', e, hl, rfl⟩ := (step_iff ..).mp hs
    refine ⟨fun t' => ?_⟩
    rw [Eff.apply_th]
    by_cases ht : t' = t
    · rw [ht, upd_same]; exact hl.pos (hI.loc t) (ih.pos t)
    · rw [upd_other _ _ _ _ ht]; exact ih.pos t'

theorem base_reachable (hH : Honest P le Ch presented c0) (h : HReachable P cl presented priv c0 s) :
    BaseInv P le cl c0 s := by
  induction h with
  | init => exact ⟨fun t h => by simp [init, holdsCfg] at h, fun c => .inl (.inl rfl)⟩
  | @step s s' t r hr hok hs ih =>
    have hI := fullInv_reachable hH.sound hr.reachable
    have hC := (honest_invs hH hr).1
    have hge := config_ge_c0 hH.sound hr.reachable
    obtain ⟨l', e, hl, rfl⟩ := (step_iff ..).mp hs
    obtain ⟨g1, g2, _⟩ := hl.honest hH (hC.loc t) hok
    refine ⟨fun t' => ?_, witness_step (Good := fun L _ => Based P le c0 L) (W := fun _ l => pendingPC l.pc = true) ih.base (fun _ => id)
      fun hpre => hl.base_own hH (hI.loc t) (ih.cfg_base t) ⟨g1, g2⟩ hpre⟩
    rw [Eff.apply_th]
    by_cases ht : t' = t
    · rw [ht, upd_same]; exact hl.cfg_base hge (ih.cfg_base t)
    · rw [upd_other _ _ _ _ ht]; exact ih.cfg_base t'

theorem latest_untouched (P : Params M T) (cl : Nat → Nat) (presented : Nat → Option M) (priv : Nat → Bool)
    (c0 : Option M) (s : St M T) (h : Reachable P cl presented priv c0 s) (c : Nat) (hc : ∀ t, cl t ≠ c) :
    s.latest c = P.zero := by
  induction h with
  | init => rfl
  | step t r _ hs ih =>
    rw [step_latest_frame hs c (fun e => hc t e.symm)]; exact ih

/-- C14 `one_client_memory_head_schedule_independent`, one direction -/
theorem single_client_mem_le (P : Params M T) (le : T → T → Prop) (Ch : T → Prop) (cl : Nat → Nat)
    (presented : Nat → Option M) (priv : Nat → Bool) (c0 : Option M) (hH : Honest P le Ch presented c0)
    (hsz : ∀ a b, le a b → P.size a ≤ P.size b) (hz : P.size P.zero = 0)
    (s1 s2 : St M T) (h1 : HReachable P cl presented priv c0 s1) (h2 : HReachable P cl presented priv c0 s2)
    (q1 : Quiescent s1) (q2 : Quiescent s2)
    (hsame : ∀ t, (s1.th t).pc = .entry ↔ (s2.th t).pc = .entry) (c : Nat) (hone : ∀ t, cl t = c) :
    le (s1.latest c) (s2.latest c) := by
  have hS := hH.sound
  have hI2 := inv_reachable hS h2.reachable
  have hV1 := seen_reachable hS h1.reachable
  have hL1 := fullInv_reachable hS h1.reachable
  have hK1 := pos_reachable hS h1.reachable
  have hB2 := base_reachable hH h2
  obtain ⟨hpcs, hc12, _⟩ := terminal_states_agree hH h1 h2 q1 q2 hsame
  obtain ⟨_, _, _, _, hcfg2⟩ := latest_ends_at_max_inv hH h2 q2
  -- a goroutine that returned success in `s1` was accepted in `s2`
  have hacc : ∀ t m pt, presented t = some m → P.parse m = some pt → (s1.th t).pc = .done .ok → le pt (s2.latest c) := by
    intro t m pt hm hp hd
    have := hI2.accepted t m pt hm hp (by rw [← hpcs t]; simp [PastFirst, hd])
    rwa [hone t] at this
  rcases hV1.saw c with hz1 | ⟨t, m, _, hst, hm, hp⟩ | ⟨t, _, hd, hx⟩
  · rw [hz1]; exact hS.zero_le _
  · -- a presented tree
    have hd : (s1.th t).pc = .done .ok := by
      obtain ⟨_, _, hres⟩ := honest_all_succeed_inv hH h1
      rcases q1 t with e | ⟨x, e⟩
      · exact absurd e hst.2
      · rw [e, (hres t x e).1 hst.1]
    exact hacc t m _ hm hp hd
  · -- a configuration content read by a goroutine that returned success
    rw [hx]
    cases hcfg : (s1.th t).cfg with
    | none => exact hS.zero_le _
    | some mc =>
      obtain ⟨m, pt, hm, hp, hpos⟩ := hK1.pos t (Or.inr (by rw [hcfg]; simp))
      have hle2 := hacc t m pt hm hp hd
      -- the in-memory head of `s2` is not the empty tree, so it contains the initial configuration
      have hbase : le (cfgTree P c0) (s2.latest c) := by
        rcases hB2.base c with (e | e) | ⟨t0, _, hp0⟩
        · have := hsz _ _ hle2
          rw [e, hz] at this
          omega
        · exact e
        · rcases q2 t0 with e | ⟨x, e⟩ <;> simp [pendingPC, e] at hp0
      have hx1 : le (cfgTree P (some mc)) (cfgTree P s2.config) := by
        have := (hL1.loc t).cfg_le
        rw [hcfg] at this
        exact hS.trans _ _ _ this hc12
      rcases hcfg2 with e | ⟨c', e1, _⟩
      · rw [e] at hx1; exact hS.trans _ _ _ hx1 hbase
      · by_cases hcc : c' = c
        · subst hcc; exact hS.trans _ _ _ hx1 e1
        · have : s2.latest c' = P.zero :=
            latest_untouched P cl presented priv c0 s2 h2.reachable c' (fun t e => hcc (by rw [← e, hone t]))
          rw [this] at e1
          exact hS.trans _ _ _ (hS.trans _ _ _ hx1 e1) (hS.zero_le _)

end ModVerif.ClientLatest
