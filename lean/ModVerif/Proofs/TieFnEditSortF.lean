/-
  the two-pointer compaction loops of `File.Cleanup` / `WorkFile.Cleanup`
  (`w := 0; for _, r := range f.X { if live(r) { f.X[w] = r; w++ } }; f.X = f.X[:w]`) against `List.filter`.
-/
import ModVerif.Proofs.TieFnEditSortC
namespace ModVerif.Tie.FnEditSortF
open ModVerif ModVerif.GoRt ModVerif.Generated.Edit ModVerif.Tie.FnEditRep ModVerif.Tie.FnEditLoop ModVerif.Tie.FnEditSortA ModVerif.Tie.FnEditSortB
  ModVerif.Tie.FnEditSortC

theorem take_set_succ {α : Type} : ∀ (l : List α) (w : Nat) (g : α), w < l.length → (l.set w g).take (w + 1) = l.take w ++ [g]
  | a :: l, 0, g, _ => by simp
  | a :: l, w + 1, g, h => by
    simp only [List.set_cons_succ, List.take_succ_cons, List.cons_append]
    rw [take_set_succ l w g (by simpa using h)]
  | [], _, _, h => by cases h

theorem setIdxL_nat {α : Type} (l : List α) (w : Nat) (g : α) (h : w < l.length) : setIdxL l (w : Int) g = .ok (l.set w g) := by
  have : (0 : Int) ≤ (w : Int) ∧ (w : Int) < len l := by simp [len_eq]; omega
  simp [setIdxL, this, pure, Except.pure]

/-- the compaction loop on the field `getF` / `setF` of the `File` or `WorkFile` object at `f` (`objs` / `setObjs`: the
    object list of the heap it lives in) -/
def compact {ω : Type} (objs : Heap → List ω) (setObjs : Heap → List ω → Heap) (live : Heap → Int → M Bool)
    (getF : ω → List Int) (setF : ω → List Int → ω) (rx : List Int) (f : Int) : Nat → Int → Heap → Int → M (Int × Heap × Int)
  | 0, _, _, _ => throw Err.fuel
  | fuel + 1, ri, world, w => if decide (ri < len rx) then (do
      let g ← idxL rx ri
      let b ← live world g
      if b then (do
        let t6 ← heapGet (objs world) f
        let t7 ← setIdxL (getF t6) w g
        let t8 ← heapGet (objs world) f
        let t9 ← heapSet (objs world) f (setF t8 t7)
        compact objs setObjs live getF setF rx f fuel (ri + 1) (setObjs world t9) (w + 1))
      else compact objs setObjs live getF setF rx f fuel (ri + 1) world w)
    else pure (ri, world, w)

theorem compact_spec {ω β : Type} (objs : Heap → List ω) (setObjs : Heap → List ω → Heap)
    (hos : ∀ h l, objs (setObjs h l) = l) (hoo : ∀ h l l', setObjs (setObjs h l) l' = setObjs h l')
    (live : Heap → Int → M Bool) (getF : ω → List Int) (setF : ω → List Int → ω)
    (hgs : ∀ o l, getF (setF o l) = l) (hss : ∀ o l l', setF (setF o l) l' = setF o l') (q : β → Bool)
    (h : Heap) (f : Int) (o0 : ω) (ho : heapGet (objs h) f = .ok o0) (o : ω) :
    ∀ (rest : List (Int × β)) (pre rx : List Int) (ri : Int) (fuel : Nat) (cur : List Int) (w : Nat),
      rx = pre ++ rest.map (·.1) → ri = (pre.length : Int) → rest.length < fuel →
      (∀ ms, ∀ z ∈ rest, live (setObjs h ms) z.1 = .ok (q z.2)) →
      cur.length = rx.length → w ≤ pre.length →
      ∃ cur', compact objs setObjs live getF setF rx f fuel ri (setObjs h ((objs h).set (f.toNat - 1) (setF o cur))) (w : Int) =
          .ok (len rx, setObjs h ((objs h).set (f.toNat - 1) (setF o cur')),
            ((w + (rest.filter (fun z => q z.2)).length : Nat) : Int)) ∧
        cur'.length = rx.length ∧
        cur'.take (w + (rest.filter (fun z => q z.2)).length) = cur.take w ++ (rest.filter (fun z => q z.2)).map (·.1) := by
  intro rest
  induction rest with
  | nil =>
    intro pre rx ri fuel cur w hrx hri hf _ hl hw
    cases fuel with
    | zero => cases hf
    | succ fuel =>
      subst hrx hri
      have := not_lt_len_end pre
      simp only [List.map_nil] at this ⊢
      refine ⟨cur, ?_, hl, by simp⟩
      simp [compact, pure, Except.pure, len_eq]
  | cons z rest ih =>
    intro pre rx ri fuel cur w hrx hri hf hlive hl hw
    cases fuel with
    | zero => cases hf
    | succ fuel =>
      have ih' := ih (pre ++ [z.1]) rx (ri + 1) fuel
      subst hrx hri
      simp only [List.map_cons] at ih' hl ⊢
      have hz := hlive ((objs h).set (f.toNat - 1) (setF o cur)) z List.mem_cons_self
      have hf' : rest.length < fuel := by simp at hf; omega
      have hlive' : ∀ ms, ∀ y ∈ rest, live (setObjs h ms) y.1 = .ok (q y.2) :=
        fun ms y hy => hlive ms y (List.mem_cons_of_mem _ hy)
      simp only [compact, lt_len_mid, decide_true, if_true, idxL_mid, bind, Except.bind, hz]
      cases hq : q z.2
      · simp only [Bool.false_eq_true, if_false]
        obtain ⟨cur', e1, e2, e3⟩ := ih' cur w (by simp) (by simp) hf' hlive' hl (by simp; omega)
        refine ⟨cur', ?_, e2, ?_⟩
        · rw [e1]; simp [hq]
        · simpa [List.filter_cons, hq] using e3
      · have hwl : w < cur.length := by rw [hl]; simp; omega
        simp only [if_true, hos, heapGet_listSet_same _ ho, hgs, setIdxL_nat cur w z.1 hwl, heapSet_listSet_same ho, hss, hoo]
        have hc : ((w : Int) + 1) = ((w + 1 : Nat) : Int) := by omega
        rw [hc]
        obtain ⟨cur', e1, e2, e3⟩ := ih' (cur.set w z.1) (w + 1) (by simp) (by simp) hf' hlive' (by simpa using hl) (by simp; omega)
        refine ⟨cur', ?_, e2, ?_⟩
        · rw [e1]; simp [hq, Nat.add_assoc, Nat.add_comm 1]
        · simp only [List.filter_cons, hq, if_true, List.length_cons, List.map_cons]
          rw [show w + ((rest.filter fun z => q z.2).length + 1) = w + 1 + (rest.filter fun z => q z.2).length by omega, e3,
            take_set_succ cur w z.1 hwl]
          simp

abbrev setMods (h : Heap) (l : List File) : Heap := { h with mods := l }
abbrev setWorks (h : Heap) (l : List WorkFile) : Heap := { h with works := l }

def cl1_live : Heap → Int → M Bool := fun world g => do let t ← heapGet world.godebugs g; pure (!decide (t.Key = ([] : Bytes)))

theorem cl1_eq (rx : List Int) (f : Int) : ∀ (fuel : Nat) (ri : Int) (world : Heap) (w : Int),
    File_Cleanup_loop1 rx f fuel ri world w = compact (·.mods) setMods cl1_live (·.Godebug) (fun o l => { o with Godebug := l }) rx f fuel ri world w := by
  intro fuel
  induction fuel with
  | zero => intro ri world w; rfl
  | succ n ih =>
    intro ri world w
    simp only [File_Cleanup_loop1, compact, cl1_live, ih, bind_assoc, pure_bind]

def cl2_live : Heap → Int → M Bool := fun world g => do let t ← heapGet world.requires g; pure (!decide (t.Mod.Path = ([] : Bytes)))

theorem cl2_eq (rx : List Int) (f : Int) : ∀ (fuel : Nat) (ri : Int) (world : Heap) (w : Int),
    File_Cleanup_loop2 rx f fuel ri world w = compact (·.mods) setMods cl2_live (·.Require) (fun o l => { o with Require := l }) rx f fuel ri world w := by
  intro fuel
  induction fuel with
  | zero => intro ri world w; rfl
  | succ n ih =>
    intro ri world w
    simp only [File_Cleanup_loop2, compact, cl2_live, ih, bind_assoc, pure_bind]

def cl3_live : Heap → Int → M Bool := fun world g => do let t ← heapGet world.excludes g; pure (!decide (t.Mod.Path = ([] : Bytes)))

theorem cl3_eq (rx : List Int) (f : Int) : ∀ (fuel : Nat) (ri : Int) (world : Heap) (w : Int),
    File_Cleanup_loop3 rx f fuel ri world w = compact (·.mods) setMods cl3_live (·.Exclude) (fun o l => { o with Exclude := l }) rx f fuel ri world w := by
  intro fuel
  induction fuel with
  | zero => intro ri world w; rfl
  | succ n ih =>
    intro ri world w
    simp only [File_Cleanup_loop3, compact, cl3_live, ih, bind_assoc, pure_bind]

def cl4_live : Heap → Int → M Bool := fun world g => do let t ← heapGet world.replaces g; pure (!decide (t.Old.Path = ([] : Bytes)))

theorem cl4_eq (rx : List Int) (f : Int) : ∀ (fuel : Nat) (ri : Int) (world : Heap) (w : Int),
    File_Cleanup_loop4 rx f fuel ri world w = compact (·.mods) setMods cl4_live (·.Replace) (fun o l => { o with Replace := l }) rx f fuel ri world w := by
  intro fuel
  induction fuel with
  | zero => intro ri world w; rfl
  | succ n ih =>
    intro ri world w
    simp only [File_Cleanup_loop4, compact, cl4_live, ih, bind_assoc, pure_bind]

def cl6_live : Heap → Int → M Bool := fun world g => do let t ← heapGet world.tools g; pure (!decide (t.Path = ([] : Bytes)))

theorem cl6_eq (rx : List Int) (f : Int) : ∀ (fuel : Nat) (ri : Int) (world : Heap) (w : Int),
    File_Cleanup_loop6 rx f fuel ri world w = compact (·.mods) setMods cl6_live (·.Tool) (fun o l => { o with Tool := l }) rx f fuel ri world w := by
  intro fuel
  induction fuel with
  | zero => intro ri world w; rfl
  | succ n ih =>
    intro ri world w
    simp only [File_Cleanup_loop6, compact, cl6_live, ih, bind_assoc, pure_bind]

def wcl1_live : Heap → Int → M Bool := fun world g => do let t ← heapGet world.godebugs g; pure (!decide (t.Key = ([] : Bytes)))

theorem wcl1_eq (rx : List Int) (f : Int) : ∀ (fuel : Nat) (ri : Int) (world : Heap) (w : Int),
    WorkFile_Cleanup_loop1 rx f fuel ri world w = compact (·.works) setWorks wcl1_live (·.Godebug) (fun o l => { o with Godebug := l }) rx f fuel ri world w := by
  intro fuel
  induction fuel with
  | zero => intro ri world w; rfl
  | succ n ih =>
    intro ri world w
    simp only [WorkFile_Cleanup_loop1, compact, wcl1_live, ih, bind_assoc, pure_bind]

def wcl2_live : Heap → Int → M Bool := fun world g => do let t ← heapGet world.uses g; pure (!decide (t.Path = ([] : Bytes)))

theorem wcl2_eq (rx : List Int) (f : Int) : ∀ (fuel : Nat) (ri : Int) (world : Heap) (w : Int),
    WorkFile_Cleanup_loop2 rx f fuel ri world w = compact (·.works) setWorks wcl2_live (·.Use) (fun o l => { o with Use := l }) rx f fuel ri world w := by
  intro fuel
  induction fuel with
  | zero => intro ri world w; rfl
  | succ n ih =>
    intro ri world w
    simp only [WorkFile_Cleanup_loop2, compact, wcl2_live, ih, bind_assoc, pure_bind]

def wcl3_live : Heap → Int → M Bool := fun world g => do let t ← heapGet world.replaces g; pure (!decide (t.Old.Path = ([] : Bytes)))

theorem wcl3_eq (rx : List Int) (f : Int) : ∀ (fuel : Nat) (ri : Int) (world : Heap) (w : Int),
    WorkFile_Cleanup_loop3 rx f fuel ri world w = compact (·.works) setWorks wcl3_live (·.Replace) (fun o l => { o with Replace := l }) rx f fuel ri world w := by
  intro fuel
  induction fuel with
  | zero => intro ri world w; rfl
  | succ n ih =>
    intro ri world w
    simp only [WorkFile_Cleanup_loop3, compact, wcl3_live, ih, bind_assoc, pure_bind]

def cl5_live : Heap → Int → M Bool := fun world g => do
  let t57 ← heapGet world.retracts g
  (if (!decide (t57.VersionInterval.Low = ([] : Bytes))) then pure true else (do
    let t58 ← heapGet world.retracts g
    pure (!decide (t58.VersionInterval.High = ([] : Bytes)))))

theorem cl5_eq (rx : List Int) (f : Int) : ∀ (fuel : Nat) (ri : Int) (world : Heap) (w : Int),
    File_Cleanup_loop5 rx f fuel ri world w = compact (·.mods) setMods cl5_live (·.Retract) (fun o l => { o with Retract := l }) rx f fuel ri world w := by
  intro fuel
  induction fuel with
  | zero => intro ri world w; rfl
  | succ n ih =>
    intro ri world w
    simp only [File_Cleanup_loop5, compact, cl5_live, ih, bind_assoc]

end ModVerif.Tie.FnEditSortF
