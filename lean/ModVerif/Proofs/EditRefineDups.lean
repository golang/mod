/-
  The line ids of the live entries of a typed list (`IdWF`, `liveIds`), and the typed half of the model's `removeDups`
  (kill lists of line ids, then filtering the typed lists by line id) against the specification's `dedupFirst` /
  `dedupLast`.
-/
import ModVerif.Proofs.EditRefineLists
namespace ModVerif.Modfile.Edit
open ModVerif ModVerif.Modfile ModVerif.EditSpec

section keepFirst
variable {α κ : Type} [BEq κ] [LawfulBEq κ]

/-- forward form of "earlier entries win" -/
def keepFirst (key : α → κ) : List α → List κ → List α
  | [], _ => []
  | x :: xs, seen => if seen.contains (key x) then keepFirst key xs seen else x :: keepFirst key xs (key x :: seen)

theorem dedupLast_snoc (key : α → κ) (l : List α) (x : α) :
    dedupLast key (l ++ [x]) = (dedupLast key l).filter (fun y => !(key y == key x)) ++ [x] := by
  induction l with
  | nil => simp [dedupLast]
  | cons y ys ih =>
    simp only [List.cons_append, dedupLast, List.any_append, List.any_cons, List.any_nil, Bool.or_false]
    by_cases h1 : ys.any (fun z => key z == key y) = true
    · simp [h1, ih]
    · simp only [Bool.not_eq_true] at h1
      by_cases h2 : (key x == key y) = true
      · have : (key y == key x) = true := by rw [eq_of_beq h2]; exact beq_self_eq_true _
        simp [h1, h2, ih, this]
      · simp only [Bool.not_eq_true] at h2
        have : (key y == key x) = false := by
          cases h : key y == key x with
          | false => rfl
          | true => have : key x = key y := (eq_of_beq h).symm; simp [this] at h2
        simp [h1, h2, ih, this]

theorem dedupFirst_cons (key : α → κ) (x : α) (xs : List α) :
    dedupFirst key (x :: xs) = x :: (dedupFirst key xs).filter (fun y => !(key y == key x)) := by
  unfold dedupFirst
  rw [List.reverse_cons, dedupLast_snoc]
  simp [List.filter_reverse]

theorem keepFirst_filter (key : α → κ) (l : List α) : ∀ (s1 s2 : List κ) (k : κ),
    keepFirst key l (s1 ++ k :: s2) = (keepFirst key l (s1 ++ s2)).filter (fun y => !(key y == k)) := by
  induction l with
  | nil => intro s1 s2 k; rfl
  | cons x xs ih =>
    intro s1 s2 k
    have hc : (s1 ++ k :: s2).contains (key x) = ((s1 ++ s2).contains (key x) || key x == k) := by
      simp only [List.contains_append, List.contains_cons]
      cases s1.contains (key x) <;> cases s2.contains (key x) <;> cases (key x == k) <;> rfl
    simp only [keepFirst, hc]
    by_cases h1 : (s1 ++ s2).contains (key x) = true
    · simp only [h1, Bool.true_or, if_true, ih]
    · simp only [Bool.not_eq_true] at h1
      by_cases h2 : (key x == k) = true
      · simp only [h1, h2, Bool.or_true, if_true, Bool.false_eq_true, if_false, ih]
        have h3 := ih [] (s1 ++ s2) (key x)
        simp only [List.nil_append] at h3
        have hk : key x = k := eq_of_beq h2
        rw [List.filter_cons]
        subst hk
        rw [h3]
        simp [List.filter_filter]
      · simp only [Bool.not_eq_true] at h2
        have := ih (key x :: s1) s2 k
        simp only [List.cons_append] at this
        simp only [h1, h2, Bool.or_false, Bool.false_eq_true, if_false, this]
        rw [List.filter_cons]
        simp [h2]

theorem dedupFirst_eq_keepFirst (key : α → κ) (l : List α) : dedupFirst key l = keepFirst key l [] := by
  induction l with
  | nil => rfl
  | cons x xs ih =>
    rw [dedupFirst_cons, ih]
    simp only [keepFirst, List.contains_nil, Bool.false_eq_true, if_false]
    have := keepFirst_filter key xs [] [] (key x)
    simp only [List.nil_append] at this
    rw [this]

omit [LawfulBEq κ] in
theorem dedupLast_congr {κ' : Type} [BEq κ'] (k1 : α → κ) (k2 : α → κ') (h : ∀ x y, (k1 x == k1 y) = (k2 x == k2 y))
    (l : List α) : dedupLast k1 l = dedupLast k2 l := by
  induction l with
  | nil => rfl
  | cons x xs ih =>
    have : xs.any (fun y => k1 y == k1 x) = xs.any (fun y => k2 y == k2 x) := by
      congr 1; funext y; exact h y x
    simp [dedupLast, this, ih]

omit [LawfulBEq κ] in
theorem dedupFirst_congr {κ' : Type} [BEq κ'] (k1 : α → κ) (k2 : α → κ') (h : ∀ x y, (k1 x == k1 y) = (k2 x == k2 y))
    (l : List α) : dedupFirst k1 l = dedupFirst k2 l := by
  unfold dedupFirst; rw [dedupLast_congr k1 k2 h]

end keepFirst
section ids
variable {α : Type} {m : α → Bool} {upd : α → α} {cleared : α}

/-- live entries carry a real line id, the others (cleared placeholders) the nil id -/
def IdWF (live : α → Bool) (id : α → Nat) (l : List α) : Prop :=
  ∀ x ∈ l, (live x = true → id x ≠ 0) ∧ (live x = false → id x = 0)

def liveIds (live : α → Bool) (id : α → Nat) (l : List α) : List Nat := (l.filter live).map id

variable (live : α → Bool) (id : α → Nat)

theorem liveIds_cons (x : α) (xs : List α) :
    liveIds live id (x :: xs) = if live x then id x :: liveIds live id xs else liveIds live id xs := by
  unfold liveIds; by_cases h : live x = true <;> simp [List.filter, h]

theorem liveIds_append (l1 l2 : List α) : liveIds live id (l1 ++ l2) = liveIds live id l1 ++ liveIds live id l2 := by
  simp [liveIds, List.filter_append]

theorem liveIds_snoc (l : List α) {x : α} (h : live x = true) : liveIds live id (l ++ [x]) = liveIds live id l ++ [id x] := by
  simp [liveIds, List.filter_append, h]

theorem liveIds_all (l : List α) (h : ∀ x ∈ l, live x = true) : liveIds live id l = l.map id := by
  unfold liveIds; rw [List.filter_eq_self.2 h]

theorem mem_liveIds {l : List α} {i : Nat} : i ∈ liveIds live id l ↔ ∃ x ∈ l, live x = true ∧ id x = i := by
  simp [liveIds, and_assoc]

theorem liveIds_filter_sublist (p : α → Bool) (l : List α) : (liveIds live id (l.filter p)).Sublist (liveIds live id l) :=
  (List.filter_sublist.filter live).map id

variable {live id}

theorem IdWF_tail {x : α} {xs : List α} (h : IdWF live id (x :: xs)) : IdWF live id xs :=
  fun y hy => h y (List.mem_cons_of_mem _ hy)

theorem IdWF_filter (p : α → Bool) {l : List α} (h : IdWF live id l) : IdWF live id (l.filter p) :=
  fun x hx => h x (List.mem_filter.1 hx).1

theorem IdWF_append {l1 l2 : List α} (h1 : IdWF live id l1) (h2 : IdWF live id l2) : IdWF live id (l1 ++ l2) :=
  fun x hx => (List.mem_append.1 hx).elim (h1 x) (h2 x)

theorem IdWF_single {x : α} (hl : live x = true) (hid : id x ≠ 0) : IdWF live id [x] := by
  intro y hy
  rw [List.mem_singleton.1 hy]
  exact ⟨fun _ => hid, fun h => by rw [hl] at h; cases h⟩

theorem IdWF_of_live {l : List α} (h : ∀ x ∈ l, live x = true ∧ id x ≠ 0) : IdWF live id l :=
  fun x hx => ⟨fun _ => (h x hx).2, fun hl => by rw [(h x hx).1] at hl; cases hl⟩

theorem IdWF_clearM {l : List α} (h : IdWF live id l) (hc : live cleared = false := by rfl)
    (hc0 : id cleared = 0 := by rfl) : IdWF live id (clearM m cleared l) := by
  intro y hy
  rcases mem_clearM.1 hy with ⟨hy, _⟩ | ⟨rfl, _⟩
  · exact h y hy
  · exact ⟨fun h => (by rw [hc] at h; cases h), fun _ => hc0⟩

theorem liveIds_clearM (l : List α) (hc : live cleared = false := by rfl) :
    (liveIds live id (clearM m cleared l)).Sublist (liveIds live id l) := by
  induction l with
  | nil => exact .slnil
  | cons x xs ih =>
    show (liveIds live id ((if m x then cleared else x) :: clearM m cleared xs)).Sublist _
    rw [liveIds_cons, liveIds_cons]
    by_cases hm : m x = true <;> by_cases hl : live x = true <;> simp [hm, hl, hc, ih, List.Sublist.cons]

theorem IdWF_updFirst {l : List α} (h : IdWF live id l) (hml : ∀ x, m x = true → live x = true)
    (hlu : ∀ x, m x = true → live (upd x) = true) (hid : ∀ x, id (upd x) = id x := by intros; rfl)
    (hc : live cleared = false := by rfl) (hc0 : id cleared = 0 := by rfl) : IdWF live id (updFirst m upd cleared l) := by
  induction l with
  | nil => exact h
  | cons x xs ih =>
    have hxs := IdWF_tail h
    intro y hy
    unfold updFirst at hy
    split at hy <;> rcases List.mem_cons.1 hy with rfl | hy
    · rename_i hm
      rw [hid, hlu x hm]
      exact ⟨fun _ => (h x List.mem_cons_self).1 (hml x hm), fun h => by cases h⟩
    · exact IdWF_clearM hxs hc hc0 y hy
    · exact h y List.mem_cons_self
    · exact ih hxs y hy

theorem liveIds_updFirst (l : List α) (hml : ∀ x, m x = true → live x = true)
    (hlu : ∀ x, m x = true → live (upd x) = true) (hid : ∀ x, id (upd x) = id x := by intros; rfl)
    (hc : live cleared = false := by rfl) : (liveIds live id (updFirst m upd cleared l)).Sublist (liveIds live id l) := by
  induction l with
  | nil => exact .slnil
  | cons x xs ih =>
    unfold updFirst
    by_cases hm : m x = true
    · simp [hm, liveIds_cons, hlu x hm, hml x hm, hid, liveIds_clearM xs hc]
    · by_cases hl : live x = true <;> simp [hm, liveIds_cons, hl, ih]

end ids

section kill
variable {α β κ κ' : Type} [BEq κ] [BEq κ']
  (key : α → κ) (id : α → Nat) (live : α → Bool) (a : α → β) (key' : β → κ')

theorem killLater_subset (l : List α) : ∀ (seen : List κ) (i : Nat), i ∈ killLater key id l seen → ∃ x ∈ l, id x = i := by
  induction l with
  | nil => intro seen i h; simp [killLater] at h
  | cons x xs ih =>
    intro seen i h
    unfold killLater at h
    split at h
    · rcases List.mem_cons.1 h with rfl | h
      · exact ⟨x, List.mem_cons_self, rfl⟩
      · rcases ih _ _ h with ⟨y, hy, e⟩; exact ⟨y, List.mem_cons_of_mem _ hy, e⟩
    · rcases ih _ _ h with ⟨y, hy, e⟩; exact ⟨y, List.mem_cons_of_mem _ hy, e⟩

theorem head_id_fresh {x : α} {xs : List α} (hwf : IdWF live id (x :: xs)) (hnd : (liveIds live id (x :: xs)).Nodup)
    (hx : live x = true) : ∀ y ∈ xs, id y ≠ id x := by
  intro y hy e
  rw [liveIds_cons] at hnd
  simp only [hx, if_true] at hnd
  rcases List.nodup_cons.1 hnd with ⟨h1, _⟩
  by_cases hly : live y = true
  · apply h1
    rw [← e]
    exact List.mem_map.2 ⟨y, List.mem_filter.2 ⟨hy, hly⟩, rfl⟩
  · simp only [Bool.not_eq_true] at hly
    have := (hwf y (List.mem_cons_of_mem _ hy)).2 hly
    have := (hwf x List.mem_cons_self).1 hx
    omega

theorem nodup_tail {x : α} {xs : List α} (hnd : (liveIds live id (x :: xs)).Nodup) : (liveIds live id xs).Nodup := by
  rw [liveIds_cons] at hnd
  split at hnd
  · exact (List.nodup_cons.1 hnd).2
  · exact hnd

theorem K_snoc_ok {x : α} {xs : List α} (hwf : IdWF live id (x :: xs)) (hnd : (liveIds live id (x :: xs)).Nodup)
    {K : List Nat} (hK : ∀ y ∈ x :: xs, live y = true → id y ∉ K) : ∀ y ∈ xs, live y = true → id y ∉ K ++ [id x] := by
  intro y hy hly hmem
  rcases List.mem_append.1 hmem with h | h
  · exact hK y (List.mem_cons_of_mem _ hy) hly h
  · simp only [List.mem_singleton] at h
    by_cases hx : live x = true
    · exact head_id_fresh id live hwf hnd hx y hy h
    · simp only [Bool.not_eq_true] at hx
      have := (hwf x List.mem_cons_self).2 hx
      have := (hwf y (List.mem_cons_of_mem _ hy)).1 hly
      omega

theorem killLater_abs
    (hk : ∀ x y, live x = true → live y = true → (key y == key x) = (key' (a y) == key' (a x)))
    (hnl : ∀ x y, live x = false → live y = true → (key y == key x) = false)
    (l : List α) : ∀ (K : List Nat) (seen : List κ) (seen' : List κ'),
      IdWF live id l → (liveIds live id l).Nodup → (∀ x ∈ l, live x = true → id x ∉ K) →
      (∀ y, live y = true → seen.contains (key y) = seen'.contains (key' (a y))) →
      liveAbs live a (l.filter (fun x => !(K ++ killLater key id l seen).contains (id x)))
        = keepFirst key' (liveAbs live a l) seen' := by
  induction l with
  | nil => intro K seen seen' _ _ _ _; rfl
  | cons x xs ih =>
    intro K seen seen' hwf hnd hK hseen
    have hwf' := IdWF_tail hwf
    have hnd' := nodup_tail id live hnd
    unfold killLater
    by_cases hs : seen.contains (key x) = true
    · simp only [hs, if_true]
      have hrem : (!(K ++ id x :: killLater key id xs seen).contains (id x)) = false := by simp
      rw [List.filter_cons]
      simp only [hrem, Bool.false_eq_true, if_false]
      have hKK : K ++ id x :: killLater key id xs seen = (K ++ [id x]) ++ killLater key id xs seen := by simp
      rw [hKK, ih (K ++ [id x]) seen seen' hwf' hnd' (K_snoc_ok id live hwf hnd hK) hseen, liveAbs_cons]
      by_cases hl : live x = true
      · have := hseen x hl
        rw [hs] at this
        simp only [hl, if_true, keepFirst, ← this]
      · simp [hl]
    · simp only [Bool.not_eq_true] at hs
      simp only [hs, Bool.false_eq_true, if_false]
      by_cases hl : live x = true
      · have hkeep : (!(K ++ killLater key id xs (key x :: seen)).contains (id x)) = true := by
          simp only [Bool.not_eq_true', List.contains_eq_mem, decide_eq_false_iff_not, List.mem_append, not_or]
          refine ⟨hK x List.mem_cons_self hl, ?_⟩
          intro hmem
          rcases killLater_subset key id xs _ _ hmem with ⟨y, hy, e⟩
          exact head_id_fresh id live hwf hnd hl y hy e
        rw [List.filter_cons]
        simp only [hkeep, if_true]
        rw [liveAbs_cons, liveAbs_cons]
        have hs' : seen'.contains (key' (a x)) = false := by rw [← hseen x hl]; exact hs
        simp only [hl, if_true, keepFirst, hs', Bool.false_eq_true, if_false]
        congr 1
        apply ih K (key x :: seen) (key' (a x) :: seen') hwf' hnd' (fun y hy => hK y (List.mem_cons_of_mem _ hy))
        intro y hy
        simp only [List.contains_cons, hseen y hy, hk x y hl hy]
      · simp only [Bool.not_eq_true] at hl
        have hgoal : liveAbs live a ((x :: xs).filter (fun z => !(K ++ killLater key id xs (key x :: seen)).contains (id z)))
            = liveAbs live a (xs.filter (fun z => !(K ++ killLater key id xs (key x :: seen)).contains (id z))) := by
          rw [List.filter_cons]
          split
          · rw [liveAbs_cons]; simp [hl]
          · rfl
        rw [hgoal, liveAbs_cons]
        simp only [hl, Bool.false_eq_true, if_false]
        apply ih K (key x :: seen) seen' hwf' hnd' (fun y hy => hK y (List.mem_cons_of_mem _ hy))
        intro y hy
        simp only [List.contains_cons, hseen y hy, hnl x y hl hy, Bool.false_or]

theorem killEarlier_subset (l : List Replace) : ∀ (i : Nat), i ∈ killEarlier l → ∃ x ∈ l, x.lineId = i := by
  induction l with
  | nil => intro i h; simp [killEarlier] at h
  | cons x xs ih =>
    intro i h
    unfold killEarlier at h
    split at h
    · rcases List.mem_cons.1 h with rfl | h
      · exact ⟨x, List.mem_cons_self, rfl⟩
      · rcases ih _ h with ⟨y, hy, e⟩; exact ⟨y, List.mem_cons_of_mem _ hy, e⟩
    · rcases ih _ h with ⟨y, hy, e⟩; exact ⟨y, List.mem_cons_of_mem _ hy, e⟩

theorem killEarlier_abs {β κ' : Type} [BEq κ'] (live : Replace → Bool) (a : Replace → β) (key' : β → κ')
    (hk : ∀ x y, live x = true → live y = true → (y.old == x.old) = (key' (a y) == key' (a x)))
    (hnl : ∀ x y, live x = true → live y = false → (y.old == x.old) = false)
    (l : List Replace) : ∀ (K : List Nat),
      IdWF live (·.lineId) l → (liveIds live (·.lineId) l).Nodup → (∀ x ∈ l, live x = true → x.lineId ∉ K) →
      liveAbs live a (l.filter (fun x => !(K ++ killEarlier l).contains x.lineId)) = dedupLast key' (liveAbs live a l) := by
  induction l with
  | nil => intro K _ _ _; rfl
  | cons x xs ih =>
    intro K hwf hnd hK
    have hwf' := IdWF_tail hwf
    have hnd' := nodup_tail (·.lineId) live hnd
    -- the specification's test on the live abstraction is the model's test
    have hany : live x = true → (liveAbs live a xs).any (fun y => key' y == key' (a x)) = xs.any (fun y => y.old == x.old) := by
      intro hl
      cases hc : xs.any (fun y => y.old == x.old) with
      | true =>
        rcases List.any_eq_true.1 hc with ⟨y, hy, hyx⟩
        have hly : live y = true := by
          cases h : live y with
          | true => rfl
          | false => rw [hnl x y hl h] at hyx; exact absurd hyx (by simp)
        exact List.any_eq_true.2 ⟨a y, (liveAbs_mem live a xs _).2 ⟨y, hy, hly, rfl⟩, by rw [← hk x y hl hly]; exact hyx⟩
      | false =>
        apply List.any_eq_false.2
        intro b hb
        rcases (liveAbs_mem live a xs b).1 hb with ⟨y, hy, hly, rfl⟩
        rw [← hk x y hl hly]
        have := List.any_eq_false.1 hc y hy
        simpa using this
    unfold killEarlier
    by_cases hc : xs.any (fun y => y.old == x.old) = true
    · simp only [hc, if_true]
      have hrem : (!(K ++ x.lineId :: killEarlier xs).contains x.lineId) = false := by simp
      rw [List.filter_cons]
      simp only [hrem, Bool.false_eq_true, if_false]
      have hKK : K ++ x.lineId :: killEarlier xs = (K ++ [x.lineId]) ++ killEarlier xs := by simp
      rw [hKK, ih (K ++ [x.lineId]) hwf' hnd' (K_snoc_ok (·.lineId) live hwf hnd hK), liveAbs_cons]
      by_cases hl : live x = true
      · simp only [hl, if_true, dedupLast, hany hl, hc]
      · simp [hl]
    · simp only [Bool.not_eq_true] at hc
      simp only [hc, Bool.false_eq_true, if_false]
      by_cases hl : live x = true
      · have hkeep : (!(K ++ killEarlier xs).contains x.lineId) = true := by
          simp only [Bool.not_eq_true', List.contains_eq_mem, decide_eq_false_iff_not, List.mem_append, not_or]
          refine ⟨hK x List.mem_cons_self hl, ?_⟩
          intro hmem
          rcases killEarlier_subset xs _ hmem with ⟨y, hy, e⟩
          exact head_id_fresh (·.lineId) live hwf hnd hl y hy e
        rw [List.filter_cons]
        simp only [hkeep, if_true]
        rw [liveAbs_cons, liveAbs_cons]
        simp only [hl, if_true, dedupLast, hany hl, hc, Bool.false_eq_true, if_false]
        congr 1
        exact ih K hwf' hnd' (fun y hy => hK y (List.mem_cons_of_mem _ hy))
      · simp only [Bool.not_eq_true] at hl
        have hgoal : liveAbs live a ((x :: xs).filter (fun z => !(K ++ killEarlier xs).contains z.lineId))
            = liveAbs live a (xs.filter (fun z => !(K ++ killEarlier xs).contains z.lineId)) := by
          rw [List.filter_cons]
          split
          · rw [liveAbs_cons]; simp [hl]
          · rfl
        rw [hgoal, liveAbs_cons]
        simp only [hl, Bool.false_eq_true, if_false]
        exact ih K hwf' hnd' (fun y hy => hK y (List.mem_cons_of_mem _ hy))

end kill

end ModVerif.Modfile.Edit
