/-
  General facts about the integer part of the Go-to-Lean run-time vocabulary (`Basic/GoRt.lean`):
  `chk64`, `toU64`, `shl`, `shr`, `band`, `trailingZeros64` on values that are images of natural numbers, `makeList` /
  `setIdxL` at a natural index, and the Except laws as rewrite rules that are safe next to these.
  Used by the tie proofs of the integer kernels and the Merkle proof functions of sumdb/tlog and of the tiles.
-/
import ModVerif.Basic.GoRt
namespace ModVerif.GoRt

theorem two63_eq : two63 = 2 ^ 63 := by unfold two63; omega

theorem chk64_ok (x : Int) (h1 : -2 ^ 63 ≤ x) (h2 : x < 2 ^ 63) : chk64 x = .ok x := by
  have h1' : -9223372036854775808 ≤ x := by omega
  have h2' : x < 9223372036854775808 := by omega
  simp [chk64, two63, h1', h2']; rfl

theorem chk64_ofNat {n : Nat} (h : n < 2 ^ 63) : chk64 (Int.ofNat n) = .ok (Int.ofNat n) := by
  apply chk64_ok <;> simp <;> omega

theorem chk64_natCast {n : Nat} (h : n < 2 ^ 63) : chk64 (n : Int) = .ok (n : Int) := chk64_ofNat h

theorem chk64_overflow {x : Int} (h : 9223372036854775808 ≤ x) : chk64 x = .error .overflow := by
  have : ¬ x < 9223372036854775808 := by omega
  simp [chk64, two63, this]; rfl

theorem toU64_of_range (x : Int) (h1 : 0 ≤ x) (h2 : x < 2 ^ 64) : toU64 x = x := by
  simp [toU64, two64]; omega

theorem toU64_natCast {n : Nat} (h : n < 2 ^ 64) : toU64 (n : Int) = (n : Int) :=
  toU64_of_range _ (by omega) (by exact_mod_cast h)

theorem toU64_natCast_toNat {n : Nat} (h : n < 2 ^ 64) : (toU64 (n : Int)).toNat = n := by
  rw [toU64_natCast h]; simp

theorem shl_nonneg (a : Int) {k : Int} (h : 0 ≤ k) : shl a k = .ok (a * 2 ^ k.toNat) := by
  have : ¬ k < 0 := by omega
  simp [shl, this]; rfl

theorem shr_nonneg (a : Int) {k : Int} (h : 0 ≤ k) : shr a k = .ok (a / 2 ^ k.toNat) := by
  have : ¬ k < 0 := by omega
  simp [shr, this]; rfl

theorem shl_one_natCast (k : Nat) : shl 1 (k : Int) = .ok (((2 ^ k : Nat) : Int)) := by
  rw [shl_nonneg _ (by omega)]; simp

theorem shr_natCast (a k : Nat) : shr (a : Int) (k : Int) = .ok (((a >>> k : Nat) : Int)) := by
  rw [shr_nonneg _ (by omega), Nat.shiftRight_eq_div_pow]
  simp

theorem shr_natCast_one (a : Nat) : shr (a : Int) 1 = .ok (((a / 2 : Nat) : Int)) := by
  rw [shr_nonneg _ (by omega)]; simp

theorem band_natCast {a b : Nat} (ha : a < 2 ^ 64) (hb : b < 2 ^ 64) : band (a : Int) (b : Int) = ((a &&& b : Nat) : Int) := by
  simp only [band, toU64_natCast_toNat ha, toU64_natCast_toNat hb]
  rfl

theorem band_natCast_one {a : Nat} (ha : a < 2 ^ 64) : band (a : Int) 1 = ((a % 2 : Nat) : Int) := by
  have := band_natCast ha (b := 1) (by omega)
  rw [Nat.and_one_is_mod] at this
  exact this

/-- Go division truncates; the operands are non-negative -/
theorem quo_natCast_two (a : Nat) : quo (a : Int) 2 = .ok (((a / 2 : Nat) : Int)) := by
  simp only [quo, show ¬ ((2 : Int) = 0) by omega, ↓reduceIte]
  show Except.ok _ = _
  rw [Int.tdiv_eq_ediv_of_nonneg (by omega)]
  rfl

theorem tz64Aux_zero : ∀ f, tz64Aux f 0 = f := by
  intro f; induction f with
  | zero => rfl
  | succ f ih => simp [tz64Aux, ih]; omega

/-- `bits.TrailingZeros64` of a natural number: the fuel-64 count on the low 64 bits (64 for 0) -/
theorem trailingZeros64_natCast (n : Nat) : trailingZeros64 (n : Int) = ((tz64Aux 64 (n % 2 ^ 64) : Nat) : Int) := by
  have e : (toU64 (n : Int)).toNat = n % 2 ^ 64 := by
    simp only [toU64, two64]; omega
  simp only [trailingZeros64, e]
  by_cases h : n % 2 ^ 64 = 0
  · simp [h, tz64Aux_zero]
  · simp [h]

theorem makeList_natCast {α : Type} (n : Nat) (z : α) : makeList (n : Int) z = .ok (List.replicate n z) := by
  have : ¬ ((n : Int) < 0) := by omega
  simp only [makeList, this, ↓reduceIte, Int.toNat_natCast]; rfl

theorem setIdxL_natCast {α : Type} {s : List α} {k : Nat} (h : k < s.length) (x : α) :
    setIdxL s (k : Int) x = .ok (s.set k x) := by
  have : (0 : Int) ≤ (k : Int) ∧ (k : Int) < len s := by simp only [len, Int.ofNat_eq_natCast]; omega
  simp only [setIdxL, this, and_self, ↓reduceIte, Int.toNat_natCast]; rfl

theorem set_replicate_append {α : Type} (a : Nat) (z x : α) (rest : List α) :
    (List.replicate (a + 1) z ++ rest).set a x = List.replicate a z ++ x :: rest := by
  rw [List.replicate_succ', List.append_assoc, List.set_append_right _ _ (by simp)]
  simp

/-! ### the Except monad at any error type, as NON-definitional rewrite rules

  (`simp` closes a step made with a `rfl`-lemma by a definitional check in the kernel; next to `chk64` on symbolic
  arguments that check makes the kernel unfold integer comparisons with 2^63 and run out of stack.  These versions are
  applied as ordinary rewrites.) -/

theorem mbind_ok {ε α β : Type} (a : α) (f : α → Except ε β) : ((Except.ok a : Except ε α) >>= f) = f a := id rfl

theorem mbind_error {ε α β : Type} (e : ε) (f : α → Except ε β) : ((Except.error e : Except ε α) >>= f) = .error e := id rfl

theorem mpure {ε α : Type} (a : α) : (pure a : Except ε α) = .ok a := id rfl

theorem mthrow {α : Type} (e : Err) : (throw e : M α) = .error e := id rfl

end ModVerif.GoRt

namespace ModVerif.GoRtList
open ModVerif ModVerif.GoRt

theorem chk64_overflow (x : Int) (h : x < -2 ^ 63 ∨ 2 ^ 63 ≤ x) : chk64 x = .error .overflow := by
  have := two63_eq
  simp only [chk64, throw, throwThe, MonadExceptOf.throw]
  rw [if_neg]; omega

theorem shr_natCast (a k : Nat) : shr (a : Int) (k : Int) = .ok ((a >>> k : Nat) : Int) := GoRt.shr_natCast a k

end ModVerif.GoRtList
