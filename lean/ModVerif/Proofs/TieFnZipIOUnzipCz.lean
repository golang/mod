/-
  Tie proof, zip/zip.go `checkZip` (Generated/FnZip.lean: `checkZip`, closure `checkZip_addError`, loop `checkZip_loop1`)
  against the hand model `Zip.checkZip` / `Zip.zipStep` (Model/Zip.lean).

  Representation: the report is `embCFZ txt cf` (like `embCF` of the checkFiles tie, with the message texts of checkZip:
  `reasonTextZ`, and the text `txt` of the size error — checkZip has two of them); the collision map is `TieFnZip.ofCC`;
  an archive entry `Zip.Entry` is the driver's `toZEntry`.
-/
import ModVerif.Generated.FnZip
import ModVerif.Model.Zip
import ModVerif.Drv.GenZipIO
import ModVerif.Proofs.TieFnZipCfMain
namespace ModVerif.TieFnZipIOUnzip
open ModVerif ModVerif.GoRt ModVerif.GoRtZip ModVerif.TieFnZip ModVerif.TieFnZipCf
open ModVerif.Generated.Zip (pathInfo FileError CheckedFiles)
open ModVerif.Proofs.ZipA (ccCheck_reason)
open ModVerif.Drv.GenZipIO (toZEntry)

/-- the message text of a reason as `checkZip` produces it (format literals; sentinel errors by their Go names) -/
def reasonTextZ : Zip.Reason → String
  | .noPrefix => "path does not have prefix %q"
  | .goModNotRoot => "go.mod file not in module root directory"
  | .goModSize => "go.mod file too large (max size is %d bytes)"
  | .licenseSize => "LICENSE file too large (max size is %d bytes)"
  | r => reasonText r

def embFEZ (e : Bytes × Zip.Reason) : FileError := { Path := e.1, Err := some (reasonTextZ e.2) }

/-- literal of the size error of the loop -/
def totalSizeText : String := "total uncompressed size of module contents too large (max size is %d bytes)"
/-- literal of the size error for an archive file that is too large -/
def zipTooLargeText : String := "module zip file is too large (%d bytes; limit is %d bytes)"

/-- `txt` = text of the size error -/
def embCFZ (txt : String) (cf : Zip.CheckedFiles) : CheckedFiles :=
  { Valid := cf.valid, Omitted := cf.omitted.map embFEZ, Invalid := cf.invalid.map embFEZ,
    SizeError := if cf.sizeError then some txt else none }

theorem embCFZ_default (txt : String) : embCFZ txt {} = (default : CheckedFiles) := rfl

/-- the model's error kind as the text `CheckedFiles.Err` returns -/
def errKindText (txt : String) : Zip.ErrKind → String
  | .size => txt
  | .invalid => "FileErrorList"

theorem checkedFiles_Err_emb (txt : String) (cf : Zip.CheckedFiles) :
    Generated.Zip.CheckedFiles_Err (embCFZ txt cf) = cf.err.map (errKindText txt) := by
  unfold Generated.Zip.CheckedFiles_Err Zip.CheckedFiles.err embCFZ
  cases hs : cf.sizeError with
  | true => simp [Id.run, errKindText, pure]
  | false =>
    cases hi : cf.invalid with
    | nil => simp [Id.run, len_eq, pure]
    | cons a t =>
      have := len_nonneg (List.map embFEZ t)
      simp [Id.run, errKindText, pure]
      omega

theorem reasonTextZ_collision {e : Zip.Reason}
    (h : e = .caseCollision ∨ e = .fileAndDir ∨ e = .multiple ∨ e = .panic) : reasonTextZ e = reasonText e := by
  rcases h with rfl | rfl | rfl | rfl <;> rfl

/-- the carried variables of the loop as a function of the model's state -/
def zrun {X : Type} (L : CheckedFiles → List (Bytes × pathInfo) → Int → M X) (s : Zip.ZSt) : M X :=
  L (embCFZ totalSizeText s.cf) (ofCC s.cc) s.size

section
variable {cv : Bytes → Bytes} {cfp : Bytes → Option String} {ef : Bytes → Bytes → Bool}
  {mc : Bytes → Bytes → Option String} {sf : Int → Int}

/-- a call of `addError` followed by the next iteration -/
theorem zae_run {X : Type} {txt : String} (r : Zip.Reason) (h : reasonTextZ r = txt) (s : Zip.ZSt) (e : Zip.Entry)
    {fuel : Nat} {L : CheckedFiles → List (Bytes × pathInfo) → Int → M X} :
    (Generated.Zip.checkZip_addError cv cfp ef mc sf fuel (toZEntry e) (some txt) (embCFZ totalSizeText s.cf) >>=
        fun t => L t.2 (ofCC s.cc) s.size) =
      zrun L (s.addError e.name r) := by
  subst h
  unfold Generated.Zip.checkZip_addError zrun Zip.ZSt.addError
  simp [embCFZ, embFEZ, toZEntry]

end

theorem hasSuffix_slash (s : Bytes) : hasSuffix s [47] = Zip.hasSlashSuffix s := by
  unfold hasSuffix hasSuffixB Zip.hasSlashSuffix
  rw [List.getLast?_eq_head?_reverse]
  cases s.reverse with
  | nil => rfl
  | cons c t =>
    simp only [List.reverse_cons, List.reverse_nil, List.nil_append, isPrefixOfB, Bool.and_true, List.head?_cons]
    by_cases h : c = 47
    · subst h; rfl
    · have h1 : ((47 : UInt8) == c) = false := by rw [beq_eq_false_iff_ne]; exact fun e => h e.symm
      have h2 : (some c == some (47 : UInt8)) = false := by
        rw [beq_eq_false_iff_ne]; intro e; cases e; exact h rfl
      rw [h1, h2]

theorem toI64_declSize (n : Nat) (h : n < 2 ^ 64) : toI64 (n : Int) = Zip.int64OfU64 n := by
  unfold toI64 Zip.int64OfU64 two64 two63
  have h' : (n : Int) < 18446744073709551616 := by
    have : (2 : Nat) ^ 64 = 18446744073709551616 := by decide
    omega
  have hm : (n : Int) % 18446744073709551616 = n := Int.emod_eq_of_lt (by omega) h'
  simp only [hm]
  have h63 : (2 : Nat) ^ 63 = 9223372036854775808 := by decide
  have h64 : (2 : Int) ^ 64 = 18446744073709551616 := by decide
  by_cases hc : n < 2 ^ 63
  · rw [if_pos hc, if_pos (by omega)]
  · rw [if_neg hc, if_neg (by omega), h64]

theorem sliceTo_dropLast {α : Type} (v : List α) (h : v ≠ []) : sliceTo v (len v - 1) = .ok v.dropLast := by
  have hl : 1 ≤ v.length := by cases v with | nil => exact absurd rfl h | cons _ _ => simp
  rw [sliceTo_of_range (by rw [len_eq]; omega) (by rw [len_eq]; omega), List.dropLast_eq_take]
  congr 2
  rw [len_eq]; omega

section
variable {cv : Bytes → Bytes} {ef : Bytes → Bytes → Bool} {mc : Bytes → Bytes → Option String} {sf : Int → Int}

/-- the end of the loop body: the two per-file size limits, then the entry is valid -/
def tailZ {X : Type} (cv : Bytes → Bytes) (ef : Bytes → Bytes → Bool) (mc : Bytes → Bytes → Option String) (sf : Int → Int)
    (E : Zip.Env) (L : CheckedFiles → List (Bytes × pathInfo) → Int → M X) (cf : CheckedFiles)
    (m : List (Bytes × pathInfo)) (size : Int) (e : Zip.Entry) (nm : Bytes) (sz : Int) (fuel : Nat) : M X :=
  if (decide (nm = ([103, 111, 46, 109, 111, 100] : Bytes)) && decide (sz > (16777216 : Int))) = true then
    (Generated.Zip.checkZip_addError cv (cfpOf E) ef mc sf fuel (toZEntry e)
      (some "go.mod file too large (max size is %d bytes)") cf >>= fun t => L t.2 m size)
  else if (decide (nm = ([76, 73, 67, 69, 78, 83, 69] : Bytes)) && decide (sz > (16777216 : Int))) = true then
    (Generated.Zip.checkZip_addError cv (cfpOf E) ef mc sf fuel (toZEntry e)
      (some "LICENSE file too large (max size is %d bytes)") cf >>= fun t => L t.2 m size)
  else L { cf with Valid := cf.Valid ++ [e.name] } m size

/-- the model's counterpart of `tailZ` -/
def zipSizedTail (s2 : Zip.ZSt) (e : Zip.Entry) (nm : Bytes) (sz : Int) : Zip.ZSt :=
  if nm == Zip.goModName && sz > Zip.MaxGoMod then s2.addError e.name .goModSize
  else if nm == Zip.licenseName && sz > Zip.MaxLICENSE then s2.addError e.name .licenseSize
  else s2.pushValid e.name

theorem tailZ_run {X : Type} (E : Zip.Env) (s2 : Zip.ZSt) (e : Zip.Entry) (nm : Bytes) (sz : Int) (fuel : Nat)
    (L : CheckedFiles → List (Bytes × pathInfo) → Int → M X) :
    tailZ cv ef mc sf E L (embCFZ totalSizeText s2.cf) (ofCC s2.cc) s2.size e nm sz fuel =
      zrun L (zipSizedTail s2 e nm sz) := by
  unfold tailZ zipSizedTail
  have bA : (decide (nm = ([103, 111, 46, 109, 111, 100] : Bytes)) && decide (sz > (16777216 : Int))) =
      (nm == Zip.goModName && decide (sz > (Zip.MaxGoMod : Int))) := by
    rw [maxGoMod_cast, Bool.beq_eq_decide_eq]; rfl
  have bB : (decide (nm = ([76, 73, 67, 69, 78, 83, 69] : Bytes)) && decide (sz > (16777216 : Int))) =
      (nm == Zip.licenseName && decide (sz > (Zip.MaxLICENSE : Int))) := by
    rw [maxLICENSE_cast, Bool.beq_eq_decide_eq]; rfl
  rw [bA, bB]
  by_cases hA : (nm == Zip.goModName && decide (sz > (Zip.MaxGoMod : Int))) = true
  · rw [if_pos hA, if_pos hA]
    exact zae_run .goModSize rfl s2 e
  rw [if_neg hA, if_neg hA]
  by_cases hB : (nm == Zip.licenseName && decide (sz > (Zip.MaxLICENSE : Int))) = true
  · rw [if_pos hB, if_pos hB]
    exact zae_run .licenseSize rfl s2 e
  rw [if_neg hB, if_neg hB]
  rfl

theorem maxZipFile_cast : ((Zip.MaxZipFile : Nat) : Int) = 524288000 := by decide

/-- the size accounting, then `tailZ` -/
theorem acc_run {X : Type} (E : Zip.Env) (s1 : Zip.ZSt) (e : Zip.Entry) (nm : Bytes) (sz : Int) (fuel : Nat)
    (L : CheckedFiles → List (Bytes × pathInfo) → Int → M X) :
    (if (decide (sz ≥ 0) && decide ((524288000 : Int) - s1.size ≥ sz)) = true then
        tailZ cv ef mc sf E L (embCFZ totalSizeText s1.cf) (ofCC s1.cc) (s1.size + sz) e nm sz fuel
      else if (embCFZ totalSizeText s1.cf).SizeError.isNone = true then
        tailZ cv ef mc sf E L { (embCFZ totalSizeText s1.cf) with
            SizeError := some "total uncompressed size of module contents too large (max size is %d bytes)" }
          (ofCC s1.cc) s1.size e nm sz fuel
      else tailZ cv ef mc sf E L (embCFZ totalSizeText s1.cf) (ofCC s1.cc) s1.size e nm sz fuel) =
      zrun L (zipSizedTail (s1.account sz) e nm sz) := by
  have key := fun s2 => tailZ_run (cv := cv) (ef := ef) (mc := mc) (sf := sf) E s2 e nm sz fuel L
  by_cases hA : (decide (sz ≥ 0) && decide ((524288000 : Int) - s1.size ≥ sz)) = true
  · rw [if_pos hA]
    have hacc : s1.account sz = { s1 with size := s1.size + sz } := by
      unfold Zip.ZSt.account
      have hA' : 0 ≤ sz ∧ (Zip.MaxZipFile : Int) - s1.size ≥ sz := by
        rw [maxZipFile_cast]; simpa using hA
      rw [if_pos hA']
    rw [hacc]
    exact key { s1 with size := s1.size + sz }
  rw [if_neg hA]
  have hnacc : ¬ (0 ≤ sz ∧ (Zip.MaxZipFile : Int) - s1.size ≥ sz) := by
    intro h
    rw [maxZipFile_cast] at h
    apply hA; simpa using h
  by_cases hB : s1.cf.sizeError = true
  · have hnone : ((embCFZ totalSizeText s1.cf).SizeError.isNone) = false := by simp [embCFZ, hB]
    simp only [hnone, Bool.false_eq_true, if_false]
    have hacc : s1.account sz = s1 := by
      unfold Zip.ZSt.account
      rw [if_neg hnacc]
      obtain ⟨⟨v, om, iv, se⟩, cc, ms⟩ := s1
      simp only at hB
      subst hB
      rfl
    rw [hacc]
    exact key _
  · have hB' : s1.cf.sizeError = false := by simpa using hB
    have hnone : ((embCFZ totalSizeText s1.cf).SizeError.isNone) = true := by simp [embCFZ, hB']
    simp only [hnone, if_true]
    have hacc : s1.account sz = { s1 with cf := { s1.cf with sizeError := true } } := by
      unfold Zip.ZSt.account
      rw [if_neg hnacc]
    rw [hacc]
    exact key { s1 with cf := { s1.cf with sizeError := true } }

/-- the three checks on the name below the prefix, then `C` = everything after the call of the collision checker -/
theorem named_run {X : Type} (E : Zip.Env) (K : Nat) (hsf : FoldsTo sf K) (hE : E.toFold = Zip.strToFold)
    (hrel : ∀ p, E.cfp p = true → PathClean.isAbs p = false)
    (s : Zip.ZSt) (e : Zip.Entry) (nm : Bytes) (d : Bool) (fuel : Nat) (hfuel : 3 * nm.length + K + 5 ≤ fuel)
    (L : CheckedFiles → List (Bytes × pathInfo) → Int → M X)
    (C : Option String × List (Bytes × pathInfo) → M X)
    (hC : ∀ (cc' : Zip.CC) (o : Option Zip.Reason), (∀ r, o = some r → reasonTextZ r = reasonText r) →
      C (o.map reasonText, ofCC cc') =
        zrun L (match o with
          | some r => (s.setCC cc').addError e.name r
          | none => if d then s.setCC cc' else Zip.zipSized (s.setCC cc') e nm)) :
    (if (!decide (GoRt.pathClean nm = nm)) = true then
        (Generated.Zip.checkZip_addError cv (cfpOf E) ef mc sf fuel (toZEntry e) (some "errPathNotClean")
          (embCFZ totalSizeText s.cf) >>= fun t => L t.2 (ofCC s.cc) s.size)
      else if (!(cfpOf E nm).isNone) = true then
        (Generated.Zip.checkZip_addError cv (cfpOf E) ef mc sf fuel (toZEntry e) (cfpOf E nm)
          (embCFZ totalSizeText s.cf) >>= fun t => L t.2 (ofCC s.cc) s.size)
      else (Generated.Zip.collisionChecker_check sf fuel (ofCC s.cc) nm d >>= C)) =
      zrun L (Zip.zipNamed E s e nm d) := by
  unfold Zip.zipNamed
  have b1 : (!decide (GoRt.pathClean nm = nm)) = (PathClean.pathClean nm != nm) := by
    show _ = !(PathClean.pathClean nm == nm)
    rw [Bool.beq_eq_decide_eq]; rfl
  have b2 : (!(cfpOf E nm).isNone) = !E.cfp nm := by
    unfold cfpOf; cases E.cfp nm <;> rfl
  rw [b1, b2]
  by_cases h1 : (PathClean.pathClean nm != nm) = true
  · rw [if_pos h1, if_pos h1]
    exact zae_run .notClean rfl s e
  rw [if_neg h1, if_neg h1]
  by_cases h2 : (!E.cfp nm) = true
  · rw [if_pos h2, if_pos h2]
    have hc : cfpOf E nm = some "filepath" := by
      unfold cfpOf
      cases hcf : E.cfp nm with
      | true => rw [hcf] at h2; cases h2
      | false => rfl
    rw [hc]
    exact zae_run .filePath rfl s e
  rw [if_neg h2, if_neg h2]
  have hcfp : E.cfp nm = true := by simpa using h2
  have hcr : Proofs.ZipA.CleanRel nm := by
    constructor
    · have : ¬ (PathClean.pathClean nm ≠ nm) := by simpa using h1
      exact Classical.not_not.mp this
    · exact hrel nm hcfp
  rw [check_cleanRel sf K hsf fuel s.cc nm d hcr hfuel, bind_ok, hE]
  have hcol : ∀ r, (Zip.ccCheckTop Zip.strToFold s.cc nm d).2 = some r → reasonTextZ r = reasonText r :=
    fun r hr => reasonTextZ_collision (ccCheck_reason _ _ _ _ _ r hr)
  rw [hC _ _ hcol]
  generalize Zip.ccCheckTop Zip.strToFold s.cc nm d = r
  obtain ⟨cc', o⟩ := r
  cases o <;> rfl

end

section
variable {cv : Bytes → Bytes} {ef : Bytes → Bytes → Bool} {mc : Bytes → Bytes → Option String} {sf : Int → Int}

/-- go.mod placement, then `A` = the size accounting and what follows -/
theorem sized_run {X : Type} (E : Zip.Env) (hef : ∀ s, ef s Zip.goModName = Zip.equalFoldGoMod s)
    (s : Zip.ZSt) (e : Zip.Entry) (nm : Bytes) (fuel : Nat)
    (L : CheckedFiles → List (Bytes × pathInfo) → Int → M X) (A : M X)
    (hA : A = zrun L (zipSizedTail (s.account (Zip.int64OfU64 e.declSize)) e nm (Zip.int64OfU64 e.declSize))) :
    (if ef (GoRt.pathBase nm) ([103, 111, 46, 109, 111, 100] : Bytes) = true then
        if (!decide (GoRt.pathBase nm = nm)) = true then
          (Generated.Zip.checkZip_addError cv (cfpOf E) ef mc sf fuel (toZEntry e)
            (some "go.mod file not in module root directory") (embCFZ totalSizeText s.cf) >>= fun t =>
          L t.2 (ofCC s.cc) s.size)
        else if (!decide (nm = ([103, 111, 46, 109, 111, 100] : Bytes))) = true then
          (Generated.Zip.checkZip_addError cv (cfpOf E) ef mc sf fuel (toZEntry e)
            (some "errGoModCase") (embCFZ totalSizeText s.cf) >>= fun t =>
          L t.2 (ofCC s.cc) s.size)
        else A
      else A) = zrun L (Zip.zipSized s e nm) := by
  have hef' : ef (GoRt.pathBase nm) ([103, 111, 46, 109, 111, 100] : Bytes) =
      Zip.equalFoldGoMod (PathClean.pathBase nm) := hef _
  have b1 : (!decide (GoRt.pathBase nm = nm)) = (PathClean.pathBase nm != nm) := by
    show _ = !(PathClean.pathBase nm == nm)
    rw [Bool.beq_eq_decide_eq]; rfl
  have b2 : (!decide (nm = ([103, 111, 46, 109, 111, 100] : Bytes))) = (nm != Zip.goModName) := by
    show _ = !(nm == Zip.goModName)
    rw [Bool.beq_eq_decide_eq]; rfl
  rw [hef', b1, b2]
  unfold Zip.zipSized
  cases hb : Zip.equalFoldGoMod (PathClean.pathBase nm) with
  | false =>
    simp only [Bool.false_eq_true, if_false, Bool.false_and]
    exact hA
  | true =>
    simp only [if_true, Bool.true_and]
    by_cases h1 : (PathClean.pathBase nm != nm) = true
    · rw [if_pos h1, if_pos h1]
      exact zae_run .goModNotRoot rfl s e
    rw [if_neg h1, if_neg h1]
    by_cases h2 : (nm != Zip.goModName) = true
    · rw [if_pos h2, if_pos h2]
      exact zae_run .goModCase rfl s e
    rw [if_neg h2, if_neg h2]
    exact hA

theorem loopZ_step (E : Zip.Env) (K : Nat) (hsf : FoldsTo sf K) (hE : E.toFold = Zip.strToFold)
    (hef : ∀ s, ef s Zip.goModName = Zip.equalFoldGoMod s)
    (hrel : ∀ p, E.cfp p = true → PathClean.isAbs p = false)
    (z : ZReader) (pfx : Bytes) (done : List Zip.Entry) (e : Zip.Entry) (rest : List Zip.Entry) (fuel : Nat)
    (s : Zip.ZSt) (hsz : e.declSize < 2 ^ 64) (hfuel : 3 * e.name.length + K + 5 ≤ fuel) :
    zrun (Generated.Zip.checkZip_loop1 cv (cfpOf E) ef mc sf ((done ++ e :: rest).map toZEntry) z pfx
        (fuel + 1) (done.length : Int)) s =
      zrun (Generated.Zip.checkZip_loop1 cv (cfpOf E) ef mc sf ((done ++ e :: rest).map toZEntry) z pfx
        fuel ((done.length + 1 : Nat) : Int)) (Zip.zipStep E pfx s e) := by
  conv => lhs; unfold zrun
  rw [Generated.Zip.checkZip_loop1]
  have hi : ((done.length + 1 : Nat) : Int) = (done.length : Int) + 1 := by omega
  have hN : (toZEntry e).Name = e.name := rfl
  have hU : toI64 (toZEntry e).UncompressedSize64 = Zip.int64OfU64 e.declSize := toI64_declSize _ hsz
  simp only [lt_len_map_mid, if_true, idxL_map_mid, bind_ok, hi, hN, hU]
  generalize Generated.Zip.checkZip_loop1 cv (cfpOf E) ef mc sf ((done ++ e :: rest).map toZEntry) z pfx fuel
    ((done.length : Int) + 1) = L
  unfold Zip.zipStep
  have b1 : (!hasPrefix e.name pfx) = !isPrefixOfB pfx e.name := rfl
  rw [b1]
  by_cases h1 : (!isPrefixOfB pfx e.name) = true
  · rw [if_pos h1, if_pos h1]
    exact zae_run .noPrefix rfl s e
  rw [if_neg h1, if_neg h1]
  have hp : isPrefixOfB pfx e.name = true := by simpa using h1
  have hlen := isPrefixOfB_length_le hp
  rw [show len pfx = ((pfx.length : Nat) : Int) from rfl, sliceFrom_natCast hlen]
  simp only [bind_ok]
  have hnl : (e.name.drop pfx.length).length ≤ e.name.length := by simp
  generalize e.name.drop pfx.length = name at hnl ⊢
  have b2 : decide (name = []) = (name == []) := by rw [Bool.beq_eq_decide_eq]
  simp only [b2, hasSuffix_slash]
  by_cases h2 : (name == []) = true
  · rw [if_pos h2, if_pos h2]; rfl
  rw [if_neg h2, if_neg h2]
  have hne : name ≠ [] := by simpa using h2
  by_cases h3 : Zip.hasSlashSuffix name = true
  · rw [if_pos h3, if_pos h3, sliceTo_dropLast _ hne, bind_ok]
    simp only [h3, if_true]
    apply named_run E K hsf hE hrel s e name.dropLast true fuel (by simp; omega) L
    intro cc' o ho
    cases o with
    | some r =>
      simp only [Option.map_some, Option.isNone_some, Bool.not_false, if_true]
      rw [← ho r rfl]
      exact zae_run r rfl (s.setCC cc') e
    | none => rfl
  · rw [if_neg h3, if_neg h3]
    simp only [h3, Bool.false_eq_true, if_false]
    apply named_run E K hsf hE hrel s e name false fuel (by omega) L
    intro cc' o ho
    cases o with
    | some r =>
      simp only [Option.map_some, Option.isNone_some, Bool.not_false, if_true]
      rw [← ho r rfl]
      exact zae_run r rfl (s.setCC cc') e
    | none =>
      simp only [Option.map_none, Option.isNone_none, Bool.not_true, Bool.false_eq_true, if_false]
      exact sized_run E hef (s.setCC cc') e name fuel L _ (acc_run E (s.setCC cc') e name (Zip.int64OfU64 e.declSize) fuel L)

end

section
variable {cv : Bytes → Bytes} {ef : Bytes → Bytes → Bool} {mc : Bytes → Bytes → Option String} {sf : Int → Int}

theorem loopZ_from (E : Zip.Env) (K : Nat) (hsf : FoldsTo sf K) (hE : E.toFold = Zip.strToFold)
    (hef : ∀ s, ef s Zip.goModName = Zip.equalFoldGoMod s)
    (hrel : ∀ p, E.cfp p = true → PathClean.isAbs p = false) (z : ZReader) (pfx : Bytes) (B : Nat) :
    ∀ (rest done : List Zip.Entry) (fuel : Nat) (s : Zip.ZSt),
    (∀ e ∈ rest, e.declSize < 2 ^ 64 ∧ 3 * e.name.length + K + 5 ≤ B) → rest.length + 1 + B ≤ fuel →
    zrun (Generated.Zip.checkZip_loop1 cv (cfpOf E) ef mc sf ((done ++ rest).map toZEntry) z pfx fuel
        (done.length : Int)) s =
      .ok (((done ++ rest).length : Int), embCFZ totalSizeText (rest.foldl (Zip.zipStep E pfx) s).cf,
        ofCC (rest.foldl (Zip.zipStep E pfx) s).cc, (rest.foldl (Zip.zipStep E pfx) s).size) := by
  intro rest
  induction rest with
  | nil =>
    intro done fuel s _ hf
    obtain ⟨fuel, rfl⟩ : ∃ k, fuel = k + 1 := ⟨fuel - 1, by omega⟩
    unfold zrun
    rw [Generated.Zip.checkZip_loop1]
    simp only [List.append_nil, not_lt_len_map, Bool.false_eq_true, if_false, List.foldl_nil]
    rfl
  | cons e rest ih =>
    intro done fuel s hB hf
    obtain ⟨fuel, rfl⟩ : ∃ k, fuel = k + 1 := ⟨fuel - 1, by omega⟩
    have hfB := hB e List.mem_cons_self
    simp only [List.length_cons] at hf
    rw [loopZ_step E K hsf hE hef hrel z pfx done e rest fuel s hfB.1 (by omega)]
    have e' : done ++ e :: rest = (done ++ [e]) ++ rest := by simp
    have hl : ((done.length + 1 : Nat) : Int) = ((done ++ [e]).length : Int) := by simp
    rw [e', hl, ih (done ++ [e]) fuel (Zip.zipStep E pfx s e)
      (fun g hg => hB g (List.mem_cons_of_mem _ hg)) (by omega)]
    rfl

end

def maxNameLen : List Zip.Entry → Nat
  | [] => 0
  | e :: es => max e.name.length (maxNameLen es)

theorem le_maxNameLen : ∀ (es : List Zip.Entry) (e : Zip.Entry), e ∈ es → e.name.length ≤ maxNameLen es
  | [], _, h => by cases h
  | x :: es, e, h => by
    rcases List.mem_cons.mp h with rfl | h
    · exact Nat.le_max_left _ _
    · exact Nat.le_trans (le_maxNameLen es e h) (Nat.le_max_right _ _)

theorem maxNameLen_le_sum : ∀ es : List Zip.Entry, maxNameLen es ≤ (es.map fun e => e.name.length).sum
  | [] => Nat.le_refl _
  | e :: es => by
    have := maxNameLen_le_sum es
    simp only [maxNameLen, List.map_cons, List.sum_cons]
    omega

/-- fuel that is enough for `checkZip` (and for `Unzip`) on the entry list -/
def fuelBoundZ (K : Nat) (es : List Zip.Entry) : Nat := es.length + 3 * maxNameLen es + K + 6

/-- the error `checkZip` returns when the module path / version is rejected -/
def modErr (cv : Bytes → Bytes) (mc : Bytes → Bytes → Option String) (p v : Bytes) : Option String :=
  if cv v ≠ v then some "version %q is not canonical (should be %q)" else mc p v

theorem modErr_none_iff (cv : Bytes → Bytes) (mc : Bytes → Bytes → Option String) (p v : Bytes) :
    modErr cv mc p v = none ↔ (cv v = v ∧ mc p v = none) := by
  unfold modErr
  by_cases h : cv v = v <;> simp [h]

/-- the archive file as the driver builds it from the model's arguments -/
def osFileOf (zs : Nat) (es : List Zip.Entry) : OsFile :=
  { size := zs, statErr := none, entries := es.map toZEntry, readerErr := none }

def sizeTextOf (zs : Nat) : String := if zs > Zip.MaxZipFile then zipTooLargeText else totalSizeText

/-- the reader `checkZip` returns -/
def readerOf (zs : Nat) (es : List Zip.Entry) : ZReader :=
  if zs > Zip.MaxZipFile then default else { File := es.map toZEntry }

section
variable {cv : Bytes → Bytes} {ef : Bytes → Bytes → Bool} {mc : Bytes → Bytes → Option String} {sf : Int → Int}

theorem checkZip_bad (cfp : Bytes → Option String) (p v : Bytes) (f : OsFile) (fuel : Nat)
    (h : modErr cv mc p v ≠ none) :
    Generated.Zip.checkZip cv cfp ef mc sf fuel ⟨p, v⟩ f = .ok (default, default, modErr cv mc p v) := by
  unfold Generated.Zip.checkZip modErr at *
  by_cases h1 : cv v = v
  · have h2 : mc p v ≠ none := by simpa [h1] using h
    cases hm : mc p v with
    | none => exact absurd hm h2
    | some t => simp [h1]
  · simp [h1]

end

end ModVerif.TieFnZipIOUnzip
