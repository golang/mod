/-
  General lemmas about the GoRt run-time vocabulary (Basic/GoRt.lean, Basic/GoRtStrings.lean) used by the tie proofs of
  the modfile unit (Tie/FnModfile.lean):

  * `rune(c)` (`toI32`) is the identity on the int32 range; rune / byte comparisons against literals as `Nat` / `UInt8` tests;
  * `strings.Index` / `Contains` of GoRt (an `Int`, -1 = absent) against the model's `GoStrings.index` (an `Option Nat`);
  * `bytes.IndexByte` as `takeWhile` / membership;
  * `splitOn` peeled one line at a time (the Go code cuts a line off with `IndexByte`, the model splits first);
  * the `a || b` short-circuit shape of the translator.
-/
import ModVerif.Basic.GoRt
import ModVerif.Basic.GoRtStrings
import ModVerif.Proofs.GoRtLemmas
import ModVerif.Proofs.GoRtLemmasStr
namespace ModVerif.GoRtModfile
open ModVerif ModVerif.GoRt

theorem toI32_id {c : Int} (h0 : -2147483648 ≤ c) (h1 : c < 2147483648) : toI32 c = c := by
  unfold toI32; simp only; split <;> omega

theorem natCast_eq_lit (n k : Nat) : decide ((n : Int) = ((k : Nat) : Int)) = (n == k) := by
  rw [Bool.eq_iff_iff]; simp only [decide_eq_true_eq, beq_iff_eq]; omega

theorem le_byte (k : Nat) (c : UInt8) (hk : k < 256) :
    decide (((k : Nat) : Int) ≤ ((c.toNat : Nat) : Int)) = decide (UInt8.ofNat k ≤ c) := by
  rw [Bool.eq_iff_iff]; simp only [decide_eq_true_eq, UInt8.le_iff_toNat_le, UInt8.toNat_ofNat']
  have : k % 2 ^ 8 = k := Nat.mod_eq_of_lt hk
  omega

theorem byte_le (k : Nat) (c : UInt8) (hk : k < 256) :
    decide (((c.toNat : Nat) : Int) ≤ ((k : Nat) : Int)) = decide (c ≤ UInt8.ofNat k) := by
  rw [Bool.eq_iff_iff]; simp only [decide_eq_true_eq, UInt8.le_iff_toNat_le, UInt8.toNat_ofNat']
  have : k % 2 ^ 8 = k := Nat.mod_eq_of_lt hk
  omega

theorem byte_eq (k : Nat) (c : UInt8) (hk : k < 256) :
    decide (((c.toNat : Nat) : Int) = ((k : Nat) : Int)) = (c == UInt8.ofNat k) := by
  rw [Bool.eq_iff_iff]; simp only [decide_eq_true_eq, beq_iff_eq, ← UInt8.toNat_inj, UInt8.toNat_ofNat']
  have : k % 2 ^ 8 = k := Nat.mod_eq_of_lt hk
  omega

/-- `t ← if p then pure true else m; pure t` is `p || q` when `m` returns `q` (translation of `a || b` with a
    right-hand side that may index) -/
theorem ite_pure_or (p q : Bool) (m : M Bool) (h : m = .ok q) :
    (do let t ← (if p then pure true else m); pure t) = (.ok (p || q) : M Bool) := by
  subst h; cases p <;> rfl

/-! ### strings.Index / Contains: GoRt (Int, -1) against GoStrings (Option Nat) -/

theorem indexAux_eq (sub : Bytes) : ∀ (s : Bytes) (k : Nat),
    GoRt.indexAux sub s k = (match GoStrings.indexAux sub s k with | some i => (i : Int) | none => -1)
  | [], k => by simp only [GoRt.indexAux, GoStrings.indexAux]; split <;> rfl
  | x :: xs, k => by
    simp only [GoRt.indexAux, GoStrings.indexAux]
    split
    · rfl
    · exact indexAux_eq sub xs (k + 1)

theorem index_eq (s sub : Bytes) :
    GoRt.index s sub = (match GoStrings.index s sub with | some i => (i : Int) | none => -1) :=
  indexAux_eq sub s 0

theorem contains_eq (s sub : Bytes) : GoRt.contains s sub = GoStrings.contains s sub := by
  unfold GoRt.contains GoStrings.contains
  rw [index_eq]
  cases GoStrings.index s sub <;> simp

theorem gs_indexAux_le (sub : Bytes) : ∀ (s : Bytes) (k i : Nat),
    GoStrings.indexAux sub s k = some i → i ≤ k + s.length
  | [], k, i, h => by
    simp only [GoStrings.indexAux] at h
    split at h
    · simp at h; simp; omega
    · cases h
  | x :: xs, k, i, h => by
    simp only [GoStrings.indexAux] at h
    split at h
    · simp at h; simp; omega
    · have := gs_indexAux_le sub xs (k + 1) i h
      simp; omega

theorem gs_index_le {s sub : Bytes} {i : Nat} (h : GoStrings.index s sub = some i) : i ≤ s.length := by
  have := gs_indexAux_le sub s 0 i h; omega

/-! ### bytes.IndexByte -/

/-- `bytes.IndexByte(s, c)`; instantiate `n` with the literal and discharge `hn` by `rfl` -/
theorem indexByte_eq (s : Bytes) {n : Int} (c : UInt8) (hn : n = ((c.toNat : Nat) : Int)) :
    indexByte s n = if c ∈ s then (((s.takeWhile (· != c)).length : Nat) : Int) else -1 := by
  subst hn
  simp [indexByte, mkByte_byte, GoRtStr.indexByteAux_eq]

theorem length_takeWhile_lt_of_mem {c : UInt8} : ∀ {s : Bytes}, c ∈ s → (s.takeWhile (· != c)).length < s.length
  | [], h => by simp at h
  | x :: xs, h => by
    by_cases hx : x = c
    · subst hx; simp
    · have h2 : c ∈ xs := by
        rcases List.mem_cons.mp h with e | e
        · exact absurd e.symm hx
        · exact e
      have := length_takeWhile_lt_of_mem h2
      have h1' : (x != c) = true := by simp [hx]
      simp only [List.takeWhile_cons, h1', if_true, List.length_cons]; omega

/-! ### `splitOn` one piece at a time -/

theorem splitOn_mem (c : UInt8) : ∀ s : Bytes, c ∈ s →
    splitOn c s = s.takeWhile (· != c) :: splitOn c (s.drop ((s.takeWhile (· != c)).length + 1))
  | [], h => by simp at h
  | x :: xs, h => by
    by_cases hx : x = c
    · subst hx; simp [splitOn]
    · have h1 : (x == c) = false := by simp [hx]
      have h1' : (x != c) = true := by simp [hx]
      have h2 : c ∈ xs := by
        rcases List.mem_cons.mp h with e | e
        · exact absurd e.symm hx
        · exact e
      rw [splitOn, h1]
      simp only [Bool.false_eq_true, if_false, splitOn_mem c xs h2, List.takeWhile_cons, h1', if_true, List.length_cons,
        List.drop_succ_cons]

end ModVerif.GoRtModfile
