/-
  Helper lemmas for Tie/FnRuleAdd.lean: one call of the regenerated `File.add` = the model's `File.add`, all
  verbs (`FA_step`, assembled from Proofs/TieFnRuleAdd{B,C}.lean through `add_eq`), under the hypothesis `AddLeaf` about the leaf calls
  the verb makes.
-/
import ModVerif.Proofs.TieFnRuleAddC
namespace ModVerif.Tie.FnRuleAddD
open ModVerif ModVerif.GoRt ModVerif.Generated ModVerif.Tie.FnRuleRep ModVerif.Tie.FnRuleAddA ModVerif.Tie.FnRuleAddB ModVerif.Tie.FnRuleAddC
open ModVerif.Drv.GenRule (isPrintI unquoteI laxSubI deprecatedSubI fixG)
open ModVerif.Proofs.ModfileC20 (addGo addToolchain addModule addGodebugV addReqExc addReplaceV addRetractV addToolV add_eq)

structure AddLeaf (fuel : Nat) (h : Rule.Heap) (block : Int) (bc : Option Modfile.Comments) (lp : Int) (l : Modfile.Line)
    (pre args : List Bytes) (verb : Bytes) (fx : Option Modfile.Fixer) : Prop where
  ps : verb = B "module" ∨ verb = B "tool" → ∀ a, args = [a] → PSok fuel a
  req : verb = B "require" ∨ verb = B "exclude" → ReqLeaf fuel args fx
  ii : verb = B "require" → ∀ (ls : List Rule.Line) (l' : Modfile.Line), heapGet ls lp = .ok (lineG l') → indL lp ls = .ok (Modfile.isIndirect l')
  pd : verb = B "module" → Rule.parseDeprecation deprecatedSubI fuel block lp h = .ok (Modfile.parseDeprecation bc l.comments, h)
  pdc : verb = B "retract" → Rule.parseDirectiveComment fuel block lp h = .ok (Modfile.parseDirectiveComment bc l.comments, h)
  pvi : verb = B "retract" → PVIok fuel h { owner := lp, lo := (pre.length : Int) } pre args [] (some Modfile.dontFixRetract)
  pr : verb = B "replace" → PRok fuel h lp l pre args fx

section
variable {ι : Int → Nat} {h : Rule.Heap} {fp : Int} {errs : List Rule.Error} {st : Modfile.AddState} {syn : Modfile.FileSyntax}
  {lp : Int} {l : Modfile.Line} {pre args : List Bytes}

theorem FA_step (R : RepRS ι h fp errs st syn) (hl : RLine ι h lp l) (htok : l.token = pre ++ args)
    (fuel : Nat) (block : Int) (bc : Option Modfile.Comments) (verb : Bytes) (fx : Option Modfile.Fixer) (strict : Bool)
    (L : AddLeaf fuel h block bc lp l pre args verb fx) :
    ∃ errs' h', FA fuel fp errs block lp verb { owner := lp, lo := (pre.length : Int) } (fixG fx) strict h = .ok (((), errs'), h') ∧
      StepPost ι h fp syn lp l pre (Modfile.File.add st bc l verb args fx strict) errs' h' := by
  rw [add_eq]
  by_cases hlax : (!strict && !Modfile.verbIn verb Modfile.laxVerbs) = true
  · simp only [hlax, if_true]
    simp only [Bool.and_eq_true, Bool.not_eq_true'] at hlax
    obtain ⟨rfl, hv⟩ := hlax
    exact FA_laxSkip R hl htok fuel block verb _ hv
  · simp only [hlax, Bool.false_eq_true, if_false]
    simp only [bytes_beq_eq_decide]
    by_cases h1 : verb = B "go"
    · subst h1; simp only [decide_true, if_true]; rw [B_go]; exact FA_go R hl htok fuel block _ strict
    simp only [h1, decide_false, Bool.false_eq_true, if_false]
    by_cases h3 : verb = B "module"
    · have h2 : verb ≠ B "toolchain" := by rw [h3]; decide +kernel
      simp only [h3, decide_true, decide_false, if_true, Bool.false_eq_true, if_false,
        (by decide +kernel : ¬ (B "module" = B "toolchain"))]
      have := FA_module R hl htok fuel block bc (fixG fx) strict (L.pd h3) (L.ps (Or.inl h3))
      rw [← B_module] at this
      exact this
    by_cases h8 : verb = B "retract"
    · subst h8
      simp only [decide_true, decide_false, if_true, Bool.false_eq_true, if_false, Bool.or_false,
        (by decide +kernel : ¬ (B "retract" = B "toolchain")), (by decide +kernel : ¬ (B "retract" = B "module")),
        (by decide +kernel : ¬ (B "retract" = B "godebug")), (by decide +kernel : ¬ (B "retract" = B "require")),
        (by decide +kernel : ¬ (B "retract" = B "exclude")), (by decide +kernel : ¬ (B "retract" = B "replace"))]
      rw [B_retract]
      exact FA_retract R hl htok fuel block bc _ strict (L.pdc rfl) (L.pvi rfl)
    by_cases h5 : verb = B "require"
    · subst h5
      simp only [decide_true, decide_false, if_true, Bool.false_eq_true, if_false, Bool.true_or,
        (by decide +kernel : ¬ (B "require" = B "toolchain")), (by decide +kernel : ¬ (B "require" = B "module")),
        (by decide +kernel : ¬ (B "require" = B "godebug"))]
      exact FA_reqexc R hl htok fuel block fx strict (Or.inl B_require) (by rw [B_require]; decide) (L.req (Or.inl rfl))
        (fun _ => L.ii rfl)
    -- the remaining verbs are not lax verbs: strict = true
    have hs : strict = true := by
      cases strict with
      | true => rfl
      | false =>
        exfalso; apply hlax
        simp only [Bool.not_false, Bool.true_and, laxVerbs_iff, ← B_go, ← B_module, ← B_retract, ← B_require, h1, h3, h8, h5,
          decide_false, Bool.or_false]
    subst hs
    by_cases h2 : verb = B "toolchain"
    · subst h2; simp only [decide_true, if_true]; rw [B_toolchain]; exact FA_toolchain R hl htok fuel block _
    simp only [h2, h3, decide_false, Bool.false_eq_true, if_false]
    by_cases h4 : verb = B "godebug"
    · subst h4; simp only [decide_true, if_true]; rw [B_godebug]; exact FA_godebug R hl htok fuel block _
    simp only [h4, h5, decide_false, Bool.false_eq_true, if_false, Bool.false_or]
    by_cases h6 : verb = B "exclude"
    · subst h6; simp only [decide_true, if_true]
      exact FA_reqexc R hl htok fuel block fx true (Or.inr ⟨B_exclude, rfl⟩) (by rw [B_exclude]; decide +kernel) (L.req (Or.inr rfl))
        (fun e => absurd (B_exclude.symm.trans e) (by decide))
    simp only [h6, decide_false, Bool.false_eq_true, if_false]
    by_cases h7 : verb = B "replace"
    · subst h7; simp only [decide_true, if_true]; rw [B_replace]; exact FA_replace R hl htok fuel block fx (L.pr rfl)
    simp only [h7, h8, decide_false, Bool.false_eq_true, if_false]
    by_cases h9 : verb = B "tool"
    · subst h9; simp only [decide_true, if_true]; rw [B_tool]; exact FA_tool R hl htok fuel block _ (L.ps (Or.inr rfl))
    simp only [h9, decide_false, Bool.false_eq_true, if_false]
    refine FA_unknown R hl htok fuel block verb _ ?_
    simp only [Modfile.verbIn, Modfile.addVerbs, List.any_cons, List.any_nil, Bool.or_false, Bool.or_eq_false_iff, beq_eq_false_iff_ne, ne_eq]
    exact ⟨Ne.symm h1, Ne.symm h2, Ne.symm h3, Ne.symm h4, Ne.symm h5, Ne.symm h6, Ne.symm h7, Ne.symm h8, Ne.symm h9⟩
end
end ModVerif.Tie.FnRuleAddD
