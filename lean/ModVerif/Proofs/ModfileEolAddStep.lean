/-
  C02, clause 3 (directive values survive formatting): one `File.add` step, on a line with any comments.

  `File.add` looks at the line (and at the block comments) only through its position (for error messages), its identity,
  `isIndirect` (for `require`), and the deprecation / rationale texts: two lines with the same `isIndirect` give the same
  rewritten arguments, the same directive values and the same number of errors, from the same state.  The arguments it
  rewrites contain no newline byte (`Unquote` reads back what `strconv.Quote` writes and accepts no newline byte; a valid
  version has none).  An error-free strict step whose result is well-formed can be repeated: the rewritten arguments are
  line tokens other than parentheses, the state before the step is well-formed, and the constructor of `AddOK` applies again
  on the rewritten arguments (the tokens written are fixpoints of `parseString` / `parseVersion` / `parseVersionInterval` /
  `parseReplace`) at every state with the same values and every line with the same `isIndirect`.
-/
import ModVerif.Proofs.ModfileFmtDirLoop
import ModVerif.Proofs.ModfileEolIndirect
import ModVerif.Proofs.ModfileC20Rule
import ModVerif.Proofs.ModfileC20Unquote
import ModVerif.Proofs.ModfileFmtClass
namespace ModVerif.Proofs.ModfileEol
open ModVerif ModVerif.Modfile ModVerif.Proofs.ModfileFmtLex ModVerif.Proofs.ModfileFmtLine
open ModVerif.Proofs.ModfileFmtFix ModVerif.Proofs.ModfileFmtDir

def obs (r : AddState × List Bytes) : Values × Nat × List Bytes := (values r.1.file, r.1.errsRev.length, r.2)

theorem replaceNew_id (id n arrow : Nat) (a0' s v : Bytes) (rest0' : List Bytes) (fix : Option Fixer) :
    ModfileC20.replaceNew id n arrow a0' s v rest0' fix = ((ModfileC20.replaceNew 0 n arrow a0' s v rest0' fix).1,
      match (ModfileC20.replaceNew 0 n arrow a0' s v rest0' fix).2 with
      | .ok r => .ok { r with lineId := id }
      | .error e => .error e) := by
  unfold ModfileC20.replaceNew
  dsimp only
  repeat' (first | with_reducible rfl | split)

theorem parseReplace_id (id : Nat) (args : List Bytes) (fix : Option Fixer) :
    parseReplace id args fix = ((parseReplace 0 args fix).1,
      match (parseReplace 0 args fix).2 with
      | .ok r => .ok { r with lineId := id }
      | .error e => .error e) := by
  simp only [ModfileC20.parseReplace_eq]
  repeat' (first | with_reducible rfl | exact replaceNew_id .. | split)

theorem add_obs (st : AddState) (b b' : Option Comments) (l l' : Line) (verb : Bytes) (args : List Bytes)
    (fix : Option Fixer) (strict : Bool)
    (hind : (verb == B "require") = true → isIndirect l = isIndirect l') :
    obs (File.add st b l verb args fix strict) = obs (File.add st b' l' verb args fix strict) := by
  unfold File.add
  dsimp only
  -- verb by verb both sides take the same branch: the line enters only through its position and identity, which `obs`
  -- does not see, and, for `require`, through `isIndirect`
  by_cases h0 : (!strict && !verbIn verb laxVerbs) = true
  · rw [if_pos h0, if_pos h0]
  rw [if_neg h0, if_neg h0]
  by_cases h1 : (verb == B "go") = true
  · rw [if_pos h1, if_pos h1]
    repeat' (first | rfl | split | simp [obs, values])
  rw [if_neg h1, if_neg h1]
  by_cases h2 : (verb == B "toolchain") = true
  · rw [if_pos h2, if_pos h2]
    repeat' (first | rfl | split | simp [obs, values])
  rw [if_neg h2, if_neg h2]
  by_cases h3 : (verb == B "module") = true
  · rw [if_pos h3, if_pos h3]
    repeat' (first | rfl | split | simp [obs, values])
  rw [if_neg h3, if_neg h3]
  by_cases h4 : (verb == B "godebug") = true
  · rw [if_pos h4, if_pos h4]
    repeat' (first | rfl | split | simp [obs, values])
  rw [if_neg h4, if_neg h4]
  by_cases h5 : (verb == B "require" || verb == B "exclude") = true
  · rw [if_pos h5, if_pos h5]
    by_cases h5r : (verb == B "require") = true
    · rw [hind h5r]
      repeat' (first | rfl | split | simp [obs, values])
    · simp only [h5r, Bool.false_eq_true, if_false]
      repeat' (first | rfl | split | simp [obs, values])
  rw [if_neg h5, if_neg h5]
  by_cases h6 : (verb == B "replace") = true
  · rw [if_pos h6, if_pos h6, parseReplace_id l.id, parseReplace_id l'.id]
    cases hpr : parseReplace 0 args fix with
    | mk a' res =>
      cases res with
      | error e => rfl
      | ok r =>
        simp only [obs, values, List.map_append]
        rfl
  rw [if_neg h6, if_neg h6]
  by_cases h7 : (verb == B "retract") = true
  · rw [if_pos h7, if_pos h7]
    repeat' (first | rfl | split | simp [obs, values])
  rw [if_neg h7, if_neg h7]
  by_cases h8 : (verb == B "tool") = true
  · rw [if_pos h8, if_pos h8]
    repeat' (first | rfl | split | simp [obs, values])
  rw [if_neg h8, if_neg h8]
  rfl

structure StepOKE (st st1 : AddState) (verb : Bytes) (args1 : List Bytes) (fix : Option Fixer) (ind : Bool) : Prop where
  errs : st.errsRev = []
  replay : ∀ (st' : AddState) (block' : Option Comments) (l' : Line), Sim st st' → isIndirect l' = ind →
    ∃ st1', File.add st' block' l' verb args1 fix true = (st1', args1) ∧ Sim st1 st1'

def clrLine (l : Line) : Line := { l with comments := { l.comments with suffix := [] } }

theorem isIndirect_clr (l : Line) : isIndirect (clrLine l) = false := rfl

theorem wellFormed_of_values {f g : Modfile.File} (h : values f = values g) (hw : WellFormed f) : WellFormed g := by
  have hv := (values_eq_iff _ _).1 h
  obtain ⟨h1, _, _, _, h5, h6, h7, h8, h9⟩ := hv
  refine ⟨?_, ?_, ?_, ?_, ?_, ?_⟩
  · intro m hm
    rw [hm] at h1
    cases hf : f.module with
    | none => rw [hf] at h1; cases h1
    | some m0 =>
      rw [hf] at h1
      simp only [Option.map_some, Option.some.injEq] at h1
      rw [← h1]; exact hw.module m0 hf
  · intro r hr
    have : (r.mod, r.indirect) ∈ g.require.map (fun r => (r.mod, r.indirect)) := List.mem_map_of_mem hr
    rw [← h5] at this
    obtain ⟨r0, hr0, heq⟩ := List.mem_map.1 this
    simp only [Prod.mk.injEq] at heq
    rw [← heq.1]; exact hw.require r0 hr0
  · intro r hr
    have : r.mod ∈ g.exclude.map (·.mod) := List.mem_map_of_mem hr
    rw [← h6] at this
    obtain ⟨r0, hr0, heq⟩ := List.mem_map.1 this
    rw [← heq]; exact hw.exclude r0 hr0
  · intro r hr
    have : (r.old, r.new) ∈ g.replace.map (fun r => (r.old, r.new)) := List.mem_map_of_mem hr
    rw [← h7] at this
    obtain ⟨r0, hr0, heq⟩ := List.mem_map.1 this
    simp only [Prod.mk.injEq] at heq
    rw [← heq.1, ← heq.2]; exact hw.replace r0 hr0
  · intro r hr
    have : r.interval ∈ g.retract.map (·.interval) := List.mem_map_of_mem hr
    rw [← h8] at this
    obtain ⟨r0, hr0, heq⟩ := List.mem_map.1 this
    rw [← heq]; exact hw.retract r0 hr0
  · intro t ht
    have : t.path ∈ g.tool.map (·.path) := List.mem_map_of_mem ht
    rw [← h9] at this
    obtain ⟨t0, ht0, heq⟩ := List.mem_map.1 this
    rw [← heq]; exact hw.tool t0 ht0

open ModVerif ModVerif.Modfile ModVerif.Proofs.ModfileLex ModVerif.Proofs.ModfileFmtLex ModVerif.Proofs.ModfileFmtLine
open ModVerif.Proofs.ModfileFmtFix ModVerif.Proofs.ModfileFmtDir ModVerif.Proofs.ModfileFmtQuote
open ModVerif.Proofs.ModfileFmtUtf8

theorem mem_two {a b x : UInt8} (h : x ∈ [a, b]) : x = a ∨ x = b := by simpa using h

theorem quote_no_nl (s : Bytes) : (10 : UInt8) ∉ Quote.quote s := fun hm =>
  (ModfileC20.unquote_facts (unquote_quote s) (by rw [quote_eq_qbody]; rfl)).2.1 10 hm rfl

theorem autoQuote_no_nl (s : Bytes) : (10 : UInt8) ∉ autoQuote s := by
  unfold autoQuote
  split
  · exact quote_no_nl s
  · rename_i h
    rcases autoQuote_unquoted (by simpa using h) with hk | ⟨c, hc, rfl⟩
    · cases hk with
      | ident _ _ hb _ => exact ModfileFmtClass.identBody_no_newline hb
    · intro hm
      simp at hm
      subst hm
      revert hc; decide

theorem valid_no_nl {v : Bytes} (h : VerOK v) : (10 : UInt8) ∉ v := by
  intro hm
  have := valid_bytes h 10 hm
  revert this; decide

/-- what the replay of the statement loop needs of a rewritten argument -/
def ArgOK (args : List Bytes) (t : Bytes) : Prop :=
  (TokText t ∧ t ≠ [40] ∧ t ≠ [41]) ∧ (t ∈ args ∨ (10 : UInt8) ∉ t)

theorem argOK_path {args : List Bytes} {s : Bytes} (h : PathOK s) : ArgOK args (autoQuote s) :=
  ⟨pathOK_tok h, Or.inr (autoQuote_no_nl s)⟩

theorem argOK_ver {args : List Bytes} {v : Bytes} (h : VerOK v) : ArgOK args v :=
  ⟨verOK_tok h, Or.inr (valid_no_nl h)⟩

theorem argOK_punct {args : List Bytes} (c : UInt8) (hc : c ∈ punctBytes) (h40 : c ≠ 40) (h41 : c ≠ 41) (h10 : c ≠ 10) :
    ArgOK args [c] :=
  ⟨⟨punct_tokText c hc, by simpa using h40, by simpa using h41⟩, Or.inr (by simpa using h10.symm)⟩

theorem argOK_replaceToks {args : List Bytes} {r : Replace} (hpo : PathOK r.old.path)
    (hvo : r.old.version ≠ [] → VerOK r.old.version) (hpn : PathOK r.new.path)
    (hvn : r.new.version ≠ [] → VerOK r.new.version) : ∀ t ∈ replaceToks r, ArgOK args t := by
  intro t ht
  simp only [replaceToks, List.mem_append, List.mem_singleton] at ht
  rcases ht with (((rfl | ht) | rfl) | rfl) | ht
  · exact argOK_path hpo
  · split at ht
    · cases ht
    · rename_i hv; obtain rfl := List.mem_singleton.1 ht; exact argOK_ver (hvo hv)
  · exact ⟨B_arrow_tok, Or.inr (by decide +kernel)⟩
  · exact argOK_path hpn
  · split at ht
    · cases ht
    · rename_i hv; obtain rfl := List.mem_singleton.1 ht; exact argOK_ver (hvn hv)

theorem versionFixOK_of_fixOK {fix : Option Fixer} (hfix : FixOK fix) {v : Bytes} (hv : v ≠ [] → VerOK v) :
    VersionFixOK fix v := by
  rcases hfix with h0 | ⟨fx, h1, h2⟩
  · exact Or.inl h0
  · exact Or.inr ⟨fx, h1, h2, hv⟩

theorem add_stepE (st st1 : AddState) (block : Option Comments) (l : Line) (verb : Bytes) (args args1 : List Bytes)
    (fix : Option Fixer) (h : File.add st block l verb args fix true = (st1, args1)) (he : st1.errsRev = [])
    (hfix : FixOK fix) (hne : FixNE fix) (hwf : WellFormed st1.file) (horig : ∀ t ∈ args, TokText t) :
    StepOKE st st1 verb args1 fix (isIndirect l) ∧ WellFormed st.file ∧ ArgsTok args1 ∧ args1 ≠ [] ∧
      ∀ t ∈ args1, t ∈ args ∨ (10 : UInt8) ∉ t := by
  obtain ⟨f1, e1⟩ := st1
  rcases add_strict st block l verb args fix with ⟨hok, herr⟩ | hbad
  case inr => rw [h] at hbad; exact absurd he hbad
  rw [h] at hok herr
  simp only at hok herr he hwf
  subst he
  -- it suffices to re-apply the constructor of `AddOK` at the simulating state, on the rewritten arguments
  suffices H : (∀ st' block' l', Sim st st' → isIndirect l' = isIndirect l →
        ∃ f1', AddOK st' block' l' fix verb args1 f1' args1 ∧ values f1 = values f1') ∧
      WellFormed st.file ∧ args1 ≠ [] ∧
      ∀ t ∈ args1, ArgOK args t by
    obtain ⟨hrep, hw, hne1, hgood⟩ := H
    refine ⟨⟨herr.symm, fun st' block' l' hsim hind => ?_⟩, hw, fun t ht => (hgood t ht).1, hne1,
      fun t ht => (hgood t ht).2⟩
    obtain ⟨f1', hok', hv⟩ := hrep st' block' l' hsim hind
    exact ⟨_, add_of_ok hok', hv, rfl, hsim.errs'⟩
  cases hok with
  | go a h1 h2 =>
    refine ⟨fun st' _ l' hsim _ => ⟨_, .go a (by rw [← values_go_isSome hsim.vals]; exact h1) h2,
      by rw [values_go, values_go, hsim.vals]⟩,
      ⟨hwf.module, hwf.require, hwf.exclude, hwf.replace, hwf.retract, hwf.tool⟩, by simp, fun t ht => ?_⟩
    obtain rfl := List.mem_singleton.1 ht
    exact ⟨⟨horig _ ht, goVersionRE_not_paren h2⟩, Or.inl ht⟩
  | toolchain a h1 h2 =>
    refine ⟨fun st' _ l' hsim _ => ⟨_, .toolchain a (by rw [← values_toolchain_isSome hsim.vals]; exact h1) h2,
      by rw [values_toolchain, values_toolchain, hsim.vals]⟩,
      ⟨hwf.module, hwf.require, hwf.exclude, hwf.replace, hwf.retract, hwf.tool⟩, by simp, fun t ht => ?_⟩
    obtain rfl := List.mem_singleton.1 ht
    exact ⟨⟨horig _ ht, toolchainRE_not_paren h2⟩, Or.inl ht⟩
  | module a s a' h1 h2 =>
    obtain rfl := parseString_tok h2
    have hp : PathOK s := hwf.module _ rfl
    refine ⟨fun st' _ l' hsim _ => ⟨_, .module (autoQuote s) s _ (by rw [← values_module_isSome hsim.vals]; exact h1)
        (parseString_autoQuote s), by rw [values_module, values_module, hsim.vals]⟩,
      ⟨fun m hm => (by rw [hm] at h1; cases h1), hwf.require, hwf.exclude, hwf.replace, hwf.retract, hwf.tool⟩,
      by simp, fun t ht => ?_⟩
    obtain rfl := List.mem_singleton.1 ht
    exact argOK_path hp
  | godebug _ k v h1 =>
    refine ⟨fun st' _ l' hsim _ => ⟨_, .godebug _ k v h1, by rw [values_godebug, values_godebug, hsim.vals]⟩,
      ⟨hwf.module, hwf.require, hwf.exclude, hwf.replace, hwf.retract, hwf.tool⟩,
      by rintro rfl; simp [addGodebug] at h1, fun t ht => ⟨⟨horig t ht, addGodebug_not_paren h1 t ht⟩, Or.inl ht⟩⟩
  | require a0 a1 s a0' a1' v pm h1 h2 h3 h4 =>
    obtain rfl := parseString_tok h1
    obtain ⟨hp, hv⟩ := hwf.require _ (List.mem_append_right _ (List.mem_singleton_self _))
    obtain ⟨rfl, -, hre⟩ := fixOK_version hfix h2 (fun _ => hv)
    refine ⟨fun st' _ l' hsim hind => ⟨_, .require (autoQuote s) a1' s _ _ a1' pm (parseString_autoQuote s) hre h3 h4,
        by rw [values_require, values_require, hsim.vals, hind]⟩,
      ⟨hwf.module, fun r hr => hwf.require r (List.mem_append_left _ hr), hwf.exclude, hwf.replace, hwf.retract, hwf.tool⟩,
      by simp, fun t ht => ?_⟩
    rcases (by simpa using ht : t = autoQuote s ∨ t = a1') with rfl | rfl
    · exact argOK_path hp
    · exact argOK_ver hv
  | exclude a0 a1 s a0' a1' v pm h1 h2 h3 h4 =>
    obtain rfl := parseString_tok h1
    obtain ⟨hp, hv⟩ := hwf.exclude _ (List.mem_append_right _ (List.mem_singleton_self _))
    obtain ⟨rfl, -, hre⟩ := fixOK_version hfix h2 (fun _ => hv)
    refine ⟨fun st' _ l' hsim _ => ⟨_, .exclude (autoQuote s) a1' s _ _ a1' pm (parseString_autoQuote s) hre h3 h4,
        by rw [values_exclude, values_exclude, hsim.vals]⟩,
      ⟨hwf.module, hwf.require, fun r hr => hwf.exclude r (List.mem_append_left _ hr), hwf.replace, hwf.retract, hwf.tool⟩,
      by simp, fun t ht => ?_⟩
    rcases (by simpa using ht : t = autoQuote s ∨ t = a1') with rfl | rfl
    · exact argOK_path hp
    · exact argOK_ver hv
  | replace _ args' r h1 =>
    obtain ⟨hpo, hvo, hpn, hvn⟩ := hwf.replace r (List.mem_append_right _ (List.mem_singleton_self _))
    obtain ⟨hre, -, -⟩ := parseReplace_fix h1 (versionFixOK_of_fixOK hfix hvo) (versionFixOK_of_fixOK hfix hvn)
    obtain rfl := parseReplace_toks h1 hne
    exact ⟨fun st' _ l' hsim _ => ⟨_, .replace _ _ _ (hre l'.id), by rw [values_replace, values_replace, hsim.vals]⟩,
      ⟨hwf.module, hwf.require, hwf.exclude, fun r' hr => hwf.replace r' (List.mem_append_left _ hr), hwf.retract, hwf.tool⟩,
      by simp [replaceToks], argOK_replaceToks hpo hvo hpn hvn⟩
  | retract _ args' vi h1 =>
    obtain ⟨hlo, hhi⟩ := hwf.retract _ (List.mem_append_right _ (List.mem_singleton_self _))
    obtain ⟨hre, hshape, -⟩ := parseVersionInterval_fix h1 (Or.inr ⟨_, rfl, dontFixRetract_idem, hlo, hhi⟩)
    refine ⟨fun st' _ l' hsim _ => ⟨_, .retract _ _ vi hre, by rw [values_retract, values_retract, hsim.vals]⟩,
      ⟨hwf.module, hwf.require, hwf.exclude, hwf.replace, fun r hr => hwf.retract r (List.mem_append_left _ hr), hwf.tool⟩,
      by rcases hshape with ⟨rfl, -⟩ | rfl <;> simp, fun t ht => ?_⟩
    rcases hshape with ⟨rfl, -⟩ | rfl
    · obtain rfl : t = vi.low := by simpa using ht
      exact argOK_ver hlo
    · simp only [List.mem_cons, List.not_mem_nil, or_false] at ht
      rcases ht with rfl | rfl | rfl | rfl | rfl
      · exact argOK_punct 91 (by decide) (by decide) (by decide) (by decide)
      · exact argOK_ver hlo
      · exact argOK_punct 44 (by decide) (by decide) (by decide) (by decide)
      · exact argOK_ver hhi
      · exact argOK_punct 93 (by decide) (by decide) (by decide) (by decide)
  | tool a s a' h1 =>
    obtain rfl := parseString_tok h1
    have hp : PathOK s := hwf.tool _ (List.mem_append_right _ (List.mem_singleton_self _))
    refine ⟨fun st' _ l' hsim _ => ⟨_, .tool (autoQuote s) s _ (parseString_autoQuote s),
        by rw [values_tool, values_tool, hsim.vals]⟩,
      ⟨hwf.module, hwf.require, hwf.exclude, hwf.replace, hwf.retract, fun t ht => hwf.tool t (List.mem_append_left _ ht)⟩,
      by simp, fun t ht => ?_⟩
    obtain rfl := List.mem_singleton.1 ht
    exact argOK_path hp

theorem add_step (st st1 : AddState) (block : Option Comments) (l : Line) (verb : Bytes) (args args1 : List Bytes)
    (fix : Option Fixer) (h : File.add st block l verb args fix true = (st1, args1)) (he : st1.errsRev = [])
    (hfix : FixOK fix) (hne : FixNE fix) (hl : l.comments.suffix = []) (hwf : WellFormed st1.file)
    (horig : ∀ t ∈ args, TokText t) :
    StepOK st st1 verb args1 fix ∧ WellFormed st.file ∧ ArgsTok args1 ∧ args1 ≠ [] := by
  obtain ⟨hs, hw, ha, hn, -⟩ := add_stepE st st1 block l verb args args1 fix h he hfix hne hwf horig
  exact ⟨⟨hs.errs, fun st' block' l' hsim hl' =>
    hs.replay st' block' l' hsim (by rw [isIndirect_nil l hl, isIndirect_nil l' hl'])⟩, hw, ha, hn⟩

end ModVerif.Proofs.ModfileEol
