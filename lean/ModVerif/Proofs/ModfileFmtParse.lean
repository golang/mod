/-
  How the parser's tests read a `TokText` token: it is no end of line, no end of input, `(` / `)` exactly when its
  text is, and it selects the default branch of the block loop and of the file loop.
-/
import ModVerif.Proofs.ModfileFmtTree
namespace ModVerif.Proofs.ModfileFmtParse
open ModVerif ModVerif.Modfile
open ModVerif.Proofs.ModfileFmtLex ModVerif.Proofs.ModfileFmtLine ModVerif.Proofs.ModfileFmtStream
open ModVerif.Proofs.ModfileFmtTree

theorem tokText_not_eol {t : Bytes} (h : TokText t) : (kindOf t).isEOL = false := tokOK_not_eol h

theorem tokText_ne_eof {t : Bytes} (h : TokText t) : kindOf t ≠ .eof := by
  intro hk
  have := tokOK_not_eol h
  rw [hk] at this; cases this

theorem tokText_punct_iff {t : Bytes} (h : TokText t) (c : UInt8) (hc : c ∈ punctBytes) :
    kindOf t = .punct c ↔ t = [c] := tokOK_punct_iff h c hc

theorem lineTailOK_cons_ne {t : Bytes} (r : List Bytes) (h : t ≠ [40]) : lineTailOK (t :: r) = lineTailOK r := by
  have h40 : (t == [40]) = false := by simpa using h
  cases r <;> simp [lineTailOK, h40]

theorem tokText_kind_cases {t : Bytes} (h : TokText t) :
    kindOf t = .ident ∨ kindOf t = .string ∨ ∃ c, c ∈ punctBytes ∧ kindOf t = .punct c ∧ t = [c] := by
  unfold TokText at h
  generalize hk : kindOf t = k at h
  cases h with
  | punct c hc => exact Or.inr (Or.inr ⟨c, hc, rfl, rfl⟩)
  | string q a hq hb => exact Or.inr (Or.inl rfl)
  | ident _ hne hb hnq => exact Or.inl rfl

/-- the kind of a line token that is not `)` selects the default branch of the block loop -/
theorem tokText_blk_default {t : Bytes} (h : TokText t) (h41 : t ≠ [41]) :
    kindOf t ≠ .eolComment ∧ kindOf t ≠ .punct 10 ∧ kindOf t ≠ .comment ∧ kindOf t ≠ .eof ∧ kindOf t ≠ .punct 41 := by
  rcases tokText_kind_cases h with hk | hk | ⟨c, hc, hk, ht⟩
  · rw [hk]; simp
  · rw [hk]; simp
  · rw [hk]
    refine ⟨by simp, ?_, by simp, by simp, ?_⟩
    · intro h10
      simp only [TokKind.punct.injEq] at h10
      subst h10
      revert hc; decide
    · intro h41'
      simp only [TokKind.punct.injEq] at h41'
      subst h41'
      exact h41 ht

/-- … and of the file loop -/
theorem tokText_file_default {t : Bytes} (h : TokText t) :
    kindOf t ≠ .punct 10 ∧ kindOf t ≠ .comment ∧ kindOf t ≠ .eof := by
  rcases tokText_kind_cases h with hk | hk | ⟨c, hc, hk, ht⟩
  · rw [hk]; simp
  · rw [hk]; simp
  · rw [hk]
    refine ⟨?_, by simp, by simp⟩
    intro h10
    simp only [TokKind.punct.injEq] at h10
    subst h10
    revert hc; decide

theorem eofTk_kind : eofTk.1 = TokKind.eof := rfl

end ModVerif.Proofs.ModfileFmtParse
