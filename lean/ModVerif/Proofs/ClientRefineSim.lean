/-
  The simulation theorems between the sequential `mergeLatest` (Model/Client.lean) and ONE
  goroutine of the latest-head machine (Model/ClientLatest.lean): every lock-step run keeps the coupling
  (`corun_coupled`), the lock-step run exists and returns within 10 machine steps (`corun_exists`), and the two
  directions of the refinement (`head_refinement`).  Helper for Props/C14.lean.
-/
import ModVerif.Proofs.ClientRefineStep
namespace ModVerif.ClientRefine
open ModVerif ModVerif.Client ModVerif.Tile


section
variable {σ H : Type} [DecidableEq H]
variable {P : Params H} {E : Env σ} {MP : MParams H} {cl : Nat → Nat} {presented : Nat → Option Bytes}
  {priv : Nat → Bool} {name : Bytes} {cfg : σ → Bytes} {vs : List Note.Verifier} {t : Nat} {msg0 : Bytes}
  {target : Except Err Unit × World σ H} {tr0 : List Effect} {bw : List (Option Bytes × Option Bytes)}
  {bs : List (Nat × Option Bytes × Option Bytes)}

theorem coupled_step (hA : Abs P E vs MP) (hE : CfgCell E name cfg) (hret : 1 ≤ P.retries)
    (hpres : presented t = optB msg0) (hpriv : priv t = false) {w : World σ H} {s s' : MSt H} {r : ClientLatest.Res}
    (hC : Coupled P E cl name cfg vs t msg0 target tr0 bw bs w s)
    (hr : IsChoice (s.th t).pc → r = answer P E w (s.th t))
    (h : ClientLatest.step MP cl presented priv s t r = some s') :
    Coupled P E cl name cfg vs t msg0 target tr0 bw bs (wstep P E w (s.th t)) s' := by
  cases hpc : (s.th t).pc with
  | entry => simp only [wstep, hpc]; exact step_entry hpriv hC hpc h
  | start => simp only [wstep, hpc]; exact step_start hpres hC hpc h
  | memRead o => simp only [wstep, hpc]; exact step_memRead hA o hC hpc h
  | memCheck o => exact step_memCheck hA hE o hC hpc (hr (by simp [hpc, IsChoice])) h
  | memInstall o => exact step_memInstall o hC hpc h
  | readConfig => exact step_readConfig hE hret hC hpc (hr (by simp [hpc, IsChoice])) h
  | readLatestMsg => simp only [wstep, hpc]; exact step_readLatestMsg hC hpc h
  | writeConfig => exact step_writeConfig hE hC hpc (hr (by simp [hpc, IsChoice])) h
  | done x => unfold ClientLatest.step at h; simp [hpc] at h

theorem corun_coupled (hA : Abs P E vs MP) (hE : CfgCell E name cfg) (hret : 1 ≤ P.retries)
    (hpres : presented t = optB msg0) (hpriv : priv t = false) :
    ∀ (rs : List ClientLatest.Res) (w w' : World σ H) (s s' : MSt H),
      Coupled P E cl name cfg vs t msg0 target tr0 bw bs w s →
      corun P E MP cl presented priv t w s rs = some (w', s') →
      Coupled P E cl name cfg vs t msg0 target tr0 bw bs w' s' := by
  intro rs
  induction rs with
  | nil => intro w w' s s' hC h; simp [corun] at h; obtain ⟨rfl, rfl⟩ := h; exact hC
  | cons r rs ih =>
    intro w w' s s' hC h
    simp only [corun] at h
    split at h
    · cases h
    · rename_i hc
      cases hs : ClientLatest.step MP cl presented priv s t r with
      | none => simp [hs] at h
      | some s1 =>
        simp only [hs] at h
        refine ih _ _ _ _ (coupled_step hA hE hret hpres hpriv hC ?_ hs) h
        intro hch
        by_cases hreq : r = answer P E w (s.th t)
        · exact hreq
        · exact absurd ⟨hch, hreq⟩ hc

theorem coupled_progress (hA : Abs P E vs MP) {w : World σ H} {s : MSt H}
    (hnd : ∀ x, (s.th t).pc ≠ .done x) :
    ∃ s', ClientLatest.step MP cl presented priv s t (answer P E w (s.th t)) = some s' := by
  obtain ⟨l', e, hl⟩ := ClientLatest.LStep.enabled MP (presented t) (priv t) (s.latest (cl t)) (s.latestMsg (cl t))
    s.config (s.th t) (answer P E w (s.th t)) hnd fun o hpc => by
      have hans : answer P E w (s.th t) = absChk (seqCheck P E w (s.th t)).1 := by simp only [answer, hpc]
      rw [hans, seqCheck]
      simp only [hA.size]
      split
      · exact hA.chk _ _ _ _ _ ‹_›
      · exact hA.chk _ _ _ _ _ (by omega)
  exact ⟨_, (ClientLatest.step_iff ..).mpr ⟨l', e, hl, rfl⟩⟩

/-- `rank ≤ 10`: sequentially neither retry loop goes around -/
theorem corun_exists (hA : Abs P E vs MP) :
    ∀ (n : Nat) (w : World σ H) (s : MSt H), ClientLatest.rank cl s t ≤ n →
      ∃ rs w' s', rs.length ≤ n ∧ corun P E MP cl presented priv t w s rs = some (w', s') ∧
        ∃ x, (s'.th t).pc = .done x := by
  intro n
  induction n with
  | zero =>
    intro w s hn
    exact ⟨[], w, s, Nat.le_refl _, rfl, ClientLatest.rank_zero cl s t (by omega)⟩
  | succ n ih =>
    intro w s hn
    by_cases hd : ∃ x, (s.th t).pc = .done x
    · exact ⟨[], w, s, by simp, rfl, hd⟩
    · have hnd : ∀ x, (s.th t).pc ≠ .done x := fun x hx => hd ⟨x, hx⟩
      obtain ⟨s1, hs1⟩ := coupled_progress (P := P) (E := E) (cl := cl) (presented := presented) (priv := priv) hA
        (w := w) hnd
      have hlt := ClientLatest.rank_step MP cl presented priv s s1 t _ hs1
      obtain ⟨rs, w', s', hlen, hrun, hdone⟩ := ih (wstep P E w (s.th t)) s1 (by omega)
      refine ⟨answer P E w (s.th t) :: rs, w', s', by simp; omega, ?_, hdone⟩
      simp only [corun, ne_eq, not_true_eq_false, and_false, if_false, hs1]
      exact hrun

theorem coupled_init {w : World σ H} {s : MSt H} (hR : RelG cl name cfg vs t w s)
    (hpc : (s.th t).pc = .entry ∨ (s.th t).pc = .start) :
    Coupled P E cl name cfg vs t msg0 (mergeLatest P E w msg0) w.tr s.writes s.sec w s := by
  refine ⟨hR, ?_, [], by simp, by simp [trWrites], [], by simp, by simpa [trSecs] using SecRel.nil⟩
  rcases hpc with hpc | hpc <;> simp only [LocOK, hpc]

/-- C14 `head_refines_sequential` -/
theorem head_refinement (hA : Abs P E vs MP) (hE : CfgCell E name cfg) (hret : 1 ≤ P.retries)
    (hpres : presented t = optB msg0) (hpriv : priv t = false) (w : World σ H) (s : MSt H)
    (hR : RelG cl name cfg vs t w s) (hpc : (s.th t).pc = .entry) :
    (∃ rs s', rs.length ≤ 10 ∧
      corun P E MP cl presented priv t w s rs = some ((mergeLatest P E w msg0).2, s') ∧
      (s'.th t).pc = .done (absRes (mergeLatest P E w msg0).1)) ∧
    (∀ rs w' s', corun P E MP cl presented priv t w s rs = some (w', s') →
      ClientLatest.run MP cl presented priv s (rs.map fun r => (t, r)) = some s' ∧
      RelG cl name cfg vs t w' s' ∧ Obs P t w.tr s.writes s.sec w' s' ∧
      ∀ x, (s'.th t).pc = .done x → w' = (mergeLatest P E w msg0).2 ∧ x = absRes (mergeLatest P E w msg0).1) := by
  have hC0 : Coupled P E cl name cfg vs t msg0 (mergeLatest P E w msg0) w.tr s.writes s.sec w s :=
    coupled_init hR (Or.inl hpc)
  have hb : ∀ rs w' s', corun P E MP cl presented priv t w s rs = some (w', s') →
      ClientLatest.run MP cl presented priv s (rs.map fun r => (t, r)) = some s' ∧
      RelG cl name cfg vs t w' s' ∧ Obs P t w.tr s.writes s.sec w' s' ∧
      ∀ x, (s'.th t).pc = .done x → w' = (mergeLatest P E w msg0).2 ∧ x = absRes (mergeLatest P E w msg0).1 := by
    intro rs w' s' hrun
    have hC := corun_coupled hA hE hret hpres hpriv rs w w' s s' hC0 hrun
    refine ⟨corun_run P E MP cl presented priv t rs w w' s s' hrun, hC.rel, hC.obs, fun x hx => ?_⟩
    have hl := hC.loc
    simp only [LocOK, hx] at hl
    exact ⟨hl.2.symm, hl.1.symm⟩
  refine ⟨?_, hb⟩
  obtain ⟨rs, w', s', hlen, hrun, x, hx⟩ := corun_exists (P := P) (E := E) (presented := presented) (priv := priv) hA
    10 w s (ClientLatest.rank_le cl s t)
  obtain ⟨_, _, _, hfin⟩ := hb rs w' s' hrun
  obtain ⟨e1, e2⟩ := hfin x hx
  subst e1
  exact ⟨rs, s', hlen, hrun, by rw [hx, e2]⟩

end
end ModVerif.ClientRefine
