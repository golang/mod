/-
  Conservation of end-of-line comments by `assignComments`: every recorded comment
  ends up in exactly one `suffix` list or in the file's `before` list.  Consequence: a tree without
  end-of-line comments comes from an input in which the lexer recorded none.
-/
import ModVerif.Proofs.ModfileFmtMain
import ModVerif.Proofs.ModfileFmtEmits
import ModVerif.Proofs.ModfileAssign
namespace ModVerif.Proofs.ModfileFmtConserve
open ModVerif ModVerif.Modfile
open ModVerif.Proofs.ModfileFmtTree ModVerif.Proofs.ModfileFmtMain ModVerif.Proofs.ModfileFmtEmits

def sufCount : Expr → Nat
  | .commentBlock x => x.comments.suffix.length
  | .line l => l.comments.suffix.length
  | .lineBlock b => b.comments.suffix.length + b.lparen.comments.suffix.length +
      (b.lines.map (·.comments.suffix.length)).sum + b.rparen.comments.suffix.length
  | .lparen x => x.comments.suffix.length
  | .rparen x => x.comments.suffix.length

def sufCounts (ss : List Expr) : Nat := (ss.map sufCount).sum

open ModVerif.Proofs.ModfileAssign in
theorem sufCount_slots (s : Expr) : sufCount s = ((postVisitsOf s).map fun v => v.2.suffix.length).sum := by
  cases s <;> simp [sufCount, postVisitsOf, Expr.comments, List.map_reverse, Function.comp_def] <;> omega

open ModVerif.Proofs.ModfileAssign in
theorem sufCounts_slots : ∀ ss : List Expr, sufCounts ss = ((postVisits ss).map fun v => v.2.suffix.length).sum
  | [] => rfl
  | s :: ss => by
    have ih := sufCounts_slots ss
    simp only [sufCounts, List.map_cons, List.sum_cons] at ih ⊢
    rw [postVisits_cons, List.map_append, List.sum_append, ← ih, sufCount_slots]

open ModVerif.Proofs.ModfileAssign in
/-- every visit conserves "comments in the slot + comments not yet assigned" (`assignSuffix_length`), so the pass does -/
theorem postStmtsRev_len (ss ss' : List Expr) (suf suf' : List Comment) (h : postStmtsRev ss suf = (ss', suf')) :
    sufCounts ss' + suf'.length = sufCounts ss + suf.length := by
  have e := postStmtsRev_scan ss suf
  rw [h] at e
  have hs := scan_sum (v := assignSuffix) (fun c => c.suffix.length) List.length
    (fun sp cs s => (assignSuffix_length sp cs s).1) (postVisits ss) suf
  rw [← e] at hs
  simpa [sufCounts_slots, List.map_map, Function.comp_def] using hs

theorem noSuf_count {s : Expr} (h : NoSuf s) : sufCount s = 0 := by
  cases s with
  | lineBlock b =>
    obtain ⟨h1, h2, h3, h4⟩ := h
    have : (b.lines.map (·.comments.suffix.length)).sum = 0 := by
      have : ∀ ls : List Line, (∀ l ∈ ls, l.comments.suffix = []) → (ls.map (·.comments.suffix.length)).sum = 0 := by
        intro ls
        induction ls with
        | nil => intro _; rfl
        | cons l ls ih =>
          intro h
          simp [h l (by simp), ih (fun l' hl' => h l' (by simp [hl']))]
      exact this b.lines h3
    simp [sufCount, h1, h2, h4, this]
  | commentBlock x => simp [sufCount, show x.comments.suffix = [] from h]
  | line x => simp [sufCount, show x.comments.suffix = [] from h]
  | lparen x => simp [sufCount, show x.comments.suffix = [] from h]
  | rparen x => simp [sufCount, show x.comments.suffix = [] from h]

theorem noSuf_counts : ∀ (ss : List Expr), (∀ s ∈ ss, NoSuf s) → sufCounts ss = 0 := by
  intro ss
  induction ss with
  | nil => intro _; rfl
  | cons s ss ih =>
    intro h
    simp [sufCounts, noSuf_count (h s (by simp))]
    exact ih (fun s' hs' => h s' (by simp [hs']))

theorem sufCounts_reverse (ss : List Expr) : sufCounts ss.reverse = sufCounts ss := by
  simp [sufCounts, List.map_reverse]

def NoEol (t : FileSyntax) : Prop := t.comments.before = [] ∧ ∀ s ∈ t.stmts, NoSuf s

theorem eolComments_nil_of_noEol (name x : Bytes) (t : FileSyntax) (h : parse name x = .ok t) (hno : NoEol t) :
    eolComments x = [] := by
  unfold parse at h
  cases hp : parseFile x with
  | error e => simp [hp, bind, Except.bind] at h
  | ok v =>
    obtain ⟨stmts, i⟩ := v
    simp only [hp, bind, Except.bind, Except.ok.injEq] at h
    obtain ⟨hwf, hsfx⟩ := parseFile_wf' x stmts i hp
    have hcs : eolComments x = i.commentsRev := by simp [eolComments, hp]
    rw [hcs]
    -- all recorded comments are end-of-line comments
    have hfl : (i.commentsRev.reverse.filter (fun c => !c.suffix)) = [] := by
      rw [List.filter_eq_nil_iff]
      intro c hc
      simp [hsfx c (by simpa using hc)]
    have hfs : (i.commentsRev.reverse.filter (fun c => c.suffix)) = i.commentsRev.reverse := by
      rw [List.filter_eq_self]
      intro c hc
      exact hsfx c (by simpa using hc)
    unfold assignComments at h
    simp only [hfl, hfs, assignBefore_nil, preStmts_nil] at h
    cases hpost : postStmtsRev stmts.reverse i.commentsRev.reverse.reverse with
    | mk stmtsRev sufRev =>
      simp only [hpost] at h
      have hlen := postStmtsRev_len _ _ _ _ hpost
      rw [sufCounts_reverse, noSuf_counts stmts (fun s hs => wf_noSuf (hwf s hs))] at hlen
      subst h
      obtain ⟨hb, hs⟩ := hno
      simp only at hb hs
      have hsuf0 : sufRev = [] := by simpa using hb
      have hcnt : sufCounts stmtsRev = 0 := by
        have := noSuf_counts stmtsRev.reverse hs
        rwa [sufCounts_reverse] at this
      rw [hsuf0, hcnt] at hlen
      simp at hlen
      exact List.eq_nil_of_length_eq_zero hlen.symm

end ModVerif.Proofs.ModfileFmtConserve
