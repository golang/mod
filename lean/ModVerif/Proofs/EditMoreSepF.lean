/-
  **SetRequireSeparateIndirect preserves the tree invariant** for every view of the requirement lines
  (`setRequireSeparateIndirect_invR`; at `fullView`: `setRequireSeparateIndirect_inv`): block phase (`sepStage_spec`), loop
  (`sepLoop_loopInv`), missing entries (`addSepNew_invR`), SortBlocks.
-/
import ModVerif.Proofs.EditMoreSepE
import ModVerif.Proofs.EditRefineSorted
namespace ModVerif.Modfile.Edit
open ModVerif ModVerif.Modfile

/-- the line `addSepNew` creates -/
def sepNewLine (next : Nat) (w : Want) : Line :=
  if w.indirect then setIndirectLine true (mkLine next [autoQuote w.path, w.vers] true) else mkLine next [autoQuote w.path, w.vers] true

theorem sepNewLine_props (next : Nat) (w : Want) :
    (sepNewLine next w).id = next ∧ (sepNewLine next w).token = [autoQuote w.path, w.vers] ∧ (sepNewLine next w).inBlock = true ∧
    isIndirectS (sepNewLine next w).comments.suffix = w.indirect := by
  unfold sepNewLine
  cases hw : w.indirect with
  | false => simp only [Bool.false_eq_true, if_false]; exact ⟨rfl, rfl, rfl, rfl⟩
  | true =>
    simp only [if_true]
    rcases setIndirectLine_props true (mkLine next [autoQuote w.path, w.vers] true) with ⟨e1, e2, e3, e4⟩
    refine ⟨e1, e2, e3, ?_⟩
    rw [e4]; exact sfxAfter_nil true

theorem sepNewLine_C {V : RqView} (next : Nat) (w : Want) : V.C w.indirect (sepNewLine next w).comments.suffix := by
  unfold sepNewLine
  cases hw : w.indirect with
  | false => simp only [Bool.false_eq_true, if_false]; exact V.fresh false
  | true =>
    simp only [if_true]
    rw [(setIndirectLine_props true (mkLine next [autoQuote w.path, w.vers] true)).2.2.2]; exact V.fresh true

section
variable {V : RqView}

theorem addSepNew_invR (ctx : SepCtx) (e : EFile) (w : Want) (hp : w.path ≠ []) (hi : InvR V e)
    (hbd : BlockAt e.f.syn.stmts ctx.directIdx) (hbi : BlockAt e.f.syn.stmts ctx.indirectIdx) :
    InvR V (addSepNew ctx e w) ∧ BlockAt (addSepNew ctx e w).f.syn.stmts ctx.directIdx ∧
      BlockAt (addSepNew ctx e w).f.syn.stmts ctx.indirectIdx := by
  rcases sepNewLine_props e.next w with ⟨l1, l2, l3, _⟩
  have l4 := sepNewLine_C (V := V) e.next w
  have hidx : BlockAt e.f.syn.stmts (if w.indirect then ctx.indirectIdx else ctx.directIdx) := by
    split
    · exact hbi
    · exact hbd
  rcases appendToBlock_spec e.f.syn.stmts (if w.indirect then ctx.indirectIdx else ctx.directIdx) (sepNewLine e.next w)
    hi.tree.shape hidx (by rw [l2]; simp) l3 with ⟨q1, q2, q3, q4⟩
  rw [l1] at q2
  rw [l1, l2] at q1
  have hstmts : (addSepNew ctx e w).f.syn.stmts =
      appendToBlock e.f.syn.stmts (if w.indirect then ctx.indirectIdx else ctx.directIdx) (sepNewLine e.next w) := rfl
  refine ⟨⟨?_, ?_, hi.tinv.of_same rfl rfl rfl (Nat.le_succ _)⟩, ?_, ?_⟩
  · show TreeWF (addSepNew ctx e w).f.syn.stmts (e.next + 1)
    rw [hstmts]
    exact hi.tree.of_added hi.tinv.pos q2 q3
  · have := Match.appendSeg (·.lineId) liveRq V.rq (fun _ => rfl)
      (x := ({ mod := { path := w.path, version := w.vers }, indirect := w.indirect, lineId := e.next } : Require))
      (ne_nil_live hp) [B "require", autoQuote w.path, w.vers] (sepNewLine e.next w).comments.suffix ⟨rfl, l4⟩
      (by rw [← entriesR_require]; exact hi.mtch) (by rw [← entriesR_require]; exact hi.fresh) q1
    show Match (entriesR V (addSepNew ctx e w).f) (view (addSepNew ctx e w).f.syn.stmts)
    rw [entriesR_require, hstmts]; exact this
  · rw [hstmts]; exact q4 _ hbd
  · rw [hstmts]; exact q4 _ hbi

theorem foldl_addSepNew_invR (ctx : SepCtx) (ws : List Want) : ∀ e : EFile, InvR V e → (∀ w ∈ ws, w.path ≠ []) →
    BlockAt e.f.syn.stmts ctx.directIdx → BlockAt e.f.syn.stmts ctx.indirectIdx → InvR V (ws.foldl (addSepNew ctx) e) := by
  induction ws with
  | nil => intro e hi _ _ _; exact hi
  | cons w ws ih =>
    intro e hi hne hbd hbi
    rcases addSepNew_invR ctx e w (hne w List.mem_cons_self) hi hbd hbi with ⟨h1, h2, h3⟩
    exact ih _ h1 (fun x hx => hne x (List.mem_cons_of_mem _ hx)) h2 h3

theorem foldl_addSepNew_go (ctx : SepCtx) (ws : List Want) : ∀ e : EFile, (ws.foldl (addSepNew ctx) e).f.go = e.f.go := by
  induction ws with
  | nil => intro e; rfl
  | cons w ws ih => intro e; simp only [List.foldl_cons]; rw [ih]; rfl

theorem foldl_addNewRequire_go (ws : List Want) : ∀ e : EFile,
    (ws.foldl (fun e w => addNewRequire e w.path w.vers w.indirect) e).f.go = e.f.go := by
  induction ws with
  | nil => intro e; rfl
  | cons w ws ih => intro e; simp only [List.foldl_cons]; rw [ih]; rfl

theorem addSepNew_sep (ctx : SepCtx) (e : EFile) (w : Want) (hi : InvR V e)
    (hbd : BlockAt e.f.syn.stmts ctx.directIdx) (hbi : BlockAt e.f.syn.stmts ctx.indirectIdx)
    (hsep : SepInv ctx.directIdx ctx.indirectIdx e.f.syn.stmts []) :
    SepInv ctx.directIdx ctx.indirectIdx (addSepNew ctx e w).f.syn.stmts [] := by
  rcases sepNewLine_props e.next w with ⟨l1, l2, l3, l4⟩
  have hidx : BlockAt e.f.syn.stmts (if w.indirect then ctx.indirectIdx else ctx.directIdx) := by
    split
    · exact hbi
    · exact hbd
  rcases appendToBlock_spec e.f.syn.stmts (if w.indirect then ctx.indirectIdx else ctx.directIdx) (sepNewLine e.next w)
    hi.tree.shape hidx (by rw [l2]; simp) l3 with ⟨q1, _, _, _⟩
  have hstmts : (addSepNew ctx e w).f.syn.stmts =
      appendToBlock e.f.syn.stmts (if w.indirect then ctx.indirectIdx else ctx.directIdx) (sepNewLine e.next w) := rfl
  rw [hstmts]
  have hin := InAt.append_block (sepNewLine e.next w) hidx
  intro v hv hverb
  rcases List.mem_append.1 (q1.subset hv) with hv0 | hvn
  · rcases hsep v hv0 hverb with ⟨r', hr', _⟩ | ⟨h1, h2⟩ | ⟨h1, h2⟩
    · cases hr'
    · exact Or.inr (Or.inl ⟨(hin _ _).2 (Or.inl h1), h2⟩)
    · exact Or.inr (Or.inr ⟨(hin _ _).2 (Or.inl h1), h2⟩)
  · rw [List.mem_singleton] at hvn
    subst hvn
    simp only
    cases hwi : w.indirect with
    | false =>
      rw [hwi] at l4 hin
      exact Or.inr (Or.inl ⟨(hin _ _).2 (Or.inr ⟨by simp, rfl⟩), l4⟩)
    | true =>
      rw [hwi] at l4 hin
      exact Or.inr (Or.inr ⟨(hin _ _).2 (Or.inr ⟨by simp, rfl⟩), l4⟩)

theorem foldl_addSepNew_sep (ctx : SepCtx) (ws : List Want) : ∀ e : EFile, InvR V e → (∀ w ∈ ws, w.path ≠ []) →
    BlockAt e.f.syn.stmts ctx.directIdx → BlockAt e.f.syn.stmts ctx.indirectIdx →
    SepInv ctx.directIdx ctx.indirectIdx e.f.syn.stmts [] →
    SepInv ctx.directIdx ctx.indirectIdx (ws.foldl (addSepNew ctx) e).f.syn.stmts [] := by
  induction ws with
  | nil => intro e _ _ _ _ hs; exact hs
  | cons w ws ih =>
    intro e hi hne hbd hbi hs
    rcases addSepNew_invR ctx e w (hne w List.mem_cons_self) hi hbd hbi with ⟨h1, h2, h3⟩
    exact ih _ h1 (fun x hx => hne x (List.mem_cons_of_mem _ hx)) h2 h3 (addSepNew_sep ctx e w hi hbd hbi hs)

theorem SepLoopInv.start {e : EFile} {ctx : SepCtx} {stmts : List Expr} (hi : InvR V e) (hlive : ∀ r ∈ e.f.require, liveRq r = true)
    (hset : ∀ r ∈ e.f.require, ∀ v ∈ view e.f.syn.stmts, v.id = r.lineId → V.Settable v.suffix) (hgood : SepGood e.f.syn.stmts ctx.directIdx ctx.indirectIdx stmts) :
    SepLoopInv V (segA_require e.f) (segC_require e.f) ctx [] e.f.require { e.f.syn with stmts := stmts } e.next := by
  refine ⟨hlive, ⟨?_, ?_, ?_, hgood.shape.blockTok, hgood.shape.flagTop, hgood.shape.flagIn, hgood.shape.noBlockSuffix⟩,
    hi.tinv.pos, ?_, hgood.direct, hgood.indirect, ?_⟩
  · rw [hgood.ids_eq]; exact hi.tree.nodup
  · rw [hgood.ids_eq]; exact hi.tree.lt
  · rw [hgood.ids_eq]; exact hi.tree.pos
  · simp only [List.nil_append]; rw [← entriesR_require, hgood.view_eq]; exact hi.mtch
  · intro r hr v hv; rw [hgood.view_eq] at hv; exact hset r hr v hv

theorem sepTail_presort_sepR (e e' : EFile) (req : List Want) (perm : List Want → List Want) (hperm : ∀ l, (perm l).Perm l)
    (hg : GoodWant req) (hi : InvR V e) (hlive : ∀ r ∈ e.f.require, liveRq r = true) (hset : ∀ r ∈ e.f.require, ∀ v ∈ view e.f.syn.stmts, v.id = r.lineId → V.Settable v.suffix)
    (ctx : SepCtx) (stmts : List Expr) (hgood : SepGood e.f.syn.stmts ctx.directIdx ctx.indirectIdx stmts)
    (h : sepTail e req perm ctx stmts = .ok e') :
    ∃ e1, InvR V e1 ∧ e' = sortBlocks e1 ∧ e1.f.go = e.f.go ∧
      ((∀ b s, V.C b s → isIndirectS s = b) → ctx.oneFlat = true → SepInv ctx.directIdx ctx.indirectIdx e1.f.syn.stmts []) := by
  rcases sepTail_loop hg h with ⟨rq, have', syn', next', hr, rfl⟩
  have hsep0 : SepInv ctx.directIdx ctx.indirectIdx stmts e.f.require := by
    intro v hv hverb
    rw [hgood.view_eq] at hv
    rcases hi.require_line_entry v hv hverb with ⟨r, hr, _, hid, _⟩
    exact Or.inl ⟨r, hr, hid⟩
  rcases sepLoop_loopInv ctx req e.f.require [] [] _ e.next rq have' syn' next' (SepLoopInv.start hi hlive hset hgood) hr
    with ⟨q, hle, hsep'⟩
  have hi1 : InvR V (⟨{ e.f with require := rq, syn := syn' }, next'⟩ : EFile) := by
    refine ⟨q.tree, ?_, hi.tinv.of_same rfl rfl rfl hle⟩
    have hm' := q.mtch
    simp only [List.nil_append, List.append_nil] at hm'
    rw [entriesR_require]; exact hm'
  have hne : ∀ w ∈ (perm req).filter (fun w => !have'.contains w.path), w.path ≠ [] :=
    fun w hw => hg.2 w ((hperm req).subset (List.mem_filter.1 hw).1)
  exact ⟨_, foldl_addSepNew_invR ctx _ _ hi1 hne q.direct q.indirect, rfl, foldl_addSepNew_go ctx _ _,
    fun hf ho => foldl_addSepNew_sep ctx _ _ hi1 hne q.direct q.indirect (hsep' hf ho hsep0)⟩

theorem setRequireSeparateIndirect_presortR (e e' : EFile) (req : List Want) (perm : List Want → List Want)
    (hperm : ∀ l, (perm l).Perm l) (hg : GoodWant req) (hi : InvR V e) (hlive : ∀ r ∈ e.f.require, liveRq r = true)
    (hset : ∀ r ∈ e.f.require, ∀ v ∈ view e.f.syn.stmts, v.id = r.lineId → V.Settable v.suffix)
    (h : setRequireSeparateIndirect e req perm = .ok e') :
    ∃ e1, InvR V e1 ∧ e' = sortBlocks e1 ∧ e1.f.go = e.f.go := by
  rcases setRSI_stages h with ⟨s1, dI, dO, lI, sh, s2, iI, iO, h1, h2, ht⟩
  rcases sepTail_presort_sepR e e' req perm hperm hg hi hlive hset _ s2
    (sepStage_spec e.f.syn.stmts hi.tree.shape hi.view2 _ (scan_inv _) h1 h2) ht with ⟨e1, q1, q2, q3, _⟩
  exact ⟨e1, q1, q2, q3⟩

/-- `hlive`: a Cleanup has just run; `hset`: `setIndirect` re-establishes on the requirement lines what the view asks -/
theorem setRequireSeparateIndirect_invR (e e' : EFile) (req : List Want) (perm : List Want → List Want)
    (hperm : ∀ l, (perm l).Perm l) (hg : GoodWant req) (hi : InvR V e) (hlive : ∀ r ∈ e.f.require, liveRq r = true)
    (hset : ∀ r ∈ e.f.require, ∀ v ∈ view e.f.syn.stmts, v.id = r.lineId → V.Settable v.suffix)
    (h : setRequireSeparateIndirect e req perm = .ok e') : InvR V e' := by
  rcases setRequireSeparateIndirect_presortR e e' req perm hperm hg hi hlive hset h with ⟨e1, h1, rfl, _⟩
  exact sortBlocks_invR _ h1

end

/-! ### read at `fullView` -/

theorem sepTail_presort_sep (e e' : EFile) (req : List Want) (perm : List Want → List Want) (hperm : ∀ l, (perm l).Perm l)
    (hg : GoodWant req) (hi : Inv e) (hlive : ∀ r ∈ e.f.require, liveRq r = true) (hset : NoNestedIndirectMarker e)
    (ctx : SepCtx) (stmts : List Expr) (hgood : SepGood e.f.syn.stmts ctx.directIdx ctx.indirectIdx stmts)
    (h : sepTail e req perm ctx stmts = .ok e') :
    ∃ e1, Inv e1 ∧ e' = sortBlocks e1 ∧ e1.f.go = e.f.go ∧
      (ctx.oneFlat = true → SepInv ctx.directIdx ctx.indirectIdx e1.f.syn.stmts []) := by
  rcases sepTail_presort_sepR e e' req perm hperm hg hi.r hlive hset ctx stmts hgood h with ⟨e1, h1, h2, h3, h4⟩
  exact ⟨e1, h1.full, h2, h3, h4 fun _ _ hc => hc⟩

theorem sepTail_inv (e e' : EFile) (req : List Want) (perm : List Want → List Want) (hperm : ∀ l, (perm l).Perm l)
    (hg : GoodWant req) (hi : Inv e) (hlive : ∀ r ∈ e.f.require, liveRq r = true) (hset : NoNestedIndirectMarker e)
    (ctx : SepCtx) (stmts : List Expr) (hgood : SepGood e.f.syn.stmts ctx.directIdx ctx.indirectIdx stmts)
    (h : sepTail e req perm ctx stmts = .ok e') : Inv e' := by
  rcases sepTail_presort_sep e e' req perm hperm hg hi hlive hset ctx stmts hgood h with ⟨e1, h1, rfl, _⟩
  exact (sortBlocks_invR _ h1.r).full

theorem setRequireSeparateIndirect_presort (e e' : EFile) (req : List Want) (perm : List Want → List Want)
    (hperm : ∀ l, (perm l).Perm l) (hg : GoodWant req) (hi : Inv e) (hlive : ∀ r ∈ e.f.require, liveRq r = true)
    (hset : NoNestedIndirectMarker e) (h : setRequireSeparateIndirect e req perm = .ok e') :
    ∃ e1, Inv e1 ∧ e' = sortBlocks e1 ∧ e1.f.go = e.f.go := by
  rcases setRequireSeparateIndirect_presortR e e' req perm hperm hg hi.r hlive hset h with ⟨e1, h1, h2, h3⟩
  exact ⟨e1, h1.full, h2, h3⟩

theorem setRequire_loop_inv {e : EFile} {req : List Want} {perm : List Want → List Want} (hperm : ∀ l, (perm l).Perm l)
    (hg : GoodWant req) (hi : Inv e) (hlive : ∀ r ∈ e.f.require, liveRq r = true) (hset : NoNestedIndirectMarker e)
    {rq : List Require} {need' : List Want} {syn' : FileSyntax}
    (hr : setRequireLoop e.f.require req e.f.syn = .ok (rq, need', syn')) :
    Inv (⟨{ e.f with require := rq, syn := syn' }, e.next⟩ : EFile) ∧ ∀ w ∈ perm need', w.path ≠ [] := by
  rcases setRequireLoop_abs _ _ _ _ _ _ hg hr with ⟨_, hsub⟩
  rcases setRequireLoop_inv (V := fullView) (A := segA_require e.f) (C := segC_require e.f) e.next e.f.require [] req e.f.syn rq need' syn'
    hlive hi.tree (by simp only [List.nil_append]; rw [← entriesR_require]; exact hi.mtch) hset hr with ⟨hw', hm'⟩
  refine ⟨⟨hw', ?_, hi.tinv.of_same rfl rfl rfl (Nat.le_refl _)⟩, fun w hw => hg.2 w (hsub.subset ((hperm need').subset hw))⟩
  simp only [List.nil_append] at hm'
  show Match (entriesR fullView _) _
  rw [entriesR_require]; exact hm'

theorem setRequire_presort (e e' : EFile) (req : List Want) (perm : List Want → List Want) (hperm : ∀ l, (perm l).Perm l)
    (hg : GoodWant req) (hi : Inv e) (hlive : ∀ r ∈ e.f.require, liveRq r = true) (hset : NoNestedIndirectMarker e)
    (h : setRequire e req perm = .ok e') : ∃ e1, Inv e1 ∧ e' = sortBlocks e1 ∧ e1.f.go = e.f.go := by
  rcases setRequire_loop hg h with ⟨rq, need', syn', hr, rfl⟩
  rcases setRequire_loop_inv hperm hg hi hlive hset hr with ⟨hi1, hne⟩
  exact ⟨_, (foldl_addNewRequire_invR (perm need') _ hi1.r hne).full, rfl, foldl_addNewRequire_go (perm need') _⟩

/-- C15 `setRequireSeparateIndirect_preserves_inv` -/
theorem setRequireSeparateIndirect_inv (e e' : EFile) (req : List Want) (perm : List Want → List Want)
    (hperm : ∀ l, (perm l).Perm l) (hg : GoodWant req) (hi : Inv e) (hlive : ∀ r ∈ e.f.require, liveRq r = true)
    (hset : NoNestedIndirectMarker e) (h : setRequireSeparateIndirect e req perm = .ok e') : Inv e' :=
  (setRequireSeparateIndirect_invR e e' req perm hperm hg hi.r hlive hset h).full

/-- C16 `blocks_sorted_partial3` -/
theorem bulk_blocks_sorted (e e' : EFile) (req : List Want) (perm : List Want → List Want)
    (hperm : ∀ l, (perm l).Perm l) (hg : GoodWant req) (hi : Inv e) (hlive : ∀ r ∈ e.f.require, liveRq r = true)
    (hset : NoNestedIndirectMarker e)
    (h : setRequire e req perm = .ok e' ∨ setRequireSeparateIndirect e req perm = .ok e') :
    ∀ b, Expr.lineBlock b ∈ e'.f.syn.stmts → EditSpec.Sorted (onToken (lessFor (semOf e.f) false b.token)) b.lines := by
  have : ∃ e1, Inv e1 ∧ e' = sortBlocks e1 ∧ e1.f.go = e.f.go := by
    rcases h with h | h
    · exact setRequire_presort e e' req perm hperm hg hi hlive hset h
    · exact setRequireSeparateIndirect_presort e e' req perm hperm hg hi hlive hset h
  rcases this with ⟨e1, h1, rfl, hgo⟩
  have hsem : semOf e.f = semOf e1.f := by unfold semOf; rw [hgo]
  rw [hsem]
  exact sortBlocks_blocks_sorted e1 h1

end ModVerif.Modfile.Edit
