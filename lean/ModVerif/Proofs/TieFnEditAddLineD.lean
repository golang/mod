/-
  `FileSyntax.addLine`: loop 1 at a block statement against `addLineWalk` (the hint is the block itself, or one of its
  lines: loop 2), the no-hint search (loop 3) against `lastStmtWith`, and what the model walk does to ids and block verbs.
-/
import ModVerif.Proofs.TieFnEditAddLineC
import ModVerif.Proofs.EditRefineTree
namespace ModVerif.TieFnEditAddLine
open ModVerif ModVerif.GoRt
open ModVerif.Generated.Edit
open ModVerif.Tie.FnEditRep
open ModVerif.Modfile.Edit (treeIds addLineWalk Hint mkLine headIs insertAfterId lastStmtWith)

/-! ### the hint is a block found by the no-hint search -/

theorem mem_blockPtrs_of_mem {p : Int} : ∀ {es : List Expr}, Expr.LineBlock p ∈ es → p ∈ blockPtrs es
  | e :: es, hm => by
    rcases List.mem_cons.1 hm with rfl | hm
    · simp [blockPtrs]
    · have := mem_blockPtrs_of_mem hm
      cases e <;> simp [blockPtrs, this]

/-- **loop 1 of `addLine` hinted by the block at statement index `i`** (the block the no-hint search found) is the model's
    `addLineWalk (.stmt i)`: statements before `i` are skipped (no statement equals the block pointer: `nb`), at `i` the new
    line is appended to the block (same verb) or follows it. -/
theorem walkBlock_sim (x : Int) (fo : FileSyntax) (p : Int) (i : Nat) (t0 : Bytes) (trest : List Bytes) :
    ∀ (suf : List Expr) (ssuf : List Modfile.Expr) (pre : List Expr) (spre : List Modfile.Expr) (h : Heap) (fuel : Nat),
      heapGet h.files x = .ok fo → fo.Stmt = pre ++ suf → RStmts h pre spre → RStmts h suf ssuf → BlockTokOK ssuf →
      (blockPtrs (pre ++ suf)).Nodup → nodeCount ssuf + 2 ≤ fuel →
      pre.length ≤ i → (pre ++ suf)[i]? = some (Expr.LineBlock p) →
      WalkRes x fo (Expr.LineBlock p) (t0 :: trest) pre spre fuel h
        (addLineWalk (.stmt i) (t0 :: trest) (h.lines.length + 1) ssuf pre.length)
  | [], [], pre, spre, h, fuel, hf, hs, rpre, _, _, _, hfu, _, _ => by
    obtain ⟨f, rfl⟩ : ∃ f, fuel = f + 1 := ⟨fuel - 1, by omega⟩
    have hs' : fo.Stmt = pre := by simpa using hs
    show FileSyntax_addLine_loop1 fo.Stmt x _ _ (f + 1) (pre.length : Int) h = _
    rw [hs']; exact loop1_end pre x _ _ f h
  | [], _ :: _, _, _, _, _, _, _, _, r, _, _, _, _, _ => r.elim
  | _ :: _, [], _, _, _, _, _, _, _, r, _, _, _, _, _ => r.elim
  | e :: xs, s :: sxs, pre, spre, h, fuel, hf, hs, rpre, rsuf, htok, nb, hfu, hi, hget => by
    obtain ⟨f, rfl⟩ : ∃ f, fuel = f + 1 := ⟨fuel - 1, by omega⟩
    have hl := rpre.length
    have re := rsuf.1
    have rxs := rsuf.2
    have hlen1 : (pre ++ [e]).length = pre.length + 1 := by simp
    have ih := fun (hfu' : nodeCount sxs + 2 ≤ f) (hi' : pre.length + 1 ≤ i) =>
      walkBlock_sim x fo p i t0 trest xs sxs (pre ++ [e]) (spre ++ [s]) h f hf (by simp [hs])
        (RStmts.append rpre (show RStmts h [e] [s] from ⟨re, trivial⟩)) rxs (BlockTokOK_cons htok)
        (by simpa using nb) hfu' (by rw [hlen1]; exact hi') (by simpa using hget)
    rw [hlen1] at ih
    -- the statement at the index `pre.length`
    have hk : (pre ++ e :: xs)[pre.length]? = some e := by simp
    cases s with
    | lparen c => cases e <;> exact re.elim
    | rparen c => cases e <;> exact re.elim
    | commentBlock c =>
      cases e <;> simp only [RExpr] at re <;> try exact re.elim
      have hne : i ≠ pre.length := by
        intro e; rw [e, hk] at hget; cases hget
      rw [walk_cb]
      refine WalkRes_skip ?_ (ih (by simp only [nodeCount] at hfu; omega) (by omega))
      rw [hs]; exact loop1_skip_other pre _ xs x _ _ f h (by intro p; simp) (by intro p; simp)
    | line l =>
      cases e <;> simp only [RExpr] at re <;> try exact re.elim
      rename_i q
      have hne : i ≠ pre.length := by
        intro e; rw [e, hk] at hget; cases hget
      rw [walk_line]
      have hcond : ((Hint.stmt i == Hint.line l.id) || (Hint.stmt i == Hint.stmt pre.length)) = false := by simp [hne]
      rw [hcond]
      simp only [Bool.false_eq_true, if_false]
      refine WalkRes_skip ?_ (ih (by simp only [nodeCount] at hfu; omega) (by omega))
      rw [hs]
      exact loop1_skip_line pre _ xs x _ _ f h (by simp)
    | lineBlock b =>
      cases e <;> simp only [RExpr] at re <;> try exact re.elim
      rename_i p'
      obtain ⟨ps, hb, rps⟩ := re
      have btok := BlockTokOK_head htok
      have hnc : b.lines.length + nodeCount sxs + 2 ≤ f := by simp only [nodeCount] at hfu; omega
      rw [walk_block]
      by_cases hik : i = pre.length
      · -- the hint
        have hpp : p' = p := by
          rw [hik, hk] at hget
          injection hget with hget; injection hget
        subst hpp
        have hcond : (Hint.stmt i == Hint.stmt pre.length) = true := by simp [hik]
        rw [hcond]
        simp only [if_true]
        obtain ⟨bt0, btr, hbt⟩ := List.exists_cons_of_ne_nil btok
        have hh : headIs b.token t0 = decide (bt0 = t0) := by rw [hbt, headIs_cons_eq]
        by_cases hu : bt0 = t0
        · subst hu
          simp only [hh, List.head?_cons, Option.getD_some, decide_true, Bool.not_true, Bool.false_eq_true,
            if_false, List.drop_succ_cons, List.drop_zero]
          obtain ⟨a1, a2, a3, a4⟩ := block_insert_sim hf hs rpre rxs nb hb (l1 := b.lines) (l2 := []) (a := ps) (c := [])
            rps trivial (mkLine (h.lines.length + 1) trest true) rfl
          refine ⟨_, _, ?_, a1, a2, a3, a4⟩
          rw [hs]
          exact loop1_block_self_eq pre p' xs x bt0 trest f h _ hb btr (by simp [hbt])
        · simp only [hh, List.head?_cons, Option.getD_some, hu, decide_false, Bool.not_false, if_true]
          refine WalkRes_after hf hs rpre (show RExpr h (Expr.LineBlock p') (.lineBlock b) from ⟨ps, hb, rps⟩)
            rxs nb _ _ _ ?_
          rw [hs]
          exact loop1_block_self_ne pre p' xs x t0 trest f h _ hb bt0 btr (by simp [hbt]) hu
      · have hcond : (Hint.stmt i == Hint.stmt pre.length) = false := by simp [hik]
        rw [hcond]
        simp only [Bool.false_eq_true, if_false]
        have hpp : p' ≠ p := by
          intro e
          subst e
          -- `p'` occurs again in `xs`
          have hgt : pre.length + 1 ≤ i := by omega
          have : xs[i - (pre.length + 1)]? = some (Expr.LineBlock p') := by
            rw [List.getElem?_append_right (by omega)] at hget
            have e2 : i - pre.length = (i - (pre.length + 1)) + 1 := by omega
            rw [e2, List.getElem?_cons_succ] at hget
            exact hget
          have hm := mem_blockPtrs_of_mem (List.mem_of_getElem? this)
          rw [blockPtrs_append] at nb
          simp only [blockPtrs] at nb
          exact (List.nodup_cons.1 (List.nodup_append.1 nb).2.1).1 hm
        refine WalkRes_skip ?_ (ih (by omega) (by omega))
        rw [hs]
        refine loop1_skip_block pre p' xs x _ _ f h (by intro e; injection e with e; exact hpp e) _ hb (by simp) ?_
        simp only [blockG_Line]; rw [rps.length]; omega


/-! ### the hint is a top-level line found by the no-hint search: the walk is the one hinted by its id -/

theorem mem_stmtIds_of_line {l : Modfile.Line} : ∀ {ss : List Modfile.Expr}, Modfile.Expr.line l ∈ ss → l.id ∈ stmtIds ss
  | s :: ss, hm => by
    rcases List.mem_cons.1 hm with rfl | hm
    · simp [stmtIds]
    · have := mem_stmtIds_of_line hm
      cases s <;> simp [stmtIds, this]

theorem walk_stmt_line (tokens : List Bytes) (new : Nat) (l : Modfile.Line) :
    ∀ (ss : List Modfile.Expr) (k i : Nat), k ≤ i → ss[i - k]? = some (.line l) → (stmtIds ss).Nodup →
      addLineWalk (.stmt i) tokens new ss k = addLineWalk (.line l.id) tokens new ss k
  | [], k, i, _, hg, _ => by simp at hg
  | s :: ss, k, i, hk, hg, nd => by
    by_cases hik : i = k
    · subst hik
      simp only [Nat.sub_self, List.getElem?_cons_zero, Option.some.injEq] at hg
      subst hg
      rw [walk_line, walk_line]
      simp
    · have hg' : ss[i - (k + 1)]? = some (.line l) := by
        have e2 : i - k = (i - (k + 1)) + 1 := by omega
        rw [e2, List.getElem?_cons_succ] at hg
        exact hg
      have hmem : l.id ∈ stmtIds ss := mem_stmtIds_of_line (List.mem_of_getElem? hg')
      cases s with
      | commentBlock c =>
        rw [walk_cb, walk_cb, walk_stmt_line tokens new l ss (k + 1) i (by omega) hg' (by simpa [stmtIds] using nd)]
      | lparen c =>
        have nd' : (stmtIds ss).Nodup := by simpa [stmtIds] using nd
        show (addLineWalk _ _ _ ss (k + 1)).map _ = (addLineWalk _ _ _ ss (k + 1)).map _
        rw [walk_stmt_line tokens new l ss (k + 1) i (by omega) hg' nd']
      | rparen c =>
        have nd' : (stmtIds ss).Nodup := by simpa [stmtIds] using nd
        show (addLineWalk _ _ _ ss (k + 1)).map _ = (addLineWalk _ _ _ ss (k + 1)).map _
        rw [walk_stmt_line tokens new l ss (k + 1) i (by omega) hg' nd']
      | line l' =>
        simp only [stmtIds, List.nodup_cons] at nd
        have hne : l.id ≠ l'.id := fun e => nd.1 (e ▸ hmem)
        rw [walk_line, walk_line]
        have c1 : ((Hint.stmt i == Hint.line l'.id) || (Hint.stmt i == Hint.stmt k)) = false := by simp [hik]
        have c2 : ((Hint.line l.id == Hint.line l'.id) || (Hint.line l.id == Hint.stmt k)) = false := by simp [hne]
        rw [c1, c2]
        simp only [Bool.false_eq_true, if_false]
        rw [walk_stmt_line tokens new l ss (k + 1) i (by omega) hg' nd.2]
      | lineBlock b =>
        simp only [stmtIds] at nd
        have nd' := List.nodup_append.1 nd
        rw [walk_block, walk_block]
        have c1 : (Hint.stmt i == Hint.stmt k) = false := by simp [hik]
        have c2 : (Hint.line l.id == Hint.stmt k) = false := by simp
        have c3 : b.lines.any (·.id == l.id) = false := by
          cases hc : b.lines.any (·.id == l.id) with
          | false => rfl
          | true =>
            obtain ⟨l', hl', he⟩ := List.any_eq_true.1 hc
            simp only [beq_iff_eq] at he
            exact absurd he (nd'.2.2 l'.id (by simp only [lineIds]; exact List.mem_map.2 ⟨l', hl', rfl⟩) l.id hmem)
        rw [c1, c2]
        simp only [Bool.false_eq_true, if_false, c3]
        rw [walk_stmt_line tokens new l ss (k + 1) i (by omega) hg' nd'.2.1]


/-! ### the no-hint search: loop 3 against `lastStmtWith` -/

def stmtMatch (verb : Bytes) : Modfile.Expr → Bool
  | .line l => !l.token.isEmpty && headIs l.token verb
  | .lineBlock b => headIs b.token verb
  | _ => false

theorem lastStmtWith_snoc (verb : Bytes) (s : Modfile.Expr) : ∀ (xs : List Modfile.Expr) (i : Nat) (acc : Option Nat),
    lastStmtWith verb (xs ++ [s]) i acc =
      if stmtMatch verb s then some (i + xs.length) else lastStmtWith verb xs i acc
  | [], i, acc => by
    cases s <;> simp only [List.nil_append, lastStmtWith, stmtMatch, List.length_nil, Nat.add_zero, Bool.false_eq_true,
      if_false, Bool.and_eq_true, Bool.not_eq_true'] <;> first | rfl | (split <;> rfl) | skip
  | x :: xs, i, acc => by
    have e : i + (x :: xs).length = (i + 1) + xs.length := by simp; omega
    cases x <;> simp only [List.cons_append, lastStmtWith, lastStmtWith_snoc verb s xs, e]

/-- **the no-hint search of `addLine`** (read.go:108: `for i := len(x.Stmt) - 1; i >= 0; i--`, loop 3) run down from index
    `k - 1` returns the last statement among the first `k` whose verb is `t0` — the model's `lastStmtWith` — or nil. -/
theorem loop3_sim (x : Int) (fo : FileSyntax) (h : Heap) (hf : heapGet h.files x = .ok fo) (t0 : Bytes) (trest : List Bytes)
    (ss : List Modfile.Expr) (rs : RStmts h fo.Stmt ss) (htok : BlockTokOK ss) :
    ∀ (k : Nat) (fuel : Nat) (i2 : Int), k ≤ fo.Stmt.length → k + 1 ≤ fuel → i2 = (k : Int) - 1 →
      match lastStmtWith t0 (ss.take k) 0 none with
      | none => ∃ j, FileSyntax_addLine_loop3 x (t0 :: trest) h fuel Expr.nil i2 = .ok (Expr.nil, j)
      | some i => ∃ j e, fo.Stmt[i]? = some e ∧ ss[i]? ≠ none ∧ stmtMatch t0 (ss[i]?.getD default) = true ∧
          FileSyntax_addLine_loop3 x (t0 :: trest) h fuel Expr.nil i2 = .ok (e, j)
  | 0, fuel, i2, _, hfu, hi => by
    obtain ⟨f, rfl⟩ : ∃ f, fuel = f + 1 := ⟨fuel - 1, by omega⟩
    subst hi
    simp only [List.take_zero, lastStmtWith]
    refine ⟨((0 : Nat) : Int) - 1, ?_⟩
    unfold FileSyntax_addLine_loop3
    have : ¬ (((0 : Nat) : Int) - 1 ≥ 0) := by omega
    simp only [this, decide_false, Bool.false_eq_true, if_false, pure_eq_ok]
  | k + 1, fuel, i2, hk, hfu, hi => by
    obtain ⟨f, rfl⟩ : ∃ f, fuel = f + 1 := ⟨fuel - 1, by omega⟩
    have hi' : i2 = (k : Int) := by omega
    subst hi'
    have hlen := rs.length
    have hke : k < fo.Stmt.length := by omega
    have hks : k < ss.length := by omega
    have he : fo.Stmt[k]? = some fo.Stmt[k] := List.getElem?_eq_getElem hke
    have hsk : ss[k]? = some ss[k] := List.getElem?_eq_getElem hks
    have re := rs.get k _ _ he hsk
    have htake : ss.take (k + 1) = ss.take k ++ [ss[k]] := by
      rw [List.take_add_one, hsk]; rfl
    rw [htake, lastStmtWith_snoc]
    simp only [List.length_take, Nat.zero_add, Nat.min_eq_left (Nat.le_of_lt hks)]
    have ih := loop3_sim x fo h hf t0 trest ss rs htok k f ((k : Int) - 1) (by omega) (by omega) rfl
    have hge : ((k : Nat) : Int) ≥ 0 := by omega
    have hidx : idxL fo.Stmt (k : Int) = .ok fo.Stmt[k] := idxL_natCast hke
    have hmem : ss[k] ∈ ss := List.getElem_mem hks
    -- one iteration
    generalize hE : fo.Stmt[k] = e at re hidx he
    generalize hS : ss[k] = s at re hmem hsk
    cases s with
    | lparen c => cases e <;> exact re.elim
    | rparen c => cases e <;> exact re.elim
    | commentBlock c =>
      cases e <;> simp only [RExpr] at re <;> try exact re.elim
      simp only [stmtMatch, Bool.false_eq_true, if_false]
      have hstep : FileSyntax_addLine_loop3 x (t0 :: trest) h (f + 1) Expr.nil (k : Int) =
          FileSyntax_addLine_loop3 x (t0 :: trest) h f Expr.nil ((k : Int) - 1) := by
        conv => lhs; unfold FileSyntax_addLine_loop3
        simp only [hge, decide_true, if_true, hf, bind_ok, hidx]
      rw [hstep]; exact ih
    | line l =>
      cases e <;> simp only [RExpr] at re <;> try exact re.elim
      rename_i p
      cases hc : l.token with
      | nil =>
        simp only [stmtMatch, hc, List.isEmpty_nil, Bool.not_true, Bool.false_and, Bool.false_eq_true, if_false]
        have hstep : FileSyntax_addLine_loop3 x (t0 :: trest) h (f + 1) Expr.nil (k : Int) =
            FileSyntax_addLine_loop3 x (t0 :: trest) h f Expr.nil ((k : Int) - 1) := by
          conv => lhs; unfold FileSyntax_addLine_loop3
          simp only [hge, decide_true, if_true, hf, bind_ok, hidx, re.1, lineG_Token, hc, Bool.not_true,
            Bool.false_eq_true, if_false, pure_eq_ok]
        rw [hstep]; exact ih
      | cons u us =>
        by_cases hu : u = t0
        · subst hu
          simp only [stmtMatch, hc, List.isEmpty_cons, Bool.not_false, Bool.true_and, headIs_cons_eq, decide_true, if_true]
          refine ⟨(k : Int), Expr.Line p, he, by simp [hsk], by simp [hsk, hc, headIs_cons_eq], ?_⟩
          unfold FileSyntax_addLine_loop3
          simp only [hge, decide_true, if_true, hf, bind_ok, hidx, re.1, lineG_Token, hc, reduceCtorEq, decide_false,
            Bool.not_false, idx0, pure_eq_ok]
        · simp only [stmtMatch, hc, List.isEmpty_cons, Bool.not_false, Bool.true_and, headIs_cons_eq, hu, decide_false,
            Bool.false_eq_true, if_false]
          have hstep : FileSyntax_addLine_loop3 x (t0 :: trest) h (f + 1) Expr.nil (k : Int) =
              FileSyntax_addLine_loop3 x (t0 :: trest) h f Expr.nil ((k : Int) - 1) := by
            conv => lhs; unfold FileSyntax_addLine_loop3
            simp only [hge, decide_true, if_true, hf, bind_ok, hidx, re.1, lineG_Token, hc, reduceCtorEq, decide_false,
              Bool.not_false, idx0, pure_eq_ok, hu, Bool.false_eq_true, if_false]
          rw [hstep]; exact ih
    | lineBlock b =>
      cases e <;> simp only [RExpr] at re <;> try exact re.elim
      rename_i p
      obtain ⟨ps, hb, rps⟩ := re
      obtain ⟨bt0, btr, hbt⟩ := List.exists_cons_of_ne_nil (htok b hmem)
      by_cases hu : bt0 = t0
      · subst hu
        simp only [stmtMatch, hbt, headIs_cons_eq, decide_true, if_true]
        refine ⟨(k : Int), Expr.LineBlock p, he, by simp [hsk], by simp [hsk, hbt, headIs_cons_eq], ?_⟩
        unfold FileSyntax_addLine_loop3
        simp only [hge, decide_true, if_true, hf, bind_ok, hidx, hb, blockG_Token, hbt, idx0, pure_eq_ok]
      · simp only [stmtMatch, hbt, headIs_cons_eq, hu, decide_false, Bool.false_eq_true, if_false]
        have hstep : FileSyntax_addLine_loop3 x (t0 :: trest) h (f + 1) Expr.nil (k : Int) =
            FileSyntax_addLine_loop3 x (t0 :: trest) h f Expr.nil ((k : Int) - 1) := by
          conv => lhs; unfold FileSyntax_addLine_loop3
          simp only [hge, decide_true, if_true, hf, bind_ok, hidx, hb, blockG_Token, hbt, idx0, pure_eq_ok, hu,
            decide_false, Bool.false_eq_true, if_false]
        rw [hstep]; exact ih


/-! ### the model walk: ids and block verbs of the result -/

theorem stmtIds_cons (s : Modfile.Expr) (xs : List Modfile.Expr) : stmtIds (s :: xs) = stmtIds [s] ++ stmtIds xs :=
  stmtIds_append [s] xs

theorem BlockTokOK_line (l : Modfile.Line) : BlockTokOK [.line l] := fun b hb => by simp at hb

theorem grown_ids {t0 : Bytes} {trest : List Bytes} {new : Nat} {x : Modfile.Expr} {g : List Modfile.Expr}
    (hg : Modfile.Edit.Grown (t0 :: trest) new x g) (hx : BlockTokOK [x]) :
    (stmtIds g).Perm (new :: stmtIds [x]) ∧ BlockTokOK g := by
  cases hg with
  | after x =>
    refine ⟨?_, fun b hb => ?_⟩
    · rw [stmtIds_cons]; simp only [stmtIds, mkLine]; exact List.perm_append_singleton _ _
    · rcases List.mem_cons.1 hb with rfl | hb
      · exact hx b (List.mem_singleton.2 rfl)
      · simp at hb
  | conv l hl hv =>
    refine ⟨?_, fun b hb => ?_⟩
    · simp only [stmtIds, lineIds, Modfile.Edit.convBlock, mkLine, List.map_cons, List.map_nil, List.append_nil]
      exact List.Perm.swap _ _ _
    · simp only [Modfile.Edit.convBlock, List.mem_singleton, Modfile.Expr.lineBlock.injEq] at hb
      subst hb
      cases hl' : l.token with
      | nil => simp [hl'] at hl
      | cons u us => simp
  | block b l1 l2 hb hv =>
    refine ⟨?_, fun b' hb' => ?_⟩
    · simp only [stmtIds, lineIds, hb, List.map_append, List.map_cons, mkLine, List.append_nil]
      exact List.perm_middle
    · simp only [List.mem_singleton, Modfile.Expr.lineBlock.injEq] at hb'
      subst hb'
      exact hx b (List.mem_singleton.2 rfl)

theorem walk_ids (hint : Hint) (t0 : Bytes) (trest : List Bytes) (new : Nat) (ss : List Modfile.Expr) (i : Nat)
    (ss' : List Modfile.Expr) (hw : addLineWalk hint (t0 :: trest) new ss i = some ss') (hb : BlockTokOK ss) :
    (stmtIds ss').Perm (new :: stmtIds ss) ∧ BlockTokOK ss' := by
  obtain ⟨pre, x, post, g, rfl, hg, rfl⟩ := Modfile.Edit.addLineWalk_grown hint _ new ss i ss' hw
  obtain ⟨p1, p2⟩ := grown_ids hg (fun b hm => hb b (by simp only [List.mem_singleton] at hm; simp [hm]))
  refine ⟨?_, fun b hm => ?_⟩
  · rw [stmtIds_append, stmtIds_append, stmtIds_append, stmtIds_cons x post, List.append_assoc]
    exact (List.Perm.append_left _ (p1.append_right _)).trans List.perm_middle
  · rcases List.mem_append.1 hm with hm | hm
    · rcases List.mem_append.1 hm with hm | hm
      · exact hb b (by simp [hm])
      · exact p2 b hm
    · exact hb b (by simp [hm])
end ModVerif.TieFnEditAddLine
