/-
  C03: soundness (under collision freedom of the interior-node hash) and completeness of RFC 6962
  acceptance (`AcceptIncl` / `AcceptCons`) with respect to the RFC 6962 tree hash, audit path and
  consistency proof.  Specification level only; the checkers of the model are connected to
  `AcceptIncl` / `AcceptCons` by `Props.C03.checkRecord_iff` / `checkTree_iff`.
-/
import ModVerif.Spec.RFC6962
import ModVerif.Proofs.TlogMerkleSpec
namespace ModVerif.RFC6962

def NodeInj {H : Type} (node : H → H → H) : Prop := ∀ a b c d, node a b = node c d → a = c ∧ b = d

def CF {H : Type} (leaf : Bytes → H) (node : H → H → H) : Prop :=
  (∀ a b c d, node a b = node c d → a = c ∧ b = d) ∧ (∀ x y, leaf x = leaf y → x = y) ∧
    (∀ x a b, leaf x ≠ node a b)

theorem CF.nodeInj {H : Type} {leaf : Bytes → H} {node : H → H → H} (h : CF leaf node) : NodeInj node := h.1

section
variable {H : Type} (node : H → H → H) (empty : H)

theorem eq_dropLast_append_of_getLast? {p : List H} {last : H} (h : p.getLast? = some last) :
    p = p.dropLast ++ [last] := by
  obtain ⟨ys, rfl⟩ := List.getLast?_eq_some_iff.mp h
  simp

/-- the old tree `D[0:m]` with `k < m ≤ |D|` splits at the same point `k` as `D` -/
theorem mth_take_split (D : List H) (m : Nat) (hk : splitPoint D.length < m) (h2 : m ≤ D.length) :
    mth node empty (D.take m) =
      node (mth node empty (D.take (splitPoint D.length)))
        (mth node empty ((D.drop (splitPoint D.length)).take (m - splitPoint D.length))) := by
  have hp := splitPoint_pos D.length
  have hlm : (D.take m).length = m := by rw [List.length_take]; omega
  rw [mth_split node empty (D.take m) (by omega), hlm, splitPoint_mid D.length m hk h2, List.take_take,
    Nat.min_eq_left (by omega : splitPoint D.length ≤ m), List.drop_take]

theorem inclRootF_path : ∀ f (D : List H) m h, D.length ≤ f → D[m]? = some h →
    inclRootF node f (path node empty m D) D.length m h = some (mth node empty D) := by
  intro f
  induction f with
  | zero =>
    intro D m h hf hm
    have : D = [] := List.eq_nil_of_length_eq_zero (by omega)
    subst this; simp at hm
  | succ f ih =>
    intro D m h hf hm
    have hmlt : m < D.length := by
      rcases Nat.lt_or_ge m D.length with h' | h'
      · exact h'
      · rw [List.getElem?_eq_none h'] at hm; cases hm
    unfold inclRootF
    by_cases hl : D.length ≤ 1
    · match D, hl with
      | [x], _ =>
        have : m = 0 := by simp at hmlt; omega
        subst this
        simp at hm
        simp [path_small, mth_singleton, hm]
    · have h2 : 2 ≤ D.length := by omega
      have hs := splitPoint_spec D.length h2
      simp only [hl, ↓reduceIte]
      by_cases hk : m < splitPoint D.length
      · rw [path_left node empty m D h2 hk]
        simp only [List.getLast?_append, List.getLast?_singleton, Option.some_or, List.dropLast_concat, hk, ↓reduceIte]
        have hlen : (D.take (splitPoint D.length)).length = splitPoint D.length := by
          rw [List.length_take]; omega
        have := ih (D.take (splitPoint D.length)) m h (by omega) (by rw [List.getElem?_take, if_pos hk]; exact hm)
        rw [hlen] at this
        rw [this, mth_split node empty D h2]
        rfl
      · rw [path_right node empty m D h2 hk]
        simp only [List.getLast?_append, List.getLast?_singleton, Option.some_or, List.dropLast_concat, hk, ↓reduceIte]
        have hlen : (D.drop (splitPoint D.length)).length = D.length - splitPoint D.length := List.length_drop
        have e : splitPoint D.length + (m - splitPoint D.length) = m := by omega
        have := ih (D.drop (splitPoint D.length)) (m - splitPoint D.length) h (by omega)
          (by rw [List.getElem?_drop, e]; exact hm)
        rw [hlen] at this
        rw [this, mth_split node empty D h2]
        rfl

/-- ★ the RFC 6962 audit path of leaf `m` is accepted against the RFC 6962 root -/
theorem acceptIncl_path [DecidableEq H] (D : List H) (m : Nat) (hm : m < D.length) :
    AcceptIncl node (path node empty m D) D.length m D[m] (mth node empty D) :=
  ⟨hm, inclRootF_path node empty D.length D m D[m] (Nat.le_refl _) (List.getElem?_eq_getElem hm)⟩

theorem consRootsF_false_old : ∀ f (p : List H) n m old old',
    consRootsF node f p n m false old = consRootsF node f p n m false old' := by
  intro f
  induction f with
  | zero => intros; rfl
  | succ f ih =>
    intro p n m old old'
    unfold consRootsF
    simp only [Bool.false_eq_true, ↓reduceIte]
    rw [ih p.dropLast (splitPoint n) m old old', ih p.dropLast (n - splitPoint n) (m - splitPoint n) old old']

theorem consRootsF_subProof : ∀ f (D : List H) m b, D.length ≤ f → 1 ≤ m → m ≤ D.length →
    consRootsF node f (subProof node empty m D b) D.length m b (mth node empty (D.take m)) =
      some (mth node empty (D.take m), mth node empty D) := by
  intro f
  induction f with
  | zero => intro D m b h h1 h2; omega
  | succ f ih =>
    intro D m b hf h1 h2
    unfold consRootsF
    by_cases hm : m = D.length
    · subst hm
      rw [subProof_full]
      cases b <;> simp
    · have hl : 2 ≤ D.length := by omega
      have hs := splitPoint_spec D.length hl
      simp only [hm, ↓reduceIte]
      by_cases hk : m ≤ splitPoint D.length
      · rw [subProof_left node empty m D b hl h1 hm hk]
        simp only [List.getLast?_append, List.getLast?_singleton, Option.some_or, List.dropLast_concat, hk, ↓reduceIte]
        have hlen : (D.take (splitPoint D.length)).length = splitPoint D.length := by
          rw [List.length_take]; omega
        have := ih (D.take (splitPoint D.length)) m b (by omega) h1 (by omega)
        rw [hlen, List.take_take, Nat.min_eq_left hk] at this
        rw [this, mth_split node empty D hl]
        rfl
      · rw [subProof_right node empty m D b hl h2 hm hk]
        simp only [List.getLast?_append, List.getLast?_singleton, Option.some_or, List.dropLast_concat, hk, ↓reduceIte]
        have hlen : (D.drop (splitPoint D.length)).length = D.length - splitPoint D.length := List.length_drop
        have := ih (D.drop (splitPoint D.length)) (m - splitPoint D.length) false (by omega) (by omega) (by omega)
        rw [hlen] at this
        have hold := mth_take_split node empty D m (by omega) h2
        rw [consRootsF_false_old node f _ _ _ _ (mth node empty ((D.drop (splitPoint D.length)).take (m - splitPoint D.length))),
          this, hold, mth_split node empty D hl]
        rfl

theorem inclRootF_sound (hinj : NodeInj node) : ∀ f (D : List H) p m h, D.length ≤ f → m < D.length →
    inclRootF node f p D.length m h = some (mth node empty D) →
    D[m]? = some h ∧ p = path node empty m D := by
  intro f
  induction f with
  | zero => intro D p m h hf hm; omega
  | succ f ih =>
    intro D p m h hf hm hacc
    unfold inclRootF at hacc
    by_cases hl : D.length ≤ 1
    · match D, hl with
      | [x], _ =>
        have : m = 0 := by simp at hm; omega
        subst this
        simp only [List.length_cons, List.length_nil, Nat.zero_add, Nat.le_refl, ↓reduceIte, mth_singleton] at hacc
        cases p with
        | nil => simp at hacc; simp [hacc, path_small]
        | cons a as => simp at hacc
    · have h2 : 2 ≤ D.length := by omega
      have hs := splitPoint_spec D.length h2
      simp only [hl, ↓reduceIte] at hacc
      cases hp : p.getLast? with
      | none => rw [hp] at hacc; cases hacc
      | some last =>
        rw [hp] at hacc
        simp only [] at hacc
        have hpe := eq_dropLast_append_of_getLast? hp
        rw [mth_split node empty D h2] at hacc
        by_cases hk : m < splitPoint D.length
        · simp only [hk, ↓reduceIte] at hacc
          cases hr : inclRootF node f p.dropLast (splitPoint D.length) m h with
          | none => rw [hr] at hacc; cases hacc
          | some r =>
            rw [hr] at hacc
            -- the accepted root and the true root are both `node _ _`: collision freedom splits the equation into the
            -- half the recursion recomputed (induction hypothesis) and the sibling, which must be the last proof hash
            have := hinj _ _ _ _ (Option.some.inj hacc)
            obtain ⟨e1, e2⟩ := this
            have hlen : (D.take (splitPoint D.length)).length = splitPoint D.length := by
              rw [List.length_take]; omega
            have := ih (D.take (splitPoint D.length)) p.dropLast m h (by omega) (by omega) (by rw [hlen, hr, e1])
            rw [List.getElem?_take, if_pos hk] at this
            refine ⟨this.1, ?_⟩
            rw [path_left node empty m D h2 hk, ← this.2, ← e2]
            exact hpe
        · simp only [hk, ↓reduceIte] at hacc
          cases hr : inclRootF node f p.dropLast (D.length - splitPoint D.length) (m - splitPoint D.length) h with
          | none => rw [hr] at hacc; cases hacc
          | some r =>
            rw [hr] at hacc
            have := hinj _ _ _ _ (Option.some.inj hacc)
            obtain ⟨e1, e2⟩ := this
            have hlen : (D.drop (splitPoint D.length)).length = D.length - splitPoint D.length := List.length_drop
            have := ih (D.drop (splitPoint D.length)) p.dropLast (m - splitPoint D.length) h (by omega) (by omega)
              (by rw [hlen, hr, e2])
            have e : splitPoint D.length + (m - splitPoint D.length) = m := by omega
            rw [List.getElem?_drop, e] at this
            refine ⟨this.1, ?_⟩
            rw [path_right node empty m D h2 hk, ← this.2, ← e1]
            exact hpe

/-- ★ soundness of inclusion proofs: a tuple accepted against the TRUE root carries the true leaf hash
    and exactly the RFC 6962 audit path.  Only collision freedom of the interior-node hash is needed
    (sizes and index are part of the tuple, so a leaf can never be confused with an interior node). -/
theorem sound_incl [DecidableEq H] (hinj : NodeInj node) (D : List H) (p : List H) (n : Nat) (h : H)
    (hacc : AcceptIncl node p D.length n h (mth node empty D)) :
    D[n]? = some h ∧ p = path node empty n D :=
  inclRootF_sound node empty hinj D.length D p n h (Nat.le_refl _) hacc.1 hacc.2

theorem consRootsF_sound (hinj : NodeInj node) : ∀ f (D : List H) p m b old o, D.length ≤ f → 1 ≤ m → m ≤ D.length →
    consRootsF node f p D.length m b old = some (o, mth node empty D) →
    o = mth node empty (D.take m) ∧ p = subProof node empty m D b := by
  intro f
  induction f with
  | zero => intro D p m b old o hf h1 h2; omega
  | succ f ih =>
    intro D p m b old o hf h1 h2 hacc
    unfold consRootsF at hacc
    by_cases hm : m = D.length
    · subst hm
      simp only [↓reduceIte] at hacc
      rw [subProof_full, List.take_length]
      cases b with
      | true =>
        simp only [↓reduceIte] at hacc
        cases p with
        | nil => simp at hacc; simp [← hacc.1, hacc.2]
        | cons a as => simp at hacc
      | false =>
        simp only [Bool.false_eq_true, ↓reduceIte] at hacc
        match p, hacc with
        | [x], hacc =>
          simp at hacc
          simp [← hacc.1, hacc.2]
    · have hl : 2 ≤ D.length := by omega
      have hs := splitPoint_spec D.length hl
      simp only [hm, ↓reduceIte] at hacc
      cases hp : p.getLast? with
      | none => rw [hp] at hacc; cases hacc
      | some last =>
        rw [hp] at hacc
        simp only [] at hacc
        have hpe := eq_dropLast_append_of_getLast? hp
        rw [mth_split node empty D hl] at hacc
        by_cases hk : m ≤ splitPoint D.length
        · simp only [hk, ↓reduceIte] at hacc
          cases hr : consRootsF node f p.dropLast (splitPoint D.length) m b old with
          | none => rw [hr] at hacc; cases hacc
          | some r =>
            obtain ⟨o', t'⟩ := r
            rw [hr] at hacc
            simp only [Option.map_some, Option.some.injEq, Prod.mk.injEq] at hacc
            obtain ⟨eo, et⟩ := hacc
            -- both sides are `node _ _`: collision freedom gives the recomputed half (induction) and forces the proof's last hash
            obtain ⟨e1, e2⟩ := hinj _ _ _ _ et
            have hlen : (D.take (splitPoint D.length)).length = splitPoint D.length := by
              rw [List.length_take]; omega
            have := ih (D.take (splitPoint D.length)) p.dropLast m b old o' (by omega) h1 (by omega)
              (by rw [hlen, hr, e1])
            rw [List.take_take, Nat.min_eq_left hk] at this
            refine ⟨by rw [← eo]; exact this.1, ?_⟩
            rw [subProof_left node empty m D b hl h1 hm hk, ← this.2, ← e2]
            exact hpe
        · simp only [hk, ↓reduceIte] at hacc
          cases hr : consRootsF node f p.dropLast (D.length - splitPoint D.length) (m - splitPoint D.length) false old with
          | none => rw [hr] at hacc; cases hacc
          | some r =>
            obtain ⟨o', t'⟩ := r
            rw [hr] at hacc
            simp only [Option.map_some, Option.some.injEq, Prod.mk.injEq] at hacc
            obtain ⟨eo, et⟩ := hacc
            obtain ⟨e1, e2⟩ := hinj _ _ _ _ et
            have hlen : (D.drop (splitPoint D.length)).length = D.length - splitPoint D.length := List.length_drop
            have := ih (D.drop (splitPoint D.length)) p.dropLast (m - splitPoint D.length) false old o' (by omega)
              (by omega) (by omega) (by rw [hlen, hr, e2])
            have hold := mth_take_split node empty D m (by omega) h2
            refine ⟨by rw [← eo, hold, e1, this.1], ?_⟩
            rw [subProof_right node empty m D b hl h2 hm hk, ← this.2, ← e1]
            exact hpe

/-- ★ soundness of consistency proofs: a tuple accepted against the TRUE new root carries the true old
    root `MTH(D[0:n])` and exactly the RFC 6962 consistency proof. -/
theorem sound_cons [DecidableEq H] (hinj : NodeInj node) (D : List H) (p : List H) (n : Nat) (h : H)
    (hacc : AcceptCons node p D.length n h (mth node empty D)) :
    h = mth node empty (D.take n) ∧ p = proof node empty n D :=
  consRootsF_sound node empty hinj D.length D p n true h h (Nat.le_refl _) hacc.1 hacc.2.1 hacc.2.2

/-- ★ the RFC 6962 consistency proof is accepted against the two RFC 6962 roots -/
theorem acceptCons_proof [DecidableEq H] (D : List H) (n : Nat) (h1 : 1 ≤ n) (h2 : n ≤ D.length) :
    AcceptCons node (proof node empty n D) D.length n (mth node empty (D.take n)) (mth node empty D) :=
  ⟨h1, h2, consRootsF_subProof node empty D.length D n true (Nat.le_refl _) h1 h2⟩

theorem acceptIncl_iff [DecidableEq H] (hinj : NodeInj node) (D : List H) (p : List H) (n : Nat) (h : H) :
    AcceptIncl node p D.length n h (mth node empty D) ↔ D[n]? = some h ∧ p = path node empty n D := by
  constructor
  · exact sound_incl node empty hinj D p n h
  · rintro ⟨h1, rfl⟩
    have hn : n < D.length := by
      rcases Nat.lt_or_ge n D.length with h' | h'
      · exact h'
      · rw [List.getElem?_eq_none h'] at h1; cases h1
    have := acceptIncl_path node empty D n hn
    rw [List.getElem?_eq_getElem hn] at h1
    rw [← Option.some.inj h1]; exact this

theorem acceptCons_iff [DecidableEq H] (hinj : NodeInj node) (D : List H) (p : List H) (n : Nat) (h : H) :
    AcceptCons node p D.length n h (mth node empty D) ↔
      1 ≤ n ∧ n ≤ D.length ∧ h = mth node empty (D.take n) ∧ p = proof node empty n D := by
  constructor
  · intro hacc
    exact ⟨hacc.1, hacc.2.1, sound_cons node empty hinj D p n h hacc⟩
  · rintro ⟨h1, h2, rfl, rfl⟩
    exact acceptCons_proof node empty D n h1 h2

end
end ModVerif.RFC6962
