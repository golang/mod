/-
  Trees modulo positions, the shape of the trees the parser produces, and the
  token stream of a tree.

  * `eraseFile` & co. — forget positions and line identities (the `≈` of DESIGN §6 C02 compares erased trees);
    `normFile` additionally replaces every comment text by its `TrimSpace` (what the printer writes).
  * `WFStmts` — the shape invariant of the statement list `parseFile` returns for an input without
    end-of-line comments: token texts are `TokOK`, a top-level line does not end in `(` or `( )` in a
    scanning position, an in-block line does not start with `)`, blank-line placeholders inside blocks
    obey the parser's rule (none at the start of a block, no two in a row), whole-line comments are
    `//` texts, and no `suffix`/`after` list is populated.
  * `fileToks` — the token stream the formatted text of such a tree lexes to.
-/
import ModVerif.Model.Modfile.Comments
import ModVerif.Proofs.ModfileFmtStream
namespace ModVerif.Proofs.ModfileFmtTree
open ModVerif ModVerif.Modfile
open ModVerif.Proofs.ModfileFmtLex ModVerif.Proofs.ModfileFmtLine ModVerif.Proofs.ModfileFmtStream

/-! ### erasing positions and identities -/

def eraseC (c : Comment) : Comment := { c with start := {} }

def eraseCs (cs : Comments) : Comments :=
  { before := cs.before.map eraseC, suffix := cs.suffix.map eraseC, after := cs.after.map eraseC }

def eraseLine (l : Line) : Line :=
  { id := 0, comments := eraseCs l.comments, start := {}, token := l.token, inBlock := l.inBlock, «end» := {} }

def eraseBlock (b : LineBlock) : LineBlock :=
  { comments := eraseCs b.comments, start := {}, lparen := { comments := eraseCs b.lparen.comments, pos := {} },
    token := b.token, lines := b.lines.map eraseLine,
    rparen := { comments := eraseCs b.rparen.comments, pos := {} } }

def eraseExpr : Expr → Expr
  | .commentBlock x => .commentBlock { comments := eraseCs x.comments, start := {} }
  | .line l => .line (eraseLine l)
  | .lineBlock b => .lineBlock (eraseBlock b)
  | .lparen x => .lparen { comments := eraseCs x.comments, pos := {} }
  | .rparen x => .rparen { comments := eraseCs x.comments, pos := {} }

def eraseFile (f : FileSyntax) : FileSyntax :=
  { name := f.name, comments := eraseCs f.comments, stmts := f.stmts.map eraseExpr }

/-! ### normalising: erase, and trim every comment text as the printer does -/

def normC (c : Comment) : Comment := { start := {}, token := GoStrings.trimSpace c.token, suffix := c.suffix }

def normCs (cs : Comments) : Comments :=
  { before := cs.before.map normC, suffix := cs.suffix.map normC, after := cs.after.map normC }

def normLine (l : Line) : Line :=
  { id := 0, comments := normCs l.comments, start := {}, token := l.token, inBlock := l.inBlock, «end» := {} }

def normBlock (b : LineBlock) : LineBlock :=
  { comments := normCs b.comments, start := {}, lparen := { comments := normCs b.lparen.comments, pos := {} },
    token := b.token, lines := b.lines.map normLine,
    rparen := { comments := normCs b.rparen.comments, pos := {} } }

def normExpr : Expr → Expr
  | .commentBlock x => .commentBlock { comments := normCs x.comments, start := {} }
  | .line l => .line (normLine l)
  | .lineBlock b => .lineBlock (normBlock b)
  | .lparen x => .lparen { comments := normCs x.comments, pos := {} }
  | .rparen x => .rparen { comments := normCs x.comments, pos := {} }

def normFile (f : FileSyntax) : FileSyntax :=
  { name := f.name, comments := normCs f.comments, stmts := f.stmts.map normExpr }

/-! ### the shape of parsed trees (inputs without end-of-line comments) -/

/-- the tokens of a top-level line after the first one never make `parseStmt` start a block: no `(`
    and no `( )` at the end, seen in scanning order -/
def lineTailOK : List Bytes → Bool
  | [] => true
  | t :: r =>
    if t == [40] then
      match r with
      | [] => false
      | t2 :: r2 => if t2 == [41] then !r2.isEmpty && lineTailOK r2 else lineTailOK (t2 :: r2)
    else lineTailOK r

/-- whole-line comments in front of a top-level statement -/
def TopBeforeOK (cs : List Comment) : Prop := ∀ c ∈ cs, c.suffix = false ∧ CommentOK c.token

/-- comments and blank-line placeholders in front of a block line or `)`; `allow` = a placeholder may
    come next (the parser drops a blank line at the start of a block and after another blank line) -/
def BlkBeforeOK : Bool → List Comment → Prop
  | _, [] => True
  | allow, c :: cs =>
    if c.token.isEmpty then allow = true ∧ c.suffix = false ∧ BlkBeforeOK false cs
    else c.suffix = false ∧ CommentOK c.token ∧ BlkBeforeOK true cs

structure WFLine (l : Line) : Prop where
  ne : l.token ≠ []
  tok : ∀ t ∈ l.token, TokText t
  tail : lineTailOK l.token.tail = true
  before : TopBeforeOK l.comments.before
  suffix : l.comments.suffix = []
  after : l.comments.after = []
  inBlock : l.inBlock = false

structure WFBlkLine (allow : Bool) (l : Line) : Prop where
  ne : l.token ≠ []
  tok : ∀ t ∈ l.token, TokText t
  first : l.token.head? ≠ some [41]
  before : BlkBeforeOK allow l.comments.before
  suffix : l.comments.suffix = []
  after : l.comments.after = []
  inBlock : l.inBlock = true

def WFBlkLines : Bool → List Line → Prop
  | _, [] => True
  | allow, l :: ls => WFBlkLine allow l ∧ WFBlkLines true ls

structure WFBlock (b : LineBlock) : Prop where
  ne : b.token ≠ []
  tok : ∀ t ∈ b.token, TokText t
  before : TopBeforeOK b.comments.before
  suffix : b.comments.suffix = []
  after : b.comments.after = []
  lparen : b.lparen.comments = {}
  lines : WFBlkLines false b.lines
  rbefore : BlkBeforeOK (!b.lines.isEmpty) b.rparen.comments.before
  rsuffix : b.rparen.comments.suffix = []
  rafter : b.rparen.comments.after = []

def WFStmt : Expr → Prop
  | .commentBlock x => x.comments.before ≠ [] ∧ TopBeforeOK x.comments.before ∧
      x.comments.suffix = [] ∧ x.comments.after = []
  | .line l => WFLine l
  | .lineBlock b => WFBlock b
  | _ => False

def WFStmts (stmts : List Expr) : Prop := ∀ s ∈ stmts, WFStmt s

/-! ### the token stream of a tree -/

def lp : Tk := (.punct 40, [40])
def rp : Tk := (.punct 41, [41])

def topBeforeToks (cs : List Comment) : List Tk := cs.map fun c => (TokKind.comment, c.token)

def blkBeforeToks (cs : List Comment) : List Tk :=
  cs.map fun c => if c.token.isEmpty then nl else (TokKind.comment, c.token)

def blkLineToks (l : Line) : List Tk := blkBeforeToks l.comments.before ++ l.token.map tk ++ [nl]

def stmtToks : Expr → List Tk
  | .commentBlock x => topBeforeToks x.comments.before
  | .line l => topBeforeToks l.comments.before ++ l.token.map tk ++ [nl]
  | .lineBlock b => topBeforeToks b.comments.before ++ b.token.map tk ++ [lp, nl] ++
      b.lines.flatMap blkLineToks ++ blkBeforeToks b.rparen.comments.before ++ [rp, nl]
  | _ => []

def stmtsToks : List Expr → List Tk
  | [] => []
  | [s] => stmtToks s
  | s :: rest => stmtToks s ++ nl :: stmtsToks rest

def fileToks (stmts : List Expr) : List Tk := stmtsToks stmts ++ [eofTk]

end ModVerif.Proofs.ModfileFmtTree
