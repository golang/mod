/-
  No Go panic: on a state satisfying the tree invariant every go.mod operation other than the
  two bulk requirement setters either succeeds or returns one of the three documented errors (`applyMod_noPanic`, for
  every view of the requirement lines: only `LivePos` is used).
-/
import ModVerif.Proofs.EditRefineInvRun
namespace ModVerif.Modfile.Edit
open ModVerif ModVerif.Modfile

section total
variable {α : Type} (m : α → Bool) (id : α → Nat) (upd : α → α) (cleared : α)

theorem firstRest_total (l : List α) (h : ∀ x ∈ l, m x = true → id x ≠ 0) :
    ∀ need, ∃ r, firstRest m id upd cleared l need = .ok r := by
  intro need
  cases need with
  | true => exact ⟨_, (firstRest_eq m id upd cleared l).trans (if_pos (show NoNil m id l from h))⟩
  | false => rw [firstRest_false, clearAll_eq, if_pos (show NoNil m id l from h)]; exact ⟨_, rfl⟩

theorem clearAll_total (l : List α) (h : ∀ x ∈ l, m x = true → id x ≠ 0) : ∃ r, clearAll m id cleared l = .ok r :=
  ⟨_, (clearAll_eq m id cleared l).trans (if_pos (show NoNil m id l from h))⟩

end total

theorem InvR.entry_id_pos {V : RqView} {e : EFile} (hi : InvR V e) : ∀ en ∈ entriesR V e.f, en.id ≠ 0 := by
  intro en hen
  rcases hi.mtch.cover en hen with ⟨v, hv, hid, _⟩
  rw [← hid]; exact hi.tree.pos _ (view_id_mem_treeIds hv)

theorem InvR.godebug_pos {V : RqView} {e : EFile} (hi : InvR V e) : ∀ x ∈ e.f.godebug, liveG x = true → x.lineId ≠ 0 := fun x hx hl =>
  hi.entry_id_pos (entG x) (by rw [entriesR_godebug]; exact List.mem_append_right _ (List.mem_append_left _ ((mem_entsOf liveG entG).2 ⟨x, hx, hl, rfl⟩)))
theorem InvR.require_pos {V : RqView} {e : EFile} (hi : InvR V e) : ∀ x ∈ e.f.require, liveRq x = true → x.lineId ≠ 0 := fun x hx hl =>
  hi.entry_id_pos (V.rq x) (by rw [entriesR_require]; exact List.mem_append_right _ (List.mem_append_left _ ((mem_entsOf liveRq V.rq).2 ⟨x, hx, hl, rfl⟩)))
theorem InvR.exclude_pos {V : RqView} {e : EFile} (hi : InvR V e) : ∀ x ∈ e.f.exclude, liveX x = true → x.lineId ≠ 0 := fun x hx hl =>
  hi.entry_id_pos (entX x) (by rw [entriesR_exclude]; exact List.mem_append_right _ (List.mem_append_left _ ((mem_entsOf liveX entX).2 ⟨x, hx, hl, rfl⟩)))
theorem InvR.replace_pos {V : RqView} {e : EFile} (hi : InvR V e) : ∀ x ∈ e.f.replace, liveRp x = true → x.lineId ≠ 0 := fun x hx hl =>
  hi.entry_id_pos (entRp x) (by rw [entriesR_replace]; exact List.mem_append_right _ (List.mem_append_left _ ((mem_entsOf liveRp entRp).2 ⟨x, hx, hl, rfl⟩)))
theorem InvR.retract_pos {V : RqView} {e : EFile} (hi : InvR V e) : ∀ x ∈ e.f.retract, liveRt x = true → x.lineId ≠ 0 := fun x hx hl =>
  hi.entry_id_pos (entRt x) (by rw [entriesR_retract]; exact List.mem_append_right _ (List.mem_append_left _ ((mem_entsOf liveRt entRt).2 ⟨x, hx, hl, rfl⟩)))
theorem InvR.tool_pos {V : RqView} {e : EFile} (hi : InvR V e) : ∀ x ∈ e.f.tool, liveT x = true → x.lineId ≠ 0 := fun x hx hl =>
  hi.entry_id_pos (entT x) (by rw [entriesR_tool]; exact List.mem_append_right _ (List.mem_append_left _ ((mem_entsOf liveT entT).2 ⟨x, hx, hl, rfl⟩)))

/-- the live entries of the typed lists have a line: what keeps the loops from dereferencing a nil `Syntax` -/
structure LivePos (e : EFile) : Prop where
  godebug : ∀ x ∈ e.f.godebug, liveG x = true → x.lineId ≠ 0
  require : ∀ x ∈ e.f.require, liveRq x = true → x.lineId ≠ 0
  exclude : ∀ x ∈ e.f.exclude, liveX x = true → x.lineId ≠ 0
  replace : ∀ x ∈ e.f.replace, liveRp x = true → x.lineId ≠ 0
  retract : ∀ x ∈ e.f.retract, liveRt x = true → x.lineId ≠ 0
  tool : ∀ x ∈ e.f.tool, liveT x = true → x.lineId ≠ 0

theorem InvR.livePos {V : RqView} {e : EFile} (hi : InvR V e) : LivePos e :=
  ⟨hi.godebug_pos, hi.require_pos, hi.exclude_pos, hi.replace_pos, hi.retract_pos, hi.tool_pos⟩

theorem applyMod_noPanic_live (e : EFile) (op : Op) (hv : ValidArgsT op) (hp : LivePos e)
    (hmod : ∀ a b, op ≠ .addUse a b) (hmod2 : ∀ a b, op ≠ .addNewUse a b) (hmod3 : ∀ a, op ≠ .dropUse a)
    (hmod4 : ∀ a b, op ≠ .setUse a b) : NoPanic (applyMod e op) := by
  cases op with
  | addModule p => exact NoPanic.ok _
  | addGo v =>
    simp only [applyMod, addGoStmt]
    split
    · exact NoPanic.returned rfl
    · split <;> exact NoPanic.ok _
  | dropGo => exact NoPanic.ok _
  | addToolchain n =>
    simp only [applyMod, addToolchainStmt]
    split
    · exact NoPanic.returned rfl
    · split <;> exact NoPanic.ok _
  | dropToolchain => exact NoPanic.ok _
  | addGodebug k v =>
    simp only [applyMod, addGodebug_eq]
    exact NoPanic.ite fun x hx hm => hp.godebug x hx (ne_nil_of_beq hv hm)
  | dropGodebug k =>
    simp only [applyMod, dropGodebug_eq]
    exact NoPanic.ite fun x hx hm => hp.godebug x hx (ne_nil_of_beq hv hm)
  | addRequire p v =>
    simp only [applyMod, addRequire_eq]
    exact NoPanic.ite fun x hx hm => hp.require x hx (ne_nil_of_beq hv hm)
  | addNewRequire p v i => exact NoPanic.ok _
  | dropRequire p =>
    simp only [applyMod, dropRequire_eq]
    exact NoPanic.ite fun x hx hm => hp.require x hx (ne_nil_of_beq hv hm)
  | setRequire w r => exact absurd hv (by simp [ValidArgsT])
  | setRequireSeparateIndirect w r => exact absurd hv (by simp [ValidArgsT])
  | addExclude p v =>
    simp only [applyMod, addExclude]
    split
    · exact NoPanic.returned rfl
    · split <;> exact NoPanic.ok _
  | dropExclude p v =>
    simp only [applyMod, dropExclude_eq]
    exact NoPanic.ite fun x hx hm => hp.exclude x hx (by simp only [Bool.and_eq_true] at hm; exact ne_nil_of_beq hv hm.1)
  | addReplace a b c d =>
    simp only [applyMod, addReplace_eq]
    exact NoPanic.ite fun x hx hm => hp.replace x hx (replaceMatch_live hv x hm)
  | dropReplace a b =>
    simp only [applyMod, dropReplace_eq]
    exact NoPanic.ite fun x hx hm => hp.replace x hx (by simp only [Bool.and_eq_true] at hm; exact ne_nil_of_beq hv hm.1)
  | addRetract lo hi' why =>
    simp only [applyMod]
    rw [addRetract_eq]
    unfold addRetractP
    split
    · exact NoPanic.returned rfl
    · split
      · exact NoPanic.returned rfl
      · exact NoPanic.ok _
  | dropRetract lo hi' =>
    simp only [applyMod, dropRetract_eq]
    exact NoPanic.ite fun x hx hm => hp.retract x hx (liveRt_of_ne (by rw [eq_of_beq hm]; exact hv))
  | addTool p => exact NoPanic.ok _
  | dropTool p =>
    simp only [applyMod, dropTool_eq]
    exact NoPanic.ite fun x hx hm => hp.tool x hx (ne_nil_of_beq hv hm)
  | sortBlocks => exact NoPanic.ok _
  | cleanup => exact NoPanic.ok _
  | addUse d m => exact absurd rfl (hmod d m)
  | addNewUse d m => exact absurd rfl (hmod2 d m)
  | dropUse d => exact absurd rfl (hmod3 d)
  | setUse w rev => exact absurd rfl (hmod4 w rev)

def IsModOp : Op → Prop
  | .addUse _ _ => False
  | .addNewUse _ _ => False
  | .dropUse _ => False
  | .setUse _ _ => False
  | _ => True

/-- **no panic**: every operation covered by the tree-level theorem terminates normally on a state satisfying the
    invariant, whatever the view -/
theorem applyMod_noPanic {V : RqView} (e : EFile) (op : Op) (hv : ValidArgsT op) (hm : IsModOp op) (hi : InvR V e) :
    NoPanic (applyMod e op) := by
  apply applyMod_noPanic_live e op hv hi.livePos <;> intros <;> intro h <;> subst h <;> exact hm

theorem Inv.require_pos {e : EFile} (hi : Inv e) : ∀ x ∈ e.f.require, liveRq x = true → x.lineId ≠ 0 := hi.r.require_pos

end ModVerif.Modfile.Edit
