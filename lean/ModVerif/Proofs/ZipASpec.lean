/-
  C17: the documented classification rules of the file check as a specification (`ZipSpec.classify`),
  independent of the control flow of `checkFiles` (no error-path de-duplication, no two passes, the
  collision check over the list of parent directories instead of a fuel-bounded recursion).
  The definitions extend the vocabulary of `Spec/ZipSpec.lean`; the proofs about them are in `ZipAClassify.lean`.
-/
import ModVerif.Spec.ZipSpec
namespace ModVerif.ZipSpec
open ModVerif ModVerif.PathClean ModVerif.Zip

inductive Class where
  | valid
  | omitted (r : Reason)
  | invalid (r : Reason)
  deriving DecidableEq, Repr

/-- a `go.mod` (in any case, in any directory) that cannot be examined: reported first -/
def goModUnreadable (f : FileInfo) : Bool := equalFoldGoMod (pathSplit f.path).2 && f.mode == .lstatErr

instance (files : List FileInfo) (d : Bytes) : Decidable (IsModuleDir files d) := by
  unfold IsModuleDir; infer_instance

def BelowModuleRoot (files : List FileInfo) (p : Bytes) : Prop := ∃ d ∈ dirPrefixes p, IsModuleDir files d

instance (files : List FileInfo) (p : Bytes) : Decidable (BelowModuleRoot files p) := by
  unfold BelowModuleRoot; infer_instance

/-- The rules that look at the file alone (and at the module roots of the whole list), in the documented
    order; `none` = the file goes on to the collision check. -/
def earlyRule (E : Env) (ge124 : Bool) (files : List FileInfo) (f : FileInfo) : Option Class :=
  if goModUnreadable f = true then some (.invalid .lstat)
  else if pathClean f.path ≠ f.path then some (.invalid .notClean)
  else if isAbs f.path = true then some (.invalid .notRelative)
  else if isVendoredPackage f.path ge124 = true then some (.omitted .vendored)
  else if BelowModuleRoot files f.path then some (.omitted .submoduleFile)
  else if f.path = hgArchivalName then some (.omitted .hgArchival)
  else if E.cfp f.path = false then some (.invalid .filePath)
  else if lowerAscii f.path = goModName ∧ f.path ≠ goModName then some (.invalid .goModCase)
  else if f.mode = .lstatErr then some (.invalid .lstat)
  else none

/-- registered paths, oldest first: `(path, isDir)` -/
abbrev Reg := List (Bytes × Bool)

/-- the parent directories of a path, nearest first: its proper prefixes that end before a slash -/
def parents (p : Bytes) : List Bytes := ((dirPrefixes p).map List.dropLast).reverse

def Reg.lookup (toFold : Bytes → Bytes) (reg : Reg) (q : Bytes) : Option (Bytes × Bool) :=
  reg.find? (fun e => toFold e.1 == toFold q)

def clash (toFold : Bytes → Bytes) (reg : Reg) (q : Bytes) (d : Bool) : Option Reason :=
  match reg.lookup toFold q with
  | none => none
  | some (q', d') =>
    if q ≠ q' then some .caseCollision
    else if d ≠ d' then some .fileAndDir
    else if d = false then some .multiple
    else none

def register (toFold : Bytes → Bytes) (reg : Reg) (q : Bytes) (d : Bool) : Reg :=
  if (reg.lookup toFold q).isSome then reg else reg ++ [(q, d)]

def regChain (toFold : Bytes → Bytes) : Reg → List (Bytes × Bool) → Reg × Option Reason
  | reg, [] => (reg, none)
  | reg, (q, d) :: rest =>
    match clash toFold reg q d with
    | some r => (reg, some r)
    | none => regChain toFold (register toFold reg q d) rest

def collide (toFold : Bytes → Bytes) (reg : Reg) (p : Bytes) (isDir : Bool) : Reg × Option Reason :=
  regChain toFold reg ((p, isDir) :: (parents p).map (fun q => (q, true)))

def lateRule (f : FileInfo) : Class :=
  if f.mode = .symlink then .omitted .symlink
  else if f.mode ≠ .regular then .omitted .notRegular
  else if f.path = goModName ∧ f.size > MaxGoMod then .invalid .goModSize
  else if f.path = licenseName ∧ f.size > MaxLICENSE then .invalid .licenseSize
  else .valid

/-- the file being checked is the one blamed for a collision, also when the clash is between one of its parent directories
    and an earlier file -/
def classifyStep (E : Env) (ge124 : Bool) (files : List FileInfo) (reg : Reg) (f : FileInfo) : Reg × Class :=
  match earlyRule E ge124 files f with
  | some c => (reg, c)
  | none =>
    match collide E.toFold reg f.path (f.mode == .dir) with
    | (reg', some r) => (reg', .invalid r)
    | (reg', none) => (reg', lateRule f)

def registryAfter (E : Env) (ge124 : Bool) (files : List FileInfo) (pre : List FileInfo) : Reg :=
  pre.foldl (fun reg f => (classifyStep E ge124 files reg f).1) []

def classify (E : Env) (ge124 : Bool) (files pre : List FileInfo) (f : FileInfo) : Class :=
  (classifyStep E ge124 files (registryAfter E ge124 files pre) f).2

def classifyFrom (E : Env) (ge124 : Bool) (files : List FileInfo) : Reg → List FileInfo → List (FileInfo × Class)
  | _, [] => []
  | reg, f :: t =>
    (f, (classifyStep E ge124 files reg f).2) :: classifyFrom E ge124 files (classifyStep E ge124 files reg f).1 t

def classifyAll (E : Env) (ge124 : Bool) (files : List FileInfo) : List (FileInfo × Class) :=
  classifyFrom E ge124 files [] files

/-- the classes of the files that reach the size rules (their size counts towards the total) -/
def Class.sized : Class → Bool
  | .valid => true
  | .invalid .goModSize => true
  | .invalid .licenseSize => true
  | _ => false

def sizedSizes (cl : List (FileInfo × Class)) : List Int := (cl.filter (fun x => x.2.sized)).map (fun x => x.1.size)

end ModVerif.ZipSpec
