/-
  Helper lemmas for Tie/FnEditStmt.lean: the tool operations of the regenerated go.mod edit operations
  (Generated/FnEdit.lean): File_DropTool (+ loop 1) against `Modfile.Edit.dropTool` (`clearAll`), File_AddTool (+ loop 1)
  against `Modfile.Edit.addTool`; the final `File_SortBlocks` of AddTool is a hypothesis (`SortSpec`).
-/
import ModVerif.Proofs.TieFnEditStmtB
namespace ModVerif.Tie.FnEditStmtC
open ModVerif ModVerif.GoRt ModVerif.Generated.Edit ModVerif.Tie.FnEditRep ModVerif.Tie.FnEditTreeA ModVerif.Tie.FnEditStmtA
open ModVerif.Tie.FnEditStmtB ModVerif.Tie.FnEditTyped
open ModVerif.TieFnEditAddLine (Frame nodeCount idxL_append_mid addLine_rep)
open ModVerif.Modfile.Edit (firstRest clearAll markAll clearedTool deref nilId)

theorem DropTool_body (f : Int) (path : Bytes) (rx : List Int) (fuel : Nat) (ri : Int) (h : Heap) :
    File_DropTool_loop1 rx f path (fuel + 1) ri h =
      dropBody toolT (fun _ _ a => pure (decide (a.Path = path))) rx (File_DropTool_loop1 rx f path fuel) ri h := by
  conv => lhs; unfold File_DropTool_loop1
  rfl

theorem B_tool : B "tool" = [116, 111, 111, 108] := by decide +kernel

/-- what File.AddTool needs of `File_SortBlocks` (`FnEditSort.File_SortBlocks_sim`; `sortFuel` is its fuel bound); discharged in
    Tie/FnEditStmt.lean (`sortSpec`) -/
def SortSpec (sortFuel : Modfile.Edit.EFile → Nat) : Prop :=
  ∀ (h : Heap) (fp : Int) (e : Modfile.Edit.EFile) (fuel : Nat), RepF h fp e → sortFuel e ≤ fuel →
    ∃ h', File_SortBlocks fuel fp h = .ok ((), h') ∧ RepF h' fp (Modfile.Edit.sortBlocks e)

/-- loop 1 of File.AddTool: the search for an entry with this path (the heap is only read) -/
theorem AddTool_loop (path : Bytes) (fp : Int) (h : Heap) (nl : Nat) :
    ∀ (xs : List Modfile.Tool) (ps ppre : List Int) (mpre : List Modfile.Tool) (fuel : Nat),
      REntsL h.tools toolG (·.lineId) nl (ppre ++ ps) (mpre ++ xs) → ppre.length = mpre.length → xs.length + 1 ≤ fuel →
      File_AddTool_loop1 (ppre ++ ps) fp path h fuel ((ppre.length : Nat) : Int) =
        .ok (if xs.any (·.path == path) then Ctl.ret (none, h) else Ctl.next (((ppre ++ ps).length : Nat) : Int))
  | [], ps, ppre, mpre, fuel, r, hl, hf => by
    have hps : ps = [] := ps_of_nil r hl
    subst hps
    obtain ⟨f, rfl⟩ : ∃ f, fuel = f + 1 := ⟨fuel - 1, by omega⟩
    unfold File_AddTool_loop1
    simp only [List.append_nil, not_lt_len_self, decide_false, Bool.false_eq_true, if_false, pure, Except.pure, List.any_nil]
  | x :: xs, ps, ppre, mpre, fuel, r, hl, hf => by
    obtain ⟨p, ps', rfl⟩ : ∃ p ps', ps = p :: ps' := ps_of_cons r hl
    obtain ⟨f, rfl⟩ : ∃ f, fuel = f + 1 := ⟨fuel - 1, by omega⟩
    have hf' : xs.length + 1 ≤ f := by simp only [List.length_cons] at hf; omega
    obtain ⟨hg, _⟩ := REntsL_at r hl
    have ih := AddTool_loop path fp h nl xs ps' (ppre ++ [p]) (mpre ++ [x]) f (by simpa using r) (by simp [hl]) hf'
    conv => lhs; unfold File_AddTool_loop1
    simp only [lt_len_mid, decide_true, if_true, idxL_append_mid ppre p ps' rfl, bind, Except.bind, pure, Except.pure, hg,
      toolG_Path, List.any_cons]
    by_cases hk : x.path = path
    · simp [hk]
    · have hb : (x.path == path) = false := by simp [hk]
      simp only [hk, decide_false, Bool.false_eq_true, if_false, hb, Bool.false_or, succ_len_snoc ppre p]
      rw [show ppre ++ p :: ps' = (ppre ++ [p]) ++ ps' by simp]
      exact ih

theorem File_AddTool_present {h : Heap} {fp : Int} {e : Modfile.Edit.EFile} (R : RepF h fp e) (path : Bytes) (fuel : Nat)
    (hf1 : e.f.tool.length + 1 ≤ fuel) (hp : e.f.tool.any (·.path == path) = true) :
    File_AddTool fuel fp path h = .ok (none, h) := by
  obtain ⟨o, ho, R⟩ := R
  have hloop := AddTool_loop path fp h h.lines.length e.f.tool o.Tool [] [] fuel R.tool.rel rfl hf1
  have hloop' : File_AddTool_loop1 o.Tool fp path h fuel 0 = .ok (Ctl.ret (none, h)) := by
    simpa [hp] using hloop
  simp only [File_AddTool, ho, hloop', bind, Except.bind, pure, Except.pure]

theorem File_AddTool_new {sortFuel : Modfile.Edit.EFile → Nat} (hSort : SortSpec sortFuel)
    {h : Heap} {fp : Int} {e : Modfile.Edit.EFile} (R : RepF h fp e) (path : Bytes) (fuel : Nat)
    (hf1 : e.f.tool.length + 1 ≤ fuel) (hf2 : nodeCount e.f.syn.stmts + 3 ≤ fuel)
    (hf3 : sortFuel { f := { e.f with tool := e.f.tool ++ [{ path := path, lineId := e.next }],
                                      syn := Modfile.Edit.addLine e.f.syn none [B "tool", path] e.next }, next := e.next + 1 } ≤ fuel)
    (hp : e.f.tool.any (·.path == path) = false) :
    ∃ h', File_AddTool fuel fp path h = .ok (none, h') ∧ RepF h' fp (Modfile.Edit.addTool e path) := by
  obtain ⟨o, ho, R⟩ := R
  have hloop := AddTool_loop path fp h h.lines.length e.f.tool o.Tool [] [] fuel R.tool.rel rfl hf1
  have hloop' : File_AddTool_loop1 o.Tool fp path h fuel 0 = .ok (Ctl.next ((o.Tool.length : Nat) : Int)) := by
    simpa [hp] using hloop
  obtain ⟨h1, hrun, ho1, R3⟩ := pushNew_sim modK_ok modA_ok toolT_ok (fun _ _ _ => rfl) ho R none [116, 111, 111, 108] [path]
    { path := path, lineId := e.next } rfl fuel hf2
  rw [B_tool] at hf3
  obtain ⟨h3, hsort, R4⟩ := hSort _ fp _ fuel R3 hf3
  refine ⟨h3, ?_, ?_⟩
  · have hrun' : FileSyntax_addLine fuel o.Syntax Expr.nil [[116, 111, 111, 108], path] h = .ok (((e.next : Nat) : Int), h1) := hrun
    have ho1' : heapGet h1.mods fp = .ok o := ho1
    have hsort' : File_SortBlocks fuel fp
        { h1 with tools := h1.tools ++ [({ Path := path, Syntax := ((e.next : Nat) : Int) } : Tool)],
                  mods := h1.mods.set (fp.toNat - 1) { o with Tool := o.Tool ++ [((h1.tools.length + 1 : Nat) : Int)] } } =
        .ok ((), h3) := hsort
    simp only [File_AddTool, ho, hloop', hrun', bind, Except.bind, pure, Except.pure, heapAlloc, ho1', heapSet_of_get _ ho1', hsort']
  · simp only [Modfile.Edit.addTool, hp, Bool.false_eq_true, if_false]
    rw [B_tool]
    exact R4

end ModVerif.Tie.FnEditStmtC
