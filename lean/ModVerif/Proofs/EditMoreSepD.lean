/-
  SetRequireSeparateIndirect: the block phase yields the same lines and two different `require` blocks
  at the recorded indices (`sepStage_spec`), never hits `ensureBlock`'s panic (`sepStage_total`); `moveExisting` on the view.
-/
import ModVerif.Proofs.EditMoreSepC
namespace ModVerif.Modfile.Edit
open ModVerif ModVerif.Modfile

/-- what the block phase guarantees (it changes no line at all: `sepStage_viewX`) -/
structure SepGood (stmts : List Expr) (dI iI : Nat) (s2 : List Expr) : Prop where
  view_eq : view s2 = view stmts
  ids_eq : treeIds s2 = treeIds stmts
  shape : ShapeWF s2
  direct : BlockAt s2 dI
  indirect : BlockAt s2 iI
  ne : dI ≠ iI

theorem view2_of_eq {s1 s2 : List Expr} (h : view s1 = view s2) (h2 : View2 s2) : View2 s1 := by
  intro v hv; rw [h] at hv; exact h2 v hv

theorem sepStage_good (stmts : List Expr) (hs : ShapeWF stmts) (h2 : View2 stmts) (sc : Scan) (hsc : ScanInv stmts stmts.length sc) :
    ∃ s1 dI dO lI sh s2 iI iO, sepStage1 stmts sc = .ok (s1, dI, dO, lI, sh) ∧ sepStage2 s1 dI lI sh = .ok (s2, iI, iO) ∧
      SepGood stmts dI iI s2 ∧ viewX s2 = viewX stmts := by
  unfold sepStage1
  -- the second stage when the indirect block is created next to the direct block
  have stage2_none : ∀ (s1 : List Expr) (dI : Nat) (sh : Option Nat), viewX s1 = viewX stmts →
      treeIds s1 = treeIds stmts → ShapeWF s1 → BlockAt s1 dI →
      ∃ s2 iI iO, sepStage2 s1 dI none sh = .ok (s2, iI, iO) ∧ SepGood stmts dI iI s2 ∧ viewX s2 = viewX stmts := by
    intro s1 dI sh ex e2 e3 e4
    rcases e4 with ⟨b, hb, ht⟩
    have hlt := (split_at hb).2
    rcases insertAt_empty_spec s1 (dI + 1) (by omega) e3 with ⟨f1, f2, f3, f4, f5, _, _⟩
    exact ⟨_, _, _, rfl, ⟨view_congr (f1.trans ex), f2.trans e2, f3, ⟨b, by rw [f5 dI (Nat.lt_succ_self _)]; exact hb, ht⟩, f4, by omega⟩,
      f1.trans ex⟩
  -- … and when it is an existing statement
  have stage2_some : ∀ (s1 : List Expr) (dI j : Nat) (sh : Option Nat), viewX s1 = viewX stmts →
      treeIds s1 = treeIds stmts → ShapeWF s1 → BlockAt s1 dI → ReqAt s1 j → dI ≠ j →
      ∃ s2 iI iO, sepStage2 s1 dI (some j) sh = .ok (s2, iI, iO) ∧ SepGood stmts dI iI s2 ∧ viewX s2 = viewX stmts := by
    intro s1 dI j sh ex e2 e3 e4 hr hne
    rcases ensureBlock_spec s1 j e3 (view2_of_eq (view_congr ex) h2) hr with ⟨s, hE, f1, f2, f3, f4, _, f6⟩
    rcases e4 with ⟨b, hb, ht⟩
    exact ⟨s, j, (if isBlockAt s1 j = true then sh else none), by simp only [sepStage2, hE],
      ⟨view_congr (f1.trans ex), f2.trans e2, f3, ⟨b, by rw [f6 dI hne]; exact hb, ht⟩, f4, hne⟩, f1.trans ex⟩
  cases hld : sc.lastDirect with
  | none =>
    cases hli : sc.lastIndirect with
    | some j =>
      rcases (hsc.indirect j hli).2 with ⟨x, hx, hreq⟩
      have hlt := (split_at hx).2
      rcases insertAt_empty_spec stmts j (by omega) hs with ⟨f1, f2, f3, f4, _, f6, _⟩
      rcases stage2_some _ j (j + 1) (some j) f1 f2 f3 f4 ⟨x, by rw [f6 j (Nat.le_refl _)]; exact hx, hreq⟩ (by omega)
        with ⟨s2, iI, iO, q1, q2⟩
      exact ⟨_, _, _, _, _, s2, iI, iO, rfl, q1, q2⟩
    | none =>
      cases hlr : sc.lastRequire with
      | some k =>
        rcases (hsc.require k hlr).2 with ⟨x, hx, _⟩
        have hlt := (split_at hx).2
        rcases insertAt_empty_spec stmts (k + 1) (by omega) hs with ⟨f1, f2, f3, f4, _, _, _⟩
        rcases stage2_none _ (k + 1) none f1 f2 f3 f4 with ⟨s2, iI, iO, q1, q2⟩
        exact ⟨_, _, _, _, _, s2, iI, iO, rfl, q1, q2⟩
      | none =>
        have : stmts ++ [emptyRequireBlock] = insertAt stmts stmts.length emptyRequireBlock := by simp [insertAt]
        rcases insertAt_empty_spec stmts stmts.length (Nat.le_refl _) hs with ⟨f1, f2, f3, f4, _, _, _⟩
        rw [← this] at f1 f2 f3 f4
        rcases stage2_none _ stmts.length none f1 f2 f3 f4 with ⟨s2, iI, iO, q1, q2⟩
        exact ⟨_, _, _, _, _, s2, iI, iO, rfl, q1, q2⟩
  | some d =>
    rcases ensureBlock_spec stmts d hs h2 (hsc.direct d hld).2 with ⟨s, hE, f1, f2, f3, f4, _, f6⟩
    simp only [hE]
    cases hli : sc.lastIndirect with
    | none =>
      rcases stage2_none s d none f1 f2 f3 f4 with ⟨s2, iI, iO, q1, q2⟩
      exact ⟨_, _, _, _, _, s2, iI, iO, rfl, q1, q2⟩
    | some j =>
      have hne := hsc.ne d j hld hli
      rcases (hsc.indirect j hli).2 with ⟨x, hx, hreq⟩
      rcases stage2_some s d j (some j) f1 f2 f3 f4 ⟨x, by rw [f6 j (Ne.symm hne)]; exact hx, hreq⟩ hne with ⟨s2, iI, iO, q1, q2⟩
      exact ⟨_, _, _, _, _, s2, iI, iO, rfl, q1, q2⟩

section
variable (stmts : List Expr) (hs : ShapeWF stmts) (h2 : View2 stmts) (sc : Scan) (hsc : ScanInv stmts stmts.length sc)
  {s1 : List Expr} {dI : Nat} {dO lI sh : Option Nat} {s2 : List Expr} {iI : Nat} {iO : Option Nat}
  (h1 : sepStage1 stmts sc = .ok (s1, dI, dO, lI, sh)) (h3 : sepStage2 s1 dI lI sh = .ok (s2, iI, iO))
include hs h2 hsc h1 h3

theorem sepStage_at : SepGood stmts dI iI s2 ∧ viewX s2 = viewX stmts := by
  rcases sepStage_good stmts hs h2 sc hsc with ⟨_, _, _, _, _, _, _, _, e1, e3, hg⟩
  rw [h1] at e1; cases e1
  rw [h3] at e3; cases e3
  exact hg

theorem sepStage_spec : SepGood stmts dI iI s2 := (sepStage_at stmts hs h2 sc hsc h1 h3).1

theorem sepStage_viewX : viewX s2 = viewX stmts := (sepStage_at stmts hs h2 sc hsc h1 h3).2

end

theorem sepStage_total (stmts : List Expr) (hs : ShapeWF stmts) (h2 : View2 stmts) (sc : Scan) (hsc : ScanInv stmts stmts.length sc) :
    ∃ s1 dI dO lI sh, sepStage1 stmts sc = .ok (s1, dI, dO, lI, sh) ∧ ∃ s2 iI iO, sepStage2 s1 dI lI sh = .ok (s2, iI, iO) := by
  rcases sepStage_good stmts hs h2 sc hsc with ⟨s1, dI, dO, lI, sh, s2, iI, iO, e1, e3, _⟩
  exact ⟨s1, dI, dO, lI, sh, e1, s2, iI, iO, e3⟩

theorem find_by_id : ∀ (L : List Line) (x : Line), x ∈ L → (L.map (·.id)).Nodup → L.find? (·.id == x.id) = some x := by
  intro L
  induction L with
  | nil => intro x hx; cases hx
  | cons y ys ih =>
    intro x hx hnd
    simp only [List.map_cons, List.nodup_cons] at hnd
    rcases List.mem_cons.1 hx with rfl | hx
    · simp [List.find?]
    · have hne : (y.id == x.id) = false := by
        cases hb : y.id == x.id with
        | false => rfl
        | true => exact absurd (List.mem_map.2 ⟨x, hx, (eq_of_beq hb).symm⟩) hnd.1
      simp only [List.find?, hne]
      exact ih x hx hnd.2

theorem findLine_of_loc (fs : FileSyntax) (h : (treeIds fs.stmts).Nodup) (p : List Bytes × Line) (hp : p ∈ loc fs.stmts) :
    fs.findLine p.2.id = some p.2 := by
  unfold FileSyntax.findLine
  rw [allLines_eq_loc]
  apply find_by_id
  · exact List.mem_map.2 ⟨p, hp, rfl⟩
  · simpa [treeIds, List.map_map, Function.comp_def] using h

theorem moveExisting_spec (syn : FileSyntax) (next i idx : Nat) (hw : TreeWF syn.stmts next) (hnext : 0 < next)
    (v0 : VLine) (hv0 : v0 ∈ view syn.stmts) (hid0 : v0.id = i) (a ver : Bytes) (htoks : v0.toks = [B "require", a, ver])
    (hb : BlockAt syn.stmts idx) :
    TreeWF (moveExisting syn i idx next).stmts (next + 1) ∧
    (∀ v, v ∈ view (moveExisting syn i idx next).stmts ↔ (v.id ≠ i ∧ v ∈ view syn.stmts) ∨ v = ⟨next, v0.toks, v0.suffix⟩) ∧
    (∀ k, BlockAt syn.stmts k → BlockAt (moveExisting syn i idx next).stmts k) := by
  rcases mem_view.1 hv0 with ⟨p0, hp0, hlive0, rfl⟩
  simp only [mkV] at hid0 htoks
  have hfind := findLine_of_loc syn hw.nodup p0 hp0
  rw [hid0] at hfind
  -- the tree with the old line killed
  have hg : ∀ l : Line, ({ l with token := [] } : Line).id = l.id := fun _ => rfl
  have hw1 : TreeWF (syn.updateLine i fun l => { l with token := [] }).stmts next :=
    hw.updateLine i _ (fun _ => rfl) (fun _ => rfl)
  have hview1 : ∀ v, v ∈ view (syn.updateLine i fun l => { l with token := [] }).stmts ↔ (v.id ≠ i ∧ v ∈ view syn.stmts) := by
    intro v
    refine (mem_view_updateLine syn i (fun l => { l with token := [] }) hw.nodup hg v).trans ?_
    constructor
    · rintro (h | ⟨p, _, _, hlive, _⟩)
      · exact h
      · simp [liveLoc] at hlive
    · exact Or.inl
  have hblk1 : ∀ k, BlockAt syn.stmts k → BlockAt (syn.updateLine i fun l => { l with token := [] }).stmts k := by
    intro k hk
    rw [updateLine_stmts syn i _ hw.nodup]
    exact hk.mapLines _
  -- the copied line
  have htok : (if (!p0.2.inBlock && !p0.2.token.isEmpty && headIs p0.2.token (B "require")) = true then p0.2.token.drop 1 else p0.2.token)
      = [a, ver] := by
    rcases hw.locShape p0 hp0 with ⟨h1, h2⟩ | ⟨w, h1, h2⟩
    · rw [h1] at htoks
      simp only [List.nil_append] at htoks
      simp [h2, htoks, headIs]
    · rw [h1] at htoks
      simp only [List.singleton_append, List.cons.injEq] at htoks
      simp [h2, htoks.2]
  unfold moveExisting
  simp only [hfind]
  rw [htok]
  rcases appendToBlock_spec (syn.updateLine i fun l => { l with token := [] }).stmts idx
    { p0.2 with id := next, token := [a, ver], inBlock := true } hw1.shape (hblk1 idx hb) (by simp) rfl with ⟨q1, q2, q3, q4⟩
  refine ⟨hw1.of_added hnext q2 q3, ?_, fun k hk => q4 k (hblk1 k hk)⟩
  intro v
  rw [q1.mem_iff, List.mem_append, hview1, List.mem_singleton]
  simp only [htoks, mkV]

theorem moveExisting_inAt (syn : FileSyntax) (next i idx : Nat) (hw : TreeWF syn.stmts next)
    (v0 : VLine) (hv0 : v0 ∈ view syn.stmts) (hid0 : v0.id = i) (hb : BlockAt syn.stmts idx) (k x : Nat) :
    InAt (moveExisting syn i idx next).stmts k x ↔ InAt syn.stmts k x ∨ (k = idx ∧ x = next) := by
  rcases mem_view.1 hv0 with ⟨p0, hp0, _, rfl⟩
  simp only [mkV] at hid0
  have hfind := findLine_of_loc syn hw.nodup p0 hp0
  rw [hid0] at hfind
  unfold moveExisting
  simp only [hfind]
  rw [InAt.append_block _ (hb.updateLine hw.nodup _ _), InAt.updateLine hw.nodup i (fun l => { l with token := [] }) (fun _ => rfl)]

end ModVerif.Modfile.Edit
