/-
  The three block comparators as strict weak orders.
-/
import ModVerif.Proofs.EditSpecSort
import ModVerif.Props.C04
namespace ModVerif.EditSpec
open ModVerif

theorem bytesLt_eq_cmp (a b : Bytes) : bytesLt a b = decide (bytesCmp a b = -1) := by
  unfold bytesCmp
  by_cases h : a = b
  · subst h; simp [bytesLt_irrefl]
  · cases hl : bytesLt a b <;> simp [h]

theorem lineLess_eq_cmp : ∀ a b : List Bytes, lineLess a b = decide (listCmp bytesCmp a b = -1)
  | [], [] => by simp [lineLess, listCmp]
  | [], _ :: _ => by simp [lineLess, listCmp]
  | _ :: _, [] => by simp [lineLess, listCmp]
  | a :: as, b :: bs => by
    unfold lineLess listCmp
    by_cases h : a = b
    · subst h
      simp [bytesCmp_strict.refl, lineLess_eq_cmp as bs]
    · have hne : bytesCmp a b ≠ 0 := fun h0 => h ((bytesCmp_strict.eq_iff _ _).1 h0)
      simp [h, hne, bytesLt_eq_cmp]

theorem lineLess_strictWeak : StrictWeak lineLess := by
  have h := (PreCmp.of_strict (listCmp_strict bytesCmp_strict)).strictWeak
  have e : lineLess = fun a b => decide (listCmp bytesCmp a b = -1) := by
    funext a b; exact lineLess_eq_cmp a b
  rw [e]; exact h

theorem lineLess_total (a b : List Bytes) (h1 : lineLess a b = false) (h2 : lineLess b a = false) : a = b := by
  rw [lineLess_eq_cmp] at h1 h2
  have S := listCmp_strict bytesCmp_strict
  have r := S.range a b
  have an := S.antisymm a b
  have : listCmp bytesCmp a b = 0 := by
    simp at h1 h2; omega
  exact (S.eq_iff _ _).1 this

theorem semver_preCmp : PreCmp Semver.compare :=
  ⟨Props.C04.compare_range, Props.C04.compare_antisymm, Props.C04.compare_trans_le⟩

/-- exclude lines as (path, version) pairs: path by byte order, version by semver order -/
def excludeCmp : Bytes × Bytes → Bytes × Bytes → Int := StrictCmp.lex bytesCmp Semver.compare

def excludeLess2 (a b : Bytes × Bytes) : Bool := decide (excludeCmp a b = -1)

theorem excludeLess2_strictWeak : StrictWeak excludeLess2 :=
  ((PreCmp.of_strict bytesCmp_strict).lex semver_preCmp).strictWeak

/-- on the two-token lines a strict parse puts into an exclude block, `lineExcludeLess` is `excludeLess2` -/
theorem lineExcludeLess_two (p v q w : Bytes) :
    lineExcludeLess [p, v] [q, w] = excludeLess2 (p, v) (q, w) := by
  unfold lineExcludeLess excludeLess2 excludeCmp StrictCmp.lex
  by_cases h : p = q
  · subst h
    have r := Props.C04.compare_range v w
    simp [bytesCmp_strict.refl]
    constructor <;> intro h' <;> omega
  · have hne : bytesCmp p q ≠ 0 := fun h0 => h ((bytesCmp_strict.eq_iff _ _).1 h0)
    simp [h, hne, bytesLt_eq_cmp]

/-- retract intervals: descending by low, then by high -/
def retractCmp : Bytes × Bytes → Bytes × Bytes → Int := fun a b => StrictCmp.lex Semver.compare Semver.compare b a

theorem retractCmp_pre : PreCmp retractCmp := (semver_preCmp.lex semver_preCmp).swap

theorem lineRetractLess_eq (li lj : List Bytes) :
    lineRetractLess li lj = decide (retractCmp (interval li) (interval lj) = -1) := by
  unfold lineRetractLess retractCmp StrictCmp.lex
  have a1 := Props.C04.compare_antisymm (interval li).1 (interval lj).1
  have a2 := Props.C04.compare_antisymm (interval li).2 (interval lj).2
  have r1 := Props.C04.compare_range (interval li).1 (interval lj).1
  have r2 := Props.C04.compare_range (interval li).2 (interval lj).2
  by_cases h : Semver.compare (interval li).1 (interval lj).1 = 0
  · have h' : Semver.compare (interval lj).1 (interval li).1 = 0 := by omega
    simp [h, h']
    constructor <;> intro hh <;> omega
  · have h' : Semver.compare (interval lj).1 (interval li).1 ≠ 0 := by omega
    simp [h, h']
    constructor <;> intro hh <;> omega

theorem lineRetractLess_strictWeak : StrictWeak lineRetractLess := by
  have h := (retractCmp_pre.comap interval).strictWeak
  have e : lineRetractLess = fun a b => decide (retractCmp (interval a) (interval b) = -1) := by
    funext a b; exact lineRetractLess_eq a b
  rw [e]; exact h

end ModVerif.EditSpec
