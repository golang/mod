/- ByVersion.Less is a strict total order; a sorted permutation is unique, and the model's `sort` is it. -/
import ModVerif.Proofs.SemverCanonical
namespace ModVerif.Semver
open ModVerif StrictCmp

/-- ByVersion.Less as a three-way comparator -/
def lessCmp (a b : Bytes) : Int :=
  lex (optLowCmp keyCmp) bytesCmp (vkey a, a) (vkey b, b)

theorem lessCmp_strict : StrictCmp lessCmp :=
  comap (lex_strict (optLowCmp_strict keyCmp_strict) bytesCmp_strict) (fun a => (vkey a, a))
    (by intro x y h; exact (Prod.mk.inj h).2)

theorem less_iff (a b : Bytes) : less a b = true ↔ lessCmp a b = -1 := by
  unfold less lessCmp lex
  simp only [← compare_eq_key]
  by_cases h : Semver.compare a b = 0
  · simp [h, bytesCmp]
    by_cases e : a = b
    · subst e; simp [bytesLt_irrefl]
    · cases hl : bytesLt a b <;> simp [e]
  · have hr := optLowCmp_strict keyCmp_strict |>.range (vkey a) (vkey b)
    rw [← compare_eq_key] at hr
    simp [h]
    omega

def le (a b : Bytes) : Prop := less b a = false

theorem le_iff (a b : Bytes) : le a b ↔ lessCmp a b ≤ 0 := by
  unfold le
  have h := less_iff b a
  have a1 := lessCmp_strict.antisymm a b
  have r := lessCmp_strict.range a b
  cases hl : less b a
  · simp
    have : ¬ lessCmp b a = -1 := fun e => by rw [h.2 e] at hl; cases hl
    omega
  · simp
    have := h.1 hl
    omega

theorem le_total (a b : Bytes) : le a b ∨ le b a := by
  rw [le_iff, le_iff]
  have := lessCmp_strict.antisymm a b
  omega

theorem le_antisymm (a b : Bytes) (h1 : le a b) (h2 : le b a) : a = b := by
  rw [le_iff] at h1 h2
  have := lessCmp_strict.antisymm a b
  exact (lessCmp_strict.eq_iff a b).1 (by omega)

theorem le_trans {a b c : Bytes} (h1 : le a b) (h2 : le b c) : le a c := by
  rw [le_iff] at *; exact lessCmp_strict.le_trans h1 h2

theorem insertSorted_perm (x : Bytes) : ∀ l : List Bytes, (insertSorted x l).Perm (x :: l)
  | [] => List.Perm.refl _
  | y :: ys => by
    unfold insertSorted
    split
    · exact ((insertSorted_perm x ys).cons y).trans (List.Perm.swap x y ys)
    · exact List.Perm.refl _

theorem sort_perm : ∀ l : List Bytes, (sort l).Perm l
  | [] => List.Perm.refl _
  | x :: xs => by
    have : sort (x :: xs) = insertSorted x (sort xs) := rfl
    rw [this]
    exact (insertSorted_perm x (sort xs)).trans ((sort_perm xs).cons x)

theorem insertSorted_pairwise (x : Bytes) : ∀ l : List Bytes, l.Pairwise le → (insertSorted x l).Pairwise le
  | [], _ => by simp [insertSorted]
  | y :: ys, h => by
    unfold insertSorted
    have hy := List.pairwise_cons.1 h
    split
    · rename_i hlt
      -- y < x : y stays first
      have hyx : le y x := by
        rcases le_total y x with h | h
        · exact h
        · unfold le at h; rw [hlt] at h; cases h
      apply List.pairwise_cons.2
      refine ⟨?_, insertSorted_pairwise x ys hy.2⟩
      intro z hz
      have := (insertSorted_perm x ys).mem_iff.1 hz
      rcases List.mem_cons.1 this with rfl | hz
      · exact hyx
      · exact hy.1 z hz
    · rename_i hnlt
      have hxy : le x y := by unfold le; simpa using hnlt
      apply List.pairwise_cons.2
      refine ⟨?_, h⟩
      intro z hz
      rcases List.mem_cons.1 hz with rfl | hz
      · exact hxy
      · exact le_trans hxy (hy.1 z hz)

theorem sort_pairwise : ∀ l : List Bytes, (sort l).Pairwise le
  | [] => List.Pairwise.nil
  | x :: xs => by
    have : sort (x :: xs) = insertSorted x (sort xs) := rfl
    rw [this]
    exact insertSorted_pairwise x _ (sort_pairwise xs)

theorem sorted_perm_unique (l l' : List Bytes) (hp : l'.Perm l) (hs : l'.Pairwise le) : l' = sort l :=
  List.Perm.eq_of_pairwise (fun a b _ _ h1 h2 => le_antisymm a b h1 h2) hs (sort_pairwise l)
    (hp.trans (sort_perm l).symm)

end ModVerif.Semver
