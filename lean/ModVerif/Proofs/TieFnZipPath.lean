/-
  `path.Dir` does not lengthen a path: `(pathDir p).length ≤ max p.length 1` for EVERY byte string (the 1: `Dir("")` is
  "."), by weighing the component stack of `path.Clean` (every kept component with its separator).  Used for the fuel
  bound of the tie theorem of `collisionChecker.check` (the recursion passes the remaining fuel to `strToFold`).
-/
import ModVerif.Proofs.ZipAPath
namespace ModVerif.TieFnZip
open ModVerif ModVerif.PathClean ModVerif.Proofs.ZipA

def wt : List Bytes → Nat
  | [] => 0
  | c :: cs => c.length + 1 + wt cs

theorem wt_append : ∀ a b : List Bytes, wt (a ++ b) = wt a + wt b
  | [], b => by simp [wt]
  | c :: a, b => by simp only [List.cons_append, wt, wt_append a b]; omega

theorem wt_reverse : ∀ a : List Bytes, wt a.reverse = wt a
  | [] => rfl
  | c :: a => by simp only [List.reverse_cons, wt_append, wt_reverse a, wt]; omega

theorem wt_join : ∀ cs : List Bytes, cs ≠ [] → (joinWith [47] cs).length + 1 = wt cs
  | [], h => absurd rfl h
  | [x], _ => by simp [joinWith, wt]
  | x :: y :: rest, _ => by
    have ih := wt_join (y :: rest) (by simp)
    rw [joinWith_cons_cons]
    simp only [List.length_append, List.length_cons, List.length_nil, wt] at ih ⊢
    omega

theorem wt_step (r : Bool) (st : List Bytes) (c : Bytes) : wt (step r st c) ≤ wt st + c.length + 1 := by
  unfold step
  split
  · omega
  split
  · omega
  split
  · rename_i hdd
    have hc : c = dotdot := by simpa using hdd
    have hl : c.length = 2 := by rw [hc]; rfl
    split
    · split
      · simp [wt]
      · simp only [wt, dotdot, List.length_cons, List.length_nil]; omega
    · rename_i top rest
      split
      · split
        · omega
        · simp only [wt, dotdot, List.length_cons, List.length_nil]; omega
      · simp only [wt]; omega
  · simp only [wt]; omega

theorem wt_foldl (r : Bool) : ∀ (cs st : List Bytes), wt (cs.foldl (step r) st) ≤ wt st + wt cs
  | [], st => by simp [wt]
  | c :: cs, st => by
    have h1 := wt_foldl r cs (step r st c)
    have h2 := wt_step r st c
    simp only [List.foldl_cons, wt]
    omega

theorem wt_splitOn (p : Bytes) : wt (splitOn 47 p) = p.length + 1 := by
  have := wt_join (splitOn 47 p) (splitOn_ne_nil 47 p)
  rw [joinWith_splitOn] at this
  omega

theorem wt_comps_le (p : Bytes) : wt (comps p) ≤ p.length + 1 := by
  unfold comps cleanComps
  rw [wt_reverse]
  have := wt_foldl (isRooted p) (splitOn 47 p) []
  rw [wt_splitOn] at this
  simpa [wt] using this

theorem wt_comps_rooted (p : Bytes) (h : isRooted p = true) : wt (comps p) ≤ p.length := by
  cases p with
  | nil => simp [isRooted] at h
  | cons x t =>
    rw [isRooted_cons] at h
    have hx : x = 47 := by simpa using h
    subst hx
    unfold comps cleanComps
    rw [wt_reverse, splitOn_cons_sep]
    have e : step (isRooted (47 :: t)) [] [] = [] := by simp [step]
    rw [List.foldl_cons, e]
    have := wt_foldl (isRooted (47 :: t)) (splitOn 47 t) []
    rw [wt_splitOn] at this
    simpa [wt] using this

theorem joinWith_length_le (cs : List Bytes) : (joinWith [47] cs).length ≤ wt cs - 1 := by
  cases cs with
  | nil => simp [joinWith]
  | cons c t => have := wt_join (c :: t) (by simp); omega

theorem pathClean_length_le (p : Bytes) : (pathClean p).length ≤ max p.length 1 := by
  unfold pathClean
  by_cases hp : p = []
  · subst hp; simp
  have hp' : (p == []) = false := by simpa using hp
  rw [hp']
  simp only [Bool.false_eq_true, if_false]
  have hpl : 1 ≤ p.length := by cases p with | nil => exact absurd rfl hp | cons _ _ => simp
  by_cases hr : isRooted p = true
  · rw [if_pos hr]
    have h1 := wt_comps_rooted p hr
    have h2 := joinWith_length_le (comps p)
    simp only [List.length_cons]
    omega
  · rw [if_neg hr]
    split
    · simp; omega
    · have h1 := wt_comps_le p
      have h2 := joinWith_length_le (comps p)
      omega

theorem pathDir_length_le (p : Bytes) : (pathDir p).length ≤ max p.length 1 := by
  show (pathClean (List.take (p.length - (lastElem p).length) p)).length ≤ max p.length 1
  have h1 := pathClean_length_le (List.take (p.length - (lastElem p).length) p)
  have h2 : (List.take (p.length - (lastElem p).length) p).length ≤ p.length := by simp
  omega

end ModVerif.TieFnZip
