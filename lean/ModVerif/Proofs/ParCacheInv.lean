/-
  Inductive invariant of the parCache machine (for Props/C14.lean), by the argument through the holder of the entry's
  mutex.  A step of caller `i` is a step `EStep` on its program counter and the entry of its key with the ghost counters
  (`View`); nothing else moves (`step_local`).  `Shared` is what holds of an entry whoever looks at it, `At pc` what a
  caller at `pc` may assert of the entry of its key.  The stepping caller re-establishes both (`EStep.own`).  The others
  are not disturbed: outside the critical section a caller asserts only facts that no step undoes (`Mono`,
  `At.stable_out`); inside it the caller holds the mutex, and a step that changes an entry is made inside its critical
  section, or locks a free mutex, or creates an absent entry (`EStep.changes`, `At.stable_in`).  `Glob` adds mutual
  exclusion, a holder for every held mutex and the returned values; the clauses of `Inv` are read off (`Glob.inv`).
-/
import ModVerif.Model.ParCache
namespace ModVerif.ParCache
variable {V : Type}

/-- program counters at which the caller holds the entry's mutex -/
def inCS (p : PC) : Prop := p = .loadDone2 ∨ p = .runF ∨ p = .storeDone ∨ p = .unlock

structure Inv (key : Nat → Nat) (s : St V) : Prop where
  runs_le : ∀ k, s.runs k ≤ 1
  done_ran : ∀ k, (s.entry k).done = true → s.runs k = 1 ∧ (s.entry k).result = s.ran k ∧ (s.ran k).isSome = true
  notdone_runner : ∀ k, s.runs k = 1 → (s.entry k).done = false → ∃ i, key i = k ∧ s.pc i = .storeDone
  cs_locked : ∀ i, inCS (s.pc i) → (s.entry (key i)).locked = true
  cs_unique : ∀ i j, inCS (s.pc i) → inCS (s.pc j) → key i = key j → i = j
  runF_fresh : ∀ i, s.pc i = .runF → (s.entry (key i)).done = false ∧ s.runs (key i) = 0
  store_st : ∀ i, s.pc i = .storeDone → s.runs (key i) = 1 ∧ (s.entry (key i)).done = false ∧
      (s.entry (key i)).result = s.ran (key i) ∧ (s.ran (key i)).isSome = true
  after_done : ∀ i, (s.pc i = .unlock ∨ s.pc i = .ret) → (s.entry (key i)).done = true
  returned_ok : ∀ i, s.pc i = .returned → s.got i = s.ran (key i) ∧ (s.ran (key i)).isSome = true ∧ s.runs (key i) = 1
  present : ∀ i, s.pc i ≠ .idle → s.pc i ≠ .load → s.pc i ≠ .loadOrStore → (s.entry (key i)).present = true
  absent : ∀ k, (s.entry k).present = false → s.runs k = 0 ∧ (s.entry k).done = false ∧ (s.entry k).locked = false
  ran_none : ∀ k, s.runs k = 0 → s.ran k = none

/-- an entry with its ghost counters -/
structure View (V : Type) where
  e : Entry V
  runs : Nat
  ran : Option V

def view (s : St V) (k : Nat) : View V := ⟨s.entry k, s.runs k, s.ran k⟩

/-- one step of a caller whose work function would return `v`, on the entry of its key -/
inductive EStep (v : V) : PC → View V → PC → View V → Prop
  | call (x) : EStep v .idle x .load x
  | loadHit (x : View V) : x.e.present = true → EStep v .load x .loadDone1 x
  | loadMiss (x : View V) : x.e.present = false → EStep v .load x .loadOrStore x
  | found (x : View V) : x.e.present = true → EStep v .loadOrStore x .loadDone1 x
  | create (x : View V) : x.e.present = false →
      EStep v .loadOrStore x .loadDone1 { x with e := { present := true, done := false, locked := false, result := none } }
  | fast (x : View V) : x.e.done = true → EStep v .loadDone1 x .ret x
  | slow (x : View V) : x.e.done = false → EStep v .loadDone1 x .lock x
  | lock (x : View V) : x.e.locked = false → EStep v .lock x .loadDone2 { x with e := { x.e with locked := true } }
  | late (x : View V) : x.e.done = true → EStep v .loadDone2 x .unlock x
  | first (x : View V) : x.e.done = false → EStep v .loadDone2 x .runF x
  | run (x : View V) : EStep v .runF x .storeDone
      ⟨{ x.e with result := some v }, x.runs + 1, match x.ran with | none => some v | some u => some u⟩
  | store (x : View V) : EStep v .storeDone x .unlock { x with e := { x.e with done := true } }
  | unlock (x : View V) : EStep v .unlock x .ret { x with e := { x.e with locked := false } }
  | ret (x : View V) : EStep v .ret x .returned x

/-- what holds of an entry whoever looks -/
structure Shared (x : View V) : Prop where
  runs_le : x.runs ≤ 1
  done_ran : x.e.done = true → x.runs = 1 ∧ x.e.result = x.ran ∧ x.ran.isSome = true
  absent : x.e.present = false → x.runs = 0 ∧ x.e.done = false ∧ x.e.locked = false
  ran_none : x.runs = 0 → x.ran = none
  held : x.e.locked = false → x.e.done = false → x.runs = 0

/-- what a caller at `pc` may assert of the entry of its key -/
def At : PC → View V → Prop
  | .idle, _ | .load, _ | .loadOrStore, _ => True
  | .loadDone1, x | .lock, x => x.e.present = true
  | .loadDone2, x => x.e.present = true ∧ x.e.locked = true ∧ (x.e.done = false → x.runs = 0)
  | .runF, x => x.e.present = true ∧ x.e.locked = true ∧ x.e.done = false ∧ x.runs = 0
  | .storeDone, x => x.e.present = true ∧ x.e.locked = true ∧ x.e.done = false ∧ x.runs = 1 ∧
      x.e.result = x.ran ∧ x.ran.isSome = true
  | .unlock, x => x.e.present = true ∧ x.e.locked = true ∧ x.e.done = true
  | .ret, x | .returned, x => x.e.present = true ∧ x.e.done = true

theorem EStep.own {v : V} {p p' : PC} {x x' : View V} (h : EStep v p x p' x') (hS : Shared x) (hA : At p x) :
    Shared x' ∧ At p' x' := by
  obtain ⟨s1, s2, s3, s4, s5⟩ := hS
  cases h <;> (refine ⟨⟨?_, ?_, ?_, ?_, ?_⟩, ?_⟩) <;> simp only [At] at hA ⊢ <;> grind

/-- what every step does to an entry: it stays present, and once done nothing about it moves -/
structure Mono (x x' : View V) : Prop where
  present : x.e.present = true → x'.e.present = true
  done : x.e.done = true → x'.e.done = true ∧ x'.runs = x.runs ∧ x'.ran = x.ran ∧ x'.e.result = x.e.result

theorem EStep.mono {v : V} {p p' : PC} {x x' : View V} (h : EStep v p x p' x') (hS : Shared x) (hA : At p x) :
    Mono x x' := by
  obtain ⟨s1, s2, s3, s4, s5⟩ := hS
  cases h <;> constructor <;> simp only [At] at hA ⊢ <;> grind

theorem At.stable_out {q : PC} {x x' : View V} (hq : ¬ inCS q) (hm : Mono x x') (hA : At q x) : At q x' := by
  cases q <;> simp only [At, inCS] at hA hq ⊢ <;> grind [Mono]

theorem EStep.changes {v : V} {p p' : PC} {x x' : View V} (h : EStep v p x p' x') :
    x' = x ∨ inCS p ∨ x.e.locked = false ∨ x.e.present = false := by
  cases h <;> simp [inCS, *]

theorem At.locked {q : PC} {x : View V} (hq : inCS q) (hA : At q x) : x.e.present = true ∧ x.e.locked = true := by
  cases q <;> simp only [At, inCS] at hA hq ⊢ <;> grind

theorem At.stable_in {v : V} {p p' q : PC} {x x' : View V} (h : EStep v p x p' x') (hq : inCS q) (hp : ¬ inCS p)
    (hA : At q x) : At q x' := by
  rcases h.changes with e | e | e | e
  · rw [e]; exact hA
  · exact absurd e hp
  · rw [(hA.locked hq).2] at e; cases e
  · rw [(hA.locked hq).1] at e; cases e

theorem EStep.enters {v : V} {p p' : PC} {x x' : View V} (h : EStep v p x p' x') (hp : ¬ inCS p) (hp' : inCS p') :
    x.e.locked = false := by
  cases h <;> simp_all [inCS]

theorem EStep.locked' {v : V} {p p' : PC} {x x' : View V} (h : EStep v p x p' x') (hS : Shared x)
    (hl : x'.e.locked = true) : inCS p' ∨ (¬ inCS p ∧ x.e.locked = true) := by
  have := hS.absent
  cases h <;> simp_all [inCS]

theorem EStep.returned_eq {v : V} {p p' : PC} {x x' : View V} (h : EStep v p x p' x') (hp : p' = .returned) : x' = x := by
  cases h <;> first | rfl | cases hp

structure Glob (key : Nat → Nat) (s : St V) : Prop where
  shared : ∀ k, Shared (view s k)
  at_ : ∀ i, At (s.pc i) (view s (key i))
  uniq : ∀ i j, inCS (s.pc i) → inCS (s.pc j) → key i = key j → i = j
  holder : ∀ k, (s.entry k).locked = true → ∃ i, key i = k ∧ inCS (s.pc i)
  got : ∀ i, s.pc i = .returned → s.got i = (s.entry (key i)).result

theorem view_entry {s s' : St V} {i : Nat} {e' : Entry V} (he : s'.entry = upd s.entry i e') (hr : s'.runs = s.runs)
    (hn : s'.ran = s.ran) (k : Nat) : view s' k = if k = i then ⟨e', s.runs i, s.ran i⟩ else view s k := by
  by_cases hk : k = i <;> simp [view, upd, hk, he, hr, hn]

theorem step_local {key : Nat → Nat} {fval : Nat → V} {s s' : St V} {i : Nat} (h : step key fval s i = some s') :
    ∃ p' x', EStep (fval i) (s.pc i) (view s (key i)) p' x' ∧ s'.pc = upd s.pc i p' ∧
      (∀ k, view s' k = if k = key i then x' else view s k) ∧
      (∀ j, j ≠ i → s'.got j = s.got j) ∧ (p' = .returned → s'.got i = (s.entry (key i)).result) := by
  have hv : ∀ k, view s k = if k = key i then view s (key i) else view s k := by
    intro k; split
    · subst_vars; rfl
    · rfl
  unfold step at h
  cases hpc : s.pc i <;> simp only [hpc] at h
  case idle => cases h; exact ⟨_, _, .call _, rfl, hv, fun _ _ => rfl, nofun⟩
  case load =>
    cases h
    cases hp : (s.entry (key i)).present
    · exact ⟨_, _, .loadMiss _ hp, by simp, hv, fun _ _ => rfl, nofun⟩
    · exact ⟨_, _, .loadHit _ hp, by simp, hv, fun _ _ => rfl, nofun⟩
  case loadOrStore =>
    split at h <;> cases h
    · exact ⟨_, _, .found _ ‹_›, rfl, hv, fun _ _ => rfl, nofun⟩
    · exact ⟨_, _, .create _ (Bool.eq_false_iff.mpr ‹_›), rfl, view_entry rfl rfl rfl, fun _ _ => rfl, nofun⟩
  case loadDone1 =>
    cases h
    cases hp : (s.entry (key i)).done
    · exact ⟨_, _, .slow _ hp, by simp, hv, fun _ _ => rfl, nofun⟩
    · exact ⟨_, _, .fast _ hp, by simp, hv, fun _ _ => rfl, nofun⟩
  case lock =>
    split at h <;> cases h
    exact ⟨_, _, .lock _ (Bool.eq_false_iff.mpr ‹_›), rfl, view_entry rfl rfl rfl, fun _ _ => rfl, nofun⟩
  case loadDone2 =>
    cases h
    cases hp : (s.entry (key i)).done
    · exact ⟨_, _, .first _ hp, by simp, hv, fun _ _ => rfl, nofun⟩
    · exact ⟨_, _, .late _ hp, by simp, hv, fun _ _ => rfl, nofun⟩
  case runF =>
    cases h
    refine ⟨_, _, .run _, rfl, fun k => ?_, fun _ _ => rfl, nofun⟩
    by_cases hk : k = key i
    · subst hk; cases hr : s.ran (key i) <;> simp [view, upd, hr]
    · simp [view, upd, hk]
  case storeDone => cases h; exact ⟨_, _, .store _, rfl, view_entry rfl rfl rfl, fun _ _ => rfl, nofun⟩
  case unlock => cases h; exact ⟨_, _, .unlock _, rfl, view_entry rfl rfl rfl, fun _ _ => rfl, nofun⟩
  case ret => cases h; exact ⟨_, _, .ret _, rfl, hv, fun j hj => by simp [upd, hj], fun _ => by simp⟩
  case returned => cases h

theorem glob_step {key : Nat → Nat} {fval : Nat → V} {s s' : St V} {i : Nat} (h : step key fval s i = some s')
    (hG : Glob key s) : Glob key s' := by
  obtain ⟨p', x', he, hpc, hview, hgot, hret⟩ := step_local h
  have hS := hG.shared (key i)
  have hA := hG.at_ i
  obtain ⟨hS', hA'⟩ := he.own hS hA
  have hm := he.mono hS hA
  have pc_i : s'.pc i = p' := by rw [hpc]; simp
  have pc_o : ∀ j, j ≠ i → s'.pc j = s.pc j := fun j hj => by rw [hpc]; simp [hj]
  have v_i : view s' (key i) = x' := by rw [hview]; simp
  have v_o : ∀ k, k ≠ key i → view s' k = view s k := fun k hk => by rw [hview]; simp [hk]
  -- another caller of the same key, in the critical section, excludes `i` from it
  have excl : ∀ j, j ≠ i → key j = key i → inCS (s.pc j) → ¬ inCS (s.pc i) := fun j hj hk hq hi =>
    hj (hG.uniq j i hq hi hk)
  have at_o : ∀ j, j ≠ i → At (s'.pc j) (view s' (key j)) := by
    intro j hj
    rw [pc_o j hj]
    by_cases hk : key j = key i
    · rw [hk, v_i]
      have hAj := hk ▸ hG.at_ j
      by_cases hq : inCS (s.pc j)
      · exact hAj.stable_in he hq (excl j hj hk hq)
      · exact hAj.stable_out hq hm
    · rw [v_o _ hk]; exact hG.at_ j
  refine ⟨fun k => ?_, fun j => ?_, fun a b ha hb hk => ?_, fun k hl => ?_, fun j hj => ?_⟩
  · by_cases hk : k = key i
    · rw [hk, v_i]; exact hS'
    · rw [v_o k hk]; exact hG.shared k
  · by_cases hj : j = i
    · rw [hj, pc_i, v_i]; exact hA'
    · exact at_o j hj
  · -- mutual exclusion: whoever enters finds the mutex free, whoever is inside holds it
    have enter : ∀ j, j ≠ i → key j = key i → inCS (s.pc j) → inCS p' → False := by
      intro j hj hk hq hp'
      have := he.enters (excl j hj hk hq) hp'
      rw [((hk ▸ hG.at_ j : At (s.pc j) (view s (key i))).locked hq).2] at this
      cases this
    by_cases ha' : a = i <;> by_cases hb' : b = i
    · rw [ha', hb']
    · rw [ha', pc_i] at ha; rw [pc_o b hb'] at hb
      exact (enter b hb' (ha' ▸ hk.symm) hb ha).elim
    · rw [hb', pc_i] at hb; rw [pc_o a ha'] at ha
      exact (enter a ha' (hb' ▸ hk) ha hb).elim
    · rw [pc_o a ha'] at ha; rw [pc_o b hb'] at hb
      exact hG.uniq a b ha hb hk
  · by_cases hk : k = key i
    · have hl' : x'.e.locked = true := by
        have := congrArg (·.e.locked) (hk ▸ v_i : view s' k = x'); simpa [view, hl] using this.symm
      rcases he.locked' hS hl' with hp' | ⟨hp, hl0⟩
      · exact ⟨i, hk.symm, pc_i ▸ hp'⟩
      · obtain ⟨j, hjk, hq⟩ := hG.holder (key i) hl0
        have hj : j ≠ i := fun e => hp (e ▸ hq)
        exact ⟨j, hjk.trans hk.symm, (pc_o j hj).symm ▸ hq⟩
    · have : (s'.entry k).locked = (s.entry k).locked := congrArg (·.e.locked) (v_o k hk)
      obtain ⟨j, hjk, hq⟩ := hG.holder k (this ▸ hl)
      have hj : j ≠ i := fun e => hk (by rw [← hjk, e])
      exact ⟨j, hjk, (pc_o j hj).symm ▸ hq⟩
  · by_cases hji : j = i
    · subst hji
      rw [pc_i] at hj
      have e1 : (s'.entry (key j)).result = x'.e.result := congrArg (·.e.result) v_i
      rw [hret hj, e1, he.returned_eq hj]
      rfl
    · rw [pc_o j hji] at hj
      rw [hgot j hji, hG.got j hj]
      by_cases hk : key j = key i
      · have hAj : At .returned (view s (key i)) := hj ▸ hk ▸ hG.at_ j
        have e1 : (s'.entry (key j)).result = x'.e.result := by rw [hk]; exact congrArg (·.e.result) v_i
        rw [e1, hk]
        exact ((hm.done hAj.2).2.2.2).symm
      · exact (congrArg (·.e.result) (v_o _ hk)).symm

theorem glob_init (key : Nat → Nat) : Glob key (init V) := by
  refine ⟨fun k => ?_, fun i => ?_, ?_, ?_, ?_⟩
  · constructor <;> simp [init, view]
  all_goals simp [init, view, At, inCS]

theorem glob_reachable {key : Nat → Nat} {fval : Nat → V} {s : St V} (h : Reachable key fval s) : Glob key s := by
  induction h with
  | init => exact glob_init key
  | step i _ hs ih => exact glob_step hs ih

theorem Glob.inv {key : Nat → Nat} {s : St V} (hG : Glob key s) : Inv key s := by
  have A := hG.at_
  have S := hG.shared
  refine ⟨fun k => (S k).runs_le, fun k => (S k).done_ran, fun k hr hd => ?_, fun i hi => ((A i).locked hi).2, hG.uniq,
    fun i hi => ?_, fun i hi => ?_, fun i hi => ?_, fun i hi => ?_, fun i h1 h2 h3 => ?_, fun k => (S k).absent,
    fun k => (S k).ran_none⟩
  · -- someone has run and not yet published: the mutex is held, and its holder can only be at `storeDone`
    have hl : (s.entry k).locked = true := by
      cases hl : (s.entry k).locked
      · have := (S k).held hl hd; simp [view] at this; omega
      · rfl
    obtain ⟨i, hk, hq⟩ := hG.holder k hl
    refine ⟨i, hk, ?_⟩
    have hA := hk ▸ A i
    rcases hq with e | e | e | e <;> rw [e] at hA <;> simp only [At, view] at hA
    · have := hA.2.2 hd; omega
    · omega
    · exact e
    · rw [hA.2.2] at hd; cases hd
  · have := A i; rw [hi] at this; exact ⟨this.2.2.1, this.2.2.2⟩
  · have := A i; rw [hi] at this; exact ⟨this.2.2.2.1, this.2.2.1, this.2.2.2.2⟩
  · have := A i; rcases hi with e | e <;> rw [e] at this
    · exact this.2.2
    · exact this.2
  · have := A i; rw [hi] at this
    obtain ⟨h1, h2, h3⟩ := (S (key i)).done_ran this.2
    exact ⟨(hG.got i hi).trans h2, h3, h1⟩
  · have := A i
    clear A S
    cases hp : s.pc i <;> rw [hp] at this <;> simp_all [At, view]

theorem inv_reachable (key : Nat → Nat) (fval : Nat → V) (s : St V) (h : Reachable key fval s) : Inv key s :=
  (glob_reachable h).inv

end ModVerif.ParCache
