/-
  `fork_rejected` against the STORED head, under the hypothesis that excludes the recorded
  finding: along the run no lookup's reconciliation with the configuration fails (a goroutine that has advanced the
  in-memory head and is inside the flush loop of `mergeLatest` never ends with an error: that is the only way the
  in-memory head is left on a tree that was never reconciled, since there is no rollback).  The hypothesis is a
  decidable predicate on schedules, `cleanRun`.  Server hostile, any number of clients and goroutines.
-/
import ModVerif.Proofs.ClientMoreFlush
namespace ModVerif.ClientLatest
variable {M T : Type}

variable [DecidableEq M] [DecidableEq T]

/-- **The trace predicate**: the schedule can be run from `s` and none of its steps is a failed reconciliation. -/
def cleanRun (P : Params M T) (cl : Nat → Nat) (presented : Nat → Option M) (priv : Nat → Bool) :
    St M T → List (Nat × Res) → Bool
  | _, [] => true
  | s, (t, r) :: rest =>
    match step P cl presented priv s t r with
    | none => false
    | some s' => !(inFlush (s.th t).pc && failed (s'.th t).pc) && cleanRun P cl presented priv s' rest

/-- states reachable without a failed reconciliation -/
inductive CReachable (P : Params M T) (cl : Nat → Nat) (presented : Nat → Option M) (priv : Nat → Bool) (c0 : Option M) :
    St M T → Prop
  | init : CReachable P cl presented priv c0 (init P c0)
  | step {s s' : St M T} (t : Nat) (r : Res) :
      CReachable P cl presented priv c0 s → step P cl presented priv s t r = some s' → CleanStep s s' t →
      CReachable P cl presented priv c0 s'

theorem CReachable.reachable {P : Params M T} {cl : Nat → Nat} {presented : Nat → Option M} {priv : Nat → Bool}
    {c0 : Option M} {s : St M T} (h : CReachable P cl presented priv c0 s) : Reachable P cl presented priv c0 s := by
  induction h with
  | init => exact Reachable.init
  | step t r _ hs _ ih => exact Reachable.step t r ih hs

theorem cleanRun_creachable (P : Params M T) (cl : Nat → Nat) (presented : Nat → Option M) (priv : Nat → Bool) (c0 : Option M) :
    ∀ (sched : List (Nat × Res)) (s s' : St M T), CReachable P cl presented priv c0 s →
      cleanRun P cl presented priv s sched = true → run P cl presented priv s sched = some s' →
      CReachable P cl presented priv c0 s' := by
  intro sched
  induction sched with
  | nil => intro s s' h _ hr; simp [run] at hr; subst hr; exact h
  | cons x rest ih =>
    intro s s' h hc hr
    obtain ⟨t, r⟩ := x
    simp only [run, cleanRun] at hr hc
    cases hs : step P cl presented priv s t r with
    | none => simp [hs] at hr
    | some s1 =>
      simp only [hs, Bool.and_eq_true, Bool.not_eq_true', Bool.and_eq_false_iff] at hr hc
      refine ih s1 s' (CReachable.step t r h hs ?_) hc.2 hr
      intro ⟨h1, h2⟩
      rcases hc.1 with h3 | h3 <;> simp_all

theorem cleanRun_append (P : Params M T) (cl : Nat → Nat) (presented : Nat → Option M) (priv : Nat → Bool) :
    ∀ (a b : List (Nat × Res)) (s s1 : St M T), run P cl presented priv s a = some s1 →
      cleanRun P cl presented priv s (a ++ b) = true →
      cleanRun P cl presented priv s a = true ∧ cleanRun P cl presented priv s1 b = true := by
  intro a
  induction a with
  | nil => intro b s s1 hr hc; simp [run] at hr; subst hr; exact ⟨rfl, by simpa using hc⟩
  | cons x a ih =>
    intro b s s1 hr hc
    obtain ⟨t, r⟩ := x
    simp only [run, cleanRun, List.cons_append] at hr hc ⊢
    cases hs : step P cl presented priv s t r with
    | none => simp [hs] at hr
    | some s0 =>
      simp only [hs, Bool.and_eq_true] at hr hc ⊢
      obtain ⟨h1, h2⟩ := ih b s0 s1 hr hc.2
      exact ⟨⟨hc.1, h1⟩, h2⟩

variable {P : Params M T} {le : T → T → Prop} {Ch : T → Prop} {cl : Nat → Nat} {presented : Nat → Option M}
  {priv : Nat → Bool} {c0 : Option M} {s s' s1 s2 : St M T} {t : Nat} {r : Res}

theorem flush_creachable (hS : Sound P le) (hzero : ∀ a, P.size a = 0 → le a P.zero)
    (heq : ∀ a b, le a b → P.size b ≤ P.size a → le b a) (h : CReachable P cl presented priv c0 s) :
    Flushed P le cl s := by
  induction h with
  | init => exact fun _ => .inl (hS.zero_le _)
  | @step s s' t r hr hs hcl ih =>
    exact flushed_step hS (fullInv_reachable hS hr.reachable) ih hs hcl
      (fun h0 => hS.trans _ _ _ (hzero _ h0) (hS.zero_le _)) (heq _ _)

/-- C13 `accepted_on_stored_chain` -/
theorem accepted_below_stored (hS : Sound P le) (hzero : ∀ a, P.size a = 0 → le a P.zero)
    (heq : ∀ a b, le a b → P.size b ≤ P.size a → le b a) (h : CReachable P cl presented priv c0 s)
    (t : Nat) (m : M) (pt : T) (hm : presented t = some m) (hp : P.parse m = some pt) (hd : (s.th t).pc = .done .ok)
    (hquiet : ∀ t', cl t' = cl t → inFlush (s.th t').pc = false) :
    le pt (s.latest (cl t)) ∧ le (s.latest (cl t)) (cfgTree P s.config) := by
  have hI := inv_reachable hS h.reachable
  refine ⟨hI.accepted t m pt hm hp (by simp [PastFirst, hd]), ?_⟩
  rcases flush_creachable hS hzero heq h (cl t) with h1 | ⟨t', hc, hr⟩
  · exact h1
  · exact absurd hr.inFlush (by simp [hquiet t' hc])

end ModVerif.ClientLatest
