/-
  Helper lemmas for Props/C01.lean (`lookup_authentic`): the authenticity invariant of the sequential client
  (Model/Client.lean) against an arbitrary environment.  Composition of C07 (`open_sound`), C09 (`store_get`,
  `treeHash_eq_mth`) and C10 (`readHashes_authenticated`).  The frame `Low` of the tile layer is read off its runs
  (Proofs/ClientRuns.lean) with `AuthTile` as what `SaveTiles` may write (`savesOK_auth`).
-/
import ModVerif.Proofs.ClientRuns
import ModVerif.Proofs.ClientMoreTie
import ModVerif.Props.C07
import ModVerif.Props.C09
import ModVerif.Props.C10
namespace ModVerif.Client
open ModVerif ModVerif.Tlog ModVerif.Tile

set_option linter.unusedSectionVars false

section
variable {σ H : Type} [DecidableEq H]

def rootAt (P : Params H) (D : List Bytes) (n : Nat) : H := RFC6962.mth P.node P.empty ((D.take n).map P.leaf)

def IsHead (P : Params H) (D : List Bytes) (hd : Head H) : Prop := hd.n ≤ D.length ∧ hd.hash = rootAt P D hd.n

/-- (i) signature soundness of one key: whatever text the key's verifier accepts and `ParseTree` reads as a tree head
    is a head of `D` -/
def VerifierSound (P : Params H) (D : List Bytes) (v : Note.Verifier) : Prop :=
  ∀ text sig t, v.verify text sig = true → TlogNote.parseTree text = some t →
    IsHead P D ⟨t.n.toNat, P.dec t.hash⟩

def KeySound (P : Params H) (D : List Bytes) (E : Env σ) : Prop :=
  ∀ s k v, (E.readConfig s (B "key")).1 = some k →
    Note.NewVerifier P.sha P.edVerify (GoStrings.trimSpace k) = .ok v → VerifierSound P D v

def SigSound (P : Params H) (D : List Bytes) (vs : List Note.Verifier) : Prop :=
  ∀ msg hd, openTree P vs msg = .ok hd → IsHead P D hd

/-- the record number `checkRecord` authenticates for the id in a response (O5: a negative id is read as 0) -/
def recIndex (id : Int) : Nat := if id < 0 then 0 else id.toNat

def AuthResponse (P : Params H) (D : List Bytes) (vs : List Note.Verifier) (data : Bytes) : Prop :=
  ∃ id text rest, TlogNote.parseRecord data = some (id, text, rest) ∧
    (∃ r, D[recIndex id]? = some r ∧ P.leaf text = P.leaf r) ∧
    (rest = [] ∨ ∃ hd, openTree P vs rest = .ok hd)

def AuthTile (P : Params H) (D : List Bytes) (t : Tile) (d : Bytes) : Prop :=
  ∃ n st, n ≤ D.length ∧ buildStore P.leaf P.node (D.take n) = .ok st ∧ trueTile st t = some (decodeTile P d) ∧
    d.length = t.w * P.hashSize

/-- an effect that C01 allows -/
def GoodEffect (P : Params H) (D : List Bytes) (vs : List Note.Verifier) (name : Bytes) : Effect → Prop
  | .writeCache f d => AuthResponse P D vs d ∨ ∃ t, f = tileCacheKey name t ∧ AuthTile P D t d
  | .writeConfig _ old new _ =>
      ∃ hd, openTree P vs new = .ok hd ∧ IsHead P D hd ∧
        (old = [] ∨ ∃ ho, openTree P vs old = .ok ho ∧ ho.n < hd.n)
  | .securityError _ => True
  | .read _ _ _ => True

/-- `w'` differs from `w` only in the environment state, the tile caches and by allowed effects -/
structure Low (P : Params H) (D : List Bytes) (w w' : World σ H) : Prop where
  verifiers : w'.c.verifiers = w.c.verifiers
  name : w'.c.name = w.c.name
  record : w'.c.record = w.c.record
  inited : w'.c.inited = w.c.inited
  latest : w'.c.latest = w.c.latest
  latestMsg : w'.c.latestMsg = w.c.latestMsg
  trace : ∃ es, w'.tr = w.tr ++ es ∧ ∀ e ∈ es, GoodEffect P D w.c.verifiers w.c.name e

theorem Low.refl (P : Params H) (D : List Bytes) (w : World σ H) : Low P D w w :=
  ⟨rfl, rfl, rfl, rfl, rfl, rfl, [], by simp, by simp⟩

theorem Low.trans {P : Params H} {D : List Bytes} {w1 w2 w3 : World σ H} (a : Low P D w1 w2) (b : Low P D w2 w3) :
    Low P D w1 w3 := by
  obtain ⟨es1, e1, g1⟩ := a.trace
  obtain ⟨es2, e2, g2⟩ := b.trace
  refine ⟨b.verifiers.trans a.verifiers, b.name.trans a.name, b.record.trans a.record, b.inited.trans a.inited,
    b.latest.trans a.latest, b.latestMsg.trans a.latestMsg, es1 ++ es2, by rw [e2, e1, List.append_assoc], ?_⟩
  intro e he
  rcases List.mem_append.mp he with h | h
  · exact g1 e h
  · have := g2 e h
    rwa [a.verifiers, a.name] at this

theorem low_readRemote (P : Params H) (D : List Bytes) (E : Env σ) (w : World σ H) (p : Bytes) :
    Low P D w (readRemote E w p).2 :=
  ⟨rfl, rfl, rfl, rfl, rfl, rfl, _, rfl, by simp [GoodEffect]⟩

theorem low_readCache (P : Params H) (D : List Bytes) (E : Env σ) (w : World σ H) (p : Bytes) :
    Low P D w (readCache E w p).2 :=
  ⟨rfl, rfl, rfl, rfl, rfl, rfl, _, rfl, by simp [GoodEffect]⟩

theorem low_readConfig (P : Params H) (D : List Bytes) (E : Env σ) (w : World σ H) (p : Bytes) :
    Low P D w (readConfig E w p).2 :=
  ⟨rfl, rfl, rfl, rfl, rfl, rfl, _, rfl, by simp [GoodEffect]⟩

theorem low_markTileSaved (P : Params H) (D : List Bytes) (w : World σ H) (t : Tile) :
    Low P D w (markTileSaved w t) :=
  ⟨rfl, rfl, rfl, rfl, rfl, rfl, [], by simp [markTileSaved], by simp⟩

theorem low_securityError (P : Params H) (D : List Bytes) (E : Env σ) (w : World σ H) (m : Bytes) :
    Low P D w (securityError E w m) :=
  ⟨rfl, rfl, rfl, rfl, rfl, rfl, _, rfl, by simp [GoodEffect]⟩

theorem low_writeCache (P : Params H) (D : List Bytes) (E : Env σ) (w : World σ H) (f d : Bytes)
    (h : GoodEffect P D w.c.verifiers w.c.name (.writeCache f d)) : Low P D w (writeCache E w f d) :=
  ⟨rfl, rfl, rfl, rfl, rfl, rfl, _, rfl, by simpa using h⟩

theorem TileOp.low (P : Params H) (D : List Bytes) {E : Env σ} {w w' : World σ H} (op : TileOp E (AuthTile P D) w w') :
    Low P D w w' := by
  cases op with
  | readCache t => exact low_readCache P D E _ _
  | readRemote t => exact low_readRemote P D E _ _
  | mark t => exact low_markTileSaved P D _ t
  | memo t r hr => exact ⟨rfl, rfl, rfl, rfl, rfl, rfl, [], by simp, by simp⟩
  | save t d h => exact low_writeCache P D E _ _ _ (Or.inr ⟨t, rfl, h⟩)

theorem Runs.low (P : Params H) (D : List Bytes) {E : Env σ} {w w' : World σ H} (h : Runs E (AuthTile P D) w w') :
    Low P D w w' :=
  h.lift (Low.refl P D) Low.trans (TileOp.low P D)

theorem lookup_zip_get {α : Type} : ∀ (tiles : List Tile) (xs : List α), tiles.Nodup →
    ∀ (i : Nat) (t : Tile) (x : α), tiles[i]? = some t → xs[i]? = some x → (tiles.zip xs).lookup t = some x := by
  intro tiles
  induction tiles with
  | nil => intro xs _ i t x h; simp at h
  | cons t0 ts ih =>
    intro xs hnd i t x h1 h2
    cases xs with
    | nil => simp at h2
    | cons x0 xr =>
      cases i with
      | zero =>
        simp only [List.getElem?_cons_zero, Option.some.injEq] at h1 h2
        subst h1 h2
        simp
      | succ k =>
        simp only [List.getElem?_cons_succ] at h1 h2
        have hne : t ≠ t0 := by
          intro e; subst e
          exact (List.nodup_cons.mp hnd).1 (List.mem_of_getElem? h1)
        simp only [List.zip_cons_cons, List.lookup]
        have : (t == t0) = false := by simpa using hne
        rw [this]
        exact ih xr (List.nodup_cons.mp hnd).2 k t x h1 h2

theorem bytesWidthsOk_spec (size : Nat) : ∀ (tiles : List Tile) (ds : List Bytes), bytesWidthsOk size tiles ds = true →
    ds.length = tiles.length ∧ ∀ td ∈ tiles.zip ds, td.2.length = td.1.w * size := by
  intro tiles
  induction tiles with
  | nil =>
    intro ds h
    cases ds with
    | nil => simp
    | cons d ds => simp [bytesWidthsOk] at h
  | cons t ts ih =>
    intro ds h
    cases ds with
    | nil => simp [bytesWidthsOk] at h
    | cons d dr =>
      simp only [bytesWidthsOk, Bool.and_eq_true, beq_iff_eq] at h
      obtain ⟨a, b⟩ := ih dr h.2
      refine ⟨by simp [a], ?_⟩
      intro td htd
      simp only [List.zip_cons_cons, List.mem_cons] at htd
      rcases htd with e | e
      · subst e; exact h.1
      · exact b td e

theorem store_exists (P : Params H) (D : List Bytes) (hD : D.length < 2 ^ 62) (n : Nat) :
    ∃ st, buildStore P.leaf P.node (D.take n) = .ok st := by
  obtain ⟨st, h, _⟩ := Props.C09.store_invariant P.leaf P.node P.empty (D.take n)
    (by rw [List.length_take]; have : 2 ^ 62 < 2 ^ 64 := by decide
        omega)
  exact ⟨st, h⟩

theorem tileHeight_pos (P : Params H) : 1 ≤ tileHeight P := by
  unfold tileHeight
  split
  · decide
  · rename_i h
    have : P.height ≠ 0 := by simpa using h
    omega

theorem readHashes_ok_inv {E : Env σ} (P : Params H) (w : World σ H) (tree : Head H) (idx : List Nat) (hs : List H)
    (h : (readHashes P E w tree idx).1 = .ok hs) :
    ∃ p, plan (tileHeight P) tree.n idx = .ok p ∧
      ((p.stx.isEmpty = true ∧ hs = []) ∨
       ∃ datas, bytesWidthsOk P.hashSize p.tiles datas = true ∧
        (Tile.readHashes P.node tree.n tree.hash (tileHeight P) idx
          (fun t => (p.tiles.zip (datas.map (decodeTile P))).lookup t)).result = .ok hs) := by
  simp only [readHashes] at h
  split at h
  · cases h
  · rename_i p hp
    refine ⟨p, hp, ?_⟩
    split at h
    · exact .inl ⟨‹_›, by cases h; rfl⟩
    · split at h
      · cases h
      · rename_i datas _
        split at h
        · cases h
        · rename_i hwd
          refine .inr ⟨datas, by simpa using hwd, ?_⟩
          have : ∀ x : Except Tlog.Err (List H), liftTlog x = .ok hs → x = .ok hs := by
            intro x hx; cases x <;> simp_all [liftTlog]
          split at h <;> exact this _ h

/-- C10 for a head of `D` -/
theorem authenticated_on_head (P : Params H) (D : List Bytes) (hD : D.length < 2 ^ 62)
    (hcf : ∀ a b c d : H, P.node a b = P.node c d → a = c ∧ b = d) (tree : Head H) (htree : IsHead P D tree)
    (idx : List Nat) (tiles : Tile → Option (List H)) :
    ∃ st, buildStore P.leaf P.node (D.take tree.n) = .ok st ∧
      (∀ hs, (Tile.readHashes P.node tree.n tree.hash (tileHeight P) idx tiles).result = .ok hs →
        idx.mapM (st[·]?) = some hs) ∧
      ∀ sv, (Tile.readHashes P.node tree.n tree.hash (tileHeight P) idx tiles).saved = some sv →
        ∀ td ∈ sv, trueTile st td.1 = some td.2 := by
  obtain ⟨st, hst⟩ := store_exists P D hD tree.n
  have hlen : (D.take tree.n).length = tree.n := by rw [List.length_take]; exact Nat.min_eq_left htree.1
  have hauth := Props.C10.readHashes_authenticated P.leaf P.node P.empty (D.take tree.n) st hst
    (by rw [hlen]; have := htree.1; omega) hcf (tileHeight P) (tileHeight_pos P) idx tiles
  have hroot : tree.hash = RFC6962.mth P.node P.empty ((D.take tree.n).map P.leaf) := htree.2
  rw [hlen, ← hroot] at hauth
  exact ⟨st, hst, hauth⟩

theorem savesOK_auth (P : Params H) (D : List Bytes) (hD : D.length < 2 ^ 62)
    (hcf : ∀ a b c d : H, P.node a b = P.node c d → a = c ∧ b = d) (tree : Head H) (htree : IsHead P D tree) :
    SavesOK P (AuthTile P D) tree := by
  intro idx p datas hp hwd hsv
  obtain ⟨st, hst, _, hsaved⟩ := authenticated_on_head P D hD hcf tree htree idx
    (fun t => (p.tiles.zip (datas.map (decodeTile P))).lookup t)
  obtain ⟨hdl, hdw⟩ := bytesWidthsOk_spec P.hashSize p.tiles datas hwd
  rcases TileAuth.readHashes_cases P.node tree.n tree.hash (tileHeight P) idx
    (fun t => (p.tiles.zip (datas.map (decodeTile P))).lookup t) with ⟨a1, _⟩ | ⟨p', data', b1, _, b3, _, _, b6, _⟩
  · exact absurd a1 hsv
  · rw [hp] at b1
    cases b1
    have hnd := (Props.C10.plan_parents_first (tileHeight P) tree.n (tileHeight_pos P) (by have := htree.1; omega) idx p hp).2.2.1
    have hm : p.tiles.mapM (fun t => (p.tiles.zip (datas.map (decodeTile P))).lookup t) =
        some (datas.map (decodeTile P)) := by
      apply TileAuth.mapM_option_of_get
      · simp [hdl]
      · intro i a hi
        have hilt : i < p.tiles.length := (List.getElem?_eq_some_iff.mp hi).1
        have hx : (datas.map (decodeTile P))[i]? = some ((datas.map (decodeTile P))[i]'(by simp [hdl, hilt])) :=
          List.getElem?_eq_getElem _
        exact ⟨_, hx, lookup_zip_get p.tiles _ hnd i a _ hi hx⟩
    rw [hm] at b3
    cases b3
    intro td htd
    obtain ⟨t, d⟩ := td
    have hmem : (t, decodeTile P d) ∈ p.tiles.zip (datas.map (decodeTile P)) := by
      rw [List.zip_map_right]
      exact List.mem_map.mpr ⟨(t, d), htd, rfl⟩
    exact ⟨tree.n, st, htree.1, hst, hsaved _ b6 (t, decodeTile P d) hmem, hdw (t, d) htd⟩

theorem readHashes_spec (P : Params H) (D : List Bytes) (hD : D.length < 2 ^ 62)
    (hcf : ∀ a b c d : H, P.node a b = P.node c d → a = c ∧ b = d)
    (E : Env σ) (w : World σ H) (tree : Head H) (htree : IsHead P D tree) (idx : List Nat) :
    Low P D w (readHashes P E w tree idx).2 ∧
    ∀ hs, (readHashes P E w tree idx).1 = .ok hs →
      ∃ st, buildStore P.leaf P.node (D.take tree.n) = .ok st ∧ idx.mapM (st[·]?) = some hs := by
  refine ⟨(runs_readHashes P w tree (savesOK_auth P D hD hcf tree htree) idx).low P D, ?_⟩
  intro hs h
  obtain ⟨p, hp, ⟨hstx, rfl⟩ | ⟨datas, _, hres⟩⟩ := readHashes_ok_inv P w tree idx hs h
  · obtain ⟨st, hst⟩ := store_exists P D hD tree.n
    have := (Tile.plan_stx_nil (tileHeight P) tree.n idx p hp (by simpa using hstx)).2
    subst this
    exact ⟨st, hst, rfl⟩
  · obtain ⟨st, hst, hauth, _⟩ := authenticated_on_head P D hD hcf tree htree idx
      (fun t => (p.tiles.zip (datas.map (decodeTile P))).lookup t)
    exact ⟨st, hst, hauth hs hres⟩

theorem treeHash_reader_congr (node : H → H → H) (empty : H) (n : Nat) (indexes : List Nat) (r r' : HashReader H)
    (hsub : subTreeIndex 0 n = .ok indexes) (hr : r indexes = r' indexes) :
    Tlog.treeHash node empty n r = Tlog.treeHash node empty n r' := by
  unfold Tlog.treeHash
  split
  · rfl
  · simp only [hsub, bind, Except.bind, readChecked, hr]

theorem rootAt_zero (P : Params H) (D : List Bytes) : rootAt P D 0 = P.empty := by
  simp [rootAt]

theorem rootAt_take (P : Params H) (D : List Bytes) (n m : Nat) (h : n ≤ m) :
    RFC6962.mth P.node P.empty (((D.take m).map P.leaf).take n) = rootAt P D n := by
  unfold rootAt
  rw [← List.map_take, List.take_take, Nat.min_eq_left h]

theorem treeHash_of_store (P : Params H) (D : List Bytes) (hD : D.length < 2 ^ 62) (n m : Nat) (hn : n ≤ m)
    (hm : m ≤ D.length) (st : List H) (hst : buildStore P.leaf P.node (D.take m) = .ok st) (indexes : List Nat)
    (hsub : subTreeIndex 0 n = .ok indexes) (hs : List H) (hmap : indexes.mapM (st[·]?) = some hs) :
    Tlog.treeHash P.node P.empty n (fun _ => some hs) = .ok (rootAt P D n) := by
  have hlen : (D.take m).length = m := by rw [List.length_take]; exact Nat.min_eq_left hm
  have h64 : (2:Nat) ^ 62 < 2 ^ 64 := by decide
  have h63 : (2:Nat) ^ 62 < 2 ^ 63 := by decide
  have hth := Props.C09.treeHash_eq_mth P.leaf P.node P.empty (D.take m) (by rw [hlen]; omega) st hst n
    (by rw [hlen]; exact hn) (by omega)
  rw [treeHash_reader_congr P.node P.empty n indexes (storeReader st) (fun _ => some hs) hsub
    (by simp only [storeReader]; exact hmap)] at hth
  rw [hth, rootAt_take P D n m hn]

theorem treeHashVia_spec (P : Params H) (D : List Bytes) (hD : D.length < 2 ^ 62)
    (hcf : ∀ a b c d : H, P.node a b = P.node c d → a = c ∧ b = d)
    (E : Env σ) (w : World σ H) (n : Nat) (tree : Head H) (htree : IsHead P D tree) (hn : n ≤ tree.n) (h : H)
    (hh : (treeHashVia P E w n tree).1 = .ok h) : h = rootAt P D n := by
  simp only [treeHashVia] at hh
  split at hh
  · rename_i h0
    have : n = 0 := by simpa using h0
    subst this
    rw [rootAt_zero]; exact (Except.ok.inj hh).symm
  · split at hh
    · cases hh
    · rename_i indexes hsub
      split at hh
      · cases hh
      · rename_i hs hr
        obtain ⟨st, hst, hm⟩ := (readHashes_spec P D hD hcf E w tree htree indexes).2 hs hr
        rw [treeHash_of_store P D hD n tree.n hn htree.1 st hst indexes hsub hs hm] at hh
        exact (Except.ok.inj hh).symm

/-- this is `ClientLatest.Sound.chk_ok` for this client -/
theorem checkTrees_spec (P : Params H) (D : List Bytes) (hD : D.length < 2 ^ 62)
    (hcf : ∀ a b c d : H, P.node a b = P.node c d → a = c ∧ b = d)
    (E : Env σ) (w : World σ H) (older : Head H) (olderNote : Bytes) (newer : Head H) (newerNote : Bytes)
    (hnewer : IsHead P D newer) (hle : older.n ≤ newer.n) :
    Low P D w (checkTrees P E w older olderNote newer newerNote).2 ∧
    ((checkTrees P E w older olderNote newer newerNote).1 = .ok () → IsHead P D older) := by
  constructor
  · rcases runs_checkTrees (E := E) P w older olderNote newer newerNote (savesOK_auth P D hD hcf newer hnewer)
      with h | ⟨_, w1, _, _, h, e⟩
    · exact h.low P D
    · rw [e]; exact (h.low P D).trans (low_securityError P D E _ _)
  · intro hok
    simp only [checkTrees] at hok
    split at hok
    · cases hok
    · rename_i h hr
      split at hok
      · rename_i heq
        exact ⟨Nat.le_trans hle hnewer.1, heq ▸ treeHashVia_spec P D hD hcf E w older.n newer hnewer hle h hr⟩
      · cases hok

/-- what holds of the client between any two steps once the verifier is installed -/
structure Core (P : Params H) (D : List Bytes) (w : World σ H) : Prop where
  sig : SigSound P D w.c.verifiers
  latest : IsHead P D w.c.latest
  latestMsg : w.c.latest.n ≠ 0 → openTree P w.c.verifiers w.c.latestMsg = .ok w.c.latest
  record : ∀ f data, (f, Except.ok data) ∈ w.c.record → AuthResponse P D w.c.verifiers data
  trace : ∀ e ∈ w.tr, GoodEffect P D w.c.verifiers w.c.name e

/-- frame of `mergeLatest`: the head may move -/
structure Mid (P : Params H) (D : List Bytes) (w w' : World σ H) : Prop where
  verifiers : w'.c.verifiers = w.c.verifiers
  name : w'.c.name = w.c.name
  record : w'.c.record = w.c.record
  inited : w'.c.inited = w.c.inited
  trace : ∃ es, w'.tr = w.tr ++ es ∧ ∀ e ∈ es, GoodEffect P D w.c.verifiers w.c.name e

theorem Mid.refl (P : Params H) (D : List Bytes) (w : World σ H) : Mid P D w w :=
  ⟨rfl, rfl, rfl, rfl, [], by simp, by simp⟩

theorem Low.mid {P : Params H} {D : List Bytes} {w w' : World σ H} (l : Low P D w w') : Mid P D w w' :=
  ⟨l.verifiers, l.name, l.record, l.inited, l.trace⟩

theorem Mid.trans {P : Params H} {D : List Bytes} {w1 w2 w3 : World σ H} (a : Mid P D w1 w2) (b : Mid P D w2 w3) :
    Mid P D w1 w3 := by
  obtain ⟨es1, e1, g1⟩ := a.trace
  obtain ⟨es2, e2, g2⟩ := b.trace
  refine ⟨b.verifiers.trans a.verifiers, b.name.trans a.name, b.record.trans a.record, b.inited.trans a.inited,
    es1 ++ es2, by rw [e2, e1, List.append_assoc], ?_⟩
  intro e he
  rcases List.mem_append.mp he with h | h
  · exact g1 e h
  · have := g2 e h
    rwa [a.verifiers, a.name] at this

theorem Core.low {P : Params H} {D : List Bytes} {w w' : World σ H} (c : Core P D w) (l : Low P D w w') : Core P D w' := by
  obtain ⟨es, e, g⟩ := l.trace
  refine ⟨by rw [l.verifiers]; exact c.sig, by rw [l.latest]; exact c.latest,
    by rw [l.latest, l.verifiers, l.latestMsg]; exact c.latestMsg,
    by rw [l.record, l.verifiers]; exact c.record, ?_⟩
  rw [e, l.verifiers, l.name]
  intro x hx
  rcases List.mem_append.mp hx with h | h
  · exact c.trace x h
  · exact g x h

theorem mergeLatestMem_spec (P : Params H) (D : List Bytes) (hD : D.length < 2 ^ 62)
    (hcf : ∀ a b c d : H, P.node a b = P.node c d → a = c ∧ b = d)
    (E : Env σ) (w : World σ H) (hc : Core P D w) (msg : Bytes) :
    Core P D (mergeLatestMem P E w msg).2 ∧ Mid P D w (mergeLatestMem P E w msg).2 ∧
    ((mergeLatestMem P E w msg).1 = .ok .past →
      (mergeLatestMem P E w msg).2.c.latest.n ≠ 0 ∧
      (msg = [] ∨ ∃ ho, openTree P w.c.verifiers msg = .ok ho ∧ ho.n < (mergeLatestMem P E w msg).2.c.latest.n)) ∧
    (∀ wh, (mergeLatestMem P E w msg).1 = .ok wh → msg = [] ∨ ∃ ho, openTree P w.c.verifiers msg = .ok ho) := by
  generalize hr : mergeLatestMem P E w msg = r
  simp only [mergeLatestMem] at hr
  by_cases hm : msg.isEmpty = true
  · rw [if_pos hm] at hr
    subst hr
    have hnil : msg = [] := by simpa using hm
    refine ⟨hc, Mid.refl P D w, ?_, fun _ _ => Or.inl hnil⟩
    intro h
    simp only [Except.ok.injEq] at h
    refine ⟨?_, Or.inl hnil⟩
    intro h0
    simp only at h0
    rw [h0] at h
    simp at h
  · rw [if_neg hm] at hr
    cases ho : openTree P w.c.verifiers msg with
    | error e =>
      rw [ho] at hr; simp only at hr; subst hr
      exact ⟨hc, Mid.refl P D w, (by intro h; cases h), (by intro wh h; cases h)⟩
    | ok tree =>
      rw [ho] at hr; simp only at hr
      have htree : IsHead P D tree := hc.sig msg tree ho
      by_cases hle : tree.n ≤ w.c.latest.n
      · rw [if_pos hle] at hr
        obtain ⟨lw, _⟩ := checkTrees_spec P D hD hcf E w tree msg w.c.latest w.c.latestMsg hc.latest hle
        cases hk : (checkTrees P E w tree msg w.c.latest w.c.latestMsg).1 with
        | error e =>
          rw [hk] at hr; simp only at hr; subst hr
          exact ⟨hc.low lw, lw.mid, (by intro h; cases h), (by intro wh h; cases h)⟩
        | ok u =>
          rw [hk] at hr; simp only at hr; subst hr
          refine ⟨hc.low lw, lw.mid, ?_, fun _ _ => Or.inr ⟨tree, rfl⟩⟩
          intro h
          simp only [Except.ok.injEq] at h
          simp only
          rw [lw.latest]
          by_cases hlt : tree.n < w.c.latest.n
          · exact ⟨by omega, Or.inr ⟨tree, rfl, hlt⟩⟩
          · rw [if_neg hlt] at h; cases h
      · rw [if_neg hle] at hr
        obtain ⟨lw, _⟩ := checkTrees_spec P D hD hcf E w w.c.latest w.c.latestMsg tree msg htree (by omega)
        cases hk : (checkTrees P E w w.c.latest w.c.latestMsg tree msg).1 with
        | error e =>
          rw [hk] at hr; simp only at hr; subst hr
          exact ⟨hc.low lw, lw.mid, (by intro h; cases h), (by intro wh h; cases h)⟩
        | ok u =>
          rw [hk] at hr; simp only at hr; subst hr
          have hc' := hc.low lw
          refine ⟨⟨hc'.sig, htree, ?_, hc'.record, hc'.trace⟩,
            ⟨lw.verifiers, lw.name, lw.record, lw.inited, lw.trace⟩, (by intro h; cases h), fun _ _ => Or.inr ⟨tree, rfl⟩⟩
          intro _
          show openTree P (checkTrees P E w w.c.latest w.c.latestMsg tree msg).2.c.verifiers msg = .ok tree
          rw [lw.verifiers]; exact ho

theorem low_writeConfig (P : Params H) (D : List Bytes) (E : Env σ) (w : World σ H) (f o n : Bytes)
    (h : ∀ r, GoodEffect P D w.c.verifiers w.c.name (.writeConfig f o n r)) : Low P D w (writeConfig E w f o n).2 :=
  ⟨rfl, rfl, rfl, rfl, rfl, rfl, _, rfl, by simpa using h _⟩

theorem mergeLatestLoop_spec (P : Params H) (D : List Bytes) (hD : D.length < 2 ^ 62)
    (hcf : ∀ a b c d : H, P.node a b = P.node c d → a = c ∧ b = d) (E : Env σ) :
    ∀ (f : Nat) (w : World σ H), Core P D w →
      Core P D (mergeLatestLoop P E f w).2 ∧ Mid P D w (mergeLatestLoop P E f w).2 := by
  intro f
  induction f with
  | zero => intro w hc; exact ⟨hc, Mid.refl P D w⟩
  | succ f ih =>
    intro w hc
    generalize hr : mergeLatestLoop P E (f + 1) w = r
    simp only [mergeLatestLoop] at hr
    have l1 := low_readConfig P D E w (latestFile w.c.name)
    have c1 := hc.low l1
    cases hcfg : (readConfig E w (latestFile w.c.name)).1 with
    | none => rw [hcfg] at hr; simp only at hr; subst hr; exact ⟨c1, l1.mid⟩
    | some msg =>
      rw [hcfg] at hr; simp only at hr
      obtain ⟨c2, m2, hpast, _⟩ := mergeLatestMem_spec P D hD hcf E _ c1 msg
      cases hm : (mergeLatestMem P E (readConfig E w (latestFile w.c.name)).2 msg).1 with
      | error e => rw [hm] at hr; simp only at hr; subst hr; exact ⟨c2, l1.mid.trans m2⟩
      | ok wh =>
        rw [hm] at hr; simp only at hr
        by_cases hw : (wh != When.past) = true
        · rw [if_pos hw] at hr; subst hr; exact ⟨c2, l1.mid.trans m2⟩
        · rw [if_neg hw] at hr
          have hwp : wh = .past := by simpa using hw
          subst hwp
          obtain ⟨hn0, hold⟩ := hpast hm
          have l3 := low_writeConfig P D E (mergeLatestMem P E (readConfig E w (latestFile w.c.name)).2 msg).2
            (latestFile (mergeLatestMem P E (readConfig E w (latestFile w.c.name)).2 msg).2.c.name) msg
            (mergeLatestMem P E (readConfig E w (latestFile w.c.name)).2 msg).2.c.latestMsg (by
              intro r
              refine ⟨_, c2.latestMsg hn0, c2.latest, ?_⟩
              rw [m2.verifiers]
              exact hold)
          have c3 := c2.low l3
          have m3 := (l1.mid.trans m2).trans l3.mid
          cases hwr : (writeConfig E (mergeLatestMem P E (readConfig E w (latestFile w.c.name)).2 msg).2
            (latestFile (mergeLatestMem P E (readConfig E w (latestFile w.c.name)).2 msg).2.c.name) msg
            (mergeLatestMem P E (readConfig E w (latestFile w.c.name)).2 msg).2.c.latestMsg).1 with
          | ok => rw [hwr] at hr; simp only at hr; subst hr; exact ⟨c3, m3⟩
          | error => rw [hwr] at hr; simp only at hr; subst hr; exact ⟨c3, m3⟩
          | conflict =>
            rw [hwr] at hr; simp only at hr; subst hr
            obtain ⟨c4, m4⟩ := ih _ c3
            exact ⟨c4, m3.trans m4⟩

theorem mergeLatest_spec (P : Params H) (D : List Bytes) (hD : D.length < 2 ^ 62)
    (hcf : ∀ a b c d : H, P.node a b = P.node c d → a = c ∧ b = d)
    (E : Env σ) (w : World σ H) (hc : Core P D w) (msg : Bytes) :
    Core P D (mergeLatest P E w msg).2 ∧ Mid P D w (mergeLatest P E w msg).2 ∧
    ((mergeLatest P E w msg).1 = .ok () → msg = [] ∨ ∃ ho, openTree P w.c.verifiers msg = .ok ho) := by
  generalize hr : mergeLatest P E w msg = r
  simp only [mergeLatest] at hr
  obtain ⟨c1, m1, _, hacc⟩ := mergeLatestMem_spec P D hD hcf E w hc msg
  cases hm : (mergeLatestMem P E w msg).1 with
  | error e => rw [hm] at hr; simp only at hr; subst hr; exact ⟨c1, m1, by intro h; cases h⟩
  | ok wh =>
    rw [hm] at hr; simp only at hr
    by_cases hw : (wh != When.future) = true
    · rw [if_pos hw] at hr; subst hr; exact ⟨c1, m1, fun _ => hacc wh hm⟩
    · rw [if_neg hw] at hr; subst hr
      obtain ⟨c2, m2⟩ := mergeLatestLoop_spec P D hD hcf E P.retries _ c1
      exact ⟨c2, m1.trans m2, fun _ => hacc wh hm⟩

theorem mapM_single {α β : Type} (f : α → Option β) (a : α) (bs : List β) (h : [a].mapM f = some bs) :
    ∃ b, f a = some b ∧ bs = [b] := by
  rw [List.mapM_cons] at h
  cases hf : f a with
  | none => simp [hf] at h
  | some b =>
    simp only [hf, List.mapM_nil] at h
    exact ⟨b, rfl, by simpa using h.symm⟩

theorem store_leaf (P : Params H) (D : List Bytes) (hD : D.length < 2 ^ 62) (n : Nat) (hn : n ≤ D.length) (st : List H)
    (hst : buildStore P.leaf P.node (D.take n) = .ok st) (id : Nat) (hid : id < n) (r : Bytes) (hr : D[id]? = some r) :
    st[storedHashIndex 0 id]? = some (P.leaf r) := by
  have hlen : (D.take n).length = n := by rw [List.length_take]; exact Nat.min_eq_left hn
  have h64 : (2:Nat) ^ 62 < 2 ^ 64 := by decide
  have hget := Props.C09.store_get P.leaf P.node P.empty _ (by rw [hlen]; omega) st hst 0 id (by rw [hlen]; omega)
  have hjl : id < ((D.take n).map P.leaf).length := by rw [List.length_map, hlen]; exact hid
  rw [TlogStore.leavesOf_zero _ _ hjl] at hget
  simp only [TlogStore.mth_singleton] at hget
  rw [hget]
  have hidD : id < D.length := by omega
  rw [List.getElem?_eq_getElem hidD] at hr
  simp [List.getElem_take, Option.some.inj hr]

theorem checkRecord_spec (P : Params H) (D : List Bytes) (hD : D.length < 2 ^ 62)
    (hcf : ∀ a b c d : H, P.node a b = P.node c d → a = c ∧ b = d)
    (E : Env σ) (w : World σ H) (hc : Core P D w) (id : Int) (text : Bytes) :
    Low P D w (checkRecord P E w id text).2 ∧
    ((checkRecord P E w id text).1 = .ok () → ∃ r, D[recIndex id]? = some r ∧ P.leaf text = P.leaf r) := by
  generalize hr : checkRecord P E w id text = r
  simp only [checkRecord] at hr
  by_cases hid : id ≥ (w.c.latest.n : Int)
  · rw [if_pos hid] at hr; subst hr; exact ⟨Low.refl P D w, by intro h; cases h⟩
  · rw [if_neg hid] at hr
    have hidx : (if id < 0 then 0 else storedHashIndex 0 id.toNat) = storedHashIndex 0 (recIndex id) := by
      unfold recIndex
      split
      · rfl
      · rfl
    rw [hidx] at hr
    obtain ⟨lw, hres⟩ := readHashes_spec P D hD hcf E w w.c.latest hc.latest [storedHashIndex 0 (recIndex id)]
    cases hh : (readHashes P E w w.c.latest [storedHashIndex 0 (recIndex id)]).1 with
    | error e => rw [hh] at hr; simp only at hr; subst hr; exact ⟨lw, by intro h; cases h⟩
    | ok hs =>
      rw [hh] at hr; simp only at hr
      obtain ⟨st, hst, hm⟩ := hres hs hh
      obtain ⟨b, hb, hbs⟩ := mapM_single _ _ _ hm
      subst hbs
      simp only at hr
      by_cases heq : b = P.leaf text
      · rw [if_pos heq] at hr; subst hr
        refine ⟨lw, fun _ => ?_⟩
        have hn := hc.latest.1
        have hlen : (D.take w.c.latest.n).length = w.c.latest.n := by rw [List.length_take]; exact Nat.min_eq_left hn
        have hb64 : (D.take w.c.latest.n).length < 2 ^ 64 := by
          rw [hlen]; have : (2:Nat) ^ 62 < 2 ^ 64 := by decide
          omega
        -- the record number is inside the authenticated tree
        have hj : recIndex id < w.c.latest.n := by
          unfold recIndex
          split
          · -- negative id: position 0 exists in the store, so the tree is not empty
            have hl := (Props.C09.store_invariant_of_ok P.leaf P.node P.empty _ hb64 st hst).1
            rw [hlen] at hl
            apply Nat.pos_of_ne_zero
            intro h0
            rw [h0] at hl
            have : st = [] := List.eq_nil_of_length_eq_zero (by simpa [storedHashCount] using hl)
            subst this
            unfold recIndex at hb
            simp at hb
          · omega
        have hr := store_leaf P D hD _ hn st hst (recIndex id) hj _ (List.getElem?_eq_getElem (by omega))
        rw [hb] at hr
        exact ⟨D[recIndex id]'(by omega), List.getElem?_eq_getElem _, by rw [← heq, Option.some.inj hr]⟩
      · rw [if_neg heq] at hr; subst hr; exact ⟨lw, by intro h; cases h⟩

theorem lookupValidate_spec (P : Params H) (D : List Bytes) (hD : D.length < 2 ^ 62)
    (hcf : ∀ a b c d : H, P.node a b = P.node c d → a = c ∧ b = d)
    (E : Env σ) (w0 w : World σ H) (hm0 : Mid P D w0 w) (hc : Core P D w) (file data : Bytes) (wc : Bool) :
    Core P D (lookupValidate P E w file data wc).2 ∧ Mid P D w0 (lookupValidate P E w file data wc).2 ∧
    (∀ d, (lookupValidate P E w file data wc).1 = .ok d → AuthResponse P D w0.c.verifiers d) := by
  generalize hr : lookupValidate P E w file data wc = r
  simp only [lookupValidate] at hr
  cases hp : TlogNote.parseRecord data with
  | none => rw [hp] at hr; simp only at hr; subst hr; exact ⟨hc, hm0, by intro d h; cases h⟩
  | some x =>
    obtain ⟨id, text, treeMsg⟩ := x
    rw [hp] at hr; simp only at hr
    obtain ⟨c1, m1, hacc⟩ := mergeLatest_spec P D hD hcf E w hc treeMsg
    cases hm : (mergeLatest P E w treeMsg).1 with
    | error e => rw [hm] at hr; simp only at hr; subst hr; exact ⟨c1, hm0.trans m1, by intro d h; cases h⟩
    | ok u =>
      rw [hm] at hr; simp only at hr
      obtain ⟨l2, hrec⟩ := checkRecord_spec P D hD hcf E _ c1 id text
      have c2 := c1.low l2
      have m2 := (hm0.trans m1).trans l2.mid
      cases hk : (checkRecord P E (mergeLatest P E w treeMsg).2 id text).1 with
      | error e => rw [hk] at hr; simp only at hr; subst hr; exact ⟨c2, m2, by intro d h; cases h⟩
      | ok u2 =>
        rw [hk] at hr; simp only at hr
        have hauth : AuthResponse P D w.c.verifiers data := ⟨id, text, treeMsg, hp, hrec hk, hacc hm⟩
        have hauth0 : AuthResponse P D w0.c.verifiers data := by rw [← hm0.verifiers]; exact hauth
        cases wc with
        | false =>
          simp only [Bool.false_eq_true, if_false] at hr; subst hr
          exact ⟨c2, m2, by intro d h; simp only [Except.ok.injEq] at h; subst h; exact hauth0⟩
        | true =>
          simp only [if_true] at hr; subst hr
          have l3 := low_writeCache P D E (checkRecord P E (mergeLatest P E w treeMsg).2 id text).2 file data
            (Or.inl (by rw [l2.verifiers, m1.verifiers]; exact hauth))
          exact ⟨c2.low l3, m2.trans l3.mid, by intro d h; simp only [Except.ok.injEq] at h; subst h; exact hauth0⟩

theorem lookupWork_spec (P : Params H) (D : List Bytes) (hD : D.length < 2 ^ 62)
    (hcf : ∀ a b c d : H, P.node a b = P.node c d → a = c ∧ b = d)
    (E : Env σ) (w : World σ H) (hc : Core P D w) (file remotePath : Bytes) :
    Core P D (lookupWork P E w file remotePath).2 ∧ Mid P D w (lookupWork P E w file remotePath).2 ∧
    (∀ d, (lookupWork P E w file remotePath).1 = .ok d → AuthResponse P D w.c.verifiers d) := by
  rw [lookupWork_eq]
  have l1 := low_readCache P D E w file
  have l2 := l1.trans (low_readRemote P D E _ remotePath)
  rcases lwGot_cases E w file remotePath with ⟨data, _, e⟩ | ⟨data, _, _, e⟩ | ⟨_, _, e⟩ <;> rw [e]
  · exact lookupValidate_spec P D hD hcf E w _ l1.mid (hc.low l1) file data false
  · exact lookupValidate_spec P D hD hcf E w _ l2.mid (hc.low l2) file data true
  · exact ⟨hc.low l2, l2.mid, by intro d h; cases h⟩

/-! ### signature soundness of the verifier list (C07 `open_sound`) -/

theorem verifierList_single_found (v k : Note.Verifier) (name : Bytes) (hash : UInt32)
    (h : Note.VerifierList [v] name hash = .found k) : k = v := by
  unfold Note.VerifierList at h
  by_cases hc : (v.name == name && v.hash == hash) = true
  · simp only [List.filter_cons, hc, if_true, List.filter_nil] at h
    cases h; rfl
  · simp only [List.filter_cons, hc, List.filter_nil] at h
    cases h

theorem verifierList_nil_not_found (k : Note.Verifier) (name : Bytes) (hash : UInt32) :
    Note.VerifierList [] name hash ≠ .found k := by
  unfold Note.VerifierList
  simp

theorem sigSound_nil (P : Params H) (D : List Bytes) : SigSound P D [] := by
  intro msg hd h
  unfold openTree at h
  cases ho : Note.Open msg (Note.VerifierList []) with
  | error e => simp [ho] at h
  | ok nt =>
    obtain ⟨hne, _, hver⟩ := Props.C07.open_sound ho
    cases hs : nt.sigs with
    | nil => exact absurd hs hne
    | cons s rest =>
      obtain ⟨k, raw, hk, _⟩ := hver s (by rw [hs]; exact List.mem_cons_self ..)
      exact absurd hk (verifierList_nil_not_found k _ _)

/-- composition with C07 -/
theorem sigSound_of_verifierSound (P : Params H) (D : List Bytes) (v : Note.Verifier) (hv : VerifierSound P D v) :
    SigSound P D [v] := by
  intro msg hd h
  unfold openTree at h
  cases ho : Note.Open msg (Note.VerifierList [v]) with
  | error e => simp [ho] at h
  | ok nt =>
    simp only [ho] at h
    cases hp : TlogNote.parseTree nt.text with
    | none => simp [hp] at h
    | some t =>
      simp only [hp, Except.ok.injEq] at h
      subst h
      obtain ⟨hne, _, hver⟩ := Props.C07.open_sound ho
      cases hs : nt.sigs with
      | nil => exact absurd hs hne
      | cons s rest =>
        obtain ⟨k, raw, hk, _, _, _, _, _, hvf⟩ := hver s (by rw [hs]; exact List.mem_cons_self ..)
        have := verifierList_single_found v k _ _ hk
        subst this
        exact hv nt.text (raw.drop 4) t hvf hp

/-- the client before `init` has run -/
structure Pristine (P : Params H) (w : World σ H) : Prop where
  tr : w.tr = []
  latest : w.c.latest = ⟨0, P.empty⟩
  record : w.c.record = []
  verifiers : w.c.verifiers = []

/-- the invariant between two calls of `Lookup` -/
structure Inv (P : Params H) (D : List Bytes) (w : World σ H) : Prop where
  core : Core P D w
  pristine : w.c.inited = none → Pristine P w

theorem isHead_zero (P : Params H) (D : List Bytes) : IsHead P D ⟨0, P.empty⟩ :=
  ⟨Nat.zero_le _, (rootAt_zero P D).symm⟩

theorem inv_newClient (P : Params H) (D : List Bytes) (s : σ) : Inv P D ⟨s, newClient P, []⟩ := by
  refine ⟨⟨sigSound_nil P D, isHead_zero P D, by intro h; exact absurd rfl h, by intro f d h; simp [newClient] at h,
    by intro e h; simp at h⟩, fun _ => ⟨rfl, rfl, rfl, rfl⟩⟩

theorem core_setInit {P : Params H} {D : List Bytes} {w : World σ H} (c : Core P D w) (e : Option Err) :
    Core P D (setInit w e) :=
  ⟨c.sig, c.latest, c.latestMsg, c.record, c.trace⟩

theorem initWork_spec (P : Params H) (D : List Bytes) (hD : D.length < 2 ^ 62)
    (hcf : ∀ a b c d : H, P.node a b = P.node c d → a = c ∧ b = d)
    (E : Env σ) (hkey : KeySound P D E) (w : World σ H) (hp : Pristine P w) :
    Core P D (initWork P E w) ∧ (initWork P E w).c.inited ≠ none := by
  generalize hr : initWork P E w = r
  simp only [initWork] at hr
  have hc0 : Core P D w := by
    refine ⟨by rw [hp.verifiers]; exact sigSound_nil P D, by rw [hp.latest]; exact isHead_zero P D,
      by rw [hp.latest]; intro h; exact absurd rfl h, by rw [hp.record]; intro f d h; simp at h,
      by rw [hp.tr]; intro e h; simp at h⟩
  have l1 := low_readConfig P D E w (B "key")
  have c1 := hc0.low l1
  cases hk : (readConfig E w (B "key")).1 with
  | none => rw [hk] at hr; simp only at hr; subst hr; exact ⟨core_setInit c1 _, by simp [setInit]⟩
  | some vkey =>
    rw [hk] at hr; simp only at hr
    cases hv : Note.NewVerifier P.sha P.edVerify (GoStrings.trimSpace vkey) with
    | error e => rw [hv] at hr; simp only at hr; subst hr; exact ⟨core_setInit c1 _, by simp [setInit]⟩
    | ok v =>
      rw [hv] at hr; simp only at hr
      have hvs : VerifierSound P D v := hkey w.s vkey v hk hv
      have c2 : Core P D ({ (readConfig E w (B "key")).2 with
          c := { (readConfig E w (B "key")).2.c with verifiers := [v], name := v.name } } : World σ H) := by
        refine ⟨sigSound_of_verifierSound P D v hvs, c1.latest, ?_, ?_, ?_⟩
        · intro h
          exfalso
          apply h
          show (readConfig E w (B "key")).2.c.latest.n = 0
          rw [l1.latest, hp.latest]
        · intro f d h
          have : (readConfig E w (B "key")).2.c.record = [] := by rw [l1.record, hp.record]
          simp only [this] at h
          simp at h
        · intro e he
          have : (readConfig E w (B "key")).2.tr = [Effect.read .config (B "key") (E.readConfig w.s (B "key")).1.isSome] := by
            simp [readConfig, hp.tr]
          simp only [this, List.mem_singleton] at he
          subst he
          trivial
      have l3 := low_readConfig P D E ({ (readConfig E w (B "key")).2 with
          c := { (readConfig E w (B "key")).2.c with verifiers := [v], name := v.name } } : World σ H) (latestFile v.name)
      have c3 := c2.low l3
      cases hl : (readConfig E ({ (readConfig E w (B "key")).2 with
          c := { (readConfig E w (B "key")).2.c with verifiers := [v], name := v.name } } : World σ H) (latestFile v.name)).1 with
      | none => rw [hl] at hr; simp only at hr; subst hr; exact ⟨core_setInit c3 _, by simp [setInit]⟩
      | some data =>
        rw [hl] at hr; simp only at hr
        obtain ⟨c4, _, _⟩ := mergeLatest_spec P D hD hcf E _ c3 data
        cases hm : (mergeLatest P E (readConfig E ({ (readConfig E w (B "key")).2 with
          c := { (readConfig E w (B "key")).2.c with verifiers := [v], name := v.name } } : World σ H) (latestFile v.name)).2 data).1 with
        | error e => rw [hm] at hr; simp only at hr; subst hr; exact ⟨core_setInit c4 _, by simp [setInit]⟩
        | ok u => rw [hm] at hr; simp only at hr; subst hr; exact ⟨core_setInit c4 _, by simp [setInit]⟩

theorem init_spec (P : Params H) (D : List Bytes) (hD : D.length < 2 ^ 62)
    (hcf : ∀ a b c d : H, P.node a b = P.node c d → a = c ∧ b = d)
    (E : Env σ) (hkey : KeySound P D E) (w : World σ H) (hi : Inv P D w) :
    Core P D (init P E w) ∧ (init P E w).c.inited ≠ none := by
  unfold init
  cases h : w.c.inited with
  | some x => simp only; exact ⟨hi.core, by rw [h]; simp⟩
  | none => simp only; exact initWork_spec P D hD hcf E hkey w (hi.pristine h)

theorem lookup_mem {α β : Type} [BEq α] [LawfulBEq α] : ∀ (l : List (α × β)) (k : α) (v : β), l.lookup k = some v → (k, v) ∈ l := by
  intro l
  induction l with
  | nil => intro k v h; simp at h
  | cons x rest ih =>
    intro k v h
    obtain ⟨k0, v0⟩ := x
    simp only [List.lookup] at h
    by_cases hk : (k == k0) = true
    · simp only [hk] at h
      have : k = k0 := by simpa using hk
      cases h; subst this
      exact List.mem_cons_self ..
    · have hk' : (k == k0) = false := by simpa using hk
      simp only [hk'] at h
      exact List.mem_cons_of_mem _ (ih k v h)

theorem lookup_spec (P : Params H) (D : List Bytes) (hD : D.length < 2 ^ 62)
    (hcf : ∀ a b c d : H, P.node a b = P.node c d → a = c ∧ b = d)
    (E : Env σ) (hkey : KeySound P D E) (w : World σ H) (hi : Inv P D w) (path vers : Bytes) :
    Inv P D (lookup P E w path vers).2 ∧
    ∀ lines, (lookup P E w path vers).1 = .ok lines →
      ∃ data, AuthResponse P D (lookup P E w path vers).2.c.verifiers data ∧
        lines = filterLines (path ++ [32] ++ vers ++ [32]) data := by
  rw [ClientFetch.lookup_eq_via_lookupFile]
  split
  · exact ⟨hi, nofun⟩
  · obtain ⟨c1, hin⟩ := init_spec P D hD hcf E hkey w hi
    have inv1 : Inv P D (init P E w) := ⟨c1, fun h => absurd h hin⟩
    simp only
    split
    · exact ⟨inv1, nofun⟩
    · split
      · exact ⟨inv1, nofun⟩
      · rename_i file _
        cases hlk : (init P E w).c.record.lookup file with
        | some res =>
          cases res with
          | error e => exact ⟨inv1, nofun⟩
          | ok data =>
            exact ⟨inv1, fun l h => ⟨data, c1.record _ data (lookup_mem _ _ _ hlk), (Except.ok.inj h).symm⟩⟩
        | none =>
          simp only
          obtain ⟨c2, m2, hauth⟩ := lookupWork_spec P D hD hcf E (init P E w) c1 file
            (file.drop (init P E w).c.name.length)
          generalize lookupWork P E (init P E w) file (file.drop (init P E w).c.name.length) = r at c2 m2 hauth ⊢
          -- the world after recording the result in c.record
          have c3 : Core P D ({ r.2 with c := { r.2.c with record := (file, r.1) :: r.2.c.record } } : World σ H) := by
            refine ⟨c2.sig, c2.latest, c2.latestMsg, ?_, c2.trace⟩
            intro f d hmem
            simp only [List.mem_cons, Prod.mk.injEq] at hmem
            rcases hmem with ⟨_, h2⟩ | h2
            · exact m2.verifiers ▸ hauth d h2.symm
            · exact c2.record f d h2
          have inv3 : Inv P D ({ r.2 with c := { r.2.c with record := (file, r.1) :: r.2.c.record } } : World σ H) :=
            ⟨c3, fun h => absurd (m2.inited ▸ h) hin⟩
          obtain ⟨r1, r2⟩ := r
          cases r1 with
          | error e => exact ⟨inv3, nofun⟩
          | ok data =>
            exact ⟨inv3, fun l h => ⟨data, m2.verifiers ▸ hauth data rfl, (Except.ok.inj h).symm⟩⟩

/-! ### the hypothesis in the wording of DESIGN §6: "every text the key verifies is `formatTree` of a head of `D`" -/

/-- hypothesis (i) of C01 in the `FormatTree` wording, for one verifier -/
theorem verifierSound_of_formatTree (P : Params H) (D : List Bytes) (v : Note.Verifier)
    (hD : (D.length : Int) ≤ Decimal.int64Max)
    (henc : ∀ h, (P.enc h).length = 32) (hdec : ∀ h, P.dec (P.enc h) = h)
    (hv : ∀ text sig, v.verify text sig = true →
      ∃ n, n ≤ D.length ∧ text = TlogNote.formatTree ⟨(n : Int), P.enc (rootAt P D n)⟩) :
    VerifierSound P D v := by
  intro text sig t hver hp
  obtain ⟨n, hn, ht⟩ := hv text sig hver
  subst ht
  rw [Props.C09.parseTree_formatTree ⟨(n : Int), P.enc (rootAt P D n)⟩ (by simp) (by simp only; omega) (henc _)] at hp
  cases hp
  exact ⟨by simpa using hn, by simp [hdec]⟩

def runLookups (P : Params H) (E : Env σ) : World σ H → List (Bytes × Bytes) → World σ H
  | w, [] => w
  | w, q :: qs => runLookups P E (lookup P E w q.1 q.2).2 qs

theorem inv_runLookups (P : Params H) (D : List Bytes) (hD : D.length < 2 ^ 62)
    (hcf : ∀ a b c d : H, P.node a b = P.node c d → a = c ∧ b = d)
    (E : Env σ) (hkey : KeySound P D E) :
    ∀ (qs : List (Bytes × Bytes)) (w : World σ H), Inv P D w → Inv P D (runLookups P E w qs) := by
  intro qs
  induction qs with
  | nil => intro w h; exact h
  | cons q qs ih => intro w h; exact ih _ (lookup_spec P D hD hcf E hkey w h q.1 q.2).1

end
end ModVerif.Client
