/-
  The statement loop of `parseToFile` (strict mode) and `ParseWork`: if no error is reported, the typed entries
  created are paired one to one, in file order, with the live lines of the rewritten tree, each line being the rendering
  of its entry (`Paired`); every block carries a single verb token; over a parsed tree the result is well formed and
  matched (`walkStmts_parsed`).
-/
import ModVerif.Proofs.EditMoreStartA
import ModVerif.Proofs.ModfileWalk
namespace ModVerif.Modfile.Edit
open ModVerif ModVerif.Modfile ModVerif.Proofs.ModfileC20 ModVerif.Proofs.EditMore

def PairV (en : Ent) (v : VLine) : Prop := v.id = en.id ∧ en.acc v.toks v.suffix

def Paired : List Ent → List VLine → Prop
  | [], [] => True
  | en :: es, v :: vs => PairV en v ∧ Paired es vs
  | _, _ => False

theorem Paired.append : ∀ {es es' : List Ent} {vs vs' : List VLine}, Paired es vs → Paired es' vs' → Paired (es ++ es') (vs ++ vs')
  | [], _, [], _, _, h2 => h2
  | _ :: _, _, _ :: _, _, h1, h2 => ⟨h1.1, Paired.append h1.2 h2⟩
  | [], _, _ :: _, _, h1, _ => h1.elim
  | _ :: _, _, [], _, h1, _ => h1.elim

theorem Paired.ids : ∀ {es : List Ent} {vs : List VLine}, Paired es vs → es.map (·.id) = vs.map (·.id)
  | [], [], _ => rfl
  | _ :: _, _ :: _, h => by simp only [List.map_cons]; rw [h.1.1, Paired.ids h.2]
  | [], _ :: _, h => h.elim
  | _ :: _, [], h => h.elim

theorem Paired.cover : ∀ {es : List Ent} {vs : List VLine}, Paired es vs → ∀ en ∈ es, ∃ v ∈ vs, PairV en v
  | [], [], _ => fun _ h => by cases h
  | e :: _, v :: _, h => fun en hen => by
    rcases List.mem_cons.1 hen with rfl | hen
    · exact ⟨v, List.mem_cons_self, h.1⟩
    · rcases Paired.cover h.2 en hen with ⟨v', hv', hp⟩
      exact ⟨v', List.mem_cons_of_mem _ hv', hp⟩
  | [], _ :: _, h => h.elim
  | _ :: _, [], h => h.elim

theorem Paired.surj : ∀ {es : List Ent} {vs : List VLine}, Paired es vs → ∀ v ∈ vs, ∃ en ∈ es, PairV en v
  | [], [], _ => fun _ h => by cases h
  | e :: _, v :: _, h => fun v' hv' => by
    rcases List.mem_cons.1 hv' with rfl | hv'
    · exact ⟨e, List.mem_cons_self, h.1⟩
    · rcases Paired.surj h.2 v' hv' with ⟨en, hen, hp⟩
      exact ⟨en, List.mem_cons_of_mem _ hen, hp⟩
  | [], _ :: _, h => h.elim
  | _ :: _, [], h => h.elim

theorem Match.of_paired {es es' : List Ent} {vs : List VLine} (h : Paired es vs) (hp : es'.Perm es)
    (hnd : (vs.map (·.id)).Nodup) : Match es' vs := by
  refine ⟨?_, ?_, ?_⟩
  · have : (es'.map (·.id)).Perm (vs.map (·.id)) := by rw [← h.ids]; exact hp.map _
    exact this.symm.nodup hnd
  · intro en hen
    rcases h.cover en (hp.subset hen) with ⟨v, hv, h1, h2⟩
    exact ⟨v, hv, h1, h2⟩
  · intro v hv
    rcases h.surj v hv with ⟨en, hen, h1, _⟩
    exact ⟨en, hp.symm.subset hen, h1.symm⟩

def blockV (verb : Bytes) (l : Line) : VLine := ⟨l.id, verb :: l.token, l.comments.suffix⟩

/-! ### the statement loop `walkStmts` of `parseToFile` and `ParseWork` (Proofs/ModfileWalk.lean) -/

section walk
variable {σ : Type}

variable (add : σ → Option Comments → Line → Bytes → List Bytes → σ × List Bytes) (known : Bytes → Bool) (bad : σ → Position → σ)

theorem flagOK_noTok (x : Expr) : FlagOK (Proofs.ModfileEol.noTok x) ↔ FlagOK x := by
  cases x <;> simp [Proofs.ModfileEol.noTok, Proofs.ModfileEol.noTokL, FlagOK]

theorem walkStmts_flag (xs : List Expr) (st : σ) (h : ∀ x ∈ xs, FlagOK x) : ∀ x ∈ (walkStmts add known bad st xs).2, FlagOK x := by
  intro x hx
  have hm : Proofs.ModfileEol.noTok x ∈ xs.map Proofs.ModfileEol.noTok := by
    rw [← Proofs.ModfileWalk.walkStmts_noTok add known bad xs st]; exact List.mem_map_of_mem hx
  obtain ⟨y, hy, he⟩ := List.mem_map.1 hm
  exact (flagOK_noTok x).1 (he ▸ (flagOK_noTok y).2 (h y hy))

theorem walkStmts_keys (xs : List Expr) (st : σ) :
    (linesOf (walkStmts add known bad st xs).2).map lineKey = (linesOf xs).map lineKey :=
  Proofs.ModfileWalk.walk_lines add known bad lineKey (fun _ => rfl) xs st

/-- what `walkStmts_parsed` asks of the directive handler -/
def AddsOne (ents : σ → List Ent) (ok : σ → Prop) : Prop :=
  ∀ st blk l verb args st' args', add st blk l verb args = (st', args') → ok st' →
    ok st ∧ args' ≠ [] ∧ ∃ en, (ents st').Perm (ents st ++ [en]) ∧ en.id = l.id ∧ en.acc (verb :: args') l.comments.suffix

variable {add known bad} {ents : σ → List Ent} {ok : σ → Prop}

theorem walkLines_paired (hadd : AddsOne add ents ok) (blk : Option Comments) (verb : Bytes) :
    ∀ (ls : List Line) (st st' : σ) (ls' : List Line),
      walkLines (fun st l toks => add st blk l verb toks) st ls = (st', ls') → ok st' →
      ok st ∧ ∃ es, (ents st').Perm (ents st ++ es) ∧ Paired es (ls'.map (blockV verb)) ∧ ∀ l ∈ ls', l.token ≠ []
  | [], st, _, _, h, he => by
    cases h; exact ⟨he, [], by simp, trivial, fun _ h => by cases h⟩
  | l :: rest, st, st', ls', h, he => by
    cases h
    rcases walkLines_paired hadd blk verb rest _ _ _ rfl he with ⟨he1, es, hp, hpair, hne⟩
    rcases hadd _ _ _ _ _ _ _ rfl he1 with ⟨he0, hne0, en, hp1, hid, hacc⟩
    refine ⟨he0, en :: es, ?_, ⟨⟨hid.symm, hacc⟩, hpair⟩, ?_⟩
    · exact hp.trans (by simpa [List.append_assoc] using hp1.append_right es)
    · intro x hx
      rcases List.mem_cons.1 hx with rfl | hx
      · exact hne0
      · exact hne x hx

theorem walkStmt_paired (hadd : AddsOne add ents ok) (hbad : ∀ st p, ¬ok (bad st p)) (st : σ) (x : Expr)
    (he : ok (walkStmt add known bad st x).1) :
    ok st ∧ ∃ es, (ents (walkStmt add known bad st x).1).Perm (ents st ++ es) ∧
      Paired es (view [(walkStmt add known bad st x).2]) ∧
      ∀ b, (walkStmt add known bad st x).2 = .lineBlock b → ∃ v, b.token = [v] := by
  have skip : ∀ y : Expr, view [y] = [] → (∀ b, y = .lineBlock b → ∃ v, b.token = [v]) → ok st →
      ok st ∧ ∃ es, (ents st).Perm (ents st ++ es) ∧ Paired es (view [y]) ∧ ∀ b, y = .lineBlock b → ∃ v, b.token = [v] :=
    fun y hv hb h => ⟨h, [], by simp, by rw [hv]; trivial, hb⟩
  cases x with
  | line l =>
    rcases hl : l.token with _ | ⟨verb, args⟩
    · simp only [walkStmt, hl] at he ⊢
      exact skip _ (by simp [view, loc, locStmt, liveLoc, hl]) (fun b hb => by cases hb) he
    · simp only [walkStmt, hl] at he ⊢
      rcases hadd _ _ _ _ _ _ _ rfl he with ⟨he0, _, en, hp1, hid, hacc⟩
      refine ⟨he0, [en], hp1, ?_, fun b hb => by cases hb⟩
      have : view [Expr.line { l with token := verb :: (add st none l verb args).2 }] =
          [⟨l.id, verb :: (add st none l verb args).2, l.comments.suffix⟩] := by
        simp [view, loc, locStmt, liveLoc, mkV]
      rw [this]
      exact ⟨⟨hid.symm, hacc⟩, trivial⟩
  | lineBlock b =>
    rcases b with ⟨c, s, lp, tok, lines, rp⟩
    rcases tok with _ | ⟨verb, _ | _⟩
    · exact (hbad _ _ he).elim
    · simp only [walkStmt] at he ⊢
      split at he
      · rename_i hk
        simp only [if_pos hk]
        rcases walkLines_paired hadd (some c) verb lines st _ _ rfl he with ⟨he0, es, hp, hpair, hne⟩
        refine ⟨he0, es, hp, ?_, fun b' hb' => by cases hb'; exact ⟨verb, rfl⟩⟩
        rw [view_block, List.filter_eq_self.2]
        · exact hpair
        · intro l hl
          cases hlt : l.token with
          | nil => exact absurd hlt (hne l hl)
          | cons _ _ => rfl
      · exact (hbad _ _ he).elim
    · exact (hbad _ _ he).elim
  | commentBlock c => exact skip _ rfl (fun b hb => by cases hb) he
  | lparen c => exact skip _ rfl (fun b hb => by cases hb) he
  | rparen c => exact skip _ rfl (fun b hb => by cases hb) he

theorem walkStmts_paired (hadd : AddsOne add ents ok) (hbad : ∀ st p, ¬ok (bad st p)) :
    ∀ (xs : List Expr) (st st' : σ) (xs' : List Expr), walkStmts add known bad st xs = (st', xs') → ok st' →
      ok st ∧ ∃ es, (ents st').Perm (ents st ++ es) ∧ Paired es (view xs') ∧ ∀ b, Expr.lineBlock b ∈ xs' → ∃ v, b.token = [v]
  | [], st, _, _, h, he => by
    cases h; exact ⟨he, [], by simp, trivial, fun _ h => by cases h⟩
  | x :: rest, st, st', xs', h, he => by
    cases h
    rcases walkStmts_paired hadd hbad rest _ _ _ rfl he with ⟨he1, es, hp, hpair, hblk⟩
    rcases walkStmt_paired hadd hbad st x he1 with ⟨he0, es1, hp1, hpair1, hblk1⟩
    refine ⟨he0, es1 ++ es, ?_, ?_, ?_⟩
    · have := hp1.append_right es
      rw [List.append_assoc] at this
      exact hp.trans this
    · show Paired _ (view (_ :: _))
      rw [view_cons]; exact hpair1.append hpair
    · intro b hb
      rcases List.mem_cons.1 hb with hb | hb
      · exact hblk1 b hb.symm
      · exact hblk b hb

theorem view_ids_sublist (xs : List Expr) : ((view xs).map (·.id)).Sublist (treeIds xs) := by
  unfold view treeIds
  rw [List.map_map]
  exact (List.filter_sublist.map _)

theorem walkStmts_parsed (hadd : AddsOne add ents ok) (hbad : ∀ st p, ¬ok (bad st p)) {name data : Bytes} {fs : FileSyntax}
    (hp : parse name data = .ok fs) {st0 st : σ} {stmts : List Expr} (h0 : ents st0 = [])
    (hA : walkStmts add known bad st0 fs.stmts = (st, stmts)) (he : ok st) :
    Match (ents st) (view stmts) ∧ (treeIds stmts).Nodup ∧ (∀ b, Expr.lineBlock b ∈ stmts → ∃ v, b.token = [v]) ∧
      ∀ x ∈ stmts, FlagOK x := by
  obtain ⟨_, es, hperm, hpair, hblk⟩ := walkStmts_paired hadd hbad fs.stmts st0 st stmts hA he
  have hids : treeIds stmts = treeIds fs.stmts := by
    have := congrArg (List.map Prod.fst) (walkStmts_keys add known bad fs.stmts st0)
    rw [hA] at this
    rw [treeIds_eq_linesOf, treeIds_eq_linesOf]
    simpa [List.map_map, lineKey, Function.comp_def] using this
  have hnd : (treeIds stmts).Nodup := by rw [hids, treeIds_eq_linesOf]; exact parse_ids_nodup hp
  refine ⟨Match.of_paired hpair (by simpa [h0] using hperm) (List.Nodup.sublist (view_ids_sublist _) hnd), hnd, hblk, ?_⟩
  have := walkStmts_flag add known bad fs.stmts st0 (parse_flags hp)
  rwa [hA] at this

theorem walkLines_ok_mono {add : σ → Line → List Bytes → σ × List Bytes} (hmono : ∀ st l toks, ok (add st l toks).1 → ok st) :
    ∀ (ls : List Line) (st : σ), ok (walkLines add st ls).1 → ok st
  | [], _, h => h
  | l :: rest, st, h => hmono st l l.token (walkLines_ok_mono hmono rest _ h)

/-- `hmono`: an error once reported is never taken back -/
theorem walkStmts_known (hmono : ∀ st blk l verb args, ok (add st blk l verb args).1 → ok st) (hbad : ∀ st p, ¬ok (bad st p)) :
    ∀ (xs : List Expr) (st st' : σ) (xs' : List Expr), walkStmts add known bad st xs = (st', xs') → ok st' →
      ok st ∧ ∀ b, Expr.lineBlock b ∈ xs' → ∀ v, b.token = [v] → known v = true
  | [], _, _, _, h, he => by cases h; exact ⟨he, fun _ hb => by cases hb⟩
  | x :: rest, st, _, _, h, he => by
    cases h
    rcases walkStmts_known hmono hbad rest _ _ _ rfl he with ⟨he1, ih⟩
    have hx : ok st ∧ ∀ b, (walkStmt add known bad st x).2 = .lineBlock b → ∀ v, b.token = [v] → known v = true := by
      cases x with
      | line l =>
        rcases hl : l.token with _ | ⟨verb, args⟩ <;> simp only [walkStmt, hl] at he1 ⊢
        · exact ⟨he1, fun _ hb => by cases hb⟩
        · exact ⟨hmono _ _ _ _ _ he1, fun _ hb => by cases hb⟩
      | lineBlock b0 =>
        rcases b0 with ⟨c, s, lp, tok, lines, rp⟩
        rcases tok with _ | ⟨verb, _ | _⟩
        · exact (hbad _ _ he1).elim
        · simp only [walkStmt] at he1 ⊢
          split at he1
          · rename_i hk
            rw [if_pos hk]
            exact ⟨walkLines_ok_mono (fun st l toks => hmono st _ l verb toks) _ _ he1, fun b hb v hv => by cases hb; cases hv; exact hk⟩
          · exact (hbad _ _ he1).elim
        · exact (hbad _ _ he1).elim
      | commentBlock c => exact ⟨he1, fun _ hb => by cases hb⟩
      | lparen c => exact ⟨he1, fun _ hb => by cases hb⟩
      | rparen c => exact ⟨he1, fun _ hb => by cases hb⟩
    refine ⟨hx.1, fun b hb => ?_⟩
    rcases List.mem_cons.1 hb with hb | hb
    · exact hx.2 b hb.symm
    · exact ih b hb

end walk

theorem addsOne_fileAdd {fix : Option Fixer} (hne : Proofs.ModfileFmtDir.FixNE fix) :
    AddsOne (fun st blk l verb args => File.add st blk l verb args fix true) (fun st => entsAll st.file) (·.errsRev = []) := by
  intro st blk l verb args st' args' h he
  have hs := Proofs.ModfileFmtDir.add_strict st blk l verb args fix
  rw [show File.add st blk l verb args fix true = (st', args') from h] at hs
  rcases hs with ⟨hok, herr⟩ | hne
  · exact ⟨herr.symm.trans he, (AddOK.ent hne hok).2, (AddOK.ent hne hok).1⟩
  · exact absurd he hne

end ModVerif.Modfile.Edit
