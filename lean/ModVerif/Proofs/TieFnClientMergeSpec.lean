/-
  Tie proofs, sumdb/client.go (merge unit: checkTrees, checkRecord, mergeLatestMem, mergeLatest): the interface.

  * `Normal`: the outcomes of the hand model that have a counterpart as a Go `error` value.  The model's `.fuel`, `.panic`,
    `.tlog .panic`, `.tlog .fuel` are model-only outcomes (the generated code throws `Err.panic` / `Err.fuel` in `M`, no world
    is returned): they are excluded by hypothesis.
  * `TileSpecs P E`: what this unit needs from the units below it (the reads through tiles: `readHashesW`, `treeHashW`,
    `proveTreeW` against the model's `readHashes`, `treeHashVia`, `proveTreeVia`), each with its explicit fuel bound.
  * the EXECUTION hypotheses `CheckTreesOk`, `MergeMemOk`, `MergeLoopOk`, `MergeOk`: range (tree sizes < 2^62), `Normal`
    for every read through tiles the model performs, the `for` loop of `mergeLatest` ends within `P.retries` rounds, and —
    the ONE place where the model and the code differ in what they tell the world — in the fork branch of `checkTrees`
    `ProveTree` itself does not fail (there the Go code prints the error's own text into the SecurityError message, the model
    prints the canonical kind name `Err.name`; see `Tie.FnClientMerge.checkTrees_proveErr_tie`).
  * the explicit fuel bounds `checkTreesFuel`, `checkRecordFuel`, `memFuel`, `loopFuel`, `mergeFuel` as functions of the
    bounds in `TileSpecs` along the model's run.
  All ties are stated on `RepRun` (Proofs/TieFnClientRep.lean) and return, next to `RepRun` for the new worlds, the frames
  `FrameG` / `FrameM` (resp. `FrameI`, the part of `FrameG` that `mergeLatestMem` keeps: it replaces `latest`/`latestMsg`):
  `Ties (RepRun P E) Fg Fm R ι w cw g m` (Proofs/TieFnClientRep.lean) is that statement, and the proofs of this unit follow a
  generated function call by call with `Ties.ret`, `Ties.bind` / `bindF`, `Ties.after`, `Ties.ofCtl`.
-/
import ModVerif.Proofs.TieFnClientRep
namespace ModVerif.TieFnClientMerge
open ModVerif ModVerif.GoRt ModVerif.Client ModVerif.Generated.SumdbClient ModVerif.TieFnClientRep

def Abnormal : Client.Err → Prop
  | .fuel => True
  | .panic => True
  | .tlog .panic => True
  | .tlog .fuel => True
  | _ => False

def Normal {α : Type} (r : Except Client.Err α) : Prop := ∀ e, r = .error e → ¬ Abnormal e

theorem Normal_ok {α : Type} (a : α) : Normal (.ok a : Except Client.Err α) := by
  intro e h; cases h

section
variable {σ H : Type}

/-- the generated fields `mergeLatestMem` / `mergeLatest` leave alone (all of `FrameG` but `latest`, `latestMsg`) -/
structure FrameI (cw cw' : GW σ H) : Prop where
  didLookup : cw'.didLookup = cw.didLookup
  initDone : cw'.initDone = cw.initDone
  initErr : cw'.initErr = cw.initErr
  name : cw'.name = cw.name
  verifiers : cw'.verifiers = cw.verifiers
  tileHeight : cw'.tileHeight = cw.tileHeight
  nosumdb : cw'.nosumdb = cw.nosumdb
  record : cw'.record = cw.record

theorem FrameI.refl (cw : GW σ H) : FrameI cw cw := ⟨rfl, rfl, rfl, rfl, rfl, rfl, rfl, rfl⟩

theorem FrameI.trans {a b c : GW σ H} (h1 : FrameI a b) (h2 : FrameI b c) : FrameI a c :=
  ⟨h2.didLookup.trans h1.didLookup, h2.initDone.trans h1.initDone, h2.initErr.trans h1.initErr, h2.name.trans h1.name,
    h2.verifiers.trans h1.verifiers, h2.tileHeight.trans h1.tileHeight, h2.nosumdb.trans h1.nosumdb,
    h2.record.trans h1.record⟩

theorem FrameG.toI {cw cw' : GW σ H} (h : FrameG cw cw') : FrameI cw cw' :=
  ⟨h.didLookup, h.initDone, h.initErr, h.name, h.verifiers, h.tileHeight, h.nosumdb, h.record⟩

/-- the model fields `mergeLatestMem` / `mergeLatest` leave alone (all of `FrameM` but `latest`, `latestMsg`) -/
structure FrameJ (w w' : World σ H) : Prop where
  inited : w'.c.inited = w.c.inited
  name : w'.c.name = w.c.name
  verifiers : w'.c.verifiers = w.c.verifiers
  record : w'.c.record = w.c.record

theorem FrameJ.refl (w : World σ H) : FrameJ w w := ⟨rfl, rfl, rfl, rfl⟩

theorem FrameJ.trans {a b c : World σ H} (h1 : FrameJ a b) (h2 : FrameJ b c) : FrameJ a c :=
  ⟨h2.inited.trans h1.inited, h2.name.trans h1.name, h2.verifiers.trans h1.verifiers, h2.record.trans h1.record⟩

theorem FrameM.toJ {w w' : World σ H} (h : FrameM w w') : FrameJ w w' := ⟨h.inited, h.name, h.verifiers, h.record⟩

end

section
variable {σ H : Type} [DecidableEq H] [Inhabited H]

omit [DecidableEq H] [Inhabited H] in
theorem framingI : Framing (σ := σ) (H := H) FrameI FrameJ := ⟨FrameI.refl, FrameJ.refl, FrameI.trans, FrameJ.trans⟩

/-- `tlog.TileHashReader(tree, &c.tileReader).ReadHashes(indexes)` -/
def ReadHashesSpec (P : Params H) (E : Env σ) (F : World σ H → Head H → List Nat → Nat) : Prop :=
  ∀ (w : World σ H) (cw : GW σ H) (tree : Head H) (idx : List Nat) (fuel : Nat),
    RepRun P E w cw → tree.n < 2 ^ 62 → idx.length < 2 ^ 56 → F w tree idx ≤ fuel →
    Normal (readHashes P E w tree idx).1 →
    ∃ r' cw', readHashesW (envOf P E) fuel (headG tree) (idx.map Int.ofNat) cw = .ok (r', cw') ∧
      RepRun P E (readHashes P E w tree idx).2 cw' ∧ RepRes r' (readHashes P E w tree idx).1 ∧
      FrameG cw cw' ∧ FrameM w (readHashes P E w tree idx).2

/-- `tlog.TreeHash(n, thr)` -/
def TreeHashSpec (P : Params H) (E : Env σ) (F : World σ H → Nat → Head H → Nat) : Prop :=
  ∀ (w : World σ H) (cw : GW σ H) (n : Nat) (tree : Head H) (fuel : Nat),
    RepRun P E w cw → tree.n < 2 ^ 62 → n ≤ 2 ^ 62 → F w n tree ≤ fuel →
    Normal (treeHashVia P E w n tree).1 →
    ∃ r' cw', treeHashW (envOf P E) fuel (n : Int) (headG tree) cw = .ok (r', cw') ∧
      RepRun P E (treeHashVia P E w n tree).2 cw' ∧ RepRes r' (treeHashVia P E w n tree).1 ∧
      FrameG cw cw' ∧ FrameM w (treeHashVia P E w n tree).2

/-- `tlog.ProveTree(t, n, thr)` -/
def ProveTreeSpec (P : Params H) (E : Env σ) (F : World σ H → Nat → Nat → Head H → Nat) : Prop :=
  ∀ (w : World σ H) (cw : GW σ H) (t n : Nat) (tree : Head H) (fuel : Nat),
    RepRun P E w cw → tree.n < 2 ^ 62 → t ≤ 2 ^ 62 → F w t n tree ≤ fuel →
    Normal (proveTreeVia P E w t n tree).1 →
    ∃ r' cw', proveTreeW (envOf P E) fuel (t : Int) (n : Int) (headG tree) cw = .ok (r', cw') ∧
      RepRun P E (proveTreeVia P E w t n tree).2 cw' ∧ RepRes r' (proveTreeVia P E w t n tree).1 ∧
      FrameG cw cw' ∧ FrameM w (proveTreeVia P E w t n tree).2

structure TileSpecs (P : Params H) (E : Env σ) where
  FR : World σ H → Head H → List Nat → Nat
  FT : World σ H → Nat → Head H → Nat
  FP : World σ H → Nat → Nat → Head H → Nat
  readHashes : ReadHashesSpec P E FR
  treeHash : TreeHashSpec P E FT
  proveTree : ProveTreeSpec P E FP

def CheckTreesOk (P : Params H) (E : Env σ) (w : World σ H) (older newer : Head H) : Prop :=
  older.n < 2 ^ 62 ∧ newer.n < 2 ^ 62 ∧ Normal (treeHashVia P E w older.n newer).1 ∧
  ∀ h, (treeHashVia P E w older.n newer).1 = .ok h → h ≠ older.hash →
    ∃ p, (proveTreeVia P E (treeHashVia P E w older.n newer).2 newer.n older.n newer).1 = .ok p

def MergeMemOk (P : Params H) (E : Env σ) (w : World σ H) (msg : Bytes) : Prop :=
  msg.isEmpty = false → ∀ tree, openTree P w.c.verifiers msg = .ok tree →
    if tree.n ≤ w.c.latest.n then CheckTreesOk P E w tree w.c.latest else CheckTreesOk P E w w.c.latest tree

/-- `c.ops.ReadConfig(c.name + "/latest")` at the head of a round of the `for` loop of `mergeLatest` -/
def cfgMsg (E : Env σ) (w : World σ H) : Option Bytes := (readConfig E w (latestFile w.c.name)).1

def cfgWorld (E : Env σ) (w : World σ H) : World σ H := (readConfig E w (latestFile w.c.name)).2

/-- `c.ops.WriteConfig(c.name + "/latest", msg, c.latestMsg)` at the end of a round -/
def writeBack (E : Env σ) (w : World σ H) (msg : Bytes) : WriteRes × World σ H :=
  writeConfig E w (latestFile w.c.name) msg w.c.latestMsg

def MergeLoopOk (P : Params H) (E : Env σ) : Nat → World σ H → Prop
  | 0, _ => False
  | f + 1, w =>
    ∀ msg, cfgMsg E w = some msg →
      MergeMemOk P E (cfgWorld E w) msg ∧
      ((mergeLatestMem P E (cfgWorld E w) msg).1 = .ok .past →
        (writeBack E (mergeLatestMem P E (cfgWorld E w) msg).2 msg).1 = .conflict →
        MergeLoopOk P E f (writeBack E (mergeLatestMem P E (cfgWorld E w) msg).2 msg).2)

def MergeOk (P : Params H) (E : Env σ) (w : World σ H) (msg : Bytes) : Prop :=
  MergeMemOk P E w msg ∧
  ((mergeLatestMem P E w msg).1 = .ok .future → MergeLoopOk P E P.retries (mergeLatestMem P E w msg).2)

def CheckRecordOk (P : Params H) (E : Env σ) (w : World σ H) (id : Int) (data : Bytes) : Prop :=
  w.c.latest.n < 2 ^ 62 ∧ Normal (checkRecord P E w id data).1

variable {P : Params H} {E : Env σ}

/-- fuel of `checkTrees`: the two reads, `CheckTree` (`newer.n`) and the loop over the proof (at most `newer.n` lines) -/
def checkTreesFuel (S : TileSpecs P E) (w : World σ H) (older newer : Head H) : Nat :=
  max (S.FT w older.n newer)
    (max (S.FP (treeHashVia P E w older.n newer).2 newer.n older.n newer) (newer.n + 2))

def recordIndex (id : Int) : Nat := if id < 0 then 0 else Tlog.storedHashIndex 0 id.toNat

/-- fuel of `checkRecord`: `StoredHashIndex` (64) and the read -/
def checkRecordFuel (S : TileSpecs P E) (w : World σ H) (id : Int) : Nat :=
  max 64 (S.FR w w.c.latest [recordIndex id])

/-- fuel of `mergeLatestMem`: `note.Open` (one unit per byte of the message) and one round of its loop -/
def memFuel (S : TileSpecs P E) (w : World σ H) (msg : Bytes) : Nat :=
  match openTree P w.c.verifiers msg with
  | .error _ => msg.length + 1
  | .ok tree =>
    max (msg.length + 1)
      (1 + (if tree.n ≤ w.c.latest.n then checkTreesFuel S w tree w.c.latest else checkTreesFuel S w w.c.latest tree))

def writeFuel (next : World σ H → Nat) (w : World σ H) (msg : Bytes) : Nat :=
  match (writeBack E w msg).1 with
  | .conflict => next (writeBack E w msg).2
  | _ => 0

def roundFuel (S : TileSpecs P E) (next : World σ H → Nat) (w0 : World σ H) (msg : Bytes) : Nat :=
  max (memFuel S w0 msg)
    (match (mergeLatestMem P E w0 msg).1 with
     | .ok .past => writeFuel (E := E) next (mergeLatestMem P E w0 msg).2 msg
     | _ => 0)

/-- fuel of the `for` loop of `mergeLatest`: one unit per round the model goes around (at most `f`), above the fuel of every
    round's `mergeLatestMem` -/
def loopFuel (S : TileSpecs P E) : Nat → World σ H → Nat
  | 0, _ => 0
  | f + 1, w =>
    match cfgMsg E w with
    | none => 1
    | some msg => 1 + roundFuel S (loopFuel S f) (cfgWorld E w) msg

def mergeFuel (S : TileSpecs P E) (w : World σ H) (msg : Bytes) : Nat :=
  max (memFuel S w msg) (loopFuel S P.retries (mergeLatestMem P E w msg).2)

end

end ModVerif.TieFnClientMerge
