/-
  parseReplace on a token VIEW of its own line.

  `prOut fn pos line verb args fx` is the Go function on the token LIST `args` (rule.go order): the tokens after the in-place
  stores, the NEW `*Replace` object or the NEW `*Error` object, and the length of the old version handed to
  module.CheckPathMajor (its fuel).  `parseReplace_spec`: the regenerated function on a view of the line `line` computes
  exactly that; the heap afterwards is `setToksH` plus one allocation.

  Every intermediate heap is `setToksH h0 r.owner (pre ++ ts)` for the anchor view `v0 : TokView h0 r pre toks0`;
  `A.len / A.getAt / A.setAt` compute the view operations on such a heap.  The regenerated function is one body with local
  continuations; `prK66` (everything after the position of the arrow is known) and `prK55` (everything after the arrow) name
  them, `parseReplace_eq` holds by unfolding.  `prK55_spec` is `prTail`, `prK66_spec1/2` are `prHead1/2`, `prK66_usage` the
  usage error; `parseReplace_spec` only chooses among them by the shape of `args`.
-/
import ModVerif.Proofs.TieFnRuleLeafB
namespace ModVerif.Tie.FnRuleLeafC
open ModVerif ModVerif.GoRt ModVerif.Generated ModVerif.Tie.FnRuleRep ModVerif.Tie.FnRuleLeafA ModVerif.Tie.FnRuleLeafB
open ModVerif.Drv.GenModfile (isPrintI unquoteI)
open ModVerif.Drv.GenRule (fixG)

section anchor
variable {h0 : Rule.Heap} {r : Rule.TokRef} {pre toks0 : List Bytes}

theorem A.view (v0 : TokView h0 r pre toks0) (ts : List Bytes) : TokView (setToksH h0 r.owner (pre ++ ts)) r pre ts :=
  v0.afterStore pre ts r.lo (by obtain ⟨_, _, _, hlo⟩ := v0; exact hlo)

theorem A.len (v0 : TokView h0 r pre toks0) (ts : List Bytes) :
    Rule.TokRef.len r (setToksH h0 r.owner (pre ++ ts)) = .ok (ts.length : Int) := (A.view v0 ts).len

theorem A.getAt (v0 : TokView h0 r pre toks0) (hd : List Bytes) (t : Bytes) (tl : List Bytes) {i : Int} (hi : (hd.length : Int) = i) :
    Rule.TokRef.get r i (setToksH h0 r.owner (pre ++ (hd ++ t :: tl))) = .ok t := by
  subst hi
  exact (A.view v0 _).get (by simp)

theorem A.setAt (v0 : TokView h0 r pre toks0) (hd : List Bytes) (t : Bytes) (tl : List Bytes) {i : Int} (hi : (hd.length : Int) = i)
    (x : Bytes) :
    Rule.TokRef.set r i x (setToksH h0 r.owner (pre ++ (hd ++ t :: tl))) = .ok (setToksH h0 r.owner (pre ++ (hd ++ x :: tl))) := by
  subst hi
  rw [((A.view v0 (hd ++ t :: tl)).set (i := hd.length) (by simp) x).1, v0.setToksH_twice]
  simp

end anchor

/-- what parseReplace returns on a token list (the record `prOut` computes; the Prop `PROut` of
    Proofs/TieFnRuleAddC.lean says these are the model's) -/
structure PrOut where
  toks : List Bytes
  res : Except Rule.Error Rule.Replace
  vlen : Nat

/-- `wrapError` / `errorf`: `&Error{Filename, Pos, Err}` -/
def eW (fn : Bytes) (pos : Rule.Position) (err : Option String) : Rule.Error :=
  { (default : Rule.Error) with Filename := fn, Pos := pos, Err := err }

/-- `wrapModPathError`: `&Error{Filename, Pos, ModPath, Verb, Err}` -/
def eM (fn : Bytes) (pos : Rule.Position) (verb modPath : Bytes) (err : Option String) : Rule.Error :=
  { (default : Rule.Error) with Filename := fn, Pos := pos, ModPath := modPath, Verb := verb, Err := err }

/-- the format literals of parseReplace's `errorf` calls (rule.go): "usage: %s module/path [v1.2.3] => other/module v1.4\n\t or
    %s module/path [v1.2.3] => ../local/directory", "invalid quoted string: %v", "replacement module directory path %q cannot have
    version", "replacement module must match format 'path version', not 'path@version'", "replacement module without version must
    be directory path (rooted or starting with . or ..)", "replacement directory appears to be Windows path (on a non-windows
    system)" -/
def fmtUsage : Bytes := [117, 115, 97, 103, 101, 58, 32, 37, 115, 32, 109, 111, 100, 117, 108, 101, 47, 112, 97, 116, 104, 32, 91, 118, 49, 46, 50, 46, 51, 93, 32, 61, 62, 32, 111, 116, 104, 101, 114, 47, 109, 111, 100, 117, 108, 101, 32, 118, 49, 46, 52, 10, 9, 32, 111, 114, 32, 37, 115, 32, 109, 111, 100, 117, 108, 101, 47, 112, 97, 116, 104, 32, 91, 118, 49, 46, 50, 46, 51, 93, 32, 61, 62, 32, 46, 46, 47, 108, 111, 99, 97, 108, 47, 100, 105, 114, 101, 99, 116, 111, 114, 121]
def fmtQuoted : Bytes := [105, 110, 118, 97, 108, 105, 100, 32, 113, 117, 111, 116, 101, 100, 32, 115, 116, 114, 105, 110, 103, 58, 32, 37, 118]
def fmtDirVersion : Bytes := [114, 101, 112, 108, 97, 99, 101, 109, 101, 110, 116, 32, 109, 111, 100, 117, 108, 101, 32, 100, 105, 114, 101, 99, 116, 111, 114, 121, 32, 112, 97, 116, 104, 32, 37, 113, 32, 99, 97, 110, 110, 111, 116, 32, 104, 97, 118, 101, 32, 118, 101, 114, 115, 105, 111, 110]
def fmtAtVersion : Bytes := [114, 101, 112, 108, 97, 99, 101, 109, 101, 110, 116, 32, 109, 111, 100, 117, 108, 101, 32, 109, 117, 115, 116, 32, 109, 97, 116, 99, 104, 32, 102, 111, 114, 109, 97, 116, 32, 39, 112, 97, 116, 104, 32, 118, 101, 114, 115, 105, 111, 110, 39, 44, 32, 110, 111, 116, 32, 39, 112, 97, 116, 104, 64, 118, 101, 114, 115, 105, 111, 110, 39]
def fmtNeedsDir : Bytes := [114, 101, 112, 108, 97, 99, 101, 109, 101, 110, 116, 32, 109, 111, 100, 117, 108, 101, 32, 119, 105, 116, 104, 111, 117, 116, 32, 118, 101, 114, 115, 105, 111, 110, 32, 109, 117, 115, 116, 32, 98, 101, 32, 100, 105, 114, 101, 99, 116, 111, 114, 121, 32, 112, 97, 116, 104, 32, 40, 114, 111, 111, 116, 101, 100, 32, 111, 114, 32, 115, 116, 97, 114, 116, 105, 110, 103, 32, 119, 105, 116, 104, 32, 46, 32, 111, 114, 32, 46, 46, 41]
def fmtWindows : Bytes := [114, 101, 112, 108, 97, 99, 101, 109, 101, 110, 116, 32, 100, 105, 114, 101, 99, 116, 111, 114, 121, 32, 97, 112, 112, 101, 97, 114, 115, 32, 116, 111, 32, 98, 101, 32, 87, 105, 110, 100, 111, 119, 115, 32, 112, 97, 116, 104, 32, 40, 111, 110, 32, 97, 32, 110, 111, 110, 45, 119, 105, 110, 100, 111, 119, 115, 32, 115, 121, 115, 116, 101, 109, 41]

def eF (fn : Bytes) (pos : Rule.Position) (fmt : Bytes) : Rule.Error := eW fn pos (some (bytesToStr fmt))

def mkMV (p v : Bytes) : ModVersion := ({ (default : ModVersion) with Path := p, Version := v } : ModVersion)

def mkReplace (line : Int) (s v ns nv : Bytes) : Rule.Replace :=
  ({ (default : Rule.Replace) with Old := mkMV s v, New := mkMV ns nv, Syntax := line } : Rule.Replace)

set_option linter.unusedVariables false in -- `verb` is a parameter of the Go closures, not read after the arrow
/-- the part after the arrow: `pre'` are the (already rewritten) tokens up to and including `=>` -/
def prTail (fn : Bytes) (pos : Rule.Position) (line : Int) (verb : Bytes) (fx : Option ModVerif.Modfile.Fixer) (pre' : List Bytes)
    (s v : Bytes) (vlen : Nat) (nsTok : Bytes) (nvTok : Option Bytes) : PrOut :=
  if ¬ ((psOut nsTok).1.2).isNone then ⟨pre' ++ (psOut nsTok).2 :: nvTok.toList, .error (eF fn pos fmtQuoted), vlen⟩
  else
    match nvTok with
    | none =>
      if ¬ ModVerif.Modfile.isDirectoryPath (psOut nsTok).1.1 then
        if GoRt.contains (psOut nsTok).1.1 [64] then ⟨pre' ++ [(psOut nsTok).2], .error (eF fn pos fmtAtVersion), vlen⟩
        else ⟨pre' ++ [(psOut nsTok).2], .error (eF fn pos fmtNeedsDir), vlen⟩
      else if GoRt.contains (psOut nsTok).1.1 [92] then ⟨pre' ++ [(psOut nsTok).2], .error (eF fn pos fmtWindows), vlen⟩
      else ⟨pre' ++ [(psOut nsTok).2], .ok (mkReplace line s v (psOut nsTok).1.1 []), vlen⟩
    | some nvT =>
      if ¬ ((pvOut (psOut nsTok).1.1 nvT fx).1.2).isNone then
        ⟨pre' ++ [(psOut nsTok).2, (pvOut (psOut nsTok).1.1 nvT fx).2], .error (eW fn pos (pvOut (psOut nsTok).1.1 nvT fx).1.2), vlen⟩
      else if ModVerif.Modfile.isDirectoryPath (psOut nsTok).1.1 then
        ⟨pre' ++ [(psOut nsTok).2, (pvOut (psOut nsTok).1.1 nvT fx).2], .error (eF fn pos fmtDirVersion), vlen⟩
      else ⟨pre' ++ [(psOut nsTok).2, (pvOut (psOut nsTok).1.1 nvT fx).2],
        .ok (mkReplace line s v (psOut nsTok).1.1 (pvOut (psOut nsTok).1.1 nvT fx).1.1), vlen⟩

/-- `arrow = 1`: `a0 => nsTok [nvTok]` -/
def prHead1 (fn : Bytes) (pos : Rule.Position) (line : Int) (verb : Bytes) (fx : Option ModVerif.Modfile.Fixer)
    (a0 ar nsTok : Bytes) (nvTok : Option Bytes) : PrOut :=
  if ¬ ((psOut a0).1.2).isNone then ⟨(psOut a0).2 :: ar :: nsTok :: nvTok.toList, .error (eF fn pos fmtQuoted), 0⟩
  else
    match ModVerif.Modfile.modulePathMajor (psOut a0).1.1 with
    | none => ⟨(psOut a0).2 :: ar :: nsTok :: nvTok.toList, .error (eM fn pos verb (psOut a0).1.1 (some "invalid module path")), 0⟩
    | some _ => prTail fn pos line verb fx [(psOut a0).2, ar] (psOut a0).1.1 [] 0 nsTok nvTok

/-- `arrow = 2`: `a0 a1 => nsTok [nvTok]` -/
def prHead2 (fn : Bytes) (pos : Rule.Position) (line : Int) (verb : Bytes) (fx : Option ModVerif.Modfile.Fixer)
    (a0 a1 ar nsTok : Bytes) (nvTok : Option Bytes) : PrOut :=
  if ¬ ((psOut a0).1.2).isNone then ⟨(psOut a0).2 :: a1 :: ar :: nsTok :: nvTok.toList, .error (eF fn pos fmtQuoted), 0⟩
  else
    match ModVerif.Modfile.modulePathMajor (psOut a0).1.1 with
    | none => ⟨(psOut a0).2 :: a1 :: ar :: nsTok :: nvTok.toList, .error (eM fn pos verb (psOut a0).1.1 (some "invalid module path")), 0⟩
    | some pathMajor =>
      if ¬ ((pvOut (psOut a0).1.1 a1 fx).1.2).isNone then
        ⟨(psOut a0).2 :: (pvOut (psOut a0).1.1 a1 fx).2 :: ar :: nsTok :: nvTok.toList, .error (eW fn pos (pvOut (psOut a0).1.1 a1 fx).1.2), 0⟩
      else if ¬ Module.checkPathMajor (pvOut (psOut a0).1.1 a1 fx).1.1 pathMajor = true then
        ⟨(psOut a0).2 :: (pvOut (psOut a0).1.1 a1 fx).2 :: ar :: nsTok :: nvTok.toList,
          .error (eM fn pos verb (psOut a0).1.1 TieFnModule.majorErr), (pvOut (psOut a0).1.1 a1 fx).1.1.length⟩
      else prTail fn pos line verb fx [(psOut a0).2, (pvOut (psOut a0).1.1 a1 fx).2, ar] (psOut a0).1.1 (pvOut (psOut a0).1.1 a1 fx).1.1
        (pvOut (psOut a0).1.1 a1 fx).1.1.length nsTok nvTok

def arrowB : Bytes := [61, 62]

/-- parseReplace on a token list (rule.go order) -/
def prOut (fn : Bytes) (pos : Rule.Position) (line : Int) (verb : Bytes) (args : List Bytes) (fx : Option ModVerif.Modfile.Fixer) : PrOut :=
  match args with
  | [a0, x, y] => if x = arrowB then prHead1 fn pos line verb fx a0 x y none else ⟨args, .error (eF fn pos fmtUsage), 0⟩
  | [a0, x, y, z] =>
    if x = arrowB then prHead1 fn pos line verb fx a0 x y (some z)
    else if y = arrowB then prHead2 fn pos line verb fx a0 x y z none else ⟨args, .error (eF fn pos fmtUsage), 0⟩
  | [a0, x, y, z, w] =>
    if x = arrowB then ⟨args, .error (eF fn pos fmtUsage), 0⟩
    else if y = arrowB then prHead2 fn pos line verb fx a0 x y z (some w) else ⟨args, .error (eF fn pos fmtUsage), 0⟩
  | _ => ⟨args, .error (eF fn pos fmtUsage), 0⟩

def prFinal (h : Rule.Heap) (o : PrOut) (owner : Int) (pre : List Bytes) : (Int × Int) × Rule.Heap :=
  match o.res with
  | .ok R => ((((h.replaces.length + 1 : Nat) : Int), 0), { setToksH h owner (pre ++ o.toks) with replaces := h.replaces ++ [R] })
  | .error E => ((0, ((h.errors.length + 1 : Nat) : Int)), { setToksH h owner (pre ++ o.toks) with errors := h.errors ++ [E] })

section closures
variable {h0 : Rule.Heap} {r : Rule.TokRef} {L : Rule.Line}

theorem wrapError_A (hg : heapGet h0.lines r.owner = .ok L) (fuel : Nat) (fn : Bytes) (err : Option String) (ts : List Bytes) :
    Rule.parseReplace_wrapError isPrintI Quote.quote unquoteI fuel fn r.owner err (setToksH h0 r.owner ts) =
      .ok ((((h0.errors.length + 1 : Nat) : Int)), { setToksH h0 r.owner ts with errors := h0.errors ++ [eW fn L.Start err] }) := by
  simp [Rule.parseReplace_wrapError, heapGet_setToksH_same hg, bind, Except.bind, pure, Except.pure, heapAlloc, eW]

theorem errorf_A (hg : heapGet h0.lines r.owner = .ok L) (fuel : Nat) (fn : Bytes) (fmt : Bytes) (as : List Unit) (ts : List Bytes) :
    Rule.parseReplace_errorf isPrintI Quote.quote unquoteI fuel fn r.owner fmt as (setToksH h0 r.owner ts) =
      .ok ((((h0.errors.length + 1 : Nat) : Int)), { setToksH h0 r.owner ts with errors := h0.errors ++ [eF fn L.Start fmt] }) := by
  simp [Rule.parseReplace_errorf, wrapError_A hg, bind, Except.bind, pure, Except.pure, eF]

theorem wrapModPathError_A (hg : heapGet h0.lines r.owner = .ok L) (fuel : Nat) (fn verb modPath : Bytes) (err : Option String)
    (ts : List Bytes) :
    Rule.parseReplace_wrapModPathError isPrintI Quote.quote unquoteI fuel fn r.owner verb modPath err (setToksH h0 r.owner ts) =
      .ok ((((h0.errors.length + 1 : Nat) : Int)),
        { setToksH h0 r.owner ts with errors := h0.errors ++ [eM fn L.Start verb modPath err] }) := by
  simp [Rule.parseReplace_wrapModPathError, heapGet_setToksH_same hg, bind, Except.bind, pure, Except.pure, heapAlloc, eM]

end closures

theorem psOut_len (a : Bytes) : (psOut a).1.1.length ≤ 4 * a.length := by
  unfold psOut
  cases hps : ModVerif.Modfile.parseString a with
  | none => simp
  | some p => obtain ⟨t, tok⟩ := p; simpa using parseString_length hps

theorem IsDirectoryPath_spec (ns : Bytes) : Rule.IsDirectoryPath ns = .ok (ModVerif.Modfile.isDirectoryPath ns) := by
  rw [IsDirectoryPath_eq]; exact Tie.FnModfile.IsDirectoryPath_tie ns

theorem mpm_spec (a : Bytes) (fuel : Nat) (hf : 4 * a.length + 1 ≤ fuel) :
    Rule.modulePathMajor fuel (psOut a).1.1 = .ok (match ModVerif.Modfile.modulePathMajor (psOut a).1.1 with
      | some major => (major, none)
      | none => ([], some "invalid module path")) :=
  modulePathMajor_spec _ fuel (by have := psOut_len a; omega)

theorem prTail_vlen (fn : Bytes) (pos : Rule.Position) (line : Int) (verb : Bytes) (fx : Option ModVerif.Modfile.Fixer) (pre' : List Bytes)
    (s v : Bytes) (vlen : Nat) (nsTok : Bytes) (nvTok : Option Bytes) : (prTail fn pos line verb fx pre' s v vlen nsTok nvTok).vlen = vlen := by
  unfold prTail
  cases nvTok <;> simp only [] <;> repeat' split
  all_goals rfl

theorem prHead2_vlen {fn : Bytes} {pos : Rule.Position} {line : Int} {verb : Bytes} {fx : Option ModVerif.Modfile.Fixer}
    {a0 a1 ar nsTok : Bytes} {nvTok : Option Bytes} {pm : Bytes} (p0 : ((psOut a0).1.2).isNone = true)
    (hm : ModVerif.Modfile.modulePathMajor (psOut a0).1.1 = some pm) (p1 : ((pvOut (psOut a0).1.1 a1 fx).1.2).isNone = true) :
    (prHead2 fn pos line verb fx a0 a1 ar nsTok nvTok).vlen = (pvOut (psOut a0).1.1 a1 fx).1.1.length := by
  unfold prHead2
  simp only [p0, hm, p1, not_true_eq_false, if_false]
  split
  · rfl
  · exact prTail_vlen ..

theorem arrowB_eq : arrowB = ([61, 62] : Bytes) := rfl

abbrev errorfI := Rule.parseReplace_errorf isPrintI Quote.quote unquoteI
abbrev FixerG := Option (Bytes → Bytes → Bytes × Option String)

/-- `&Replace{…}` -/
def prAlloc (line : Int) (s v ns nv : Bytes) (world : Rule.Heap) : M ((Int × Int) × Rule.Heap) := do
  let (p36, hl) := heapAlloc world.replaces (mkReplace line s v ns nv)
  let world := { world with replaces := hl }
  pure ((p36, (0 : Int)), world)

/-- the continuation `k55` of `Rule.parseReplace` (with its inner `k47`): everything after the arrow — the replacement path at
    `args[arrow+1]`, the optional version at `args[arrow+2]`, the checks on the path, the new `Replace` object -/
def prK55 (fuel : Nat) (fn : Bytes) (line : Int) (verb : Bytes) (args : Rule.TokRef) (fix : FixerG) (arrow : Int) (s v : Bytes)
    (world : Rule.Heap) : M ((Int × Int) × Rule.Heap) := do
  let t27 ← Rule.TokRef.get args (arrow + 1) world
  let t29 ← Rule.parseString isPrintI Quote.quote unquoteI fuel t27 world
  let (wr30, world) := t29
  let (io31, ia28) := wr30
  let world ← Rule.TokRef.set args (arrow + 1) ia28 world
  let (ns, err_2) := io31
  if !err_2.isNone then do
    let t32 ← errorfI fuel fn line fmtQuoted [()] world
    let (cr33, world) := t32
    pure ((0, cr33), world)
  else do
    let t34 ← Rule.TokRef.len args world
    let k47 := fun (world : Rule.Heap) => (do
      let t35 ← Rule.TokRef.len args world
      if decide (t35 = arrow + 3) then do
        let t37 ← Rule.TokRef.get args (arrow + 2) world
        let t39 ← Rule.parseVersion isPrintI Quote.quote unquoteI fuel verb ns t37 fix world
        let (wr40, world) := t39
        let (io41, ia38) := wr40
        let world ← Rule.TokRef.set args (arrow + 2) ia38 world
        let (nv, err_2) := io41
        if !err_2.isNone then do
          let t42 ← Rule.parseReplace_wrapError isPrintI Quote.quote unquoteI fuel fn line err_2 world
          let (cr43, world) := t42
          pure ((0, cr43), world)
        else do
          let t44 ← Rule.IsDirectoryPath ns
          if t44 then do
            let t45 ← errorfI fuel fn line fmtDirVersion [()] world
            let (cr46, world) := t45
            pure ((0, cr46), world)
          else prAlloc line s v ns nv world
      else prAlloc line s v ns [] world : M ((Int × Int) × Rule.Heap))
    if decide (t34 = arrow + 2) then do
      let t48 ← Rule.IsDirectoryPath ns
      if !t48 then
        if contains ns [64] then do
          let t49 ← errorfI fuel fn line fmtAtVersion [] world
          let (cr50, world) := t49
          pure ((0, cr50), world)
        else do
          let t51 ← errorfI fuel fn line fmtNeedsDir [] world
          let (cr52, world) := t51
          pure ((0, cr52), world)
      else if true && contains ns [92] then do
        let t53 ← errorfI fuel fn line fmtWindows [] world
        let (cr54, world) := t53
        pure ((0, cr54), world)
      else k47 world
    else k47 world

/-- the continuation `k66` of `Rule.parseReplace`: the usage check for the arrow at `args[arrow]`, the old path, for
    `arrow = 2` the old version, then `prK55` -/
def prK66 (fuel : Nat) (fn : Bytes) (line : Int) (verb : Bytes) (args : Rule.TokRef) (fix : FixerG) (arrow : Int)
    (world : Rule.Heap) : M ((Int × Int) × Rule.Heap) := do
  let t10 ← Rule.TokRef.len args world
  let t12 ← (if decide (t10 < arrow + 2) then pure true else do
    let t11 ← Rule.TokRef.len args world
    pure (decide (t11 > arrow + 3)))
  let t14 ← (if t12 then pure true else do
    let t13 ← Rule.TokRef.get args arrow world
    pure (!decide (t13 = ([61, 62] : Bytes))))
  if t14 then do
    let t15 ← errorfI fuel fn line fmtUsage [(), ()] world
    let (cr16, world) := t15
    pure ((0, cr16), world)
  else do
    let t17 ← Rule.TokRef.get args 0 world
    let t19 ← Rule.parseString isPrintI Quote.quote unquoteI fuel t17 world
    let (wr20, world) := t19
    let (io21, ia18) := wr20
    let world ← Rule.TokRef.set args 0 ia18 world
    let (s, err_2) := io21
    if !err_2.isNone then do
      let t22 ← errorfI fuel fn line fmtQuoted [()] world
      let (cr23, world) := t22
      pure ((0, cr23), world)
    else do
      let t24 ← Rule.modulePathMajor fuel s
      let (pathMajor, err_2) := t24
      if !err_2.isNone then do
        let t25 ← Rule.parseReplace_wrapModPathError isPrintI Quote.quote unquoteI fuel fn line verb s err_2 world
        let (cr26, world) := t25
        pure ((0, cr26), world)
      else if decide (arrow = 2) then do
        let t56 ← Rule.TokRef.get args 1 world
        let t58 ← Rule.parseVersion isPrintI Quote.quote unquoteI fuel verb s t56 fix world
        let (wr59, world) := t58
        let (io60, ia57) := wr59
        let world ← Rule.TokRef.set args 1 ia57 world
        let (v, err_2) := io60
        if !err_2.isNone then do
          let t61 ← Rule.parseReplace_wrapError isPrintI Quote.quote unquoteI fuel fn line err_2 world
          let (cr62, world) := t61
          pure ((0, cr62), world)
        else do
          let err_3 ← ModVerif.Generated.Module.CheckPathMajor fuel v pathMajor
          if !err_3.isNone then do
            let t64 ← Rule.parseReplace_wrapModPathError isPrintI Quote.quote unquoteI fuel fn line verb s err_3 world
            let (cr65, world) := t64
            pure ((0, cr65), world)
          else prK55 fuel fn line verb args fix arrow s v world
      else prK55 fuel fn line verb args fix arrow s [] world

theorem parseReplace_eq (fuel : Nat) (fn : Bytes) (line : Int) (verb : Bytes) (args : Rule.TokRef) (fix : FixerG) (world : Rule.Heap) :
    Rule.parseReplace isPrintI Quote.quote unquoteI fuel fn line verb args fix world = (do
      let t7 ← Rule.TokRef.len args world
      let t9 ← (if decide (t7 ≥ 2) then do
        let t8 ← Rule.TokRef.get args 1 world
        pure (decide (t8 = ([61, 62] : Bytes))) else pure false)
      if t9 then prK66 fuel fn line verb args fix 1 world else prK66 fuel fn line verb args fix 2 world) := by
  rfl

section exec
variable {h0 : Rule.Heap} {r : Rule.TokRef} {pre toks0 : List Bytes} {L : Rule.Line}

/-- the simp set of the symbolic execution -/
local macro "pr_simp" "[" ts:Lean.Parser.Tactic.simpLemma,* "]" : tactic =>
  `(tactic| simp only [bind, Except.bind, pure, Except.pure, decide_false, decide_true, Bool.false_eq_true, if_false, if_true,
      Bool.not_true, Bool.not_false, not_true_eq_false, not_false_eq_true, Bool.not_eq_true, Bool.true_and, Bool.and_true,
      Option.isNone_none, Option.isNone_some, Option.toList_none, Option.toList_some,
      List.append_assoc, List.cons_append, List.nil_append, heapAlloc, ModVerif.Tie.FnRuleRep.setToksH_replaces,
      ModVerif.Tie.FnRuleRep.setToksH_errors, $ts,*])

theorem prK55_spec (v0 : TokView h0 r pre toks0) (hg : heapGet h0.lines r.owner = .ok L) (fn verb : Bytes)
    (fx : Option ModVerif.Modfile.Fixer) (fuel : Nat) {arrow : Int} (hd : List Bytes) (hhd : (hd.length : Int) = arrow + 1)
    (s v : Bytes) (vlen : Nat) (nsTok : Bytes) (nvTok : Option Bytes) (hf : 8 * tokSum (nsTok :: nvTok.toList) + 1 ≤ fuel) :
    prK55 fuel fn r.owner verb r (fixG fx) arrow s v (setToksH h0 r.owner (pre ++ (hd ++ nsTok :: nvTok.toList))) =
      .ok (prFinal h0 (prTail fn L.Start r.owner verb fx hd s v vlen nsTok nvTok) r.owner pre) := by
  have g1 := A.getAt v0 hd nsTok nvTok.toList hhd
  have s1 := A.setAt v0 hd nsTok nvTok.toList hhd
  simp only [tokSum_cons] at hf
  have S := fun w => parseString_spec nsTok fuel (by omega) w
  unfold prK55
  simp only [g1, S, s1, bind, Except.bind]
  rcases Bool.eq_false_or_eq_true ((psOut nsTok).1.2).isNone with p2 | p2
  rotate_left
  · pr_simp [p2, errorf_A hg, prTail, prFinal]
  have l1 : ∀ x : Bytes, (((hd ++ [x]).length : Nat) : Int) = arrow + 2 := by
    intro x; simp only [List.length_append, List.length_cons, List.length_nil]; omega
  have l2 : ∀ x y : Bytes, (((hd ++ [x, y]).length : Nat) : Int) = arrow + 3 := by
    intro x y; simp only [List.length_append, List.length_cons, List.length_nil]; omega
  have e23 : ¬ (arrow + 2 = arrow + 3) := by omega
  have e32 : ¬ (arrow + 3 = arrow + 2) := by omega
  cases nvTok with
  | none =>
    rcases Bool.eq_false_or_eq_true (ModVerif.Modfile.isDirectoryPath (psOut nsTok).1.1) with d | d
    rotate_left
    · rcases Bool.eq_false_or_eq_true (GoRt.contains (psOut nsTok).1.1 [64]) with c | c
      · pr_simp [p2, A.len v0, l1, l2, e23, e32, IsDirectoryPath_spec, d, c, errorf_A hg, prTail, prFinal]
      · pr_simp [p2, A.len v0, l1, l2, e23, e32, IsDirectoryPath_spec, d, c, errorf_A hg, prTail, prFinal]
    rcases Bool.eq_false_or_eq_true (GoRt.contains (psOut nsTok).1.1 [92]) with c | c
    · pr_simp [p2, A.len v0, l1, l2, e23, e32, IsDirectoryPath_spec, d, c, errorf_A hg, prTail, prFinal]
    · pr_simp [p2, A.len v0, l1, l2, e23, e32, IsDirectoryPath_spec, d, c, prAlloc, prTail, prFinal]
  | some nvT =>
    simp only [Option.toList_some, tokSum_cons, tokSum_nil] at hf
    have g2 := A.getAt v0 (hd ++ [(psOut nsTok).2]) nvT [] (i := arrow + 2) (by simp; omega)
    have s2 := A.setAt v0 (hd ++ [(psOut nsTok).2]) nvT [] (i := arrow + 2) (by simp; omega)
    simp only [List.append_assoc, List.cons_append, List.nil_append] at g2 s2
    have V := fun p w => parseVersion_spec verb p nvT fx fuel (by omega) w
    pr_simp [p2, A.len v0, l1, l2, e23, e32, g2, V, s2]
    rcases Bool.eq_false_or_eq_true ((pvOut (psOut nsTok).1.1 nvT fx).1.2).isNone with p3 | p3
    rotate_left
    · pr_simp [p2, p3, wrapError_A hg, prTail, prFinal]
    rcases Bool.eq_false_or_eq_true (ModVerif.Modfile.isDirectoryPath (psOut nsTok).1.1) with d | d
    · pr_simp [p2, p3, IsDirectoryPath_spec, d, errorf_A hg, prTail, prFinal]
    · pr_simp [p2, p3, IsDirectoryPath_spec, d, prAlloc, prTail, prFinal]

theorem prK66_spec1 (v0 : TokView h0 r pre toks0) (hg : heapGet h0.lines r.owner = .ok L) (fn verb : Bytes)
    (fx : Option ModVerif.Modfile.Fixer) (fuel : Nat) (a0 nsTok : Bytes) (nvTok : Option Bytes)
    (hf : 8 * tokSum (a0 :: arrowB :: nsTok :: nvTok.toList) + 1 ≤ fuel) :
    prK66 fuel fn r.owner verb r (fixG fx) 1 (setToksH h0 r.owner (pre ++ a0 :: arrowB :: nsTok :: nvTok.toList)) =
      .ok (prFinal h0 (prHead1 fn L.Start r.owner verb fx a0 arrowB nsTok nvTok) r.owner pre) := by
  simp only [tokSum_cons] at hf
  have hn : nvTok.toList.length ≤ 1 := by cases nvTok <;> simp
  have u1 : ¬ (((a0 :: arrowB :: nsTok :: nvTok.toList).length : Nat) : Int) < 1 + 2 := by simp only [List.length_cons]; omega
  have u2 : ¬ (((a0 :: arrowB :: nsTok :: nvTok.toList).length : Nat) : Int) > 1 + 3 := by simp only [List.length_cons]; omega
  have g0 := A.getAt v0 [] a0 (arrowB :: nsTok :: nvTok.toList) (i := 0) rfl
  have s0 := A.setAt v0 [] a0 (arrowB :: nsTok :: nvTok.toList) (i := 0) rfl
  have g1 := A.getAt v0 [a0] arrowB (nsTok :: nvTok.toList) (i := 1) rfl
  simp only [List.nil_append, List.cons_append] at g0 s0 g1
  have S0 := fun w => parseString_spec a0 fuel (by omega) w
  have M0 := mpm_spec a0 fuel (by omega)
  unfold prK66
  have ea : decide (arrowB = ([61, 62] : Bytes)) = true := rfl
  pr_simp [A.len v0, u1, u2, g0, g1, ea, S0, s0, Int.reduceEq]
  rcases Bool.eq_false_or_eq_true ((psOut a0).1.2).isNone with p0 | p0
  rotate_left
  · pr_simp [p0, errorf_A hg, prHead1, prFinal]
  rcases hm : ModVerif.Modfile.modulePathMajor (psOut a0).1.1 with _ | pm
  · pr_simp [p0, M0, hm, wrapModPathError_A hg, prHead1, prFinal]
  · pr_simp [p0, M0, hm, prHead1]
    exact prK55_spec v0 hg fn verb fx fuel [(psOut a0).2, arrowB] rfl _ _ 0 nsTok nvTok (by simp only [tokSum_cons]; omega)

theorem prK66_spec2 (v0 : TokView h0 r pre toks0) (hg : heapGet h0.lines r.owner = .ok L) (fn verb : Bytes)
    (fx : Option ModVerif.Modfile.Fixer) (fuel : Nat) (a0 a1 nsTok : Bytes) (nvTok : Option Bytes)
    (hf : 8 * tokSum (a0 :: a1 :: arrowB :: nsTok :: nvTok.toList) + 1 ≤ fuel)
    (hv : 2 * (prHead2 fn L.Start r.owner verb fx a0 a1 arrowB nsTok nvTok).vlen ≤ fuel) :
    prK66 fuel fn r.owner verb r (fixG fx) 2 (setToksH h0 r.owner (pre ++ a0 :: a1 :: arrowB :: nsTok :: nvTok.toList)) =
      .ok (prFinal h0 (prHead2 fn L.Start r.owner verb fx a0 a1 arrowB nsTok nvTok) r.owner pre) := by
  simp only [tokSum_cons] at hf
  have hn : nvTok.toList.length ≤ 1 := by cases nvTok <;> simp
  have u1 : ¬ (((a0 :: a1 :: arrowB :: nsTok :: nvTok.toList).length : Nat) : Int) < 2 + 2 := by
    simp only [List.length_cons]; omega
  have u2 : ¬ (((a0 :: a1 :: arrowB :: nsTok :: nvTok.toList).length : Nat) : Int) > 2 + 3 := by
    simp only [List.length_cons]; omega
  have g0 := A.getAt v0 [] a0 (a1 :: arrowB :: nsTok :: nvTok.toList) (i := 0) rfl
  have s0 := A.setAt v0 [] a0 (a1 :: arrowB :: nsTok :: nvTok.toList) (i := 0) rfl
  have g2 := A.getAt v0 [a0, a1] arrowB (nsTok :: nvTok.toList) (i := 2) rfl
  have g1 := A.getAt v0 [(psOut a0).2] a1 (arrowB :: nsTok :: nvTok.toList) (i := 1) rfl
  have s1 := A.setAt v0 [(psOut a0).2] a1 (arrowB :: nsTok :: nvTok.toList) (i := 1) rfl
  simp only [List.nil_append, List.cons_append] at g0 s0 g1 s1 g2
  have S0 := fun w => parseString_spec a0 fuel (by omega) w
  have M0 := mpm_spec a0 fuel (by omega)
  have V1 := fun p w => parseVersion_spec verb p a1 fx fuel (by omega) w
  have ea : decide (arrowB = ([61, 62] : Bytes)) = true := rfl
  unfold prK66
  pr_simp [A.len v0, u1, u2, g0, g2, ea, S0, s0, g1, V1, s1]
  rcases Bool.eq_false_or_eq_true ((psOut a0).1.2).isNone with p0 | p0
  rotate_left
  · pr_simp [p0, errorf_A hg, prHead2, prFinal]
  rcases hm : ModVerif.Modfile.modulePathMajor (psOut a0).1.1 with _ | pm
  · pr_simp [p0, M0, hm, wrapModPathError_A hg, prHead2, prFinal]
  rcases Bool.eq_false_or_eq_true ((pvOut (psOut a0).1.1 a1 fx).1.2).isNone with p1 | p1
  rotate_left
  · pr_simp [p0, M0, hm, p1, wrapError_A hg, prHead2, prFinal]
  rw [prHead2_vlen p0 hm p1] at hv
  have C1 := Tie.FnModule.CheckPathMajor_tie (pvOut (psOut a0).1.1 a1 fx).1.1 pm fuel hv
  rcases Bool.eq_false_or_eq_true (Module.checkPathMajor (pvOut (psOut a0).1.1 a1 fx).1.1 pm) with cm | cm
  rotate_left
  · have hme : (TieFnModule.majorErr).isNone = false := rfl
    pr_simp [p0, M0, hm, p1, C1, cm, hme, wrapModPathError_A hg, prHead2, prFinal]
  · pr_simp [p0, M0, hm, p1, C1, cm, prHead2]
    exact prK55_spec v0 hg fn verb fx fuel [(psOut a0).2, (pvOut (psOut a0).1.1 a1 fx).2, arrowB] rfl _ _ _ nsTok nvTok
      (by simp only [tokSum_cons]; omega)

theorem prK66_usage (v0 : TokView h0 r pre toks0) (hg : heapGet h0.lines r.owner = .ok L) (fn verb : Bytes)
    (fx : Option ModVerif.Modfile.Fixer) (fuel : Nat) (arrow : Int) (ts : List Bytes)
    (hu : (ts.length : Int) < arrow + 2 ∨ (ts.length : Int) > arrow + 3 ∨
      ∃ hd t tl, ts = hd ++ t :: tl ∧ (hd.length : Int) = arrow ∧ t ≠ arrowB) :
    prK66 fuel fn r.owner verb r (fixG fx) arrow (setToksH h0 r.owner (pre ++ ts)) =
      .ok (prFinal h0 ⟨ts, .error (eF fn L.Start fmtUsage), 0⟩ r.owner pre) := by
  unfold prK66
  by_cases c1 : (ts.length : Int) < arrow + 2
  · pr_simp [A.len v0, c1, errorf_A hg, prFinal]
  by_cases c2 : (ts.length : Int) > arrow + 3
  · pr_simp [A.len v0, c1, c2, errorf_A hg, prFinal]
  obtain ⟨hd, t, tl, rfl, hk, ht⟩ := hu.resolve_left c1 |>.resolve_left c2
  have e : decide (t = ([61, 62] : Bytes)) = false := decide_eq_false ht
  pr_simp [A.len v0, c1, c2, A.getAt v0 hd t tl hk, e, errorf_A hg, prFinal]

theorem parseReplace_arrow1 (v0 : TokView h0 r pre toks0) (fuel : Nat) (fn : Bytes) (line : Int) (verb : Bytes) (fix : FixerG)
    (a0 : Bytes) (rest : List Bytes) :
    Rule.parseReplace isPrintI Quote.quote unquoteI fuel fn line verb r fix (setToksH h0 r.owner (pre ++ a0 :: arrowB :: rest)) =
      prK66 fuel fn line verb r fix 1 (setToksH h0 r.owner (pre ++ a0 :: arrowB :: rest)) := by
  have hl : (((a0 :: arrowB :: rest).length : Nat) : Int) ≥ 2 := by simp only [List.length_cons]; omega
  have ea : decide (arrowB = ([61, 62] : Bytes)) = true := rfl
  have g1 : r.get 1 (setToksH h0 r.owner (pre ++ a0 :: arrowB :: rest)) = .ok arrowB := A.getAt v0 [a0] arrowB rest rfl
  rw [parseReplace_eq]
  pr_simp [A.len v0, hl, g1, ea]

theorem parseReplace_arrow2 (v0 : TokView h0 r pre toks0) (fuel : Nat) (fn : Bytes) (line : Int) (verb : Bytes) (fix : FixerG)
    (ts : List Bytes) (h : ts[1]? ≠ some arrowB) :
    Rule.parseReplace isPrintI Quote.quote unquoteI fuel fn line verb r fix (setToksH h0 r.owner (pre ++ ts)) =
      prK66 fuel fn line verb r fix 2 (setToksH h0 r.owner (pre ++ ts)) := by
  rw [parseReplace_eq]
  rcases ts with _ | ⟨a, _ | ⟨b, rest⟩⟩
  · have hl : ¬ ((([] : List Bytes).length : Nat) : Int) ≥ 2 := by decide
    pr_simp [A.len v0, hl]
  · have hl : ¬ ((([a] : List Bytes).length : Nat) : Int) ≥ 2 := by simp
    pr_simp [A.len v0, hl]
  · have hl : (((a :: b :: rest).length : Nat) : Int) ≥ 2 := by simp only [List.length_cons]; omega
    have g1 : r.get 1 (setToksH h0 r.owner (pre ++ a :: b :: rest)) = .ok b := A.getAt v0 [a] b rest rfl
    have e : decide (b = ([61, 62] : Bytes)) = false := decide_eq_false fun e => h (congrArg some e)
    pr_simp [A.len v0, hl, g1, e]

end exec

theorem parseReplace_spec {h : Rule.Heap} {r : Rule.TokRef} {pre args : List Bytes}
    (v : TokView h r pre args) {L : Rule.Line} (hg : heapGet h.lines r.owner = .ok L) (fn verb : Bytes)
    (fx : Option ModVerif.Modfile.Fixer) (fuel : Nat) (hf : 8 * tokSum args + 1 ≤ fuel)
    (hv : 2 * (prOut fn L.Start r.owner verb args fx).vlen ≤ fuel) :
    Rule.parseReplace isPrintI Quote.quote unquoteI fuel fn r.owner verb r (fixG fx) h =
      .ok (prFinal h (prOut fn L.Start r.owner verb args fx) r.owner pre) := by
  have key : Rule.parseReplace isPrintI Quote.quote unquoteI fuel fn r.owner verb r (fixG fx) (setToksH h r.owner (pre ++ args)) =
      .ok (prFinal h (prOut fn L.Start r.owner verb args fx) r.owner pre) := by
    have usage2 : ∀ ts : List Bytes, ts[1]? ≠ some arrowB →
        ((ts.length : Int) < 2 + 2 ∨ (ts.length : Int) > 2 + 3 ∨ ∃ hd t tl, ts = hd ++ t :: tl ∧ (hd.length : Int) = 2 ∧ t ≠ arrowB) →
        Rule.parseReplace isPrintI Quote.quote unquoteI fuel fn r.owner verb r (fixG fx) (setToksH h r.owner (pre ++ ts)) =
          .ok (prFinal h ⟨ts, .error (eF fn L.Start fmtUsage), 0⟩ r.owner pre) := fun ts h1 hu => by
      rw [parseReplace_arrow2 v _ _ _ _ _ ts h1]; exact prK66_usage v hg fn verb fx fuel 2 ts hu
    have usage1 : ∀ (a0 : Bytes) (rest : List Bytes), rest.length < 1 ∨ 2 < rest.length →
        Rule.parseReplace isPrintI Quote.quote unquoteI fuel fn r.owner verb r (fixG fx) (setToksH h r.owner (pre ++ a0 :: arrowB :: rest)) =
          .ok (prFinal h ⟨a0 :: arrowB :: rest, .error (eF fn L.Start fmtUsage), 0⟩ r.owner pre) := fun a0 rest hl => by
      rw [parseReplace_arrow1 v]; exact prK66_usage v hg fn verb fx fuel 1 _ (by simp only [List.length_cons]; omega)
    rcases args with _ | ⟨a, _ | ⟨b, _ | ⟨c, _ | ⟨d, _ | ⟨e, _ | ⟨f, rest⟩⟩⟩⟩⟩⟩
    · exact usage2 _ (by simp) (Or.inl (by simp))
    · exact usage2 _ (by simp) (Or.inl (by simp))
    · by_cases hx : b = arrowB
      · subst hx; exact usage1 a [] (by simp)
      · exact usage2 _ (fun e => hx (Option.some.inj e)) (Or.inl (by simp))
    · by_cases hx : b = arrowB
      · subst hx
        simp only [prOut, if_true]
        rw [parseReplace_arrow1 v]; exact prK66_spec1 v hg fn verb fx fuel a c none hf
      · simp only [prOut, hx, if_false]
        exact usage2 _ (fun e => hx (Option.some.inj e)) (Or.inl (by simp))
    · by_cases hx : b = arrowB
      · subst hx
        simp only [prOut, if_true]
        rw [parseReplace_arrow1 v]; exact prK66_spec1 v hg fn verb fx fuel a c (some d) hf
      · have h1 : [a, b, c, d][1]? ≠ some arrowB := fun e => hx (Option.some.inj e)
        by_cases hy : c = arrowB
        · subst hy
          simp only [prOut, hx, if_false, if_true] at hv ⊢
          rw [parseReplace_arrow2 v _ _ _ _ _ _ h1]; exact prK66_spec2 v hg fn verb fx fuel a b d none hf hv
        · simp only [prOut, hx, hy, if_false]
          exact usage2 _ h1 (Or.inr (Or.inr ⟨[a, b], c, [d], rfl, rfl, hy⟩))
    · by_cases hx : b = arrowB
      · subst hx
        simp only [prOut, if_true]
        exact usage1 a [c, d, e] (by simp)
      · have h1 : [a, b, c, d, e][1]? ≠ some arrowB := fun e => hx (Option.some.inj e)
        by_cases hy : c = arrowB
        · subst hy
          simp only [prOut, hx, if_false, if_true] at hv ⊢
          rw [parseReplace_arrow2 v _ _ _ _ _ _ h1]; exact prK66_spec2 v hg fn verb fx fuel a b d (some e) hf hv
        · simp only [prOut, hx, hy, if_false]
          exact usage2 _ h1 (Or.inr (Or.inr ⟨[a, b], c, [d, e], rfl, rfl, hy⟩))
    · by_cases hx : b = arrowB
      · subst hx; exact usage1 a (c :: d :: e :: f :: rest) (by simp)
      · exact usage2 _ (fun e => hx (Option.some.inj e)) (Or.inr (Or.inl (by simp only [List.length_cons]; omega)))
  rwa [v.setToksH_self] at key

end ModVerif.Tie.FnRuleLeafC
