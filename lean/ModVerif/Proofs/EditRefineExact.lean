/-
  C16 on the model's typed lists: the bulk setters leave exactly the requested entries, for
  every map-iteration order, and the result does not depend on that order.
-/
import ModVerif.Proofs.EditRefineWork
namespace ModVerif.Modfile.Edit
open ModVerif ModVerif.Modfile ModVerif.EditSpec

theorem exact_of_perm {α : Type} {key : α → Bytes} {l want : List α} (hp : l.Perm want)
    (hW : want.Pairwise (fun a b => key a ≠ key b)) :
    (∀ w ∈ want, l.filter (fun x => key x == key w) = [w]) ∧ (∀ r ∈ l, r ∈ want) := by
  refine ⟨?_, fun r hr => hp.subset hr⟩
  intro w hw
  rw [filter_key_of_perm hp hW (key w)]
  clear hp
  induction want with
  | nil => cases hw
  | cons x xs ih =>
    rcases List.pairwise_cons.1 hW with ⟨h1, h2⟩
    rcases List.mem_cons.1 hw with rfl | hw'
    · have : xs.filter (fun a => key a == key w) = [] := by
        apply List.filter_eq_nil_iff.2
        intro a ha hka
        exact h1 a ha (eq_of_beq hka).symm
      simp [List.filter, this]
    · have hne : (key x == key w) = false := by
        cases hb : key x == key w with
        | false => rfl
        | true => exact absurd (eq_of_beq hb) (h1 w hw')
      simp only [List.filter, hne]
      exact ih h2 hw'

theorem GoodWant.toReq_distinct {w : List Want} (h : GoodWant w) :
    (w.map Want.toReq).Pairwise (fun a b => a.path ≠ b.path) := by
  rw [List.pairwise_map]; exact h.1

theorem setRequire_exact (e e' : EFile) (want : List Want) (perm : List Want → List Want)
    (hperm : ∀ l, (perm l).Perm l) (hg : GoodWant want) (hi : TInv e) (h : setRequire e want perm = .ok e') :
    (absOf (cleanup e').f).require.Perm (want.map Want.toReq) ∧
    (∀ w ∈ want, (absOf (cleanup e').f).require.filter (fun r => r.path == w.path) = [w.toReq]) ∧
    (∀ r ∈ (absOf (cleanup e').f).require, ∃ w ∈ want, r = w.toReq) := by
  have hp := (setRequire_abs e e' want perm hperm hg hi h).1
  rw [absLive_eq_cleanup] at hp
  rcases exact_of_perm (key := Req.path) hp hg.toReq_distinct with ⟨h1, h2⟩
  refine ⟨hp, fun w hw => h1 w.toReq (List.mem_map.2 ⟨w, hw, rfl⟩), fun r hr => ?_⟩
  rcases List.mem_map.1 (h2 r hr) with ⟨w, hw, rfl⟩
  exact ⟨w, hw, rfl⟩

theorem setRequireSeparateIndirect_exact (e e' : EFile) (want : List Want) (perm : List Want → List Want)
    (hperm : ∀ l, (perm l).Perm l) (hg : GoodWant want) (hi : TInv e) (h : setRequireSeparateIndirect e want perm = .ok e') :
    (absOf (cleanup e').f).require.Perm (want.map Want.toReq) ∧
    (∀ w ∈ want, (absOf (cleanup e').f).require.filter (fun r => r.path == w.path) = [w.toReq]) ∧
    (∀ r ∈ (absOf (cleanup e').f).require, ∃ w ∈ want, r = w.toReq) := by
  have hp := (setRequireSeparateIndirect_abs e e' want perm hperm hg hi h).1
  rw [absLive_eq_cleanup] at hp
  rcases exact_of_perm (key := Req.path) hp hg.toReq_distinct with ⟨h1, h2⟩
  refine ⟨hp, fun w hw => h1 w.toReq (List.mem_map.2 ⟨w, hw, rfl⟩), fun r hr => ?_⟩
  rcases List.mem_map.1 (h2 r hr) with ⟨w, hw, rfl⟩
  exact ⟨w, hw, rfl⟩

theorem setUse_exact (e e' : EWork) (dirs : List (Bytes × Bytes)) (perm : List (Bytes × Bytes) → List (Bytes × Bytes))
    (hperm : ∀ l, (perm l).Perm l) (hg : GoodUse dirs) (hi : WInv e) (h : setUse e dirs perm = .ok e') :
    (absOfWork (workCleanup e').f).use.Perm (dirs.map Prod.fst) ∧
    (∀ d ∈ dirs, (absOfWork (workCleanup e').f).use.filter (fun u => u == d.1) = [d.1]) ∧
    (∀ u ∈ (absOfWork (workCleanup e').f).use, ∃ d ∈ dirs, u = d.1) := by
  have hp := (setUse_abs e e' dirs perm hperm hg hi h).1
  rw [absLiveWork_eq_cleanup] at hp
  have hW : (dirs.map Prod.fst).Pairwise (fun a b => id a ≠ id b) := by rw [List.pairwise_map]; exact hg.1
  rcases exact_of_perm (key := id) hp hW with ⟨h1, h2⟩
  refine ⟨hp, fun d hd => h1 d.1 (List.mem_map.2 ⟨d, hd, rfl⟩), fun u hu => ?_⟩
  rcases List.mem_map.1 (h2 u hu) with ⟨d, hd, rfl⟩
  exact ⟨d, hd, rfl⟩

/-! ### independence of the map-iteration order (typed lists) -/

theorem setRequire_ok_indep (e : EFile) (want : List Want) (p1 p2 : List Want → List Want) :
    (setRequire e want p1).isOk = (setRequire e want p2).isOk := by
  unfold setRequire
  simp only [bind, Except.bind]
  cases needMap true want [] with
  | error err => rfl
  | ok need =>
    dsimp only
    cases setRequireLoop e.f.require need e.f.syn with
    | error err => rfl
    | ok r => rfl

theorem setRequire_perm_independent (e e1 e2 : EFile) (want : List Want) (p1 p2 : List Want → List Want)
    (hp1 : ∀ l, (p1 l).Perm l) (hp2 : ∀ l, (p2 l).Perm l) (hg : GoodWant want) (hi : TInv e)
    (h1 : setRequire e want p1 = .ok e1) (h2 : setRequire e want p2 = .ok e2) :
    Rel (absOf (cleanup e1).f) (absOf (cleanup e2).f) := by
  rcases setRequire_abs e e1 want p1 hp1 hg hi h1 with ⟨a1, b1, _⟩
  rcases setRequire_abs e e2 want p2 hp2 hg hi h2 with ⟨a2, b2, _⟩
  rw [← absLive_eq_cleanup, ← absLive_eq_cleanup, b1, b2]
  exact Rel.removeDups { Rel.refl (absLive e.f) with require := KeyEq.of_perm a1 a2 hg.toReq_distinct }

theorem setRequireSeparateIndirect_perm_independent (e e1 e2 : EFile) (want : List Want) (p1 p2 : List Want → List Want)
    (hp1 : ∀ l, (p1 l).Perm l) (hp2 : ∀ l, (p2 l).Perm l) (hg : GoodWant want) (hi : TInv e)
    (h1 : setRequireSeparateIndirect e want p1 = .ok e1) (h2 : setRequireSeparateIndirect e want p2 = .ok e2) :
    Rel (absOf (cleanup e1).f) (absOf (cleanup e2).f) := by
  rcases setRequireSeparateIndirect_abs e e1 want p1 hp1 hg hi h1 with ⟨a1, b1, _⟩
  rcases setRequireSeparateIndirect_abs e e2 want p2 hp2 hg hi h2 with ⟨a2, b2, _⟩
  rw [← absLive_eq_cleanup, ← absLive_eq_cleanup, b1, b2]
  exact Rel.removeDups { Rel.refl (absLive e.f) with require := KeyEq.of_perm a1 a2 hg.toReq_distinct }

theorem setUse_perm_independent (e e1 e2 : EWork) (dirs : List (Bytes × Bytes))
    (p1 p2 : List (Bytes × Bytes) → List (Bytes × Bytes))
    (hp1 : ∀ l, (p1 l).Perm l) (hp2 : ∀ l, (p2 l).Perm l) (hg : GoodUse dirs) (hi : WInv e)
    (h1 : setUse e dirs p1 = .ok e1) (h2 : setUse e dirs p2 = .ok e2) :
    Rel (absOfWork (workCleanup e1).f) (absOfWork (workCleanup e2).f) := by
  rcases setUse_abs e e1 dirs p1 hp1 hg hi h1 with ⟨a1, b1, _⟩
  rcases setUse_abs e e2 dirs p2 hp2 hg hi h2 with ⟨a2, b2, _⟩
  have hW : (dirs.map Prod.fst).Pairwise (fun a b => id a ≠ id b) := by rw [List.pairwise_map]; exact hg.1
  rw [← absLiveWork_eq_cleanup, ← absLiveWork_eq_cleanup, b1, b2]
  exact Rel.removeDups { Rel.refl (absLiveWork e.f) with use := KeyEq.of_perm a1 a2 hW }

end ModVerif.Modfile.Edit
