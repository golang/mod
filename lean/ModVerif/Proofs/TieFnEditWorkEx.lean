/-
  Test harness of the non-vacuity examples of Tie/FnEditWork.lean: a parsed go.work (a comment block, `go`, a two-line `use`
  block, a `replace` line) is loaded into a heap with the driver's `Drv.GenEdit.loadWork`, an operation is run, the whole
  typed file is read back with the driver's `workM` and compared with the hand model applied to `Edit.loadWork` of the same
  file (kernel-evaluated, `decide +kernel`); `exR`: the loaded heap represents the loaded model (`FnEditRep.loadWork_rep`).
-/
import ModVerif.Proofs.TieFnEditRep
import ModVerif.Proofs.BytesLit
namespace ModVerif.Tie.FnEditWorkEx
open ModVerif ModVerif.GoRt ModVerif.Generated.Edit ModVerif.Tie.FnEditRep

def exFile : Bytes := B "// c\n\ngo 1.21\n\nuse (\n\t./a\n\t./b\n)\n\nreplace x.y/z => ../z\n"

/-- the parsed example (`{}` if it did not parse — it does: `exParsed_ok`) -/
def exParsed : Modfile.WorkFile :=
  match Modfile.parseWork (B "go.work") exFile none with
  | .ok f => f
  | .error _ => {}

def exHeap : Heap := (Drv.GenEdit.loadWork exParsed).1
def exFp : Int := (Drv.GenEdit.loadWork exParsed).2
def exW : Modfile.Edit.EWork := Modfile.Edit.loadWork exParsed

/-- the typed entries without their line ids (`workM` does not read them back) -/
def strip (w : Modfile.WorkFile) : Modfile.WorkFile :=
  { w with go := w.go.map fun g => { g with lineId := 0 },
           toolchain := w.toolchain.map fun t => { t with lineId := 0 },
           godebug := w.godebug.map fun g => { g with lineId := 0 },
           use := w.use.map fun u => { u with lineId := 0 },
           replace := w.replace.map fun r => { r with lineId := 0 } }

/-- run `op fp h` on the loaded heap and read the file back: `none` = panic, `some none` = unreadable heap -/
def runW {β : Type} (op : Int → Heap → M (β × Heap)) : Option (Option Modfile.WorkFile) :=
  match op exFp exHeap with
  | .ok (_, h') => some (Drv.GenEdit.workM h' exFp)
  | .error _ => none

def modelW (g : Modfile.Edit.EWork → Except Modfile.Edit.EditErr Modfile.Edit.EWork) : Option (Option Modfile.WorkFile) :=
  match g exW with
  | .ok e => some (some (strip e.f))
  | .error _ => none

theorem exParsed_ok : (Modfile.parseWork (B "go.work") exFile none).toOption = some exParsed := by rw [B_lit exFile]; decide +kernel

theorem exR : RepW exHeap exFp exW := loadWork_rep exParsed (loadWorkOKB_sound (by decide +kernel))

theorem tie_ok {ε α : Type} {x : Except ε α} {P : α → Prop} {Q : Prop}
    (h : match x with | .ok a => P a | .error _ => Q) (hx : x.toOption.isSome = true) : ∃ a, x = .ok a ∧ P a := by
  cases x with
  | ok a => exact ⟨a, rfl, h⟩
  | error e => cases hx

end ModVerif.Tie.FnEditWorkEx
