/-
  The two passes of `assignComments` (read.go) as scans over the flat list of node visits.

  A pass threads a state (the comments not yet assigned) through every `Comments` slot of the tree, in a fixed order,
  applying `assignBefore` resp. `assignSuffix` with a key of the node (its start, resp. its span).  `preVisits` /
  `postVisits` list the slots with their keys in that order, and the pass is `scan` over the list
  (`preStmts_scan`, `postStmtsRev_scan`): the slots of the new tree are the outputs of the scan, the rest of the tree is
  unchanged (the `_bare` lemmas).  A count over the tree is a sum over the slots, and what a pass does to it is `scan_sum`
  with the count of one `assignBefore` / `assignSuffix`.
-/
import ModVerif.Model.Modfile.Comments
namespace ModVerif.Proofs.ModfileC20
open ModVerif ModVerif.Modfile

/-! ### a pass changes nothing but comments -/

def lineBare (l : Line) : Line := { l with comments := {} }

def exprBare : Expr → Expr
  | .line l => .line (lineBare l)
  | .lineBlock b => .lineBlock { b with
      comments := {}, lparen := { b.lparen with comments := {} }, lines := b.lines.map lineBare,
      rparen := { b.rparen with comments := {} } }
  | .commentBlock c => .commentBlock { c with comments := {} }
  | .lparen p => .lparen { p with comments := {} }
  | .rparen p => .rparen { p with comments := {} }

theorem preLines_bare : ∀ (ls : List Line) (line : List Comment), (preLines ls line).1.map lineBare = ls.map lineBare := by
  intro ls
  induction ls with
  | nil => intro line; rfl
  | cons l rest ih =>
    intro line
    unfold preLines
    simp only [List.map_cons, ih]
    rfl

theorem postLinesRev_bare : ∀ (ls : List Line) (suf : List Comment),
    (postLinesRev ls suf).1.map lineBare = ls.map lineBare := by
  intro ls
  induction ls with
  | nil => intro suf; rfl
  | cons l rest ih =>
    intro suf
    unfold postLinesRev
    simp only [List.map_cons, ih]
    rfl

theorem preStmt_bare (s : Expr) (line : List Comment) : exprBare (preStmt s line).1 = exprBare s := by
  cases s <;> simp only [preStmt, exprBare, Expr.setComments, preLines_bare, lineBare]

theorem postStmt_bare (s : Expr) (suf : List Comment) : exprBare (postStmt s suf).1 = exprBare s := by
  cases s <;>
    simp only [postStmt, exprBare, Expr.setComments, List.map_reverse, postLinesRev_bare, List.reverse_reverse, lineBare]

theorem preStmts_bare : ∀ (ss : List Expr) (line : List Comment), (preStmts ss line).1.map exprBare = ss.map exprBare := by
  intro ss
  induction ss with
  | nil => intro line; rfl
  | cons s rest ih =>
    intro line
    unfold preStmts
    simp only [List.map_cons, ih, preStmt_bare]

theorem postStmtsRev_bare : ∀ (ss : List Expr) (suf : List Comment),
    (postStmtsRev ss suf).1.map exprBare = ss.map exprBare := by
  intro ss
  induction ss with
  | nil => intro suf; rfl
  | cons s rest ih =>
    intro suf
    unfold postStmtsRev
    simp only [List.map_cons, ih, postStmt_bare]

theorem assignComments_bare (f : FileSyntax) (cs : List Comment) :
    (assignComments f cs).stmts.map exprBare = f.stmts.map exprBare := by
  unfold assignComments
  simp only [List.map_reverse, postStmtsRev_bare, List.reverse_reverse, preStmts_bare]

theorem assignComments_map {α : Type} (g : Expr → α) (hg : ∀ s, g (exprBare s) = g s) (f : FileSyntax) (cs : List Comment) :
    (assignComments f cs).stmts.map g = f.stmts.map g := by
  have hb : ∀ xs : List Expr, xs.map g = (xs.map exprBare).map g := fun xs => by
    rw [List.map_map]; exact List.map_congr_left fun s _ => (hg s).symm
  rw [hb, assignComments_bare, ← hb]

theorem assignComments_all (P : Expr → Prop) (hP : ∀ s, P (exprBare s) ↔ P s) (f : FileSyntax) (cs : List Comment)
    (h : ∀ x ∈ f.stmts, P x) : ∀ x ∈ (assignComments f cs).stmts, P x := by
  intro x hx
  have hm : P x ∈ f.stmts.map (fun s => P s) :=
    assignComments_map (fun s => P s) (fun s => propext (hP s)) f cs ▸ List.mem_map_of_mem hx
  obtain ⟨y, hy, e⟩ := List.mem_map.1 hm
  exact e ▸ h y hy

end ModVerif.Proofs.ModfileC20

namespace ModVerif.Proofs.ModfileAssign
open ModVerif ModVerif.Modfile
open ModVerif.Proofs.ModfileC20

def scan {κ S : Type} (v : κ → Comments → S → Comments × S) : List (κ × Comments) → S → List Comments × S
  | [], s => ([], s)
  | (k, c) :: vs, s => ((v k c s).1 :: (scan v vs (v k c s).2).1, (scan v vs (v k c s).2).2)

theorem scan_append {κ S : Type} (v : κ → Comments → S → Comments × S) : ∀ (a b : List (κ × Comments)) (s : S),
    scan v (a ++ b) s = ((scan v a s).1 ++ (scan v b (scan v a s).2).1, (scan v b (scan v a s).2).2)
  | [], _, _ => rfl
  | (k, c) :: a, b, s => by simp only [List.cons_append, scan, scan_append v a b]

theorem scan_sum {κ S : Type} {v : κ → Comments → S → Comments × S} (w : Comments → Nat) (n : S → Nat)
    (h : ∀ k c s, w (v k c s).1 + n (v k c s).2 = w c + n s) : ∀ (vs : List (κ × Comments)) (s : S),
    ((scan v vs s).1.map w).sum + n (scan v vs s).2 = (vs.map fun vis => w vis.2).sum + n s
  | [], _ => rfl
  | (k, c) :: vs, s => by
    have h1 := h k c s
    have h2 := scan_sum w n h vs (v k c s).2
    simp only [scan, List.map_cons, List.sum_cons]
    omega

/-! ### one visit: how many comments it moves -/

theorem takeLine_length (start : Position) : ∀ (l : List Comment),
    (takeLine start l).1.length + (takeLine start l).2.length = l.length
  | [] => rfl
  | c :: rest => by
    have ih := takeLine_length start rest
    unfold takeLine
    split
    · simp only [List.length_cons]; omega
    · simp

theorem takeSuffix_length (e : Position) : ∀ (l acc : List Comment),
    (takeSuffix e acc l).1.length + (takeSuffix e acc l).2.length = acc.length + l.length
  | [], _ => rfl
  | c :: rest, acc => by
    have ih := takeSuffix_length e rest (c :: acc)
    unfold takeSuffix
    split
    · simp only [List.length_cons] at ih ⊢; omega
    · simp

theorem assignBefore_length (start : Position) (cs : Comments) (line : List Comment) :
    (assignBefore start cs line).1.before.length + (assignBefore start cs line).2.length = cs.before.length + line.length ∧
    (assignBefore start cs line).1.suffix = cs.suffix := by
  have := takeLine_length start line
  simp only [assignBefore, List.length_append]
  exact ⟨by omega, trivial⟩

theorem assignSuffix_length (span : Position × Position) (cs : Comments) (suf : List Comment) :
    (assignSuffix span cs suf).1.suffix.length + (assignSuffix span cs suf).2.length = cs.suffix.length + suf.length ∧
    (assignSuffix span cs suf).1.before = cs.before := by
  unfold assignSuffix
  split
  · simp
  · have := takeSuffix_length span.2 suf []
    simp only [List.length_reverse, List.length_append, List.length_nil] at this ⊢
    exact ⟨by omega, trivial⟩

/-! ### the slots of a tree in the order of each pass -/

def preVisitsOf : Expr → List (Position × Comments)
  | .lineBlock b =>
    (b.start, b.comments) :: (b.lparen.pos, b.lparen.comments) :: (b.lines.map fun l => (l.start, l.comments)) ++
      [(b.rparen.pos, b.rparen.comments)]
  | s => [(s.span.1, s.comments)]

def preVisits (ss : List Expr) : List (Position × Comments) := ss.flatMap preVisitsOf

/-- on the statement as `postStmt` takes it -/
def postVisitsOf : Expr → List ((Position × Position) × Comments)
  | .lineBlock b =>
    ((Expr.lineBlock b).span, b.comments) :: ((Expr.rparen b.rparen).span, b.rparen.comments) ::
      (b.lines.reverse.map fun l => ((l.start, l.«end»), l.comments)) ++ [((Expr.lparen b.lparen).span, b.lparen.comments)]
  | s => [(s.span, s.comments)]

/-- on the statement list as `postStmtsRev` takes it (reversed) -/
def postVisits (ss : List Expr) : List ((Position × Position) × Comments) := ss.flatMap postVisitsOf

theorem preVisits_cons (s : Expr) (ss : List Expr) : preVisits (s :: ss) = preVisitsOf s ++ preVisits ss := List.flatMap_cons

theorem postVisits_cons (s : Expr) (ss : List Expr) : postVisits (s :: ss) = postVisitsOf s ++ postVisits ss :=
  List.flatMap_cons

theorem sum_postVisitsOf (f : Comments → Nat) (x : Expr) :
    ((postVisitsOf x).map fun v => f v.2).sum = ((preVisitsOf x).map fun v => f v.2).sum := by
  cases x <;> simp [postVisitsOf, preVisitsOf, Function.comp_def, List.sum_reverse]; omega

theorem sum_postVisits (f : Comments → Nat) : ∀ (ss : List Expr),
    ((postVisits ss).map fun v => f v.2).sum = ((preVisits ss).map fun v => f v.2).sum
  | [] => rfl
  | s :: ss => by
    rw [postVisits_cons, preVisits_cons, List.map_append, List.map_append, List.sum_append, List.sum_append,
      sum_postVisitsOf, sum_postVisits f ss]

/-! ### the passes are scans -/

theorem preLines_scan : ∀ (ls : List Line) (line : List Comment),
    ((preLines ls line).1.map (·.comments), (preLines ls line).2) =
      scan assignBefore (ls.map fun l => (l.start, l.comments)) line
  | [], _ => rfl
  | l :: ls, line => by
    have ih := preLines_scan ls (assignBefore l.start l.comments line).2
    simp only [preLines, List.map_cons, scan]
    rw [← ih]

theorem preStmt_scan (s : Expr) (line : List Comment) :
    ((preVisitsOf (preStmt s line).1).map (·.2), (preStmt s line).2) = scan assignBefore (preVisitsOf s) line := by
  cases s with
  | lineBlock b =>
    simp only [preStmt, preVisitsOf, List.cons_append, List.map_cons, List.map_append, List.map_map, scan, scan_append,
      ← preLines_scan]
    rfl
  | _ => rfl

theorem preStmts_scan : ∀ (ss : List Expr) (line : List Comment),
    ((preVisits (preStmts ss line).1).map (·.2), (preStmts ss line).2) = scan assignBefore (preVisits ss) line
  | [], _ => rfl
  | s :: ss, line => by
    have h1 := preStmt_scan s line
    have h2 := preStmts_scan ss (preStmt s line).2
    simp only [preVisits] at h2 ⊢
    simp only [List.flatMap_cons, List.map_append, preStmts, scan_append, ← h1, ← h2]

theorem postLinesRev_scan : ∀ (ls : List Line) (suf : List Comment),
    ((postLinesRev ls suf).1.map (·.comments), (postLinesRev ls suf).2) =
      scan assignSuffix (ls.map fun l => ((l.start, l.«end»), l.comments)) suf
  | [], _ => rfl
  | l :: ls, suf => by
    have ih := postLinesRev_scan ls (assignSuffix (l.start, l.«end») l.comments suf).2
    simp only [postLinesRev, List.map_cons, scan]
    rw [← ih]

theorem postStmt_scan (s : Expr) (suf : List Comment) :
    ((postVisitsOf (postStmt s suf).1).map (·.2), (postStmt s suf).2) = scan assignSuffix (postVisitsOf s) suf := by
  cases s with
  | lineBlock b =>
    simp only [postStmt, postVisitsOf, List.cons_append, List.map_cons, List.map_append, List.map_map, scan, scan_append,
      List.reverse_reverse, ← postLinesRev_scan]
    rfl
  | _ => rfl

theorem postStmtsRev_scan : ∀ (ss : List Expr) (suf : List Comment),
    ((postVisits (postStmtsRev ss suf).1).map (·.2), (postStmtsRev ss suf).2) = scan assignSuffix (postVisits ss) suf
  | [], _ => rfl
  | s :: ss, suf => by
    have h1 := postStmt_scan s suf
    have h2 := postStmtsRev_scan ss (postStmt s suf).2
    simp only [postVisits] at h2 ⊢
    simp only [List.flatMap_cons, List.map_append, postStmtsRev, scan_append, ← h1, ← h2]

end ModVerif.Proofs.ModfileAssign
