/-
  ClientMore — the latest-tree-head machine (Model/ClientLatest.lean) with an HONEST server (helper for Props/C14.lean).

  The honest-server hypothesis `Honest`, honest runs `HReachable` (configuration operations do not fail), and the
  invariants `ChainInv` (everything in the state lies on the server's one chain: an instance of `Vals`, which says so
  for any set of heads that the messages held open into) and `NoErr` (no goroutine is in an error state, no
  `SecurityError` was raised).
-/
import ModVerif.Proofs.ClientLatestInv
namespace ModVerif.ClientLatest
variable {M T : Type}

def GoodMsg (P : Params M T) (Ch : T → Prop) : Option M → Prop
  | none => True
  | some m => ∃ pt, P.parse m = some pt ∧ Ch pt

/-- **Honest server.**  `Ch` is the set of tree heads of the server's one log (the chain).  The empty tree, the tree of
the initial configuration and every tree presented to any goroutine lie on it (and their messages verify); on the chain
the prefix order is the order of sizes; and `checkTrees(older, newer)` answers `ok` — and nothing else: no tile is
withheld and no fork exists — on every pair of chain heads in size order. -/
structure Honest (P : Params M T) (le : T → T → Prop) (Ch : T → Prop) (presented : Nat → Option M) (c0 : Option M) :
    Prop where
  sound : Sound P le
  zero_ch : Ch P.zero
  presented_ch : ∀ t, GoodMsg P Ch (presented t)
  c0_ch : GoodMsg P Ch c0
  size_le : ∀ a b, Ch a → Ch b → P.size a ≤ P.size b → le a b
  chk_honest : ∀ a b, Ch a → Ch b → P.size a ≤ P.size b → P.chk a b = [Res.ok]

/-- the configuration operation (if the step is one) does not fail with a non-conflict error -/
def CfgOk (s : St M T) (t : Nat) (r : Res) : Prop :=
  ((s.th t).pc = .readConfig ∨ (s.th t).pc = .writeConfig) → r ≠ .error

theorem goodMsg_cfgTree (P : Params M T) (Ch : T → Prop) (hz : Ch P.zero) (om : Option M) (h : GoodMsg P Ch om) :
    Ch (cfgTree P om) := by
  cases om with
  | none => exact hz
  | some m => obtain ⟨pt, hp, hc⟩ := h; simpa [cfgTree, hp] using hc

theorem goodMsg_none (P : Params M T) (Ch : T → Prop) : GoodMsg P Ch none := trivial

theorem goodMsg_some (P : Params M T) (Ch : T → Prop) (m : M) (pt : T) (hp : P.parse m = some pt) (hc : Ch pt) :
    GoodMsg P Ch (some m) := ⟨pt, hp, hc⟩

theorem goodMsg_parse (P : Params M T) (Ch : T → Prop) (m : M) (pt : T) (h : GoodMsg P Ch (some m))
    (hp : P.parse m = some pt) : Ch pt := by
  obtain ⟨pt', hp', hc⟩ := h
  rw [hp] at hp'; cases hp'; exact hc

theorem goodMsg_parse_ne (P : Params M T) (Ch : T → Prop) (m : M) (h : GoodMsg P Ch (some m)) : P.parse m ≠ none := by
  obtain ⟨pt', hp', _⟩ := h
  simp [hp']

/-- every message among the locals satisfies `QM` and every head `Q` -/
structure LocVals (QM : Option M → Prop) (Q : T → Prop) (l : Loc M T) : Prop where
  msg : QM l.msg
  tree : Q l.tree
  latest : Q l.latest
  latestMsg : QM l.latestMsg
  cfg : QM l.cfg
  lm : QM l.lm

/-- … and so does everything held anywhere in the state -/
structure Vals (QM : Option M → Prop) (Q : T → Prop) (s : St M T) : Prop where
  latest : ∀ c, Q (s.latest c)
  latestMsg : ∀ c, QM (s.latestMsg c)
  config : QM s.config
  loc : ∀ t, LocVals QM Q (s.th t)

theorem Vals.imp {QM QM' : Option M → Prop} {Q Q' : T → Prop} {s : St M T} (hM : ∀ om, QM om → QM' om)
    (hQ : ∀ x, Q x → Q' x) (h : Vals QM Q s) : Vals QM' Q' s :=
  ⟨fun c => hQ _ (h.latest c), fun c => hM _ (h.latestMsg c), hM _ h.config, fun t =>
    ⟨hM _ (h.loc t).msg, hQ _ (h.loc t).tree, hQ _ (h.loc t).latest, hM _ (h.loc t).latestMsg, hM _ (h.loc t).cfg,
      hM _ (h.loc t).lm⟩⟩

theorem LStep.vals {P : Params M T} {QM : Option M → Prop} {Q : T → Prop}
    (hopen : ∀ m tr, QM (some m) → P.parse m = some tr → Q tr) {pres : Option M} {pv : Bool} {L : T}
    {LM C : Option M} {l l' : Loc M T} {r : Res} {e : Eff M} (hl : LStep P pres pv L LM C l r l' e)
    (hpres : l.pc = .start → QM pres) (hL : Q L) (hLM : QM LM) (hC : QM C) (h : LocVals QM Q l) :
    LocVals QM Q l' := by
  cases hl
  case start hpc => exact { h with msg := hpres hpc }
  case readOk m tr _ hmsg hp => exact { h with tree := hopen m tr (hmsg ▸ h.msg) hp, latest := hL, latestMsg := hLM }
  case retry => exact { h with latest := hL, latestMsg := hLM }
  case read => exact { h with cfg := hC, msg := hC }
  case readMsg => exact { h with lm := hLM }
  all_goals exact { h with }

theorem forall_upd {α : Type} {Q : α → Prop} {f : Nat → α} (h : ∀ j, Q (f j)) (i : Nat) {v : α} (hv : Q v) (j : Nat) :
    Q (upd f i v j) := by
  unfold upd; split
  · exact hv
  · exact h j

theorem Vals.apply {QM : Option M → Prop} {Q : T → Prop} {s : St M T} (h : Vals QM Q s) (e : Eff M) (t c : Nat)
    {l' : Loc M T} (hl : LocVals QM Q l') : Vals QM Q (e.apply s t c l') := by
  have hth := forall_upd h.loc t hl
  cases e
  · exact ⟨h.latest, h.latestMsg, h.config, hth⟩
  · exact ⟨forall_upd h.latest c hl.tree, forall_upd h.latestMsg c hl.msg, h.config, hth⟩
  · exact ⟨h.latest, h.latestMsg, h.config, hth⟩
  · exact ⟨h.latest, h.latestMsg, hl.lm, hth⟩

abbrev ChainInv (P : Params M T) (Ch : T → Prop) (s : St M T) : Prop := Vals (GoodMsg P Ch) Ch s

theorem chain_init (P : Params M T) (le : T → T → Prop) (Ch : T → Prop) (presented : Nat → Option M) (c0 : Option M)
    (hH : Honest P le Ch presented c0) : ChainInv P Ch (init P c0) :=
  ⟨fun _ => hH.zero_ch, fun _ => trivial, hH.c0_ch, fun _ => ⟨trivial, hH.zero_ch, hH.zero_ch, trivial, trivial, trivial⟩⟩

variable [DecidableEq M] [DecidableEq T]

/-- states reachable when no configuration operation fails (any interleaving, any admissible `checkTrees` answers) -/
inductive HReachable (P : Params M T) (cl : Nat → Nat) (presented : Nat → Option M) (priv : Nat → Bool) (c0 : Option M) :
    St M T → Prop
  | init : HReachable P cl presented priv c0 (init P c0)
  | step {s s' : St M T} (t : Nat) (r : Res) :
      HReachable P cl presented priv c0 s → CfgOk s t r → step P cl presented priv s t r = some s' →
      HReachable P cl presented priv c0 s'

theorem HReachable.reachable {P : Params M T} {cl : Nat → Nat} {presented : Nat → Option M} {priv : Nat → Bool}
    {c0 : Option M} {s : St M T} (h : HReachable P cl presented priv c0 s) : Reachable P cl presented priv c0 s := by
  induction h with
  | init => exact Reachable.init
  | step t r _ _ hs ih => exact Reachable.step t r ih hs

theorem vals_step {P : Params M T} {QM : Option M → Prop} {Q : T → Prop}
    (hopen : ∀ m tr, QM (some m) → P.parse m = some tr → Q tr) {cl : Nat → Nat} {presented : Nat → Option M}
    {priv : Nat → Bool} {s s' : St M T} {t : Nat} {r : Res} (hpres : (s.th t).pc = .start → QM (presented t))
    (hV : Vals QM Q s) (h : step P cl presented priv s t r = some s') : Vals QM Q s' := by
  obtain ⟨l', e, hl, rfl⟩ := (step_iff ..).mp h
  exact hV.apply e t _ (hl.vals hopen hpres (hV.latest _) (hV.latestMsg _) hV.config (hV.loc t))

variable {P : Params M T} {le : T → T → Prop} {Ch : T → Prop} {cl : Nat → Nat} {presented : Nat → Option M}
  {priv : Nat → Bool} {c0 : Option M} {s s' s1 s2 : St M T} {t : Nat} {r : Res}

theorem chain_step (hH : Honest P le Ch presented c0) (hC : ChainInv P Ch s)
    (h : step P cl presented priv s t r = some s') : ChainInv P Ch s' :=
  vals_step (goodMsg_parse P Ch) (fun _ => hH.presented_ch t) hC h

structure NoErr (s : St M T) : Prop where
  no_err : ∀ t, (s.th t).pc ≠ .done .err
  no_sec : ∀ t, (s.th t).pc ≠ .done .security
  sec_nil : s.sec = []

omit [DecidableEq M] [DecidableEq T] in
theorem noErr_init (P : Params M T) (c0 : Option M) : NoErr (init P c0) := by
  constructor <;> simp [init]

omit [DecidableEq M] [DecidableEq T] in
theorem LStep.honest {P : Params M T} {le : T → T → Prop} {Ch : T → Prop} {presented : Nat → Option M} {c0 : Option M}
    (hH : Honest P le Ch presented c0) {pres : Option M} {pv : Bool} {L : T} {LM C : Option M} {l l' : Loc M T}
    {r : Res} {e : Eff M} (hl : LStep P pres pv L LM C l r l' e) (hg : LocVals (GoodMsg P Ch) Ch l)
    (hok : (l.pc = .readConfig ∨ l.pc = .writeConfig) → r ≠ .error) :
    l'.pc ≠ .done .err ∧ l'.pc ≠ .done .security ∧ ∀ a b, e ≠ .report a b := by
  have hchk : ∀ {a b x}, Ch a → Ch b → ¬ P.size b ≤ P.size a ∨ P.size a ≤ P.size b → x ∈ P.chk a b → x = .ok := by
    intro a b x ha hb hsz hx
    rw [hH.chk_honest a b ha hb (by omega)] at hx
    exact List.mem_singleton.mp hx
  cases hl
  case readBad m _ hmsg hp => exact absurd hp (goodMsg_parse_ne P Ch m (hmsg ▸ hg.msg))
  case oldFork hsz hx => cases hchk hg.tree hg.latest (.inr hsz) hx
  case oldErr hsz hx => cases hchk hg.tree hg.latest (.inr hsz) hx
  case newFork hsz hx => cases hchk hg.latest hg.tree (.inl hsz) hx
  case newErr hsz hx => cases hchk hg.latest hg.tree (.inl hsz) hx
  case readFail hpc => exact absurd rfl (hok (.inl hpc))
  case writeFail hpc => exact absurd rfl (hok (.inr hpc))
  case entry => cases pv <;> exact ⟨nofun, nofun, fun _ _ => nofun⟩
  case readEmpty | oldOk | install =>
    exact ⟨fun h => (by cases afterMem_done _ _ _ h), fun h => (by cases afterMem_done _ _ _ h), fun _ _ => nofun⟩
  all_goals exact ⟨nofun, nofun, fun _ _ => nofun⟩

theorem noErr_step (hH : Honest P le Ch presented c0) (hC : ChainInv P Ch s) (hN : NoErr s) (hok : CfgOk s t r)
    (h : step P cl presented priv s t r = some s') : NoErr s' := by
  obtain ⟨l', e, hl, rfl⟩ := (step_iff ..).mp h
  obtain ⟨h1, h2, h3⟩ := hl.honest hH (hC.loc t) hok
  have hth := forall_upd (Q := fun l : Loc M T => l.pc ≠ .done .err ∧ l.pc ≠ .done .security)
    (fun t' => ⟨hN.no_err t', hN.no_sec t'⟩) t ⟨h1, h2⟩
  cases e
  case report a b => exact absurd rfl (h3 a b)
  all_goals exact ⟨fun t' => (hth t').1, fun t' => (hth t').2, hN.sec_nil⟩

theorem honest_invs (hH : Honest P le Ch presented c0) (h : HReachable P cl presented priv c0 s) :
    ChainInv P Ch s ∧ NoErr s := by
  induction h with
  | init => exact ⟨chain_init P le Ch presented c0 hH, noErr_init P c0⟩
  | step t r _ hok hs ih =>
    exact ⟨chain_step hH ih.1 hs,
      noErr_step hH ih.1 ih.2 hok hs⟩

end ModVerif.ClientLatest
