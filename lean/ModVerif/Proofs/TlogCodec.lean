/-
  Round trips of the text encodings of /repo/sumdb/tlog (note.go, Hash text forms):
  `parseHash ∘ hashString`, `unmarshalJSON ∘ marshalJSON`, `parseTree ∘ formatTree`,
  `parseRecord ∘ formatRecord`.
-/
import ModVerif.Model.TlogNote
import ModVerif.Proofs.Base64
import ModVerif.Proofs.Decimal
import ModVerif.Proofs.GoRtLemmasStr
namespace ModVerif.TlogNote
open ModVerif ModVerif.Tlog

theorem parseHash_hashString (h : Bytes) (hl : h.length = 32) : parseHash (hashString h) = some h := by
  simp [parseHash, hashString, Base64.decodeStd_encodeStd, hl, HashSize]

theorem unmarshalJSON_marshalJSON (h : Bytes) (hl : h.length = 32) :
    unmarshalJSON (marshalJSON h) = some h := by
  have hraw := Base64.encodeRawStd_length_32 h hl
  have hdec := Base64.decodeRawStd_encodeRawStd h
  have heq : marshalJSON h = 34 :: (Base64.encodeRawStd h ++ [61, 34]) := by
    simp [marshalJSON, hashString, Base64.encodeStd_eq_raw_append h (by omega)]
  have hlen : (marshalJSON h).length = 46 := by rw [heq]; simp [hraw]
  have h0 : (marshalJSON h)[0]? = some 34 := by rw [heq]; rfl
  have h44 : (marshalJSON h)[44]? = some 61 := by
    rw [heq, List.getElem?_cons_succ, List.getElem?_append_right (by omega)]
    simp [hraw]
  have h45 : (marshalJSON h)[45]? = some 34 := by
    rw [heq, List.getElem?_cons_succ, List.getElem?_append_right (by omega)]
    simp [hraw]
  have htd : ((marshalJSON h).take 44).drop 1 = Base64.encodeRawStd h := by
    rw [heq]
    simp only [List.take_succ_cons, List.drop_succ_cons, List.drop_zero]
    rw [List.take_append_of_le_length (by omega)]
    exact List.take_of_length_le (by omega)
  unfold unmarshalJSON
  simp only [hlen, h0, h44, h45, htd, hdec]
  simp [hl, HashSize]

theorem countNL_append (a b : Bytes) : countNL (a ++ b) = countNL a + countNL b := by
  simp [countNL]

theorem span_loop_no_nl : ∀ (a rest acc : Bytes), (10 : UInt8) ∉ a →
    List.span.loop (· != 10) (a ++ 10 :: rest) acc = (acc.reverse ++ a, 10 :: rest)
  | [], rest, acc, _ => by simp [List.span.loop]
  | c :: a, rest, acc, h => by
    have hc : c ≠ 10 := fun e => h (by simp [e])
    have ha : (10 : UInt8) ∉ a := fun e => h (by simp [e])
    have hc' : (c != 10) = true := by simpa using hc
    simp [List.span.loop, hc', span_loop_no_nl a rest (c :: acc) ha]

theorem span_no_nl (a rest : Bytes) (h : (10 : UInt8) ∉ a) :
    (a ++ 10 :: rest).span (· != 10) = (a, 10 :: rest) := by
  simp [List.span, span_loop_no_nl a rest [] h]

theorem treePrefix_eq : treePrefix =
    [103, 111, 46, 115, 117, 109, 32, 100, 97, 116, 97, 98, 97, 115, 101, 32, 116, 114, 101, 101] ++ [10] := by
  decide +kernel

theorem formatInt_length_le (n : Int) (hn : 0 ≤ n) (hm : n ≤ Decimal.int64Max) :
    (Decimal.formatInt n).length ≤ 19 := by
  cases n with
  | ofNat k =>
    apply Decimal.formatNat_length_le k 19 (by omega)
    have : (10 : Nat) ^ 19 = 10000000000000000000 := by decide
    rw [this]
    simp only [Decimal.int64Max, Int.ofNat_eq_natCast] at hm
    omega
  | negSucc k => omega

/-- `ParseTree` looks at the first three lines only: whatever follows a formatted tree head, up to its 1 MB limit on
    the whole text, is ignored -/
theorem parseTree_formatTree_append (t : Tree) (extra : Bytes) (hn : 0 ≤ t.n) (hm : t.n ≤ Decimal.int64Max)
    (hl : t.hash.length = 32) (hx : (formatTree t ++ extra).length ≤ 1000000) :
    parseTree (formatTree t ++ extra) = some t := by
  obtain ⟨n, hash⟩ := t
  simp only at hn hm hl
  have hnl1 := Decimal.formatInt_no_newline n
  have hnl2 : (10 : UInt8) ∉ hashString hash := Base64.encodeStd_no_newline hash
  have hmin : Decimal.int64Min ≤ n := by simp only [Decimal.int64Min]; omega
  have hpi := Decimal.parseInt64_formatInt n hmin hm
  have hdec : Base64.decodeStd (hashString hash) = some hash := Base64.decodeStd_encodeStd hash
  have hpre : isPrefixOfB treePrefix (formatTree ⟨n, hash⟩ ++ extra) = true := by
    simp only [formatTree, List.append_assoc]
    exact isPrefixOfB_append _ _
  have hcnt : ¬ countNL (formatTree ⟨n, hash⟩ ++ extra) < 3 := by
    simp only [formatTree, countNL_append]
    have h1 : countNL treePrefix = 1 := by decide +kernel
    have h2 : countNL [10] = 1 := by decide
    omega
  have hlen : ¬ (formatTree ⟨n, hash⟩ ++ extra).length > 1000000 := by omega
  have hsplit : splitN 4 (formatTree ⟨n, hash⟩ ++ extra) =
      [[103, 111, 46, 115, 117, 109, 32, 100, 97, 116, 97, 98, 97, 115, 101, 32, 116, 114, 101, 101],
        Decimal.formatInt n, hashString hash, extra] := by
    have e : formatTree ⟨n, hash⟩ ++ extra =
        [103, 111, 46, 115, 117, 109, 32, 100, 97, 116, 97, 98, 97, 115, 101, 32, 116, 114, 101, 101] ++
          10 :: (Decimal.formatInt n ++ 10 :: (hashString hash ++ 10 :: extra)) := by
      simp [formatTree, treePrefix_eq]
    rw [e]
    have hnl0 : (10 : UInt8) ∉ ([103, 111, 46, 115, 117, 109, 32, 100, 97, 116, 97, 98, 97, 115,
        101, 32, 116, 114, 101, 101] : Bytes) := by decide
    rw [splitN, span_no_nl _ _ hnl0]
    simp only
    rw [splitN, span_no_nl _ _ hnl1]
    simp only
    rw [splitN, span_no_nl _ _ hnl2]
    simp only [splitN]
  unfold parseTree
  simp only [hpre, hcnt, hlen, hsplit, hpi, hdec]
  simp [hl, HashSize, hn]

theorem parseTree_formatTree (t : Tree) (hn : 0 ≤ t.n) (hm : t.n ≤ Decimal.int64Max)
    (hl : t.hash.length = 32) : parseTree (formatTree t) = some t := by
  have hlen : (formatTree t ++ []).length ≤ 1000000 := by
    have h1 := formatInt_length_le t.n hn hm
    have h2 : (hashString t.hash).length = 44 := Base64.encodeStd_length_32 t.hash hl
    have h3 : treePrefix.length = 21 := by decide +kernel
    simp only [formatTree, List.length_append, h2, h3, List.append_nil, List.length_cons, List.length_nil]
    omega
  simpa using parseTree_formatTree_append t [] hn hm hl hlen

/-- no two adjacent newline bytes -/
def noDbl : Bytes → Bool
  | a :: b :: rest => !(a == 10 && b == 10) && noDbl (b :: rest)
  | _ => true

theorem noDbl_cons (b : UInt8) (l : Bytes) (h : noDbl l = true) (hb : b = 10 → l.head? ≠ some 10) :
    noDbl (b :: l) = true := by
  cases l with
  | nil => simp [noDbl]
  | cons c l =>
    simp only [noDbl, Bool.and_eq_true, h, and_true]
    simp only [List.head?_cons, ne_eq, Option.some.injEq] at hb
    simp only [Bool.not_eq_true', Bool.and_eq_false_iff, beq_eq_false_iff_ne, ne_eq]
    by_cases e : b = 10
    · exact Or.inr (hb e)
    · exact Or.inl e

theorem noDbl_append_ne : ∀ (cs l : Bytes), (∀ c ∈ cs, c ≠ 10) → noDbl l = true →
    noDbl (cs ++ l) = true
  | [], l, _, h => h
  | c :: cs, l, hc, h => by
    have := noDbl_append_ne cs l (fun x hx => hc x (by simp [hx])) h
    exact noDbl_cons c (cs ++ l) this (fun e => absurd e (hc c (by simp)))

theorem splitBlank_noDbl : ∀ (pre rest : Bytes), noDbl (pre ++ [10]) = true →
    splitBlank (pre ++ 10 :: 10 :: rest) = some (pre, rest)
  | [], rest, _ => by simp [splitBlank]
  | [a], rest, h => by
    have ha : a ≠ 10 := by simpa [noDbl] using h
    simp [splitBlank, ha]
  | a :: b :: pre, rest, h => by
    simp only [List.cons_append, noDbl, Bool.and_eq_true] at h
    have ih := splitBlank_noDbl (b :: pre) rest h.2
    simp only [List.cons_append] at ih
    have hab : (a == 10 && b == 10) = false := by
      have := h.1
      revert this
      cases (a == 10 && b == 10) <;> simp
    simp only [List.cons_append, splitBlank, hab, Bool.false_eq_true, if_false, ih]

/-- what a successful `Utf8.decode` says about the bytes it consumed, as far as '\n' is concerned: the newline is
    the one-byte rune 10, and no byte of a multi-byte rune is a newline -/
theorem decode_shape (b : UInt8) (rest : Bytes) (r w : Nat)
    (h : Utf8.decode (b :: rest) = some (r, w)) :
    ∃ cs rest', rest = cs ++ rest' ∧ cs.length = w - 1 ∧ (∀ c ∈ cs, c ≠ 10) ∧
      (r = 10 ↔ b = 10) ∧ (r = 10 → cs = []) := by
  have hw := GoRtStr.decode_width h
  simp only [List.length_cons] at hw
  have hb10 : b = 10 ↔ b.toNat = 10 := ⟨fun e => by subst e; rfl, fun e => UInt8.toNat_inj.1 e⟩
  refine ⟨rest.take (w - 1), rest.drop (w - 1), (List.take_append_drop _ _).symm,
    by rw [List.length_take]; omega, ?_⟩
  rcases Utf8.decode_cases h with ⟨_, rfl, rfl⟩ | ⟨_, hr, _, hall⟩
  · exact ⟨by simp, by rw [hb10], fun _ => rfl⟩
  · refine ⟨fun c hc e => ?_, by rw [hb10]; omega, fun e => by omega⟩
    have := hall c (by rw [show w = (w - 1) + 1 by omega, List.take_succ_cons]; exact List.mem_cons_of_mem _ hc)
    subst e
    exact absurd this (by decide)

theorem isValidAux_skip : ∀ (cs : Bytes) (last : Nat) (l : Bytes),
    isValidRecordTextAux cs.length last (cs ++ l) = isValidRecordTextAux 0 last l
  | [], _, _ => rfl
  | c :: cs, last, l => by
    simp only [List.length_cons, List.cons_append, isValidRecordTextAux]
    exact isValidAux_skip cs last l

/-- the invariant of the validity scan, `last` being the previous rune -/
def Good (last : Nat) (l : Bytes) : Prop :=
  noDbl l = true ∧ (last = 10 → l.head? ≠ some 10) ∧ (l = [] → last = 10) ∧
    (l ≠ [] → l.getLast? = some 10)

theorem isValidAux_good : ∀ (n : Nat) (l : Bytes) (last : Nat), l.length ≤ n →
    isValidRecordTextAux 0 last l = true → Good last l := by
  intro n
  induction n with
  | zero =>
    intro l last hl h
    have : l = [] := List.length_eq_zero_iff.1 (by omega)
    subst this
    simp only [isValidRecordTextAux, beq_iff_eq] at h
    exact ⟨rfl, by simp, fun _ => h, fun e => absurd rfl e⟩
  | succ n ih =>
    intro l last hl h
    cases l with
    | nil =>
      simp only [isValidRecordTextAux, beq_iff_eq] at h
      exact ⟨rfl, by simp, fun _ => h, fun e => absurd rfl e⟩
    | cons b rest =>
      rw [isValidRecordTextAux] at h
      cases hd : Utf8.decode (b :: rest) with
      | none => rw [hd] at h; exact absurd h (by simp)
      | some rw' =>
        obtain ⟨r, w⟩ := rw'
        rw [hd] at h
        simp only at h
        split at h
        · exact absurd h (by simp)
        · rename_i hcond
          obtain ⟨cs, rest', hrest, hcl, hcs, hr10, hrcs⟩ := decode_shape b rest r w hd
          subst hrest
          rw [← hcl, isValidAux_skip] at h
          have hlen : rest'.length ≤ n := by
            simp only [List.length_cons, List.length_append] at hl; omega
          obtain ⟨g1, g2, g3, g4⟩ := ih rest' r hlen h
          have hlast : ¬ (last = 10 ∧ r = 10) := by
            intro ⟨e1, e2⟩
            apply hcond
            simp [e1, e2]
          refine ⟨?_, ?_, fun e => by simp at e, fun _ => ?_⟩
          · apply noDbl_cons
            · exact noDbl_append_ne cs rest' hcs g1
            · intro e
              have hr := hr10.2 e
              rw [hrcs hr]
              exact g2 hr
          · intro e
            simp only [List.head?_cons, ne_eq, Option.some.injEq]
            intro eb
            exact hlast ⟨e, hr10.2 eb⟩
          · by_cases hne : rest' = []
            · have hr := g3 hne
              subst hne
              rw [hrcs hr, hr10.1 hr]; rfl
            · rw [show b :: (cs ++ rest') = (b :: cs) ++ rest' from rfl,
                List.getLast?_append, g4 hne]
              rfl

theorem isValidRecordText_shape (text : Bytes) (h : isValidRecordText text = true) :
    ∃ pre, text = pre ++ [10] ∧ noDbl text = true := by
  obtain ⟨g1, _, g3, g4⟩ := isValidAux_good text.length text 0 (Nat.le_refl _) h
  have hne : text ≠ [] := fun e => absurd (g3 e) (by decide)
  have hl := g4 hne
  obtain ⟨pre, hpre⟩ := List.getLast?_eq_some_iff.1 hl
  exact ⟨pre, hpre, g1⟩

theorem parseRecord_formatRecord (id : Int) (text rest msg : Bytes)
    (h1 : Decimal.int64Min ≤ id) (h2 : id ≤ Decimal.int64Max)
    (hf : formatRecord id text = some msg) :
    parseRecord (msg ++ rest) = some (id, text, rest) := by
  unfold formatRecord at hf
  split at hf
  · exact absurd hf (by simp)
  · rename_i hv
    simp only [Bool.not_eq_true, Bool.not_eq_false'] at hv
    simp only [Option.some.injEq] at hf
    subst hf
    obtain ⟨pre, hpre, hnd⟩ := isValidRecordText_shape text hv
    subst hpre
    have hnl := Decimal.formatInt_no_newline id
    have hpi := Decimal.parseInt64_formatInt id h1 h2
    have hsb := splitBlank_noDbl pre rest hnd
    unfold parseRecord
    simp only [List.append_assoc, List.cons_append, List.nil_append]
    rw [span_no_nl _ _ hnl]
    simp only [hpi]
    rw [hsb]
    simp only [hv]
    simp

end ModVerif.TlogNote
