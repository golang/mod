/-
  The list-level half of C16 `perm_independent` (full): the stable sort is characterised by its
  equivalence classes (`sortBy_stable`, `sorted_stable_unique`), so two inputs `old ++ new1` and `old ++ new2` that differ
  only in the order of appended elements no two of which are equivalent have the same sorted result
  (`sortBy_append_perm_invariant`) — no totality on the elements needed, only on the sort key.  For the lines of a block
  (`stableSort_block_perm_invariant`): the comparator looks at the tokens only, the appended lines have pairwise different
  tokens; and the sort commutes with any relabelling of the line ids (`stableSort_map_token`), so the statement holds
  modulo the fresh ids handed out in map-iteration order (`stableSort_block_perm_invariant_modIds`).
-/
import ModVerif.Proofs.EditModel
import ModVerif.Proofs.EditSpecCmp
namespace ModVerif.EditSpec
open ModVerif

section stable
variable {α : Type} {less : α → α → Bool}

def eqv (less : α → α → Bool) (a b : α) : Bool := !less a b && !less b a

theorem eqv_symm (a b : α) : eqv less a b = eqv less b a := by simp [eqv, Bool.and_comm]

theorem eqv_trans (h : StrictWeak less) {a b c : α} (h1 : eqv less a b = true) (h2 : eqv less b c = true) :
    eqv less a c = true := by
  simp only [eqv, Bool.and_eq_true, Bool.not_eq_true'] at h1 h2 ⊢
  exact ⟨h.negTrans _ _ _ h1.1 h2.1, h.negTrans _ _ _ h2.2 h1.2⟩

theorem insertBy_filter (h : StrictWeak less) (z x : α) (l : List α) :
    (insertBy less x l).filter (eqv less z) = (x :: l).filter (eqv less z) := by
  induction l with
  | nil => rfl
  | cons y ys ih =>
    unfold insertBy
    by_cases hyx : less y x = true
    · simp only [hyx, if_true]
      rw [List.filter_cons, ih]
      -- `y` and `x` are not both equivalent to `z`
      by_cases hzy : eqv less z y = true
      · have hzx : eqv less z x = false := by
          cases hzx : eqv less z x with
          | false => rfl
          | true =>
            have : eqv less y x = true := eqv_trans h (by rw [eqv_symm]; exact hzy) hzx
            simp [eqv, hyx] at this
        simp [hzy, hzx]
      · simp only [Bool.not_eq_true] at hzy
        simp [List.filter_cons, hzy]
    · simp only [Bool.not_eq_true] at hyx
      simp only [hyx, Bool.false_eq_true, if_false]

theorem sortBy_stable (h : StrictWeak less) (z : α) (l : List α) :
    (sortBy less l).filter (eqv less z) = l.filter (eqv less z) := by
  induction l with
  | nil => rfl
  | cons x xs ih =>
    show (insertBy less x (sortBy less xs)).filter (eqv less z) = _
    rw [insertBy_filter h, List.filter_cons, ih, ← List.filter_cons]

theorem sorted_stable_unique (h : StrictWeak less) (l1 l2 : List α) (h1 : Sorted less l1) (h2 : Sorted less l2)
    (hp : l1.Perm l2) (hc : ∀ z, l1.filter (eqv less z) = l2.filter (eqv less z)) : l1 = l2 := by
  induction l1 generalizing l2 with
  | nil => exact (List.Perm.nil_eq hp)
  | cons a t1 ih =>
    cases l2 with
    | nil => exact absurd hp.symm (List.Perm.nil_eq · |> fun e => by cases e)
    | cons b t2 =>
      rcases List.pairwise_cons.1 h1 with ⟨ha, ht1⟩
      rcases List.pairwise_cons.1 h2 with ⟨hb, ht2⟩
      have haa : eqv less a a = true := by simp [eqv, h.irrefl]
      have hab : eqv less a b = true := by
        have m1 : a ∈ b :: t2 := (List.Perm.mem_iff hp).1 List.mem_cons_self
        have m2 : b ∈ a :: t1 := (List.Perm.mem_iff hp).2 List.mem_cons_self
        rw [List.mem_cons] at m1 m2
        rcases m1 with e | m1
        · rw [← e]; exact haa
        rcases m2 with e | m2
        · rw [e]; exact haa
        simp only [eqv, Bool.and_eq_true, Bool.not_eq_true']
        exact ⟨hb a m1, ha b m2⟩
      have heq : a = b := by
        have := hc a
        simp only [List.filter_cons, haa, hab, if_true, List.cons.injEq] at this
        exact this.1
      subst heq
      congr 1
      refine ih t2 ht1 ht2 (List.Perm.cons_inv hp) ?_
      intro z
      have := hc z
      simp only [List.filter_cons] at this
      split at this
      · exact (List.cons.inj this).2
      · exact this

theorem sortBy_eq_of_classes (h : StrictWeak less) (l1 l2 : List α) (hp : l1.Perm l2)
    (hc : ∀ z, l1.filter (eqv less z) = l2.filter (eqv less z)) : sortBy less l1 = sortBy less l2 :=
  sorted_stable_unique h _ _ (sortBy_sorted h l1) (sortBy_sorted h l2)
    (((sortBy_perm less l1).trans hp).trans (sortBy_perm less l2).symm)
    (fun z => by rw [sortBy_stable h, sortBy_stable h, hc z])

theorem perm_short_eq {β : Type} : ∀ (l1 l2 : List β), l1.Perm l2 → l1.length ≤ 1 → l1 = l2
  | [], l2, hp, _ => (List.Perm.nil_eq hp)
  | [a], l2, hp, _ => (List.perm_singleton.1 hp.symm).symm
  | _ :: _ :: _, _, _, hl => by simp at hl

theorem filter_class_short (h : StrictWeak less) (z : α) : ∀ (l : List α), l.Pairwise (fun a b => eqv less a b = false) →
    (l.filter (eqv less z)).length ≤ 1 := by
  intro l hl
  induction l with
  | nil => simp
  | cons a t ih =>
    rcases List.pairwise_cons.1 hl with ⟨ha, ht⟩
    rw [List.filter_cons]
    split
    · rename_i hza
      have : t.filter (eqv less z) = [] := by
        apply List.filter_eq_nil_iff.2
        intro b hb hzb
        have := eqv_trans h (by rw [eqv_symm]; exact hza) hzb
        rw [ha b hb] at this
        cases this
      simp [this]
    · exact ih ht

theorem sortBy_append_perm_invariant (h : StrictWeak less) (old new1 new2 : List α) (hp : new1.Perm new2)
    (hd : new1.Pairwise (fun a b => eqv less a b = false)) : sortBy less (old ++ new1) = sortBy less (old ++ new2) := by
  refine sortBy_eq_of_classes h _ _ (List.Perm.append_left _ hp) ?_
  intro z
  rw [List.filter_append, List.filter_append]
  congr 1
  exact perm_short_eq _ _ (hp.filter _) (filter_class_short h z new1 hd)

end stable
end ModVerif.EditSpec

namespace ModVerif.Modfile.Edit
open ModVerif ModVerif.Modfile ModVerif.EditSpec

/-- `htot`: the comparator is total on tokens (`lineLess`) -/
theorem stableSort_block_perm_invariant (less : List Bytes → List Bytes → Bool) (hsw : StrictWeak less)
    (htot : ∀ a b, less a b = false → less b a = false → a = b) (old new1 new2 : List Line) (hp : new1.Perm new2)
    (hd : new1.Pairwise (fun a b => a.token ≠ b.token)) :
    stableSort less (old ++ new1) = stableSort less (old ++ new2) := by
  rw [stableSort_eq, stableSort_eq]
  refine sortBy_append_perm_invariant (onToken_strictWeak hsw) old new1 new2 hp ?_
  refine hd.imp ?_
  intro a b hab
  cases hq : eqv (onToken less) a b with
  | false => rfl
  | true =>
    simp only [eqv, onToken, Bool.and_eq_true, Bool.not_eq_true'] at hq
    exact absurd (htot _ _ hq.1 hq.2) hab

theorem insertLine_map (less : List Bytes → List Bytes → Bool) (f : Line → Line) (hf : ∀ l, (f l).token = l.token) (x : Line) :
    ∀ l : List Line, insertLine less (f x) (l.map f) = (insertLine less x l).map f
  | [] => rfl
  | y :: ys => by
    simp only [List.map_cons, insertLine, hf]
    split
    · simp only [List.map_cons, insertLine_map less f hf x ys]
    · rfl

theorem stableSort_map_token (less : List Bytes → List Bytes → Bool) (f : Line → Line) (hf : ∀ l, (f l).token = l.token) :
    ∀ l : List Line, stableSort less (l.map f) = (stableSort less l).map f
  | [] => rfl
  | x :: xs => by
    show insertLine less (f x) (stableSort less (xs.map f)) = (insertLine less x (stableSort less xs)).map f
    rw [stableSort_map_token less f hf xs, insertLine_map less f hf]

/-- `f`: a relabelling of the lines that keeps the tokens, e.g. erasing the fresh ids, which are handed out in
    map-iteration order -/
theorem stableSort_block_perm_invariant_modIds (less : List Bytes → List Bytes → Bool) (hsw : StrictWeak less)
    (htot : ∀ a b, less a b = false → less b a = false → a = b) (f : Line → Line) (hf : ∀ l, (f l).token = l.token)
    (old new1 new2 : List Line) (hp : (new1.map f).Perm (new2.map f)) (hd : new1.Pairwise (fun a b => a.token ≠ b.token)) :
    (stableSort less (old ++ new1)).map f = (stableSort less (old ++ new2)).map f := by
  rw [← stableSort_map_token less f hf, ← stableSort_map_token less f hf, List.map_append, List.map_append]
  refine stableSort_block_perm_invariant less hsw htot _ _ _ hp ?_
  rw [List.pairwise_map]
  exact hd.imp (fun {a b} hab => by rw [hf, hf]; exact hab)

/-- the instance for every block but exclude-from-go-1.21 and retract (`lessFor … = lineLess`; `require`, `use` blocks) -/
theorem stableSort_lineLess_perm_invariant_modIds (f : Line → Line) (hf : ∀ l, (f l).token = l.token)
    (old new1 new2 : List Line) (hp : (new1.map f).Perm (new2.map f)) (hd : new1.Pairwise (fun a b => a.token ≠ b.token)) :
    (stableSort lineLess (old ++ new1)).map f = (stableSort lineLess (old ++ new2)).map f := by
  refine stableSort_block_perm_invariant_modIds lineLess lineLess_strictWeak ?_ f hf old new1 new2 hp hd
  intro a b h1 h2
  rw [lineLess_eq_spec] at h1 h2
  exact EditSpec.lineLess_total a b h1 h2

end ModVerif.Modfile.Edit
