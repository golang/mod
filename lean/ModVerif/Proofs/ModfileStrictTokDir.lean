/-
  Strictly accepted inputs: the STRICT directive layer never accepts a token that spans two source
  lines.

  Per outcome of `File.add` / `WorkFile.add` (`AddOK`, `WorkOK`): every argument position is
  either matched against a pattern whose matches do not start with a double quote (`goVersionRE`: starts with a
  digit; `toolchainRE`: starts with `d` or `g`; godebug: no quote character at all; the fixed tokens `=>`, `[`,
  `,`, `]`), or goes through `parseString` — directly or inside `parseVersion` —, which for a token starting with
  a double quote requires `strconv.Unquote` to succeed, and `Unquote` rejects a newline byte (`unquote_facts`);
  extra tokens are errors in strict mode (usage errors, `tokenAfterVersion`); the verb and a block header are fixed
  words; unknown verbs / blocks are errors.  Hence every token of an accepted line is `DG` (a text that starts with
  a double quote contains no newline), and by `parse_noMultiLineToken` no token of the source spans two lines:
  `strict_noMultiLineToken` (any fixer: the fixer only sees the value `parseString` returned) and
  `strict_noMultiLineToken_work`.  Then the C02 clauses for strictly accepted inputs without the source hypothesis.
-/
import ModVerif.Proofs.ModfileStrictTokLex
import ModVerif.Proofs.ModfileC20Unquote
import ModVerif.Proofs.ModfileC20Lax
import ModVerif.Proofs.ModfileFmtFixReplace
import ModVerif.Proofs.ModfileSrcDir
import ModVerif.Proofs.ModfileFmtCom
namespace ModVerif.Proofs.ModfileStrictTok
open ModVerif ModVerif.Modfile ModVerif.Proofs.ModfileC20 ModVerif.Proofs.ModfileFmtFix
open ModVerif.Proofs.ModfileSrc

theorem dg_of_head_ne {t : Bytes} (h : t.head? ≠ some 34) : DG t := fun h' => absurd h' h

theorem head_of_prefix {p t : Bytes} {c : UInt8} (hp : p.head? = some c) (h : isPrefixOfB p t = true) :
    t.head? = some c := by
  cases p with
  | nil => cases hp
  | cons a as =>
    cases t with
    | nil => simp [isPrefixOfB] at h
    | cons b bs =>
      simp only [isPrefixOfB, Bool.and_eq_true, beq_iff_eq] at h
      simp only [List.head?_cons, Option.some.injEq] at hp ⊢
      rw [← h.1, hp]

theorem head_of_beq {a b : Bytes} (h : (a == b) = true) : a.head? = b.head? := by
  rw [eq_of_beq h]

theorem dg_of_beq {a : Bytes} {s : String} (h : (a == B s) = true) (hs : (B s).head? ≠ some 34) : DG a :=
  dg_of_head_ne (by rw [head_of_beq h]; exact hs)

theorem dg_of_eq {a b : Bytes} (h : a = b) (hs : b.head? ≠ some 34) : DG a :=
  dg_of_head_ne (by rw [h]; exact hs)

/-- a token starting with `"` must be accepted by `strconv.Unquote`, which rejects a newline -/
theorem parseString_dg {t : Bytes} {r : Bytes × Bytes} (h : parseString t = some r) : DG t := by
  unfold parseString at h
  split at h
  · rename_i hp
    split at h
    · cases h
    · rename_i u hu
      intro hq hm
      exact (unquote_facts hu hq).2.1 10 hm rfl
  · rename_i hp
    apply dg_of_head_ne
    intro hq
    apply hp
    cases t with
    | nil => cases hq
    | cons b bs =>
      simp only [List.head?_cons, Option.some.injEq] at hq
      subst hq
      rfl

theorem parseVersion_dg {p t t' v : Bytes} {fix : Option Fixer} (h : parseVersion p t fix = (t', .ok v)) : DG t := by
  obtain ⟨_, _, hps, _⟩ := parseVersion_ok_iff.1 h
  exact parseString_dg hps

theorem goVersionRE_dg {a : Bytes} (h : goVersionRE a = true) : DG a := by
  apply dg_of_head_ne
  intro hq
  cases a with
  | nil => cases hq
  | cons c rest =>
    simp only [List.head?_cons, Option.some.injEq] at hq
    subst hq
    have : reNumNZ (34 :: rest) = none := by
      simp only [reNumNZ]
      rfl
    simp [goVersionRE, this] at h

theorem toolchainRE_dg {a : Bytes} (h : toolchainRE a = true) : DG a := by
  unfold toolchainRE at h
  simp only [Bool.or_eq_true, Bool.and_eq_true] at h
  rcases h with h | ⟨h, _⟩
  · exact dg_of_beq h (by decide +kernel)
  · exact dg_of_head_ne (by rw [head_of_prefix (c := 103) (by decide +kernel) h]; decide +kernel)

theorem addGodebug_dg {args : List Bytes} {kv : Bytes × Bytes} (h : addGodebug args = some kv) : ∀ t ∈ args, DG t := by
  unfold addGodebug at h
  split at h
  · rename_i a
    split at h
    · cases h
    · rename_i hc
      intro t ht
      simp only [List.mem_singleton] at ht
      subst ht
      apply dg_of_head_ne
      intro hq
      apply hc
      cases t with
      | nil => cases hq
      | cons b bs =>
        simp only [List.head?_cons, Option.some.injEq] at hq
        subst hq
        simp [GoStrings.containsAny]
  · cases h

theorem B_arrow_head : (B "=>").head? ≠ some 34 := by decide +kernel

theorem parseReplace_dg {id : Nat} {args args' : List Bytes} {fix : Option Fixer} {r : Replace}
    (h : parseReplace id args fix = (args', .ok r)) : ∀ t ∈ args, DG t := by
  obtain ⟨a0, s, a0', pm, nsTok, ns, nsTok', oldIn, oldOut, newIn, newOut, rfl, _, h0, _, hn, hold, hnew, _⟩ :=
    (parseReplace_decomp h).ex
  have hO : ∀ t ∈ oldIn, DG t := by
    rcases hold with ⟨rfl, _⟩ | ⟨a1, _, rfl, _, hv, _⟩
    · intro t ht; cases ht
    · intro t ht
      simp only [List.mem_singleton] at ht
      subst ht
      exact parseVersion_dg hv
  have hN : ∀ t ∈ newIn, DG t := by
    rcases hnew with ⟨rfl, _⟩ | ⟨a1, rfl, _, hv, _⟩
    · intro t ht; cases ht
    · intro t ht
      simp only [List.mem_singleton] at ht
      subst ht
      exact parseVersion_dg hv
  intro t ht
  simp only [List.mem_cons, List.mem_append] at ht
  rcases ht with rfl | ht | rfl | rfl | ht
  · exact parseString_dg h0
  · exact hO t ht
  · exact dg_of_head_ne B_arrow_head
  · exact parseString_dg hn
  · exact hN t ht

theorem parseVersionInterval_dg {p : Bytes} {toks toks' : List Bytes} {fix : Option Fixer} {vi : VersionInterval}
    (h : parseVersionInterval p toks fix = (toks', .ok (vi, []))) : ∀ t ∈ toks, DG t := by
  rcases parseVersionInterval_shape h with ⟨t0, rfl, _, _, hv, _⟩ | ⟨t1, t2, rfl, hv1, hv2, _⟩
  · intro t ht
    simp only [List.mem_singleton] at ht
    subst ht
    exact parseVersion_dg hv
  · intro t ht
    simp only [List.mem_cons, List.not_mem_nil, or_false] at ht
    rcases ht with rfl | rfl | rfl | rfl | rfl
    · exact dg_of_head_ne (by decide +kernel)
    · exact parseVersion_dg hv1
    · exact dg_of_head_ne (by decide +kernel)
    · exact parseVersion_dg hv2
    · exact dg_of_head_ne (by decide +kernel)

theorem add_dg {st : AddState} {block : Option Comments} {line : Line} {verb : Bytes} {args : List Bytes}
    {fix : Option Fixer} (h : (File.add st block line verb args fix true).1.errsRev = []) :
    DG verb ∧ ∀ t ∈ args, DG t := by
  rcases ModfileFmtDir.add_strict st block line verb args fix with ⟨hok, -⟩ | hbad
  case inr => exact absurd h hbad
  generalize (File.add st block line verb args fix true).1.file = f1 at hok
  generalize (File.add st block line verb args fix true).2 = args1 at hok
  have one : ∀ {a : Bytes}, DG a → ∀ t ∈ [a], DG t := fun ha t ht => by rwa [List.mem_singleton.1 ht]
  have two : ∀ {a b : Bytes}, DG a → DG b → ∀ t ∈ [a, b], DG t := fun ha hb t ht => by
    rcases (by simpa using ht : t = _ ∨ t = _) with rfl | rfl
    · exact ha
    · exact hb
  cases hok with
  | go a _ h2 => exact ⟨dg_of_head_ne (by decide +kernel), one (goVersionRE_dg h2)⟩
  | toolchain a _ h2 => exact ⟨dg_of_head_ne (by decide +kernel), one (toolchainRE_dg h2)⟩
  | module a s a' _ h2 => exact ⟨dg_of_head_ne (by decide +kernel), one (parseString_dg h2)⟩
  | godebug _ k v h1 => exact ⟨dg_of_head_ne (by decide +kernel), addGodebug_dg h1⟩
  | require a0 a1 s a0' a1' v pm h1 h2 _ _ =>
    exact ⟨dg_of_head_ne (by decide +kernel), two (parseString_dg h1) (parseVersion_dg h2)⟩
  | exclude a0 a1 s a0' a1' v pm h1 h2 _ _ =>
    exact ⟨dg_of_head_ne (by decide +kernel), two (parseString_dg h1) (parseVersion_dg h2)⟩
  | replace _ args' r h1 => exact ⟨dg_of_head_ne (by decide +kernel), parseReplace_dg h1⟩
  | retract _ args' vi h1 => exact ⟨dg_of_head_ne (by decide +kernel), parseVersionInterval_dg h1⟩
  | tool a s a' h1 => exact ⟨dg_of_head_ne (by decide +kernel), one (parseString_dg h1)⟩

theorem nil_of_ext {P : RuleErr → Prop} {a b : List RuleErr} (h : ErrsExt P a b) (hb : b = []) : a = [] := by
  obtain ⟨add, rfl, _⟩ := h
  exact (List.append_eq_nil_iff.1 hb).2

theorem verbIn_dg {verb : Bytes} {l : List String} (h : verbIn verb l = true)
    (hl : ∀ s ∈ l, (B s).head? ≠ some 34) : DG verb := by
  unfold verbIn at h
  rw [List.any_eq_true] at h
  obtain ⟨s, hs, he⟩ := h
  have : B s = verb := eq_of_beq he
  exact dg_of_eq this.symm (hl s hs)

open ModVerif.Proofs.ModfileWalk ModVerif.Modfile.Edit

theorem foldl_back {σ γ : Type} {P : σ → Prop} (f : σ → γ → σ) (hb : ∀ s c, P (f s c) → P s) :
    ∀ (cs : List γ) (s : σ), P (cs.foldl f s) → P s ∧ ∀ c ∈ cs, ∃ s', P (f s' c)
  | [], _, h => ⟨h, fun _ hc => by cases hc⟩
  | c :: cs, s, h => by
    obtain ⟨h1, h2⟩ := foldl_back f hb cs (f s c) h
    refine ⟨hb s c h1, fun c' hc' => ?_⟩
    rcases List.mem_cons.1 hc' with rfl | hc'
    · exact ⟨s, h1⟩
    · exact h2 c' hc'

def CallDG : Call → Prop
  | .add _ _ verb args _ => DG verb ∧ ∀ t ∈ args, DG t
  | .bad _ => False
  | .skip _ => True

theorem stmtDG_of_calls {known : Bytes → Bool} (hk : ∀ v, known v = true → DG v) (x : Expr)
    (h : ∀ c ∈ callsOf known x, CallDG c) : StmtDG x := by
  cases x with
  | line l =>
    cases htok : l.token with
    | nil => intro t ht; simp [allToks, htok] at ht
    | cons verb args =>
      obtain ⟨hv, ha⟩ := h (.add none l verb args [verb]) (by simp [callsOf, htok])
      intro t ht
      simp only [allToks, htok, List.mem_cons] at ht
      rcases ht with rfl | ht
      · exact hv
      · exact ha t ht
  | lineBlock b =>
    rcases hbt : b.token with _ | ⟨verb, _ | ⟨v2, r⟩⟩
    · exact (h (.bad b) (by simp [callsOf, hbt])).elim
    · by_cases hkv : known verb = true
      · intro t ht
        simp only [allToks, hbt, List.mem_append, List.mem_singleton, List.mem_flatMap] at ht
        rcases ht with rfl | ⟨l, hl, ht⟩
        · exact hk _ hkv
        · exact (h (.add (some b.comments) l verb l.token []) (by simp only [callsOf, hbt, hkv, if_true]; exact List.mem_map.2 ⟨l, hl, rfl⟩)).2 t ht
      · exact (h (.bad b) (by simp [callsOf, hbt, hkv])).elim
    · exact (h (.bad b) (by simp [callsOf, hbt])).elim
  | commentBlock c => intro t ht; cases ht
  | lparen c => intro t ht; cases ht
  | rparen c => intro t ht; cases ht

theorem walkStmts_dg {σ : Type} {add : σ → Option Comments → Line → Bytes → List Bytes → σ × List Bytes}
    {known : Bytes → Bool} {bad : σ → Position → σ} {ok : σ → Prop} (hk : ∀ v, known v = true → DG v)
    (hb : ∀ st blk l verb args, ok (add st blk l verb args).1 → ok st) (hbad : ∀ st p, ¬ ok (bad st p))
    (hadd : ∀ st blk l verb args, ok (add st blk l verb args).1 → DG verb ∧ ∀ t ∈ args, DG t)
    (xs : List Expr) (st : σ) (h : ok (walkStmts add known bad st xs).1) : ∀ s ∈ xs, StmtDG s := by
  rw [walkStmts_fst] at h
  have hall := (foldl_back (P := ok) (Call.run add bad) (fun s c hc => by
    cases c with
    | add blk l verb args pre => exact hb s blk l verb args hc
    | bad b => exact (hbad _ _ hc).elim
    | skip l => exact hc) _ _ h).2
  intro s hs
  apply stmtDG_of_calls hk s
  intro c hc
  obtain ⟨s', h'⟩ := hall c (List.mem_flatMap.2 ⟨s, hs, hc⟩)
  cases c with
  | add blk l verb args pre => exact hadd s' blk l verb args h'
  | bad b => exact hbad _ _ h'
  | skip l => trivial

theorem addStmts_dg (fix : Option Fixer) (xs : List Expr) (st : AddState)
    (h : (addStmts fix true st xs).1.errsRev = []) : ∀ s ∈ xs, StmtDG s := by
  rw [addStmts_eq_walk] at h
  exact walkStmts_dg (ok := fun st => st.errsRev = []) (fun v hv => verbIn_dg hv (by decide +kernel))
    (fun st blk l verb args hc => nil_of_ext (add_shape st blk l verb args fix true).2 hc)
    (fun st p hc => ModfileFmtDir.err_ne_nil st p _ hc) (fun _ _ _ _ _ hc => add_dg hc) xs st h

/-- ★★ `Props.C02.strict_noMultiLineToken` -/
theorem strict_noMultiLineToken {name x : Bytes} {fix : Option Fixer} {f : Modfile.File}
    (h : parseToFile name x fix true = .ok f) : NoMultiLineToken x := by
  obtain ⟨fs, st, stmts, hp, ha, he, -⟩ := ModfileParseTo.parseToFile_ok_iff.1 h
  obtain ⟨add, hadd⟩ := fixRetract_mono
    ({ st with file := { st.file with syn := { fs with stmts := stmts } } } : AddState) fix
  rw [he] at hadd
  apply parse_noMultiLineToken hp
  apply addStmts_dg fix fs.stmts { file := { syn := fs } }
  rw [ha]; exact (List.append_eq_nil_iff.1 hadd.symm).2

theorem workAdd_dg {st : WorkState} {line : Line} {verb : Bytes} {args : List Bytes} {fix : Option Fixer}
    (h : (WorkFile.add st line verb args fix).1.errsRev = []) : DG verb ∧ ∀ t ∈ args, DG t := by
  rcases ModfileFmtWork.workAdd_strict st line verb args fix with ⟨hok, -⟩ | hbad
  case inr => exact absurd h hbad
  generalize (WorkFile.add st line verb args fix).1.file = f1 at hok
  generalize (WorkFile.add st line verb args fix).2 = args1 at hok
  have one : ∀ {a : Bytes}, DG a → ∀ t ∈ [a], DG t := fun ha t ht => by rwa [List.mem_singleton.1 ht]
  cases hok with
  | go a _ h2 => exact ⟨dg_of_head_ne (by decide +kernel), one (goVersionRE_dg h2)⟩
  | toolchain a _ h2 => exact ⟨dg_of_head_ne (by decide +kernel), one (toolchainRE_dg h2)⟩
  | godebug _ k v h1 => exact ⟨dg_of_head_ne (by decide +kernel), addGodebug_dg h1⟩
  | use a s a' h1 => exact ⟨dg_of_head_ne (by decide +kernel), one (parseString_dg h1)⟩
  | replace _ args' r h1 => exact ⟨dg_of_head_ne (by decide +kernel), parseReplace_dg h1⟩

theorem workStmts_dg (fix : Option Fixer) (xs : List Expr) (st : WorkState)
    (h : (workStmts fix st xs).1.errsRev = []) : ∀ s ∈ xs, StmtDG s := by
  rw [workStmts_eq_walk] at h
  exact walkStmts_dg (ok := fun st => st.errsRev = []) (fun v hv => verbIn_dg hv (by decide +kernel))
    (fun st _ l verb args hc =>
      nil_of_ext (show ErrsExt (LineErr l) st.errsRev (WorkFile.add st l verb args fix).1.errsRev from
        workAdd_errs st l verb args fix) hc)
    (fun st p hc => ModfileFmtWork.work_err_ne_nil st p _ hc) (fun _ _ _ _ _ hc => workAdd_dg hc) xs st h

/-- ★★ `Props.C02.strict_noMultiLineToken_work` -/
theorem strict_noMultiLineToken_work {name x : Bytes} {fix : Option Fixer} {f : WorkFile}
    (h : parseWork name x fix = .ok f) : NoMultiLineToken x := by
  obtain ⟨fs, st, stmts, hp, ha, he, -⟩ := ModfileParseTo.parseWork_ok_iff.1 h
  apply parse_noMultiLineToken hp
  apply workStmts_dg fix fs.stmts { file := { syn := fs } }
  rw [ha]; exact he

open ModVerif.Proofs.ModfileFmtDir ModVerif.Proofs.ModfileFmtWork in
/-- ★ clause 3 for go.work; every `format_preserves_directives_work_*` of Props/C02 is an instance -/
theorem format_preserves_directives_work_strict (name x : Bytes) (fix : Option Fixer) (f : WorkFile)
    (h : parseWork name x fix = .ok f) (hwf : WorkWellFormed f) (hfix : FixOK fix) (hne : FixNE fix) :
    ∃ f', parseWork name (format f.syn) fix = .ok f' ∧ workValues f' = workValues f :=
  format_preserves_directives_work_src name x fix f h (strict_noMultiLineToken_work h) hwf hfix hne

theorem parse_of_parseToFile {name x : Bytes} {fix : Option Fixer} {strict : Bool} {f : Modfile.File}
    (h : parseToFile name x fix strict = .ok f) : ∃ t, parse name x = .ok t := by
  obtain ⟨fs, _, _, hp, -⟩ := ModfileParseTo.parseToFile_ok_iff.1 h
  exact ⟨fs, hp⟩

theorem parse_of_parseWork {name x : Bytes} {fix : Option Fixer} {f : WorkFile}
    (h : parseWork name x fix = .ok f) : ∃ t, parse name x = .ok t := by
  obtain ⟨fs, _, _, hp, -⟩ := ModfileParseTo.parseWork_ok_iff.1 h
  exact ⟨fs, hp⟩

end ModVerif.Proofs.ModfileStrictTok

namespace ModVerif.Proofs.ModfileFmtWork
open ModVerif ModVerif.Modfile

/-- a go.work instance through the theorem: the conclusion holds for it -/
example :
    let x := B "go 1.21\nuse (\n\t\"./z\"\n)\nreplace a.b/c v1.2 => \"../c\"\n"
    ∀ f, parseWork (B "go.work") x none = .ok f →
      ∃ f', parseWork (B "go.work") (format f.syn) none = .ok f' ∧ workValues f' = workValues f := by
  intro x f hf
  have hx : (match parseWork (B "go.work") x none with
     | .ok f => workWellFormedB f
     | .error _ => false) = true := by decide +kernel
  rw [hf] at hx
  exact ModfileStrictTok.format_preserves_directives_work_strict (B "go.work") x none f hf (workWellFormedB_sound hx)
    (Or.inl rfl) (fun fx h => by cases h)

end ModVerif.Proofs.ModfileFmtWork
