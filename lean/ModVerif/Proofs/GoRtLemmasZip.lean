/-
  General lemmas about the GoRt run-time vocabulary (Basic/GoRt.lean, Basic/GoRtUtf8.lean) used by the tie proofs of
  zip/zip.go (Tie/FnZip.lean):

  * `strings.Index` with an arbitrary needle as an `Option Nat` (`indexOpt`), its range, and `strings.Contains` with a
    one-byte needle as `List.any`;
  * `toI32` on small values; `encodeRune` of a natural number;
  * `mapGet` / `mapSet` on association lists seen through a map of the entries (`find?_map_key`).
-/
import ModVerif.Basic.GoRt
import ModVerif.Basic.GoRtUtf8
import ModVerif.Proofs.GoRtLemmas
import ModVerif.Proofs.GoRtLemmasStr
import ModVerif.Proofs.GenPropsUtil
namespace ModVerif.GoRtZip
open ModVerif ModVerif.GoRt

/-! ### strings.Index as an option -/

/-- offset of the first occurrence of `pat` -/
def indexOpt (pat : Bytes) : Bytes → Option Nat
  | [] => if pat.isEmpty then some 0 else none
  | c :: rest => if isPrefixOfB pat (c :: rest) then some 0 else (indexOpt pat rest).map (· + 1)

theorem indexAux_eq (pat : Bytes) : ∀ (s : Bytes) (k : Nat),
    indexAux pat s k = match indexOpt pat s with | some j => ((k + j : Nat) : Int) | none => -1
  | [], k => by
    unfold indexAux indexOpt
    cases pat.isEmpty <;> simp
  | c :: rest, k => by
    unfold indexAux indexOpt
    by_cases h : isPrefixOfB pat (c :: rest) = true
    · simp [h]
    · simp only [h, Bool.false_eq_true, if_false]
      rw [indexAux_eq pat rest (k + 1)]
      cases indexOpt pat rest with
      | none => rfl
      | some j => simp only [Option.map_some]; congr 1; omega

theorem index_eq (s pat : Bytes) :
    index s pat = match indexOpt pat s with | some j => (j : Int) | none => -1 := by
  unfold index
  rw [indexAux_eq]
  cases indexOpt pat s <;> simp

theorem indexOpt_range (pat : Bytes) : ∀ (s : Bytes) (j : Nat), indexOpt pat s = some j → j + pat.length ≤ s.length
  | [], j, h => by
    unfold indexOpt at h
    by_cases hp : pat.isEmpty = true
    · simp only [hp, if_true, Option.some.injEq] at h
      have : pat = [] := by simpa using hp
      subst this; subst h; simp
    · simp [hp] at h
  | c :: rest, j, h => by
    unfold indexOpt at h
    by_cases hp : isPrefixOfB pat (c :: rest) = true
    · simp only [hp, if_true, Option.some.injEq] at h
      subst h
      have := isPrefixOfB_length_le hp
      omega
    · simp only [hp, Bool.false_eq_true, if_false] at h
      cases hi : indexOpt pat rest with
      | none => rw [hi] at h; cases h
      | some i =>
        rw [hi] at h
        simp only [Option.map_some, Option.some.injEq] at h
        have := indexOpt_range pat rest i hi
        subst h
        simp only [List.length_cons]; omega

/-- `strings.Contains(s, "c")` for a one-byte needle -/
theorem contains_single_any (s : Bytes) (c : UInt8) : contains s [c] = s.any (· == c) := by
  rw [GoRtStr.contains_single]
  induction s with
  | nil => rfl
  | cons x t ih =>
    simp only [List.contains_cons, List.any_cons, ih]
    congr 1
    by_cases h : x = c
    · subst h; rfl
    · have h' : ¬ c = x := fun e => h e.symm
      rw [beq_eq_false_iff_ne.mpr h, beq_eq_false_iff_ne.mpr h']

theorem toI32_small (x : Int) (h0 : 0 ≤ x) (h1 : x < 2147483648) : toI32 x = x := by
  unfold toI32
  have : x % 4294967296 = x := Int.emod_eq_of_lt h0 (by omega)
  simp only [this]
  rw [if_pos h1]

theorem encodeRune_natCast (n : Nat) : encodeRune (n : Int) = Utf8.encode n := by
  simp [encodeRune]

/-! ### maps as association lists, seen through a map of the entries -/

section maps
variable {κ ν β : Type} [DecidableEq κ]

theorem find?_map_key [BEq κ] [LawfulBEq κ] (f : κ × ν → β) (key : β → κ) (hk : ∀ p, key (f p) = p.1) (k : κ) :
    ∀ m : List (κ × ν), (m.map f).find? (fun e => key e == k) = (m.find? (fun p => decide (p.1 = k))).map f
  | [] => rfl
  | p :: m => by
    simp only [List.map_cons, List.find?_cons, hk]
    by_cases h : p.1 = k
    · simp [h]
    · have h' : (p.1 == k) = false := by simpa using h
      simp only [h, h', decide_false]
      exact find?_map_key f key hk k m

theorem mapGet_found (m : List (κ × ν)) (k : κ) (z : ν) (p : κ × ν)
    (h : m.find? (fun p => decide (p.1 = k)) = some p) : mapGet m k z = (p.2, true) := by
  simp [mapGet, h]

theorem mapGet_none (m : List (κ × ν)) (k : κ) (z : ν)
    (h : m.find? (fun p => decide (p.1 = k)) = none) : mapGet m k z = (z, false) := by
  simp [mapGet, h]

theorem mapSet_none (m : List (κ × ν)) (k : κ) (v : ν)
    (h : m.find? (fun p => decide (p.1 = k)) = none) : mapSet m k v = m ++ [(k, v)] := by
  simp [mapSet, h]

end maps

end ModVerif.GoRtZip
