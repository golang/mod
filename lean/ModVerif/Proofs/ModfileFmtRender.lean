/-
  What `Format` prints for a well-shaped tree without end-of-line comments, as a pure function (`rStmts`), and
  what the printer state machine (`trim`, `newline`, margins, blank-line suppression) does at the beginning of a
  line, in the middle of a line (`MidOK`) and on the whole-line comments in front of a node (`emitBefore_eq`).
-/
import ModVerif.Proofs.ModfileFmtTree
import ModVerif.Proofs.ModfileFmtTrim
import ModVerif.Proofs.ModfilePrint
namespace ModVerif.Proofs.ModfileFmtRender
open ModVerif ModVerif.Modfile ModVerif.Proofs.ModfileFmtUtf8
open ModVerif.Proofs.ModfileFmtTok ModVerif.Proofs.ModfileFmtLex ModVerif.Proofs.ModfileFmtLine
open ModVerif.Proofs.ModfileFmtStream ModVerif.Proofs.ModfileFmtTree ModVerif.Proofs.ModfileFmtTrim

def tabs (m : Nat) : Bytes := List.replicate m 9

/-- comment lines (and blank lines for placeholders) at margin `m` -/
def rBefore (m : Nat) (cs : List Comment) : Bytes :=
  cs.flatMap fun c =>
    (if (GoStrings.trimSpace c.token).isEmpty then [] else tabs m ++ GoStrings.trimSpace c.token) ++ [10]

/-- a block line, preceded by the newline that ends the previous line -/
def rLineS (l : Line) : Bytes := 10 :: (rBefore 1 l.comments.before ++ (9 :: tokStr l.token []))

def rBlock (b : LineBlock) : Bytes :=
  rBefore 0 b.comments.before ++ (tokStr b.token [] ++ (32 :: 40 :: (b.lines.flatMap rLineS ++
    (10 :: (rBefore 0 b.rparen.comments.before ++ [41])))))

def rStmt : Expr → Bytes
  | .commentBlock x => rBefore 0 x.comments.before
  | .line l => rBefore 0 l.comments.before ++ (tokStr l.token [] ++ [10])
  | .lineBlock b => rBlock b ++ [10]
  | _ => []

def rStmts : List Expr → Bytes
  | [] => []
  | [s] => rStmt s
  | s :: rest => rStmt s ++ 10 :: rStmts rest

/-- a byte after which `trim` stops and `newline` writes a newline -/
def OKByte (y : UInt8) : Prop := y ≠ 9 ∧ y ≠ 32 ∧ y ≠ 10

def LastOK (t : Bytes) : Prop := ∃ y, t.getLast? = some y ∧ OKByte y

theorem getLast?_append_ne (a : Bytes) {b : Bytes} (hb : b ≠ []) : (a ++ b).getLast? = b.getLast? := by
  rw [List.getLast?_append]
  cases h : b.getLast? with
  | none => simp at h; exact absurd h hb
  | some y => simp

theorem LastOK.append (a : Bytes) {b : Bytes} (h : LastOK b) : LastOK (a ++ b) := by
  obtain ⟨y, hy, hok⟩ := h
  refine ⟨y, ?_, hok⟩
  cases b with
  | nil => simp at hy
  | cons x xs => rw [getLast?_append_ne _ (by simp)]; exact hy

theorem LastOK.rev {t : Bytes} (h : LastOK t) : ∃ y r, t.reverse = y :: r ∧ OKByte y := by
  obtain ⟨y, hy, hok⟩ := h
  refine ⟨y, (t.reverse).tail, ?_, hok⟩
  have : t.reverse.head? = some y := by rw [List.head?_reverse]; exact hy
  cases hr : t.reverse with
  | nil => rw [hr] at this; simp at this
  | cons a b => rw [hr] at this; simp at this; simp [this]

theorem identBody_bytes {a : Bytes} (h : IdentBody a) : ∀ b ∈ a, OKByte b := by
  induction h with
  | nil => intro b hb; simp at hb
  | @cons a hne hid _ _ _ ih =>
    intro b hb
    rw [← List.take_append_drop (Utf8.decodeRune a).2 a] at hb
    rcases List.mem_append.1 hb with hb | hb
    · cases a with
      | nil => exact absurd rfl hne
      | cons c t =>
        by_cases hc : c.toNat < 0x80
        · rw [ModfileLex.decodeRune_ascii c t hc] at hb hid
          simp at hb
          subst hb
          refine ⟨?_, ?_, ?_⟩ <;> (intro h; subst h; revert hid; decide)
        · have := (decodeRune_nonascii c t (by omega)).2 b hb
          refine ⟨?_, ?_, ?_⟩ <;> (intro h; subst h; revert this; decide)
    · exact ih b hb

theorem strBody_last {n : Nat} {a : Bytes} (h : StrBody n a) (hn : n < 0x80) :
    ∃ b, a.getLast? = some b ∧ b.toNat = n := by
  induction h with
  | @close a hne _ hq hend =>
    cases a with
    | nil => exact absurd rfl hne
    | cons c t =>
      have hlt : (Utf8.decodeRune (c :: t)).1 < 0x80 := by rw [hq]; exact hn
      obtain ⟨b, t', heq, hb, hw⟩ := ascii_rune_head (by simp) hlt
      simp only [List.cons.injEq] at heq
      obtain ⟨rfl, rfl⟩ := heq
      rw [hw] at hend
      simp at hend
      subst hend
      exact ⟨c, rfl, by rw [hb, hq]⟩
  | @esc a hne _ _ _ _ hne2 hrest ih =>
    obtain ⟨b, hb, hbn⟩ := ih
    refine ⟨b, ?_, hbn⟩
    have hne3 := hrest.ne_nil
    rw [← List.take_append_drop (Utf8.decodeRune a).2 a,
      ← List.take_append_drop (Utf8.decodeRune (a.drop (Utf8.decodeRune a).2)).2 (a.drop (Utf8.decodeRune a).2),
      getLast?_append_ne _ (by
        intro h
        have := List.append_eq_nil_iff.1 h
        exact hne3 this.2),
      getLast?_append_ne _ hne3]
    exact hb
  | @other a hne _ _ _ hrest ih =>
    obtain ⟨b, hb, hbn⟩ := ih
    refine ⟨b, ?_, hbn⟩
    have hne3 := hrest.ne_nil
    rw [← List.take_append_drop (Utf8.decodeRune a).2 a, getLast?_append_ne _ hne3]
    exact hb

theorem tokText_lastOK {t : Bytes} (h : TokText t) : LastOK t := by
  unfold TokText at h
  generalize kindOf t = k at h
  cases h with
  | punct c hc =>
    refine ⟨c, rfl, ?_⟩
    rcases punctBytes_cases hc with h | h | h | h | h | h | h <;> subst h <;> refine ⟨?_, ?_, ?_⟩ <;> decide
  | string q a hq hb =>
    have hqn : q.toNat < 0x80 := by rcases hq with h | h <;> subst h <;> decide
    obtain ⟨b, hb1, hb2⟩ := strBody_last hb hqn
    have hbq : b = q := UInt8.toNat_inj.1 hb2
    subst hbq
    refine ⟨b, ?_, ?_⟩
    · rw [show b :: a = [b] ++ a from rfl, getLast?_append_ne _ hb.ne_nil]; exact hb1
    · rcases hq with h | h <;> subst h <;> refine ⟨?_, ?_, ?_⟩ <;> decide
  | ident _ hne hb hnq =>
    cases hl : t.getLast? with
    | none => simp at hl; exact absurd hl hne
    | some y => exact ⟨y, hl, identBody_bytes hb y (List.mem_of_getLast? hl)⟩

theorem tokStr_lastOK : ∀ (ts : List Bytes) (sep : Bytes), ts ≠ [] → (∀ t ∈ ts, TokText t) → LastOK (tokStr ts sep) := by
  intro ts
  induction ts with
  | nil => intro _ h; exact absurd rfl h
  | cons t rest ih =>
    intro sep _ hts
    simp only [tokStr]
    cases rest with
    | nil =>
      simp only [tokStr, List.append_nil]
      exact LastOK.append _ (tokText_lastOK (hts t (by simp)))
    | cons t2 r2 =>
      exact LastOK.append _ (ih _ (by simp) (fun t' h => hts t' (by simp [h])))

def BOL (base : Bytes) : Prop := base = [] ∨ ∃ r, base = 10 :: r

/-- the buffer ends with a non-blank line and its newline -/
def Clean1 (base : Bytes) : Prop := ∃ y r, base = 10 :: y :: r ∧ y ≠ 10

theorem Clean1.bol {base : Bytes} (h : Clean1 base) : BOL base := by
  obtain ⟨y, r, h, _⟩ := h
  exact Or.inr ⟨_, h⟩

theorem dropWhile_tabs (k : Nat) (base : Bytes) (hb : BOL base) :
    (tabs k ++ base).dropWhile (fun c => c == 9 || c == 32) = base := by
  induction k with
  | zero =>
    simp only [tabs, List.replicate_zero, List.nil_append]
    rcases hb with h | ⟨r, h⟩ <;> subst h <;> simp [List.dropWhile]
  | succ n ih =>
    simp only [tabs, List.replicate_succ, List.cons_append, List.dropWhile]
    simpa [tabs] using ih

theorem tabs_reverse (m : Nat) : (tabs m).reverse = tabs m := by simp [tabs]

theorem trim_bol (k m : Nat) (base : Bytes) (hb : BOL base) :
    Printer.trim ⟨tabs k ++ base, [], m⟩ = ⟨base, [], m⟩ := by
  simp only [Printer.trim, dropWhile_tabs k base hb]

theorem trim_mid (y : UInt8) (r : Bytes) (m : Nat) (hy : OKByte y) :
    Printer.trim ⟨y :: r, [], m⟩ = ⟨y :: r, [], m⟩ := by
  obtain ⟨h1, h2, _⟩ := hy
  have : (y == 9 || y == 32) = false := by simp [h1, h2]
  simp [Printer.trim, List.dropWhile, this]

theorem newline_mid (y : UInt8) (r : Bytes) (m : Nat) (hy : OKByte y) :
    Printer.newline ⟨y :: r, [], m⟩ = ⟨tabs m ++ 10 :: y :: r, [], m⟩ := by
  have h10 : y ≠ 10 := hy.2.2
  unfold Printer.newline
  simp only [List.isEmpty_nil, if_true, trim_mid y r m hy]
  split
  · rename_i heq; simp at heq
  · rename_i heq
    simp only [List.cons.injEq] at heq
    exact absurd heq.1 h10
  · rfl

theorem newline_bol (k m : Nat) (base : Bytes) (hc : Clean1 base) :
    Printer.newline ⟨tabs k ++ base, [], m⟩ = ⟨tabs m ++ 10 :: base, [], m⟩ := by
  obtain ⟨y, r, hbase, hy⟩ := hc
  unfold Printer.newline
  simp only [List.isEmpty_nil, if_true, trim_bol k m base (Or.inr ⟨_, hbase⟩)]
  subst hbase
  split
  · rename_i heq; simp at heq
  · rename_i heq
    simp only [List.cons.injEq, true_and] at heq
    exact absurd heq.1 hy
  · rfl

/-- the printing-side view of a comment list: a blank line may only be printed after a non-blank one -/
def PrBefore : Bool → List Comment → Prop
  | _, [] => True
  | allow, c :: cs =>
    if (GoStrings.trimSpace c.token).isEmpty then allow = true ∧ PrBefore false cs
    else LastOK (GoStrings.trimSpace c.token) ∧ PrBefore true cs

theorem commentOK_lastOK {c : Bytes} (h : CommentOK c) :
    (GoStrings.trimSpace c).isEmpty = false ∧ LastOK (GoStrings.trimSpace c) := by
  obtain ⟨e, _, hok⟩ := trimSpace_comment h
  obtain ⟨t, ht⟩ := commentOK_cons hok
  have hne : GoStrings.trimSpace c ≠ [] := by rw [ht]; simp
  refine ⟨by simpa using hne, ?_⟩
  cases hl : (GoStrings.trimSpace c).getLast? with
  | none => simp at hl; exact absurd hl hne
  | some y =>
    obtain ⟨h1, h2, _, h4, _⟩ := trimSpace_last _ y hl
    exact ⟨y, hl, h2, h1, h4⟩

theorem prBefore_of_blk : ∀ (cs : List Comment) (allow : Bool), BlkBeforeOK allow cs → PrBefore allow cs := by
  intro cs
  induction cs with
  | nil => intro _ _; trivial
  | cons c cs ih =>
    intro allow h
    unfold BlkBeforeOK at h
    unfold PrBefore
    by_cases he : c.token.isEmpty = true
    · simp only [he, if_true] at h
      have : c.token = [] := by simpa using he
      simp only [this, trimSpace_nil, List.isEmpty_nil, if_true]
      exact ⟨h.1, ih false h.2.2⟩
    · simp only [he, Bool.false_eq_true, if_false] at h
      obtain ⟨hne, hl⟩ := commentOK_lastOK h.2.1
      simp only [hne, Bool.false_eq_true, if_false]
      exact ⟨hl, ih true h.2.2⟩

theorem prBefore_of_top : ∀ (cs : List Comment) (allow : Bool), TopBeforeOK cs → PrBefore allow cs := by
  intro cs
  induction cs with
  | nil => intro _ _; trivial
  | cons c cs ih =>
    intro allow h
    unfold PrBefore
    obtain ⟨hne, hl⟩ := commentOK_lastOK (h c (by simp)).2
    simp only [hne, Bool.false_eq_true, if_false]
    exact ⟨hl, ih true (fun c' hc' => h c' (by simp [hc']))⟩

/-- the last comment of the list is printed as a non-blank line -/
def LastReal (cs : List Comment) : Prop :=
  ∃ c, cs.getLast? = some c ∧ (GoStrings.trimSpace c.token).isEmpty = false

theorem commentLines_eq : ∀ (cs : List Comment) (m : Nat) (allow : Bool) (base : Bytes), BOL base →
    PrBefore allow cs → (allow = true → Clean1 base) →
    Printer.commentLines ⟨tabs m ++ base, [], m⟩ cs = ⟨tabs m ++ ((rBefore m cs).reverse ++ base), [], m⟩ ∧
      BOL ((rBefore m cs).reverse ++ base) ∧ (LastReal cs → Clean1 ((rBefore m cs).reverse ++ base)) := by
  intro cs
  induction cs with
  | nil =>
    intro m allow base hb _ _
    refine ⟨by simp [Printer.commentLines, rBefore], by simpa [rBefore] using hb, ?_⟩
    intro ⟨c, hc, _⟩; simp at hc
  | cons c cs ih =>
    intro m allow base hb hp hallow
    unfold PrBefore at hp
    by_cases he : (GoStrings.trimSpace c.token).isEmpty = true
    · simp only [he, if_true] at hp
      have het : GoStrings.trimSpace c.token = [] := by simpa using he
      have hc1 := hallow hp.1
      have hstep : (Printer.write ⟨tabs m ++ base, [], m⟩ (GoStrings.trimSpace c.token)).newline =
          ⟨tabs m ++ 10 :: base, [], m⟩ := by
        rw [het]
        simp only [Printer.write, List.reverse_nil, List.nil_append]
        exact newline_bol m m base hc1
      obtain ⟨h1, h2, h3⟩ := ih m false (10 :: base) (Or.inr ⟨_, rfl⟩) hp.2 (by intro h; cases h)
      have hr : (rBefore m (c :: cs)).reverse ++ base = (rBefore m cs).reverse ++ 10 :: base := by
        simp [rBefore, het]
      refine ⟨?_, by rw [hr]; exact h2, ?_⟩
      · simp only [Printer.commentLines]
        rw [hstep, h1, hr]
      · intro ⟨c', hc', hne'⟩
        rw [hr]
        cases cs with
        | nil =>
          simp at hc'
          subst hc'
          rw [he] at hne'; cases hne'
        | cons c2 cs2 =>
          apply h3
          refine ⟨c', ?_, hne'⟩
          simpa using hc'
    · simp only [he, Bool.false_eq_true, if_false] at hp
      obtain ⟨y, r, hrev, hy⟩ := hp.1.rev
      have hstep : (Printer.write ⟨tabs m ++ base, [], m⟩ (GoStrings.trimSpace c.token)).newline =
          ⟨tabs m ++ 10 :: ((GoStrings.trimSpace c.token).reverse ++ (tabs m ++ base)), [], m⟩ := by
        simp only [Printer.write]
        rw [hrev]
        exact newline_mid y _ m hy
      have hclean : Clean1 (10 :: ((GoStrings.trimSpace c.token).reverse ++ (tabs m ++ base))) := by
        rw [hrev]; exact ⟨y, _, rfl, hy.2.2⟩
      obtain ⟨h1, h2, h3⟩ := ih m true _ hclean.bol hp.2 (fun _ => hclean)
      have hr : (rBefore m (c :: cs)).reverse ++ base =
          (rBefore m cs).reverse ++ 10 :: ((GoStrings.trimSpace c.token).reverse ++ (tabs m ++ base)) := by
        have hne : GoStrings.trimSpace c.token ≠ [] := by simpa using he
        simp [rBefore, hne, tabs_reverse]
      refine ⟨?_, by rw [hr]; exact h2, ?_⟩
      · simp only [Printer.commentLines]
        rw [hstep, h1, hr]
      · intro ⟨c', hc', hne'⟩
        rw [hr]
        cases cs with
        | nil => simpa [rBefore] using hclean
        | cons c2 cs2 =>
          apply h3
          refine ⟨c', ?_, hne'⟩
          simpa using hc'

theorem indent_bol (base : Bytes) (c : List Comment) (m : Nat) (hb : BOL base) : Printer.indent ⟨base, c, m⟩ = 0 := by
  rcases hb with h | ⟨r, h⟩ <;> subst h <;> simp [Printer.indent, List.takeWhile]

theorem emitBefore_eq (cs : List Comment) (m : Nat) (allow : Bool) (base : Bytes) (hb : BOL base)
    (hp : PrBefore allow cs) (hallow : allow = true → Clean1 base) :
    Printer.emitBefore ⟨tabs m ++ base, [], m⟩ cs = ⟨tabs m ++ ((rBefore m cs).reverse ++ base), [], m⟩ ∧
      BOL ((rBefore m cs).reverse ++ base) ∧ (LastReal cs → Clean1 ((rBefore m cs).reverse ++ base)) := by
  cases cs with
  | nil =>
    refine ⟨by simp [Printer.emitBefore, rBefore], by simpa [rBefore] using hb, ?_⟩
    intro ⟨c, hc, _⟩; simp at hc
  | cons c cs =>
    obtain ⟨h1, h2, h3⟩ := commentLines_eq (c :: cs) m allow base hb hp hallow
    refine ⟨?_, h2, h3⟩
    unfold Printer.emitBefore
    simp only [List.isEmpty_cons, Bool.false_eq_true, if_false, trim_bol m m base hb, indent_bol base [] m hb,
      Nat.lt_irrefl, Printer.tabs]
    exact h1

theorem queueSuffix_nil (p : Printer) : p.queueSuffix [] = p := by
  simp [Printer.queueSuffix]

def MidOK (buf : Bytes) : Prop := ∃ y r, buf = y :: r ∧ OKByte y

theorem MidOK.clean {buf : Bytes} (h : MidOK buf) : Clean1 (10 :: buf) := by
  obtain ⟨y, r, h, hy⟩ := h
  exact ⟨y, r, by rw [h], hy.2.2⟩

theorem midOK_of_lastOK {t : Bytes} (h : LastOK t) (rest : Bytes) : MidOK (t.reverse ++ rest) := by
  obtain ⟨y, r, hr, hy⟩ := h.rev
  exact ⟨y, r ++ rest, by rw [hr]; rfl, hy⟩

theorem newline_midOK {buf : Bytes} (h : MidOK buf) (m : Nat) :
    Printer.newline ⟨buf, [], m⟩ = ⟨tabs m ++ 10 :: buf, [], m⟩ := by
  obtain ⟨y, r, hb, hy⟩ := h
  subst hb
  exact newline_mid y r m hy

theorem tabs_zero : tabs 0 = [] := rfl

theorem commentLines_nil (p : Printer) : p.commentLines [] = p := rfl

theorem lastReal_top {cs : List Comment} (hne : cs ≠ []) (h : TopBeforeOK cs) : LastReal cs := by
  cases hl : cs.getLast? with
  | none => simp at hl; exact absurd hl hne
  | some c => exact ⟨c, hl, (commentOK_lastOK (h c (List.mem_of_getLast? hl)).2).1⟩

end ModVerif.Proofs.ModfileFmtRender
