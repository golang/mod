/-
  Helpers for Tie/FnTileW.lean: the planning phase `planG` of the regenerated `ReadHashes` (Proofs/TieFnTileW.lean)
  computes the tiles of the model's plan (`Tile.plan`), by the loop lemmas of Proofs/TieFnTilePlan.lean.
-/
import ModVerif.Proofs.TieFnTileW
import ModVerif.Proofs.TieFnTileReadHashes
namespace ModVerif.TieFnTileW
open ModVerif ModVerif.GoRt ModVerif.GoRtTile ModVerif.TieFnTlogInt ModVerif.TieFnTile

section
variable {H : Type} [DecidableEq H] [Inhabited H] (node : H → H → H) (ofBytes : Bytes → H)

/-- is `ReadTiles` called, and with which tiles: the model's view -/
def planCall (h N : Nat) (idx : List Nat) : Option (List Tile.Tile) :=
  match Tile.plan h N idx with
  | .ok p => if p.stx.isEmpty then none else some p.tiles
  | .error _ => none

theorem planG_eq (fuel h N : Nat) (idx : List Nat) (rp : Generated.Tile.tileHashReader H)
    (h1 : 1 ≤ h) (h57 : h ≤ 57) (hN : N < 2 ^ 62) (hrN : rp.tree.N = (N : Int)) (hrH : rp.tr.Height = (h : Int))
    (hf : idx.length + 400 ≤ fuel) :
    planG node ofBytes fuel rp (idx.map Int.ofNat) = .ok ((planCall h N idx).map (·.map toGen)) := by
  obtain ⟨cs, tiles0, order0, sto, hst, hcov, hps, hvalid, hres, hplan⟩ := plan_decomp h N h1 hN idx
  generalize hstx : cs.map TileAuth.idxOf = stx at hst hps hvalid hplan
  have hstxlen : stx.length ≤ 62 := by
    rw [← hstx, List.length_map]
    exact cover_length_log cs 0 N 62 hcov (by omega)
  have hsub := subTreeIndex_eq fuel 0 N [] (by omega) (by omega)
  rw [hst] at hsub
  simp only [subTreeIndexOut, List.nil_append, Int.natCast_zero] at hsub
  have hlenstx := len_map Int.ofNat stx
  have hlenidx := len_map Int.ofNat idx
  obtain ⟨og1, hl1, hrel1⟩ := TieFnTile.loop1_eq node ofBytes rp [] h N h1 h57 hN hrN stx stx [] [] [] [] [] fuel (tiles0, order0, sto)
    rfl rfl hvalid mapRel_nil hps (by omega)
  simp only [List.length_nil, Int.natCast_zero, List.map_nil, List.nil_append] at hl1
  have hl2 := TieFnTile.loop2_eq node ofBytes rp [] h N h1 h57 hN hrN idx idx [] tiles0 order0 [] og1 fuel rfl rfl hrel1 hres (by omega)
  simp only [List.length_nil, Int.natCast_zero, List.map_nil, List.nil_append] at hl2
  unfold planG
  simp only [hrN, hrH, hsub, mbind_ok, hlenstx, makeList_natCast, hl1, hlenidx]
  cases hpi : Tile.planIndexes h N idx (tiles0, order0, []) with
  | error e =>
    rw [hpi] at hl2 hplan
    simp only at hl2 hplan
    simp only [hl2, mbind_ok, mpure, planCall, hplan, Option.map_none]
  | ok res =>
    obtain ⟨tiles, order, ito⟩ := res
    rw [hpi] at hl2 hplan
    simp only at hl2 hplan
    obtain ⟨og2, hg2, hrel2⟩ := hl2
    simp only [hg2, mbind_ok, planCall, hplan]
    by_cases hs0 : stx.length = 0
    · have hstxnil : stx = [] := List.eq_nil_of_length_eq_zero hs0
      simp [hstxnil]
    · have hs0' : ¬ (((stx.length : Nat) : Int) = 0) := by omega
      have hstxne : stx.isEmpty = false := by
        cases stx with
        | nil => simp at hs0
        | cons a b => rfl
      have hne : ¬ stx = [] := by intro hc; rw [hc] at hs0; exact hs0 rfl
      simp [hstxne, hne]

theorem planCall_some (h N : Nat) (idx : List Nat) (tiles : List Tile.Tile) (hc : planCall h N idx = some tiles) :
    tiles = planTiles h N idx := by
  unfold planCall at hc
  unfold planTiles
  cases hp : Tile.plan h N idx with
  | error e => rw [hp] at hc; cases hc
  | ok p =>
    rw [hp] at hc
    simp only at hc
    split at hc
    · cases hc
    · cases hc; rfl

omit [Inhabited H] in
theorem saved_none_of_planCall_none (N : Nat) (th : H) (h : Nat) (idx : List Nat) (serve : Tile.Tile → Option (List H))
    (hc : planCall h N idx = none) : (Tile.readHashes node N th h idx serve).saved = none := by
  unfold planCall at hc
  unfold Tile.readHashes
  cases hp : Tile.plan h N idx with
  | error e => rfl
  | ok p =>
    rw [hp] at hc
    simp only at hc ⊢
    split at hc
    · rename_i he; simp [he]
    · cases hc

theorem stagedW_ok_pure {W : Type} (readTiles : List Generated.Tile.Tile → W → M ((List Bytes × Option String) × W))
    (saveTiles : List Generated.Tile.Tile → List Bytes → W → M (Unit × W)) (fuel : Nat)
    (rp : Generated.Tile.tileHashReader H) (indexes : List Int) (w1 : W) (res : List H × Option String) (w' : W)
    (hs : stagedW node ofBytes readTiles saveTiles fuel rp indexes w1 = .ok (res, w')) :
    ∃ log w2, Generated.Tile.tileHashReader_ReadHashes node ofBytes fuel rp indexes = .ok (res, log) ∧
      (w2 = w1 ∨ ∃ tiles de, readTiles tiles w1 = .ok (de, w2)) ∧ saveLog saveTiles log w2 = .ok w' := by
  have key : ∀ w2, finishW saveTiles w2 (Generated.Tile.tileHashReader_ReadHashes node ofBytes fuel rp indexes) = .ok (res, w') →
      ∃ log, Generated.Tile.tileHashReader_ReadHashes node ofBytes fuel rp indexes = .ok (res, log) ∧
        saveLog saveTiles log w2 = .ok w' := by
    intro w2 hfin
    cases hp : Generated.Tile.tileHashReader_ReadHashes node ofBytes fuel rp indexes with
    | error e => rw [hp] at hfin; cases hfin
    | ok v =>
      obtain ⟨res', log⟩ := v
      rw [hp] at hfin
      simp only [finishW] at hfin
      cases hsl : saveLog saveTiles log w2 with
      | error e => rw [hsl] at hfin; cases hfin
      | ok w3 =>
        rw [hsl] at hfin
        simp only [Except.ok.injEq, Prod.mk.injEq] at hfin
        exact ⟨log, by rw [hfin.1], by rw [hsl, hfin.2]⟩
  unfold stagedW at hs
  cases hpl : planG node ofBytes fuel rp indexes with
  | error e => rw [hpl] at hs; cases hs
  | ok o =>
    rw [hpl] at hs
    cases o with
    | none =>
      obtain ⟨log, h1, h2⟩ := key w1 hs
      exact ⟨log, w1, h1, Or.inl rfl, h2⟩
    | some tiles =>
      simp only at hs
      cases hrt : readTiles tiles w1 with
      | error e => rw [hrt] at hs; cases hs
      | ok v =>
        obtain ⟨de, w2⟩ := v
        rw [hrt] at hs
        obtain ⟨log, h1, h2⟩ := key w2 hs
        exact ⟨log, w2, h1, Or.inr ⟨tiles, de, hrt⟩, h2⟩

end
end ModVerif.TieFnTileW
