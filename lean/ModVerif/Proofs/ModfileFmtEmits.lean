/-
  The trees the parser emits are well-shaped (`WFStmts`), for every input: `parseFile_wf`.
  Rule inductions over the classified runs of the parser (`ModfileRunTok`).
-/
import ModVerif.Proofs.ModfileRunTok
import ModVerif.Proofs.ModfileFmtParse
namespace ModVerif.Proofs.ModfileFmtEmits
open ModVerif ModVerif.Modfile ModVerif.Proofs.ModfileLex ModVerif.Proofs.ModfileRun
open ModVerif.Proofs.ModfileFmtLex ModVerif.Proofs.ModfileFmtLine ModVerif.Proofs.ModfileFmtStream
open ModVerif.Proofs.ModfileFmtTree ModVerif.Proofs.ModfileFmtClass

variable {data : Bytes}

/-- may a blank-line placeholder follow the comment list `cs` (which itself started with `a`)? -/
def nextAllow (a : Bool) (cs : List Comment) : Bool :=
  match cs.getLast? with
  | none => a
  | some c => !c.token.isEmpty

theorem nextAllow_cons (a : Bool) (c0 : Comment) (cs : List Comment) :
    nextAllow a (c0 :: cs) = nextAllow (!c0.token.isEmpty) cs := by
  cases cs with
  | nil => simp [nextAllow]
  | cons c1 cs =>
    simp only [nextAllow, List.getLast?_cons_cons]
    cases h : (c1 :: cs).getLast? with
    | none => simp at h
    | some c => rfl

theorem blkBeforeOK_snoc : ∀ (cs : List Comment) (a : Bool) (c : Comment), BlkBeforeOK a cs →
    (if c.token.isEmpty then nextAllow a cs = true ∧ c.suffix = false else c.suffix = false ∧ CommentOK c.token) →
    BlkBeforeOK a (cs ++ [c]) := by
  intro cs
  induction cs with
  | nil =>
    intro a c _ hc
    simp only [List.nil_append]
    unfold BlkBeforeOK
    split
    · rename_i he
      simp only [he, if_true, nextAllow, List.getLast?_nil] at hc
      exact ⟨hc.1, hc.2, trivial⟩
    · rename_i he
      simp only [he, Bool.false_eq_true, if_false] at hc
      exact ⟨hc.1, hc.2, trivial⟩
  | cons c0 cs ih =>
    intro a c h hc
    rw [nextAllow_cons] at hc
    simp only [List.cons_append]
    unfold BlkBeforeOK at h ⊢
    split
    · rename_i he
      simp only [he, if_true] at h
      have : (!c0.token.isEmpty) = false := by simp [he]
      rw [this] at hc
      exact ⟨h.1, h.2.1, ih false c h.2.2 hc⟩
    · rename_i he
      simp only [he, Bool.false_eq_true, if_false] at h
      have : (!c0.token.isEmpty) = true := by simpa using he
      rw [this] at hc
      exact ⟨h.1, h.2.1, ih true c h.2.2 hc⟩

theorem allowOf_eq (linesRev : List Line) (crev : List Comment) :
    allowOf linesRev crev = nextAllow (!linesRev.isEmpty) crev.reverse := by
  cases crev with
  | nil => simp [allowOf, nextAllow]
  | cons c r => simp [allowOf, nextAllow]

theorem wfBlkLines_snoc : ∀ (ls : List Line) (a : Bool) (l : Line), WFBlkLines a ls →
    WFBlkLine (if ls.isEmpty then a else true) l → WFBlkLines a (ls ++ [l]) := by
  intro ls
  induction ls with
  | nil => intro a l _ hl; exact ⟨by simpa using hl, trivial⟩
  | cons l0 ls ih =>
    intro a l h hl
    refine ⟨h.1, ih true l h.2 ?_⟩
    simp only [List.isEmpty_cons, Bool.false_eq_true, if_false] at hl
    cases ls <;> simpa using hl

def AccOK (linesRev : List Line) (crev : List Comment) : Prop :=
  WFBlkLines false linesRev.reverse ∧ BlkBeforeOK (!linesRev.isEmpty) crev.reverse

theorem lexOK_comment {t : Bytes} (h : LexOK .comment t) : CommentOK t := by
  cases h with
  | comment t h => exact h
  | tok k t h => cases h

theorem commentOK_ne {t : Bytes} (h : CommentOK t) : t.isEmpty = false := by
  cases t with
  | nil => simp [CommentOK, isPrefixOfB] at h
  | cons _ _ => rfl

theorem PLine.emits {i : Input} {s e : Position} {acc : List Bytes} {l : Line} {i' : Input}
    (h : PLineC data i s e acc l i') :
    ∃ ts, l.token = acc.reverse ++ ts ∧ (∀ t ∈ ts, TokText t) ∧ l.comments = {} ∧ l.inBlock = true := by
  induction h with
  | eol _ _ => exact ⟨[], by simp, by simp, rfl, rfl⟩
  | tok hc _ _ ih =>
    obtain ⟨ts, h1, h2, h3, h4⟩ := ih
    exact ⟨_ :: ts, by rw [h1]; simp, List.forall_mem_cons.2 ⟨tokOK_tokText hc.ok, h2⟩, h3, h4⟩

theorem PBlock.emits {i : Input} {x : LineBlock} {ls : List Line} {cs : List Comment} {b : LineBlock} {i' : Input}
    (h : PBlockC data i x ls cs b i') (hacc : AccOK ls cs) :
    WFBlkLines false b.lines ∧ BlkBeforeOK (!b.lines.isEmpty) b.rparen.comments.before ∧
      b.rparen.comments.suffix = [] ∧ b.rparen.comments.after = [] := by
  induction h with
  | eolComment _ _ _ ih => exact ih hacc
  | @blank i i1 x ls cs b i' _ _ _ ih =>
    apply ih
    by_cases ha : allowOf ls cs = true
    · simp only [ha, if_true]
      refine ⟨hacc.1, ?_⟩
      simp only [List.reverse_cons]
      apply blkBeforeOK_snoc _ _ _ hacc.2
      have : (({} : Comment)).token.isEmpty = true := rfl
      simp only [this, if_true]
      exact ⟨by rw [← allowOf_eq]; exact ha, trivial⟩
    · simp only [ha, Bool.false_eq_true, if_false]
      exact hacc
  | comment hk hc _ ih =>
    have hok : CommentOK _ := lexOK_comment (hk ▸ hc.lx.g.lok)
    apply ih
    refine ⟨hacc.1, ?_⟩
    simp only [List.reverse_cons]
    apply blkBeforeOK_snoc _ _ _ hacc.2
    simp only [commentOK_ne hok, Bool.false_eq_true, if_false]
    exact ⟨trivial, hok⟩
  | close _ _ _ _ => exact ⟨hacc.1, by simpa using hacc.2, rfl, rfl⟩
  | @line i i1 i2 x ls cs l b i' _ _ _ _ h5 hc _ hl _ ih =>
    obtain ⟨ts, hl0t, hl0tok, hl0c, hl0b⟩ := PLine.emits hl
    have hne41 : i.token.text ≠ [41] := fun ht => h5 ((tokOK_punct_iff hc.ok 41 (by decide)).2 ht)
    apply ih
    refine ⟨?_, trivial⟩
    simp only [List.reverse_cons]
    apply wfBlkLines_snoc _ _ _ hacc.1
    have hallow : (if ls.reverse.isEmpty then false else true) = !ls.isEmpty := by
      cases ls <;> simp
    rw [hallow]
    exact ⟨by simp [hl0t], by rw [hl0t]; simpa using ⟨tokOK_tokText hc.ok, hl0tok⟩, by simp [hl0t, hne41],
      by simpa using hacc.2, by simp [hl0c], by simp [hl0c], hl0b⟩

theorem lineTailOK_lp_rp (r2 : List Bytes) : lineTailOK ([40] :: [41] :: r2) = (!r2.isEmpty && lineTailOK r2) := by
  simp [lineTailOK]

theorem lineTailOK_lp_other {t2 : Bytes} (r2 : List Bytes) (h : t2 ≠ [41]) :
    lineTailOK ([40] :: t2 :: r2) = lineTailOK (t2 :: r2) := by
  have : (t2 == [41]) = false := by simpa using h
  simp [lineTailOK, this]

theorem wfBlock_of {b : LineBlock} (hne : b.token ≠ []) (htok : ∀ t ∈ b.token, TokText t) (hc : b.comments = {})
    (hl : b.lparen.comments = {}) (hlines : WFBlkLines false b.lines)
    (hrb : BlkBeforeOK (!b.lines.isEmpty) b.rparen.comments.before) (hrs : b.rparen.comments.suffix = [])
    (hra : b.rparen.comments.after = []) : WFBlock b :=
  ⟨hne, htok, by rw [hc]; intro c h; simp at h, by rw [hc], by rw [hc], hl, hlines, hrb, hrs, hra⟩

/-- what `parseStmtLoop` returns from the state `i` with the tokens `acc` already taken -/
def StmtOut (i : Input) (acc : List Bytes) (x : Expr) : Prop :=
  (∃ l ts, x = .line l ∧ l.token = acc.reverse ++ ts ∧ (∀ t ∈ ts, TokText t) ∧ lineTailOK ts = true ∧
      (i.token.kind.isEOL = false → ∃ r, ts = i.token.text :: r) ∧ l.comments = {} ∧ l.inBlock = false) ∨
  (∃ b, x = .lineBlock b ∧ WFBlock b ∧ b.comments = {})

/-- the token of `i` and then the tokens `more` are pushed in front of what the rest of the loop, from `i2`, returns -/
theorem StmtOut.push {i i2 : Input} {acc more : List Bytes} {x : Expr}
    (h : StmtOut i2 (more ++ i.token.text :: acc) x) (htt : TokText i.token.text) (hmore : ∀ t ∈ more, TokText t)
    (htail : ∀ ts', lineTailOK ts' = true → (i2.token.kind.isEOL = false → ∃ r, ts' = i2.token.text :: r) →
      lineTailOK (i.token.text :: (more.reverse ++ ts')) = true) : StmtOut i acc x := by
  rcases h with ⟨l, ts', rfl, h1, h2, h3, h4, h5, h6⟩ | ⟨b, rfl, hb⟩
  · refine Or.inl ⟨l, i.token.text :: (more.reverse ++ ts'), rfl, by rw [h1]; simp, ?_, htail ts' h3 h4,
      fun _ => ⟨_, rfl⟩, h5, h6⟩
    intro t ht
    rcases List.mem_cons.1 ht with rfl | ht
    · exact htt
    · rcases List.mem_append.1 ht with ht | ht
      · exact hmore t (by simpa using ht)
      · exact h2 t ht
  · exact Or.inr ⟨b, rfl, hb⟩

theorem PStmt.emits {i : Input} {s e : Position} {acc : List Bytes} {x : Expr} {i' : Input}
    (h : PStmtC data i s e acc x i') (hacc : ∀ t ∈ acc, TokText t) (hane : acc ≠ []) : StmtOut i acc x := by
  have cons : ∀ {t : Bytes} {acc : List Bytes}, TokText t → (∀ t ∈ acc, TokText t) → ∀ u ∈ t :: acc, TokText u :=
    fun ht hacc => List.forall_mem_cons.2 ⟨ht, hacc⟩
  induction h with
  | eol _ he =>
    exact Or.inl ⟨_, [], rfl, by simp, by simp, rfl, fun hne => (by rw [he] at hne; cases hne), rfl, rfl⟩
  | block _ _ _ hb =>
    obtain ⟨h1, h2, h3, _⟩ := hb.header
    obtain ⟨h4, h5, h6, h7⟩ := PBlock.emits hb ⟨trivial, trivial⟩
    refine Or.inr ⟨_, rfl, wfBlock_of ?_ ?_ h2 (by rw [h3]) h4 h5 h6 h7, h2⟩
    · rw [h1]; simpa using hane
    · rw [h1]; intro t ht; exact hacc t (by simpa using ht)
  | empty _ _ _ _ _ _ =>
    refine Or.inr ⟨_, rfl, wfBlock_of ?_ ?_ rfl rfl trivial trivial rfl rfl, rfl⟩
    · simpa using hane
    · intro t ht; exact hacc t (by simpa using ht)
  | @parens i i1 i2 s e acc x i' hc hk hk1 hc2 he2 _ ih =>
    have h40 := (tokOK_punct_iff hc.ok 40 (by decide)).1 hk
    have h41 := (tokOK_punct_iff hc2.ok 41 (by decide)).1 hk1
    have ht1 := tokOK_tokText hc2.ok
    refine StmtOut.push (more := [i1.token.text]) (ih (cons ht1 (cons (tokOK_tokText hc.ok) hacc)) (by simp))
      (tokOK_tokText hc.ok) (by simpa using ht1) ?_
    intro ts' hok hhead
    obtain ⟨r, hr⟩ := hhead he2
    rw [h40, h41]
    simp only [List.reverse_cons, List.reverse_nil, List.nil_append, List.singleton_append]
    rw [lineTailOK_lp_rp, hok, hr]
    rfl
  | @lparen i i1 s e acc x i' hc hk he1 hk1 _ ih =>
    have h40 := (tokOK_punct_iff hc.ok 40 (by decide)).1 hk
    have hk1' : TokOK i1.token.kind i1.token.text := lexOK_tok hc.mid.1.lok he1 hc.mid.2
    have h41 : i1.token.text ≠ [41] := fun ht => hk1 ((tokOK_punct_iff hk1' 41 (by decide)).2 ht)
    refine StmtOut.push (more := []) (ih (cons (tokOK_tokText hc.ok) hacc) (by simp)) (tokOK_tokText hc.ok) (by simp) ?_
    intro ts' hok hhead
    obtain ⟨r, hr⟩ := hhead he1
    rw [h40]
    simp only [List.reverse_nil, List.nil_append]
    rw [hr, lineTailOK_lp_other r h41, ← hr, hok]
  | @tok i i1 s e acc x i' hc _ hk _ ih =>
    have h40 : i.token.text ≠ [40] := fun ht => hk ((tokOK_punct_iff hc.ok 40 (by decide)).2 ht)
    refine StmtOut.push (more := []) (ih (cons (tokOK_tokText hc.ok) hacc) (by simp)) (tokOK_tokText hc.ok) (by simp) ?_
    intro ts' hok _
    simp only [List.reverse_nil, List.nil_append]
    rw [ModfileFmtParse.lineTailOK_cons_ne ts' h40, hok]

def CbWF (ocb : Option CommentBlock) : Prop :=
  match ocb with
  | none => True
  | some c => c.comments.before ≠ [] ∧ TopBeforeOK c.comments.before ∧ c.comments.suffix = [] ∧ c.comments.after = []

theorem cbWF_add (ocb : Option CommentBlock) (tok : Token) (h : CbWF ocb) (hok : CommentOK tok.text) :
    CbWF (some (cbAdd ocb tok)) := by
  have hnew : ∀ c ∈ [({ start := tok.pos, token := tok.text } : Comment)], c.suffix = false ∧ CommentOK c.token := by
    intro c hc; simp at hc; subst hc; exact ⟨rfl, hok⟩
  cases ocb with
  | none =>
    refine ⟨by simp [cbAdd], ?_, rfl, rfl⟩
    intro c hc
    exact hnew c (by simpa [cbAdd] using hc)
  | some c0 =>
    obtain ⟨_, h2, h3, h4⟩ := h
    refine ⟨by simp [cbAdd], ?_, h3, h4⟩
    intro c hc
    simp only [cbAdd, List.mem_append] at hc
    rcases hc with hc | hc
    · exact h2 c hc
    · exact hnew c hc

/-- a statement as `parseStmt` returns it -/
def StmtWF (x : Expr) : Prop :=
  (∃ l, x = .line l ∧ l.token ≠ [] ∧ (∀ t ∈ l.token, TokText t) ∧ lineTailOK l.token.tail = true ∧
    l.comments = {} ∧ l.inBlock = false) ∨ (∃ b, x = .lineBlock b ∧ WFBlock b ∧ b.comments = {})

theorem StmtOut.wf {i : Input} {t : Bytes} {x : Expr} (h : StmtOut i [t] x) (ht : TokText t) : StmtWF x := by
  rcases h with ⟨l, ts, rfl, h1, h2, h3, _, h5, h6⟩ | hb
  · refine Or.inl ⟨l, rfl, by rw [h1]; simp, ?_, by rw [h1]; simpa using h3, h5, h6⟩
    intro u hu
    rw [h1] at hu
    simp only [List.reverse_cons, List.reverse_nil, List.nil_append, List.singleton_append, List.mem_cons] at hu
    rcases hu with rfl | hu
    · exact ht
    · exact h2 u hu
  · exact Or.inr hb

theorem wf_attach (ocb : Option CommentBlock) (x : Expr) (hcb : CbWF ocb) (hx : StmtWF x) : WFStmt (attach ocb x) := by
  rcases hx with ⟨l, rfl, h1, h2, h3, h4, h5⟩ | ⟨b, rfl, hb, hbc⟩
  · cases ocb with
    | none => exact ⟨h1, h2, h3, by rw [h4]; intro c hc; simp at hc, by rw [h4], by rw [h4], h5⟩
    | some c =>
      show WFLine _
      exact ⟨h1, h2, h3, hcb.2.1, by simp [Expr.comments, h4], by simp [Expr.comments, h4], h5⟩
  · cases ocb with
    | none => exact hb
    | some c =>
      show WFBlock _
      exact ⟨hb.ne, hb.tok, hcb.2.1, by simp [Expr.comments, hbc], by simp [Expr.comments, hbc], hb.lparen, hb.lines, hb.rbefore, hb.rsuffix, hb.rafter⟩

theorem PFile.emits {i : Input} {sr : List Expr} {cb : Option CommentBlock} {out : List Expr} {i' : Input}
    (h : PFileC data i sr cb out i') (hst : ∀ s ∈ sr, WFStmt s) (hcb : CbWF cb) : WFStmts out := by
  have hflush : ∀ {sr : List Expr} {cb : Option CommentBlock}, (∀ s ∈ sr, WFStmt s) → CbWF cb →
      ∀ s ∈ flush sr cb, WFStmt s := by
    intro sr cb hst hcb
    cases cb with
    | none => exact hst
    | some c => exact List.forall_mem_cons.2 ⟨hcb, hst⟩
  induction h with
  | blank _ _ _ ih => exact ih (hflush hst hcb) trivial
  | comment hk hc _ ih => exact ih hst (cbWF_add _ _ hcb (lexOK_comment (hk ▸ hc.lx.g.lok)))
  | eof _ => intro s hs; exact hflush hst hcb s (List.mem_reverse.1 hs)
  | stmt _ _ _ hc hs _ ih =>
    have ht := tokOK_tokText hc.ok
    have hx := (PStmt.emits hs (by simpa using ht) (by simp)).wf ht
    exact ih (List.forall_mem_cons.2 ⟨wf_attach _ _ hcb hx, hst⟩) trivial

theorem parseFile_wf' (data : Bytes) (stmts : List Expr) (i : Input) (h : parseFile data = .ok (stmts, i)) :
    WFStmts stmts ∧ ∀ c ∈ i.commentsRev, c.suffix = true := by
  obtain ⟨i0, _, hrun, hr⟩ := parseFile_runC h
  exact ⟨PFile.emits hrun (by intro s hs; cases hs) trivial, (reach_G hr).sfx⟩

theorem parseFile_wf (data : Bytes) (stmts : List Expr) (i : Input) (h : parseFile data = .ok (stmts, i)) :
    WFStmts stmts := (parseFile_wf' data stmts i h).1

end ModVerif.Proofs.ModfileFmtEmits
