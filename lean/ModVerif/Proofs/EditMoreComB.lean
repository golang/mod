/-
  **C16 `comments_survive`, SetRequire**: the line of the first existing requirement of a requested path keeps its non-blank
  `Before` comments and its `Suffix` comments as `setIndirect` rewrites them, through the loop, the added entries and
  SortBlocks (`setRequire_comments_pre`), and through Cleanup.
-/
import ModVerif.Proofs.EditMoreComA
namespace ModVerif.Modfile.Edit
open ModVerif ModVerif.Modfile

theorem find?_filter_keep {α : Type} (P Q : α → Bool) : ∀ (l : List α) (w : α), l.find? P = some w →
    (∀ a, P a = true → Q a = true) → (l.filter Q).find? P = some w := by
  intro l
  induction l with
  | nil => intro w h; simp at h
  | cons y ys ih =>
    intro w h hq
    by_cases hp : P y = true
    · have : w = y := by simp [List.find?, hp] at h; exact h.symm
      subst this
      simp [List.filter, hq w hp, hp]
    · simp only [Bool.not_eq_true] at hp
      simp only [List.find?, hp] at h
      by_cases hqy : Q y = true
      · simp only [List.filter, hqy, List.find?, hp]
        exact ih w h hq
      · simp only [Bool.not_eq_true] at hqy
        simp only [List.filter, hqy]
        exact ih w h hq

theorem GoodWant.find_eq {req : List Want} (hg : GoodWant req) {w : Want} (hw : w ∈ req) {p : Bytes} (hwp : w.path = p) :
    req.find? (fun a => a.path == p) = some w := by
  cases hf : req.find? (fun a => a.path == p) with
  | none =>
    have := (List.find?_eq_none.1 hf) w hw
    simp [hwp] at this
  | some w' =>
    have hp' : w'.path = p := by
      have := List.find?_some hf
      exact eq_of_beq this
    have hpw' := List.pairwise_iff_getElem.1 hg.1
    rcases List.mem_iff_getElem.1 (List.mem_of_find?_eq_some hf) with ⟨i, hi', rfl⟩
    rcases List.mem_iff_getElem.1 hw with ⟨j, hj', rfl⟩
    rcases Nat.lt_trichotomy i j with hlt | heq | hgt
    · exact absurd (hp'.trans hwp.symm) (hpw' i j hi' hj' hlt)
    · subst heq; rfl
    · exact absurd (hwp.trans hp'.symm) (hpw' j i hj' hi' hgt)

theorem setReqStep_treeWF (need : List Want) (r : Require) {syn : FileSyntax} {next : Nat} (hw : TreeWF syn.stmts next) :
    TreeWF (setReqStep need r syn).2.2.stmts next := by
  unfold setReqStep
  split
  · exact hw.setReq _ _ _
  · exact hw.markRemoved _

theorem setReqStep_find {need : List Want} {r : Require} {syn : FileSyntax} {p : Bytes} {w : Want} (hp : p ≠ [])
    (hne : r.mod.path ≠ p) (hf : need.find? (fun a => a.path == p) = some w) :
    (setReqStep need r syn).2.1.find? (fun a => a.path == p) = some w := by
  unfold setReqStep
  split
  · refine find?_filter_keep _ _ _ _ hf fun a ha => ?_
    rw [eq_of_beq ha]; simpa using Ne.symm hne
  · refine find?_filter_keep _ _ _ _ hf fun a ha => ?_
    rw [eq_of_beq ha]
    cases p with
    | nil => exact absurd rfl hp
    | cons _ _ => rfl

theorem setRequireLoop_comments (r : Require) (t : List Require) (w : Want) (next : Nat) (hrp : r.mod.path ≠ []) :
    ∀ (d : List Require) (need : List Want) (syn : FileSyntax) (rs' : List Require) (need' : List Want) (syn' : FileSyntax),
      TreeWF syn.stmts next → (∀ r' ∈ d, r'.mod.path ≠ r.mod.path) → ((d ++ r :: t).map (·.lineId)).Nodup →
      need.find? (fun a => a.path == r.mod.path) = some w →
      setRequireLoop (d ++ r :: t) need syn = .ok (rs', need', syn') →
      ∀ x0 ∈ viewX syn.stmts, x0.id = r.lineId → ∀ a ver, x0.toks = [B "require", a, ver] →
        ∃ x1 ∈ viewX syn'.stmts, x1.id = r.lineId ∧ x1.toks = [B "require", a, w.vers] ∧ BeforeKept x0.before x1.before ∧
          x1.suffix = sfxAfter w.indirect x0.suffix
  | [], need, syn, _, _, _, hw, _, hnd, hf, h, x0, hx0, hid0, a, ver, htoks => by
    rcases setRequireLoop_cons_ok h with ⟨_, rs'', _, hrec⟩
    simp only [setReqStep, hf] at hrec
    rcases viewX_setReq syn next r.lineId w.vers w.indirect hw x0 hx0 hid0 a ver htoks with ⟨x1, hx1, e1, e2, e3, e4⟩
    refine ⟨x1, setRequireLoop_keepsEq t _ _ _ _ _ hrec x1 hx1 ?_, e1, e2, e3, e4⟩
    rw [e1]
    exact (List.nodup_cons.1 hnd).1
  | r0 :: d, need, syn, _, _, _, hw, hd', hnd, hf, h, x0, hx0, hid0, a, ver, htoks => by
    rcases setRequireLoop_cons_ok h with ⟨_, rs'', _, hrec⟩
    have hnd' := List.nodup_cons.1 hnd
    have hx0' := setReqStep_keepsEq need r0 syn x0 hx0 (by
      rw [List.mem_singleton, hid0]
      intro e
      exact hnd'.1 (List.mem_map.2 ⟨r, List.mem_append_right _ List.mem_cons_self, e⟩))
    exact setRequireLoop_comments r t w next hrp d _ _ _ _ _ (setReqStep_treeWF need r0 hw)
      (fun r' hr' => hd' r' (List.mem_cons_of_mem _ hr')) hnd'.2
      (setReqStep_find hrp (hd' r0 List.mem_cons_self) hf) hrec x0 hx0' hid0 a ver htoks

theorem viewX_of_view {stmts : List Expr} {v : VLine} (h : v ∈ view stmts) :
    ∃ x ∈ viewX stmts, x.id = v.id ∧ x.toks = v.toks ∧ x.suffix = v.suffix := by
  rcases mem_view.1 h with ⟨p, hp, hl, rfl⟩
  exact ⟨mkX p, mem_viewX.2 ⟨p, hp, hl, rfl⟩, rfl, rfl, rfl⟩

theorem Inv.require_ids_nodup {e : EFile} (hi : Inv e) (hlive : ∀ r ∈ e.f.require, liveRq r = true) :
    (e.f.require.map (·.lineId)).Nodup := by
  have h := hi.mtch
  rw [entries_require] at h
  have := seg_nodup h
  rw [entsOf_ids (·.lineId) liveRq entRq (fun _ => rfl), liveIds_all liveRq (·.lineId) _ hlive] at this
  exact this

theorem Inv.require_not_killed {e : EFile} (hi : Inv e) (r : Require) (hr : r ∈ e.f.require) (hl : liveRq r = true) :
    r.lineId ∉ kill3 e.f := by
  obtain ⟨v, hv, hvid, hacc⟩ := hi.mtch.cover (entRq r) (mem_entries_require hr hl)
  obtain ⟨x, hx, e1, e2, _⟩ := viewX_of_view hv
  have := hi.not_killed_of_verb hx (by rw [e2, hacc.1]; exact notDedupVerb_require _)
  rwa [e1, hvid] at this

theorem setRequire_comments_pre (e e' : EFile) (req : List Want) (perm : List Want → List Want) (hperm : ∀ l, (perm l).Perm l)
    (hg : GoodWant req) (hi : Inv e) (hlive : ∀ r ∈ e.f.require, liveRq r = true) (hset : NoNestedIndirectMarker e)
    (h : setRequire e req perm = .ok e')
    (d : List Require) (r : Require) (t : List Require) (hsplit : e.f.require = d ++ r :: t)
    (hfirst : ∀ r' ∈ d, r'.mod.path ≠ r.mod.path) (w : Want) (hw : w ∈ req) (hwp : w.path = r.mod.path)
    (x0 : XLine) (hx0 : x0 ∈ viewX e.f.syn.stmts) (hid0 : x0.id = r.lineId) :
    ∃ x' ∈ viewX e'.f.syn.stmts, x'.toks = [B "require", autoQuote r.mod.path, w.vers] ∧
      BeforeKept x0.before x'.before ∧ x'.suffix = sfxAfter w.indirect x0.suffix := by
  have hr : r ∈ e.f.require := by rw [hsplit]; exact List.mem_append_right _ List.mem_cons_self
  have hlr := hlive r hr
  have hrp : r.mod.path ≠ [] := by intro e0; simp [liveRq, e0] at hlr
  have htoks : x0.toks = [B "require", autoQuote r.mod.path, r.mod.version] :=
    (hi.acc_of_id hx0 (mem_entries_require hr hlr) hid0.symm).1
  rcases setRequire_loop hg h with ⟨rq, need', syn', hr', rfl⟩
  rcases setRequire_loop_inv hperm hg hi hlive hset hr' with ⟨hi1, hne⟩
  have hnd := hi.require_ids_nodup hlive
  rw [hsplit] at hnd hr'
  rcases setRequireLoop_comments r t w e.next hrp d req e.f.syn rq need' syn' hi.tree hfirst hnd (hg.find_eq hw hwp) hr'
    x0 hx0 hid0 _ _ htoks with ⟨x1, hx1, e1, e2, e3, e4⟩
  have hx2 := foldl_addNewRequire_keepsEq (perm need') _ hi1 hne x1 hx1 (by rw [e1, ← hid0]; exact hi.x_lt hx0)
  have k3 := keepsEq_sortBlocks ((perm need').foldl (fun e w => addNewRequire e w.path w.vers w.indirect)
    (⟨{ e.f with require := rq, syn := syn' }, e.next⟩ : EFile))
  rcases foldl_addNewRequire_fields (perm need') (⟨{ e.f with require := rq, syn := syn' }, e.next⟩ : EFile) with ⟨f1, f2, f3⟩
  rw [kill3_congr (g := e.f) f1 f2 f3] at k3
  exact ⟨x1, k3 x1 hx2 (by rw [e1]; exact hi.require_not_killed r hr hlr), e2, e3, e4⟩

/-- **C16 `comments_survive`, SetRequire** (the first existing requirement of a requested path).  `BeforeKept`: the only comment
    ever dropped is the blank-line placeholder removed by `setVersion`; `sfxAfter`: only the indirect marker of the first
    end-of-line comment changes. -/
theorem setRequire_comments_eq (e e' : EFile) (req : List Want) (perm : List Want → List Want) (hperm : ∀ l, (perm l).Perm l)
    (hg : GoodWant req) (hi : Inv e) (hlive : ∀ r ∈ e.f.require, liveRq r = true) (hset : NoNestedIndirectMarker e)
    (h : setRequire e req perm = .ok e')
    (d : List Require) (r : Require) (t : List Require) (hsplit : e.f.require = d ++ r :: t)
    (hfirst : ∀ r' ∈ d, r'.mod.path ≠ r.mod.path) (w : Want) (hw : w ∈ req) (hwp : w.path = r.mod.path)
    (x0 : XLine) (hx0 : x0 ∈ viewX e.f.syn.stmts) (hid0 : x0.id = r.lineId) :
    ∃ x' ∈ viewX (cleanup e').f.syn.stmts, x'.toks = [B "require", autoQuote r.mod.path, w.vers] ∧
      BeforeKept x0.before x'.before ∧ x'.suffix = sfxAfter w.indirect x0.suffix := by
  rcases setRequire_comments_pre e e' req perm hperm hg hi hlive hset h d r t hsplit hfirst w hw hwp x0 hx0 hid0
    with ⟨x3, hx3, e2, e3, e4⟩
  rcases keepsS_cleanupStmts _ (setRequire_inv e e' req perm hperm hg hi hlive hset h).tree.noBlockSuffix x3 hx3 (by simp)
    with ⟨x4, hx4, h34⟩
  exact ⟨x4, hx4, by rw [h34.2.1, e2], e3.trans_sub h34.2.2.1, h34.2.2.2.trans e4⟩

end ModVerif.Modfile.Edit
