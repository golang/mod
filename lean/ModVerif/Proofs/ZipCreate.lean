/-
  `Create` after the file check: `addFiles` over the valid files succeeds exactly when every entry name fits and no file is
  larger than it reports, and then writes one entry per valid file, in order.
-/
import ModVerif.Spec.ZipSpec
import ModVerif.Proofs.ZipCheckFiles
namespace ModVerif.Proofs.Zip
open ModVerif ModVerif.PathClean ModVerif.Zip ModVerif.ZipSpec

/-- the entry `Create` writes for a valid file -/
def entryOf (pfx : Bytes) (f : FileInfo) : Entry := ⟨pfx ++ f.path, f.content.length, f.content⟩

/-- what `addFile` needs from a file -/
def Addable (pfx : Bytes) (f : FileInfo) : Prop :=
  (pfx ++ f.path).length ≤ 65535 ∧ (f.content.length : Int) < f.size + 1

theorem addFiles_ok (pfx : Bytes) : ∀ (l : List FileInfo) (es : List Entry),
    addFiles pfx l = .ok es → es = l.map (entryOf pfx) ∧ ∀ f ∈ l, Addable pfx f := by
  intro l
  induction l with
  | nil => intro es h; simp [addFiles] at h; exact ⟨h.symm ▸ rfl, fun f hf => by cases hf⟩
  | cons f t ih =>
    intro es h
    by_cases h1 : (pfx ++ f.path).length > 65535
    · unfold addFiles at h; rw [if_pos h1] at h; cases h
    by_cases h2 : (f.content.length : Int) ≥ f.size + 1
    · unfold addFiles at h; rw [if_neg h1, if_pos h2] at h; cases h
    cases hr : addFiles pfx t with
    | error e => unfold addFiles at h; rw [if_neg h1, if_neg h2, hr] at h; cases h
    | ok es' =>
      unfold addFiles at h; rw [if_neg h1, if_neg h2, hr] at h
      obtain ⟨he, ha⟩ := ih es' hr
      have : es = ⟨pfx ++ f.path, f.content.length, f.content⟩ :: es' := by
        injection h with h; exact h.symm
      refine ⟨by rw [this, he]; rfl, ?_⟩
      intro g hg
      rcases List.mem_cons.mp hg with rfl | hg
      · exact ⟨by omega, by omega⟩
      · exact ha g hg

theorem addFiles_of_addable (pfx : Bytes) : ∀ (l : List FileInfo), (∀ f ∈ l, Addable pfx f) →
    addFiles pfx l = .ok (l.map (entryOf pfx)) := by
  intro l
  induction l with
  | nil => intro _; rfl
  | cons f t ih =>
    intro h
    have hf := h f List.mem_cons_self
    unfold addFiles
    rw [ih (fun g hg => h g (List.mem_cons_of_mem _ hg))]
    have h1 : ¬ (pfx ++ f.path).length > 65535 := by have := hf.1; omega
    have h2 : ¬ (f.content.length : Int) ≥ f.size + 1 := by have := hf.2; omega
    rw [if_neg h1, if_neg h2]
    rfl


theorem create_eq (E : Env) (mpath mvers : Bytes) (files : List FileInfo) :
    create E mpath mvers files =
      if !E.modOK mpath mvers then .error .badModule
      else match (checkFilesSt E files (goVers files)).cf.err with
        | some .size => .error .size
        | some .invalid => .error .invalid
        | none => addFiles (zipPrefix mpath mvers) (checkFilesSt E files (goVers files)).validFiles := rfl

theorem create_ok (E : Env) (mpath mvers : Bytes) (files : List FileInfo) (es : List Entry)
    (h : create E mpath mvers files = .ok es) :
    E.modOK mpath mvers = true ∧ (checkFilesV E files).err = none ∧
    es = (checkFilesSt E files (goVers files)).validFiles.map (entryOf (zipPrefix mpath mvers)) ∧
    ∀ f ∈ (checkFilesSt E files (goVers files)).validFiles, Addable (zipPrefix mpath mvers) f := by
  rw [create_eq] at h
  by_cases hm : E.modOK mpath mvers = true
  · simp only [hm, Bool.not_true, Bool.false_eq_true, if_false] at h
    have herr : (checkFilesSt E files (goVers files)).cf.err = none := by
      cases he : (checkFilesSt E files (goVers files)).cf.err with
      | none => rfl
      | some k => rw [he] at h; cases k <;> cases h
    rw [herr] at h
    obtain ⟨h1, h2⟩ := addFiles_ok _ _ _ h
    exact ⟨hm, herr, h1, h2⟩
  · simp [hm] at h

end ModVerif.Proofs.Zip
