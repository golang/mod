/-
  Tie proof, zip/zip.go `checkFiles` (Generated/FnZip.lean) against the hand model `Zip.checkFilesSt` (Model/Zip.lean):
  the representation of the model's state as the variables of the generated code, and the hoisted closure `addError`.

  * errors: a model `Reason` is the message text `reasonText r` (inverse of the driver's `Drv.GenZip.reasonOf`; on the three
    collision reasons it is `TieFnZip.errText`, the `fmt.Errorf` literal);
  * `errPaths : map[string]struct{}` is the association list `epOf l` of the model's list `St.errPaths` (first reports, in
    order; the model never lists a path twice);
  * `haveGoMod : map[string]bool` is `hgOf l`: the model's list `Pre.haveGoMod` (which may repeat a directory) inserted
    key by key with value `true`;
  * `collisions` is `TieFnZip.ofCC`; `cf` is `embCF`; `validFiles` is the model's list through the driver's `toGFile`.
-/
import ModVerif.Generated.FnZip
import ModVerif.Model.Zip
import ModVerif.Drv.GenZip
import ModVerif.Proofs.GoRtLemmas
import ModVerif.Proofs.GoRtLemmasZip
import ModVerif.Proofs.TieFnZipCC
namespace ModVerif.TieFnZipCf
open ModVerif ModVerif.GoRt ModVerif.GoRtZip ModVerif.TieFnZip
open ModVerif.Generated.Zip (pathInfo File FileError CheckedFiles)
open ModVerif.Drv.GenZip (toGFile modeBits)

/-- the message text of a reason as the generated code carries it (sentinel errors by their Go names, `CheckFilePath` and
    `Lstat` errors as the driver instantiates them, collisions by their format literal) -/
def reasonText : Zip.Reason → String
  | .notClean => "errPathNotClean"
  | .notRelative => "errPathNotRelative"
  | .vendored => "errVendored"
  | .submoduleFile => "errSubmoduleFile"
  | .hgArchival => "errHgArchivalTxt"
  | .filePath => "filepath"
  | .goModCase => "errGoModCase"
  | .lstat => "lstat"
  | .caseCollision => "case-insensitive file name collision: %q and %q"
  | .fileAndDir => "entry %q is both a file and a directory"
  | .multiple => "multiple entries for file %q"
  | .symlink => "errSymlink"
  | .notRegular => "errNotRegular"
  | .goModSize => "errGoModSize"
  | .licenseSize => "errLICENSESize"
  | .vcs => "vcs"
  | .submoduleDir => "submoduleDir"
  | .noPrefix => "noPrefix"
  | .goModNotRoot => "goModNotRoot"
  | .panic => "panic"

/-- the driver's short name of a reason (what `Drv/Zip.lean` prints for the model) -/
def reasonShort : Zip.Reason → String
  | .notClean => "notclean" | .notRelative => "notrelative" | .vendored => "vendored"
  | .submoduleFile => "submodulefile" | .hgArchival => "hgarchival" | .filePath => "filepath"
  | .goModCase => "gomodcase" | .lstat => "lstat" | .caseCollision => "casecollision"
  | .fileAndDir => "fileanddir" | .multiple => "multiple" | .symlink => "symlink" | .notRegular => "notregular"
  | .goModSize => "gomodsize" | .licenseSize => "licensesize"
  | .vcs => "unknown:vcs" | .submoduleDir => "unknown:submoduleDir" | .noPrefix => "unknown:noPrefix"
  | .goModNotRoot => "unknown:goModNotRoot" | .panic => "unknown:panic"

theorem reasonOf_reasonText (r : Zip.Reason) : Drv.GenZip.reasonOf (reasonText r) = reasonShort r := by
  cases r <;> decide +kernel

def embFE (e : Bytes × Zip.Reason) : FileError := { Path := e.1, Err := some (reasonText e.2) }

/-- the literal of `fmt.Errorf("module source tree too large (max size is %d bytes)", MaxZipFile)` -/
def sizeErrorText : String := "module source tree too large (max size is %d bytes)"

def embCF (cf : Zip.CheckedFiles) : CheckedFiles :=
  { Valid := cf.valid, Omitted := cf.omitted.map embFE, Invalid := cf.invalid.map embFE,
    SizeError := if cf.sizeError then some sizeErrorText else none }

/-- the set `errPaths` as an association list -/
def epOf (l : List Bytes) : List (Bytes × Unit) := l.map (fun p => (p, ()))

/-- the map `haveGoMod`: the model's list inserted key by key -/
def hgOf (l : List Bytes) : List (Bytes × Bool) := l.foldl (fun m d => mapSet m d true) []

/-- the final state of the model as the triple `checkFiles` returns -/
def embedCf (s : Zip.St) : CheckedFiles × List File × List Int :=
  (embCF s.cf, s.validFiles.map toGFile, s.validFiles.map (·.size))

theorem embCF_default : embCF {} = (default : CheckedFiles) := rfl

theorem find_epOf (l : List Bytes) (k : Bytes) :
    (epOf l).find? (fun q => decide (q.1 = k)) = if l.contains k then some (k, ()) else none := by
  induction l with
  | nil => rfl
  | cons x t ih =>
    simp only [epOf, List.map_cons, List.find?_cons, List.contains_cons]
    by_cases h : x = k
    · subst h; simp
    · have h' : (k == x) = false := by
        rw [beq_eq_false_iff_ne]; exact fun e => h e.symm
      simp only [h, decide_false, h', Bool.false_or]
      exact ih

theorem mapGet_epOf (l : List Bytes) (k : Bytes) : (mapGet (epOf l) k ()).2 = l.contains k := by
  unfold mapGet
  rw [find_epOf]
  cases l.contains k <;> rfl

theorem mapSet_epOf (l : List Bytes) (k : Bytes) (h : l.contains k = false) :
    mapSet (epOf l) k () = epOf (l ++ [k]) := by
  rw [mapSet_none]
  · simp [epOf]
  · rw [find_epOf, h]; rfl

def AllTrue (m : List (Bytes × Bool)) : Prop := ∀ q ∈ m, q.2 = true

theorem mapSet_true_allTrue (m : List (Bytes × Bool)) (k : Bytes) (h : AllTrue m) : AllTrue (mapSet m k true) := by
  unfold mapSet
  split
  · intro q hq
    obtain ⟨q', hq', rfl⟩ := List.mem_map.mp hq
    split
    · rfl
    · exact h q' hq'
  · intro q hq
    rcases List.mem_append.mp hq with hq | hq
    · exact h q hq
    · simp at hq; subst hq; rfl

theorem find_map_upd (k d : Bytes) : ∀ m : List (Bytes × Bool),
    ((m.map (fun p => if p.1 = k then (k, true) else p)).find? (fun q => decide (q.1 = d))).isSome =
      (m.find? (fun q => decide (q.1 = d))).isSome
  | [] => rfl
  | p :: m => by
    simp only [List.map_cons, List.find?_cons]
    by_cases hp : p.1 = k
    · simp only [hp, if_true]
      by_cases hk : k = d
      · simp [hk]
      · simp only [hk, decide_false]; exact find_map_upd k d m
    · simp only [hp, if_false]
      by_cases hd : p.1 = d
      · simp [hd]
      · simp only [hd, decide_false]; exact find_map_upd k d m

theorem mapSet_find_isSome (m : List (Bytes × Bool)) (k d : Bytes) :
    ((mapSet m k true).find? (fun q => decide (q.1 = d))).isSome =
      ((m.find? (fun q => decide (q.1 = d))).isSome || decide (k = d)) := by
  unfold mapSet
  split
  · rename_i hf
    rw [find_map_upd]
    by_cases hk : k = d
    · subst hk; simp [hf]
    · simp [hk]
  · rw [List.find?_append]
    cases hm : m.find? (fun q => decide (q.1 = d)) with
    | some q => simp
    | none =>
      simp only [Option.none_or, List.find?_cons, List.find?_nil, Option.isSome_none, Bool.false_or]
      by_cases hk : k = d <;> simp [hk]

theorem hgOf_append (l : List Bytes) (d : Bytes) : hgOf (l ++ [d]) = mapSet (hgOf l) d true := by
  simp [hgOf, List.foldl_append]

theorem hgFold_allTrue : ∀ (l : List Bytes) (m : List (Bytes × Bool)), AllTrue m →
    AllTrue (l.foldl (fun m d => mapSet m d true) m)
  | [], _, h => h
  | k :: l, m, h => hgFold_allTrue l _ (mapSet_true_allTrue m k h)

theorem hgOf_allTrue (l : List Bytes) : AllTrue (hgOf l) :=
  hgFold_allTrue l [] (fun q hq => by cases hq)

theorem hgFold_find (d : Bytes) : ∀ (l : List Bytes) (m : List (Bytes × Bool)),
    ((l.foldl (fun m d => mapSet m d true) m).find? (fun q => decide (q.1 = d))).isSome =
      ((m.find? (fun q => decide (q.1 = d))).isSome || l.contains d)
  | [], m => by simp
  | k :: l, m => by
    rw [List.foldl_cons, hgFold_find d l, mapSet_find_isSome, List.contains_cons, Bool.or_assoc]
    congr 1
    by_cases hk : k = d
    · subst hk; simp
    · have : (d == k) = false := by rw [beq_eq_false_iff_ne]; exact fun e => hk e.symm
      simp [hk, this]

theorem hgOf_find (l : List Bytes) (d : Bytes) :
    ((hgOf l).find? (fun q => decide (q.1 = d))).isSome = l.contains d := by
  unfold hgOf
  rw [hgFold_find]; simp

theorem mapGet_hgOf (l : List Bytes) (d : Bytes) : (mapGet (hgOf l) d false).1 = l.contains d := by
  rw [← hgOf_find]
  unfold mapGet
  cases h : (hgOf l).find? (fun q => decide (q.1 = d)) with
  | none => rfl
  | some q =>
    have := hgOf_allTrue l q (List.mem_of_find?_eq_some h)
    simp [this]

section addError
/- The package functions the regenerated code takes as parameters, named as here in every file of the unit: `cfp`
   module.CheckFilePath, `ef` strings.EqualFold, `pgv` the go-version reader, `sf` unicode.SimpleFold, `tl` strings.ToLower,
   `vc` version.Compare, `vl` version.Lang; in the archive functions also `cv` module.CanonicalVersion, `mc` module.Check. -/
variable {cfp : Bytes → Option String} {ef : Bytes → Bytes → Bool} {pgv : Bytes → Bytes → Bytes} {sf : Int → Int}
  {tl : Bytes → Bytes} {vc : Bytes → Bytes → Int} {vl : Bytes → Bytes}

@[simp] theorem addError_cc (s : Zip.St) (p : Bytes) (o : Bool) (r : Zip.Reason) : (s.addError p o r).cc = s.cc :=
  (Proofs.Zip.addError_rest s p o r).2.2.1

@[simp] theorem addError_maxSize (s : Zip.St) (p : Bytes) (o : Bool) (r : Zip.Reason) :
    (s.addError p o r).maxSize = s.maxSize := (Proofs.Zip.addError_rest s p o r).2.2.2.1

@[simp] theorem addError_validFiles (s : Zip.St) (p : Bytes) (o : Bool) (r : Zip.Reason) :
    (s.addError p o r).validFiles = s.validFiles := (Proofs.Zip.addError_rest s p o r).2.1

/-- the closure `addError` is `St.addError`: the captured variables `errPaths` and `cf` go in and come out -/
theorem addError_eq (fuel : Nat) (vf : List File) (vs : List Int) (s : Zip.St) (path : Bytes) (omitted : Bool)
    (r : Zip.Reason) :
    Generated.Zip.checkFiles_addError cfp ef pgv sf tl vc vl fuel vf vs path omitted (some (reasonText r))
        (epOf s.errPaths) (embCF s.cf) =
      .ok ((), epOf (s.addError path omitted r).errPaths, embCF (s.addError path omitted r).cf) := by
  unfold Generated.Zip.checkFiles_addError Zip.St.addError
  have hg := mapGet_epOf s.errPaths path
  cases hc : s.errPaths.contains path with
  | true =>
    rw [hc] at hg
    simp only [hg, if_true]
    rfl
  | false =>
    rw [hc] at hg
    simp only [hg, Bool.false_eq_true, if_false, mapSet_epOf _ _ hc]
    cases omitted with
    | true => simp [embCF, embFE, pure, Except.pure]
    | false => simp [embCF, embFE, pure, Except.pure]

end addError

end ModVerif.TieFnZipCf
