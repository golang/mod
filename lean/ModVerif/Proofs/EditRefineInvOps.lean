/-
  Every go.mod operation (but the two bulk requirement setters) preserves the tree invariant, for every view of a
  requirement's line: `InvR V` with `Inv = InvR fullView` and `P.Inv ↔ InvR tokView` (Proofs/EditPanicInv.lean).
-/
import ModVerif.Proofs.EditRefineInv
namespace ModVerif.Modfile.Edit
open ModVerif ModVerif.Modfile

theorem entsOf_true {α : Type} (mk : α → Ent) (l : List α) : entsOf (fun _ => true) mk l = l.map mk := by
  unfold entsOf; rw [List.filter_eq_self.2 (fun _ _ => rfl)]

/-! ### comment surgery on one line -/

theorem view_updateLine_suffix (fs : FileSyntax) (id : Nat) (g : Line → Line) (σ : List Comment → List Comment)
    (h : (treeIds fs.stmts).Nodup) (htok : ∀ l, (g l).token = l.token) (hid : ∀ l, (g l).id = l.id)
    (hsfx : ∀ l, (g l).comments.suffix = σ l.comments.suffix) :
    view (fs.updateLine id g).stmts =
      (view fs.stmts).map fun v => if v.id == id then { v with suffix := σ v.suffix } else v := by
  unfold view
  rw [loc_updateLine fs id g h, List.filter_map, List.map_map, List.map_map]
  have hlive : (liveLoc ∘ fun p : List Bytes × Line => (p.1, if p.2.id == id then g p.2 else p.2)) = liveLoc := by
    funext p
    simp only [Function.comp, liveLoc]
    split
    · rw [htok]
    · rfl
  rw [hlive]
  apply List.map_congr_left
  intro p _
  simp only [Function.comp, mkV]
  by_cases hp : (p.2.id == id) = true
  · simp only [hp, if_true, htok, hid, hsfx]
  · simp only [Bool.not_eq_true] at hp
    simp only [hp, Bool.false_eq_true, if_false]

/-- the end-of-line comments after `setIndirect`, as a function of those before -/
def sfxAfter (b : Bool) (s : List Comment) : List Comment := (setIndirectLine b { comments := { suffix := s } }).comments.suffix

theorem setIndirectLine_props (b : Bool) (l : Line) :
    (setIndirectLine b l).id = l.id ∧ (setIndirectLine b l).token = l.token ∧ (setIndirectLine b l).inBlock = l.inBlock ∧
    (setIndirectLine b l).comments.suffix = sfxAfter b l.comments.suffix := by
  unfold sfxAfter setIndirectLine
  simp only [isIndirect_eq]
  by_cases h1 : (isIndirectS l.comments.suffix == b) = true
  · simp only [h1, if_true]; (refine ⟨?_, ?_, ?_, ?_⟩ <;> first | trivial | rfl)
  · simp only [h1, Bool.false_eq_true, if_false]
    cases b with
    | true =>
      simp only [if_true]
      cases hs : l.comments.suffix with
      | nil => (refine ⟨?_, ?_, ?_, ?_⟩ <;> first | trivial | rfl)
      | cons c cs => (refine ⟨?_, ?_, ?_, ?_⟩ <;> first | trivial | rfl)
    | false =>
      simp only [Bool.false_eq_true, if_false]
      cases hs : l.comments.suffix with
      | nil => simp only [hs]; (refine ⟨?_, ?_, ?_, ?_⟩ <;> first | trivial | rfl)
      | cons c cs =>
        simp only
        split
        · (refine ⟨?_, ?_, ?_, ?_⟩ <;> first | trivial | rfl)
        · (refine ⟨?_, ?_, ?_, ?_⟩ <;> first | trivial | rfl)

theorem sfxAfter_nil (b : Bool) : isIndirectS (sfxAfter b []) = b := by
  cases b <;> decide +kernel

theorem addNewRequire_tree (fs : FileSyntax) (next : Nat) (p v : Bytes) (b : Bool) (hw : TreeWF fs.stmts next)
    (hnext : 0 < next) (h2 : View2 fs.stmts) :
    let syn' := (addLine fs none [B "require", autoQuote p, v] next).updateLine next (setIndirectLine b)
    (view syn'.stmts).Perm (view fs.stmts ++ [⟨next, [B "require", autoQuote p, v], sfxAfter b []⟩]) ∧
    TreeWF syn'.stmts (next + 1) := by
  intro syn'
  rcases addLine_spec fs none next (B "require") (autoQuote p) [v] hw.shape h2 with ⟨p1, p2, p3⟩
  have hw1 : TreeWF (addLine fs none [B "require", autoQuote p, v] next).stmts (next + 1) := hw.of_added hnext p2 p3
  have hprops := setIndirectLine_props b
  refine ⟨?_, hw1.updateLine next _ (fun l => (hprops l).1) (fun l => (hprops l).2.2.1)⟩
  have hv := view_updateLine_suffix (addLine fs none [B "require", autoQuote p, v] next) next (setIndirectLine b) (sfxAfter b)
    hw1.nodup (fun l => (hprops l).2.1) (fun l => (hprops l).1) (fun l => (hprops l).2.2.2)
  show (view ((addLine fs none [B "require", autoQuote p, v] next).updateLine next (setIndirectLine b)).stmts).Perm _
  rw [hv]
  refine (p1.map _).trans ?_
  rw [List.map_append]
  have hold : (view fs.stmts).map (fun v => if v.id == next then { v with suffix := sfxAfter b v.suffix } else v) = view fs.stmts := by
    calc _ = (view fs.stmts).map (fun v => v) := by
          apply List.map_congr_left
          intro v hv
          have : v.id ≠ next := Nat.ne_of_lt (hw.lt _ (view_id_mem_treeIds hv))
          simp [this]
      _ = view fs.stmts := by simp
  rw [hold]
  simp [vnew]

/-! ### the invariant for a view of the requirement lines -/

/-- What the invariant asks of the end-of-line comments `s` of the line of a requirement with `indirect = b`.  The marker clause
    of `Inv` is the only thing the bulk requirement setters do not always re-establish, and it plays no role in the panics:
    the per-operation proofs are those of `InvR V` for any `V`, read at `fullView` (`Inv`) or at `tokView` (`P.Inv`). -/
structure RqView where
  C : Bool → List Comment → Prop
  /-- a line as `AddNewRequire` writes it complies -/
  fresh : ∀ b, C b (sfxAfter b [])

def RqView.rq (V : RqView) (r : Require) : Ent :=
  ⟨r.lineId, fun t s => t = [B "require", autoQuote r.mod.path, r.mod.version] ∧ V.C r.indirect s⟩

/-- `setIndirect` achieves on the comments `s` what the view asks, whichever marker is requested -/
def RqView.Settable (V : RqView) (s : List Comment) : Prop := ∀ b, V.C b (sfxAfter b s)

/-- the comments carry the marker iff the entry is indirect: `fullView.rq` is `entRq`, `fullView.Settable` is `MarkerSettable` -/
def fullView : RqView := ⟨fun b s => isIndirectS s = b, sfxAfter_nil⟩

/-- nothing is asked of the comments -/
def tokView : RqView := ⟨fun _ _ => True, fun _ => trivial⟩

variable (V : RqView)

def entriesR (f : File) : List Ent :=
  f.module.toList.map entM ++ (f.go.toList.map entGo ++ (f.toolchain.toList.map entTc ++
  (entsOf liveG entG f.godebug ++ (entsOf liveRq V.rq f.require ++ (entsOf liveX entX f.exclude ++
  (entsOf liveRp entRp f.replace ++ (entsOf liveRt entRt f.retract ++ entsOf liveT entT f.tool)))))))

structure InvR (e : EFile) : Prop where
  tree : TreeWF e.f.syn.stmts e.next
  mtch : Match (entriesR V e.f) (view e.f.syn.stmts)
  tinv : TInv e

theorem Inv.r {e : EFile} (h : Inv e) : InvR fullView e := ⟨h.tree, h.mtch, h.tinv⟩
theorem InvR.full {e : EFile} (h : InvR fullView e) : Inv e := ⟨h.tree, h.mtch, h.tinv⟩

def segA_godebug (f : File) : List Ent := f.module.toList.map entM ++ (f.go.toList.map entGo ++ f.toolchain.toList.map entTc)
def segC_godebug (f : File) : List Ent :=
  entsOf liveRq V.rq f.require ++ (entsOf liveX entX f.exclude ++ (entsOf liveRp entRp f.replace ++
    (entsOf liveRt entRt f.retract ++ entsOf liveT entT f.tool)))
theorem entriesR_godebug (f : File) : entriesR V f = segA_godebug f ++ (entsOf liveG entG f.godebug ++ segC_godebug V f) := by
  simp [entriesR, segA_godebug, segC_godebug, List.append_assoc]

def segA_require (f : File) : List Ent := segA_godebug f ++ entsOf liveG entG f.godebug
def segC_require (f : File) : List Ent :=
  entsOf liveX entX f.exclude ++ (entsOf liveRp entRp f.replace ++ (entsOf liveRt entRt f.retract ++ entsOf liveT entT f.tool))
theorem entriesR_require (f : File) : entriesR V f = segA_require f ++ (entsOf liveRq V.rq f.require ++ segC_require f) := by
  simp [entriesR, segA_require, segA_godebug, segC_require, List.append_assoc]

def segA_exclude (f : File) : List Ent := segA_require f ++ entsOf liveRq V.rq f.require
def segC_exclude (f : File) : List Ent :=
  entsOf liveRp entRp f.replace ++ (entsOf liveRt entRt f.retract ++ entsOf liveT entT f.tool)
theorem entriesR_exclude (f : File) : entriesR V f = segA_exclude V f ++ (entsOf liveX entX f.exclude ++ segC_exclude f) := by
  simp [entriesR, segA_exclude, segA_require, segA_godebug, segC_exclude, List.append_assoc]

def segA_replace (f : File) : List Ent := segA_exclude V f ++ entsOf liveX entX f.exclude
def segC_replace (f : File) : List Ent := entsOf liveRt entRt f.retract ++ entsOf liveT entT f.tool
theorem entriesR_replace (f : File) : entriesR V f = segA_replace V f ++ (entsOf liveRp entRp f.replace ++ segC_replace f) := by
  simp [entriesR, segA_replace, segA_exclude, segA_require, segA_godebug, segC_replace, List.append_assoc]

def segA_retract (f : File) : List Ent := segA_replace V f ++ entsOf liveRp entRp f.replace
def segC_retract (f : File) : List Ent := entsOf liveT entT f.tool
theorem entriesR_retract (f : File) : entriesR V f = segA_retract V f ++ (entsOf liveRt entRt f.retract ++ segC_retract f) := by
  simp [entriesR, segA_retract, segA_replace, segA_exclude, segA_require, segA_godebug, segC_retract, List.append_assoc]

def segA_tool (f : File) : List Ent := segA_retract V f ++ entsOf liveRt entRt f.retract
theorem entriesR_tool (f : File) : entriesR V f = segA_tool V f ++ (entsOf liveT entT f.tool ++ []) := by
  simp [entriesR, segA_tool, segA_retract, segA_replace, segA_exclude, segA_require, segA_godebug, List.append_assoc]

def segC_module (f : File) : List Ent :=
  f.go.toList.map entGo ++ (f.toolchain.toList.map entTc ++ (entsOf liveG entG f.godebug ++ segC_godebug V f))
theorem entriesR_module (f : File) : entriesR V f = [] ++ (entsOf (fun _ => true) entM f.module.toList ++ segC_module V f) := by
  simp [entriesR, segC_module, segC_godebug, entsOf_true]

def segA_go (f : File) : List Ent := f.module.toList.map entM
def segC_go (f : File) : List Ent := f.toolchain.toList.map entTc ++ (entsOf liveG entG f.godebug ++ segC_godebug V f)
theorem entriesR_go (f : File) : entriesR V f = segA_go f ++ (entsOf (fun _ => true) entGo f.go.toList ++ segC_go V f) := by
  simp [entriesR, segA_go, segC_go, segC_godebug, entsOf_true]

def segA_toolchain (f : File) : List Ent := f.module.toList.map entM ++ f.go.toList.map entGo
def segC_toolchain (f : File) : List Ent := entsOf liveG entG f.godebug ++ segC_godebug V f
theorem entriesR_toolchain (f : File) :
    entriesR V f = segA_toolchain f ++ (entsOf (fun _ => true) entTc f.toolchain.toList ++ segC_toolchain V f) := by
  simp [entriesR, segA_toolchain, segC_toolchain, segC_godebug, entsOf_true, List.append_assoc]

variable {V}

theorem InvR.weaken {V W : RqView} (hVW : ∀ b s, V.C b s → W.C b s) {e : EFile} (h : InvR V e) : InvR W e := by
  refine ⟨h.tree, ?_, h.tinv⟩
  rw [entriesR_require]
  refine Match.weakenSeg (by rw [← entriesR_require]; exact h.mtch)
    (by rw [entsOf_ids (·.lineId) liveRq _ (fun _ => rfl), entsOf_ids (·.lineId) liveRq _ (fun _ => rfl)]) fun en' hen' => ?_
  rcases (mem_entsOf liveRq _).1 hen' with ⟨r, hr, hl, rfl⟩
  exact ⟨V.rq r, (mem_entsOf liveRq _).2 ⟨r, hr, hl, rfl⟩, rfl, fun t s ha => ⟨ha.1, hVW _ _ ha.2⟩⟩

theorem entriesR_acc2 (f : File) : ∀ en ∈ entriesR V f, ∀ t s, en.acc t s → 2 ≤ t.length := by
  intro en hen t s ha
  simp only [entriesR, List.mem_append, List.mem_map, Option.mem_toList, entsOf, List.mem_filter] at hen
  rcases hen with ⟨x, _, rfl⟩ | ⟨x, _, rfl⟩ | ⟨x, _, rfl⟩ | ⟨x, _, rfl⟩ | ⟨x, _, rfl⟩ | ⟨x, _, rfl⟩ | ⟨x, _, rfl⟩ |
    ⟨x, _, rfl⟩ | ⟨x, _, rfl⟩
  · simp only [entM] at ha; rw [ha]; simp
  · simp only [entGo] at ha; rw [ha]; simp
  · simp only [entTc] at ha; rw [ha]; simp
  · simp only [entG] at ha; rw [ha]; simp
  · simp only [RqView.rq] at ha; rw [ha.1]; simp
  · simp only [entX] at ha; rw [ha]; simp
  · simp only [entRp, replaceToks] at ha; rw [ha]; simp
  · simp only [entRt] at ha
    rcases ha with ⟨x', h1, _⟩ | ⟨x', y', h1, _⟩ <;> rw [h1] <;> simp
  · simp only [entT] at ha
    rcases ha with ⟨x', h1, _⟩; rw [h1]; simp

theorem InvR.view2 {e : EFile} (h : InvR V e) : View2 e.f.syn.stmts := fun v hv =>
  let ⟨en, hen, _, hacc⟩ := h.mtch.line_entry h.tree v hv
  entriesR_acc2 e.f en hen _ _ hacc

theorem InvR.fresh {e : EFile} (h : InvR V e) : ∀ en ∈ entriesR V e.f, en.id ≠ e.next := by
  intro en hen
  exact Nat.ne_of_lt (h.mtch.ids_lt h.tree en hen)

theorem dropGodebug_invR (e e' : EFile) (k : Bytes) (hk : k ≠ []) (hi : InvR V e) (h : dropGodebug e k = .ok e') : InvR V e' := by
  have ht := ((dropGodebug_refines e k hi.tinv).1 e' h).2.2
  obtain ⟨_, ⟨⟩⟩ := ite_ok (dropGodebug_eq e k ▸ h)
  refine ⟨(markAll_spec _ e.f.syn e.next hi.tree).1, ?_, ht⟩
  rw [entriesR_godebug]
  exact Match.clearSeg (mk := entG) (fun _ => rfl) (fun x hx => ne_nil_of_beq hk hx) hi.tree (by have := hi.mtch; rwa [entriesR_godebug] at this)

theorem dropRequire_invR (e e' : EFile) (p : Bytes) (hp : p ≠ []) (hi : InvR V e) (h : dropRequire e p = .ok e') : InvR V e' := by
  have ht := ((dropRequire_refines e p hi.tinv).1 e' h).2.2
  obtain ⟨_, ⟨⟩⟩ := ite_ok (dropRequire_eq e p ▸ h)
  refine ⟨(markAll_spec _ e.f.syn e.next hi.tree).1, ?_, ht⟩
  rw [entriesR_require]
  exact Match.clearSeg (mk := V.rq) (fun _ => rfl) (fun x hx => ne_nil_of_beq hp hx) hi.tree (by have := hi.mtch; rwa [entriesR_require] at this)

theorem dropExclude_invR (e e' : EFile) (p v : Bytes) (hp : p ≠ []) (hi : InvR V e) (h : dropExclude e p v = .ok e') : InvR V e' := by
  have ht := ((dropExclude_refines e p v hi.tinv).1 e' h).2.2
  obtain ⟨_, ⟨⟩⟩ := ite_ok (dropExclude_eq e p v ▸ h)
  refine ⟨(markAll_spec _ e.f.syn e.next hi.tree).1, ?_, ht⟩
  rw [entriesR_exclude]
  exact Match.clearSeg (mk := entX) (fun _ => rfl) (fun x hx => by simp only [Bool.and_eq_true] at hx; exact ne_nil_of_beq hp hx.1) hi.tree (by have := hi.mtch; rwa [entriesR_exclude] at this)

theorem dropReplace_invR (e e' : EFile) (op ov : Bytes) (hop : op ≠ []) (hi : InvR V e) (h : dropReplace e op ov = .ok e') : InvR V e' := by
  have ht := ((dropReplace_refines e op ov hi.tinv).1 e' h).2.2
  obtain ⟨_, ⟨⟩⟩ := ite_ok (dropReplace_eq e op ov ▸ h)
  refine ⟨(markAll_spec _ e.f.syn e.next hi.tree).1, ?_, ht⟩
  rw [entriesR_replace]
  exact Match.clearSeg (mk := entRp) (fun _ => rfl) (fun x hx => by simp only [Bool.and_eq_true] at hx; exact ne_nil_of_beq hop hx.1) hi.tree (by have := hi.mtch; rwa [entriesR_replace] at this)

theorem dropRetract_invR (e e' : EFile) (lo hi' : Bytes) (hne : lo ≠ [] ∨ hi' ≠ []) (hi : InvR V e)
    (h : dropRetract e { low := lo, high := hi' } = .ok e') : InvR V e' := by
  have ht := ((dropRetract_refines e lo hi' hi.tinv).1 e' h).2.2
  obtain ⟨_, ⟨⟩⟩ := ite_ok (dropRetract_eq e { low := lo, high := hi' } ▸ h)
  refine ⟨(markAll_spec _ e.f.syn e.next hi.tree).1, ?_, ht⟩
  rw [entriesR_retract]
  exact Match.clearSeg (mk := entRt) (fun _ => rfl) (fun x hx => by
        have : x.interval = { low := lo, high := hi' } := eq_of_beq hx
        simp only [liveRt, this]
        rcases hne with h1 | h1
        · simp [ne_nil_live h1]
        · simp [ne_nil_live h1]) hi.tree (by have := hi.mtch; rwa [entriesR_retract] at this)

theorem dropTool_invR (e e' : EFile) (p : Bytes) (hp : p ≠ []) (hi : InvR V e) (h : dropTool e p = .ok e') : InvR V e' := by
  have ht := ((dropTool_refines e p hi.tinv).1 e' h).2.2
  obtain ⟨_, ⟨⟩⟩ := ite_ok (dropTool_eq e p ▸ h)
  refine ⟨(markAll_spec _ e.f.syn e.next hi.tree).1, ?_, ht⟩
  rw [entriesR_tool]
  exact Match.clearSeg (mk := entT) (fun _ => rfl) (fun x hx => ne_nil_of_beq hp hx) hi.tree (by have := hi.mtch; rwa [entriesR_tool] at this)

theorem addNewRequire_invR (e : EFile) (p v : Bytes) (b : Bool) (hp : p ≠ []) (hi : InvR V e) : InvR V (addNewRequire e p v b) := by
  rcases addNewRequire_tree e.f.syn e.next p v b hi.tree hi.tinv.pos hi.view2 with ⟨hv, hw⟩
  refine ⟨hw, ?_, addNewRequire_tinv e p v b hi.tinv⟩
  have := Match.appendSeg (·.lineId) liveRq V.rq (fun _ => rfl)
    (x := ({ mod := { path := p, version := v }, indirect := b, lineId := e.next } : Require))
    (ne_nil_live hp) [B "require", autoQuote p, v] (sfxAfter b []) ⟨rfl, V.fresh b⟩
    (by rw [← entriesR_require]; exact hi.mtch) (by rw [← entriesR_require]; exact hi.fresh) hv
  show Match (entriesR V (addNewRequire e p v b).f) _
  rw [entriesR_require]; exact this

theorem addRequire_invR (e e' : EFile) (p v : Bytes) (hp : p ≠ []) (hi : InvR V e) (h : addRequire e p v = .ok e') : InvR V e' := by
  have ht := ((addRequire_refines e p v hp hi.tinv).1 e' h).2.2
  obtain ⟨_, ⟨⟩⟩ := ite_ok (addRequire_eq e p v ▸ h)
  obtain ⟨hv, hwa⟩ := addNewRequire_tree e.f.syn e.next p v false hi.tree hi.tinv.pos hi.view2
  obtain ⟨hw, hm⟩ := Match.setKeyed (R := addRequireRes e p v) (mk := V.rq) (live := liveRq) rfl
    (fun _ => rfl) (fun x hx => ne_nil_of_beq hp hx) (fun x hx => ne_nil_of_beq hp hx)
    (fun x hx t0 s ha => by
      simp only [RqView.rq] at ha ⊢
      exact ⟨by rw [ha.1]; rfl, by rw [eq_of_beq hx], ha.2⟩)
    (ne_nil_live hp) rfl ⟨rfl, V.fresh false⟩ hi.tree (by have := hi.mtch; rwa [entriesR_require] at this) hv hwa
  exact ⟨hw, by rw [entriesR_require]; exact hm, ht⟩

theorem addGodebug_invR (e e' : EFile) (k v : Bytes) (hk : k ≠ []) (hi : InvR V e) (h : addGodebug e k v = .ok e') : InvR V e' := by
  have ht := ((addGodebug_refines e k v hk hi.tinv).1 e' h).2.2
  obtain ⟨_, ⟨⟩⟩ := ite_ok (addGodebug_eq e k v ▸ h)
  obtain ⟨p1, p2, p3⟩ := addLine_spec e.f.syn none e.next (B "godebug") (k ++ [61] ++ v) [] hi.tree.shape hi.view2
  obtain ⟨hw, hm⟩ := Match.setKeyed (R := addGodebugRes e.f.syn e.f.godebug e.next k v) (mk := entG) (live := liveG) rfl
    (fun _ => rfl) (fun x hx => ne_nil_of_beq hk hx) (fun x hx => ne_nil_of_beq hk hx)
    (fun x hx t0 s ha => by
      simp only [entG] at ha ⊢
      exact ⟨by rw [ha]; rfl, by rw [eq_of_beq hx]⟩)
    (ne_nil_live hk) rfl rfl hi.tree (by have := hi.mtch; rwa [entriesR_godebug] at this) p1 (hi.tree.of_added hi.tinv.pos p2 p3)
  exact ⟨hw, by rw [entriesR_godebug]; exact hm, ht⟩

theorem addReplace_invR (e e' : EFile) (op ov np nv : Bytes) (hop : op ≠ []) (hi : InvR V e)
    (h : addReplace e op ov np nv = .ok e') : InvR V e' := by
  have ht := ((addReplace_refines e op ov np nv hop hi.tinv).1 e' h).2.2
  obtain ⟨_, ⟨⟩⟩ := ite_ok (addReplace_eq e op ov np nv ▸ h)
  obtain ⟨p1, p2, p3⟩ := addLinePtr_spec e.f.syn (lastWith (fun r : Replace => r.old.path == op) (·.lineId) e.f.replace none)
    e.next (B "replace") (autoQuote op) ((if ov.isEmpty then [] else [ov]) ++ [B "=>", autoQuote np] ++ (if nv.isEmpty then [] else [nv]))
    hi.tree.shape hi.view2
  obtain ⟨hw, hm⟩ := Match.setKeyed (R := addReplaceRes e.f.syn e.f.replace e.next op ov np nv) (mk := entRp) (live := liveRp) rfl
    (fun _ => rfl) (replaceMatch_live hop) (fun _ _ => ne_nil_live hop)
    (fun x hx t0 s ha => by
      simp only [entRp] at ha ⊢
      exact ⟨by rw [ha]; simp [replaceToks], by simp [replaceToks]⟩)
    (ne_nil_live hop) rfl (by simp [entRp, replaceToks]) hi.tree (by have := hi.mtch; rwa [entriesR_replace] at this) p1
    (hi.tree.of_added hi.tinv.pos p2 p3)
  exact ⟨hw, by rw [entriesR_replace]; exact hm, ht⟩

theorem addExclude_invR (e e' : EFile) (p v : Bytes) (hp : p ≠ []) (hi : InvR V e) (h : addExclude e p v = .ok e') : InvR V e' := by
  have ht := ((addExclude_refines e p v hp hi.tinv).1 e' h).2.2
  unfold addExclude at h
  split at h
  · cases h
  · split at h
    · simp only [Except.ok.injEq] at h; subst h; exact hi
    · simp only [Except.ok.injEq] at h; subst h
      rcases addLinePtr_spec e.f.syn (lastWith (fun x : Exclude => x.mod.path == p) (·.lineId) e.f.exclude none) e.next
        (B "exclude") (autoQuote p) [v] hi.tree.shape hi.view2 with ⟨p1, p2, p3⟩
      refine ⟨hi.tree.of_added hi.tinv.pos p2 p3, ?_, ht⟩
      have := Match.appendSeg (·.lineId) liveX entX (fun _ => rfl)
        (x := ({ mod := { path := p, version := v }, lineId := e.next } : Exclude))
        (ne_nil_live hp) [B "exclude", autoQuote p, v] [] rfl
        (by rw [← entriesR_exclude]; exact hi.mtch) (by rw [← entriesR_exclude]; exact hi.fresh) p1
      rw [entriesR_exclude]; exact this

theorem addModuleStmt_invR (e : EFile) (p : Bytes) (hi : InvR V e) : InvR V (addModuleStmt e p) := by
  have ht := ((addModuleStmt_refines e p hi.tinv).1 _ rfl).2.2
  have hm0 := hi.mtch
  rw [entriesR_module] at hm0
  unfold addModuleStmt at ht ⊢
  cases hm : e.f.module with
  | none =>
    simp only [hm] at ht ⊢
    rw [hm] at hm0
    rcases addLine_spec e.f.syn none e.next (B "module") (autoQuote p) [] hi.tree.shape hi.view2 with ⟨p1, p2, p3⟩
    refine ⟨hi.tree.of_added hi.tinv.pos p2 p3, ?_, ht⟩
    have := Match.appendSeg (·.lineId) (fun _ => true) entM (fun _ => rfl) (L := [])
      (x := ({ mod := { path := p }, lineId := e.next } : Module)) rfl [B "module", autoQuote p] [] rfl hm0
      (by have := hi.fresh; rw [entriesR_module, hm] at this; exact this) p1
    rw [entriesR_module]; exact this
  | some m =>
    simp only [hm] at ht ⊢
    rw [hm] at hm0
    refine ⟨hi.tree.updateTokens _ _, ?_, ht⟩
    have := Match.updOne (en := entM m) (en' := entM { m with mod := { m.mod with path := p } }) hi.tree hm0 rfl
      (B "module") (autoQuote p) [] (fun t0 s ha => by simp only [entM] at ha ⊢; exact ⟨by rw [ha]; rfl, trivial⟩)
    rw [entriesR_module]; exact this

theorem addGoStmt_invR (e e' : EFile) (v : Bytes) (hi : InvR V e) (h : addGoStmt e v = .ok e') : InvR V e' := by
  have ht := ((addGoStmt_refines e v hi.tinv).1 e' h).2.2
  have hm0 := hi.mtch
  rw [entriesR_go] at hm0
  unfold addGoStmt at h
  split at h
  · cases h
  · cases hg : e.f.go with
    | none =>
      simp only [hg, Except.ok.injEq] at h
      subst h
      rw [hg] at hm0
      rcases addLine_spec e.f.syn (e.f.module.map (·.lineId)) e.next (B "go") v [] hi.tree.shape hi.view2 with ⟨p1, p2, p3⟩
      refine ⟨hi.tree.of_added hi.tinv.pos p2 p3, ?_, ht⟩
      have := Match.appendSeg (·.lineId) (fun _ => true) entGo (fun _ => rfl) (L := [])
        (x := ({ version := v, lineId := e.next } : Go)) rfl [B "go", v] [] rfl hm0
        (by have := hi.fresh; rw [entriesR_go, hg] at this; exact this) p1
      rw [entriesR_go]; exact this
    | some g =>
      simp only [hg, Except.ok.injEq] at h
      subst h
      rw [hg] at hm0
      refine ⟨hi.tree.updateTokens _ _, ?_, ht⟩
      have := Match.updOne (en := entGo g) (en' := entGo { g with version := v }) hi.tree hm0 rfl
        (B "go") v [] (fun t0 s ha => by simp only [entGo] at ha ⊢; exact ⟨by rw [ha]; rfl, trivial⟩)
      rw [entriesR_go]; exact this

theorem addToolchainStmt_invR (e e' : EFile) (n : Bytes) (hi : InvR V e) (h : addToolchainStmt e n = .ok e') : InvR V e' := by
  have ht := ((addToolchainStmt_refines e n hi.tinv).1 e' h).2.2
  have hm0 := hi.mtch
  rw [entriesR_toolchain] at hm0
  unfold addToolchainStmt at h
  split at h
  · cases h
  · cases hg : e.f.toolchain with
    | none =>
      simp only [hg, Except.ok.injEq] at h
      subst h
      rw [hg] at hm0
      rcases addLine_spec e.f.syn (match e.f.go with | some g => some g.lineId | none => e.f.module.map (·.lineId)) e.next
        (B "toolchain") n [] hi.tree.shape hi.view2 with ⟨p1, p2, p3⟩
      refine ⟨hi.tree.of_added hi.tinv.pos p2 p3, ?_, ht⟩
      have := Match.appendSeg (·.lineId) (fun _ => true) entTc (fun _ => rfl) (L := [])
        (x := ({ name := n, lineId := e.next } : Toolchain)) rfl [B "toolchain", n] [] rfl hm0
        (by have := hi.fresh; rw [entriesR_toolchain, hg] at this; exact this) p1
      rw [entriesR_toolchain]; exact this
    | some g =>
      simp only [hg, Except.ok.injEq] at h
      subst h
      rw [hg] at hm0
      refine ⟨hi.tree.updateTokens _ _, ?_, ht⟩
      have := Match.updOne (en := entTc g) (en' := entTc { g with name := n }) hi.tree hm0 rfl
        (B "toolchain") n [] (fun t0 s ha => by simp only [entTc] at ha ⊢; exact ⟨by rw [ha]; rfl, trivial⟩)
      rw [entriesR_toolchain]; exact this

theorem dropGoStmt_invR (e : EFile) (hi : InvR V e) : InvR V (dropGoStmt e) := by
  have ht := ((dropGoStmt_refines e hi.tinv).1 _ rfl).2.2
  have hm0 := hi.mtch
  rw [entriesR_go] at hm0
  unfold dropGoStmt at ht ⊢
  cases hg : e.f.go with
  | none => exact hi
  | some g =>
    simp only [hg] at ht ⊢
    rw [hg] at hm0
    refine ⟨hi.tree.markRemoved _, ?_, ht⟩
    have := Match.dropOne (en := entGo g) hi.tree hm0
    rw [entriesR_go]; exact this

theorem dropToolchainStmt_invR (e : EFile) (hi : InvR V e) : InvR V (dropToolchainStmt e) := by
  have ht := ((dropToolchainStmt_refines e hi.tinv).1 _ rfl).2.2
  have hm0 := hi.mtch
  rw [entriesR_toolchain] at hm0
  unfold dropToolchainStmt at ht ⊢
  cases hg : e.f.toolchain with
  | none => exact hi
  | some g =>
    simp only [hg] at ht ⊢
    rw [hg] at hm0
    refine ⟨hi.tree.markRemoved _, ?_, ht⟩
    have := Match.dropOne (en := entTc g) hi.tree hm0
    rw [entriesR_toolchain]; exact this

theorem addRetract_invR (e e' : EFile) (vi : VersionInterval) (why : Bytes) (hi : InvR V e)
    (h : addRetract e vi why = .ok e') : InvR V e' := by
  have ht := ((addRetract_refines e vi.low vi.high why hi.tinv).1 e' h).2.2
  have hok : (checkCanonicalVersion ((absLive e.f).module.getD []) vi.high &&
      checkCanonicalVersion ((absLive e.f).module.getD []) vi.low) = true :=
    ((addRetract_refines e vi.low vi.high why hi.tinv).1 e' h).1
  rw [addRetract_eq] at h
  unfold addRetractP at h
  simp only [Bool.and_eq_true] at hok
  simp only [hok.1, hok.2, Bool.not_true, Bool.false_eq_true, if_false, Except.ok.injEq] at h
  subst h
  have hlive := checkCanonicalVersion_ne_nil hok.2
  -- the two token shapes
  have build : ∀ (verb t : Bytes) (rest : List Bytes) (rat : Bytes),
      (entRt { interval := vi, rationale := rat, lineId := e.next }).acc (verb :: t :: rest) [] →
      TreeWF ((addLine e.f.syn none (verb :: t :: rest) e.next).updateLine e.next fun l =>
          { l with comments := { l.comments with before := l.comments.before ++
            (if why.isEmpty then [] else (splitOn 10 why).map fun line => { token := B "// " ++ line }) } }).stmts (e.next + 1) ∧
      Match (entriesR V { e.f with
          retract := e.f.retract ++ [{ interval := vi, rationale := rat, lineId := e.next }],
          syn := (addLine e.f.syn none (verb :: t :: rest) e.next).updateLine e.next fun l =>
            { l with comments := { l.comments with before := l.comments.before ++
              (if why.isEmpty then [] else (splitOn 10 why).map fun line => { token := B "// " ++ line }) } } })
        (view ((addLine e.f.syn none (verb :: t :: rest) e.next).updateLine e.next fun l =>
          { l with comments := { l.comments with before := l.comments.before ++
            (if why.isEmpty then [] else (splitOn 10 why).map fun line => { token := B "// " ++ line }) } }).stmts) := by
    intro verb t rest rat hacc
    rcases addLine_spec e.f.syn none e.next verb t rest hi.tree.shape hi.view2 with ⟨p1, p2, p3⟩
    have hw1 := hi.tree.of_added hi.tinv.pos p2 p3
    refine ⟨hw1.updateLine e.next _ (fun _ => rfl) (fun _ => rfl), ?_⟩
    have hv := view_updateLine_suffix (addLine e.f.syn none (verb :: t :: rest) e.next) e.next
      (fun l => { l with comments := { l.comments with before := l.comments.before ++
        (if why.isEmpty then [] else (splitOn 10 why).map fun line => { token := B "// " ++ line }) } }) (fun s => s)
      hw1.nodup (fun _ => rfl) (fun _ => rfl) (fun _ => rfl)
    rw [hv]
    have hsame : ((view (addLine e.f.syn none (verb :: t :: rest) e.next).stmts).map fun v =>
        if v.id == e.next then { v with suffix := v.suffix } else v) = view (addLine e.f.syn none (verb :: t :: rest) e.next).stmts := by
      calc _ = (view (addLine e.f.syn none (verb :: t :: rest) e.next).stmts).map (fun v => v) := by
            apply List.map_congr_left; intro v _; split <;> rfl
        _ = _ := by simp
    rw [hsame]
    have := Match.appendSeg (·.lineId) liveRt entRt (fun _ => rfl)
      (x := ({ interval := vi, rationale := rat, lineId := e.next } : Retract))
      (by simp [liveRt, hlive]) (verb :: t :: rest) [] hacc
      (by rw [← entriesR_retract]; exact hi.mtch) (by rw [← entriesR_retract]; exact hi.fresh) p1
    rw [entriesR_retract]; exact this
  by_cases hlh : (vi.low == vi.high) = true
  · simp only [hlh, if_true]
    rcases build (B "retract") (autoQuote vi.low) [] _ (Or.inl ⟨_, rfl, Or.inr rfl, eq_of_beq hlh⟩) with ⟨h1, h2⟩
    simp only [hlh, if_true] at ht
    exact ⟨h1, h2, ht⟩
  · simp only [hlh, Bool.false_eq_true, if_false]
    rcases build (B "retract") [91] [autoQuote vi.low, [44], autoQuote vi.high, [93]] _
      (Or.inr ⟨_, _, rfl, Or.inr rfl, Or.inr rfl⟩) with ⟨h1, h2⟩
    simp only [hlh, Bool.false_eq_true, if_false] at ht
    exact ⟨h1, h2, ht⟩

theorem entsOf_filter_live {α : Type} (live : α → Bool) (mk : α → Ent) (l : List α) :
    entsOf live mk (l.filter live) = entsOf live mk l := by
  simp [entsOf, List.filter_filter]

/-- `K'` may be any kill list that agrees with `K` on the live entries of the list (the three kill lists of `removeDups` are nested) -/
theorem entsOf_filter_ids {α : Type} (live : α → Bool) (mk : α → Ent) (id : α → Nat) (hmk : ∀ x, (mk x).id = id x)
    (K K' : List Nat) (L : List α) (h : ∀ x ∈ L, live x = true → K'.contains (id x) = K.contains (id x)) :
    entsOf live mk (L.filter fun x => !K.contains (id x)) = (entsOf live mk L).filter fun en => !K'.contains en.id := by
  unfold entsOf
  rw [List.filter_map, List.filter_filter, List.filter_filter]
  congr 1
  apply List.filter_congr
  intro x hx
  simp only [Function.comp, hmk]
  by_cases hl : live x = true
  · rw [h x hx hl, hl]; simp
  · simp only [Bool.not_eq_true] at hl; simp [hl]

theorem cleanup_invR (e : EFile) (hi : InvR V e) : InvR V (cleanup e) := by
  rcases cleanupStmts_spec e.f.syn.stmts hi.tree.shape with ⟨c1, c2, c3⟩
  refine ⟨hi.tree.of_sublist c2 c3, ?_, (cleanup_abs e hi.tinv).2⟩
  show Match (entriesR V (cleanup e).f) (view (cleanupStmts e.f.syn.stmts))
  rw [c1]
  have : entriesR V (cleanup e).f = entriesR V e.f := by
    simp only [entriesR, cleanup]
    have h1 : entsOf liveG entG (e.f.godebug.filter fun x => !x.key.isEmpty) = entsOf liveG entG e.f.godebug :=
      entsOf_filter_live liveG entG e.f.godebug
    have h2 : entsOf liveRq V.rq (e.f.require.filter fun x => !x.mod.path.isEmpty) = entsOf liveRq V.rq e.f.require :=
      entsOf_filter_live liveRq V.rq e.f.require
    have h3 : entsOf liveX entX (e.f.exclude.filter fun x => !x.mod.path.isEmpty) = entsOf liveX entX e.f.exclude :=
      entsOf_filter_live liveX entX e.f.exclude
    have h4 : entsOf liveRp entRp (e.f.replace.filter fun x => !x.old.path.isEmpty) = entsOf liveRp entRp e.f.replace :=
      entsOf_filter_live liveRp entRp e.f.replace
    have h5 : entsOf liveRt entRt (e.f.retract.filter fun r => !r.interval.low.isEmpty || !r.interval.high.isEmpty)
        = entsOf liveRt entRt e.f.retract := entsOf_filter_live liveRt entRt e.f.retract
    have h6 : entsOf liveT entT (e.f.tool.filter fun x => !x.path.isEmpty) = entsOf liveT entT e.f.tool :=
      entsOf_filter_live liveT entT e.f.tool
    rw [h1, h2, h3, h4, h5, h6]
  rw [this]; exact hi.mtch

/-- the kill lists of `removeDups` -/
def kill1 (f : File) : List Nat := killLater (fun x : Exclude => x.mod) (·.lineId) f.exclude []
def kill2 (f : File) : List Nat := kill1 f ++ killEarlier f.replace
def kill3 (f : File) : List Nat := kill2 f ++ killLater (fun t : Tool => t.path) (·.lineId) f.tool []

/-- the go-version test of `SortBlocks` (`go ≥ 1.21`, as the code computes it) -/
def semOf (f : File) : Bool := EditSpec.useSemanticSortForExclude (f.go.map (·.version))

theorem sortBlocks_eq_sem (e : EFile) :
    sortBlocks e = { e with f := { e.f with
      exclude := e.f.exclude.filter (fun x => !(kill1 e.f).contains x.lineId),
      replace := e.f.replace.filter (fun x => !(kill2 e.f).contains x.lineId),
      tool := e.f.tool.filter (fun t => !(kill3 e.f).contains t.lineId),
      syn := { e.f.syn with stmts := sortStmts (semOf e.f) false (dropKilled (kill3 e.f) e.f.syn.stmts) } } } := by
  unfold sortBlocks Edit.removeDups semOf EditSpec.useSemanticSortForExclude
  cases e.f.go <;> rfl

theorem kill3_src (f : File) : ∀ i ∈ kill3 f,
    (∃ z ∈ f.exclude, z.lineId = i) ∨ (∃ z ∈ f.replace, z.lineId = i) ∨ (∃ z ∈ f.tool, z.lineId = i) := by
  intro i hi
  simp only [kill3, kill2, kill1, List.mem_append] at hi
  rcases hi with (h | h) | h
  · exact Or.inl (killLater_subset _ _ _ _ _ h)
  · exact Or.inr (Or.inl (killEarlier_subset _ _ h))
  · exact Or.inr (Or.inr (killLater_subset _ _ _ _ _ h))

theorem sortBlocks_invR (e : EFile) (hi : InvR V e) : InvR V (sortBlocks e) := by
  have ht := (sortBlocks_abs e hi.tinv).2
  have heq := sortBlocks_eq_sem e
  rw [heq] at ht ⊢
  rcases dropKilled_spec (kill3 e.f) e.f.syn.stmts hi.tree.shape with ⟨d1, d2, d3⟩
  rcases sortStmts_spec (semOf e.f) false _ d3 with ⟨s1, s2, s3⟩
  have hw2 := hi.tree.of_sublist d2 d3
  refine ⟨hw2.of_perm s2 s3, ?_, ht⟩
  refine Match.perm ?_ s1
  rw [d1]
  -- disjointness of the exclude / replace / tool ids
  rcases List.nodup_append.1 hi.tinv.nodup with ⟨_, ndRT, disX⟩
  rcases List.nodup_append.1 ndRT with ⟨_, _, disRT⟩
  have hm := hi.mtch
  -- an entry's id is not the nil id
  have hpos : ∀ en ∈ entriesR V e.f, en.id ≠ 0 := by
    intro en hen
    rcases hm.cover en hen with ⟨v, hv, hid, _⟩
    rw [← hid]; exact hi.tree.pos _ (view_id_mem_treeIds hv)
  -- ids in the kill list belong to exclude / replace / tool entries
  have hXk : ∀ x ∈ e.f.exclude, liveX x = true → (kill3 e.f).contains x.lineId = (kill1 e.f).contains x.lineId := by
    intro x hx hl
    have h1 : x.lineId ∉ killEarlier e.f.replace :=
      kill_disjoint hi.tinv.wfR hi.tinv.wfX (fun a ha b hb => (disX b hb a (List.mem_append_left _ ha)).symm)
        (fun i hi' => killEarlier_subset _ i hi') x hx hl
    have h2 : x.lineId ∉ killLater (fun t : Tool => t.path) (·.lineId) e.f.tool [] :=
      kill_disjoint hi.tinv.wfT hi.tinv.wfX (fun a ha b hb => (disX b hb a (List.mem_append_right _ ha)).symm)
        (fun i hi' => killLater_subset _ _ _ _ i hi') x hx hl
    simp only [kill3, kill2, List.contains_append]
    have e1 : (killEarlier e.f.replace).contains x.lineId = false := by simpa using h1
    have e2 : (killLater (fun t : Tool => t.path) (·.lineId) e.f.tool []).contains x.lineId = false := by simpa using h2
    rw [e1, e2]; simp
  have hRk : ∀ r ∈ e.f.replace, liveRp r = true → (kill3 e.f).contains r.lineId = (kill2 e.f).contains r.lineId := by
    intro r hr hl
    have h2 : r.lineId ∉ killLater (fun t : Tool => t.path) (·.lineId) e.f.tool [] :=
      kill_disjoint hi.tinv.wfT hi.tinv.wfR (fun a ha b hb => (disRT b hb a ha).symm)
        (fun i hi' => killLater_subset _ _ _ _ i hi') r hr hl
    simp only [kill3, List.contains_append]
    have e2 : (killLater (fun t : Tool => t.path) (·.lineId) e.f.tool []).contains r.lineId = false := by simpa using h2
    rw [e2]; simp
  -- entries outside the three lists are never killed
  have hother : ∀ en, (en ∈ segA_exclude V e.f ∨ en ∈ entsOf liveRt entRt e.f.retract) → (kill3 e.f).contains en.id = false := by
    intro en hen
    have henE : en ∈ entriesR V e.f := by
      rw [entriesR_exclude]
      rcases hen with h | h
      · exact List.mem_append_left _ h
      · exact List.mem_append_right _ (List.mem_append_right _ (by
          simp only [segC_exclude, List.mem_append]; exact Or.inr (Or.inl h)))
    cases hc : (kill3 e.f).contains en.id with
    | false => rfl
    | true =>
      exfalso
      have hmem : en.id ∈ kill3 e.f := by simpa using hc
      rcases kill3_src e.f _ hmem with ⟨z, hz, hzid⟩ | ⟨z, hz, hzid⟩ | ⟨z, hz, hzid⟩
      · have hlz : liveX z = true := by
          cases hl : liveX z with
          | true => rfl
          | false => exact absurd (hzid ▸ (hi.tinv.wfX z hz).2 hl) (hpos en henE)
        have := seg_disjoint (by rw [← entriesR_exclude]; exact hm) (en := en) (en' := entX z)
          (by rcases hen with h | h
              · exact Or.inl h
              · exact Or.inr (by simp only [segC_exclude, List.mem_append]; exact Or.inr (Or.inl h)))
          ((mem_entsOf liveX entX).2 ⟨z, hz, hlz, rfl⟩)
        exact this hzid.symm
      · have hlz : liveRp z = true := by
          cases hl : liveRp z with
          | true => rfl
          | false => exact absurd (hzid ▸ (hi.tinv.wfR z hz).2 hl) (hpos en henE)
        have := seg_disjoint (by rw [← entriesR_replace]; exact hm) (en := en) (en' := entRp z)
          (by rcases hen with h | h
              · exact Or.inl (by simp only [segA_replace, List.mem_append]; exact Or.inl h)
              · exact Or.inr (by simp only [segC_replace, List.mem_append]; exact Or.inl h))
          ((mem_entsOf liveRp entRp).2 ⟨z, hz, hlz, rfl⟩)
        exact this hzid.symm
      · have hlz : liveT z = true := by
          cases hl : liveT z with
          | true => rfl
          | false => exact absurd (hzid ▸ (hi.tinv.wfT z hz).2 hl) (hpos en henE)
        have := seg_disjoint (by rw [← entriesR_tool]; exact hm) (en := en) (en' := entT z)
          (by rcases hen with h | h
              · exact Or.inl (by simp only [segA_tool, segA_retract, segA_replace, List.mem_append]; exact Or.inl (Or.inl (Or.inl h)))
              · exact Or.inl (by simp only [segA_tool, List.mem_append]; exact Or.inr h))
          ((mem_entsOf liveT entT).2 ⟨z, hz, hlz, rfl⟩)
        exact this hzid.symm
  -- the entries after SortBlocks are the entries that were not killed
  have hent : entriesR V { e.f with
      exclude := e.f.exclude.filter (fun x => !(kill1 e.f).contains x.lineId),
      replace := e.f.replace.filter (fun x => !(kill2 e.f).contains x.lineId),
      tool := e.f.tool.filter (fun t => !(kill3 e.f).contains t.lineId),
      syn := { e.f.syn with stmts := sortStmts (semOf e.f) false (dropKilled (kill3 e.f) e.f.syn.stmts) } }
      = (entriesR V e.f).filter (fun en => !(kill3 e.f).contains en.id) := by
    rw [entriesR_exclude, entriesR_exclude]
    simp only [List.filter_append]
    have hA : (segA_exclude V e.f).filter (fun en => !(kill3 e.f).contains en.id) = segA_exclude V e.f := by
      apply List.filter_eq_self.2
      intro en hen; rw [hother en (Or.inl hen)]; rfl
    have hRt : (entsOf liveRt entRt e.f.retract).filter (fun en => !(kill3 e.f).contains en.id) = entsOf liveRt entRt e.f.retract := by
      apply List.filter_eq_self.2
      intro en hen; rw [hother en (Or.inr hen)]; rfl
    have hX := entsOf_filter_ids liveX entX (·.lineId) (fun _ => rfl) (kill1 e.f) (kill3 e.f) e.f.exclude hXk
    have hR := entsOf_filter_ids liveRp entRp (·.lineId) (fun _ => rfl) (kill2 e.f) (kill3 e.f) e.f.replace hRk
    have hT := entsOf_filter_ids liveT entT (·.lineId) (fun _ => rfl) (kill3 e.f) (kill3 e.f) e.f.tool fun _ _ _ => rfl
    simp only [segC_exclude, List.filter_append, hA, hRt, ← hX, ← hR, ← hT]
    rfl
  rw [hent]
  exact hm.filter (kill3 e.f)

theorem addTool_invR (e : EFile) (p : Bytes) (hp : p ≠ []) (hi : InvR V e) : InvR V (addTool e p) := by
  unfold addTool
  split
  · exact hi
  · apply sortBlocks_invR
    rcases addLine_spec e.f.syn none e.next (B "tool") p [] hi.tree.shape hi.view2 with ⟨p1, p2, p3⟩
    have hmid := addTool_tinv e p hp hi.tinv (addLine e.f.syn none [B "tool", p] e.next)
    refine ⟨hi.tree.of_added hi.tinv.pos p2 p3, ?_, hmid⟩
    have := Match.appendSeg (·.lineId) liveT entT (fun _ => rfl)
      (x := ({ path := p, lineId := e.next } : Tool))
      (ne_nil_live hp) [B "tool", p] [] ⟨p, rfl, Or.inl rfl⟩
      (by rw [← entriesR_tool]; exact hi.mtch) (by rw [← entriesR_tool]; exact hi.fresh) p1
    rw [entriesR_tool]; exact this

/-! ### read at `fullView`: the invariant `Inv` -/

theorem Inv.view2 {e : EFile} (h : Inv e) : View2 e.f.syn.stmts := h.r.view2

theorem entries_godebug (f : File) : entries f = segA_godebug f ++ (entsOf liveG entG f.godebug ++ segC_godebug fullView f) :=
  entriesR_godebug fullView f
theorem entries_require (f : File) : entries f = segA_require f ++ (entsOf liveRq entRq f.require ++ segC_require f) :=
  entriesR_require fullView f
theorem entries_exclude (f : File) : entries f = segA_exclude fullView f ++ (entsOf liveX entX f.exclude ++ segC_exclude f) :=
  entriesR_exclude fullView f
theorem entries_replace (f : File) : entries f = segA_replace fullView f ++ (entsOf liveRp entRp f.replace ++ segC_replace f) :=
  entriesR_replace fullView f
theorem entries_retract (f : File) : entries f = segA_retract fullView f ++ (entsOf liveRt entRt f.retract ++ segC_retract f) :=
  entriesR_retract fullView f
theorem entries_tool (f : File) : entries f = segA_tool fullView f ++ (entsOf liveT entT f.tool ++ []) :=
  entriesR_tool fullView f

theorem addNewRequire_inv (e : EFile) (p v : Bytes) (b : Bool) (hp : p ≠ []) (hi : Inv e) : Inv (addNewRequire e p v b) :=
  (addNewRequire_invR e p v b hp hi.r).full
theorem cleanup_inv (e : EFile) (hi : Inv e) : Inv (cleanup e) := (cleanup_invR e hi.r).full

end ModVerif.Modfile.Edit
