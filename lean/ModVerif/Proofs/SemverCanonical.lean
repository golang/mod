/- accessors and the canonical form, via the decomposition of `parse` -/
import ModVerif.Proofs.SemverOrder
namespace ModVerif.Semver
open ModVerif ModVerif.SemverSpec

theorem B_dot00 : B ".0.0" = [46, 48, 46, 48] := by decide +kernel
theorem B_dot0 : B ".0" = [46, 48] := by decide +kernel

theorem take_append_left' {α} (l1 l2 : List α) : (l1 ++ l2).take ((l1 ++ l2).length - l2.length) = l1 := by
  have : (l1 ++ l2).length - l2.length = l1.length := by simp
  rw [this]; simp

theorem canonical_spec {v : Bytes} {p : Parsed} (h : parse v = some p) :
    canonical v = 118 :: p.major ++ 46 :: p.minor ++ 46 :: p.patch ++ p.prerelease := by
  have hd := parse_decomp h
  unfold canonical
  rw [h]
  cases hd with
  | short1 maj nmaj => simp [B_dot00]
  | short2 maj min nmaj nmin => simp [B_dot0]
  | full maj min pat pre bld nmaj nmin npat hpre hbld =>
    simp only
    cases bld with
    | nil => simp
    | cons b bs =>
      simp only [List.isEmpty_cons, Bool.not_false, if_true]
      have := take_append_left' (118 :: maj ++ 46 :: min ++ 46 :: pat ++ pre) (b :: bs)
      simpa [List.append_assoc] using this

theorem canonical_parse {v : Bytes} {p : Parsed} (h : parse v = some p) :
    parse (canonical v) = some { major := p.major, minor := p.minor, patch := p.patch, prerelease := p.prerelease } := by
  rw [canonical_spec h]
  obtain ⟨nmaj, nmin, npat, hpre, _⟩ := decomp_fields (parse_decomp h)
  have := decomp_parse (Decomp.full p.major p.minor p.patch p.prerelease [] nmaj nmin npat hpre (Or.inl rfl))
  simpa using this

theorem canonical_invalid {v : Bytes} (h : parse v = none) : canonical v = [] := by
  unfold canonical; rw [h]

theorem canonical_valid_ne_nil {v : Bytes} {p : Parsed} (h : parse v = some p) : canonical v ≠ [] := by
  rw [canonical_spec h]; simp

theorem vkey_eq_iff_canonical (v w : Bytes) : vkey v = vkey w ↔ canonical v = canonical w := by
  unfold vkey
  cases hv : parse v with
  | none =>
    cases hw : parse w with
    | none => simp [canonical_invalid hv, canonical_invalid hw]
    | some q =>
      simp [canonical_invalid hv]
      exact fun e => canonical_valid_ne_nil hw e
  | some p =>
    cases hw : parse w with
    | none =>
      simp [canonical_invalid hw]
      exact canonical_valid_ne_nil hv
    | some q =>
      simp only [Option.map_some, Option.some.injEq]
      constructor
      · intro hk
        unfold pkey at hk
        simp only [Prod.mk.injEq] at hk
        obtain ⟨h1, h2, h3, h4⟩ := hk
        have hpre := preKey_inj (parse_preOK hv) (parse_preOK hw) h4
        rw [canonical_spec hv, canonical_spec hw, h1, h2, h3, hpre]
      · intro hc
        have e1 := canonical_parse hv
        have e2 := canonical_parse hw
        rw [hc] at e1
        rw [e1] at e2
        simp at e2
        unfold pkey
        rw [e2.1, e2.2.1, e2.2.2.1, e2.2.2.2]

/-- what `Major` / `MajorMinor` look at -/
theorem decomp_shape {v : Bytes} {p : Parsed} (h : Decomp v p) :
    (v = 118 :: p.major ∧ p.minor = [48]) ∨ ∃ t, v = (118 :: p.major) ++ 46 :: (p.minor ++ t) := by
  cases h with
  | short1 maj _ => exact .inl ⟨rfl, rfl⟩
  | short2 maj min _ _ => exact .inr ⟨[], by simp⟩
  | full maj min pat pre bld _ _ _ _ _ => exact .inr ⟨46 :: pat ++ pre ++ bld, by simp [List.append_assoc]⟩

theorem major_spec {v : Bytes} {p : Parsed} (h : parse v = some p) : major v = 118 :: p.major := by
  unfold major; rw [h]
  have e : 1 + p.major.length = (118 :: p.major).length := by simp; omega
  rcases decomp_shape (parse_decomp h) with ⟨rfl, -⟩ | ⟨t, rfl⟩
  · simp only; rw [e, List.take_length]
  · simp only; rw [e, List.take_left']; rfl

theorem prerelease_spec {v : Bytes} {p : Parsed} (h : parse v = some p) : prerelease v = p.prerelease := by
  unfold prerelease; rw [h]
theorem build_spec {v : Bytes} {p : Parsed} (h : parse v = some p) : build v = p.build := by
  unfold build; rw [h]

theorem majorMinor_spec {v : Bytes} {p : Parsed} (h : parse v = some p) :
    majorMinor v = 118 :: p.major ++ 46 :: p.minor := by
  unfold majorMinor; rw [h]
  have e1 : 1 + p.major.length = (118 :: p.major).length := by simp; omega
  rcases decomp_shape (parse_decomp h) with ⟨rfl, hm⟩ | ⟨t, rfl⟩
  · simp only
    rw [if_neg (by simp only [Bool.and_eq_true, decide_eq_true_eq]; intro hh; have := hh.1.1; simp at this; omega),
      e1, List.take_length, hm]
    simp
  · simp only
    have e2 : 1 + p.major.length + 1 + p.minor.length = ((118 :: p.major) ++ 46 :: p.minor).length := by simp; omega
    have sp : (118 :: p.major) ++ 46 :: (p.minor ++ t) = ((118 :: p.major) ++ 46 :: p.minor) ++ t := by simp
    have c1 : ((118 :: p.major) ++ 46 :: (p.minor ++ t))[1 + p.major.length]? = some 46 := by
      rw [e1, List.getElem?_append_right (Nat.le_refl _)]; simp
    have c2 : (((118 :: p.major) ++ 46 :: (p.minor ++ t)).take (1 + p.major.length + 1 + p.minor.length)).drop
        (1 + p.major.length + 1) = p.minor := by
      rw [sp, e2, List.take_left' rfl]
      have : 1 + p.major.length + 1 = ((118 :: p.major) ++ [46]).length := by simp; omega
      rw [this, show (118 :: p.major) ++ 46 :: p.minor = ((118 :: p.major) ++ [46]) ++ p.minor by simp, List.drop_left' rfl]
    rw [if_pos (by rw [c1, c2]; simp; omega), sp, e2, List.take_left' rfl]

end ModVerif.Semver
