/-
  Tie helpers for PseudoVersion / ZeroPseudoVersion / IsZeroPseudoVersion of module/pseudo.go.

  `time.Time` is the translator's abstract type `T`; `fmtTime t layout` stands for `t.UTC().Format(layout)`.
  The hand model takes the formatted stamp `ts` directly, so every statement carries the hypothesis
  `fmtTime t "20060102150405" = ts` (for ZeroPseudoVersion: the zero value `default : T` formats to the
  model's `zeroTimestamp`).
-/
import ModVerif.Generated.FnModule
import ModVerif.Model.Pseudo
import ModVerif.Proofs.GoRtLemmas
import ModVerif.Proofs.GoRtLemmasPseudo
import ModVerif.Proofs.TieFnPseudoDec
import ModVerif.Proofs.TieFnPseudoParse
import ModVerif.Tie.FnSemver
namespace ModVerif.TieFnPseudo
open ModVerif ModVerif.GoRt ModVerif.GoRtPseudo

/-- PseudoVersionTimestampFormat = "20060102150405" as the translator writes it -/
def layout : Bytes := [50, 48, 48, 54, 48, 49, 48, 50, 49, 53, 48, 52, 48, 53]

/-- a string result of the model in the generated code's monad; the only error the string-building
    functions of the model produce is `.panic` -/
def bytesOut : Except Pseudo.Err Bytes → M Bytes
  | .ok r => .ok r
  | .error _ => .error .panic

/-- PseudoVersion after the `major == ""` test (the translator's join function `k9`) -/
def pvRest {T : Type} (fmtTime : T → Bytes → Bytes) (fuel : Nat) (older : Bytes) (t : T) (rev : Bytes)
    (major : Bytes) : M Bytes := do
    let segment := ((fmtTime t ([50, 48, 48, 54, 48, 49, 48, 50, 49, 53, 48, 52, 48, 53] : Bytes)) ++ ([45] : Bytes) ++ rev)
    let t1 ← (ModVerif.Generated.Semver.Build fuel older)
    let build := t1
    let t2 ← (ModVerif.Generated.Semver.Canonical fuel older)
    let older := t2
    if (decide (older = ([] : Bytes))) then (pure ((major ++ ([46, 48, 46, 48, 45] : Bytes)) ++ segment)) else (do
      let t3 ← (ModVerif.Generated.Semver.Prerelease fuel older)
      if (!decide (t3 = ([] : Bytes))) then (pure (((older ++ ([46, 48, 46] : Bytes)) ++ segment) ++ build)) else (do
        let i := ((lastIndex older ([46] : Bytes)) + (1 : Int))
        let t4 ← sliceTo older i
        let a5 := t4
        let t6 ← sliceFrom older i
        let a7 := t6
        let v := a5
        let patch := a7
        let t8 ← (Generated.Module.incDecimal fuel patch)
        pure ((((v ++ t8) ++ ([45, 48, 46] : Bytes)) ++ segment) ++ build)))

theorem PseudoVersion_unfold {T : Type} [DecidableEq T] [Inhabited T] (fmtTime : T → Bytes → Bytes) (fuel : Nat)
    (major older : Bytes) (t : T) (rev : Bytes) :
    Generated.Module.PseudoVersion fmtTime fuel major older t rev =
      if (decide (major = ([] : Bytes))) then pvRest fmtTime fuel older t rev ([118, 48] : Bytes)
      else pvRest fmtTime fuel older t rev major := by
  unfold Generated.Module.PseudoVersion pvRest
  rfl

/-- the model's pseudoVersion after the `major == ""` test -/
def pvRestModel (older ts rev major : Bytes) : Except Pseudo.Err Bytes :=
  let segment := ts ++ [45] ++ rev
  let build := Semver.build older
  let older := Semver.canonical older
  if older.isEmpty then .ok (major ++ ([46, 48, 46, 48, 45] : Bytes) ++ segment)
  else if !(Semver.prerelease older).isEmpty then .ok (older ++ ([46, 48, 46] : Bytes) ++ segment ++ build)
  else
    let (v, patch) := match Pseudo.splitLast 46 older with
      | none => (([] : Bytes), older)
      | some (a, b) => (a ++ [46], b)
    match Pseudo.incDecimal patch with
    | none => .error .panic
    | some p => .ok (v ++ p ++ ([45, 48, 46] : Bytes) ++ segment ++ build)

theorem pseudoVersion_model_unfold (major older ts rev : Bytes) :
    Pseudo.pseudoVersion major older ts rev =
      pvRestModel older ts rev (if major.isEmpty then ([118, 48] : Bytes) else major) := rfl

theorem pvRest_ok {T : Type} (fmtTime : T → Bytes → Bytes) (t : T) (ts : Bytes)
    (hts : fmtTime t layout = ts) (older rev major : Bytes) (fuel : Nat) (hf : 2 * older.length + 8 ≤ fuel) :
    pvRest fmtTime fuel older t rev major = bytesOut (pvRestModel older ts rev major) := by
  unfold pvRest pvRestModel
  have hl : fmtTime t ([50, 48, 48, 54, 48, 49, 48, 50, 49, 53, 48, 52, 48, 53] : Bytes) = ts := hts
  have hcl := TieFnSemver.canonical_len older
  rw [hl, Tie.FnSemver.Build_tie older fuel (by omega), Tie.FnSemver.Canonical_tie older fuel (by omega)]
  simp only [bind_ok]
  generalize hc : Semver.canonical older = c at hcl
  by_cases hce : c = []
  · simp [hce, bytesOut]
  · have hce' : c.isEmpty = false := by simpa using hce
    simp only [hce, decide_false, Bool.false_eq_true, if_false, hce']
    rw [Tie.FnSemver.Prerelease_tie c fuel (by omega), bind_ok]
    by_cases hpe : Semver.prerelease c = []
    · simp only [hpe, decide_true, Bool.not_true, Bool.false_eq_true, if_false, List.isEmpty_nil]
      rcases last_cases 46 c with ⟨_, hi, hs⟩ | ⟨a, b, e, _, hi, hs, _, _⟩
      · -- no '.': i = 0, v = "", patch = older
        have h0 : ((-1 : Int) + 1) = 0 := by omega
        have hz : sliceTo c 0 = .ok [] := by
          have := sliceTo_natCast (v := c) (k := 0) (by omega)
          simpa using this
        simp only [hi, hs, h0, hz, sliceFrom_zero, bind_ok]
        rw [incDecimal_ok c fuel (by omega)]
        cases Pseudo.incDecimal c <;> simp [optM, bytesOut]
      · have hbl : b.length + 1 ≤ fuel := by
          have : b.length ≤ c.length := by rw [e]; simp; omega
          omega
        simp only [hi, hs]
        rw [e, sliceTo_split_succ, sliceFrom_split_succ]
        simp only [bind_ok]
        rw [incDecimal_ok b fuel hbl]
        cases Pseudo.incDecimal b <;> simp [optM, bytesOut]
    · have hpe' : (Semver.prerelease c).isEmpty = false := by simpa using hpe
      simp [hpe, hpe', bytesOut]

theorem PseudoVersion_ok {T : Type} [DecidableEq T] [Inhabited T] (fmtTime : T → Bytes → Bytes) (t : T) (ts : Bytes)
    (hts : fmtTime t layout = ts) (major older rev : Bytes) (fuel : Nat) (hf : 2 * older.length + 8 ≤ fuel) :
    Generated.Module.PseudoVersion fmtTime fuel major older t rev =
      bytesOut (Pseudo.pseudoVersion major older ts rev) := by
  rw [PseudoVersion_unfold, pseudoVersion_model_unfold]
  by_cases hm : major = []
  · subst hm
    simp only [decide_true, if_true, List.isEmpty_nil]
    exact pvRest_ok fmtTime t ts hts older rev _ fuel hf
  · have hm' : major.isEmpty = false := by simpa using hm
    simp only [hm, decide_false, Bool.false_eq_true, if_false, hm']
    exact pvRest_ok fmtTime t ts hts older rev _ fuel hf

/-! ### ZeroPseudoVersion: older = "", so no loop runs and any fuel will do -/

theorem pvRest_nil {T : Type} (fmtTime : T → Bytes → Bytes) (t : T) (ts : Bytes)
    (hts : fmtTime t layout = ts) (rev major : Bytes) (fuel : Nat) :
    pvRest fmtTime fuel [] t rev major = .ok (major ++ ([46, 48, 46, 48, 45] : Bytes) ++ (ts ++ [45] ++ rev)) := by
  unfold pvRest
  have hl : fmtTime t ([50, 48, 48, 54, 48, 49, 48, 50, 49, 53, 48, 52, 48, 53] : Bytes) = ts := hts
  rw [hl, Tie.FnSemver.Build_tie [] fuel (by simp), Tie.FnSemver.Canonical_tie [] fuel (by simp)]
  have hc : Semver.canonical [] = [] := rfl
  simp [hc]

theorem pvRestModel_nil (ts rev major : Bytes) :
    pvRestModel [] ts rev major = .ok (major ++ ([46, 48, 46, 48, 45] : Bytes) ++ (ts ++ [45] ++ rev)) := rfl

/-- the value of the model's zeroPseudoVersion (it never fails) -/
def zeroPV (major : Bytes) : Bytes :=
  (if major.isEmpty then ([118, 48] : Bytes) else major) ++ ([46, 48, 46, 48, 45] : Bytes) ++
    (Pseudo.zeroTimestamp ++ [45] ++ ([48, 48, 48, 48, 48, 48, 48, 48, 48, 48, 48, 48] : Bytes))

theorem zeroPseudoVersion_model (major : Bytes) : Pseudo.zeroPseudoVersion major = .ok (zeroPV major) := rfl

theorem ZeroPseudoVersion_ok {T : Type} [DecidableEq T] [Inhabited T] (fmtTime : T → Bytes → Bytes)
    (hz : fmtTime (default : T) layout = Pseudo.zeroTimestamp) (major : Bytes) (fuel : Nat) :
    Generated.Module.ZeroPseudoVersion fmtTime fuel major = .ok (zeroPV major) := by
  unfold Generated.Module.ZeroPseudoVersion
  rw [PseudoVersion_unfold]
  by_cases hm : major = []
  · subst hm
    simp only [decide_true, if_true]
    rw [pvRest_nil fmtTime default _ hz]; rfl
  · have hm' : major.isEmpty = false := by simpa using hm
    simp only [hm, decide_false, Bool.false_eq_true, if_false]
    rw [pvRest_nil fmtTime default _ hz]
    simp [zeroPV, hm']

theorem IsZeroPseudoVersion_ok {T : Type} [DecidableEq T] [Inhabited T] (fmtTime : T → Bytes → Bytes)
    (hz : fmtTime (default : T) layout = Pseudo.zeroTimestamp) (v : Bytes) (fuel : Nat) (hf : 2 * v.length ≤ fuel) :
    Generated.Module.IsZeroPseudoVersion fmtTime fuel v = .ok (Pseudo.isZeroPseudoVersion v) := by
  unfold Generated.Module.IsZeroPseudoVersion Pseudo.isZeroPseudoVersion
  rw [Tie.FnSemver.Major_tie v fuel hf, bind_ok, ZeroPseudoVersion_ok fmtTime hz, zeroPseudoVersion_model]
  simp only [bind_ok, pure_eq_ok]
  congr 1
  by_cases h : v = zeroPV (Semver.major v)
  · simp [← h]
  · have hb : (v == zeroPV (Semver.major v)) = false := by simpa using h
    simp [h, hb]

end ModVerif.TieFnPseudo
