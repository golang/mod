/-
  Closed fuel of the go.work session ties, the counterpart of Proofs/TieFnEditFuel{B,E,K,I}.lean: the potential `WW` of a
  go.work model state (tree weight, the three typed-list lengths, `|go version|`), the fuel demand `stepFuelW` of one
  operation linear in it, the growth of the potential operation by operation (allowance `GR op = 20 · rawSize op + 32`:
  `autoQuote_length` pays for the quoted directory of `AddUse`), the bulk setter `WorkFile.SetUse` (the directories still to
  be added are a sub-multiset of the requested ones, `needW`), the sessions (`WW` with `GR` is a `Potential`), and the
  potential of the loaded file from the byte length of the file text.  The tree primitives are those of
  Proofs/TieFnEditFuelA.lean, the shared operations (`addGodebugCore`, `addReplaceCore`, `dropReplaceCore`) those of
  Proofs/TieFnEditFuelB.lean, the statement loop that of Proofs/TieFnEditFuelI.lean.

  Namespaces `FnEditFuelM` (operations), `FnEditFuelN` (SetUse, sessions), `FnEditFuelO` (the loaded file).
-/
import ModVerif.Proofs.TieFnEditFuelF
import ModVerif.Proofs.TieFnEditFuelI
import ModVerif.Proofs.TieFnEditSessionW
namespace ModVerif.Tie.FnEditFuelM
open ModVerif ModVerif.Modfile ModVerif.Tie.FnEditFuelA ModVerif.Tie.FnEditFuelB ModVerif.Tie.FnEditFuelC
open ModVerif.Tie.FnEditFuelF
open ModVerif.Tie.FnEditSessionA ModVerif.Tie.FnEditSessionB ModVerif.Tie.FnEditSessionW
open ModVerif.TieFnEditAddLine (nodeCount)
open ModVerif.Tie.FnEditSortB (nodes)
open ModVerif.Tie.FnEditSortC (workDupsSize)
open ModVerif.Tie.FnEditSortE (sortSize workSortFuel)
open ModVerif.Tie.FnEditSortG (workCleanSize)
open ModVerif.Modfile.Edit (EWork EditErr applyWork treeIds firstRest clearAll insertAt mkLine except_bind_ok)

def goLenW (e : EWork) : Nat := match e.f.go with | some g => g.version.length | none => 0

/-- the potential of a go.work model state, the counterpart of `FnEditFuelB.W` -/
def WW (e : EWork) : Nat :=
  treeW e.f.syn.stmts + e.f.godebug.length + e.f.use.length + e.f.replace.length + goLenW e

/-- the growth allowance of one operation, from the raw byte lengths of its arguments -/
def GR (op : EditSpec.Op) : Nat := 20 * rawSize op + 32

def NotSetUse : EditSpec.Op → Prop
  | .setUse _ => False
  | _ => True

theorem length_le_treeW : ∀ ss : List Expr, ss.length ≤ treeW ss
  | [] => Nat.le_refl _
  | s :: ss => by
    have := length_le_treeW ss; have := exprW_pos s
    simp only [List.length_cons, treeW_cons]; omega

theorem workSortFuel_le (e : EWork) : workSortFuel e ≤ 3 * WW e + 1 := by
  have h1 := nodes_le_treeW e.f.syn.stmts
  have h2 := sortSize_le_treeW e.f.syn.stmts
  unfold workSortFuel workDupsSize WW
  omega

theorem cleanupFuelW_le (e : EWork) : stepFuelW e .cleanup ≤ WW e + 1 := by
  have h1 := nodes_le_treeW e.f.syn.stmts
  simp only [stepFuelW, workCleanSize]
  unfold WW
  omega

theorem stepFuelW_le (e : EWork) (op : EditSpec.Op) (hb : NotSetUse op) : stepFuelW e op ≤ 3 * (WW e + GR op) := by
  have hn := nodeCount_le_treeW e.f.syn.stmts
  have hl := length_le_treeW e.f.syn.stmts
  have hw : treeW e.f.syn.stmts + e.f.godebug.length + e.f.use.length + e.f.replace.length ≤ WW e := by unfold WW; omega
  cases op <;> simp only [stepFuelW, GR, rawSize, Nat.max_le] <;> try omega
  case setUse w => exact hb.elim
  case sortBlocks => have := workSortFuel_le e; omega
  case cleanup => have := cleanupFuelW_le e; simp only [stepFuelW, Nat.max_le] at this; omega

theorem workAddGoStmt_WW (e e' : EWork) (v : Bytes) (hn : (treeIds e.f.syn.stmts).Nodup) (h : Edit.workAddGoStmt e v = .ok e') :
    WW e' ≤ WW e + 4 * v.length + 32 := by
  unfold Edit.workAddGoStmt at h
  split at h
  · cases h
  · cases hg : e.f.go with
    | none =>
      simp only [hg, Except.ok.injEq] at h
      subst h
      have h1 := insertAt_treeW e.f.syn.stmts (Edit.firstNonComment e.f.syn.stmts 0) (.line (mkLine e.next [B "go", v] false))
      simp only [exprW, lineW_mkLine] at h1
      rw [tokW2, len_go] at h1
      simp only [WW, goLenW, hg] at *
      omega
    | some g =>
      simp only [hg, Except.ok.injEq] at h
      subst h
      have h1 := editUpdateLine_treeW e.f.syn g.lineId [B "go", v] hn
      rw [tokW2, len_go] at h1
      simp only [WW, goLenW, hg] at *
      omega

theorem workDropGoStmt_WW (e : EWork) : WW (Edit.workDropGoStmt e) ≤ WW e := by
  unfold Edit.workDropGoStmt
  cases hg : e.f.go with
  | none => exact Nat.le_refl _
  | some g =>
    have h1 := markRemoved_treeW e.f.syn g.lineId
    simp only [WW, goLenW, hg] at *
    omega

theorem workAddToolchainStmt_WW (e e' : EWork) (n : Bytes) (hn : (treeIds e.f.syn.stmts).Nodup)
    (h : Edit.workAddToolchainStmt e n = .ok e') : WW e' ≤ WW e + 4 * n.length + 32 := by
  unfold Edit.workAddToolchainStmt at h
  split at h
  · cases h
  · cases hg : e.f.toolchain with
    | none =>
      simp only [hg, Except.ok.injEq] at h
      subst h
      have key : ∀ i : Nat, WW ({ f := { e.f with toolchain := some { name := n, lineId := e.next }, syn := { e.f.syn with stmts := insertAt e.f.syn.stmts i (.line (mkLine e.next [B "toolchain", n] false)) } }, next := e.next + 1 } : EWork) ≤ WW e + 4 * n.length + 32 := by
        intro i
        have h1 := insertAt_treeW e.f.syn.stmts i (.line (mkLine e.next [B "toolchain", n] false))
        simp only [exprW, lineW_mkLine] at h1
        rw [tokW2, len_toolchain] at h1
        simp only [WW, goLenW] at *
        omega
      exact key _
    | some t =>
      simp only [hg, Except.ok.injEq] at h
      subst h
      have h1 := editUpdateLine_treeW e.f.syn t.lineId [B "toolchain", n] hn
      rw [tokW2, len_toolchain] at h1
      simp only [WW, goLenW] at *
      omega

theorem workDropToolchainStmt_WW (e : EWork) : WW (Edit.workDropToolchainStmt e) ≤ WW e := by
  unfold Edit.workDropToolchainStmt
  cases hg : e.f.toolchain with
  | none => exact Nat.le_refl _
  | some g =>
    have h1 := markRemoved_treeW e.f.syn g.lineId
    simp only [WW, goLenW] at *
    omega

theorem workAddGodebug_WW (e e' : EWork) (k v : Bytes) (hn : (treeIds e.f.syn.stmts).Nodup) (h : Edit.workAddGodebug e k v = .ok e') :
    WW e' ≤ WW e + 4 * (k.length + v.length) + 32 := by
  obtain ⟨⟨syn, gd, next⟩, h1, h2⟩ := except_bind_ok h
  cases h2
  have := addGodebugCore_W hn h1
  simp only [WW, goLenW]
  omega

theorem workDropGodebug_WW (e e' : EWork) (k : Bytes) (h : Edit.workDropGodebug e k = .ok e') : WW e' ≤ WW e := by
  obtain ⟨l', dead, hl, hk⟩ := clearAll_bind h
  cases hk
  have := markAll_treeW dead e.f.syn
  simp only [WW, goLenW, hl]
  omega

theorem len_use : (B "use").length = 3 := by decide +kernel

theorem addNewUse_WW (e : EWork) (d m : Bytes) : WW (Edit.addNewUse e d m) ≤ WW e + 8 * d.length + 20 := by
  have h1 := addLine_treeW e.f.syn none [B "use", autoQuote d] e.next
  have h2 := autoQuote_length d
  rw [tokW2, len_use] at h1
  simp only [Edit.addNewUse, WW, goLenW, List.length_append, List.length_cons, List.length_nil] at *
  omega

theorem addUse_WW (e e' : EWork) (d m : Bytes) (hn : (treeIds e.f.syn.stmts).Nodup) (h : Edit.addUse e d m = .ok e') :
    WW e' ≤ WW e + 8 * d.length + 20 := by
  obtain ⟨l', first, dead, hl, hk⟩ := firstRest_bind h
  cases first with
  | some i =>
    cases hk
    have h1 := markAll_updateLine_treeW e.f.syn i [B "use", autoQuote d] dead hn
    have h3 := autoQuote_length d
    rw [tokW2, len_use] at h1
    simp only [WW, goLenW, hl] at *
    omega
  | none =>
    cases hk
    exact addNewUse_WW e d m

theorem dropUse_WW (e e' : EWork) (p : Bytes) (h : Edit.dropUse e p = .ok e') : WW e' ≤ WW e := by
  obtain ⟨l', dead, hl, hk⟩ := clearAll_bind h
  cases hk
  have := markAll_treeW dead e.f.syn
  simp only [WW, goLenW, hl]
  omega

theorem workDropReplace_WW (e e' : EWork) (a b : Bytes) (h : Edit.workDropReplace e a b = .ok e') : WW e' ≤ WW e := by
  obtain ⟨⟨syn, rp⟩, h1, h2⟩ := except_bind_ok h
  cases h2
  obtain ⟨ht, hl⟩ := dropReplaceCore_W h1
  simp only [WW, goLenW, hl]
  omega

theorem workAddReplace_WW (e e' : EWork) (a b c d : Bytes) (hn : (treeIds e.f.syn.stmts).Nodup)
    (h : Edit.workAddReplace e a b c d = .ok e') :
    WW e' ≤ WW e + 8 * a.length + 2 * b.length + 8 * c.length + 2 * d.length + 40 := by
  obtain ⟨⟨syn, rp, next⟩, h1, h2⟩ := except_bind_ok h
  cases h2
  have := addReplaceCore_W hn h1
  have q1 := autoQuote_length a
  have q2 := autoQuote_length c
  simp only [WW, goLenW]
  omega

theorem workSortBlocks_WW (e : EWork) : WW (Edit.workSortBlocks e) ≤ WW e := by
  simp only [Edit.workSortBlocks, Edit.removeDups, Option.map_none, WW, goLenW, sortStmts_treeW]
  have h1 := dropKilled_treeW ([] ++ Edit.killEarlier e.f.replace) e.f.syn.stmts
  have h3 := List.length_filter_le (fun x : Replace => !([] ++ Edit.killEarlier e.f.replace).contains x.lineId) e.f.replace
  omega

theorem workCleanup_WW (e : EWork) : WW (Edit.workCleanup e) ≤ WW e := by
  simp only [Edit.workCleanup, Edit.cleanupSyntax, WW, goLenW]
  have h1 := cleanupStmts_treeW e.f.syn.stmts
  have h2 := List.length_filter_le (fun g : Godebug => !g.key.isEmpty) e.f.godebug
  have h3 := List.length_filter_le (fun u : Use => !u.path.isEmpty) e.f.use
  have h5 := List.length_filter_le (fun r : Replace => !r.old.path.isEmpty) e.f.replace
  omega

theorem applyWork_WW (e e' : EWork) (op : EditSpec.Op) (hb : NotSetUse op) (hn : (treeIds e.f.syn.stmts).Nodup)
    (h : applyWork e (opM op) = some (.ok e')) : WW e' ≤ WW e + GR op := by
  have keep : ∀ {x : EWork}, some (Except.ok x : Except EditErr EWork) = some (.ok e') → WW x ≤ WW e → WW e' ≤ WW e + GR op :=
    fun hx hw => Except.ok.inj (Option.some.inj hx) ▸ Nat.le_trans hw (Nat.le_add_right _ _)
  have keep' : ∀ {x : Except EditErr EWork}, some x = some (.ok e') → (x = .ok e' → WW e' ≤ WW e) → WW e' ≤ WW e + GR op :=
    fun hx hw => Nat.le_trans (hw (Option.some.inj hx)) (Nat.le_add_right _ _)
  cases op <;> try (cases h; done)
  case addGo v => have := workAddGoStmt_WW e e' v hn (Option.some.inj h); simp only [GR, rawSize]; omega
  case dropGo => exact keep h (workDropGoStmt_WW e)
  case addToolchain n => have := workAddToolchainStmt_WW e e' n hn (Option.some.inj h); simp only [GR, rawSize]; omega
  case dropToolchain => exact keep h (workDropToolchainStmt_WW e)
  case addGodebug k v => have := workAddGodebug_WW e e' k v hn (Option.some.inj h); simp only [GR, rawSize]; omega
  case dropGodebug k => exact keep' h (workDropGodebug_WW e e' k)
  case addReplace a b c d => have := workAddReplace_WW e e' a b c d hn (Option.some.inj h); simp only [GR, rawSize]; omega
  case dropReplace a b => exact keep' h (workDropReplace_WW e e' a b)
  case sortBlocks => exact keep h (workSortBlocks_WW e)
  case cleanup => exact keep h (workCleanup_WW e)
  case addUse d m => have := addUse_WW e e' d m hn (Option.some.inj h); simp only [GR, rawSize]; omega
  case addNewUse d m =>
    have := addNewUse_WW e d m
    rw [← Except.ok.inj (Option.some.inj h)]
    simp only [GR, rawSize]; omega
  case dropUse d => exact keep' h (dropUse_WW e e' d)
  case setUse w => exact hb.elim

theorem opsR_cons (op : EditSpec.Op) (ops : List EditSpec.Op) : opsR (op :: ops) = GR op + opsR ops := by
  simp [opsR, GR]

end ModVerif.Tie.FnEditFuelM

namespace ModVerif.Tie.FnEditFuelN
open ModVerif ModVerif.Modfile ModVerif.Tie.FnEditFuelA ModVerif.Tie.FnEditFuelB ModVerif.Tie.FnEditFuelC
open ModVerif.Tie.FnEditFuelF ModVerif.Tie.FnEditFuelM
open ModVerif.Tie.FnEditSessionA ModVerif.Tie.FnEditSessionB ModVerif.Tie.FnEditSessionW
open ModVerif.TieFnEditAddLine (nodeCount)
open ModVerif.Tie.FnEditSortE (workSortFuel)
open ModVerif.Tie.FnEditWorkE (setUsePre setUse_eq)
open ModVerif.Modfile.Edit (EWork EditErr applyWork treeIds)

/-- what the directories still to be added will cost: `addNewUse_WW` per directory -/
def needW (l : List (Bytes × Bytes)) : Nat := (l.map fun w => 8 * w.1.length + 20).sum

@[simp] theorem needW_nil : needW [] = 0 := rfl
@[simp] theorem needW_cons (w : Bytes × Bytes) (l : List (Bytes × Bytes)) : needW (w :: l) = 8 * w.1.length + 20 + needW l := by
  simp [needW]
@[simp] theorem needW_append (a b : List (Bytes × Bytes)) : needW (a ++ b) = needW a + needW b := by
  simp [needW]

theorem needW_filter_le (q : Bytes × Bytes → Bool) : ∀ l : List (Bytes × Bytes), needW (l.filter q) ≤ needW l
  | [] => Nat.le_refl _
  | w :: l => by
    have := needW_filter_le q l
    simp only [List.filter_cons]
    split <;> simp only [needW_cons] <;> omega

theorem needW_replace (w : Bytes × Bytes) : ∀ acc : List (Bytes × Bytes),
    needW (acc.map fun a => if a.1 == w.1 then w else a) = needW acc
  | [] => rfl
  | a :: acc => by
    have ih := needW_replace w acc
    simp only [List.map_cons, needW_cons, ih]
    split
    · rename_i hq
      have : a.1 = w.1 := eq_of_beq hq
      rw [this]
    · rfl

theorem useNeedMap_needW : ∀ (ws acc : List (Bytes × Bytes)), needW (Edit.useNeedMap ws acc) ≤ needW acc + needW ws
  | [], acc => by simp [Edit.useNeedMap]
  | w :: ws, acc => by
    unfold Edit.useNeedMap
    split
    · have ih := useNeedMap_needW ws (acc.map fun a => if a.1 == w.1 then w else a)
      rw [needW_replace] at ih
      simp only [needW_cons]; omega
    · have ih := useNeedMap_needW ws (acc ++ [w])
      simp only [needW_append, needW_cons, needW_nil] at ih ⊢; omega

theorem setUseLoop_WW : ∀ (ds : List Use) (need : List (Bytes × Bytes)) (syn : FileSyntax) (r : List Use)
    (need' : List (Bytes × Bytes)) (syn' : FileSyntax), Edit.setUseLoop ds need syn = .ok (r, need', syn') →
    r.length = ds.length ∧ treeW syn'.stmts ≤ treeW syn.stmts ∧ needW need' ≤ needW need
  | [], need, syn, r, need', syn', h => by
    simp only [Edit.setUseLoop, Except.ok.injEq, Prod.mk.injEq] at h
    obtain ⟨rfl, rfl, rfl⟩ := h
    exact ⟨rfl, Nat.le_refl _, Nat.le_refl _⟩
  | d :: ds, need, syn, r, need', syn', h => by
    unfold Edit.setUseLoop at h
    split at h
    · simp only [bind, Except.bind] at h
      cases hr : Edit.setUseLoop ds (need.filter (·.1 != d.path)) syn with
      | error er => rw [hr] at h; cases h
      | ok t =>
        obtain ⟨a, b, c⟩ := t
        rw [hr] at h
        simp only [pure, Except.pure, Except.ok.injEq, Prod.mk.injEq] at h
        obtain ⟨rfl, rfl, rfl⟩ := h
        have ih := setUseLoop_WW ds _ syn a b c hr
        have := needW_filter_le (·.1 != d.path) need
        exact ⟨by simp [ih.1], ih.2.1, by omega⟩
    · simp only [bind, Except.bind] at h
      cases hd : Edit.deref d.lineId with
      | error er => rw [hd] at h; cases h
      | ok i =>
        rw [hd] at h
        simp only [] at h
        cases hr : Edit.setUseLoop ds need (Edit.markRemoved syn i) with
        | error er => rw [hr] at h; cases h
        | ok t =>
          obtain ⟨a, b, c⟩ := t
          rw [hr] at h
          simp only [pure, Except.pure, Except.ok.injEq, Prod.mk.injEq] at h
          obtain ⟨rfl, rfl, rfl⟩ := h
          have ih := setUseLoop_WW ds need _ a b c hr
          have := markRemoved_treeW syn i
          exact ⟨by simp [ih.1], by omega, ih.2.2⟩

theorem foldl_addNewUse_WW : ∀ (need : List (Bytes × Bytes)) (e : EWork),
    WW (need.foldl (fun e w => Edit.addNewUse e w.1 w.2) e) ≤ WW e + needW need
  | [], e => by simp
  | w :: need, e => by
    have h1 := addNewUse_WW e w.1 w.2
    have h2 := foldl_addNewUse_WW need (Edit.addNewUse e w.1 w.2)
    simp only [List.foldl_cons, needW_cons]; omega

theorem setUsePre_WW (e e2 : EWork) (ws : List (Bytes × Bytes)) (h : setUsePre e ws = .ok e2) : WW e2 ≤ WW e + needW ws := by
  unfold setUsePre at h
  simp only [bind, Except.bind] at h
  cases hr : Edit.setUseLoop e.f.use (Edit.useNeedMap ws []) e.f.syn with
  | error er => rw [hr] at h; cases h
  | ok t =>
    obtain ⟨us, need, syn⟩ := t
    rw [hr] at h
    simp only [pure, Except.pure, Except.ok.injEq] at h
    subst h
    obtain ⟨l1, l2, l3⟩ := setUseLoop_WW _ _ _ _ _ _ hr
    have l4 := useNeedMap_needW ws []
    simp only [needW_nil] at l4
    have l6 : ∀ (us : List Use) (syn : FileSyntax), us.length = e.f.use.length → treeW syn.stmts ≤ treeW e.f.syn.stmts →
        WW ({ e with f := { e.f with use := us, syn := syn } } : EWork) ≤ WW e := by
      intro us syn a b
      simp only [WW, goLenW]; omega
    exact Nat.le_trans (foldl_addNewUse_WW need _) (Nat.add_le_add (l6 us syn l1 l2) (by omega))

theorem needW_le_raw : ∀ ws : List (Bytes × Bytes), needW ws ≤ 20 * (ws.map fun x => x.1.length + x.2.length + 1).sum
  | [] => by simp
  | w :: ws => by have := needW_le_raw ws; simp only [needW_cons, List.map_cons, List.sum_cons]; omega

theorem length_le_raw : ∀ ws : List (Bytes × Bytes), ws.length ≤ (ws.map fun x => x.1.length + x.2.length + 1).sum
  | [] => by simp
  | w :: ws => by have := length_le_raw ws; simp only [List.length_cons, List.map_cons, List.sum_cons]; omega

theorem maxLen_le_raw : ∀ ws : List (Bytes × Bytes), maxLen ws ≤ (ws.map fun x => x.1.length + x.2.length + 1).sum
  | [] => by simp [maxLen]
  | w :: ws => by have := maxLen_le_raw ws; simp only [maxLen, List.map_cons, List.sum_cons]; omega

theorem setUse_stepFuelW_le (e : EWork) (ws : List (Bytes × Bytes)) : stepFuelW e (.setUse ws) ≤ 3 * (WW e + GR (.setUse ws)) := by
  have hn := nodeCount_le_treeW e.f.syn.stmts
  have h1 := needW_le_raw ws
  have h2 := length_le_raw ws
  have h3 := maxLen_le_raw ws
  have h6 : nodeCount e.f.syn.stmts + e.f.use.length ≤ WW e := by unfold WW; omega
  simp only [stepFuelW, GR, rawSize, Nat.max_le]
  cases hp : setUsePre e ws with
  | error er => simp only []; omega
  | ok e2 =>
    have h4 := setUsePre_WW e e2 ws hp
    have h5 := workSortFuel_le e2
    simp only []
    omega

theorem permOf_false : (Edit.permOf false : List (Bytes × Bytes) → List (Bytes × Bytes)) = fun l => l := by
  funext l; simp [Edit.permOf]

theorem setUse_WW (e e' : EWork) (ws : List (Bytes × Bytes)) (h : applyWork e (opM (.setUse ws)) = some (.ok e')) :
    WW e' ≤ WW e + GR (.setUse ws) := by
  simp only [opM, opR, applyWork, Option.some.injEq] at h
  rw [permOf_false, setUse_eq] at h
  cases hp : setUsePre e ws with
  | error er => rw [hp] at h; cases h
  | ok e2 =>
    rw [hp] at h
    simp only [Except.map, Except.ok.injEq] at h
    subst h
    have := setUsePre_WW e e2 ws hp
    have := workSortBlocks_WW e2
    have := needW_le_raw ws
    simp only [GR, rawSize]; omega

theorem stepFuelW_le_all (e : EWork) (op : EditSpec.Op) : stepFuelW e op ≤ 3 * (WW e + GR op) := by
  cases op
  case setUse ws => exact setUse_stepFuelW_le e ws
  all_goals exact stepFuelW_le e _ trivial

theorem applyWork_WW_all (e e' : EWork) (op : EditSpec.Op) (hn : (treeIds e.f.syn.stmts).Nodup)
    (h : applyWork e (opM op) = some (.ok e')) : WW e' ≤ WW e + GR op := by
  cases op
  case setUse ws => exact setUse_WW e e' ws h
  all_goals exact applyWork_WW e e' _ trivial hn h

theorem potentialW : Potential applyWork Edit.InvW (fun e op => Edit.ValidArgsWAll e (opM op)) WW GR :=
  fun e op e' hi hv hx => ⟨Edit.applyWork_inv_all e e' _ hv hi hx, applyWork_WW_all e e' op hi.tree.nodup hx⟩

theorem runW_WW_all (ops : List EditSpec.Op) (e : EWork) (acc : List Bool) (i : Nat) (e' : EWork) (res : List Bool)
    (hi : Edit.InvW e) (hv : Edit.RunValidW e (ops.map opM))
    (h : Edit.runOps applyWork e (ops.map opM) acc i = .done e' res) : WW e' ≤ WW e + opsR ops :=
  (potentialW.done ops e acc i e' res hi ((runValidW_iff ops e).1 hv) h).2

theorem fuelOKW_of_WW_all (fuel : Nat) (ops : List EditSpec.Op) (e : EWork) (hi : Edit.InvW e)
    (hv : Edit.RunValidW e (ops.map opM)) (hf : 3 * (WW e + opsR ops) ≤ fuel) : FuelOKW fuel e ops :=
  (fuelOKW_iff fuel ops e).2 <|
    potentialW.along (fun _ => True) stepFuelW 3 0 (fun e op _ _ _ => stepFuelW_le_all e op) fuel ops e hi
      ((runValidW_iff ops e).1 hv) (fun _ _ => trivial) hf

theorem finalFuelW_of_WW_all (fuel : Nat) (ops : List EditSpec.Op) (e : EWork) (hi : Edit.InvW e)
    (hv : Edit.RunValidW e (ops.map opM)) (hf : WW e + opsR ops + 1 ≤ fuel) : FinalFuelW fuel e ops := by
  intro e' res hx
  have h1 := runW_WW_all ops e [] 0 e' res hi hv hx
  have h2 := cleanupFuelW_le e'
  omega

theorem _root_.ModVerif.Tie.FnEditFuelM.fuelOKW_of_WW (fuel : Nat) : ∀ (ops : List EditSpec.Op) (e : EWork), Edit.InvW e → Edit.RunValidW e (ops.map opM) →
    (∀ op ∈ ops, NotSetUse op) → 3 * (WW e + opsR ops) ≤ fuel → FuelOKW fuel e ops :=
  fun ops e hi hv _ hf => fuelOKW_of_WW_all fuel ops e hi hv hf

set_option linter.unusedVariables false in
theorem _root_.ModVerif.Tie.FnEditFuelM.finalFuelW_of_WW (fuel : Nat) (ops : List EditSpec.Op) (e : EWork) (hi : Edit.InvW e)
    (hv : Edit.RunValidW e (ops.map opM)) (hb : ∀ op ∈ ops, NotSetUse op) (hf : WW e + opsR ops + 1 ≤ fuel) :
    FinalFuelW fuel e ops := finalFuelW_of_WW_all fuel ops e hi hv hf

end ModVerif.Tie.FnEditFuelN

namespace ModVerif.Tie.FnEditFuelO
open ModVerif ModVerif.Modfile ModVerif.Tie.FnEditFuelA ModVerif.Tie.FnEditFuelB ModVerif.Tie.FnEditFuelI ModVerif.Tie.FnEditFuelJ
open ModVerif.Tie.FnEditFuelM

/-- the typed part of the potential `WW` -/
def workP (f : WorkFile) : Nat :=
  f.godebug.length + f.use.length + f.replace.length + (match f.go with | some g => g.version.length | none => 0)

theorem workAdd_growth (st : WorkState) (line : Line) (verb : Bytes) (args : List Bytes) {fix : Option Fixer} (hfix : PlainFix fix) :
    tokW (WorkFile.add st line verb args fix).2 ≤ 16 * tokW args + 80 ∧
      workP (WorkFile.add st line verb args fix).1.file ≤ workP st.file + 4 * tokW args + 1 := by
  unfold WorkFile.add
  simp only
  -- verb by verb: go, toolchain, godebug, use (`parseString_tok`), replace (`parseReplace_tok`); an error keeps arguments and file
  split
  · split
    · simp only [WorkState.err]; omega
    · rename_i hg
      have hn : st.file.go = none := by cases h : st.file.go <;> simp_all
      split
      · split
        · simp only [WorkState.err]; omega
        · simp only [workP, hn, tokW_cons, tokW_nil]; omega
      · simp only [WorkState.err]; omega
  · split
    · split
      · simp only [WorkState.err]; omega
      · split
        · split
          · simp only [WorkState.err]; omega
          · simp only [workP]; omega
        · simp only [WorkState.err]; omega
    · split
      · split
        · simp only [WorkState.err]; omega
        · simp only [workP, List.length_append, List.length_cons, List.length_nil]; omega
      · split
        · split
          · split
            · simp only [WorkState.err]; omega
            · rename_i a s a' hs
              have := parseString_tok hs
              simp only [workP, List.length_append, List.length_cons, List.length_nil, tokW_cons, tokW_nil]; omega
          · simp only [WorkState.err]; omega
        · split
          · have ht := parseReplace_tok hfix line.id args
            split
            · rename_i args' e he
              rw [he] at ht
              simp only [] at ht
              simp only [WorkState.err]; omega
            · rename_i args' r he
              rw [he] at ht
              simp only [] at ht
              simp only [workP, List.length_append, List.length_cons, List.length_nil]; omega
          · simp only [WorkState.err]; omega

theorem workStmts_growth {fix : Option Fixer} (hfix : PlainFix fix) (xs : List Expr) (st : WorkState) :
    treeW (workStmts fix st xs).2 + workP (workStmts fix st xs).1.file ≤ workP st.file + 102 * treeW xs := by
  rw [Edit.workStmts_eq_walk]
  exact walkStmts_growth (fun st : WorkState => workP st.file) (fun st _ l verb args => WorkFile.add st l verb args fix)
    (verbIn · workBlockVerbs) (fun st p => st.err p .unknownBlock)
    (fun st _ l verb args => workAdd_growth st l verb args hfix) (fun _ _ => rfl) xs st

theorem parseWork_growth {name data : Bytes} {f : WorkFile} (h : parseWork name data none = .ok f) :
    ∃ fs, parse name data = .ok fs ∧ treeW f.syn.stmts + workP f ≤ 102 * treeW fs.stmts := by
  unfold parseWork at h
  cases hp : parse name data with
  | error e => simp [hp] at h
  | ok fs =>
    refine ⟨fs, rfl, ?_⟩
    have hg := workStmts_growth (Or.inl rfl : PlainFix none) fs.stmts { file := { syn := fs } }
    simp only [hp] at h
    generalize workStmts none { file := { syn := fs } } fs.stmts = r at h hg
    obtain ⟨st, stmts⟩ := r
    simp only [] at h
    cases hE : st.errsRev.isEmpty with
    | false => simp [hE] at h
    | true =>
      simp only [hE, if_true, Except.ok.injEq] at h
      subst h
      simp only [workP, List.length_nil] at hg ⊢
      omega

theorem WW_loadWork (f : WorkFile) : WW (Edit.loadWork f) = treeW f.syn.stmts + workP f := by
  unfold WW goLenW Edit.loadWork workP
  simp only [shiftSyntax_treeW, List.length_map]
  cases f.go <;> simp <;> omega

theorem WW_loadWork_le {name file : Bytes} {f : WorkFile} (h : parseWork name file none = .ok f) :
    WW (Edit.loadWork f) ≤ 408 * file.length + 102 := by
  obtain ⟨fs, hp, hg⟩ := parseWork_growth h
  have := FnEditFuelH.treeW_parse_le hp
  rw [WW_loadWork]; omega

end ModVerif.Tie.FnEditFuelO
