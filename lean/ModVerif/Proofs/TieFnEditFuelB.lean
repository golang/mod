/-
  Closed fuel of the go.mod session ties: the POTENTIAL `W e` of a model state, the SIZE of an operation, and for every
  go.mod operation other than the two bulk requirement setters
    * `stepFuel_le`: the fuel demand of the operation's tie is at most `3 * (W e + G op)`, `G op = 4 * opSize op + 32`;
    * `applyMod_W`: the operation increases the potential by at most `G op` (line ids pairwise different).

  `W e = treeW statements + the six typed-list lengths + |go version| + |module path|`.
  `opSize op` sums, over the byte-string arguments, `|s|` — and `|s| + |AutoQuote s|` (`qsz`) for the arguments the operation
  writes through `AutoQuote`: the quoted form is what lands in the tree.

  The operations come in a few shapes: a scalar statement is added or updated; `firstRest` updates the first matching entry
  of a typed list and clears the others (`firstRest_bind`, `markAll_updateLine_treeW`), or a line is appended; `clearAll`
  clears entries, whose lines are marked removed (`clearAll_bind`).  What go.mod and go.work share (`addGodebugCore`,
  `addReplaceCore`, `dropReplaceCore`) is bounded once.

  Namespaces `FnEditFuelB` (potential and sizes), `FnEditFuelC` (fuel demand and growth per operation), `FnEditFuelD` (`opsG`).
-/
import ModVerif.Proofs.TieFnEditFuelA
import ModVerif.Proofs.TieFnEditSessionB
namespace ModVerif.Tie.FnEditFuelB
open ModVerif ModVerif.Modfile ModVerif.Tie.FnEditFuelA ModVerif.Tie.FnEditSessionA ModVerif.Tie.FnEditSessionB
open ModVerif.TieFnEditAddLine (nodeCount)
open ModVerif.Tie.FnEditSortB (nodes)
open ModVerif.Tie.FnEditSortC (dupsSize)
open ModVerif.Tie.FnEditSortE (sortSize sortFuel goLen)
open ModVerif.Tie.FnEditSortG (cleanSize)
open ModVerif.Tie.FnEditReqE (modPath)
open ModVerif.Modfile.Edit (EFile EditErr applyMod treeIds firstRest clearAll except_bind_ok)

def listsW (e : EFile) : Nat :=
  e.f.godebug.length + e.f.require.length + e.f.exclude.length + e.f.replace.length + e.f.retract.length + e.f.tool.length

/-- the potential of a model state: every fuel measure of an operation tie is linear in it -/
def W (e : EFile) : Nat := treeW e.f.syn.stmts + listsW e + goLen e + (modPath e).length

/-- size of an argument that is written through `AutoQuote` -/
def qsz (p : Bytes) : Nat := p.length + (autoQuote p).length

def reqSize (r : EditSpec.Req) : Nat := qsz r.path + r.vers.length + 16

def opSize : EditSpec.Op → Nat
  | .addModule p => qsz p
  | .addGo v => v.length
  | .dropGo => 0
  | .addToolchain n => n.length
  | .dropToolchain => 0
  | .addGodebug k v => k.length + v.length
  | .dropGodebug k => k.length
  | .addRequire p v => qsz p + v.length
  | .addNewRequire p v _ => qsz p + v.length
  | .dropRequire p => p.length
  | .setRequire l => (l.map reqSize).sum
  | .setRequireSeparateIndirect l => (l.map reqSize).sum
  | .addExclude p v => qsz p + v.length
  | .dropExclude p v => p.length + v.length
  | .addReplace a b c d => qsz a + b.length + qsz c + d.length
  | .dropReplace a b => a.length + b.length
  | .addRetract lo hi why => qsz lo + qsz hi + why.length
  | .dropRetract lo hi => lo.length + hi.length
  | .addTool p => p.length
  | .dropTool p => p.length
  | .sortBlocks => 0
  | .cleanup => 0
  | .addUse d m => d.length + m.length
  | .addNewUse d m => d.length + m.length
  | .dropUse d => d.length
  | .setUse w => (w.map fun x => x.1.length + x.2.length + 1).sum

/-- the growth allowance of one operation -/
def G (op : EditSpec.Op) : Nat := 4 * opSize op + 32

def NotBulk : EditSpec.Op → Prop
  | .setRequire _ => False
  | .setRequireSeparateIndirect _ => False
  | _ => True

theorem nodeCount_le_W (e : EFile) : nodeCount e.f.syn.stmts ≤ W e := by
  have := nodeCount_le_treeW e.f.syn.stmts; unfold W; omega

theorem sortFuel_le (e : EFile) : sortFuel e ≤ 3 * W e + 12 := by
  have h1 := nodes_le_treeW e.f.syn.stmts
  have h2 := sortSize_le_treeW e.f.syn.stmts
  unfold sortFuel dupsSize W listsW
  omega

theorem cleanupFuel_le (e : EFile) : stepFuel e .cleanup ≤ W e + 1 := by
  have h1 := nodes_le_treeW e.f.syn.stmts
  simp only [stepFuel, cleanSize]
  unfold W listsW
  omega

theorem tokW2 (a b : Bytes) : tokW [a, b] = 2 * a.length + 2 * b.length + 2 := by simp; omega
theorem tokW3 (a b c : Bytes) : tokW [a, b, c] = 2 * a.length + 2 * b.length + 2 * c.length + 3 := by simp; omega

theorem len_module : (B "module").length = 6 := by decide +kernel
theorem len_go : (B "go").length = 2 := by decide +kernel
theorem len_toolchain : (B "toolchain").length = 9 := by decide +kernel
theorem len_godebug : (B "godebug").length = 7 := by decide +kernel
theorem len_require : (B "require").length = 7 := by decide +kernel
theorem len_exclude : (B "exclude").length = 7 := by decide +kernel
theorem len_replace : (B "replace").length = 7 := by decide +kernel
theorem len_retract : (B "retract").length = 7 := by decide +kernel
theorem len_tool : (B "tool").length = 4 := by decide +kernel
theorem len_arrow : (B "=>").length = 2 := by decide +kernel

/-! ### the shared loops keep the list lengths -/

theorem clearAll_length {α : Type} (m : α → Bool) (id : α → Nat) (cleared : α)
    (l l' : List α) (dead : List Nat) (h : clearAll m id cleared l = .ok (l', dead)) : l'.length = l.length := by
  obtain ⟨_, rfl, _⟩ := Edit.clearAll_eq_ok.1 h
  simp [Edit.clearM]

theorem updFirst_length {α : Type} (m : α → Bool) (upd : α → α) (cleared : α) :
    ∀ l : List α, (Edit.updFirst m upd cleared l).length = l.length
  | [] => rfl
  | x :: xs => by unfold Edit.updFirst; split <;> simp [Edit.clearM, updFirst_length m upd cleared xs]

theorem firstRest_length {α : Type} (m : α → Bool) (id : α → Nat) (upd : α → α) (cleared : α)
    (l : List α) (need : Bool) (l' : List α) (first : Option Nat) (dead : List Nat)
    (h : firstRest m id upd cleared l need = .ok (l', first, dead)) : l'.length = l.length := by
  cases need with
  | true =>
    obtain ⟨_, rfl, _⟩ := Edit.firstRest_eq_ok.1 h
    exact updFirst_length _ _ _ _
  | false =>
    rw [Edit.firstRest_false] at h
    cases hc : clearAll m id cleared l with
    | error e => rw [hc] at h; cases h
    | ok r => rw [hc] at h; cases h; exact clearAll_length m id cleared l r.1 r.2 hc

theorem firstRest_bind {α β : Type} {m : α → Bool} {id : α → Nat} {upd : α → α} {cleared : α} {l : List α} {need : Bool}
    {k : List α × Option Nat × List Nat → Except EditErr β} {b : β} (h : (firstRest m id upd cleared l need >>= k) = .ok b) :
    ∃ l' first dead, l'.length = l.length ∧ k (l', first, dead) = .ok b := by
  obtain ⟨⟨l', first, dead⟩, h1, h2⟩ := except_bind_ok h
  exact ⟨l', first, dead, firstRest_length _ _ _ _ _ _ _ _ _ h1, h2⟩

theorem clearAll_bind {α β : Type} {m : α → Bool} {id : α → Nat} {cleared : α} {l : List α}
    {k : List α × List Nat → Except EditErr β} {b : β} (h : (clearAll m id cleared l >>= k) = .ok b) :
    ∃ l' dead, l'.length = l.length ∧ k (l', dead) = .ok b := by
  obtain ⟨⟨l', dead⟩, h1, h2⟩ := except_bind_ok h
  exact ⟨l', dead, clearAll_length _ _ _ _ _ _ h1, h2⟩

theorem markAll_updateLine_treeW (syn : FileSyntax) (i : Nat) (tokens : List Bytes) (dead : List Nat)
    (hn : (treeIds syn.stmts).Nodup) :
    treeW (Edit.markAll (Edit.updateLine syn i tokens) dead).stmts ≤ treeW syn.stmts + tokW tokens :=
  Nat.le_trans (markAll_treeW dead _) (editUpdateLine_treeW syn i tokens hn)

end ModVerif.Tie.FnEditFuelB

namespace ModVerif.Tie.FnEditFuelC
open ModVerif ModVerif.Modfile ModVerif.Tie.FnEditFuelA ModVerif.Tie.FnEditFuelB ModVerif.Tie.FnEditSessionA ModVerif.Tie.FnEditSessionB
open ModVerif.TieFnEditAddLine (nodeCount)
open ModVerif.Tie.FnEditSortB (nodes)
open ModVerif.Tie.FnEditSortC (dupsSize)
open ModVerif.Tie.FnEditSortE (sortSize sortFuel goLen)
open ModVerif.Tie.FnEditSortG (cleanSize)
open ModVerif.Tie.FnEditReqE (modPath)
open ModVerif.Modfile.Edit (EFile EditErr applyMod treeIds firstRest clearAll except_bind_ok)

theorem addToolPre_W (e : EFile) (p : Bytes) : W (addToolPre e p) ≤ W e + 2 * p.length + 13 := by
  have h1 := addLine_treeW e.f.syn none [B "tool", p] e.next
  rw [tokW2, len_tool] at h1
  unfold W listsW addToolPre goLen modPath at *
  simp only [List.length_append, List.length_cons, List.length_nil] at *
  omega

theorem stepFuel_le (e : EFile) (op : EditSpec.Op) (hb : NotBulk op) : stepFuel e op ≤ 3 * (W e + G op) := by
  have hn := nodeCount_le_W e
  have hl : listsW e ≤ W e := by unfold W; omega
  have hm : (modPath e).length ≤ W e := by unfold W; omega
  unfold listsW at hl
  cases op
  case setRequire => exact hb.elim
  case setRequireSeparateIndirect => exact hb.elim
  case addTool p =>
    have h1 := sortFuel_le (addToolPre e p)
    have h2 := addToolPre_W e p
    simp only [stepFuel, G, opSize]
    split <;> omega
  case sortBlocks => have := sortFuel_le e; simp only [stepFuel, G, opSize]; omega
  case cleanup => have := cleanupFuel_le e; simp only [G, opSize]; omega
  -- `Nat.max_le`: one small inequality per bound of the tie
  all_goals (simp only [stepFuel, G, opSize, qsz, Nat.max_le]; omega)

/-! ### what go.mod and go.work share -/

theorem addGodebugCore_W {syn syn' : FileSyntax} {gd gd' : List Godebug} {next next' : Nat} {k v : Bytes}
    (hn : (treeIds syn.stmts).Nodup) (h : Edit.addGodebugCore syn gd next k v = .ok (syn', gd', next')) :
    treeW syn'.stmts + gd'.length ≤ treeW syn.stmts + gd.length + 2 * k.length + 2 * v.length + 21 := by
  obtain ⟨l', first, dead, hl, hk⟩ := firstRest_bind h
  have ht : tokW [B "godebug", k ++ [61] ++ v] = 2 * k.length + 2 * v.length + 18 := by
    rw [tokW2, len_godebug]; simp; omega
  cases first with
  | some i =>
    cases hk
    have := markAll_updateLine_treeW syn i [B "godebug", k ++ [61] ++ v] dead hn
    omega
  | none =>
    cases hk
    have := addLine_treeW syn none [B "godebug", k ++ [61] ++ v] next
    simp only [List.length_append, List.length_cons, List.length_nil]
    omega

theorem replaceToks_W (a b c d : Bytes) :
    tokW ([B "replace", autoQuote a] ++ (if b.isEmpty then [] else [b]) ++ [B "=>", autoQuote c] ++ (if d.isEmpty then [] else [d])) ≤
      2 * (autoQuote a).length + 2 * b.length + 2 * (autoQuote c).length + 2 * d.length + 24 := by
  simp only [tokW_append, tokW2, len_replace, len_arrow]
  split <;> split <;> simp <;> omega

theorem addReplaceCore_W {syn syn' : FileSyntax} {rp rp' : List Replace} {next next' : Nat} {a b c d : Bytes}
    (hn : (treeIds syn.stmts).Nodup) (h : Edit.addReplaceCore syn rp next a b c d = .ok (syn', rp', next')) :
    treeW syn'.stmts + rp'.length ≤
      treeW syn.stmts + rp.length + 2 * (autoQuote a).length + 2 * b.length + 2 * (autoQuote c).length + 2 * d.length + 27 := by
  obtain ⟨l', first, dead, hl, hk⟩ := firstRest_bind h
  have ht := replaceToks_W a b c d
  generalize ([B "replace", autoQuote a] ++ (if b.isEmpty then [] else [b]) ++ [B "=>", autoQuote c] ++ (if d.isEmpty then [] else [d])) = toks at hk ht
  cases first with
  | some i =>
    cases hk
    have := markAll_updateLine_treeW syn i toks dead hn
    omega
  | none =>
    cases hk
    have := addLinePtr_treeW syn (Edit.lastWith (fun r : Replace => r.old.path == a) (·.lineId) rp none) toks next
    simp only [List.length_append, List.length_cons, List.length_nil]
    omega

theorem dropReplaceCore_W {syn syn' : FileSyntax} {rp rp' : List Replace} {a b : Bytes}
    (h : Edit.dropReplaceCore syn rp a b = .ok (syn', rp')) : treeW syn'.stmts ≤ treeW syn.stmts ∧ rp'.length = rp.length := by
  obtain ⟨l', dead, hl, hk⟩ := clearAll_bind h
  cases hk
  exact ⟨markAll_treeW dead syn, hl⟩

theorem addModuleStmt_W (e : EFile) (p : Bytes) (hn : (treeIds e.f.syn.stmts).Nodup) :
    W (Edit.addModuleStmt e p) ≤ W e + G (.addModule p) := by
  show _ ≤ _ + (4 * qsz p + 32)
  unfold Edit.addModuleStmt
  cases hm : e.f.module with
  | none =>
    have h1 := addLine_treeW e.f.syn none [B "module", autoQuote p] e.next
    rw [tokW2, len_module] at h1
    simp only [W, listsW, goLen, modPath, hm, qsz] at *
    omega
  | some m =>
    have h1 := editUpdateLine_treeW e.f.syn m.lineId [B "module", autoQuote p] hn
    rw [tokW2, len_module] at h1
    simp only [W, listsW, goLen, modPath, hm, qsz] at *
    omega

theorem addGoStmt_W (e e' : EFile) (v : Bytes) (hn : (treeIds e.f.syn.stmts).Nodup) (h : Edit.addGoStmt e v = .ok e') :
    W e' ≤ W e + G (.addGo v) := by
  show _ ≤ _ + (4 * v.length + 32)
  unfold Edit.addGoStmt at h
  split at h
  · cases h
  · cases hg : e.f.go with
    | none =>
      simp only [hg, Except.ok.injEq] at h
      subst h
      have h1 := addLine_treeW e.f.syn (e.f.module.map (·.lineId)) [B "go", v] e.next
      rw [tokW2, len_go] at h1
      simp only [W, listsW, goLen, modPath, hg] at *
      omega
    | some g =>
      simp only [hg, Except.ok.injEq] at h
      subst h
      have h1 := editUpdateLine_treeW e.f.syn g.lineId [B "go", v] hn
      rw [tokW2, len_go] at h1
      simp only [W, listsW, goLen, modPath, hg] at *
      omega

theorem dropGoStmt_W (e : EFile) : W (Edit.dropGoStmt e) ≤ W e := by
  unfold Edit.dropGoStmt
  cases hg : e.f.go with
  | none => exact Nat.le_refl _
  | some g =>
    have h1 := markRemoved_treeW e.f.syn g.lineId
    simp only [W, listsW, goLen, modPath, hg] at *
    omega

theorem addToolchainStmt_W (e e' : EFile) (n : Bytes) (hn : (treeIds e.f.syn.stmts).Nodup) (h : Edit.addToolchainStmt e n = .ok e') :
    W e' ≤ W e + G (.addToolchain n) := by
  show _ ≤ _ + (4 * n.length + 32)
  unfold Edit.addToolchainStmt at h
  split at h
  · cases h
  · cases hg : e.f.toolchain with
    | none =>
      simp only [hg, Except.ok.injEq] at h
      subst h
      have key : ∀ hint : Option Nat, W ({ f := { e.f with toolchain := some { name := n, lineId := e.next }, syn := Edit.addLine e.f.syn hint [B "toolchain", n] e.next }, next := e.next + 1 } : EFile) ≤ W e + (4 * n.length + 32) := by
        intro hint
        have h1 := addLine_treeW e.f.syn hint [B "toolchain", n] e.next
        rw [tokW2, len_toolchain] at h1
        simp only [W, listsW, goLen, modPath] at *
        omega
      exact key _
    | some t =>
      simp only [hg, Except.ok.injEq] at h
      subst h
      have h1 := editUpdateLine_treeW e.f.syn t.lineId [B "toolchain", n] hn
      rw [tokW2, len_toolchain] at h1
      simp only [W, listsW, goLen, modPath] at *
      omega

theorem dropToolchainStmt_W (e : EFile) : W (Edit.dropToolchainStmt e) ≤ W e := by
  unfold Edit.dropToolchainStmt
  cases hg : e.f.toolchain with
  | none => exact Nat.le_refl _
  | some g =>
    have h1 := markRemoved_treeW e.f.syn g.lineId
    simp only [W, listsW, goLen, modPath] at *
    omega

theorem addGodebug_W (e e' : EFile) (k v : Bytes) (hn : (treeIds e.f.syn.stmts).Nodup) (h : Edit.addGodebug e k v = .ok e') :
    W e' ≤ W e + G (.addGodebug k v) := by
  show _ ≤ _ + (4 * (k.length + v.length) + 32)
  obtain ⟨⟨syn, gd, next⟩, h1, h2⟩ := except_bind_ok h
  cases h2
  have := addGodebugCore_W hn h1
  simp only [W, listsW, goLen, modPath]
  omega

theorem dropGodebug_W (e e' : EFile) (k : Bytes) (h : Edit.dropGodebug e k = .ok e') : W e' ≤ W e := by
  obtain ⟨l', dead, hl, hk⟩ := clearAll_bind h
  cases hk
  have := markAll_treeW dead e.f.syn
  simp only [W, listsW, goLen, modPath, hl]
  omega

theorem setIndirectLine_token (b : Bool) (l : Line) : (Edit.setIndirectLine b l).token = l.token :=
  (Edit.setIndirectLine_props b l).2.1

theorem addNewRequire_W (e : EFile) (p v : Bytes) (i : Bool) : W (Edit.addNewRequire e p v i) ≤ W e + 2 * (autoQuote p).length + 2 * v.length + 20 := by
  unfold Edit.addNewRequire
  have h1 := addLine_treeW e.f.syn none [B "require", autoQuote p, v] e.next
  have h2 := updateLine_treeW_le (Edit.addLine e.f.syn none [B "require", autoQuote p, v] e.next) e.next (Edit.setIndirectLine i)
    (fun l => by simp [lineW, setIndirectLine_token])
  rw [tokW3, len_require] at h1
  simp only [W, listsW, goLen, modPath, List.length_append, List.length_cons, List.length_nil] at *
  omega

theorem addRequire_W (e e' : EFile) (p v : Bytes) (hn : (treeIds e.f.syn.stmts).Nodup) (h : Edit.addRequire e p v = .ok e') :
    W e' ≤ W e + G (.addRequire p v) := by
  show _ ≤ _ + (4 * (qsz p + v.length) + 32)
  obtain ⟨l', first, dead, hl, hk⟩ := firstRest_bind h
  cases first with
  | some i =>
    cases hk
    have h1 := markAll_updateLine_treeW e.f.syn i [B "require", autoQuote p, v] dead hn
    rw [tokW3, len_require] at h1
    simp only [W, listsW, goLen, modPath, qsz, hl] at *
    omega
  | none =>
    cases hk
    have := addNewRequire_W e p v false
    simp only [qsz]; omega

theorem dropRequire_W (e e' : EFile) (p : Bytes) (h : Edit.dropRequire e p = .ok e') : W e' ≤ W e := by
  obtain ⟨l', dead, hl, hk⟩ := clearAll_bind h
  cases hk
  have := markAll_treeW dead e.f.syn
  simp only [W, listsW, goLen, modPath, hl]
  omega

theorem addExclude_W (e e' : EFile) (p v : Bytes) (h : Edit.addExclude e p v = .ok e') :
    W e' ≤ W e + G (.addExclude p v) := by
  show _ ≤ _ + (4 * (qsz p + v.length) + 32)
  unfold Edit.addExclude at h
  split at h
  · cases h
  · split at h
    · simp only [Except.ok.injEq] at h; subst h; omega
    · simp only [Except.ok.injEq] at h
      subst h
      have h1 := addLinePtr_treeW e.f.syn (Edit.lastWith (fun x : Exclude => x.mod.path == p) (·.lineId) e.f.exclude none)
        [B "exclude", autoQuote p, v] e.next
      rw [tokW3, len_exclude] at h1
      simp only [W, listsW, goLen, modPath, qsz, List.length_append, List.length_cons, List.length_nil] at *
      omega

theorem dropExclude_W (e e' : EFile) (p v : Bytes) (h : Edit.dropExclude e p v = .ok e') : W e' ≤ W e := by
  obtain ⟨l', dead, hl, hk⟩ := clearAll_bind h
  cases hk
  have := markAll_treeW dead e.f.syn
  simp only [W, listsW, goLen, modPath, hl]
  omega

theorem sortBlocks_W (e : EFile) : W (Edit.sortBlocks e) ≤ W e := by
  simp only [Edit.sortBlocks, Edit.removeDups, Option.map_some, Option.getD_some, W, listsW, goLen, modPath, sortStmts_treeW]
  have h1 := dropKilled_treeW
    (Edit.killLater (fun x : Exclude => x.mod) (·.lineId) e.f.exclude [] ++ Edit.killEarlier e.f.replace ++
      Edit.killLater (fun t : Tool => t.path) (·.lineId) e.f.tool []) e.f.syn.stmts
  have h2 := List.length_filter_le (fun x : Exclude => !(Edit.killLater (fun x : Exclude => x.mod) (·.lineId) e.f.exclude []).contains x.lineId) e.f.exclude
  have h3 := List.length_filter_le (fun x : Replace => !(Edit.killLater (fun x : Exclude => x.mod) (·.lineId) e.f.exclude [] ++ Edit.killEarlier e.f.replace).contains x.lineId) e.f.replace
  have h4 := List.length_filter_le (fun t : Tool => !(Edit.killLater (fun x : Exclude => x.mod) (·.lineId) e.f.exclude [] ++ Edit.killEarlier e.f.replace ++
      Edit.killLater (fun t : Tool => t.path) (·.lineId) e.f.tool []).contains t.lineId) e.f.tool
  omega

theorem cleanup_W (e : EFile) : W (Edit.cleanup e) ≤ W e := by
  simp only [Edit.cleanup, Edit.cleanupSyntax, W, listsW, goLen, modPath]
  have h1 := cleanupStmts_treeW e.f.syn.stmts
  have h2 := List.length_filter_le (fun g : Godebug => !g.key.isEmpty) e.f.godebug
  have h3 := List.length_filter_le (fun r : Require => !r.mod.path.isEmpty) e.f.require
  have h4 := List.length_filter_le (fun x : Exclude => !x.mod.path.isEmpty) e.f.exclude
  have h5 := List.length_filter_le (fun r : Replace => !r.old.path.isEmpty) e.f.replace
  have h6 := List.length_filter_le (fun r : Retract => !r.interval.low.isEmpty || !r.interval.high.isEmpty) e.f.retract
  have h7 := List.length_filter_le (fun t : Tool => !t.path.isEmpty) e.f.tool
  omega

theorem addTool_W (e : EFile) (p : Bytes) : W (Edit.addTool e p) ≤ W e + G (.addTool p) := by
  show _ ≤ _ + (4 * p.length + 32)
  unfold Edit.addTool
  split
  · omega
  · have h1 := sortBlocks_W (addToolPre e p)
    have h2 := addToolPre_W e p
    unfold addToolPre at h1 h2
    omega

theorem dropTool_W (e e' : EFile) (p : Bytes) (h : Edit.dropTool e p = .ok e') : W e' ≤ W e := by
  obtain ⟨l', dead, hl, hk⟩ := clearAll_bind h
  cases hk
  have := markAll_treeW dead e.f.syn
  simp only [W, listsW, goLen, modPath, hl]
  omega

theorem dropRetract_W (e e' : EFile) (vi : VersionInterval) (h : Edit.dropRetract e vi = .ok e') : W e' ≤ W e := by
  obtain ⟨l', dead, hl, hk⟩ := clearAll_bind h
  cases hk
  have := markAll_treeW dead e.f.syn
  simp only [W, listsW, goLen, modPath, hl]
  omega

theorem dropReplace_W (e e' : EFile) (a b : Bytes) (h : Edit.dropReplace e a b = .ok e') : W e' ≤ W e := by
  obtain ⟨⟨syn, rp⟩, h1, h2⟩ := except_bind_ok h
  cases h2
  obtain ⟨ht, hl⟩ := dropReplaceCore_W h1
  simp only [W, listsW, goLen, modPath, hl]
  omega

theorem addReplace_W (e e' : EFile) (a b c d : Bytes) (hn : (treeIds e.f.syn.stmts).Nodup) (h : Edit.addReplace e a b c d = .ok e') :
    W e' ≤ W e + G (.addReplace a b c d) := by
  show _ ≤ _ + (4 * (qsz a + b.length + qsz c + d.length) + 32)
  obtain ⟨⟨syn, rp, next⟩, h1, h2⟩ := except_bind_ok h
  cases h2
  have := addReplaceCore_W hn h1
  simp only [W, listsW, goLen, modPath, qsz]
  omega

theorem addRetract_W (e e' : EFile) (vi : VersionInterval) (why : Bytes) (h : Edit.addRetract e vi why = .ok e') :
    W e' ≤ W e + G (.addRetract vi.low vi.high why) := by
  show _ ≤ _ + (4 * (qsz vi.low + qsz vi.high + why.length) + 32)
  rw [FnEditReqE.addRetract_eq] at h
  split at h
  · cases h
  · split at h
    · cases h
    · simp only [Except.ok.injEq] at h
      subst h
      have ht : tokW (FnEditReqE.retrTokens vi) ≤ 2 * (autoQuote vi.low).length + 2 * (autoQuote vi.high).length + 26 := by
        unfold FnEditReqE.retrTokens
        split
        · rw [tokW2, len_retract]; omega
        · simp [len_retract]; omega
      have h1 := addLine_treeW e.f.syn none (FnEditReqE.retrTokens vi) e.next
      have h3 := updateLine_treeW_le (Edit.addLine e.f.syn none (FnEditReqE.retrTokens vi) e.next) e.next
        (FnEditReqE.addBefore (FnEditReqE.ratComs why)) (fun l => Nat.le_refl _)
      simp only [FnEditReqE.addRetractOk, W, listsW, goLen, modPath, qsz, List.length_append, List.length_cons, List.length_nil] at *
      omega

theorem applyMod_W (e e' : EFile) (op : EditSpec.Op) (hb : NotBulk op) (hn : (treeIds e.f.syn.stmts).Nodup)
    (h : applyMod e (opM op) = some (.ok e')) : W e' ≤ W e + G op := by
  have keep : ∀ {x : EFile}, some (Except.ok x : Except EditErr EFile) = some (.ok e') → W x ≤ W e → W e' ≤ W e + G op :=
    fun hx hw => Except.ok.inj (Option.some.inj hx) ▸ Nat.le_trans hw (Nat.le_add_right _ _)
  have keep' : ∀ {x : Except EditErr EFile}, some x = some (.ok e') → (x = .ok e' → W e' ≤ W e) → W e' ≤ W e + G op :=
    fun hx hw => Nat.le_trans (hw (Option.some.inj hx)) (Nat.le_add_right _ _)
  cases op with
  | addModule p => exact Except.ok.inj (Option.some.inj h) ▸ addModuleStmt_W e p hn
  | addGo v => exact addGoStmt_W e e' v hn (Option.some.inj h)
  | dropGo => exact keep h (dropGoStmt_W e)
  | addToolchain n => exact addToolchainStmt_W e e' n hn (Option.some.inj h)
  | dropToolchain => exact keep h (dropToolchainStmt_W e)
  | addGodebug k v => exact addGodebug_W e e' k v hn (Option.some.inj h)
  | dropGodebug k => exact keep' h (dropGodebug_W e e' k)
  | addRequire p v => exact addRequire_W e e' p v hn (Option.some.inj h)
  | addNewRequire p v i =>
    have := addNewRequire_W e p v i
    have hq : G (.addNewRequire p v i) = 4 * (qsz p + v.length) + 32 := rfl
    rw [hq, ← Except.ok.inj (Option.some.inj h)]
    simp only [qsz]; omega
  | dropRequire p => exact keep' h (dropRequire_W e e' p)
  | setRequire l => exact hb.elim
  | setRequireSeparateIndirect l => exact hb.elim
  | addExclude p v => exact addExclude_W e e' p v (Option.some.inj h)
  | dropExclude p v => exact keep' h (dropExclude_W e e' p v)
  | addReplace a b c d => exact addReplace_W e e' a b c d hn (Option.some.inj h)
  | dropReplace a b => exact keep' h (dropReplace_W e e' a b)
  | addRetract lo hi why => exact addRetract_W e e' { low := lo, high := hi } why (Option.some.inj h)
  | dropRetract lo hi => exact keep' h (dropRetract_W e e' { low := lo, high := hi })
  | addTool p => exact Except.ok.inj (Option.some.inj h) ▸ addTool_W e p
  | dropTool p => exact keep' h (dropTool_W e e' p)
  | sortBlocks => exact keep h (sortBlocks_W e)
  | cleanup => exact keep h (cleanup_W e)
  | addUse d m => cases h
  | addNewUse d m => cases h
  | dropUse d => cases h
  | setUse w => cases h

end ModVerif.Tie.FnEditFuelC

namespace ModVerif.Tie.FnEditFuelD
open ModVerif ModVerif.Tie.FnEditFuelB

def opsG (ops : List EditSpec.Op) : Nat := (ops.map G).sum

@[simp] theorem opsG_nil : opsG [] = 0 := rfl
@[simp] theorem opsG_cons (op : EditSpec.Op) (ops : List EditSpec.Op) : opsG (op :: ops) = G op + opsG ops := by simp [opsG]

end ModVerif.Tie.FnEditFuelD
