/-
  C20 `pos_consistent`, parser level: every position the parser stores in the tree is copied from a token
  (`TokFacts`), every parser error is raised at the lexer's current position; comment assignment only moves
  comments of the recorded list into the tree (`assignComments_ok`).
-/
import ModVerif.Model.Modfile.Comments
import ModVerif.Proofs.ModfileC20Lex
import ModVerif.Proofs.ModfileParse
namespace ModVerif.Proofs.ModfileC20
open ModVerif ModVerif.Modfile ModVerif.Proofs.ModfileLex ModVerif.Proofs.ModfilePos ModVerif.Proofs.ModfileRun

/-- `{}`: the blank-line placeholder `Comment{}` of blocks -/
def CommentOK (data : Bytes) (c : Comment) : Prop := c = {} ∨ PosAt data c.start c.token

def CommentsOK (data : Bytes) (cs : Comments) : Prop :=
  (∀ c ∈ cs.before, CommentOK data c) ∧ (∀ c ∈ cs.suffix, CommentOK data c) ∧ (∀ c ∈ cs.after, CommentOK data c)

theorem commentsOK_empty (data : Bytes) : CommentsOK data {} :=
  ⟨(by intro c h; cases h), (by intro c h; cases h), (by intro c h; cases h)⟩

structure LineOK (data : Bytes) (l : Line) : Prop where
  comments : CommentsOK data l.comments
  start : ∃ t ts, l.token = t :: ts ∧ PosAt data l.start t
  «end» : ∃ t, l.token.getLast? = some t ∧ EndsAt data l.«end» t

structure BlockOK (data : Bytes) (b : LineBlock) : Prop where
  comments : CommentsOK data b.comments
  start : ∃ t ts, b.token = t :: ts ∧ PosAt data b.start t
  lparen : PosAt data b.lparen.pos [40]
  lparenC : CommentsOK data b.lparen.comments
  rparen : PosAt data b.rparen.pos [41]
  rparenC : CommentsOK data b.rparen.comments
  lines : ∀ l ∈ b.lines, LineOK data l

structure CommentBlockOK (data : Bytes) (cb : CommentBlock) : Prop where
  comments : CommentsOK data cb.comments
  start : ∃ c cs, cb.comments.before = c :: cs ∧ c.start = cb.start ∧ PosAt data cb.start c.token

def ExprOK (data : Bytes) : Expr → Prop
  | .commentBlock cb => CommentBlockOK data cb
  | .line l => LineOK data l
  | .lineBlock b => BlockOK data b
  | .lparen _ => False
  | .rparen _ => False

theorem reach_cur {data : Bytes} {i : Input} (h : Reach data i) : PosOK data i.pos :=
  (reach_tokOK2 h).inv.cur

theorem reach_facts {data : Bytes} {i : Input} (h : Reach data i) : TokFacts data i.token :=
  (reach_tokOK2 h).facts

theorem getLast?_reverse_cons {α : Type} (a : α) (l : List α) : (l ++ [a]).reverse.getLast? = (a :: l.reverse).getLast? := by
  simp

/-- loop invariant for the token accumulator of `parseLine`/`parseStmt` -/
structure Acc (data : Bytes) (start : Position) (tokensRev : List Bytes) : Prop where
  first : ∃ t, tokensRev.getLast? = some t ∧ PosAt data start t

theorem Acc.cons {data : Bytes} {start : Position} {ts : List Bytes} (h : Acc data start ts) (t : Bytes) :
    Acc data start (t :: ts) := by
  obtain ⟨f, hf, hp⟩ := h.first
  refine ⟨f, ?_, hp⟩
  cases ts with
  | nil => simp at hf
  | cons a l => simpa using hf

theorem Acc.start_reverse {data : Bytes} {start : Position} {ts : List Bytes} (h : Acc data start ts) :
    ∃ t l, ts.reverse = t :: l ∧ PosAt data start t := by
  obtain ⟨f, hf, hp⟩ := h.first
  have : ts.reverse.head? = some f := by simpa using hf
  cases hr : ts.reverse with
  | nil => rw [hr] at this; simp at this
  | cons a l =>
    rw [hr] at this
    simp at this
    exact ⟨a, l, rfl, this ▸ hp⟩

variable {data : Bytes}

/-- `EndsAtTop` of Proofs/ModfileC20End.lean is the byte-level form: the text itself, no position -/
def EndTop (data : Bytes) (e : Position) (acc : List Bytes) : Prop := ∃ t, acc.head? = some t ∧ EndsAt data e t

theorem Lx.endTop {i i1 : Input} (hx : Lx data i i1) (acc : List Bytes) :
    EndTop data i.token.endPos (i.token.text :: acc) := ⟨_, rfl, (reach_facts hx.inv).«end»⟩

theorem lineOK_of {s e : Position} {acc : List Bytes} {l : Line} (hacc : Acc data s acc) (hend : EndTop data e acc)
    (hc : l.comments = {}) (hs : l.start = s) (ht : l.token = acc.reverse) (he : l.«end» = e) : LineOK data l := by
  obtain ⟨t, ht', hend⟩ := hend
  refine ⟨hc ▸ commentsOK_empty data, hs ▸ ht ▸ hacc.start_reverse, t, ?_, he ▸ hend⟩
  rw [ht]; simp [List.getLast?_reverse, ht']

theorem PLine.ok {i : Input} {s e : Position} {acc : List Bytes} {l : Line} {i' : Input}
    (h : PLine (Lx data) (Lx data) i s e acc l i') (hacc : Acc data s acc) (hend : EndTop data e acc) :
    LineOK data l := by
  induction h with
  | eol _ _ => exact lineOK_of hacc hend rfl rfl rfl rfl
  | tok hx _ _ ih => exact ih (hacc.cons _) (Lx.endTop hx _)

theorem Lx.acc {i i1 : Input} (hx : Lx data i i1) : Acc data i.token.pos [i.token.text] :=
  ⟨⟨_, rfl, (reach_facts hx.inv).start⟩⟩

theorem mem_ite_cons {α : Type} {b : Bool} {c a : α} {cs : List α} (h : c ∈ (if b = true then a :: cs else cs)) :
    c = a ∨ c ∈ cs := by
  cases b
  · exact Or.inr (by simpa using h)
  · simpa using h

/-- the part of a block that is known when its lines are being parsed -/
structure BlockPre (data : Bytes) (b : LineBlock) : Prop where
  comments : CommentsOK data b.comments
  start : ∃ t ts, b.token = t :: ts ∧ PosAt data b.start t
  lparen : PosAt data b.lparen.pos [40]
  lparenC : CommentsOK data b.lparen.comments

theorem PBlock.ok {i : Input} {x : LineBlock} {ls : List Line} {cs : List Comment} {b : LineBlock} {i' : Input}
    (h : PBlock (Lx data) (Lx data) i x ls cs b i') (hx : BlockPre data x) (hls : ∀ l ∈ ls, LineOK data l)
    (hcs : ∀ c ∈ cs, CommentOK data c) : BlockOK data b := by
  induction h with
  | eolComment _ _ _ ih => exact ih hx hls hcs
  | blank _ _ _ ih =>
    refine ih hx hls fun c hc => ?_
    rcases mem_ite_cons hc with rfl | hc
    · exact Or.inl rfl
    · exact hcs c hc
  | comment _ hc _ ih =>
    exact ih hx hls (List.forall_mem_cons.2 ⟨Or.inr (reach_facts hc.inv).start, hcs⟩)
  | close hk hc _ _ =>
    refine ⟨hx.comments, hx.start, hx.lparen, hx.lparenC, ?_, ?_, fun l hl => hls l (List.mem_reverse.mp hl)⟩
    · have hf := reach_facts hc.inv
      have := hf.punct 41 hk
      rw [← this]; exact hf.start
    · exact ⟨fun c hc => hcs c (List.mem_reverse.mp hc), (by intro c h; cases h), (by intro c h; cases h)⟩
  | line _ _ _ _ _ hc _ hl _ ih =>
    have hl := PLine.ok hl (Lx.acc hc) (Lx.endTop hc _)
    refine ih hx (List.forall_mem_cons.2 ⟨?_, hls⟩) (by intro c h; cases h)
    exact ⟨⟨fun c hc => hcs c (List.mem_reverse.mp hc), hl.comments.2.1, hl.comments.2.2⟩, hl.start, hl.«end»⟩

theorem PStmt.ok {i : Input} {s e : Position} {acc : List Bytes} {x : Expr} {i' : Input}
    (h : PStmt (Lx data) (Lx data) i s e acc x i') (hacc : Acc data s acc)
    (hend : EndTop data e acc ∨ i.token.kind.isEOL = false) : ExprOK data x := by
  have paren : ∀ {i i1 : Input} {c : UInt8}, Lx data i i1 → i.token.kind = .punct c → PosAt data i.token.pos [c] := by
    intro i i1 c hx hk
    have hf := reach_facts hx.inv
    have := hf.punct c hk
    rw [← this]; exact hf.start
  induction h with
  | eol _ he =>
    rcases hend with hend | hne
    · exact lineOK_of hacc hend rfl rfl rfl rfl
    · rw [hne] at he; cases he
  | block hx hk _ hb =>
    exact PBlock.ok hb ⟨commentsOK_empty data, hacc.start_reverse, paren hx hk, commentsOK_empty data⟩
      (by intro l h; cases h) (by intro c h; cases h)
  | empty hx hk hk1 hx2 _ _ =>
    exact ⟨commentsOK_empty data, hacc.start_reverse, paren hx hk, commentsOK_empty data, paren hx2 hk1,
      commentsOK_empty data, (by intro l h; cases h)⟩
  | parens _ _ _ _ he2 _ ih => exact ih ((hacc.cons _).cons _) (Or.inr he2)
  | lparen _ _ he1 _ _ ih => exact ih (hacc.cons _) (Or.inr he1)
  | tok hx _ _ _ ih => exact ih (hacc.cons _) (Or.inl (Lx.endTop hx _))

theorem exprOK_comments {data : Bytes} {s : Expr} (h : ExprOK data s) : CommentsOK data s.comments := by
  cases s with
  | commentBlock x => exact h.comments
  | line x => exact h.comments
  | lineBlock x => exact h.comments
  | lparen x => exact h.elim
  | rparen x => exact h.elim

theorem exprOK_setComments {data : Bytes} {s : Expr} {cs : Comments} (h : ExprOK data s)
    (hnc : ∀ x, s ≠ .commentBlock x) (hc : CommentsOK data cs) : ExprOK data (s.setComments cs) := by
  cases s with
  | commentBlock x => exact absurd rfl (hnc x)
  | line x => exact ⟨hc, h.start, h.«end»⟩
  | lineBlock x => exact ⟨hc, h.start, h.lparen, h.lparenC, h.rparen, h.rparenC, h.lines⟩
  | lparen x => exact h.elim
  | rparen x => exact h.elim

theorem PFile.ok {i : Input} {sr : List Expr} {cb : Option CommentBlock} {out : List Expr} {i' : Input}
    (h : PFile (Lx data) (Lx data) i sr cb out i') (hst : ∀ s ∈ sr, ExprOK data s)
    (hcb : ∀ c, cb = some c → CommentBlockOK data c) : ∀ s ∈ out, ExprOK data s := by
  have hflush : ∀ {sr : List Expr} {cb : Option CommentBlock}, (∀ s ∈ sr, ExprOK data s) →
      (∀ c, cb = some c → CommentBlockOK data c) → ∀ s ∈ flush sr cb, ExprOK data s := by
    intro sr cb hst hcb
    cases cb with
    | none => exact hst
    | some c => exact List.forall_mem_cons.2 ⟨hcb c rfl, hst⟩
  induction h with
  | blank _ _ _ ih => exact ih (hflush hst hcb) (by intro c h; cases h)
  | @comment i i1 sr cb out i' _ hx _ ih =>
    have hf := reach_facts hx.inv
    refine ih hst ?_
    intro c' hc'
    simp only [Option.some.injEq] at hc'
    subst hc'
    have hnew : CommentOK data { start := i.token.pos, token := i.token.text } := Or.inr hf.start
    cases cb with
    | none =>
      refine ⟨⟨?_, (by intro c h; cases h), (by intro c h; cases h)⟩, ?_⟩
      · intro c hc
        simp [cbAdd] at hc
        subst hc; exact hnew
      · exact ⟨_, [], rfl, rfl, hf.start⟩
    | some c0 =>
      have h0 := hcb c0 rfl
      refine ⟨⟨?_, h0.comments.2.1, h0.comments.2.2⟩, ?_⟩
      · intro c hc
        simp only [cbAdd, List.mem_append, List.mem_singleton] at hc
        rcases hc with hc | rfl
        · exact h0.comments.1 c hc
        · exact hnew
      · obtain ⟨c1, cs1, hb, hs, hp⟩ := h0.start
        exact ⟨c1, cs1 ++ [{ start := i.token.pos, token := i.token.text }], by simp [cbAdd, hb], hs, hp⟩
  | eof _ => intro s hs; exact hflush hst hcb s (List.mem_reverse.mp hs)
  | @stmt i i1 i2 sr cb x out i' _ _ _ hx hs _ ih =>
    have hx' := PStmt.ok hs (Lx.acc hx) (Or.inl (Lx.endTop hx _))
    refine ih (List.forall_mem_cons.2 ⟨?_, hst⟩) (by intro c h; cases h)
    cases cb with
    | none => exact hx'
    | some c =>
      refine exprOK_setComments hx' ?_ ⟨(hcb c rfl).comments.1, (exprOK_comments hx').2.1, (exprOK_comments hx').2.2⟩
      intro y hy
      rcases hs.kind with ⟨l, hl⟩ | ⟨b, hb⟩
      · rw [hl] at hy; cases hy
      · rw [hb] at hy; cases hy

theorem parseFile_ok {stmts : List Expr} {i' : Input} (h : parseFile data = .ok (stmts, i')) :
    Reach data i' ∧ ∀ s ∈ stmts, ExprOK data s := by
  obtain ⟨i0, _, hrun, hr⟩ := parseFile_reach h
  exact ⟨hr, PFile.ok hrun (by intro s h; cases h) (by intro c h; cases h)⟩

theorem parseFile_err_pos {e : SynErr} (h : parseFile data = .error e) : PosOK data e.pos := by
  rcases (parseFile_err h).1 with h0 | h1
  · exact readToken_first_err_pos h0
  · cases h1 with
    | lex hr he => exact readToken_err_pos hr he
    | here hr he => rw [he]; exact reach_cur hr

/-! ### comment assignment only moves comments -/

def AllOK (data : Bytes) (cs : List Comment) : Prop := ∀ c ∈ cs, CommentOK data c

theorem takeLine_append (start : Position) : ∀ (l : List Comment), (takeLine start l).1 ++ (takeLine start l).2 = l := by
  intro l
  induction l with
  | nil => rfl
  | cons c rest ih =>
    unfold takeLine
    split
    · simp only [List.cons_append, ih]
    · rfl

theorem takeSuffix_mem («end» : Position) : ∀ (l acc : List Comment) (c : Comment),
    (c ∈ (takeSuffix «end» acc l).1 → c ∈ acc ∨ c ∈ l) ∧ (c ∈ (takeSuffix «end» acc l).2 → c ∈ l) := by
  intro l
  induction l with
  | nil => intro acc c; simp [takeSuffix]
  | cons a rest ih =>
    intro acc c
    unfold takeSuffix
    split
    · have := ih (a :: acc) c
      constructor
      · intro h
        rcases this.1 h with h | h
        · simp only [List.mem_cons] at h
          rcases h with rfl | h
          · exact Or.inr (by simp)
          · exact Or.inl h
        · exact Or.inr (List.mem_cons_of_mem _ h)
      · intro h
        exact List.mem_cons_of_mem _ (this.2 h)
    · exact ⟨fun h => Or.inl h, fun h => h⟩

theorem assignBefore_ok {data : Bytes} (start : Position) {cs : Comments} {line : List Comment}
    (hc : CommentsOK data cs) (hl : AllOK data line) :
    CommentsOK data (assignBefore start cs line).1 ∧ AllOK data (assignBefore start cs line).2 ∧
    (assignBefore start cs line).1.before = cs.before ++ (takeLine start line).1 := by
  unfold assignBefore
  have happ := takeLine_append start line
  refine ⟨⟨?_, hc.2.1, hc.2.2⟩, ?_, rfl⟩
  · intro c h
    simp only [List.mem_append] at h
    rcases h with h | h
    · exact hc.1 c h
    · exact hl c (by rw [← happ]; exact List.mem_append_left _ h)
  · intro c h
    exact hl c (by rw [← happ]; exact List.mem_append_right _ h)

theorem assignSuffix_ok {data : Bytes} (span : Position × Position) {cs : Comments} {suf : List Comment}
    (hc : CommentsOK data cs) (hl : AllOK data suf) :
    CommentsOK data (assignSuffix span cs suf).1 ∧ AllOK data (assignSuffix span cs suf).2 ∧
    (assignSuffix span cs suf).1.before = cs.before := by
  unfold assignSuffix
  split
  · refine ⟨⟨hc.1, ?_, hc.2.2⟩, hl, rfl⟩
    intro c h
    exact hc.2.1 c (List.mem_reverse.mp h)
  · have hm := takeSuffix_mem span.2 suf []
    refine ⟨⟨hc.1, ?_, hc.2.2⟩, ?_, rfl⟩
    · intro c h
      simp only [List.mem_reverse, List.mem_append] at h
      rcases h with h | h
      · exact hc.2.1 c h
      · rcases (hm c).1 h with h | h
        · cases h
        · exact hl c h
    · intro c h
      exact hl c ((hm c).2 h)

theorem preLines_ok {data : Bytes} : ∀ (ls : List Line) (line : List Comment),
    (∀ l ∈ ls, LineOK data l) → AllOK data line →
    (∀ l ∈ (preLines ls line).1, LineOK data l) ∧ AllOK data (preLines ls line).2 := by
  intro ls
  induction ls with
  | nil => intro line h hl; exact ⟨h, hl⟩
  | cons l rest ih =>
    intro line h hl
    have hlo := h l (by simp)
    obtain ⟨h1, h2, _⟩ := assignBefore_ok l.start hlo.comments hl
    have := ih (assignBefore l.start l.comments line).2 (fun x hx => h x (List.mem_cons_of_mem _ hx)) h2
    unfold preLines
    refine ⟨?_, this.2⟩
    intro x hx
    simp only [List.mem_cons] at hx
    rcases hx with rfl | hx
    · exact ⟨h1, hlo.start, hlo.«end»⟩
    · exact this.1 x hx

theorem postLinesRev_ok {data : Bytes} : ∀ (ls : List Line) (suf : List Comment),
    (∀ l ∈ ls, LineOK data l) → AllOK data suf →
    (∀ l ∈ (postLinesRev ls suf).1, LineOK data l) ∧ AllOK data (postLinesRev ls suf).2 := by
  intro ls
  induction ls with
  | nil => intro line h hl; exact ⟨h, hl⟩
  | cons l rest ih =>
    intro suf h hl
    have hlo := h l (by simp)
    obtain ⟨h1, h2, _⟩ := assignSuffix_ok (l.start, l.«end») hlo.comments hl
    have := ih (assignSuffix (l.start, l.«end») l.comments suf).2 (fun x hx => h x (List.mem_cons_of_mem _ hx)) h2
    unfold postLinesRev
    refine ⟨?_, this.2⟩
    intro x hx
    simp only [List.mem_cons] at hx
    rcases hx with rfl | hx
    · exact ⟨h1, hlo.start, hlo.«end»⟩
    · exact this.1 x hx

theorem preStmt_ok {data : Bytes} (s : Expr) (line : List Comment) (hs : ExprOK data s) (hl : AllOK data line) :
    ExprOK data (preStmt s line).1 ∧ AllOK data (preStmt s line).2 := by
  cases s with
  | lineBlock b =>
    unfold preStmt
    obtain ⟨a1, a2, _⟩ := assignBefore_ok b.start hs.comments hl
    obtain ⟨b1, b2, _⟩ := assignBefore_ok b.lparen.pos hs.lparenC a2
    obtain ⟨c1, c2⟩ := preLines_ok b.lines _ hs.lines b2
    obtain ⟨d1, d2, _⟩ := assignBefore_ok b.rparen.pos hs.rparenC c2
    exact ⟨⟨a1, hs.start, hs.lparen, b1, hs.rparen, d1, c1⟩, d2⟩
  | line x =>
    obtain ⟨a1, a2, _⟩ := assignBefore_ok x.start hs.comments hl
    exact ⟨⟨a1, hs.start, hs.«end»⟩, a2⟩
  | commentBlock x =>
    obtain ⟨a1, a2, a3⟩ := assignBefore_ok x.start hs.comments hl
    refine ⟨⟨a1, ?_⟩, a2⟩
    obtain ⟨c, cs, hb, hst, hp⟩ := hs.start
    exact ⟨c, cs ++ (takeLine x.start line).1, by
      show (assignBefore x.start x.comments line).1.before = _
      rw [a3, hb]; rfl, hst, hp⟩
  | lparen x => exact hs.elim
  | rparen x => exact hs.elim

theorem postStmt_ok {data : Bytes} (s : Expr) (suf : List Comment) (hs : ExprOK data s) (hl : AllOK data suf) :
    ExprOK data (postStmt s suf).1 ∧ AllOK data (postStmt s suf).2 := by
  cases s with
  | lineBlock b =>
    unfold postStmt
    obtain ⟨a1, a2, _⟩ := assignSuffix_ok (Expr.lineBlock b).span hs.comments hl
    obtain ⟨b1, b2, _⟩ := assignSuffix_ok (Expr.rparen b.rparen).span hs.rparenC a2
    obtain ⟨c1, c2⟩ := postLinesRev_ok b.lines.reverse _ (fun l hl => hs.lines l (List.mem_reverse.mp hl)) b2
    obtain ⟨d1, d2, _⟩ := assignSuffix_ok (Expr.lparen b.lparen).span hs.lparenC c2
    exact ⟨⟨a1, hs.start, hs.lparen, d1, hs.rparen, b1, fun l hl => c1 l (List.mem_reverse.mp hl)⟩, d2⟩
  | line x =>
    obtain ⟨a1, a2, _⟩ := assignSuffix_ok (Expr.line x).span hs.comments hl
    exact ⟨⟨a1, hs.start, hs.«end»⟩, a2⟩
  | commentBlock x =>
    obtain ⟨a1, a2, a3⟩ := assignSuffix_ok (Expr.commentBlock x).span hs.comments hl
    refine ⟨⟨a1, ?_⟩, a2⟩
    obtain ⟨c, cs, hb, hst, hp⟩ := hs.start
    exact ⟨c, cs, by
      show (assignSuffix (Expr.commentBlock x).span x.comments suf).1.before = _
      rw [a3, hb], hst, hp⟩
  | lparen x => exact hs.elim
  | rparen x => exact hs.elim

theorem preStmts_ok {data : Bytes} : ∀ (ss : List Expr) (line : List Comment),
    (∀ s ∈ ss, ExprOK data s) → AllOK data line →
    (∀ s ∈ (preStmts ss line).1, ExprOK data s) ∧ AllOK data (preStmts ss line).2 := by
  intro ss
  induction ss with
  | nil => intro line h hl; exact ⟨h, hl⟩
  | cons s rest ih =>
    intro line h hl
    obtain ⟨h1, h2⟩ := preStmt_ok s line (h s (by simp)) hl
    have := ih (preStmt s line).2 (fun x hx => h x (List.mem_cons_of_mem _ hx)) h2
    unfold preStmts
    refine ⟨?_, this.2⟩
    intro x hx
    simp only [List.mem_cons] at hx
    rcases hx with rfl | hx
    · exact h1
    · exact this.1 x hx

theorem postStmtsRev_ok {data : Bytes} : ∀ (ss : List Expr) (suf : List Comment),
    (∀ s ∈ ss, ExprOK data s) → AllOK data suf →
    (∀ s ∈ (postStmtsRev ss suf).1, ExprOK data s) ∧ AllOK data (postStmtsRev ss suf).2 := by
  intro ss
  induction ss with
  | nil => intro line h hl; exact ⟨h, hl⟩
  | cons s rest ih =>
    intro suf h hl
    obtain ⟨h1, h2⟩ := postStmt_ok s suf (h s (by simp)) hl
    have := ih (postStmt s suf).2 (fun x hx => h x (List.mem_cons_of_mem _ hx)) h2
    unfold postStmtsRev
    refine ⟨?_, this.2⟩
    intro x hx
    simp only [List.mem_cons] at hx
    rcases hx with rfl | hx
    · exact h1
    · exact this.1 x hx

structure FileOK (data : Bytes) (f : FileSyntax) : Prop where
  comments : CommentsOK data f.comments
  stmts : ∀ s ∈ f.stmts, ExprOK data s

theorem assignComments_ok {data : Bytes} (f : FileSyntax) (cs : List Comment) (hf : FileOK data f) (hc : AllOK data cs) :
    FileOK data (assignComments f cs) := by
  unfold assignComments
  have hline : AllOK data (cs.filter (!·.suffix)) := fun c h => hc c (List.mem_filter.mp h).1
  have hsuf : AllOK data (cs.filter (·.suffix)).reverse := fun c h => hc c (List.mem_filter.mp (List.mem_reverse.mp h)).1
  obtain ⟨a1, a2, _⟩ := assignBefore_ok f.span.1 hf.comments hline
  obtain ⟨b1, b2⟩ := preStmts_ok f.stmts _ hf.stmts a2
  obtain ⟨c1, c2⟩ := postStmtsRev_ok (preStmts f.stmts (assignBefore f.span.1 f.comments (cs.filter (!·.suffix))).2).1.reverse
    (cs.filter (·.suffix)).reverse (fun s hs => b1 s (List.mem_reverse.mp hs)) hsuf
  refine ⟨⟨?_, a1.2.1, ?_⟩, ?_⟩
  · intro c h
    simp only [List.mem_append, List.mem_reverse] at h
    rcases h with h | h
    · exact a1.1 c h
    · exact c2 c h
  · intro c h
    simp only [List.mem_append] at h
    rcases h with h | h
    · exact a1.2.2 c h
    · exact b2 c h
  · intro s hs
    exact c1 s (List.mem_reverse.mp hs)

/-- `pos_consistent` for the syntax-only parser: every position of the tree and the position of the error. -/
theorem parse_pos_consistent (name data : Bytes) :
    match parse name data with
    | .ok t => FileOK data t
    | .error e => PosOK data e.pos := by
  unfold parse
  cases hp : parseFile data with
  | error e => simp only [bind, Except.bind]; exact parseFile_err_pos hp
  | ok v =>
    have h := parseFile_ok (show parseFile data = .ok (v.1, v.2) by rw [hp])
    simp only [bind, Except.bind]
    refine assignComments_ok _ _ ⟨commentsOK_empty data, h.2⟩ ?_
    intro c hc
    exact Or.inr ((reach_tokOK2 h.1).inv.comments c (List.mem_reverse.mp hc)).1

end ModVerif.Proofs.ModfileC20
