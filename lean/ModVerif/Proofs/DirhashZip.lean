/-
  Helper lemmas for C19, zip/directory agreement: on clean relative paths `filepath.Join(prefix, rel)` is
  `prefix/rel`, `filepath.Join(dir, TrimPrefix(name, prefix))` names `rel` again, and the zip-side and
  directory-side `open` functions agree on the listed names.  First (namespace `TieFnDirhashDir`, where the ties use it):
  the dirhash model's own `filepath.Clean` is the shared `path.Clean`.
-/
import ModVerif.Proofs.Dirhash
import ModVerif.Proofs.ZipBPath
namespace ModVerif.TieFnDirhashDir
open ModVerif ModVerif.PathClean ModVerif.Proofs.ZipB

/-! ### `Dirhash.clean` = `PathClean.pathClean`: the two component loops differ in one unreachable case (`..` on top of
    a `..` in a rooted path) -/

def StackInv (r : Bool) (st : List Bytes) : Prop := (∀ c ∈ st, c ≠ []) ∧ (r = true → dotdot ∉ st)

theorem cleanStep_eq_step (r : Bool) (st : List Bytes) (c : Bytes) (h : StackInv r st) :
    Dirhash.cleanStep r st c = step r st c ∧ StackInv r (step r st c) := by
  unfold Dirhash.cleanStep step
  by_cases h1 : c = []
  · subst h1; simpa using h
  · have e1 : (c == []) = false := by simpa using h1
    have e1' : c.isEmpty = false := by simpa using h1
    by_cases h2 : c = [46]
    · subst h2; simpa using h
    · have e2 : (c == [46]) = false := by simpa using h2
      simp only [e1, e1', e2, Bool.or_self, Bool.false_eq_true, if_false]
      by_cases h3 : c = dotdot
      · subst h3
        have e3 : (Dirhash.dotdot : Bytes) = dotdot := rfl
        simp only [e3, beq_self_eq_true, if_true]
        cases st with
        | nil =>
          cases r with
          | true => exact ⟨rfl, by simp [StackInv]⟩
          | false => exact ⟨rfl, by simp [StackInv, dotdot]⟩
        | cons top below =>
          by_cases ht : top = dotdot
          · subst ht
            cases r with
            | true => exact absurd List.mem_cons_self (h.2 rfl)
            | false =>
              simp only [beq_self_eq_true, if_true, Bool.false_eq_true, if_false, true_and]
              exact ⟨fun c hc => by
                rcases List.mem_cons.1 hc with rfl | hc
                · simp [dotdot]
                · exact h.1 c hc, by simp⟩
          · have et : (top == dotdot) = false := by simpa using ht
            simp only [et, Bool.false_eq_true, if_false, true_and]
            exact ⟨fun c hc => h.1 c (List.mem_cons_of_mem _ hc),
              fun hr hm => h.2 hr (List.mem_cons_of_mem _ hm)⟩
      · have e3 : (c == dotdot) = false := by simpa using h3
        have e3' : (c == Dirhash.dotdot) = false := e3
        simp only [e3, e3', Bool.false_eq_true, if_false, true_and]
        exact ⟨fun d hd => by
          rcases List.mem_cons.1 hd with rfl | hd
          · exact h1
          · exact h.1 d hd, fun hr hm => by
          rcases List.mem_cons.1 hm with e | hm
          · exact h3 e.symm
          · exact h.2 hr hm⟩

theorem foldl_cleanStep_eq (r : Bool) : ∀ (cs st : List Bytes), StackInv r st →
    cs.foldl (Dirhash.cleanStep r) st = cs.foldl (step r) st ∧ StackInv r (cs.foldl (step r) st)
  | [], _, h => ⟨rfl, h⟩
  | c :: cs, st, h => by
    have h1 := cleanStep_eq_step r st c h
    simp only [List.foldl_cons, h1.1]
    exact foldl_cleanStep_eq r cs _ h1.2

theorem J_eq_nil_iff : ∀ cs : List Bytes, (∀ c ∈ cs, c ≠ []) → (J cs = [] ↔ cs = [])
  | [], _ => by simp [J, joinWith]
  | [x], h => by simpa [J, joinWith] using h x (by simp)
  | x :: y :: rest, _ => by rw [J_cons_cons]; simp

theorem head_eq_isRooted (p : Bytes) : (p.head? == some Dirhash.slash) = isRooted p := by
  cases p with
  | nil => rfl
  | cons c rest =>
    unfold isRooted
    by_cases hc : c = 47
    · subst hc; rfl
    · have : (some c == some Dirhash.slash) = false := by simpa [Dirhash.slash] using hc
      simp only [List.head?_cons, this]
      split
      · rename_i heq; injection heq with h1 _; exact absurd h1 hc
      · rfl

theorem clean_eq_pathClean (p : Bytes) : Dirhash.clean p = pathClean p := by
  unfold Dirhash.clean pathClean
  by_cases hp : p = []
  · subst hp; rfl
  · have e1 : p.isEmpty = false := by simpa using hp
    have e2 : (p == []) = false := by simpa using hp
    simp only [e1, e2, Bool.false_eq_true, if_false, head_eq_isRooted]
    have hf := foldl_cleanStep_eq (isRooted p) (splitOn 47 p) [] ⟨by simp, by simp⟩
    have hs : Dirhash.slash = 47 := rfl
    simp only [hs, hf.1]
    show (if isRooted p = true then 47 :: J (comps p) else if (J (comps p)).isEmpty = true then [46] else J (comps p)) = _
    cases hr : isRooted p with
    | true => rfl
    | false =>
      simp only [Bool.false_eq_true, if_false]
      have hne : ∀ c ∈ comps p, c ≠ [] := by
        intro c hc
        unfold comps cleanComps at hc
        exact hf.2.1 c (List.mem_reverse.1 hc)
      have : (J (comps p)).isEmpty = (comps p).isEmpty := by
        rw [Bool.eq_iff_iff]
        simp only [List.isEmpty_iff]
        exact J_eq_nil_iff _ hne
      rw [this]

end ModVerif.TieFnDirhashDir

namespace ModVerif.Dirhash
open ModVerif

/-- in particular `p` is not empty and not rooted -/
def CleanRel (p : Bytes) : Prop := ∀ c ∈ splitOn slash p, c ≠ [] ∧ c ≠ [46] ∧ c ≠ dotdot

def compOK (c : Bytes) : Bool := !c.isEmpty && c != [46] && c != dotdot

def cleanRelB (p : Bytes) : Bool := (splitOn slash p).all compOK

theorem cleanRel_of_check (p : Bytes) (h : cleanRelB p = true) : CleanRel p := by
  intro c hc
  have := List.all_eq_true.1 h c hc
  simp only [compOK, Bool.and_eq_true, Bool.not_eq_true', bne_iff_ne, ne_eq, List.isEmpty_eq_false_iff] at this
  exact ⟨this.1.1, this.1.2, this.2⟩

theorem cleanRel_ne_nil {p : Bytes} (h : CleanRel p) : p ≠ [] := by
  intro e; subst e
  exact (h [] (by simp [splitOn])).1 rfl

theorem cleanRel_not_rooted {p : Bytes} (h : CleanRel p) : p.head? ≠ some slash := by
  intro e
  cases p with
  | nil => simp at e
  | cons c rest =>
    have hc : c = slash := by simpa using e
    subst hc
    exact (h [] (by simp [splitOn])).1 rfl

theorem cleanRel_append {a b : Bytes} (ha : CleanRel a) (hb : CleanRel b) : CleanRel (a ++ slash :: b) := by
  intro c hc
  rw [splitOn_append_sep] at hc
  rcases List.mem_append.1 hc with h | h
  · exact ha c h
  · exact hb c h

theorem clean_of_cleanRel {p : Bytes} (h : CleanRel p) : clean p = p := by
  rw [TieFnDirhashDir.clean_eq_pathClean]
  exact Proofs.ZipB.pathClean_normalName fun c hc =>
    ⟨(h c hc).1, (h c hc).2.1, (h c hc).2.2, Proofs.ZipB.not_mem_of_mem_splitOn 47 p c hc⟩

theorem joinPath_cleanRel {a b : Bytes} (ha : CleanRel a) (hb : CleanRel b) :
    joinPath a b = a ++ slash :: b := by
  have e1 : a.isEmpty = false := by simpa using cleanRel_ne_nil ha
  have e2 : b.isEmpty = false := by simpa using cleanRel_ne_nil hb
  unfold joinPath
  simp only [e1, e2]
  have := clean_of_cleanRel (cleanRel_append ha hb)
  simpa using this

theorem trimPrefix_append (a b : Bytes) : trimPrefix (a ++ b) a = b := by
  simp [trimPrefix, isPrefixOfB_append]

theorem foldl_resolveStep_ok : ∀ (comps st : List Bytes),
    (∀ c ∈ comps, c ≠ [] ∧ c ≠ [46] ∧ c ≠ dotdot) →
    comps.foldl resolveStep (some st) = some (comps.reverse ++ st)
  | [], _, _ => rfl
  | c :: comps, st, h => by
    have ⟨h1, h2, h3⟩ := h c List.mem_cons_self
    have hstep : resolveStep (some st) c = some (c :: st) := by
      unfold resolveStep
      have e1 : c.isEmpty = false := by simpa using h1
      have e2 : (c == [46]) = false := by simpa using h2
      have e3 : (c == dotdot) = false := by simpa using h3
      simp [e1, e2, e3]
    simp only [List.foldl_cons, hstep, List.reverse_cons, List.append_assoc, List.singleton_append]
    exact foldl_resolveStep_ok comps (c :: st) (fun d hd => h d (List.mem_cons_of_mem _ hd))

theorem resolveRel_slash_cleanRel {rel : Bytes} (h : CleanRel rel) : resolveRel (slash :: rel) = some rel := by
  unfold resolveRel
  have : splitOn slash (slash :: rel) = [] :: splitOn slash rel := by simp [splitOn]
  rw [this]
  simp only [List.foldl_cons]
  have hs : resolveStep (some []) [] = some [] := by simp [resolveStep]
  rw [hs, foldl_resolveStep_ok _ [] h]
  simp [joinWith_splitOn]

theorem osOpen_joined (files : List (Bytes × Bytes)) (pfx rel : Bytes) (h : CleanRel rel) :
    osOpen files pfx (pfx ++ slash :: rel) = files.lookup rel := by
  unfold osOpen
  rw [trimPrefix_append, resolveRel_slash_cleanRel h]

theorem hash1_perm_congr (sha : Bytes → Bytes) {l₁ l₂ : List Bytes} {o₁ o₂ : Bytes → Option Bytes}
    (hp : l₁.Perm l₂) (ho : ∀ n ∈ l₁, o₁ n = o₂ n) : hash1 sha l₁ o₁ = hash1 sha l₂ o₂ := by
  unfold hash1 summary
  rw [← sortStrings_eq_of_perm hp,
    summaryLoop_congr sha o₁ o₂ _ (fun n hn => ho n ((sortStrings_perm l₁).subset hn))]

theorem hashModZip_eq_hashUnzipped (sha : Bytes → Bytes) (path version : Bytes) (files : List (Bytes × Bytes))
    (hpfx : CleanRel (modPrefix path version)) (hrel : ∀ f ∈ files, CleanRel f.1)
    (hnd : (files.map (·.1)).Nodup) :
    hashModZip sha path version files = hashUnzipped sha path version files := by
  let pfx := modPrefix path version
  let g : Bytes → Bytes := fun r => pfx ++ slash :: r
  have hg : ∀ a b, g a = g b → a = b := by
    intro a b h
    have := List.append_cancel_left h
    simpa using this
  -- names listed on the zip side
  have hzipNames : hashZipNames (modZipEntries path version files) = (files.map (·.1)).map g := by
    simp [hashZipNames, modZipEntries, List.map_map, Function.comp_def, g, pfx]
  -- names listed on the directory side
  have hwalk : (walkOrder (files.map (·.1))).Perm (files.map (·.1)) := insertionSort_perm _
  have hdirNames : (walkOrder (files.map (·.1))).map (fun rel => joinPath pfx rel)
      = (walkOrder (files.map (·.1))).map g := by
    apply List.map_congr_left
    intro r hr
    obtain ⟨f, hf, rfl⟩ := List.mem_map.1 (hwalk.subset hr)
    exact joinPath_cleanRel hpfx (hrel f hf)
  -- the entries have distinct names
  have hentNd : ((modZipEntries path version files).reverse.map (·.1)).Nodup := by
    have : (modZipEntries path version files).map (·.1) = (files.map (·.1)).map g := hzipNames
    rw [List.map_reverse, this]
    unfold List.Nodup
    rw [List.pairwise_reverse]
    exact List.Pairwise.map g (fun a b hne e => hne (hg b a e).symm) hnd
  unfold hashModZip hashUnzipped hashZip hashDir dirFiles
  simp only [rootFiles]
  rw [hzipNames]
  show _ = hash1 sha ((walkOrder (files.map (·.1))).map (fun rel => joinPath pfx rel)) (osOpen files pfx)
  rw [hdirNames]
  apply hash1_perm_congr sha (hwalk.map g).symm
  intro n hn
  obtain ⟨r, hr, rfl⟩ := List.mem_map.1 hn
  obtain ⟨f, hf, rfl⟩ := List.mem_map.1 hr
  rw [osOpen_joined files pfx f.1 (hrel f hf), lookup_of_mem_nodup files f.1 f.2 hnd hf]
  unfold lookupLast
  apply lookup_of_mem_nodup _ _ _ hentNd
  rw [List.mem_reverse]
  exact List.mem_map.2 ⟨f, hf, by simp [g, pfx]⟩

end ModVerif.Dirhash
