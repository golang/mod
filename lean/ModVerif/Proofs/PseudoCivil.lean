/-
  C18: the Unix-seconds → civil-date step (`civilFromUnix`) yields real calendar dates and is strictly
  monotone.  The days-to-civil arithmetic is split into: year of era (`yoeF_eq`, via the March-based
  year table `ys`), month/day within the year (`dateYD_valid`, `dateYD_lt`), eras (`key_lt`), time of day.
  The notion is `dateOfDay` (the civil date of a day number), the points `date_mono` and `dateYD_valid`.
  The `…_aux` theorems at the end are the complete statements of Props/C18 (which has the plain names).
-/
import ModVerif.Proofs.PseudoTime
namespace ModVerif.Proofs.Pseudo
open ModVerif ModVerif.PseudoSpec
open ModVerif.Pseudo hiding isDigit isAlnum

/-- number of days before the March-based year `y` of a 400-year era (the era starts on 1 March) -/
def ys (y : Nat) : Nat := 365 * y + y / 4 - y / 100

/-- 1 when the March-based year `y` of an era ends with a 29 February -/
def leapEnd (y : Nat) : Nat := if (y + 1) % 4 = 0 ∧ ((y + 1) % 100 ≠ 0 ∨ y = 399) then 1 else 0

/-- the year-of-era formula of the model -/
def yoeF (doe : Nat) : Nat := (doe - doe / 1460 + doe / 36524 - doe / 146096) / 365

theorem yoe_of_bounds (doe y : Nat) (hy : y < 400) (h1 : ys y ≤ doe) (h2 : doe < ys (y + 1)) :
    yoeF doe = y := by
  unfold yoeF
  unfold ys at h1 h2
  have hP : y / 100 = 0 ∨ y / 100 = 1 ∨ y / 100 = 2 ∨ y / 100 = 3 := by omega
  have hc : doe / 36524 = y / 100 := by
    rcases hP with h | h | h | h <;> omega
  have hf : doe / 146096 = 0 := by omega
  rw [hc, hf]
  rcases hP with h | h | h | h <;> omega

theorem exists_year_aux (doe : Nat) : ∀ k, doe < ys k → ∃ y, y < k ∧ ys y ≤ doe ∧ doe < ys (y + 1)
  | 0, h => by simp [ys] at h
  | k + 1, h => by
    by_cases hk : ys k ≤ doe
    · exact ⟨k, by omega, hk, h⟩
    · obtain ⟨y, a, b, c⟩ := exists_year_aux doe k (by omega)
      exact ⟨y, by omega, b, c⟩

theorem ys_succ (y : Nat) :
    ys (y + 1) = ys y + 365 + (if (y + 1) % 4 = 0 then 1 else 0) - (if (y + 1) % 100 = 0 then 1 else 0) := by
  unfold ys
  have hm : (y + 1) % 100 = 0 → (y + 1) % 4 = 0 := by omega
  have hle : y / 100 ≤ y / 4 := Nat.div_le_div_left (by decide) (by decide)
  simp only [Nat.succ_div, Nat.dvd_iff_mod_eq_zero]
  generalize y / 4 = a at *
  generalize y / 100 = b at *
  split <;> split <;> omega

theorem exists_year (doe : Nat) (h : doe < 146097) :
    ∃ y doy, y < 400 ∧ doe = ys y + doy ∧ doy < 365 + leapEnd y := by
  by_cases h6 : doe = 146096
  · exact ⟨399, 365, by decide, by rw [h6]; decide, by decide⟩
  · have h400 : ys 400 = 146096 := by decide
    obtain ⟨y, hy, h1, h2⟩ := exists_year_aux doe 400 (by omega)
    refine ⟨y, doe - ys y, hy, by omega, ?_⟩
    rw [ys_succ] at h2
    have hm : (y + 1) % 100 = 0 → (y + 1) % 4 = 0 := by omega
    unfold leapEnd
    split at h2 <;> split at h2 <;> split <;> omega

theorem ys_succ_ge (y : Nat) : ys y + 365 ≤ ys (y + 1) := by
  rw [ys_succ]
  have hm : (y + 1) % 100 = 0 → (y + 1) % 4 = 0 := by omega
  split <;> split <;> omega

theorem ys_mono {a b : Nat} (h : a ≤ b) : ys a ≤ ys b := by
  induction h with
  | refl => exact Nat.le_refl _
  | step _ ih => exact Nat.le_trans ih (Nat.le_of_add_right_le (ys_succ_ge _))

/-- the last day of the era is excluded: `ys 400` leaves out the 29 February that ends the era -/
theorem ys_doy_lt_succ (y doy : Nat) (hd : doy < 365 + leapEnd y) (h6 : ¬(y = 399 ∧ doy = 365)) :
    ys y + doy < ys (y + 1) := by
  rw [ys_succ]
  have hm : (y + 1) % 100 = 0 → (y + 1) % 4 = 0 := by omega
  unfold leapEnd at hd
  split at hd <;> split <;> split <;> omega

theorem yoeF_eq (y doy : Nat) (hy : y < 400) (hd : doy < 365 + leapEnd y) : yoeF (ys y + doy) = y := by
  by_cases h6 : y = 399 ∧ doy = 365
  · rw [h6.1, h6.2]; decide
  · exact yoe_of_bounds _ _ hy (by omega) (ys_doy_lt_succ y doy hd h6)

theorem ys_doy_lt (y doy : Nat) (hy : y < 400) (hd : doy < 365 + leapEnd y) : ys y + doy < 146097 := by
  unfold leapEnd at hd
  unfold ys
  split at hd <;> omega

/-- civil date from (era, March-based year of era, day of that year) -/
def dateYD (era : Int) (y doy : Nat) : Int × Nat × Nat :=
  let mp := (5 * doy + 2) / 153
  let d := doy - (153 * mp + 2) / 5 + 1
  let m := if mp < 10 then mp + 3 else mp - 9
  ((y : Int) + era * 400 + (if m ≤ 2 then 1 else 0), m, d)

/-- civil date from (era, day of era), as the model computes it -/
def dateOfDoe (era : Int) (doe : Nat) : Int × Nat × Nat :=
  let yoe := (doe - doe / 1460 + doe / 36524 - doe / 146096) / 365
  let doy := doe - (365 * yoe + yoe / 4 - yoe / 100)
  dateYD era yoe doy

/-- civil date of the day number `z` (days since 0000-03-01) -/
def dateOfDay (z : Int) : Int × Nat × Nat := dateOfDoe (z / 146097) (z - z / 146097 * 146097).toNat

theorem civilFromUnix_date (secs : Int) :
    (civilFromUnix secs).1 = (dateOfDay (secs / 86400 + 719468)).1 ∧
    (civilFromUnix secs).2.1 = (dateOfDay (secs / 86400 + 719468)).2.1 ∧
    (civilFromUnix secs).2.2.1 = (dateOfDay (secs / 86400 + 719468)).2.2 := ⟨rfl, rfl, rfl⟩

theorem civilFromUnix_tod (secs : Int) :
    (civilFromUnix secs).2.2.2.1 = (secs % 86400).toNat / 3600 ∧
    (civilFromUnix secs).2.2.2.2.1 = (secs % 86400).toNat / 60 % 60 ∧
    (civilFromUnix secs).2.2.2.2.2 = (secs % 86400).toNat % 60 := ⟨rfl, rfl, rfl⟩

theorem dateOfDoe_eq (era : Int) (y doy : Nat) (hy : y < 400) (hd : doy < 365 + leapEnd y) :
    dateOfDoe era (ys y + doy) = dateYD era y doy := by
  have h := yoeF_eq y doy hy hd
  unfold yoeF at h
  unfold dateOfDoe
  simp only [h]
  have : ys y + doy - (365 * y + y / 4 - y / 100) = doy := by unfold ys; omega
  rw [this]

theorem date_decomp (z : Int) :
    ∃ (era : Int) (y doy : Nat), z = era * 146097 + ((ys y + doy : Nat) : Int) ∧ y < 400 ∧ doy < 365 + leapEnd y ∧
      dateOfDay z = dateYD era y doy := by
  have hdoe : (z - z / 146097 * 146097).toNat < 146097 := by omega
  obtain ⟨y, doy, hy, he, hd⟩ := exists_year _ hdoe
  refine ⟨z / 146097, y, doy, ?_, hy, hd, ?_⟩
  · rw [← he]; omega
  · unfold dateOfDay; rw [he]; exact dateOfDoe_eq _ y doy hy hd

theorem dateYD_doy_le (y doy : Nat) (hd : doy < 365 + leapEnd y) : doy ≤ 365 := by
  unfold leapEnd at hd; split at hd <;> omega

theorem dateYD_month_day (era : Int) (y doy : Nat) (h : doy ≤ 365) :
    1 ≤ (dateYD era y doy).2.1 ∧ (dateYD era y doy).2.1 ≤ 12 ∧
    1 ≤ (dateYD era y doy).2.2 ∧ (dateYD era y doy).2.2 ≤ 31 := by
  unfold dateYD
  simp only
  split <;> omega

theorem daysIn_eq (m Y : Nat) :
    daysIn m Y = if m = 2 then (if Y % 4 = 0 ∧ (Y % 100 ≠ 0 ∨ Y % 400 = 0) then 29 else 28)
      else if (m = 4 ∨ m = 6 ∨ m = 9 ∨ m = 11) then 30 else 31 := by
  unfold daysIn isLeap
  simp only [beq_iff_eq, Bool.and_eq_true, Bool.or_eq_true, bne_iff_ne, ne_eq, or_assoc]

theorem dateYD_valid (era : Int) (y doy : Nat) (_hy : y < 400) (hd : doy < 365 + leapEnd y)
    (hpos : 0 ≤ (dateYD era y doy).1) :
    1 ≤ (dateYD era y doy).2.2 ∧
    (dateYD era y doy).2.2 ≤ daysIn (dateYD era y doy).2.1 (dateYD era y doy).1.toNat := by
  refine ⟨by unfold dateYD; simp only; omega, ?_⟩
  rw [daysIn_eq]
  unfold dateYD at hpos ⊢
  simp only at hpos ⊢
  unfold leapEnd at hd
  have hmp : (5 * doy + 2) / 153 ≤ 11 := by split at hd <;> omega
  generalize hmpe : (5 * doy + 2) / 153 = mp at *
  have hcases : mp = 0 ∨ mp = 1 ∨ mp = 2 ∨ mp = 3 ∨ mp = 4 ∨ mp = 5 ∨ mp = 6 ∨ mp = 7 ∨ mp = 8 ∨ mp = 9 ∨
      mp = 10 ∨ mp = 11 := by omega
  rcases hcases with rfl | rfl | rfl | rfl | rfl | rfl | rfl | rfl | rfl | rfl | rfl | rfl
  all_goals simp only [Nat.reduceLT, Nat.reduceAdd, Nat.reduceSub, Nat.reduceLeDiff, Nat.reduceMul, Nat.reduceDiv,
    Nat.reduceEqDiff, if_true, if_false, or_false, or_true] at hpos ⊢
  -- only February (the last case) depends on the leap year
  rotate_right
  · split at hd
    · rw [if_pos (by omega)]
      omega
    · split <;> omega
  all_goals
    have := dateYD_doy_le y doy hd
    clear hd hpos
    omega

def dateLt (a b : Int × Nat × Nat) : Prop :=
  a.1 < b.1 ∨ a.1 = b.1 ∧ (a.2.1 < b.2.1 ∨ a.2.1 = b.2.1 ∧ a.2.2 < b.2.2)

/-- January and February (March-based months 10 and 11) belong to the next civil year -/
theorem month_carry (mp : Nat) (h : mp ≤ 11) :
    (if (if mp < 10 then mp + 3 else mp - 9) ≤ 2 then (1 : Int) else 0) = if mp < 10 then 0 else 1 := by
  split <;> split <;> omega

theorem dateYD_lt (era1 era2 : Int) (y1 y2 doy1 doy2 : Nat) (h1 : doy1 ≤ 365) (h2 : doy2 ≤ 365)
    (h : era1 * 400 + y1 < era2 * 400 + y2 ∨ (era1 * 400 + y1 = era2 * 400 + (y2 : Int) ∧ doy1 < doy2)) :
    dateLt (dateYD era1 y1 doy1) (dateYD era2 y2 doy2) := by
  unfold dateLt dateYD
  simp only
  have hm1 : (5 * doy1 + 2) / 153 ≤ 11 := by omega
  have hm2 : (5 * doy2 + 2) / 153 ≤ 11 := by omega
  have hmono : doy1 < doy2 → (5 * doy1 + 2) / 153 ≤ (5 * doy2 + 2) / 153 := by omega
  rw [month_carry _ hm1, month_carry _ hm2]
  generalize hg1 : (5 * doy1 + 2) / 153 = mp1 at *
  generalize hg2 : (5 * doy2 + 2) / 153 = mp2 at *
  by_cases c1 : mp1 < 10 <;> by_cases c2 : mp2 < 10 <;> simp only [c1, c2, if_true, if_false] <;> omega

theorem key_lt (era1 era2 : Int) (y1 y2 doy1 doy2 : Nat) (hy1 : y1 < 400) (hy2 : y2 < 400)
    (hd1 : doy1 < 365 + leapEnd y1) (hd2 : doy2 < 365 + leapEnd y2)
    (h : era1 * 146097 + ((ys y1 + doy1 : Nat) : Int) < era2 * 146097 + ((ys y2 + doy2 : Nat) : Int)) :
    era1 * 400 + y1 < era2 * 400 + y2 ∨ (era1 * 400 + y1 = era2 * 400 + (y2 : Int) ∧ doy1 < doy2) := by
  have b1 := ys_doy_lt y1 doy1 hy1 hd1
  have b2 := ys_doy_lt y2 doy2 hy2 hd2
  by_cases he : era1 = era2
  · subst he
    have hlt : ys y1 + doy1 < ys y2 + doy2 := by omega
    by_cases hy : y1 = y2
    · subst hy; right; exact ⟨rfl, by omega⟩
    · left
      have : y1 < y2 := by
        rcases Nat.lt_or_gt_of_ne hy with h' | h'
        · exact h'
        · have := ys_doy_lt_succ y2 doy2 hd2 (by omega)
          have := ys_mono (show y2 + 1 ≤ y1 from h')
          omega
      omega
  · left
    have : era1 < era2 := by omega
    omega

theorem date_mono (z1 z2 : Int) (h : z1 < z2) : dateLt (dateOfDay z1) (dateOfDay z2) := by
  obtain ⟨e1, y1, d1, hz1, hy1, hd1, r1⟩ := date_decomp z1
  obtain ⟨e2, y2, d2, hz2, hy2, hd2, r2⟩ := date_decomp z2
  rw [r1, r2]
  apply dateYD_lt e1 e2 y1 y2 d1 d2 (dateYD_doy_le y1 d1 hd1) (dateYD_doy_le y2 d2 hd2)
  apply key_lt e1 e2 y1 y2 d1 d2 hy1 hy2 hd1 hd2
  rw [← hz1, ← hz2]; exact h

theorem civilFromUnix_validDate_aux (secs : Int) (hpos : 0 ≤ (civilFromUnix secs).1) :
    1 ≤ (civilFromUnix secs).2.2.1 ∧
    (civilFromUnix secs).2.2.1 ≤ daysIn (civilFromUnix secs).2.1 (civilFromUnix secs).1.toNat := by
  obtain ⟨e1, e2, e3⟩ := civilFromUnix_date secs
  obtain ⟨era, y, doy, _, hy, hd, r⟩ := date_decomp (secs / 86400 + 719468)
  rw [e1] at hpos
  rw [e1, e2, e3]
  rw [r] at hpos ⊢
  exact dateYD_valid era y doy hy hd hpos

theorem tod_lt (r1 r2 : Nat) (h : r1 < r2) (_h2 : r2 < 86400) :
    r1 / 3600 < r2 / 3600 ∨ r1 / 3600 = r2 / 3600 ∧
      (r1 / 60 % 60 < r2 / 60 % 60 ∨ r1 / 60 % 60 = r2 / 60 % 60 ∧ r1 % 60 < r2 % 60) := by
  omega

theorem civilFromUnix_mono_aux (s1 s2 : Int) (h : s1 < s2)
    (p1 : 0 ≤ (civilFromUnix s1).1) (p2 : 0 ≤ (civilFromUnix s2).1) :
    civilLt ((civilFromUnix s1).1.toNat, (civilFromUnix s1).2)
      ((civilFromUnix s2).1.toNat, (civilFromUnix s2).2) := by
  obtain ⟨a1, a2, a3⟩ := civilFromUnix_date s1
  obtain ⟨b1, b2, b3⟩ := civilFromUnix_date s2
  obtain ⟨t1, t2, t3⟩ := civilFromUnix_tod s1
  obtain ⟨u1, u2, u3⟩ := civilFromUnix_tod s2
  unfold civilLt
  simp only
  rw [a1] at p1
  rw [b1] at p2
  rw [a1, a2, a3, b1, b2, b3, t1, t2, t3, u1, u2, u3]
  by_cases hday : s1 / 86400 = s2 / 86400
  · -- same day: equal dates, earlier time of day
    rw [hday]
    exact .inr ⟨rfl, .inr ⟨rfl, .inr ⟨rfl, tod_lt _ _ (by omega) (by omega)⟩⟩⟩
  · -- earlier day: the dates already differ
    rcases date_mono (s1 / 86400 + 719468) (s2 / 86400 + 719468) (by omega) with hm | ⟨e, hm | ⟨e', hm⟩⟩
    · exact .inl (by omega)
    · exact .inr ⟨by rw [e], .inl hm⟩
    · exact .inr ⟨by rw [e], .inr ⟨e', .inl hm⟩⟩

theorem date_first : dateOfDay 306 = (1, 1, 1) := by decide
theorem date_last : dateOfDay 3652364 = (9999, 12, 31) := by decide

/-- The year bounds come from monotonicity and the dates of the first and the last day. -/
theorem civilFromUnix_range_aux (secs : Int) (h1 : -62135596800 ≤ secs) (h2 : secs ≤ 253402300799) :
    1 ≤ (civilFromUnix secs).1 ∧ (civilFromUnix secs).1 ≤ 9999 ∧
    1 ≤ (civilFromUnix secs).2.1 ∧ (civilFromUnix secs).2.1 ≤ 12 ∧
    1 ≤ (civilFromUnix secs).2.2.1 ∧ (civilFromUnix secs).2.2.1 ≤ 31 ∧
    (civilFromUnix secs).2.2.2.1 < 24 ∧ (civilFromUnix secs).2.2.2.2.1 < 60 ∧ (civilFromUnix secs).2.2.2.2.2 < 60 := by
  obtain ⟨e1, e2, e3⟩ := civilFromUnix_date secs
  obtain ⟨t1, t2, t3⟩ := civilFromUnix_tod secs
  rw [e1, e2, e3, t1, t2, t3]
  generalize hz : secs / 86400 + 719468 = z
  have hlo : 1 ≤ (dateOfDay z).1 := by
    rcases Int.lt_or_eq_of_le (show 306 ≤ z by omega) with h | h
    · have := date_mono 306 z h
      rw [date_first] at this; unfold dateLt at this; omega
    · rw [← h, date_first]; decide
  have hhi : (dateOfDay z).1 ≤ 9999 := by
    rcases Int.lt_or_eq_of_le (show z ≤ 3652364 by omega) with h | h
    · have := date_mono z 3652364 h
      rw [date_last] at this; unfold dateLt at this; omega
    · rw [h, date_last]; decide
  obtain ⟨era, y, doy, _, _, hd, r⟩ := date_decomp z
  rw [r] at hlo hhi ⊢
  have := dateYD_month_day era y doy (dateYD_doy_le y doy hd)
  omega

theorem formatUnix_eq (secs : Int) (h1 : -62135596800 ≤ secs) (h2 : secs ≤ 253402300799) :
    formatUnix secs = fmtTime (civilFromUnix secs).1.toNat (civilFromUnix secs).2.1 (civilFromUnix secs).2.2.1
      (civilFromUnix secs).2.2.2.1 (civilFromUnix secs).2.2.2.2.1 (civilFromUnix secs).2.2.2.2.2 := by
  have hy : ¬ (civilFromUnix secs).1 < 0 := by have := (civilFromUnix_range_aux secs h1 h2).1; omega
  unfold formatUnix
  simp only [hy, if_false]

theorem timeValid_formatUnix_aux (secs : Int) (h1 : -62135596800 ≤ secs) (h2 : secs ≤ 253402300799) :
    timeValid (formatUnix secs) = true := by
  have hr := civilFromUnix_range_aux secs h1 h2
  have hv := civilFromUnix_validDate_aux secs (by omega)
  rw [formatUnix_eq secs h1 h2]
  exact timeValid_fmtTime_aux (by omega) ⟨hr.2.2.1, hr.2.2.2.1⟩ hv hr.2.2.2.2.2.2.1 hr.2.2.2.2.2.2.2.1 hr.2.2.2.2.2.2.2.2

theorem formatUnix_mono_aux (s1 s2 : Int) (h11 : -62135596800 ≤ s1) (h12 : s1 ≤ 253402300799)
    (h21 : -62135596800 ≤ s2) (h22 : s2 ≤ 253402300799) (h : s1 < s2) :
    bytesLt (formatUnix s1) (formatUnix s2) = true := by
  have r1 := civilFromUnix_range_aux s1 h11 h12
  have r2 := civilFromUnix_range_aux s2 h21 h22
  have hm := civilFromUnix_mono_aux s1 s2 h (by omega) (by omega)
  rw [formatUnix_eq s1 h11 h12, formatUnix_eq s2 h21 h22]
  exact ((fmtTime_mono_aux ⟨by omega, by omega, by omega, by omega, by omega, by omega⟩
    ⟨by omega, by omega, by omega, by omega, by omega, by omega⟩).2).mpr hm

end ModVerif.Proofs.Pseudo
