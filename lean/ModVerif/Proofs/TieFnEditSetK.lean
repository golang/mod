/-
  `File.SetRequireSeparateIndirect`: loop 4 of the generated function (the loop over the existing `f.Require`) = the model's
  `sepLoop`, as a simulation on a represented file.
-/
import ModVerif.Proofs.TieFnEditSetJ
namespace ModVerif.Tie.FnEditSetK
open ModVerif ModVerif.GoRt ModVerif.Generated.Edit ModVerif.Tie.FnEditRep ModVerif.Tie.FnEditTreeA ModVerif.Tie.FnEditLoop ModVerif.Tie.FnEditSetA
  ModVerif.Tie.FnEditSetB ModVerif.Tie.FnEditSetD ModVerif.Tie.FnEditSetE ModVerif.Tie.FnEditSetF ModVerif.Tie.FnEditSetG
  ModVerif.Tie.FnEditSetH ModVerif.Tie.FnEditSetI ModVerif.Tie.FnEditSetJ
open ModVerif.Modfile.Edit (EFile Want treeIds appendToBlock headIs mkLine setIndirectLine setVersionLine moveExisting SepCtx sepLoop
  inBlockOrig clearedRequire)

structure LtbOK (ltb : List (Int × Int)) (ctx : SepCtx) (dB iB : Int) : Prop where
  direct : ∀ lid : Nat, decide ((mapGet ltb (lid : Int) (0 : Int)).1 = dB) = inBlockOrig ctx lid ctx.directOrig
  indirect : ∀ lid : Nat, decide ((mapGet ltb (lid : Int) (0 : Int)).1 = iB) = inBlockOrig ctx lid ctx.indirectOrig

theorem NeedRel_ptrs {objs objs' : List Require} : ∀ {np : List (Bytes × Int)} {ws : List Want},
    (∀ kp ∈ np, ∀ v, heapGet objs kp.2 = .ok v → heapGet objs' kp.2 = .ok v) → NeedRel objs np ws → NeedRel objs' np ws
  | [], [], _, _ => trivial
  | kp :: _, _ :: _, ho, r =>
    ⟨⟨r.1.1, ho kp List.mem_cons_self _ r.1.2⟩, NeedRel_ptrs (fun q hq => ho q (List.mem_cons_of_mem _ hq)) r.2⟩
  | [], _ :: _, _, r => r.elim
  | _ :: _, [], _, r => r.elim

theorem NeedRel_setOther {objs : List Require} {np : List (Bytes × Int)} {ws : List Want} (r : NeedRel objs np ws) {p : Int}
    {w : Require} (hp : heapGet objs p = .ok w) (hne : ∀ kp ∈ np, kp.2 ≠ p) (v : Require) :
    NeedRel (objs.set (p.toNat - 1) v) np ws :=
  NeedRel_ptrs (fun kp hkp u hu => by rw [heapGet_listSet_other _ hp (hne kp hkp)]; exact hu) r

theorem mapGet_mem {np : List (Bytes × Int)} {k : Bytes} (h : (mapGet np k (0 : Int)).1 ≠ 0) :
    (k, (mapGet np k (0 : Int)).1) ∈ np := by
  unfold GoRt.mapGet at h ⊢
  cases hf : np.find? (fun p => decide (p.1 = k)) with
  | none => rw [hf] at h; exact absurd rfl h
  | some q =>
    have hq := List.mem_of_find?_eq_some hf
    have hk : q.1 = k := by simpa using List.find?_some hf
    simp only
    rw [← hk]; exact hq

/-- the two steps `r.setVersion(v)`, `r.setIndirect(b)` with the intermediate heap -/
def verHeap (h : Heap) (p : Int) (rq : Modfile.Require) (l : Modfile.Line) (v : Bytes) : Heap :=
  { setLineH h (rq.lineId : Int) (setVersionLine v l) with
    requires := h.requires.set (p.toNat - 1) (requireG { rq with mod := { rq.mod with version := v } }) }

def bothHeap (h : Heap) (p : Int) (rq : Modfile.Require) (l : Modfile.Line) (v : Bytes) (b : Bool) : Heap :=
  { setLineH h (rq.lineId : Int) (setIndirectLine b (setVersionLine v l)) with
    requires := h.requires.set (p.toNat - 1) (requireG { rq with mod := { rq.mod with version := v }, indirect := b }) }

theorem setIndirect_after (hIdx : IndirectIdxOK) {h : Heap} {p : Int} {rq : Modfile.Require} {l : Modfile.Line} (v : Bytes) (b : Bool)
    (hr : heapGet h.requires p = .ok (requireG rq)) (hg : heapGet h.lines (rq.lineId : Int) = .ok (lineG l)) :
    Require_setIndirect p b (verHeap h p rq l v) = .ok ((), bothHeap h p rq l v b) := by
  have hr1 : heapGet (verHeap h p rq l v).requires p = .ok (requireG { rq with mod := { rq.mod with version := v } }) :=
    heapGet_listSet_same _ hr
  have hg1 : heapGet (verHeap h p rq l v).lines
      (({ rq with mod := { rq.mod with version := v } } : Modfile.Require).lineId : Int) = .ok (lineG (setVersionLine v l)) :=
    heapGet_setLineH_same hg _
  rw [Require_setIndirect_eq b hr1 hg1 (fun hb hi com rest hs hne => hIdx _ hi com rest hs hne)]
  simp only [verHeap, bothHeap, setLineH, List.set_set]

def movedReq (rq : Modfile.Require) (w : Want) (next : Nat) : Modfile.Require :=
  { rq with mod := { rq.mod with version := w.vers }, indirect := w.indirect, lineId := next }

theorem treeIds_keep (syn : Modfile.FileSyntax) (hnd : (treeIds syn.stmts).Nodup) (id : Nat) (w : Want) :
    treeIds (syn.updateLine id (keepLine w)).stmts = treeIds syn.stmts :=
  Modfile.Edit.treeIds_updateLine syn id (keepLine w) hnd (IdEquiv_keepLine w).id_eq

theorem treeIds_removed (syn : Modfile.FileSyntax) (hnd : (treeIds syn.stmts).Nodup) (id : Nat) :
    treeIds (Modfile.Edit.markRemoved syn id).stmts = treeIds syn.stmts :=
  Modfile.Edit.treeIds_updateLine syn id markRemovedLine hnd (fun _ => rfl)

/-- the statement index of the block an existing requirement that is kept is moved to -/
def moveTo (ctx : SepCtx) (w : Want) (i : Nat) : Option Nat :=
  if w.indirect && (ctx.oneFlat || inBlockOrig ctx i ctx.directOrig) then some ctx.indirectIdx
  else if !w.indirect && (ctx.oneFlat || inBlockOrig ctx i ctx.indirectOrig) then some ctx.directIdx
  else none

/-- one iteration of `sepLoop`; the state is the list of kept paths, the tree and the id counter -/
def sepStep (ctx : SepCtx) (need : List Want) (r : Modfile.Require) (t : List Bytes × Modfile.FileSyntax × Nat) :
    Except Modfile.Edit.EditErr (Modfile.Require × List Bytes × Modfile.FileSyntax × Nat) :=
  (Modfile.Edit.deref r.lineId).map fun i =>
    match need.find? (·.path == r.mod.path) with
    | some w =>
      if t.1.contains r.mod.path then (clearedRequire, t.1, Modfile.Edit.markRemoved t.2.1 i, t.2.2)
      else match moveTo ctx w i with
        | some idx => (movedReq r w t.2.2, r.mod.path :: t.1, moveExisting (t.2.1.updateLine i (keepLine w)) i idx t.2.2,
            t.2.2 + 1)
        | none => (keptReq r w, r.mod.path :: t.1, t.2.1.updateLine i (keepLine w), t.2.2)
    | none => (clearedRequire, t.1, Modfile.Edit.markRemoved t.2.1 i, t.2.2)

theorem sepLoop_stepLoop (ctx : SepCtx) (need : List Want) : ∀ (rs : List Modfile.Require) (hv : List Bytes)
    (syn : Modfile.FileSyntax) (next : Nat), sepLoop ctx need rs hv syn next = stepLoop (sepStep ctx need) rs (hv, syn, next)
  | [], hv, syn, next => rfl
  | r :: rs, hv, syn, next => by
    have ih := sepLoop_stepLoop ctx need rs
    rw [stepLoop, sepLoop, sepStep]
    cases hd : Modfile.Edit.deref r.lineId with
    | error er =>
      cases need.find? (·.path == r.mod.path) with
      | none => rfl
      | some w => cases hv.contains r.mod.path <;> rfl
    | ok i =>
      cases need.find? (·.path == r.mod.path) with
      | none => simp only [bind, Except.bind, Except.map, ih]
      | some w =>
        cases hv.contains r.mod.path
        · simp only [bind, Except.bind, Except.map, Bool.false_eq_true, if_false, moveTo, ih]
          by_cases c1 : (w.indirect && (ctx.oneFlat || inBlockOrig ctx i ctx.directOrig)) = true
          · simp only [c1, if_true]; rfl
          · by_cases c2 : (!w.indirect && (ctx.oneFlat || inBlockOrig ctx i ctx.indirectOrig)) = true
            · simp only [c1, c2, if_true]; rfl
            · simp only [c1, c2]; rfl
        · simp only [bind, Except.bind, Except.map, if_true, ih]

/-- **loop 4 of `File.SetRequireSeparateIndirect`** (rule.go:1424: `for _, r := range f.Require`) is the model's `sepLoop` -/
theorem loop4_sim (hIdx : IndirectIdxOK) (isPrint : Int → Bool) (quote : Bytes → Bytes) (f : Int) {h : Heap} {o : File} {e0 : EFile}
    (ctx : SepCtx) {need : List Want} {np : List (Bytes × Int)} {ltb : List (Int × Int)} {dB iB : Int} {fo : FileSyntax}
    (hL : LtbOK ltb ctx dB iB) (hdi : fo.Stmt[ctx.directIdx]? = some (Expr.LineBlock dB))
    (hii : fo.Stmt[ctx.indirectIdx]? = some (Expr.LineBlock iB)) (hdis : ∀ kp ∈ np, kp.2 ∉ o.Require)
    {rqs : List Modfile.Require} {syn : Modfile.FileSyntax} {next : Nat} (R : RepFAt h o (mkE e0 rqs syn next))
    (hfile : heapGet h.files o.Syntax = .ok fo) (hN : NeedRel h.requires np need)
    (hT : ∀ rq ∈ rqs, rq.lineId ≠ 0 → rq.lineId ∈ treeIds syn.stmts) {fuel : Nat} (hf : rqs.length < fuel) :
    Sim (fun r b => b.1 = len o.Require ∧ RepFAt b.2.1 o (mkE e0 r.1 r.2.2.1 r.2.2.2) ∧ HaveRel b.2.2 r.2.1 ∧
        NeedRel b.2.1.requires np need ∧ b.2.1.mods = h.mods ∧ heapGet b.2.1.files o.Syntax = .ok fo)
      (sepLoop ctx need rqs [] syn next)
      (File_SetRequireSeparateIndirect_loop4 isPrint quote o.Require f ltb ctx.oneFlat dB iB np fuel 0 h []) := by
  rw [sepLoop_stepLoop]
  refine (range_sim (fun fuel i (s : Heap × List (Bytes × Int)) =>
      File_SetRequireSeparateIndirect_loop4 isPrint quote o.Require f ltb ctx.oneFlat dB iB np fuel i s.1 s.2)
    o.Require (sepStep ctx need)
    (fun done todo s t => RepFAt s.1 o (mkE e0 (done ++ todo) t.2.1 t.2.2) ∧ HaveRel s.2 t.1 ∧ NeedRel s.1.requires np need ∧
      s.1.mods = h.mods ∧ heapGet s.1.files o.Syntax = .ok fo ∧ ∀ rq ∈ todo, rq.lineId ≠ 0 → rq.lineId ∈ treeIds t.2.1.stmts) 0
    (fun fuel s => by unfold File_SetRequireSeparateIndirect_loop4; simp [len_eq]) ?_
    (xs := rqs) (s := (h, [])) (t := ([], syn, next)) (fuel := fuel) ⟨R, HaveRel.nil, hN, rfl, hfile, hT⟩
    (REntsL.length R.require.rel) (by omega)).imp
    (fun r b _ q => ⟨q.1, by simpa using q.2.1, q.2.2.1, q.2.2.2.1, q.2.2.2.2.1, q.2.2.2.2.2.1⟩)
  intro fuel done rq todo ⟨h', hp⟩ ⟨hv, syn, next⟩ p ⟨R, hH, hN, hm, hfile, hT⟩ hgetp _
  dsimp only at R hH hN hm hfile hT
  obtain ⟨hobj, hle⟩ := R.require.get hgetp (getElem?_cursor _ _ _)
  have hcur := idxL_of_get hgetp
  have hlt := lt_len_of_get hgetp
  have hnp_ne : ∀ kp ∈ np, kp.2 ≠ p := fun kp hkp e => hdis kp hkp (e ▸ List.mem_of_getElem? hgetp)
  obtain ⟨es, rsyn⟩ := R.syn
  have hnd : (treeIds syn.stmts).Nodup := rsyn.nodupL
  have hTrest : ∀ rq' ∈ todo, rq'.lineId ≠ 0 → rq'.lineId ∈ treeIds syn.stmts :=
    fun rq' hrq' => hT rq' (List.mem_cons_of_mem _ hrq')
  have hmg := hN.mapGet rq.mod.path
  have hhave := hH.mapGet rq.mod.path
  unfold sepStep
  rw [File_SetRequireSeparateIndirect_loop4]
  simp only [hlt, decide_true, if_true, hcur, bind, Except.bind, hobj]
  have hpe : (requireG rq).Mod.Path = rq.mod.path := rfl
  generalize (requireG rq).Mod.Path = path at hpe ⊢
  subst hpe
  by_cases h0 : rq.lineId = 0
  · -- nil Syntax: both sides panic
    have hd : Modfile.Edit.deref rq.lineId = .error .nilDeref := by simp [Modfile.Edit.deref, h0, Modfile.Edit.nilId]
    simp only [hd, Except.map]
    cases hfind : need.find? (·.path == rq.mod.path) with
    | none =>
      rw [hfind] at hmg
      simp only [hmg, decide_true, Bool.true_or, if_true]
      rw [Require_markRemoved_nil hobj h0]
    | some w =>
      rw [hfind] at hmg
      have hne0 : ¬ ((mapGet np rq.mod.path (0 : Int)).1 = 0) := by omega
      simp only [hne0, decide_false, Bool.false_or, hhave, Bool.not_not]
      cases hv.contains rq.mod.path with
      | true =>
        simp only [if_true]
        rw [Require_markRemoved_nil hobj h0]
      | false =>
        simp only [Bool.false_eq_true, if_false, hmg.2]
        rw [Require_setVersion_nil _ hobj h0]
  · have hd : Modfile.Edit.deref rq.lineId = .ok rq.lineId := by simp [Modfile.Edit.deref, h0, Modfile.Edit.nilId]
    obtain ⟨l, hl, hlid⟩ := R.linesG.ofId h0 hle
    simp only [hd, Except.map]
    -- the removal step (two of the three branches)
    have hremove : ∃ s' : Heap × List (Bytes × Int), (Require_markRemoved p h' >>= fun t =>
          File_SetRequireSeparateIndirect_loop4 isPrint quote o.Require f ltb ctx.oneFlat dB iB np fuel
            ((done.length : Int) + 1) t.2 hp) =
          File_SetRequireSeparateIndirect_loop4 isPrint quote o.Require f ltb ctx.oneFlat dB iB np fuel
            ((done.length : Int) + 1) s'.1 s'.2 ∧
        RepFAt s'.1 o (mkE e0 (done ++ [clearedRequire] ++ todo) (Modfile.Edit.markRemoved syn rq.lineId) next) ∧
        HaveRel s'.2 hv ∧ NeedRel s'.1.requires np need ∧ s'.1.mods = h.mods ∧ heapGet s'.1.files o.Syntax = .ok fo ∧
        ∀ rq' ∈ todo, rq'.lineId ≠ 0 → rq'.lineId ∈ treeIds (Modfile.Edit.markRemoved syn rq.lineId).stmts := by
      rw [Require_markRemoved_eq hobj hl]
      exact ⟨(_, hp), rfl, R.setReqLine hgetp IdEquiv_markRemoved hl _ (Nat.zero_le _), hH, NeedRel_setOther hN hobj hnp_ne _,
        hm, hfile, by intro rq' hrq' h0'; rw [treeIds_removed syn hnd]; exact hTrest rq' hrq' h0'⟩
    simp only [bind, Except.bind] at hremove
    cases hfind : need.find? (·.path == rq.mod.path) with
    | none =>
      rw [hfind] at hmg
      obtain ⟨s', hrun, hI⟩ := hremove
      refine ⟨s', ?_, hI⟩
      rw [← hrun]
      simp only [hmg, decide_true, Bool.true_or, if_true]
    | some w =>
      rw [hfind] at hmg
      have hne0 : ¬ ((mapGet np rq.mod.path (0 : Int)).1 = 0) := by omega
      cases hc : hv.contains rq.mod.path with
      | true =>
        simp only [if_true]
        obtain ⟨s', hrun, hI⟩ := hremove
        refine ⟨s', ?_, hI⟩
        rw [← hrun]
        simp only [hne0, decide_false, Bool.false_or, hhave, Bool.not_not, hc, if_true]
      | false =>
        -- the entry is kept
        simp only [Bool.false_eq_true, if_false]
        have hnptr : (mapGet np rq.mod.path (0 : Int)).1 ≠ p := hnp_ne _ (mapGet_mem (np := np) (k := rq.mod.path) hne0)
        have hn1 : heapGet (verHeap h' p rq l w.vers).requires (mapGet np rq.mod.path (0 : Int)).1 =
            .ok (requireG (wantReq w)) := by
          show heapGet (h'.requires.set (p.toNat - 1) _) _ = _
          rw [heapGet_listSet_other _ hobj hnptr]; exact hmg.2
        have hn2 : heapGet (bothHeap h' p rq l w.vers w.indirect).requires (mapGet np rq.mod.path (0 : Int)).1 =
            .ok (requireG (wantReq w)) := by
          show heapGet (h'.requires.set (p.toNat - 1) _) _ = _
          rw [heapGet_listSet_other _ hobj hnptr]; exact hmg.2
        have hp2 : heapGet (bothHeap h' p rq l w.vers w.indirect).requires p = .ok (requireG (keptReq rq w)) :=
          heapGet_listSet_same _ hobj
        have hver : Require_setVersion p w.vers h' = .ok ((), verHeap h' p rq l w.vers) := Require_setVersion_eq w.vers hobj hl
        have hind := setIndirect_after hIdx w.vers w.indirect hobj hl
        have R3 : RepFAt (bothHeap h' p rq l w.vers w.indirect) o
            (mkE e0 (done ++ [keptReq rq w] ++ todo) (syn.updateLine rq.lineId (keepLine w)) next) :=
          R.setReqLine hgetp (IdEquiv_keepLine w) hl (keptReq rq w) hle
        have hN3 : NeedRel (bothHeap h' p rq l w.vers w.indirect).requires np need := NeedRel_setOther hN hobj hnp_ne _
        have hH3 : HaveRel (mapSet hp rq.mod.path p) (rq.mod.path :: hv) := hH.mapSet _ _ (heapGet_pos hobj) hc
        have hT3 : ∀ rq' ∈ todo, rq'.lineId ≠ 0 → rq'.lineId ∈ treeIds (syn.updateLine rq.lineId (keepLine w)).stmts := by
          intro rq' hrq' h0'; rw [treeIds_keep syn hnd]; exact hTrest rq' hrq' h0'
        have hnd3 : (treeIds (syn.updateLine rq.lineId (keepLine w)).stmts).Nodup := by rw [treeIds_keep syn hnd]; exact hnd
        -- the two tests
        have htest : ∀ (b : Bool) (B : Int) (orig : Option Nat),
            decide ((mapGet ltb (rq.lineId : Int) (0 : Int)).1 = B) = inBlockOrig ctx rq.lineId orig →
            (if b then (if ctx.oneFlat then (pure true : M Bool) else
                (heapGet (bothHeap h' p rq l w.vers w.indirect).requires p >>= fun t =>
                  pure (decide ((mapGet ltb t.Syntax (0 : Int)).1 = B)))) else pure false) =
              .ok (b && (ctx.oneFlat || inBlockOrig ctx rq.lineId orig)) := by
          intro b B orig hB
          cases b
          · rfl
          · cases ctx.oneFlat
            · simp only [if_true, Bool.false_eq_true, if_false, hp2, bind, Except.bind, pure, Except.pure, Bool.true_and,
                Bool.false_or]
              exact congrArg Except.ok hB
            · rfl
        have ht1 := htest w.indirect dB ctx.directOrig (hL.direct rq.lineId)
        have ht2 := htest (!w.indirect) iB ctx.indirectOrig (hL.indirect rq.lineId)
        simp only [bind, Except.bind] at ht1 ht2
        have hwv : (requireG (wantReq w)).Mod.Version = w.vers := rfl
        have hwi : (requireG (wantReq w)).Indirect = w.indirect := rfl
        simp only [hne0, decide_false, Bool.false_or, hhave, Bool.not_not, hc, Bool.false_eq_true, if_false, hmg.2, hwv, hver,
          hn1, hwi, hind, hn2, ht1, ht2, moveTo]
        -- a move to the block at statement index `idx` with pointer `bp`
        have hmove : ∀ (idx : Nat) (bp : Int), fo.Stmt[idx]? = some (Expr.LineBlock bp) →
            ∃ s' : Heap × List (Bytes × Int), (File_SetRequireSeparateIndirect_moveReq isPrint quote fuel p bp
                (bothHeap h' p rq l w.vers w.indirect) >>= fun t =>
                File_SetRequireSeparateIndirect_loop4 isPrint quote o.Require f ltb ctx.oneFlat dB iB np fuel
                  ((done.length : Int) + 1) t.2 (mapSet hp rq.mod.path p)) =
                File_SetRequireSeparateIndirect_loop4 isPrint quote o.Require f ltb ctx.oneFlat dB iB np fuel
                  ((done.length : Int) + 1) s'.1 s'.2 ∧
              RepFAt s'.1 o (mkE e0 (done ++ [movedReq rq w next] ++ todo)
                (moveExisting (syn.updateLine rq.lineId (keepLine w)) rq.lineId idx next) (next + 1)) ∧
              HaveRel s'.2 (rq.mod.path :: hv) ∧ NeedRel s'.1.requires np need ∧ s'.1.mods = h.mods ∧
              heapGet s'.1.files o.Syntax = .ok fo ∧ ∀ rq' ∈ todo, rq'.lineId ≠ 0 →
                rq'.lineId ∈ treeIds (moveExisting (syn.updateLine rq.lineId (keepLine w)) rq.lineId idx next).stmts := by
          intro idx bp hidx
          have hmem : rq.lineId ∈ treeIds (syn.updateLine rq.lineId (keepLine w)).stmts := by
            rw [treeIds_keep syn hnd]; exact hT rq List.mem_cons_self h0
          obtain ⟨l', hfl⟩ := findLine_of_mem hmem
          obtain ⟨blk, hb, hr', hl', R4⟩ := moveExisting_sim (rqs := done ++ [keptReq rq w] ++ todo) R3 (k := done.length) (r := p)
            (rq := keptReq rq w) (l := l') (idx := idx) (bp := bp) hgetp (by simp) hfl hfile hidx
          rw [moveReq_existing_eq isPrint quote fuel hr' h0 hl' hb]
          refine ⟨(_, _), rfl, ?_, hH3, NeedRel_setOther hN3 hr' hnp_ne _, hm, hfile, ?_⟩
          · have hset4 : (done ++ [keptReq rq w] ++ todo).set done.length { keptReq rq w with lineId := next } =
                done ++ [movedReq rq w next] ++ todo := by
              rw [List.append_assoc, List.singleton_append, set_cursor]; simp [movedReq, keptReq]
            rw [hset4] at R4
            exact R4
          · intro rq' hrq' h0'; exact mem_treeIds_moveExisting hnd3 _ _ _ (hT3 rq' hrq' h0')
        simp only [bind, Except.bind] at hmove
        by_cases c1 : (w.indirect && (ctx.oneFlat || inBlockOrig ctx rq.lineId ctx.directOrig)) = true
        · simp only [c1, if_true]
          exact hmove ctx.indirectIdx iB hii
        · by_cases c2 : (!w.indirect && (ctx.oneFlat || inBlockOrig ctx rq.lineId ctx.indirectOrig)) = true
          · simp only [c1, c2, if_true]
            exact hmove ctx.directIdx dB hdi
          · simp only [c1, c2]
            exact ⟨(_, _), rfl, R3, hH3, hN3, hm, hfile, hT3⟩

end ModVerif.Tie.FnEditSetK
