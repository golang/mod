/-
  What the second loop of `checkFiles` has established about the files it accepted (`ValidInv`), from one invariant about
  the collision table: it holds pairwise compatible registrations, those of the accepted files among them (`RegInv`).
-/
import ModVerif.Spec.ZipSpec
import ModVerif.Proofs.ZipCheckFiles
import ModVerif.Proofs.ZipAChain
namespace ModVerif.Proofs.Zip
open ModVerif ModVerif.PathClean ModVerif.Zip ModVerif.ZipSpec ModVerif.Proofs.ZipA

theorem account_cc (s : St) (n : Int) : (s.account n).cc = s.cc ∧ (s.account n).validFiles = s.validFiles := by
  unfold St.account; split <;> exact ⟨rfl, rfl⟩

theorem stepFile_valid_cc (E : Env) (ge124 : Bool) (hg : List Bytes) (s : St) (f : FileInfo) :
    ((stepFile E ge124 hg s f).validFiles = s.validFiles ∧
      ((stepFile E ge124 hg s f).cc = s.cc ∨
       (stepFile E ge124 hg s f).cc = (ccCheckTop E.toFold s.cc f.path (f.mode == .dir)).1)) ∨
    ((stepFile E ge124 hg s f).validFiles = s.validFiles ++ [f] ∧ NameOK E ge124 hg f ∧
      (ccCheckTop E.toFold s.cc f.path false).2 = none ∧
      (stepFile E ge124 hg s f).cc = (ccCheckTop E.toFold s.cc f.path false).1) := by
  have ho := stepFile_out E ge124 hg s f
  generalize stepFile E ge124 hg s f = s' at ho ⊢
  cases ho with
  | early om r _ => exact Or.inl ⟨(addError_valid _ _ _ _).2, Or.inl (addError_cc _ _ _ _)⟩
  | late _ om r _ => exact Or.inl ⟨(addError_valid _ _ _ _).2, Or.inr (addError_cc _ _ _ _)⟩
  | sized hreg r =>
    have hnd : (f.mode == Mode.dir) = false := by rw [hreg]; rfl
    rw [hnd]
    exact Or.inl ⟨by rw [(addError_valid _ _ _ _).2, (account_cc _ _).2]; rfl,
      Or.inr (by rw [addError_cc, (account_cc _ _).1]; rfl)⟩
  | valid ok hnone =>
    exact Or.inr ⟨by show (St.account _ _).validFiles ++ [f] = _; rw [(account_cc _ _).2]; rfl, ok, hnone,
      by show (St.account _ _).cc = _; rw [(account_cc _ _).1]; rfl⟩

structure ValidInv (E : Env) (ge124 : Bool) (hg : List Bytes) (s : St) : Prop where
  nameOK : ∀ g ∈ s.validFiles, NameOK E ge124 hg g
  registered : ∀ g ∈ s.validFiles, (s.cc.find (E.toFold g.path)).isSome
  foldDistinct : s.validFiles.Pairwise (fun a b => E.toFold a.path ≠ E.toFold b.path)

/-- what the valid files register with the collision checker -/
def fileRegs (vs : List FileInfo) : List (Bytes × Bool) := chains (vs.map fun f => (f.path, false))

theorem fileRegs_append (a b : List FileInfo) : fileRegs (a ++ b) = fileRegs a ++ fileRegs b := by
  simp [fileRegs, chains]

def RegInv (E : Env) (ge124 : Bool) (hg : List Bytes) (s : St) : Prop :=
  ∃ R, Tab E.toFold s.cc R ∧ (fileRegs s.validFiles).Sublist R ∧
    ∀ f ∈ s.validFiles, NameOK E ge124 hg f ∧ fuelOK (f.path.length + 1) f.path

theorem stepFile_regInv (E : Env) (ge124 : Bool) (hg : List Bytes) (s : St) (f : FileInfo)
    (h : RegInv E ge124 hg s) : RegInv E ge124 hg (stepFile E ge124 hg s f) := by
  obtain ⟨R, ht, hs, hf⟩ := h
  rcases stepFile_valid_cc E ge124 hg s f with ⟨hv, hcc | hcc⟩ | ⟨hv, hok, hnone, hcc⟩
  · exact ⟨R, by rw [hcc]; exact ht, by rw [hv]; exact hs, by rw [hv]; exact hf⟩
  · obtain ⟨l, hl⟩ := (ccCheck_tab (f.path.length + 1) f.path (f.mode == .dir) ht).2.2
    exact ⟨R ++ l, by rw [hcc]; exact hl, by rw [hv]; exact hs.trans (List.sublist_append_left _ _),
      by rw [hv]; exact hf⟩
  · obtain ⟨a, b, _⟩ := ccCheck_tab (f.path.length + 1) f.path false ht
    refine ⟨R ++ ZipB.regChain (f.path.length + 1) f.path false, by rw [hcc]; exact b hnone, ?_, ?_⟩
    · rw [hv, fileRegs_append]
      exact hs.append (by simp [fileRegs, chains])
    · rw [hv]; intro g hg'
      rcases List.mem_append.mp hg' with hg' | hg'
      · exact hf g hg'
      · rw [List.mem_singleton.mp hg']; exact ⟨hok, (a.mp hnone).1⟩

theorem checkFilesSt_regInv (E : Env) (ge124 : Bool) (files : List FileInfo) :
    RegInv E ge124 (prePass files).haveGoMod (checkFilesSt E files ge124) := by
  refine foldl_inv _ files _ (fun s f _ => stepFile_regInv E ge124 _ s f) ?_
  have h0 : (prePass files).st.validFiles = [] := prePass_validFiles files {} rfl
  have hcc : (prePass files).st.cc = [] := prePass_cc files {}
  exact ⟨[], by rw [hcc]; exact tab_nil, by rw [h0]; exact .slnil, by rw [h0]; exact fun _ h => (nomatch h)⟩

theorem checkFilesSt_validInv (E : Env) (ge124 : Bool) (files : List FileInfo) :
    ValidInv E ge124 (prePass files).haveGoMod (checkFilesSt E files ge124) := by
  obtain ⟨R, ht, hs, hf⟩ := checkFilesSt_regInv E ge124 files
  refine ⟨fun g hg => (hf g hg).1, fun g hg => ?_, ?_⟩
  · have hm : (g.path, false) ∈ R :=
      hs.subset ((heads_sublist _).subset (List.mem_map.mpr ⟨g, hg, rfl⟩))
    obtain ⟨e, he, e1, _⟩ := ht.rep _ hm
    have := find_isSome_of_mem he
    rwa [(ht.key e he).1, e1] at this
  · have := (ht.pw.sublist hs).sublist (heads_sublist _)
    rw [List.pairwise_map] at this
    exact this.imp fun hc e => by cases (hc e).2.1

end ModVerif.Proofs.Zip
