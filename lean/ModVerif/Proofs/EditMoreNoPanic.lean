/-
  **C15 `nilDeref_unreachable` with the bulk requirement setters**: on a state satisfying the invariant
  with every typed requirement live (a Cleanup has just run), SetRequire and SetRequireSeparateIndirect never dereference
  a nil `Syntax` pointer, and `ensureBlock` never hits its "unexpected statement" panic; whole sessions run to completion
  (`runOps_totalR`, for every view of the requirement lines).
-/
import ModVerif.Proofs.EditMoreSepG
import ModVerif.Proofs.EditRefineNoPanic
namespace ModVerif.Modfile.Edit
open ModVerif ModVerif.Modfile

theorem setRequireLoop_total : ∀ (rs : List Require) (need : List Want) (syn : FileSyntax), (∀ r ∈ rs, r.lineId ≠ 0) →
    ∃ res, setRequireLoop rs need syn = .ok res
  | [], _, _, _ => ⟨_, rfl⟩
  | r :: rs, need, syn, h => by
    rcases setRequireLoop_total rs (setReqStep need r syn).2.1 (setReqStep need r syn).2.2
      (fun x hx => h x (List.mem_cons_of_mem _ hx)) with ⟨res, hres⟩
    rw [setRequireLoop_cons, deref_ok (h r List.mem_cons_self), hres]
    exact ⟨_, rfl⟩

theorem sepLoop_total (ctx : SepCtx) (need : List Want) : ∀ (rs : List Require) (have_ : List Bytes) (syn : FileSyntax) (next : Nat),
    (∀ r ∈ rs, r.lineId ≠ 0) → ∃ res, sepLoop ctx need rs have_ syn next = .ok res
  | [], _, _, _, _ => ⟨_, rfl⟩
  | r :: rs, have_, syn, next, h => by
    rcases sepLoop_total ctx need rs (sepStep ctx need r have_ syn next).2.1 (sepStep ctx need r have_ syn next).2.2.1
      (sepStep ctx need r have_ syn next).2.2.2 (fun x hx => h x (List.mem_cons_of_mem _ hx)) with ⟨res, hres⟩
    rw [sepLoop_cons, deref_ok (h r List.mem_cons_self), hres]
    exact ⟨_, rfl⟩

theorem setRequire_total {V : RqView} (e : EFile) (req : List Want) (perm : List Want → List Want) (hg : GoodWant req) (hi : InvR V e)
    (hlive : ∀ r ∈ e.f.require, liveRq r = true) : ∃ e', setRequire e req perm = .ok e' := by
  unfold setRequire
  rw [needMap_distinct true req [] (by simpa using hg.1)]
  simp only [bind, Except.bind, List.nil_append]
  rcases setRequireLoop_total e.f.require req e.f.syn (fun r hr => hi.require_pos r hr (hlive r hr)) with ⟨res, hres⟩
  simp only [hres]
  exact ⟨_, rfl⟩

theorem sepTail_total (e : EFile) (req : List Want) (perm : List Want → List Want) (ctx : SepCtx) (stmts : List Expr)
    (hg : GoodWant req) (hpos : ∀ r ∈ e.f.require, r.lineId ≠ 0) : ∃ e', sepTail e req perm ctx stmts = .ok e' := by
  unfold sepTail
  rw [needMap_distinct false req [] (by simpa using hg.1)]
  simp only [bind, Except.bind, List.nil_append]
  rcases sepLoop_total ctx req e.f.require [] { e.f.syn with stmts := stmts } e.next hpos with ⟨res, hres⟩
  simp only [hres]
  exact ⟨_, rfl⟩

/-- `ensureBlock` is only called on an index the scan found (a live `require` line or a `require` block) -/
theorem setRequireSeparateIndirect_total {V : RqView} (e : EFile) (req : List Want) (perm : List Want → List Want) (hg : GoodWant req)
    (hi : InvR V e) (hlive : ∀ r ∈ e.f.require, liveRq r = true) : ∃ e', setRequireSeparateIndirect e req perm = .ok e' := by
  rw [setRSI_eq]
  rcases sepStage_total e.f.syn.stmts hi.tree.shape hi.view2 _ (scan_inv _) with ⟨s1, dI, dO, lI, sh, h1, s2, iI, iO, h2⟩
  simp only [h1, h2]
  exact sepTail_total e req perm _ s2 hg (fun r hr => hi.require_pos r hr (hlive r hr))

theorem applyMod_noPanicR_all {V : RqView} (e : EFile) (op : Op) (hv : ValidArgsR V e op) (hm : IsModOp op) (hi : InvR V e) :
    NoPanic (applyMod e op) := by
  cases op with
  | setRequire w r =>
    rcases setRequire_total e w (permOf r) hv.1 hi hv.2.1 with ⟨e', he'⟩
    exact ⟨.ok e', by simp only [applyMod, he'], fun err h => by cases h⟩
  | setRequireSeparateIndirect w r =>
    rcases setRequireSeparateIndirect_total e w (permOf r) hv.1 hi hv.2.1 with ⟨e', he'⟩
    exact ⟨.ok e', by simp only [applyMod, he'], fun err h => by cases h⟩
  | addUse d m => exact hm.elim
  | addNewUse d m => exact hm.elim
  | dropUse d => exact hm.elim
  | setUse w rev => exact hm.elim
  | _ => exact applyMod_noPanic e _ (by exact hv) hm hi

/-- the one totality theorem behind C15 `nilDeref_unreachable*`, for every view -/
theorem runOps_totalR {V : RqView} (ops : List Op) (e : EFile) (res0 : List Bool) (i : Nat)
    (hv : Along id applyMod (fun e op => ValidArgsR V e op ∧ IsModOp op) e ops) (hi : InvR V e) :
    ∃ e' res, runOps applyMod e ops res0 i = .done e' res ∧ InvR V e' := by
  have := Along.total (fun e _ => InvR V e) (fun e op _ hi hv =>
    ⟨applyMod_noPanicR_all e op hv.1 hv.2 hi, hi, fun e' ha => applyMod_invR_all e e' op hv.1 hi ha⟩) ops e res0 i hi hv
  simpa using this

theorem cleanup_require_live (e : EFile) : ∀ r ∈ (cleanup e).f.require, liveRq r = true := by
  intro r hr
  simp only [cleanup] at hr
  exact (List.mem_filter.1 hr).2

end ModVerif.Modfile.Edit
