/-
  Version fixer and `retract` directives: what the deferred `fixRetract` pass of an ACCEPTED strict parse leaves in the
  tree and in the typed retract list.

  A successful `parseVersionInterval path args (some fx)` returns tokens that are exactly the fixed bounds (`[v]` or
  `[ v , w ]`, followed by the untouched rest), and both bounds are results of `fx path`.  The line identities of the
  retract entries appended by the directive layer are a sublist of the line identities of the statements (hence pairwise
  distinct for a parsed tree).  So when the loop ends without an error, every resulting entry has a line of the resulting
  tree with its identity whose tokens are `keep ++ args'`, `args'` of the fixed shape for its interval.
-/
import ModVerif.Proofs.ModfileFmtRetReparse
namespace ModVerif.Proofs.ModfileFmtRet
open ModVerif ModVerif.Modfile ModVerif.Proofs.ModfileC20
open ModVerif.Proofs.ModfileFmtDir ModVerif.Proofs.ModfileEol ModVerif.Proofs.ModfileFmtTree

def FixedArgs (path : Bytes) (fx : Fixer) (args' : List Bytes) (vi : VersionInterval) (rest : List Bytes) : Prop :=
  (∃ s, fx path s = .ok vi.low) ∧ (∃ s, fx path s = .ok vi.high) ∧
  ((args' = vi.low :: rest ∧ vi.high = vi.low) ∨ args' = [91] :: vi.low :: [44] :: vi.high :: [93] :: rest)

theorem pv_fix_res {path : Bytes} {fx : Fixer} {t t' v : Bytes} (h : parseVersion path t (some fx) = (t', .ok v)) :
    ∃ s, fx path s = .ok v :=
  let ⟨s, _, _, hf, _⟩ := ModfileFmtFix.parseVersion_ok_iff.1 h
  ⟨s, ModfileFmtFix.effFix_some.1 hf⟩

theorem pvi_fix_shape (path : Bytes) (fx : Fixer) (args args' : List Bytes) (vi : VersionInterval) (rest : List Bytes)
    (h : parseVersionInterval path args (some fx) = (args', .ok (vi, rest))) : FixedArgs path fx args' vi rest := by
  rcases ModfileFmtFix.parseVersionInterval_shape h with ⟨t0, -, -, -, hpv, ehi, e'⟩ | ⟨t1, t2, -, hpv1, hpv2, e'⟩
  · exact ⟨pv_fix_res hpv, ehi ▸ pv_fix_res hpv, Or.inl ⟨e', ehi⟩⟩
  · exact ⟨pv_fix_res hpv1, pv_fix_res hpv2, Or.inr e'⟩

theorem verOK_ne_paren {v : Bytes} (h : VerOK v) : v ≠ [40] ∧ v ≠ [91] := by
  constructor <;> (intro e; subst e; revert h; unfold VerOK; decide +kernel)

theorem pv_dont_of_verOK {v : Bytes} (h : VerOK v) (p : Bytes) :
    parseVersion p v (some dontFixRetract) = (v, .ok v) :=
  ModfileFmtFix.parseVersion_ok_iff.2 ⟨v, v, ModfileFmtFix.valid_parseString h, rfl, rfl⟩

theorem pvi_dont_of_fixed {path : Bytes} {fx : Fixer} {args' : List Bytes} {vi : VersionInterval} {rest : List Bytes}
    (h : FixedArgs path fx args' vi rest) (hl : VerOK vi.low) (hh : VerOK vi.high) :
    parseVersionInterval [] args' (some dontFixRetract) = (args', .ok (vi, rest)) := by
  obtain ⟨lo, hi⟩ := vi
  obtain ⟨-, -, ⟨rfl, ehi⟩ | rfl⟩ := h
  · dsimp only at ehi hl; subst ehi
    exact ModfileFmtFix.parseVersionInterval_single (verOK_ne_paren hl).1 (verOK_ne_paren hl).2 (pv_dont_of_verOK hl [])
  · exact ModfileFmtFix.parseVersionInterval_pair (pv_dont_of_verOK hl []) (pv_dont_of_verOK hh [])

def RetrSub (old : List Retract) (ls : List Line) (new : List Retract) : Prop :=
  ∃ ids, new.map (·.lineId) = old.map (·.lineId) ++ ids ∧ ids.Sublist (ls.map (·.id))

theorem RetrSub.refl (old : List Retract) (ls : List Line) : RetrSub old ls old :=
  ⟨[], by simp, List.nil_sublist _⟩

theorem RetrSub.trans {a b c : List Retract} {l1 l2 : List Line} (h1 : RetrSub a l1 b) (h2 : RetrSub b l2 c) :
    RetrSub a (l1 ++ l2) c := by
  obtain ⟨i1, e1, s1⟩ := h1
  obtain ⟨i2, e2, s2⟩ := h2
  refine ⟨i1 ++ i2, by rw [e2, e1, List.append_assoc], ?_⟩
  rw [List.map_append]
  exact List.Sublist.append s1 s2

open ModVerif.Proofs.ModfileWalk ModVerif.Modfile.Edit in
theorem addStmts_retrSub (fix : Option Fixer) (strict : Bool) (xs : List Expr) (st : AddState) :
    RetrSub st.file.retract (linesOf xs) (addStmts fix strict st xs).1.file.retract := by
  rw [addStmts_eq_walk]
  obtain ⟨ids, e1, e2⟩ := walkStmts_chain (R := RetrSub)
    (add := fun st blk l verb args => File.add st blk l verb args fix strict)
    (bad := fun st p => if strict then st.err p .unknownBlock else st) (known := (verbIn · blockVerbs))
    (fun s : AddState => s.file.retract) (fun a => RetrSub.refl a []) RetrSub.trans xs (fun c _ s => by
      cases c with
      | add blk l verb args pre =>
        rcases add_retr s blk l verb args fix strict with h | ⟨x, h, hx⟩
        · simp only [Call.run, h]; exact RetrSub.refl _ _
        · exact ⟨[l.id], by simp [Call.run, h, hx], by simp [Call.out]⟩
      | bad b => cases strict <;> exact RetrSub.refl _ _
      | skip l => exact RetrSub.refl _ _) st
  refine ⟨ids, e1, ?_⟩
  rwa [walk_lines _ _ _ (·.id) (fun _ => rfl)] at e2

def RetFixed (path : Bytes) (fx : Fixer) (fs : FileSyntax) (r : Retract) : Prop :=
  ∃ l ∈ linesOf fs.stmts, l.id = r.lineId ∧ ∃ keep args' rest, l.token = keep ++ args' ∧
    (keep = [] ∨ keep = [B "retract"]) ∧ FixedArgs path fx args' r.interval rest

theorem frArgs_keep (l : Line) : (frArgs l).1 = [] ∨ (frArgs l).1 = [B "retract"] := by
  unfold frArgs
  cases l.token with
  | nil => exact Or.inl rfl
  | cons t0 rest =>
    simp only
    split
    · rename_i h
      have : t0 = B "retract" := by simpa using h
      exact Or.inr (by rw [this])
    · exact Or.inl rfl

theorem loop_errs_ext (path : Bytes) (fx : Fixer) (rs : List Retract) (fs : FileSyntax) (e : List RuleErr) :
    ∃ add, (fixRetractLoop path fx rs fs e).2.2 = add ++ e := by
  obtain ⟨add, h, _⟩ := fixRetractLoop_errs (fun _ => True) path fx rs fs e (fun _ _ => trivial)
  exact ⟨add, h⟩

theorem fixRetractLoop_tokens (path : Bytes) (fx : Fixer) :
    ∀ (rs : List Retract) (fs : FileSyntax) (e : List RuleErr), NodupIds fs.stmts →
    (rs.map (·.lineId)).Nodup → (∀ r ∈ rs, ∃ l ∈ linesOf fs.stmts, l.id = r.lineId) →
    (fixRetractLoop path fx rs fs e).2.2 = [] →
    e = [] ∧ NodupIds (fixRetractLoop path fx rs fs e).2.1.stmts ∧
    (fixRetractLoop path fx rs fs e).1.map (·.lineId) = rs.map (·.lineId) ∧
    (∀ r' ∈ (fixRetractLoop path fx rs fs e).1, RetFixed path fx (fixRetractLoop path fx rs fs e).2.1 r') ∧
    (∀ l ∈ linesOf fs.stmts, l.id ∉ rs.map (·.lineId) → l ∈ linesOf (fixRetractLoop path fx rs fs e).2.1.stmts) := by
  intro rs
  induction rs with
  | nil =>
    intro fs e hn _ _ he
    refine ⟨he, hn, rfl, ?_, fun l hl _ => hl⟩
    intro r' hr'
    cases hr'
  | cons r rest ih =>
    intro fs e hn hnd hall he
    obtain ⟨a, ha, hid⟩ := hall r (by simp)
    have hfind := findLine_of_mem hn ha
    rw [hid] at hfind
    simp only [List.map_cons, List.nodup_cons] at hnd
    rw [fixRetractLoop_cons, hfind] at he ⊢
    simp only at he ⊢
    -- one entry: its line is found by its identity, the interval re-parsed with the fixer and written back; errors only
    -- accumulate, so this step reported none
    rcases hpv : parseVersionInterval path (frArgs a).2 (some fx) with ⟨args', res⟩
    have hs1 : (frStep path fx fs r a e).2.1 =
        fs.updateLine r.lineId (fun l' => { l' with token := (frArgs a).1 ++ args' }) := by
      simp only [frStep, hpv]
    obtain ⟨add, hadd⟩ := loop_errs_ext path fx rest (frStep path fx fs r a e).2.1 (frStep path fx fs r a e).2.2
    have hs3 : (frStep path fx fs r a e).2.2 = [] := by
      rw [he] at hadd
      have := congrArg List.length hadd
      simp only [List.length_nil, List.length_append] at this
      exact List.eq_nil_of_length_eq_zero (by omega)
    cases res with
    | error k =>
      exfalso
      simp only [frStep, hpv] at hs3
      cases hs3
    | ok p =>
      obtain ⟨vi, rst⟩ := p
      have he0 : e = [] := by simpa only [frStep, hpv] using hs3
      have hvi : (frStep path fx fs r a e).1 = vi := by simp only [frStep, hpv]
      have hn' : NodupIds (frStep path fx fs r a e).2.1.stmts := by
        rw [hs1]; exact nodupIds_updateLine _ _ fs hn
      have hlines : linesOf (frStep path fx fs r a e).2.1.stmts =
          (linesOf fs.stmts).map (updF r.lineId (fun l' => { l' with token := (frArgs a).1 ++ args' })) := by
        rw [hs1]; exact linesOf_updateLine _ _ fs hn
      have hall' : ∀ r' ∈ rest, ∃ l ∈ linesOf (frStep path fx fs r a e).2.1.stmts, l.id = r'.lineId := by
        intro r' hr'
        obtain ⟨l, hl, hlid⟩ := hall r' (List.mem_cons_of_mem _ hr')
        refine ⟨updF r.lineId (fun l' => { l' with token := (frArgs a).1 ++ args' }) l, ?_, ?_⟩
        · rw [hlines]; exact List.mem_map_of_mem hl
        · rw [updF_id]; exact hlid
      obtain ⟨_, i2, i3, i4, i5⟩ := ih (frStep path fx fs r a e).2.1 (frStep path fx fs r a e).2.2 hn' hnd.2 hall' he
      refine ⟨he0, i2, by simp only [List.map_cons, i3], ?_, ?_⟩
      · intro r' hr'
        simp only [List.mem_cons] at hr'
        rcases hr' with rfl | hr'
        · -- the line written in this step survives the tail
          have hmem : ({ a with token := (frArgs a).1 ++ args' } : Line) ∈
              linesOf (frStep path fx fs r a e).2.1.stmts := by
            rw [hlines]
            refine List.mem_map.2 ⟨a, ha, ?_⟩
            simp [updF, hid]
          refine ⟨_, i5 _ hmem (by simpa [hid] using hnd.1), by simpa using hid, (frArgs a).1, args', rst, rfl,
            frArgs_keep a, ?_⟩
          simp only [hvi]
          exact pvi_fix_shape path fx _ args' vi rst hpv
        · exact i4 r' hr'
      · intro l hl hnot
        simp only [List.map_cons, List.mem_cons, not_or] at hnot
        apply i5 _ _ hnot.2
        rw [hlines]
        refine List.mem_map.2 ⟨l, hl, ?_⟩
        unfold updF
        split
        · rename_i hc
          exact absurd (by simpa using hc) hnot.1
        · rfl

end ModVerif.Proofs.ModfileFmtRet
