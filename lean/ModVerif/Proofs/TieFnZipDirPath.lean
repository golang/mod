/-
  Tie proof, zip/zip.go `listFilesInDir` (Generated/FnZip.lean): the paths a walk produces.

  The walk (Basic/GoRtWalk.lean) starts at `dir` as given and names every entry `filepath.Join(parent, name)`; the closure
  turns that back into the slash path with `filepath.Rel(dir, filePath)`.  For a slash path `rel` made of ordinary elements
  (`NormalName`, Proofs/ZipBPath.lean) the file path of the entry is `fp d rel = filepath.Join(d, rel)`; here:
  `Join(fp d rel, name) = fp d (rel/name)`, `Rel(d, fp d rel) = rel`, `fp d rel ≠ d`, `Base(fp d (rel/name)) = name`
  — for EVERY `d` (clean or not, relative or absolute, "." and "/" included).
-/
import ModVerif.Basic.GoRtWalk
import ModVerif.Model.Zip
import ModVerif.Proofs.ZipBPath
namespace ModVerif.TieFnZipDir
open ModVerif ModVerif.PathClean ModVerif.ZipSpec ModVerif.Proofs.ZipB

/-- the file path of the entry with slash path `rel` below the walked directory `d` (`rel = []`: the root itself) -/
def fp (d rel : Bytes) : Bytes := if rel = [] then d else Zip.fpJoin d rel

def RelOK (rel : Bytes) : Prop := rel = [] ∨ NormalName rel

theorem fp_nil (d : Bytes) : fp d [] = d := rfl

theorem fp_ne_nil (d : Bytes) {rel : Bytes} (h : rel ≠ []) : fp d rel = Zip.fpJoin d rel := by
  unfold fp; rw [if_neg h]

theorem fp_normal (d : Bytes) {rel : Bytes} (h : NormalName rel) : fp d rel = Zip.fpJoin d rel :=
  fp_ne_nil d (normalName_ne_nil h)

theorem fp_child (d : Bytes) {rel name : Bytes} (hr : RelOK rel) (hn : NormalElem name) :
    GoRt.fpJoin (fp d rel) name = fp d (Zip.childPath rel name) := by
  show Zip.fpJoin (fp d rel) name = _
  rw [fp_normal d (normalName_child hr hn)]
  rcases hr with rfl | hr
  · rfl
  · rw [fp_normal d hr, childPath_ne rel name (normalName_ne_nil hr)]
    have hc : NormalName (rel ++ 47 :: name) := by
      have := normalName_child (Or.inr hr) hn
      rwa [childPath_ne rel name (normalName_ne_nil hr)] at this
    rw [fpJoin_eq_render _ (normalName_elem hn), isRooted_fpJoin d hr, comps_fpJoin d hr,
      fpJoin_eq_render d hc, splitOn_child rel name hn, splitOn_noSep 47 name hn.2.2.2, List.append_assoc]

theorem J_append : ∀ (a b : List Bytes), a ≠ [] → b ≠ [] → J (a ++ b) = J a ++ 47 :: J b
  | [], _, h, _ => absurd rfl h
  | [x], b, _, hb => by
    cases b with
    | nil => exact absurd rfl hb
    | cons y ys => simp [J, joinWith]
  | x :: y :: rest, b, _, hb => by
    have ih := J_append (y :: rest) b (by simp) hb
    simp only [List.cons_append] at ih ⊢
    rw [J_cons_cons, ih, J_cons_cons]
    simp

theorem render_append (r : Bool) {base q : List Bytes} (hb : base ≠ []) (hq : q ≠ []) :
    render r (base ++ q) = render r base ++ 47 :: J q := by
  unfold render
  have e1 : (base ++ q).isEmpty = false := by simp [hb]
  have e2 : base.isEmpty = false := by simpa using hb
  cases r with
  | true => simp [J_append base q hb hq]
  | false => simp [e1, e2, J_append base q hb hq]

theorem render_false_nil_append {q : List Bytes} (hq : q ≠ []) : render false ([] ++ q) = J q := by
  unfold render
  have e : q.isEmpty = false := by simpa using hq
  simp [e]

theorem fpRel_self (d : Bytes) : GoRt.fpRel d d = ([46], none) := by
  unfold GoRt.fpRel
  simp

theorem fpRel_fp (d : Bytes) {rel : Bytes} (hr : NormalName rel) : GoRt.fpRel d (fp d rel) = (rel, none) := by
  rw [fp_normal d hr]
  have hS : splitOn 47 rel ≠ [] := splitOn_ne_nil 47 rel
  have hcd := canon_comps d
  have hb : GoRt.pathClean d = render (isRooted d) (comps d) := pathClean_eq_render d
  have ht : GoRt.pathClean (Zip.fpJoin d rel) = render (isRooted d) (comps d ++ splitOn 47 rel) := by
    show pathClean _ = _
    rw [fpJoin_eq_render d hr]; exact pathClean_render (canon_join d hr)
  have hrelne : rel ≠ [] := normalName_ne_nil hr
  unfold GoRt.fpRel
  simp only [hb, ht]
  by_cases hcs : comps d = []
  · -- the root is `/` or `.`
    rw [hcs]
    cases hroot : isRooted d with
    | true =>
      have e2 : render true ([] ++ splitOn 47 rel) = 47 :: rel := by
        show 47 :: J ([] ++ splitOn 47 rel) = _
        rw [List.nil_append, J_splitOn]
      have : (([47] : Bytes) == 47 :: rel) = false := by
        cases rel with
        | nil => exact absurd rfl hrelne
        | cons x xs => simp
      rw [show render true ([] : List Bytes) = [47] from rfl, e2]
      simp [this, GoRt.pathIsAbs, isAbs, isRooted]
    | false =>
      have n1 : (([46] : Bytes) == rel) = false := by
        rw [beq_eq_false_iff_ne]; intro e
        exact (hr [46] (by rw [← e]; decide)).2.1 rfl
      have n2 : GoRt.pathIsAbs rel = false := normalName_not_rooted hr
      rw [show render false ([] : List Bytes) = [46] from rfl, render_false_nil_append hS, J_splitOn]
      simp [n1, n2]
  · -- any other root `b`: the target is `b/rel`, and `b` is neither `.` nor `/` (these have no components)
    rw [render_append _ hcs hS, J_splitOn]
    generalize hbd : render (isRooted d) (comps d) = b
    have hcb : comps b = comps d := by rw [← hbd]; exact comps_render hcd
    have n1 : (b == b ++ 47 :: rel) = false := by
      rw [beq_eq_false_iff_ne]; intro e
      have := congrArg List.length e
      simp at this
    have n2 : (b == ([46] : Bytes)) = false := by
      rw [beq_eq_false_iff_ne]; intro e; rw [e] at hcb; exact hcs hcb.symm
    have n3 : (b == ([47] : Bytes)) = false := by
      rw [beq_eq_false_iff_ne]; intro e; rw [e] at hcb; exact hcs hcb.symm
    have h1 : (b ++ [47]).isPrefixOf (b ++ 47 :: rel) = true := by
      rw [List.isPrefixOf_iff_prefix]
      exact ⟨rel, by simp⟩
    have h2 : (b ++ 47 :: rel).drop (b.length + 1) = rel := by
      rw [show b ++ 47 :: rel = (b ++ [47]) ++ rel by simp, List.drop_left']
      simp
    simp only [n1, n2, n3, Bool.false_and, Bool.false_eq_true, if_false, h1, if_true, h2]

theorem fp_ne (d : Bytes) {rel : Bytes} (hr : NormalName rel) : fp d rel ≠ d := by
  rw [fp_normal d hr]
  intro e
  have := congrArg comps e
  rw [comps_fpJoin d hr] at this
  have h2 : splitOn 47 rel = [] := by
    have := List.append_cancel_left (this.trans (List.append_nil _).symm)
    exact this
  exact splitOn_ne_nil 47 rel h2

theorem pathBase_name {name : Bytes} (hn : NormalElem name) : pathBase name = name := by
  rw [pathBase_eq_lastElem name hn.1 (noSlashSuffix_append [] hn.1 hn.2.2.2), lastElem_noSlash name hn.2.2.2]

theorem pathBase_append (a : Bytes) {name : Bytes} (hn : NormalElem name) : pathBase (a ++ 47 :: name) = name := by
  have hs : Zip.hasSlashSuffix (a ++ 47 :: name) = false := by
    have := noSlashSuffix_append (a ++ [47]) hn.1 hn.2.2.2
    simpa using this
  rw [pathBase_eq_lastElem _ (by simp) hs, lastElem_append a name hn.2.2.2]

theorem render_concat (r : Bool) (X : List Bytes) (name : Bytes) :
    render r (X ++ [name]) = name ∨ ∃ a, render r (X ++ [name]) = a ++ 47 :: name := by
  have hne : (X ++ [name]).isEmpty = false := by cases X <;> rfl
  by_cases hX : X = []
  · subst hX
    cases r with
    | true => right; exact ⟨[], rfl⟩
    | false => left; rfl
  · cases r with
    | true =>
      right
      refine ⟨47 :: J X, ?_⟩
      show 47 :: J (X ++ [name]) = _
      rw [J_concat name X hX]; rfl
    | false =>
      right
      refine ⟨J X, ?_⟩
      unfold render
      simp only [Bool.false_eq_true, if_false, hne]
      exact J_concat name X hX

theorem pathBase_fp (d : Bytes) {rel name : Bytes} (hr : RelOK rel) (hn : NormalElem name) :
    GoRt.pathBase (fp d (Zip.childPath rel name)) = name := by
  show pathBase _ = _
  have hc := normalName_child hr hn
  rw [fp_normal d hc, fpJoin_eq_render d hc]
  have hsp : ∃ X, comps d ++ splitOn 47 (Zip.childPath rel name) = X ++ [name] := by
    rcases hr with rfl | hr
    · exact ⟨comps d, by rw [childPath_nil, splitOn_noSep 47 name hn.2.2.2]⟩
    · refine ⟨comps d ++ splitOn 47 rel, ?_⟩
      rw [childPath_ne rel name (normalName_ne_nil hr), splitOn_child rel name hn, List.append_assoc]
  obtain ⟨X, hX⟩ := hsp
  rw [hX]
  rcases render_concat (isRooted d) X name with h | ⟨a, h⟩
  · rw [h]; exact pathBase_name hn
  · rw [h]; exact pathBase_append a hn

end ModVerif.TieFnZipDir
