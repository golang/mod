/-
  C02, clause 3 with end-of-line comments: the `// indirect` marker survives formatting.

  `strings.Fields` ignores trailing white space (`fields_append_spaceSeq`), `TrimSpace` of a `//` comment only
  removes trailing white space (`trimSpace_comment_strong`), hence `isIndirect` of a line whose end-of-line
  comment text has been trimmed (what the re-parse of the formatted text delivers) is `isIndirect` of the
  original line (`isIndirect_trim`).
-/
import ModVerif.Model.Modfile.Rule
import ModVerif.Proofs.ModfileFmtTrim
import ModVerif.Proofs.ModfileFmtQuoteString
namespace ModVerif.Proofs.ModfileEol
open ModVerif ModVerif.Modfile ModVerif.GoStrings ModVerif.Proofs.ModfileLex
open ModVerif.Proofs.ModfileFmtLex ModVerif.Proofs.ModfileFmtTrim ModVerif.Proofs.ModfileFmtUtf8

theorem fieldsAux_nil (fuel : Nat) (cur : Bytes) (acc : List Bytes) :
    fieldsAux fuel [] cur acc = (if cur.isEmpty then acc else cur.reverse :: acc).reverse := by
  cases fuel <;> rfl

theorem fieldsAux_cons (fuel : Nat) (c : UInt8) (t cur : Bytes) (acc : List Bytes) :
    fieldsAux (fuel + 1) (c :: t) cur acc =
      if UnicodePrint.isSpace (Utf8.decodeRune (c :: t)).1 then
        fieldsAux fuel ((c :: t).drop (Utf8.decodeRune (c :: t)).2) [] (if cur.isEmpty then acc else cur.reverse :: acc)
      else
        fieldsAux fuel ((c :: t).drop (Utf8.decodeRune (c :: t)).2)
          (((c :: t).take (Utf8.decodeRune (c :: t)).2).reverse ++ cur) acc := by
  rfl

/-- a run of white-space encodings adds no field: it only closes the pending one -/
theorem fieldsAux_spaceSeq {e : Bytes} (he : SpaceSeq e) : ∀ (fuel : Nat) (cur : Bytes) (acc : List Bytes),
    e.length < fuel → fieldsAux fuel e cur acc = (if cur.isEmpty then acc else cur.reverse :: acc).reverse := by
  induction he with
  | nil => intro fuel cur acc _; exact fieldsAux_nil fuel cur acc
  | cons seg t r hd hs ht ih =>
    intro fuel cur acc hf
    have hne : seg ≠ [] := by
      intro h; subst h; simp [Utf8.decode] at hd
    obtain ⟨c, s', hseg⟩ : ∃ c s', seg = c :: s' := by
      cases seg with
      | nil => exact absurd rfl hne
      | cons c s' => exact ⟨c, s', rfl⟩
    obtain ⟨n, rfl⟩ : ∃ n, fuel = n + 1 := ⟨fuel - 1, by omega⟩
    have hdec : Utf8.decodeRune (seg ++ t) = (r, seg.length) := by
      rw [Utf8.decodeRune_append seg t hne ht.noContStart]
      exact ModfileFmtQuote.decodeRune_of_decode hd
    have hcons : seg ++ t = c :: (s' ++ t) := by rw [hseg]; rfl
    rw [hcons, fieldsAux_cons, ← hcons, hdec]
    simp only [hs, if_true, List.drop_left]
    rw [ih n [] _ (by simp only [List.length_append] at hf; have := List.length_pos_iff.mpr hne; omega)]
    simp

theorem fieldsAux_append_spaceSeq {e : Bytes} (he : SpaceSeq e) : ∀ (fuel : Nat) (x cur : Bytes) (acc : List Bytes),
    x.length < fuel → fieldsAux (fuel + e.length) (x ++ e) cur acc = fieldsAux fuel x cur acc := by
  intro fuel
  induction fuel with
  | zero => intro x cur acc h; omega
  | succ n ih =>
    intro x cur acc hf
    cases x with
    | nil =>
      rw [List.nil_append, fieldsAux_spaceSeq he _ cur acc (by omega), fieldsAux_nil]
    | cons c x' =>
      have hne : (c :: x') ≠ [] := by simp
      have hdec : Utf8.decodeRune ((c :: x') ++ e) = Utf8.decodeRune (c :: x') :=
        Utf8.decodeRune_append _ e hne he.noContStart
      have hw := decodeRune_width (c :: x') hne
      have hstep : n + 1 + e.length = (n + e.length) + 1 := by omega
      rw [hstep, show (c :: x') ++ e = c :: (x' ++ e) from rfl, fieldsAux_cons, fieldsAux_cons,
        ← show (c :: x') ++ e = c :: (x' ++ e) from rfl, hdec]
      have hdrop : ((c :: x') ++ e).drop (Utf8.decodeRune (c :: x')).2 = (c :: x').drop (Utf8.decodeRune (c :: x')).2 ++ e :=
        List.drop_append_of_le_length hw.2
      have htake : ((c :: x') ++ e).take (Utf8.decodeRune (c :: x')).2 = (c :: x').take (Utf8.decodeRune (c :: x')).2 :=
        List.take_append_of_le_length hw.2
      rw [hdrop, htake]
      have hlen : ((c :: x').drop (Utf8.decodeRune (c :: x')).2).length < n := by
        simp only [List.length_drop, List.length_cons] at hf ⊢
        omega
      split
      · exact ih _ _ _ hlen
      · exact ih _ _ _ hlen

theorem fields_append_spaceSeq (x e : Bytes) (he : SpaceSeq e) : fields (x ++ e) = fields x := by
  unfold fields
  have : (x ++ e).length + 1 = (x.length + 1) + e.length := by simp only [List.length_append]; omega
  rw [this]
  exact fieldsAux_append_spaceSeq he _ x [] [] (by omega)

/-- the fields of a `//` comment after `TrimPrefix "//"` do not change when the comment text is trimmed -/
theorem fields_comment_trim {c : Bytes} (h : CommentOK c) :
    fields (trimPrefix (trimSpace c) [47, 47]) = fields (trimPrefix c [47, 47]) := by
  obtain ⟨e, heq, he, hok⟩ := trimSpace_comment_strong h
  obtain ⟨u, hu⟩ := commentOK_cons hok
  obtain ⟨t, ht⟩ := commentOK_cons h
  have h1 : trimPrefix (trimSpace c) [47, 47] = u := by
    rw [hu]; simp [trimPrefix, isPrefixOfB]
  have h2 : trimPrefix c [47, 47] = u ++ e := by
    rw [ht]
    have : t = u ++ e := by
      rw [hu, ht] at heq
      simpa using heq
    rw [this]; simp [trimPrefix, isPrefixOfB]
  rw [h1, h2, fields_append_spaceSeq u e he]

/-- ★ `Props.C02.isIndirect_trimmed`: `isIndirect` sees only the first end-of-line comment, and only modulo `TrimSpace` of
    its text -/
theorem isIndirect_trim (l l' : Line) (c : Comment) (r r' : List Comment) (hc : CommentOK c.token)
    (h : l.comments.suffix = c :: r) (h' : l'.comments.suffix = { c with token := trimSpace c.token } :: r') :
    isIndirect l' = isIndirect l := by
  unfold isIndirect
  rw [h, h']
  simp only
  rw [fields_comment_trim hc]

theorem isIndirect_nil (l : Line) (h : l.comments.suffix = []) : isIndirect l = false := by
  simp [isIndirect, h]

end ModVerif.Proofs.ModfileEol
