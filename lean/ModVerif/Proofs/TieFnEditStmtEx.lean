/-
  Test harness of the non-vacuity examples of Tie/FnEditStmt.lean: a parsed go.mod is loaded into a heap
  with the driver's `Drv.GenEdit.load` (`FnEditRep.load_rep`: the loaded heap represents `Edit.load` of the file), an
  operation is run, the whole file is read back with the driver's `fileM` and compared with the hand model applied to
  `Edit.load` of the same file (`fileM` does not read the `lineId`s of the typed entries back: they are zeroed on the model
  side, the line ids of the syntax tree ARE compared).  Everything is kernel-evaluated (`decide +kernel`).
-/
import ModVerif.Proofs.TieFnEditRep
namespace ModVerif.Tie.FnEditStmtEx
open ModVerif ModVerif.GoRt ModVerif.Generated.Edit ModVerif.Tie.FnEditRep

/-- module, go, toolchain, godebug, tool and a two-line require block -/
def exFile : Bytes :=
  B "module m\n\ngo 1.21\n\ntoolchain go1.21.0\n\ngodebug a=b\n\ntool x.y/z\n\nrequire (\n\ta.b/c v1.0.0\n\td.e/f v1.2.3 // indirect\n)\n"

/-- no scalar statement: a require block and an exclude block -/
def exFile0 : Bytes := B "require (\n\ta.b/c v1.0.0\n)\n\nexclude (\n\tx.y/z v1.0.0\n)\n"

/-- two godebug lines with the same key and two tool lines -/
def exFile2 : Bytes := B "module m\n\ngodebug a=b\ngodebug c=d\ngodebug a=e\n\ntool x.y/z\ntool u.v/w\n"

def parsed (file : Bytes) : Modfile.File :=
  match Modfile.parseStrict (B "go.mod") file none with
  | .ok f => f
  | .error _ => default

def exH (file : Bytes) : Heap := (Drv.GenEdit.load (parsed file)).1
def exP (file : Bytes) : Int := (Drv.GenEdit.load (parsed file)).2
def exE (file : Bytes) : Modfile.Edit.EFile := Modfile.Edit.load (parsed file)

theorem exRep (file : Bytes) (ok : loadOKB (parsed file) = true) : RepF (exH file) (exP file) (exE file) :=
  load_rep (parsed file) (loadOKB_sound ok)

def optOK {α : Type} (id : α → Nat) : Option α → Bool
  | some x => id x != 0
  | none => true

theorem optOK_sound {α : Type} {id : α → Nat} {o : Option α} (h : optOK id o = true) : ∀ x, o = some x → id x ≠ 0 := by
  intro x hx
  subst hx
  simpa [optOK] using h

def zeroIds (f : Modfile.File) : Modfile.File :=
  { f with module := f.module.map fun m => { m with lineId := 0 },
           go := f.go.map fun g => { g with lineId := 0 },
           toolchain := f.toolchain.map fun t => { t with lineId := 0 },
           godebug := f.godebug.map fun g => { g with lineId := 0 },
           require := f.require.map fun r => { r with lineId := 0 },
           exclude := f.exclude.map fun r => { r with lineId := 0 },
           replace := f.replace.map fun r => { r with lineId := 0 },
           retract := f.retract.map fun r => { r with lineId := 0 },
           tool := f.tool.map fun t => { t with lineId := 0 } }

/-- run an operation on the loaded heap, read the file back: (returned nil?, file); `none` = panic / fuel / bad heap -/
def run (file : Bytes) (op : Int → Heap → M ((Option String) × Heap)) : Option (Bool × Modfile.File) :=
  match op (exP file) (exH file) with
  | .ok (r, h') => (Drv.GenEdit.fileM h' (exP file)).map fun g => (r.isNone, g)
  | .error _ => none

def runU (file : Bytes) (op : Int → Heap → M (Unit × Heap)) : Option (Bool × Modfile.File) :=
  run file fun fp h => (op fp h).map fun r => (none, r.2)

/-- the model side: a returned error leaves the file alone, a panic is `none` -/
def model (file : Bytes) (g : Modfile.Edit.EFile → Except Modfile.Edit.EditErr Modfile.Edit.EFile) : Option (Bool × Modfile.File) :=
  match g (exE file) with
  | .ok e' => some (true, zeroIds e'.f)
  | .error err => if err.isReturned then some (false, zeroIds (exE file).f) else none

def modelU (file : Bytes) (g : Modfile.Edit.EFile → Modfile.Edit.EFile) : Option (Bool × Modfile.File) :=
  model file fun e => .ok (g e)

end ModVerif.Tie.FnEditStmtEx
