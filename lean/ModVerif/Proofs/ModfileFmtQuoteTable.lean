/-
  Facts read off the `unicode.IsPrint` / `unicode.IsSpace` tables.
  No printable rune other than the blank is white space, hence every printable rune that is not a
  blank, bracket or comma is an identifier rune of the go.mod lexer.
-/
import ModVerif.Proofs.ModfileFmtLex
namespace ModVerif.Proofs.ModfileFmtQuote
open ModVerif ModVerif.Modfile

/-- the code points above Latin-1 for which `unicode.IsSpace` holds -/
def wideSpaces : List Nat :=
  [0x1680, 0x2000, 0x2001, 0x2002, 0x2003, 0x2004, 0x2005, 0x2006, 0x2007, 0x2008, 0x2009, 0x200A, 0x2028, 0x2029,
    0x202F, 0x205F, 0x3000]

theorem wideSpaces_not_print : wideSpaces.all (fun r => !UnicodePrint.isPrint r) = true := by decide +kernel

/-- in Latin-1 both predicates are comparisons; above it the white-space code points are finitely many, and the table has
    none of them -/
theorem isPrint_not_space : ∀ r, UnicodePrint.isPrint r = true → UnicodePrint.isSpace r = true → r = 32 := by
  intro r hp hs
  simp only [UnicodePrint.isSpace, Bool.or_eq_true, Bool.and_eq_true, decide_eq_true_eq, beq_iff_eq] at hs
  by_cases hr : r ≤ 0xFF
  · simp only [UnicodePrint.isPrint, if_pos hr, Bool.or_eq_true, Bool.and_eq_true, decide_eq_true_eq, bne_iff_ne] at hp
    omega
  · have hm : r ∈ wideSpaces := by
      simp only [wideSpaces, List.mem_cons, List.not_mem_nil, or_false]
      omega
    have := List.all_eq_true.1 wideSpaces_not_print r hm
    rw [hp] at this
    cases this

example : UnicodePrint.isPrint 32 = true ∧ UnicodePrint.isSpace 32 = true := by decide

theorem isIdent_of_print {r : Nat} (hp : UnicodePrint.isPrint r = true)
    (hx : r ∉ [32, 40, 41, 91, 93, 123, 125, 44]) : isIdent r = true := by
  have hns : UnicodePrint.isSpace r = false := by
    cases hs : UnicodePrint.isSpace r with
    | false => rfl
    | true =>
      have := isPrint_not_space r hp hs
      subst this
      simp at hx
  have hx' : r ∉ identExcluded := hx
  simp [isIdent, hx', hns, hp]

example : UnicodePrint.isPrint 97 = true ∧ 97 ∉ [32, 40, 41, 91, 93, 123, 125, 44] := by decide

theorem isPrint_of_isIdent {r : Nat} (h : isIdent r = true) : UnicodePrint.isPrint r = true := by
  unfold isIdent at h
  split at h
  · cases h
  · simp only [Bool.and_eq_true] at h
    exact h.2

example : isIdent 97 = true := by decide

end ModVerif.Proofs.ModfileFmtQuote
