/-
  The nodes of a reified statement, from the model side (`stmtNodes`, `stmtsNodes`: the node lists in the three orders
  of the passes of assignComments); what `Expr_setComments` at one node does to the reification of every other
  statement (`Frame`); the node lists of `input.order` (pointer side) are these node lists; a well-formed graph has no
  node twice.
-/
import ModVerif.Proofs.TieFnParseCommentsOrder
import ModVerif.Proofs.TieFnParseCommentsTrav
namespace ModVerif.TieFnParseComments
open ModVerif ModVerif.GoRt ModVerif.Generated ModVerif.Generated.Parse ModVerif.Tie.FnParseHeap

/-! ### the nodes of a statement, from the model side -/

def linePtr (l : Modfile.Line) : Int := ((l.id + 1 : Nat) : Int)

def lineNodes (ls : List Modfile.Line) : List Expr := ls.map (fun l => Expr.Line (linePtr l))

def stmtNodes (o : Ord) : Expr → Modfile.Expr → List Expr
  | .LineBlock p, .lineBlock b =>
    match o with
    | .pre => .LineBlock p :: .LParen p :: (lineNodes b.lines ++ [.RParen p])
    | .rpost => .LineBlock p :: .RParen p :: (lineNodes b.lines.reverse ++ [.LParen p])
    | .post => .LParen p :: (lineNodes b.lines ++ [.RParen p, .LineBlock p])
  | e, _ => [e]

def stmtsNodes (o : Ord) : List Expr → List Modfile.Expr → List Expr
  | e :: es, s :: ss => stmtNodes o e s ++ stmtsNodes o es ss
  | _, _ => []

theorem RLines_lineNodes {h : Heap} {ps : List Int} {ls : List Modfile.Line} (hr : RLines h ps ls) :
    lineNodes ls = ps.map Expr.Line := by
  rw [RLines_ptrs hr]; simp [lineNodes, linePtr]

theorem mem_lineNodes_reverse (ls : List Modfile.Line) (x : Expr) : x ∈ lineNodes ls.reverse ↔ x ∈ lineNodes ls := by
  simp [lineNodes]

theorem mem_stmtNodes (o : Ord) (e : Expr) (s : Modfile.Expr) (x : Expr) :
    x ∈ stmtNodes o e s ↔ x ∈ stmtNodes .pre e s := by
  cases e <;> cases s <;> try rfl
  cases o <;> simp only [stmtNodes, List.mem_cons, List.mem_append, mem_lineNodes_reverse, List.mem_nil_iff, or_false]
  · constructor <;> (intro h; rcases h with h | h | h | h <;> simp [h])
  · constructor <;> (intro h; rcases h with h | h | h | h <;> simp [h])

theorem mem_stmtsNodes (o : Ord) : ∀ (es : List Expr) (ss : List Modfile.Expr) (x : Expr),
    x ∈ stmtsNodes o es ss ↔ x ∈ stmtsNodes .pre es ss
  | [], _, x => by simp [stmtsNodes]
  | _ :: _, [], x => by simp [stmtsNodes]
  | e :: es, s :: ss, x => by
    simp only [stmtsNodes, List.mem_append, mem_stmtNodes o e s x, mem_stmtsNodes o es ss x]

theorem lineNodes_travLines (F : NodeF) : ∀ (ls : List Modfile.Line) (st : List Modfile.Comment),
    lineNodes (travLines F ls st).1 = lineNodes ls
  | [], st => rfl
  | l :: ls, st => by
    simp only [travLines, lineNodes, List.map_cons, linePtr]
    have := lineNodes_travLines F ls (F (l.start, l.«end») l.comments st).2
    simp only [lineNodes, linePtr] at this
    rw [this]

theorem lineNodes_reverse (ls : List Modfile.Line) : lineNodes ls.reverse = (lineNodes ls).reverse := by
  simp [lineNodes]

theorem stmtNodes_travStmt (o' o : Ord) (F : NodeF) (e : Expr) (s : Modfile.Expr) (st : List Modfile.Comment) :
    stmtNodes o' e (travStmt o F s st).1 = stmtNodes o' e s := by
  cases s with
  | lineBlock b =>
    cases e <;> try (cases o <;> rfl)
    cases o <;> cases o' <;>
      simp only [travStmt, stmtNodes, lineNodes_reverse, lineNodes_travLines, List.reverse_reverse]
  | commentBlock c => cases e <;> rfl
  | line l => cases e <;> rfl
  | lparen l => cases e <;> rfl
  | rparen l => cases e <;> rfl

/-! ### frame: a node of ANOTHER statement -/

theorem frame_set {x : Expr} {c : Comments} {h h' : Heap} (hs : Expr_setComments x c h = .ok h')
    {e2 : Expr} {s2 : Modfile.Expr} (hr : RExpr h e2 s2) (hx : x ∉ stmtNodes .pre e2 s2) : RExpr h' e2 s2 := by
  have hsh := setComments_shape hs
  cases x <;> simp only at hsh
  case FileSyntax q => obtain ⟨t, ht, rfl⟩ := hsh; exact (RExpr_files _ _ _ _).2 hr
  case CommentBlock q =>
    obtain ⟨t, ht, rfl⟩ := hsh
    cases e2 <;> cases s2 <;> simp only [RExpr] at hr ⊢
    · rename_i p2 c2
      have : p2 ≠ q := by intro e; subst e; exact hx (by simp [stmtNodes])
      simp only [heapGet_listSet_other _ ht this, hr]
    · exact hr
    · obtain ⟨ps, hb, hl⟩ := hr
      exact ⟨ps, hb, (RLines_congr (by rfl)).2 hl⟩
  case Line q =>
    obtain ⟨t, ht, rfl⟩ := hsh
    have hset := heapSet_of_get ({ t with Comments := c }) ht
    cases e2 <;> cases s2 <;> simp only [RExpr] at hr ⊢
    · exact hr
    · rename_i p2 l2
      have : p2 ≠ q := by intro e; subst e; exact hx (by simp [stmtNodes])
      exact (RLine_setLine_other hset this).2 hr
    · rename_i p2 b2
      obtain ⟨ps, hb, hl⟩ := hr
      refine ⟨ps, hb, (RLines_setLine_other hset ?_).2 hl⟩
      intro hq
      apply hx
      simp only [stmtNodes, RLines_lineNodes hl, List.mem_cons, List.mem_append, List.mem_map]
      exact Or.inr (Or.inr (Or.inl ⟨q, hq, rfl⟩))
  all_goals (
    obtain ⟨t, ht, rfl⟩ := hsh
    rename_i q
    cases e2 <;> cases s2 <;> simp only [RExpr] at hr ⊢
    · exact hr
    · exact hr
    · rename_i p2 b2
      obtain ⟨ps, hb, hl⟩ := hr
      have : p2 ≠ q := by intro e; subst e; exact hx (by simp [stmtNodes])
      exact ⟨ps, by simp only [heapGet_listSet_other _ ht this, hb], (RLines_congr (by rfl)).2 hl⟩)

/-- the frame of a sequence of updates at the nodes `X`: every statement that owns none of them is untouched -/
def Frame (X : List Expr) (h h' : Heap) : Prop :=
  ∀ e2 s2, RExpr h e2 s2 → (∀ x ∈ X, x ∉ stmtNodes .pre e2 s2) → RExpr h' e2 s2

theorem Frame.refl (h : Heap) : Frame [] h h := fun _ _ hr _ => hr

theorem Frame.trans {X Y : List Expr} {h1 h2 h3 : Heap} (a : Frame X h1 h2) (b : Frame Y h2 h3) :
    Frame (X ++ Y) h1 h3 := by
  intro e2 s2 hr hx
  exact b e2 s2 (a e2 s2 hr (fun x hxX => hx x (List.mem_append_left _ hxX))) (fun x hxY => hx x (List.mem_append_right _ hxY))

theorem Frame.mono {X Y : List Expr} {h h' : Heap} (a : Frame X h h') (hXY : ∀ x ∈ X, x ∈ Y) : Frame Y h h' :=
  fun e2 s2 hr hx => a e2 s2 hr (fun x hxX => hx x (hXY x hxX))

theorem Frame.single {x : Expr} {c : Comments} {h h' : Heap} (hs : Expr_setComments x c h = .ok h') : Frame [x] h h' :=
  fun e2 s2 hr hx => frame_set hs hr (hx x (by simp))

/-! ### node lists of reversed statement lists -/

theorem stmtsNodes_append (o : Ord) : ∀ (es es' : List Expr) (ss ss' : List Modfile.Expr), es.length = ss.length →
    stmtsNodes o (es ++ es') (ss ++ ss') = stmtsNodes o es ss ++ stmtsNodes o es' ss'
  | [], es', [], ss', _ => rfl
  | e :: es, es', s :: ss, ss', hl => by
    simp only [List.cons_append, stmtsNodes, List.append_assoc]
    rw [stmtsNodes_append o es es' ss ss' (by simpa using hl)]
  | [], _, _ :: _, _, hl => by simp at hl
  | _ :: _, _, [], _, hl => by simp at hl

theorem stmtsNodes_single (o : Ord) (e : Expr) (s : Modfile.Expr) : stmtsNodes o [e] [s] = stmtNodes o e s := by
  simp [stmtsNodes]

theorem stmtsNodes_reverse_perm (o : Ord) : ∀ (es : List Expr) (ss : List Modfile.Expr), es.length = ss.length →
    (stmtsNodes o es.reverse ss.reverse).Perm (stmtsNodes o es ss)
  | [], [], _ => .refl _
  | e :: es, s :: ss, hl => by
    rw [List.reverse_cons, List.reverse_cons, stmtsNodes_append o _ _ _ _ (by simpa using hl), stmtsNodes_single]
    exact List.perm_append_comm.trans ((stmtsNodes_reverse_perm o es ss (by simpa using hl)).append_left _)
  | [], _ :: _, hl => by simp at hl
  | _ :: _, [], hl => by simp at hl

/-! ### the node lists of `input.order` -/

theorem blockLines_eq {h : Heap} {p : Int} {b : Modfile.LineBlock} {ps : List Int}
    (hb : heapGet h.blocks p = .ok (blockG b ps)) : blockLines h p = ps := by
  simp [blockLines, hb, blockG]

theorem preStmtPtrs_eq {h : Heap} {e : Expr} {s : Modfile.Expr} (hr : RExpr h e s) :
    preStmtPtrs h e = stmtNodes .pre e s := by
  cases e <;> cases s <;> simp only [RExpr] at hr <;> try rfl
  obtain ⟨ps, hb, hl⟩ := hr
  simp only [preStmtPtrs, stmtNodes, blockLines_eq hb, RLines_lineNodes hl]

theorem postStmtPtrs_eq {h : Heap} {e : Expr} {s : Modfile.Expr} (hr : RExpr h e s) :
    postStmtPtrs h e = stmtNodes .post e s := by
  cases e <;> cases s <;> simp only [RExpr] at hr <;> try rfl
  obtain ⟨ps, hb, hl⟩ := hr
  simp only [postStmtPtrs, stmtNodes, blockLines_eq hb, RLines_lineNodes hl]

theorem flatMap_pre_eq {h : Heap} : ∀ {es : List Expr} {ss : List Modfile.Expr}, RStmts h es ss →
    es.flatMap (preStmtPtrs h) = stmtsNodes .pre es ss
  | [], [], _ => rfl
  | e :: es, s :: ss, hr => by
    simp only [RStmts_cons] at hr
    simp only [List.flatMap_cons, stmtsNodes, preStmtPtrs_eq hr.1, flatMap_pre_eq hr.2]
  | [], _ :: _, hr => by simp at hr
  | _ :: _, [], hr => by simp at hr

theorem flatMap_post_eq {h : Heap} : ∀ {es : List Expr} {ss : List Modfile.Expr}, RStmts h es ss →
    es.flatMap (postStmtPtrs h) = stmtsNodes .post es ss
  | [], [], _ => rfl
  | e :: es, s :: ss, hr => by
    simp only [RStmts_cons] at hr
    simp only [List.flatMap_cons, stmtsNodes, postStmtPtrs_eq hr.1, flatMap_post_eq hr.2]
  | [], _ :: _, hr => by simp at hr
  | _ :: _, [], hr => by simp at hr

theorem stmtNodes_post_reverse (e : Expr) (s : Modfile.Expr) : (stmtNodes .post e s).reverse = stmtNodes .rpost e s := by
  cases e <;> cases s <;> try rfl
  simp [stmtNodes, lineNodes_reverse]

theorem stmtsNodes_post_reverse : ∀ (es : List Expr) (ss : List Modfile.Expr), es.length = ss.length →
    (stmtsNodes .post es ss).reverse = stmtsNodes .rpost es.reverse ss.reverse
  | [], [], _ => rfl
  | e :: es, s :: ss, hl => by
    simp only [stmtsNodes, List.reverse_append, List.reverse_cons]
    rw [stmtsNodes_append _ _ _ _ _ (by simpa using hl), stmtsNodes_single,
      stmtsNodes_post_reverse es ss (by simpa using hl), stmtNodes_post_reverse]
  | [], _ :: _, hl => by simp at hl
  | _ :: _, [], hl => by simp at hl

theorem stmtsNodes_trav (o' o : Ord) (F : NodeF) : ∀ (es : List Expr) (ss : List Modfile.Expr) (st : List Modfile.Comment),
    stmtsNodes o' es (travStmts o F ss st).1 = stmtsNodes o' es ss
  | [], _, _ => by simp [stmtsNodes]
  | _ :: _, [], _ => by simp [stmtsNodes, travStmts]
  | e :: es, s :: ss, st => by
    simp only [travStmts, stmtsNodes, stmtNodes_travStmt, stmtsNodes_trav o' o F es ss]

theorem stmtsNodes_length (o : Ord) : ∀ (es : List Expr) (ss : List Modfile.Expr),
    (stmtsNodes o es ss).length = (stmtsNodes .pre es ss).length
  | [], _ => by simp [stmtsNodes]
  | _ :: _, [] => by simp [stmtsNodes]
  | e :: es, s :: ss => by
    simp only [stmtsNodes, List.length_append, stmtsNodes_length o es ss]
    congr 1
    cases e <;> cases s <;> try rfl
    cases o <;> simp [stmtNodes, lineNodes]

theorem stmtsNodes_length_le {h : Heap} : ∀ {es : List Expr} {ss : List Modfile.Expr}, RStmts h es ss →
    (stmtsNodes .pre es ss).length = nodeCount ss
  | [], [], _ => rfl
  | e :: es, s :: ss, hr => by
    simp only [RStmts_cons] at hr
    obtain ⟨hr1, hr2⟩ := hr
    have ih := stmtsNodes_length_le hr2
    cases e <;> cases s <;> simp only [RExpr] at hr1 <;>
      simp [stmtsNodes, stmtNodes, nodeCount, ih, lineNodes] <;> omega
  | [], _ :: _, hr => by simp at hr
  | _ :: _, [], hr => by simp at hr

/-! ### no node twice -/

/-- the node `x` in terms of the pointer lists of `WF`: `x` is allocated under the statement list `es` -/
def Under (h : Heap) (es : List Expr) : Expr → Prop
  | .Line q => q ∈ linePtrs h es
  | .LineBlock q | .LParen q | .RParen q => q ∈ blockPtrs es
  | .CommentBlock q => q ∈ cbPtrs es
  | _ => False

theorem Under.cons {h : Heap} {e : Expr} {es : List Expr} {x : Expr} (hu : Under h es x) : Under h (e :: es) x := by
  cases x <;> cases e <;> first | exact hu | exact List.mem_cons_of_mem _ hu | exact List.mem_append_right _ hu

theorem under_of_mem {h : Heap} : ∀ {es : List Expr} {ss : List Modfile.Expr}, RStmts h es ss →
    ∀ x ∈ stmtsNodes .pre es ss, Under h es x
  | e :: es, s :: ss, ⟨hr, hrest⟩, x, hx => by
    rcases List.mem_append.1 hx with hx | hx
    · cases e <;> cases s <;> simp only [RExpr] at hr
      · obtain rfl := List.mem_singleton.1 hx
        exact List.mem_cons_self
      · obtain rfl := List.mem_singleton.1 hx
        exact List.mem_cons_self
      · obtain ⟨ps, hb, hl⟩ := hr
        simp only [stmtNodes, RLines_lineNodes hl, List.mem_cons, List.mem_append, List.mem_map, List.mem_nil_iff,
          or_false] at hx
        rcases hx with rfl | rfl | ⟨q, hq, rfl⟩ | rfl
        · exact List.mem_cons_self
        · exact List.mem_cons_self
        · exact List.mem_append_left _ (blockLines_eq hb ▸ hq)
        · exact List.mem_cons_self
    · exact (under_of_mem hrest x hx).cons

theorem nodup_map_Line {ps : List Int} (h : ps.Nodup) : (ps.map Expr.Line).Nodup := by
  unfold List.Nodup at *
  rw [List.pairwise_map]
  exact h.imp (fun hab e => hab (by injection e))

theorem nodup_stmtsNodes {h : Heap} : ∀ {es : List Expr} {ss : List Modfile.Expr}, RStmts h es ss →
    (linePtrs h es).Nodup → (blockPtrs es).Nodup → (cbPtrs es).Nodup → (stmtsNodes .pre es ss).Nodup
  | [], [], _, _, _, _ => List.nodup_nil
  | e :: es, s :: ss, ⟨hr, hrest⟩, h1, h2, h3 => by
    have hu := under_of_mem hrest
    refine List.nodup_append.2 ?_
    cases e <;> cases s <;> simp only [RExpr] at hr
    · obtain ⟨h3a, h3⟩ := List.nodup_cons.1 h3
      refine ⟨List.pairwise_singleton _ _, nodup_stmtsNodes hrest h1 h2 h3, ?_⟩
      rintro _ ha _ hb rfl
      rw [List.mem_singleton.1 ha] at hb
      exact h3a (hu _ hb)
    · obtain ⟨h1a, h1⟩ := List.nodup_cons.1 h1
      refine ⟨List.pairwise_singleton _ _, nodup_stmtsNodes hrest h1 h2 h3, ?_⟩
      rintro _ ha _ hb rfl
      rw [List.mem_singleton.1 ha] at hb
      exact h1a (hu _ hb)
    · obtain ⟨ps, hb, hl⟩ := hr
      obtain ⟨h2a, h2⟩ := List.nodup_cons.1 h2
      simp only [linePtrs, blockLines_eq hb] at h1
      obtain ⟨hps, h1, hdis⟩ := List.nodup_append.1 h1
      refine ⟨?_, nodup_stmtsNodes hrest h1 h2 h3, ?_⟩
      · have := nodup_map_Line hps
        simp [stmtNodes, RLines_lineNodes hl, List.nodup_append, this]
      · rintro _ ha _ hb' rfl
        have := hu _ hb'
        simp only [stmtNodes, RLines_lineNodes hl, List.mem_cons, List.mem_append, List.mem_map, List.mem_nil_iff,
          or_false] at ha
        rcases ha with rfl | rfl | ⟨q, hq, rfl⟩ | rfl
        · exact h2a this
        · exact h2a this
        · exact hdis q hq q this rfl
        · exact h2a this

/-! ### the node lists depend on the tree only through the block / line structure -/

/-- what `stmtNodes` looks at -/
def shp : Modfile.Expr → Option (List Expr)
  | .lineBlock b => some (lineNodes b.lines)
  | _ => none

theorem stmtNodes_congr (o : Ord) (e : Expr) {s s' : Modfile.Expr} (hs : shp s = shp s') :
    stmtNodes o e s = stmtNodes o e s' := by
  cases s <;> cases s' <;> simp only [shp, Option.some.injEq] at hs <;> try (cases e <;> rfl)
  · cases hs
  · cases hs
  · cases hs
  · cases hs
  · cases e <;> try rfl
    cases o <;> simp only [stmtNodes, lineNodes_reverse, hs]
  all_goals cases hs

theorem stmtsNodes_congr (o : Ord) : ∀ (es : List Expr) {ss ss' : List Modfile.Expr}, ss.map shp = ss'.map shp →
    stmtsNodes o es ss = stmtsNodes o es ss'
  | [], _, _, _ => by simp [stmtsNodes]
  | e :: es, [], [], _ => rfl
  | e :: es, [], _ :: _, h => by simp at h
  | e :: es, _ :: _, [], h => by simp at h
  | e :: es, s :: ss, s' :: ss', h => by
    simp only [List.map_cons, List.cons.injEq] at h
    simp only [stmtsNodes, stmtNodes_congr o e h.1, stmtsNodes_congr o es h.2]

theorem shp_travStmt (o : Ord) (F : NodeF) (s : Modfile.Expr) (st : List Modfile.Comment) :
    shp (travStmt o F s st).1 = shp s := by
  cases s <;> try rfl
  cases o <;> simp only [travStmt, shp, lineNodes_travLines]
  rw [lineNodes_reverse, lineNodes_travLines, lineNodes_reverse, List.reverse_reverse]

theorem map_shp_travStmts (o : Ord) (F : NodeF) : ∀ (ss : List Modfile.Expr) (st : List Modfile.Comment),
    (travStmts o F ss st).1.map shp = ss.map shp
  | [], _ => rfl
  | s :: ss, st => by
    simp only [travStmts, List.map_cons, shp_travStmt, map_shp_travStmts o F ss]

theorem map_shp_rev3 (ss : List Modfile.Expr) : (ss.map rev3).map shp = ss.map shp := by
  induction ss with
  | nil => rfl
  | cons s ss ih =>
    simp only [List.map_cons, ih]
    congr 1
    cases s <;> try rfl
    simp [rev3, shp, lineNodes, rev3Line, linePtr]

end ModVerif.TieFnParseComments
