/-
  The scalar statements of go.work — `WorkFile_DropGoStmt`, `WorkFile_DropToolchainStmt`, `WorkFile_AddGoStmt` (scan
  `firstNonComment`), `WorkFile_AddToolchainStmt` (scan `afterGoLine` with the forward `goto` as `Ctl.ret`, then
  `firstNonComment`) as simulations over `FnEditRep.RepW`.
  The model never dereferences the `Syntax` pointer of `f.Go` / `f.Toolchain` (it updates the line with that id, a no-op
  for id 0) while Go does: the hypothesis `lineId ≠ 0` of these lemmas (true of every entry the parser or the Add
  operations create).
-/
import ModVerif.Proofs.TieFnEditTypedAdd
namespace ModVerif.Tie.FnEditWorkD
open ModVerif ModVerif.GoRt ModVerif.Generated.Edit ModVerif.Tie.FnEditRep ModVerif.Tie.FnEditTreeA ModVerif.Tie.FnEditLoop
  ModVerif.Tie.FnEditWorkA ModVerif.Tie.FnEditTyped
open ModVerif.Modfile.Edit (EWork markAll deref nilId treeIds firstNonComment afterGoLine insertAt mkLine headIs)

theorem B_go : B "go" = [103, 111] := by decide +kernel
theorem B_toolchain : B "toolchain" = [116, 111, 111, 108, 99, 104, 97, 105, 110] := by decide +kernel

theorem WorkFile_DropGoStmt_sim {h : Heap} {fp : Int} {e : EWork} (R : RepW h fp e)
    (hlive : ∀ g, e.f.go = some g → g.lineId ≠ 0) :
    ∃ h', WorkFile_DropGoStmt fp h = .ok ((), h') ∧ RepW h' fp (Modfile.Edit.workDropGoStmt e) := by
  obtain ⟨o, hw, R⟩ := R
  unfold WorkFile_DropGoStmt Modfile.Edit.workDropGoStmt
  cases hg : e.f.go with
  | none =>
    have h0 : o.Go = 0 := by have := R.go; rw [hg] at this; exact this
    refine ⟨h, ?_, o, hw, R⟩
    simp only [hw, bind, Except.bind, h0, decide_true, Bool.not_true, Bool.false_eq_true, if_false, pure, Except.pure]
  | some g =>
    have hgg : heapGet h.gos o.Go = .ok (goG g) := (wgoP_ok.some R hg).1
    have hne : ¬ (o.Go = 0) := (wgoP_ok.some R hg).2.2
    obtain ⟨l, hgl, R1⟩ := dropOpt_sim workK_ok wgoP_ok R hg (hlive g hg)
    refine ⟨_, ?_, workA_ok.store (h := setLineH h (g.lineId : Int) (markRemovedLine l)) hw R1⟩
    simp only [hw, bind, Except.bind, hne, decide_false, Bool.not_false, if_true, hgg, goG_Syntax,
      Line_markRemoved_eq hgl, setLineH_works, heapSet_of_get _ hw, pure, Except.pure]
    rfl

theorem WorkFile_DropToolchainStmt_sim {h : Heap} {fp : Int} {e : EWork} (R : RepW h fp e)
    (hlive : ∀ g, e.f.toolchain = some g → g.lineId ≠ 0) :
    ∃ h', WorkFile_DropToolchainStmt fp h = .ok ((), h') ∧ RepW h' fp (Modfile.Edit.workDropToolchainStmt e) := by
  obtain ⟨o, hw, R⟩ := R
  unfold WorkFile_DropToolchainStmt Modfile.Edit.workDropToolchainStmt
  cases hg : e.f.toolchain with
  | none =>
    have h0 : o.Toolchain = 0 := by have := R.toolchain; rw [hg] at this; exact this
    refine ⟨h, ?_, o, hw, R⟩
    simp only [hw, bind, Except.bind, h0, decide_true, Bool.not_true, Bool.false_eq_true, if_false, pure, Except.pure]
  | some g =>
    have hgg : heapGet h.toolchains o.Toolchain = .ok (toolchainG g) := (wtoolchainP_ok.some R hg).1
    have hne : ¬ (o.Toolchain = 0) := (wtoolchainP_ok.some R hg).2.2
    obtain ⟨l, hgl, R1⟩ := dropOpt_sim workK_ok wtoolchainP_ok R hg (hlive g hg)
    refine ⟨_, ?_, workA_ok.store (h := setLineH h (g.lineId : Int) (markRemovedLine l)) hw R1⟩
    simp only [hw, bind, Except.bind, hne, decide_false, Bool.not_false, if_true, hgg, toolchainG_Syntax,
      Line_markRemoved_eq hgl, setLineH_works, heapSet_of_get _ hw, pure, Except.pure]
    rfl

/-! ### the scans of AddGoStmt / AddToolchainStmt over the statement list -/

theorem AddGoStmt_loop1_eq (re : Bytes → Bool) (fp : Int) (h : Heap) (o : WorkFile) (fo : FileSyntax)
    (hw : heapGet h.works fp = .ok o) (hfo : heapGet h.files o.Syntax = .ok fo) :
    ∀ (suf : List Expr) (ssuf : List Modfile.Expr) (pre : List Expr) (fuel : Nat), fo.Stmt = pre ++ suf → RStmts h suf ssuf →
      suf.length + 1 ≤ fuel →
      WorkFile_AddGoStmt_loop1 re fp h fuel (pre.length : Int) = .ok ((firstNonComment ssuf pre.length : Nat) : Int)
  | [], [], pre, fuel, hs, _, hf => by
    obtain ⟨f, rfl⟩ : ∃ f, fuel = f + 1 := ⟨fuel - 1, by omega⟩
    simp only [List.append_nil] at hs
    unfold WorkFile_AddGoStmt_loop1
    simp only [hw, hfo, bind, Except.bind, hs, len_eq, Int.lt_irrefl, decide_false, Bool.false_eq_true, if_false, pure,
      Except.pure, firstNonComment]
  | [], _ :: _, _, _, _, r, _ => r.elim
  | _ :: _, [], _, _, _, r, _ => r.elim
  | x :: xs, s :: ss, pre, fuel, hs, r, hf => by
    obtain ⟨f, rfl⟩ : ∃ f, fuel = f + 1 := ⟨fuel - 1, by omega⟩
    have hlt : ((pre.length : Nat) : Int) < len fo.Stmt := by rw [hs]; exact lt_len_mid _ _ _
    have hidx : idxL fo.Stmt (pre.length : Int) = .ok x := by rw [hs]; exact idxL_mid _ _ _
    have hcast : ((pre.length : Nat) : Int) + 1 = (((pre ++ [x]).length : Nat) : Int) := by simp
    have ih := AddGoStmt_loop1_eq re fp h o fo hw hfo xs ss (pre ++ [x]) f (by simp [hs]) r.2 (by simp at hf; omega)
    have r1 := r.1
    unfold WorkFile_AddGoStmt_loop1
    simp only [hw, hfo, bind, Except.bind, hlt, decide_true, if_true, hidx]
    cases x <;> cases s <;> simp only [RExpr] at r1 <;> try exact r1.elim
    · simp only [Bool.not_true, Bool.false_eq_true, if_false, hcast, ih, firstNonComment]
      simp
    · simp only [Bool.not_false, if_true, pure, Except.pure, firstNonComment]
    · simp only [Bool.not_false, if_true, pure, Except.pure, firstNonComment]

theorem firstNonComment_le : ∀ (ss : List Modfile.Expr) (k : Nat), firstNonComment ss k ≤ k + ss.length
  | [], k => by simp [firstNonComment]
  | s :: ss, k => by
    cases s <;> simp only [firstNonComment, List.length_cons] <;> try omega
    have := firstNonComment_le ss (k + 1); omega

theorem WorkFile_AddGoStmt_sim {h : Heap} {fp : Int} {e : EWork} (R : RepW h fp e) (version : Bytes) (fuel : Nat)
    (hlive : ∀ g, e.f.go = some g → g.lineId ≠ 0) (hf : e.f.syn.stmts.length + 1 ≤ fuel) :
    match Modfile.Edit.workAddGoStmt e version with
    | .ok e' => ∃ h', WorkFile_AddGoStmt Modfile.goVersionRE fuel fp version h = .ok (none, h') ∧ RepW h' fp e'
    | .error _ => ∃ msg, WorkFile_AddGoStmt Modfile.goVersionRE fuel fp version h = .ok (some msg, h) := by
  obtain ⟨o, hw, R⟩ := R
  unfold Modfile.Edit.workAddGoStmt
  cases hre : Modfile.goVersionRE version with
  | false =>
    simp only [Bool.not_false, if_true]
    refine ⟨"invalid language version %q", ?_⟩
    unfold WorkFile_AddGoStmt
    simp only [hre, Bool.not_false, if_true, pure, Except.pure]
  | true =>
    simp only [Bool.not_true, Bool.false_eq_true, if_false, B_go]
    cases hg : e.f.go with
    | none =>
      have h0 : o.Go = 0 := by have := R.go; rw [hg] at this; exact this
      simp only []
      obtain ⟨es, r⟩ := R.syn
      have hle : firstNonComment e.f.syn.stmts 0 ≤ es.length := by
        have := firstNonComment_le e.f.syn.stmts 0; rw [r.stmts.length]; omega
      -- the heap before the scan
      let p2 : Int := ((h.lines.length + 1 : Nat) : Int)
      let h3 : Heap := { h with lines := h.lines ++ [({ (default : Line) with Token := [[103, 111], version] } : Line)],
                                gos := h.gos ++ [({ Version := version, Syntax := p2 } : Go)],
                                works := h.works.set (fp.toNat - 1) { o with Go := ((h.gos.length + 1 : Nat) : Int) } }
      have hw3 : heapGet h3.works fp = .ok { o with Go := ((h.gos.length + 1 : Nat) : Int) } := heapGet_listSet_same _ hw
      have hf3 : heapGet h3.files o.Syntax = .ok (fileG e.f.syn es) := r.file
      have r3 : RStmts h3 es e.f.syn.stmts :=
        RStmts.mono (h := h) (h' := h3) (fun q w (hq : heapGet h.lines q = .ok w) => heapGet_alloc_old _ hq) (fun _ _ x => x)
          (fun _ _ x => x) r.stmts
      have hloop := AddGoStmt_loop1_eq Modfile.goVersionRE fp h3 _ _ hw3 hf3 es e.f.syn.stmts [] fuel rfl r3
        (by rw [r.stmts.length]; exact hf)
      have hrun : WorkFile_AddGoStmt Modfile.goVersionRE fuel fp version h = .ok (none,
          { h3 with files := h.files.set (o.Syntax.toNat - 1) { fileG e.f.syn es with
              Stmt := (List.take (firstNonComment e.f.syn.stmts 0) es ++ Expr.Line p2 :: List.drop (firstNonComment e.f.syn.stmts 0) es) } }) := by
        unfold WorkFile_AddGoStmt
        simp only [hre, Bool.not_true, Bool.false_eq_true, if_false, hw, bind, Except.bind, h0, decide_true, if_true, heapAlloc,
          heapSet_of_get _ hw]
        have hloop' : WorkFile_AddGoStmt_loop1 Modfile.goVersionRE fp h3 fuel 0 =
            .ok ((firstNonComment e.f.syn.stmts 0 : Nat) : Int) := hloop
        rw [hloop']
        simp only [heapGet_listSet_same _ hw]
        rw [show heapGet h.files o.Syntax = .ok (fileG e.f.syn es) from r.file]
        simp only [fileG_Stmt, sliceTo_natCast hle, sliceFrom_natCast hle, heapSet_of_get _ r.file, pure, Except.pure]
        simp [h3, p2]
      refine ⟨_, hrun, { o with Go := ((h.gos.length + 1 : Nat) : Int) }, heapGet_listSet_same _ hw, ?_⟩
      rw [R.next]
      exact {
        syn := ⟨_, RepSynAt_insertLine r [[103, 111], version] (firstNonComment e.f.syn.stmts 0) rfl rfl rfl rfl⟩
        tok := BlockTokOK_insertLine R.tok _ _
        linesG := (R.linesG.allocLine (mkLine (h.lines.length + 1) [[103, 111], version] false)).congr rfl
        next := by simp [h3]
        go := ⟨heapGet_alloc_new _ _, by simp [h3]⟩
        toolchain := R.toolchain.mono (fun _ _ x => x) (by simp [h3])
        godebug := R.godebug.mono (fun _ _ x => x) (by simp [h3])
        use := R.use.mono (fun _ _ x => x) (by simp [h3])
        replace := R.replace.mono (fun _ _ x => x) (by simp [h3]) }
    | some g =>
      simp only []
      have hgg : heapGet h.gos o.Go = .ok (goG g) := (wgoP_ok.some R hg).1
      have hne : ¬ (o.Go = 0) := (wgoP_ok.some R hg).2.2
      obtain ⟨l, hgl, R2⟩ := setOpt_sim workK_ok wgoP_ok R hg (hlive g hg) { g with version := version } rfl [[103, 111], version]
      refine ⟨_, ?_, o, ?_, R2⟩
      rotate_left
      · exact hw
      unfold WorkFile_AddGoStmt
      simp only [hre, Bool.not_true, Bool.false_eq_true, if_false, hw, bind, Except.bind, hne, decide_false, hgg,
        heapSet_of_get _ hgg, heapGet_listSet_same _ hgg, goG_Syntax, pure, Except.pure]
      rw [show ({ Version := version, Syntax := (g.lineId : Int) } : Go) = goG { g with version := version } from rfl,
        FileSyntax_updateLine_eq (h := { h with gos := h.gos.set (o.Go.toNat - 1) (goG { g with version := version }) }) (l := l) hgl
          (by intro _; simp)]

theorem AddToolchainStmt_loop2_eq (re re' : Bytes → Bool) (fp : Int) (h : Heap) : ∀ (fuel : Nat) (i : Int),
    WorkFile_AddToolchainStmt_loop2 re fp h fuel i = WorkFile_AddGoStmt_loop1 re' fp h fuel i
  | 0, _ => rfl
  | fuel + 1, i => by
    unfold WorkFile_AddToolchainStmt_loop2 WorkFile_AddGoStmt_loop1
    simp only [AddToolchainStmt_loop2_eq re re' fp h fuel]

theorem afterGoLine_le : ∀ (ss : List Modfile.Expr) (k j : Nat), afterGoLine ss k = some j → j ≤ k + ss.length
  | [], k, j, h => by simp [afterGoLine] at h
  | s :: ss, k, j, h => by
    cases s with
    | line l =>
      simp only [afterGoLine] at h
      split at h
      · simp only [Option.some.injEq] at h; simp only [List.length_cons]; omega
      · have := afterGoLine_le ss (k + 1) j h; simp only [List.length_cons]; omega
    | lineBlock b => have := afterGoLine_le ss (k + 1) j h; simp only [List.length_cons]; omega
    | commentBlock c => have := afterGoLine_le ss (k + 1) j h; simp only [List.length_cons]; omega
    | lparen c => have := afterGoLine_le ss (k + 1) j h; simp only [List.length_cons]; omega
    | rparen c => have := afterGoLine_le ss (k + 1) j h; simp only [List.length_cons]; omega

/-- the heap after `x.Stmt = append(x.Stmt[:k], stmt, x.Stmt[k:]...)` on the file object `fo` at `x` -/
def insFile (h : Heap) (x : Int) (fo : FileSyntax) (k : Nat) (stmt : Int) : Heap :=
  { h with files := h.files.set (x.toNat - 1) { fo with Stmt := (List.take k fo.Stmt ++ Expr.Line stmt :: List.drop k fo.Stmt) } }

theorem AddToolchainStmt_loop1_eq (re : Bytes → Bool) (fp stmt : Int) (h : Heap) (o : WorkFile) (fo : FileSyntax)
    (hw : heapGet h.works fp = .ok o) (hfo : heapGet h.files o.Syntax = .ok fo) :
    ∀ (suf : List Expr) (ssuf : List Modfile.Expr) (pre : List Expr) (fuel : Nat), fo.Stmt = pre ++ suf → RStmts h suf ssuf →
      suf.length + 1 ≤ fuel →
      WorkFile_AddToolchainStmt_loop1 re fp stmt h fuel (pre.length : Int) =
        match afterGoLine ssuf pre.length with
        | some k => .ok (Ctl.ret ((none : Option String), insFile h o.Syntax fo k stmt))
        | none => .ok (Ctl.next (len fo.Stmt))
  | [], [], pre, fuel, hs, _, hf => by
    obtain ⟨f, rfl⟩ : ∃ f, fuel = f + 1 := ⟨fuel - 1, by omega⟩
    simp only [List.append_nil] at hs
    unfold WorkFile_AddToolchainStmt_loop1
    simp only [hw, hfo, bind, Except.bind, hs, len_eq, Int.lt_irrefl, decide_false, Bool.false_eq_true, if_false, pure,
      Except.pure, afterGoLine]
  | [], _ :: _, _, _, _, r, _ => r.elim
  | _ :: _, [], _, _, _, r, _ => r.elim
  | x :: xs, s :: ss, pre, fuel, hs, r, hf => by
    obtain ⟨f, rfl⟩ : ∃ f, fuel = f + 1 := ⟨fuel - 1, by omega⟩
    have hlt : ((pre.length : Nat) : Int) < len fo.Stmt := by rw [hs]; exact lt_len_mid _ _ _
    have hidx : idxL fo.Stmt (pre.length : Int) = .ok x := by rw [hs]; exact idxL_mid _ _ _
    have hcast : ((pre.length : Nat) : Int) + 1 = (((pre ++ [x]).length : Nat) : Int) := by simp
    have hcast2 : ((pre.length : Nat) : Int) + 1 = ((pre.length + 1 : Nat) : Int) := by simp
    have hle : pre.length + 1 ≤ fo.Stmt.length := by rw [hs]; simp
    have ih := AddToolchainStmt_loop1_eq re fp stmt h o fo hw hfo xs ss (pre ++ [x]) f (by simp [hs]) r.2 (by simp at hf; omega)
    have hlen' : (pre ++ [x]).length = pre.length + 1 := by simp
    rw [hlen'] at ih
    have r1 := r.1
    unfold WorkFile_AddToolchainStmt_loop1
    simp only [hw, hfo, bind, Except.bind, hlt, decide_true, if_true, hidx]
    cases x <;> cases s <;> simp only [RExpr] at r1 <;> try exact r1.elim
    · simp only [Bool.false_eq_true, if_false, pure, Except.pure, hcast, ih, afterGoLine, hlen']
    · rename_i p l
      rcases l with ⟨lid, lcom, lst, tk, lib, lend⟩
      cases tk with
      | nil =>
        simp only [if_true, r1.1, pure, Except.pure, lineG, afterGoLine]
        simp only [len_eq, List.length_nil, Int.ofNat_zero, gt_iff_lt, Int.lt_irrefl, decide_false, Bool.false_eq_true, if_false,
          List.isEmpty_nil, Bool.not_true, Bool.false_and, hcast, ih, hlen']
      | cons u us =>
        have hpos : len (u :: us) > 0 := by rw [len_eq]; simp <;> omega
        simp only [if_true, r1.1, pure, Except.pure, lineG, afterGoLine]
        simp only [hpos, decide_true, if_true, idxL_zero_cons, List.isEmpty_cons, Bool.not_false, Bool.true_and, headIs_cons,
          B_go]
        by_cases hu : u = [103, 111]
        · simp only [hu, decide_true, if_true, hcast2, sliceTo_natCast hle, sliceFrom_natCast hle, heapSet_of_get _ hfo, insFile, List.append_assoc, List.singleton_append]
        · simp only [hu, decide_false, Bool.false_eq_true, if_false, hcast, ih, hlen']
    · simp only [Bool.false_eq_true, if_false, pure, Except.pure, hcast, ih, afterGoLine, hlen']

/-- **`WorkFile.AddToolchainStmt`** (work.go:147): an existing toolchain line is rewritten; else the new line goes after the `go`
    line if there is one, else after the leading comment blocks (two index loops, joined by `goto Found`); an invalid
    name is a returned error on an untouched heap. -/
theorem WorkFile_AddToolchainStmt_sim {h : Heap} {fp : Int} {e : EWork} (R : RepW h fp e) (name : Bytes) (fuel : Nat)
    (hlive : ∀ t, e.f.toolchain = some t → t.lineId ≠ 0) (hf : e.f.syn.stmts.length + 1 ≤ fuel) :
    match Modfile.Edit.workAddToolchainStmt e name with
    | .ok e' => ∃ h', WorkFile_AddToolchainStmt Modfile.toolchainRE fuel fp name h = .ok (none, h') ∧ RepW h' fp e'
    | .error _ => ∃ msg, WorkFile_AddToolchainStmt Modfile.toolchainRE fuel fp name h = .ok (some msg, h) := by
  obtain ⟨o, hw, R⟩ := R
  unfold Modfile.Edit.workAddToolchainStmt
  cases hre : Modfile.toolchainRE name with
  | false =>
    simp only [Bool.not_false, if_true]
    refine ⟨"invalid toolchain name %q", ?_⟩
    unfold WorkFile_AddToolchainStmt
    simp only [hre, Bool.not_false, if_true, pure, Except.pure]
  | true =>
    simp only [Bool.not_true, Bool.false_eq_true, if_false, B_toolchain]
    cases hg : e.f.toolchain with
    | none =>
      have h0 : o.Toolchain = 0 := by have := R.toolchain; rw [hg] at this; exact this
      simp only []
      obtain ⟨es, r⟩ := R.syn
      -- the heap before the scans
      let p2 : Int := ((h.lines.length + 1 : Nat) : Int)
      let h3 : Heap := { h with lines := h.lines ++ [({ (default : Line) with Token := [[116, 111, 111, 108, 99, 104, 97, 105, 110], name] } : Line)],
                                toolchains := h.toolchains ++ [({ Name := name, Syntax := p2 } : Toolchain)],
                                works := h.works.set (fp.toNat - 1) { o with Toolchain := ((h.toolchains.length + 1 : Nat) : Int) } }
      have hw3 : heapGet h3.works fp = .ok { o with Toolchain := ((h.toolchains.length + 1 : Nat) : Int) } :=
        heapGet_listSet_same _ hw
      have hf3 : heapGet h3.files o.Syntax = .ok (fileG e.f.syn es) := r.file
      have r3 : RStmts h3 es e.f.syn.stmts :=
        RStmts.mono (h := h) (h' := h3) (fun q w (hq : heapGet h.lines q = .ok w) => heapGet_alloc_old _ hq) (fun _ _ x => x)
          (fun _ _ x => x) r.stmts
      have hloop1 : WorkFile_AddToolchainStmt_loop1 Modfile.toolchainRE fp p2 h3 fuel 0 = _ :=
        AddToolchainStmt_loop1_eq Modfile.toolchainRE fp p2 h3 _ _ hw3 hf3 es e.f.syn.stmts [] fuel rfl r3
          (by rw [r.stmts.length]; exact hf)
      have hloop2 : WorkFile_AddToolchainStmt_loop2 Modfile.toolchainRE fp h3 fuel 0 =
          .ok ((firstNonComment e.f.syn.stmts 0 : Nat) : Int) :=
        (AddToolchainStmt_loop2_eq _ Modfile.toolchainRE fp h3 fuel 0).trans
          (AddGoStmt_loop1_eq Modfile.toolchainRE fp h3 _ _ hw3 hf3 es e.f.syn.stmts [] fuel rfl r3
            (by rw [r.stmts.length]; exact hf))
      have key : ∀ i : Nat, WorkFile_AddToolchainStmt Modfile.toolchainRE fuel fp name h =
            .ok (none, insFile h3 o.Syntax (fileG e.f.syn es) i p2) →
          ∃ h', WorkFile_AddToolchainStmt Modfile.toolchainRE fuel fp name h = .ok (none, h') ∧
            RepW h' fp { f := { e.f with toolchain := some { name := name, lineId := e.next },
                                         syn := { e.f.syn with stmts := (insertAt e.f.syn.stmts i
                                           (.line (mkLine e.next [[116, 111, 111, 108, 99, 104, 97, 105, 110], name] false))) } },
                         next := e.next + 1 } := by
        intro i hrun
        refine ⟨_, hrun, { o with Toolchain := ((h.toolchains.length + 1 : Nat) : Int) }, heapGet_listSet_same _ hw, ?_⟩
        rw [R.next]
        exact {
          syn := ⟨_, RepSynAt_insertLine r [[116, 111, 111, 108, 99, 104, 97, 105, 110], name] i rfl rfl rfl rfl⟩
          tok := BlockTokOK_insertLine R.tok _ _
          linesG := (R.linesG.allocLine (mkLine (h.lines.length + 1) [[116, 111, 111, 108, 99, 104, 97, 105, 110], name] false)).congr rfl
          next := by simp [h3, insFile]
          go := R.go.mono (fun _ _ x => x) (by simp [h3, insFile])
          toolchain := ⟨heapGet_alloc_new _ _, by simp [h3, insFile]⟩
          godebug := R.godebug.mono (fun _ _ x => x) (by simp [h3, insFile])
          use := R.use.mono (fun _ _ x => x) (by simp [h3, insFile])
          replace := R.replace.mono (fun _ _ x => x) (by simp [h3, insFile]) }
      have hstart : WorkFile_AddToolchainStmt Modfile.toolchainRE fuel fp name h =
          (match afterGoLine e.f.syn.stmts 0 with
           | some k => .ok (none, insFile h3 o.Syntax (fileG e.f.syn es) k p2)
           | none => .ok (none, insFile h3 o.Syntax (fileG e.f.syn es) (firstNonComment e.f.syn.stmts 0) p2)) := by
        unfold WorkFile_AddToolchainStmt
        simp only [hre, Bool.not_true, Bool.false_eq_true, if_false, hw, bind, Except.bind, h0, decide_true, if_true, heapAlloc,
          heapSet_of_get _ hw]
        rw [hloop1]
        simp only [List.length_nil]
        cases ha : afterGoLine e.f.syn.stmts 0 with
        | some k =>
          simp only [pure, Except.pure]
        | none =>
          have hle : firstNonComment e.f.syn.stmts 0 ≤ es.length := by
            have := firstNonComment_le e.f.syn.stmts 0; rw [r.stmts.length]; omega
          simp only []
          rw [hloop2]
          simp only [heapGet_listSet_same _ hw]
          rw [show heapGet h.files o.Syntax = .ok (fileG e.f.syn es) from r.file]
          simp only [fileG_Stmt, sliceTo_natCast hle, sliceFrom_natCast hle, heapSet_of_get _ r.file, pure, Except.pure]
          simp [h3, p2, insFile]
      cases ha : afterGoLine e.f.syn.stmts 0 with
      | some k => rw [ha] at hstart; exact key k hstart
      | none => rw [ha] at hstart; exact key _ hstart
    | some t =>
      simp only []
      have hgg : heapGet h.toolchains o.Toolchain = .ok (toolchainG t) := (wtoolchainP_ok.some R hg).1
      have hne : ¬ (o.Toolchain = 0) := (wtoolchainP_ok.some R hg).2.2
      obtain ⟨l, hgl, R2⟩ := setOpt_sim workK_ok wtoolchainP_ok R hg (hlive t hg) { t with name := name } rfl
        [[116, 111, 111, 108, 99, 104, 97, 105, 110], name]
      refine ⟨_, ?_, o, ?_, R2⟩
      rotate_left
      · exact hw
      unfold WorkFile_AddToolchainStmt
      simp only [hre, Bool.not_true, Bool.false_eq_true, if_false, hw, bind, Except.bind, hne, decide_false, hgg,
        heapSet_of_get _ hgg, heapGet_listSet_same _ hgg, toolchainG_Syntax, pure, Except.pure]
      rw [show ({ Name := name, Syntax := (t.lineId : Int) } : Toolchain) = toolchainG { t with name := name } from rfl,
        FileSyntax_updateLine_eq
          (h := { h with toolchains := h.toolchains.set (o.Toolchain.toNat - 1) (toolchainG { t with name := name }) }) (l := l) hgl
          (by intro _; simp)]

end ModVerif.Tie.FnEditWorkD
