/-
  C09 ★ `SplitStoredHashIndex` is the inverse of `StoredHashIndex` and is total on the int64 range:
  the "bad math" panic is unreachable, the loop stops at the record `n` with `S n ≤ index < S (n+1)` after at
  most `(log2 index)/2 + 2` iterations (the model's fuel `log2 index + 3` is never exhausted).
-/
import ModVerif.Proofs.TlogStoreMth
namespace ModVerif.TlogStore
open ModVerif ModVerif.Tlog ModVerif.RFC6962

/-! ### `S n = StoredHashIndex(0, n)` is strictly increasing, between `2n - log2 n - 1` and `2n` -/

theorem S_lt_succ (n : Nat) : S n < S (n + 1) := by rw [S_succ]; omega

theorem S_mono : ∀ m n, n ≤ m → S n ≤ S m := by
  intro m
  induction m with
  | zero => intro n h; have : n = 0 := by omega
            subst this; exact Nat.le_refl _
  | succ m ih =>
    intro n h
    by_cases e : n = m + 1
    · subst e; exact Nat.le_refl _
    · have := ih n (by omega)
      have := S_lt_succ m
      omega

theorem S_strict (n m : Nat) (h : n < m) : S n < S m :=
  Nat.lt_of_lt_of_le (S_lt_succ n) (S_mono m (n + 1) h)

theorem lt_of_S_lt (a b : Nat) (h : S a < S b) : a < b := by
  apply Nat.lt_of_not_le
  intro hc
  have := S_mono a b hc
  omega

theorem le_S (n : Nat) : n ≤ S n := by
  cases n with
  | zero => exact Nat.zero_le _
  | succ m => rw [S_pos (m + 1) (by omega)]; omega

theorem exists_record : ∀ index, ∃ n, S n ≤ index ∧ index < S (n + 1) := by
  intro index
  induction index with
  | zero => exact ⟨0, by simp [S_zero], S_lt_succ 0⟩
  | succ i ih =>
    obtain ⟨n, h1, h2⟩ := ih
    by_cases h : i + 1 < S (n + 1)
    · exact ⟨n, by omega, h⟩
    · exact ⟨n + 1, by omega, by have := S_lt_succ (n + 1); omega⟩

theorem log2_mono (a b : Nat) (h : a ≤ b) : a.log2 ≤ b.log2 := by
  by_cases ha : a = 0
  · subst ha; simp
  · have hb : b ≠ 0 := by omega
    apply (Nat.le_log2 hb).mpr
    have := (Nat.le_log2 ha (k := a.log2)).mp (Nat.le_refl _)
    omega

/-- `StoredHashIndex(0, n) = 2n - popcount n ≥ 2n - log2 n - 1` -/
theorem S_lower : ∀ n, 2 * n ≤ S n + n.log2 + 1 := by
  intro n
  induction n using Nat.strongRecOn with
  | _ n ih =>
    by_cases h2 : 2 ≤ n
    · have := ih (n / 2) (by omega)
      rw [S_pos n (by omega), Nat.log2_def n]
      simp only [h2, ↓reduceIte]
      omega
    · by_cases h0 : n = 0
      · subst h0; simp
      · have : n = 1 := by omega
        subst this
        rw [S_pos 1 (by omega)]
        simp [S_zero]

theorem splitLoop_spec (index : Nat) : ∀ d n f, S (n + d) ≤ index → index < S (n + d + 1) → d < f →
    n + d + 1 < 2 ^ 64 → splitLoop index f n (S n) = .ok (n + d, S (n + d)) := by
  intro d
  induction d with
  | zero =>
    intro n f h1 h2 h3 hr
    cases f with
    | zero => omega
    | succ f =>
      unfold splitLoop
      rw [trailingZeros64_eq_tz (n + 1) (by omega) (by omega), ← S_succ]
      simp only [Nat.add_zero] at h1 h2 ⊢
      simp [h2]
  | succ d ih =>
    intro n f h1 h2 h3 hr
    cases f with
    | zero => omega
    | succ f =>
      unfold splitLoop
      rw [trailingZeros64_eq_tz (n + 1) (by omega) (by omega), ← S_succ]
      have e : n + (d + 1) = n + 1 + d := by omega
      have hle : S (n + 1) ≤ index := Nat.le_trans (S_mono (n + (d + 1)) (n + 1) (by omega)) h1
      have hng : ¬ S (n + 1) > index := by omega
      simp only [hng, ↓reduceIte]
      rw [e] at h1 h2 ⊢
      exact ih (n + 1) f h1 h2 (by omega) (by omega)

theorem splitStoredHashIndex_spec (index n : Nat) (h1 : S n ≤ index) (h2 : index < S (n + 1)) (hr : index < 2 ^ 63) :
    splitStoredHashIndex index = .ok (index - S n, n >>> (index - S n)) := by
  unfold splitStoredHashIndex
  simp only [storedHashIndex_zero_eq]
  have hg : ¬ S (index / 2) > index := by have := S_le_two_mul (index / 2); omega
  simp only [hg, ↓reduceIte]
  have hstart : index / 2 ≤ n := by
    have : index / 2 < n + 1 := lt_of_S_lt _ _ (by omega)
    omega
  have hn : n ≤ index := Nat.le_trans (le_S n) h1
  have hlow := S_lower n
  have hlog := log2_mono n index hn
  have hloop := splitLoop_spec index (n - index / 2) (index / 2) (index.log2 + 3)
    (by rw [Nat.add_sub_cancel' hstart]; exact h1) (by rw [Nat.add_sub_cancel' hstart]; exact h2)
    (by omega) (by omega)
  rw [Nat.add_sub_cancel' hstart] at hloop
  rw [hloop]
  rfl

/-- ★ `StoredHashIndex(SplitStoredHashIndex(p)) = p` -/
theorem storedHashIndex_split (p l k : Nat) (hp : p < 2 ^ 63) (h : splitStoredHashIndex p = .ok (l, k)) :
    storedHashIndex l k = p := by
  obtain ⟨n, h1, h2⟩ := exists_record p
  rw [splitStoredHashIndex_spec p n h1 h2 hp] at h
  simp only [Except.ok.injEq, Prod.mk.injEq] at h
  obtain ⟨hl, hk⟩ := h
  have hltz : l ≤ tz (n + 1) := by rw [S_succ] at h2; omega
  rw [hl] at hk
  rw [storedHashIndex_eq, ← hk, shiftRight_of_le_tz n l hltz]
  simp only [Nat.add_sub_cancel]
  omega

/-- ★ `SplitStoredHashIndex(StoredHashIndex(l, k)) = (l, k)` -/
theorem split_storedHashIndex (l k : Nat) (h : storedHashIndex l k < 2 ^ 63) :
    splitStoredHashIndex (storedHashIndex l k) = .ok (l, k) := by
  have hpos : 0 < (k + 1) * 2 ^ l := Nat.mul_pos (by omega) (Nat.two_pow_pos l)
  have hl : l ≤ tz ((k + 1) * 2 ^ l - 1 + 1) := by
    rw [Nat.sub_add_cancel hpos]; exact le_tz_mul_pow l (k + 1) (by omega)
  have e := storedHashIndex_eq l k
  have h2 : storedHashIndex l k < S ((k + 1) * 2 ^ l - 1 + 1) := by rw [S_succ]; omega
  rw [splitStoredHashIndex_spec _ ((k + 1) * 2 ^ l - 1) (by omega) h2 h]
  have e1 : storedHashIndex l k - S ((k + 1) * 2 ^ l - 1) = l := by omega
  rw [e1]
  have e2 := shiftRight_of_le_tz ((k + 1) * 2 ^ l - 1) l hl
  rw [Nat.sub_add_cancel hpos] at e2
  have := Nat.eq_of_mul_eq_mul_right (Nat.two_pow_pos l) e2
  have : ((k + 1) * 2 ^ l - 1) >>> l = k := by omega
  rw [this]

/-- ★ totality: neither the "bad math" panic nor fuel exhaustion is reachable -/
theorem split_total (p : Nat) (hp : p < 2 ^ 63) : ∃ l k, splitStoredHashIndex p = .ok (l, k) := by
  obtain ⟨n, h1, h2⟩ := exists_record p
  exact ⟨_, _, splitStoredHashIndex_spec p n h1 h2 hp⟩

/-- on the dense store of `N` records, `SplitStoredHashIndex` reads off the specification's layout:
    position ↔ coordinate is the bijection between `[0, StoredHashCount N)` and the complete subtrees of the log -/
theorem split_eq_layout (N p : Nat) (hN : p < S N) (hp : p < 2 ^ 63) :
    ∃ l k, splitStoredHashIndex p = .ok (l, k) ∧ (layout N)[p]? = some (l, k) ∧ (k + 1) * 2 ^ l ≤ N := by
  obtain ⟨n, h1, h2⟩ := exists_record p
  have hn : n < N := lt_of_S_lt n N (by omega)
  have hltz : p - S n ≤ tz (n + 1) := by rw [S_succ] at h2; omega
  have hlay := layout_get N n (p - S n) hn hltz
  rw [Nat.add_sub_cancel' h1] at hlay
  refine ⟨_, _, splitStoredHashIndex_spec p n h1 h2 hp, hlay, ?_⟩
  rw [shiftRight_of_le_tz n _ hltz]
  omega

end ModVerif.TlogStore
