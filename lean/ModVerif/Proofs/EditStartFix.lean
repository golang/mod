/-
  The start state of a file parsed WITH a version fixer (C15 `typed_eq_tree` (b)): the fixer hypothesis and `fixRetract`.
  `FixerOK`: the fixer never returns the empty version — what `File.add` needs to write back the rendering of the entry it
  adds (`parseVersion` writes the raw fixed version into the token and returns the same bytes; `replaceToks` omits an empty
  version).
  `fixRetract` (runs only with a fixer): `fixRetractLoop` re-parses the interval of every retract entry with the fixer,
  writes the fixed versions into the line by `FileSyntax.updateLine` and into the typed entry.  One `updateLine` per
  entry: `Match.frame` with K = the retract segment, S = the id of the line.  The line keeps its id, its `inBlock` flag and
  its comments, so everything else of `ParsedOK` is carried by `SynOK.updateLine`.  No hypothesis on the fixer is needed
  for this step: the token written is the raw fixed version, which is what `entRt` reads (`tokIs`), also when it is empty.
-/
import ModVerif.Proofs.EditMoreStartC
import ModVerif.Proofs.ModfileC20Lax
namespace ModVerif.Modfile.Edit.SFix
open ModVerif ModVerif.Modfile ModVerif.Modfile.Edit ModVerif.Proofs.ModfileC20 ModVerif.Proofs.EditMore

def FixerOK (fx : Fixer) : Prop := ∀ p v r, fx p v = .ok r → r ≠ []

def FixOK (fix : Option Fixer) : Prop := ∀ fx, fix = some fx → FixerOK fx

theorem fixOK_none : FixOK none := fun _ h => by cases h
theorem fixOK_some {fx : Fixer} (h : FixerOK fx) : FixOK (some fx) := fun _ e => by cases e; exact h

/-- the same hypothesis as the directive layer spells it -/
theorem FixOK.ne {fix : Option Fixer} (h : FixOK fix) : Proofs.ModfileFmtDir.FixNE fix :=
  fun fx e p v hf => h fx e p v [] hf rfl

theorem parseVersion_some (fx : Fixer) (p tok tok' v : Bytes) (h : parseVersion p tok (some fx) = (tok', .ok v)) :
    tok' = v := by
  unfold parseVersion at h
  split at h
  · simp at h
  · simp only at h
    split at h
    · simp at h
    · simp at h
    · simp only [Prod.mk.injEq, Except.ok.injEq] at h
      rw [← h.1, ← h.2]

theorem pvi_one (fx : Fixer) (p x : Bytes) (args' : List Bytes) (vi : VersionInterval) (rest : List Bytes)
    (h : parseVersionInterval p [x] (some fx) = (args', .ok (vi, rest))) : args' = [vi.low] ∧ vi.low = vi.high := by
  unfold parseVersionInterval at h
  simp only at h
  split at h
  · simp at h
  · split at h
    · split at h
      · simp at h
      · rename_i t0' v hv
        simp only [Prod.mk.injEq, Except.ok.injEq] at h
        obtain ⟨rfl, rfl, _⟩ := h
        have := parseVersion_some _ _ _ _ _ hv
        subst this
        exact ⟨rfl, rfl⟩
    · simp at h

theorem pvi_nil (fx : Fixer) (p : Bytes) (args' : List Bytes) (vi : VersionInterval) (rest : List Bytes)
    (h : parseVersionInterval p [] (some fx) = (args', .ok (vi, rest))) : False := by
  unfold parseVersionInterval at h
  simp at h

theorem pvi_two (fx : Fixer) (p x y : Bytes) (args' : List Bytes) (vi : VersionInterval) (rest : List Bytes)
    (h : parseVersionInterval p [[91], x, [44], y, [93]] (some fx) = (args', .ok (vi, rest))) :
    args' = [[91], vi.low, [44], vi.high, [93]] := by
  cases hlow : parseVersion p x (some fx) with
  | mk t1' r1 =>
    cases r1 with
    | error k => simp [parseVersionInterval, hlow] at h
    | ok low =>
      cases hhigh : parseVersion p y (some fx) with
      | mk t2' r2 =>
        cases r2 with
        | error k => simp [parseVersionInterval, hlow, hhigh] at h
        | ok high =>
          simp [parseVersionInterval, hlow, hhigh] at h
          obtain ⟨rfl, rfl, _⟩ := h
          have e1 := parseVersion_some _ _ _ _ _ hlow
          have e2 := parseVersion_some _ _ _ _ _ hhigh
          subst e1 e2
          rfl

/-- `pre`: the block verb in front of the line's tokens (empty at top level) -/
theorem fr_tokens (fx : Fixer) (path : Bytes) (r : Retract) (pre : List Bytes) (l : Line) (s : List Comment)
    (hpre : pre = [] ∨ ∃ v, pre = [v]) (_hlive : l.token ≠ [])
    (hacc : (entRt r).acc (pre ++ l.token) s)
    (args' : List Bytes) (vi : VersionInterval) (rest : List Bytes)
    (hp : parseVersionInterval path (frArgs l).2 (some fx) = (args', .ok (vi, rest))) :
    (entRt { r with interval := vi }).acc (pre ++ ((frArgs l).1 ++ args')) s ∧ (frArgs l).1 ++ args' ≠ [] := by
  simp only [entRt] at hacc ⊢
  rcases hacc with ⟨x, ht, _, _⟩ | ⟨x, y, ht, _, _⟩
  · rcases hpre with rfl | ⟨v, rfl⟩
    · simp only [List.nil_append] at ht ⊢
      have hfa : frArgs l = ([B "retract"], [x]) := by simp [frArgs, ht]
      rw [hfa] at hp ⊢
      obtain ⟨e1, e2⟩ := pvi_one _ _ _ _ _ _ hp
      subst e1
      exact ⟨Or.inl ⟨vi.low, rfl, Or.inl rfl, e2⟩, by simp⟩
    · simp only [List.cons_append, List.nil_append, List.cons.injEq] at ht
      obtain ⟨rfl, ht⟩ := ht
      by_cases hx : x = B "retract"
      · have hfa : frArgs l = ([x], []) := by simp [frArgs, ht, hx]
        rw [hfa] at hp
        exact (pvi_nil _ _ _ _ _ hp).elim
      · have hfa : frArgs l = ([], [x]) := by simp [frArgs, ht, hx]
        rw [hfa] at hp ⊢
        obtain ⟨e1, e2⟩ := pvi_one _ _ _ _ _ _ hp
        subst e1
        exact ⟨Or.inl ⟨vi.low, rfl, Or.inl rfl, e2⟩, by simp⟩
  · rcases hpre with rfl | ⟨v, rfl⟩
    · simp only [List.nil_append] at ht ⊢
      have hfa : frArgs l = ([B "retract"], [[91], x, [44], y, [93]]) := by simp [frArgs, ht]
      rw [hfa] at hp ⊢
      have e1 := pvi_two _ _ _ _ _ _ _ hp
      subst e1
      exact ⟨Or.inr ⟨vi.low, vi.high, rfl, Or.inl rfl, Or.inl rfl⟩, by simp⟩
    · simp only [List.cons_append, List.nil_append, List.cons.injEq] at ht
      obtain ⟨rfl, ht⟩ := ht
      have hfa : frArgs l = ([], [[91], x, [44], y, [93]]) := by
        have : ([91] : Bytes) ≠ B "retract" := by decide +kernel
        simp [frArgs, ht, this]
      rw [hfa] at hp ⊢
      have e1 := pvi_two _ _ _ _ _ _ _ hp
      subst e1
      exact ⟨Or.inr ⟨vi.low, vi.high, rfl, Or.inl rfl, Or.inl rfl⟩, by simp⟩

/-- the syntax-layer part of `ParsedOK` -/
structure SynOK (stmts : List Expr) : Prop where
  nodup : (treeIds stmts).Nodup
  blockTok : ∀ b, Expr.lineBlock b ∈ stmts → ∃ v, b.token = [v]
  flags : ∀ x ∈ stmts, FlagOK x

theorem SynOK.updateLine {fs : FileSyntax} (h : SynOK fs.stmts) (id : Nat) (g : Line → Line)
    (hid : ∀ l, (g l).id = l.id) (hfl : ∀ l, (g l).inBlock = l.inBlock) : SynOK (fs.updateLine id g).stmts := by
  refine ⟨?_, ?_, ?_⟩
  · rw [treeIds_updateLine fs id g h.nodup hid]; exact h.nodup
  · rw [updateLine_stmts fs id g h.nodup]
    intro b hb
    rcases mem_mapLines_block hb with ⟨b0, hb0, rfl⟩
    exact h.blockTok b0 hb0
  · rw [updateLine_stmts fs id g h.nodup]
    intro x hx
    rcases List.mem_map.1 hx with ⟨x0, hx0, rfl⟩
    have h0 := h.flags x0 hx0
    cases x0 with
    | line l =>
      simp only [mapLinesStmt, FlagOK] at h0 ⊢
      split
      · rw [hfl]; exact h0
      · exact h0
    | lineBlock b =>
      simp only [mapLinesStmt, FlagOK] at h0 ⊢
      intro l hl
      rcases List.mem_map.1 hl with ⟨l0, hl0, rfl⟩
      split
      · rw [hfl]; exact h0 l0 hl0
      · exact h0 l0 hl0
    | commentBlock _ => trivial
    | lparen _ => trivial
    | rparen _ => trivial

theorem SynOK.locShape {stmts : List Expr} (h : SynOK stmts) : ∀ p ∈ loc stmts, p.1 = [] ∨ ∃ v, p.1 = [v] := by
  intro p hp
  unfold loc at hp
  rcases List.mem_flatMap.1 hp with ⟨x, hx, hpx⟩
  cases x with
  | line l =>
    simp only [locStmt, List.mem_singleton] at hpx
    subst hpx
    exact Or.inl rfl
  | lineBlock b =>
    simp only [locStmt, List.mem_map] at hpx
    rcases hpx with ⟨l, _, rfl⟩
    exact Or.inr (h.blockTok b hx)
  | commentBlock _ => simp [locStmt] at hpx
  | lparen _ => simp [locStmt] at hpx
  | rparen _ => simp [locStmt] at hpx

theorem nodupIds_of {stmts : List Expr} (h : (treeIds stmts).Nodup) : NodupIds stmts := by
  unfold NodupIds; rw [← treeIds_eq_linesOf]; exact h

theorem fixRetractLoop_noerr (path : Bytes) (fx : Fixer) : ∀ (rs : List Retract) (fs : FileSyntax) (e : List RuleErr),
    (fixRetractLoop path fx rs fs e).2.2 = [] → e = [] := by
  intro rs
  induction rs with
  | nil => intro fs e h; exact h
  | cons r rest ih =>
    intro fs e h
    rw [fixRetractLoop_cons] at h
    cases hf : fs.findLine r.lineId with
    | none => rw [hf] at h; exact ih _ _ h
    | some l =>
      rw [hf] at h
      simp only at h
      have := ih _ _ h
      simp only [frStep] at this
      split at this
      · cases this
      · exact this

/-- `Match.frame` with K = the retract segment, S = the line of the entry -/
theorem fr_step (fx : Fixer) (path : Bytes) (A C : List Ent) (done todo : List Retract) (r : Retract) (fs : FileSyntax)
    (hs : SynOK fs.stmts) (hm : Match (A ++ ((done ++ r :: todo).map entRt ++ C)) (view fs.stmts)) :
    ∃ l, fs.findLine r.lineId = some l ∧
      ∀ (args' : List Bytes) (vi : VersionInterval) (rest : List Bytes),
        parseVersionInterval path (frArgs l).2 (some fx) = (args', .ok (vi, rest)) →
        Match (A ++ ((done ++ { r with interval := vi } :: todo).map entRt ++ C))
          (view (fs.updateLine r.lineId (fun l' => { l' with token := (frArgs l).1 ++ args' })).stmts) := by
  have hrK : entRt r ∈ A ++ ((done ++ r :: todo).map entRt ++ C) :=
    List.mem_append_right _ (List.mem_append_left _ (List.mem_map.2 ⟨r, by simp, rfl⟩))
  rcases hm.cover _ hrK with ⟨v, hv, hvid, hacc⟩
  rcases mem_view.1 hv with ⟨p, hp, hlive, rfl⟩
  have hpid : p.2.id = r.lineId := hvid
  have hmemL : p.2 ∈ linesOf fs.stmts := by
    have := allLines_eq_loc fs
    unfold linesOf
    rw [show ({ stmts := fs.stmts } : FileSyntax).allLines = (loc fs.stmts).map (·.2) from allLines_eq_loc { stmts := fs.stmts }]
    exact List.mem_map.2 ⟨p, hp, rfl⟩
  have hfind : fs.findLine r.lineId = some p.2 := by
    rw [← hpid]; exact findLine_of_mem (nodupIds_of hs.nodup) hmemL
  refine ⟨p.2, hfind, ?_⟩
  intro args' vi rest hpv
  have hlive' : p.2.token ≠ [] := by
    intro e; simp [liveLoc, e] at hlive
  obtain ⟨hacc', hne⟩ := fr_tokens fx path r p.1 p.2 p.2.comments.suffix (hs.locShape p hp) hlive' hacc args' vi rest hpv
  let g : Line → Line := fun l' => { l' with token := (frArgs p.2).1 ++ args' }
  have hview := mem_view_updateLine fs r.lineId g hs.nodup (fun _ => rfl)
  have hKids : ((done ++ { r with interval := vi } :: todo).map entRt).map (·.id) = ((done ++ r :: todo).map entRt).map (·.id) := by
    simp [List.map_append, entRt]
  have hnd := hm.nodup
  simp only [List.map_append] at hnd
  have ndK : (((done ++ r :: todo).map entRt).map (·.id)).Nodup := by
    have := (List.nodup_append.1 (List.nodup_append.1 hnd).2.1).1
    simpa [List.map_append] using this
  have hrin : r.lineId ∈ ((done ++ r :: todo).map entRt).map (·.id) :=
    List.mem_map.2 ⟨entRt r, List.mem_map.2 ⟨r, by simp, rfl⟩, rfl⟩
  -- the new line
  have hnew : mkV (p.1, g p.2) ∈ view (fs.updateLine r.lineId g).stmts :=
    (hview _).2 (Or.inr ⟨p, hp, hpid, by
      simp only [liveLoc, g]
      cases hx : (frArgs p.2).1 ++ args' with
      | nil => exact absurd hx hne
      | cons _ _ => rfl, rfl⟩)
  refine Match.frame [r.lineId] hm ?_ ?_ ?_ ?_ ?_ ?_ ?_
  · intro v hv
    have hv' : v.id ≠ r.lineId := by simpa using hv
    rw [hview v]
    constructor
    · rintro (⟨_, h2⟩ | ⟨q, _, hq, _, rfl⟩)
      · exact h2
      · exact absurd hq hv'
    · intro h2; exact Or.inl ⟨hv', h2⟩
  · intro i hi
    have : i = r.lineId := by simpa using hi
    subst this
    exact Or.inl hrin
  · rw [hKids]; exact ndK
  · intro en' hen'
    left
    rw [← hKids]
    exact List.mem_map.2 ⟨en', hen', rfl⟩
  · intro en' hen'
    rcases List.mem_map.1 hen' with ⟨x, hx, rfl⟩
    simp only [List.mem_append, List.mem_cons] at hx
    have other : ∀ x, (x ∈ done ∨ x ∈ todo) → ∃ v ∈ view (fs.updateLine r.lineId g).stmts,
        v.id = (entRt x).id ∧ (entRt x).acc v.toks v.suffix := by
      intro x hx
      have hxK : entRt x ∈ A ++ ((done ++ r :: todo).map entRt ++ C) := by
        refine List.mem_append_right _ (List.mem_append_left _ (List.mem_map.2 ⟨x, ?_, rfl⟩))
        rcases hx with h1 | h1
        · exact List.mem_append_left _ h1
        · exact List.mem_append_right _ (List.mem_cons_of_mem _ h1)
      rcases hm.cover _ hxK with ⟨v, hv, hvid, hacc⟩
      refine ⟨v, (hview v).2 (Or.inl ⟨?_, hv⟩), hvid, hacc⟩
      rw [hvid]
      -- x.lineId ≠ r.lineId: the retract segment has pairwise different ids
      intro e
      have hndl : ((done ++ r :: todo).map (·.lineId)).Nodup := by
        have : ((done ++ r :: todo).map entRt).map (·.id) = (done ++ r :: todo).map (·.lineId) := by
          simp [List.map_map, entRt, Function.comp_def]
        rw [this] at ndK; exact ndK
      rw [List.map_append, List.map_cons] at hndl
      rcases List.nodup_append.1 hndl with ⟨_, h2, h3⟩
      rcases hx with h1 | h1
      · exact h3 _ (List.mem_map.2 ⟨x, h1, rfl⟩) _ List.mem_cons_self e
      · exact (List.nodup_cons.1 h2).1 (List.mem_map.2 ⟨x, h1, e⟩)
    rcases hx with h1 | rfl | h1
    · exact other x (Or.inl h1)
    · exact ⟨_, hnew, hpid, hacc'⟩
    · exact other x (Or.inr h1)
  · intro v _ hvS
    have : v.id = r.lineId := by simpa using hvS
    exact ⟨entRt { r with interval := vi }, List.mem_map.2 ⟨_, by simp, rfl⟩, this.symm⟩
  · intro en hen hnS
    rcases List.mem_map.1 hen with ⟨x, hx, rfl⟩
    simp only [List.mem_append, List.mem_cons] at hx
    rcases hx with h1 | rfl | h1
    · exact ⟨entRt x, List.mem_map.2 ⟨x, by simp [h1], rfl⟩, rfl⟩
    · exact absurd (by simp [entRt]) hnS
    · exact ⟨entRt x, List.mem_map.2 ⟨x, by simp [h1], rfl⟩, rfl⟩

theorem fixRetractLoop_match (fx : Fixer) (path : Bytes) (A C : List Ent) :
    ∀ (todo done : List Retract) (fs : FileSyntax) (e : List RuleErr),
      SynOK fs.stmts → Match (A ++ ((done ++ todo).map entRt ++ C)) (view fs.stmts) →
      (fixRetractLoop path fx todo fs e).2.2 = [] →
      SynOK (fixRetractLoop path fx todo fs e).2.1.stmts ∧
      Match (A ++ ((done ++ (fixRetractLoop path fx todo fs e).1).map entRt ++ C))
        (view (fixRetractLoop path fx todo fs e).2.1.stmts) := by
  intro todo
  induction todo with
  | nil => intro done fs e hs hm _; exact ⟨hs, hm⟩
  | cons r rest ih =>
    intro done fs e hs hm he
    rcases fr_step fx path A C done rest r fs hs hm with ⟨l, hfind, hstep⟩
    rw [fixRetractLoop_cons] at he ⊢
    rw [hfind] at he ⊢
    simp only at he ⊢
    have he1 := fixRetractLoop_noerr _ _ _ _ _ he
    cases hpv : parseVersionInterval path (frArgs l).2 (some fx) with
    | mk args' res =>
      cases res with
      | error k => simp [frStep, hpv] at he1
      | ok vr =>
        obtain ⟨vi, rst⟩ := vr
        have hm1 := hstep args' vi rst hpv
        have e1 : (frStep path fx fs r l e).1 = vi := by simp [frStep, hpv]
        have e2 : (frStep path fx fs r l e).2.1 = fs.updateLine r.lineId (fun l' => { l' with token := (frArgs l).1 ++ args' }) := by
          simp [frStep, hpv]
        have e3 : (frStep path fx fs r l e).2.2 = e := by simp [frStep, hpv]
        rw [e2, e3] at he
        rw [e1, e2, e3]
        have hs1 : SynOK (fs.updateLine r.lineId (fun l' => { l' with token := (frArgs l).1 ++ args' })).stmts :=
          hs.updateLine _ _ (fun _ => rfl) (fun _ => rfl)
        have hm1' : Match (A ++ (((done ++ [{ r with interval := vi }]) ++ rest).map entRt ++ C))
            (view (fs.updateLine r.lineId (fun l' => { l' with token := (frArgs l).1 ++ args' })).stmts) := by
          simpa [List.append_assoc] using hm1
        have := ih (done ++ [{ r with interval := vi }]) _ _ hs1 hm1' he
        simpa [List.append_assoc] using this

end ModVerif.Modfile.Edit.SFix
