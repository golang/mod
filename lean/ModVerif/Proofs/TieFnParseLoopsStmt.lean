/-
  `input.parseLine`, `input.parseLineBlock` and `input.parseStmt` of the regenerated parser against the model's
  `parseLine`, `parseLineBlockLoop`, `parseStmtLoop` / `parseStmt`.

  State correspondence.  `embP f pre post mi` is the parser-unit `input` for the model lexer state `mi` (the embedding `emb` of
  Proofs/TieFnLexA.lean, lifted by Proofs/TieFnParseLoopsLex.lean) with `file = f`, `pre`, `post` carried along.  The heap `h` has
  one Line object per line the model has created: `h.lines.length = mi.nextId`, so that the pointer of the next line is
  `nextId + 1` and `id = pointer - 1`.

  Fuel.  Model loops run on their own fuel `fm` (hypothesis `m i < fm`, the measure of Proofs/ModfileParse.lean, which is
  what the model's `parseFile` supplies); generated loops need `m i + c ≤ fg` for a small constant `c` per function.

  `Sim Q r g` (Proofs/GoRtSim.lean) is the form of every statement here: the generated run `g` follows the model run `r`,
  panicking where the model reports a syntax error (Go's `in.Error` panics and `parse` recovers).

  parseLineBlock: the block object lives at the pointer `xp`; while the loop runs it is `blockG x ps` with `ps` the
  pointers of the lines parsed so far (the model keeps those lines reversed in `ls`); at `)` its `RParen` is filled in.
  parseStmt: the model RETURNS the statement; the Go code appends it to `in.file.Stmt` (the file object at `f = in.file`).
-/
import ModVerif.Proofs.TieFnParseLoopsLex
import ModVerif.Proofs.TieFnParseHeap
import ModVerif.Proofs.ModfileParse
import ModVerif.Proofs.ModfileC20Ids
import ModVerif.Proofs.GoRtSim
namespace ModVerif.TieFnParse
open ModVerif ModVerif.GoRt ModVerif.Modfile ModVerif.TieFnLex
open ModVerif.Tie.FnParseHeap
open ModVerif.Proofs.ModfileParse (m lex_spec)
open ModVerif.Drv.LexOps.G (isPrintI isSpaceI)
open ModVerif.Drv.LexOps.M (kindCode)

/-! ### the model lexer state in the parser unit -/

def embP (f : Int) (pre post : List Generated.Parse.Expr) (mi : Input) : Generated.Parse.input :=
  lift f pre post (emb mi)

theorem posG_eq (p : Position) : posG p = posP (embPos p) := rfl
theorem tokG_eq (t : Token) : tokG t = tokP (embTok t) := rfl
theorem comG_eq (c : Comment) : comG c = comP (embComment c) := rfl

variable {f : Int} {pre post : List Generated.Parse.Expr}

@[simp] theorem embP_file (mi : Input) : (embP f pre post mi).file = f := rfl
@[simp] theorem embP_pre (mi : Input) : (embP f pre post mi).pre = pre := rfl
@[simp] theorem embP_post (mi : Input) : (embP f pre post mi).post = post := rfl
@[simp] theorem embP_nextId (mi : Input) (n : Nat) : embP f pre post { mi with nextId := n } = embP f pre post mi := rfl
theorem embP_peek (mi : Input) : Generated.Parse.input_peek (embP f pre post mi) = kindCode mi.peek := rfl
theorem embP_comments (mi : Input) : (embP f pre post mi).comments = mi.commentsRev.reverse.map comG := by
  show (mi.commentsRev.reverse.map embComment).map comP = _
  rw [List.map_map]; rfl

theorem WF_nextId {mi : Input} (n : Nat) (h : WF mi) : WF { mi with nextId := n } := h

/-- readToken of the parser unit, from any token kind and `tokenStart` -/
theorem readTokenP_eq (k : Int) (ts : Bytes) (i : Input) (hw : WF i) (fuel : Nat) (hf : i.remaining.length + 4 ≤ fuel) :
    Generated.Parse.input_readToken isPrintI isSpaceI fuel (lift f pre post (embKT k ts i)) =
      (match readToken i with
       | .ok j => .ok ((), embP f pre post j)
       | .error _ => .error .panic) ∧
      ∀ j, readToken i = .ok j → WF j := by
  obtain ⟨hG, hP⟩ := readToken_eq k ts i hw fuel hf
  refine ⟨?_, hP⟩
  rw [readToken_lift, hG]
  cases readToken i <;> rfl

theorem lexP_eq (i : Input) (hw : WF i) (fuel : Nat) (hf : i.remaining.length + 4 ≤ fuel) :
    Generated.Parse.input_lex isPrintI isSpaceI fuel (embP f pre post i) =
      (match lex i with
       | .ok (t, j) => .ok (tokG t, embP f pre post j)
       | .error _ => .error .panic) ∧
      ∀ t j, lex i = .ok (t, j) → WF j := by
  obtain ⟨hG, hP⟩ := lex_eq i hw fuel hf
  refine ⟨?_, fun t j h => (hP t j h).1⟩
  unfold embP
  rw [lex_lift, hG]
  cases hl : lex i with
  | error e => rfl
  | ok p => obtain ⟨t, j⟩ := p; rfl

theorem m_ge (i : Input) : i.remaining.length ≤ m i := by unfold m; omega

theorem idx_pred (n : Nat) : ((n + 1 : Nat) : Int).toNat - 1 = n := by omega

/-- the model's loop body with the `match` on the token kind as an if-chain in the order of Go's `switch` -/
theorem parseLineBlockLoop_succ (n : Nat) (i : Input) (x : LineBlock) (linesRev : List Line) (commentsRev : List Comment) :
    parseLineBlockLoop (n + 1) i x linesRev commentsRev =
      if i.peek = .eolComment then (do
        let (_, i) ← lex i
        parseLineBlockLoop n i x linesRev commentsRev)
      else if i.peek = .punct 10 then (do
        let (_, i) ← lex i
        let add := match commentsRev with
          | [] => !linesRev.isEmpty
          | c :: _ => !c.token.isEmpty
        parseLineBlockLoop n i x linesRev (if add then ({} : Comment) :: commentsRev else commentsRev))
      else if i.peek = .comment then (do
        let (tok, i) ← lex i
        parseLineBlockLoop n i x linesRev ({ start := tok.pos, token := tok.text } :: commentsRev))
      else if i.peek = .eof then .error (i.error .unterminatedBlock)
      else if i.peek = .punct 41 then (do
        let (rparen, i) ← lex i
        let x := { x with lines := linesRev.reverse,
                          rparen := { comments := { before := commentsRev.reverse }, pos := rparen.pos } }
        if !i.peek.isEOL then .error (i.error .afterRParen)
        else do
          let (_, i) ← lex i
          .ok (x, i))
      else (do
        let (l, i) ← parseLine (n + 1) i
        let l := { l with comments := { l.comments with before := commentsRev.reverse } }
        parseLineBlockLoop n i x (l :: linesRev) []) := by
  conv => lhs; unfold parseLineBlockLoop
  split
  · rename_i hk; simp only [hk, if_true]
  · rename_i hk; simp only [hk, reduceCtorEq, if_false, if_true]; try rfl
  · rename_i hk; simp only [hk, reduceCtorEq, if_false, if_true]; try rfl
  · rename_i hk; simp only [hk, reduceCtorEq, if_false, if_true]; try rfl
  · rename_i hk
    have : ¬ ((41 : UInt8) = 10) := by decide
    simp only [hk, reduceCtorEq, if_false, if_true, TokKind.punct.injEq, this]
  · rename_i h1 h2 h3 h4 h5
    rw [if_neg h1, if_neg h2, if_neg h3, if_neg h4, if_neg h5]

theorem lex_sim (i : Input) (hw : WF i) (fuel : Nat) (hf : m i + 4 ≤ fuel) :
    Sim (fun (t, j) b => t = i.token ∧ b = (tokG i.token, embP f pre post j) ∧ WF j ∧ m j ≤ m i ∧
        (i.token.kind ≠ .eof → m j < m i) ∧ j.nextId = i.nextId)
      (lex i) (Generated.Parse.input_lex isPrintI isSpaceI fuel (embP f pre post i)) := by
  have hr := m_ge i
  obtain ⟨hG, hP⟩ := lexP_eq (f := f) (pre := pre) (post := post) i hw fuel (by omega)
  rw [hG]
  rcases lex_spec i with ⟨j, h1, hle, hlt⟩ | ⟨e, h1, _⟩
  · rw [h1]
    exact Sim.ok ⟨rfl, rfl, hP _ _ h1, hle, hlt, Proofs.ModfileC20.lex_nextId h1⟩
  · rw [h1]
    exact Sim.error e

theorem isEOL_tokG (t : Token) : Generated.Parse.tokenKind_isEOL (tokG t).kind = t.kind.isEOL := isEOL_eq t.kind

theorem isEOL_code (k : TokKind) : Generated.Parse.tokenKind_isEOL (kindCode k) = k.isEOL := isEOL_eq k

theorem kindCode_inj {a b : TokKind} : kindCode a = kindCode b ↔ a = b := by
  refine ⟨fun h => ?_, fun h => h ▸ rfl⟩
  cases a <;> cases b <;> simp only [kindCode, Int.ofNat_eq_natCast] at h <;> first | rfl | omega | skip
  rw [byte_toInt_inj.1 h]

/-! ### parseLine -/

theorem lineG_new (id : Nat) (s e : Position) (ts : List Bytes) (b : Bool) :
    lineG { id := id, start := s, token := ts, «end» := e, inBlock := b } =
      { (default : Generated.Parse.Line) with Start := posG s, Token := ts, End := posG e, InBlock := b } := rfl

theorem parseLine_loop_sim : ∀ (fm : Nat) (i : Input) (s e : Position) (ts : List Bytes), WF i → m i < fm →
    ∀ (fg : Nat), m i + 5 ≤ fg → ∀ (h : Generated.Parse.Heap),
    Sim (fun (l, i') r => r = .ret ((((h.lines.length + 1 : Nat) : Int), embP f pre post i'),
          { h with lines := h.lines ++ [lineG l] }) ∧ WF i')
      (parseLineLoop fm i s e ts)
      (Generated.Parse.input_parseLine_loop1 isPrintI isSpaceI (posG s) fg (embP f pre post i) h ts.reverse (posG e))
  | 0, i, _, _, _, _, hm => by omega
  | n + 1, i, s, e, ts, hw, hm => by
    intro fg hfg h
    obtain ⟨g, rfl⟩ : ∃ g, fg = g + 1 := ⟨fg - 1, by omega⟩
    unfold parseLineLoop Generated.Parse.input_parseLine_loop1
    refine (lex_sim i hw g (by omega)).bind ?_
    rintro ⟨_, j⟩ _ - ⟨rfl, rfl, hwj, hle, hlt, hid⟩
    simp only [isEOL_tokG]
    cases hk : i.token.kind.isEOL with
    | true =>
      simp only [if_true, heapAlloc_fst, heapAlloc_snd, pure_eq_ok]
      exact Sim.ok ⟨rfl, hwj⟩
    | false =>
      simp only [Bool.false_eq_true, if_false]
      have hlt' := hlt (Proofs.ModfileParse.not_eof_of_not_isEOL hk)
      have := parseLine_loop_sim n j s i.token.endPos (i.token.text :: ts) hwj (by omega) g (by omega) h
      simp only [List.reverse_cons] at this
      exact this

theorem parseLine_sim (fm : Nat) (i : Input) (hw : WF i) (hm : m i ≤ fm) (fg : Nat) (hfg : m i + 5 ≤ fg)
    (h : Generated.Parse.Heap) :
    Sim (fun (l, i') r => r = ((((h.lines.length + 1 : Nat) : Int), embP f pre post i'),
          { h with lines := h.lines ++ [lineG l] }) ∧ WF i')
      (parseLine fm i) (Generated.Parse.input_parseLine isPrintI isSpaceI fg (embP f pre post i) h) := by
  unfold parseLine Generated.Parse.input_parseLine
  refine (lex_sim i hw fg (by omega)).bind ?_
  rintro ⟨_, j⟩ _ - ⟨rfl, rfl, hwj, hle, hlt, hid⟩
  simp only [isEOL_tokG]
  cases hk : i.token.kind.isEOL with
  | true => exact Sim.error _
  | false =>
    simp only [Bool.false_eq_true, if_false]
    have hlt' := hlt (Proofs.ModfileParse.not_eof_of_not_isEOL hk)
    have := parseLine_loop_sim (f := f) (pre := pre) (post := post) fm j i.token.pos i.token.endPos [i.token.text] hwj
      (by omega) fg (by omega) h
    refine this.bindG ?_
    rintro ⟨l, i'⟩ _ - ⟨rfl, hw'⟩
    exact ⟨_, rfl, rfl, hw'⟩

/-! ### parseLineBlock -/

/-- the token-kind tests of the generated code (`kind == _EOF`, `kind == '\n'`, …) as tests on the model's kinds -/
theorem dk (k k' : TokKind) {inst : Decidable (kindCode k = kindCode k')} :
    @decide (kindCode k = kindCode k') inst = decide (k = k') := decide_eq_decide.2 kindCode_inj

theorem dk_m1 (k : TokKind) {inst : Decidable (kindCode k = -1)} :
    @decide (kindCode k = -1) inst = decide (k = .eof) := dk k .eof
theorem dk_m2 (k : TokKind) {inst : Decidable (kindCode k = -2)} :
    @decide (kindCode k = -2) inst = decide (k = .eolComment) := dk k .eolComment
theorem dk_m5 (k : TokKind) {inst : Decidable (kindCode k = -5)} :
    @decide (kindCode k = -5) inst = decide (k = .comment) := dk k .comment
theorem dk_10 (k : TokKind) {inst : Decidable (kindCode k = 10)} :
    @decide (kindCode k = 10) inst = decide (k = .punct 10) := dk k (.punct 10)
theorem dk_40 (k : TokKind) {inst : Decidable (kindCode k = 40)} :
    @decide (kindCode k = 40) inst = decide (k = .punct 40) := dk k (.punct 40)
theorem dk_41 (k : TokKind) {inst : Decidable (kindCode k = 41)} :
    @decide (kindCode k = 41) inst = decide (k = .punct 41) := dk k (.punct 41)

theorem ne_nil_isEmpty (x : Bytes) : (!decide (x = [])) = !x.isEmpty := by cases x <;> simp

theorem decide_len_pos {α β : Type} {ps : List α} {ls : List β} (hl : ps.length = ls.length) :
    decide (len ps > 0) = !ls.isEmpty := by
  cases ls <;> cases ps <;> simp_all [len_eq]

theorem len_snoc_comG (c : Comment) (t : List Comment) :
    len ((c :: t).reverse.map comG) = ((t.length + 1 : Nat) : Int) := by simp [len_eq]

/-- the `case '\n'` test: `len(comments) == 0 && len(x.Line) > 0 || len(comments) > 0 && comments[len(comments)-1].Token != ""` -/
theorem blank_test (cs : List Comment) (ls : List Line) (ps : List Int) (hl : ps.length = ls.length) :
    ((if decide (len (cs.reverse.map comG) = 0) then decide (len ps > 0) else false) ||
      (if decide (len (cs.reverse.map comG) > 0) then
        (match (cs.reverse.map comG)[(len (cs.reverse.map comG) - 1).toNat]? with
         | some c => !decide (c.Token = [])
         | none => false) else false)) =
    (match cs with
     | [] => !ls.isEmpty
     | c :: _ => !c.token.isEmpty) := by
  cases cs with
  | nil => simp [decide_len_pos hl]
  | cons c t =>
    have h2 : ¬ (((t.length + 1 : Nat) : Int) = 0) := by omega
    have h3 : (((t.length + 1 : Nat) : Int) > 0) := by omega
    have h4 : (((t.length + 1 : Nat) : Int) - 1).toNat = t.length := by omega
    simp only [len_snoc_comG, h2, h3, h4, decide_false, decide_true, Bool.false_eq_true, if_false, if_true, Bool.false_or]
    have : ((c :: t).reverse.map comG)[t.length]? = some (comG c) := by
      simp []
    rw [this]
    simp only [comG_Token]
    exact ne_nil_isEmpty _

theorem not_isEOL_of {k : TokKind} (h1 : k ≠ .eolComment) (h2 : k ≠ .punct 10) (h4 : k ≠ .eof) : k.isEOL = false := by
  cases k with
  | eof => exact absurd rfl h4
  | eolComment => exact absurd rfl h1
  | punct c =>
    simp only [TokKind.isEOL]
    cases hc : c == 10 with
    | false => rfl
    | true =>
      have : c = 10 := by simpa using hc
      subst this
      exact absurd rfl h2
  | _ => rfl

/-- the `case '\n'` test of parseLineBlock, in the monad, with its continuation -/
theorem blank_testM {β : Type} (k : Bool → M β) (h : Generated.Parse.Heap) (xp : Int) (x : LineBlock) (ps : List Int)
    (cs : List Comment) (ls : List Line) (hb : heapGet h.blocks xp = .ok (blockG x ps)) (hl : ps.length = ls.length) :
    (do
      let t8 ← (if (decide ((len (cs.reverse.map comG)) = (0 : Int))) then (do
          let t7 ← heapGet h.blocks xp
          pure (decide ((len (t7.Line)) > (0 : Int)))) else pure false)
      let t11 ← (if t8 then pure true else (do
          let t10 ← (if (decide ((len (cs.reverse.map comG)) > (0 : Int))) then (do
            let t9 ← idxL (cs.reverse.map comG) ((len (cs.reverse.map comG)) - (1 : Int))
            pure (!decide (((t9).Token) = ([] : Bytes)))) else pure false)
          pure t10))
      k t11 : M β) = k (match cs with | [] => !ls.isEmpty | c :: _ => !c.token.isEmpty) := by
  cases cs with
  | nil =>
    simp only [List.reverse_nil, List.map_nil, len_nil, decide_true, if_true, hb, bind_ok, pure_eq_ok]
    rw [show (blockG x ps).Line = ps from rfl, decide_len_pos hl]
    cases ls.isEmpty <;> simp
  | cons c t =>
    have h2 : ¬ (((t.length + 1 : Nat) : Int) = 0) := by omega
    have h3 : (((t.length + 1 : Nat) : Int) > 0) := by omega
    have h4 : (((t.length + 1 : Nat) : Int) - 1) = ((t.length : Nat) : Int) := by omega
    have h5 : t.length < ((c :: t).reverse.map comG).length := by simp
    have h6 : ((c :: t).reverse.map comG)[t.length]'h5 = comG c := by simp
    simp only [len_snoc_comG, h2, h3, h4, decide_false, decide_true, Bool.false_eq_true, if_false, if_true, bind_ok,
      pure_eq_ok, idxL_natCast h5, h6, comG_Token, ne_nil_isEmpty]

theorem RLines_blocks (h : Generated.Parse.Heap) (bl : List Generated.Parse.LineBlock) (ps : List Int) (ls : List Line) :
    RLines { h with blocks := bl } ps ls ↔ RLines h ps ls :=
  RLines_congr (h := h) (h' := { h with blocks := bl }) rfl

theorem peek_ne_eof {i : Input} {k : TokKind} (h : i.peek = k) (hk : k ≠ .eof) : i.token.kind ≠ .eof := by
  intro e; apply hk; rw [← h]; exact e

/-- the block object at `xp` while the loop runs, and what the loop leaves behind -/
def BlockQ (f : Int) (pre post : List Generated.Parse.Expr) (h : Generated.Parse.Heap) (xp : Int) :
    LineBlock × Input → Ctl ((Int × Generated.Parse.input) × Generated.Parse.Heap)
      (Generated.Parse.input × List Generated.Parse.Comment × Generated.Parse.Heap) → Prop
  | (b, i'), r => ∃ h' ps', r = .ret ((xp, embP f pre post i'), h') ∧ WF i' ∧
      h'.cbs = h.cbs ∧ h'.files = h.files ∧ h.lines <+: h'.lines ∧
      h'.blocks = h.blocks.set (xp.toNat - 1) (blockG b ps') ∧ RLines h' ps' b.lines ∧ h'.lines.length = i'.nextId

theorem parseLineBlock_loop_sim : ∀ (fm : Nat) (i : Input) (x : LineBlock) (ls : List Line) (cs : List Comment),
    WF i → m i < fm → ∀ (fg : Nat), m i + 6 ≤ fg → ∀ (h : Generated.Parse.Heap) (xp : Int) (ps : List Int),
    x.rparen = {} → heapGet h.blocks xp = .ok (blockG x ps) → RLines h ps ls.reverse → h.lines.length = i.nextId →
    Sim (BlockQ f pre post h xp) (parseLineBlockLoop fm i x ls cs)
      (Generated.Parse.input_parseLineBlock_loop1 isPrintI isSpaceI xp fg (embP f pre post i) (cs.reverse.map comG) h)
  | 0, i, _, _, _, _, hm => by omega
  | n + 1, i, x, ls, cs, hw, hm => by
    intro fg hfg h xp ps hx hb hl hn
    obtain ⟨g, rfl⟩ : ∃ g, fg = g + 1 := ⟨fg - 1, by omega⟩
    -- the loop goes on from a state `j` after one more token, with the comments `cs'` pending
    have next : ∀ (j : Input) (cs' : List Comment), WF j → m j < m i → j.nextId = i.nextId →
        Sim (BlockQ f pre post h xp) (parseLineBlockLoop n j x ls cs')
          (Generated.Parse.input_parseLineBlock_loop1 isPrintI isSpaceI xp g (embP f pre post j) (cs'.reverse.map comG) h) :=
      fun j cs' hwj hlt hid =>
        parseLineBlock_loop_sim n j x ls cs' hwj (by omega) g (by omega) h xp ps hx hb hl (hid ▸ hn)
    rw [parseLineBlockLoop_succ]
    unfold Generated.Parse.input_parseLineBlock_loop1
    dsimp only [embP_peek]
    simp only [dk_m2, dk_10, dk_m5, dk_m1, dk_41]
    by_cases h1 : i.peek = .eolComment
    · simp only [h1, decide_true, if_true]
      refine (lex_sim i hw g (by omega)).bind ?_
      rintro ⟨_, j⟩ _ - ⟨rfl, rfl, hwj, hle, hlt, hid⟩
      exact next j cs hwj (hlt (peek_ne_eof h1 (by simp))) hid
    simp only [h1, decide_false, if_false, Bool.false_eq_true]
    by_cases h2 : i.peek = .punct 10
    · simp only [h2, decide_true, if_true]
      refine (lex_sim i hw g (by omega)).bind ?_
      rintro ⟨_, j⟩ _ - ⟨rfl, rfl, hwj, hle, hlt, hid⟩
      have hlt' := hlt (peek_ne_eof h2 (by simp))
      dsimp only
      rw [blank_testM _ h xp x ps cs ls hb (by rw [RLines_length hl]; simp)]
      cases hadd : (match cs with | [] => !ls.isEmpty | c :: _ => !c.token.isEmpty) with
      | true =>
        have := next j (({} : Comment) :: cs) hwj hlt' hid
        simpa only [if_true, List.reverse_cons, List.map_append, List.map_cons, List.map_nil, comG_zero] using this
      | false =>
        simpa only [Bool.false_eq_true, if_false] using next j cs hwj hlt' hid
    simp only [h2, decide_false, if_false, Bool.false_eq_true]
    by_cases h3 : i.peek = .comment
    · simp only [h3, decide_true, if_true]
      refine (lex_sim i hw g (by omega)).bind ?_
      rintro ⟨_, j⟩ _ - ⟨rfl, rfl, hwj, hle, hlt, hid⟩
      have := next j ({ start := i.token.pos, token := i.token.text } :: cs) hwj (hlt (peek_ne_eof h3 (by simp))) hid
      simp only [List.reverse_cons, List.map_append, List.map_cons, List.map_nil] at this
      exact this
    simp only [h3, decide_false, if_false, Bool.false_eq_true]
    by_cases h4 : i.peek = .eof
    · simp only [h4, decide_true, if_true]
      exact Sim.error _
    simp only [h4, decide_false, if_false, Bool.false_eq_true]
    by_cases h5 : i.peek = .punct 41
    · simp only [h5, decide_true, if_true]
      refine (lex_sim i hw g (by omega)).bind ?_
      rintro ⟨_, j⟩ _ - ⟨rfl, rfl, hwj, hle, hlt, hid⟩
      simp only [bind_ok, hb, heapSet_of_get _ hb, heapGet_listSet_same _ hb, List.set_set,
        heapSet_of_get _ (heapGet_listSet_same _ hb), embP_peek, isEOL_code]
      cases hk : j.peek.isEOL with
      | false => exact Sim.error _
      | true =>
        simp only [Bool.not_true, Bool.false_eq_true, if_false]
        refine (lex_sim j hwj g (by have := hlt (peek_ne_eof h5 (by simp)); omega)).bind ?_
        rintro ⟨_, j2⟩ _ - ⟨rfl, rfl, hwj2, hle2, hlt2, hid2⟩
        refine Sim.ok ⟨_, ps, rfl, hwj2, rfl, rfl, List.prefix_refl _, ?_, (RLines_blocks h _ _ _).2 hl, ?_⟩
        · show h.blocks.set (xp.toNat - 1) _ = _
          congr 1
          simp [blockG, rparenG, comsG, hx, tokG]
        · show h.lines.length = _
          rw [hid2, hid]; exact hn
    simp only [h5, decide_false, if_false, Bool.false_eq_true]
    have hk : i.token.kind.isEOL = false := not_isEOL_of h1 h2 h4
    refine (parseLine_sim (n + 1) i hw (by omega) g (by omega) h).bind ?_
    rintro ⟨l, i1⟩ _ hL ⟨rfl, hw1⟩
    obtain ⟨hid, hnid⟩ := Proofs.ModfileC20.parseLine_id hL
    have hlt : m i1 < m i := Proofs.ModfileRun.parseLine_m_lt hL
    have hnew : heapGet (h.lines ++ [lineG l]) ((h.lines.length + 1 : Nat) : Int) = .ok (lineG l) :=
      heapGet_alloc_new _ _
    simp only [bind_ok, hb, heapSet_of_get _ hb, Generated.Parse.Expr_getComments,
      Generated.Parse.Expr_setComments, hnew, heapSet_of_get _ hnew, pure_eq_ok, idx_pred, set_alloc_last]
    have key := parseLineBlock_loop_sim n i1 x ({ l with comments := { l.comments with before := cs.reverse } } :: ls) []
      hw1 (by omega) g (by omega)
      { cbs := h.cbs, files := h.files,
        lines := h.lines ++ [lineG { l with comments := { l.comments with before := cs.reverse } }],
        blocks := h.blocks.set (xp.toNat - 1) (blockG x (ps ++ [((h.lines.length + 1 : Nat) : Int)])) }
      xp (ps ++ [((h.lines.length + 1 : Nat) : Int)]) hx (heapGet_listSet_same _ hb)
      (by
        rw [List.reverse_cons]
        refine RLines_append ((RLines_blocks _ _ _ _).2 (RLines.ext (Ext.allocLine h _) hl)) ?_
        exact ⟨⟨heapGet_alloc_new _ _, by show _ = (((l.id + 1 : Nat)) : Int); rw [hid, hn]⟩, trivial⟩)
      (by show (h.lines ++ [_]).length = _; rw [hnid, ← hn]; simp)
    refine key.imp ?_
    rintro ⟨b, i2⟩ _ - ⟨h', ps', rfl, hw2, hc, hf, hpl, hbl, hrl, hnl⟩
    exact ⟨h', ps', rfl, hw2, hc, hf, (List.prefix_append _ _).trans hpl, by rw [hbl]; simp only [List.set_set],
      hrl, hnl⟩

theorem blockG_new (s : Position) (ts : List Bytes) (lp : Token) :
    ({ (default : Generated.Parse.LineBlock) with Start := posG s, Token := ts, LParen := ({ (default : Generated.Parse.LParen) with Pos := ((tokG lp).pos) } : Generated.Parse.LParen) } : Generated.Parse.LineBlock) = blockG { start := s, token := ts, lparen := { pos := lp.pos } } [] := rfl

/-- parseLineBlock: allocates the block object (pointer `len(blocks) + 1`) and runs the loop -/
theorem parseLineBlock_sim (fm : Nat) (i : Input) (s : Position) (ts : List Bytes) (lp : Token) (hw : WF i) (hm : m i < fm)
    (fg : Nat) (hfg : m i + 6 ≤ fg) (h : Generated.Parse.Heap) (hn : h.lines.length = i.nextId) :
    Sim (fun (b, i') r => ∃ h' ps', r = ((((h.blocks.length + 1 : Nat) : Int), embP f pre post i'), h') ∧ WF i' ∧
        h'.cbs = h.cbs ∧ h'.files = h.files ∧ h.lines <+: h'.lines ∧
        h'.blocks = h.blocks ++ [blockG b ps'] ∧ RLines h' ps' b.lines ∧ h'.lines.length = i'.nextId)
      (parseLineBlock fm i s ts lp)
      (Generated.Parse.input_parseLineBlock isPrintI isSpaceI fg (embP f pre post i) (posG s) ts (tokG lp) h) := by
  unfold parseLineBlock Generated.Parse.input_parseLineBlock
  rw [blockG_new]
  simp only [heapAlloc_fst, heapAlloc_snd]
  have key := parseLineBlock_loop_sim (f := f) (pre := pre) (post := post) fm i
    { start := s, token := ts, lparen := { pos := lp.pos } } [] [] hw hm fg hfg
    { h with blocks := h.blocks ++ [blockG { start := s, token := ts, lparen := { pos := lp.pos } } []] }
    ((h.blocks.length + 1 : Nat) : Int) [] rfl (heapGet_alloc_new _ _) trivial hn
  refine key.bindG ?_
  rintro ⟨b, i2⟩ _ - ⟨h', ps', rfl, hw2, hc, hf, hpl, hbl, hrl, hnl⟩
  refine ⟨_, rfl, h', ps', rfl, hw2, hc, hf, hpl, ?_, hrl, hnl⟩
  rw [hbl]
  show (h.blocks ++ [_]).set (((h.blocks.length + 1 : Nat) : Int).toNat - 1) _ = _
  rw [idx_pred, set_alloc_last]

/-! ### parseStmt -/

/-- the statement parseStmt appends is a freshly allocated line or a freshly allocated block -/
def NewStmt (h h' : Generated.Parse.Heap) (ex : Generated.Parse.Expr) : Prop :=
  (ex = .Line ((h.lines.length + 1 : Nat) : Int) ∧ h'.blocks = h.blocks) ∨
  (ex = .LineBlock ((h.blocks.length + 1 : Nat) : Int) ∧ h'.blocks.length = h.blocks.length + 1)

/-- the model's loop body with `==` on token kinds as equalities -/
theorem parseStmtLoop_succ (n : Nat) (i : Input) (start «end» : Position) (tokensRev : List Bytes) :
    parseStmtLoop (n + 1) i start «end» tokensRev = (do
      let (tok, i) ← lex i
      if tok.kind.isEOL then
        .ok (.line { id := i.nextId, start := start, token := tokensRev.reverse, «end» := «end» },
             { i with nextId := i.nextId + 1 })
      else if tok.kind = .punct 40 then
        if i.peek.isEOL then do
          let (b, i) ← parseLineBlock (n + 1) i start tokensRev.reverse tok
          .ok (.lineBlock b, i)
        else if i.peek = .punct 41 then do
          let (rparen, i) ← lex i
          if i.peek.isEOL then do
            let (_, i) ← lex i
            .ok (.lineBlock { start := start, token := tokensRev.reverse,
                              lparen := { pos := tok.pos }, rparen := { pos := rparen.pos } }, i)
          else
            parseStmtLoop n i start «end» (rparen.text :: tok.text :: tokensRev)
        else
          parseStmtLoop n i start «end» (tok.text :: tokensRev)
      else parseStmtLoop n i start tok.endPos (tok.text :: tokensRev)) := by
  conv => lhs; unfold parseStmtLoop
  simp only [beq_iff_eq]

theorem blockG_empty (s : Position) (ts : List Bytes) (lp rp : Token) :
    ({ (default : Generated.Parse.LineBlock) with Start := posG s, Token := ts, LParen := ({ (default : Generated.Parse.LParen) with Pos := ((tokG lp).pos) } : Generated.Parse.LParen), RParen := ({ (default : Generated.Parse.RParen) with Pos := ((tokG rp).pos) } : Generated.Parse.RParen) } : Generated.Parse.LineBlock) =
      blockG { start := s, token := ts, lparen := { pos := lp.pos }, rparen := { pos := rp.pos } } [] := rfl

theorem lineG_stmt (id : Nat) (s e : Position) (ts : List Bytes) :
    ({ (default : Generated.Parse.Line) with Start := posG s, Token := ts, End := posG e } : Generated.Parse.Line) =
      lineG { id := id, start := s, token := ts, «end» := e } := rfl

theorem RLines_files (h : Generated.Parse.Heap) (fl : List Generated.Parse.FileSyntax) (ps : List Int) (ls : List Line) :
    RLines { h with files := fl } ps ls ↔ RLines h ps ls :=
  RLines_congr (h := h) (h' := { h with files := fl }) rfl

/-- what parseStmt leaves behind: the statement `ex`, new in `h'`, appended to the file object `fo` at `f` -/
def StmtQ (f : Int) (pre post : List Generated.Parse.Expr) (h : Generated.Parse.Heap) (fo : Generated.Parse.FileSyntax)
    (x : Expr) (i' : Input) (gi : Generated.Parse.input) (h' : Generated.Parse.Heap) : Prop :=
  ∃ ex, gi = embP f pre post i' ∧ WF i' ∧ h'.cbs = h.cbs ∧ h.lines <+: h'.lines ∧ h.blocks <+: h'.blocks ∧
    h'.files = h.files.set (f.toNat - 1) { fo with Stmt := fo.Stmt ++ [ex] } ∧
    RExpr h' ex x ∧ h'.lines.length = i'.nextId ∧ NewStmt h h' ex

theorem parseStmt_loop_sim : ∀ (fm : Nat) (i : Input) (s e : Position) (ts : List Bytes), WF i → m i < fm →
    ∀ (fg : Nat), m i + 7 ≤ fg → ∀ (h : Generated.Parse.Heap) (fo : Generated.Parse.FileSyntax),
    heapGet h.files f = .ok fo → h.lines.length = i.nextId →
    Sim (fun (x, i') r => ∃ gi h', r = .ret (((), gi), h') ∧ StmtQ f pre post h fo x i' gi h')
      (parseStmtLoop fm i s e ts)
      (Generated.Parse.input_parseStmt_loop1 isPrintI isSpaceI (posG s) fg (embP f pre post i) h ts.reverse (posG e))
  | 0, i, _, _, _, _, hm => by omega
  | n + 1, i, s, e, ts, hw, hm => by
    intro fg hfg h fo hfo hn
    obtain ⟨g, rfl⟩ : ∃ g, fg = g + 1 := ⟨fg - 1, by omega⟩
    rw [parseStmtLoop_succ]
    unfold Generated.Parse.input_parseStmt_loop1
    refine (lex_sim i hw g (by omega)).bind ?_
    rintro ⟨_, j⟩ _ - ⟨rfl, rfl, hwj, hle, hlt, hid⟩
    simp only [isEOL_tokG]
    cases hk : i.token.kind.isEOL with
    | true =>
      simp only [if_true]
      dsimp (config := { instances := true }) only [embP_file]
      rw [lineG_stmt j.nextId]
      simp only [hfo, bind_ok, heapAlloc_fst, heapAlloc_snd, heapSet_of_get _ hfo, pure_eq_ok]
      refine Sim.ok ⟨_, _, rfl, _, rfl, hwj, rfl, List.prefix_append _ _, List.prefix_refl _, rfl, ?_, ?_,
        Or.inl ⟨rfl, rfl⟩⟩
      · exact ⟨heapGet_alloc_new _ _, by show _ = ((j.nextId + 1 : Nat) : Int); rw [hid, hn]⟩
      · show (h.lines ++ [_]).length = j.nextId + 1
        rw [hid, ← hn]; simp
    | false =>
      simp only [Bool.false_eq_true, if_false]
      have hlt' := hlt (Proofs.ModfileParse.not_eof_of_not_isEOL hk)
      -- the loop goes on from a later state with the same heap
      have next : ∀ (j2 : Input) (e' : Position) (ts' : List Bytes), WF j2 → m j2 ≤ m j → j2.nextId = i.nextId →
          Sim (fun (x, i') r => ∃ gi h', r = .ret (((), gi), h') ∧ StmtQ f pre post h fo x i' gi h')
            (parseStmtLoop n j2 s e' ts')
            (Generated.Parse.input_parseStmt_loop1 isPrintI isSpaceI (posG s) g (embP f pre post j2) h ts'.reverse
              (posG e')) :=
        fun j2 e' ts' hw2 hm2 hid2 =>
          parseStmt_loop_sim n j2 s e' ts' hw2 (by omega) g (by omega) h fo hfo (hid2 ▸ hn)
      simp only [show (tokG i.token).kind = kindCode i.token.kind from rfl, dk_40]
      by_cases h40 : i.token.kind = .punct 40
      · simp only [h40, decide_true, if_true]
        dsimp (config := { instances := true }) only [embP_peek]
        simp only [isEOL_code, dk_41]
        cases hk2 : j.peek.isEOL with
        | true =>
          simp only [if_true]
          dsimp (config := { instances := true }) only [embP_file]
          simp only [hfo, bind_ok]
          refine (parseLineBlock_sim (n + 1) j s ts.reverse i.token hwj (by omega) g (by omega) h (hid ▸ hn)).bind ?_
          rintro ⟨b, i2⟩ _ - ⟨h1, ps1, rfl, hw2, hc1, hf1, hpl1, hbl1, hrl1, hnl1⟩
          have hfo1 : heapGet h1.files f = .ok fo := hf1 ▸ hfo
          simp only [embP_file, hfo1, heapSet_of_get _ hfo1, bind_ok, pure_eq_ok]
          refine Sim.ok ⟨_, _, rfl, _, rfl, hw2, hc1, hpl1, ?_, ?_, ?_, hnl1, Or.inr ⟨rfl, ?_⟩⟩
          · show h.blocks <+: h1.blocks
            rw [hbl1]; exact List.prefix_append _ _
          · show h1.files.set _ _ = _
            rw [hf1]
          · refine ⟨ps1, ?_, (RLines_files h1 _ _ _).2 hrl1⟩
            show heapGet h1.blocks _ = _
            rw [hbl1]; exact heapGet_alloc_new _ _
          · show h1.blocks.length = _
            rw [hbl1]; simp
        | false =>
          simp only [Bool.false_eq_true, if_false]
          by_cases h41 : j.peek = .punct 41
          · simp only [h41, decide_true, if_true]
            refine (lex_sim j hwj g (by omega)).bind ?_
            rintro ⟨_, j2⟩ _ - ⟨rfl, rfl, hwj2, hle2, hlt2, hid2⟩
            dsimp (config := { instances := true }) only [embP_peek]
            simp only [isEOL_code]
            cases hk3 : j2.peek.isEOL with
            | true =>
              simp only [if_true]
              refine (lex_sim j2 hwj2 g (by omega)).bind ?_
              rintro ⟨_, j3⟩ _ - ⟨rfl, rfl, hwj3, hle3, hlt3, hid3⟩
              dsimp (config := { instances := true }) only [embP_file]
              rw [blockG_empty]
              simp only [hfo, bind_ok, heapAlloc_fst, heapAlloc_snd, heapSet_of_get _ hfo, pure_eq_ok]
              refine Sim.ok ⟨_, _, rfl, _, rfl, hwj3, rfl, List.prefix_refl _, List.prefix_append _ _, rfl,
                ⟨[], heapGet_alloc_new _ _, trivial⟩, ?_, Or.inr ⟨rfl, ?_⟩⟩
              · show h.lines.length = j3.nextId
                rw [hid3, hid2, hid]; exact hn
              · show (h.blocks ++ [_]).length = _
                simp
            | false =>
              simp only [Bool.false_eq_true, if_false]
              have := next j2 e (j.token.text :: i.token.text :: ts) hwj2 hle2 (by rw [hid2, hid])
              simp only [List.reverse_cons, List.append_assoc, List.cons_append, List.nil_append] at this
              exact this
          · simp only [h41, decide_false, Bool.false_eq_true, if_false]
            have := next j e (i.token.text :: ts) hwj (Nat.le_refl _) hid
            simp only [List.reverse_cons] at this
            exact this
      · simp only [h40, decide_false, Bool.false_eq_true, if_false]
        have := next j i.token.endPos (i.token.text :: ts) hwj (Nat.le_refl _) hid
        simp only [List.reverse_cons] at this
        exact this

theorem parseStmt_sim (fm : Nat) (i : Input) (hw : WF i) (hm : m i < fm) (fg : Nat) (hfg : m i + 7 ≤ fg)
    (h : Generated.Parse.Heap) (fo : Generated.Parse.FileSyntax) (hfo : heapGet h.files f = .ok fo)
    (hn : h.lines.length = i.nextId) :
    Sim (fun (x, i') r => StmtQ f pre post h fo x i' r.1.2 r.2) (parseStmt fm i)
      (Generated.Parse.input_parseStmt isPrintI isSpaceI fg (embP f pre post i) h) := by
  unfold parseStmt Generated.Parse.input_parseStmt
  refine (lex_sim i hw fg (by omega)).bind ?_
  rintro ⟨_, j⟩ _ - ⟨rfl, rfl, hwj, hle, hlt, hid⟩
  have key := parseStmt_loop_sim (f := f) (pre := pre) (post := post) fm j i.token.pos i.token.endPos [i.token.text] hwj
    (by omega) fg (by omega) h fo hfo (hid ▸ hn)
  refine key.bindG ?_
  rintro ⟨x, i2⟩ _ - ⟨gi, h', rfl, hq⟩
  exact ⟨_, rfl, hq⟩

end ModVerif.TieFnParse
