/-
  The run-time vocabulary of the regenerated code (Basic/GoRt.lean: `len`, `idx`, `idxL`, the slice operations, bytes as
  integers) on arguments that are images of natural numbers: a Go index that a loop invariant knows to be the natural
  number `k` appears in the generated code as `((k : Nat) : Int)`, and the lemmas are stated for that form.
-/
import ModVerif.Basic.GoRt
namespace ModVerif.GoRt
open ModVerif

theorem len_eq {α : Type} (s : List α) : len s = (s.length : Int) := rfl

@[simp] theorem len_nil {α : Type} : len ([] : List α) = 0 := rfl

@[simp] theorem len_cons {α : Type} (a : α) (s : List α) : len (a :: s) = len s + 1 := by
  simp [len_eq]

theorem len_zero_iff {α : Type} (s : List α) : len s = 0 ↔ s = [] := by
  simp [len]

theorem len_nonneg {α : Type} (s : List α) : 0 ≤ len s := by
  simp [len_eq]

theorem len_append {α : Type} (s t : List α) : len (s ++ t) = len s + len t := by
  simp [len_eq]

theorem idx_natCast {v : Bytes} {k : Nat} (h : k < v.length) :
    idx v (k : Int) = .ok ((v[k].toNat : Nat) : Int) := by
  have h0 : ¬ ((k : Int) < 0) := by omega
  simp [idx, h0, h, pure, Except.pure]

theorem idx_ofNat {v : Bytes} {k : Nat} (h : k < v.length) :
    idx v (Int.ofNat k) = .ok (Int.ofNat v[k].toNat) := idx_natCast h

theorem idx_of_range {v : Bytes} {i : Int} (h0 : 0 ≤ i) (h1 : i < len v) :
    idx v i = .ok ((v[i.toNat]'(by simp [len_eq] at h1; omega)).toNat : Int) := by
  have hk : i.toNat < v.length := by simp [len_eq] at h1; omega
  have := idx_natCast hk
  rwa [Int.toNat_of_nonneg h0] at this

theorem idx_neg {v : Bytes} {i : Int} (h : i < 0) : idx v i = .error .panic := by
  simp [idx, h, throw, throwThe, MonadExceptOf.throw]

theorem idx_natCast_ge {v : Bytes} {k : Nat} (h : v.length ≤ k) : idx v (k : Int) = .error .panic := by
  have h0 : ¬ ((k : Int) < 0) := by omega
  simp [idx, h0, h, throw, throwThe, MonadExceptOf.throw]

@[simp] theorem idx_zero_cons (c : UInt8) (v : Bytes) : idx (c :: v) 0 = .ok ((c.toNat : Nat) : Int) := by
  simp [idx, pure, Except.pure]

@[simp] theorem idx_zero_nil : idx [] 0 = .error .panic := by
  simp [idx, throw, throwThe, MonadExceptOf.throw]

theorem idx_one_cons (c : UInt8) (v : Bytes) : idx (c :: v) 1 = idx v 0 := by
  cases v <;> simp [idx]

theorem idx_succ_cons (c : UInt8) (v : Bytes) (k : Nat) :
    idx (c :: v) ((k : Int) + 1) = idx v (k : Int) := by
  have h0 : ¬ ((k : Int) + 1 < 0) := by omega
  have h1 : ¬ ((k : Int) < 0) := by omega
  have h2 : ((k : Int) + 1).toNat = k + 1 := by omega
  simp [idx, h0, h1, h2]

/-- the byte at the split point: `(pre ++ c :: suf)[len pre] = c` (the shape of every string-scan invariant) -/
theorem idx_append_length (pre : Bytes) (c : UInt8) (suf : Bytes) :
    idx (pre ++ c :: suf) (pre.length : Int) = .ok ((c.toNat : Nat) : Int) := by
  have h : pre.length < (pre ++ c :: suf).length := by simp
  rw [idx_natCast h]; simp

theorem idxL_natCast {α : Type} {v : List α} {k : Nat} (h : k < v.length) :
    idxL v (k : Int) = .ok v[k] := by
  have h0 : ¬ ((k : Int) < 0) := by omega
  simp [idxL, h0, h, pure, Except.pure]

theorem idxL_of_range {α : Type} {v : List α} {i : Int} (h0 : 0 ≤ i) (h1 : i < len v) :
    idxL v i = .ok (v[i.toNat]'(by simp [len_eq] at h1; omega)) := by
  have hk : i.toNat < v.length := by simp [len_eq] at h1; omega
  have := idxL_natCast hk
  rwa [Int.toNat_of_nonneg h0] at this

theorem idxL_neg {α : Type} {v : List α} {i : Int} (h : i < 0) : idxL v i = .error .panic := by
  simp [idxL, h, throw, throwThe, MonadExceptOf.throw]

theorem idxL_natCast_ge {α : Type} {v : List α} {k : Nat} (h : v.length ≤ k) :
    idxL v (k : Int) = .error .panic := by
  have h0 : ¬ ((k : Int) < 0) := by omega
  simp [idxL, h0, h, throw, throwThe, MonadExceptOf.throw]


theorem idxL_out {α : Type} (s : List α) (k : Int) (h : k < 0 ∨ (s.length : Int) ≤ k) : idxL s k = .error .panic := by
  simp only [idxL, throw, throwThe, MonadExceptOf.throw]
  split
  · rfl
  · have : s[k.toNat]? = none := by
      apply List.getElem?_eq_none; omega
    rw [this]


/-! ### the index of a `range` loop: the list split at the position reached -/

theorem idxL_mid {α : Type} (a : List α) (x : α) (b : List α) : idxL (a ++ x :: b) (a.length : Int) = .ok x := by
  rw [idxL_natCast (by simp)]; simp

theorem setIdxL_mid {α : Type} (a : List α) (x y : α) (b : List α) :
    setIdxL (a ++ x :: b) (a.length : Int) y = .ok (a ++ y :: b) := by
  have hr : 0 ≤ (a.length : Int) ∧ (a.length : Int) < len (a ++ x :: b) := by simp [len_eq]; omega
  simp only [setIdxL, hr, and_self, if_true, pure, Except.pure]
  simp

theorem lt_len_mid {α : Type} (a : List α) (x : α) (b : List α) : (a.length : Int) < len (a ++ x :: b) := by
  rw [len_eq]; simp; omega

theorem not_lt_len_self {α : Type} (a : List α) : ¬ ((a.length : Int) < len a) := by
  rw [len_eq]; omega

theorem succ_len_snoc {α : Type} (a : List α) (x : α) : (a.length : Int) + 1 = ((a ++ [x]).length : Int) := by simp

theorem idxL_map_mid {α β : Type} (g : α → β) (a : List α) (x : α) (b : List α) :
    idxL ((a ++ x :: b).map g) (a.length : Int) = .ok (g x) := by
  rw [idxL_natCast (by simp)]; simp

theorem lt_len_map_mid {α β : Type} (g : α → β) (a : List α) (x : α) (b : List α) :
    decide ((a.length : Int) < len ((a ++ x :: b).map g)) = true := by
  simp [len_eq]; omega

theorem not_lt_len_map {α β : Type} (g : α → β) (a : List α) : decide ((a.length : Int) < len (a.map g)) = false := by
  simp [len_eq]

theorem sliceTo_natCast {α : Type} {v : List α} {k : Nat} (h : k ≤ v.length) :
    sliceTo v (k : Int) = .ok (v.take k) := by
  have h1 : (0 : Int) ≤ (k : Int) ∧ (k : Int) ≤ len v := by simp [len_eq]; omega
  simp [sliceTo, h1, pure, Except.pure]

theorem sliceFrom_natCast {α : Type} {v : List α} {k : Nat} (h : k ≤ v.length) :
    sliceFrom v (k : Int) = .ok (v.drop k) := by
  have h1 : (0 : Int) ≤ (k : Int) ∧ (k : Int) ≤ len v := by simp [len_eq]; omega
  simp [sliceFrom, h1, pure, Except.pure]

theorem slice_natCast {α : Type} {v : List α} {a b : Nat} (hab : a ≤ b) (hb : b ≤ v.length) :
    slice v (a : Int) (b : Int) = .ok ((v.take b).drop a) := by
  have h1 : (0 : Int) ≤ (a : Int) ∧ (a : Int) ≤ (b : Int) ∧ (b : Int) ≤ len v := by
    simp [len_eq]; omega
  simp [slice, h1, pure, Except.pure]

theorem sliceTo_of_range {α : Type} {v : List α} {i : Int} (h0 : 0 ≤ i) (h1 : i ≤ len v) :
    sliceTo v i = .ok (v.take i.toNat) := by
  simp [sliceTo, h0, h1, pure, Except.pure]

theorem sliceFrom_of_range {α : Type} {v : List α} {i : Int} (h0 : 0 ≤ i) (h1 : i ≤ len v) :
    sliceFrom v i = .ok (v.drop i.toNat) := by
  simp [sliceFrom, h0, h1, pure, Except.pure]

theorem slice_of_range {α : Type} {v : List α} {lo hi : Int} (h0 : 0 ≤ lo) (h1 : lo ≤ hi) (h2 : hi ≤ len v) :
    slice v lo hi = .ok ((v.take hi.toNat).drop lo.toNat) := by
  simp [slice, h0, h1, h2, pure, Except.pure]

theorem sliceTo_panic {α : Type} {v : List α} {i : Int} (h : i < 0 ∨ len v < i) :
    sliceTo v i = .error .panic := by
  have : ¬ (0 ≤ i ∧ i ≤ len v) := by omega
  simp [sliceTo, this, throw, throwThe, MonadExceptOf.throw]

theorem sliceFrom_panic {α : Type} {v : List α} {i : Int} (h : i < 0 ∨ len v < i) :
    sliceFrom v i = .error .panic := by
  have : ¬ (0 ≤ i ∧ i ≤ len v) := by omega
  simp [sliceFrom, this, throw, throwThe, MonadExceptOf.throw]

@[simp] theorem sliceFrom_zero {α : Type} (v : List α) : sliceFrom v 0 = .ok v := by
  simp [sliceFrom, len_eq, pure, Except.pure]

@[simp] theorem sliceFrom_one_cons {α : Type} (c : α) (v : List α) : sliceFrom (c :: v) 1 = .ok v := by
  have := sliceFrom_natCast (v := c :: v) (k := 1) (by simp)
  simpa using this

@[simp] theorem sliceTo_len {α : Type} (v : List α) : sliceTo v (len v) = .ok v := by
  have := sliceTo_natCast (v := v) (k := v.length) (Nat.le_refl _)
  simpa [len_eq] using this

@[simp] theorem sliceFrom_len {α : Type} (v : List α) : sliceFrom v (len v) = .ok [] := by
  have := sliceFrom_natCast (v := v) (k := v.length) (Nat.le_refl _)
  simpa [len_eq] using this


/-! `p[:len(p)-1]` and `p[len(p)-1]` of a non-empty slice written as `q ++ [x]` -/

theorem len_concat_range {α : Type} (q : List α) (x : α) : len (q ++ [x]) - 1 = (q.length : Int) := by simp [len]

theorem sliceTo_concat {α : Type} (q : List α) (x : α) : sliceTo (q ++ [x]) (len (q ++ [x]) - 1) = .ok q := by
  rw [len_concat_range, sliceTo_natCast (by simp)]; simp

theorem idxL_concat {α : Type} (q : List α) (x : α) : idxL (q ++ [x]) (len (q ++ [x]) - 1) = .ok x := by
  rw [len_concat_range]; exact idxL_mid q x []

theorem byte_lt_256 (c : UInt8) : ((c.toNat : Nat) : Int) < 256 := by
  have := c.toNat_lt; omega

theorem byte_nonneg (c : UInt8) : (0 : Int) ≤ ((c.toNat : Nat) : Int) := by omega

/-! Comparison of a byte read from a string (an `Int`) with a literal: instantiate `d` with the literal byte and
    discharge `hn` by `rfl`, e.g. `int_le_byte (n := 48) (d := 48) rfl : (48 : Int) ≤ ↑c.toNat ↔ 48 ≤ c`. -/

theorem int_le_byte {n : Int} {d c : UInt8} (hn : n = ((d.toNat : Nat) : Int)) :
    n ≤ ((c.toNat : Nat) : Int) ↔ d ≤ c := by
  subst hn; rw [UInt8.le_iff_toNat_le]; omega

theorem byte_le_int {n : Int} {d c : UInt8} (hn : n = ((d.toNat : Nat) : Int)) :
    ((c.toNat : Nat) : Int) ≤ n ↔ c ≤ d := by
  subst hn; rw [UInt8.le_iff_toNat_le]; omega

theorem int_lt_byte {n : Int} {d c : UInt8} (hn : n = ((d.toNat : Nat) : Int)) :
    n < ((c.toNat : Nat) : Int) ↔ d < c := by
  subst hn; rw [UInt8.lt_iff_toNat_lt]; omega

theorem byte_lt_int {n : Int} {d c : UInt8} (hn : n = ((d.toNat : Nat) : Int)) :
    ((c.toNat : Nat) : Int) < n ↔ c < d := by
  subst hn; rw [UInt8.lt_iff_toNat_lt]; omega

theorem byte_eq_int {n : Int} {d c : UInt8} (hn : n = ((d.toNat : Nat) : Int)) :
    ((c.toNat : Nat) : Int) = n ↔ c = d := by
  subst hn
  constructor
  · intro h; apply UInt8.toNat_inj.mp; omega
  · intro h; subst h; rfl

theorem int_eq_byte {n : Int} {d c : UInt8} (hn : n = ((d.toNat : Nat) : Int)) :
    n = ((c.toNat : Nat) : Int) ↔ d = c := by
  subst hn
  constructor
  · intro h; apply UInt8.toNat_inj.mp; omega
  · intro h; subst h; rfl

theorem byte_toInt_inj {c d : UInt8} : (((c.toNat : Nat) : Int) = ((d.toNat : Nat) : Int)) ↔ c = d := by
  constructor
  · intro h; apply UInt8.toNat_inj.mp; omega
  · intro h; subst h; rfl

/-! ### scans: a Go index loop `for i < len(v) && p(v[i]) { i++ }` stops at `(v.takeWhile p).length` -/

theorem take_length_takeWhile {α : Type} (p : α → Bool) : ∀ l : List α,
    l.take (l.takeWhile p).length = l.takeWhile p
  | [] => rfl
  | a :: l => by
    by_cases h : p a = true
    · simp [h, take_length_takeWhile p l]
    · simp [h]

theorem drop_length_takeWhile {α : Type} (p : α → Bool) : ∀ l : List α,
    l.drop (l.takeWhile p).length = l.dropWhile p
  | [] => rfl
  | a :: l => by
    by_cases h : p a = true
    · simp [h, drop_length_takeWhile p l]
    · simp [h]

theorem length_takeWhile_le {α : Type} (p : α → Bool) (l : List α) : (l.takeWhile p).length ≤ l.length :=
  (List.takeWhile_sublist p).length_le

theorem length_takeWhile_eq_iff_all {α : Type} (p : α → Bool) : ∀ l : List α,
    ((l.takeWhile p).length = l.length) ↔ l.all p = true
  | [] => by simp
  | a :: l => by
    by_cases h : p a = true
    · simp [h, length_takeWhile_eq_iff_all p l]
    · simp [h]

theorem mkByte_byte (c : UInt8) : mkByte ((c.toNat : Nat) : Int) = c := by
  have := c.toNat_lt
  have h : (((c.toNat : Nat) : Int) % 256).toNat = c.toNat := by omega
  simp [mkByte, h]

@[simp] theorem strLt_eq (a b : Bytes) : strLt a b = bytesLt a b := rfl

/-! The Except laws as definitional `simp` lemmas.  Next to `chk64` / `toU64` on symbolic arguments use the rewrite rules
    `mbind_ok`, `mbind_error`, `mpure`, `mthrow` of Proofs/GoRtLemmasInt.lean instead (the reason is given there). -/

@[simp] theorem bind_ok {α β : Type} (a : α) (f : α → M β) : (Except.ok a >>= f) = f a := rfl

@[simp] theorem bind_error {α β : Type} (e : Err) (f : α → M β) : ((Except.error e : M α) >>= f) = .error e := rfl

@[simp] theorem pure_eq_ok {α : Type} (a : α) : (pure a : M α) = .ok a := rfl

@[simp] theorem throw_eq_error {α : Type} (e : Err) : (throw e : M α) = .error e := rfl

end ModVerif.GoRt
