/-
  `module.CanonicalVersion` maps valid versions to valid versions and is
  idempotent; the token `parseVersion` writes back is a fixpoint of `parseVersion` (without a fixer: always;
  with a fixer: when the fixer is idempotent on its image and the fixed version is a plain token).
-/
import ModVerif.Proofs.ModfileFmtFixValid
namespace ModVerif.Proofs.ModfileFmtFix
open ModVerif ModVerif.Modfile ModVerif.SemverSpec
open ModVerif.Proofs.ModfileFmtQuote ModVerif.Proofs.ModfileFmtLex

theorem B_incompatible_ne_nil : B "+incompatible" ≠ [] := by decide +kernel

/-- the build suffix `CanonicalVersion` keeps -/
def keptBuild (p : Semver.Parsed) : Bytes := if p.build == B "+incompatible" then B "+incompatible" else []

theorem keptBuild_cases (p : Semver.Parsed) :
    (p.build = B "+incompatible" ∧ keptBuild p = p.build) ∨ (p.build ≠ B "+incompatible" ∧ keptBuild p = []) := by
  unfold keptBuild
  by_cases h : p.build = B "+incompatible"
  · left; simp [h]
  · right; simp [h]

theorem keptBuild_buildOpt {v : Bytes} {p : Semver.Parsed} (h : Semver.parse v = some p) : BuildOpt (keptBuild p) := by
  rcases keptBuild_cases p with ⟨_, e⟩ | ⟨_, e⟩
  · rw [e]; exact (Semver.decomp_fields (Semver.parse_decomp h)).2.2.2.2
  · rw [e]; exact Or.inl rfl

example : Semver.parse (B "v2.0.0+incompatible") ≠ none := by decide +kernel

theorem canonicalVersion_eq {v : Bytes} {p : Semver.Parsed} (h : Semver.parse v = some p) :
    Semver.canonicalVersion v = Semver.canonical v ++ keptBuild p := by
  simp only [Semver.canonicalVersion, Semver.build_spec h, keptBuild]
  split <;> simp

example : Semver.parse (B "v1.2") ≠ none := by decide +kernel

theorem canonicalVersion_parse {v : Bytes} {p : Semver.Parsed} (h : Semver.parse v = some p) :
    Semver.parse (Semver.canonicalVersion v) =
      some { major := p.major, minor := p.minor, patch := p.patch, prerelease := p.prerelease, build := keptBuild p } := by
  rw [canonicalVersion_eq h, Semver.canonical_spec h]
  obtain ⟨nmaj, nmin, npat, hpre, _⟩ := Semver.decomp_fields (Semver.parse_decomp h)
  exact Semver.decomp_parse (Semver.Decomp.full p.major p.minor p.patch p.prerelease (keptBuild p) nmaj nmin npat hpre
    (keptBuild_buildOpt h))

example : Semver.parse (B "v1.2.3+meta") ≠ none := by decide +kernel

theorem canonicalVersion_invalid {v : Bytes} (h : Semver.parse v = none) : Semver.canonicalVersion v = [] := by
  have hb : Semver.build v = [] := by unfold Semver.build; rw [h]
  have hne : ((([] : Bytes) == B "+incompatible")) = false := by decide +kernel
  simp [Semver.canonicalVersion, Semver.canonical_invalid h, hb, hne]

example : Semver.parse (B "1.2.3") = none := by decide +kernel

theorem canonicalVersion_valid {t : Bytes} (h : Semver.isValid t = true) :
    Semver.isValid (Semver.canonicalVersion t) = true := by
  obtain ⟨p, hp⟩ := valid_decomp h
  simp [Semver.isValid, canonicalVersion_parse hp]

example : Semver.isValid (B "v1.2+") = false ∧ Semver.isValid (B "v1.2") = true := by decide +kernel

theorem canonicalVersion_ne_nil_iff (t : Bytes) : Semver.canonicalVersion t ≠ [] ↔ Semver.isValid t = true := by
  cases hp : Semver.parse t with
  | none => simp [canonicalVersion_invalid hp, Semver.isValid, hp]
  | some p =>
    have hv : Semver.isValid t = true := by simp [Semver.isValid, hp]
    simp only [hv, iff_true]
    exact valid_ne_nil (canonicalVersion_valid hv)

theorem canonicalVersion_idem (t : Bytes) :
    Semver.canonicalVersion (Semver.canonicalVersion t) = Semver.canonicalVersion t := by
  cases hp : Semver.parse t with
  | none =>
    rw [canonicalVersion_invalid hp]
    exact canonicalVersion_invalid (by decide)
  | some p =>
    have h2 := canonicalVersion_parse hp
    rw [canonicalVersion_eq h2, Semver.canonical_spec h2, canonicalVersion_eq hp, Semver.canonical_spec hp]
    congr 1
    simp only [keptBuild]
    split <;> simp [*]

/-- What `parseVersion` does to the value `parseString` read: the fixer, or `CanonicalVersion` when there is none
    (the two differ only in the error they report).  `none` = no version is returned. -/
def effFix (fix : Option Fixer) (p t : Bytes) : Option Bytes :=
  match fix with
  | some fx => match fx p t with | .ok v => some v | .error _ => none
  | none => if (Semver.canonicalVersion t).isEmpty then none else some (Semver.canonicalVersion t)

theorem parseVersion_ok_iff {p tok tok' v : Bytes} {fix : Option Fixer} :
    parseVersion p tok fix = (tok', .ok v) ↔
      ∃ t q, parseString tok = some (t, q) ∧ effFix fix p t = some v ∧ tok' = v := by
  unfold parseVersion effFix
  cases hps : parseString tok with
  | none => simp
  | some r =>
    obtain ⟨t, q⟩ := r
    have hex : ∀ P : Bytes → Bytes → Prop, (∃ t' q', some (t, q) = some (t', q') ∧ P t' q') ↔ P t q :=
      fun P => ⟨fun ⟨_, _, e, h⟩ => by cases e; exact h, fun h => ⟨t, q, rfl, h⟩⟩
    rw [hex fun t' _ => (match fix with
      | some fx => match fx p t' with | .ok v => some v | .error _ => none
      | none => if (Semver.canonicalVersion t').isEmpty then none else some (Semver.canonicalVersion t')) = some v ∧ tok' = v]
    cases fix with
    | some fx =>
      simp only
      cases hf : fx p t with
      | ok w =>
        simp only [Prod.mk.injEq, Except.ok.injEq, Option.some.injEq]
        constructor <;> (rintro ⟨rfl, rfl⟩; exact ⟨rfl, rfl⟩)
      | error e => cases e <;> simp
    | none =>
      simp only
      by_cases hc : (Semver.canonicalVersion t).isEmpty = true
      · simp [hc]
      · simp only [hc, Bool.false_eq_true, if_false, Prod.mk.injEq, Except.ok.injEq, Option.some.injEq]
        constructor <;> (rintro ⟨rfl, rfl⟩; exact ⟨rfl, rfl⟩)

theorem parseVersion_ok_tok {p tok tok' v : Bytes} {fix : Option Fixer}
    (h : parseVersion p tok fix = (tok', .ok v)) : tok' = v := by
  obtain ⟨_, _, _, _, e⟩ := parseVersion_ok_iff.1 h
  exact e

example : parseVersion [] (B "v1.2") none = (B "v1.2.0", .ok (B "v1.2.0")) := by decide +kernel

theorem effFix_some {fx : Fixer} {p t v : Bytes} : effFix (some fx) p t = some v ↔ fx p t = .ok v := by
  simp only [effFix]
  cases hf : fx p t <;> simp

theorem effFix_none_valid {p t v : Bytes} (h : effFix none p t = some v) : Semver.isValid v = true := by
  simp only [effFix] at h
  split at h
  · cases h
  · rename_i hne
    simp only [Option.some.injEq] at h
    subst h
    apply canonicalVersion_valid
    apply (canonicalVersion_ne_nil_iff t).1
    intro e; rw [e] at hne; exact hne rfl

theorem parseVersion_none_valid {p tok tok' v : Bytes} (h : parseVersion p tok none = (tok', .ok v)) :
    Semver.isValid v = true := by
  obtain ⟨_, _, _, hf, _⟩ := parseVersion_ok_iff.1 h
  exact effFix_none_valid hf

example : parseVersion [] (B "\"v1\"") none = (B "v1.0.0", .ok (B "v1.0.0")) := by decide +kernel

def FixIdem (fx : Fixer) : Prop := ∀ p' v0 w, fx p' v0 = .ok w → fx p' w = .ok w

theorem dontFixRetract_idem : FixIdem dontFixRetract := by
  intro p' v0 w _; rfl

def EffIdem (fix : Option Fixer) : Prop := ∀ p t v, effFix fix p t = some v → effFix fix p v = some v

theorem effIdem_none : EffIdem none := by
  intro p t v h
  simp only [effFix] at h ⊢
  split at h
  · cases h
  · rename_i hne
    simp only [Option.some.injEq] at h
    subst h
    rw [canonicalVersion_idem]
    simp [hne]

theorem effIdem_some {fx : Fixer} (h : FixIdem fx) : EffIdem (some fx) :=
  fun p t _ hv => effFix_some.2 (h p t _ (effFix_some.1 hv))

/-- `hps` holds of every valid version and of every string `MustQuote` accepts unquoted -/
theorem parseVersion_fixpoint {p tok tok' v : Bytes} {fix : Option Fixer} (hI : EffIdem fix)
    (h : parseVersion p tok fix = (tok', .ok v)) (hps : ∃ k, parseString v = some (v, k)) :
    tok' = v ∧ parseVersion p v fix = (v, .ok v) := by
  obtain ⟨t, q, _, hf, rfl⟩ := parseVersion_ok_iff.1 h
  obtain ⟨k, hk⟩ := hps
  exact ⟨rfl, parseVersion_ok_iff.2 ⟨_, k, hk, hI p t _ hf, rfl⟩⟩

theorem parseVersion_fix_valid {p tok tok' v : Bytes} {fix : Option Fixer} (hI : EffIdem fix)
    (h : parseVersion p tok fix = (tok', .ok v)) (hv : fix ≠ none → Semver.isValid v = true) :
    tok' = v ∧ Semver.isValid v = true ∧ parseVersion p v fix = (v, .ok v) := by
  have hvv : Semver.isValid v = true := by
    cases fix with
    | none => exact parseVersion_none_valid h
    | some fx => exact hv (by simp)
  obtain ⟨h1, h2⟩ := parseVersion_fixpoint hI h ⟨v, valid_parseString hvv⟩
  exact ⟨h1, hvv, h2⟩

example : parseVersion [] (B "v1") (some dontFixRetract) = (B "v1", .ok (B "v1")) ∧
    (∃ k, parseString (B "v1") = some (B "v1", k)) := by
  exact ⟨by decide +kernel, B "v1", by decide +kernel⟩

example : parseVersion [] (B "v1.2.3") (some dontFixRetract) = (B "v1.2.3", .ok (B "v1.2.3")) ∧
    Semver.isValid (B "v1.2.3") = true ∧ FixIdem dontFixRetract :=
  ⟨by decide +kernel, by decide +kernel, dontFixRetract_idem⟩

example : parseVersion [] (B "v1.2.3") (some dontFixRetract) = (B "v1.2.3", .ok (B "v1.2.3")) ∧
    (∃ k, parseString (B "v1.2.3") = some (B "v1.2.3", k)) := by
  exact ⟨by decide +kernel, B "v1.2.3", by decide +kernel⟩

end ModVerif.Proofs.ModfileFmtFix
