/-
  Tie proofs, sumdb/client.go (merge unit): `Client.checkTrees` and `Client.checkRecord` of the regenerated client against
  the hand model, over the ties of the reads through tiles (`TileSpecs`).

  The text of the SecurityError report: `bytes.Replace(b, "\n", "\n\t", -1)` of the generated code is the model's `indent`;
  the `for _, h := range p` loop of `checkTrees` appends the model's `proofLines`; the sequence of `fmt.Fprintf` literals is
  the model's `securityHead`.
-/
import ModVerif.Proofs.TieFnClientMergeSpec
import ModVerif.Proofs.TieFnClientMergeLen
import ModVerif.Tie.FnTlogProof
import ModVerif.Tie.FnTlogInt
import ModVerif.Proofs.GoRtSim
namespace ModVerif.TieFnClientMerge
open ModVerif ModVerif.GoRt ModVerif.Client ModVerif.Generated.SumdbClient ModVerif.TieFnClientRep

section
theorem replaceAllAux_nl (fuel : Nat) (s : Bytes) (hf : s.length + 1 ≤ fuel) :
    replaceAllAux [10] [10, 9] fuel s = Client.indent s := by
  induction s generalizing fuel with
  | nil =>
    cases fuel with
    | zero => omega
    | succ f => simp [replaceAllAux, Client.indent]
  | cons c rest ih =>
    cases fuel with
    | zero => omega
    | succ f =>
      have hf' : rest.length + 1 ≤ f := by simp at hf; omega
      by_cases hc : c = 10
      · subst hc
        simp [replaceAllAux, Client.indent, ih f hf']
      · have hc' : ¬ ((10 : UInt8) = c) := fun h => hc h.symm
        simp [replaceAllAux, Client.indent, ih f hf', hc, hc']

/-- `indent := func(b) { return bytes.Replace(b, "\n", "\n\t", -1) }` -/
theorem replaceAll_nl (s : Bytes) (n : Int) : replaceAll s [10] [10, 9] n = Client.indent s := by
  unfold replaceAll
  exact replaceAllAux_nl _ s (Nat.le_refl _)

variable {σ H : Type} [DecidableEq H] [Inhabited H]

omit [DecidableEq H] [Inhabited H] in
theorem proofLines_foldl (P : Client.Params H) : ∀ (p : List H) (buf : Bytes),
    p.foldl (fun b h => b ++ (([10, 9] : Bytes) ++ TlogNote.hashString (P.enc h))) buf = buf ++ Client.proofLines P p
  | [], buf => by simp [Client.proofLines]
  | h :: p, buf => by rw [List.foldl_cons, proofLines_foldl P p]; simp [Client.proofLines, List.append_assoc]

theorem checkTrees_loop1_tie (E : ClientEnv σ H) (P : Client.Params H)
    (hs : ∀ h, E.hashString h = TlogNote.hashString (P.enc h)) (world : CW σ H) (p : List H) (fuel : Nat) (buf : Bytes)
    (hf : p.length + 1 ≤ fuel) :
    Client_checkTrees_loop1 E p world fuel 0 buf = .ok ((p.length : Int), buf ++ Client.proofLines P p) := by
  rw [← proofLines_foldl]
  exact range_fold (fun f i b => Client_checkTrees_loop1 E p world f i b) p _
    (fun f b => by rw [Client_checkTrees_loop1, if_neg (by simpa using not_lt_len_self p)]; rfl)
    (fun f k hk b => by rw [Client_checkTrees_loop1, if_pos (by simp [len_eq]; omega), idxL_natCast hk, ← hs]; rfl)
    p.length fuel 0 buf (by simp) hf

theorem lit_security : ([83, 69, 67, 85, 82, 73, 84, 89, 32, 69, 82, 82, 79, 82, 10] : Bytes) = B "SECURITY ERROR\n" := by
  decide +kernel

theorem lit_misbehavior :
    ([103, 111, 46, 115, 117, 109, 32, 100, 97, 116, 97, 98, 97, 115, 101, 32, 115, 101, 114, 118, 101, 114, 32, 109, 105, 115, 98, 101, 104, 97, 118, 105, 111, 114, 32, 100, 101, 116, 101, 99, 116, 101, 100, 33, 10, 10] : Bytes) =
      B "go.sum database server misbehavior detected!\n\n" := by decide +kernel

theorem lit_old : ([111, 108, 100, 32, 100, 97, 116, 97, 98, 97, 115, 101, 58, 10, 9] : Bytes) = B "old database:\n\t" := by decide +kernel

theorem lit_new : ([110, 101, 119, 32, 100, 97, 116, 97, 98, 97, 115, 101, 58, 10, 9] : Bytes) = B "new database:\n\t" := by decide +kernel

theorem lit_proof :
    ([112, 114, 111, 111, 102, 32, 111, 102, 32, 109, 105, 115, 98, 101, 104, 97, 118, 105, 111, 114, 58, 10, 9] : Bytes) =
      B "proof of misbehavior:\n\t" := by decide +kernel

theorem lit_internal :
    ([9, 105, 110, 116, 101, 114, 110, 97, 108, 32, 101, 114, 114, 111, 114, 58, 32] : Bytes) = B "\tinternal error: " := by decide +kernel

theorem lit_inconsistent :
    ([9, 105, 110, 116, 101, 114, 110, 97, 108, 32, 101, 114, 114, 111, 114, 58, 32, 103, 101, 110, 101, 114, 97, 116, 101, 100, 32, 105, 110, 99, 111, 110, 115, 105, 115, 116, 101, 110, 116, 32, 112, 114, 111, 111, 102, 10] : Bytes) =
      B "\tinternal error: generated inconsistent proof\n" := by decide +kernel

omit [DecidableEq H] [Inhabited H] in
/-- the buffer of `checkTrees` after `fmt.Fprintf(&buf, "proof of misbehavior:\n\t%v", h)` is the model's `securityHead`,
    byte for byte -/
theorem securityHead_eq (E : ClientEnv σ H) (P : Client.Params H)
    (hs : ∀ h, E.hashString h = TlogNote.hashString (P.enc h)) (olderNote newerNote : Bytes) (h : H) :
    (((((([] : Bytes) ++ ([83, 69, 67, 85, 82, 73, 84, 89, 32, 69, 82, 82, 79, 82, 10] : Bytes)) ++
      ([103, 111, 46, 115, 117, 109, 32, 100, 97, 116, 97, 98, 97, 115, 101, 32, 115, 101, 114, 118, 101, 114, 32, 109, 105, 115, 98, 101, 104, 97, 118, 105, 111, 114, 32, 100, 101, 116, 101, 99, 116, 101, 100, 33, 10, 10] : Bytes)) ++
      (([111, 108, 100, 32, 100, 97, 116, 97, 98, 97, 115, 101, 58, 10, 9] : Bytes) ++ (replaceAll olderNote ([10] : Bytes) ([10, 9] : Bytes) (-1 : Int)) ++ ([10] : Bytes))) ++
      (([110, 101, 119, 32, 100, 97, 116, 97, 98, 97, 115, 101, 58, 10, 9] : Bytes) ++ (replaceAll newerNote ([10] : Bytes) ([10, 9] : Bytes) (-1 : Int)) ++ ([10] : Bytes))) ++
      (([112, 114, 111, 111, 102, 32, 111, 102, 32, 109, 105, 115, 98, 101, 104, 97, 118, 105, 111, 114, 58, 10, 9] : Bytes) ++ (E.hashString h))) =
    Client.securityHead P olderNote newerNote h := by
  rw [lit_security, lit_misbehavior, lit_old, lit_new, lit_proof, replaceAll_nl, replaceAll_nl, hs]
  simp only [Client.securityHead, List.nil_append, List.append_assoc]

end

section
variable {σ H : Type} [DecidableEq H] [Inhabited H] {P : Params H} {E : Env σ}

omit [DecidableEq H] [Inhabited H] in
/-- the end of the fork branch of `checkTrees`: `c.ops.SecurityError(buf.String()); return ErrSecurity` -/
theorem finish_security {w2 : World σ H} {cw2 : GW σ H} (hr2 : RepRun P E w2 cw2) (msg : Bytes) :
    Ties (RepRun P E) FrameG FrameM RepUnit id w2 cw2
      (pure ((some "ErrSecurity" : Option String), ((envOf P E).securityError msg cw2).2))
      (.error .security, securityError E w2 msg) := by
  rw [securityError_eq hr2.s msg]
  exact Ties.after framingG (withS_frame _ _) (frameM_of_c (w' := securityError E w2 msg) rfl)
    (Ties.ret framingG (hr2.withS rfl) ⟨_, rfl, errAbs_security⟩)

omit [DecidableEq H] [Inhabited H] in
theorem hashString_envOf (h : H) : (envOf P E).hashString h = TlogNote.hashString (P.enc h) := rfl

theorem checkTrees_tie (S : TileSpecs P E) (w : World σ H) (cw : GW σ H) (older newer : Head H)
    (olderNote newerNote : Bytes) (fuel : Nat) (hr : RepRun P E w cw) (hok : CheckTreesOk P E w older newer)
    (hf : checkTreesFuel S w older newer ≤ fuel) :
    Ties (RepRun P E) FrameG FrameM RepUnit id w cw
      (Client_checkTrees (envOf P E) fuel (headG older) olderNote (headG newer) newerNote cw)
      (checkTrees P E w older olderNote newer newerNote) := by
  obtain ⟨ho, hn, hnorm, hprove⟩ := hok
  have hf1 : S.FT w older.n newer ≤ fuel := Nat.le_trans (Nat.le_max_left _ _) hf
  have hf2 : S.FP (treeHashVia P E w older.n newer).2 newer.n older.n newer ≤ fuel :=
    Nat.le_trans (Nat.le_trans (Nat.le_max_left _ _) (Nat.le_max_right _ _)) hf
  have hf3 : newer.n + 2 ≤ fuel :=
    Nat.le_trans (Nat.le_trans (Nat.le_max_right _ _) (Nat.le_max_right _ _)) hf
  unfold Client_checkTrees
  simp only [tileHashReaderX]
  refine Ties.bind framingG (S.treeHash w cw older.n newer fuel hr hn (Nat.le_of_lt ho) hf1 hnorm) ?_
  rintro ⟨h1, err1⟩ cw1 rr1 rs1
  cases hth : (treeHashVia P E w older.n newer).1 with
  | error e =>
    rw [hth] at rs1
    have hm : checkTrees P E w older olderNote newer newerNote = (.error e, (treeHashVia P E w older.n newer).2) := by
      simp only [checkTrees, hth]
    rw [hm]
    simp only [RepErr_not_isNone rs1, if_true]
    split <;> exact Ties.ret framingG rr1 (errAbs_wrap _ (by simp [passLits]) _ _ rs1)
  | ok h =>
    rw [hth] at rs1
    obtain ⟨rfl, rfl⟩ := rs1
    simp only [Option.isNone_none, Bool.not_true, Bool.false_eq_true, if_false]
    by_cases heq : h1 = older.hash
    · have hm : checkTrees P E w older olderNote newer newerNote = (.ok (), (treeHashVia P E w older.n newer).2) := by
        simp only [checkTrees, hth, heq, if_true]
      rw [hm, if_pos (decide_eq_true (show h1 = (headG older).Hash from heq))]
      exact Ties.ret framingG rr1 rfl
    · obtain ⟨p, hp⟩ := hprove h1 hth heq
      have hnp : Normal (proveTreeVia P E (treeHashVia P E w older.n newer).2 newer.n older.n newer).1 := by
        rw [hp]; exact Normal_ok p
      have hm : checkTrees P E w older olderNote newer newerNote =
          (.error .security, securityError E (proveTreeVia P E (treeHashVia P E w older.n newer).2 newer.n older.n newer).2
            (securityHead P olderNote newerNote h1 ++
              match Tlog.checkTree P.node p (newer.n : Int) newer.hash (older.n : Int) h1 with
              | .error _ => B "\tinternal error: generated inconsistent proof\n"
              | .ok () => proofLines P p)) := by
        simp only [checkTrees, hth, heq, if_false, hp]
        rfl
      rw [hm, if_neg (by simpa using (show ¬ h1 = (headG older).Hash from heq)),
        securityHead_eq (envOf P E) P (fun _ => rfl)]
      refine Ties.bind framingG (S.proveTree _ cw1 newer.n older.n newer fuel rr1 hn (Nat.le_of_lt hn) hf2 hnp) ?_
      rintro ⟨p2, err2⟩ cw2 rr2 rs2
      rw [hp] at rs2
      obtain ⟨rfl, rfl⟩ := rs2
      simp only [Option.isNone_none, Bool.not_true, Bool.false_eq_true, if_false]
      have hplen : p2.length ≤ newer.n := proveTreeVia_length P E _ _ _ _ _ hp
      have hct : checkTreeX (envOf P E) fuel p2 (newer.n : Int) (headG newer).Hash (older.n : Int) h1 =
          .ok (Tie.FnTlogProof.encErr "tlog: invalid inputs in CheckTree"
            (Tlog.checkTree P.node p2 (newer.n : Int) newer.hash (older.n : Int) h1)) := by
        have h62 : (2 : Int) ^ 62 = 4611686018427387904 := by decide
        have h63 : (2 : Int) ^ 63 = 9223372036854775808 := by decide
        have h62n : (2 : Nat) ^ 62 = 4611686018427387904 := by decide
        exact Tie.FnTlogProof.CheckTree_tie P.node fuel p2 (newer.n : Int) newer.hash (older.n : Int) h1
          (by omega) (by omega) (by omega)
      have hN2 : (headG newer).N = (newer.n : Int) := rfl
      have hN : (headG older).N = (older.n : Int) := rfl
      rw [hN2, hN, hct]
      cases hck : Tlog.checkTree P.node p2 (newer.n : Int) newer.hash (older.n : Int) h1 with
      | error ce =>
        simp only [Tie.FnTlogProof.encErr]
        rw [lit_inconsistent]
        exact finish_security rr2 _
      | ok u =>
        cases u
        simp only [Tie.FnTlogProof.encErr]
        rw [checkTrees_loop1_tie (envOf P E) P (fun _ => rfl) cw2 p2 fuel _ (by omega)]
        exact finish_security rr2 _

/-- `StoredHashIndex(0, id)` for a negative `id`: both loops do nothing -/
theorem storedHashIndex_neg (fuel : Nat) (id : Int) (hid : id < 0) (hf : 1 ≤ fuel) :
    storedHashIndexX fuel 0 id = .ok 0 := by
  cases fuel with
  | zero => omega
  | succ f =>
    have h1 : decide (id > 0) = false := by simp; omega
    simp [storedHashIndexX, Generated.Tlog.StoredHashIndex, Generated.Tlog.StoredHashIndex_loop1,
      Generated.Tlog.StoredHashIndex_loop2, h1, bind, Except.bind, pure, Except.pure, chk64]
    decide

theorem storedHashIndex_record (fuel : Nat) (id : Int) (n : Nat) (hid : id < (n : Int)) (hn : n ≤ 2 ^ 62) (hf : 64 ≤ fuel) :
    storedHashIndexX fuel 0 id = .ok (Int.ofNat (recordIndex id)) := by
  unfold recordIndex
  by_cases hneg : id < 0
  · rw [storedHashIndex_neg fuel id hneg (by omega)]; simp [hneg]
  · simp only [hneg, if_false]
    have h62n : (2 : Nat) ^ 62 = 4611686018427387904 := by decide
    exact Tie.FnTlogInt.StoredHashIndex_tie_of_le fuel 0 id (by omega) (by omega) (by simp; omega) hf

theorem checkRecord_tie (S : TileSpecs P E) (w : World σ H) (cw : GW σ H) (id : Int) (data : Bytes) (fuel : Nat)
    (hr : RepRun P E w cw) (hok : CheckRecordOk P E w id data) (hf : checkRecordFuel S w id ≤ fuel) :
    Ties (RepRun P E) FrameG FrameM RepUnit _root_.id w cw (Client_checkRecord (envOf P E) fuel id data cw)
      (checkRecord P E w id data) := by
  obtain ⟨hn, hnorm⟩ := hok
  have hf1 : 64 ≤ fuel := Nat.le_trans (Nat.le_max_left _ _) hf
  have hf2 : S.FR w w.c.latest [recordIndex id] ≤ fuel := Nat.le_trans (Nat.le_max_right _ _) hf
  unfold Client_checkRecord
  rw [hr.latest_eq]
  have hN : (headG w.c.latest).N = (w.c.latest.n : Int) := rfl
  simp only [hN]
  by_cases hge : id ≥ (w.c.latest.n : Int)
  · have hm : checkRecord P E w id data = (.error .recordId, w) := by
      simp only [checkRecord, hge, if_true]
    rw [hm, if_pos (decide_eq_true hge)]
    exact Ties.ret framingG hr ⟨_, rfl, errAbs_recordId⟩
  · rw [if_neg (by simpa using hge), storedHashIndex_record fuel id w.c.latest.n (by omega) (Nat.le_of_lt hn) hf1, mbind_ok]
    have hm : checkRecord P E w id data =
        match (readHashes P E w w.c.latest [recordIndex id]).1 with
        | .error e => (.error e, (readHashes P E w w.c.latest [recordIndex id]).2)
        | .ok hs =>
          match hs with
          | [] => (.error .panic, (readHashes P E w w.c.latest [recordIndex id]).2)
          | h :: _ => if h = P.leaf data then (.ok (), (readHashes P E w w.c.latest [recordIndex id]).2)
              else (.error .recordHash, (readHashes P E w w.c.latest [recordIndex id]).2) := by
      simp only [checkRecord, hge, if_false, show (if id < 0 then 0 else Tlog.storedHashIndex 0 id.toNat) = recordIndex id from rfl]
      cases (readHashes P E w w.c.latest [recordIndex id]).1 with
      | error e => rfl
      | ok hs => cases hs <;> rfl
    have hnr : Normal (readHashes P E w w.c.latest [recordIndex id]).1 := by
      intro e he
      apply hnorm e
      rw [hm, he]
    rw [hm] at hnorm ⊢
    refine Ties.bind framingG (S.readHashes w cw w.c.latest [recordIndex id] fuel hr hn (by simp) hf2 hnr) ?_
    rintro ⟨hs1, err1⟩ cw1 rr1 rs1
    cases hrh : (readHashes P E w w.c.latest [recordIndex id]).1 with
    | error e =>
      rw [hrh] at rs1
      simp only [RepErr_not_isNone rs1, if_true]
      exact Ties.ret framingG rr1 rs1
    | ok hs =>
      rw [hrh] at rs1 hnorm
      obtain ⟨rfl, rfl⟩ := rs1
      simp only [Option.isNone_none, Bool.not_true, Bool.false_eq_true, if_false]
      cases hs1 with
      | nil => exact absurd trivial (hnorm .panic rfl)
      | cons h rest =>
        rw [show idxL (h :: rest) (0 : Int) = .ok h from rfl, mbind_ok, show (envOf P E).recordHash data = P.leaf data from rfl]
        by_cases heq : h = P.leaf data
        · simp only [heq, decide_true, if_true]
          exact Ties.ret framingG rr1 rfl
        · simp only [heq, decide_false, Bool.false_eq_true, if_false]
          exact Ties.ret framingG rr1 ⟨_, rfl, errAbs_recordHash⟩

end
end ModVerif.TieFnClientMerge
