/-
  C20, lexer level: when is a `//` comment delivered as a whole-line comment token (`TokKind.comment`)?

  `readComment` tests `strings.TrimSpace(<bytes before the comment on its source line>) == ""`.  With
  `trimSpace_prefix_ne_nil` (Proofs/EditMarkerFields.lean; `TrimSpace s = "" ↔ Fields s = []`, no backward decoding
  needed) the test fails as soon as the line has, after leading white space, a rune that is not white space — whatever
  bytes follow it, ill-formed UTF-8 included.  Hence: a token that follows such a rune on its source line is never a
  whole-line comment token (`readToken_not_comment`).
-/
import ModVerif.Proofs.EditMarkerFields
import ModVerif.Proofs.ModfileC20Lay
namespace ModVerif.Proofs.ModfileC20
open ModVerif ModVerif.Modfile ModVerif.Proofs.ModfileLex ModVerif.Proofs.ModfilePos
open ModVerif.Proofs.ModfileFmtTrim ModVerif.Proofs.ModfileFmtUtf8 ModVerif.Proofs.ModfileScan

/-- `gap`: the blanks `skipSpaces` skipped before the `//` -/
theorem readToken_comment {i i' : Input} (h : readToken i = .ok i') (hk : i'.token.kind = .comment) :
    ∃ gap, WS gap ∧ GoStrings.trimSpace (((gap.reverse ++ i.consumedRev).takeWhile (· != 10)).reverse) = [] := by
  obtain ⟨j1, hb, _, ht⟩ := readToken_tok h
  obtain ⟨gap, hws, hc0, _⟩ := blanks_gap hb
  cases ht with
  | comment _ _ hrc =>
    cases readComment_com hrc with
    | comment _ _ _ _ hs _ _ =>
      refine ⟨gap, hws, ?_⟩
      rw [← hc0]
      simpa [hasPrefix] using hs
    | eolComment _ _ _ _ _ _ _ => cases hk
  | eof _ => cases hk
  | punct _ _ _ _ _ => cases hk
  | string _ _ _ _ _ _ _ => cases hk
  | ident _ _ _ _ _ _ _ _ => cases hk

theorem takeWhile_ws_append (gap rest : Bytes) (hws : WS gap) :
    ((gap.reverse ++ rest).takeWhile (· != 10)) = gap.reverse ++ rest.takeWhile (· != 10) := by
  rw [List.takeWhile_append_of_pos]
  intro b hb
  exact ws_no_newline hws b (List.mem_reverse.1 hb)

theorem spaceSeq_of_ws {g : Bytes} (h : WS g) : SpaceSeq g := by
  apply spaceSeq_of_ascii
  intro b hb
  rcases h b hb with rfl | rfl | rfl <;> decide

/-- ★ **the lexer never delivers a whole-line comment token after a token** (`x`: from the first token of the line on;
    anything may follow it, ill-formed UTF-8 included): a `//` there is an end-of-line comment -/
theorem readToken_not_comment {i i' : Input} (h : readToken i = .ok i') (g x : Bytes)
    (hpre : (i.consumedRev.takeWhile (· != 10)).reverse = g ++ x) (hg : SpaceSeq g) (hx : x ≠ [])
    (hs : UnicodePrint.isSpace (Utf8.decodeRune x).1 = false) : i'.token.kind ≠ .comment := by
  intro hk
  obtain ⟨gap, hws, ht⟩ := readToken_comment h hk
  rw [takeWhile_ws_append gap _ hws, List.reverse_append, List.reverse_reverse, hpre, List.append_assoc] at ht
  refine Edit.trimSpace_prefix_ne_nil g (x ++ gap) hg (by simp [hx]) ?_ ht
  have hgs : AsciiStart gap := by
    intro b hb
    cases gap with
    | nil => simp at hb
    | cons c t =>
      simp only [List.head?_cons, Option.mem_def, Option.some.injEq] at hb
      subst hb
      rcases hws c (by simp) with rfl | rfl | rfl <;> decide
  rw [decodeRune_append x gap hx hgs]
  exact hs

/-- non-vacuity: after `x ` the comment is an end-of-line comment, at the start of a line it is a whole-line comment -/
example : (match readToken { consumedRev := [32, 120, 10], remaining := [47, 47, 99] } with
    | .ok i => i.token.kind == .eolComment
    | .error _ => false) = true ∧
    (match readToken { consumedRev := [32, 9, 10], remaining := [47, 47, 99] } with
    | .ok i => i.token.kind == .comment
    | .error _ => false) = true := by decide +kernel

end ModVerif.Proofs.ModfileC20
