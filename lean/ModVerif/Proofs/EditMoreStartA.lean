/-
  `File.add` in strict mode, outcome by outcome (`ModfileFmtDir.AddOK`, `add_strict`): a call that reports no
  error appends exactly one typed entry, and the tokens it writes back into the line are the rendering that
  `Edit.entries` expects of that entry (`AddOK.ent`).  The facts about the tokens `parseString`, `parseVersion`,
  `parseVersionInterval` and `parseReplace` write back are those of the directive layer (Proofs/ModfileFmtFix*).

  A fixer may return the empty version, which the replace rendering cannot tell from "no version"; hence the
  hypothesis `ModfileFmtDir.FixNE` on the fixer (no hypothesis without one: what `sessionMod` uses).
-/
import ModVerif.Proofs.EditRefineInv
import ModVerif.Proofs.EditMoreFlags
import ModVerif.Proofs.ModfileFmtDirWF
namespace ModVerif.Modfile.Edit
open ModVerif ModVerif.Modfile ModVerif.Proofs ModVerif.Proofs.ModfileC20 ModVerif.Proofs.EditMore


theorem cut_spec (s : Bytes) (sep : UInt8) (k v : Bytes) (h : GoStrings.cut s sep = some (k, v)) : s = k ++ [sep] ++ v := by
  unfold GoStrings.cut at h
  split at h
  · rename_i hc
    simp only [Option.some.injEq, Prod.mk.injEq] at h
    obtain ⟨rfl, rfl⟩ := h

    induction s with
    | nil => simp at hc
    | cons c cs ih =>
      by_cases hcs : c = sep
      · subst hcs; simp [List.takeWhile, List.dropWhile]
      · have : cs.contains sep = true := by
          simp only [List.contains_cons, Bool.or_eq_true, beq_iff_eq] at hc
          rcases hc with h | h
          · exact absurd h.symm hcs
          · exact h
        have hne : (c != sep) = true := by simpa using hcs
        simp only [List.takeWhile, List.dropWhile, hne, List.cons_append]
        congr 1
        exact ih this
  · cases h

theorem addGodebug_spec (args : List Bytes) (k v : Bytes) (h : Modfile.addGodebug args = some (k, v)) :
    args = [k ++ [61] ++ v] := by
  unfold Modfile.addGodebug at h
  split at h
  · split at h
    · cases h
    · rw [cut_spec _ _ _ _ h]
  · cases h

theorem parseVersion_ne {fix : Option Fixer} (hne : Proofs.ModfileFmtDir.FixNE fix) {p tok tok' v : Bytes}
    (h : parseVersion p tok fix = (tok', .ok v)) : v ≠ [] := by
  cases fix with
  | none => exact ModfileFmtFix.valid_ne_nil (ModfileFmtFix.parseVersion_none_valid h)
  | some fx =>
    obtain ⟨t, _, _, hf, _⟩ := ModfileFmtFix.parseVersion_ok_iff.1 h
    intro e; subst e
    exact hne fx rfl p t (ModfileFmtFix.effFix_some.1 hf)

theorem pvi_spec {fix : Option Fixer} (p : Bytes) (args args' : List Bytes) (vi : VersionInterval) (rest : List Bytes)
    (h : parseVersionInterval p args fix = (args', .ok (vi, rest))) (hr : rest = []) :
    (args' = [vi.low] ∧ vi.low = vi.high) ∨ args' = [[91], vi.low, [44], vi.high, [93]] := by
  subst hr
  rcases ModfileFmtFix.parseVersionInterval_shape h with ⟨_, _, _, _, _, e, rfl⟩ | ⟨_, _, _, _, _, rfl⟩
  · exact Or.inl ⟨rfl, e.symm⟩
  · exact Or.inr rfl

theorem replaceToks_eq (r : Replace) : replaceToks r = B "replace" :: ModfileFmtFix.replaceToks r := by
  simp only [replaceToks, ModfileFmtFix.replaceToks, List.isEmpty_iff]
  split <;> split <;> simp

theorem parseReplace_spec {fix : Option Fixer} (hne : Proofs.ModfileFmtDir.FixNE fix)
    (lineId : Nat) (args args' : List Bytes) (r : Replace) (h : parseReplace lineId args fix = (args', .ok r)) :
    B "replace" :: args' = replaceToks r ∧ r.lineId = lineId := by
  refine ⟨by rw [replaceToks_eq, ModfileFmtFix.parseReplace_toks_of h (parseVersion_ne hne)], ?_⟩
  obtain ⟨_, _, _, _, _, _, _, _, _, _, _, _, _, _, _, _, _, _, _, _, e3⟩ := (ModfileFmtFix.parseReplace_decomp h).ex
  exact e3

/-- the entries of the nine typed lists, one list per verb in the order of `entries` -/
def segs (f : File) : List (List Ent) :=
  [f.module.toList.map entM, f.go.toList.map entGo, f.toolchain.toList.map entTc, f.godebug.map entG, f.require.map entRq,
   f.exclude.map entX, f.replace.map entRp, f.retract.map entRt, f.tool.map entT]

/-- one entry per typed entry, cleared or not -/
def entsAll (f : File) : List Ent := (segs f).flatten

theorem flatten_set_perm (en : Ent) : ∀ (L : List (List Ent)) (k : Nat), k < L.length →
    (L.set k (L.getD k [] ++ [en])).flatten.Perm (L.flatten ++ [en]) := by
  intro L
  induction L with
  | nil => intro k hk; simp at hk
  | cons x xs ih =>
    intro k hk
    cases k with
    | zero =>
      simp only [List.set_cons_zero, List.getD_cons_zero, List.flatten_cons, List.append_assoc]
      exact List.Perm.append_left _ List.perm_append_comm
    | succ k =>
      simp only [List.set_cons_succ, List.getD_cons_succ, List.flatten_cons, List.append_assoc]
      exact List.Perm.append_left _ (ih k (by simpa using hk))

theorem entsAll_perm {f f' : File} {en : Ent} (k : Nat) (hk : k < 9)
    (h : segs f' = (segs f).set k ((segs f).getD k [] ++ [en])) : (entsAll f').Perm (entsAll f ++ [en]) := by
  unfold entsAll; rw [h]; exact flatten_set_perm en _ k (by simpa [segs] using hk)

theorem err_ne (st : AddState) (p : Position) (k : RuleErrKind) : (st.err p k).errsRev ≠ [] := by simp [AddState.err]

theorem AddOK.ent {fix : Option Fixer} (hne : Proofs.ModfileFmtDir.FixNE fix)
    {st : AddState} {blk : Option Comments} {line : Line} {verb : Bytes} {args args' : List Bytes} {f' : File}
    (h : ModfileFmtDir.AddOK st blk line fix verb args f' args') :
    (∃ en : Ent, (entsAll f').Perm (entsAll st.file ++ [en]) ∧ en.id = line.id ∧ en.acc (verb :: args') line.comments.suffix) ∧
      args' ≠ [] := by
  have none_of : ∀ {α : Type} {o : Option α}, o.isSome = false → o = none := fun h => by simpa using h
  cases h with
  | go a h1 _ => exact ⟨⟨entGo ⟨a, line.id⟩, entsAll_perm 1 (by omega) (by simp [segs, none_of h1]), rfl, rfl⟩, by simp⟩
  | toolchain a h1 _ =>
    exact ⟨⟨entTc ⟨a, line.id⟩, entsAll_perm 2 (by omega) (by simp [segs, none_of h1]), rfl, rfl⟩, by simp⟩
  | module a s a' h1 hs =>
    obtain rfl := ModfileFmtQuote.parseString_tok hs
    exact ⟨⟨entM { mod := { path := s }, deprecated := parseDeprecation blk line.comments, lineId := line.id }, entsAll_perm 0 (by omega) (by simp [segs, none_of h1]), rfl, rfl⟩, by simp⟩
  | godebug args k v hkv =>
    obtain rfl := addGodebug_spec _ _ _ hkv
    exact ⟨⟨entG ⟨k, v, line.id⟩, entsAll_perm 3 (by omega) (by simp [segs]), rfl, rfl⟩, by simp⟩
  | require a0 a1 s a0' a1' v pm hs hv _ _ =>
    obtain rfl := ModfileFmtQuote.parseString_tok hs
    obtain rfl := ModfileFmtFix.parseVersion_ok_tok hv
    exact ⟨⟨entRq ⟨⟨s, a1'⟩, isIndirect line, line.id⟩, entsAll_perm 4 (by omega) (by simp [segs]), rfl, ⟨rfl, (isIndirect_eq line).symm⟩⟩, by simp⟩
  | exclude a0 a1 s a0' a1' v pm hs hv _ _ =>
    obtain rfl := ModfileFmtQuote.parseString_tok hs
    obtain rfl := ModfileFmtFix.parseVersion_ok_tok hv
    exact ⟨⟨entX ⟨⟨s, a1'⟩, line.id⟩, entsAll_perm 5 (by omega) (by simp [segs]), rfl, rfl⟩, by simp⟩
  | replace args args' r hr =>
    obtain ⟨e1, e2⟩ := parseReplace_spec hne _ _ _ _ hr
    exact ⟨⟨entRp r, entsAll_perm 6 (by omega) (by simp [segs]), e2, e1⟩, fun h0 => by rw [h0] at e1; simp [replaceToks] at e1⟩
  | retract args args' vi hp =>
    rcases pvi_spec _ _ _ _ _ hp rfl with ⟨e1, e2⟩ | e1
    · exact ⟨⟨entRt ⟨vi, parseDirectiveComment blk line.comments, line.id⟩, entsAll_perm 7 (by omega) (by simp [segs]), rfl,
        Or.inl ⟨vi.low, by rw [e1], Or.inl rfl, e2⟩⟩, by simp [e1]⟩
    · exact ⟨⟨entRt ⟨vi, parseDirectiveComment blk line.comments, line.id⟩, entsAll_perm 7 (by omega) (by simp [segs]), rfl,
        Or.inr ⟨vi.low, vi.high, by rw [e1], Or.inl rfl, Or.inl rfl⟩⟩, by simp [e1]⟩
  | tool a s a' hs =>
    obtain rfl := ModfileFmtQuote.parseString_tok hs
    exact ⟨⟨entT ⟨s, line.id⟩, entsAll_perm 8 (by omega) (by simp [segs]), rfl, ⟨_, rfl, Or.inr rfl⟩⟩, by simp⟩

end ModVerif.Modfile.Edit
