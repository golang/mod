/-
  Tie proofs, sumdb/client.go (merge unit): the `for` loop of `Client.mergeLatest` and `Client.mergeLatest` of the regenerated
  client against the hand model.

  FUEL AGAINST RETRIES.  The Go loop is unbounded (a hostile `WriteConfig` can answer `ErrWriteConflict` forever).  The model
  runs it on `P.retries` (`.error .fuel` = still running after `retries` rounds), the generated code on its fuel
  (`Err.fuel`).  The relation proved here: whenever the model's loop ENDS within `f` rounds (`MergeLoopOk P E f w`, in
  particular its result is not `.fuel`), the generated loop with any fuel `≥ loopFuel S f w` — one unit per round the model
  actually goes around, above what each round's `mergeLatestMem` needs — ends with the same result in the corresponding
  world.  Nothing is claimed when the model gives up (`.fuel`): the generated loop with more fuel simply goes on.
-/
import ModVerif.Proofs.TieFnClientMergeMem
namespace ModVerif.TieFnClientMerge
open ModVerif ModVerif.GoRt ModVerif.Client ModVerif.Generated.SumdbClient ModVerif.TieFnClientRep

section
variable {σ H : Type} [DecidableEq H] [Inhabited H] {P : Params H} {E : Env σ}

omit [DecidableEq H] [Inhabited H] in
theorem withS_frameI (cw : GW σ H) (w' : World σ H) : FrameI cw (withS cw w') := FrameG.toI (withS_frame cw w')

omit [DecidableEq H] [Inhabited H] in
theorem frameJ_of_c {w w' : World σ H} (h : w'.c = w.c) : FrameJ w w' := FrameM.toJ (frameM_of_c h)

/-- the end of a round: the answer of `WriteConfig` -/
def writeTail (P : Params H) (E : Env σ) (f : Nat) (w1 : World σ H) (msg : Bytes) : Except Client.Err Unit × World σ H :=
  match (writeBack E w1 msg).1 with
  | .conflict => mergeLatestLoop P E f (writeBack E w1 msg).2
  | .ok => (.ok (), (writeBack E w1 msg).2)
  | .error => (.error .config, (writeBack E w1 msg).2)

/-- a round after `ReadConfig` answered `msg` -/
def roundTail (P : Params H) (E : Env σ) (f : Nat) (w0 : World σ H) (msg : Bytes) : Except Client.Err Unit × World σ H :=
  match (mergeLatestMem P E w0 msg).1 with
  | .error e => (.error e, (mergeLatestMem P E w0 msg).2)
  | .ok when =>
    if when != .past then (.ok (), (mergeLatestMem P E w0 msg).2)
    else writeTail P E f (mergeLatestMem P E w0 msg).2 msg

omit [Inhabited H] in
theorem mergeLatestLoop_succ (f : Nat) (w : World σ H) :
    mergeLatestLoop P E (f + 1) w =
      match cfgMsg E w with
      | none => (.error .config, cfgWorld E w)
      | some msg => roundTail P E f (cfgWorld E w) msg := by
  rw [mergeLatestLoop]
  unfold cfgMsg cfgWorld roundTail writeTail writeBack
  repeat' split
  all_goals simp_all

/-- what the induction provides for the next round: the loop from any represented world, `f` rounds, fuel `g` -/
def LoopSpec (S : TileSpecs P E) (f g : Nat) : Prop :=
  ∀ (w : World σ H) (cw : GW σ H), RepRun P E w cw → MergeLoopOk P E f w → loopFuel S f w ≤ g →
    Ties (RepRun P E) FrameI FrameJ RepUnit Ctl.ret w cw (Client_mergeLatest_loop1 (envOf P E) g cw) (mergeLatestLoop P E f w)

theorem write_step (S : TileSpecs P E) (f g : Nat) (ih : LoopSpec S f g) (w1 : World σ H) (cw1 : GW σ H)
    (rr1 : RepRun P E w1 cw1) (msg : Bytes)
    (hok : (writeBack E w1 msg).1 = .conflict → MergeLoopOk P E f (writeBack E w1 msg).2)
    (hf : writeFuel (E := E) (loopFuel S f) w1 msg ≤ g) :
    Ties (RepRun P E) FrameI FrameJ RepUnit Ctl.ret w1 cw1
      (match (envOf P E).writeConfig (cw1.name ++ ([47, 108, 97, 116, 101, 115, 116] : Bytes)) msg cw1.latestMsg cw1 with
        | (wr6, world) =>
          if (!decide (wr6 = (some "ErrWriteConflict"))) then (pure (Ctl.ret (wr6, world)) : M (Ctl (Option String × GW σ H) (GW σ H)))
          else Client_mergeLatest_loop1 (envOf P E) g world)
      (writeTail P E f w1 msg) := by
  rw [rr1.name, latestFile_eq, rr1.latestMsg, writeConfig_eq rr1.s]
  have rr2 : RepRun P E (writeBack E w1 msg).2 (withS cw1 (writeBack E w1 msg).2) := rr1.withS rfl
  refine Ties.after framingI (withS_frameI _ (writeBack E w1 msg).2) (frameJ_of_c (w' := (writeBack E w1 msg).2) rfl) ?_
  show Ties _ _ _ _ _ _ _ (if (!decide (writeResErr (writeBack E w1 msg).1 = (some "ErrWriteConflict"))) then
      (pure (Ctl.ret (writeResErr (writeBack E w1 msg).1, withS cw1 (writeBack E w1 msg).2)) : M (Ctl (Option String × GW σ H) (GW σ H)))
      else Client_mergeLatest_loop1 (envOf P E) g (withS cw1 (writeBack E w1 msg).2)) _
  unfold writeTail
  unfold writeFuel at hf
  cases hwr : (writeBack E w1 msg).1 with
  | ok => rw [if_pos (by decide)]; exact Ties.ret framingI rr2 rfl
  | error => rw [if_pos (by decide)]; exact Ties.ret framingI rr2 ⟨_, rfl, errAbs_config⟩
  | conflict =>
    rw [if_neg (by decide)]
    rw [hwr] at hf
    exact ih _ _ rr2 (hok hwr) hf

theorem round_step (S : TileSpecs P E) (f g : Nat) (ih : LoopSpec S f g) (w0 : World σ H) (cw0 : GW σ H)
    (rr0 : RepRun P E w0 cw0) (msg : Bytes) (hmem : MergeMemOk P E w0 msg)
    (hrest : (mergeLatestMem P E w0 msg).1 = .ok .past → (writeBack E (mergeLatestMem P E w0 msg).2 msg).1 = .conflict →
      MergeLoopOk P E f (writeBack E (mergeLatestMem P E w0 msg).2 msg).2)
    (hf : roundFuel S (loopFuel S f) w0 msg ≤ g) :
    Ties (RepRun P E) FrameI FrameJ RepUnit Ctl.ret w0 cw0
      ((do
        let t4 ← (Client_mergeLatestMem (envOf P E) g msg cw0)
        let (wr5, world) := t4
        let (when_1, err_1) := wr5
        if (!(err_1).isNone) then (pure (Ctl.ret (err_1, world))) else (if (!decide (when_1 = (1 : Int))) then (pure (Ctl.ret ((none : Option String), world))) else (do
          let latestMsg := ((world).latestMsg)
          let (wr6, world) := (envOf P E).writeConfig (((world).name) ++ ([47, 108, 97, 116, 101, 115, 116] : Bytes)) msg latestMsg world
          let err_2 := wr6
          if (!decide (err_2 = (some "ErrWriteConflict"))) then (pure (Ctl.ret (err_2, world))) else (Client_mergeLatest_loop1 (envOf P E) g world)))) :
        M (Ctl (Option String × GW σ H) (GW σ H)))
      (roundTail P E f w0 msg) := by
  refine Ties.bind framingI (mergeLatestMem_tie S w0 cw0 msg g rr0 hmem (Nat.le_trans (Nat.le_max_left _ _) hf)) ?_
  rintro ⟨i, err1⟩ cw1 rr1 rs1
  unfold roundTail
  cases hmm : (mergeLatestMem P E w0 msg).1 with
  | error e =>
    rw [hmm] at rs1
    simp only [RepErr_not_isNone rs1, if_true]
    exact Ties.ret framingI rr1 rs1
  | ok when =>
    rw [hmm] at rs1
    obtain ⟨rfl, rfl⟩ := rs1
    simp only [Option.isNone_none, Bool.not_true, Bool.false_eq_true, if_false]
    cases when with
    | past =>
      rw [if_neg (show ¬ (!decide (whenCode When.past = 1)) = true by decide),
        if_neg (show ¬ (When.past != When.past) = true by decide)]
      refine write_step S f g ih _ cw1 rr1 msg (hrest hmm) ?_
      unfold roundFuel at hf
      rw [hmm] at hf
      exact Nat.le_trans (Nat.le_max_right _ _) hf
    | now => rw [if_pos (by decide), if_pos (by decide)]; exact Ties.ret framingI rr1 rfl
    | future => rw [if_pos (by decide), if_pos (by decide)]; exact Ties.ret framingI rr1 rfl

theorem mergeLatest_loop1_tie (S : TileSpecs P E) : ∀ (f g : Nat), LoopSpec S f g := by
  intro f
  induction f with
  | zero => intro g w cw _ hok _; exact absurd hok id
  | succ f ih =>
    intro fuel w cw hr hok hf
    rw [mergeLatestLoop_succ]
    rw [loopFuel] at hf
    have hpos : 1 ≤ fuel := by
      cases hc : cfgMsg E w with
      | none => rw [hc] at hf; exact hf
      | some m => rw [hc] at hf; simp only at hf; omega
    obtain ⟨g, rfl⟩ : ∃ g, fuel = g + 1 := ⟨fuel - 1, by omega⟩
    rw [Client_mergeLatest_loop1]
    rw [hr.name, latestFile_eq, readConfig_eq hr.s]
    have rr0 : RepRun P E (cfgWorld E w) (withS cw (cfgWorld E w)) := hr.withS rfl
    refine Ties.after framingI (withS_frameI _ (cfgWorld E w)) (frameJ_of_c (w' := cfgWorld E w) rfl) ?_
    cases hrc : cfgMsg E w with
    | none =>
      have hrc' : (readConfig E w (latestFile w.c.name)).1 = none := hrc
      rw [hrc']
      simp only [readOut_none, Option.isNone_some, Bool.not_false, if_true]
      exact Ties.ret framingI rr0 ⟨_, rfl, errAbs_config⟩
    | some msg =>
      have hrc' : (readConfig E w (latestFile w.c.name)).1 = some msg := hrc
      rw [hrc']
      obtain ⟨hmem, hrest⟩ := hok msg hrc
      rw [hrc] at hf
      exact round_step S f g (ih g) (cfgWorld E w) (withS cw (cfgWorld E w)) rr0 msg hmem hrest
        (by simp only at hf; omega)

theorem mergeLatest_tie (S : TileSpecs P E) (w : World σ H) (cw : GW σ H) (msg : Bytes) (fuel : Nat)
    (hr : RepRun P E w cw) (hok : MergeOk P E w msg) (hf : mergeFuel S w msg ≤ fuel) :
    Ties (RepRun P E) FrameI FrameJ RepUnit id w cw (Client_mergeLatest (envOf P E) fuel msg cw) (mergeLatest P E w msg) := by
  obtain ⟨hmem, hloop⟩ := hok
  have hm : mergeLatest P E w msg =
      match (mergeLatestMem P E w msg).1 with
      | .error e => (.error e, (mergeLatestMem P E w msg).2)
      | .ok when => if when != .future then (.ok (), (mergeLatestMem P E w msg).2)
          else mergeLatestLoop P E P.retries (mergeLatestMem P E w msg).2 := by
    unfold mergeLatest
    simp only []
    cases (mergeLatestMem P E w msg).1 <;> rfl
  rw [hm]
  refine Ties.bind framingI (mergeLatestMem_tie S w cw msg fuel hr hmem (Nat.le_trans (Nat.le_max_left _ _) hf)) ?_
  rintro ⟨i, err1⟩ cw1 rr1 rs1
  cases hmm : (mergeLatestMem P E w msg).1 with
  | error e =>
    rw [hmm] at rs1
    simp only [RepErr_not_isNone rs1, if_true]
    exact Ties.ret framingI rr1 rs1
  | ok when =>
    rw [hmm] at rs1
    obtain ⟨rfl, rfl⟩ := rs1
    simp only [Option.isNone_none, Bool.not_true, Bool.false_eq_true, if_false]
    cases when with
    | future =>
      rw [if_neg (by decide), if_neg (by decide)]
      exact Ties.ofCtl (fun _ => rfl) (mergeLatest_loop1_tie S P.retries fuel _ cw1 rr1 (hloop hmm)
        (Nat.le_trans (Nat.le_max_right _ _) hf))
    | past => rw [if_pos (by decide), if_pos (by decide)]; exact Ties.ret framingI rr1 rfl
    | now => rw [if_pos (by decide), if_pos (by decide)]; exact Ties.ret framingI rr1 rfl

end
end ModVerif.TieFnClientMerge
