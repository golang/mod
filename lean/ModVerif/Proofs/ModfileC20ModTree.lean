/-
  C20 `modulePath_agrees`, tree level: the top-level lines of the tree `parse` returns have the source
  layout `TopLay` (comment assignment does not touch start / end / tokens), and the module directive of a
  strictly accepted file comes from one `module <token>` line.
-/
import ModVerif.Proofs.ModfileC20Top
import ModVerif.Proofs.ModfileC20Ids
import ModVerif.Proofs.ModfileC20Lax
namespace ModVerif.Proofs.ModfileC20
open ModVerif ModVerif.Modfile

theorem parse_topLay {name data : Bytes} {t : FileSyntax} (h : parse name data = .ok t) :
    ∀ l, Expr.line l ∈ t.stmts → TopLay data l := by
  unfold parse at h
  cases hp : parseFile data with
  | error e => simp [hp, bind, Except.bind] at h
  | ok v =>
    simp only [hp, bind, Except.bind, Except.ok.injEq] at h
    subst h
    exact fun l hl => assignComments_all (StmtLay data) (fun s => by cases s <;> exact Iff.rfl) _ _
      (parseFile_lay (show parseFile data = .ok (v.1, v.2) by rw [hp])) (.line l) hl


/-! ### where the module directive comes from -/

theorem FileStep.module_cases {line : Line} {verb : Bytes} {f f' : File} (h : FileStep line verb f f') :
    f'.module = f.module ∨ (verb = B "module" ∧ ∃ m, f'.module = some m ∧ m.lineId = line.id) := by
  cases h
  case module m hv hid => exact Or.inr ⟨hv, m, rfl, hid⟩
  all_goals exact Or.inl rfl

theorem add_module_cases (st : AddState) (block : Option Comments) (line : Line) (verb : Bytes) (args : List Bytes)
    (fix : Option Fixer) (strict : Bool) :
    (File.add st block line verb args fix strict).1.file.module = st.file.module ∨
      (verb = B "module" ∧ ∃ m, (File.add st block line verb args fix strict).1.file.module = some m ∧
        m.lineId = line.id) :=
  (add_shape st block line verb args fix strict).1.module_cases

theorem addModule_modset (st : AddState) (block : Option Comments) (line : Line) (args : List Bytes)
    (hok : (addModule st block line args).1.errsRev = st.errsRev) :
    ∃ a s a' m, args = [a] ∧ parseString a = some (s, a') ∧ (addModule st block line args).1.file.module = some m ∧
      m.mod.path = s ∧ m.lineId = line.id := by
  unfold addModule at hok ⊢
  simp only at hok ⊢
  split
  · rename_i hsome
    simp only [hsome, if_true] at hok
    exact absurd hok (err_ne _ _ _)
  · rename_i hsome
    simp only [hsome] at hok
    match args, hok with
    | [a], hok =>
      simp only at hok ⊢
      cases hps : parseString a with
      | none =>
        simp only [hps] at hok
        exact absurd hok (by simp [AddState.err])
      | some v =>
        simp only
        exact ⟨a, v.1, v.2, _, rfl, hps, rfl, rfl, rfl⟩
    | [], hok => exact absurd hok (by simp [AddState.err])
    | _ :: _ :: _, hok => exact absurd hok (by simp [AddState.err])

theorem add_modset (st : AddState) (block : Option Comments) (line : Line) (verb : Bytes) (args : List Bytes)
    (fix : Option Fixer) (hok : (File.add st block line verb args fix true).1.errsRev = st.errsRev) :
    (File.add st block line verb args fix true).1.file.module = st.file.module ∨
    (verb = B "module" ∧ ∃ a s a' m, args = [a] ∧ parseString a = some (s, a') ∧
      (File.add st block line verb args fix true).1.file.module = some m ∧ m.mod.path = s ∧ m.lineId = line.id) := by
  rcases add_module_cases st block line verb args fix true with h | ⟨rfl, _⟩
  · exact Or.inl h
  · rw [add_module_eq] at hok ⊢
    exact Or.inr ⟨rfl, addModule_modset st block line args hok⟩


open ModVerif.Proofs.ModfileWalk in
theorem addStmts_module (fix : Option Fixer) (xs : List Expr) (st : AddState)
    (hok : (addStmts fix true st xs).1.errsRev = st.errsRev) (m : Module)
    (hm : (addStmts fix true st xs).1.file.module = some m) :
    st.file.module = some m ∨ ∃ blk l pre tok tok', Call.add blk l (B "module") [tok] pre ∈ calls (verbIn · blockVerbs) xs ∧
      l.id = m.lineId ∧ parseString tok = some (m.mod.path, tok') := by
  rw [addStmts_fst] at hok hm
  let J : AddState → AddState → Prop := fun a b => ∀ m, b.file.module = some m → a.file.module = some m ∨
    ∃ blk l pre tok tok', Call.add blk l (B "module") [tok] pre ∈ calls (verbIn · blockVerbs) xs ∧
      l.id = m.lineId ∧ parseString tok = some (m.mod.path, tok')
  -- the guard form of `foldl_trans`: a run that ends with the error count it started with never raised it
  have key := foldl_trans
    (T := fun a b => a.errsRev.length ≤ b.errsRev.length ∧ (b.errsRev.length = a.errsRev.length → J a b))
    (fun s => ⟨Nat.le_refl _, fun _ m h => .inl h⟩)
    (fun {a b c} h1 h2 => ⟨Nat.le_trans h1.1 h2.1, fun h m hc => by
      rcases h2.2 (by omega) m hc with hb | hc'
      · exact h1.2 (by omega) m hb
      · exact .inr hc'⟩)
    (addCall fix true) (calls (verbIn · blockVerbs) xs) st ?_
  · exact key.2 (congrArg List.length hok) m hm
  · intro c hc s
    refine ⟨(addCall_errs fix true s c).length_le, fun hn m' hm' => ?_⟩
    have herr := (addCall_errs fix true s c).eq_of_length hn
    cases c with
    | add blk l verb args pre =>
      rcases add_modset s blk l verb args fix herr with h2 | ⟨rfl, a0, p, a', m2, rfl, hps, hm2, hpath, hid⟩
      · exact .inl (h2 ▸ hm')
      · cases Option.some.inj (hm2.symm.trans hm')
        exact .inr ⟨_, _, _, _, a', hc, hid.symm, hpath ▸ hps⟩
    | bad b => exact absurd herr (err_ne _ _ _)
    | skip l => exact .inl hm'

theorem top_block_ids_distinct : ∀ {xs : List Expr}, NodupIds xs → ∀ {l0 : Line} {b : LineBlock} {l : Line},
    Expr.line l0 ∈ xs → Expr.lineBlock b ∈ xs → l ∈ b.lines → l0.id ≠ l.id := by
  intro xs
  induction xs with
  | nil => intro _ l0 b l h; cases h
  | cons x rest ih =>
    intro hn l0 b l h0 hb hl hid
    unfold NodupIds at hn
    simp only [List.mem_cons] at h0 hb
    rcases h0 with rfl | h0 <;> rcases hb with hb | hb
    · cases hb
    · simp only [linesOf_line, List.map_cons, List.nodup_cons] at hn
      apply hn.1
      rw [hid]
      exact List.mem_map_of_mem (f := (·.id)) (block_mem_linesOf hb hl)
    · subst hb
      simp only [linesOf_block, List.map_append] at hn
      have hdis := (List.nodup_append.mp hn).2.2
      exact hdis l.id (List.mem_map_of_mem (f := (·.id)) hl) l0.id
        (List.mem_map_of_mem (f := (·.id)) (line_mem_linesOf h0)) hid.symm
    · have hn' : NodupIds rest := by
        unfold NodupIds
        cases x with
        | line y => simp only [linesOf_line, List.map_cons, List.nodup_cons] at hn; exact hn.2
        | lineBlock y => simp only [linesOf_block, List.map_append] at hn; exact (List.nodup_append.mp hn).2.1
        | commentBlock y => simpa using hn
        | lparen y => simpa using hn
        | rparen y => simpa using hn
      exact ih hn' h0 hb hl hid

theorem module_line_of_strict {name x : Bytes} {f : File} {m : Module}
    (h : parseToFile name x none true = .ok f) (hm : f.module = some m)
    (htop : ∃ l', Expr.line l' ∈ f.syn.stmts ∧ l'.id = m.lineId) :
    ∃ fs l tok tok', parse name x = .ok fs ∧ Expr.line l ∈ fs.stmts ∧ l.id = m.lineId ∧
      l.token = [B "module", tok] ∧ parseString tok = some (m.mod.path, tok') ∧ TopLay x l ∧ LineOK x l ∧
      (∀ l', Expr.line l' ∈ f.syn.stmts → l'.id = m.lineId → l'.start = l.start) := by
  obtain ⟨fs, S, out, hparse, hS, hS0, rfl⟩ := ModfileParseTo.parseToFile_ok_iff.1 h
  have hfst : (addStmts none true { file := { syn := fs } } fs.stmts).1 = S := by rw [hS]
  have hsnd : (addStmts none true { file := { syn := fs } } fs.stmts).2 = out := by rw [hS]
  have hpos := parse_pos_consistent name x
  rw [hparse] at hpos
  -- a top-level line of the rewritten tree with the identity of the directive is the line `l0` of the parse tree
  have htopline : ∀ l', Expr.line l' ∈ out → ∃ l0, Expr.line l0 ∈ fs.stmts ∧ l0.id = l'.id ∧ l0.start = l'.start := by
    intro l' hl'
    rw [← hsnd, Edit.addStmts_eq_walk] at hl'
    obtain ⟨l0, hl0, he⟩ := ModfileWalk.walkStmts_line_mem hl'
    exact ⟨l0, hl0, (congrArg Line.id he :), (congrArg Line.start he :)⟩
  rcases addStmts_module none fs.stmts { file := { syn := fs } } (hfst ▸ hS0) m (hfst ▸ hm) with h0 |
    ⟨blk, l, pre, tok, tok', hc, hid, hps⟩
  · cases h0
  · rcases ModfileWalk.mem_calls hc with ⟨l1, _, _, hl, htok, he⟩ | ⟨b, _, l1, hb, _, _, hl, he⟩ | ⟨_, _, _, he⟩ |
      ⟨_, _, _, he⟩
    · obtain ⟨rfl, rfl, rfl, rfl, rfl⟩ := ModfileWalk.Call.add.inj he
      refine ⟨fs, l, tok, tok', hparse, hl, hid, htok, hps, parse_topLay hparse l hl, hpos.stmts _ hl, ?_⟩
      intro l' hl' hid'
      obtain ⟨l0, hl0, h1, h2⟩ := htopline l' hl'
      have : l0 = l := inj_of_nodup_ids (parse_ids_nodup hparse) (line_mem_linesOf hl0) (line_mem_linesOf hl)
        (by rw [h1, hid', hid])
      rw [← h2, this]
    · obtain ⟨-, rfl, -⟩ := ModfileWalk.Call.add.inj he
      exfalso
      obtain ⟨l', hl', hid'⟩ := htop
      obtain ⟨l0, hl0, h1, _⟩ := htopline l' hl'
      exact top_block_ids_distinct (parse_ids_nodup hparse) hl0 hb hl (by rw [h1, hid', hid])
    · cases he
    · cases he

end ModVerif.Proofs.ModfileC20
