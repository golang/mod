/-
  Helper lemmas for Tie/FnLex.lean: the hoisted loops of `input.readToken` against the model's loop functions.

    loop2 (`for len(in.remaining) > 0 && in.readRune() != '\n' {}`)   = consumeLine
    loop3 (the body of a quoted string)                               = readString
    loop4 (`for isIdent(in.peekRune()) { … }`)                        = readIdent
    loop1 (space skipping, `//` comment recognition, `/*` rejection)  = skipSpaces, then readComment / blockComment

  Every lemma is for an arbitrary model state `i` with `WF i`, for all fuel of the generated loop and of the model loop
  above `len(remaining)` plus a small constant; a model error corresponds to `Err.panic` (`in.Error` panics).
-/
import ModVerif.Proofs.TieFnLexA
namespace ModVerif.TieFnLex
open ModVerif ModVerif.GoRt ModVerif.GoRtStr ModVerif.GoRtModfile ModVerif.GoRtLex ModVerif.Modfile
open ModVerif.Proofs.ModfileLex (eof_false_iff)
open ModVerif.Drv.LexOps.G (isPrintI isSpaceI)
open ModVerif.Drv.LexOps.M (kindCode)

@[simp] theorem embK_remaining (k : Int) (i : Input) : (embK k i).remaining = i.remaining := rfl

theorem eof_true_iff (i : Input) : i.eof = true ↔ i.remaining = [] := by
  unfold Input.eof; cases i.remaining <;> simp

theorem natCast_eq_natCast (a b : Nat) : decide ((a : Int) = (b : Int)) = (a == b) := by
  rw [Bool.eq_iff_iff]; simp only [decide_eq_true_eq, beq_iff_eq]; omega

theorem ebind_ok {ε α β : Type} (a : α) (f : α → Except ε β) : (Except.ok a >>= f) = f a := rfl
theorem ebind_error {ε α β : Type} (e : ε) (f : α → Except ε β) : ((Except.error e : Except ε α) >>= f) = .error e := rfl

/-! ### loop2 = consumeLine -/

theorem loop2_eq (k : Int) : ∀ (mf fuel : Nat) (i : Input), WF i → i.remaining.length < mf → i.remaining.length < fuel →
    ∃ i', consumeLine mf i = .ok i' ∧
      Generated.Lex.input_readToken_loop2 isPrintI isSpaceI fuel (embK k i) = .ok (embK k i') ∧
      WF i' ∧ i'.remaining.length ≤ i.remaining.length ∧ i'.token = i.token := by
  intro mf
  induction mf with
  | zero => intro fuel i _ h; omega
  | succ m ih =>
    intro fuel i hw hm hf
    cases fuel with
    | zero => omega
    | succ f =>
      unfold consumeLine Generated.Lex.input_readToken_loop2
      by_cases he : i.remaining = []
      · have h1 : i.eof = true := (eof_true_iff i).2 he
        refine ⟨i, by simp [h1], ?_, hw, Nat.le_refl _, rfl⟩
        simp [he, len_eq]
      · have h1 : i.eof = false := (eof_false_iff i).2 he
        obtain ⟨r, i1, hM, hG, hw1, hlt, htok, _⟩ := readRune_eq k i he hw
        have hpos : decide (len (embK k i).remaining > 0) = true := by
          have : 0 < i.remaining.length := List.length_pos_iff.2 he
          simp [len_eq]; omega
        simp only [h1, Bool.false_eq_true, if_false, hM, hpos, if_true, hG, bind_ok, pure_eq_ok,
          show (10 : Int) = ((10 : Nat) : Int) from rfl, natCast_eq_natCast]
        cases h10 : (r == 10)
        · obtain ⟨i2, h2, hG2, hw2, hle, htok2⟩ := ih f i1 hw1 (by omega) (by omega)
          have hr : r ≠ 10 := by simpa using h10
          refine ⟨i2, ?_, ?_, hw2, by omega, by rw [htok2, htok]⟩
          · simpa [bind, Except.bind, hr] using h2
          · simpa using hG2
        · have hr : r = 10 := by simpa using h10
          exact ⟨i1, by simp [bind, Except.bind, hr], by simp, hw1, by omega, htok⟩

/-! ### image of a model result on the generated side: `in.Error` panics -/

def simI (k : Int) : Except SynErr Input → M Generated.Lex.input
  | .ok i => .ok (embK k i)
  | .error _ => .error .panic

@[simp] theorem simI_ok (k : Int) (i : Input) : simI k (.ok i) = .ok (embK k i) := rfl
@[simp] theorem simI_error (k : Int) (e : SynErr) : simI k (.error e) = .error .panic := rfl

/-! ### loop3 = readString -/

theorem loop3_eq (k : Int) (q : Nat) : ∀ (mf fuel : Nat) (i : Input), WF i → i.remaining.length < mf →
    i.remaining.length < fuel →
    Generated.Lex.input_readToken_loop3 isPrintI isSpaceI (q : Int) fuel (embK k i) = simI k (readString q mf i) ∧
      ∀ i', readString q mf i = .ok i' → WF i' ∧ i'.token = i.token := by
  intro mf
  induction mf with
  | zero => intro fuel i _ h; omega
  | succ m ih =>
    intro fuel i hw hm hf
    cases fuel with
    | zero => omega
    | succ f =>
      unfold readString Generated.Lex.input_readToken_loop3
      simp only [eof_eq, peekRune_eq, show (10 : Int) = ((10 : Nat) : Int) from rfl,
        show (92 : Int) = ((92 : Nat) : Int) from rfl, show (96 : Int) = ((96 : Nat) : Int) from rfl, natCast_eq_natCast]
      by_cases he : i.remaining = []
      · have h1 : i.eof = true := (eof_true_iff i).2 he
        simp [h1]
      · have h1 : i.eof = false := (eof_false_iff i).2 he
        simp only [h1, Bool.false_eq_true, if_false]
        cases hnl : (i.peekRune == 10)
        · obtain ⟨r, i1, hM, hG, hw1, hlt, htok, _⟩ := readRune_eq k i he hw
          simp only [Bool.false_eq_true, if_false, hM, hG, ebind_ok, bne, 
            natCast_eq_natCast]
          cases hq : (r == q)
          · simp only [Bool.false_eq_true, if_false]
            cases hb : (r == 92 && !(q == 96))
            · simp only [Bool.false_eq_true, if_false]
              obtain ⟨hG2, hP2⟩ := ih f i1 hw1 (by omega) (by omega)
              refine ⟨hG2, ?_⟩
              intro i' h'
              obtain ⟨a, b⟩ := hP2 i' h'
              exact ⟨a, by rw [b, htok]⟩
            · simp only [if_true, eof_eq]
              by_cases he1 : i1.remaining = []
              · have h2 : i1.eof = true := (eof_true_iff i1).2 he1
                simp [h2]
              · have h2 : i1.eof = false := (eof_false_iff i1).2 he1
                obtain ⟨r2, i2, hM2, hG2, hw2, hlt2, htok2, _⟩ := readRune_eq k i1 he1 hw1
                simp only [h2, Bool.false_eq_true, if_false, hM2, hG2, ebind_ok]
                obtain ⟨hG3, hP3⟩ := ih f i2 hw2 (by omega) (by omega)
                refine ⟨hG3, ?_⟩
                intro i' h'
                obtain ⟨a, b⟩ := hP3 i' h'
                exact ⟨a, by rw [b, htok2, htok]⟩
          · simp only [if_true, pure_eq_ok, simI_ok, true_and]
            intro i' h'
            cases h'
            exact ⟨hw1, htok⟩
        · simp

/-! ### loop4 = readIdent -/

theorem isIdent_peekRune (k : Int) (i : Input) :
    Generated.Lex.isIdent isPrintI isSpaceI (Generated.Lex.input_peekRune (embK k i)) = isIdent i.peekRune := by
  rw [peekRune_eq]
  exact isIdent_eq _ (by have := peekRune_le i; omega)

theorem isIdent_ne_nil {i : Input} (h : isIdent i.peekRune = true) : i.remaining ≠ [] := by
  intro he
  rw [Proofs.ModfileLex.peekRune_nil he, Proofs.ModfileLex.isIdent_zero] at h
  cases h

theorem loop4_eq (k : Int) : ∀ (mf fuel : Nat) (i : Input), WF i → i.remaining.length < mf →
    i.remaining.length + 3 ≤ fuel →
    Generated.Lex.input_readToken_loop4 isPrintI isSpaceI fuel (embK k i) = simI k (readIdent mf i) ∧
      ∀ i', readIdent mf i = .ok i' → WF i' ∧ i'.token = i.token := by
  intro mf
  induction mf with
  | zero => intro fuel i _ h; omega
  | succ m ih =>
    intro fuel i hw hm hf
    cases fuel with
    | zero => omega
    | succ f =>
      unfold readIdent Generated.Lex.input_readToken_loop4
      simp only [isIdent_peekRune]
      cases hid : isIdent i.peekRune
      · simp only [Bool.false_eq_true, if_false, pure_eq_ok, simI_ok, true_and]
        intro i' h'; cases h'; exact ⟨hw, rfl⟩
      · have he := isIdent_ne_nil hid
        have hpos : 0 < i.remaining.length := List.length_pos_iff.2 he
        have hp1 := peekPrefix_eq k i [47, 47] f (by show 2 + 1 ≤ f; omega)
        have hp2 := peekPrefix_eq k i [47, 42] f (by show 2 + 1 ≤ f; omega)
        simp only [if_true, hp1, hp2, bind_ok]
        cases hs : i.peekPrefix [47, 47]
        · simp only [Bool.false_eq_true, if_false]
          cases hb : i.peekPrefix [47, 42]
          · obtain ⟨r, i1, hM, hG, hw1, hlt, htok, _⟩ := readRune_eq k i he hw
            simp only [Bool.false_eq_true, if_false, hM, hG, ebind_ok]
            obtain ⟨hG2, hP2⟩ := ih f i1 hw1 (by omega) (by omega)
            refine ⟨hG2, ?_⟩
            intro i' h'
            obtain ⟨a, b⟩ := hP2 i' h'
            exact ⟨a, by rw [b, htok]⟩
          · simp
        · simp only [if_true, pure_eq_ok, simI_ok, true_and]
          intro i' h'; cases h'; exact ⟨hw, rfl⟩

/-! ### the `//` branch of loop 1 = readComment -/

/-- result of loop 1 on the model side: `ret j` = a comment token was read (readToken returns), `next j` = spaces skipped -/
def simC (k : Int) (ts : Bytes) :
    Except SynErr (Ctl Input Input) → M (Ctl (Unit × Generated.Lex.input) Generated.Lex.input)
  | .ok (.ret j) => .ok (.ret ((), emb j))
  | .ok (.next j) => .ok (.next (embKT k ts j))
  | .error _ => .error .panic

def retM : Except SynErr Input → Except SynErr (Ctl Input Input)
  | .ok j => .ok (.ret j)
  | .error e => .error e

set_option linter.unusedVariables false in
open ModVerif.Generated.Lex in
/-- the `//` branch of loop 1 from `in.startToken()` on — a verbatim copy of that part of the generated
    `input_readToken_loop1`; `loop1_unfold` below checks (by `rfl`) that it IS that part. -/
def commentG (isPrint : Int → Bool) (isSpace : Int → Bool) (fuel : Nat) (in_ : input) : M (Ctl (Unit × input) input) := do
  let (io4, in_) := (input_startToken in_)
  let t5 ← sliceTo (in_).complete ((in_).pos).Byte
  let i := (lastIndex t5 ([10] : Bytes))
  let t6 ← slice (in_).complete (i + (1 : Int)) ((in_).pos).Byte
  let suffix := (decide ((len (trimSpace t6)) > (0 : Int)))
  let t7 ← (input_readRune in_)
  let (io8, in_) := t7
  let t9 ← (input_readRune in_)
  let (io10, in_) := t9
  let in_ ← input_readToken_loop2 isPrint isSpace fuel in_
  if (!suffix) then (do
    let t14 ← (input_endToken in_ (-5 : Int))
    let (io15, in_) := t14
    pure (Ctl.ret ((), in_))) else (do
    let t16 ← (input_endToken in_ (-2 : Int))
    let (io17, in_) := t16
    let in_ := { (in_) with comments := ((in_).comments ++ [({ (default : Generated.Lex.Comment) with Start := ((in_).token).pos, Token := ((in_).token).text, Suffix := suffix } : Generated.Lex.Comment)]) }
    pure (Ctl.ret ((), in_)))

theorem linePrefix_eq (k : Int) (s : Input) (hw : WF s) :
    sliceTo (embK k s).complete (embK k s).pos.Byte = .ok s.consumedRev.reverse ∧
    slice (embK k s).complete (lastIndex s.consumedRev.reverse [10] + 1) (embK k s).pos.Byte =
      .ok ((s.consumedRev.takeWhile (· != 10)).reverse) := by
  have hb : (embK k s).pos.Byte = (s.consumedRev.reverse.length : Int) := by
    show ((s.pos.byte : Nat) : Int) = _
    rw [hw, List.length_reverse]
  constructor
  · rw [hb]
    show sliceTo (s.consumedRev.reverse ++ s.remaining) _ = _
    rw [sliceTo_natCast (by simp)]; simp
  · rw [hb]
    have := slice_after_lastIndex s.consumedRev.reverse s.remaining 10
    rw [List.reverse_reverse] at this
    exact this

theorem len_pos_eq (s : Bytes) : decide (len s > 0) = !s.isEmpty := by
  cases s with
  | nil => simp
  | cons a t => simp [len_eq]

theorem comment_eq (k : Int) (ts : Bytes) (i : Input) (hw : WF i) (fuel : Nat) (hf : i.remaining.length < fuel + 2) :
    commentG isPrintI isSpaceI fuel (embKT k ts i) = simC k ts (retM (readComment i)) ∧
      ∀ j, readComment i = .ok j → WF j := by
  unfold commentG readComment
  simp only [startToken_eqT]
  have hws : WF (startToken i) := startToken_wf hw
  have hrem : (startToken i).remaining.length < fuel + 2 := hf
  generalize startToken i = s at hws hrem
  obtain ⟨hl1, hl2⟩ := linePrefix_eq k s hws
  simp only [hl1, bind_ok, hl2, len_pos_eq]
  simp only [trimSpace]
  by_cases he : s.remaining = []
  · obtain ⟨e, hM⟩ := readRune_eof_model s he
    simp [readRune_eof k s he, hM, ebind_error, retM, simC]
  · obtain ⟨r1, i1, hM1, hG1, hw1, hlt1, htok1, _⟩ := readRune_eq k s he hws
    simp only [hM1, hG1, ebind_ok]
    by_cases he1 : i1.remaining = []
    · obtain ⟨e, hM⟩ := readRune_eof_model i1 he1
      simp [readRune_eof k i1 he1, hM, ebind_error, retM, simC]
    · obtain ⟨r2, i2, hM2, hG2, hw2, hlt2, htok2, _⟩ := readRune_eq k i1 he1 hw1
      simp only [hM2, hG2, ebind_ok]
      obtain ⟨i3, hM3, hG3, hw3, hle3, htok3⟩ := loop2_eq k (i2.remaining.length + 1) fuel i2 hw2 (by omega) (by omega)
      simp only [hM3, hG3, ebind_ok]
      rcases Bool.eq_false_or_eq_true (GoStrings.trimSpace (s.consumedRev.takeWhile (· != 10)).reverse).isEmpty
        with hsuf | hsuf
      · simp only [hsuf, Bool.not_true, Bool.not_false, if_true]
        have := endToken_eq k .comment i3
        rw [show kindCode .comment = (-5 : Int) from rfl] at this
        simp only [this, bind_ok, pure_eq_ok, retM, simC, true_and]
        intro j hj; cases hj; exact hw3
      · simp only [hsuf, Bool.not_false, Bool.not_true, Bool.false_eq_true, if_false]
        have := endToken_eq k .eolComment i3
        rw [show kindCode .eolComment = (-2 : Int) from rfl] at this
        simp only [this, bind_ok, pure_eq_ok, retM, simC]
        refine ⟨?_, ?_⟩
        · simp [emb, embK, embTokK, embComment, endToken]
        · intro j hj; cases hj; exact hw3

/-! ### loop1 = skipSpaces, then `//` comment / `/*` rejection -/

/-- after the spaces: the two prefix tests of the model's readToken -/
def tailM (i : Input) : Except SynErr (Ctl Input Input) :=
  if !i.eof && i.peekPrefix [47, 47] then retM (readComment i)
  else if !i.eof && i.peekPrefix [47, 42] then .error (i.error .blockComment)
  else .ok (.next i)

/-- the part of the model's readToken that loop 1 implements -/
def headM (mf : Nat) (i : Input) : Except SynErr (Ctl Input Input) :=
  match skipSpaces mf i with
  | .ok j => tailM j
  | .error e => .error e

set_option linter.unusedVariables false in
open ModVerif.Generated.Lex in
theorem loop1_unfold (isPrint : Int → Bool) (isSpace : Int → Bool) (fuel : Nat) (in_ : input) :
    input_readToken_loop1 isPrint isSpace (fuel + 1) in_ =
      (if (!(input_eof in_)) then (do
        let c := (input_peekRune in_)
        if (((decide (c = (32 : Int))) || (decide (c = (9 : Int)))) || (decide (c = (13 : Int)))) then (do
          let t1 ← (input_readRune in_)
          let (io2, in_) := t1
          input_readToken_loop1 isPrint isSpace fuel in_) else (do
          let t3 ← (input_peekPrefix fuel in_ ([47, 47] : Bytes))
          if t3 then commentG isPrint isSpace fuel in_ else (do
            let t18 ← (input_peekPrefix fuel in_ ([47, 42] : Bytes))
            if t18 then (throw Err.panic) else (pure (Ctl.next in_))))) else (pure (Ctl.next in_))) := rfl

theorem loop1_eq (k : Int) (ts : Bytes) : ∀ (mf fuel : Nat) (i : Input), WF i → i.remaining.length < mf →
    i.remaining.length + 4 ≤ fuel →
    Generated.Lex.input_readToken_loop1 isPrintI isSpaceI fuel (embKT k ts i) = simC k ts (headM mf i) ∧
      (∀ j, headM mf i = .ok (.ret j) → WF j) ∧
      (∀ j, headM mf i = .ok (.next j) → WF j ∧ j.remaining.length ≤ i.remaining.length) := by
  intro mf
  induction mf with
  | zero => intro fuel i _ h; omega
  | succ m ih =>
    intro fuel i hw hm hf
    cases fuel with
    | zero => omega
    | succ f =>
      rw [loop1_unfold]
      unfold headM skipSpaces
      simp only [eof_eqT, peekRune_eqT, show (32 : Int) = ((32 : Nat) : Int) from rfl,
        show (9 : Int) = ((9 : Nat) : Int) from rfl, show (13 : Int) = ((13 : Nat) : Int) from rfl, natCast_eq_natCast]
      by_cases he : i.remaining = []
      · have h1 : i.eof = true := (eof_true_iff i).2 he
        simp only [h1, Bool.not_true, Bool.false_eq_true, if_false, if_true, pure_eq_ok, tailM, Bool.false_and, simC]
        refine ⟨trivial, ?_, ?_⟩
        · intro j hj; cases hj
        · intro j hj; cases hj; exact ⟨hw, Nat.le_refl _⟩
      · have h1 : i.eof = false := (eof_false_iff i).2 he
        simp only [h1, Bool.not_false, Bool.false_eq_true, if_false, if_true]
        rcases Bool.eq_false_or_eq_true (i.peekRune == 32 || i.peekRune == 9 || i.peekRune == 13) with hsp | hsp
        · obtain ⟨r, i1, hM, hG, hw1, hlt, htok, _⟩ := readRune_eqT k ts i he hw
          simp only [hsp, if_true, hM, hG, ebind_ok]
          obtain ⟨hG2, hP2, hP3⟩ := ih f i1 hw1 (by omega) (by omega)
          refine ⟨hG2, hP2, ?_⟩
          intro j hj
          obtain ⟨a, b⟩ := hP3 j hj
          exact ⟨a, by omega⟩
        · have hp1 := peekPrefix_eqT k ts i [47, 47] f (by show 2 + 1 ≤ f; omega)
          have hp2 := peekPrefix_eqT k ts i [47, 42] f (by show 2 + 1 ≤ f; omega)
          simp only [hsp, Bool.false_eq_true, if_false, hp1, hp2, bind_ok, tailM, h1, Bool.not_false, Bool.true_and]
          rcases Bool.eq_false_or_eq_true (i.peekPrefix [47, 47]) with hc | hc
          · simp only [hc, if_true]
            obtain ⟨hG2, hP2⟩ := comment_eq k ts i hw f (by omega)
            refine ⟨hG2, ?_, ?_⟩
            · intro j hj
              cases hr : readComment i with
              | error e => rw [hr] at hj; cases hj
              | ok j' =>
                rw [hr] at hj
                have : j' = j := by simpa [retM] using hj
                subst this; exact hP2 _ hr
            · intro j hj
              cases hr : readComment i with
              | error e => rw [hr] at hj; cases hj
              | ok j' => rw [hr] at hj; cases hj
          · simp only [hc, Bool.false_eq_true, if_false]
            rcases Bool.eq_false_or_eq_true (i.peekPrefix [47, 42]) with hb | hb
            · simp only [hb, if_true, throw_eq_error, simC]
              refine ⟨trivial, ?_, ?_⟩
              · intro j hj; cases hj
              · intro j hj; cases hj
            · simp only [hb, Bool.false_eq_true, if_false, pure_eq_ok, simC]
              refine ⟨trivial, ?_, ?_⟩
              · intro j hj; cases hj
              · intro j hj; cases hj; exact ⟨hw, Nat.le_refl _⟩

end ModVerif.TieFnLex
