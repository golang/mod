/-
  General lemmas about the string part of the GoRt run-time vocabulary (Basic/GoRt.lean, Basic/GoRtUtf8.lean) used by
  the tie proofs of module/module.go (Tie/FnModule.lean):

  * `for i, r := range s`: the translated loop steps over byte offsets with `decodeRuneAt`; `range_step` says that
    one step delivers the head of `Utf8.runes (s.drop k)` and moves to an offset whose rune list is its tail;
  * `strings.Index / Contains / Count / LastIndexByte` with a ONE-byte needle as `takeWhile` / `List.count` /
    `List.contains` facts, `strings.Contains` with a longer needle as an `isPrefixOfB`-at-some-offset fact;
  * last byte (`s[len(s)-1]`) as `getLast?`.

  The facts about `Utf8.decode` come from its characterisation in Proofs/Utf8.lean.
-/
import ModVerif.Basic.GoRt
import ModVerif.Basic.GoRtUtf8
import ModVerif.Proofs.GoRtLemmas
import ModVerif.Proofs.Utf8
import ModVerif.Proofs.ListLemmas
namespace ModVerif.GoRtStr
open ModVerif ModVerif.GoRt

/-! ### UTF-8 decoding: width and shape of one step -/

export ModVerif.Utf8 (decode_width decodeRune_width decodeRune_ascii decodeRune_cases runesAux_eq_drop runes_step)

/-! ### one step of a translated `for i, r := range s` loop -/

theorem decodeRuneAt_natCast (s : Bytes) (k : Nat) :
    decodeRuneAt s (k : Int) =
      (((Utf8.decodeRune (s.drop k)).1 : Int), ((Utf8.decodeRune (s.drop k)).2 : Int)) := by
  simp [decodeRuneAt]

theorem range_step (s : Bytes) (k : Nat) (hk : k < s.length) :
    ∃ r w : Nat, decodeRuneAt s (k : Int) = ((r : Int), (w : Int)) ∧ 1 ≤ w ∧ k + w ≤ s.length ∧
      Utf8.runes (s.drop k) = r :: Utf8.runes (s.drop (k + w)) ∧
      ((s[k].toNat < 0x80 ∧ r = s[k].toNat ∧ w = 1) ∨
       (0x80 ≤ s[k].toNat ∧ 0x80 ≤ r ∧ ∀ b ∈ (s.drop k).take w, 0x80 ≤ b.toNat)) := by
  have hne : s.drop k ≠ [] := by
    intro h; have := congrArg List.length h; simp at this; omega
  have hw := decodeRune_width (s.drop k) hne
  have hd : s.drop k = s[k] :: s.drop (k + 1) := by
    rw [List.drop_eq_getElem_cons hk]
  refine ⟨(Utf8.decodeRune (s.drop k)).1, (Utf8.decodeRune (s.drop k)).2, decodeRuneAt_natCast s k, hw.1, ?_, ?_, ?_⟩
  · have := hw.2; simp at this; omega
  · rw [runes_step _ hne, List.drop_drop]
  · have hc := decodeRune_cases s[k] (s.drop (k + 1))
    rw [← hd] at hc
    rcases hc with ⟨h1, h2⟩ | ⟨h1, h2, h3⟩
    · left; rw [h2]; exact ⟨h1, rfl, rfl⟩
    · right; exact ⟨h1, h2, h3⟩

/-! ### one-byte needles -/

theorem isPrefixOfB_single (c x : UInt8) (xs : Bytes) : isPrefixOfB [c] (x :: xs) = (c == x) := by
  simp [isPrefixOfB]

theorem mkByte_lit (n : Nat) (h : n < 256) : mkByte (n : Int) = UInt8.ofNat n := by
  have : ((n : Int) % 256).toNat = n := by omega
  simp [mkByte, this]

/-- `strings.IndexByte` -/
theorem indexByteAux_eq (c : UInt8) : ∀ (s : Bytes) (k : Nat),
    indexByteAux c s k = if c ∈ s then ((k + (s.takeWhile (· != c)).length : Nat) : Int) else -1
  | [], k => by simp [indexByteAux]
  | x :: xs, k => by
    rw [indexByteAux]
    by_cases h : x = c
    · subst h; simp
    · have h' : (x != c) = true := by simpa using h
      have hne : (x == c) = false := by simpa using h
      have hm : (c = x) = False := by simp; exact fun e => h e.symm
      simp only [hne, Bool.false_eq_true, if_false, indexByteAux_eq c xs (k + 1), List.mem_cons, hm, false_or,
        List.takeWhile_cons, h', if_true, List.length_cons]
      split <;> simp <;> omega

/-- `strings.Index` with a one-byte needle is `strings.IndexByte` -/
theorem indexAux_single (c : UInt8) : ∀ (s : Bytes) (k : Nat), indexAux [c] s k = indexByteAux c s k
  | [], _ => by simp [indexAux, indexByteAux]
  | x :: xs, k => by
    have e : isPrefixOfB [c] (x :: xs) = (x == c) := by
      rw [isPrefixOfB_single, Bool.eq_iff_iff]; simp only [beq_iff_eq]; exact eq_comm
    simp only [indexAux, indexByteAux, e, indexAux_single c xs (k + 1)]

theorem index_single (s : Bytes) (c : UInt8) :
    index s [c] = if c ∈ s then (((s.takeWhile (· != c)).length : Nat) : Int) else -1 := by
  simp [index, indexAux_single, indexByteAux_eq]

theorem index_single_nonneg (s : Bytes) (c : UInt8) : 0 ≤ index s [c] ↔ c ∈ s := by
  rw [index_single]; split <;> simp [*]

theorem contains_single (s : Bytes) (c : UInt8) : contains s [c] = s.contains c := by
  rw [Bool.eq_iff_iff]; simp [contains, index_single_nonneg]

theorem takeWhile_ne_of_not_mem {c : UInt8} : ∀ {s : Bytes}, c ∉ s → s.takeWhile (· != c) = s
  | [], _ => rfl
  | x :: xs, h => by
    have h1 : x ≠ c := fun e => h (by simp [e])
    have h2 : c ∉ xs := fun e => h (by simp [e])
    simp [h1, takeWhile_ne_of_not_mem h2]

/-- `short := s; if i := strings.Index(s, "c"); i >= 0 { short = s[:i] }` is `takeWhile (· != c)` in both cases -/
theorem take_index_single (s : Bytes) (c : UInt8) (h : c ∈ s) :
    sliceTo s (index s [c]) = .ok (s.takeWhile (· != c)) := by
  rw [index_single, if_pos h, sliceTo_natCast (length_takeWhile_le _ _), take_length_takeWhile]

theorem countAux_single (c : UInt8) : ∀ (f : Nat) (s : Bytes), s.length < f → countAux [c] f s = s.count c
  | 0, s, h => by omega
  | f + 1, [], _ => by simp [countAux]
  | f + 1, x :: xs, h => by
    rw [countAux, isPrefixOfB_single]
    have hl : xs.length < f := by simp at h; omega
    by_cases hc : c = x
    · subst hc; simp [countAux_single c f xs hl]; omega
    · have hne : (c == x) = false := by simp [hc]
      have : (x == c) = false := by simp; exact fun e => hc e.symm
      simp [hne, countAux_single c f xs hl, List.count_cons, this]

theorem count_single (s : Bytes) (c : UInt8) : count s [c] = ((s.count c : Nat) : Int) := by
  simp [count, countAux_single c (s.length + 1) s (by omega)]

/-- `strings.Count(s, "c") == len(s)` says that every byte is `c` -/
theorem count_single_eq_len (s : Bytes) (c : UInt8) :
    decide (count s [c] = len s) = s.all (· == c) := by
  rw [count_single, len_eq, Bool.eq_iff_iff, decide_eq_true_eq]
  constructor
  · intro h
    have h' : s.count c = s.length := by omega
    rw [List.count_eq_length] at h'
    simp; intro b hb; exact (h' b hb).symm
  · intro h
    have : s.count c = s.length := by
      rw [List.count_eq_length]; intro b hb; simp at h; exact (h b hb).symm
    omega

/-! ### strings.LastIndexByte -/

theorem lastIndexByteAux_not_mem (c : UInt8) : ∀ (s : Bytes) (k : Nat) (acc : Int), c ∉ s →
    lastIndexByteAux c s k acc = acc
  | [], _, _, _ => rfl
  | x :: xs, k, acc, h => by
    have h1 : (x == c) = false := by simp; exact fun e => h (by simp [e])
    have h2 : c ∉ xs := fun e => h (by simp [e])
    simp [lastIndexByteAux, h1, lastIndexByteAux_not_mem c xs (k + 1) acc h2]

theorem lastIndexByteAux_split (c : UInt8) (suf : Bytes) (hs : c ∉ suf) : ∀ (pre : Bytes) (k : Nat) (acc : Int),
    lastIndexByteAux c (pre ++ c :: suf) k acc = ((k + pre.length : Nat) : Int)
  | [], k, acc => by
    simp [lastIndexByteAux, lastIndexByteAux_not_mem c suf (k + 1) _ hs]
  | x :: xs, k, acc => by
    simp only [List.cons_append, lastIndexByteAux, lastIndexByteAux_split c suf hs xs (k + 1), List.length_cons]
    congr 1; omega

/-- `strings.LastIndex` with a one-byte needle is `strings.LastIndexByte` -/
theorem lastIndexAux_single (c : UInt8) : ∀ (s : Bytes) (k : Nat) (acc : Int),
    lastIndexAux [c] s k acc = lastIndexByteAux c s k acc
  | [], _, _ => by simp [lastIndexAux, lastIndexByteAux]
  | x :: xs, k, acc => by
    have e : isPrefixOfB [c] (x :: xs) = (x == c) := by
      rw [isPrefixOfB_single, Bool.eq_iff_iff]; simp only [beq_iff_eq]; exact eq_comm
    simp only [lastIndexAux, lastIndexByteAux, e]
    exact lastIndexAux_single c xs (k + 1) _

theorem lastIndexByte_not_mem (s : Bytes) {n : Int} (c : UInt8) (hn : n = ((c.toNat : Nat) : Int)) (h : c ∉ s) :
    lastIndexByte s n = -1 := by
  subst hn
  simp [lastIndexByte, mkByte_byte, lastIndexByteAux_not_mem c s 0 _ h]

theorem lastIndexByte_split (pre suf : Bytes) {n : Int} (c : UInt8) (hn : n = ((c.toNat : Nat) : Int)) (h : c ∉ suf) :
    lastIndexByte (pre ++ c :: suf) n = (pre.length : Int) := by
  subst hn
  simp [lastIndexByte, mkByte_byte, lastIndexByteAux_split c suf h pre 0]

theorem reverse_takeWhile_split (pre suf : Bytes) (c : UInt8) (h : c ∉ suf) :
    ((pre ++ c :: suf).reverse.takeWhile (· != c)).reverse = suf := by
  rw [(revScan (· != c) pre suf c (by simp) fun x hx => by simp only [bne_iff_ne, ne_eq]; intro e; exact h (e ▸ hx)).1, List.reverse_reverse]

/-! ### first and last byte -/

theorem idx_zero_eq_head (s : Bytes) (hs : s ≠ []) : idx s 0 = .ok ((((s.head hs).toNat : Nat)) : Int) := by
  cases s with
  | nil => exact absurd rfl hs
  | cons c t => simp

theorem idx_last (s : Bytes) (hs : s ≠ []) :
    idx s (len s - 1) = .ok ((((s.getLast hs).toNat : Nat)) : Int) := by
  have hl : 0 < s.length := List.length_pos_iff.mpr hs
  have e : len s - 1 = ((s.length - 1 : Nat) : Int) := by simp [len_eq]; omega
  rw [e, idx_natCast (by omega), List.getLast_eq_getElem]

/-- `s[len(s)-1] == c` on a non-empty string; instantiate `n` with the literal and discharge `hn` by `rfl` -/
theorem last_byte_test (s : Bytes) (hs : s ≠ []) {n : Int} (c : UInt8) (hn : n = ((c.toNat : Nat) : Int)) :
    decide ((((s.getLast hs).toNat : Nat) : Int) = n) = (s.getLast? == some c) := by
  subst hn
  rw [List.getLast?_eq_some_getLast hs, Bool.eq_iff_iff, decide_eq_true_eq, byte_toInt_inj]; simp

theorem first_byte_test (s : Bytes) (hs : s ≠ []) {n : Int} (c : UInt8) (hn : n = ((c.toNat : Nat) : Int)) :
    decide ((((s.head hs).toNat : Nat) : Int) = n) = (s.head? == some c) := by
  subst hn
  rw [List.head?_eq_some_head hs, Bool.eq_iff_iff, decide_eq_true_eq, byte_toInt_inj]; simp

/-! ### strings.Contains with a longer needle: an occurrence at some offset -/

theorem indexAux_nonneg_iff (sub : Bytes) (hsub : sub ≠ []) : ∀ (s : Bytes) (k : Nat),
    0 ≤ indexAux sub s k ↔ ∃ j, j ≤ s.length ∧ isPrefixOfB sub (s.drop j) = true
  | [], k => by
    have : sub.isEmpty = false := by cases sub <;> simp at hsub ⊢
    have h2 : isPrefixOfB sub [] = false := by cases sub <;> simp [isPrefixOfB] at hsub ⊢
    simp [indexAux, this, h2]
  | x :: xs, k => by
    rw [indexAux]
    by_cases hp : isPrefixOfB sub (x :: xs) = true
    · simp only [hp, if_true]
      constructor
      · intro _; exact ⟨0, by simp, by simpa using hp⟩
      · intro _; exact Int.natCast_nonneg k
    · simp only [hp, Bool.false_eq_true, if_false, indexAux_nonneg_iff sub hsub xs (k + 1)]
      constructor
      · rintro ⟨j, hj, h⟩; exact ⟨j + 1, by simp; omega, by simpa using h⟩
      · rintro ⟨j, hj, h⟩
        cases j with
        | zero => simp at h; exact absurd h hp
        | succ j => exact ⟨j, by simp at hj; omega, by simpa using h⟩

theorem contains_iff (s sub : Bytes) (hsub : sub ≠ []) :
    contains s sub = true ↔ ∃ j, j ≤ s.length ∧ isPrefixOfB sub (s.drop j) = true := by
  simp [contains, index, indexAux_nonneg_iff sub hsub]

end ModVerif.GoRtStr
