/-
  C10: the planning part of ReadHashes.  Invariants of the tile list / tileOrder map, the tree-hash loop
  (`planStx`), the walk up / walk down of one requested index (structural facts (b), (c) of DESIGN.md §6 C10).
-/
import ModVerif.Proofs.TileAuthStx
namespace ModVerif.TileAuth
open ModVerif ModVerif.Tlog ModVerif.Tile ModVerif.TlogStore

def idxOf (c : Nat × Nat) : Nat := storedHashIndex c.1 c.2

/-- the tile (with the width the tree gives it) that holds coordinate `(lv, k)` -/
def home (h N : Nat) (c : Nat × Nat) : Tile := stdTile h N (c.1 / h) (tnum h c.1 c.2)

/-- the tileOrder map is exactly the position map of the tile list -/
def Look (tiles : List Tile) (order : List (Tile × Nat)) : Prop :=
  ∀ t j, order.lookup t = some j ↔ tiles[j]? = some t

def Std (h N : Nat) (tiles : List Tile) : Prop :=
  ∀ t ∈ tiles, ∃ L n, t = stdTile h N L n ∧ n * 2 ^ h < cnt h N L

theorem look_nil : Look [] [] := by
  intro t j; simp [List.lookup]

theorem look_none {tiles : List Tile} {order : List (Tile × Nat)} (hl : Look tiles order) (p : Tile)
    (hp : order.lookup p = none) : p ∉ tiles := by
  intro hmem
  obtain ⟨j, hj⟩ := List.mem_iff_getElem?.mp hmem
  have := (hl p j).mpr hj
  rw [hp] at this; cases this

theorem look_push {tiles : List Tile} {order : List (Tile × Nat)} (hl : Look tiles order) (p : Tile)
    (hp : order.lookup p = none) : Look (tiles ++ [p]) ((p, tiles.length) :: order) := by
  intro t j
  rw [List.lookup_cons, List.getElem?_append]
  by_cases htp : t = p
  · subst htp
    simp only [beq_self_eq_true, Option.some.injEq]
    constructor
    · intro e; subst e; simp
    · intro e
      by_cases hj : j < tiles.length
      · rw [if_pos hj] at e
        have := (hl t j).mpr e
        rw [hp] at this; cases this
      · rw [if_neg hj] at e
        by_cases hj2 : j - tiles.length = 0
        · omega
        · have : ([t] : List Tile)[j - tiles.length]? = none := by
            apply List.getElem?_eq_none; simp; omega
          rw [this] at e; cases e
  · have hb : (t == p) = false := by simpa using htp
    simp only [hb]
    rw [hl t j]
    by_cases hj : j < tiles.length
    · rw [if_pos hj]
    · rw [if_neg hj]
      have h1 : tiles[j]? = none := List.getElem?_eq_none (by omega)
      rw [h1]
      constructor
      · intro e; cases e
      · intro e
        by_cases hj2 : j - tiles.length = 0
        · rw [hj2] at e
          simp only [List.getElem?_cons_zero, Option.some.injEq] at e
          exact absurd e.symm htp
        · have : ([p] : List Tile)[j - tiles.length]? = none := by
            apply List.getElem?_eq_none; simp; omega
          rw [this] at e; cases e

theorem look_inj {tiles : List Tile} {order : List (Tile × Nat)} (hl : Look tiles order) (t : Tile) (i j : Nat)
    (hi : tiles[i]? = some t) (hj : tiles[j]? = some t) : i = j := by
  have a := (hl t i).mpr hi
  have b := (hl t j).mpr hj
  rw [a] at b
  exact Option.some.inj b

theorem std_push {h N : Nat} {tiles : List Tile} (hs : Std h N tiles) (p : Tile)
    (hp : ∃ L n, p = stdTile h N L n ∧ n * 2 ^ h < cnt h N L) : Std h N (tiles ++ [p]) := by
  intro t ht
  rcases List.mem_append.mp ht with h1 | h1
  · exact hs t h1
  · simp only [List.mem_singleton] at h1
    subst h1; exact hp

/-- what `tileForIndex` yields for an index with known coordinates, as far as `tileParent` can tell -/
theorem tileForIndex_parent (h N x lv k : Nat) (hh : 0 < h) (hs : splitStoredHashIndex x = .ok (lv, k)) :
    ∃ t0 s e, tileForIndex h x = .ok (t0, s, e) ∧
      ∀ kk, tileParent t0 kk N = stdTile h N (lv / h + kk) (tnum h lv k / 2 ^ (kk * h)) := by
  refine ⟨_, _, _, tileForIndex_eq h x lv k hh hs, ?_⟩
  intro kk
  rw [tileParent_eq _ _ _ rfl]
  rfl

theorem tileForIndex_home (h N x : Nat) (c : Nat × Nat) (hh : 0 < h) (hs : splitStoredHashIndex x = .ok c) :
    ∃ t0 s e, tileForIndex h x = .ok (t0, s, e) ∧ tileParent t0 0 N = home h N c := by
  obtain ⟨t0, s, e, h1, h2⟩ := tileForIndex_parent h N x c.1 c.2 hh hs
  refine ⟨t0, s, e, h1, ?_⟩
  rw [h2 0]
  simp [home]

theorem home_nonzero (h N : Nat) (c : Nat × Nat) (hh : 0 < h) (hv : (c.2 + 1) * 2 ^ c.1 ≤ N) :
    tnum h c.1 c.2 * 2 ^ h < cnt h N (c.1 / h) := by
  have := coord_in_tile h N c.1 c.2 hh hv
  have := Nat.two_pow_pos (c.1 % h)
  omega

theorem planStx_spec (h N : Nat) (hh : 0 < h) :
    ∀ (cs : List (Nat × Nat)) (tiles : List Tile) (order : List (Tile × Nat)) (sto : List Nat),
      (∀ c ∈ cs, (c.2 + 1) * 2 ^ c.1 ≤ N ∧ splitStoredHashIndex (idxOf c) = .ok c) →
      Look tiles order → Std h N tiles →
      ∃ ext order' sto', planStx h N (cs.map idxOf) (tiles, order, sto) = .ok (tiles ++ ext, order', sto ++ sto') ∧
        Look (tiles ++ ext) order' ∧ Std h N (tiles ++ ext) ∧ (∀ t ∈ ext, ∃ c ∈ cs, t = home h N c) ∧
        sto'.length = cs.length ∧
        ∀ (i : Nat) (c : Nat × Nat), cs[i]? = some c → ∃ j, sto'[i]? = some j ∧ (tiles ++ ext)[j]? = some (home h N c) := by
  intro cs
  induction cs with
  | nil =>
    intro tiles order sto _ hl hs
    exact ⟨[], order, [], by simp [planStx], by simpa using hl, by simpa using hs, by simp, rfl, by simp⟩
  | cons c cs ih =>
    intro tiles order sto hcs hl hs
    obtain ⟨hv, hsp⟩ := hcs c (by simp)
    obtain ⟨t0, s, e, ht0, hpar⟩ := tileForIndex_home h N (idxOf c) c hh hsp
    have hnz := home_nonzero h N c hh hv
    simp only [List.map_cons, planStx, ht0, bind, Except.bind, hpar]
    cases hlk : order.lookup (home h N c) with
    | some j =>
      simp only
      obtain ⟨ext, order', sto', h1, h2, h3, h4, h5, h6⟩ :=
        ih tiles order (sto ++ [j]) (fun c' hc' => hcs c' (by simp [hc'])) hl hs
      refine ⟨ext, order', j :: sto', by rw [h1]; simp, h2, h3, ?_, by simp [h5], ?_⟩
      · intro t ht
        obtain ⟨c', hc', e'⟩ := h4 t ht
        exact ⟨c', by simp [hc'], e'⟩
      · intro i c' hi
        cases i with
        | zero =>
          simp only [List.getElem?_cons_zero, Option.some.injEq] at hi
          subst hi
          refine ⟨j, rfl, ?_⟩
          have := (hl _ j).mp hlk
          rw [List.getElem?_append_left (by
            have := List.getElem?_eq_some_iff.mp this; exact this.1)]
          exact this
        | succ i =>
          simp only [List.getElem?_cons_succ] at hi ⊢
          exact h6 i c' hi
    | none =>
      simp only
      have hl' := look_push hl _ hlk
      have hs' := std_push hs (home h N c) ⟨_, _, rfl, hnz⟩
      obtain ⟨ext, order', sto', h1, h2, h3, h4, h5, h6⟩ :=
        ih (tiles ++ [home h N c]) _ (sto ++ [tiles.length]) (fun c' hc' => hcs c' (by simp [hc'])) hl' hs'
      refine ⟨home h N c :: ext, order', tiles.length :: sto', by rw [h1]; simp, by simpa using h2,
        by simpa using h3, ?_, by simp [h5], ?_⟩
      · intro t ht
        rcases List.mem_cons.mp ht with e' | e'
        · exact ⟨c, by simp, e'⟩
        · obtain ⟨c', hc', e''⟩ := h4 t e'
          exact ⟨c', by simp [hc'], e''⟩
      · intro i c' hi
        cases i with
        | zero =>
          simp only [List.getElem?_cons_zero, Option.some.injEq] at hi
          subst hi
          refine ⟨tiles.length, rfl, ?_⟩
          simp
        | succ i =>
          simp only [List.getElem?_cons_succ] at hi ⊢
          obtain ⟨j, hj1, hj2⟩ := h6 i c' hi
          exact ⟨j, hj1, by simpa using hj2⟩

/-- invariant of the tile list / tileOrder map after the tree-hash loop -/
structure PInv (h N nstx : Nat) (tiles : List Tile) (order : List (Tile × Nat)) : Prop where
  look : Look tiles order
  std : Std h N tiles
  /-- every partial tile of the tree is listed (they are the tree-hash tiles) -/
  partials : ∀ L n, n * 2 ^ h < cnt h N L → cnt h N L < (n + 1) * 2 ^ h → stdTile h N L n ∈ tiles
  /-- every later tile is full and listed after its parent -/
  child : ∀ i t, nstx ≤ i → tiles[i]? = some t → t.w = 2 ^ h ∧ ∃ j, j < i ∧ tiles[j]? = some (tileParent t 1 N)

theorem div_pow_succ (n0 k h : Nat) : n0 / 2 ^ ((k + 1) * h) = n0 / 2 ^ (k * h) / 2 ^ h := by
  rw [Nat.div_div_eq_div_mul, ← Nat.pow_add, Nat.add_mul, Nat.one_mul]

/-- a full tile at level `L0 + k` means the tree has at least `2^(k+1)` records -/
theorem full_log2 (h N L n : Nat) (hh : 0 < h) (k : Nat) (hk : k ≤ L) (hfull : (n + 1) * 2 ^ h ≤ cnt h N L) :
    k + 1 ≤ N.log2 := by
  have h2 : 2 ≤ cnt h N L := by
    have : 2 ^ 1 ≤ 2 ^ h := Nat.pow_le_pow_right (by omega) hh
    have : 1 * 2 ^ h ≤ (n + 1) * 2 ^ h := Nat.mul_le_mul_right _ (by omega)
    omega
  unfold cnt at h2
  rw [Nat.le_div_iff_mul_le (Nat.two_pow_pos _)] at h2
  have hN : N ≠ 0 := by
    have := Nat.two_pow_pos (L * h); omega
  rw [Nat.le_log2 hN]
  have : 2 ^ (k + 1) ≤ 2 * 2 ^ (L * h) := by
    rw [Nat.pow_succ, Nat.mul_comm]
    apply Nat.mul_le_mul_left
    apply Nat.pow_le_pow_right (by omega)
    calc k ≤ L := hk
      _ = L * 1 := by omega
      _ ≤ L * h := Nat.mul_le_mul_left _ hh
  omega

theorem stdTile_full_w (h N L n : Nat) (hfull : (n + 1) * 2 ^ h ≤ cnt h N L) :
    stdTile h N L n = { h := h, l := L, n := n, w := 2 ^ h } := by
  have hp := Nat.two_pow_pos h
  rw [Nat.add_mul] at hfull
  rw [stdTile_of_lt h N L n (by omega)]
  congr 1
  omega

/-- structural fact (c): the walk up terminates within the fuel, at a listed tile, and every tile passed is full -/
theorem walkUp_spec (h N nstx : Nat) (hh : 0 < h) (tiles : List Tile) (order : List (Tile × Nat))
    (inv : PInv h N nstx tiles order) (t0 : Tile) (L0 n0 : Nat)
    (hpar : ∀ kk, tileParent t0 kk N = stdTile h N (L0 + kk) (n0 / 2 ^ (kk * h))) :
    ∀ f k, N.log2 + 2 ≤ f + k → k ≤ N.log2 → (n0 / 2 ^ (k * h)) * 2 ^ h < cnt h N (L0 + k) →
      ∃ K j, walkUp N order t0 f k = .ok (K, j) ∧ k ≤ K ∧ order.lookup (tileParent t0 K N) = some j ∧
        (∀ k', k ≤ k' → k' < K → order.lookup (tileParent t0 k' N) = none ∧
          (n0 / 2 ^ (k' * h) + 1) * 2 ^ h ≤ cnt h N (L0 + k')) := by
  intro f
  induction f with
  | zero => intro k h1 h2 _; omega
  | succ f ih =>
    intro k h1 h2 hnz
    unfold walkUp
    cases hlk : order.lookup (tileParent t0 k N) with
    | some j =>
      exact ⟨k, j, rfl, Nat.le_refl _, hlk, fun k' a b => by omega⟩
    | none =>
      simp only
      have hnot := look_none inv.look _ hlk
      rw [hpar k] at hnot
      have hfull : (n0 / 2 ^ (k * h) + 1) * 2 ^ h ≤ cnt h N (L0 + k) := by
        apply Nat.le_of_not_lt
        intro hc
        exact hnot (inv.partials _ _ hnz hc)
      have hlog := full_log2 h N (L0 + k) _ hh k (by omega) hfull
      have hnz' : (n0 / 2 ^ ((k + 1) * h)) * 2 ^ h < cnt h N (L0 + (k + 1)) := by
        rw [div_pow_succ]
        have := parent_of_full h N (L0 + k) _ hfull
        have := Nat.div_mul_le_self (n0 / 2 ^ (k * h)) (2 ^ h)
        rw [show L0 + (k + 1) = L0 + k + 1 by omega]
        omega
      obtain ⟨K, j, e1, e2, e3, e4⟩ := ih (k + 1) (by omega) (by omega) hnz'
      refine ⟨K, j, e1, by omega, e3, ?_⟩
      intro k' a b
      by_cases hk' : k' = k
      · subst hk'; exact ⟨hlk, hfull⟩
      · exact e4 k' (by omega) b

/-- structural fact (b): the walk down only records full tiles, each after its parent; "must be full" is unreachable -/
theorem walkDown_spec (h N nstx : Nat) (t0 : Tile) (L0 n0 : Nat)
    (hpar : ∀ kk, tileParent t0 kk N = stdTile h N (L0 + kk) (n0 / 2 ^ (kk * h))) :
    ∀ (K : Nat) (tiles : List Tile) (order : List (Tile × Nat)) (ito : Option Nat),
      PInv h N nstx tiles order → nstx ≤ tiles.length →
      (∀ k', k' < K → order.lookup (tileParent t0 k' N) = none ∧
          (n0 / 2 ^ (k' * h) + 1) * 2 ^ h ≤ cnt h N (L0 + k')) →
      (∃ j : Nat, tiles[j]? = some (tileParent t0 K N)) →
      (K = 0 → ∃ p : Nat, ito = some p ∧ tiles[p]? = some (tileParent t0 0 N)) →
      ∃ ext order' p, walkDown N t0 K (tiles, order, ito) = .ok (tiles ++ ext, order', some p) ∧
        PInv h N nstx (tiles ++ ext) order' ∧ (tiles ++ ext)[p]? = some (tileParent t0 0 N) := by
  intro K
  induction K with
  | zero =>
    intro tiles order ito inv _ _ _ hito
    obtain ⟨p, e1, e2⟩ := hito rfl
    subst e1
    exact ⟨[], order, p, by simp [walkDown], by simpa using inv, by simpa using e2⟩
  | succ K ih =>
    intro tiles order ito inv hlen hup hparent _
    obtain ⟨hlk, hfull⟩ := hup K (by omega)
    have hUK := hpar K
    rw [stdTile_full_w h N _ _ hfull] at hUK
    unfold walkDown
    simp only [hUK, bne_self_eq_false, Bool.false_eq_true, ↓reduceIte]
    rw [hUK] at hlk
    have hfull' := hfull
    rw [Nat.add_mul] at hfull'
    have hp2 := Nat.two_pow_pos h
    have hnzK : n0 / 2 ^ (K * h) * 2 ^ h < cnt h N (L0 + K) := by omega
    -- the new invariant
    have inv' : PInv h N nstx (tiles ++ [{ h := h, l := L0 + K, n := n0 / 2 ^ (K * h), w := 2 ^ h }])
        (({ h := h, l := L0 + K, n := n0 / 2 ^ (K * h), w := 2 ^ h }, tiles.length) :: order) := by
      refine ⟨look_push inv.look _ hlk, std_push inv.std _ ⟨L0 + K, _, (stdTile_full_w h N _ _ hfull).symm, hnzK⟩, ?_, ?_⟩
      · intro L n a b
        exact List.mem_append_left _ (inv.partials L n a b)
      · intro i t hi ht
        rw [List.getElem?_append] at ht
        by_cases hil : i < tiles.length
        · rw [if_pos hil] at ht
          obtain ⟨c1, j, c2, c3⟩ := inv.child i t hi ht
          exact ⟨c1, j, c2, by rw [List.getElem?_append_left (by omega)]; exact c3⟩
        · rw [if_neg hil] at ht
          have hi0 : i - tiles.length = 0 := by
            apply Nat.eq_zero_of_not_pos
            intro hpos
            have : ([{ h := h, l := L0 + K, n := n0 / 2 ^ (K * h), w := 2 ^ h }] : List Tile)[i - tiles.length]? = none := by
              apply List.getElem?_eq_none; simp; omega
            rw [this] at ht; cases ht
          rw [hi0] at ht
          simp only [List.getElem?_cons_zero, Option.some.injEq] at ht
          subst ht
          refine ⟨rfl, ?_⟩
          obtain ⟨j, hj⟩ := hparent
          refine ⟨j, ?_, ?_⟩
          · have := (List.getElem?_eq_some_iff.mp hj).1; omega
          · rw [List.getElem?_append_left (by have := (List.getElem?_eq_some_iff.mp hj).1; omega), hj,
              hpar (K + 1), tileParent_eq _ _ _ rfl]
            simp only [Nat.one_mul]
            rw [div_pow_succ, show L0 + K + 1 = L0 + (K + 1) by omega]
    have hup' : ∀ k', k' < K →
        List.lookup (tileParent t0 k' N) (({ h := h, l := L0 + K, n := n0 / 2 ^ (K * h), w := 2 ^ h }, tiles.length) :: order) = none ∧
          (n0 / 2 ^ (k' * h) + 1) * 2 ^ h ≤ cnt h N (L0 + k') := by
      intro k' hk'
      obtain ⟨a, b⟩ := hup k' (by omega)
      refine ⟨?_, b⟩
      rw [List.lookup_cons]
      have hne : (tileParent t0 k' N == { h := h, l := L0 + K, n := n0 / 2 ^ (K * h), w := 2 ^ h }) = false := by
        rw [hpar k', stdTile_full_w h N _ _ b]
        simp; omega
      rw [hne]
      exact a
    obtain ⟨ext, order', p, e1, e2, e3⟩ := ih _ _ (if K == 0 then some tiles.length else ito) inv'
      (by simp; omega) hup' ⟨tiles.length, by rw [hUK]; simp⟩
      (by intro hK; subst hK; exact ⟨tiles.length, by simp, by rw [hUK]; simp⟩)
    refine ⟨{ h := h, l := L0 + K, n := n0 / 2 ^ (K * h), w := 2 ^ h } :: ext, order', p, by rw [e1]; simp,
      by simpa using e2, by simpa using e3⟩

/-- one requested index: the plan is extended by full tiles (parents first) down to the tile of the index -/
theorem planIndex_spec (h N nstx : Nat) (hh : 0 < h) (tiles : List Tile) (order : List (Tile × Nat)) (ito : List Nat)
    (inv : PInv h N nstx tiles order) (hlen : nstx ≤ tiles.length) (x : Nat) (c : Nat × Nat)
    (hx : x < storedHashIndex 0 N) (hs : splitStoredHashIndex x = .ok c) (hv : (c.2 + 1) * 2 ^ c.1 ≤ N) :
    ∃ ext order' p, planIndex h N (tiles, order, ito) x = .ok (tiles ++ ext, order', ito ++ [p]) ∧
      PInv h N nstx (tiles ++ ext) order' ∧ (tiles ++ ext)[p]? = some (home h N c) := by
  obtain ⟨t0, s, e, ht0, hpar⟩ := tileForIndex_parent h N x c.1 c.2 hh hs
  have hnz := home_nonzero h N c hh hv
  obtain ⟨K, j, w1, _, w3, w4⟩ := walkUp_spec h N nstx hh tiles order inv t0 (c.1 / h) (tnum h c.1 c.2) hpar
    (N.log2 + 2) 0 (by omega) (by omega) (by simpa using hnz)
  have hj := (inv.look _ j).mp w3
  obtain ⟨ext, order', p, d1, d2, d3⟩ := walkDown_spec h N nstx t0 (c.1 / h) (tnum h c.1 c.2) hpar K tiles order
    (if K == 0 then some j else none) inv hlen (fun k' hk' => w4 k' (by omega) hk') ⟨j, hj⟩
    (by intro hK; subst hK; exact ⟨j, by simp, hj⟩)
  refine ⟨ext, order', p, ?_, d2, ?_⟩
  · unfold planIndex
    simp only [ge_iff_le, Nat.not_le.mpr hx, ↓reduceIte, ht0, w1, d1, bind, Except.bind, pure, Except.pure]
  · rw [d3, hpar 0]
    simp [home]

theorem planIndexes_spec (h N nstx : Nat) (hh : 0 < h) :
    ∀ (idx : List Nat) (tiles : List Tile) (order : List (Tile × Nat)) (ito : List Nat),
      PInv h N nstx tiles order → nstx ≤ tiles.length →
      (∀ x ∈ idx, x < storedHashIndex 0 N ∧ ∃ c, splitStoredHashIndex x = .ok c ∧ (c.2 + 1) * 2 ^ c.1 ≤ N) →
      ∃ ext order' ito', planIndexes h N idx (tiles, order, ito) = .ok (tiles ++ ext, order', ito ++ ito') ∧
        PInv h N nstx (tiles ++ ext) order' ∧ ito'.length = idx.length ∧
        ∀ (i x : Nat) (c : Nat × Nat), idx[i]? = some x → splitStoredHashIndex x = .ok c →
          ∃ j, ito'[i]? = some j ∧ (tiles ++ ext)[j]? = some (home h N c) := by
  intro idx
  induction idx with
  | nil =>
    intro tiles order ito inv _ _
    exact ⟨[], order, [], by simp [planIndexes], by simpa using inv, rfl, by simp⟩
  | cons x xs ih =>
    intro tiles order ito inv hlen hidx
    obtain ⟨hx, c, hs, hv⟩ := hidx x (by simp)
    obtain ⟨ext, order', p, a1, a2, a3⟩ := planIndex_spec h N nstx hh tiles order ito inv hlen x c hx hs hv
    obtain ⟨ext2, order2, ito2, b1, b2, b3, b4⟩ := ih (tiles ++ ext) order' (ito ++ [p]) a2 (by simp; omega)
      (fun y hy => hidx y (by simp [hy]))
    refine ⟨ext ++ ext2, order2, p :: ito2, ?_, by simpa using b2, by simp [b3], ?_⟩
    · simp only [planIndexes, a1, bind, Except.bind, b1]
      simp
    · intro i y c' hi hs'
      cases i with
      | zero =>
        simp only [List.getElem?_cons_zero, Option.some.injEq] at hi
        subst hi
        rw [hs] at hs'
        cases hs'
        refine ⟨p, rfl, ?_⟩
        rw [← List.append_assoc, List.getElem?_append_left (by
          have := (List.getElem?_eq_some_iff.mp a3).1; exact this)]
        exact a3
      | succ i =>
        simp only [List.getElem?_cons_succ] at hi ⊢
        obtain ⟨j, hj1, hj2⟩ := b4 i y c' hi hs'
        exact ⟨j, hj1, by simpa using hj2⟩

/-- everything the later phases need to know about a successful plan; `cs` are the coordinates of the
    tree-hash indexes (the cover of `[0, N)`) -/
structure PlanOK (h N : Nat) (cs : List (Nat × Nat)) (idx : List Nat) (p : Plan) : Prop where
  cover : Cover cs 0 N
  stx : p.stx = cs.map idxOf
  stoLen : p.stxTileOrder.length = cs.length
  sto : ∀ (i : Nat) (c : Nat × Nat), cs[i]? = some c →
    ∃ j, p.stxTileOrder[i]? = some j ∧ j < p.nstx ∧ p.tiles[j]? = some (home h N c)
  stxTiles : ∀ (j : Nat) (t : Tile), j < p.nstx → p.tiles[j]? = some t → ∃ c ∈ cs, t = home h N c
  nstxLe : p.nstx ≤ p.tiles.length
  inv : PInv h N p.nstx p.tiles p.order
  itoLen : p.indexTileOrder.length = idx.length
  ito : ∀ (i x : Nat) (c : Nat × Nat), idx[i]? = some x → splitStoredHashIndex x = .ok c →
    ∃ j, p.indexTileOrder[i]? = some j ∧ p.tiles[j]? = some (home h N c)

theorem PlanOK.sto_lt {h N : Nat} {cs : List (Nat × Nat)} {idx : List Nat} {p : Plan} (ok : PlanOK h N cs idx p) :
    ∀ j ∈ p.stxTileOrder, j < p.tiles.length := by
  intro j hj
  obtain ⟨i, hi⟩ := List.mem_iff_getElem?.mp hj
  have hic : i < cs.length := ok.stoLen ▸ (List.getElem?_eq_some_iff.mp hi).1
  obtain ⟨j', hj1, hj2, _⟩ := ok.sto i cs[i] (List.getElem?_eq_getElem hic)
  rw [hi] at hj1
  cases hj1
  exact Nat.lt_of_lt_of_le hj2 ok.nstxLe

theorem PlanOK.ito_lt {h N : Nat} {cs : List (Nat × Nat)} {idx : List Nat} {p : Plan} (ok : PlanOK h N cs idx p)
    (hidx : ∀ x ∈ idx, ∃ c, splitStoredHashIndex x = .ok c) : ∀ j ∈ p.indexTileOrder, j < p.tiles.length := by
  intro j hj
  obtain ⟨i, hi⟩ := List.mem_iff_getElem?.mp hj
  have hii : i < idx.length := ok.itoLen ▸ (List.getElem?_eq_some_iff.mp hi).1
  obtain ⟨c, hc⟩ := hidx idx[i] (List.getElem_mem _)
  obtain ⟨j', hj1, hj2⟩ := ok.ito i idx[i] c (List.getElem?_eq_getElem hii) hc
  rw [hi] at hj1
  cases hj1
  exact (List.getElem?_eq_some_iff.mp hj2).1

/-- ★ `plan` succeeds on every request inside the tree (no fuel exhaustion in the walk up, no "must be full"),
    and its result has the structure the authentication relies on -/
theorem plan_spec (h N : Nat) (hh : 0 < h) (hN : N < 2 ^ 63)
    (hsplit : ∀ l k, (k + 1) * 2 ^ l ≤ N → splitStoredHashIndex (storedHashIndex l k) = .ok (l, k))
    (idx : List Nat)
    (hidx : ∀ x ∈ idx, x < storedHashIndex 0 N ∧ ∃ c, splitStoredHashIndex x = .ok c ∧ (c.2 + 1) * 2 ^ c.1 ≤ N) :
    ∃ cs p, plan h N idx = .ok p ∧ PlanOK h N cs idx p := by
  obtain ⟨cs, c1, _, c3⟩ := subTreeIndex_spec 0 N (Nat.zero_le _) (aligned_zero N) hN
  have c1' : subTreeIndex 0 N = .ok (cs.map idxOf) := c1
  have hcs : ∀ c ∈ cs, (c.2 + 1) * 2 ^ c.1 ≤ N ∧ splitStoredHashIndex (idxOf c) = .ok c := by
    intro c hc
    have hv := cover_bound cs 0 N c3 c hc
    exact ⟨hv, hsplit c.1 c.2 hv⟩
  obtain ⟨ext, order, sto, s1, s2, s3, s4, s5, s6⟩ := planStx_spec h N hh cs [] [] [] hcs look_nil
    (by intro t ht; simp at ht)
  simp only [List.nil_append] at s1 s2 s3 s6
  have inv0 : PInv h N ext.length ext order := by
    refine ⟨s2, s3, ?_, ?_⟩
    · intro L n a b
      have hp := Nat.two_pow_pos h
      have hcl : cnt h N (L + 1) = n := by
        rw [cnt_succ]
        apply Nat.div_eq_of_lt_le
        · omega
        · exact b
      obtain ⟨c, hc, e1, e2, _, _⟩ := block_cover h N hh cs c3 L (n * 2 ^ h) a (by rw [hcl]; omega)
      rw [Nat.mul_div_cancel _ hp] at e2
      obtain ⟨i, hi⟩ := List.mem_iff_getElem?.mp hc
      obtain ⟨j, _, hj⟩ := s6 i c hi
      have : home h N c = stdTile h N L n := by simp [home, e1, e2]
      rw [← this]
      exact List.mem_iff_getElem?.mpr ⟨j, hj⟩
    · intro i t hi ht
      have := (List.getElem?_eq_some_iff.mp ht).1
      omega
  obtain ⟨ext2, order2, ito, p1, p2, p3, p4⟩ := planIndexes_spec h N ext.length hh idx ext order [] inv0
    (Nat.le_refl _) hidx
  simp only [List.nil_append] at p1
  refine ⟨cs, (⟨ext ++ ext2, order2, cs.map idxOf, sto, ext.length, ito⟩ : Plan), ?_, ?_⟩
  · simp only [plan, c1', s1, p1, bind, Except.bind, pure, Except.pure]
  · refine ⟨c3, rfl, s5, ?_, ?_, by simp, p2, p3, p4⟩
    · intro i c hi
      obtain ⟨j, hj1, hj2⟩ := s6 i c hi
      have hjl := (List.getElem?_eq_some_iff.mp hj2).1
      exact ⟨j, hj1, hjl, by simp only; rw [List.getElem?_append_left hjl]; exact hj2⟩
    · intro j t hj ht
      simp only at hj ht
      rw [List.getElem?_append_left hj] at ht
      exact s4 t (List.mem_iff_getElem?.mpr ⟨j, ht⟩)

end ModVerif.TileAuth

namespace ModVerif.Tile
open ModVerif ModVerif.Tlog

theorem subTreeIndex_zero_nil (N : Nat) (h : subTreeIndex 0 N = .ok []) : N = 0 := by
  cases N with
  | zero => rfl
  | succ m =>
    exfalso
    simp only [subTreeIndex, Nat.sub_zero] at h
    unfold subTreeIndexF at h
    simp only [Nat.zero_lt_succ, ↓reduceIte] at h
    split at h
    · cases h
    · simp only [bind, Except.bind] at h
      split at h <;> simp [pure, Except.pure] at h

theorem planIndexes_empty_tree (h : Nat) (x : Nat) (xs : List Nat) (st : List Tile × List (Tile × Nat) × List Nat) :
    planIndexes h 0 (x :: xs) st = .error .indexRange := by
  obtain ⟨tiles, order, ito⟩ := st
  simp [planIndexes, planIndex, storedHashIndex, descend, sumHalves, bind, Except.bind]

/-- The early return of `readHashes` for `p.stx = []` returns `[]`, which is `make([]Hash, len(indexes))`
    because a successful plan with no tree-hash indexes has `N = 0` and no requested indexes. -/
theorem plan_stx_nil (h N : Nat) (indexes : List Nat) (p : Plan)
    (hp : plan h N indexes = .ok p) (hs : p.stx = []) : N = 0 ∧ indexes = [] := by
  unfold plan at hp
  cases h1 : subTreeIndex 0 N with
  | error e => simp [h1, bind, Except.bind] at hp
  | ok stx =>
    simp only [h1, bind, Except.bind] at hp
    cases h2 : planStx h N stx ([], [], []) with
    | error e => simp [h2] at hp
    | ok r =>
      obtain ⟨tiles, order, sto⟩ := r
      simp only [h2] at hp
      cases h3 : planIndexes h N indexes (tiles, order, []) with
      | error e => simp [h3] at hp
      | ok r3 =>
        obtain ⟨tiles', order', ito⟩ := r3
        simp only [h3, pure, Except.pure, Except.ok.injEq] at hp
        subst hp
        simp only at hs
        subst hs
        have hN := subTreeIndex_zero_nil N h1
        subst hN
        refine ⟨rfl, ?_⟩
        cases indexes with
        | nil => rfl
        | cons x xs => rw [planIndexes_empty_tree] at h3; cases h3

end ModVerif.Tile
