/-
  Version fixer and `retract` directives: the deferred `fixRetract` pass on a tree whose retract tokens already are
  fixed versions, and what `File.add` does to the list of retractions.

  The fixer sees its own image: if `parseVersionInterval` with the placeholder fixer `dontFixRetract` (what `File.add`
  uses) leaves the interval tokens as they are and reads the interval `vi`, and both bounds are fixpoints of the real
  fixer at the module path, then `parseVersionInterval` with the real fixer leaves the tokens as they are and reads the
  same `vi`.  Hence `fixRetractLoop` over a tree with pairwise distinct line identities in which every retract entry has
  such a line returns the entries, the tree and the error list unchanged (`findLine` finds THE line, `updateLine` writes
  back the tokens it already has).

  Frame: for every verb other than `retract`, one `File.add` step commutes with replacing the list of retractions of
  the state (`withRet`); hence it leaves that list alone.  A run of the directive layer records, for every retract entry
  it appends, a line it wrote with that identity whose interval tokens are what the `dontFixRetract` parse wrote reading
  exactly that interval — a summary of the state that composes along the lines a run writes (`walkStmts_chain`).
-/
import ModVerif.Proofs.ModfileC20Lax
import ModVerif.Proofs.ModfileC20Ids
import ModVerif.Proofs.ModfileFmtDir
import ModVerif.Proofs.ModfileFmtFixInterval
namespace ModVerif.Proofs.ModfileFmtRet
open ModVerif ModVerif.Modfile ModVerif.Proofs.ModfileC20

theorem pv_step {p path : Bytes} {fx : Fixer} {t v : Bytes}
    (h : parseVersion p t (some dontFixRetract) = (t, .ok v)) (hf : fx path v = .ok v) :
    parseVersion path t (some fx) = (t, .ok v) := by
  obtain ⟨s, q, hs, hd, rfl⟩ := ModfileFmtFix.parseVersion_ok_iff.1 h
  obtain rfl : s = t := by simpa [dontFixRetract] using ModfileFmtFix.effFix_some.1 hd
  exact ModfileFmtFix.parseVersion_ok_iff.2 ⟨_, q, hs, ModfileFmtFix.effFix_some.2 hf, rfl⟩

theorem pvi_fix_of_dontFix (path : Bytes) (fx : Fixer) (args : List Bytes) (vi : VersionInterval) (rest : List Bytes)
    (h : parseVersionInterval [] args (some dontFixRetract) = (args, .ok (vi, rest)))
    (hl : fx path vi.low = .ok vi.low) (hh : fx path vi.high = .ok vi.high) :
    parseVersionInterval path args (some fx) = (args, .ok (vi, rest)) := by
  obtain ⟨lo, hi⟩ := vi
  rcases ModfileFmtFix.parseVersionInterval_shape h with ⟨t0, e, h40, h91, hpv, ehi, e'⟩ | ⟨t1, t2, e, hpv1, hpv2, e'⟩
  · dsimp only at hpv ehi e' hl
    subst ehi e'
    obtain ⟨rfl, -⟩ := List.cons.inj e
    exact ModfileFmtFix.parseVersionInterval_single h40 h91 (pv_step hpv hl)
  · dsimp only at hpv1 hpv2 e' hl hh
    subst e'
    simp only [List.cons.injEq, true_and, and_true] at e
    obtain ⟨rfl, rfl⟩ := e
    exact ModfileFmtFix.parseVersionInterval_pair (pv_step hpv1 hl) (pv_step hpv2 hh)

theorem frArgs_append (l : Line) : (frArgs l).1 ++ (frArgs l).2 = l.token := by
  unfold frArgs
  cases l.token with
  | nil => rfl
  | cons t0 rest =>
    simp only
    split <;> rfl

def RetFix (path : Bytes) (fx : Fixer) (fs : FileSyntax) (r : Retract) : Prop :=
  ∃ a ∈ linesOf fs.stmts, a.id = r.lineId ∧ ∃ rest,
    parseVersionInterval path (frArgs a).2 (some fx) = ((frArgs a).2, .ok (r.interval, rest))

theorem fixRetractLoop_fixpoint (path : Bytes) (fx : Fixer) :
    ∀ (rs : List Retract) (fs : FileSyntax) (e : List RuleErr), NodupIds fs.stmts →
    (∀ r ∈ rs, RetFix path fx fs r) → fixRetractLoop path fx rs fs e = (rs, fs, e) := by
  intro rs
  induction rs with
  | nil => intro fs e _ _; rfl
  | cons r rest ih =>
    intro fs e hn hall
    obtain ⟨a, ha, hid, rst, hpv⟩ := hall r (by simp)
    have hfind := findLine_of_mem hn ha
    rw [hid] at hfind
    rw [fixRetractLoop_cons, hfind]
    simp only [frStep, hpv]
    have hupd : fs.updateLine r.lineId (fun l' => { l' with token := (frArgs a).1 ++ (frArgs a).2 }) = fs := by
      apply updateLine_self
      intro l hl hlid
      have : l = a := inj_of_nodup_ids hn hl ha (by rw [hlid, hid])
      subst this
      rw [frArgs_append]
    rw [hupd, ih fs e hn (fun r' hr' => hall r' (List.mem_cons_of_mem _ hr'))]

def withRet (R : List Retract) (st : AddState) : AddState := { st with file := { st.file with retract := R } }

/- Each frame equation below: both sides take the same branch, and in each branch they are the same term. -/

theorem addGo_withRet (R : List Retract) (st : AddState) (l : Line) (args : List Bytes) (strict : Bool) :
    addGo (withRet R st) l args strict = (withRet R (addGo st l args strict).1, (addGo st l args strict).2) := by
  unfold addGo withRet AddState.err; dsimp only; repeat' split
  all_goals rfl

theorem addToolchain_withRet (R : List Retract) (st : AddState) (l : Line) (args : List Bytes) :
    addToolchain (withRet R st) l args = (withRet R (addToolchain st l args).1, (addToolchain st l args).2) := by
  unfold addToolchain withRet AddState.err; dsimp only; repeat' split
  all_goals rfl

theorem addModule_withRet (R : List Retract) (st : AddState) (block : Option Comments) (l : Line) (args : List Bytes) :
    addModule (withRet R st) block l args =
      (withRet R (addModule st block l args).1, (addModule st block l args).2) := by
  unfold addModule withRet AddState.err; dsimp only; repeat' split
  all_goals rfl

theorem addGodebugV_withRet (R : List Retract) (st : AddState) (l : Line) (args : List Bytes) :
    addGodebugV (withRet R st) l args = (withRet R (addGodebugV st l args).1, (addGodebugV st l args).2) := by
  unfold addGodebugV withRet AddState.err; dsimp only; repeat' split
  all_goals rfl

theorem addReqExc_withRet (R : List Retract) (st : AddState) (l : Line) (verb : Bytes) (args : List Bytes)
    (fix : Option Fixer) :
    addReqExc (withRet R st) l verb args fix =
      (withRet R (addReqExc st l verb args fix).1, (addReqExc st l verb args fix).2) := by
  unfold addReqExc withRet AddState.err; dsimp only; repeat' split
  all_goals rfl

theorem addReplaceV_withRet (R : List Retract) (st : AddState) (l : Line) (args : List Bytes) (fix : Option Fixer) :
    addReplaceV (withRet R st) l args fix =
      (withRet R (addReplaceV st l args fix).1, (addReplaceV st l args fix).2) := by
  unfold addReplaceV withRet AddState.err; dsimp only; repeat' split
  all_goals rfl

theorem addToolV_withRet (R : List Retract) (st : AddState) (l : Line) (args : List Bytes) :
    addToolV (withRet R st) l args = (withRet R (addToolV st l args).1, (addToolV st l args).2) := by
  unfold addToolV withRet AddState.err; dsimp only; repeat' split
  all_goals rfl

theorem add_withRet (R : List Retract) (st : AddState) (block : Option Comments) (l : Line) (verb : Bytes)
    (args : List Bytes) (fix : Option Fixer) (strict : Bool) (hv : (verb == B "retract") = false) :
    File.add (withRet R st) block l verb args fix strict =
      (withRet R (File.add st block l verb args fix strict).1, (File.add st block l verb args fix strict).2) := by
  rcases ModfileFmtDir.add_dispatch verb strict with
    ⟨-, h⟩ | ⟨-, h⟩ | ⟨-, h⟩ | ⟨-, h⟩ | ⟨-, h⟩ | ⟨-, h⟩ | ⟨-, h⟩ | ⟨hr, -⟩ | ⟨-, h⟩ | h
  · rw [h, h]
  · rw [h, h]; exact addGo_withRet ..
  · rw [h, h]; exact addToolchain_withRet ..
  · rw [h, h]; exact addModule_withRet ..
  · rw [h, h]; exact addGodebugV_withRet ..
  · rw [h, h]; exact addReqExc_withRet ..
  · rw [h, h]; exact addReplaceV_withRet ..
  · rw [hr] at hv; simp at hv
  · rw [h, h]; exact addToolV_withRet ..
  · rw [h, h]; rfl

/-- apply the frame equation to the list that is there: `withRet st.file.retract st` is `st` -/
theorem retract_of_withRet {β : Type} {r : AddState × β} {R : List Retract} (h : r = (withRet R r.1, r.2)) :
    r.1.file.retract = R :=
  congrArg (fun r => r.1.file.retract) h

theorem addRetractV_withRet (R : List Retract) (st : AddState) (block : Option Comments) (l : Line) (args : List Bytes)
    (strict : Bool) :
    (addRetractV (withRet R st) block l args strict).2 = (addRetractV st block l args strict).2 ∧
    (addRetractV (withRet R st) block l args strict).1.errsRev = (addRetractV st block l args strict).1.errsRev ∧
    withRet [] (addRetractV (withRet R st) block l args strict).1 = withRet [] (addRetractV st block l args strict).1 ∧
    (addRetractV (withRet R st) block l args strict).1.file.retract =
      R ++ (addRetractV st block l args strict).1.file.retract.drop st.file.retract.length := by
  unfold addRetractV withRet AddState.err
  (repeat' (first | split | (dsimp only))) <;> simp_all

def RetStep (l : Line) (verb : Bytes) (args : List Bytes) (old : List Retract) (r : AddState × List Bytes) : Prop :=
  r.1.file.retract = old ∨ ∃ x rest, r.1.file.retract = old ++ [x] ∧ x.lineId = l.id ∧ verb = B "retract" ∧
    parseVersionInterval [] args (some dontFixRetract) = (r.2, .ok (x.interval, rest))

theorem add_retstep (st : AddState) (block : Option Comments) (line : Line) (verb : Bytes) (args : List Bytes)
    (fix : Option Fixer) (strict : Bool) :
    RetStep line verb args st.file.retract (File.add st block line verb args fix strict) := by
  rcases ModfileFmtDir.add_dispatch verb strict with
    ⟨-, h⟩ | ⟨-, h⟩ | ⟨-, h⟩ | ⟨-, h⟩ | ⟨-, h⟩ | ⟨-, h⟩ | ⟨-, h⟩ | ⟨hverb, h⟩ | ⟨-, h⟩ | h
  · rw [h]; exact Or.inl rfl
  · rw [h]; exact Or.inl (retract_of_withRet (addGo_withRet st.file.retract st line args strict))
  · rw [h]; exact Or.inl (retract_of_withRet (addToolchain_withRet st.file.retract st line args))
  · rw [h]; exact Or.inl (retract_of_withRet (addModule_withRet st.file.retract st block line args))
  · rw [h]; exact Or.inl (retract_of_withRet (addGodebugV_withRet st.file.retract st line args))
  · rw [h]; exact Or.inl (retract_of_withRet (addReqExc_withRet st.file.retract st line verb args fix))
  · rw [h]; exact Or.inl (retract_of_withRet (addReplaceV_withRet st.file.retract st line args fix))
  · rw [h]
    unfold addRetractV
    dsimp only
    rcases hp : parseVersionInterval [] args (some dontFixRetract) with ⟨args', _ | ⟨vi, rest⟩⟩
    · dsimp only; split <;> exact Or.inl rfl
    · dsimp only
      split
      · exact Or.inl rfl
      · exact Or.inr ⟨_, rest, rfl, rfl, hverb, hp⟩
  · rw [h]; exact Or.inl (retract_of_withRet (addToolV_withRet st.file.retract st line args))
  · rw [h]; exact Or.inl rfl

def RetTokIn (old : List Retract) (ls : List Line) (new : List Retract) : Prop :=
  ∀ r ∈ new, r ∈ old ∨ ∃ l ∈ ls, l.id = r.lineId ∧ ∃ keep args0 args rest, l.token = keep ++ args ∧
    (keep = [] ∨ keep = [B "retract"]) ∧
    parseVersionInterval [] args0 (some dontFixRetract) = (args, .ok (r.interval, rest))

theorem RetTokIn.refl (old : List Retract) (ls : List Line) : RetTokIn old ls old := fun _ hr => Or.inl hr

theorem RetTokIn.trans {a b c : List Retract} {l1 l2 : List Line} (h1 : RetTokIn a l1 b) (h2 : RetTokIn b l2 c) :
    RetTokIn a (l1 ++ l2) c := by
  intro r hr
  rcases h2 r hr with h | ⟨l, hl, rest⟩
  · rcases h1 r h with h | ⟨l, hl, rest⟩
    · exact Or.inl h
    · exact Or.inr ⟨l, List.mem_append_left _ hl, rest⟩
  · exact Or.inr ⟨l, List.mem_append_right _ hl, rest⟩

open ModVerif.Proofs.ModfileWalk ModVerif.Modfile.Edit in
/-- A summary `R before lines after` of a projection `π` of the state that composes along `++` and that every call of
    the loop respects (with the lines the call writes) holds of the whole run, with the lines of the rewritten tree. -/
theorem walkStmts_chain {σ τ : Type} {add : σ → Option Comments → Line → Bytes → List Bytes → σ × List Bytes}
    {known : Bytes → Bool} {bad : σ → Position → σ} (π : σ → τ) {R : τ → List Line → τ → Prop} (hr : ∀ a, R a [] a)
    (ht : ∀ {a b c l1 l2}, R a l1 b → R b l2 c → R a (l1 ++ l2) c)
    (xs : List Expr)
    (hc : ∀ c ∈ calls known xs, ∀ s : σ, R (π s) (c.out add s) (π (c.run add bad s))) (st : σ) :
    R (π st) (linesOf (walkStmts add known bad st xs).2) (π (walkStmts add known bad st xs).1) := by
  have h := foldl_trans (T := fun p q : σ × List Line => ∃ d, q.2 = p.2 ++ d ∧ R (π p.1) d (π q.1))
    (fun p => ⟨[], by simp, hr _⟩)
    (fun ⟨d1, e1, r1⟩ ⟨d2, e2, r2⟩ => ⟨d1 ++ d2, by rw [e2, e1, List.append_assoc], ht r1 r2⟩)
    (runO add bad) (calls known xs) (st, []) (fun c hcs p => ⟨c.out add p.1, rfl, hc c hcs p.1⟩)
  rw [walkStmts_both] at h
  obtain ⟨d, e, r⟩ := h
  simp only [List.nil_append] at e
  rw [e]; exact r

open ModVerif.Proofs.ModfileWalk ModVerif.Modfile.Edit in
theorem addStmts_rettok (fix : Option Fixer) (strict : Bool) (xs : List Expr) (st : AddState) :
    RetTokIn st.file.retract (linesOf (addStmts fix strict st xs).2) (addStmts fix strict st xs).1.file.retract := by
  rw [addStmts_eq_walk]
  refine walkStmts_chain (R := RetTokIn) (fun s : AddState => s.file.retract) (fun a => RetTokIn.refl a [])
    RetTokIn.trans xs (fun c hcs s => ?_) st
  rcases mem_calls hcs with ⟨l, verb, args, -, -, rfl⟩ | ⟨b, verb, l, -, -, -, -, rfl⟩ | ⟨b, -, -, rfl⟩ | ⟨l, -, -, rfl⟩
  · rcases add_retstep s none l verb args fix strict with h | ⟨x, rest, h, hx, rfl, hpv⟩
    · simp only [Call.run, h]; exact RetTokIn.refl _ _
    · intro r hr
      simp only [Call.run, h, List.mem_append, List.mem_singleton] at hr
      rcases hr with hr | rfl
      · exact Or.inl hr
      · exact Or.inr ⟨_, List.mem_singleton_self _, hx.symm, [B "retract"], args, _, rest, rfl, Or.inr rfl, hpv⟩
  · rcases add_retstep s (some b.comments) l verb l.token fix strict with h | ⟨x, rest, h, hx, rfl, hpv⟩
    · simp only [Call.run, h]; exact RetTokIn.refl _ _
    · intro r hr
      simp only [Call.run, h, List.mem_append, List.mem_singleton] at hr
      rcases hr with hr | rfl
      · exact Or.inl hr
      · exact Or.inr ⟨_, List.mem_singleton_self _, hx.symm, [], l.token, _, rest, rfl, Or.inl rfl, hpv⟩
  · cases strict <;> exact RetTokIn.refl _ _
  · exact RetTokIn.refl _ _

end ModVerif.Proofs.ModfileFmtRet
