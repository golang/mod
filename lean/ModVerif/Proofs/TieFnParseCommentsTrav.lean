/-
  Hand model only: the three passes of assignComments as ONE generic traversal `travStmts o F` (order `o` of the nodes inside a block, node function `F` on span / comments / the
  threaded comment list), and the model's walks (`preStmts`, `postStmtsRev`) expressed by it:

    preStmts              = travStmts .pre   F1          (whole-line comments, preorder)
    postStmtsRev ss suf   = map rev3 ∘ travStmts .rpost F2   (suffix comments, postorder backwards, then reversal)
    travStmts .post F3    = map rev3                    (`reverseComments` on every node, postorder)
-/
import ModVerif.Model.Modfile.Comments
import ModVerif.Proofs.ModfileAssign
namespace ModVerif.TieFnParseComments
open ModVerif ModVerif.Modfile

/-- what a pass does at one node: (span, comments of the node, remaining comment list) ↦ (new comments, remaining) -/
abbrev NodeF := (Position × Position) → Comments → List Comment → Comments × List Comment

/-- node order inside a block: preorder `x ( lines )`, postorder backwards `x ) lines⁻¹ (`, postorder `( lines ) x` -/
inductive Ord where
  | pre | rpost | post
  deriving DecidableEq, Repr

def travLines (F : NodeF) : List Line → List Comment → List Line × List Comment
  | [], st => ([], st)
  | l :: ls, st =>
    let r := F (l.start, l.«end») l.comments st
    let r2 := travLines F ls r.2
    ({ l with comments := r.1 } :: r2.1, r2.2)

def travStmt (o : Ord) (F : NodeF) (s : Expr) (st : List Comment) : Expr × List Comment :=
  match s with
  | .lineBlock b =>
    match o with
    | .pre =>
      let rb := F (Expr.lineBlock b).span b.comments st
      let rl := F (Expr.lparen b.lparen).span b.lparen.comments rb.2
      let ls := travLines F b.lines rl.2
      let rr := F (Expr.rparen b.rparen).span b.rparen.comments ls.2
      (.lineBlock { b with comments := rb.1, lparen := { b.lparen with comments := rl.1 }, lines := ls.1,
                           rparen := { b.rparen with comments := rr.1 } }, rr.2)
    | .rpost =>
      let rb := F (Expr.lineBlock b).span b.comments st
      let rr := F (Expr.rparen b.rparen).span b.rparen.comments rb.2
      let ls := travLines F b.lines.reverse rr.2
      let rl := F (Expr.lparen b.lparen).span b.lparen.comments ls.2
      (.lineBlock { b with comments := rb.1, lparen := { b.lparen with comments := rl.1 }, lines := ls.1.reverse,
                           rparen := { b.rparen with comments := rr.1 } }, rl.2)
    | .post =>
      let rl := F (Expr.lparen b.lparen).span b.lparen.comments st
      let ls := travLines F b.lines rl.2
      let rr := F (Expr.rparen b.rparen).span b.rparen.comments ls.2
      let rb := F (Expr.lineBlock b).span b.comments rr.2
      (.lineBlock { b with comments := rb.1, lparen := { b.lparen with comments := rl.1 }, lines := ls.1,
                           rparen := { b.rparen with comments := rr.1 } }, rb.2)
  | s =>
    let r := F s.span s.comments st
    (s.setComments r.1, r.2)

def travStmts (o : Ord) (F : NodeF) : List Expr → List Comment → List Expr × List Comment
  | [], st => ([], st)
  | s :: ss, st =>
    let r := travStmt o F s st
    let r2 := travStmts o F ss r.2
    (r.1 :: r2.1, r2.2)

/-! ### pass 1: whole-line comments -/

/-- pass 1 at a node: `assignBefore` with the start of the node -/
def F1 : NodeF := fun sp c st => assignBefore sp.1 c st

theorem travLines_F1 : ∀ (ls : List Line) (st : List Comment), travLines F1 ls st = preLines ls st
  | [], st => rfl
  | l :: ls, st => by
    simp only [travLines, preLines, F1, travLines_F1 ls]

theorem travStmt_F1 (s : Expr) (st : List Comment) : travStmt .pre F1 s st = preStmt s st := by
  cases s <;> simp only [travStmt, preStmt, F1, travLines_F1, Expr.span]

theorem travStmts_F1 : ∀ (ss : List Expr) (st : List Comment), travStmts .pre F1 ss st = preStmts ss st
  | [], st => rfl
  | s :: ss, st => by
    simp only [travStmts, preStmts, travStmt_F1, travStmts_F1 ss]

/-! ### pass 2: suffix comments (before the reversal), pass 3: the reversal -/

/-- `assignSuffix` without the final reversal: the taken comments are appended in the order taken (last first) -/
def F2 : NodeF := fun span cs sufRev =>
  if span.1.line != span.2.line then (cs, sufRev) else
  let tr := takeSuffix span.2 [] sufRev
  ({ cs with suffix := cs.suffix ++ tr.1.reverse }, tr.2)

/-- pass 3 at a node: Go's `reverseComments(x.Comment().Suffix)` -/
def rev3C (c : Comments) : Comments := { c with suffix := c.suffix.reverse }

def F3 : NodeF := fun _ cs st => (rev3C cs, st)

def rev3Line (l : Line) : Line := { l with comments := rev3C l.comments }

def rev3 : Expr → Expr
  | .lineBlock b => .lineBlock { b with comments := rev3C b.comments, lparen := { b.lparen with comments := rev3C b.lparen.comments },
                                        lines := b.lines.map rev3Line, rparen := { b.rparen with comments := rev3C b.rparen.comments } }
  | s => s.setComments (rev3C s.comments)

theorem assignSuffix_eq (sp : Position × Position) (c : Comments) (suf : List Comment) :
    assignSuffix sp c suf = (rev3C (F2 sp c suf).1, (F2 sp c suf).2) := by
  unfold assignSuffix F2
  by_cases h : (sp.1.line != sp.2.line) = true
  · simp [h, rev3C]
  · simp [h, rev3C]

theorem postLinesRev_eq : ∀ (ls : List Line) (suf : List Comment),
    postLinesRev ls suf = ((travLines F2 ls suf).1.map rev3Line, (travLines F2 ls suf).2)
  | [], st => rfl
  | l :: ls, st => by
    simp only [postLinesRev, travLines, assignSuffix_eq, postLinesRev_eq ls, List.map_cons, rev3Line]

theorem postStmt_eq (s : Expr) (suf : List Comment) :
    postStmt s suf = (rev3 (travStmt .rpost F2 s suf).1, (travStmt .rpost F2 s suf).2) := by
  cases s <;> simp only [travStmt, postStmt, assignSuffix_eq, postLinesRev_eq, rev3, Expr.setComments, Expr.comments,
    List.map_reverse]

theorem postStmtsRev_eq : ∀ (ss : List Expr) (suf : List Comment),
    postStmtsRev ss suf = ((travStmts .rpost F2 ss suf).1.map rev3, (travStmts .rpost F2 ss suf).2)
  | [], st => rfl
  | s :: ss, st => by
    simp only [postStmtsRev, travStmts, postStmt_eq, postStmtsRev_eq ss, List.map_cons]

theorem travLines_F3 : ∀ (ls : List Line) (st : List Comment), travLines F3 ls st = (ls.map rev3Line, st)
  | [], st => rfl
  | l :: ls, st => by simp only [travLines, F3, travLines_F3 ls, List.map_cons, rev3Line]

theorem travStmt_F3 (s : Expr) (st : List Comment) : travStmt .post F3 s st = (rev3 s, st) := by
  cases s <;> simp only [travStmt, F3, travLines_F3, rev3]

theorem travStmts_F3 : ∀ (ss : List Expr) (st : List Comment), travStmts .post F3 ss st = (ss.map rev3, st)
  | [], st => rfl
  | s :: ss, st => by simp only [travStmts, travStmt_F3, travStmts_F3 ss, List.map_cons]

def Shrinks (F : NodeF) : Prop := ∀ sp c st, (F sp c st).2.length ≤ st.length

theorem F1_shrinks : Shrinks F1 := by
  intro sp c st
  simp only [F1, assignBefore]
  have := Proofs.ModfileAssign.takeLine_length sp.1 st
  omega

theorem F2_shrinks : Shrinks F2 := by
  intro sp c st
  simp only [F2]
  split
  · simp
  · have := Proofs.ModfileAssign.takeSuffix_length sp.2 st []
    simp only [List.length_nil] at this
    show (takeSuffix sp.2 [] st).2.length ≤ st.length
    omega

theorem F3_shrinks : Shrinks F3 := by
  intro sp c st; simp [F3]

theorem travLines_shrinks {F : NodeF} (hF : Shrinks F) : ∀ (ls : List Line) (st : List Comment),
    (travLines F ls st).2.length ≤ st.length
  | [], st => by simp [travLines]
  | l :: ls, st => by
    simp only [travLines]
    exact Nat.le_trans (travLines_shrinks hF ls _) (hF _ _ _)

theorem travStmt_shrinks {F : NodeF} (hF : Shrinks F) (o : Ord) (s : Expr) (st : List Comment) :
    (travStmt o F s st).2.length ≤ st.length := by
  cases s <;> try exact hF _ _ _
  rename_i b
  cases o <;> simp only [travStmt]
  · exact Nat.le_trans (hF _ _ _) (Nat.le_trans (travLines_shrinks hF _ _) (Nat.le_trans (hF _ _ _) (hF _ _ _)))
  · exact Nat.le_trans (hF _ _ _) (Nat.le_trans (travLines_shrinks hF _ _) (Nat.le_trans (hF _ _ _) (hF _ _ _)))
  · exact Nat.le_trans (hF _ _ _) (Nat.le_trans (hF _ _ _) (Nat.le_trans (travLines_shrinks hF _ _) (hF _ _ _)))


/-- a property of the comments of every node of a statement -/
def StmtP (P : Comments → Prop) : Expr → Prop
  | .lineBlock b => P b.comments ∧ P b.lparen.comments ∧ P b.rparen.comments ∧ ∀ l ∈ b.lines, P l.comments
  | s => P s.comments


/-- number of nodes of a statement list: 1 per comment block / line, 3 + lines per block -/
def nodeCount : List Expr → Nat
  | [] => 0
  | .lineBlock b :: ss => 3 + b.lines.length + nodeCount ss
  | _ :: ss => 1 + nodeCount ss

/-! ### a property of the node comments through a pass

  Used for the number of suffix comments at a node: `reverseComments` in pass 3 runs on fuel. -/

theorem travLines_P {F : NodeF} {P P' : Comments → Prop} {K : Nat} (hF : Shrinks F)
    (hPF : ∀ sp c st', st'.length ≤ K → P c → P' (F sp c st').1) : ∀ (ls : List Line) (st : List Comment),
    st.length ≤ K → (∀ l ∈ ls, P l.comments) → ∀ l ∈ (travLines F ls st).1, P' l.comments
  | [], st, _, _ => by simp [travLines]
  | l :: ls, st, hst, hP => by
    intro l' hl'
    simp only [travLines, List.mem_cons] at hl'
    rcases hl' with rfl | hl'
    · exact hPF _ _ _ hst (hP l (by simp))
    · exact travLines_P hF hPF ls _ (Nat.le_trans (hF _ _ _) hst) (fun l2 h2 => hP l2 (List.mem_cons_of_mem _ h2)) l' hl'

theorem travStmt_P {F : NodeF} {P P' : Comments → Prop} {K : Nat} (hF : Shrinks F)
    (hPF : ∀ sp c st', st'.length ≤ K → P c → P' (F sp c st').1) (o : Ord) (s : Expr) (st : List Comment)
    (hst : st.length ≤ K) (hP : StmtP P s) : StmtP P' (travStmt o F s st).1 := by
  cases s with
  | lineBlock b =>
    obtain ⟨h1, h2, h3, h4⟩ := hP
    cases o <;> simp only [travStmt, StmtP]
    · have a1 := Nat.le_trans (hF (Expr.lineBlock b).span b.comments st) hst
      have a2 := Nat.le_trans (hF (Expr.lparen b.lparen).span b.lparen.comments _) a1
      have a3 := Nat.le_trans (travLines_shrinks hF b.lines _) a2
      exact ⟨hPF _ _ _ hst h1, hPF _ _ _ a1 h2, hPF _ _ _ a3 h3, travLines_P hF hPF _ _ a2 h4⟩
    · have a1 := Nat.le_trans (hF (Expr.lineBlock b).span b.comments st) hst
      have a2 := Nat.le_trans (hF (Expr.rparen b.rparen).span b.rparen.comments _) a1
      have a3 := Nat.le_trans (travLines_shrinks hF b.lines.reverse _) a2
      refine ⟨hPF _ _ _ hst h1, hPF _ _ _ a3 h2, hPF _ _ _ a1 h3, ?_⟩
      intro l hl
      exact travLines_P hF hPF _ _ a2 (fun l2 h2' => h4 l2 (List.mem_reverse.1 h2')) l (List.mem_reverse.1 hl)
    · have a1 := Nat.le_trans (hF (Expr.lparen b.lparen).span b.lparen.comments st) hst
      have a2 := Nat.le_trans (travLines_shrinks hF b.lines _) a1
      have a3 := Nat.le_trans (hF (Expr.rparen b.rparen).span b.rparen.comments _) a2
      exact ⟨hPF _ _ _ a3 h1, hPF _ _ _ hst h2, hPF _ _ _ a2 h3, travLines_P hF hPF _ _ a1 h4⟩
  | commentBlock c => exact hPF _ _ _ hst hP
  | line l => exact hPF _ _ _ hst hP
  | lparen l => exact hPF _ _ _ hst hP
  | rparen l => exact hPF _ _ _ hst hP

theorem travStmts_P {F : NodeF} {P P' : Comments → Prop} {K : Nat} (hF : Shrinks F)
    (hPF : ∀ sp c st', st'.length ≤ K → P c → P' (F sp c st').1) (o : Ord) : ∀ (ss : List Expr) (st : List Comment),
    st.length ≤ K → (∀ s ∈ ss, StmtP P s) → ∀ s ∈ (travStmts o F ss st).1, StmtP P' s
  | [], st, _, _ => by simp [travStmts]
  | s :: ss, st, hst, hP => by
    intro s' hs'
    simp only [travStmts, List.mem_cons] at hs'
    rcases hs' with rfl | hs'
    · exact travStmt_P hF hPF o s st hst (hP s (by simp))
    · exact travStmts_P hF hPF o ss _ (Nat.le_trans (travStmt_shrinks hF o s st) hst)
        (fun s2 h2 => hP s2 (List.mem_cons_of_mem _ h2)) s' hs'

theorem F1_suffix (sp : Position × Position) (c : Comments) (st : List Comment) : (F1 sp c st).1.suffix = c.suffix := by
  simp [F1, assignBefore]

theorem F2_suffix_length (sp : Position × Position) (c : Comments) (st : List Comment) :
    (F2 sp c st).1.suffix.length ≤ c.suffix.length + st.length := by
  simp only [F2]
  split
  · show c.suffix.length ≤ _; omega
  · have := Proofs.ModfileAssign.takeSuffix_length sp.2 st []
    simp only [List.length_append, List.length_reverse, List.length_nil] at this ⊢
    omega

theorem travStmts_shrinks {F : NodeF} (hF : Shrinks F) (o : Ord) : ∀ (ss : List Expr) (st : List Comment),
    (travStmts o F ss st).2.length ≤ st.length
  | [], st => by simp [travStmts]
  | s :: ss, st => by
    simp only [travStmts]
    exact Nat.le_trans (travStmts_shrinks hF o ss _) (travStmt_shrinks hF o s st)

end ModVerif.TieFnParseComments
