/-
  go.work sessions of the regenerated edit operations (`Drv.GenEdit.applyWorkOp`, `runWorkOps`) against the model's
  (`Edit.applyWork`, `Edit.runOps`): Proofs/TieFnEditSessionB.lean once more over `RepW`, with the go.work operation ties of
  Tie/FnEditWork.lean and Tie/FnEditSort.lean.  What differs: the go.work `go` / `toolchain` setters RETURN their errors
  (`workAddGoStmt_err`), and `SetUse` gets its `Use` objects allocated by the driver (`newUses` = `allocUses`, which keeps
  `RepW` and establishes the `DirsOK` of the SetUse tie).
-/
import ModVerif.Proofs.TieFnEditSessionB
import ModVerif.Proofs.EditWorkKeepB
import ModVerif.Tie.FnEditWork
namespace ModVerif.Tie.FnEditSessionW
open ModVerif ModVerif.GoRt ModVerif.Generated.Edit ModVerif.Tie.FnEditRep ModVerif.Tie.FnEditSessionA
open ModVerif.Modfile.Edit (EWork EditErr applyWork SessionResult Along along_iff alongB alongB_sound)
open ModVerif.Drv.GenEdit (isPrintI quoteI applyWorkOp opNameD Run)
open ModVerif.TieFnEditAddLine (nodeCount)
open ModVerif.Tie.FnEditSortB (nodes)
open ModVerif.Tie.FnEditSortE (workSortFuel)
open ModVerif.Tie.FnEditSortG (workCleanSize)
open ModVerif.Tie.FnEditWorkE (DirsOK setUsePre)
open ModVerif.Tie.FnEditWorkEx (strip)
open ModVerif.Tie.FnEditStmtEx (optOK optOK_sound)

theorem noRet_workAddGodebug (e : EWork) (k v : Bytes) : Modfile.Edit.NoRet (Modfile.Edit.workAddGodebug e k v) := by
  rw [Modfile.Edit.workAddGodebug_eq]; exact Modfile.Edit.NoRet.ite _

theorem noRet_workDropGodebug (e : EWork) (k : Bytes) : Modfile.Edit.NoRet (Modfile.Edit.workDropGodebug e k) := by
  rw [Modfile.Edit.workDropGodebug_eq]; exact Modfile.Edit.NoRet.ite _

theorem noRet_addUse (e : EWork) (d m : Bytes) : Modfile.Edit.NoRet (Modfile.Edit.addUse e d m) := by
  rw [Modfile.Edit.addUse_eq]; exact Modfile.Edit.NoRet.ite _

theorem noRet_dropUse (e : EWork) (d : Bytes) : Modfile.Edit.NoRet (Modfile.Edit.dropUse e d) := by
  rw [Modfile.Edit.dropUse_eq]; exact Modfile.Edit.NoRet.ite _

theorem noRet_workAddReplace (e : EWork) (a b c d : Bytes) : Modfile.Edit.NoRet (Modfile.Edit.workAddReplace e a b c d) := by
  rw [Modfile.Edit.workAddReplace_eq]; exact Modfile.Edit.NoRet.ite _

theorem noRet_workDropReplace (e : EWork) (a b : Bytes) : Modfile.Edit.NoRet (Modfile.Edit.workDropReplace e a b) := by
  rw [Modfile.Edit.workDropReplace_eq]; exact Modfile.Edit.NoRet.ite _

theorem workAddGoStmt_err {e : EWork} {v : Bytes} {err : EditErr} (h : Modfile.Edit.workAddGoStmt e v = .error err) :
    err.isReturned = true := by
  unfold Modfile.Edit.workAddGoStmt at h
  split at h
  · cases h; rfl
  · split at h <;> cases h

theorem workAddToolchainStmt_err {e : EWork} {n : Bytes} {err : EditErr} (h : Modfile.Edit.workAddToolchainStmt e n = .error err) :
    err.isReturned = true := by
  unfold Modfile.Edit.workAddToolchainStmt at h
  split at h
  · cases h; rfl
  · split at h <;> cases h

/-! ### the `Use` objects of SetUse -/

/-- `newUses` of `Drv.GenEdit.applyWorkOp` -/
def newUses (l : List (Bytes × Bytes)) (h : Heap) : List Int × Heap :=
  l.foldl (fun (acc : List Int × Heap) u =>
    let (p, ul) := heapAlloc acc.2.uses ({ Path := u.1, ModulePath := u.2, Syntax := 0 } : Use)
    (acc.1 ++ [p], { acc.2 with uses := ul })) ([], h)

def allocUses : List (Bytes × Bytes) → Heap → List Int × Heap
  | [], h => ([], h)
  | w :: ws, h =>
    let r := allocUses ws { h with uses := h.uses ++ [({ Path := w.1, ModulePath := w.2, Syntax := 0 } : Use)] }
    (((h.uses.length + 1 : Nat) : Int) :: r.1, r.2)

theorem newUses_aux : ∀ (l : List (Bytes × Bytes)) (acc : List Int) (h : Heap),
    l.foldl (fun (acc : List Int × Heap) u =>
      let (p, ul) := heapAlloc acc.2.uses ({ Path := u.1, ModulePath := u.2, Syntax := 0 } : Use)
      (acc.1 ++ [p], { acc.2 with uses := ul })) (acc, h) = (acc ++ (allocUses l h).1, (allocUses l h).2)
  | [], acc, h => by simp [allocUses]
  | w :: ws, acc, h => by
    rw [List.foldl_cons]
    refine (newUses_aux ws (acc ++ [((h.uses.length + 1 : Nat) : Int)])
      { h with uses := h.uses ++ [({ Path := w.1, ModulePath := w.2, Syntax := 0 } : Use)] }).trans ?_
    simp only [allocUses, List.append_assoc, List.singleton_append]

theorem newUses_eq (l : List (Bytes × Bytes)) (h : Heap) : newUses l h = allocUses l h := by
  unfold newUses
  rw [newUses_aux]
  simp

theorem RepW_allocUse {h : Heap} {fp : Int} {e : EWork} (R : RepW h fp e) (v : Use) :
    RepW { h with uses := h.uses ++ [v] } fp e := by
  obtain ⟨o, ho, RA⟩ := R
  exact ⟨o, ho, RA.withUse (l' := h.uses ++ [v]) (RA.use.mono (fun _ _ x => heapGet_alloc_old v x) (Nat.le_refl _))⟩

theorem allocUses_spec : ∀ (ws : List (Bytes × Bytes)) {h : Heap} {fp : Int} {e : EWork}, RepW h fp e →
    RepW (allocUses ws h).2 fp e ∧ DirsOK (allocUses ws h).2 (allocUses ws h).1 ws ∧
      (∀ p v, heapGet h.uses p = .ok v → heapGet (allocUses ws h).2.uses p = .ok v)
  | [], h, fp, e, R => ⟨R, trivial, fun _ _ x => x⟩
  | w :: ws, h, fp, e, R => by
    obtain ⟨h1, h2, h3⟩ := allocUses_spec ws (RepW_allocUse R ({ Path := w.1, ModulePath := w.2, Syntax := 0 } : Use))
    refine ⟨h1, ⟨⟨_, h3 _ _ (heapGet_alloc_new _ _), rfl, rfl⟩, h2⟩, fun p v hv => h3 p v (heapGet_alloc_old _ hv)⟩

def maxLen : List (Bytes × Bytes) → Nat
  | [] => 0
  | w :: ws => max w.1.length (maxLen ws)

theorem le_maxLen : ∀ (ws : List (Bytes × Bytes)), ∀ w ∈ ws, w.1.length ≤ maxLen ws
  | [], _, h => by cases h
  | x :: xs, w, h => by
    simp only [maxLen]
    rcases List.mem_cons.1 h with rfl | h
    · omega
    · have := le_maxLen xs w h; omega

def stepFuelW (e : EWork) : EditSpec.Op → Nat
  | .addGo _ => e.f.syn.stmts.length + 1
  | .addToolchain _ => e.f.syn.stmts.length + 1
  | .addGodebug _ _ => max (nodeCount e.f.syn.stmts + 3) (e.f.godebug.length + 1)
  | .dropGodebug _ => e.f.godebug.length + 1
  | .addUse d _ => max (nodeCount e.f.syn.stmts + 3) (e.f.use.length + d.length + 1)
  | .addNewUse d _ => max (nodeCount e.f.syn.stmts + 3) (d.length + 1)
  | .dropUse _ => e.f.use.length + 1
  | .setUse ws => max (max (nodeCount e.f.syn.stmts + 3 * ws.length + 3) (maxLen ws + ws.length + 1))
      (max (e.f.use.length + 1) (match setUsePre e ws with
        | .ok e2 => workSortFuel e2
        | .error _ => 0))
  | .addReplace a _ c _ => max (max (a.length + 1) (c.length + 1)) (max (e.f.replace.length + 1) (nodeCount e.f.syn.stmts + 3))
  | .dropReplace _ _ => e.f.replace.length + 1
  | .sortBlocks => workSortFuel e
  | .cleanup => max (workCleanSize e + 1) (nodes e.f.syn.stmts + 1)
  | _ => 0

theorem outW_res_panic {r : M ((Option String) × Heap)} {h : Heap} {fp : Int} {x : Except EditErr EWork}
    (T : match x with
      | .ok e' => ∃ h', r = .ok (none, h') ∧ RepW h' fp e'
      | .error _ => r = .error .panic) (hx : Modfile.Edit.NoRet x) : Out RepW (some x) (resW r) h fp := by
  cases x with
  | ok e' => exact out_res_ok T
  | error err => exact out_res_error (hx err rfl) T

theorem outW_unit_panic {r : M (Unit × Heap)} {h : Heap} {fp : Int} {x : Except EditErr EWork}
    (T : match x with
      | .ok e' => ∃ h', r = .ok ((), h') ∧ RepW h' fp e'
      | .error _ => r = .error .panic) (hx : Modfile.Edit.NoRet x) : Out RepW (some x) (unitW r) h fp := by
  cases x with
  | ok e' => exact out_unit_ok T
  | error err => exact out_unit_error (hx err rfl) T

structure ScalarsLiveW (e : EWork) : Prop where
  go : ∀ g, e.f.go = some g → g.lineId ≠ 0
  toolchain : ∀ t, e.f.toolchain = some t → t.lineId ≠ 0

theorem scalarsLiveW_of_InvW {e : EWork} (hi : Modfile.Edit.InvW e) : ScalarsLiveW e :=
  ⟨(FnEditWork.scalarsLive_of_InvW hi).1, (FnEditWork.scalarsLive_of_InvW hi).2⟩

theorem applyWorkOp_out {h : Heap} {fp : Int} {e : EWork} (R : RepW h fp e) (op : EditSpec.Op) (hs : ScalarsLiveW e)
    (fuel : Nat) (hf : stepFuelW e op ≤ fuel) :
    Out RepW (applyWork e (opM op)) (applyWorkOp fuel fp h op) h fp := by
  -- as `FnEditSessionB.applyOp_out`: one case per operation, its tie read as `Out`
  cases op with
  | addGo v =>
    simp only [stepFuelW] at hf
    have T := FnEditWork.WorkFile_AddGoStmt_tie R v fuel hs.go hf
    exact out_res_ret (fun e' hx => by rw [hx] at T; exact T) fun err hx => ⟨workAddGoStmt_err hx, by rw [hx] at T; exact T⟩
  | dropGo => exact out_unit_ok (FnEditWork.WorkFile_DropGoStmt_tie R hs.go)
  | addToolchain n =>
    simp only [stepFuelW] at hf
    have T := FnEditWork.WorkFile_AddToolchainStmt_tie R n fuel hs.toolchain hf
    exact out_res_ret (fun e' hx => by rw [hx] at T; exact T) fun err hx => ⟨workAddToolchainStmt_err hx, by rw [hx] at T; exact T⟩
  | dropToolchain => exact out_unit_ok (FnEditWork.WorkFile_DropToolchainStmt_tie R hs.toolchain)
  | addGodebug k v =>
    simp only [stepFuelW, Nat.max_le] at hf
    exact outW_res_panic (FnEditWork.WorkFile_AddGodebug_tie R k v fuel (by omega) (by omega)) (noRet_workAddGodebug e k v)
  | dropGodebug k =>
    simp only [stepFuelW] at hf
    exact outW_res_panic (FnEditWork.WorkFile_DropGodebug_tie R k fuel hf) (noRet_workDropGodebug e k)
  | addUse d m =>
    simp only [stepFuelW, Nat.max_le] at hf
    exact outW_res_panic (FnEditWork.WorkFile_AddUse_tie R d m fuel (by omega) (by omega)) (noRet_addUse e d m)
  | addNewUse d m =>
    simp only [stepFuelW, Nat.max_le] at hf
    exact out_unit_ok (FnEditWork.WorkFile_AddNewUse_tie R d m fuel (by omega) (by omega))
  | dropUse d =>
    simp only [stepFuelW] at hf
    exact outW_res_panic (FnEditWork.WorkFile_DropUse_tie R d fuel hf) (noRet_dropUse e d)
  | setUse ws =>
    simp only [stepFuelW, Nat.max_le] at hf
    obtain ⟨R', hd, _⟩ := allocUses_spec ws R
    have T := FnEditWork.WorkFile_SetUse_tie R' (allocUses ws h).1 ws hd (maxLen ws) (le_maxLen ws) fuel (by omega) (by omega)
      (by omega) (by
        intro e2 he2
        rw [he2] at hf
        simp only [] at hf
        omega)
    rw [← newUses_eq] at T
    exact outW_unit_panic T (Modfile.Edit.NoRet.setUse e ws _)
  | addReplace a b c d =>
    simp only [stepFuelW, Nat.max_le] at hf
    exact outW_res_panic (FnEditWork.WorkFile_AddReplace_tie R a b c d fuel (by omega) (by omega) (by omega) (by omega))
      (noRet_workAddReplace e a b c d)
  | dropReplace a b =>
    simp only [stepFuelW] at hf
    exact outW_res_panic (FnEditWork.WorkFile_DropReplace_tie R a b fuel hf) (noRet_workDropReplace e a b)
  | sortBlocks =>
    simp only [stepFuelW] at hf
    exact out_unit_ok (FnEditSort.WorkFile_SortBlocks_tie R fuel hf)
  | cleanup =>
    simp only [stepFuelW, Nat.max_le] at hf
    exact out_unit_ok (FnEditSort.WorkFile_Cleanup_tie R fuel (by omega) (by omega))
  | addModule p => exact (rfl : applyWorkOp fuel fp h (.addModule p) = .ok (none, h))
  | addRequire p v => exact (rfl : applyWorkOp fuel fp h (.addRequire p v) = .ok (none, h))
  | addNewRequire p v i => exact (rfl : applyWorkOp fuel fp h (.addNewRequire p v i) = .ok (none, h))
  | dropRequire p => exact (rfl : applyWorkOp fuel fp h (.dropRequire p) = .ok (none, h))
  | setRequire w => exact (rfl : applyWorkOp fuel fp h (.setRequire w) = .ok (none, h))
  | setRequireSeparateIndirect w => exact (rfl : applyWorkOp fuel fp h (.setRequireSeparateIndirect w) = .ok (none, h))
  | addExclude p v => exact (rfl : applyWorkOp fuel fp h (.addExclude p v) = .ok (none, h))
  | dropExclude p v => exact (rfl : applyWorkOp fuel fp h (.dropExclude p v) = .ok (none, h))
  | addRetract a b c => exact (rfl : applyWorkOp fuel fp h (.addRetract a b c) = .ok (none, h))
  | dropRetract a b => exact (rfl : applyWorkOp fuel fp h (.dropRetract a b) = .ok (none, h))
  | addTool p => exact (rfl : applyWorkOp fuel fp h (.addTool p) = .ok (none, h))
  | dropTool p => exact (rfl : applyWorkOp fuel fp h (.dropTool p) = .ok (none, h))

structure StepOKW (fuel : Nat) (e : EWork) (op : EditSpec.Op) : Prop where
  fuel : stepFuelW e op ≤ fuel
  scalars : ScalarsLiveW e

def RunOKW (fuel : Nat) : EWork → List EditSpec.Op → Prop
  | _, [] => True
  | e, op :: ops =>
    StepOKW fuel e op ∧
      (∀ e', applyWork e (opM op) = some (.ok e') → RunOKW fuel e' ops) ∧
      (∀ err, applyWork e (opM op) = some (.error err) → err.isReturned = true → RunOKW fuel e ops)

theorem runOKW_iff (fuel : Nat) : ∀ ops e, RunOKW fuel e ops ↔ Along opM applyWork (StepOKW fuel) e ops :=
  along_iff (fun _ => Iff.rfl) fun _ _ _ => Iff.rfl

theorem runWorkOps_rel (fuel : Nat) (fp : Int) (ops : List EditSpec.Op) (h : Heap) (e : EWork) (acc : List Bool) (i : Nat)
    (R : RepW h fp e) (ok : RunOKW fuel e ops) :
    RunRel RepW fp ops i (Modfile.Edit.runOps applyWork e (ops.map opM) acc i) (Drv.GenEdit.runWorkOps fuel fp h ops acc) :=
  run_rel (run := Drv.GenEdit.runWorkOps fuel fp) (step := applyWorkOp fuel fp) (fun _ _ => rfl) (fun _ _ _ _ => rfl) fp
    (fun _ _ op R ok => applyWorkOp_out R op ok.scalars fuel ok.fuel) ops h e acc i R ((runOKW_iff fuel ops e).1 ok)

def FuelOKW (fuel : Nat) : EWork → List EditSpec.Op → Prop
  | _, [] => True
  | e, op :: ops =>
    stepFuelW e op ≤ fuel ∧
      (∀ e', applyWork e (opM op) = some (.ok e') → FuelOKW fuel e' ops) ∧
      (∀ err, applyWork e (opM op) = some (.error err) → err.isReturned = true → FuelOKW fuel e ops)

theorem fuelOKW_iff (fuel : Nat) : ∀ ops e, FuelOKW fuel e ops ↔ Along opM applyWork (fun e op => stepFuelW e op ≤ fuel) e ops :=
  along_iff (fun _ => Iff.rfl) fun _ _ _ => Iff.rfl

theorem runValidW_iff : ∀ ops e, Modfile.Edit.RunValidW e (ops.map opM) ↔
    Along opM applyWork (fun e op => Modfile.Edit.ValidArgsWAll e (opM op)) e ops :=
  along_iff (R := fun e ops => Modfile.Edit.RunValidW e (ops.map opM)) (fun _ => Iff.rfl) fun _ _ _ => Iff.rfl

theorem runOKW_of_valid (fuel : Nat) (ops : List EditSpec.Op) (e : EWork) (hi : Modfile.Edit.InvW e)
    (hv : Modfile.Edit.RunValidW e (ops.map opM)) (hf : FuelOKW fuel e ops) : RunOKW fuel e ops :=
  (runOKW_iff fuel ops e).2 <| Along.of_inv (fun e _ => Modfile.Edit.InvW e)
    (fun e _ _ hi hv => ⟨⟨hv.2, scalarsLiveW_of_InvW hi⟩, hi, fun e' hx => Modfile.Edit.applyWork_inv_all e e' _ hv.1 hi hx⟩)
    ops e hi (((runValidW_iff ops e).1 hv).and ((fuelOKW_iff fuel ops e).1 hf))

def stepOKWB (fuel : Nat) (e : EWork) (op : EditSpec.Op) : Bool :=
  decide (stepFuelW e op ≤ fuel) && optOK (·.lineId) e.f.go && optOK (·.lineId) e.f.toolchain

theorem stepOKWB_sound {fuel : Nat} {e : EWork} {op : EditSpec.Op} (h : stepOKWB fuel e op = true) : StepOKW fuel e op := by
  simp only [stepOKWB, Bool.and_eq_true, decide_eq_true_eq] at h
  exact ⟨h.1.1, optOK_sound h.1.2, optOK_sound h.2⟩

def runOKWB (fuel : Nat) : EWork → List EditSpec.Op → Bool := alongB opM applyWork (stepOKWB fuel)

theorem runOKWB_sound (fuel : Nat) (ops : List EditSpec.Op) (e : EWork) (h : runOKWB fuel e ops = true) : RunOKW fuel e ops :=
  (runOKW_iff fuel ops e).2 (alongB_sound (fun _ _ => stepOKWB_sound) ops e h)

def fuelOKWB (fuel : Nat) : EWork → List EditSpec.Op → Bool
  | _, [] => true
  | e, op :: ops =>
    decide (stepFuelW e op ≤ fuel) &&
      (match applyWork e (opM op) with
       | some (.ok e') => fuelOKWB fuel e' ops
       | some (.error err) => if err.isReturned then fuelOKWB fuel e ops else true
       | none => true)

theorem fuelOKWB_sound (fuel : Nat) : ∀ (ops : List EditSpec.Op) (e : EWork), fuelOKWB fuel e ops = true → FuelOKW fuel e ops
  | [], _, _ => trivial
  | op :: ops, e, h => by
    simp only [fuelOKWB, Bool.and_eq_true, decide_eq_true_eq] at h
    refine ⟨h.1, ?_, ?_⟩
    · intro e' hx
      have h2 := h.2
      rw [hx] at h2
      exact fuelOKWB_sound fuel ops e' h2
    · intro err hx hr
      have h2 := h.2
      rw [hx] at h2
      simp only [hr, if_true] at h2
      exact fuelOKWB_sound fuel ops e h2

def FinalFuelW (fuel : Nat) (e : EWork) (ops : List EditSpec.Op) : Prop :=
  ∀ e' res, Modfile.Edit.runOps applyWork e (ops.map opM) [] 0 = .done e' res → stepFuelW e' .cleanup ≤ fuel

def finalFuelWB (fuel : Nat) (e : EWork) (ops : List EditSpec.Op) : Bool :=
  match Modfile.Edit.runOps applyWork e (ops.map opM) [] 0 with
  | .done e' _ => decide (stepFuelW e' .cleanup ≤ fuel)
  | _ => true

theorem finalFuelWB_sound {fuel : Nat} {e : EWork} {ops : List EditSpec.Op} (h : finalFuelWB fuel e ops = true) :
    FinalFuelW fuel e ops := by
  intro e' res hx
  simp only [finalFuelWB, hx, decide_eq_true_eq] at h
  exact h

theorem of_parsedW {P : Modfile.WorkFile → Prop} (file : Bytes) (b : Modfile.WorkFile → Bool) (hb : ∀ f, b f = true → P f)
    (h : (match Modfile.parseWork (B "go.work") file none with
      | .ok f => b f
      | .error _ => true) = true) : ∀ f, Modfile.parseWork (B "go.work") file none = .ok f → P f := by
  intro f hp
  rw [hp] at h
  exact hb f h

/-- a definition for the reason given at `FnEditSessionE.parsedTest` -/
def parsedTestW (file : Bytes) (b : Modfile.WorkFile → Bool) : Bool :=
  match Modfile.parseWork (B "go.work") file none with
  | .ok f => b f
  | .error _ => true

theorem parsedTestW_sound {P : Modfile.WorkFile → Prop} (file : Bytes) (b : Modfile.WorkFile → Bool)
    (hb : ∀ f, b f = true → P f) (h : parsedTestW file b = true) :
    ∀ f, Modfile.parseWork (B "go.work") file none = .ok f → P f :=
  of_parsedW file b hb h

/-! ### reading a represented go.work heap back -/

open ModVerif.Tie.FnEditSessionD (getAll_rep readOpt_rep toOption_ok encSorted_congr)
open ModVerif.Drv.GenEdit (workM getAll)

theorem workM_rep {h : Heap} {fp : Int} {e : EWork} (R : RepW h fp e) : workM h fp = some (strip e.f) := by
  obtain ⟨o, ho, RA⟩ := R
  have hsyn := RA.syn.synM
  have hgd := getAll_rep RA.godebug.rel
  have hus := getAll_rep RA.use.rel
  have hrp := getAll_rep RA.replace.rel
  have hgo := readOpt_rep (fun g : Go => ({ version := g.Version, lineId := 0 } : Modfile.Go)) RA.go
  have htc := readOpt_rep (fun t : Toolchain => ({ name := t.Name, lineId := 0 } : Modfile.Toolchain)) RA.toolchain
  unfold workM
  simp only [bind, pure] at hgo htc ⊢
  simp only [ho, toOption_ok, hsyn, hgo, htc, hgd, hus, hrp, Option.bind_some,
    List.map_map]
  rfl

open ModVerif.Drv.Edit.M (dumpWork encSorted)

theorem dumpWork_strip (f : Modfile.WorkFile) : dumpWork (strip f) = dumpWork f := by
  unfold dumpWork strip
  simp only [Option.map_map]
  rw [encSorted_congr f.godebug, encSorted_congr f.replace, encSorted_congr f.use]
  · rfl
  all_goals (rw [List.map_map]; rfl)

theorem strip_syn (f : Modfile.WorkFile) : (strip f).syn = f.syn := rfl

def genWorkSession (fuel : Nat) (file : Bytes) (ops : List EditSpec.Op) : Option (List Bool × Modfile.WorkFile) :=
  match Modfile.parseWork (B "go.work") file none with
  | .error _ => none
  | .ok f =>
    match Drv.GenEdit.runWorkOps fuel (Drv.GenEdit.loadWork f).2 (Drv.GenEdit.loadWork f).1 ops [] with
    | .done h res =>
      match WorkFile_Cleanup fuel (Drv.GenEdit.loadWork f).2 h with
      | .ok (_, h') => (workM h' (Drv.GenEdit.loadWork f).2).map fun g => (res, g)
      | .error _ => none
    | _ => none

def modelWorkSession (file : Bytes) (ops : List EditSpec.Op) : Option (List Bool × Modfile.WorkFile) :=
  match Modfile.parseWork (B "go.work") file none with
  | .error _ => none
  | .ok f =>
    match Modfile.Edit.runOps applyWork (Modfile.Edit.loadWork f) (ops.map opM) [] 0 with
    | .done e res => some (res, strip (Modfile.Edit.workCleanup e).f)
    | _ => none

end ModVerif.Tie.FnEditSessionW
