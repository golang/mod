/-
  **C08 `untouched_lines_survive` for go.work sessions**: what each go.work operation does to the lines that existed
  before it (`OpKeepsW`), read off the tree program it runs (`progWork`, Proofs/EditWorkProg: every primitive keeps the
  lines it does not touch, `runT_keepsEq`; the lines a program touches are fresh, killed as duplicate replacements by
  SortBlocks, or lines of entries the operation names, `progWork_src`); one operation (`applyWork_untouched`) and whole
  sessions (`untouched_lines_survive_work`), SetUse included.
-/
import ModVerif.Proofs.EditMoreKeepD
import ModVerif.Proofs.EditRefineInvWork
import ModVerif.Proofs.EditWorkProg
namespace ModVerif.Modfile.Edit
open ModVerif ModVerif.Modfile

/-- all `use` lines for SetUse, which may remove any -/
def TargetsW : Op → List Bytes → Prop
  | .addGo _, t => t.head? = some (B "go")
  | .dropGo, t => t.head? = some (B "go")
  | .addToolchain _, t => t.head? = some (B "toolchain")
  | .dropToolchain, t => t.head? = some (B "toolchain")
  | .addGodebug k _, t => ∃ v, t = [B "godebug", k ++ [61] ++ v]
  | .dropGodebug k, t => ∃ v, t = [B "godebug", k ++ [61] ++ v]
  | .addUse d _, t => t = [B "use", autoQuote d]
  | .dropUse d, t => t = [B "use", autoQuote d]
  | .setUse _ _, t => t.head? = some (B "use")
  | .addReplace op _ _ _, t => ∃ r : Replace, r.old.path = op ∧ t = replaceToks r
  | .dropReplace op ov, t => ∃ r : Replace, r.old.path = op ∧ r.old.version = ov ∧ t = replaceToks r
  | _, _ => False

/-- the operations that end with SortBlocks, which removes duplicate replacements (`killEarlier`) -/
def SortsW : Op → Bool
  | .sortBlocks => true
  | .setUse _ _ => true
  | _ => false

def OpKeepsW (e e' : EWork) (op : Op) : Prop :=
  ∃ S : List Nat, KeepsBelow e.next S e.f.syn.stmts e'.f.syn.stmts ∧
    ∀ i ∈ S, (SortsW op = true ∧ i ∈ killEarlier e.f.replace) ∨
      ∃ en ∈ entriesW e.f, en.id = i ∧ ∀ t s, en.acc t s → TargetsW op t

def SrcW (e : EWork) (op : Op) (i : Nat) : Prop :=
  e.next ≤ i ∨ (SortsW op = true ∧ i ∈ killEarlier e.f.replace) ∨
    ∃ en ∈ entriesW e.f, en.id = i ∧ ∀ t s, en.acc t s → TargetsW op t

theorem OpKeepsW.of_prog {e e' : EWork} {op : Op} (ps : List TPrim) (h : treeOfW e' = runT ps (treeOfW e))
    (hpre : PreAll ps (treeOfW e)) (hsrc : ∀ i ∈ ps.flatMap TPrim.touched, SrcW e op i) : OpKeepsW e e' op := by
  obtain ⟨S, hk, hS⟩ := runT_keepsEq_below e.next ps (treeOfW e) hpre hsrc
  rw [← h] at hk
  exact ⟨S, fun x hx hlt hn => ⟨x, hk x hx hlt hn, x.le_refl⟩, hS⟩

theorem SrcW.of_entry {α : Type} {id : α → Nat} {e : EWork} {op : Op} (mk : α → Ent) (hmk : ∀ x, (mk x).id = id x) {x : α}
    (hmem : mk x ∈ entriesW e.f) (ht : ∀ t s, (mk x).acc t s → TargetsW op t) : SrcW e op (id x) :=
  .inr (.inr ⟨mk x, hmem, hmk x, ht⟩)

theorem mem_entriesW_go {f : WorkFile} {g : Go} (h : f.go = some g) : entGo g ∈ entriesW f := by
  simp [entriesW, h]
theorem mem_entriesW_toolchain {f : WorkFile} {g : Toolchain} (h : f.toolchain = some g) : entTc g ∈ entriesW f := by
  simp [entriesW, h]
theorem mem_entriesW_godebug {f : WorkFile} {g : Godebug} (h : g ∈ f.godebug) (hl : liveG g = true) : entG g ∈ entriesW f := by
  rw [entriesW_gd]
  exact List.mem_append_right _ (List.mem_append_left _ ((mem_entsOf liveG entG).2 ⟨g, h, hl, rfl⟩))
theorem mem_entriesW_use {f : WorkFile} {g : Use} (h : g ∈ f.use) (hl : liveU g = true) : entU g ∈ entriesW f := by
  rw [entriesW_use]
  exact List.mem_append_right _ (List.mem_append_left _ ((mem_entsOf liveU entU).2 ⟨g, h, hl, rfl⟩))
theorem mem_entriesW_replace {f : WorkFile} {g : Replace} (h : g ∈ f.replace) (hl : liveRp g = true) : entRp g ∈ entriesW f := by
  rw [entriesW_rp]
  exact List.mem_append_right _ (List.mem_append_left _ ((mem_entsOf liveRp entRp).2 ⟨g, h, hl, rfl⟩))

theorem InvW.acc_of_id {e : EWork} (hi : InvW e) {x : XLine} (hx : x ∈ viewX e.f.syn.stmts) {en : Ent} (hen : en ∈ entriesW e.f)
    (hid : en.id = x.id) : en.acc x.toks x.suffix := by
  rcases hi.mtch.cover en hen with ⟨v, hv, hvid, hacc⟩
  have : v = ⟨x.id, x.toks, x.suffix⟩ := view_unique hi.tree.nodup hv (view_of_viewX hx) (hvid.trans hid)
  rw [this] at hacc; exact hacc

theorem InvW.x_lt {e : EWork} (hi : InvW e) {x : XLine} (hx : x ∈ viewX e.f.syn.stmts) : x.id < e.next :=
  hi.tree.lt _ (viewX_id_mem hx)

/-- SetUse needs the state: every typed `use` live (a Cleanup has just run) -/
def ValidArgsWAll (e : EWork) : Op → Prop
  | .setUse w _ => GoodUse w ∧ ∀ u ∈ e.f.use, liveU u = true
  | op => ValidArgsW op

theorem applyWork_inv_all (e e' : EWork) (op : Op) (hv : ValidArgsWAll e op) (hi : InvW e) (h : applyWork e op = some (.ok e')) :
    InvW e' := by
  cases op with
  | setUse w r =>
    simp only [applyWork, Option.some.injEq] at h
    exact setUse_inv e e' w (permOf r) (permOf_perm r) hv.1 hi hv.2 h
  | _ => exact applyWork_inv e e' _ (by simpa [ValidArgsWAll] using hv) hi h

theorem preAll_append : ∀ (ps qs : List TPrim) (s : FileSyntax × Nat), PreAll ps s → PreAll qs (runT ps s) → PreAll (ps ++ qs) s
  | [], _, _, _, h => h
  | _ :: ps, qs, _, h1, h2 => ⟨h1.1, preAll_append ps qs _ h1.2 h2⟩

theorem setUseLoop_invW {e : EWork} (hi : InvW e) (hlive : ∀ u ∈ e.f.use, liveU u = true) {need need' : List (Bytes × Bytes)}
    {us : List Use} {syn' : FileSyntax} (hr : setUseLoop e.f.use need e.f.syn = .ok (us, need', syn')) :
    InvW (⟨{ e.f with use := us, syn := syn' }, e.next⟩ : EWork) := by
  rcases setUseLoop_inv (A := wA_use e.f) (C := wC_use e.f) e.next e.f.use [] need e.f.syn us need' syn'
    hlive hi.tree (by simp only [List.nil_append]; rw [← entriesW_use]; exact hi.mtch) hr with ⟨hw', hm'⟩
  refine ⟨hw', ?_, hi.winv.of_same rfl (Nat.le_refl _)⟩
  simp only [List.nil_append] at hm'
  rw [entriesW_use]; exact hm'

theorem preAll_addUses : ∀ (ws : List (Bytes × Bytes)) (e : EWork), InvW e → (∀ w ∈ ws, w.1 ≠ []) →
    PreAll (ws.map fun w => .add none (useTokens w.1)) (treeOfW e)
  | [], _, _, _ => trivial
  | w :: ws, e, hi, hne =>
    ⟨hi.view2, preAll_addUses ws (addNewUse e w.1 w.2) (addNewUse_inv e w.1 w.2 (hne w List.mem_cons_self) hi)
      (fun x hx => hne x (List.mem_cons_of_mem _ hx))⟩

theorem progWork_preAll (e e' : EWork) (op : Op) (hv : ValidArgsWAll e op) (hi : InvW e) (hc : op ≠ .cleanup)
    (h : applyWork e op = some (.ok e')) : PreAll (progWork e op) (treeOfW e) := by
  have v2 := hi.view2
  cases op <;> simp only [progWork]
  case addGo v => cases e.f.go <;> exact ⟨trivial, trivial⟩
  case dropGo => cases e.f.go <;> first | exact ⟨trivial, trivial⟩ | trivial
  case addToolchain n => cases e.f.toolchain <;> exact ⟨trivial, trivial⟩
  case dropToolchain => cases e.f.toolchain <;> first | exact ⟨trivial, trivial⟩ | trivial
  case addGodebug k v => exact preAll_setProg _ ⟨v2, trivial⟩
  case dropGodebug k => exact preAll_removes _ _
  case addUse d m => exact preAll_setProg _ ⟨v2, trivial⟩
  case addNewUse d m => exact ⟨v2, trivial⟩
  case dropUse d => exact preAll_removes _ _
  case setUse dirs rev =>
    simp only [applyWork, Option.some.injEq] at h
    unfold setUse at h
    simp only [bind, Except.bind] at h
    cases hr : setUseLoop e.f.use (useNeedMap dirs []) e.f.syn with
    | error err => simp [hr] at h
    | ok r =>
      obtain ⟨us, need', syn'⟩ := r
      have hi1 := setUseLoop_invW hi hv.2 hr
      obtain ⟨rfl, rfl⟩ := setUseLoop_tree _ _ _ _ _ _ hr
      rw [useNeedMap_distinct dirs [] (by simpa using hv.1.1), List.nil_append] at hr hi1 ⊢
      have hne : ∀ w ∈ permOf rev (setUseNeed e.f.use dirs), w.1 ≠ [] := fun w hw =>
        hv.1.2 w ((setUseLoop_abs _ _ _ _ _ _ hv.1 hr).2.subset ((permOf_perm rev _).subset hw))
      refine preAll_append _ _ _ (preAll_append _ _ _ (preAll_removes _ _) ?_) ⟨trivial, trivial, trivial⟩
      rw [runT_removes]
      exact preAll_addUses _ _ hi1 hne
  case addReplace a b c d => exact preAll_setProg _ ⟨v2, trivial⟩
  case dropReplace a b => exact preAll_removes _ _
  case sortBlocks => exact ⟨trivial, trivial, trivial⟩
  case cleanup => exact (hc rfl).elim
  all_goals trivial

theorem progWork_src (e : EWork) (op : Op) (hv : ValidArgsWAll e op) : ∀ i ∈ (progWork e op).flatMap TPrim.touched, SrcW e op i := by
  have scalar : ∀ {id : Nat} (en : Ent), en.id = id → en ∈ entriesW e.f → (∀ t s, en.acc t s → TargetsW op t) →
      ∀ i ∈ [id], SrcW e op i :=
    fun en hid hen ht i hi => List.mem_singleton.1 hi ▸ .inr (.inr ⟨en, hen, hid, ht⟩)
  cases op <;> simp only [progWork]
  case addGo v =>
    cases hg : e.f.go with
    | none => simp [TPrim.touched]
    | some g =>
      simp only [List.flatMap_cons, TPrim.touched, List.flatMap_nil, List.append_nil]
      exact scalar (entGo g) rfl (mem_entriesW_go hg) fun t s h => by simp only [entGo] at h; rw [h]; rfl
  case dropGo =>
    cases hg : e.f.go with
    | none => simp
    | some g =>
      simp only [List.flatMap_cons, TPrim.touched, List.flatMap_nil, List.append_nil]
      exact scalar (entGo g) rfl (mem_entriesW_go hg) fun t s h => by simp only [entGo] at h; rw [h]; rfl
  case addToolchain n =>
    cases hg : e.f.toolchain with
    | none => simp [TPrim.touched]
    | some g =>
      simp only [List.flatMap_cons, TPrim.touched, List.flatMap_nil, List.append_nil]
      exact scalar (entTc g) rfl (mem_entriesW_toolchain hg) fun t s h => by simp only [entTc] at h; rw [h]; rfl
  case dropToolchain =>
    cases hg : e.f.toolchain with
    | none => simp
    | some g =>
      simp only [List.flatMap_cons, TPrim.touched, List.flatMap_nil, List.append_nil]
      exact scalar (entTc g) rfl (mem_entriesW_toolchain hg) fun t s h => by simp only [entTc] at h; rw [h]; rfl
  case addGodebug k v =>
    refine touched_setProg _ (fun x hx hm => SrcW.of_entry entG (fun _ => rfl) (mem_entriesW_godebug hx (ne_nil_of_beq hv hm)) ?_) (by simp [TPrim.touched])
    intro t s hacc; simp only [entG] at hacc; exact ⟨x.value, by rw [hacc, eq_of_beq hm]⟩
  case dropGodebug k =>
    refine touched_clearProg (fun x hx hm => SrcW.of_entry entG (fun _ => rfl) (mem_entriesW_godebug hx (ne_nil_of_beq hv hm)) ?_)
    intro t s hacc; simp only [entG] at hacc; exact ⟨x.value, by rw [hacc, eq_of_beq hm]⟩
  case addUse d m =>
    refine touched_setProg _ (fun x hx hm => SrcW.of_entry entU (fun _ => rfl) (mem_entriesW_use hx (ne_nil_of_beq hv hm)) ?_) (by simp [TPrim.touched])
    intro t s hacc; simp only [entU] at hacc; show t = _; rw [hacc, eq_of_beq hm]
  case addNewUse d m => simp [TPrim.touched]
  case dropUse d =>
    refine touched_clearProg (fun x hx hm => SrcW.of_entry entU (fun _ => rfl) (mem_entriesW_use hx (ne_nil_of_beq hv hm)) ?_)
    intro t s hacc; simp only [entU] at hacc; show t = _; rw [hacc, eq_of_beq hm]
  case setUse dirs rev =>
    intro i hi
    simp only [List.flatMap_append, touched_removes, List.flatMap_cons, TPrim.touched, List.flatMap_nil, List.append_nil,
      List.mem_append] at hi
    rcases hi with (hi | hi) | hi
    · obtain ⟨u, hu, rfl⟩ := List.mem_map.1 ((setUseDead_sublist _ _).subset hi)
      exact SrcW.of_entry (id := (·.lineId)) (op := .setUse dirs rev) entU (fun _ => rfl) (mem_entriesW_use hu (hv.2 u hu))
        fun t s hacc => by simp only [entU] at hacc; show t.head? = _; rw [hacc]; rfl
    · obtain ⟨p, hp, hi⟩ := List.mem_flatMap.1 hi
      obtain ⟨w, _, rfl⟩ := List.mem_map.1 hp
      cases hi
    · exact .inr (.inl ⟨rfl, hi⟩)
  case addReplace a b c d =>
    refine touched_setProg _ (fun x hx hm => ?_) (by simp [TPrim.touched])
    simp only [Bool.and_eq_true] at hm
    refine SrcW.of_entry entRp (fun _ => rfl) (mem_entriesW_replace hx (ne_nil_of_beq hv hm.1)) ?_
    intro t s hacc; simp only [entRp] at hacc; exact ⟨x, eq_of_beq hm.1, hacc⟩
  case dropReplace a b =>
    refine touched_clearProg (fun x hx hm => ?_)
    simp only [Bool.and_eq_true] at hm
    refine SrcW.of_entry entRp (fun _ => rfl) (mem_entriesW_replace hx (ne_nil_of_beq hv hm.1)) ?_
    intro t s hacc; simp only [entRp] at hacc; exact ⟨x, eq_of_beq hm.1, eq_of_beq hm.2, hacc⟩
  case sortBlocks =>
    simp only [List.flatMap_cons, TPrim.touched, List.flatMap_nil, List.append_nil]
    exact fun i hi => .inr (.inl ⟨rfl, hi⟩)
  all_goals simp [TPrim.touched]

theorem applyWork_opKeeps (e e' : EWork) (op : Op) (hv : ValidArgsWAll e op) (hi : InvW e) (h : applyWork e op = some (.ok e')) :
    OpKeepsW e e' op := by
  by_cases hc : op = .cleanup
  · subst hc
    simp only [applyWork, Option.some.injEq, Except.ok.injEq] at h
    subst h
    exact ⟨[], (keeps_cleanupStmts _).below _, fun _ hi' => by cases hi'⟩
  · exact OpKeepsW.of_prog _ (applyWork_prog e e' op h) (progWork_preAll e e' op hv hi hc h) (progWork_src e op hv)

/-- Props/C08 `op_untouched_line_survives_work` -/
theorem applyWork_untouched (e e' : EWork) (op : Op) (hv : ValidArgsWAll e op) (hi : InvW e) (h : applyWork e op = some (.ok e'))
    (x : XLine) (hx : x ∈ viewX e.f.syn.stmts) (hnt : ¬TargetsW op x.toks)
    (hk : SortsW op = true → x.id ∉ killEarlier e.f.replace) :
    ∃ x' ∈ viewX e'.f.syn.stmts, x.le x' := by
  rcases applyWork_opKeeps e e' op hv hi h with ⟨S, hS, hsrc⟩
  refine hS x hx (hi.x_lt hx) ?_
  intro hs
  rcases hsrc _ hs with ⟨h1, h2⟩ | ⟨en, hen, hid, ht⟩
  · exact hk h1 h2
  · exact hnt (ht _ _ (hi.acc_of_id hx hen hid))

def RunValidW : EWork → List Op → Prop
  | _, [] => True
  | e, op :: ops =>
    ValidArgsWAll e op ∧
      (∀ e', applyWork e op = some (.ok e') → RunValidW e' ops) ∧
      (∀ err, applyWork e op = some (.error err) → err.isReturned = true → RunValidW e ops)

def SparedW (toks : List Bytes) (id : Nat) : EWork → List Op → Prop
  | _, [] => True
  | e, op :: ops =>
    ¬TargetsW op toks ∧ (SortsW op = true → id ∉ killEarlier e.f.replace) ∧
      (∀ e', applyWork e op = some (.ok e') → SparedW toks id e' ops) ∧
      (∀ err, applyWork e op = some (.error err) → err.isReturned = true → SparedW toks id e ops)

theorem runOpsWork_inv_all (ops : List Op) (e : EWork) (res0 : List Bool) (i : Nat) (e' : EWork) (res : List Bool)
    (hv : RunValidW e ops) (hi : InvW e) (h : runOps applyWork e ops res0 i = .done e' res) : InvW e' :=
  (runOps_done_induct applyWork (fun e ops => RunValidW e ops ∧ InvW e)
    (fun e op _ e1 hp ha => ⟨hp.1.2.1 e1 ha, applyWork_inv_all e e1 op hp.1.1 hp.2 ha⟩)
    (fun _ _ _ err hp ha hr => ⟨hp.1.2.2 err ha hr, hp.2⟩) ops e res0 i e' res ⟨hv, hi⟩ h).2

theorem runOpsWork_untouched (ops : List Op) (e : EWork) (res0 : List Bool) (i : Nat) (e' : EWork) (res : List Bool)
    (hv : RunValidW e ops) (hi : InvW e) (h : runOps applyWork e ops res0 i = .done e' res)
    (x : XLine) (hx : x ∈ viewX e.f.syn.stmts) (hsp : SparedW x.toks x.id e ops) : ∃ x' ∈ viewX e'.f.syn.stmts, x.le x' := by
  have := runOps_done_induct applyWork
    (fun e ops => RunValidW e ops ∧ InvW e ∧ ∃ y ∈ viewX e.f.syn.stmts, x.le y ∧ SparedW y.toks y.id e ops)
    (fun e op ops e1 hp ha => by
      obtain ⟨hv, hi, y, hy, hxy, hsp⟩ := hp
      obtain ⟨z, hz, hyz⟩ := applyWork_untouched e e1 op hv.1 hi ha y hy hsp.1 hsp.2.1
      exact ⟨hv.2.1 e1 ha, applyWork_inv_all e e1 op hv.1 hi ha, z, hz, XLine.le_trans hxy hyz,
        by rw [hyz.1, hyz.2.1]; exact hsp.2.2.1 e1 ha⟩)
    (fun e op ops err hp ha hr => by
      obtain ⟨hv, hi, y, hy, hxy, hsp⟩ := hp
      exact ⟨hv.2.2 err ha hr, hi, y, hy, hxy, hsp.2.2.2 err ha hr⟩)
    ops e res0 i e' res ⟨hv, hi, x, hx, x.le_refl, hsp⟩ h
  obtain ⟨_, _, y, hy, hxy, _⟩ := this
  exact ⟨y, hy, hxy⟩

/-- Props/C08 `untouched_lines_survive_work` -/
theorem untouched_lines_survive_work (e e' : EWork) (ops : List Op) (res : List Bool) (hi : InvW e) (hv : RunValidW e ops)
    (h : runOps applyWork e ops [] 0 = .done e' res) (x : XLine) (hx : x ∈ viewX e.f.syn.stmts)
    (hsp : SparedW x.toks x.id e ops) :
    ∃ x' ∈ viewX (workCleanup e').f.syn.stmts, x'.id = x.id ∧ x'.toks = x.toks ∧ x.before.Sublist x'.before ∧
      x.suffix.Sublist x'.suffix := by
  rcases runOpsWork_untouched ops e [] 0 e' res hv hi h x hx hsp with ⟨y, hy, hxy⟩
  rcases keeps_cleanupStmts e'.f.syn.stmts y hy (by simp) with ⟨z, hz, hyz⟩
  exact ⟨z, hz, XLine.le_trans hxy hyz⟩

end ModVerif.Modfile.Edit
