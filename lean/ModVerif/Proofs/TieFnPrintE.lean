/-
  Helper lemmas for Tie/FnPrint.lean: the statement loop of `printer.file`, `printer.file`, and the
  trailing-blank-line loop of `Format`.
-/
import ModVerif.Proofs.TieFnPrintD
namespace ModVerif.TieFnPrint
open ModVerif ModVerif.GoRt ModVerif.GoRtPrint ModVerif.Modfile
open ModVerif.Generated.Print
open ModVerif.Drv.GenPrint (G.pos G.com G.coms G.line G.lparen G.rparen G.expr G.file)

theorem expr_After (s : Modfile.Expr) : (Expr_Comments (G.expr s)).After = s.comments.after.map G.com := by
  cases s <;> rfl

theorem stmts_loop (M : Nat) (gf : Generated.Print.FileSyntax) (rest : List Modfile.Expr) :
    ∀ (pre : List Modfile.Expr) (fuel : Nat) (mp : Printer),
    gf.Stmt = (pre ++ rest).map G.expr → mp.margin + 1 ≤ M → pot M mp + cStmts M rest ≤ fuel →
    ∃ r, printer_file_loop2 ((pre ++ rest).map G.expr) gf fuel (pre.length : Int) (emb mp)
      = .ok (r, emb (mp.stmts rest)) := by
  induction rest with
  | nil =>
    intro pre fuel mp hst hm hf
    obtain ⟨f, rfl⟩ : ∃ f, fuel = f + 1 := ⟨fuel - 1, by simp only [cStmts] at hf; omega⟩
    rw [printer_file_loop2]
    have hc : decide ((pre.length : Int) < len ((pre ++ []).map G.expr)) = false := by simp [len_eq]
    simp only [hc, Bool.false_eq_true, if_false, pure_eq_ok, Printer.stmts]
    exact ⟨_, rfl⟩
  | cons s rest ih =>
    intro pre fuel mp hst hm hf
    simp only [cStmts] at hf
    obtain ⟨f, rfl⟩ : ∃ f, fuel = f + 1 := ⟨fuel - 1, by omega⟩
    have hm0 : mp.margin ≤ M := by omega
    have hc : decide ((pre.length : Int) < len ((pre ++ s :: rest).map G.expr)) = true := by simp [len_eq]; omega
    have hi : idxL ((pre ++ s :: rest).map G.expr) (pre.length : Int) = .ok (G.expr s) := by
      have := idxL_append_length (pre.map G.expr) (G.expr s) (rest.map G.expr)
      simpa using this
    have he := expr_sim M mp s f hm (by omega)
    have pe := expr_pot M mp s hm
    have hn := newline_sim M (mp.expr s) f (by simp; omega) (by omega)
    have pn := newline_pot M (mp.expr s) (by simp; omega)
    have hlast : decide ((pre.length : Int) + 1 < len gf.Stmt) = !rest.isEmpty := by
      rw [hst]; cases rest <;> simp [len_eq] <;> omega
    rw [stmts_cons, printer_file_loop2]
    simp only [hc, if_true, hi, bind_ok, expr_After, hlast]
    have hpre : pre ++ s :: rest = (pre ++ [s]) ++ rest := by simp
    have key : ∀ q : Printer, q.margin = mp.margin → pot M q ≤ pot M mp + cExpr M s + cNewline M →
        ∃ r, (do
          let r3 ← printer_file_loop3 (List.map G.com s.comments.after) (G.expr s) f 0 (emb q)
          if (!rest.isEmpty) = true then (do
            let t14 ← printer_newline f r3.snd
            printer_file_loop2 (List.map G.expr (pre ++ s :: rest)) gf f ((pre.length : Int) + 1) t14.snd)
          else printer_file_loop2 (List.map G.expr (pre ++ s :: rest)) gf f ((pre.length : Int) + 1) r3.snd)
        = .ok (r, emb ((if rest.isEmpty then q.commentLines s.comments.after
                         else (q.commentLines s.comments.after).newline).stmts rest)) := by
      intro q hq hp
      obtain ⟨r3, h3⟩ := file_loop3_sim M s.comments.after (G.expr s) f q (by omega) (by omega)
      have p3 := commentLines_pot M s.comments.after q (by omega)
      have hn2 := newline_sim M (q.commentLines s.comments.after) f (by simp; omega) (by omega)
      have pn2 := newline_pot M (q.commentLines s.comments.after) (by simp; omega)
      rw [h3]
      simp only [bind_ok]
      have hst' : gf.Stmt = List.map G.expr (pre ++ [s] ++ rest) := by rw [hst, hpre]
      rw [hpre, range_next pre s]
      cases hr : rest.isEmpty
      · simp only [Bool.not_false, if_true, Bool.false_eq_true, if_false]
        rw [hn2]
        simp only [bind_ok]
        exact ih (pre ++ [s]) f _ hst' (by simp; omega) (by omega)
      · simp only [Bool.not_true, Bool.false_eq_true, if_false, if_true]
        exact ih (pre ++ [s]) f _ hst' (by simp; omega) (by omega)
    cases s with
    | commentBlock x =>
      simp only [G.expr] at he ⊢
      rw [he]
      simp only [bind_ok]
      have := exprCommentBlock_pot M mp x hm0
      exact key (mp.exprCommentBlock x) (by simp) (by simp only [cExpr]; omega)
    | line x =>
      simp only [G.expr] at he ⊢
      rw [he]
      simp only [bind_ok]
      rw [hn]
      simp only [bind_ok]
      exact key (mp.expr (.line x)).newline (by simp) (by omega)
    | lineBlock x =>
      simp only [G.expr] at he ⊢
      rw [he]
      simp only [bind_ok]
      rw [hn]
      simp only [bind_ok]
      exact key (mp.expr (.lineBlock x)).newline (by simp) (by omega)
    | lparen x =>
      simp only [G.expr] at he ⊢
      rw [he]
      simp only [bind_ok]
      rw [hn]
      simp only [bind_ok]
      exact key (mp.expr (.lparen x)).newline (by simp) (by omega)
    | rparen x =>
      simp only [G.expr] at he ⊢
      rw [he]
      simp only [bind_ok]
      rw [hn]
      simp only [bind_ok]
      exact key (mp.expr (.rparen x)).newline (by simp) (by omega)

theorem file_sim (M : Nat) (mp : Printer) (f : Modfile.FileSyntax) (fuel : Nat)
    (hm : mp.margin + 1 ≤ M) (hf : pot M mp + cFile M f ≤ fuel) :
    printer_file fuel (emb mp) (G.file f) = .ok ((), emb (mp.file f)) := by
  unfold printer_file
  simp only [cFile] at hf
  have hb : (G.file f).Comments.Before = f.comments.before.map G.com := rfl
  have hs : (G.file f).Stmt = f.stmts.map G.expr := rfl
  obtain ⟨r1, h1⟩ := file_loop1_sim M f.comments.before (G.file f) fuel mp (by omega) (by omega)
  have p1 := commentLines_pot M f.comments.before mp (by omega)
  obtain ⟨r2, h2⟩ := stmts_loop M (G.file f) f.stmts [] fuel (mp.commentLines f.comments.before) hs
    (by simpa using hm) (by omega)
  simp only [List.nil_append, List.length_nil] at h2
  have z : ((0 : Nat) : Int) = (0 : Int) := rfl
  rw [z] at h2
  simp only [hb, hs, h1, bind_ok, h2, pure_eq_ok]
  rfl

theorem trimTrailingBlank_ne (c : UInt8) (R : Bytes) (h : c ≠ 10) : trimTrailingBlank (c :: R) = c :: R := by
  unfold trimTrailingBlank
  split
  · rename_i heq; cases heq; exact absurd rfl h
  · rfl

theorem format_loop (R : Bytes) : ∀ fuel : Nat, R.length + 1 ≤ fuel →
    Format_loop1 fuel R.reverse = .ok (trimTrailingBlank R).reverse := by
  induction R with
  | nil =>
    intro fuel hf
    obtain ⟨f, rfl⟩ : ∃ f, fuel = f + 1 := ⟨fuel - 1, by simp at hf; omega⟩
    simp [Format_loop1, trimTrailingBlank]
  | cons c R ih =>
    intro fuel hf
    obtain ⟨f, rfl⟩ : ∃ f, fuel = f + 1 := ⟨fuel - 1, by simp at hf; omega⟩
    have hf' : R.length + 1 ≤ f := by simp at hf; omega
    have hpos : decide (len (c :: R).reverse > 0) = true := by simp [len_eq]
    have e10c : decide (((c.toNat : Nat) : Int) = 10) = (c == 10) := decide_byte_eq c 10 (by omega)
    rw [Format_loop1]
    simp only [hpos, if_true, idx_last, bind_ok, pure_eq_ok, e10c]
    by_cases hc : c = 10
    · subst hc
      simp only [beq_self_eq_true, if_true]
      cases R with
      | nil =>
        have h1 : decide (len ([10] : Bytes).reverse = 1) = true := by simp [len_eq]
        simp only [h1, if_true, bind_ok, sliceTo_drop_last]
        have := ih f hf'
        simpa [trimTrailingBlank] using this
      | cons d R =>
        have h1 : decide (len (10 :: d :: R).reverse = 1) = false := by simp [len_eq]; omega
        have e10d : decide (((d.toNat : Nat) : Int) = 10) = (d == 10) := decide_byte_eq d 10 (by omega)
        simp only [h1, Bool.false_eq_true, if_false, idx_last2, bind_ok, e10d]
        by_cases hd : d = 10
        · subst hd
          simp only [beq_self_eq_true, if_true, sliceTo_drop_last, bind_ok]
          rw [ih f hf']
          simp [trimTrailingBlank]
        · have : (d == 10) = false := by simp [hd]
          simp only [this, Bool.false_eq_true, if_false]
          have e : trimTrailingBlank (10 :: d :: R) = 10 :: d :: R := by
            simp [trimTrailingBlank, hd]
          rw [e]
    · have : (c == 10) = false := by simp [hc]
      simp only [this, Bool.false_eq_true, if_false, bind_ok]
      rw [trimTrailingBlank_ne c R hc]

/-! ### the fuel bounds of the tie theorems (the costs of TieFnPrintC at the margin the state actually has) -/

/-- fuel for `newline`: buffer length + Σ over pending comments (|TrimSpace text| + margin + 2) + margin + 4 -/
def newlineFuel (mp : Printer) : Nat := pot mp.margin mp + cNewline mp.margin

/-- fuel for `expr`: inside a block the margin is one more -/
def exprFuel (mp : Printer) (x : Modfile.Expr) : Nat := pot (mp.margin + 1) mp + cExpr (mp.margin + 1) x

def fileFuel (mp : Printer) (f : Modfile.FileSyntax) : Nat := pot (mp.margin + 1) mp + cFile (mp.margin + 1) f

/-- fuel for `Format`: the cost of the file at margin ≤ 1 (the printer starts empty at margin 0) -/
def fuelBound (f : Modfile.FileSyntax) : Nat := cFile 1 f

theorem format_sim (f : Modfile.FileSyntax) (fuel : Nat) (hf : fuelBound f ≤ fuel) :
    Format fuel (G.file f) = .ok (Modfile.format f) := by
  unfold Format fuelBound at *
  have h1 := file_sim 1 {} f fuel (by simp) (by simpa [pot, cComs] using hf)
  have p1 := file_pot 1 {} f (by simp)
  have hL := pot_len 1 (Printer.file {} f)
  have p0 : pot 1 ({} : Printer) = 0 := rfl
  rw [emb_default]
  simp only []
  rw [h1]
  simp only [bind_ok, emb_Buffer]
  rw [format_loop _ fuel (by omega)]
  rfl

end ModVerif.TieFnPrint
