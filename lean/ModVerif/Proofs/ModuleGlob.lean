/-
  Helper lemmas for C06: MatchPrefixPatterns' prefix walk against the element-wise specification.
-/
import ModVerif.Model.Module
import ModVerif.Spec.PathSpec
import ModVerif.Proofs.ModulePath
namespace ModVerif.Module
open ModVerif

theorem joinWith_cons_cons (sep x y : Bytes) (ys : List Bytes) :
    joinWith sep (x :: y :: ys) = x ++ sep ++ joinWith sep (y :: ys) := by
  simp [joinWith]

theorem joinWith_cons_head (sep : Bytes) (c : UInt8) (hd : Bytes) (l : List Bytes) :
    joinWith sep ((c :: hd) :: l) = c :: joinWith sep (hd :: l) := by
  cases l with
  | nil => simp [joinWith]
  | cons y ys => simp [joinWith_cons_cons]

theorem cutPrefix_eq (t : Bytes) : ∀ n : Nat,
    cutPrefix n t = if n + 1 ≤ (splitOn 47 t).length then some (PathSpec.firstElems (n + 1) t) else none := by
  unfold PathSpec.firstElems
  induction t with
  | nil =>
    intro n
    cases n <;> simp [cutPrefix, splitOn, joinWith]
  | cons c rest ih =>
    intro n
    by_cases hc : c = 47
    · subst hc
      rw [splitOn_cons_sep]
      cases n with
      | zero => simp [cutPrefix, joinWith]
      | succ k =>
        simp only [cutPrefix, beq_self_eq_true, if_true, ih k, List.length_cons]
        obtain ⟨y, ys, hy⟩ : ∃ y ys, (splitOn 47 rest).take (k + 1) = y :: ys := by
          cases hs : splitOn 47 rest with
          | nil => exact absurd hs (splitOn_ne_nil 47 rest)
          | cons a as => exact ⟨a, as.take k, by simp⟩
        by_cases hle : k + 1 ≤ (splitOn 47 rest).length
        · have : k + 1 + 1 ≤ (splitOn 47 rest).length + 1 := by omega
          simp only [hle, this, if_true, Option.map_some, List.take_succ_cons, hy, joinWith_cons_cons]
          simp
        · have : ¬ (k + 1 + 1 ≤ (splitOn 47 rest).length + 1) := by omega
          simp [hle, this]
    · obtain ⟨hd, tl, h1, h2⟩ := splitOn_cons_ne_head 47 c rest hc
      have hc' : (c == 47) = false := by simpa using hc
      simp only [cutPrefix, hc', Bool.false_eq_true, if_false, ih n, h1, h2, List.length_cons]
      by_cases hle : n + 1 ≤ tl.length + 1
      · simp only [hle, if_true, Option.map_some, List.take_succ_cons, joinWith_cons_head]
      · simp [hle]

theorem trimSuffixB_slash (g : Bytes) : trimSuffixB g [47] = PathSpec.dropTrailingSlash g := by
  unfold trimSuffixB PathSpec.dropTrailingSlash hasSuffixB
  have h1 : isPrefixOfB ([47] : Bytes).reverse g.reverse = true ↔ g.getLast? = some 47 := by
    cases hr : g.reverse with
    | nil =>
      have : g = [] := by simpa using hr
      subst this; simp [isPrefixOfB]
    | cons x xs =>
      have hg : g = xs.reverse ++ [x] := by
        have := congrArg List.reverse hr; simpa using this
      subst hg
      simp [isPrefixOfB]
      exact eq_comm
  by_cases h : g.getLast? = some 47
  · rw [if_pos (h1.mpr h), if_pos h, List.dropLast_eq_take]; simp
  · rw [if_neg (fun hh => h (h1.mp hh)), if_neg h]

theorem matchOne_iff (glob : Bytes → Bytes → Bool) (g target : Bytes) :
    matchOne glob g target = true ↔
      PathSpec.dropTrailingSlash g ≠ [] ∧
      (PathSpec.dropTrailingSlash g).count 47 + 1 ≤ (splitOn 47 target).length ∧
      glob (PathSpec.dropTrailingSlash g)
        (PathSpec.firstElems ((PathSpec.dropTrailingSlash g).count 47 + 1) target) = true := by
  unfold matchOne
  simp only [trimSuffixB_slash, cutPrefix_eq]
  by_cases he : PathSpec.dropTrailingSlash g = []
  · simp [he]
  · have : (PathSpec.dropTrailingSlash g).isEmpty = false := by simpa using he
    simp only [this, Bool.false_eq_true, if_false]
    by_cases hle : (PathSpec.dropTrailingSlash g).count 47 + 1 ≤ (splitOn 47 target).length
    · simp [hle, he]
    · simp [hle]

end ModVerif.Module
