/-
  Tie between `ClientFetch.lookupFile` (the key used in `Props.C14.fetch_once`) and the sequential
  client model: `Client.lookup` of Model/Client.lean consults its record cache under exactly `lookupFile`, and the work
  function (`lookupWork`: the only place where the lookup file is read from cache or network) is run with that file.
-/
import ModVerif.Model.Client
import ModVerif.Proofs.ClientMoreFetch
namespace ModVerif.ClientFetch
open ModVerif ModVerif.Client

variable {σ H : Type} [DecidableEq H]

theorem trimGoMod_eq (v : Bytes) : trimGoMod v = Client.trimGoMod v := rfl

/-- C14 `lookup_uses_fetch_key` -/
theorem lookup_eq_via_lookupFile (P : Client.Params H) (E : Env σ) (w : World σ H) (path vers : Bytes) :
    Client.lookup P E w path vers =
      if Module.matchPrefixPatterns P.glob P.nosumdb path then ((.error .gonosumdb, w) : Except Err (List Bytes) × World σ H) else
      let w := Client.init P E w
      match w.c.inited with
      | some (some e) => (.error e, w)
      | _ =>
        match lookupFile P.isLetter w.c.name path vers with
        | none => (.error .escape, w)
        | some file =>
          let res : Except Err Bytes × World σ H :=
            match w.c.record.lookup file with
            | some r => (r, w)
            | none =>
              let r := lookupWork P E w file (file.drop w.c.name.length)
              (r.1, { r.2 with c := { r.2.c with record := (file, r.1) :: r.2.c.record } })
          match res.1 with
          | .error e => (.error e, res.2)
          | .ok data => (.ok (filterLines (path ++ [32] ++ vers ++ [32]) data), res.2) := by
  unfold Client.lookup lookupFile
  by_cases hm : Module.matchPrefixPatterns P.glob P.nosumdb path = true
  · simp only [hm, if_true]
  · simp only [hm, if_false, Bool.false_eq_true]
    generalize Client.init P E w = w'
    have key : ∀ (x : Except Module.EscErr Bytes) (y : Except Module.EscErr Bytes),
        x = Module.escapePath path → y = Module.escapeVersion P.isLetter (trimGoMod vers) →
        (match x with
          | .error _ => ((.error .escape, w') : Except Err (List Bytes) × World σ H)
          | .ok epath =>
            match y with
            | .error _ => (.error .escape, w')
            | .ok evers =>
              let remotePath := B "/lookup/" ++ epath ++ [64] ++ evers
              let file := w'.c.name ++ remotePath
              let res : Except Err Bytes × World σ H :=
                match w'.c.record.lookup file with
                | some r => (r, w')
                | none =>
                  let r := lookupWork P E w' file remotePath
                  (r.1, { r.2 with c := { r.2.c with record := (file, r.1) :: r.2.c.record } })
              match res.1 with
              | .error e => (.error e, res.2)
              | .ok data => (.ok (filterLines (path ++ [32] ++ vers ++ [32]) data), res.2)) =
        (match (match x with
              | .error _ => none
              | .ok epath =>
                match y with
                | .error _ => none
                | .ok evers => some (w'.c.name ++ (B "/lookup/" ++ epath ++ [64] ++ evers))) with
          | none => (.error .escape, w')
          | some file =>
            let res : Except Err Bytes × World σ H :=
              match w'.c.record.lookup file with
              | some r => (r, w')
              | none =>
                let r := lookupWork P E w' file (file.drop w'.c.name.length)
                (r.1, { r.2 with c := { r.2.c with record := (file, r.1) :: r.2.c.record } })
            match res.1 with
            | .error e => (.error e, res.2)
            | .ok data => (.ok (filterLines (path ++ [32] ++ vers ++ [32]) data), res.2)) := by
      intro x y _ _
      cases x with
      | error a => rfl
      | ok ep =>
        cases y with
        | error a => rfl
        | ok ev => simp only [List.drop_left']
    have k := key _ _ rfl rfl
    rcases hi : w'.c.inited with _ | (_ | e)
    · exact k
    · exact k
    · rfl

end ModVerif.ClientFetch
