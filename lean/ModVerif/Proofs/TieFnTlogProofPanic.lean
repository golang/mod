/-
  Tie helpers: the model's tree / proof recursions fail only with `panic` (a Go panic site) or the model's `fuel`
  error — never with `invalid`, `reader`, `proofFailed` (needed to render model errors as Go results unambiguously).
-/
import ModVerif.Proofs.TlogBasic
import ModVerif.Proofs.GoRtLemmas
import ModVerif.Proofs.GoRtLemmasInt
namespace ModVerif.Tie.FnTlogProof
open ModVerif ModVerif.GoRt

/-- a model computation whose only errors are the Go panic sites (and the model's fuel error) -/
def PanicOnly {α : Type} (x : Except Tlog.Err α) : Prop := ∀ e, x = .error e → e = .panic ∨ e = .fuel

theorem PanicOnly.ok {α : Type} (a : α) : PanicOnly (.ok a : Except Tlog.Err α) := by
  intro e h; cases h
theorem PanicOnly.panic {α : Type} : PanicOnly (.error .panic : Except Tlog.Err α) := by
  intro e h; cases h; exact Or.inl rfl
theorem PanicOnly.fuel {α : Type} : PanicOnly (.error .fuel : Except Tlog.Err α) := by
  intro e h; cases h; exact Or.inr rfl
theorem PanicOnly.bind {α β : Type} {x : Except Tlog.Err α} {f : α → Except Tlog.Err β}
    (hx : PanicOnly x) (hf : ∀ a, PanicOnly (f a)) : PanicOnly (x >>= f) := by
  cases x with
  | error e => intro e' h; rw [mbind_error] at h; cases h; exact hx e rfl
  | ok a => rw [mbind_ok]; exact hf a

theorem subTreeIndexF_panicOnly : ∀ f lo hi, PanicOnly (Tlog.subTreeIndexF f lo hi) := by
  intro f
  induction f with
  | zero => intro lo hi; unfold Tlog.subTreeIndexF; split; exact .fuel; exact .ok _
  | succ f ih =>
    intro lo hi
    unfold Tlog.subTreeIndexF
    split
    · simp only []
      split
      · exact .panic
      · exact .bind (ih _ _) (fun _ => .ok _)
    · exact .ok _

theorem numTreeF_panicOnly (f lo hi : Nat) : PanicOnly (Tlog.numTreeF f lo hi) := by
  rw [Tlog.numTreeF_eq]
  intro e h
  cases hr : Tlog.subTreeIndexF f lo hi with
  | ok a => rw [hr] at h; cases h
  | error e' => rw [hr] at h; cases h; exact subTreeIndexF_panicOnly f lo hi _ hr

theorem subTreeHash_panicOnly {H : Type} (node : H → H → H) (lo hi : Nat) (hashes : List H) :
    PanicOnly (Tlog.subTreeHash node lo hi hashes) := by
  unfold Tlog.subTreeHash
  refine .bind (numTreeF_panicOnly _ _ _) (fun c => ?_)
  split
  · exact .panic
  · split
    · exact .panic
    · exact .ok _

theorem subTreeIndex_panicOnly (lo hi : Nat) : PanicOnly (Tlog.subTreeIndex lo hi) := subTreeIndexF_panicOnly _ _ _

theorem leafProofIndexF_panicOnly : ∀ f lo hi n, PanicOnly (Tlog.leafProofIndexF f lo hi n) := by
  intro f
  induction f with
  | zero => intro lo hi n; exact .fuel
  | succ f ih =>
    intro lo hi n
    unfold Tlog.leafProofIndexF
    split
    · exact .panic
    · split
      · exact .ok _
      · simp only []
        split
        · exact .bind (ih _ _ _) (fun _ => .bind (subTreeIndex_panicOnly _ _) (fun _ => .ok _))
        · exact .bind (subTreeIndex_panicOnly _ _) (fun _ => .bind (ih _ _ _) (fun _ => .ok _))

theorem treeProofIndexF_panicOnly : ∀ f lo hi n, PanicOnly (Tlog.treeProofIndexF f lo hi n) := by
  intro f
  induction f with
  | zero => intro lo hi n; exact .fuel
  | succ f ih =>
    intro lo hi n
    unfold Tlog.treeProofIndexF
    split
    · exact .panic
    · split
      · split
        · exact .ok _
        · exact subTreeIndex_panicOnly _ _
      · simp only []
        split
        · exact .bind (ih _ _ _) (fun _ => .bind (subTreeIndex_panicOnly _ _) (fun _ => .ok _))
        · exact .bind (subTreeIndex_panicOnly _ _) (fun _ => .bind (ih _ _ _) (fun _ => .ok _))

theorem leafProofF_panicOnly {H : Type} (node : H → H → H) : ∀ f lo hi n (hashes : List H),
    PanicOnly (Tlog.leafProofF node f lo hi n hashes) := by
  intro f
  induction f with
  | zero => intro lo hi n hashes; exact .fuel
  | succ f ih =>
    intro lo hi n hashes
    unfold Tlog.leafProofF
    split
    · exact .panic
    · split
      · exact .ok _
      · simp only []
        split
        · exact .bind (ih _ _ _ _) (fun _ => .bind (subTreeHash_panicOnly _ _ _ _) (fun _ => .ok _))
        · exact .bind (subTreeHash_panicOnly _ _ _ _) (fun _ => .bind (ih _ _ _ _) (fun _ => .ok _))

theorem treeProofF_panicOnly {H : Type} (node : H → H → H) : ∀ f lo hi n (hashes : List H),
    PanicOnly (Tlog.treeProofF node f lo hi n hashes) := by
  intro f
  induction f with
  | zero => intro lo hi n hashes; exact .fuel
  | succ f ih =>
    intro lo hi n hashes
    unfold Tlog.treeProofF
    split
    · exact .panic
    · split
      · split
        · exact .ok _
        · exact .bind (subTreeHash_panicOnly _ _ _ _) (fun _ => .ok _)
      · simp only []
        split
        · exact .bind (ih _ _ _ _) (fun _ => .bind (subTreeHash_panicOnly _ _ _ _) (fun _ => .ok _))
        · exact .bind (subTreeHash_panicOnly _ _ _ _) (fun _ => .bind (ih _ _ _ _) (fun _ => .ok _))

end ModVerif.Tie.FnTlogProof
