/-
  Tie proofs, sumdb/client.go (merge unit): `treeHashW` and `proveTreeW` of the regenerated client
  against the model's `treeHashVia` / `proveTreeVia`, from the tie of `readHashesW` (`ReadHashesSpec`) and the world-mode ties
  of `tlog.TreeHash` / `tlog.ProveTree` (Tie/FnTlogW.lean).
-/
import ModVerif.Proofs.TieFnClientMergeSpec
import ModVerif.Proofs.TieFnClientMergeLen
import ModVerif.Tie.FnTlogW
namespace ModVerif.TieFnClientMerge
open ModVerif ModVerif.GoRt ModVerif.Client ModVerif.Generated.SumdbClient ModVerif.TieFnClientRep
open ModVerif.TieFnTlogInt ModVerif.TieFnTlogW
open ModVerif.Tie.FnTlogProof (idxOf PanicOnly)

theorem errAbs_readerLen : errAbs "tlog: ReadHashes(%d indexes) = %d hashes" = .tlog .reader :=
  errAbs_lit _ rfl (by decide)

section
variable {H : Type}

theorem treeHash_errs (node : H → H → H) (empty : H) (n : Nat) (r : Tlog.HashReader H) (e : Tlog.Err)
    (h : Tlog.treeHash node empty n r = .error e) : e = .reader ∨ e = .panic ∨ e = .fuel := by
  unfold Tlog.treeHash at h
  split at h
  · cases h
  · cases hi : Tlog.subTreeIndex 0 n with
    | error e1 =>
      rw [hi] at h
      cases h
      rcases Tie.FnTlogProof.subTreeIndex_panicOnly 0 n e hi with h | h <;> simp [h]
    | ok idx =>
      rw [hi] at h
      simp only [bind, Except.bind] at h
      cases hr : Tlog.readChecked r idx with
      | error e1 =>
        rw [hr] at h
        cases h
        exact Or.inl (Tie.FnTlogProof.readChecked_err r idx e hr)
      | ok hs =>
        rw [hr] at h
        simp only at h
        cases hs2 : Tlog.subTreeHash node 0 n hs with
        | error e1 =>
          rw [hs2] at h
          cases h
          rcases Tie.FnTlogProof.subTreeHash_panicOnly node 0 n hs e hs2 with h | h <;> simp [h]
        | ok v =>
          rw [hs2] at h
          obtain ⟨hash, rest⟩ := v
          simp only at h
          split at h
          · cases h; exact Or.inr (Or.inl rfl)
          · cases h

theorem proveTree_errs (node : H → H → H) (t n : Int) (r : Tlog.HashReader H) (e : Tlog.Err)
    (h : Tlog.proveTree node t n r = .error e) : e = .invalid ∨ e = .reader ∨ e = .panic ∨ e = .fuel := by
  unfold Tlog.proveTree at h
  split at h
  · cases h; exact Or.inl rfl
  · simp only [] at h
    cases hi : Tlog.treeProofIndex 0 t.toNat n.toNat with
    | error e1 =>
      rw [hi] at h
      cases h
      rcases Tie.FnTlogProof.treeProofIndexF_panicOnly _ 0 t.toNat n.toNat e hi with h | h <;> simp [h]
    | ok idx =>
      rw [hi] at h
      simp only [bind, Except.bind] at h
      split at h
      · cases h
      · cases hr : Tlog.readChecked r idx with
        | error e1 =>
          rw [hr] at h
          cases h
          exact Or.inr (Or.inl (Tie.FnTlogProof.readChecked_err r idx e hr))
        | ok hs =>
          rw [hr] at h
          simp only at h
          cases hs2 : Tlog.treeProof node 0 t.toNat n.toNat hs with
          | error e1 =>
            rw [hs2] at h
            cases h
            rcases Tie.FnTlogProof.treeProofF_panicOnly node _ 0 t.toNat n.toNat hs e hs2 with h | h <;> simp [h]
          | ok v =>
            rw [hs2] at h
            obtain ⟨p, rest⟩ := v
            simp only at h
            split at h
            · cases h; exact Or.inr (Or.inr (Or.inl rfl))
            · cases h

end

section
variable {σ H : Type} [DecidableEq H] [Inhabited H] {P : Params H} {E : Env σ}

/-- the index list `treeHashVia` reads (`[]` when it reads nothing) -/
def treeHashIdx (n : Nat) : List Nat := idxOf (Tlog.subTreeIndex 0 n)

/-- fuel of `treeHashW`: `TreeHash` itself (`n + 127`) and the read -/
def treeHashFuel (FR : World σ H → Head H → List Nat → Nat) (w : World σ H) (n : Nat) (tree : Head H) : Nat :=
  max (n + 127) (FR w tree (treeHashIdx n))

def proveTreeIdx (t n : Nat) : List Nat := idxOf (Tlog.treeProofIndex 0 t n)

def proveTreeFuel (FR : World σ H → Head H → List Nat → Nat) (w : World σ H) (t n : Nat) (tree : Head H) : Nat :=
  max (t + 127) (FR w tree (proveTreeIdx t n))

/-- the model's `treeHashVia` / `proveTreeVia` after the index list: ONE read, then the pure function `F` over the constant
    reader that answers what was read -/
def viaM {α : Type} (F : Tlog.HashReader H → Except Tlog.Err α) (r : Except Client.Err (List H) × World σ H) :
    Except Client.Err α × World σ H :=
  match r.1 with
  | .error e => (.error e, r.2)
  | .ok hs => (liftTlog (F fun _ => some hs), r.2)

/-- The tie of that stage.  `F` reports a failed read as `.reader` (`hfail`), its other errors are `.invalid` (text `inv`)
    or model-only outcomes (`herrs`); `viaRead … readOut …` is the form in which the world-mode ties of Tie/FnTlogW.lean
    give the generated side. -/
theorem viaRead_tie {α : Type} (FR : World σ H → Head H → List Nat → Nat) (hR : ReadHashesSpec P E FR)
    (w : World σ H) (cw : GW σ H) (tree : Head H) (idx : List Nat) (fuel : Nat) (hr : RepRun P E w cw)
    (htree : tree.n < 2 ^ 62) (hil : idx.length < 2 ^ 56) (hf : FR w tree idx ≤ fuel)
    (F : Tlog.HashReader H → Except Tlog.Err α) (dflt : α) (inv : String)
    (hfail : F (fun _ => none) = .error .reader)
    (herrs : ∀ r e, F r = .error e →
      (e = .invalid ∧ errAbs inv = .tlog .invalid) ∨ e = .reader ∨ e = .panic ∨ e = .fuel)
    (hnorm : Normal (viaM F (readHashes P E w tree idx)).1) :
    Ties (RepRun P E) FrameG FrameM RepRes id w cw
      (viaRead (fun i c => readHashesW (envOf P E) fuel (headG tree) i c) (idx.map Int.ofNat) cw
        (fun c => Tie.FnTlogProof.readOut dflt inv (readErrOf c idx) (F (readerOf c))))
      (viaM F (readHashes P E w tree idx)) := by
  have hnr : Normal (readHashes P E w tree idx).1 := by
    intro e he
    apply hnorm e
    rw [viaM, he]
  obtain ⟨r1, cw1, e1, rr1, rs1, fg1, fm1⟩ := hR w cw tree idx fuel hr htree hil hf hnr
  obtain ⟨hs1, err1⟩ := r1
  simp only [viaRead, e1]
  unfold viaM at hnorm ⊢
  cases hrh : (readHashes P E w tree idx).1 with
  | error e =>
    rw [hrh] at rs1
    obtain ⟨s, rfl, habs⟩ := rs1
    simp only [Tie.FnTlogW.readerOf_const_some, hfail, Tie.FnTlogProof.readOut, readErrOf]
    exact ⟨_, _, rfl, rr1, ⟨s, rfl, habs⟩, fg1, fm1⟩
  | ok hs =>
    rw [hrh] at rs1 hnorm
    obtain ⟨rfl, rfl⟩ := rs1
    simp only [] at hnorm ⊢
    rw [Tie.FnTlogW.readerOf_const_none]
    cases hth : F (fun _ => some hs1) with
    | ok a =>
      simp only [Tie.FnTlogProof.readOut, liftTlog]
      exact ⟨_, _, rfl, rr1, ⟨rfl, rfl⟩, fg1, fm1⟩
    | error e =>
      rw [hth] at hnorm
      rcases herrs _ e hth with ⟨h, hinv⟩ | h | h | h <;> subst h
      · simp only [Tie.FnTlogProof.readOut, liftTlog]
        exact ⟨_, _, rfl, rr1, ⟨_, rfl, hinv⟩, fg1, fm1⟩
      · simp only [Tie.FnTlogProof.readOut, readErrOf, liftTlog]
        exact ⟨_, _, rfl, rr1, ⟨_, rfl, errAbs_readerLen⟩, fg1, fm1⟩
      · exact absurd trivial (hnorm _ rfl)
      · exact absurd trivial (hnorm _ rfl)

/-- `tlog.TreeHash(n, tlog.TileHashReader(tree, &c.tileReader))` -/
theorem treeHashSpec_of_readHashes (FR : World σ H → Head H → List Nat → Nat) (hR : ReadHashesSpec P E FR) :
    TreeHashSpec P E (treeHashFuel FR) := by
  intro w cw n tree fuel hr htree hn hf hnorm
  have hf1 : n + 127 ≤ fuel := Nat.le_trans (Nat.le_max_left _ _) hf
  have hf2 : FR w tree (treeHashIdx n) ≤ fuel := Nat.le_trans (Nat.le_max_right _ _) hf
  have h62 : (2 : Int) ^ 62 = 4611686018427387904 := by decide
  have h62n : (2 : Nat) ^ 62 = 4611686018427387904 := by decide
  unfold treeHashW
  rw [Tie.FnTlogW.TreeHash_tie (envOf P E).node _ (envOf P E).empty fuel (n : Int) cw (by omega) (by omega) (by omega)]
  simp only [Int.toNat_natCast]
  by_cases hz : n = 0
  · subst hz
    have hm : treeHashVia P E w 0 tree = (.ok P.empty, w) := by simp [treeHashVia]
    rw [hm]
    simp only [Int.natCast_zero, if_true]
    exact ⟨_, _, rfl, hr, ⟨rfl, rfl⟩, FrameG.refl _, FrameM.refl _⟩
  · have hz' : ¬ ((n : Int) = 0) := by omega
    have hb : (n == 0) = false := by simpa using hz
    simp only [hz', if_false]
    cases hi : Tlog.subTreeIndex 0 n with
    | error e1 =>
      exfalso
      have hm : (treeHashVia P E w n tree).1 = .error (.tlog e1) := by simp [treeHashVia, hb, hi]
      rcases Tie.FnTlogProof.subTreeIndex_panicOnly 0 n e1 hi with h | h
      · subst h; exact hnorm _ hm trivial
      · subst h; exact hnorm _ hm trivial
    | ok idx =>
      have hidx : treeHashIdx n = idx := by unfold treeHashIdx; rw [hi]; rfl
      rw [hidx] at hf2
      have hm : treeHashVia P E w n tree = viaM (Tlog.treeHash P.node P.empty n) (readHashes P E w tree idx) := by
        simp only [treeHashVia, viaM, hb, hi, Bool.false_eq_true, if_false]
        cases (readHashes P E w tree idx).1 <;> rfl
      rw [hm] at hnorm ⊢
      have hil : idx.length < 2 ^ 56 := by
        have := subTreeIndex_length 0 n idx hi (by omega)
        have h56 : (2 : Nat) ^ 56 = 72057594037927936 := by decide
        omega
      simp only [subTreeIndexOut, List.nil_append, idxOf]
      exact viaRead_tie FR hR w cw tree idx fuel hr htree hil hf2 _ default ""
        (by simp [Tlog.treeHash, hb, hi, Tlog.readChecked, bind, Except.bind])
        (fun r e h => Or.inr (treeHash_errs P.node P.empty n r e h))
        hnorm

/-- `tlog.ProveTree(t, n, tlog.TileHashReader(tree, &c.tileReader))` -/
theorem proveTreeSpec_of_readHashes (FR : World σ H → Head H → List Nat → Nat) (hR : ReadHashesSpec P E FR) :
    ProveTreeSpec P E (proveTreeFuel FR) := by
  intro w cw t n tree fuel hr htree ht hf hnorm
  have hf1 : t + 127 ≤ fuel := Nat.le_trans (Nat.le_max_left _ _) hf
  have hf2 : FR w tree (proveTreeIdx t n) ≤ fuel := Nat.le_trans (Nat.le_max_right _ _) hf
  have h62 : (2 : Int) ^ 62 = 4611686018427387904 := by decide
  have h62n : (2 : Nat) ^ 62 = 4611686018427387904 := by decide
  unfold proveTreeW
  rw [Tie.FnTlogW.ProveTree_tie (envOf P E).node _ fuel (t : Int) (n : Int) cw (by omega) (by omega)]
  simp only [Int.toNat_natCast]
  by_cases hg : t < 1 ∨ n < 1 ∨ n > t
  · have hg' : (t : Int) < 1 ∨ (n : Int) < 1 ∨ (n : Int) > (t : Int) := by omega
    have hm : proveTreeVia P E w t n tree = (.error (.tlog .invalid), w) := by
      have : (decide (t < 1) || decide (n < 1) || decide (n > t)) = true := by
        rcases hg with h | h | h <;> simp [h]
      simp only [proveTreeVia, this, if_true]
    rw [hm]
    simp only [hg', if_true]
    exact ⟨_, _, rfl, hr, ⟨_, rfl, errAbs_invalidTree⟩, FrameG.refl _, FrameM.refl _⟩
  · have hg' : ¬ ((t : Int) < 1 ∨ (n : Int) < 1 ∨ (n : Int) > (t : Int)) := by omega
    have hb : (decide (t < 1) || decide (n < 1) || decide (n > t)) = false := by simp; omega
    simp only [hg', if_false]
    cases hi : Tlog.treeProofIndex 0 t n with
    | error e1 =>
      exfalso
      have hm : (proveTreeVia P E w t n tree).1 = .error (.tlog e1) := by
        simp only [proveTreeVia, hb, Bool.false_eq_true, if_false, hi]
      rcases Tie.FnTlogProof.treeProofIndexF_panicOnly _ 0 t n e1 hi with h | h
      · subst h; exact hnorm _ hm trivial
      · subst h; exact hnorm _ hm trivial
    | ok idx =>
      have hidx : proveTreeIdx t n = idx := by unfold proveTreeIdx; rw [hi]; rfl
      rw [hidx] at hf2
      simp only [subTreeIndexOut, List.nil_append]
      cases idx with
      | nil =>
        have hm : proveTreeVia P E w t n tree = (.ok [], w) := by
          simp only [proveTreeVia, hb, Bool.false_eq_true, if_false, hi, List.length_nil, beq_self_eq_true, if_true]
        rw [hm]
        simp only [List.map_nil, if_true]
        exact ⟨_, _, rfl, hr, ⟨rfl, rfl⟩, FrameG.refl _, FrameM.refl _⟩
      | cons a b =>
        have hlen : ((a :: b).length == 0) = false := rfl
        simp only [List.map_cons, reduceCtorEq, if_false]
        have hm : proveTreeVia P E w t n tree =
            viaM (Tlog.proveTree P.node (t : Int) (n : Int)) (readHashes P E w tree (a :: b)) := by
          simp only [proveTreeVia, viaM, hb, hi, hlen, Bool.false_eq_true, if_false]
          cases (readHashes P E w tree (a :: b)).1 <;> rfl
        rw [hm] at hnorm ⊢
        have hil : (a :: b).length < 2 ^ 56 := by
          have := treeProofIndex_length t n (a :: b) hi ht
          have h56 : (2 : Nat) ^ 56 = 72057594037927936 := by decide
          omega
        simp only [idxOf]
        have hb' : (decide ((t : Int) < 1) || decide ((n : Int) < 1) || decide ((n : Int) > (t : Int))) = false := by
          simp; omega
        exact viaRead_tie FR hR w cw tree (a :: b) fuel hr htree hil hf2 _ [] _
          (by simp only [Tlog.proveTree, hb', Bool.false_eq_true, if_false, Int.toNat_natCast, hi, hlen, Tlog.readChecked,
                bind, Except.bind])
          (fun r e h => (proveTree_errs P.node _ _ r e h).imp_left fun h => ⟨h, errAbs_invalidTree⟩) hnorm

end
end ModVerif.TieFnClientMerge
