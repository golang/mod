/-
  Helper lemmas for Tie/FnEditAddLine.lean: the elementary representation of a syntax graph of the EDIT unit
  (Generated/FnEdit.lean, heap of objects) by a model statement list, frame lemmas, and the list lemmas behind the
  slice surgery of `FileSyntax.addLine` (`append(nil); copy(s[i+2:], s[i+1:]); s[i+1] = new`) and the two-pointer
  compaction of `FileSyntax.Cleanup`.

  A line pointer IS the model line id (`RLine`: `p = l.id`).  Nothing here needs the typed lists of `*File`.
-/
import ModVerif.Proofs.TieFnEditRep
import ModVerif.Proofs.GoRtLemmas
namespace ModVerif.TieFnEditAddLine
open ModVerif ModVerif.GoRt
open ModVerif.Generated.Edit
open ModVerif.Tie.FnEditRep
open ModVerif.Modfile.Edit (treeIds)

theorem blockG_setLine (b : Modfile.LineBlock) (ps qs : List Int) :
    { blockG b ps with Line := qs } = blockG b qs := rfl

theorem lineG_new (id : Nat) (tokens : List Bytes) :
    ({ (default : Line) with Token := tokens } : Line) = lineG (Modfile.Edit.mkLine id tokens false) := rfl

theorem lineG_newIn (id : Nat) (tokens : List Bytes) :
    ({ (default : Line) with Token := tokens, InBlock := true } : Line) = lineG (Modfile.Edit.mkLine id tokens true) := rfl

@[simp] theorem blockG_RParen_Before (b : Modfile.LineBlock) (ps : List Int) :
    (blockG b ps).RParen.Comments.Before = b.rparen.comments.before.map comG := rfl

@[simp] theorem RLines_nil (h : Heap) : RLines h [] [] = True := rfl
@[simp] theorem RLines_cons (h : Heap) (p : Int) (ps : List Int) (l : Modfile.Line) (ls : List Modfile.Line) :
    RLines h (p :: ps) (l :: ls) = (RLine h p l ∧ RLines h ps ls) := rfl
@[simp] theorem RLines_nil_cons (h : Heap) (l : Modfile.Line) (ls : List Modfile.Line) : RLines h [] (l :: ls) = False := rfl
@[simp] theorem RLines_cons_nil (h : Heap) (p : Int) (ps : List Int) : RLines h (p :: ps) [] = False := rfl
@[simp] theorem RStmts_nil (h : Heap) : RStmts h [] [] = True := rfl
@[simp] theorem RStmts_cons (h : Heap) (e : Expr) (es : List Expr) (s : Modfile.Expr) (ss : List Modfile.Expr) :
    RStmts h (e :: es) (s :: ss) = (RExpr h e s ∧ RStmts h es ss) := rfl
@[simp] theorem RStmts_nil_cons (h : Heap) (s : Modfile.Expr) (ss : List Modfile.Expr) : RStmts h [] (s :: ss) = False := rfl
@[simp] theorem RStmts_cons_nil (h : Heap) (e : Expr) (es : List Expr) : RStmts h (e :: es) [] = False := rfl

theorem RStmts_split {h : Heap} : ∀ {es fs : List Expr} {ss : List Modfile.Expr}, RStmts h (es ++ fs) ss →
    ∃ s1 s2, ss = s1 ++ s2 ∧ RStmts h es s1 ∧ RStmts h fs s2
  | [], fs, ss, hr => ⟨[], ss, rfl, by simp, by simpa using hr⟩
  | e :: es, fs, [], hr => by simp at hr
  | e :: es, fs, s :: ss, hr => by
    simp only [List.cons_append, RStmts_cons] at hr
    obtain ⟨s1, s2, rfl, h1, h2⟩ := RStmts_split hr.2
    exact ⟨s :: s1, s2, rfl, by simp [hr.1, h1], h2⟩

theorem RLines_split {h : Heap} : ∀ {ps qs : List Int} {ls : List Modfile.Line}, RLines h (ps ++ qs) ls →
    ∃ l1 l2, ls = l1 ++ l2 ∧ RLines h ps l1 ∧ RLines h qs l2
  | [], qs, ls, hr => ⟨[], ls, rfl, by simp, by simpa using hr⟩
  | p :: ps, qs, [], hr => by simp at hr
  | p :: ps, qs, l :: ls, hr => by
    simp only [List.cons_append, RLines_cons] at hr
    obtain ⟨l1, l2, rfl, h1, h2⟩ := RLines_split hr.2
    exact ⟨l :: l1, l2, rfl, by simp [hr.1, h1], h2⟩

def lineIds (ls : List Modfile.Line) : List Nat := ls.map (·.id)

def stmtIds : List Modfile.Expr → List Nat
  | [] => []
  | .line l :: ss => l.id :: stmtIds ss
  | .lineBlock b :: ss => lineIds b.lines ++ stmtIds ss
  | _ :: ss => stmtIds ss

theorem stmtIds_append : ∀ (a b : List Modfile.Expr), stmtIds (a ++ b) = stmtIds a ++ stmtIds b
  | [], b => rfl
  | .line l :: a, b => by simp [stmtIds, stmtIds_append a b]
  | .lineBlock x :: a, b => by simp [stmtIds, stmtIds_append a b]
  | .commentBlock x :: a, b => by simp [stmtIds, stmtIds_append a b]
  | .lparen x :: a, b => by simp [stmtIds, stmtIds_append a b]
  | .rparen x :: a, b => by simp [stmtIds, stmtIds_append a b]

theorem treeIds_eq_stmtIds : ∀ (ss : List Modfile.Expr), treeIds ss = stmtIds ss
  | [] => rfl
  | s :: ss => by
    rw [Modfile.Edit.treeIds_cons, treeIds_eq_stmtIds ss]
    cases s <;> simp [treeIds, Modfile.Edit.loc, Modfile.Edit.locStmt, stmtIds, lineIds, List.map_map, Function.comp_def]

theorem BlockTokOK_cons {s : Modfile.Expr} {ss : List Modfile.Expr} (h : BlockTokOK (s :: ss)) : BlockTokOK ss :=
  fun b hb => h b (List.mem_cons_of_mem _ hb)

theorem BlockTokOK_head {b : Modfile.LineBlock} {ss : List Modfile.Expr} (h : BlockTokOK (.lineBlock b :: ss)) : b.token ≠ [] :=
  h b List.mem_cons_self

theorem BlockTokOK_append {a b : List Modfile.Expr} (ha : BlockTokOK a) (hb : BlockTokOK b) : BlockTokOK (a ++ b) :=
  fun x hx => (List.mem_append.1 hx).elim (ha x) (hb x)

/-- loop fuel: one per statement plus one per block line -/
def nodeCount : List Modfile.Expr → Nat
  | [] => 0
  | .lineBlock b :: ss => 1 + b.lines.length + nodeCount ss
  | _ :: ss => 1 + nodeCount ss

theorem RLines_ptrs {h : Heap} : ∀ {ps : List Int} {ls : List Modfile.Line}, RLines h ps ls →
    ps = (lineIds ls).map (fun (n : Nat) => (n : Int))
  | [], [], _ => rfl
  | p :: ps, l :: ls, hr => by
    simp only [RLines_cons] at hr
    simp only [lineIds, List.map_cons, List.map_map]
    rw [hr.1.2, RLines_ptrs hr.2]; simp [lineIds]
  | [], _ :: _, hr => by simp at hr
  | _ :: _, [], hr => by simp at hr

theorem RStmts_id_bound {h : Heap} : ∀ {es : List Expr} {ss : List Modfile.Expr}, RStmts h es ss →
    ∀ i ∈ stmtIds ss, 0 < i ∧ i ≤ h.lines.length :=
  fun r i hi => r.treeIds_le i (by rw [treeIds_eq_stmtIds]; exact hi)

theorem RStmts_block_bound {h : Heap} : ∀ {es : List Expr} {ss : List Modfile.Expr}, RStmts h es ss →
    ∀ p ∈ blockPtrs es, 0 < p ∧ p.toNat ≤ h.blocks.length
  | [], [], _, i, hi => by simp [blockPtrs] at hi
  | e :: es, s :: ss, hr, i, hi => by
    simp only [RStmts_cons] at hr
    cases e with
    | LineBlock p =>
      cases s <;> simp only [RExpr] at hr <;> try exact hr.1.elim
      obtain ⟨⟨ps, hb, _⟩, hr2⟩ := hr
      simp only [blockPtrs, List.mem_cons] at hi
      rcases hi with rfl | hi
      · exact ⟨heapGet_pos hb, heapGet_le_length hb⟩
      · exact RStmts_block_bound hr2 i hi
    | Line p => simp only [blockPtrs] at hi; exact RStmts_block_bound hr.2 i hi
    | CommentBlock p => simp only [blockPtrs] at hi; exact RStmts_block_bound hr.2 i hi
    | LParen p => simp only [blockPtrs] at hi; exact RStmts_block_bound hr.2 i hi
    | RParen p => simp only [blockPtrs] at hi; exact RStmts_block_bound hr.2 i hi
    | FileSyntax p => simp only [blockPtrs] at hi; exact RStmts_block_bound hr.2 i hi
    | nil => simp only [blockPtrs] at hi; exact RStmts_block_bound hr.2 i hi
  | [], _ :: _, hr, _, _ => by simp at hr
  | _ :: _, [], hr, _, _ => by simp at hr

/-! ### frame lemmas: the relations read `cbs`, `lines`, `blocks` only -/

theorem RLine_congr {h h' : Heap} (hl : h'.lines = h.lines) {p : Int} {l : Modfile.Line} :
    RLine h' p l ↔ RLine h p l := by unfold RLine; rw [hl]

theorem RLines_congr {h h' : Heap} (hl : h'.lines = h.lines) : ∀ {ps : List Int} {ls : List Modfile.Line},
    RLines h' ps ls ↔ RLines h ps ls
  | [], [] => by simp
  | p :: ps, l :: ls => by simp only [RLines_cons, RLine_congr hl, RLines_congr hl (ps := ps) (ls := ls)]
  | [], _ :: _ => by simp
  | _ :: _, [] => by simp

theorem RExpr_congr {h h' : Heap} (hc : h'.cbs = h.cbs) (hl : h'.lines = h.lines) (hb : h'.blocks = h.blocks)
    {e : Expr} {s : Modfile.Expr} : RExpr h' e s ↔ RExpr h e s := by
  cases e <;> cases s <;> simp only [RExpr, hc, hb, RLine_congr hl, RLines_congr hl]

theorem RStmts_congr {h h' : Heap} (hc : h'.cbs = h.cbs) (hl : h'.lines = h.lines) (hb : h'.blocks = h.blocks) :
    ∀ {es : List Expr} {ss : List Modfile.Expr}, RStmts h' es ss ↔ RStmts h es ss
  | [], [] => by simp
  | e :: es, s :: ss => by simp only [RStmts_cons, RExpr_congr hc hl hb, RStmts_congr hc hl hb (es := es) (ss := ss)]
  | [], _ :: _ => by simp
  | _ :: _, [] => by simp

structure LinesBut (q : Nat) (h h' : Heap) : Prop where
  cbs : h'.cbs = h.cbs
  blocks : ∀ (p : Int) (v : LineBlock), heapGet h.blocks p = .ok v → heapGet h'.blocks p = .ok v
  lines : ∀ (p : Int) (v : Line), p ≠ (q : Int) → heapGet h.lines p = .ok v → heapGet h'.lines p = .ok v

theorem RLine_linesBut {q : Nat} {h h' : Heap} (hx : LinesBut q h h') {p : Int} {l : Modfile.Line}
    (hr : RLine h p l) (hq : l.id ≠ q) : RLine h' p l :=
  ⟨hx.lines p _ (by rw [hr.2]; omega) hr.1, hr.2⟩

theorem RLines_linesBut {q : Nat} {h h' : Heap} (hx : LinesBut q h h') : ∀ {ps : List Int} {ls : List Modfile.Line},
    RLines h ps ls → q ∉ lineIds ls → RLines h' ps ls
  | [], [], _, _ => by simp
  | p :: ps, l :: ls, hr, hq => by
    simp only [RLines_cons] at hr ⊢
    simp only [lineIds, List.map_cons, List.mem_cons, not_or] at hq
    exact ⟨RLine_linesBut hx hr.1 (fun e => hq.1 e.symm), RLines_linesBut hx hr.2 hq.2⟩
  | [], _ :: _, hr, _ => by simp at hr
  | _ :: _, [], hr, _ => by simp at hr

structure BlocksBut (q : Int) (h h' : Heap) : Prop where
  cbs : h'.cbs = h.cbs
  lines : ∀ (p : Int) (v : Line), heapGet h.lines p = .ok v → heapGet h'.lines p = .ok v
  blocks : ∀ (p : Int) (v : LineBlock), p ≠ q → heapGet h.blocks p = .ok v → heapGet h'.blocks p = .ok v

theorem RStmts_blocksBut {q : Int} {h h' : Heap} (hx : BlocksBut q h h') : ∀ {es : List Expr} {ss : List Modfile.Expr},
    RStmts h es ss → q ∉ blockPtrs es → RStmts h' es ss
  | [], [], _, _ => by simp
  | e :: es, s :: ss, hr, hq => by
    simp only [RStmts_cons] at hr ⊢
    cases e with
    | LineBlock p =>
      simp only [blockPtrs, List.mem_cons, not_or] at hq
      refine ⟨?_, RStmts_blocksBut hx hr.2 hq.2⟩
      cases s <;> simp only [RExpr] at hr ⊢ <;> try exact hr.1
      obtain ⟨ps, hb, hps⟩ := hr.1
      exact ⟨ps, hx.blocks p _ (fun e => hq.1 e.symm) hb, hps.mono hx.lines⟩
    | Line p =>
      simp only [blockPtrs] at hq
      refine ⟨?_, RStmts_blocksBut hx hr.2 hq⟩
      cases s <;> simp only [RExpr] at hr ⊢ <;> try exact hr.1
      exact hr.1.mono hx.lines
    | CommentBlock p =>
      simp only [blockPtrs] at hq
      refine ⟨?_, RStmts_blocksBut hx hr.2 hq⟩
      cases s <;> simp only [RExpr] at hr ⊢ <;> try exact hr.1
      rw [hx.cbs]; exact hr.1
    | LParen p => cases s <;> simp only [RExpr] at hr <;> exact hr.1.elim
    | RParen p => cases s <;> simp only [RExpr] at hr <;> exact hr.1.elim
    | FileSyntax p => cases s <;> simp only [RExpr] at hr <;> exact hr.1.elim
    | nil => cases s <;> simp only [RExpr] at hr <;> exact hr.1.elim
  | [], _ :: _, hr, _ => by simp at hr
  | _ :: _, [], hr, _ => by simp at hr

theorem RStmts_linesBut {q : Nat} {h h' : Heap} (hx : LinesBut q h h') : ∀ {es : List Expr} {ss : List Modfile.Expr},
    RStmts h es ss → q ∉ stmtIds ss → RStmts h' es ss
  | [], [], _, _ => by simp
  | e :: es, s :: ss, hr, hq => by
    simp only [RStmts_cons] at hr ⊢
    cases s with
    | line l =>
      simp only [stmtIds, List.mem_cons, not_or] at hq
      refine ⟨?_, RStmts_linesBut hx hr.2 hq.2⟩
      cases e <;> simp only [RExpr] at hr ⊢ <;> try exact hr.1
      exact RLine_linesBut hx hr.1 (fun e => hq.1 e.symm)
    | lineBlock b =>
      simp only [stmtIds, List.mem_append, not_or] at hq
      refine ⟨?_, RStmts_linesBut hx hr.2 hq.2⟩
      cases e <;> simp only [RExpr] at hr ⊢ <;> try exact hr.1
      obtain ⟨ps, hb, hps⟩ := hr.1
      exact ⟨ps, hx.blocks _ _ hb, RLines_linesBut hx hps hq.1⟩
    | commentBlock c =>
      simp only [stmtIds] at hq
      refine ⟨?_, RStmts_linesBut hx hr.2 hq⟩
      cases e <;> simp only [RExpr] at hr ⊢ <;> try exact hr.1
      rw [hx.cbs]; exact hr.1
    | lparen c => cases e <;> simp only [RExpr] at hr <;> exact hr.1.elim
    | rparen c => cases e <;> simp only [RExpr] at hr <;> exact hr.1.elim
  | [], _ :: _, hr, _ => by simp at hr
  | _ :: _, [], hr, _ => by simp at hr

/-- `s = append(s, z); copy(s[k+2:], s[k+1:]); s[k+1] = v` inserts `v` after position `k` -/
theorem insert_via_copy {α : Type} (a : List α) (s : α) (b : List α) (z v : α) {i : Int} (hi : i = (a.length : Int)) :
    (do let src ← sliceFrom ((a ++ s :: b) ++ [z]) (i + 1)
        let d ← copyAtL ((a ++ s :: b) ++ [z]) (i + 2) src
        setIdxL d (i + 1) v) = (.ok (a ++ s :: v :: b) : M (List α)) := by
  subst hi
  have e1 : ((a.length : Int) + 1) = ((a.length + 1 : Nat) : Int) := by omega
  have e2 : ((a.length : Int) + 2) = ((a.length + 2 : Nat) : Int) := by omega
  have hL : (a ++ s :: b) ++ [z] = a ++ (s :: (b ++ [z])) := by simp
  have hlenL : (a ++ (s :: (b ++ [z]))).length = a.length + b.length + 2 := by simp; omega
  rw [hL, e1, e2, sliceFrom_natCast (by rw [hlenL]; omega)]
  have hd : (a ++ (s :: (b ++ [z]))).drop (a.length + 1) = b ++ [z] := by
    rw [List.drop_length_add_append]; rfl
  simp only [bind_ok, hd]
  unfold copyAtL
  have hc : ¬ ((((a.length + 2 : Nat) : Int)) < 0 ∨ (((a.length + 2 : Nat) : Int)) > ((a ++ (s :: (b ++ [z]))).length : Int)) := by
    rw [hlenL]; omega
  simp only [hc, if_false, Int.toNat_natCast]
  have hn : min ((a ++ (s :: (b ++ [z]))).length - (a.length + 2)) (b ++ [z]).length = b.length := by
    rw [hlenL]; simp only [List.length_append, List.length_cons, List.length_nil]; omega
  rw [hn]
  have ht : (b ++ [z]).take b.length = b := by simp
  have hdr : (a ++ (s :: (b ++ [z]))).drop (a.length + 2 + b.length) = [] := by
    apply List.drop_eq_nil_of_le; rw [hlenL]; omega
  rw [ht, hdr]
  have htk : (a ++ (s :: (b ++ [z]))).take (a.length + 2) = a ++ s :: (b ++ [z]).take 1 := by
    rw [List.take_length_add_append]; rfl
  rw [htk]
  simp only [pure, Except.pure, bind_ok, List.append_nil]
  unfold setIdxL
  have hlen : ((a ++ s :: List.take 1 (b ++ [z])) ++ b).length = a.length + 2 + b.length := by
    cases b <;> simp <;> omega
  have hc2 : (0 : Int) ≤ ((a.length + 1 : Nat) : Int) ∧ ((a.length + 1 : Nat) : Int) < len ((a ++ s :: List.take 1 (b ++ [z])) ++ b) := by
    rw [len_eq, hlen]; omega
  simp only [hc2, and_self, if_true, Int.toNat_natCast, pure, Except.pure]
  congr 1
  cases b with
  | nil => simp
  | cons b0 b => simp

/-- the two-pointer compaction `s[w] = v; w++` -/
theorem set_compact {α : Type} (out : List α) (rest : List α) (v : α) (hr : rest ≠ []) :
    (out ++ rest).set out.length v = (out ++ [v]) ++ rest.drop 1 := by
  cases rest with
  | nil => exact absurd rfl hr
  | cons r rs => simp

theorem bind_eq_ok {α β : Type} {x : M α} {f : α → M β} {r : β} (h : (x >>= f) = .ok r) : ∃ a, x = .ok a ∧ f a = .ok r := by
  cases x with
  | error e => cases h
  | ok a => exact ⟨a, rfl, h⟩

theorem insert_via_copy_steps {α : Type} (a : List α) (s : α) (b : List α) (z v : α) {i : Int} (hi : i = (a.length : Int)) :
    ∃ src d, sliceFrom ((a ++ s :: b) ++ [z]) (i + 1) = .ok src ∧ copyAtL ((a ++ s :: b) ++ [z]) (i + 2) src = .ok d ∧
      setIdxL d (i + 1) v = .ok (a ++ s :: v :: b) := by
  obtain ⟨src, h1, h2⟩ := bind_eq_ok (insert_via_copy a s b z v hi)
  obtain ⟨d, h3, h4⟩ := bind_eq_ok h2
  exact ⟨src, d, h1, h3, h4⟩

end ModVerif.TieFnEditAddLine
