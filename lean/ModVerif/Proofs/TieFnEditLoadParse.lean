/-
  `LoadOK` (the hypothesis of `FnEditRep.load_rep`) for EVERY strictly parsed go.mod file (no version fixer, as the driver
  parses): the statements of a parsed tree are comment blocks, lines and line blocks (`parse_kind`, the kind analogue of
  `EditMore.parse_flags`; kept by `addStmts`), the line ids are `0, 1, …` in source order (`parse_ids_range`, from
  `parseFile_idsOf` and `assignComments_keys`, kept by `addStmts_keys`), and `Edit.ParsedOK` (Proofs/EditMoreStartC.lean)
  gives: one verb per block, every typed entry is matched by a line of the tree.
-/
import ModVerif.Proofs.TieFnEditRep
import ModVerif.Proofs.EditStartParse
namespace ModVerif.Tie.FnEditLoadParse
open ModVerif ModVerif.Modfile ModVerif.Proofs.ModfileC20 ModVerif.Proofs.EditMore ModVerif.Modfile.Edit

theorem kind_setComments (x : Expr) (c : Comments) (h : StmtKind x) : StmtKind (x.setComments c) := by
  cases x <;> first | exact h | trivial

theorem parseFile_kind {data : Bytes} {stmts : List Expr} {i' : Input} (h : parseFile data = .ok (stmts, i')) :
    ∀ x ∈ stmts, StmtKind x := by
  obtain ⟨i0, _, hrun⟩ := Proofs.ModfileRun.parseFile_run h
  refine Proofs.ModfileRun.PFile.all (fun _ => trivial) kind_setComments (fun _ hs => ?_) hrun (by intro x hx; cases hx)
  rcases hs.kind with ⟨l, rfl⟩ | ⟨b, rfl⟩ <;> trivial

theorem assignComments_kind (f : FileSyntax) (cs : List Comment) (h : ∀ x ∈ f.stmts, StmtKind x) :
    ∀ x ∈ (assignComments f cs).stmts, StmtKind x :=
  Proofs.ModfileC20.assignComments_all _ (fun s => by cases s <;> simp [Proofs.ModfileC20.exprBare, StmtKind]) f cs h

theorem parse_kind {name data : Bytes} {t : FileSyntax} (h : parse name data = .ok t) : ∀ x ∈ t.stmts, StmtKind x := by
  unfold parse at h
  cases hp : parseFile data with
  | error e => simp [hp, bind, Except.bind] at h
  | ok v =>
    simp only [hp, bind, Except.bind, Except.ok.injEq] at h
    subst h
    exact assignComments_kind _ _ (parseFile_kind (show parseFile data = .ok (v.1, v.2) by rw [hp]))

theorem addStmts_kind (fix : Option Fixer) (strict : Bool) : ∀ (xs : List Expr) (st : AddState), (∀ x ∈ xs, StmtKind x) →
    ∀ x ∈ (addStmts fix strict st xs).2, StmtKind x := by
  intro xs
  induction xs with
  | nil => intro st _ x hx; simp [addStmts] at hx
  | cons x0 rest ih =>
    intro st h x hx
    have h0 := h x0 List.mem_cons_self
    have hrest := fun st' => ih st' (fun y hy => h y (List.mem_cons_of_mem _ hy))
    unfold addStmts at hx
    cases x0 with
    | line l =>
      cases htok : l.token with
      | nil =>
        simp only [htok, List.mem_cons] at hx
        rcases hx with rfl | hx
        · trivial
        · exact hrest _ x hx
      | cons verb args =>
        simp only [htok, List.mem_cons] at hx
        rcases hx with rfl | hx
        · trivial
        · exact hrest _ x hx
    | lineBlock b =>
      simp only at hx
      split at hx
      · split at hx
        · simp only [List.mem_cons] at hx
          rcases hx with rfl | hx
          · trivial
          · exact hrest _ x hx
        · simp only [List.mem_cons] at hx
          rcases hx with rfl | hx
          · trivial
          · exact hrest _ x hx
      · simp only [List.mem_cons] at hx
        rcases hx with rfl | hx
        · trivial
        · exact hrest _ x hx
    | commentBlock c =>
      simp only [List.mem_cons] at hx
      rcases hx with rfl | hx
      · trivial
      · exact hrest _ x hx
    | lparen c => exact h0.elim
    | rparen c => exact h0.elim

theorem parseFile_ids_range {data : Bytes} {stmts : List Expr} {i' : Input} (h : parseFile data = .ok (stmts, i')) :
    Proofs.ModfileC20.idsOf stmts = List.range (Proofs.ModfileC20.idsOf stmts).length := by
  rw [parseFile_idsOf h]
  simp [List.range_eq_range']

theorem parse_ids_range {name data : Bytes} {t : FileSyntax} (h : parse name data = .ok t) :
    (linesOf t.stmts).map (·.id) = List.range ((linesOf t.stmts).map (·.id)).length := by
  unfold parse at h
  cases hp : parseFile data with
  | error e => simp [hp, bind, Except.bind] at h
  | ok v =>
    simp only [hp, bind, Except.bind, Except.ok.injEq] at h
    subst h
    have hk := assignComments_keys { name := name, stmts := v.1 } v.2.commentsRev.reverse
    have hn := parseFile_ids_range (show parseFile data = .ok (v.1, v.2) by rw [hp])
    have : (linesOf (assignComments { name := name, stmts := v.1 } v.2.commentsRev.reverse).stmts).map (·.id) =
        Proofs.ModfileC20.idsOf v.1 := by
      have := congrArg (List.map Prod.fst) hk
      simpa [List.map_map, lineKey, Proofs.ModfileC20.idsOf, Function.comp_def] using this
    rw [this]; exact hn

/-! ### `LoadOK` of a strictly parsed file -/

theorem mem_entsAll {f : File} {seg : List Ent} (hs : seg ∈ segs f) {en : Ent} (he : en ∈ seg) : en ∈ entsAll f :=
  List.mem_flatten.2 ⟨seg, hs, he⟩

theorem typed_in_tree {f : File} (P : ParsedOK f) {en : Ent} (he : en ∈ entsAll f) : en.id ∈ treeIds f.syn.stmts := by
  obtain ⟨v, hv, hid, _⟩ := P.mtch.cover en he
  rw [← hid]; exact view_id_mem_treeIds hv

/-- no fixer: the driver's parse -/
theorem parseStrict_loadOK {name data : Bytes} {f : File} (h : parseStrict name data none = .ok f) : Tie.FnEditRep.LoadOK f := by
  have P : ParsedOK f := parseToFile_ok h
  have hshape_ids : Tie.FnEditRep.StmtShape f.syn.stmts ∧
      treeIds f.syn.stmts = List.range (treeIds f.syn.stmts).length := by
    unfold parseStrict parseToFile at h
    cases hp : parse name data with
    | error e => simp [hp] at h
    | ok fs =>
      simp only [hp] at h
      cases hA : addStmts none true { file := { syn := fs } } fs.stmts with
      | mk st stmts =>
        simp only [hA, fixRetract] at h
        split at h
        · simp only [Except.ok.injEq] at h
          subst h
          refine ⟨?_, ?_⟩
          · intro e he
            have hk := addStmts_kind none true fs.stmts { file := { syn := fs } } (parse_kind hp)
            rw [hA] at hk
            have := hk e he
            cases e with
            | commentBlock c => exact Or.inl ⟨c, rfl⟩
            | line l => exact Or.inr (Or.inl ⟨l, rfl⟩)
            | lineBlock b => exact Or.inr (Or.inr ⟨b, rfl⟩)
            | lparen _ => exact this.elim
            | rparen _ => exact this.elim
          · have hids : treeIds stmts = treeIds fs.stmts := by
              rw [treeIds_eq_linesOf, treeIds_eq_linesOf]
              have := addStmts_keys none true fs.stmts { file := { syn := fs } }
              rw [hA] at this
              have := congrArg (List.map Prod.fst) this
              simpa [List.map_map, lineKey, Function.comp_def] using this
            show treeIds stmts = List.range (treeIds stmts).length
            rw [hids, treeIds_eq_linesOf]
            exact parse_ids_range hp
        · cases h
  refine
    { shape := hshape_ids.1, ids := hshape_ids.2
      tok := fun b hb => by obtain ⟨v, hv⟩ := P.blockTok b hb; rw [hv]; simp
      module := fun m hm => typed_in_tree P (en := entM m) (mem_entsAll (seg := f.module.toList.map entM) (by simp [segs]) (by simp [hm]))
      go := fun m hm => typed_in_tree P (en := entGo m) (mem_entsAll (seg := f.go.toList.map entGo) (by simp [segs]) (by simp [hm]))
      toolchain := fun m hm => typed_in_tree P (en := entTc m) (mem_entsAll (seg := f.toolchain.toList.map entTc) (by simp [segs]) (by simp [hm]))
      godebug := fun x hx => typed_in_tree P (en := entG x) (mem_entsAll (seg := f.godebug.map entG) (by simp [segs]) (List.mem_map.2 ⟨x, hx, rfl⟩))
      require := fun x hx => typed_in_tree P (en := entRq x) (mem_entsAll (seg := f.require.map entRq) (by simp [segs]) (List.mem_map.2 ⟨x, hx, rfl⟩))
      exclude := fun x hx => typed_in_tree P (en := entX x) (mem_entsAll (seg := f.exclude.map entX) (by simp [segs]) (List.mem_map.2 ⟨x, hx, rfl⟩))
      replace := fun x hx => typed_in_tree P (en := entRp x) (mem_entsAll (seg := f.replace.map entRp) (by simp [segs]) (List.mem_map.2 ⟨x, hx, rfl⟩))
      retract := fun x hx => typed_in_tree P (en := entRt x) (mem_entsAll (seg := f.retract.map entRt) (by simp [segs]) (List.mem_map.2 ⟨x, hx, rfl⟩))
      tool := fun x hx => typed_in_tree P (en := entT x) (mem_entsAll (seg := f.tool.map entT) (by simp [segs]) (List.mem_map.2 ⟨x, hx, rfl⟩)) }

theorem parseStrict_load_rep {name data : Bytes} {f : File} (h : parseStrict name data none = .ok f) :
    Tie.FnEditRep.RepF (Drv.GenEdit.load f).1 (Drv.GenEdit.load f).2 (Modfile.Edit.load f) :=
  Tie.FnEditRep.load_rep f (parseStrict_loadOK h)

example : (parseStrict (B "go.mod") (B "module m\n\nrequire (\n\ta.b/c v1.0.0\n)\n") none).toOption.isSome = true := by decide +kernel


theorem workStmts_kind (fix : Option Fixer) : ∀ (xs : List Expr) (st : WorkState), (∀ x ∈ xs, StmtKind x) →
    ∀ x ∈ (workStmts fix st xs).2, StmtKind x := by
  intro xs
  induction xs with
  | nil => intro st _ x hx; simp [workStmts] at hx
  | cons x0 rest ih =>
    intro st h x hx
    have h0 := h x0 List.mem_cons_self
    have hrest := fun st' => ih st' (fun y hy => h y (List.mem_cons_of_mem _ hy))
    unfold workStmts at hx
    cases x0 with
    | line l =>
      cases htok : l.token with
      | nil =>
        simp only [htok, List.mem_cons] at hx
        rcases hx with rfl | hx
        · trivial
        · exact hrest _ x hx
      | cons verb args =>
        simp only [htok, List.mem_cons] at hx
        rcases hx with rfl | hx
        · trivial
        · exact hrest _ x hx
    | lineBlock b =>
      simp only at hx
      split at hx
      · split at hx
        · simp only [List.mem_cons] at hx
          rcases hx with rfl | hx
          · trivial
          · exact hrest _ x hx
        · simp only [List.mem_cons] at hx
          rcases hx with rfl | hx
          · trivial
          · exact hrest _ x hx
      · simp only [List.mem_cons] at hx
        rcases hx with rfl | hx
        · trivial
        · exact hrest _ x hx
    | commentBlock c =>
      simp only [List.mem_cons] at hx
      rcases hx with rfl | hx
      · trivial
      · exact hrest _ x hx
    | lparen c => exact h0.elim
    | rparen c => exact h0.elim

theorem mem_entsAllW {f : WorkFile} {seg : List Ent} (hs : seg ∈ segsW f) {en : Ent} (he : en ∈ seg) : en ∈ entsAllW f :=
  List.mem_flatten.2 ⟨seg, hs, he⟩

theorem typed_in_treeW {f : WorkFile} (P : ParsedWorkOK f) {en : Ent} (he : en ∈ entsAllW f) : en.id ∈ treeIds f.syn.stmts := by
  obtain ⟨v, hv, hid, _⟩ := P.mtch.cover en he
  rw [← hid]; exact view_id_mem_treeIds hv

theorem parseWork_loadOK {name data : Bytes} {f : WorkFile} (h : parseWork name data none = .ok f) : Tie.FnEditRep.LoadWorkOK f := by
  have P : ParsedWorkOK f := parseWork_ok h
  have hshape_ids : Tie.FnEditRep.StmtShape f.syn.stmts ∧
      treeIds f.syn.stmts = List.range (treeIds f.syn.stmts).length := by
    unfold parseWork at h
    cases hp : parse name data with
    | error e => simp [hp] at h
    | ok fs =>
      simp only [hp] at h
      cases hA : workStmts none { file := { syn := fs } } fs.stmts with
      | mk st stmts =>
        simp only [hA] at h
        split at h
        · simp only [Except.ok.injEq] at h
          subst h
          refine ⟨?_, ?_⟩
          · intro e he
            have hk := workStmts_kind none fs.stmts { file := { syn := fs } } (parse_kind hp)
            rw [hA] at hk
            have := hk e he
            cases e with
            | commentBlock c => exact Or.inl ⟨c, rfl⟩
            | line l => exact Or.inr (Or.inl ⟨l, rfl⟩)
            | lineBlock b => exact Or.inr (Or.inr ⟨b, rfl⟩)
            | lparen _ => exact this.elim
            | rparen _ => exact this.elim
          · have hids : treeIds stmts = treeIds fs.stmts := by
              rw [treeIds_eq_linesOf, treeIds_eq_linesOf]
              have := workStmts_keys none fs.stmts { file := { syn := fs } }
              rw [hA] at this
              have := congrArg (List.map Prod.fst) this
              simpa [List.map_map, lineKey, Function.comp_def] using this
            show treeIds stmts = List.range (treeIds stmts).length
            rw [hids, treeIds_eq_linesOf]
            exact parse_ids_range hp
        · cases h
  refine
    { shape := hshape_ids.1, ids := hshape_ids.2
      tok := fun b hb => by obtain ⟨v, hv⟩ := P.blockTok b hb; rw [hv]; simp
      go := fun m hm => typed_in_treeW P (en := entGo m) (mem_entsAllW (seg := f.go.toList.map entGo) (by simp [segsW]) (by simp [hm]))
      toolchain := fun m hm => typed_in_treeW P (en := entTc m) (mem_entsAllW (seg := f.toolchain.toList.map entTc) (by simp [segsW]) (by simp [hm]))
      godebug := fun x hx => typed_in_treeW P (en := entG x) (mem_entsAllW (seg := f.godebug.map entG) (by simp [segsW]) (List.mem_map.2 ⟨x, hx, rfl⟩))
      use := fun x hx => typed_in_treeW P (en := entU x) (mem_entsAllW (seg := f.use.map entU) (by simp [segsW]) (List.mem_map.2 ⟨x, hx, rfl⟩))
      replace := fun x hx => typed_in_treeW P (en := entRp x) (mem_entsAllW (seg := f.replace.map entRp) (by simp [segsW]) (List.mem_map.2 ⟨x, hx, rfl⟩)) }

theorem parseWork_load_rep {name data : Bytes} {f : WorkFile} (h : parseWork name data none = .ok f) :
    Tie.FnEditRep.RepW (Drv.GenEdit.loadWork f).1 (Drv.GenEdit.loadWork f).2 (Modfile.Edit.loadWork f) :=
  Tie.FnEditRep.loadWork_rep f (parseWork_loadOK h)


end ModVerif.Tie.FnEditLoadParse
