/-
  Test harness of the non-vacuity examples of Tie/FnEditTree.lean: a parsed two-block go.mod is loaded into a heap with the
  driver's `Drv.GenEdit.load`, an operation is run, the syntax graph is read back with the driver's `synM` and compared
  with the hand model applied to `Edit.load` of the same file (kernel-evaluated, `decide +kernel`).
-/
import ModVerif.Proofs.TieFnEditRep
namespace ModVerif.Tie.FnEditTreeEx
open ModVerif ModVerif.GoRt ModVerif.Generated.Edit

/-- module + a two-line require block (the second line marked `// indirect`) + an exclude block -/
def exFile : Bytes :=
  B "module m\n\nrequire (\n\ta.b/c v1.0.0\n\td.e/f v1.2.3 // indirect\n)\n\nexclude (\n\tx.y/z v1.0.0\n)\n"

def runSyn (file : Bytes) (op : Int → Heap → M (Unit × Heap)) : Option (Modfile.FileSyntax × List Require) :=
  match Modfile.parseStrict (B "go.mod") file none with
  | .ok f =>
    let (h, fp) := Drv.GenEdit.load f
    match op fp h with
    | .ok (_, h') => (heapGet h'.mods fp).toOption.bind fun o =>
        (Drv.GenEdit.synM h' o.Syntax).bind fun s => (Drv.GenEdit.getAll h'.requires o.Require).map fun r => (s, r)
    | .error _ => none
  | .error _ => none

def modelSyn (file : Bytes) (g : Modfile.Edit.EFile → Modfile.FileSyntax × List Modfile.Require) :
    Option (Modfile.FileSyntax × List Require) :=
  match Modfile.parseStrict (B "go.mod") file none with
  | .ok f => let (s, r) := g (Modfile.Edit.load f); some (s, r.map FnEditRep.requireG)
  | .error _ => none

def runVal {α : Type} (file : Bytes) (op : Int → Heap → M α) : Option α :=
  match Modfile.parseStrict (B "go.mod") file none with
  | .ok f =>
    let (h, fp) := Drv.GenEdit.load f
    match op fp h with
    | .ok v => some v
    | .error _ => none
  | .error _ => none

def modelVal {α : Type} (file : Bytes) (g : Modfile.Edit.EFile → Option α) : Option α :=
  match Modfile.parseStrict (B "go.mod") file none with
  | .ok f => g (Modfile.Edit.load f)
  | .error _ => none

end ModVerif.Tie.FnEditTreeEx
