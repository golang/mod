/-
  The composition (the C15 theorems `typed_eq_reparse_*`): a state satisfying the tree invariant `Edit.Inv`, whose
  typed lists hold live, readable values and whose tree has the comment placement of a parsed file, is read back from its
  formatted text by the strict parser with the same directives, as multisets (`AbsPerm`); the session forms are in
  Proofs/EditGoodBlocksC.lean.
-/
import ModVerif.Proofs.EditReparseD
import ModVerif.Proofs.EditMarkerInv
import ModVerif.Proofs.EditMoreStartC
namespace ModVerif.Modfile.Edit
open ModVerif ModVerif.Modfile ModVerif.EditSpec
open ModVerif.Proofs.ModfileFmtDir (PathOK VerOK WellFormed values Values values_eq_iff pathOKB pathOKB_sound)
open ModVerif.Proofs.ModfileFmtLex (punctBytes)

/-- retractions are compared by interval: the rationale is where the recorded `C15_violated_retract_*` findings live -/
structure AbsPerm (a b : AbsFile) : Prop where
  module : a.module = b.module
  go : a.go = b.go
  toolchain : a.toolchain = b.toolchain
  godebug : a.godebug.Perm b.godebug
  require : a.require.Perm b.require
  exclude : a.exclude.Perm b.exclude
  replace : a.replace.Perm b.replace
  retract : (a.retract.map Retr.interval).Perm (b.retract.map Retr.interval)
  tool : a.tool.Perm b.tool

theorem AbsPerm.refl (a : AbsFile) : AbsPerm a a := ⟨rfl, rfl, rfl, .refl _, .refl _, .refl _, .refl _, .refl _, .refl _⟩
theorem AbsPerm.trans {a b c : AbsFile} (h1 : AbsPerm a b) (h2 : AbsPerm b c) : AbsPerm a c :=
  ⟨h1.module.trans h2.module, h1.go.trans h2.go, h1.toolchain.trans h2.toolchain, h1.godebug.trans h2.godebug,
   h1.require.trans h2.require, h1.exclude.trans h2.exclude, h1.replace.trans h2.replace, h1.retract.trans h2.retract,
   h1.tool.trans h2.tool⟩
theorem AbsPerm.symm {a b : AbsFile} (h : AbsPerm a b) : AbsPerm b a :=
  ⟨h.module.symm, h.go.symm, h.toolchain.symm, h.godebug.symm, h.require.symm, h.exclude.symm, h.replace.symm,
   h.retract.symm, h.tool.symm⟩

theorem fm_none {α β : Type} (l : List α) : l.filterMap (fun _ => (none : Option β)) = [] := by
  induction l <;> simp_all

def selModule : Nat × Item → Option Bytes
  | (_, .module p) => some p
  | _ => none
def selGo : Nat × Item → Option Bytes
  | (_, .go p) => some p
  | _ => none
def selToolchain : Nat × Item → Option Bytes
  | (_, .toolchain p) => some p
  | _ => none
def selGodebug : Nat × Item → Option (Bytes × Bytes)
  | (_, .godebug k v) => some (k, v)
  | _ => none
def selRequire : Nat × Item → Option Req
  | (_, .require m i) => some ⟨m.path, m.version, i⟩
  | _ => none
def selExclude : Nat × Item → Option (Bytes × Bytes)
  | (_, .exclude m) => some (m.path, m.version)
  | _ => none
def selReplace : Nat × Item → Option Repl
  | (_, .replace o n) => some ⟨o.path, o.version, n.path, n.version⟩
  | _ => none
def selRetract : Nat × Item → Option (Bytes × Bytes)
  | (_, .retract vi) => some (vi.low, vi.high)
  | _ => none
def selTool : Nat × Item → Option Bytes
  | (_, .tool p) => some p
  | _ => none

theorem sel_module (f : File) : (items f).filterMap selModule = (absOf f).module.toList := by
  cases h : f.module <;>
    simp [items, absOf, selModule, List.filterMap_append, List.filterMap_map, Function.comp_def, fm_none, h]
theorem sel_go (f : File) : (items f).filterMap selGo = (absOf f).go.toList := by
  cases h : f.go <;>
    simp [items, absOf, selGo, List.filterMap_append, List.filterMap_map, Function.comp_def, fm_none, h]
theorem sel_toolchain (f : File) : (items f).filterMap selToolchain = (absOf f).toolchain.toList := by
  cases h : f.toolchain <;>
    simp [items, absOf, selToolchain, List.filterMap_append, List.filterMap_map, Function.comp_def, fm_none, h]
theorem sel_godebug (f : File) : (items f).filterMap selGodebug = (absOf f).godebug := by
  simp [items, absOf, selGodebug, List.filterMap_append, List.filterMap_map, Function.comp_def, fm_none]
theorem sel_require (f : File) : (items f).filterMap selRequire = (absOf f).require := by
  simp [items, absOf, selRequire, List.filterMap_append, List.filterMap_map, Function.comp_def, fm_none]
theorem sel_exclude (f : File) : (items f).filterMap selExclude = (absOf f).exclude := by
  simp [items, absOf, selExclude, List.filterMap_append, List.filterMap_map, Function.comp_def, fm_none]
theorem sel_replace (f : File) : (items f).filterMap selReplace = (absOf f).replace := by
  simp [items, absOf, selReplace, List.filterMap_append, List.filterMap_map, Function.comp_def, fm_none]
theorem sel_retract (f : File) : (items f).filterMap selRetract = (absOf f).retract.map Retr.interval := by
  simp [items, absOf, selRetract, Retr.interval, List.filterMap_append, List.filterMap_map, Function.comp_def, fm_none]
theorem sel_tool (f : File) : (items f).filterMap selTool = (absOf f).tool := by
  simp [items, absOf, selTool, List.filterMap_append, List.filterMap_map, Function.comp_def, fm_none]

theorem opt_of_perm {α : Type} {a b : Option α} (h : a.toList.Perm b.toList) : a = b := by
  cases a <;> cases b <;> simp_all

theorem absPerm_of_items {f g : File} (h : (items f).Perm (items g)) : AbsPerm (absOf f) (absOf g) := by
  refine ⟨opt_of_perm ?_, opt_of_perm ?_, opt_of_perm ?_, ?_, ?_, ?_, ?_, ?_, ?_⟩
  · rw [← sel_module, ← sel_module]; exact h.filterMap _
  · rw [← sel_go, ← sel_go]; exact h.filterMap _
  · rw [← sel_toolchain, ← sel_toolchain]; exact h.filterMap _
  · rw [← sel_godebug, ← sel_godebug]; exact h.filterMap _
  · rw [← sel_require, ← sel_require]; exact h.filterMap _
  · rw [← sel_exclude, ← sel_exclude]; exact h.filterMap _
  · rw [← sel_replace, ← sel_replace]; exact h.filterMap _
  · rw [← sel_retract, ← sel_retract]; exact h.filterMap _
  · rw [← sel_tool, ← sel_tool]; exact h.filterMap _

theorem absPerm_of_values {f g : File} (h : values f = values g) : AbsPerm (absOf f) (absOf g) := by
  obtain ⟨h1, h2, h3, h4, h5, h6, h7, h8, h9⟩ := (values_eq_iff f g).1 h
  refine ⟨h1, h2, h3, ?_, ?_, ?_, ?_, ?_, ?_⟩
  · exact List.Perm.of_eq h4
  · have := congrArg (List.map fun (p : ModVersion × Bool) => (⟨p.1.path, p.1.version, p.2⟩ : Req)) h5
    simp only [List.map_map, Function.comp_def] at this
    exact List.Perm.of_eq this
  · have := congrArg (List.map fun (p : ModVersion) => (p.path, p.version)) h6
    simp only [List.map_map, Function.comp_def] at this
    exact List.Perm.of_eq this
  · have := congrArg (List.map fun (p : ModVersion × ModVersion) => (⟨p.1.path, p.1.version, p.2.path, p.2.version⟩ : Repl)) h7
    simp only [List.map_map, Function.comp_def] at this
    exact List.Perm.of_eq this
  · have := congrArg (List.map fun (p : VersionInterval) => (p.low, p.high)) h8
    simp only [List.map_map, Function.comp_def] at this
    simp only [absOf, List.map_map, Function.comp_def, Retr.interval]
    exact List.Perm.of_eq this
  · exact List.Perm.of_eq h9

theorem wellFormed_of_items {f : File} {I : List (Nat × Item)} (hp : (items f).Perm I) (hok : ∀ q ∈ I, ItemOK q.2) :
    WellFormed f := by
  have key : ∀ {q}, q ∈ items f → ItemOK q.2 := fun hq => hok _ (hp.mem_iff.1 hq)
  refine ⟨fun m hm => key (mem_items_module hm), fun r hr => ?_, fun r hr => ?_, fun r hr => ?_,
    fun r hr => key (mem_items_retract hr), fun t ht => (key (mem_items_tool ht)).1⟩
  · have : ItemOK (.require r.mod r.indirect) := key (mem_items_require hr)
    exact ⟨this.1, this.2.1.1⟩
  · have : ItemOK (.exclude r.mod) := key (mem_items_exclude hr)
    exact ⟨this.1, this.2.1.1⟩
  · have : ItemOK (.replace r.old r.new) := key (mem_items_replace hr)
    exact ⟨this.1, this.2.2.1, this.2.1, this.2.2.2.1⟩

/-- typed lists = strict re-parse of the formatted tree, for a state (Props/C15 `typed_eq_reparse_state`) -/
theorem reparse_of_inv (name : Bytes) (e : EFile) (hi : Inv e) (hl : AllLive e.f) (hv : VOK e.f)
    (hll : LinesLive e.f.syn.stmts) (hgb : GoodBlocks e.f.syn.stmts) (hcom : comShapeB e.f.syn = true) :
    ∃ g, parseStrict name (format e.f.syn) none = .ok g ∧ AbsPerm (absOf g) (absOf e.f) := by
  have hIOK := inv_IOK hi hl hv
  obtain ⟨st1, hrun, herr, hperm⟩ := first_run_fits hIOK e.f.syn hi.tree.nodup (inv_fits hi hll hgb) (inv_surj hi hl)
  obtain ⟨hewf, hnl, hhdr⟩ := inv_ewf hi hv hll hgb hcom
  have hwf := wellFormed_of_items hperm hv
  obtain ⟨g, hparse, hvals⟩ := Proofs.EditReparse.reparse_of_first_run name e.f.syn st1 hewf hnl hhdr hrun herr hwf
  exact ⟨g, hparse, (absPerm_of_values hvals).trans (absPerm_of_items hperm)⟩

theorem cleanup_allLive (e : EFile) : AllLive (cleanup e).f := by
  refine ⟨?_, ?_, ?_, ?_, ?_, ?_⟩ <;> intro x hx <;> simp only [cleanup, List.mem_filter] at hx <;> exact hx.2

theorem cleanupStmts_linesLive (stmts : List Expr) : LinesLive (cleanupStmts stmts) := by
  intro p hp
  obtain ⟨y, hy, hpy⟩ := List.mem_flatMap.1 hp
  have live : ∀ {ls : List Line} {l : Line}, l ∈ ls.filter (!·.token.isEmpty) → l.token.isEmpty = false := fun h => by
    simpa using (List.mem_filter.1 h).2
  obtain ⟨x, _, g, hg, hyg⟩ := mem_cleanupStmts hy
  cases hg with
  | dead l h => cases hyg
  | empty b h => cases hyg
  | live l h =>
    rw [List.mem_singleton.1 hyg] at hpy
    simp only [locStmt, List.mem_singleton] at hpy; subst hpy; simp [liveLoc, h]
  | collapse b l h hr =>
    rw [List.mem_singleton.1 hyg] at hpy
    simp only [locStmt, List.mem_singleton] at hpy; subst hpy
    have := live (h ▸ List.mem_singleton_self l : l ∈ b.lines.filter (!·.token.isEmpty))
    cases hl : l.token <;> simp_all [liveLoc]
  | block b h =>
    rw [List.mem_singleton.1 hyg] at hpy
    simp only [locStmt, List.mem_map] at hpy
    obtain ⟨l, hl, rfl⟩ := hpy
    simp [liveLoc, live hl]
  | other x h1 h2 =>
    rw [List.mem_singleton.1 hyg] at hpy
    cases x <;> first | exact absurd rfl (h1 _) | exact absurd rfl (h2 _) | simp [locStmt] at hpy

theorem cleanup_linesLive (e : EFile) : LinesLive (cleanup e).f.syn.stmts := cleanupStmts_linesLive _

def absItems (a : AbsFile) : List Item :=
  a.module.toList.map Item.module ++ (a.go.toList.map Item.go ++ (a.toolchain.toList.map Item.toolchain ++
  (a.godebug.map (fun g => Item.godebug g.1 g.2) ++ (a.require.map (fun r => Item.require ⟨r.path, r.vers⟩ r.indirect) ++
  (a.exclude.map (fun x => Item.exclude ⟨x.1, x.2⟩) ++
  (a.replace.map (fun r => Item.replace ⟨r.oldPath, r.oldVers⟩ ⟨r.newPath, r.newVers⟩) ++
  (a.retract.map (fun r => Item.retract ⟨r.lo, r.hi⟩) ++ a.tool.map Item.tool)))))))

def AbsOK (a : AbsFile) : Prop := ∀ it ∈ absItems a, ItemOK it

theorem absItems_absOf (f : File) : absItems (absOf f) = (items f).map (·.2) := by
  cases hm : f.module <;> cases hg : f.go <;> cases ht : f.toolchain <;>
    simp [absItems, absOf, items, List.map_append, List.map_map, Function.comp_def, hm, hg, ht]

theorem vok_of_absOK {f : File} (h : AbsOK (absOf f)) : VOK f := by
  intro q hq
  apply h
  rw [absItems_absOf]
  exact List.mem_map.2 ⟨q, hq, rfl⟩

def rawTokB (t : Bytes) : Bool := !mustQuote t && punctBytes.all fun c => t != [c]

theorem rawTokB_sound {t : Bytes} (h : rawTokB t = true) : RawTok t := by
  simp only [rawTokB, Bool.and_eq_true, Bool.not_eq_true', List.all_eq_true, bne_iff_ne, ne_eq] at h
  exact ⟨h.1, h.2⟩

def modOKB (m : ModVersion) : Bool :=
  pathOKB m.path && Semver.isValid m.version && (Semver.canonicalVersion m.version == m.version) &&
  (match modulePathMajor m.path with
   | some pm => Module.checkPathMajor m.version pm
   | none => false)

theorem modOKB_sound {m : ModVersion} (h : modOKB m = true) : ModOK m := by
  simp only [modOKB, Bool.and_eq_true, beq_iff_eq] at h
  obtain ⟨⟨⟨h1, h2⟩, h3⟩, h4⟩ := h
  refine ⟨pathOKB_sound h1, ⟨h2, h3⟩, ?_⟩
  split at h4
  · rename_i pm hpm; exact ⟨pm, hpm, h4⟩
  · cases h4

def replaceOKB (o n : ModVersion) : Bool :=
  pathOKB o.path && pathOKB n.path && (o.version.isEmpty || Semver.isValid o.version) &&
  (n.version.isEmpty || Semver.isValid n.version) &&
  (match parseReplace 0 (replArgs o n) none with
   | (args, .ok r) => args == replArgs o n && r == { old := o, new := n, lineId := 0 }
   | _ => false)

def itemOKB : Item → Bool
  | .module p => pathOKB p
  | .go v => goVersionRE v && rawTokB v
  | .toolchain n => toolchainRE n && rawTokB n
  | .godebug k v => (Modfile.addGodebug [k ++ [61] ++ v] == some (k, v)) && rawTokB (k ++ [61] ++ v)
  | .require m _ => modOKB m
  | .exclude m => modOKB m
  | .replace o n => replaceOKB o n
  | .retract vi => Semver.isValid vi.low && Semver.isValid vi.high
  | .tool p => pathOKB p && !mustQuote p

theorem itemOKB_sound {it : Item} (h : itemOKB it = true) : ItemOK it := by
  cases it with
  | module p => exact pathOKB_sound h
  | go v => simp only [itemOKB, Bool.and_eq_true] at h; exact ⟨h.1, rawTokB_sound h.2⟩
  | toolchain n => simp only [itemOKB, Bool.and_eq_true] at h; exact ⟨h.1, rawTokB_sound h.2⟩
  | godebug k v => simp only [itemOKB, Bool.and_eq_true, beq_iff_eq] at h; exact ⟨h.1, rawTokB_sound h.2⟩
  | require m i => exact modOKB_sound h
  | exclude m => exact modOKB_sound h
  | replace o n =>
    simp only [itemOKB, replaceOKB, Bool.and_eq_true, Bool.or_eq_true, List.isEmpty_iff] at h
    obtain ⟨⟨⟨⟨h1, h2⟩, h3⟩, h4⟩, h5⟩ := h
    refine ⟨pathOKB_sound h1, pathOKB_sound h2, fun hne => h3.resolve_left hne, fun hne => h4.resolve_left hne, ?_⟩
    intro id
    rw [Proofs.ModfileEol.parseReplace_id]
    split at h5
    · rename_i args r heq
      simp only [Bool.and_eq_true, beq_iff_eq] at h5
      rw [heq]
      simp only [h5.1, h5.2]
    · cases h5
  | retract vi => simp only [itemOKB, Bool.and_eq_true] at h; exact ⟨h.1, h.2⟩
  | tool p => simp only [itemOKB, Bool.and_eq_true, Bool.not_eq_true'] at h; exact ⟨pathOKB_sound h.1, h.2⟩

def absOKB (a : AbsFile) : Bool := (absItems a).all itemOKB

theorem absOKB_sound {a : AbsFile} (h : absOKB a = true) : AbsOK a :=
  fun it hit => itemOKB_sound (List.all_eq_true.1 h it hit)

def goodBlocksB (stmts : List Expr) : Bool :=
  stmts.all fun
    | .lineBlock b => (match b.token with
      | [v] => verbIn v blockVerbs
      | _ => true)
    | _ => true

/-- the conditions on the final tree of a session -/
def finalTreeB (fs : FileSyntax) : Bool := goodBlocksB fs.stmts && comShapeB fs

theorem finalTreeB_com {fs : FileSyntax} (h : finalTreeB fs = true) : comShapeB fs = true := by
  simp only [finalTreeB, Bool.and_eq_true] at h; exact h.2

end ModVerif.Modfile.Edit
