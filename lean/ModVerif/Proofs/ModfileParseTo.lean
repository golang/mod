/-
  What an accepted `parseToFile` / `parseWork` consists of: the syntax tree, the run of the directive layer over its
  statements, and (go.mod) the deferred `fixRetract` pass — as equivalences, used in both directions.
-/
import ModVerif.Model.Modfile.Work
namespace ModVerif.Proofs.ModfileParseTo
open ModVerif ModVerif.Modfile

theorem parseToFile_ok_iff {name x : Bytes} {fix : Option Fixer} {strict : Bool} {f : Modfile.File} :
    parseToFile name x fix strict = .ok f ↔
      ∃ fs st stmts, parse name x = .ok fs ∧ addStmts fix strict { file := { syn := fs } } fs.stmts = (st, stmts) ∧
        (fixRetract { st with file := { st.file with syn := { fs with stmts := stmts } } } fix).errsRev = [] ∧
        (fixRetract { st with file := { st.file with syn := { fs with stmts := stmts } } } fix).file = f := by
  unfold parseToFile
  cases hp : parse name x with
  | error e => simp
  | ok fs =>
    cases ha : addStmts fix strict { file := { syn := fs } } fs.stmts with
    | mk st stmts =>
      simp only [Except.ok.injEq, exists_and_left, exists_eq_left', ha, Prod.mk.injEq]
      constructor
      · intro h
        split at h
        · rename_i he
          exact ⟨st, stmts, ⟨rfl, rfl⟩, List.isEmpty_iff.1 he, Except.ok.inj h⟩
        · cases h
      · rintro ⟨_, _, ⟨rfl, rfl⟩, he, rfl⟩
        rw [if_pos (List.isEmpty_iff.2 he)]

theorem parseWork_ok_iff {name x : Bytes} {fix : Option Fixer} {f : WorkFile} :
    parseWork name x fix = .ok f ↔
      ∃ fs st stmts, parse name x = .ok fs ∧ workStmts fix { file := { syn := fs } } fs.stmts = (st, stmts) ∧
        st.errsRev = [] ∧ { st.file with syn := { fs with stmts := stmts } } = f := by
  unfold parseWork
  cases hp : parse name x with
  | error e => simp
  | ok fs =>
    cases ha : workStmts fix { file := { syn := fs } } fs.stmts with
    | mk st stmts =>
      simp only [Except.ok.injEq, exists_and_left, exists_eq_left', ha, Prod.mk.injEq]
      constructor
      · intro h
        split at h
        · rename_i he
          exact ⟨st, stmts, ⟨rfl, rfl⟩, List.isEmpty_iff.1 he, Except.ok.inj h⟩
        · cases h
      · rintro ⟨_, _, ⟨rfl, rfl⟩, he, rfl⟩
        rw [if_pos (List.isEmpty_iff.2 he)]

end ModVerif.Proofs.ModfileParseTo
