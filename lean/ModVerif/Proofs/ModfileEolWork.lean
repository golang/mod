/-
  C02, clause 3, go.work: one `WorkFile.add` step, by cases on `WorkOK` (`WorkFile.add` never looks at the comments of a
  line); `WorkFile.add` is a handler the replay theorem for the statement loop (`walkStmts_reparse`) applies to, which gives
  clause 3 for go.work files whose tree satisfies `EolCount`.
-/
import ModVerif.Proofs.ModfileEolReplay
import ModVerif.Proofs.ModfileFmtWork
namespace ModVerif.Proofs.ModfileEol
open ModVerif ModVerif.Modfile ModVerif.Proofs.ModfileFmtLex ModVerif.Proofs.ModfileFmtLine
open ModVerif.Proofs.ModfileFmtFix ModVerif.Proofs.ModfileFmtTree ModVerif.Proofs.ModfileFmtParse
open ModVerif.Proofs.ModfileFmtDir ModVerif.Proofs.ModfileFmtMain ModVerif.Proofs.ModfileFmtWork

structure WStepOKE (st st1 : WorkState) (verb : Bytes) (args1 : List Bytes) (fix : Option Fixer) : Prop where
  errs : st.errsRev = []
  replay : ∀ (st' : WorkState) (l' : Line), WSim st st' →
    ∃ st1', WorkFile.add st' l' verb args1 fix = (st1', args1) ∧ WSim st1 st1'

/-- `WorkFile.add` never looks at the comments of the line: no `isIndirect` parameter as in `StepOKE` -/
theorem work_add_stepE (st st1 : WorkState) (l : Line) (verb : Bytes) (args args1 : List Bytes)
    (fix : Option Fixer) (h : WorkFile.add st l verb args fix = (st1, args1)) (he : st1.errsRev = [])
    (hfix : FixOK fix) (hne : FixNE fix) (hwf : WorkWellFormed st1.file) (horig : ∀ t ∈ args, TokText t) :
    WStepOKE st st1 verb args1 fix ∧ WorkWellFormed st.file ∧ ArgsTok args1 ∧ args1 ≠ [] ∧
      ∀ t ∈ args1, t ∈ args ∨ (10 : UInt8) ∉ t := by
  obtain ⟨f1, e1⟩ := st1
  rcases workAdd_strict st l verb args fix with ⟨hok, herr⟩ | hbad
  case inr => rw [h] at hbad; exact absurd he hbad
  rw [h] at hok herr
  simp only at hok herr he hwf
  subst he
  -- it suffices to re-apply the constructor of `WorkOK` at the simulating state, on the rewritten arguments
  suffices H : (∀ st' l', WSim st st' → ∃ f1', WorkOK st' l' fix verb args1 f1' args1 ∧ workValues f1 = workValues f1') ∧
      WorkWellFormed st.file ∧ args1 ≠ [] ∧ ∀ t ∈ args1, ArgOK args t by
    obtain ⟨hrep, hw, hne1, hgood⟩ := H
    refine ⟨⟨herr.symm, fun st' l' hsim => ?_⟩, hw, fun t ht => (hgood t ht).1, hne1, fun t ht => (hgood t ht).2⟩
    obtain ⟨f1', hok', hv⟩ := hrep st' l' hsim
    exact ⟨_, workAdd_of_ok hok', hv, rfl, hsim.errs'⟩
  cases hok with
  | go a h1 h2 =>
    refine ⟨fun st' l' hsim => ⟨_, .go a (by rw [← workValues_go_isSome hsim.vals]; exact h1) h2,
      by rw [workValues_go, workValues_go, hsim.vals]⟩, ⟨hwf.use, hwf.replace⟩, by simp, fun t ht => ?_⟩
    obtain rfl := List.mem_singleton.1 ht
    exact ⟨⟨horig _ ht, goVersionRE_not_paren h2⟩, Or.inl ht⟩
  | toolchain a h1 h2 =>
    refine ⟨fun st' l' hsim => ⟨_, .toolchain a (by rw [← workValues_toolchain_isSome hsim.vals]; exact h1) h2,
      by rw [workValues_toolchain, workValues_toolchain, hsim.vals]⟩, ⟨hwf.use, hwf.replace⟩, by simp, fun t ht => ?_⟩
    obtain rfl := List.mem_singleton.1 ht
    exact ⟨⟨horig _ ht, toolchainRE_not_paren h2⟩, Or.inl ht⟩
  | godebug _ k v h1 =>
    exact ⟨fun st' l' hsim => ⟨_, .godebug _ k v h1, by rw [workValues_godebug, workValues_godebug, hsim.vals]⟩,
      ⟨hwf.use, hwf.replace⟩, by rintro rfl; simp [addGodebug] at h1,
      fun t ht => ⟨⟨horig t ht, addGodebug_not_paren h1 t ht⟩, Or.inl ht⟩⟩
  | use a s a' h1 =>
    obtain rfl := ModfileFmtQuote.parseString_tok h1
    have hp : PathOK s := hwf.use _ (List.mem_append_right _ (List.mem_singleton_self _))
    refine ⟨fun st' l' hsim => ⟨_, .use (autoQuote s) s _ (ModfileFmtQuote.parseString_autoQuote s),
        by rw [workValues_use, workValues_use, hsim.vals]⟩,
      ⟨fun u hu => hwf.use u (List.mem_append_left _ hu), hwf.replace⟩, by simp, fun t ht => ?_⟩
    obtain rfl := List.mem_singleton.1 ht
    exact argOK_path hp
  | replace _ args' r h1 =>
    obtain ⟨hpo, hvo, hpn, hvn⟩ := hwf.replace r (List.mem_append_right _ (List.mem_singleton_self _))
    obtain ⟨hre, -, -⟩ := parseReplace_fix h1 (versionFixOK_of_fixOK hfix hvo) (versionFixOK_of_fixOK hfix hvn)
    obtain rfl := parseReplace_toks h1 hne
    exact ⟨fun st' l' hsim => ⟨_, .replace _ _ _ (hre l'.id),
        by rw [workValues_replace, workValues_replace, hsim.vals]⟩,
      ⟨hwf.use, fun r' hr => hwf.replace r' (List.mem_append_left _ hr)⟩, by simp [replaceToks],
      argOK_replaceToks hpo hvo hpn hvn⟩

theorem work_add_step (st st1 : WorkState) (l : Line) (verb : Bytes) (args args1 : List Bytes)
    (fix : Option Fixer) (h : WorkFile.add st l verb args fix = (st1, args1)) (he : st1.errsRev = [])
    (hfix : FixOK fix) (hne : FixNE fix) (hwf : WorkWellFormed st1.file) (horig : ∀ t ∈ args, TokText t) :
    WStepOK st st1 verb args1 fix ∧ WorkWellFormed st.file ∧ ArgsTok args1 ∧ args1 ≠ [] := by
  obtain ⟨hs, hw, ha, hn, -⟩ := work_add_stepE st st1 l verb args args1 fix h he hfix hne hwf horig
  exact ⟨⟨hs.errs, fun st' l' hsim _ => hs.replay st' l' hsim⟩, hw, ha, hn⟩

theorem replays_workAdd {fix : Option Fixer} (hfix : FixOK fix) (hne : FixNE fix) :
    Replays (fun st _ l verb args => WorkFile.add st l verb args fix) (fun st p => st.err p .unknownBlock)
      (fun st => st.errsRev = [] ∧ WorkWellFormed st.file) WSim IndRel where
  bad st p h := work_err_ne_nil st p _ h.1
  step st _ l verb args st1 args1 h hok horig := by
    obtain ⟨hs, hwf0, hargs, hane, hanl⟩ := work_add_stepE st st1 l verb args args1 fix h hok.1 hfix hne hok.2 horig
    exact ⟨⟨hs.errs, hwf0⟩, hargs, hane, hanl, fun st' _ l' hsim _ => hs.replay st' l' hsim⟩

theorem workStmts_replayE (fix : Option Fixer) (hfix : FixOK fix) (hne : FixNE fix) :
    ∀ (ss : List Expr) (st st1 : WorkState) (ss1 : List Expr),
    workStmts fix st ss = (st1, ss1) → st1.errsRev = [] → WorkWellFormed st1.file → EWFStmts ss →
    (∀ s ∈ ss, NlOK s) →
    EWFStmts ss1 ∧ (∀ s ∈ ss1, NlOK s) ∧ WorkWellFormed st.file ∧ st.errsRev = [] ∧
    ∀ (st' : WorkState) (ss' : List Expr), WSim st st' → ss'.map eraseExpr = ss1.map normExprE →
      ∃ st1', workStmts fix st' ss' = (st1', ss') ∧ WSim st1 st1' := by
  intro ss st st1 ss1 h he hw hwf hnl
  rw [Edit.workStmts_eq_walk] at h
  obtain ⟨h1, h2, h3, h4⟩ := walkStmts_replay (replays_workAdd hfix hne) relates_ind ss st st1 ss1 h ⟨he, hw⟩ hwf hnl
    (fun _ _ => trivial)
  refine ⟨h1, h2, h3.2, h3.1, fun st' ss' hs hr => ?_⟩
  rw [Edit.workStmts_eq_walk]
  exact h4 st' ss' hs hr

theorem workStmts_noTok (fix : Option Fixer) (ss : List Expr) (st : WorkState) :
    (workStmts fix st ss).2.map noTok = ss.map noTok := by
  rw [Edit.workStmts_eq_walk]; exact ModfileWalk.walkStmts_noTok _ _ _ ss st

theorem format_preserves_directives_work_eol (name x : Bytes) (fix : Option Fixer) (f : WorkFile)
    (h : parseWork name x fix = .ok f) (hc : EolCount f.syn) (hwf : WorkWellFormed f)
    (hfix : FixOK fix) (hne : FixNE fix) :
    ∃ f', parseWork name (format f.syn) fix = .ok f' ∧ workValues f' = workValues f := by
  obtain ⟨fs, st, stmts, hp, ha, hest, rfl⟩ := ModfileParseTo.parseWork_ok_iff.1 h
  obtain ⟨-, -, t', hp', -, hrep⟩ := walkStmts_reparse (replays_workAdd hfix hne) relates_ind hp
    (by rw [← Edit.workStmts_eq_walk]; exact ha) ⟨hest, workWellFormed_syn _ hwf⟩ hc (fun _ _ => trivial)
  obtain ⟨st1', ha', hsim'⟩ := hrep { file := { syn := t' } } ⟨rfl, rfl, rfl⟩
  rw [← Edit.workStmts_eq_walk] at ha'
  exact ⟨_, ModfileParseTo.parseWork_ok_iff.2 ⟨t', st1', t'.stmts, hp', ha', hsim'.errs', rfl⟩,
    by rw [workValues_syn, ← hsim'.vals]; rfl⟩

end ModVerif.Proofs.ModfileEol
