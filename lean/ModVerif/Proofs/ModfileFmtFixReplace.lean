/-
  `parseReplace`.  A successful `parseReplace` is characterised by its components (`ReplaceParts`); the tokens it writes
  back are `AutoQuote(old path) [old version] => AutoQuote(new path) [new version]` and parse to the same entry again.

  Where the arrow is looked for depends on the SECOND token only (`args[1] == "=>"`), so an old path that is
  literally `=>` is harmless (`replace => => ./x` is accepted by this lax layer and is a fixpoint); what is needed
  is that a present old version is not the token `=>`, which holds for valid versions (they start with `v`)
  and for the empty string.
-/
import ModVerif.Proofs.ModfileFmtFixInterval
namespace ModVerif.Proofs.ModfileFmtFix
open ModVerif ModVerif.Modfile ModVerif.SemverSpec
open ModVerif.Proofs.ModfileFmtQuote ModVerif.Proofs.ModfileFmtLex

example : parseString (B "\"a b\"") = some (B "a b", B "\"a b\"") := by decide +kernel

/-- where `parseReplace` looks for the arrow -/
def arrowAt (args : List Bytes) : Nat := if args.length ≥ 2 && args[1]? == some (B "=>") then 1 else 2

theorem parseReplace_usage {id : Nat} {args args' : List Bytes} {fix : Option Fixer} {r : Replace}
    (h : parseReplace id args fix = (args', .ok r)) :
    arrowAt args + 2 ≤ args.length ∧ args.length ≤ arrowAt args + 3 ∧ args[arrowAt args]? = some (B "=>") := by
  by_cases hg : (args.length < arrowAt args + 2 || args.length > arrowAt args + 3 ||
      args[arrowAt args]? != some (B "=>")) = true
  · have : parseReplace id args fix = (args, .error .replaceUsage) := if_pos hg
    rw [this] at h; cases h
  · simp only [Bool.or_eq_true, decide_eq_true_eq, bne_iff_ne, ne_eq, not_or, Nat.not_lt, Decidable.not_not] at hg
    exact ⟨hg.1.1, hg.1.2, hg.2⟩

theorem parseReplace_args {id : Nat} {args args' : List Bytes} {fix : Option Fixer} {r : Replace}
    (h : parseReplace id args fix = (args', .ok r)) :
    (∃ a0 ns, args = [a0, B "=>", ns]) ∨ (∃ a0 ns nv, args = [a0, B "=>", ns, nv]) ∨
    (∃ a0 a1 ns, a1 ≠ B "=>" ∧ args = [a0, a1, B "=>", ns]) ∨
    (∃ a0 a1 ns nv, a1 ≠ B "=>" ∧ args = [a0, a1, B "=>", ns, nv]) := by
  obtain ⟨h1, h2, h3⟩ := parseReplace_usage h
  rcases args with _ | ⟨a0, _ | ⟨a1, rest⟩⟩
  · simp [arrowAt] at h1
  · simp [arrowAt] at h1
  · by_cases e : a1 = B "=>"
    · have ha : arrowAt (a0 :: a1 :: rest) = 1 := by simp [arrowAt, e]
      rw [ha] at h1 h2
      subst e
      rcases rest with _ | ⟨ns, _ | ⟨nv, _ | ⟨x, t⟩⟩⟩
      · simp at h1
      · exact .inl ⟨_, _, rfl⟩
      · exact .inr (.inl ⟨_, _, _, rfl⟩)
      · simp at h2
    · have ha : arrowAt (a0 :: a1 :: rest) = 2 := by simp [arrowAt, e]
      rw [ha] at h1 h2 h3
      rcases rest with _ | ⟨a2, _ | ⟨ns, _ | ⟨nv, _ | ⟨x, t⟩⟩⟩⟩
      · simp at h1
      · simp at h1
      · simp at h3; subst h3; exact .inr (.inr (.inl ⟨_, _, _, e, rfl⟩))
      · simp at h3; subst h3; exact .inr (.inr (.inr ⟨_, _, _, _, e, rfl⟩))
      · simp at h2

example : parseReplace 0 [B "a.b/c", B "v1", B "=>", B "./x"] none = ([B "a.b/c", B "v1.0.0", B "=>", B "./x"],
    .ok { old := { path := B "a.b/c", version := B "v1.0.0" }, new := { path := B "./x" }, lineId := 0 }) := by
  decide +kernel

def OldPart (fix : Option Fixer) (s pm : Bytes) (i o : List Bytes) (ov : Bytes) : Prop :=
  (i = [] ∧ o = [] ∧ ov = []) ∨
  (∃ a1, a1 ≠ B "=>" ∧ i = [a1] ∧ o = [ov] ∧ parseVersion s a1 fix = (ov, .ok ov) ∧ Module.checkPathMajor ov pm = true)

def NewPart (fix : Option Fixer) (ns : Bytes) (i o : List Bytes) (nv : Bytes) : Prop :=
  (i = [] ∧ o = [] ∧ nv = [] ∧ isDirectoryPath ns = true ∧ GoStrings.contains ns [92] = false) ∨
  (∃ t, i = [t] ∧ o = [nv] ∧ parseVersion ns t fix = (nv, .ok nv) ∧ isDirectoryPath ns = false)

structure ReplaceParts (fix : Option Fixer) (id : Nat) (args args' : List Bytes) (r : Replace) : Prop where
  ex : ∃ a0 s a0' pm nsTok ns nsTok' oldIn oldOut newIn newOut,
    args = a0 :: (oldIn ++ B "=>" :: nsTok :: newIn) ∧ args' = a0' :: (oldOut ++ B "=>" :: nsTok' :: newOut) ∧
    parseString a0 = some (s, a0') ∧ modulePathMajor s = some pm ∧ parseString nsTok = some (ns, nsTok') ∧
    OldPart fix s pm oldIn oldOut r.old.version ∧ NewPart fix ns newIn newOut r.new.version ∧
    r.old.path = s ∧ r.new.path = ns ∧ r.lineId = id

/-- the part of `parseReplace` before the old version -/
theorem head_cases {a0 : Bytes} {α : Type} {e1 : α} {e2 : Bytes → α} {f : Bytes → Bytes → Bytes → α} {y : α}
    (h : (match parseString a0 with
      | none => e1
      | some (s, a0') =>
        match modulePathMajor s with
        | none => e2 a0'
        | some pm => f s a0' pm) = y) :
    (parseString a0 = none ∧ e1 = y) ∨ (∃ s a0', parseString a0 = some (s, a0') ∧ modulePathMajor s = none ∧ e2 a0' = y) ∨
    (∃ s a0' pm, parseString a0 = some (s, a0') ∧ modulePathMajor s = some pm ∧ f s a0' pm = y) := by
  cases h0 : parseString a0 with
  | none => rw [h0] at h; exact Or.inl ⟨rfl, h⟩
  | some sa =>
    obtain ⟨s, a0'⟩ := sa
    rw [h0] at h
    simp only at h
    cases hm : modulePathMajor s with
    | none => rw [hm] at h; exact Or.inr (Or.inl ⟨s, a0', rfl, hm, h⟩)
    | some pm => rw [hm] at h; exact Or.inr (Or.inr ⟨s, a0', pm, rfl, hm, h⟩)

example : (match parseString [97] with
    | none => 0
    | some (s, _) =>
      match modulePathMajor s with
      | none => 1
      | some _ => 2) = 2 := by decide +kernel

theorem parseReplace_decomp {id : Nat} {args args' : List Bytes} {fix : Option Fixer} {r : Replace}
    (h : parseReplace id args fix = (args', .ok r)) : ReplaceParts fix id args args' r := by
  rcases parseReplace_args h with ⟨a0, nsTok, rfl⟩ | ⟨a0, nsTok, nvTok, rfl⟩ | ⟨a0, a1, nsTok, e, rfl⟩ |
      ⟨a0, a1, nsTok, nvTok, e, rfl⟩
  · -- path => dir
    simp [parseReplace] at h
    rcases head_cases h with ⟨_, h⟩ | ⟨_, _, _, _, h⟩ | ⟨s, a0', pm, h0, hm, h⟩
    · simp at h
    · simp at h
    · cases hn : parseString nsTok with
      | none => simp [hn] at h
      | some x =>
        obtain ⟨ns, nsTok'⟩ := x
        simp only [hn] at h
        cases hd : isDirectoryPath ns with
        | false =>
          simp [hd] at h
          split at h <;> simp at h
        | true =>
          cases hb : GoStrings.contains ns [92] with
          | true => simp [hd, hb] at h
          | false =>
            simp [hd, hb] at h
            obtain ⟨h1, h2⟩ := h
            subst h2
            exact ⟨a0, s, a0', pm, nsTok, ns, nsTok', [], [], [], [], rfl, by simpa using h1.symm, h0, hm, hn,
              Or.inl ⟨rfl, rfl, rfl⟩, Or.inl ⟨rfl, rfl, rfl, hd, hb⟩, rfl, rfl, rfl⟩
  · -- path => path version
    simp [parseReplace] at h
    rcases head_cases h with ⟨_, h⟩ | ⟨_, _, _, _, h⟩ | ⟨s, a0', pm, h0, hm, h⟩
    · simp at h
    · simp at h
    · cases hn : parseString nsTok with
      | none => simp [hn] at h
      | some x =>
        obtain ⟨ns, nsTok'⟩ := x
        simp only [hn] at h
        rcases hv : parseVersion ns nvTok fix with ⟨nvTok', er | nv⟩
        · simp [hv] at h
        · have e := parseVersion_ok_tok hv
          subst e
          simp only [hv] at h
          cases hd : isDirectoryPath ns with
          | true => simp [hd] at h
          | false =>
            simp [hd] at h
            obtain ⟨h1, h2⟩ := h
            subst h2
            exact ⟨a0, s, a0', pm, nsTok, ns, nsTok', [], [], [nvTok], [nvTok'], rfl, by simpa using h1.symm, h0, hm, hn,
              Or.inl ⟨rfl, rfl, rfl⟩, Or.inr ⟨nvTok, rfl, rfl, hv, hd⟩, rfl, rfl, rfl⟩
  · -- path version => dir
    simp [parseReplace, e] at h
    rcases head_cases h with ⟨_, h⟩ | ⟨_, _, _, _, h⟩ | ⟨s, a0', pm, h0, hm, h⟩
    · simp at h
    · simp at h
    · rcases hov : parseVersion s a1 fix with ⟨a1', er | ov⟩
      · simp [hov] at h
      · have e1 := parseVersion_ok_tok hov
        subst e1
        simp only [hov] at h
        cases hc : Module.checkPathMajor a1' pm with
        | false => simp [hc] at h
        | true =>
          simp [hc] at h
          cases hn : parseString nsTok with
          | none => simp [hn] at h
          | some x =>
            obtain ⟨ns, nsTok'⟩ := x
            simp only [hn] at h
            cases hd : isDirectoryPath ns with
            | false =>
              simp [hd] at h
              split at h <;> simp at h
            | true =>
              cases hb : GoStrings.contains ns [92] with
              | true => simp [hd, hb] at h
              | false =>
                simp [hd, hb] at h
                obtain ⟨h1, h2⟩ := h
                subst h2
                exact ⟨a0, s, a0', pm, nsTok, ns, nsTok', [a1], [a1'], [], [], rfl, by simpa using h1.symm, h0, hm, hn,
                  Or.inr ⟨a1, e, rfl, rfl, hov, hc⟩, Or.inl ⟨rfl, rfl, rfl, hd, hb⟩, rfl, rfl, rfl⟩
  · -- path version => path version
    simp [parseReplace, e] at h
    rcases head_cases h with ⟨_, h⟩ | ⟨_, _, _, _, h⟩ | ⟨s, a0', pm, h0, hm, h⟩
    · simp at h
    · simp at h
    · rcases hov : parseVersion s a1 fix with ⟨a1', er | ov⟩
      · simp [hov] at h
      · have e1 := parseVersion_ok_tok hov
        subst e1
        simp only [hov] at h
        cases hc : Module.checkPathMajor a1' pm with
        | false => simp [hc] at h
        | true =>
          simp [hc] at h
          cases hn : parseString nsTok with
          | none => simp [hn] at h
          | some x =>
            obtain ⟨ns, nsTok'⟩ := x
            simp only [hn] at h
            rcases hv : parseVersion ns nvTok fix with ⟨nvTok', er | nv⟩
            · simp [hv] at h
            · have e2 := parseVersion_ok_tok hv
              subst e2
              simp only [hv] at h
              cases hd : isDirectoryPath ns with
              | true => simp [hd] at h
              | false =>
                simp [hd] at h
                obtain ⟨h1, h2⟩ := h
                subst h2
                exact ⟨a0, s, a0', pm, nsTok, ns, nsTok', [a1], [a1'], [nvTok], [nvTok'], rfl, by simpa using h1.symm,
                  h0, hm, hn, Or.inr ⟨a1, e, rfl, rfl, hov, hc⟩, Or.inr ⟨nvTok, rfl, rfl, hv, hd⟩, rfl, rfl, rfl⟩

example : parseReplace 0 [B "a.b/c", B "v1", B "=>", B "d.e/f", B "v1.2"] none =
    ([B "a.b/c", B "v1.0.0", B "=>", B "d.e/f", B "v1.2.0"],
     .ok { old := { path := B "a.b/c", version := B "v1.0.0" }, new := { path := B "d.e/f", version := B "v1.2.0" }, lineId := 0 }) := by
  decide +kernel

theorem parseReplace_build {id : Nat} {args args' : List Bytes} {fix : Option Fixer} {r : Replace}
    (h : ReplaceParts fix id args args' r) : parseReplace id args fix = (args', .ok r) := by
  obtain ⟨a0, s, a0', pm, nsTok, ns, nsTok', oldIn, oldOut, newIn, newOut, rfl, rfl, h0, hm, hn, hold, hnew, e1, e2, e3⟩ := h.ex
  obtain ⟨⟨rp, rv⟩, ⟨np, nv⟩, rid⟩ := r
  simp only at e1 e2 e3 hold hnew
  subst e1 e2 e3
  rcases hold with ⟨rfl, rfl, rfl⟩ | ⟨a1, e, rfl, rfl, hov, hc⟩ <;>
  rcases hnew with ⟨rfl, rfl, rfl, hd, hb⟩ | ⟨t, rfl, rfl, hv, hd⟩
  · simp [parseReplace, h0, hm, hn, hd, hb]
  · simp [parseReplace, h0, hm, hn, hv, hd]
  · simp [parseReplace, e, h0, hm, hov, hc, hn, hd, hb]
  · simp [parseReplace, e, h0, hm, hov, hc, hn, hv, hd]

example : ReplaceParts none 3 [B "a.b/c", B "=>", B "./x"] [B "a.b/c", B "=>", B "./x"]
    { old := { path := B "a.b/c" }, new := { path := B "./x" }, lineId := 3 } :=
  parseReplace_decomp (by decide +kernel)

theorem parseReplace_iff (id : Nat) (args args' : List Bytes) (fix : Option Fixer) (r : Replace) :
    parseReplace id args fix = (args', .ok r) ↔ ReplaceParts fix id args args' r :=
  ⟨parseReplace_decomp, parseReplace_build⟩

theorem B_arrow : B "=>" = [61, 62] := by decide +kernel

theorem parseString_nil : parseString [] = some ([], autoQuote []) := by
  simp [parseString, isPrefixOfB, GoStrings.containsAny]

theorem valid_ne_arrow {v : Bytes} (h : Semver.isValid v = true) : v ≠ B "=>" := by
  obtain ⟨d, t, hd, _⟩ := valid_head h
  rw [hd, B_arrow]; simp

example : Semver.isValid (B "v1.0.0") = true := by decide +kernel

/-- the side condition of the property on the version a fixer produced -/
def VersionFixOK (fix : Option Fixer) (v : Bytes) : Prop :=
  fix = none ∨ (∃ fx, fix = some fx ∧ FixIdem fx ∧
    (v ≠ [] → Semver.isValid v = true))

theorem parseVersion_refix {p tok v : Bytes} {fix : Option Fixer} (h : parseVersion p tok fix = (v, .ok v))
    (hfix : VersionFixOK fix v) :
    parseVersion p v fix = (v, .ok v) ∧ v ≠ B "=>" ∧ (fix = none → Semver.isValid v = true) := by
  have hI : EffIdem fix := by
    rcases hfix with rfl | ⟨fx, rfl, hidem, _⟩
    · exact effIdem_none
    · exact effIdem_some hidem
  by_cases hnil : v = []
  · subst hnil
    refine ⟨(parseVersion_fixpoint hI h ⟨_, parseString_nil⟩).2, by rw [B_arrow]; simp, fun hh => ?_⟩
    subst hh
    exact absurd rfl (valid_ne_nil (parseVersion_none_valid h))
  · obtain ⟨_, hv, hf⟩ := parseVersion_fix_valid hI h (fun hne => by
      rcases hfix with rfl | ⟨fx, _, _, hval⟩
      · exact absurd rfl hne
      · exact hval hnil)
    exact ⟨hf, valid_ne_arrow hv, fun _ => hv⟩

example : parseVersion [] (B "v1") none = (B "v1.0.0", .ok (B "v1.0.0")) ∧ VersionFixOK none (B "v1.0.0") :=
  ⟨by decide +kernel, Or.inl rfl⟩

theorem parseReplace_fix {id : Nat} {args args' : List Bytes} {fix : Option Fixer} {r : Replace}
    (h : parseReplace id args fix = (args', .ok r))
    (hfo : VersionFixOK fix r.old.version) (hfn : VersionFixOK fix r.new.version) :
    (∀ id', parseReplace id' args' fix = (args', .ok { r with lineId := id' })) ∧
    (∃ oldToks newToks,
      args' = autoQuote r.old.path :: (oldToks ++ B "=>" :: autoQuote r.new.path :: newToks) ∧
      ((oldToks = [] ∧ r.old.version = []) ∨ oldToks = [r.old.version]) ∧
      ((newToks = [] ∧ r.new.version = []) ∨ newToks = [r.new.version])) ∧
    (fix = none → (r.old.version ≠ [] → Semver.isValid r.old.version = true) ∧
      (r.new.version ≠ [] → Semver.isValid r.new.version = true)) := by
  obtain ⟨a0, s, a0', pm, nsTok, ns, nsTok', oldIn, oldOut, newIn, newOut, rfl, rfl, h0, hm, hn, hold, hnew, e1, e2, e3⟩ :=
    (parseReplace_decomp h).ex
  have ea0 := parseString_tok h0
  have ens := parseString_tok hn
  -- the old part again, on its own output
  have hold' : OldPart fix s pm oldOut oldOut r.old.version ∧
      (((oldOut = [] ∧ r.old.version = []) ∨ oldOut = [r.old.version]) ∧
       (fix = none → r.old.version ≠ [] → Semver.isValid r.old.version = true)) := by
    rcases hold with ⟨_, ho, hv⟩ | ⟨a1, _, _, ho, hov, hc⟩
    · exact ⟨Or.inl ⟨ho, ho, hv⟩, Or.inl ⟨ho, hv⟩, fun _ hne => absurd hv hne⟩
    · obtain ⟨hf, hne, hvalid⟩ := parseVersion_refix hov hfo
      exact ⟨Or.inr ⟨r.old.version, hne, ho, ho, hf, hc⟩, Or.inr ho, fun hh _ => hvalid hh⟩
  have hnew' : NewPart fix ns newOut newOut r.new.version ∧
      (((newOut = [] ∧ r.new.version = []) ∨ newOut = [r.new.version]) ∧
       (fix = none → r.new.version ≠ [] → Semver.isValid r.new.version = true)) := by
    rcases hnew with ⟨_, ho, hv, hd, hb⟩ | ⟨t, _, ho, hnv, hd⟩
    · exact ⟨Or.inl ⟨ho, ho, hv, hd, hb⟩, Or.inl ⟨ho, hv⟩, fun _ hne => absurd hv hne⟩
    · obtain ⟨hf, _, hvalid⟩ := parseVersion_refix hnv hfn
      exact ⟨Or.inr ⟨r.new.version, ho, ho, hf, hd⟩, Or.inr ho, fun hh _ => hvalid hh⟩
  refine ⟨?_, ⟨oldOut, newOut, ?_, hold'.2.1, hnew'.2.1⟩, fun hh => ⟨hold'.2.2 hh, hnew'.2.2 hh⟩⟩
  · intro id'
    apply parseReplace_build
    exact ⟨a0', s, a0', pm, nsTok', ns, nsTok', oldOut, oldOut, newOut, newOut, rfl, rfl, parseString_idem h0, hm,
      parseString_idem hn, hold'.1, hnew'.1, e1, e2, rfl⟩
  · rw [e1, e2, ← ea0, ← ens]

example : parseReplace 7 [B "\"a.b/c\"", B "v1", B "=>", B "\"d.e/f\"", B "master"] (some fixStub) =
      ([B "a.b/c", B "v1.0.0", B "=>", B "d.e/f", B "v0.0.0-20200101000000-000000000000"],
       .ok { old := { path := B "a.b/c", version := B "v1.0.0" },
             new := { path := B "d.e/f", version := B "v0.0.0-20200101000000-000000000000" }, lineId := 7 }) ∧
    Semver.isValid (B "v1.0.0") = true ∧ Semver.isValid (B "v0.0.0-20200101000000-000000000000") = true := by
  decide +kernel

/-- the tokens of a `replace` entry, as the property states them -/
def replaceToks (r : Replace) : List Bytes :=
  [autoQuote r.old.path] ++ (if r.old.version = [] then [] else [r.old.version]) ++ [B "=>"] ++
  [autoQuote r.new.path] ++ (if r.new.version = [] then [] else [r.new.version])

example : parseVersion [] (B "v1") (some dontFixRetract) = (B "v1", .ok (B "v1")) := by decide +kernel

/-- `key` is needed: a fixer that returns `""` makes `parseReplace` write an empty token, which is not of this shape
    (`parseReplace 0 [a, =>, b, x] (some fun _ _ => .ok [])` writes `[a, =>, b, ""]`). -/
theorem parseReplace_toks_of {id : Nat} {args args' : List Bytes} {fix : Option Fixer} {r : Replace}
    (h : parseReplace id args fix = (args', .ok r))
    (key : ∀ {p tok v : Bytes}, parseVersion p tok fix = (v, .ok v) → v ≠ []) :
    args' = replaceToks r := by
  obtain ⟨a0, s, a0', pm, nsTok, ns, nsTok', oldIn, oldOut, newIn, newOut, rfl, rfl, h0, hm, hn, hold, hnew, e1, e2, e3⟩ :=
    (parseReplace_decomp h).ex
  have ea0 := parseString_tok h0
  have ens := parseString_tok hn
  unfold replaceToks
  rw [e1, e2, ← ea0, ← ens]
  rcases hold with ⟨_, ho, hv⟩ | ⟨a1, _, _, ho, hov, _⟩ <;>
  rcases hnew with ⟨_, hno, hnv, _, _⟩ | ⟨t, _, hno, hnv, _⟩
  · simp [ho, hno, hv, hnv]
  · simp [ho, hno, hv, key hnv]
  · simp [ho, hno, key hov, hnv]
  · simp [ho, hno, key hov, key hnv]

theorem parseReplace_toks {id : Nat} {args args' : List Bytes} {fix : Option Fixer} {r : Replace}
    (h : parseReplace id args fix = (args', .ok r))
    (hne : ∀ fx, fix = some fx → ∀ p' v0, fx p' v0 ≠ .ok []) :
    args' = replaceToks r := by
  refine parseReplace_toks_of h fun {p tok v} hv => ?_
  obtain ⟨t, _, _, hf, _⟩ := parseVersion_ok_iff.1 hv
  cases fix with
  | none => exact valid_ne_nil (effFix_none_valid hf)
  | some fx => intro e; subst e; exact hne fx rfl p t (effFix_some.1 hf)

example : parseReplace 0 [B "a.b/c", B "=>", B "./x"] none =
      ([B "a.b/c", B "=>", B "./x"], .ok { old := { path := B "a.b/c" }, new := { path := B "./x" }, lineId := 0 }) ∧
    (∀ fx : Fixer, (none : Option Fixer) = some fx → ∀ p' v0, fx p' v0 ≠ .ok []) :=
  ⟨by decide +kernel, fun _ hf => by cases hf⟩

/-- the counterexample in the doc comment of `parseReplace_toks_of`: a fixer that returns the empty string -/
example : parseReplace 0 [B "a", B "=>", B "b", B "x"] (some fun _ _ => .ok []) =
    ([B "a", B "=>", B "b", []], .ok { old := { path := B "a" }, new := { path := B "b" }, lineId := 0 }) := by
  decide +kernel

theorem parseReplace_fix_none {id : Nat} {args args' : List Bytes} {r : Replace}
    (h : parseReplace id args none = (args', .ok r)) :
    (∀ id', parseReplace id' args' none = (args', .ok { r with lineId := id' })) ∧ args' = replaceToks r ∧
    (r.old.version ≠ [] → Semver.isValid r.old.version = true) ∧
    (r.new.version ≠ [] → Semver.isValid r.new.version = true) := by
  obtain ⟨h1, _, h3⟩ := parseReplace_fix h (Or.inl rfl) (Or.inl rfl)
  exact ⟨h1, parseReplace_toks h (fun fx hf => by cases hf), (h3 rfl).1, (h3 rfl).2⟩

example : parseReplace 0 [B "=>", B "=>", B "./x"] none =
    ([B "=>", B "=>", B "./x"], .ok { old := { path := B "=>" }, new := { path := B "./x" }, lineId := 0 }) := by
  decide +kernel

theorem parseReplace_fix_valid {id : Nat} {args args' : List Bytes} {fx : Fixer} {r : Replace}
    (h : parseReplace id args (some fx) = (args', .ok r))
    (hidem : ∀ p' v0 w, fx p' v0 = .ok w → fx p' w = .ok w)
    (hvalid : ∀ p' v0 w, fx p' v0 = .ok w → Semver.isValid w = true) :
    (∀ id', parseReplace id' args' (some fx) = (args', .ok { r with lineId := id' })) ∧ args' = replaceToks r ∧
    (r.old.version ≠ [] → Semver.isValid r.old.version = true) ∧
    (r.new.version ≠ [] → Semver.isValid r.new.version = true) := by
  obtain ⟨a0, s, a0', pm, nsTok, ns, nsTok', oldIn, oldOut, newIn, newOut, _, _, _, _, _, hold, hnew, _, _, _⟩ :=
    (parseReplace_decomp h).ex
  have ho : r.old.version ≠ [] → Semver.isValid r.old.version = true := by
    intro hne
    rcases hold with ⟨_, _, hv⟩ | ⟨a1, _, _, _, hov, _⟩
    · exact absurd hv hne
    · obtain ⟨t, _, _, hf, _⟩ := parseVersion_ok_iff.1 hov
      exact hvalid _ _ _ (effFix_some.1 hf)
  have hn : r.new.version ≠ [] → Semver.isValid r.new.version = true := by
    intro hne
    rcases hnew with ⟨_, _, hv, _, _⟩ | ⟨t, _, _, hnv, _⟩
    · exact absurd hv hne
    · obtain ⟨t, _, _, hf, _⟩ := parseVersion_ok_iff.1 hnv
      exact hvalid _ _ _ (effFix_some.1 hf)
  refine ⟨(parseReplace_fix h (Or.inr ⟨fx, rfl, hidem, ho⟩) (Or.inr ⟨fx, rfl, hidem, hn⟩)).1, parseReplace_toks h ?_, ho, hn⟩
  intro fx' hf p' v0 hh
  cases hf
  have := hvalid p' v0 [] hh
  exact valid_ne_nil this rfl

example : parseReplace 0 [B "a.b/c", B "x", B "=>", B "d.e/f", B "y"] (some fun _ _ => .ok (B "v1.0.0")) =
      ([B "a.b/c", B "v1.0.0", B "=>", B "d.e/f", B "v1.0.0"],
       .ok { old := { path := B "a.b/c", version := B "v1.0.0" }, new := { path := B "d.e/f", version := B "v1.0.0" },
             lineId := 0 }) ∧
    (∀ p' v0 w : Bytes, (fun _ _ => .ok (B "v1.0.0") : Fixer) p' v0 = .ok w → (fun _ _ => .ok (B "v1.0.0") : Fixer) p' w = .ok w) ∧
    (∀ p' v0 w : Bytes, (fun _ _ => .ok (B "v1.0.0") : Fixer) p' v0 = .ok w → Semver.isValid w = true) := by
  refine ⟨by decide +kernel, fun _ _ _ h => h, ?_⟩
  intro _ _ w h
  simp only [Except.ok.injEq] at h
  rw [← h]; decide +kernel

end ModVerif.Proofs.ModfileFmtFix
