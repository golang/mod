/-
  Tie proof, sumdb/dirhash `DirFiles` / `HashDir`: the trie `Zip.treeOfList` builds from a flat list of files (the
  directory the mirror driver hands to the regenerated code).  `flatList` lists the component paths of its file leaves in
  pre-order; `wfList` says that every name is a normal path element and the names of every directory are strictly
  increasing.  Inserting a file at a component path that is incomparable (no prefix either way) with the paths already
  there keeps `wfList` and adds exactly that path (`insertPath_spec`).
-/
import ModVerif.Model.Zip
import ModVerif.Model.Dirhash
import ModVerif.Spec.ZipSpec
import ModVerif.Proofs.Dirhash
import ModVerif.Proofs.DirhashZip
namespace ModVerif.TieFnDirhashDir
open ModVerif ModVerif.Zip ModVerif.ZipSpec

mutual
/-- component paths (relative to the node) of the file leaves below a node, in pre-order -/
def flatNode : Node → List (List Bytes)
  | .file .. => [[]]
  | .dir cs => flatList cs
def flatList : List (Bytes × Node) → List (List Bytes)
  | [] => []
  | (n, x) :: rest => (flatNode x).map (n :: ·) ++ flatList rest
end

mutual
/-- a trie as `trieOf` builds it: names are normal elements, the children of a directory strictly increasing by name -/
def wfNode : Node → Prop
  | .file .. => True
  | .dir cs => wfList cs
def wfList : List (Bytes × Node) → Prop
  | [] => True
  | (n, x) :: rest => (NormalElem n ∧ wfNode x) ∧ (∀ p ∈ rest, bytesLt n p.1 = true) ∧ wfList rest
end

mutual
def szNode : Node → Nat
  | .file .. => 1
  | .dir cs => 1 + szList cs
def szList : List (Bytes × Node) → Nat
  | [] => 1
  | (_, x) :: rest => 1 + szNode x + szList rest
end

theorem flatList_eq_flatMap : ∀ cs : List (Bytes × Node),
    flatList cs = cs.flatMap (fun p => (flatNode p.2).map (p.1 :: ·))
  | [] => by simp [flatList]
  | (n, x) :: rest => by simp [flatList, flatList_eq_flatMap rest]

theorem flatList_append (a b : List (Bytes × Node)) : flatList (a ++ b) = flatList a ++ flatList b := by
  simp [flatList_eq_flatMap]

theorem flatList_cons (n : Bytes) (x : Node) (rest : List (Bytes × Node)) :
    flatList ((n, x) :: rest) = (flatNode x).map (n :: ·) ++ flatList rest := by
  simp [flatList]

theorem wfList_iff : ∀ cs : List (Bytes × Node),
    wfList cs ↔ (∀ p ∈ cs, NormalElem p.1 ∧ wfNode p.2) ∧ cs.Pairwise (fun a b => bytesLt a.1 b.1 = true)
  | [] => by simp [wfList]
  | (n, x) :: rest => by
    simp only [wfList, wfList_iff rest, List.mem_cons, forall_eq_or_imp, List.pairwise_cons]
    constructor
    · rintro ⟨h1, h2, h3, h4⟩; exact ⟨⟨h1, h3⟩, h2, h4⟩
    · rintro ⟨⟨h1, h3⟩, h2, h4⟩; exact ⟨h1, h2, h3, h4⟩

theorem wfList_nil : wfList [] := by simp [wfList]

theorem modifyChild_cases (name : Bytes) (f : Option Node → Node) : ∀ cs : List (Bytes × Node),
    cs.Pairwise (fun a b => bytesLt a.1 b.1 = true) →
    (∃ l1 l2, cs = l1 ++ l2 ∧ (∀ p ∈ l1, bytesLt p.1 name = true) ∧ (∀ p ∈ l2, bytesLt name p.1 = true) ∧
        modifyChild name f cs = l1 ++ (name, f none) :: l2) ∨
    (∃ l1 v l2, cs = l1 ++ (name, v) :: l2 ∧ (∀ p ∈ l1, bytesLt p.1 name = true) ∧
        (∀ p ∈ l2, bytesLt name p.1 = true) ∧ modifyChild name f cs = l1 ++ (name, f (some v)) :: l2)
  | [], _ => Or.inl ⟨[], [], rfl, by simp, by simp, by simp [modifyChild]⟩
  | (k, v) :: rest, hs => by
    have hk : ∀ p ∈ rest, bytesLt k p.1 = true := (List.pairwise_cons.1 hs).1
    have hrest := (List.pairwise_cons.1 hs).2
    by_cases hkn : k = name
    · subst hkn
      exact Or.inr ⟨[], v, rest, rfl, by simp, hk, by simp [modifyChild]⟩
    · have hkn' : (k == name) = false := by simpa using hkn
      by_cases hlt : bytesLt name k = true
      · refine Or.inl ⟨[], (k, v) :: rest, rfl, by simp, ?_, by simp [modifyChild, hkn', hlt]⟩
        intro p hp
        rcases List.mem_cons.1 hp with rfl | hp
        · exact hlt
        · exact bytesLt_trans _ _ _ hlt (hk p hp)
      · have hlt' : bytesLt name k = false := by simpa using hlt
        have hkl : bytesLt k name = true := by
          cases h : bytesLt k name with
          | true => rfl
          | false => exact absurd (bytesLt_total k name h hlt') hkn
        have hm : modifyChild name f ((k, v) :: rest) = (k, v) :: modifyChild name f rest := by
          simp [modifyChild, hkn', hlt']
        rcases modifyChild_cases name f rest hrest with ⟨l1, l2, e, h1, h2, h3⟩ | ⟨l1, w, l2, e, h1, h2, h3⟩
        · refine Or.inl ⟨(k, v) :: l1, l2, by simp [e], ?_, h2, by simp [hm, h3]⟩
          intro p hp
          rcases List.mem_cons.1 hp with rfl | hp
          · exact hkl
          · exact h1 p hp
        · refine Or.inr ⟨(k, v) :: l1, w, l2, by simp [e], ?_, h2, by simp [hm, h3]⟩
          intro p hp
          rcases List.mem_cons.1 hp with rfl | hp
          · exact hkl
          · exact h1 p hp

theorem wfList_splice {l1 l2 : List (Bytes × Node)} {name : Bytes} {x : Node}
    (h : wfList (l1 ++ l2)) (h1 : ∀ p ∈ l1, bytesLt p.1 name = true) (h2 : ∀ p ∈ l2, bytesLt name p.1 = true)
    (hn : NormalElem name) (hx : wfNode x) : wfList (l1 ++ (name, x) :: l2) := by
  rw [wfList_iff] at h ⊢
  obtain ⟨ha, hp⟩ := h
  refine ⟨?_, ?_⟩
  · intro p hp'
    rcases List.mem_append.1 hp' with hp' | hp'
    · exact ha p (List.mem_append_left _ hp')
    · rcases List.mem_cons.1 hp' with rfl | hp'
      · exact ⟨hn, hx⟩
      · exact ha p (List.mem_append_right _ hp')
  · rw [List.pairwise_append] at hp ⊢
    refine ⟨hp.1, List.pairwise_cons.2 ⟨h2, hp.2.1⟩, ?_⟩
    intro a ha' b hb
    rcases List.mem_cons.1 hb with rfl | hb
    · exact h1 a ha'
    · exact hp.2.2 a ha' b hb

theorem wfList_drop_mid {l1 l2 : List (Bytes × Node)} {e : Bytes × Node} (h : wfList (l1 ++ e :: l2)) :
    wfList (l1 ++ l2) := by
  rw [wfList_iff] at h ⊢
  refine ⟨fun p hp => h.1 p ?_, h.2.sublist ?_⟩
  · rcases List.mem_append.1 hp with hp | hp
    · exact List.mem_append_left _ hp
    · exact List.mem_append_right _ (List.mem_cons_of_mem _ hp)
  · exact List.Sublist.append (List.Sublist.refl _) (List.sublist_cons_self _ _)

def Incomp (a b : List Bytes) : Prop := ¬ a <+: b ∧ ¬ b <+: a

theorem Incomp.symm {a b : List Bytes} (h : Incomp a b) : Incomp b a := ⟨h.2, h.1⟩

theorem insertPath_single (c : Bytes) (m : Mode) (s : Int) (ct : Bytes) (g : Bool) (t : List (Bytes × Node)) :
    insertPath [c] (.file m s ct g) t = modifyChild c (fun _ => .file m s ct g) t := by
  simp only [insertPath]

theorem insertPath_spec (m : Mode) (s : Int) (ct : Bytes) (g : Bool) : ∀ (cs : List Bytes) (t : List (Bytes × Node)),
    cs ≠ [] → (∀ c ∈ cs, NormalElem c) → wfList t → (∀ p ∈ flatList t, Incomp p cs) →
    wfList (insertPath cs (.file m s ct g) t) ∧ (flatList (insertPath cs (.file m s ct g) t)).Perm (cs :: flatList t)
  | [], _, h, _, _, _ => absurd rfl h
  | [c], t, _, hn, hwf, hinc => by
    rw [insertPath_single]
    have hc : NormalElem c := hn c (by simp)
    rcases modifyChild_cases c (fun _ => Node.file m s ct g) t ((wfList_iff t).1 hwf).2 with
      ⟨l1, l2, e, h1, h2, h3⟩ | ⟨l1, v, l2, e, h1, h2, h3⟩
    · rw [h3]
      subst e
      refine ⟨wfList_splice hwf h1 h2 hc (by simp [wfNode]), ?_⟩
      rw [flatList_append, flatList_cons, flatList_append]
      simp only [flatNode, List.map_cons, List.map_nil, List.singleton_append]
      exact List.perm_middle
    · rw [h3]
      subst e
      have hv : flatNode v = [] := by
        cases hfv : flatNode v with
        | nil => rfl
        | cons q qs =>
          have hmem : (c :: q) ∈ flatList (l1 ++ (c, v) :: l2) := by
            rw [flatList_append, flatList_cons, hfv]; simp
          exact absurd (by simp : [c] <+: c :: q) (hinc _ hmem).2
      refine ⟨wfList_splice (wfList_drop_mid hwf) h1 h2 hc (by simp [wfNode]), ?_⟩
      rw [flatList_append, flatList_cons, flatList_append, flatList_cons, hv]
      simp only [flatNode, List.map_cons, List.map_nil, List.singleton_append, List.nil_append]
      exact List.perm_middle
  | c :: c' :: rest, t, _, hn, hwf, hinc => by
    have hc : NormalElem c := hn c (by simp)
    have hn' : ∀ d ∈ c' :: rest, NormalElem d := fun d hd => hn d (List.mem_cons_of_mem _ hd)
    have hins : insertPath (c :: c' :: rest) (.file m s ct g) t =
        modifyChild c (fun old => .dir (insertPath (c' :: rest) (.file m s ct g) (childrenOf old))) t := by
      simp only [insertPath]
    rw [hins]
    rcases modifyChild_cases c (fun old => Node.dir (insertPath (c' :: rest) (.file m s ct g) (childrenOf old))) t
        ((wfList_iff t).1 hwf).2 with ⟨l1, l2, e, h1, h2, h3⟩ | ⟨l1, v, l2, e, h1, h2, h3⟩
    · rw [h3]
      subst e
      have ih := insertPath_spec m s ct g (c' :: rest) [] (by simp) hn' wfList_nil (by simp [flatList])
      simp only [childrenOf]
      refine ⟨wfList_splice hwf h1 h2 hc (by simpa [wfNode] using ih.1), ?_⟩
      rw [flatList_append, flatList_cons, flatList_append]
      simp only [flatNode]
      have hp : ((flatList (insertPath (c' :: rest) (.file m s ct g) [])).map (c :: ·)).Perm [c :: c' :: rest] := by
        have := ih.2.map (c :: ·)
        simpa [flatList] using this
      refine List.Perm.trans (List.Perm.append_left _ (List.Perm.append_right _ hp)) ?_
      simp only [List.singleton_append]
      exact List.perm_middle
    · rw [h3]
      subst e
      cases v with
      | file m' s' ct' g' =>
        have hmem : [c] ∈ flatList (l1 ++ (c, Node.file m' s' ct' g') :: l2) := by
          rw [flatList_append, flatList_cons]; simp [flatNode]
        exact absurd (by simp : [c] <+: c :: c' :: rest) (hinc _ hmem).1
      | dir sub =>
        simp only [childrenOf]
        have hsub : wfList sub := by
          have := ((wfList_iff _).1 hwf).1 (c, Node.dir sub) (by simp)
          simpa [wfNode] using this.2
        have hincsub : ∀ p ∈ flatList sub, Incomp p (c' :: rest) := by
          intro p hp
          have hmem : (c :: p) ∈ flatList (l1 ++ (c, Node.dir sub) :: l2) := by
            rw [flatList_append, flatList_cons]; simp [flatNode, hp]
          have := hinc _ hmem
          exact ⟨fun h => this.1 (by simpa using h), fun h => this.2 (by simpa using h)⟩
        have ih := insertPath_spec m s ct g (c' :: rest) sub (by simp) hn' hsub hincsub
        refine ⟨wfList_splice (wfList_drop_mid hwf) h1 h2 hc (by simpa [wfNode] using ih.1), ?_⟩
        rw [flatList_append, flatList_cons, flatList_append, flatList_cons]
        simp only [flatNode]
        have hp := ih.2.map (c :: ·)
        simp only [List.map_cons] at hp
        refine List.Perm.trans (List.Perm.append_left _ (List.Perm.append_right _ hp)) ?_
        simp only [List.cons_append]
        exact List.perm_middle

/-- the node `treeOfList` is given for a regular file -/
abbrev leafOf (f : Bytes × Bytes) : Bytes × Node := (f.1, Node.file .regular (f.2.length : Int) f.2 false)

theorem foldl_insert_spec : ∀ (files : List (Bytes × Bytes)) (acc : List (Bytes × Node)),
    (∀ f ∈ files, ∀ c ∈ splitOn 47 f.1, NormalElem c) →
    (files.map (fun f => splitOn 47 f.1)).Pairwise Incomp →
    wfList acc → (∀ f ∈ files, ∀ p ∈ flatList acc, Incomp p (splitOn 47 f.1)) →
    wfList ((files.map leafOf).foldl (fun cs it => insertPath (splitOn 47 it.1) it.2 cs) acc) ∧
    (flatList ((files.map leafOf).foldl (fun cs it => insertPath (splitOn 47 it.1) it.2 cs) acc)).Perm
      (files.map (fun f => splitOn 47 f.1) ++ flatList acc)
  | [], acc, _, _, hwf, _ => by simp [hwf]
  | f :: files, acc, hn, hpw, hwf, hinc => by
    have hne : splitOn 47 f.1 ≠ [] := splitOn_ne_nil 47 f.1
    have h1 := insertPath_spec .regular (f.2.length : Int) f.2 false (splitOn 47 f.1) acc hne
      (hn f (by simp)) hwf (hinc f (by simp))
    have hpw' := List.pairwise_cons.1 (show (splitOn 47 f.1 :: files.map (fun f => splitOn 47 f.1)).Pairwise Incomp from hpw)
    have ih := foldl_insert_spec files _ (fun f' hf' => hn f' (List.mem_cons_of_mem _ hf')) hpw'.2 h1.1 (by
      intro f' hf' p hp
      rcases List.mem_cons.1 (h1.2.subset hp) with rfl | hp
      · exact hpw'.1 _ (List.mem_map.2 ⟨f', hf', rfl⟩)
      · exact hinc f' (List.mem_cons_of_mem _ hf') p hp)
    simp only [List.map_cons, List.foldl_cons]
    refine ⟨ih.1, ih.2.trans ?_⟩
    refine List.Perm.trans (List.Perm.append_left _ h1.2) ?_
    simp only [List.cons_append]
    exact List.perm_middle

end ModVerif.TieFnDirhashDir
