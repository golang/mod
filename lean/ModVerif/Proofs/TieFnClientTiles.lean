/-
  The tile layer of the regenerated sumdb client against the hand model, on the representation of
  Proofs/TieFnClientRep.lean: `Client_tileCacheKey`, `Client_tileRemotePath`, `Client_markTileSaved`,
  `Client_readTile_cacheFn1` (= the model's `readTileWork`), `Client_readTile`; `tileReader_ReadTiles` (its two loops) =
  `readTiles` (`readTilesAll` + `firstError`); `tileReader_SaveTiles` = `saveTiles`.

  Fuel: 8 for one tile (the digit loops of `Tile.Path`), `len(tiles) + 9` for `ReadTiles` / `SaveTiles` (one unit per turn of
  a loop, and a tile inside it).

  `SaveTiles`: the Go code first marks (loop 1, computing the `save` flags), then writes (loop 2); the model marks and
  writes tile by tile.  `saveTiles_split`: the model's function is "mark all, then write the flagged ones" (marking only
  changes `c.tileSaved`, writing only the state and the trace).
-/
import ModVerif.Proofs.TieFnClientRep
import ModVerif.Proofs.TieFnTilePath
import ModVerif.Proofs.GoRtLemmas
import ModVerif.Proofs.ClientRuns
set_option linter.unusedSectionVars false
namespace ModVerif.TieFnClientTiles
open ModVerif ModVerif.GoRt ModVerif.GoRtTile ModVerif.Generated.SumdbClient ModVerif.TieFnClientRep
open ModVerif.TieFnTile (toGen ofGen GTile)

/-- the tiles the client handles: `toGen` is injective on them, `Tile.Path` is the model's `tilePath` (`1 << H` and `N`
    are int64 values), and the width fits the height (`data[:len(data)/full.W*tile.W]` is within `data`) -/
structure TRange (t : Tile.Tile) : Prop where
  ok : TOk t
  h : t.h ≤ 62
  n : t.n < 2 ^ 63
  w : t.w ≤ 2 ^ t.h

section
variable {σ H : Type} [DecidableEq H] [Inhabited H]

theorem tilePathX_eq (fuel : Nat) (t : Tile.Tile) (hh : t.h ≤ 62) (hn : t.n < 2 ^ 63) (hf : 8 ≤ fuel) :
    tilePathX fuel (toGen t) = .ok (Tile.tilePath t) :=
  TieFnTile.Tile_Path_eq fuel t hh hn hf

theorem tileCacheKey_eq (fuel : Nat) (t : Tile.Tile) (hh : t.h ≤ 62) (hn : t.n < 2 ^ 63) (hf : 8 ≤ fuel) (cw : GW σ H) :
    Client_tileCacheKey fuel (toGen t) cw = .ok (Client.tileCacheKey cw.name t, cw) := by
  unfold Client_tileCacheKey
  rw [tilePathX_eq fuel t hh hn hf]
  rfl

theorem tileRemotePath_eq (fuel : Nat) (t : Tile.Tile) (hh : t.h ≤ 62) (hn : t.n < 2 ^ 63) (hf : 8 ≤ fuel) (cw : GW σ H) :
    Client_tileRemotePath fuel (toGen t) cw = .ok (Client.tileRemotePath t, cw) := by
  unfold Client_tileRemotePath
  rw [tilePathX_eq fuel t hh hn hf]
  rfl

def markG (cw : GW σ H) (g : GTile) : GW σ H := { cw with tileSaved := mapSet cw.tileSaved g true }

theorem markTileSaved_eq (g : GTile) (cw : GW σ H) : Client_markTileSaved g cw = ((), markG cw g) := rfl

theorem markG_frame (cw : GW σ H) (g : GTile) : FrameG cw (markG cw g) := ⟨rfl, rfl, rfl, rfl, rfl, rfl, rfl, rfl, rfl, rfl⟩

theorem markM_frame (w : Client.World σ H) (t : Tile.Tile) : FrameM w (Client.markTileSaved w t) :=
  ⟨rfl, rfl, rfl, rfl, rfl, rfl⟩

theorem contains_cons_tile (t u : Tile.Tile) (l : List Tile.Tile) :
    (t :: l).contains u = (decide (t = u) || l.contains u) := by
  rw [List.contains_cons]
  congr 1
  by_cases h : t = u
  · subst h; simp
  · have : ¬ u = t := fun e => h e.symm
    simp [h, this]

/-- `c.tileSaved[tile] = true` against consing `tile` -/
theorem saved_set {ts : List (GTile × Bool)} {saved : List Tile.Tile}
    (h : ∀ u, TOk u → (mapGet ts (toGen u) false).1 = saved.contains u) (t : Tile.Tile) (ht : TOk t) :
    ∀ u, TOk u → (mapGet (mapSet ts (toGen t) true) (toGen u) false).1 = (t :: saved).contains u := by
  intro u hu
  rw [TieFnNote.mapGet_mapSet_true, contains_cons_tile, h u hu]
  congr 1
  by_cases e : t = u
  · subst e; simp
  · have : ¬ toGen t = toGen u := fun e' => e (toGen_inj t u ht hu e')
    simp [e, this]

theorem markTileSaved_core {P : Client.Params H} {E : Client.Env σ} {w : Client.World σ H} {cw : GW σ H}
    (h : RepCore P E w cw) (t : Tile.Tile) (ht : TOk t) :
    RepCore P E (Client.markTileSaved w t) (markG cw (toGen t)) :=
  { h with tileSaved := saved_set h.tileSaved t ht }

/-- `full := tile; full.W = 1 << uint(tile.H)` -/
def fullOf (t : Tile.Tile) : Tile.Tile := { t with w := 2 ^ t.h }

theorem fullOf_range (t : Tile.Tile) (h : TRange t) : TRange (fullOf t) :=
  ⟨h.ok, h.h, h.n, Nat.le_refl _⟩

theorem toGen_fullOf (t : Tile.Tile) : ({ toGen t with W := ((2 ^ t.h : Nat) : Int) } : GTile) = toGen (fullOf t) := rfl

theorem ne_full_iff (t : Tile.Tile) (h : TRange t) :
    (!decide (toGen t = toGen (fullOf t))) = (t != fullOf t) := by
  by_cases e : t = fullOf t
  · have e' : toGen t = toGen (fullOf t) := congrArg toGen e
    simp [e', ← e]
  · have e' : ¬ toGen t = toGen (fullOf t) := fun e' => e (toGen_inj _ _ h.ok (fullOf_range t h).ok e')
    simp [e, e']

/-- `data[:len(data)/full.W*tile.W]` -/
theorem cut_eq (data : Bytes) (t : Tile.Tile) (h : TRange t) :
    (do let t13 ← quo (len data) (((2 ^ t.h : Nat)) : Int)
        sliceTo data (t13 * ((t.w : Nat) : Int)) : M Bytes) = .ok (Client.cutFull data (2 ^ t.h) t.w) := by
  have hp : 2 ^ t.h ≠ 0 := Nat.pos_iff_ne_zero.mp (Nat.pow_pos (by omega))
  have h1 : quo (len data) (((2 ^ t.h : Nat)) : Int) = .ok (((data.length / 2 ^ t.h : Nat)) : Int) := by
    have := quo_natCast data.length (2 ^ t.h) hp
    simpa [len] using this
  rw [h1, mbind_ok]
  have h2 : ((data.length / 2 ^ t.h : Nat) : Int) * ((t.w : Nat) : Int) = ((data.length / 2 ^ t.h * t.w : Nat) : Int) := by
    simp
  rw [h2]
  have hle : data.length / 2 ^ t.h * t.w ≤ data.length :=
    Nat.le_trans (Nat.mul_le_mul_left _ h.w) (Nat.div_mul_le_self _ _)
  rw [sliceTo_natCast hle]
  rfl

variable {P : Client.Params H} {E : Client.Env σ}

/-- the second half of the model's `readTileWork`: the requested tile, then the full tile, from the server -/
def remoteM (E : Client.Env σ) (w2 : Client.World σ H) (t : Tile.Tile) : Except Client.Err Bytes × Client.World σ H :=
  let r3 := Client.readRemote E w2 (Client.tileRemotePath t)
  match r3.1 with
  | some data => (.ok data, r3.2)
  | none =>
    let r4 := if t != fullOf t then Client.readRemote E r3.2 (Client.tileRemotePath (fullOf t)) else (none, r3.2)
    match r4.1 with
    | some data => (.ok (Client.cutFull data (fullOf t).w t.w), r4.2)
    | none => (.error .remote, r4.2)

theorem readTileWork_unfold (w : Client.World σ H) (t : Tile.Tile) :
    Client.readTileWork E w t =
      (let r1 := Client.readCache E w (Client.tileCacheKey w.c.name t)
       match r1.1 with
       | some data => (.ok data, Client.markTileSaved r1.2 t)
       | none =>
         let r2 := if t != fullOf t then Client.readCache E r1.2 (Client.tileCacheKey w.c.name (fullOf t)) else (none, r1.2)
         match r2.1 with
         | some data => (.ok (Client.cutFull data (fullOf t).w t.w), Client.markTileSaved r2.2 t)
         | none => remoteM E r2.2 t) := rfl

/-- what the generated closure does once both cache reads have failed (the translator hoists it, it is called from two
    places): the two remote reads, over the environment `EE` -/
def remoteG (EE : ClientEnv (GS σ) H) (fuel : Nat) (tile full : GTile) (world : GW σ H) : M (Cached × GW σ H) := do
  let t7 ← (Client_tileRemotePath fuel tile world)
  let (wr8, world) := t7
  let (wr9, world) := EE.readRemote wr8 world
  let (data, err) := wr9
  if ((err).isNone) then (pure (({ (default : Cached) with data := data, err := (none : Option String) } : Cached), world)) else (if (!decide (tile = full)) then (do
    let t10 ← (Client_tileRemotePath fuel full world)
    let (wr11, world) := t10
    let (wr12, world) := EE.readRemote wr11 world
    let (data_1, err_1) := wr12
    if ((err_1).isNone) then (do
      let t13 ← quo (len data_1) ((full).W)
      let t14 ← sliceTo data_1 (t13 * ((tile).W))
      pure (({ (default : Cached) with data := t14, err := (none : Option String) } : Cached), world)) else (pure (({ (default : Cached) with data := ([] : Bytes), err := err } : Cached), world))) else (pure (({ (default : Cached) with data := ([] : Bytes), err := err } : Cached), world)))

theorem readTile_cacheFn1_unfold (EE : ClientEnv (GS σ) H) (fuel : Nat) (tile : GTile) (world : GW σ H) :
    Client_readTile_cacheFn1 EE fuel tile world = (do
      let t2 ← (Client_tileCacheKey fuel tile world)
      let (wr3, world) := t2
      let (wr4, world) := EE.readCache wr3 world
      let (data, err) := wr4
      if ((err).isNone) then (do
        let (_, world) := (Client_markTileSaved tile world)
        pure (({ (default : Cached) with data := data, err := (none : Option String) } : Cached), world)) else (do
        let full := tile
        let t6 ← shl (1 : Int) (toU64 ((tile).H))
        let full := { (full) with W := (t6) }
        if (!decide (tile = full)) then (do
          let t16 ← (Client_tileCacheKey fuel full world)
          let (wr17, world) := t16
          let (wr18, world) := EE.readCache wr17 world
          let (data_2, err_2) := wr18
          if ((err_2).isNone) then (do
            let (_, world) := (Client_markTileSaved tile world)
            let t20 ← quo (len data_2) ((full).W)
            let t21 ← sliceTo data_2 (t20 * ((tile).W))
            pure (({ (default : Cached) with data := t21, err := (none : Option String) } : Cached), world)) else (remoteG EE fuel tile full world)) else (remoteG EE fuel tile full world))) := rfl

theorem bind_pair {α β : Type} (x : M α) (f : α → β) (g : α → GW σ H) :
    (x >>= fun a => (pure (f a, g a) : M (β × GW σ H))) = (match x with | .ok a => .ok (f a, g a) | .error e => .error e) := by
  cases x <;> rfl

theorem cut_bind (data : Bytes) (t : Tile.Tile) (h : TRange t) (world : GW σ H) :
    (do let t13 ← quo (len data) ((toGen (fullOf t)).W)
        let t14 ← sliceTo data (t13 * ((toGen t).W))
        pure (({ (default : Cached) with data := t14, err := (none : Option String) } : Cached), world) : M (Cached × GW σ H)) =
      .ok ({ data := Client.cutFull data (2 ^ t.h) t.w, err := none }, world) := by
  have hcut := cut_eq data t h
  have e1 : (toGen (fullOf t)).W = (((2 ^ t.h : Nat)) : Int) := rfl
  have e2 : (toGen t).W = ((t.w : Nat) : Int) := rfl
  rw [e1, e2]
  have hp : 2 ^ t.h ≠ 0 := Nat.pos_iff_ne_zero.mp (Nat.pow_pos (by omega))
  have h1 : quo (len data) (((2 ^ t.h : Nat)) : Int) = .ok (((data.length / 2 ^ t.h : Nat)) : Int) := by
    have := quo_natCast data.length (2 ^ t.h) hp
    simpa [len] using this
  rw [h1, mbind_ok] at hcut ⊢
  rw [hcut, mbind_ok]
  rfl

theorem remote_tie {w2 : Client.World σ H} {cw2 : GW σ H} (hc2 : RepCore P E w2 cw2) (t : Tile.Tile) (ht : TRange t)
    (fuel : Nat) (hf : 8 ≤ fuel) :
    Ties (RepCore P E) FrameG FrameM RepCached id w2 cw2
      (remoteG (envOf P E) fuel (toGen t) (toGen (fullOf t)) cw2) (remoteM E w2 t) := by
  have hfull := fullOf_range t ht
  unfold remoteG remoteM
  generalize hRR : (envOf P E).readRemote = RR
  have hRReq : ∀ (w' : Client.World σ H) (cw' : GW σ H), cw'.s = (w'.s, w'.tr) → ∀ file,
      RR file cw' = (readOut "remote" (Client.readRemote E w' file).1, withS cw' (Client.readRemote E w' file).2) := by
    intro w' cw' hs file; rw [← hRR]; exact readRemote_eq hs file
  rw [tileRemotePath_eq fuel t ht.h ht.n hf cw2, mbind_ok]
  simp only []
  rw [hRReq w2 cw2 hc2.s]
  have hc3 : RepCore P E (Client.readRemote E w2 (Client.tileRemotePath t)).2
      (withS cw2 (Client.readRemote E w2 (Client.tileRemotePath t)).2) := hc2.withS rfl
  generalize hr3 : Client.readRemote E w2 (Client.tileRemotePath t) = r3 at hc3 ⊢
  have hr3c : r3.2.c = w2.c := by rw [← hr3]; rfl
  obtain ⟨a3, w3⟩ := r3
  simp only at hc3 hr3c ⊢
  refine Ties.after framingG (withS_frame cw2 w3) (frameM_of_c hr3c) ?_
  cases a3 with
  | some d3 =>
    simp only [readOut_some, Option.isNone_none, if_true]
    exact Ties.ret framingG hc3 ⟨rfl, rfl⟩
  | none =>
    simp only [readOut_none, Option.isNone_some, Bool.false_eq_true, if_false]
    rw [ne_full_iff t ht]
    by_cases hne : (t != fullOf t) = true
    · simp only [hne, if_true]
      rw [tileRemotePath_eq fuel (fullOf t) hfull.h hfull.n hf, mbind_ok]
      simp only []
      rw [hRReq w3 (withS cw2 w3) hc3.s]
      have hc4 : RepCore P E (Client.readRemote E w3 (Client.tileRemotePath (fullOf t))).2
          (withS (withS cw2 w3) (Client.readRemote E w3 (Client.tileRemotePath (fullOf t))).2) := hc3.withS rfl
      generalize hr4 : Client.readRemote E w3 (Client.tileRemotePath (fullOf t)) = r4 at hc4 ⊢
      have hr4c : r4.2.c = w3.c := by rw [← hr4]; rfl
      obtain ⟨a4, w4⟩ := r4
      simp only at hc4 hr4c ⊢
      refine Ties.after framingG (withS_frame _ w4) (frameM_of_c hr4c) ?_
      cases a4 with
      | some d4 =>
        simp only [readOut_some, Option.isNone_none, if_true]
        have := cut_bind d4 t ht (withS (withS cw2 w3) w4)
        simp only [] at this
        rw [this]
        exact Ties.ret framingG hc4 ⟨rfl, rfl⟩
      | none =>
        simp only [readOut_none, Option.isNone_some, Bool.false_eq_true, if_false]
        exact Ties.ret framingG hc4 ⟨_, rfl, errAbs_remote⟩
    · simp only [hne, Bool.false_eq_true, if_false]
      exact Ties.ret framingG hc3 ⟨_, rfl, errAbs_remote⟩

theorem cacheFn1_tie {w : Client.World σ H} {cw : GW σ H} (hc : RepCore P E w cw) (t : Tile.Tile) (ht : TRange t)
    (fuel : Nat) (hf : 8 ≤ fuel) :
    Ties (RepCore P E) FrameG FrameM RepCached id w cw (Client_readTile_cacheFn1 (envOf P E) fuel (toGen t) cw)
      (Client.readTileWork E w t) := by
  have hfull := fullOf_range t ht
  have hH : toU64 ((toGen t).H) = ((t.h : Nat) : Int) := toU64_natCast (by have := ht.h; show t.h < 2 ^ 64; omega)
  have hname : cw.name = w.c.name := hc.name
  rw [readTile_cacheFn1_unfold, readTileWork_unfold]
  generalize hRC : (envOf P E).readCache = RC
  have hRCeq : ∀ (w' : Client.World σ H) (cw' : GW σ H), cw'.s = (w'.s, w'.tr) → ∀ file,
      RC file cw' = (readOut "cache" (Client.readCache E w' file).1, withS cw' (Client.readCache E w' file).2) := by
    intro w' cw' hs file; rw [← hRC]; exact readCache_eq hs file
  rw [tileCacheKey_eq fuel t ht.h ht.n hf cw, mbind_ok]
  simp only []
  rw [hRCeq w cw hc.s, hname]
  have hc1 : RepCore P E (Client.readCache E w (Client.tileCacheKey w.c.name t)).2
      (withS cw (Client.readCache E w (Client.tileCacheKey w.c.name t)).2) := hc.withS rfl
  generalize hr1 : Client.readCache E w (Client.tileCacheKey w.c.name t) = r1 at hc1 ⊢
  have hr1c : r1.2.c = w.c := by rw [← hr1]; rfl
  obtain ⟨a1, w1⟩ := r1
  simp only at hc1 hr1c ⊢
  refine Ties.after framingG (withS_frame cw w1) (frameM_of_c hr1c) ?_
  cases a1 with
  | some d1 =>
    simp only [readOut_some, Option.isNone_none, if_true, markTileSaved_eq]
    exact Ties.after framingG (markG_frame _ _) (markM_frame _ _)
      (Ties.ret framingG (markTileSaved_core hc1 t ht.ok) ⟨rfl, rfl⟩)
  | none =>
    simp only [readOut_none, Option.isNone_some, Bool.false_eq_true, if_false]
    rw [hH, shl_one_natCast, mbind_ok]
    rw [toGen_fullOf, ne_full_iff t ht]
    by_cases hne : (t != fullOf t) = true
    · simp only [hne, if_true]
      rw [tileCacheKey_eq fuel (fullOf t) hfull.h hfull.n hf, mbind_ok]
      simp only []
      rw [hRCeq w1 (withS cw w1) hc1.s, withS_name, hname]
      have hc2 : RepCore P E (Client.readCache E w1 (Client.tileCacheKey w.c.name (fullOf t))).2
          (withS (withS cw w1) (Client.readCache E w1 (Client.tileCacheKey w.c.name (fullOf t))).2) := hc1.withS rfl
      generalize hr2 : Client.readCache E w1 (Client.tileCacheKey w.c.name (fullOf t)) = r2 at hc2 ⊢
      have hr2c : r2.2.c = w1.c := by rw [← hr2]; rfl
      obtain ⟨a2, w2⟩ := r2
      simp only at hc2 hr2c ⊢
      refine Ties.after framingG (withS_frame _ w2) (frameM_of_c hr2c) ?_
      cases a2 with
      | some d2 =>
        simp only [readOut_some, Option.isNone_none, if_true, markTileSaved_eq]
        have := cut_bind d2 t ht (markG (withS (withS cw w1) w2) (toGen t))
        simp only [] at this
        rw [show (toGen (fullOf t)).W = (((2 ^ t.h : Nat)) : Int) from rfl] at this
        rw [this]
        exact Ties.after framingG (markG_frame _ _) (markM_frame _ _)
          (Ties.ret framingG (markTileSaved_core hc2 t ht.ok) ⟨rfl, rfl⟩)
      | none =>
        simp only [readOut_none, Option.isNone_some, Bool.false_eq_true, if_false]
        exact remote_tie hc2 t ht fuel hf
    · simp only [hne, Bool.false_eq_true, if_false]
      exact remote_tie hc1 t ht fuel hf

theorem lookup_cons_tile {β : Type} (t u : Tile.Tile) (r : β) (l : List (Tile.Tile × β)) :
    List.lookup u ((t, r) :: l) = if t = u then some r else l.lookup u := by
  rw [List.lookup_cons]
  by_cases h : t = u
  · subst h; simp
  · have : (u == t) = false := by simp; exact fun e => h e.symm
    simp [h, this]

theorem tileCache_set_core {w : Client.World σ H} {cw : GW σ H} (hc : RepCore P E w cw) (t : Tile.Tile) (ht : TOk t)
    (c : Cached) (r : Except Client.Err Bytes) (hr : RepCached c r) :
    RepCore P E { w with c := { w.c with tileCache := (t, r) :: w.c.tileCache } }
      { cw with tileCache := mapSet cw.tileCache (toGen t) c } :=
  { hc with
    tileCache := by
      intro u hu
      show RepOpt RepCached (mapLookup (mapSet cw.tileCache (toGen t) c) (toGen u)) (List.lookup u ((t, r) :: w.c.tileCache))
      rw [mapLookup_mapSet, lookup_cons_tile]
      by_cases e : t = u
      · subst e; rw [if_pos rfl, if_pos rfl]; exact hr
      · have : ¬ toGen t = toGen u := fun e' => e (toGen_inj t u ht hu e')
        rw [if_neg this, if_neg e]
        exact hc.tileCache u hu }

theorem readTile_tie {w : Client.World σ H} {cw : GW σ H} (hc : RepCore P E w cw) (t : Tile.Tile) (ht : TRange t)
    (fuel : Nat) (hf : 8 ≤ fuel) :
    Ties (RepCore P E) FrameG FrameM RepRes id w cw (Client_readTile (envOf P E) fuel (toGen t) cw)
      (Client.readTile E w t) := by
  unfold Client_readTile Client.readTile
  simp only []
  rw [mapGet_eq]
  have hl := hc.tileCache t ht.ok
  cases hg : mapLookup cw.tileCache (toGen t) with
  | some c =>
    cases hm : List.lookup t w.c.tileCache with
    | none => rw [hg, hm] at hl; exact hl.elim
    | some r =>
      rw [hg, hm] at hl
      exact ⟨_, _, rfl, hc, hl, FrameG.refl _, FrameM.refl _⟩
  | none =>
    cases hm : List.lookup t w.c.tileCache with
    | some r => rw [hg, hm] at hl; exact hl.elim
    | none =>
      obtain ⟨c, cw', h1, h2, h3, h4, h5⟩ := cacheFn1_tie hc t ht fuel hf
      simp only [h1, mbind_ok]
      exact ⟨_, _, rfl, tileCache_set_core h2 t ht.ok c _ h3, h3, { h4 with }, { h5 with }⟩

end

theorem not_lt_len_end {α : Type} (l1 : List α) : decide (((l1.length : Nat) : Int) < len l1) = false :=
  decide_eq_false (not_lt_len_self l1)

theorem succ_len_mid {α : Type} (l1 : List α) (x : α) (l2 : List α) :
    ((l1.length : Nat) : Int) + 1 = (((l1 ++ [x]).length : Nat) : Int) ∧ l1 ++ x :: l2 = (l1 ++ [x]) ++ l2 := by
  simp

/-- the `data` and `errs` slices of `ReadTiles` against the model's list of results -/
inductive RepL : List Bytes → List (Option String) → List (Except Client.Err Bytes) → Prop
  | nil : RepL [] [] []
  | cons {d e r ds es rs} : RepRes (d, e) r → RepL ds es rs → RepL (d :: ds) (e :: es) (r :: rs)

theorem RepL.length_d {ds es rs} (h : RepL ds es rs) : ds.length = rs.length := by
  induction h with
  | nil => rfl
  | cons _ _ ih => simp [ih]

theorem RepL.length_e {ds es rs} (h : RepL ds es rs) : es.length = rs.length := by
  induction h with
  | nil => rfl
  | cons _ _ ih => simp [ih]

theorem RepL.first {ds es rs} (h : RepL ds es rs) :
    match Client.firstError rs with
    | .ok ds' => ds' = ds ∧ es.find? (fun e => !e.isNone) = none
    | .error e => ∃ e', es.find? (fun e => !e.isNone) = some e' ∧ RepErr e' e := by
  induction h with
  | nil => exact ⟨rfl, rfl⟩
  | @cons d e r ds es rs hr _ ih =>
    cases r with
    | error x =>
      obtain ⟨s, rfl, hx⟩ := hr
      exact ⟨some s, by simp [List.find?], s, rfl, hx⟩
    | ok d' =>
      obtain ⟨rfl, rfl⟩ := hr
      simp only [Client.firstError]
      cases hf : Client.firstError rs with
      | error x =>
        rw [hf] at ih
        obtain ⟨e', h1, h2⟩ := ih
        exact ⟨e', by simp only [List.find?_cons, Option.isNone_none, Bool.not_true]; exact h1, h2⟩
      | ok ds' =>
        rw [hf] at ih
        obtain ⟨h1, h2⟩ := ih
        subst h1
        exact ⟨rfl, by simp only [List.find?_cons, Option.isNone_none, Bool.not_true]; exact h2⟩

section
variable {σ H : Type} [DecidableEq H] [Inhabited H] {P : Client.Params H} {E : Client.Env σ}

/-- loop 1 of `ReadTiles`: the goroutines `go func(i, tile) { data[i], errs[i] = r.c.readTile(tile) }`, run in list order -/
theorem readTiles_loop1 : ∀ (rest pre : List Tile.Tile) (dpre : List Bytes) (epre : List (Option String))
    (w : Client.World σ H) (cw : GW σ H) (fuel : Nat),
    (∀ t ∈ rest, TRange t) → dpre.length = pre.length → epre.length = pre.length → RepCore P E w cw →
    rest.length + 9 ≤ fuel →
    ∃ ds es cw', tileReader_ReadTiles_loop1 (envOf P E) ((pre ++ rest).map toGen) () fuel ((pre.length : Nat) : Int)
          (dpre ++ List.replicate rest.length []) (epre ++ List.replicate rest.length none) cw =
        .ok ((((pre.length + rest.length : Nat)) : Int), dpre ++ ds, epre ++ es, cw') ∧
      RepL ds es (Client.readTilesAll E w rest).1 ∧ RepCore P E (Client.readTilesAll E w rest).2 cw' ∧
      FrameG cw cw' ∧ FrameM w (Client.readTilesAll E w rest).2 := by
  intro rest
  induction rest with
  | nil =>
    intro pre dpre epre w cw fuel _ hd he hc hf
    obtain ⟨f, rfl⟩ : ∃ f, fuel = f + 1 := ⟨fuel - 1, by omega⟩
    refine ⟨[], [], cw, ?_, RepL.nil, hc, FrameG.refl _, FrameM.refl _⟩
    rw [tileReader_ReadTiles_loop1]
    rw [List.append_nil, not_lt_len_map]
    simp
  | cons t rest ih =>
    intro pre dpre epre w cw fuel hr hd he hc hf
    obtain ⟨f, rfl⟩ : ∃ f, fuel = f + 1 := ⟨fuel - 1, by simp at hf; omega⟩
    have hf' : rest.length + 9 ≤ f := by simp at hf; omega
    have ht : TRange t := hr t (by simp)
    rw [tileReader_ReadTiles_loop1]
    rw [lt_len_map_mid, if_pos rfl]
    have hidx := idxL_map_mid toGen pre t rest
    rw [hidx, mbind_ok]
    obtain ⟨p, cw1, h1, h2, h3, h4, h5⟩ := readTile_tie hc t ht f (by omega)
    replace h1 : Client_readTile (envOf P E) f (toGen t) cw = .ok (p, cw1) := h1
    simp only []
    rw [h1, mbind_ok]
    obtain ⟨a7, a8⟩ := p
    simp only []
    have hdata : setIdxL (dpre ++ List.replicate (t :: rest).length []) ((pre.length : Nat) : Int) a7 =
        .ok ((dpre ++ [a7]) ++ List.replicate rest.length []) := by
      rw [← hd]
      have := setIdxL_mid dpre ([] : Bytes) a7 (List.replicate rest.length [])
      simpa [List.replicate_succ] using this
    have herrs : setIdxL (epre ++ List.replicate (t :: rest).length none) ((pre.length : Nat) : Int) a8 =
        .ok ((epre ++ [a8]) ++ List.replicate rest.length none) := by
      rw [← he]
      have := setIdxL_mid epre (none : Option String) a8 (List.replicate rest.length none)
      simpa [List.replicate_succ] using this
    rw [hdata, mbind_ok, herrs, mbind_ok]
    obtain ⟨hidx1, htl⟩ := succ_len_mid pre t rest
    rw [hidx1, htl]
    obtain ⟨ds, es, cw2, g1, g2, g3, g4, g5⟩ := ih (pre ++ [t]) (dpre ++ [a7]) (epre ++ [a8]) (Client.readTile E w t).2 cw1 f
      (fun u hu => hr u (by simp [hu])) (by simp [hd]) (by simp [he]) h2 hf'
    refine ⟨a7 :: ds, a8 :: es, cw2, ?_, ?_, g3, h4.trans g4, h5.trans g5⟩
    · rw [g1]
      simp [Nat.add_assoc, Nat.add_comm 1]
    · exact RepL.cons h3 g2

/-- loop 2 of `ReadTiles`: `for _, err := range errs { if err != nil { return nil, err } }` -/
theorem readTiles_loop2 (cw : GW σ H) : ∀ (es epre : List (Option String)) (fuel : Nat), es.length + 1 ≤ fuel →
    tileReader_ReadTiles_loop2 (envOf P E) (epre ++ es) cw fuel ((epre.length : Nat) : Int) =
      .ok (match es.find? (fun e => !e.isNone) with
        | some e => Ctl.ret ((([] : List Bytes), e), cw)
        | none => Ctl.next (((epre.length + es.length : Nat)) : Int)) := by
  intro es
  induction es with
  | nil =>
    intro epre fuel hf
    obtain ⟨f, rfl⟩ : ∃ f, fuel = f + 1 := ⟨fuel - 1, by omega⟩
    rw [tileReader_ReadTiles_loop2]
    have : decide (((epre.length : Nat) : Int) < len (epre ++ [])) = false := by simp [len]
    rw [this]
    simp
  | cons e es ih =>
    intro epre fuel hf
    obtain ⟨f, rfl⟩ : ∃ f, fuel = f + 1 := ⟨fuel - 1, by simp at hf; omega⟩
    rw [tileReader_ReadTiles_loop2, decide_eq_true (lt_len_mid _ _ _), if_pos rfl, idxL_mid, mbind_ok]
    cases e with
    | some s =>
      simp [List.find?]
    | none =>
      have h1 : ((epre.length : Nat) : Int) + 1 = (((epre ++ [none]).length : Nat) : Int) := by simp
      have h2 : epre ++ none :: es = (epre ++ [none]) ++ es := by simp
      simp only [Option.isNone_none, Bool.not_true, Bool.false_eq_true, if_false]
      rw [h1, h2, ih (epre ++ [none]) f (by simp at hf; omega)]
      simp [List.find?, Nat.add_assoc, Nat.add_comm 1]

theorem ReadTiles_tie {w : Client.World σ H} {cw : GW σ H} (hc : RepCore P E w cw) (tiles : List Tile.Tile)
    (hr : ∀ t ∈ tiles, TRange t) (fuel : Nat) (hf : tiles.length + 9 ≤ fuel) :
    Ties (RepCore P E) FrameG FrameM RepRes id w cw (tileReader_ReadTiles (envOf P E) fuel (tiles.map toGen) cw)
      (Client.readTiles E w tiles) := by
  unfold tileReader_ReadTiles Client.readTiles
  have hlen : len (List.map toGen tiles) = ((tiles.length : Nat) : Int) := by simp [len]
  rw [hlen, makeList_natCast, mbind_ok, makeList_natCast, mbind_ok]
  obtain ⟨ds, es, cw', h1, h2, h3, h4, h5⟩ := readTiles_loop1 (P := P) (E := E) tiles [] [] [] w cw fuel hr rfl rfl hc hf
  simp only [List.nil_append, List.length_nil, Nat.zero_add] at h1
  have h0 : (0 : Int) = ((0 : Nat) : Int) := rfl
  simp only []
  rw [h0, h1, mbind_ok]
  simp only []
  have hl2 := readTiles_loop2 (P := P) (E := E) cw' es [] fuel (by rw [h2.length_e, Client.readTilesAll_length]; omega)
  simp only [List.nil_append, List.length_nil, Nat.zero_add] at hl2
  rw [hl2, mbind_ok]
  have hfirst := h2.first
  cases hfe : Client.firstError (Client.readTilesAll E w tiles).1 with
  | ok ds' =>
    rw [hfe] at hfirst
    obtain ⟨e1, e2⟩ := hfirst
    subst e1
    rw [e2]
    exact ⟨_, _, rfl, h3, ⟨rfl, rfl⟩, h4, h5⟩
  | error e =>
    rw [hfe] at hfirst
    obtain ⟨e', e1, e2⟩ := hfirst
    rw [e1]
    exact ⟨_, _, rfl, h3, e2, h4, h5⟩

end

/-- the `save` flags of loop 1 -/
def flagsOf : List Tile.Tile → List Tile.Tile → List Bool
  | _, [] => []
  | saved, t :: ts => if saved.contains t then false :: flagsOf saved ts else true :: flagsOf (t :: saved) ts

/-- `c.tileSaved` after loop 1 -/
def savedAfter : List Tile.Tile → List Tile.Tile → List Tile.Tile
  | saved, [] => saved
  | saved, t :: ts => if saved.contains t then savedAfter saved ts else savedAfter (t :: saved) ts

theorem flagsOf_length : ∀ (ts saved : List Tile.Tile), (flagsOf saved ts).length = ts.length := by
  intro ts
  induction ts with
  | nil => intro _; rfl
  | cons t ts ih =>
    intro saved
    simp only [flagsOf]
    split <;> simp [ih]

section
variable {σ H : Type}

/-- loop 2: the flagged tiles are written, in order -/
def writeFlagged (E : Client.Env σ) (name : Bytes) : Client.World σ H → List (Tile.Tile × Bytes) → List Bool → Client.World σ H
  | w, (t, d) :: rest, true :: fs => writeFlagged E name (Client.writeCache E w (Client.tileCacheKey name t) d) rest fs
  | w, _ :: rest, false :: fs => writeFlagged E name w rest fs
  | w, _, _ => w

theorem writeFlagged_c (E : Client.Env σ) (name : Bytes) : ∀ (l : List (Tile.Tile × Bytes)) (fs : List Bool)
    (w : Client.World σ H), (writeFlagged E name w l fs).c = w.c := by
  intro l
  induction l with
  | nil => intro fs w; cases fs <;> rfl
  | cons p l ih =>
    intro fs w
    obtain ⟨t, d⟩ := p
    cases fs with
    | nil => rfl
    | cons f fs =>
      cases f with
      | true => simp only [writeFlagged]; rw [ih]; rfl
      | false => simp only [writeFlagged]; rw [ih]

theorem writeFlagged_setc (E : Client.Env σ) (name : Bytes) : ∀ (l : List (Tile.Tile × Bytes)) (fs : List Bool)
    (w : Client.World σ H) (c' : Client.Client H),
    writeFlagged E name { w with c := c' } l fs = { writeFlagged E name w l fs with c := c' } := by
  intro l
  induction l with
  | nil => intro fs w c'; cases fs <;> rfl
  | cons p l ih =>
    intro fs w c'
    obtain ⟨t, d⟩ := p
    cases fs with
    | nil => rfl
    | cons f fs =>
      cases f with
      | true =>
        simp only [writeFlagged]
        exact ih fs (Client.writeCache E w (Client.tileCacheKey name t) d) c'
      | false => simp only [writeFlagged]; exact ih fs w c'

theorem saveTiles_split (E : Client.Env σ) : ∀ (l : List (Tile.Tile × Bytes)) (w : Client.World σ H),
    Client.saveTiles E w l =
      { writeFlagged E w.c.name w l (flagsOf w.c.tileSaved (l.map (·.1))) with
        c := { w.c with tileSaved := savedAfter w.c.tileSaved (l.map (·.1)) } } := by
  intro l
  induction l with
  | nil => intro w; rfl
  | cons p l ih =>
    intro w
    obtain ⟨t, d⟩ := p
    simp only [Client.saveTiles, List.map_cons, flagsOf, savedAfter]
    by_cases hct : w.c.tileSaved.contains t = true
    · simp only [hct, if_true, writeFlagged]
      exact ih w
    · simp only [hct, Bool.false_eq_true, if_false, writeFlagged]
      rw [ih]
      have e : Client.writeCache E (Client.markTileSaved w t) (Client.tileCacheKey w.c.name t) d =
          { Client.writeCache E w (Client.tileCacheKey w.c.name t) d with
            c := { w.c with tileSaved := t :: w.c.tileSaved } } := rfl
      rw [e, writeFlagged_setc]

end

section
variable {σ H : Type} [DecidableEq H] [Inhabited H] {P : Client.Params H} {E : Client.Env σ}

/-- loop 1 of `SaveTiles`: `if !c.tileSaved[tile] { save[i] = true; c.tileSaved[tile] = true }` -/
theorem saveTiles_loop1 (cw : GW σ H) : ∀ (rest pre : List Tile.Tile) (spre : List Bool) (saved : List Tile.Tile)
    (ts : List (GTile × Bool)) (fuel : Nat),
    (∀ t ∈ rest, TOk t) → spre.length = pre.length →
    (∀ u, TOk u → (mapGet ts (toGen u) false).1 = saved.contains u) → rest.length + 1 ≤ fuel →
    ∃ ts', tileReader_SaveTiles_loop1 (envOf P E) ((pre ++ rest).map toGen) fuel ((pre.length : Nat) : Int)
          (spre ++ List.replicate rest.length false) { cw with tileSaved := ts } =
        .ok ((((pre.length + rest.length : Nat)) : Int), spre ++ flagsOf saved rest, { cw with tileSaved := ts' }) ∧
      ∀ u, TOk u → (mapGet ts' (toGen u) false).1 = (savedAfter saved rest).contains u := by
  intro rest
  induction rest with
  | nil =>
    intro pre spre saved ts fuel _ hs hsv hf
    obtain ⟨f, rfl⟩ : ∃ f, fuel = f + 1 := ⟨fuel - 1, by omega⟩
    refine ⟨ts, ?_, hsv⟩
    rw [tileReader_SaveTiles_loop1]
    rw [List.append_nil, not_lt_len_map]
    simp [flagsOf]
  | cons t rest ih =>
    intro pre spre saved ts fuel hr hs hsv hf
    obtain ⟨f, rfl⟩ : ∃ f, fuel = f + 1 := ⟨fuel - 1, by simp at hf; omega⟩
    have hf' : rest.length + 1 ≤ f := by simp at hf; omega
    have ht : TOk t := hr t (by simp)
    rw [tileReader_SaveTiles_loop1]
    rw [lt_len_map_mid, if_pos rfl]
    have hidx := idxL_map_mid toGen pre t rest
    rw [hidx, mbind_ok]
    obtain ⟨hidx1, htl⟩ := succ_len_mid pre t rest
    simp only []
    rw [hsv t ht]
    by_cases hct : saved.contains t = true
    · simp only [hct, Bool.not_true, Bool.false_eq_true, if_false, flagsOf, savedAfter, if_true]
      have hsave : spre ++ List.replicate (t :: rest).length false = (spre ++ [false]) ++ List.replicate rest.length false := by
        simp [List.replicate_succ]
      rw [hidx1, htl, hsave]
      obtain ⟨ts', g1, g2⟩ := ih (pre ++ [t]) (spre ++ [false]) saved ts f (fun u hu => hr u (by simp [hu]))
        (by simp [hs]) hsv hf'
      refine ⟨ts', ?_, g2⟩
      rw [g1]
      simp [Nat.add_assoc, Nat.add_comm 1]
    · have hct' : saved.contains t = false := by simpa using hct
      simp only [hct', Bool.not_false, if_true, flagsOf, savedAfter, Bool.false_eq_true, if_false]
      have hsave : setIdxL (spre ++ List.replicate (t :: rest).length false) ((pre.length : Nat) : Int) true =
          .ok ((spre ++ [true]) ++ List.replicate rest.length false) := by
        rw [← hs]
        have := setIdxL_mid spre false true (List.replicate rest.length false)
        simpa [List.replicate_succ] using this
      rw [hsave, mbind_ok, hidx1, htl]
      obtain ⟨ts', g1, g2⟩ := ih (pre ++ [t]) (spre ++ [true]) (t :: saved) (mapSet ts (toGen t) true) f
        (fun u hu => hr u (by simp [hu])) (by simp [hs])
        (saved_set hsv t ht) hf'
      refine ⟨ts', ?_, g2⟩
      show tileReader_SaveTiles_loop1 (envOf P E) _ f _ _ { cw with tileSaved := mapSet ts (toGen t) true } = _
      rw [g1]
      simp [Nat.add_assoc, Nat.add_comm 1]

theorem withS_withS (cw : GW σ H) (a b : Client.World σ H) : withS (withS cw a) b = withS cw b := rfl

/-- loop 2 of `SaveTiles`: `if save[i] { c.ops.WriteCache(c.name + "/" + tile.Path(), data[i]) }` -/
theorem saveTiles_loop2 : ∀ (rest pre : List Tile.Tile) (drest dpre : List Bytes) (fs spre : List Bool)
    (w : Client.World σ H) (cw : GW σ H) (fuel : Nat),
    (∀ t ∈ rest, t.h ≤ 62 ∧ t.n < 2 ^ 63) → drest.length = rest.length → fs.length = rest.length →
    dpre.length = pre.length → spre.length = pre.length → cw.s = (w.s, w.tr) → rest.length + 9 ≤ fuel →
    tileReader_SaveTiles_loop2 (envOf P E) ((pre ++ rest).map toGen) (dpre ++ drest) (spre ++ fs) fuel
        ((pre.length : Nat) : Int) cw =
      .ok ((((pre.length + rest.length : Nat)) : Int), withS cw (writeFlagged E cw.name w (rest.zip drest) fs)) := by
  intro rest
  induction rest with
  | nil =>
    intro pre drest dpre fs spre w cw fuel _ hd hfs _ _ hs hf
    obtain ⟨f, rfl⟩ : ∃ f, fuel = f + 1 := ⟨fuel - 1, by omega⟩
    rw [tileReader_SaveTiles_loop2]
    rw [List.append_nil, not_lt_len_map]
    have e : withS cw (writeFlagged E cw.name w ([].zip drest) fs) = cw := by
      have : writeFlagged E cw.name w ([].zip drest) fs = w := by simp [writeFlagged]
      rw [this]
      cases cw
      simp only at hs
      subst hs
      rfl
    rw [e]
    simp
  | cons t rest ih =>
    intro pre drest dpre fs spre w cw fuel hr hd hfs hdp hsp hs hf
    obtain ⟨f, rfl⟩ : ∃ f, fuel = f + 1 := ⟨fuel - 1, by simp at hf; omega⟩
    have hf' : rest.length + 9 ≤ f := by simp at hf; omega
    obtain ⟨hth, htn⟩ := hr t (by simp)
    obtain ⟨d, drest, rfl⟩ : ∃ d dr, drest = d :: dr := by
      cases drest with
      | nil => simp at hd
      | cons d dr => exact ⟨d, dr, rfl⟩
    obtain ⟨b, fs, rfl⟩ : ∃ b fr, fs = b :: fr := by
      cases fs with
      | nil => simp at hfs
      | cons b fr => exact ⟨b, fr, rfl⟩
    rw [tileReader_SaveTiles_loop2]
    rw [lt_len_map_mid, if_pos rfl]
    have hidx := idxL_map_mid toGen pre t rest
    have hidxs : idxL (spre ++ b :: fs) ((pre.length : Nat) : Int) = .ok b := by rw [← hsp]; exact idxL_mid _ _ _
    have hidxd : idxL (dpre ++ d :: drest) ((pre.length : Nat) : Int) = .ok d := by rw [← hdp]; exact idxL_mid _ _ _
    generalize hWC : (envOf P E).writeCache = WC
    rw [hidx, mbind_ok]
    simp only []
    rw [hidxs, mbind_ok]
    obtain ⟨hidx1, htl⟩ := succ_len_mid pre t rest
    have hdl := (succ_len_mid dpre d drest).2
    have hsl := (succ_len_mid spre b fs).2
    cases b with
    | true =>
      simp only [if_true]
      rw [tilePathX_eq f t hth htn (by omega), mbind_ok, hidxd, mbind_ok]
      have hwc : WC (cw.name ++ [47] ++ Tile.tilePath t) d cw =
          ((), withS cw (Client.writeCache E w (Client.tileCacheKey cw.name t) d)) := by
        rw [← hWC]; exact writeCache_eq hs _ _
      rw [hwc]
      simp only []
      rw [hidx1, htl, hdl, hsl]
      rw [ih (pre ++ [t]) drest (dpre ++ [d]) fs (spre ++ [true]) (Client.writeCache E w (Client.tileCacheKey cw.name t) d)
        (withS cw (Client.writeCache E w (Client.tileCacheKey cw.name t) d)) f (fun u hu => hr u (by simp [hu]))
        (by simpa using hd) (by simpa using hfs) (by simp [hdp]) (by simp [hsp]) rfl hf']
      simp [writeFlagged, withS_withS, Nat.add_assoc, Nat.add_comm 1]
    | false =>
      simp only [Bool.false_eq_true, if_false]
      rw [hidx1, htl, hdl, hsl]
      rw [ih (pre ++ [t]) drest (dpre ++ [d]) fs (spre ++ [false]) w cw f (fun u hu => hr u (by simp [hu]))
        (by simpa using hd) (by simpa using hfs) (by simp [hdp]) (by simp [hsp]) hs hf']
      simp [writeFlagged, Nat.add_assoc, Nat.add_comm 1]

theorem SaveTiles_tie {w : Client.World σ H} {cw : GW σ H} (hc : RepCore P E w cw) (tiles : List Tile.Tile)
    (data : List Bytes) (hlen : data.length = tiles.length) (hr : ∀ t ∈ tiles, TRange t) (fuel : Nat)
    (hf : tiles.length + 9 ≤ fuel) :
    ∃ cw', tileReader_SaveTiles (envOf P E) fuel (tiles.map toGen) data cw = .ok ((), cw') ∧
      RepCore P E (Client.saveTiles E w (tiles.zip data)) cw' ∧
      FrameG cw cw' ∧ FrameM w (Client.saveTiles E w (tiles.zip data)) := by
  unfold tileReader_SaveTiles
  have hlenT : len (List.map toGen tiles) = ((tiles.length : Nat) : Int) := by simp [len]
  rw [hlenT, makeList_natCast, mbind_ok]
  have hcw : cw = { cw with tileSaved := cw.tileSaved } := rfl
  obtain ⟨ts', h1, h2⟩ := saveTiles_loop1 (P := P) (E := E) cw tiles [] [] w.c.tileSaved cw.tileSaved fuel
    (fun t ht => (hr t ht).ok) rfl hc.tileSaved (by omega)
  simp only [List.nil_append, List.length_nil, Nat.zero_add] at h1
  have h0 : (0 : Int) = ((0 : Nat) : Int) := rfl
  simp only []
  rw [h0, hcw, h1, mbind_ok]
  simp only []
  have hl2 := saveTiles_loop2 (P := P) (E := E) tiles [] data [] (flagsOf w.c.tileSaved tiles) [] w
    ({ cw with tileSaved := ts' }) fuel (fun t ht => ⟨(hr t ht).h, (hr t ht).n⟩) hlen (flagsOf_length _ _) rfl rfl hc.s hf
  simp only [List.nil_append, List.length_nil, Nat.zero_add] at hl2
  rw [hl2, mbind_ok]
  have hmapfst : (tiles.zip data).map (·.1) = tiles := by
    rw [List.map_fst_zip]; omega
  have hsplit := saveTiles_split E (tiles.zip data) w
  rw [hmapfst] at hsplit
  have hname : cw.name = w.c.name := hc.name
  refine ⟨_, rfl, ?_, ⟨rfl, rfl, rfl, rfl, rfl, rfl, rfl, rfl, rfl, rfl⟩, ?_⟩
  · rw [hsplit]
    show RepCore P E _ (withS { cw with tileSaved := ts' } (writeFlagged E cw.name w (tiles.zip data) (flagsOf w.c.tileSaved tiles)))
    rw [hname]
    exact { hc with s := rfl, name := rfl, tileSaved := h2 }
  · rw [hsplit]; exact ⟨rfl, rfl, rfl, rfl, rfl, rfl⟩

end

end ModVerif.TieFnClientTiles
