/-
  The LEXER of the parser unit (Generated/FnParse.lean, namespace ModVerif.Generated.Parse: input.readRune …
  input.lex) is the same Go code as the lexer unit (Generated/FnLex.lean,
  namespace ModVerif.Generated.Lex) whose ties are Tie/FnLex.lean; the `input` struct of the parser unit has three more
  fields (`file`, `pre`, `post`) and the unit has its own copies of `Position`, `Comment`, `token`.

  `lift f pre post li` is the parser-unit `input` that carries the lexer-unit state `li` and the three extra fields.
  Every lexer function of the parser unit commutes with `lift` and leaves the three extra fields unchanged:
      Parse.input_X (lift f pre post li) = (Lex.input_X li).map (… lift f pre post …).
  With them the ties of Tie/FnLex.lean transport to the parser unit (`readTokenP_eq`, `lexP_eq` of Proofs/TieFnParseLoopsStmt.lean).
-/
import ModVerif.Generated.FnParse
import ModVerif.Proofs.TieFnLexC
namespace ModVerif.TieFnParse
open ModVerif ModVerif.GoRt ModVerif.Modfile
open ModVerif.Drv.LexOps.G (isPrintI isSpaceI)
open ModVerif.Drv.LexOps.M (kindCode)

/-! ### the three value structs, lexer unit → parser unit -/

def posP (p : Generated.Lex.Position) : Generated.Parse.Position := { Line := p.Line, LineRune := p.LineRune, Byte := p.Byte }

def comP (c : Generated.Lex.Comment) : Generated.Parse.Comment := { Start := posP c.Start, Token := c.Token, Suffix := c.Suffix }

def tokP (t : Generated.Lex.token) : Generated.Parse.token :=
  { kind := t.kind, pos := posP t.pos, endPos := posP t.endPos, text := t.text }

/-- the parser-unit lexer state: the lexer-unit state `li` plus the three extra fields -/
def lift (f : Int) (pre post : List Generated.Parse.Expr) (li : Generated.Lex.input) : Generated.Parse.input :=
  { complete := li.complete, remaining := li.remaining, tokenStart := li.tokenStart, token := tokP li.token,
    pos := posP li.pos, comments := li.comments.map comP, file := f, pre := pre, post := post }

/-- map a result `(r, li)` of a lexer-unit method to the parser unit -/
def liftR {ρ : Type} (f : Int) (pre post : List Generated.Parse.Expr) :
    M (ρ × Generated.Lex.input) → M (ρ × Generated.Parse.input)
  | .ok (r, li) => .ok (r, lift f pre post li)
  | .error e => .error e

def liftI (f : Int) (pre post : List Generated.Parse.Expr) : M Generated.Lex.input → M Generated.Parse.input
  | .ok li => .ok (lift f pre post li)
  | .error e => .error e

def liftC {ρ : Type} (f : Int) (pre post : List Generated.Parse.Expr) :
    M (Ctl (ρ × Generated.Lex.input) Generated.Lex.input) → M (Ctl (ρ × Generated.Parse.input) Generated.Parse.input)
  | .ok (.ret (r, li)) => .ok (.ret (r, lift f pre post li))
  | .ok (.next li) => .ok (.next (lift f pre post li))
  | .error e => .error e

variable (f : Int) (pre post : List Generated.Parse.Expr)

theorem isIdent_P (P S : Int → Bool) (c : Int) : Generated.Parse.isIdent P S c = Generated.Lex.isIdent P S c := rfl

theorem eof_lift (li : Generated.Lex.input) :
    Generated.Parse.input_eof (lift f pre post li) = Generated.Lex.input_eof li := rfl

theorem peekRune_lift (li : Generated.Lex.input) :
    Generated.Parse.input_peekRune (lift f pre post li) = Generated.Lex.input_peekRune li := rfl

theorem peek_lift (li : Generated.Lex.input) :
    Generated.Parse.input_peek (lift f pre post li) = Generated.Lex.input_peek li := rfl

theorem isComment_P (k : Int) : Generated.Parse.tokenKind_isComment k = Generated.Lex.tokenKind_isComment k := rfl

theorem isEOL_P (k : Int) : Generated.Parse.tokenKind_isEOL k = Generated.Lex.tokenKind_isEOL k := rfl

theorem peekPrefix_loop1_lift (li : Generated.Lex.input) (p : Bytes) : ∀ (fuel : Nat) (i : Int),
    Generated.Parse.input_peekPrefix_loop1 (lift f pre post li) p fuel i =
      Generated.Lex.input_peekPrefix_loop1 li p fuel i := by
  intro fuel
  induction fuel with
  | zero => intro i; rfl
  | succ n ih =>
    intro i
    unfold Generated.Parse.input_peekPrefix_loop1 Generated.Lex.input_peekPrefix_loop1
    simp only [ih]
    rfl

theorem peekPrefix_lift (li : Generated.Lex.input) (p : Bytes) (fuel : Nat) :
    Generated.Parse.input_peekPrefix fuel (lift f pre post li) p = Generated.Lex.input_peekPrefix fuel li p := by
  unfold Generated.Parse.input_peekPrefix Generated.Lex.input_peekPrefix
  simp only [peekPrefix_loop1_lift]
  rfl

theorem readRune_lift (li : Generated.Lex.input) :
    Generated.Parse.input_readRune (lift f pre post li) = liftR f pre post (Generated.Lex.input_readRune li) := by
  unfold Generated.Parse.input_readRune Generated.Lex.input_readRune
  simp only [show (lift f pre post li).remaining = li.remaining from rfl]
  split
  · rfl
  · cases sliceFrom li.remaining (decodeRune li.remaining).2 with
    | error e => rfl
    | ok t =>
      simp only [bind_ok]
      split <;> rfl

theorem startToken_lift (li : Generated.Lex.input) :
    Generated.Parse.input_startToken (lift f pre post li) = ((), lift f pre post (Generated.Lex.input_startToken li).2) := rfl

theorem endToken_lift (li : Generated.Lex.input) (k : Int) :
    Generated.Parse.input_endToken (lift f pre post li) k = liftR f pre post (Generated.Lex.input_endToken li k) := by
  unfold Generated.Parse.input_endToken Generated.Lex.input_endToken
  simp only [show (lift f pre post li).remaining = li.remaining from rfl,
    show (lift f pre post li).tokenStart = li.tokenStart from rfl, isComment_P]
  cases sliceTo li.tokenStart (len li.tokenStart - len li.remaining) with
  | error e => rfl
  | ok t =>
    simp only [bind_ok]
    split
    · split
      · cases sliceTo t (len t - 2) with
        | error e => rfl
        | ok t2 => rfl
      · rfl
    · rfl

variable {f pre post}

@[simp] theorem liftI_ok (li : Generated.Lex.input) : liftI f pre post (.ok li) = .ok (lift f pre post li) := rfl
@[simp] theorem liftI_pure (li : Generated.Lex.input) : liftI f pre post (pure li) = pure (lift f pre post li) := rfl
@[simp] theorem liftI_error (e : Err) : liftI f pre post (.error e) = .error e := rfl
@[simp] theorem liftI_throw (e : Err) : liftI f pre post (throw e) = throw e := rfl
@[simp] theorem liftR_ok {ρ : Type} (r : ρ) (li : Generated.Lex.input) :
    liftR f pre post (.ok (r, li)) = .ok (r, lift f pre post li) := rfl
@[simp] theorem liftR_pure {ρ : Type} (r : ρ) (li : Generated.Lex.input) :
    liftR f pre post (pure (r, li)) = pure (r, lift f pre post li) := rfl
@[simp] theorem liftR_error {ρ : Type} (e : Err) : liftR (ρ := ρ) f pre post (.error e) = .error e := rfl
@[simp] theorem liftR_throw {ρ : Type} (e : Err) : liftR (ρ := ρ) f pre post (throw e) = throw e := rfl
@[simp] theorem liftC_pure_ret {ρ : Type} (r : ρ) (li : Generated.Lex.input) :
    liftC f pre post (pure (Ctl.ret (r, li))) = pure (Ctl.ret (r, lift f pre post li)) := rfl
@[simp] theorem liftC_pure_next {ρ : Type} (li : Generated.Lex.input) :
    liftC (ρ := ρ) f pre post (pure (Ctl.next li)) = pure (Ctl.next (lift f pre post li)) := rfl
@[simp] theorem liftC_throw {ρ : Type} (e : Err) : liftC (ρ := ρ) f pre post (throw e) = throw e := rfl

theorem liftI_bind {α : Type} (x : M α) (k : α → M Generated.Lex.input) :
    liftI f pre post (x >>= k) = x >>= fun a => liftI f pre post (k a) := by
  cases x <;> rfl

theorem liftR_bind {α ρ : Type} (x : M α) (k : α → M (ρ × Generated.Lex.input)) :
    liftR f pre post (x >>= k) = x >>= fun a => liftR f pre post (k a) := by
  cases x <;> rfl

theorem liftC_bind {α ρ : Type} (x : M α) (k : α → M (Ctl (ρ × Generated.Lex.input) Generated.Lex.input)) :
    liftC f pre post (x >>= k) = x >>= fun a => liftC f pre post (k a) := by
  cases x <;> rfl

theorem bind_liftR {ρ β : Type} (x : M (ρ × Generated.Lex.input)) (k : ρ × Generated.Parse.input → M β) :
    liftR f pre post x >>= k = x >>= fun p => k (p.1, lift f pre post p.2) := by
  cases x with
  | error e => rfl
  | ok p => rfl

theorem bind_liftI {β : Type} (x : M Generated.Lex.input) (k : Generated.Parse.input → M β) :
    liftI f pre post x >>= k = x >>= fun p => k (lift f pre post p) := by
  cases x with
  | error e => rfl
  | ok p => rfl

/-! ### the hoisted loops of readToken -/

theorem loop2_lift (P S : Int → Bool) : ∀ (fuel : Nat) (li : Generated.Lex.input),
    Generated.Parse.input_readToken_loop2 P S fuel (lift f pre post li) =
      liftI f pre post (Generated.Lex.input_readToken_loop2 P S fuel li) := by
  intro fuel
  induction fuel with
  | zero => intro li; rfl
  | succ n ih =>
    intro li
    unfold Generated.Parse.input_readToken_loop2 Generated.Lex.input_readToken_loop2
    simp only [show (lift f pre post li).remaining = li.remaining from rfl, readRune_lift, liftI_bind, bind_liftR,
      apply_ite (liftI f pre post), liftI_pure]
    split
    · simp only [bind_assoc, pure_bind, ih]
    · simp only [pure_bind, Bool.false_eq_true, if_false]

theorem loop3_lift (P S : Int → Bool) (q : Int) : ∀ (fuel : Nat) (li : Generated.Lex.input),
    Generated.Parse.input_readToken_loop3 P S q fuel (lift f pre post li) =
      liftI f pre post (Generated.Lex.input_readToken_loop3 P S q fuel li) := by
  intro fuel
  induction fuel with
  | zero => intro li; rfl
  | succ n ih =>
    intro li
    unfold Generated.Parse.input_readToken_loop3 Generated.Lex.input_readToken_loop3
    simp only [eof_lift, peekRune_lift, readRune_lift, liftI_bind, bind_liftR,
      apply_ite (liftI f pre post), liftI_pure, liftI_throw, ih]
    rfl

theorem loop4_lift (P S : Int → Bool) : ∀ (fuel : Nat) (li : Generated.Lex.input),
    Generated.Parse.input_readToken_loop4 P S fuel (lift f pre post li) =
      liftI f pre post (Generated.Lex.input_readToken_loop4 P S fuel li) := by
  intro fuel
  induction fuel with
  | zero => intro li; rfl
  | succ n ih =>
    intro li
    unfold Generated.Parse.input_readToken_loop4 Generated.Lex.input_readToken_loop4
    simp only [peekRune_lift, peekPrefix_lift, readRune_lift, isIdent_P, liftI_bind, bind_liftR,
      apply_ite (liftI f pre post), liftI_pure, liftI_throw, ih]

@[simp] theorem lift_complete (li : Generated.Lex.input) : (lift f pre post li).complete = li.complete := rfl
@[simp] theorem lift_remaining (li : Generated.Lex.input) : (lift f pre post li).remaining = li.remaining := rfl
@[simp] theorem lift_tokenStart (li : Generated.Lex.input) : (lift f pre post li).tokenStart = li.tokenStart := rfl
@[simp] theorem lift_token (li : Generated.Lex.input) : (lift f pre post li).token = tokP li.token := rfl
@[simp] theorem lift_pos (li : Generated.Lex.input) : (lift f pre post li).pos = posP li.pos := rfl
@[simp] theorem lift_comments (li : Generated.Lex.input) : (lift f pre post li).comments = li.comments.map comP := rfl
@[simp] theorem lift_file (li : Generated.Lex.input) : (lift f pre post li).file = f := rfl
@[simp] theorem lift_pre (li : Generated.Lex.input) : (lift f pre post li).pre = pre := rfl
@[simp] theorem lift_post (li : Generated.Lex.input) : (lift f pre post li).post = post := rfl
@[simp] theorem posP_Byte (p : Generated.Lex.Position) : (posP p).Byte = p.Byte := rfl
@[simp] theorem posP_Line (p : Generated.Lex.Position) : (posP p).Line = p.Line := rfl
@[simp] theorem posP_LineRune (p : Generated.Lex.Position) : (posP p).LineRune = p.LineRune := rfl
@[simp] theorem tokP_kind (t : Generated.Lex.token) : (tokP t).kind = t.kind := rfl
@[simp] theorem tokP_pos (t : Generated.Lex.token) : (tokP t).pos = posP t.pos := rfl
@[simp] theorem tokP_endPos (t : Generated.Lex.token) : (tokP t).endPos = posP t.endPos := rfl
@[simp] theorem tokP_text (t : Generated.Lex.token) : (tokP t).text = t.text := rfl

theorem lift_addComment (li : Generated.Lex.input) (b : Bool) :
    ({ complete := li.complete, remaining := li.remaining, tokenStart := li.tokenStart, token := tokP li.token,
       pos := posP li.pos,
       comments := li.comments.map comP ++ [{ Start := posP li.token.pos, Token := li.token.text, Suffix := b }],
       file := f, pre := pre, post := post } : Generated.Parse.input) =
    lift f pre post { complete := li.complete, remaining := li.remaining, tokenStart := li.tokenStart, token := li.token,
                      pos := li.pos,
                      comments := li.comments ++ [{ Start := li.token.pos, Token := li.token.text, Suffix := b }] } := by
  simp [lift, comP]

theorem loop1_lift (P S : Int → Bool) : ∀ (fuel : Nat) (li : Generated.Lex.input),
    Generated.Parse.input_readToken_loop1 P S fuel (lift f pre post li) =
      liftC f pre post (Generated.Lex.input_readToken_loop1 P S fuel li) := by
  intro fuel
  induction fuel with
  | zero => intro li; rfl
  | succ n ih =>
    intro li
    unfold Generated.Parse.input_readToken_loop1 Generated.Lex.input_readToken_loop1
    simp only [eof_lift, peekRune_lift, peekPrefix_lift, readRune_lift, startToken_lift, endToken_lift, loop2_lift,
      liftC_bind, bind_liftR, bind_liftI, apply_ite (liftC f pre post), liftC_pure_ret, liftC_pure_next, liftC_throw, ih,
      lift_complete, lift_remaining, lift_tokenStart, lift_token, lift_pos, lift_comments, lift_file, lift_pre, lift_post,
      posP_Byte, tokP_pos, tokP_text, lift_addComment]
    rfl

theorem readToken_lift (P S : Int → Bool) (fuel : Nat) (li : Generated.Lex.input) :
    Generated.Parse.input_readToken P S fuel (lift f pre post li) =
      liftR f pre post (Generated.Lex.input_readToken P S fuel li) := by
  unfold Generated.Parse.input_readToken Generated.Lex.input_readToken
  rw [loop1_lift]
  cases Generated.Lex.input_readToken_loop1 P S fuel li with
  | error e => rfl
  | ok c =>
    cases c with
    | ret r => obtain ⟨u, l⟩ := r; rfl
    | next l =>
      simp only [liftC, bind_ok, eof_lift, peekRune_lift, readRune_lift, startToken_lift, endToken_lift, loop3_lift,
        loop4_lift, isIdent_P, liftR_bind, bind_liftR, bind_liftI, apply_ite (liftR f pre post), liftR_pure, liftR_throw]
      rfl

theorem lex_lift (P S : Int → Bool) (fuel : Nat) (li : Generated.Lex.input) :
    Generated.Parse.input_lex P S fuel (lift f pre post li) =
      (match Generated.Lex.input_lex P S fuel li with
       | .ok (t, l) => .ok (tokP t, lift f pre post l)
       | .error e => .error e) := by
  unfold Generated.Parse.input_lex Generated.Lex.input_lex
  rw [readToken_lift]
  cases Generated.Lex.input_readToken P S fuel li with
  | error e => rfl
  | ok p => rfl

end ModVerif.TieFnParse
