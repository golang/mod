/-
  Tie proofs for the integer kernels of sumdb/tlog: the loops of the regenerated (go2lean, checked mode)
  definitions in `Generated/FnTlog.lean` compute what the hand model `Model/Tlog.lean` says.
  The tie theorems themselves are in `Tie/FnTlogInt.lean`.
-/
import ModVerif.Generated.FnTlog
import ModVerif.Model.Tlog
import ModVerif.Proofs.GoRtLemmasInt
import ModVerif.Proofs.TlogIndex
import ModVerif.Proofs.TlogBasic
import ModVerif.Proofs.TlogStoreSplit
import ModVerif.Proofs.TieFnTlogProofMax
namespace ModVerif.TieFnTlogInt
open ModVerif ModVerif.GoRt

/-! ### readers

  The translated code takes a `HashReader` as a function `List Int → List H × Option String` (hashes, error);
  the model's reader is `List Nat → Option (List H)` (`none` = ReadHashes returned an error). -/

/-- the model reader seen through a reader of the translated code -/
def readerOf {H : Type} (r : List Int → List H × Option String) : Tlog.HashReader H :=
  fun idx => match r (idx.map Int.ofNat) with
    | (hs, none) => some hs
    | (_, some _) => none

/-- the error value the translated functions return for the indexes `idx` when the read fails: the reader's own error,
    or the "wrong number of hashes" message -/
def readErrOf {H : Type} (r : List Int → List H × Option String) (idx : List Nat) : Option String :=
  match (r (idx.map Int.ofNat)).2 with
    | some e => some e
    | none => some "tlog: ReadHashes(%d indexes) = %d hashes"

/-! ### StoredHashIndex

  Each loop is characterised exactly: it returns the model's value when that fits in int64 and reports the overflow
  otherwise (where the Go code wraps around).  `StoredHashIndex_eq` / `StoredHashIndex_overflow` are the two halves. -/

theorem chk64_natCast_run (n : Nat) :
    chk64 (n : Int) = if n < 2 ^ 63 then .ok (n : Int) else .error .overflow := by
  split
  · rename_i h; exact chk64_natCast h
  · exact chk64_overflow (by omega)

theorem chk64_natCast_overflow {n : Nat} (h : 2 ^ 63 ≤ n) : chk64 (n : Int) = .error .overflow :=
  chk64_overflow (by omega)

theorem le_descend : ∀ l n, l + n ≤ Tlog.descend l n := by
  intro l
  induction l with
  | zero => intro n; simp [Tlog.descend]
  | succ l ih => intro n; have := ih (2 * n + 1); simp only [Tlog.descend]; omega

theorem le_storedHashIndex (l n : Nat) : n ≤ Tlog.storedHashIndex l n := by
  have e : Tlog.storedHashIndex l n = Tlog.S (Tlog.descend l n) + l := rfl
  have := le_descend l n
  have := TlogStore.le_S (Tlog.descend l n)
  omega

/-- first loop: `for l := level; l > 0; l-- { n = 2*n + 1 }` -/
theorem StoredHashIndex_loop1_run : ∀ (l n fuel : Nat), l < fuel → l < 2 ^ 63 → n < 2 ^ 63 →
    Generated.Tlog.StoredHashIndex_loop1 fuel (n : Int) (l : Int) =
      if Tlog.descend l n < 2 ^ 63 then .ok (((Tlog.descend l n : Nat) : Int), 0) else .error .overflow := by
  intro l
  induction l with
  | zero =>
    intro n fuel hf _ hn
    obtain ⟨fuel, rfl⟩ : ∃ g, fuel = g + 1 := ⟨fuel - 1, by omega⟩
    simp [Generated.Tlog.StoredHashIndex_loop1, Tlog.descend, hn]
  | succ l ih =>
    intro n fuel hf hl hn
    obtain ⟨fuel, rfl⟩ : ∃ g, fuel = g + 1 := ⟨fuel - 1, by omega⟩
    have hd := le_descend l (2 * n + 1)
    have h1 : ((l + 1 : Nat) : Int) > 0 := by omega
    have e1 : (2 : Int) * (n : Int) = ((2 * n : Nat) : Int) := by omega
    rw [Generated.Tlog.StoredHashIndex_loop1]
    simp only [h1, decide_true, ↓reduceIte, e1, Tlog.descend]
    by_cases h2 : 2 * n < 2 ^ 63
    · have e2 : ((2 * n : Nat) : Int) + 1 = ((2 * n + 1 : Nat) : Int) := by omega
      have e3 : ((l + 1 : Nat) : Int) - 1 = (l : Int) := by omega
      simp only [chk64_natCast h2, mbind_ok, e2, chk64_natCast (show 2 * n + 1 < 2 ^ 63 by omega), e3,
        chk64_natCast (show l < 2 ^ 63 by omega)]
      exact ih (2 * n + 1) fuel (by omega) (by omega) (by omega)
    · have : ¬ Tlog.descend l (2 * n + 1) < 2 ^ 63 := by omega
      simp only [chk64_natCast_overflow (show 2 ^ 63 ≤ 2 * n by omega), mbind_error, this, ↓reduceIte]

/-- second loop: `for ; n > 0; n >>= 1 { i += n }`; `fuel + 1` units are enough for `n < 2^fuel` -/
theorem StoredHashIndex_loop2_run : ∀ (fuel n i : Nat), n < 2 ^ fuel → i < 2 ^ 63 →
    Generated.Tlog.StoredHashIndex_loop2 (fuel + 1) (i : Int) (n : Int) =
      if i + Tlog.S n < 2 ^ 63 then .ok (((i + Tlog.S n : Nat) : Int), 0) else .error .overflow := by
  intro fuel
  induction fuel with
  | zero =>
    intro n i hn hi
    have : n = 0 := by simpa using hn
    subst this
    simp [Generated.Tlog.StoredHashIndex_loop2, Tlog.S_zero, hi]
  | succ fuel ih =>
    intro n i hn hi
    by_cases h0 : n = 0
    · subst h0
      simp [Generated.Tlog.StoredHashIndex_loop2, Tlog.S_zero, hi]
    · have hS := Tlog.S_pos n (by omega)
      have h1 : (n : Int) > 0 := by omega
      have e1 : (i : Int) + (n : Int) = ((i + n : Nat) : Int) := by omega
      have hn2 : n / 2 < 2 ^ fuel := by rw [Nat.pow_succ] at hn; omega
      rw [Generated.Tlog.StoredHashIndex_loop2]
      simp only [h1, decide_true, ↓reduceIte, e1]
      by_cases h2 : i + n < 2 ^ 63
      · simp only [chk64_natCast h2, mbind_ok, shr_natCast_one]
        rw [ih (n / 2) (i + n) hn2 h2, hS]
        simp only [Nat.add_assoc]
      · have : ¬ i + Tlog.S n < 2 ^ 63 := by omega
        simp only [chk64_natCast_overflow (show 2 ^ 63 ≤ i + n by omega), mbind_error, this, ↓reduceIte]

theorem StoredHashIndex_run (fuel level n : Nat) (hl : level < 2 ^ 63) (hn : n < 2 ^ 63) (hlf : level < fuel)
    (hf : 64 ≤ fuel) :
    Generated.Tlog.StoredHashIndex fuel (level : Int) (n : Int) =
      if Tlog.storedHashIndex level n < 2 ^ 63 then .ok ((Tlog.storedHashIndex level n : Nat) : Int)
      else .error .overflow := by
  have e : Tlog.storedHashIndex level n = Tlog.S (Tlog.descend level n) + level := rfl
  have hle := TlogStore.le_S (Tlog.descend level n)
  simp only [Generated.Tlog.StoredHashIndex, StoredHashIndex_loop1_run level n fuel hlf hl hn]
  by_cases hd : Tlog.descend level n < 2 ^ 63
  · obtain ⟨g, rfl⟩ : ∃ g, fuel = g + 1 := ⟨fuel - 1, by omega⟩
    have hlt : Tlog.descend level n < 2 ^ g :=
      Nat.lt_of_lt_of_le hd (Nat.pow_le_pow_right (by omega) (by omega))
    have h2 := StoredHashIndex_loop2_run g (Tlog.descend level n) 0 hlt (by omega)
    simp only [Int.natCast_zero, Nat.zero_add] at h2
    simp only [hd, ↓reduceIte, mbind_ok, h2]
    by_cases hs : Tlog.S (Tlog.descend level n) < 2 ^ 63
    · have e1 : ((Tlog.S (Tlog.descend level n) : Nat) : Int) + (level : Int) =
          ((Tlog.storedHashIndex level n : Nat) : Int) := by rw [e]; omega
      simp only [hs, ↓reduceIte, mbind_ok, e1, chk64_natCast_run]
    · simp only [hs, ↓reduceIte, mbind_error, show ¬ Tlog.storedHashIndex level n < 2 ^ 63 by omega]
  · simp only [hd, ↓reduceIte, mbind_error, show ¬ Tlog.storedHashIndex level n < 2 ^ 63 by omega]

theorem two_pow_le_descend (l n : Nat) : 2 ^ l ≤ Tlog.descend l n + 1 := by
  rw [Tlog.descend_eq]
  have h1 : 1 * 2 ^ l ≤ (n + 1) * 2 ^ l := Nat.mul_le_mul_right _ (by omega)
  have h2 := Nat.two_pow_pos l
  omega

/-- `StoredHashIndex`: non-negative arguments, result in the int64 range, fuel 64 (the level is then at most 62) -/
theorem StoredHashIndex_eq (fuel : Nat) (level n : Nat) (hr : Tlog.storedHashIndex level n < 2 ^ 63) (hf : 64 ≤ fuel) :
    Generated.Tlog.StoredHashIndex fuel (level : Int) (n : Int) = .ok ((Tlog.storedHashIndex level n : Nat) : Int) := by
  have e : Tlog.storedHashIndex level n = Tlog.S (Tlog.descend level n) + level := rfl
  have h1 := TlogStore.le_S (Tlog.descend level n)
  have h2 := two_pow_le_descend level n
  have h3 := le_storedHashIndex level n
  have hl : level ≤ 62 := by
    apply Nat.le_of_not_lt
    intro hc
    have : 2 ^ 63 ≤ 2 ^ level := Nat.pow_le_pow_right (by omega) (by omega)
    omega
  rw [StoredHashIndex_run fuel level n (by omega) (by omega) (by omega) hf, if_pos hr]

theorem StoredHashIndex_overflow (fuel level n : Nat) (hl : level < 2 ^ 63) (hn : n < 2 ^ 63)
    (hr : 2 ^ 63 ≤ Tlog.storedHashIndex level n) (hf : level + 64 ≤ fuel) :
    Generated.Tlog.StoredHashIndex fuel (level : Int) (n : Int) = .error .overflow := by
  rw [StoredHashIndex_run fuel level n hl hn (by omega) (by omega), if_neg (by omega)]

/-! ### SplitStoredHashIndex -/

theorem tz64Aux_eq : ∀ f n, tz64Aux f n = Tlog.tzAux f n := by
  intro f
  induction f with
  | zero => intro n; rfl
  | succ f ih => intro n; simp only [tz64Aux, Tlog.tzAux, ih]

/-- `bits.TrailingZeros64(uint64(m))` of the run-time vocabulary is the model's -/
theorem trailingZeros64_eq (m : Nat) : GoRt.trailingZeros64 (m : Int) = ((Tlog.trailingZeros64 m : Nat) : Int) := by
  rw [trailingZeros64_natCast, tz64Aux_eq]; rfl

theorem trailingZeros64_tz (m : Nat) (h1 : 0 < m) (h2 : m < 2 ^ 64) :
    GoRt.trailingZeros64 (m : Int) = ((RFC6962.tz m : Nat) : Int) := by
  rw [trailingZeros64_eq, Tlog.trailingZeros64_eq_tz m h1 h2]

theorem S_two_pow : ∀ k, Tlog.S (2 ^ k) + 1 = 2 ^ (k + 1) := by
  intro k
  induction k with
  | zero => rw [Tlog.S_pos 1 (by omega)]; simp [Tlog.S_zero]
  | succ k ih =>
    have hp := Nat.two_pow_pos k
    rw [Tlog.S_pos _ (Nat.two_pow_pos _)]
    have : 2 ^ (k + 1) / 2 = 2 ^ k := by rw [Nat.pow_succ]; omega
    rw [this, Nat.pow_succ 2 (k + 1)]
    omega

/-- the position after the record containing a position `≤ 2^63 - 2` is at most `2^63 - 1 = S (2^62)` -/
theorem S_succ_record_lt (p n : Nat) (h1 : Tlog.S n ≤ p) (hp : p + 1 < 2 ^ 63) : Tlog.S (n + 1) < 2 ^ 63 := by
  have h62 := S_two_pow 62
  have hlt : n < 2 ^ 62 := TlogStore.lt_of_S_lt n (2 ^ 62) (by omega)
  have := TlogStore.S_mono (2 ^ 62) (n + 1) (by omega)
  omega

theorem SplitStoredHashIndex_loop1_eq (p : Nat) : ∀ (d n fuel : Nat), Tlog.S (n + d) ≤ p → p < Tlog.S (n + d + 1) →
    d < fuel → Tlog.S (n + d + 1) < 2 ^ 63 →
    Generated.Tlog.SplitStoredHashIndex_loop1 (p : Int) fuel (n : Int) ((Tlog.S n : Nat) : Int) =
      .ok (((n + d : Nat) : Int), ((Tlog.S (n + d) : Nat) : Int)) := by
  intro d
  induction d with
  | zero =>
    intro n fuel h1 h2 hf hr
    obtain ⟨fuel, rfl⟩ : ∃ g, fuel = g + 1 := ⟨fuel - 1, by omega⟩
    simp only [Nat.add_zero] at h1 h2 hr ⊢
    have hSn := Tlog.S_succ n
    have hle := TlogStore.le_S (n + 1)
    have e1 : ((Tlog.S n : Nat) : Int) + 1 = ((Tlog.S n + 1 : Nat) : Int) := by omega
    have e2 : (n : Int) + 1 = ((n + 1 : Nat) : Int) := by omega
    have e3 : ((Tlog.S n + 1 : Nat) : Int) + ((RFC6962.tz (n + 1) : Nat) : Int) = ((Tlog.S (n + 1) : Nat) : Int) := by omega
    have hgt : ((Tlog.S (n + 1) : Nat) : Int) > (p : Int) := by omega
    rw [Generated.Tlog.SplitStoredHashIndex_loop1]
    simp only [e1, chk64_natCast (show Tlog.S n + 1 < 2 ^ 63 by omega), mbind_ok, e2,
      chk64_natCast (show n + 1 < 2 ^ 63 by omega), toU64_natCast (show n + 1 < 2 ^ 64 by omega),
      trailingZeros64_tz (n + 1) (by omega) (by omega), e3, chk64_natCast hr, hgt, decide_true, ↓reduceIte, mpure]
  | succ d ih =>
    intro n fuel h1 h2 hf hr
    obtain ⟨fuel, rfl⟩ : ∃ g, fuel = g + 1 := ⟨fuel - 1, by omega⟩
    have e : n + (d + 1) = n + 1 + d := by omega
    rw [e] at h1 h2 hr ⊢
    have hSn := Tlog.S_succ n
    have hle := TlogStore.le_S (n + 1)
    have hm1 : Tlog.S (n + 1) ≤ Tlog.S (n + 1 + d) := TlogStore.S_mono _ _ (by omega)
    have hm2 := TlogStore.S_lt_succ (n + 1 + d)
    have e1 : ((Tlog.S n : Nat) : Int) + 1 = ((Tlog.S n + 1 : Nat) : Int) := by omega
    have e2 : (n : Int) + 1 = ((n + 1 : Nat) : Int) := by omega
    have e3 : ((Tlog.S n + 1 : Nat) : Int) + ((RFC6962.tz (n + 1) : Nat) : Int) = ((Tlog.S (n + 1) : Nat) : Int) := by omega
    have hgt : ¬ (((Tlog.S (n + 1) : Nat) : Int) > (p : Int)) := by omega
    rw [Generated.Tlog.SplitStoredHashIndex_loop1]
    simp only [e1, chk64_natCast (show Tlog.S n + 1 < 2 ^ 63 by omega), mbind_ok, e2,
      chk64_natCast (show n + 1 < 2 ^ 63 by omega), toU64_natCast (show n + 1 < 2 ^ 64 by omega),
      trailingZeros64_tz (n + 1) (by omega) (by omega), e3, chk64_natCast (show Tlog.S (n + 1) < 2 ^ 63 by omega),
      hgt, decide_false, Bool.false_eq_true, ↓reduceIte]
    exact ih (n + 1) fuel h1 h2 (by omega) hr

/-- the model's answer as the result type of the generated function; a model error (never the case on the int64 range:
    `TlogStore.split_total`) corresponds to the "bad math" panic -/
def splitOut : Except Tlog.Err (Nat × Nat) → M (Int × Int)
  | .ok (l, k) => .ok ((l : Int), (k : Int))
  | .error _ => .error .panic

theorem SplitStoredHashIndex_eq (fuel p : Nat) (hp : p + 1 < 2 ^ 63) (hf : 64 ≤ fuel) :
    Generated.Tlog.SplitStoredHashIndex fuel (p : Int) = splitOut (Tlog.splitStoredHashIndex p) := by
  obtain ⟨n, h1, h2⟩ := TlogStore.exists_record p
  rw [TlogStore.splitStoredHashIndex_spec p n h1 h2 (by omega)]
  have hS2 := Tlog.S_le_two_mul (p / 2)
  have hstart : p / 2 ≤ n := by
    have : p / 2 < n + 1 := TlogStore.lt_of_S_lt _ _ (by omega)
    omega
  have hn : n ≤ p := Nat.le_trans (TlogStore.le_S n) h1
  have hlow := TlogStore.S_lower n
  have hlog : n.log2 < 63 := by
    by_cases h0 : n = 0
    · subst h0; simp
    · exact (Nat.log2_lt h0).mpr (by omega)
  have hr := S_succ_record_lt p n h1 hp
  have hloop := SplitStoredHashIndex_loop1_eq p (n - p / 2) (p / 2) fuel
    (by rw [Nat.add_sub_cancel' hstart]; exact h1) (by rw [Nat.add_sub_cancel' hstart]; exact h2)
    (by omega) (by rw [Nat.add_sub_cancel' hstart]; exact hr)
  rw [Nat.add_sub_cancel' hstart] at hloop
  have hshi := StoredHashIndex_eq fuel 0 (p / 2) (by rw [Tlog.storedHashIndex_zero_eq]; omega) hf
  rw [Tlog.storedHashIndex_zero_eq] at hshi
  have hng : ¬ (((Tlog.S (p / 2) : Nat) : Int) > (p : Int)) := by omega
  have e1 : (p : Int) - ((Tlog.S n : Nat) : Int) = ((p - Tlog.S n : Nat) : Int) := by omega
  simp only [Int.natCast_zero] at hshi
  simp only [Generated.Tlog.SplitStoredHashIndex, quo_natCast_two, mbind_ok, hshi, hng, decide_false, Bool.false_eq_true,
    ↓reduceIte, hloop, e1, chk64_natCast (show p - Tlog.S n < 2 ^ 63 by omega),
    toU64_natCast (show p - Tlog.S n < 2 ^ 64 by omega), shr_natCast, mpure, splitOut]

/-! ### SplitStoredHashIndex(MaxInt64) -/

theorem SplitStoredHashIndex_loop1_step (p n fuel : Nat) (h1 : Tlog.S (n + 1) ≤ p) (hr : Tlog.S (n + 1) < 2 ^ 63) :
    Generated.Tlog.SplitStoredHashIndex_loop1 (p : Int) (fuel + 1) (n : Int) ((Tlog.S n : Nat) : Int) =
      Generated.Tlog.SplitStoredHashIndex_loop1 (p : Int) fuel ((n + 1 : Nat) : Int) ((Tlog.S (n + 1) : Nat) : Int) := by
  have hSn := Tlog.S_succ n
  have hle := TlogStore.le_S (n + 1)
  have e1 : ((Tlog.S n : Nat) : Int) + 1 = ((Tlog.S n + 1 : Nat) : Int) := by omega
  have e2 : (n : Int) + 1 = ((n + 1 : Nat) : Int) := by omega
  have e3 : ((Tlog.S n + 1 : Nat) : Int) + ((RFC6962.tz (n + 1) : Nat) : Int) = ((Tlog.S (n + 1) : Nat) : Int) := by omega
  have hgt : ¬ (((Tlog.S (n + 1) : Nat) : Int) > (p : Int)) := by omega
  rw [Generated.Tlog.SplitStoredHashIndex_loop1]
  simp only [e1, chk64_natCast (show Tlog.S n + 1 < 2 ^ 63 by omega), mbind_ok, e2,
    chk64_natCast (show n + 1 < 2 ^ 63 by omega), toU64_natCast (show n + 1 < 2 ^ 64 by omega),
    trailingZeros64_tz (n + 1) (by omega) (by omega), e3, chk64_natCast hr, hgt, decide_false, Bool.false_eq_true, ↓reduceIte]

/-- an iteration that starts at the last int64 position overflows in `indexN + 1` -/
theorem SplitStoredHashIndex_loop1_overflow (p n fuel : Nat) (h : 2 ^ 63 ≤ Tlog.S n + 1) :
    Generated.Tlog.SplitStoredHashIndex_loop1 (p : Int) (fuel + 1) (n : Int) ((Tlog.S n : Nat) : Int) = .error .overflow := by
  have e1 : ((Tlog.S n : Nat) : Int) + 1 = ((Tlog.S n + 1 : Nat) : Int) := by omega
  rw [Generated.Tlog.SplitStoredHashIndex_loop1]
  simp only [e1, chk64_natCast_overflow h, mbind_error]

/-- `SplitStoredHashIndex(math.MaxInt64)`: `MaxInt64 = StoredHashIndex(0, 2^62)` is a valid stored-hash index, but the
    loop computes `x = indexN + 1 = 2^63` — an int64 overflow (the Go code wraps around and keeps looping). -/
theorem SplitStoredHashIndex_maxInt64 (fuel : Nat) (hf : 64 ≤ fuel) :
    Generated.Tlog.SplitStoredHashIndex fuel (((2 ^ 63 - 1 : Nat)) : Int) = .error .overflow := by
  obtain ⟨g, rfl⟩ : ∃ g, fuel = g + 2 := ⟨fuel - 2, by omega⟩
  have h62 := S_two_pow 62
  have hS1 := TlogStore.S_lt_succ (2 ^ 62 - 1)
  have e62 : 2 ^ 62 - 1 + 1 = 2 ^ 62 := by omega
  rw [e62] at hS1
  have hhalf : (2 ^ 63 - 1) / 2 = 2 ^ 62 - 1 := by omega
  have hshi := StoredHashIndex_eq (g + 2) 0 (2 ^ 62 - 1) (by rw [Tlog.storedHashIndex_zero_eq]; omega) (by omega)
  rw [Tlog.storedHashIndex_zero_eq] at hshi
  simp only [Int.natCast_zero] at hshi
  have hng : ¬ (((Tlog.S (2 ^ 62 - 1) : Nat) : Int) > ((2 ^ 63 - 1 : Nat) : Int)) := by omega
  have hstep := SplitStoredHashIndex_loop1_step (2 ^ 63 - 1) (2 ^ 62 - 1) (g + 1) (by rw [e62]; omega) (by rw [e62]; omega)
  rw [e62] at hstep
  have hov := SplitStoredHashIndex_loop1_overflow (2 ^ 63 - 1) (2 ^ 62) g (by omega)
  simp only [Generated.Tlog.SplitStoredHashIndex, quo_natCast_two, hhalf, mbind_ok, hshi, hng, decide_false, Bool.false_eq_true,
    ↓reduceIte, hstep, hov, mbind_error]

/-! ### StoredHashCount -/

/-- `for i := uint64(n - 1); i&1 != 0; i >>= 1 { numHash++ }` -/
theorem StoredHashCount_loop1_run : ∀ (f i nh : Nat), i < 2 ^ f → i < 2 ^ 64 → nh < 2 ^ 63 →
    ∃ j : Int, Generated.Tlog.StoredHashCount_loop1 (f + 1) (nh : Int) (i : Int) =
      if nh + Tlog.trailingOnes f i < 2 ^ 63 then .ok (((nh + Tlog.trailingOnes f i : Nat) : Int), j)
      else .error .overflow := by
  intro f
  induction f with
  | zero =>
    intro i nh hi _ hnh
    have : i = 0 := by simpa using hi
    subst this
    refine ⟨0, ?_⟩
    have : band 0 1 = 0 := by decide
    simp [Generated.Tlog.StoredHashCount_loop1, Tlog.trailingOnes, this, hnh]
  | succ f ih =>
    intro i nh hi hi64 hnh
    rw [Generated.Tlog.StoredHashCount_loop1]
    simp only [band_natCast_one hi64, Tlog.trailingOnes]
    by_cases hodd : i % 2 = 1
    · have hb : (i % 2 == 1) = true := by simp [hodd]
      have hne : ¬ (((i % 2 : Nat) : Int) = 0) := by omega
      have e1 : (nh : Int) + 1 = ((nh + 1 : Nat) : Int) := by omega
      have hi2 : i / 2 < 2 ^ f := by rw [Nat.pow_succ] at hi; omega
      simp only [hb, hne, decide_false, Bool.not_false, ↓reduceIte, e1]
      by_cases h2 : nh + 1 < 2 ^ 63
      · obtain ⟨j, hj⟩ := ih (i / 2) (nh + 1) hi2 (by omega) h2
        refine ⟨j, ?_⟩
        simp only [chk64_natCast h2, mbind_ok, shr_natCast_one, hj, Nat.add_assoc, Nat.add_comm 1]
      · refine ⟨0, ?_⟩
        have : ¬ nh + (1 + Tlog.trailingOnes f (i / 2)) < 2 ^ 63 := by omega
        simp only [chk64_natCast_overflow (show 2 ^ 63 ≤ nh + 1 by omega), mbind_error, this, ↓reduceIte]
    · have hb : (i % 2 == 1) = false := by simp; omega
      have he : (((i % 2 : Nat) : Int) = 0) := by omega
      exact ⟨(i : Int), by simp [hb, he, hnh]⟩

theorem storedHashCount_succ (m : Nat) :
    Tlog.storedHashCount (m + 1) = Tlog.S m + 1 + Tlog.trailingOnes 64 m := by
  simp [Tlog.storedHashCount, Tlog.storedHashIndex_zero_eq]

theorem StoredHashCount_run (fuel n : Nat) (hn : n < 2 ^ 63) (hf : 64 ≤ fuel) :
    Generated.Tlog.StoredHashCount fuel (n : Int) =
      if Tlog.storedHashCount n < 2 ^ 63 then .ok ((Tlog.storedHashCount n : Nat) : Int) else .error .overflow := by
  cases n with
  | zero => simp [Generated.Tlog.StoredHashCount, Tlog.storedHashCount]
  | succ m =>
    rw [storedHashCount_succ]
    have hne : ¬ (((m + 1 : Nat) : Int) = 0) := by omega
    have e1 : ((m + 1 : Nat) : Int) - 1 = (m : Int) := by omega
    have hshi := StoredHashIndex_run fuel 0 m (by omega) (by omega) (by omega) hf
    rw [Tlog.storedHashIndex_zero_eq] at hshi
    simp only [Int.natCast_zero] at hshi
    simp only [Generated.Tlog.StoredHashCount, hne, decide_false, Bool.false_eq_true, ↓reduceIte, e1,
      chk64_natCast (show m < 2 ^ 63 by omega), mbind_ok, hshi]
    by_cases hs : Tlog.S m < 2 ^ 63
    · have e2 : ((Tlog.S m : Nat) : Int) + 1 = ((Tlog.S m + 1 : Nat) : Int) := by omega
      simp only [hs, ↓reduceIte, mbind_ok, e2]
      by_cases hs1 : Tlog.S m + 1 < 2 ^ 63
      · obtain ⟨g, rfl⟩ : ∃ g, fuel = g + 1 := ⟨fuel - 1, by omega⟩
        have h64 : m < 2 ^ 64 := by omega
        have hpow : m < 2 ^ g :=
          Nat.lt_of_lt_of_le (show m < 2 ^ 63 by omega) (Nat.pow_le_pow_right (by omega) (by omega))
        have hto : Tlog.trailingOnes g m = Tlog.trailingOnes 64 m := by
          rw [Tlog.trailingOnes_eq_tz 64 m h64, Tlog.trailingOnes_eq_tz g m hpow]
        obtain ⟨j, hj⟩ := StoredHashCount_loop1_run g m (Tlog.S m + 1) hpow h64 hs1
        rw [hto] at hj
        simp only [chk64_natCast hs1, mbind_ok, toU64_natCast h64, hj]
        split <;> rfl
      · simp only [chk64_natCast_overflow (show 2 ^ 63 ≤ Tlog.S m + 1 by omega), mbind_error,
          show ¬ Tlog.S m + 1 + Tlog.trailingOnes 64 m < 2 ^ 63 by omega, ↓reduceIte]
    · simp only [hs, ↓reduceIte, mbind_error, show ¬ Tlog.S m + 1 + Tlog.trailingOnes 64 m < 2 ^ 63 by omega]

theorem StoredHashCount_eq (fuel n : Nat) (hr : Tlog.storedHashCount n < 2 ^ 63) (hf : 64 ≤ fuel) :
    Generated.Tlog.StoredHashCount fuel (n : Int) = .ok ((Tlog.storedHashCount n : Nat) : Int) := by
  have hn : n < 2 ^ 63 := by
    cases n with
    | zero => omega
    | succ m => rw [storedHashCount_succ] at hr; have := TlogStore.le_S m; omega
  rw [StoredHashCount_run fuel n hn hf, if_pos hr]

theorem StoredHashCount_overflow (fuel n : Nat) (hn : n < 2 ^ 63) (hr : 2 ^ 63 ≤ Tlog.storedHashCount n) (hf : 64 ≤ fuel) :
    Generated.Tlog.StoredHashCount fuel (n : Int) = .error .overflow := by
  rw [StoredHashCount_run fuel n hn hf, if_neg (by omega)]

end ModVerif.TieFnTlogInt
