/-
  `subTreeHash` of the generated code (two loops) computes the model's `Tlog.subTreeHash`
  (`numTreeF` + `foldRight`), including the panic cases ("bad math", too few hashes, empty interval).
-/
import ModVerif.Proofs.TieFnTlogProofMax
namespace ModVerif.Tie.FnTlogProof
open ModVerif ModVerif.GoRt

/-- a model result as a result of generated code: every model error (the Go panic sites; the model's own fuel error is
    proved unreachable) is a panic. -/
def toM {α : Type} : Except Tlog.Err α → M α
  | .ok a => .ok a
  | .error _ => .error .panic

@[simp] theorem toM_ok {α : Type} (a : α) : toM (.ok a : Except Tlog.Err α) = .ok a := rfl
@[simp] theorem toM_error {α : Type} (e : Tlog.Err) : toM (.error e : Except Tlog.Err α) = .error .panic := rfl

theorem numTreeF_le : ∀ f lo hi c, Tlog.numTreeF f lo hi = .ok c → c ≤ hi - lo := by
  intro f
  induction f with
  | zero =>
    intro lo hi c h
    unfold Tlog.numTreeF at h
    split at h
    · cases h
    · cases h; omega
  | succ f ih =>
    intro lo hi c h
    unfold Tlog.numTreeF at h
    split at h
    · rename_i hlt
      have hkp := Tlog.maxpow2_fst_pos (hi - lo + 1)
      have hk := Tlog.maxpow2_lt (hi - lo + 1) (by omega)
      simp only [] at h
      split at h
      · cases h
      · cases hr : Tlog.numTreeF f (lo + (Tlog.maxpow2 (hi - lo + 1)).1) hi with
        | error e => rw [hr] at h; cases h
        | ok r =>
          rw [hr] at h
          have := ih _ _ _ hr
          simp only [bind, Except.bind, pure, Except.pure] at h
          cases h
          omega
    · cases h; omega

section
variable {H : Type} [DecidableEq H] [Inhabited H] (node : H → H → H)

/-- loop 1 of `subTreeHash` (count the maximal complete subtrees of `[lo, hi)`) -/
theorem subTreeHash_loop1_ok : ∀ (fuel f : Nat) (lo hi acc : Nat),
    hi < 2 ^ 63 → hi - lo + 1 < 2 ^ 63 → acc + (hi - lo) < 2 ^ 63 → hi - lo ≤ f → hi - lo + 1 ≤ fuel →
    Generated.Tlog.subTreeHash_loop1 node (hi : Int) fuel (acc : Int) (lo : Int) =
      match Tlog.numTreeF f lo hi with
      | .ok c => .ok (((acc + c : Nat) : Int), ((if lo < hi then hi else lo : Nat) : Int))
      | .error _ => .error .panic := by
  intro fuel
  induction fuel with
  | zero => intro f lo hi acc _ _ _ _ h; omega
  | succ fuel ih =>
    intro f lo hi acc h1 h2 h3 h4 h5
    unfold Generated.Tlog.subTreeHash_loop1
    by_cases hlt : lo < hi
    · obtain ⟨f, rfl⟩ : ∃ f', f = f' + 1 := ⟨f - 1, by omega⟩
      have e1 : decide ((lo : Int) < (hi : Int)) = true := by simp; omega
      simp only [e1, if_true]
      unfold Tlog.numTreeF
      simp only [hlt, if_true]
      rw [chk64_ok _ (by omega) (by omega)]
      simp only [mbind_ok]
      rw [chk64_ok _ (by omega) (by omega)]
      simp only [mbind_ok]
      have e : ((hi : Int) - (lo : Int) + 1) = ((hi - lo + 1 : Nat) : Int) := by omega
      rw [e, maxpow2_ok fuel _ (by omega) (Or.inr ⟨by omega, by omega⟩)]
      simp only [mbind_ok, Int.toNat_natCast]
      have hk := Tlog.maxpow2_lt (hi - lo + 1) (by omega)
      have hkp := Tlog.maxpow2_fst_pos (hi - lo + 1)
      generalize (Tlog.maxpow2 (hi - lo + 1)).1 = k at *
      rw [chk64_ok _ (by omega) (by omega)]
      simp only [mbind_ok]
      have e2 : ((k : Int) - 1) = ((k - 1 : Nat) : Int) := by omega
      rw [e2, band_natCast (by omega) (by omega)]
      have e3 : decide ((lo : Int) ≥ (hi : Int)) = false := by simp; omega
      have e4 : decide (lo ≥ hi) = false := by simp; omega
      simp only [e3, e4, Bool.or_false]
      by_cases hb : lo &&& (k - 1) = 0
      · have e5 : (!decide (((lo &&& (k - 1) : Nat) : Int) = 0)) = false := by simp; omega
        have e6 : (lo &&& (k - 1) != 0) = false := by simp [hb]
        simp only [e5, e6, Bool.false_eq_true, if_false]
        rw [chk64_ok _ (by omega) (by omega)]
        simp only [mbind_ok]
        rw [chk64_ok _ (by omega) (by omega)]
        simp only [mbind_ok]
        have := ih f (lo + k) hi (acc + 1) h1 (by omega) (by omega) (by omega) (by omega)
        rw [show ((acc : Int) + 1) = ((acc + 1 : Nat) : Int) by omega,
          show ((lo : Int) + (k : Int)) = ((lo + k : Nat) : Int) by omega, this]
        cases hr : Tlog.numTreeF f (lo + k) hi with
        | error e => rfl
        | ok c =>
          simp only [bind, Except.bind, pure, Except.pure]
          have : (if lo + k < hi then hi else lo + k) = hi := by split <;> omega
          rw [this]
          congr 2
          omega
      · have e5 : (!decide (((lo &&& (k - 1) : Nat) : Int) = 0)) = true := by simp; omega
        have e6 : (lo &&& (k - 1) != 0) = true := by simp [hb]
        simp only [e5, e6, if_true, mthrow]
    · have e1 : decide ((lo : Int) < (hi : Int)) = false := by simp; omega
      have : Tlog.numTreeF f lo hi = .ok 0 := by
        cases f <;> simp [Tlog.numTreeF, hlt]
      simp only [e1, Bool.false_eq_true, if_false, this, mpure, hlt, Nat.add_zero]

/-- loop 2 of `subTreeHash`: fold the first `j` hashes from the right onto `h` -/
theorem subTreeHash_loop2_ok (hashes : List H) : ∀ (j fuel : Nat) (h : H), j ≤ hashes.length → j < 2 ^ 63 → j + 1 ≤ fuel →
    Generated.Tlog.subTreeHash_loop2 node hashes fuel h ((j : Int) - 1) =
      .ok ((hashes.take j).reverse.foldl (fun h x => node x h) h, (-1 : Int)) := by
  intro j
  induction j with
  | zero =>
    intro fuel h _ _ hf
    obtain ⟨fuel, rfl⟩ : ∃ f', fuel = f' + 1 := ⟨fuel - 1, by omega⟩
    unfold Generated.Tlog.subTreeHash_loop2
    simp
  | succ j ih =>
    intro fuel h hj hr hf
    obtain ⟨fuel, rfl⟩ : ∃ f', fuel = f' + 1 := ⟨fuel - 1, by omega⟩
    unfold Generated.Tlog.subTreeHash_loop2
    have e1 : decide ((((j + 1 : Nat) : Int) - 1) ≥ 0) = true := decide_eq_true (by omega)
    have e2 : (((j + 1 : Nat) : Int) - 1) = (j : Int) := by omega
    simp only [e1, if_true]
    rw [e2, idxL_natCast (by omega)]
    simp only [mbind_ok]
    rw [chk64_ok _ (by omega) (by omega)]
    simp only [mbind_ok]
    rw [ih fuel _ (by omega) (by omega) (by omega)]
    rw [List.take_succ_eq_append_getElem (by omega)]
    simp only [List.reverse_append, List.reverse_cons, List.reverse_nil, List.nil_append, List.singleton_append,
      List.foldl_cons]

/-- `subTreeHash`, every `0 ≤ lo`, `hi < 2^63` with `hi - lo + 1 < 2^63` (the loop computes `hi - lo + 1`), every list
    of hashes; all panic cases included. -/
theorem subTreeHash_ok (fuel : Nat) (lo hi : Nat) (hashes : List H)
    (h1 : hi < 2 ^ 63) (h2 : hi - lo + 1 < 2 ^ 63) (hf : hi - lo + 1 ≤ fuel) :
    Generated.Tlog.subTreeHash node fuel (lo : Int) (hi : Int) hashes =
      toM (Tlog.subTreeHash node lo hi hashes) := by
  unfold Generated.Tlog.subTreeHash Tlog.subTreeHash
  simp only []
  have := subTreeHash_loop1_ok node fuel (hi - lo) lo hi 0 h1 h2 (by omega) (Nat.le_refl _) hf
  simp only [Int.natCast_zero] at this
  rw [this]
  have hne := Tlog.numTreeF_ne_fuel (hi - lo) lo hi (Nat.le_refl _)
  have hbound : ∀ c, Tlog.numTreeF (hi - lo) lo hi = .ok c → c ≤ hi - lo := numTreeF_le _ _ _
  cases hr : Tlog.numTreeF (hi - lo) lo hi with
  | error e => simp only [mbind_error]; rfl
  | ok c =>
    have hc := hbound c hr
    simp only [mbind_ok, Nat.zero_add]
    by_cases hl : hashes.length < c
    · have e1 : decide (len hashes < (c : Int)) = true := by rw [len_eq]; simp; omega
      simp only [e1, hl, if_true, mthrow, toM_error]
    · have e1 : decide (len hashes < (c : Int)) = false := by rw [len_eq]; simp; omega
      simp only [e1, hl, Bool.false_eq_true, if_false]
      rw [chk64_ok _ (by omega) (by omega)]
      rw [mbind_ok]
      cases c with
      | zero =>
        rw [idxL_out _ _ (by omega)]
        simp [Tlog.foldRight]
      | succ c =>
        have e2 : (((c + 1 : Nat) : Int) - 1) = (c : Int) := by omega
        have e3 : (((c + 1 : Nat) : Int) - 2) = (c : Int) - 1 := by omega
        rw [e2, idxL_natCast (by omega), mbind_ok, e3, chk64_ok _ (by omega) (by omega), mbind_ok]
        rw [subTreeHash_loop2_ok node hashes c fuel _ (by omega) (by omega) (by omega), mbind_ok]
        rw [sliceFrom_natCast (by omega), mbind_ok]
        have ht : (List.take (c + 1) hashes).reverse = hashes[c] :: (List.take c hashes).reverse := by
          rw [List.take_succ_eq_append_getElem (by omega)]; simp
        rw [ht]
        simp only [Tlog.foldRight, toM_ok, mpure]

end
end ModVerif.Tie.FnTlogProof
