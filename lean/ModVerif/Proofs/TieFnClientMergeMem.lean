/-
  Tie proofs, sumdb/client.go (merge unit): `Client.mergeLatestMem` of the regenerated client against the hand model.
  The `for` loop of the Go function goes around only when another goroutine replaced `c.latest` during `checkTrees`; in the
  regenerated (sequential) client `c.latest == latest` always holds after `checkTrees` (`FrameG.latest`), so the loop body
  runs once, as in the model.
-/
import ModVerif.Proofs.TieFnClientMergeCheck
import ModVerif.Proofs.TieFnClientMergeOpen
namespace ModVerif.TieFnClientMerge
open ModVerif ModVerif.GoRt ModVerif.Client ModVerif.Generated.SumdbClient ModVerif.TieFnClientRep

/-- `msgPast`, `msgNow`, `msgFuture` -/
def whenCode : When → Int
  | .past => 1
  | .now => 2
  | .future => 3

def RepWhen (i : Int) (wh : When) : Prop := i = whenCode wh

section
variable {σ H : Type} [DecidableEq H] [Inhabited H] {P : Params H} {E : Env σ}

/-- the part of the model's `mergeLatestMem` after `note.Open` / `ParseTree` -/
def memTail (P : Params H) (E : Env σ) (w : World σ H) (tree : Head H) (msg : Bytes) : Except Client.Err When × World σ H :=
  if tree.n ≤ w.c.latest.n then
    match (checkTrees P E w tree msg w.c.latest w.c.latestMsg).1 with
    | .error e => (.error e, (checkTrees P E w tree msg w.c.latest w.c.latestMsg).2)
    | .ok () => (.ok (if tree.n < w.c.latest.n then .past else .now), (checkTrees P E w tree msg w.c.latest w.c.latestMsg).2)
  else
    match (checkTrees P E w w.c.latest w.c.latestMsg tree msg).1 with
    | .error e => (.error e, (checkTrees P E w w.c.latest w.c.latestMsg tree msg).2)
    | .ok () => (.ok .future,
        { (checkTrees P E w w.c.latest w.c.latestMsg tree msg).2 with
          c := { (checkTrees P E w w.c.latest w.c.latestMsg tree msg).2.c with latest := tree, latestMsg := msg } })

omit [Inhabited H] in
theorem mergeLatestMem_tail (w : World σ H) (msg : Bytes) (tree : Head H) (hne : msg.isEmpty = false)
    (ho : openTree P w.c.verifiers msg = .ok tree) : mergeLatestMem P E w msg = memTail P E w tree msg := by
  unfold mergeLatestMem memTail
  simp only [hne, Bool.false_eq_true, if_false, ho]
  repeat' split
  all_goals simp_all

omit [DecidableEq H] [Inhabited H] in
/-- `c.latest = tree; c.latestMsg = msg` on both sides -/
theorem RepRun.setLatest {w : World σ H} {cw : GW σ H} (h : RepRun P E w cw) (tree : Head H) (msg : Bytes) :
    RepRun P E { w with c := { w.c with latest := tree, latestMsg := msg } }
      { cw with latest := headG tree, latestMsg := msg } :=
  { h with latestN := rfl, latestMsg := rfl, latestHash := rfl }

/-- one round of the loop of `mergeLatestMem` (it never goes around) -/
theorem mergeLatestMem_loop1_tie (S : TileSpecs P E) (w : World σ H) (cw : GW σ H) (tree : Head H) (msg : Bytes) (f : Nat)
    (hr : RepRun P E w cw)
    (hok : if tree.n ≤ w.c.latest.n then CheckTreesOk P E w tree w.c.latest else CheckTreesOk P E w w.c.latest tree)
    (hf : (if tree.n ≤ w.c.latest.n then checkTreesFuel S w tree w.c.latest else checkTreesFuel S w w.c.latest tree) ≤ f) :
    Ties (RepRun P E) FrameI FrameJ (RepResR RepWhen) Ctl.ret w cw
      (Client_mergeLatestMem_loop1 (envOf P E) msg (headG tree) (f + 1) cw (headG w.c.latest) w.c.latestMsg)
      (memTail P E w tree msg) := by
  rw [Client_mergeLatestMem_loop1]
  have hN1 : (headG tree).N = (tree.n : Int) := rfl
  have hN2 : (headG w.c.latest).N = (w.c.latest.n : Int) := rfl
  simp only [hN1, hN2]
  unfold memTail
  by_cases hle : tree.n ≤ w.c.latest.n
  · rw [if_pos hle] at hok hf ⊢
    rw [if_pos (by simp; omega)]
    refine Ties.bindF framingI FrameG.toI FrameM.toJ
      (checkTrees_tie S w cw tree w.c.latest msg w.c.latestMsg f hr hok hf) ?_
    intro r1 cw1 rr1 rs1 _ _
    cases hc : (checkTrees P E w tree msg w.c.latest w.c.latestMsg).1 with
    | error e =>
      rw [hc] at rs1
      simp only [RepErr_not_isNone rs1, if_true]
      exact Ties.ret framingI rr1 rs1
    | ok u =>
      cases u
      rw [hc] at rs1
      obtain rfl : r1 = none := rs1
      simp only [Option.isNone_none, Bool.not_true, Bool.false_eq_true, if_false]
      by_cases hlt : tree.n < w.c.latest.n
      · rw [if_pos (by simp; omega), if_pos hlt]
        exact Ties.ret framingI rr1 ⟨rfl, rfl⟩
      · rw [if_neg (by simp; omega), if_neg hlt]
        exact Ties.ret framingI rr1 ⟨rfl, rfl⟩
  · rw [if_neg hle] at hok hf ⊢
    rw [if_neg (by simp; omega)]
    refine Ties.bindF framingI FrameG.toI FrameM.toJ
      (checkTrees_tie S w cw w.c.latest tree w.c.latestMsg msg f hr hok hf) ?_
    intro r2 cw2 rr2 rs2 fg _
    cases hc : (checkTrees P E w w.c.latest w.c.latestMsg tree msg).1 with
    | error e =>
      rw [hc] at rs2
      simp only [RepErr_not_isNone rs2, if_true]
      exact Ties.ret framingI rr2 rs2
    | ok u =>
      cases u
      rw [hc] at rs2
      obtain rfl : r2 = none := rs2
      simp only [Option.isNone_none, Bool.not_true, Bool.false_eq_true, if_false]
      -- nobody else replaced `c.latest` during `checkTrees`: the new head is installed
      rw [if_pos (decide_eq_true (show cw2.latest = headG w.c.latest by rw [fg.latest]; exact hr.latest_eq))]
      refine Ties.after framingI ?_ ?_ (Ties.ret framingI (RepRun.setLatest rr2 tree msg) ⟨rfl, rfl⟩)
      · exact ⟨rfl, rfl, rfl, rfl, rfl, rfl, rfl, rfl⟩
      · exact ⟨rfl, rfl, rfl, rfl⟩

theorem memFuel_open (S : TileSpecs P E) (w : World σ H) (msg : Bytes) : msg.length + 1 ≤ memFuel S w msg := by
  unfold memFuel
  split
  · exact Nat.le_refl _
  · exact Nat.le_max_left _ _

theorem mergeLatestMem_tie (S : TileSpecs P E) (w : World σ H) (cw : GW σ H) (msg : Bytes) (fuel : Nat)
    (hr : RepRun P E w cw) (hok : MergeMemOk P E w msg) (hf : memFuel S w msg ≤ fuel) :
    Ties (RepRun P E) FrameI FrameJ (RepResR RepWhen) id w cw (Client_mergeLatestMem (envOf P E) fuel msg cw)
      (mergeLatestMem P E w msg) := by
  unfold Client_mergeLatestMem
  cases msg with
  | nil =>
    have hm : mergeLatestMem P E w [] = (.ok (if w.c.latest.n == 0 then .now else .past), w) := by
      simp [mergeLatestMem]
    rw [hm]
    simp only [len_nil, decide_true, if_true, hr.latestN]
    by_cases hz : w.c.latest.n = 0
    · simp only [hz, Int.natCast_zero, decide_true, if_true, beq_self_eq_true]
      exact Ties.ret framingI hr ⟨rfl, rfl⟩
    · rw [if_neg (by simp; omega), if_neg (by simpa using hz)]
      exact Ties.ret framingI hr ⟨rfl, rfl⟩
  | cons c rest =>
    have hne : (c :: rest).isEmpty = false := rfl
    have hd : decide (len (c :: rest) = 0) = false := by
      have := len_nonneg rest
      simp only [len_cons, decide_eq_false_iff_not]; omega
    simp only [hd, Bool.false_eq_true, if_false]
    have hfo := Nat.le_trans (memFuel_open S w (c :: rest)) hf
    rw [hr.verifiers, noteOpenX_eq P E w.c.verifiers hr.vlen (c :: rest) fuel hfo, mbind_ok]
    cases hO : Note.Open (c :: rest) (Note.VerifierList w.c.verifiers) with
    | error e =>
      have hm : mergeLatestMem P E w (c :: rest) = (.error .note, w) := by
        simp [mergeLatestMem, openTree, hO]
      rw [hm]
      simp only [TieFnNote.embedOpen, embedErr_isNone, Bool.not_false, if_true]
      exact Ties.ret framingI hr (repErr_note _)
    | ok nt =>
      simp only [TieFnNote.embedOpen, Option.isNone_none, Bool.not_true, Bool.false_eq_true, if_false]
      have hT : (TieFnNote.embedNote nt).Text = nt.text := rfl
      rw [hT, parseTreeX_eq P E nt.text, mbind_ok]
      cases hp : TlogNote.parseTree nt.text with
      | none =>
        have hm : mergeLatestMem P E w (c :: rest) = (.error .note, w) := by
          simp [mergeLatestMem, openTree, hO, hp]
        rw [hm]
        simp only [Option.isNone_some, Bool.not_false, if_true]
        exact Ties.ret framingI hr (repErr_tree _)
      | some t =>
        obtain ⟨tree, htr⟩ : ∃ tree : Head H, tree = ⟨t.n.toNat, P.dec t.hash⟩ := ⟨_, rfl⟩
        have ho : openTree P w.c.verifiers (c :: rest) = .ok tree := by
          simp [openTree, hO, hp, htr]
        rw [mergeLatestMem_tail w (c :: rest) _ hne ho]
        have hf' : 1 + (if tree.n ≤ w.c.latest.n then checkTreesFuel S w tree w.c.latest
            else checkTreesFuel S w w.c.latest tree) ≤ fuel := by
          have : memFuel S w (c :: rest) = max ((c :: rest).length + 1)
              (1 + (if tree.n ≤ w.c.latest.n then checkTreesFuel S w tree w.c.latest
                else checkTreesFuel S w w.c.latest tree)) := by
            unfold memFuel; rw [ho]
          rw [this] at hf
          exact Nat.le_trans (Nat.le_max_right _ _) hf
        obtain ⟨f, rfl⟩ : ∃ f, fuel = f + 1 := ⟨fuel - 1, by omega⟩
        have htree : ({ N := t.n, Hash := P.dec t.hash } : Generated.Tile.Tree H) = headG tree := by
          have := parseTree_nonneg nt.text t hp
          rw [htr]
          simp only [headG]
          congr 1
          omega
        simp only [Option.isNone_none, Bool.not_true, Bool.false_eq_true, if_false]
        rw [htree, hr.latest_eq, hr.latestMsg]
        exact Ties.ofCtl (fun _ => rfl) (mergeLatestMem_loop1_tie S w cw tree (c :: rest) f hr (hok hne _ ho) (by omega))

end
end ModVerif.TieFnClientMerge
