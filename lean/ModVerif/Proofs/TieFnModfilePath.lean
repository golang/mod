/-
  Helper lemmas for Tie/FnModfile.lean: ModulePath (modfile/read.go).

  The Go loop peels one line per iteration (`bytes.IndexByte(line, '\n')`, `line, mod = line[:i], line[i+1:]`) and
  `continue`s or returns; the model splits the text first (`splitOn 10`) and scans the lines.  The translator renders the
  two `if i >= 0 { … }` statements as join functions `k7` (after the line cut) and `k5` (after the `//` cut); `mpK7`,
  `mpK5` below are those two functions written out, and `loop_unfold` (by `rfl`) shows that one unfolding of the
  generated loop is exactly: cut a line, call `mpK7`.  So a change of the Go loop body breaks `loop_unfold`.

  * `mpK5_eq` / `mpK7_eq`: the rest of an iteration is `modulePathLine` (none = `continue`, some p = `return p`);
  * `ModulePath_loop1_spec`: by induction on the fuel, cutting lines off `splitOn 10 mod` (`splitOn_mem`, `splitOn_noSep`).
-/
import ModVerif.Generated.FnModfile
import ModVerif.Model.Modfile.Rule
import ModVerif.Drv.GenModfile
import ModVerif.Proofs.GoRtLemmasStr
import ModVerif.Proofs.GoRtLemmasModfile
import ModVerif.Proofs.TieFnModfileQuote
namespace ModVerif.TieFnModfile
open ModVerif ModVerif.GoRt ModVerif.GoRtStr ModVerif.GoRtModfile ModVerif.Drv.GenModfile
open ModVerif.Generated.Modfile

/-- the translator's join function `k5` of ModulePath's loop: the iteration after the `//` cut -/
def mpK5 (fuel : Nat) (mod line : Bytes) : M (Ctl Bytes Bytes) := do
  let line := (trimSpace line)
  if (!(hasPrefix line ([109, 111, 100, 117, 108, 101] : Bytes))) then (ModulePath_loop1 unquoteI fuel mod) else (do
    let t1 ← sliceFrom line (len ([109, 111, 100, 117, 108, 101] : Bytes))
    let line := t1
    let n := (len line)
    let line := (trimSpace line)
    if ((decide ((len line) = n)) || (decide ((len line) = (0 : Int)))) then (ModulePath_loop1 unquoteI fuel mod) else (do
      let t2 ← idx line (0 : Int)
      let t4 ← (if (decide (t2 = (34 : Int))) then pure true else (do
        let t3 ← idx line (0 : Int)
        pure (decide (t3 = (96 : Int)))))
      if t4 then (do
        let (p, err) := (unquoteI line)
        if (!(err).isNone) then (pure (Ctl.ret ([] : Bytes))) else (pure (Ctl.ret p))) else (pure (Ctl.ret line))))

/-- the translator's join function `k7`: the iteration after the line cut -/
def mpK7 (fuel : Nat) (line mod : Bytes) : M (Ctl Bytes Bytes) := do
  let i_1 := (index line ([47, 47] : Bytes))
  if (decide (i_1 ≥ (0 : Int))) then (do
    let t6 ← sliceTo line i_1
    let line := t6
    mpK5 fuel mod line) else (mpK5 fuel mod line)

/-- one unfolding of the generated loop, with the join functions named (definitional) -/
theorem loop_unfold (fuel : Nat) (mod : Bytes) :
    ModulePath_loop1 unquoteI (fuel + 1) mod =
      (if (decide ((len mod) > (0 : Int))) then (do
        let i := (indexByte mod (10 : Int))
        if (decide (i ≥ (0 : Int))) then (do
          let t8 ← sliceTo mod i
          let t10 ← sliceFrom mod (i + (1 : Int))
          mpK7 fuel t8 t10) else (mpK7 fuel mod [])) else (pure (Ctl.next mod))) := rfl

/-- one line of the model's ModulePath after the `//` cut -/
def mplTail (line : Bytes) : Option Bytes :=
  let line := GoStrings.trimSpace line
  if !isPrefixOfB (B "module") line then none else
  let line := line.drop 6
  let n := line.length
  let line := GoStrings.trimSpace line
  if line.length == n || line.isEmpty then none else
  match line with
  | c :: _ =>
    if c == 34 || c == 96 then
      match Quote.unquote line with
      | none => some []
      | some p => some p
    else some line
  | [] => none

theorem modulePathLine_eq (line : Bytes) :
    Modfile.modulePathLine line =
      mplTail (match GoStrings.index line [47, 47] with | some i => line.take i | none => line) := rfl

theorem mpK5_tail (X : M (Ctl Bytes Bytes)) (l2 l3 : Bytes) :
    (if ((decide ((len l3) = len l2)) || (decide ((len l3) = (0 : Int)))) then X else (do
      let t2 ← idx l3 (0 : Int)
      let t4 ← (if (decide (t2 = (34 : Int))) then pure true else (do
        let t3 ← idx l3 (0 : Int)
        pure (decide (t3 = (96 : Int)))))
      if t4 then (do
        let (p, err) := (unquoteI l3)
        if (!(err).isNone) then (pure (Ctl.ret ([] : Bytes))) else (pure (Ctl.ret p))) else (pure (Ctl.ret l3)))) =
    (match (if l3.length == l2.length || l3.isEmpty then none else
        match l3 with
        | c :: _ =>
          if c == 34 || c == 96 then
            match Quote.unquote l3 with
            | none => some []
            | some p => some p
          else some l3
        | [] => none : Option Bytes) with
     | none => X
     | some p => .ok (Ctl.ret p)) := by
  have e1 : (decide (len l3 = len l2) || decide (len l3 = 0)) = (l3.length == l2.length || l3.isEmpty) := by
    congr 1
    · rw [Bool.eq_iff_iff, decide_eq_true_iff, beq_iff_eq, len_eq, len_eq]; omega
    · rw [Bool.eq_iff_iff]; simp [len_eq]
  rw [e1]
  by_cases hc : (l3.length == l2.length || l3.isEmpty) = true
  · simp only [hc, if_true]
  · simp only [hc, Bool.false_eq_true, if_false]
    cases l3 with
    | nil => simp at hc
    | cons c t =>
      simp only [idx_zero_cons, bind_ok, pure_eq_ok]
      have b34 : decide (((c.toNat : Nat) : Int) = 34) = (c == 34) := byte_eq 34 c (by decide)
      have b96 : decide (((c.toNat : Nat) : Int) = 96) = (c == 96) := byte_eq 96 c (by decide)
      rw [b34, b96]
      by_cases h34 : (c == 34) = true
      · cases hu : Quote.unquote (c :: t) <;> simp only [h34, if_true, bind_ok, Bool.true_or, unquoteI, hu] <;> rfl
      · by_cases h96 : (c == 96) = true
        · cases hu : Quote.unquote (c :: t) <;>
            simp only [h34, h96, Bool.false_eq_true, if_false, if_true, bind_ok, Bool.or_true, unquoteI, hu] <;> rfl
        · simp only [h34, h96, Bool.false_eq_true, if_false, bind_ok, Bool.or_false]

theorem mpK5_eq (fuel : Nat) (mod line : Bytes) :
    mpK5 fuel mod line =
      (match mplTail line with
       | none => ModulePath_loop1 unquoteI fuel mod
       | some p => .ok (Ctl.ret p)) := by
  unfold mpK5 mplTail
  simp only [GoRt.trimSpace, hasPrefix, B_module]
  by_cases hp : isPrefixOfB [109, 111, 100, 117, 108, 101] (GoStrings.trimSpace line) = true
  · have hl := isPrefixOfB_length_le hp
    have hs : sliceFrom (GoStrings.trimSpace line) (len ([109, 111, 100, 117, 108, 101] : Bytes)) =
        .ok ((GoStrings.trimSpace line).drop 6) :=
      sliceFrom_natCast (k := 6) (by simpa using hl)
    simp only [hp, Bool.not_true, Bool.false_eq_true, if_false, hs, bind_ok]
    exact mpK5_tail _ _ _
  · simp only [hp, Bool.not_false, if_true]

/-- the rest of one iteration after the line cut: `continue` (none) or `return p` (some p) as the model's line says -/
theorem mpK7_eq (fuel : Nat) (line mod : Bytes) :
    mpK7 fuel line mod =
      (match Modfile.modulePathLine line with
       | none => ModulePath_loop1 unquoteI fuel mod
       | some p => .ok (Ctl.ret p)) := by
  unfold mpK7
  rw [modulePathLine_eq, index_eq]
  cases hi : GoStrings.index line [47, 47] with
  | none =>
    have : decide ((-1 : Int) ≥ 0) = false := by decide
    simp only [this, Bool.false_eq_true, if_false]
    exact mpK5_eq fuel mod line
  | some i =>
    have hle := gs_index_le hi
    have : decide (((i : Nat) : Int) ≥ 0) = true := by simp
    simp only [this, if_true, sliceTo_natCast hle, bind_ok]
    exact mpK5_eq fuel mod (line.take i)

theorem modulePathLine_nil : Modfile.modulePathLine [] = none := by decide +kernel

theorem ModulePath_loop1_spec : ∀ (fuel : Nat) (mod : Bytes), mod.length + 1 ≤ fuel →
    ∃ c, ModulePath_loop1 unquoteI fuel mod = .ok c ∧
      (match c with | Ctl.ret p => p | Ctl.next _ => []) = Modfile.modulePathLines (splitOn 10 mod) := by
  intro fuel
  induction fuel with
  | zero => intro mod h; omega
  | succ f ih =>
    intro mod hf
    rw [loop_unfold]
    cases mod with
    | nil =>
      refine ⟨Ctl.next [], rfl, ?_⟩
      simp [splitOn, Modfile.modulePathLines, modulePathLine_nil]
    | cons x xs =>
      have h1 : decide (len (x :: xs) > 0) = true := by simp [len_eq]
      have hib : indexByte (x :: xs) 10 =
          if (10 : UInt8) ∈ x :: xs then ((((x :: xs).takeWhile (· != 10)).length : Nat) : Int) else -1 :=
        indexByte_eq (x :: xs) (10 : UInt8) rfl
      simp only [h1, if_true, hib]
      by_cases hm : (10 : UInt8) ∈ x :: xs
      · have hlt := length_takeWhile_lt_of_mem hm
        generalize hmod : x :: xs = mod at *
        generalize hk : (mod.takeWhile (· != 10)).length = k at *
        have h2 : decide (((k : Nat) : Int) ≥ 0) = true := by simp
        have h3 : ((k : Nat) : Int) + 1 = ((k + 1 : Nat) : Int) := by simp
        simp only [hm, if_true, h2, sliceTo_natCast (Nat.le_of_lt hlt), h3, sliceFrom_natCast (Nat.succ_le_of_lt hlt),
          bind_ok]
        have htk : mod.take k = mod.takeWhile (· != 10) := by rw [← hk]; exact GoRt.take_length_takeWhile _ _
        rw [mpK7_eq, splitOn_mem 10 _ hm, hk, htk]
        simp only [Modfile.modulePathLines]
        cases Modfile.modulePathLine (mod.takeWhile (· != 10)) with
        | some p => exact ⟨_, rfl, rfl⟩
        | none =>
          obtain ⟨c, hc, he⟩ := ih (mod.drop (k + 1)) (by simp at hf ⊢; omega)
          exact ⟨c, hc, he⟩
      · simp only [hm, if_false]
        have : decide ((-1 : Int) ≥ 0) = false := by decide
        simp only [this, Bool.false_eq_true, if_false]
        rw [mpK7_eq, splitOn_noSep 10 _ hm]
        simp only [Modfile.modulePathLines]
        cases Modfile.modulePathLine (x :: xs) with
        | some p => exact ⟨_, rfl, rfl⟩
        | none =>
          obtain ⟨c, hc, he⟩ := ih [] (by simp at hf ⊢; omega)
          refine ⟨c, hc, ?_⟩
          rw [he]; simp [splitOn, Modfile.modulePathLines, modulePathLine_nil]

theorem ModulePath_eq (mod : Bytes) (fuel : Nat) (hf : mod.length + 1 ≤ fuel) :
    ModulePath unquoteI fuel mod = .ok (Modfile.modulePath mod) := by
  obtain ⟨c, hc, he⟩ := ModulePath_loop1_spec fuel mod hf
  unfold ModulePath Modfile.modulePath
  rw [hc, ← he]
  cases c <;> rfl

end ModVerif.TieFnModfile
