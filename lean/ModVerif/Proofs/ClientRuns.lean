/-
  What the tile layer of the sequential client (Model/Client.lean: everything below `mergeLatestMem`) does to the world.
  `TileOp` lists its primitive operations, `Runs` is their closure, and every function of the layer is a run
  (`runs_readTileWork` … `runs_checkTrees`).  A relation between the world before and the world after that is a preorder
  and contains the primitives therefore holds along each of them (`Runs.lift`): this is how the frames of the proofs
  about the client (`Low`, `Fr`, `EF`) are obtained.
-/
import ModVerif.Model.Client
namespace ModVerif.Client
open ModVerif ModVerif.Tlog ModVerif.Tile

theorem lookup_cons_eq {α β : Type} [BEq α] [LawfulBEq α] [DecidableEq α] (a k : α) (b : β) (l : List (α × β)) :
    ((k, b) :: l).lookup a = if a = k then some b else l.lookup a := by
  simp only [List.lookup]
  by_cases h : a = k
  · subst h; simp
  · have : (a == k) = false := by simpa using h
    simp [this, h]

section
variable {σ H : Type}

/-- One primitive operation of the tile layer.  `Wr t d` is what the user of the relation wants to know of a tile file that
    `SaveTiles` writes (`True`, or that it is the true tile); `memo` is the insertion into `c.tileCache`, which never
    caches the security error. -/
inductive TileOp (E : Env σ) (Wr : Tile → Bytes → Prop) : World σ H → World σ H → Prop
  | readCache (w : World σ H) (t : Tile) : TileOp E Wr w (readCache E w (tileCacheKey w.c.name t)).2
  | readRemote (w : World σ H) (t : Tile) : TileOp E Wr w (readRemote E w (tileRemotePath t)).2
  | mark (w : World σ H) (t : Tile) : TileOp E Wr w (markTileSaved w t)
  | memo (w : World σ H) (t : Tile) (r : Except Err Bytes) (hr : r ≠ .error .security) :
      TileOp E Wr w { w with c := { w.c with tileCache := (t, r) :: w.c.tileCache } }
  | save (w : World σ H) (t : Tile) (d : Bytes) (h : Wr t d) : TileOp E Wr w (writeCache E w (tileCacheKey w.c.name t) d)

inductive Runs (E : Env σ) (Wr : Tile → Bytes → Prop) : World σ H → World σ H → Prop
  | refl (w : World σ H) : Runs E Wr w w
  | tail {w w1 w2 : World σ H} : Runs E Wr w w1 → TileOp E Wr w1 w2 → Runs E Wr w w2

variable {E : Env σ} {Wr : Tile → Bytes → Prop}

theorem Runs.trans {w1 w2 w3 : World σ H} (a : Runs E Wr w1 w2) (b : Runs E Wr w2 w3) : Runs E Wr w1 w3 := by
  induction b with
  | refl => exact a
  | tail _ op ih => exact ih.tail op

theorem TileOp.runs {w w' : World σ H} (op : TileOp E Wr w w') : Runs E Wr w w' := (Runs.refl w).tail op

theorem Runs.lift {R : World σ H → World σ H → Prop} (hrefl : ∀ w, R w w)
    (htrans : ∀ {a b c}, R a b → R b c → R a c) (hop : ∀ {w w'}, TileOp E Wr w w' → R w w')
    {w w' : World σ H} (h : Runs E Wr w w') : R w w' := by
  induction h with
  | refl => exact hrefl _
  | tail _ op ih => exact htrans ih (hop op)

theorem runs_condReadCache (c : Bool) {w w' : World σ H} (t : Tile) (l : Runs E Wr w w') :
    Runs E Wr w (if c then readCache E w' (tileCacheKey w'.c.name t) else (none, w')).2 := by
  cases c
  · exact l
  · exact l.tail (.readCache _ t)

theorem runs_condReadRemote (c : Bool) {w w' : World σ H} (t : Tile) (l : Runs E Wr w w') :
    Runs E Wr w (if c then readRemote E w' (tileRemotePath t) else (none, w')).2 := by
  cases c
  · exact l
  · exact l.tail (.readRemote _ t)

theorem runs_readTileWork (w : World σ H) (t : Tile) : Runs E Wr w (readTileWork E w t).2 := by
  have l1 : Runs E Wr w (readCache E w (tileCacheKey w.c.name t)).2 := (TileOp.readCache w t).runs
  have l2 := runs_condReadCache (t != { t with w := 2 ^ t.h }) { t with w := 2 ^ t.h } l1
  have l3 := l2.tail (.readRemote _ t)
  have l4 := runs_condReadRemote (t != { t with w := 2 ^ t.h }) { t with w := 2 ^ t.h } l3
  simp only [readTileWork]
  split
  · exact l1.tail (.mark _ t)
  · split
    · exact l2.tail (.mark _ t)
    · split
      · exact l3
      · split <;> exact l4

theorem readTileWork_error (w : World σ H) (t : Tile) (e : Err) (h : (readTileWork E w t).1 = .error e) : e = .remote := by
  simp only [readTileWork] at h
  repeat' split at h
  all_goals cases h
  all_goals rfl

theorem runs_readTile (w : World σ H) (t : Tile) : Runs E Wr w (readTile E w t).2 := by
  unfold readTile
  split
  · exact .refl w
  · refine (runs_readTileWork w t).tail (.memo _ t _ ?_)
    intro h
    cases readTileWork_error w t _ h

theorem runs_readTilesAll : ∀ (ts : List Tile) (w : World σ H), Runs E Wr w (readTilesAll E w ts).2
  | [], w => .refl w
  | t :: ts, w => (runs_readTile w t).trans (runs_readTilesAll ts _)

theorem readTilesAll_length (E : Env σ) : ∀ (ts : List Tile) (w : World σ H), (readTilesAll E w ts).1.length = ts.length := by
  intro ts
  induction ts with
  | nil => intro w; rfl
  | cons t ts ih => intro w; simp [readTilesAll, ih]

theorem firstError_length : ∀ (rs : List (Except Err Bytes)) (ds : List Bytes), firstError rs = .ok ds → ds.length = rs.length := by
  intro rs
  induction rs with
  | nil => intro ds h; simp [firstError] at h; subst h; rfl
  | cons r rs ih =>
    intro ds h
    cases r with
    | error e => simp [firstError] at h
    | ok d =>
      simp only [firstError] at h
      cases hr : firstError rs with
      | error e => simp [hr] at h
      | ok ds' =>
        simp [hr] at h; subst h
        simp [ih ds' hr]

theorem runs_saveTiles : ∀ (l : List (Tile × Bytes)) (w : World σ H), (∀ td ∈ l, Wr td.1 td.2) →
    Runs E Wr w (saveTiles E w l)
  | [], w, _ => .refl w
  | (t, d) :: rest, w, h => by
    have hrest : ∀ td ∈ rest, Wr td.1 td.2 := fun td htd => h td (List.mem_cons_of_mem _ htd)
    unfold saveTiles
    split
    · exact runs_saveTiles rest w hrest
    · exact (((TileOp.mark w t).runs).tail (.save _ t d (h (t, d) (List.mem_cons_self ..)))).trans
        (runs_saveTiles rest _ hrest)

variable [DecidableEq H]

/-- what `ReadHashes` on `tree` hands to `SaveTiles` satisfies `Wr` -/
def SavesOK (P : Params H) (Wr : Tile → Bytes → Prop) (tree : Head H) : Prop :=
  ∀ idx p datas, plan (tileHeight P) tree.n idx = .ok p → bytesWidthsOk P.hashSize p.tiles datas = true →
    (Tile.readHashes P.node tree.n tree.hash (tileHeight P) idx
      (fun t => (p.tiles.zip (datas.map (decodeTile P))).lookup t)).saved ≠ none →
    ∀ td ∈ p.tiles.zip datas, Wr td.1 td.2

theorem savesOK_true (P : Params H) (tree : Head H) : SavesOK P (fun _ _ => True) tree :=
  fun _ _ _ _ _ _ _ _ => trivial

theorem runs_readHashes (P : Params H) (w : World σ H) (tree : Head H) (hW : SavesOK P Wr tree) (idx : List Nat) :
    Runs E Wr w (readHashes P E w tree idx).2 := by
  simp only [readHashes]
  split
  · exact .refl w
  · rename_i p hp
    split
    · exact .refl w
    · have lr : Runs E Wr w (readTiles E w p.tiles).2 := runs_readTilesAll p.tiles w
      split
      · exact lr
      · rename_i datas hd
        split
        · exact lr
        · rename_i hwd
          split
          · rename_i sv hsv
            exact lr.trans (runs_saveTiles _ _ (hW idx p datas hp (by simpa using hwd) (by rw [hsv]; simp)))
          · exact lr

theorem runs_treeHashVia (P : Params H) (w : World σ H) (n : Nat) (tree : Head H) (hW : SavesOK P Wr tree) :
    Runs E Wr w (treeHashVia P E w n tree).2 := by
  simp only [treeHashVia]
  repeat' split
  all_goals first | exact .refl w | exact runs_readHashes P w tree hW _

theorem runs_proveTreeVia (P : Params H) (w : World σ H) (t n : Nat) (tree : Head H) (hW : SavesOK P Wr tree) :
    Runs E Wr w (proveTreeVia P E w t n tree).2 := by
  simp only [proveTreeVia]
  repeat' split
  all_goals first | exact .refl w | exact runs_readHashes P w tree hW _

/-- `checkTrees` is a run of the tile layer, followed by one `SecurityError` exactly when it returns the security error
    it has detected itself -/
theorem runs_checkTrees (P : Params H) (w : World σ H) (older : Head H) (on : Bytes) (newer : Head H) (nn : Bytes)
    (hW : SavesOK P Wr newer) :
    Runs E Wr w (checkTrees P E w older on newer nn).2 ∨
    ((checkTrees P E w older on newer nn).1 = .error .security ∧ ∃ (w1 : World σ H) (h : H) (tail : Bytes),
      Runs E Wr w w1 ∧ (checkTrees P E w older on newer nn).2 = securityError E w1 (securityHead P on nn h ++ tail)) := by
  have l1 := runs_treeHashVia (E := E) P w older.n newer hW
  simp only [checkTrees]
  split
  · exact .inl l1
  · split
    · exact .inl l1
    · exact .inr ⟨rfl, _, _, _, l1.trans (runs_proveTreeVia P _ _ _ newer hW), rfl⟩


/-! ### `lookupWork` in two halves: get the response, validate it -/

/-- the first half of `lookupWork`: the on-disk cache, or else the network (`true`: the data came from the network) -/
def lwGot (E : Env σ) (w : World σ H) (file remotePath : Bytes) : Option (Bytes × Bool) × World σ H :=
  match (readCache E w file).1 with
  | some data => (some (data, false), (readCache E w file).2)
  | none =>
    match (readRemote E (readCache E w file).2 remotePath).1 with
    | some data => (some (data, true), (readRemote E (readCache E w file).2 remotePath).2)
    | none => (none, (readRemote E (readCache E w file).2 remotePath).2)

omit [DecidableEq H] in
theorem lwGot_cases (E : Env σ) (w : World σ H) (file rp : Bytes) :
    (∃ data, (readCache E w file).1 = some data ∧ lwGot E w file rp = (some (data, false), (readCache E w file).2)) ∨
    (∃ data, (readCache E w file).1 = none ∧ (readRemote E (readCache E w file).2 rp).1 = some data ∧
      lwGot E w file rp = (some (data, true), (readRemote E (readCache E w file).2 rp).2)) ∨
    ((readCache E w file).1 = none ∧ (readRemote E (readCache E w file).2 rp).1 = none ∧
      lwGot E w file rp = (none, (readRemote E (readCache E w file).2 rp).2)) := by
  unfold lwGot
  split
  · exact .inl ⟨_, ‹_›, rfl⟩
  · split
    · exact .inr (.inl ⟨_, ‹_›, ‹_›, rfl⟩)
    · exact .inr (.inr ⟨‹_›, ‹_›, rfl⟩)

/-- the second half; `wc`: the data came from the network and is written to the cache file -/
def lookupValidate (P : Params H) (E : Env σ) (w : World σ H) (file data : Bytes) (wc : Bool) :
    Except Err Bytes × World σ H :=
  match TlogNote.parseRecord data with
  | none => (.error .recordSyntax, w)
  | some (id, text, treeMsg) =>
    let rm := mergeLatest P E w treeMsg
    match rm.1 with
    | .error e => (.error e, rm.2)
    | .ok () =>
      let rk := checkRecord P E rm.2 id text
      match rk.1 with
      | .error e => (.error e, rk.2)
      | .ok () => (.ok data, if wc then writeCache E rk.2 file data else rk.2)

theorem lookupWork_eq (P : Params H) (E : Env σ) (w : World σ H) (file remotePath : Bytes) :
    lookupWork P E w file remotePath =
      match (lwGot E w file remotePath).1 with
      | none => (.error .remote, (lwGot E w file remotePath).2)
      | some (data, wc) => lookupValidate P E (lwGot E w file remotePath).2 file data wc := rfl

end
end ModVerif.Client
