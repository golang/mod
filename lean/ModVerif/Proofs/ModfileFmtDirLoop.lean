/-
  Directive values (go.mod): a rewritten line without `(` keeps its shape; an accepted `parseToFile` without a
  retraction to fix is the run with the rewritten tree; a decidable form of `WellFormed` for concrete instances.
-/
import ModVerif.Proofs.ModfileFmtDirWF
import ModVerif.Proofs.ModfileParseTo
namespace ModVerif.Proofs.ModfileFmtDir
open ModVerif ModVerif.Modfile ModVerif.Proofs.ModfileFmtLex ModVerif.Proofs.ModfileFmtLine
open ModVerif.Proofs.ModfileFmtFix ModVerif.Proofs.ModfileFmtTree ModVerif.Proofs.ModfileFmtParse

theorem lineTailOK_no_lparen : ∀ (ts : List Bytes), (∀ t ∈ ts, t ≠ [40]) → lineTailOK ts = true := by
  intro ts
  induction ts with
  | nil => intro _; rfl
  | cons t r ih =>
    intro h
    rw [lineTailOK_cons_ne r (h t (by simp))]
    exact ih (fun t' ht' => h t' (by simp [ht']))

theorem values_syn (f : Modfile.File) (s : FileSyntax) : values { f with syn := s } = values f := rfl

theorem wellFormed_syn {f : Modfile.File} (s : FileSyntax) (h : WellFormed { f with syn := s }) : WellFormed f :=
  ⟨h.module, h.require, h.exclude, h.replace, h.retract, h.tool⟩

theorem fixRetractLoop_length (path : Bytes) (fx : Fixer) : ∀ (l : List Retract) (fs : FileSyntax) (e : List RuleErr),
    (fixRetractLoop path fx l fs e).1.length = l.length := by
  intro l
  induction l with
  | nil => intro fs e; rfl
  | cons r rs ih =>
    intro fs e
    unfold fixRetractLoop
    split
    · simp [ih]
    · simp [ih]

theorem ite_state (c : Prop) [Decidable c] (a b : AddState) (ha : a.errsRev ≠ []) (hb : b.file.retract ≠ []) :
    (if c then a else b).errsRev ≠ [] ∨ (if c then a else b).file.retract ≠ [] := by
  by_cases hc : c
  · rw [if_pos hc]; exact Or.inl ha
  · rw [if_neg hc]; exact Or.inr hb

theorem fixRetract_cases (st : AddState) (fix : Option Fixer) :
    fixRetract st fix = st ∨ (fix ≠ none ∧ ((fixRetract st fix).errsRev ≠ [] ∨ (fixRetract st fix).file.retract ≠ [])) := by
  cases fix with
  | none => exact Or.inl rfl
  | some fx =>
    cases hr : st.file.retract with
    | nil => left; unfold fixRetract; simp only [hr]
    | cons r rs =>
      right
      refine ⟨by simp, ?_⟩
      unfold fixRetract
      simp only [hr]
      apply ite_state
      · exact err_ne_nil _ _ _
      · intro hnil
        simp only at hnil
        have := congrArg List.length hnil
        rw [fixRetractLoop_length] at this
        simp at this

theorem parseToFile_noret {name x : Bytes} {fix : Option Fixer} {strict : Bool} {f : Modfile.File}
    (h : parseToFile name x fix strict = .ok f) (hret : fix ≠ none → f.retract = []) :
    ∃ fs st stmts, parse name x = .ok fs ∧ addStmts fix strict { file := { syn := fs } } fs.stmts = (st, stmts) ∧
      st.errsRev = [] ∧ f = { st.file with syn := { fs with stmts := stmts } } := by
  obtain ⟨fs, st, stmts, hp, ha, he, hf⟩ := ModfileParseTo.parseToFile_ok_iff.1 h
  refine ⟨fs, st, stmts, hp, ha, ?_⟩
  rcases fixRetract_cases { st with file := { st.file with syn := { fs with stmts := stmts } } } fix with h0 | ⟨hfn, h1⟩
  · rw [h0] at he hf
    exact ⟨he, hf.symm⟩
  · rcases h1 with h1 | h1
    · exact absurd he h1
    · rw [hf] at h1; exact absurd (hret hfn) h1

theorem parseToFile_of_run {name y : Bytes} {fix : Option Fixer} {strict : Bool} {t : FileSyntax} {st1 : AddState}
    {ss1 : List Expr} (hp : parse name y = .ok t)
    (ha : addStmts fix strict { file := { syn := t } } t.stmts = (st1, ss1)) (he : st1.errsRev = [])
    (hret : fix ≠ none → st1.file.retract = []) :
    parseToFile name y fix strict = .ok { st1.file with syn := { t with stmts := ss1 } } := by
  have h0 : fixRetract { st1 with file := { st1.file with syn := { t with stmts := ss1 } } } fix =
      { st1 with file := { st1.file with syn := { t with stmts := ss1 } } } := by
    cases fix with
    | none => rfl
    | some fx => unfold fixRetract; simp only [hret (by simp)]
  exact ModfileParseTo.parseToFile_ok_iff.2 ⟨t, st1, ss1, hp, ha, by rw [h0]; exact he, by rw [h0]⟩

def pathOKB (p : Bytes) : Bool := !p.isEmpty && punctBytes.all fun c => p != [c]

def wellFormedB (f : Modfile.File) : Bool :=
  (match f.module with | some m => pathOKB m.mod.path | none => true) &&
  f.require.all (fun r => pathOKB r.mod.path && Semver.isValid r.mod.version) &&
  f.exclude.all (fun r => pathOKB r.mod.path && Semver.isValid r.mod.version) &&
  f.replace.all (fun r => pathOKB r.old.path && (r.old.version.isEmpty || Semver.isValid r.old.version) &&
    pathOKB r.new.path && (r.new.version.isEmpty || Semver.isValid r.new.version)) &&
  f.retract.all (fun r => Semver.isValid r.interval.low && Semver.isValid r.interval.high) &&
  f.tool.all (fun t => pathOKB t.path)

theorem pathOKB_sound {p : Bytes} (h : pathOKB p = true) : PathOK p := by
  simp only [pathOKB, Bool.and_eq_true, Bool.not_eq_true', List.all_eq_true, bne_iff_ne, ne_eq] at h
  exact ⟨by intro e; subst e; simp at h, h.2⟩

theorem wellFormedB_sound {f : Modfile.File} (h : wellFormedB f = true) : WellFormed f := by
  simp only [wellFormedB, Bool.and_eq_true, List.all_eq_true, Bool.or_eq_true] at h
  obtain ⟨⟨⟨⟨⟨h1, h2⟩, h3⟩, h4⟩, h5⟩, h6⟩ := h
  refine ⟨?_, ?_, ?_, ?_, ?_, ?_⟩
  · intro m hm; rw [hm] at h1; exact pathOKB_sound h1
  · intro r hr; exact ⟨pathOKB_sound (h2 r hr).1, (h2 r hr).2⟩
  · intro r hr; exact ⟨pathOKB_sound (h3 r hr).1, (h3 r hr).2⟩
  · intro r hr
    obtain ⟨⟨⟨a, b⟩, c⟩, d⟩ := h4 r hr
    refine ⟨pathOKB_sound a, ?_, pathOKB_sound c, ?_⟩
    · intro hne; rcases b with b | b
      · exact absurd (by simpa using b) hne
      · exact b
    · intro hne; rcases d with d | d
      · exact absurd (by simpa using d) hne
      · exact d
  · intro r hr; exact ⟨(h5 r hr).1, (h5 r hr).2⟩
  · intro t ht; exact pathOKB_sound (h6 t ht)

end ModVerif.Proofs.ModfileFmtDir
