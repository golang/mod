/-
  loop 2 of `File.SetRequire` (the loop over the existing `f.Require`: setVersion +
  setIndirect of the entries still needed, markRemoved of the others, `delete(need, r.Mod.Path)`) = the model's
  `setRequireLoop`, as a simulation on a represented file (`RepFAt`).
-/
import ModVerif.Proofs.TieFnEditSetA
namespace ModVerif.Tie.FnEditSetB
open ModVerif ModVerif.GoRt ModVerif.Generated.Edit ModVerif.Tie.FnEditRep ModVerif.Tie.FnEditTreeA ModVerif.Tie.FnEditLoop
  ModVerif.Tie.FnEditSetA
open ModVerif.Modfile.Edit (Want needMap setRequireLoop EFile setVersionLine setIndirectLine clearedRequire)

/-- Go's `com.Token[strings.Index(com.Token, "indirect;")+len("indirect;"):]` in `setIndirect(false)`: when the line is
    marked indirect and its comment is not just "indirect", the comment contains "indirect;" (the first field is
    "indirect;").  A closed statement about `strings.Fields` / `strings.TrimSpace` / `strings.Index` (the hypothesis `hidx`
    of `FnEditTreeA.Require_setIndirect_eq`, for all lines); proved in Proofs/TieFnEditTreeC.lean (`indirectIdx_all`). -/
def IndirectIdxOK : Prop :=
  ∀ l : Modfile.Line, Modfile.isIndirect l = true → ∀ com rest, l.comments.suffix = com :: rest →
    GoStrings.trimSpace (GoStrings.trimPrefix com.token [47, 47]) ≠ B "indirect" →
    (GoStrings.index com.token (B "indirect;")).isSome

def withRS (e : EFile) (rq : List Modfile.Require) (syn : Modfile.FileSyntax) : EFile :=
  { e with f := { e.f with require := rq, syn := syn } }

@[simp] theorem withRS_withRS (e : EFile) (a b : List Modfile.Require) (s t : Modfile.FileSyntax) :
    withRS (withRS e a s) b t = withRS e b t := rfl
@[simp] theorem withRS_require (e : EFile) (a : List Modfile.Require) (s : Modfile.FileSyntax) : (withRS e a s).f.require = a := rfl
@[simp] theorem withRS_syn (e : EFile) (a : List Modfile.Require) (s : Modfile.FileSyntax) : (withRS e a s).f.syn = s := rfl
@[simp] theorem withRS_next (e : EFile) (a : List Modfile.Require) (s : Modfile.FileSyntax) : (withRS e a s).next = e.next := rfl
theorem withRS_self (e : EFile) : withRS e e.f.require e.f.syn = e := rfl

def keepLine (w : Want) (l : Modfile.Line) : Modfile.Line := setIndirectLine w.indirect (setVersionLine w.vers l)

theorem IdEquiv_keepLine (w : Want) : IdEquiv (keepLine w) :=
  show IdEquiv (fun l => setIndirectLine w.indirect (setVersionLine w.vers l)) from
    IdEquiv.comp (IdEquiv_setIndirectLine w.indirect) (IdEquiv_setVersionLine w.vers)

/-! ### the two branches of the loop body on the heap -/

/-- `r.setVersion(v); r.setIndirect(b)` -/
theorem setBoth_eq (hIdx : IndirectIdxOK) {h : Heap} {r : Int} {rq : Modfile.Require} {l : Modfile.Line} (v : Bytes) (b : Bool)
    (hr : heapGet h.requires r = .ok (requireG rq)) (hg : heapGet h.lines (rq.lineId : Int) = .ok (lineG l)) :
    (Require_setVersion r v h >>= fun t => Require_setIndirect r b t.2) =
      .ok ((), { setLineH h (rq.lineId : Int) (setIndirectLine b (setVersionLine v l)) with
                   requires := h.requires.set (r.toNat - 1)
                     (requireG { rq with mod := { rq.mod with version := v }, indirect := b }) }) := by
  rw [Require_setVersion_eq v hr hg]
  simp only [bind, Except.bind]
  have hr1 : heapGet ({ setLineH h (rq.lineId : Int) (setVersionLine v l) with
      requires := h.requires.set (r.toNat - 1) (requireG { rq with mod := { rq.mod with version := v } }) } : Heap).requires r =
      .ok (requireG { rq with mod := { rq.mod with version := v } }) := heapGet_listSet_same _ hr
  have hg1 : heapGet ({ setLineH h (rq.lineId : Int) (setVersionLine v l) with
      requires := h.requires.set (r.toNat - 1) (requireG { rq with mod := { rq.mod with version := v } }) } : Heap).lines
      (({ rq with mod := { rq.mod with version := v } } : Modfile.Require).lineId : Int) = .ok (lineG (setVersionLine v l)) :=
    heapGet_setLineH_same hg _
  rw [Require_setIndirect_eq b hr1 hg1 (fun hb hi com rest hs hne => hIdx _ hi com rest hs hne)]
  simp only [setLineH, List.set_set]

theorem _root_.ModVerif.Tie.FnEditRep.RepFAt.setReqLine {h : Heap} {o : File} {e : EFile} {done todo : List Modfile.Require} {rq : Modfile.Require}
    {syn : Modfile.FileSyntax} {n : Nat} (R : RepFAt h o { f := { e.f with require := done ++ rq :: todo, syn := syn }, next := n })
    {p : Int} (hp : o.Require[done.length]? = some p) {g : Modfile.Line → Modfile.Line} (hg : IdEquiv g) {l : Modfile.Line}
    (hl : heapGet h.lines (rq.lineId : Int) = .ok (lineG l)) (y : Modfile.Require) (hy : y.lineId ≤ h.lines.length) :
    RepFAt { setLineH h (rq.lineId : Int) (g l) with requires := h.requires.set (p.toNat - 1) (requireG y) } o
      { f := { e.f with require := done ++ [y] ++ todo, syn := syn.updateLine rq.lineId g }, next := n } := by
  have R2 := (R.setLine hg hl).setRequire hp y (by simpa using hy)
  simp only [Int.toNat_natCast] at R2
  have hset : (done ++ rq :: todo).set done.length y = done ++ [y] ++ todo := by rw [set_cursor]; simp
  rw [← hset]
  exact R2

theorem filter_path_ne_nil (need : List Want) : need.filter (·.path != []) = need.filter (!·.path.isEmpty) := by
  apply List.filter_congr
  intro a _
  cases a.path <;> rfl

def keptReq (rq : Modfile.Require) (w : Want) : Modfile.Require :=
  { rq with mod := { rq.mod with version := w.vers }, indirect := w.indirect }

/-- one iteration of `setRequireLoop` -/
def reqStep (r : Modfile.Require) (t : List Want × Modfile.FileSyntax) :
    Except Modfile.Edit.EditErr (Modfile.Require × List Want × Modfile.FileSyntax) :=
  match t.1.find? (·.path == r.mod.path) with
  | some w => (Modfile.Edit.deref r.lineId).map fun i =>
      (keptReq r w, t.1.filter (·.path != r.mod.path), t.2.updateLine i (keepLine w))
  | none => (Modfile.Edit.deref r.lineId).map fun i =>
      (clearedRequire, t.1.filter (!·.path.isEmpty), Modfile.Edit.markRemoved t.2 i)

theorem setRequireLoop_stepLoop : ∀ (rs : List Modfile.Require) (need : List Want) (syn : Modfile.FileSyntax),
    setRequireLoop rs need syn = stepLoop reqStep rs (need, syn)
  | [], need, syn => rfl
  | r :: rs, need, syn => by
    rw [stepLoop, setRequireLoop, reqStep]
    cases need.find? (·.path == r.mod.path) <;> simp only [bind, Except.bind] <;> cases Modfile.Edit.deref r.lineId <;>
      simp only [Except.map, setRequireLoop_stepLoop rs, keptReq]
    rfl

/-- **loop 2 of `File.SetRequire` is `setRequireLoop`** -/
theorem loop2_sim (hIdx : IndirectIdxOK) (isPrint : Int → Bool) (quote : Bytes → Bytes) (f : Int) {h : Heap} {o : File} {e : EFile}
    (R : RepFAt h o e) (need : List Want) {fuel : Nat} (hf : e.f.require.length < fuel) :
    Sim (fun r b => b.1 = len o.Require ∧ b.2.2 = needG r.2.1 ∧ RepFAt b.2.1 o (withRS e r.1 r.2.2) ∧ b.2.1.mods = h.mods)
      (setRequireLoop e.f.require need e.f.syn) (File_SetRequire_loop2 isPrint quote o.Require f fuel 0 h (needG need)) := by
  rw [setRequireLoop_stepLoop]
  refine (range_sim (fun fuel i (s : Heap × List (Bytes × ReqElem)) => File_SetRequire_loop2 isPrint quote o.Require f fuel i s.1 s.2)
    o.Require reqStep
    (fun done todo s t => s.2 = needG t.1 ∧ RepFAt s.1 o (withRS e (done ++ todo) t.2) ∧ s.1.mods = h.mods) 0
    (fun fuel s => by unfold File_SetRequire_loop2; simp [len_eq]) ?_
    (xs := e.f.require) (s := (h, needG need)) (t := (need, e.f.syn)) (fuel := fuel) ⟨rfl, R, rfl⟩
    (REntsL.length R.require.rel) (by omega)).imp (fun r b _ q => ⟨q.1, q.2.1, by simpa using q.2.2.1, q.2.2.2⟩)
  intro fuel done rq todo ⟨h', ng⟩ ⟨nd, syn⟩ p ⟨hn, R', hm'⟩ hp _
  dsimp only at hn R' hm'
  subst hn
  obtain ⟨hobj, hle⟩ := R'.require.get hp (getElem?_cursor _ _ _)
  have hlt := lt_len_of_get hp
  have hcur := idxL_of_get hp
  unfold reqStep
  by_cases h0 : rq.lineId = 0
  · -- nil Syntax: both sides panic
    have hd : Modfile.Edit.deref rq.lineId = .error .nilDeref := by simp [Modfile.Edit.deref, h0, Modfile.Edit.nilId]
    unfold File_SetRequire_loop2
    simp only [hlt, decide_true, if_true, hcur, bind, Except.bind, hobj, requireG_Mod, mvG_Path, mapGet_needG]
    cases hfind : nd.find? (·.path == rq.mod.path) with
    | some w =>
      simp only [hd, Except.map, if_true]
      rw [Require_setVersion_nil w.vers hobj h0]
    | none =>
      simp only [hd, Except.map, Bool.false_eq_true, if_false]
      rw [Require_markRemoved_nil hobj h0]
  · have hd : Modfile.Edit.deref rq.lineId = .ok rq.lineId := by simp [Modfile.Edit.deref, h0, Modfile.Edit.nilId]
    obtain ⟨l, hl, hlid⟩ := R'.linesG.ofId h0 hle
    cases hfind : nd.find? (·.path == rq.mod.path) with
    | some w =>
      simp only [hd, Except.map]
      have hb := setBoth_eq hIdx w.vers w.indirect hobj hl
      refine ⟨({ setLineH h' (rq.lineId : Int) (keepLine w l) with
          requires := h'.requires.set (p.toNat - 1) (requireG (keptReq rq w)) }, _), ?_, rfl,
        R'.setReqLine hp (IdEquiv_keepLine w) hl _ hle, hm'⟩
      conv => lhs; unfold File_SetRequire_loop2
      simp only [bind, Except.bind] at hb
      simp only [hlt, decide_true, if_true, hcur, bind, Except.bind, hobj, requireG_Mod, mvG_Path, mapGet_needG, hfind]
      cases hv : Require_setVersion p w.vers h' with
      | error err => rw [hv] at hb; cases hb
      | ok t =>
        rw [hv] at hb
        simp only [hb, heapGet_listSet_same _ hobj, requireG_Mod, mvG_Path, mapDelete_needG]
        rfl
    | none =>
      simp only [hd, Except.map]
      refine ⟨({ setLineH h' (rq.lineId : Int) (markRemovedLine l) with
          requires := h'.requires.set (p.toNat - 1) (requireG clearedRequire) }, _), ?_, rfl,
        R'.setReqLine hp IdEquiv_markRemoved hl _ (Nat.zero_le _), hm'⟩
      conv => lhs; unfold File_SetRequire_loop2
      simp only [hlt, decide_true, if_true, hcur, bind, Except.bind, hobj, requireG_Mod, mvG_Path, mapGet_needG, hfind,
        Bool.false_eq_true, if_false, Require_markRemoved_eq hobj hl, heapGet_listSet_same _ hobj]
      rw [mapDelete_needG, show clearedRequire.mod.path = ([] : Bytes) from rfl, filter_path_ne_nil]
      rfl

protected theorem set_append_mid {α : Type} (a : List α) (x y : α) (b : List α) : (a ++ x :: b).set a.length y = a ++ y :: b :=
  set_cursor a x y b

protected theorem getElem?_append_mid {α : Type} (a : List α) (x : α) (b : List α) : (a ++ x :: b)[a.length]? = some x :=
  getElem?_cursor a x b

end ModVerif.Tie.FnEditSetB
