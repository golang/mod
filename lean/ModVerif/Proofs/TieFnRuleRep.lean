/-
  Shared vocabulary of the tie proofs of the regenerated DIRECTIVE LAYER of go.mod / go.work parsing
  (Generated/FnRule.lean, namespace ModVerif.Generated.Rule), whose pointer graph is a HEAP (`Rule.Heap`), against the
  hand model Model/Modfile/Rule.lean / Work.lean (a VALUE tree whose lines carry an `id`; typed entries carry the
  `lineId` of their syntax line).

  Pointer ↔ id.  Everything is relative to a map `ι : Int → Nat` from line POINTERS to model line ids (the driver's
  `idOf (idsOf name data)`): `RLine ι h p l` says the line object at `p` is `lineG l` and `ι p = l.id`.  `LineInj ι h`: `ι`
  is injective on the allocated line pointers.

  Names: `RepRS` / `RepWS` relate a go.mod / go.work state to the heap with the represented tree given separately (`S`),
  `RepR` / `RepW` take the tree of the state itself.  Lemmas about `RepTyped`, `RepRS`, `TokView` … that need the closures
  of `File.add` are declared into this namespace from Proofs/TieFnRuleAddA.lean, AddE (go.work), AddF and AddH.
-/
import ModVerif.Generated.FnRule
import ModVerif.Drv.GenRule
import ModVerif.Model.Modfile.Rule
import ModVerif.Model.Modfile.Work
import ModVerif.Proofs.EditRefineTree
import ModVerif.Proofs.GoRtLemmasHeap
namespace ModVerif.Tie.FnRuleRep
open ModVerif ModVerif.GoRt ModVerif.Generated
open ModVerif.Modfile.Edit (treeIds mapLinesStmt)

export ModVerif.Drv.GenRule (posG comG comsG posM comM comsM)
export ModVerif.Tie.FnParseHeap (heapGet_ok_iff heapGet_pos heapGet_le_length heapGet_error heapGet_natCast heapAlloc_fst
  heapAlloc_snd heapGet_alloc_new heapGet_alloc_old heapGet_append_old heapGet_alloc_of_le heapSet_of_get heapSet_ok_iff
  heapSet_length heapGet_set_same heapGet_set_other heapGet_set_ok heapGet_listSet_same heapGet_listSet_other set_alloc_last)

@[simp] theorem posM_posG (p : Modfile.Position) : posM (posG p) = p := by
  cases p; simp [Drv.GenRule.posM, Drv.GenRule.posG]

@[simp] theorem posG_zero : posG {} = (default : Rule.Position) := rfl
@[simp] theorem posG_Line (p : Modfile.Position) : (posG p).Line = (p.line : Int) := rfl
@[simp] theorem posG_LineRune (p : Modfile.Position) : (posG p).LineRune = (p.lineRune : Int) := rfl
@[simp] theorem posG_Byte (p : Modfile.Position) : (posG p).Byte = (p.byte : Int) := rfl

theorem posG_inj {p q : Modfile.Position} (h : posG p = posG q) : p = q := by
  have := congrArg posM h
  simpa using this

@[simp] theorem comM_comG (c : Modfile.Comment) : comM (comG c) = c := by
  cases c; simp [Drv.GenRule.comM, Drv.GenRule.comG]

@[simp] theorem comG_zero : comG {} = (default : Rule.Comment) := rfl
@[simp] theorem comG_Start (c : Modfile.Comment) : (comG c).Start = posG c.start := rfl
@[simp] theorem comG_Token (c : Modfile.Comment) : (comG c).Token = c.token := rfl
@[simp] theorem comG_Suffix (c : Modfile.Comment) : (comG c).Suffix = c.suffix := rfl

theorem comG_inj {c d : Modfile.Comment} (h : comG c = comG d) : c = d := by
  have := congrArg comM h
  simpa using this

@[simp] theorem map_comM_comG (l : List Modfile.Comment) : (l.map comG).map comM = l := by
  induction l with
  | nil => rfl
  | cons a t ih => simp [ih]

@[simp] theorem comsM_comsG (c : Modfile.Comments) : comsM (comsG c) = c := by
  cases c; simp only [Drv.GenRule.comsM, Drv.GenRule.comsG, map_comM_comG]

@[simp] theorem comsG_zero : comsG {} = (default : Rule.Comments) := rfl
@[simp] theorem comsG_Before (c : Modfile.Comments) : (comsG c).Before = c.before.map comG := rfl
@[simp] theorem comsG_Suffix (c : Modfile.Comments) : (comsG c).Suffix = c.suffix.map comG := rfl
@[simp] theorem comsG_After (c : Modfile.Comments) : (comsG c).After = c.after.map comG := rfl

theorem comsG_inj {c d : Modfile.Comments} (h : comsG c = comsG d) : c = d := by
  have := congrArg comsM h
  simpa using this

/-- module.Version -/
def mvG (m : Modfile.ModVersion) : ModVersion := { Path := m.path, Version := m.version }
@[simp] theorem mvG_Path (m : Modfile.ModVersion) : (mvG m).Path = m.path := rfl
@[simp] theorem mvG_Version (m : Modfile.ModVersion) : (mvG m).Version = m.version := rfl
theorem mvG_mk (p v : Bytes) : ({ (default : ModVersion) with Path := p, Version := v } : ModVersion) = mvG { path := p, version := v } := rfl
theorem mvG_mk_path (p : Bytes) : ({ (default : ModVersion) with Path := p } : ModVersion) = mvG { path := p } := rfl

def cbG (c : Modfile.CommentBlock) : Rule.CommentBlock := { Comments := comsG c.comments, Start := posG c.start }

/-- the line object (the `id` is not stored: it is `ι` of the pointer) -/
def lineG (l : Modfile.Line) : Rule.Line :=
  { Comments := comsG l.comments, Start := posG l.start, Token := l.token, InBlock := l.inBlock, End := posG l.«end» }

def lparenG (x : Modfile.LParen) : Rule.LParen := { Comments := comsG x.comments, Pos := posG x.pos }
def rparenG (x : Modfile.RParen) : Rule.RParen := { Comments := comsG x.comments, Pos := posG x.pos }

def blockG (b : Modfile.LineBlock) (ps : List Int) : Rule.LineBlock :=
  { Comments := comsG b.comments, Start := posG b.start, LParen := lparenG b.lparen, Token := b.token, Line := ps,
    RParen := rparenG b.rparen }

def fileG (f : Modfile.FileSyntax) (es : List Rule.Expr) : Rule.FileSyntax :=
  { Name := f.name, Comments := comsG f.comments, Stmt := es }

@[simp] theorem lineG_Comments (l : Modfile.Line) : (lineG l).Comments = comsG l.comments := rfl
@[simp] theorem lineG_Start (l : Modfile.Line) : (lineG l).Start = posG l.start := rfl
@[simp] theorem lineG_Token (l : Modfile.Line) : (lineG l).Token = l.token := rfl
@[simp] theorem lineG_InBlock (l : Modfile.Line) : (lineG l).InBlock = l.inBlock := rfl
@[simp] theorem lineG_End (l : Modfile.Line) : (lineG l).End = posG l.«end» := rfl
@[simp] theorem blockG_Comments (b : Modfile.LineBlock) (ps : List Int) : (blockG b ps).Comments = comsG b.comments := rfl
@[simp] theorem blockG_Start (b : Modfile.LineBlock) (ps : List Int) : (blockG b ps).Start = posG b.start := rfl
@[simp] theorem blockG_Token (b : Modfile.LineBlock) (ps : List Int) : (blockG b ps).Token = b.token := rfl
@[simp] theorem blockG_Line (b : Modfile.LineBlock) (ps : List Int) : (blockG b ps).Line = ps := rfl
@[simp] theorem fileG_Name (f : Modfile.FileSyntax) (es : List Rule.Expr) : (fileG f es).Name = f.name := rfl
@[simp] theorem fileG_Comments (f : Modfile.FileSyntax) (es : List Rule.Expr) : (fileG f es).Comments = comsG f.comments := rfl
@[simp] theorem fileG_Stmt (f : Modfile.FileSyntax) (es : List Rule.Expr) : (fileG f es).Stmt = es := rfl

theorem lineG_setToken (l : Modfile.Line) (ts : List Bytes) :
    ({ lineG l with Token := ts } : Rule.Line) = lineG { l with token := ts } := rfl

theorem lineG_eq_iff {a b : Modfile.Line} : lineG a = lineG b ↔ a = { b with id := a.id } := by
  constructor
  · intro h
    obtain ⟨i, c, s, t, ib, e⟩ := a
    obtain ⟨j, c', s', t', ib', e'⟩ := b
    simp only [lineG, Rule.Line.mk.injEq] at h
    obtain ⟨h1, h2, h3, h4, h5⟩ := h
    have := comsG_inj h1; have := posG_inj h2; have := posG_inj h5
    subst_vars; rfl
  · intro h; rw [h]; rfl

def IdEquiv (g : Modfile.Line → Modfile.Line) : Prop := ∀ (l : Modfile.Line) (i : Nat), g { l with id := i } = { g l with id := i }

theorem IdEquiv.id_eq {g : Modfile.Line → Modfile.Line} (hg : IdEquiv g) (l : Modfile.Line) : (g l).id = l.id := by
  have := hg l l.id
  have e : ({ l with id := l.id } : Modfile.Line) = l := rfl
  rw [e] at this
  rw [this]

theorem IdEquiv.lineG {g : Modfile.Line → Modfile.Line} (hg : IdEquiv g) {a b : Modfile.Line} (h : lineG a = lineG b) :
    lineG (g a) = lineG (g b) := by
  rw [lineG_eq_iff.1 h, hg b a.id]; rfl

theorem IdEquiv_setToken (ts : List Bytes) : IdEquiv (fun l => { l with token := ts }) := fun _ _ => rfl

def LineInj (ι : Int → Nat) (h : Rule.Heap) : Prop :=
  ∀ p q : Int, 0 < p → p.toNat ≤ h.lines.length → 0 < q → q.toNat ≤ h.lines.length → ι p = ι q → p = q

def RLine (ι : Int → Nat) (h : Rule.Heap) (p : Int) (l : Modfile.Line) : Prop :=
  heapGet h.lines p = .ok (lineG l) ∧ ι p = l.id

def RLines (ι : Int → Nat) (h : Rule.Heap) : List Int → List Modfile.Line → Prop
  | [], [] => True
  | p :: ps, l :: ls => RLine ι h p l ∧ RLines ι h ps ls
  | _, _ => False

def RExpr (ι : Int → Nat) (h : Rule.Heap) : Rule.Expr → Modfile.Expr → Prop
  | .CommentBlock p, .commentBlock c => heapGet h.cbs p = .ok (cbG c)
  | .Line p, .line l => RLine ι h p l
  | .LineBlock p, .lineBlock b => ∃ ps, heapGet h.blocks p = .ok (blockG b ps) ∧ RLines ι h ps b.lines
  | _, _ => False

def RStmts (ι : Int → Nat) (h : Rule.Heap) : List Rule.Expr → List Modfile.Expr → Prop
  | [], [] => True
  | e :: es, s :: ss => RExpr ι h e s ∧ RStmts ι h es ss
  | _, _ => False

def blockPtrs : List Rule.Expr → List Int
  | [] => []
  | .LineBlock p :: es => p :: blockPtrs es
  | _ :: es => blockPtrs es

/-- line ids are pairwise different, hence (`ι` being a function) so are the line pointers -/
structure RepSynAt (ι : Int → Nat) (h : Rule.Heap) (p : Int) (fs : Modfile.FileSyntax) (es : List Rule.Expr) : Prop where
  file : heapGet h.files p = .ok (fileG fs es)
  stmts : RStmts ι h es fs.stmts
  nodupB : (blockPtrs es).Nodup
  nodupL : (treeIds fs.stmts).Nodup

def RepSyn (ι : Int → Nat) (h : Rule.Heap) (p : Int) (fs : Modfile.FileSyntax) : Prop := ∃ es, RepSynAt ι h p fs es

theorem RLine.pos {ι : Int → Nat} {h : Rule.Heap} {p : Int} {l : Modfile.Line} (r : RLine ι h p l) : 0 < p := heapGet_pos r.1
theorem RLine.le {ι : Int → Nat} {h : Rule.Heap} {p : Int} {l : Modfile.Line} (r : RLine ι h p l) : p.toNat ≤ h.lines.length :=
  heapGet_le_length r.1

theorem RLines.length {ι : Int → Nat} {h : Rule.Heap} : ∀ {ps : List Int} {ls : List Modfile.Line}, RLines ι h ps ls → ps.length = ls.length
  | [], [], _ => rfl
  | _ :: _, _ :: _, r => by simp [RLines.length r.2]
  | [], _ :: _, r => r.elim
  | _ :: _, [], r => r.elim

theorem RStmts.length {ι : Int → Nat} {h : Rule.Heap} : ∀ {es : List Rule.Expr} {ss : List Modfile.Expr}, RStmts ι h es ss → es.length = ss.length
  | [], [], _ => rfl
  | _ :: _, _ :: _, r => by simp [RStmts.length r.2]
  | [], _ :: _, r => r.elim
  | _ :: _, [], r => r.elim

theorem RLines.get {ι : Int → Nat} {h : Rule.Heap} : ∀ {ps : List Int} {ls : List Modfile.Line}, RLines ι h ps ls →
    ∀ (i : Nat) (p : Int) (l : Modfile.Line), ps[i]? = some p → ls[i]? = some l → RLine ι h p l
  | _ :: _, _ :: _, r, 0, p, l, hp, hl => by
    simp only [List.getElem?_cons_zero, Option.some.injEq] at hp hl; subst hp hl; exact r.1
  | _ :: _, _ :: _, r, i + 1, p, l, hp, hl => by
    simp only [List.getElem?_cons_succ] at hp hl; exact RLines.get r.2 i p l hp hl
  | [], [], _, _, _, _, hp, _ => by simp at hp
  | [], _ :: _, r, _, _, _, _, _ => r.elim
  | _ :: _, [], r, _, _, _, _, _ => r.elim

theorem RStmts.get {ι : Int → Nat} {h : Rule.Heap} : ∀ {es : List Rule.Expr} {ss : List Modfile.Expr}, RStmts ι h es ss →
    ∀ (i : Nat) (e : Rule.Expr) (s : Modfile.Expr), es[i]? = some e → ss[i]? = some s → RExpr ι h e s
  | _ :: _, _ :: _, r, 0, e, s, he, hs => by
    simp only [List.getElem?_cons_zero, Option.some.injEq] at he hs; subst he hs; exact r.1
  | _ :: _, _ :: _, r, i + 1, e, s, he, hs => by
    simp only [List.getElem?_cons_succ] at he hs; exact RStmts.get r.2 i e s he hs
  | [], [], _, _, _, _, he, _ => by simp at he
  | [], _ :: _, r, _, _, _, _, _ => r.elim
  | _ :: _, [], r, _, _, _, _, _ => r.elim

theorem RLines.append {ι : Int → Nat} {h : Rule.Heap} : ∀ {ps qs : List Int} {ls ms : List Modfile.Line}, RLines ι h ps ls → RLines ι h qs ms →
    RLines ι h (ps ++ qs) (ls ++ ms)
  | [], _, [], _, _, r2 => r2
  | _ :: _, _, _ :: _, _, r1, r2 => ⟨r1.1, RLines.append r1.2 r2⟩
  | [], _, _ :: _, _, r1, _ => r1.elim
  | _ :: _, _, [], _, r1, _ => r1.elim

theorem RStmts.append {ι : Int → Nat} {h : Rule.Heap} : ∀ {es fs : List Rule.Expr} {ss ts : List Modfile.Expr}, RStmts ι h es ss → RStmts ι h fs ts →
    RStmts ι h (es ++ fs) (ss ++ ts)
  | [], _, [], _, _, r2 => r2
  | _ :: _, _, _ :: _, _, r1, r2 => ⟨r1.1, RStmts.append r1.2 r2⟩
  | [], _, _ :: _, _, r1, _ => r1.elim
  | _ :: _, _, [], _, r1, _ => r1.elim

theorem RLine.mono {ι : Int → Nat} {h h' : Rule.Heap} (hl : ∀ p v, heapGet h.lines p = .ok v → heapGet h'.lines p = .ok v)
    {p : Int} {l : Modfile.Line} (r : RLine ι h p l) : RLine ι h' p l := ⟨hl _ _ r.1, r.2⟩

theorem RLines.mono {ι : Int → Nat} {h h' : Rule.Heap} (hl : ∀ p v, heapGet h.lines p = .ok v → heapGet h'.lines p = .ok v) :
    ∀ {ps : List Int} {ls : List Modfile.Line}, RLines ι h ps ls → RLines ι h' ps ls
  | [], [], _ => trivial
  | _ :: _, _ :: _, r => ⟨r.1.mono hl, RLines.mono hl r.2⟩
  | [], _ :: _, r => r.elim
  | _ :: _, [], r => r.elim

theorem RExpr.mono {ι : Int → Nat} {h h' : Rule.Heap} (hl : ∀ p v, heapGet h.lines p = .ok v → heapGet h'.lines p = .ok v)
    (hb : ∀ p v, heapGet h.blocks p = .ok v → heapGet h'.blocks p = .ok v)
    (hc : ∀ p v, heapGet h.cbs p = .ok v → heapGet h'.cbs p = .ok v) :
    ∀ {e : Rule.Expr} {s : Modfile.Expr}, RExpr ι h e s → RExpr ι h' e s := by
  intro e s r
  cases e <;> cases s <;> simp only [RExpr] at r ⊢ <;> try exact r.elim
  · exact hc _ _ r
  · exact r.mono hl
  · obtain ⟨ps, r1, r2⟩ := r
    exact ⟨ps, hb _ _ r1, r2.mono hl⟩

theorem RStmts.mono {ι : Int → Nat} {h h' : Rule.Heap} (hl : ∀ p v, heapGet h.lines p = .ok v → heapGet h'.lines p = .ok v)
    (hb : ∀ p v, heapGet h.blocks p = .ok v → heapGet h'.blocks p = .ok v)
    (hc : ∀ p v, heapGet h.cbs p = .ok v → heapGet h'.cbs p = .ok v) :
    ∀ {es : List Rule.Expr} {ss : List Modfile.Expr}, RStmts ι h es ss → RStmts ι h' es ss
  | [], [], _ => trivial
  | _ :: _, _ :: _, r => ⟨r.1.mono hl hb hc, RStmts.mono hl hb hc r.2⟩
  | [], _ :: _, r => r.elim
  | _ :: _, [], r => r.elim

theorem RStmts.congr {ι : Int → Nat} {h h' : Rule.Heap} (hl : h'.lines = h.lines) (hb : h'.blocks = h.blocks) (hc : h'.cbs = h.cbs)
    {es : List Rule.Expr} {ss : List Modfile.Expr} (r : RStmts ι h es ss) : RStmts ι h' es ss :=
  r.mono (by rw [hl]; exact fun _ _ x => x) (by rw [hb]; exact fun _ _ x => x) (by rw [hc]; exact fun _ _ x => x)

theorem RepSyn.congr {ι : Int → Nat} {h h' : Rule.Heap} (hf : h'.files = h.files) (hl : h'.lines = h.lines) (hb : h'.blocks = h.blocks)
    (hc : h'.cbs = h.cbs) {p : Int} {fs : Modfile.FileSyntax} (r : RepSyn ι h p fs) : RepSyn ι h' p fs := by
  obtain ⟨es, r⟩ := r
  exact ⟨es, by rw [hf]; exact r.file, r.stmts.congr hl hb hc, r.nodupB, r.nodupL⟩

theorem RepSyn.mono {ι : Int → Nat} {h h' : Rule.Heap} (hf : ∀ p v, heapGet h.files p = .ok v → heapGet h'.files p = .ok v)
    (hl : ∀ p v, heapGet h.lines p = .ok v → heapGet h'.lines p = .ok v)
    (hb : ∀ p v, heapGet h.blocks p = .ok v → heapGet h'.blocks p = .ok v)
    (hc : ∀ p v, heapGet h.cbs p = .ok v → heapGet h'.cbs p = .ok v)
    {p : Int} {fs : Modfile.FileSyntax} (r : RepSyn ι h p fs) : RepSyn ι h' p fs := by
  obtain ⟨es, r⟩ := r
  exact ⟨es, hf _ _ r.file, r.stmts.mono hl hb hc, r.nodupB, r.nodupL⟩

theorem LineInj.congr {ι : Int → Nat} {h h' : Rule.Heap} (hi : LineInj ι h) (hl : h'.lines.length = h.lines.length) : LineInj ι h' := by
  intro p q a b c d e; rw [hl] at b d; exact hi p q a b c d e

theorem RLines.mem {ι : Int → Nat} {h : Rule.Heap} : ∀ {ps : List Int} {ls : List Modfile.Line}, RLines ι h ps ls →
    ∀ l ∈ ls, ∃ p, p ∈ ps ∧ RLine ι h p l
  | [], [], _, l, hl => by cases hl
  | p :: _, _ :: _, r, l, hl => by
    rcases List.mem_cons.1 hl with rfl | hl'
    · exact ⟨p, List.mem_cons_self, r.1⟩
    · obtain ⟨q, hq, rq⟩ := RLines.mem r.2 l hl'
      exact ⟨q, List.mem_cons_of_mem _ hq, rq⟩
  | [], _ :: _, r, _, _ => r.elim
  | _ :: _, [], r, _, _ => r.elim

theorem RStmts.loc {ι : Int → Nat} {h : Rule.Heap} : ∀ {es : List Rule.Expr} {ss : List Modfile.Expr}, RStmts ι h es ss →
    ∀ q ∈ Modfile.Edit.loc ss, ∃ p, RLine ι h p q.2
  | [], [], _, q, hq => by simp [Modfile.Edit.loc] at hq
  | e :: es, s :: ss, r, q, hq => by
    rw [Modfile.Edit.loc_cons] at hq
    rcases List.mem_append.1 hq with hq1 | hq2
    · cases e <;> cases s <;> simp only [RStmts, RExpr] at r <;> try exact r.1.elim
      · simp [Modfile.Edit.locStmt] at hq1
      · simp only [Modfile.Edit.locStmt, List.mem_singleton] at hq1
        subst hq1
        exact ⟨_, r.1⟩
      · obtain ⟨⟨ps, _, rl⟩, _⟩ := r
        simp only [Modfile.Edit.locStmt, List.mem_map] at hq1
        obtain ⟨l, hl, rfl⟩ := hq1
        obtain ⟨p, _, rp⟩ := rl.mem l hl
        exact ⟨p, rp⟩
    · exact RStmts.loc r.2 q hq2
  | [], _ :: _, r, _, _ => r.elim
  | _ :: _, [], r, _, _ => r.elim

theorem RepSyn.findLine {ι : Int → Nat} {h : Rule.Heap} {x : Int} {fs : Modfile.FileSyntax} (r : RepSyn ι h x fs) {id : Nat} {l : Modfile.Line}
    (hf : fs.findLine id = some l) : l.id = id ∧ ∃ p, RLine ι h p l := by
  obtain ⟨es, r⟩ := r
  unfold Modfile.FileSyntax.findLine at hf
  have hm := List.mem_of_find?_eq_some hf
  have hid : l.id = id := by simpa using List.find?_some hf
  rw [Modfile.Edit.allLines_eq_loc] at hm
  obtain ⟨q, hq, rfl⟩ := List.mem_map.1 hm
  exact ⟨hid, r.stmts.loc q hq⟩

theorem RepSyn.findLine_at {ι : Int → Nat} {h : Rule.Heap} {x : Int} {fs : Modfile.FileSyntax} (r : RepSyn ι h x fs) (hi : LineInj ι h)
    {p : Int} {l : Modfile.Line} (hp : 0 < p) (hle : p.toNat ≤ h.lines.length) (hf : fs.findLine (ι p) = some l) : RLine ι h p l := by
  obtain ⟨hid, q, rq⟩ := r.findLine hf
  have : q = p := hi q p rq.pos rq.le hp hle (by rw [rq.2, hid])
  subst this; exact rq

/-! ### `heapSet` of a line: the model side is `updateLine` -/

theorem RLines.setLine {ι : Int → Nat} {h : Rule.Heap} {p : Int} {l0 : Modfile.Line} {g : Modfile.Line → Modfile.Line} (hg : IdEquiv g)
    (hi : LineInj ι h) (hget : heapGet h.lines p = .ok (lineG l0)) :
    ∀ {ps : List Int} {ls : List Modfile.Line}, RLines ι h ps ls →
      RLines ι { h with lines := h.lines.set (p.toNat - 1) (lineG (g l0)) } ps
        (ls.map fun l => if l.id == ι p then g l else l)
  | [], [], _ => trivial
  | q :: ps, l :: ls, r => by
    refine ⟨?_, RLines.setLine hg hi hget r.2⟩
    have hp := heapGet_pos hget
    by_cases e : q = p
    · subst e
      have hid : (l.id == ι q) = true := by simp [r.1.2]
      simp only [hid, if_true]
      refine ⟨?_, by rw [hg.id_eq]; exact r.1.2⟩
      show heapGet (h.lines.set (q.toNat - 1) (lineG (g l0))) q = _
      rw [heapGet_listSet_same _ hget]
      have : lineG l = lineG l0 := by have := r.1.1; rw [hget] at this; exact (Except.ok.inj this).symm
      rw [hg.lineG this]
    · have hid : (l.id == ι p) = false := by
        simp only [beq_eq_false_iff_ne, ne_eq]
        intro hc
        exact e (hi q p r.1.pos r.1.le hp (heapGet_le_length hget) (by rw [r.1.2, hc]))
      simp only [hid, Bool.false_eq_true, if_false]
      refine ⟨?_, r.1.2⟩
      show heapGet (h.lines.set (p.toNat - 1) (lineG (g l0))) q = _
      rw [heapGet_listSet_other _ hget e]; exact r.1.1
  | [], _ :: _, r => r.elim
  | _ :: _, [], r => r.elim

theorem RStmts.setLine {ι : Int → Nat} {h : Rule.Heap} {p : Int} {l0 : Modfile.Line} {g : Modfile.Line → Modfile.Line} (hg : IdEquiv g)
    (hi : LineInj ι h) (hget : heapGet h.lines p = .ok (lineG l0)) :
    ∀ {es : List Rule.Expr} {ss : List Modfile.Expr}, RStmts ι h es ss →
      RStmts ι { h with lines := h.lines.set (p.toNat - 1) (lineG (g l0)) } es
        (ss.map (mapLinesStmt fun l => if l.id == ι p then g l else l))
  | [], [], _ => trivial
  | e :: es, s :: ss, r => by
    refine ⟨?_, RStmts.setLine hg hi hget r.2⟩
    have r1 := r.1
    cases e <;> cases s <;> simp only [RExpr, mapLinesStmt] at r1 ⊢ <;> try exact r1.elim
    · exact r1
    · have := RLines.setLine hg hi hget (ps := [_]) (ls := [_]) ⟨r1, trivial⟩
      exact this.1
    · obtain ⟨ps, r2, r3⟩ := r1
      exact ⟨ps, r2, RLines.setLine hg hi hget r3⟩
  | [], _ :: _, r => r.elim
  | _ :: _, [], r => r.elim

/-- also when the line at `p` is not in the graph: then `updateLine` changes nothing -/
theorem RepSyn.setLine {ι : Int → Nat} {h : Rule.Heap} {x : Int} {fs : Modfile.FileSyntax} (r : RepSyn ι h x fs) (hi : LineInj ι h) {p : Int}
    {l0 : Modfile.Line} {g : Modfile.Line → Modfile.Line} (hg : IdEquiv g) (hget : heapGet h.lines p = .ok (lineG l0)) :
    RepSyn ι { h with lines := h.lines.set (p.toNat - 1) (lineG (g l0)) } x (fs.updateLine (ι p) g) := by
  obtain ⟨es, r⟩ := r
  refine ⟨es, ?_, ?_, r.nodupB, ?_⟩
  · exact r.file
  · rw [Modfile.Edit.updateLine_stmts fs (ι p) g r.nodupL]
    exact r.stmts.setLine hg hi hget
  · rw [Modfile.Edit.treeIds_updateLine fs (ι p) g r.nodupL hg.id_eq]; exact r.nodupL

def setToksH (h : Rule.Heap) (p : Int) (ts : List Bytes) : Rule.Heap :=
  match heapGet h.lines p with
  | .ok L => { h with lines := h.lines.set (p.toNat - 1) { L with Token := ts } }
  | .error _ => h

theorem setToksH_eq {h : Rule.Heap} {p : Int} {L : Rule.Line} (hg : heapGet h.lines p = .ok L) (ts : List Bytes) :
    setToksH h p ts = { h with lines := h.lines.set (p.toNat - 1) { L with Token := ts } } := by
  simp [setToksH, hg]

theorem setToksH_frame (h : Rule.Heap) (p : Int) (ts : List Bytes) :
    (setToksH h p ts).cbs = h.cbs ∧ (setToksH h p ts).errors = h.errors ∧ (setToksH h p ts).excludes = h.excludes ∧
    (setToksH h p ts).mods = h.mods ∧ (setToksH h p ts).files = h.files ∧ (setToksH h p ts).gos = h.gos ∧
    (setToksH h p ts).godebugs = h.godebugs ∧ (setToksH h p ts).blocks = h.blocks ∧ (setToksH h p ts).modules = h.modules ∧
    (setToksH h p ts).replaces = h.replaces ∧ (setToksH h p ts).requires = h.requires ∧ (setToksH h p ts).retracts = h.retracts ∧
    (setToksH h p ts).tools = h.tools ∧ (setToksH h p ts).toolchains = h.toolchains ∧ (setToksH h p ts).uses = h.uses ∧
    (setToksH h p ts).works = h.works := by
  unfold setToksH; split <;> simp

@[simp] theorem setToksH_cbs (h : Rule.Heap) (p : Int) (ts : List Bytes) : (setToksH h p ts).cbs = h.cbs := (setToksH_frame h p ts).1
@[simp] theorem setToksH_errors (h : Rule.Heap) (p : Int) (ts : List Bytes) : (setToksH h p ts).errors = h.errors := (setToksH_frame h p ts).2.1
@[simp] theorem setToksH_excludes (h : Rule.Heap) (p : Int) (ts : List Bytes) : (setToksH h p ts).excludes = h.excludes := (setToksH_frame h p ts).2.2.1
@[simp] theorem setToksH_mods (h : Rule.Heap) (p : Int) (ts : List Bytes) : (setToksH h p ts).mods = h.mods := (setToksH_frame h p ts).2.2.2.1
@[simp] theorem setToksH_files (h : Rule.Heap) (p : Int) (ts : List Bytes) : (setToksH h p ts).files = h.files := (setToksH_frame h p ts).2.2.2.2.1
@[simp] theorem setToksH_gos (h : Rule.Heap) (p : Int) (ts : List Bytes) : (setToksH h p ts).gos = h.gos := (setToksH_frame h p ts).2.2.2.2.2.1
@[simp] theorem setToksH_godebugs (h : Rule.Heap) (p : Int) (ts : List Bytes) : (setToksH h p ts).godebugs = h.godebugs := (setToksH_frame h p ts).2.2.2.2.2.2.1
@[simp] theorem setToksH_blocks (h : Rule.Heap) (p : Int) (ts : List Bytes) : (setToksH h p ts).blocks = h.blocks := (setToksH_frame h p ts).2.2.2.2.2.2.2.1
@[simp] theorem setToksH_modules (h : Rule.Heap) (p : Int) (ts : List Bytes) : (setToksH h p ts).modules = h.modules := (setToksH_frame h p ts).2.2.2.2.2.2.2.2.1
@[simp] theorem setToksH_replaces (h : Rule.Heap) (p : Int) (ts : List Bytes) : (setToksH h p ts).replaces = h.replaces := (setToksH_frame h p ts).2.2.2.2.2.2.2.2.2.1
@[simp] theorem setToksH_requires (h : Rule.Heap) (p : Int) (ts : List Bytes) : (setToksH h p ts).requires = h.requires := (setToksH_frame h p ts).2.2.2.2.2.2.2.2.2.2.1
@[simp] theorem setToksH_retracts (h : Rule.Heap) (p : Int) (ts : List Bytes) : (setToksH h p ts).retracts = h.retracts := (setToksH_frame h p ts).2.2.2.2.2.2.2.2.2.2.2.1
@[simp] theorem setToksH_tools (h : Rule.Heap) (p : Int) (ts : List Bytes) : (setToksH h p ts).tools = h.tools := (setToksH_frame h p ts).2.2.2.2.2.2.2.2.2.2.2.2.1
@[simp] theorem setToksH_toolchains (h : Rule.Heap) (p : Int) (ts : List Bytes) : (setToksH h p ts).toolchains = h.toolchains := (setToksH_frame h p ts).2.2.2.2.2.2.2.2.2.2.2.2.2.1
@[simp] theorem setToksH_uses (h : Rule.Heap) (p : Int) (ts : List Bytes) : (setToksH h p ts).uses = h.uses := (setToksH_frame h p ts).2.2.2.2.2.2.2.2.2.2.2.2.2.2.1
@[simp] theorem setToksH_works (h : Rule.Heap) (p : Int) (ts : List Bytes) : (setToksH h p ts).works = h.works := (setToksH_frame h p ts).2.2.2.2.2.2.2.2.2.2.2.2.2.2.2

@[simp] theorem setToksH_lines_length (h : Rule.Heap) (p : Int) (ts : List Bytes) : (setToksH h p ts).lines.length = h.lines.length := by
  unfold setToksH; split <;> simp

theorem heapGet_setToksH_same {h : Rule.Heap} {p : Int} {L : Rule.Line} (hg : heapGet h.lines p = .ok L) (ts : List Bytes) :
    heapGet (setToksH h p ts).lines p = .ok { L with Token := ts } := by
  rw [setToksH_eq hg]; exact heapGet_listSet_same _ hg

theorem heapGet_setToksH_other (h : Rule.Heap) {p q : Int} (ts : List Bytes) (hq : q ≠ p) :
    heapGet (setToksH h p ts).lines q = heapGet h.lines q := by
  unfold setToksH
  split
  · next L hg => exact heapGet_listSet_other _ hg hq
  · rfl

theorem setToksH_self {h : Rule.Heap} {p : Int} {L : Rule.Line} (hg : heapGet h.lines p = .ok L) : setToksH h p L.Token = h := by
  rw [setToksH_eq hg]
  have : ({ L with Token := L.Token } : Rule.Line) = L := rfl
  rw [this]
  obtain ⟨_, hv⟩ := heapGet_ok_iff.1 hg
  obtain ⟨hlt, he⟩ := List.getElem?_eq_some_iff.1 hv
  have : h.lines.set (p.toNat - 1) L = h.lines := by rw [← he]; exact List.set_getElem_self hlt
  rw [this]

theorem setToksH_setToksH {h : Rule.Heap} {p : Int} {L : Rule.Line} (hg : heapGet h.lines p = .ok L) (ts ts' : List Bytes) :
    setToksH (setToksH h p ts) p ts' = setToksH h p ts' := by
  rw [setToksH_eq (heapGet_setToksH_same hg ts), setToksH_eq hg, setToksH_eq hg]
  simp [List.set_set]

/-- a Go slice `x.Token[k:]` as a view: `r` denotes the tokens `toks` of its owner line, after the first `pre` -/
def TokView (h : Rule.Heap) (r : Rule.TokRef) (pre toks : List Bytes) : Prop :=
  ∃ L, heapGet h.lines r.owner = .ok L ∧ L.Token = pre ++ toks ∧ r.lo = (pre.length : Int)

theorem TokView.toks_eq {h : Rule.Heap} {r : Rule.TokRef} {pre toks : List Bytes} (v : TokView h r pre toks) :
    Rule.TokRef.toks r h = .ok toks := by
  obtain ⟨L, hg, ht, hlo⟩ := v
  have h1 : (0 : Int) ≤ (pre.length : Int) ∧ (pre.length : Int) ≤ len (pre ++ toks) := by simp [len_eq]; omega
  simp [Rule.TokRef.toks, hg, ht, hlo, sliceFrom, h1, bind, Except.bind, pure, Except.pure]

theorem TokView.len {h : Rule.Heap} {r : Rule.TokRef} {pre toks : List Bytes} (v : TokView h r pre toks) :
    Rule.TokRef.len r h = .ok (toks.length : Int) := by
  simp [Rule.TokRef.len, v.toks_eq, bind, Except.bind, pure, Except.pure, len_eq]

theorem TokView.get {h : Rule.Heap} {r : Rule.TokRef} {pre toks : List Bytes} (v : TokView h r pre toks) {i : Nat} {t : Bytes}
    (hi : toks[i]? = some t) : Rule.TokRef.get r (i : Int) h = .ok t := by
  have h0 : ¬ ((i : Int) < 0) := by omega
  simp [Rule.TokRef.get, v.toks_eq, bind, Except.bind, idxL, h0, hi, pure, Except.pure]

/-- an index outside the view panics (Go: index out of range) -/
theorem TokView.get_none {h : Rule.Heap} {r : Rule.TokRef} {pre toks : List Bytes} (v : TokView h r pre toks) {i : Nat}
    (hi : toks[i]? = none) : Rule.TokRef.get r (i : Int) h = .error .panic := by
  have h0 : ¬ ((i : Int) < 0) := by omega
  simp [Rule.TokRef.get, v.toks_eq, bind, Except.bind, idxL, h0, hi, throw, throwThe, MonadExceptOf.throw]

theorem TokView.drop {h : Rule.Heap} {r : Rule.TokRef} {pre toks : List Bytes} (v : TokView h r pre toks) {j : Nat}
    (hj : j ≤ toks.length) :
    Rule.TokRef.drop r (j : Int) h = .ok { r with lo := r.lo + (j : Int) } ∧
      TokView h { r with lo := r.lo + (j : Int) } (pre ++ toks.take j) (toks.drop j) := by
  constructor
  · have h1 : (0 : Int) ≤ (j : Int) ∧ (j : Int) ≤ GoRt.len toks := by simp [len_eq]; omega
    simp [Rule.TokRef.drop, v.toks_eq, bind, Except.bind, sliceFrom, h1, pure, Except.pure]
  · obtain ⟨L, hg, ht, hlo⟩ := v
    refine ⟨L, hg, ?_, ?_⟩
    · rw [ht, List.append_assoc, List.take_append_drop]
    · simp [hlo, List.length_take, Nat.min_eq_left hj]

/-- `P.Token[k:]` -/
theorem TokView.make {h : Rule.Heap} {p : Int} {L : Rule.Line} (hg : heapGet h.lines p = .ok L) {k : Nat} (hk : k ≤ L.Token.length) :
    Rule.TokRef.make p (k : Int) h = .ok { owner := p, lo := (k : Int) } ∧
      TokView h { owner := p, lo := (k : Int) } (L.Token.take k) (L.Token.drop k) := by
  constructor
  · have h1 : (0 : Int) ≤ (k : Int) ∧ (k : Int) ≤ GoRt.len L.Token := by simp [len_eq]; omega
    simp [Rule.TokRef.make, hg, bind, Except.bind, sliceFrom, h1, pure, Except.pure]
  · exact ⟨L, hg, (List.take_append_drop k L.Token).symm, by simp [List.length_take, Nat.min_eq_left hk]⟩

/-- `v[i] = x` -/
theorem TokView.set {h : Rule.Heap} {r : Rule.TokRef} {pre toks : List Bytes} (v : TokView h r pre toks) {i : Nat}
    (hi : i < toks.length) (x : Bytes) :
    Rule.TokRef.set r (i : Int) x h = .ok (setToksH h r.owner (pre ++ toks.set i x)) ∧
      TokView (setToksH h r.owner (pre ++ toks.set i x)) r pre (toks.set i x) := by
  obtain ⟨L, hg, ht, hlo⟩ := v
  constructor
  · have h1 : (0 : Int) ≤ (pre.length : Int) ∧ (pre.length : Int) ≤ GoRt.len (pre ++ toks) := by simp [len_eq]; omega
    have h0 : ¬ ((i : Int) < 0) := by omega
    have h2 : (0 : Int) ≤ (pre.length : Int) + (i : Int) ∧ (pre.length : Int) + (i : Int) < GoRt.len (pre ++ toks) := by
      simp [len_eq]; omega
    have h3 : ((pre.length : Int) + (i : Int)).toNat = pre.length + i := by omega
    have h4 : (pre ++ toks).set (pre.length + i) x = pre ++ toks.set i x := by
      rw [List.set_append_right _ _ (by omega)]; simp
    have hs : toks[i]? = some toks[i] := List.getElem?_eq_getElem hi
    rw [setToksH_eq hg]
    simp [Rule.TokRef.set, hg, ht, hlo, bind, Except.bind, sliceFrom, h1, idxL, h0, hs, setIdxL, h2, h3, h4,
      heapSet_of_get _ hg, pure, Except.pure]
  · exact ⟨_, heapGet_setToksH_same hg _, rfl, hlo⟩

theorem TokView.setToksH_other {h : Rule.Heap} {r : Rule.TokRef} {pre toks : List Bytes} (v : TokView h r pre toks) {p : Int}
    (ts : List Bytes) (hp : r.owner ≠ p) : TokView (setToksH h p ts) r pre toks := by
  obtain ⟨L, hg, ht, hlo⟩ := v
  exact ⟨L, by rw [heapGet_setToksH_other h ts hp]; exact hg, ht, hlo⟩

theorem TokView.congr {h h' : Rule.Heap} {r : Rule.TokRef} {pre toks : List Bytes} (v : TokView h r pre toks)
    (hl : heapGet h'.lines r.owner = heapGet h.lines r.owner) : TokView h' r pre toks := by
  obtain ⟨L, hg, ht, hlo⟩ := v
  exact ⟨L, by rw [hl]; exact hg, ht, hlo⟩

theorem TokView.ofLine {h : Rule.Heap} {p : Int} {l : Modfile.Line} (hg : heapGet h.lines p = .ok (lineG l)) {k : Nat}
    (hk : k ≤ l.token.length) :
    Rule.TokRef.make p (k : Int) h = .ok { owner := p, lo := (k : Int) } ∧
      TokView h { owner := p, lo := (k : Int) } (l.token.take k) (l.token.drop k) :=
  TokView.make hg hk

theorem TokView.getI {h : Rule.Heap} {r : Rule.TokRef} {pre toks : List Bytes} (v : TokView h r pre toks) (i : Int) (h0 : 0 ≤ i) {t : Bytes}
    (hi : toks[i.toNat]? = some t) : Rule.TokRef.get r i h = .ok t := by
  have := v.get hi
  rwa [Int.toNat_of_nonneg h0] at this

theorem TokView.getI_none {h : Rule.Heap} {r : Rule.TokRef} {pre toks : List Bytes} (v : TokView h r pre toks) (i : Int) (h0 : 0 ≤ i)
    (hi : toks[i.toNat]? = none) : Rule.TokRef.get r i h = .error .panic := by
  have := v.get_none hi
  rwa [Int.toNat_of_nonneg h0] at this

theorem TokView.dropI {h : Rule.Heap} {r : Rule.TokRef} {pre toks : List Bytes} (v : TokView h r pre toks) (j : Int) (h0 : 0 ≤ j)
    (hj : j.toNat ≤ toks.length) :
    Rule.TokRef.drop r j h = .ok { r with lo := r.lo + j } ∧
      TokView h { r with lo := r.lo + j } (pre ++ toks.take j.toNat) (toks.drop j.toNat) := by
  have := v.drop hj
  rwa [Int.toNat_of_nonneg h0] at this

theorem TokView.setI {h : Rule.Heap} {r : Rule.TokRef} {pre toks : List Bytes} (v : TokView h r pre toks) (i : Int) (h0 : 0 ≤ i)
    (hi : i.toNat < toks.length) (x : Bytes) :
    Rule.TokRef.set r i x h = .ok (setToksH h r.owner (pre ++ toks.set i.toNat x)) ∧
      TokView (setToksH h r.owner (pre ++ toks.set i.toNat x)) r pre (toks.set i.toNat x) := by
  have := v.set hi x
  rwa [Int.toNat_of_nonneg h0] at this

theorem TokView.setToksH_self {h : Rule.Heap} {r : Rule.TokRef} {pre toks : List Bytes} (v : TokView h r pre toks) :
    setToksH h r.owner (pre ++ toks) = h := by
  obtain ⟨L, hg, ht, _⟩ := v
  rw [← ht]; exact FnRuleRep.setToksH_self hg

theorem TokView.setToksH_twice {h : Rule.Heap} {r : Rule.TokRef} {pre toks : List Bytes} (v : TokView h r pre toks) (ts ts' : List Bytes) :
    setToksH (setToksH h r.owner ts) r.owner ts' = setToksH h r.owner ts' := by
  obtain ⟨L, hg, _, _⟩ := v
  exact setToksH_setToksH hg ts ts'

theorem TokView.afterStore {h : Rule.Heap} {r : Rule.TokRef} {pre toks : List Bytes} (v : TokView h r pre toks) (pre' toks' : List Bytes)
    (lo' : Int) (hlo : lo' = (pre'.length : Int)) :
    TokView (setToksH h r.owner (pre' ++ toks')) { r with lo := lo' } pre' toks' := by
  obtain ⟨L, hg, _, _⟩ := v
  exact ⟨_, heapGet_setToksH_same hg _, rfl, hlo⟩

theorem TokView.owner_get {h : Rule.Heap} {r : Rule.TokRef} {pre toks : List Bytes} (v : TokView h r pre toks) :
    ∃ L, heapGet h.lines r.owner = .ok L ∧ L.Token = pre ++ toks := by
  obtain ⟨L, hg, ht, _⟩ := v; exact ⟨L, hg, ht⟩

theorem RepSyn.setToks {ι : Int → Nat} {h : Rule.Heap} {x : Int} {fs : Modfile.FileSyntax} (r : RepSyn ι h x fs) (hi : LineInj ι h) {p : Int}
    {l0 : Modfile.Line} (hget : heapGet h.lines p = .ok (lineG l0)) (ts : List Bytes) :
    RepSyn ι (setToksH h p ts) x (fs.updateLine (ι p) fun l => { l with token := ts }) := by
  rw [setToksH_eq hget, lineG_setToken]
  exact r.setLine hi (IdEquiv_setToken ts) hget

theorem LineInj.setToksH {ι : Int → Nat} {h : Rule.Heap} (hi : LineInj ι h) (p : Int) (ts : List Bytes) : LineInj ι (setToksH h p ts) :=
  hi.congr (by simp)

/-- the error strings (the format literal; wrapped errors `Outer|inner`) the regenerated code produces for each kind; for
    the fixer errors, the strings of the driver's `fixG` -/
def errStrs : Modfile.RuleErrKind → List String
  | .syn k => ["syn:" ++ Drv.Modfile.synKindName k]
  | .unknownBlock => ["unknown block type: %s"]
  | .unknownDirective => ["unknown directive: %s"]
  | .repeatedGo => ["repeated go statement"]
  | .goArgs => ["go directive expects exactly one argument"]
  | .invalidGoVersion => ["invalid go version '%s': must match format 1.23.0"]
  | .repeatedToolchain => ["repeated toolchain statement"]
  | .toolchainArgs => ["toolchain directive expects exactly one argument"]
  | .invalidToolchain => ["invalid toolchain version '%s': must match format go1.23.0 or default"]
  | .repeatedModule => ["repeated module statement"]
  | .moduleUsage => ["usage: module module/path"]
  | .invalidQuotedString => ["invalid quoted string: %v"]
  | .godebugUsage => ["usage: godebug key=value"]
  | .requireUsage => ["usage: %s module/path v1.2.3"]
  | .versionString => ["Error|InvalidVersionError|invalid syntax", "Error|InvalidVersionError|unquoted string cannot contain quote"]
  | .versionNotCanonical => ["Error|InvalidVersionError|must be of the form v1.2.3"]
  | .fixError => ["fix-plain"]
  | .fixModuleError => ["Error|fix-mod"]
  | .invalidModulePath => ["invalid module path"]
  | .pathMajorMismatch => ["InvalidVersionError|should be %s, not %s"]
  | .replaceUsage => ["usage: %s module/path [v1.2.3] => other/module v1.4\n\t or %s module/path [v1.2.3] => ../local/directory"]
  | .replaceAtVersion => ["replacement module must match format 'path version', not 'path@version'"]
  | .replaceNeedsDir => ["replacement module without version must be directory path (rooted or starting with . or ..)"]
  | .replaceWindowsPath => ["replacement directory appears to be Windows path (on a non-windows system)"]
  | .replaceDirWithVersion => ["replacement module directory path %q cannot have version"]
  | .intervalStart => ["expected '[' or version"]
  | .intervalAfterLBracket => ["expected version after '['"]
  | .intervalComma => ["expected ',' after version"]
  | .intervalAfterComma => ["expected version after ','"]
  | .intervalRBracket => ["expected ']' after version"]
  | .tokenAfterVersion => ["unexpected token after version: %q"]
  | .toolArgs => ["tool directive expects exactly one argument"]
  | .useUsage => ["usage: %s local/dir"]
  | .retractNoModule => ["no module directive found, so retract cannot be used"]

/-- Prop-level counterpart of the driver's `kindOf` -/
def errAbs (e : Option String) (k : Modfile.RuleErrKind) : Prop := ∃ s, e = some s ∧ s ∈ errStrs k

theorem errAbs_some {s : String} {k : Modfile.RuleErrKind} (h : s ∈ errStrs k) : errAbs (some s) k := ⟨s, rfl, h⟩

def ErrRep (e : Rule.Error) (m : Modfile.RuleErr) : Prop := e.Pos = posG m.pos ∧ errAbs e.Err m.kind

def ErrsRep : List Rule.Error → List Modfile.RuleErr → Prop
  | [], [] => True
  | e :: es, m :: ms => ErrRep e m ∧ ErrsRep es ms
  | _, _ => False

theorem ErrsRep.nil : ErrsRep [] [] := trivial

theorem ErrsRep.append : ∀ {es fs : List Rule.Error} {ms ns : List Modfile.RuleErr}, ErrsRep es ms → ErrsRep fs ns →
    ErrsRep (es ++ fs) (ms ++ ns)
  | [], _, [], _, _, r2 => r2
  | _ :: _, _, _ :: _, _, r1, r2 => ⟨r1.1, ErrsRep.append r1.2 r2⟩
  | [], _, _ :: _, _, r1, _ => r1.elim
  | _ :: _, _, [], _, r1, _ => r1.elim

theorem ErrsRep.snoc {errs : List Rule.Error} {ms : List Modfile.RuleErr} (r : ErrsRep errs ms) {e : Rule.Error} {m : Modfile.RuleErr}
    (he : ErrRep e m) : ErrsRep (errs ++ [e]) (ms ++ [m]) :=
  r.append ⟨he, trivial⟩

theorem ErrsRep.snoc_rev {errs : List Rule.Error} {msRev : List Modfile.RuleErr} (r : ErrsRep errs msRev.reverse) {e : Rule.Error}
    {m : Modfile.RuleErr} (he : ErrRep e m) : ErrsRep (errs ++ [e]) (m :: msRev).reverse := by
  rw [List.reverse_cons]; exact r.snoc he

theorem ErrsRep.length : ∀ {errs : List Rule.Error} {ms : List Modfile.RuleErr}, ErrsRep errs ms → errs.length = ms.length
  | [], [], _ => rfl
  | _ :: _, _ :: _, r => by simp [ErrsRep.length r.2]
  | [], _ :: _, r => r.elim
  | _ :: _, [], r => r.elim

/-- a `Syntax` pointer: an allocated line whose id is the entry's `lineId` -/
structure TR (ι : Int → Nat) (nl : Nat) (syn : Int) (lineId : Nat) : Prop where
  id : ι syn = lineId
  pos : 0 < syn
  le : syn.toNat ≤ nl

def moduleR (ι : Int → Nat) (nl : Nat) (o : Rule.Module) (m : Modfile.Module) : Prop :=
  o.Mod = mvG m.mod ∧ o.Deprecated = m.deprecated ∧ TR ι nl o.Syntax m.lineId
def goR (ι : Int → Nat) (nl : Nat) (o : Rule.Go) (g : Modfile.Go) : Prop := o.Version = g.version ∧ TR ι nl o.Syntax g.lineId
def toolchainR (ι : Int → Nat) (nl : Nat) (o : Rule.Toolchain) (t : Modfile.Toolchain) : Prop := o.Name = t.name ∧ TR ι nl o.Syntax t.lineId
def godebugR (ι : Int → Nat) (nl : Nat) (o : Rule.Godebug) (g : Modfile.Godebug) : Prop :=
  o.Key = g.key ∧ o.Value = g.value ∧ TR ι nl o.Syntax g.lineId
def requireR (ι : Int → Nat) (nl : Nat) (o : Rule.Require) (r : Modfile.Require) : Prop :=
  o.Mod = mvG r.mod ∧ o.Indirect = r.indirect ∧ TR ι nl o.Syntax r.lineId
def excludeR (ι : Int → Nat) (nl : Nat) (o : Rule.Exclude) (x : Modfile.Exclude) : Prop := o.Mod = mvG x.mod ∧ TR ι nl o.Syntax x.lineId
def replaceR (ι : Int → Nat) (nl : Nat) (o : Rule.Replace) (r : Modfile.Replace) : Prop :=
  o.Old = mvG r.old ∧ o.New = mvG r.new ∧ TR ι nl o.Syntax r.lineId
def retractR (ι : Int → Nat) (nl : Nat) (o : Rule.Retract) (r : Modfile.Retract) : Prop :=
  o.VersionInterval.Low = r.interval.low ∧ o.VersionInterval.High = r.interval.high ∧ o.Rationale = r.rationale ∧
    TR ι nl o.Syntax r.lineId
def toolR (ι : Int → Nat) (nl : Nat) (o : Rule.Tool) (t : Modfile.Tool) : Prop := o.Path = t.path ∧ TR ι nl o.Syntax t.lineId
def useR (ι : Int → Nat) (nl : Nat) (o : Rule.Use) (u : Modfile.Use) : Prop :=
  o.Path = u.path ∧ o.ModulePath = u.modulePath ∧ TR ι nl o.Syntax u.lineId

def REntsL {α β : Type} (objs : List α) (R : α → β → Prop) : List Int → List β → Prop
  | [], [] => True
  | p :: ps, x :: xs => (∃ o, heapGet objs p = .ok o ∧ R o x) ∧ REntsL objs R ps xs
  | _, _ => False

structure REnts {α β : Type} (objs : List α) (R : α → β → Prop) (ps : List Int) (xs : List β) : Prop where
  rel : REntsL objs R ps xs
  nodup : ps.Nodup

/-- an optional typed entry (`f.Module`, `f.Go`, `f.Toolchain`): nil ↔ none -/
def ROpt {α β : Type} (objs : List α) (R : α → β → Prop) (p : Int) : Option β → Prop
  | none => p = 0
  | some x => ∃ o, heapGet objs p = .ok o ∧ R o x

theorem REntsL.mono {α β : Type} {objs objs' : List α} {R R' : α → β → Prop}
    (ho : ∀ p v, heapGet objs p = .ok v → heapGet objs' p = .ok v) (hR : ∀ o x, R o x → R' o x) :
    ∀ {ps : List Int} {xs : List β}, REntsL objs R ps xs → REntsL objs' R' ps xs
  | [], [], _ => trivial
  | _ :: _, _ :: _, r => ⟨(let ⟨o, h1, h2⟩ := r.1; ⟨o, ho _ _ h1, hR _ _ h2⟩), REntsL.mono ho hR r.2⟩
  | [], _ :: _, r => r.elim
  | _ :: _, [], r => r.elim

theorem REnts.mono {α β : Type} {objs objs' : List α} {R R' : α → β → Prop} {ps : List Int} {xs : List β}
    (ho : ∀ p v, heapGet objs p = .ok v → heapGet objs' p = .ok v) (hR : ∀ o x, R o x → R' o x) (r : REnts objs R ps xs) :
    REnts objs' R' ps xs := ⟨r.rel.mono ho hR, r.nodup⟩

theorem ROpt.mono {α β : Type} {objs objs' : List α} {R R' : α → β → Prop} {p : Int} {x : Option β}
    (ho : ∀ p v, heapGet objs p = .ok v → heapGet objs' p = .ok v) (hR : ∀ o x, R o x → R' o x) (r : ROpt objs R p x) :
    ROpt objs' R' p x := by
  cases x with
  | none => exact r
  | some x => obtain ⟨o, h1, h2⟩ := r; exact ⟨o, ho _ _ h1, hR _ _ h2⟩

theorem REntsL.length {α β : Type} {objs : List α} {R : α → β → Prop} :
    ∀ {ps : List Int} {xs : List β}, REntsL objs R ps xs → ps.length = xs.length
  | [], [], _ => rfl
  | _ :: _, _ :: _, r => by simp [REntsL.length r.2]
  | [], _ :: _, r => r.elim
  | _ :: _, [], r => r.elim

theorem REntsL.get {α β : Type} {objs : List α} {R : α → β → Prop} :
    ∀ {ps : List Int} {xs : List β}, REntsL objs R ps xs →
    ∀ (i : Nat) (p : Int) (x : β), ps[i]? = some p → xs[i]? = some x → ∃ o, heapGet objs p = .ok o ∧ R o x
  | _ :: _, _ :: _, r, 0, p, x, hp, hx => by
    simp only [List.getElem?_cons_zero, Option.some.injEq] at hp hx; subst hp hx; exact r.1
  | _ :: _, _ :: _, r, i + 1, p, x, hp, hx => by
    simp only [List.getElem?_cons_succ] at hp hx; exact REntsL.get r.2 i p x hp hx
  | [], [], _, _, _, _, hp, _ => by simp at hp
  | [], _ :: _, r, _, _, _, _, _ => r.elim
  | _ :: _, [], r, _, _, _, _, _ => r.elim

theorem REntsL.append {α β : Type} {objs : List α} {R : α → β → Prop} :
    ∀ {ps qs : List Int} {xs ys : List β}, REntsL objs R ps xs → REntsL objs R qs ys → REntsL objs R (ps ++ qs) (xs ++ ys)
  | [], _, [], _, _, r2 => r2
  | _ :: _, _, _ :: _, _, r1, r2 => ⟨r1.1, REntsL.append r1.2 r2⟩
  | [], _, _ :: _, _, r1, _ => r1.elim
  | _ :: _, _, [], _, r1, _ => r1.elim

theorem REntsL.mem_alloc {α β : Type} {objs : List α} {R : α → β → Prop} :
    ∀ {ps : List Int} {xs : List β}, REntsL objs R ps xs → ∀ p ∈ ps, 0 < p ∧ p.toNat ≤ objs.length
  | [], [], _, p, hp => by cases hp
  | _ :: _, _ :: _, r, p, hp => by
    rcases List.mem_cons.1 hp with rfl | hp'
    · obtain ⟨o, h1, _⟩ := r.1; exact ⟨heapGet_pos h1, heapGet_le_length h1⟩
    · exact REntsL.mem_alloc r.2 p hp'
  | [], _ :: _, r, _, _ => r.elim
  | _ :: _, [], r, _, _ => r.elim

/-- **`append(f.X, &X{…})`**: a freshly allocated object appended to a typed list -/
theorem REnts.snocAlloc {α β : Type} {objs : List α} {R : α → β → Prop} {ps : List Int} {xs : List β} (r : REnts objs R ps xs)
    (o : α) (x : β) (hR : R o x) :
    REnts (objs ++ [o]) R (ps ++ [((objs.length + 1 : Nat) : Int)]) (xs ++ [x]) := by
  refine ⟨REntsL.append (r.rel.mono (fun _ _ hg => heapGet_alloc_old o hg) (fun _ _ a => a)) ⟨⟨o, heapGet_alloc_new objs o, hR⟩, trivial⟩, ?_⟩
  rw [List.nodup_append]
  refine ⟨r.nodup, by simp, ?_⟩
  intro a ha b hb
  simp only [List.mem_singleton] at hb
  subst hb
  have := (r.rel.mem_alloc a ha).2
  omega

theorem REntsL.setOther {α β : Type} {objs : List α} {R : α → β → Prop} {p : Int} {w : α}
    (hw : heapGet objs p = .ok w) (v : α) :
    ∀ {ps : List Int} {xs : List β}, REntsL objs R ps xs → p ∉ ps → REntsL (objs.set (p.toNat - 1) v) R ps xs
  | [], [], _, _ => trivial
  | q :: ps, _ :: _, r, hn => by
    have hne : q ≠ p := fun e => hn (by rw [e]; exact List.mem_cons_self)
    obtain ⟨o, h1, h2⟩ := r.1
    refine ⟨⟨o, ?_, h2⟩, REntsL.setOther hw v r.2 (fun hm => hn (List.mem_cons_of_mem _ hm))⟩
    rw [heapGet_listSet_other _ hw hne]; exact h1
  | [], _ :: _, r, _ => r.elim
  | _ :: _, [], r, _ => r.elim

theorem REntsL.setAt {α β : Type} {objs : List α} {R : α → β → Prop} :
    ∀ {ps : List Int} {xs : List β}, REntsL objs R ps xs → ps.Nodup →
    ∀ (i : Nat) (p : Int) (v : α) (y : β), ps[i]? = some p → R v y →
      REntsL (objs.set (p.toNat - 1) v) R ps (xs.set i y)
  | [], [], _, _, _, _, _, _, hp, _ => by simp at hp
  | q :: ps, x :: xs, r, hn, 0, p, v, y, hp, hy => by
    simp only [List.getElem?_cons_zero, Option.some.injEq] at hp; subst hp
    simp only [List.nodup_cons] at hn
    obtain ⟨o, h1, _⟩ := r.1
    exact ⟨⟨v, heapGet_listSet_same _ h1, hy⟩, r.2.setOther h1 _ hn.1⟩
  | q :: ps, x :: xs, r, hn, i + 1, p, v, y, hp, hy => by
    simp only [List.getElem?_cons_succ] at hp
    simp only [List.nodup_cons] at hn
    have hne : q ≠ p := by
      intro e; subst e; exact hn.1 (List.mem_of_getElem? hp)
    obtain ⟨hpos, hlen⟩ := REntsL.mem_alloc r.2 p (List.mem_of_getElem? hp)
    obtain ⟨o, h1, h2⟩ := r.1
    refine ⟨⟨o, ?_, h2⟩, REntsL.setAt r.2 hn.2 i p v y hp hy⟩
    have : ∃ w, heapGet objs p = .ok w := by
      have hlt : p.toNat - 1 < objs.length := by omega
      exact ⟨objs[p.toNat - 1], heapGet_ok_iff.2 ⟨hpos, List.getElem?_eq_getElem hlt⟩⟩
    obtain ⟨w, hw⟩ := this
    rw [heapGet_listSet_other _ hw hne]; exact h1
  | [], _ :: _, r, _, _, _, _, _, _, _ => r.elim
  | _ :: _, [], r, _, _, _, _, _, _, _ => r.elim

structure RepTyped (ι : Int → Nat) (h : Rule.Heap) (o : Rule.File) (f : Modfile.File) : Prop where
  module : ROpt h.modules (moduleR ι h.lines.length) o.Module f.module
  go : ROpt h.gos (goR ι h.lines.length) o.Go f.go
  toolchain : ROpt h.toolchains (toolchainR ι h.lines.length) o.Toolchain f.toolchain
  godebug : REnts h.godebugs (godebugR ι h.lines.length) o.Godebug f.godebug
  require : REnts h.requires (requireR ι h.lines.length) o.Require f.require
  exclude : REnts h.excludes (excludeR ι h.lines.length) o.Exclude f.exclude
  replace : REnts h.replaces (replaceR ι h.lines.length) o.Replace f.replace
  retract : REnts h.retracts (retractR ι h.lines.length) o.Retract f.retract
  tool : REnts h.tools (toolR ι h.lines.length) o.Tool f.tool

structure RepTypedW (ι : Int → Nat) (h : Rule.Heap) (o : Rule.WorkFile) (f : Modfile.WorkFile) : Prop where
  go : ROpt h.gos (goR ι h.lines.length) o.Go f.go
  toolchain : ROpt h.toolchains (toolchainR ι h.lines.length) o.Toolchain f.toolchain
  godebug : REnts h.godebugs (godebugR ι h.lines.length) o.Godebug f.godebug
  use : REnts h.uses (useR ι h.lines.length) o.Use f.use
  replace : REnts h.replaces (replaceR ι h.lines.length) o.Replace f.replace

/-- the typed part only reads the typed object lists and the NUMBER of lines: it survives every token store -/
theorem RepTyped.setToksH {ι : Int → Nat} {h : Rule.Heap} {o : Rule.File} {f : Modfile.File} (r : RepTyped ι h o f) (p : Int) (ts : List Bytes) :
    RepTyped ι (setToksH h p ts) o f where
  module := by simpa using r.module
  go := by simpa using r.go
  toolchain := by simpa using r.toolchain
  godebug := by simpa using r.godebug
  require := by simpa using r.require
  exclude := by simpa using r.exclude
  replace := by simpa using r.replace
  retract := by simpa using r.retract
  tool := by simpa using r.tool

theorem RepTypedW.setToksH {ι : Int → Nat} {h : Rule.Heap} {o : Rule.WorkFile} {f : Modfile.WorkFile} (r : RepTypedW ι h o f) (p : Int)
    (ts : List Bytes) : RepTypedW ι (setToksH h p ts) o f where
  go := by simpa using r.go
  toolchain := by simpa using r.toolchain
  godebug := by simpa using r.godebug
  use := by simpa using r.use
  replace := by simpa using r.replace

/-- `syn` is separate from `st.file.syn`: during `parseToFile`'s loop the model keeps the ORIGINAL tree in `st.file.syn` and
    returns the rewritten statements separately, while the heap is rewritten in place -/
structure RepRS (ι : Int → Nat) (h : Rule.Heap) (fp : Int) (errs : List Rule.Error) (st : Modfile.AddState)
    (syn : Modfile.FileSyntax) : Prop where
  obj : ∃ o, heapGet h.mods fp = .ok o ∧ RepTyped ι h o st.file ∧ RepSyn ι h o.Syntax syn
  inj : LineInj ι h
  errs : ErrsRep errs st.errsRev.reverse

def RepR (ι : Int → Nat) (h : Rule.Heap) (fp : Int) (errs : List Rule.Error) (st : Modfile.AddState) : Prop :=
  RepRS ι h fp errs st st.file.syn

structure RepWS (ι : Int → Nat) (h : Rule.Heap) (fp : Int) (errs : List Rule.Error) (st : Modfile.WorkState)
    (syn : Modfile.FileSyntax) : Prop where
  obj : ∃ o, heapGet h.works fp = .ok o ∧ RepTypedW ι h o st.file ∧ RepSyn ι h o.Syntax syn
  inj : LineInj ι h
  errs : ErrsRep errs st.errsRev.reverse

def RepW (ι : Int → Nat) (h : Rule.Heap) (fp : Int) (errs : List Rule.Error) (st : Modfile.WorkState) : Prop :=
  RepWS ι h fp errs st st.file.syn

theorem RepRS.setToks {ι : Int → Nat} {h : Rule.Heap} {fp : Int} {errs : List Rule.Error} {st : Modfile.AddState} {syn : Modfile.FileSyntax}
    (r : RepRS ι h fp errs st syn) {p : Int} {l0 : Modfile.Line} (hget : heapGet h.lines p = .ok (lineG l0)) (ts : List Bytes) :
    RepRS ι (setToksH h p ts) fp errs st (syn.updateLine (ι p) fun l => { l with token := ts }) := by
  obtain ⟨o, ho, rt, rs⟩ := r.obj
  exact ⟨⟨o, by simpa using ho, rt.setToksH p ts, rs.setToks r.inj hget ts⟩, r.inj.setToksH p ts, r.errs⟩

theorem RepWS.setToks {ι : Int → Nat} {h : Rule.Heap} {fp : Int} {errs : List Rule.Error} {st : Modfile.WorkState} {syn : Modfile.FileSyntax}
    (r : RepWS ι h fp errs st syn) {p : Int} {l0 : Modfile.Line} (hget : heapGet h.lines p = .ok (lineG l0)) (ts : List Bytes) :
    RepWS ι (setToksH h p ts) fp errs st (syn.updateLine (ι p) fun l => { l with token := ts }) := by
  obtain ⟨o, ho, rt, rs⟩ := r.obj
  exact ⟨⟨o, by simpa using ho, rt.setToksH p ts, rs.setToks r.inj hget ts⟩, r.inj.setToksH p ts, r.errs⟩

def allSyn : List Modfile.SynErrKind := [.blockComment, .eofInString, .newlineInString, .badChar, .unterminatedBlock, .afterRParen,
  .internal .readRuneAtEOF, .internal .parseLineAtEOL, .internal .fuel]

def allKinds : List Modfile.RuleErrKind := allSyn.map .syn ++ [.unknownBlock, .unknownDirective, .repeatedGo, .goArgs, .invalidGoVersion,
  .repeatedToolchain, .toolchainArgs, .invalidToolchain, .repeatedModule, .moduleUsage, .invalidQuotedString, .godebugUsage,
  .requireUsage, .versionString, .versionNotCanonical, .fixError, .fixModuleError, .invalidModulePath, .pathMajorMismatch,
  .replaceUsage, .replaceAtVersion, .replaceNeedsDir, .replaceWindowsPath, .replaceDirWithVersion, .intervalStart,
  .intervalAfterLBracket, .intervalComma, .intervalAfterComma, .intervalRBracket, .tokenAfterVersion, .toolArgs, .useUsage,
  .retractNoModule]

theorem mem_allKinds (k : Modfile.RuleErrKind) : k ∈ allKinds := by
  cases k with
  | syn s => cases s with
    | internal t => cases t <;> decide
    | _ => decide
  | _ => decide

/-- no error string belongs to two kinds: checked for the pairs in the order of `allKinds`; the relation is symmetric -/
theorem errStrs_pairwise : allKinds.Pairwise fun k k' => ∀ s ∈ errStrs k, s ∈ errStrs k' → k = k' := by decide +kernel

theorem errStrs_disjoint : ∀ k ∈ allKinds, ∀ k' ∈ allKinds, ∀ s ∈ errStrs k, s ∈ errStrs k' → k = k' :=
  fun _ hk _ hk' => List.Pairwise.forall_of_forall_of_flip (R := fun k k' => ∀ s ∈ errStrs k, s ∈ errStrs k' → k = k')
    (fun _ _ _ _ _ => rfl) errStrs_pairwise (errStrs_pairwise.imp fun h s hs' hs => (h s hs hs').symm) hk hk'

theorem errAbs_unique {e : Option String} {k k' : Modfile.RuleErrKind} (h : errAbs e k) (h' : errAbs e k') : k = k' := by
  obtain ⟨s, rfl, hs⟩ := h
  obtain ⟨s', he, hs'⟩ := h'
  cases he
  exact errStrs_disjoint k (mem_allKinds k) k' (mem_allKinds k') s hs hs'

theorem errAbs.isSome {e : Option String} {k : Modfile.RuleErrKind} (h : errAbs e k) : e.isNone = false := by
  obtain ⟨s, rfl, _⟩ := h; rfl

end ModVerif.Tie.FnRuleRep
