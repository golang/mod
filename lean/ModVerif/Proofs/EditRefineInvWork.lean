/-
  go.work: the tree invariant `InvW`; every operation preserves it (SetUse included), hence every session.
-/
import ModVerif.Proofs.EditRefineInvCheck
namespace ModVerif.Modfile.Edit
open ModVerif ModVerif.Modfile

def entriesW (f : WorkFile) : List Ent :=
  f.go.toList.map entGo ++ (f.toolchain.toList.map entTc ++ (entsOf liveG entG f.godebug ++
    (entsOf liveU entU f.use ++ entsOf liveRp entRp f.replace)))

structure InvW (e : EWork) : Prop where
  tree : TreeWF e.f.syn.stmts e.next
  mtch : Match (entriesW e.f) (view e.f.syn.stmts)
  winv : WInv e

theorem entriesW_acc2 (f : WorkFile) : ∀ en ∈ entriesW f, ∀ t s, en.acc t s → 2 ≤ t.length := by
  intro en hen t s ha
  simp only [entriesW, List.mem_append, List.mem_map, Option.mem_toList, entsOf, List.mem_filter] at hen
  rcases hen with ⟨x, _, rfl⟩ | ⟨x, _, rfl⟩ | ⟨x, _, rfl⟩ | ⟨x, _, rfl⟩ | ⟨x, _, rfl⟩
  · simp only [entGo] at ha; rw [ha]; simp
  · simp only [entTc] at ha; rw [ha]; simp
  · simp only [entG] at ha; rw [ha]; simp
  · simp only [entU] at ha; rw [ha]; simp
  · simp only [entRp, replaceToks] at ha; rw [ha]; simp

theorem InvW.view2 {e : EWork} (h : InvW e) : View2 e.f.syn.stmts := fun v hv =>
  let ⟨en, hen, _, hacc⟩ := h.mtch.line_entry h.tree v hv
  entriesW_acc2 e.f en hen _ _ hacc

theorem InvW.fresh {e : EWork} (h : InvW e) : ∀ en ∈ entriesW e.f, en.id ≠ e.next := by
  intro en hen
  exact Nat.ne_of_lt (h.mtch.ids_lt h.tree en hen)

def wC_go (f : WorkFile) : List Ent :=
  f.toolchain.toList.map entTc ++ (entsOf liveG entG f.godebug ++ (entsOf liveU entU f.use ++ entsOf liveRp entRp f.replace))
theorem entriesW_go (f : WorkFile) : entriesW f = [] ++ (entsOf (fun _ => true) entGo f.go.toList ++ wC_go f) := by
  simp [entriesW, wC_go, entsOf_true]

def wA_tc (f : WorkFile) : List Ent := f.go.toList.map entGo
def wC_tc (f : WorkFile) : List Ent := entsOf liveG entG f.godebug ++ (entsOf liveU entU f.use ++ entsOf liveRp entRp f.replace)
theorem entriesW_tc (f : WorkFile) : entriesW f = wA_tc f ++ (entsOf (fun _ => true) entTc f.toolchain.toList ++ wC_tc f) := by
  simp [entriesW, wA_tc, wC_tc, entsOf_true]

def wA_gd (f : WorkFile) : List Ent := f.go.toList.map entGo ++ f.toolchain.toList.map entTc
def wC_gd (f : WorkFile) : List Ent := entsOf liveU entU f.use ++ entsOf liveRp entRp f.replace
theorem entriesW_gd (f : WorkFile) : entriesW f = wA_gd f ++ (entsOf liveG entG f.godebug ++ wC_gd f) := by
  simp [entriesW, wA_gd, wC_gd, List.append_assoc]

def wA_use (f : WorkFile) : List Ent := wA_gd f ++ entsOf liveG entG f.godebug
def wC_use (f : WorkFile) : List Ent := entsOf liveRp entRp f.replace
theorem entriesW_use (f : WorkFile) : entriesW f = wA_use f ++ (entsOf liveU entU f.use ++ wC_use f) := by
  simp [entriesW, wA_use, wA_gd, wC_use, List.append_assoc]

def wA_rp (f : WorkFile) : List Ent := wA_use f ++ entsOf liveU entU f.use
theorem entriesW_rp (f : WorkFile) : entriesW f = wA_rp f ++ (entsOf liveRp entRp f.replace ++ []) := by
  simp [entriesW, wA_rp, wA_use, wA_gd, List.append_assoc]

/-! ### insertAt (go.work places `go` / `toolchain` by index) -/

theorem insertAt_spec (stmts : List Expr) (i new : Nat) (tokens : List Bytes) (htok : tokens ≠ []) (hs : ShapeWF stmts) :
    (view (insertAt stmts i (Expr.line (mkLine new tokens false)))).Perm (view stmts ++ [vnew new tokens]) ∧
    (treeIds (insertAt stmts i (Expr.line (mkLine new tokens false)))).Perm (treeIds stmts ++ [new]) ∧
    ShapeWF (insertAt stmts i (Expr.line (mkLine new tokens false))) := by
  unfold insertAt
  have hsplit : stmts = stmts.take i ++ stmts.drop i := (List.take_append_drop i stmts).symm
  have hs1 : ShapeWF (stmts.take i) := hs.of_subset (fun x hx => List.mem_of_mem_take hx)
  have hs2 : ShapeWF (stmts.drop i) := hs.of_subset (fun x hx => List.mem_of_mem_drop hx)
  refine ⟨?_, ?_, hs1.append (ShapeWF.cons (ShapeWF.newLine _ _) hs2)⟩
  · rw [view_append, view_cons, view_newLine _ _ htok]
    conv => rhs; rw [hsplit, view_append]
    rw [List.append_assoc]
    exact List.Perm.append_left _ (List.perm_append_comm (l₁ := [_]))
  · rw [treeIds_append, treeIds_cons, treeIds_newLine]
    conv => rhs; rw [hsplit, treeIds_append]
    rw [List.append_assoc]
    exact List.Perm.append_left _ (List.perm_append_comm (l₁ := [_]))

theorem workAddGoStmt_inv (e e' : EWork) (v : Bytes) (hi : InvW e) (h : workAddGoStmt e v = .ok e') : InvW e' := by
  have ht := ((workAddGoStmt_refines e v hi.winv).1 e' h).2.2
  have hm0 := hi.mtch
  rw [entriesW_go] at hm0
  unfold workAddGoStmt at h
  split at h
  · cases h
  · cases hg : e.f.go with
    | none =>
      simp only [hg, Except.ok.injEq] at h
      subst h
      rw [hg] at hm0
      rcases insertAt_spec e.f.syn.stmts (firstNonComment e.f.syn.stmts 0) e.next [B "go", v] (by simp) hi.tree.shape with ⟨p1, p2, p3⟩
      refine ⟨hi.tree.of_added hi.winv.pos p2 p3, ?_, ht⟩
      have := Match.appendSeg (·.lineId) (fun _ => true) entGo (fun _ => rfl) (L := [])
        (x := ({ version := v, lineId := e.next } : Go)) rfl [B "go", v] [] rfl hm0
        (by have := hi.fresh; rw [entriesW_go, hg] at this; exact this) p1
      rw [entriesW_go]; exact this
    | some g =>
      simp only [hg, Except.ok.injEq] at h
      subst h
      rw [hg] at hm0
      refine ⟨hi.tree.updateTokens _ _, ?_, ht⟩
      have := Match.updOne (en := entGo g) (en' := entGo { g with version := v }) hi.tree hm0 rfl
        (B "go") v [] (fun t0 s ha => by simp only [entGo] at ha ⊢; exact ⟨by rw [ha]; rfl, trivial⟩)
      rw [entriesW_go]; exact this

theorem workAddToolchainStmt_inv (e e' : EWork) (n : Bytes) (hi : InvW e) (h : workAddToolchainStmt e n = .ok e') : InvW e' := by
  have ht := ((workAddToolchainStmt_refines e n hi.winv).1 e' h).2.2
  have hm0 := hi.mtch
  rw [entriesW_tc] at hm0
  unfold workAddToolchainStmt at h
  split at h
  · cases h
  · cases hg : e.f.toolchain with
    | none =>
      simp only [hg, Except.ok.injEq] at h
      subst h
      rw [hg] at hm0
      rcases insertAt_spec e.f.syn.stmts (match afterGoLine e.f.syn.stmts 0 with
          | some i => i
          | none => firstNonComment e.f.syn.stmts 0) e.next [B "toolchain", n] (by simp) hi.tree.shape with ⟨p1, p2, p3⟩
      refine ⟨hi.tree.of_added hi.winv.pos p2 p3, ?_, ht⟩
      have := Match.appendSeg (·.lineId) (fun _ => true) entTc (fun _ => rfl) (L := [])
        (x := ({ name := n, lineId := e.next } : Toolchain)) rfl [B "toolchain", n] [] rfl hm0
        (by have := hi.fresh; rw [entriesW_tc, hg] at this; exact this) p1
      rw [entriesW_tc]; exact this
    | some g =>
      simp only [hg, Except.ok.injEq] at h
      subst h
      rw [hg] at hm0
      refine ⟨hi.tree.updateTokens _ _, ?_, ht⟩
      have := Match.updOne (en := entTc g) (en' := entTc { g with name := n }) hi.tree hm0 rfl
        (B "toolchain") n [] (fun t0 s ha => by simp only [entTc] at ha ⊢; exact ⟨by rw [ha]; rfl, trivial⟩)
      rw [entriesW_tc]; exact this

theorem workDropGoStmt_inv (e : EWork) (hi : InvW e) : InvW (workDropGoStmt e) := by
  have ht := ((workDropGoStmt_refines e hi.winv).1 _ rfl).2.2
  have hm0 := hi.mtch
  rw [entriesW_go] at hm0
  unfold workDropGoStmt at ht ⊢
  cases hg : e.f.go with
  | none => exact hi
  | some g =>
    simp only [hg] at ht ⊢
    rw [hg] at hm0
    refine ⟨hi.tree.markRemoved _, ?_, ht⟩
    have := Match.dropOne (en := entGo g) hi.tree hm0
    rw [entriesW_go]; exact this

theorem workDropToolchainStmt_inv (e : EWork) (hi : InvW e) : InvW (workDropToolchainStmt e) := by
  have ht := ((workDropToolchainStmt_refines e hi.winv).1 _ rfl).2.2
  have hm0 := hi.mtch
  rw [entriesW_tc] at hm0
  unfold workDropToolchainStmt at ht ⊢
  cases hg : e.f.toolchain with
  | none => exact hi
  | some g =>
    simp only [hg] at ht ⊢
    rw [hg] at hm0
    refine ⟨hi.tree.markRemoved _, ?_, ht⟩
    have := Match.dropOne (en := entTc g) hi.tree hm0
    rw [entriesW_tc]; exact this

theorem workAddGodebug_inv (e e' : EWork) (k v : Bytes) (hk : k ≠ []) (hi : InvW e) (h : workAddGodebug e k v = .ok e') : InvW e' := by
  have ht := ((workAddGodebug_refines e k v hk hi.winv).1 e' h).2.2
  obtain ⟨_, ⟨⟩⟩ := ite_ok (workAddGodebug_eq e k v ▸ h)
  obtain ⟨p1, p2, p3⟩ := addLine_spec e.f.syn none e.next (B "godebug") (k ++ [61] ++ v) [] hi.tree.shape hi.view2
  obtain ⟨hw, hm⟩ := Match.setKeyed (R := addGodebugRes e.f.syn e.f.godebug e.next k v) (mk := entG) (live := liveG) rfl
    (fun _ => rfl) (fun x hx => ne_nil_of_beq hk hx) (fun x hx => ne_nil_of_beq hk hx)
    (fun x hx t0 s ha => by
      simp only [entG] at ha ⊢
      exact ⟨by rw [ha]; rfl, by rw [eq_of_beq hx]⟩)
    (ne_nil_live hk) rfl rfl hi.tree (by have := hi.mtch; rwa [entriesW_gd] at this) p1 (hi.tree.of_added hi.winv.pos p2 p3)
  exact ⟨hw, by rw [entriesW_gd]; exact hm, ht⟩

theorem workDropGodebug_inv (e e' : EWork) (k : Bytes) (hk : k ≠ []) (hi : InvW e) (h : workDropGodebug e k = .ok e') : InvW e' := by
  have ht := ((workDropGodebug_refines e k hi.winv).1 e' h).2.2
  obtain ⟨_, ⟨⟩⟩ := ite_ok (workDropGodebug_eq e k ▸ h)
  refine ⟨(markAll_spec _ e.f.syn e.next hi.tree).1, ?_, ht⟩
  rw [entriesW_gd]
  exact Match.clearSeg (mk := entG) (fun _ => rfl) (fun x hx => ne_nil_of_beq hk hx) hi.tree (by have := hi.mtch; rwa [entriesW_gd] at this)

theorem addNewUse_inv (e : EWork) (d m : Bytes) (hd : d ≠ []) (hi : InvW e) : InvW (addNewUse e d m) := by
  rcases addLine_spec e.f.syn none e.next (B "use") (autoQuote d) [] hi.tree.shape hi.view2 with ⟨p1, p2, p3⟩
  refine ⟨hi.tree.of_added hi.winv.pos p2 p3, ?_, hi.winv.of_same rfl (Nat.le_succ _)⟩
  have := Match.appendSeg (·.lineId) liveU entU (fun _ => rfl)
    (x := ({ path := d, modulePath := m, lineId := e.next } : Use))
    (ne_nil_live hd) [B "use", autoQuote d] [] rfl
    (by rw [← entriesW_use]; exact hi.mtch) (by rw [← entriesW_use]; exact hi.fresh) p1
  show Match (entriesW (addNewUse e d m).f) _
  rw [entriesW_use]; exact this

theorem addUse_inv (e e' : EWork) (d m : Bytes) (hd : d ≠ []) (hi : InvW e) (h : addUse e d m = .ok e') : InvW e' := by
  have ht := ((addUse_refines e d m hd hi.winv).1 e' h).2.2
  obtain ⟨_, ⟨⟩⟩ := ite_ok (addUse_eq e d m ▸ h)
  obtain ⟨p1, p2, p3⟩ := addLine_spec e.f.syn none e.next (B "use") (autoQuote d) [] hi.tree.shape hi.view2
  obtain ⟨hw, hm⟩ := Match.setKeyed (R := addUseRes e d m) (mk := entU) (live := liveU) rfl
    (fun _ => rfl) (fun x hx => ne_nil_of_beq hd hx) (fun x hx => ne_nil_of_beq hd hx)
    (fun x hx t0 s ha => by
      simp only [entU] at ha ⊢
      exact ⟨by rw [ha]; rfl, by rw [eq_of_beq hx]⟩)
    (ne_nil_live hd) rfl rfl hi.tree (by have := hi.mtch; rwa [entriesW_use] at this) p1 (hi.tree.of_added hi.winv.pos p2 p3)
  exact ⟨hw, by rw [entriesW_use]; exact hm, ht⟩

theorem dropUse_inv (e e' : EWork) (d : Bytes) (hd : d ≠ []) (hi : InvW e) (h : dropUse e d = .ok e') : InvW e' := by
  have ht := ((dropUse_refines e d hi.winv).1 e' h).2.2
  obtain ⟨_, ⟨⟩⟩ := ite_ok (dropUse_eq e d ▸ h)
  refine ⟨(markAll_spec _ e.f.syn e.next hi.tree).1, ?_, ht⟩
  rw [entriesW_use]
  exact Match.clearSeg (mk := entU) (fun _ => rfl) (fun x hx => ne_nil_of_beq hd hx) hi.tree (by have := hi.mtch; rwa [entriesW_use] at this)

theorem workAddReplace_inv (e e' : EWork) (op ov np nv : Bytes) (hop : op ≠ []) (hi : InvW e)
    (h : workAddReplace e op ov np nv = .ok e') : InvW e' := by
  have ht := ((workAddReplace_refines e op ov np nv hop hi.winv).1 e' h).2.2
  obtain ⟨_, ⟨⟩⟩ := ite_ok (workAddReplace_eq e op ov np nv ▸ h)
  obtain ⟨p1, p2, p3⟩ := addLinePtr_spec e.f.syn (lastWith (fun r : Replace => r.old.path == op) (·.lineId) e.f.replace none)
    e.next (B "replace") (autoQuote op) ((if ov.isEmpty then [] else [ov]) ++ [B "=>", autoQuote np] ++ (if nv.isEmpty then [] else [nv]))
    hi.tree.shape hi.view2
  obtain ⟨hw, hm⟩ := Match.setKeyed (R := addReplaceRes e.f.syn e.f.replace e.next op ov np nv) (mk := entRp) (live := liveRp) rfl
    (fun _ => rfl) (replaceMatch_live hop) (fun _ _ => ne_nil_live hop)
    (fun x hx t0 s ha => by
      simp only [entRp] at ha ⊢
      exact ⟨by rw [ha]; simp [replaceToks], by simp [replaceToks]⟩)
    (ne_nil_live hop) rfl (by simp [entRp, replaceToks]) hi.tree (by have := hi.mtch; rwa [entriesW_rp] at this) p1
    (hi.tree.of_added hi.winv.pos p2 p3)
  exact ⟨hw, by rw [entriesW_rp]; exact hm, ht⟩

theorem workDropReplace_inv (e e' : EWork) (op ov : Bytes) (hop : op ≠ []) (hi : InvW e)
    (h : workDropReplace e op ov = .ok e') : InvW e' := by
  have ht := ((workDropReplace_refines e op ov hi.winv).1 e' h).2.2
  obtain ⟨_, ⟨⟩⟩ := ite_ok (workDropReplace_eq e op ov ▸ h)
  refine ⟨(markAll_spec _ e.f.syn e.next hi.tree).1, ?_, ht⟩
  rw [entriesW_rp]
  exact Match.clearSeg (mk := entRp) (fun _ => rfl) (fun x hx => by simp only [Bool.and_eq_true] at hx; exact ne_nil_of_beq hop hx.1) hi.tree (by have := hi.mtch; rwa [entriesW_rp] at this)

theorem workCleanup_inv (e : EWork) (hi : InvW e) : InvW (workCleanup e) := by
  rcases cleanupStmts_spec e.f.syn.stmts hi.tree.shape with ⟨c1, c2, c3⟩
  refine ⟨hi.tree.of_sublist c2 c3, ?_, (workCleanup_abs e hi.winv).2⟩
  show Match (entriesW (workCleanup e).f) (view (cleanupStmts e.f.syn.stmts))
  rw [c1]
  have : entriesW (workCleanup e).f = entriesW e.f := by
    simp only [entriesW, workCleanup]
    have h1 : entsOf liveG entG (e.f.godebug.filter fun x => !x.key.isEmpty) = entsOf liveG entG e.f.godebug :=
      entsOf_filter_live liveG entG e.f.godebug
    have h2 : entsOf liveU entU (e.f.use.filter fun x => !x.path.isEmpty) = entsOf liveU entU e.f.use :=
      entsOf_filter_live liveU entU e.f.use
    have h4 : entsOf liveRp entRp (e.f.replace.filter fun x => !x.old.path.isEmpty) = entsOf liveRp entRp e.f.replace :=
      entsOf_filter_live liveRp entRp e.f.replace
    rw [h1, h2, h4]
  rw [this]; exact hi.mtch

theorem workSortBlocks_inv (e : EWork) (hi : InvW e) : InvW (workSortBlocks e) := by
  have ht := (workSortBlocks_abs e hi.winv).2
  have heq : workSortBlocks e = { e with f := { e.f with
      replace := e.f.replace.filter (fun x => !(killEarlier e.f.replace).contains x.lineId),
      syn := { e.f.syn with stmts := sortStmts false true (dropKilled (killEarlier e.f.replace) e.f.syn.stmts) } } } := by
    simp [workSortBlocks, Edit.removeDups]
  rw [heq] at ht ⊢
  rcases dropKilled_spec (killEarlier e.f.replace) e.f.syn.stmts hi.tree.shape with ⟨d1, d2, d3⟩
  rcases sortStmts_spec false true _ d3 with ⟨s1, s2, s3⟩
  have hw2 := hi.tree.of_sublist d2 d3
  refine ⟨hw2.of_perm s2 s3, ?_, ht⟩
  refine Match.perm ?_ s1
  rw [d1]
  have hm := hi.mtch
  have hpos : ∀ en ∈ entriesW e.f, en.id ≠ 0 := by
    intro en hen
    rcases hm.cover en hen with ⟨v, hv, hid, _⟩
    rw [← hid]; exact hi.tree.pos _ (view_id_mem_treeIds hv)
  have hother : ∀ en ∈ wA_rp e.f, (killEarlier e.f.replace).contains en.id = false := by
    intro en hen
    have henE : en ∈ entriesW e.f := by rw [entriesW_rp]; exact List.mem_append_left _ hen
    cases hc : (killEarlier e.f.replace).contains en.id with
    | false => rfl
    | true =>
      exfalso
      have hmem : en.id ∈ killEarlier e.f.replace := by simpa using hc
      rcases killEarlier_subset _ _ hmem with ⟨z, hz, hzid⟩
      have hlz : liveRp z = true := by
        cases hl : liveRp z with
        | true => rfl
        | false => exact absurd (hzid ▸ (hi.winv.wfR z hz).2 hl) (hpos en henE)
      exact seg_disjoint (by rw [← entriesW_rp]; exact hm) (en := en) (en' := entRp z) (Or.inl hen)
        ((mem_entsOf liveRp entRp).2 ⟨z, hz, hlz, rfl⟩) hzid.symm
  have hent : entriesW { e.f with
      replace := e.f.replace.filter (fun x => !(killEarlier e.f.replace).contains x.lineId),
      syn := { e.f.syn with stmts := sortStmts false true (dropKilled (killEarlier e.f.replace) e.f.syn.stmts) } }
      = (entriesW e.f).filter (fun en => !(killEarlier e.f.replace).contains en.id) := by
    rw [entriesW_rp, entriesW_rp]
    simp only [List.filter_append, List.append_nil]
    have hA : (wA_rp e.f).filter (fun en => !(killEarlier e.f.replace).contains en.id) = wA_rp e.f := by
      apply List.filter_eq_self.2
      intro en hen; rw [hother en hen]; rfl
    have hR := entsOf_filter_ids liveRp entRp (·.lineId) (fun _ => rfl) (killEarlier e.f.replace) (killEarlier e.f.replace)
      e.f.replace fun _ _ _ => rfl
    rw [hA, ← hR]
    rfl
  rw [hent]
  exact hm.filter _

theorem setUseLoop_inv {A C : List Ent} (next : Nat) (us : List Use) :
    ∀ (done : List Use) (need : List (Bytes × Bytes)) (syn : FileSyntax) (us' : List Use) (need' : List (Bytes × Bytes))
      (syn' : FileSyntax), (∀ u ∈ us, liveU u = true) → TreeWF syn.stmts next →
      Match (A ++ (entsOf liveU entU (done ++ us) ++ C)) (view syn.stmts) →
      setUseLoop us need syn = .ok (us', need', syn') →
      TreeWF syn'.stmts next ∧ Match (A ++ (entsOf liveU entU (done ++ us') ++ C)) (view syn'.stmts) := by
  induction us with
  | nil =>
    intro done need syn us' need' syn' _ hw hm h
    simp only [setUseLoop, Except.ok.injEq, Prod.mk.injEq] at h
    rcases h with ⟨rfl, _, rfl⟩
    exact ⟨hw, hm⟩
  | cons d ds ih =>
    intro done need syn us' need' syn' hlive hw hm h
    have hld := hlive d List.mem_cons_self
    unfold setUseLoop at h
    cases hf : need.find? (fun a => a.1 == d.path) with
    | some w =>
      simp only [hf, bind, Except.bind] at h
      cases hr : setUseLoop ds (need.filter (fun a => a.1 != d.path)) syn with
      | error err => simp [hr] at h
      | ok res =>
        rcases res with ⟨ds'', need'', syn''⟩
        simp only [hr, pure, Except.pure, Except.ok.injEq, Prod.mk.injEq] at h
        rcases h with ⟨rfl, _, rfl⟩
        have hsame : ∀ t : List Use, entsOf liveU entU (done ++ { d with modulePath := w.2 } :: t) = entsOf liveU entU (done ++ d :: t) := by
          intro t; simp [entsOf, List.filter_append, List.filter_cons, liveU]; split <;> rfl
        have hm1 : Match (A ++ (entsOf liveU entU ((done ++ [{ d with modulePath := w.2 }]) ++ ds) ++ C)) (view syn.stmts) := by
          rw [List.append_assoc, List.singleton_append, hsame]; exact hm
        rcases ih _ _ _ _ _ _ (fun u hu => hlive u (List.mem_cons_of_mem _ hu)) hw hm1 hr with ⟨r1, r2⟩
        refine ⟨r1, ?_⟩
        rw [List.append_assoc, List.singleton_append] at r2
        exact r2
    | none =>
      simp only [hf, bind, Except.bind] at h
      cases hd : deref d.lineId with
      | error err => simp [hd] at h
      | ok i =>
        have hi : i = d.lineId := by unfold deref at hd; split at hd <;> simp at hd; exact hd.symm
        subst hi
        simp only [hd] at h
        cases hr : setUseLoop ds need (markRemoved syn d.lineId) with
        | error err => simp [hr] at h
        | ok res =>
          rcases res with ⟨ds'', need'', syn''⟩
          simp only [hr, pure, Except.pure, Except.ok.injEq, Prod.mk.injEq] at h
          rcases h with ⟨rfl, _, rfl⟩
          have hw1 := hw.markRemoved d.lineId
          have hm1 := Match.removeMid (live := liveU) (mk := entU) (id := (·.lineId)) (cleared := clearedUse) (fun _ => rfl) rfl
            hw hld hm
          have hm1' : Match (A ++ (entsOf liveU entU ((done ++ [clearedUse]) ++ ds) ++ C)) (view (markRemoved syn d.lineId).stmts) := by
            rw [List.append_assoc]; exact hm1
          rcases ih _ _ _ _ _ _ (fun u hu => hlive u (List.mem_cons_of_mem _ hu)) hw1 hm1' hr with ⟨r1, r2⟩
          refine ⟨r1, ?_⟩
          rw [List.append_assoc] at r2
          exact r2

theorem foldl_addNewUse_inv (ws : List (Bytes × Bytes)) : ∀ e : EWork, InvW e → (∀ w ∈ ws, w.1 ≠ []) →
    InvW (ws.foldl (fun e w => addNewUse e w.1 w.2) e) := by
  induction ws with
  | nil => intro e hi _; exact hi
  | cons w ws ih =>
    intro e hi hne
    exact ih _ (addNewUse_inv e w.1 w.2 (hne w List.mem_cons_self) hi) (fun x hx => hne x (List.mem_cons_of_mem _ hx))

/-- **SetUse preserves the tree invariant** (every typed use live: Cleanup has just run) -/
theorem setUse_inv (e e' : EWork) (dirs : List (Bytes × Bytes)) (perm : List (Bytes × Bytes) → List (Bytes × Bytes))
    (hperm : ∀ l, (perm l).Perm l) (hg : GoodUse dirs) (hi : InvW e) (hlive : ∀ u ∈ e.f.use, liveU u = true)
    (h : setUse e dirs perm = .ok e') : InvW e' := by
  unfold setUse at h
  rw [useNeedMap_distinct dirs [] (by simpa using hg.1)] at h
  simp only [bind, Except.bind, List.nil_append] at h
  cases hr : setUseLoop e.f.use dirs e.f.syn with
  | error err => simp [hr] at h
  | ok res =>
    rcases res with ⟨us, need', syn'⟩
    simp only [hr, pure, Except.pure, Except.ok.injEq] at h
    subst h
    rcases setUseLoop_abs _ _ _ _ _ _ hg hr with ⟨_, hsub⟩
    rcases setUseLoop_inv (A := wA_use e.f) (C := wC_use e.f) e.next e.f.use [] dirs e.f.syn us need' syn'
      hlive hi.tree (by simp only [List.nil_append]; rw [← entriesW_use]; exact hi.mtch) hr with ⟨hw', hm'⟩
    have hi1 : InvW (⟨{ e.f with use := us, syn := syn' }, e.next⟩ : EWork) := by
      refine ⟨hw', ?_, hi.winv.of_same rfl (Nat.le_refl _)⟩
      simp only [List.nil_append] at hm'
      rw [entriesW_use]; exact hm'
    have hne : ∀ w ∈ perm need', w.1 ≠ [] := fun w hw => hg.2 w (hsub.subset ((hperm need').subset hw))
    exact workSortBlocks_inv _ (foldl_addNewUse_inv (perm need') _ hi1 hne)

def ValidArgsW : Op → Prop
  | .addGodebug k _ => k ≠ []
  | .dropGodebug k => k ≠ []
  | .addUse d _ => d ≠ []
  | .addNewUse d _ => d ≠ []
  | .dropUse d => d ≠ []
  | .setUse _ _ => False
  | .addReplace op _ _ _ => op ≠ []
  | .dropReplace op _ => op ≠ []
  | _ => True

theorem applyWork_inv (e e' : EWork) (op : Op) (hv : ValidArgsW op) (hi : InvW e) (h : applyWork e op = some (.ok e')) : InvW e' := by
  cases op with
  | addGo v => simp only [applyWork, Option.some.injEq] at h; exact workAddGoStmt_inv e e' v hi h
  | dropGo => simp only [applyWork, Option.some.injEq, Except.ok.injEq] at h; subst h; exact workDropGoStmt_inv e hi
  | addToolchain n => simp only [applyWork, Option.some.injEq] at h; exact workAddToolchainStmt_inv e e' n hi h
  | dropToolchain => simp only [applyWork, Option.some.injEq, Except.ok.injEq] at h; subst h; exact workDropToolchainStmt_inv e hi
  | addGodebug k v => simp only [applyWork, Option.some.injEq] at h; exact workAddGodebug_inv e e' k v hv hi h
  | dropGodebug k => simp only [applyWork, Option.some.injEq] at h; exact workDropGodebug_inv e e' k hv hi h
  | addUse d m => simp only [applyWork, Option.some.injEq] at h; exact addUse_inv e e' d m hv hi h
  | addNewUse d m => simp only [applyWork, Option.some.injEq, Except.ok.injEq] at h; subst h; exact addNewUse_inv e d m hv hi
  | dropUse d => simp only [applyWork, Option.some.injEq] at h; exact dropUse_inv e e' d hv hi h
  | setUse w r => exact absurd hv (by simp [ValidArgsW])
  | addReplace a b c d => simp only [applyWork, Option.some.injEq] at h; exact workAddReplace_inv e e' a b c d hv hi h
  | dropReplace a b => simp only [applyWork, Option.some.injEq] at h; exact workDropReplace_inv e e' a b hv hi h
  | sortBlocks => simp only [applyWork, Option.some.injEq, Except.ok.injEq] at h; subst h; exact workSortBlocks_inv e hi
  | cleanup => simp only [applyWork, Option.some.injEq, Except.ok.injEq] at h; subst h; exact workCleanup_inv e hi
  | addModule p => simp [applyWork] at h
  | addRequire p v => simp [applyWork] at h
  | addNewRequire p v i => simp [applyWork] at h
  | dropRequire p => simp [applyWork] at h
  | setRequire w r => simp [applyWork] at h
  | setRequireSeparateIndirect w r => simp [applyWork] at h
  | addExclude p v => simp [applyWork] at h
  | dropExclude p v => simp [applyWork] at h
  | addRetract a b c => simp [applyWork] at h
  | dropRetract a b => simp [applyWork] at h
  | addTool p => simp [applyWork] at h
  | dropTool p => simp [applyWork] at h

theorem runOpsWork_inv (ops : List Op) : ∀ (e : EWork) (res0 : List Bool) (i : Nat) (e' : EWork) (res : List Bool),
    (∀ op ∈ ops, ValidArgsW op) → InvW e → runOps applyWork e ops res0 i = .done e' res → InvW e' :=
  runOps_preserves applyWork InvW ValidArgsW (fun e e' op hv hi h => applyWork_inv e e' op hv hi h) ops

theorem InvW_empty : InvW (loadWork {}) := by
  refine ⟨⟨by simp [loadWork, shiftSyntax, treeIds, loc], by simp [loadWork, shiftSyntax, treeIds, loc],
      by simp [loadWork, shiftSyntax, treeIds, loc], by simp [loadWork, shiftSyntax], by simp [loadWork, shiftSyntax],
      by simp [loadWork, shiftSyntax], by simp [loadWork, shiftSyntax]⟩, ?_, ?_⟩
  · refine ⟨by simp [loadWork, entriesW, entsOf], by simp [loadWork, entriesW, entsOf], by simp [loadWork, shiftSyntax, view, loc]⟩
  · exact WInv_load {} (workStartOKb_sound {} (by decide))

/-- **go.work, tree half of C15**: any session (all operations but SetUse — see `setUse_inv`) + Cleanup -/
theorem typed_eq_tree_work (e e' : EWork) (ops : List Op) (res : List Bool) (hi : InvW e)
    (hv : ∀ op ∈ ops, ValidArgsW op) (h : runOps applyWork e ops [] 0 = .done e' res) : InvW (workCleanup e') :=
  workCleanup_inv e' (runOpsWork_inv ops e [] 0 e' res hv hi h)

/-! ### the `use` lines of the tree after SetUse -/

theorem verbs_ne_use : B "go" ≠ B "use" ∧ B "toolchain" ≠ B "use" ∧ B "godebug" ≠ B "use" ∧ B "replace" ≠ B "use" := by
  decide +kernel

theorem InvW.line_entry {e : EWork} (hi : InvW e) (v : VLine) (hv : v ∈ view e.f.syn.stmts) :
    ∃ en ∈ entriesW e.f, en.id = v.id ∧ en.acc v.toks v.suffix := hi.mtch.line_entry hi.tree v hv

theorem InvW.use_line {e : EWork} (hi : InvW e) (u : Use) (hu : u ∈ e.f.use) (hl : u.path ≠ []) :
    ∃ v ∈ view e.f.syn.stmts, v.id = u.lineId ∧ v.toks = [B "use", autoQuote u.path] := by
  have hen : entU u ∈ entriesW e.f := by
    rw [entriesW_use]
    exact List.mem_append_right _ (List.mem_append_left _ ((mem_entsOf liveU entU).2 ⟨u, hu, ne_nil_live hl, rfl⟩))
  rcases hi.mtch.cover _ hen with ⟨v, hv, hid, hacc⟩
  exact ⟨v, hv, hid, hacc⟩

theorem InvW.use_line_entry {e : EWork} (hi : InvW e) (v : VLine) (hv : v ∈ view e.f.syn.stmts)
    (hverb : v.toks.head? = some (B "use")) :
    ∃ u ∈ e.f.use, liveU u = true ∧ u.lineId = v.id ∧ v.toks = [B "use", autoQuote u.path] := by
  rcases hi.line_entry v hv with ⟨en, hen, hid, hacc⟩
  rcases verbs_ne_use with ⟨n1, n2, n3, n4⟩
  simp only [entriesW, List.mem_append, List.mem_map, Option.mem_toList, entsOf, List.mem_filter] at hen
  rcases hen with ⟨x, _, rfl⟩ | ⟨x, _, rfl⟩ | ⟨x, _, rfl⟩ | ⟨x, hx, rfl⟩ | ⟨x, _, rfl⟩
  · simp only [entGo] at hacc; rw [hacc] at hverb; simp at hverb; exact absurd hverb n1
  · simp only [entTc] at hacc; rw [hacc] at hverb; simp at hverb; exact absurd hverb n2
  · simp only [entG] at hacc; rw [hacc] at hverb; simp at hverb; exact absurd hverb n3
  · exact ⟨x, hx.1, hx.2, hid, hacc⟩
  · simp only [entRp, replaceToks] at hacc; rw [hacc] at hverb; simp at hverb; exact absurd hverb n4

/-- **SetUse on the tree**: after `SetUse dirs` and Cleanup the tree has a live line `use <dir>` for every requested
    directory, and every live `use` line is one of them -/
theorem setUse_tree_exact (e e' : EWork) (dirs : List (Bytes × Bytes)) (perm : List (Bytes × Bytes) → List (Bytes × Bytes))
    (hperm : ∀ l, (perm l).Perm l) (hg : GoodUse dirs) (hi : InvW e) (hlive : ∀ u ∈ e.f.use, liveU u = true)
    (h : setUse e dirs perm = .ok e') :
    InvW (workCleanup e') ∧
    (∀ d ∈ dirs, ∃ v ∈ view (workCleanup e').f.syn.stmts, v.toks = [B "use", autoQuote d.1]) ∧
    (∀ v ∈ view (workCleanup e').f.syn.stmts, v.toks.head? = some (B "use") →
      ∃ d ∈ dirs, v.toks = [B "use", autoQuote d.1]) := by
  have hi' := workCleanup_inv e' (setUse_inv e e' dirs perm hperm hg hi hlive h)
  rcases setUse_exact e e' dirs perm hperm hg hi.winv h with ⟨hp, _, hsub⟩
  refine ⟨hi', ?_, ?_⟩
  · intro d hd
    have hmem : d.1 ∈ (absOfWork (workCleanup e').f).use := hp.symm.subset (List.mem_map.2 ⟨d, hd, rfl⟩)
    simp only [absOfWork, List.mem_map] at hmem
    rcases hmem with ⟨u, hu, heq⟩
    have hl : u.path ≠ [] := by rw [heq]; exact hg.2 d hd
    rcases hi'.use_line u hu hl with ⟨v, hv, _, htoks⟩
    exact ⟨v, hv, by rw [htoks, heq]⟩
  · intro v hv hverb
    rcases hi'.use_line_entry v hv hverb with ⟨u, hu, _, _, htoks⟩
    have hmem : u.path ∈ (absOfWork (workCleanup e').f).use := by
      simp only [absOfWork, List.mem_map]; exact ⟨u, hu, rfl⟩
    rcases hsub _ hmem with ⟨d, hd, heq⟩
    exact ⟨d, hd, by rw [htoks, heq]⟩

end ModVerif.Modfile.Edit
