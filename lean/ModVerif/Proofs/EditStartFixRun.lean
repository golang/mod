/-
  Fixers that satisfy `FixerOK`: `guardFixer fx` (the fixer `fx` with an empty answer turned into an error) for every `fx`,
  the harness fixer `Modfile.fixStub` as it is; and C15 `nilDeref_unreachable` for a file parsed with such a fixer (the
  start lemma of Proofs/EditStartParse.lean; everything after it is a theorem about states).
-/
import ModVerif.Proofs.EditStartParse
import ModVerif.Proofs.EditPanicRun
import ModVerif.Proofs.EditWorkTotal
import ModVerif.Proofs.ModfileFmtFixVersion
namespace ModVerif.Modfile.Edit.SFix
open ModVerif ModVerif.Modfile ModVerif.Modfile.Edit ModVerif.Proofs.ModfileC20 ModVerif.Proofs.EditMore

def guardFixer (fx : Fixer) : Fixer := fun p v =>
  match fx p v with
  | .ok [] => .error .plain
  | r => r

theorem fixerOK_guard (fx : Fixer) : FixerOK (guardFixer fx) := by
  intro p v r h
  unfold guardFixer at h
  split at h
  · cases h
  · rename_i hne
    intro e
    subst e
    exact hne h

theorem guardFixer_eq {fx : Fixer} (h : FixerOK fx) : guardFixer fx = fx := by
  funext p v
  unfold guardFixer
  split
  · rename_i he; exact absurd rfl (h p v [] he)
  · rfl

theorem byteArray_toList_loop_length (bs : ByteArray) (i : Nat) (r : List UInt8) :
    (ByteArray.toList.loop bs i r).length = r.length + (bs.size - i) := by
  fun_induction ByteArray.toList.loop bs i r with
  | case1 i r h ih => rw [ih]; simp; omega
  | case2 i r h => simp; omega

theorem byteArray_toList_length (bs : ByteArray) : bs.toList.length = bs.size := by
  simp [ByteArray.toList, byteArray_toList_loop_length]

theorem B_length (s : String) : (B s).length = s.utf8ByteSize := by
  simp [B, Bytes.ofString, byteArray_toList_length]

theorem B_append_ne_nil (a b : String) (ha : 0 < a.utf8ByteSize) : B (a ++ b) ≠ [] := by
  intro h
  have := B_length (a ++ b)
  rw [h, String.utf8ByteSize_append] at this
  simp at this
  omega

theorem fixerOK_fixStub : FixerOK Modfile.fixStub := by
  intro p v r h
  unfold Modfile.fixStub at h
  split at h
  · cases h
  split at h
  · cases h
  split at h
  · rename_i hv
    cases h
    exact (ModVerif.Proofs.ModfileFmtFix.canonicalVersion_ne_nil_iff v).2 hv
  split at h
  · cases h; decide +kernel
  split at h
  · cases h; decide +kernel
  split at h
  · cases h
    rw [String.append_assoc]
    exact B_append_ne_nil _ _ (by decide)
  · cases h

/-- Props/C15 `nilDeref_unreachable_fix` -/
theorem nilDeref_unreachable_fix {fix : Option Fixer} (hfx : FixOK fix) (name data : Bytes) (f : File) (ops : List Op)
    (hf : parseToFile name data fix true = .ok f) (hk : WellFormedKeys f) (hs : NoBlockSuffix f.syn)
    (hv : StaticValid false ops) (hmod : ∀ op ∈ ops, IsModOp op) :
    ∃ e' res, runOps applyMod (load f) ops [] 0 = .done e' res ∧
      (∀ (pre : List Op) (op : Op) (post : List Op), ops = pre ++ op :: post →
        ∃ e1 r1, runOps applyMod (load f) pre [] 0 = .done e1 r1 ∧
          applyMod e1 op ≠ some (.error .nilDeref) ∧ applyMod e1 op ≠ some (.error .badStatement) ∧
          applyMod e1 op ≠ some (.error .conflictingVersions)) ∧
      P.Inv (cleanup e') :=
  P.nilDeref_unreachable_inv (load f) ops (P.Inv.ofFull (parseStrict_inv_fix hfx hf hk hs)) hv hmod

/-- Props/C15 `nilDeref_unreachable_work_fix` -/
theorem nilDeref_unreachable_work_fix {fix : Option Fixer} (hfx : FixOK fix) (name data : Bytes) (f : WorkFile) (ops : List Op)
    (hf : parseWork name data fix = .ok f) (hk : WorkKeys f) (hs : NoBlockSuffix f.syn)
    (hv : StaticValidW false ops) (hw : ∀ op ∈ ops, IsWorkOp op) :
    ∃ e' res, runOps applyWork (loadWork f) ops [] 0 = .done e' res ∧
      (∀ (pre : List Op) (op : Op) (post : List Op), ops = pre ++ op :: post →
        ∃ e1 r1, runOps applyWork (loadWork f) pre [] 0 = .done e1 r1 ∧
          applyWork e1 op ≠ some (.error .nilDeref) ∧ applyWork e1 op ≠ some (.error .badStatement) ∧
          applyWork e1 op ≠ some (.error .conflictingVersions)) ∧
      InvW (workCleanup e') :=
  nilDeref_unreachable_work_inv (loadWork f) ops (parseWork_invW_fix hfx hf hk hs) hv hw

end ModVerif.Modfile.Edit.SFix
