/-
  Tie proofs for the regenerated module.go functions: splitGopkgIn and SplitPathVersion
  (module/module.go:536-581).  The Go code scans an index downward from `len(path)`; the hand model works on the
  reversed string.  The loop lemmas are stated for `path = r.reverse ++ tail` with the index at `r.length`.
-/
import ModVerif.Generated.FnModule
import ModVerif.Model.Module
import ModVerif.Proofs.GoRtLemmas
import ModVerif.Proofs.GoRtLemmasStr
import ModVerif.Proofs.ModuleSplit
namespace ModVerif.TieFnModule
open ModVerif ModVerif.GoRt ModVerif.GoRtStr

/-! ### the two downward scans -/

theorem splitDigitTest (c : UInt8) :
    (decide ((48 : Int) ≤ ((c.toNat : Nat) : Int)) && decide (((c.toNat : Nat) : Int) ≤ (57 : Int))) = Module.isDigit c := by
  simp only [int_le_byte (n := 48) (d := 48) rfl, byte_le_int (n := 57) (d := 57) rfl, Module.isDigit]

theorem splitIdxPrev (r tail : Bytes) (c : UInt8) :
    idx ((c :: r).reverse ++ tail) ((((c :: r).length : Nat) : Int) - 1) = .ok ((c.toNat : Nat) : Int) := by
  have h : (c :: r).reverse ++ tail = r.reverse ++ c :: tail := by simp
  have h2 : (((c :: r).length : Nat) : Int) - 1 = ((r.reverse.length : Nat) : Int) := by simp
  rw [h, h2, idx_append_length]

theorem splitGopkgIn_loop1_spec : ∀ (r tail : Bytes) (fuel : Nat), r.length < fuel →
    Generated.Module.splitGopkgIn_loop1 (r.reverse ++ tail) fuel (r.length : Int)
      = .ok (((r.dropWhile Module.isDigit).length : Nat) : Int) := by
  intro r
  induction r with
  | nil =>
    intro tail fuel hf
    obtain ⟨f, rfl⟩ : ∃ f, fuel = f + 1 := ⟨fuel - 1, by simp only [List.length_nil] at hf; omega⟩
    simp [Generated.Module.splitGopkgIn_loop1]
  | cons c r ih =>
    intro tail fuel hf
    obtain ⟨f, rfl⟩ : ∃ f, fuel = f + 1 := ⟨fuel - 1, by simp at hf; omega⟩
    have hpos : (((c :: r).length : Nat) : Int) > 0 := by simp only [List.length_cons]; omega
    have hrec := ih (c :: tail) f (by simp at hf; omega)
    have hpath : (c :: r).reverse ++ tail = r.reverse ++ c :: tail := by simp
    have hi : (((c :: r).length : Nat) : Int) - 1 = ((r.length : Nat) : Int) := by simp
    unfold Generated.Module.splitGopkgIn_loop1
    simp only [hpos, decide_true, if_true, splitIdxPrev, bind_ok, pure_eq_ok]
    have hd := splitDigitTest c
    by_cases h1 : (48 : Int) ≤ ((c.toNat : Nat) : Int) <;> by_cases h2 : ((c.toNat : Nat) : Int) ≤ (57 : Int) <;>
      simp only [h1, h2, decide_true, decide_false, Bool.and_self, Bool.and_false, Bool.false_and] at hd <;>
      simp [h1, h2, ← hd]
    exact hrec

/-- the scan predicate of SplitPathVersion -/
def splitDigDot (c : UInt8) : Bool := Module.isDigit c || c == 46

theorem SplitPathVersion_loop1_spec : ∀ (r tail : Bytes) (fuel : Nat) (dot : Bool), r.length < fuel →
    Generated.Module.SplitPathVersion_loop1 (r.reverse ++ tail) fuel dot (r.length : Int)
      = .ok (dot || (r.takeWhile splitDigDot).contains 46, (((r.dropWhile splitDigDot).length : Nat) : Int)) := by
  intro r
  induction r with
  | nil =>
    intro tail fuel dot hf
    obtain ⟨f, rfl⟩ : ∃ f, fuel = f + 1 := ⟨fuel - 1, by simp only [List.length_nil] at hf; omega⟩
    simp [Generated.Module.SplitPathVersion_loop1]
  | cons c r ih =>
    intro tail fuel dot hf
    obtain ⟨f, rfl⟩ : ∃ f, fuel = f + 1 := ⟨fuel - 1, by simp at hf; omega⟩
    have hpos : (((c :: r).length : Nat) : Int) > 0 := by simp only [List.length_cons]; omega
    have hrec := fun d => ih (c :: tail) f d (by simp at hf; omega)
    have hpath : (c :: r).reverse ++ tail = r.reverse ++ c :: tail := by simp
    have hi : (((c :: r).length : Nat) : Int) - 1 = ((r.length : Nat) : Int) := by simp
    unfold Generated.Module.SplitPathVersion_loop1
    simp only [hpos, decide_true, if_true, splitIdxPrev, bind_ok, pure_eq_ok]
    by_cases h3 : c = 46
    · subst h3
      simp [splitDigDot, hrec]
    · have hd := splitDigitTest c
      have he := byte_eq_int (n := 46) (d := 46) (c := c) rfl
      have h3' : ¬ (46 = c) := fun h => h3 h.symm
      by_cases h1 : (48 : Int) ≤ ((c.toNat : Nat) : Int) <;> by_cases h2 : ((c.toNat : Nat) : Int) ≤ (57 : Int) <;>
        simp only [h1, h2, decide_true, decide_false, Bool.and_self, Bool.and_false, Bool.false_and] at hd <;>
        simp [h1, h2, h3, h3', he, splitDigDot, ← hd, hrec]

/-- the part of `splitGopkgIn` after the scan: `end_` is the index where the scan started, `i` where it stopped
    (a verbatim copy of the generated text; `splitGopkgIn_unfold` below checks that by `rfl`) -/
def splitGopkgPost (path : Bytes) (end_ i : Int) : M (Bytes × Bytes × Bool) := do
  let t6 ← (if ((decide (i = end_)) || (decide (i ≤ (1 : Int)))) then pure true else (do
    let t5 ← idx path (i - (1 : Int))
    pure (!decide (t5 = (118 : Int)))))
  let t8 ← (if t6 then pure true else (do
    let t7 ← idx path (i - (2 : Int))
    pure (!decide (t7 = (46 : Int)))))
  if t8 then (pure (path, ([] : Bytes), false)) else (do
    let t9 ← sliceTo path (i - (2 : Int))
    let a10 := t9
    let t11 ← sliceFrom path (i - (2 : Int))
    let a12 := t11
    let prefix_ := a10
    let pathMajor := a12
    let t14 ← (if (decide ((len pathMajor) ≤ (2 : Int))) then pure true else (do
      let t13 ← idx pathMajor (2 : Int)
      pure ((decide (t13 = (48 : Int))) && (!decide (pathMajor = ([46, 118, 48] : Bytes))))))
    if t14 then (pure (path, ([] : Bytes), false)) else (pure (prefix_, pathMajor, true)))

theorem splitGopkgIn_unfold (fuel : Nat) (path : Bytes) :
    Generated.Module.splitGopkgIn fuel path =
      if (!(hasPrefix path ([103, 111, 112, 107, 103, 46, 105, 110, 47] : Bytes))) then .ok (path, ([] : Bytes), false)
      else if (hasSuffix path ([45, 117, 110, 115, 116, 97, 98, 108, 101] : Bytes)) then
        (Generated.Module.splitGopkgIn_loop1 path fuel (len path - 9) >>= splitGopkgPost path (len path - 9))
      else
        (Generated.Module.splitGopkgIn_loop1 path fuel (len path) >>= splitGopkgPost path (len path)) := rfl

theorem splitPostIdx2 (p X : Bytes) (a b : UInt8) (i : Int) (hi : i = (p.length : Int) + 2) :
    idx (p ++ b :: a :: X) (i - 2) = .ok ((b.toNat : Nat) : Int) := by
  have h : i - 2 = ((p.length : Nat) : Int) := by omega
  rw [h, idx_append_length]

theorem splitPostIdx1 (p X : Bytes) (a b : UInt8) (i : Int) (hi : i = (p.length : Int) + 2) :
    idx (p ++ b :: a :: X) (i - 1) = .ok ((a.toNat : Nat) : Int) := by
  have h : i - 1 = (((p ++ [b]).length : Nat) : Int) := by simp; omega
  have h2 : p ++ b :: a :: X = (p ++ [b]) ++ a :: X := by simp
  rw [h, h2, idx_append_length]

theorem splitPostTo (p X : Bytes) (i : Int) (hi : i = (p.length : Int) + 2) :
    sliceTo (p ++ X) (i - 2) = .ok p := by
  have h : i - 2 = ((p.length : Nat) : Int) := by omega
  rw [h, sliceTo_natCast (by simp)]; simp

theorem splitPostFrom (p X : Bytes) (i : Int) (hi : i = (p.length : Int) + 2) :
    sliceFrom (p ++ X) (i - 2) = .ok X := by
  have h : i - 2 = ((p.length : Nat) : Int) := by omega
  rw [h, sliceFrom_natCast (by simp)]; simp

theorem splitIdxTwo (a b : UInt8) (X : Bytes) : idx (b :: a :: X) 2 = idx X 0 := by
  have := idx_succ_cons b (a :: X) 1
  have h2 := idx_succ_cons a X 0
  simp only [Int.natCast_one, Int.natCast_zero, Int.zero_add] at this h2
  rw [← h2, ← this]; rfl

/-- the model's view of the same part: `digs` are the scanned digits (reversed), `rest` the reversed remainder -/
def splitGopkgModelPost (path digs rest tail : Bytes) : Bytes × Bytes × Bool :=
  if digs.isEmpty then (path, [], false) else
  match rest with
  | 118 :: 46 :: pre =>
    let pathMajor := 46 :: 118 :: (digs.reverse ++ tail)
    if pathMajor.length ≤ 2 || (pathMajor[2]? == some 48 && pathMajor != B ".v0") then (path, [], false)
    else (pre.reverse, pathMajor, true)
  | _ => (path, [], false)

theorem splitB_v0 : B ".v0" = [46, 118, 48] := by decide +kernel

theorem splitGopkgPost_spec (digs rest tail : Bytes) :
    splitGopkgPost (rest.reverse ++ (digs.reverse ++ tail)) ((digs.length + rest.length : Nat) : Int) (rest.length : Int)
      = .ok (splitGopkgModelPost (rest.reverse ++ (digs.reverse ++ tail)) digs rest tail) := by
  cases digs with
  | nil => simp [splitGopkgPost, splitGopkgModelPost]
  | cons d ds =>
    have hne : ¬ ((rest.length : Int) = (((d :: ds).length + rest.length : Nat) : Int)) := by simp; omega
    have hX : (d :: ds).reverse ++ tail ≠ [] := by simp
    simp only [splitGopkgModelPost, List.isEmpty_cons, Bool.false_eq_true, if_false]
    generalize (d :: ds).reverse ++ tail = X at hX
    rcases rest with _ | ⟨a, _ | ⟨b, pre⟩⟩
    · simp [splitGopkgPost]
    · simp [splitGopkgPost]
    · have hi : (((a :: b :: pre).length : Nat) : Int) = (pre.reverse.length : Int) + 2 := by simp; omega
      have hpath : (a :: b :: pre).reverse ++ X = pre.reverse ++ b :: a :: X := by simp
      have hle : ¬ ((((a :: b :: pre).length : Nat) : Int) ≤ 1) := by simp; omega
      rw [hpath]
      unfold splitGopkgPost
      simp only [hne, hle, decide_false, Bool.or_self, Bool.false_eq_true, if_false,
        splitPostIdx1 _ _ _ _ _ hi, splitPostIdx2 _ _ _ _ _ hi, splitPostTo _ _ _ hi, splitPostFrom _ _ _ hi,
        bind_ok, pure_eq_ok, byte_eq_int (n := 118) (d := 118) rfl, byte_eq_int (n := 46) (d := 46) rfl]
      rcases X with _ | ⟨x, xs⟩
      · exact absurd rfl hX
      · have hlen : ¬ (len (b :: a :: x :: xs) ≤ 2) := by simp [len_eq]; omega
        by_cases ha : a = 118
        · by_cases hb : b = 46
          · subst ha; subst hb
            simp only [hlen, splitIdxTwo, idx_zero_cons, bind_ok, splitB_v0, byte_eq_int (n := 48) (d := 48) rfl]
            by_cases hx : x = 48 <;> cases xs <;> simp [hx]
          · simp [ha, hb]
        · simp [ha]

theorem splitB_gopkg : B "gopkg.in/" = [103, 111, 112, 107, 103, 46, 105, 110, 47] := by decide +kernel
theorem splitB_unstable : B "-unstable" = [45, 117, 110, 115, 116, 97, 98, 108, 101] := by decide +kernel

theorem splitSuffix_decomp (path suf : Bytes) (h : hasSuffixB path suf = true) :
    path = (path.reverse.drop suf.length).reverse ++ suf := by
  obtain ⟨t, ht⟩ := (isPrefixOfB_iff _ _).mp h
  have h1 : path.reverse.drop suf.length = t := by
    rw [ht, ← List.length_reverse (as := suf)]; simp
  have h2 := congrArg List.reverse ht
  rw [h1]; simpa using h2

theorem splitGopkgScan_spec (rev1 tail : Bytes) (fuel : Nat) (hf : rev1.length < fuel) :
    (Generated.Module.splitGopkgIn_loop1 (rev1.reverse ++ tail) fuel (rev1.length : Int)
        >>= splitGopkgPost (rev1.reverse ++ tail) (rev1.length : Int))
      = .ok (splitGopkgModelPost (rev1.reverse ++ tail) (rev1.takeWhile Module.isDigit)
          (rev1.dropWhile Module.isDigit) tail) := by
  rw [splitGopkgIn_loop1_spec rev1 tail fuel hf, bind_ok]
  have hsplit : rev1.takeWhile Module.isDigit ++ rev1.dropWhile Module.isDigit = rev1 :=
    List.takeWhile_append_dropWhile
  generalize rev1.takeWhile Module.isDigit = digs at hsplit
  generalize rev1.dropWhile Module.isDigit = rest at hsplit
  subst hsplit
  have := splitGopkgPost_spec digs rest tail
  simpa using this

theorem splitGopkgIn_spec (path : Bytes) (fuel : Nat) (hf : path.length + 1 ≤ fuel) :
    Generated.Module.splitGopkgIn fuel path = .ok (Module.splitGopkgIn path) := by
  rw [splitGopkgIn_unfold]
  unfold Module.splitGopkgIn
  simp only [hasPrefix, hasSuffix, ← splitB_gopkg, ← splitB_unstable]
  by_cases hp : isPrefixOfB (B "gopkg.in/") path = true
  · simp only [hp, Bool.not_true, Bool.false_eq_true, if_false]
    by_cases hu : hasSuffixB path (B "-unstable") = true
    · have hdec := splitSuffix_decomp path _ hu
      have hl9 : (B "-unstable").length = 9 := by decide +kernel
      rw [hl9] at hdec
      have hlen : len path - 9 = (((path.reverse.drop 9).length : Nat) : Int) := by
        have := congrArg List.length hdec
        simp only [List.length_append, hl9, List.length_reverse] at this
        simp only [len_eq]; omega
      have hs := splitGopkgScan_spec (path.reverse.drop 9) (B "-unstable") fuel (by simp; omega)
      rw [← hdec, ← hlen] at hs
      simp only [hu, if_true, hs]
      rfl
    · have hs := splitGopkgScan_spec path.reverse [] fuel (by simp; omega)
      simp only [List.reverse_reverse, List.append_nil, List.length_reverse] at hs
      simp only [hu, Bool.false_eq_true, if_false, len_eq, hs]
      rfl
  · simp [hp]

/-- the part of `SplitPathVersion` after the scan (a verbatim copy of the generated text; `SplitPathVersion_unfold`
    below checks that by `rfl`) -/
def splitPVPost (path : Bytes) (dot : Bool) (i : Int) : M (Bytes × Bytes × Bool) := do
  let t10 ← (if ((decide (i ≤ (1 : Int))) || (decide (i = (len path)))) then pure true else (do
    let t9 ← idx path (i - (1 : Int))
    pure (!decide (t9 = (118 : Int)))))
  let t12 ← (if t10 then pure true else (do
    let t11 ← idx path (i - (2 : Int))
    pure (!decide (t11 = (47 : Int)))))
  if t12 then (pure (path, ([] : Bytes), true)) else (do
    let t13 ← sliceTo path (i - (2 : Int))
    let a14 := t13
    let t15 ← sliceFrom path (i - (2 : Int))
    let a16 := t15
    let prefix_ := a14
    let pathMajor := a16
    let t18 ← (if (dot || (decide ((len pathMajor) ≤ (2 : Int)))) then pure true else (do
      let t17 ← idx pathMajor (2 : Int)
      pure (decide (t17 = (48 : Int)))))
    if (t18 || (decide (pathMajor = ([47, 118, 49] : Bytes)))) then (pure (path, ([] : Bytes), false)) else (pure (prefix_, pathMajor, true)))

theorem SplitPathVersion_unfold (fuel : Nat) (path : Bytes) :
    Generated.Module.SplitPathVersion fuel path =
      if (hasPrefix path ([103, 111, 112, 107, 103, 46, 105, 110, 47] : Bytes)) then
        Generated.Module.splitGopkgIn fuel path
      else
        (Generated.Module.SplitPathVersion_loop1 path fuel false (len path) >>= fun x => splitPVPost path x.1 x.2) := rfl

/-- the model's view of the same part: `tl` is the scanned tail (reversed), `rest` the reversed remainder -/
def splitPVModelPost (path tl rest : Bytes) (dot : Bool) : Bytes × Bytes × Bool :=
  if tl.isEmpty then (path, [], true) else
  match rest with
  | 118 :: 47 :: pre =>
    let pathMajor := 47 :: 118 :: tl.reverse
    if dot || pathMajor.length ≤ 2 || pathMajor[2]? == some 48 || pathMajor == B "/v1" then (path, [], false)
    else (pre.reverse, pathMajor, true)
  | _ => (path, [], true)

theorem splitB_v1 : B "/v1" = [47, 118, 49] := by decide +kernel

theorem splitPVPost_spec (tl rest : Bytes) (dot : Bool) :
    splitPVPost (rest.reverse ++ tl.reverse) dot (rest.length : Int)
      = .ok (splitPVModelPost (rest.reverse ++ tl.reverse) tl rest dot) := by
  cases tl with
  | nil => simp [splitPVPost, splitPVModelPost, len_eq]
  | cons d ds =>
    have hne : ¬ ((rest.length : Int) = len (rest.reverse ++ (d :: ds).reverse)) := by simp [len_eq]; omega
    have hX : (d :: ds).reverse ≠ [] := by simp
    simp only [splitPVModelPost, List.isEmpty_cons, Bool.false_eq_true, if_false]
    generalize (d :: ds).reverse = X at hX hne
    rcases rest with _ | ⟨a, _ | ⟨b, pre⟩⟩
    · simp [splitPVPost]
    · simp [splitPVPost]
    · have hi : (((a :: b :: pre).length : Nat) : Int) = (pre.reverse.length : Int) + 2 := by simp; omega
      have hpath : (a :: b :: pre).reverse ++ X = pre.reverse ++ b :: a :: X := by simp
      have hle : ¬ ((((a :: b :: pre).length : Nat) : Int) ≤ 1) := by simp; omega
      rw [hpath] at hne ⊢
      unfold splitPVPost
      simp only [hne, hle, decide_false, Bool.or_self, Bool.false_eq_true, if_false,
        splitPostIdx1 _ _ _ _ _ hi, splitPostIdx2 _ _ _ _ _ hi, splitPostTo _ _ _ hi, splitPostFrom _ _ _ hi,
        bind_ok, pure_eq_ok, byte_eq_int (n := 118) (d := 118) rfl, byte_eq_int (n := 47) (d := 47) rfl]
      rcases X with _ | ⟨x, xs⟩
      · exact absurd rfl hX
      · have hlen : ¬ (len (b :: a :: x :: xs) ≤ 2) := by simp [len_eq]; omega
        by_cases ha : a = 118
        · by_cases hb : b = 47
          · subst ha; subst hb
            simp only [hlen, splitIdxTwo, idx_zero_cons, bind_ok, splitB_v1, byte_eq_int (n := 48) (d := 48) rfl]
            cases dot <;> by_cases hx : x = 48 <;> by_cases hy : x = 49 <;> cases xs <;> simp [hx, hy]
          · simp [ha, hb]
        · simp [ha]

theorem SplitPathVersion_spec (path : Bytes) (fuel : Nat) (hf : path.length + 1 ≤ fuel) :
    Generated.Module.SplitPathVersion fuel path = .ok (Module.splitPathVersion path) := by
  rw [SplitPathVersion_unfold]
  unfold Module.splitPathVersion
  simp only [hasPrefix, ← splitB_gopkg]
  by_cases hp : isPrefixOfB (B "gopkg.in/") path = true
  · simp only [hp, if_true]
    exact splitGopkgIn_spec path fuel hf
  · simp only [hp, Bool.false_eq_true, if_false]
    have hl := SplitPathVersion_loop1_spec path.reverse [] fuel false (by simp; omega)
    simp only [List.reverse_reverse, List.append_nil, List.length_reverse, Bool.false_or] at hl
    rw [len_eq, hl, bind_ok]
    have hfun : (fun c => Module.isDigit c || c == 46) = splitDigDot := rfl
    simp only [hfun]
    have hsplit : path.reverse.takeWhile splitDigDot ++ path.reverse.dropWhile splitDigDot = path.reverse :=
      List.takeWhile_append_dropWhile
    have hpath : path = (path.reverse.dropWhile splitDigDot).reverse ++ (path.reverse.takeWhile splitDigDot).reverse := by
      have := congrArg List.reverse hsplit
      rw [List.reverse_append, List.reverse_reverse] at this
      exact this.symm
    have := splitPVPost_spec (path.reverse.takeWhile splitDigDot) (path.reverse.dropWhile splitDigDot)
      ((path.reverse.takeWhile splitDigDot).contains 46)
    rw [← hpath] at this
    rw [this]
    rfl

/-! ### non-vacuity -/

example : Generated.Module.splitGopkgIn 40 (B "gopkg.in/yaml.v2") = .ok (B "gopkg.in/yaml", B ".v2", true) := by
  decide +kernel

example : Generated.Module.splitGopkgIn 40 (B "gopkg.in/yaml.v2-unstable")
    = .ok (B "gopkg.in/yaml", B ".v2-unstable", true) := by
  decide +kernel

example : Module.splitGopkgIn (B "gopkg.in/yaml.v2-unstable") = (B "gopkg.in/yaml", B ".v2-unstable", true) := by
  decide +kernel

example : Generated.Module.SplitPathVersion 40 (B "example.com/m/v2") = .ok (B "example.com/m", B "/v2", true) := by
  decide +kernel

example : Module.splitPathVersion (B "example.com/m/v2") = (B "example.com/m", B "/v2", true) := by
  decide +kernel

example : Generated.Module.SplitPathVersion 40 (B "example.com/m/v1.2") = .ok (B "example.com/m/v1.2", [], false) := by
  decide +kernel

/-- as in Go: `.v0-unstable` is rejected (`pathMajor[2] == '0' && pathMajor != ".v0"`) -/
example : Generated.Module.SplitPathVersion 40 (B "gopkg.in/yaml.v0-unstable")
    = .ok (B "gopkg.in/yaml.v0-unstable", [], false) := by
  decide +kernel

example : Generated.Module.SplitPathVersion 40 (B "gopkg.in/yaml.v3-unstable")
    = .ok (B "gopkg.in/yaml", B ".v3-unstable", true) := by
  decide +kernel

end ModVerif.TieFnModule
