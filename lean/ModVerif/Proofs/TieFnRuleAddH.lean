/-
  Helper lemmas for Tie/FnRuleAdd.lean: the statement loops of the regenerated `parseToFile` and `ParseWork`.

  The four regenerated loops are two programs (`walkH2` over the lines of a block, `walkH1` over the statements) with the
  directive handler, the test for a block verb and `strict` as parameters (`PL2_eq`, `PL1_eq`, `PW2_eq`, `PW1_eq`: by
  unfolding, so a change of a Go loop breaks its equation), as the model's loops are instances of `walkLines` /
  `walkStmts` (Proofs/ModfileWalk.lean).  The tie is proved once, `walkH2_spec` / `walkH1_spec`, for any `Kind` — what the
  loops use of a representation relation — and any handler that takes a represented state to a represented state
  (`StepOK`); `PL1_spec` and `PW1_spec` are its instances at `RepRS` / `File.add` and `RepWS` / `WorkFile.add`.
-/
import ModVerif.Proofs.TieFnRuleAddG
import ModVerif.Proofs.TieFnRuleAddE
import ModVerif.Proofs.ModfileWalk
namespace ModVerif.Tie.FnRuleAddH
open ModVerif ModVerif.GoRt ModVerif.Generated ModVerif.Tie.FnRuleRep ModVerif.Tie.FnRuleAddA ModVerif.Tie.FnRuleAddB ModVerif.Tie.FnRuleAddC
open ModVerif.Tie.FnRuleAddD ModVerif.Tie.FnRuleAddE ModVerif.Tie.FnRuleAddF ModVerif.Tie.FnRuleAddG
open ModVerif.Drv.GenRule (isPrintI unquoteI laxSubI deprecatedSubI fixG parseSynI)
open ModVerif.Modfile.Edit (treeIds walkLines walkStmts)

abbrev PL2 := Rule.parseToFile_loop2 deprecatedSubI Modfile.goVersionRE isPrintI laxSubI parseSynI Quote.quote Modfile.toolchainRE unquoteI
abbrev PL1 := Rule.parseToFile_loop1 deprecatedSubI Modfile.goVersionRE isPrintI laxSubI parseSynI Quote.quote Modfile.toolchainRE unquoteI
abbrev PW2 := Rule.ParseWork_loop2 Modfile.goVersionRE isPrintI parseSynI Quote.quote Modfile.toolchainRE unquoteI
abbrev PW1 := Rule.ParseWork_loop1 Modfile.goVersionRE isPrintI parseSynI Quote.quote Modfile.toolchainRE unquoteI

/-- What the statement loops use of a representation relation: the type of model states, the relation itself, where the
    file object at `fp` keeps its syntax pointer, and that a represented state has the represented tree there. -/
structure Kind (σ : Type) where
  Rep : (Int → Nat) → Rule.Heap → Int → List Rule.Error → σ → Modfile.FileSyntax → Prop
  synOf : Rule.Heap → Int → Option Int
  syn_of : ∀ {ι h fp errs st syn}, Rep ι h fp errs st syn → ∃ sp, synOf h fp = some sp ∧ RepSyn ι h sp syn

/-- `StepPost` / `StepPostW` for any kind -/
structure StepG {σ : Type} (K : Kind σ) (ι : Int → Nat) (h : Rule.Heap) (fp : Int) (syn : Modfile.FileSyntax) (lp : Int) (l : Modfile.Line)
    (pre : List Bytes) (res : σ × List Bytes) (errs' : List Rule.Error) (h' : Rule.Heap) : Prop where
  rep : K.Rep ι h' fp errs' res.1 (syn.updateLine l.id fun x => { x with token := pre ++ res.2 })
  lines : h'.lines = (setToksH h lp (pre ++ res.2)).lines
  blocks : h'.blocks = h.blocks
  cbs : h'.cbs = h.cbs
  files : h'.files = h.files
  fsyn : K.synOf h' fp = K.synOf h fp

def modK : Kind Modfile.AddState where
  Rep := RepRS
  synOf h fp := (heapGet h.mods fp).toOption.map (·.Syntax)
  syn_of R := by obtain ⟨o, ho, _, rs⟩ := R.obj; exact ⟨o.Syntax, by simp [ho, Except.toOption], rs⟩

def workK : Kind Modfile.WorkState where
  Rep := RepWS
  synOf h fp := (heapGet h.works fp).toOption.map (·.Syntax)
  syn_of R := by obtain ⟨o, ho, _, rs⟩ := R.obj; exact ⟨o.Syntax, by simp [ho, Except.toOption], rs⟩

section conv
variable {ι : Int → Nat} {h h' : Rule.Heap} {fp lp : Int} {errs errs' : List Rule.Error} {syn : Modfile.FileSyntax} {l : Modfile.Line} {pre : List Bytes}

theorem _root_.ModVerif.Tie.FnRuleAddA.StepPost.toG {st : Modfile.AddState} {res} (R : RepRS ι h fp errs st syn)
    (p : StepPost ι h fp syn lp l pre res errs' h') : StepG modK ι h fp syn lp l pre res errs' h' := by
  obtain ⟨o, ho, _⟩ := R.obj
  obtain ⟨o', ho', _⟩ := p.rep.obj
  exact ⟨p.rep, p.lines, p.blocks, p.cbs, p.files, by simp [modK, ho, ho', Except.toOption, p.fsyn o o' ho ho']⟩

theorem _root_.ModVerif.Tie.FnRuleAddE.StepPostW.toG {st : Modfile.WorkState} {res} (R : RepWS ι h fp errs st syn)
    (p : StepPostW ι h fp syn lp l pre res errs' h') : StepG workK ι h fp syn lp l pre res errs' h' := by
  obtain ⟨o, ho, _⟩ := R.obj
  obtain ⟨o', ho', _⟩ := p.rep.obj
  exact ⟨p.rep, p.lines, p.blocks, p.cbs, p.files, by simp [workK, ho, ho', Except.toOption, p.fsyn o o' ho ho']⟩

theorem modK_synOf {o : Rule.File} (ho : heapGet h.mods fp = .ok o) : modK.synOf h fp = some o.Syntax := by
  simp [modK, ho, Except.toOption]
theorem workK_synOf {o : Rule.WorkFile} (ho : heapGet h.works fp = .ok o) : workK.synOf h fp = some o.Syntax := by
  simp [workK, ho, Except.toOption]
end conv

/-- the handler as the loops call it (the block pointer is bound outside) -/
abbrev Handler := Nat → List Rule.Error → Int → Bytes → Rule.TokRef → Rule.Heap → M ((Unit × List Rule.Error) × Rule.Heap)

/-- One call of the handler on the line `l` (tokens `pre ++ args`, enclosing block `bp` with the model's comments `bc`)
    does on a represented state what the model handler does, whatever the heap and the pointer of the line are by then. -/
def StepOK {σ : Type} (K : Kind σ) (ι : Int → Nat) (fp : Int) (add : Int → Handler)
    (addM : σ → Option Modfile.Comments → Modfile.Line → Bytes → List Bytes → σ × List Bytes)
    (F : Nat) (bp : Int) (bc : Option Modfile.Comments) (verb : Bytes) (pre args : List Bytes) (l : Modfile.Line) : Prop :=
  ∀ fuel, F ≤ fuel → ∀ (h : Rule.Heap) (errs : List Rule.Error) (st : σ) (syn : Modfile.FileSyntax) (p : Int),
    K.Rep ι h fp errs st syn → RLine ι h p l → BlockRep h bp bc →
    ∃ errs' h', add bp fuel errs p verb { owner := p, lo := (pre.length : Int) } h = .ok (((), errs'), h') ∧
      StepG K ι h fp syn p l pre (addM st bc l verb args) errs' h'

theorem RLines.frame {ι : Int → Nat} {h h' : Rule.Heap} :
    ∀ {ps : List Int} {ls : List Modfile.Line}, RLines ι h ps ls → (∀ p ∈ ps, heapGet h'.lines p = heapGet h.lines p) → RLines ι h' ps ls
  | [], [], _, _ => trivial
  | p :: ps, l :: ls, r, hf => ⟨⟨by rw [hf p List.mem_cons_self]; exact r.1.1, r.1.2⟩,
      RLines.frame r.2 (fun q hq => hf q (List.mem_cons_of_mem _ hq))⟩
  | [], _ :: _, r, _ => r.elim
  | _ :: _, [], r, _ => r.elim

theorem RLines.ne_of_id {ι : Int → Nat} {h : Rule.Heap} {p : Int} {l : Modfile.Line} (hl : RLine ι h p l) :
    ∀ {ps : List Int} {ls : List Modfile.Line}, RLines ι h ps ls → l.id ∉ ls.map (·.id) → p ∉ ps
  | [], [], _, _ => by simp
  | q :: ps, m :: ls, r, hn => by
    simp only [List.map_cons, List.mem_cons, not_or] at hn
    intro hm
    rcases List.mem_cons.1 hm with rfl | hm'
    · exact hn.1 (by rw [← hl.2, ← r.1.2])
    · exact RLines.ne_of_id hl r.2 hn.2 hm'
  | [], _ :: _, r, _ => r.elim
  | _ :: _, [], r, _ => r.elim

def synBlk (syn : Modfile.FileSyntax) (A B : List Modfile.Expr) (b : Modfile.LineBlock) (ls : List Modfile.Line) : Modfile.FileSyntax :=
  { syn with stmts := A ++ .lineBlock { b with lines := ls } :: B }

set_option linter.unusedVariables false in -- `io27`: the translator's name for a result that is never read
/-- loop 2 of `parseToFile` / `ParseWork` (the text of `Rule.parseToFile_loop2`) with the call of the handler a parameter -/
def walkH2 (add : Handler) (rx : List Int) (bp : Int) : Nat → Int → Rule.Heap → List Rule.Error → M (Int × Rule.Heap × List Rule.Error)
  | 0, _, _, _ => throw Err.fuel
  | fuel + 1, ri, world, errs => (if (decide (ri < len rx)) then (do
      let l ← idxL rx ri
      let t22 ← heapGet ((world).blocks) bp
      let t23 ← idxL (t22.Token) (0 : Int)
      let t24 ← Rule.TokRef.make l (0 : Int) world
      let t25 ← add fuel errs l t23 t24 world
      let (wr26, world) := t25
      let (io27, errs) := wr26
      let ri := ri + 1
      walkH2 add rx bp fuel ri world errs) else (pure (ri, world, errs)))

theorem walkH2_spec {σ : Type} (K : Kind σ) {ι : Int → Nat} {fp bp : Int} {F : Nat} {verb : Bytes} {add : Int → Handler}
    {addM : σ → Option Modfile.Comments → Modfile.Line → Bytes → List Bytes → σ × List Bytes}
    {b : Modfile.LineBlock} {syn0 : Modfile.FileSyntax} {A B : List Modfile.Expr} (hbt : b.token = [verb]) :
    ∀ (todo : List Int) (LT : List Modfile.Line) (done : List Int) (LD : List Modfile.Line) (h : Rule.Heap) (errs : List Rule.Error)
      (st : σ) (bps : List Int) (fuel : Nat),
      F + todo.length + 1 ≤ fuel →
      K.Rep ι h fp errs st (synBlk syn0 A B b (LD ++ LT)) →
      heapGet h.blocks bp = .ok (blockG b bps) →
      RLines ι h todo LT →
      (∀ l ∈ LT, StepOK K ι fp add addM F bp (some b.comments) verb [] l.token l) →
      ∃ ri errs' h', walkH2 (add bp) (done ++ todo) bp fuel (done.length : Int) h errs = .ok (ri, h', errs') ∧
        K.Rep ι h' fp errs' (walkLines (fun st l toks => addM st (some b.comments) l verb toks) st LT).1 (synBlk syn0 A B b (LD ++ (walkLines (fun st l toks => addM st (some b.comments) l verb toks) st LT).2)) ∧
        h'.blocks = h.blocks ∧ h'.cbs = h.cbs ∧ h'.files = h.files ∧ h'.lines.length = h.lines.length ∧
        (∀ p, p ∉ todo → heapGet h'.lines p = heapGet h.lines p) ∧ K.synOf h' fp = K.synOf h fp := by
  intro todo
  induction todo with
  | nil =>
    intro LT done LD h errs st bps fuel hf R hb hls _
    cases LT with
    | cons _ _ => exact hls.elim
    | nil =>
      obtain ⟨n, rfl⟩ : ∃ n, fuel = n + 1 := ⟨fuel - 1, by omega⟩
      refine ⟨(done.length : Int), errs, h, ?_, ?_, rfl, rfl, rfl, rfl, fun _ _ => rfl, rfl⟩
      · rw [walkH2]
        simp only [List.append_nil, not_lt_len_self, decide_false, Bool.false_eq_true, if_false, pure, Except.pure]
      · simpa [walkLines] using R
  | cons p todo' ih =>
    intro LT done LD h errs st bps fuel hf R hb hls hstep
    cases LT with
    | nil => exact hls.elim
    | cons l LT' =>
    obtain ⟨n, rfl⟩ : ∃ n, fuel = n + 1 := ⟨fuel - 1, by omega⟩
    obtain ⟨hl, hls'⟩ := hls
    have hFn : F ≤ n := by simp at hf; omega
    obtain ⟨errs1, h1, hrun1, hpost⟩ := hstep l List.mem_cons_self n hFn h errs st _ p R hl ⟨_, hb, rfl⟩
    -- the tree after the step: the ids are pairwise different, so `updateLine` hits this line of this block only
    obtain ⟨sp, _, es, hsa⟩ := K.syn_of R
    have hnod : (treeIds (synBlk syn0 A B b (LD ++ l :: LT')).stmts).Nodup := hsa.nodupL
    have hsyn1 : (synBlk syn0 A B b (LD ++ l :: LT')).updateLine l.id
          (fun x => { x with token := [] ++ (addM st (some b.comments) l verb l.token).2 }) =
        synBlk syn0 A B b ((LD ++ [{ l with token := (addM st (some b.comments) l verb l.token).2 }]) ++ LT') := by
      have := updateLine_block_at (synBlk syn0 A B b (LD ++ l :: LT')) A B { b with lines := LD ++ l :: LT' } LD LT' l
        (fun x => { x with token := [] ++ (addM st (some b.comments) l verb l.token).2 }) rfl rfl hnod
      have e : ∀ (fs : Modfile.FileSyntax) (id : Nat) (g : Modfile.Line → Modfile.Line),
          fs.updateLine id g = { fs with stmts := (fs.updateLine id g).stmts } := fun _ _ _ => rfl
      rw [e, this]
      simp only [synBlk, List.nil_append, List.append_assoc, List.singleton_append]
    have R1 := hpost.rep
    rw [hsyn1] at R1
    -- the lines still to do are other objects: the step left them alone
    have hids : l.id ∉ LT'.map (·.id) := by
      have h1 : (treeIds [Modfile.Expr.lineBlock { b with lines := LD ++ l :: LT' }]).Nodup := by
        simp only [synBlk, Modfile.Edit.treeIds_append] at hnod
        have := (List.nodup_append.1 hnod).2.1
        rw [Modfile.Edit.treeIds_cons] at this
        exact (List.nodup_append.1 this).1
      rw [treeIds_one] at h1
      simp only [stmtLines, List.map_append, List.map_cons] at h1
      exact (List.nodup_cons.1 (List.nodup_append.1 h1).2.1).1
    have hpn : p ∉ todo' := RLines.ne_of_id hl hls' hids
    have hlines1 : ∀ q, q ≠ p → heapGet h1.lines q = heapGet h.lines q := by
      intro q hq
      rw [hpost.lines]
      exact heapGet_setToksH_other h _ hq
    have hls1 : RLines ι h1 todo' LT' := RLines.frame hls' (fun q hq => hlines1 q (fun e => hpn (e ▸ hq)))
    have hb1 : heapGet h1.blocks bp = .ok (blockG b bps) := by rw [hpost.blocks]; exact hb
    obtain ⟨ri, errs', h', hrun, R', hbl, hcb, hfi, hll, hfr, hfs⟩ :=
      ih LT' (done ++ [p]) (LD ++ [{ l with token := (addM st (some b.comments) l verb l.token).2 }]) h1 errs1
        (addM st (some b.comments) l verb l.token).1 bps n (by simp at hf; omega) R1 hb1 hls1
        (fun m hm => hstep m (List.mem_cons_of_mem _ hm))
    simp only [List.append_assoc, List.singleton_append, List.length_append, List.length_singleton, Int.natCast_add, Int.natCast_one] at hrun R'
    have hmk := TokView.make hl.1 (k := 0) (by omega)
    have hmk1 : tkMake p 0 h.lines = .ok { owner := p, lo := 0 } := by rw [← TokRef_make_eq]; exact hmk.1
    have hidx : idxL (blockG b bps).Token 0 = .ok verb := by rw [blockG_Token, hbt]; rfl
    refine ⟨ri, errs', h', ?_, ?_, by rw [hbl, hpost.blocks], by rw [hcb, hpost.cbs], by rw [hfi, hpost.files],
      by rw [hll, hpost.lines]; simp, ?_, hfs.trans hpost.fsyn⟩
    · have hrun1' : add bp n errs p verb { owner := p, lo := 0 } h = .ok (((), errs1), h1) := hrun1
      rw [walkH2]
      simp only [lt_len_mid, decide_true, if_true, idxL_mid, hb, hidx, TokRef_make_eq, hmk1, bind, Except.bind, pure, Except.pure, hrun1']
      exact hrun
    · simpa [walkLines] using R'
    · intro q hq
      rw [hfr q (fun hm => hq (List.mem_cons_of_mem _ hm))]
      exact hlines1 q (fun e => hq (e ▸ List.mem_cons_self))

theorem RStmts.dropLeft {ι : Int → Nat} {h : Rule.Heap} : ∀ {a : List Rule.Expr} {c : List Modfile.Expr} {b : List Rule.Expr} {d : List Modfile.Expr},
    RStmts ι h (a ++ b) (c ++ d) → a.length = c.length → RStmts ι h b d
  | [], [], _, _, r, _ => r
  | _ :: _, _ :: _, _, _, r, hl => RStmts.dropLeft (a := _) (c := _) r.2 (by simpa using hl)
  | [], _ :: _, _, _, _, hl => by simp at hl
  | _ :: _, [], _, _, _, hl => by simp at hl

def synTop (syn : Modfile.FileSyntax) (stmts : List Modfile.Expr) : Modfile.FileSyntax := { syn with stmts := stmts }

def maxBlock : List Modfile.Expr → Nat
  | [] => 0
  | .lineBlock b :: xs => max b.lines.length (maxBlock xs)
  | _ :: xs => maxBlock xs

set_option linter.unusedVariables false in -- `io13`, `ri20`: the translator's names for results that are never read
/-- loop 1 of `parseToFile` / `ParseWork` (the text of `Rule.parseToFile_loop1`) with the handler (a function of the block
    pointer), the test for a block verb and `strict` as parameters; `ParseWork` is the case `strict = true` -/
def walkH1 (add : Int → Handler) (known : Bytes → Bool) (strict : Bool) (rx5 : List Rule.Expr) (file : Bytes) :
    Nat → Int → Rule.Heap → List Rule.Error → M (Int × Rule.Heap × List Rule.Error)
  | 0, _, _, _ => throw Err.fuel
  | fuel + 1, ri6, world, errs => (if (decide (ri6 < len rx5)) then (do
      let x ← idxL rx5 ri6
      match x with
      | Rule.Expr.Line x_1 => (do
        let t8 ← heapGet ((world).lines) x_1
        let t9 ← idxL (t8.Token) (0 : Int)
        let t10 ← Rule.TokRef.make x_1 (1 : Int) world
        let t11 ← add (0 : Int) fuel errs x_1 t9 t10 world
        let (wr12, world) := t11
        let (io13, errs) := wr12
        let ri6 := ri6 + 1
        walkH1 add known strict rx5 file fuel ri6 world errs)
      | Rule.Expr.LineBlock x_2 => (do
        let t14 ← heapGet ((world).blocks) x_2
        if (decide ((len (t14.Token)) > (1 : Int))) then (if strict then (do
          let t15 ← heapGet ((world).blocks) x_2
          let errs := (errs ++ [({ (default : Rule.Error) with Filename := file, Pos := (t15.Start), Err := (some "unknown block type: %s") } : Rule.Error)])
          let ri6 := ri6 + 1
          walkH1 add known strict rx5 file fuel ri6 world errs) else (do
          let ri6 := ri6 + 1
          walkH1 add known strict rx5 file fuel ri6 world errs)) else (do
          let t16 ← heapGet ((world).blocks) x_2
          let t17 ← idxL (t16.Token) (0 : Int)
          if known t17 then (do
            let t18 ← heapGet ((world).blocks) x_2
            let rx19 := (t18.Line)
            let ri20 := (0 : Int)
            let (ri20, world, errs) ← walkH2 (add x_2) rx19 x_2 fuel ri20 world errs
            let ri6 := ri6 + 1
            walkH1 add known strict rx5 file fuel ri6 world errs) else (if strict then (do
            let t28 ← heapGet ((world).blocks) x_2
            let errs := (errs ++ [({ (default : Rule.Error) with Filename := file, Pos := (t28.Start), Err := (some "unknown block type: %s") } : Rule.Error)])
            let ri6 := ri6 + 1
            walkH1 add known strict rx5 file fuel ri6 world errs) else (do
            let ri6 := ri6 + 1
            walkH1 add known strict rx5 file fuel ri6 world errs))))
      | _ => (do
        let ri6 := ri6 + 1
        walkH1 add known strict rx5 file fuel ri6 world errs)) else (pure (ri6, world, errs)))

/-- `StepOK` for every line of the statement, and what the loops read before they call the handler: a line / a block has a first token -/
def StmtOK {σ : Type} (K : Kind σ) (ι : Int → Nat) (fp : Int) (add : Int → Handler)
    (addM : σ → Option Modfile.Comments → Modfile.Line → Bytes → List Bytes → σ × List Bytes) (F : Nat) : Modfile.Expr → Prop
  | .line l => ∃ verb args, l.token = verb :: args ∧ StepOK K ι fp add addM F 0 none verb [verb] args l
  | .lineBlock b => b.token ≠ [] ∧ ∀ verb, b.token = [verb] → ∀ bp, ∀ l ∈ b.lines, StepOK K ι fp add addM F bp (some b.comments) verb [] l.token l
  | _ => True

theorem walkH1_spec {σ : Type} (K : Kind σ) {ι : Int → Nat} {fp : Int} {F : Nat} {add : Int → Handler}
    {addM : σ → Option Modfile.Comments → Modfile.Line → Bytes → List Bytes → σ × List Bytes} {known : Bytes → Bool} {strict : Bool}
    {errM : σ → Modfile.Position → σ}
    (hpush : ∀ {h errs st syn e p}, K.Rep ι h fp errs st syn → ErrRep e ⟨p, .unknownBlock⟩ → K.Rep ι h fp (errs ++ [e]) (errM st p) syn)
    {syn0 : Modfile.FileSyntax} (file : Bytes) :
    ∀ (todo : List Rule.Expr) (ST : List Modfile.Expr) (done : List Rule.Expr) (SD : List Modfile.Expr) (h : Rule.Heap) (errs : List Rule.Error)
      (st : σ) (fuel : Nat),
      F + maxBlock ST + todo.length + 2 ≤ fuel →
      K.Rep ι h fp errs st (synTop syn0 (SD ++ ST)) →
      (∀ sp, K.synOf h fp = some sp → ∃ fo, heapGet h.files sp = .ok fo ∧ fo.Stmt = done ++ todo) →
      done.length = SD.length →
      (∀ x ∈ ST, StmtOK K ι fp add addM F x) →
      ∃ ri errs' h', walkH1 add known strict (done ++ todo) file fuel (done.length : Int) h errs = .ok (ri, h', errs') ∧
        K.Rep ι h' fp errs' (walkStmts addM known (fun st p => if strict then errM st p else st) st ST).1
          (synTop syn0 (SD ++ (walkStmts addM known (fun st p => if strict then errM st p else st) st ST).2)) := by
  intro todo
  induction todo with
  | nil =>
    intro ST done SD h errs st fuel hf R hfile hlen _
    obtain ⟨n, rfl⟩ : ∃ n, fuel = n + 1 := ⟨fuel - 1, by omega⟩
    have hST : ST = [] := by
      obtain ⟨sp, hsp, es, hsa⟩ := K.syn_of R
      obtain ⟨fo, hfo, hst⟩ := hfile sp hsp
      have : es = done := by have := hsa.file; rw [hfo] at this; cases this; simpa using hst
      subst this
      have hl := hsa.stmts.length
      simp only [synTop, List.length_append] at hl
      exact List.eq_nil_of_length_eq_zero (by omega)
    subst hST
    refine ⟨(done.length : Int), errs, h, ?_, by simpa [walkStmts] using R⟩
    rw [walkH1]
    simp only [List.append_nil, not_lt_len_self, decide_false, Bool.false_eq_true, if_false, pure, Except.pure]
  | cons x todo' ih =>
    intro ST done SD h errs st fuel hf R hfile hlen hleaf
    obtain ⟨n, rfl⟩ : ∃ n, fuel = n + 1 := ⟨fuel - 1, by omega⟩
    obtain ⟨sp, hsp, es, hsa⟩ := K.syn_of R
    obtain ⟨fo, hfo, hst⟩ := hfile sp hsp
    have hes : es = done ++ x :: todo' := by have := hsa.file; rw [hfo] at this; cases this; simpa using hst
    subst hes
    have hRS : RStmts ι h (x :: todo') ST := RStmts.dropLeft hsa.stmts hlen
    cases ST with
    | nil => exact hRS.elim
    | cons s ST' =>
    obtain ⟨hx, _⟩ := hRS
    have hnod : (treeIds (synTop syn0 (SD ++ s :: ST')).stmts).Nodup := hsa.nodupL
    have hcont : ∀ (h1 : Rule.Heap) (errs1 : List Rule.Error) (st1 : σ) (s1 : Modfile.Expr),
        K.Rep ι h1 fp errs1 st1 (synTop syn0 ((SD ++ [s1]) ++ ST')) → h1.files = h.files → K.synOf h1 fp = K.synOf h fp →
        ∃ ri errs' h', walkH1 add known strict (done ++ x :: todo') file n ((done.length : Int) + 1) h1 errs1 = .ok (ri, h', errs') ∧
          K.Rep ι h' fp errs' (walkStmts addM known (fun st p => if strict then errM st p else st) st1 ST').1
            (synTop syn0 (SD ++ s1 :: (walkStmts addM known (fun st p => if strict then errM st p else st) st1 ST').2)) := by
      intro h1 errs1 st1 s1 R1 hf1 hsyn1
      have hmb : maxBlock ST' ≤ maxBlock (s :: ST') := by
        cases s <;> simp [maxBlock]
        exact Nat.le_max_right _ _
      obtain ⟨ri, errs', h', hrun, R'⟩ := ih ST' (done ++ [x]) (SD ++ [s1]) h1 errs1 st1 n (by simp at hf; omega) R1
        (fun sp1 hsp1 => ⟨fo, by rw [hsyn1, hsp] at hsp1; cases hsp1; rw [hf1]; exact hfo, by rw [hst]; simp⟩) (by simp [hlen])
        (fun y hy => hleaf y (List.mem_cons_of_mem _ hy))
      simp only [List.append_assoc, List.singleton_append, List.length_append, List.length_singleton, Int.natCast_add, Int.natCast_one] at hrun R'
      exact ⟨ri, errs', h', hrun, R'⟩
    have hupd : ∀ (fs : Modfile.FileSyntax) (id : Nat) (g : Modfile.Line → Modfile.Line),
        fs.updateLine id g = { fs with stmts := (fs.updateLine id g).stmts } := fun _ _ _ => rfl
    cases x with
    | Line p =>
      cases s with
      | line l =>
        have hl : RLine ι h p l := hx
        obtain ⟨verb, args, htok, hLL⟩ := hleaf (.line l) List.mem_cons_self
        have hFn : F ≤ n := by simp at hf; omega
        obtain ⟨errs1, h1, hrun1, hpost⟩ := hLL n hFn h errs st _ p R hl rfl
        have hrun1' : add 0 n errs p verb { owner := p, lo := 1 } h = .ok (((), errs1), h1) := hrun1
        have hsyn1 : (synTop syn0 (SD ++ .line l :: ST')).updateLine l.id
              (fun x => { x with token := [verb] ++ (addM st none l verb args).2 }) =
            synTop syn0 ((SD ++ [.line { l with token := verb :: (addM st none l verb args).2 }]) ++ ST') := by
          rw [hupd, updateLine_line_at (synTop syn0 (SD ++ .line l :: ST')) SD ST' l _ rfl hnod]
          simp only [synTop, List.singleton_append, List.append_assoc]
        have R1 := hpost.rep
        rw [hsyn1] at R1
        obtain ⟨ri, errs', h', hrun, R'⟩ := hcont h1 errs1 _ _ R1 hpost.files hpost.fsyn
        have hmk := TokView.make hl.1 (k := 1) (by rw [lineG_Token, htok]; simp)
        have hmk1 : tkMake p 1 h.lines = .ok { owner := p, lo := 1 } := by rw [← TokRef_make_eq]; exact hmk.1
        have hidx : idxL (lineG l).Token 0 = .ok verb := by rw [lineG_Token, htok]; rfl
        refine ⟨ri, errs', h', ?_, ?_⟩
        · rw [walkH1]
          simp only [lt_len_mid, decide_true, if_true, idxL_mid, hl.1, hidx, TokRef_make_eq, hmk1, hrun1', bind, Except.bind, pure, Except.pure]
          exact hrun
        · simpa [walkStmts, Modfile.Edit.walkStmt, htok] using R'
      | _ => exact hx.elim
    | LineBlock bp =>
      cases s with
      | lineBlock b =>
        obtain ⟨ps, hb, hps⟩ : ∃ ps, heapGet h.blocks bp = .ok (blockG b ps) ∧ RLines ι h ps b.lines := hx
        obtain ⟨hbne, hbl⟩ := hleaf (.lineBlock b) List.mem_cons_self
        have hunk : ∀ (Kk : M (Int × Rule.Heap × List Rule.Error)),
            (Kk = if strict then
                walkH1 add known strict (done ++ Rule.Expr.LineBlock bp :: todo') file n ((done.length : Int) + 1) h
                  (errs ++ [({ (default : Rule.Error) with Filename := file, Pos := (blockG b ps).Start, Err := (some "unknown block type: %s") } : Rule.Error)])
              else walkH1 add known strict (done ++ Rule.Expr.LineBlock bp :: todo') file n ((done.length : Int) + 1) h errs) →
            ∃ ri errs' h', Kk = .ok (ri, h', errs') ∧
              K.Rep ι h' fp errs' (walkStmts addM known (fun st p => if strict then errM st p else st) (if strict then errM st b.start else st) ST').1
                (synTop syn0 (SD ++ .lineBlock b :: (walkStmts addM known (fun st p => if strict then errM st p else st) (if strict then errM st b.start else st) ST').2)) := by
          intro Kk hK
          have R0 : K.Rep ι h fp errs st (synTop syn0 ((SD ++ [.lineBlock b]) ++ ST')) := by
            simpa only [List.append_assoc, List.singleton_append] using R
          cases strict with
          | false =>
            simp only [Bool.false_eq_true, if_false] at hK ⊢
            rw [hK]
            exact hcont h errs st _ R0 rfl rfl
          | true =>
            simp only [if_true] at hK ⊢
            rw [hK]
            exact hcont h _ (errM st b.start) _ (hpush R0 ⟨rfl, errAbs_some (k := .unknownBlock) (by decide +kernel)⟩) rfl rfl
        cases hbt : b.token with
        | nil => exact absurd hbt hbne
        | cons verb rest =>
          cases rest with
          | cons v2 rest2 =>
            have hgt : GoRt.len (blockG b ps).Token > 1 := by rw [blockG_Token, hbt, len_eq]; simp; omega
            obtain ⟨ri, errs', h', hrun, R'⟩ := hunk _ rfl
            refine ⟨ri, errs', h', ?_, ?_⟩
            · rw [← hrun, walkH1]
              simp only [lt_len_mid, decide_true, if_true, idxL_mid, hb, hgt, bind, Except.bind, pure, Except.pure]
            · simpa [walkStmts, Modfile.Edit.walkStmt, hbt] using R'
          | nil =>
            have hgt : ¬ (GoRt.len (blockG b ps).Token > 1) := by rw [blockG_Token, hbt, len_eq]; simp
            have hidx : idxL (blockG b ps).Token 0 = .ok verb := by rw [blockG_Token, hbt]; rfl
            by_cases hv : known verb = true
            · have hplen := hps.length
              have hmb : b.lines.length ≤ maxBlock (Modfile.Expr.lineBlock b :: ST') := by simp [maxBlock]; exact Nat.le_max_left _ _
              have R0 : K.Rep ι h fp errs st (synBlk syn0 SD ST' b ([] ++ b.lines)) := R
              obtain ⟨ri2, errs2, h2, hrun2, R2, hbl2, hcb2, hfi2, hll2, hfr2, hfs2⟩ :=
                walkH2_spec K (F := F) hbt ps b.lines [] [] h errs st ps n (by simp at hf; omega) R0 hb hps (hbl verb hbt bp)
              have R2' : K.Rep ι h2 fp errs2 (walkLines (fun st l toks => addM st (some b.comments) l verb toks) st b.lines).1
                  (synTop syn0 ((SD ++ [.lineBlock { b with lines := (walkLines (fun st l toks => addM st (some b.comments) l verb toks) st b.lines).2 }]) ++ ST')) := by
                simpa only [synBlk, synTop, List.nil_append, List.append_assoc, List.singleton_append] using R2
              obtain ⟨ri, errs', h', hrun, R'⟩ := hcont h2 errs2 _ _ R2' hfi2 hfs2
              refine ⟨ri, errs', h', ?_, ?_⟩
              · rw [← hrun, walkH1]
                have hrun2' : walkH2 (add bp) ps bp n 0 h errs = .ok (ri2, h2, errs2) := by
                  have := hrun2; simp only [List.nil_append, List.length_nil, Int.natCast_zero] at this; exact this
                simp only [lt_len_mid, decide_true, if_true, idxL_mid, hb, hgt, decide_false, Bool.false_eq_true, if_false, hidx, hv, blockG_Line,
                  hrun2', bind, Except.bind, pure, Except.pure]
              · simpa [walkStmts, Modfile.Edit.walkStmt, hbt, hv] using R'
            · have hv' : known verb = false := by simpa using hv
              obtain ⟨ri, errs', h', hrun, R'⟩ := hunk _ rfl
              refine ⟨ri, errs', h', ?_, ?_⟩
              · rw [← hrun, walkH1]
                simp only [lt_len_mid, decide_true, if_true, idxL_mid, hb, hgt, decide_false, Bool.false_eq_true, if_false, hidx, hv',
                  bind, Except.bind, pure, Except.pure]
              · simpa [walkStmts, Modfile.Edit.walkStmt, hbt, hv'] using R'
      | _ => exact hx.elim
    | CommentBlock cp =>
      cases s with
      | commentBlock c =>
        have R0 : K.Rep ι h fp errs st (synTop syn0 ((SD ++ [.commentBlock c]) ++ ST')) := by
          simpa only [List.append_assoc, List.singleton_append] using R
        obtain ⟨ri, errs', h', hrun, R'⟩ := hcont h errs st _ R0 rfl rfl
        refine ⟨ri, errs', h', ?_, by simpa [walkStmts, Modfile.Edit.walkStmt] using R'⟩
        rw [← hrun, walkH1]
        simp only [lt_len_mid, decide_true, if_true, idxL_mid, bind, Except.bind, pure, Except.pure]
      | _ => exact hx.elim
    | LParen _ => cases s <;> exact hx.elim
    | RParen _ => cases s <;> exact hx.elim
    | FileSyntax _ => cases s <;> exact hx.elim
    | nil => cases s <;> exact hx.elim

/-- `File.add` / `WorkFile.add` as handlers -/
abbrev faH (fp : Int) (fix : Option (Bytes → Bytes → (Bytes × Option String))) (strict : Bool) : Int → Handler :=
  fun bp fuel errs l v t w => FA fuel fp errs bp l v t fix strict w
abbrev waH (fp : Int) (fix : Option (Bytes → Bytes → (Bytes × Option String))) : Int → Handler :=
  fun _ fuel errs l v t w => WA fuel fp errs l v t fix w

/-- the block verbs as the regenerated loops test them -/
def modKnown (v : Bytes) : Bool :=
  decide (v = ([109, 111, 100, 117, 108, 101] : Bytes)) || decide (v = ([103, 111, 100, 101, 98, 117, 103] : Bytes)) ||
    decide (v = ([114, 101, 113, 117, 105, 114, 101] : Bytes)) || decide (v = ([101, 120, 99, 108, 117, 100, 101] : Bytes)) ||
    decide (v = ([114, 101, 112, 108, 97, 99, 101] : Bytes)) || decide (v = ([114, 101, 116, 114, 97, 99, 116] : Bytes)) ||
    decide (v = ([116, 111, 111, 108] : Bytes))

def workKnown (v : Bytes) : Bool :=
  decide (v = ([103, 111, 100, 101, 98, 117, 103] : Bytes)) || decide (v = ([117, 115, 101] : Bytes)) || decide (v = ([114, 101, 112, 108, 97, 99, 101] : Bytes))

theorem blockVerbs_iff (verb : Bytes) : Modfile.verbIn verb Modfile.blockVerbs = modKnown verb := by
  simp only [modKnown, Modfile.verbIn, Modfile.blockVerbs, List.any_cons, List.any_nil, Bool.or_false, B_module, B_godebug, B_require, B_exclude,
    B_replace, B_retract, B_tool, bytes_beq_eq_decide]
  simp only [eq_comm (a := verb), Bool.or_assoc]

theorem workBlockVerbs_iff (verb : Bytes) : Modfile.verbIn verb Modfile.workBlockVerbs = workKnown verb := by
  simp only [workKnown, Modfile.verbIn, Modfile.workBlockVerbs, List.any_cons, List.any_nil, Bool.or_false, B_godebug, B_use, B_replace,
    bytes_beq_eq_decide]
  simp only [eq_comm (a := verb), Bool.or_assoc]

theorem PL2_eq (rx : List Int) (fix) (strict : Bool) (f bp : Int) : ∀ (fuel : Nat) (ri : Int) (w : Rule.Heap) (errs : List Rule.Error),
    PL2 rx fix strict f bp fuel ri w errs = walkH2 (faH f fix strict bp) rx bp fuel ri w errs
  | 0, _, _, _ => rfl
  | n + 1, ri, w, errs => by
    unfold PL2 at *
    rw [Rule.parseToFile_loop2, walkH2]
    simp only [PL2_eq rx fix strict f bp n]

theorem PW2_eq (rx : List Int) (fix) (f bp : Int) : ∀ (fuel : Nat) (ri : Int) (w : Rule.Heap) (errs : List Rule.Error),
    PW2 rx fix f bp fuel ri w errs = walkH2 (waH f fix bp) rx bp fuel ri w errs
  | 0, _, _, _ => rfl
  | n + 1, ri, w, errs => by
    unfold PW2 at *
    rw [Rule.ParseWork_loop2, walkH2]
    simp only [PW2_eq rx fix f bp n]

theorem PL1_eq (rx : List Rule.Expr) (file : Bytes) (fix) (strict : Bool) (fs f : Int) :
    ∀ (fuel : Nat) (ri : Int) (w : Rule.Heap) (errs : List Rule.Error),
    PL1 rx file fix strict fs f fuel ri w errs = walkH1 (faH f fix strict) modKnown strict rx file fuel ri w errs
  | 0, _, _, _ => rfl
  | n + 1, ri, w, errs => by
    have ih := PL1_eq rx file fix strict fs f n
    have i2 := PL2_eq
    unfold PL1 PL2 at *
    rw [Rule.parseToFile_loop1, walkH1]
    simp only [ih, i2, modKnown]
    rfl

theorem PW1_eq (rx : List Rule.Expr) (file : Bytes) (fix) (fs f : Int) :
    ∀ (fuel : Nat) (ri : Int) (w : Rule.Heap) (errs : List Rule.Error),
    PW1 rx file fix fs f fuel ri w errs = walkH1 (waH f fix) workKnown true rx file fuel ri w errs
  | 0, _, _, _ => rfl
  | n + 1, ri, w, errs => by
    have ih := PW1_eq rx file fix fs f n
    have i2 := PW2_eq
    unfold PW1 PW2 at *
    rw [Rule.ParseWork_loop1, walkH1]
    simp only [ih, i2, workKnown, if_true]
    rfl

theorem PL1_spec {ι : Int → Nat} {fp : Int} {F : Nat} {fx : Option Modfile.Fixer} {strict : Bool} {syn0 : Modfile.FileSyntax} (file : Bytes) (fsp : Int) :
    ∀ (todo : List Rule.Expr) (ST : List Modfile.Expr) (done : List Rule.Expr) (SD : List Modfile.Expr) (h : Rule.Heap) (errs : List Rule.Error)
      (st : Modfile.AddState) (fuel : Nat),
      F + maxBlock ST + todo.length + 2 ≤ fuel →
      RepRS ι h fp errs st (synTop syn0 (SD ++ ST)) →
      (∀ o, heapGet h.mods fp = .ok o → ∃ fo, heapGet h.files o.Syntax = .ok fo ∧ fo.Stmt = done ++ todo) →
      done.length = SD.length →
      (∀ x ∈ ST, StmtOK modK ι fp (faH fp (fixG fx) strict) (fun st blk l verb args => Modfile.File.add st blk l verb args fx strict) F x) →
      ∃ ri errs' h', PL1 (done ++ todo) file (fixG fx) strict fsp fp fuel (done.length : Int) h errs = .ok (ri, h', errs') ∧
        RepRS ι h' fp errs' (Modfile.addStmts fx strict st ST).1 (synTop syn0 (SD ++ (Modfile.addStmts fx strict st ST).2)) := by
  intro todo ST done SD h errs st fuel hf R hfile hlen hok
  rw [Modfile.Edit.addStmts_eq_walk, PL1_eq, funext blockVerbs_iff]
  refine walkH1_spec modK (errM := fun st p => st.err p .unknownBlock)
    (fun R0 he => ⟨R0.obj, R0.inj, R0.errs.snoc_rev he⟩) file todo ST done SD h errs st fuel hf R (fun sp hsp => ?_) hlen hok
  obtain ⟨o, ho, _⟩ := R.obj
  rw [modK_synOf ho] at hsp; cases hsp
  exact hfile o ho

theorem PW1_spec {ι : Int → Nat} {fp : Int} {F : Nat} {fx : Option Modfile.Fixer} {syn0 : Modfile.FileSyntax} (file : Bytes) (fsp : Int) :
    ∀ (todo : List Rule.Expr) (ST : List Modfile.Expr) (done : List Rule.Expr) (SD : List Modfile.Expr) (h : Rule.Heap) (errs : List Rule.Error)
      (st : Modfile.WorkState) (fuel : Nat),
      F + maxBlock ST + todo.length + 2 ≤ fuel →
      RepWS ι h fp errs st (synTop syn0 (SD ++ ST)) →
      (∀ o, heapGet h.works fp = .ok o → ∃ fo, heapGet h.files o.Syntax = .ok fo ∧ fo.Stmt = done ++ todo) →
      done.length = SD.length →
      (∀ x ∈ ST, StmtOK workK ι fp (waH fp (fixG fx)) (fun st _ l verb args => Modfile.WorkFile.add st l verb args fx) F x) →
      ∃ ri errs' h', PW1 (done ++ todo) file (fixG fx) fsp fp fuel (done.length : Int) h errs = .ok (ri, h', errs') ∧
        RepWS ι h' fp errs' (Modfile.workStmts fx st ST).1 (synTop syn0 (SD ++ (Modfile.workStmts fx st ST).2)) := by
  intro todo ST done SD h errs st fuel hf R hfile hlen hok
  rw [Modfile.Edit.workStmts_eq_walk, PW1_eq, funext workBlockVerbs_iff]
  refine walkH1_spec workK (strict := true) (errM := fun st p => st.err p .unknownBlock)
    (fun R0 he => ⟨R0.obj, R0.inj, R0.errs.snoc_rev he⟩) file todo ST done SD h errs st fuel hf R (fun sp hsp => ?_) hlen hok
  obtain ⟨o, ho, _⟩ := R.obj
  rw [workK_synOf ho] at hsp; cases hsp
  exact hfile o ho

end ModVerif.Tie.FnRuleAddH
