/-
  C16 `perm_independent` on the syntax tree, up to the fresh line ids: the lines a bulk setter adds in
  map-iteration order land in ONE block (Proofs/EditPermA.lean), have pairwise different tokens, and SortBlocks sorts
  that block by `lineLess`; so the two trees are equal once the ids handed out by the setter (those `≥ next`) are erased
  (`normStmt`).  Generic part: `landing_perm_invariant`.
-/
import ModVerif.Proofs.EditPermA
import ModVerif.Proofs.EditPerm
namespace ModVerif.Modfile.Edit
open ModVerif ModVerif.Modfile ModVerif.EditSpec

def normLine (n : Nat) (l : Line) : Line := if n ≤ l.id then { l with id := n } else l

def normStmt (n : Nat) : Expr → Expr
  | .line l => .line (normLine n l)
  | .lineBlock b => .lineBlock { b with lines := b.lines.map (normLine n) }
  | x => x

theorem normLine_token (n : Nat) (l : Line) : (normLine n l).token = l.token := by
  unfold normLine; split <;> rfl

theorem normLine_contains (n : Nat) (K : List Nat) (hK : ∀ k ∈ K, k < n) (l : Line) :
    K.contains (normLine n l).id = K.contains l.id := by
  unfold normLine
  split
  · rename_i h
    have h1 : K.contains n = false := by
      cases hc : K.contains n with
      | false => rfl
      | true => have := hK n (by simpa using hc); omega
    have h2 : K.contains l.id = false := by
      cases hc : K.contains l.id with
      | false => rfl
      | true => have := hK l.id (by simpa using hc); omega
    show K.contains n = K.contains l.id
    rw [h1, h2]
  · rfl

theorem dropKilled_append (K : List Nat) : ∀ xs ys : List Expr, dropKilled K (xs ++ ys) = dropKilled K xs ++ dropKilled K ys := by
  intro xs ys
  rw [dropKilled_flatMap, dropKilled_flatMap K xs, dropKilled_flatMap K ys, List.flatMap_append]

theorem dropKilled_norm (n : Nat) (K : List Nat) (hK : ∀ k ∈ K, k < n) : ∀ xs : List Expr,
    (dropKilled K xs).map (normStmt n) = dropKilled K (xs.map (normStmt n)) := by
  intro xs
  rw [dropKilled_flatMap, dropKilled_flatMap K (xs.map _), List.map_flatMap, List.flatMap_map]
  congr 1; funext x
  cases x with
  | line l =>
    simp only [normStmt, dropKilled, normLine_contains n K hK]
    split <;> simp [normStmt]
  | lineBlock b =>
    have hf : (b.lines.map (normLine n)).filter (fun l => !K.contains l.id)
        = (b.lines.filter (fun l => !K.contains l.id)).map (normLine n) := by
      rw [List.filter_map]
      congr 1
      apply List.filter_congr
      intro l _
      simp only [Function.comp, normLine_contains n K hK]
    simp only [normStmt, dropKilled, hf, List.isEmpty_map]
    split <;> simp [normStmt]
  | commentBlock c => rfl
  | lparen c => rfl
  | rparen c => rfl

theorem sortStmts_norm (n : Nat) (sem work : Bool) (xs : List Expr) :
    (sortStmts sem work xs).map (normStmt n) = sortStmts sem work (xs.map (normStmt n)) := by
  unfold sortStmts
  rw [List.map_map, List.map_map]
  apply List.map_congr_left
  intro x _
  cases x with
  | lineBlock b =>
    simp only [Function.comp, normStmt]
    rw [stableSort_map_token _ (normLine n) (normLine_token n)]
  | line l => rfl
  | commentBlock c => rfl
  | lparen c => rfl
  | rparen c => rfl

theorem sortStmts_append (sem work : Bool) (xs ys : List Expr) :
    sortStmts sem work (xs ++ ys) = sortStmts sem work xs ++ sortStmts sem work ys := by
  simp [sortStmts]

theorem block_perm_invariant (n : Nat) (K : List Nat) (hK : ∀ k ∈ K, k < n) (sem work : Bool) (blk : LineBlock)
    (hless : lessFor sem work blk.token = lineLess) (base new1 new2 : List Line)
    (hid1 : ∀ l ∈ new1, n ≤ l.id) (hid2 : ∀ l ∈ new2, n ≤ l.id)
    (hp : (new1.map (normLine n)).Perm (new2.map (normLine n))) (hd : new1.Pairwise (fun a b => a.token ≠ b.token)) :
    (sortStmts sem work (dropKilled K [.lineBlock { blk with lines := base ++ new1 }])).map (normStmt n)
      = (sortStmts sem work (dropKilled K [.lineBlock { blk with lines := base ++ new2 }])).map (normStmt n) := by
  have hkeep : ∀ (news : List Line), (∀ l ∈ news, n ≤ l.id) → news.filter (fun l => !K.contains l.id) = news := by
    intro news h
    apply List.filter_eq_self.2
    intro l hl
    cases hc : K.contains l.id with
    | false => rfl
    | true => have := hK l.id (by simpa using hc); have := h l hl; omega
  have hlen : new1.length = new2.length := by simpa using hp.length_eq
  simp only [dropKilled, List.filter_append, hkeep new1 hid1, hkeep new2 hid2]
  have hemp : (base.filter (fun l => !K.contains l.id) ++ new1).isEmpty = (base.filter (fun l => !K.contains l.id) ++ new2).isEmpty := by
    cases new1 with
    | nil => cases new2 with
      | nil => rfl
      | cons _ _ => simp at hlen
    | cons x1 t1 => cases new2 with
      | nil => simp at hlen
      | cons x2 t2 =>
        have he : ∀ (A : List Line) (x : Line) (t : List Line), (A ++ x :: t).isEmpty = false := by
          intro A x t; cases A <;> rfl
        rw [he, he]
  rw [hemp]
  split
  · rfl
  · simp only [sortStmts, List.map_cons, List.map_nil, normStmt]
    have hl : (if work = true then lineLess else if (headIs blk.token (B "exclude") && sem) = true then lineExcludeLess
        else if headIs blk.token (B "retract") = true then lineRetractLess else lineLess) = lineLess := by
      have := hless; unfold lessFor at this; exact this
    rw [hl, stableSort_lineLess_perm_invariant_modIds (normLine n) (normLine_token n) _ new1 new2 hp hd]

structure GoodAdds (verb : Bytes) (n : Nat) (ps : List Add) : Prop where
  verb : ∀ p ∈ ps, p.toks.head?.getD [] = verb
  ne : ∀ p ∈ ps, p.toks ≠ []
  good : ∀ p ∈ ps, GoodG p.upd
  nodup : (ps.map (·.id)).Nodup
  ge : ∀ p ∈ ps, n ≤ p.id

theorem GoodAdds.fresh {verb : Bytes} {n : Nat} {ps : List Add} (h : GoodAdds verb n ps)
    {stmts : List Expr} (hlt : ∀ i ∈ treeIds stmts, i < n) : FreshFor stmts ps :=
  ⟨h.nodup, fun p hp hm => by have := hlt _ hm; have := h.ge p hp; omega⟩

theorem take_one_verb {t : List Bytes} {verb : Bytes} (hne : t ≠ []) (hv : t.head?.getD [] = verb) : t.take 1 = [verb] := by
  cases t with
  | nil => exact absurd rfl hne
  | cons a as => simpa using hv

theorem mkG_ge {verb : Bytes} {n : Nat} {ps : List Add} (h : GoodAdds verb n ps) :
    ∀ l ∈ ps.map mkG, n ≤ l.id := by
  intro l hl
  rcases List.mem_map.1 hl with ⟨p, hp, rfl⟩
  rw [mkG_id p (h.good p hp)]; exact h.ge p hp

theorem landing_perm_invariant (fs : FileSyntax) (verb : Bytes) (n : Nat) (hlt : ∀ i ∈ treeIds fs.stmts, i < n)
    (K : List Nat) (hK : ∀ k ∈ K, k < n) (sem work : Bool)
    (hless : ∀ tok, headIs tok verb = true → lessFor sem work tok = lineLess)
    (ps1 ps2 : List Add) (h1 : GoodAdds verb n ps1) (h2 : GoodAdds verb n ps2)
    (hl1 : 2 ≤ ps1.length) (hl2 : 2 ≤ ps2.length)
    (hp : ((ps1.map mkG).map (normLine n)).Perm ((ps2.map mkG).map (normLine n)))
    (hd : (ps1.map mkG).Pairwise (fun a b => a.token ≠ b.token)) :
    (sortStmts sem work (dropKilled K (ps1.foldl addStep fs).stmts)).map (normStmt n)
      = (sortStmts sem work (dropKilled K (ps2.foldl addStep fs).stmts)).map (normStmt n) := by
  have hf1 := h1.fresh hlt
  have hf2 := h2.fresh hlt
  -- both runs have the shape `pre ++ [block with lines base ++ news] ++ post` with common `pre`, `post`, block and `base`
  have key : ∃ (pre post : List Expr) (blk : LineBlock) (base : List Line), headIs blk.token verb = true ∧
      (ps1.foldl addStep fs).stmts = pre ++ .lineBlock { blk with lines := base ++ ps1.map mkG } :: post ∧
      (ps2.foldl addStep fs).stmts = pre ++ .lineBlock { blk with lines := base ++ ps2.map mkG } :: post := by
    rcases qual_cases verb fs.stmts with hno | ⟨pre, x, post, hs, hq, hpost⟩
    · rcases ps1 with _ | ⟨a1, _ | ⟨b1, r1⟩⟩
      · simp at hl1
      · simp at hl1
      rcases ps2 with _ | ⟨a2, _ | ⟨b2, r2⟩⟩
      · simp at hl2
      · simp at hl2
      refine ⟨fs.stmts, [], { token := [verb] }, [], by simp [headIs], ?_, ?_⟩
      · rw [addMany_none verb a1 b1 r1 fs hno h1.verb h1.ne h1.good hf1,
          take_one_verb (h1.ne a1 List.mem_cons_self) (h1.verb a1 List.mem_cons_self)]
        simp
      · rw [addMany_none verb a2 b2 r2 fs hno h2.verb h2.ne h2.good hf2,
          take_one_verb (h2.ne a2 List.mem_cons_self) (h2.verb a2 List.mem_cons_self)]
        simp
    · rcases ps1 with _ | ⟨a1, r1⟩
      · simp at hl1
      rcases ps2 with _ | ⟨a2, r2⟩
      · simp at hl2
      exact ⟨pre, post, asBlock x, (asBlock x).lines, asBlock_head hq,
        addMany_qual verb pre post hpost r1 a1 fs x hs hq h1.verb h1.good hf1,
        addMany_qual verb pre post hpost r2 a2 fs x hs hq h2.verb h2.good hf2⟩
  rcases key with ⟨pre, post, blk, base, hB, e1, e2⟩
  rw [e1, e2]
  have hsplit : ∀ news : List Line, pre ++ Expr.lineBlock { blk with lines := base ++ news } :: post
      = pre ++ ([Expr.lineBlock { blk with lines := base ++ news }] ++ post) := by intro news; simp
  rw [hsplit, hsplit]
  simp only [dropKilled_append, sortStmts_append, List.map_append]
  congr 2
  exact block_perm_invariant n K hK sem work blk (hless _ hB) base _ _ (mkG_ge h1) (mkG_ge h2) hp hd

end ModVerif.Modfile.Edit
