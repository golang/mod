/-
  The abstraction maps instantiated with the sequential client model:
   * `clientParams_abs`: C13's machine parameters `Props.C13.clientParams P E vs` abstract the sequential client's
     verification layer (`Abs`), for every environment — so the one-goroutine refinement holds for the C13 machine;
   * `honestEnv_cfgCell`: the configuration file of C01's honest environment is one compare-and-swap cell;
   * `honestParams`: the machine whose `checkTrees` answers are those the sequential `checkTrees` gives in the HONEST
     worlds of C01 (`HW`); C01's honest world (`Client.Honest`) discharges the machine-level hypothesis
     `ClientLatest.Honest` for it (`honestParams_honest`) — `Sound` included, without any collision-freedom hypothesis;
   * `concurrent_lookups_honest`: the composed system (Proofs/ClientRefineSeq.lean) over `honestParams` and the record
     cache with the client's keys: every concurrent lookup returns an honest response of the server for its module.
  Helper for Props/C14.lean.
-/
import ModVerif.Props.C13
import ModVerif.Proofs.ClientRefineSim
import ModVerif.Proofs.ClientRefineSeq
import ModVerif.Proofs.ClientMoreFetch
namespace ModVerif.ClientRefine
open ModVerif ModVerif.Client ModVerif.Tile

set_option linter.unusedSectionVars false

section
variable {σ H : Type} [DecidableEq H]

/-- C14 `clientParams_abstracts_client` -/
theorem clientParams_abs (P : Params H) (E : Env σ) (vs : List Note.Verifier) :
    Abs P E vs (Props.C13.clientParams P E vs) := by
  refine ⟨fun m => ?_, fun _ => rfl, rfl, fun w a o1 b o2 hle => ?_⟩
  · simp only [Props.C13.clientParams]
    cases openTree P vs m <;> rfl
  · simp only [Props.C13.clientParams, List.mem_append, List.mem_cons, List.not_mem_nil, or_false]
    cases hr : absChk (checkTrees P E w a o1 b o2).1 with
    | ok =>
      left
      rw [if_pos ⟨hle, w, o1, o2, absChk_ok hr⟩]
      simp
    | fork => right; left; rfl
    | error => right; right; rfl

theorem relG_init (P : Params H) (vs : List Note.Verifier) (MP : MParams H) (hz : MP.zero = ⟨0, P.empty⟩)
    (cl : Nat → Nat) (name : Bytes) (cfg : σ → Bytes) (t : Nat) (s0 : σ) (tr : List Effect) :
    RelG cl name cfg vs t (⟨s0, { newClient P with name := name, verifiers := vs }, tr⟩ : World σ H)
      (ClientLatest.init MP (optB (cfg s0))) := by
  refine ⟨rfl, rfl, ?_, ?_, rfl, rfl⟩
  · intro u h; simp [newClient] at h
  · simp [ClientLatest.init, hz, newClient]

end

section honest
variable {H : Type} [DecidableEq H]

theorem honestEnv_cfgCell (S : Server) : CfgCell (honestEnv S) S.v.name (fun s => s.latest) := by
  refine ⟨⟨fun _ _ => rfl, fun _ _ => rfl, fun _ _ _ => rfl, fun _ _ => rfl⟩, ?_, ?_, ?_, ?_, ?_⟩
  · intro s
    simp only [honestEnv]
    split
    · rfl
    · split <;> rfl
  · intro s v h
    simp only [honestEnv, latestFile_ne_key, if_false, if_true] at h
    cases h; rfl
  · intro s old new h
    simp only [honestEnv] at h ⊢
    split at h
    · rename_i hc
      simp only [hc, and_self, if_true]
    · cases h
  · intro s old new h
    simp only [honestEnv] at h
    split at h
    · cases h
    · rename_i hc
      intro e
      exact hc ⟨trivial, e⟩
  · intro s old new h
    simp only [honestEnv] at h
    split at h <;> cases h

open Classical in
/-- **the latest-head machine over the HONEST worlds of the sequential client**: `parse` is `openTree` under the
server's key; `chk older newer` holds exactly the abstractions (`absChk`) of the answers that the sequential
`checkTrees older newer` gives in some honest world (`HW`) of C01's honest environment -/
noncomputable def honestParams (P : Params H) (D : List Bytes) (S : Server) (stN : List H) : MParams H :=
  { parse := fun m => match openTree P [S.v] m with
      | .ok t => some t
      | .error _ => none
    size := fun t => t.n
    zero := ⟨0, P.empty⟩
    chk := fun a b =>
      (if a.n ≤ b.n ∧ ∃ (w : World HState H) (o1 o2 : Bytes), HW P D S stN w ∧ w.c.name = S.v.name ∧
          absChk (checkTrees P (honestEnv S) w a o1 b o2).1 = .ok then [ClientLatest.Res.ok] else []) ++
      (if ∃ (w : World HState H) (o1 o2 : Bytes), HW P D S stN w ∧ w.c.name = S.v.name ∧
          absChk (checkTrees P (honestEnv S) w a o1 b o2).1 = .fork then [ClientLatest.Res.fork] else []) ++
      (if ∃ (w : World HState H) (o1 o2 : Bytes), HW P D S stN w ∧ w.c.name = S.v.name ∧
          absChk (checkTrees P (honestEnv S) w a o1 b o2).1 = .error then [ClientLatest.Res.error] else []) }

theorem hw_fresh (P : Params H) (D : List Bytes) (S : Server) (stN : List H) (vs : List Note.Verifier) :
    HW P D S stN (⟨⟨[], []⟩, { newClient P with name := S.v.name, verifiers := vs }, []⟩ : World HState H) := by
  refine ⟨⟨0, Nat.zero_le _, ?_, fun h => absurd rfl h⟩, Or.inl rfl, ?_, ?_, ?_⟩
  · simp [newClient, rootAt_zero]
  · intro f d h; simp at h
  · intro t r h; simp [newClient] at h
  · intro rest r h; simp [newClient] at h

def HonestMsg (P : Params H) (D : List Bytes) (S : Server) : Option Bytes → Prop
  | none => True
  | some m => ∃ n, Signed P D S m n

/-- C14 `honest_world_is_honest_machine`.  `Sound` follows from `treeHashVia_honest` — no collision-freedom hypothesis. -/
theorem honestParams_honest (P : Params H) (D : List Bytes) (S : Server) (stN : List H) (hon : Honest P D S stN)
    (presented : Nat → Option Bytes) (c0 : Option Bytes)
    (hpres : ∀ t, HonestMsg P D S (presented t)) (hc0 : HonestMsg P D S c0) :
    ClientLatest.Honest (honestParams P D S stN) (Props.C13.headLe P D) (IsHead P D) presented c0 := by
  have hgood : ∀ om, HonestMsg P D S om → ClientLatest.GoodMsg (honestParams P D S stN) (IsHead P D) om := by
    intro om h
    cases om with
    | none => trivial
    | some m =>
      obtain ⟨n, hs⟩ := h
      refine ⟨⟨n, rootAt P D n⟩, ?_, hs.2, rfl⟩
      simp only [honestParams, hs.1]
  -- on heads of `D` in size order every honest world answers `ok`
  have hall : ∀ (a b : Head H), IsHead P D a → IsHead P D b → a.n ≤ b.n →
      ∀ (w : World HState H) (o1 o2 : Bytes), HW P D S stN w → w.c.name = S.v.name →
        (checkTrees P (honestEnv S) w a o1 b o2).1 = .ok () := by
    intro a b ha hb hle w o1 o2 hw hname
    obtain ⟨an, ah⟩ := a
    obtain ⟨bn, bh⟩ := b
    obtain ⟨ha1, ha2⟩ := ha
    obtain ⟨hb1, hb2⟩ := hb
    simp only at ha1 ha2 hb1 hb2 hle
    subst ha2; subst hb2
    exact (checkTrees_honest P D S stN hon w hw hname an bn hle hb1 o1 o2).1
  refine ⟨⟨fun a => ⟨Nat.le_refl _, id⟩, fun a b c h1 h2 => ⟨Nat.le_trans h1.1 h2.1, fun h => h1.2 (h2.2 h)⟩,
    fun a => ⟨Nat.zero_le _, fun _ => isHead_zero P D⟩, ?_⟩, isHead_zero P D, fun t => hgood _ (hpres t), hgood _ hc0,
    fun a b ha _ hsz => ⟨hsz, fun _ => ha⟩, ?_⟩
  · -- Sound.chk_ok
    intro a b h
    simp only [honestParams, List.mem_append] at h
    rcases h with (h | h) | h
    · split at h
      · rename_i hc
        obtain ⟨hle, w, o1, o2, hw, hname, hok⟩ := hc
        refine ⟨hle, fun hb => ?_⟩
        have hok' := absChk_ok hok
        obtain ⟨bn, bh⟩ := b
        obtain ⟨hb1, hb2⟩ := hb
        simp only at hb1 hb2 hle
        subst hb2
        obtain ⟨h1, _, _⟩ := treeHashVia_honest P D S stN hon w hw hname a.n bn hle hb1
        simp only [checkTrees, h1] at hok'
        split at hok'
        · rename_i heq
          exact ⟨Nat.le_trans hle hb1, heq.symm⟩
        · cases hok'
      · simp at h
    · split at h <;> simp at h
    · split at h <;> simp at h
  · -- chk_honest
    intro a b ha hb hsz
    have hsz' : a.n ≤ b.n := hsz
    have hw0 := hw_fresh P D S stN []
    have hok : a.n ≤ b.n ∧ ∃ (w : World HState H) (o1 o2 : Bytes), HW P D S stN w ∧ w.c.name = S.v.name ∧
        absChk (checkTrees P (honestEnv S) w a o1 b o2).1 = .ok :=
      ⟨hsz', _, [], [], hw0, rfl, by rw [hall a b ha hb hsz' _ [] [] hw0 rfl]; rfl⟩
    have hnf : ¬ ∃ (w : World HState H) (o1 o2 : Bytes), HW P D S stN w ∧ w.c.name = S.v.name ∧
        absChk (checkTrees P (honestEnv S) w a o1 b o2).1 = .fork := by
      rintro ⟨w, o1, o2, hw, hname, h⟩
      rw [hall a b ha hb hsz' w o1 o2 hw hname] at h
      cases h
    have hne : ¬ ∃ (w : World HState H) (o1 o2 : Bytes), HW P D S stN w ∧ w.c.name = S.v.name ∧
        absChk (checkTrees P (honestEnv S) w a o1 b o2).1 = .error := by
      rintro ⟨w, o1, o2, hw, hname, h⟩
      rw [hall a b ha hb hsz' w o1 o2 hw hname] at h
      cases h
    simp only [honestParams, if_pos hok, if_neg hnf, if_neg hne, List.append_nil]

/-- C14 `honestParams_allows` -/
theorem honestParams_chk (P : Params H) (D : List Bytes) (S : Server) (stN : List H) (w : World HState H)
    (hw : HW P D S stN w) (hname : w.c.name = S.v.name) (a : Head H) (o1 : Bytes) (b : Head H) (o2 : Bytes)
    (hle : a.n ≤ b.n) :
    absChk (checkTrees P (honestEnv S) w a o1 b o2).1 ∈ (honestParams P D S stN).chk a b := by
  simp only [honestParams, List.mem_append]
  cases hr : absChk (checkTrees P (honestEnv S) w a o1 b o2).1 with
  | ok => left; left; rw [if_pos ⟨hle, w, o1, o2, hw, hname, hr⟩]; simp
  | fork => left; right; rw [if_pos ⟨w, o1, o2, hw, hname, hr⟩]; simp
  | error => right; rw [if_pos ⟨w, o1, o2, hw, hname, hr⟩]; simp

/-! ### the composed system for the honest world of C01 -/

/-- the tail of `Client.Lookup` -/
def lookupResult (path vers : Bytes) : Except Err Bytes → Except Err (List Bytes)
  | .error e => .error e
  | .ok data => .ok (filterLines (path ++ [32] ++ vers ++ [32]) data)

/-- what the work function of goroutine `i` stores in the record cache: the server's response if its `mergeLatest`
returned success — everything else `lookupWork` does (ReadCache / ReadRemote / ParseRecord / checkRecord / WriteCache)
is not modelled concurrently; for the sequential client it succeeds in the honest world (`honest_never_fails`) -/
def workOf (resp : Nat → Bytes) (i : Nat) : ClientLatest.Result → Except Err Bytes
  | .ok => .ok (resp i)
  | _ => .error .note

/-- C14 `concurrent_lookups_return_server_lines` -/
theorem concurrent_lookups_honest (P : Params H) (D : List Bytes) (S : Server) (stN : List H) (hon : Honest P D S stN)
    (path vers rp resp : Nat → Bytes)
    (hreq : ∀ i, ∃ epath evers id, Module.escapePath (path i) = .ok epath ∧
      Module.escapeVersion P.isLetter (Client.trimGoMod (vers i)) = .ok evers ∧
      rp i = B "/lookup/" ++ (epath ++ ([64] ++ evers)) ∧ S.index (rp i) = some id)
    (hresp : ∀ i, S.serve (rp i) = some (resp i))
    (presented : Nat → Option Bytes)
    (hpres : ∀ i id text head, TlogNote.parseRecord (resp i) = some (id, text, head) → presented i = some head)
    (c0 : Option Bytes) (hc0 : HonestMsg P D S c0) (cl : Nat → Nat)
    (s : Composed.CSt Bytes (Head H) (Except Err Bytes))
    (h : Composed.CReach (honestParams P D S stN) cl presented
      (fun i => ClientFetch.lookupKey P.isLetter S.v.name (path i) (vers i)) (workOf resp) c0 s) :
    (∀ k, s.c.runs k ≤ 1) ∧
    (∀ i, s.c.pc i = .returned → ∃ d, HonestLookup P D S (rp i) d ∧ s.c.got i = some (.ok d) ∧
      (s.c.got i).map (lookupResult (path i) (vers i)) =
        some (.ok (filterLines (path i ++ [32] ++ vers i ++ [32]) d))) ∧
    (∀ t, (s.l.th t).pc ≠ .done .err ∧ (s.l.th t).pc ≠ .done .security) ∧ s.l.sec = [] := by
  -- the server's responses are honest
  have hhl : ∀ i, HonestLookup P D S (rp i) (resp i) := by
    intro i
    obtain ⟨epath, evers, id, _, _, hrp, hidx⟩ := hreq i
    rw [hrp] at hidx
    obtain ⟨d, hd1, hd2⟩ := hon.lookups _ id hidx
    rw [← hrp] at hd1 hd2
    rw [hresp i] at hd1
    cases hd1
    exact hd2
  -- every goroutine is presented a signed head of `D`
  have hpm : ∀ t, HonestMsg P D S (presented t) := by
    intro t
    obtain ⟨id, n, head, text, _, hs, _, hp, _⟩ := hhl t
    rw [hpres t _ _ _ hp]
    exact ⟨n, hs⟩
  have hH := honestParams_honest P D S stN hon presented c0 hpm hc0
  -- the response depends only on the key
  have hfile : ∀ i, ClientFetch.lookupFile P.isLetter S.v.name (path i) (vers i) = some (S.v.name ++ rp i) := by
    intro i
    obtain ⟨epath, evers, id, h1, h2, hrp, _⟩ := hreq i
    have h2' : Module.escapeVersion P.isLetter (ClientFetch.trimGoMod (vers i)) = .ok evers := h2
    simp only [ClientFetch.lookupFile, h1, h2', hrp, List.append_assoc]
  have hkey : ∀ i j, ClientFetch.lookupKey P.isLetter S.v.name (path i) (vers i) =
      ClientFetch.lookupKey P.isLetter S.v.name (path j) (vers j) → resp i = resp j := by
    intro i j hk
    have := (ClientFetch.lookupKey_eq_iff P.isLetter S.v.name _ _ _ _ _ _ (hfile i) (hfile j)).mp hk
    have hrp : rp i = rp j := List.append_cancel_left this
    have := hresp i
    rw [hrp, hresp j] at this
    exact (Option.some.inj this).symm
  classical
  let F : Nat → Except Err Bytes := fun k =>
    if hk : ∃ i, ClientFetch.lookupKey P.isLetter S.v.name (path i) (vers i) = k then .ok (resp (Classical.choose hk))
    else .error .note
  have hF : ∀ i, workOf resp i .ok = F (ClientFetch.lookupKey P.isLetter S.v.name (path i) (vers i)) := by
    intro i
    have hex : ∃ j, ClientFetch.lookupKey P.isLetter S.v.name (path j) (vers j) =
        ClientFetch.lookupKey P.isLetter S.v.name (path i) (vers i) := ⟨i, rfl⟩
    simp only [F, workOf, dif_pos hex]
    rw [hkey _ _ (Classical.choose_spec hex)]
  obtain ⟨h1, h2, h3, h4, _⟩ := Composed.composed_honest (honestParams P D S stN) (Props.C13.headLe P D) (IsHead P D)
    cl presented _ (workOf resp) F hF c0 hH s h
  refine ⟨h1, fun i hi => ⟨resp i, hhl i, ?_, ?_⟩, h3, h4⟩
  · rw [h2 i hi, ← hF i]; rfl
  · rw [h2 i hi, ← hF i]; rfl

end honest
end ModVerif.ClientRefine
