/-
  `File.SetRequireSeparateIndirect`: the function factored into the scan,
  `oneFlatUncommentedBlock`, the two block stages and the tail (`main_factor`, by `rfl`); the model factored the same way
  (`sepPlan`: the context and the statement list after the two blocks were ensured; `model_factor`).
-/
import ModVerif.Proofs.TieFnEditSetM
namespace ModVerif.Tie.FnEditSetN
open ModVerif ModVerif.GoRt ModVerif.Generated.Edit ModVerif.Tie.FnEditRep ModVerif.Tie.FnEditTreeA ModVerif.Tie.FnEditLoop ModVerif.Tie.FnEditSetA
  ModVerif.Tie.FnEditSetB ModVerif.Tie.FnEditSetC ModVerif.Tie.FnEditSetD ModVerif.Tie.FnEditSetE ModVerif.Tie.FnEditSetF
  ModVerif.Tie.FnEditSetG ModVerif.Tie.FnEditSetH ModVerif.Tie.FnEditSetI ModVerif.Tie.FnEditSetJ ModVerif.Tie.FnEditSetK
  ModVerif.Tie.FnEditSetL ModVerif.Tie.FnEditSetM
open ModVerif.Modfile.Edit (EFile Want treeIds Scan scanStmts hasComments SepCtx insertAt emptyRequireBlock ensureBlock
  setRequireSeparateIndirect EditErr)

/-! ### the generated function, factored -/

/-- the continuation `k167`: the indirect block, then the tail -/
def indirectStageG (isPrint : Int → Bool) (quote : Bytes → Bytes) (fuel : Nat) (f : Int) (req : List Int) (lineToBlock : List (Int × Int))
    (oneFlatUncommentedBlock : Bool) (lastDirectIndex lastIndirectIndex lastDirectBlock : Int) (world : Heap) : M (Unit × Heap) :=
  if (decide (lastIndirectIndex < (0 : Int))) then (do
    let lastIndirectIndex := (lastDirectIndex + (1 : Int))
    let t163 ← (File_SetRequireSeparateIndirect_insertBlock isPrint quote fuel f lastIndirectIndex world)
    let (cr164, world) := t163
    let lastIndirectBlock := cr164
    tailG isPrint quote fuel f req lineToBlock oneFlatUncommentedBlock lastDirectBlock lastIndirectBlock world) else (do
    let t165 ← (File_SetRequireSeparateIndirect_ensureBlock isPrint quote fuel f lastIndirectIndex world)
    let (cr166, world) := t165
    let lastIndirectBlock := cr166
    tailG isPrint quote fuel f req lineToBlock oneFlatUncommentedBlock lastDirectBlock lastIndirectBlock world)

/-- the direct block, then `k167` -/
def phaseCG (isPrint : Int → Bool) (quote : Bytes → Bytes) (fuel : Nat) (f : Int) (req : List Int) (lineToBlock : List (Int × Int))
    (oneFlatUncommentedBlock : Bool) (lastDirectIndex lastIndirectIndex lastRequireIndex : Int) (world : Heap) : M (Unit × Heap) :=
  if (decide (lastDirectIndex < (0 : Int))) then (do
    let k170 := fun (lastDirectIndex : Int) (lastIndirectIndex : Int) => ((do
      let t168 ← (File_SetRequireSeparateIndirect_insertBlock isPrint quote fuel f lastDirectIndex world)
      let (cr169, world) := t168
      let lastDirectBlock := cr169
      indirectStageG isPrint quote fuel f req lineToBlock oneFlatUncommentedBlock lastDirectIndex lastIndirectIndex lastDirectBlock world) : M (Unit × Heap))
    if (decide (lastIndirectIndex ≥ (0 : Int))) then (do
      let lastDirectIndex := lastIndirectIndex
      let lastIndirectIndex := (lastIndirectIndex + (1 : Int))
      k170 lastDirectIndex lastIndirectIndex) else (if (decide (lastRequireIndex ≥ (0 : Int))) then (do
      let lastDirectIndex := (lastRequireIndex + (1 : Int))
      k170 lastDirectIndex lastIndirectIndex) else (do
      let t171 ← heapGet ((world).mods) f
      let t172 ← heapGet ((world).files) (t171.Syntax)
      let lastDirectIndex := (len (t172.Stmt))
      k170 lastDirectIndex lastIndirectIndex))) else (do
    let t173 ← (File_SetRequireSeparateIndirect_ensureBlock isPrint quote fuel f lastDirectIndex world)
    let (cr174, world) := t173
    let lastDirectBlock := cr174
    indirectStageG isPrint quote fuel f req lineToBlock oneFlatUncommentedBlock lastDirectIndex lastIndirectIndex lastDirectBlock world)

/-- `oneFlatUncommentedBlock` -/
def oneFlatG (isPrint : Int → Bool) (quote : Bytes → Bytes) (fuel : Nat) (f : Int) (requireLineOrBlockCount lastRequireIndex : Int)
    (world : Heap) : M Bool :=
  (if (decide (requireLineOrBlockCount = (1 : Int))) then (do
    let t75 ← heapGet ((world).mods) f
    let t76 ← heapGet ((world).files) (t75.Syntax)
    let t77 ← idxL (t76.Stmt) lastRequireIndex
    let t78 ← Expr_getComments t77 world
    let t79 ← (File_SetRequireSeparateIndirect_hasComments isPrint quote fuel t78)
    pure (!t79)) else pure false)

theorem main_factor (isPrint : Int → Bool) (quote : Bytes → Bytes) (fuel : Nat) (f : Int) (req : List Int) (world : Heap) :
    File_SetRequireSeparateIndirect isPrint quote fuel f req world = (do
      let t41 ← heapGet ((world).mods) f
      let t42 ← heapGet ((world).files) (t41.Syntax)
      let (_, lastRequireIndex, requireLineOrBlockCount, world, lastIndirectIndex, lastDirectIndex, lineToBlock) ←
        File_SetRequireSeparateIndirect_loop1 isPrint quote (t42.Stmt) f fuel 0 (-1) 0 world (-1) (-1) []
      let t80 ← oneFlatG isPrint quote fuel f requireLineOrBlockCount lastRequireIndex world
      phaseCG isPrint quote fuel f req lineToBlock t80 lastDirectIndex lastIndirectIndex lastRequireIndex world) := by
  rfl


/-! ### the model, factored -/

def isBlockAt (stmts : List Modfile.Expr) (j : Nat) : Bool :=
  match stmts[j]? with
  | some (.lineBlock _) => true
  | _ => false

/-- the indirect block: the context and the final statement list -/
def indirectPlan (oneFlat : Bool) (ml : List (Nat × Nat)) (stmts : List Modfile.Expr) (directIdx : Nat) (directOrig : Option Nat)
    (lastIndirect indirectShift : Option Nat) : Except EditErr (SepCtx × List Modfile.Expr) :=
  match lastIndirect with
  | none =>
    .ok ({ oneFlat := oneFlat, directIdx := directIdx, indirectIdx := directIdx + 1, directOrig := directOrig,
           indirectOrig := none, lineToBlock := ml }, insertAt stmts (directIdx + 1) emptyRequireBlock)
  | some j =>
    match ensureBlock stmts j with
    | .error err => .error err
    | .ok stmts' =>
      .ok ({ oneFlat := oneFlat, directIdx := directIdx, indirectIdx := j, directOrig := directOrig,
             indirectOrig := (if isBlockAt stmts j then indirectShift else none), lineToBlock := ml }, stmts')

def oneFlatM (stmts : List Modfile.Expr) (sc : Scan) : Bool :=
  sc.count == 1 &&
    (match sc.lastRequire with
     | some i => !hasComments ((stmts[i]?.map Modfile.Expr.comments).getD {})
     | none => false)

/-- the plan of SetRequireSeparateIndirect: the scan and the two blocks -/
def sepPlan (e : EFile) : Except EditErr (SepCtx × List Modfile.Expr) :=
  let stmts := e.f.syn.stmts
  let sc := scanStmts stmts 0 {}
  let oneFlat := oneFlatM stmts sc
  match sc.lastDirect with
  | none =>
    match sc.lastIndirect with
    | some j => indirectPlan oneFlat sc.lineToBlock (insertAt stmts j emptyRequireBlock) j none (some (j + 1)) (some j)
    | none =>
      match sc.lastRequire with
      | some k => indirectPlan oneFlat sc.lineToBlock (insertAt stmts (k + 1) emptyRequireBlock) (k + 1) none none none
      | none => indirectPlan oneFlat sc.lineToBlock (stmts ++ [emptyRequireBlock]) stmts.length none none none
  | some d =>
    match ensureBlock stmts d with
    | .error err => .error err
    | .ok stmts' =>
      indirectPlan oneFlat sc.lineToBlock stmts' d (if isBlockAt stmts d then some d else none) sc.lastIndirect sc.lastIndirect

theorem model_factor (e : EFile) (req : List Want) :
    setRequireSeparateIndirect e req id =
      (match sepPlan e with
       | .ok (ctx, stmts') => tailM ctx (withStmts e stmts') req
       | .error err => .error err) := by
  unfold setRequireSeparateIndirect sepPlan indirectPlan tailM oneFlatM isBlockAt
  simp only [bind, Except.bind, pure, Except.pure, id]
  cases (scanStmts e.f.syn.stmts 0 {}).lastDirect with
  | none =>
    cases (scanStmts e.f.syn.stmts 0 {}).lastIndirect with
    | some j =>
      simp only
      cases ensureBlock (insertAt e.f.syn.stmts j emptyRequireBlock) (j + 1) <;> rfl
    | none =>
      cases (scanStmts e.f.syn.stmts 0 {}).lastRequire <;> rfl
  | some d =>
    simp only
    cases ensureBlock e.f.syn.stmts d with
    | error err => rfl
    | ok stmts' =>
      simp only
      cases (scanStmts e.f.syn.stmts 0 {}).lastIndirect with
      | none => rfl
      | some j =>
        simp only
        cases ensureBlock stmts' j <;> rfl

end ModVerif.Tie.FnEditSetN
