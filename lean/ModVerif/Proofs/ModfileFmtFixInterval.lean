/-
  The tokens `parseVersionInterval` writes back have one of two shapes
  (`v rest…` or `[ low , high ] rest…`) and parse to the same interval again.
-/
import ModVerif.Proofs.ModfileFmtFixVersion
namespace ModVerif.Proofs.ModfileFmtFix
open ModVerif ModVerif.Modfile ModVerif.SemverSpec
open ModVerif.Proofs.ModfileFmtQuote ModVerif.Proofs.ModfileFmtLex

theorem parseVersionInterval_shape {p : Bytes} {toks toks' rest : List Bytes} {fix : Option Fixer} {vi : VersionInterval}
    (h : parseVersionInterval p toks fix = (toks', .ok (vi, rest))) :
    (∃ t0, toks = t0 :: rest ∧ t0 ≠ [40] ∧ t0 ≠ [91] ∧ parseVersion p t0 fix = (vi.low, .ok vi.low) ∧
        vi.high = vi.low ∧ toks' = vi.low :: rest) ∨
    (∃ t1 t2, toks = [91] :: t1 :: [44] :: t2 :: [93] :: rest ∧
        parseVersion p t1 fix = (vi.low, .ok vi.low) ∧ parseVersion p t2 fix = (vi.high, .ok vi.high) ∧
        toks' = [91] :: vi.low :: [44] :: vi.high :: [93] :: rest) := by
  unfold parseVersionInterval at h
  split at h
  · cases h
  · rename_i t0 rest0
    split at h
    · cases h
    · rename_i h40
      split at h
      · rename_i h91
        left
        split at h
        · cases h
        · rename_i t0' v hpv
          simp only [Prod.mk.injEq, Except.ok.injEq] at h
          obtain ⟨h1, h2, h3⟩ := h
          have e := parseVersion_ok_tok hpv
          subst e
          subst h3
          subst h2
          refine ⟨t0, rfl, by simpa using h40, by simpa using h91, hpv, rfl, h1.symm⟩
      · rename_i h91
        have e91 : t0 = [91] := by simpa using h91
        subst e91
        right
        split at h
        · cases h
        · rename_i t1 rest1
          split at h
          · cases h
          · rename_i t1' low hpv1
            have e1 := parseVersion_ok_tok hpv1
            subst e1
            split at h
            · cases h
            · rename_i c rest2
              split at h
              · cases h
              · rename_i hc
                have ec : c = [44] := by simpa using hc
                subst ec
                split at h
                · cases h
                · rename_i t2 rest3
                  split at h
                  · cases h
                  · rename_i t2' high hpv2
                    have e2 := parseVersion_ok_tok hpv2
                    subst e2
                    split at h
                    · cases h
                    · rename_i r rest4
                      split at h
                      · cases h
                      · rename_i hr
                        have er : r = [93] := by simpa using hr
                        subst er
                        simp only [Prod.mk.injEq, Except.ok.injEq] at h
                        obtain ⟨h1, h2, h3⟩ := h
                        subst h3
                        subst h2
                        exact ⟨t1, t2, rfl, hpv1, hpv2, h1.symm⟩

example : parseVersionInterval [] [B "[", B "v1", B ",", B "v2.0", B "]", B "x"] none =
    ([B "[", B "v1.0.0", B ",", B "v2.0.0", B "]", B "x"], .ok ({ low := B "v1.0.0", high := B "v2.0.0" }, [B "x"])) := by
  decide +kernel

theorem parseVersionInterval_single {p v : Bytes} {rest : List Bytes} {fix : Option Fixer}
    (h40 : v ≠ [40]) (h91 : v ≠ [91]) (hv : parseVersion p v fix = (v, .ok v)) :
    parseVersionInterval p (v :: rest) fix = (v :: rest, .ok ({ low := v, high := v }, rest)) := by
  have e40 : (v == [40]) = false := by simpa using h40
  have e91 : (v != [91]) = true := by simpa using h91
  simp only [parseVersionInterval, e40, e91, hv]
  simp

example : (B "v1.0.0") ≠ [40] ∧ (B "v1.0.0") ≠ [91] ∧
    parseVersion [] (B "v1.0.0") none = (B "v1.0.0", .ok (B "v1.0.0")) := by decide +kernel

theorem parseVersionInterval_pair {p lo hi : Bytes} {rest : List Bytes} {fix : Option Fixer}
    (hlo : parseVersion p lo fix = (lo, .ok lo)) (hhi : parseVersion p hi fix = (hi, .ok hi)) :
    parseVersionInterval p ([91] :: lo :: [44] :: hi :: [93] :: rest) fix =
      ([91] :: lo :: [44] :: hi :: [93] :: rest, .ok ({ low := lo, high := hi }, rest)) := by
  have e1 : (([91] : Bytes) == [40]) = false := by decide
  have e2 : (([91] : Bytes) != [91]) = false := by decide
  have e3 : (([44] : Bytes) != [44]) = false := by decide
  have e4 : (([93] : Bytes) != [93]) = false := by decide
  simp only [parseVersionInterval, e1, e2, e3, e4, hlo, hhi]
  simp

example : parseVersion [] (B "v1.0.0") none = (B "v1.0.0", .ok (B "v1.0.0")) ∧
    parseVersion [] (B "v2.0.0") none = (B "v2.0.0", .ok (B "v2.0.0")) := by decide +kernel

theorem parseVersionInterval_fix_gen {p : Bytes} {toks toks' rest : List Bytes} {fix : Option Fixer} {vi : VersionInterval}
    (h : parseVersionInterval p toks fix = (toks', .ok (vi, rest)))
    (h40 : vi.low ≠ [40]) (h91 : vi.low ≠ [91])
    (hlo : parseVersion p vi.low fix = (vi.low, .ok vi.low))
    (hhi : parseVersion p vi.high fix = (vi.high, .ok vi.high)) :
    parseVersionInterval p toks' fix = (toks', .ok (vi, rest)) := by
  rcases parseVersionInterval_shape h with ⟨t0, _, _, _, _, hh, ht⟩ | ⟨t1, t2, _, _, _, ht⟩
  · rw [ht, parseVersionInterval_single h40 h91 hlo]
    cases vi
    simp only at hh
    subst hh
    rfl
  · rw [ht, parseVersionInterval_pair hlo hhi]

example : parseVersionInterval [] [B "v1"] (some dontFixRetract) = ([B "v1"], .ok ({ low := B "v1", high := B "v1" }, [])) ∧
    (B "v1") ≠ [40] ∧ (B "v1") ≠ [91] ∧
    parseVersion [] (B "v1") (some dontFixRetract) = (B "v1", .ok (B "v1")) := by decide +kernel

/-- the side condition of the property on a fixer and the interval it produced -/
def IntervalFixOK (fix : Option Fixer) (vi : VersionInterval) : Prop :=
  fix = none ∨ (∃ fx, fix = some fx ∧ FixIdem fx ∧
    Semver.isValid vi.low = true ∧ Semver.isValid vi.high = true)

theorem parseVersionInterval_bounds {p : Bytes} {toks toks' rest : List Bytes} {fix : Option Fixer} {vi : VersionInterval}
    (h : parseVersionInterval p toks fix = (toks', .ok (vi, rest))) (hfix : IntervalFixOK fix vi) :
    Semver.isValid vi.low = true ∧ Semver.isValid vi.high = true ∧
    parseVersion p vi.low fix = (vi.low, .ok vi.low) ∧ parseVersion p vi.high fix = (vi.high, .ok vi.high) := by
  have hI : EffIdem fix := by
    rcases hfix with rfl | ⟨fx, rfl, hidem, _, _⟩
    · exact effIdem_none
    · exact effIdem_some hidem
  have key : ∀ {tok v : Bytes}, parseVersion p tok fix = (v, .ok v) → (fix ≠ none → Semver.isValid v = true) →
      Semver.isValid v = true ∧ parseVersion p v fix = (v, .ok v) :=
    fun hpv hval => (parseVersion_fix_valid hI hpv hval).2
  have hvlo : fix ≠ none → Semver.isValid vi.low = true := by
    intro hne
    rcases hfix with rfl | ⟨fx, _, _, h1, _⟩
    · exact absurd rfl hne
    · exact h1
  have hvhi : fix ≠ none → Semver.isValid vi.high = true := by
    intro hne
    rcases hfix with rfl | ⟨fx, _, _, _, h2⟩
    · exact absurd rfl hne
    · exact h2
  rcases parseVersionInterval_shape h with ⟨t0, _, _, _, hpv, hh, _⟩ | ⟨t1, t2, _, hpv1, hpv2, _⟩
  · obtain ⟨a, b⟩ := key hpv hvlo
    rw [hh]
    exact ⟨a, a, b, b⟩
  · obtain ⟨a, b⟩ := key hpv1 hvlo
    obtain ⟨c, d⟩ := key hpv2 hvhi
    exact ⟨a, c, b, d⟩

example : parseVersionInterval [] [B "v1"] none = ([B "v1.0.0"], .ok ({ low := B "v1.0.0", high := B "v1.0.0" }, [])) ∧
    IntervalFixOK none { low := B "v1.0.0", high := B "v1.0.0" } := ⟨by decide +kernel, Or.inl rfl⟩

theorem parseVersionInterval_fix {p : Bytes} {toks toks' rest : List Bytes} {fix : Option Fixer} {vi : VersionInterval}
    (h : parseVersionInterval p toks fix = (toks', .ok (vi, rest)))
    (hfix : IntervalFixOK fix vi) :
    parseVersionInterval p toks' fix = (toks', .ok (vi, rest)) ∧
    ((toks' = [vi.low] ++ rest ∧ vi.high = vi.low) ∨ toks' = [91] :: vi.low :: [44] :: vi.high :: [93] :: rest) ∧
    Semver.isValid vi.low = true ∧ Semver.isValid vi.high = true := by
  obtain ⟨vlo, vhi, flo, fhi⟩ := parseVersionInterval_bounds h hfix
  obtain ⟨d, t, hd, _⟩ := valid_head vlo
  refine ⟨parseVersionInterval_fix_gen h (by rw [hd]; simp) (by rw [hd]; simp) flo fhi, ?_, vlo, vhi⟩
  rcases parseVersionInterval_shape h with ⟨t0, _, _, _, _, hh, ht⟩ | ⟨t1, t2, _, _, _, ht⟩
  · exact Or.inl ⟨by simpa using ht, hh⟩
  · exact Or.inr ht

example : parseVersionInterval (B "m") [B "[", B "v1.0.0", B ",", B "v1.2.3", B "]"] (some dontFixRetract) =
      ([B "[", B "v1.0.0", B ",", B "v1.2.3", B "]"], .ok ({ low := B "v1.0.0", high := B "v1.2.3" }, [])) ∧
    ((some dontFixRetract : Option Fixer) = none ∨ (∃ fx, some dontFixRetract = some fx ∧
      (∀ p' v0 w, fx p' v0 = .ok w → fx p' w = .ok w) ∧
      Semver.isValid (B "v1.0.0") = true ∧ Semver.isValid (B "v1.2.3") = true)) :=
  ⟨by decide +kernel, Or.inr ⟨_, rfl, dontFixRetract_idem, by decide +kernel, by decide +kernel⟩⟩

example : parseVersionInterval [] [B "v1.0.0"] (some dontFixRetract) =
      ([B "v1.0.0"], .ok ({ low := B "v1.0.0", high := B "v1.0.0" }, [])) ∧
    Semver.isValid (B "v1.0.0") = true := by decide +kernel

end ModVerif.Proofs.ModfileFmtFix
