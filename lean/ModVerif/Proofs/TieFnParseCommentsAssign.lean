/-
  `input.assignComments` of the regenerated parser: the split of the recorded comments (loop 1), the bodies of the
  three passes (loops 2/3, 4/5, 6) as instances of `StepSpec`, the three passes on a reified file, and the whole.
-/
import ModVerif.Proofs.TieFnParseCommentsPass
namespace ModVerif.TieFnParseComments
open ModVerif ModVerif.GoRt ModVerif.Generated ModVerif.Generated.Parse ModVerif.Tie.FnParseHeap

/-! ### loop 1: whole-line comments / suffix comments -/

theorem foldl_split (rx : List Comment) : ∀ (suffix line : List Comment),
    rx.foldl (fun (s : List Comment × List Comment) c => if c.Suffix then (s.1 ++ [c], s.2) else (s.1, s.2 ++ [c])) (suffix, line) =
      (suffix ++ rx.filter (·.Suffix), line ++ rx.filter (fun c => !c.Suffix)) := by
  induction rx with
  | nil => simp
  | cons c rx ih => intro suffix line; cases hc : c.Suffix <;> simp [hc, ih]

theorem split_loop (rx : List Comment) (in_ : input) (world : Heap) (n fuel k : Nat) (suffix line : List Comment)
    (hk : k + n = rx.length) (hf : n + 1 ≤ fuel) :
    input_assignComments_loop1 rx in_ world fuel (k : Int) suffix line =
      .ok (len rx, suffix ++ (rx.drop k).filter (·.Suffix), line ++ (rx.drop k).filter (fun c => !c.Suffix)) := by
  rw [← foldl_split]
  exact range_fold (fun f k (s : List Comment × List Comment) => input_assignComments_loop1 rx in_ world f k s.1 s.2) rx _
    (fun f s => by rw [input_assignComments_loop1]; simp [len_eq])
    (fun f k hk s => by
      rw [input_assignComments_loop1]
      simp only [show (k : Int) < len rx by rw [len_eq]; omega, decide_true, if_true, idxL_natCast hk, bind_ok]
      cases rx[k].Suffix <;> rfl) n fuel k (suffix, line) hk hf

/-! ### pass 1 (loops 2 and 3): whole-line comments to the node that follows -/

theorem comsG_before_append (c0 : Modfile.Comments) (t : List Modfile.Comment) :
    comsG { c0 with before := c0.before ++ t } = { comsG c0 with Before := (comsG c0).Before ++ t.map comG } := by
  simp [comsG]

theorem loop3_eq (sp1 : Modfile.Position) (x : Expr) : ∀ (st : List Modfile.Comment) (f : Nat) (h : Heap)
    (c0 : Modfile.Comments), st.length + 1 ≤ f → Expr_getComments x h = .ok (comsG c0) →
    input_assignComments_loop3 (posG sp1) x f h (st.map comG) =
      (Expr_setComments x (comsG (Modfile.assignBefore sp1 c0 st).1) h >>= fun h' =>
        pure (h', (Modfile.assignBefore sp1 c0 st).2.map comG))
  | [], f, h, c0, hf, hg => by
    obtain ⟨f', rfl⟩ : ∃ f', f = f' + 1 := ⟨f - 1, by simp at hf; omega⟩
    rw [input_assignComments_loop3]
    have e1 : comsG (Modfile.assignBefore sp1 c0 []).1 = comsG c0 := by
      simp [Modfile.assignBefore, Modfile.takeLine]
    rw [e1, setComments_self hg]
    simp [Modfile.assignBefore, Modfile.takeLine]
  | c :: rest, f, h, c0, hf, hg => by
    obtain ⟨f', rfl⟩ : ∃ f', f = f' + 1 := ⟨f - 1, by simp at hf; omega⟩
    rw [input_assignComments_loop3]
    have hpos : len (List.map comG (c :: rest)) > 0 := by simp [len_eq] <;> omega
    have hi0 : idxL (List.map comG (c :: rest)) 0 = .ok (comG c) := by
      have := idxL_natCast (v := List.map comG (c :: rest)) (k := 0) (by simp)
      simpa using this
    simp only [hpos, decide_true, if_true, hi0, bind_ok, pure_eq_ok, posG_Byte, comG_Start]
    by_cases hb : sp1.byte ≥ c.start.byte
    · have hb' : ((sp1.byte : Nat) : Int) ≥ ((c.start.byte : Nat) : Int) := by omega
      simp only [hb', decide_true, if_true, hg, bind_ok]
      obtain ⟨h1, hset⟩ := setComments_ok_of_get hg
        ({ comsG c0 with Before := (comsG c0).Before ++ [comG c] })
      rw [hset]
      simp only [bind_ok, List.map_cons, sliceFrom_one_cons]
      have hg1 : Expr_getComments x h1 = .ok (comsG { c0 with before := c0.before ++ [c] }) := by
        rw [getComments_setComments_same hset, comsG_before_append]; rfl
      rw [loop3_eq sp1 x rest f' h1 _ (by simp at hf; omega) hg1, setComments_twice hset]
      have e1 : Modfile.assignBefore sp1 c0 (c :: rest) =
          ({ c0 with before := c0.before ++ c :: (Modfile.takeLine sp1 rest).1 }, (Modfile.takeLine sp1 rest).2) := by
        simp [Modfile.assignBefore, Modfile.takeLine, hb]
      have e2 : Modfile.assignBefore sp1 { c0 with before := c0.before ++ [c] } rest =
          ({ c0 with before := c0.before ++ c :: (Modfile.takeLine sp1 rest).1 }, (Modfile.takeLine sp1 rest).2) := by
        simp [Modfile.assignBefore]
      rw [e1, e2]
      rfl
    · have hb' : ¬ (((sp1.byte : Nat) : Int) ≥ ((c.start.byte : Nat) : Int)) := by omega
      simp only [hb', decide_false, Bool.false_eq_true, if_false]
      have e1 : Modfile.assignBefore sp1 c0 (c :: rest) = ({ c0 with before := c0.before ++ [] }, c :: rest) := by
        simp [Modfile.assignBefore, Modfile.takeLine, hb]
      rw [e1]
      have e2 : comsG { c0 with before := c0.before ++ [] } = comsG c0 := by simp
      rw [e2, setComments_self hg]
      rfl

/-- the body of loop 2 -/
def step1 (f : Nat) (x : Expr) (s : PState) : M PState := do
  let (dr22, world) ← Expr_Span f x s.1
  let (start, _) := dr22
  let xcom := x
  input_assignComments_loop3 start xcom f world s.2

theorem step1_spec (N : Nat) : StepSpec F1 (List.map comG) N (fun _ => True) step1 where
  spec := by
    intro f x h st sp c0 _ hf hst _ hsp hg
    simp only [step1, hsp, bind_ok, spanG]
    exact loop3_eq sp.1 x st f h c0 (by omega) hg

theorem loop2_unfold (rx : List Expr) (in_ : input) (f : Nat) (k : Int) (h : Heap) (line : List Comment) :
    input_assignComments_loop2 rx in_ (f + 1) k h line =
      (if (decide (k < len rx)) then (do
        let x ← idxL rx k
        let (world, line) ← step1 f x (h, line)
        input_assignComments_loop2 rx in_ f (k + 1) world line) else (pure (k, h, line))) := by
  rw [input_assignComments_loop2]
  split
  · simp only [step1, Expr_Span, bind_assoc]
    rfl
  · rfl


theorem loop2_eq (rx : List Expr) (in_ : input) (n fuel k : Nat) (h : Heap) (line : List Comment)
    (hk : k + n = rx.length) (hf : n + 1 ≤ fuel) :
    input_assignComments_loop2 rx in_ fuel (k : Int) h line =
      (rangeF step1 fuel (rx.drop k) (h, line) >>= fun s => pure (len rx, s.1, s.2)) :=
  range_eq step1 (fun f k (s : PState) => input_assignComments_loop2 rx in_ f k s.1 s.2) rx
    (fun f s => by rw [loop2_unfold]; simp [len_eq])
    (fun f k hk s => by
      rw [loop2_unfold]
      simp only [show (k : Int) < len rx by rw [len_eq]; omega, decide_true, if_true, idxL_natCast hk, bind_ok])
    n fuel k (h, line) hk hf

/-! ### pass 2 (loops 4 and 5): suffix comments to the node that precedes, walking the postorder backwards -/

/-- the suffix list of the generated code is the model's reversed list, reversed -/
def emb2 (st : List Modfile.Comment) : List Comment := (st.map comG).reverse

theorem takeSuffix_acc (e : Modfile.Position) : ∀ (l acc : List Modfile.Comment),
    Modfile.takeSuffix e acc l = ((Modfile.takeSuffix e [] l).1 ++ acc, (Modfile.takeSuffix e [] l).2)
  | [], acc => by simp [Modfile.takeSuffix]
  | c :: rest, acc => by
    unfold Modfile.takeSuffix
    by_cases hc : e.byte ≤ c.start.byte
    · simp only [hc, if_true]
      rw [takeSuffix_acc e rest (c :: acc), takeSuffix_acc e rest [c]]
      simp
    · simp [hc]

theorem comsG_suffix_append (c0 : Modfile.Comments) (t : List Modfile.Comment) :
    comsG { c0 with suffix := c0.suffix ++ t } = { comsG c0 with Suffix := (comsG c0).Suffix ++ t.map comG } := by
  simp [comsG]

theorem loop5_eq (e : Modfile.Position) (x : Expr) : ∀ (st : List Modfile.Comment) (f : Nat) (h : Heap)
    (c0 : Modfile.Comments), st.length + 1 ≤ f → Expr_getComments x h = .ok (comsG c0) →
    input_assignComments_loop5 (posG e) x f h (emb2 st) =
      (Expr_setComments x (comsG { c0 with suffix := c0.suffix ++ (Modfile.takeSuffix e [] st).1.reverse }) h >>=
        fun h' => pure (h', emb2 (Modfile.takeSuffix e [] st).2))
  | [], f, h, c0, hf, hg => by
    obtain ⟨f', rfl⟩ : ∃ f', f = f' + 1 := ⟨f - 1, by simp at hf; omega⟩
    rw [input_assignComments_loop5]
    have e1 : comsG { c0 with suffix := c0.suffix ++ (Modfile.takeSuffix e [] []).1.reverse } = comsG c0 := by
      simp [Modfile.takeSuffix]
    rw [e1, setComments_self hg]
    simp [Modfile.takeSuffix, emb2]
  | c :: rest, f, h, c0, hf, hg => by
    obtain ⟨f', rfl⟩ : ∃ f', f = f' + 1 := ⟨f - 1, by simp at hf; omega⟩
    rw [input_assignComments_loop5]
    have hemb : emb2 (c :: rest) = emb2 rest ++ [comG c] := by simp [emb2]
    have hpos : len (emb2 (c :: rest)) > 0 := by simp [emb2, len_eq] <;> omega
    have hlast : idxL (emb2 (c :: rest)) (len (emb2 (c :: rest)) - 1) = .ok (comG c) := by
      rw [hemb, len_concat_range]; exact idxL_mid _ _ []
    have hslice : sliceTo (emb2 (c :: rest)) (len (emb2 (c :: rest)) - 1) = .ok (emb2 rest) := by
      rw [hemb]
      have : len (emb2 rest ++ [comG c]) - 1 = ((emb2 rest).length : Int) := by simp [len_eq]
      rw [this, sliceTo_natCast (by simp)]
      simp
    simp only [hpos, decide_true, if_true, hlast, bind_ok, pure_eq_ok, posG_Byte, comG_Start]
    by_cases hb : e.byte ≤ c.start.byte
    · have hb' : ((e.byte : Nat) : Int) ≤ ((c.start.byte : Nat) : Int) := by omega
      simp only [hb', decide_true, if_true, hg, bind_ok]
      obtain ⟨h1, hset⟩ := setComments_ok_of_get hg
        ({ comsG c0 with Suffix := (comsG c0).Suffix ++ [comG c] })
      rw [hset]
      simp only [bind_ok, hslice]
      have hg1 : Expr_getComments x h1 = .ok (comsG { c0 with suffix := c0.suffix ++ [c] }) := by
        rw [getComments_setComments_same hset, comsG_suffix_append]; rfl
      rw [loop5_eq e x rest f' h1 _ (by simp at hf; omega) hg1, setComments_twice hset]
      have e1 : Modfile.takeSuffix e [] (c :: rest) =
          ((Modfile.takeSuffix e [] rest).1 ++ [c], (Modfile.takeSuffix e [] rest).2) := by
        rw [Modfile.takeSuffix]; simp only [hb, if_true]; exact takeSuffix_acc e rest [c]
      rw [e1]
      simp
    · have hb' : ¬ (((e.byte : Nat) : Int) ≤ ((c.start.byte : Nat) : Int)) := by omega
      simp only [hb', decide_false, Bool.false_eq_true, if_false]
      have e1 : Modfile.takeSuffix e [] (c :: rest) = ([], c :: rest) := by
        rw [Modfile.takeSuffix]; simp [hb]
      rw [e1]
      have e2 : comsG { c0 with suffix := c0.suffix ++ ([] : List Modfile.Comment).reverse } = comsG c0 := by simp
      rw [e2, setComments_self hg]
      rfl


/-- the body of loop 4 -/
def step2 (f : Nat) (x : Expr) (s : PState) : M PState := do
  let (dr46, world) ← Expr_Span f x s.1
  let (start_1, end_) := dr46
  match x with
  | Expr.FileSyntax _ => pure (world, s.2)
  | _ => (if (!decide (((start_1).Line) = ((end_).Line))) then pure (world, s.2) else
      input_assignComments_loop5 end_ x f world s.2)

theorem step2_spec (N : Nat) : StepSpec F2 emb2 N (fun _ => True) step2 where
  spec := by
    intro f x h st sp c0 hx hf hst _ hsp hg
    have hm : step2 f x (h, emb2 st) =
        (if (!decide (((posG sp.1).Line) = ((posG sp.2).Line))) then pure (h, emb2 st) else
          input_assignComments_loop5 (posG sp.2) x f h (emb2 st)) := by
      cases x <;> simp only [step2, hsp, bind_ok, spanG]
      exact absurd rfl (hx _)
    rw [hm]
    by_cases hl : sp.1.line = sp.2.line
    · have hl' : ((sp.1.line : Nat) : Int) = ((sp.2.line : Nat) : Int) := by omega
      have hF : F2 sp c0 st = ({ c0 with suffix := c0.suffix ++ (Modfile.takeSuffix sp.2 [] st).1.reverse },
          (Modfile.takeSuffix sp.2 [] st).2) := by simp [F2, hl]
      simp only [posG_Line, hl', decide_true, Bool.not_true, Bool.false_eq_true, if_false, hF]
      exact loop5_eq sp.2 x st f h c0 (by omega) hg
    · have hl' : ¬ (((sp.1.line : Nat) : Int) = ((sp.2.line : Nat) : Int)) := by omega
      have hF : F2 sp c0 st = (c0, st) := by simp [F2, hl]
      simp only [posG_Line, hl', decide_false, Bool.not_false, if_true, hF, setComments_self hg]
      rfl

theorem loop4_unfold (in_ : input) (f : Nat) (h : Heap) (suffix : List Comment) (i : Int) :
    input_assignComments_loop4 in_ (f + 1) h suffix i =
      (if (decide (i ≥ (0 : Int))) then (do
        let x ← idxL in_.post i
        let (world, suffix) ← step2 f x (h, suffix)
        input_assignComments_loop4 in_ f world suffix (i - 1)) else (pure (h, suffix, i))) := by
  rw [input_assignComments_loop4]
  split
  · cases hx : idxL in_.post i with
    | error e => rfl
    | ok x =>
      simp only [bind_ok]
      cases x <;> simp only [step2, Expr_Span, bind_assoc] <;>
        (apply bind_congr; intro a; rcases a with ⟨⟨a1, a2⟩, w⟩; simp only [pure_bind] <;> (try split) <;> simp)
  · rfl


theorem loop4_eq (in_ : input) (r pfx sfx : List Expr) (fuel : Nat) (h : Heap) (suffix : List Comment)
    (hr : pfx.reverse = r) (hp : in_.post = pfx ++ sfx) (hf : pfx.length + 1 ≤ fuel) :
    input_assignComments_loop4 in_ fuel h suffix (len pfx - 1) =
      (rangeF step2 fuel r (h, suffix) >>= fun s => pure (s.1, s.2, (-1 : Int))) :=
  rangeDown_eq step2 (fun s => (s.1, s.2, (-1 : Int))) (fun f k (s : PState) => input_assignComments_loop4 in_ f s.1 s.2 k) in_.post
    (fun f s => by rw [loop4_unfold]; rfl)
    (fun f k hk s => by
      rw [loop4_unfold]
      simp only [show (k : Int) ≥ 0 by omega, decide_true, if_true, idxL_natCast hk, bind_ok])
    r pfx sfx fuel (h, suffix) hr hp hf

/-! ### pass 3 (loop 6): the suffix comments of every node were appended last-first; reverse them -/

/-- the body of loop 6 -/
def step3 (f : Nat) (x : Expr) (s : PState) : M PState := do
  let t57 ← Expr_getComments x s.1
  let ia58 := (t57.Suffix)
  let t59 ← (reverseComments f ia58)
  let (_, ia58) := t59
  let t61 ← Expr_getComments x s.1
  let t62 ← Expr_setComments x { (t61) with Suffix := ia58 } s.1
  pure (t62, s.2)

theorem comsG_rev3C (c0 : Modfile.Comments) : comsG (rev3C c0) = { comsG c0 with Suffix := (comsG c0).Suffix.reverse } := by
  simp [comsG, rev3C]

theorem step3_eq {x : Expr} {h : Heap} {c0 : Modfile.Comments} {f : Nat} (s : List Comment)
    (hg : Expr_getComments x h = .ok (comsG c0)) (hf : c0.suffix.length + 1 ≤ f) :
    step3 f x (h, s) = (Expr_setComments x (comsG (rev3C c0)) h >>= fun h' => pure (h', s)) := by
  simp only [step3, hg, bind_ok, comsG_rev3C]
  rw [reverseComments_eq f _ (by simpa using hf)]
  rfl

theorem step3_spec (N : Nat) : StepSpec F3 (fun _ => []) N (fun c => c.suffix.length ≤ N) step3 where
  spec := by
    intro f x h st sp c0 _ hf hst hP hsp hg
    exact step3_eq [] hg (by omega)

/-- the comment list is threaded through `step3` untouched, so the loop may be read with any list `c` in its place -/
theorem loop6_unfold (rx : List Expr) (in_ : input) (f : Nat) (k : Int) (h : Heap) (c : List Comment) :
    input_assignComments_loop6 rx in_ (f + 1) k h =
      (if (decide (k < len rx)) then (do
        let x ← idxL rx k
        let (world, _) ← step3 f x (h, c)
        input_assignComments_loop6 rx in_ f (k + 1) world) else (pure (k, h))) := by
  rw [input_assignComments_loop6]
  split
  · simp only [step3, bind_assoc]
    rfl
  · rfl

theorem loop6_eq (rx : List Expr) (in_ : input) (n fuel k : Nat) (h : Heap) (c : List Comment)
    (hk : k + n = rx.length) (hf : n + 1 ≤ fuel) :
    input_assignComments_loop6 rx in_ fuel (k : Int) h =
      (rangeF step3 fuel (rx.drop k) (h, c) >>= fun s => pure (len rx, s.1)) :=
  range_eq_of step3 Prod.fst (fun h => (len rx, h)) (fun f k h => input_assignComments_loop6 rx in_ f k h) rx
    (fun f s => by rw [loop6_unfold (c := [])]; simp [len_eq])
    (fun f k hk s => by
      rw [loop6_unfold (c := s.2)]
      simp only [show (k : Int) < len rx by rw [len_eq]; omega, decide_true, if_true, idxL_natCast hk, bind_ok])
    n fuel k (h, c) hk hf

/-! ## the three passes on a reified file -/

theorem RFile_mk {h : Heap} {p : Int} {t : Modfile.FileSyntax} {es : List Expr}
    (hf : heapGet h.files p = .ok (fileG t es)) (hs : RStmts h es t.stmts) : RFile h p t := ⟨es, hf, hs⟩

theorem setComments_file {h h1 : Heap} {p : Int} {t : Modfile.FileSyntax} {es : List Expr} {c : Modfile.Comments}
    (hf : heapGet h.files p = .ok (fileG t es)) (hset : Expr_setComments (.FileSyntax p) (comsG c) h = .ok h1) :
    heapGet h1.files p = .ok (fileG { t with comments := c } es) ∧ h1.cbs = h.cbs ∧ h1.lines = h.lines ∧
      h1.blocks = h.blocks := by
  rw [setComments_FileSyntax hf] at hset
  cases hset
  exact ⟨heapGet_listSet_same _ hf, rfl, rfl, rfl⟩

theorem phase1 {h : Heap} {p : Int} {t : Modfile.FileSyntax} {es : List Expr} {N fuel : Nat}
    (hf : heapGet h.files p = .ok (fileG t es)) (hs : RStmts h es t.stmts)
    (hnd : (stmtsNodes .pre es t.stmts).Nodup) (line0 : List Modfile.Comment) (hN : line0.length ≤ N)
    (hfuel : nodeCount t.stmts + N + 4 ≤ fuel) :
    ∃ h2, rangeF step1 fuel (.FileSyntax p :: stmtsNodes .pre es t.stmts) (h, line0.map comG) =
        .ok (h2, (Modfile.preStmts t.stmts (Modfile.assignBefore t.span.1 t.comments line0).2).2.map comG) ∧
      heapGet h2.files p = .ok (fileG { t with comments := (Modfile.assignBefore t.span.1 t.comments line0).1 } es) ∧
      RStmts h2 es (Modfile.preStmts t.stmts (Modfile.assignBefore t.span.1 t.comments line0).2).1 := by
  obtain ⟨f1, rfl⟩ : ∃ f1, fuel = f1 + 1 := ⟨fuel - 1, by omega⟩
  obtain ⟨f2, rfl⟩ : ∃ f2, f1 = f2 + 1 := ⟨f1 - 1, by omega⟩
  have hsp := Span_FileSyntax (RFile_mk hf hs) f2
  have hg : Expr_getComments (.FileSyntax p) h = .ok (comsG t.comments) := getComments_FileSyntax hf
  obtain ⟨h1, hset⟩ := setComments_ok_of_get hg (comsG (Modfile.assignBefore t.span.1 t.comments line0).1)
  have hstep : step1 (f2 + 1) (.FileSyntax p) (h, line0.map comG) =
      .ok (h1, (Modfile.assignBefore t.span.1 t.comments line0).2.map comG) := by
    simp only [step1, hsp, bind_ok, spanG]
    rw [loop3_eq t.span.1 _ line0 (f2 + 1) h t.comments (by omega) hg, hset]; rfl
  obtain ⟨hf1, hc1, hl1, hb1⟩ := setComments_file hf hset
  have hs1 : RStmts h1 es t.stmts := (RStmts_congr hc1 hl1 hb1).2 hs
  have hcount := stmtsNodes_length_le hs
  have hl1' : (Modfile.assignBefore t.span.1 t.comments line0).2.length ≤ N :=
    Nat.le_trans (F1_shrinks (t.span.1, t.span.2) t.comments line0) hN
  obtain ⟨h2, r2, hr2⟩ := pass_stmts (step1_spec N) F1_shrinks .pre hs1 hnd hl1'
    (fun s _ => by cases s <;> simp [StmtP])
  refine ⟨h2, ?_, by rw [r2.files]; exact hf1, ?_⟩
  · rw [rangeF_cons, hstep, bind_ok, r2.pass _ (by omega), travStmts_F1]
  · rw [← travStmts_F1]; exact hr2

theorem step2_file {h : Heap} {p : Int} {t : Modfile.FileSyntax} (hr : RFile h p t) (f : Nat) (s : List Comment) :
    step2 (f + 1) (.FileSyntax p) (h, s) = .ok (h, s) := by
  simp [step2, Span_FileSyntax hr f]

theorem phase2 {h : Heap} {p : Int} {t : Modfile.FileSyntax} {es : List Expr} {N fuel : Nat}
    (hf : heapGet h.files p = .ok (fileG t es)) (hs : RStmts h es t.stmts)
    (hnd : (stmtsNodes .pre es t.stmts).Nodup) (sufRev : List Modfile.Comment) (hN : sufRev.length ≤ N)
    (hfuel : nodeCount t.stmts + N + 4 ≤ fuel) :
    ∃ h4, rangeF step2 fuel (.FileSyntax p :: stmtsNodes .rpost es.reverse t.stmts.reverse) (h, emb2 sufRev) =
        .ok (h4, emb2 (travStmts .rpost F2 t.stmts.reverse sufRev).2) ∧
      h4.files = h.files ∧ RStmts h4 es (travStmts .rpost F2 t.stmts.reverse sufRev).1.reverse := by
  obtain ⟨f1, rfl⟩ : ∃ f1, fuel = f1 + 1 := ⟨fuel - 1, by omega⟩
  obtain ⟨f2, rfl⟩ : ∃ f2, f1 = f2 + 1 := ⟨f1 - 1, by omega⟩
  have hlen := RStmts_length hs
  have hcount := stmtsNodes_length_le hs
  have hnd' := (stmtsNodes_reverse_perm .pre es t.stmts hlen).nodup_iff.2 hnd
  have hcnt' : (stmtsNodes .rpost es.reverse t.stmts.reverse).length = nodeCount t.stmts := by
    rw [← stmtsNodes_post_reverse es t.stmts hlen, List.length_reverse, stmtsNodes_length, hcount]
  obtain ⟨h4, r4, hr4⟩ := pass_stmts (step2_spec N) F2_shrinks .rpost (RStmts_reverse hs) hnd' hN
    (fun s _ => by cases s <;> simp [StmtP])
  refine ⟨h4, ?_, r4.files, ?_⟩
  · rw [rangeF_cons, step2_file (RFile_mk hf hs), bind_ok, r4.pass _ (by omega)]
  · have := RStmts_reverse hr4
    simpa using this

theorem rev3C_short {c : Modfile.Comments} (h : c.suffix.length ≤ 1) : rev3C c = c := by
  obtain ⟨b, s, a⟩ := c
  simp only [rev3C]
  congr
  match s, h with
  | [], _ => rfl
  | [x], _ => rfl

theorem phase3 {h : Heap} {p : Int} {t : Modfile.FileSyntax} {es : List Expr} {N fuel : Nat}
    (hf : heapGet h.files p = .ok (fileG t es)) (hs : RStmts h es t.stmts)
    (hnd : (stmtsNodes .pre es t.stmts).Nodup) (hP : ∀ s ∈ t.stmts, StmtP (fun c => c.suffix.length ≤ N) s)
    (hfs : t.comments.suffix.length ≤ 1) (hfuel : nodeCount t.stmts + N + 4 ≤ fuel) :
    ∃ h5, rangeF step3 fuel (stmtsNodes .post es t.stmts ++ [.FileSyntax p]) (h, []) = .ok (h5, []) ∧
      h5.files = h.files ∧ RStmts h5 es (t.stmts.map rev3) := by
  have hcount := stmtsNodes_length_le hs
  have hcnt' : (stmtsNodes .post es t.stmts).length = nodeCount t.stmts := by rw [stmtsNodes_length, hcount]
  obtain ⟨h5, r5, hr5⟩ := pass_stmts (step3_spec N) F3_shrinks .post (st := []) hs hnd (by simp) hP
  rw [travStmts_F3] at hr5 r5
  have hf5 := r5.files
  refine ⟨h5, ?_, hf5, hr5⟩
  rw [rangeF_append _ _ _ _ _ _ (r5.pass fuel (by omega)) (by omega)]
  obtain ⟨g, hg⟩ : ∃ g, fuel - (stmtsNodes .post es t.stmts).length = g + 1 :=
    ⟨fuel - (stmtsNodes .post es t.stmts).length - 1, by omega⟩
  rw [hg, rangeF_cons]
  have hgc : Expr_getComments (.FileSyntax p) h5 = .ok (comsG t.comments) := by
    apply getComments_FileSyntax (t := fileG t es); rw [hf5]; exact hf
  rw [step3_eq [] hgc (by omega), rev3C_short hfs, setComments_self hgc]
  simp only [bind_ok, pure_eq_ok, rangeF_nil]

/-! ## `input.assignComments` as a whole -/

theorem assignComments_eq (t : Modfile.FileSyntax) (cs : List Modfile.Comment) :
    Modfile.assignComments t cs =
      { t with
        comments :=
          { (Modfile.assignBefore t.span.1 t.comments (cs.filter (!·.suffix))).1 with
            after := (Modfile.assignBefore t.span.1 t.comments (cs.filter (!·.suffix))).1.after ++
              (Modfile.preStmts t.stmts (Modfile.assignBefore t.span.1 t.comments (cs.filter (!·.suffix))).2).2
            before := (Modfile.assignBefore t.span.1 t.comments (cs.filter (!·.suffix))).1.before ++
              (travStmts .rpost F2
                (Modfile.preStmts t.stmts (Modfile.assignBefore t.span.1 t.comments (cs.filter (!·.suffix))).2).1.reverse
                (cs.filter (·.suffix)).reverse).2.reverse }
        stmts := ((travStmts .rpost F2
                (Modfile.preStmts t.stmts (Modfile.assignBefore t.span.1 t.comments (cs.filter (!·.suffix))).2).1.reverse
                (cs.filter (·.suffix)).reverse).1.reverse).map rev3 } := by
  simp only [Modfile.assignComments, postStmtsRev_eq, List.map_reverse]

theorem filter_map_comG (p : Comment → Bool) (q : Modfile.Comment → Bool) (hpq : ∀ c, p (comG c) = q c)
    (cs : List Modfile.Comment) : (cs.map comG).filter p = (cs.filter q).map comG := by
  induction cs with
  | nil => rfl
  | cons c cs ih =>
    simp only [List.map_cons, List.filter_cons, hpq, ih]
    split <;> rfl

theorem emb2_reverse (l : List Modfile.Comment) : emb2 l.reverse = l.map comG := by
  simp [emb2]

theorem emb2_eq (l : List Modfile.Comment) : emb2 l = l.reverse.map comG := by
  simp [emb2]


theorem addOrder_comments (in_ : input) (a b : List Expr) : (addOrder in_ a b).comments = in_.comments := rfl
theorem addOrder_file (in_ : input) (a b : List Expr) : (addOrder in_ a b).file = in_.file := rfl
theorem addOrder_pre (in_ : input) (a b : List Expr) : (addOrder in_ a b).pre = in_.pre ++ a := rfl
theorem addOrder_post (in_ : input) (a b : List Expr) : (addOrder in_ a b).post = in_.post ++ b := rfl

theorem assignComments_main {h : Heap} {p : Int} {t : Modfile.FileSyntax} {cs : List Modfile.Comment} {in_ : input}
    {m fuel : Nat} (hr : RFile h p t) (hwf : WF h p) (hfile : in_.file = p) (hcs : in_.comments = cs.map comG)
    (hpre : in_.pre = []) (hpost : in_.post = []) (hfs : t.comments.suffix.length ≤ 1)
    (hsuf : ∀ s ∈ t.stmts, StmtP (fun c => c.suffix.length ≤ m) s)
    (hfuel : nodeCount t.stmts + cs.length + m + 8 ≤ fuel) :
    ∃ in' h', input_assignComments fuel in_ h = .ok (((), in'), h') ∧ RFile h' p (Modfile.assignComments t cs) ∧
      in'.file = p ∧ in'.comments = in_.comments := by
  obtain ⟨es, hf, hs⟩ := hr
  obtain ⟨f0, hf0, hok, hn1, hn2, hn3⟩ := hwf.file
  have hf0' : f0 = fileG t es := by rw [hf] at hf0; cases hf0; rfl
  subst hf0'
  have hnd : (stmtsNodes .pre es t.stmts).Nodup := nodup_stmtsNodes hs hn1 hn2 hn3
  have hlen := RStmts_length hs
  have hcount := stmtsNodes_length_le hs
  -- order
  have hPRE : prePtrs h p es = Expr.FileSyntax p :: stmtsNodes .pre es t.stmts := by
    simp only [prePtrs, flatMap_pre_eq hs]
  have hPOST : postPtrs h p es = stmtsNodes .post es t.stmts ++ [Expr.FileSyntax p] := by
    simp only [postPtrs, flatMap_post_eq hs]
  have hord := order_file fuel in_ p h hf (fun e he => OrderOK_of_StmtOK (hok e he))
    (by show (prePtrs h p es).length + 2 ≤ fuel; rw [hPRE]; simp only [List.length_cons, hcount]; omega)
  simp only [fileG] at hord
  rw [hPRE, hPOST] at hord
  -- the pieces of the model computation
  obtain ⟨line0, hline0⟩ : ∃ l, l = cs.filter (!·.suffix) := ⟨_, rfl⟩
  obtain ⟨suf0, hsuf0⟩ : ∃ l, l = cs.filter (·.suffix) := ⟨_, rfl⟩
  have hl0 : line0.length ≤ cs.length := by rw [hline0]; exact List.length_filter_le _ _
  have hs0 : suf0.length ≤ cs.length := by rw [hsuf0]; exact List.length_filter_le _ _
  -- loop 1
  have hsplit := split_loop (cs.map comG) (addOrder in_ (Expr.FileSyntax p :: stmtsNodes .pre es t.stmts)
      (stmtsNodes .post es t.stmts ++ [Expr.FileSyntax p])) h (cs.map comG).length fuel 0 [] [] (by simp)
      (by simp; omega)
  simp only [Int.natCast_zero, List.drop_zero, List.nil_append] at hsplit
  rw [filter_map_comG (·.Suffix) (·.suffix) (fun c => rfl), filter_map_comG (fun c => !c.Suffix) (!·.suffix) (fun c => rfl),
    ← hline0, ← hsuf0] at hsplit
  -- pass 1
  obtain ⟨h2, hp2, hf2, hr2⟩ := phase1 (N := cs.length) (fuel := fuel) hf hs hnd line0 hl0 (by omega)
  obtain ⟨a, ha⟩ : ∃ a, a = Modfile.assignBefore t.span.1 t.comments line0 := ⟨_, rfl⟩
  rw [← ha] at hp2 hf2 hr2
  obtain ⟨pr, hpr⟩ : ∃ pr, pr = Modfile.preStmts t.stmts a.2 := ⟨_, rfl⟩
  rw [← hpr] at hp2 hr2
  have hloop2 := loop2_eq (Expr.FileSyntax p :: stmtsNodes .pre es t.stmts) (addOrder in_ (Expr.FileSyntax p :: stmtsNodes .pre es t.stmts)
      (stmtsNodes .post es t.stmts ++ [Expr.FileSyntax p])) (stmtsNodes .pre es t.stmts).length.succ fuel 0 h
      (line0.map comG) (by simp) (by simp; omega)
  simp only [Int.natCast_zero, List.drop_zero, hp2, bind_ok] at hloop2
  -- the rest of the whole-line comments goes to the end of the file
  obtain ⟨t3, ht3⟩ : ∃ t3 : Modfile.FileSyntax, t3 = { t with comments := { a.1 with after := a.1.after ++ pr.2 }, stmts := pr.1 } :=
    ⟨_, rfl⟩
  have hset3 : heapSet h2.files p
      { fileG { t with comments := a.1 } es with
        Comments := { (fileG { t with comments := a.1 } es).Comments with
          After := (fileG { t with comments := a.1 } es).Comments.After ++ pr.2.map comG } } =
      .ok (h2.files.set (p.toNat - 1) (fileG t3 es)) := by
    rw [heapSet_of_get _ hf2, ht3]
    simp [fileG, comsG]
  have hf3 : heapGet ({ h2 with files := h2.files.set (p.toNat - 1) (fileG t3 es) } : Heap).files p = .ok (fileG t3 es) :=
    heapGet_listSet_same _ hf2
  have hr3 : RStmts ({ h2 with files := h2.files.set (p.toNat - 1) (fileG t3 es) } : Heap) es t3.stmts := by
    rw [ht3]; exact (RStmts_files _ _ _ _).2 hr2
  have hshp3 : t3.stmts.map shp = t.stmts.map shp := by
    rw [ht3, hpr, ← travStmts_F1, map_shp_travStmts]
  have hnd3 : (stmtsNodes .pre es t3.stmts).Nodup := by rw [stmtsNodes_congr .pre es hshp3]; exact hnd
  have hcount3 : nodeCount t3.stmts = nodeCount t.stmts := by
    rw [← stmtsNodes_length_le hr3, ← hcount, stmtsNodes_congr .pre es hshp3]
  -- pass 2
  obtain ⟨h4, hp4, hf4, hr4⟩ := phase2 (N := cs.length) (fuel := fuel) hf3 hr3 hnd3 suf0.reverse (by simpa using hs0)
    (by omega)
  obtain ⟨R, hR⟩ : ∃ R, R = travStmts .rpost F2 t3.stmts.reverse suf0.reverse := ⟨_, rfl⟩
  rw [← hR] at hp4 hr4
  have hrevpost : (stmtsNodes .post es t.stmts ++ [Expr.FileSyntax p]).reverse =
      Expr.FileSyntax p :: stmtsNodes .rpost es.reverse t3.stmts.reverse := by
    rw [List.reverse_append, ← stmtsNodes_post_reverse es t3.stmts (by rw [← RStmts_length hr3]),
      stmtsNodes_congr .post es hshp3]
    rfl
  have hloop4 := loop4_eq (addOrder in_ (Expr.FileSyntax p :: stmtsNodes .pre es t.stmts)
      (stmtsNodes .post es t.stmts ++ [Expr.FileSyntax p])) _ (stmtsNodes .post es t.stmts ++ [Expr.FileSyntax p]) [] fuel
      ({ h2 with files := h2.files.set (p.toNat - 1) (fileG t3 es) } : Heap) (suf0.map comG) hrevpost
      (by rw [addOrder_post, hpost]; simp)
      (by simp only [List.length_append, stmtsNodes_length .post, hcount, List.length_singleton]; omega)
  rw [emb2_reverse] at hp4
  rw [hp4] at hloop4
  simp only [bind_ok] at hloop4
  -- pass 3
  obtain ⟨t4, ht4⟩ : ∃ t4 : Modfile.FileSyntax, t4 = { t3 with stmts := R.1.reverse } := ⟨_, rfl⟩
  have hf4' : heapGet h4.files p = .ok (fileG t4 es) := by rw [hf4, ht4]; exact hf3
  have hr4' : RStmts h4 es t4.stmts := by rw [ht4]; exact hr4
  have hshp4 : t4.stmts.map shp = t.stmts.map shp := by
    rw [ht4]
    simp only [List.map_reverse, hR, map_shp_travStmts, List.reverse_reverse, hshp3]
  have hnd4 : (stmtsNodes .pre es t4.stmts).Nodup := by rw [stmtsNodes_congr .pre es hshp4]; exact hnd
  have hcount4 : nodeCount t4.stmts = nodeCount t.stmts := by
    rw [← stmtsNodes_length_le hr4', ← hcount, stmtsNodes_congr .pre es hshp4]
  have hP3 : ∀ s ∈ t3.stmts, StmtP (fun c => c.suffix.length ≤ m) s := by
    rw [ht3, hpr, ← travStmts_F1]
    exact travStmts_P (K := a.2.length) F1_shrinks (fun sp c st' _ hc => by rw [F1_suffix]; exact hc) .pre t.stmts a.2
      (Nat.le_refl _) hsuf
  have hP4 : ∀ s ∈ t4.stmts, StmtP (fun c => c.suffix.length ≤ m + cs.length) s := by
    rw [ht4]
    intro s hs'
    have hs'' : s ∈ R.1 := List.mem_reverse.1 hs'
    rw [hR] at hs''
    exact travStmts_P (K := cs.length) F2_shrinks
      (fun sp c st' hst' hc => Nat.le_trans (F2_suffix_length sp c st') (by have hc' : c.suffix.length ≤ m := hc; omega)) .rpost
      t3.stmts.reverse suf0.reverse (by simpa using hs0) (fun s2 h2' => hP3 s2 (List.mem_reverse.1 h2')) s hs''
  have hfs4 : t4.comments.suffix.length ≤ 1 := by
    rw [ht4, ht3]
    simp only [ha, Modfile.assignBefore]
    exact hfs
  obtain ⟨h5, hp5, hf5, hr5⟩ := phase3 (N := m + cs.length) (fuel := fuel) hf4' hr4' hnd4 hP4 hfs4 (by omega)
  rw [stmtsNodes_congr .post es hshp4] at hp5
  have hloop6 := loop6_eq (stmtsNodes .post es t.stmts ++ [Expr.FileSyntax p]) (addOrder in_ (Expr.FileSyntax p :: stmtsNodes .pre es t.stmts)
      (stmtsNodes .post es t.stmts ++ [Expr.FileSyntax p])) (stmtsNodes .post es t.stmts ++ [Expr.FileSyntax p]).length fuel 0 h4 []
      (by simp)
      (by simp only [List.length_append, stmtsNodes_length .post, hcount, List.length_singleton]; omega)
  simp only [Int.natCast_zero, List.drop_zero, hp5, bind_ok] at hloop6
  -- the rest of the suffix comments goes to the beginning of the file
  obtain ⟨t6, ht6⟩ : ∃ t6 : Modfile.FileSyntax,
      t6 = { t4 with comments := { t4.comments with before := t4.comments.before ++ R.2.reverse }, stmts := t4.stmts.map rev3 } :=
    ⟨_, rfl⟩
  have hf5' : heapGet h5.files p = .ok (fileG t4 es) := by rw [hf5]; exact hf4'
  have hset6 : heapSet h5.files p
      { fileG t4 es with
        Comments := { (fileG t4 es).Comments with Before := (fileG t4 es).Comments.Before ++ emb2 R.2 } } =
      .ok (h5.files.set (p.toNat - 1) (fileG t6 es)) := by
    rw [heapSet_of_get _ hf5', ht6, emb2_eq]
    simp [fileG, comsG]
  have hfinal : t6 = Modfile.assignComments t cs := by
    rw [assignComments_eq, ht6, ht4, hR, ht3, hpr, ha, hline0, hsuf0]
  refine ⟨addOrder in_ (Expr.FileSyntax p :: stmtsNodes .pre es t.stmts) (stmtsNodes .post es t.stmts ++ [Expr.FileSyntax p]),
    ({ h5 with files := h5.files.set (p.toNat - 1) (fileG t6 es) } : Heap), ?_, ?_, ?_, ?_⟩
  · simp only [input_assignComments, hfile, hord, bind_ok, addOrder_comments, addOrder_pre, addOrder_post, addOrder_file,
      hcs, hpre, hpost, List.nil_append, hsplit, hloop2, hf2, hset3, hloop4, hloop6, hf5', hset6, pure_eq_ok]
  · rw [← hfinal]
    refine ⟨es, heapGet_listSet_same _ hf5', ?_⟩
    rw [ht6]
    exact (RStmts_files _ _ _ _).2 hr5
  · exact hfile
  · rfl

end ModVerif.TieFnParseComments
