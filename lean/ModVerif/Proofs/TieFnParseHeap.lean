/-
  The regenerated go.mod parser (Generated/FnParse.lean) builds its syntax tree as a HEAP of objects (`Parse.Heap`: `cbs`,
  `files`, `lines`, `blocks`; a pointer is the 1-based position, 0 = nil).  A heap graph is tied to a model tree in the
  embedding direction: `RLine`, `RExpr`, `RFile` say that the object at a pointer IS the embedding (`lineG`, `blockG`,
  `fileG`, …) of the model node, so every position in it is a natural number, and a line's pointer is its `id + 1`; the
  driver's `Option`-valued read-back (`lineOf`, `exprOf`, `fileOf`: the text of Drv/GenParse.lean) follows from the
  relation (`RFile.fileOf`).  `WF h p`: everything reachable from the file at `p` is allocated and no two places of the
  graph hold the same pointer.  `Expr_getComments` / `Expr_setComments` are the two halves of one lawful lens `slot`;
  `RLines` and `RStmts` are instances of `All2`, from which their behaviour under allocation and under `heapSet` at
  another pointer comes.
-/
import ModVerif.Generated.FnParse
import ModVerif.Model.Modfile.Comments
import ModVerif.Drv.LexOps
import ModVerif.Proofs.GoRtLemmasHeap
namespace ModVerif.Tie.FnParseHeap
open ModVerif ModVerif.GoRt ModVerif.Generated
open ModVerif.Drv.LexOps.M (kindCode)

/-! ### embeddings (model → generated) and read-back (generated → model) -/

def posG (p : Modfile.Position) : Parse.Position :=
  { Line := (p.line : Int), LineRune := (p.lineRune : Int), Byte := (p.byte : Int) }

def posOf (p : Parse.Position) : Modfile.Position :=
  { line := p.Line.toNat, lineRune := p.LineRune.toNat, byte := p.Byte.toNat }

def comG (c : Modfile.Comment) : Parse.Comment := { Start := posG c.start, Token := c.token, Suffix := c.suffix }
def comOf (c : Parse.Comment) : Modfile.Comment := { start := posOf c.Start, token := c.Token, suffix := c.Suffix }

def comsG (c : Modfile.Comments) : Parse.Comments :=
  { Before := c.before.map comG, Suffix := c.suffix.map comG, After := c.after.map comG }
def comsOf (c : Parse.Comments) : Modfile.Comments :=
  { before := c.Before.map comOf, suffix := c.Suffix.map comOf, after := c.After.map comOf }

def tokG (t : Modfile.Token) : Parse.token :=
  { kind := kindCode t.kind, pos := posG t.pos, endPos := posG t.endPos, text := t.text }

def PosNN (p : Parse.Position) : Prop := 0 ≤ p.Line ∧ 0 ≤ p.LineRune ∧ 0 ≤ p.Byte

@[simp] theorem posOf_posG (p : Modfile.Position) : posOf (posG p) = p := by
  cases p; simp [posOf, posG]

theorem posG_posOf {p : Parse.Position} (h : PosNN p) : posG (posOf p) = p := by
  obtain ⟨a, b, c⟩ := p
  obtain ⟨h1, h2, h3⟩ := h
  simp only [posOf, posG] at *
  congr <;> omega

theorem posNN_posG (p : Modfile.Position) : PosNN (posG p) := by
  simp [PosNN, posG]

theorem posG_inj {p q : Modfile.Position} (h : posG p = posG q) : p = q := by
  have := congrArg posOf h
  simpa using this

@[simp] theorem posG_zero : posG {} = (default : Parse.Position) := rfl
@[simp] theorem posG_Line (p : Modfile.Position) : (posG p).Line = (p.line : Int) := rfl
@[simp] theorem posG_LineRune (p : Modfile.Position) : (posG p).LineRune = (p.lineRune : Int) := rfl
@[simp] theorem posG_Byte (p : Modfile.Position) : (posG p).Byte = (p.byte : Int) := rfl

@[simp] theorem comOf_comG (c : Modfile.Comment) : comOf (comG c) = c := by
  cases c; simp [comOf, comG]

@[simp] theorem comG_zero : comG {} = (default : Parse.Comment) := rfl
@[simp] theorem comG_Start (c : Modfile.Comment) : (comG c).Start = posG c.start := rfl
@[simp] theorem comG_Token (c : Modfile.Comment) : (comG c).Token = c.token := rfl
@[simp] theorem comG_Suffix (c : Modfile.Comment) : (comG c).Suffix = c.suffix := rfl

theorem comG_inj {c d : Modfile.Comment} (h : comG c = comG d) : c = d := by
  have := congrArg comOf h
  simpa using this

@[simp] theorem map_comOf_comG (l : List Modfile.Comment) : (l.map comG).map comOf = l := by
  induction l with
  | nil => rfl
  | cons a t ih => simp [ih]

@[simp] theorem comsOf_comsG (c : Modfile.Comments) : comsOf (comsG c) = c := by
  cases c; simp only [comsOf, comsG, map_comOf_comG]

@[simp] theorem comsG_zero : comsG {} = (default : Parse.Comments) := rfl
@[simp] theorem comsG_Before (c : Modfile.Comments) : (comsG c).Before = c.before.map comG := rfl
@[simp] theorem comsG_Suffix (c : Modfile.Comments) : (comsG c).Suffix = c.suffix.map comG := rfl
@[simp] theorem comsG_After (c : Modfile.Comments) : (comsG c).After = c.after.map comG := rfl

theorem comsG_inj {c d : Modfile.Comments} (h : comsG c = comsG d) : c = d := by
  have := congrArg comsOf h
  simpa using this

def cbG (c : Modfile.CommentBlock) : Parse.CommentBlock := { Comments := comsG c.comments, Start := posG c.start }

def lineG (l : Modfile.Line) : Parse.Line :=
  { Comments := comsG l.comments, Start := posG l.start, Token := l.token, InBlock := l.inBlock, End := posG l.«end» }

def lparenG (x : Modfile.LParen) : Parse.LParen := { Comments := comsG x.comments, Pos := posG x.pos }
def rparenG (x : Modfile.RParen) : Parse.RParen := { Comments := comsG x.comments, Pos := posG x.pos }

/-- the block object: its lines are the pointers `ps` -/
def blockG (b : Modfile.LineBlock) (ps : List Int) : Parse.LineBlock :=
  { Comments := comsG b.comments, Start := posG b.start, LParen := lparenG b.lparen, Token := b.token, Line := ps,
    RParen := rparenG b.rparen }

/-- the file object: its statements are the pointers `es` -/
def fileG (f : Modfile.FileSyntax) (es : List Parse.Expr) : Parse.FileSyntax :=
  { Name := f.name, Comments := comsG f.comments, Stmt := es }

/-! ### reification, `Option`-valued (the text of Drv/GenParse.lean) -/

def lineOf (h : Parse.Heap) (p : Int) : Option Modfile.Line :=
  match heapGet h.lines p with
  | .ok l => some { id := p.toNat - 1, comments := comsOf l.Comments, start := posOf l.Start, token := l.Token,
                    inBlock := l.InBlock, «end» := posOf l.End }
  | .error _ => none

def exprOf (h : Parse.Heap) : Parse.Expr → Option Modfile.Expr
  | .CommentBlock p => match heapGet h.cbs p with
    | .ok c => some (.commentBlock { comments := comsOf c.Comments, start := posOf c.Start })
    | .error _ => none
  | .Line p => (lineOf h p).map .line
  | .LineBlock p => match heapGet h.blocks p with
    | .ok b => do
      let ls ← b.Line.mapM (lineOf h)
      pure (.lineBlock { comments := comsOf b.Comments, start := posOf b.Start,
                         lparen := { comments := comsOf b.LParen.Comments, pos := posOf b.LParen.Pos },
                         token := b.Token, lines := ls,
                         rparen := { comments := comsOf b.RParen.Comments, pos := posOf b.RParen.Pos } })
    | .error _ => none
  | _ => none

def fileOf (h : Parse.Heap) (p : Int) : Option Modfile.FileSyntax :=
  match heapGet h.files p with
  | .ok f => do
    let ss ← f.Stmt.mapM (exprOf h)
    pure { name := f.Name, comments := comsOf f.Comments, stmts := ss }
  | .error _ => none

/-! ### reification as relations (embedding direction) -/

/-- the line object at `p` is the embedding of `l`, and `l.id` is the creation index of the object -/
def RLine (h : Parse.Heap) (p : Int) (l : Modfile.Line) : Prop :=
  heapGet h.lines p = .ok (lineG l) ∧ p = ((l.id + 1 : Nat) : Int)

def RLines (h : Parse.Heap) : List Int → List Modfile.Line → Prop
  | [], [] => True
  | p :: ps, l :: ls => RLine h p l ∧ RLines h ps ls
  | _, _ => False

def RExpr (h : Parse.Heap) : Parse.Expr → Modfile.Expr → Prop
  | .CommentBlock p, .commentBlock c => heapGet h.cbs p = .ok (cbG c)
  | .Line p, .line l => RLine h p l
  | .LineBlock p, .lineBlock b => ∃ ps, heapGet h.blocks p = .ok (blockG b ps) ∧ RLines h ps b.lines
  | _, _ => False

def RStmts (h : Parse.Heap) : List Parse.Expr → List Modfile.Expr → Prop
  | [], [] => True
  | e :: es, s :: ss => RExpr h e s ∧ RStmts h es ss
  | _, _ => False

def RFile (h : Parse.Heap) (p : Int) (f : Modfile.FileSyntax) : Prop :=
  ∃ es, heapGet h.files p = .ok (fileG f es) ∧ RStmts h es f.stmts

/-! ### pointers of a graph, well-formedness -/

/-- the line pointers of a block object (`[]` if the block is not allocated) -/
def blockLines (h : Parse.Heap) (p : Int) : List Int :=
  match heapGet h.blocks p with
  | .ok b => b.Line
  | .error _ => []

def linePtrs (h : Parse.Heap) : List Parse.Expr → List Int
  | [] => []
  | .Line p :: es => p :: linePtrs h es
  | .LineBlock p :: es => blockLines h p ++ linePtrs h es
  | _ :: es => linePtrs h es

def blockPtrs : List Parse.Expr → List Int
  | [] => []
  | .LineBlock p :: es => p :: blockPtrs es
  | _ :: es => blockPtrs es

def cbPtrs : List Parse.Expr → List Int
  | [] => []
  | .CommentBlock p :: es => p :: cbPtrs es
  | _ :: es => cbPtrs es

/-- a statement: a comment block, a line or a block, allocated with everything below it -/
def StmtOK (h : Parse.Heap) : Parse.Expr → Prop
  | .CommentBlock p => ∃ c, heapGet h.cbs p = .ok c
  | .Line p => ∃ l, heapGet h.lines p = .ok l
  | .LineBlock p => ∃ b, heapGet h.blocks p = .ok b ∧ ∀ q ∈ b.Line, ∃ l, heapGet h.lines q = .ok l
  | _ => False

/-- the graph at the file pointer `p` is well-formed: allocated, statements of the three statement types, no pointer
    held twice -/
structure WF (h : Parse.Heap) (p : Int) : Prop where
  file : ∃ f, heapGet h.files p = .ok f ∧ (∀ e ∈ f.Stmt, StmtOK h e) ∧
    (linePtrs h f.Stmt).Nodup ∧ (blockPtrs f.Stmt).Nodup ∧ (cbPtrs f.Stmt).Nodup

section comments
open Parse

/-- Where the comments of the node `e` live: the comments themselves, and the heap after storing other comments
    there (one object of one list replaced by an object that differs in one `Comments` field); `.panic` for a nil or
    dangling pointer.  `(`, `)` and the block itself are three nodes in one object. -/
def slot (h : Heap) : Expr → M (Comments × (Comments → Heap))
  | .CommentBlock p => (heapGet h.cbs p).map fun t =>
      (t.Comments, fun c => { h with cbs := h.cbs.set (p.toNat - 1) { t with Comments := c } })
  | .LParen p => (heapGet h.blocks p).map fun t =>
      (t.LParen.Comments, fun c => { h with blocks := h.blocks.set (p.toNat - 1) { t with LParen := { t.LParen with Comments := c } } })
  | .RParen p => (heapGet h.blocks p).map fun t =>
      (t.RParen.Comments, fun c => { h with blocks := h.blocks.set (p.toNat - 1) { t with RParen := { t.RParen with Comments := c } } })
  | .Line p => (heapGet h.lines p).map fun t =>
      (t.Comments, fun c => { h with lines := h.lines.set (p.toNat - 1) { t with Comments := c } })
  | .LineBlock p => (heapGet h.blocks p).map fun t =>
      (t.Comments, fun c => { h with blocks := h.blocks.set (p.toNat - 1) { t with Comments := c } })
  | .FileSyntax p => (heapGet h.files p).map fun t =>
      (t.Comments, fun c => { h with files := h.files.set (p.toNat - 1) { t with Comments := c } })
  | .nil => throw .panic

theorem map_ok_iff {α β : Type} {x : M α} {f : α → β} {b : β} : x.map f = .ok b ↔ ∃ a, x = .ok a ∧ f a = b := by
  cases x with
  | error e => simp [Except.map]
  | ok a => simp [Except.map]

theorem getComments_eq_slot (e : Expr) (h : Heap) : Expr_getComments e h = (slot h e).map (·.1) := by
  cases e <;> simp only [Expr_getComments, slot]
  case nil => rfl
  all_goals (cases heapGet _ _ <;> rfl)

theorem setComments_eq_slot (e : Expr) (c : Comments) (h : Heap) :
    Expr_setComments e c h = (slot h e).map (·.2 c) := by
  cases e <;> simp only [Expr_setComments, slot]
  case nil => rfl
  all_goals (
    generalize hg : heapGet _ _ = r
    cases r with
    | error e => rfl
    | ok t => simp only [bind_ok, heapSet_of_get _ hg]; rfl)

theorem slot_self {e : Expr} {h : Heap} {c0 : Comments} {upd : Comments → Heap} (hs : slot h e = .ok (c0, upd)) :
    upd c0 = h := by
  cases e <;> simp only [slot] at hs
  case nil => cases hs
  all_goals (
    obtain ⟨t, ht, hv⟩ := map_ok_iff.1 hs
    cases hv
    simp only [heap_set_self ht])

theorem slot_upd {e : Expr} {h : Heap} {c0 : Comments} {upd : Comments → Heap} (hs : slot h e = .ok (c0, upd))
    (c : Comments) : slot (upd c) e = .ok (c, upd) := by
  cases e <;> simp only [slot] at hs
  case nil => cases hs
  all_goals (
    obtain ⟨t, ht, hv⟩ := map_ok_iff.1 hs
    cases hv
    simp only [slot, heapGet_listSet_same _ ht, Except.map, List.set_set])

theorem slot_of_get {e : Expr} {h : Heap} {c0 : Comments} (hg : Expr_getComments e h = .ok c0) :
    ∃ upd, slot h e = .ok (c0, upd) := by
  rw [getComments_eq_slot] at hg
  obtain ⟨⟨_, upd⟩, hs, rfl⟩ := map_ok_iff.1 hg
  exact ⟨upd, hs⟩

theorem slot_of_set {e : Expr} {h h' : Heap} {c : Comments} (hs : Expr_setComments e c h = .ok h') :
    ∃ c0 upd, slot h e = .ok (c0, upd) ∧ upd c = h' := by
  rw [setComments_eq_slot] at hs
  obtain ⟨⟨c0, upd⟩, hs, hc⟩ := map_ok_iff.1 hs
  exact ⟨c0, upd, hs, hc⟩

theorem getComments_of_slot {e : Expr} {h : Heap} {c0 : Comments} {upd : Comments → Heap}
    (hs : slot h e = .ok (c0, upd)) : Expr_getComments e h = .ok c0 := by
  rw [getComments_eq_slot, hs]; rfl

theorem setComments_of_slot {e : Expr} {h : Heap} {c0 : Comments} {upd : Comments → Heap}
    (hs : slot h e = .ok (c0, upd)) (c : Comments) : Expr_setComments e c h = .ok (upd c) := by
  rw [setComments_eq_slot, hs]; rfl

theorem setComments_ok_of_get {e : Expr} {h : Heap} {c0 : Comments} (hg : Expr_getComments e h = .ok c0) (c : Comments) :
    ∃ h', Expr_setComments e c h = .ok h' := by
  obtain ⟨upd, hs⟩ := slot_of_get hg
  exact ⟨_, setComments_of_slot hs c⟩

theorem getComments_ok_of_set {e : Expr} {h h' : Heap} {c : Comments} (hs : Expr_setComments e c h = .ok h') :
    ∃ c0, Expr_getComments e h = .ok c0 := by
  obtain ⟨c0, upd, hsl, _⟩ := slot_of_set hs
  exact ⟨c0, getComments_of_slot hsl⟩

theorem getComments_setComments_same {e : Expr} {h h' : Heap} {c : Comments} (hs : Expr_setComments e c h = .ok h') :
    Expr_getComments e h' = .ok c := by
  obtain ⟨c0, upd, hsl, rfl⟩ := slot_of_set hs
  exact getComments_of_slot (slot_upd hsl c)

theorem setComments_self {e : Expr} {h : Heap} {c : Comments} (hg : Expr_getComments e h = .ok c) :
    Expr_setComments e c h = .ok h := by
  obtain ⟨upd, hs⟩ := slot_of_get hg
  rw [setComments_of_slot hs, slot_self hs]

theorem setComments_twice {e : Expr} {h h1 : Heap} {c1 : Comments} (hs : Expr_setComments e c1 h = .ok h1)
    (c2 : Comments) : Expr_setComments e c2 h1 = Expr_setComments e c2 h := by
  obtain ⟨c0, upd, hsl, rfl⟩ := slot_of_set hs
  rw [setComments_of_slot (slot_upd hsl c1), setComments_of_slot hsl]

/-- what `Expr_setComments` does to the four lists: three are untouched, one has ONE object replaced, by an object that
    differs from the old one in (one of) its `Comments` only -/
theorem setComments_shape {e : Expr} {h h' : Heap} {c : Comments} (hs : Expr_setComments e c h = .ok h') :
    (match e with
     | .CommentBlock p => ∃ t, heapGet h.cbs p = .ok t ∧
         h' = { h with cbs := h.cbs.set (p.toNat - 1) { t with Comments := c } }
     | .LParen p => ∃ t, heapGet h.blocks p = .ok t ∧
         h' = { h with blocks := h.blocks.set (p.toNat - 1) { t with LParen := { t.LParen with Comments := c } } }
     | .RParen p => ∃ t, heapGet h.blocks p = .ok t ∧
         h' = { h with blocks := h.blocks.set (p.toNat - 1) { t with RParen := { t.RParen with Comments := c } } }
     | .Line p => ∃ t, heapGet h.lines p = .ok t ∧
         h' = { h with lines := h.lines.set (p.toNat - 1) { t with Comments := c } }
     | .LineBlock p => ∃ t, heapGet h.blocks p = .ok t ∧
         h' = { h with blocks := h.blocks.set (p.toNat - 1) { t with Comments := c } }
     | .FileSyntax p => ∃ t, heapGet h.files p = .ok t ∧
         h' = { h with files := h.files.set (p.toNat - 1) { t with Comments := c } }
     | .nil => False) := by
  obtain ⟨c0, upd, hsl, rfl⟩ := slot_of_set hs
  cases e <;> simp only [slot] at hsl
  case nil => cases hsl
  all_goals (
    obtain ⟨t, ht, hv⟩ := map_ok_iff.1 hsl
    cases hv
    exact ⟨t, ht, rfl⟩)

theorem getComments_CommentBlock {h : Heap} {p : Int} {t : CommentBlock} (hg : heapGet h.cbs p = .ok t) :
    Expr_getComments (.CommentBlock p) h = .ok t.Comments := by simp [Expr_getComments, hg]
theorem getComments_Line {h : Heap} {p : Int} {t : Line} (hg : heapGet h.lines p = .ok t) :
    Expr_getComments (.Line p) h = .ok t.Comments := by simp [Expr_getComments, hg]
theorem getComments_LineBlock {h : Heap} {p : Int} {t : LineBlock} (hg : heapGet h.blocks p = .ok t) :
    Expr_getComments (.LineBlock p) h = .ok t.Comments := by simp [Expr_getComments, hg]
theorem getComments_LParen {h : Heap} {p : Int} {t : LineBlock} (hg : heapGet h.blocks p = .ok t) :
    Expr_getComments (.LParen p) h = .ok t.LParen.Comments := by simp [Expr_getComments, hg]
theorem getComments_RParen {h : Heap} {p : Int} {t : LineBlock} (hg : heapGet h.blocks p = .ok t) :
    Expr_getComments (.RParen p) h = .ok t.RParen.Comments := by simp [Expr_getComments, hg]
theorem getComments_FileSyntax {h : Heap} {p : Int} {t : FileSyntax} (hg : heapGet h.files p = .ok t) :
    Expr_getComments (.FileSyntax p) h = .ok t.Comments := by simp [Expr_getComments, hg]

theorem setComments_CommentBlock {h : Heap} {p : Int} {t : CommentBlock} (hg : heapGet h.cbs p = .ok t) (c : Comments) :
    Expr_setComments (.CommentBlock p) c h = .ok { h with cbs := h.cbs.set (p.toNat - 1) { t with Comments := c } } := by
  simp [Expr_setComments, hg, heapSet_of_get _ hg]
theorem setComments_Line {h : Heap} {p : Int} {t : Line} (hg : heapGet h.lines p = .ok t) (c : Comments) :
    Expr_setComments (.Line p) c h = .ok { h with lines := h.lines.set (p.toNat - 1) { t with Comments := c } } := by
  simp [Expr_setComments, hg, heapSet_of_get _ hg]
theorem setComments_LineBlock {h : Heap} {p : Int} {t : LineBlock} (hg : heapGet h.blocks p = .ok t) (c : Comments) :
    Expr_setComments (.LineBlock p) c h = .ok { h with blocks := h.blocks.set (p.toNat - 1) { t with Comments := c } } := by
  simp [Expr_setComments, hg, heapSet_of_get _ hg]
theorem setComments_LParen {h : Heap} {p : Int} {t : LineBlock} (hg : heapGet h.blocks p = .ok t) (c : Comments) :
    Expr_setComments (.LParen p) c h =
      .ok { h with blocks := h.blocks.set (p.toNat - 1) { t with LParen := { t.LParen with Comments := c } } } := by
  simp [Expr_setComments, hg, heapSet_of_get _ hg]
theorem setComments_RParen {h : Heap} {p : Int} {t : LineBlock} (hg : heapGet h.blocks p = .ok t) (c : Comments) :
    Expr_setComments (.RParen p) c h =
      .ok { h with blocks := h.blocks.set (p.toNat - 1) { t with RParen := { t.RParen with Comments := c } } } := by
  simp [Expr_setComments, hg, heapSet_of_get _ hg]
theorem setComments_FileSyntax {h : Heap} {p : Int} {t : FileSyntax} (hg : heapGet h.files p = .ok t) (c : Comments) :
    Expr_setComments (.FileSyntax p) c h = .ok { h with files := h.files.set (p.toNat - 1) { t with Comments := c } } := by
  simp [Expr_setComments, hg, heapSet_of_get _ hg]

/-- `(`, `)` and the block itself are three nodes in one object -/
theorem getComments_setComments_other {e e' : Expr} {h h' : Heap} {c : Comments} (hs : Expr_setComments e c h = .ok h')
    (hne : e' ≠ e) : Expr_getComments e' h' = Expr_getComments e' h := by
  have := setComments_shape hs
  cases e <;> simp only at this
  all_goals (first | (obtain ⟨t, ht, rfl⟩ := this) | exact this.elim)
  all_goals cases e' <;> simp only [Expr_getComments]
  all_goals (first | rfl | skip)
  all_goals (rename_i p q)
  all_goals (by_cases hpq : q = p)
  all_goals (first | (subst hpq; first | exact absurd rfl hne | simp [heapGet_listSet_same _ ht, ht]) |
                     (rw [heapGet_listSet_other _ ht hpq]))

end comments

/-! ### two lists related elementwise: the common shape of `RLines` and `RStmts` -/

def All2 {α β : Type} (R : α → β → Prop) : List α → List β → Prop
  | [], [] => True
  | a :: as, b :: bs => R a b ∧ All2 R as bs
  | _, _ => False

namespace All2
variable {α β : Type} {R S : α → β → Prop}

theorem length_eq : ∀ {as : List α} {bs : List β}, All2 R as bs → as.length = bs.length
  | [], [], _ => rfl
  | _ :: _, _ :: _, h => congrArg (· + 1) (length_eq h.2)

theorem append : ∀ {as as' : List α} {bs bs' : List β}, All2 R as bs → All2 R as' bs' → All2 R (as ++ as') (bs ++ bs')
  | [], _, [], _, _, h2 => h2
  | _ :: _, _, _ :: _, _, h1, h2 => ⟨h1.1, append h1.2 h2⟩

theorem reverse : ∀ {as : List α} {bs : List β}, All2 R as bs → All2 R as.reverse bs.reverse
  | [], [], _ => trivial
  | a :: as, b :: bs, h => by
    rw [List.reverse_cons, List.reverse_cons]
    exact append (reverse h.2) ⟨h.1, trivial⟩

theorem imp : ∀ {as : List α} {bs : List β}, (∀ a ∈ as, ∀ b, R a b → S a b) → All2 R as bs → All2 S as bs
  | [], [], _, _ => trivial
  | a :: _, b :: _, hi, h =>
    ⟨hi a List.mem_cons_self b h.1, imp (fun a' ha' => hi a' (List.mem_cons_of_mem _ ha')) h.2⟩

theorem congr {as : List α} {bs : List β} (hi : ∀ a ∈ as, ∀ b, R a b ↔ S a b) : All2 R as bs ↔ All2 S as bs :=
  ⟨imp fun a ha b => (hi a ha b).1, imp fun a ha b => (hi a ha b).2⟩

theorem of_mem : ∀ {as : List α} {bs : List β}, All2 R as bs → ∀ a ∈ as, ∃ b ∈ bs, R a b
  | a :: as, b :: bs, h, a', ha' => by
    rcases List.mem_cons.1 ha' with rfl | ha'
    · exact ⟨b, List.mem_cons_self, h.1⟩
    · obtain ⟨b', hb', hr⟩ := of_mem h.2 a' ha'
      exact ⟨b', List.mem_cons_of_mem _ hb', hr⟩

theorem eq_map {g : β → α} (hg : ∀ a b, R a b → a = g b) : ∀ {as : List α} {bs : List β}, All2 R as bs → as = bs.map g
  | [], [], _ => rfl
  | a :: as, b :: bs, h => by rw [List.map_cons, ← hg a b h.1, ← eq_map hg h.2]

theorem mapM_eq {f : α → Option β} (hf : ∀ a b, R a b → f a = some b) :
    ∀ {as : List α} {bs : List β}, All2 R as bs → as.mapM f = some bs
  | [], [], _ => rfl
  | a :: as, b :: bs, h => by simp [List.mapM_cons, hf a b h.1, mapM_eq hf h.2]

instance dec [∀ a b, Decidable (R a b)] : (as : List α) → (bs : List β) → Decidable (All2 R as bs)
  | [], [] => isTrue trivial
  | a :: as, b :: bs => have := dec as bs; inferInstanceAs (Decidable (R a b ∧ All2 R as bs))
  | [], _ :: _ => isFalse id
  | _ :: _, [] => isFalse id

end All2

/-! ### the reification relations: unfolding, frame, read-back -/

section rel
open Parse

@[simp] theorem RLines_nil (h : Heap) : RLines h [] [] = True := rfl
@[simp] theorem RLines_cons (h : Heap) (p : Int) (ps : List Int) (l : Modfile.Line) (ls : List Modfile.Line) :
    RLines h (p :: ps) (l :: ls) = (RLine h p l ∧ RLines h ps ls) := rfl
@[simp] theorem RLines_nil_cons (h : Heap) (l : Modfile.Line) (ls : List Modfile.Line) : RLines h [] (l :: ls) = False := rfl
@[simp] theorem RLines_cons_nil (h : Heap) (p : Int) (ps : List Int) : RLines h (p :: ps) [] = False := rfl

@[simp] theorem RStmts_nil (h : Heap) : RStmts h [] [] = True := rfl
@[simp] theorem RStmts_cons (h : Heap) (e : Expr) (es : List Expr) (s : Modfile.Expr) (ss : List Modfile.Expr) :
    RStmts h (e :: es) (s :: ss) = (RExpr h e s ∧ RStmts h es ss) := rfl
@[simp] theorem RStmts_nil_cons (h : Heap) (s : Modfile.Expr) (ss : List Modfile.Expr) : RStmts h [] (s :: ss) = False := rfl
@[simp] theorem RStmts_cons_nil (h : Heap) (e : Expr) (es : List Expr) : RStmts h (e :: es) [] = False := rfl

theorem RLines_iff {h : Heap} : ∀ {ps : List Int} {ls : List Modfile.Line}, RLines h ps ls ↔ All2 (RLine h) ps ls
  | [], [] => Iff.rfl
  | _ :: _, _ :: _ => and_congr_right fun _ => RLines_iff
  | [], _ :: _ => Iff.rfl
  | _ :: _, [] => Iff.rfl

theorem RStmts_iff {h : Heap} : ∀ {es : List Expr} {ss : List Modfile.Expr}, RStmts h es ss ↔ All2 (RExpr h) es ss
  | [], [] => Iff.rfl
  | _ :: _, _ :: _ => and_congr_right fun _ => RStmts_iff
  | [], _ :: _ => Iff.rfl
  | _ :: _, [] => Iff.rfl

variable {h h' : Heap} {ps qs : List Int} {ls ms : List Modfile.Line} {es fs : List Expr} {ss ts : List Modfile.Expr}

theorem RLines_length (hr : RLines h ps ls) : ps.length = ls.length := (RLines_iff.1 hr).length_eq
theorem RStmts_length (hr : RStmts h es ss) : es.length = ss.length := (RStmts_iff.1 hr).length_eq

theorem RLines_append (h1 : RLines h ps ls) (h2 : RLines h qs ms) : RLines h (ps ++ qs) (ls ++ ms) :=
  RLines_iff.2 ((RLines_iff.1 h1).append (RLines_iff.1 h2))
theorem RStmts_append (h1 : RStmts h es ss) (h2 : RStmts h fs ts) : RStmts h (es ++ fs) (ss ++ ts) :=
  RStmts_iff.2 ((RStmts_iff.1 h1).append (RStmts_iff.1 h2))

theorem RLines_reverse (hr : RLines h ps ls) : RLines h ps.reverse ls.reverse := RLines_iff.2 (RLines_iff.1 hr).reverse
theorem RStmts_reverse (hr : RStmts h es ss) : RStmts h es.reverse ss.reverse := RStmts_iff.2 (RStmts_iff.1 hr).reverse

theorem RLine_congr (hl : h'.lines = h.lines) {p : Int} {l : Modfile.Line} : RLine h' p l ↔ RLine h p l := by
  simp [RLine, hl]

theorem RLines_congr (hl : h'.lines = h.lines) {ps : List Int} {ls : List Modfile.Line} :
    RLines h' ps ls ↔ RLines h ps ls :=
  RLines_iff.trans ((All2.congr fun _ _ _ => RLine_congr hl).trans RLines_iff.symm)

theorem RExpr_congr (hc : h'.cbs = h.cbs) (hl : h'.lines = h.lines) (hb : h'.blocks = h.blocks)
    {e : Expr} {s : Modfile.Expr} : RExpr h' e s ↔ RExpr h e s := by
  cases e <;> cases s <;> simp only [RExpr, hc, hb, RLine_congr hl, RLines_congr hl]

theorem RStmts_congr (hc : h'.cbs = h.cbs) (hl : h'.lines = h.lines) (hb : h'.blocks = h.blocks)
    {es : List Expr} {ss : List Modfile.Expr} : RStmts h' es ss ↔ RStmts h es ss :=
  RStmts_iff.trans ((All2.congr fun _ _ _ => RExpr_congr hc hl hb).trans RStmts_iff.symm)

@[simp] theorem RExpr_files (h : Heap) (fl : List FileSyntax) (e : Expr) (s : Modfile.Expr) :
    RExpr { h with files := fl } e s ↔ RExpr h e s :=
  RExpr_congr (h := h) (h' := { h with files := fl }) rfl rfl rfl
@[simp] theorem RStmts_files (h : Heap) (fl : List FileSyntax) (es : List Expr) (ss : List Modfile.Expr) :
    RStmts { h with files := fl } es ss ↔ RStmts h es ss :=
  RStmts_congr (h := h) (h' := { h with files := fl }) rfl rfl rfl

/-! ### heap extension: allocation (and mutation of objects allocated later) keeps every reified node -/

/-- `h'` has the objects of `h` at the same pointers, and possibly more -/
structure Ext (h h' : Heap) : Prop where
  cbs : h.cbs <+: h'.cbs
  lines : h.lines <+: h'.lines
  blocks : h.blocks <+: h'.blocks

theorem Ext.refl (h : Heap) : Ext h h := ⟨List.prefix_refl _, List.prefix_refl _, List.prefix_refl _⟩
theorem Ext.trans {h1 h2 h3 : Heap} (a : Ext h1 h2) (b : Ext h2 h3) : Ext h1 h3 :=
  ⟨a.cbs.trans b.cbs, a.lines.trans b.lines, a.blocks.trans b.blocks⟩

theorem RLine.ext (hx : Ext h h') {p : Int} {l : Modfile.Line} (hr : RLine h p l) : RLine h' p l :=
  ⟨heapGet_prefix hx.lines hr.1, hr.2⟩

theorem RLines.ext (hx : Ext h h') {ps : List Int} {ls : List Modfile.Line} (hr : RLines h ps ls) : RLines h' ps ls :=
  RLines_iff.2 ((RLines_iff.1 hr).imp fun _ _ _ => RLine.ext hx)

theorem RExpr.ext (hx : Ext h h') {e : Expr} {s : Modfile.Expr} (hr : RExpr h e s) : RExpr h' e s := by
  cases e <;> cases s <;> simp only [RExpr] at hr ⊢
  · exact heapGet_prefix hx.cbs hr
  · exact hr.ext hx
  · obtain ⟨ps, hb, hl⟩ := hr
    exact ⟨ps, heapGet_prefix hx.blocks hb, hl.ext hx⟩

theorem RStmts.ext (hx : Ext h h') {es : List Expr} {ss : List Modfile.Expr} (hr : RStmts h es ss) :
    RStmts h' es ss :=
  RStmts_iff.2 ((RStmts_iff.1 hr).imp fun _ _ _ => RExpr.ext hx)

theorem Ext.allocLine (h : Heap) (v : Line) : Ext h { h with lines := h.lines ++ [v] } :=
  ⟨List.prefix_refl _, List.prefix_append _ _, List.prefix_refl _⟩
theorem Ext.allocBlock (h : Heap) (v : LineBlock) : Ext h { h with blocks := h.blocks ++ [v] } :=
  ⟨List.prefix_refl _, List.prefix_refl _, List.prefix_append _ _⟩
theorem Ext.allocCb (h : Heap) (v : CommentBlock) : Ext h { h with cbs := h.cbs ++ [v] } :=
  ⟨List.prefix_append _ _, List.prefix_refl _, List.prefix_refl _⟩
theorem Ext.files (h : Heap) (fl : List FileSyntax) : Ext h { h with files := fl } :=
  ⟨List.prefix_refl _, List.prefix_refl _, List.prefix_refl _⟩

theorem RLine_setLine_other {q : Int} {v : Line} {l' : List Line} (hs : heapSet h.lines q v = .ok l')
    {p : Int} {l : Modfile.Line} (hq : p ≠ q) : RLine { h with lines := l' } p l ↔ RLine h p l := by
  simp only [RLine, heapGet_set_other hs hq]

theorem RLines_setLine_other {q : Int} {v : Line} {l' : List Line} (hs : heapSet h.lines q v = .ok l')
    {ps : List Int} {ls : List Modfile.Line} (hq : q ∉ ps) : RLines { h with lines := l' } ps ls ↔ RLines h ps ls :=
  RLines_iff.trans ((All2.congr fun _ hp _ => RLine_setLine_other hs fun e => hq (e ▸ hp)).trans RLines_iff.symm)

theorem RLines_ptrs (hr : RLines h ps ls) : ps = ls.map (fun l => ((l.id + 1 : Nat) : Int)) :=
  (RLines_iff.1 hr).eq_map fun _ _ hl => hl.2

theorem RLine_bound {p : Int} {l : Modfile.Line} (hr : RLine h p l) : 0 < p ∧ p.toNat ≤ h.lines.length :=
  ⟨heapGet_pos hr.1, heapGet_le_length hr.1⟩

theorem RLines_bound {h : Heap} : ∀ {ps : List Int} {ls : List Modfile.Line}, RLines h ps ls →
    ∀ p ∈ ps, 0 < p ∧ p.toNat ≤ h.lines.length := by
  intro ps ls hr p hp
  obtain ⟨l, _, hl⟩ := (RLines_iff.1 hr).of_mem p hp
  exact RLine_bound hl

theorem RLine.lineOf {p : Int} {l : Modfile.Line} (hr : RLine h p l) : lineOf h p = some l := by
  obtain ⟨hg, hp⟩ := hr
  have : p.toNat - 1 = l.id := by omega
  cases l
  simp_all [FnParseHeap.lineOf, lineG]

theorem RExpr.exprOf {e : Expr} {s : Modfile.Expr} (hr : RExpr h e s) : exprOf h e = some s := by
  cases e <;> cases s <;> simp only [RExpr] at hr
  · rename_i p c; cases c; simp [FnParseHeap.exprOf, hr, cbG]
  · simp [FnParseHeap.exprOf, hr.lineOf]
  · obtain ⟨ps, hb, hl⟩ := hr
    rename_i p b
    obtain ⟨bc, bs, ⟨lc, lp⟩, bt, bl, ⟨rc, rp⟩⟩ := b
    simp [FnParseHeap.exprOf, hb, blockG, (RLines_iff.1 hl).mapM_eq fun _ _ hr => hr.lineOf, lparenG, rparenG]

theorem RFile.fileOf {p : Int} {f : Modfile.FileSyntax} (hr : RFile h p f) : fileOf h p = some f := by
  obtain ⟨es, hf, hs⟩ := hr
  cases f
  simp [FnParseHeap.fileOf, hf, fileG, (RStmts_iff.1 hs).mapM_eq fun _ _ hr => hr.exprOf]

/-! ### reified ⇒ allocated; decidability of the relations (for kernel-evaluated examples) -/

theorem RLines_alloc (hr : RLines h ps ls) : ∀ q ∈ ps, ∃ l, heapGet h.lines q = .ok l := fun q hq =>
  let ⟨_, _, hl⟩ := (RLines_iff.1 hr).of_mem q hq
  ⟨_, hl.1⟩

theorem RExpr.stmtOK {e : Expr} {s : Modfile.Expr} (hr : RExpr h e s) : StmtOK h e := by
  cases e <;> cases s <;> simp only [RExpr] at hr
  · exact ⟨_, hr⟩
  · exact ⟨_, hr.1⟩
  · obtain ⟨ps, hb, hl⟩ := hr
    exact ⟨_, hb, RLines_alloc hl⟩

theorem RStmts.stmtOK (hr : RStmts h es ss) : ∀ e ∈ es, StmtOK h e := fun e he =>
  let ⟨_, _, hs⟩ := (RStmts_iff.1 hr).of_mem e he
  hs.stmtOK

theorem WF_of_RFile {p : Int} {t : Modfile.FileSyntax} {es : List Expr}
    (hf : heapGet h.files p = .ok (fileG t es)) (hs : RStmts h es t.stmts) (h1 : (linePtrs h es).Nodup)
    (h2 : (blockPtrs es).Nodup) (h3 : (cbPtrs es).Nodup) : WF h p :=
  ⟨⟨fileG t es, hf, hs.stmtOK, h1, h2, h3⟩⟩

local instance decExceptEq {ε α : Type} [DecidableEq ε] [DecidableEq α] : DecidableEq (Except ε α)
  | .ok x, .ok y => if e : x = y then isTrue (by rw [e]) else isFalse (fun e' => e (Except.ok.inj e'))
  | .error x, .error y => if e : x = y then isTrue (by rw [e]) else isFalse (fun e' => e (Except.error.inj e'))
  | .ok _, .error _ => isFalse (fun e => by cases e)
  | .error _, .ok _ => isFalse (fun e => by cases e)

instance decRLine (h : Heap) (p : Int) (l : Modfile.Line) : Decidable (RLine h p l) :=
  inferInstanceAs (Decidable (_ ∧ _))

instance decRLines (h : Heap) (ps : List Int) (ls : List Modfile.Line) : Decidable (RLines h ps ls) :=
  decidable_of_iff _ RLines_iff.symm

theorem RExpr_block_iff (h : Heap) (p : Int) (b : Modfile.LineBlock) :
    RExpr h (.LineBlock p) (.lineBlock b) ↔
      (match heapGet h.blocks p with
       | .ok b' => b' = blockG b b'.Line ∧ RLines h b'.Line b.lines
       | .error _ => False) := by
  simp only [RExpr]
  constructor
  · rintro ⟨ps, hb, hl⟩
    rw [hb]
    exact ⟨rfl, hl⟩
  · intro hm
    cases hb : heapGet h.blocks p with
    | ok b' => rw [hb] at hm; exact ⟨b'.Line, by rw [← hm.1], hm.2⟩
    | error e => rw [hb] at hm; exact hm.elim

instance decRExpr (h : Heap) (e : Expr) (s : Modfile.Expr) : Decidable (RExpr h e s) := by
  cases e <;> cases s <;> simp only [RExpr]
  case LineBlock.lineBlock p b =>
    refine @decidable_of_iff _ _ (RExpr_block_iff h p b).symm ?_
    cases heapGet h.blocks p with
    | ok b' => simp only; exact inferInstance
    | error e => exact isFalse (fun x => x)
  all_goals exact inferInstance

instance decRStmts (h : Heap) (es : List Expr) (ss : List Modfile.Expr) : Decidable (RStmts h es ss) :=
  decidable_of_iff _ RStmts_iff.symm

end rel

end ModVerif.Tie.FnParseHeap
