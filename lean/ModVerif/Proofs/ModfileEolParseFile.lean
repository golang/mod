/-
  C02, end-of-line comments, stage (iii): the file loop of the parser on the token records of a
  rendered tree.  `parseFileLoop_E`: on `stmtsT D u`, for `EWFStmts u`, there is a run of the file loop
  (`ModfileRun.PFile`) that returns the statement list `eStmts D u` (up to line identities) — every position
  explicit — and the lexer has recorded exactly the end-of-line comment tokens of the stream.  Each lemma gives
  the part of the run over one piece of the stream as a map from the runs after it to the runs before it.
-/
import ModVerif.Proofs.ModfileEolParseStmts
import ModVerif.Proofs.ModfileFmtParse
namespace ModVerif.Proofs.ModfileEol
open ModVerif ModVerif.Modfile
open ModVerif.Proofs.ModfileFmtLex ModVerif.Proofs.ModfileFmtLine ModVerif.Proofs.ModfileFmtStream
open ModVerif.Proofs.ModfileFmtTree ModVerif.Proofs.ModfileFmtParse ModVerif.Proofs.ModfileFmtRender
open ModVerif.Proofs.ModfileRun

variable {D : Bytes}

/-- the pending comment block carries exactly the comments `pre` and starts where the first one starts -/
def CbOKE (ocb : Option CommentBlock) (pre : List Comment) : Prop :=
  match ocb with
  | none => pre = []
  | some c => c.comments.before = pre ∧ c.comments.suffix = [] ∧ c.comments.after = [] ∧
      ∃ c0 r, pre = c0 :: r ∧ c.start = c0.start

theorem top_commentsE : ∀ (cs : List Comment) (ocb : Option CommentBlock) (pre : List Comment) (i : Input)
    (stmtsRev : List Expr) (R : Bytes) (U : List Token), CbOKE ocb pre → TopBeforeOK cs →
    EStream D (befT D 0 cs R ++ U) i →
    ∃ ocb' i', CbOKE ocb' (pre ++ befC D 0 cs R) ∧ EStream D U i' ∧ fut U i' = fut (befT D 0 cs R ++ U) i ∧
      ∀ out i'', PFile Step Step i' stmtsRev ocb' out i'' → PFile Step Step i stmtsRev ocb out i'' := by
  intro cs
  induction cs with
  | nil =>
    intro ocb pre i stmtsRev R U hcb _ hS
    exact ⟨ocb, i, by simpa [befC] using hcb, by simpa [befT] using hS, by simp [befT], fun _ _ h => h⟩
  | cons c cs ih =>
    intro ocb pre i stmtsRev R U hcb hok hS
    obtain ⟨hne, _⟩ := commentOK_lastOK (hok c (by simp)).2
    have hS0 : EStream D (comT D (GoStrings.trimSpace c.token) (rBefore 0 cs ++ R) :: (befT D 0 cs R ++ U)) i := by
      simpa [befT, hne] using hS
    obtain ⟨i1, hx, _, hS1, hf1⟩ := hS0.step (by simp [comT])
    have hk : i.token.kind = .comment := by rw [hS0.tok]; rfl
    have htx : i.token.text = GoStrings.trimSpace c.token := by rw [hS0.tok]; rfl
    have hps : i.token.pos = pa D (GoStrings.trimSpace c.token ++ 10 :: (rBefore 0 cs ++ R)) := by rw [hS0.tok]; rfl
    have hcb1 : CbOKE (some (cbAdd ocb i.token)) (pre ++ [{ start := i.token.pos, token := i.token.text }]) := by
      cases ocb with
      | none =>
        simp only [CbOKE] at hcb
        subst hcb
        exact ⟨by simp [cbAdd], rfl, rfl, _, [], rfl, rfl⟩
      | some c0 =>
        simp only [CbOKE] at hcb
        obtain ⟨h1, h2, h3, c1, r1, h4, h5⟩ := hcb
        refine ⟨by simp [cbAdd, h1], by simp [cbAdd, h2], by simp [cbAdd, h3], c1, r1 ++ [_], by rw [h4]; rfl, ?_⟩
        simp [cbAdd, h5]
    obtain ⟨ocb', i', hcb', hS', hf', hres⟩ := ih (some (cbAdd ocb i.token)) _ i1
      stmtsRev R U hcb1 (fun c' h => hok c' (by simp [h])) hS1
    refine ⟨ocb', i', ?_, hS', ?_, fun out i'' h => .comment hk hx (hres out i'' h)⟩
    · have : pre ++ befC D 0 (c :: cs) R =
          (pre ++ [{ start := i.token.pos, token := i.token.text }]) ++ befC D 0 cs R := by
        simp [befC, hne, htx, hps]
      rw [this]; exact hcb'
    · rw [hf', hf1]
      simp [befT, hne]

/-- what follows a statement in the rendered text: nothing, or a blank line and the remaining statements -/
def sepR : List Expr → Bytes
  | [] => []
  | r :: rs => 10 :: stmtsB (r :: rs)

def sepT (D : Bytes) : List Expr → List Token
  | [] => [eofT D]
  | r :: rs => nlT D (stmtsB (r :: rs)) :: stmtsT D (r :: rs)

theorem stmtsT_cons (s : Expr) (rest : List Expr) : stmtsT D (s :: rest) = stmtT D s (sepR rest) ++ sepT D rest := by
  cases rest with
  | nil => simp [stmtsT, sepR, sepT]
  | cons r rs => simp [stmtsT, sepR, sepT]

theorem eStmts_cons (s : Expr) (rest : List Expr) : eStmts D (s :: rest) = eStmt D s (sepR rest) :: eStmts D rest := by
  cases rest with
  | nil => simp [eStmts, sepR]
  | cons r rs => simp [eStmts, sepR]

theorem stmtsT_ne (ss : List Expr) : 1 ≤ (stmtsT D ss).length := by
  cases ss with
  | nil => simp [stmtsT]
  | cons s rest =>
    rw [stmtsT_cons]
    cases rest with
    | nil => simp [sepT]
    | cons r rs => simp [sepT]; omega

theorem file_after_stmtE (rest : List Expr) (i : Input) (stmts : List Expr) (hS : EStream D (sepT D rest) i) :
    ∃ i', EStream D (stmtsT D rest) i' ∧ fut (stmtsT D rest) i' = fut (sepT D rest) i ∧
      ∀ out i'', PFile Step Step i' stmts none out i'' → PFile Step Step i stmts none out i'' := by
  cases rest with
  | nil => exact ⟨i, by simpa [sepT, stmtsT] using hS, rfl, fun _ _ h => h⟩
  | cons r rs =>
    simp only [sepT] at hS
    obtain ⟨i1, hx, _, hS1, hf1⟩ := hS.step (by simp [nlT])
    have hk : i.token.kind = .punct 10 := by rw [hS.tok]; rfl
    exact ⟨i1, hS1, hf1, fun out i'' h => .blank hk hx h⟩

theorem pFile_eof_flush {i : Input} {sr : List Expr} {cb : Option CommentBlock} {out : List Expr} {i' : Input}
    (hk : i.token.kind = .eof) (h : PFile Step Step i (flush sr cb) none out i') : PFile Step Step i sr cb out i' := by
  cases h with
  | blank h1 => rw [hk] at h1; cases h1
  | comment h1 => rw [hk] at h1; cases h1
  | eof _ => exact .eof hk
  | stmt _ _ h3 => exact absurd hk h3

theorem block_ext {a b : LineBlock} (h1 : a.comments = b.comments) (h2 : a.start = b.start) (h3 : a.lparen = b.lparen)
    (h4 : a.token = b.token) (h5 : a.lines = b.lines) (h6 : a.rparen = b.rparen) : a = b := by
  cases a; cases b; simp_all

theorem sufT_eol (cs : List Comment) (R : Bytes) :
    (sufT D cs R).kind.isEOL = true ∧ (sufT D cs R).kind ≠ .eof ∧
      ((sufT D cs R).kind = .punct 10 ∨ (sufT D cs R).kind = .eolComment) := by
  unfold sufT; split <;> simp [eolT, nlT, TokKind.isEOL]

theorem cbOKE_none_or {ocb : Option CommentBlock} {cs : List Comment} (h : CbOKE ocb cs) :
    (ocb = none ∧ cs = []) ∨ ∃ cb, ocb = some cb ∧ cb.comments.before = cs ∧ cs ≠ [] := by
  cases ocb with
  | none => exact Or.inl ⟨rfl, h⟩
  | some cb =>
    obtain ⟨h1, _, _, c0, r, h4, _⟩ := h
    exact Or.inr ⟨cb, rfl, h1, by rw [h4]; simp⟩

/-- One statement of the rendered tree: the whole-line comments in front of it (`top_commentsE`), the run of
    `parseStmtLoop` over its own tokens (`parseStmt_lineE` / `parseStmt_blockE`), the separating blank line
    (`file_after_stmtE`); the rest of each case identifies the statement built with `eStmt`. -/
theorem file_stmtE (s : Expr) (rest : List Expr) (i : Input) (stmtsRev : List Expr)
    (hwf : EWFStmt s) (hS : EStream D (stmtsT D (s :: rest)) i) :
    ∃ s' i', zidE s' = eStmt D s (sepR rest) ∧ EStream D (stmtsT D rest) i' ∧
      fut (stmtsT D rest) i' = fut (stmtsT D (s :: rest)) i ∧
      ∀ out i'', PFile Step Step i' (s' :: stmtsRev) none out i'' → PFile Step Step i stmtsRev none out i'' := by
  rw [stmtsT_cons] at hS ⊢
  obtain ⟨R, hR⟩ : ∃ R, R = sepR rest := ⟨_, rfl⟩
  rw [← hR] at hS ⊢
  cases s with
  | commentBlock x =>
    obtain ⟨hne, hbefore, hsuf, haft⟩ := hwf
    simp only [stmtT] at hS ⊢
    obtain ⟨ocb', i1, hcb, hS1, hf1, hres1⟩ := top_commentsE x.comments.before none [] i stmtsRev
      R (sepT D rest) rfl hbefore hS
    simp only [List.nil_append] at hcb
    obtain ⟨c1, cs1, hx⟩ : ∃ c1 cs1, x.comments.before = c1 :: cs1 := by
      cases h : x.comments.before with
      | nil => exact absurd h hne
      | cons a b => exact ⟨a, b, rfl⟩
    obtain ⟨hne1, _⟩ := commentOK_lastOK (hbefore c1 (by rw [hx]; simp)).2
    cases ocb' with
    | none =>
      simp only [CbOKE] at hcb
      rw [hx] at hcb
      simp [befC] at hcb
    | some cb =>
      obtain ⟨hb1, hb2, hb3, c0, r0, hb4, hb5⟩ := hcb
      have hz : zidE (.commentBlock cb) = eStmt D (.commentBlock x) R := by
        simp only [zidE, eStmt]
        have hcs : cb.comments = { before := befC D 0 x.comments.before R } := by
          cases hc : cb.comments
          rw [hc] at hb1 hb2 hb3
          simp_all
        have hst : cb.start = pa D (rBefore 0 x.comments.before ++ R) := by
          rw [hb5]
          rw [hx] at hb4
          simp only [befC, hne1, Bool.false_eq_true, if_false, List.cons.injEq] at hb4
          rw [← hb4.1, hx]
          have hne2 : GoStrings.trimSpace c1.token ≠ [] := by simpa using hne1
          simp [rBefore, hne2, tabs]
        cases cb
        simp_all
      cases rest with
      | nil =>
        have hS2 : EStream D [eofT D] i1 := by simpa [sepT] using hS1
        have hk : i1.token.kind = .eof := by rw [hS2.tok]; rfl
        refine ⟨.commentBlock cb, i1, hz, by simpa [stmtsT] using hS2, ?_,
          fun out i'' h => hres1 out i'' (pFile_eof_flush hk h)⟩
        rw [← hf1]; simp [stmtsT, sepT]
      | cons r rs =>
        have hS2 : EStream D (nlT D (stmtsB (r :: rs)) :: stmtsT D (r :: rs)) i1 := by simpa [sepT] using hS1
        obtain ⟨i2, hx2, _, hS3, hf3⟩ := hS2.step (by simp [nlT])
        have hk : i1.token.kind = .punct 10 := by rw [hS2.tok]; rfl
        refine ⟨.commentBlock cb, i2, hz, hS3, ?_, fun out i'' h => hres1 out i'' (.blank hk hx2 h)⟩
        rw [hf3, ← hf1]; simp [sepT]
  | line l =>
    have hwf : EWFLine l := hwf
    obtain ⟨t0, ts, htok⟩ : ∃ t0 ts, l.token = t0 :: ts := by
      cases h : l.token with
      | nil => exact absurd h hwf.ne
      | cons a b => exact ⟨a, b, rfl⟩
    obtain ⟨rest', hrest'⟩ : ∃ r, r = sufB l.comments.suffix R := ⟨_, rfl⟩
    obtain ⟨eolL, heolL⟩ : ∃ r, r = sufT D l.comments.suffix R := ⟨_, rfl⟩
    have hSeq : stmtT D (.line l) R ++ sepT D rest =
        befT D 0 l.comments.before (tokStr l.token [] ++ rest') ++ (tokStrT D l.token rest' ++ eolL :: sepT D rest) := by
      simp [stmtT, hrest', heolL, List.append_assoc]
    rw [hSeq] at hS ⊢
    obtain ⟨ocb', i1, hcb, hS1, hf1, hres1⟩ := top_commentsE l.comments.before none [] i stmtsRev
      _ _ rfl hwf.before hS
    simp only [List.nil_append] at hcb
    have htt : ∀ t ∈ l.token, TokText t := hwf.tok
    have hlt : LT (tokStrT D l.token rest') := tokStrT_LT l.token htt rest'
    have hf1' : fut (tokStrT D (t0 :: ts) rest' ++ eolL :: sepT D rest) i1 =
        fut (befT D 0 l.comments.before (tokStr l.token [] ++ rest') ++
          (tokStrT D l.token rest' ++ eolL :: sepT D rest)) i := by rw [← htok]; exact hf1
    rw [htok, tokStrT_head] at hS1 hlt
    have ht0 : TokText t0 := htt t0 (by rw [htok]; simp)
    have heolk : eolL.kind.isEOL = true ∧ eolL.kind ≠ .eof := by
      rw [heolL]; exact ⟨(sufT_eol _ _).1, (sufT_eol _ _).2.1⟩
    obtain ⟨i1', l0, i2, hx1, hp, hl0t, hl0c, hl0b, hl0s, hl0e, hS2, hf2⟩ := parseStmt_lineE _ (tokStrT D ts rest') i1 eolL
      (sepT D rest) hlt (by
        have := hwf.tail
        rw [htok] at this
        simpa [tokStrT_texts] using this) heolk.1 heolk.2 hS1
    have hi1 := hS1.tok
    have hk1 : i1.token.kind = kindOf t0 := by rw [hi1]; rfl
    obtain ⟨d1, d2, d3⟩ := tokText_file_default ht0
    obtain ⟨i3, hS3, hf3, hres3⟩ := file_after_stmtE rest i2 (attach ocb' (.line l0) :: stmtsRev) hS2
    refine ⟨attach ocb' (.line l0), i3, ?_, hS3, hf3.trans (hf2.trans hf1'), fun out i'' h =>
      hres1 out i'' (.stmt (hk1 ▸ d1) (hk1 ▸ d2) (hk1 ▸ d3) hx1 (by rw [hi1]; exact hp) (hres3 out i'' h))⟩
    · have hcore : zidL { l0 with comments := { before := befC D 0 l.comments.before (tokStr l.token [] ++ rest') } } =
          { id := 0,
            comments := { before := befC D 0 l.comments.before (tokStr l.token [] ++ rest') },
            start := pa D (tokStr l.token [] ++ rest'),
            token := l.token, inBlock := false, «end» := pa D rest' } := by
        apply line_ext
        · rfl
        · rfl
        · show l0.start = _
          rw [hl0s]
          simp only [tokT, htok, tokStr_cons_nil, List.append_assoc]
        · show l0.token = _
          rw [hl0t, ← tokStrT_head, tokStrT_texts, htok]
        · exact hl0b
        · show l0.«end» = _
          rw [hl0e]
          have := tokStrT_lastEnd (D := D) (t0 :: ts) rest' (tokT D t0 (tokStr ts (sepAfter t0) ++ rest')).endPos (by simp)
          rw [tokStrT_head] at this
          exact this
      simp only [eStmt, ← hrest']
      rw [← hcore]
      rcases cbOKE_none_or hcb with ⟨h1, h2⟩ | ⟨cb, h1, h2, _⟩
      · subst h1
        simp only [attach, zidE]
        congr 1
        cases l0
        simp only at hl0c
        subst hl0c
        simp [zidL, h2]
      · subst h1
        simp only [attach, Expr.setComments, Expr.comments, zidE]
        congr 1
        cases l0
        simp only at hl0c
        subst hl0c
        simp [zidL, h2]
  | lineBlock b =>
    have hwf : EWFBlock b := hwf
    obtain ⟨h0, hs, htok⟩ : ∃ h0 hs, b.token = h0 :: hs := by
      cases h : b.token with
      | nil => exact absurd h hwf.ne
      | cons a c => exact ⟨a, c, rfl⟩
    obtain ⟨body, hbody⟩ : ∃ r, r = bodyB b R := ⟨_, rfl⟩
    obtain ⟨Z, hZ⟩ : ∃ r, r = closeB b R := ⟨_, rfl⟩
    obtain ⟨RR, hRR⟩ : ∃ r, r = 41 :: sufB (rsOf b) R := ⟨_, rfl⟩
    have hZ' : Z = rBefore 0 b.rparen.comments.before ++ RR := by rw [hZ, hRR]; rfl
    obtain ⟨lpEol, hlpEol⟩ : ∃ r, r = sufT D b.lparen.comments.suffix (linesB b.lines Z) := ⟨_, rfl⟩
    obtain ⟨rpT, hrpT⟩ : ∃ r, r = tokT D [41] (sufB (rsOf b) R) := ⟨_, rfl⟩
    obtain ⟨eolR, heolR⟩ : ∃ r, r = sufT D (rsOf b) R := ⟨_, rfl⟩
    obtain ⟨lpT, hlpT⟩ : ∃ r, r = tokT D [40] body := ⟨_, rfl⟩
    have hSeq : stmtT D (.lineBlock b) R ++ sepT D rest =
        befT D 0 b.comments.before (tokStr b.token [] ++ (32 :: 40 :: body)) ++
          (tokStrT D b.token (32 :: 40 :: body) ++ lpT :: lpEol :: (linesT D b.lines Z ++
            (befT D 0 b.rparen.comments.before RR ++ rpT :: eolR :: sepT D rest))) := by
      simp [stmtT, hbody, hZ, hRR, hlpEol, hrpT, heolR, hlpT, List.append_assoc]
    rw [hSeq] at hS ⊢
    obtain ⟨ocb', i1, hcb, hS1, hf1, hres1⟩ := top_commentsE b.comments.before none [] i stmtsRev
      _ _ rfl hwf.before hS
    simp only [List.nil_append] at hcb
    have htt : ∀ t ∈ b.token, TokText t := hwf.tok
    have hlt : LT (tokStrT D b.token (32 :: 40 :: body)) := tokStrT_LT b.token htt _
    have hf1' : fut (tokStrT D (h0 :: hs) (32 :: 40 :: body) ++ lpT :: lpEol :: (linesT D b.lines Z ++
            (befT D 0 b.rparen.comments.before RR ++ rpT :: eolR :: sepT D rest))) i1 =
        fut (befT D 0 b.comments.before (tokStr b.token [] ++ (32 :: 40 :: body)) ++
          (tokStrT D b.token (32 :: 40 :: body) ++ lpT :: lpEol :: (linesT D b.lines Z ++
            (befT D 0 b.rparen.comments.before RR ++ rpT :: eolR :: sepT D rest)))) i := by rw [← htok]; exact hf1
    rw [htok, tokStrT_head] at hS1 hlt
    have ht0 : TokText h0 := htt h0 (by rw [htok]; simp)
    have hk40 : kindOf [40] = .punct 40 := by decide
    have hk41 : kindOf [41] = .punct 41 := by decide
    have hlpk : lpT.kind = .punct 40 := by rw [hlpT]; exact hk40
    have hrpk : rpT.kind = .punct 41 := by rw [hrpT]; exact hk41
    obtain ⟨i1', b0, i2, hx1, hp, hb0t, hb0c, hb0l, hb0s, hb0lines, hb0r, hS2, hf2⟩ := parseStmt_blockE _
      (tokStrT D hs (32 :: 40 :: body)) lpT lpEol b.lines b.rparen.comments.before RR rpT eolR i1 (sepT D rest) hlt hlpk
      (by rw [hlpEol]; exact (sufT_eol _ _).2.2) hwf.lines hwf.rbefore hrpk
      (by rw [heolR]; exact (sufT_eol _ _).1) (by rw [heolR]; exact (sufT_eol _ _).2.1) Z hZ' hS1
    have hi1 := hS1.tok
    have hk1 : i1.token.kind = kindOf h0 := by rw [hi1]; rfl
    obtain ⟨d1, d2, d3⟩ := tokText_file_default ht0
    obtain ⟨i3, hS3, hf3, hres3⟩ := file_after_stmtE rest i2 (attach ocb' (.lineBlock b0) :: stmtsRev) hS2
    refine ⟨attach ocb' (.lineBlock b0), i3, ?_, hS3, hf3.trans (hf2.trans hf1'), fun out i'' h =>
      hres1 out i'' (.stmt (hk1 ▸ d1) (hk1 ▸ d2) (hk1 ▸ d3) hx1 (by rw [hi1]; exact hp) (hres3 out i'' h))⟩
    · have hcore : ({ b0 with comments := { before := befC D 0 b.comments.before (tokStr b.token [] ++ (32 :: 40 :: body)) },
                                lines := b0.lines.map zidL } : LineBlock) =
          { comments := { before := befC D 0 b.comments.before (tokStr b.token [] ++ (32 :: 40 :: body)) },
            start := pa D (tokStr b.token [] ++ (32 :: 40 :: body)),
            lparen := { pos := pa D (40 :: body) },
            token := b.token,
            lines := eLines D b.lines Z,
            rparen := { comments := { before := befC D 0 b.rparen.comments.before RR }, pos := pa D RR } } := by
        apply block_ext
        · rfl
        · show b0.start = _
          rw [hb0s]
          simp only [tokT, htok, tokStr_cons_nil, List.append_assoc]
        · show b0.lparen = _
          rw [hb0l, hlpT]; rfl
        · show b0.token = _
          rw [hb0t, ← tokStrT_head, tokStrT_texts, htok]
        · exact hb0lines
        · show b0.rparen = _
          rw [hb0r, hrpT, hRR]; rfl
      simp only [eStmt, ← hbody, ← hZ, ← hRR]
      rw [← hcore]
      rcases cbOKE_none_or hcb with ⟨h1, h2⟩ | ⟨cb, h1, h2, _⟩
      · subst h1
        simp only [attach, zidE]
        congr 1
        cases b0
        simp only at hb0c
        subst hb0c
        simp [h2]
      · subst h1
        simp only [attach, Expr.setComments, Expr.comments, zidE]
        congr 1
        cases b0
        simp only at hb0c
        subst hb0c
        simp [h2]
  | lparen x => exact absurd hwf id
  | rparen x => exact absurd hwf id

/-- ★ end-of-line stage (iii), parsing half -/
theorem parseFileLoop_E : ∀ (u : List Expr) (i : Input) (stmtsRev : List Expr),
    EWFStmts u → EStream D (stmtsT D u) i →
    ∃ out i', PFile Step Step i stmtsRev none (stmtsRev.reverse ++ out) i' ∧
      out.map zidE = eStmts D u ∧ i'.commentsRev.reverse = fut (stmtsT D u) i := by
  intro u
  induction u with
  | nil =>
    intro i stmtsRev _ hS
    have hS0 : EStream D [eofT D] i := by simpa [stmtsT] using hS
    have hk : i.token.kind = .eof := by rw [hS0.tok]; rfl
    exact ⟨[], i, by simpa [flush] using PFile.eof (T := Step) (E := Step) (sr := stmtsRev) (cb := none) hk, rfl,
      by simp [fut, stmtsT, recs]⟩
  | cons s rest ih =>
    intro i stmtsRev hwf hS
    obtain ⟨s', i1, hes, hS1, hf1, hres⟩ := file_stmtE s rest i stmtsRev (hwf s (by simp)) hS
    obtain ⟨out, i2, hrun, hout, hc2⟩ := ih i1 (s' :: stmtsRev) (fun x h => hwf x (by simp [h])) hS1
    refine ⟨s' :: out, i2, hres _ _ ?_, by rw [eStmts_cons]; simp [hes, hout], by rw [hc2, hf1]⟩
    simpa using hrun

end ModVerif.Proofs.ModfileEol
