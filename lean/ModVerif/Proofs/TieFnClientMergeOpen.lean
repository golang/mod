/-
  Tie proofs, sumdb/client.go (merge unit): `note.Open(msg, c.verifiers)` followed by `tlog.ParseTree(note.Text)` as
  `mergeLatestMem` calls them, against the model's `openTree`.
  * `Open_congr`: the regenerated `note.Open` depends on the verifier table only through its answers for 32-bit key hashes and
    not on the text of an `UnknownVerifierError` (the client's table `verifiersOf` = `note.VerifierList(v)` of the regenerated
    code and the table `knownG (Note.VerifierList …)` of the `note.Open` tie differ exactly there);
  * `ParseTree_ofBytes`: `tlog.ParseTree` for an arbitrary hash type through the byte-string instance of its tie;
  * the ONE base64 decoder of the client's environment serves both (Proofs/TieFnClientMergeB64.lean);
  * `errAbs` of the two `fmt.Errorf("reading tree…")` texts is `.note`.
-/
import ModVerif.Proofs.TieFnClientRep
import ModVerif.Proofs.TieFnClientMergeB64
import ModVerif.Tie.FnTlogNote
import ModVerif.Tie.FnNote
namespace ModVerif.TieFnClientMerge
open ModVerif ModVerif.GoRt ModVerif.Generated.Note ModVerif.TieFnNote ModVerif.TieFnClientRep

/-- the range of `binary.BigEndian.Uint32` -/
def U32 (h : Int) : Prop := 0 ≤ h ∧ h < 4294967296

/-- two verifier tables answer alike for key hashes in that range, up to the text of an `UnknownVerifierError` -/
def KEq (k1 k2 : Bytes → Int → (GV × Option String)) : Prop :=
  ∀ name hash, U32 hash → k1 name hash = k2 name hash ∨
    (errIs "UnknownVerifierError" (k1 name hash).2 = true ∧ errIs "UnknownVerifierError" (k2 name hash).2 = true)

theorem beUint32_range (b : Bytes) (h : Int) (hb : beUint32 b = .ok h) : U32 h := by
  unfold beUint32 at hb
  split at hb
  · rename_i a b c d _
    simp only [pure, Except.pure] at hb
    injection hb with hb
    subst hb
    have := a.toNat_lt; have := b.toNat_lt; have := c.toNat_lt; have := d.toNat_lt
    constructor
    · exact Int.natCast_nonneg _
    · show ((((a.toNat * 256 + b.toNat) * 256 + c.toNat) * 256 + d.toNat : Nat) : Int) < 4294967296
      omega
  · cases hb

theorem bind_congr' {α β : Type} (x : M α) (f g : α → M β) (h : ∀ a, x = .ok a → f a = g a) : (x >>= f) = (x >>= g) := by
  cases x with
  | error e => rfl
  | ok a => exact h a rfl

theorem ite_congr' {α : Type} (c : Prop) [Decidable c] (a a' b b' : α) (h1 : c → a = a') (h2 : ¬ c → b = b') :
    (if c then a else b) = (if c then a' else b') := by
  by_cases h : c
  · simp only [h, if_true]; exact h1 h
  · simp only [h, if_false]; exact h2 h

theorem Open_loop2_congr (b64dec : Bytes → (Bytes × Option String)) (isSpace : Int → Bool)
    (k1 k2 : Bytes → Int → (GV × Option String)) (hk : KEq k1 k2) (text : Bytes) :
    ∀ fuel sigs numSig su n seen, Open_loop2 b64dec isSpace k1 text fuel sigs numSig su n seen =
      Open_loop2 b64dec isSpace k2 text fuel sigs numSig su n seen := by
  intro fuel
  induction fuel with
  | zero => intro sigs numSig su n seen; rfl
  | succ f ih =>
    intro sigs numSig su n seen
    rw [Open_loop2, Open_loop2]
    refine ite_congr' _ _ _ _ _ (fun _ => ?_) (fun _ => rfl)
    refine bind_congr' _ _ _ (fun line _ => ?_)
    refine bind_congr' _ _ _ (fun sigs' _ => ?_)
    refine ite_congr' _ _ _ _ _ (fun _ => rfl) (fun _ => ?_)
    refine bind_congr' _ _ _ (fun line' _ => ?_)
    refine bind_congr' _ _ _ (fun t13 _ => ?_)
    obtain ⟨name, b64⟩ := t13
    show (match b64dec b64 with | (sig, err) => _) = (match b64dec b64 with | (sig, err) => _)
    generalize b64dec b64 = sr
    obtain ⟨sig, err⟩ := sr
    show (if _ then _ else _) = (if _ then _ else _)
    refine ite_congr' _ _ _ _ _ (fun _ => rfl) (fun _ => ?_)
    refine bind_congr' _ _ _ (fun t14 _ => ?_)
    refine bind_congr' _ _ _ (fun hash hh => ?_)
    refine bind_congr' _ _ _ (fun sig' _ => ?_)
    refine ite_congr' _ _ _ _ _ (fun _ => rfl) (fun _ => ?_)
    have hr := beUint32_range _ _ hh
    simp only [ih]
    rcases hk name hash hr with heq | ⟨h1, h2⟩
    · rw [heq]
    · generalize k1 name hash = r1 at h1
      generalize k2 name hash = r2 at h2
      obtain ⟨v1, e1⟩ := r1
      obtain ⟨v2, e2⟩ := r2
      simp only at h1 h2
      simp only [h1, h2, if_true]

theorem Open_congr (b64dec : Bytes → (Bytes × Option String)) (isSpace : Int → Bool)
    (k1 k2 : Bytes → Int → (GV × Option String)) (hk : KEq k1 k2) (fuel : Nat) (msg : Bytes) :
    Generated.Note.Open b64dec isSpace fuel msg k1 = Generated.Note.Open b64dec isSpace fuel msg k2 := by
  unfold Generated.Note.Open
  simp only [Open_loop2_congr b64dec isSpace k1 k2 hk]

theorem errIs_unknown_bare : errIs "UnknownVerifierError" (some "UnknownVerifierError") = true := by decide

theorem hash_eq_iff (h : UInt32) (hash : Int) (hr : U32 hash) :
    hash = Int.ofNat h.toNat ↔ h = UInt32.ofNat hash.toNat := by
  obtain ⟨h0, h1⟩ := hr
  constructor
  · intro e
    subst e
    simp
  · intro e
    have : h.toNat = hash.toNat := by
      rw [e, UInt32.toNat_ofNat']
      apply Nat.mod_eq_of_lt
      show hash.toNat < 2 ^ 32
      omega
    rw [this]
    simp only [Int.ofNat_eq_natCast]
    omega

theorem keq_verifiersOf (vs : List Note.Verifier) (hv : vs.length ≤ 1) :
    KEq (verifiersOf vs) (knownG (Note.VerifierList vs)) := by
  intro name hash hr
  match vs, hv with
  | [], _ =>
    right
    refine ⟨errIs_unknown_bare, ?_⟩
    simp only [knownG, Note.VerifierList, List.filter_nil]
    exact errIs_unknown _ _
  | [v], _ =>
    simp only [verifiersOf, Generated.SumdbClient.verifierList1, knownG, Note.VerifierList, toGV]
    by_cases hm : name = v.name ∧ hash = Int.ofNat v.hash.toNat
    · left
      have h2 : v.hash = UInt32.ofNat hash.toNat := (hash_eq_iff v.hash hash hr).1 hm.2
      have hf : List.filter (fun x => x.name == name && x.hash == UInt32.ofNat hash.toNat) [v] = [v] := by
        simp [List.filter, hm.1, ← h2]
      have hc : (name = v.name ∧ hash = Int.ofNat v.hash.toNat) = True := eq_true hm
      simp only [hc, if_true, hf]
    · right
      have hf : List.filter (fun x => x.name == name && x.hash == UInt32.ofNat hash.toNat) [v] = [] := by
        simp only [List.filter_cons, List.filter_nil]
        split
        · rename_i hc
          simp only [Bool.and_eq_true, beq_iff_eq] at hc
          exact absurd ⟨hc.1.symm, (hash_eq_iff v.hash hash hr).2 hc.2⟩ hm
        · rfl
      have hc : (name = v.name ∧ hash = Int.ofNat v.hash.toNat) = False := eq_false hm
      simp only [hc, if_false, hf]
      exact ⟨errIs_unknown_bare, errIs_unknown _ _⟩
  | _ :: _ :: _, h => simp at h

theorem noteOpenX_eq {σ H : Type} (P : Client.Params H) (E : Client.Env σ) (vs : List Note.Verifier) (hv : vs.length ≤ 1)
    (msg : Bytes) (fuel : Nat) (hf : msg.length + 1 ≤ fuel) :
    Generated.SumdbClient.noteOpenX (envOf P E) fuel msg (verifiersOf vs) =
      .ok (embedOpen (Note.Open msg (Note.VerifierList vs))) := by
  unfold Generated.SumdbClient.noteOpenX
  show Generated.Note.Open b64decI isSpaceI fuel msg (verifiersOf vs) = _
  rw [Open_congr b64decI isSpaceI _ _ (keq_verifiersOf vs hv), Tie.FnNote.Open_tie msg _ fuel hf]

theorem embedErr_isNone (e : Note.OpenErr) : (embedErr e).2.isNone = false := by
  cases e <;> rfl

theorem repErr_note (g : Option String) : RepErr (wrapErr "reading tree note: %v\nnote:\n%s" g) .note :=
  repErr_wrap _ g rfl (by decide)

theorem repErr_tree (g : Option String) : RepErr (wrapErr "reading tree: %v\ntree:\n%s" g) .note :=
  repErr_wrap _ g rfl (by decide)

section
variable {H : Type} [DecidableEq H] [Inhabited H]

/-- a `ParseTree` result over byte-string hashes as a result over `H` -/
def liftTree (ofBytes : Bytes → H) (r : Generated.TlogNote.Tree Bytes × Option String) : Generated.TlogNote.Tree H × Option String :=
  match r.2 with
  | none => ({ N := r.1.N, Hash := ofBytes r.1.Hash }, none)
  | some s => (default, some s)

theorem ParseTree_ofBytes (b64 : Bytes → Bytes × Option String) (ofBytes : Bytes → H) (text : Bytes) :
    Generated.TlogNote.ParseTree b64 ofBytes text =
      (Generated.TlogNote.ParseTree (H := Bytes) b64 id text >>= fun r => pure (liftTree ofBytes r)) := by
  unfold Generated.TlogNote.ParseTree
  split
  · rfl
  · simp only [bind, Except.bind]
    cases idxL (splitN text [10] 4) 1 with
    | error e => rfl
    | ok t1 =>
      simp only []
      generalize parseInt t1 10 64 = pr
      obtain ⟨n, err⟩ := pr
      simp only []
      split
      · rfl
      · rename_i t3 ht3
        cases t3 with
        | true => rfl
        | false =>
          simp only [Bool.false_eq_true, if_false]
          cases idxL (splitN text [10] 4) 2 with
          | error e => rfl
          | ok v =>
            simp only []
            split <;> rfl

theorem b64decI_eq : TieFnNote.b64decI = TieFnTlogNote.b64decI := by
  funext s
  unfold TieFnNote.b64decI TieFnTlogNote.b64decI
  rw [decodeStd_eq_b64dec]
  cases B64.b64dec s <;> rfl

theorem parseTreeX_eq {σ : Type} (P : Client.Params H) (E : Client.Env σ) (text : Bytes) :
    Generated.SumdbClient.parseTreeX (envOf P E) text =
      .ok (match TlogNote.parseTree text with
        | some t => (({ N := t.n, Hash := P.dec t.hash } : Generated.Tile.Tree H), none)
        | none => (default, some "errMalformedTree")) := by
  unfold Generated.SumdbClient.parseTreeX
  have h1 : (envOf P E).b64dec = TieFnTlogNote.b64decI := b64decI_eq
  have h2 : (envOf P E).ofBytes = P.dec := rfl
  rw [h1, h2, ParseTree_ofBytes, Tie.FnTlogNote.ParseTree_tie]
  cases TlogNote.parseTree text with
  | none => rfl
  | some t => rfl

end
end ModVerif.TieFnClientMerge
