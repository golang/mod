/-
  The SEQUENTIAL client's once-per-key caches (`c.record`, `c.tileCache`: association lists with
  cached errors, Model/Client.lean) against the `parCache.Do` machine (Model/ParCache.lean) run by ONE goroutine at a
  time (each call of `Do` runs alone, from `idle` to `returned`).  Helper for Props/C14.lean.

  Which sequential code each transition of the machine abstracts when a call runs alone:
    idle         the call `c.record.Do(file, f)` / `c.tileCache.Do(tile, f)` is made
    load         `c.m.Load(key)`                         — `List.lookup` (first half: is there an entry?)
    loadOrStore  `c.m.LoadOrStore(key, new(cacheEntry))` — only on a miss
    loadDone1    `atomic.LoadUint32(&e.done)`            — `List.lookup` (second half: hit ⇒ go to `ret`)
    lock, loadDone2   `e.mu.Lock()`, the second test of `e.done` — no sequential counterpart (uncontended)
    runF         `e.result = f()`                        — the work function (`lookupWork` / `readTileWork`) runs
    storeDone    `atomic.StoreUint32(&e.done, 1)`        — `(key, result) :: cache`
    unlock       `e.mu.Unlock()`                         — no sequential counterpart
    ret          `return e.result`                       — the looked-up or freshly computed value is returned
-/
import ModVerif.Model.ParCache
import ModVerif.Proofs.ClientEffects
namespace ModVerif.ClientRefine
open ModVerif


/-- the sequential model of `parCache.Do`: a lookup in an association list; on a miss the work function's value `f`
(error or not) is stored -/
def seqDo {K V : Type} [BEq K] (c : List (K × V)) (k : K) (f : V) : V × List (K × V) :=
  match c.lookup k with
  | some r => (r, c)
  | none => (f, (k, f) :: c)

section machine
variable {V : Type}

/-- the cache content a machine state stands for: the result of every entry that is `done` -/
def cacheOf (s : ParCache.St V) (k : Nat) : Option V := if (s.entry k).done then (s.entry k).result else none

/-- states between calls: no `Do` is in progress -/
structure SeqState (s : ParCache.St V) : Prop where
  pcs : ∀ i, s.pc i = .idle ∨ s.pc i = .returned
  unlocked : ∀ k, (s.entry k).locked = false
  present_done : ∀ k, (s.entry k).present = (s.entry k).done
  done_some : ∀ k, (s.entry k).done = true → (s.entry k).result.isSome = true
  runs_done : ∀ k, s.runs k = if (s.entry k).done then 1 else 0

theorem seqState_init : SeqState (ParCache.init V) := by
  constructor <;> simp [ParCache.init]

theorem run_append' (key : Nat → Nat) (fval : Nat → V) : ∀ (a b : List Nat) (s : ParCache.St V),
    ParCache.run key fval s (a ++ b) = (ParCache.run key fval s a).bind fun s1 => ParCache.run key fval s1 b := by
  intro a
  induction a with
  | nil => intro b s; simp [ParCache.run]
  | cons i a ih =>
    intro b s
    simp only [List.cons_append, ParCache.run]
    cases ParCache.step key fval s i with
    | none => simp
    | some s1 => simp only; exact ih b s1

theorem solo_unique (key : Nat → Nat) (fval : Nat → V) (s s1 s2 : ParCache.St V) (i : Nat) :
    ∀ (n m : Nat), n ≤ m → ParCache.run key fval s (List.replicate n i) = some s1 → s1.pc i = .returned →
      ParCache.run key fval s (List.replicate m i) = some s2 → n = m ∧ s1 = s2 := by
  intro n m hnm h1 hp1 h2
  obtain ⟨d, rfl⟩ : ∃ d, m = n + d := ⟨m - n, by omega⟩
  rw [← List.replicate_append_replicate, run_append', h1] at h2
  simp only [Option.bind_some] at h2
  cases d with
  | zero => simp [ParCache.run] at h2; exact ⟨rfl, h2⟩
  | succ d =>
    simp only [List.replicate_succ, ParCache.run] at h2
    have : ParCache.step key fval s1 i = none := by simp [ParCache.step, hp1]
    simp [this] at h2

/-- HIT: 4 steps (idle, load, loadDone1, ret) -/
theorem solo_hit (key : Nat → Nat) (fval : Nat → V) (s : ParCache.St V) (hS : SeqState s) (i : Nat)
    (hi : s.pc i = .idle) (hd : (s.entry (key i)).done = true) :
    ParCache.run key fval s (List.replicate 4 i) =
      some { s with pc := ParCache.upd s.pc i .returned, got := ParCache.upd s.got i (s.entry (key i)).result } := by
  have hp : (s.entry (key i)).present = true := by rw [hS.present_done]; exact hd
  simp only [List.replicate, ParCache.run, ParCache.step, hi, hp, hd, if_true, ParCache.upd_same]
  congr 1
  simp only [ParCache.St.mk.injEq, and_true]
  funext j
  by_cases hj : j = i <;> simp [ParCache.upd, hj]

/-- MISS: 10 steps (idle, load, loadOrStore, loadDone1, lock, loadDone2, runF, storeDone, unlock, ret) -/
theorem solo_miss (key : Nat → Nat) (fval : Nat → V) (s : ParCache.St V) (hS : SeqState s) (i : Nat)
    (hi : s.pc i = .idle) (hd : (s.entry (key i)).done = false) :
    ParCache.run key fval s (List.replicate 10 i) =
      some { pc := ParCache.upd s.pc i .returned,
             entry := ParCache.upd s.entry (key i) { present := true, done := true, locked := false, result := some (fval i) },
             got := ParCache.upd s.got i (some (fval i)),
             runs := ParCache.upd s.runs (key i) (s.runs (key i) + 1),
             ran := ParCache.upd s.ran (key i) (match s.ran (key i) with | none => some (fval i) | some v => some v) } := by
  have hp : (s.entry (key i)).present = false := by rw [hS.present_done]; exact hd
  have hl : (s.entry (key i)).locked = false := hS.unlocked _
  simp only [List.replicate, ParCache.run, ParCache.step, hi, hp, if_false, ParCache.upd_same,
    Bool.false_eq_true]
  congr 1
  simp only [ParCache.St.mk.injEq]
  refine ⟨?_, ?_, ?_, ?_, ?_⟩
  · funext j
    by_cases hj : j = i <;> simp [ParCache.upd, hj]
  · funext k
    by_cases hk : k = key i <;> simp [ParCache.upd, hk]
  all_goals (first | rfl | trivial)

def doValue (key : Nat → Nat) (fval : Nat → V) (s : ParCache.St V) (i : Nat) : V :=
  match cacheOf s (key i) with
  | some v => v
  | none => fval i

theorem solo_do (key : Nat → Nat) (fval : Nat → V) (s : ParCache.St V) (hS : SeqState s) (i : Nat)
    (hi : s.pc i = .idle) :
    ∃ n s', n ≤ 10 ∧ ParCache.run key fval s (List.replicate n i) = some s' ∧
      (∀ m s'', ParCache.run key fval s (List.replicate m i) = some s'' → s''.pc i = .returned → m = n ∧ s'' = s') ∧
      SeqState s' ∧ s'.pc i = .returned ∧
      (∀ j, j ≠ i → s'.pc j = s.pc j ∧ s'.got j = s.got j) ∧
      s'.got i = some (doValue key fval s i) ∧
      (∀ k, cacheOf s' k = if k = key i then some (doValue key fval s i) else cacheOf s k) ∧
      (∀ k, s'.runs k = s.runs k + if k = key i ∧ cacheOf s k = none then 1 else 0) := by
  have huniq : ∀ n s', ParCache.run key fval s (List.replicate n i) = some s' → s'.pc i = .returned →
      ∀ m s'', ParCache.run key fval s (List.replicate m i) = some s'' → s''.pc i = .returned → m = n ∧ s'' = s' := by
    intro n s' h1 hp1 m s'' h2 hp2
    by_cases hnm : n ≤ m
    · obtain ⟨e1, e2⟩ := solo_unique key fval s s' s'' i n m hnm h1 hp1 h2
      exact ⟨e1.symm, e2.symm⟩
    · exact solo_unique key fval s s'' s' i m n (by omega) h2 hp2 h1
  by_cases hd : (s.entry (key i)).done = true
  · -- hit
    have hrun := solo_hit key fval s hS i hi hd
    obtain ⟨v, hv⟩ := Option.isSome_iff_exists.mp (hS.done_some _ hd)
    have hval : doValue key fval s i = v := by simp [doValue, cacheOf, hd, hv]
    refine ⟨4, _, by omega, hrun, huniq 4 _ hrun (by simp), ?_, by simp, ?_, ?_, ?_, ?_⟩
    · constructor
      · intro j
        by_cases hj : j = i
        · subst hj; right; simp
        · simp only [ParCache.upd_other _ _ _ _ hj]; exact hS.pcs j
      · exact hS.unlocked
      · exact hS.present_done
      · exact hS.done_some
      · exact hS.runs_done
    · intro j hj; simp [ParCache.upd_other _ _ _ _ hj]
    · simp [hval, hv]
    · intro k
      by_cases hk : k = key i
      · subst hk; simp [cacheOf, hd, hv, hval]
      · simp [hk, cacheOf]
    · intro k
      by_cases hk : k = key i
      · subst hk; simp [cacheOf, hd, hv]
      · simp [hk]
  · -- miss
    have hd' : (s.entry (key i)).done = false := by simpa using hd
    have hrun := solo_miss key fval s hS i hi hd'
    have hval : doValue key fval s i = fval i := by simp [doValue, cacheOf, hd']
    have hc : cacheOf s (key i) = none := by simp [cacheOf, hd']
    refine ⟨10, _, by omega, hrun, huniq 10 _ hrun (by simp), ?_, by simp, ?_, ?_, ?_, ?_⟩
    · constructor
      · intro j
        by_cases hj : j = i
        · subst hj; right; simp
        · simp only [ParCache.upd_other _ _ _ _ hj]; exact hS.pcs j
      · intro k
        by_cases hk : k = key i
        · subst hk; simp
        · simp only [ParCache.upd_other _ _ _ _ hk]; exact hS.unlocked k
      · intro k
        by_cases hk : k = key i
        · subst hk; simp
        · simp only [ParCache.upd_other _ _ _ _ hk]; exact hS.present_done k
      · intro k
        by_cases hk : k = key i
        · subst hk; simp
        · simp only [ParCache.upd_other _ _ _ _ hk]; exact hS.done_some k
      · intro k
        by_cases hk : k = key i
        · subst hk; simp [hS.runs_done, hd']
        · simp only [ParCache.upd_other _ _ _ _ hk]; exact hS.runs_done k
    · intro j hj; simp [ParCache.upd_other _ _ _ _ hj]
    · simp [hval]
    · intro k
      by_cases hk : k = key i
      · subst hk; simp [cacheOf, hval]
      · simp [hk, cacheOf]
    · intro k
      by_cases hk : k = key i
      · subst hk; simp [hc]
      · simp [hk]

def CacheRel {K : Type} [BEq K] (enc : K → Nat) (c : List (K × V)) (s : ParCache.St V) : Prop :=
  ∀ k, c.lookup k = cacheOf s (enc k)

/-- C14 `cache_do_refines_sequential` -/
theorem seqDo_refines {K : Type} [BEq K] [LawfulBEq K] (enc : K → Nat) (henc : ∀ a b, enc a = enc b → a = b)
    (key : Nat → Nat) (fval : Nat → V) (c : List (K × V)) (s : ParCache.St V) (hS : SeqState s)
    (hc : CacheRel enc c s) (i : Nat) (k : K) (hk : key i = enc k) (hi : s.pc i = .idle) :
    ∃ n s', n ≤ 10 ∧ ParCache.run key fval s (List.replicate n i) = some s' ∧ SeqState s' ∧ s'.pc i = .returned ∧
      s'.got i = some (seqDo c k (fval i)).1 ∧ CacheRel enc (seqDo c k (fval i)).2 s' ∧
      (s'.runs (enc k) = s.runs (enc k) + if c.lookup k = none then 1 else 0) ∧
      (∀ j, j ≠ i → s'.pc j = s.pc j ∧ s'.got j = s.got j) := by
  obtain ⟨n, s', hn, hrun, _, hS', hp, hfr, hgot, hcache, hruns⟩ := solo_do key fval s hS i hi
  have hv : doValue key fval s i = (seqDo c k (fval i)).1 := by
    simp only [doValue, seqDo, hk, ← hc k]
    cases c.lookup k <;> rfl
  refine ⟨n, s', hn, hrun, hS', hp, by rw [hgot, hv], ?_, ?_, hfr⟩
  · intro k'
    rw [hcache, hk, hv]
    by_cases hkk : k' = k
    · subst hkk
      simp only [if_true, seqDo]
      cases hl : c.lookup k' with
      | some r => simp [hl]
      | none => simp [List.lookup]
    · have hne : enc k' ≠ enc k := fun e => hkk (henc _ _ e)
      simp only [hne, if_false, seqDo]
      cases hl : c.lookup k with
      | some r => simp only; exact hc k'
      | none =>
        simp only [List.lookup]
        have : (k' == k) = false := by simpa using hkk
        rw [this]; exact hc k'
  · rw [hruns, hk, ← hc k]
    by_cases h : List.lookup k c = none <;> simp [h]

end machine

/-! ### the two caches of the sequential client are `seqDo` -/

section client
open ModVerif.Client ModVerif.Tile
variable {σ H : Type}

/-- C14 `readTile_is_sequential_do` -/
theorem readTile_is_seqDo (E : Env σ) (w : World σ H) (t : Tile) :
    (readTile E w t).1 = (seqDo w.c.tileCache t (readTileWork E w t).1).1 ∧
    (readTile E w t).2.c.tileCache = (seqDo w.c.tileCache t (readTileWork E w t).1).2 ∧
    (∀ r, w.c.tileCache.lookup t = some r → (readTile E w t).2 = w) ∧
    (w.c.tileCache.lookup t = none →
      (readTile E w t).2 = { (readTileWork E w t).2 with
        c := { (readTileWork E w t).2.c with tileCache := (t, (readTileWork E w t).1) :: w.c.tileCache } }) := by
  have htc : (readTileWork E w t).2.c.tileCache = w.c.tileCache := by
    simp only [readTileWork]
    repeat' split
    all_goals rfl
  unfold readTile seqDo
  cases hl : w.c.tileCache.lookup t with
  | some r => exact ⟨rfl, rfl, fun _ _ => rfl, (fun h => nomatch h)⟩
  | none =>
    refine ⟨rfl, ?_, (fun r h => nomatch h), fun _ => ?_⟩
    · simp only [htc]
    · simp only [htc]

variable [DecidableEq H]

/-- C14 `record_cache_is_sequential_do` -/
theorem record_is_seqDo (P : Params H) (E : Env σ) (w : World σ H) (file remotePath : Bytes) :
    let res : Except Err Bytes × World σ H :=
      match w.c.record.lookup file with
      | some r => (r, w)
      | none =>
        let r := lookupWork P E w file remotePath
        (r.1, { r.2 with c := { r.2.c with record := (file, r.1) :: r.2.c.record } })
    res.1 = (seqDo w.c.record file (lookupWork P E w file remotePath).1).1 ∧
    res.2.c.record = (seqDo w.c.record file (lookupWork P E w file remotePath).1).2 ∧
    (∀ r, w.c.record.lookup file = some r → res.2 = w) := by
  intro res
  have hrec := (ClientEffects.lf_lookupWork (E := E) P w file remotePath).record
  simp only [res, seqDo]
  cases hl : w.c.record.lookup file with
  | some r => exact ⟨rfl, rfl, fun _ _ => rfl⟩
  | none => exact ⟨rfl, by simp only [hrec], (fun r h => nomatch h)⟩

end client
end ModVerif.ClientRefine
