/-
  For C16 `comments_survive`: the line surgery of the bulk setters on one kept requirement, WITH its
  comments (`viewX_setReq`: `Before` comments kept except the blank-line placeholder dropped by `setVersion`, `Suffix`
  rewritten by `setIndirect` only; `viewX_moveExisting`: a moved line keeps all its comments).
-/
import ModVerif.Proofs.EditMoreKeepF
namespace ModVerif.Modfile.Edit
open ModVerif ModVerif.Modfile

/-- the whole-line comments are kept, except blank-line placeholders -/
def BeforeKept (b b' : List Comment) : Prop := (b.filter fun c => !c.token.isEmpty).Sublist b'

theorem BeforeKept.refl (b : List Comment) : BeforeKept b b := List.filter_sublist

theorem BeforeKept.trans_sub {a b c : List Comment} (h1 : BeforeKept a b) (h2 : b.Sublist c) : BeforeKept a c := h1.trans h2

theorem dropBlank_before (l : Line) : BeforeKept l.comments.before (dropBlank l).comments.before := by
  unfold dropBlank
  split
  · rename_i c hc
    split
    · rename_i hce
      unfold BeforeKept
      rw [hc]
      simp [hce]
    · exact BeforeKept.refl _
  · exact BeforeKept.refl _

/-- `setVersion` drops at most the single blank-line placeholder (golang.org/issue/33779) -/
theorem setVersionLine_before (v' : Bytes) (l : Line) : BeforeKept l.comments.before (setVersionLine v' l).comments.before := by
  rw [setVersionLine_eq]
  split
  · exact BeforeKept.refl _
  · split
    · split
      · exact dropBlank_before l
      · exact dropBlank_before l
    · split <;> exact BeforeKept.refl _

theorem setIndirectLine_before (b : Bool) (l : Line) : (setIndirectLine b l).comments.before = l.comments.before := by
  unfold setIndirectLine
  split
  · rfl
  · split
    · split <;> rfl
    · split
      · rfl
      · dsimp only
        split <;> rfl

theorem viewX_appendToBlock_new (stmts : List Expr) (idx : Nat) (l : Line) (hb : BlockAt stmts idx) (hl : l.token ≠ []) :
    (⟨l.id, B "require" :: l.token, l.comments.before, l.comments.suffix⟩ : XLine) ∈ viewX (appendToBlock stmts idx l) := by
  rcases hb with ⟨b, hb, ht⟩
  unfold appendToBlock
  simp only [hb]
  rw [set_split _ hb, viewX_append, viewX_cons]
  refine List.mem_append_right _ (List.mem_append_left _ ?_)
  rw [viewX_block]
  refine List.mem_map.2 ⟨l, List.mem_filter.2 ⟨List.mem_append_right _ (List.mem_singleton.2 rfl), ?_⟩, by simp [ht]⟩
  cases hlt : l.token with
  | nil => exact absurd hlt hl
  | cons _ _ => rfl

theorem viewX_setReq (fs : FileSyntax) (next i : Nat) (v' : Bytes) (b : Bool) (hw : TreeWF fs.stmts next)
    (x0 : XLine) (hx0 : x0 ∈ viewX fs.stmts) (hid0 : x0.id = i) (a ver : Bytes) (htoks : x0.toks = [B "require", a, ver]) :
    ∃ x1 ∈ viewX (fs.updateLine i fun l => setIndirectLine b (setVersionLine v' l)).stmts,
      x1.id = i ∧ x1.toks = [B "require", a, v'] ∧ BeforeKept x0.before x1.before ∧ x1.suffix = sfxAfter b x0.suffix := by
  rcases mem_viewX.1 hx0 with ⟨p0, hp0, hlive0, rfl⟩
  simp only [mkX] at hid0 htoks
  have hshape := hw.locShape p0 hp0
  have htok' := setVersionLine_token v' p0.1 p0.2 a ver hshape htoks
  rcases setIndirectLine_props b (setVersionLine v' p0.2) with ⟨e1, e2, _, e4⟩
  rcases setVersionLine_props v' p0.2 with ⟨f1, _, f3⟩
  refine ⟨mkX (p0.1, setIndirectLine b (setVersionLine v' p0.2)), ?_, ?_, ?_, ?_, ?_⟩
  · refine mem_viewX.2 ⟨_, ?_, ?_, rfl⟩
    · rw [loc_updateLine fs i _ hw.nodup]
      refine List.mem_map.2 ⟨p0, hp0, ?_⟩
      have : (p0.2.id == i) = true := by rw [hid0]; exact beq_self_eq_true _
      simp [this]
    · simp only [liveLoc, e2]
      cases hl : (setVersionLine v' p0.2).token with
      | nil =>
        rw [hl] at htok'
        rcases hshape with ⟨h1, _⟩ | ⟨w, h1, _⟩ <;> rw [h1] at htok' <;> simp at htok'
      | cons _ _ => rfl
  · simp only [mkX, e1, f1, hid0]
  · simp only [mkX, e2, htok']
  · simp only [mkX, setIndirectLine_before]
    exact setVersionLine_before v' p0.2
  · simp only [mkX, e4, f3]

theorem viewX_moveExisting (syn : FileSyntax) (next i idx : Nat) (hw : TreeWF syn.stmts next)
    (x0 : XLine) (hx0 : x0 ∈ viewX syn.stmts) (hid0 : x0.id = i) (a ver : Bytes) (htoks : x0.toks = [B "require", a, ver])
    (hb : BlockAt syn.stmts idx) :
    (⟨next, x0.toks, x0.before, x0.suffix⟩ : XLine) ∈ viewX (moveExisting syn i idx next).stmts := by
  rcases mem_viewX.1 hx0 with ⟨p0, hp0, hlive0, rfl⟩
  simp only [mkX] at hid0 htoks
  have hfind := findLine_of_loc syn hw.nodup p0 hp0
  rw [hid0] at hfind
  have htok : (if (!p0.2.inBlock && !p0.2.token.isEmpty && headIs p0.2.token (B "require")) = true then p0.2.token.drop 1 else p0.2.token)
      = [a, ver] := by
    rcases hw.locShape p0 hp0 with ⟨h1, h2⟩ | ⟨w, h1, h2⟩
    · rw [h1] at htoks
      simp only [List.nil_append] at htoks
      simp [h2, htoks, headIs]
    · rw [h1] at htoks
      simp only [List.singleton_append, List.cons.injEq] at htoks
      simp [h2, htoks.2]
  unfold moveExisting
  simp only [hfind]
  rw [htok]
  have := viewX_appendToBlock_new (syn.updateLine i fun l => { l with token := [] }).stmts idx
    { p0.2 with id := next, token := [a, ver], inBlock := true } (hb.updateLine hw.nodup _ _) (by simp)
  simpa [mkX, htoks] using this

end ModVerif.Modfile.Edit
