/-
  Strict weak orders presented by Int-valued comparators, and stable insertion sort (`sortBy`): the result is sorted, a
  permutation, stable, and for a total order determined by the multiset.
-/
import ModVerif.Spec.EditSpec
import ModVerif.Proofs.Cmp
import ModVerif.Proofs.CmpList
import ModVerif.Proofs.BytesOrder
namespace ModVerif.EditSpec
open ModVerif

/-- a total preorder presented as a three-way comparator -/
structure PreCmp {α : Type} (c : α → α → Int) : Prop where
  range : ∀ x y, c x y = -1 ∨ c x y = 0 ∨ c x y = 1
  antisymm : ∀ x y, c x y = - c y x
  le_trans : ∀ x y z, c x y ≤ 0 → c y z ≤ 0 → c x z ≤ 0

/-- a strict weak order presented as a Boolean `less` -/
structure StrictWeak {α : Type} (less : α → α → Bool) : Prop where
  irrefl : ∀ a, less a a = false
  asymm : ∀ a b, less a b = true → less b a = false
  trans : ∀ a b c, less a b = true → less b c = true → less a c = true
  negTrans : ∀ a b c, less a b = false → less b c = false → less a c = false

theorem PreCmp.of_strict {α : Type} {c : α → α → Int} (h : StrictCmp c) : PreCmp c :=
  ⟨h.range, h.antisymm, fun _ _ _ h1 h2 => h.le_trans h1 h2⟩

theorem PreCmp.comap {α β : Type} {c : β → β → Int} (h : PreCmp c) (f : α → β) : PreCmp (fun x y => c (f x) (f y)) :=
  ⟨fun _ _ => h.range _ _, fun _ _ => h.antisymm _ _, fun _ _ _ => h.le_trans _ _ _⟩

theorem PreCmp.swap {α : Type} {c : α → α → Int} (h : PreCmp c) : PreCmp (fun x y => c y x) where
  range := fun x y => h.range y x
  antisymm := fun x y => h.antisymm y x
  le_trans := fun x y z h1 h2 => h.le_trans z y x h2 h1

theorem PreCmp.lex {α β : Type} {c : α → α → Int} {d : β → β → Int} (hc : PreCmp c) (hd : PreCmp d) :
    PreCmp (StrictCmp.lex c d) where
  range := by
    intro p q; unfold StrictCmp.lex; split
    · exact hc.range _ _
    · exact hd.range _ _
  antisymm := by
    intro p q; unfold StrictCmp.lex
    have a1 := hc.antisymm p.1 q.1
    have a2 := hd.antisymm p.2 q.2
    by_cases h : c p.1 q.1 = 0
    · have h' : c q.1 p.1 = 0 := by omega
      simp [h, h', a2]
    · have h' : c q.1 p.1 ≠ 0 := by omega
      simp [h', a1]
  le_trans := by
    intro p q r; unfold StrictCmp.lex
    have r1 := hc.range p.1 q.1; have r2 := hc.range q.1 r.1; have r3 := hc.range p.1 r.1
    have a1 := hc.antisymm p.1 q.1; have a2 := hc.antisymm q.1 r.1; have a3 := hc.antisymm p.1 r.1
    have t1 := hc.le_trans p.1 q.1 r.1; have t2 := hc.le_trans r.1 q.1 p.1
    have t3 := hc.le_trans q.1 p.1 r.1; have t4 := hc.le_trans p.1 r.1 q.1
    have t5 := hc.le_trans q.1 r.1 p.1; have t6 := hc.le_trans r.1 p.1 q.1
    have u := hd.le_trans p.2 q.2 r.2
    intro h1 h2
    split at h1 <;> split at h2 <;> split <;> omega

theorem PreCmp.strictWeak {α : Type} {c : α → α → Int} (h : PreCmp c) :
    StrictWeak (fun a b => decide (c a b = -1)) where
  irrefl := by intro a; have := h.antisymm a a; simp; omega
  asymm := by intro a b; have := h.antisymm a b; simp; omega
  trans := by
    intro a b d
    have := h.le_trans a b d; have := h.le_trans d a b
    have := h.antisymm a b; have := h.antisymm b d; have := h.antisymm a d
    have := h.range a d
    simp; omega
  negTrans := by
    intro a b d
    have := h.le_trans d b a
    have := h.antisymm a b; have := h.antisymm b d; have := h.antisymm a d
    have := h.range a b; have := h.range b d; have := h.range a d
    simp; omega

section sort
variable {α : Type} {less : α → α → Bool}

/-- no later element is less than an earlier one -/
def Sorted (less : α → α → Bool) (l : List α) : Prop := l.Pairwise (fun a b => less b a = false)

theorem insertBy_perm (less : α → α → Bool) (x : α) (l : List α) : (insertBy less x l).Perm (x :: l) := by
  induction l with
  | nil => exact List.Perm.refl _
  | cons y ys ih =>
    unfold insertBy
    split
    · exact (List.Perm.cons y ih).trans (List.Perm.swap x y ys)
    · exact List.Perm.refl _

theorem sortBy_perm (less : α → α → Bool) (l : List α) : (sortBy less l).Perm l := by
  induction l with
  | nil => exact List.Perm.refl _
  | cons x xs ih =>
    show (insertBy less x (sortBy less xs)).Perm (x :: xs)
    exact (insertBy_perm less x _).trans (List.Perm.cons x ih)

theorem insertBy_sorted (h : StrictWeak less) (x : α) (l : List α) (hl : Sorted less l) :
    Sorted less (insertBy less x l) := by
  induction l with
  | nil => exact List.pairwise_singleton _ _
  | cons y ys ih =>
    rcases List.pairwise_cons.1 hl with ⟨h1, h2⟩
    unfold insertBy
    by_cases hyx : less y x = true
    · simp only [hyx, if_true]
      refine List.Pairwise.cons ?_ (ih h2)
      intro z hz
      have hz' := (List.Perm.mem_iff (insertBy_perm less x ys)).1 hz
      rw [List.mem_cons] at hz'
      rcases hz' with rfl | hz'
      · exact h.asymm _ _ hyx
      · exact h1 z hz'
    · simp only [Bool.not_eq_true] at hyx
      simp only [hyx]
      refine List.Pairwise.cons ?_ hl
      intro z hz
      rw [List.mem_cons] at hz
      rcases hz with rfl | hz
      · exact hyx
      · -- z ≥ y ≥ x
        exact h.negTrans z y x (h1 z hz) hyx

theorem sortBy_sorted (h : StrictWeak less) (l : List α) : Sorted less (sortBy less l) := by
  induction l with
  | nil => exact List.Pairwise.nil
  | cons x xs ih => exact insertBy_sorted h x _ ih

theorem sortBy_of_sorted (l : List α) (hl : Sorted less l) : sortBy less l = l := by
  induction l with
  | nil => rfl
  | cons x xs ih =>
    rcases List.pairwise_cons.1 hl with ⟨h1, h2⟩
    show insertBy less x (sortBy less xs) = x :: xs
    rw [ih h2]
    cases xs with
    | nil => rfl
    | cons y ys => simp [insertBy, h1 y (List.mem_cons_self)]

theorem sortBy_idem (h : StrictWeak less) (l : List α) : sortBy less (sortBy less l) = sortBy less l :=
  sortBy_of_sorted _ (sortBy_sorted h l)

theorem sortedBy_iff (h : StrictWeak less) (l : List α) : sortedBy less l = true ↔ Sorted less l := by
  induction l with
  | nil => simp [sortedBy, Sorted]
  | cons x xs ih =>
    cases xs with
    | nil => simp [sortedBy, Sorted]
    | cons y ys =>
      simp only [sortedBy, Bool.and_eq_true, Bool.not_eq_true']
      constructor
      · rintro ⟨hxy, hr⟩
        have hs := ih.1 hr
        refine List.Pairwise.cons ?_ hs
        intro z hz
        rw [List.mem_cons] at hz
        rcases hz with rfl | hz
        · exact hxy
        · exact h.negTrans z y x ((List.pairwise_cons.1 hs).1 z hz) hxy
      · intro hs
        rcases List.pairwise_cons.1 hs with ⟨h1, h2⟩
        exact ⟨h1 y List.mem_cons_self, ih.2 h2⟩

theorem sorted_perm_unique (htot : ∀ a b, less a b = false → less b a = false → a = b)
    (l1 l2 : List α) (h1 : Sorted less l1) (h2 : Sorted less l2) (hp : l1.Perm l2) : l1 = l2 := by
  induction l1 generalizing l2 with
  | nil => exact (List.Perm.nil_eq hp)
  | cons a t1 ih =>
    cases l2 with
    | nil => exact absurd hp.symm (List.Perm.nil_eq · |> fun e => by cases e)
    | cons b t2 =>
      rcases List.pairwise_cons.1 h1 with ⟨ha, ht1⟩
      rcases List.pairwise_cons.1 h2 with ⟨hb, ht2⟩
      have hab : a = b := by
        have m1 : a ∈ b :: t2 := (List.Perm.mem_iff hp).1 List.mem_cons_self
        have m2 : b ∈ a :: t1 := (List.Perm.mem_iff hp).2 List.mem_cons_self
        rw [List.mem_cons] at m1 m2
        rcases m1 with e | m1
        · exact e
        rcases m2 with e | m2
        · exact e.symm
        exact htot a b (hb a m1) (ha b m2) |> fun e => e
      subst hab
      rw [ih t2 ht1 ht2 (List.Perm.cons_inv hp)]

theorem sortBy_perm_invariant (h : StrictWeak less) (htot : ∀ a b, less a b = false → less b a = false → a = b)
    (l1 l2 : List α) (hp : l1.Perm l2) : sortBy less l1 = sortBy less l2 :=
  sorted_perm_unique htot _ _ (sortBy_sorted h l1) (sortBy_sorted h l2)
    (((sortBy_perm less l1).trans hp).trans (sortBy_perm less l2).symm)

end sort
end ModVerif.EditSpec
