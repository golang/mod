/-
  What a strict parse guarantees of the typed lists and the tree (`ParsedOK`), and `load`: renumbering the lines takes
  `ParsedOK f` with well-formed keys to the tree invariant `Edit.Inv (load f)` and the refinement's start condition
  `StartOK f` (`ParsedOK.inv_load`, `ParsedOK.startOK`).  That a parsed file satisfies `ParsedOK` is
  Proofs/EditStartParse.lean (any version fixer).  No end-of-line comment on a `LineBlock` is a hypothesis
  (`NoBlockSuffix`): it fails exactly for a one-line empty block `verb () // comment`.
-/
import ModVerif.Proofs.EditMoreStartB
namespace ModVerif.Modfile.Edit
open ModVerif ModVerif.Modfile ModVerif.Proofs.ModfileC20 ModVerif.Proofs.EditMore

/-- what a strict parse guarantees of the typed lists and the tree, before `load` renumbers the lines -/
structure ParsedOK (f : File) : Prop where
  mtch : Match (entsAll f) (view f.syn.stmts)
  nodup : (treeIds f.syn.stmts).Nodup
  blockTok : ∀ b, Expr.lineBlock b ∈ f.syn.stmts → ∃ v, b.token = [v]
  flags : ∀ x ∈ f.syn.stmts, FlagOK x

/-- `load` numbers the lines from 1 (0 is the nil pointer): a typed entry, a view line under the shifted id -/
def shiftE (en : Ent) : Ent := ⟨en.id + 1, en.acc⟩
def shiftV (v : VLine) : VLine := { v with id := v.id + 1 }

theorem Match.shift {es : List Ent} {vs : List VLine} (h : Match es vs) : Match (es.map shiftE) (vs.map shiftV) := by
  refine ⟨?_, ?_, ?_⟩
  · have : (es.map shiftE).map (·.id) = (es.map (·.id)).map (· + 1) := by simp [List.map_map, shiftE, Function.comp_def]
    rw [this]
    have hn := h.nodup
    unfold List.Nodup at *
    rw [List.pairwise_map]
    exact hn.imp (fun hab e => hab (Nat.succ.inj e))
  · intro en hen
    rcases List.mem_map.1 hen with ⟨en0, hen0, rfl⟩
    rcases h.cover en0 hen0 with ⟨v, hv, hid, hacc⟩
    exact ⟨shiftV v, List.mem_map.2 ⟨v, hv, rfl⟩, by simp [shiftV, shiftE, hid], hacc⟩
  · intro v hv
    rcases List.mem_map.1 hv with ⟨v0, hv0, rfl⟩
    rcases h.surj v0 hv0 with ⟨en, hen, hid⟩
    exact ⟨shiftE en, List.mem_map.2 ⟨en, hen, rfl⟩, by simp [shiftV, shiftE, hid]⟩

theorem shiftSyntax_stmts (fs : FileSyntax) : (shiftSyntax fs).stmts = fs.stmts.map (mapLinesStmt shiftLine) := by
  unfold shiftSyntax
  simp only
  apply List.map_congr_left
  intro x _
  cases x <;> rfl

theorem view_shift (stmts : List Expr) : view (stmts.map (mapLinesStmt shiftLine)) = (view stmts).map shiftV := by
  unfold view
  rw [loc_mapLines, List.filter_map, List.map_map, List.map_map]
  rfl

theorem treeIds_shift (stmts : List Expr) : treeIds (stmts.map (mapLinesStmt shiftLine)) = (treeIds stmts).map (· + 1) := by
  unfold treeIds
  rw [loc_mapLines, List.map_map, List.map_map]
  rfl

theorem ne_nil_live' {p : Bytes} (h : p ≠ []) : (!p.isEmpty) = true := by
  cases p with
  | nil => exact absurd rfl h
  | cons _ _ => rfl

theorem entsOf_map_shift {α : Type} (live : α → Bool) (mk : α → Ent) (g : α → α) (l : List α)
    (hl : ∀ x ∈ l, live (g x) = true) (hm : ∀ x, mk (g x) = shiftE (mk x)) :
    entsOf live mk (l.map g) = (l.map mk).map shiftE := by
  unfold entsOf
  rw [List.filter_eq_self.2 (by simpa using hl), List.map_map, List.map_map]
  exact List.map_congr_left fun x _ => hm x

theorem toList_map_shift {α : Type} (mk : α → Ent) (g : α → α) (o : Option α) (hm : ∀ x, mk (g x) = shiftE (mk x)) :
    (o.map g).toList.map mk = (o.toList.map mk).map shiftE := by
  cases o with
  | none => rfl
  | some x => simp [hm]

theorem entries_load (f : File) (h : WellFormedKeys f) : entries (load f).f = (entsAll f).map shiftE := by
  unfold entries
  simp only [load]
  rw [toList_map_shift entM _ _ fun _ => rfl, toList_map_shift entGo _ _ fun _ => rfl, toList_map_shift entTc _ _ fun _ => rfl,
    entsOf_map_shift liveG entG (fun x : Godebug => { x with lineId := x.lineId + 1 }) _ (fun x hx => ne_nil_live' (h.godebug x hx)) fun _ => rfl,
    entsOf_map_shift liveRq entRq (fun x : Require => { x with lineId := x.lineId + 1 }) _ (fun x hx => ne_nil_live' (h.require x hx)) fun _ => rfl,
    entsOf_map_shift liveX entX (fun x : Exclude => { x with lineId := x.lineId + 1 }) _ (fun x hx => ne_nil_live' (h.exclude x hx)) fun _ => rfl,
    entsOf_map_shift liveRp entRp (fun x : Replace => { x with lineId := x.lineId + 1 }) _ (fun x hx => ne_nil_live' (h.replace x hx)) fun _ => rfl,
    entsOf_map_shift liveRt entRt (fun x : Retract => { x with lineId := x.lineId + 1 }) _ (fun x hx => by
      rcases h.retract x hx with h1 | h1 <;> simp [liveRt, ne_nil_live' h1]) fun _ => rfl,
    entsOf_map_shift liveT entT (fun x : Tool => { x with lineId := x.lineId + 1 }) _ (fun x hx => ne_nil_live' (h.tool x hx)) fun _ => rfl]
  simp [entsAll, segs, List.map_append]

/-- the absence of an end-of-line comment on a `LineBlock`: holds for every parsed block that spans more than one source
    line (`assignComments` skips those); it fails only for a one-line empty block `verb () // comment`, where Cleanup
    after an Add would hand the comment to the new line (finding `C15_violated_empty_block_suffix_comment`) -/
def NoBlockSuffix (fs : FileSyntax) : Prop := ∀ b, Expr.lineBlock b ∈ fs.stmts → b.comments.suffix = []

theorem treeWF_shift {stmts : List Expr} {next : Nat} (hnd : (treeIds stmts).Nodup) (hlt : ∀ l ∈ linesOf stmts, l.id + 1 < next)
    (hbt : ∀ b, Expr.lineBlock b ∈ stmts → ∃ v, b.token = [v]) (hfl : ∀ x ∈ stmts, FlagOK x)
    (hs : ∀ b, Expr.lineBlock b ∈ stmts → b.comments.suffix = []) : TreeWF (stmts.map (mapLinesStmt shiftLine)) next := by
  refine ⟨?_, ?_, ?_, ?_, ?_, ?_, ?_⟩
  · rw [treeIds_shift]
    exact (List.pairwise_map.2 (hnd.imp fun hab e => hab (Nat.succ.inj e)))
  · intro i hi
    rw [treeIds_shift, treeIds_eq_linesOf, List.map_map] at hi
    rcases List.mem_map.1 hi with ⟨l, hl, rfl⟩
    exact hlt l hl
  · intro i hi
    rw [treeIds_shift] at hi
    rcases List.mem_map.1 hi with ⟨j, _, rfl⟩
    exact Nat.succ_ne_zero _
  · intro b hb
    rcases mem_mapLines_block hb with ⟨b0, hb0, rfl⟩
    exact hbt b0 hb0
  · intro l hl
    rcases mem_mapLines_line hl with ⟨l0, hl0, rfl⟩
    exact hfl _ hl0
  · intro b hb l hl
    rcases mem_mapLines_block hb with ⟨b0, hb0, rfl⟩
    rcases List.mem_map.1 hl with ⟨l0, hl0, rfl⟩
    exact hfl _ hb0 l0 hl0
  · intro b hb
    rcases mem_mapLines_block hb with ⟨b0, hb0, rfl⟩
    exact hs b0 hb0

theorem ParsedOK.treeWF_load {f : File} (h : ParsedOK f) (hs : NoBlockSuffix f.syn) :
    TreeWF (load f).f.syn.stmts (load f).next := by
  rw [show (load f).f.syn.stmts = _ from shiftSyntax_stmts f.syn]
  exact treeWF_shift h.nodup (id_lt_next_load f) h.blockTok h.flags hs

theorem Match.line_of_ent {es : List Ent} {stmts : List Expr} (h : Match es (view stmts)) {en : Ent} (hen : en ∈ es) :
    ∃ l ∈ linesOf stmts, l.id = en.id := by
  rcases h.cover en hen with ⟨v, hv, hid, _⟩
  have := view_id_mem_treeIds hv
  rw [treeIds_eq_linesOf] at this
  rcases List.mem_map.1 this with ⟨l, hl, hl2⟩
  exact ⟨l, hl, hl2.trans hid⟩

theorem ParsedOK.startOK {f : File} (h : ParsedOK f) (hk : WellFormedKeys f) : StartOK f := by
  have hsub : (dupIds f).Sublist ((entsAll f).map (·.id)) := by
    simp only [dupIds, entsAll, segs, List.flatten_cons, List.flatten_nil, List.append_nil, List.map_append, List.map_map]
    refine List.Sublist.trans ?_ (List.sublist_append_right _ _)
    refine List.Sublist.trans ?_ (List.sublist_append_right _ _)
    refine List.Sublist.trans ?_ (List.sublist_append_right _ _)
    refine List.Sublist.trans ?_ (List.sublist_append_right _ _)
    refine List.Sublist.trans ?_ (List.sublist_append_right _ _)
    refine List.Sublist.append (List.Sublist.refl _) ?_
    refine List.Sublist.append (List.Sublist.refl _) ?_
    exact List.sublist_append_right _ _
  refine ⟨hk, List.Nodup.sublist hsub h.mtch.nodup, ?_⟩
  intro i hi
  rcases List.mem_map.1 (hsub.subset hi) with ⟨en, hen, rfl⟩
  exact h.mtch.line_of_ent hen

theorem ParsedOK.inv_load {f : File} (h : ParsedOK f) (hk : WellFormedKeys f) (hs : NoBlockSuffix f.syn) : Inv (load f) := by
  refine ⟨h.treeWF_load hs, ?_, TInv_load f (h.startOK hk)⟩
  rw [entries_load f hk]
  have hst : (load f).f.syn.stmts = f.syn.stmts.map (mapLinesStmt shiftLine) := shiftSyntax_stmts f.syn
  rw [hst, view_shift]
  exact h.mtch.shift

end ModVerif.Modfile.Edit
