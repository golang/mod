/-
  **C16 `separate_blocks`**: when the file's requirements are one uncommented statement, after
  SetRequireSeparateIndirect and Cleanup no `require` block mixes lines with and without the `// indirect` marker.
-/
import ModVerif.Proofs.EditMoreSepH
namespace ModVerif.Modfile.Edit
open ModVerif ModVerif.Modfile

/-- **C16 `separate_blocks`.**  `hof`: the file's requirements are one uncommented statement (a single `require` line or
    block without comments of its own). -/
theorem separate_blocks (e e' : EFile) (req : List Want) (perm : List Want → List Want) (hperm : ∀ l, (perm l).Perm l)
    (hg : GoodWant req) (hi : Inv e) (hlive : ∀ r ∈ e.f.require, liveRq r = true) (hset : NoNestedIndirectMarker e)
    (hof : sepOneFlat e.f.syn.stmts (scanStmts e.f.syn.stmts 0 {}) = true)
    (h : setRequireSeparateIndirect e req perm = .ok e') :
    ∀ b, Expr.lineBlock b ∈ (cleanup e').f.syn.stmts → b.token = [B "require"] →
      (∀ l ∈ b.lines, isIndirect l = true) ∨ (∀ l ∈ b.lines, isIndirect l = false) := by
  -- Before the closing SortBlocks every direct requirement is in the statement `dI` and every indirect one in `iI ≠ dI`
  -- (`sepTail_presort_sep`); SortBlocks and Cleanup keep each line in its statement, so a final block with both kinds
  -- would have two lines of ONE earlier statement in `dI` and in `iI` (`not_same_of_inAt`).
  rcases setRSI_stages h with ⟨s1, dI, dO, lI, sh, s2, iI, iO, h1, h2, ht⟩
  have hgood := sepStage_spec e.f.syn.stmts hi.tree.shape hi.view2 _ (scan_inv _) h1 h2
  rcases sepTail_presort_sep e e' req perm hperm hg hi hlive hset _ s2 hgood ht with ⟨e1, hi1, rfl, _, hsep⟩
  replace hsep := hsep hof
  have hne : dI ≠ iI := hgood.ne
  -- the final statements
  have heq := sortBlocks_eq_sem e1
  have hfinal : (cleanup (sortBlocks e1)).f.syn.stmts =
      cleanupStmts (sortStmts (semOf e1.f) false (dropKilled (kill3 e1.f) e1.f.syn.stmts)) := by
    rw [heq]; rfl
  have hs1 := hi1.tree.shape
  rcases dropKilled_spec (kill3 e1.f) e1.f.syn.stmts hs1 with ⟨d1, _, d3⟩
  rcases sortStmts_spec (semOf e1.f) false _ d3 with ⟨s1', _, s3⟩
  rcases cleanupStmts_spec _ s3 with ⟨c1, _, _⟩
  intro b hb htok
  rw [hfinal] at hb
  have hlive' := cleanupStmts_block_live _ b hb
  -- a line of the block, seen in the pre-sort state
  have hline : ∀ l ∈ b.lines, (InAt e1.f.syn.stmts dI l.id ∧ isIndirect l = false) ∨ (InAt e1.f.syn.stmts iI l.id ∧ isIndirect l = true) := by
    intro l hl
    have hv : (⟨l.id, B "require" :: l.token, l.comments.suffix⟩ : VLine) ∈ view e1.f.syn.stmts := by
      have h0 : (⟨l.id, B "require" :: l.token, l.comments.suffix⟩ : VLine) ∈
          view (cleanupStmts (sortStmts (semOf e1.f) false (dropKilled (kill3 e1.f) e1.f.syn.stmts))) := by
        rcases List.mem_iff_getElem?.1 hb with ⟨k, hk⟩
        rw [(split_at hk).1, view_append, view_cons]
        refine List.mem_append_right _ (List.mem_append_left _ ?_)
        rw [view_block, htok]
        refine List.mem_map.2 ⟨l, List.mem_filter.2 ⟨hl, ?_⟩, rfl⟩
        have := hlive' l hl
        cases hlt : l.token with
        | nil => exact absurd hlt this
        | cons _ _ => rfl
      rw [c1] at h0
      have h1 := s1'.subset h0
      rw [d1] at h1
      exact (List.mem_filter.1 h1).1
    rcases hsep _ hv rfl with ⟨r', hr', _⟩ | ⟨q1, q2⟩ | ⟨q1, q2⟩
    · cases hr'
    · exact Or.inl ⟨q1, by rw [isIndirect_eq]; exact q2⟩
    · exact Or.inr ⟨q1, by rw [isIndirect_eq]; exact q2⟩
  -- Cleanup, the sort and removeDups never merge statements: the block is (part of) one block of the pre-sort state
  have hsame : ∀ l1 ∈ b.lines, ∀ l2 ∈ b.lines, SameStmt e1.f.syn.stmts l1.id l2.id := by
    obtain ⟨b1, hb1, _, hl1⟩ := cleanupStmts_block _ b hb
    obtain ⟨b2, hb2, _, hl2⟩ := sortStmts_block _ _ _ b1 hb1
    obtain ⟨b3, hb3, _, hl3⟩ := dropKilled_block _ _ b2 hb2
    have hin : ∀ l ∈ b.lines, l.id ∈ treeIds [Expr.lineBlock b3] := fun l hl => by
      rw [treeIds_block]
      exact List.mem_map.2 ⟨l, hl3 l ((stableSort_perm _ b2.lines).subset (hl2 ▸ hl1.subset hl)), rfl⟩
    exact fun l1 h1 l2 h2 => ⟨Expr.lineBlock b3, hb3, hin l1 h1, hin l2 h2⟩
  by_cases hall : ∀ l ∈ b.lines, isIndirect l = true
  · exact Or.inl hall
  · right
    have : ∃ l1 ∈ b.lines, isIndirect l1 = false := by
      apply Classical.byContradiction
      intro hcon
      apply hall
      intro l hl
      cases hx : isIndirect l with
      | true => rfl
      | false => exact absurd ⟨l, hl, hx⟩ hcon
    rcases this with ⟨l1, hl1, hx1⟩
    intro l hl
    cases hx : isIndirect l with
    | false => rfl
    | true =>
      exfalso
      rcases hline l hl with ⟨_, q⟩ | ⟨qa, _⟩
      · rw [hx] at q; cases q
      · rcases hline l1 hl1 with ⟨qb, _⟩ | ⟨_, q⟩
        · exact not_same_of_inAt hi1.tree.nodup hne.symm qa qb (hsame l hl l1 hl1)
        · rw [hx1] at q; cases q

end ModVerif.Modfile.Edit
