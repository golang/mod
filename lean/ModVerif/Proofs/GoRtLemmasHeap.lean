/-
  The object lists of a regenerated heap (`cbs`, `lines`, `blocks`, … of `Parse.Heap`, `Edit.Heap`, `Rule.Heap`: a pointer
  is the 1-based position, 0 = nil): `heapGet` after `heapSet` / `heapAlloc`, for any object type.  Used by the heap ties
  of the parser, the directive layer and the edit operations alike.
-/
import ModVerif.Basic.GoRtHeap
import ModVerif.Proofs.GoRtLemmas
namespace ModVerif.Tie.FnParseHeap
open ModVerif ModVerif.GoRt

theorem heapGet_ok_iff {α : Type} {l : List α} {p : Int} {v : α} :
    heapGet l p = .ok v ↔ 0 < p ∧ l[p.toNat - 1]? = some v := by
  unfold heapGet
  by_cases hp : p ≤ 0
  · simp [hp]; intro h; omega
  · simp only [hp, if_false]
    cases hv : l[p.toNat - 1]? with
    | none => simp
    | some w =>
      simp only [pure, Except.pure, Except.ok.injEq, Option.some.injEq]
      constructor
      · intro h; exact ⟨by omega, h⟩
      · intro h; exact h.2

theorem heapGet_pos {α : Type} {l : List α} {p : Int} {v : α} (h : heapGet l p = .ok v) : 0 < p :=
  (heapGet_ok_iff.1 h).1

theorem heapGet_le_length {α : Type} {l : List α} {p : Int} {v : α} (h : heapGet l p = .ok v) :
    p.toNat ≤ l.length := by
  obtain ⟨hp, hv⟩ := heapGet_ok_iff.1 h
  have := (List.getElem?_eq_some_iff.1 hv).1
  omega

theorem heapGet_error {α : Type} {l : List α} {p : Int} {e : Err} (h : heapGet l p = .error e) : e = .panic := by
  unfold heapGet at h
  split at h
  · cases h; rfl
  · split at h
    · cases h
    · cases h; rfl

theorem heapGet_natCast {α : Type} (l : List α) (k : Nat) :
    heapGet l ((k + 1 : Nat) : Int) = (match l[k]? with | some v => .ok v | none => .error .panic) := by
  unfold heapGet
  have h1 : ¬ (((k + 1 : Nat) : Int) ≤ 0) := by omega
  have h2 : ((k + 1 : Nat) : Int).toNat - 1 = k := by omega
  simp only [h1, if_false, h2]
  cases l[k]? <;> rfl

@[simp] theorem heapAlloc_fst {α : Type} (l : List α) (v : α) : (heapAlloc l v).1 = ((l.length + 1 : Nat) : Int) := rfl
@[simp] theorem heapAlloc_snd {α : Type} (l : List α) (v : α) : (heapAlloc l v).2 = l ++ [v] := rfl

theorem heapGet_alloc_new {α : Type} (l : List α) (v : α) :
    heapGet (l ++ [v]) ((l.length + 1 : Nat) : Int) = .ok v := by
  rw [heapGet_natCast]; simp

theorem heapGet_append_old {α : Type} {l : List α} {p : Int} {w : α} (t : List α) (h : heapGet l p = .ok w) :
    heapGet (l ++ t) p = .ok w := by
  obtain ⟨hp, hv⟩ := heapGet_ok_iff.1 h
  refine heapGet_ok_iff.2 ⟨hp, ?_⟩
  rw [List.getElem?_append_left (List.getElem?_eq_some_iff.1 hv).1]; exact hv

theorem heapGet_alloc_old {α : Type} {l : List α} {p : Int} {w : α} (v : α) (h : heapGet l p = .ok w) :
    heapGet (l ++ [v]) p = .ok w :=
  heapGet_append_old [v] h

theorem heapGet_prefix {α : Type} {l l' : List α} (hp : l <+: l') {p : Int} {v : α} (h : heapGet l p = .ok v) :
    heapGet l' p = .ok v := by
  obtain ⟨t, rfl⟩ := hp
  exact heapGet_append_old t h

theorem heapGet_alloc_of_le {α : Type} (l : List α) (v : α) {p : Int} (h : p.toNat ≤ l.length) :
    heapGet (l ++ [v]) p = heapGet l p := by
  unfold heapGet
  by_cases hp : p ≤ 0
  · simp [hp]
  · simp only [hp, if_false]
    rw [List.getElem?_append_left (by omega)]

theorem heapSet_ok_iff {α : Type} {l l' : List α} {p : Int} {v : α} :
    heapSet l p v = .ok l' ↔ 0 < p ∧ p.toNat ≤ l.length ∧ l' = l.set (p.toNat - 1) v := by
  unfold heapSet
  by_cases hc : p ≤ 0 ∨ l.length < p.toNat
  · simp only [hc, if_true]
    constructor
    · intro h; exact nomatch h
    · intro h; omega
  · simp only [hc, if_false, pure, Except.pure, Except.ok.injEq]
    constructor
    · intro h; exact ⟨by omega, by omega, h.symm⟩
    · intro h; exact h.2.2.symm

theorem heapSet_of_get {α : Type} {l : List α} {p : Int} {w : α} (v : α) (h : heapGet l p = .ok w) :
    heapSet l p v = .ok (l.set (p.toNat - 1) v) :=
  heapSet_ok_iff.2 ⟨heapGet_pos h, heapGet_le_length h, rfl⟩

theorem heapSet_length {α : Type} {l l' : List α} {p : Int} {v : α} (h : heapSet l p v = .ok l') :
    l'.length = l.length := by
  obtain ⟨_, _, rfl⟩ := heapSet_ok_iff.1 h
  simp

theorem heapGet_set_same {α : Type} {l l' : List α} {p : Int} {v : α} (h : heapSet l p v = .ok l') :
    heapGet l' p = .ok v := by
  obtain ⟨hp, hl, rfl⟩ := heapSet_ok_iff.1 h
  refine heapGet_ok_iff.2 ⟨hp, ?_⟩
  rw [List.getElem?_set_self (by omega)]

theorem heapGet_set_other {α : Type} {l l' : List α} {p q : Int} {v : α} (h : heapSet l p v = .ok l')
    (hq : q ≠ p) : heapGet l' q = heapGet l q := by
  obtain ⟨hp, hl, rfl⟩ := heapSet_ok_iff.1 h
  unfold heapGet
  by_cases hq0 : q ≤ 0
  · simp [hq0]
  · simp only [hq0, if_false]
    rw [List.getElem?_set_ne (by omega)]

theorem heapGet_set_ok {α : Type} {l l' : List α} {p q : Int} {v w : α} (h : heapSet l p v = .ok l')
    (hq : heapGet l q = .ok w) : ∃ w', heapGet l' q = .ok w' := by
  by_cases e : q = p
  · subst e; exact ⟨v, heapGet_set_same h⟩
  · exact ⟨w, by rw [heapGet_set_other h e]; exact hq⟩

theorem heapGet_listSet_same {α : Type} {l : List α} {p : Int} {w : α} (v : α) (h : heapGet l p = .ok w) :
    heapGet (l.set (p.toNat - 1) v) p = .ok v :=
  heapGet_set_same (heapSet_of_get v h)

theorem heapGet_listSet_other {α : Type} {l : List α} {p q : Int} {w : α} (v : α) (h : heapGet l p = .ok w)
    (hq : q ≠ p) : heapGet (l.set (p.toNat - 1) v) q = heapGet l q :=
  heapGet_set_other (heapSet_of_get v h) hq

theorem heap_set_self {α : Type} {l : List α} {p : Int} {v : α} (h : heapGet l p = .ok v) : l.set (p.toNat - 1) v = l := by
  obtain ⟨hi, rfl⟩ := List.getElem?_eq_some_iff.1 (heapGet_ok_iff.1 h).2
  exact List.set_getElem_self hi

theorem set_alloc_last {α : Type} (l : List α) (v v' : α) : (l ++ [v]).set l.length v' = l ++ [v'] := by
  induction l with
  | nil => rfl
  | cons a t ih => simp [ih]

theorem prefix_set_of_le {α : Type} {l l' : List α} (hp : l <+: l') {k : Nat} (hk : l.length ≤ k) (v : α) :
    l <+: l'.set k v := by
  obtain ⟨t, rfl⟩ := hp
  rw [List.set_append_right _ _ hk]
  exact List.prefix_append _ _

/-- pointers come out of the allocator in increasing order -/
theorem nodup_of_pairwise_lt {l : List Int} (h : l.Pairwise (· < ·)) : l.Nodup :=
  h.imp (fun hab => Int.ne_of_lt hab)

end ModVerif.Tie.FnParseHeap
