/-
  C20 `modulePath_agrees`, string level: `TrimSpace`, `Index`, `Split` on the shapes that occur on the
  source line of a module directive, and what the line scanner `modulePathLine` returns on such a line.
-/
import ModVerif.Model.Modfile.Rule
import ModVerif.Proofs.ModfileC20Comment
import ModVerif.Proofs.ModfileFmtTrim
import ModVerif.Proofs.ListLemmas
namespace ModVerif.Proofs.ModfileC20
open ModVerif ModVerif.Modfile ModVerif.Proofs.ModfileLex ModVerif.Proofs.ModfileC20Utf8

def NS (b : UInt8) : Prop := b.toNat < 128 ∧ UnicodePrint.isSpace b.toNat = false

theorem trimSpace_core (W0 W2 mid : Bytes) (c0 c1 : UInt8) (pre : Bytes) (h0 : WS W0) (h2 : WS W2)
    (hc0 : NS c0) (hc1 : NS c1) (hcore : c0 :: mid = pre ++ [c1]) :
    GoStrings.trimSpace (W0 ++ (c0 :: mid) ++ W2) = c0 :: mid := by
  refine ModfileFmtTrim.trimSpace_unique W0 (c0 :: mid) W2 (spaceSeq_of_ws h0) (spaceSeq_of_ws h2) (by simp) ?_ ?_
  · rw [decodeRune_ascii c0 mid hc0.1]; exact hc0.2
  · rw [hcore, List.reverse_append, List.reverse_singleton, List.singleton_append]
    have : GoStrings.decodeLastRuneRev (c1 :: pre.reverse) = (c1.toNat, 1) := by
      simp [GoStrings.decodeLastRuneRev, hc1.1]
    rw [this]; exact hc1.2


/-! ### strings.Index -/

theorem indexAux_found (sub : Bytes) (hsub : sub ≠ []) : ∀ (n : Nat) (s : Bytes) (i : Nat),
    (∀ k < n, isPrefixOfB sub (s.drop k) = false) → isPrefixOfB sub (s.drop n) = true →
    GoStrings.indexAux sub s i = some (i + n) := by
  intro n
  induction n with
  | zero =>
    intro s i _ h
    cases s with
    | nil =>
      cases sub with
      | nil => exact absurd rfl hsub
      | cons a t => simp [isPrefixOfB] at h
    | cons c rest =>
      simp only [List.drop_zero] at h
      simp [GoStrings.indexAux, h]
  | succ n ih =>
    intro s i hno h
    cases s with
    | nil =>
      cases sub with
      | nil => exact absurd rfl hsub
      | cons a t => simp [isPrefixOfB] at h
    | cons c rest =>
      have h0 := hno 0 (by omega)
      simp only [List.drop_zero] at h0
      simp only [GoStrings.indexAux, h0, Bool.false_eq_true, if_false]
      have := ih rest (i + 1) (fun k hk => by simpa using hno (k + 1) (by omega)) (by simpa using h)
      rw [this]; congr 1; omega

theorem indexAux_none (sub : Bytes) (hsub : sub ≠ []) : ∀ (s : Bytes) (i : Nat),
    (∀ k, isPrefixOfB sub (s.drop k) = false) → GoStrings.indexAux sub s i = none := by
  intro s
  induction s with
  | nil =>
    intro i _
    cases sub with
    | nil => exact absurd rfl hsub
    | cons a t => simp [GoStrings.indexAux]
  | cons c rest ih =>
    intro i hno
    have h0 := hno 0
    simp only [List.drop_zero] at h0
    simp only [GoStrings.indexAux, h0, Bool.false_eq_true, if_false]
    exact ih (i + 1) (fun k => by simpa using hno (k + 1))

theorem slashes_prefix {t : Bytes} : isPrefixOfB [47, 47] t = true ↔ ∃ r, t = 47 :: 47 :: r := by
  rw [isPrefixOfB_iff]
  constructor
  · rintro ⟨r, rfl⟩; exact ⟨r, rfl⟩
  · rintro ⟨r, rfl⟩; exact ⟨r, rfl⟩

theorem strip_comment (S R : Bytes) (hno : ¬ [47, 47] <:+: S) (hlast : S.getLast? ≠ some 47)
    (hR : R = [] ∨ [47, 47] <+: R) :
    (match GoStrings.index (S ++ R) [47, 47] with
     | some i => (S ++ R).take i
     | none => S ++ R : Bytes) = S := by
  have hbefore : ∀ k < S.length, isPrefixOfB [47, 47] ((S ++ R).drop k) = false := by
    intro k hk
    cases hp : isPrefixOfB [47, 47] ((S ++ R).drop k) with
    | false => rfl
    | true =>
      exfalso
      obtain ⟨r, hr⟩ := slashes_prefix.mp hp
      rw [List.drop_append_of_le_length (by omega)] at hr
      have hsplit : S = S.take k ++ S.drop k := (List.take_append_drop k S).symm
      cases hd : S.drop k with
      | nil =>
        have := congrArg List.length hd
        simp at this; omega
      | cons c S' =>
        rw [hd] at hr
        simp only [List.cons_append, List.cons.injEq] at hr
        obtain ⟨rfl, hr⟩ := hr
        cases S' with
        | nil =>
          apply hlast
          rw [hsplit, hd]; simp
        | cons c' S'' =>
          simp only [List.cons_append, List.cons.injEq] at hr
          obtain ⟨rfl, _⟩ := hr
          apply hno
          exact ⟨S.take k, S'', by rw [List.append_assoc]; simpa [hd] using hsplit.symm⟩
  unfold GoStrings.index
  rcases hR with rfl | hR
  · rw [List.append_nil] at hbefore ⊢
    rw [indexAux_none [47, 47] (by simp) S 0]
    intro k
    by_cases hk : k < S.length
    · exact hbefore k hk
    · rw [List.drop_eq_nil_of_le (by omega)]; rfl
  · have hat : isPrefixOfB [47, 47] ((S ++ R).drop S.length) = true := by
      rw [List.drop_left]; exact isPrefixOfB_iff.mpr hR
    rw [indexAux_found [47, 47] (by simp) S.length (S ++ R) 0 hbefore hat]
    simp


/-! ### the line scanner on the source line of a module directive -/

theorem slashes_infix_append {A C : Bytes} (h : [47, 47] <:+: A ++ C) :
    [47, 47] <:+: A ∨ [47, 47] <:+: C ∨ (A.getLast? = some 47 ∧ C.head? = some 47) := by
  obtain ⟨p, q, hpq⟩ := h
  rw [List.append_assoc] at hpq
  rcases List.append_eq_append_iff.mp hpq.symm with ⟨a', hp, hC⟩ | ⟨c', hA, hc⟩
  · right; left
    exact ⟨a', q, by rw [hC, List.append_assoc]⟩
  · -- A = p ++ c', [47,47] ++ q = c' ++ C
    match c', hA, hc with
    | [], hA, hc =>
      right; left
      exact ⟨[], q, by simpa using hc⟩
    | [x], hA, hc =>
      simp only [List.cons_append, List.nil_append, List.cons.injEq] at hc
      right; right
      refine ⟨by rw [hA, ← hc.1]; simp, by rw [← hc.2]; rfl⟩
    | x :: y :: c'', hA, hc =>
      simp only [List.cons_append, List.cons.injEq] at hc
      left
      exact ⟨p, c'', by rw [hA, ← hc.1, ← hc.2.1]; simp⟩


def modB : Bytes := [109, 111, 100, 117, 108, 101]

theorem B_module : B "module" = modB := by decide +kernel

def No47 (l : Bytes) : Prop := ∀ b ∈ l, b ≠ 47

theorem No47.noInfix {l : Bytes} (h : No47 l) : ¬ [47, 47] <:+: l := by
  rintro ⟨p, q, rfl⟩
  exact h 47 (by simp) rfl

theorem No47.last {l : Bytes} (h : No47 l) : l.getLast? ≠ some 47 := by
  intro hl
  exact h 47 (List.mem_of_getLast? hl) rfl

theorem No47.head {l : Bytes} (h : No47 l) : l.head? ≠ some 47 := by
  intro hl
  exact h 47 (List.mem_of_head? hl) rfl

theorem No47.append {a b : Bytes} (ha : No47 a) (hb : No47 b) : No47 (a ++ b) := by
  intro x hx
  rcases List.mem_append.mp hx with h | h
  · exact ha x h
  · exact hb x h

theorem WS.no47 {g : Bytes} (h : WS g) : No47 g := by
  intro b hb hb47
  rcases h b hb with rfl | rfl | rfl <;> cases hb47

theorem modB_no47 : No47 modB := by
  intro b hb
  simp only [modB, List.mem_cons, List.not_mem_nil, or_false] at hb
  rcases hb with rfl | rfl | rfl | rfl | rfl | rfl <;> decide

/-- `modulePathLine` in two stages: cutting the `//` comment (`stripC`), then the rest (`afterStrip`) -/
def stripC (line : Bytes) : Bytes :=
  match GoStrings.index line [47, 47] with
  | some i => line.take i
  | none => line

def afterStrip (line : Bytes) : Option Bytes :=
  let line := GoStrings.trimSpace line
  if !isPrefixOfB (B "module") line then none else
  let line := line.drop 6
  let n := line.length
  let line := GoStrings.trimSpace line
  if line.length == n || line.isEmpty then none else
  match line with
  | c :: _ =>
    if c == 34 || c == 96 then
      match Quote.unquote line with
      | none => some []
      | some p => some p
    else some line
  | [] => none

theorem modulePathLine_eq (line : Bytes) : modulePathLine line = afterStrip (stripC line) := by
  unfold modulePathLine stripC afterStrip
  cases GoStrings.index line [47, 47] <;> rfl

/-- What `modulePathLine` returns on `blanks module blanks tok blanks [// comment]`. -/
theorem modulePathLine_directive (W0 W1 W2 R tok path : Bytes) (c0 c1 : UInt8) (mid pre : Bytes)
    (h0 : WS W0) (h1 : WS W1) (h2 : WS W2) (h1ne : W1 ≠ [])
    (htok0 : tok = c0 :: mid) (htok1 : tok = pre ++ [c1]) (hc0 : NS c0) (hc1 : NS c1) (hc1' : c1 ≠ 47)
    (hnosl : ¬ [47, 47] <:+: tok) (hR : R = [] ∨ [47, 47] <+: R)
    (hval : (c0 = 34 ∧ Quote.unquote tok = some path) ∨ (c0 ≠ 34 ∧ c0 ≠ 96 ∧ path = tok)) :
    modulePathLine (W0 ++ modB ++ W1 ++ tok ++ W2 ++ R) = some path := by
  -- the part before the comment
  have hP : No47 (W0 ++ modB ++ W1) := (h0.no47.append modB_no47).append h1.no47
  have hS_no : ¬ [47, 47] <:+: (W0 ++ modB ++ W1 ++ tok ++ W2) := by
    intro h
    rcases slashes_infix_append h with h | h | ⟨_, h⟩
    · rcases slashes_infix_append h with h | h | ⟨h, _⟩
      · exact hP.noInfix h
      · exact hnosl h
      · exact hP.last h
    · exact h2.no47.noInfix h
    · exact h2.no47.head h
  have hS_last : (W0 ++ modB ++ W1 ++ tok ++ W2).getLast? ≠ some 47 := by
    cases W2 with
    | nil =>
      rw [List.append_nil, htok1, ← List.append_assoc]
      simp [hc1']
    | cons w W2' =>
      intro h
      rw [List.getLast?_append] at h
      simp only [Option.or_eq_some_iff] at h
      rcases h with h | ⟨h, _⟩
      · exact h2.no47.last h
      · cases hg : (w :: W2').getLast? with
        | none => simp at hg
        | some v => rw [hg] at h; cases h
  rw [modulePathLine_eq]
  have hstrip : stripC (W0 ++ modB ++ W1 ++ tok ++ W2 ++ R) = W0 ++ modB ++ W1 ++ tok ++ W2 :=
    strip_comment _ R hS_no hS_last hR
  rw [hstrip]
  unfold afterStrip
  simp only
  -- TrimSpace of the stripped line
  have hm : NS 109 := ⟨by decide, by decide⟩
  have hcore : (109 : UInt8) :: ([111, 100, 117, 108, 101] ++ W1 ++ tok) = (modB ++ W1 ++ pre) ++ [c1] := by
    rw [htok1]; simp [modB]
  have htrim1 : GoStrings.trimSpace (W0 ++ modB ++ W1 ++ tok ++ W2) = modB ++ W1 ++ tok := by
    have := trimSpace_core W0 W2 ([111, 100, 117, 108, 101] ++ W1 ++ tok) 109 c1 (modB ++ W1 ++ pre) h0 h2 hm hc1 hcore
    simpa [modB, List.append_assoc] using this
  rw [htrim1, B_module]
  have hpre : isPrefixOfB modB (modB ++ W1 ++ tok) = true := by
    rw [List.append_assoc]; exact isPrefixOfB_iff.mpr (List.prefix_append _ _)
  simp only [hpre, Bool.not_true, Bool.false_eq_true, if_false]
  have hdrop : (modB ++ W1 ++ tok).drop 6 = W1 ++ tok := by
    rw [List.append_assoc]
    exact List.drop_left' (by rfl)
  rw [hdrop]
  have htrim2 : GoStrings.trimSpace (W1 ++ tok) = tok := by
    have := trimSpace_core W1 [] mid c0 c1 pre h1 WS.nil hc0 hc1 (by rw [← htok0, htok1])
    simpa [← htok0] using this
  rw [htrim2]
  have hlen : ((tok.length == (W1 ++ tok).length) || tok.isEmpty) = false := by
    have : W1.length ≠ 0 := by
      intro h; exact h1ne (List.eq_nil_of_length_eq_zero h)
    simp only [List.length_append, Bool.or_eq_false_iff, beq_eq_false_iff_ne, ne_eq]
    refine ⟨by omega, by rw [htok0]; rfl⟩
  simp only [hlen, Bool.false_eq_true, if_false]
  rw [htok0]
  simp only
  rcases hval with ⟨rfl, hu⟩ | ⟨hn34, hn96, rfl⟩
  · simp only [beq_self_eq_true, Bool.true_or, if_true]
    rw [← htok0, hu]
  · have e1 : (c0 == 34) = false := by simpa using hn34
    have e2 : (c0 == 96) = false := by simpa using hn96
    simp only [e1, e2, Bool.or_self, Bool.false_eq_true, if_false]
    rw [htok0]


/-! ### source lines -/

theorem lastLine_split (A : Bytes) : 10 ∉ lastLine A ∧ (A = lastLine A ∨ ∃ A1, A = A1 ++ 10 :: lastLine A) := by
  unfold lastLine
  have h := congrArg List.reverse (List.takeWhile_append_dropWhile (p := (· != 10)) (l := A.reverse))
  rw [List.reverse_append, List.reverse_reverse] at h
  refine ⟨fun hm => ?_, ?_⟩
  · have := List.all_eq_true.1 (all_takeWhile (· != (10 : UInt8)) A.reverse) 10 (List.mem_reverse.1 hm)
    simp at this
  cases hd : A.reverse.dropWhile (· != 10) with
  | nil => left; rw [hd] at h; simpa using h.symm
  | cons c r =>
    right
    have hc : c = 10 := by
      have := List.head_dropWhile_not (· != 10) (l := A.reverse) (by rw [hd]; simp)
      simpa [hd] using this
    refine ⟨r.reverse, ?_⟩
    rw [hd, hc] at h
    simpa using h.symm

/-- the source line that contains byte offset `|A|` of `A ++ C` -/
theorem splitOn_line (A C : Bytes) :
    (splitOn 10 (A ++ C))[A.count 10]? = some (lastLine A ++ C.takeWhile (· != 10)) := by
  obtain ⟨hno, hA⟩ := lastLine_split A
  generalize lastLine A = P at hno hA
  have hP : ∀ a ∈ P, (a != 10) = true := fun a ha => by simpa using fun (h : a = 10) => hno (h ▸ ha)
  rcases hA with rfl | ⟨A1, rfl⟩
  · rw [List.count_eq_zero.2 hno, splitOn_head, List.takeWhile_append_of_pos hP]
  · rw [List.append_assoc, List.cons_append, splitOn_append_sep, List.count_append, List.count_cons_self,
      List.count_eq_zero.2 hno, Nat.zero_add, ← splitOn_length 10 A1, List.getElem?_append_right (Nat.le_refl _),
      Nat.sub_self, splitOn_head, List.takeWhile_append_of_pos hP]

theorem modulePathLines_at : ∀ (lines : List Bytes) (k : Nat) (L p : Bytes),
    (∀ j, j < k → ∀ ln, lines[j]? = some ln → modulePathLine ln = none) → lines[k]? = some L →
    modulePathLine L = some p → modulePathLines lines = p := by
  intro lines
  induction lines with
  | nil => intro k L p _ h; simp at h
  | cons l rest ih =>
    intro k L p hbefore hk hL
    unfold modulePathLines
    cases k with
    | zero =>
      simp only [List.getElem?_cons_zero, Option.some.injEq] at hk
      subst hk
      rw [hL]
    | succ k =>
      rw [hbefore 0 (by omega) l rfl]
      simp only
      exact ih k L p (fun j hj ln hln => hbefore (j + 1) (by omega) ln (by simpa using hln)) (by simpa using hk) hL

end ModVerif.Proofs.ModfileC20
