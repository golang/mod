/-
  Helper lemmas for Tie/FnEditReq.lean: `addReplace` (rule.go:1513, the function shared by `File.AddReplace` and
  `WorkFile.AddReplace`; the `replace` slice is an in-out parameter) and `File_AddReplace` of the regenerated edit operations
  (Generated/FnEdit.lean) against the model's `addReplaceCore` / `addReplace`.

  The loop (state: index, heap, `need`, `hint`) runs against `firstRest` (first match rewritten, later matches cleared) and
  `lastWith` (the hint: the last entry with the same old path, used only when nothing matched); it is an instance of
  `GoRt.range_sim` over `RepR` (syntax graph + `Replace` pointer list) seen as a file kind (`replK`).
-/
import ModVerif.Proofs.TieFnEditReqC
namespace ModVerif.Tie.FnEditReqD
open ModVerif ModVerif.GoRt ModVerif.Generated.Edit ModVerif.Tie.FnEditRep ModVerif.Tie.FnEditTreeA ModVerif.Tie.FnEditReqA
  ModVerif.Tie.FnEditReqB ModVerif.Tie.FnEditReqC ModVerif.Tie.FnEditTyped
open ModVerif.Tie.FnEditWorkA (updFirst firstStep firstRest_stepLoop deref_zero deref_pos)
open ModVerif.Tie.FnEditLoop (getElem?_cursor)
open ModVerif.Modfile.Edit (clearAll firstRest markAll markRemoved deref nilId EditErr EFile addLine addLinePtr addLineWalk Hint mkLine
  insertAfterId loc locStmt treeIds lastWith)
open ModVerif.TieFnEditAddLine (nodeCount Frame)
open ModVerif.Drv.GenEdit (isPrintI quoteI)

def replMatch (oldPath oldVers : Bytes) (r : Modfile.Replace) : Bool :=
  r.old.path == oldPath && (oldVers.isEmpty || r.old.version == oldVers)

/-- the `t8` of the loop body (after the object at `r` has been read) -/
theorem replMatch_gen (x : Modfile.Replace) (oldPath oldVers : Bytes) :
    ((if (decide ((replaceG x).Old.Path = oldPath)) then (do
        let t7 ← (if (decide (oldVers = ([] : Bytes))) then (pure true : M Bool) else
          (pure (decide ((replaceG x).Old.Version = oldVers))))
        pure t7) else pure false) : M Bool) = .ok (replMatch oldPath oldVers x) := by
  unfold replMatch
  by_cases hp : x.old.path = oldPath
  · have h1 : decide ((replaceG x).Old.Path = oldPath) = true := decide_eq_true hp
    have hp' : (x.old.path == oldPath) = true := by simpa using hp
    rw [if_pos h1]
    by_cases hv0 : oldVers = []
    · subst hv0; simp [hp']
    · have h2 : ¬ (decide (oldVers = ([] : Bytes)) = true) := by simpa using hv0
      have hv0' : oldVers.isEmpty = false := by cases oldVers <;> simp_all
      rw [if_neg h2]
      simp only [pure_eq_ok, hp', hv0', Bool.true_and, Bool.false_or]
      by_cases hv : x.old.version = oldVers
      · have h3 : decide ((replaceG x).Old.Version = oldVers) = true := decide_eq_true hv
        rw [h3]; simp [hv]
      · have h3 : decide ((replaceG x).Old.Version = oldVers) = false := decide_eq_false hv
        rw [h3]; simp [hv]
  · have h1 : ¬ (decide ((replaceG x).Old.Path = oldPath) = true) := by
      intro hd; exact hp (of_decide_eq_true hd)
    have hp' : (x.old.path == oldPath) = false := by simpa using hp
    rw [if_neg h1]; simp [hp']

/-- `RepR` as a file kind: the "file object" is the pair of the syntax pointer and the `Replace` pointer list -/
abbrev replK : Kind (Int × List Int) (Modfile.FileSyntax × List Modfile.Replace) :=
  ⟨fun h o s => RepR h o.1 o.2 s.1 s.2, fun _ => [], (·.1), fun s fs => (fs, s.2)⟩

theorem replK_ok : replK.OK := { linesG := fun R => R.linesG, setLine := fun R _ _ _ hg hl => R.setLine hg hl }

abbrev replRT : TList replK Replace Modfile.Replace :=
  ⟨(·.replaces), fun h l => { h with replaces := l }, (·.2), fun o ps => (o.1, ps), (·.2), fun s xs => (s.1, xs), replaceG,
   (·.lineId), (·.Syntax)⟩

theorem replRT_ok : replRT.OK :=
  { rel := fun R => R.replace, put := fun {h o e} R l _ _ hr =>
      ⟨RepSyn.congr (h := h) (h' := { h with replaces := l }) rfl rfl rfl rfl R.syn, R.tok,
       LinesG.congr (h := h) (h' := { h with replaces := l }) R.linesG rfl, hr⟩ }

theorem lastWith_snoc {α : Type} (m : α → Bool) (id : α → Nat) (y : α) : ∀ (xs : List α) (acc : Option Nat),
    lastWith m id (xs ++ [y]) acc = if m y then some (id y) else lastWith m id xs acc
  | [], _ => rfl
  | _ :: xs, _ => lastWith_snoc m id y xs _

/-- **the loop of `addReplace`** against `firstRest` (an instance of `range_sim` with the step of the update loops); the
    loop also carries the hint, which while nothing has matched is the last entry met with the same old path -/
theorem addReplace_loop_sim (x : Int) (ps : List Int) (oldPath oldVers : Bytes) (old new : Modfile.ModVersion) (tokens : List Bytes)
    (htok : tokens ≠ []) {h : Heap} {fs : Modfile.FileSyntax} {rp : List Modfile.Replace} {fuel : Nat} (acc : Option Nat)
    (R : RepR h x ps fs rp) (hf : rp.length < fuel) :
    Sim (fun r b => b.1 = len ps ∧ b.2.2.1 = r.2.1.isNone ∧
        (r.2.1 = none → b.2.2.2 = (((lastWith (fun r : Modfile.Replace => r.old.path == oldPath) (·.lineId) rp acc).getD 0 : Nat) : Int)) ∧
        FrameR h b.2.1 ∧ b.2.1.lines.length = h.lines.length ∧ RepR b.2.1 x ps (markAll (updFirst fs r.2.1 tokens) r.2.2) r.1)
      (firstRest (replMatch oldPath oldVers) (·.lineId) (fun r => { r with old := old, new := new }) Modfile.Edit.clearedReplace rp true)
      (addReplace_loop1 isPrintI quoteI x ps oldPath oldVers (mvG old) (mvG new) tokens fuel 0 h true ((acc.getD 0 : Nat) : Int)) := by
  have L := range_sim
    (fun fuel i (s : Heap × Bool × Int) => addReplace_loop1 isPrintI quoteI x ps oldPath oldVers (mvG old) (mvG new) tokens fuel i s.1 s.2.1 s.2.2)
    ps (firstStep (replMatch oldPath oldVers) (·.lineId) (fun r => { r with old := old, new := new }) Modfile.Edit.clearedReplace tokens)
    (fun done todo s t => s.2.1 = t.1 ∧
      (t.1 = true → s.2.2 = (((lastWith (fun r : Modfile.Replace => r.old.path == oldPath) (·.lineId) done acc).getD 0 : Nat) : Int)) ∧
      FrameR h s.1 ∧ s.1.lines.length = h.lines.length ∧ RepR s.1 x ps t.2 (done ++ todo)) 0
    (fun fuel s => by unfold addReplace_loop1; simp [len_eq])
    (by
      intro fuel done y todo ⟨h', need, hint⟩ ⟨nd, syn⟩ p ⟨hn, hh, hF, hL, R'⟩ hp _
      dsimp only at hn hh hF hL R' ⊢
      cases hn
      have hp : ps[done.length]? = some p := hp
      have hg : heapGet h'.replaces p = .ok (replaceG y) := (replRT_ok.cursor (K := replK) (o := (x, ps)) (e := (fs, rp)) R' hp).2
      have hx : (done ++ y :: todo)[done.length]? = some y := getElem?_cursor _ _ _
      have hcl : ∀ z, (done ++ y :: todo).set done.length z = done ++ [z] ++ todo := fun z => by rw [FnEditLoop.set_cursor]; simp
      generalize hLoop : addReplace_loop1 isPrintI quoteI x ps oldPath oldVers (mvG old) (mvG new) tokens (fuel + 1) (done.length : Int)
        h' need hint = Lp
      unfold addReplace_loop1 at hLoop
      simp only [FnEditLoop.lt_len_of_get hp, decide_true, if_true, FnEditLoop.idxL_of_get hp, bind_ok, hg,
        replMatch_gen y oldPath oldVers] at hLoop
      subst hLoop
      by_cases hm : replMatch oldPath oldVers y = true
      · -- `r.Old.Path == oldPath && (oldVers == "" || r.Old.Version == oldVers)`
        simp only [firstStep, hm, if_true]
        by_cases h0 : y.lineId = 0
        · -- a cleared entry: `r.Syntax` is nil, both branches dereference it
          simp only [h0, deref_zero, Except.map]
          cases need with
          | false =>
            simp only [Bool.false_eq_true, if_false, replaceG_Syntax, h0]
            rw [Line_markRemoved_nil (by simp)]; rfl
          | true =>
            simp only [if_true, heapSet_of_get _ hg, bind_ok, heapGet_listSet_same _ hg, heapSet_listSet_same hg, replaceG_Syntax, h0]
            rw [FileSyntax_updateLine_nil _ (by simp)]; rfl
        · simp only [deref_pos h0, Except.map]
          cases need with
          | true =>
            -- `if need`: the first match is rewritten in place, `need = false`
            simp only [if_true]
            obtain ⟨l, hline, R2⟩ := upd_sim replK_ok replRT_ok (o := (x, ps)) (e := (syn, done ++ y :: todo)) R' hp hx h0
              { y with old := old, new := new } rfl tokens
            have R2 : RepR _ x ps _ ((done ++ y :: todo).set done.length _) := R2
            rw [hcl] at R2
            refine ⟨(setLineH { h' with replaces := h'.replaces.set (p.toNat - 1) (replaceG { y with old := old, new := new }) }
              (y.lineId : Int) (updateTokLine tokens l), false, hint), ?_, rfl, (fun hc => by cases hc), ?_, by simpa using hL, R2⟩
            · simp only [heapSet_of_get _ hg, bind_ok, heapGet_listSet_same _ hg, heapSet_listSet_same hg, replaceG_Syntax]
              rw [show ({ Old := mvG old, New := mvG new, Syntax := (y.lineId : Int) } : Replace) = replaceG { y with old := old, new := new } from rfl,
                FileSyntax_updateLine_eq (h := { h' with replaces := h'.replaces.set (p.toNat - 1) (replaceG { y with old := old, new := new }) })
                  (l := l) hline (fun _ => htok)]
              rfl
            · exact hF.trans ((FrameR.setReplaces h' _).trans (FrameR.setLineH _ _ _))
          | false =>
            -- a later match: `r.Syntax.markRemoved(); *r = Replace{}`
            simp only [Bool.false_eq_true, if_false, replaceG_Syntax]
            obtain ⟨l, hline, R2⟩ := clear_sim replK_ok replRT_ok (cleared := Modfile.Edit.clearedReplace) rfl rfl (o := (x, ps))
              (e := (syn, done ++ y :: todo)) R' hp hx h0
            have R2 : RepR _ x ps _ ((done ++ y :: todo).set done.length _) := R2
            rw [hcl] at R2
            refine ⟨({ setLineH h' (y.lineId : Int) (markRemovedLine l) with replaces := h'.replaces.set (p.toNat - 1) default }, false,
              if decide ((default : Replace).Old.Path = oldPath) then (default : Replace).Syntax else hint), ?_, rfl,
              (fun hc => by cases hc), ?_, by simpa using hL, R2⟩
            · rw [Line_markRemoved_eq hline]
              dsimp only
              simp only [setLineH_replaces, hg, heapSet_of_get _ hg, heapGet_listSet_same _ hg, bind_ok]
              split <;> rfl
            · exact hF.trans ((FrameR.setLineH h' _ _).trans (FrameR.setReplaces _ _))
      · -- no match; `if r.Old.Path == oldPath { hint = r.Syntax }`
        have hm' : replMatch oldPath oldVers y = false := by simpa using hm
        simp only [firstStep, hm', Bool.false_eq_true, if_false]
        refine ⟨(h', need, if decide ((replaceG y).Old.Path = oldPath) then (replaceG y).Syntax else hint), ?_, rfl, ?_, hF, hL,
          by simpa using R'⟩
        · split <;> rfl
        · intro hc
          rw [lastWith_snoc, FnEditWorkA.bytes_beq_eq_decide]
          dsimp only
          by_cases hp' : y.old.path = oldPath
          · simp only [replaceG_Old, mvG_Path, hp', decide_true, if_true]; rfl
          · simp only [replaceG_Old, mvG_Path, hp', decide_false, Bool.false_eq_true, if_false]; exact hh hc)
    (xs := rp) (s := (h, true, ((acc.getD 0 : Nat) : Int))) (t := (true, fs)) (fuel := fuel)
    ⟨rfl, fun _ => rfl, FrameR.refl h, rfl, R⟩ R.replace.length (by omega)
  rw [firstRest_stepLoop] at L
  cases hr : firstRest (replMatch oldPath oldVers) (·.lineId) (fun r => { r with old := old, new := new })
      Modfile.Edit.clearedReplace rp true with
  | error er => rw [hr] at L; exact L
  | ok q =>
    obtain ⟨rest, first, dead⟩ := q
    rw [hr] at L
    obtain ⟨b, hb, h1, h2, h3, h4, h5, h6⟩ := L
    refine ⟨b, hb, h1, by simpa using h2, ?_, h4, h5, by simpa using h6⟩
    intro hfn
    subst hfn
    obtain ⟨_, hr1, _⟩ := Modfile.Edit.firstRest_none _ _ _ _ _ _ _ hr
    subst hr1
    exact h3 (by simp)

def replTokens (oldPath oldVers newPath newVers : Bytes) : List Bytes :=
  [B "replace", Modfile.autoQuote oldPath] ++ (if oldVers.isEmpty then [] else [oldVers]) ++
    [B "=>", Modfile.autoQuote newPath] ++ (if newVers.isEmpty then [] else [newVers])

theorem replTokens_ne (a b c d : Bytes) : replTokens a b c d ≠ [] := by simp [replTokens]

theorem replTokens_cons (a b c d : Bytes) : ∃ t0 trest, replTokens a b c d = t0 :: trest := ⟨_, _, rfl⟩

/-- `module.Version{Path: p, Version: v}` -/
def mkMV (p v : Bytes) : Modfile.ModVersion := { path := p, version := v }

/-- **`addReplace`** (rule.go:1513, shared by `File.AddReplace` and `WorkFile.AddReplace`) on the syntax graph `x` and the
    `Replace` pointer list `ps` = the model's `addReplaceCore` -/
theorem addReplace_sim (A : AddLinePtrSpec) {h : Heap} {x : Int} {ps : List Int} {fs : Modfile.FileSyntax} {rp : List Modfile.Replace}
    (R : RepR h x ps fs rp) (oldPath oldVers newPath newVers : Bytes) (fuel : Nat)
    (hf1 : oldPath.length + 1 ≤ fuel) (hf2 : newPath.length + 1 ≤ fuel) (hf3 : rp.length + 1 ≤ fuel)
    (hf4 : nodeCount fs.stmts + 3 ≤ fuel) :
    match Modfile.Edit.addReplaceCore fs rp (h.lines.length + 1) oldPath oldVers newPath newVers with
    | .ok (fs', rp', n') => ∃ h' ps', addReplace isPrintI quoteI fuel x ps oldPath oldVers newPath newVers h = .ok ((none, ps'), h') ∧
        RepR h' x ps' fs' rp' ∧ FrameR h h' ∧ n' = h'.lines.length + 1
    | .error _ => addReplace isPrintI quoteI fuel x ps oldPath oldVers newPath newVers h = .error .panic := by
  have hgen : addReplace isPrintI quoteI fuel x ps oldPath oldVers newPath newVers h = (do
      let r ← addReplace_loop1 isPrintI quoteI x ps oldPath oldVers (mvG (mkMV oldPath oldVers))
        (mvG (mkMV newPath newVers)) (replTokens oldPath oldVers newPath newVers) fuel 0 h true 0
      if r.2.2.1 then (do
        let t24 ← FileSyntax_addLine fuel x (Expr.Line r.2.2.2) (replTokens oldPath oldVers newPath newVers) r.2.1
        let a := heapAlloc t24.2.replaces (Replace.mk (mvG (mkMV oldPath oldVers)) (mvG (mkMV newPath newVers)) t24.1)
        pure ((none, ps ++ [a.1]), { t24.2 with replaces := a.2 }))
      else pure ((none, ps), r.2.1)) := by
    have hB1 : ([114, 101, 112, 108, 97, 99, 101] : Bytes) = B "replace" := by decide +kernel
    have hB2 : ([61, 62] : Bytes) = B "=>" := by decide +kernel
    unfold addReplace
    simp only [AutoQuote_ok oldPath fuel hf1, AutoQuote_ok newPath fuel hf2, bind_ok, hB1, hB2]
    cases oldVers <;> cases newVers <;> simp [replTokens] <;> rfl
  rw [hgen]
  have hcore : Modfile.Edit.addReplaceCore fs rp (h.lines.length + 1) oldPath oldVers newPath newVers = (do
      let (rp', first, dead) ← firstRest (replMatch oldPath oldVers) (·.lineId)
        (fun r => { r with old := mkMV oldPath oldVers, new := mkMV newPath newVers }) Modfile.Edit.clearedReplace rp true
      match first with
      | some i => pure (markAll (Modfile.Edit.updateLine fs i (replTokens oldPath oldVers newPath newVers)) dead, rp', h.lines.length + 1)
      | none => pure (addLinePtr fs (lastWith (fun r : Modfile.Replace => r.old.path == oldPath) (·.lineId) rp none)
          (replTokens oldPath oldVers newPath newVers) (h.lines.length + 1),
          rp' ++ [{ old := mkMV oldPath oldVers, new := mkMV newPath newVers, lineId := h.lines.length + 1 }], h.lines.length + 1 + 1)) := rfl
  rw [hcore]
  have hloop := addReplace_loop_sim x ps oldPath oldVers (mkMV oldPath oldVers) (mkMV newPath newVers)
    (replTokens oldPath oldVers newPath newVers) (replTokens_ne _ _ _ _) (fuel := fuel) none R (by omega)
  simp only [Option.getD_none, show ((0 : Nat) : Int) = 0 from rfl] at hloop
  cases hc : firstRest (replMatch oldPath oldVers) (·.lineId)
      (fun r => { r with old := mkMV oldPath oldVers, new := mkMV newPath newVers }) Modfile.Edit.clearedReplace rp true with
  | error err => rw [hc] at hloop; simp [show _ = Except.error Err.panic from hloop, bind, Except.bind]
  | ok v =>
    obtain ⟨rest, first, dead⟩ := v
    rw [hc] at hloop
    obtain ⟨⟨n, h', nd, hint'⟩, h1, _, hnd, hh, hF, hL', h2⟩ := hloop
    dsimp only at hnd hh hF hL' h2
    subst hnd
    rw [h1]
    simp only [bind, Except.bind]
    cases first with
    | some i =>
      simp only [Option.isNone_some, Bool.false_eq_true, if_false, pure, Except.pure]
      exact ⟨h', ps, rfl, by simpa [updFirst] using h2, hF, by rw [hL']⟩
    | none =>
      obtain ⟨_, hr1, hd1⟩ := Modfile.Edit.firstRest_none _ _ _ _ _ _ _ hc
      subst hr1 hd1
      have hhint := hh rfl
      subst hhint
      simp only [updFirst, markAll, List.foldl_nil] at h2
      obtain ⟨t0, trest, htk⟩ := replTokens_cons oldPath oldVers newPath newVers
      obtain ⟨h1', l, a1, F, hlen1, rs, ht, hG, hl, hnew, _⟩ := addLinePtr_syn A h2.syn h2.tok h2.linesG
        (lastWith (fun r : Modfile.Replace => r.old.path == oldPath) (·.lineId) rest none) t0 trest fuel hf4
      rw [← htk] at a1 rs ht
      simp only [Option.isNone_none, if_true, a1, pure, Except.pure, heapAlloc]
      have R1 : RepR h1' x ps _ rest := ⟨rs, ht, hG, h2.replace.mono (get_of_eq F.replaces) (by omega)⟩
      have R2 := R1.pushReplace { old := mkMV oldPath oldVers, new := mkMV newPath newVers, lineId := h'.lines.length + 1 } (by simp [hlen1])
      refine ⟨_, _, rfl, ?_, ?_, ?_⟩
      · rw [← hL']; exact R2
      · exact hF.trans ((FrameR.ofFrame F (by omega)).trans (FrameR.setReplaces _ _))
      · simp [hlen1, hL']

/-- the same in the form "for every result of the model" -/
theorem addReplace_sim' (A : AddLinePtrSpec) {h : Heap} {x : Int} {ps : List Int} {fs : Modfile.FileSyntax} {rp : List Modfile.Replace}
    (R : RepR h x ps fs rp) (oldPath oldVers newPath newVers : Bytes) (fuel : Nat)
    (hf1 : oldPath.length + 1 ≤ fuel) (hf2 : newPath.length + 1 ≤ fuel) (hf3 : rp.length + 1 ≤ fuel)
    (hf4 : nodeCount fs.stmts + 3 ≤ fuel) :
    (∀ fs' rp' n', Modfile.Edit.addReplaceCore fs rp (h.lines.length + 1) oldPath oldVers newPath newVers = .ok (fs', rp', n') →
      ∃ h' ps', addReplace isPrintI quoteI fuel x ps oldPath oldVers newPath newVers h = .ok ((none, ps'), h') ∧
        RepR h' x ps' fs' rp' ∧ FrameR h h' ∧ n' = h'.lines.length + 1) ∧
    (∀ er, Modfile.Edit.addReplaceCore fs rp (h.lines.length + 1) oldPath oldVers newPath newVers = .error er →
      addReplace isPrintI quoteI fuel x ps oldPath oldVers newPath newVers h = .error .panic) := by
  have := addReplace_sim A R oldPath oldVers newPath newVers fuel hf1 hf2 hf3 hf4
  constructor
  · intro fs' rp' n' hc; rw [hc] at this; exact this
  · intro er hc; rw [hc] at this; exact this


/-- `File.AddReplace` (rule.go:1509) -/
theorem File_AddReplace_sim (A : AddLinePtrSpec) {h : Heap} {fp : Int} {e : EFile} (R : RepF h fp e)
    (oldPath oldVers newPath newVers : Bytes) (fuel : Nat)
    (hf1 : oldPath.length + 1 ≤ fuel) (hf2 : newPath.length + 1 ≤ fuel) (hf3 : e.f.replace.length + 1 ≤ fuel)
    (hf4 : nodeCount e.f.syn.stmts + 3 ≤ fuel) :
    match Modfile.Edit.addReplace e oldPath oldVers newPath newVers with
    | .ok e' => ∃ h', File_AddReplace isPrintI quoteI fuel fp oldPath oldVers newPath newVers h = .ok (none, h') ∧ RepF h' fp e'
    | .error _ => File_AddReplace isPrintI quoteI fuel fp oldPath oldVers newPath newVers h = .error .panic := by
  obtain ⟨o, ho, R⟩ := R
  have hs := addReplace_sim A (RepFAt.toRepR R) oldPath oldVers newPath newVers fuel hf1 hf2 hf3 hf4
  unfold File_AddReplace Modfile.Edit.addReplace
  simp only [ho, bind_ok]
  rw [R.next]
  cases hc : Modfile.Edit.addReplaceCore e.f.syn e.f.replace (h.lines.length + 1) oldPath oldVers newPath newVers with
  | error err => rw [hc] at hs; simp [hs, bind, Except.bind]
  | ok v =>
    obtain ⟨fs', rp', n'⟩ := v
    rw [hc] at hs
    obtain ⟨h', ps', h1, Rr, hF, hn⟩ := hs
    have R' := RepFAt.ofRepR R hF Rr
    have hg1 : heapGet h'.mods fp = .ok o := by rw [hF.mods]; exact ho
    obtain ⟨m, hset, RF⟩ := RepF.ofSetMods (h := h') (fp := fp) (o := o) hg1 R'
    simp only [h1, hg1, hset, bind, Except.bind, pure, Except.pure]
    refine ⟨_, rfl, ?_⟩
    rw [hn]; exact RF

end ModVerif.Tie.FnEditReqD
