/-
  C20 `modulePath_agrees`, parser level: the source layout of a top-level line — it starts its source
  line, its tokens are separated by blanks only, and after its last token come blanks and then a newline,
  a `//` comment or the end of the input.
-/
import ModVerif.Proofs.ModfileC20Lay
import ModVerif.Proofs.ModfileC20Tree
import ModVerif.Proofs.ModfileRun
namespace ModVerif.Proofs.ModfileC20
open ModVerif ModVerif.Modfile ModVerif.Proofs.ModfileLex ModVerif.Proofs.ModfilePos ModVerif.Proofs.ModfileRun

/-- `data[a, b)` is the tokens (given reversed) separated by blanks -/
def SpacedRev (data : Bytes) (a : Nat) : List Bytes → Nat → Prop
  | [], _ => False
  | [t], b => data.take b = data.take a ++ t ∧ IdentEnd data t b
  | t :: t' :: ts, b => ∃ b0 gap, SpacedRev data a (t' :: ts) b0 ∧ WS gap ∧ data.take b = data.take b0 ++ gap ++ t ∧
      IdentEnd data t b

/-- a token list the layout statement does not cover: a `(` in the line (its end position is not updated,
    as in read.go) or a token that looks like a comment -/
def Esc (toks : List Bytes) : Prop := ∃ t ∈ toks, t = [40] ∨ [47, 47] <+: t

theorem Esc.cons {toks : List Bytes} (t : Bytes) (h : Esc toks) : Esc (t :: toks) := by
  obtain ⟨x, hx, h⟩ := h
  exact ⟨x, List.mem_cons_of_mem _ hx, h⟩

/-- what follows the end of a line: blanks, then a newline, a `//` comment or the end of the input -/
def After (data : Bytes) (b : Nat) : Prop :=
  ∃ gap rest, data.drop b = gap ++ rest ∧ WS gap ∧ (rest = [] ∨ [10] <+: rest ∨ [47, 47] <+: rest)

def TopLay (data : Bytes) (l : Line) : Prop :=
  Esc l.token ∨
  (WS (lastLine (data.take l.start.byte)) ∧ SpacedRev data l.start.byte l.token.reverse l.«end».byte ∧
    After data l.«end».byte)

theorem sol_setId {data : Bytes} {i : Input} (n : Nat) (h : SOL data i) : SOL data { i with nextId := n } := h

variable {data : Bytes}

theorem PBlock.sol {i : Input} {x : LineBlock} {ls : List Line} {cs : List Comment} {b : LineBlock} {i' : Input}
    (h : PBlock (Lx data) (Lx data) i x ls cs b i') : SOL data i' := by
  induction h with
  | close _ _ he hx2 => exact sol_after_eol hx2.inv (Or.inl he) hx2.step
  | eolComment _ _ _ ih | blank _ _ _ ih | comment _ _ _ ih => exact ih
  | line _ _ _ _ _ _ _ _ _ ih => exact ih

def StmtLay (data : Bytes) : Expr → Prop
  | .line l => TopLay data l
  | _ => True

/-- loop invariant of `parseStmtLoop` -/
def StmtInv (data : Bytes) (i : Input) (s e : Position) (tokensRev : List Bytes) : Prop :=
  Esc tokensRev ∨
  (SpacedRev data s.byte tokensRev e.byte ∧ ∃ gap, WS gap ∧ data.take i.token.pos.byte = data.take e.byte ++ gap)

theorem reach_step_gap {i i1 : Input} (hr : Reach data i) (h : readToken i = .ok i1) :
    ∃ gap, WS gap ∧ data.take i1.token.pos.byte = data.take i.token.endPos.byte ++ gap := by
  have ht := reach_tokOK2 hr
  obtain ⟨gap, hws, hg⟩ := step_gap ht.inv.toLInv0 h
  exact ⟨gap, hws, by rw [hg, ht.endPos]⟩

theorem stmtInv_push {i i1 : Input} {s e : Position} {acc : List Bytes} (hx : Lx data i i1)
    (hinv : StmtInv data i s e acc) : StmtInv data i1 s i.token.endPos (i.token.text :: acc) := by
  rcases hinv with hesc | ⟨hsp, gap, hws, hg⟩
  · exact Or.inl (hesc.cons _)
  · have ht := reach_tokOK2 hx.inv
    cases hk : i.token.kind.isComment with
    | true =>
      left
      exact ⟨i.token.text, by simp, Or.inr ((reach_rlay hx.inv).comment hk)⟩
    | false =>
      right
      cases acc with
      | nil => exact hsp.elim
      | cons t ts =>
        refine ⟨⟨e.byte, gap, hsp, hws, ?_, reach_identEnd hx.inv⟩, reach_step_gap hx.inv hx.step⟩
        rw [tok_exact_take ht hk, hg]

theorem stmtInv_first {i i1 : Input} (hx : Lx data i i1) : StmtInv data i1 i.token.pos i.token.endPos [i.token.text] := by
  have ht := reach_tokOK2 hx.inv
  cases hk : i.token.kind.isComment with
  | true => exact Or.inl ⟨i.token.text, by simp, Or.inr ((reach_rlay hx.inv).comment hk)⟩
  | false => exact Or.inr ⟨⟨tok_exact_take ht hk, reach_identEnd hx.inv⟩, reach_step_gap hx.inv hx.step⟩

theorem PStmt.lay {i : Input} {s e : Position} {acc : List Bytes} {x : Expr} {i' : Input}
    (h : PStmt (Lx data) (Lx data) i s e acc x i') (hsol : WS (lastLine (data.take s.byte)))
    (hinv : StmtInv data i s e acc) : StmtLay data x ∧ SOL data i' := by
  induction h with
  | @eol i i1 s e acc hx heol =>
    refine ⟨?_, sol_setId _ (sol_after_eol hx.inv (Or.inl heol) hx.step)⟩
    have hf := reach_facts hx.inv
    show TopLay data _
    rcases hinv with hesc | ⟨hsp, gap, hws, hg⟩
    · left
      obtain ⟨x, hx, hx'⟩ := hesc
      exact ⟨x, List.mem_reverse.mpr hx, hx'⟩
    · right
      refine ⟨hsol, by simpa using hsp, gap, data.drop i.token.pos.byte, drop_of_take_eq hg, hws, ?_⟩
      have hrl := reach_rlay hx.inv
      cases hkind : i.token.kind with
      | eof => exact Or.inl (hrl.eof hkind)
      | eolComment =>
        right; right
        exact List.IsPrefix.trans (hrl.comment (by rw [hkind]; rfl)) hf.start.2
      | punct c =>
        rw [hkind] at heol
        have hc : c = 10 := by simpa [TokKind.isEOL] using heol
        subst hc
        right; left
        have := hf.punct 10 hkind
        rw [← this]; exact hf.start.2
      | comment => rw [hkind] at heol; cases heol
      | ident => rw [hkind] at heol; cases heol
      | string => rw [hkind] at heol; cases heol
  | block _ _ _ hb => exact ⟨trivial, PBlock.sol hb⟩
  | empty _ _ _ _ he2 hx3 => exact ⟨trivial, sol_after_eol hx3.inv (Or.inl he2) hx3.step⟩
  | parens hx hk _ _ _ _ ih =>
    exact ih hsol (Or.inl (Esc.cons _ ⟨_, by simp, Or.inl ((reach_facts hx.inv).punct 40 hk)⟩))
  | lparen hx hk _ _ _ ih => exact ih hsol (Or.inl ⟨_, by simp, Or.inl ((reach_facts hx.inv).punct 40 hk)⟩)
  | tok hx _ _ _ ih => exact ih hsol (stmtInv_push hx hinv)

theorem stmtLay_setComments {x : Expr} (c : Comments) (h : StmtLay data x) : StmtLay data (x.setComments c) := by
  cases x <;> first | exact h | trivial

theorem PFile.lay {i : Input} {sr : List Expr} {cb : Option CommentBlock} {out : List Expr} {i' : Input}
    (h : PFile (Lx data) (Lx data) i sr cb out i') (hsol : SOL data i) (hst : ∀ x ∈ sr, StmtLay data x) :
    ∀ x ∈ out, StmtLay data x := by
  have hflush : ∀ {sr : List Expr} (cb : Option CommentBlock), (∀ x ∈ sr, StmtLay data x) →
      ∀ x ∈ flush sr cb, StmtLay data x := by
    intro sr cb h
    cases cb with
    | none => exact h
    | some c => exact List.forall_mem_cons.2 ⟨trivial, h⟩
  induction h with
  | blank hk hx _ ih => exact ih (sol_after_eol hx.inv (Or.inl (by rw [hk]; rfl)) hx.step) (hflush _ hst)
  | comment hk hx _ ih => exact ih (sol_after_eol hx.inv (Or.inr hk) hx.step) hst
  | eof _ => intro x hx; exact hflush _ hst x (List.mem_reverse.1 hx)
  | @stmt i i1 i2 sr cb x out i' _ _ h3 hx hs _ ih =>
    obtain ⟨hl, hs2⟩ := PStmt.lay hs (hsol.resolve_right h3) (stmtInv_first hx)
    refine ih hs2 (List.forall_mem_cons.2 ⟨?_, hst⟩)
    cases cb with
    | none => exact hl
    | some c => exact stmtLay_setComments _ hl

theorem parseFile_lay {stmts : List Expr} {i' : Input} (h : parseFile data = .ok (stmts, i')) :
    ∀ x ∈ stmts, StmtLay data x := by
  obtain ⟨i0, h0, hrun, _⟩ := parseFile_reach h
  exact PFile.lay hrun (sol_first h0) (by intro x hx; cases hx)

end ModVerif.Proofs.ModfileC20
