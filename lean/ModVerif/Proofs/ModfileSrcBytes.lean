/-
  End-of-line comments on the SOURCE text: a purely byte-level sufficient condition for
  `NoMultiLineToken`: the input contains no backslash immediately followed by a newline byte.

  Only a double-quoted string can contain a newline byte, and only directly after a backslash
  (`StrBody`: `readString` rejects a bare newline and lets a backslash escape any next rune); identifiers,
  punctuation and `//` texts never contain one (`LexOK`).  Every token text is an infix of the input.
-/
import ModVerif.Proofs.ModfileSrcTok
import ModVerif.Proofs.ModfileFmtClass
namespace ModVerif.Proofs.ModfileSrc
open ModVerif ModVerif.Modfile ModVerif.Proofs.ModfileLex
open ModVerif.Proofs.ModfileFmtLex ModVerif.Proofs.ModfileFmtTok ModVerif.Proofs.ModfileFmtClass
open ModVerif.Proofs.ModfilePos ModVerif.Proofs.ModfileC20 ModVerif.Proofs.ModfileC20Utf8

def NoBackslashNewline (x : Bytes) : Prop := ¬ ([92, 10] <:+: x)

instance (x : Bytes) : Decidable (NoBackslashNewline x) := by
  unfold NoBackslashNewline
  infer_instance

theorem infix_of_drop {a : Bytes} {n : Nat} {p : Bytes} (h : p <:+: a.drop n) : p <:+: a :=
  h.trans (List.drop_suffix n a).isInfix

theorem mem_take_or_drop {a : Bytes} {n : Nat} {b : UInt8} (h : b ∈ a) : b ∈ a.take n ∨ b ∈ a.drop n := by
  rw [← List.take_append_drop n a] at h
  exact List.mem_append.1 h

theorem strBody_nl {q : Nat} {a : Bytes} (h : StrBody q a) (hm : (10 : UInt8) ∈ a) : [92, 10] <:+: a := by
  induction h with
  | @close a hne hnl hq hend =>
    exfalso
    rcases mem_take_or_drop (n := (Utf8.decodeRune a).2) hm with h1 | h1
    · exact decodeRune_ne_newline hne hnl 10 h1 rfl
    · rw [hend] at h1; cases h1
  | @esc a hne hnl hq hbs hraw hne2 hrest ih =>
    -- the first rune is the single byte `\`
    match a, hne with
    | b0 :: rest, _ =>
      rcases decodeRune_cases b0 rest with ⟨hlt, heq⟩ | ⟨hge, hr, _⟩
      · rw [heq] at hbs hrest hne2 ih
        simp only [List.drop_succ_cons, List.drop_zero] at hrest hne2 ih
        have hb0 : b0 = 92 := by
          apply UInt8.toNat_inj.1
          simpa using hbs
        subst hb0
        by_cases h10 : (Utf8.decodeRune rest).1 = 10
        · have := decodeRune_eq_newline hne2 h10
          have hr : rest = [10] ++ rest.drop (Utf8.decodeRune rest).2 := by
            rw [← this, List.take_append_drop]
          rw [hr]
          exact ⟨[], rest.drop (Utf8.decodeRune rest).2, by simp⟩
        · have hm' : (10 : UInt8) ∈ rest := by
            rcases List.mem_cons.1 hm with h | h
            · cases h
            · exact h
          rcases mem_take_or_drop (n := (Utf8.decodeRune rest).2) hm' with h1 | h1
          · exact absurd rfl (decodeRune_ne_newline hne2 h10 10 h1)
          · exact (infix_of_drop (ih h1)).trans (List.suffix_cons _ _).isInfix
      · rw [hbs] at hr
        omega
  | @other a hne hnl hq hno hrest ih =>
    rcases mem_take_or_drop (n := (Utf8.decodeRune a).2) hm with h1 | h1
    · exact absurd rfl (decodeRune_ne_newline hne hnl 10 h1)
    · exact infix_of_drop (ih h1)

theorem lexOK_nl {k : TokKind} {t : Bytes} (h : LexOK k t) (hk : k ≠ .punct 10) (hm : (10 : UInt8) ∈ t) :
    [92, 10] <:+: t := by
  cases h with
  | eof => cases hm
  | newline => exact absurd rfl hk
  | comment t h => exact absurd hm h.2
  | eolComment t h => exact absurd hm h.2
  | tok k t h =>
    cases h with
    | punct c hc =>
      exfalso
      simp only [List.mem_singleton] at hm
      subst hm
      revert hc; decide
    | string q a hq hb =>
      rcases List.mem_cons.1 hm with h | h
      · exfalso
        subst h
        rcases hq with hq | hq <;> cases hq
      · exact (strBody_nl hb h).trans (List.suffix_cons _ _).isInfix
    | ident a hne hb hnq => exact absurd hm (identBody_no_newline hb)

theorem mem_lexAll {data : Bytes} : ∀ (f : Nat) (i : Input) (t : Token),
    (∀ i', readToken i = .ok i' → Reach data i') → t ∈ lexAll f i →
    ∃ j j', readToken j = .ok j' ∧ Reach data j' ∧ t = j'.token := by
  intro f
  induction f with
  | zero => intro i t _ ht; cases ht
  | succ f ih =>
    intro i t hreach ht
    cases hr : readToken i with
    | error e => simp [lexAll, hr] at ht
    | ok i' =>
      rw [lexAll_succ_ok hr] at ht
      rcases List.mem_cons.1 ht with rfl | ht
      · exact ⟨i, i', hr, hreach i' hr, rfl⟩
      · split at ht
        · cases ht
        · exact ih i' t (fun i'' h'' => Reach.lex (hreach i' hr) h'') ht

theorem noMultiLineToken_of_noBackslashNewline {x : Bytes} (h : NoBackslashNewline x) : NoMultiLineToken x := by
  intro t ht hk hm
  obtain ⟨j, j', hr, hreach, rfl⟩ := mem_lexAll (data := x) _ _ t (fun i' h' => Reach.start h') ht
  have hinf := lexOK_nl (lex_emits_LexOK j j' hr) hk hm
  have hpre := (reach_tokOK2 hreach).facts.start.2
  exact h (infix_of_drop (hinf.trans hpre.isInfix))

end ModVerif.Proofs.ModfileSrc
