/-
  The extraction loop after `checkZip` accepted.

  `unzipLoop_exact`: a successful loop performed exactly `MkdirAll(Dir(dst)); create dst` for every file
  entry, in order, each destination once.  `unzipLoop_accepts`: after acceptance (no file entry's element
  list is a prefix of another's) `MkdirAll` never meets a file and `O_EXCL` never meets an existing path,
  so the loop stops only at the first entry whose content disagrees with its declared size.
-/
import ModVerif.Proofs.ZipBConfined
import ModVerif.Proofs.ZipSubmodule
import ModVerif.Spec.ZipSpec
import ModVerif.Proofs.ModuleSpec
namespace ModVerif.Proofs.ZipB
open ModVerif ModVerif.PathClean ModVerif.Zip ModVerif.ZipSpec ModVerif.Proofs.Zip

/-- the two effects of extracting one file entry -/
def fxOf (dir pfx : Bytes) (f : Entry) : List Effect :=
  [.mkdirAll (pathDir (dstOf dir pfx f)), .createExcl (dstOf dir pfx f) (some f.content)]

def expectedFx (dir pfx : Bytes) (fs : List Entry) : List Effect := fs.flatMap (fxOf dir pfx)

theorem createdFiles_append : ∀ (a b : List Effect), createdFiles (a ++ b) = createdFiles a ++ createdFiles b
  | [], _ => rfl
  | .mkdirAll _ :: a, b => by simp [createdFiles, createdFiles_append a b]
  | .createExcl _ _ :: a, b => by simp [createdFiles, createdFiles_append a b]

theorem createdDirs_append : ∀ (a b : List Effect), createdDirs (a ++ b) = createdDirs a ++ createdDirs b
  | [], _ => rfl
  | .mkdirAll _ :: a, b => by simp [createdDirs, createdDirs_append a b]
  | .createExcl _ _ :: a, b => by simp [createdDirs, createdDirs_append a b]

theorem createdFiles_expected (dir pfx : Bytes) : ∀ fs : List Entry,
    createdFiles (expectedFx dir pfx fs) = fs.map (dstOf dir pfx)
  | [] => rfl
  | f :: fs => by
    have ih := createdFiles_expected dir pfx fs
    unfold expectedFx at ih ⊢
    rw [List.flatMap_cons, createdFiles_append, ih]
    rfl

theorem createdDirs_expected (dir pfx : Bytes) : ∀ fs : List Entry,
    createdDirs (expectedFx dir pfx fs) = fs.flatMap (fun f => ancestorsAndSelf (pathDir (dstOf dir pfx f)))
  | [] => rfl
  | f :: fs => by
    have ih := createdDirs_expected dir pfx fs
    unfold expectedFx at ih ⊢
    rw [List.flatMap_cons, createdDirs_append, ih]
    simp [fxOf, createdDirs]

theorem expectedFx_append (dir pfx : Bytes) (a b : List Entry) :
    expectedFx dir pfx (a ++ b) = expectedFx dir pfx a ++ expectedFx dir pfx b := by
  unfold expectedFx; exact List.flatMap_append

theorem unzipEntry_none {dir pfx : Bytes} {fx fx' : List Effect} {zf : Entry}
    (h : unzipEntry dir pfx fx zf = (fx', none)) :
    fx' = fx ++ fxOf dir pfx zf ∧ dstOf dir pfx zf ∉ createdFiles fx ∧ zf.content.length = zf.declSize := by
  unfold unzipEntry at h
  split at h
  · cases h
  split at h
  · cases h
  · rename_i _ h2
    split at h
    · cases h
    · rename_i h3
      injection h with h _
      refine ⟨h.symm, ?_, by simpa using h3⟩
      intro hm
      apply h2
      rw [createdFiles_append]
      simp [hm]

theorem unzipLoop_exact (dir pfx : Bytes) : ∀ (es : List Entry) (fx : List Effect),
    (unzipLoop dir pfx fx es).2 = none →
    (unzipLoop dir pfx fx es).1 = fx ++ expectedFx dir pfx (fileEntries pfx es) ∧
    ((createdFiles fx).Nodup → (createdFiles (unzipLoop dir pfx fx es).1).Nodup) ∧
    ∀ f ∈ fileEntries pfx es, f.content.length = f.declSize
  | [], fx, _ => by simp [unzipLoop, fileEntries, expectedFx]
  | zf :: es, fx, h => by
    unfold unzipLoop at h ⊢
    by_cases h0 : skipEntry pfx zf = true
    · rw [if_pos h0] at h ⊢
      have hfe : fileEntries pfx (zf :: es) = fileEntries pfx es := by simp [fileEntries, h0]
      rw [hfe]
      exact unzipLoop_exact dir pfx es fx h
    · rw [if_neg h0] at h ⊢
      have h0' : skipEntry pfx zf = false := by simpa using h0
      have hfe : fileEntries pfx (zf :: es) = zf :: fileEntries pfx es := by simp [fileEntries, h0']
      rcases hr : unzipEntry dir pfx fx zf with ⟨fx', err⟩
      rw [hr] at h
      cases err with
      | some e => cases h
      | none =>
        simp only at h ⊢
        obtain ⟨e1, e2, e3⟩ := unzipEntry_none hr
        obtain ⟨i1, i2, i3⟩ := unzipLoop_exact dir pfx es fx' h
        rw [hfe]
        refine ⟨?_, ?_, ?_⟩
        · rw [i1, e1]
          show _ = fx ++ (fxOf dir pfx zf ++ expectedFx dir pfx (fileEntries pfx es))
          simp
        · intro hnd
          apply i2
          rw [e1, createdFiles_append]
          have : createdFiles (fxOf dir pfx zf) = [dstOf dir pfx zf] := rfl
          rw [this]
          refine List.nodup_append.mpr ⟨hnd, by simp, ?_⟩
          intro a ha b hb
          rw [List.mem_singleton.mp hb]
          intro e; rw [e] at ha; exact e2 ha
        · intro f hf
          rcases List.mem_cons.mp hf with rfl | hf
          · exact e3
          · exact i3 f hf

theorem unzipLoop_ok (dir pfx : Bytes) (es : List Entry) (fx : List Effect) (h : (unzipLoop dir pfx fx es).2 = none)
    (zf : Entry) (hz : zf ∈ es) (hfe : skipEntry pfx zf = false) :
    zf.content.length = zf.declSize ∧
      Effect.createExcl (dstOf dir pfx zf) (some zf.content) ∈ (unzipLoop dir pfx fx es).1 := by
  obtain ⟨e1, _, e3⟩ := unzipLoop_exact dir pfx es fx h
  have hm : zf ∈ fileEntries pfx es := by simp [fileEntries, hz, hfe]
  refine ⟨e3 zf hm, ?_⟩
  rw [e1]
  exact List.mem_append_right _ (List.mem_flatMap.mpr ⟨zf, hm, by simp [fxOf]⟩)

theorem unzip_exact (E : Env) (dir : Bytes) (t : Target) (mpath mvers : Bytes) (zs : Nat) (es : List Entry)
    (h : (unzip E dir t mpath mvers zs es).err = none) :
    (unzip E dir t mpath mvers zs es).effects =
      .mkdirAll dir :: expectedFx dir (zipPrefix mpath mvers) (fileEntries (zipPrefix mpath mvers) es) ∧
    createdFiles (unzip E dir t mpath mvers zs es).effects =
      (fileEntries (zipPrefix mpath mvers) es).map (dstOf dir (zipPrefix mpath mvers)) ∧
    ((fileEntries (zipPrefix mpath mvers) es).map (dstOf dir (zipPrefix mpath mvers))).Nodup := by
  rcases unzip_cases E dir t mpath mvers zs es with ⟨_, h1⟩ | ⟨_, _, cf, _, _, h5, h6⟩
  · exact absurd h h1
  · rw [h6] at h
    obtain ⟨i1, i2, _⟩ := unzipLoop_exact dir _ es _ h
    have hcf : createdFiles (unzip E dir t mpath mvers zs es).effects =
        (fileEntries (zipPrefix mpath mvers) es).map (dstOf dir (zipPrefix mpath mvers)) := by
      rw [h5, i1, createdFiles_append, createdFiles_expected]; rfl
    refine ⟨by rw [h5, i1]; rfl, hcf, ?_⟩
    rw [← hcf, h5]
    exact i2 (by simp [createdFiles])

theorem mem_ancestorsAndSelf (a p : Bytes) : a ∈ ancestorsAndSelf p ↔ a = p ∨ ∃ b, p = a ++ 47 :: b := by
  unfold ancestorsAndSelf
  simp only [List.mem_append, List.mem_map, List.mem_singleton]
  constructor
  · rintro (⟨d, hd, rfl⟩ | h)
    · obtain ⟨a', b, hp, rfl⟩ := (mem_dirPrefixes_iff p d).mp hd
      right; exact ⟨b, by simpa using hp⟩
    · left; exact h
  · rintro (h | ⟨b, hp⟩)
    · right; exact h
    · left; exact ⟨a ++ [47], (mem_dirPrefixes_iff p _).mpr ⟨a, b, hp, rfl⟩, by simp⟩

theorem ancestors_render {r : Bool} {cs : List Bytes} (h : Canon r cs) {a : Bytes}
    (ha : a ∈ ancestorsAndSelf (render r cs)) : a = [] ∨ ∃ k, a = render r (cs.take k) := by
  rcases (mem_ancestorsAndSelf _ _).mp ha with rfl | ⟨b, hp⟩
  · right; exact ⟨cs.length, by rw [List.take_length]⟩
  · cases r with
    | false =>
      by_cases hcs : cs = []
      · subst hcs
        exfalso
        have : (47 : UInt8) ∈ render false [] := by rw [hp]; simp
        revert this; decide
      · rw [render_false_J hcs] at hp
        have hs := congrArg (splitOn 47) hp
        rw [splitOn_J cs hcs (fun c hc => (h.elem c hc).2.2), splitOn_append_sep] at hs
        right
        refine ⟨(splitOn 47 a).length, ?_⟩
        have : cs.take (splitOn 47 a).length = splitOn 47 a := by rw [hs]; exact List.take_left' rfl
        rw [this, render_false_J (splitOn_ne_nil 47 a), J_splitOn]
    | true =>
      cases a with
      | nil => left; rfl
      | cons x a' =>
        right
        have hp' : 47 :: J cs = x :: (a' ++ 47 :: b) := hp
        injection hp' with hx hrest
        subst hx
        by_cases hcs : cs = []
        · subst hcs
          have := congrArg List.length hrest
          simp [J, joinWith] at this
        · have hs := congrArg (splitOn 47) hrest
          rw [splitOn_J cs hcs (fun c hc => (h.elem c hc).2.2), splitOn_append_sep] at hs
          refine ⟨(splitOn 47 a').length, ?_⟩
          have : cs.take (splitOn 47 a').length = splitOn 47 a' := by rw [hs]; exact List.take_left' rfl
          rw [this]
          show 47 :: a' = render true (splitOn 47 a')
          simp [render, J_splitOn]

theorem prefix_of_ancestor {r : Bool} {X Y : List Bytes} (hX : Canon r X) (hY : Canon r Y)
    (h : render r X ∈ ancestorsAndSelf (render r Y)) : X <+: Y := by
  rcases ancestors_render hY h with e | ⟨k, e⟩
  · exact absurd e (render_ne_nil hX)
  · have := render_injective hX (canon_sublist hY (List.take_sublist k Y)) e
    rw [this]; exact List.take_prefix k Y

/-- fails only for a `dir` written with `..` after a normal element, such as `x/y/../..`, where `MkdirAll` creates `x` on
    its way -/
def DirSane (dir : Bytes) : Prop := ∀ a ∈ ancestorsAndSelf dir, ∀ n, NormalName n → a ≠ fpJoin dir n

theorem fpJoin_ne_nil (dir : Bytes) {n : Bytes} (h : NormalName n) : fpJoin dir n ≠ [] := by
  rw [fpJoin_eq_render dir h]; exact render_ne_nil (canon_join dir h)

theorem dirSane_nil : DirSane [] := by
  intro a ha n hn e
  have : a = [] := by simpa [ancestorsAndSelf, dirPrefixes, dirPrefixesAux] using ha
  rw [this] at e
  exact fpJoin_ne_nil [] hn e.symm

theorem dirSane_clean {dir : Bytes} (h : pathClean dir = dir) : DirSane dir := by
  intro a ha n hn e
  rw [← h, pathClean_eq_render] at ha
  rw [fpJoin_eq_render dir hn] at e
  rw [e] at ha
  have hp := prefix_of_ancestor (canon_join dir hn) (canon_comps dir) ha
  have := hp.length_le
  have hl : 0 < (splitOn 47 n).length := List.length_pos_iff.mpr (splitOn_ne_nil 47 n)
  rw [List.length_append] at this
  omega

theorem step_length_ge (r : Bool) (st : List Bytes) (c : Bytes) (hc : c ≠ dotdot) :
    st.length ≤ (step r st c).length := by
  unfold step
  by_cases h1 : (c == []) = true
  · rw [if_pos h1]; exact Nat.le_refl _
  rw [if_neg h1]
  by_cases h2 : (c == [46]) = true
  · rw [if_pos h2]; exact Nat.le_refl _
  rw [if_neg h2, if_neg (by simpa using hc)]
  exact Nat.le_succ _

theorem foldl_step_length_ge (r : Bool) : ∀ (xs st : List Bytes), dotdot ∉ xs →
    st.length ≤ (xs.foldl (step r) st).length
  | [], _, _ => Nat.le_refl _
  | c :: xs, st, h => by
    have h1 := step_length_ge r st c (fun e => h (by rw [e]; exact List.mem_cons_self))
    have h2 := foldl_step_length_ge r xs (step r st c) (fun hm => h (List.mem_cons_of_mem _ hm))
    exact Nat.le_trans h1 h2

theorem dirSane_noDotDot {dir : Bytes} (h : dotdot ∉ splitOn 47 dir) : DirSane dir := by
  intro a ha n hn e
  have hl : 0 < (splitOn 47 n).length := List.length_pos_iff.mpr (splitOn_ne_nil 47 n)
  rcases (mem_ancestorsAndSelf _ _).mp ha with rfl | ⟨b, hp⟩
  · have := congrArg comps e
    rw [comps_fpJoin a hn] at this
    have := congrArg List.length this
    rw [List.length_append] at this; omega
  · have hane : a ≠ [] := by rw [e]; exact fpJoin_ne_nil dir hn
    have hr : isRooted dir = isRooted a := by rw [hp]; exact isRooted_append_ne_nil _ _ hane
    have hb : dotdot ∉ splitOn 47 b := by
      intro hm; apply h; rw [hp, splitOn_append_sep]; exact List.mem_append_right _ hm
    have hsp : splitOn 47 dir = splitOn 47 a ++ splitOn 47 b := by rw [hp, splitOn_append_sep]
    have hc : comps dir = ((splitOn 47 b).foldl (step (isRooted dir)) (comps a).reverse).reverse := by
      show cleanComps (isRooted dir) (splitOn 47 dir) = _
      rw [hsp, cleanComps_append, hr]; rfl
    have hlen := foldl_step_length_ge (isRooted dir) (splitOn 47 b) (comps a).reverse hb
    have h1 : (comps dir).length = ((splitOn 47 b).foldl (step (isRooted dir)) (comps a).reverse).length := by
      conv => lhs; rw [hc]
      simp
    have h2 : (comps a).length = (comps dir).length + (splitOn 47 n).length := by
      rw [e, comps_fpJoin dir hn, List.length_append]
    rw [List.length_reverse] at hlen
    omega

def NoPrefix (pfx : Bytes) (f1 f2 : Entry) : Prop :=
  ¬ splitOn 47 (f1.name.drop pfx.length) <+: splitOn 47 (f2.name.drop pfx.length) ∧
  ¬ splitOn 47 (f2.name.drop pfx.length) <+: splitOn 47 (f1.name.drop pfx.length)

/-- what the entry does when nothing is in its way -/
def entryOutcome (dir pfx : Bytes) (fx : List Effect) (zf : Entry) : List Effect × Option UnzipErr :=
  if zf.content.length = zf.declSize then (fx ++ fxOf dir pfx zf, none)
  else (fx ++ [.mkdirAll (pathDir (dstOf dir pfx zf)), .createExcl (dstOf dir pfx zf) none], some .contentSize)

theorem unzipEntry_fits {dir pfx : Bytes} (hdir : DirSane dir) {done : List Entry} {zf : Entry}
    (hdone : ∀ f ∈ done, NormalName (f.name.drop pfx.length)) (hzf : NormalName (zf.name.drop pfx.length))
    (hnp : ∀ f ∈ done, NoPrefix pfx f zf) :
    unzipEntry dir pfx (.mkdirAll dir :: expectedFx dir pfx done) zf =
      entryOutcome dir pfx (.mkdirAll dir :: expectedFx dir pfx done) zf := by
  have hcf : ∀ extra, createdFiles ((.mkdirAll dir :: expectedFx dir pfx done) ++ extra) =
      done.map (dstOf dir pfx) ++ createdFiles extra := by
    intro extra
    rw [createdFiles_append]
    show createdFiles (expectedFx dir pfx done) ++ _ = _
    rw [createdFiles_expected]
  have hcf0 : createdFiles (.mkdirAll dir :: expectedFx dir pfx done) = done.map (dstOf dir pfx) := by
    have := hcf []; simpa [createdFiles] using this
  have hr := isRooted dir
  -- destinations as rendered canonical lists
  have hdst : ∀ f, NormalName (f.name.drop pfx.length) →
      dstOf dir pfx f = render (isRooted dir) (comps dir ++ splitOn 47 (f.name.drop pfx.length)) :=
    fun f hf => fpJoin_eq_render dir hf
  have hpd : ∀ f, NormalName (f.name.drop pfx.length) →
      pathDir (dstOf dir pfx f) =
        render (isRooted dir) (comps dir ++ (splitOn 47 (f.name.drop pfx.length)).dropLast) :=
    fun f hf => pathDir_fpJoin dir hf
  -- (1) MkdirAll(Dir(dst)) meets no file
  have c1 : (ancestorsAndSelf (pathDir (dstOf dir pfx zf))).any
      (fun d => (createdFiles (.mkdirAll dir :: expectedFx dir pfx done)).contains d) = false := by
    rw [List.any_eq_false]
    intro a ha hcon
    rw [hcf0, List.contains_iff_mem] at hcon
    obtain ⟨f, hf, rfl⟩ := List.mem_map.mp hcon
    rw [hpd zf hzf, hdst f (hdone f hf)] at ha
    have hp := prefix_of_ancestor (canon_join dir (hdone f hf)) (canon_join_dropLast dir hzf) ha
    have hp' := (List.prefix_append_right_inj _).mp hp
    exact (hnp f hf).1 (hp'.trans (List.dropLast_prefix _))
  -- (2) dst is not an existing file
  have c2 : (createdFiles ((.mkdirAll dir :: expectedFx dir pfx done) ++
      [.mkdirAll (pathDir (dstOf dir pfx zf))])).contains (dstOf dir pfx zf) = false := by
    rw [hcf]
    simp only [createdFiles, List.append_nil]
    apply Bool.eq_false_iff.mpr
    intro hcon
    rw [List.contains_iff_mem] at hcon
    obtain ⟨f, hf, e⟩ := List.mem_map.mp hcon
    have := fpJoin_injective dir (hdone f hf) hzf e
    exact (hnp f hf).1 (by rw [this]; exact List.prefix_refl _)
  -- (3) dst is not an existing directory
  have c3 : (createdDirs ((.mkdirAll dir :: expectedFx dir pfx done) ++
      [.mkdirAll (pathDir (dstOf dir pfx zf))])).contains (dstOf dir pfx zf) = false := by
    apply Bool.eq_false_iff.mpr
    intro hcon
    rw [List.contains_iff_mem, createdDirs_append] at hcon
    have hcd : createdDirs (.mkdirAll dir :: expectedFx dir pfx done) =
        ancestorsAndSelf dir ++ createdDirs (expectedFx dir pfx done) := rfl
    rw [hcd, createdDirs_expected] at hcon
    simp only [createdDirs, List.append_nil, List.mem_append, List.mem_flatMap] at hcon
    rcases hcon with (hcon | ⟨f, hf, hcon⟩) | hcon
    · exact hdir _ hcon _ hzf rfl
    · rw [hpd f (hdone f hf), hdst zf hzf] at hcon
      have hp := prefix_of_ancestor (canon_join dir hzf) (canon_join_dropLast dir (hdone f hf)) hcon
      have hp' := (List.prefix_append_right_inj _).mp hp
      exact (hnp f hf).2 (hp'.trans (List.dropLast_prefix _))
    · rw [hpd zf hzf, hdst zf hzf] at hcon
      have hp := prefix_of_ancestor (canon_join dir hzf) (canon_join_dropLast dir hzf) hcon
      have hp' := ((List.prefix_append_right_inj _).mp hp).length_le
      have hl : 0 < (splitOn 47 (zf.name.drop pfx.length)).length :=
        List.length_pos_iff.mpr (splitOn_ne_nil 47 _)
      rw [List.length_dropLast] at hp'
      omega
  unfold unzipEntry entryOutcome
  rw [c1, c2, c3]
  simp only [Bool.false_eq_true, if_false, Bool.or_self]
  by_cases hs : zf.content.length = zf.declSize
  · simp [hs, fxOf]
  · simp [hs]

theorem unzipLoop_cons_skip (dir pfx : Bytes) (fx : List Effect) (zf : Entry) (rest : List Entry)
    (h : skipEntry pfx zf = true) : unzipLoop dir pfx fx (zf :: rest) = unzipLoop dir pfx fx rest := by
  rw [unzipLoop]; simp [h]

theorem unzipLoop_cons_some (dir pfx : Bytes) (fx fx' : List Effect) (zf : Entry) (rest : List Entry) (e : UnzipErr)
    (h : skipEntry pfx zf = false) (h2 : unzipEntry dir pfx fx zf = (fx', some e)) :
    unzipLoop dir pfx fx (zf :: rest) = (fx', some e) := by
  rw [unzipLoop]; simp [h, h2]

theorem unzipLoop_cons_none (dir pfx : Bytes) (fx fx' : List Effect) (zf : Entry) (rest : List Entry)
    (h : skipEntry pfx zf = false) (h2 : unzipEntry dir pfx fx zf = (fx', none)) :
    unzipLoop dir pfx fx (zf :: rest) = unzipLoop dir pfx fx' rest := by
  rw [unzipLoop]; simp [h, h2]

theorem unzipLoop_append (dir pfx : Bytes) : ∀ (a b : List Entry) (fx : List Effect),
    unzipLoop dir pfx fx (a ++ b) =
      if (unzipLoop dir pfx fx a).2 = none then unzipLoop dir pfx (unzipLoop dir pfx fx a).1 b
      else unzipLoop dir pfx fx a
  | [], b, fx => by simp [unzipLoop]
  | zf :: a, b, fx => by
    simp only [List.cons_append]
    by_cases h0 : skipEntry pfx zf = true
    · rw [unzipLoop_cons_skip _ _ _ _ _ h0, unzipLoop_cons_skip _ _ _ _ _ h0]
      exact unzipLoop_append dir pfx a b fx
    · have h0' : skipEntry pfx zf = false := by simpa using h0
      rcases hr : unzipEntry dir pfx fx zf with ⟨fx', err⟩
      cases err with
      | some e =>
        rw [unzipLoop_cons_some _ _ _ _ _ _ e h0' hr, unzipLoop_cons_some _ _ _ _ _ _ e h0' hr]; simp
      | none =>
        rw [unzipLoop_cons_none _ _ _ _ _ _ h0' hr, unzipLoop_cons_none _ _ _ _ _ _ h0' hr]
        exact unzipLoop_append dir pfx a b fx'

theorem unzipLoop_accepts {dir pfx : Bytes} (hdir : DirSane dir) : ∀ (es done : List Entry),
    (∀ f ∈ done, NormalName (f.name.drop pfx.length)) →
    (∀ f ∈ fileEntries pfx es, NormalName (f.name.drop pfx.length) ∧ f.content.length = f.declSize) →
    (done ++ fileEntries pfx es).Pairwise (NoPrefix pfx) →
    unzipLoop dir pfx (.mkdirAll dir :: expectedFx dir pfx done) es =
      (.mkdirAll dir :: expectedFx dir pfx (done ++ fileEntries pfx es), none)
  | [], done, _, _, _ => by simp [unzipLoop, fileEntries]
  | zf :: es, done, hdone, hes, hpw => by
    unfold unzipLoop
    by_cases h0 : skipEntry pfx zf = true
    · have hfe : fileEntries pfx (zf :: es) = fileEntries pfx es := by simp [fileEntries, h0]
      rw [if_pos h0, hfe]
      rw [hfe] at hes hpw
      exact unzipLoop_accepts hdir es done hdone hes hpw
    · have h0' : skipEntry pfx zf = false := by simpa using h0
      have hfe : fileEntries pfx (zf :: es) = zf :: fileEntries pfx es := by simp [fileEntries, h0']
      rw [if_neg h0, hfe]
      rw [hfe] at hes hpw
      have hzf := hes zf List.mem_cons_self
      have hnp : ∀ f ∈ done, NoPrefix pfx f zf := fun f hf =>
        (List.pairwise_append.mp hpw).2.2 f hf zf List.mem_cons_self
      rw [unzipEntry_fits hdir hdone hzf.1 hnp]
      unfold entryOutcome
      rw [if_pos hzf.2]
      simp only
      have hfx : Effect.mkdirAll dir :: expectedFx dir pfx done ++ fxOf dir pfx zf =
          .mkdirAll dir :: expectedFx dir pfx (done ++ [zf]) := by
        rw [expectedFx_append]; simp [expectedFx]
      rw [hfx]
      have := unzipLoop_accepts hdir es (done ++ [zf])
        (by
          intro f hf
          rcases List.mem_append.mp hf with hf | hf
          · exact hdone f hf
          · rw [List.mem_singleton.mp hf]; exact hzf.1)
        (fun f hf => hes f (List.mem_cons_of_mem _ hf))
        (by simpa using hpw)
      rw [this]
      simp

theorem accepted_files {E : Env} (hE : CfpSound E.cfp) {mpath mvers : Bytes} {zs : Nat}
    {es : List Entry} {cf : CheckedFiles} (h : checkZip E mpath mvers zs es = .ok cf) (he : cf.err = none) :
    (∀ f ∈ fileEntries (zipPrefix mpath mvers) es, NormalName (f.name.drop (zipPrefix mpath mvers).length)) ∧
    (fileEntries (zipPrefix mpath mvers) es).Pairwise (NoPrefix (zipPrefix mpath mvers)) := by
  obtain ⟨_, _, _, hrun⟩ := checkZip_ok E mpath mvers zs es cf h he
  refine ⟨?_, files_no_prefix hE hrun⟩
  intro f hf
  have hm := List.mem_filter.mp hf
  exact normalName_of_accepted hE h he hm.1 (by simpa using hm.2)

theorem unzip_of_accepted (E : Env) (dir : Bytes) (t : Target) (mpath mvers : Bytes) (zs : Nat) (es : List Entry)
    (cf : CheckedFiles) (ht : t = .missing ∨ t = .emptyDir) (h : checkZip E mpath mvers zs es = .ok cf)
    (he : cf.err = none) :
    unzip E dir t mpath mvers zs es =
      ⟨(unzipLoop dir (zipPrefix mpath mvers) [.mkdirAll dir] es).1,
       (unzipLoop dir (zipPrefix mpath mvers) [.mkdirAll dir] es).2⟩ := by
  unfold unzip
  have h1 : (t == Target.nonEmptyDir) = false := by rcases ht with rfl | rfl <;> rfl
  have h2 : (t == Target.notDir) = false := by rcases ht with rfl | rfl <;> rfl
  simp [h1, h2, h, he]

theorem unzip_accepts (E : Env) (hE : CfpSound E.cfp) (dir : Bytes) (hdir : DirSane dir) (t : Target)
    (mpath mvers : Bytes) (zs : Nat) (es : List Entry) (cf : CheckedFiles)
    (ht : t = .missing ∨ t = .emptyDir) (hon : HonestEntries es)
    (h : checkZip E mpath mvers zs es = .ok cf) (he : cf.err = none) :
    unzip E dir t mpath mvers zs es =
      ⟨.mkdirAll dir :: expectedFx dir (zipPrefix mpath mvers) (fileEntries (zipPrefix mpath mvers) es), none⟩ := by
  rw [unzip_of_accepted E dir t mpath mvers zs es cf ht h he]
  obtain ⟨hn, hpw⟩ := accepted_files hE h he
  have := unzipLoop_accepts (pfx := zipPrefix mpath mvers) hdir es [] (by simp)
    (fun f hf => ⟨hn f hf, hon f (List.mem_filter.mp hf).1⟩) (by simpa using hpw)
  have e0 : (Effect.mkdirAll dir :: expectedFx dir (zipPrefix mpath mvers) []) = [.mkdirAll dir] := rfl
  rw [e0] at this
  rw [this]
  simp

theorem unzip_first_liar (E : Env) (hE : CfpSound E.cfp) (dir : Bytes) (hdir : DirSane dir) (t : Target)
    (mpath mvers : Bytes) (zs : Nat) (pre post : List Entry) (zf : Entry) (cf : CheckedFiles)
    (ht : t = .missing ∨ t = .emptyDir) (hon : HonestEntries pre)
    (hzs : skipEntry (zipPrefix mpath mvers) zf = false) (hlie : zf.content.length ≠ zf.declSize)
    (h : checkZip E mpath mvers zs (pre ++ zf :: post) = .ok cf) (he : cf.err = none) :
    unzip E dir t mpath mvers zs (pre ++ zf :: post) =
      ⟨.mkdirAll dir :: expectedFx dir (zipPrefix mpath mvers) (fileEntries (zipPrefix mpath mvers) pre) ++
        [.mkdirAll (pathDir (dstOf dir (zipPrefix mpath mvers) zf)),
         .createExcl (dstOf dir (zipPrefix mpath mvers) zf) none], some .contentSize⟩ := by
  rw [unzip_of_accepted E dir t mpath mvers zs _ cf ht h he]
  obtain ⟨hn, hpw⟩ := accepted_files hE h he
  have hfe : fileEntries (zipPrefix mpath mvers) (pre ++ zf :: post) =
      fileEntries (zipPrefix mpath mvers) pre ++ zf :: fileEntries (zipPrefix mpath mvers) post := by
    simp [fileEntries, List.filter_append, hzs]
  rw [hfe] at hn hpw
  have hpre := unzipLoop_accepts (pfx := zipPrefix mpath mvers) hdir pre [] (by simp)
    (fun f hf => ⟨hn f (List.mem_append_left _ hf), hon f (List.mem_filter.mp hf).1⟩)
    (by simpa using (List.pairwise_append.mp hpw).1)
  have e0 : (Effect.mkdirAll dir :: expectedFx dir (zipPrefix mpath mvers) []) = [.mkdirAll dir] := rfl
  rw [e0] at hpre
  rw [unzipLoop_append, hpre]
  simp only [if_true, List.nil_append]
  unfold unzipLoop
  rw [if_neg (by simp [hzs])]
  rw [unzipEntry_fits hdir (fun f hf => hn f (List.mem_append_left _ hf))
    (hn zf (List.mem_append_right _ List.mem_cons_self))
    (fun f hf => (List.pairwise_append.mp hpw).2.2 f hf zf List.mem_cons_self)]
  unfold entryOutcome
  rw [if_neg hlie]

end ModVerif.Proofs.ZipB

/-
  C12 helper: the assumption `CfpSound` holds for the model of `module.CheckFilePath` (which
  Props/C06 proves equivalent to the documented path rules), for every `isLetter`.
-/
namespace ModVerif.Proofs.ZipB
open ModVerif ModVerif.Zip ModVerif.ZipSpec

/-- `CheckFilePath` as the zip driver plugs it into `Env.cfp` -/
def cfpOf (isLetter : Nat → Bool) (p : Bytes) : Bool :=
  match Module.checkFilePath isLetter p with
  | .ok _ => true
  | .error _ => false

theorem cfpSound_checkFilePath (isLetter : Nat → Bool) : CfpSound (cfpOf isLetter) := by
  intro p hp c hc
  have hok : Module.checkFilePath isLetter p = .ok () := by
    unfold cfpOf at hp
    cases h : Module.checkFilePath isLetter p with
    | ok u => rfl
    | error e => rw [h] at hp; cases hp
  have hv := (Module.checkPath_iff_spec isLetter .file p).mp hok
  have he := hv.2.2.2 c hc
  refine ⟨he.1, ?_, ?_⟩
  · intro e; apply he.2.1; rw [e]; simp
  · intro e; apply he.2.1; rw [e]; simp

end ModVerif.Proofs.ZipB
