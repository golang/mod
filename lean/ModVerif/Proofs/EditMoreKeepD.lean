/-
  What each go.mod operation (all but the bulk setters, which follow) does to the lines that existed before it: it
  touches only the lines of the directive it names (`Targets`), or removes duplicates (`kill3`, SortBlocks); every other
  line keeps its tokens and comments (`OpKeepsS`).  Read off the operation's program of tree primitives: `prog_src` says
  which lines the program touches.  Only Cleanup changes a line it does not name: the line of a collapsed block gains the
  block's whole-line comments.
-/
import ModVerif.Proofs.EditMoreKeepC
namespace ModVerif.Modfile.Edit
open ModVerif ModVerif.Modfile

/-- the directive lines an operation names, by their tokens (all `require` lines for the two bulk setters, which rewrite every
    requirement) -/
def Targets : Op → List Bytes → Prop
  | .addModule _, t => t.head? = some (B "module")
  | .addGo _, t => t.head? = some (B "go")
  | .dropGo, t => t.head? = some (B "go")
  | .addToolchain _, t => t.head? = some (B "toolchain")
  | .dropToolchain, t => t.head? = some (B "toolchain")
  | .addGodebug k _, t => ∃ v, t = [B "godebug", k ++ [61] ++ v]
  | .dropGodebug k, t => ∃ v, t = [B "godebug", k ++ [61] ++ v]
  | .addRequire p _, t => ∃ v, t = [B "require", autoQuote p, v]
  | .dropRequire p, t => ∃ v, t = [B "require", autoQuote p, v]
  | .setRequire _ _, t => t.head? = some (B "require")
  | .setRequireSeparateIndirect _ _, t => t.head? = some (B "require")
  | .dropExclude p v, t => t = [B "exclude", autoQuote p, v]
  | .addReplace op _ _ _, t => ∃ r : Replace, r.old.path = op ∧ t = replaceToks r
  | .dropReplace op ov, t => ∃ r : Replace, r.old.path = op ∧ r.old.version = ov ∧ t = replaceToks r
  | .dropRetract lo hi, t => ∃ r : Retract, r.interval = ⟨lo, hi⟩ ∧ (entRt r).acc t []
  | .dropTool p, t => ∃ x, t = [B "tool", x] ∧ tokIs x p
  | _, _ => False

def Sorts : Op → Bool
  | .sortBlocks => true
  | .addTool _ => true
  | .setRequire _ _ => true
  | .setRequireSeparateIndirect _ _ => true
  | _ => false

/-- what one operation does to the lines that existed before it -/
def OpKeepsS (e e' : EFile) (op : Op) : Prop :=
  ∃ S : List Nat, KeepsSBelow e.next S e.f.syn.stmts e'.f.syn.stmts ∧
    ∀ i ∈ S, (Sorts op = true ∧ i ∈ kill3 e.f) ∨ ∃ en ∈ entries e.f, en.id = i ∧ ∀ t s, en.acc t s → Targets op t

/-- a line id the operation may touch -/
def Src (e : EFile) (op : Op) (i : Nat) : Prop :=
  e.next ≤ i ∨ (Sorts op = true ∧ i ∈ kill3 e.f) ∨ ∃ en ∈ entries e.f, en.id = i ∧ ∀ t s, en.acc t s → Targets op t

theorem OpKeepsS.of_prog {e e' : EFile} {op : Op} (ps : List TPrim) (h : treeOf e' = runT ps (treeOf e)) (hpre : PreAll ps (treeOf e))
    (hsrc : ∀ i ∈ ps.flatMap TPrim.touched, Src e op i) : OpKeepsS e e' op := by
  obtain ⟨S, hk, hS⟩ := runT_keepsEq_below e.next ps (treeOf e) hpre hsrc
  rw [← h] at hk
  exact ⟨S, fun x hx hlt hn => ⟨x, hk x hx hlt hn, x.leS_refl⟩, hS⟩

section keyed
variable {α : Type} {m : α → Bool} {id : α → Nat} {l : List α} {P : Nat → Prop}

theorem touched_clearProg (hdead : ∀ x ∈ l, m x = true → P (id x)) : ∀ i ∈ (clearProg m id l).flatMap TPrim.touched, P i := by
  intro i hi
  rw [clearProg, touched_removes] at hi
  obtain ⟨x, hx, hm, rfl⟩ := mem_deadIds.1 hi
  exact hdead x hx hm

theorem touched_setProg (toks : List Bytes) {np : List TPrim} (hdead : ∀ x ∈ l, m x = true → P (id x))
    (hnp : ∀ i ∈ np.flatMap TPrim.touched, P i) : ∀ i ∈ (setProg m id l toks np).flatMap TPrim.touched, P i := by
  cases hf : l.find? m with
  | none => rw [setProg_of_none m id hf]; exact hnp
  | some x0 =>
    obtain ⟨i0, ids, e1, e2⟩ := setProg_of_some m id hf toks np
    intro i hi
    rw [e1, List.flatMap_cons, touched_removes] at hi
    have hi' : i ∈ deadIds m id l := e2 ▸ hi
    obtain ⟨x, hx, hm, rfl⟩ := mem_deadIds.1 hi'
    exact hdead x hx hm

theorem preAll_setProg (toks : List Bytes) {np : List TPrim} {s : FileSyntax × Nat} (h : PreAll np s) : PreAll (setProg m id l toks np) s := by
  unfold setProg; split
  · exact ⟨trivial, preAll_removes _ _⟩
  · exact h

theorem Src.of_entry {e : EFile} {op : Op} (mk : α → Ent) (hmk : ∀ x, (mk x).id = id x) {x : α} (hmem : mk x ∈ entries e.f)
    (ht : ∀ t s, (mk x).acc t s → Targets op t) : Src e op (id x) :=
  .inr (.inr ⟨mk x, hmem, hmk x, ht⟩)

end keyed

theorem prog_preAll (e : EFile) (op : Op) (hi : Inv e) (hc : op ≠ .cleanup) : PreAll (prog e op) (treeOf e) := by
  have v2 := hi.view2
  cases op <;> simp only [prog]
  case addModule p => cases e.f.module <;> exact ⟨by first | exact v2 | trivial, trivial⟩
  case addGo v => cases e.f.go <;> exact ⟨by first | exact v2 | trivial, trivial⟩
  case dropGo => cases e.f.go <;> first | exact ⟨trivial, trivial⟩ | trivial
  case addToolchain n => cases e.f.toolchain <;> exact ⟨by first | exact v2 | trivial, trivial⟩
  case dropToolchain => cases e.f.toolchain <;> first | exact ⟨trivial, trivial⟩ | trivial
  case addGodebug k v => exact preAll_setProg _ ⟨v2, trivial⟩
  case dropGodebug k => exact preAll_removes _ _
  case addRequire p v => exact preAll_setProg _ ⟨v2, trivial, trivial⟩
  case addNewRequire p v i => exact ⟨v2, trivial, trivial⟩
  case dropRequire p => exact preAll_removes _ _
  case addExclude p v => split <;> first | exact ⟨v2, trivial⟩ | trivial
  case dropExclude p v => exact preAll_removes _ _
  case addReplace a b c d => exact preAll_setProg _ ⟨v2, trivial⟩
  case dropReplace a b => exact preAll_removes _ _
  case addRetract lo hi' why => exact ⟨v2, trivial, trivial⟩
  case dropRetract lo hi' => exact preAll_removes _ _
  case addTool p => split <;> first | exact ⟨v2, trivial, trivial, trivial⟩ | trivial
  case dropTool p => exact preAll_removes _ _
  case sortBlocks => exact ⟨trivial, trivial, trivial⟩
  case cleanup => exact (hc rfl).elim
  all_goals trivial

theorem prog_src (e : EFile) (op : Op) (hv : ValidArgsT op) : ∀ i ∈ (prog e op).flatMap TPrim.touched, Src e op i := by
  -- one case per operation, all of one pattern: a scalar operation touches the line of its typed entry (`mem_entries_*`,
  -- `Targets` by the entry's tokens); a keyed one the lines of the matching entries (`touched_clearProg` / `touched_setProg`
  -- with `Src.of_entry`); `add` touches only the fresh id; the de-duplication of SortBlocks the ids of `kill3`
  have fresh : ∀ i ∈ [e.next], Src e op i := fun i hi => .inl (Nat.le_of_eq (List.mem_singleton.1 hi).symm)
  cases op <;> simp only [prog]
  case addModule p =>
    cases hm : e.f.module with
    | none => simp [TPrim.touched]
    | some m =>
      simp only [List.flatMap_cons, TPrim.touched, List.flatMap_nil, List.append_nil, List.mem_singleton, forall_eq]
      exact .inr (.inr ⟨entM m, mem_entries_module hm, rfl, fun t s h => by simp only [entM] at h; rw [h]; rfl⟩)
  case addGo v =>
    cases hg : e.f.go with
    | none => simp [TPrim.touched]
    | some g =>
      simp only [List.flatMap_cons, TPrim.touched, List.flatMap_nil, List.append_nil, List.mem_singleton, forall_eq]
      exact .inr (.inr ⟨entGo g, mem_entries_go hg, rfl, fun t s h => by simp only [entGo] at h; rw [h]; rfl⟩)
  case dropGo =>
    cases hg : e.f.go with
    | none => simp
    | some g =>
      simp only [List.flatMap_cons, TPrim.touched, List.flatMap_nil, List.append_nil, List.mem_singleton, forall_eq]
      exact .inr (.inr ⟨entGo g, mem_entries_go hg, rfl, fun t s h => by simp only [entGo] at h; rw [h]; rfl⟩)
  case addToolchain n =>
    cases hg : e.f.toolchain with
    | none => simp [TPrim.touched]
    | some g =>
      simp only [List.flatMap_cons, TPrim.touched, List.flatMap_nil, List.append_nil, List.mem_singleton, forall_eq]
      exact .inr (.inr ⟨entTc g, mem_entries_toolchain hg, rfl, fun t s h => by simp only [entTc] at h; rw [h]; rfl⟩)
  case dropToolchain =>
    cases hg : e.f.toolchain with
    | none => simp
    | some g =>
      simp only [List.flatMap_cons, TPrim.touched, List.flatMap_nil, List.append_nil, List.mem_singleton, forall_eq]
      exact .inr (.inr ⟨entTc g, mem_entries_toolchain hg, rfl, fun t s h => by simp only [entTc] at h; rw [h]; rfl⟩)
  case addGodebug k v =>
    refine touched_setProg _ (fun x hx hm => Src.of_entry entG (fun _ => rfl) (mem_entries_godebug hx (ne_nil_of_beq hv hm)) ?_) (by simp [TPrim.touched])
    intro t s hacc; simp only [entG] at hacc; exact ⟨x.value, by rw [hacc, eq_of_beq hm]⟩
  case dropGodebug k =>
    refine touched_clearProg (fun x hx hm => Src.of_entry entG (fun _ => rfl) (mem_entries_godebug hx (ne_nil_of_beq hv hm)) ?_)
    intro t s hacc; simp only [entG] at hacc; exact ⟨x.value, by rw [hacc, eq_of_beq hm]⟩
  case addRequire p v =>
    refine touched_setProg _ (fun x hx hm => Src.of_entry entRq (fun _ => rfl) (mem_entries_require hx (ne_nil_of_beq hv hm)) ?_)
      (by simpa [TPrim.touched] using fresh)
    intro t s hacc; simp only [entRq] at hacc; exact ⟨x.mod.version, by rw [hacc.1, eq_of_beq hm]⟩
  case addNewRequire p v i => simpa [TPrim.touched] using fresh
  case dropRequire p =>
    refine touched_clearProg (fun x hx hm => Src.of_entry entRq (fun _ => rfl) (mem_entries_require hx (ne_nil_of_beq hv hm)) ?_)
    intro t s hacc; simp only [entRq] at hacc; exact ⟨x.mod.version, by rw [hacc.1, eq_of_beq hm]⟩
  case addExclude p v => split <;> simp [TPrim.touched]
  case dropExclude p v =>
    refine touched_clearProg (fun x hx hm => ?_)
    simp only [Bool.and_eq_true] at hm
    refine Src.of_entry entX (fun _ => rfl) (mem_entries_exclude hx (ne_nil_of_beq hv hm.1)) ?_
    intro t s hacc; simp only [entX] at hacc
    show t = _
    rw [hacc, eq_of_beq hm.1, eq_of_beq hm.2]
  case addReplace a b c d =>
    refine touched_setProg _ (fun x hx hm => ?_) (by simp [TPrim.touched])
    simp only [Bool.and_eq_true] at hm
    refine Src.of_entry entRp (fun _ => rfl) (mem_entries_replace hx (ne_nil_of_beq hv hm.1)) ?_
    intro t s hacc; simp only [entRp] at hacc; exact ⟨x, eq_of_beq hm.1, hacc⟩
  case dropReplace a b =>
    refine touched_clearProg (fun x hx hm => ?_)
    simp only [Bool.and_eq_true] at hm
    refine Src.of_entry entRp (fun _ => rfl) (mem_entries_replace hx (ne_nil_of_beq hv hm.1)) ?_
    intro t s hacc; simp only [entRp] at hacc; exact ⟨x, eq_of_beq hm.1, eq_of_beq hm.2, hacc⟩
  case addRetract lo hi' why => simpa [TPrim.touched] using fresh
  case dropRetract lo hi' =>
    refine touched_clearProg (fun x hx hm => Src.of_entry entRt (fun _ => rfl) (mem_entries_retract hx ?_) fun t s hacc => ⟨x, eq_of_beq hm, hacc⟩)
    have : x.interval = { low := lo, high := hi' } := eq_of_beq hm
    simp only [liveRt, this]
    rcases hv with h1 | h1 <;> simp [ne_nil_live h1]
  case addTool p =>
    split
    · simp
    · simp only [List.flatMap_cons, TPrim.touched, List.flatMap_nil, List.append_nil, List.nil_append]
      exact fun i hi => .inr (.inl ⟨rfl, hi⟩)
  case dropTool p =>
    refine touched_clearProg (fun x hx hm => Src.of_entry entT (fun _ => rfl) (mem_entries_tool hx (ne_nil_of_beq hv hm)) ?_)
    intro t s hacc; simp only [entT] at hacc
    rcases hacc with ⟨y, h1, h2⟩
    exact ⟨y, h1, by rw [← eq_of_beq hm]; exact h2⟩
  case sortBlocks =>
    simp only [List.flatMap_cons, TPrim.touched, List.flatMap_nil, List.append_nil]
    exact fun i hi => .inr (.inl ⟨rfl, hi⟩)
  all_goals simp [TPrim.touched]

theorem keepsEq_sortBlocks (e : EFile) : KeepsEq (kill3 e.f) e.f.syn.stmts (sortBlocks e).f.syn.stmts := by
  rw [sortBlocks_eq_sem e]
  exact ((keepsEq_dropKilled (kill3 e.f) e.f.syn.stmts).trans (keepsEq_sortStmts (semOf e.f) false _)).mono (by simp)

end ModVerif.Modfile.Edit
