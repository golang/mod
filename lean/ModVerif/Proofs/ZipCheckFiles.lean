/-
  The two loops of `checkFiles`.  The first loop field by field (`preStep_eq`); an invariant of one step is
  an invariant of a loop (`foldl_inv`, `prePass_st_inv`); the files `Create` writes are regular files of the
  input, and their paths are the valid list.
-/
import ModVerif.Spec.ZipSpec
import ModVerif.Proofs.ZipASpec
import ModVerif.Proofs.ZipShape
namespace ModVerif.Proofs.Zip
open ModVerif ModVerif.PathClean ModVerif.Zip ModVerif.ZipSpec

theorem foldl_inv {α β : Type} {P : β → Prop} (f : β → α → β) : ∀ (l : List α) (b : β),
    (∀ b, ∀ a ∈ l, P b → P (f b a)) → P b → P (l.foldl f b)
  | [], _, _, hb => hb
  | a :: l, b, h, hb =>
    foldl_inv f l (f b a) (fun b' a' ha' => h b' a' (List.mem_cons_of_mem _ ha')) (h b a List.mem_cons_self hb)

theorem eq_of_nodup_map_path : ∀ (l : List FileInfo), (l.map (·.path)).Nodup →
    ∀ f ∈ l, ∀ g ∈ l, f.path = g.path → f = g := by
  intro l
  induction l with
  | nil => intro _ f hf; cases hf
  | cons a t ih =>
    intro hnd f hf g hg hp
    rw [List.map_cons, List.nodup_cons] at hnd
    rcases List.mem_cons.mp hf with rfl | hf' <;> rcases List.mem_cons.mp hg with rfl | hg'
    · rfl
    · exact absurd (by rw [hp]; exact List.mem_map_of_mem (f := fun x : FileInfo => x.path) hg') hnd.1
    · exact absurd (by rw [← hp]; exact List.mem_map_of_mem (f := fun x : FileInfo => x.path) hf') hnd.1
    · exact ih hnd.2 f hf' g hg' hp

/-- the files that make their directory a module root -/
def isGoModFile (f : FileInfo) : Bool := equalFoldGoMod (pathSplit f.path).2 && f.mode == .regular

/-- the file that decides the go version flag: a regular file whose path is `go.mod` -/
def isRootGoMod (f : FileInfo) : Bool :=
  isGoModFile f && (pathSplit f.path).2 == goModName && (pathSplit f.path).1 == []

theorem preStep_eq (a : Pre) (f : FileInfo) : preStep a f =
    { st := if goModUnreadable f then a.st.addError f.path false .lstat else a.st,
      haveGoMod := if isGoModFile f then a.haveGoMod ++ [(pathSplit f.path).1] else a.haveGoMod,
      ge124 := if isRootGoMod f then f.goGe124 else a.ge124 } := by
  unfold preStep goModUnreadable isRootGoMod isGoModFile
  by_cases h1 : equalFoldGoMod (pathSplit f.path).2 = true
  · by_cases h2 : f.mode = .lstatErr
    · simp [h1, h2]
    · by_cases h3 : f.mode = .regular
      · simp [h1, h3]; split <;> rfl
      · simp [h1, h2, h3]
  · simp [h1]

theorem preStep_st (a : Pre) (f : FileInfo) :
    (preStep a f).st = if goModUnreadable f then a.st.addError f.path false .lstat else a.st := by
  rw [preStep_eq]

theorem prePass_st_inv {P : St → Prop} (hadd : ∀ s p, P s → P (s.addError p false .lstat)) (l : List FileInfo)
    (a : Pre) (h : P a.st) : P (l.foldl preStep a).st :=
  foldl_inv (P := fun a => P a.st) preStep l a
    (fun b f _ hb => by rw [preStep_st]; split; exact hadd _ _ hb; exact hb) h

theorem prePass_rest (l : List FileInfo) (a : Pre) :
    (l.foldl preStep a).st.validFiles = a.st.validFiles ∧ (l.foldl preStep a).st.cc = a.st.cc ∧
      (l.foldl preStep a).st.maxSize = a.st.maxSize :=
  prePass_st_inv (P := fun s => s.validFiles = a.st.validFiles ∧ s.cc = a.st.cc ∧ s.maxSize = a.st.maxSize)
    (fun s p hs => by
      obtain ⟨_, h1, h2, h3, _⟩ := addError_rest s p false .lstat
      rw [h1, h2, h3]; exact hs) l a ⟨rfl, rfl, rfl⟩

theorem prePass_validFiles (l : List FileInfo) (a : Pre) (h : a.st.validFiles = []) :
    (l.foldl preStep a).st.validFiles = [] := (prePass_rest l a).1.trans h

theorem prePass_cc (l : List FileInfo) (a : Pre) : (l.foldl preStep a).st.cc = a.st.cc := (prePass_rest l a).2.1

structure PreInv (st : St) : Prop where
  valid : st.cf.valid = []
  omitted : st.cf.omitted = []
  invalid : st.cf.invalid.map (·.1) = st.errPaths
  nodup : st.errPaths.Nodup

theorem preInv_addError (st : St) (p : Bytes) (h : PreInv st) : PreInv (st.addError p false .lstat) := by
  by_cases hp : p ∈ st.errPaths
  · rw [addError_mem st p _ _ hp]; exact h
  · rw [addError_not_mem st p _ _ hp]
    refine ⟨h.valid, by simpa using h.omitted, by simpa using h.invalid, ?_⟩
    exact List.nodup_append.mpr ⟨h.nodup, by simp, by
      intro a ha b hb; rw [List.mem_singleton.mp hb]; intro e; exact hp (e ▸ ha)⟩

theorem prePass_preInv (files : List FileInfo) : PreInv (prePass files).st :=
  prePass_st_inv preInv_addError files {} ⟨rfl, rfl, rfl, List.nodup_nil⟩

theorem checkFilesSt_validFiles (E : Env) (ge124 : Bool) (files : List FileInfo) :
    (∀ f ∈ (checkFilesSt E files ge124).validFiles, f ∈ files ∧ f.mode = .regular) ∧
    (checkFilesSt E files ge124).cf.valid = (checkFilesSt E files ge124).validFiles.map (·.path) := by
  refine foldl_inv (P := fun s : St => (∀ f ∈ s.validFiles, f ∈ files ∧ f.mode = .regular) ∧
      s.cf.valid = s.validFiles.map (·.path)) _ files _ ?_ ?_
  · intro s f hf ⟨h1, h2⟩
    have hsh := stepFile_shape E ge124 (prePass files).haveGoMod s f
    generalize stepFile E ge124 (prePass files).haveGoMod s f = s' at hsh ⊢
    cases hsh with
    | err s0 h om r =>
      rw [(addError_valid _ _ _ _).1, (addError_valid _ _ _ _).2, h.valid, h.validFiles]
      exact ⟨h1, h2⟩
    | valid s0 h hreg =>
      show (∀ g ∈ s0.validFiles ++ [f], _) ∧ s0.cf.valid ++ [f.path] = (s0.validFiles ++ [f]).map (·.path)
      rw [h.valid, h.validFiles, h2]
      refine ⟨fun g hg => ?_, by simp⟩
      rcases List.mem_append.mp hg with hg | hg
      · exact h1 g hg
      · rw [List.mem_singleton.mp hg]; exact ⟨hf, hreg⟩
  · have h0 : (prePass files).st.validFiles = [] := prePass_validFiles files {} rfl
    rw [h0, (prePass_preInv files).valid]
    exact ⟨fun f hf => absurd hf List.not_mem_nil, rfl⟩

end ModVerif.Proofs.Zip
