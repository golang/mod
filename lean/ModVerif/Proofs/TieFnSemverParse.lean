/-
  Tie proofs for the regenerated semver functions: `parse`.
  Go's `parse` has named results and returns the partially filled struct also when ok = false; `parseFull` mirrors
  that over the model's sub-parsers, `parseResidue` is the struct it returns on failure (callers ignore it).
-/
import ModVerif.Proofs.TieFnSemverIdent
namespace ModVerif.TieFnSemver
open ModVerif ModVerif.GoRt
open ModVerif.Generated.Semver (parsed)

/-- the Go struct `parsed` of a model `Parsed` -/
def ofParsed (p : Semver.Parsed) : parsed :=
  { major := p.major, minor := p.minor, patch := p.patch, short := p.short, prerelease := p.prerelease, build := p.build }

def endFull (p : parsed) (v : Bytes) : parsed × Bool := (p, v.isEmpty)

def buildFull (p : parsed) (v : Bytes) : parsed × Bool :=
  match v with
  | 43 :: _ =>
    match Semver.parseBuild v with
    | none => ({ p with build := [] }, false)
    | some (t, r) => endFull { p with build := t } r
  | _ => endFull p v

def preFull (p : parsed) (v : Bytes) : parsed × Bool :=
  match v with
  | 45 :: _ =>
    match Semver.parsePrerelease v with
    | none => ({ p with prerelease := [] }, false)
    | some (t, r) => buildFull { p with prerelease := t } r
  | _ => buildFull p v

/-- from the '.' before the patch number on (`v` is non-empty there) -/
def patchFull (p : parsed) (e : UInt8) (v5 : Bytes) : parsed × Bool :=
  if e ≠ 46 then (p, false) else
  match Semver.parseInt v5 with
  | none => ({ p with patch := [] }, false)
  | some (pat, v6) => preFull { p with patch := pat } v6

/-- from the '.' before the minor number on -/
def minorFull (p : parsed) (d : UInt8) (v3 : Bytes) : parsed × Bool :=
  if d ≠ 46 then (p, false) else
  match Semver.parseInt v3 with
  | none => ({ p with minor := [] }, false)
  | some (min, v4) =>
    match v4 with
    | [] => ({ p with minor := min, patch := [48], short := [46, 48] }, true)
    | e :: v5 => patchFull { p with minor := min } e v5

/-- `parse` with the named results Go returns also on failure (the partially filled struct): a mirror of the Go
    function over the model's sub-parsers.  `parseResidue` is its struct component. -/
def parseFull (v : Bytes) : parsed × Bool :=
  match v with
  | [] => (default, false)
  | c :: v1 =>
    if c ≠ 118 then (default, false) else
    match Semver.parseInt v1 with
    | none => ({ (default : parsed) with major := [] }, false)
    | some (maj, v2) =>
      match v2 with
      | [] => ({ (default : parsed) with major := maj, minor := [48], patch := [48], short := [46, 48, 46, 48] }, true)
      | d :: v3 => minorFull { (default : parsed) with major := maj } d v3

/-- the struct Go's `parse` returns together with ok = false (callers ignore it) -/
def parseResidue (v : Bytes) : parsed := (parseFull v).1

theorem parseInt_rest_len {v t r : Bytes} (h : Semver.parseInt v = some (t, r)) : r.length + 1 ≤ v.length := by
  cases v with
  | nil => simp [Semver.parseInt] at h
  | cons c rest =>
    simp only [Semver.parseInt] at h
    split at h
    · simp at h
    · split at h
      · simp at h
      · simp at h
        have := (List.dropWhile_sublist (l := rest) Semver.isDigit).length_le
        rw [← h.2]; simp; omega

theorem parsePrerelease_rest_len {v t r : Bytes} (h : Semver.parsePrerelease v = some (t, r)) :
    r.length + 1 ≤ v.length := by
  unfold Semver.parsePrerelease at h
  split at h
  · split at h
    · simp at h
      rename_i rest _
      have := (List.dropWhile_sublist (l := rest) (· != 43)).length_le
      rw [← h.2]; simp; omega
    · simp at h
  · simp at h

/-! The generated `parse` cut into stages (copied from Generated/FnSemver.lean; `parse_staged` checks by `rfl`
    that the pieces recompose to the generated definition, so any change of the source breaks it). -/

set_option linter.unusedVariables false in
def gEnd (p : parsed) (v : Bytes) (ok : Bool) : M (parsed × Bool) :=
  ((if (!decide (v = ([] : Bytes))) then (do
    let ok := false
    pure (p, ok)) else (do
    let ok := true
    pure (p, ok))) : M (parsed × Bool))

def gBuild (fuel : Nat) (p : parsed) (v : Bytes) (ok : Bool) : M (parsed × Bool) := ((do
  let t17 ← (if (decide ((len v) > (0 : Int))) then (do
    let t16 ← idx v (0 : Int)
    pure (decide (t16 = (43 : Int)))) else pure false)
  if t17 then (do
    let t19 ← (Generated.Semver.parseBuild fuel v)
    let (a20, v, ok) := t19
    let p := { p with build := a20 }
    if (!ok) then (pure (p, ok)) else (gEnd p v ok)) else (gEnd p v ok)) : M (parsed × Bool))

def gTail (fuel : Nat) (p : parsed) (v : Bytes) (ok : Bool) : M (parsed × Bool) := (do
  let t15 ← (if (decide ((len v) > (0 : Int))) then (do
    let t14 ← idx v (0 : Int)
    pure (decide (t14 = (45 : Int)))) else pure false)
  if t15 then (do
    let t22 ← (Generated.Semver.parsePrerelease fuel v)
    let (a23, v, ok) := t22
    let p := { p with prerelease := a23 }
    if (!ok) then (pure (p, ok)) else (gBuild fuel p v ok)) else (gBuild fuel p v ok))

set_option linter.unusedVariables false in
def gPatch (fuel : Nat) (p : parsed) (v : Bytes) (ok : Bool) : M (parsed × Bool) := (do
  let t10 ← idx v (0 : Int)
  if (!decide (t10 = (46 : Int))) then (do
    let ok := false
    pure (p, ok)) else (do
    let t11 ← sliceFrom v (1 : Int)
    let t12 ← (Generated.Semver.parseInt fuel t11)
    let (a13, v, ok) := t12
    let p := { p with patch := a13 }
    if (!ok) then (pure (p, ok)) else (gTail fuel p v ok)))

set_option linter.unusedVariables false in
def gMinor (fuel : Nat) (p : parsed) (v : Bytes) (ok : Bool) : M (parsed × Bool) := (do
  let t6 ← idx v (0 : Int)
  if (!decide (t6 = (46 : Int))) then (do
    let ok := false
    pure (p, ok)) else (do
    let t7 ← sliceFrom v (1 : Int)
    let t8 ← (Generated.Semver.parseInt fuel t7)
    let (a9, v, ok) := t8
    let p := { p with minor := a9 }
    if (!ok) then (pure (p, ok)) else (if (decide (v = ([] : Bytes))) then (do
      let p := { p with patch := ([48] : Bytes) }
      let p := { p with short := ([46, 48] : Bytes) }
      pure (p, ok)) else (gPatch fuel p v ok))))

def gParse (fuel : Nat) (v : Bytes) : M (parsed × Bool) := do
  let p := (default : parsed)
  let ok := false
  let t2 ← (if (decide (v = ([] : Bytes))) then pure true else (do
    let t1 ← idx v (0 : Int)
    pure (!decide (t1 = (118 : Int)))))
  if t2 then (pure (p, ok)) else (do
    let t3 ← sliceFrom v (1 : Int)
    let t4 ← (Generated.Semver.parseInt fuel t3)
    let (a5, v, ok) := t4
    let p := { p with major := a5 }
    if (!ok) then (pure (p, ok)) else (if (decide (v = ([] : Bytes))) then (do
      let p := { p with minor := ([48] : Bytes) }
      let p := { p with patch := ([48] : Bytes) }
      let p := { p with short := ([46, 48, 46, 48] : Bytes) }
      pure (p, ok)) else (gMinor fuel p v ok)))

theorem parse_staged (fuel : Nat) (v : Bytes) : Generated.Semver.parse fuel v = gParse fuel v := rfl

theorem gEnd_ok (p : parsed) (v : Bytes) (ok : Bool) : gEnd p v ok = .ok (endFull p v) := by
  cases v <;> simp [gEnd, endFull]

theorem gBuild_ok (fuel : Nat) (p : parsed) (v : Bytes) (ok : Bool) (hf : v.length ≤ fuel) :
    gBuild fuel p v ok = .ok (buildFull p v) := by
  cases v with
  | nil => simp [gBuild, gEnd_ok, buildFull]
  | cons c r =>
    have hpos : len (c :: r) > 0 := by simp [len_eq]
    unfold gBuild
    simp only [hpos, decide_true, if_true, idx_zero_cons, bind_ok, pure_eq_ok, gEnd_ok,
      byte_eq_int (n := 43) (d := 43) rfl]
    by_cases h : c = 43
    · subst h
      simp only [decide_true, if_true, parseBuild_ok _ fuel hf, bind_ok, buildFull]
      cases hp : Semver.parseBuild (43 :: r) with
      | none => simp
      | some tr => obtain ⟨t, r'⟩ := tr; simp
    · simp only [h, decide_false, Bool.false_eq_true, if_false]
      unfold buildFull
      split
      · rename_i heq; simp at heq; exact absurd heq.1 h
      · rfl

theorem gTail_ok (fuel : Nat) (p : parsed) (v : Bytes) (ok : Bool) (hf : 2 * v.length ≤ fuel) :
    gTail fuel p v ok = .ok (preFull p v) := by
  cases v with
  | nil => simp [gTail, gBuild_ok, preFull]
  | cons c r =>
    have hpos : len (c :: r) > 0 := by simp [len_eq]
    unfold gTail
    simp only [hpos, decide_true, if_true, idx_zero_cons, bind_ok, pure_eq_ok,
      byte_eq_int (n := 45) (d := 45) rfl]
    by_cases h : c = 45
    · subst h
      simp only [decide_true, if_true, parsePrerelease_ok _ fuel hf, bind_ok, preFull]
      cases hp : Semver.parsePrerelease (45 :: r) with
      | none => simp
      | some tr =>
        obtain ⟨t, r'⟩ := tr
        have := parsePrerelease_rest_len hp
        simp [gBuild_ok fuel _ r' true (by omega)]
    · simp only [h, decide_false, Bool.false_eq_true, if_false]
      rw [gBuild_ok fuel p (c :: r) ok (by omega)]
      unfold preFull
      split
      · rename_i heq; simp at heq; exact absurd heq.1 h
      · rfl

theorem gPatch_ok (fuel : Nat) (p : parsed) (e : UInt8) (v5 : Bytes) (ok : Bool) (hf : 2 * (v5.length + 1) ≤ fuel) :
    gPatch fuel p (e :: v5) ok = .ok (patchFull p e v5) := by
  unfold gPatch patchFull
  simp only [idx_zero_cons, sliceFrom_one_cons, bind_ok, pure_eq_ok, byte_eq_int (n := 46) (d := 46) rfl,
    parseInt_ok v5 fuel (by omega)]
  by_cases h : e = 46
  · simp only [h, decide_true, Bool.not_true, Bool.false_eq_true, if_false, ne_eq, not_true_eq_false]
    cases hp : Semver.parseInt v5 with
    | none => simp
    | some tr =>
      obtain ⟨t, r'⟩ := tr
      have := parseInt_rest_len hp
      simp [gTail_ok fuel _ r' true (by omega)]
  · simp [h]

theorem gMinor_ok (fuel : Nat) (p : parsed) (d : UInt8) (v3 : Bytes) (ok : Bool) (hf : 2 * (v3.length + 1) ≤ fuel) :
    gMinor fuel p (d :: v3) ok = .ok (minorFull p d v3) := by
  unfold gMinor minorFull
  simp only [idx_zero_cons, sliceFrom_one_cons, bind_ok, pure_eq_ok, byte_eq_int (n := 46) (d := 46) rfl,
    parseInt_ok v3 fuel (by omega)]
  by_cases h : d = 46
  · simp only [h, decide_true, Bool.not_true, Bool.false_eq_true, if_false, ne_eq, not_true_eq_false]
    cases hp : Semver.parseInt v3 with
    | none => simp
    | some tr =>
      obtain ⟨t, r'⟩ := tr
      have := parseInt_rest_len hp
      cases r' with
      | nil => simp
      | cons e v5 =>
        simp only [List.length_cons] at this
        simp [gPatch_ok fuel _ e v5 true (by omega)]
  · simp [h]

theorem gParse_ok (fuel : Nat) (v : Bytes) (hf : 2 * v.length ≤ fuel) : gParse fuel v = .ok (parseFull v) := by
  cases v with
  | nil => simp [gParse, parseFull]
  | cons c v1 =>
    simp only [List.length_cons] at hf
    unfold gParse parseFull
    simp only [idx_zero_cons, sliceFrom_one_cons, bind_ok, pure_eq_ok, byte_eq_int (n := 118) (d := 118) rfl,
      parseInt_ok v1 fuel (by omega)]
    by_cases h : c = 118
    · simp only [h, decide_true, Bool.not_true, if_false, ne_eq, not_true_eq_false]
      cases hp : Semver.parseInt v1 with
      | none => simp
      | some tr =>
        obtain ⟨t, r'⟩ := tr
        have := parseInt_rest_len hp
        cases r' with
        | nil => simp
        | cons d v3 =>
          simp only [List.length_cons] at this
          simp [gMinor_ok fuel _ d v3 true (by omega)]
    · simp [h]

/-! ### the mirror agrees with the model's `parse` -/

theorem build_rel (p : Semver.Parsed) (v : Bytes) :
    (∀ q r, Semver.parseBuildOpt p v = some (q, r) → buildFull (ofParsed p) v = endFull (ofParsed q) r) ∧
    (Semver.parseBuildOpt p v = none → (buildFull (ofParsed p) v).2 = false) := by
  unfold Semver.parseBuildOpt buildFull
  split
  · cases hb : Semver.parseBuild _ with
    | none => simp
    | some tr => obtain ⟨t, r'⟩ := tr; simp; rfl
  · rename_i hne
    split
    · exact absurd rfl (hne _)
    · simp

theorem pre_rel (p : Semver.Parsed) (v : Bytes) :
    (∀ q r, Semver.parsePreOpt p v = some (q, r) → preFull (ofParsed p) v = buildFull (ofParsed q) r) ∧
    (Semver.parsePreOpt p v = none → (preFull (ofParsed p) v).2 = false) := by
  unfold Semver.parsePreOpt preFull
  split
  · cases hb : Semver.parsePrerelease _ with
    | none => simp
    | some tr => obtain ⟨t, r'⟩ := tr; simp; rfl
  · rename_i hne
    split
    · exact absurd rfl (hne _)
    · simp

theorem tail_rel (p : Semver.Parsed) (v : Bytes) :
    (∀ q, Semver.parseTail p v = some q → preFull (ofParsed p) v = (ofParsed q, true)) ∧
    (Semver.parseTail p v = none → (preFull (ofParsed p) v).2 = false) := by
  unfold Semver.parseTail
  cases h1 : Semver.parsePreOpt p v with
  | none => simp [(pre_rel p v).2 h1]
  | some pr =>
    obtain ⟨p1, v1⟩ := pr
    rw [(pre_rel p v).1 p1 v1 h1]
    cases h2 : Semver.parseBuildOpt p1 v1 with
    | none => simp [(build_rel p1 v1).2 h2, h2]
    | some pr2 =>
      obtain ⟨p2, v2⟩ := pr2
      rw [(build_rel p1 v1).1 p2 v2 h2]
      cases v2 <;> simp [endFull, h2]

theorem B_dot00 : B ".0.0" = [46, 48, 46, 48] := by decide +kernel
theorem B_dot0 : B ".0" = [46, 48] := by decide +kernel

theorem parseFull_rel (v : Bytes) :
    (∀ q, Semver.parse v = some q → parseFull v = (ofParsed q, true)) ∧
    (Semver.parse v = none → (parseFull v).2 = false) := by
  unfold Semver.parse parseFull
  cases v with
  | nil => simp
  | cons c v1 =>
    by_cases hc : c = 118
    · subst hc
      simp only [ne_eq, not_true_eq_false, if_false]
      cases h1 : Semver.parseInt v1 with
      | none => simp
      | some tr =>
        obtain ⟨maj, v2⟩ := tr
        simp only
        cases v2 with
        | nil => simp [ofParsed, B_dot00]; exact ⟨rfl, rfl⟩
        | cons d v3 =>
          unfold minorFull
          by_cases hd : d = 46
          · subst hd
            simp only [ne_eq, not_true_eq_false, if_false]
            cases h2 : Semver.parseInt v3 with
            | none => simp
            | some tr2 =>
              obtain ⟨min, v4⟩ := tr2
              simp only
              cases v4 with
              | nil => simp [ofParsed, B_dot0]; exact ⟨rfl, rfl⟩
              | cons e v5 =>
                unfold patchFull
                by_cases he : e = 46
                · subst he
                  simp only [ne_eq, not_true_eq_false, if_false]
                  cases h3 : Semver.parseInt v5 with
                  | none => simp
                  | some tr3 =>
                    obtain ⟨pat, v6⟩ := tr3
                    simp only
                    exact tail_rel { major := maj, minor := min, patch := pat } v6
                · simp [he]
          · simp [hd]
    · simp [hc]

theorem parse_ok (v : Bytes) (fuel : Nat) (hf : 2 * v.length ≤ fuel) :
    Generated.Semver.parse fuel v =
      .ok (match Semver.parse v with | some p => (ofParsed p, true) | none => (parseResidue v, false)) := by
  rw [parse_staged, gParse_ok fuel v hf]
  cases h : Semver.parse v with
  | none =>
    have := (parseFull_rel v).2 h
    simp only [parseResidue]
    rw [← this]
  | some q => simp [(parseFull_rel v).1 q h]

end ModVerif.TieFnSemver
