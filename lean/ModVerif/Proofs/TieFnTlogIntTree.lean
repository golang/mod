/-
  Tie proofs: `subTreeIndex` (the loop over the maximal complete subtrees of `[lo, hi)`).
-/
import ModVerif.Proofs.TieFnTlogInt
namespace ModVerif.TieFnTlogInt
open ModVerif ModVerif.GoRt

theorem storedHashIndex_lt_S (l q : Nat) : Tlog.storedHashIndex l q < Tlog.S ((q + 1) * 2 ^ l) := by
  have hpos : 0 < (q + 1) * 2 ^ l := Nat.mul_pos (by omega) (Nat.two_pow_pos l)
  have hl := Tlog.le_tz_mul_pow l (q + 1) (by omega)
  have hS := Tlog.S_succ ((q + 1) * 2 ^ l - 1)
  rw [Nat.sub_add_cancel hpos] at hS
  rw [Tlog.storedHashIndex_eq]
  omega

theorem storedHashIndex_lt_of_le (l q : Nat) (h : (q + 1) * 2 ^ l ≤ 2 ^ 62) : Tlog.storedHashIndex l q < 2 ^ 63 := by
  have h1 := storedHashIndex_lt_S l q
  have h2 := Tlog.S_le_two_mul ((q + 1) * 2 ^ l)
  omega

/-- the result of the model (`List Nat`, model errors) in the result type of the generated loop -/
def stiOut (need : List Int) (final : Int) : Except Tlog.Err (List Nat) → M (List Int × Int)
  | .ok l => .ok (need ++ l.map Int.ofNat, final)
  | .error _ => .error .panic

theorem subTreeIndex_loop1_eq : ∀ (m f lo hi fuel : Nat) (need : List Int),
    hi - lo < 2 ^ m → hi - lo ≤ f → m + 64 ≤ fuel → hi ≤ 2 ^ 62 →
    Generated.Tlog.subTreeIndex_loop1 (hi : Int) fuel need (lo : Int) =
      stiOut need ((max lo hi : Nat) : Int) (Tlog.subTreeIndexF f lo hi) := by
  intro m
  induction m with
  | zero =>
    intro f lo hi fuel need hm _ hfuel _
    obtain ⟨g, rfl⟩ : ∃ g, fuel = g + 1 := ⟨fuel - 1, by omega⟩
    have hlt : ¬ lo < hi := by simp at hm; omega
    have hlt' : ¬ ((lo : Int) < (hi : Int)) := by omega
    have hmax : max lo hi = lo := by omega
    have hmod : Tlog.subTreeIndexF f lo hi = .ok [] := by cases f <;> simp [Tlog.subTreeIndexF, hlt]
    simp [Generated.Tlog.subTreeIndex_loop1, hlt', hmod, stiOut, hmax]
  | succ m ih =>
    intro f lo hi fuel need hm hf hfuel hr
    obtain ⟨g, rfl⟩ : ∃ g, fuel = g + 1 := ⟨fuel - 1, by omega⟩
    by_cases hlt : lo < hi
    · obtain ⟨f', rfl⟩ : ∃ f', f = f' + 1 := ⟨f - 1, by omega⟩
      have hlt' : ((lo : Int) < (hi : Int)) := by omega
      have hk := Tlog.maxpow2_fst_eq (hi - lo + 1)
      have hklt := Tlog.maxpow2_lt (hi - lo + 1) (by omega)
      have hk2' := Tlog.maxpow2_le_two_mul (hi - lo + 1) (by omega) (by omega)
      have hl62 : (Tlog.maxpow2 (hi - lo + 1)).2 ≤ 62 := by rw [Tlog.maxpow2_eq]; exact Nat.min_le_left _ _
      have hmp := Tie.FnTlogProof.maxpow2_ok g ((hi - lo + 1 : Nat) : Int) (by omega) (Or.inl (by omega))
      rw [Int.toNat_natCast] at hmp
      generalize hkl : Tlog.maxpow2 (hi - lo + 1) = kl at hk hklt hk2' hl62 hmp
      obtain ⟨k, level⟩ := kl
      simp only at hk hklt hk2' hl62 hmp
      have hkpos : 0 < k := by rw [hk]; exact Nat.two_pow_pos _
      have e1 : (hi : Int) - (lo : Int) = ((hi - lo : Nat) : Int) := by omega
      have e2 : ((hi - lo : Nat) : Int) + 1 = ((hi - lo + 1 : Nat) : Int) := by omega
      have e3 : (k : Int) - 1 = ((k - 1 : Nat) : Int) := by omega
      rw [Generated.Tlog.subTreeIndex_loop1, Tlog.subTreeIndexF]
      simp only [hlt, hlt', decide_true, ↓reduceIte, e1, chk64_natCast (show hi - lo < 2 ^ 63 by omega), mbind_ok, e2,
        chk64_natCast (show hi - lo + 1 < 2 ^ 63 by omega), hmp, hkl, e3, chk64_natCast (show k - 1 < 2 ^ 63 by omega),
        band_natCast (show lo < 2 ^ 64 by omega) (show k - 1 < 2 ^ 64 by omega)]
      by_cases hand : lo &&& (k - 1) = 0
      · -- `lo` is a multiple of `k = 2^level`: the node is `(level, lo / k)`, its subtree ends at `lo + k ≤ hi`
        have hmod : lo % 2 ^ level = 0 := by
          rw [← Nat.and_two_pow_sub_one_eq_mod, ← hk]; exact hand
        have hq : (lo >>> level + 1) * 2 ^ level = lo + k := by
          rw [Nat.shiftRight_eq_div_pow, Nat.add_mul, Nat.one_mul, hk]
          have := Nat.div_add_mod lo (2 ^ level)
          rw [hmod, Nat.add_zero, Nat.mul_comm] at this
          rw [this]
        have hshi_lt := storedHashIndex_lt_S level (lo >>> level)
        rw [hq] at hshi_lt
        have hSmono := TlogStore.S_mono hi (lo + k) (by omega)
        have hS2 := Tlog.S_le_two_mul hi
        have hshi := StoredHashIndex_eq g level (lo >>> level) (by omega) (by omega)
        have e4 : (lo : Int) + (k : Int) = ((lo + k : Nat) : Int) := by omega
        have hk_le : k ≤ 2 ^ m := by
          have hlm : level < m + 1 := by
            apply Nat.lt_of_not_le
            intro hc
            have : 2 ^ (m + 1) ≤ 2 ^ level := Nat.pow_le_pow_right (by omega) hc
            omega
          rw [hk]; exact Nat.pow_le_pow_right (by omega) (by omega)
        have hih := ih f' (lo + k) hi g (need ++ [((Tlog.storedHashIndex level (lo >>> level) : Nat) : Int)])
          (by omega) (by omega) (by omega) hr
        have hmax : max (lo + k) hi = max lo hi := by omega
        rw [hmax] at hih
        have hne : (((lo &&& (k - 1) : Nat) : Int) = 0) := by omega
        have hbne : (lo &&& (k - 1) != 0) = false := by simp [hand]
        simp only [hne, decide_true, Bool.not_true, Bool.false_eq_true, ↓reduceIte, toU64_natCast (show level < 2 ^ 64 by omega),
          shr_natCast, mbind_ok, hshi, e4, chk64_natCast (show lo + k < 2 ^ 63 by omega), hih, hbne]
        cases Tlog.subTreeIndexF f' (lo + k) hi with
        | error e => rfl
        | ok rest => simp [stiOut, bind, Except.bind, pure, Except.pure]
      · have hne : ¬ (((lo &&& (k - 1) : Nat) : Int) = 0) := by omega
        simp [hand, stiOut]
    · have hlt' : ¬ ((lo : Int) < (hi : Int)) := by omega
      have hmax : max lo hi = lo := by omega
      have hmod : Tlog.subTreeIndexF f lo hi = .ok [] := by cases f <;> simp [Tlog.subTreeIndexF, hlt]
      simp [Generated.Tlog.subTreeIndex_loop1, hlt', hmod, stiOut, hmax]

/-- the model's answer in the result type of the generated `subTreeIndex`: the indexes are appended to `need`; a model
    error (only `panic` is possible: `Tlog.subTreeIndex_ne_fuel`) is the "bad math in subTreeIndex" panic -/
def subTreeIndexOut (need : List Int) : Except Tlog.Err (List Nat) → M (List Int)
  | .ok l => .ok (need ++ l.map Int.ofNat)
  | .error _ => .error .panic

theorem subTreeIndex_eq (fuel lo hi : Nat) (need : List Int) (hr : hi ≤ 2 ^ 62) (hf : 127 ≤ fuel) :
    Generated.Tlog.subTreeIndex fuel (lo : Int) (hi : Int) need = subTreeIndexOut need (Tlog.subTreeIndex lo hi) := by
  have h63 : hi - lo < 2 ^ 63 := by omega
  have := subTreeIndex_loop1_eq 63 (hi - lo) lo hi fuel need h63 (Nat.le_refl _) (by omega) hr
  simp only [Generated.Tlog.subTreeIndex, this, Tlog.subTreeIndex]
  cases Tlog.subTreeIndexF (hi - lo) lo hi with
  | error e => rfl
  | ok l => rfl

/-- `hi ≤ lo` (in particular a negative `hi`): the loop does not run -/
theorem subTreeIndex_empty (fuel : Nat) (lo hi : Int) (need : List Int) (h : hi ≤ lo) (hf : 1 ≤ fuel) :
    Generated.Tlog.subTreeIndex fuel lo hi need = .ok need := by
  obtain ⟨g, rfl⟩ : ∃ g, fuel = g + 1 := ⟨fuel - 1, by omega⟩
  have : ¬ lo < hi := by omega
  simp [Generated.Tlog.subTreeIndex, Generated.Tlog.subTreeIndex_loop1, this]

theorem subTreeIndex_model_empty (lo hi : Nat) (h : hi ≤ lo) : Tlog.subTreeIndex lo hi = .ok [] := by
  have : hi - lo = 0 := by omega
  have hlt : ¬ lo < hi := by omega
  simp [Tlog.subTreeIndex, this, Tlog.subTreeIndexF, hlt]

end ModVerif.TieFnTlogInt
