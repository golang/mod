/-
  Helper lemmas for Tie/FnEditReq.lean: `File_AddNewRequire` and `File_AddRequire` of the regenerated go.mod edit
  operations (Generated/FnEdit.lean) against the model's `addNewRequire` / `addRequire` (`firstRest`).

  `AddNewRequire` edits the line it has just added (`setIndirect`): for that the new line of the model's `addLine` is shown to
  be in the tree and to carry no comments (`addLine_new`, `addLine_file`).  `AddRequire` is an instance of
  `FnEditTyped.addOp_sim`.
-/
import ModVerif.Proofs.TieFnEditReqA
import ModVerif.Proofs.TieFnEditTreeB
import ModVerif.Proofs.TieFnEditTypedAdd
import ModVerif.Proofs.EditMoreSepD
namespace ModVerif.Tie.FnEditReqB
open ModVerif ModVerif.GoRt ModVerif.Generated.Edit ModVerif.Tie.FnEditRep ModVerif.Tie.FnEditTreeA ModVerif.Tie.FnEditReqA
  ModVerif.Tie.FnEditTyped ModVerif.Tie.FnEditLoop
open ModVerif.Tie.FnEditWorkA (updFirst)
open ModVerif.Modfile.Edit (firstRest EditErr EFile addLine mkLine loc locStmt)
open ModVerif.TieFnEditAddLine (nodeCount Frame hintG addLine_rep)
open ModVerif.Drv.GenEdit (isPrintI quoteI)

def IsNew (new : Nat) (l : Modfile.Line) : Prop := l.id = new ∧ l.comments = {}

theorem isNew_mkLine (new : Nat) (t : List Bytes) (b : Bool) : IsNew new (mkLine new t b) := ⟨rfl, rfl⟩

theorem grown_new {tokens : List Bytes} {new : Nat} {x : Modfile.Expr} {g : List Modfile.Expr}
    (hg : Modfile.Edit.Grown tokens new x g) : ∃ q ∈ loc g, IsNew new q.2 := by
  cases hg with
  | after x => exact ⟨([], mkLine new tokens false), by simp [loc, locStmt], isNew_mkLine _ _ _⟩
  | conv l hl hv =>
    exact ⟨(l.token.take 1, mkLine new (tokens.drop 1) true), by simp [loc, locStmt, Modfile.Edit.convBlock], isNew_mkLine _ _ _⟩
  | block b l1 l2 hb hv => exact ⟨(b.token, mkLine new (tokens.drop 1) true), by simp [loc, locStmt], isNew_mkLine _ _ _⟩

theorem addLine_new (fs : Modfile.FileSyntax) (hint : Option Nat) (tokens : List Bytes) (new : Nat) :
    ∃ q ∈ loc (addLine fs hint tokens new).stmts, IsNew new q.2 := by
  rcases Modfile.Edit.addLine_grown fs hint tokens new with h | ⟨pre, x, post, g, -, hg, h⟩
  · rw [h]
    exact ⟨([], mkLine new tokens false), by simp [locStmt, loc], isNew_mkLine _ _ _⟩
  · obtain ⟨q, hq, hn⟩ := grown_new hg
    exact ⟨q, by rw [h, Modfile.Edit.loc_append, Modfile.Edit.loc_append]; simp [hq], hn⟩


theorem get_of_eq {α : Type} {l l' : List α} (he : l' = l) : ∀ (p : Int) (v : α), heapGet l p = .ok v → heapGet l' p = .ok v := by
  subst he; exact fun _ _ x => x

theorem RepF.ofSetMods {h : Heap} {fp : Int} {o o' : File} {e : EFile} (ho : heapGet h.mods fp = .ok o) (R : RepFAt h o' e) :
    ∃ m, heapSet h.mods fp o' = .ok m ∧ RepF { h with mods := m } fp e :=
  ⟨_, heapSet_of_get _ ho, RepF.setMods ho R⟩

theorem addLine_file {h : Heap} {o : File} {e : EFile} (R : RepFAt h o e) (hint : Option Nat) (t0 : Bytes)
    (trest : List Bytes) (fuel : Nat) (hf : nodeCount e.f.syn.stmts + 3 ≤ fuel) :
    ∃ h' l, FileSyntax_addLine fuel o.Syntax (hintG hint) (t0 :: trest) h = .ok ((e.next : Int), h') ∧ Frame h h' ∧
      RepFAt h' o { f := { e.f with syn := addLine e.f.syn hint (t0 :: trest) e.next }, next := e.next + 1 } ∧
      heapGet h'.lines (e.next : Int) = .ok (lineG l) ∧ IsNew e.next l ∧
      (addLine e.f.syn hint (t0 :: trest) e.next).findLine e.next = some l := by
  obtain ⟨h', h1, h2, h3, h4, h5, _, h6, _⟩ := addLine_rep R.syn R.tok hint t0 trest fuel hf
  have hn := R.next
  rw [← hn] at h1 h2 h3
  obtain ⟨q, hq, hnew⟩ := addLine_new e.f.syn hint (t0 :: trest) e.next
  obtain ⟨es, r⟩ := h2
  have hloc := (r.stmts.loc q hq).2.2
  rw [hnew.1] at hloc
  have hfind := Modfile.Edit.findLine_of_loc _ r.nodupL q hq
  rw [hnew.1] at hfind
  refine ⟨h', q.2, h1, h6, ?_, hloc, hnew, hfind⟩
  exact R.afterAddLine h6 ⟨es, r⟩ h3 (h4 R.linesG) h5

theorem RepFAt.ofFrame {h h' : Heap} {o : File} {e : EFile} (R : RepFAt h o e) (F : Frame h h') {syn' : Modfile.FileSyntax}
    (hs : RepSyn h' o.Syntax syn') (ht : BlockTokOK syn'.stmts) (hG : LinesG h') (hn : h.lines.length ≤ h'.lines.length) :
    RepFAt h' o { f := { e.f with syn := syn' }, next := h'.lines.length + 1 } := R.ofSyn F.sameTyped hn hs ht hG

theorem RepFAt.setMods {h : Heap} {o : File} {e : EFile} (R : RepFAt h o e) (m : List File) : RepFAt { h with mods := m } o e :=
  R.congrMods m

theorem RepFAt.pushExclude {h : Heap} {o : File} {e : EFile} (R : RepFAt h o e) (y : Modfile.Exclude) (hy : y.lineId ≤ h.lines.length) :
    RepFAt { h with excludes := h.excludes ++ [excludeG y] } { o with Exclude := o.Exclude ++ [((h.excludes.length + 1 : Nat) : Int)] }
      { e with f := { e.f with exclude := e.f.exclude ++ [y] } } := R.withExclude (R.exclude.push y hy)

theorem RepFAt.pushRetract {h : Heap} {o : File} {e : EFile} (R : RepFAt h o e) (y : Modfile.Retract) (hy : y.lineId ≤ h.lines.length) :
    RepFAt { h with retracts := h.retracts ++ [retractG y] } { o with Retract := o.Retract ++ [((h.retracts.length + 1 : Nat) : Int)] }
      { e with f := { e.f with retract := e.f.retract ++ [y] } } := R.withRetract (R.retract.push y hy)

theorem RepFAt.pushReplace {h : Heap} {o : File} {e : EFile} (R : RepFAt h o e) (y : Modfile.Replace) (hy : y.lineId ≤ h.lines.length) :
    RepFAt { h with replaces := h.replaces ++ [replaceG y] } { o with Replace := o.Replace ++ [((h.replaces.length + 1 : Nat) : Int)] }
      { e with f := { e.f with replace := e.f.replace ++ [y] } } :=
  R.withReplace (R.replace.push y hy)

theorem AutoQuote_ok (s : Bytes) (fuel : Nat) (hf : s.length + 1 ≤ fuel) :
    AutoQuote isPrintI quoteI fuel s = .ok (Modfile.autoQuote s) := by
  rw [FnEditTreeB.AutoQuote_eq]; exact Tie.FnModfile.AutoQuote_tie s fuel hf

theorem _root_.ModVerif.Tie.FnEditWorkA.AutoQuote_eq (s : Bytes) (fuel : Nat) (hf : s.length + 1 ≤ fuel) :
    AutoQuote Drv.GenEdit.isPrintI Drv.GenEdit.quoteI fuel s = .ok (Modfile.autoQuote s) := AutoQuote_ok s fuel hf

theorem isIndirect_of_isNew {new : Nat} {l : Modfile.Line} (hn : IsNew new l) : Modfile.isIndirect l = false := by
  simp [Modfile.isIndirect, hn.2]

theorem set_snoc_last {α : Type} (xs : List α) (y z : α) {n : Nat} (hn : n = xs.length) : (xs ++ [y]).set n z = xs ++ [z] := by
  subst hn; exact set_alloc_last xs y z

/-- the tail of `AddNewRequire`: the `Require` object is allocated with the new line, then `setIndirect` -/
theorem newRequire_heap {h1 : Heap} {o : File} {e1 : EFile} (R1 : RepFAt h1 o e1) {id : Nat} {l : Modfile.Line}
    (hl : heapGet h1.lines (id : Int) = .ok (lineG l)) (hI : Modfile.isIndirect l = false) (hid : id ≤ h1.lines.length)
    (m : Modfile.ModVersion) (ind : Bool) :
    Require_setIndirect ((h1.requires.length + 1 : Nat) : Int) ind
        { h1 with requires := h1.requires ++ [requireG { mod := m, indirect := false, lineId := id }] } =
      .ok ((), { setLineH h1 (id : Int) (Modfile.Edit.setIndirectLine ind l) with
                   requires := h1.requires ++ [requireG { mod := m, indirect := ind, lineId := id }] }) ∧
    RepFAt { setLineH h1 (id : Int) (Modfile.Edit.setIndirectLine ind l) with
               requires := h1.requires ++ [requireG { mod := m, indirect := ind, lineId := id }] }
      { o with Require := o.Require ++ [((h1.requires.length + 1 : Nat) : Int)] }
      { e1 with f := { e1.f with require := e1.f.require ++ [{ mod := m, indirect := ind, lineId := id }],
                                 syn := e1.f.syn.updateLine id (Modfile.Edit.setIndirectLine ind) } } := by
  constructor
  · have hr : heapGet (h1.requires ++ [requireG { mod := m, indirect := false, lineId := id }]) ((h1.requires.length + 1 : Nat) : Int)
        = .ok (requireG { mod := m, indirect := false, lineId := id }) := heapGet_alloc_new _ _
    have hs := Require_setIndirect_eq (h := { h1 with requires := h1.requires ++ [requireG { mod := m, indirect := false, lineId := id }] })
      (rq := { mod := m, indirect := false, lineId := id }) (l := l) ind hr hl
      (fun _ hi => by rw [hI] at hi; cases hi)
    rw [hs]
    simp [setLineH]
  · have R2 := R1.setLine (IdEquiv_setIndirectLine ind) hl
    have R3 := R2.withRequire (R2.require.push { mod := m, indirect := ind, lineId := id } (by simpa using hid))
    simpa using R3

theorem File_AddNewRequire_simAt {h : Heap} {fp : Int} {o : File} {e : EFile} (ho : heapGet h.mods fp = .ok o)
    (R : RepFAt h o e) (path vers : Bytes) (indirect : Bool) (fuel : Nat) (hf : nodeCount e.f.syn.stmts + 3 ≤ fuel)
    (hq : path.length + 1 ≤ fuel) :
    ∃ h', File_AddNewRequire isPrintI quoteI fuel fp path vers indirect h = .ok ((), h') ∧
      RepF h' fp (Modfile.Edit.addNewRequire e path vers indirect) := by
  obtain ⟨h1, l, a1, F, R1, hl, hnew, _⟩ := addLine_file R none (B "require") [Modfile.autoQuote path, vers] fuel hf
  have hlen1 : h1.lines.length = e.next := by have := R1.next; simp at this; omega
  obtain ⟨hs, R3⟩ := newRequire_heap R1 hl (isIndirect_of_isNew hnew) (by omega) { path := path, version := vers } indirect
  have hm : h1.mods = h.mods := F.mods
  obtain ⟨m, hset, RF⟩ := RepF.ofSetMods (h := _) (fp := fp) (o := o) (by show heapGet h1.mods fp = .ok o; rw [hm]; exact ho) R3
  refine ⟨_, ?_, RF⟩
  unfold File_AddNewRequire
  simp only [ho, bind_ok, AutoQuote_ok path fuel hq]
  have hB : ([114, 101, 113, 117, 105, 114, 101] : Bytes) = B "require" := by decide +kernel
  rw [hB, show (Expr.nil) = hintG none from rfl, a1]
  simp only [bind_ok, heapAlloc]
  erw [hs]
  have hg1 : heapGet h1.mods fp = .ok o := by rw [hm]; exact ho
  have hset' : heapSet h1.mods fp { o with Require := o.Require ++ [((h1.requires.length + 1 : Nat) : Int)] } = .ok m := hset
  simp only [bind_ok, setLineH_mods, hg1, hset', pure_eq_ok]

def reqTokens (path vers : Bytes) : List Bytes := [B "require", Modfile.autoQuote path, vers]

theorem AddRequire_body (f : Int) (path vers : Bytes) (rx : List Int) (fuel : Nat) (ri : Int) (h : Heap) (need : Bool) :
    File_AddRequire_loop1 isPrintI quoteI rx f path vers (fuel + 1) ri h need =
      updBody requireT (fun _ _ a => pure (decide (a.Mod.Path = path))) (fun a => { a with Mod := { a.Mod with Version := vers } })
        (fun fuel => do let t ← AutoQuote isPrintI quoteI fuel path; pure [[114, 101, 113, 117, 105, 114, 101], t, vers]) (·.Syntax) f rx fuel
        (File_AddRequire_loop1 isPrintI quoteI rx f path vers fuel) ri h need := by
  conv => lhs; unfold File_AddRequire_loop1
  simp only [updBody, bind_assoc, pure_bind]

theorem File_AddRequire_sim {h : Heap} {fp : Int} {e : EFile} (R : RepF h fp e) (path vers : Bytes) (fuel : Nat)
    (hf : e.f.require.length + path.length + 2 ≤ fuel) (hf2 : nodeCount e.f.syn.stmts + 3 ≤ fuel) :
    match Modfile.Edit.addRequire e path vers with
    | .ok e' => ∃ h', File_AddRequire isPrintI quoteI fuel fp path vers h = .ok (none, h') ∧ RepF h' fp e'
    | .error _ => File_AddRequire isPrintI quoteI fuel fp path vers h = .error .panic := by
  obtain ⟨o, ho, R⟩ := R
  have hB : ([114, 101, 113, 117, 105, 114, 101] : Bytes) = B "require" := by decide +kernel
  have X := addOp_sim modK_ok requireT_ok (cleared := Modfile.Edit.clearedRequire) rfl rfl (fun r => r.mod.path == path)
    (fun _ _ a => pure (decide (a.Mod.Path = path))) (fun _ _ x _ => congrArg Except.ok (FnEditWorkA.bytes_beq_eq_decide _ _).symm)
    (fun r => { r with mod := { r.mod with version := vers } }) (fun a => { a with Mod := { a.Mod with Version := vers } })
    (fun _ => rfl) (fun _ => rfl) (reqTokens path vers) (by simp [reqTokens])
    (fun fuel => do let t ← AutoQuote isPrintI quoteI fuel path; pure [[114, 101, 113, 117, 105, 114, 101], t, vers]) path.length
    (fun fuel hk => by rw [AutoQuote_ok path fuel (by omega), hB]; rfl)
    (·.Syntax) fp o (File_AddRequire_loop1 isPrintI quoteI o.Require fp path vers) (AddRequire_body fp path vers o.Require)
    (fuel := fuel) R ho (by show e.f.require.length + path.length < fuel; omega)
    (addNew := File_AddNewRequire isPrintI quoteI fuel fp path vers false)
    (eNew := fun _ => Modfile.Edit.addNewRequire e path vers false)
    (fun h1 ⟨o1, ho1, R1⟩ => File_AddNewRequire_simAt ho1 R1 path vers false fuel hf2 (by omega))
  refine tieF ?_
  unfold Modfile.Edit.addRequire
  simp only [File_AddRequire, ho, bind_ok]
  exact X

protected theorem firstRest_false_first {α : Type} (m : α → Bool) (id : α → Nat) (upd : α → α) (cleared : α) :
    ∀ (xs : List α) (rest : List α) (first : Option Nat) (dead : List Nat),
      firstRest m id upd cleared xs false = .ok (rest, first, dead) → first = none :=
  FnEditWorkA.firstRest_false_first m id upd cleared

protected theorem firstRest_true_none {α : Type} (m : α → Bool) (id : α → Nat) (upd : α → α) (cleared : α) :
    ∀ (xs : List α) (rest : List α) (dead : List Nat),
      firstRest m id upd cleared xs true = .ok (rest, none, dead) → rest = xs ∧ dead = [] :=
  fun xs _ _ h => (Modfile.Edit.firstRest_none m id upd cleared xs _ _ h).2

end ModVerif.Tie.FnEditReqB
