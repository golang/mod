/-
  Tie proof, zip/zip.go directory functions: the file system the driver builds from a model tree (`Drv/GenZipDir.lean`:
  the tree is placed at the directory "t"; `walkRoot` / `os.Lstat` / `os.Open` / `os.ReadFile` look a path up by name with
  `lookup`) satisfies the hypotheses of the tie theorems (`ChildrenOK`, Proofs/TieFnZipDirWalk.lean) for EVERY tree whose
  names are ordinary path elements, pairwise distinct among siblings, and whose files all have an `Lstat` result.
-/
import ModVerif.Proofs.TieFnZipDirWalk
namespace ModVerif.TieFnZipDir
open ModVerif ModVerif.GoRt ModVerif.PathClean ModVerif.ZipSpec ModVerif.Proofs.ZipB
open ModVerif.Generated.Zip (File FileError FileInfo)
open ModVerif.Drv.GenZipDir (toFs toFsList dirInfo lookup findNode compsOf)
open ModVerif.Drv.Zip (tdir)

/-- `walkRoot` / `os.Lstat` / `os.Open` / `os.ReadFile` as the driver (`Drv/GenZipDir.lean`, `env`) builds them from a model
    tree placed at the directory "t": lookup by name -/
def drvWalkRoot (root : List (Bytes × Zip.Node)) : Bytes → FsTree FileInfo :=
  fun p => match lookup root p with | some n => toFs n | none => .file default

def drvLstat (root : List (Bytes × Zip.Node)) : Bytes → (FileInfo × Option String) :=
  fun p => match lookup root p with
    | some n => ((toFs n).info, none)
    | none => (default, some "lstat")

def drvOpen (root : List (Bytes × Zip.Node)) : Bytes → (Bytes × Option String) :=
  fun p => match lookup root p with
    | some (.file _ _ c _) => (c, none)
    | _ => ([], some "open")

/-- `g`: the op's explicit "the root go.mod says go ≥ 1.24" flag, which the driver turns into a marker content -/
def drvReadFile (g : Bool) (root : List (Bytes × Zip.Node)) : Bytes → (Bytes × Option String) :=
  fun p => match lookup root p with
    | some (.file _ _ c _) =>
      if p == tdir ++ B "/go.mod" then (if g then Drv.GenZipDir.ge124Marker else c, none) else (c, none)
    | _ => ([], some "read")

/-- the driver's stand-in for `parseGoVers` (the harness supplies the go ≥ 1.24 bit per content) -/
def drvPgv (fs : List Zip.FileInfo) : Bytes → Bytes → Bytes :=
  fun _ data =>
    if data == Drv.GenZipDir.ge124Marker || fs.any (fun f => f.content == data && f.goGe124) then B "go1.24" else B "go1.0"

mutual
/-- a tree the driver's lookup by name reads faithfully -/
def DrvNode : Zip.Node → Prop
  | .file mode _ _ _ => mode ≠ .lstatErr
  | .dir cs => DrvChildren cs
def DrvChildren : List (Bytes × Zip.Node) → Prop
  | [] => True
  | (name, n) :: rest => NormalElem name ∧ (∀ x ∈ rest, x.1 ≠ name) ∧ DrvNode n ∧ DrvChildren rest
end

instance (c : Bytes) : Decidable (NormalElem c) := by unfold NormalElem; exact inferInstance

mutual
/-- the two predicates are decidable (used by the examples on concrete trees) -/
def decDrvNode : (n : Zip.Node) → Decidable (DrvNode n)
  | .file mode _ _ _ => decidable_of_iff (mode ≠ .lstatErr) (by simp only [DrvNode])
  | .dir cs => @decidable_of_iff _ (DrvChildren cs) (by simp only [DrvNode]) (decDrvChildren cs)
def decDrvChildren : (cs : List (Bytes × Zip.Node)) → Decidable (DrvChildren cs)
  | [] => isTrue (by simp only [DrvChildren])
  | (name, n) :: rest =>
    have := decDrvNode n
    have := decDrvChildren rest
    decidable_of_iff (NormalElem name ∧ (∀ x ∈ rest, x.1 ≠ name) ∧ DrvNode n ∧ DrvChildren rest)
      (by simp only [DrvChildren])
end

instance (cs : List (Bytes × Zip.Node)) : Decidable (DrvChildren cs) := decDrvChildren cs

def compsRel (rel : Bytes) : List Bytes := if rel = [] then [] else splitOn 47 rel

theorem fp_tdir {rel : Bytes} (hr : NormalName rel) : fp tdir rel = tdir ++ 47 :: rel := by
  rw [fp_normal tdir hr, fpJoin_eq_render tdir hr]
  have h1 : isRooted tdir = false := by decide
  have h2 : comps tdir = [tdir] := by decide
  rw [h1, h2]
  unfold render
  have hne : ([tdir] ++ splitOn 47 rel).isEmpty = false := rfl
  simp only [Bool.false_eq_true, if_false, hne]
  rw [J_append [tdir] _ (by simp) (splitOn_ne_nil 47 rel), J_splitOn]
  rfl

theorem lookup_fp (root : List (Bytes × Zip.Node)) {rel : Bytes} (hr : NormalName rel) :
    lookup root (fp tdir rel) = findNode (splitOn 47 rel) root := by
  rw [fp_tdir hr]
  unfold lookup compsOf
  have h1 : (tdir ++ 47 :: rel == tdir) = false := by
    rw [beq_eq_false_iff_ne]; intro e
    have := congrArg List.length e
    simp at this
  have h2 : isPrefixOfB (tdir ++ [47]) (tdir ++ 47 :: rel) = true := by
    show isPrefixOfB [116, 47] (116 :: 47 :: rel) = true
    simp [isPrefixOfB]
  have h3 : (tdir ++ 47 :: rel).drop 2 = rel := rfl
  simp only [h1, h2, h3, Bool.false_eq_true, if_false, if_true, Option.bind_some]

theorem compsRel_child {rel name : Bytes} (hr : RelOK rel) (hn : NormalElem name) :
    splitOn 47 (Zip.childPath rel name) = compsRel rel ++ [name] := by
  unfold compsRel
  rcases hr with rfl | hr
  · rw [childPath_nil, splitOn_noSep 47 name hn.2.2.2]; rfl
  · rw [childPath_ne rel name (normalName_ne_nil hr), splitOn_child rel name hn, if_neg (normalName_ne_nil hr)]

theorem findNode_snoc (name : Bytes) : ∀ (pre : List Bytes) (root cs : List (Bytes × Zip.Node)),
    findNode pre root = some (.dir cs) →
    findNode (pre ++ [name]) root = (cs.find? (fun e => e.1 == name)).map (·.2)
  | [], root, cs, h => by
    simp only [findNode, Option.some.injEq, Zip.Node.dir.injEq] at h
    subst h; rfl
  | [c], root, cs, h => by
    simp only [findNode] at h
    simp only [List.cons_append, List.nil_append, findNode, h]
  | c :: c' :: r, root, cs, h => by
    simp only [findNode] at h
    simp only [List.cons_append, findNode]
    cases hf : ((root.find? (fun e => e.1 == c)).map (·.2) : Option Zip.Node) with
    | none => rw [hf] at h; cases h
    | some x =>
      rw [hf] at h
      cases x with
      | file _ _ _ _ => cases h
      | dir cs' =>
        simp only at h ⊢
        have := findNode_snoc name (c' :: r) cs' cs h
        simpa using this

theorem find_self : ∀ (cs : List (Bytes × Zip.Node)), DrvChildren cs → ∀ x ∈ cs, cs.find? (fun e => e.1 == x.1) = some x
  | [], _, x, hx => by cases hx
  | (name, n) :: rest, h, x, hx => by
    simp only [DrvChildren] at h
    rcases List.mem_cons.mp hx with rfl | hx
    · simp
    · have hne : ((name, n).1 == x.1) = false := by
        rw [beq_eq_false_iff_ne]; exact fun e => h.2.1 x hx e.symm
      rw [List.find?_cons_of_neg (by simpa using hne)]
      exact find_self rest h.2.2.2 x hx

theorem any_find (k : Bytes) (p : Zip.Node → Bool) : ∀ (cs : List (Bytes × Zip.Node)), DrvChildren cs →
    cs.any (fun c => c.1 == k && p c.2) =
      match cs.find? (fun e => e.1 == k) with
      | some x => p x.2
      | none => false
  | [], _ => rfl
  | (name, n) :: rest, h => by
    simp only [DrvChildren] at h
    by_cases hk : name = k
    · subst hk
      have hrest : rest.any (fun c => c.1 == name && p c.2) = false := by
        rw [List.any_eq_false]
        intro x hx
        have : (x.1 == name) = false := by rw [beq_eq_false_iff_ne]; exact h.2.1 x hx
        simp [this]
      simp [hrest]
    · have hne : (name == k) = false := by rw [beq_eq_false_iff_ne]; exact hk
      rw [List.any_cons, List.find?_cons_of_neg (by simpa using hne)]
      simp only [hne, Bool.false_and, Bool.false_or]
      exact any_find k p rest h.2.2.2

theorem toFs_info_isDir (n : Zip.Node) : (toFs n).info.IsDir = n.isDir := by
  cases n <;> simp [toFs, FsTree.info, Zip.Node.isDir, dirInfo]

theorem normalElem_goMod : NormalElem Zip.goModName := by
  refine ⟨by decide, by decide, by decide, by decide⟩

theorem lstatGoMod_drv (root : List (Bytes × Zip.Node)) {rel : Bytes} (hr : NormalName rel) (cs : List (Bytes × Zip.Node))
    (hfind : findNode (splitOn 47 rel) root = some (.dir cs)) (hcs : DrvChildren cs) :
    lstatGoMod (drvLstat root) (fp tdir rel) = Zip.hasGoModFile cs := by
  unfold lstatGoMod drvLstat
  rw [fp_child tdir (Or.inr hr) normalElem_goMod, lookup_fp root (normalName_child (Or.inr hr) normalElem_goMod),
    compsRel_child (Or.inr hr) normalElem_goMod]
  have hcr : compsRel rel = splitOn 47 rel := by unfold compsRel; rw [if_neg (normalName_ne_nil hr)]
  rw [hcr, findNode_snoc Zip.goModName _ root cs hfind]
  unfold Zip.hasGoModFile
  rw [any_find Zip.goModName (fun n => !n.isDir) cs hcs]
  cases cs.find? (fun e => e.1 == Zip.goModName) with
  | none => rfl
  | some x => simp [toFs_info_isDir]

mutual
theorem nodeOK_drv (root : List (Bytes × Zip.Node)) : ∀ (n : Zip.Node) (rel : Bytes), NormalName rel →
    findNode (splitOn 47 rel) root = some n → DrvNode n → NodeOK (drvLstat root) (drvOpen root) tdir rel n
  | .file mode size content g, rel, hr, hfind, hn => by
    simp only [DrvNode] at hn
    simp only [NodeOK]
    refine ⟨hn, fun _ => ?_⟩
    unfold drvOpen
    rw [lookup_fp root hr, hfind]
  | .dir cs, rel, hr, hfind, hn => by
    simp only [DrvNode] at hn
    simp only [NodeOK]
    refine ⟨lstatGoMod_drv root hr cs hfind hn, ?_⟩
    have hcr : compsRel rel = splitOn 47 rel := by unfold compsRel; rw [if_neg (normalName_ne_nil hr)]
    exact childrenOK_drv root cs rel cs (Or.inr hr) (by rw [hcr]; exact hfind) (find_self cs hn) hn
theorem childrenOK_drv (root : List (Bytes × Zip.Node)) : ∀ (cs' : List (Bytes × Zip.Node)) (rel : Bytes)
    (cs : List (Bytes × Zip.Node)), RelOK rel → findNode (compsRel rel) root = some (.dir cs) →
    (∀ x ∈ cs', cs.find? (fun e => e.1 == x.1) = some x) → DrvChildren cs' →
    ChildrenOK (drvLstat root) (drvOpen root) tdir rel cs'
  | [], _, _, _, _, _, _ => by simp only [ChildrenOK]
  | (name, n) :: rest, rel, cs, hr, hfind, hmem, hd => by
    simp only [DrvChildren] at hd
    simp only [ChildrenOK]
    have hc := normalName_child hr hd.1
    have hf : findNode (splitOn 47 (Zip.childPath rel name)) root = some n := by
      rw [compsRel_child hr hd.1, findNode_snoc name _ root cs hfind, hmem (name, n) List.mem_cons_self]
      rfl
    exact ⟨hd.1, nodeOK_drv root n (Zip.childPath rel name) hc hf hd.2.2.1,
      childrenOK_drv root rest rel cs hr hfind (fun x hx => hmem x (List.mem_cons_of_mem _ hx)) hd.2.2.2⟩
end

end ModVerif.TieFnZipDir
