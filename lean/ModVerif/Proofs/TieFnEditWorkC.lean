/-
  The add operations of go.work that go through `FileSyntax.addLine` (tie: Tie/FnEditAddLine.lean) — `WorkFile_AddNewUse`,
  `WorkFile_addNewGodebug` (instances of `FnEditTyped.pushNew_sim`), and `WorkFile_AddUse` / `WorkFile_AddGodebug` (instances of
  `FnEditTyped.addOp_sim`) — as simulations over `FnEditRep.RepW`.
-/
import ModVerif.Proofs.TieFnEditStmtB
import ModVerif.Proofs.TieFnEditReqB
namespace ModVerif.Tie.FnEditWorkC
open ModVerif ModVerif.GoRt ModVerif.Generated.Edit ModVerif.Tie.FnEditRep ModVerif.Tie.FnEditTreeA ModVerif.Tie.FnEditLoop
  ModVerif.Tie.FnEditTyped
open ModVerif.Tie.FnEditWorkA (updFirst)
open ModVerif.Tie.FnEditStmtB (B_godebug)
open ModVerif.TieFnEditAddLine (Frame nodeCount hintG)
open ModVerif.Modfile.Edit (EWork EditErr firstRest markAll markRemoved clearedUse clearedGodebug treeIds)
open ModVerif.Drv.GenEdit (isPrintI quoteI)

theorem B_use : B "use" = [117, 115, 101] := by decide +kernel

section
variable {h : Heap} {o : WorkFile} {e : EWork}

theorem RepWAt_pushReplace (R : RepWAt h o e) (y : Modfile.Replace) (hy : y.lineId ≤ h.lines.length) :
    RepWAt { h with replaces := h.replaces ++ [replaceG y] }
      { o with Replace := o.Replace ++ [((h.replaces.length + 1 : Nat) : Int)] }
      { e with f := { e.f with replace := e.f.replace ++ [y] } } :=
  R.withReplace (R.replace.push y hy)

end

theorem WorkFile_AddNewUse_sim {h : Heap} {fp : Int} {e : EWork} (R : RepW h fp e) (diskPath modulePath : Bytes) (fuel : Nat)
    (hf : nodeCount e.f.syn.stmts + 3 ≤ fuel) (hq : diskPath.length + 1 ≤ fuel) :
    ∃ h', WorkFile_AddNewUse isPrintI quoteI fuel fp diskPath modulePath h = .ok ((), h') ∧
      RepW h' fp (Modfile.Edit.addNewUse e diskPath modulePath) := by
  obtain ⟨o, ho, R⟩ := R
  obtain ⟨h1, hrun, ho1, R'⟩ := pushNew_sim workK_ok workA_ok useT_ok (fun _ _ _ => rfl) ho R none
    [117, 115, 101] [Modfile.autoQuote diskPath] { path := diskPath, modulePath := modulePath, lineId := e.next } rfl fuel hf
  refine ⟨_, ?_, by unfold Modfile.Edit.addNewUse; rw [B_use]; exact R'⟩
  have hrun' : FileSyntax_addLine fuel o.Syntax Expr.nil [[117, 115, 101], Modfile.autoQuote diskPath] h =
      .ok (((e.next : Nat) : Int), h1) := hrun
  have ho1' : heapGet h1.works fp = .ok o := ho1
  simp only [WorkFile_AddNewUse, show heapGet h.works fp = .ok o from ho, FnEditReqB.AutoQuote_ok diskPath fuel hq, hrun', bind,
    Except.bind, pure, Except.pure, heapAlloc, ho1', heapSet_of_get _ ho1']
  rfl

theorem WorkFile_addNewGodebug_sim {h : Heap} {fp : Int} {e : EWork} (R : RepW h fp e) (key value : Bytes) (fuel : Nat)
    (hf : nodeCount e.f.syn.stmts + 3 ≤ fuel) :
    ∃ h', WorkFile_addNewGodebug fuel fp key value h = .ok ((), h') ∧
      RepW h' fp { f := { e.f with godebug := e.f.godebug ++ [{ key := key, value := value, lineId := e.next }],
                                   syn := Modfile.Edit.addLine e.f.syn none [B "godebug", key ++ [61] ++ value] e.next },
                   next := e.next + 1 } := by
  obtain ⟨o, ho, R⟩ := R
  obtain ⟨h1, hrun, ho1, R'⟩ := pushNew_sim workK_ok workA_ok wgodebugT_ok (fun _ _ _ => rfl) ho R none
    [103, 111, 100, 101, 98, 117, 103] [key ++ [61] ++ value] { key := key, value := value, lineId := e.next } rfl fuel hf
  refine ⟨_, ?_, by rw [B_godebug]; exact R'⟩
  have hrun' : FileSyntax_addLine fuel o.Syntax Expr.nil [[103, 111, 100, 101, 98, 117, 103], key ++ [61] ++ value] h =
      .ok (((e.next : Nat) : Int), h1) := hrun
  have ho1' : heapGet h1.works fp = .ok o := ho1
  simp only [WorkFile_addNewGodebug, show heapGet h.works fp = .ok o from ho, hrun', bind, Except.bind, pure, Except.pure, heapAlloc, ho1',
    heapSet_of_get _ ho1']
  rfl

def useTokens (diskPath : Bytes) : List Bytes := [[117, 115, 101], Modfile.autoQuote diskPath]

theorem AddUse_body (f : Int) (diskPath modulePath : Bytes) (rx : List Int) (fuel : Nat) (ri : Int) (h : Heap) (need : Bool) :
    WorkFile_AddUse_loop1 isPrintI quoteI rx f diskPath modulePath (fuel + 1) ri h need =
      updBody useT (fun _ _ a => pure (decide (a.Path = diskPath))) (fun a => { a with ModulePath := modulePath })
        (fun fuel => do let t ← AutoQuote isPrintI quoteI fuel diskPath; pure [[117, 115, 101], t]) (·.Syntax) f rx fuel
        (WorkFile_AddUse_loop1 isPrintI quoteI rx f diskPath modulePath fuel) ri h need := by
  conv => lhs; unfold WorkFile_AddUse_loop1
  simp only [updBody, bind_assoc, pure_bind]

theorem WorkFile_AddUse_sim {h : Heap} {fp : Int} {e : EWork} (R : RepW h fp e) (diskPath modulePath : Bytes) (fuel : Nat)
    (hf : nodeCount e.f.syn.stmts + 3 ≤ fuel) (hf2 : e.f.use.length + diskPath.length + 1 ≤ fuel) :
    match Modfile.Edit.addUse e diskPath modulePath with
    | .ok e' => ∃ h', WorkFile_AddUse isPrintI quoteI fuel fp diskPath modulePath h = .ok (none, h') ∧ RepW h' fp e'
    | .error _ => WorkFile_AddUse isPrintI quoteI fuel fp diskPath modulePath h = .error .panic := by
  obtain ⟨o, ho, R0⟩ := R
  have X := addOp_sim workK_ok useT_ok (cleared := clearedUse) rfl rfl (fun u => u.path == diskPath)
    (fun _ _ a => pure (decide (a.Path = diskPath))) (fun _ _ x _ => congrArg Except.ok (FnEditWorkA.bytes_beq_eq_decide _ _).symm)
    (fun u => { u with modulePath := modulePath }) (fun a => { a with ModulePath := modulePath }) (fun _ => rfl) (fun _ => rfl)
    (useTokens diskPath) (by simp [useTokens])
    (fun fuel => do let t ← AutoQuote isPrintI quoteI fuel diskPath; pure [[117, 115, 101], t]) diskPath.length
    (fun fuel hk => by rw [FnEditReqB.AutoQuote_ok diskPath fuel (by omega)]; rfl)
    (·.Syntax) fp o (WorkFile_AddUse_loop1 isPrintI quoteI o.Use fp diskPath modulePath) (AddUse_body fp diskPath modulePath o.Use)
    (fuel := fuel) R0 ho (by show e.f.use.length + diskPath.length < fuel; omega)
    (addNew := WorkFile_AddNewUse isPrintI quoteI fuel fp diskPath modulePath)
    (eNew := fun _ => Modfile.Edit.addNewUse e diskPath modulePath)
    (fun h1 R1 => WorkFile_AddNewUse_sim R1 diskPath modulePath fuel hf (by omega))
  refine tieW ?_
  unfold Modfile.Edit.addUse
  simp only [WorkFile_AddUse, ho, bind_ok]
  rw [show [B "use", Modfile.autoQuote diskPath] = useTokens diskPath by rw [B_use]; rfl]
  exact X

theorem AddGodebug_body (f : Int) (key value : Bytes) (rx : List Int) (fuel : Nat) (ri : Int) (h : Heap) (need : Bool) :
    WorkFile_AddGodebug_loop1 rx f key value (fuel + 1) ri h need =
      updBody wgodebugT (fun _ _ a => pure (decide (a.Key = key))) (fun a => { a with Value := value })
        (fun _ => pure (FnEditStmtB.gdTokens key value)) (·.Syntax) f rx fuel (WorkFile_AddGodebug_loop1 rx f key value fuel) ri h need := by
  conv => lhs; unfold WorkFile_AddGodebug_loop1
  rfl

theorem WorkFile_AddGodebug_sim {h : Heap} {fp : Int} {e : EWork} (R : RepW h fp e) (key value : Bytes) (fuel : Nat)
    (hf : nodeCount e.f.syn.stmts + 3 ≤ fuel) (hf2 : e.f.godebug.length + 1 ≤ fuel) :
    match Modfile.Edit.workAddGodebug e key value with
    | .ok e' => ∃ h', WorkFile_AddGodebug fuel fp key value h = .ok (none, h') ∧ RepW h' fp e'
    | .error _ => WorkFile_AddGodebug fuel fp key value h = .error .panic := by
  obtain ⟨o, ho, R0⟩ := R
  have X := addOp_sim workK_ok wgodebugT_ok (cleared := clearedGodebug) rfl rfl (fun g => g.key == key)
    (fun _ _ a => pure (decide (a.Key = key))) (fun _ _ x _ => congrArg Except.ok (FnEditWorkA.bytes_beq_eq_decide _ _).symm)
    (fun g => { g with value := value }) (fun a => { a with Value := value }) (fun _ => rfl) (fun _ => rfl)
    (FnEditStmtB.gdTokens key value) (by simp [FnEditStmtB.gdTokens]) (fun _ => pure (FnEditStmtB.gdTokens key value)) 0 (fun _ _ => rfl)
    (·.Syntax) fp o (WorkFile_AddGodebug_loop1 o.Godebug fp key value) (AddGodebug_body fp key value o.Godebug) (fuel := fuel) R0 ho
    (by show e.f.godebug.length + 0 < fuel; omega) (addNew := WorkFile_addNewGodebug fuel fp key value)
    (eNew := fun gd => { f := { e.f with godebug := gd ++ [{ key := key, value := value, lineId := e.next }],
                                         syn := Modfile.Edit.addLine e.f.syn none [B "godebug", key ++ [61] ++ value] e.next },
                         next := e.next + 1 })
    (fun h1 R1 => WorkFile_addNewGodebug_sim R1 key value fuel hf)
  refine tieW ?_
  unfold Modfile.Edit.workAddGodebug
  rw [FnEditStmtB.addGodebugCore_bind]
  simp only [WorkFile_AddGodebug, ho, bind_ok]
  exact X

end ModVerif.Tie.FnEditWorkC
