/-
  From the tree invariant `Edit.Inv` to the hypotheses of the first run and of the round trip
  (C15 `typed_eq_reparse`).

  Every entry of `Edit.entries f` is an item of `items f` with the same id, and what the entry accepts (`acc`) is what
  `Rend` asks for; so under `Inv e` every line of the tree renders the item of `items e.f` with its id.  The tokens of a
  line that renders a readable item are line tokens other than parentheses, without newline (`GoodTok`), and a
  well-formed tree of live lines with such tokens has the token clauses of C02's tree shape `EWFStmts` (go.mod and
  go.work alike); the comment clauses are the Boolean test `comShapeB`.
-/
import ModVerif.Proofs.EditReparseC
import ModVerif.Proofs.EditRefineInvRun
import ModVerif.Proofs.EditRefineInvOps
import ModVerif.Proofs.EditRefineRel
import ModVerif.Model.Modfile.EditAbs
namespace ModVerif.Modfile.Edit
open ModVerif ModVerif.Modfile ModVerif.EditSpec
open ModVerif.Proofs.ModfileFmtDir (PathOK VerOK verb_ne WellFormed values Values pathOK_tok verOK_tok punct_tokText
  lineTailOK_no_lparen)
open ModVerif.Proofs.ModfileFmtLex (punctBytes TokOK CommentOK)
open ModVerif.Proofs.ModfileFmtLine (TokText tokOK_tokText)
open ModVerif.Proofs.ModfileFmtTree (TopBeforeOK BlkBeforeOK lineTailOK)
open ModVerif.Proofs.ModfileEol (EWFStmts EWFStmt EWFLine EWFBlkLine EWFBlkLines EWFBlock SufOK NlOK NlLine autoQuote_no_nl
  valid_no_nl)

theorem replaceToks_replArgs (r : Replace) : replaceToks r = B "replace" :: replArgs r.old r.new := by
  simp [replaceToks, replArgs]

theorem entry_item {f : File} {en : Ent} (hen : en ∈ entries f) :
    ∃ it, (en.id, it) ∈ items f ∧ ∀ t s, en.acc t s → Rend it t s := by
  rcases (mem_entries_iff f en).1 hen with ⟨x, hx, rfl⟩ | ⟨x, hx, rfl⟩ | ⟨x, hx, rfl⟩ | ⟨x, hx, rfl⟩ | ⟨x, hx, rfl⟩ |
    ⟨x, hx, rfl⟩ | ⟨x, hx, rfl⟩ | ⟨x, hx, rfl⟩ | ⟨x, hx, rfl⟩
  · exact ⟨_, mem_items_module (Option.mem_toList.1 hx), fun _ _ h => h⟩
  · exact ⟨_, mem_items_go (Option.mem_toList.1 hx), fun _ _ h => h⟩
  · exact ⟨_, mem_items_toolchain (Option.mem_toList.1 hx), fun _ _ h => h⟩
  · exact ⟨_, mem_items_godebug (List.mem_filter.1 hx).1, fun _ _ h => h⟩
  · exact ⟨_, mem_items_require (List.mem_filter.1 hx).1, fun _ _ h => h⟩
  · exact ⟨_, mem_items_exclude (List.mem_filter.1 hx).1, fun _ _ h => h⟩
  · exact ⟨_, mem_items_replace (List.mem_filter.1 hx).1, fun t _ h => (show t = replaceToks x from h) ▸ replaceToks_replArgs x⟩
  · exact ⟨_, mem_items_retract (List.mem_filter.1 hx).1, fun _ _ h => h⟩
  · exact ⟨_, mem_items_tool (List.mem_filter.1 hx).1, fun _ _ h => h⟩

/-- the state after `File.Cleanup` -/
structure AllLive (f : File) : Prop where
  godebug : ∀ g ∈ f.godebug, liveG g = true
  require : ∀ r ∈ f.require, liveRq r = true
  exclude : ∀ x ∈ f.exclude, liveX x = true
  replace : ∀ r ∈ f.replace, liveRp r = true
  retract : ∀ r ∈ f.retract, liveRt r = true
  tool : ∀ t ∈ f.tool, liveT t = true

theorem items_ids {f : File} (h : AllLive f) : (items f).map (·.1) = (entries f).map (·.id) := by
  simp only [items, entries, entsOf, List.map_append, List.map_map, List.filter_eq_self.2 h.godebug,
    List.filter_eq_self.2 h.require, List.filter_eq_self.2 h.exclude, List.filter_eq_self.2 h.replace,
    List.filter_eq_self.2 h.retract, List.filter_eq_self.2 h.tool]
  rfl

def VOK (f : File) : Prop := ∀ q ∈ items f, ItemOK q.2

theorem items_scalar1 (f : File) :
    (∀ a b p q, (a, Item.module p) ∈ items f → (b, Item.module q) ∈ items f → a = b) ∧
    (∀ a b p q, (a, Item.go p) ∈ items f → (b, Item.go q) ∈ items f → a = b) ∧
    (∀ a b p q, (a, Item.toolchain p) ∈ items f → (b, Item.toolchain q) ∈ items f → a = b) := by
  refine ⟨?_, ?_, ?_⟩ <;> intro a b p q h1 h2 <;>
    simp only [items, List.mem_append, List.mem_map, Prod.mk.injEq, reduceCtorEq, and_false, exists_false, or_false,
      false_or, Option.mem_toList] at h1 h2
  · obtain ⟨x, hx, rfl, _⟩ := h1
    obtain ⟨y, hy, rfl, _⟩ := h2
    rw [hx] at hy; cases hy; rfl
  · obtain ⟨x, hx, rfl, _⟩ := h1
    obtain ⟨y, hy, rfl, _⟩ := h2
    rw [hx] at hy; cases hy; rfl
  · obtain ⟨x, hx, rfl, _⟩ := h1
    obtain ⟨y, hy, rfl, _⟩ := h2
    rw [hx] at hy; cases hy; rfl

theorem inv_IOK {e : EFile} (hi : Inv e) (hl : AllLive e.f) (hv : VOK e.f) : IOK (items e.f) :=
  ⟨by rw [items_ids hl]; exact hi.mtch.nodup, hv, (items_scalar1 e.f).1, (items_scalar1 e.f).2.1, (items_scalar1 e.f).2.2⟩

/-- the state after `FileSyntax.Cleanup` -/
def LinesLive (stmts : List Expr) : Prop := ∀ p ∈ loc stmts, liveLoc p = true

/-- `go (` / `toolchain (` blocks are rejected by the strict parser -/
def GoodBlocks (stmts : List Expr) : Prop := ∀ b, Expr.lineBlock b ∈ stmts → ∀ v, b.token = [v] → verbIn v blockVerbs = true

/-- go.mod: `entries`, `items`, `Rend`; go.work: `entriesW`, `W.items`, `W.Rend` -/
theorem Match.line_item {ι : Type} {es : List Ent} {stmts : List Expr} {next : Nat} {I : List (Nat × ι)}
    {R : ι → List Bytes → List Comment → Prop} (hm : Match es (view stmts)) (hw : TreeWF stmts next)
    (hent : ∀ en ∈ es, ∃ it, (en.id, it) ∈ I ∧ ∀ t s, en.acc t s → R it t s)
    {p : List Bytes × Line} (hp : p ∈ loc stmts) (hlive : liveLoc p = true) :
    ∃ it, (p.2.id, it) ∈ I ∧ R it (p.1 ++ p.2.token) p.2.comments.suffix := by
  obtain ⟨en, hen, hid, hacc⟩ := hm.line_entry hw _ (mem_view.2 ⟨p, hp, hlive, rfl⟩)
  obtain ⟨it, hmem, hrend⟩ := hent en hen
  exact ⟨it, (show en.id = p.2.id from hid) ▸ hmem, hrend _ _ hacc⟩

theorem Match.item_ids {ι : Type} {es : List Ent} {stmts : List Expr} {I : List (Nat × ι)} (hm : Match es (view stmts))
    (hids : I.map (·.1) = es.map (·.id)) : ∀ q ∈ I, q.1 ∈ treeIds stmts := by
  intro q hq
  obtain ⟨en, hen, hid⟩ := List.mem_map.1 (hids ▸ List.mem_map.2 ⟨q, hq, rfl⟩ : q.1 ∈ es.map (·.id))
  obtain ⟨v, hv, hvid, _⟩ := hm.cover en hen
  rw [← hid, ← hvid]
  exact view_id_mem_treeIds hv

theorem line_item {e : EFile} (hi : Inv e) {p : List Bytes × Line} (hp : p ∈ loc e.f.syn.stmts) (hlive : liveLoc p = true) :
    ∃ it, (p.2.id, it) ∈ items e.f ∧ Rend it (p.1 ++ p.2.token) p.2.comments.suffix :=
  hi.mtch.line_item hi.tree (fun _ hen => entry_item hen) hp hlive

theorem inv_fits {e : EFile} (hi : Inv e) (hll : LinesLive e.f.syn.stmts) (hgb : GoodBlocks e.f.syn.stmts) :
    ∀ x ∈ e.f.syn.stmts, LinesFit (fun id t s => ∃ it, (id, it) ∈ items e.f ∧ Rend it t s) (verbIn · blockVerbs) x :=
  tree_fits hi.tree hll hgb (fun p hp => line_item hi hp (hll p hp))

theorem inv_stmtOK {e : EFile} (hi : Inv e) (hll : LinesLive e.f.syn.stmts) (hgb : GoodBlocks e.f.syn.stmts) :
    ∀ x ∈ e.f.syn.stmts, StmtOK (items e.f) x :=
  fun x hx => fits_stmtOK (inv_fits hi hll hgb x hx)

theorem inv_surj {e : EFile} (hi : Inv e) (hl : AllLive e.f) : ∀ q ∈ items e.f, q.1 ∈ treeIds e.f.syn.stmts :=
  hi.mtch.item_ids (items_ids hl)

def GoodTok (a : Bytes) : Prop := TokText a ∧ a ≠ [40] ∧ a ≠ [41] ∧ (10 : UInt8) ∉ a

theorem goodTok_raw {t : Bytes} (h : RawTok t) : GoodTok t :=
  ⟨(rawTok_tok h).1, (rawTok_tok h).2.1, (rawTok_tok h).2.2, rawTok_no_nl h⟩

theorem goodTok_path {p : Bytes} (h : PathOK p) : GoodTok (autoQuote p) :=
  ⟨(pathOK_tok h).1, (pathOK_tok h).2.1, (pathOK_tok h).2.2, autoQuote_no_nl p⟩

theorem goodTok_ver {v : Bytes} (h : VerOK v) : GoodTok v :=
  ⟨(verOK_tok h).1, (verOK_tok h).2.1, (verOK_tok h).2.2, valid_no_nl h⟩

theorem goodTok_punct (c : UInt8) (hc : c ∈ punctBytes) (h40 : c ≠ 40) (h41 : c ≠ 41) (h10 : c ≠ 10) : GoodTok [c] :=
  ⟨punct_tokText c hc, by simpa using h40, by simpa using h41, by simpa using h10.symm⟩

theorem rend_cons {it : Item} {t : List Bytes} {s : List Comment} (hr : Rend it t s) : ∃ verb args, t = verb :: args := by
  cases it with
  | require m i => exact ⟨_, _, hr.1⟩
  | retract vi => rcases hr with ⟨x, h, _⟩ | ⟨x, y, h, _⟩ <;> exact ⟨_, _, h⟩
  | tool p => obtain ⟨x, h, _⟩ := hr; exact ⟨_, _, h⟩
  | _ => exact ⟨_, _, hr⟩

theorem rend_toks {it : Item} {t : List Bytes} {s : List Comment} (hr : Rend it t s) (hok : ItemOK it) :
    ∀ a ∈ t, GoodTok a := by
  obtain ⟨r1, r2, r3, r4, r5, r6, r7, r8, r9, r10⟩ := rawTok_verb
  cases it with
  | module p => rw [show t = _ from hr]; exact forall_mem_pair (goodTok_raw r1) (goodTok_path hok)
  | go v => rw [show t = _ from hr]; exact forall_mem_pair (goodTok_raw r2) (goodTok_raw hok.2)
  | toolchain n => rw [show t = _ from hr]; exact forall_mem_pair (goodTok_raw r3) (goodTok_raw hok.2)
  | godebug k v => rw [show t = _ from hr]; exact forall_mem_pair (goodTok_raw r4) (goodTok_raw hok.2)
  | require m ind => rw [show t = _ from hr.1]; exact forall_mem_triple (goodTok_raw r5) (goodTok_path hok.1) (goodTok_ver hok.2.1.1)
  | exclude m => rw [show t = _ from hr]; exact forall_mem_triple (goodTok_raw r6) (goodTok_path hok.1) (goodTok_ver hok.2.1.1)
  | replace o n =>
    obtain ⟨ho, hn, hov, hnv, _⟩ := hok
    have hopt : ∀ v : Bytes, (v ≠ [] → VerOK v) → ∀ a ∈ (if v.isEmpty then [] else [v]), GoodTok a := by
      intro v hv a ha
      split at ha
      · cases ha
      · rename_i hne
        rw [List.mem_singleton.1 ha]
        exact goodTok_ver (hv (by simpa using hne))
    rw [show t = _ from hr]
    simp only [replArgs, List.mem_cons, List.mem_append, List.mem_nil_iff, or_false]
    rintro a (rfl | ((rfl | ha) | rfl | rfl) | ha)
    · exact goodTok_raw r7
    · exact goodTok_path ho
    · exact hopt _ hov a ha
    · exact goodTok_raw r10
    · exact goodTok_path hn
    · exact hopt _ hnv a ha
  | retract vi =>
    obtain ⟨args, rfl, _, hargs⟩ := retract_args hr hok
    have hp : ∀ c ∈ [91, 44, 93], GoodTok [c] := by
      intro c hc
      simp only [List.mem_cons, List.mem_nil_iff, or_false] at hc
      rcases hc with rfl | rfl | rfl <;> exact goodTok_punct _ (by decide) (by decide) (by decide) (by decide)
    rcases hargs with rfl | rfl
    · exact forall_mem_pair (goodTok_raw r8) (goodTok_ver hok.1)
    · simpa using ⟨goodTok_raw r8, hp 91 (by simp), goodTok_ver hok.1, hp 44 (by simp), goodTok_ver hok.2, hp 93 (by simp)⟩
  | tool p =>
    obtain ⟨rfl, _⟩ := tool_arg hr hok
    exact forall_mem_pair (goodTok_raw r9) (goodTok_raw ⟨hok.2, hok.1.2⟩)

theorem blockVerb_raw {v : Bytes} (h : verbIn v blockVerbs = true) : RawTok v := by
  obtain ⟨r1, r2, r3, r4, r5, r6, r7, r8, r9, r10⟩ := rawTok_verb
  simp only [verbIn, blockVerbs, List.any_cons, List.any_nil, Bool.or_false, Bool.or_eq_true, beq_iff_eq] at h
  rcases h with h | h | h | h | h | h | h <;> rw [← h] <;> assumption

/-! ### the comment clauses of `EWFStmts`, as a Boolean test -/

def commentOKB (t : Bytes) : Bool := isPrefixOfB [47, 47] t && !t.contains 10

def topBeforeB (cs : List Comment) : Bool := cs.all fun c => !c.suffix && commentOKB c.token

def blkBeforeB : Bool → List Comment → Bool
  | _, [] => true
  | allow, c :: cs =>
    if c.token.isEmpty then allow && !c.suffix && blkBeforeB false cs
    else !c.suffix && commentOKB c.token && blkBeforeB true cs

def sufOKB (cs : List Comment) : Bool := decide (cs.length ≤ 1) && cs.all fun c => commentOKB c.token && c.suffix

def comBlkLinesB : Bool → List Line → Bool
  | _, [] => true
  | allow, l :: ls =>
    blkBeforeB allow l.comments.before && sufOKB l.comments.suffix && l.comments.after.isEmpty && comBlkLinesB true ls

/-- the comments of a statement are placed where the parser places them: whole-line comments are `//` texts, a blank-line
    placeholder only inside a block, not at its start and not after another one; at most one end-of-line comment per
    line, `(` and `)`; no `after` comment; no stray parenthesis statement -/
def comStmtB : Expr → Bool
  | .commentBlock x => !x.comments.before.isEmpty && topBeforeB x.comments.before && x.comments.suffix.isEmpty &&
      x.comments.after.isEmpty
  | .line l => topBeforeB l.comments.before && sufOKB l.comments.suffix && l.comments.after.isEmpty
  | .lineBlock b => topBeforeB b.comments.before && b.comments.after.isEmpty && b.lparen.comments.before.isEmpty &&
      sufOKB b.lparen.comments.suffix && b.lparen.comments.after.isEmpty && comBlkLinesB false b.lines &&
      blkBeforeB (!b.lines.isEmpty) b.rparen.comments.before && sufOKB (b.rparen.comments.suffix ++ b.comments.suffix) &&
      b.rparen.comments.after.isEmpty
  | _ => false

def comShapeB (fs : FileSyntax) : Bool := fs.comments.before.isEmpty && fs.stmts.all comStmtB

theorem commentOKB_sound {t : Bytes} (h : commentOKB t = true) : CommentOK t := by
  simp only [commentOKB, Bool.and_eq_true, Bool.not_eq_true', List.contains_eq_mem, decide_eq_false_iff_not] at h
  exact ⟨h.1, h.2⟩

theorem topBeforeB_sound {cs : List Comment} (h : topBeforeB cs = true) : TopBeforeOK cs := by
  intro c hc
  have := List.all_eq_true.1 h c hc
  simp only [Bool.and_eq_true, Bool.not_eq_true'] at this
  exact ⟨this.1, commentOKB_sound this.2⟩

theorem blkBeforeB_sound : ∀ (cs : List Comment) (allow : Bool), blkBeforeB allow cs = true → BlkBeforeOK allow cs := by
  intro cs
  induction cs with
  | nil => intro _ _; trivial
  | cons c cs ih =>
    intro allow h
    unfold blkBeforeB at h
    unfold BlkBeforeOK
    split at h
    · rename_i hemp
      simp only [Bool.and_eq_true, Bool.not_eq_true'] at h
      rw [if_pos hemp]
      exact ⟨h.1.1, h.1.2, ih false h.2⟩
    · rename_i hemp
      simp only [Bool.and_eq_true, Bool.not_eq_true'] at h
      rw [if_neg hemp]
      exact ⟨h.1.1, commentOKB_sound h.1.2, ih true h.2⟩

theorem sufOKB_sound {cs : List Comment} (h : sufOKB cs = true) : SufOK cs := by
  simp only [sufOKB, Bool.and_eq_true, decide_eq_true_eq] at h
  refine ⟨h.1, ?_⟩
  intro c hc
  have := List.all_eq_true.1 h.2 c hc
  simp only [Bool.and_eq_true] at this
  exact ⟨commentOKB_sound this.1, this.2⟩

theorem ewf_blkLines : ∀ (ls : List Line) (allow : Bool), comBlkLinesB allow ls = true → (∀ l ∈ ls, l.token ≠ []) →
    (∀ l ∈ ls, l.inBlock = true) → (∀ l ∈ ls, ∀ a ∈ l.token, GoodTok a) →
    EWFBlkLines allow ls ∧ ∀ l ∈ ls, NlLine l := by
  intro ls
  induction ls with
  | nil => intro _ _ _ _ _; exact ⟨trivial, fun l hl => by cases hl⟩
  | cons l ls ih =>
    intro allow hc hne hin hg
    simp only [comBlkLinesB, Bool.and_eq_true, List.isEmpty_iff] at hc
    obtain ⟨⟨⟨hb, hs⟩, ha⟩, hrest⟩ := hc
    simp only [List.forall_mem_cons] at hne hin hg
    obtain ⟨h1, h2⟩ := ih true hrest hne.2 hin.2 hg.2
    refine ⟨⟨⟨hne.1, fun t ht => (hg.1 t ht).1, ?_, blkBeforeB_sound _ _ hb, sufOKB_sound hs, ha, hin.1⟩, h1⟩,
      List.forall_mem_cons.2 ⟨fun _ t ht => (hg.1 t ht).2.2.2, h2⟩⟩
    cases htok : l.token with
    | nil => simp
    | cons a as =>
      simp only [List.head?_cons, ne_eq, Option.some.injEq]
      exact (hg.1 a (by rw [htok]; simp)).2.2.1

/-- go.mod and go.work alike: every token an edit operation writes for a readable value is a `GoodTok` -/
theorem tree_ewf {fs : FileSyntax} {next : Nat} (hw : TreeWF fs.stmts next) (hll : LinesLive fs.stmts)
    (hg : ∀ p ∈ loc fs.stmts, ∀ a ∈ p.1 ++ p.2.token, GoodTok a)
    (hverb : ∀ b, Expr.lineBlock b ∈ fs.stmts → ∀ v, b.token = [v] → RawTok v) (hcom : comShapeB fs = true) :
    EWFStmts fs.stmts ∧ (∀ s ∈ fs.stmts, NlOK s) ∧ fs.comments.before = [] := by
  simp only [comShapeB, Bool.and_eq_true, List.isEmpty_iff, List.all_eq_true] at hcom
  have hgl : ∀ p ∈ loc fs.stmts, ∀ a ∈ p.2.token, GoodTok a := fun p hp a ha => hg p hp a (List.mem_append_right _ ha)
  have hblk : ∀ b, Expr.lineBlock b ∈ fs.stmts → comBlkLinesB false b.lines = true →
      EWFBlkLines false b.lines ∧ ∀ l ∈ b.lines, NlLine l := fun b hx c6 =>
    ewf_blkLines b.lines false c6 (fun l hl => by simpa [liveLoc] using hll _ (mem_loc_block hx hl))
      (hw.flagIn b hx) (fun l hl => hgl _ (mem_loc_block hx hl))
  refine ⟨fun x hx => ?_, fun x hx => ?_, hcom.1⟩ <;> have hc := hcom.2 x hx
  · cases x with
    | line l =>
      have hl := hgl _ (mem_loc_line hx)
      simp only [comStmtB, Bool.and_eq_true, List.isEmpty_iff] at hc
      exact (⟨by simpa [liveLoc] using hll _ (mem_loc_line hx), fun t ht => (hl t ht).1,
        lineTailOK_no_lparen _ (fun t ht => (hl t (List.mem_of_mem_tail ht)).2.1), topBeforeB_sound hc.1.1,
        sufOKB_sound hc.1.2, hc.2, hw.flagTop l hx⟩ : EWFLine l)
    | lineBlock b =>
      obtain ⟨v, hv⟩ := hw.blockTok b hx
      simp only [comStmtB, Bool.and_eq_true, List.isEmpty_iff] at hc
      obtain ⟨⟨⟨⟨⟨⟨⟨⟨c1, c2⟩, c3⟩, c4⟩, c5⟩, c6⟩, c7⟩, c8⟩, c9⟩ := hc
      have hvt : ∀ t ∈ b.token, TokText t := by
        rw [hv]; intro t ht; rw [List.mem_singleton.1 ht]; exact (goodTok_raw (hverb b hx v hv)).1
      exact (⟨by rw [hv]; simp, hvt, topBeforeB_sound c1, c2, c3, sufOKB_sound c4, c5, (hblk b hx c6).1,
        blkBeforeB_sound _ _ c7, sufOKB_sound c8, c9⟩ : EWFBlock b)
    | commentBlock c =>
      simp only [comStmtB, Bool.and_eq_true, List.isEmpty_iff, Bool.not_eq_true', List.isEmpty_eq_false_iff] at hc
      exact ⟨hc.1.1.1, topBeforeB_sound hc.1.1.2, hc.1.2, hc.2⟩
    | lparen c => simp [comStmtB] at hc
    | rparen c => simp [comStmtB] at hc
  · cases x with
    | line l => exact fun _ t ht => (hgl _ (mem_loc_line hx) t ht).2.2.2
    | lineBlock b =>
      simp only [comStmtB, Bool.and_eq_true] at hc
      exact (hblk b hx hc.1.1.1.2).2
    | commentBlock c => trivial
    | lparen c => trivial
    | rparen c => trivial

theorem inv_ewf {e : EFile} (hi : Inv e) (hv : VOK e.f) (hll : LinesLive e.f.syn.stmts) (hgb : GoodBlocks e.f.syn.stmts)
    (hcom : comShapeB e.f.syn = true) :
    EWFStmts e.f.syn.stmts ∧ (∀ s ∈ e.f.syn.stmts, NlOK s) ∧ e.f.syn.comments.before = [] :=
  tree_ewf hi.tree hll
    (fun p hp => let ⟨_, hmem, hr⟩ := line_item hi hp (hll p hp); rend_toks hr (hv _ hmem))
    (fun b hb v hv' => blockVerb_raw (hgb b hb v hv')) hcom

end ModVerif.Modfile.Edit
