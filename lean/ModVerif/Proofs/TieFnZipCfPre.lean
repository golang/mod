/-
  Tie proof, zip/zip.go `checkFiles`: the first loop (`checkFiles_loop1`, the go.mod pre-pass) is the model's `prePass`
  (fold of `preStep`).  The generated loop also computes the version string `vers` of the root go.mod (`versStep`); the
  model carries the flag `Pre.ge124` instead.
-/
import ModVerif.Proofs.TieFnZipCfBase
namespace ModVerif.TieFnZipCf
open ModVerif ModVerif.GoRt ModVerif.GoRtZip ModVerif.TieFnZip
open ModVerif.Generated.Zip (pathInfo File FileError CheckedFiles)
open ModVerif.Drv.GenZip (toGFile modeBits)

@[simp] theorem toGFile_Path (f : Zip.FileInfo) : (toGFile f).Path = f.path := rfl
@[simp] theorem toGFile_Open (f : Zip.FileInfo) : (toGFile f).Open = (f.content, none) := rfl

theorem toGFile_Lstat_err (f : Zip.FileInfo) (h : f.mode = .lstatErr) : (toGFile f).Lstat = (default, some "lstat") := by
  simp [toGFile, h]

theorem toGFile_Lstat_ok (f : Zip.FileInfo) (h : f.mode ≠ .lstatErr) :
    (toGFile f).Lstat = ({ Mode := modeBits f.mode, IsDir := f.mode == .dir, Size := f.size }, none) := by
  have : (f.mode == Zip.Mode.lstatErr) = false := by simpa using h
  simp [toGFile, this]

theorem modeIsRegular_modeBits (m : Zip.Mode) (h : m ≠ .lstatErr) : modeIsRegular (modeBits m) = (m == .regular) := by
  cases m <;> first | (exact absurd rfl h) | decide +kernel

theorem isSymlink_modeBits (m : Zip.Mode) (h : m ≠ .lstatErr) :
    decide (band (modeBits m) 2401763328 = 134217728) = (m == .symlink) := by
  cases m <;> first | (exact absurd rfl h) | decide +kernel

/-- what one iteration of the first loop does to `vers`: a regular file `go.mod` at the root sets it -/
def versStep (pgv : Bytes → Bytes → Bytes) (vl : Bytes → Bytes) (v : Bytes) (f : Zip.FileInfo) : Bytes :=
  if Zip.equalFoldGoMod (PathClean.pathSplit f.path).2 && f.mode == .regular &&
      ((PathClean.pathSplit f.path).2 == Zip.goModName && (PathClean.pathSplit f.path).1 == []) then
    vl (pgv Zip.goModName f.content)
  else v

/-- `vers` after the first loop -/
def versOf (pgv : Bytes → Bytes → Bytes) (vl : Bytes → Bytes) (files : List Zip.FileInfo) : Bytes :=
  files.foldl (versStep pgv vl) []

section
variable {cfp : Bytes → Option String} {ef : Bytes → Bytes → Bool} {pgv : Bytes → Bytes → Bytes} {sf : Int → Int}
  {tl : Bytes → Bytes} {vc : Bytes → Bytes → Int} {vl : Bytes → Bytes}

theorem loop1_step (hef : ∀ s, ef s Zip.goModName = Zip.equalFoldGoMod s) (vf : List File) (vs : List Int)
    (done : List Zip.FileInfo) (f : Zip.FileInfo) (rest : List Zip.FileInfo) (fuel : Nat) (a : Zip.Pre) (v : Bytes) :
    Generated.Zip.checkFiles_loop1 cfp ef pgv sf tl vc vl ((done ++ f :: rest).map toGFile) vf vs (fuel + 1)
        (done.length : Int) (epOf a.st.errPaths) (embCF a.st.cf) (hgOf a.haveGoMod) v =
      Generated.Zip.checkFiles_loop1 cfp ef pgv sf tl vc vl ((done ++ f :: rest).map toGFile) vf vs fuel
        ((done.length + 1 : Nat) : Int) (epOf (Zip.preStep a f).st.errPaths) (embCF (Zip.preStep a f).st.cf)
        (hgOf (Zip.preStep a f).haveGoMod) (versStep pgv vl v f) := by
  rw [Generated.Zip.checkFiles_loop1]
  simp only [lt_len_map_mid, if_true, idxL_map_mid, bind_ok, toGFile_Path]
  generalize (done ++ f :: rest).map toGFile = G
  have hef' : ∀ s, ef s ([103, 111, 46, 109, 111, 100] : Bytes) = Zip.equalFoldGoMod s := hef
  have hps : GoRt.pathSplit f.path = PathClean.pathSplit f.path := rfl
  have hi : ((done.length + 1 : Nat) : Int) = (done.length : Int) + 1 := by omega
  simp only [hef', hps, hi]
  clear hps
  unfold Zip.preStep versStep
  simp only []
  by_cases hb : Zip.equalFoldGoMod (PathClean.pathSplit f.path).2 = true
  · simp only [hb, if_true, Bool.true_and]
    have hae := addError_eq (cfp := cfp) (ef := ef) (pgv := pgv) (sf := sf) (tl := tl) (vc := vc) (vl := vl) fuel vf vs a.st
      f.path false .lstat
    rw [show reasonText .lstat = "lstat" from rfl] at hae
    obtain ⟨path, mode, size, content, g⟩ := f
    cases mode
    · -- regular
      simp only [toGFile, readAll, Zip.goModName]
      by_cases hc : (PathClean.pathSplit path).snd = [103, 111, 46, 109, 111, 100] ∧ (PathClean.pathSplit path).fst = []
      · simp [hc, hgOf_append, modeIsRegular_modeBits]
      · simp [hc, hgOf_append, modeIsRegular_modeBits]
    · simp [toGFile, modeIsRegular_modeBits]
    · simp [toGFile, modeIsRegular_modeBits]
    · simp [toGFile, modeIsRegular_modeBits]
    · simp [toGFile, hae]
  · simp only [hb, Bool.false_eq_true, if_false, Bool.false_and]

theorem loop1_from (hef : ∀ s, ef s Zip.goModName = Zip.equalFoldGoMod s) (vf : List File) (vs : List Int) :
    ∀ (rest done : List Zip.FileInfo) (fuel : Nat) (a : Zip.Pre) (v : Bytes), rest.length + 1 ≤ fuel →
    Generated.Zip.checkFiles_loop1 cfp ef pgv sf tl vc vl ((done ++ rest).map toGFile) vf vs fuel
        (done.length : Int) (epOf a.st.errPaths) (embCF a.st.cf) (hgOf a.haveGoMod) v =
      .ok (((done ++ rest).length : Int), epOf (rest.foldl Zip.preStep a).st.errPaths,
        embCF (rest.foldl Zip.preStep a).st.cf, hgOf (rest.foldl Zip.preStep a).haveGoMod,
        rest.foldl (versStep pgv vl) v) := by
  intro rest
  induction rest with
  | nil =>
    intro done fuel a v hf
    obtain ⟨fuel, rfl⟩ : ∃ k, fuel = k + 1 := ⟨fuel - 1, by omega⟩
    rw [Generated.Zip.checkFiles_loop1]
    simp only [List.append_nil, not_lt_len_map, Bool.false_eq_true, if_false, List.foldl_nil]
    rfl
  | cons f rest ih =>
    intro done fuel a v hf
    obtain ⟨fuel, rfl⟩ : ∃ k, fuel = k + 1 := ⟨fuel - 1, by omega⟩
    rw [loop1_step hef vf vs done f rest fuel a v]
    have e : done ++ f :: rest = (done ++ [f]) ++ rest := by simp
    have hl : ((done.length + 1 : Nat) : Int) = ((done ++ [f]).length : Int) := by simp
    rw [e, hl, ih (done ++ [f]) fuel (Zip.preStep a f) (versStep pgv vl v f) (by simp at hf; omega)]
    rfl

theorem loop1_eq (hef : ∀ s, ef s Zip.goModName = Zip.equalFoldGoMod s) (files : List Zip.FileInfo) (fuel : Nat)
    (hf : files.length + 1 ≤ fuel) :
    Generated.Zip.checkFiles_loop1 cfp ef pgv sf tl vc vl (files.map toGFile) [] [] fuel 0 [] default [] [] =
      .ok ((files.length : Int), epOf (Zip.prePass files).st.errPaths, embCF (Zip.prePass files).st.cf,
        hgOf (Zip.prePass files).haveGoMod, versOf pgv vl files) := by
  have := loop1_from (cfp := cfp) (pgv := pgv) (sf := sf) (tl := tl) (vc := vc) (vl := vl) hef [] [] files [] fuel {} [] hf
  simp only [List.nil_append, List.length_nil] at this
  exact this

end

end ModVerif.TieFnZipCf
