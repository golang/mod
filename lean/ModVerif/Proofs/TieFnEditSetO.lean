/-
  `File.SetRequireSeparateIndirect`: the indirect-block stage
  (`indirectStageG` ↔ `indirectPlan`): after it the generated function IS its tail on a heap that satisfies everything the
  tail simulation needs (`TailReady`).
-/
import ModVerif.Proofs.TieFnEditSetN
namespace ModVerif.Tie.FnEditSetO
open ModVerif ModVerif.GoRt ModVerif.Generated.Edit ModVerif.Tie.FnEditRep ModVerif.Tie.FnEditTreeA ModVerif.Tie.FnEditLoop ModVerif.Tie.FnEditSetA
  ModVerif.Tie.FnEditSetB ModVerif.Tie.FnEditSetC ModVerif.Tie.FnEditSetD ModVerif.Tie.FnEditSetE ModVerif.Tie.FnEditSetF
  ModVerif.Tie.FnEditSetG ModVerif.Tie.FnEditSetH ModVerif.Tie.FnEditSetI ModVerif.Tie.FnEditSetJ ModVerif.Tie.FnEditSetK
  ModVerif.Tie.FnEditSetL ModVerif.Tie.FnEditSetM ModVerif.Tie.FnEditSetN
open ModVerif.Modfile.Edit (EFile Want treeIds Scan scanStmts hasComments SepCtx insertAt emptyRequireBlock ensureBlock EditErr)

theorem insertAt_get_lt {α : Type} (l : List α) (i j : Nat) (x : α) (h : j < i) (hi : i ≤ l.length) :
    (insertAt l i x)[j]? = l[j]? := by
  unfold insertAt
  rw [List.getElem?_append_left (by simp; omega), List.getElem?_take_of_lt h]

theorem insertAt_get_eq {α : Type} (l : List α) (i : Nat) (x : α) (hi : i ≤ l.length) : (insertAt l i x)[i]? = some x := by
  unfold insertAt
  have : (l.take i).length = i := by simp; omega
  rw [List.getElem?_append_right (by omega), this]; simp

theorem insertAt_get_succ {α : Type} (l : List α) (i : Nat) (x : α) (hi : i ≤ l.length) : (insertAt l i x)[i + 1]? = l[i]? := by
  unfold insertAt
  have : (l.take i).length = i := by simp; omega
  rw [List.getElem?_append_right (by omega), this]; simp

theorem insertAt_length {α : Type} (l : List α) (i : Nat) (x : α) : (insertAt l i x).length = l.length + 1 := by
  unfold insertAt; simp; omega

theorem treeIds_insertAt (stmts : List Modfile.Expr) (i : Nat) : treeIds (insertAt stmts i emptyRequireBlock) = treeIds stmts := by
  unfold insertAt
  rw [treeIds_insert, List.take_append_drop]

/-! ### what the tail needs -/

/-- the state after the two blocks were ensured -/
structure TailReady (h : Heap) (fp : Int) (e : EFile) (ctx : SepCtx) (stmts' : List Modfile.Expr) (ps : List Int) (req : List Want)
    (ltb : List (Int × Int)) (dB iB : Int) : Prop where
  ex : ∃ o fo, heapGet h.mods fp = .ok o ∧ RepFAt h o (withStmts e stmts') ∧ heapGet h.files o.Syntax = .ok fo ∧
    fo.Stmt[ctx.directIdx]? = some (Expr.LineBlock dB) ∧ fo.Stmt[ctx.indirectIdx]? = some (Expr.LineBlock iB) ∧
    (∀ p ∈ ps, p ∉ o.Require)
  ltb : LtbOK ltb ctx dB iB
  args : ReqArgsS h.requires ps req
  inTree : ∀ rq ∈ e.f.require, rq.lineId ≠ 0 → rq.lineId ∈ treeIds stmts'

/-- what the indirect stage needs of the state after the direct stage -/
structure Stage1 (h : Heap) (fp : Int) (o : File) (e : EFile) (stmts1 : List Modfile.Expr) (fo1 : FileSyntax) (es0 : List Expr)
    (ml : List (Nat × Nat)) (directIdx : Nat) (directOrig : Option Nat) (dB : Int) (lastIndirect indirectShift : Option Nat)
    (ps : List Int) (req : List Want) : Prop where
  mods : heapGet h.mods fp = .ok o
  rep : RepFAt h o (withStmts e stmts1)
  file : heapGet h.files o.Syntax = .ok fo1
  di : fo1.Stmt[directIdx]? = some (Expr.LineBlock dB)
  dpos : 0 < dB
  dorig : Origin es0 directOrig dB
  nodup0 : (blockPtrs es0).Nodup
  ml0 : ∀ q ∈ ml, ∃ p, es0[q.2]? = some (Expr.LineBlock p)
  le0 : ∀ p ∈ blockPtrs es0, p.toNat ≤ h.blocks.length
  shift : ∀ j, lastIndirect = some j → ∃ j0, indirectShift = some j0 ∧
    (∀ p, fo1.Stmt[j]? = some (Expr.LineBlock p) →
      es0[j0]? = some (Expr.LineBlock p) ∨ (p ∉ blockPtrs es0 ∧ ¬ ∃ p', es0[j0]? = some (Expr.LineBlock p'))) ∧
    (∀ q', fo1.Stmt[j]? = some (Expr.Line q') → ¬ ∃ p', es0[j0]? = some (Expr.LineBlock p'))
  line : ∀ j, lastIndirect = some j → ∀ l, stmts1[j]? = some (Modfile.Expr.line l) → l.token ≠ []
  dlen : directIdx < stmts1.length
  args : ReqArgsS h.requires ps req
  dis : ∀ p ∈ ps, p ∉ o.Require
  inTree : ∀ rq ∈ e.f.require, rq.lineId ≠ 0 → rq.lineId ∈ treeIds stmts1

theorem ltb_ok {es0 : List Expr} (hn : (blockPtrs es0).Nodup) {ml : List (Nat × Nat)}
    (hml : ∀ q ∈ ml, ∃ p, es0[q.2]? = some (Expr.LineBlock p)) (oneFlat : Bool) (directIdx indirectIdx : Nat)
    (directOrig indirectOrig : Option Nat) {dB iB : Int} (hd : dB ≠ 0) (hi : iB ≠ 0) (hOd : Origin es0 directOrig dB)
    (hOi : Origin es0 indirectOrig iB) :
    LtbOK (ltbG es0 ml) { oneFlat := oneFlat, directIdx := directIdx, indirectIdx := indirectIdx, directOrig := directOrig,
                          indirectOrig := indirectOrig, lineToBlock := ml } dB iB :=
  ⟨ltb_test es0 hn { oneFlat := oneFlat, directIdx := directIdx, indirectIdx := indirectIdx, directOrig := directOrig,
                     indirectOrig := indirectOrig, lineToBlock := ml } hml directOrig dB hd hOd,
   ltb_test es0 hn { oneFlat := oneFlat, directIdx := directIdx, indirectIdx := indirectIdx, directOrig := directOrig,
                     indirectOrig := indirectOrig, lineToBlock := ml } hml indirectOrig iB hi hOi⟩

theorem isBlockAt_true {stmts : List Modfile.Expr} {j : Nat} {b : Modfile.LineBlock} (h : stmts[j]? = some (Modfile.Expr.lineBlock b)) :
    isBlockAt stmts j = true := by simp [isBlockAt, h]

theorem isBlockAt_line {stmts : List Modfile.Expr} {j : Nat} {l : Modfile.Line} (h : stmts[j]? = some (Modfile.Expr.line l)) :
    isBlockAt stmts j = false := by simp [isBlockAt, h]

theorem indirectPlan_sim (isPrint : Int → Bool) (quote : Bytes → Bytes) (fuel : Nat) {h : Heap} {fp : Int} {o : File} {e : EFile}
    {stmts1 : List Modfile.Expr} {fo1 : FileSyntax} {es0 : List Expr} {ml : List (Nat × Nat)} {directIdx : Nat}
    {directOrig : Option Nat} {dB : Int} {lastIndirect indirectShift : Option Nat} {ps : List Int} {req : List Want}
    (oneFlat : Bool) (S : Stage1 h fp o e stmts1 fo1 es0 ml directIdx directOrig dB lastIndirect indirectShift ps req) :
    match indirectPlan oneFlat ml stmts1 directIdx directOrig lastIndirect indirectShift with
    | .ok (ctx, stmts2) =>
      ∃ h' dB' iB, indirectStageG isPrint quote fuel fp ps (ltbG es0 ml) oneFlat (directIdx : Int) (optI lastIndirect) dB h =
          tailG isPrint quote fuel fp ps (ltbG es0 ml) ctx.oneFlat dB' iB h' ∧
        TailReady h' fp e ctx stmts2 ps req (ltbG es0 ml) dB' iB
    | .error _ =>
      indirectStageG isPrint quote fuel fp ps (ltbG es0 ml) oneFlat (directIdx : Int) (optI lastIndirect) dB h = .error .panic := by
  have hlen1 : fo1.Stmt.length = stmts1.length := by
    obtain ⟨es, r⟩ := S.rep.syn
    rw [RepSynAt_stmt_eq r S.file]; exact r.stmts.length
  have hdne : dB ≠ 0 := by have := S.dpos; omega
  unfold indirectPlan indirectStageG
  cases lastIndirect with
  | none =>
    -- a new block after the direct one
    have hlt : decide (optI none < 0) = true := by simp [optI]
    simp only [hlt, if_true]
    have hcast : ((directIdx : Int) + 1) = ((directIdx + 1 : Nat) : Int) := by omega
    rw [hcast]
    obtain ⟨h', fo, es, hrun, R', hfile, hes, hfile', hmods, hreqs, hlines, hblocks, _⟩ :=
      insertBlock_sim isPrint quote fuel S.mods S.rep (directIdx + 1) (by have := S.dlen; simp only [withStmts_stmts]; omega)
    have hfo : fo = fo1 := by rw [S.file] at hfile; exact (Except.ok.inj hfile).symm
    subst hfo
    simp only [bind, Except.bind, hrun]
    refine ⟨h', dB, ((h.blocks.length + 1 : Nat) : Int), rfl, ?_, ?_, ?_, ?_⟩
    · refine ⟨o, _, by rw [hmods]; exact S.mods, by simpa using R', hfile', ?_, ?_, S.dis⟩
      · show (insertAt es (directIdx + 1) _)[directIdx]? = _
        rw [insertAt_get_lt _ _ _ _ (by omega) (by rw [← hes, hlen1]; have := S.dlen; omega), ← hes]; exact S.di
      · show (insertAt es (directIdx + 1) _)[directIdx + 1]? = _
        exact insertAt_get_eq _ _ _ (by rw [← hes, hlen1]; have := S.dlen; omega)
    · refine ltb_ok S.nodup0 S.ml0 _ _ _ _ _ hdne (by omega) S.dorig ?_
      show _ ∉ blockPtrs es0
      intro hm; have := S.le0 _ hm; omega
    · rw [hreqs]; exact S.args
    · intro rq hrq h0; rw [treeIds_insertAt]; exact S.inTree rq hrq h0
  | some j =>
    have ho : optI (some j) = (j : Int) := rfl
    generalize optI (some j) = oj at ho ⊢
    subst ho
    have hlt : decide ((j : Int) < 0) = false := by
      have : ¬ ((j : Int) < 0) := by omega
      simp [this]
    simp only [hlt, Bool.false_eq_true, if_false]
    obtain ⟨j0, hj0, hsh1, hsh2⟩ := S.shift j rfl
    have hE := ensureBlock_sim isPrint quote fuel S.mods S.rep j S.file (fun l hl => S.line j rfl l hl)
    simp only [withStmts_stmts] at hE
    cases hen : ensureBlock stmts1 j with
    | error err =>
      rw [hen] at hE
      simp only [bind, Except.bind, hE]
    | ok stmts2 =>
      rw [hen] at hE
      obtain ⟨h', iB, es', hrun, R', hfile', hget, hipos, hcase, hmods, hreqs, hble, htree⟩ := hE
      simp only [bind, Except.bind, hrun]
      refine ⟨h', dB, iB, rfl, ?_, ?_, ?_, ?_⟩
      · refine ⟨o, _, by rw [hmods]; exact S.mods, by simpa using R', hfile', ?_, hget, S.dis⟩
        show es'[directIdx]? = _
        rcases hcase with ⟨_, hes', _⟩ | ⟨q, hq, hes', _, _⟩
        · rw [hes']; exact S.di
        · rw [hes']
          by_cases e : j = directIdx
          · subst e; rw [S.di] at hq; cases hq
          · rw [List.getElem?_set_ne e]; exact S.di
      · refine ltb_ok S.nodup0 S.ml0 _ _ _ _ _ hdne (by omega) S.dorig ?_
        rcases hcase with ⟨hb, _, b, hsb⟩ | ⟨q, hq, _, hbp, l, hsl⟩
        · rw [isBlockAt_true hsb, if_pos rfl, hj0]
          exact hsh1 iB hb
        · rw [isBlockAt_line hsl]
          simp only [Bool.false_eq_true, if_false, Origin]
          intro hm; have := S.le0 _ hm; omega
      · rw [hreqs]; exact S.args
      · intro rq hrq h0; rw [htree]; exact S.inTree rq hrq h0

end ModVerif.Tie.FnEditSetO
