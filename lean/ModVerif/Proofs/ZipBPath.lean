/-
  `path.Clean` / `path.Dir` / `filepath.Join` on the component level.

  `pathClean p = render (isRooted p) (comps p)`, the component list `comps p` is canonical (`Canon`), a
  canonical list is a fixed point of `cleanComps`, hence `comps (pathClean p) = comps p`;
  `pathDir (render r cs) = render r cs.dropLast`; `fpJoin dir n = render (isRooted dir) (comps dir ++ splitOn n)`
  for a name made of normal elements.
-/
import ModVerif.Spec.ZipSpec
import ModVerif.Proofs.ListLemmas
namespace ModVerif.Proofs.ZipB
open ModVerif ModVerif.PathClean ModVerif.Zip ModVerif.ZipSpec

abbrev J (cs : List Bytes) : Bytes := joinWith [47] cs

theorem not_mem_of_mem_splitOn (sep : UInt8) (b s : Bytes) (hs : s ∈ splitOn sep b) : sep ∉ s :=
  fun hm => (mem_splitOn sep b s hs sep hm).2 rfl

theorem J_cons_cons (c d : Bytes) (rest : List Bytes) : J (c :: d :: rest) = c ++ 47 :: J (d :: rest) := by
  simp [J, joinWith]

theorem J_concat (b : Bytes) : ∀ init : List Bytes, init ≠ [] → J (init ++ [b]) = J init ++ 47 :: b
  | [], h => absurd rfl h
  | [x], _ => by simp [J, joinWith]
  | x :: y :: rest, _ => by
    have ih := J_concat b (y :: rest) (by simp)
    simp only [List.cons_append] at ih ⊢
    rw [J_cons_cons, ih, J_cons_cons]
    simp

theorem J_splitOn (p : Bytes) : J (splitOn 47 p) = p := joinWith_splitOn 47 p

theorem splitOn_J (cs : List Bytes) (hne : cs ≠ []) (h : ∀ c ∈ cs, (47 : UInt8) ∉ c) : splitOn 47 (J cs) = cs :=
  splitOn_joinWith 47 cs hne h

theorem J_injective {a b : List Bytes} (ha : a ≠ []) (hb : b ≠ []) (ha' : ∀ c ∈ a, (47 : UInt8) ∉ c)
    (hb' : ∀ c ∈ b, (47 : UInt8) ∉ c) (h : J a = J b) : a = b := by
  rw [← splitOn_J a ha ha', ← splitOn_J b hb hb', h]

theorem step_normal (r : Bool) (st : List Bytes) (c : Bytes) (h1 : c ≠ []) (h2 : c ≠ [46]) (h3 : c ≠ dotdot) :
    step r st c = c :: st := by
  unfold step
  have e1 : (c == []) = false := by simpa using h1
  have e2 : (c == [46]) = false := by simpa using h2
  have e3 : (c == dotdot) = false := by simpa using h3
  simp [e1, e2, e3]

theorem foldl_step_normal (r : Bool) : ∀ (cs st : List Bytes),
    (∀ c ∈ cs, c ≠ [] ∧ c ≠ [46] ∧ c ≠ dotdot) → cs.foldl (step r) st = cs.reverse ++ st
  | [], _, _ => rfl
  | c :: cs, st, h => by
    have ⟨h1, h2, h3⟩ := h c List.mem_cons_self
    simp only [List.foldl_cons, step_normal r st c h1 h2 h3, List.reverse_cons, List.append_assoc,
      List.singleton_append]
    exact foldl_step_normal r cs (c :: st) (fun d hd => h d (List.mem_cons_of_mem _ hd))

/-- the stack is held top first -/
structure StackOK (r : Bool) (st : List Bytes) : Prop where
  elem : ∀ c ∈ st, c ≠ [] ∧ c ≠ [46] ∧ (47 : UInt8) ∉ c
  dd : st.Pairwise (fun a b => a = dotdot → b = dotdot)
  rooted : r = true → dotdot ∉ st

theorem dotdot_noSlash : (47 : UInt8) ∉ dotdot := by decide

theorem stackOK_step (r : Bool) (st : List Bytes) (c : Bytes) (h : StackOK r st) (hc : (47 : UInt8) ∉ c) :
    StackOK r (step r st c) := by
  unfold step
  by_cases e1 : c = []
  · simp [e1]; exact h
  by_cases e2 : c = [46]
  · simp [e2]; exact h
  have b1 : (c == []) = false := by simpa using e1
  have b2 : (c == [46]) = false := by simpa using e2
  by_cases e3 : c = dotdot
  · subst e3
    simp only [b1, b2, Bool.false_eq_true, if_false, beq_self_eq_true, if_true]
    cases st with
    | nil =>
      simp only
      cases r with
      | true => simp; exact ⟨by simp, List.Pairwise.nil, by simp⟩
      | false =>
        simp
        exact ⟨by intro c hc; rw [List.mem_singleton.mp hc]; exact ⟨by decide, by decide, by decide⟩,
               List.pairwise_singleton _ _, by simp⟩
    | cons top rest =>
      simp only
      by_cases et : top = dotdot
      · subst et
        simp only [beq_self_eq_true, if_true]
        cases r with
        | true => simp; exact h
        | false =>
          simp
          refine ⟨?_, ?_, by simp⟩
          · intro c hc
            rcases List.mem_cons.mp hc with rfl | hc
            · exact ⟨by decide, by decide, by decide⟩
            · exact h.elem c hc
          · refine List.pairwise_cons.mpr ⟨?_, h.dd⟩
            intro b hb _
            rcases List.mem_cons.mp hb with rfl | hb
            · rfl
            · exact (List.pairwise_cons.mp h.dd).1 b hb rfl
      · have bt : (top == dotdot) = false := by simpa using et
        simp only [bt, Bool.false_eq_true, if_false]
        refine ⟨fun c hc => h.elem c (List.mem_cons_of_mem _ hc), (List.pairwise_cons.mp h.dd).2, ?_⟩
        intro hr hm
        exact h.rooted hr (List.mem_cons_of_mem _ hm)
  · have b3 : (c == dotdot) = false := by simpa using e3
    simp only [b1, b2, b3, Bool.false_eq_true, if_false]
    refine ⟨?_, ?_, ?_⟩
    · intro d hd
      rcases List.mem_cons.mp hd with rfl | hd
      · exact ⟨e1, e2, hc⟩
      · exact h.elem d hd
    · exact List.pairwise_cons.mpr ⟨fun b _ hcd => absurd hcd e3, h.dd⟩
    · intro hr hm
      rcases List.mem_cons.mp hm with e | hm
      · exact e3 e.symm
      · exact h.rooted hr hm

theorem stackOK_foldl (r : Bool) : ∀ (cs st : List Bytes), StackOK r st → (∀ c ∈ cs, (47 : UInt8) ∉ c) →
    StackOK r (cs.foldl (step r) st)
  | [], _, h, _ => h
  | c :: cs, st, h, hc =>
    stackOK_foldl r cs _ (stackOK_step r st c h (hc c List.mem_cons_self))
      (fun d hd => hc d (List.mem_cons_of_mem _ hd))

/-- what `path.Clean` keeps of a component list (`r`: the path is rooted) -/
structure Canon (r : Bool) (cs : List Bytes) : Prop where
  elem : ∀ c ∈ cs, c ≠ [] ∧ c ≠ [46] ∧ (47 : UInt8) ∉ c
  dd : cs.Pairwise (fun a b => b = dotdot → a = dotdot)
  rooted : r = true → dotdot ∉ cs

theorem canon_nil (r : Bool) : Canon r [] := ⟨by simp, List.Pairwise.nil, by simp⟩

theorem canon_of_stackOK {r : Bool} {st : List Bytes} (h : StackOK r st) : Canon r st.reverse :=
  ⟨fun c hc => h.elem c (List.mem_reverse.mp hc), List.pairwise_reverse.mpr h.dd,
   fun hr hm => h.rooted hr (List.mem_reverse.mp hm)⟩

theorem canon_cleanComps (r : Bool) (cs : List Bytes) (hc : ∀ c ∈ cs, (47 : UInt8) ∉ c) :
    Canon r (cleanComps r cs) :=
  canon_of_stackOK (stackOK_foldl r cs [] ⟨by simp, List.Pairwise.nil, by simp⟩ hc)

theorem canon_comps (p : Bytes) : Canon (isRooted p) (comps p) :=
  canon_cleanComps _ _ (fun c hc => not_mem_of_mem_splitOn 47 p c hc)

theorem canon_sublist {r : Bool} {cs ds : List Bytes} (h : Canon r cs) (hs : ds.Sublist cs) : Canon r ds :=
  ⟨fun c hc => h.elem c (hs.subset hc), h.dd.sublist hs, fun hr hm => h.rooted hr (hs.subset hm)⟩

theorem canon_append_normal {r : Bool} {cs ns : List Bytes} (h : Canon r cs) (hn : ∀ c ∈ ns, NormalElem c) :
    Canon r (cs ++ ns) := by
  refine ⟨?_, ?_, ?_⟩
  · intro c hc
    rcases List.mem_append.mp hc with hc | hc
    · exact h.elem c hc
    · exact ⟨(hn c hc).1, (hn c hc).2.1, (hn c hc).2.2.2⟩
  · refine List.pairwise_append.mpr ⟨h.dd, ?_, ?_⟩
    · exact List.Pairwise.imp_of_mem (R := fun _ _ => True)
        (fun {a b} _ hb _ hbd => absurd hbd (hn b hb).2.2.1) (List.pairwise_of_forall (fun _ _ => trivial))
    · intro a _ b hb hbd
      exact absurd hbd (hn b hb).2.2.1
  · intro hr hm
    rcases List.mem_append.mp hm with hm | hm
    · exact h.rooted hr hm
    · exact (hn _ hm).2.2.1 rfl

theorem foldl_step_canon (r : Bool) : ∀ (cs st : List Bytes), Canon r (st.reverse ++ cs) →
    cs.foldl (step r) st = cs.reverse ++ st
  | [], _, _ => rfl
  | c :: cs, st, h => by
    have hce := h.elem c (by simp)
    have hstep : step r st c = c :: st := by
      by_cases e3 : c = dotdot
      · subst e3
        have hr : r = false := by
          cases r with
          | false => rfl
          | true => exact absurd (by simp) (h.rooted rfl)
        have hall : ∀ a ∈ st, a = dotdot := by
          intro a ha
          have := (List.pairwise_append.mp h.dd).2.2 a (List.mem_reverse.mpr ha) dotdot List.mem_cons_self
          exact this rfl
        subst hr
        unfold step
        cases st with
        | nil => simp [dotdot]
        | cons top rest =>
          have := hall top List.mem_cons_self
          subst this
          simp [dotdot]
      · exact step_normal r st c hce.1 hce.2.1 e3
    simp only [List.foldl_cons, hstep, List.reverse_cons, List.append_assoc, List.singleton_append]
    exact foldl_step_canon r cs (c :: st) (by simpa using h)

theorem cleanComps_canon {r : Bool} {cs : List Bytes} (h : Canon r cs) : cleanComps r cs = cs := by
  unfold cleanComps
  rw [foldl_step_canon r cs [] (by simpa using h)]
  simp

theorem cleanComps_append (r : Bool) (as bs : List Bytes) :
    cleanComps r (as ++ bs) = (bs.foldl (step r) (cleanComps r as).reverse).reverse := by
  simp [cleanComps, List.foldl_append]

theorem cleanComps_append_normal (r : Bool) (as ns : List Bytes) (hn : ∀ c ∈ ns, NormalElem c) :
    cleanComps r (as ++ ns) = cleanComps r as ++ ns := by
  rw [cleanComps_append, foldl_step_normal r ns _ (fun c hc => ⟨(hn c hc).1, (hn c hc).2.1, (hn c hc).2.2.1⟩)]
  simp

theorem cleanComps_append_empty (r : Bool) (as : List Bytes) : cleanComps r (as ++ [[]]) = cleanComps r as := by
  rw [cleanComps_append]
  simp [step]

theorem cleanComps_cons_empty (r : Bool) (as : List Bytes) : cleanComps r ([] :: as) = cleanComps r as := by
  simp [cleanComps, step]

/-- what `path.Clean` writes for the kept components -/
def render (r : Bool) (cs : List Bytes) : Bytes :=
  if r then 47 :: J cs else if cs.isEmpty then [46] else J cs

theorem pathClean_eq_render (p : Bytes) : pathClean p = render (isRooted p) (comps p) := by
  unfold pathClean render
  by_cases hp : p = []
  · subst hp; decide
  · have : (p == []) = false := by simpa using hp
    simp only [this, Bool.false_eq_true, if_false]

theorem render_false_J {cs : List Bytes} (h : cs ≠ []) : render false cs = J cs := by
  unfold render
  have : cs.isEmpty = false := by simpa using h
  simp [this]

theorem isRooted_J_canon {cs : List Bytes} (h : Canon false cs) : isRooted (J cs) = false := by
  cases cs with
  | nil => rfl
  | cons c rest =>
    have hc := h.elem c List.mem_cons_self
    cases c with
    | nil => exact absurd rfl hc.1
    | cons x xs =>
      have hx : x ≠ 47 := fun e => hc.2.2 (by rw [e]; exact List.mem_cons_self)
      cases rest with
      | nil =>
        show isRooted (x :: xs) = false
        unfold isRooted
        split
        · rename_i heq; injection heq with h1 _; exact absurd h1 hx
        · rfl
      | cons d ds =>
        rw [J_cons_cons]
        show isRooted (x :: (xs ++ 47 :: J (d :: ds))) = false
        unfold isRooted
        split
        · rename_i heq; injection heq with h1 _; exact absurd h1 hx
        · rfl

theorem isRooted_render {r : Bool} {cs : List Bytes} (h : Canon r cs) : isRooted (render r cs) = r := by
  unfold render
  cases r with
  | true => rfl
  | false =>
    simp only [Bool.false_eq_true, if_false]
    split
    · rfl
    · exact isRooted_J_canon h

theorem comps_render {r : Bool} {cs : List Bytes} (h : Canon r cs) : comps (render r cs) = cs := by
  unfold comps
  rw [isRooted_render h]
  unfold render
  cases r with
  | true =>
    simp only [if_true]
    rw [splitOn_cons_sep, cleanComps_cons_empty]
    cases hcs : cs with
    | nil => decide
    | cons c rest =>
      rw [← hcs, splitOn_J cs (by simp [hcs]) (fun c hc => (h.elem c hc).2.2)]
      exact cleanComps_canon h
  | false =>
    simp only [Bool.false_eq_true, if_false]
    cases hcs : cs with
    | nil => decide
    | cons c rest =>
      rw [← hcs]
      have : cs.isEmpty = false := by simp [hcs]
      simp only [this, Bool.false_eq_true, if_false]
      rw [splitOn_J cs (by simp [hcs]) (fun c hc => (h.elem c hc).2.2)]
      exact cleanComps_canon h

theorem comps_pathClean (p : Bytes) : comps (pathClean p) = comps p := by
  rw [pathClean_eq_render]; exact comps_render (canon_comps p)

theorem isRooted_pathClean (p : Bytes) : isRooted (pathClean p) = isRooted p := by
  rw [pathClean_eq_render]; exact isRooted_render (canon_comps p)

theorem pathClean_render {r : Bool} {cs : List Bytes} (h : Canon r cs) : pathClean (render r cs) = render r cs := by
  rw [pathClean_eq_render, isRooted_render h, comps_render h]

theorem pathClean_idem (p : Bytes) : pathClean (pathClean p) = pathClean p := by
  rw [pathClean_eq_render p]; exact pathClean_render (canon_comps p)

theorem render_injective {r : Bool} {a b : List Bytes} (ha : Canon r a) (hb : Canon r b)
    (h : render r a = render r b) : a = b := by
  rw [← comps_render ha, ← comps_render hb, h]

theorem lastElem_noSlash (b : Bytes) (hb : (47 : UInt8) ∉ b) : lastElem b = b := by
  unfold lastElem
  have : b.reverse.takeWhile (· != 47) = b.reverse := by
    have h := List.takeWhile_append_of_pos (p := fun x : UInt8 => x != 47) (l₁ := b.reverse) (l₂ := []) (by
      intro x hx
      have : x ≠ 47 := fun e => hb (by rw [← e]; exact List.mem_reverse.mp hx)
      simpa using this)
    simpa using h
  rw [this]; simp

theorem lastElem_append (a b : Bytes) (hb : (47 : UInt8) ∉ b) : lastElem (a ++ 47 :: b) = b := by
  unfold lastElem
  have hrev : (a ++ 47 :: b).reverse = b.reverse ++ 47 :: a.reverse := by simp
  rw [hrev]
  have : (b.reverse ++ 47 :: a.reverse).takeWhile (· != 47) = b.reverse := by
    rw [List.takeWhile_append_of_pos]
    · simp
    · intro x hx
      have : x ≠ 47 := fun e => hb (by rw [← e]; exact List.mem_reverse.mp hx)
      simpa using this
  rw [this]; simp

theorem pathSplit_noSlash (b : Bytes) (hb : (47 : UInt8) ∉ b) : pathSplit b = ([], b) := by
  unfold pathSplit
  simp [lastElem_noSlash b hb]

theorem pathSplit_append (a b : Bytes) (hb : (47 : UInt8) ∉ b) : pathSplit (a ++ 47 :: b) = (a ++ [47], b) := by
  unfold pathSplit
  simp only [lastElem_append a b hb]
  have : (a ++ 47 :: b).length - b.length = (a ++ [47]).length := by simp; omega
  rw [this]
  have : a ++ 47 :: b = (a ++ [47]) ++ b := by simp
  rw [this, List.take_left']
  rfl

theorem isRooted_append_ne_nil (a b : Bytes) (ha : a ≠ []) : isRooted (a ++ b) = isRooted a := by
  cases a with
  | nil => exact absurd rfl ha
  | cons x xs =>
    show isRooted (x :: (xs ++ b)) = isRooted (x :: xs)
    unfold isRooted
    split <;> split <;> simp_all

theorem pathDir_render {r : Bool} {cs : List Bytes} (h : Canon r cs) :
    pathDir (render r cs) = render r cs.dropLast := by
  unfold pathDir
  rcases List.eq_nil_or_concat cs with rfl | ⟨init, b, hcs⟩
  · cases r <;> decide
  · rw [List.concat_eq_append] at hcs
    subst hcs
    have hb := (h.elem b (by simp)).2.2
    have hinit : Canon r init := canon_sublist h (List.sublist_append_left init [b])
    simp only [List.dropLast_concat]
    by_cases hi : init = []
    · subst hi
      cases r with
      | true =>
        have : render true ([] ++ [b]) = [] ++ 47 :: b := by simp [render, J, joinWith]
        rw [this, pathSplit_append [] b hb]
        rfl
      | false =>
        have : render false ([] ++ [b]) = b := by simp [render, J, joinWith]
        rw [this, pathSplit_noSlash b hb]
        rfl
    · have hne : (init ++ [b]).isEmpty = false := by simp
      have hsplit : splitOn 47 (J init) = init := splitOn_J init hi (fun c hc => (hinit.elem c hc).2.2)
      cases r with
      | true =>
        have : render true (init ++ [b]) = (47 :: J init) ++ 47 :: b := by
          simp only [render, if_true, J_concat b init hi]; simp
        rw [this, pathSplit_append _ b hb, pathClean_eq_render]
        have hr : isRooted ((47 :: J init) ++ [47]) = true := rfl
        rw [hr]
        congr 1
        unfold comps
        rw [hr, splitOn_append_sep, splitOn_cons_sep, hsplit]
        show cleanComps true ([] :: (init ++ [[]])) = init
        rw [cleanComps_cons_empty, cleanComps_append_empty]
        exact cleanComps_canon hinit
      | false =>
        have : render false (init ++ [b]) = J init ++ 47 :: b := by
          simp only [render, Bool.false_eq_true, if_false, hne, J_concat b init hi]
        rw [this, pathSplit_append _ b hb, pathClean_eq_render]
        have hJne : J init ≠ [] := by
          intro e
          have := hsplit
          rw [e] at this
          cases init with
          | nil => exact hi rfl
          | cons c rest =>
            simp [splitOn] at this
            exact (hinit.elem c List.mem_cons_self).1 this.1
        have hr : isRooted (J init ++ [47]) = false := by
          rw [isRooted_append_ne_nil _ _ hJne]; exact isRooted_J_canon hinit
        rw [hr]
        congr 1
        unfold comps
        rw [hr, splitOn_append_sep, hsplit]
        show cleanComps false (init ++ [[]]) = init
        rw [cleanComps_append_empty]
        exact cleanComps_canon hinit

theorem getLast?_append_ne_nil (a b : Bytes) (h : b ≠ []) : (a ++ b).getLast? = b.getLast? := by
  rw [List.getLast?_append]
  cases b with
  | nil => exact absurd rfl h
  | cons y ys => simp [List.getLast?]

theorem noSlashSuffix_append (a : Bytes) {b : Bytes} (hne : b ≠ []) (hb : (47 : UInt8) ∉ b) :
    hasSlashSuffix (a ++ b) = false := by
  unfold hasSlashSuffix
  rw [getLast?_append_ne_nil _ _ hne]
  have : b.getLast? ≠ some 47 := fun e => hb (List.mem_of_getLast? e)
  simpa using this

theorem stripTrailingSlashes_id (p : Bytes) (h : hasSlashSuffix p = false) : stripTrailingSlashes p = p := by
  unfold stripTrailingSlashes
  unfold hasSlashSuffix at h
  cases hr : p.reverse with
  | nil => have : p = [] := by simpa using hr
           rw [this]; rfl
  | cons x t =>
    have hx : p.getLast? = some x := by
      rw [List.getLast?_eq_head?_reverse, hr]; rfl
    have hne : x ≠ 47 := by
      intro e; rw [hx, e] at h; simp at h
    have : (x :: t).dropWhile (· == 47) = x :: t := by
      have h47 : (x == 47) = false := by simpa using hne
      simp [List.dropWhile, h47]
    rw [this, ← hr]; simp

theorem lastElem_ne_nil (p : Bytes) (hne : p ≠ []) (h : hasSlashSuffix p = false) : lastElem p ≠ [] := by
  unfold lastElem
  unfold hasSlashSuffix at h
  cases hr : p.reverse with
  | nil => exact absurd (by simpa using hr) hne
  | cons x t =>
    have hx : p.getLast? = some x := by
      rw [List.getLast?_eq_head?_reverse, hr]; rfl
    have hne' : x ≠ 47 := by
      intro e; rw [hx, e] at h; simp at h
    have h47 : (x != 47) = true := by simpa using hne'
    simp [List.takeWhile, h47]

theorem pathBase_eq_lastElem (p : Bytes) (hne : p ≠ []) (h : hasSlashSuffix p = false) : pathBase p = lastElem p := by
  unfold pathBase
  have : (p == []) = false := by simpa using hne
  rw [this]
  simp only [Bool.false_eq_true, if_false]
  rw [stripTrailingSlashes_id p h]
  have := lastElem_ne_nil p hne h
  have : (lastElem p == []) = false := by simpa using this
  rw [this]; simp

def NormalName (n : Bytes) : Prop := ∀ c ∈ splitOn 47 n, NormalElem c

theorem normalName_of_cfpSound {cfp : Bytes → Bool} (h : CfpSound cfp) {n : Bytes} (hn : cfp n = true) :
    NormalName n := by
  intro c hc
  have := h n hn c hc
  exact ⟨this.1, this.2.1, this.2.2, not_mem_of_mem_splitOn 47 n c hc⟩

theorem cfpSound_elemRule : CfpSound fun p =>
    !p.isEmpty && (splitOn 47 p).all (fun c => c != [] && c != [46] && c != [46, 46]) := by
  intro p hp c hc
  simp only [Bool.and_eq_true, List.all_eq_true] at hp
  have := hp.2 c hc
  simp at this
  exact ⟨this.1.1, this.1.2, this.2⟩

theorem normalName_ne_nil {n : Bytes} (h : NormalName n) : n ≠ [] := by
  intro e; subst e
  exact (h [] (by simp [splitOn])).1 rfl

theorem normalName_elem {name : Bytes} (hn : NormalElem name) : NormalName name := by
  intro c hc
  rw [splitOn_noSep 47 name hn.2.2.2] at hc
  simp at hc; subst hc; exact hn

/-! ### the slash path of a child in a directory walk (`rel = []`: the walked directory itself) -/

theorem childPath_nil (name : Bytes) : Zip.childPath [] name = name := rfl

theorem childPath_ne (rel name : Bytes) (h : rel ≠ []) : Zip.childPath rel name = rel ++ 47 :: name := by
  unfold Zip.childPath
  have : (rel == []) = false := by simpa using h
  rw [this]; simp

theorem splitOn_child (rel name : Bytes) (hn : NormalElem name) :
    splitOn 47 (rel ++ 47 :: name) = splitOn 47 rel ++ [name] := by
  rw [splitOn_append_sep, splitOn_noSep 47 name hn.2.2.2]

theorem normalName_child {rel name : Bytes} (hr : rel = [] ∨ NormalName rel) (hn : NormalElem name) :
    NormalName (Zip.childPath rel name) := by
  rcases hr with rfl | hr
  · rw [childPath_nil]; exact normalName_elem hn
  · rw [childPath_ne rel name (normalName_ne_nil hr)]
    intro c hc
    rw [splitOn_child rel name hn] at hc
    rcases List.mem_append.mp hc with hc | hc
    · exact hr c hc
    · simp at hc; subst hc; exact hn

theorem normalName_not_rooted {n : Bytes} (h : NormalName n) : isRooted n = false := by
  cases n with
  | nil => rfl
  | cons c rest =>
    unfold isRooted
    split
    · rename_i heq
      injection heq with h1 _
      subst h1
      exact absurd rfl (h [] (by simp [splitOn])).1
    · rfl

theorem canon_normalName {r : Bool} {n : Bytes} (h : NormalName n) : Canon r (splitOn 47 n) := by
  have := canon_append_normal (canon_nil r) h
  simpa using this

theorem comps_normalName {n : Bytes} (h : NormalName n) : comps n = splitOn 47 n := by
  unfold comps
  exact cleanComps_canon (canon_normalName h)

theorem pathClean_normalName {n : Bytes} (h : NormalName n) : pathClean n = n := by
  rw [pathClean_eq_render, normalName_not_rooted h, comps_normalName h]
  unfold render
  have : (splitOn 47 n).isEmpty = false := by
    cases hs : splitOn 47 n with
    | nil => exact absurd hs (splitOn_ne_nil 47 n)
    | cons _ _ => rfl
  simp only [Bool.false_eq_true, if_false, this]
  exact J_splitOn n

theorem fpJoin_eq_render (dir : Bytes) {n : Bytes} (h : NormalName n) :
    fpJoin dir n = render (isRooted dir) (comps dir ++ splitOn 47 n) := by
  unfold fpJoin
  by_cases hd : dir = []
  · subst hd
    simp only [beq_self_eq_true, if_true]
    rw [pathClean_eq_render, normalName_not_rooted h, comps_normalName h]
    rfl
  · have hd' : (dir == []) = false := by simpa using hd
    have hn' : (n == []) = false := by simpa using normalName_ne_nil h
    simp only [hd', hn', Bool.false_eq_true, if_false]
    rw [pathClean_eq_render]
    have hr : isRooted (dir ++ [47] ++ n) = isRooted dir := by
      rw [List.append_assoc]; exact isRooted_append_ne_nil _ _ hd
    rw [hr]
    congr 1
    unfold comps
    rw [hr]
    have : dir ++ [47] ++ n = dir ++ 47 :: n := by simp
    rw [this, splitOn_append_sep, cleanComps_append_normal _ _ _ h]

theorem canon_join (dir : Bytes) {n : Bytes} (h : NormalName n) :
    Canon (isRooted dir) (comps dir ++ splitOn 47 n) :=
  canon_append_normal (canon_comps dir) h

theorem comps_fpJoin (dir : Bytes) {n : Bytes} (h : NormalName n) :
    comps (fpJoin dir n) = comps dir ++ splitOn 47 n := by
  rw [fpJoin_eq_render dir h]; exact comps_render (canon_join dir h)

theorem isRooted_fpJoin (dir : Bytes) {n : Bytes} (h : NormalName n) :
    isRooted (fpJoin dir n) = isRooted dir := by
  rw [fpJoin_eq_render dir h]; exact isRooted_render (canon_join dir h)

theorem pathDir_fpJoin (dir : Bytes) {n : Bytes} (h : NormalName n) :
    pathDir (fpJoin dir n) = render (isRooted dir) (comps dir ++ (splitOn 47 n).dropLast) := by
  rw [fpJoin_eq_render dir h, pathDir_render (canon_join dir h),
    List.dropLast_append_of_ne_nil (splitOn_ne_nil 47 n)]

theorem canon_join_dropLast (dir : Bytes) {n : Bytes} (h : NormalName n) :
    Canon (isRooted dir) (comps dir ++ (splitOn 47 n).dropLast) :=
  canon_append_normal (canon_comps dir) (fun c hc => h c (List.dropLast_subset _ hc))

theorem fpJoin_injective (dir : Bytes) {n m : Bytes} (hn : NormalName n) (hm : NormalName m)
    (h : fpJoin dir n = fpJoin dir m) : n = m := by
  have := congrArg comps h
  rw [comps_fpJoin dir hn, comps_fpJoin dir hm] at this
  have := List.append_cancel_left this
  rw [← J_splitOn n, ← J_splitOn m, this]

theorem isUnder_refl (d : Bytes) : IsUnder d d := ⟨rfl, [], by simp, by simp⟩

theorem isUnder_fpJoin (dir : Bytes) {n : Bytes} (h : NormalName n) : IsUnder dir (fpJoin dir n) :=
  ⟨isRooted_fpJoin dir h, splitOn 47 n, comps_fpJoin dir h, fun hm => (h _ hm).2.2.1 rfl⟩

theorem isUnder_pathDir_fpJoin (dir : Bytes) {n : Bytes} (h : NormalName n) :
    IsUnder dir (pathDir (fpJoin dir n)) := by
  rw [pathDir_fpJoin dir h]
  exact ⟨isRooted_render (canon_join_dropLast dir h), (splitOn 47 n).dropLast,
    comps_render (canon_join_dropLast dir h), fun hm => (h _ (List.dropLast_subset _ hm)).2.2.1 rfl⟩

theorem isUnder_clean_iff (d p : Bytes) : IsUnder (pathClean d) p ↔ IsUnder d p := by
  unfold IsUnder
  rw [comps_pathClean, isRooted_pathClean]

end ModVerif.Proofs.ZipB
