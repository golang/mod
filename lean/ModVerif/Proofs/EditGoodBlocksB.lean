/-
  Every go.mod operation preserves `GoodBlocks` (`GB blockVerbs`), in a state satisfying the tree invariant: a program of
  tree primitives does when the lines it adds carry block verbs (`runT_gb`, for any verb set), and the programs of the
  operations are such (`prog_headConv`); the bulk setters through `BulkPres`.

  Where the invariant is needed: `AddGoStmt` / `AddToolchainStmt` with no typed `go` / `toolchain` entry call `addLine` with
  a verb that is NOT a block verb.  Under `Inv` every live line of the tree renders a typed entry, so with `f.go = none`
  no live line starts with `go` (`inv_conv_go`): the hinted walk cannot hit one (its hint is the `module` line, or — nil
  hint — `lastStmtWith` finds nothing), and lines marked removed are skipped because their token list is empty.  Every other
  `addLine` of the model carries a block verb.
-/
import ModVerif.Proofs.EditGoodBlocksA
import ModVerif.Proofs.EditTreeProg
namespace ModVerif.Modfile.Edit
open ModVerif ModVerif.Modfile

theorem verbIn_module : verbIn (B "module") blockVerbs = true := by decide +kernel
theorem verbIn_godebug : verbIn (B "godebug") blockVerbs = true := by decide +kernel
theorem verbIn_exclude : verbIn (B "exclude") blockVerbs = true := by decide +kernel
theorem verbIn_replace : verbIn (B "replace") blockVerbs = true := by decide +kernel
theorem verbIn_retract : verbIn (B "retract") blockVerbs = true := by decide +kernel
theorem verbIn_tool : verbIn (B "tool") blockVerbs = true := by decide +kernel

theorem headIs_cons_eq (a v : Bytes) (t : List Bytes) : headIs (a :: t) v = (a == v) := by
  simp [headIs]

theorem verbs_not_go :
    (B "module" == B "go") = false ∧ (B "toolchain" == B "go") = false ∧ (B "godebug" == B "go") = false ∧
    (B "require" == B "go") = false ∧ (B "exclude" == B "go") = false ∧ (B "replace" == B "go") = false ∧
    (B "retract" == B "go") = false ∧ (B "tool" == B "go") = false := by decide +kernel

theorem verbs_not_toolchain :
    (B "module" == B "toolchain") = false ∧ (B "go" == B "toolchain") = false ∧ (B "godebug" == B "toolchain") = false ∧
    (B "require" == B "toolchain") = false ∧ (B "exclude" == B "toolchain") = false ∧ (B "replace" == B "toolchain") = false ∧
    (B "retract" == B "toolchain") = false ∧ (B "tool" == B "toolchain") = false := by decide +kernel

/-! ### under the invariant, the live top-level lines are renderings of typed entries -/

theorem inv_noLive {e : EFile} (hi : Inv e) (verb : Bytes)
    (hent : ∀ id it, (id, it) ∈ items e.f → ∀ t s, Rend it t s → headIs t verb = false) :
    ∀ l, Expr.line l ∈ e.f.syn.stmts → (l.token.isEmpty || !headIs l.token verb) = true := by
  intro l hl
  cases hemp : l.token.isEmpty with
  | true => rfl
  | false =>
    have hp := mem_loc_line hl
    obtain ⟨it, hmem, hr⟩ := line_item hi hp (by simp [liveLoc, hemp])
    simp only [List.nil_append] at hr
    simp [hent _ _ hmem _ _ hr]

theorem inv_conv_go {e : EFile} (hi : Inv e) (h : e.f.go = none) : Conv blockVerbs (B "go") e.f.syn.stmts := by
  refine Or.inr (inv_noLive hi _ ?_)
  obtain ⟨v1, v2, v3, v4, v5, v6, v7, v8⟩ := verbs_not_go
  intro id it hmem t s hr
  cases it with
  | go v => simp [items, h] at hmem
  | module p => have ht : t = _ := hr; rw [ht, headIs_cons_eq]; exact v1
  | toolchain n => have ht : t = _ := hr; rw [ht, headIs_cons_eq]; exact v2
  | godebug k v => have ht : t = _ := hr; rw [ht, headIs_cons_eq]; exact v3
  | require m i => have ht : t = _ := hr.1; rw [ht, headIs_cons_eq]; exact v4
  | exclude m => have ht : t = _ := hr; rw [ht, headIs_cons_eq]; exact v5
  | replace o n => have ht : t = _ := hr; rw [ht, headIs_cons_eq]; exact v6
  | retract vi =>
    rcases hr with ⟨x, ht, _⟩ | ⟨x, y, ht, _⟩ <;> (rw [ht, headIs_cons_eq]; exact v7)
  | tool p =>
    rcases hr with ⟨x, ht, _⟩
    rw [ht, headIs_cons_eq]; exact v8

theorem inv_conv_toolchain {e : EFile} (hi : Inv e) (h : e.f.toolchain = none) : Conv blockVerbs (B "toolchain") e.f.syn.stmts := by
  refine Or.inr (inv_noLive hi _ ?_)
  obtain ⟨v1, v2, v3, v4, v5, v6, v7, v8⟩ := verbs_not_toolchain
  intro id it hmem t s hr
  cases it with
  | toolchain v => simp [items, h] at hmem
  | module p => have ht : t = _ := hr; rw [ht, headIs_cons_eq]; exact v1
  | go n => have ht : t = _ := hr; rw [ht, headIs_cons_eq]; exact v2
  | godebug k v => have ht : t = _ := hr; rw [ht, headIs_cons_eq]; exact v3
  | require m i => have ht : t = _ := hr.1; rw [ht, headIs_cons_eq]; exact v4
  | exclude m => have ht : t = _ := hr; rw [ht, headIs_cons_eq]; exact v5
  | replace o n => have ht : t = _ := hr; rw [ht, headIs_cons_eq]; exact v6
  | retract vi =>
    rcases hr with ⟨x, ht, _⟩ | ⟨x, y, ht, _⟩ <;> (rw [ht, headIs_cons_eq]; exact v7)
  | tool p =>
    rcases hr with ⟨x, ht, _⟩
    rw [ht, headIs_cons_eq]; exact v8

section
variable {verbs : List String}

theorem TPrim.gb (p : TPrim) (s : FileSyntax × Nat) (hp : ∀ v, p.addVerb = some v → Conv verbs v s.1.stmts)
    (h : GB verbs s.1.stmts) : GB verbs (p.run s).1.stmts := by
  cases p with
  | set id toks => exact gb_updateTokens _ _ _ h
  | remove id => exact gb_markRemoved _ _ h
  | mapLine id g => exact gb_updateLine _ _ _ h
  | add hint toks => exact gb_addLine _ _ _ _ (hp _ rfl) h
  | addPtr hint toks => exact gb_addLinePtr _ _ _ _ (hp _ rfl) h
  | insertLine i toks => exact gb_insertAt _ _ _ trivial h
  | dedup kill => exact gb_dropKilled _ _ h
  | sort sem work => exact gb_sortStmts _ _ _ h
  | cleanup => exact gb_cleanupStmts _ h

variable (verbs) in
def BlockVerbs (ps : List TPrim) : Prop := ∀ p ∈ ps, ∀ v, p.addVerb = some v → verbIn v verbs = true

theorem runT_gb (ps : List TPrim) (s : FileSyntax × Nat) (hb : BlockVerbs verbs ps) (h : GB verbs s.1.stmts) :
    GB verbs (runT ps s).1.stmts :=
  runT_induct (P := fun s => GB verbs s.1.stmts) ps s (fun p hp s h => p.gb s (fun v hv => Or.inl (hb p hp v hv)) h) h

variable (verbs) in
def HeadConv (stmts : List Expr) : List TPrim → Prop
  | [] => True
  | p :: ps => (∀ v, p.addVerb = some v → Conv verbs v stmts) ∧ BlockVerbs verbs ps

theorem runT_gb_head (ps : List TPrim) (s : FileSyntax × Nat) (hc : HeadConv verbs s.1.stmts ps) (h : GB verbs s.1.stmts) :
    GB verbs (runT ps s).1.stmts := by
  cases ps with
  | nil => exact h
  | cons p ps => exact runT_gb ps _ hc.2 (p.gb s hc.1 h)

theorem BlockVerbs.head {ps : List TPrim} (h : BlockVerbs verbs ps) (stmts : List Expr) : HeadConv verbs stmts ps := by
  cases ps with
  | nil => trivial
  | cons p ps => exact ⟨fun v hv => Or.inl (h p List.mem_cons_self v hv), fun q hq => h q (List.mem_cons_of_mem _ hq)⟩

theorem blockVerbs_noAdd {ps : List TPrim} (h : ∀ p ∈ ps, p.addVerb = none) : BlockVerbs verbs ps :=
  fun p hp v hv => by rw [h p hp] at hv; cases hv

theorem blockVerbs_removes (ids : List Nat) : BlockVerbs verbs (ids.map .remove) :=
  blockVerbs_noAdd fun p hp => by obtain ⟨i, _, rfl⟩ := List.mem_map.1 hp; rfl

theorem headConv_setProg {α : Type} (stmts : List Expr) (m : α → Bool) (id : α → Nat) (l : List α) (toks : List Bytes) {np : List TPrim}
    (h : HeadConv verbs stmts np) : HeadConv verbs stmts (setProg m id l toks np) := by
  unfold setProg; split
  · exact ⟨fun v hv => (by cases hv), blockVerbs_removes _⟩
  · exact h

end

/-- the one fact GoodBlocks needs of the program text; `Inv` is used for `go` / `toolchain` only: no typed entry ⇒ no live line
    with that verb -/
theorem prog_headConv (e : EFile) (op : Op) (hi : Inv e) : HeadConv blockVerbs e.f.syn.stmts (prog e op) := by
  have na : ∀ {ps : List TPrim}, (∀ p ∈ ps, p.addVerb = none) → HeadConv blockVerbs e.f.syn.stmts ps :=
    fun h => (blockVerbs_noAdd h).head _
  have one : ∀ {hint verb rest}, verbIn verb blockVerbs = true → ∀ {ps : List TPrim}, (∀ p ∈ ps, p.addVerb = none) →
      HeadConv blockVerbs e.f.syn.stmts (.add hint (verb :: rest) :: ps) :=
    fun hv _ h => ⟨fun v e1 => (by cases e1; exact Or.inl hv), blockVerbs_noAdd h⟩
  cases op <;> simp only [prog]
  case addModule p =>
    cases e.f.module with
    | none => exact one verbIn_module (by simp)
    | some m => exact na (by simp [TPrim.addVerb])
  case addGo v =>
    cases hg : e.f.go with
    | none => exact ⟨fun v e1 => (by cases e1; exact inv_conv_go hi hg), blockVerbs_noAdd (by simp)⟩
    | some g => exact na (by simp [TPrim.addVerb])
  case dropGo => cases e.f.go <;> exact na (by simp [TPrim.addVerb])
  case addToolchain n =>
    cases hg : e.f.toolchain with
    | none => exact ⟨fun v e1 => (by cases e1; exact inv_conv_toolchain hi hg), blockVerbs_noAdd (by simp)⟩
    | some g => exact na (by simp [TPrim.addVerb])
  case dropToolchain => cases e.f.toolchain <;> exact na (by simp [TPrim.addVerb])
  case addGodebug k v => exact headConv_setProg _ _ _ _ _ (one verbIn_godebug (by simp))
  case dropGodebug k => exact (blockVerbs_removes _).head _
  case addRequire p v => exact headConv_setProg _ _ _ _ _ (one verbIn_require (by simp [TPrim.addVerb]))
  case addNewRequire p v i => exact one verbIn_require (by simp [TPrim.addVerb])
  case dropRequire p => exact (blockVerbs_removes _).head _
  case addExclude p v =>
    split
    · trivial
    · exact ⟨fun v e1 => (by cases e1; exact Or.inl verbIn_exclude), blockVerbs_noAdd (by simp)⟩
  case dropExclude p v => exact (blockVerbs_removes _).head _
  case addReplace a b c d =>
    exact headConv_setProg _ _ _ _ _ ⟨fun v e1 => (by cases e1; exact Or.inl verbIn_replace), blockVerbs_noAdd (by simp)⟩
  case dropReplace a b => exact (blockVerbs_removes _).head _
  case addRetract lo hi' why =>
    refine ⟨fun v e1 => ?_, blockVerbs_noAdd (by simp [TPrim.addVerb])⟩
    cases e1; unfold retractTokens; split <;> exact Or.inl verbIn_retract
  case dropRetract lo hi' => exact (blockVerbs_removes _).head _
  case addTool p =>
    split
    · trivial
    · exact one verbIn_tool (by simp [TPrim.addVerb])
  case dropTool p => exact (blockVerbs_removes _).head _
  case sortBlocks => exact na (by simp [TPrim.addVerb])
  case cleanup => exact na (by simp [TPrim.addVerb])
  all_goals trivial

theorem gb_bulk : BulkPres (GB blockVerbs) where
  setReq _ _ _ _ h := gb_updateLine _ _ _ h
  remove _ _ h := gb_markRemoved _ _ h
  addNew _ _ _ _ h := gb_updateLine _ _ _ (gb_addLine _ _ _ _ (conv_of_verb _ verbIn_require) h)
  sort _ h := gb_sortBlocks _ h
  emptyBlock _ _ h := gb_insertAt _ _ _ gbx_emptyRequireBlock h
  ensure _ _ _ hs h := gb_ensureBlock _ _ _ hs h
  move _ _ _ _ h := gb_moveExisting _ _ _ _ h
  sepNew _ _ _ h := gb_appendToBlock _ _ _ h

/-- C15 `op_preserves_goodBlocks` -/
theorem applyMod_gb (e e' : EFile) (op : Op) (hi : Inv e) (h : GB blockVerbs e.f.syn.stmts)
    (ha : applyMod e op = some (.ok e')) : GB blockVerbs e'.f.syn.stmts := by
  by_cases hb : IsBulk op
  · cases op <;> try exact hb.elim
    case setRequire w r => simp only [applyMod, Option.some.injEq] at ha; exact gb_bulk.setRequire ha h
    case setRequireSeparateIndirect w r =>
      simp only [applyMod, Option.some.injEq] at ha; exact gb_bulk.setRequireSeparateIndirect ha h
  · have := runT_gb_head (prog e op) (treeOf e) (prog_headConv e op hi) h
    rwa [← applyMod_prog e e' op hb ha] at this

theorem runOps_gb (ops : List Op) (e : EFile) (res0 : List Bool) (i : Nat) (e' : EFile) (res : List Bool)
    (hv : RunValidLive e ops) (hi : Inv e) (hm : MarkersSettable e.f.syn.stmts) (hg : GB blockVerbs e.f.syn.stmts)
    (hr : runOps applyMod e ops res0 i = .done e' res) :
    Inv e' ∧ MarkersSettable e'.f.syn.stmts ∧ GB blockVerbs e'.f.syn.stmts :=
  (runOps_done_induct applyMod
    (fun e ops => RunValidLive e ops ∧ Inv e ∧ MarkersSettable e.f.syn.stmts ∧ GB blockVerbs e.f.syn.stmts)
    (fun e op _ e1 ⟨hv, hi, h, hg⟩ ha => ⟨hv.2.1 e1 ha, applyMod_inv_all e e1 op (hv.1.all h) hi ha, applyMod_good e e1 op hi h ha,
      applyMod_gb e e1 op hi hg ha⟩)
    (fun _ _ _ err ⟨hv, hi, h, hg⟩ ha hret => ⟨hv.2.2 err ha hret, hi, h, hg⟩)
    ops e res0 i e' res ⟨hv, hi, hm, hg⟩ hr).2

end ModVerif.Modfile.Edit
