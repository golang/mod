/-
  Tie proofs for sumdb/tlog/tile.go: tile data as flat bytes vs lists of hashes, `tileHash`, `HashFromTile`.

  The generated code keeps tile data as FLAT bytes (`HashSize = 32` bytes per hash) and turns 32 bytes into a hash with
  `ofBytes : Bytes → H`; the model's tile data is a `List H`.  `unflat ofBytes b` is the list of the complete 32-byte
  groups of `b`, each through `ofBytes`.  No hypothesis on `ofBytes` is needed (H is arbitrary).
-/
import ModVerif.Proofs.TieFnTile
import ModVerif.Proofs.TileAuthHash
import ModVerif.Proofs.TileAuthTile
namespace ModVerif.TieFnTile
open ModVerif ModVerif.GoRt ModVerif.GoRtTile

/-- the complete 32-byte groups of a byte string -/
def hashes32 (b : Bytes) : List Bytes := (List.range (b.length / 32)).map fun i => (b.drop (32 * i)).take 32

/-- flat tile data as a list of hashes -/
def unflat {H : Type} (ofBytes : Bytes → H) (b : Bytes) : List H := (hashes32 b).map ofBytes

theorem hashes32_length (b : Bytes) : (hashes32 b).length = b.length / 32 := by simp [hashes32]

theorem unflat_length {H : Type} (ofBytes : Bytes → H) (b : Bytes) : (unflat ofBytes b).length = b.length / 32 := by
  simp [unflat, hashes32_length]

theorem hashes32_take (b : Bytes) (m : Nat) (h : 32 * m ≤ b.length) : hashes32 (b.take (32 * m)) = (hashes32 b).take m := by
  apply List.ext_getElem
  · simp only [hashes32_length, List.length_take]; omega
  · intro i h1 h2
    simp only [hashes32_length, List.length_take] at h1 h2
    have hi : i < m := by omega
    simp only [hashes32, List.getElem_map, List.getElem_range, List.getElem_take, List.drop_take, List.take_take]
    congr 1
    omega

theorem hashes32_drop (b : Bytes) (m : Nat) : hashes32 (b.drop (32 * m)) = (hashes32 b).drop m := by
  apply List.ext_getElem
  · simp only [hashes32_length, List.length_drop]; omega
  · intro i h1 h2
    simp only [hashes32, List.getElem_map, List.getElem_range, List.getElem_drop, List.drop_drop]
    congr 2
    omega

theorem unflat_take {H : Type} (ofBytes : Bytes → H) (b : Bytes) (m : Nat) (h : 32 * m ≤ b.length) :
    unflat ofBytes (b.take (32 * m)) = (unflat ofBytes b).take m := by
  simp only [unflat, hashes32_take b m h, List.map_take]

theorem unflat_drop {H : Type} (ofBytes : Bytes → H) (b : Bytes) (m : Nat) :
    unflat ofBytes (b.drop (32 * m)) = (unflat ofBytes b).drop m := by
  simp only [unflat, hashes32_drop b m, List.map_drop]

theorem unflat_single {H : Type} (ofBytes : Bytes → H) (b : Bytes) (h : b.length = 32) : unflat ofBytes b = [ofBytes b] := by
  have : hashes32 b = [b] := by
    simp only [hashes32, h, Nat.div_self (by omega : 0 < 32), List.range_one, List.map_cons, Nat.mul_zero, List.drop_zero,
      List.map_nil]
    rw [List.take_of_length_le (by omega)]
  simp only [unflat, this, List.map_cons, List.map_nil]

theorem bne_eq_not_decide {α : Type} [DecidableEq α] (a b : α) : (a != b) = !decide (a = b) := by
  by_cases h : a = b <;> simp [h]

/-- a model result in the result type of the generated code: the model's error kinds that can occur where this is used
    (`panic`) are Go panics -/
def errOut {α : Type} : Except Tlog.Err α → M α
  | .ok a => .ok a
  | .error _ => .error .panic

section
variable {H : Type} [DecidableEq H] [Inhabited H] (node : H → H → H) (ofBytes : Bytes → H)

/-! ### tileHash -/

theorem tileHash_ptree_eq : ∀ (j fuel : Nat) (data : Bytes) (r : H), data.length = 32 * 2 ^ j → j < fuel →
    TileAuth.ptree node j (unflat ofBytes data) = some r →
    Generated.Tile.tileHash node ofBytes fuel data = .ok r := by
  intro j
  induction j with
  | zero =>
    intro fuel data r hl hf hr
    obtain ⟨g, rfl⟩ : ∃ g, fuel = g + 1 := ⟨fuel - 1, by omega⟩
    simp only [Nat.pow_zero, Nat.mul_one] at hl
    rw [unflat_single ofBytes data hl] at hr
    simp only [TileAuth.ptree, Option.some.injEq] at hr
    subst hr
    have h32 : len data = 32 := by simp only [len, hl]; rfl
    have d0 : decide ((32 : Int) = 0) = false := rfl
    rw [Generated.Tile.tileHash]
    simp only [h32, d0, Bool.false_eq_true, ↓reduceIte, mpure, decide_true]
  | succ j ih =>
    intro fuel data r hl hf hr
    obtain ⟨g, rfl⟩ : ∃ g, fuel = g + 1 := ⟨fuel - 1, by omega⟩
    have hp := Nat.two_pow_pos j
    rw [Nat.pow_succ] at hl
    obtain ⟨a, b, ha, hb, hr'⟩ := TileAuth.ptree_succ_some node j _ r hr
    have h0 : ¬ (((data.length : Nat) : Int) = 0) := by omega
    have h32 : ¬ (((data.length : Nat) : Int) = 32) := by omega
    have hlen : len data = ((data.length : Nat) : Int) := rfl
    have hhalf : data.length / 2 = 32 * 2 ^ j := by omega
    have e2 : ((2 : Int)) = ((2 : Nat) : Int) := rfl
    rw [← unflat_take ofBytes data (2 ^ j) (by omega)] at ha
    rw [← unflat_drop ofBytes data (2 ^ j)] at hb
    have iha := ih g (data.take (32 * 2 ^ j)) a (by rw [List.length_take]; omega) (by omega) ha
    have ihb := ih g (data.drop (32 * 2 ^ j)) b (by rw [List.length_drop]; omega) (by omega) hb
    have hs1 := sliceTo_natCast (v := data) (k := 32 * 2 ^ j) (by omega)
    have hs2 := sliceFrom_natCast (v := data) (k := 32 * 2 ^ j) (by omega)
    rw [Generated.Tile.tileHash]
    simp only [hlen, h0, h32, decide_false, Bool.false_eq_true, ↓reduceIte, e2, quo_natCast _ 2 (by omega), hhalf, mbind_ok,
      hs1, hs2, iha, ihb, mpure, hr']

theorem tileHash_eq (j fuel : Nat) (data : Bytes) (hl : data.length = 32 * 2 ^ j) (hf : j < fuel) :
    Generated.Tile.tileHash node ofBytes fuel data = errOut (Tile.tileHash node (unflat ofBytes data)) := by
  have hlen : (unflat ofBytes data).length = 2 ^ j := by
    rw [unflat_length, hl, Nat.mul_div_cancel_left _ (by omega)]
  obtain ⟨r, hr⟩ := TileAuth.ptree_isSome node j _ hlen
  rw [tileHash_ptree_eq node ofBytes j fuel data r hl hf hr, TileAuth.tileHash_ptree node j _ r hlen hr]
  rfl

theorem tileHash_slice (fuel : Nat) (data : Bytes) (S J : Nat) (h : S + 2 ^ J ≤ data.length / 32) (hf : J < fuel) :
    ∃ r, Tile.tileHash node (((unflat ofBytes data).take (S + 2 ^ J)).drop S) = .ok r ∧
      slice data ((32 * S : Nat) : Int) ((32 * (S + 2 ^ J) : Nat) : Int) = .ok ((data.take (32 * (S + 2 ^ J))).drop (32 * S)) ∧
      Generated.Tile.tileHash node ofBytes fuel ((data.take (32 * (S + 2 ^ J))).drop (32 * S)) = .ok r := by
  have hpJ := Nat.two_pow_pos J
  have hslen : ((data.take (32 * (S + 2 ^ J))).drop (32 * S)).length = 32 * 2 ^ J := by
    rw [List.length_drop, List.length_take]; omega
  have hth := tileHash_eq node ofBytes J fuel _ hslen hf
  rw [unflat_drop, unflat_take _ _ _ (by omega)] at hth
  have hlen2 : (((unflat ofBytes data).take (S + 2 ^ J)).drop S).length = 2 ^ J := by
    rw [List.length_drop, List.length_take, unflat_length]; omega
  obtain ⟨r, hr⟩ := TileAuth.ptree_isSome node J _ hlen2
  have hmod := TileAuth.tileHash_ptree node J _ r hlen2 hr
  rw [hmod] at hth
  exact ⟨r, hmod, slice_natCast (by omega) (by omega), hth⟩

/-- `tileHash("")` panics ("bad math in tileHash") on both sides -/
theorem tileHash_nil (fuel : Nat) (hf : 0 < fuel) :
    Generated.Tile.tileHash node ofBytes fuel [] = errOut (Tile.tileHash node (unflat ofBytes [])) := by
  obtain ⟨g, rfl⟩ : ∃ g, fuel = g + 1 := ⟨fuel - 1, by omega⟩
  rw [Generated.Tile.tileHash]
  simp [len, unflat, hashes32, Tile.tileHash, Tile.tileHashF, errOut]

/-! ### HashFromTile -/

/-- the first check of `HashFromTile` (on the model tile) -/
def hftInvalid (t : Tile.Tile) : Bool := t.h < 1 || t.h > 30 || t.data || t.l ≥ 64 || t.w < 1 || t.w > 2 ^ t.h

/-- which of the three error texts `HashFromTile` returns (the model has one error kind, `badTile`, for all three) -/
def hftMsg (t : Tile.Tile) (dlen : Nat) : String :=
  if hftInvalid t then "invalid tile %v"
  else if dlen < t.w then "data len %d too short for tile %v"
  else "index %v is in %v not %v"

/-- the model's result in the result type of the generated `HashFromTile` -/
def hftOut (t : Tile.Tile) (dlen : Nat) : Except Tlog.Err H → H × Option String
  | .ok v => (v, none)
  | .error _ => (default, some (hftMsg t dlen))

/-- `HashFromTile(t, data, index)` for EVERY model tile (data tiles and out-of-range fields are rejected on both sides),
    every byte string `data`, `0 ≤ index ≤ MaxInt64 - 1` -/
theorem HashFromTile_eq (fuel : Nat) (t : Tile.Tile) (data : Bytes) (x : Nat) (hx : x + 1 < 2 ^ 63) (hf : 64 ≤ fuel) :
    Generated.Tile.HashFromTile node ofBytes fuel (toGen t) data (x : Int) =
      .ok (hftOut t (data.length / 32) (Tile.hashFromTile node t (unflat ofBytes data) x)) := by
  obtain ⟨th, tl, tn, tw, td⟩ := t
  unfold Tile.hashFromTile
  simp only [unflat_length]
  cases td
  case true =>
    have : ((-1 : Int) < 0) := by omega
    simp [Generated.Tile.HashFromTile, toGen, hftOut, hftMsg, hftInvalid]
  case false =>
  by_cases hinv1 : th < 1 ∨ th > 30 ∨ tl ≥ 64 ∨ tw < 1
  · have hg : ((decide ((th : Int) < 1) || decide ((th : Int) > 30) || decide ((tl : Int) < 0) || decide ((tl : Int) ≥ 64) ||
        decide ((tw : Int) < 1)) = true) := by
      rcases hinv1 with h | h | h | h
      · have : ((th : Int) < 1) := by omega
        simp [this]
      · have : ((th : Int) > 30) := by omega
        simp [this]
      · have : ((tl : Int) ≥ 64) := by omega
        simp [this]
      · have : ((tw : Int) < 1) := by omega
        simp [this]
    have hm : (decide (th < 1) || decide (th > 30) || false || decide (tl ≥ 64) || decide (tw < 1) || decide (tw > 2 ^ th)) = true := by
      rcases hinv1 with h | h | h | h <;> simp [h]
    simp only [Generated.Tile.HashFromTile, toGen, Bool.false_eq_true, ↓reduceIte, hg, mpure, mbind_ok, hm, hftOut, hftMsg,
      hftInvalid]
  · have h1 : 1 ≤ th := by omega
    have h30 : th ≤ 30 := by omega
    have hl64 : tl < 64 := by omega
    have hw1 : 1 ≤ tw := by omega
    have hg : ((decide ((th : Int) < 1) || decide ((th : Int) > 30) || decide ((tl : Int) < 0) || decide ((tl : Int) ≥ 64) ||
        decide ((tw : Int) < 1)) = false) := by
      have a1 : ¬ ((th : Int) < 1) := by omega
      have a2 : ¬ ((th : Int) > 30) := by omega
      have a3 : ¬ ((tl : Int) < 0) := by omega
      have a4 : ¬ ((tl : Int) ≥ 64) := by omega
      have a5 : ¬ ((tw : Int) < 1) := by omega
      simp [a1, a2, a3, a4, a5]
    have hp : 2 ^ th < 2 ^ 63 := Nat.pow_lt_pow_right (by omega) (by omega)
    have hp30 : 2 ^ th ≤ 2 ^ 30 := Nat.pow_le_pow_right (by omega) h30
    have m1 : decide (th < 1) = false := by simp; omega
    have m2 : decide (th > 30) = false := by simp; omega
    have m3 : decide (tl ≥ 64) = false := by simp; omega
    have m4 : decide (tw < 1) = false := by simp; omega
    simp only [Generated.Tile.HashFromTile, toGen, Bool.false_eq_true, ↓reduceIte, hg, toU64_natCast (show th < 2 ^ 64 by omega),
      shl_one_natCast, chk64_natCast hp, mbind_ok, mpure, m1, m2, m3, m4, Bool.or_false, Bool.false_or]
    by_cases hwide : tw > 2 ^ th
    · have hwide' : ((tw : Int) > ((2 ^ th : Nat) : Int)) := by omega
      have hinvT : hftInvalid { h := th, l := tl, n := tn, w := tw } = true := by
        unfold hftInvalid
        simp only [m1, m2, m3, m4, Bool.or_false, Bool.false_or]
        exact decide_eq_true hwide
      simp only [hwide, hwide', decide_true, ↓reduceIte, hftOut, hftMsg, hinvT]
    · have hwide' : ¬ ((tw : Int) > ((2 ^ th : Nat) : Int)) := by omega
      have e32 : (tw : Int) * 32 = ((32 * tw : Nat) : Int) := by omega
      have hinvF : hftInvalid { h := th, l := tl, n := tn, w := tw } = false := by
        unfold hftInvalid
        simp only [m1, m2, m3, m4, Bool.or_false, Bool.false_or]
        exact decide_eq_false hwide
      simp only [hwide, hwide', decide_false, Bool.false_eq_true, ↓reduceIte, e32, chk64_natCast (show 32 * tw < 2 ^ 63 by omega),
        mbind_ok]
      by_cases hshort : data.length / 32 < tw
      · have hshort' : (len data < ((32 * tw : Nat) : Int)) := by simp only [len, Int.ofNat_eq_natCast]; omega
        simp only [hshort, hshort', decide_true, ↓reduceIte, hftOut, hftMsg, hinvF, Bool.false_eq_true]
      · have hshort' : ¬ (len data < ((32 * tw : Nat) : Int)) := by simp only [len, Int.ofNat_eq_natCast]; omega
        obtain ⟨lv, k, hs⟩ := TlogStore.split_total x (by omega)
        have hcl := TileAuth.tileForIndex_eq th x lv k (by omega) hs
        have hts := TileAuth.ts_le th lv k (by omega)
        simp only [TileAuth.ts] at hts
        simp only [hshort, hshort', decide_false, Bool.false_eq_true, ↓reduceIte,
          tileForIndex_eq fuel th x hx (by omega) (Or.inl (by omega)) hf, hcl, tfiOut, toGen, bind, Except.bind]
        generalize hS : k % 2 ^ (th - lv % th) * 2 ^ (lv % th) = S at hts
        have hE : (k % 2 ^ (th - lv % th) + 1) * 2 ^ (lv % th) = S + 2 ^ (lv % th) := by
          rw [Nat.add_mul, Nat.one_mul, hS]
        rw [hE]
        generalize hJ : lv % th = J at hts
        generalize hL1 : lv / th = L1
        generalize hN1 : k / 2 ^ (th - J) = N1
        by_cases hmis : tl ≠ L1 ∨ tn ≠ N1 ∨ tw < S + 2 ^ J
        · have hm2 : (tl != L1 || tn != N1 || decide (tw < S + 2 ^ J)) = true := by
            rcases hmis with h | h | h <;> simp [h]
          simp only [Int.natCast_inj, Int.ofNat_lt, ← bne_eq_not_decide, hm2, ↓reduceIte, hftOut, hftMsg, hinvF,
            Bool.false_eq_true, hshort]
        · have hm2 : (tl != L1 || tn != N1 || decide (tw < S + 2 ^ J)) = false := by
            simp only [not_or, Decidable.not_not, Nat.not_lt] at hmis
            simp [hmis.1, hmis.2.1, Nat.not_lt.mpr hmis.2.2]
          obtain ⟨r, hmod, hsl, hgen⟩ := tileHash_slice node ofBytes fuel data S J (by omega)
            (Nat.lt_of_lt_of_le (hJ ▸ Nat.mod_lt _ h1) (by omega))
          simp only [Int.natCast_inj, Int.ofNat_lt, ← bne_eq_not_decide, hm2, Bool.false_eq_true, ↓reduceIte, hsl, hgen,
            hmod, hftOut]

end
end ModVerif.TieFnTile
