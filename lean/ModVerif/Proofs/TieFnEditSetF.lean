/-
  `File.SetRequireSeparateIndirect`: the closures `insertBlock` and
  `ensureBlock` on a represented file: `insertAt stmts i emptyRequireBlock` and the model's `ensureBlock`.
-/
import ModVerif.Proofs.TieFnEditSetE
import ModVerif.Proofs.TieFnEditAddLineC
namespace ModVerif.Tie.FnEditSetF
open ModVerif ModVerif.GoRt ModVerif.Generated.Edit ModVerif.Tie.FnEditRep ModVerif.Tie.FnEditTreeA ModVerif.Tie.FnEditLoop ModVerif.Tie.FnEditSetA
  ModVerif.Tie.FnEditSetB ModVerif.Tie.FnEditSetD ModVerif.Tie.FnEditSetE
open ModVerif.Modfile.Edit (EFile insertAt emptyRequireBlock treeIds)

/-! ### `append; copy; store` = insertion -/

theorem ins_slice {α : Type} (a b : List α) (z : α) : sliceFrom (a ++ b ++ [z]) (a.length : Int) = .ok (b ++ [z]) := by
  rw [sliceFrom_natCast (by simp)]; simp

theorem ins_copy {α : Type} (a b : List α) (z : α) :
    copyAtL (a ++ b ++ [z]) ((a.length : Int) + 1) (b ++ [z]) = .ok (a ++ (b ++ [z]).take 1 ++ b) := by
  unfold copyAtL
  have hc : ¬ ((a.length : Int) + 1 < 0 ∨ (a.length : Int) + 1 > ((a ++ b ++ [z]).length : Int)) := by
    simp only [List.length_append, List.length_singleton]; omega
  simp only [hc, if_false, pure, Except.pure]
  have hk : ((a.length : Int) + 1).toNat = a.length + 1 := by omega
  rw [hk]
  have hn : min ((a ++ b ++ [z]).length - (a.length + 1)) (b ++ [z]).length = b.length := by
    simp only [List.length_append, List.length_singleton]; omega
  rw [hn]
  have e1 : List.take (a.length + 1) (a ++ b ++ [z]) = a ++ List.take 1 (b ++ [z]) := by
    rw [List.append_assoc, List.take_append]; simp [List.take_of_length_le]
  have e2 : List.take b.length (b ++ [z]) = b := by simp
  have e3 : List.drop (a.length + 1 + b.length) (a ++ b ++ [z]) = [] := by
    apply List.drop_of_length_le; simp; omega
  rw [e1, e2, e3]; simp

theorem ins_set {α : Type} (a b : List α) (z x : α) :
    setIdxL (a ++ (b ++ [z]).take 1 ++ b) (a.length : Int) x = .ok (a ++ x :: b) := by
  cases hb : b ++ [z] with
  | nil => simp at hb
  | cons c t =>
    have hr : 0 ≤ (a.length : Int) ∧ (a.length : Int) < len (a ++ List.take 1 (c :: t) ++ b) := by
      simp [len_eq]; omega
    simp only [setIdxL, hr, and_self, if_true, pure, Except.pure]
    simp

theorem RStmts_append_inv {h : Heap} : ∀ {a b : List Expr} {ss : List Modfile.Expr}, RStmts h (a ++ b) ss →
    ∃ sa sb, ss = sa ++ sb ∧ sa.length = a.length ∧ RStmts h a sa ∧ RStmts h b sb :=
  fun r => let ⟨sa, sb, h1, h3, h4⟩ := TieFnEditAddLine.RStmts_split r; ⟨sa, sb, h1, h3.length.symm, h3, h4⟩

theorem RStmts_blockPtrs_le {h : Heap} : ∀ {es : List Expr} {ss : List Modfile.Expr}, RStmts h es ss →
    ∀ p ∈ blockPtrs es, 0 < p ∧ p.toNat ≤ h.blocks.length
  | [], [], _, p, hp => by simp [blockPtrs] at hp
  | e :: es, s :: ss, r, p, hp => by
    have r1 := r.1
    cases e <;> cases s <;> simp only [RExpr] at r1 <;> try exact r1.elim
    · exact RStmts_blockPtrs_le r.2 p (by simpa [blockPtrs] using hp)
    · exact RStmts_blockPtrs_le r.2 p (by simpa [blockPtrs] using hp)
    · simp only [blockPtrs, List.mem_cons] at hp
      rcases hp with rfl | hp
      · obtain ⟨ps, hg, _⟩ := r1
        exact ⟨heapGet_pos hg, heapGet_le_length hg⟩
      · exact RStmts_blockPtrs_le r.2 p hp
  | [], _ :: _, r, _, _ => r.elim
  | _ :: _, [], r, _, _ => r.elim

/-! ### rebuilding the file representation after a change of the graph -/

structure TypedEq (h h' : Heap) : Prop where
  modules : h'.modules = h.modules
  gos : h'.gos = h.gos
  toolchains : h'.toolchains = h.toolchains
  godebugs : h'.godebugs = h.godebugs
  excludes : h'.excludes = h.excludes
  replaces : h'.replaces = h.replaces
  retracts : h'.retracts = h.retracts
  tools : h'.tools = h.tools

theorem TypedEq.refl (h : Heap) : TypedEq h h := ⟨rfl, rfl, rfl, rfl, rfl, rfl, rfl, rfl⟩
theorem TypedEq.trans {a b c : Heap} (x : TypedEq a b) (y : TypedEq b c) : TypedEq a c :=
  ⟨y.modules.trans x.modules, y.gos.trans x.gos, y.toolchains.trans x.toolchains, y.godebugs.trans x.godebugs,
   y.excludes.trans x.excludes, y.replaces.trans x.replaces, y.retracts.trans x.retracts, y.tools.trans x.tools⟩

theorem RepFAt_rebuild {h h' : Heap} {o : File} {e : EFile} (R : RepFAt h o e) (ps' : List Int) {fs' : Modfile.FileSyntax}
    {n' : Nat} {rq' : List Modfile.Require} (hsyn : RepSyn h' o.Syntax fs') (htok : BlockTokOK fs'.stmts) (hG : LinesG h')
    (hnext : n' = h'.lines.length + 1) (hle : h.lines.length ≤ h'.lines.length)
    (hreq : REnts h'.requires requireG (·.lineId) h'.lines.length ps' rq') (hT : TypedEq h h') :
    RepFAt h' { o with Require := ps' } { f := { e.f with syn := fs', require := rq' }, next := n' } where
  syn := hsyn
  tok := htok
  linesG := hG
  next := hnext
  module := by rw [hT.modules]; exact R.module.congrLen hle
  go := by rw [hT.gos]; exact R.go.congrLen hle
  toolchain := by rw [hT.toolchains]; exact R.toolchain.congrLen hle
  godebug := by rw [hT.godebugs]; exact R.godebug.congrLen hle
  require := hreq
  exclude := by rw [hT.excludes]; exact R.exclude.congrLen hle
  replace := by rw [hT.replaces]; exact R.replace.congrLen hle
  retract := by rw [hT.retracts]; exact R.retract.congrLen hle
  tool := by rw [hT.tools]; exact R.tool.congrLen hle

def withStmts (e : EFile) (stmts : List Modfile.Expr) : EFile :=
  { e with f := { e.f with syn := { e.f.syn with stmts := stmts } } }

@[simp] theorem withStmts_stmts (e : EFile) (s : List Modfile.Expr) : (withStmts e s).f.syn.stmts = s := rfl
@[simp] theorem withStmts_require (e : EFile) (s : List Modfile.Expr) : (withStmts e s).f.require = e.f.require := rfl
@[simp] theorem withStmts_next (e : EFile) (s : List Modfile.Expr) : (withStmts e s).next = e.next := rfl
@[simp] theorem withStmts_withStmts (e : EFile) (s t : List Modfile.Expr) : withStmts (withStmts e s) t = withStmts e t := rfl
theorem withStmts_self (e : EFile) : withStmts e e.f.syn.stmts = e := rfl

/-! ### insertBlock -/

/-- the new block object `&LineBlock{Token: []string{"require"}}` -/
def newBlock : LineBlock := { (default : LineBlock) with Token := [([114, 101, 113, 117, 105, 114, 101] : Bytes)] }

theorem newBlock_eq : newBlock = blockG { token := [B "require"] } [] := by
  rw [B_require]; rfl

/-- the heap after `insertBlock(i)` -/
def insHeap (h : Heap) (x : Int) (fo : FileSyntax) (es' : List Expr) : Heap :=
  { h with blocks := h.blocks ++ [newBlock], files := h.files.set (x.toNat - 1) { fo with Stmt := es' } }

theorem insertBlock_eq (isPrint : Int → Bool) (quote : Bytes → Bytes) (fuel : Nat) {h : Heap} {f : Int} {o : File} {fo : FileSyntax}
    (hm : heapGet h.mods f = .ok o) (hfile : heapGet h.files o.Syntax = .ok fo) (a b : List Expr) (hab : fo.Stmt = a ++ b) :
    File_SetRequireSeparateIndirect_insertBlock isPrint quote fuel f (a.length : Int) h =
      .ok (((h.blocks.length + 1 : Nat) : Int),
           insHeap h o.Syntax fo (a ++ Expr.LineBlock ((h.blocks.length + 1 : Nat) : Int) :: b)) := by
  unfold File_SetRequireSeparateIndirect_insertBlock
  simp only [heapAlloc, bind, Except.bind, pure, Except.pure, hm, hfile, heapSet_of_get _ hfile,
    fun X => heapGet_listSet_same X hfile, fun X Y => heapSet_listSet_same hfile X Y, hab, ins_slice, ins_copy, ins_set]
  rfl

theorem treeIds_empty : treeIds [emptyRequireBlock] = [] := by
  simp [emptyRequireBlock, Modfile.Edit.treeIds_block]

theorem treeIds_insert (sa sb : List Modfile.Expr) : treeIds (sa ++ emptyRequireBlock :: sb) = treeIds (sa ++ sb) := by
  rw [Modfile.Edit.treeIds_append, Modfile.Edit.treeIds_cons, treeIds_empty, Modfile.Edit.treeIds_append]; simp

theorem BlockTokOK_insert {sa sb : List Modfile.Expr} (hb : BlockTokOK (sa ++ sb)) : BlockTokOK (sa ++ emptyRequireBlock :: sb) := by
  intro b hbm
  simp only [List.mem_append, List.mem_cons] at hbm
  rcases hbm with h1 | h1 | h1
  · exact hb b (List.mem_append_left _ h1)
  · simp only [emptyRequireBlock, Modfile.Expr.lineBlock.injEq] at h1
    subst h1; simp
  · exact hb b (List.mem_append_right _ h1)

theorem RepSynAt_insert {h : Heap} {x : Int} {fs : Modfile.FileSyntax} {a b : List Expr} (r : RepSynAt h x fs (a ++ b))
    {sa sb : List Modfile.Expr} (hs : fs.stmts = sa ++ sb) (hl : sa.length = a.length) :
    RepSynAt (insHeap h x (fileG fs (a ++ b)) (a ++ Expr.LineBlock ((h.blocks.length + 1 : Nat) : Int) :: b)) x
      { fs with stmts := sa ++ emptyRequireBlock :: sb } (a ++ Expr.LineBlock ((h.blocks.length + 1 : Nat) : Int) :: b) := by
  have hmono : ∀ {es ss}, RStmts h es ss →
      RStmts (insHeap h x (fileG fs (a ++ b)) (a ++ Expr.LineBlock ((h.blocks.length + 1 : Nat) : Int) :: b)) es ss :=
    fun r => RStmts.mono (h := h)
      (h' := insHeap h x (fileG fs (a ++ b)) (a ++ Expr.LineBlock ((h.blocks.length + 1 : Nat) : Int) :: b))
      (fun _ _ x => x) (fun q w (x : heapGet h.blocks q = .ok w) => heapGet_alloc_old newBlock x) (fun _ _ x => x) r
  obtain ⟨sa', sb', h1, h2, h3, h4⟩ := RStmts_append_inv r.stmts
  have hsa : sa' = sa := by
    have := congrArg (List.take a.length) (h1.symm.trans hs)
    rw [← h2, List.take_left, h2, ← hl, List.take_left] at this
    exact this
  have hsb : sb' = sb := by
    rw [hsa] at h1
    exact List.append_cancel_left (h1.symm.trans hs)
  subst hsa hsb
  refine ⟨?_, ?_, ?_, ?_⟩
  · exact heapGet_listSet_same _ r.file
  · show RStmts _ _ (sa' ++ emptyRequireBlock :: sb')
    refine RStmts.append (hmono h3) ⟨?_, hmono h4⟩
    refine ⟨[], ?_, trivial⟩
    show heapGet (h.blocks ++ [newBlock]) _ = _
    rw [newBlock_eq]
    exact heapGet_alloc_new _ _
  · rw [blockPtrs_append]
    have hnb := r.nodupB
    rw [blockPtrs_append] at hnb
    simp only [blockPtrs]
    have hfresh : ∀ p ∈ blockPtrs (a ++ b), p ≠ ((h.blocks.length + 1 : Nat) : Int) := by
      intro p hp
      have := (RStmts_blockPtrs_le r.stmts p hp).2
      omega
    rw [blockPtrs_append] at hfresh
    apply TieFnEditAddLine.nodup_insert_fresh hnb
    · intro hm; exact hfresh _ (List.mem_append_left _ hm) rfl
    · intro hm; exact hfresh _ (List.mem_append_right _ hm) rfl
  · show (treeIds (sa' ++ emptyRequireBlock :: sb')).Nodup
    rw [treeIds_insert, ← hs]; exact r.nodupL

theorem RepSynAt_insert.nodup_insert_fresh {a b : List Int} {n : Int} (h : (a ++ b).Nodup) (ha : n ∉ a) (hb : n ∉ b) :
    (a ++ n :: b).Nodup := TieFnEditAddLine.nodup_insert_fresh h ha hb

/-- the closure `insertBlock(i)` (rule.go:1362); the model statement list gets `emptyRequireBlock` at `i` -/
theorem insertBlock_sim (isPrint : Int → Bool) (quote : Bytes → Bytes) (fuel : Nat) {h : Heap} {f : Int} {o : File} {e : EFile}
    (hm : heapGet h.mods f = .ok o) (R : RepFAt h o e) (i : Nat) (hi : i ≤ e.f.syn.stmts.length) :
    ∃ h' fo es, File_SetRequireSeparateIndirect_insertBlock isPrint quote fuel f (i : Int) h =
        .ok (((h.blocks.length + 1 : Nat) : Int), h') ∧
      RepFAt h' o (withStmts e (insertAt e.f.syn.stmts i emptyRequireBlock)) ∧
      heapGet h.files o.Syntax = .ok fo ∧ fo.Stmt = es ∧
      heapGet h'.files o.Syntax = .ok { fo with Stmt := insertAt es i (Expr.LineBlock ((h.blocks.length + 1 : Nat) : Int)) } ∧
      h'.mods = h.mods ∧ h'.requires = h.requires ∧ h'.lines = h.lines ∧ h'.blocks = h.blocks ++ [newBlock] ∧
      RStmts h es e.f.syn.stmts := by
  obtain ⟨es, r⟩ := R.syn
  have hlen := r.stmts.length
  have hab : (fileG e.f.syn es).Stmt = es.take i ++ es.drop i := by simp
  have hrun := insertBlock_eq isPrint quote fuel hm r.file (es.take i) (es.drop i) hab
  have hil : (es.take i).length = i := by simp; omega
  rw [hil] at hrun
  have r' : RepSynAt h o.Syntax e.f.syn (es.take i ++ es.drop i) := by simpa using r
  have r2 := RepSynAt_insert r' (sa := e.f.syn.stmts.take i) (sb := e.f.syn.stmts.drop i) (by simp) (by simp; omega)
  simp only [List.take_append_drop] at r2
  refine ⟨_, fileG e.f.syn es, es, hrun, ?_, r.file, rfl, ?_, rfl, rfl, rfl, rfl, r.stmts⟩
  · have hT : TypedEq h (insHeap h o.Syntax (fileG e.f.syn es)
        (es.take i ++ Expr.LineBlock ((h.blocks.length + 1 : Nat) : Int) :: es.drop i)) := ⟨rfl, rfl, rfl, rfl, rfl, rfl, rfl, rfl⟩
    have := RepFAt_rebuild R o.Require (h' := insHeap h o.Syntax (fileG e.f.syn es)
        (es.take i ++ Expr.LineBlock ((h.blocks.length + 1 : Nat) : Int) :: es.drop i))
      (fs' := { e.f.syn with stmts := e.f.syn.stmts.take i ++ emptyRequireBlock :: e.f.syn.stmts.drop i }) (n' := e.next)
      (rq' := e.f.require) ⟨_, r2⟩ ?_ R.linesG R.next (Nat.le_refl _) R.require hT
    · exact this
    · apply BlockTokOK_insert; simpa using R.tok
  · exact heapGet_listSet_same _ r.file

protected theorem setIdxL_mid {α : Type} (a : List α) (y : α) (b : List α) (x : α) :
    setIdxL (a ++ y :: b) (a.length : Int) x = .ok (a ++ x :: b) := GoRt.setIdxL_mid a y x b

protected theorem blockPtrs_append : ∀ (a b : List Expr), blockPtrs (a ++ b) = blockPtrs a ++ blockPtrs b :=
  FnEditRep.blockPtrs_append

end ModVerif.Tie.FnEditSetF
