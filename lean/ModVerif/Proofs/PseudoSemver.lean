/- Helper lemmas for C18: byte-list facts (last-index split, suffix trimming, splitting at dots, the
   identifier-list comparison of semver), and the grammar of versions (Proofs/SemverGrammar.lean) in the
   vocabulary of Spec/PseudoSpec.lean. -/
import ModVerif.Model.Pseudo
import ModVerif.Spec.PseudoSpec
import ModVerif.Proofs.SemverCanonical
namespace ModVerif.Proofs.Pseudo
open ModVerif ModVerif.PseudoSpec ModVerif.Pseudo
open ModVerif.SemverSpec (PreOpt BuildOpt)
open ModVerif.Semver (dottedOK goodPre)

theorem splitLast_append (sep : UInt8) (a b : Bytes) (hb : sep ∉ b) :
    splitLast sep (a ++ sep :: b) = some (a, b) := by
  obtain ⟨h1, h2⟩ := revScan (· != sep) a b sep (by simp) fun x hx => by simp; intro e; exact hb (e ▸ hx)
  simp only [splitLast, h1, h2, List.reverse_reverse]

theorem splitLast_none (sep : UInt8) (v : Bytes) (h : sep ∉ v) : splitLast sep v = none := by
  have hp : ∀ x ∈ v.reverse, (x != sep) = true := by
    intro x hx; simp at hx; simp; intro e; exact h (e ▸ hx)
  unfold splitLast
  have := List.dropWhile_append_of_pos (l₂ := []) hp
  simp at this
  simp [this]

theorem last_dash_before_dot (dash dot : UInt8) (hne : dash ≠ dot) (a t : Bytes) (ht : dash ∉ t)
    (hmem : dash ∈ a) :
    ∃ a2 b2, splitLast dash (a ++ dot :: t) = some (a2, b2) ∧ a2.length < a.length := by
  obtain ⟨a2, b2, e, hb⟩ := exists_last_split dash a hmem
  refine ⟨a2, b2 ++ dot :: t, ?_, ?_⟩
  · have : a ++ dot :: t = a2 ++ dash :: (b2 ++ dot :: t) := by simp [e]
    rw [this]
    apply splitLast_append
    simp [hb, ht, hne]
  · rw [e]; simp

theorem trimSuffix_append (a b : Bytes) : trimSuffix (a ++ b) b = a := by
  unfold trimSuffix
  rw [hasSuffixB_append]
  simp

theorem splitOn_two (sep : UInt8) (x y : Bytes) (hx : sep ∉ x) (hy : sep ∉ y) :
    splitOn sep (x ++ sep :: y) = [x, y] := by
  rw [splitOn_append_sep, splitOn_noSep sep x hx, splitOn_noSep sep y hy]; rfl

theorem dottedOK_append_dot (q : Bytes → Bool) (a b : Bytes) :
    dottedOK q (a ++ 46 :: b) = (dottedOK q a && dottedOK q b) := by
  have h46 : (Semver.isIdentChar 46 || (46 : UInt8) == 46) = true := rfl
  simp only [dottedOK, splitOn_append_sep, List.all_append, List.all_cons, h46, Bool.true_and]
  cases List.all a _ <;> cases List.all b _ <;> cases List.all (splitOn 46 a) q <;> rfl

theorem cmpIdents_prefix : ∀ (l : List Bytes) (y : Bytes) (ys : List Bytes),
    Semver.cmpIdents l (l ++ y :: ys) = -1
  | [], _, _ => rfl
  | x :: l, y, ys => by simp [Semver.cmpIdents, cmpIdents_prefix l y ys]

theorem cmpIdents_common : ∀ (l : List Bytes) (a b : Bytes) (as bs : List Bytes), a ≠ b →
    Semver.cmpIdents (l ++ a :: as) (l ++ b :: bs) = Semver.cmpIdent a b
  | [], a, b, _, _, h => by simp [Semver.cmpIdents, h]
  | x :: l, a, b, as, bs, h => by simp [Semver.cmpIdents, cmpIdents_common l a b as bs h]

theorem bytesLt_append_of_lt : ∀ (a b : Bytes) (x y : Bytes), a.length = b.length → bytesLt a b = true →
    bytesLt (a ++ x) (b ++ y) = true
  | [], [], _, _, _, h => by simp [bytesLt] at h
  | [], _ :: _, _, _, hl, _ => by simp at hl
  | _ :: _, [], _, _, hl, _ => by simp at hl
  | c :: a, d :: b, x, y, hl, h => by
    simp only [bytesLt] at h
    simp only [List.cons_append, bytesLt]
    by_cases h1 : c < d
    · simp [h1]
    · simp only [h1, if_false] at h ⊢
      by_cases h2 : d < c
      · simp [h2] at h
      · simp only [h2, if_false] at h ⊢
        exact bytesLt_append_of_lt a b x y (by simpa using hl) h

theorem bytesLt_ne (a b : Bytes) (h : bytesLt a b = true) : a ≠ b := by
  rintro rfl; rw [bytesLt_irrefl] at h; cases h

/-! ### versions by parts, with numbers as C18 speaks of them -/

theorem num_iff (d : Bytes) : Num d ↔ SemverSpec.Num d := by
  unfold Num SemverSpec.Num
  refine and_congr Iff.rfl (and_congr List.all_eq_true.symm ?_)
  rcases d with _ | ⟨c, _ | ⟨c', t⟩⟩ <;> simp [Decidable.em]

theorem parse_full {maj min pat pre bld : Bytes} (hmaj : Num maj) (hmin : Num min) (hpat : Num pat)
    (hpre : PreOpt pre) (hbld : BuildOpt bld) :
    Semver.parse (118 :: maj ++ 46 :: min ++ 46 :: pat ++ pre ++ bld)
      = some { major := maj, minor := min, patch := pat, prerelease := pre, build := bld } :=
  Semver.decomp_parse (.full maj min pat pre bld ((num_iff _).mp hmaj) ((num_iff _).mp hmin) ((num_iff _).mp hpat)
    hpre hbld)

theorem parse_inv {v : Bytes} {p : Semver.Parsed} (h : Semver.parse v = some p) :
    Num p.major ∧ Num p.minor ∧ Num p.patch ∧ PreOpt p.prerelease ∧ BuildOpt p.build := by
  obtain ⟨h1, h2, h3, h4, h5⟩ := Semver.decomp_fields (Semver.parse_decomp h)
  exact ⟨(num_iff _).mpr h1, (num_iff _).mpr h2, (num_iff _).mpr h3, h4, h5⟩

theorem prerelease_of_parse {v : Bytes} {p : Semver.Parsed} (h : Semver.parse v = some p) :
    Semver.prerelease v = p.prerelease :=
  Semver.prerelease_spec h

end ModVerif.Proofs.Pseudo
