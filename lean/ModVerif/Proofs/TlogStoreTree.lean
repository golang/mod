/-
  C09 ★ `subTreeIndex` / `subTreeHash` / `TreeHash` against RFC 6962:
  `subTreeIndex lo hi` lists the stored-hash positions of the maximal complete subtrees covering `[lo, hi)`
  from left to right (`Cover`), never panics on an aligned interval, `numTree` counts them, and folding
  their hashes from right to left gives `MTH(D[lo:hi])`.  Hence `treeHash m = MTH(D[0:m])` over every store
  satisfying the store invariant.
-/
import ModVerif.Proofs.TlogStoreInv
import ModVerif.Proofs.TlogBasic
namespace ModVerif.TlogStore
open ModVerif ModVerif.Tlog ModVerif.RFC6962

theorem maxpow2_range (n k l : Nat) (h1 : 1 < n) (h2 : n ≤ 2 ^ 63) (h : maxpow2 n = (k, l)) :
    k = 2 ^ l ∧ k < n ∧ n ≤ 2 * k := by
  have a := maxpow2_fst_eq n
  have b := maxpow2_lt n h1
  have c := maxpow2_le_two_mul n h1 h2
  rw [h] at a b c
  exact ⟨a, b, c⟩

section
variable {H : Type} (node : H → H → H) (empty : H)

/-- `NodeHash(h₀, NodeHash(h₁, … h_last))` -/
def foldR : List H → Option H
  | [] => none
  | [a] => some a
  | a :: b :: t => (foldR (b :: t)).map (node a)

theorem foldRight_snoc (xs : List H) (a : H) (h : xs ≠ []) :
    foldRight node (xs ++ [a]) = (foldRight node xs).map (node a) := by
  cases xs with
  | nil => exact absurd rfl h
  | cons last rest => simp [foldRight, List.foldl_append]

/-- the loop `h = hashes[numTree-1]; for i := numTree-2 … 0 { h = NodeHash(hashes[i], h) }` is a right fold -/
theorem foldRight_reverse : ∀ l : List H, foldRight node l.reverse = foldR node l := by
  intro l
  induction l with
  | nil => rfl
  | cons a t ih =>
    cases t with
    | nil => rfl
    | cons b t =>
      rw [List.reverse_cons, foldRight_snoc node _ a (by simp), ih]
      rfl

end

/-- `cs` are the coordinates `(level, offset)` of the maximal complete subtrees covering `[lo, hi)`, left to
    right: each block starts where the previous one ended, is aligned, fits, and is the LARGEST that fits. -/
def Cover : List (Nat × Nat) → Nat → Nat → Prop
  | [], lo, hi => lo = hi
  | (l, k) :: cs, lo, hi => k * 2 ^ l = lo ∧ lo + 2 ^ l ≤ hi ∧ hi < lo + 2 ^ (l + 1) ∧ Cover cs (lo + 2 ^ l) hi

theorem cover_le : ∀ cs lo hi, Cover cs lo hi → lo ≤ hi := by
  intro cs
  induction cs with
  | nil => intro lo hi h; simp [Cover] at h; omega
  | cons c cs ih =>
    intro lo hi h
    obtain ⟨l, k⟩ := c
    simp only [Cover] at h
    have := Nat.two_pow_pos l
    omega

theorem cover_bound : ∀ cs lo hi, Cover cs lo hi → ∀ c ∈ cs, (c.2 + 1) * 2 ^ c.1 ≤ hi := by
  intro cs
  induction cs with
  | nil => intro lo hi _ c hc; simp at hc
  | cons c0 cs ih =>
    intro lo hi h c hc
    obtain ⟨l, k⟩ := c0
    simp only [Cover] at h
    rcases List.mem_cons.mp hc with e | e
    · subst e
      simp only
      rw [Nat.add_mul]
      omega
    · exact ih _ _ h.2.2.2 c e

theorem cover_head_lt : ∀ cs lo hi l k, Cover ((l, k) :: cs) lo hi → ∀ c ∈ cs, c.1 < l := by
  intro cs
  induction cs with
  | nil => intro lo hi l k _ c hc; simp at hc
  | cons c0 cs ih =>
    intro lo hi l k h c hc
    obtain ⟨l', k'⟩ := c0
    have h' := h
    simp only [Cover] at h
    obtain ⟨_, _, h3, _, h5, h6, h7⟩ := h
    have hl : l' < l := by
      apply Nat.lt_of_not_le
      intro hge
      have := Nat.pow_le_pow_right (n := 2) (by omega) hge
      rw [Nat.pow_succ] at h3
      omega
    rcases List.mem_cons.mp hc with e | e
    · subst e; exact hl
    · have := ih (lo + 2 ^ l) hi l' k' (by simp only [Cover]; exact ⟨by assumption, h5, h6, h7⟩) c e
      omega

section
variable {H : Type} (node : H → H → H) (empty : H)

theorem mth_cover (D : List H) : ∀ cs lo hi, Cover cs lo hi → lo < hi → hi ≤ D.length →
    foldR node (cs.map fun c => mth node empty (leavesOf D c.1 c.2)) = some (mth node empty (slice D lo hi)) := by
  intro cs
  induction cs with
  | nil => intro lo hi h hlt _; simp [Cover] at h; omega
  | cons c cs ih =>
    intro lo hi h hlt hhi
    obtain ⟨l, k⟩ := c
    simp only [Cover] at h
    obtain ⟨h1, h2, h3, h4⟩ := h
    cases cs with
    | nil =>
      simp only [Cover] at h4
      simp only [List.map_cons, List.map_nil, foldR]
      rw [leavesOf_eq_slice, h1, h4]
    | cons c' cs' =>
      have hlt' : lo + 2 ^ l < hi := by
        obtain ⟨l', k'⟩ := c'
        simp only [Cover] at h4
        have := Nat.two_pow_pos l'
        omega
      have ih' := ih (lo + 2 ^ l) hi h4 hlt' hhi
      simp only [List.map_cons] at ih' ⊢
      simp only [foldR]
      rw [ih']
      simp only [Option.map_some]
      congr 1
      rw [mth_slice_split node empty D lo hi (by have := Nat.two_pow_pos l; omega) hhi,
        splitPoint_eq (hi - lo) l (by omega) (by omega), leavesOf_eq_slice, h1]

end

/-- `[lo, hi)` is inside one aligned block: `lo` is a multiple of a power of two that is at least `hi - lo`.
    (`lo = 0`, and every interval the proof recursions of C03 pass down, is of this form.) -/
def Aligned (lo hi : Nat) : Prop := ∃ j, 2 ^ j ∣ lo ∧ hi - lo ≤ 2 ^ j

theorem aligned_zero (hi : Nat) : Aligned 0 hi := ⟨hi, Nat.dvd_zero _, by
  have := Nat.lt_two_pow_self (n := hi); omega⟩

theorem Aligned.dvd {lo hi l : Nat} (h : Aligned lo hi) (hk : 2 ^ l ≤ hi - lo) : 2 ^ l ∣ lo := by
  obtain ⟨j, h1, h2⟩ := h
  have : l ≤ j := (Nat.pow_le_pow_iff_right (by omega : 1 < 2)).mp (Nat.le_trans hk h2)
  exact Nat.dvd_trans (Nat.pow_dvd_pow 2 this) h1

theorem aligned_of_dvd {lo hi l : Nat} (h : 2 ^ l ∣ lo) (hs : hi - lo ≤ 2 ^ l) : Aligned lo hi := ⟨l, h, hs⟩

theorem Aligned.split {lo hi l : Nat} (h : Aligned lo hi) (h1 : 2 ^ l < hi - lo) (h2 : hi - lo ≤ 2 * 2 ^ l) :
    Aligned lo (lo + 2 ^ l) ∧ Aligned (lo + 2 ^ l) hi :=
  have hd := h.dvd (Nat.le_of_lt h1)
  ⟨aligned_of_dvd hd (by omega), aligned_of_dvd (Nat.dvd_add hd (Nat.dvd_refl _)) (by omega)⟩

theorem subTreeIndexF_spec : ∀ f lo hi, hi - lo ≤ f → lo ≤ hi → Aligned lo hi → hi < 2 ^ 63 →
    ∃ cs : List (Nat × Nat),
      subTreeIndexF f lo hi = .ok (cs.map fun c => storedHashIndex c.1 c.2) ∧ Cover cs lo hi := by
  intro f
  induction f with
  | zero =>
    intro lo hi h1 h2 _ _
    have : ¬ lo < hi := by omega
    exact ⟨[], by simp [subTreeIndexF, this], by simp [Cover]; omega⟩
  | succ f ih =>
    intro lo hi h1 h2 hal hr
    by_cases hlt : lo < hi
    · -- the first block is the largest power of two `k = 2^level ≤ hi - lo`; alignment makes it start at `lo`
      have hk1 := maxpow2_fst_eq (hi - lo + 1)
      have hk2 := maxpow2_lt (hi - lo + 1) (by omega)
      have hk3 := maxpow2_le_two_mul (hi - lo + 1) (by omega) (by omega)
      have hdvd : 2 ^ (maxpow2 (hi - lo + 1)).2 ∣ lo := hal.dvd (by rw [← hk1]; omega)
      have hand : (lo &&& ((maxpow2 (hi - lo + 1)).1 - 1) != 0) = false := by
        rw [hk1, Nat.and_two_pow_sub_one_eq_mod, Nat.mod_eq_zero_of_dvd hdvd]; rfl
      obtain ⟨cs, c1, c3⟩ := ih (lo + (maxpow2 (hi - lo + 1)).1) hi (by omega) (by omega)
        (aligned_of_dvd (by rw [hk1]; exact Nat.dvd_add hdvd (Nat.dvd_refl _)) (by rw [← hk1]; omega)) hr
      refine ⟨((maxpow2 (hi - lo + 1)).2, lo >>> (maxpow2 (hi - lo + 1)).2) :: cs, ?_, ?_⟩
      · unfold subTreeIndexF
        simp only [hlt, ↓reduceIte, hand, Bool.false_eq_true, c1, bind, Except.bind, pure, Except.pure, List.map_cons]
      · simp only [Cover]
        rw [Nat.shiftRight_eq_div_pow, Nat.div_mul_cancel hdvd, ← hk1]
        exact ⟨rfl, by omega, by rw [Nat.pow_succ, ← hk1]; omega, c3⟩
    · exact ⟨[], by simp [subTreeIndexF, hlt], by simp [Cover]; omega⟩

theorem numTreeF_of_subTreeIndex {lo hi : Nat} {idx : List Nat} (h : subTreeIndex lo hi = .ok idx) :
    numTreeF (hi - lo) lo hi = .ok idx.length := by
  rw [numTreeF_eq, show subTreeIndexF (hi - lo) lo hi = .ok idx from h]; rfl

/-- ★ `subTreeIndex lo hi` = the stored-hash positions of the cover of `[lo, hi)`; no panic, no fuel exhaustion -/
theorem subTreeIndex_spec (lo hi : Nat) (hle : lo ≤ hi) (hal : Aligned lo hi) (hr : hi < 2 ^ 63) :
    ∃ cs : List (Nat × Nat),
      subTreeIndex lo hi = .ok (cs.map fun c => storedHashIndex c.1 c.2) ∧
      numTreeF (hi - lo) lo hi = .ok cs.length ∧ Cover cs lo hi := by
  obtain ⟨cs, c1, c3⟩ := subTreeIndexF_spec (hi - lo) lo hi (Nat.le_refl _) hle hal hr
  exact ⟨cs, c1, by simpa using numTreeF_of_subTreeIndex c1, c3⟩

section
variable {H : Type} (node : H → H → H) (empty : H)

theorem subTreeHash_cover (D : List H) (cs : List (Nat × Nat)) (lo hi : Nat) (hc : Cover cs lo hi)
    (hlt : lo < hi) (hhi : hi ≤ D.length) (hn : numTreeF (hi - lo) lo hi = .ok cs.length) (rest : List H) :
    subTreeHash node lo hi ((cs.map fun c => mth node empty (leavesOf D c.1 c.2)) ++ rest) =
      .ok (mth node empty (slice D lo hi), rest) := by
  unfold subTreeHash
  simp only [hn, bind, Except.bind, List.length_append, List.length_map]
  rw [if_neg (by omega), ← List.length_map (as := cs), List.take_left, List.drop_left, foldRight_reverse,
    mth_cover node empty D cs lo hi hc hlt hhi]

end

section
variable {H : Type} (leaf : Bytes → H) (node : H → H → H) (empty : H)

/-- Over a store whose positions hold the RFC 6962 hashes of their layout coordinates (the second clause of the store
    invariant), the positions `subTreeIndex lo hi` asks for are in the store, and `subTreeHash` folds what is read
    there to `MTH(D[lo:hi])`, leaving the following hashes untouched. -/
theorem subTree_read (D : List Bytes) (st : List H)
    (hst : ∀ p l k : Nat, (layout D.length)[p]? = some (l, k) →
      st[p]? = some (mth node empty (leavesOf (D.map leaf) l k)))
    (lo hi : Nat) (h1 : lo < hi) (h2 : hi ≤ D.length) (hal : Aligned lo hi) (hr : hi < 2 ^ 63) :
    ∃ idx hs, subTreeIndex lo hi = .ok idx ∧ storeReader st idx = some hs ∧ hs ≠ [] ∧
      ∀ rest, subTreeHash node lo hi (hs ++ rest) = .ok (mth node empty (slice (D.map leaf) lo hi), rest) := by
  obtain ⟨cs, c1, c2, c3⟩ := subTreeIndex_spec lo hi (Nat.le_of_lt h1) hal hr
  have hlen : hi ≤ (D.map leaf).length := by rw [List.length_map]; exact h2
  have hread := storeReader_map st (fun c : Nat × Nat => storedHashIndex c.1 c.2)
    (fun c => mth node empty (leavesOf (D.map leaf) c.1 c.2)) cs (fun c hc =>
      hst _ c.1 c.2 (storedHashIndex_layout _ _ _ (Nat.le_trans (cover_bound cs lo hi c3 c hc) h2)))
  have hne : (cs.map fun c => mth node empty (leavesOf (D.map leaf) c.1 c.2)) ≠ [] := by
    cases cs with
    | nil => simp only [Cover] at c3; omega
    | cons c cs => simp
  exact ⟨_, _, c1, hread, hne, subTreeHash_cover node empty (D.map leaf) cs lo hi c3 h1 hlen c2⟩

end

section
variable {H : Type} (leaf : Bytes → H) (node : H → H → H) (empty : H)

/-- ★ over a store satisfying the invariant, `TreeHash(m)` is the RFC 6962 tree hash of the first `m` records -/
theorem treeHash_of_storeOK (D : List Bytes) (st : List H) (hok : StoreOK leaf node empty D st) (m : Nat)
    (hm : m ≤ D.length) (hr : m < 2 ^ 63) :
    treeHash node empty m (storeReader st) = .ok (mth node empty ((D.map leaf).take m)) := by
  unfold treeHash
  by_cases h0 : m = 0
  · subst h0; simp
  · have hne : (m == 0) = false := by simpa using h0
    simp only [hne, Bool.false_eq_true, ↓reduceIte]
    obtain ⟨idx, hs, e1, e2, _, e4⟩ := subTree_read leaf node empty D st hok.2 0 m (by omega) hm (aligned_zero m) hr
    have e4' := e4 []
    rw [List.append_nil] at e4'
    simp only [e1, readChecked_storeReader st idx hs e2, e4', bind, Except.bind, pure, Except.pure]
    simp [slice_zero]

end
end ModVerif.TlogStore
