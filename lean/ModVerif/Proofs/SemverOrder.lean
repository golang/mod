/-
  semver.Compare is the pull-back of a strict total order on keys:
    key v = (major, minor, patch, prerelease identifiers or none)   for valid v,   none for invalid v
  numbers compared by (length, bytes), identifiers numeric < alphanumeric, numeric by (length, bytes),
  alphanumeric bytewise, shorter identifier list first, no prerelease highest, invalid lowest.
-/
import ModVerif.Model.Semver
import ModVerif.Proofs.BytesOrder
import ModVerif.Proofs.CmpList
import ModVerif.Proofs.SemverGrammar
namespace ModVerif.Semver
open ModVerif ModVerif.SemverSpec StrictCmp

def intKey (x : Bytes) : Nat × Bytes := (x.length, x)

theorem compareInt_eq (x y : Bytes) :
    compareInt x y = lex natCmp bytesCmp (intKey x) (intKey y) := by
  unfold compareInt lex intKey natCmp bytesCmp
  by_cases h : x = y
  · subst h; simp
  · by_cases l : x.length < y.length
    · have : ¬ x.length = y.length := by omega
      simp [h, l, this]
    · by_cases g : x.length > y.length
      · have : ¬ x.length = y.length := by omega
        simp [h, l, g, this]
      · have e : x.length = y.length := by omega
        simp [h, e]

theorem compareInt_strict : StrictCmp compareInt := by
  have h := comap (lex_strict natCmp_strict bytesCmp_strict) intKey
    (by intro x y h; exact (Prod.mk.inj h).2)
  have : compareInt = fun x y => lex natCmp bytesCmp (intKey x) (intKey y) := by
    funext x y; exact compareInt_eq x y
  rw [this]; exact h

def identKey (d : Bytes) : Nat × (Nat × Bytes) :=
  (if isNum d then 0 else 1, (if isNum d then d.length else 0, d))

/-- the comparison of two prerelease identifiers as `comparePrerelease` performs it -/
def identCmp (dx dy : Bytes) : Int := if dx = dy then 0 else cmpIdent dx dy

theorem identCmp_eq (dx dy : Bytes) :
    identCmp dx dy = lex natCmp (lex natCmp bytesCmp) (identKey dx) (identKey dy) := by
  unfold identCmp
  by_cases h : dx = dy
  · subst h
    simp [lex, natCmp_strict.refl, bytesCmp_strict.refl]
  · simp only [h, if_false]
    unfold cmpIdent lex identKey natCmp bytesCmp
    cases hx : isNum dx <;> cases hy : isNum dy <;> simp [h]
    · by_cases l : dx.length < dy.length
      · have : ¬ dx.length = dy.length := by omega
        simp [l, this]
      · by_cases g : dy.length < dx.length
        · have : ¬ dx.length = dy.length := by omega
          simp [l, g, this]
        · have e : dx.length = dy.length := by omega
          simp [e]

theorem identCmp_strict : StrictCmp identCmp := by
  have h := comap (lex_strict natCmp_strict (lex_strict natCmp_strict bytesCmp_strict)) identKey
    (by intro x y h; exact (Prod.mk.inj (Prod.mk.inj h).2).2)
  have : identCmp = fun x y => lex natCmp (lex natCmp bytesCmp) (identKey x) (identKey y) := by
    funext x y; exact identCmp_eq x y
  rw [this]; exact h

theorem cmpIdents_eq : ∀ xs ys : List Bytes, cmpIdents xs ys = listCmp identCmp xs ys
  | [], [] => rfl
  | [], _ :: _ => rfl
  | _ :: _, [] => rfl
  | x :: xs, y :: ys => by
    unfold cmpIdents listCmp identCmp
    by_cases h : x = y
    · subst h; simp [cmpIdents_eq xs ys]; rfl
    · simp only [h, if_false]
      have hne : cmpIdent x y ≠ 0 := by
        intro e
        have := (identCmp_strict.eq_iff x y).1 (by unfold identCmp; simp only [h, if_false]; exact e)
        exact h this
      simp [hne]

def preKey (x : Bytes) : Option (List Bytes) :=
  if x.isEmpty then none else some (splitOn 46 (x.drop 1))

/-- what `parse` stores in `prerelease` -/
def PreOK (x : Bytes) : Prop := x = [] ∨ ∃ s, x = 45 :: s

theorem preKey_inj {x y : Bytes} (hx : PreOK x) (hy : PreOK y) (h : preKey x = preKey y) : x = y := by
  rcases hx with rfl | ⟨s, rfl⟩ <;> rcases hy with rfl | ⟨t, rfl⟩
  · rfl
  · simp [preKey] at h
  · simp [preKey] at h
  · simp [preKey] at h
    rw [splitOn_inj 46 s t h]

theorem comparePrerelease_eq {x y : Bytes} (hx : PreOK x) (hy : PreOK y) :
    comparePrerelease x y = optHighCmp (listCmp identCmp) (preKey x) (preKey y) := by
  unfold comparePrerelease
  by_cases h : x = y
  · subst h
    simp [(optHighCmp_strict (listCmp_strict identCmp_strict)).refl]
  · simp only [h, if_false]
    rcases hx with rfl | ⟨s, rfl⟩ <;> rcases hy with rfl | ⟨t, rfl⟩
    · exact absurd rfl h
    · simp [preKey, optHighCmp]
    · simp [preKey, optHighCmp]
    · simp [preKey, optHighCmp, cmpIdents_eq]

abbrev VKey := Bytes × Bytes × Bytes × Option (List Bytes)

def pkey (p : Parsed) : VKey := (p.major, p.minor, p.patch, preKey p.prerelease)

def keyCmp : VKey → VKey → Int :=
  lex compareInt (lex compareInt (lex compareInt (optHighCmp (listCmp identCmp))))

theorem keyCmp_strict : StrictCmp keyCmp :=
  lex_strict compareInt_strict (lex_strict compareInt_strict (lex_strict compareInt_strict
    (optHighCmp_strict (listCmp_strict identCmp_strict))))

def vkey (v : Bytes) : Option VKey := (parse v).map pkey

theorem preOpt_preOK {x : Bytes} (h : PreOpt x) : PreOK x := by
  rcases h with rfl | ⟨ids, _, _, rfl⟩
  · exact Or.inl rfl
  · exact Or.inr ⟨_, rfl⟩

theorem parse_preOK {v : Bytes} {p : Parsed} (h : parse v = some p) : PreOK p.prerelease :=
  preOpt_preOK (decomp_fields (parse_decomp h)).2.2.2.1

theorem compare_eq_key (v w : Bytes) :
    Semver.compare v w = optLowCmp keyCmp (vkey v) (vkey w) := by
  unfold Semver.compare vkey
  cases hv : parse v with
  | none => cases hw : parse w <;> simp [optLowCmp]
  | some pv =>
    cases hw : parse w with
    | none => simp [optLowCmp]
    | some pw =>
      simp only [Option.map, optLowCmp, keyCmp, lex, pkey]
      rw [comparePrerelease_eq (parse_preOK hv) (parse_preOK hw)]
      by_cases h1 : compareInt pv.major pw.major = 0
      · by_cases h2 : compareInt pv.minor pw.minor = 0
        · by_cases h3 : compareInt pv.patch pw.patch = 0
          · simp [h1, h2, h3]
          · simp [h1, h2, h3]
        · simp [h1, h2]
      · simp [h1]

end ModVerif.Semver
