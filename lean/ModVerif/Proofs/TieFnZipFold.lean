/-
  Tie proof, zip/zip.go `strToFold`: the regenerated definition (Generated/FnZip.lean; three loops, the Go `goto Slow` is
  the `Ctl.ret` of the first loop) against the hand model `Zip.strToFold` (Model/Zip.lean).

  `unicode.SimpleFold` is an abstract parameter `simpleFold : Int → Int` of the generated code; the model uses the committed
  table `FoldTable.foldMin` (minimum of the SimpleFold orbit).  The bridge is `FoldsTo simpleFold K`: for every rune value
  the inner loop `for { r0 := r; r = simpleFold(r0); if r <= r0 { break } }` ends within `K` iterations with `foldMin r`
  (`orbitMinBy` is that loop on explicit fuel).  `foldsTo_foldMin`: the instance used by the driver (`Drv/GenZip.lean`,
  `simpleFold r := foldMin r`) satisfies it with `K = 1`, with no hypothesis (`foldMin r ≤ r` by evaluation of the table).

  Every loop is characterised for EVERY fuel at once (`RunsTo`): it returns the model's value, or the fuel is below the
  stated need and it runs out of fuel.  The tie (enough fuel) and the agreement of the two notions of "does not end" in
  `collisionChecker.check` (too little fuel) both read off that.
-/
import ModVerif.Generated.FnZip
import ModVerif.Model.Zip
import ModVerif.Proofs.GoRtLemmasZip
import ModVerif.Proofs.GoRtLemmasLex
namespace ModVerif.TieFnZip
open ModVerif ModVerif.GoRt ModVerif.GoRtZip ModVerif.GoRtStr

def RunsTo {α : Type} (x : M α) (fuel need : Nat) (v : α) : Prop := x = .ok v ∨ (fuel < need ∧ x = .error .fuel)

theorem RunsTo.ok {α : Type} {x : M α} {fuel need : Nat} {v : α} (h : RunsTo x fuel need v) (hf : need ≤ fuel) :
    x = .ok v :=
  h.resolve_right fun h' => Nat.not_lt.2 hf h'.1

theorem RunsTo.weak {α : Type} {x : M α} {fuel need : Nat} {v : α} (h : RunsTo x fuel need v) :
    x = .error .fuel ∨ x = .ok v :=
  h.symm.imp (·.2) id

theorem RunsTo.succ {α : Type} {x : M α} {fuel need need' : Nat} {v : α} (h : RunsTo x fuel need v)
    (hn : need + 1 ≤ need') : RunsTo x (fuel + 1) need' v :=
  h.imp_right fun h' => ⟨by omega, h'.2⟩

/-! ### the inner loop: iterate `simpleFold` until it stops increasing -/

/-- the value the inner loop of `strToFold` ends with when it is started at `r`, if it ends within `k` iterations -/
def orbitMinBy (sf : Int → Int) : Nat → Int → Option Int
  | 0, _ => none
  | k + 1, r => if sf r ≤ r then some (sf r) else orbitMinBy sf k (sf r)

/-- the hypothesis on `unicode.SimpleFold`; for code points only: `range` over a string yields values below 0x110000 -/
def FoldsTo (sf : Int → Int) (K : Nat) : Prop :=
  ∀ r : Nat, r < 0x110000 → orbitMinBy sf K (r : Int) = some ((FoldTable.foldMin r : Nat) : Int)

theorem loop3_runs (sf : Int → Int) : ∀ (fuel K : Nat) (r m : Int), orbitMinBy sf K r = some m →
    RunsTo (Generated.Zip.strToFold_loop3 sf fuel r) fuel K m := by
  intro fuel
  induction fuel with
  | zero =>
    intro K r m h
    cases K with
    | zero => cases h
    | succ K => exact Or.inr ⟨Nat.succ_pos K, rfl⟩
  | succ f ih =>
    intro K r m h
    cases K with
    | zero => cases h
    | succ K =>
      unfold Generated.Zip.strToFold_loop3
      unfold orbitMinBy at h
      by_cases hc : sf r ≤ r
      · rw [if_pos hc] at h
        cases h
        simp only [hc, decide_true, if_true]
        exact Or.inl rfl
      · rw [if_neg hc] at h
        simp only [hc, decide_false, Bool.false_eq_true, if_false]
        exact (ih K (sf r) m h).succ (Nat.le_refl _)

/-- what the slow path writes for one rune -/
def foldRune (r : Nat) : Bytes :=
  let m := FoldTable.foldMin r
  let m := if 65 ≤ m ∧ m ≤ 90 then m + 32 else m
  Utf8.encode m

/-- the fast-path test on one byte: ASCII and not an upper-case letter -/
def plainByte (c : UInt8) : Bool := c.toNat < 0x80 && !(65 ≤ c.toNat && c.toNat ≤ 90)

theorem strToFold_model (s : Bytes) :
    Zip.strToFold s = if s.all plainByte then s else (Utf8.runes s).flatMap foldRune := rfl

theorem foldRune_upper {r : Nat}
    (h : (decide ((65 : Int) ≤ ((FoldTable.foldMin r : Nat) : Int)) &&
      decide (((FoldTable.foldMin r : Nat) : Int) ≤ 90)) = true) :
    encodeRune (toI32 (((FoldTable.foldMin r : Nat) : Int) + 32)) = foldRune r := by
  simp only [Bool.and_eq_true, decide_eq_true_eq] at h
  have hup : 65 ≤ FoldTable.foldMin r ∧ FoldTable.foldMin r ≤ 90 := ⟨by omega, by omega⟩
  have e : ((FoldTable.foldMin r : Nat) : Int) + 32 = ((FoldTable.foldMin r + 32 : Nat) : Int) := by omega
  rw [toI32_small _ (by omega) (by omega), e, encodeRune_natCast]
  simp only [foldRune, hup, and_self, if_true]

theorem foldRune_other {r : Nat}
    (h : ¬ (decide ((65 : Int) ≤ ((FoldTable.foldMin r : Nat) : Int)) &&
      decide (((FoldTable.foldMin r : Nat) : Int) ≤ 90)) = true) :
    encodeRune ((FoldTable.foldMin r : Nat) : Int) = foldRune r := by
  simp only [Bool.and_eq_true, decide_eq_true_eq] at h
  have hup : ¬ (65 ≤ FoldTable.foldMin r ∧ FoldTable.foldMin r ≤ 90) := by omega
  rw [encodeRune_natCast]
  simp only [foldRune, hup, if_false]

theorem loop2_runs (sf : Int → Int) (K : Nat) (hsf : FoldsTo sf K) (s : Bytes) : ∀ (fuel k : Nat) (buf : Bytes),
    k ≤ s.length →
    RunsTo (Generated.Zip.strToFold_loop2 sf s fuel (k : Int) buf) fuel (s.length - k + K + 1)
      ((s.length : Int), buf ++ (Utf8.runes (s.drop k)).flatMap foldRune) := by
  intro fuel
  induction fuel with
  | zero => intro k buf _; exact Or.inr ⟨by omega, rfl⟩
  | succ f ih =>
    intro k buf hk
    unfold Generated.Zip.strToFold_loop2
    by_cases hlt : k < s.length
    · have hc : decide (((k : Nat) : Int) < len s) = true := by simp [len]; omega
      simp only [hc, if_true]
      obtain ⟨r, w, hd, hw1, hw2, hrunes, _⟩ := range_step s k hlt
      have hr : r < 0x110000 := by
        have := GoRtLex.decodeRune_le (s.drop k)
        rw [decodeRuneAt_natCast] at hd
        simp only [Prod.mk.injEq, Int.natCast_inj] at hd
        omega
      rw [hd]
      simp only []
      rcases loop3_runs sf f K (r : Int) _ (hsf r hr) with h3 | ⟨h3f, h3⟩
      · rw [h3, hrunes, List.flatMap_cons, ← List.append_assoc]
        simp only [bind, Except.bind]
        have key := (ih (k + w) (buf ++ foldRune r) hw2).succ (need' := s.length - k + K + 1) (by omega)
        rw [Int.natCast_add] at key
        split
        · rename_i hup; rw [foldRune_upper hup]; exact key
        · rename_i hup; rw [foldRune_other hup]; exact key
      · exact Or.inr ⟨by omega, by rw [h3]; rfl⟩
    · have hk' : k = s.length := by omega
      have hc : decide (((k : Nat) : Int) < len s) = false := by simp [len]; omega
      simp only [hc, Bool.false_eq_true, if_false]
      subst hk'
      left
      simp [Utf8.runes, Utf8.runesAux]

theorem plainByte_cond (c : UInt8) :
    (decide (((c.toNat : Nat) : Int) ≥ 128) ||
      (decide ((65 : Int) ≤ ((c.toNat : Nat) : Int)) && decide (((c.toNat : Nat) : Int) ≤ 90))) = !plainByte c := by
  unfold plainByte
  rw [Bool.eq_iff_iff]
  simp only [Bool.or_eq_true, Bool.and_eq_true, decide_eq_true_eq, Bool.not_eq_true', Bool.and_eq_false_iff,
    decide_eq_false_iff_not, Bool.not_eq_false']
  omega

theorem loop1_runs (sf : Int → Int) (K : Nat) (hsf : FoldsTo sf K) (s : Bytes) : ∀ (fuel k : Nat), k ≤ s.length →
    RunsTo (Generated.Zip.strToFold_loop1 sf s fuel (k : Int)) fuel (2 * s.length - k + K + 2)
      (if (s.drop k).all plainByte then Ctl.next (s.length : Int) else Ctl.ret ((Utf8.runes s).flatMap foldRune)) := by
  intro fuel
  induction fuel with
  | zero => intro k _; exact Or.inr ⟨by omega, rfl⟩
  | succ f ih =>
    intro k hk
    unfold Generated.Zip.strToFold_loop1
    by_cases hlt : k < s.length
    · have hc : decide (((k : Nat) : Int) < len s) = true := by simp [len]; omega
      simp only [hc, if_true]
      rw [idx_natCast hlt]
      simp only [bind, Except.bind]
      rw [plainByte_cond, List.drop_eq_getElem_cons hlt, List.all_cons]
      cases hp : plainByte s[k] with
      | true =>
        simp only [Bool.not_true, Bool.false_eq_true, if_false, Bool.true_and]
        have := (ih (k + 1) (by omega)).succ (need' := 2 * s.length - k + K + 2) (by omega)
        rwa [Int.natCast_add] at this
      | false =>
        simp only [Bool.not_false, if_true, Bool.false_and, Bool.false_eq_true, if_false]
        have := loop2_runs sf K hsf s f 0 [] (by omega)
        simp only [Int.natCast_zero, List.drop_zero, List.nil_append] at this
        rcases this with h2 | ⟨h2f, h2⟩
        · rw [h2]; exact Or.inl rfl
        · exact Or.inr ⟨by omega, by rw [h2]⟩
    · have hk' : k = s.length := by omega
      have hc : decide (((k : Nat) : Int) < len s) = false := by simp [len]; omega
      simp only [hc, Bool.false_eq_true, if_false]
      subst hk'
      left
      simp

theorem strToFold_runs (sf : Int → Int) (K : Nat) (hsf : FoldsTo sf K) (fuel : Nat) (s : Bytes) :
    RunsTo (Generated.Zip.strToFold sf fuel s) fuel (2 * s.length + K + 2) (Zip.strToFold s) := by
  unfold Generated.Zip.strToFold
  show RunsTo (Generated.Zip.strToFold_loop1 sf s fuel 0 >>= _) _ _ _
  have := loop1_runs sf K hsf s fuel 0 (by omega)
  simp only [Int.natCast_zero, List.drop_zero] at this
  rcases this with h | ⟨hf, h⟩
  · left
    rw [h, strToFold_model]
    cases s.all plainByte <;> rfl
  · exact Or.inr ⟨by omega, by rw [h]; rfl⟩

/-! ### the driver's instance: jumping straight to the orbit minimum -/

/-- every entry of the committed table maps a rune to a smaller one (kernel evaluation over the 1454 entries) -/
theorem table_le : FoldTable.table.toList.all (fun kv => decide (kv.2 ≤ kv.1)) = true := by decide +kernel

theorem all_getElem? {α : Type} (t : Array α) (p : α → Bool) (h : t.toList.all p = true) (i : Nat) (x : α)
    (hi : t[i]? = some x) : p x = true := by
  rw [← Array.getElem?_toList] at hi
  exact List.all_eq_true.mp h x (List.mem_of_getElem? hi)

/-- `change` instead of `unfold`: the equation lemmas of `FoldTable.search` cannot be generated — the elaborator runs out
    of recursion depth on the table -/
theorem search_mem (r : Nat) : ∀ (fuel lo hi v : Nat), FoldTable.search r fuel lo hi = some v →
    ∃ i : Nat, FoldTable.table[i]? = some (r, v)
  | 0, lo, hi, v, h => by
    change none = some v at h
    cases h
  | f + 1, lo, hi, v, h => by
    change (if lo ≥ hi then none else _) = some v at h
    split at h
    · cases h
    · simp only at h
      split at h
      · cases h
      · rename_i k w hm
        split at h
        · rename_i hk
          simp only [Option.some.injEq] at h
          have hk : k = r := by simpa using hk
          subst hk; subst h
          exact ⟨_, hm⟩
        · split at h
          · exact search_mem r f _ _ _ h
          · exact search_mem r f _ _ _ h

theorem foldMin_le (r : Nat) : FoldTable.foldMin r ≤ r := by
  unfold FoldTable.foldMin
  cases h : FoldTable.search r 16 0 FoldTable.table.size with
  | none => simp
  | some m =>
    obtain ⟨i, hi⟩ := search_mem r _ _ _ _ h
    have := all_getElem? _ _ table_le i _ hi
    simpa using this

/-- `simpleFold := foldMin` (the stand-in of the driver `Drv/GenZip.lean`): the loop ends after one iteration -/
theorem foldsTo_foldMin : FoldsTo (fun r : Int => Int.ofNat (FoldTable.foldMin r.toNat)) 1 := by
  intro r _
  have := foldMin_le r
  simp only [orbitMinBy, Int.toNat_natCast, Int.ofNat_eq_natCast]
  rw [if_pos (by omega)]

end ModVerif.TieFnZip
