/-
  Helper lemmas for Tie/FnRuleLeaf.lean: parseVersionInterval on token VIEWS.

  `pviOut path toks fx` is the Go function on a token LIST (same branch order as rule.go; the in-place stores
  `*s = …` of parseVersion become the new list): interval, error, number of tokens consumed (the returned `args` is the view
  advanced by that many tokens), tokens after the stores.  `parseVersionInterval_spec`: the regenerated function on a view
  `TokView h r pre toks` computes exactly that, the heap afterwards is `setToksH h r.owner (pre ++ out.toks)`.
  `pviOut_model`: `pviOut` is the hand model's `parseVersionInterval` (errors under `errAbs`).
-/
import ModVerif.Proofs.TieFnRuleLeafA
namespace ModVerif.Tie.FnRuleLeafB
open ModVerif ModVerif.GoRt ModVerif.Generated ModVerif.Tie.FnRuleRep ModVerif.Tie.FnRuleLeafA
open ModVerif.Drv.GenModfile (isPrintI unquoteI)
open ModVerif.Drv.GenRule (fixG)

section view
variable {h : Rule.Heap} {r : Rule.TokRef} {pre : List Bytes}

theorem V.len (toks : List Bytes) (v : TokView h r pre toks) : Rule.TokRef.len r h = .ok (toks.length : Int) := v.len

theorem V.get0 {t : Bytes} {rest : List Bytes} (v : TokView h r pre (t :: rest)) : Rule.TokRef.get r 0 h = .ok t :=
  v.getI 0 (by omega) rfl

theorem V.get1 {t u : Bytes} {rest : List Bytes} (v : TokView h r pre (t :: u :: rest)) : Rule.TokRef.get r 1 h = .ok u :=
  v.getI 1 (by omega) rfl

theorem V.get2 {t u x : Bytes} {rest : List Bytes} (v : TokView h r pre (t :: u :: x :: rest)) : Rule.TokRef.get r 2 h = .ok x :=
  v.getI 2 (by omega) rfl

theorem V.get3 {t u x y : Bytes} {rest : List Bytes} (v : TokView h r pre (t :: u :: x :: y :: rest)) :
    Rule.TokRef.get r 3 h = .ok y :=
  v.getI 3 (by omega) rfl

theorem V.get4 {t u x y z : Bytes} {rest : List Bytes} (v : TokView h r pre (t :: u :: x :: y :: z :: rest)) :
    Rule.TokRef.get r 4 h = .ok z :=
  v.getI 4 (by omega) rfl

theorem V.set0 {t : Bytes} {rest : List Bytes} (v : TokView h r pre (t :: rest)) (x : Bytes) :
    Rule.TokRef.set r 0 x h = .ok (setToksH h r.owner (pre ++ x :: rest)) ∧
      TokView (setToksH h r.owner (pre ++ x :: rest)) r pre (x :: rest) :=
  v.setI 0 (by omega) (by simp) x

theorem V.set1 {t u : Bytes} {rest : List Bytes} (v : TokView h r pre (t :: u :: rest)) (x : Bytes) :
    Rule.TokRef.set r 1 x h = .ok (setToksH h r.owner (pre ++ t :: x :: rest)) ∧
      TokView (setToksH h r.owner (pre ++ t :: x :: rest)) r pre (t :: x :: rest) :=
  v.setI 1 (by omega) (by simp) x

theorem V.set2 {t u y : Bytes} {rest : List Bytes} (v : TokView h r pre (t :: u :: y :: rest)) (x : Bytes) :
    Rule.TokRef.set r 2 x h = .ok (setToksH h r.owner (pre ++ t :: u :: x :: rest)) ∧
      TokView (setToksH h r.owner (pre ++ t :: u :: x :: rest)) r pre (t :: u :: x :: rest) :=
  v.setI 2 (by omega) (by simp) x

theorem V.set3 {t u y z : Bytes} {rest : List Bytes} (v : TokView h r pre (t :: u :: y :: z :: rest)) (x : Bytes) :
    Rule.TokRef.set r 3 x h = .ok (setToksH h r.owner (pre ++ t :: u :: y :: x :: rest)) ∧
      TokView (setToksH h r.owner (pre ++ t :: u :: y :: x :: rest)) r pre (t :: u :: y :: x :: rest) :=
  v.setI 3 (by omega) (by simp) x

theorem V.set4 {t u y z a : Bytes} {rest : List Bytes} (v : TokView h r pre (t :: u :: y :: z :: a :: rest)) (x : Bytes) :
    Rule.TokRef.set r 4 x h = .ok (setToksH h r.owner (pre ++ t :: u :: y :: z :: x :: rest)) ∧
      TokView (setToksH h r.owner (pre ++ t :: u :: y :: z :: x :: rest)) r pre (t :: u :: y :: z :: x :: rest) :=
  v.setI 4 (by omega) (by simp) x

theorem V.drop1 {t : Bytes} {rest : List Bytes} (v : TokView h r pre (t :: rest)) :
    Rule.TokRef.drop r 1 h = .ok { r with lo := r.lo + 1 } ∧ TokView h { r with lo := r.lo + 1 } (pre ++ [t]) rest :=
  v.dropI 1 (by omega) (by simp)

end view

def tokSum (toks : List Bytes) : Nat := (toks.map (·.length)).sum

@[simp] theorem tokSum_nil : tokSum [] = 0 := rfl
@[simp] theorem tokSum_cons (t : Bytes) (ts : List Bytes) : tokSum (t :: ts) = t.length + tokSum ts := by simp [tokSum]

/-- what parseVersionInterval returns on a token list (the record `pviOut` computes; the Prop `PVIOut` of
    Proofs/TieFnRuleAddC.lean says these are the model's) -/
structure PviOut where
  vi : Rule.VersionInterval
  err : Option String
  dropped : Int
  toks : List Bytes

def viOf (low high : Bytes) : Rule.VersionInterval := { Low := low, High := high }

/-- parseVersionInterval on a token list (rule.go order) -/
def pviOut (path : Bytes) (toks : List Bytes) (fx : Option ModVerif.Modfile.Fixer) : PviOut :=
  match toks with
  | [] => ⟨default, some "expected '[' or version", 0, toks⟩
  | t0 :: rest =>
    if t0 = [40] then ⟨default, some "expected '[' or version", 0, toks⟩
    else if ¬ t0 = [91] then
      if ((pvOut path t0 fx).1.2).isNone then ⟨viOf (pvOut path t0 fx).1.1 (pvOut path t0 fx).1.1, none, 1, (pvOut path t0 fx).2 :: rest⟩
      else ⟨default, (pvOut path t0 fx).1.2, 0, (pvOut path t0 fx).2 :: rest⟩
    else
      match rest with
      | [] => ⟨default, some "expected version after '['", 0, toks⟩
      | t1 :: rest1 =>
        if ¬ ((pvOut path t1 fx).1.2).isNone then ⟨default, (pvOut path t1 fx).1.2, 0, t0 :: (pvOut path t1 fx).2 :: rest1⟩
        else
          match rest1 with
          | [] => ⟨default, some "expected ',' after version", 0, t0 :: (pvOut path t1 fx).2 :: rest1⟩
          | c :: rest2 =>
            if ¬ c = [44] then ⟨default, some "expected ',' after version", 0, t0 :: (pvOut path t1 fx).2 :: rest1⟩
            else
              match rest2 with
              | [] => ⟨default, some "expected version after ','", 0, t0 :: (pvOut path t1 fx).2 :: rest1⟩
              | t2 :: rest3 =>
                if ¬ ((pvOut path t2 fx).1.2).isNone then
                  ⟨default, (pvOut path t2 fx).1.2, 0, t0 :: (pvOut path t1 fx).2 :: c :: (pvOut path t2 fx).2 :: rest3⟩
                else
                  match rest3 with
                  | [] => ⟨default, some "expected ']' after version", 0, t0 :: (pvOut path t1 fx).2 :: c :: (pvOut path t2 fx).2 :: rest3⟩
                  | rb :: rest4 =>
                    if ¬ rb = [93] then
                      ⟨default, some "expected ']' after version", 0, t0 :: (pvOut path t1 fx).2 :: c :: (pvOut path t2 fx).2 :: rest3⟩
                    else
                      ⟨viOf (pvOut path t1 fx).1.1 (pvOut path t2 fx).1.1, none, 5,
                        t0 :: (pvOut path t1 fx).2 :: c :: (pvOut path t2 fx).2 :: rb :: rest4⟩

theorem lenNe {α : Type} (a : α) (l : List α) : ¬ (((a :: l).length : Int) = 0) := by simp; omega

theorem lo5 (r : Rule.TokRef) : ({ owner := r.owner, lo := r.lo + 1 + 1 + 1 + 1 + 1 } : Rule.TokRef) = { r with lo := r.lo + 5 } := by
  congr 1; omega

/-- the simp set of the symbolic execution below -/
local macro "pvi_simp" "[" ts:Lean.Parser.Tactic.simpLemma,* "]" : tactic =>
  `(tactic| simp only [bind, Except.bind, pure, Except.pure, ModVerif.Tie.FnRuleLeafB.lenNe, decide_false, decide_true, Bool.false_eq_true, Bool.true_eq_false, if_false, if_true,
      ModVerif.Tie.FnRuleLeafB.pviOut, Bool.not_true, Bool.not_false, not_true_eq_false, not_false_eq_true, Bool.not_eq_true, List.length_nil, Int.natCast_zero,
      List.append_assoc, List.cons_append, List.nil_append, ModVerif.Tie.FnRuleLeafB.viOf, $ts,*])

theorem parseVersionInterval_spec {h : Rule.Heap} {r : Rule.TokRef} {pre toks : List Bytes} (v : TokView h r pre toks)
    (verb path : Bytes) (fx : Option ModVerif.Modfile.Fixer) (fuel : Nat) (hf : 8 * tokSum toks + 1 ≤ fuel) :
    Rule.parseVersionInterval isPrintI Quote.quote unquoteI fuel verb path r (fixG fx) h =
      .ok ((((pviOut path toks fx).vi, (pviOut path toks fx).err), { r with lo := r.lo + (pviOut path toks fx).dropped }),
        setToksH h r.owner (pre ++ (pviOut path toks fx).toks)) := by
  unfold Rule.parseVersionInterval
  have hr0 : ({ r with lo := r.lo + 0 } : Rule.TokRef) = r := by cases r; simp
  have PV := fun t (ht : 8 * t.length + 1 ≤ fuel) w => parseVersion_spec verb path t fx fuel ht w
  rcases toks with _ | ⟨t0, rest⟩
  · pvi_simp [V.len _ v, hr0, v.setToksH_self]
  simp only [tokSum_cons] at hf
  pvi_simp [V.len _ v, V.get0 v]
  by_cases h40 : t0 = [40]
  · subst h40
    pvi_simp [hr0, v.setToksH_self]
  by_cases h91 : t0 = [91]
  rotate_left
  · -- a single version
    obtain ⟨hs0, v0'⟩ := V.set0 v (pvOut path t0 fx).2
    pvi_simp [h40, h91, PV t0 (by omega), hs0]
    by_cases he0 : ((pvOut path t0 fx).1.2).isNone = true
    · pvi_simp [he0, (V.drop1 v0').1]
    · pvi_simp [he0, hr0]
  subst h91
  obtain ⟨hd1, v1⟩ := V.drop1 v
  pvi_simp [h40, hd1, V.len _ v1]
  rcases rest with _ | ⟨t1, rest1⟩
  · pvi_simp [hr0, v.setToksH_self]
  simp only [tokSum_cons] at hf
  obtain ⟨hs1, v1'⟩ := V.set0 v1 (pvOut path t1 fx).2
  simp only [List.append_assoc, List.cons_append, List.nil_append] at hs1 v1'
  pvi_simp [V.get0 v1, PV t1 (by omega), hs1]
  by_cases he1 : ((pvOut path t1 fx).1.2).isNone = true
  rotate_left
  · pvi_simp [he1, hr0]
  obtain ⟨hd2, v2⟩ := V.drop1 v1'
  simp only [List.append_assoc, List.cons_append, List.nil_append] at hd2 v2
  pvi_simp [he1, hd2, V.len _ v2]
  rcases rest1 with _ | ⟨c, rest2⟩
  · pvi_simp [hr0]
  pvi_simp [V.get0 v2]
  by_cases h44 : c = [44]
  rotate_left
  · pvi_simp [h44, hr0]
  subst h44
  obtain ⟨hd3, v3⟩ := V.drop1 v2
  simp only [List.append_assoc, List.cons_append, List.nil_append] at hd3 v3
  pvi_simp [hd3, V.len _ v3]
  rcases rest2 with _ | ⟨t2, rest3⟩
  · pvi_simp [hr0]
  simp only [tokSum_cons] at hf
  obtain ⟨hs3, v3'⟩ := V.set0 v3 (pvOut path t2 fx).2
  simp only [List.append_assoc, List.cons_append, List.nil_append, v.setToksH_twice] at hs3 v3'
  pvi_simp [V.get0 v3, PV t2 (by omega), hs3]
  by_cases he2 : ((pvOut path t2 fx).1.2).isNone = true
  rotate_left
  · pvi_simp [he2, hr0]
  obtain ⟨hd4, v4⟩ := V.drop1 v3'
  simp only [List.append_assoc, List.cons_append, List.nil_append] at hd4 v4
  pvi_simp [he2, hd4, V.len _ v4]
  rcases rest3 with _ | ⟨rb, rest4⟩
  · pvi_simp [hr0]
  pvi_simp [V.get0 v4]
  by_cases h93 : rb = [93]
  · pvi_simp [h93, (V.drop1 (h93 ▸ v4)).1, lo5]
  · pvi_simp [h93, hr0]

def viG (v : ModVerif.Modfile.VersionInterval) : Rule.VersionInterval := { Low := v.low, High := v.high }

def PviRel (o : PviOut) (m : List Bytes × Except ModVerif.Modfile.RuleErrKind (ModVerif.Modfile.VersionInterval × List Bytes)) : Prop :=
  o.toks = m.1 ∧
  match m.2 with
  | .ok (mvi, rest) => o.err = none ∧ o.vi = viG mvi ∧ 0 ≤ o.dropped ∧ o.dropped.toNat ≤ m.1.length ∧ m.1.drop o.dropped.toNat = rest
  | .error k => errAbs o.err k ∧ o.vi = default ∧ o.dropped = 0

theorem pviOut_model (path : Bytes) (toks : List Bytes) (fx : Option ModVerif.Modfile.Fixer) :
    PviRel (pviOut path toks fx) (ModVerif.Modfile.parseVersionInterval path toks fx) := by
  unfold PviRel
  rcases toks with _ | ⟨t0, rest⟩
  · refine ⟨?_, ?_, ?_, ?_⟩ <;> first | trivial | rfl | exact errAbs_some (by simp [errStrs])
  by_cases h40 : t0 = [40]
  · subst h40
    refine ⟨?_, ?_, ?_, ?_⟩ <;> first | trivial | rfl | exact errAbs_some (by simp [errStrs])
  have h40b : (t0 == [40]) = false := by simpa using h40
  by_cases h91 : t0 = [91]
  · subst h91
    have h91b : (([91] : Bytes) != [91]) = false := by decide
    rcases rest with _ | ⟨t1, rest1⟩
    · refine ⟨?_, ?_, ?_, ?_⟩ <;> first | trivial | rfl | exact errAbs_some (by simp [errStrs])
    rcases hpv1 : ModVerif.Modfile.parseVersion path t1 fx with ⟨t1', (k1 | low)⟩
    · have e1 := pvOut_error hpv1
      have n1 := parseVersionErr_isSome hpv1
      simp only [pviOut, ModVerif.Modfile.parseVersionInterval, h40b, h91b, hpv1, e1, n1, h40, Bool.false_eq_true, if_false,
        not_true_eq_false, not_false_eq_true, if_true]
      refine ⟨?_, ?_, ?_, ?_⟩ <;> first | trivial | rfl | exact parseVersion_errAbs hpv1
    have e1 := pvOut_ok hpv1
    rcases rest1 with _ | ⟨c, rest2⟩
    · simp only [pviOut, ModVerif.Modfile.parseVersionInterval, h40b, h91b, hpv1, e1, h40, Bool.false_eq_true, if_false,
        not_true_eq_false, Option.isNone_none]
      refine ⟨?_, ?_, ?_, ?_⟩ <;> first | trivial | rfl | exact errAbs_some (by simp [errStrs])
    by_cases h44 : c = [44]
    · subst h44
      have h44b : (([44] : Bytes) != [44]) = false := by decide
      rcases rest2 with _ | ⟨t2, rest3⟩
      · simp only [pviOut, ModVerif.Modfile.parseVersionInterval, h40b, h91b, h44b, hpv1, e1, h40, Bool.false_eq_true, if_false,
          not_true_eq_false, Option.isNone_none]
        refine ⟨?_, ?_, ?_, ?_⟩ <;> first | trivial | rfl | exact errAbs_some (by simp [errStrs])
      rcases hpv2 : ModVerif.Modfile.parseVersion path t2 fx with ⟨t2', (k2 | high)⟩
      · have e2 := pvOut_error hpv2
        have n2 := parseVersionErr_isSome hpv2
        simp only [pviOut, ModVerif.Modfile.parseVersionInterval, h40b, h91b, h44b, hpv1, e1, hpv2, e2, n2, h40, Bool.false_eq_true,
          if_false, not_true_eq_false, not_false_eq_true, if_true, Option.isNone_none]
        refine ⟨?_, ?_, ?_, ?_⟩ <;> first | trivial | rfl | exact parseVersion_errAbs hpv2
      have e2 := pvOut_ok hpv2
      rcases rest3 with _ | ⟨rb, rest4⟩
      · simp only [pviOut, ModVerif.Modfile.parseVersionInterval, h40b, h91b, h44b, hpv1, e1, hpv2, e2, h40, Bool.false_eq_true,
          if_false, not_true_eq_false, Option.isNone_none]
        refine ⟨?_, ?_, ?_, ?_⟩ <;> first | trivial | rfl | exact errAbs_some (by simp [errStrs])
      by_cases h93 : rb = [93]
      · subst h93
        have h93b : (([93] : Bytes) != [93]) = false := by decide
        simp only [pviOut, ModVerif.Modfile.parseVersionInterval, h40b, h91b, h44b, h93b, hpv1, e1, hpv2, e2, h40, Bool.false_eq_true,
          if_false, not_true_eq_false, Option.isNone_none]
        refine ⟨?_, ?_, ?_, ?_, ?_, ?_⟩ <;> first | trivial | rfl | omega | simp
      · have h93b : (rb != [93]) = true := by simpa using h93
        simp only [pviOut, ModVerif.Modfile.parseVersionInterval, h40b, h91b, h44b, h93b, h93, hpv1, e1, hpv2, e2, h40,
          Bool.false_eq_true, if_false, not_true_eq_false, not_false_eq_true, if_true, Option.isNone_none]
        refine ⟨?_, ?_, ?_, ?_⟩ <;> first | trivial | rfl | exact errAbs_some (by simp [errStrs])
    · have h44b : (c != [44]) = true := by simpa using h44
      simp only [pviOut, ModVerif.Modfile.parseVersionInterval, h40b, h91b, h44b, h44, hpv1, e1, h40, Bool.false_eq_true, if_false,
        not_true_eq_false, not_false_eq_true, if_true, Option.isNone_none]
      refine ⟨?_, ?_, ?_, ?_⟩ <;> first | trivial | rfl | exact errAbs_some (by simp [errStrs])
  · have h91b : (t0 != [91]) = true := by simpa using h91
    rcases hpv0 : ModVerif.Modfile.parseVersion path t0 fx with ⟨t0', (k0 | v0)⟩
    · have e0 := pvOut_error hpv0
      have n0 := parseVersionErr_isSome hpv0
      simp only [pviOut, ModVerif.Modfile.parseVersionInterval, h40b, h91b, h40, h91, hpv0, e0, n0, Bool.false_eq_true, if_false,
        not_false_eq_true, if_true]
      refine ⟨?_, ?_, ?_, ?_⟩ <;> first | trivial | rfl | exact parseVersion_errAbs hpv0
    · have e0 := pvOut_ok hpv0
      simp only [pviOut, ModVerif.Modfile.parseVersionInterval, h40b, h91b, h40, h91, hpv0, e0, Bool.false_eq_true, if_false,
        not_false_eq_true, if_true, Option.isNone_none]
      refine ⟨?_, ?_, ?_, ?_, ?_, ?_⟩ <;> first | trivial | rfl | omega | simp

theorem pviOut_view {h : Rule.Heap} {r : Rule.TokRef} {pre toks : List Bytes} (v : TokView h r pre toks) (path : Bytes)
    (fx : Option ModVerif.Modfile.Fixer) :
    TokView (setToksH h r.owner (pre ++ (pviOut path toks fx).toks)) { r with lo := r.lo + (pviOut path toks fx).dropped }
      (pre ++ (pviOut path toks fx).toks.take (pviOut path toks fx).dropped.toNat)
      ((pviOut path toks fx).toks.drop (pviOut path toks fx).dropped.toNat) := by
  have hm := pviOut_model path toks fx
  obtain ⟨L, hg, ht, hlo⟩ := v
  refine ⟨_, heapGet_setToksH_same hg _, ?_, ?_⟩
  · simp only [List.append_assoc, List.take_append_drop]
  · show r.lo + (pviOut path toks fx).dropped = _
    unfold PviRel at hm
    obtain ⟨h1, h2⟩ := hm
    rcases hr : (ModVerif.Modfile.parseVersionInterval path toks fx).2 with k | ⟨mvi, rest⟩
    · rw [hr] at h2; simp [h2.2.2, hlo]
    · rw [hr] at h2
      obtain ⟨_, _, h0, hle, _⟩ := h2
      rw [← h1] at hle
      simp only [List.length_append, List.length_take, Nat.min_eq_left hle, hlo]
      omega

end ModVerif.Tie.FnRuleLeafB
