/-
  Where the lines added by a bulk setter land: a closed form for repeated `addLine` with the nil hint and
  a common verb (`AddNewRequire` / `AddUse` from `SetRequire` / `SetUse`), each followed by an update of the new line.
  The first addition selects ONE statement (the last statement with the verb; a new one at the end if there is none) and
  every later addition appends to the block that statement has become (`asBlock`): `addMany_qual`, `addMany_none`.
  `addLine_grown` (Proofs/EditAddLine.lean) gives the shape of the statement that grows for any hint, but neither WHICH
  statement it is nor that the new line comes last in its block; both are what the order of the additions turns on.
-/
import ModVerif.Proofs.EditRefineTree
import ModVerif.Proofs.ModfileWalk
namespace ModVerif.Modfile.Edit
open ModVerif ModVerif.Modfile

/-- the statements the nil-hint search of `addLine` looks for: a live line or any block with the verb -/
def Qual (verb : Bytes) : Expr → Bool
  | .line l => !l.token.isEmpty && headIs l.token verb
  | .lineBlock b => headIs b.token verb
  | _ => false

theorem lastStmtWith_step (verb : Bytes) (x : Expr) (xs : List Expr) (i : Nat) (acc : Option Nat) :
    lastStmtWith verb (x :: xs) i acc = lastStmtWith verb xs (i + 1) (if Qual verb x then some i else acc) := by
  cases x <;> simp only [lastStmtWith, Qual] <;> rfl

theorem lastStmtWith_noqual (verb : Bytes) : ∀ (xs : List Expr) (i : Nat) (acc : Option Nat),
    (∀ x ∈ xs, Qual verb x = false) → lastStmtWith verb xs i acc = acc := by
  intro xs
  induction xs with
  | nil => intro i acc _; rfl
  | cons x xs ih =>
    intro i acc h
    rw [lastStmtWith_step, h x List.mem_cons_self]
    simp only [Bool.false_eq_true, if_false]
    exact ih _ _ (fun y hy => h y (List.mem_cons_of_mem _ hy))

theorem lastStmtWith_split (verb : Bytes) (x : Expr) (post : List Expr) (hq : Qual verb x = true)
    (hpost : ∀ y ∈ post, Qual verb y = false) : ∀ (pre : List Expr) (i : Nat) (acc : Option Nat),
    lastStmtWith verb (pre ++ x :: post) i acc = some (i + pre.length) := by
  intro pre
  induction pre with
  | nil =>
    intro i acc
    simp only [List.nil_append, List.length_nil, Nat.add_zero]
    rw [lastStmtWith_step, hq]
    simp only [if_true]
    exact lastStmtWith_noqual verb post _ _ hpost
  | cons p pre ih =>
    intro i acc
    simp only [List.cons_append, List.length_cons]
    rw [lastStmtWith_step, ih]
    congr 1; omega

theorem qual_cases (verb : Bytes) : ∀ xs : List Expr, (∀ x ∈ xs, Qual verb x = false) ∨
    ∃ pre x post, xs = pre ++ x :: post ∧ Qual verb x = true ∧ ∀ y ∈ post, Qual verb y = false := by
  intro xs
  induction xs with
  | nil => left; intro x hx; cases hx
  | cons y ys ih =>
    rcases ih with h | ⟨pre, x, post, rfl, hq, hp⟩
    · cases hy : Qual verb y with
      | true => right; exact ⟨[], y, ys, rfl, hy, h⟩
      | false =>
        left; intro x hx
        rcases List.mem_cons.1 hx with rfl | hx
        · exact hy
        · exact h x hx
    · right; exact ⟨y :: pre, x, post, rfl, hq, hp⟩

/-- what `addLine` does to the statement the nil-hint search selected -/
def grow (t : List Bytes) (new : Nat) : Expr → Expr
  | .line l => .lineBlock { token := l.token.take 1,
                            lines := [{ l with inBlock := true, token := l.token.drop 1 }, mkLine new (t.drop 1) true] }
  | .lineBlock b => .lineBlock { b with lines := b.lines ++ [mkLine new (t.drop 1) true] }
  | x => x

theorem hint_stmt_ne_line (a b : Nat) : (Hint.stmt a == Hint.line b) = false := by
  simp [BEq.beq]

theorem hint_stmt_beq (a b : Nat) : (Hint.stmt a == Hint.stmt b) = decide (a = b) := by
  by_cases h : a = b
  · subst h; simp
  · simp [h]

theorem addLineWalk_stmt (t : List Bytes) (new : Nat) (x : Expr) (post : List Expr)
    (hq : Qual (t.head?.getD []) x = true) : ∀ (pre : List Expr) (i : Nat),
    addLineWalk (.stmt (i + pre.length)) t new (pre ++ x :: post) i = some (pre ++ grow t new x :: post) := by
  intro pre
  induction pre with
  | nil =>
    intro i
    simp only [List.nil_append, List.length_nil, Nat.add_zero]
    unfold addLineWalk
    cases x with
    | line l =>
      simp only [Qual, Bool.and_eq_true, Bool.not_eq_true'] at hq
      simp [hint_stmt_ne_line, hq.1, hq.2, grow]
    | lineBlock b =>
      simp only [Qual] at hq
      simp [hq, grow]
    | commentBlock c => simp [Qual] at hq
    | lparen c => simp [Qual] at hq
    | rparen c => simp [Qual] at hq
  | cons p pre ih =>
    intro i
    have hne : (Hint.stmt (i + (pre.length + 1)) == Hint.stmt i) = false := by
      rw [hint_stmt_beq]; simp
    have hidx : i + (pre.length + 1) = (i + 1) + pre.length := by omega
    simp only [List.cons_append, List.length_cons]
    unfold addLineWalk
    cases p with
    | line l =>
      simp only [hint_stmt_ne_line, hne, Bool.or_self, Bool.false_eq_true, if_false]
      rw [hidx, ih (i + 1)]; rfl
    | lineBlock b =>
      simp only [hne, Bool.false_eq_true, if_false]
      rw [hidx, ih (i + 1)]; rfl
    | commentBlock c => simp only []; rw [hidx, ih (i + 1)]; rfl
    | lparen c => simp only []; rw [hidx, ih (i + 1)]; rfl
    | rparen c => simp only []; rw [hidx, ih (i + 1)]; rfl

theorem addLine_none_noqual (fs : FileSyntax) (t : List Bytes) (new : Nat)
    (h : ∀ x ∈ fs.stmts, Qual (t.head?.getD []) x = false) :
    (addLine fs none t new).stmts = fs.stmts ++ [.line (mkLine new t false)] := by
  unfold addLine
  simp only [lastStmtWith_noqual _ _ _ _ h]

theorem addLine_none_split (fs : FileSyntax) (t : List Bytes) (new : Nat) (pre : List Expr) (x : Expr) (post : List Expr)
    (hs : fs.stmts = pre ++ x :: post) (hq : Qual (t.head?.getD []) x = true)
    (hp : ∀ y ∈ post, Qual (t.head?.getD []) y = false) :
    (addLine fs none t new).stmts = pre ++ grow t new x :: post := by
  unfold addLine
  simp only [hs, lastStmtWith_split _ x post hq hp pre 0 none, Nat.zero_add]
  have := addLineWalk_stmt t new x post hq pre 0
  simp only [Nat.zero_add] at this
  simp only [this]

theorem updateLineIn_last (id : Nat) (g : Line → Line) (nl : Line) (hn : nl.id = id) : ∀ ls : List Line, id ∉ ls.map (·.id) →
    updateLineIn id g (ls ++ [nl]) = ls ++ [g nl] := by
  intro ls
  induction ls with
  | nil => intro _; simp [updateLineIn, hn]
  | cons l ls ih =>
    intro h
    simp only [List.map_cons, List.mem_cons, not_or] at h
    simp only [List.cons_append]
    unfold updateLineIn
    have : (l.id == id) = false := by simp [Ne.symm h.1]
    simp only [this, Bool.false_eq_true, if_false, ih h.2]

def updStmt (id : Nat) (g : Line → Line) : Expr → Expr
  | .line l => if l.id == id then .line (g l) else .line l
  | .lineBlock b => .lineBlock { b with lines := updateLineIn id g b.lines }
  | x => x

theorem updateLine_stmts_map (fs : FileSyntax) (id : Nat) (g : Line → Line) :
    (fs.updateLine id g).stmts = fs.stmts.map (updStmt id g) := by
  unfold FileSyntax.updateLine
  simp only
  apply List.map_congr_left
  intro x _
  cases x <;> rfl

theorem updStmt_notin (id : Nat) (g : Line → Line) : ∀ xs : List Expr, id ∉ treeIds xs → xs.map (updStmt id g) = xs := by
  intro xs
  induction xs with
  | nil => intro _; rfl
  | cons x xs ih =>
    intro h
    rw [treeIds_cons, List.mem_append, not_or] at h
    simp only [List.map_cons, ih h.2]
    congr 1
    cases x with
    | line l =>
      have : (l.id == id) = false := by
        have := h.1; simp [treeIds, loc, locStmt] at this; simp [Ne.symm this]
      simp [updStmt, this]
    | lineBlock b =>
      have := h.1; rw [treeIds_block] at this
      simp [updStmt, Proofs.ModfileC20.updateLineIn_self id g b.lines fun l hl e => absurd (e ▸ List.mem_map_of_mem hl) this]
    | commentBlock c => rfl
    | lparen c => rfl
    | rparen c => rfl

/-- one addition of a bulk setter: the tokens of the new line, its fresh id, the update then applied to it -/
structure Add where
  toks : List Bytes
  id : Nat
  upd : Line → Line

/-- one step of a bulk setter's additions -/
def addStep (fs : FileSyntax) (p : Add) : FileSyntax :=
  (addLine fs none p.toks p.id).updateLine p.id p.upd

/-- the new line as it stands inside a block -/
def mkG (p : Add) : Line := p.upd (mkLine p.id (p.toks.drop 1) true)

structure GoodG (g : Line → Line) : Prop where
  tok : ∀ l, (g l).token = l.token
  id : ∀ l, (g l).id = l.id
  comm : ∀ (l : Line) (tok : List Bytes), { g l with inBlock := true, token := tok } = g { l with inBlock := true, token := tok }

/-- a statement the nil-hint search selects, as the block `addLine` makes of it (a line becomes a one-line block) -/
def asBlock : Expr → LineBlock
  | .line l => { token := l.token.take 1, lines := [{ l with inBlock := true, token := l.token.drop 1 }] }
  | .lineBlock b => b
  | _ => {}

theorem headIs_take_one {tok : List Bytes} {verb : Bytes} (h : headIs tok verb = true) : headIs (tok.take 1) verb = true := by
  cases tok with
  | nil => simp [headIs] at h
  | cons a as => simpa [headIs] using h

theorem asBlock_head {verb : Bytes} {x : Expr} (hq : Qual verb x = true) : headIs (asBlock x).token verb = true := by
  cases x with
  | line l => simp only [Qual, Bool.and_eq_true] at hq; exact headIs_take_one hq.2
  | lineBlock b => exact hq
  | commentBlock c => simp [Qual] at hq
  | lparen c => simp [Qual] at hq
  | rparen c => simp [Qual] at hq

theorem treeIds_qual {verb : Bytes} {x : Expr} (hq : Qual verb x = true) : treeIds [x] = (asBlock x).lines.map (·.id) := by
  cases x with
  | line l => simp [treeIds, loc, locStmt, asBlock]
  | lineBlock b => exact treeIds_block b
  | commentBlock c => simp [Qual] at hq
  | lparen c => simp [Qual] at hq
  | rparen c => simp [Qual] at hq

theorem mkG_id (p : Add) (hg : GoodG p.upd) : (mkG p).id = p.id := by
  simp [mkG, hg.id, mkLine]

theorem addStep_qual (fs : FileSyntax) (p : Add) (pre post : List Expr) (x : Expr)
    (hs : fs.stmts = pre ++ x :: post) (hq : Qual (p.toks.head?.getD []) x = true)
    (hp : ∀ y ∈ post, Qual (p.toks.head?.getD []) y = false) (hfresh : p.id ∉ treeIds fs.stmts) :
    (addStep fs p).stmts = pre ++ .lineBlock { asBlock x with lines := (asBlock x).lines ++ [mkG p] } :: post := by
  unfold addStep
  rw [updateLine_stmts_map, addLine_none_split fs p.toks p.id pre x post hs hq hp]
  rw [hs, treeIds_append, treeIds_cons, treeIds_qual hq] at hfresh
  simp only [List.mem_append, not_or] at hfresh
  rw [List.map_append, List.map_cons, updStmt_notin _ _ pre hfresh.1, updStmt_notin _ _ post hfresh.2.2]
  have hgrow : grow p.toks p.id x =
      .lineBlock { asBlock x with lines := (asBlock x).lines ++ [mkLine p.id (p.toks.drop 1) true] } := by
    cases x with
    | line l => rfl
    | lineBlock b => rfl
    | commentBlock c => simp [Qual] at hq
    | lparen c => simp [Qual] at hq
    | rparen c => simp [Qual] at hq
  rw [hgrow]
  simp only [updStmt, mkG]
  rw [updateLineIn_last p.id p.upd _ (by simp [mkLine]) _ hfresh.2.1]

theorem addStep_none (fs : FileSyntax) (p : Add)
    (h : ∀ x ∈ fs.stmts, Qual (p.toks.head?.getD []) x = false) (hfresh : p.id ∉ treeIds fs.stmts) :
    (addStep fs p).stmts = fs.stmts ++ [.line (p.upd (mkLine p.id p.toks false))] := by
  unfold addStep
  rw [updateLine_stmts_map, addLine_none_noqual fs p.toks p.id h, List.map_append, updStmt_notin _ _ _ hfresh]
  simp [updStmt, mkLine]

theorem addLine_hdr (fs : FileSyntax) (hint : Option Nat) (t : List Bytes) (new : Nat) :
    (addLine fs hint t new).comments = fs.comments := by
  unfold addLine
  cases hint with
  | some id =>
    dsimp only
    split <;> rfl
  | none =>
    dsimp only
    cases lastStmtWith (t.head?.getD []) fs.stmts 0 none with
    | none => rfl
    | some i =>
      dsimp only
      split <;> rfl

theorem foldl_addStep_hdr (ps : List Add) : ∀ fs : FileSyntax,
    (ps.foldl addStep fs).comments = fs.comments := by
  induction ps with
  | nil => intro fs; rfl
  | cons p ps ih => intro fs; rw [List.foldl_cons, ih]; exact addLine_hdr _ _ _ _

def FreshFor (stmts : List Expr) (ps : List Add) : Prop :=
  (ps.map (·.id)).Nodup ∧ ∀ p ∈ ps, p.id ∉ treeIds stmts

theorem FreshFor.step {stmts stmts' : List Expr} {p : Add}
    {ps : List Add} (hf : FreshFor stmts (p :: ps))
    (hids : ∀ i ∈ treeIds stmts', i ∈ treeIds stmts ∨ i = p.id) : FreshFor stmts' ps := by
  have hnd := hf.1
  simp only [List.map_cons, List.nodup_cons] at hnd
  refine ⟨hnd.2, fun q hq hm => ?_⟩
  rcases hids _ hm with h | h
  · exact hf.2 q (List.mem_cons_of_mem _ hq) h
  · exact hnd.1 (by rw [← h]; exact List.mem_map.2 ⟨q, hq, rfl⟩)

theorem addMany_qual (verb : Bytes) (pre post : List Expr) (hp : ∀ y ∈ post, Qual verb y = false) :
    ∀ (ps : List Add) (p : Add) (fs : FileSyntax) (x : Expr),
    fs.stmts = pre ++ x :: post → Qual verb x = true → (∀ q ∈ p :: ps, q.toks.head?.getD [] = verb) →
    (∀ q ∈ p :: ps, GoodG q.upd) → FreshFor fs.stmts (p :: ps) →
    ((p :: ps).foldl addStep fs).stmts =
      pre ++ .lineBlock { asBlock x with lines := (asBlock x).lines ++ (p :: ps).map mkG } :: post := by
  intro ps
  induction ps with
  | nil =>
    intro p fs x hs hq hv _ hf
    have hvp := hv p List.mem_cons_self
    exact addStep_qual fs p pre post x hs (by rw [hvp]; exact hq) (by rw [hvp]; exact hp) (hf.2 p List.mem_cons_self)
  | cons p2 ps ih =>
    intro p fs x hs hq hv hg hf
    have hvp := hv p List.mem_cons_self
    have h1 := addStep_qual fs p pre post x hs (by rw [hvp]; exact hq) (by rw [hvp]; exact hp) (hf.2 p List.mem_cons_self)
    have hf' : FreshFor (addStep fs p).stmts (p2 :: ps) := by
      refine hf.step fun i hi => ?_
      rw [h1, treeIds_append, treeIds_cons, treeIds_block] at hi
      rw [hs, treeIds_append, treeIds_cons, treeIds_qual hq]
      simp only [List.mem_append, List.map_append, List.map_cons, List.map_nil, List.mem_singleton,
        mkG_id p (hg p List.mem_cons_self)] at hi ⊢
      rcases hi with h | (h | h) | h
      · exact .inl (.inl h)
      · exact .inl (.inr (.inl h))
      · exact .inr h
      · exact .inl (.inr (.inr h))
    rw [List.foldl_cons, ih p2 (addStep fs p) _ h1 (asBlock_head hq) (fun q hq' => hv q (List.mem_cons_of_mem _ hq'))
      (fun q hq' => hg q (List.mem_cons_of_mem _ hq')) hf']
    simp [asBlock]

theorem addMany_none (verb : Bytes) (p1 p2 : Add) (ps : List Add)
    (fs : FileSyntax) (h : ∀ x ∈ fs.stmts, Qual verb x = false) (hv : ∀ q ∈ p1 :: p2 :: ps, q.toks.head?.getD [] = verb)
    (hne : ∀ q ∈ p1 :: p2 :: ps, q.toks ≠ []) (hg : ∀ q ∈ p1 :: p2 :: ps, GoodG q.upd) (hf : FreshFor fs.stmts (p1 :: p2 :: ps)) :
    ((p1 :: p2 :: ps).foldl addStep fs).stmts =
      fs.stmts ++ [.lineBlock { token := p1.toks.take 1, lines := (p1 :: p2 :: ps).map mkG }] := by
  have hv1 := hv p1 List.mem_cons_self
  have hg1 := hg p1 List.mem_cons_self
  have h1 := addStep_none fs p1 (by rw [hv1]; exact h) (hf.2 p1 List.mem_cons_self)
  have hq : Qual verb (.line (p1.upd (mkLine p1.id p1.toks false))) = true := by
    have hne1 := hne p1 List.mem_cons_self
    simp only [Qual, hg1.tok, mkLine, Bool.and_eq_true, Bool.not_eq_true', List.isEmpty_eq_false_iff]
    refine ⟨hne1, ?_⟩
    cases ht : p1.toks with
    | nil => exact absurd ht hne1
    | cons a as => rw [ht] at hv1; simpa [headIs] using hv1
  have hf' : FreshFor (addStep fs p1).stmts (p2 :: ps) := by
    refine hf.step fun i hi => ?_
    rw [h1, treeIds_append] at hi
    simpa [treeIds, loc, locStmt, hg1.id, mkLine] using hi
  rw [List.foldl_cons, addMany_qual verb fs.stmts [] (fun y hy => nomatch hy) ps p2 (addStep fs p1) _ (by rw [h1]) hq
    (fun q hq' => hv q (List.mem_cons_of_mem _ hq')) (fun q hq' => hg q (List.mem_cons_of_mem _ hq')) hf']
  simp only [asBlock, hg1.tok, mkLine, List.map_cons, mkG, List.cons_append, List.nil_append]
  rw [hg1.comm]

end ModVerif.Modfile.Edit
