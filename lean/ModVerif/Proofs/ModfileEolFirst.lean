/-
  C02, end-of-line comments, stage (vi): the shape of the tree the FIRST parse delivers.

  `parse name x = .ok t` ⇒ `t` is the plain statement list of `parseFile` (well-shaped, `WFStmts`) with
  end-of-line comments filled into `suffix` lists by `assignComments`; every such comment is a `//` text
  recorded by the lexer and flagged as suffix.  Together with the hypothesis `EolOK t` (at most one per node,
  none on a comment block, none left over for the file header) this gives `EWFStmts t.stmts`.
-/
import ModVerif.Proofs.ModfileEolIdem
import ModVerif.Proofs.ModfileFmtEmits
import ModVerif.Proofs.ModfileC20Tree
namespace ModVerif.Proofs.ModfileEol
open ModVerif ModVerif.Modfile ModVerif.Proofs.ModfileLex
open ModVerif.Proofs.ModfileFmtLex ModVerif.Proofs.ModfileFmtLine ModVerif.Proofs.ModfileFmtStream
open ModVerif.Proofs.ModfileFmtTree ModVerif.Proofs.ModfileFmtParse ModVerif.Proofs.ModfileFmtRender
open ModVerif.Proofs.ModfileFmtMain ModVerif.Proofs.ModfileFmtTrim ModVerif.Proofs.ModfilePos

theorem readToken_comments_rec (j i : Input) (h : readToken j = .ok i) :
    i.commentsRev.reverse = j.commentsRev.reverse ++ recOf i.token := by
  obtain ⟨ws, i0, _, hadv, hem⟩ := readToken_emits j i h
  cases hem with
  | eof hk _ _ _ _ hcm => simp [recOf, hk, hcm, hadv.comments]
  | comment _ _ _ _ hcm _ =>
    rw [hcm, hadv.comments]
    unfold recOf
    split <;> simp
  | newline hk _ _ _ hcm => simp [recOf, hk, hcm, hadv.comments]
  | tok t hk _ _ _ hcm _ _ =>
    have : i.token.kind ≠ .eolComment := by intro he; rw [he] at hk; cases hk
    simp [recOf, this, hcm, hadv.comments]

def RecOK (c : Comment) : Prop := CommentOK c.token ∧ c.suffix = true

theorem readToken_recOK (j i : Input) (h : readToken j = .ok i) (hj : ∀ c ∈ j.commentsRev, RecOK c) :
    ∀ c ∈ i.commentsRev, RecOK c :=
  ModfileFmtClass.readToken_recorded (fun _ h1 h2 => ⟨h1, h2⟩) j i h hj

theorem reach_recOK {data : Bytes} {i : Input} (h : Reach data i) : ∀ c ∈ i.commentsRev, RecOK c := by
  induction h with
  | start h => exact readToken_recOK _ _ h (by intro c hc; simp [newInput] at hc)
  | lex _ h ih => exact readToken_recOK _ _ h ih
  | setId n _ ih => exact ih

def clrCs (c : Comments) : Comments := { c with suffix := [] }
def clrL (l : Line) : Line := { l with comments := clrCs l.comments }

def clrE : Expr → Expr
  | .commentBlock x => .commentBlock { x with comments := clrCs x.comments }
  | .line l => .line (clrL l)
  | .lineBlock b => .lineBlock { b with comments := clrCs b.comments,
                                        lparen := { b.lparen with comments := clrCs b.lparen.comments },
                                        lines := b.lines.map clrL,
                                        rparen := { b.rparen with comments := clrCs b.rparen.comments } }
  | .lparen x => .lparen { x with comments := clrCs x.comments }
  | .rparen x => .rparen { x with comments := clrCs x.comments }

theorem assignSuffix_clr (span : Position × Position) (cs : Comments) (suf : List Comment) :
    clrCs (assignSuffix span cs suf).1 = clrCs cs := by
  unfold assignSuffix
  split
  · rfl
  · rfl

theorem postLinesRev_clr : ∀ (ls : List Line) (suf : List Comment), (postLinesRev ls suf).1.map clrL = ls.map clrL := by
  intro ls
  induction ls with
  | nil => intro _; rfl
  | cons l ls ih =>
    intro suf
    simp only [postLinesRev, List.map_cons, ih]
    congr 1
    simp only [clrL, assignSuffix_clr]

theorem postStmt_clr (s : Expr) (suf : List Comment) : clrE (postStmt s suf).1 = clrE s := by
  cases s with
  | lineBlock b =>
    simp only [postStmt, clrE, assignSuffix_clr, List.map_reverse, postLinesRev_clr, List.reverse_reverse]
  | commentBlock x => simp only [postStmt, Expr.setComments, Expr.comments, clrE, assignSuffix_clr]
  | line x => simp only [postStmt, Expr.setComments, Expr.comments, clrE, clrL, assignSuffix_clr]
  | lparen x => simp only [postStmt, Expr.setComments, Expr.comments, clrE, assignSuffix_clr]
  | rparen x => simp only [postStmt, Expr.setComments, Expr.comments, clrE, assignSuffix_clr]

theorem postStmtsRev_clr : ∀ (ss : List Expr) (suf : List Comment), (postStmtsRev ss suf).1.map clrE = ss.map clrE := by
  intro ss
  induction ss with
  | nil => intro _; rfl
  | cons s ss ih =>
    intro suf
    simp only [postStmtsRev, List.map_cons, ih, postStmt_clr]

def sufAll (Q : Comment → Prop) : Expr → Prop
  | .commentBlock x => ∀ c ∈ x.comments.suffix, Q c
  | .line l => ∀ c ∈ l.comments.suffix, Q c
  | .lineBlock b => (∀ c ∈ b.comments.suffix, Q c) ∧ (∀ c ∈ b.lparen.comments.suffix, Q c) ∧
      (∀ l ∈ b.lines, ∀ c ∈ l.comments.suffix, Q c) ∧ (∀ c ∈ b.rparen.comments.suffix, Q c)
  | .lparen x => ∀ c ∈ x.comments.suffix, Q c
  | .rparen x => ∀ c ∈ x.comments.suffix, Q c

theorem assignSuffix_all {Q : Comment → Prop} (span : Position × Position) (cs : Comments) (suf : List Comment)
    (hs : cs.suffix = []) (hq : ∀ c ∈ suf, Q c) :
    (∀ c ∈ (assignSuffix span cs suf).1.suffix, Q c) ∧ (∀ c ∈ (assignSuffix span cs suf).2, Q c) := by
  unfold assignSuffix
  split
  · simp only [hs, List.reverse_nil]
    exact ⟨(by intro c hc; cases hc), hq⟩
  · have hm := ModfileC20.takeSuffix_mem span.2 suf []
    simp only [hs, List.nil_append, List.reverse_reverse]
    refine ⟨fun c hc => ?_, fun c hc => hq c ((hm c).2 hc)⟩
    rcases (hm c).1 hc with h | h
    · cases h
    · exact hq c h

theorem postLinesRev_all {Q : Comment → Prop} : ∀ (ls : List Line) (suf : List Comment),
    (∀ l ∈ ls, l.comments.suffix = []) → (∀ c ∈ suf, Q c) →
    (∀ l ∈ (postLinesRev ls suf).1, ∀ c ∈ l.comments.suffix, Q c) ∧ (∀ c ∈ (postLinesRev ls suf).2, Q c) := by
  intro ls
  induction ls with
  | nil => intro suf _ hq; exact ⟨(by intro l hl; cases hl), hq⟩
  | cons l ls ih =>
    intro suf hs hq
    obtain ⟨h1, h2⟩ := assignSuffix_all (Q := Q) (l.start, l.«end») l.comments suf (hs l (by simp)) hq
    obtain ⟨h3, h4⟩ := ih (assignSuffix (l.start, l.«end») l.comments suf).2 (fun l' h => hs l' (by simp [h])) h2
    simp only [postLinesRev]
    refine ⟨?_, h4⟩
    intro l' hl'
    rcases List.mem_cons.1 hl' with rfl | hl'
    · exact h1
    · exact h3 l' hl'

theorem postStmt_all {Q : Comment → Prop} (s : Expr) (suf : List Comment) (hs : NoSuf s) (hq : ∀ c ∈ suf, Q c) :
    sufAll Q (postStmt s suf).1 ∧ (∀ c ∈ (postStmt s suf).2, Q c) := by
  cases s with
  | lineBlock b =>
    obtain ⟨hb1, hb2, hb3, hb4⟩ := hs
    obtain ⟨h1, h2⟩ := assignSuffix_all (Q := Q) (Expr.lineBlock b).span b.comments suf hb1 hq
    obtain ⟨h3, h4⟩ := assignSuffix_all (Q := Q) (Expr.rparen b.rparen).span b.rparen.comments _ hb4 h2
    obtain ⟨h5, h6⟩ := postLinesRev_all (Q := Q) b.lines.reverse _ (fun l hl => hb3 l (by simpa using hl)) h4
    obtain ⟨h7, h8⟩ := assignSuffix_all (Q := Q) (Expr.lparen b.lparen).span b.lparen.comments _ hb2 h6
    simp only [postStmt]
    exact ⟨⟨h1, h7, fun l hl => h5 l (by simpa using hl), h3⟩, h8⟩
  | commentBlock x =>
    obtain ⟨h1, h2⟩ := assignSuffix_all (Q := Q) (Expr.commentBlock x).span x.comments suf hs hq
    exact ⟨h1, h2⟩
  | line x =>
    obtain ⟨h1, h2⟩ := assignSuffix_all (Q := Q) (Expr.line x).span x.comments suf hs hq
    exact ⟨h1, h2⟩
  | lparen x =>
    obtain ⟨h1, h2⟩ := assignSuffix_all (Q := Q) (Expr.lparen x).span x.comments suf hs hq
    exact ⟨h1, h2⟩
  | rparen x =>
    obtain ⟨h1, h2⟩ := assignSuffix_all (Q := Q) (Expr.rparen x).span x.comments suf hs hq
    exact ⟨h1, h2⟩

theorem postStmtsRev_all {Q : Comment → Prop} : ∀ (ss : List Expr) (suf : List Comment),
    (∀ s ∈ ss, NoSuf s) → (∀ c ∈ suf, Q c) →
    (∀ s ∈ (postStmtsRev ss suf).1, sufAll Q s) ∧ (∀ c ∈ (postStmtsRev ss suf).2, Q c) := by
  intro ss
  induction ss with
  | nil => intro suf _ hq; exact ⟨(by intro s hs; cases hs), hq⟩
  | cons s ss ih =>
    intro suf hs hq
    obtain ⟨h1, h2⟩ := postStmt_all (Q := Q) s suf (hs s (by simp)) hq
    obtain ⟨h3, h4⟩ := ih (postStmt s suf).2 (fun s' h => hs s' (by simp [h])) h2
    simp only [postStmtsRev]
    refine ⟨?_, h4⟩
    intro s' hs'
    rcases List.mem_cons.1 hs' with rfl | hs'
    · exact h1
    · exact h3 s' hs'

def EolLine (l : Line) : Prop := l.comments.suffix.length ≤ 1 ∧ NlLine l

/-- the per-statement part of `EolOK` -/
def EolStmt : Expr → Prop
  | .commentBlock x => x.comments.suffix = []
  | .line l => EolLine l
  | .lineBlock b => b.lparen.comments.suffix.length ≤ 1 ∧ (∀ l ∈ b.lines, EolLine l) ∧
      (b.rparen.comments.suffix ++ b.comments.suffix).length ≤ 1
  | _ => True

/-- ★ The hypothesis of the end-of-line-comment theorems, a decidable condition on the parsed tree: no node
    carries more than one end-of-line comment (a block and its `)` share one slot), a comment block carries
    none, none is left over for the file header, and a line that carries one has no newline byte inside its
    tokens.  Every clause can fail only if some string token contains an escaped newline
    (`"…\⏎…"`): such a line spans two source lines, `assignComments` skips it, and its comment moves to an
    earlier node, to a comment block, or to the file header. -/
structure EolOK (t : FileSyntax) : Prop where
  header : t.comments.before = []
  stmts : ∀ s ∈ t.stmts, EolStmt s

theorem ewfBlkLines_of : ∀ (ls : List Line) (allow : Bool), WFBlkLines allow (ls.map clrL) →
    (∀ l ∈ ls, SufOK l.comments.suffix) → EWFBlkLines allow ls := by
  intro ls
  induction ls with
  | nil => intro _ _ _; trivial
  | cons l ls ih =>
    intro allow h hs
    obtain ⟨hl, hls⟩ := h
    exact ⟨⟨hl.ne, hl.tok, hl.first, hl.before, hs l (by simp), hl.after, hl.inBlock⟩,
      ih true hls (fun l' h' => hs l' (by simp [h']))⟩

theorem ewfStmt_of (s : Expr) (hwf : WFStmt (clrE s)) (hall : sufAll RecOK s) (hok : EolStmt s) : EWFStmt s := by
  cases s with
  | commentBlock x =>
    obtain ⟨h1, h2, _, h4⟩ := hwf
    exact ⟨h1, h2, hok, h4⟩
  | line l =>
    have hwf : WFLine (clrL l) := hwf
    exact (⟨hwf.ne, hwf.tok, hwf.tail, hwf.before, ⟨hok.1, hall⟩, hwf.after, hwf.inBlock⟩ : EWFLine l)
  | lineBlock b =>
    have hwf : WFBlock _ := hwf
    obtain ⟨ha1, ha2, ha3, ha4⟩ := hall
    obtain ⟨hk1, hk2, hk3⟩ := hok
    have hlp := hwf.lparen
    simp only [clrCs] at hlp
    have hlb : b.lparen.comments.before = [] := by
      have := congrArg Comments.before hlp; simpa using this
    have hla : b.lparen.comments.after = [] := by
      have := congrArg Comments.after hlp; simpa using this
    refine (⟨hwf.ne, hwf.tok, hwf.before, hwf.after, hlb, ⟨hk1, ha2⟩, hla,
      ewfBlkLines_of _ _ hwf.lines (fun l hl => ⟨(hk2 l hl).1, ha3 l hl⟩), ?_, ⟨hk3, ?_⟩, hwf.rafter⟩ : EWFBlock b)
    · have := hwf.rbefore
      simpa [clrCs] using this
    · intro c hc
      rcases List.mem_append.1 hc with h | h
      · exact ha4 c h
      · exact ha1 c h
  | lparen x => exact absurd hwf id
  | rparen x => exact absurd hwf id

theorem clrE_of_noSuf {s : Expr} (h : WFStmt s) : clrE s = s := by
  cases s with
  | commentBlock x =>
    obtain ⟨_, _, h3, _⟩ := h
    cases x with
    | mk cs st =>
      cases cs
      simp only at h3
      subst h3
      rfl
  | line l =>
    have h : WFLine l := h
    have := h.suffix
    cases l with
    | mk id cs st tk ib en =>
      cases cs
      simp only at this
      subst this
      rfl
  | lineBlock b =>
    have h : WFBlock b := h
    have hl : b.lines.map clrL = b.lines := by
      have : ∀ (ls : List Line) (allow : Bool), WFBlkLines allow ls → ls.map clrL = ls := by
        intro ls
        induction ls with
        | nil => intro _ _; rfl
        | cons l ls ih =>
          intro allow hw
          have := hw.1.suffix
          simp only [List.map_cons, ih true hw.2]
          congr 1
          cases l with
          | mk id cs st tk ib en =>
            cases cs
            simp only at this
            subst this
            rfl
      exact this _ _ h.lines
    have h1 := h.suffix
    have h2 := h.lparen
    have h3 := h.rsuffix
    cases b with
    | mk cs st lp tk ls rp =>
      cases cs; cases lp with
      | mk lc lpos =>
        cases rp with
        | mk rc rpos =>
          cases rc
          simp only at h1 h2 h3 hl
          subst h1 h2 h3
          simp only [clrE, clrCs, hl]
  | lparen x => exact absurd h id
  | rparen x => exact absurd h id

theorem parse_shape {name x : Bytes} {t : FileSyntax} (h : parse name x = .ok t) :
    WFStmts (t.stmts.map clrE) ∧ (∀ s ∈ t.stmts, sufAll RecOK s) ∧ t.name = name ∧
      t.comments.suffix = [] ∧ t.comments.after = [] := by
  unfold parse at h
  cases hp : parseFile x with
  | error e => simp [hp, bind, Except.bind] at h
  | ok v =>
    obtain ⟨stmts, i⟩ := v
    simp only [hp, bind, Except.bind, Except.ok.injEq] at h
    obtain ⟨hwf, hsfx⟩ := ModfileFmtEmits.parseFile_wf' x stmts i hp
    have hreach : Reach x i := (ModfileC20.parseFile_ok hp).1
    have hrec := reach_recOK hreach
    -- all recorded comments are end-of-line comments
    have hfl : (i.commentsRev.reverse.filter (fun c => !c.suffix)) = [] := by
      rw [List.filter_eq_nil_iff]
      intro c hc
      simp [hsfx c (by simpa using hc)]
    have hfs : (i.commentsRev.reverse.filter (fun c => c.suffix)) = i.commentsRev.reverse := by
      rw [List.filter_eq_self]
      intro c hc
      exact hsfx c (by simpa using hc)
    unfold assignComments at h
    simp only [hfl, hfs, assignBefore_nil, preStmts_nil] at h
    subst h
    dsimp only
    have hno : ∀ s ∈ stmts.reverse, NoSuf s := fun s hs => wf_noSuf (hwf s (by simpa using hs))
    obtain ⟨hall, _⟩ := postStmtsRev_all (Q := RecOK) stmts.reverse i.commentsRev.reverse.reverse hno
      (by intro c hc; exact hrec c (by simpa using hc))
    refine ⟨?_, ?_, rfl, rfl, rfl⟩
    · rw [List.map_reverse, postStmtsRev_clr, List.map_reverse, List.reverse_reverse]
      intro s hs
      obtain ⟨s0, hs0, rfl⟩ := List.mem_map.1 hs
      rw [clrE_of_noSuf (hwf s0 hs0)]
      exact hwf s0 hs0
    · intro s hs
      exact hall s (by simpa using hs)

theorem parse_ewf {name x : Bytes} {t : FileSyntax} (h : parse name x = .ok t) (hok : EolOK t) :
    EWFStmts t.stmts ∧ (∀ s ∈ t.stmts, NlOK s) ∧ t.comments = {} ∧ t.name = name := by
  obtain ⟨hwf, hall, hn, hs, ha⟩ := parse_shape h
  refine ⟨?_, ?_, ?_, hn⟩
  · intro s hs'
    exact ewfStmt_of s (hwf _ (List.mem_map_of_mem hs')) (hall s hs') (hok.stmts s hs')
  · intro s hs'
    have := hok.stmts s hs'
    cases s with
    | commentBlock x => trivial
    | line l => exact this.2
    | lineBlock b => exact fun l hl => (this.2.1 l hl).2
    | lparen x => trivial
    | rparen x => trivial
  · have hb := hok.header
    cases hc : t.comments
    rw [hc] at hb hs ha
    simp only at hb hs ha
    subst hb hs ha
    rfl

end ModVerif.Proofs.ModfileEol
