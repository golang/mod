/-
  The bulk setters SetRequire / SetRequireSeparateIndirect on the typed lists: with a
  requested list of pairwise distinct, non-empty paths the live requirements afterwards are exactly the requested
  ones (as a multiset), for EVERY map-iteration order `perm`.
-/
import ModVerif.Proofs.EditRefineOps
namespace ModVerif.Modfile.Edit
open ModVerif ModVerif.Modfile ModVerif.EditSpec

def Want.toReq (w : Want) : Req := ⟨w.path, w.vers, w.indirect⟩

def GoodWant (ws : List Want) : Prop := ws.Pairwise (fun a b => a.path ≠ b.path) ∧ ∀ w ∈ ws, w.path ≠ []

theorem GoodWant.sublist {l1 l2 : List Want} (hs : l1.Sublist l2) (h : GoodWant l2) : GoodWant l1 :=
  ⟨h.1.sublist hs, fun w hw => h.2 w (hs.subset hw)⟩

theorem needMap_distinct (strict : Bool) (ws : List Want) : ∀ acc : List Want,
    (acc ++ ws).Pairwise (fun a b => a.path ≠ b.path) → needMap strict ws acc = .ok (acc ++ ws) := by
  induction ws with
  | nil => intro acc _; simp [needMap]
  | cons w ws ih =>
    intro acc h
    have hnone : acc.find? (fun a => a.path == w.path) = none := by
      apply List.find?_eq_none.2
      intro a ha hb
      have := (List.pairwise_append.1 h).2.2 a ha w List.mem_cons_self
      exact this (eq_of_beq hb)
    unfold needMap
    simp only [hnone]
    have : acc ++ w :: ws = (acc ++ [w]) ++ ws := by simp
    rw [this] at h ⊢
    exact ih _ h

theorem cons_filter_perm {α : Type} (key : α → Bytes) (l : List α) (w : α) (hw : w ∈ l)
    (hd : l.Pairwise (fun a b => key a ≠ key b)) : (w :: l.filter (fun a => key a != key w)).Perm l := by
  induction l with
  | nil => cases hw
  | cons x xs ih =>
    rcases List.pairwise_cons.1 hd with ⟨h1, h2⟩
    rcases List.mem_cons.1 hw with rfl | hw'
    · have : xs.filter (fun a => key a != key w) = xs :=
        List.filter_eq_self.2 fun a ha => by simp [bne, Ne.symm (h1 a ha)]
      simp [List.filter, this]
    · have hne : (key x != key w) = true := by simp [bne, h1 w hw']
      simp only [List.filter, hne]
      exact (List.Perm.swap x w _).trans ((ih hw' h2).cons x)

theorem filter_nonempty_self (l : List Want) (h : ∀ w ∈ l, w.path ≠ []) : l.filter (fun a => !a.path.isEmpty) = l := by
  apply List.filter_eq_self.2
  intro a ha
  exact ne_nil_live (h a ha)

theorem map_eq_ok {α β : Type} {x : Except EditErr α} {g : α → β} {b : β} : x.map g = .ok b ↔ ∃ a, x = .ok a ∧ g a = b := by
  cases x <;> simp [Except.map]

theorem setRequireLoop_step (r : Require) (rs : List Require) (need : List Want) (syn : FileSyntax) :
    setRequireLoop (r :: rs) need syn =
      if r.lineId = 0 then .error .nilDeref else
      match need.find? (·.path == r.mod.path) with
      | some w =>
        (setRequireLoop rs (need.filter (·.path != r.mod.path))
          (syn.updateLine r.lineId fun l => setIndirectLine w.indirect (setVersionLine w.vers l))).map fun t =>
            ({ r with mod := { r.mod with version := w.vers }, indirect := w.indirect } :: t.1, t.2)
      | none =>
        (setRequireLoop rs (need.filter (!·.path.isEmpty)) (markRemoved syn r.lineId)).map fun t =>
          (clearedRequire :: t.1, t.2) := by
  conv => lhs; unfold setRequireLoop
  by_cases h0 : r.lineId = 0
  · cases need.find? (·.path == r.mod.path) <;> simp [h0, deref, nilId, bind, Except.bind]
  · rw [if_neg h0]
    cases need.find? (·.path == r.mod.path) <;> simp only [deref_ok h0, bind, Except.bind] <;>
      cases setRequireLoop rs _ _ <;> rfl

theorem setRequireLoop_abs (rs : List Require) : ∀ (need : List Want) (syn : FileSyntax) (rs' : List Require)
    (need' : List Want) (syn' : FileSyntax), GoodWant need → setRequireLoop rs need syn = .ok (rs', need', syn') →
    (liveAbs liveRq aRq rs' ++ need'.map Want.toReq).Perm (need.map Want.toReq) ∧ need'.Sublist need := by
  induction rs with
  | nil =>
    intro need syn rs' need' syn' _ h
    simp only [setRequireLoop, Except.ok.injEq, Prod.mk.injEq] at h
    rcases h with ⟨rfl, rfl, _⟩
    exact ⟨by simp [liveAbs], List.Sublist.refl _⟩
  | cons r rs ih =>
    intro need syn rs' need' syn' hg h
    rw [setRequireLoop_step] at h
    split at h
    · cases h
    cases hf : need.find? (fun a => a.path == r.mod.path) with
    | some w =>
      simp only [hf] at h
      obtain ⟨⟨rs'', need'', syn''⟩, hr, ⟨⟩⟩ := map_eq_ok.1 h
      have hwmem := List.mem_of_find?_eq_some hf
      have hwp : w.path = r.mod.path := by simpa using List.find?_some hf
      have hsub : (need.filter (fun a => a.path != r.mod.path)).Sublist need := List.filter_sublist
      rcases ih _ _ _ _ _ (hg.sublist hsub) hr with ⟨h1, h2⟩
      refine ⟨?_, h2.trans hsub⟩
      have hlive : liveRq { r with mod := { r.mod with version := w.vers }, indirect := w.indirect } = true := by
        simp only [liveRq]; rw [← hwp]; exact ne_nil_live (hg.2 w hwmem)
      have ha : aRq { r with mod := { r.mod with version := w.vers }, indirect := w.indirect } = w.toReq := by
        simp only [aRq, Want.toReq, hwp]
      rw [liveAbs_cons, if_pos hlive, ha, List.cons_append]
      refine (h1.cons _).trans ?_
      rw [← hwp]
      exact ((cons_filter_perm Want.path need w hwmem hg.1).map Want.toReq)
    | none =>
      simp only [hf, filter_nonempty_self need hg.2] at h
      obtain ⟨⟨rs'', need'', syn''⟩, hr, ⟨⟩⟩ := map_eq_ok.1 h
      rcases ih _ _ _ _ _ hg hr with ⟨h1, h2⟩
      exact ⟨by rw [liveAbs_cons]; simpa [liveRq, clearedRequire] using h1, h2⟩

theorem bulk_abs {e : EFile} {req : List Want} {rq : List Require} (syn : FileSyntax) {next : Nat} (add : EFile → Want → EFile)
    (hadd : ∀ e w, w.path ≠ [] → TInv e →
      absLive (add e w).f = { absLive e.f with require := (absLive e.f).require ++ [w.toReq] } ∧ TInv (add e w))
    (ws : List Want) (hws : ∀ w ∈ ws, w.path ≠ []) (hi : TInv e) (hn : e.next ≤ next)
    (hp : (liveAbs liveRq aRq rq ++ ws.map Want.toReq).Perm (req.map Want.toReq)) {e' : EFile}
    (he : e' = sortBlocks (ws.foldl add ⟨{ e.f with require := rq, syn := syn }, next⟩)) :
    (absLive e'.f).require.Perm (req.map Want.toReq) ∧
    absLive e'.f = EditSpec.removeDups { absLive e.f with require := (absLive e'.f).require } ∧ TInv e' := by
  have hfold : ∀ (ws : List Want) (e0 : EFile), (∀ w ∈ ws, w.path ≠ []) → TInv e0 →
      absLive (ws.foldl add e0).f = { absLive e0.f with require := (absLive e0.f).require ++ ws.map Want.toReq } ∧
      TInv (ws.foldl add e0) := by
    intro ws
    induction ws with
    | nil => intro e0 _ h0; exact ⟨by simp, h0⟩
    | cons w ws ih =>
      intro e0 hne h0
      obtain ⟨h1, h2⟩ := hadd e0 w (hne w List.mem_cons_self) h0
      obtain ⟨h3, h4⟩ := ih (add e0 w) (fun x hx => hne x (List.mem_cons_of_mem _ hx)) h2
      exact ⟨by rw [List.foldl_cons, h3, h1]; simp, h4⟩
  obtain ⟨h3, h4⟩ := hfold ws _ hws (hi.of_same (e' := ⟨{ e.f with require := rq, syn := syn }, next⟩) rfl rfl rfl hn)
  obtain ⟨h5, h6⟩ := sortBlocks_abs _ h4
  subst he
  have hreq : (absLive (sortBlocks (ws.foldl add ⟨{ e.f with require := rq, syn := syn }, next⟩)).f).require
      = liveAbs liveRq aRq rq ++ ws.map Want.toReq := by
    rw [h5, h3]; rfl
  exact ⟨by rw [hreq]; exact hp, by rw [hreq, h5, h3]; rfl, h6⟩

theorem setRequire_ok {e e' : EFile} {req : List Want} {perm : List Want → List Want} (hg : GoodWant req)
    (h : setRequire e req perm = .ok e') :
    ∃ rq need' syn', setRequireLoop e.f.require req e.f.syn = .ok (rq, need', syn') ∧
      e' = sortBlocks ((perm need').foldl (fun e w => addNewRequire e w.path w.vers w.indirect)
        ⟨{ e.f with require := rq, syn := syn' }, e.next⟩) := by
  unfold setRequire at h
  rw [needMap_distinct true req [] (by simpa using hg.1)] at h
  obtain ⟨_, ⟨⟩, h⟩ := bind_eq_ok.1 h
  obtain ⟨⟨rq, need', syn'⟩, hr, h⟩ := bind_eq_ok.1 h
  exact ⟨rq, need', syn', hr, by cases h; rfl⟩

/-- **SetRequire on the typed lists**: the live requirements are exactly the requested ones; everything else is
    what SortBlocks' de-duplication makes of it. -/
theorem setRequire_abs (e e' : EFile) (req : List Want) (perm : List Want → List Want)
    (hperm : ∀ l, (perm l).Perm l) (hg : GoodWant req) (hi : TInv e) (h : setRequire e req perm = .ok e') :
    (absLive e'.f).require.Perm (req.map Want.toReq) ∧
    absLive e'.f = EditSpec.removeDups { absLive e.f with require := (absLive e'.f).require } ∧ TInv e' := by
  obtain ⟨rq, need', syn', hr, he⟩ := setRequire_ok hg h
  obtain ⟨h1, h2⟩ := setRequireLoop_abs _ _ _ _ _ _ hg hr
  exact bulk_abs syn' _ (fun e w hw ht => ⟨addNewRequire_abs e _ _ _ hw, addNewRequire_tinv e _ _ _ ht⟩) (perm need')
    (fun w hw => hg.2 w (h2.subset ((hperm need').subset hw))) hi (Nat.le_refl _)
    ((List.Perm.append_left _ ((hperm need').map _)).trans h1) he

/-- the part of SetRequireSeparateIndirect after the two blocks have been located / created -/
def sepTail (e : EFile) (req : List Want) (perm : List Want → List Want) (ctx : SepCtx) (stmts : List Expr) : Except EditErr EFile := do
  let need ← needMap false req []
  let (rq, have_, syn, next) ← sepLoop ctx need e.f.require [] { e.f.syn with stmts := stmts } e.next
  let e : EFile := { f := { e.f with require := rq, syn := syn }, next := next }
  let missing := (perm need).filter fun w => !have_.contains w.path
  let e := missing.foldl (addSepNew ctx) e
  pure (sortBlocks e)

theorem ensureBlock_err {stmts : List Expr} {i : Nat} {err : EditErr} (h : ensureBlock stmts i = .error err) :
    err = .badStatement := by
  unfold ensureBlock at h
  split at h <;> first | (cases h; done) | (cases h; rfl)

theorem Q_bind {α : Type} (Q : Except EditErr EFile → Prop)
    (x : Except EditErr α) (f : α → Except EditErr EFile) (hx : ∀ err, x = .error err → Q (.error err))
    (h : ∀ a, Q (f a)) : Q (x >>= f) := by
  cases x with
  | error err => exact hx err rfl
  | ok a => exact h a

theorem Q_bind_pure {α : Type} (Q : Except EditErr EFile → Prop)
    (a : α) (f : α → Except EditErr EFile) (h : Q (f a)) : Q ((pure a : Except EditErr α) >>= f) := h

set_option hygiene false in
/-- The second stage of `setRSI_ind`'s proof (locating or creating the indirect block, then the tail), which follows each of the
    four ways the first stage can end; it names `Q`, `htail`, `herr` of that proof, hence no hygiene.  Every alternative is:
    a pure stage hands on to the tail, an `ensureBlock` stage either panics (`herr`) or hands on. -/
local macro "sep_stage2" : tactic =>
  `(tactic| (dsimp only; first
      | (apply Q_bind_pure Q; exact htail _ _)
      | (apply Q_bind Q _ _ (fun err h => by rw [ensureBlock_err h]; exact herr); intro a; apply Q_bind_pure Q; exact htail _ _)
      | (split <;>
          first
            | (apply Q_bind_pure Q; exact htail _ _)
            | (apply Q_bind Q _ _ (fun err h => by rw [ensureBlock_err h]; exact herr); intro a; apply Q_bind_pure Q; exact htail _ _))))

/-- anything that holds of the tail for every choice of blocks (and of the `ensureBlock` panic) holds of
    SetRequireSeparateIndirect -/
theorem setRSI_ind (e : EFile) (req : List Want) (perm : List Want → List Want) (Q : Except EditErr EFile → Prop)
    (herr : Q (.error .badStatement)) (htail : ∀ ctx stmts, Q (sepTail e req perm ctx stmts)) :
    Q (setRequireSeparateIndirect e req perm) := by
  unfold setRequireSeparateIndirect
  dsimp only
  cases hld : (scanStmts e.f.syn.stmts 0 {}).lastDirect with
  | none =>
    dsimp only
    cases hli : (scanStmts e.f.syn.stmts 0 {}).lastIndirect with
    | some j =>
      dsimp only
      apply Q_bind_pure Q
      sep_stage2
    | none =>
      dsimp only
      cases hlr : (scanStmts e.f.syn.stmts 0 {}).lastRequire with
      | some k =>
        dsimp only
        apply Q_bind_pure Q
        sep_stage2
      | none =>
        dsimp only
        apply Q_bind_pure Q
        sep_stage2
  | some d =>
    dsimp only
    apply Q_bind Q _ _ (fun err h => by rw [ensureBlock_err h]; exact herr)
    intro stmts
    apply Q_bind_pure Q
    sep_stage2

theorem addSepNew_abs (ctx : SepCtx) (e : EFile) (w : Want) (hp : w.path ≠ []) (hi : TInv e) :
    absLive (addSepNew ctx e w).f = { absLive e.f with require := (absLive e.f).require ++ [w.toReq] } ∧
    TInv (addSepNew ctx e w) := by
  refine ⟨?_, hi.of_same rfl rfl rfl (Nat.le_succ _)⟩
  simp only [addSepNew, absLive, liveAbs_snoc, liveRq, aRq, ne_nil_live hp, Want.toReq]

def notHave (need : List Want) (have_ : List Bytes) : List Want := need.filter (fun w => !have_.contains w.path)

theorem notHave_cons (need : List Want) (p : Bytes) (have_ : List Bytes) :
    notHave need (p :: have_) = (notHave need have_).filter (fun a => a.path != p) := by
  unfold notHave
  rw [List.filter_filter]
  apply List.filter_congr
  intro w _
  simp only [List.contains_cons, Bool.not_or, bne]

theorem notHave_nil (need : List Want) : notHave need [] = need := by
  unfold notHave
  apply List.filter_eq_self.2
  intro a _; rfl

theorem sepLoop_step (ctx : SepCtx) (need : List Want) (r : Require) (rs : List Require) (have_ : List Bytes)
    (syn : FileSyntax) (next : Nat) :
    sepLoop ctx need (r :: rs) have_ syn next =
      if r.lineId = 0 then .error .nilDeref else
      match need.find? (·.path == r.mod.path) with
      | some w =>
        if have_.contains r.mod.path then
          (sepLoop ctx need rs have_ (markRemoved syn r.lineId) next).map fun t => (clearedRequire :: t.1, t.2)
        else
          let syn1 := syn.updateLine r.lineId fun l => setIndirectLine w.indirect (setVersionLine w.vers l)
          let r1 : Require := { r with mod := { r.mod with version := w.vers }, indirect := w.indirect }
          let t : Require × FileSyntax × Nat :=
            if w.indirect && (ctx.oneFlat || inBlockOrig ctx r.lineId ctx.directOrig) then
              ({ r1 with lineId := next }, moveExisting syn1 r.lineId ctx.indirectIdx next, next + 1)
            else if !w.indirect && (ctx.oneFlat || inBlockOrig ctx r.lineId ctx.indirectOrig) then
              ({ r1 with lineId := next }, moveExisting syn1 r.lineId ctx.directIdx next, next + 1)
            else (r1, syn1, next)
          (sepLoop ctx need rs (t.1.mod.path :: have_) t.2.1 t.2.2).map fun u => (t.1 :: u.1, u.2)
      | none => (sepLoop ctx need rs have_ (markRemoved syn r.lineId) next).map fun t => (clearedRequire :: t.1, t.2) := by
  conv => lhs; unfold sepLoop
  by_cases h0 : r.lineId = 0
  · cases need.find? (·.path == r.mod.path) <;> simp [h0, deref, nilId, bind, Except.bind]
  · rw [if_neg h0]
    cases need.find? (·.path == r.mod.path) with
    | none => simp only [deref_ok h0, bind, Except.bind]; cases sepLoop ctx need rs _ _ _ <;> rfl
    | some w =>
      simp only [deref_ok h0, bind, Except.bind]
      split
      · cases sepLoop ctx need rs _ _ _ <;> rfl
      · generalize (if (w.indirect && _) = true then _ else _ : Require × FileSyntax × Nat) = t
        cases sepLoop ctx need rs _ _ _ <;> rfl

theorem sepLoop_abs (ctx : SepCtx) (need : List Want) (hg : GoodWant need) (rs : List Require) :
    ∀ (have_ : List Bytes) (syn : FileSyntax) (next : Nat) (rs' : List Require) (have' : List Bytes) (syn' : FileSyntax)
      (next' : Nat), sepLoop ctx need rs have_ syn next = .ok (rs', have', syn', next') →
      (liveAbs liveRq aRq rs' ++ (notHave need have').map Want.toReq).Perm ((notHave need have_).map Want.toReq) ∧
      next ≤ next' := by
  induction rs with
  | nil =>
    intro have_ syn next rs' have' syn' next' h
    simp only [sepLoop, Except.ok.injEq, Prod.mk.injEq] at h
    rcases h with ⟨rfl, rfl, _, rfl⟩
    exact ⟨by simp [liveAbs], Nat.le_refl _⟩
  | cons r rs ih =>
    intro have_ syn next rs' have' syn' next' h
    -- a removed requirement
    have hrem : ∀ {syn1 : FileSyntax}, (sepLoop ctx need rs have_ syn1 next).map (fun t => (clearedRequire :: t.1, t.2))
        = .ok (rs', have', syn', next') →
        (liveAbs liveRq aRq rs' ++ (notHave need have').map Want.toReq).Perm ((notHave need have_).map Want.toReq) ∧
        next ≤ next' := by
      intro syn1 h
      obtain ⟨⟨rs'', h'', syn'', next''⟩, hr, ⟨⟩⟩ := map_eq_ok.1 h
      obtain ⟨h1, h2⟩ := ih _ _ _ _ _ _ _ hr
      exact ⟨by rw [liveAbs_cons]; simpa [liveRq, clearedRequire] using h1, h2⟩
    rw [sepLoop_step] at h
    split at h
    · cases h
    cases hf : need.find? (fun a => a.path == r.mod.path) with
    | none => simp only [hf] at h; exact hrem h
    | some w =>
      simp only [hf] at h
      by_cases hc : have_.contains r.mod.path = true
      · rw [if_pos hc] at h; exact hrem h
      · rw [if_neg hc] at h
        have hwmem := List.mem_of_find?_eq_some hf
        have hwp : w.path = r.mod.path := by simpa using List.find?_some hf
        -- the moved / unmoved entry
        generalize ht : (if (w.indirect && (ctx.oneFlat || inBlockOrig ctx r.lineId ctx.directOrig)) = true then _
            else if (!w.indirect && (ctx.oneFlat || inBlockOrig ctx r.lineId ctx.indirectOrig)) = true then _
            else ((_, _, _) : Require × FileSyntax × Nat)) = t at h
        have htp : t.1.mod = { r.mod with version := w.vers } ∧ t.1.indirect = w.indirect ∧ next ≤ t.2.2 := by
          rw [← ht]; split
          · exact ⟨rfl, rfl, Nat.le_succ _⟩
          · split
            · exact ⟨rfl, rfl, Nat.le_succ _⟩
            · exact ⟨rfl, rfl, Nat.le_refl _⟩
        rcases t with ⟨r2, syn2, next2⟩
        simp only at htp h
        obtain ⟨⟨rs'', h'', syn'', next''⟩, hr, ⟨⟩⟩ := map_eq_ok.1 h
        obtain ⟨h1, h2⟩ := ih _ _ _ _ _ _ _ hr
        refine ⟨?_, Nat.le_trans htp.2.2 h2⟩
        have hpath : r2.mod.path = r.mod.path := by rw [htp.1]
        rw [hpath, notHave_cons] at h1
        have hlive : liveRq r2 = true := by
          simp only [liveRq, hpath]; rw [← hwp]; exact ne_nil_live (hg.2 w hwmem)
        have ha : aRq r2 = w.toReq := by
          simp only [aRq, Want.toReq, htp.1, htp.2.1, hwp]
        rw [liveAbs_cons, if_pos hlive, List.cons_append, ha]
        refine (h1.cons _).trans ?_
        rw [← hwp]
        have hwin : w ∈ notHave need have_ :=
          List.mem_filter.2 ⟨hwmem, by rw [hwp, Bool.eq_false_iff.2 hc]; rfl⟩
        exact (cons_filter_perm Want.path _ w hwin (hg.sublist List.filter_sublist).1).map Want.toReq

theorem sepTail_ok {e e' : EFile} {req : List Want} {perm : List Want → List Want} {ctx : SepCtx} {stmts : List Expr}
    (hg : GoodWant req) (h : sepTail e req perm ctx stmts = .ok e') :
    ∃ rq have' syn' next', sepLoop ctx req e.f.require [] { e.f.syn with stmts := stmts } e.next = .ok (rq, have', syn', next') ∧
      e' = sortBlocks (((perm req).filter fun w => !have'.contains w.path).foldl (addSepNew ctx)
        ⟨{ e.f with require := rq, syn := syn' }, next'⟩) := by
  unfold sepTail at h
  rw [needMap_distinct false req [] (by simpa using hg.1)] at h
  obtain ⟨_, ⟨⟩, h⟩ := bind_eq_ok.1 h
  obtain ⟨⟨rq, have', syn', next'⟩, hr, h⟩ := bind_eq_ok.1 h
  exact ⟨rq, have', syn', next', hr, by cases h; rfl⟩

theorem sepTail_abs (e e' : EFile) (req : List Want) (perm : List Want → List Want) (ctx : SepCtx) (stmts : List Expr)
    (hperm : ∀ l, (perm l).Perm l) (hg : GoodWant req) (hi : TInv e) (h : sepTail e req perm ctx stmts = .ok e') :
    (absLive e'.f).require.Perm (req.map Want.toReq) ∧
    absLive e'.f = EditSpec.removeDups { absLive e.f with require := (absLive e'.f).require } ∧ TInv e' := by
  obtain ⟨rq, have', syn', next', hr, he⟩ := sepTail_ok hg h
  obtain ⟨h1, h2⟩ := sepLoop_abs ctx req hg _ _ _ _ _ _ _ _ hr
  rw [notHave_nil] at h1
  exact bulk_abs syn' _ (fun e w hw ht => addSepNew_abs ctx e w hw ht) _
    (fun w hw => hg.2 w ((hperm req).subset (List.mem_filter.1 hw).1)) hi h2
    ((List.Perm.append_left _ (((hperm req).filter _).map _)).trans h1) he

theorem setRequireSeparateIndirect_abs (e e' : EFile) (req : List Want) (perm : List Want → List Want)
    (hperm : ∀ l, (perm l).Perm l) (hg : GoodWant req) (hi : TInv e) (h : setRequireSeparateIndirect e req perm = .ok e') :
    (absLive e'.f).require.Perm (req.map Want.toReq) ∧
    absLive e'.f = EditSpec.removeDups { absLive e.f with require := (absLive e'.f).require } ∧ TInv e' :=
  setRSI_ind e req perm
    (fun r => ∀ e', r = .ok e' → (absLive e'.f).require.Perm (req.map Want.toReq) ∧
      absLive e'.f = EditSpec.removeDups { absLive e.f with require := (absLive e'.f).require } ∧ TInv e')
    (fun _ h => nomatch h) (fun ctx stmts e' h => sepTail_abs e e' req perm ctx stmts hperm hg hi h) e' h

end ModVerif.Modfile.Edit
