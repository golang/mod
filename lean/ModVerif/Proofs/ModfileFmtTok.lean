/-
  The lexer on the bytes of one token.  `Adv i i' a`: the state after consuming exactly the bytes `a`.  The bodies of
  identifiers (`IdentBody`) and of quoted strings (`StrBody`) are described by decoding the token's own bytes (the
  empty context), each with its two directions: what `readIdent` / `readString` consume is such a body, and such a
  body followed by a delimiter (`DelimStart`) is read back as itself.  `Utf8.decodeRune_prefix` and
  `ModfileFmtUtf8.decodeRune_append` transfer between the source context, the empty context and the printed context.
-/
import ModVerif.Proofs.Utf8Last
import ModVerif.Proofs.ModfileScan
namespace ModVerif.Proofs.ModfileFmtTok
open ModVerif ModVerif.Modfile ModVerif.Proofs.ModfileLex ModVerif.Proofs.ModfileFmtUtf8 ModVerif.Proofs.ModfileScan

/-- `i'` is `i` after consuming exactly the bytes `a` (positions are not described) -/
structure Adv (i i' : Input) (a : Bytes) : Prop where
  rem : i.remaining = a ++ i'.remaining
  cons : i'.consumedRev = a.reverse ++ i.consumedRev
  tok : i'.tokRev = a.reverse ++ i.tokRev
  token : i'.token = i.token
  comments : i'.commentsRev = i.commentsRev
  nextId : i'.nextId = i.nextId

theorem Adv.refl (i : Input) : Adv i i [] := ⟨rfl, rfl, rfl, rfl, rfl, rfl⟩

theorem Adv.trans {i j k : Input} {a b : Bytes} (h1 : Adv i j a) (h2 : Adv j k b) : Adv i k (a ++ b) := by
  refine ⟨?_, ?_, ?_, ?_, ?_, ?_⟩
  · rw [h1.rem, h2.rem, List.append_assoc]
  · rw [h2.cons, h1.cons]; simp
  · rw [h2.tok, h1.tok]; simp
  · rw [h2.token, h1.token]
  · rw [h2.comments, h1.comments]
  · rw [h2.nextId, h1.nextId]

theorem Adv.rem_of {i i' : Input} {a rest : Bytes} (h : Adv i i' a) (hr : i.remaining = a ++ rest) :
    i'.remaining = rest := by
  have := h.rem
  rw [hr] at this
  exact (List.append_cancel_left this).symm

theorem readRune_adv (i : Input) (h : i.remaining ≠ []) :
    ∃ i', readRune i = .ok ((Utf8.decodeRune i.remaining).1, i') ∧
      Adv i i' (i.remaining.take (Utf8.decodeRune i.remaining).2) ∧
      i'.remaining = i.remaining.drop (Utf8.decodeRune i.remaining).2 := by
  unfold readRune
  cases hr : i.remaining with
  | nil => exact absurd hr h
  | cons a t =>
    refine ⟨_, rfl, ⟨?_, ?_, ?_, rfl, rfl, rfl⟩, rfl⟩
    · simp only [List.take_append_drop]; exact hr
    · simp only [List.reverse_reverse]
    · simp only [List.reverse_reverse]

theorem readRune_inv {i i' : Input} {r : Nat} (h : readRune i = .ok (r, i')) :
    i.remaining ≠ [] ∧ r = (Utf8.decodeRune i.remaining).1 ∧
      Adv i i' (i.remaining.take (Utf8.decodeRune i.remaining).2) ∧
      i'.remaining = i.remaining.drop (Utf8.decodeRune i.remaining).2 := by
  have hne : i.remaining ≠ [] := by
    intro hn
    unfold readRune at h
    rw [hn] at h
    cases h
  obtain ⟨i2, h2, hadv, hrem⟩ := readRune_adv i hne
  rw [h2] at h
  simp only [Except.ok.injEq, Prod.mk.injEq] at h
  obtain ⟨rfl, rfl⟩ := h
  exact ⟨hne, rfl, hadv, hrem⟩

theorem peekRune_eq {i : Input} (h : i.remaining ≠ []) : i.peekRune = (Utf8.decodeRune i.remaining).1 := by
  unfold Input.peekRune
  cases hr : i.remaining with
  | nil => exact absurd hr h
  | cons a t => rfl

theorem take_length_decodeRune (s : Bytes) (h : s ≠ []) :
    (s.take (Utf8.decodeRune s).2).length = (Utf8.decodeRune s).2 := by
  have := (decodeRune_width s h).2
  rw [List.length_take]; omega

theorem isPrefixOfB_append {p x : Bytes} (y : Bytes) (h : isPrefixOfB p x = true) : isPrefixOfB p (x ++ y) = true := by
  induction p generalizing x with
  | nil => simp [isPrefixOfB]
  | cons a as ih =>
    cases x with
    | nil => simp [isPrefixOfB] at h
    | cons b bs =>
      simp only [isPrefixOfB, Bool.and_eq_true, List.cons_append] at h ⊢
      exact ⟨h.1, ih h.2⟩

theorem isPrefixOfB_append_false {p x y : Bytes} (h : isPrefixOfB p (x ++ y) = false) : isPrefixOfB p x = false := by
  cases h' : isPrefixOfB p x with
  | false => rfl
  | true => rw [isPrefixOfB_append y h'] at h; cases h

theorem isPrefixOfB_two_append {x y : UInt8} {a rest : Bytes} (ha : a ≠ [])
    (h : isPrefixOfB [x, y] (a ++ rest) = true) :
    isPrefixOfB [x, y] a = true ∨ (a = [x] ∧ rest.head? = some y) := by
  cases a with
  | nil => exact absurd rfl ha
  | cons b bs =>
    cases bs with
    | nil =>
      cases rest with
      | nil => simp [isPrefixOfB] at h
      | cons c cs =>
        simp [isPrefixOfB] at h
        right
        exact ⟨by rw [h.1], by simp [h.2]⟩
    | cons c cs =>
      left
      simpa [isPrefixOfB] using h

/-- the bytes that may follow a token -/
def isDelimByte (b : UInt8) : Bool :=
  b == 32 || b == 9 || b == 13 || b == 10 || b == 40 || b == 41 || b == 91 || b == 93 || b == 123 || b == 125 || b == 44

def DelimStart (r : Bytes) : Prop := ∀ b ∈ r.head?, isDelimByte b = true

theorem delimStart_nil : DelimStart [] := by intro b h; simp at h

theorem delimStart_cons {b : UInt8} {t : Bytes} (h : isDelimByte b = true) : DelimStart (b :: t) := by
  intro c hc; simp at hc; subst hc; exact h

theorem isDelimByte_cases {b : UInt8} (h : isDelimByte b = true) :
    b = 32 ∨ b = 9 ∨ b = 13 ∨ b = 10 ∨ b = 40 ∨ b = 41 ∨ b = 91 ∨ b = 93 ∨ b = 123 ∨ b = 125 ∨ b = 44 := by
  simpa [isDelimByte, or_assoc] using h

theorem DelimStart.ascii {r : Bytes} (h : DelimStart r) : AsciiStart r := by
  intro b hb
  have := isDelimByte_cases (h b hb)
  rcases this with h | h | h | h | h | h | h | h | h | h | h <;> subst h <;> decide

theorem DelimStart.not_ident {i : Input} (h : DelimStart i.remaining) : isIdent i.peekRune = false := by
  unfold Input.peekRune
  cases hr : i.remaining with
  | nil => exact isIdent_zero
  | cons b t =>
    rw [hr] at h
    have hb := isDelimByte_cases (h b (by simp))
    have hlt : b.toNat < 0x80 := by
      rcases hb with h | h | h | h | h | h | h | h | h | h | h <;> subst h <;> decide
    simp only [decodeRune_ascii b t hlt]
    rcases hb with h | h | h | h | h | h | h | h | h | h | h <;> subst h <;> decide

theorem DelimStart.head_ne {r : Bytes} (h : DelimStart r) {y : UInt8} (hy : isDelimByte y = false) :
    r.head? ≠ some y := by
  intro hh
  have := h y (by rw [hh]; simp)
  rw [hy] at this; cases this

/-- one `readRune` step seen from the token: if the input is `i.remaining` and the rest of the token
    after this rune is `a'` followed by `r`, then decoding `seg ++ a'` alone agrees with the source -/
theorem decode_seg {s a' r : Bytes} (hs : s ≠ [])
    (hsplit : s = (s.take (Utf8.decodeRune s).2 ++ a') ++ r) :
    Utf8.decodeRune (s.take (Utf8.decodeRune s).2 ++ a') = Utf8.decodeRune s ∧
    (s.take (Utf8.decodeRune s).2 ++ a').drop (Utf8.decodeRune s).2 = a' ∧
    s.take (Utf8.decodeRune s).2 ++ a' ≠ [] := by
  have hlen := take_length_decodeRune s hs
  have hw := (decodeRune_width s hs).1
  have hsegne : s.take (Utf8.decodeRune s).2 ++ a' ≠ [] := by
    intro hh
    have := congrArg List.length hh
    simp only [List.length_append, List.length_nil] at this
    omega
  refine ⟨?_, ?_, hsegne⟩
  · have := Utf8.decodeRune_prefix (p := s.take (Utf8.decodeRune s).2 ++ a') (x := r) (by
      rw [← hsplit]; simp only [List.length_append]; omega)
    rw [this, ← hsplit]
  · rw [List.drop_append, List.drop_of_length_le (by omega), hlen]
    simp

theorem step_in_token {a rest : Bytes} (ha : a ≠ []) (hd : AsciiStart rest) (i : Input) (hi : i.remaining = a ++ rest) :
    i.eof = false ∧ i.peekRune = (Utf8.decodeRune a).1 ∧
    ∃ i1, readRune i = .ok ((Utf8.decodeRune a).1, i1) ∧ Adv i i1 (a.take (Utf8.decodeRune a).2) ∧
      i1.remaining = a.drop (Utf8.decodeRune a).2 ++ rest := by
  have hrne : i.remaining ≠ [] := by rw [hi]; simp [ha]
  have hdec : Utf8.decodeRune i.remaining = Utf8.decodeRune a := by
    rw [hi]; exact decodeRune_append a rest ha hd
  have hw := decodeRune_width a ha
  refine ⟨(eof_false_iff i).2 hrne, by rw [peekRune_eq hrne, hdec], ?_⟩
  obtain ⟨i1, hr1, hadv1, hrem1⟩ := readRune_adv i hrne
  rw [hdec] at hr1 hadv1 hrem1
  refine ⟨i1, hr1, ?_, ?_⟩
  · rwa [hi, List.take_append_of_le_length hw.2] at hadv1
  · rw [hrem1, hi, List.drop_append_of_le_length hw.2]

/-- The bytes of an identifier, decoded on their own: every rune is an identifier rune and no `//` or
    `/*` starts at a rune boundary. -/
inductive IdentBody : Bytes → Prop
  | nil : IdentBody []
  | cons {a : Bytes} (hne : a ≠ []) (hid : isIdent (Utf8.decodeRune a).1 = true)
      (h1 : isPrefixOfB [47, 47] a = false) (h2 : isPrefixOfB [47, 42] a = false)
      (hrest : IdentBody (a.drop (Utf8.decodeRune a).2)) : IdentBody a

theorem readIdent_emits {i i' : Input} (h : Runes IdentGo i i') :
    ∃ a, Adv i i' a ∧ IdentBody a ∧ (a ≠ [] → Utf8.decodeRune a = Utf8.decodeRune i.remaining) := by
  induction h with
  | nil i => exact ⟨[], Adv.refl _, .nil, fun h => absurd rfl h⟩
  | @cons i i1 i' r hg h1 _ ih =>
    obtain ⟨hid, hp1, hp2⟩ := hg
    obtain ⟨hne, _, hadv, hrem⟩ := readRune_inv h1
    obtain ⟨a', hadv', hb', _⟩ := ih
    refine ⟨_, hadv.trans hadv', ?_⟩
    have hsplit : i.remaining = (i.remaining.take (Utf8.decodeRune i.remaining).2 ++ a') ++ i'.remaining := by
      rw [List.append_assoc, ← hadv'.rem, hrem, List.take_append_drop]
    obtain ⟨hdec, hdrop, hsegne⟩ := decode_seg hne hsplit
    have hpk := peekRune_eq hne
    refine ⟨.cons hsegne ?_ ?_ ?_ ?_, fun _ => hdec⟩
    · rw [hdec, ← hpk]; exact hid
    · apply isPrefixOfB_append_false (y := i'.remaining)
      rw [← hsplit]
      simpa [Input.peekPrefix] using hp1
    · apply isPrefixOfB_append_false (y := i'.remaining)
      rw [← hsplit]
      simpa [Input.peekPrefix] using hp2
    · rw [hdec, hdrop]; exact hb'

theorem readIdent_relex {a : Bytes} (hb : IdentBody a) : ∀ (rest : Bytes), DelimStart rest →
    ∀ (fuel : Nat) (i : Input), i.remaining = a ++ rest → a.length < fuel →
    ∃ i', readIdent fuel i = .ok i' ∧ Adv i i' a := by
  induction hb with
  | nil =>
    intro rest hd fuel i hi hf
    obtain ⟨n, rfl⟩ : ∃ n, fuel = n + 1 := ⟨fuel - 1, by omega⟩
    unfold readIdent
    have : isIdent i.peekRune = false := DelimStart.not_ident (by simpa [hi] using hd)
    simp only [this, Bool.false_eq_true, if_false]
    exact ⟨i, rfl, Adv.refl _⟩
  | @cons a hne hid h1 h2 _ ih =>
    intro rest hd fuel i hi hf
    obtain ⟨n, rfl⟩ : ∃ n, fuel = n + 1 := ⟨fuel - 1, by omega⟩
    obtain ⟨-, hpk, i1, hr1, hadv1, hrem1'⟩ := step_in_token hne hd.ascii i hi
    have hw := decodeRune_width a hne
    unfold readIdent
    rw [hpk, hid]
    simp only [if_true]
    have hp1 : i.peekPrefix [47, 47] = false := by
      unfold Input.peekPrefix
      cases hh : isPrefixOfB [47, 47] i.remaining with
      | false => rfl
      | true =>
        rw [hi] at hh
        rcases isPrefixOfB_two_append hne hh with h | ⟨_, h⟩
        · rw [h] at h1; cases h1
        · exact absurd h (hd.head_ne (by decide))
    have hp2 : i.peekPrefix [47, 42] = false := by
      unfold Input.peekPrefix
      cases hh : isPrefixOfB [47, 42] i.remaining with
      | false => rfl
      | true =>
        rw [hi] at hh
        rcases isPrefixOfB_two_append hne hh with h | ⟨_, h⟩
        · rw [h] at h2; cases h2
        · exact absurd h (hd.head_ne (by decide))
    simp only [hp1, hp2, Bool.false_eq_true, if_false]
    obtain ⟨i', hr', hadv'⟩ := ih rest hd n i1 hrem1' (by simp only [List.length_drop]; omega)
    refine ⟨i', by simp [hr1, bind, Except.bind, hr'], ?_⟩
    have := hadv1.trans hadv'
    rwa [List.take_append_drop] at this

/-- The bytes of a quoted string after the opening quote, decoded on their own, as `readString`
    consumes them: up to and including the closing quote; a backslash (not in a raw string) escapes the
    next rune; no newline. -/
inductive StrBody (q : Nat) : Bytes → Prop
  | close {a : Bytes} (hne : a ≠ []) (hnl : (Utf8.decodeRune a).1 ≠ 10) (hq : (Utf8.decodeRune a).1 = q)
      (hend : a.drop (Utf8.decodeRune a).2 = []) : StrBody q a
  | esc {a : Bytes} (hne : a ≠ []) (hnl : (Utf8.decodeRune a).1 ≠ 10) (hq : (Utf8.decodeRune a).1 ≠ q)
      (hbs : (Utf8.decodeRune a).1 = 92) (hraw : q ≠ 96)
      (hne2 : a.drop (Utf8.decodeRune a).2 ≠ [])
      (hrest : StrBody q ((a.drop (Utf8.decodeRune a).2).drop (Utf8.decodeRune (a.drop (Utf8.decodeRune a).2)).2)) :
      StrBody q a
  | other {a : Bytes} (hne : a ≠ []) (hnl : (Utf8.decodeRune a).1 ≠ 10) (hq : (Utf8.decodeRune a).1 ≠ q)
      (hno : ¬ ((Utf8.decodeRune a).1 = 92 ∧ q ≠ 96))
      (hrest : StrBody q (a.drop (Utf8.decodeRune a).2)) : StrBody q a

theorem StrBody.ne_nil {q : Nat} {a : Bytes} (h : StrBody q a) : a ≠ [] := by
  cases h <;> assumption

theorem readString_emits {q : Nat} {i i' : Input} (h : Str q i i') : ∃ a, Adv i i' a ∧ StrBody q a := by
  induction h with
  | @close i i1 _ hnl hr1 =>
    obtain ⟨hne, hq, hadv1, hrem1⟩ := readRune_inv hr1
    rw [peekRune_eq hne] at hnl
    refine ⟨_, hadv1, ?_⟩
    have hsplit : i.remaining = (i.remaining.take (Utf8.decodeRune i.remaining).2 ++ []) ++ i1.remaining := by
      rw [List.append_nil, hrem1, List.take_append_drop]
    obtain ⟨hdec, hdrop, hsegne⟩ := decode_seg hne hsplit
    simp only [List.append_nil] at hdec hdrop hsegne
    exact .close hsegne (by rw [hdec]; exact hnl) (by rw [hdec]; exact hq.symm) (by rw [hdec]; exact hdrop)
  | @esc i i1 i2 i' c r _ hnl hr1 hq hbs _ hr2 _ ih =>
    obtain ⟨hne, hc, hadv1, hrem1⟩ := readRune_inv hr1
    obtain ⟨hne1, _, hadv2, hrem2⟩ := readRune_inv hr2
    rw [peekRune_eq hne] at hnl
    obtain ⟨a', hadv', hb'⟩ := ih
    refine ⟨_, (hadv1.trans hadv2).trans hadv', ?_⟩
    have hsplit1 : i1.remaining = (i1.remaining.take (Utf8.decodeRune i1.remaining).2 ++ a') ++ i'.remaining := by
      rw [List.append_assoc, ← hadv'.rem, hrem2, List.take_append_drop]
    obtain ⟨hdec1, hdrop1, hsegne1⟩ := decode_seg hne1 hsplit1
    have hsplit : i.remaining = (i.remaining.take (Utf8.decodeRune i.remaining).2 ++
        (i1.remaining.take (Utf8.decodeRune i1.remaining).2 ++ a')) ++ i'.remaining := by
      rw [List.append_assoc, ← hsplit1, hrem1, List.take_append_drop]
    obtain ⟨hdec, hdrop, hsegne⟩ := decode_seg hne hsplit
    simp only [Bool.and_eq_true, beq_iff_eq, bne_iff_ne, ne_eq] at hbs
    rw [List.append_assoc]
    refine .esc hsegne (by rw [hdec]; exact hnl) (by rw [hdec, ← hc]; exact hq) (by rw [hdec, ← hc]; exact hbs.1)
      hbs.2 (by rw [hdec, hdrop]; exact hsegne1) ?_
    rw [hdec, hdrop, hdec1, hdrop1]
    exact hb'
  | @other i i1 i' c _ hnl hr1 hq hbs _ ih =>
    obtain ⟨hne, hc, hadv1, hrem1⟩ := readRune_inv hr1
    rw [peekRune_eq hne] at hnl
    obtain ⟨a', hadv', hb'⟩ := ih
    refine ⟨_, hadv1.trans hadv', ?_⟩
    have hsplit : i.remaining = (i.remaining.take (Utf8.decodeRune i.remaining).2 ++ a') ++ i'.remaining := by
      rw [List.append_assoc, ← hadv'.rem, hrem1, List.take_append_drop]
    obtain ⟨hdec, hdrop, hsegne⟩ := decode_seg hne hsplit
    refine .other hsegne (by rw [hdec]; exact hnl) (by rw [hdec, ← hc]; exact hq) ?_ (by rw [hdec, hdrop]; exact hb')
    rw [hdec, ← hc]
    simpa using hbs

theorem readString_relex {q : Nat} {a : Bytes} (hb : StrBody q a) : ∀ (rest : Bytes), AsciiStart rest →
    ∀ (fuel : Nat) (i : Input), i.remaining = a ++ rest → a.length < fuel →
    ∃ i', readString q fuel i = .ok i' ∧ Adv i i' a := by
  induction hb with
  | @close a hne hnl hq hend =>
    intro rest hd fuel i hi hf
    obtain ⟨n, rfl⟩ : ∃ n, fuel = n + 1 := ⟨fuel - 1, by omega⟩
    obtain ⟨heof, hpk, i1, hr1, hadv1, hrem1⟩ := step_in_token hne hd i hi
    unfold readString
    simp only [heof, Bool.false_eq_true, if_false, hpk]
    have : ((Utf8.decodeRune a).1 == 10) = false := by simpa using hnl
    simp only [this, Bool.false_eq_true, if_false, hr1, bind, Except.bind]
    simp only [hq, beq_self_eq_true, if_true]
    refine ⟨i1, rfl, ?_⟩
    have : a.take (Utf8.decodeRune a).2 = a := by
      have := List.take_append_drop (Utf8.decodeRune a).2 a
      rw [hend, List.append_nil] at this
      exact this
    rwa [this] at hadv1
  | @esc a hne hnl hq hbs hraw hne2 _ ih =>
    intro rest hd fuel i hi hf
    obtain ⟨n, rfl⟩ : ∃ n, fuel = n + 1 := ⟨fuel - 1, by omega⟩
    obtain ⟨heof, hpk, i1, hr1, hadv1, hrem1⟩ := step_in_token hne hd i hi
    obtain ⟨heof2, _, i2, hr2, hadv2, hrem2⟩ := step_in_token hne2 hd i1 hrem1
    have hw := decodeRune_width a hne
    have hw2 := decodeRune_width _ hne2
    obtain ⟨i', hr', hadv'⟩ := ih rest hd n i2 hrem2 (by
      simp only [List.length_drop] at hw2 ⊢; omega)
    unfold readString
    simp only [heof, Bool.false_eq_true, if_false, hpk]
    have h10 : ((Utf8.decodeRune a).1 == 10) = false := by simpa using hnl
    have hqq : ((Utf8.decodeRune a).1 == q) = false := by simpa using hq
    have hb : ((Utf8.decodeRune a).1 == 92 && q != 96) = true := by simp [hbs, hraw]
    simp only [h10, Bool.false_eq_true, if_false, hr1, bind, Except.bind, hqq, hb, if_true, heof2, hr2, hr']
    refine ⟨i', rfl, ?_⟩
    have := (hadv1.trans hadv2).trans hadv'
    rwa [List.append_assoc, List.take_append_drop, List.take_append_drop] at this
  | @other a hne hnl hq hno _ ih =>
    intro rest hd fuel i hi hf
    obtain ⟨n, rfl⟩ : ∃ n, fuel = n + 1 := ⟨fuel - 1, by omega⟩
    obtain ⟨heof, hpk, i1, hr1, hadv1, hrem1⟩ := step_in_token hne hd i hi
    have hw := decodeRune_width a hne
    obtain ⟨i', hr', hadv'⟩ := ih rest hd n i1 hrem1 (by simp only [List.length_drop]; omega)
    unfold readString
    simp only [heof, Bool.false_eq_true, if_false, hpk]
    have h10 : ((Utf8.decodeRune a).1 == 10) = false := by simpa using hnl
    have hqq : ((Utf8.decodeRune a).1 == q) = false := by simpa using hq
    have hb : ((Utf8.decodeRune a).1 == 92 && q != 96) = false := by
      cases hh : ((Utf8.decodeRune a).1 == 92 && q != 96) with
      | false => rfl
      | true => exact absurd (by simpa using hh) hno
    simp only [h10, Bool.false_eq_true, if_false, hr1, bind, Except.bind, hqq, hb, hr']
    refine ⟨i', rfl, ?_⟩
    have := hadv1.trans hadv'
    rwa [List.take_append_drop] at this

end ModVerif.Proofs.ModfileFmtTok
