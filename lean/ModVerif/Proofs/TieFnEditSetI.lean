/-
  `File.SetRequireSeparateIndirect`: appending a new line to the block at
  a statement index on the graph (`appendToBlock`), and the two cases of `moveReq` on a represented file
  (`moveExisting` / the line part of `addSepNew`).
-/
import ModVerif.Proofs.TieFnEditSetH
namespace ModVerif.Tie.FnEditSetI
open ModVerif ModVerif.GoRt ModVerif.Generated.Edit ModVerif.Tie.FnEditRep ModVerif.Tie.FnEditTreeA ModVerif.Tie.FnEditLoop ModVerif.Tie.FnEditSetA
  ModVerif.Tie.FnEditSetB ModVerif.Tie.FnEditSetD ModVerif.Tie.FnEditSetE ModVerif.Tie.FnEditSetF ModVerif.Tie.FnEditSetG
  ModVerif.Tie.FnEditSetH
open ModVerif.Modfile.Edit (EFile treeIds appendToBlock headIs mkLine setIndirectLine moveExisting)

theorem split_at {α : Type} {es : List α} {i : Nat} {x : α} (h : es[i]? = some x) : ∃ a b, es = a ++ x :: b ∧ a.length = i := by
  obtain ⟨hlt, he⟩ := List.getElem?_eq_some_iff.1 h
  refine ⟨es.take i, es.drop (i + 1), ?_, by simp; omega⟩
  rw [← he, List.getElem_cons_drop, List.take_append_drop]

theorem appendToBlock_mid (sa : List Modfile.Expr) (b : Modfile.LineBlock) (sb : List Modfile.Expr) (nl : Modfile.Line) :
    appendToBlock (sa ++ Modfile.Expr.lineBlock b :: sb) sa.length nl =
      sa ++ Modfile.Expr.lineBlock { b with lines := b.lines ++ [nl] } :: sb := by
  unfold appendToBlock
  rw [getElem?_cursor]
  simp only [set_cursor]

/-- the heap after a new line object was allocated and appended to the block `bp` -/
def appHeap (h : Heap) (v : Line) (bp : Int) (blk : LineBlock) : Heap :=
  { h with lines := h.lines ++ [v],
           blocks := h.blocks.set (bp.toNat - 1) { blk with Line := blk.Line ++ [((h.lines.length + 1 : Nat) : Int)] } }

theorem treeIds_appendToBlock_mid (sa : List Modfile.Expr) (b : Modfile.LineBlock) (sb : List Modfile.Expr) (nl : Modfile.Line) :
    (treeIds (appendToBlock (sa ++ Modfile.Expr.lineBlock b :: sb) sa.length nl)).Perm
      (treeIds (sa ++ Modfile.Expr.lineBlock b :: sb) ++ [nl.id]) := by
  rw [appendToBlock_mid, treeIds_mid, treeIds_mid, Modfile.Edit.treeIds_block, Modfile.Edit.treeIds_block]
  simp only [List.map_append, List.map_cons, List.map_nil, List.append_assoc]
  exact List.Perm.append_left _ (List.Perm.append_left _ List.perm_append_comm)

theorem RepSynAt_appendLine {h : Heap} {x : Int} {fs : Modfile.FileSyntax} {es : List Expr} (r : RepSynAt h x fs es)
    {i : Nat} {bp : Int} {blk : LineBlock} (hi : es[i]? = some (Expr.LineBlock bp)) (hb : heapGet h.blocks bp = .ok blk)
    (nl : Modfile.Line) (hid : nl.id = h.lines.length + 1) :
    RepSynAt (appHeap h (lineG nl) bp blk) x { fs with stmts := appendToBlock fs.stmts i nl } es := by
  obtain ⟨a, b, rfl, rfl⟩ := split_at hi
  obtain ⟨sa, sb', h1, h2, h3, h4⟩ := RStmts_append_inv r.stmts
  cases sb' with
  | nil => exact h4.elim
  | cons s sb =>
    obtain ⟨hblock, h5⟩ := h4
    cases s <;> simp only [RExpr] at hblock <;> try exact hblock.elim
    rename_i b0
    obtain ⟨ps, hg, hls⟩ := hblock
    obtain rfl : blk = blockG b0 ps := by rw [hb] at hg; exact Except.ok.inj hg
    obtain ⟨post, r1, r2, nb⟩ := TieFnEditAddLine.block_insert_sim r.file rfl h3 h5 r.nodupB hb (l1 := b0.lines) (l2 := [])
      (a := ps) (c := []) hls trivial nl hid
    have hst : appendToBlock fs.stmts a.length nl = sa ++ Modfile.Expr.lineBlock { b0 with lines := b0.lines ++ [nl] } :: sb := by
      rw [h1, ← h2, appendToBlock_mid]
    refine ⟨?_, ?_, r.nodupB, ?_⟩
    · show heapGet h.files x = _
      exact r.file
    · show RStmts _ _ (appendToBlock fs.stmts a.length nl)
      rw [hst]
      exact RStmts.append r1 r2
    · show (treeIds (appendToBlock fs.stmts a.length nl)).Nodup
      have hp := treeIds_appendToBlock_mid sa b0 sb nl
      rw [h2, ← h1] at hp
      refine hp.nodup_iff.2 (List.nodup_append.2 ⟨r.nodupL, by simp, ?_⟩)
      intro u hu w hw
      simp only [List.mem_singleton] at hw; subst hw
      have := (r.stmts.treeIds_le u hu).2
      omega

theorem BlockTokOK_appendToBlock {stmts : List Modfile.Expr} (hb : BlockTokOK stmts) (i : Nat) (nl : Modfile.Line) :
    BlockTokOK (appendToBlock stmts i nl) := by
  unfold appendToBlock
  cases hs : stmts[i]? with
  | none => exact hb
  | some s =>
    cases s with
    | lineBlock b0 =>
      intro b hbm
      rcases List.mem_or_eq_of_mem_set hbm with hm | he
      · exact hb b hm
      · simp only [Modfile.Expr.lineBlock.injEq] at he; subst he
        exact hb b0 (List.mem_of_getElem? hs)
    | _ => exact hb

theorem findLine_of_mem {fs : Modfile.FileSyntax} {id : Nat} (h : id ∈ treeIds fs.stmts) : ∃ l, fs.findLine id = some l := by
  unfold Modfile.FileSyntax.findLine
  rw [Modfile.Edit.allLines_eq_loc]
  obtain ⟨q, hq, rfl⟩ := List.mem_map.1 h
  have : ((Modfile.Edit.loc fs.stmts).map (·.2)).find? (·.id == q.2.id) |>.isSome := by
    rw [List.find?_isSome]
    exact ⟨q.2, List.mem_map.2 ⟨q, hq, rfl⟩, by simp⟩
  exact Option.isSome_iff_exists.1 this

end ModVerif.Tie.FnEditSetI
