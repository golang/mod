/-
  Helper lemmas for Tie/FnRuleAdd.lean: go.work.  The typed part `RepTypedW` under the heap changes of
  `WorkFile.add`, `StepPostW`, and the regenerated `WorkFile.add` (`WA`) verb by verb = the model's `WorkFile.add`
  (`WA_step`), under the hypothesis `WorkLeaf` about the leaf calls (`use`: parseString, `replace`: parseReplace).
-/
import ModVerif.Proofs.TieFnRuleAddC
import ModVerif.Proofs.ModfileC20Stmts
namespace ModVerif.Tie.FnRuleAddE
open ModVerif ModVerif.GoRt ModVerif.Generated ModVerif.Tie.FnRuleRep ModVerif.Tie.FnRuleAddA ModVerif.Tie.FnRuleAddB ModVerif.Tie.FnRuleAddC
open ModVerif.Drv.GenRule (isPrintI unquoteI laxSubI deprecatedSubI fixG)

/-! ### the closures of `WorkFile.add` read `works`, `files`, `lines` only -/

def errfWL (ms : List Rule.WorkFile) (fs : List Rule.FileSyntax) (ls : List Rule.Line) (fp line : Int) (e : Option String)
    (errs : List Rule.Error) : M (Unit × List Rule.Error) := do
  let t4 ← heapGet ms fp
  let t5 ← heapGet fs t4.Syntax
  let t6 ← heapGet ls line
  pure ((), errs ++ [({ (default : Rule.Error) with Filename := t5.Name, Pos := t6.Start, Err := e } : Rule.Error)])

theorem wrapErrorW_L (fuel : Nat) (fp line : Int) (w : Rule.Heap) (e : Option String) (errs : List Rule.Error) :
    Rule.WorkFile_add_wrapError Modfile.goVersionRE isPrintI Quote.quote Modfile.toolchainRE unquoteI fuel fp line w e errs =
      errfWL w.works w.files w.lines fp line e errs := rfl

theorem errorfW_L (fuel : Nat) (fp line : Int) (w : Rule.Heap) (fmt : Bytes) (a : List Unit) (errs : List Rule.Error) :
    Rule.WorkFile_add_errorf Modfile.goVersionRE isPrintI Quote.quote Modfile.toolchainRE unquoteI fuel fp line w fmt a errs =
      errfWL w.works w.files w.lines fp line (some (bytesToStr fmt)) errs := by
  simp only [Rule.WorkFile_add_errorf, wrapErrorW_L, errfWL, bind, Except.bind, pure, Except.pure]
  cases heapGet w.works fp with
  | error _ => rfl
  | ok t4 =>
    simp only []
    cases heapGet w.files t4.Syntax with
    | error _ => rfl
    | ok t5 =>
      simp only []
      cases heapGet w.lines line <;> rfl

theorem errfWL_eq {ms : List Rule.WorkFile} {fs : List Rule.FileSyntax} {ls : List Rule.Line} {fp line : Int} {o : Rule.WorkFile}
    {F : Rule.FileSyntax} {L : Rule.Line}
    (ho : heapGet ms fp = .ok o) (hF : heapGet fs o.Syntax = .ok F) (hL : heapGet ls line = .ok L) (e : Option String) (errs : List Rule.Error) :
    errfWL ms fs ls fp line e errs = .ok ((), errs ++ [errV F L e]) := by
  simp [errfWL, errV, ho, hF, hL, bind, Except.bind, pure, Except.pure]

section typed
variable {ι : Int → Nat} {h : Rule.Heap} {o : Rule.WorkFile} {f : Modfile.WorkFile}
theorem _root_.ModVerif.Tie.FnRuleRep.RepTypedW.linkGo (r : RepTypedW ι h o f) {x : Rule.Go} {X : Modfile.Go} (hx : goR ι h.lines.length x X) (m : List Rule.WorkFile) :
    RepTypedW ι { h with gos := h.gos ++ [x], works := m } { o with Go := ((h.gos.length + 1 : Nat) : Int) } { f with go := some X } :=
  { r with go := ⟨x, heapGet_alloc_new _ _, hx⟩ }

theorem _root_.ModVerif.Tie.FnRuleRep.RepTypedW.linkToolchain (r : RepTypedW ι h o f) {x : Rule.Toolchain} {X : Modfile.Toolchain} (hx : toolchainR ι h.lines.length x X) (m : List Rule.WorkFile) :
    RepTypedW ι { h with toolchains := h.toolchains ++ [x], works := m } { o with Toolchain := ((h.toolchains.length + 1 : Nat) : Int) } { f with toolchain := some X } :=
  { r with toolchain := ⟨x, heapGet_alloc_new _ _, hx⟩ }

theorem _root_.ModVerif.Tie.FnRuleRep.RepTypedW.pushGodebug (r : RepTypedW ι h o f) {x : Rule.Godebug} {X : Modfile.Godebug} (hx : godebugR ι h.lines.length x X) (m : List Rule.WorkFile) :
    RepTypedW ι { h with godebugs := h.godebugs ++ [x], works := m } { o with Godebug := o.Godebug ++ [((h.godebugs.length + 1 : Nat) : Int)] }
      { f with godebug := f.godebug ++ [X] } :=
  { r with godebug := r.godebug.snocAlloc x X hx }

theorem _root_.ModVerif.Tie.FnRuleRep.RepTypedW.pushUse (r : RepTypedW ι h o f) {x : Rule.Use} {X : Modfile.Use} (hx : useR ι h.lines.length x X) (m : List Rule.WorkFile) :
    RepTypedW ι { h with uses := h.uses ++ [x], works := m } { o with Use := o.Use ++ [((h.uses.length + 1 : Nat) : Int)] }
      { f with use := f.use ++ [X] } :=
  { r with use := r.use.snocAlloc x X hx }

theorem _root_.ModVerif.Tie.FnRuleRep.RepTypedW.pushReplace (r : RepTypedW ι h o f) {x : Rule.Replace} {X : Modfile.Replace} (hx : replaceR ι h.lines.length x X) (m : List Rule.WorkFile) :
    RepTypedW ι { h with replaces := h.replaces ++ [x], works := m } { o with Replace := o.Replace ++ [((h.replaces.length + 1 : Nat) : Int)] }
      { f with replace := f.replace ++ [X] } :=
  { r with replace := r.replace.snocAlloc x X hx }

theorem _root_.ModVerif.Tie.FnRuleRep.RepTypedW.frameEM (r : RepTypedW ι h o f) (e : List Rule.Error) (m : List Rule.WorkFile) :
    RepTypedW ι { h with errors := e, works := m } o f :=
  { r with }

theorem _root_.ModVerif.Tie.FnRuleRep.RepTypedW.withLines (r : RepTypedW ι h o f) (ls : List Rule.Line) (hn : ls.length = h.lines.length) :
    RepTypedW ι { h with lines := ls } o f := by
  obtain ⟨a, b, c, d, e⟩ := r
  rw [← hn] at a b c d e
  exact ⟨a, b, c, d, e⟩

end typed

/-- `StepPost` for `WorkFile.add` -/
structure StepPostW (ι : Int → Nat) (h : Rule.Heap) (fp : Int) (syn : Modfile.FileSyntax) (lp : Int) (l : Modfile.Line) (pre : List Bytes)
    (res : Modfile.WorkState × List Bytes) (errs' : List Rule.Error) (h' : Rule.Heap) : Prop where
  rep : RepWS ι h' fp errs' res.1 (syn.updateLine l.id fun x => { x with token := pre ++ res.2 })
  lines : h'.lines = (setToksH h lp (pre ++ res.2)).lines
  blocks : h'.blocks = h.blocks
  cbs : h'.cbs = h.cbs
  files : h'.files = h.files
  fsyn : ∀ o o', heapGet h.works fp = .ok o → heapGet h'.works fp = .ok o' → o'.Syntax = o.Syntax

section step
variable {ι : Int → Nat} {h : Rule.Heap} {fp : Int} {errs : List Rule.Error} {st : Modfile.WorkState} {syn : Modfile.FileSyntax}
  {lp : Int} {l : Modfile.Line} {pre : List Bytes}

theorem _root_.ModVerif.Tie.FnRuleRep.RepWS.objs (R : RepWS ι h fp errs st syn) :
    ∃ o es, heapGet h.works fp = .ok o ∧ heapGet h.files o.Syntax = .ok (fileG syn es) ∧ RepTypedW ι h o st.file := by
  obtain ⟨o, ho, rt, es, rs⟩ := R.obj
  exact ⟨o, es, ho, rs.file, rt⟩

theorem StepPostW.build (R : RepWS ι h fp errs st syn) (hl : RLine ι h lp l) {o : Rule.WorkFile}
    (ho : heapGet h.works fp = .ok o) {args' : List Bytes}
    {h' : Rule.Heap} {o' : Rule.WorkFile} {errs' : List Rule.Error} {st' : Modfile.WorkState}
    (ho' : heapGet h'.works fp = .ok o')
    (hlines : h'.lines = (setToksH h lp (pre ++ args')).lines) (hb : h'.blocks = h.blocks) (hc : h'.cbs = h.cbs) (hf : h'.files = h.files)
    (ht : RepTypedW ι h o st.file → RepTypedW ι h' o' st'.file ∧ o'.Syntax = o.Syntax)
    (he : ErrsRep errs' st'.errsRev.reverse) : StepPostW ι h fp syn lp l pre (st', args') errs' h' := by
  have R1 := R.setToks hl.1 (pre ++ args')
  obtain ⟨o0, ho0, rt, _⟩ := R.obj
  obtain ⟨o1, ho1, _, rs⟩ := R1.obj
  simp only [setToksH_works] at ho1
  rw [ho] at ho0 ho1; cases ho0; cases ho1
  obtain ⟨rt', hs⟩ := ht rt
  refine ⟨⟨⟨o', ho', rt', ?_⟩, R1.inj.congr (by rw [hlines]), he⟩, hlines, hb, hc, hf, ?_⟩
  · rw [hs, ← hl.2]
    exact rs.congr (by rw [hf]; simp) hlines (by rw [hb]; simp) (by rw [hc]; simp)
  · intro a a' ha ha'
    rw [ho] at ha; rw [ho'] at ha'; cases ha; cases ha'; exact hs

theorem StepPostW.skip (R : RepWS ι h fp errs st syn) (hl : RLine ι h lp l) {args : List Bytes} (htok : l.token = pre ++ args) :
    StepPostW ι h fp syn lp l pre (st, args) errs h := by
  obtain ⟨o, ho, _, _⟩ := R.obj
  exact StepPostW.build R hl ho ho (lines_same hl htok) rfl rfl rfl
    (fun rt => ⟨rt, rfl⟩) R.errs

theorem StepPostW.err (R : RepWS ι h fp errs st syn) (hl : RLine ι h lp l) {args : List Bytes} (htok : l.token = pre ++ args)
    {e : Rule.Error} {k : Modfile.RuleErrKind} (he : ErrRep e ⟨l.start, k⟩) :
    StepPostW ι h fp syn lp l pre (st.err l.start k, args) (errs ++ [e]) h := by
  obtain ⟨o, ho, _, _⟩ := R.obj
  exact StepPostW.build R hl ho ho (lines_same hl htok) rfl rfl rfl
    (fun rt => ⟨rt, rfl⟩) (R.errs.snoc_rev he)

theorem StepPostW.skipW (R : RepWS ι h fp errs st syn) (hl : RLine ι h lp l) (args' : List Bytes) :
    StepPostW ι h fp syn lp l pre (st, args') errs { h with lines := (setToksH h lp (pre ++ args')).lines } := by
  obtain ⟨o, ho, _, _⟩ := R.obj
  exact StepPostW.build R hl ho ho rfl rfl rfl rfl
    (fun rt => ⟨rt.withLines _ (by simp), rfl⟩) R.errs

theorem StepPostW.errW (R : RepWS ι h fp errs st syn) (hl : RLine ι h lp l) (args' : List Bytes)
    {e : Rule.Error} {k : Modfile.RuleErrKind} (he : ErrRep e ⟨l.start, k⟩) :
    StepPostW ι h fp syn lp l pre (st.err l.start k, args') (errs ++ [e]) { h with lines := (setToksH h lp (pre ++ args')).lines } := by
  obtain ⟨o, ho, _, _⟩ := R.obj
  exact StepPostW.build R hl ho ho rfl rfl rfl rfl
    (fun rt => ⟨rt.withLines _ (by simp), rfl⟩) (R.errs.snoc_rev he)

/-- … by `errorf` with a format literal -/
theorem StepPostW.errf (R : RepWS ι h fp errs st syn) (hl : RLine ι h lp l) {args : List Bytes} (htok : l.token = pre ++ args)
    {F : Rule.FileSyntax} {fmt : Bytes} {k : Modfile.RuleErrKind} (hk : bytesToStr fmt ∈ errStrs k) :
    StepPostW ι h fp syn lp l pre (st.err l.start k, args) (errs ++ [errV F (lineG l) (some (bytesToStr fmt))]) h :=
  StepPostW.err R hl htok (errV_rep (errAbs_fmt hk))

end step

structure WorkLeaf (fuel : Nat) (h : Rule.Heap) (lp : Int) (l : Modfile.Line) (pre args : List Bytes) (verb : Bytes)
    (fx : Option Modfile.Fixer) : Prop where
  ps : verb = B "use" → ∀ a, args = [a] → PSok fuel a
  pr : verb = B "replace" → PRok fuel h lp l pre args fx

section
variable {ι : Int → Nat} {h : Rule.Heap} {fp : Int} {errs : List Rule.Error} {st : Modfile.WorkState} {syn : Modfile.FileSyntax}
  {lp : Int} {l : Modfile.Line} {pre args : List Bytes}

theorem beq_B (verb : Bytes) (s : String) : (verb == B s) = decide (verb = B s) := bytes_beq_eq_decide _ _

theorem WA_go (R : RepWS ι h fp errs st syn) (hl : RLine ι h lp l) (htok : l.token = pre ++ args)
    (fuel : Nat) (fix : Option (Bytes → Bytes → (Bytes × Option String))) (fx : Option Modfile.Fixer) :
    ∃ errs' h', WA fuel fp errs lp [103, 111] { owner := lp, lo := (pre.length : Int) } fix h = .ok (((), errs'), h') ∧
      StepPostW ι h fp syn lp l pre (Modfile.WorkFile.add st l (B "go") args fx) errs' h' := by
  obtain ⟨o, es, ho, hF, rt⟩ := R.objs
  have V := view_of hl htok
  unfold WA Rule.WorkFile_add
  simp +decide only [↓reduceIte, ho, bind, Except.bind, pure, Except.pure, errorfW_L, 
    TokRef_len_eq, TokRef_get_eq, V.tkLen]
  unfold Modfile.WorkFile.add
  simp only [beq_self_eq_true, if_true]
  cases hgo : st.file.go with
  | some g =>
    have hne : o.Go ≠ 0 := fun e => by have := (rt.go.eq_zero_iff).1 e; rw [hgo] at this; cases this
    simp only [hne, decide_false, Bool.not_false, if_true, errfWL_eq ho hF hl.1, Option.isSome_some]
    exact ⟨_, _, rfl, StepPostW.errf R hl htok (by decide +kernel)⟩
  | none =>
    have h0 : o.Go = 0 := (rt.go.eq_zero_iff).2 hgo
    simp only [h0, decide_true, Bool.not_true, Bool.false_eq_true, if_false, Option.isSome_none]
    match args, htok, V with
    | [], htok, V =>
      simp only [List.length_nil, Int.natCast_zero, Int.reduceEq, decide_false, Bool.not_false, if_true, errfWL_eq ho hF hl.1]
      exact ⟨_, _, rfl, StepPostW.errf R hl htok (by decide +kernel)⟩
    | a :: b :: c, htok, V =>
      have : ¬ (((List.length (a :: b :: c) : Nat) : Int) = 1) := by simp; omega
      simp only [this, decide_false, Bool.not_false, if_true, errfWL_eq ho hF hl.1]
      exact ⟨_, _, rfl, StepPostW.errf R hl htok (by decide +kernel)⟩
    | [a], htok, V =>
      simp only [List.length_singleton, Int.natCast_one, decide_true, Bool.not_true, Bool.false_eq_true, if_false, V.tkGet0 rfl]
      cases hre : Modfile.goVersionRE a with
      | false =>
        simp only [Bool.not_false, if_true, errfWL_eq ho hF hl.1]
        exact ⟨_, _, rfl, StepPostW.errf R hl htok (by decide +kernel)⟩
      | true =>
        simp only [Bool.not_true, Bool.false_eq_true, if_false, heapAlloc, heapSet_of_get _ ho, 
          heapGet_listSet_same _ ho, heapGet_alloc_new, heapSet_alloc_new]
        refine ⟨_, _, rfl, ?_⟩
        exact StepPostW.build R hl ho (heapGet_listSet_same _ ho) (lines_same hl htok) rfl rfl rfl
          (fun rt1 => ⟨rt1.linkGo ⟨rfl, TR_of hl _ rfl⟩ _, rfl⟩) R.errs
theorem WA_toolchain (R : RepWS ι h fp errs st syn) (hl : RLine ι h lp l) (htok : l.token = pre ++ args)
    (fuel : Nat) (fix : Option (Bytes → Bytes → (Bytes × Option String))) (fx : Option Modfile.Fixer) :
    ∃ errs' h', WA fuel fp errs lp [116, 111, 111, 108, 99, 104, 97, 105, 110] { owner := lp, lo := (pre.length : Int) } fix h = .ok (((), errs'), h') ∧
      StepPostW ι h fp syn lp l pre (Modfile.WorkFile.add st l (B "toolchain") args fx) errs' h' := by
  obtain ⟨o, es, ho, hF, rt⟩ := R.objs
  have V := view_of hl htok
  unfold WA Rule.WorkFile_add
  simp +decide only [↓reduceIte, ho, bind, Except.bind, pure, Except.pure, errorfW_L, 
    TokRef_len_eq, TokRef_get_eq, V.tkLen]
  unfold Modfile.WorkFile.add
  simp only [beq_self_eq_true, if_true, (by decide +kernel : (B "toolchain" == B "go") = false), Bool.false_eq_true, if_false]
  cases htc : st.file.toolchain with
  | some g =>
    have hne : o.Toolchain ≠ 0 := fun e => by have := (rt.toolchain.eq_zero_iff).1 e; rw [htc] at this; cases this
    simp only [hne, decide_false, Bool.not_false, if_true, errfWL_eq ho hF hl.1, Option.isSome_some]
    exact ⟨_, _, rfl, StepPostW.errf R hl htok (by decide +kernel)⟩
  | none =>
    have h0 : o.Toolchain = 0 := (rt.toolchain.eq_zero_iff).2 htc
    simp only [h0, decide_true, Bool.not_true, Bool.false_eq_true, if_false, Option.isSome_none]
    match args, htok, V with
    | [], htok, V =>
      simp only [List.length_nil, Int.natCast_zero, Int.reduceEq, decide_false, Bool.not_false, if_true, errfWL_eq ho hF hl.1]
      exact ⟨_, _, rfl, StepPostW.errf R hl htok (by decide +kernel)⟩
    | a :: b :: c, htok, V =>
      have : ¬ (((List.length (a :: b :: c) : Nat) : Int) = 1) := by simp; omega
      simp only [this, decide_false, Bool.not_false, if_true, errfWL_eq ho hF hl.1]
      exact ⟨_, _, rfl, StepPostW.errf R hl htok (by decide +kernel)⟩
    | [a], htok, V =>
      simp only [List.length_singleton, Int.natCast_one, decide_true, Bool.not_true, Bool.false_eq_true, if_false, V.tkGet0 rfl]
      cases hre : Modfile.toolchainRE a with
      | false =>
        simp only [Bool.not_false, if_true, errfWL_eq ho hF hl.1]
        exact ⟨_, _, rfl, StepPostW.errf R hl htok (by decide +kernel)⟩
      | true =>
        simp only [Bool.not_true, Bool.false_eq_true, if_false, heapAlloc, heapSet_of_get _ ho, 
          heapGet_listSet_same _ ho, heapGet_alloc_new, heapSet_alloc_new]
        refine ⟨_, _, rfl, ?_⟩
        exact StepPostW.build R hl ho (heapGet_listSet_same _ ho) (lines_same hl htok) rfl rfl rfl
          (fun rt1 => ⟨rt1.linkToolchain ⟨rfl, TR_of hl _ rfl⟩ _, rfl⟩) R.errs

theorem WA_godebug (R : RepWS ι h fp errs st syn) (hl : RLine ι h lp l) (htok : l.token = pre ++ args)
    (fuel : Nat) (fix : Option (Bytes → Bytes → (Bytes × Option String))) (fx : Option Modfile.Fixer) :
    ∃ errs' h', WA fuel fp errs lp [103, 111, 100, 101, 98, 117, 103] { owner := lp, lo := (pre.length : Int) } fix h = .ok (((), errs'), h') ∧
      StepPostW ι h fp syn lp l pre (Modfile.WorkFile.add st l (B "godebug") args fx) errs' h' := by
  obtain ⟨o, es, ho, hF, rt⟩ := R.objs
  have V := view_of hl htok
  unfold WA Rule.WorkFile_add
  simp +decide only [↓reduceIte, ho, bind, Except.bind, pure, Except.pure, errorfW_L, 
    TokRef_len_eq, TokRef_get_eq, V.tkLen]
  unfold Modfile.WorkFile.add Modfile.addGodebug
  simp only [beq_self_eq_true, if_true, (by decide +kernel : (B "godebug" == B "go") = false),
    (by decide +kernel : (B "godebug" == B "toolchain") = false), Bool.false_eq_true, if_false]
  match args, htok, V with
  | [], htok, V =>
    simp only [List.length_nil, Int.natCast_zero, Int.reduceEq, decide_false, Bool.not_false, if_true, errfWL_eq ho hF hl.1]
    exact ⟨_, _, rfl, StepPostW.errf R hl htok (by decide +kernel)⟩
  | a :: b :: c, htok, V =>
    have : ¬ (((List.length (a :: b :: c) : Nat) : Int) = 1) := by simp; omega
    simp only [this, decide_false, Bool.not_false, if_true, errfWL_eq ho hF hl.1]
    exact ⟨_, _, rfl, StepPostW.errf R hl htok (by decide +kernel)⟩
  | [a], htok, V =>
    simp only [List.length_singleton, Int.natCast_one, decide_true, Bool.not_true, Bool.false_eq_true, if_false, V.tkGet0 rfl,
      GoRt.containsAny]
    cases hca : GoStrings.containsAny a [34, 96, 39, 44] with
    | true =>
      simp only [if_true, errfWL_eq ho hF hl.1]
      exact ⟨_, _, rfl, StepPostW.errf R hl htok (by decide +kernel)⟩
    | false =>
      simp only [Bool.false_eq_true, if_false, cut_one]
      cases hcut : GoStrings.cut a 61 with
      | none =>
        simp only [Bool.not_false, if_true, errfWL_eq ho hF hl.1]
        exact ⟨_, _, rfl, StepPostW.errf R hl htok (by decide +kernel)⟩
      | some kv =>
        obtain ⟨k, v⟩ := kv
        simp only [Bool.not_true, Bool.false_eq_true, if_false, heapAlloc, heapSet_of_get _ ho]
        refine ⟨_, _, rfl, ?_⟩
        exact StepPostW.build R hl ho (heapGet_listSet_same _ ho) (lines_same hl htok) rfl rfl rfl
          (fun rt1 => ⟨rt1.pushGodebug ⟨rfl, rfl, TR_of hl _ rfl⟩ _, rfl⟩) R.errs

theorem WA_use (R : RepWS ι h fp errs st syn) (hl : RLine ι h lp l) (htok : l.token = pre ++ args)
    (fuel : Nat) (fix : Option (Bytes → Bytes → (Bytes × Option String))) (fx : Option Modfile.Fixer)
    (hPS : ∀ a, args = [a] → PSok fuel a) :
    ∃ errs' h', WA fuel fp errs lp [117, 115, 101] { owner := lp, lo := (pre.length : Int) } fix h = .ok (((), errs'), h') ∧
      StepPostW ι h fp syn lp l pre (Modfile.WorkFile.add st l (B "use") args fx) errs' h' := by
  obtain ⟨o, es, ho, hF, rt⟩ := R.objs
  have V := view_of hl htok
  unfold WA Rule.WorkFile_add
  simp +decide only [↓reduceIte, bind, Except.bind, pure, Except.pure, errorfW_L, 
    TokRef_len_eq, TokRef_get_eq, TokRef_set_eq, V.tkLen]
  unfold Modfile.WorkFile.add
  simp only [beq_self_eq_true, if_true, (by decide +kernel : (B "use" == B "go") = false),
    (by decide +kernel : (B "use" == B "toolchain") = false), (by decide +kernel : (B "use" == B "godebug") = false), Bool.false_eq_true, if_false]
  match args, htok, V, hPS with
  | [], htok, V, _ =>
    simp only [List.length_nil, Int.natCast_zero, Int.reduceEq, decide_false, Bool.not_false, if_true, errfWL_eq ho hF hl.1]
    exact ⟨_, _, rfl, StepPostW.errf R hl htok (by decide +kernel)⟩
  | a :: b :: c, htok, V, _ =>
    have : ¬ (((List.length (a :: b :: c) : Nat) : Int) = 1) := by simp; omega
    simp only [this, decide_false, Bool.not_false, if_true, errfWL_eq ho hF hl.1]
    exact ⟨_, _, rfl, StepPostW.errf R hl htok (by decide +kernel)⟩
  | [a], htok, V, hPS =>
    obtain ⟨v, e, a', hout, hps⟩ := hPS a rfl
    simp only [List.length_singleton, Int.natCast_one, decide_true, Bool.not_true, Bool.false_eq_true, if_false, V.tkGet0 rfl, hps,
      V.tkSet0 (by simp), List.set_cons_zero]
    unfold PSOut at hout
    cases hm : Modfile.parseString a with
    | none =>
      rw [hm] at hout
      obtain ⟨he, rfl⟩ := hout
      have he' : e.isNone = false := by cases e <;> simp_all
      simp only [he', Bool.not_false, if_true, errfWL_eq ho hF (line_after hl _)]
      exact ⟨_, _, rfl, StepPostW.errW R hl _ (errV_rep' rfl (errAbs_fmt (by decide +kernel)))⟩
    | some tt =>
      obtain ⟨t, tok⟩ := tt
      rw [hm] at hout
      obtain ⟨rfl, rfl, rfl⟩ := hout
      simp only [Option.isNone_none, Bool.not_true, Bool.false_eq_true, if_false, heapAlloc, ho, heapSet_of_get _ ho]
      refine ⟨_, _, rfl, ?_⟩
      exact StepPostW.build R hl ho (heapGet_listSet_same _ ho) rfl rfl rfl rfl
        (fun rt1 => ⟨(rt1.pushUse ⟨rfl, rfl, TR_of hl _ rfl⟩ _).withLines _ (by simp), rfl⟩) R.errs

theorem WA_replace (R : RepWS ι h fp errs st syn) (hl : RLine ι h lp l) (_ : l.token = pre ++ args)
    (fuel : Nat) (fx : Option Modfile.Fixer) (hPR : PRok fuel h lp l pre args fx) :
    ∃ errs' h', WA fuel fp errs lp [114, 101, 112, 108, 97, 99, 101] { owner := lp, lo := (pre.length : Int) } (fixG fx) h = .ok (((), errs'), h') ∧
      StepPostW ι h fp syn lp l pre (Modfile.WorkFile.add st l (B "replace") args fx) errs' h' := by
  obtain ⟨o, es, ho, hF, rt⟩ := R.objs
  obtain ⟨rp, ep, h', hout, hpr⟩ := hPR (fileG syn es).Name [114, 101, 112, 108, 97, 99, 101]
  unfold WA Rule.WorkFile_add
  simp +decide only [↓reduceIte, ho, hF, hpr, bind, Except.bind, pure, Except.pure]
  unfold Modfile.WorkFile.add
  simp only [beq_self_eq_true, if_true, (by decide +kernel : (B "replace" == B "go") = false),
    (by decide +kernel : (B "replace" == B "toolchain") = false), (by decide +kernel : (B "replace" == B "godebug") = false),
    (by decide +kernel : (B "replace" == B "use") = false), Bool.false_eq_true, if_false]
  unfold PROut at hout
  cases hm : Modfile.parseReplace l.id args fx with
  | mk args' res =>
  rw [hm] at hout
  cases res with
  | error k =>
    obtain ⟨e, hpos, hea, rfl, rfl, rfl⟩ := hout
    have hne : ¬ ((((setToksH h lp (pre ++ args')).errors.length + 1 : Nat) : Int) = 0) := by omega
    simp only [hne, decide_false, Bool.not_false, if_true, heapGet_alloc_new]
    refine ⟨_, _, rfl, ?_⟩
    exact StepPostW.build R hl ho (o' := o) (by simpa using ho) rfl (by simp) (by simp) (by simp)
      (fun rt1 => ⟨(rt1.setToksH lp _).frameEM _ _, rfl⟩) (R.errs.snoc_rev ⟨hpos, hea⟩)
  | ok r =>
    obtain ⟨x, hold, hnew, hsyn, hid, rfl, rfl, rfl⟩ := hout
    have ho1 : heapGet (setToksH h lp (pre ++ args')).works fp = .ok o := by simpa using ho
    simp only [decide_true, Bool.not_true, Bool.false_eq_true, if_false, ho1, heapSet_of_get _ ho1]
    refine ⟨_, _, rfl, ?_⟩
    exact StepPostW.build R hl ho (heapGet_listSet_same _ ho1) rfl (by simp) (by simp) (by simp)
      (fun rt1 => ⟨(rt1.setToksH lp _).pushReplace ⟨hold, hnew, by rw [hsyn, hid]; exact TR_of hl _ (by simp)⟩ _, rfl⟩) R.errs

theorem WA_unknown (R : RepWS ι h fp errs st syn) (hl : RLine ι h lp l) (htok : l.token = pre ++ args)
    (fuel : Nat) (verb : Bytes) (fix : Option (Bytes → Bytes → (Bytes × Option String))) (fx : Option Modfile.Fixer)
    (hv : Modfile.verbIn verb Modfile.workVerbs = false) :
    ∃ errs' h', WA fuel fp errs lp verb { owner := lp, lo := (pre.length : Int) } fix h = .ok (((), errs'), h') ∧
      StepPostW ι h fp syn lp l pre (Modfile.WorkFile.add st l verb args fx) errs' h' := by
  obtain ⟨o, es, ho, hF, rt⟩ := R.objs
  rw [Proofs.ModfileC20.workAdd_unknown_verb st l verb args fx hv]
  obtain ⟨h1, h2, h3, h4, h5⟩ := not_workVerbs hv
  unfold WA Rule.WorkFile_add
  simp +decide only [↓reduceIte, h1, h2, h3, h4, h5, decide_false, Bool.false_eq_true, errorfW_L, errfWL_eq ho hF hl.1, bind, Except.bind, pure, Except.pure]
  exact ⟨_, _, rfl, StepPostW.errf R hl htok (by decide +kernel)⟩

theorem WA_step (R : RepWS ι h fp errs st syn) (hl : RLine ι h lp l) (htok : l.token = pre ++ args)
    (fuel : Nat) (verb : Bytes) (fx : Option Modfile.Fixer) (L : WorkLeaf fuel h lp l pre args verb fx) :
    ∃ errs' h', WA fuel fp errs lp verb { owner := lp, lo := (pre.length : Int) } (fixG fx) h = .ok (((), errs'), h') ∧
      StepPostW ι h fp syn lp l pre (Modfile.WorkFile.add st l verb args fx) errs' h' := by
  by_cases h1 : verb = B "go"
  · subst h1; have := WA_go R hl htok fuel (fixG fx) fx; rw [B_go] at this ⊢; exact this
  by_cases h2 : verb = B "toolchain"
  · subst h2; have := WA_toolchain R hl htok fuel (fixG fx) fx; rw [← B_toolchain] at this; exact this
  by_cases h3 : verb = B "godebug"
  · subst h3; have := WA_godebug R hl htok fuel (fixG fx) fx; rw [← B_godebug] at this; exact this
  by_cases h4 : verb = B "use"
  · subst h4; have := WA_use R hl htok fuel (fixG fx) fx (L.ps rfl); rw [← B_use] at this; exact this
  by_cases h5 : verb = B "replace"
  · subst h5; have := WA_replace R hl htok fuel fx (L.pr rfl); rw [← B_replace] at this; exact this
  refine WA_unknown R hl htok fuel verb _ fx ?_
  simp only [Modfile.verbIn, Modfile.workVerbs, List.any_cons, List.any_nil, Bool.or_false, Bool.or_eq_false_iff, beq_eq_false_iff_ne, ne_eq]
  exact ⟨Ne.symm h1, Ne.symm h2, Ne.symm h3, Ne.symm h4, Ne.symm h5⟩
end

end ModVerif.Tie.FnRuleAddE
