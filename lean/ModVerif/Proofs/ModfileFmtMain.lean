/-
  Comment assignment on trees without end-of-line comments (`assignComments_nil`), and how erasing positions
  (`eraseC`) and trimming comment texts (`normC`) act on the shape predicates and on the rendered comment lines.
  `eolComments x`: the end-of-line comments the lexer records on `x`.
-/
import ModVerif.Proofs.ModfileFmtParse
import ModVerif.Proofs.ModfileFmtRender
namespace ModVerif.Proofs.ModfileFmtMain
open ModVerif ModVerif.Modfile ModVerif.Proofs.ModfileLex
open ModVerif.Proofs.ModfileFmtLex ModVerif.Proofs.ModfileFmtLine ModVerif.Proofs.ModfileFmtStream
open ModVerif.Proofs.ModfileFmtTree ModVerif.Proofs.ModfileFmtRender ModVerif.Proofs.ModfileFmtParse
open ModVerif.Proofs.ModfileFmtTrim

def NoSuf : Expr → Prop
  | .commentBlock x => x.comments.suffix = []
  | .line l => l.comments.suffix = []
  | .lineBlock b => b.comments.suffix = [] ∧ b.lparen.comments.suffix = [] ∧
      (∀ l ∈ b.lines, l.comments.suffix = []) ∧ b.rparen.comments.suffix = []
  | .lparen x => x.comments.suffix = []
  | .rparen x => x.comments.suffix = []

theorem assignBefore_nil (p : Position) (cs : Comments) : assignBefore p cs [] = (cs, []) := by
  cases cs; simp [assignBefore, takeLine]

theorem preLines_nil : ∀ ls : List Line, preLines ls [] = (ls, []) := by
  intro ls
  induction ls with
  | nil => rfl
  | cons l ls ih => simp [preLines, assignBefore_nil, ih]

theorem preStmt_nil (s : Expr) : preStmt s [] = (s, []) := by
  cases s with
  | lineBlock b => simp [preStmt, assignBefore_nil, preLines_nil]
  | commentBlock x => simp [preStmt, assignBefore_nil, Expr.setComments, Expr.comments]
  | line x => simp [preStmt, assignBefore_nil, Expr.setComments, Expr.comments]
  | lparen x => simp [preStmt, assignBefore_nil, Expr.setComments, Expr.comments]
  | rparen x => simp [preStmt, assignBefore_nil, Expr.setComments, Expr.comments]

theorem preStmts_nil : ∀ ss : List Expr, preStmts ss [] = (ss, []) := by
  intro ss
  induction ss with
  | nil => rfl
  | cons s ss ih => simp [preStmts, preStmt_nil, ih]

theorem assignSuffix_nil (span : Position × Position) (cs : Comments) (h : cs.suffix = []) :
    assignSuffix span cs [] = (cs, []) := by
  cases cs
  simp only at h
  subst h
  unfold assignSuffix
  split <;> simp [takeSuffix]

theorem postLinesRev_nil : ∀ ls : List Line, (∀ l ∈ ls, l.comments.suffix = []) → postLinesRev ls [] = (ls, []) := by
  intro ls
  induction ls with
  | nil => intro _; rfl
  | cons l ls ih =>
    intro h
    simp [postLinesRev, assignSuffix_nil _ _ (h l (by simp)), ih (fun l' hl' => h l' (by simp [hl']))]

theorem postStmt_nil (s : Expr) (h : NoSuf s) : postStmt s [] = (s, []) := by
  cases s with
  | lineBlock b =>
    obtain ⟨h1, h2, h3, h4⟩ := h
    have hl := postLinesRev_nil b.lines.reverse (fun l hl => h3 l (by simpa using hl))
    simp [postStmt, assignSuffix_nil _ _ h1, assignSuffix_nil _ _ h2, assignSuffix_nil _ _ h4, hl]
  | commentBlock x => simp [postStmt, assignSuffix_nil _ _ (show x.comments.suffix = [] from h), Expr.setComments, Expr.comments]
  | line x => simp [postStmt, assignSuffix_nil _ _ (show x.comments.suffix = [] from h), Expr.setComments, Expr.comments]
  | lparen x => simp [postStmt, assignSuffix_nil _ _ (show x.comments.suffix = [] from h), Expr.setComments, Expr.comments]
  | rparen x => simp [postStmt, assignSuffix_nil _ _ (show x.comments.suffix = [] from h), Expr.setComments, Expr.comments]

theorem postStmtsRev_nil : ∀ ss : List Expr, (∀ s ∈ ss, NoSuf s) → postStmtsRev ss [] = (ss, []) := by
  intro ss
  induction ss with
  | nil => intro _; rfl
  | cons s ss ih =>
    intro h
    simp [postStmtsRev, postStmt_nil s (h s (by simp)), ih (fun s' hs' => h s' (by simp [hs']))]

theorem assignComments_nil (name : Bytes) (ss : List Expr) (h : ∀ s ∈ ss, NoSuf s) :
    assignComments { name := name, stmts := ss } [] = { name := name, stmts := ss } := by
  have hp := postStmtsRev_nil ss.reverse (fun s hs => h s (by simpa using hs))
  simp [assignComments, assignBefore_nil, preStmts_nil, hp]

theorem wf_noSuf {s : Expr} (h : WFStmt s) : NoSuf s := by
  cases s with
  | commentBlock x => exact h.2.2.1
  | line l => exact (show WFLine l from h).suffix
  | lineBlock b =>
    have h : WFBlock b := h
    refine ⟨h.suffix, by rw [h.lparen], ?_, h.rsuffix⟩
    have : ∀ (ls : List Line) (allow : Bool), WFBlkLines allow ls → ∀ l ∈ ls, l.comments.suffix = [] := by
      intro ls
      induction ls with
      | nil => intro _ _ l hl; simp at hl
      | cons l0 ls ih =>
        intro allow hw l hl
        rcases List.mem_cons.1 hl with rfl | hl
        · exact hw.1.suffix
        · exact ih true hw.2 l hl
    exact this b.lines false h.lines
  | lparen x => exact absurd h id
  | rparen x => exact absurd h id

theorem eraseC_token (c : Comment) : (eraseC c).token = c.token := rfl
theorem eraseC_suffix (c : Comment) : (eraseC c).suffix = c.suffix := rfl

theorem rBefore_erase (m : Nat) (cs : List Comment) : rBefore m (cs.map eraseC) = rBefore m cs := by
  simp only [rBefore, List.flatMap_map, eraseC]
  rfl

theorem topBeforeOK_erase (cs : List Comment) : TopBeforeOK (cs.map eraseC) ↔ TopBeforeOK cs := by
  simp [TopBeforeOK, eraseC]

theorem blkBeforeOK_erase : ∀ (cs : List Comment) (allow : Bool), BlkBeforeOK allow (cs.map eraseC) ↔ BlkBeforeOK allow cs := by
  intro cs
  induction cs with
  | nil => intro _; simp [BlkBeforeOK]
  | cons c cs ih =>
    intro allow
    simp only [List.map_cons, BlkBeforeOK, eraseC_token, eraseC_suffix, ih]

theorem rBefore_norm (m : Nat) (cs : List Comment) : rBefore m (cs.map normC) = rBefore m cs := by
  simp [rBefore, List.flatMap_map, normC, trimSpace_idem]

theorem normC_ok {c : Comment} (h : CommentOK c.token) : CommentOK (normC c).token := by
  obtain ⟨_, _, hok⟩ := trimSpace_comment h
  exact hok

theorem topBeforeOK_norm {cs : List Comment} (h : TopBeforeOK cs) : TopBeforeOK (cs.map normC) := by
  intro c hc
  obtain ⟨c0, hc0, rfl⟩ := List.mem_map.1 hc
  exact ⟨(h c0 hc0).1, normC_ok (h c0 hc0).2⟩

theorem blkBeforeOK_norm : ∀ (cs : List Comment) (allow : Bool), BlkBeforeOK allow cs → BlkBeforeOK allow (cs.map normC) := by
  intro cs
  induction cs with
  | nil => intro _ _; trivial
  | cons c cs ih =>
    intro allow h
    unfold BlkBeforeOK at h
    simp only [List.map_cons]
    unfold BlkBeforeOK
    by_cases he : c.token.isEmpty = true
    · simp only [he, if_true] at h
      have : c.token = [] := by simpa using he
      have hn : (normC c).token.isEmpty = true := by simp [normC, this, trimSpace_nil]
      simp only [hn, if_true]
      exact ⟨h.1, h.2.1, ih false h.2.2⟩
    · simp only [he, Bool.false_eq_true, if_false] at h
      have hok := normC_ok h.2.1
      obtain ⟨t, ht⟩ := commentOK_cons hok
      have hn : (normC c).token.isEmpty = false := by rw [ht]; rfl
      simp only [hn, Bool.false_eq_true, if_false]
      exact ⟨h.1, hok, ih true h.2.2⟩

theorem eraseC_normC (c : Comment) : eraseC (normC c) = normC c := rfl

/-- the end-of-line comments the lexer records while parsing `x` (in reverse source order) -/
def eolComments (x : Bytes) : List Comment :=
  match parseFile x with
  | .ok (_, i) => i.commentsRev
  | .error _ => []

theorem newInput_lineStart (data : Bytes) : LineStart (newInput data) := rfl

end ModVerif.Proofs.ModfileFmtMain
