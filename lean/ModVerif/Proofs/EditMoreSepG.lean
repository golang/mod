/-
  Consequences of `setRequireSeparateIndirect_inv`: the tree after SetRequireSeparateIndirect holds
  exactly the requested requirement lines (`setRequireSeparateIndirect_tree_exact`); one-operation and whole-session
  preservation of the tree invariant for ALL go.mod operations (`applyMod_invR_all` for every view; `applyMod_inv_all`,
  `runOps_inv_all`).
-/
import ModVerif.Proofs.EditMoreSepF
import ModVerif.Proofs.EditRefineInvRun
namespace ModVerif.Modfile.Edit
open ModVerif ModVerif.Modfile

/-- C16 `setRequireSeparateIndirect_tree_exact`: `setRequireSeparateIndirect_exact` at the level of the syntax tree -/
theorem setRequireSeparateIndirect_tree_exact (e e' : EFile) (want : List Want) (perm : List Want → List Want)
    (hperm : ∀ l, (perm l).Perm l) (hg : GoodWant want) (hi : Inv e) (hlive : ∀ r ∈ e.f.require, liveRq r = true)
    (hset : NoNestedIndirectMarker e) (h : setRequireSeparateIndirect e want perm = .ok e') :
    Inv (cleanup e') ∧
    (∀ w ∈ want, ∃ v ∈ view (cleanup e').f.syn.stmts, v.toks = [B "require", autoQuote w.path, w.vers] ∧
      isIndirectS v.suffix = w.indirect) ∧
    (∀ v ∈ view (cleanup e').f.syn.stmts, v.toks.head? = some (B "require") →
      ∃ w ∈ want, v.toks = [B "require", autoQuote w.path, w.vers] ∧ isIndirectS v.suffix = w.indirect) := by
  have hi' := cleanup_inv e' (setRequireSeparateIndirect_inv e e' want perm hperm hg hi hlive hset h)
  rcases setRequireSeparateIndirect_exact e e' want perm hperm hg hi.tinv h with ⟨hp, _, hsub⟩
  refine ⟨hi', ?_, ?_⟩
  · intro w hw
    have hmem : w.toReq ∈ (absOf (cleanup e').f).require := hp.symm.subset (List.mem_map.2 ⟨w, hw, rfl⟩)
    simp only [absOf, List.mem_map] at hmem
    rcases hmem with ⟨r, hr, hreq⟩
    simp only [Want.toReq, EditSpec.Req.mk.injEq] at hreq
    have hl : r.mod.path ≠ [] := by rw [hreq.1]; exact hg.2 w hw
    rcases hi'.require_line r hr hl with ⟨v, hv, _, htoks, hind⟩
    exact ⟨v, hv, by rw [htoks, hreq.1, hreq.2.1], by rw [hind, hreq.2.2]⟩
  · intro v hv hverb
    rcases hi'.r.require_line_entry v hv hverb with ⟨r, hr, _, _, htoks, hind⟩
    have hmem : (⟨r.mod.path, r.mod.version, r.indirect⟩ : EditSpec.Req) ∈ (absOf (cleanup e').f).require := by
      simp only [absOf, List.mem_map]; exact ⟨r, hr, rfl⟩
    rcases hsub _ hmem with ⟨w, hw, heq⟩
    simp only [Want.toReq, EditSpec.Req.mk.injEq] at heq
    exact ⟨w, hw, by rw [htoks, heq.1, heq.2.1], by rw [hind, heq.2.2]⟩

/-- validity of an operation's arguments in a given state: as `ValidArgsT`, and for the two bulk requirement setters
    distinct non-empty paths, every typed requirement live (a Cleanup has just run, as the property prescribes) and
    `NoNestedIndirectMarker` (excluding the recorded finding `C16_violated_indirect_marker_survives`) -/
def ValidArgsAll (e : EFile) : Op → Prop
  | .setRequire w _ => GoodWant w ∧ (∀ r ∈ e.f.require, liveRq r = true) ∧ NoNestedIndirectMarker e
  | .setRequireSeparateIndirect w _ => GoodWant w ∧ (∀ r ∈ e.f.require, liveRq r = true) ∧ NoNestedIndirectMarker e
  | op => ValidArgsT op

/-- `ValidArgsAll` for the view `V` (`fullView`: `ValidArgsAll`; `tokView`: `ValidArgsLive`) -/
def ValidArgsR (V : RqView) (e : EFile) : Op → Prop
  | .setRequire w _ => GoodWant w ∧ (∀ r ∈ e.f.require, liveRq r = true) ∧
      ∀ r ∈ e.f.require, ∀ v ∈ view e.f.syn.stmts, v.id = r.lineId → V.Settable v.suffix
  | .setRequireSeparateIndirect w _ => GoodWant w ∧ (∀ r ∈ e.f.require, liveRq r = true) ∧
      ∀ r ∈ e.f.require, ∀ v ∈ view e.f.syn.stmts, v.id = r.lineId → V.Settable v.suffix
  | op => ValidArgsT op

theorem applyMod_invR_all {V : RqView} (e e' : EFile) (op : Op) (hv : ValidArgsR V e op) (hi : InvR V e)
    (h : applyMod e op = some (.ok e')) : InvR V e' := by
  cases op with
  | setRequire w r =>
    simp only [applyMod, Option.some.injEq] at h
    exact setRequire_invR e e' w (permOf r) (permOf_perm r) hv.1 hi hv.2.1 hv.2.2 h
  | setRequireSeparateIndirect w r =>
    simp only [applyMod, Option.some.injEq] at h
    exact setRequireSeparateIndirect_invR e e' w (permOf r) (permOf_perm r) hv.1 hi hv.2.1 hv.2.2 h
  | _ => exact applyMod_invR e e' _ (by exact hv) hi h

theorem ValidArgsAll.r {e : EFile} {op : Op} (hv : ValidArgsAll e op) : ValidArgsR fullView e op := by cases op <;> exact hv
theorem ValidArgsT.r {V : RqView} {e : EFile} {op : Op} (hv : ValidArgsT op) : ValidArgsR V e op := by
  cases op <;> first | exact hv | exact hv.elim

/-- C15 `op_preserves_inv_all` -/
theorem applyMod_inv_all (e e' : EFile) (op : Op) (hv : ValidArgsAll e op) (hi : Inv e) (h : applyMod e op = some (.ok e')) :
    Inv e' :=
  (applyMod_invR_all e e' op hv.r hi.r h).full

def RunValid : EFile → List Op → Prop
  | _, [] => True
  | e, op :: ops =>
    ValidArgsAll e op ∧
      (∀ e', applyMod e op = some (.ok e') → RunValid e' ops) ∧
      (∀ err, applyMod e op = some (.error err) → err.isReturned = true → RunValid e ops)

theorem runValid_along (ops : List Op) (e : EFile) : RunValid e ops ↔ Along id applyMod ValidArgsAll e ops :=
  along_iff (fun _ => Iff.rfl) (fun _ _ _ => Iff.rfl) ops e

theorem runOps_inv_all (ops : List Op) (e : EFile) (res0 : List Bool) (i : Nat) (e' : EFile) (res : List Bool)
    (hv : RunValid e ops) (hi : Inv e) (h : runOps applyMod e ops res0 i = .done e' res) : Inv e' :=
  Along.done_inv (fun e _ => Inv e) (fun e op _ hi hv => ⟨hi, fun e' ha => applyMod_inv_all e e' op hv hi ha⟩)
    ops e res0 i e' res hi ((runValid_along ops e).1 hv) (by simpa using h)

/-- C15 `typed_eq_tree`, tree half, every go.mod operation (`typed_eq_tree_partial3`) -/
theorem typed_eq_tree_all (e e' : EFile) (ops : List Op) (res : List Bool) (hi : Inv e) (hv : RunValid e ops)
    (h : runOps applyMod e ops [] 0 = .done e' res) : Inv (cleanup e') :=
  cleanup_inv e' (runOps_inv_all ops e [] 0 e' res hv hi h)


/-! ### executable checks of the hypotheses (for concrete instances) -/

def validArgsTB : Op → Bool
  | .addGodebug k _ => !k.isEmpty
  | .dropGodebug k => !k.isEmpty
  | .addRequire p _ => !p.isEmpty
  | .addNewRequire p _ _ => !p.isEmpty
  | .dropRequire p => !p.isEmpty
  | .setRequire _ _ => false
  | .setRequireSeparateIndirect _ _ => false
  | .addExclude p _ => !p.isEmpty
  | .dropExclude p _ => !p.isEmpty
  | .addReplace op _ _ _ => !op.isEmpty
  | .dropReplace op _ => !op.isEmpty
  | .dropRetract lo hi => !lo.isEmpty || !hi.isEmpty
  | .addTool p => !p.isEmpty
  | .dropTool p => !p.isEmpty
  | _ => true

theorem validArgsTB_sound (op : Op) (h : validArgsTB op = true) : ValidArgsT op := by
  cases op <;> simp only [validArgsTB, ValidArgsT, Bool.or_eq_true] at h ⊢ <;>
    first
      | trivial
      | exact isEmpty_false_ne h
      | (cases h; done)
      | exact h.elim (fun h => Or.inl (isEmpty_false_ne h)) (fun h => Or.inr (isEmpty_false_ne h))

def goodWantB (w : List Want) : Bool := decide (w.Pairwise (fun a b => a.path ≠ b.path)) && w.all (fun x => !x.path.isEmpty)

theorem goodWantB_sound (w : List Want) (h : goodWantB w = true) : GoodWant w := by
  simp only [goodWantB, Bool.and_eq_true, decide_eq_true_eq, List.all_eq_true] at h
  exact ⟨h.1, fun x hx => isEmpty_false_ne (h.2 x hx)⟩

def bulkOKB (e : EFile) (w : List Want) : Bool :=
  goodWantB w && e.f.require.all liveRq && (view e.f.syn.stmts).all (fun v => decide (MarkerSettable v.suffix))

theorem bulkOKB_sound (e : EFile) (w : List Want) (h : bulkOKB e w = true) :
    GoodWant w ∧ (∀ r ∈ e.f.require, liveRq r = true) ∧ NoNestedIndirectMarker e := by
  simp only [bulkOKB, Bool.and_eq_true] at h
  exact ⟨goodWantB_sound w h.1.1, List.all_eq_true.1 h.1.2, NoNestedIndirectMarker.of_all e h.2⟩

def validArgsAllB (e : EFile) : Op → Bool
  | .setRequire w _ => bulkOKB e w
  | .setRequireSeparateIndirect w _ => bulkOKB e w
  | op => validArgsTB op

theorem validArgsAllB_sound (e : EFile) (op : Op) (h : validArgsAllB e op = true) : ValidArgsAll e op := by
  cases op <;> first
    | exact bulkOKB_sound e _ h
    | (simp only [ValidArgsAll]; exact validArgsTB_sound _ h)

def runValidB : EFile → List Op → Bool
  | _, [] => true
  | e, op :: ops =>
    validArgsAllB e op &&
      (match applyMod e op with
       | some (.ok e') => runValidB e' ops
       | some (.error err) => !err.isReturned || runValidB e ops
       | none => true)

theorem runValidB_sound (ops : List Op) : ∀ e : EFile, runValidB e ops = true → RunValid e ops := by
  induction ops with
  | nil => intro e _; trivial
  | cons op ops ih =>
    intro e h
    simp only [runValidB, Bool.and_eq_true] at h
    refine ⟨validArgsAllB_sound e op h.1, ?_, ?_⟩
    · intro e' ha
      have := h.2; rw [ha] at this
      exact ih e' this
    · intro err ha hr
      have := h.2; rw [ha] at this
      simp only [hr, Bool.not_true, Bool.false_or] at this
      exact ih e this

end ModVerif.Modfile.Edit
