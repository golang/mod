/-
  Tie proofs for the regenerated semver functions (Generated/FnSemver.lean): the character predicates
  and the digit / identifier scanning loops (isNum, isBadNum, parseInt, nextIdent, compareInt, isIdentChar).
-/
import ModVerif.Generated.FnSemver
import ModVerif.Model.Semver
import ModVerif.Proofs.GoRtLemmas
namespace ModVerif.TieFnSemver
open ModVerif ModVerif.GoRt

theorem digit_test (c : UInt8) :
    (decide ((48 : Int) ≤ ((c.toNat : Nat) : Int)) && decide (((c.toNat : Nat) : Int) ≤ (57 : Int))) = Semver.isDigit c := by
  simp only [int_le_byte (n := 48) (d := 48) rfl, byte_le_int (n := 57) (d := 57) rfl, Semver.isDigit]

theorem isNum_loop1_spec : ∀ (suf pre : Bytes) (fuel : Nat), suf.length < fuel →
    Generated.Semver.isNum_loop1 (pre ++ suf) fuel (pre.length : Int)
      = .ok ((pre.length + (suf.takeWhile Semver.isDigit).length : Nat) : Int) := by
  intro suf
  induction suf with
  | nil =>
    intro pre fuel hf
    obtain ⟨f, rfl⟩ : ∃ f, fuel = f + 1 := ⟨fuel - 1, by omega⟩
    simp [Generated.Semver.isNum_loop1, len_eq]
  | cons c suf ih =>
    intro pre fuel hf
    obtain ⟨f, rfl⟩ : ∃ f, fuel = f + 1 := ⟨fuel - 1, by simp at hf; omega⟩
    have hlt : (pre.length : Int) < len (pre ++ c :: suf) := by simp [len_eq]; omega
    have hrec := ih (pre ++ [c]) f (by simp at hf; omega)
    simp only [List.append_assoc, List.singleton_append, List.length_append, List.length_singleton,
      Int.natCast_add, Int.natCast_one] at hrec
    unfold Generated.Semver.isNum_loop1
    simp only [hlt, decide_true, if_true, idx_append_length, bind_ok, pure_eq_ok]
    have hd := digit_test c
    by_cases h1 : (48 : Int) ≤ ((c.toNat : Nat) : Int) <;> by_cases h2 : ((c.toNat : Nat) : Int) ≤ (57 : Int) <;>
      simp only [h1, h2, decide_true, decide_false, Bool.and_self, Bool.and_false, Bool.false_and] at hd <;>
      simp [h1, h2, ← hd]
    rw [hrec]; simp; omega

theorem isBadNum_loop1_eq (v : Bytes) : ∀ fuel i,
    Generated.Semver.isBadNum_loop1 v fuel i = Generated.Semver.isNum_loop1 v fuel i := by
  intro fuel
  induction fuel with
  | zero => intro i; rfl
  | succ f ih => intro i; simp only [Generated.Semver.isBadNum_loop1, Generated.Semver.isNum_loop1, ih]

theorem parseInt_loop1_eq (v : Bytes) : ∀ fuel i,
    Generated.Semver.parseInt_loop1 v fuel i = Generated.Semver.isNum_loop1 v fuel i := by
  intro fuel
  induction fuel with
  | zero => intro i; rfl
  | succ f ih => intro i; simp only [Generated.Semver.parseInt_loop1, Generated.Semver.isNum_loop1, ih]

theorem decide_scan_all (p : UInt8 → Bool) (v : Bytes) :
    decide ((((v.takeWhile p).length : Nat) : Int) = len v) = v.all p := by
  rw [Bool.eq_iff_iff, decide_eq_true_eq, ← length_takeWhile_eq_iff_all, len_eq]
  omega

theorem isNum_ok (v : Bytes) (fuel : Nat) (hf : v.length + 1 ≤ fuel) :
    Generated.Semver.isNum fuel v = .ok (Semver.isNum v) := by
  have h := isNum_loop1_spec v [] fuel (by omega)
  simp only [List.nil_append, List.length_nil, Int.natCast_zero, Nat.zero_add] at h
  simp only [Generated.Semver.isNum, h, bind_ok, pure_eq_ok, decide_scan_all, Semver.isNum]

theorem isBadNum_ok (v : Bytes) (fuel : Nat) (hf : v.length + 1 ≤ fuel) :
    Generated.Semver.isBadNum fuel v = .ok (Semver.isBadNum v) := by
  have h := isNum_loop1_spec v [] fuel (by omega)
  simp only [List.nil_append, List.length_nil, Int.natCast_zero, Nat.zero_add] at h
  simp only [Generated.Semver.isBadNum, isBadNum_loop1_eq, h, bind_ok, pure_eq_ok, decide_scan_all, Semver.isBadNum]
  by_cases hall : v.all Semver.isDigit = true
  · have hlen : (v.takeWhile Semver.isDigit).length = v.length := (length_takeWhile_eq_iff_all _ _).mpr hall
    rw [hlen, hall]
    cases v with
    | nil => simp
    | cons c r =>
      cases r with
      | nil => simp
      | cons d r =>
        have : (1 : Int) < (r.length : Int) + 1 + 1 := by omega
        simp [this, byte_eq_int (n := 48) (d := 48) rfl]
        by_cases hc : c = 48 <;> simp [hc]
  · simp [hall]


theorem parseInt_ok (v : Bytes) (fuel : Nat) (hf : v.length ≤ fuel) :
    Generated.Semver.parseInt fuel v =
      .ok (match Semver.parseInt v with | some (t, r) => (t, r, true) | none => ([], [], false)) := by
  cases v with
  | nil => simp [Generated.Semver.parseInt, Semver.parseInt]
  | cons c rest =>
    have hloop := isNum_loop1_spec rest [c] fuel (by simp at hf; omega)
    simp only [List.singleton_append, List.length_singleton, Int.natCast_one] at hloop
    have hd := digit_test c
    have hle := length_takeWhile_le Semver.isDigit rest
    have hst : sliceTo (c :: rest) ((1 + (rest.takeWhile Semver.isDigit).length : Nat) : Int)
        = .ok (c :: rest.takeWhile Semver.isDigit) := by
      rw [sliceTo_natCast (by simp; omega), Nat.add_comm, List.take_succ_cons, take_length_takeWhile]
    have hsf : sliceFrom (c :: rest) ((1 + (rest.takeWhile Semver.isDigit).length : Nat) : Int)
        = .ok (rest.dropWhile Semver.isDigit) := by
      rw [sliceFrom_natCast (by simp; omega), Nat.add_comm, List.drop_succ_cons, drop_length_takeWhile]
    simp only [Generated.Semver.parseInt, Semver.parseInt, parseInt_loop1_eq, hloop, idx_zero_cons, bind_ok, pure_eq_ok,
      hst, hsf]
    simp only [byte_lt_int (n := 48) (d := 48) rfl, int_lt_byte (n := 57) (d := 57) rfl,
      byte_eq_int (n := 48) (d := 48) rfl, Semver.isDigit]
    clear hst hsf hloop hle hd
    generalize rest.takeWhile Semver.isDigit = tw
    generalize rest.dropWhile Semver.isDigit = dw
    by_cases h1 : c < 48 <;> by_cases h2 : 57 < c <;> by_cases h3 : c = 48 <;> cases tw <;>
      simp [h1, h2, h3] at * <;> omega

theorem isIdentChar_byte (c : UInt8) :
    Generated.Semver.isIdentChar ((c.toNat : Nat) : Int) = Semver.isIdentChar c := by
  simp only [Generated.Semver.isIdentChar, Semver.isIdentChar,
    int_le_byte (n := 65) (d := 65) rfl, byte_le_int (n := 90) (d := 90) rfl,
    int_le_byte (n := 97) (d := 97) rfl, byte_le_int (n := 122) (d := 122) rfl,
    int_le_byte (n := 48) (d := 48) rfl, byte_le_int (n := 57) (d := 57) rfl,
    byte_eq_int (n := 45) (d := 45) rfl]
  by_cases h : c = 45 <;> simp [h]

theorem compareInt_eq (x y : Bytes) : Generated.Semver.compareInt x y = Semver.compareInt x y := by
  unfold Generated.Semver.compareInt Semver.compareInt
  simp only [len_eq, strLt_eq]
  by_cases h1 : x = y
  · simp [h1]
  · by_cases h2 : x.length < y.length
    · simp [h1, h2]
    · by_cases h3 : x.length > y.length
      · simp [h1, h2, h3]
      · by_cases h4 : bytesLt x y = true
        · simp [h1, h2, h3, h4]
        · simp [h1, h2, h3, h4]

theorem nextIdent_loop1_spec : ∀ (suf pre : Bytes) (fuel : Nat), suf.length < fuel →
    Generated.Semver.nextIdent_loop1 (pre ++ suf) fuel (pre.length : Int)
      = .ok ((pre.length + (suf.takeWhile (· != 46)).length : Nat) : Int) := by
  intro suf
  induction suf with
  | nil =>
    intro pre fuel hf
    obtain ⟨f, rfl⟩ : ∃ f, fuel = f + 1 := ⟨fuel - 1, by omega⟩
    simp [Generated.Semver.nextIdent_loop1, len_eq]
  | cons c suf ih =>
    intro pre fuel hf
    obtain ⟨f, rfl⟩ : ∃ f, fuel = f + 1 := ⟨fuel - 1, by simp at hf; omega⟩
    have hlt : (pre.length : Int) < len (pre ++ c :: suf) := by simp [len_eq]; omega
    have hrec := ih (pre ++ [c]) f (by simp at hf; omega)
    simp only [List.append_assoc, List.singleton_append, List.length_append, List.length_singleton,
      Int.natCast_add, Int.natCast_one] at hrec
    unfold Generated.Semver.nextIdent_loop1
    simp only [hlt, decide_true, if_true, idx_append_length, bind_ok, pure_eq_ok,
      byte_eq_int (n := 46) (d := 46) rfl]
    by_cases h : c = 46
    · simp [h]
    · simp [h, hrec]; omega

theorem nextIdent_ok (x : Bytes) (fuel : Nat) (hf : x.length + 1 ≤ fuel) :
    Generated.Semver.nextIdent fuel x = .ok (Semver.nextIdent x) := by
  have h := nextIdent_loop1_spec x [] fuel (by omega)
  simp only [List.nil_append, List.length_nil, Int.natCast_zero, Nat.zero_add] at h
  have hle := length_takeWhile_le (· != 46) x
  simp only [Generated.Semver.nextIdent, h, bind_ok, pure_eq_ok, sliceTo_natCast hle, sliceFrom_natCast hle,
    take_length_takeWhile, drop_length_takeWhile, Semver.nextIdent]

end ModVerif.TieFnSemver
