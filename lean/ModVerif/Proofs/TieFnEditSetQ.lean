/-
  The request as the driver allocates it (`allocReqs` = `newReqs` of
  Drv/GenEdit.lean: one fresh `Require` object per wanted requirement) with the proof that it establishes the argument
  hypotheses of the two ties, and the harness of the non-vacuity examples.
-/
import ModVerif.Proofs.TieFnEditSetF
import ModVerif.Proofs.TieFnEditSortEx
namespace ModVerif.Tie.FnEditSetQ
open ModVerif ModVerif.GoRt ModVerif.Generated.Edit ModVerif.Tie.FnEditRep
open ModVerif.Tie.FnEditSetD (ReqArgsS wantReq)
open ModVerif.Modfile.Edit (EFile Want setRequire setRequireSeparateIndirect treeIds)
open ModVerif.Drv.GenEdit (isPrintI quoteI)

/-- `newReqs` of Drv/GenEdit.lean: one fresh `Require` object (`Syntax == nil`) per wanted requirement -/
def allocReqs : List Want → Heap → List Int × Heap
  | [], h => ([], h)
  | w :: ws, h =>
    let r := allocReqs ws { h with requires := h.requires ++ [requireG (wantReq w)] }
    (((h.requires.length + 1 : Nat) : Int) :: r.1, r.2)

theorem RepFAt_allocReq {h : Heap} {o : File} {e : EFile} (R : RepFAt h o e) (v : Require) :
    RepFAt { h with requires := h.requires ++ [v] } o e := by
  have := FnEditSetF.RepFAt_rebuild R o.Require (h' := { h with requires := h.requires ++ [v] }) (fs' := e.f.syn) (n' := e.next)
    (rq' := e.f.require) (RepSyn.congr (h := h) (h' := { h with requires := h.requires ++ [v] }) rfl rfl rfl rfl R.syn) R.tok
    (LinesG.congr (h := h) (h' := { h with requires := h.requires ++ [v] }) R.linesG rfl) R.next
    (Nat.le_refl _) (R.require.mono (fun _ _ x => heapGet_alloc_old v x) (Nat.le_refl _)) ⟨rfl, rfl, rfl, rfl, rfl, rfl, rfl, rfl⟩
  exact this

theorem allocReqs_spec : ∀ (req : List Want) {h : Heap} {fp : Int} {e : EFile}, RepF h fp e →
    RepF (allocReqs req h).2 fp e ∧ ReqArgsS (allocReqs req h).2.requires (allocReqs req h).1 req ∧
      (allocReqs req h).2.mods = h.mods ∧ h.requires.length ≤ (allocReqs req h).2.requires.length ∧
      (∀ p v, heapGet h.requires p = .ok v → heapGet (allocReqs req h).2.requires p = .ok v) ∧
      (∀ p ∈ (allocReqs req h).1, h.requires.length < p.toNat)
  | [], h, fp, e, R => ⟨R, trivial, rfl, Nat.le_refl _, fun _ _ x => x, fun _ hp => by cases hp⟩
  | w :: ws, h, fp, e, R => by
    obtain ⟨o, ho, RA⟩ := R
    have R1 : RepF { h with requires := h.requires ++ [requireG (wantReq w)] } fp e := ⟨o, ho, RepFAt_allocReq RA _⟩
    obtain ⟨h1, h2, h3, h4, h5, h6⟩ := allocReqs_spec ws R1
    refine ⟨h1, ⟨h5 _ _ (heapGet_alloc_new _ _), h2⟩, h3, ?_, ?_, ?_⟩
    · simp only [allocReqs]; simp at h4; omega
    · intro p v hv; exact h5 p v (heapGet_alloc_old _ hv)
    · intro p hp
      simp only [allocReqs, List.mem_cons] at hp
      rcases hp with rfl | hp
      · omega
      · have := h6 p hp; simp at this; omega

theorem allocReqs_fresh (req : List Want) {h : Heap} {fp : Int} {e : EFile} (R : RepF h fp e) :
    ∀ o, heapGet (allocReqs req h).2.mods fp = .ok o → ∀ p ∈ (allocReqs req h).1, p ∉ o.Require := by
  intro o ho p hp hm
  obtain ⟨_, _, h3, _, _, h6⟩ := allocReqs_spec req R
  obtain ⟨o', ho', RA⟩ := R
  rw [h3, ho'] at ho
  cases ho
  have := (REntsL.mem_alloc RA.require.rel p hm).2
  have := h6 p hp
  omega

/-! ### the harness of the examples -/

def InTree (e : EFile) : Prop := ∀ rq ∈ e.f.require, rq.lineId ≠ 0 → rq.lineId ∈ treeIds e.f.syn.stmts

instance (e : EFile) : Decidable (InTree e) := by unfold InTree; exact inferInstance

/-- a single require line, then a block with an indirect and a direct requirement -/
def exMixed : Bytes :=
  B "module m\n\nrequire a.b/c v1.0.0\n\nrequire (\n\td.e/f v1.2.3 // indirect\n\tx.y/z v0.0.1\n)\n"

/-- one flat uncommented block -/
def exFlat : Bytes :=
  B "module m\n\ngo 1.17\n\nrequire (\n\td.e/f v1.2.3 // indirect\n\ta.b/c v1.0.0\n\tx.y/z v0.0.1\n)\n"

/-- update (version, indirect marking), delete (`x.y/z`), add (`g.h/i`, `k.l/m`) -/
def exReq : List Want :=
  [{ path := B "a.b/c", vers := B "v1.1.0", indirect := true }, { path := B "g.h/i", vers := B "v0.1.0", indirect := false },
   { path := B "d.e/f", vers := B "v1.2.3", indirect := false }, { path := B "k.l/m", vers := B "v0.2.0", indirect := true }]

/-- two versions for one path: SetRequire panics -/
def exReqBad : List Want :=
  [{ path := B "a.b/c", vers := B "v1.1.0", indirect := true }, { path := B "a.b/c", vers := B "v1.2.0", indirect := false }]

def setRequireOp (req : List Want) (fuel : Nat) (fp : Int) (h : Heap) : M (Unit × Heap) :=
  File_SetRequire isPrintI quoteI fuel fp (allocReqs req h).1 (allocReqs req h).2

def setRequireSepOp (req : List Want) (fuel : Nat) (fp : Int) (h : Heap) : M (Unit × Heap) :=
  File_SetRequireSeparateIndirect isPrintI quoteI fuel fp (allocReqs req h).1 (allocReqs req h).2

def orSelf (g : EFile → Except Modfile.Edit.EditErr EFile) (e : EFile) : EFile :=
  match g e with
  | .ok e' => e'
  | .error _ => e

def panics (file : Bytes) (op : Int → Heap → M (Unit × Heap)) : Bool :=
  match Modfile.parseStrict (B "go.mod") file none with
  | .ok f =>
    let (h, fp) := Drv.GenEdit.load f
    match op fp h with
    | .error .panic => true
    | _ => false
  | .error _ => false

def modelFails (file : Bytes) (g : EFile → Except Modfile.Edit.EditErr EFile) : Bool :=
  match Modfile.parseStrict (B "go.mod") file none with
  | .ok f => match g (Modfile.Edit.load f) with | .error _ => true | .ok _ => false
  | .error _ => false

end ModVerif.Tie.FnEditSetQ
