/-
  The abstraction of a go.mod / go.work file after dropping cleared placeholders (`absLive = absOf ∘ cleanup`), the
  line-id invariant the typed half of `removeDups` relies on, and `SortBlocks`' typed half = the specification's
  `removeDups`.
-/
import ModVerif.Proofs.EditRefineDups
import ModVerif.Model.Modfile.EditAbs
namespace ModVerif.Modfile.Edit
open ModVerif ModVerif.Modfile ModVerif.EditSpec

def liveG (g : Godebug) : Bool := !g.key.isEmpty
def liveRq (r : Require) : Bool := !r.mod.path.isEmpty
def liveX (x : Exclude) : Bool := !x.mod.path.isEmpty
def liveRp (r : Replace) : Bool := !r.old.path.isEmpty
def liveRt (r : Retract) : Bool := !r.interval.low.isEmpty || !r.interval.high.isEmpty
def liveT (t : Tool) : Bool := !t.path.isEmpty
def liveU (u : Use) : Bool := !u.path.isEmpty

def aG (g : Godebug) : Bytes × Bytes := (g.key, g.value)
def aRq (r : Require) : Req := ⟨r.mod.path, r.mod.version, r.indirect⟩
def aX (x : Exclude) : Bytes × Bytes := (x.mod.path, x.mod.version)
def aRp (r : Replace) : Repl := ⟨r.old.path, r.old.version, r.new.path, r.new.version⟩
def aRt (r : Retract) : Retr := ⟨r.interval.low, r.interval.high, r.rationale⟩
def aT (t : Tool) : Bytes := t.path
def aU (u : Use) : Bytes := u.path

/-- the typed lists without cleared placeholders, as an abstract file: what `Cleanup` leaves -/
def absLive (f : File) : AbsFile :=
  { module := f.module.map (·.mod.path), go := f.go.map (·.version), toolchain := f.toolchain.map (·.name),
    godebug := liveAbs liveG aG f.godebug, require := liveAbs liveRq aRq f.require,
    exclude := liveAbs liveX aX f.exclude, replace := liveAbs liveRp aRp f.replace,
    retract := liveAbs liveRt aRt f.retract, tool := liveAbs liveT aT f.tool }

def absLiveWork (f : WorkFile) : AbsFile :=
  { go := f.go.map (·.version), toolchain := f.toolchain.map (·.name),
    godebug := liveAbs liveG aG f.godebug, replace := liveAbs liveRp aRp f.replace, use := liveAbs liveU aU f.use }

theorem absLive_eq_cleanup (e : EFile) : absLive e.f = absOf (cleanup e).f := rfl
theorem absLiveWork_eq_cleanup (e : EWork) : absLiveWork e.f = absOfWork (workCleanup e).f := rfl

theorem ne_nil_live {p : Bytes} (hp : p ≠ []) : (!p.isEmpty) = true := by
  cases p with
  | nil => exact absurd rfl hp
  | cons _ _ => rfl

theorem ne_nil_of_beq {a k : Bytes} (hk : k ≠ []) (h : (a == k) = true) : (!a.isEmpty) = true := by
  rw [eq_of_beq h]; exact ne_nil_live hk

theorem interval_beq (r : Retract) (lo hi : Bytes) :
    (r.interval == ({ low := lo, high := hi } : VersionInterval)) = (r.interval.low == lo && r.interval.high == hi) := by
  rcases r with ⟨⟨l, h⟩, _, _⟩
  rw [Bool.eq_iff_iff]; simp

theorem dropGodebug_abs (k : Bytes) (l : List Godebug) :
    liveAbs liveG aG (clearM (fun g => g.key == k) clearedGodebug l) = dropAll (fun e => e.1 == k) (liveAbs liveG aG l) :=
  liveAbs_clearM l

theorem dropRequire_abs (p : Bytes) (l : List Require) :
    liveAbs liveRq aRq (clearM (fun r => r.mod.path == p) clearedRequire l) = dropAll (fun r => r.path == p) (liveAbs liveRq aRq l) :=
  liveAbs_clearM l

theorem dropExclude_abs (p v : Bytes) (l : List Exclude) :
    liveAbs liveX aX (clearM (fun x => x.mod.path == p && x.mod.version == v) clearedExclude l)
      = dropAll (fun x => x == (p, v)) (liveAbs liveX aX l) :=
  liveAbs_clearM l

theorem dropReplace_abs (op ov : Bytes) (l : List Replace) :
    liveAbs liveRp aRp (clearM (fun r => r.old.path == op && r.old.version == ov) clearedReplace l)
      = dropAll (fun r => r.oldPath == op && r.oldVers == ov) (liveAbs liveRp aRp l) :=
  liveAbs_clearM l

theorem dropRetract_abs (lo hi : Bytes) (l : List Retract) :
    liveAbs liveRt aRt (clearM (fun r => r.interval == ({ low := lo, high := hi } : VersionInterval)) clearedRetract l)
      = dropAll (fun r => r.lo == lo && r.hi == hi) (liveAbs liveRt aRt l) :=
  liveAbs_clearM l rfl fun x _ => (interval_beq x lo hi).symm

theorem dropTool_abs (p : Bytes) (l : List Tool) :
    liveAbs liveT aT (clearM (fun t => t.path == p) clearedTool l) = dropAll (fun t => t == p) (liveAbs liveT aT l) :=
  liveAbs_clearM l

theorem dropUse_abs (d : Bytes) (l : List Use) :
    liveAbs liveU aU (clearM (fun u => u.path == d) clearedUse l) = dropAll (fun u => u == d) (liveAbs liveU aU l) :=
  liveAbs_clearM l

def idsOf (f : File) : List Nat :=
  liveIds liveX (·.lineId) f.exclude ++ (liveIds liveRp (·.lineId) f.replace ++ liveIds liveT (·.lineId) f.tool)

/-- the line ids of the live exclude / replace / tool entries are pairwise different, real (≠ nil id) and below the
    fresh-id counter; cleared entries carry the nil id.  (`removeDups` filters the typed lists by line id.) -/
structure TInv (e : EFile) : Prop where
  wfX : IdWF liveX (·.lineId) e.f.exclude
  wfR : IdWF liveRp (·.lineId) e.f.replace
  wfT : IdWF liveT (·.lineId) e.f.tool
  nodup : (idsOf e.f).Nodup
  lt : ∀ i ∈ idsOf e.f, i < e.next
  pos : 0 < e.next

structure WInv (e : EWork) : Prop where
  wfR : IdWF liveRp (·.lineId) e.f.replace
  nodup : (liveIds liveRp (·.lineId) e.f.replace).Nodup
  lt : ∀ i ∈ liveIds liveRp (·.lineId) e.f.replace, i < e.next
  pos : 0 < e.next

theorem TInv.of_sublist {e e' : EFile} (h : TInv e) (wfX : IdWF liveX (·.lineId) e'.f.exclude)
    (wfR : IdWF liveRp (·.lineId) e'.f.replace) (wfT : IdWF liveT (·.lineId) e'.f.tool)
    (hs : (idsOf e'.f).Sublist (idsOf e.f)) (hn : e.next ≤ e'.next) : TInv e' :=
  ⟨wfX, wfR, wfT, List.Nodup.sublist hs h.nodup, fun i hi => Nat.lt_of_lt_of_le (h.lt i (hs.subset hi)) hn, Nat.lt_of_lt_of_le h.pos hn⟩

theorem TInv.of_sublist_fresh {e e' : EFile} (h : TInv e) (wfX : IdWF liveX (·.lineId) e'.f.exclude)
    (wfR : IdWF liveRp (·.lineId) e'.f.replace) (wfT : IdWF liveT (·.lineId) e'.f.tool)
    (m : List Nat) (hs : (idsOf e'.f).Sublist m) (hm : m.Perm (e.next :: idsOf e.f)) (hn : e.next < e'.next) : TInv e' := by
  have hnd : (e.next :: idsOf e.f).Nodup :=
    List.nodup_cons.2 ⟨fun hmem => Nat.lt_irrefl _ (h.lt _ hmem), h.nodup⟩
  refine ⟨wfX, wfR, wfT, List.Nodup.sublist hs (hm.symm.nodup hnd), ?_, Nat.lt_trans h.pos hn⟩
  intro i hi
  have := hm.subset (hs.subset hi)
  rcases List.mem_cons.1 this with rfl | h2
  · exact hn
  · exact Nat.lt_trans (h.lt i h2) hn

theorem modVersion_beq (x y : ModVersion) : (y == x) = ((y.path, y.version) == (x.path, x.version)) := by
  cases x; cases y
  rw [Bool.eq_iff_iff]; simp

theorem kill_disjoint {α γ : Type} {live0 : α → Bool} {id0 : α → Nat} {l0 : List α} (hwf0 : IdWF live0 id0 l0)
    {live : γ → Bool} {id : γ → Nat} {l : List γ} (hwf : IdWF live id l)
    (hdis : ∀ a ∈ liveIds live0 id0 l0, ∀ b ∈ liveIds live id l, a ≠ b)
    {K : List Nat} (hK : ∀ i ∈ K, ∃ x ∈ l0, id0 x = i) : ∀ x ∈ l, live x = true → id x ∉ K := by
  intro x hx hl hmem
  rcases hK _ hmem with ⟨y, hy, e⟩
  have hne := (hwf x hx).1 hl
  have hly : live0 y = true := by
    cases h : live0 y with
    | true => rfl
    | false => have := (hwf0 y hy).2 h; omega
  exact hdis (id0 y) ((mem_liveIds live0 id0).2 ⟨y, hy, hly, rfl⟩) (id x) ((mem_liveIds live id).2 ⟨x, hx, hl, rfl⟩) e

theorem replace_old_live (x y : Replace) (hx : liveRp x = true) (hy : liveRp y = false) : (y.old == x.old) = false := by
  cases hb : (y.old == x.old) with
  | false => rfl
  | true =>
    have : y.old = x.old := eq_of_beq hb
    simp [liveRp, this] at hy hx; simp [hx] at hy

theorem removeDups_typed (syn : FileSyntax) (ex : List Exclude) (rp : List Replace) (tl : List Tool)
    (hX : IdWF liveX (·.lineId) ex) (hR : IdWF liveRp (·.lineId) rp) (hT : IdWF liveT (·.lineId) tl)
    (hnd : (liveIds liveX (·.lineId) ex ++ (liveIds liveRp (·.lineId) rp ++ liveIds liveT (·.lineId) tl)).Nodup) :
    ∃ syn' pX pR pT, removeDups syn (some ex) rp (some tl) = (syn', some (ex.filter pX), rp.filter pR, some (tl.filter pT)) ∧
      liveAbs liveX aX (ex.filter pX) = dedupFirst id (liveAbs liveX aX ex) ∧
      liveAbs liveRp aRp (rp.filter pR) = dedupLast (fun r : Repl => (r.oldPath, r.oldVers)) (liveAbs liveRp aRp rp) ∧
      liveAbs liveT aT (tl.filter pT) = dedupFirst id (liveAbs liveT aT tl) := by
  rcases List.nodup_append.1 hnd with ⟨ndX, ndRT, disX⟩
  rcases List.nodup_append.1 ndRT with ⟨ndR, ndT, disRT⟩
  refine ⟨_, _, _, _, rfl, ?_, ?_, ?_⟩
  · rw [dedupFirst_eq_keepFirst]
    have := killLater_abs (fun x : Exclude => x.mod) (·.lineId) liveX aX (id : Bytes × Bytes → Bytes × Bytes)
      (fun x y _ _ => modVersion_beq x.mod y.mod)
      (fun x y hx hy => by
        cases hb : (y.mod == x.mod) with
        | false => rfl
        | true =>
          have : y.mod = x.mod := eq_of_beq hb
          simp [liveX, this] at hy hx; simp [hx] at hy)
      ex [] [] [] hX ndX (fun _ _ _ => by simp) (fun _ _ => rfl)
    simpa using this
  · have hK : ∀ x ∈ rp, liveRp x = true → x.lineId ∉ killLater (fun x : Exclude => x.mod) (·.lineId) ex [] :=
      kill_disjoint hX hR (fun a ha b hb => disX a ha b (List.mem_append_left _ hb))
        (fun i hi => killLater_subset _ _ ex [] i hi)
    exact killEarlier_abs liveRp aRp (fun r : Repl => (r.oldPath, r.oldVers))
      (fun x y _ _ => modVersion_beq x.old y.old) replace_old_live rp _ hR ndR hK
  · rw [dedupFirst_eq_keepFirst]
    have hK : ∀ x ∈ tl, liveT x = true → x.lineId ∉
        killLater (fun x : Exclude => x.mod) (·.lineId) ex [] ++ killEarlier rp := by
      intro x hx hl hmem
      rcases List.mem_append.1 hmem with h | h
      · exact kill_disjoint hX hT (fun a ha b hb => disX a ha b (List.mem_append_right _ hb))
          (fun i hi => killLater_subset _ _ ex [] i hi) x hx hl h
      · exact kill_disjoint hR hT (fun a ha b hb => disRT a ha b hb) (fun i hi => killEarlier_subset rp i hi) x hx hl h
    exact killLater_abs (fun t : Tool => t.path) (·.lineId) liveT aT (id : Bytes → Bytes)
      (fun x y _ _ => rfl)
      (fun x y hx hy => by
        cases hb : (y.path == x.path) with
        | false => rfl
        | true =>
          have : y.path = x.path := eq_of_beq hb
          simp [liveT, this] at hy hx; simp [hx] at hy)
      tl _ [] [] hT ndT hK (fun _ _ => rfl)

theorem sortBlocks_abs (e : EFile) (h : TInv e) :
    absLive (sortBlocks e).f = EditSpec.removeDups (absLive e.f) ∧ TInv (sortBlocks e) := by
  rcases removeDups_typed e.f.syn e.f.exclude e.f.replace e.f.tool h.wfX h.wfR h.wfT h.nodup with
    ⟨syn', pX, pR, pT, heq, h1, h2, h3⟩
  unfold sortBlocks
  rw [heq]
  simp only [Option.getD_some]
  constructor
  · simp only [absLive, EditSpec.removeDups, h1, h2, h3]
  · refine TInv.of_sublist h (IdWF_filter _ h.wfX) (IdWF_filter _ h.wfR) (IdWF_filter _ h.wfT) ?_ (Nat.le_refl _)
    exact (liveIds_filter_sublist _ _ _ _).append ((liveIds_filter_sublist _ _ _ _).append (liveIds_filter_sublist _ _ _ _))

theorem cleanup_abs (e : EFile) (h : TInv e) : absLive (cleanup e).f = absLive e.f ∧ TInv (cleanup e) := by
  constructor
  · simp only [absLive, cleanup]
    congr 1 <;> exact liveAbs_filter_live _ _ _
  · refine TInv.of_sublist h (IdWF_filter _ h.wfX) (IdWF_filter _ h.wfR) (IdWF_filter _ h.wfT) ?_ (Nat.le_refl _)
    exact (liveIds_filter_sublist _ _ _ _).append ((liveIds_filter_sublist _ _ _ _).append (liveIds_filter_sublist _ _ _ _))

end ModVerif.Modfile.Edit
