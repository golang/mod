/- Helper lemmas for C18: parsePseudoVersion and the accessors on a pseudo-version text; PseudoVersion
   produces such a text; Compare on these texts; the clauses of the property, assembled per form.
   "form (1)" … "form (5)" is the numbering of the package comment of module/pseudo.go: (1) no base, (2)/(3) a release base
   without / with `+incompatible`, (4)/(5) a prerelease base.  The `…_aux` theorems at the end are the complete statements of
   Props/C18.lean, which holds the statements and refers here for the proofs. -/
import ModVerif.Proofs.PseudoMain
namespace ModVerif.Proofs.Pseudo
open ModVerif ModVerif.PseudoSpec
open ModVerif.Pseudo hiding isDigit isAlnum
open ModVerif.SemverSpec (PreOpt BuildOpt)
open ModVerif.Semver (dottedOK goodPre)

/-- the `base` string parsePseudoVersion extracts: "vX.0.0", "vX.Y.(Z+1)-0" or "vX.Y.Z-pre.0" -/
def pvBase (maj min pat R0 : Bytes) : Bytes :=
  118 :: maj ++ 46 :: min ++ 46 :: pat ++ (if R0.isEmpty then [] else 45 :: R0.dropLast)

/-- the last-index computations of parsePseudoVersion on the text before the revision -/
theorem parse_inner {maj min pat R0 ts : Bytes}
    (hR : Mid min pat R0) (hts : Ts ts) :
    let v := pvP maj min pat R0 ++ ts
    ∃ (a2 b2 : Bytes), splitLast 45 v = some (a2, b2) ∧
      ((R0 = [] ∧ a2 = pvBase maj min pat R0 ∧ b2 = ts ∧
          ∃ a b, splitLast 46 v = some (a, b) ∧ a.length < a2.length) ∨
       (R0 ≠ [] ∧ splitLast 46 v = some (pvBase maj min pat R0, ts) ∧ a2.length < (pvBase maj min pat R0).length)) := by
  intro v
  obtain ⟨nd45, nd46, _⟩ := digits_no ts hts.2
  cases hR with
  | nobase =>
    have e1 : v = (118 :: maj ++ [46, 48, 46, 48]) ++ 45 :: ts := by simp [v, pvP]
    have e2 : v = (118 :: maj ++ [46, 48]) ++ 46 :: ([48, 45] ++ ts) := by simp [v, pvP]
    refine ⟨118 :: maj ++ [46, 48, 46, 48], ts, by rw [e1]; exact splitLast_append 45 _ _ nd45, Or.inl ⟨rfl, ?_, rfl, ?_⟩⟩
    · simp [pvBase]
    · refine ⟨118 :: maj ++ [46, 48], [48, 45] ++ ts, ?_, by simp⟩
      rw [e2]; apply splitLast_append
      simp [nd46]
  | release =>
    have e1 : v = (118 :: maj ++ 46 :: min ++ 46 :: pat ++ [45, 48]) ++ 46 :: ts := by simp [v, pvP]
    have hb : pvBase maj min pat [48, 46] = 118 :: maj ++ 46 :: min ++ 46 :: pat ++ [45, 48] := by simp [pvBase]
    have hmem : (45 : UInt8) ∈ (118 :: maj ++ 46 :: min ++ 46 :: pat ++ [45, 48] : Bytes) := by simp
    obtain ⟨a2, b2, s1, s2⟩ := last_dash_before_dot 45 46 (by decide) _ ts nd45 hmem
    refine ⟨a2, b2, by rw [e1]; exact s1, Or.inr ⟨by simp, ?_, ?_⟩⟩
    · rw [e1, hb]; exact splitLast_append 46 _ _ nd46
    · rw [hb]; exact s2
  | prerelease _ _ body hb' =>
    have e1 : v = (118 :: maj ++ 46 :: min ++ 46 :: pat ++ 45 :: body ++ [46, 48]) ++ 46 :: ts := by simp [v, pvP]
    have hb : pvBase maj min pat (body ++ [46, 48, 46]) = 118 :: maj ++ 46 :: min ++ 46 :: pat ++ 45 :: body ++ [46, 48] := by
      have : (body ++ [46, 48, 46] : Bytes) = (body ++ [46, 48]) ++ [46] := by simp
      simp only [pvBase]
      rw [this, List.dropLast_concat]
      simp
    have hmem : (45 : UInt8) ∈ (118 :: maj ++ 46 :: min ++ 46 :: pat ++ 45 :: body ++ [46, 48] : Bytes) := by simp
    obtain ⟨a2, b2, s1, s2⟩ := last_dash_before_dot 45 46 (by decide) _ ts nd45 hmem
    refine ⟨a2, b2, by rw [e1]; exact s1, Or.inr ⟨by simp, ?_, ?_⟩⟩
    · rw [e1, hb]; exact splitLast_append 46 _ _ nd46
    · rw [hb]; exact s2

theorem parsePseudo_pvText {maj min pat R0 ts rev bld : Bytes} (hmaj : Num maj) (hmin : Num min) (hpat : Num pat)
    (hR : Mid min pat R0) (hts : Ts ts) (hrev : Rev rev) (hbld : BuildOpt bld) :
    parsePseudoVersion (pvText maj min pat R0 ts rev bld)
      = .ok ⟨pvBase maj min pat R0, ts, rev, bld⟩ := by
  have hps := (isPseudoVersion_pvText hmaj hmin hpat hR hts hrev hbld).2
  have hbuild := Semver.build_spec (parse_pvText hmaj hmin hpat hR hts hrev hbld)
  unfold parsePseudoVersion
  simp only [hps, Bool.not_true, Bool.false_eq_true, if_false, hbuild]
  rw [pvText_eq, trimSuffix_append, splitLast_head hrev]
  obtain ⟨a2, b2, s45, hcase⟩ := parse_inner (maj := maj) hR hts
  simp only [s45]
  rcases hcase with ⟨_, ea, eb, a, b, s46, hlt⟩ | ⟨_, s46, hlt⟩
  · simp only [s46]
    have : ¬ ((a.length : Int) > (a2.length : Int)) := by omega
    rw [if_neg this]
    simp [ea, eb]
  · simp only [s46]
    have : ((pvBase maj min pat R0).length : Int) > (a2.length : Int) := by omega
    rw [if_pos this]

theorem rev_pvText {maj min pat R0 ts rev bld : Bytes} (hmaj : Num maj) (hmin : Num min) (hpat : Num pat)
    (hR : Mid min pat R0) (hts : Ts ts) (hrev : Rev rev) (hbld : BuildOpt bld) :
    pseudoVersionRev (pvText maj min pat R0 ts rev bld) = .ok rev := by
  simp [pseudoVersionRev, parsePseudo_pvText hmaj hmin hpat hR hts hrev hbld]

theorem time_pvText {maj min pat R0 ts rev bld : Bytes} (hmaj : Num maj) (hmin : Num min) (hpat : Num pat)
    (hR : Mid min pat R0) (hts : Ts ts) (hrev : Rev rev) (hbld : BuildOpt bld) :
    pseudoVersionTime (pvText maj min pat R0 ts rev bld) = if timeValid ts then .ok ts else .error .time := by
  simp [pseudoVersionTime, parsePseudo_pvText hmaj hmin hpat hR hts hrev hbld]

theorem preOpt_nil : PreOpt [] := Or.inl rfl
theorem buildOpt_nil : BuildOpt [] := Or.inl rfl

/-- form (1) -/
theorem base_nobase {maj ts rev : Bytes} (hmaj : Num maj) (hts : Ts ts) (hrev : Rev rev) :
    pseudoVersionBase (pvText maj [48] [48] [] ts rev []) = .ok [] := by
  have hp := parsePseudo_pvText hmaj num0 num0 Mid.nobase hts hrev buildOpt_nil
  have hpre : Semver.prerelease (pvBase maj [48] [48] []) = [] := by
    have := parse_full hmaj num0 num0 preOpt_nil buildOpt_nil
    simp only [List.append_nil] at this
    have e : pvBase maj [48] [48] [] = 118 :: maj ++ 46 :: [48] ++ 46 :: [48] := by simp [pvBase]
    rw [e]; unfold Semver.prerelease; rw [this]
  simp [pseudoVersionBase, hp, hpre]

/-- forms (2), (3) -/
theorem base_release {maj min pat pat0 ts rev bld : Bytes} (hmaj : Num maj) (hmin : Num min) (hpat : Num pat)
    (hts : Ts ts) (hrev : Rev rev) (hbld : BuildOpt bld) (hdec : decDecimal pat = pat0) (hne : pat0 ≠ []) :
    pseudoVersionBase (pvText maj min pat [48, 46] ts rev bld)
      = .ok (118 :: maj ++ 46 :: min ++ 46 :: pat0 ++ bld) := by
  have hp := parsePseudo_pvText hmaj hmin hpat (Mid.release min pat) hts hrev hbld
  have hb : pvBase maj min pat [48, 46] = 118 :: maj ++ 46 :: min ++ 46 :: pat ++ [45, 48] := by simp [pvBase]
  have hpre0 : PreOpt [45, 48] := (Semver.preOpt_iff _).mpr (Or.inr ⟨[48], rfl, by decide⟩)
  have hpre : Semver.prerelease (pvBase maj min pat [48, 46]) = [45, 48] := by
    have := parse_full hmaj hmin hpat hpre0 buildOpt_nil
    simp only [List.append_nil] at this
    rw [hb]; unfold Semver.prerelease; rw [this]
  have htrim : trimSuffix (pvBase maj min pat [48, 46]) [45, 48] = 118 :: maj ++ 46 :: min ++ 46 :: pat := by
    rw [hb]; exact trimSuffix_append _ _
  have hsplit : splitLast 46 (118 :: maj ++ 46 :: min ++ 46 :: pat) = some (118 :: maj ++ 46 :: min, pat) := by
    exact splitLast_append 46 (118 :: maj ++ 46 :: min) pat (digits_no pat hpat.2.1).2.1
  have hne' : pat0.isEmpty = false := by
    cases pat0 with
    | nil => exact absurd rfl hne
    | cons _ _ => rfl
  simp only [pseudoVersionBase, hp, hpre, htrim, hsplit, hdec, hne']
  simp

/-- forms (4), (5) -/
theorem base_prerelease {maj min pat body ts rev bld : Bytes} (hmaj : Num maj) (hmin : Num min) (hpat : Num pat)
    (hd : dottedOK goodPre body = true)
    (hts : Ts ts) (hrev : Rev rev) (hbld : BuildOpt bld) :
    pseudoVersionBase (pvText maj min pat (body ++ [46, 48, 46]) ts rev bld)
      = .ok (118 :: maj ++ 46 :: min ++ 46 :: pat ++ 45 :: body ++ bld) := by
  have hp := parsePseudo_pvText hmaj hmin hpat (Mid.prerelease min pat body hd) hts hrev hbld
  have hb : pvBase maj min pat (body ++ [46, 48, 46]) = (118 :: maj ++ 46 :: min ++ 46 :: pat ++ 45 :: body) ++ [46, 48] := by
    have : (body ++ [46, 48, 46] : Bytes) = (body ++ [46, 48]) ++ [46] := by simp
    simp only [pvBase]
    rw [this, List.dropLast_concat]
    simp
  have hpre0 : PreOpt (45 :: body ++ [46, 48]) := by
    refine (Semver.preOpt_iff _).mpr (Or.inr ⟨body ++ [46, 48], rfl, ?_⟩)
    rw [show (body ++ [46, 48] : Bytes) = body ++ 46 :: [48] by simp, dottedOK_append_dot, hd]; rfl
  have hpre : Semver.prerelease (pvBase maj min pat (body ++ [46, 48, 46])) = 45 :: body ++ [46, 48] := by
    have := parse_full hmaj hmin hpat hpre0 buildOpt_nil
    simp only [List.append_nil] at this
    have e : (118 :: maj ++ 46 :: min ++ 46 :: pat ++ 45 :: body) ++ [46, 48]
        = 118 :: maj ++ 46 :: min ++ 46 :: pat ++ (45 :: body ++ [46, 48]) := by simp
    rw [hb, e]; unfold Semver.prerelease; rw [this]
  have hne1 : (45 :: body ++ [46, 48] : Bytes).isEmpty = false := rfl
  have hne2 : ((45 :: body ++ [46, 48] : Bytes) == [45, 48]) = false := by
    cases body <;> simp
  have hsuf : hasSuffixB (pvBase maj min pat (body ++ [46, 48, 46])) [46, 48] = true := by
    rw [hb]; exact hasSuffixB_append _ _
  have htrim : trimSuffix (pvBase maj min pat (body ++ [46, 48, 46])) [46, 48] = 118 :: maj ++ 46 :: min ++ 46 :: pat ++ 45 :: body := by
    rw [hb]; exact trimSuffix_append _ _
  simp only [pseudoVersionBase, hp, hpre, hne1, hne2, hsuf, htrim]
  simp

theorem canonical_none {older : Bytes} (h : Semver.parse older = none) :
    Semver.canonical older = [] ∧ Semver.build older = [] := by
  simp [Semver.canonical, Semver.build, h]

/-- form (1) -/
theorem pseudoVersion_nobase {major older ts rev m : Bytes} (h : Semver.parse older = none)
    (hmajor : (major = [] ∧ m = [48]) ∨ major = 118 :: m) :
    pseudoVersion major older ts rev = .ok (pvText m [48] [48] [] ts rev []) := by
  obtain ⟨c1, c2⟩ := canonical_none h
  unfold pseudoVersion
  simp only [c1, c2, List.isEmpty_nil, if_true]
  rcases hmajor with ⟨rfl, rfl⟩ | rfl
  · simp [pvText, pvPre]
  · simp [pvText, pvPre]

theorem canonical_parts {older : Bytes} {p : Semver.Parsed} (h : Semver.parse older = some p) :
    Semver.canonical older = 118 :: p.major ++ 46 :: p.minor ++ 46 :: p.patch ++ p.prerelease ∧
    Semver.prerelease (Semver.canonical older) = p.prerelease ∧ Semver.build older = p.build := by
  obtain ⟨n1, n2, n3, hpre, _⟩ := parse_inv h
  have hc := Semver.canonical_spec h
  refine ⟨hc, ?_, Semver.build_spec h⟩
  have := parse_full n1 n2 n3 hpre buildOpt_nil
  simp only [List.append_nil] at this
  rw [hc]; unfold Semver.prerelease; rw [this]

/-- forms (4), (5) -/
theorem pseudoVersion_prerelease {major older ts rev body : Bytes} {p : Semver.Parsed}
    (h : Semver.parse older = some p) (hpre : p.prerelease = 45 :: body) :
    pseudoVersion major older ts rev
      = .ok (pvText p.major p.minor p.patch (body ++ [46, 48, 46]) ts rev p.build) := by
  obtain ⟨c1, c2, c3⟩ := canonical_parts h
  unfold pseudoVersion
  simp only [c2, c3]
  rw [c1, hpre]
  simp [pvText, pvPre]

/-- forms (2), (3) -/
theorem pseudoVersion_release {major older ts rev pat' : Bytes} {p : Semver.Parsed}
    (h : Semver.parse older = some p) (hpre : p.prerelease = []) (hinc : incDecimal p.patch = some pat') :
    pseudoVersion major older ts rev = .ok (pvText p.major p.minor pat' [48, 46] ts rev p.build) := by
  obtain ⟨c1, c2, c3⟩ := canonical_parts h
  obtain ⟨_, _, n3, _, _⟩ := parse_inv h
  have hsplit : splitLast 46 (118 :: p.major ++ 46 :: p.minor ++ 46 :: p.patch)
      = some (118 :: p.major ++ 46 :: p.minor, p.patch) :=
    splitLast_append 46 (118 :: p.major ++ 46 :: p.minor) p.patch (digits_no p.patch n3.2.1).2.1
  unfold pseudoVersion
  simp only [c2, c3]
  rw [c1, hpre, List.append_nil, hsplit]
  simp [hinc, pvText, pvPre]

theorem compareInt_self (x : Bytes) : Semver.compareInt x x = 0 := by simp [Semver.compareInt]

theorem compare_patch_lt {v w : Bytes} {p q : Semver.Parsed} (hv : Semver.parse v = some p) (hw : Semver.parse w = some q)
    (h1 : p.major = q.major) (h2 : p.minor = q.minor) (h3 : Semver.compareInt p.patch q.patch = -1) :
    Semver.compare v w = -1 := by
  simp [Semver.compare, hv, hw, h1, h2, h3, compareInt_self]

theorem compare_same_nums {v w : Bytes} {p q : Semver.Parsed} (hv : Semver.parse v = some p) (hw : Semver.parse w = some q)
    (h1 : p.major = q.major) (h2 : p.minor = q.minor) (h3 : p.patch = q.patch) :
    Semver.compare v w = Semver.comparePrerelease p.prerelease q.prerelease := by
  simp [Semver.compare, hv, hw, h1, h2, h3, compareInt_self]

theorem comparePrerelease_nil (x : Bytes) (hx : x ≠ []) : Semver.comparePrerelease x [] = -1 := by
  cases x with
  | nil => exact absurd rfl hx
  | cons c cs => simp [Semver.comparePrerelease]

theorem splitOn_mid {min pat R0 : Bytes} (hR : Mid min pat R0) :
    ∃ l : List Bytes, (∀ seg : Bytes, 46 ∉ seg → splitOn 46 (R0 ++ seg) = l ++ [seg]) ∧
      (∀ body, R0 = body ++ [46, 48, 46] → l = splitOn 46 body ++ [[48]]) := by
  cases hR with
  | nobase => exact ⟨[], fun seg h => by simp [splitOn_noSep 46 seg h], fun body e => by cases body <;> simp at e⟩
  | release =>
    refine ⟨[[48]], fun seg h => ?_, fun body e => ?_⟩
    · have : ([48, 46] ++ seg : Bytes) = [48] ++ 46 :: seg := by simp
      rw [this, splitOn_two 46 _ _ (by decide) h]; rfl
    · exfalso
      have := congrArg List.length e
      simp at this
  | prerelease _ _ body hb =>
    refine ⟨splitOn 46 body ++ [[48]], fun seg h => ?_, fun body' e => ?_⟩
    · have : (body ++ [46, 48, 46] ++ seg : Bytes) = body ++ 46 :: ([48] ++ 46 :: seg) := by simp
      rw [this, splitOn_append_sep, splitOn_two 46 _ _ (by decide) h]
      simp
    · have := List.append_inj_left' e rfl
      rw [this]

theorem isNum_seg (ts rev : Bytes) : Semver.isNum (ts ++ 45 :: rev) = false := by
  unfold Semver.isNum
  rw [List.all_eq_false]
  exact ⟨45, by simp, by decide⟩

theorem comparePrerelease_time {min pat R0 ts1 ts2 rev1 rev2 : Bytes} (hR : Mid min pat R0)
    (h1 : Ts ts1) (h2 : Ts ts2) (r1 : Rev rev1) (r2 : Rev rev2) (hlt : bytesLt ts1 ts2 = true) :
    Semver.comparePrerelease (pvPre R0 ts1 rev1) (pvPre R0 ts2 rev2) = -1 := by
  have hsegLt : bytesLt (ts1 ++ 45 :: rev1) (ts2 ++ 45 :: rev2) = true :=
    bytesLt_append_of_lt ts1 ts2 _ _ (by rw [h1.1, h2.1]) hlt
  have hsegNe : ts1 ++ 45 :: rev1 ≠ ts2 ++ 45 :: rev2 := bytesLt_ne _ _ hsegLt
  have hne : pvPre R0 ts1 rev1 ≠ pvPre R0 ts2 rev2 := by
    intro e
    simp only [pvPre, List.append_assoc] at e
    injection e with _ e
    exact hsegNe (List.append_cancel_left e)
  obtain ⟨l, hl, _⟩ := splitOn_mid hR
  unfold Semver.comparePrerelease
  rw [if_neg hne]
  simp only [pvPre, List.isEmpty_cons, Bool.false_eq_true, if_false, List.drop_succ_cons, List.drop_zero,
    List.append_assoc]
  rw [hl _ (seg_nodot h1 r1), hl _ (seg_nodot h2 r2), cmpIdents_common l _ _ [] [] hsegNe]
  simp [Semver.cmpIdent, isNum_seg, hsegLt]

/-- a proper prefix of the identifier list -/
theorem comparePrerelease_ext {min pat body ts rev : Bytes}
    (hR : Mid min pat (body ++ [46, 48, 46])) (hts : Ts ts) (hrev : Rev rev) :
    Semver.comparePrerelease (45 :: body) (pvPre (body ++ [46, 48, 46]) ts rev) = -1 := by
  have hne : (45 :: body : Bytes) ≠ pvPre (body ++ [46, 48, 46]) ts rev := by
    intro e
    have := congrArg List.length e
    simp [pvPre] at this
  obtain ⟨l, hl, hl2⟩ := splitOn_mid hR
  have hl' := hl2 body rfl
  unfold Semver.comparePrerelease
  rw [if_neg hne]
  simp only [pvPre, List.isEmpty_cons, Bool.false_eq_true, if_false, List.drop_succ_cons, List.drop_zero,
    List.append_assoc]
  have e : (body ++ ([46, 48, 46] ++ (ts ++ 45 :: rev)) : Bytes) = (body ++ [46, 48, 46]) ++ (ts ++ 45 :: rev) := by simp
  rw [e, hl _ (seg_nodot hts hrev), hl', List.append_assoc]
  exact cmpIdents_prefix _ _ _

theorem pseudoVersion_shape {major older : Bytes}
    (hbase : Semver.isValid older = true ∨ (older = [] ∧ MajorArg major)) :
    ∃ maj min pat R0 bld, Num maj ∧ Num min ∧ Num pat ∧ Mid min pat R0 ∧ BuildOpt bld ∧
      (∀ ts rev, pseudoVersion major older ts rev = .ok (pvText maj min pat R0 ts rev bld)) ∧
      ∀ ts rev, Ts ts → Rev rev →
        pseudoVersionBase (pvText maj min pat R0 ts rev bld) = .ok (Semver.canonical older ++ Semver.build older) := by
  rcases hbase with hv | ⟨rfl, hm⟩
  · unfold Semver.isValid at hv
    cases hp : Semver.parse older with
    | none => simp [hp] at hv
    | some p =>
      obtain ⟨n1, n2, n3, hpre, hbld⟩ := parse_inv hp
      obtain ⟨c1, _, c3⟩ := canonical_parts hp
      rcases (Semver.preOpt_iff _).mp hpre with h0 | ⟨body, hb, hd⟩
      · obtain ⟨pat', hinc, npat', _, _, hdec⟩ := incDecimal_num n3
        refine ⟨p.major, p.minor, pat', [48, 46], p.build, n1, n2, npat', Mid.release _ _, hbld,
          fun ts rev => pseudoVersion_release hp h0 hinc, fun ts rev hts hrev => ?_⟩
        rw [base_release n1 n2 npat' hts hrev hbld hdec n3.1, c1, c3, h0]
        simp
      · refine ⟨p.major, p.minor, p.patch, body ++ [46, 48, 46], p.build, n1, n2, n3,
          Mid.prerelease _ _ body hd, hbld, fun ts rev => pseudoVersion_prerelease hp hb, fun ts rev hts hrev => ?_⟩
        rw [base_prerelease n1 n2 n3 hd hts hrev hbld, c1, c3, hb]
  · have hnone : Semver.parse [] = none := rfl
    obtain ⟨c1, c2⟩ := canonical_none hnone
    rw [c1, c2]
    rcases hm with rfl | ⟨m, nm, rfl⟩
    · exact ⟨[48], [48], [48], [], [], num0, num0, num0, Mid.nobase, buildOpt_nil,
        fun ts rev => pseudoVersion_nobase hnone (Or.inl ⟨rfl, rfl⟩), fun ts rev hts hrev => base_nobase num0 hts hrev⟩
    · exact ⟨m, [48], [48], [], [], nm, num0, num0, Mid.nobase, buildOpt_nil,
        fun ts rev => pseudoVersion_nobase hnone (Or.inr rfl), fun ts rev hts hrev => base_nobase nm hts hrev⟩

theorem roundtrip_aux {major older ts rev : Bytes}
    (hbase : Semver.isValid older = true ∨ (older = [] ∧ MajorArg major)) (hts : Ts ts) (hrev : Rev rev) :
    ∃ pv, pseudoVersion major older ts rev = .ok pv ∧
      pseudoVersionBase pv = .ok (Semver.canonical older ++ Semver.build older) ∧
      pseudoVersionRev pv = .ok rev ∧
      pseudoVersionTime pv = (if timeValid ts then .ok ts else .error .time) := by
  obtain ⟨maj, min, pat, R0, bld, n1, n2, n3, hR, hbld, hpv, hb⟩ := pseudoVersion_shape hbase
  exact ⟨_, hpv ts rev, hb ts rev hts hrev, rev_pvText n1 n2 n3 hR hts hrev hbld, time_pvText n1 n2 n3 hR hts hrev hbld⟩

theorem pvPre_ne_nil (R0 ts rev : Bytes) : pvPre R0 ts rev ≠ [] := by simp [pvPre]

theorem between_aux {major older ts rev : Bytes} {p : Semver.Parsed} (hp : Semver.parse older = some p)
    (hts : Ts ts) (hrev : Rev rev) :
    ∃ pv, pseudoVersion major older ts rev = .ok pv ∧ Semver.compare older pv = -1 ∧
      (p.prerelease = [] → ∀ z, Num z → decValue z = decValue p.patch + 1 →
          Semver.compare pv (118 :: p.major ++ 46 :: p.minor ++ 46 :: z) = -1) ∧
      (p.prerelease ≠ [] → Semver.compare pv (118 :: p.major ++ 46 :: p.minor ++ 46 :: p.patch) = -1) := by
  obtain ⟨n1, n2, n3, hpre, hbld⟩ := parse_inv hp
  have hrel : ∀ z, Num z → Semver.parse (118 :: p.major ++ 46 :: p.minor ++ 46 :: z)
      = some { major := p.major, minor := p.minor, patch := z } := by
    intro z nz
    have := parse_full n1 n2 nz preOpt_nil buildOpt_nil
    simpa using this
  rcases (Semver.preOpt_iff _).mp hpre with h0 | ⟨body, hb, hd⟩
  · obtain ⟨pat', hinc, npat', hval, hcmp, _⟩ := incDecimal_num n3
    have hpv := pseudoVersion_release (major := major) (ts := ts) (rev := rev) hp h0 hinc
    have hq := parse_pvText n1 n2 npat' (Mid.release _ _) hts hrev hbld
    refine ⟨_, hpv, compare_patch_lt hp hq rfl rfl hcmp, fun _ z nz hz => ?_, fun h => absurd h0 h⟩
    have ez : z = pat' := num_unique nz npat' (hz.trans hval.symm)
    subst ez
    rw [compare_same_nums hq (hrel z npat') rfl rfl rfl]
    exact comparePrerelease_nil _ (pvPre_ne_nil _ _ _)
  · have hR := Mid.prerelease p.minor p.patch body hd
    have hq := parse_pvText n1 n2 n3 hR hts hrev hbld
    refine ⟨_, pseudoVersion_prerelease hp hb, ?_, fun h => by rw [hb] at h; simp at h, fun _ => ?_⟩
    · rw [compare_same_nums hp hq rfl rfl rfl, hb]
      exact comparePrerelease_ext hR hts hrev
    · rw [compare_same_nums hq (hrel p.patch n3) rfl rfl rfl]
      exact comparePrerelease_nil _ (pvPre_ne_nil _ _ _)

theorem nobase_aux {major ts rev : Bytes} (hm : MajorArg major) (hts : Ts ts) (hrev : Rev rev) :
    ∃ pv, pseudoVersion major [] ts rev = .ok pv ∧
      Semver.compare pv ((if major = [] then [118, 48] else major) ++ [46, 48, 46, 48]) = -1 := by
  have hnone : Semver.parse [] = none := rfl
  have key : ∀ m, Num m → Semver.compare (pvText m [48] [48] [] ts rev []) (118 :: m ++ [46, 48, 46, 48]) = -1 := by
    intro m nm
    have hq := parse_pvText nm num0 num0 Mid.nobase hts hrev buildOpt_nil
    have hw : Semver.parse (118 :: m ++ [46, 48, 46, 48]) = some { major := m, minor := [48], patch := [48] } := by
      have := parse_full nm num0 num0 preOpt_nil buildOpt_nil
      simpa using this
    rw [compare_same_nums hq hw rfl rfl rfl]
    exact comparePrerelease_nil _ (pvPre_ne_nil _ _ _)
  rcases hm with rfl | ⟨m, nm, rfl⟩
  · exact ⟨_, pseudoVersion_nobase hnone (Or.inl ⟨rfl, rfl⟩), by simpa using key [48] num0⟩
  · exact ⟨_, pseudoVersion_nobase hnone (Or.inr rfl), by simpa using key m nm⟩

theorem time_mono_aux {major older ts1 ts2 rev1 rev2 : Bytes}
    (hbase : Semver.isValid older = true ∨ (older = [] ∧ MajorArg major))
    (h1 : Ts ts1) (h2 : Ts ts2) (r1 : Rev rev1) (r2 : Rev rev2) (hlt : bytesLt ts1 ts2 = true) :
    ∃ pv1 pv2, pseudoVersion major older ts1 rev1 = .ok pv1 ∧ pseudoVersion major older ts2 rev2 = .ok pv2 ∧
      Semver.compare pv1 pv2 = -1 := by
  obtain ⟨maj, min, pat, R0, bld, n1, n2, n3, hR, hbld, hpv, _⟩ := pseudoVersion_shape hbase
  refine ⟨_, _, hpv ts1 rev1, hpv ts2 rev2, ?_⟩
  rw [compare_same_nums (parse_pvText n1 n2 n3 hR h1 r1 hbld) (parse_pvText n1 n2 n3 hR h2 r2 hbld) rfl rfl rfl]
  exact comparePrerelease_time hR h1 h2 r1 r2 hlt

theorem valid_recognised_aux {major older ts rev : Bytes}
    (hbase : Semver.isValid older = true ∨ (older = [] ∧ MajorArg major)) (hts : Ts ts) (hrev : Rev rev) :
    ∃ pv, pseudoVersion major older ts rev = .ok pv ∧ Semver.isValid pv = true ∧ isPseudoVersion pv = true := by
  obtain ⟨maj, min, pat, R0, bld, n1, n2, n3, hR, hbld, hpv, _⟩ := pseudoVersion_shape hbase
  exact ⟨_, hpv ts rev, isPseudoVersion_pvText n1 n2 n3 hR hts hrev hbld⟩

end ModVerif.Proofs.Pseudo
