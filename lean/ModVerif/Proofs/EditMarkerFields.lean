/-
  `strings.Fields` against `strings.TrimSpace`, for EVERY byte string (ill-formed UTF-8 included).

  `strings.Fields` ignores leading and trailing white space (`fields_spaceSeq_append`, `fields_append_spaceSeq`), hence does
  not see what `strings.TrimSpace` removes (`fields_trimSpace`; on the `trimSpace` algebra of Proofs/ModfileFmtTrim.lean:
  `trimSpace_infix` — what `TrimSpace` cuts off on either side is a concatenation of well-formed white-space encodings, also
  when the backward decoder of `TrimRight` runs over ill-formed bytes).  Consequences: `TrimSpace s = "" ↔ Fields s = []`
  (`trimSpace_eq_nil_iff_fields`), and a string that has, after leading white space, a rune that is not white space does
  not trim to nothing (`trimSpace_prefix_ne_nil`) — the form in which the lexer's "is this comment alone on its line"
  test is used (C20).
-/
import ModVerif.Proofs.ModfileEolIndirect
namespace ModVerif.Modfile.Edit
open ModVerif ModVerif.Modfile ModVerif.GoStrings
open ModVerif.Proofs.ModfileLex ModVerif.Proofs.ModfileFmtUtf8 ModVerif.Proofs.ModfileFmtTrim ModVerif.Proofs.ModfileEol

/-! ### `fieldsAux`: accumulator and fuel -/

theorem fieldsAux_acc : ∀ (fuel : Nat) (s cur : Bytes) (acc : List Bytes),
    fieldsAux fuel s cur acc = acc.reverse ++ fieldsAux fuel s cur [] := by
  intro fuel
  induction fuel with
  | zero =>
    intro s cur acc
    simp only [fieldsAux]
    by_cases hc : cur.isEmpty = true <;> simp [hc]
  | succ n ih =>
    intro s cur acc
    cases s with
    | nil =>
      rw [fieldsAux_nil, fieldsAux_nil]
      by_cases hc : cur.isEmpty = true <;> simp [hc]
    | cons c t =>
      rw [fieldsAux_cons, fieldsAux_cons]
      split
      · rw [ih _ _ (if cur.isEmpty then acc else cur.reverse :: acc), ih _ _ (if cur.isEmpty then [] else cur.reverse :: [])]
        by_cases hc : cur.isEmpty = true <;> simp [hc]
      · exact ih _ _ _

theorem fieldsAux_fuel_succ : ∀ (fuel : Nat) (s cur : Bytes) (acc : List Bytes), s.length < fuel →
    fieldsAux (fuel + 1) s cur acc = fieldsAux fuel s cur acc := by
  intro fuel
  induction fuel with
  | zero => intro s cur acc h; omega
  | succ n ih =>
    intro s cur acc h
    cases s with
    | nil => rw [fieldsAux_nil, fieldsAux_nil]
    | cons c t =>
      rw [fieldsAux_cons, fieldsAux_cons]
      have hw := decodeRune_width (c :: t) (by simp)
      have hlen : ((c :: t).drop (Utf8.decodeRune (c :: t)).2).length < n := by
        simp only [List.length_drop, List.length_cons] at h ⊢
        omega
      split
      · exact ih _ _ _ hlen
      · exact ih _ _ _ hlen

theorem fieldsAux_fuel_add (k : Nat) : ∀ (fuel : Nat) (s cur : Bytes) (acc : List Bytes), s.length < fuel →
    fieldsAux (fuel + k) s cur acc = fieldsAux fuel s cur acc := by
  induction k with
  | zero => intro fuel s cur acc _; rfl
  | succ k ih =>
    intro fuel s cur acc h
    rw [← Nat.add_assoc, fieldsAux_fuel_succ _ _ _ _ (by omega)]
    exact ih fuel s cur acc h

theorem fieldsAux_eq_fields (fuel : Nat) (s : Bytes) (h : s.length < fuel) : fieldsAux fuel s [] [] = fields s := by
  unfold fields
  obtain ⟨k, rfl⟩ : ∃ k, fuel = (s.length + 1) + k := ⟨fuel - (s.length + 1), by omega⟩
  exact fieldsAux_fuel_add k _ s [] [] (by omega)

theorem fieldsAux_spaceSeq_prefix {p : Bytes} (hp : SpaceSeq p) (x : Bytes) : ∀ (fuel : Nat),
    (p ++ x).length < fuel → fieldsAux fuel (p ++ x) [] [] = fields x := by
  induction hp with
  | nil => intro fuel h; exact fieldsAux_eq_fields fuel x (by simpa using h)
  | cons seg t r hd hs ht ih =>
    intro fuel hf
    have hne : seg ≠ [] := by
      intro h; subst h; simp [Utf8.decode] at hd
    obtain ⟨c, s', hseg⟩ : ∃ c s', seg = c :: s' := by
      cases seg with
      | nil => exact absurd rfl hne
      | cons c s' => exact ⟨c, s', rfl⟩
    obtain ⟨n, rfl⟩ : ∃ n, fuel = n + 1 := ⟨fuel - 1, by omega⟩
    have hdec : Utf8.decodeRune (seg ++ (t ++ x)) = (r, seg.length) := by
      have := decode_take hd (t ++ x)
      rw [List.take_length] at this
      unfold Utf8.decodeRune; rw [this]
    have hcons : (seg ++ t) ++ x = c :: (s' ++ (t ++ x)) := by rw [hseg]; simp
    have hcons' : c :: (s' ++ (t ++ x)) = seg ++ (t ++ x) := by rw [hseg]; rfl
    rw [hcons, fieldsAux_cons, hcons', hdec]
    simp only [hs, if_true, List.drop_left]
    have hl := List.length_pos_iff.mpr hne
    exact ih n (by simp only [List.length_append] at hf ⊢; omega)

theorem fields_spaceSeq_append (p x : Bytes) (hp : SpaceSeq p) : fields (p ++ x) = fields x := by
  unfold fields
  exact fieldsAux_spaceSeq_prefix hp x _ (by omega)

theorem spaceSeq_space : SpaceSeq [32] :=
  spaceSeq_of_ascii [32] (by intro b hb; simp at hb; subst hb; decide)

theorem fields_cons_space (x : Bytes) : fields (32 :: x) = fields x :=
  fields_spaceSeq_append [32] x spaceSeq_space

theorem fields_trimSpace (y : Bytes) : fields (trimSpace y) = fields y := by
  obtain ⟨p, e, heq, hp, he⟩ := trimSpace_infix y
  conv => rhs; rw [heq]
  rw [fields_append_spaceSeq _ e he, fields_spaceSeq_append p _ hp]

/-- ★ what `setIndirect` uses when it re-reads the text it has written: the first of the three string lemmas of
    C15 `marker_string_lemmas` -/
theorem fields_space_trimSpace (y : Bytes) : fields (32 :: trimSpace y) = fields y := by
  rw [fields_cons_space, fields_trimSpace]

/-! ### `TrimSpace` and a leading blank -/

theorem trimLeftSpace_cons_space (x : Bytes) : trimLeftSpace (32 :: x) = trimLeftSpace x := by
  have step : ∀ n, trimLeftSpaceAux (n + 1) (32 :: x) = trimLeftSpaceAux n x := by
    intro n
    conv => lhs; unfold trimLeftSpaceAux
    simp only
    rw [decodeRune_ascii 32 x (by decide)]
    have : UnicodePrint.isSpace (32 : UInt8).toNat = true := by decide
    simp only [this, if_true, List.drop_succ_cons, List.drop_zero]
  unfold trimLeftSpace
  simp only [List.length_cons]
  exact step _

theorem trimSpace_cons_space (x : Bytes) : trimSpace (32 :: x) = trimSpace x := by
  unfold trimSpace
  rw [trimLeftSpace_cons_space]

theorem fieldsAux_word : ∀ (w : Bytes), (∀ b ∈ w, b.toNat < 0x80 ∧ UnicodePrint.isSpace b.toNat = false) →
    ∀ (fuel : Nat) (rest cur : Bytes) (acc : List Bytes),
      fieldsAux (fuel + w.length) (w ++ rest) cur acc = fieldsAux fuel rest (w.reverse ++ cur) acc := by
  intro w
  induction w with
  | nil => intro _ fuel rest cur acc; rfl
  | cons b w ih =>
    intro hw fuel rest cur acc
    have hb := hw b (by simp)
    have : fuel + (b :: w).length = (fuel + w.length) + 1 := by simp only [List.length_cons]; omega
    rw [this, List.cons_append, fieldsAux_cons, decodeRune_ascii b _ hb.1]
    simp only [hb.2, Bool.false_eq_true, if_false, List.drop_succ_cons, List.drop_zero, List.take_succ_cons, List.take_zero,
      List.reverse_cons, List.reverse_nil, List.nil_append]
    rw [ih (fun c hc => hw c (by simp [hc]))]
    simp

theorem fields_word_space (w x : Bytes) (hne : w ≠ [])
    (hw : ∀ b ∈ w, b.toNat < 0x80 ∧ UnicodePrint.isSpace b.toNat = false) :
    fields (w ++ 32 :: x) = w :: fields x := by
  unfold fields
  have hl : (w ++ 32 :: x).length + 1 = (x.length + 2) + w.length := by
    simp only [List.length_append, List.length_cons]; omega
  rw [hl, fieldsAux_word w hw, fieldsAux_cons, decodeRune_ascii 32 x (by decide)]
  have hsp : UnicodePrint.isSpace (32 : UInt8).toNat = true := by decide
  have hwe : (w.reverse ++ []).isEmpty = false := by
    cases w with
    | nil => exact absurd rfl hne
    | cons a w' => simp
  simp only [hsp, if_true, hwe, Bool.false_eq_true, if_false, List.drop_succ_cons, List.drop_zero]
  rw [fieldsAux_acc]
  simp

theorem fieldsAux_ne_nil : ∀ (fuel : Nat) (s cur : Bytes) (acc : List Bytes), (cur ≠ [] ∨ acc ≠ []) →
    fieldsAux fuel s cur acc ≠ [] := by
  intro fuel
  have base : ∀ (cur : Bytes) (acc : List Bytes), (cur ≠ [] ∨ acc ≠ []) →
      (if cur.isEmpty then acc else cur.reverse :: acc).reverse ≠ [] := by
    intro cur acc h
    by_cases hc : cur.isEmpty = true
    · have : cur = [] := List.isEmpty_iff.1 hc
      rcases h with h | h
      · exact absurd this h
      · simpa [hc] using h
    · simp [hc]
  induction fuel with
  | zero => intro s cur acc h; simp only [fieldsAux]; exact base cur acc h
  | succ n ih =>
    intro s cur acc h
    cases s with
    | nil => rw [fieldsAux_nil]; exact base cur acc h
    | cons c t =>
      rw [fieldsAux_cons]
      split
      · apply ih
        right
        by_cases hc : cur.isEmpty = true
        · have : cur = [] := List.isEmpty_iff.1 hc
          rcases h with h | h
          · exact absurd this h
          · simpa [hc] using h
        · simp [hc]
      · apply ih
        rcases h with h | h
        · left; simp [h]
        · right; exact h

theorem fields_ne_nil (s : Bytes) (hne : s ≠ []) (hs : UnicodePrint.isSpace (Utf8.decodeRune s).1 = false) :
    fields s ≠ [] := by
  unfold fields
  cases s with
  | nil => exact absurd rfl hne
  | cons c t =>
    rw [fieldsAux_cons]
    simp only [hs, Bool.false_eq_true, if_false]
    apply fieldsAux_ne_nil
    left
    have hw := decodeRune_width (c :: t) (by simp)
    obtain ⟨k, hk⟩ : ∃ k, (Utf8.decodeRune (c :: t)).2 = k + 1 := ⟨(Utf8.decodeRune (c :: t)).2 - 1, by omega⟩
    rw [hk]; simp

theorem fields_trimSpace_ne_nil (z : Bytes) (h : trimSpace z ≠ []) : fields (trimSpace z) ≠ [] :=
  fields_ne_nil _ h (trimSpace_first_rune z h)

/-! ### `TrimSpace s = ""` in terms of `Fields` -/

theorem fields_nil : fields [] = [] := rfl

theorem trimSpace_eq_nil_iff_fields (s : Bytes) : trimSpace s = [] ↔ fields s = [] := by
  constructor
  · intro h
    rw [← fields_trimSpace s, h]; rfl
  · intro h
    cases ht : trimSpace s with
    | nil => rfl
    | cons a t =>
      exfalso
      have hne : trimSpace s ≠ [] := by rw [ht]; simp
      exact fields_trimSpace_ne_nil s hne (by rw [fields_trimSpace]; exact h)

/-- ★ a string that has, after leading white space, a rune that is not white space does not trim to nothing — whatever
    follows (ill-formed bytes included): the replacement for a backward-decoding argument about `TrimRight` -/
theorem trimSpace_prefix_ne_nil (g x : Bytes) (hg : SpaceSeq g) (hx : x ≠ [])
    (hs : UnicodePrint.isSpace (Utf8.decodeRune x).1 = false) : trimSpace (g ++ x) ≠ [] := by
  intro h
  have := (trimSpace_eq_nil_iff_fields (g ++ x)).1 h
  rw [fields_spaceSeq_append g x hg] at this
  exact fields_ne_nil x hx hs this

example : trimSpace ([32, 9] ++ [120, 0x80, 32, 0xe3, 0x80]) ≠ [] :=
  trimSpace_prefix_ne_nil [32, 9] _ (spaceSeq_of_ascii _ (by decide)) (by simp) (by decide)

end ModVerif.Modfile.Edit
