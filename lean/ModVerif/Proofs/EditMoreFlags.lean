/-
  The `inBlock` flags of a parsed tree: a top-level `Line` has `inBlock = false`, a line of a
  `LineBlock` has `inBlock = true`; comment assignment keeps the flags (so does the directive layer: `walkStmts_flag`,
  Proofs/EditMoreStartB).
  (One of the three syntax-layer facts `Edit.TreeWF` needs of a starting file; the others are `parse_ids_nodup`
  of C20 and the absence of an end-of-line comment on a `LineBlock`.)
-/
import ModVerif.Proofs.ModfileC20Ids
namespace ModVerif.Proofs.EditMore
open ModVerif ModVerif.Modfile ModVerif.Proofs.ModfileC20

def FlagOK : Expr → Prop
  | .line l => l.inBlock = false
  | .lineBlock b => ∀ l ∈ b.lines, l.inBlock = true
  | _ => True

theorem flagOK_setComments (x : Expr) (c : Comments) (h : FlagOK x) : FlagOK (x.setComments c) := by
  cases x <;> first | exact h | trivial

section runs
open ModVerif.Proofs.ModfileRun
variable {T E : Input → Input → Prop}

theorem PLine.flag {i : Input} {s e : Position} {acc : List Bytes} {l : Line} {i' : Input}
    (h : PLine T E i s e acc l i') : l.inBlock = true := by
  induction h with
  | eol _ _ => rfl
  | tok _ _ _ ih => exact ih

theorem PStmt.flag {i : Input} {s e : Position} {acc : List Bytes} {x : Expr} {i' : Input}
    (h : PStmt T E i s e acc x i') : FlagOK x := by
  induction h with
  | eol _ _ => rfl
  | block _ _ _ hb => exact PBlock.all (fun _ _ h => h) (fun _ hl => PLine.flag hl) hb (by intro l hl; cases hl)
  | empty _ _ _ _ _ _ => intro l hl; cases hl
  | parens _ _ _ _ _ _ ih | lparen _ _ _ _ _ ih | tok _ _ _ _ ih => exact ih

theorem parseFile_flag {data : Bytes} {stmts : List Expr} {i' : Input} (h : parseFile data = .ok (stmts, i')) :
    ∀ x ∈ stmts, FlagOK x := by
  obtain ⟨i0, _, hrun⟩ := parseFile_run h
  exact PFile.all (fun _ => trivial) flagOK_setComments (fun _ hs => PStmt.flag hs) hrun (by intro x hx; cases hx)

end runs

theorem assignComments_flag (f : FileSyntax) (cs : List Comment) (h : ∀ x ∈ f.stmts, FlagOK x) :
    ∀ x ∈ (assignComments f cs).stmts, FlagOK x :=
  assignComments_all _ (fun s => by cases s <;> simp [exprBare, FlagOK, lineBare]) f cs h

theorem parse_flags {name data : Bytes} {t : FileSyntax} (h : parse name data = .ok t) : ∀ x ∈ t.stmts, FlagOK x := by
  unfold parse at h
  cases hp : parseFile data with
  | error e => simp [hp, bind, Except.bind] at h
  | ok v =>
    simp only [hp, bind, Except.bind, Except.ok.injEq] at h
    subst h
    exact assignComments_flag _ _ (parseFile_flag (show parseFile data = .ok (v.1, v.2) by rw [hp]))

/-- the parser only produces comment blocks, lines and line blocks as statements -/
def StmtKind : Expr → Prop
  | .lparen _ => False
  | .rparen _ => False
  | _ => True

end ModVerif.Proofs.EditMore
