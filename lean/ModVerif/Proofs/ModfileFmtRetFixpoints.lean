/-
  Version fixer and `retract` directives: the accepted strict parse.  What the deferred pass left in the tree; with
  idempotence on the image, every retract bound is a fixpoint of the fixer at the non-empty module path; hence the round
  trip from a second run of the directive layer with the two fixer hypotheses discharged.
-/
import ModVerif.Proofs.ModfileFmtRetAccepted
namespace ModVerif.Proofs.ModfileFmtRet
open ModVerif ModVerif.Modfile ModVerif.Proofs.ModfileC20
open ModVerif.Proofs.ModfileFmtDir ModVerif.Proofs.ModfileEol ModVerif.Proofs.ModfileFmtTree

/-- the module path `fixRetract` passes to the fixer -/
def modPath (f : Modfile.File) : Bytes :=
  match f.module with
  | some m => m.mod.path
  | none => []

theorem modPath_values (f : Modfile.File) : (values f).module.getD [] = modPath f := by
  unfold modPath values
  cases f.module <;> rfl

theorem nodupIds_of_keys {xs ys : List Expr} (h : (linesOf xs).map lineKey = (linesOf ys).map lineKey)
    (hn : NodupIds ys) : NodupIds xs := by
  unfold NodupIds at hn ⊢
  have e : ∀ zs : List Expr, (linesOf zs).map (·.id) = ((linesOf zs).map lineKey).map (·.1) := by
    intro zs; rw [List.map_map]; rfl
  rw [e, h, ← e]
  exact hn

theorem fixRetract_eq (st2 : AddState) (fx : Fixer) : fixRetract st2 (some fx) =
    match st2.file.retract with
    | [] => st2
    | r :: _ =>
      if (modPath st2.file).isEmpty then
        st2.err (((st2.file.syn.findLine r.lineId).map (·.start)).getD {}) .retractNoModule
      else
        { file := { st2.file with
            retract := (fixRetractLoop (modPath st2.file) fx st2.file.retract st2.file.syn st2.errsRev).1,
            syn := (fixRetractLoop (modPath st2.file) fx st2.file.retract st2.file.syn st2.errsRev).2.1 },
          errsRev := (fixRetractLoop (modPath st2.file) fx st2.file.retract st2.file.syn st2.errsRev).2.2 } := by
  unfold fixRetract modPath
  rfl

theorem fixRetract_ok_tokens (st2 : AddState) (fx : Fixer) (hn : NodupIds st2.file.syn.stmts)
    (hnd : (st2.file.retract.map (·.lineId)).Nodup)
    (hall : ∀ r ∈ st2.file.retract, ∃ l ∈ linesOf st2.file.syn.stmts, l.id = r.lineId)
    (he : (fixRetract st2 (some fx)).errsRev = []) :
    NodupIds (fixRetract st2 (some fx)).file.syn.stmts ∧
    ((fixRetract st2 (some fx)).file.retract ≠ [] → modPath (fixRetract st2 (some fx)).file ≠ []) ∧
    ∀ r ∈ (fixRetract st2 (some fx)).file.retract,
      RetFixed (modPath (fixRetract st2 (some fx)).file) fx (fixRetract st2 (some fx)).file.syn r := by
  rw [fixRetract_eq] at he ⊢
  cases hret : st2.file.retract with
  | nil =>
    simp only
    refine ⟨hn, fun hne => absurd hret hne, ?_⟩
    intro r hr
    rw [hret] at hr
    cases hr
  | cons r0 rs0 =>
    simp only [hret] at he ⊢
    cases hemp : (modPath st2.file).isEmpty with
    | true =>
      simp only [hemp, if_true, AddState.err] at he
      cases he
    | false =>
      simp only [hemp, Bool.false_eq_true, if_false] at he ⊢
      rw [hret] at hnd hall
      obtain ⟨_, i2, _, i4, _⟩ := fixRetractLoop_tokens (modPath st2.file) fx (r0 :: rs0) st2.file.syn st2.errsRev
        hn hnd hall he
      refine ⟨i2, ?_, i4⟩
      intro _ hc
      have hc' : modPath st2.file = [] := hc
      rw [hc'] at hemp
      cases hemp

theorem fixRetract_tokens (name x : Bytes) (fx : Fixer) (f : Modfile.File)
    (h : parseToFile name x (some fx) true = .ok f) :
    NodupIds f.syn.stmts ∧ (f.retract ≠ [] → modPath f ≠ []) ∧
    ∀ r ∈ f.retract, RetFixed (modPath f) fx f.syn r := by
  obtain ⟨fs, st, stmts, hp, ha, herr, rfl⟩ := ModfileParseTo.parseToFile_ok_iff.1 h
  have hkeys := addStmts_keys (some fx) true fs.stmts { file := { syn := fs } }
  have hretr := addStmts_retr (some fx) true fs.stmts { file := { syn := fs } }
  have hsub := addStmts_retrSub (some fx) true fs.stmts { file := { syn := fs } }
  rw [ha] at hkeys hretr hsub
  simp only at hkeys hretr hsub
  have hn0 : NodupIds fs.stmts := parse_ids_nodup hp
  apply fixRetract_ok_tokens _ fx
  · exact nodupIds_of_keys hkeys hn0
  · obtain ⟨ids, e1, e2⟩ := hsub
    show (st.file.retract.map (·.lineId)).Nodup
    rw [e1]
    simp only [List.map_nil, List.nil_append]
    exact List.Nodup.sublist e2 hn0
  · intro r hr
    rcases hretr r hr with h0 | ⟨l, hl, hid⟩
    · cases h0
    · obtain ⟨l', hl', hid', _⟩ := mem_of_keys hkeys hl
      exact ⟨l', hl', hid'.trans hid⟩
  · exact herr

theorem fixIdem_of_fixOK {fx : Fixer} (h : ModfileFmtDir.FixOK (some fx)) : ModfileFmtFix.FixIdem fx := by
  rcases h with h | ⟨fx', e, h⟩
  · cases h
  · cases e; exact h

theorem retract_bounds_fixpoints (name x : Bytes) (fx : Fixer) (f : Modfile.File)
    (h : parseToFile name x (some fx) true = .ok f) (hfix : ModfileFmtDir.FixOK (some fx)) :
    (f.retract ≠ [] → modPath f ≠ []) ∧
    ∀ r ∈ f.retract, fx (modPath f) r.interval.low = .ok r.interval.low ∧
      fx (modPath f) r.interval.high = .ok r.interval.high := by
  obtain ⟨_, h2, h3⟩ := fixRetract_tokens name x fx f h
  refine ⟨h2, ?_⟩
  intro r hr
  obtain ⟨_, _, _, _, _, _, _, _, ⟨s1, f1⟩, ⟨s2, f2⟩, _⟩ := h3 r hr
  exact ⟨fixIdem_of_fixOK hfix _ _ _ f1, fixIdem_of_fixOK hfix _ _ _ f2⟩

theorem retract_lines_dontFix (name x : Bytes) (fx : Fixer) (f : Modfile.File)
    (h : parseToFile name x (some fx) true = .ok f) (hwf : WellFormed f) :
    ∀ r ∈ f.retract, ∃ l ∈ linesOf f.syn.stmts, l.id = r.lineId ∧ ∃ keep args rest, l.token = keep ++ args ∧
      (keep = [] ∨ keep = [B "retract"]) ∧
      parseVersionInterval [] args (some dontFixRetract) = (args, .ok (r.interval, rest)) := by
  obtain ⟨_, _, h3⟩ := fixRetract_tokens name x fx f h
  intro r hr
  obtain ⟨l, hl, hid, keep, args, rest, htok, hk, hfa⟩ := h3 r hr
  exact ⟨l, hl, hid, keep, args, rest, htok, hk, pvi_dont_of_fixed hfa (hwf.retract r hr).1 (hwf.retract r hr).2⟩

theorem reparse_of_parse_fix (name x : Bytes) (fx : Fixer) (f : Modfile.File) (st1 : AddState)
    (h : parseToFile name x (some fx) true = .ok f) (hwf : WellFormed f)
    (hfix : ModfileFmtDir.FixOK (some fx)) (hne : FixNE (some fx))
    (hw : EWFStmts f.syn.stmts) (hnl : ∀ s ∈ f.syn.stmts, NlOK s) (hc : f.syn.comments.before = [])
    (ha : addStmts (some fx) true { file := { syn := f.syn } } f.syn.stmts = (st1, f.syn.stmts))
    (he : st1.errsRev = []) (hv : values st1.file = values f) :
    ∃ f', parseToFile name (format f.syn) (some fx) true = .ok f' ∧ values f' = values f := by
  obtain ⟨hmod, himg⟩ := retract_bounds_fixpoints name x fx f h hfix
  have hw1 : WellFormed st1.file := wellFormed_of_values hv.symm hwf
  obtain ⟨f', hp', hv'⟩ := reparse_of_first_run_fix name f.syn fx st1 hfix hne hw hnl hc ha he hw1
    (by
      rw [hv, modPath_values]
      intro hr
      apply hmod
      intro hc'
      apply hr
      simp [values, hc'])
    (by
      rw [hv, modPath_values]
      intro vi hvi
      simp only [values, List.mem_map] at hvi
      obtain ⟨r, hr, rfl⟩ := hvi
      exact himg r hr)
  exact ⟨f', hp', hv'.trans hv⟩

end ModVerif.Proofs.ModfileFmtRet
