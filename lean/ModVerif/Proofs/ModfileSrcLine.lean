/-
  End-of-line comments on the SOURCE text: if no token of the input spans two source lines
  (`NoMultiLineToken`), every line the parser builds starts and ends on the same source line (`OneLineStmt`).

  Lexer level: a line token without newline byte ends on the line on which it starts (`tok_same_line`), and the
  next token starts on the line on which the previous one ended (`step_same_line`: only blanks in between).
  Parser level: over the classified runs of the parser (`ModfileRunTok`), "start, end and the pending token are on
  the same source line"; the `(` / `( )` pushes of `parseStmt`, which do not move `end`, stay on that line too.
-/
import ModVerif.Proofs.ModfileSrcTok
import ModVerif.Proofs.ModfileSrcOwn
namespace ModVerif.Proofs.ModfileSrc
open ModVerif ModVerif.Modfile ModVerif.Proofs.ModfileLex
open ModVerif.Proofs.ModfileFmtLex ModVerif.Proofs.ModfileFmtLine ModVerif.Proofs.ModfileFmtTree
open ModVerif.Proofs.ModfilePos ModVerif.Proofs.ModfileC20 ModVerif.Proofs.ModfileFmtEmits
open ModVerif.Proofs.ModfileEol ModVerif.Proofs.ModfileRun

def TokNl (data : Bytes) : Prop :=
  ∀ i, Reach data i → i.token.kind ≠ .punct 10 → (10 : UInt8) ∉ i.token.text

theorem tokNl_of {data : Bytes} (h : NoMultiLineToken data) : TokNl data :=
  fun _ hr hk => reach_tok_no_nl h hr hk

theorem tokOK_not_comment {k : TokKind} {t : Bytes} (h : TokOK k t) : k.isComment = false := by
  cases h <;> rfl

theorem tokOK_not_newline {k : TokKind} {t : Bytes} (h : TokOK k t) : k ≠ .punct 10 := by
  intro hk
  have := tokOK_not_eol h
  rw [hk] at this
  cases this

theorem tok_same_line {data : Bytes} (hN : TokNl data) {i : Input} (hr : Reach data i)
    (hk : TokOK i.token.kind i.token.text) : i.token.endPos.line = i.token.pos.line := by
  have ht := reach_tokOK2 hr
  have hf := ht.facts
  have hx := tok_exact_take ht (tokOK_not_comment hk)
  have hz : i.token.text.count 10 = 0 := List.count_eq_zero.2 (hN i hr (tokOK_not_newline hk))
  rw [hf.start.1.line, hf.«end».1.line, hx, List.count_append, hz]
  omega

theorem ws_count {g : Bytes} (h : WS g) : g.count 10 = 0 := by
  apply List.count_eq_zero.2
  intro hm
  have := ws_no_newline h 10 hm
  simp at this

theorem step_same_line {data : Bytes} {j i : Input} (hj : Reach data j) (h : readToken j = .ok i) :
    i.token.pos.line = j.token.endPos.line := by
  obtain ⟨gap, hws, hg⟩ := reach_step_gap hj h
  have h1 := (reach_tokOK2 hj).facts.«end».1.line
  have h2 := (reach_tokOK2 (Reach.lex hj h)).facts.start.1.line
  rw [h1, h2, hg, List.count_append, ws_count hws]
  omega

variable {data : Bytes}

theorem TokCall.line (hN : TokNl data) {i i1 : Input} (hc : TokCall data i i1) :
    i.token.endPos.line = i.token.pos.line ∧ i1.token.pos.line = i.token.pos.line := by
  have h1 := tok_same_line hN hc.lx.inv hc.ok
  have h2 := step_same_line hc.lx.inv hc.lx.step
  exact ⟨h1, by omega⟩

theorem PLine.one (hN : TokNl data) {i : Input} {s e : Position} {acc : List Bytes} {l : Line} {i' : Input}
    (h : PLineC data i s e acc l i') (h1 : s.line = e.line) (h2 : e.line = i.token.pos.line) : OneLine l := by
  induction h with
  | eol _ _ => exact h1
  | tok hc _ _ ih => have := TokCall.line hN hc; exact ih (by omega) (by omega)

/-- `PLine.one` as `parseLine` meets it: after the `lex` call that delivered the first token -/
theorem PLine.one1 (hN : TokNl data) {i i1 : Input} {l : Line} {i2 : Input} (hc : TokCall data i i1)
    (hl : PLineC data i1 i.token.pos i.token.endPos [i.token.text] l i2) : OneLine l := by
  have := TokCall.line hN hc
  exact PLine.one hN hl (by omega) (by omega)

theorem PStmt.one (hN : TokNl data) {i : Input} {s e : Position} {acc : List Bytes} {x : Expr} {i' : Input}
    (h : PStmtC data i s e acc x i') (h1 : s.line = e.line) (h2 : e.line = i.token.pos.line) : OneLineStmt x := by
  induction h with
  | eol _ _ => exact h1
  | block _ _ _ hb => exact PBlock.all (fun _ _ h => h) (PLine.one1 hN) hb (by intro l hl; cases hl)
  | empty _ _ _ _ _ _ => intro l hl; cases hl
  | parens hc _ _ hc2 _ _ ih =>
    have := TokCall.line hN hc; have := TokCall.line hN hc2; exact ih h1 (by omega)
  | lparen hc _ _ _ _ ih => have := TokCall.line hN hc; exact ih h1 (by omega)
  | tok hc _ _ _ ih => have := TokCall.line hN hc; exact ih (by omega) (by omega)

/-- `PStmt.one` as `parseStmt` meets it: after the `lex` call that delivered the first token of the statement -/
theorem PStmt.one1 (hN : TokNl data) {i i1 : Input} {x : Expr} {i2 : Input} (hc : TokCall data i i1)
    (hs : PStmtC data i1 i.token.pos i.token.endPos [i.token.text] x i2) : OneLineStmt x := by
  have := TokCall.line hN hc
  exact PStmt.one hN hs (by omega) (by omega)

theorem parseFile_oneLine {data : Bytes} (hN : NoMultiLineToken data) {stmts : List Expr} {i : Input}
    (h : parseFile data = .ok (stmts, i)) : ∀ s ∈ stmts, OneLineStmt s := by
  obtain ⟨i0, _, hrun, _⟩ := parseFile_runC h
  exact PFile.all (fun _ => trivial) (fun x _ hx => by cases x <;> exact hx) (PStmt.one1 (tokNl_of hN)) hrun
    (by intro s hs; cases hs)

theorem eolCount_of_single_line_tokens {name x : Bytes} {t : FileSyntax} (h : parse name x = .ok t)
    (hN : NoMultiLineToken x) : EolCount t :=
  parse_eolCount_of_oneLine h (fun _ _ hp => parseFile_oneLine hN hp)

end ModVerif.Proofs.ModfileSrc
