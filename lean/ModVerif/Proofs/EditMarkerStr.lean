/-
  The string lemmas behind `setIndirect`, for EVERY byte string (ill-formed UTF-8 included).

  `fields (" " ++ trimSpace y) = fields y` (`fields_space_trimSpace`, Proofs/EditMarkerFields.lean);
  `trimSpace ("indirect; " ++ t) ≠ "indirect"`
  (`trimSpace_marker_ne`);  `fields ("indirect; " ++ t) = "indirect;" :: fields t` (`fields_marker`).
  With them: `setIndirect` applied to end-of-line comments on which it achieves what it is asked for (`MarkerSettable`)
  yields comments on which it again achieves what it is asked for (`markerSettable_sfxAfter`).
-/
import ModVerif.Proofs.EditMarkerFields
import ModVerif.Proofs.EditRefineInvBulk
namespace ModVerif.Modfile.Edit
open ModVerif ModVerif.Modfile ModVerif.GoStrings
open ModVerif.Proofs.ModfileLex ModVerif.Proofs.ModfileFmtUtf8 ModVerif.Proofs.ModfileFmtTrim ModVerif.Proofs.ModfileEol

def markerSemi : Bytes := [105, 110, 100, 105, 114, 101, 99, 116, 59]
def markerWord : Bytes := [105, 110, 100, 105, 114, 101, 99, 116]

theorem B_indirect : B "indirect" = markerWord := by decide +kernel
theorem B_indirectSemi : B "indirect;" = markerSemi := by decide +kernel
theorem B_marker_long : B "// indirect; " = 47 :: 47 :: 32 :: (markerSemi ++ [32]) := by decide +kernel
theorem indirectTok_eq : indirectTok = 47 :: 47 :: 32 :: markerWord := by decide +kernel
theorem slashSlash_eq : slashSlash = [47, 47] := rfl

/-- ★ a text that starts with `indirect; ` never trims to the bare marker (the second of the three string lemmas of C15
    `marker_string_lemmas`) -/
theorem trimSpace_marker_ne (t : Bytes) : trimSpace (markerSemi ++ 32 :: t) ≠ markerWord := by
  intro h
  have hs : UnicodePrint.isSpace (Utf8.decodeRune (markerSemi ++ 32 :: t)).1 = false := by
    show UnicodePrint.isSpace (Utf8.decodeRune (105 :: _)).1 = false
    rw [decodeRune_ascii 105 _ (by decide)]; decide
  obtain ⟨e, heq, he⟩ := trimSpace_prefix_of_first _ hs
  rw [h] at heq
  have he' : e = 59 :: 32 :: t := by
    simp only [markerSemi, markerWord, List.cons_append, List.nil_append, List.cons.injEq, true_and] at heq
    exact heq.symm
  rw [he'] at he
  have := he.head_ascii (by decide)
  revert this; decide

theorem fields_marker (t : Bytes) : fields (markerSemi ++ 32 :: t) = markerSemi :: fields t :=
  fields_word_space markerSemi t (by decide) (by decide)

/-- the reading of `isIndirect` on the fields of the first comment -/
def indOf : List Bytes → Bool
  | [f0] => f0 == B "indirect"
  | f0 :: _ :: _ => f0 == B "indirect;"
  | [] => false

theorem isIndirectS_cons (c : Comment) (rest : List Comment) :
    isIndirectS (c :: rest) = indOf (fields (trimPrefix c.token [47, 47])) := by
  unfold isIndirectS isIndirect
  simp only
  generalize fields (trimPrefix c.token [47, 47]) = fs
  cases fs with
  | nil => rfl
  | cons a l => cases l <;> rfl

theorem isIndirectS_nil : isIndirectS [] = false := rfl

theorem sfxAfter_of_eq (b : Bool) (s : List Comment) (h : isIndirectS s = b) : sfxAfter b s = s := by
  unfold sfxAfter setIndirectLine
  have : (isIndirect ({ comments := { suffix := s } } : Line) == b) = true := by
    rw [isIndirect_eq]; simp [h]
  simp only [this, if_true]

theorem sfxAfter_true_cons (c : Comment) (rest : List Comment) (h : isIndirectS (c :: rest) = false) :
    sfxAfter true (c :: rest) =
      { c with token := if (trimSpace (trimPrefix c.token slashSlash)).isEmpty then indirectTok
                        else B "// indirect; " ++ trimSpace (trimPrefix c.token slashSlash) } :: rest := by
  unfold sfxAfter setIndirectLine
  have : (isIndirect ({ comments := { suffix := c :: rest } } : Line) == true) = false := by
    rw [isIndirect_eq]; simp [h]
  simp only [this, Bool.false_eq_true, if_false, if_true]

theorem sfxAfter_false_cons (c : Comment) (rest : List Comment) (h : isIndirectS (c :: rest) = true) :
    sfxAfter false (c :: rest) =
      if (trimSpace (trimPrefix c.token slashSlash) == B "indirect") = true then []
      else { c with token := slashSlash ++ c.token.drop ((index c.token (B "indirect;")).getD 0 + (B "indirect;").length) } :: rest := by
  unfold sfxAfter setIndirectLine
  have : (isIndirect ({ comments := { suffix := c :: rest } } : Line) == false) = false := by
    rw [isIndirect_eq]; simp [h]
  simp only [this, Bool.false_eq_true, if_false]
  split <;> rfl

theorem trimPrefix_slashes (x : Bytes) : trimPrefix (47 :: 47 :: x) [47, 47] = x := by
  simp [trimPrefix, isPrefixOfB]

theorem index_marker_long (t : Bytes) : index (47 :: 47 :: 32 :: (markerSemi ++ 32 :: t)) markerSemi = some 3 := by
  simp [index, indexAux, isPrefixOfB, markerSemi]

theorem indOf_marker (fs : List Bytes) (h : fs ≠ []) : indOf (markerSemi :: fs) = true := by
  cases fs with
  | nil => exact absurd rfl h
  | cons a l => simp [indOf, B_indirectSemi]

theorem isIndirectS_indirectTok (c : Comment) (rest : List Comment) :
    isIndirectS ({ c with token := indirectTok } :: rest) = true := by
  rw [isIndirectS_cons]
  show indOf (fields (trimPrefix indirectTok [47, 47])) = true
  decide +kernel

/-- ★★ **closure of `MarkerSettable` under `setIndirect`**: if `setIndirect` achieves what it is asked for on the comments
    `s`, it does so again on the comments it has rewritten -/
theorem markerSettable_sfxAfter (b : Bool) (s : List Comment) (h : MarkerSettable s) : MarkerSettable (sfxAfter b s) := by
  intro b'
  have hb := h b
  by_cases hbb : b' = b
  · subst hbb
    rw [sfxAfter_of_eq _ _ hb]; exact hb
  by_cases hs : isIndirectS s = b
  · rw [sfxAfter_of_eq _ _ hs]; exact h b'
  cases b with
  | true =>
    have hb' : b' = false := by cases b' <;> simp_all
    subst hb'
    have hs' : isIndirectS s = false := by simpa using hs
    cases s with
    | nil => decide +kernel
    | cons c rest =>
      rw [sfxAfter_true_cons c rest hs'] at hb ⊢
      by_cases ht : (trimSpace (trimPrefix c.token slashSlash)).isEmpty = true
      · simp only [ht, if_true] at hb ⊢
        rw [sfxAfter_false_cons _ _ hb]
        have : (trimSpace (trimPrefix indirectTok slashSlash) == B "indirect") = true := by decide +kernel
        simp only [this, if_true]
        rfl
      · simp only [ht, Bool.false_eq_true, if_false] at hb ⊢
        rw [sfxAfter_false_cons _ _ hb]
        simp only
        rw [B_marker_long, B_indirect, B_indirectSemi, slashSlash_eq]
        simp only [List.cons_append, List.append_assoc, List.nil_append]
        rw [trimPrefix_slashes, trimSpace_cons_space]
        have hne : (trimSpace (markerSemi ++ 32 :: trimSpace (trimPrefix c.token [47, 47])) == markerWord) = false := by
          cases hq : trimSpace (markerSemi ++ 32 :: trimSpace (trimPrefix c.token [47, 47])) == markerWord with
          | false => rfl
          | true => exact absurd (eq_of_beq hq) (trimSpace_marker_ne _)
        simp only [hne, Bool.false_eq_true, if_false]
        rw [index_marker_long]
        rw [isIndirectS_cons]
        simp only [Option.getD_some]
        have hdrop : (47 :: 47 :: 32 :: (markerSemi ++ 32 :: trimSpace (trimPrefix c.token [47, 47]))).drop (3 + markerSemi.length)
            = 32 :: trimSpace (trimPrefix c.token [47, 47]) := by
          simp [markerSemi]
        rw [hdrop]
        show indOf (fields (trimPrefix (47 :: 47 :: 32 :: trimSpace (trimPrefix c.token [47, 47])) [47, 47])) = false
        rw [trimPrefix_slashes, fields_space_trimSpace, ← isIndirectS_cons c rest]
        exact hs'
  | false =>
    have hb' : b' = true := by cases b' <;> simp_all
    subst hb'
    have hs' : isIndirectS s = true := by simpa using hs
    cases s with
    | nil => simp [isIndirectS_nil] at hs'
    | cons c rest =>
      rw [sfxAfter_false_cons c rest hs'] at hb ⊢
      by_cases hf : (trimSpace (trimPrefix c.token slashSlash) == B "indirect") = true
      · simp only [hf, if_true]
        exact sfxAfter_nil true
      · simp only [hf, Bool.false_eq_true, if_false] at hb ⊢
        rw [sfxAfter_true_cons _ _ hb]
        generalize hz : trimSpace (trimPrefix (slashSlash ++ List.drop ((index c.token (B "indirect;")).getD 0 + (B "indirect;").length) c.token) slashSlash) = text
        by_cases ht : text.isEmpty = true
        · simp only [ht, if_true]
          exact isIndirectS_indirectTok _ _
        · simp only [ht, Bool.false_eq_true, if_false]
          rw [isIndirectS_cons]
          simp only
          rw [B_marker_long]
          simp only [List.cons_append, List.append_assoc]
          rw [trimPrefix_slashes, fields_cons_space, fields_marker]
          apply indOf_marker
          rw [← hz]
          apply fields_trimSpace_ne_nil
          rw [hz]
          intro h0; rw [h0] at ht; simp at ht

theorem markerSettable_nil : MarkerSettable [] := by decide +kernel

theorem markerSettable_sfxAfter_nil (b : Bool) : MarkerSettable (sfxAfter b []) :=
  markerSettable_sfxAfter b [] markerSettable_nil

/-- non-vacuity: comments on which `setIndirect` works, a rewritten marker included; and the recorded finding is not
    among them -/
example : MarkerSettable [{ token := B "// indirect; why" }] ∧ MarkerSettable [{ token := [47, 47, 0xc2, 0xa0, 32, 110, 32, 0xe3, 0x80] }] ∧
    ¬ MarkerSettable [{ token := B "// indirect; indirect" }] := by decide +kernel

end ModVerif.Modfile.Edit
