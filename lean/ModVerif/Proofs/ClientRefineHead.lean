/-
  The SEQUENTIAL client's head handling (`mergeLatest` / `mergeLatestMem` / the configuration loop
  of Model/Client.lean, run to completion) and the CONCURRENT latest-head machine (Model/ClientLatest.lean) restricted to
  ONE goroutine of ONE client are the same thing, step for step; helper for Props/C14.lean.

  The lock-step product `corun`: the machine takes the steps of goroutine `t` only; next to it the sequential world is
  advanced by the piece of sequential code the machine step abstracts (`wstep`), and at the three kinds of choice points
  (`checkTrees`, `ReadConfig`, `WriteConfig`) the machine's nondeterministic answer must be the one the sequential
  client's environment gives (`answer`).  Which sequential code each transition abstracts:

    entry         Lookup's GONOSUMDB test (the goroutine is public: continue)            world unchanged
    start         the call `mergeLatest(msg)`                                            world unchanged
    memRead o     mergeLatestMem: `len(msg)==0` test with `c.latest` read under the
                  mutex; otherwise `note.Open`+`ParseTree` (`openTree`) and the snapshot
                  of `c.latest`, `c.latestMsg`                                           world unchanged
    memCheck o    the `checkTrees` call of mergeLatestMem (tile reads, `SaveTiles`,
                  possibly `SecurityError`)                                              world := checkTrees(..).2
    memInstall o  `if c.latest == latest { c.latest = tree; c.latestMsg = msg }`
                  (sequentially the comparison always succeeds)                          world := head installed
    readConfig    `c.ops.ReadConfig(c.name + "/latest")` of the loop in mergeLatest      world := readConfig(..).2
    readLatestMsg `latestMsg := c.latestMsg` under the mutex                             world unchanged
    writeConfig   `c.ops.WriteConfig(c.name+"/latest", msg, latestMsg)`                  world := writeConfig(..).2
    done x        mergeLatest has returned (`absRes` of its result is `x`)

  `o = first` is the call of mergeLatestMem at the top of mergeLatest, `o = loop` the one inside its `for` loop.
  The invariant `Coupled` says: the states agree (`RelG`), and running the REST of the sequential function from the
  current world gives the result of the whole sequential call (`LocOK`, the "continuation" of the program counter).
-/
import ModVerif.Proofs.ClientRefineFrame
import ModVerif.Proofs.ClientMoreMax
namespace ModVerif.ClientRefine
open ModVerif ModVerif.Client ModVerif.Tile


abbrev MParams (H : Type) := ClientLatest.Params Bytes (Head H)
abbrev MSt (H : Type) := ClientLatest.St Bytes (Head H)
abbrev MLoc (H : Type) := ClientLatest.Loc Bytes (Head H)

/-- **the abstraction of a `checkTrees` answer**: `nil` ↦ `ok`; the security error (returned after `SecurityError` was
called) ↦ `fork`; every other error (tiles unavailable, not authentic, …) ↦ `error` -/
def absChk : Except Err Unit → ClientLatest.Res
  | .ok _ => .ok
  | .error .security => .fork
  | .error _ => .error

def absRes : Except Err Unit → ClientLatest.Result
  | .ok _ => .ok
  | .error .security => .security
  | .error _ => .err

/-- `msgPast` / `msgNow` / `msgFuture` -/
def absWhen : Client.When → ClientLatest.When
  | .past => .past
  | .now => .now
  | .future => .future

section
variable {σ H : Type} [DecidableEq H]

/-- the machine parameters abstract the sequential client's verification layer -/
structure Abs (P : Params H) (E : Env σ) (vs : List Note.Verifier) (MP : MParams H) : Prop where
  parse : ∀ m, MP.parse m = match openTree P vs m with
    | .ok t => some t
    | .error _ => none
  size : ∀ t, MP.size t = t.n
  zero : MP.zero = ⟨0, P.empty⟩
  chk : ∀ (w : World σ H) (a : Head H) (o1 : Bytes) (b : Head H) (o2 : Bytes), a.n ≤ b.n →
    absChk (checkTrees P E w a o1 b o2).1 ∈ MP.chk a b

/-- the `checkTrees` call the machine step `memCheck` stands for -/
def seqCheck (P : Params H) (E : Env σ) (w : World σ H) (l : MLoc H) : Except Err Unit × World σ H :=
  if l.tree.n ≤ l.latest.n then checkTrees P E w l.tree (unB l.msg) l.latest (unB l.latestMsg)
  else checkTrees P E w l.latest (unB l.latestMsg) l.tree (unB l.msg)

def IsChoice : ClientLatest.PC → Prop
  | .memCheck _ => True
  | .readConfig => True
  | .writeConfig => True
  | _ => False

instance : DecidablePred IsChoice := fun p => by
  cases p <;> simp only [IsChoice] <;> infer_instance

/-- the answer the sequential client's environment gives at the choice point `l.pc` in world `w` -/
def answer (P : Params H) (E : Env σ) (w : World σ H) (l : MLoc H) : ClientLatest.Res :=
  match l.pc with
  | .memCheck _ => absChk (seqCheck P E w l).1
  | .readConfig => if (readConfig E w (latestFile w.c.name)).1.isSome then .ok else .error
  | .writeConfig =>
    match (writeConfig E w (latestFile w.c.name) (unB l.cfg) (unB l.lm)).1 with
    | .error => .error
    | _ => .ok
  | _ => .ok

/-- the sequential world after the sequential code that the machine step at `l.pc` abstracts -/
def wstep (P : Params H) (E : Env σ) (w : World σ H) (l : MLoc H) : World σ H :=
  match l.pc with
  | .memCheck _ => (seqCheck P E w l).2
  | .memInstall _ => { w with c := { w.c with latest := l.tree, latestMsg := unB l.msg } }
  | .readConfig => (readConfig E w (latestFile w.c.name)).2
  | .writeConfig => (writeConfig E w (latestFile w.c.name) (unB l.cfg) (unB l.lm)).2
  | _ => w

/-- **The lock-step product** of the sequential client and goroutine `t` of the machine: `rs` are the machine's
choices; `none` if the machine cannot take the step or if a choice is not the sequential environment's answer. -/
def corun (P : Params H) (E : Env σ) (MP : MParams H) (cl : Nat → Nat) (presented : Nat → Option Bytes)
    (priv : Nat → Bool) (t : Nat) : World σ H → MSt H → List ClientLatest.Res → Option (World σ H × MSt H)
  | w, s, [] => some (w, s)
  | w, s, r :: rs =>
    if IsChoice (s.th t).pc ∧ r ≠ answer P E w (s.th t) then none
    else match ClientLatest.step MP cl presented priv s t r with
      | none => none
      | some s' => corun P E MP cl presented priv t (wstep P E w (s.th t)) s' rs

theorem corun_run (P : Params H) (E : Env σ) (MP : MParams H) (cl : Nat → Nat) (presented : Nat → Option Bytes)
    (priv : Nat → Bool) (t : Nat) : ∀ (rs : List ClientLatest.Res) (w w' : World σ H) (s s' : MSt H),
    corun P E MP cl presented priv t w s rs = some (w', s') →
    ClientLatest.run MP cl presented priv s (rs.map fun r => (t, r)) = some s' := by
  intro rs
  induction rs with
  | nil => intro w w' s s' h; simp [corun] at h; simp [ClientLatest.run, h.2]
  | cons r rs ih =>
    intro w w' s s' h
    simp only [corun] at h
    split at h
    · cases h
    · cases hs : ClientLatest.step MP cl presented priv s t r with
      | none => simp [hs] at h
      | some s1 =>
        simp only [hs] at h
        simp only [List.map_cons, ClientLatest.run, hs]
        exact ih _ _ _ _ h

theorem corun_append (P : Params H) (E : Env σ) (MP : MParams H) (cl : Nat → Nat) (presented : Nat → Option Bytes)
    (priv : Nat → Bool) (t : Nat) : ∀ (a b : List ClientLatest.Res) (w w1 w2 : World σ H) (s s1 s2 : MSt H),
    corun P E MP cl presented priv t w s a = some (w1, s1) →
    corun P E MP cl presented priv t w1 s1 b = some (w2, s2) →
    corun P E MP cl presented priv t w s (a ++ b) = some (w2, s2) := by
  intro a
  induction a with
  | nil => intro b w w1 w2 s s1 s2 h1 h2; simp [corun] at h1; obtain ⟨rfl, rfl⟩ := h1; simpa using h2
  | cons r a ih =>
    intro b w w1 w2 s s1 s2 h1 h2
    simp only [corun, List.cons_append] at h1 ⊢
    split at h1
    · cases h1
    · rename_i hc
      rw [if_neg hc]
      cases hs : ClientLatest.step MP cl presented priv s t r with
      | none => simp [hs] at h1
      | some s0 => simp only [hs] at h1 ⊢; exact ih b _ _ _ _ _ _ h1 h2

/-! ### the continuation of each program counter -/

/-- what `mergeLatest` does with the result `r` of a `mergeLatestMem` call: `first` — the call at its top;
`loop` — the call inside its `for` loop, `cfgB` being the configuration content just read and `f` the remaining fuel -/
def afterMemSeq (P : Params H) (E : Env σ) (o : ClientLatest.Outer) (f : Nat) (cfgB : Bytes)
    (r : Except Err Client.When × World σ H) : Except Err Unit × World σ H :=
  match o with
  | .first =>
    (match r.1 with
     | .error e => (.error e, r.2)
     | .ok when => if when != .future then (.ok (), r.2) else mergeLatestLoop P E P.retries r.2)
  | .loop =>
    (match r.1 with
     | .error e => (.error e, r.2)
     | .ok when =>
       if when != .past then (.ok (), r.2) else
       let wr := writeConfig E r.2 (latestFile r.2.c.name) cfgB r.2.c.latestMsg
       match wr.1 with
       | .conflict => mergeLatestLoop P E f wr.2
       | .ok => (.ok (), wr.2)
       | .error => (.error .config, wr.2))

/-- the body of `mergeLatestMem` after `note.Open` / `ParseTree` succeeded -/
def memCheckSeq (P : Params H) (E : Env σ) (w : World σ H) (tree : Head H) (msg : Bytes) :
    Except Err Client.When × World σ H :=
  if tree.n ≤ w.c.latest.n then
    let r := checkTrees P E w tree msg w.c.latest w.c.latestMsg
    match r.1 with
    | .error e => (.error e, r.2)
    | .ok () => (.ok (if tree.n < w.c.latest.n then .past else .now), r.2)
  else
    let r := checkTrees P E w w.c.latest w.c.latestMsg tree msg
    match r.1 with
    | .error e => (.error e, r.2)
    | .ok () => (.ok .future, { r.2 with c := { r.2.c with latest := tree, latestMsg := msg } })

theorem mergeLatestMem_eq (P : Params H) (E : Env σ) (w : World σ H) (msg : Bytes) :
    mergeLatestMem P E w msg =
      if msg.isEmpty then (.ok (if w.c.latest.n == 0 then .now else .past), w)
      else match openTree P w.c.verifiers msg with
        | .error e => (.error e, w)
        | .ok tree => memCheckSeq P E w tree msg := rfl

theorem mergeLatest_eq (P : Params H) (E : Env σ) (w : World σ H) (msg : Bytes) (f : Nat) (cfgB : Bytes) :
    mergeLatest P E w msg = afterMemSeq P E .first f cfgB (mergeLatestMem P E w msg) := rfl

theorem mergeLatestLoop_succ (P : Params H) (E : Env σ) (f : Nat) (w : World σ H) :
    mergeLatestLoop P E (f + 1) w =
      match (readConfig E w (latestFile w.c.name)).1 with
      | none => (.error .config, (readConfig E w (latestFile w.c.name)).2)
      | some msg => afterMemSeq P E .loop f msg (mergeLatestMem P E (readConfig E w (latestFile w.c.name)).2 msg) := by
  rw [mergeLatestLoop]
  cases (readConfig E w (latestFile w.c.name)).1 <;> rfl

def installW (w : World σ H) (tree : Head H) (msg : Bytes) : World σ H :=
  { w with c := { w.c with latest := tree, latestMsg := msg } }

/-- **The coupling at program counter `l.pc`**: what the goroutine's local variables have to do with the sequential
world, and: running the rest of the sequential function from here yields `target`, the result of the whole call. -/
def LocOK (P : Params H) (E : Env σ) (vs : List Note.Verifier) (cfg : σ → Bytes) (msg0 : Bytes)
    (target : Except Err Unit × World σ H) (w : World σ H) (l : MLoc H) : Prop :=
  match l.pc with
  | .entry => mergeLatest P E w msg0 = target
  | .start => mergeLatest P E w msg0 = target
  | .memRead o => l.msg = optB (unB l.msg) ∧ (o = .loop → l.cfg = optB (cfg w.s)) ∧
      afterMemSeq P E o (P.retries - 1) (unB l.cfg) (mergeLatestMem P E w (unB l.msg)) = target
  | .memCheck o => l.latest = w.c.latest ∧ l.latestMsg = optB w.c.latestMsg ∧ l.msg = optB (unB l.msg) ∧
      openTree P vs (unB l.msg) = .ok l.tree ∧ (o = .loop → l.cfg = optB (cfg w.s)) ∧
      afterMemSeq P E o (P.retries - 1) (unB l.cfg) (memCheckSeq P E w l.tree (unB l.msg)) = target
  | .memInstall o => l.latest = w.c.latest ∧ l.msg = optB (unB l.msg) ∧ (o = .loop → l.cfg = optB (cfg w.s)) ∧
      afterMemSeq P E o (P.retries - 1) (unB l.cfg) (.ok .future, installW w l.tree (unB l.msg)) = target
  | .readConfig => mergeLatestLoop P E P.retries w = target
  | .readLatestMsg => l.cfg = optB (cfg w.s) ∧
      afterMemSeq P E .loop (P.retries - 1) (unB l.cfg) (.ok .past, w) = target
  | .writeConfig => l.cfg = optB (cfg w.s) ∧ l.lm = optB w.c.latestMsg ∧
      afterMemSeq P E .loop (P.retries - 1) (unB l.cfg) (.ok .past, w) = target
  | .done x => absRes target.1 = x ∧ target.2 = w

/-- the shared state of the machine (as far as client `cl t` is concerned) is the sequential world's -/
structure RelG (cl : Nat → Nat) (name : Bytes) (cfg : σ → Bytes) (vs : List Note.Verifier) (t : Nat)
    (w : World σ H) (s : MSt H) : Prop where
  name : w.c.name = name
  verifiers : w.c.verifiers = vs
  nosec : NoSecTile w
  latest : s.latest (cl t) = w.c.latest
  latestMsg : s.latestMsg (cl t) = optB w.c.latestMsg
  config : s.config = optB (cfg w.s)

/-- the machine's `SecurityError` records (newest first) against the texts in the sequential trace (oldest first):
each text starts with the two notes of the record, older first (`securityHead`) -/
inductive SecRel (P : Params H) (t : Nat) : List (Nat × Option Bytes × Option Bytes) → List Bytes → Prop
  | nil : SecRel P t [] []
  | snoc {l : List (Nat × Option Bytes × Option Bytes)} {txts : List Bytes} (a b : Option Bytes) (h : H) (tail : Bytes) :
      SecRel P t l txts → SecRel P t ((t, a, b) :: l) (txts ++ [securityHead P (unB a) (unB b) h ++ tail])

/-- the observable effects agree -/
def Obs (P : Params H) (t : Nat) (tr0 : List Effect) (bw : List (Option Bytes × Option Bytes))
    (bs : List (Nat × Option Bytes × Option Bytes)) (w : World σ H) (s : MSt H) : Prop :=
  ∃ ext, w.tr = tr0 ++ ext ∧ s.writes = (trWrites ext).reverse ++ bw ∧ ∃ ns, s.sec = ns ++ bs ∧ SecRel P t ns (trSecs ext)

structure Coupled (P : Params H) (E : Env σ) (cl : Nat → Nat) (name : Bytes) (cfg : σ → Bytes)
    (vs : List Note.Verifier) (t : Nat) (msg0 : Bytes) (target : Except Err Unit × World σ H)
    (tr0 : List Effect) (bw : List (Option Bytes × Option Bytes)) (bs : List (Nat × Option Bytes × Option Bytes))
    (w : World σ H) (s : MSt H) : Prop where
  rel : RelG cl name cfg vs t w s
  loc : LocOK P E vs cfg msg0 target w (s.th t)
  obs : Obs P t tr0 bw bs w s

end
end ModVerif.ClientRefine
