/-
  go.work: from the tree invariant `InvW` to the hypotheses of the first run and of the round trip, and the composition
  (the C15 theorems `typed_eq_reparse_*`, go.work; the counterpart of Proofs/EditReparse{D,E}.lean and of the sessions of
  Proofs/EditGoodBlocksC.lean).

  Under `InvW e` every line of the tree renders the item of `items e.f` with its id; the token clauses of C02's tree shape
  `EWFStmts` follow from `InvW` and readable values (`tree_ewf`, shared with go.mod), the comment clauses are the Boolean
  test `comShapeB`.  `AbsPermW`: equality of two abstract go.work files (go / toolchain equal; godebug / use / replace as
  multisets).  For a state: `reparse_of_invW`; for a state after a session and the final Cleanup: `reparse_of_run`; from a
  parsed file the outcome of `sessionWork` is unfolded by `sessionWork_some`.
-/
import ModVerif.Proofs.EditWorkReparseB
import ModVerif.Proofs.EditWorkReparseA
namespace ModVerif.Modfile.Edit.W
open ModVerif ModVerif.Modfile ModVerif.EditSpec
open ModVerif.Proofs.ModfileFmtDir (PathOK VerOK pathOKB pathOKB_sound lineTailOK_no_lparen)
open ModVerif.Proofs.ModfileFmtLine (TokText)
open ModVerif.Proofs.ModfileFmtWork (WorkWellFormed workValues WorkValues workValues_eq_iff)
open ModVerif.Proofs.ModfileEol (EWFStmts EWFStmt EWFLine EWFBlkLine EWFBlkLines EWFBlock SufOK NlOK NlLine)

theorem entry_item {f : WorkFile} {en : Ent} (hen : en ∈ entriesW f) :
    ∃ it, (en.id, it) ∈ items f ∧ ∀ t s, en.acc t s → Rend it t := by
  simp only [entriesW, List.mem_append, List.mem_map, Option.mem_toList, entsOf, List.mem_filter] at hen
  rcases hen with ⟨x, hx, rfl⟩ | ⟨x, hx, rfl⟩ | ⟨x, hx, rfl⟩ | ⟨x, hx, rfl⟩ | ⟨x, hx, rfl⟩
  · exact ⟨_, mem_items_go hx, fun _ _ h => h⟩
  · exact ⟨_, mem_items_toolchain hx, fun _ _ h => h⟩
  · exact ⟨_, mem_items_godebug hx.1, fun _ _ h => h⟩
  · exact ⟨_, mem_items_use hx.1, fun _ _ h => h⟩
  · exact ⟨_, mem_items_replace hx.1, fun t _ h => (show t = replaceToks x from h) ▸ replaceToks_replArgs x⟩

/-- the state after `WorkFile.Cleanup` -/
structure AllLive (f : WorkFile) : Prop where
  godebug : ∀ g ∈ f.godebug, liveG g = true
  use : ∀ u ∈ f.use, liveU u = true
  replace : ∀ r ∈ f.replace, liveRp r = true

theorem items_ids {f : WorkFile} (h : AllLive f) : (items f).map (·.1) = (entriesW f).map (·.id) := by
  simp only [items, entriesW, entsOf, List.map_append, List.map_map, List.filter_eq_self.2 h.godebug,
    List.filter_eq_self.2 h.use, List.filter_eq_self.2 h.replace]
  rfl

def VOK (f : WorkFile) : Prop := ∀ q ∈ items f, ItemOK q.2

theorem items_scalar1 (f : WorkFile) :
    (∀ a b p q, (a, Item.go p) ∈ items f → (b, Item.go q) ∈ items f → a = b) ∧
    (∀ a b p q, (a, Item.toolchain p) ∈ items f → (b, Item.toolchain q) ∈ items f → a = b) := by
  refine ⟨?_, ?_⟩ <;> intro a b p q h1 h2 <;>
    simp only [items, List.mem_append, List.mem_map, Prod.mk.injEq, reduceCtorEq, and_false, exists_false, or_false,
      false_or, Option.mem_toList] at h1 h2
  · obtain ⟨x, hx, rfl, _⟩ := h1
    obtain ⟨y, hy, rfl, _⟩ := h2
    rw [hx] at hy; cases hy; rfl
  · obtain ⟨x, hx, rfl, _⟩ := h1
    obtain ⟨y, hy, rfl, _⟩ := h2
    rw [hx] at hy; cases hy; rfl

theorem inv_IOK {e : EWork} (hi : InvW e) (hl : AllLive e.f) (hv : VOK e.f) : IOK (items e.f) :=
  ⟨by rw [items_ids hl]; exact hi.mtch.nodup, hv, (items_scalar1 e.f).1, (items_scalar1 e.f).2⟩

theorem line_item {e : EWork} (hi : InvW e) {p : List Bytes × Line} (hp : p ∈ loc e.f.syn.stmts) (hlive : liveLoc p = true) :
    ∃ it, (p.2.id, it) ∈ items e.f ∧ Rend it (p.1 ++ p.2.token) :=
  hi.mtch.line_item (R := fun it t _ => Rend it t) hi.tree (fun _ hen => entry_item hen) hp hlive

theorem inv_fits {e : EWork} (hi : InvW e) (hll : LinesLive e.f.syn.stmts) (hgb : GoodBlocks e.f.syn.stmts) :
    ∀ x ∈ e.f.syn.stmts, LinesFit (fun id t _ => ∃ it, (id, it) ∈ items e.f ∧ Rend it t) (verbIn · workBlockVerbs) x :=
  tree_fits hi.tree hll hgb (fun p hp => line_item hi hp (hll p hp))

theorem inv_surj {e : EWork} (hi : InvW e) (hl : AllLive e.f) : ∀ q ∈ items e.f, q.1 ∈ treeIds e.f.syn.stmts :=
  hi.mtch.item_ids (items_ids hl)

theorem rawTok_use : RawTok (B "use") := by
  refine ⟨?_, ?_⟩ <;> decide +kernel

theorem rend_toks {it : Item} {t : List Bytes} (hr : Rend it t) (hok : ItemOK it) : ∀ a ∈ t, GoodTok a := by
  cases it with
  | go v => exact Edit.rend_toks (it := .go v) (s := []) hr hok
  | toolchain n => exact Edit.rend_toks (it := .toolchain n) (s := []) hr hok
  | godebug k v => exact Edit.rend_toks (it := .godebug k v) (s := []) hr hok
  | replace o n => exact Edit.rend_toks (it := .replace o n) (s := []) hr hok
  | use p => rw [show t = _ from hr]; exact forall_mem_pair (goodTok_raw rawTok_use) (goodTok_path hok)

theorem blockVerb_raw {v : Bytes} (h : verbIn v workBlockVerbs = true) : RawTok v := by
  obtain ⟨r1, r2, r3, r4, r5, r6, r7, r8, r9, r10⟩ := rawTok_verb
  simp only [verbIn, workBlockVerbs, List.any_cons, List.any_nil, Bool.or_false, Bool.or_eq_true, beq_iff_eq] at h
  rcases h with h | h | h <;> rw [← h]
  · exact r4
  · exact rawTok_use
  · exact r7

theorem inv_ewf {e : EWork} (hi : InvW e) (hv : VOK e.f) (hll : LinesLive e.f.syn.stmts) (hgb : GoodBlocks e.f.syn.stmts)
    (hcom : comShapeB e.f.syn = true) :
    EWFStmts e.f.syn.stmts ∧ (∀ s ∈ e.f.syn.stmts, NlOK s) ∧ e.f.syn.comments.before = [] :=
  tree_ewf hi.tree hll
    (fun p hp => let ⟨_, hmem, hr⟩ := line_item hi hp (hll p hp); rend_toks hr (hv _ hmem))
    (fun b hb v hv' => blockVerb_raw (hgb b hb v hv')) hcom

structure AbsPermW (a b : AbsFile) : Prop where
  go : a.go = b.go
  toolchain : a.toolchain = b.toolchain
  godebug : a.godebug.Perm b.godebug
  use : a.use.Perm b.use
  replace : a.replace.Perm b.replace

theorem AbsPermW.refl (a : AbsFile) : AbsPermW a a := ⟨rfl, rfl, .refl _, .refl _, .refl _⟩
theorem AbsPermW.trans {a b c : AbsFile} (h1 : AbsPermW a b) (h2 : AbsPermW b c) : AbsPermW a c :=
  ⟨h1.go.trans h2.go, h1.toolchain.trans h2.toolchain, h1.godebug.trans h2.godebug, h1.use.trans h2.use,
   h1.replace.trans h2.replace⟩
theorem AbsPermW.symm {a b : AbsFile} (h : AbsPermW a b) : AbsPermW b a :=
  ⟨h.go.symm, h.toolchain.symm, h.godebug.symm, h.use.symm, h.replace.symm⟩

def selGo : Nat × Item → Option Bytes
  | (_, .go p) => some p
  | _ => none
def selToolchain : Nat × Item → Option Bytes
  | (_, .toolchain p) => some p
  | _ => none
def selGodebug : Nat × Item → Option (Bytes × Bytes)
  | (_, .godebug k v) => some (k, v)
  | _ => none
def selUse : Nat × Item → Option Bytes
  | (_, .use p) => some p
  | _ => none
def selReplace : Nat × Item → Option Repl
  | (_, .replace o n) => some ⟨o.path, o.version, n.path, n.version⟩
  | _ => none

theorem sel_go (f : WorkFile) : (items f).filterMap selGo = (absOfWork f).go.toList := by
  cases h : f.go <;>
    simp [items, absOfWork, selGo, List.filterMap_append, List.filterMap_map, Function.comp_def, fm_none, h]
theorem sel_toolchain (f : WorkFile) : (items f).filterMap selToolchain = (absOfWork f).toolchain.toList := by
  cases h : f.toolchain <;>
    simp [items, absOfWork, selToolchain, List.filterMap_append, List.filterMap_map, Function.comp_def, fm_none, h]
theorem sel_godebug (f : WorkFile) : (items f).filterMap selGodebug = (absOfWork f).godebug := by
  simp [items, absOfWork, selGodebug, List.filterMap_append, List.filterMap_map, Function.comp_def, fm_none]
theorem sel_use (f : WorkFile) : (items f).filterMap selUse = (absOfWork f).use := by
  simp [items, absOfWork, selUse, List.filterMap_append, List.filterMap_map, Function.comp_def, fm_none]
theorem sel_replace (f : WorkFile) : (items f).filterMap selReplace = (absOfWork f).replace := by
  simp [items, absOfWork, selReplace, List.filterMap_append, List.filterMap_map, Function.comp_def, fm_none]

theorem absPermW_of_items {f g : WorkFile} (h : (items f).Perm (items g)) : AbsPermW (absOfWork f) (absOfWork g) := by
  refine ⟨opt_of_perm ?_, opt_of_perm ?_, ?_, ?_, ?_⟩
  · rw [← sel_go, ← sel_go]; exact h.filterMap _
  · rw [← sel_toolchain, ← sel_toolchain]; exact h.filterMap _
  · rw [← sel_godebug, ← sel_godebug]; exact h.filterMap _
  · rw [← sel_use, ← sel_use]; exact h.filterMap _
  · rw [← sel_replace, ← sel_replace]; exact h.filterMap _

theorem absPermW_of_values {f g : WorkFile} (h : workValues f = workValues g) : AbsPermW (absOfWork f) (absOfWork g) := by
  obtain ⟨h1, h2, h3, h4, h5⟩ := (workValues_eq_iff f g).1 h
  refine ⟨h1, h2, .of_eq h3, .of_eq h4, ?_⟩
  have := congrArg (List.map fun (p : ModVersion × ModVersion) => (⟨p.1.path, p.1.version, p.2.path, p.2.version⟩ : Repl)) h5
  simp only [List.map_map, Function.comp_def] at this
  exact List.Perm.of_eq this

theorem wellFormed_of_items {f : WorkFile} {I : List (Nat × Item)} (hp : (items f).Perm I) (hok : ∀ q ∈ I, ItemOK q.2) :
    WorkWellFormed f := by
  have key : ∀ {q}, q ∈ items f → ItemOK q.2 := fun hq => hok _ (hp.mem_iff.1 hq)
  refine ⟨fun u hu => key (mem_items_use hu), fun r hr => ?_⟩
  have : Edit.ItemOK (.replace r.old r.new) := key (mem_items_replace hr)
  exact ⟨this.1, this.2.2.1, this.2.1, this.2.2.2.1⟩

/-- Props/C15 `typed_eq_reparse_work_state` -/
theorem reparse_of_invW (name : Bytes) (e : EWork) (hi : InvW e) (hl : AllLive e.f) (hv : VOK e.f)
    (hll : LinesLive e.f.syn.stmts) (hgb : GoodBlocks e.f.syn.stmts) (hcom : comShapeB e.f.syn = true) :
    ∃ g, parseWork name (format e.f.syn) none = .ok g ∧ AbsPermW (absOfWork g) (absOfWork e.f) := by
  have hIOK := inv_IOK hi hl hv
  obtain ⟨st1, hrun, herr, hperm⟩ := first_run_fits hIOK e.f.syn hi.tree.nodup (inv_fits hi hll hgb) (inv_surj hi hl)
  obtain ⟨hewf, hnl, hhdr⟩ := inv_ewf hi hv hll hgb hcom
  have hwf := wellFormed_of_items hperm hv
  obtain ⟨g, hparse, hvals⟩ := Proofs.EditReparse.reparse_of_first_run_work name e.f.syn st1 hewf hnl hhdr hrun herr hwf
  exact ⟨g, hparse, (absPermW_of_values hvals).trans (absPermW_of_items hperm)⟩

theorem workCleanup_allLive (e : EWork) : AllLive (workCleanup e).f := by
  refine ⟨?_, ?_, ?_⟩ <;> intro x hx <;> simp only [workCleanup, List.mem_filter] at hx <;> exact hx.2

theorem workCleanup_linesLive (e : EWork) : LinesLive (workCleanup e).f.syn.stmts := cleanupStmts_linesLive _

def absItems (a : AbsFile) : List Item :=
  a.go.toList.map Item.go ++ (a.toolchain.toList.map Item.toolchain ++
  (a.godebug.map (fun g => Item.godebug g.1 g.2) ++ (a.use.map Item.use ++
   a.replace.map (fun r => Item.replace ⟨r.oldPath, r.oldVers⟩ ⟨r.newPath, r.newVers⟩))))

def AbsOKW (a : AbsFile) : Prop := ∀ it ∈ absItems a, ItemOK it

theorem absItems_absOfWork (f : WorkFile) : absItems (absOfWork f) = (items f).map (·.2) := by
  cases hg : f.go <;> cases ht : f.toolchain <;>
    simp [absItems, absOfWork, items, List.map_append, List.map_map, Function.comp_def, hg, ht]

theorem vok_of_absOKW {f : WorkFile} (h : AbsOKW (absOfWork f)) : VOK f := by
  intro q hq
  apply h
  rw [absItems_absOfWork]
  exact List.mem_map.2 ⟨q, hq, rfl⟩

def itemOKB : Item → Bool
  | .go v => Edit.itemOKB (.go v)
  | .toolchain n => Edit.itemOKB (.toolchain n)
  | .godebug k v => Edit.itemOKB (.godebug k v)
  | .use p => pathOKB p
  | .replace o n => Edit.itemOKB (.replace o n)

theorem itemOKB_sound {it : Item} (h : itemOKB it = true) : ItemOK it := by
  cases it with
  | go v => exact Edit.itemOKB_sound (it := .go v) h
  | toolchain n => exact Edit.itemOKB_sound (it := .toolchain n) h
  | godebug k v => exact Edit.itemOKB_sound (it := .godebug k v) h
  | use p => exact pathOKB_sound h
  | replace o n => exact Edit.itemOKB_sound (it := .replace o n) h

def absOKWB (a : AbsFile) : Bool := (absItems a).all itemOKB

theorem absOKWB_sound {a : AbsFile} (h : absOKWB a = true) : AbsOKW a :=
  fun it hit => itemOKB_sound (List.all_eq_true.1 h it hit)

/-- ★ the theorem about states of which the session forms below are instances -/
theorem reparse_of_run (name' : Bytes) (e e' : EWork) (ops : List Op) (res : List Bool) (hi : InvW e)
    (hgb : GoodBlocks e.f.syn.stmts) (hv : StaticValidW false ops) (h : runOps applyWork e ops [] 0 = .done e' res)
    (hok : AbsOKW (absOfWork (workCleanup e').f)) (hcom : comShapeB (workCleanup e').f.syn = true) :
    ∃ g, parseWork name' (format (workCleanup e').f.syn) none = .ok g ∧
      AbsPermW (absOfWork g) (absOfWork (workCleanup e').f) :=
  reparse_of_invW name' (workCleanup e')
    (workCleanup_inv e' (runOpsWork_inv_all ops e [] 0 e' res (StaticValidW.runValidW ops false e hv (fun hc => by cases hc)) hi h))
    (workCleanup_allLive e') (vok_of_absOKW hok) (workCleanup_linesLive e')
    ((gb_iff _).1 (gb_cleanupStmts _ (runOpsWork_gb ops e [] 0 e' res ((gb_iff _).2 hgb) h))) hcom

/-- Props/C15 `typed_eq_reparse_work_partial_run` -/
theorem typed_eq_reparse_work_run (name name' data : Bytes) (f : WorkFile) (ops : List Op) (e' : EWork) (res : List Bool)
    (hf : parseWork name data none = .ok f) (hk : WorkKeys f) (hs : NoBlockSuffix f.syn) (hv : StaticValidW false ops)
    (h : runOps applyWork (loadWork f) ops [] 0 = .done e' res)
    (hok : AbsOKW (absOfWork (workCleanup e').f)) (hcom : comShapeB (workCleanup e').f.syn = true) :
    ∃ g, parseWork name' (format (workCleanup e').f.syn) none = .ok g ∧
      AbsPermW (absOfWork g) (absOfWork (workCleanup e').f) :=
  reparse_of_run name' _ e' ops res (parseWork_invW hf hk hs) ((goodBlocks_loadWork f).2 (parseWork_goodBlocks hf)) hv h hok hcom

/-- Props/C15 `typed_eq_reparse_work_partial`: what `edit.worksession` prints -/
theorem typed_eq_reparse_work_session (file : Bytes) (ops : List Op) (o : Outcome) (f : WorkFile)
    (hf : parseWork (B "go.work") file none = .ok f) (hk : WorkKeys f) (hs : NoBlockSuffix f.syn)
    (hv : StaticValidW false ops) (h : sessionWork file ops = some o) (hok : AbsOKW o.typed)
    (hcom : comShapeB o.tree = true) :
    ∃ r, o.reparsed = some r ∧ AbsPermW r o.typed := by
  obtain ⟨f', e, res, hf', hrun, _, h2, h3, _, h5⟩ := sessionWork_some h
  cases hf.symm.trans hf'
  rw [h2] at hok; rw [h3] at hcom
  obtain ⟨g, hg, hp⟩ := typed_eq_reparse_work_run _ (B "go.work") _ f ops e res hf hk hs hv hrun hok hcom
  rw [h5, hg, h2]
  exact ⟨_, rfl, hp⟩

/-- Props/C15 `goodBlocks_invariant_work_session` -/
theorem goodBlocks_session (file : Bytes) (ops : List Op) (o : Outcome) (h : sessionWork file ops = some o) :
    goodBlocksB o.tree.stmts = true := by
  obtain ⟨f, e, res, hf, hrun, _, _, h3, _, _⟩ := sessionWork_some h
  rw [h3]
  exact (goodBlocksB_iff _).2 (goodBlocks_run _ _ f ops e res hf hrun).2

end ModVerif.Modfile.Edit.W
