/-
  Helper lemmas for C19 (sumdb/dirhash): insertion sort w.r.t. a strict total order is the unique sorted
  permutation; the Hash1 loop computes the documented lines; the line format parses back unambiguously.
-/
import ModVerif.Model.Dirhash
import ModVerif.Proofs.BytesOrder
namespace ModVerif.Dirhash
open ModVerif

/-- decidable equality of results, so that concrete instances can be closed by kernel evaluation -/
instance instDecidableEqExcept {ε α : Type} [DecidableEq ε] [DecidableEq α] : DecidableEq (Except ε α)
  | .ok a, .ok b => if h : a = b then isTrue (by rw [h]) else isFalse (by intro e; cases e; exact h rfl)
  | .error a, .error b => if h : a = b then isTrue (by rw [h]) else isFalse (by intro e; cases e; exact h rfl)
  | .ok _, .error _ => isFalse (by intro e; cases e)
  | .error _, .ok _ => isFalse (by intro e; cases e)

structure StrictTotal {α : Type} (lt : α → α → Bool) : Prop where
  asymm : ∀ a b, lt a b = true → lt b a = false
  trans : ∀ a b c, lt a b = true → lt b c = true → lt a c = true
  total : ∀ a b, lt a b = false → lt b a = false → a = b

theorem bytesLt_strictTotal : StrictTotal bytesLt := ⟨bytesLt_asymm, bytesLt_trans, bytesLt_total⟩

section SortSec
variable {α : Type} {lt : α → α → Bool}

theorem StrictTotal.irrefl (h : StrictTotal lt) (a : α) : lt a a = false := by
  cases e : lt a a with
  | false => rfl
  | true => have := h.asymm a a e; rw [e] at this; exact this

/-- `≤` (the negation of `>`) is transitive -/
theorem StrictTotal.le_trans (h : StrictTotal lt) {a b c : α} (ab : lt b a = false) (bc : lt c b = false) :
    lt c a = false := by
  cases hca : lt c a with
  | false => rfl
  | true =>
    cases hab : lt a b with
    | true => have := h.trans c a b hca hab; rw [this] at bc; exact absurd bc (by decide)
    | false => have e := h.total a b hab ab; subst e; rw [hca] at bc; exact absurd bc (by decide)

theorem orderedInsert_perm (x : α) : ∀ l : List α, (orderedInsert lt x l).Perm (x :: l)
  | [] => .refl _
  | y :: ys => by
    unfold orderedInsert; split
    · exact ((orderedInsert_perm x ys).cons y).trans (List.Perm.swap x y ys)
    · exact .refl _

theorem insertionSort_perm : ∀ l : List α, (insertionSort lt l).Perm l
  | [] => .refl _
  | x :: xs => (orderedInsert_perm x _).trans ((insertionSort_perm xs).cons x)

theorem orderedInsert_sorted (h : StrictTotal lt) (x : α) : ∀ l : List α,
    l.Pairwise (fun a b => lt b a = false) → (orderedInsert lt x l).Pairwise (fun a b => lt b a = false)
  | [], _ => by simp [orderedInsert]
  | y :: ys, hs => by
    have ⟨hy, hys⟩ := List.pairwise_cons.1 hs
    unfold orderedInsert; split
    · rename_i hyx
      refine List.pairwise_cons.2 ⟨?_, orderedInsert_sorted h x ys hys⟩
      intro z hz
      have hz' : z ∈ x :: ys := (orderedInsert_perm x ys).subset hz
      rcases List.mem_cons.1 hz' with rfl | hz'
      · exact h.asymm _ _ hyx
      · exact hy z hz'
    · rename_i hyx
      have hyx : lt y x = false := by simpa using hyx
      refine List.pairwise_cons.2 ⟨?_, hs⟩
      intro z hz
      rcases List.mem_cons.1 hz with rfl | hz
      · exact hyx
      · exact h.le_trans hyx (hy z hz)

theorem insertionSort_sorted (h : StrictTotal lt) : ∀ l : List α,
    (insertionSort lt l).Pairwise (fun a b => lt b a = false)
  | [] => List.Pairwise.nil
  | x :: xs => orderedInsert_sorted h x _ (insertionSort_sorted h xs)

theorem insertionSort_eq_of_sorted_perm (h : StrictTotal lt) {l s : List α}
    (hs : s.Pairwise (fun a b => lt b a = false)) (p : s.Perm l) : insertionSort lt l = s :=
  List.Perm.eq_of_pairwise (le := fun a b => lt b a = false)
    (fun a b _ _ h1 h2 => h.total a b h2 h1) (insertionSort_sorted h l) hs
    ((insertionSort_perm l).trans p.symm)

theorem insertionSort_eq_of_perm (h : StrictTotal lt) {l₁ l₂ : List α} (p : l₁.Perm l₂) :
    insertionSort lt l₁ = insertionSort lt l₂ :=
  (insertionSort_eq_of_sorted_perm h (insertionSort_sorted h l₁) ((insertionSort_perm l₁).trans p)).symm

theorem strictSorted_le (h : StrictTotal lt) {s : List α} (hs : s.Pairwise (fun a b => lt a b = true)) :
    s.Pairwise (fun a b => lt b a = false) :=
  hs.imp (fun {a b} hab => h.asymm a b hab)

theorem strictSorted_nodup (h : StrictTotal lt) {s : List α} (hs : s.Pairwise (fun a b => lt a b = true)) :
    s.Nodup :=
  hs.imp (fun {a b} hab e => by subst e; rw [h.irrefl] at hab; exact absurd hab (by decide))

end SortSec

theorem sortStrings_perm (l : List Bytes) : (sortStrings l).Perm l := insertionSort_perm l

theorem sortStrings_eq_of_perm {l₁ l₂ : List Bytes} (p : l₁.Perm l₂) : sortStrings l₁ = sortStrings l₂ :=
  insertionSort_eq_of_perm bytesLt_strictTotal p

theorem lookup_of_mem_nodup {α β : Type} [BEq α] [LawfulBEq α] : ∀ (l : List (α × β)) (a : α) (b : β),
    (l.map (·.1)).Nodup → (a, b) ∈ l → l.lookup a = some b
  | [], _, _, _, h => by simp at h
  | (a', b') :: l, a, b, nd, h => by
    simp only [List.map_cons, List.nodup_cons] at nd
    rcases List.mem_cons.1 h with e | h'
    · cases e; simp [List.lookup]
    · have hne : a ≠ a' := by
        intro e
        exact nd.1 (List.mem_map.2 ⟨(a, b), h', e⟩)
      have : (a == a') = false := by simpa using hne
      simp only [List.lookup, this]
      exact lookup_of_mem_nodup l a b nd.2 h'

theorem mem_of_lookup_eq_some {α β : Type} [BEq α] [LawfulBEq α] : ∀ (l : List (α × β)) (a : α) (b : β),
    l.lookup a = some b → (a, b) ∈ l
  | [], _, _, h => by simp [List.lookup] at h
  | (a', b') :: l, a, b, h => by
    simp only [List.lookup] at h
    split at h
    · rename_i e
      have e : a = a' := by simpa using e
      cases h; subst e; exact List.mem_cons_self
    · exact List.mem_cons_of_mem _ (mem_of_lookup_eq_some l a b h)

theorem nodup_of_keys_nodup {α β : Type} {l : List (α × β)} (h : (l.map (·.1)).Nodup) : l.Nodup :=
  List.Pairwise.of_map (·.1) (fun a b hne e => hne (by rw [e])) h

theorem hasNewline_false_iff (n : Bytes) : hasNewline n = false ↔ (10 : UInt8) ∉ n := by
  unfold hasNewline
  rw [List.any_eq_false]
  constructor
  · intro h hm; exact h 10 hm (by decide)
  · intro h x hx e
    have : x = 10 := by simpa using e
    subst this; exact h hx

theorem summaryLoop_ok (sha : Bytes → Bytes) (openF : Bytes → Option Bytes) : ∀ s : List (Bytes × Bytes),
    (∀ p ∈ s, hasNewline p.1 = false) → (∀ p ∈ s, openF p.1 = some p.2) →
    summaryLoop sha openF (s.map (·.1)) = .ok (s.flatMap fun p => summaryLine (sha p.2) p.1)
  | [], _, _ => rfl
  | p :: s, hn, ho => by
    have ih := summaryLoop_ok sha openF s (fun q hq => hn q (List.mem_cons_of_mem _ hq))
      (fun q hq => ho q (List.mem_cons_of_mem _ hq))
    simp only [List.map_cons, summaryLoop, hn p List.mem_cons_self, ho p List.mem_cons_self, ih,
      List.flatMap_cons]
    rfl

/-- digest written for a name (`[]` when the name does not open; only used on names that do) -/
def digestOf (sha : Bytes → Bytes) (openF : Bytes → Option Bytes) (n : Bytes) : Bytes :=
  match openF n with
  | some c => sha c
  | none => []

theorem summaryLoop_inv (sha : Bytes → Bytes) (openF : Bytes → Option Bytes) : ∀ (names : List Bytes) (s : Bytes),
    summaryLoop sha openF names = .ok s →
    (∀ n ∈ names, hasNewline n = false ∧ ∃ c, openF n = some c) ∧
    s = (names.map fun n => (digestOf sha openF n, n)).flatMap fun p => summaryLine p.1 p.2
  | [], s, h => by
    simp only [summaryLoop] at h
    cases h
    exact ⟨by simp, rfl⟩
  | n :: names, s, h => by
    simp only [summaryLoop] at h
    split at h
    · cases h
    · rename_i hnl
      have hnl : hasNewline n = false := by simpa using hnl
      split at h
      · cases h
      · rename_i c hc
        split at h
        · cases h
        · rename_i s' hs'
          have ⟨ih1, ih2⟩ := summaryLoop_inv sha openF names s' hs'
          cases h
          refine ⟨?_, ?_⟩
          · intro m hm
            rcases List.mem_cons.1 hm with rfl | hm
            · exact ⟨hnl, c, hc⟩
            · exact ih1 m hm
          · simp only [List.map_cons, List.flatMap_cons, digestOf, hc, ih2]

theorem summaryLoop_newline (sha : Bytes → Bytes) (openF : Bytes → Option Bytes) (names : List Bytes) (n : Bytes)
    (hm : n ∈ names) (hn : hasNewline n = true) (s : Bytes) : summaryLoop sha openF names ≠ .ok s := by
  intro h
  have := ((summaryLoop_inv sha openF names s h).1 n hm).1
  rw [hn] at this
  exact absurd this (by decide)

theorem summaryLoop_newline_err (sha : Bytes → Bytes) (openF : Bytes → Option Bytes) : ∀ (names : List Bytes) (n : Bytes),
    n ∈ names → hasNewline n = true → (∀ m ∈ names, ∃ c, openF m = some c) →
    summaryLoop sha openF names = .error .newline
  | [], _, hm, _, _ => by simp at hm
  | m :: names, n, hm, hn, ho => by
    simp only [summaryLoop]
    cases hml : hasNewline m with
    | true => simp
    | false =>
      have hm' : n ∈ names := by
        rcases List.mem_cons.1 hm with rfl | hm'
        · rw [hn] at hml; exact absurd hml (by decide)
        · exact hm'
      obtain ⟨c, hc⟩ := ho m List.mem_cons_self
      have ih := summaryLoop_newline_err sha openF names n hm' hn (fun q hq => ho q (List.mem_cons_of_mem _ hq))
      simp [hc, ih]

theorem summaryLoop_congr (sha : Bytes → Bytes) (o₁ o₂ : Bytes → Option Bytes) : ∀ names : List Bytes,
    (∀ n ∈ names, o₁ n = o₂ n) → summaryLoop sha o₁ names = summaryLoop sha o₂ names
  | [], _ => rfl
  | n :: names, h => by
    simp only [summaryLoop, h n List.mem_cons_self,
      summaryLoop_congr sha o₁ o₂ names (fun m hm => h m (List.mem_cons_of_mem _ hm))]

theorem sep_unique {α : Type} (s : α) : ∀ (a a' r r' : List α), s ∉ a → s ∉ a' →
    a ++ s :: r = a' ++ s :: r' → a = a' ∧ r = r'
  | [], [], _, _, _, _, h => by simp at h; exact ⟨rfl, h⟩
  | [], y :: a', _, _, _, h2, h => by
    simp only [List.nil_append, List.cons_append, List.cons.injEq] at h
    exact absurd (h.1 ▸ List.mem_cons_self) h2
  | x :: a, [], _, _, h1, _, h => by
    simp only [List.nil_append, List.cons_append, List.cons.injEq] at h
    exact absurd (h.1 ▸ List.mem_cons_self) h1
  | x :: a, y :: a', r, r', h1, h2, h => by
    simp only [List.cons_append, List.cons.injEq] at h
    have ⟨e1, e2⟩ := sep_unique s a a' r r' (fun m => h1 (List.mem_cons_of_mem _ m))
      (fun m => h2 (List.mem_cons_of_mem _ m)) h.2
    exact ⟨by rw [h.1, e1], e2⟩

theorem hexDigit_ne_space : ∀ n, n < 16 → hexDigit n ≠ 32 := by decide

theorem hexDigit_inj : ∀ m, m < 16 → ∀ n, n < 16 → hexDigit m = hexDigit n → m = n := by decide

theorem space_not_mem_hexEnc : ∀ d : Bytes, (32 : UInt8) ∉ hexEnc d
  | [] => by simp [hexEnc]
  | c :: d => by
    have h1 := hexDigit_ne_space (c.toNat / 16) (by have := c.toNat_lt; omega)
    have h2 := hexDigit_ne_space (c.toNat % 16) (by omega)
    simp only [hexEnc, List.mem_cons, not_or]
    exact ⟨fun e => h1 e.symm, fun e => h2 e.symm, space_not_mem_hexEnc d⟩

theorem hexEnc_injective : ∀ a b : Bytes, hexEnc a = hexEnc b → a = b
  | [], [], _ => rfl
  | [], _ :: _, h => by simp [hexEnc] at h
  | _ :: _, [], h => by simp [hexEnc] at h
  | c :: a, d :: b, h => by
    simp only [hexEnc, List.cons.injEq] at h
    have hc := c.toNat_lt
    have hd := d.toNat_lt
    have e1 := hexDigit_inj _ (by omega) _ (by omega) h.1
    have e2 := hexDigit_inj _ (by omega) _ (by omega) h.2.1
    have e : c = d := UInt8.toNat_inj.1 (by omega)
    rw [e, hexEnc_injective a b h.2.2]

theorem hexEnc_length : ∀ d : Bytes, (hexEnc d).length = 2 * d.length
  | [] => rfl
  | _ :: d => by simp [hexEnc, hexEnc_length d]; omega

theorem lines_injective : ∀ s₁ s₂ : List (Bytes × Bytes),
    (∀ p ∈ s₁, (10 : UInt8) ∉ p.2) → (∀ p ∈ s₂, (10 : UInt8) ∉ p.2) →
    (s₁.flatMap fun p => summaryLine p.1 p.2) = (s₂.flatMap fun p => summaryLine p.1 p.2) → s₁ = s₂
  | [], [], _, _, _ => rfl
  | [], q :: s₂, _, _, h => by
    have := congrArg List.length h
    simp [summaryLine] at this
  | p :: s₁, [], _, _, h => by
    have := congrArg List.length h
    simp [summaryLine] at this
  | p :: s₁, q :: s₂, h1, h2, h => by
    have line_eq : ∀ (d n r : Bytes), summaryLine d n ++ r = hexEnc d ++ 32 :: 32 :: (n ++ 10 :: r) := by
      intro d n r; simp [summaryLine]
    simp only [List.flatMap_cons] at h
    rw [line_eq, line_eq] at h
    have ⟨e1, e2⟩ := sep_unique 32 _ _ _ _ (space_not_mem_hexEnc p.1) (space_not_mem_hexEnc q.1) h
    simp only [List.cons.injEq, true_and] at e2
    have ⟨e3, e4⟩ := sep_unique 10 _ _ _ _ (h1 p List.mem_cons_self) (h2 q List.mem_cons_self) e2
    have ih := lines_injective s₁ s₂ (fun r hr => h1 r (List.mem_cons_of_mem _ hr))
      (fun r hr => h2 r (List.mem_cons_of_mem _ hr)) e4
    have : p = q := Prod.ext (hexEnc_injective _ _ e1) e3
    rw [this, ih]

end ModVerif.Dirhash
