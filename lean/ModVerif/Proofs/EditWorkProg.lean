/-
  go.work: what an operation does to the syntax tree, as a program of the tree primitives of Proofs/EditTreeProg
  (`progWork e op`, `applyWork_prog`).  All fourteen operations are covered, SetUse included: its loop removes the lines
  of the `use` entries that are not wanted (`setUseDead`) and leaves the directories still to add (`setUseNeed`), in
  closed form (`setUseLoop_tree`); then one `use` line per such directory, then SortBlocks.
-/
import ModVerif.Proofs.EditTreeProg
import ModVerif.Proofs.EditRefineWork
namespace ModVerif.Modfile.Edit
open ModVerif ModVerif.Modfile

/-- the lines `setUseLoop` removes: the `use` entries whose directory is not (or no longer) wanted -/
def setUseDead : List Use → List (Bytes × Bytes) → List Nat
  | [], _ => []
  | d :: ds, need =>
    match need.find? (·.1 == d.path) with
    | some _ => setUseDead ds (need.filter (·.1 != d.path))
    | none => d.lineId :: setUseDead ds need

/-- the wanted directories no `use` entry has -/
def setUseNeed : List Use → List (Bytes × Bytes) → List (Bytes × Bytes)
  | [], need => need
  | d :: ds, need =>
    match need.find? (·.1 == d.path) with
    | some _ => setUseNeed ds (need.filter (·.1 != d.path))
    | none => setUseNeed ds need

/-- the typed `use` list after the loop -/
def setUseUs : List Use → List (Bytes × Bytes) → List Use
  | [], _ => []
  | d :: ds, need =>
    match need.find? (·.1 == d.path) with
    | some w => { d with modulePath := w.2 } :: setUseUs ds (need.filter (·.1 != d.path))
    | none => clearedUse :: setUseUs ds need

theorem setUseLoop_eq : ∀ (us : List Use) (need : List (Bytes × Bytes)) (syn : FileSyntax),
    setUseLoop us need syn =
      if ∀ i ∈ setUseDead us need, i ≠ 0 then .ok (setUseUs us need, setUseNeed us need, markAll syn (setUseDead us need))
      else .error .nilDeref
  | [], need, syn => by simp [setUseLoop, setUseDead, setUseUs, setUseNeed, markAll]
  | d :: ds, need, syn => by
    unfold setUseLoop setUseDead setUseUs setUseNeed
    cases hf : need.find? (fun a => a.1 == d.path) with
    | some w =>
      simp only [bind, Except.bind, setUseLoop_eq ds]
      by_cases hc : ∀ i ∈ setUseDead ds (need.filter (·.1 != d.path)), i ≠ 0
      · rw [if_pos hc, if_pos hc]; rfl
      · rw [if_neg hc, if_neg hc]
    | none =>
      by_cases h0 : d.lineId = 0
      · rw [if_neg (fun h => h _ List.mem_cons_self h0)]
        simp [bind, Except.bind, deref, nilId, h0]
      · have hd : deref d.lineId = .ok d.lineId := by simp [deref, nilId, h0]
        simp only [bind, Except.bind, hd, setUseLoop_eq ds]
        by_cases hc : ∀ i ∈ setUseDead ds need, i ≠ 0
        · rw [if_pos hc, if_pos (List.forall_mem_cons (p := (· ≠ 0)).2 ⟨h0, hc⟩)]; rfl
        · rw [if_neg hc, if_neg (fun h => hc (List.forall_mem_cons (p := (· ≠ 0)).1 h).2)]

theorem setUseLoop_tree (us : List Use) (need : List (Bytes × Bytes)) (syn : FileSyntax) (us' : List Use)
    (need' : List (Bytes × Bytes)) (syn' : FileSyntax) (h : setUseLoop us need syn = .ok (us', need', syn')) :
    need' = setUseNeed us need ∧ syn' = markAll syn (setUseDead us need) := by
  rw [setUseLoop_eq] at h
  split at h
  · cases h; exact ⟨rfl, rfl⟩
  · cases h

theorem setUseDead_sublist : ∀ (us : List Use) (need : List (Bytes × Bytes)), (setUseDead us need).Sublist (us.map (·.lineId))
  | [], _ => List.Sublist.refl _
  | d :: ds, need => by
    unfold setUseDead
    split
    · exact (setUseDead_sublist ds _).cons _
    · exact (setUseDead_sublist ds _).cons_cons _

def useTokens (d : Bytes) : List Bytes := [B "use", autoQuote d]

/-- `[]` for the operations a `WorkFile` does not have -/
def progWork (e : EWork) : Op → List TPrim
  | .addGo v => match e.f.go with
    | none => [.insertLine (firstNonComment e.f.syn.stmts 0) [B "go", v]]
    | some g => [.set g.lineId [B "go", v]]
  | .dropGo => match e.f.go with
    | some g => [.remove g.lineId]
    | none => []
  | .addToolchain n => match e.f.toolchain with
    | none => [.insertLine (match afterGoLine e.f.syn.stmts 0 with
        | some i => i
        | none => firstNonComment e.f.syn.stmts 0) [B "toolchain", n]]
    | some t => [.set t.lineId [B "toolchain", n]]
  | .dropToolchain => match e.f.toolchain with
    | some t => [.remove t.lineId]
    | none => []
  | .addGodebug k v => setProg (fun g : Godebug => g.key == k) (·.lineId) e.f.godebug [B "godebug", k ++ [61] ++ v]
      [.add none [B "godebug", k ++ [61] ++ v]]
  | .dropGodebug k => clearProg (fun g : Godebug => g.key == k) (·.lineId) e.f.godebug
  | .addUse d _ => setProg (fun u : Use => u.path == d) (·.lineId) e.f.use (useTokens d) [.add none (useTokens d)]
  | .addNewUse d _ => [.add none (useTokens d)]
  | .dropUse d => clearProg (fun u : Use => u.path == d) (·.lineId) e.f.use
  | .setUse dirs rev =>
    (setUseDead e.f.use (useNeedMap dirs [])).map .remove ++
      ((permOf rev (setUseNeed e.f.use (useNeedMap dirs []))).map fun w => .add none (useTokens w.1)) ++
      [.dedup (killEarlier e.f.replace), .sort false true]
  | .addReplace a b c d => setProg (fun r : Replace => r.old.path == a && (b.isEmpty || r.old.version == b)) (·.lineId) e.f.replace
      (replaceTokens a b c d) [.addPtr (lastWith (fun r : Replace => r.old.path == a) (·.lineId) e.f.replace none) (replaceTokens a b c d)]
  | .dropReplace a b => clearProg (fun r : Replace => r.old.path == a && r.old.version == b) (·.lineId) e.f.replace
  | .sortBlocks => [.dedup (killEarlier e.f.replace), .sort false true]
  | .cleanup => [.cleanup]
  | _ => []

def treeOfW (e : EWork) : FileSyntax × Nat := (e.f.syn, e.next)

theorem workSortBlocks_syn (e : EWork) :
    (workSortBlocks e).f.syn.stmts = sortStmts false true (dropKilled (killEarlier e.f.replace) e.f.syn.stmts) := by
  simp [workSortBlocks, Edit.removeDups]

theorem workSortBlocks_tree (e : EWork) :
    treeOfW (workSortBlocks e) = runT [.dedup (killEarlier e.f.replace), .sort false true] (treeOfW e) := by
  simp [workSortBlocks, Edit.removeDups, treeOfW, TPrim.run]

theorem foldl_addNewUse_tree : ∀ (ws : List (Bytes × Bytes)) (e : EWork),
    treeOfW (ws.foldl (fun e w => addNewUse e w.1 w.2) e) = runT (ws.map fun w => .add none (useTokens w.1)) (treeOfW e) ∧
      (ws.foldl (fun e w => addNewUse e w.1 w.2) e).f.replace = e.f.replace
  | [], _ => ⟨rfl, rfl⟩
  | w :: ws, e => by
    simp only [List.foldl_cons, List.map_cons, runT_cons]
    obtain ⟨h1, h2⟩ := foldl_addNewUse_tree ws (addNewUse e w.1 w.2)
    exact ⟨h1, h2⟩

theorem applyWork_prog (e e' : EWork) (op : Op) (h : applyWork e op = some (.ok e')) :
    treeOfW e' = runT (progWork e op) (treeOfW e) := by
  cases op <;> simp only [applyWork, Option.some.injEq, Except.ok.injEq, reduceCtorEq] at h
  case addGo v =>
    unfold workAddGoStmt at h; split at h; · cases h
    unfold progWork; split at h <;> cases h <;> simp only [*] <;> rfl
  case dropGo => subst h; unfold workDropGoStmt progWork; cases e.f.go <;> rfl
  case addToolchain n =>
    unfold workAddToolchainStmt at h; split at h; · cases h
    unfold progWork; split at h <;> cases h <;> simp only [*] <;> rfl
  case dropToolchain => subst h; unfold workDropToolchainStmt progWork; cases e.f.toolchain <;> rfl
  case addGodebug k v => obtain ⟨_, ⟨⟩⟩ := ite_ok (workAddGodebug_eq e k v ▸ h); exact (setKeyedRes_tree _ _ _ _ _ _ _ _ rfl).symm
  case dropGodebug k => obtain ⟨_, ⟨⟩⟩ := ite_ok (workDropGodebug_eq e k ▸ h); exact (runT_removes _ _ _).symm
  case addUse d m => obtain ⟨_, ⟨⟩⟩ := ite_ok (addUse_eq e d m ▸ h); exact (setKeyedRes_tree _ _ _ _ _ _ _ _ rfl).symm
  case addNewUse d m => subst h; rfl
  case dropUse d => obtain ⟨_, ⟨⟩⟩ := ite_ok (dropUse_eq e d ▸ h); exact (runT_removes _ _ _).symm
  case setUse dirs rev =>
    unfold setUse at h
    simp only [bind, Except.bind] at h
    cases hr : setUseLoop e.f.use (useNeedMap dirs []) e.f.syn with
    | error err => simp [hr] at h
    | ok r =>
      obtain ⟨us, need', syn'⟩ := r
      simp only [hr, pure, Except.pure, Except.ok.injEq] at h
      subst h
      obtain ⟨rfl, rfl⟩ := setUseLoop_tree _ _ _ _ _ _ hr
      obtain ⟨h1, h2⟩ := foldl_addNewUse_tree (permOf rev (setUseNeed e.f.use (useNeedMap dirs [])))
        { e with f := { e.f with use := us, syn := markAll e.f.syn (setUseDead e.f.use (useNeedMap dirs [])) } }
      simp only [progWork, runT_append]
      rw [workSortBlocks_tree, h2, h1]
      congr 2
      exact (runT_removes _ _ _).symm
  case addReplace a b c d => obtain ⟨_, ⟨⟩⟩ := ite_ok (workAddReplace_eq e a b c d ▸ h); exact (setKeyedRes_tree _ _ _ _ _ _ _ _ rfl).symm
  case dropReplace a b => obtain ⟨_, ⟨⟩⟩ := ite_ok (workDropReplace_eq e a b ▸ h); exact (runT_removes _ _ _).symm
  case sortBlocks => subst h; exact workSortBlocks_tree e
  case cleanup => subst h; rfl

end ModVerif.Modfile.Edit
