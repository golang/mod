/-
  The recursive proof runners `runRecordProof` / `runTreeProof` of the generated code
  (Generated/FnTlog.lean, checked mode) compute the model's `runRecordProofF` / `runTreeProofF` for every proof, every
  interval `lo ≤ … ≤ hi < 2^63` and every proof shorter than 2^63 hashes (a Go slice length is an `int`).
-/
import ModVerif.Proofs.TieFnTlogProofMax
namespace ModVerif.Tie.FnTlogProof
open ModVerif ModVerif.GoRt

/-- Go `error` values of the proof functions as the model's error kinds: `inv` is the function's own
    "tlog: invalid inputs in …" text. -/
def errText (inv : String) : Tlog.Err → String
  | .invalid => inv
  | .proofFailed => "errProofFailed"
  | e => "unreachable: " ++ e.toString

/-- the `error` result of a checker -/
def encErr (inv : String) : Except Tlog.Err Unit → Option String
  | .ok _ => none
  | .error e => some (errText inv e)

/-- for the non-vacuity examples: the free term algebra of hashes has a default element -/
instance : Inhabited Tlog.TH := ⟨Tlog.TH.empty⟩

/-- decidable comparison of the result of a generated function with an expected value (non-vacuity examples) -/
def okIs {α : Type} [DecidableEq α] (r : GoRt.M α) (a : α) : Bool :=
  match r with
  | .ok b => decide (b = a)
  | .error _ => false

theorem okIs_iff {α : Type} [DecidableEq α] (r : GoRt.M α) (a : α) : okIs r a = true ↔ r = .ok a := by
  cases r <;> simp [okIs]

section
variable {H : Type} [DecidableEq H] [Inhabited H] (node : H → H → H)

/-- result pair `(hash, error)` of `runRecordProof` -/
def encHash : Except Tlog.Err H → H × Option String
  | .ok h => (h, none)
  | .error e => (default, some (errText "" e))

theorem getLast?_cases {α : Type} (p : List α) : (p = [] ∧ p.getLast? = none) ∨ ∃ q x, p = q ++ [x] ∧ p.getLast? = some x ∧ p.dropLast = q := by
  rcases List.eq_nil_or_concat p with h | ⟨q, x, h⟩
  · left; subst h; simp
  · rw [List.concat_eq_append] at h
    right; refine ⟨q, x, h, ?_, ?_⟩ <;> subst h <;> simp

theorem runRecordProof_ok : ∀ (fuel f : Nat) (p : List H) (lo hi n : Nat) (lh : H),
    lo ≤ n → n < hi → hi < 2 ^ 63 → p.length < 2 ^ 63 → hi - lo ≤ f → hi - lo ≤ fuel →
    Generated.Tlog.runRecordProof node fuel p (lo : Int) (hi : Int) (n : Int) lh =
      .ok (encHash (Tlog.runRecordProofF node f p lo hi n lh)) := by
  intro fuel
  induction fuel with
  | zero => intro f p lo hi n lh h1 h2 _ _ _ h5; omega
  | succ fuel ih =>
    intro f p lo hi n lh h1 h2 h3 hpl h4 h5
    obtain ⟨f, rfl⟩ : ∃ f', f = f' + 1 := ⟨f - 1, by omega⟩
    unfold Generated.Tlog.runRecordProof Tlog.runRecordProofF
    have hg : (!(decide ((lo : Int) ≤ (n : Int)) && decide ((n : Int) < (hi : Int)))) = false := by
      simp; omega
    have hg' : (!(decide (lo ≤ n) && decide (n < hi))) = false := by simp; omega
    simp only [hg, hg', Bool.false_eq_true, if_false]
    rw [chk64_ok _ (by omega) (by omega)]
    simp only [mbind_ok]
    by_cases hone : lo + 1 = hi
    · have e1 : decide ((lo : Int) + 1 = (hi : Int)) = true := by simp; omega
      have e2 : (lo + 1 == hi) = true := by simp [hone]
      simp only [e1, e2, if_true]
      by_cases hp : p = []
      · subst hp; simp [len, encHash]
      · have : p.length ≠ 0 := by simpa using hp
        simp [len, encHash, this, errText]
    · have e1 : decide ((lo : Int) + 1 = (hi : Int)) = false := by simp; omega
      have e2 : (lo + 1 == hi) = false := by simp [hone]
      simp only [e1, e2, Bool.false_eq_true, if_false]
      rcases getLast?_cases p with ⟨hp, hl⟩ | ⟨q, x, hp, hl, hd⟩
      · subst hp; simp [len, encHash, errText]
      · have e3 : decide (len p = 0) = false := by
          subst hp; simp only [len_eq, List.length_append, List.length_singleton, decide_eq_false_iff_not]; omega
        have hsz : 1 < hi - lo := by omega
        have hk := Tlog.maxpow2_lt (hi - lo) hsz
        have hkp := Tlog.maxpow2_fst_pos (hi - lo)
        simp only [e3, Bool.false_eq_true, if_false, hl, hd]
        rw [chk64_ok _ (by omega) (by omega)]
        simp only [mbind_ok]
        rw [maxpow2_ok_sub fuel lo hi (by omega) (by omega)]
        simp only [mbind_ok]
        generalize (Tlog.maxpow2 (hi - lo)).1 = k at *
        rw [chk64_ok _ (by omega) (by omega)]
        simp only [mbind_ok]
        subst hp
        have hql : q.length < 2 ^ 63 := by simp at hpl; omega
        rw [len_concat_range, chk64_ok _ (by omega) (by omega)]
        simp only [mbind_ok]
        rw [← len_concat_range q x, sliceTo_concat, idxL_concat]
        simp only [mbind_ok]
        rw [← Int.natCast_add]
        by_cases hlt : n < lo + k
        · have hlt' : decide ((n : Int) < ((lo + k : Nat) : Int)) = true := by simp; omega
          simp only [hlt', hlt, if_true]
          rw [ih f q lo (lo + k) n lh h1 hlt (by omega) hql (by omega) (by omega)]
          simp only [mbind_ok]
          cases Tlog.runRecordProofF node f q lo (lo + k) n lh with
          | ok a => rfl
          | error e => rfl
        · have hlt' : decide ((n : Int) < ((lo + k : Nat) : Int)) = false := by simp; omega
          simp only [hlt', hlt, Bool.false_eq_true, if_false]
          rw [ih f q (lo + k) hi n lh (by omega) h2 h3 hql (by omega) (by omega)]
          simp only [mbind_ok]
          cases Tlog.runRecordProofF node f q (lo + k) hi n lh with
          | ok a => rfl
          | error e => rfl

/-- result triple `(oldHash, newHash, error)` of `runTreeProof` -/
def encHash2 : Except Tlog.Err (H × H) → H × H × Option String
  | .ok (a, b) => (a, b, none)
  | .error e => (default, default, some (errText "" e))

theorem runTreeProof_ok : ∀ (fuel f : Nat) (p : List H) (lo hi n : Nat) (old : H),
    lo < n → n ≤ hi → hi < 2 ^ 63 → p.length < 2 ^ 63 → hi - lo ≤ f → hi - lo ≤ fuel →
    Generated.Tlog.runTreeProof node fuel p (lo : Int) (hi : Int) (n : Int) old =
      .ok (encHash2 (Tlog.runTreeProofF node f p lo hi n old)) := by
  intro fuel
  induction fuel with
  | zero => intro f p lo hi n old h1 h2 _ _ _ h5; omega
  | succ fuel ih =>
    intro f p lo hi n old h1 h2 h3 hpl h4 h5
    obtain ⟨f, rfl⟩ : ∃ f', f = f' + 1 := ⟨f - 1, by omega⟩
    unfold Generated.Tlog.runTreeProof Tlog.runTreeProofF
    have hg : (!(decide ((lo : Int) < (n : Int)) && decide ((n : Int) ≤ (hi : Int)))) = false := by
      simp; omega
    have hg' : (!(decide (lo < n) && decide (n ≤ hi))) = false := by simp; omega
    simp only [hg, hg', Bool.false_eq_true, if_false]
    by_cases hone : n = hi
    · have e1 : decide ((n : Int) = (hi : Int)) = true := by simp; omega
      have e2 : (n == hi) = true := by simp [hone]
      simp only [e1, e2, if_true]
      by_cases hz : lo = 0
      · have e3 : decide ((lo : Int) = 0) = true := by simp; omega
        have e4 : (lo == 0) = true := by simp [hz]
        simp only [e3, e4, if_true]
        by_cases hp : p = []
        · subst hp; simp [len, encHash2]
        · have : p.length ≠ 0 := by simpa using hp
          simp [len, encHash2, this, errText]
      · have e3 : decide ((lo : Int) = 0) = false := by simp; omega
        have e4 : (lo == 0) = false := by simp [hz]
        simp only [e3, e4, Bool.false_eq_true, if_false]
        match p with
        | [] => simp [len, encHash2, errText]
        | [x] => 
          have := idxL_natCast (v := [x]) (k := 0) (by simp)
          simp only [Int.natCast_zero] at this
          simp [len, encHash2, this]
        | x :: y :: r => 
          have : ¬ ((r.length : Int) + 1 + 1 = 1) := by omega
          simp [len, encHash2, errText, this]
    · have e1 : decide ((n : Int) = (hi : Int)) = false := by simp; omega
      have e2 : (n == hi) = false := by simp [hone]
      simp only [e1, e2, Bool.false_eq_true, if_false]
      rcases getLast?_cases p with ⟨hp, hl⟩ | ⟨q, x, hp, hl, hd⟩
      · subst hp; simp [len, encHash2, errText]
      · have e3 : decide (len p = 0) = false := by
          subst hp; simp only [len_eq, List.length_append, List.length_singleton, decide_eq_false_iff_not]; omega
        have hsz : 1 < hi - lo := by omega
        have hk := Tlog.maxpow2_lt (hi - lo) hsz
        have hkp := Tlog.maxpow2_fst_pos (hi - lo)
        simp only [e3, Bool.false_eq_true, if_false, hl, hd]
        rw [chk64_ok _ (by omega) (by omega)]
        simp only [mbind_ok]
        rw [maxpow2_ok_sub fuel lo hi (by omega) (by omega)]
        simp only [mbind_ok]
        generalize (Tlog.maxpow2 (hi - lo)).1 = k at *
        rw [chk64_ok _ (by omega) (by omega)]
        simp only [mbind_ok]
        subst hp
        have hql : q.length < 2 ^ 63 := by simp at hpl; omega
        rw [len_concat_range, chk64_ok _ (by omega) (by omega)]
        simp only [mbind_ok]
        rw [← len_concat_range q x, sliceTo_concat, idxL_concat]
        simp only [mbind_ok]
        rw [← Int.natCast_add]
        by_cases hlt : n ≤ lo + k
        · have hlt' : decide ((n : Int) ≤ ((lo + k : Nat) : Int)) = true := by simp; omega
          simp only [hlt', hlt, if_true]
          rw [ih f q lo (lo + k) n old h1 hlt (by omega) hql (by omega) (by omega)]
          simp only [mbind_ok]
          cases Tlog.runTreeProofF node f q lo (lo + k) n old with
          | ok a => rfl
          | error e => rfl
        · have hlt' : decide ((n : Int) ≤ ((lo + k : Nat) : Int)) = false := by simp; omega
          simp only [hlt', hlt, Bool.false_eq_true, if_false]
          rw [ih f q (lo + k) hi n old (by omega) h2 h3 hql (by omega) (by omega)]
          simp only [mbind_ok]
          cases Tlog.runTreeProofF node f q (lo + k) hi n old with
          | ok a => rfl
          | error e => rfl
end
end ModVerif.Tie.FnTlogProof
