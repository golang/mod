/-
  Helper lemmas for Tie/FnRuleAdd.lean: the verbs of the regenerated `File.add` that call leaf functions —
  `module` (parseDeprecation, parseString), `require` / `exclude` (parseString, parseVersion, modulePathMajor,
  CheckPathMajor, isIndirect), `tool` (parseString), `replace` (parseReplace), `retract` (parseDirectiveComment,
  parseVersionInterval).  What the leaf calls return is a HYPOTHESIS of each lemma (`PSok`, `PVok`, `MPMok`, `CPMok`,
  `PVIok`, `PRok`, stated for the particular call); Proofs/TieFnRuleAddM.lean discharges them from the leaf ties
  (Tie/FnRuleLeaf.lean) under the fuel bound `LineFuel`.
-/
import ModVerif.Proofs.TieFnRuleAddB
namespace ModVerif.Tie.FnRuleAddC
open ModVerif ModVerif.GoRt ModVerif.Generated ModVerif.Tie.FnRuleRep ModVerif.Tie.FnRuleAddA ModVerif.Tie.FnRuleAddB
open ModVerif.Drv.GenRule (isPrintI unquoteI laxSubI deprecatedSubI fixG)
open ModVerif.Proofs.ModfileC20 (addGo addToolchain addModule addGodebugV addReqExc addReplaceV addRetractV addToolV add_eq)

/-- `parseString(&a)`: value, error, rewritten token.  Spelling: `PSOut`, `PVOut`, `PVIOut`, `PROut` (capitals) are the
    PROPOSITIONS "these results are what the model says" that the hypotheses `PSok … PRok` of this file are made of;
    `psOut`, `pvOut`, `pviOut`, `prOut` (Proofs/TieFnRuleLeaf{A,B,C}.lean) are the FUNCTIONS computing the Go results, and
    `PviOut`, `PrOut` the result records of the last two. -/
def PSOut (a v : Bytes) (e : Option String) (a' : Bytes) : Prop :=
  match Modfile.parseString a with
  | some (t, tok) => v = t ∧ e = none ∧ a' = tok
  | none => e.isSome = true ∧ a' = a

/-- the call `parseString(&a)` at this fuel does what the model says, in every world -/
def PSok (fuel : Nat) (a : Bytes) : Prop :=
  ∃ v e a', PSOut a v e a' ∧ ∀ w, Rule.parseString isPrintI Quote.quote unquoteI fuel a w = .ok (((v, e), a'), w)

/-- `parseVersion(verb, path, &a, fix)` -/
def PVOut (path a : Bytes) (fx : Option Modfile.Fixer) (v : Bytes) (e : Option String) (a' : Bytes) : Prop :=
  match Modfile.parseVersion path a fx with
  | (tok, .ok ver) => v = ver ∧ e = none ∧ a' = tok
  | (tok, .error k) => errAbs e k ∧ a' = tok

def PVok (fuel : Nat) (path a : Bytes) (fx : Option Modfile.Fixer) : Prop :=
  ∃ v e a', PVOut path a fx v e a' ∧
    ∀ verb w, Rule.parseVersion isPrintI Quote.quote unquoteI fuel verb path a (fixG fx) w = .ok (((v, e), a'), w)

/-- `modulePathMajor(s)` -/
def MPMok (fuel : Nat) (s : Bytes) : Prop :=
  Rule.modulePathMajor fuel s = .ok (match Modfile.modulePathMajor s with
    | some m => (m, none)
    | none => ([], some "invalid module path"))

/-- `module.CheckPathMajor(v, pathMajor)` -/
def CPMok (fuel : Nat) (v pm : Bytes) : Prop :=
  Generated.Module.CheckPathMajor fuel v pm =
    .ok (if Module.checkPathMajor v pm = true then none else some "InvalidVersionError|should be %s, not %s")

/-- the enclosing block of a line: nil, or a block object with the model's comments (the hypothesis `BlockArg` of the leaf
    ties, Proofs/TieFnRuleLeafA.lean, said of `BlockRep`'s arguments) -/
def BlockRep (h : Rule.Heap) (block : Int) (bc : Option Modfile.Comments) : Prop :=
  match bc with
  | none => block = 0
  | some c => ∃ B, heapGet h.blocks block = .ok B ∧ B.Comments = comsG c

/-- `parseVersionInterval(verb, path, &args, fix)` on the view `r` of the tokens `toks` (after `pre`) -/
def PVIOut (h : Rule.Heap) (r : Rule.TokRef) (pre toks : List Bytes) (path : Bytes) (fx : Option Modfile.Fixer)
    (vi : Rule.VersionInterval) (e : Option String) (r' : Rule.TokRef) (h' : Rule.Heap) : Prop :=
  h' = setToksH h r.owner (pre ++ (Modfile.parseVersionInterval path toks fx).1) ∧
  match (Modfile.parseVersionInterval path toks fx).2 with
  | .ok (mvi, rest) => e = none ∧ vi.Low = mvi.low ∧ vi.High = mvi.high ∧ r'.owner = r.owner ∧ ∃ pre', TokView h' r' pre' rest
  | .error k => errAbs e k ∧ vi = default

def PVIok (fuel : Nat) (h : Rule.Heap) (r : Rule.TokRef) (pre toks : List Bytes) (path : Bytes) (fx : Option Modfile.Fixer) : Prop :=
  ∃ vi e r' h', PVIOut h r pre toks path fx vi e r' h' ∧
    ∀ verb, Rule.parseVersionInterval isPrintI Quote.quote unquoteI fuel verb path r (fixG fx) h = .ok (((vi, e), r'), h')

/-- `parseReplace(filename, line, verb, args, fix)`: a NEW `Replace` object or a NEW `Error` object -/
def PROut (h : Rule.Heap) (lp : Int) (l : Modfile.Line) (pre args : List Bytes) (fx : Option Modfile.Fixer)
    (rp ep : Int) (h' : Rule.Heap) : Prop :=
  match (Modfile.parseReplace l.id args fx).2 with
  | .ok R => ∃ o : Rule.Replace, o.Old = mvG R.old ∧ o.New = mvG R.new ∧ o.Syntax = lp ∧ R.lineId = l.id ∧ ep = 0 ∧
      rp = (((setToksH h lp (pre ++ (Modfile.parseReplace l.id args fx).1)).replaces.length + 1 : Nat) : Int) ∧
      h' = { setToksH h lp (pre ++ (Modfile.parseReplace l.id args fx).1) with
             replaces := (setToksH h lp (pre ++ (Modfile.parseReplace l.id args fx).1)).replaces ++ [o] }
  | .error k => ∃ e : Rule.Error, e.Pos = posG l.start ∧ errAbs e.Err k ∧ rp = 0 ∧
      ep = (((setToksH h lp (pre ++ (Modfile.parseReplace l.id args fx).1)).errors.length + 1 : Nat) : Int) ∧
      h' = { setToksH h lp (pre ++ (Modfile.parseReplace l.id args fx).1) with
             errors := (setToksH h lp (pre ++ (Modfile.parseReplace l.id args fx).1)).errors ++ [e] }

def PRok (fuel : Nat) (h : Rule.Heap) (lp : Int) (l : Modfile.Line) (pre args : List Bytes) (fx : Option Modfile.Fixer) : Prop :=
  ∀ fname verb, ∃ rp ep h', PROut h lp l pre args fx rp ep h' ∧
    Rule.parseReplace isPrintI Quote.quote unquoteI fuel fname lp verb { owner := lp, lo := (pre.length : Int) } (fixG fx) h =
      .ok ((rp, ep), h')

section
variable {ι : Int → Nat} {h : Rule.Heap} {fp : Int} {errs : List Rule.Error} {st : Modfile.AddState} {syn : Modfile.FileSyntax}
  {lp : Int} {l : Modfile.Line} {pre args : List Bytes}

theorem FA_tool (R : RepRS ι h fp errs st syn) (hl : RLine ι h lp l) (htok : l.token = pre ++ args)
    (fuel : Nat) (block : Int) (fix : Option (Bytes → Bytes → (Bytes × Option String)))
    (hPS : ∀ a, args = [a] → PSok fuel a) :
    ∃ errs' h', FA fuel fp errs block lp [116, 111, 111, 108] { owner := lp, lo := (pre.length : Int) } fix true h =
        .ok (((), errs'), h') ∧
      StepPost ι h fp syn lp l pre (addToolV st l args) errs' h' := by
  obtain ⟨o, es, ho, hF, rt⟩ := R.objs
  have V := view_of hl htok
  unfold FA Rule.File_add
  simp +decide only [↓reduceIte, bind, Except.bind, pure, Except.pure,
    TokRef_len_eq, TokRef_get_eq, TokRef_set_eq, V.tkLen, errorf_L]
  unfold addToolV
  match args, htok, V, hPS with
  | [], htok, V, _ =>
    simp only [List.length_nil, Int.natCast_zero, Int.reduceEq, decide_false, Bool.not_false, if_true, errfL_eq ho hF hl.1]
    exact ⟨_, _, rfl, StepPost.errf R hl htok (by decide +kernel)⟩
  | a :: b :: c, htok, V, _ =>
    have : ¬ (((List.length (a :: b :: c) : Nat) : Int) = 1) := by simp; omega
    simp only [this, decide_false, Bool.not_false, if_true, errfL_eq ho hF hl.1]
    exact ⟨_, _, rfl, StepPost.errf R hl htok (by decide +kernel)⟩
  | [a], htok, V, hPS =>
    obtain ⟨v, e, a', hout, hps⟩ := hPS a rfl
    simp only [List.length_singleton, Int.natCast_one, decide_true, Bool.not_true, Bool.false_eq_true, if_false, V.tkGet0 rfl, hps,
      V.tkSet0 (by simp), List.set_cons_zero]
    unfold PSOut at hout
    cases hm : Modfile.parseString a with
    | none =>
      rw [hm] at hout
      obtain ⟨he, rfl⟩ := hout
      have he' : e.isNone = false := by cases e <;> simp_all
      simp only [he', Bool.not_false, if_true, errfL_eq ho hF (line_after hl _)]
      exact ⟨_, _, rfl, StepPost.errW R hl _ (errV_rep' rfl (errAbs_fmt (by decide +kernel)))⟩
    | some tt =>
      obtain ⟨t, tok⟩ := tt
      rw [hm] at hout
      obtain ⟨rfl, rfl, rfl⟩ := hout
      simp only [Option.isNone_none, Bool.not_true, Bool.false_eq_true, if_false, heapAlloc, ho, heapSet_of_get _ ho]
      refine ⟨_, _, rfl, ?_⟩
      exact StepPost.build R hl ho (heapGet_listSet_same _ ho) rfl rfl rfl rfl
        (fun rt1 => ⟨(rt1.pushTool ⟨rfl, TR_of hl _ rfl⟩ _).withLines _ (by simp), rfl⟩) R.errs

theorem FA_module (R : RepRS ι h fp errs st syn) (hl : RLine ι h lp l) (htok : l.token = pre ++ args)
    (fuel : Nat) (block : Int) (bc : Option Modfile.Comments) (fix : Option (Bytes → Bytes → (Bytes × Option String))) (strict : Bool)
    (hPD : Rule.parseDeprecation deprecatedSubI fuel block lp h = .ok (Modfile.parseDeprecation bc l.comments, h))
    (hPS : ∀ a, args = [a] → PSok fuel a) :
    ∃ errs' h', FA fuel fp errs block lp [109, 111, 100, 117, 108, 101] { owner := lp, lo := (pre.length : Int) } fix strict h =
        .ok (((), errs'), h') ∧
      StepPost ι h fp syn lp l pre (addModule st bc l args) errs' h' := by
  obtain ⟨o, es, ho, hF, rt⟩ := R.objs
  have V := view_of hl htok
  unfold FA Rule.File_add
  simp +decide only [↓reduceIte, ite_self, ho, bind, Except.bind, pure, Except.pure,
    TokRef_len_eq, TokRef_get_eq, TokRef_set_eq, errorf_L]
  unfold addModule
  cases hmod : st.file.module with
  | some g =>
    have hne : o.Module ≠ 0 := fun e => by have := (rt.module.eq_zero_iff).1 e; rw [hmod] at this; cases this
    simp only [hmod, hne, decide_false, Bool.not_false, if_true, errfL_eq ho hF hl.1, Option.isSome_some]
    exact ⟨_, _, rfl, StepPost.errf R hl htok (by decide +kernel)⟩
  | none =>
    have h0 : o.Module = 0 := (rt.module.eq_zero_iff).2 hmod
    have ho1 : heapGet (h.mods.set (fp.toNat - 1) { o with Module := ((h.modules.length + 1 : Nat) : Int) }) fp =
        .ok { o with Module := ((h.modules.length + 1 : Nat) : Int) } := heapGet_listSet_same _ ho
    have hF1 : heapGet h.files ({ o with Module := ((h.modules.length + 1 : Nat) : Int) } : Rule.File).Syntax = .ok (fileG syn es) := hF
    simp only [hmod, h0, decide_true, Bool.not_true, Bool.false_eq_true, if_false, Option.isSome_none, hPD, heapAlloc, ho,
      heapSet_of_get _ ho, V.tkLen]
    have hR1 : ∀ (mv : Modfile.ModVersion) (ms : List Rule.File),
        RepTyped ι { h with modules := h.modules ++ [{ Mod := mvG mv, Deprecated := Modfile.parseDeprecation bc l.comments, Syntax := lp }], mods := ms }
          { o with Module := ((h.modules.length + 1 : Nat) : Int) }
          { st.file with module := some { mod := mv, deprecated := Modfile.parseDeprecation bc l.comments, lineId := l.id } } :=
      fun mv ms => rt.linkModule ⟨rfl, rfl, TR_of hl _ rfl⟩ ms
    match args, htok, V, hPS with
    | [], htok, V, _ =>
      simp only [List.length_nil, Int.natCast_zero, Int.reduceEq, decide_false, Bool.not_false, if_true, errfL_eq ho1 hF1 hl.1]
      refine ⟨_, _, rfl, ?_⟩
      exact StepPost.build R hl ho ho1 (lines_same hl htok) rfl rfl rfl
        (fun rt1 => ⟨hR1 {} _, rfl⟩) (R.errs.snoc_rev (errV_rep (errAbs_fmt (by decide +kernel))))
    | a :: b :: c, htok, V, _ =>
      have : ¬ (((List.length (a :: b :: c) : Nat) : Int) = 1) := by simp; omega
      simp only [this, decide_false, Bool.not_false, if_true, errfL_eq ho1 hF1 hl.1]
      refine ⟨_, _, rfl, ?_⟩
      exact StepPost.build R hl ho ho1 (lines_same hl htok) rfl rfl rfl
        (fun rt1 => ⟨hR1 {} _, rfl⟩) (R.errs.snoc_rev (errV_rep (errAbs_fmt (by decide +kernel))))
    | [a], htok, V, hPS =>
      obtain ⟨v, e, a', hout, hps⟩ := hPS a rfl
      simp only [List.length_singleton, Int.natCast_one, decide_true, Bool.not_true, Bool.false_eq_true, if_false, V.tkGet0 rfl, hps,
        V.tkSet0 (by simp), List.set_cons_zero]
      unfold PSOut at hout
      cases hm : Modfile.parseString a with
      | none =>
        rw [hm] at hout
        obtain ⟨he, rfl⟩ := hout
        have he' : e.isNone = false := by cases e <;> simp_all
        simp only [he', Bool.not_false, if_true, errfL_eq ho1 hF1 (line_after hl _)]
        refine ⟨_, _, rfl, ?_⟩
        exact StepPost.build R hl ho ho1 rfl rfl rfl rfl
          (fun rt1 => ⟨(hR1 {} _).withLines _ (by simp), rfl⟩) (R.errs.snoc_rev (errV_rep' rfl (errAbs_fmt (by decide +kernel))))
      | some tt =>
        obtain ⟨t, tok⟩ := tt
        rw [hm] at hout
        obtain ⟨rfl, rfl, rfl⟩ := hout
        simp only [Option.isNone_none, Bool.not_true, Bool.false_eq_true, if_false, ho1, heapGet_alloc_new, heapSet_alloc_new]
        refine ⟨_, _, rfl, ?_⟩
        exact StepPost.build R hl ho ho1 rfl rfl rfl rfl
          (fun rt1 => ⟨(hR1 { path := v } _).withLines _ (by simp), rfl⟩) R.errs

def ReqLeaf (fuel : Nat) (args : List Bytes) (fx : Option Modfile.Fixer) : Prop :=
  ∀ a0 a1, args = [a0, a1] → PSok fuel a0 ∧ ∀ s a0', Modfile.parseString a0 = some (s, a0') →
    PVok fuel s a1 fx ∧ MPMok fuel s ∧ ∀ a1' v, Modfile.parseVersion s a1 fx = (a1', .ok v) → ∀ pm, CPMok fuel v pm

/-- `require` and `exclude` share one case of the switch; they differ in the entry appended at the end (and `exclude` is no
    lax verb).  `mv` is the verb as the model compares it. -/
theorem FA_reqexc (R : RepRS ι h fp errs st syn) (hl : RLine ι h lp l) (htok : l.token = pre ++ args)
    (fuel : Nat) (block : Int) (fx : Option Modfile.Fixer) (strict : Bool) {verb mv : Bytes}
    (hv : verb = [114, 101, 113, 117, 105, 114, 101] ∨ verb = [101, 120, 99, 108, 117, 100, 101] ∧ strict = true)
    (hm : (mv == B "require") = decide (verb = ([114, 101, 113, 117, 105, 114, 101] : Bytes)))
    (hLeaf : ReqLeaf fuel args fx)
    (hII : verb = [114, 101, 113, 117, 105, 114, 101] → ∀ (ls : List Rule.Line) (l' : Modfile.Line),
      heapGet ls lp = .ok (lineG l') → indL lp ls = .ok (Modfile.isIndirect l')) :
    ∃ errs' h', FA fuel fp errs block lp verb { owner := lp, lo := (pre.length : Int) } (fixG fx) strict h = .ok (((), errs'), h') ∧
      StepPost ι h fp syn lp l pre (addReqExc st l mv args fx) errs' h' := by
  obtain ⟨o, es, ho, hF, rt⟩ := R.objs
  have V := view_of hl htok
  have hn : verb ≠ [103, 111] ∧ verb ≠ [116, 111, 111, 108, 99, 104, 97, 105, 110] ∧ verb ≠ [109, 111, 100, 117, 108, 101] ∧
      verb ≠ [103, 111, 100, 101, 98, 117, 103] ∧ verb ≠ [114, 101, 116, 114, 97, 99, 116] := by
    rcases hv with rfl | ⟨rfl, _⟩ <;> decide
  obtain ⟨n1, n2, n3, n4, n5⟩ := hn
  have hre : (decide (verb = ([114, 101, 113, 117, 105, 114, 101] : Bytes)) || decide (verb = ([101, 120, 99, 108, 117, 100, 101] : Bytes))) = true := by
    rcases hv with rfl | ⟨rfl, _⟩ <;> decide
  have hK : ∀ K P : M ((Unit × List Rule.Error) × Rule.Heap),
      (if (!strict) = true then (if decide (verb = ([114, 101, 113, 117, 105, 114, 101] : Bytes)) = true then K else P) else K) = K := by
    intro K P
    rcases hv with rfl | ⟨rfl, rfl⟩
    · simp
    · rfl
  unfold FA Rule.File_add
  simp only [↓reduceIte, n1, n2, n3, n4, n5, hre, hK, decide_false, Bool.false_or, Bool.or_false, Bool.false_eq_true, bind, Except.bind,
    pure, Except.pure, TokRef_len_eq, TokRef_get_eq, TokRef_set_eq, V.tkLen, errorf_L, wrapError_L, wrapModPathError_L]
  unfold addReqExc
  simp only [hm]
  have e2 : ∀ (a b c : Bytes) (d : List Bytes), ¬ (((List.length (a :: b :: c :: d) : Nat) : Int) = 2) := by intros; simp; omega
  match args, htok, V, hLeaf with
  | [], htok, V, _ =>
    simp only [List.length_nil, Int.natCast_zero, Int.reduceEq, decide_false, Bool.not_false, if_true, errfL_eq ho hF hl.1]
    exact ⟨_, _, rfl, StepPost.errf R hl htok (by decide +kernel)⟩
  | [a], htok, V, _ =>
    simp only [List.length_singleton, Int.natCast_one, Int.reduceEq, decide_false, Bool.not_false, if_true, errfL_eq ho hF hl.1]
    exact ⟨_, _, rfl, StepPost.errf R hl htok (by decide +kernel)⟩
  | a :: b :: c :: d, htok, V, _ =>
    simp only [e2, decide_false, Bool.not_false, if_true, errfL_eq ho hF hl.1]
    exact ⟨_, _, rfl, StepPost.errf R hl htok (by decide +kernel)⟩
  | [a0, a1], htok, V, hLeaf =>
    obtain ⟨⟨v, e, a0', hout, hps⟩, hrest⟩ := hLeaf a0 a1 rfl
    have hlen2 : (([a0, a1] : List Bytes).length : Int) = 2 := rfl
    simp only [hlen2, decide_true, Bool.not_true, Bool.false_eq_true, if_false, V.tkGet0 rfl, hps,
      V.tkSet0 (by simp), List.set_cons_zero]
    unfold PSOut at hout
    cases hms : Modfile.parseString a0 with
    | none =>
      rw [hms] at hout
      obtain ⟨he, rfl⟩ := hout
      have he' : e.isNone = false := by cases e <;> simp_all
      simp only [he', Bool.not_false, if_true, errfL_eq ho hF (line_after hl _)]
      exact ⟨_, _, rfl, StepPost.errW R hl _ (errV_rep' rfl (errAbs_fmt (by decide +kernel)))⟩
    | some tt =>
      obtain ⟨s, tok⟩ := tt
      rw [hms] at hout
      obtain ⟨rfl, rfl, rfl⟩ := hout
      obtain ⟨⟨ver, e1, a1', hpvo, hpv⟩, hmpm, hcpm⟩ := hrest v a0' hms
      have V1 : TokView (setToksH h lp (pre ++ [a0', a1])) { owner := lp, lo := (pre.length : Int) } pre [a0', a1] :=
        (V.set (i := 0) (by simp) a0').2
      have hS : setToksH (setToksH h lp (pre ++ [a0', a1])) lp (pre ++ [a0', a1']) = setToksH h lp (pre ++ [a0', a1']) :=
        setToksH_setToksH hl.1 _ _
      simp only [Option.isNone_none, Bool.not_true, Bool.false_eq_true, if_false, V1.tkGet1 rfl, hpv, V1.tkSet1 (by simp),
        List.set_cons_succ, List.set_cons_zero, hS]
      unfold PVOut at hpvo
      cases hpm : Modfile.parseVersion v a1 fx with
      | mk t1 res =>
      rw [hpm] at hpvo
      cases res with
      | error k =>
        obtain ⟨hea, rfl⟩ := hpvo
        have he1 : e1.isNone = false := by obtain ⟨s, rfl, _⟩ := hea; rfl
        simp only [he1, Bool.not_false, if_true, errfL_eq ho hF (line_after hl _)]
        exact ⟨_, _, rfl, StepPost.errW R hl _ (errV_rep' rfl hea)⟩
      | ok vv =>
        obtain ⟨rfl, rfl, rfl⟩ := hpvo
        unfold MPMok at hmpm
        simp only [Option.isNone_none, Bool.not_true, Bool.false_eq_true, if_false, hmpm]
        cases hmm : Modfile.modulePathMajor v with
        | none =>
          simp only [Option.isNone_some, Bool.not_false, if_true, errfL_eq ho hF (line_after hl _)]
          exact ⟨_, _, rfl, StepPost.errW R hl _ (errV_rep' rfl (errAbs_some (by decide +kernel)))⟩
        | some pm =>
          have hc := hcpm a1' ver hpm pm
          unfold CPMok at hc
          simp only [Option.isNone_none, Bool.not_true, Bool.false_eq_true, if_false, hc]
          cases hck : Module.checkPathMajor ver pm with
          | false =>
            simp only [Bool.false_eq_true, if_false, Option.isNone_some, Bool.not_false, if_true, errfML_eq ho hF (line_after hl _)]
            exact ⟨_, _, rfl, StepPost.errW R hl _ (errMV_rep' rfl (errAbs_some (by decide +kernel)))⟩
          | true =>
            by_cases hr : verb = [114, 101, 113, 117, 105, 114, 101]
            · simp only [hr, decide_true, if_true, Option.isNone_none, Bool.not_true, Bool.false_eq_true, if_false, ho,
                isIndirect_L, hII hr _ _ (line_after' hl _), heapAlloc, heapSet_of_get _ ho, bind, Except.bind, pure, Except.pure]
              refine ⟨_, _, rfl, ?_⟩
              exact StepPost.build R hl ho (heapGet_listSet_same _ ho) rfl rfl rfl rfl
                (fun rt1 => ⟨(rt1.pushRequire ⟨rfl, rfl, TR_of hl _ rfl⟩ _).withLines _ (by simp), rfl⟩) R.errs
            · simp only [hr, decide_false, if_true, Option.isNone_none, Bool.not_true, Bool.false_eq_true, if_false, ho,
                heapAlloc, heapSet_of_get _ ho]
              refine ⟨_, _, rfl, ?_⟩
              exact StepPost.build R hl ho (heapGet_listSet_same _ ho) rfl rfl rfl rfl
                (fun rt1 => ⟨(rt1.pushExclude ⟨rfl, TR_of hl _ rfl⟩ _).withLines _ (by simp), rfl⟩) R.errs

theorem FA_require (R : RepRS ι h fp errs st syn) (hl : RLine ι h lp l) (htok : l.token = pre ++ args)
    (fuel : Nat) (block : Int) (fx : Option Modfile.Fixer) (strict : Bool)
    (hLeaf : ReqLeaf fuel args fx)
    (hII : ∀ (ls : List Rule.Line) (l' : Modfile.Line), heapGet ls lp = .ok (lineG l') → indL lp ls = .ok (Modfile.isIndirect l')) :
    ∃ errs' h', FA fuel fp errs block lp [114, 101, 113, 117, 105, 114, 101] { owner := lp, lo := (pre.length : Int) } (fixG fx) strict h =
        .ok (((), errs'), h') ∧
      StepPost ι h fp syn lp l pre (addReqExc st l (B "require") args fx) errs' h' :=
  FA_reqexc R hl htok fuel block fx strict (Or.inl rfl) (by rw [B_require]; decide) hLeaf (fun _ => hII)

theorem FA_exclude (R : RepRS ι h fp errs st syn) (hl : RLine ι h lp l) (htok : l.token = pre ++ args)
    (fuel : Nat) (block : Int) (fx : Option Modfile.Fixer)
    (hLeaf : ReqLeaf fuel args fx) :
    ∃ errs' h', FA fuel fp errs block lp [101, 120, 99, 108, 117, 100, 101] { owner := lp, lo := (pre.length : Int) } (fixG fx) true h =
        .ok (((), errs'), h') ∧
      StepPost ι h fp syn lp l pre (addReqExc st l (B "exclude") args fx) errs' h' :=
  FA_reqexc R hl htok fuel block fx true (Or.inr ⟨rfl, rfl⟩) (by rw [B_exclude]; decide +kernel) hLeaf
    (fun e => absurd e (by decide))

theorem FA_replace (R : RepRS ι h fp errs st syn) (hl : RLine ι h lp l) (_ : l.token = pre ++ args)
    (fuel : Nat) (block : Int) (fx : Option Modfile.Fixer)
    (hPR : PRok fuel h lp l pre args fx) :
    ∃ errs' h', FA fuel fp errs block lp [114, 101, 112, 108, 97, 99, 101] { owner := lp, lo := (pre.length : Int) } (fixG fx) true h =
        .ok (((), errs'), h') ∧
      StepPost ι h fp syn lp l pre (addReplaceV st l args fx) errs' h' := by
  obtain ⟨o, es, ho, hF, rt⟩ := R.objs
  obtain ⟨rp, ep, h', hout, hpr⟩ := hPR (fileG syn es).Name [114, 101, 112, 108, 97, 99, 101]
  unfold FA Rule.File_add
  simp +decide only [↓reduceIte, ho, hF, hpr, bind, Except.bind, pure, Except.pure,
]
  unfold addReplaceV
  unfold PROut at hout
  cases hm : Modfile.parseReplace l.id args fx with
  | mk args' res =>
  rw [hm] at hout
  cases res with
  | error k =>
    obtain ⟨e, hpos, hea, rfl, rfl, rfl⟩ := hout
    have hne : ¬ ((((setToksH h lp (pre ++ args')).errors.length + 1 : Nat) : Int) = 0) := by omega
    simp only [hne, decide_false, Bool.not_false, if_true, heapGet_alloc_new]
    refine ⟨_, _, rfl, ?_⟩
    exact StepPost.build R hl ho (o' := o) (by simpa using ho) rfl (by simp) (by simp) (by simp)
      (fun rt1 => ⟨(rt1.setToksH lp _).frameEM _ _, rfl⟩) (R.errs.snoc_rev ⟨hpos, hea⟩)
  | ok r =>
    obtain ⟨x, hold, hnew, hsyn, hid, rfl, rfl, rfl⟩ := hout
    have ho1 : heapGet (setToksH h lp (pre ++ args')).mods fp = .ok o := by simpa using ho
    simp only [decide_true, Bool.not_true, Bool.false_eq_true, if_false, ho1, heapSet_of_get _ ho1]
    refine ⟨_, _, rfl, ?_⟩
    exact StepPost.build R hl ho (heapGet_listSet_same _ ho1) rfl (by simp) (by simp) (by simp)
      (fun rt1 => ⟨(rt1.setToksH lp _).pushReplace ⟨hold, hnew, by rw [hsyn, hid]; exact TR_of hl _ (by simp)⟩ _, rfl⟩) R.errs

theorem fixG_dontFixRetract : fixG (some Modfile.dontFixRetract) = some Rule.dontFixRetract := rfl

theorem FA_retract (R : RepRS ι h fp errs st syn) (hl : RLine ι h lp l) (_ : l.token = pre ++ args)
    (fuel : Nat) (block : Int) (bc : Option Modfile.Comments) (fix : Option (Bytes → Bytes → (Bytes × Option String))) (strict : Bool)
    (hPDC : Rule.parseDirectiveComment fuel block lp h = .ok (Modfile.parseDirectiveComment bc l.comments, h))
    (hPVI : PVIok fuel h { owner := lp, lo := (pre.length : Int) } pre args [] (some Modfile.dontFixRetract)) :
    ∃ errs' h', FA fuel fp errs block lp [114, 101, 116, 114, 97, 99, 116] { owner := lp, lo := (pre.length : Int) } fix strict h =
        .ok (((), errs'), h') ∧
      StepPost ι h fp syn lp l pre (addRetractV st bc l args strict) errs' h' := by
  obtain ⟨o, es, ho, hF, rt⟩ := R.objs
  obtain ⟨vi, e, r', h', ⟨hh', hout⟩, hpvi⟩ := hPVI
  have hpvi' : ∀ verb, Rule.parseVersionInterval isPrintI Quote.quote unquoteI fuel verb [] { owner := lp, lo := (pre.length : Int) }
      (some Rule.dontFixRetract) h = .ok (((vi, e), r'), h') := hpvi
  rw [show ({ owner := lp, lo := (pre.length : Int) } : Rule.TokRef).owner = lp from rfl, setToksH_eq_lines] at hh'
  unfold FA Rule.File_add
  simp +decide only [↓reduceIte, ite_self, hPDC, hpvi', bind, Except.bind, pure, Except.pure,
    errorf_L, wrapError_L, TokRef_len_eq, TokRef_get_eq]
  unfold addRetractV
  cases hm : Modfile.parseVersionInterval [] args (some Modfile.dontFixRetract) with
  | mk args' res =>
  rw [hm] at hout hh'
  simp only [] at hout hh'
  subst hh'
  cases res with
  | error k =>
    simp only [] at hout
    obtain ⟨hout, _⟩ := hout
    have he1 : e.isNone = false := by obtain ⟨s, rfl, _⟩ := hout; rfl
    simp only [he1, Bool.not_false, if_true]
    cases strict with
    | false =>
      simp only [Bool.false_eq_true, if_false]
      exact ⟨_, _, rfl, StepPost.skipW R hl _⟩
    | true =>
      simp only [if_true, errfL_eq ho hF (line_after hl _)]
      exact ⟨_, _, rfl, StepPost.errW R hl _ (errV_rep' rfl hout)⟩
  | ok vr =>
    obtain ⟨mvi, rest⟩ := vr
    simp only [] at hout
    obtain ⟨rfl, hlo, hhi, hown, pre', V'⟩ := hout
    have hlen' : tkLen r' (setToksH h lp (pre ++ args')).lines = .ok (rest.length : Int) := V'.tkLen
    simp only [Option.isNone_none, Bool.not_true, Bool.false_eq_true, if_false, hlen']
    have hc : (decide (((rest.length : Nat) : Int) > 0) && strict) = (!rest.isEmpty && strict) := by
      cases rest <;> simp
    simp only [hc]
    cases hcc : (!rest.isEmpty && strict) with
    | false =>
      simp only [Bool.false_eq_true, if_false, ho, heapAlloc, heapSet_of_get _ ho]
      refine ⟨_, _, rfl, ?_⟩
      exact StepPost.build R hl ho (heapGet_listSet_same _ ho) rfl rfl rfl rfl
        (fun rt1 => ⟨(rt1.pushRetract ⟨hlo, hhi, rfl, TR_of hl _ rfl⟩ _).withLines _ (by simp), rfl⟩) R.errs
    | true =>
      cases rest with
      | nil => simp at hcc
      | cons t0 rest' =>
        have hget' : tkGet r' 0 (setToksH h lp (pre ++ args')).lines = .ok t0 := V'.tkGet0 rfl
        simp only [if_true, hget', errfL_eq ho hF (line_after hl _)]
        exact ⟨_, _, rfl, StepPost.errW R hl _ (errV_rep' rfl (errAbs_fmt (by decide +kernel)))⟩
end
end ModVerif.Tie.FnRuleAddC
