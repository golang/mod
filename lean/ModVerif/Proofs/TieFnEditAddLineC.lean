/-
  `FileSyntax.addLine`, the hinted walk on a represented graph: the three insertions (a new top-level line after a
  statement, a line converted into a block, a new line inside a block) keep `RStmts` and give the model's statement list
  (`after_sim`, `convert_sim`, `block_insert_sim`); `Frame` / `AddPost` say what else `addLine` leaves alone; loop 1 at a
  line statement against the model's `addLineWalk` (`WalkRes`).
-/
import ModVerif.Proofs.TieFnEditAddLineB
namespace ModVerif.TieFnEditAddLine
open ModVerif ModVerif.GoRt
open ModVerif.Generated.Edit
open ModVerif.Tie.FnEditRep
open ModVerif.Modfile.Edit (treeIds addLineWalk Hint mkLine headIs insertAfterId)

theorem walk_line (hint : Hint) (tokens : List Bytes) (new : Nat) (l : Modfile.Line) (xs : List Modfile.Expr) (i : Nat) :
    addLineWalk hint tokens new (.line l :: xs) i =
      if hint == .line l.id || hint == .stmt i then
        if l.token.isEmpty || !headIs l.token (tokens.head?.getD []) then
          some (.line l :: .line (mkLine new tokens false) :: xs)
        else some (.lineBlock { token := l.token.take 1, lines := [{ l with inBlock := true, token := l.token.drop 1 }, mkLine new (tokens.drop 1) true] } :: xs)
      else (addLineWalk hint tokens new xs (i + 1)).map (.line l :: ·) := rfl

theorem walk_block (hint : Hint) (tokens : List Bytes) (new : Nat) (b : Modfile.LineBlock) (xs : List Modfile.Expr) (i : Nat) :
    addLineWalk hint tokens new (.lineBlock b :: xs) i =
      if hint == .stmt i then
        if !headIs b.token (tokens.head?.getD []) then some (.lineBlock b :: .line (mkLine new tokens false) :: xs)
        else some (.lineBlock { b with lines := b.lines ++ [mkLine new (tokens.drop 1) true] } :: xs)
      else
        match hint with
        | .line h =>
          if b.lines.any (·.id == h) then
            if !headIs b.token (tokens.head?.getD []) then some (.lineBlock b :: .line (mkLine new tokens false) :: xs)
            else match insertAfterId h (mkLine new (tokens.drop 1) true) b.lines with
              | some ls => some (.lineBlock { b with lines := ls } :: xs)
              | none => (addLineWalk hint tokens new xs (i + 1)).map (.lineBlock b :: ·)
          else (addLineWalk hint tokens new xs (i + 1)).map (.lineBlock b :: ·)
        | _ => (addLineWalk hint tokens new xs (i + 1)).map (.lineBlock b :: ·) := rfl

theorem walk_cb (hint : Hint) (tokens : List Bytes) (new : Nat) (c : Modfile.CommentBlock) (xs : List Modfile.Expr) (i : Nat) :
    addLineWalk hint tokens new (.commentBlock c :: xs) i =
      (addLineWalk hint tokens new xs (i + 1)).map (.commentBlock c :: ·) := rfl

theorem any_id_split (id : Nat) : ∀ (ls : List Modfile.Line), ls.any (·.id == id) = true →
    ∃ l1 l l2, ls = l1 ++ l :: l2 ∧ l.id = id ∧ ∀ l' ∈ l1, l'.id ≠ id
  | [], h => by simp at h
  | l :: ls, h => by
    by_cases e : l.id = id
    · exact ⟨[], l, ls, rfl, e, by simp⟩
    · have : ls.any (·.id == id) = true := by
        simp only [List.any_cons, Bool.or_eq_true, beq_iff_eq] at h
        rcases h with h | h
        · exact absurd h e
        · exact h
      obtain ⟨l1, l', l2, rfl, h1, h2⟩ := any_id_split id ls this
      refine ⟨l :: l1, l', l2, rfl, h1, ?_⟩
      intro x hx
      rcases List.mem_cons.1 hx with rfl | hx
      · exact e
      · exact h2 x hx

theorem any_id_false (id : Nat) (ls : List Modfile.Line) (h : ls.any (·.id == id) = false) : ∀ l ∈ ls, l.id ≠ id := by
  intro l hl e
  have : ls.any (·.id == id) = true := List.any_eq_true.2 ⟨l, hl, by simp [e]⟩
  rw [h] at this; cases this

theorem insertAfterId_first (id : Nat) (nl : Modfile.Line) : ∀ (l1 : List Modfile.Line) (l : Modfile.Line) (l2 : List Modfile.Line),
    l.id = id → (∀ l' ∈ l1, l'.id ≠ id) → insertAfterId id nl (l1 ++ l :: l2) = some (l1 ++ l :: nl :: l2)
  | [], l, l2, h1, _ => by simp [insertAfterId, h1]
  | a :: l1, l, l2, h1, h2 => by
    have ha : ¬ (a.id = id) := h2 a (by simp)
    simp only [List.cons_append, insertAfterId, beq_iff_eq, ha, if_false,
      insertAfterId_first id nl l1 l l2 h1 (fun x hx => h2 x (by simp [hx]))]

/-! ### what `addLine` does to the heap besides the graph -/

structure Frame (h h' : Heap) : Prop where
  cbs : h'.cbs = h.cbs
  excludes : h'.excludes = h.excludes
  mods : h'.mods = h.mods
  gos : h'.gos = h.gos
  godebugs : h'.godebugs = h.godebugs
  modules : h'.modules = h.modules
  replaces : h'.replaces = h.replaces
  requires : h'.requires = h.requires
  retracts : h'.retracts = h.retracts
  tools : h'.tools = h.tools
  toolchains : h'.toolchains = h.toolchains
  uses : h'.uses = h.uses
  works : h'.works = h.works

theorem Frame.refl (h : Heap) : Frame h h := ⟨rfl, rfl, rfl, rfl, rfl, rfl, rfl, rfl, rfl, rfl, rfl, rfl, rfl⟩

theorem Frame.trans {h1 h2 h3 : Heap} (a : Frame h1 h2) (b : Frame h2 h3) : Frame h1 h3 :=
  ⟨b.cbs.trans a.cbs, b.excludes.trans a.excludes, b.mods.trans a.mods, b.gos.trans a.gos, b.godebugs.trans a.godebugs,
   b.modules.trans a.modules, b.replaces.trans a.replaces, b.requires.trans a.requires, b.retracts.trans a.retracts,
   b.tools.trans a.tools, b.toolchains.trans a.toolchains, b.uses.trans a.uses, b.works.trans a.works⟩

theorem Frame.sameTyped {h h' : Heap} (F : Frame h h') : SameTyped h h' :=
  ⟨F.modules, F.gos, F.toolchains, F.godebugs, F.requires, F.excludes, F.replaces, F.retracts, F.tools, F.uses⟩

theorem _root_.ModVerif.Tie.FnEditRep.RepFAt.afterAddLine {h h' : Heap} {o : File} {e : Modfile.Edit.EFile} (R : RepFAt h o e)
    {fs' : Modfile.FileSyntax} (F : Frame h h') (hsyn : RepSyn h' o.Syntax fs') (htok : BlockTokOK fs'.stmts) (hG : LinesG h')
    (hlen : h'.lines.length = h.lines.length + 1) :
    RepFAt h' o { f := { e.f with syn := fs' }, next := e.next + 1 } := by
  have := R.ofSyn F.sameTyped (by omega) hsyn htok hG
  rwa [hlen, ← R.next] at this

structure AddPost (x : Int) (fo : FileSyntax) (h h' : Heap) (es' : List Expr) : Prop where
  frame : Frame h h'
  files : h'.files = h.files.set (x.toNat - 1) { fo with Stmt := es' }
  lines : h'.lines.length = h.lines.length + 1
  blocks : h.blocks.length ≤ h'.blocks.length
  linesG : LinesG h → LinesG h'


theorem blockPtrs_line (p : Int) (es : List Expr) : blockPtrs (Expr.Line p :: es) = blockPtrs es := rfl
theorem blockPtrs_block (p : Int) (es : List Expr) : blockPtrs (Expr.LineBlock p :: es) = p :: blockPtrs es := rfl

theorem RStmts_allocLine {h : Heap} (v : Line) (fl : List FileSyntax) {es : List Expr} {ss : List Modfile.Expr}
    (r : RStmts h es ss) : RStmts { h with lines := h.lines ++ [v], files := fl } es ss :=
  RStmts.mono (h := h) (h' := { h with lines := h.lines ++ [v], files := fl })
    (fun q w (hq : heapGet h.lines q = .ok w) => heapGet_alloc_old v hq) (fun _ _ hq => hq) (fun _ _ hq => hq) r

/-- `newLineAfter(i)` -/
theorem after_sim {x : Int} {fo : FileSyntax} {h : Heap}
    {pre : List Expr} {e : Expr} {xs : List Expr}
    {spre : List Modfile.Expr} {s : Modfile.Expr} {sxs : List Modfile.Expr}
    (rpre : RStmts h pre spre) (re : RExpr h e s) (rxs : RStmts h xs sxs)
    (nb : (blockPtrs (pre ++ e :: xs)).Nodup) (tokens : List Bytes) :
    let new : Int := ((h.lines.length + 1 : Nat) : Int)
    let h' : Heap := { h with lines := h.lines ++ [({ (default : Line) with Token := tokens } : Line)],
                              files := h.files.set (x.toNat - 1) { fo with Stmt := pre ++ e :: Expr.Line new :: xs } }
    AddPost x fo h h' (pre ++ e :: Expr.Line new :: xs) ∧ RStmts h' pre spre ∧
      RStmts h' (e :: Expr.Line new :: xs) (s :: .line (mkLine (h.lines.length + 1) tokens false) :: sxs) ∧
      (blockPtrs (pre ++ e :: Expr.Line new :: xs)).Nodup := by
  intro new h'
  refine ⟨⟨⟨rfl, rfl, rfl, rfl, rfl, rfl, rfl, rfl, rfl, rfl, rfl, rfl, rfl⟩, rfl, by simp [h'], Nat.le_refl _, ?_⟩,
    RStmts_allocLine _ _ rpre, ?_, ?_⟩
  · intro hG
    exact (hG.allocLine (mkLine (h.lines.length + 1) tokens false)).congr rfl
  · have r1 : RStmts h' (e :: xs) (s :: sxs) := RStmts_allocLine _ _ (show RStmts h (e :: xs) (s :: sxs) from ⟨re, rxs⟩)
    refine ⟨r1.1, ?_, r1.2⟩
    exact ⟨heapGet_alloc_new _ _, rfl⟩
  · rw [blockPtrs_append] at nb ⊢
    cases e <;> simpa [blockPtrs] using nb


theorem nodup_insert_fresh {a b : List Int} {n : Int} (h : (a ++ b).Nodup) (ha : n ∉ a) (hb : n ∉ b) : (a ++ n :: b).Nodup := by
  rw [List.nodup_append] at h ⊢
  refine ⟨h.1, List.nodup_cons.2 ⟨hb, h.2.1⟩, ?_⟩
  intro u hu v hv
  rcases List.mem_cons.1 hv with rfl | hv
  · intro e; exact ha (e ▸ hu)
  · exact h.2.2 u hu v hv

/-- `// Convert line to line block.` (read.go:145) -/
theorem convert_sim {x : Int} {fo : FileSyntax} {h : Heap}
    {pre : List Expr} {p : Int} {xs : List Expr}
    {spre : List Modfile.Expr} {l : Modfile.Line} {sxs : List Modfile.Expr}
    (rpre : RStmts h pre spre) (re : RLine h p l) (rxs : RStmts h xs sxs)
    (nb : (blockPtrs (pre ++ Expr.Line p :: xs)).Nodup) (nl : (stmtIds (spre ++ .line l :: sxs)).Nodup)
    (t0 : Bytes) (us trest : List Bytes) (hc : l.token = t0 :: us) :
    let new : Int := ((h.lines.length + 1 : Nat) : Int)
    let nblk : Int := ((h.blocks.length + 1 : Nat) : Int)
    let h' : Heap := { h with
      lines := h.lines.set (p.toNat - 1) { lineG l with InBlock := true, Token := us } ++
        [({ (default : Line) with Token := trest, InBlock := true } : Line)],
      blocks := h.blocks ++ [({ (default : LineBlock) with Token := [t0], Line := [p, new] } : LineBlock)],
      files := h.files.set (x.toNat - 1) { fo with Stmt := pre ++ Expr.LineBlock nblk :: xs } }
    AddPost x fo h h' (pre ++ Expr.LineBlock nblk :: xs) ∧ RStmts h' pre spre ∧
      RStmts h' (Expr.LineBlock nblk :: xs)
        (.lineBlock { token := l.token.take 1, lines := [{ l with inBlock := true, token := l.token.drop 1 }, mkLine (h.lines.length + 1) trest true] } :: sxs) ∧
      (blockPtrs (pre ++ Expr.LineBlock nblk :: xs)).Nodup := by
  intro new nblk h'
  have hp := re.1
  have hlb : LinesBut l.id h h' := by
    refine ⟨rfl, fun q v hq => heapGet_alloc_old _ hq, fun q v hne hq => ?_⟩
    apply heapGet_alloc_old
    rw [heapGet_listSet_other _ hp (by rw [re.2]; exact hne)]; exact hq
  rw [stmtIds_append] at nl
  simp only [stmtIds] at nl
  have nl' := List.nodup_append.1 nl
  have hid_pre : l.id ∉ stmtIds spre := fun hm => nl'.2.2 _ hm _ (List.mem_cons_self) rfl
  have hid_xs : l.id ∉ stmtIds sxs := (List.nodup_cons.1 nl'.2.1).1
  have hold : heapGet h'.lines p = .ok (lineG { l with inBlock := true, token := l.token.drop 1 }) := by
    show heapGet (h.lines.set (p.toNat - 1) _ ++ [_]) p = _
    rw [heapGet_alloc_old _ (heapGet_listSet_same _ hp)]
    simp [lineG, hc]
  have hnew : heapGet h'.lines new = .ok (lineG (mkLine (h.lines.length + 1) trest true)) := by
    show heapGet (h.lines.set (p.toNat - 1) _ ++ [_]) new = _
    have := heapGet_alloc_new (h.lines.set (p.toNat - 1) ({ lineG l with InBlock := true, Token := us } : Line))
      ({ (default : Line) with Token := trest, InBlock := true } : Line)
    rw [List.length_set] at this
    exact this
  refine ⟨⟨⟨rfl, rfl, rfl, rfl, rfl, rfl, rfl, rfl, rfl, rfl, rfl, rfl, rfl⟩, rfl, by simp [h'], by simp [h'], ?_⟩,
    RStmts_linesBut hlb rpre hid_pre, ⟨⟨[p, new], ?_, ?_⟩, RStmts_linesBut hlb rxs hid_xs⟩, ?_⟩
  · intro hG
    exact ((hG.setLine (p.toNat - 1) { l with inBlock := true, token := us }).allocLine
      (mkLine (h.lines.length + 1) trest true)).congr rfl
  · show heapGet (h.blocks ++ [_]) nblk = _
    rw [heapGet_alloc_new, hc]
    rfl
  · exact ⟨⟨hold, re.2⟩, ⟨hnew, rfl⟩, trivial⟩
  · rw [blockPtrs_append] at nb ⊢
    simp only [blockPtrs] at nb ⊢
    have b1 := RStmts_block_bound rpre
    have b2 := RStmts_block_bound rxs
    refine nodup_insert_fresh nb (fun hm => ?_) (fun hm => ?_)
    · have := (b1 _ hm).2; omega
    · have := (b2 _ hm).2; omega


theorem fileSyntax_eta (fo : FileSyntax) : ({ fo with Stmt := fo.Stmt } : FileSyntax) = fo := by cases fo; rfl

theorem files_set_self {l : List FileSyntax} {x : Int} {fo : FileSyntax} (hf : heapGet l x = .ok fo) :
    l.set (x.toNat - 1) fo = l := ModVerif.Tie.FnParseHeap.heap_set_self hf

/-- `// Add new line after hint within the block.` (read.go:173), for a new line `nl` of any content -/
theorem block_insert_sim {x : Int} {fo : FileSyntax} {h : Heap} (hf : heapGet h.files x = .ok fo)
    {pre : List Expr} {p : Int} {xs : List Expr} (hs : fo.Stmt = pre ++ Expr.LineBlock p :: xs)
    {spre : List Modfile.Expr} {b : Modfile.LineBlock} {sxs : List Modfile.Expr}
    (rpre : RStmts h pre spre) (rxs : RStmts h xs sxs)
    (nb : (blockPtrs (pre ++ Expr.LineBlock p :: xs)).Nodup)
    {ps a c : List Int} {l1 l2 : List Modfile.Line} (hb : heapGet h.blocks p = .ok (blockG b ps))
    (ra : RLines h a l1) (rc : RLines h c l2) (nl : Modfile.Line) (hid : nl.id = h.lines.length + 1) :
    let new : Int := ((h.lines.length + 1 : Nat) : Int)
    let h' : Heap := { h with
      blocks := h.blocks.set (p.toNat - 1) { blockG b ps with Line := a ++ new :: c },
      lines := h.lines ++ [lineG nl] }
    AddPost x fo h h' (pre ++ Expr.LineBlock p :: xs) ∧ RStmts h' pre spre ∧
      RStmts h' (Expr.LineBlock p :: xs)
        (.lineBlock { b with lines := l1 ++ nl :: l2 } :: sxs) ∧
      (blockPtrs (pre ++ Expr.LineBlock p :: xs)).Nodup := by
  intro new h'
  have hbb : BlocksBut p h h' := by
    refine ⟨rfl, fun q v hq => heapGet_alloc_old _ hq, fun q v hne hq => ?_⟩
    show heapGet (h.blocks.set (p.toNat - 1) _) q = _
    rw [heapGet_listSet_other _ hb hne]; exact hq
  rw [blockPtrs_append] at nb
  simp only [blockPtrs] at nb
  have nb' := List.nodup_append.1 nb
  have hp_pre : p ∉ blockPtrs pre := fun hm => nb'.2.2 _ hm _ (List.mem_cons_self) rfl
  have hp_xs : p ∉ blockPtrs xs := (List.nodup_cons.1 nb'.2.1).1
  have hl : ∀ (q : Int) (v : Line), heapGet h.lines q = .ok v → heapGet h'.lines q = .ok v :=
    fun q v hq => heapGet_alloc_old _ hq
  refine ⟨⟨⟨rfl, rfl, rfl, rfl, rfl, rfl, rfl, rfl, rfl, rfl, rfl, rfl, rfl⟩, ?_, by simp [h'], by simp [h'], ?_⟩,
    RStmts_blocksBut hbb rpre hp_pre, ⟨⟨a ++ new :: c, ?_, ?_⟩, RStmts_blocksBut hbb rxs hp_xs⟩, ?_⟩
  · show h.files = h.files.set (x.toNat - 1) { fo with Stmt := pre ++ Expr.LineBlock p :: xs }
    rw [← hs, fileSyntax_eta fo, files_set_self hf]
  · intro hG
    exact (hG.allocLine nl).congr rfl
  · show heapGet (h.blocks.set (p.toNat - 1) _) p = _
    rw [heapGet_listSet_same _ hb]; rfl
  · show RLines h' (a ++ new :: c) (l1 ++ nl :: l2)
    refine RLines.append (RLines.mono hl ra) ?_
    exact ⟨⟨heapGet_alloc_new _ _, by rw [hid]⟩, RLines.mono hl rc⟩
  · rw [blockPtrs_append]; simpa [blockPtrs] using nb


/-! ### the hinted walk: loop 1 against `addLineWalk` -/

/-- what loop 1, started at the statement index `pre.length`, returns — given the result of the model walk over the rest -/
def WalkRes (x : Int) (fo : FileSyntax) (hintE : Expr) (tokens : List Bytes) (pre : List Expr) (spre : List Modfile.Expr)
    (fuel : Nat) (h : Heap) : Option (List Modfile.Expr) → Prop
  | none => FileSyntax_addLine_loop1 fo.Stmt x hintE tokens fuel (pre.length : Int) h = .ok (Ctl.next (len fo.Stmt, h))
  | some ssuf' => ∃ h' suf',
      FileSyntax_addLine_loop1 fo.Stmt x hintE tokens fuel (pre.length : Int) h =
        .ok (Ctl.ret (((h.lines.length + 1 : Nat) : Int), h')) ∧
      AddPost x fo h h' (pre ++ suf') ∧ RStmts h' pre spre ∧ RStmts h' suf' ssuf' ∧ (blockPtrs (pre ++ suf')).Nodup

theorem RStmts_snoc_split {h : Heap} {pre : List Expr} {e : Expr} {spre : List Modfile.Expr} {s : Modfile.Expr}
    (r : RStmts h (pre ++ [e]) (spre ++ [s])) : RStmts h pre spre ∧ RExpr h e s := by
  obtain ⟨s1, s2, he, r1, r2⟩ := RStmts_split r
  have hl2 : s2.length = 1 := by rw [← r2.length]; rfl
  have hl1 : s1.length = spre.length := by
    have := congrArg List.length he
    simp only [List.length_append, List.length_cons, List.length_nil] at this
    omega
  obtain ⟨e1, e2⟩ := List.append_inj he hl1.symm
  subst e1; subst e2
  exact ⟨r1, r2.1⟩

theorem WalkRes_skip {x : Int} {fo : FileSyntax} {hintE : Expr} {tokens : List Bytes} {pre : List Expr}
    {spre : List Modfile.Expr} {fuel : Nat} {h : Heap} {e : Expr} {s : Modfile.Expr}
    (hstep : FileSyntax_addLine_loop1 fo.Stmt x hintE tokens (fuel + 1) (pre.length : Int) h =
      FileSyntax_addLine_loop1 fo.Stmt x hintE tokens fuel ((pre.length + 1 : Nat) : Int) h)
    {r : Option (List Modfile.Expr)} (w : WalkRes x fo hintE tokens (pre ++ [e]) (spre ++ [s]) fuel h r) :
    WalkRes x fo hintE tokens pre spre (fuel + 1) h (r.map (s :: ·)) := by
  have hlen : (((pre ++ [e]).length : Nat) : Int) = ((pre.length + 1 : Nat) : Int) := by simp
  cases r with
  | none =>
    simp only [WalkRes, Option.map_none] at w ⊢
    rw [hstep, ← hlen]; exact w
  | some ssuf' =>
    simp only [WalkRes, Option.map_some] at w ⊢
    obtain ⟨h', suf', h1, h2, h3, h4, h5⟩ := w
    obtain ⟨r1, r2⟩ := RStmts_snoc_split h3
    refine ⟨h', e :: suf', ?_, ?_, r1, ⟨r2, h4⟩, ?_⟩
    · rw [hstep, ← hlen]; exact h1
    · simpa using h2
    · simpa using h5


/-- the three places where a new top-level line is put after the current statement -/
theorem WalkRes_after {x : Int} {fo : FileSyntax} {h : Heap} (hf : heapGet h.files x = .ok fo)
    {pre : List Expr} {e : Expr} {xs : List Expr} (hs : fo.Stmt = pre ++ e :: xs)
    {spre : List Modfile.Expr} {s : Modfile.Expr} {sxs : List Modfile.Expr}
    (rpre : RStmts h pre spre) (re : RExpr h e s) (rxs : RStmts h xs sxs)
    (nb : (blockPtrs (pre ++ e :: xs)).Nodup) (hintE : Expr) (tokens : List Bytes) (fuel : Nat)
    (hstep : FileSyntax_addLine_loop1 fo.Stmt x hintE tokens fuel (pre.length : Int) h =
      (do let t ← FileSyntax_addLine_newLineAfter 0 x tokens (pre.length : Int) h; pure (Ctl.ret (t.1, t.2)))) :
    WalkRes x fo hintE tokens pre spre fuel h
      (some (s :: .line (mkLine (h.lines.length + 1) tokens false) :: sxs)) := by
  obtain ⟨a1, a2, a3, a4⟩ := after_sim (fo := fo) rpre re rxs nb tokens
  refine ⟨_, _, ?_, a1, a2, a3, a4⟩
  rw [hstep, newLineAfter_eq hf pre e xs hs tokens 0 rfl]
  rfl

theorem headIs_cons_eq (u : Bytes) (us : List Bytes) (t : Bytes) : headIs (u :: us) t = decide (u = t) := by
  simp only [headIs, List.head?_cons]
  by_cases e : u = t
  · subst e; simp
  · simp only [e, decide_false]
    exact beq_false_of_ne (fun h => e (Option.some.inj h))

theorem headIs_nil (t : Bytes) : headIs [] t = false := by simp [headIs]

theorem RLines_splitM {h : Heap} : ∀ {l1 l2 : List Modfile.Line} {ps : List Int}, RLines h ps (l1 ++ l2) →
    ∃ a c, ps = a ++ c ∧ RLines h a l1 ∧ RLines h c l2
  | [], l2, ps, r => ⟨[], ps, rfl, trivial, r⟩
  | l :: l1, l2, [], r => r.elim
  | l :: l1, l2, p :: ps, r => by
    obtain ⟨a, c, rfl, ra, rc⟩ := RLines_splitM (l1 := l1) (l2 := l2) (ps := ps) r.2
    exact ⟨p :: a, c, rfl, ⟨r.1, ra⟩, rc⟩

theorem loop1_block_line' (pre : List Expr) (p : Int) (xs : List Expr) (x : Int) (q : Int) (tokens : List Bytes)
    (fuel : Nat) (h : Heap) (blk : LineBlock) (hb : heapGet h.blocks p = .ok blk) (X : M (Int × Heap))
    (h2 : FileSyntax_addLine_loop2 blk.Line x (Expr.Line q) tokens (pre.length : Int) p fuel 0 h =
      (do let t ← X; pure (Ctl.ret (t.1, t.2)))) :
    FileSyntax_addLine_loop1 (pre ++ Expr.LineBlock p :: xs) x (Expr.Line q) tokens (fuel + 1) (pre.length : Int) h =
      (do let t ← X; pure (Ctl.ret (t.1, t.2))) := by
  cases X with
  | error e =>
    conv => lhs; unfold FileSyntax_addLine_loop1
    have hlt : ((pre.length : Nat) : Int) < len (pre ++ Expr.LineBlock p :: xs) := by rw [len_eq]; simp; omega
    simp only [hlt, decide_true, if_true, idxL_append_mid pre _ xs rfl, bind_ok, reduceCtorEq, decide_false,
      Bool.false_eq_true, if_false, hb, h2, bind_error]
  | ok t => exact loop1_block_line pre p xs x q tokens fuel h blk hb (t.1, t.2) h2

/-- **loop 1 of `addLine` hinted by the line `id`** (read.go:136–182) is the model's `addLineWalk (.line id)`, statement by
    statement from the index `pre.length`: a statement that is not the hint and does not contain it is skipped; at the hint
    as a top-level line a new line follows it (dead line or another verb) or the line becomes a block (same verb); at a block
    that contains the hint the new line goes after the hint inside the block (same verb) or after the block (another verb). -/
theorem walkLine_sim (x : Int) (fo : FileSyntax) (id : Nat) (t0 : Bytes) (trest : List Bytes) :
    ∀ (suf : List Expr) (ssuf : List Modfile.Expr) (pre : List Expr) (spre : List Modfile.Expr) (h : Heap) (fuel i : Nat),
      heapGet h.files x = .ok fo → fo.Stmt = pre ++ suf → RStmts h pre spre → RStmts h suf ssuf → BlockTokOK ssuf →
      (blockPtrs (pre ++ suf)).Nodup → (stmtIds (spre ++ ssuf)).Nodup → nodeCount ssuf + 2 ≤ fuel →
      WalkRes x fo (Expr.Line (id : Int)) (t0 :: trest) pre spre fuel h
        (addLineWalk (.line id) (t0 :: trest) (h.lines.length + 1) ssuf i)
  | [], [], pre, spre, h, fuel, i, hf, hs, rpre, _, _, _, _, hfu => by
    obtain ⟨f, rfl⟩ : ∃ f, fuel = f + 1 := ⟨fuel - 1, by omega⟩
    have hs' : fo.Stmt = pre := by simpa using hs
    show FileSyntax_addLine_loop1 fo.Stmt x _ _ (f + 1) (pre.length : Int) h = _
    rw [hs']; exact loop1_end pre x _ _ f h
  | [], _ :: _, _, _, _, _, _, _, _, _, r, _, _, _, _ => r.elim
  | _ :: _, [], _, _, _, _, _, _, _, _, r, _, _, _, _ => r.elim
  | e :: xs, s :: sxs, pre, spre, h, fuel, i, hf, hs, rpre, rsuf, htok, nb, nl, hfu => by
    obtain ⟨f, rfl⟩ : ∃ f, fuel = f + 1 := ⟨fuel - 1, by omega⟩
    have hl := rpre.length
    have re := rsuf.1
    have rxs := rsuf.2
    have ih := fun (hfu' : nodeCount sxs + 2 ≤ f) =>
      walkLine_sim x fo id t0 trest xs sxs (pre ++ [e]) (spre ++ [s]) h f (i + 1) hf (by simp [hs])
        (RStmts.append rpre (show RStmts h [e] [s] from ⟨re, trivial⟩)) rxs (BlockTokOK_cons htok)
        (by simpa using nb) (by simpa using nl) hfu'
    cases s with
    | lparen c => cases e <;> exact re.elim
    | rparen c => cases e <;> exact re.elim
    | commentBlock c =>
      cases e <;> simp only [RExpr] at re <;> try exact re.elim
      rw [walk_cb]
      refine WalkRes_skip ?_ (ih (by simp only [nodeCount] at hfu; omega))
      rw [hs]; exact loop1_skip_other pre _ xs x _ _ f h (by intro p; simp) (by intro p; simp)
    | line l =>
      cases e <;> simp only [RExpr] at re <;> try exact re.elim
      rename_i p
      rw [walk_line]
      by_cases hid : l.id = id
      · -- `stmt == hint`
        have hcond : ((Hint.line id == Hint.line l.id) || (Hint.line id == Hint.stmt i)) = true := by simp [hid]
        rw [if_pos hcond]
        have hp : p = (id : Int) := by rw [re.2, hid]
        subst hp
        cases hc : l.token with
        | nil =>
          -- `stmt.Token == nil`: a new line after it
          simp only [List.isEmpty_nil, Bool.true_or, if_true]
          refine WalkRes_after hf hs rpre (show RExpr h (Expr.Line _) (.line l) from re) rxs nb _ _ _ ?_
          rw [hs]
          exact loop1_line_after pre _ xs x t0 trest f h _ re.1 (Or.inl (by simp [hc]))
        | cons u us =>
          by_cases hu : u = t0
          · subst hu
            simp only [List.isEmpty_cons, Bool.false_or, List.head?_cons, Option.getD_some, headIs_cons_eq, decide_true,
              Bool.not_true, Bool.false_eq_true, if_false, List.drop_succ_cons, List.drop_zero]
            obtain ⟨a1, a2, a3, a4⟩ := convert_sim (fo := fo) rpre re rxs nb nl u us trest hc
            rw [hc] at a3
            refine ⟨_, _, ?_, a1, a2, a3, a4⟩
            rw [hs]
            exact loop1_line_convert pre _ xs x u trest f h _ re.1 us (by simp [hc]) fo hf hs
          · simp only [List.isEmpty_cons, Bool.false_or, List.head?_cons, Option.getD_some, headIs_cons_eq, hu,
              decide_false, Bool.not_false, if_true]
            refine WalkRes_after hf hs rpre (show RExpr h (Expr.Line _) (.line l) from re) rxs nb _ _ _ ?_
            rw [hs]
            exact loop1_line_after pre _ xs x t0 trest f h _ re.1 (Or.inr ⟨u, us, by simp [hc], hu⟩)
      · have hcond : ((Hint.line id == Hint.line l.id) || (Hint.line id == Hint.stmt i)) = false := by
          have : ¬ (id = l.id) := fun e => hid e.symm
          simp [this]
        rw [hcond]
        simp only [Bool.false_eq_true, if_false]
        refine WalkRes_skip ?_ (ih (by simp only [nodeCount] at hfu; omega))
        rw [hs]
        exact loop1_skip_line pre _ xs x _ _ f h (by rw [re.2]; intro e; injection e with e; exact hid (by omega))
    | lineBlock b =>
      cases e <;> simp only [RExpr] at re <;> try exact re.elim
      rename_i p
      obtain ⟨ps, hb, rps⟩ := re
      rw [walk_block]
      have h1 : (Hint.line id == Hint.stmt i) = false := by simp
      rw [h1]
      simp only [Bool.false_eq_true, if_false]
      have hptr := rps.ptrs
      have btok := BlockTokOK_head htok
      have hnc : b.lines.length + nodeCount sxs + 2 ≤ f := by simp only [nodeCount] at hfu; omega
      cases hany : b.lines.any (·.id == id) with
      | false =>
        -- loop 2 runs over the block without meeting the hint
        simp only [Bool.false_eq_true, if_false]
        refine WalkRes_skip ?_ (ih (by omega))
        rw [hs]
        refine loop1_skip_block pre p xs x _ _ f h (by simp) _ hb ?_ ?_
        · intro q hq
          simp only [blockG_Line] at hq
          rw [hptr] at hq
          obtain ⟨l', hl', rfl⟩ := List.mem_map.1 hq
          intro e
          injection e with e
          exact any_id_false id _ hany l' hl' (by omega)
        · simp only [blockG_Line]; rw [rps.length]; omega
      | true =>
        simp only [if_true]
        obtain ⟨l1, l, l2, hsplit, hlid, hl1⟩ := any_id_split id b.lines hany
        rw [hsplit] at rps
        have hsplit' : b.lines = (l1 ++ [l]) ++ l2 := by rw [hsplit]; simp
        obtain ⟨a, c, hps, ra, rc⟩ := RLines_splitM (l1 := l1 ++ [l]) (l2 := l2) (ps := ps) (by simpa using rps)
        obtain ⟨a0, q1, ha, ra0, rq⟩ := RLines_splitM (l1 := l1) (l2 := [l]) ra
        obtain ⟨q, hq1⟩ : ∃ q, q1 = [q] := by
          have := rq.length
          match q1, this with
          | [q], _ => exact ⟨q, rfl⟩
        subst hq1
        have hqid : q = (id : Int) := by rw [rq.1.2, hlid]
        subst hqid
        have hq : ∀ q' ∈ a0, q' ≠ (id : Int) := by
          intro q' hq' e
          rw [ra0.ptrs] at hq'
          obtain ⟨l', hl', rfl⟩ := List.mem_map.1 hq'
          exact hl1 l' hl' (by omega)
        have hLine : (blockG b ps).Line = a0 ++ (id : Int) :: c := by simp [hps, ha]
        have hfu2 : a0.length + 2 ≤ f := by
          have h1 := ra0.length
          have h2 : b.lines.length = l1.length + 1 + l2.length := by rw [hsplit]; simp; omega
          omega
        obtain ⟨bt0, btr, hbt⟩ := List.exists_cons_of_ne_nil btok
        have hh : headIs b.token t0 = decide (bt0 = t0) := by rw [hbt, headIs_cons_eq]
        subst ha
        by_cases hu : bt0 = t0
        · subst hu
          simp only [hh, List.head?_cons, Option.getD_some, decide_true, Bool.not_true, Bool.false_eq_true,
            if_false, List.drop_succ_cons, List.drop_zero]
          rw [hsplit, insertAfterId_first id _ l1 l l2 hlid hl1]
          simp only []
          obtain ⟨a1, a2, a3, a4⟩ := block_insert_sim hf hs rpre rxs nb hb ra rc (mkLine (h.lines.length + 1) trest true) rfl
          simp only [List.append_assoc, List.cons_append, List.nil_append] at a3 a1 a2
          refine ⟨_, _, ?_, a1, a2, a3, a4⟩
          rw [hs]
          refine loop1_block_line pre p xs x _ _ f h _ hb _ ?_
          rw [hLine]
          exact loop2_hit_eq a0 _ c x _ _ p f h hq hfu2 _ hb hLine bt0 btr trest (by simp [hbt]) rfl
        · simp only [hh, List.head?_cons, Option.getD_some, hu, decide_false, Bool.not_false, if_true]
          refine WalkRes_after hf hs rpre (show RExpr h (Expr.LineBlock p) (.lineBlock b) from ⟨ps, hb, by rw [hsplit]; exact rps⟩)
            rxs nb _ _ _ ?_
          rw [hs]
          refine loop1_block_line' pre p xs x _ _ f h _ hb _ ?_
          rw [hLine]
          exact loop2_hit_ne a0 _ c x _ _ p f h hq hfu2 _ hb bt0 t0 btr trest (by simp [hbt]) rfl hu

end ModVerif.TieFnEditAddLine
