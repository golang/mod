/-
  The token-stream view of the lexer without positions (`Stream`, `LexesTo`; the development works with the
  position-aware `EStream` / `LexesToE` of Proofs/ModfileEolStream.lean), and `relex_newline`: a newline after blanks
  is lexed as the newline token.
-/
import ModVerif.Proofs.ModfileFmtLine
namespace ModVerif.Proofs.ModfileFmtStream
open ModVerif ModVerif.Modfile ModVerif.Proofs.ModfileLex ModVerif.Proofs.ModfileFmtUtf8
open ModVerif.Proofs.ModfileFmtTok ModVerif.Proofs.ModfileFmtLex ModVerif.Proofs.ModfileFmtLine

abbrev Tk := TokKind × Bytes

def nl : Tk := (.punct 10, [10])

def eofTk : Tk := (.eof, [])

/-- `Stream S i`: the pending token of `i` is the head of `S`, and (whatever `nextId` is set to)
    `readToken` delivers the rest of `S` one by one, leaving `commentsRev` alone; `S` ends with the
    end-of-input token. -/
def Stream : List Tk → Input → Prop
  | [], _ => False
  | (k, t) :: s, i => i.token.kind = k ∧ i.token.text = t ∧ (k = .eof → s = []) ∧
      (k ≠ .eof → ∀ n : Nat, ∃ i', readToken { i with nextId := n } = .ok i' ∧ i'.nextId = n ∧
         i'.commentsRev = i.commentsRev ∧ Stream s i')

theorem Stream.setComments_eq {S : List Tk} {i : Input} (h : Stream S i) : S ≠ [] := by
  intro hS; subst hS; exact h

def LineStart (i : Input) : Prop := i.consumedRev.takeWhile (· != 10) = []

/-- `B` lexes to the stream `S`: from every lexer state whose remaining input is `B` (and which is at
    the beginning of a line if `bol`), `readToken` yields the head of `S` and then the rest. -/
def LexesTo (bol : Bool) (B : Bytes) (S : List Tk) : Prop :=
  ∀ i : Input, i.remaining = B → (bol = true → LineStart i) →
    ∃ i', readToken i = .ok i' ∧ i'.nextId = i.nextId ∧ i'.commentsRev = i.commentsRev ∧ Stream S i'

theorem LexesTo.weaken {B : Bytes} {S : List Tk} (h : LexesTo false B S) (b : Bool) : LexesTo b B S := by
  intro i hi _
  exact h i hi (by intro h; cases h)

theorem relex_newline (ws rest : Bytes) (hws : ∀ b ∈ ws, isBlank b = true) (i : Input)
    (hi : i.remaining = ws ++ 10 :: rest) :
    ∃ i', readToken i = .ok i' ∧ i'.token.kind = .punct 10 ∧ i'.token.text = [10] ∧ i'.remaining = rest ∧
      i'.consumedRev = (ws ++ [10]).reverse ++ i.consumedRev ∧
      i'.commentsRev = i.commentsRev ∧ i'.nextId = i.nextId := by
  obtain ⟨i0, hs0, hadv0⟩ := skipSpaces_relex ws (10 :: rest) hws (by intro b hb; simp at hb; subst hb; rfl)
    (i.remaining.length + 1) i hi (by rw [hi]; simp only [List.length_append]; omega)
  have hrem0 : i0.remaining = 10 :: rest := hadv0.rem_of hi
  have hne0 : i0.remaining ≠ [] := by rw [hrem0]; simp
  have heof0 : i0.eof = false := (eof_false_iff i0).2 hne0
  unfold readToken
  have hc1 : isPrefixOfB [47, 47] (10 :: rest) = false := by simp [isPrefixOfB]
  have hc2 : isPrefixOfB [47, 42] (10 :: rest) = false := by simp [isPrefixOfB]
  simp only [hs0, bind, Except.bind, heof0, Input.peekPrefix, hrem0, hc1, hc2, Bool.not_false, Bool.and_false,
    Bool.false_eq_true, if_false]
  have hj : (startToken i0).remaining = 10 :: rest := hrem0
  have hjeof : (startToken i0).eof = false := heof0
  simp only [hjeof, Bool.false_eq_true, if_false]
  have hne : (startToken i0).remaining ≠ [] := by rw [hj]; simp
  have hdec : Utf8.decodeRune (startToken i0).remaining = (10, 1) := by
    rw [hj]; exact decodeRune_ascii 10 _ (by decide)
  have hpk : (startToken i0).peekRune = 10 := by rw [peekRune_eq hne, hdec]
  obtain ⟨i1, hr1, hadv1, _⟩ := readRune_adv (startToken i0) hne
  rw [hdec] at hr1 hadv1
  have : (startToken i0).remaining.take 1 = [10] := by rw [hj]; rfl
  simp only [this] at hadv1
  have hpunct : isPunct 10 = true := by decide
  simp only [hpk, hpunct, if_true, hr1]
  refine ⟨_, rfl, rfl, ?_, ?_, ?_, ?_, ?_⟩
  · have := hadv1.tok
    simp only [endToken, TokKind.isComment, Bool.false_eq_true, if_false, this]
    simp [startToken]
  · exact hadv1.rem_of hj
  · show i1.consumedRev = _
    rw [hadv1.cons]
    show [10].reverse ++ i0.consumedRev = _
    rw [hadv0.cons]; simp
  · show i1.commentsRev = _
    rw [hadv1.comments]
    exact hadv0.comments
  · show i1.nextId = _
    rw [hadv1.nextId]
    exact hadv0.nextId

theorem blank_ne_newline {ws : Bytes} (hws : ∀ b ∈ ws, isBlank b = true) : ∀ b ∈ ws, (b != 10) = true := by
  intro b hb
  rcases isBlank_cases (hws b hb) with h | h | h <;> subst h <;> rfl

end ModVerif.Proofs.ModfileFmtStream
