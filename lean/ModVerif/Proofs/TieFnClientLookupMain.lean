/-
  Tie of `Client.Lookup` (Generated/FnClient.lean) with its `c.record.Do` closure against the hand model's `lookupWork` /
  `lookup` (Model/Client.lean), under the representation relation of Proofs/TieFnClientRep.lean and the correspondences
  of `Client_mergeLatest` / `Client_checkRecord` taken as hypotheses (`MergeLatestSpec`, `CheckRecordSpec`).
-/
import ModVerif.Proofs.TieFnClientLookupInit
import ModVerif.Tie.FnModule
import ModVerif.Tie.FnTlogNote
import ModVerif.Proofs.ClientAuth
set_option linter.unusedSectionVars false
namespace ModVerif.TieFnClientLookup
open ModVerif ModVerif.GoRt ModVerif.GoRtTile ModVerif.Generated.SumdbClient ModVerif.TieFnClientRep
open ModVerif.TieFnTile (toGen)

section
variable {σ H : Type} [DecidableEq H] [Inhabited H]

/-- where the response comes from: the on-disk cache, or else the server (the same function as `Client.lwGot` of
    Proofs/ClientRuns.lean, which the statements of Tie/FnClientLookup.lean do not see) -/
def lwGot (E : Client.Env σ) (w : Client.World σ H) (file remotePath : Bytes) :
    Option (Bytes × Bool) × Client.World σ H :=
  match (Client.readCache E w file).1 with
  | some data => (some (data, false), (Client.readCache E w file).2)
  | none =>
    match (Client.readRemote E (Client.readCache E w file).2 remotePath).1 with
    | some data => (some (data, true), (Client.readRemote E (Client.readCache E w file).2 remotePath).2)
    | none => (none, (Client.readRemote E (Client.readCache E w file).2 remotePath).2)

theorem lookupWork_eq (P : Client.Params H) (E : Client.Env σ) (w : Client.World σ H) (file remotePath : Bytes) :
    Client.lookupWork P E w file remotePath =
      match (lwGot E w file remotePath).1 with
      | none => (.error .remote, (lwGot E w file remotePath).2)
      | some (data, wc) => Client.lookupValidate P E (lwGot E w file remotePath).2 file data wc :=
  Client.lookupWork_eq P E w file remotePath

/-- side conditions of the validation of a response `data` in the model world `w` -/
def ContAdm (P : Client.Params H) (E : Client.Env σ) (AM : Nat → Client.World σ H → Bytes → Prop)
    (AC : Nat → Client.World σ H → Int → Bytes → Prop) (fuel : Nat) (w : Client.World σ H) (data : Bytes) : Prop :=
  data.length + 1 ≤ fuel ∧
  match TlogNote.parseRecord data with
  | none => True
  | some (id, text, treeMsg) =>
    AM fuel w treeMsg ∧
    match (Client.mergeLatest P E w treeMsg).1 with
    | .error _ => True
    | .ok () => AC fuel (Client.mergeLatest P E w treeMsg).2 id text

def LookupWorkAdm (P : Client.Params H) (E : Client.Env σ) (AM : Nat → Client.World σ H → Bytes → Prop)
    (AC : Nat → Client.World σ H → Int → Bytes → Prop) (fuel : Nat) (w : Client.World σ H) (file remotePath : Bytes) : Prop :=
  match (lwGot E w file remotePath).1 with
  | none => True
  | some (data, _) => ContAdm P E AM AC fuel (lwGot E w file remotePath).2 data

theorem parseRecordX_eq (fuel : Nat) (data : Bytes) (hf : data.length + 1 ≤ fuel) :
    parseRecordX fuel data = .ok (TieFnTlogNote.prOut (TlogNote.parseRecord data)) :=
  Tie.FnTlogNote.ParseRecord_tie data fuel hf

theorem validate_tie (P : Client.Params H) (E : Client.Env σ) (AM : Nat → Client.World σ H → Bytes → Prop)
    (AC : Nat → Client.World σ H → Int → Bytes → Prop) (hM : MergeLatestSpec P E AM) (hC : CheckRecordSpec P E AC)
    (w : Client.World σ H) (cw : GW σ H) (fuel : Nat) (file data : Bytes) (wc : Bool) (hr : RepRun P E w cw)
    (ha : ContAdm P E AM AC fuel w data) :
    Ties (RepRun P E) FrameD (fun _ _ => True) RepCached id w cw (validateG (envOf P E) fuel file data cw wc)
      (Client.lookupValidate P E w file data wc) := by
  obtain ⟨hf, ha⟩ := ha
  unfold validateG Client.lookupValidate
  rw [parseRecordX_eq fuel data hf, mbind_ok]
  cases hpr : TlogNote.parseRecord data with
  | none => exact Ties.ret framingD hr ⟨_, rfl, errAbs_recordSyntax⟩
  | some x =>
    obtain ⟨id, text, treeMsg⟩ := x
    rw [hpr] at ha
    obtain ⟨ham, ha⟩ := ha
    show Ties _ _ _ _ _ _ _ (Client_mergeLatest (envOf P E) fuel treeMsg cw >>= _) _
    refine Ties.bind framingD (hM.ties hr ham) fun r' cwB hrB hresB => ?_
    cases hmr : (Client.mergeLatest P E w treeMsg).1 with
    | error e =>
      rw [hmr] at hresB
      simp only [hmr, RepErr_not_isNone hresB, if_true]
      exact Ties.ret framingD hrB hresB
    | ok u =>
      cases u
      rw [hmr] at hresB ha
      obtain rfl : r' = none := hresB
      simp only [hmr, Option.isNone_none, Bool.not_true, Bool.false_eq_true, if_false]
      refine Ties.bind framingD (hC.ties hrB ha) fun r'' cwC hrC hresC => ?_
      cases hkr : (Client.checkRecord P E (Client.mergeLatest P E w treeMsg).2 id text).1 with
      | error e =>
        rw [hkr] at hresC
        simp only [RepErr_not_isNone hresC, if_true]
        exact Ties.ret framingD hrC hresC
      | ok u =>
        cases u
        rw [hkr] at hresC
        obtain rfl : r'' = none := hresC
        simp only [Option.isNone_none, Bool.not_true, Bool.false_eq_true, if_false]
        cases wc
        · exact Ties.ret framingD hrC ⟨rfl, rfl⟩
        · show Ties _ _ _ _ _ _ _ (pure (_, ((envOf P E).writeCache file data cwC).2)) _
          rw [writeCache_eq (P := P) (E := E) hrC.s file data]
          exact Ties.after framingD (withS_frameD _ _) trivial (Ties.ret framingD (hrC.withS rfl) ⟨rfl, rfl⟩)

theorem lookupWork_tie (P : Client.Params H) (E : Client.Env σ) (AM : Nat → Client.World σ H → Bytes → Prop)
    (AC : Nat → Client.World σ H → Int → Bytes → Prop) (hM : MergeLatestSpec P E AM) (hC : CheckRecordSpec P E AC)
    (w : Client.World σ H) (cw : GW σ H) (fuel : Nat) (file remotePath : Bytes) (hr : RepRun P E w cw)
    (ha : LookupWorkAdm P E AM AC fuel w file remotePath) :
    Ties (RepRun P E) FrameD (fun _ _ => True) RepCached id w cw
      (Client_Lookup_cacheFn1 (envOf P E) fuel remotePath file cw) (Client.lookupWork P E w file remotePath) := by
  rw [lookupWork_eq, Lookup_cacheFn1_unfold, readCache_eq hr.s file]
  generalize hRR : (envOf P E).readRemote = RR
  unfold LookupWorkAdm at ha
  have hr1 : RepRun P E (Client.readCache E w file).2 (withS cw (Client.readCache E w file).2) := hr.withS rfl
  refine Ties.after framingD (w1 := (Client.readCache E w file).2)
    (withS_frameD cw (Client.readCache E w file).2) trivial ?_
  rcases Client.lwGot_cases E w file remotePath with ⟨data, h1, hg⟩ | ⟨data, h1, h2, hg⟩ | ⟨h1, h2, hg⟩
  all_goals
    have hg' : lwGot E w file remotePath = _ := hg
    rw [hg'] at ha ⊢
    rw [h1]
  · simp only [readOut_some, Option.isNone_none, Bool.not_true, Bool.false_eq_true, if_false]
    exact validate_tie P E AM AC hM hC _ _ fuel file data false hr1 ha
  all_goals
    simp only [readOut_none, Option.isNone_some, Bool.not_false, if_true]
    rw [← hRR, readRemote_eq (w := (Client.readCache E w file).2) rfl remotePath, h2]
    refine Ties.after framingD (w1 := (Client.readRemote E (Client.readCache E w file).2 remotePath).2)
      (withS_frameD _ (Client.readRemote E (Client.readCache E w file).2 remotePath).2) trivial ?_
  · simp only [readOut_some, Option.isNone_none, Bool.not_true, Bool.false_eq_true, if_false]
    exact validate_tie P E AM AC hM hC _ _ fuel file data true (hr1.withS rfl) ha
  · simp only [readOut_none, Option.isNone_some, Bool.not_false, if_true]
    exact Ties.ret framingD (hr1.withS rfl) ⟨_, rfl, errAbs_remote⟩

theorem skip_eq (P : Client.Params H) (E : Client.Env σ) (fuel : Nat) (path : Bytes)
    (hf : P.nosumdb.length + path.length + 1 ≤ fuel) :
    matchPrefixPatternsX (envOf P E) fuel P.nosumdb path = .ok (Module.matchPrefixPatterns P.glob P.nosumdb path) :=
  Tie.FnModule.MatchPrefixPatterns_tie (fun p n => (P.glob p n, none)) P.nosumdb path fuel hf

theorem escapePath_eq (P : Client.Params H) (E : Client.Env σ) (fuel : Nat) (path : Bytes)
    (hf : 2 * path.length + 24 ≤ fuel) :
    escapePathX (envOf P E) fuel path = .ok (TieFnModule.escResOf (Module.escapePath path)) :=
  Tie.FnModule.EscapePath_tie _ _ path fuel Tie.FnModule.foldOK_driver hf

theorem escapeVersion_eq (P : Client.Params H) (E : Client.Env σ) (fuel : Nat) (v : Bytes)
    (hf : v.length + 23 ≤ fuel) :
    escapeVersionX (envOf P E) fuel v = .ok (TieFnModule.escResOf (Module.escapeVersion P.isLetter v)) := by
  have h := Tie.FnModule.EscapeVersion_tie (envOf P E).equalFold (envOf P E).isLetter v fuel Tie.FnModule.foldOK_driver hf
  have hl : TieFnModule.natLetter (envOf P E).isLetter = P.isLetter := by
    funext n
    show P.isLetter ((n : Int)).toNat = P.isLetter n
    rw [Int.toNat_natCast]
  rw [hl] at h
  exact h

theorem escRes_err (x : Module.EscErr) :
    ∃ s, TieFnModule.escResOf (.error x) = ([], some s) ∧ errAbs s = .escape := by
  cases x with
  | path e => exact ⟨_, rfl, errAbs_append _ _ rfl (by decide)⟩
  | disallowed =>
    obtain ⟨s, hs, h⟩ := repErr_wrap "InvalidVersionError" (some "disallowed version string") rfl (k := .escape) (by decide)
    exact ⟨s, congrArg (Prod.mk []) hs, h⟩
  | internal => exact ⟨_, rfl, errAbs_lit _ rfl (by decide)⟩

/-- the result of `c.record.Do(file, …)` in the model: the cached entry, or `lookupWork` and a new entry -/
def lookupRes (P : Client.Params H) (E : Client.Env σ) (w : Client.World σ H) (file remotePath : Bytes) :
    Except Client.Err Bytes × Client.World σ H :=
  match w.c.record.lookup file with
  | some r => (r, w)
  | none =>
    ((Client.lookupWork P E w file remotePath).1,
      { (Client.lookupWork P E w file remotePath).2 with
        c := { (Client.lookupWork P E w file remotePath).2.c with
          record := (file, (Client.lookupWork P E w file remotePath).1) :: (Client.lookupWork P E w file remotePath).2.c.record } })

theorem lookup_eq (P : Client.Params H) (E : Client.Env σ) (w : Client.World σ H) (path vers : Bytes) :
    Client.lookup P E w path vers =
      if Module.matchPrefixPatterns P.glob P.nosumdb path then (.error .gonosumdb, w) else
      match (Client.init P E w).c.inited with
      | some (some e) => (.error e, Client.init P E w)
      | _ =>
        match Module.escapePath path with
        | .error _ => (.error .escape, Client.init P E w)
        | .ok epath =>
          match Module.escapeVersion P.isLetter (Client.trimGoMod vers) with
          | .error _ => (.error .escape, Client.init P E w)
          | .ok evers =>
            match (lookupRes P E (Client.init P E w) ((Client.init P E w).c.name ++ (B "/lookup/" ++ epath ++ [64] ++ evers))
                (B "/lookup/" ++ epath ++ [64] ++ evers)).1 with
            | .error e => (.error e, (lookupRes P E (Client.init P E w)
                ((Client.init P E w).c.name ++ (B "/lookup/" ++ epath ++ [64] ++ evers)) (B "/lookup/" ++ epath ++ [64] ++ evers)).2)
            | .ok data => (.ok (Client.filterLines (path ++ [32] ++ vers ++ [32]) data), (lookupRes P E (Client.init P E w)
                ((Client.init P E w).c.name ++ (B "/lookup/" ++ epath ++ [64] ++ evers)) (B "/lookup/" ++ epath ++ [64] ++ evers)).2) := by
  unfold Client.lookup lookupRes
  rfl

theorem core_recordSet {P : Client.Params H} {E : Client.Env σ} {w : Client.World σ H} {cw : GW σ H}
    (h : RepCore P E w cw) (file : Bytes) (cv : Cached) (r : Except Client.Err Bytes) (hr : RepCached cv r) :
    RepCore P E { w with c := { w.c with record := (file, r) :: w.c.record } }
      { cw with record := mapSet cw.record file cv } := by
  refine { h with record := ?_ }
  intro k
  show RepOpt RepCached (mapLookup (mapSet cw.record file cv) k) (((file, r) :: w.c.record).lookup k)
  rw [mapLookup_mapSet, List.lookup_cons]
  by_cases hk : file = k
  · subst hk
    simp only [if_true, beq_self_eq_true]
    exact hr
  · have hk' : (k == file) = false := by
      simp only [beq_eq_false_iff_ne, ne_eq]; exact fun e => hk e.symm
    simp only [hk, if_false, hk']
    exact h.record k

theorem recordDo_tie (P : Client.Params H) (E : Client.Env σ) (AM : Nat → Client.World σ H → Bytes → Prop)
    (AC : Nat → Client.World σ H → Int → Bytes → Prop) (hM : MergeLatestSpec P E AM) (hC : CheckRecordSpec P E AC)
    (w : Client.World σ H) (cw : GW σ H) (fuel : Nat) (file remotePath : Bytes) (hW : RepW P E w cw)
    (hin : w.c.inited = some none)
    (ha : w.c.record.lookup file = none → LookupWorkAdm P E AM AC fuel w file remotePath) :
    ∃ hit cw', recordDo (envOf P E) fuel remotePath file cw = .ok (hit, cw') ∧
      RepW P E (lookupRes P E w file remotePath).2 cw' ∧ RepCached hit (lookupRes P E w file remotePath).1 ∧
      (lookupRes P E w file remotePath).2.c.inited = some none := by
  unfold recordDo lookupRes
  rw [mapGet_eq]
  have hrec := hW.record file
  cases hl : w.c.record.lookup file with
  | some r =>
    rw [hl] at hrec
    cases hm : mapLookup cw.record file with
    | none => rw [hm] at hrec; exact absurd hrec (by simp [RepOpt])
    | some hit =>
      rw [hm] at hrec
      exact ⟨hit, cw, rfl, hW, hrec, hin⟩
  | none =>
    rw [hl] at hrec
    cases hm : mapLookup cw.record file with
    | some hit => rw [hm] at hrec; exact absurd hrec (by simp [RepOpt])
    | none =>
      have hrun := hW.run hin
      have hi := hW.init
      unfold RepInit at hi
      rw [hin] at hi
      obtain ⟨cv, cw3, h1, h2, h3, ⟨h4, h5⟩, _⟩ :=
        lookupWork_tie P E AM AC hM hC w cw fuel file remotePath hrun (ha hl)
      replace h1 : Client_Lookup_cacheFn1 (envOf P E) fuel remotePath file cw = .ok (cv, cw3) := h1
      have hinit : (Client.lookupWork P E w file remotePath).2.c.inited = some none := by
        rw [(ClientEffects.lf_lookupWork (E := E) P _ _ _).inited]; exact hin
      refine ⟨cv, { cw3 with record := mapSet cw3.record file cv }, ?_, ?_, h3, hinit⟩
      · simp only [h1, bind, Except.bind, pure, Except.pure]
      · refine { toRepCore := core_recordSet h2.toRepCore file cv _ h3, init := ?_ }
        unfold RepInit
        simp only [hinit]
        exact ⟨h4.trans hi.1, h5.trans hi.2.1, h2.tileHeight, h2.latestHash⟩

/-- the invariant between two calls of `Lookup`: the worlds correspond, and nothing has been marked saved before
    `initWork` has run (`initWork` resets `c.tileSaved`; the model's `newClient` starts with the empty list) -/
def RepL (P : Client.Params H) (E : Client.Env σ) (w : Client.World σ H) (cw : GW σ H) : Prop :=
  RepW P E w cw ∧ (w.c.inited = none → w.c.tileSaved = [])

/-- the side conditions of one `Lookup`: fuel for the scans of `path` / `vers` / the `GONOSUMDB` list and of the response,
    and the side conditions of `mergeLatest` / `checkRecord` at the points where the model calls them -/
def LookupAdm (P : Client.Params H) (E : Client.Env σ) (AM : Nat → Client.World σ H → Bytes → Prop)
    (AC : Nat → Client.World σ H → Int → Bytes → Prop) (fuel : Nat) (w : Client.World σ H) (path vers : Bytes) : Prop :=
  P.nosumdb.length + path.length + 1 ≤ fuel ∧ 2 * path.length + 24 ≤ fuel ∧
  (Client.trimGoMod vers).length + 23 ≤ fuel ∧
  (Module.matchPrefixPatterns P.glob P.nosumdb path = false →
    (w.c.inited = none → InitAdm P E AM fuel w) ∧
    ((Client.init P E w).c.inited = some none → ∀ epath evers, Module.escapePath path = .ok epath →
      Module.escapeVersion P.isLetter (Client.trimGoMod vers) = .ok evers →
      ((Client.init P E w).c.record.lookup ((Client.init P E w).c.name ++ (B "/lookup/" ++ epath ++ [64] ++ evers)) = none →
        LookupWorkAdm P E AM AC fuel (Client.init P E w)
          ((Client.init P E w).c.name ++ (B "/lookup/" ++ epath ++ [64] ++ evers)) (B "/lookup/" ++ epath ++ [64] ++ evers)) ∧
      ∀ data, (lookupRes P E (Client.init P E w) ((Client.init P E w).c.name ++ (B "/lookup/" ++ epath ++ [64] ++ evers))
          (B "/lookup/" ++ epath ++ [64] ++ evers)).1 = .ok data → data.length + 2 ≤ fuel))

theorem lookup_tie (P : Client.Params H) (E : Client.Env σ) (AM : Nat → Client.World σ H → Bytes → Prop)
    (AC : Nat → Client.World σ H → Int → Bytes → Prop) (hM : MergeLatestSpec P E AM) (hC : CheckRecordSpec P E AC)
    (hsha : ∀ x, 4 ≤ (P.sha x).length)
    (w : Client.World σ H) (cw : GW σ H) (fuel : Nat) (path vers : Bytes) (h : RepL P E w cw)
    (ha : LookupAdm P E AM AC fuel w path vers) :
    ∃ r' cw', Client_Lookup (envOf P E) fuel path vers cw = .ok (r', cw') ∧
      RepL P E (Client.lookup P E w path vers).2 cw' ∧ RepRes r' (Client.lookup P E w path vers).1 := by
  obtain ⟨hW, hts⟩ := h
  obtain ⟨hf1, hf2, hf3, ha⟩ := ha
  have hskip : matchPrefixPatternsX (envOf P E) fuel ({ cw with didLookup := 1 } : GW σ H).nosumdb path =
      .ok (Module.matchPrefixPatterns P.glob P.nosumdb path) := by
    rw [show ({ cw with didLookup := 1 } : GW σ H).nosumdb = P.nosumdb from hW.nosumdb]; exact skip_eq P E fuel path hf1
  rw [lookup_eq, Lookup_unfold]
  unfold Client_skip
  simp only [hskip, bind, Except.bind, pure, Except.pure]
  cases hsk : Module.matchPrefixPatterns P.glob P.nosumdb path with
  | true => exact ⟨_, _, rfl, ⟨repW_didLookup hW 1, hts⟩, ⟨_, rfl, errAbs_gonosumdb⟩⟩
  | false =>
    simp only [Bool.false_eq_true, if_false]
    obtain ⟨hai, hal⟩ := ha hsk
    obtain ⟨cw2, hi, hW2⟩ := init_tie P E AM hM hsha w _ fuel (repW_didLookup hW 1) hts hai
    have hne := init_inited P E w
    have hL2 : RepL P E (Client.init P E w) cw2 := ⟨hW2, fun h0 => absurd h0 hne⟩
    have hi2 := hW2.init
    unfold RepInit at hi2
    simp only [hi]
    cases hin : (Client.init P E w).c.inited with
    | none => exact absurd hin hne
    | some x =>
      cases x with
      | some e =>
        rw [hin] at hi2
        obtain ⟨_, s, hs1, hs2⟩ := hi2
        simp only [hs1, Option.isNone_some, Bool.not_false, if_true]
        exact ⟨_, _, rfl, hL2, errAbs_wrap _ lookupLit_pass _ _ ⟨s, rfl, hs2⟩⟩
      | none =>
        rw [hin] at hi2
        obtain ⟨hd2, he2, hth2, hh2⟩ := hi2
        simp only [he2, Option.isNone_none, Bool.not_true, Bool.false_eq_true, if_false, escapePath_eq P E fuel path hf2]
        cases hp : Module.escapePath path with
        | error x =>
          obtain ⟨s, hs1, hs2⟩ := escRes_err x
          simp only [hs1, Option.isNone_some, Bool.not_false, if_true]
          exact ⟨_, _, rfl, hL2, errAbs_wrap _ lookupLit_pass _ _ ⟨s, rfl, hs2⟩⟩
        | ok epath =>
          have hev := escapeVersion_eq P E fuel (Client.trimGoMod vers) hf3
          rw [← trimSuffix_gomod] at hev
          simp only [show TieFnModule.escResOf (.ok epath : Except Module.EscErr Bytes) = (epath, none) from rfl,
            Option.isNone_none, Bool.not_true, Bool.false_eq_true, if_false]
          cases hv : Module.escapeVersion P.isLetter (Client.trimGoMod vers) with
          | error x =>
            rw [← trimSuffix_gomod] at hv
            rw [hv] at hev
            obtain ⟨s, hs1, hs2⟩ := escRes_err x
            simp only [hev, hs1, Option.isNone_some, Bool.not_false, if_true]
            exact ⟨_, _, rfl, hL2, errAbs_wrap _ lookupLit_pass _ _ ⟨s, rfl, hs2⟩⟩
          | ok evers =>
            obtain ⟨halw, hald⟩ := hal hin epath evers hp hv
            rw [← trimSuffix_gomod] at hv
            rw [hv] at hev
            obtain ⟨hit, cw3, hr, hW3, hc3, hin3⟩ :=
              recordDo_tie P E AM AC hM hC (Client.init P E w) cw2 fuel
                ((Client.init P E w).c.name ++ (B "/lookup/" ++ epath ++ [64] ++ evers)) (B "/lookup/" ++ epath ++ [64] ++ evers)
                hW2 hin halw
            rw [← hW2.name, ← remotePath_eq] at hr
            simp only [hev, show TieFnModule.escResOf (.ok evers : Except Module.EscErr Bytes) = (evers, none) from rfl,
              Option.isNone_none, Bool.not_true, Bool.false_eq_true, if_false, hr]
            have hL3 : RepL P E (lookupRes P E (Client.init P E w)
                ((Client.init P E w).c.name ++ (B "/lookup/" ++ epath ++ [64] ++ evers)) (B "/lookup/" ++ epath ++ [64] ++ evers)).2 cw3 :=
              ⟨hW3, fun h0 => by rw [hin3] at h0; cases h0⟩
            cases hres : (lookupRes P E (Client.init P E w)
                ((Client.init P E w).c.name ++ (B "/lookup/" ++ epath ++ [64] ++ evers)) (B "/lookup/" ++ epath ++ [64] ++ evers)).1 with
            | error e =>
              rw [hres] at hc3
              obtain ⟨s, hs1, hs2⟩ := hc3
              simp only at hs1
              simp only [hs1, Option.isNone_some, Bool.not_false, if_true]
              exact ⟨_, _, rfl, hL3, errAbs_wrap _ lookupLit_pass _ _ ⟨s, rfl, hs2⟩⟩
            | ok data =>
              rw [hres] at hc3
              obtain ⟨hs1, hs2⟩ := hc3
              simp only at hs1 hs2
              have hfd : hit.data.length + 2 ≤ fuel := by rw [hs2]; exact hald data hres
              simp only [hs1, Option.isNone_none, Bool.not_true, Bool.false_eq_true, if_false,
                loop2_filterLines _ _ _ _ _ fuel hfd]
              rw [hs2]
              exact ⟨_, _, rfl, hL3, ⟨rfl, rfl⟩⟩

end
end ModVerif.TieFnClientLookup

/-
  A sequence of `Lookup` calls on the regenerated client (`genRun`) against the model's `runLookups`
  (Proofs/ClientAuth.lean): the invariant `RepL` is carried from call to call by `lookup_tie`.
-/
namespace ModVerif.TieFnClientLookup
open ModVerif ModVerif.GoRt ModVerif.Generated.SumdbClient ModVerif.TieFnClientRep

section
variable {σ H : Type} [DecidableEq H] [Inhabited H]

def genRun {σ' : Type} (E : ClientEnv σ' H) (fuel : Nat) : CW σ' H → List (Bytes × Bytes) → M (CW σ' H)
  | cw, [] => pure cw
  | cw, q :: qs =>
    match Client_Lookup E fuel q.1 q.2 cw with
    | .ok (_, cw') => genRun E fuel cw' qs
    | .error e => .error e

def RunAdm (P : Client.Params H) (E : Client.Env σ) (AM : Nat → Client.World σ H → Bytes → Prop)
    (AC : Nat → Client.World σ H → Int → Bytes → Prop) (fuel : Nat) : Client.World σ H → List (Bytes × Bytes) → Prop
  | _, [] => True
  | w, q :: qs => LookupAdm P E AM AC fuel w q.1 q.2 ∧ RunAdm P E AM AC fuel (Client.lookup P E w q.1 q.2).2 qs

theorem run_tie (P : Client.Params H) (E : Client.Env σ) (AM : Nat → Client.World σ H → Bytes → Prop)
    (AC : Nat → Client.World σ H → Int → Bytes → Prop) (hM : MergeLatestSpec P E AM) (hC : CheckRecordSpec P E AC)
    (hsha : ∀ x, 4 ≤ (P.sha x).length) (fuel : Nat) :
    ∀ (qs : List (Bytes × Bytes)) (w : Client.World σ H) (cw : GW σ H), RepL P E w cw → RunAdm P E AM AC fuel w qs →
      ∃ cw', genRun (envOf P E) fuel cw qs = .ok cw' ∧ RepL P E (Client.runLookups P E w qs) cw' := by
  intro qs
  induction qs with
  | nil => intro w cw h _; exact ⟨cw, rfl, h⟩
  | cons q qs ih =>
    intro w cw h ha
    obtain ⟨ha1, ha2⟩ := ha
    obtain ⟨r', cw1, h1, h2, _⟩ := lookup_tie P E AM AC hM hC hsha w cw fuel q.1 q.2 h ha1
    obtain ⟨cw', h3, h4⟩ := ih _ cw1 h2 ha2
    refine ⟨cw', ?_, h4⟩
    simp only [genRun, h1]
    exact h3

end
end ModVerif.TieFnClientLookup
