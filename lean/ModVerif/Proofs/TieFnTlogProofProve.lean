/-
  The recursive provers `leafProof` / `treeProof` of the generated code compute the model's
  `leafProofF` / `treeProofF` (hash part of ProveRecord / ProveTree), panic cases included.
-/
import ModVerif.Proofs.TieFnTlogProofHash
namespace ModVerif.Tie.FnTlogProof
open ModVerif ModVerif.GoRt

section
variable {H : Type} [DecidableEq H] [Inhabited H] (node : H → H → H)

theorem leafProof_ok : ∀ (fuel f : Nat) (lo hi n : Nat) (hashes : List H),
    hi < 2 ^ 63 → hi - lo ≤ f → hi - lo + 1 ≤ fuel →
    Generated.Tlog.leafProof node fuel (lo : Int) (hi : Int) (n : Int) hashes =
      toM (Tlog.leafProofF node f lo hi n hashes) := by
  intro fuel
  induction fuel with
  | zero => intro f lo hi n hashes _ _ h; omega
  | succ fuel ih =>
    intro f lo hi n hashes h3 h4 h5
    unfold Generated.Tlog.leafProof
    by_cases hgd : lo ≤ n ∧ n < hi
    · obtain ⟨h1, h2⟩ := hgd
      obtain ⟨f, rfl⟩ : ∃ f', f = f' + 1 := ⟨f - 1, by omega⟩
      unfold Tlog.leafProofF
      have hg : (!(decide ((lo : Int) ≤ (n : Int)) && decide ((n : Int) < (hi : Int)))) = false := by
        simp; omega
      have hg' : (!(decide (lo ≤ n) && decide (n < hi))) = false := by simp; omega
      simp only [hg, hg', Bool.false_eq_true, if_false]
      rw [chk64_ok _ (by omega) (by omega)]
      simp only [mbind_ok]
      by_cases hone : lo + 1 = hi
      · have e1 : decide ((lo : Int) + 1 = (hi : Int)) = true := decide_eq_true (by omega)
        have e2 : (lo + 1 == hi) = true := by simp [hone]
        simp only [e1, e2, if_true, mpure, toM_ok]
      · have e1 : decide ((lo : Int) + 1 = (hi : Int)) = false := decide_eq_false (by omega)
        have e2 : (lo + 1 == hi) = false := by simp [hone]
        simp only [e1, e2, Bool.false_eq_true, if_false]
        have hsz : 1 < hi - lo := by omega
        have hk := Tlog.maxpow2_lt (hi - lo) hsz
        have hkp := Tlog.maxpow2_fst_pos (hi - lo)
        rw [chk64_ok _ (by omega) (by omega)]
        simp only [mbind_ok]
        rw [maxpow2_ok_sub fuel lo hi (by omega) (by omega)]
        simp only [mbind_ok]
        generalize (Tlog.maxpow2 (hi - lo)).1 = k at *
        rw [chk64_ok _ (by omega) (by omega)]
        simp only [mbind_ok]
        rw [← Int.natCast_add]
        by_cases hlt : n < lo + k
        · have hlt' : decide ((n : Int) < ((lo + k : Nat) : Int)) = true := decide_eq_true (by omega)
          simp only [hlt', hlt, if_true]
          rw [ih f lo (lo + k) n hashes (by omega) (by omega) (by omega)]
          cases Tlog.leafProofF node f lo (lo + k) n hashes with
          | error e => rfl
          | ok a =>
            obtain ⟨p, hs⟩ := a
            simp only [toM_ok, mbind_ok]
            rw [subTreeHash_ok node fuel (lo + k) hi hs h3 (by omega) (by omega)]
            cases Tlog.subTreeHash node (lo + k) hi hs with
            | error e => rfl
            | ok b => rfl
        · have hlt' : decide ((n : Int) < ((lo + k : Nat) : Int)) = false := decide_eq_false (by omega)
          simp only [hlt', hlt, Bool.false_eq_true, if_false]
          rw [subTreeHash_ok node fuel lo (lo + k) hashes (by omega) (by omega) (by omega)]
          cases Tlog.subTreeHash node lo (lo + k) hashes with
          | error e => rfl
          | ok b =>
            obtain ⟨th, hs⟩ := b
            simp only [toM_ok, mbind_ok]
            rw [ih f (lo + k) hi n hs h3 (by omega) (by omega)]
            cases Tlog.leafProofF node f (lo + k) hi n hs with
            | error e => rfl
            | ok a => rfl
    · have hg : (!(decide ((lo : Int) ≤ (n : Int)) && decide ((n : Int) < (hi : Int)))) = true := by
        simp; omega
      have hg' : (!(decide (lo ≤ n) && decide (n < hi))) = true := by simp; omega
      simp only [hg, if_true, mthrow]
      cases f with
      | zero => rfl
      | succ f => unfold Tlog.leafProofF; simp only [hg', if_true, toM_error]

theorem treeProof_ok : ∀ (fuel f : Nat) (lo hi n : Nat) (hashes : List H),
    hi < 2 ^ 63 → hi - lo ≤ f → hi - lo + 2 ≤ fuel →
    Generated.Tlog.treeProof node fuel (lo : Int) (hi : Int) (n : Int) hashes =
      toM (Tlog.treeProofF node f lo hi n hashes) := by
  intro fuel
  induction fuel with
  | zero => intro f lo hi n hashes _ _ h; omega
  | succ fuel ih =>
    intro f lo hi n hashes h3 h4 h5
    unfold Generated.Tlog.treeProof
    by_cases hgd : lo < n ∧ n ≤ hi
    · obtain ⟨h1, h2⟩ := hgd
      obtain ⟨f, rfl⟩ : ∃ f', f = f' + 1 := ⟨f - 1, by omega⟩
      unfold Tlog.treeProofF
      have hg : (!(decide ((lo : Int) < (n : Int)) && decide ((n : Int) ≤ (hi : Int)))) = false := by
        simp; omega
      have hg' : (!(decide (lo < n) && decide (n ≤ hi))) = false := by simp; omega
      simp only [hg, hg', Bool.false_eq_true, if_false]
      by_cases hone : n = hi
      · have e1 : decide ((n : Int) = (hi : Int)) = true := decide_eq_true (by omega)
        have e2 : (n == hi) = true := by simp [hone]
        simp only [e1, e2, if_true]
        by_cases hz : lo = 0
        · have e3 : decide ((lo : Int) = 0) = true := decide_eq_true (by omega)
          have e4 : (lo == 0) = true := by simp [hz]
          simp only [e3, e4, if_true, mpure, toM_ok]
        · have e3 : decide ((lo : Int) = 0) = false := decide_eq_false (by omega)
          have e4 : (lo == 0) = false := by simp [hz]
          simp only [e3, e4, Bool.false_eq_true, if_false]
          rw [subTreeHash_ok node fuel lo hi hashes h3 (by omega) (by omega)]
          cases Tlog.subTreeHash node lo hi hashes with
          | error e => rfl
          | ok b => rfl
      · have e1 : decide ((n : Int) = (hi : Int)) = false := decide_eq_false (by omega)
        have e2 : (n == hi) = false := by simp [hone]
        simp only [e1, e2, Bool.false_eq_true, if_false]
        have hsz : 1 < hi - lo := by omega
        have hk := Tlog.maxpow2_lt (hi - lo) hsz
        have hkp := Tlog.maxpow2_fst_pos (hi - lo)
        rw [chk64_ok _ (by omega) (by omega)]
        simp only [mbind_ok]
        rw [maxpow2_ok_sub fuel lo hi (by omega) (by omega)]
        simp only [mbind_ok]
        generalize (Tlog.maxpow2 (hi - lo)).1 = k at *
        rw [chk64_ok _ (by omega) (by omega)]
        simp only [mbind_ok]
        rw [← Int.natCast_add]
        by_cases hlt : n ≤ lo + k
        · have hlt' : decide ((n : Int) ≤ ((lo + k : Nat) : Int)) = true := decide_eq_true (by omega)
          simp only [hlt', hlt, if_true]
          rw [ih f lo (lo + k) n hashes (by omega) (by omega) (by omega)]
          cases Tlog.treeProofF node f lo (lo + k) n hashes with
          | error e => rfl
          | ok a =>
            obtain ⟨p, hs⟩ := a
            simp only [toM_ok, mbind_ok]
            rw [subTreeHash_ok node fuel (lo + k) hi hs h3 (by omega) (by omega)]
            cases Tlog.subTreeHash node (lo + k) hi hs with
            | error e => rfl
            | ok b => rfl
        · have hlt' : decide ((n : Int) ≤ ((lo + k : Nat) : Int)) = false := decide_eq_false (by omega)
          simp only [hlt', hlt, Bool.false_eq_true, if_false]
          rw [subTreeHash_ok node fuel lo (lo + k) hashes (by omega) (by omega) (by omega)]
          cases Tlog.subTreeHash node lo (lo + k) hashes with
          | error e => rfl
          | ok b =>
            obtain ⟨th, hs⟩ := b
            simp only [toM_ok, mbind_ok]
            rw [ih f (lo + k) hi n hs h3 (by omega) (by omega)]
            cases Tlog.treeProofF node f (lo + k) hi n hs with
            | error e => rfl
            | ok a => rfl
    · have hg : (!(decide ((lo : Int) < (n : Int)) && decide ((n : Int) ≤ (hi : Int)))) = true := by
        simp; omega
      have hg' : (!(decide (lo < n) && decide (n ≤ hi))) = true := by simp; omega
      simp only [hg, if_true, mthrow]
      cases f with
      | zero => rfl
      | succ f => unfold Tlog.treeProofF; simp only [hg', if_true, toM_error]

end
end ModVerif.Tie.FnTlogProof
