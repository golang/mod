/-
  The shape of the effects of `unzip`, their confinement to the target directory, and the documented
  restrictions an accepted archive satisfies (`checkZip_ok_spec`).
-/
import ModVerif.Proofs.ZipBPath
import ModVerif.Proofs.ZipBCheck
namespace ModVerif.Proofs.ZipB
open ModVerif ModVerif.PathClean ModVerif.Zip ModVerif.ZipSpec

theorem unzipEntry_cases (dir pfx : Bytes) (fx : List Effect) (zf : Entry) :
    ∃ new, (unzipEntry dir pfx fx zf).1 = fx ++ new ∧
      (∀ e ∈ new, e = .mkdirAll (pathDir (dstOf dir pfx zf)) ∨ ∃ c, e = .createExcl (dstOf dir pfx zf) c) := by
  unfold unzipEntry
  split
  · exact ⟨[], by simp, fun e he => nomatch he⟩
  split
  · exact ⟨[_], rfl, fun e he => Or.inl (List.mem_singleton.mp he)⟩
  split
  · refine ⟨[_, _], rfl, ?_⟩
    intro e he
    simp only [List.mem_cons, List.not_mem_nil, or_false] at he
    rcases he with rfl | rfl
    · exact Or.inl rfl
    · exact Or.inr ⟨_, rfl⟩
  · refine ⟨[_, _], rfl, ?_⟩
    intro e he
    simp only [List.mem_cons, List.not_mem_nil, or_false] at he
    rcases he with rfl | rfl
    · exact Or.inl rfl
    · exact Or.inr ⟨_, rfl⟩

theorem unzipLoop_effects (dir pfx : Bytes) : ∀ (es : List Entry) (fx : List Effect),
    ∃ new, (unzipLoop dir pfx fx es).1 = fx ++ new ∧
      ∀ e ∈ new, ∃ zf ∈ es, skipEntry pfx zf = false ∧
        (e = .mkdirAll (pathDir (dstOf dir pfx zf)) ∨ ∃ c, e = .createExcl (dstOf dir pfx zf) c) := by
  intro es
  induction es with
  | nil => intro fx; exact ⟨[], by simp [unzipLoop], fun e he => by cases he⟩
  | cons zf t ih =>
    intro fx
    unfold unzipLoop
    by_cases h0 : skipEntry pfx zf = true
    · rw [if_pos h0]
      obtain ⟨new, h1, h2⟩ := ih fx
      exact ⟨new, h1, fun e he => by
        obtain ⟨z, hz, hr⟩ := h2 e he; exact ⟨z, List.mem_cons_of_mem _ hz, hr⟩⟩
    · rw [if_neg h0]
      have h0' : skipEntry pfx zf = false := by simpa using h0
      obtain ⟨new1, hn1, hk1⟩ := unzipEntry_cases dir pfx fx zf
      have hmem1 : ∀ e ∈ new1, ∃ z ∈ zf :: t, skipEntry pfx z = false ∧
          (e = .mkdirAll (pathDir (dstOf dir pfx z)) ∨ ∃ c, e = .createExcl (dstOf dir pfx z) c) :=
        fun e he => ⟨zf, List.mem_cons_self, h0', hk1 e he⟩
      rcases hr : unzipEntry dir pfx fx zf with ⟨fx', err⟩
      rw [hr] at hn1
      cases err with
      | some e => exact ⟨new1, hn1, hmem1⟩
      | none =>
        obtain ⟨new, h1, h2⟩ := ih fx'
        refine ⟨new1 ++ new, ?_, ?_⟩
        · show (unzipLoop dir pfx fx' t).1 = _
          rw [h1]; simp only at hn1; rw [hn1]; simp
        · intro e he
          rcases List.mem_append.mp he with he | he
          · exact hmem1 e he
          · obtain ⟨z, hz, hr'⟩ := h2 e he; exact ⟨z, List.mem_cons_of_mem _ hz, hr'⟩

theorem unzip_cases (E : Env) (dir : Bytes) (t : Target) (mpath mvers : Bytes) (zs : Nat) (es : List Entry) :
    ((unzip E dir t mpath mvers zs es).effects = [] ∧ (unzip E dir t mpath mvers zs es).err ≠ none) ∨
    (t ≠ .nonEmptyDir ∧ t ≠ .notDir ∧ ∃ cf, checkZip E mpath mvers zs es = .ok cf ∧ cf.err = none ∧
      (unzip E dir t mpath mvers zs es).effects = (unzipLoop dir (zipPrefix mpath mvers) [.mkdirAll dir] es).1 ∧
      (unzip E dir t mpath mvers zs es).err = (unzipLoop dir (zipPrefix mpath mvers) [.mkdirAll dir] es).2) := by
  unfold unzip
  by_cases h1 : (t == Target.nonEmptyDir) = true
  · left; simp [h1]
  · rw [if_neg h1]
    cases hc : checkZip E mpath mvers zs es with
    | error e => left; simp
    | ok cf =>
      cases he : cf.err with
      | some k => left; cases k <;> simp [he]
      | none =>
        by_cases h2 : (t == Target.notDir) = true
        · left; simp [he, h2]
        · right
          refine ⟨by simpa using h1, by simpa using h2, cf, rfl, he, ?_, ?_⟩ <;> simp [he, h2]

theorem skipEntry_false {pfx : Bytes} {zf : Entry} (h : skipEntry pfx zf = false) :
    zf.name.drop pfx.length ≠ [] ∧ hasSlashSuffix (zf.name.drop pfx.length) = false ∧
    stripName pfx zf = zf.name.drop pfx.length := by
  unfold skipEntry at h
  simp only [Bool.or_eq_false_iff, beq_eq_false_iff_ne, ne_eq] at h
  exact ⟨h.1, h.2, by simp [stripName, h.2]⟩

theorem normalName_of_accepted {E : Env} (hE : CfpSound E.cfp) {mpath mvers : Bytes} {zs : Nat}
    {es : List Entry} {cf : CheckedFiles} (h : checkZip E mpath mvers zs es = .ok cf) (he : cf.err = none)
    {zf : Entry} (hz : zf ∈ es) (hsk : skipEntry (zipPrefix mpath mvers) zf = false) :
    NormalName (zf.name.drop (zipPrefix mpath mvers).length) := by
  obtain ⟨_, _, _, hrun⟩ := checkZip_ok E mpath mvers zs es cf h he
  have hok := (run_facts hrun).1 zf hz
  obtain ⟨hne, _, hst⟩ := skipEntry_false hsk
  have := hok.cfp hne
  rw [hst] at this
  exact normalName_of_cfpSound hE this

theorem unzip_confined (E : Env) (hE : CfpSound E.cfp) (dir : Bytes) (t : Target) (mpath mvers : Bytes) (zs : Nat)
    (es : List Entry) : ∀ e ∈ (unzip E dir t mpath mvers zs es).effects, IsUnder dir e.path := by
  intro e he
  rcases unzip_cases E dir t mpath mvers zs es with ⟨h1, _⟩ | ⟨_, _, cf, hc, herr, h5, _⟩
  · rw [h1] at he; cases he
  · rw [h5] at he
    obtain ⟨new, hn, hmem⟩ := unzipLoop_effects dir (zipPrefix mpath mvers) es [.mkdirAll dir]
    rw [hn] at he
    rcases List.mem_append.mp he with he | he
    · rw [List.mem_singleton.mp he]; exact isUnder_refl dir
    · obtain ⟨zf, hz, hsk, hshape⟩ := hmem e he
      have hN := normalName_of_accepted hE hc herr hz hsk
      rcases hshape with rfl | ⟨c, rfl⟩
      · exact isUnder_pathDir_fpJoin dir hN
      · exact isUnder_fpJoin dir hN

theorem render_ne_nil {r : Bool} {cs : List Bytes} (h : Canon r cs) : render r cs ≠ [] := by
  intro e
  have h1 := comps_render h
  rw [e] at h1
  have : cs = [] := by rw [← h1]; decide
  subst this
  cases r <;> simp [render, J, joinWith] at e

theorem mem_regChain_prefix : ∀ (fuel : Nat) (cs : List Bytes) (d : Bool), Canon false cs → cs.length ≤ fuel →
    ∀ k, 0 < k → k ≤ cs.length →
      (J (cs.take k), if k = cs.length then d else true) ∈ regChain fuel (J cs) d
  | 0, cs, d, _, hl, k, hk, hkl => by omega
  | n + 1, cs, d, hc, hl, k, hk, hkl => by
    unfold regChain
    by_cases hkeq : k = cs.length
    · rw [if_pos hkeq, hkeq, List.take_length]; exact List.mem_cons_self
    · rw [if_neg hkeq]
      have hlen : 2 ≤ cs.length := by omega
      have hne : cs ≠ [] := by intro e; rw [e] at hlen; simp at hlen
      have hdl : cs.dropLast ≠ [] := by
        intro e
        have := congrArg List.length e
        rw [List.length_dropLast] at this
        simp at this; omega
      have hcd : Canon false cs.dropLast := canon_sublist hc (List.dropLast_sublist cs)
      have hpd : pathDir (J cs) = J cs.dropLast := by
        rw [← render_false_J hne, pathDir_render hc, render_false_J hdl]
      have hnd : J cs.dropLast ≠ [46] := by
        intro e
        rw [← render_false_J hdl] at e
        have : render false cs.dropLast = render false [] := e
        exact hdl (render_injective hcd (canon_nil false) this)
      have hif : (pathDir (J cs) != [46]) = true := by rw [hpd]; simpa using hnd
      rw [if_pos hif, hpd]
      apply List.mem_cons_of_mem
      have ih := mem_regChain_prefix n cs.dropLast true hcd (by rw [List.length_dropLast]; omega) k hk
        (by rw [List.length_dropLast]; omega)
      have ht : cs.dropLast.take k = cs.take k := by
        rw [List.dropLast_eq_take, List.take_take]
        congr 1; omega
      rw [ht] at ih
      simpa using ih

abbrev isDirEntry (pfx : Bytes) (e : Entry) : Bool := hasSlashSuffix (e.name.drop pfx.length)

abbrev elemsOf (pfx : Bytes) (e : Entry) : List Bytes := splitOn 47 (stripName pfx e)

theorem mem_regsOf_prefix {pfx : Bytes} {e : Entry} (hne : e.name.drop pfx.length ≠ [])
    (hN : NormalName (stripName pfx e)) (k : Nat) (hk : 0 < k) (hkl : k ≤ (elemsOf pfx e).length) :
    (J ((elemsOf pfx e).take k), if k = (elemsOf pfx e).length then isDirEntry pfx e else true) ∈ regsOf pfx e := by
  unfold regsOf
  rw [if_neg hne]
  have := mem_regChain_prefix ((stripName pfx e).length + 1) (elemsOf pfx e) (isDirEntry pfx e)
    (canon_normalName hN) (splitOn_length_le 47 _) k hk hkl
  rw [J_splitOn] at this
  exact this

def NoClash (E : Env) (pfx : Bytes) (e1 e2 : Entry) : Prop :=
  e1.name.drop pfx.length ≠ [] → e2.name.drop pfx.length ≠ [] →
  ∀ k1 k2, 0 < k1 → k1 ≤ (elemsOf pfx e1).length → 0 < k2 → k2 ≤ (elemsOf pfx e2).length →
    E.toFold (J ((elemsOf pfx e1).take k1)) = E.toFold (J ((elemsOf pfx e2).take k2)) →
    J ((elemsOf pfx e1).take k1) = J ((elemsOf pfx e2).take k2) ∧
    (k1 = (elemsOf pfx e1).length → isDirEntry pfx e1 = true) ∧
    (k2 = (elemsOf pfx e2).length → isDirEntry pfx e2 = true)

theorem noClash_of_run {E : Env} (hE : CfpSound E.cfp) {pfx : Bytes} {s' : ZSt} {es : List Entry}
    (h : Run E pfx {} es s') : es.Pairwise (NoClash E pfx) := by
  have hpw := (List.pairwise_flatMap.mp (run_noCollision h)).2
  have hok := (run_facts h).1
  refine List.Pairwise.imp_of_mem ?_ hpw
  intro e1 e2 h1 h2 hR hne1 hne2 k1 k2 hk1 hk1' hk2 hk2' hfold
  have hN1 := normalName_of_cfpSound hE ((hok e1 h1).cfp hne1)
  have hN2 := normalName_of_cfpSound hE ((hok e2 h2).cfp hne2)
  have m1 := mem_regsOf_prefix hne1 hN1 k1 hk1 hk1'
  have m2 := mem_regsOf_prefix hne2 hN2 k2 hk2 hk2'
  obtain ⟨a, b, c⟩ := hR _ m1 _ m2 hfold
  refine ⟨a, ?_, ?_⟩
  · intro e; simpa [e] using b
  · intro e; simpa [e] using c

theorem files_no_prefix {E : Env} (hE : CfpSound E.cfp) {pfx : Bytes} {s' : ZSt} {es : List Entry}
    (h : Run E pfx {} es s') :
    (fileEntries pfx es).Pairwise (fun f1 f2 =>
      ¬ splitOn 47 (f1.name.drop pfx.length) <+: splitOn 47 (f2.name.drop pfx.length) ∧
      ¬ splitOn 47 (f2.name.drop pfx.length) <+: splitOn 47 (f1.name.drop pfx.length)) := by
  have hpw := (noClash_of_run hE h).sublist (List.filter_sublist (p := fun e => !skipEntry pfx e))
  refine List.Pairwise.imp_of_mem ?_ hpw
  intro f1 f2 h1 h2 hR
  have hs1 : skipEntry pfx f1 = false := by simpa [fileEntries] using (List.mem_filter.mp h1).2
  have hs2 : skipEntry pfx f2 = false := by simpa [fileEntries] using (List.mem_filter.mp h2).2
  obtain ⟨hne1, hd1, hst1⟩ := skipEntry_false hs1
  obtain ⟨hne2, hd2, hst2⟩ := skipEntry_false hs2
  have hR' := hR hne1 hne2
  simp only [elemsOf, isDirEntry, hst1, hst2, hd1, hd2] at hR'
  have hl1 : 0 < (splitOn 47 (f1.name.drop pfx.length)).length :=
    List.length_pos_iff.mpr (splitOn_ne_nil 47 _)
  have hl2 : 0 < (splitOn 47 (f2.name.drop pfx.length)).length :=
    List.length_pos_iff.mpr (splitOn_ne_nil 47 _)
  constructor
  · intro hp
    have ht := List.prefix_iff_eq_take.mp hp
    have := hR' _ _ hl1 (Nat.le_refl _) hl1 hp.length_le (by rw [List.take_length, ← ht])
    exact absurd (this.2.1 rfl) (by simp)
  · intro hp
    have ht := List.prefix_iff_eq_take.mp hp
    have := hR' _ _ hl2 hp.length_le hl2 (Nat.le_refl _) (by rw [List.take_length, ← ht])
    exact absurd (this.2.2 rfl) (by simp)

/-- Acceptance by `checkZip` implies every documented restriction. -/
theorem checkZip_ok_spec (E : Env) (mpath mvers : Bytes) (zs : Nat) (es : List Entry) (cf : CheckedFiles)
    (h : checkZip E mpath mvers zs es = .ok cf) (he : cf.err = none) :
    E.modOK mpath mvers = true ∧ zs ≤ MaxZipFile ∧
    (∀ e ∈ es, EntryOK E (zipPrefix mpath mvers) e) ∧
    cf.valid = (fileEntries (zipPrefix mpath mvers) es).map (·.name) ∧
    ((fileEntries (zipPrefix mpath mvers) es).map szOf).sum ≤ MaxZipFile ∧
    (es.flatMap (regsOf (zipPrefix mpath mvers))).Pairwise (Compatible E.toFold) ∧
    (CfpSound E.cfp → es.Pairwise (NoClash E (zipPrefix mpath mvers))) := by
  obtain ⟨h1, h2, h3, hrun⟩ := checkZip_ok E mpath mvers zs es cf h he
  obtain ⟨f1, f2, f3, f4⟩ := run_facts hrun
  refine ⟨h1, h2, f1, ?_, ?_, run_noCollision hrun, fun hE => noClash_of_run hE hrun⟩
  · rw [h3, f2]; rfl
  · have := f4 (by show (0 : Int) ≤ _; simp [MaxZipFile])
    rw [f3] at this
    simpa using this

end ModVerif.Proofs.ZipB
