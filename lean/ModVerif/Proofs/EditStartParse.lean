/-
  The start state of a parsed file, for ANY version fixer that never returns the empty version (`FixOK fix`; no fixer is
  `fixOK_none`): `parseToFile name data fix true = .ok f`, `WellFormedKeys f`, `NoBlockSuffix f.syn` ⊢ `Inv (load f)` and
  `StartOK f` (`parseToFile_ok_fix` = the statement loop, `addStmts_ok`, then `fixRetract`, `fixRetract_ok`); the same for
  `parseWork` (which has no `fixRetract`; the fixer only reaches the versions of `replace`).  The lemmas for a file parsed
  without a fixer are the instances at `none`.
  Syntax-layer facts used: line ids pairwise different (C20 `parse_ids_nodup`), the `inBlock` flags (`parse_flags`), one
  verb per block (strict mode rejects anything else); the fourth, no end-of-line comment on a `LineBlock`, is a
  hypothesis (`NoBlockSuffix`): it fails exactly for a one-line empty block `verb () // comment`.
-/
import ModVerif.Proofs.EditStartFix
import ModVerif.Proofs.EditMoreStartW
namespace ModVerif.Modfile.Edit.SFix
open ModVerif ModVerif.Modfile ModVerif.Modfile.Edit ModVerif.Proofs.ModfileC20 ModVerif.Proofs.EditMore

theorem parsedOK_of {f : File} (hs : SynOK f.syn.stmts) (hm : Match (entsAll f) (view f.syn.stmts)) : ParsedOK f :=
  ⟨hm, hs.nodup, hs.blockTok, hs.flags⟩

theorem addStmts_ok {fix : Option Fixer} (hfx : FixOK fix) {name data : Bytes} {fs : FileSyntax} (hp : parse name data = .ok fs)
    {st : AddState} {stmts : List Expr} (hA : addStmts fix true { file := { syn := fs } } fs.stmts = (st, stmts))
    (he : st.errsRev = []) :
    SynOK stmts ∧ Match (entsAll st.file) (view stmts) := by
  rw [addStmts_eq_walk] at hA
  obtain ⟨hm, hnd, hb, hf⟩ := walkStmts_parsed (addsOne_fileAdd hfx.ne) (fun st p => err_ne st p _) hp rfl hA he
  exact ⟨⟨hnd, hb, hf⟩, hm⟩

theorem fixRetract_ok (st : AddState) (fix : Option Fixer) (hs : SynOK st.file.syn.stmts)
    (hm : Match (entsAll st.file) (view st.file.syn.stmts)) (he : (fixRetract st fix).errsRev = []) :
    ParsedOK (fixRetract st fix).file := by
  unfold fixRetract at he ⊢
  cases fix with
  | none => exact parsedOK_of hs hm
  | some fx =>
    simp only at he ⊢
    cases hr : st.file.retract with
    | nil => exact parsedOK_of hs hm
    | cons r rs =>
      simp only [hr] at he ⊢
      have key : ∀ path : Bytes, (fixRetractLoop path fx (r :: rs) st.file.syn st.errsRev).2.2 = [] →
          ParsedOK { st.file with retract := (fixRetractLoop path fx (r :: rs) st.file.syn st.errsRev).1,
                                  syn := (fixRetractLoop path fx (r :: rs) st.file.syn st.errsRev).2.1 } := by
        intro path he
        rw [← hr] at he ⊢
        have hm' : Match ((st.file.module.toList.map entM ++ st.file.go.toList.map entGo ++ st.file.toolchain.toList.map entTc ++
              st.file.godebug.map entG ++ st.file.require.map entRq ++ st.file.exclude.map entX ++ st.file.replace.map entRp) ++
              ((([] : List Retract) ++ st.file.retract).map entRt ++ st.file.tool.map entT)) (view st.file.syn.stmts) := by
          simpa [entsAll, segs, List.append_assoc] using hm
        obtain ⟨h1, h2⟩ := fixRetractLoop_match fx path _ _ st.file.retract [] st.file.syn st.errsRev hs hm' he
        refine parsedOK_of h1 ?_
        simpa [entsAll, segs, List.append_assoc] using h2
      cases hmod : st.file.module with
      | none =>
        simp only [hmod, List.isEmpty_nil, if_true] at he
        exact absurd he (err_ne _ _ _)
      | some m =>
        simp only [hmod] at he ⊢
        split at he
        · exact absurd he (err_ne _ _ _)
        · rename_i hpe
          rw [if_neg hpe]
          have := key m.mod.path he
          simp only [hmod] at this
          exact this

theorem parseToFile_strict_ok {fix : Option Fixer} {name data : Bytes} {f : File} (h : parseToFile name data fix true = .ok f) :
    ∃ fs st stmts, parse name data = .ok fs ∧ addStmts fix true { file := { syn := fs } } fs.stmts = (st, stmts) ∧
      st.errsRev = [] ∧
      (fixRetract { st with file := { st.file with syn := { fs with stmts := stmts } } } fix).errsRev = [] ∧
      f = (fixRetract { st with file := { st.file with syn := { fs with stmts := stmts } } } fix).file := by
  unfold parseToFile at h
  cases hp : parse name data with
  | error e => simp [hp] at h
  | ok fs =>
    simp only [hp] at h
    cases hA : addStmts fix true { file := { syn := fs } } fs.stmts with
    | mk st stmts =>
      simp only [hA] at h
      split at h
      · rename_i he
        simp only [Except.ok.injEq] at h
        have he' : (fixRetract { st with file := { st.file with syn := { fs with stmts := stmts } } } fix).errsRev = [] := by
          simpa using he
        obtain ⟨add, hadd⟩ := fixRetract_mono { st with file := { st.file with syn := { fs with stmts := stmts } } } fix
        rw [he'] at hadd
        exact ⟨fs, st, stmts, rfl, hA, (List.append_eq_nil_iff.1 hadd.symm).2, he', h.symm⟩
      · cases h

theorem parseToFile_ok_fix {fix : Option Fixer} (hfx : FixOK fix) {name data : Bytes} {f : File}
    (h : parseToFile name data fix true = .ok f) : ParsedOK f := by
  obtain ⟨fs, st, stmts, hp, hA, he0, he', rfl⟩ := parseToFile_strict_ok h
  obtain ⟨hs, hm⟩ := addStmts_ok hfx hp hA he0
  exact fixRetract_ok _ fix hs hm he'

/-- the start state, any fixer that never answers empty (Props/C15 `parseStrict_inv_fix`) -/
theorem parseStrict_inv_fix {fix : Option Fixer} (hfx : FixOK fix) {name data : Bytes} {f : File}
    (h : parseToFile name data fix true = .ok f) (hk : WellFormedKeys f) (hs : NoBlockSuffix f.syn) : Inv (load f) :=
  (parseToFile_ok_fix hfx h).inv_load hk hs

theorem parseStrict_startOK_fix {fix : Option Fixer} (hfx : FixOK fix) {name data : Bytes} {f : File}
    (h : parseToFile name data fix true = .ok f) (hk : WellFormedKeys f) : StartOK f :=
  (parseToFile_ok_fix hfx h).startOK hk

/-- … go.work (Props/C15 `parseWork_inv_fix`) -/
theorem parseWork_invW_fix {fix : Option Fixer} (hfx : FixOK fix) {name data : Bytes} {f : WorkFile}
    (h : parseWork name data fix = .ok f) (hk : WorkKeys f) (hs : NoBlockSuffix f.syn) : InvW (loadWork f) :=
  (parseWork_ok_of hfx.ne h).invW_load hk hs

theorem parseWork_startOK_fix {fix : Option Fixer} (hfx : FixOK fix) {name data : Bytes} {f : WorkFile}
    (h : parseWork name data fix = .ok f) (hk : WorkKeys f) : WorkStartOK f :=
  (parseWork_ok_of hfx.ne h).startOK hk

end ModVerif.Modfile.Edit.SFix

namespace ModVerif.Modfile.Edit
open ModVerif ModVerif.Modfile

theorem parseToFile_ok {name data : Bytes} {f : File} (h : parseToFile name data none true = .ok f) : ParsedOK f :=
  SFix.parseToFile_ok_fix SFix.fixOK_none h

/-- Props/C15 `parseStrict_inv` -/
theorem parseStrict_inv {name data : Bytes} {f : File} (h : parseToFile name data none true = .ok f)
    (hk : WellFormedKeys f) (hs : NoBlockSuffix f.syn) : Inv (load f) :=
  SFix.parseStrict_inv_fix SFix.fixOK_none h hk hs

/-- `StartOK` is `WellFormedKeys` for a strictly parsed file -/
theorem parseStrict_startOK {name data : Bytes} {f : File} (h : parseToFile name data none true = .ok f)
    (hk : WellFormedKeys f) : StartOK f :=
  SFix.parseStrict_startOK_fix SFix.fixOK_none h hk

end ModVerif.Modfile.Edit
