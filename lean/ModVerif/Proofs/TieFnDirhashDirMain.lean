/-
  Tie proof, sumdb/dirhash `DirFiles` / `HashDir`: the pieces put together.  The leaves of the trie of a well-formed list are
  the element lists of its paths, so the walk with the closure of `DirFiles` yields the model's `dirFiles` list
  (`walk_DirFiles`); the regenerated `DirFiles` on the three kinds of root (missing, file, directory); the regenerated `Hash1`
  looks at `open` only on the listed names; the `hash` argument of `HashDir` as the driver instantiates it (`genHash`: the
  regenerated `Hash1`), and the file `HashDir` opens for a listed name.
-/
import ModVerif.Proofs.TieFnDirhashDirWalk
import ModVerif.Tie.FnDirhash
namespace ModVerif.TieFnDirhashDir
open ModVerif ModVerif.GoRt ModVerif.ZipSpec ModVerif.Proofs.ZipB
open ModVerif.TieFnZipDir (render_append render_false_nil_append)
open ModVerif.Generated.Dirhash (FileInfo)
open ModVerif.Drv.GenDirhash (toFs toFsList treeOf)

theorem flat_mem {files : List (Bytes × Bytes)} (h : WF files) {q : List Bytes} (hq : q ∈ flatList (trieOf files)) :
    ∃ f ∈ files, q = splitOn 47 f.1 := by
  obtain ⟨f, hf, rfl⟩ := List.mem_map.1 ((trieOf_spec h).2.subset hq)
  exact ⟨f, hf, rfl⟩

theorem normalName_of_WF {files : List (Bytes × Bytes)} (h : WF files) {f : Bytes × Bytes} (hf : f ∈ files) :
    NormalName f.1 := normal_of_cleanRelB (h.1 f hf)

theorem fpJoin_flat {files : List (Bytes × Bytes)} (h : WF files) (P : Bytes) {q : List Bytes}
    (hq : q ∈ flatList (trieOf files)) :
    fpJoin P (J q) = render (PathClean.isRooted P) (PathClean.comps P ++ q) := by
  obtain ⟨f, hf, rfl⟩ := flat_mem h hq
  have e : fpJoin P (J (splitOn 47 f.1)) = Zip.fpJoin P f.1 := by rw [J_splitOn]; rfl
  rw [e, fpJoin_eq_render P (normalName_of_WF h hf)]

def collectFiles : WalkFn := fun p info _ st => pure (none, if info.IsDir then st else st ++ [p])

theorem fpJoin_clean {d rel : Bytes} (hc : PathClean.pathClean d = d) (h1 : d ≠ [47]) (h2 : d ≠ [46])
    (hn : NormalName rel) : fpJoin d rel = d ++ [47] ++ rel := by
  have e : fpJoin d rel = Zip.fpJoin d rel := rfl
  have hb : PathClean.comps d ≠ [] := by
    intro hb
    have := pathClean_eq_render d
    rw [hb, hc] at this
    cases hr : PathClean.isRooted d with
    | true => rw [hr] at this; exact h1 this
    | false => rw [hr] at this; exact h2 this
  rw [e, fpJoin_eq_render d hn, render_append _ hb (splitOn_ne_nil 47 rel), ← pathClean_eq_render, hc, J_splitOn]
  simp

open ModVerif.Generated.Dirhash in
theorem walk_DirFiles (walkRoot : Bytes → Option (FsTree FileInfo)) (fuel' : Nat) {files : List (Bytes × Bytes)}
    (h : WF files) (d pfx : Bytes) (hd : pathClean d ≠ [47]) (fuel : Nat) (hf : walkFuel files < fuel) :
    walkChildren (fun wp wi we fs => DirFiles_walkFn1 walkRoot fuel' (pathClean d) pfx wp wi we fs) fuel (pathClean d)
        (toFsList (trieOf files)) [] =
      .ok (none, (Dirhash.walkOrder (files.map (·.1))).map (fun rel => Dirhash.joinPath pfx rel)) := by
  have hsz : szList (trieOf files) < fuel := Nat.lt_of_le_of_lt (szList_trieOf files) hf
  have hpc : pathClean d = render (PathClean.isRooted d) (PathClean.comps d) := pathClean_eq_render d
  have hroot : ¬ (PathClean.isRooted d = true ∧ PathClean.comps d = []) := by
    rintro ⟨h1, h2⟩
    rw [hpc, h1, h2] at hd
    exact hd rfl
  have := walkChildren_spec
    (fun wp wi we fs => DirFiles_walkFn1 walkRoot fuel' (pathClean d) pfx wp wi we fs)
    (PathClean.isRooted d) (PathClean.comps d) (fun q => fpJoin pfx (J q))
    (fun p st => walkFn1_dir walkRoot fuel' _ pfx p st)
    (fun q st hq hn => by
      rw [hpc]
      exact walkFn1_file walkRoot fuel' pfx _ _ (canon_comps d) hroot q st hq hn)
    fuel (pathClean d) [] (trieOf files) []
    (isRooted_pathClean d) (by rw [List.append_nil]; exact comps_pathClean d) (by simp) (trieOf_spec h).1 hsz
  rw [this, walkOrder_eq_flat h, List.map_map]
  simp only [List.nil_append]
  congr 2
  apply List.map_congr_left
  intro q hq
  obtain ⟨f, hf', rfl⟩ := flat_mem h hq
  have hne : J (splitOn 47 f.1) ≠ [] := by
    rw [J_splitOn]; exact normalName_ne_nil (normalName_of_WF h hf')
  exact (joinPath_eq_fpJoin pfx _ (Or.inr hne)).symm

open ModVerif.Generated.Dirhash in
theorem DirFiles_missing (walkRoot : Bytes → Option (FsTree FileInfo)) (fuel : Nat) (d pfx : Bytes)
    (hw : walkRoot (pathClean d) = none) :
    DirFiles walkRoot fuel d pfx = .ok ([], some "lstat: no such file or directory") := by
  unfold DirFiles
  simp only [hw, walkTreeOpt, walkFn1_err, bind, Except.bind, pure, Except.pure]
  rfl

open ModVerif.Generated.Dirhash in
theorem DirFiles_file (walkRoot : Bytes → Option (FsTree FileInfo)) (fuel : Nat) (d pfx : Bytes)
    (hw : walkRoot (pathClean d) = some (.file { IsDir := false })) (hf : 1 ≤ fuel) :
    DirFiles walkRoot fuel d pfx = .ok ([], some "%s is not a directory") := by
  obtain ⟨f, rfl⟩ : ∃ f, fuel = f + 1 := ⟨fuel - 1, by omega⟩
  unfold DirFiles
  simp only [hw, walkTreeOpt, walkTree, walkNode, walkFn1_rootFile, bind, Except.bind, pure, Except.pure]
  rfl

open ModVerif.Generated.Dirhash in
theorem DirFiles_dir (walkRoot : Bytes → Option (FsTree FileInfo)) (fuel : Nat) (d pfx : Bytes)
    {files : List (Bytes × Bytes)} (h : WF files) (hd : pathClean d ≠ [47])
    (hw : walkRoot (pathClean d) = some (.dir { IsDir := true } (toFsList (trieOf files))))
    (hf : walkFuel files + 2 ≤ fuel) :
    DirFiles walkRoot fuel d pfx =
      .ok ((Dirhash.walkOrder (files.map (·.1))).map (fun rel => Dirhash.joinPath pfx rel), none) := by
  obtain ⟨f, rfl⟩ : ∃ f, fuel = f + 1 := ⟨fuel - 1, by omega⟩
  have hwalk := walk_DirFiles walkRoot (f + 1) h d pfx hd f (by omega)
  unfold DirFiles
  simp only [hw, walkTreeOpt, walkTree, walkNode, walkFn1_dir, bind, Except.bind, pure, Except.pure,
    Option.isSome_none, Bool.false_eq_true, if_false, hwalk]
  rfl

theorem firstErr_congr (o₁ o₂ : Bytes → Bytes × Option String) : ∀ l : List Bytes, (∀ n ∈ l, o₁ n = o₂ n) →
    TieFnDirhash.firstErr o₁ l = TieFnDirhash.firstErr o₂ l
  | [], _ => rfl
  | file :: rest, h => by
    simp only [TieFnDirhash.firstErr, h file (by simp),
      firstErr_congr o₁ o₂ rest (fun n hn => h n (List.mem_cons_of_mem _ hn))]

theorem Hash1_congr (sha : Bytes → Bytes) (files : List Bytes) (o₁ o₂ : Bytes → Bytes × Option String) (fuel : Nat)
    (hf : files.length + 1 ≤ fuel) (h : ∀ n ∈ files, o₁ n = o₂ n) :
    Generated.Dirhash.Hash1 Base64.encodeStd (fun acc pre => pre ++ sha acc) fuel files o₁ =
      Generated.Dirhash.Hash1 Base64.encodeStd (fun acc pre => pre ++ sha acc) fuel files o₂ := by
  rw [Tie.FnDirhash.Hash1_tie_anyOpen sha files o₁ fuel hf, Tie.FnDirhash.Hash1_tie_anyOpen sha files o₂ fuel hf]
  have h1 : Dirhash.hash1 sha files (TieFnDirhash.openFOf o₁) = Dirhash.hash1 sha files (TieFnDirhash.openFOf o₂) :=
    TieFnDirhash.hash1_congr sha files _ _ (fun n hn => by simp [TieFnDirhash.openFOf, h n hn])
  have h2 := firstErr_congr o₁ o₂ (Dirhash.sortStrings files)
    (fun n hn => h n ((Dirhash.sortStrings_perm files).subset hn))
  rw [h1, h2]

/-- `dirFiles` reports `walk` / `notDir` only, so the text of a failing `open` does not matter -/
def embedFiles : Except Dirhash.Err (List Bytes) → List Bytes × Option String
  | .ok l => (l, none)
  | .error er => ([], embedErr "" er)

/-- the `hash` argument of `HashDir` as the driver passes it: the regenerated `Hash1` (over an abstract SHA-256) with
    enough fuel; a run-time error of the regenerated code would surface as a "panic:" text -/
def genHash (sha : Bytes → Bytes) : List Bytes → (Bytes → Bytes × Option String) → Bytes × Option String :=
  fun fl op =>
    match Generated.Dirhash.Hash1 Base64.encodeStd (fun acc pre => pre ++ sha acc) (fl.length + 4) fl op with
    | .ok r => r
    | .error e => ([], some ("panic:" ++ e.toString))

theorem genHash_eq (sha : Bytes → Bytes) (names : List Bytes) (openF : Bytes → Option Bytes) (e : String)
    (op : Bytes → Bytes × Option String) (h : ∀ n ∈ names, op n = TieFnDirhash.openOf openF e n) :
    genHash sha names op = embedHash e (Dirhash.hash1 sha names openF) := by
  unfold genHash
  rw [Hash1_congr sha names op (TieFnDirhash.openOf openF e) _ (by omega) h,
    Tie.FnDirhash.Hash1_tie_openOf sha names openF e _ (by omega)]

theorem fpJoin_slash {d rel : Bytes} (hd : d ≠ []) (hn : NormalName rel) : fpJoin d (47 :: rel) = fpJoin d rel := by
  have e : fpJoin d rel = Zip.fpJoin d rel := rfl
  rw [e, fpJoin_eq_render d hn]
  unfold fpJoin pathClean
  have hd' : (d == []) = false := by simpa using hd
  simp only [hd', Bool.false_eq_true, if_false]
  have hne : ((47 :: rel : Bytes) == []) = false := by simp
  simp only [hne, Bool.false_eq_true, if_false]
  rw [pathClean_eq_render]
  have hr : PathClean.isRooted (d ++ [47] ++ 47 :: rel) = PathClean.isRooted d := by
    rw [List.append_assoc]; exact isRooted_append_ne_nil _ _ hd
  rw [hr]
  congr 1
  unfold PathClean.comps
  rw [hr]
  have hs : d ++ [47] ++ 47 :: rel = d ++ 47 :: (47 :: rel) := by simp
  rw [hs, splitOn_append_sep, splitOn_cons_sep]
  have : splitOn 47 d ++ [] :: splitOn 47 rel = (splitOn 47 d ++ [[]]) ++ splitOn 47 rel := by simp
  rw [this, cleanComps_append_normal _ _ _ hn, cleanComps_append_empty]

theorem opened_path {d pfx rel : Bytes} (hd : d ≠ []) (hp : Dirhash.CleanRel pfx) (hr : Dirhash.CleanRel rel)
    (hn : NormalName rel) :
    fpJoin d (Dirhash.trimPrefix (Dirhash.joinPath pfx rel) pfx) = fpJoin d rel := by
  rw [Dirhash.joinPath_cleanRel hp hr, Dirhash.trimPrefix_append]
  exact fpJoin_slash hd hn

end ModVerif.TieFnDirhashDir
