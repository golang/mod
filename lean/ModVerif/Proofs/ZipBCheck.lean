/-
  What an accepting run of `checkZip` establishes.

  `zipStep_good`: a step that leaves the report without error was one of three accepting shapes
  (`StepOK`); `run_of_good`: an accepting fold is a chain of accepting steps (`Run`); from a `Run`:
  per-entry facts (`EntryOK`), the valid list, the running total, and that everything registered is
  pairwise compatible (`Zip.Tab` along the run).
-/
import ModVerif.Spec.ZipSpec
import ModVerif.Proofs.ZipAChain
namespace ModVerif.Proofs.ZipB
open ModVerif ModVerif.PathClean ModVerif.Zip ModVerif.ZipSpec ModVerif.Proofs.Zip

def Good (s : ZSt) : Prop := s.cf.invalid = [] ∧ s.cf.sizeError = false

theorem good_iff_err (s : ZSt) : Good s ↔ s.cf.err = none := by
  unfold Good CheckedFiles.err
  constructor
  · rintro ⟨h1, h2⟩; simp [h1, h2]
  · intro h
    cases hs : s.cf.sizeError with
    | true => simp [hs] at h
    | false =>
      simp [hs] at h
      exact ⟨h, rfl⟩

theorem not_good_addError (s : ZSt) (n : Bytes) (r : Reason) : ¬ Good (s.addError n r) := by
  intro h; have := h.1; simp [ZSt.addError] at this

/-- `int64(UncompressedSize64)` of the entry -/
abbrev szOf (zf : Entry) : Int := int64OfU64 zf.declSize

/-- what `checkZip` establishes about a file entry with path `rel` below the prefix when the running
    total is `size`. -/
structure FileOK (zf : Entry) (rel : Bytes) (size : Int) : Prop where
  goMod : equalFoldGoMod (pathBase rel) = true → rel = goModName
  nonneg : 0 ≤ szOf zf
  total : size + szOf zf ≤ MaxZipFile
  goModSize : rel = goModName → szOf zf ≤ MaxGoMod
  licenseSize : rel = licenseName → szOf zf ≤ MaxLICENSE

/-- the three accepting shapes of one step -/
inductive StepOK (E : Env) (pfx : Bytes) (s : ZSt) (zf : Entry) : ZSt → Prop
  | root (hp : isPrefixOfB pfx zf.name = true) (h : zf.name.drop pfx.length = []) : StepOK E pfx s zf s
  | dir (cc' : CC) (hp : isPrefixOfB pfx zf.name = true) (hne : zf.name.drop pfx.length ≠ [])
      (hs : hasSlashSuffix (zf.name.drop pfx.length) = true)
      (hclean : pathClean (zf.name.drop pfx.length).dropLast = (zf.name.drop pfx.length).dropLast)
      (hcfp : E.cfp (zf.name.drop pfx.length).dropLast = true)
      (hcc : ccCheckTop E.toFold s.cc (zf.name.drop pfx.length).dropLast true = (cc', none)) :
      StepOK E pfx s zf (s.setCC cc')
  | file (cc' : CC) (hp : isPrefixOfB pfx zf.name = true) (hne : zf.name.drop pfx.length ≠ [])
      (hs : hasSlashSuffix (zf.name.drop pfx.length) = false)
      (hclean : pathClean (zf.name.drop pfx.length) = zf.name.drop pfx.length)
      (hcfp : E.cfp (zf.name.drop pfx.length) = true)
      (hcc : ccCheckTop E.toFold s.cc (zf.name.drop pfx.length) false = (cc', none))
      (hf : FileOK zf (zf.name.drop pfx.length) s.size) :
      StepOK E pfx s zf ⟨{ s.cf with valid := s.cf.valid ++ [zf.name] }, cc', s.size + szOf zf⟩

theorem good_setCC (s : ZSt) (cc : CC) : Good (s.setCC cc) ↔ Good s := Iff.rfl

theorem zipSized_good (s : ZSt) (zf : Entry) (rel : Bytes) (h : Good (zipSized s zf rel)) :
    Good s ∧ FileOK zf rel s.size ∧
      zipSized s zf rel = ⟨{ s.cf with valid := s.cf.valid ++ [zf.name] }, s.cc, s.size + szOf zf⟩ := by
  unfold zipSized at h ⊢
  by_cases h1 : (equalFoldGoMod (pathBase rel) && pathBase rel != rel) = true
  · rw [if_pos h1] at h; exact absurd h (not_good_addError _ _ _)
  rw [if_neg h1] at h ⊢
  by_cases h2 : (equalFoldGoMod (pathBase rel) && rel != goModName) = true
  · rw [if_pos h2] at h; exact absurd h (not_good_addError _ _ _)
  rw [if_neg h2] at h ⊢
  by_cases h3 : (rel == goModName && int64OfU64 zf.declSize > MaxGoMod) = true
  · rw [if_pos h3] at h; exact absurd h (not_good_addError _ _ _)
  rw [if_neg h3] at h ⊢
  by_cases h4 : (rel == licenseName && int64OfU64 zf.declSize > MaxLICENSE) = true
  · rw [if_pos h4] at h; exact absurd h (not_good_addError _ _ _)
  rw [if_neg h4] at h ⊢
  unfold ZSt.account at h ⊢
  by_cases h5 : 0 ≤ int64OfU64 zf.declSize ∧ (MaxZipFile : Int) - s.size ≥ int64OfU64 zf.declSize
  · rw [if_pos h5] at h ⊢
    refine ⟨h, ⟨?_, h5.1, ?_, ?_, ?_⟩, rfl⟩
    · intro hg
      simp only [hg, Bool.true_and, bne_iff_ne, ne_eq, Classical.not_not] at h2
      exact h2
    · have := h5.2; show s.size + int64OfU64 zf.declSize ≤ _; omega
    · intro hr
      have : (rel == goModName) = true := by simpa using hr
      simp only [this, Bool.true_and, decide_eq_true_eq] at h3
      show int64OfU64 zf.declSize ≤ _; omega
    · intro hr
      have : (rel == licenseName) = true := by simpa using hr
      simp only [this, Bool.true_and, decide_eq_true_eq] at h4
      show int64OfU64 zf.declSize ≤ _; omega
  · rw [if_neg h5] at h
    have := h.2
    simp [ZSt.pushValid] at this

theorem zipStep_good (E : Env) (pfx : Bytes) (s : ZSt) (zf : Entry) (h : Good (zipStep E pfx s zf)) :
    Good s ∧ StepOK E pfx s zf (zipStep E pfx s zf) := by
  unfold zipStep at h ⊢
  by_cases h1 : (!isPrefixOfB pfx zf.name) = true
  · rw [if_pos h1] at h; exact absurd h (not_good_addError _ _ _)
  rw [if_neg h1] at h ⊢
  have hp : isPrefixOfB pfx zf.name = true := by simpa using h1
  by_cases h2 : zf.name.drop pfx.length = []
  · have h2' : (zf.name.drop pfx.length == []) = true := by simpa using h2
    rw [if_pos h2'] at h ⊢
    exact ⟨h, .root hp h2⟩
  have h2' : ¬ (zf.name.drop pfx.length == []) = true := by simpa using h2
  rw [if_neg h2'] at h ⊢
  by_cases h3 : hasSlashSuffix (zf.name.drop pfx.length) = true
  · rw [if_pos h3] at h ⊢
    unfold zipNamed at h ⊢
    by_cases h4 : (pathClean (zf.name.drop pfx.length).dropLast != (zf.name.drop pfx.length).dropLast) = true
    · rw [if_pos h4] at h; exact absurd h (not_good_addError _ _ _)
    rw [if_neg h4] at h ⊢
    by_cases h5 : (!E.cfp (zf.name.drop pfx.length).dropLast) = true
    · rw [if_pos h5] at h; exact absurd h (not_good_addError _ _ _)
    rw [if_neg h5] at h ⊢
    rcases hc : ccCheckTop E.toFold s.cc (zf.name.drop pfx.length).dropLast true with ⟨cc', err⟩
    rw [hc] at h
    cases err with
    | some e => exact absurd h (not_good_addError _ _ _)
    | none =>
      simp only [if_true] at h ⊢
      exact ⟨h, .dir cc' hp h2 h3 (by simpa using h4) (by simpa using h5) hc⟩
  · rw [if_neg h3] at h ⊢
    unfold zipNamed at h ⊢
    by_cases h4 : (pathClean (zf.name.drop pfx.length) != zf.name.drop pfx.length) = true
    · rw [if_pos h4] at h; exact absurd h (not_good_addError _ _ _)
    rw [if_neg h4] at h ⊢
    by_cases h5 : (!E.cfp (zf.name.drop pfx.length)) = true
    · rw [if_pos h5] at h; exact absurd h (not_good_addError _ _ _)
    rw [if_neg h5] at h ⊢
    rcases hc : ccCheckTop E.toFold s.cc (zf.name.drop pfx.length) false with ⟨cc', err⟩
    rw [hc] at h
    cases err with
    | some e => exact absurd h (not_good_addError _ _ _)
    | none =>
      simp only [Bool.false_eq_true, if_false] at h ⊢
      obtain ⟨hg, hf, heq⟩ := zipSized_good _ _ _ h
      rw [heq]
      exact ⟨hg, .file cc' hp h2 (by simpa using h3) (by simpa using h4) (by simpa using h5) hc hf⟩

inductive Run (E : Env) (pfx : Bytes) : ZSt → List Entry → ZSt → Prop
  | nil (s : ZSt) : Run E pfx s [] s
  | cons {s s1 s2 : ZSt} {zf : Entry} {es : List Entry} (h : StepOK E pfx s zf s1) (t : Run E pfx s1 es s2) :
      Run E pfx s (zf :: es) s2

theorem run_of_good (E : Env) (pfx : Bytes) : ∀ (es : List Entry) (s : ZSt),
    Good (es.foldl (zipStep E pfx) s) → Good s ∧ Run E pfx s es (es.foldl (zipStep E pfx) s)
  | [], s, h => ⟨h, .nil s⟩
  | zf :: es, s, h => by
    obtain ⟨h1, hr⟩ := run_of_good E pfx es (zipStep E pfx s zf) h
    obtain ⟨h0, hs⟩ := zipStep_good E pfx s zf h1
    exact ⟨h0, .cons hs hr⟩

theorem checkZip_ok (E : Env) (mpath mvers : Bytes) (zs : Nat) (es : List Entry) (cf : CheckedFiles)
    (h : checkZip E mpath mvers zs es = .ok cf) (he : cf.err = none) :
    E.modOK mpath mvers = true ∧ zs ≤ MaxZipFile ∧
    cf = (es.foldl (zipStep E (zipPrefix mpath mvers)) {}).cf ∧
    Run E (zipPrefix mpath mvers) {} es (es.foldl (zipStep E (zipPrefix mpath mvers)) {}) := by
  unfold checkZip at h
  by_cases h1 : (!E.modOK mpath mvers) = true
  · rw [if_pos h1] at h; cases h
  rw [if_neg h1] at h
  by_cases h2 : zs > MaxZipFile
  · rw [if_pos h2] at h
    injection h with h
    subst h
    simp [CheckedFiles.err] at he
  rw [if_neg h2] at h
  injection h with h
  subst h
  have hg := (good_iff_err _).mpr he
  exact ⟨by simpa using h1, by omega, rfl, (run_of_good _ _ es {} hg).2⟩

def stripName (pfx : Bytes) (e : Entry) : Bytes :=
  if hasSlashSuffix (e.name.drop pfx.length) then (e.name.drop pfx.length).dropLast else e.name.drop pfx.length

/-- per-entry facts that do not depend on the state -/
structure EntryOK (E : Env) (pfx : Bytes) (e : Entry) : Prop where
  hasPrefix : isPrefixOfB pfx e.name = true
  clean : e.name.drop pfx.length ≠ [] → pathClean (stripName pfx e) = stripName pfx e
  cfp : e.name.drop pfx.length ≠ [] → E.cfp (stripName pfx e) = true
  goMod : skipEntry pfx e = false → equalFoldGoMod (pathBase (e.name.drop pfx.length)) = true →
    e.name.drop pfx.length = goModName
  nonneg : skipEntry pfx e = false → 0 ≤ szOf e
  goModSize : skipEntry pfx e = false → e.name.drop pfx.length = goModName → szOf e ≤ MaxGoMod
  licenseSize : skipEntry pfx e = false → e.name.drop pfx.length = licenseName → szOf e ≤ MaxLICENSE

theorem stepOK_entryOK {E : Env} {pfx : Bytes} {s s' : ZSt} {zf : Entry} (h : StepOK E pfx s zf s') :
    EntryOK E pfx zf := by
  cases h with
  | root hp h0 =>
    have hsk : skipEntry pfx zf = true := by simp [skipEntry, h0]
    have hno : ∀ {P : Prop}, skipEntry pfx zf = false → P := fun h => by rw [hsk] at h; cases h
    exact ⟨hp, fun h => absurd h0 h, fun h => absurd h0 h, hno, hno, hno, hno⟩
  | dir cc' hp hne hs hclean hcfp hcc =>
    have hsk : skipEntry pfx zf = true := by simp [skipEntry, hs]
    have hst : stripName pfx zf = (zf.name.drop pfx.length).dropLast := by simp [stripName, hs]
    have hno : ∀ {P : Prop}, skipEntry pfx zf = false → P := fun h => by rw [hsk] at h; cases h
    exact ⟨hp, fun _ => hst ▸ hclean, fun _ => hst ▸ hcfp, hno, hno, hno, hno⟩
  | file cc' hp hne hs hclean hcfp hcc hf =>
    have hst : stripName pfx zf = zf.name.drop pfx.length := by simp [stripName, hs]
    exact ⟨hp, fun _ => hst ▸ hclean, fun _ => hst ▸ hcfp,
      fun _ => hf.goMod, fun _ => hf.nonneg, fun _ => hf.goModSize, fun _ => hf.licenseSize⟩

/-- the file entries: those `Unzip` extracts -/
def fileEntries (pfx : Bytes) (es : List Entry) : List Entry := es.filter (fun e => !skipEntry pfx e)

theorem stepOK_valid_size {E : Env} {pfx : Bytes} {s s' : ZSt} {zf : Entry} (h : StepOK E pfx s zf s') :
    s'.cf.valid = s.cf.valid ++ (fileEntries pfx [zf]).map (·.name) ∧
    s'.size = s.size + ((fileEntries pfx [zf]).map szOf).sum ∧
    (s.size ≤ MaxZipFile → s'.size ≤ MaxZipFile) := by
  cases h with
  | root hp h0 =>
    have hsk : skipEntry pfx zf = true := by simp [skipEntry, h0]
    simp [fileEntries, hsk]
  | dir cc' hp hne hs hclean hcfp hcc =>
    have hsk : skipEntry pfx zf = true := by simp [skipEntry, hs]
    simp [fileEntries, hsk, ZSt.setCC]
  | file cc' hp hne hs hclean hcfp hcc hf =>
    have hne' : (zf.name.drop pfx.length == []) = false := by simpa using hne
    have hsk : skipEntry pfx zf = false := by simp only [skipEntry, hs, hne']; rfl
    refine ⟨?_, ?_, fun _ => hf.total⟩ <;> simp [fileEntries, hsk]

theorem fileEntries_cons (pfx : Bytes) (zf : Entry) (es : List Entry) :
    fileEntries pfx (zf :: es) = fileEntries pfx [zf] ++ fileEntries pfx es := by
  unfold fileEntries
  rw [show zf :: es = [zf] ++ es from rfl, List.filter_append]

theorem run_facts {E : Env} {pfx : Bytes} {s s' : ZSt} {es : List Entry} (h : Run E pfx s es s') :
    (∀ e ∈ es, EntryOK E pfx e) ∧
    s'.cf.valid = s.cf.valid ++ (fileEntries pfx es).map (·.name) ∧
    s'.size = s.size + ((fileEntries pfx es).map szOf).sum ∧
    (s.size ≤ MaxZipFile → s'.size ≤ MaxZipFile) := by
  induction h with
  | nil s => simp [fileEntries]
  | cons hs ht ih =>
    rename_i s s1 s2 zf es
    obtain ⟨i1, i2, i3, i4⟩ := ih
    obtain ⟨j2, j3, j4⟩ := stepOK_valid_size hs
    refine ⟨?_, ?_, ?_, fun h => i4 (j4 h)⟩
    · intro e he
      rcases List.mem_cons.mp he with rfl | he
      · exact stepOK_entryOK hs
      · exact i1 e he
    · rw [i2, j2, fileEntries_cons pfx zf es]; simp
    · rw [i3, j3, fileEntries_cons pfx zf es]; simp [Int.add_assoc]

def regsOf (pfx : Bytes) (e : Entry) : List (Bytes × Bool) :=
  if e.name.drop pfx.length = [] then []
  else regChain ((stripName pfx e).length + 1) (stripName pfx e) (hasSlashSuffix (e.name.drop pfx.length))

theorem stepOK_tab {E : Env} {pfx : Bytes} {s s' : ZSt} {zf : Entry} {R : List (Bytes × Bool)}
    (h : StepOK E pfx s zf s') (hI : Tab E.toFold s.cc R) : Tab E.toFold s'.cc (R ++ regsOf pfx zf) := by
  have key : ∀ {p : Bytes} {d : Bool} {cc' : CC}, ccCheckTop E.toFold s.cc p d = (cc', none) →
      Tab E.toFold cc' (R ++ regChain (p.length + 1) p d) := fun {p d cc'} hcc => by
    have := (ccCheck_tab (p.length + 1) p d hI).2.1 (by rw [show ccCheck _ _ _ _ _ = _ from hcc])
    rwa [show ccCheck _ _ _ _ _ = _ from hcc] at this
  cases h with
  | root hp h0 => simp [regsOf, h0]; exact hI
  | dir cc' hp hne hs hclean hcfp hcc =>
    have hst : stripName pfx zf = (zf.name.drop pfx.length).dropLast := by simp [stripName, hs]
    simp only [regsOf, hne, if_false, hst, hs]
    exact key hcc
  | file cc' hp hne hs hclean hcfp hcc hf =>
    have hst : stripName pfx zf = zf.name.drop pfx.length := by simp [stripName, hs]
    simp only [regsOf, hne, if_false, hst, hs]
    exact key hcc

theorem run_tab {E : Env} {pfx : Bytes} {s s' : ZSt} {es : List Entry} (h : Run E pfx s es s') :
    ∀ {R : List (Bytes × Bool)}, Tab E.toFold s.cc R → Tab E.toFold s'.cc (R ++ es.flatMap (regsOf pfx)) := by
  induction h with
  | nil s => intro R hI; simpa using hI
  | cons hs ht ih =>
    intro R hI
    have := ih (stepOK_tab hs hI)
    simpa [List.flatMap_cons, List.append_assoc] using this

theorem run_noCollision {E : Env} {pfx : Bytes} {s' : ZSt} {es : List Entry} (h : Run E pfx {} es s') :
    (es.flatMap (regsOf pfx)).Pairwise (Compatible E.toFold) := by
  have := (run_tab h tab_nil).pw
  simpa using this

end ModVerif.Proofs.ZipB
