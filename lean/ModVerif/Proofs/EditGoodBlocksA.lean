/-
  "every `LineBlock` of the tree carries one of the block verbs `verbs`" (`GB verbs`; `GoodBlocks` for the strict go.mod
  parser's `blockVerbs`: no `go (` / `toolchain (` block, nor a block of an unknown verb; `W.GoodBlocks` for `ParseWork`'s
  `workBlockVerbs`) through every tree primitive of the edit model.

  The only primitive that makes a block out of a line with the LINE's verb is `addLine`'s hinted walk (`Grown.conv`,
  Proofs/EditAddLine): a live top-level line whose first token is the verb of the new line becomes `verb ( old; new )`.
  Precondition `Conv verbs verb stmts`: the verb is a block verb, or no live top-level line of the tree starts with it.  Every other primitive keeps the block
  tokens (`updateLine`, `markRemoved`, Cleanup — which only collapses blocks —, `dropKilled`, `sortStmts`,
  `appendToBlock`, `moveExisting`; `GB.of_blocks`) or makes a `require` block (`ensureBlock`, the empty block of
  SetRequireSeparateIndirect).  Pattern: `MarkersSettable` in Proofs/EditMarkerInv.lean.
-/
import ModVerif.Proofs.EditReparseE
import ModVerif.Proofs.EditAddLine
namespace ModVerif.Modfile.Edit
open ModVerif ModVerif.Modfile

section
variable (verbs : List String)

def BlockVerb : Expr → Prop
  | .lineBlock b => ∀ v, b.token = [v] → verbIn v verbs = true
  | _ => True

def GB (stmts : List Expr) : Prop := ∀ x ∈ stmts, BlockVerb verbs x

variable {verbs}

theorem gb_iff (stmts : List Expr) :
    GB verbs stmts ↔ ∀ b, Expr.lineBlock b ∈ stmts → ∀ v, b.token = [v] → verbIn v verbs = true := by
  constructor
  · intro h b hb; exact h _ hb
  · intro h x hx
    cases x with
    | lineBlock b => exact h b hx
    | line l => trivial
    | commentBlock c => trivial
    | lparen c => trivial
    | rparen c => trivial

/-- the Boolean tests `goodBlocksB`, `W.goodBlocksB` unfold to the left side -/
theorem gb_all_iff (verbs : List String) (stmts : List Expr) :
    (stmts.all fun
      | .lineBlock b => (match b.token with
        | [v] => verbIn v verbs
        | _ => true)
      | _ => true) = true ↔ GB verbs stmts := by
  rw [List.all_eq_true]
  refine forall₂_congr fun x _ => ?_
  cases x with
  | lineBlock b =>
    simp only [BlockVerb]
    constructor
    · intro h v hv; rw [hv] at h; exact h
    · intro h; split
      · rename_i v hv; exact h v hv
      · rfl
  | line l => simp [BlockVerb]
  | commentBlock c => simp [BlockVerb]
  | lparen c => simp [BlockVerb]
  | rparen c => simp [BlockVerb]

theorem GB.nil : GB verbs [] := by intro x hx; cases hx

theorem gb_cons {x : Expr} {xs : List Expr} : GB verbs (x :: xs) ↔ BlockVerb verbs x ∧ GB verbs xs := by
  unfold GB
  simp only [List.mem_cons, forall_eq_or_imp]

theorem gb_append {xs ys : List Expr} : GB verbs (xs ++ ys) ↔ GB verbs xs ∧ GB verbs ys := by
  unfold GB
  simp only [List.mem_append]
  constructor
  · intro h; exact ⟨fun x hx => h x (Or.inl hx), fun x hx => h x (Or.inr hx)⟩
  · rintro ⟨h1, h2⟩ x (hx | hx)
    · exact h1 x hx
    · exact h2 x hx

theorem GB.of_subset {xs ys : List Expr} (h : GB verbs ys) (hs : ∀ x ∈ xs, x ∈ ys) : GB verbs xs := fun x hx => h x (hs x hx)

theorem gbx_of_token {b b' : LineBlock} (ht : b'.token = b.token) (h : BlockVerb verbs (.lineBlock b)) : BlockVerb verbs (.lineBlock b') := by
  intro v hv; exact h v (ht ▸ hv)

theorem gb_updateLine (fs : FileSyntax) (id : Nat) (g : Line → Line) (h : GB verbs fs.stmts) : GB verbs (fs.updateLine id g).stmts := by
  intro x hx
  unfold FileSyntax.updateLine at hx
  simp only [List.mem_map] at hx
  rcases hx with ⟨y, hy, rfl⟩
  cases y with
  | line l0 =>
    simp only
    split <;> trivial
  | lineBlock b => exact gbx_of_token (b := b) rfl (h _ hy)
  | commentBlock c => trivial
  | lparen c => trivial
  | rparen c => trivial

theorem gb_updateTokens (fs : FileSyntax) (id : Nat) (toks : List Bytes) (h : GB verbs fs.stmts) : GB verbs (updateLine fs id toks).stmts :=
  gb_updateLine fs id _ h

theorem gb_markRemoved (fs : FileSyntax) (id : Nat) (h : GB verbs fs.stmts) : GB verbs (markRemoved fs id).stmts :=
  gb_updateLine fs id _ h

/-- the hinted walk of `addLine` may turn a line into a block only of a block verb: the verb of the new line is one, or
    no live top-level line starts with it -/
def Conv (verbs : List String) (verb : Bytes) (stmts : List Expr) : Prop :=
  verbIn verb verbs = true ∨ ∀ l, Expr.line l ∈ stmts → (l.token.isEmpty || !headIs l.token verb) = true

theorem conv_of_verb {verb : Bytes} (stmts : List Expr) (h : verbIn verb verbs = true) : Conv verbs verb stmts := Or.inl h

theorem gb_append_newLine (stmts : List Expr) (new : Nat) (toks : List Bytes) (h : GB verbs stmts) :
    GB verbs (stmts ++ [Expr.line (mkLine new toks false)]) := by
  rw [gb_append]
  refine ⟨h, ?_⟩
  intro x hx
  simp only [List.mem_singleton] at hx
  subst hx
  trivial

theorem take_one_of_headIs {toks : List Bytes} {verb v : Bytes} (hh : headIs toks verb = true) (hv : toks.take 1 = [v]) :
    v = verb := by
  cases toks with
  | nil => simp [headIs] at hh
  | cons a t =>
    simp only [headIs, List.head?_cons, beq_iff_eq, Option.some.injEq] at hh
    simp only [List.take_succ_cons, List.take_zero, List.cons.injEq, and_true] at hv
    rw [← hv, hh]

/-- `Grown.conv`: a line of the new line's verb becomes a block of that verb -/
theorem Grown.gb {toks : List Bytes} {new : Nat} {x : Expr} {g : List Expr} (hg : Grown toks new x g)
    (hc : ∀ l, x = .line l → l.token.isEmpty = false → headIs l.token (toks.head?.getD []) = true →
      verbIn (toks.head?.getD []) verbs = true)
    (h : BlockVerb verbs x) : GB verbs g := by
  cases hg with
  | after => exact gb_cons.2 ⟨h, gb_cons.2 ⟨trivial, GB.nil⟩⟩
  | conv l hl hv =>
    refine gb_cons.2 ⟨fun v hv1 => ?_, GB.nil⟩
    rw [take_one_of_headIs hv hv1]; exact hc l rfl hl hv
  | block b l1 l2 hb hv => exact gb_cons.2 ⟨gbx_of_token (b := b) rfl h, GB.nil⟩

theorem gb_grown {toks : List Bytes} {new : Nat} {stmts r : List Expr} (hc : Conv verbs (toks.head?.getD []) stmts)
    (h : GB verbs stmts)
    (hr : r = stmts ++ [.line (mkLine new toks false)] ∨
      ∃ pre x post g, stmts = pre ++ x :: post ∧ Grown toks new x g ∧ r = pre ++ g ++ post) : GB verbs r := by
  rcases hr with rfl | ⟨pre, x, post, g, rfl, hg, rfl⟩
  · exact gb_append_newLine _ _ _ h
  · obtain ⟨h1, h2⟩ := gb_append.1 h
    obtain ⟨h2, h3⟩ := gb_cons.1 h2
    refine gb_append.2 ⟨gb_append.2 ⟨h1, hg.gb (fun l hx hl hv => ?_) h2⟩, h3⟩
    rcases hc with hc | hc
    · exact hc
    · have := hc l (by rw [hx]; simp)
      simp [hl, hv] at this

theorem gb_addLine (fs : FileSyntax) (hint : Option Nat) (toks : List Bytes) (new : Nat)
    (hc : Conv verbs (toks.head?.getD []) fs.stmts) (h : GB verbs fs.stmts) : GB verbs (addLine fs hint toks new).stmts :=
  gb_grown hc h (addLine_grown fs hint toks new)

theorem gb_addLinePtr (fs : FileSyntax) (hint : Option Nat) (toks : List Bytes) (new : Nat)
    (hc : Conv verbs (toks.head?.getD []) fs.stmts) (h : GB verbs fs.stmts) : GB verbs (addLinePtr fs hint toks new).stmts :=
  gb_grown hc h (addLinePtr_grown fs hint toks new)

theorem gb_insertAt (stmts : List Expr) (i : Nat) (y : Expr) (hy : BlockVerb verbs y) (h : GB verbs stmts) : GB verbs (insertAt stmts i y) := by
  unfold insertAt
  rw [gb_append, gb_cons]
  exact ⟨h.of_subset (fun x hx => List.mem_of_mem_take hx), hy, h.of_subset (fun x hx => List.mem_of_mem_drop hx)⟩

theorem gb_set (stmts : List Expr) (i : Nat) (y : Expr) (hy : BlockVerb verbs y) (h : GB verbs stmts) : GB verbs (stmts.set i y) := by
  intro x hx
  rcases List.mem_or_eq_of_mem_set hx with hx | rfl
  · exact h x hx
  · exact hy

theorem GB.of_blocks {stmts r : List Expr} (h : GB verbs stmts)
    (hr : ∀ b', Expr.lineBlock b' ∈ r → ∃ b, Expr.lineBlock b ∈ stmts ∧ b'.token = b.token) : GB verbs r := by
  intro x hx
  cases x with
  | lineBlock b' =>
    obtain ⟨b, hb, ht⟩ := hr b' hx
    exact gbx_of_token ht (h _ hb)
  | line l => trivial
  | commentBlock c => trivial
  | lparen c => trivial
  | rparen c => trivial

theorem gb_cleanupStmts (stmts : List Expr) (h : GB verbs stmts) : GB verbs (cleanupStmts stmts) :=
  h.of_blocks fun b' hb' => let ⟨b, hb, ht, _⟩ := cleanupStmts_block stmts b' hb'; ⟨b, hb, ht⟩

theorem gb_sortStmts (sem work : Bool) (stmts : List Expr) (h : GB verbs stmts) : GB verbs (sortStmts sem work stmts) :=
  h.of_blocks fun b' hb' => let ⟨b, hb, ht, _⟩ := sortStmts_block sem work stmts b' hb'; ⟨b, hb, ht⟩

theorem gb_dropKilled (kill : List Nat) (stmts : List Expr) (h : GB verbs stmts) : GB verbs (dropKilled kill stmts) :=
  h.of_blocks fun b' hb' => let ⟨b, hb, ht, _⟩ := dropKilled_block kill stmts b' hb'; ⟨b, hb, ht⟩

theorem gb_shift (fs : FileSyntax) : GB verbs (shiftSyntax fs).stmts ↔ GB verbs fs.stmts := by
  unfold shiftSyntax GB
  simp only [List.mem_map]
  constructor
  · intro h x hx
    have := h _ ⟨x, hx, rfl⟩
    cases x <;> exact this
  · rintro h x ⟨y, hy, rfl⟩
    have := h y hy
    cases y <;> exact this

theorem gb_sortBlocks (e : EFile) (h : GB verbs e.f.syn.stmts) : GB verbs (sortBlocks e).f.syn.stmts := by
  rw [sortBlocks_eq_sem]
  exact gb_sortStmts _ false _ (gb_dropKilled _ _ h)

theorem gb_cleanup (e : EFile) (h : GB verbs e.f.syn.stmts) : GB verbs (cleanup e).f.syn.stmts := gb_cleanupStmts _ h

theorem gb_appendToBlock (stmts : List Expr) (i : Nat) (l : Line) (h : GB verbs stmts) : GB verbs (appendToBlock stmts i l) := by
  unfold appendToBlock
  split
  · rename_i b hget
    have hmem : Expr.lineBlock b ∈ stmts := List.mem_of_getElem? hget
    exact gb_set _ _ _ (gbx_of_token (b := b) rfl (h _ hmem)) h
  · exact h

theorem gb_moveExisting (syn : FileSyntax) (lineId idx new : Nat) (h : GB verbs syn.stmts) :
    GB verbs (moveExisting syn lineId idx new).stmts := by
  unfold moveExisting
  split
  · exact h
  · simp only
    exact gb_appendToBlock _ _ _ (gb_updateLine syn lineId _ h)

end

/-- the go.mod condition on one statement, written out -/
def GBx : Expr → Prop
  | .lineBlock b => ∀ v, b.token = [v] → verbIn v blockVerbs = true
  | _ => True

theorem gbx_line (l : Line) : GBx (.line l) := trivial

theorem verbIn_require : verbIn (B "require") blockVerbs = true := by decide +kernel

theorem gbx_requireBlock (ls : List Line) : BlockVerb blockVerbs (.lineBlock { token := [B "require"], lines := ls }) := by
  intro v hv
  simp only [List.cons.injEq, and_true] at hv
  rw [← hv]; exact verbIn_require

theorem gbx_emptyRequireBlock : BlockVerb blockVerbs emptyRequireBlock := gbx_requireBlock []

theorem gb_ensureBlock (stmts s : List Expr) (i : Nat) (he : ensureBlock stmts i = .ok s) (h : GB blockVerbs stmts) :
    GB blockVerbs s := by
  unfold ensureBlock at he
  split at he
  · simp only [Except.ok.injEq] at he; subst he; exact h
  · simp only [Except.ok.injEq] at he; subst he
    exact gb_set _ _ _ (gbx_requireBlock _) h
  · cases he

end ModVerif.Modfile.Edit
