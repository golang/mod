/-
  "The installer of a head is responsible for flushing it": in runs of the latest-tree-head machine in which no
  reconciliation with the configuration fails, every client's in-memory head is below the stored head or one of its
  goroutines is still going to bring the stored head up to it (`Flushed`).  With an honest server no step fails at
  all, which gives `latest_ends_at_max`; for a hostile server this is the hypothesis `cleanRun` of C13's
  `fork_rejected_stored`.
-/
import ModVerif.Proofs.ClientMoreHonest
namespace ModVerif.ClientLatest
variable {M T : Type}

/-- program counters inside the flush loop of `mergeLatest` (after the first `mergeLatestMem` advanced `c.latest`) -/
def inFlush : PC → Bool
  | .readConfig | .memRead .loop | .memCheck .loop | .memInstall .loop | .readLatestMsg | .writeConfig => true
  | _ => false

def failed : PC → Bool
  | .done .err | .done .security => true
  | _ => false

/-- the step is not a failed reconciliation -/
def CleanStep (s s' : St M T) (t : Nat) : Prop := ¬ (inFlush (s.th t).pc = true ∧ failed (s'.th t).pc = true)

/-- The goroutine with locals `l` is still going to bring the stored head up to (at least) the head `L` of its client:
it is inside the flush loop of `mergeLatest` at a point from which it re-reads `c.latest` before it can return, or its
snapshot of `c.latest` / of `c.latestMsg` is still current. -/
def Resp (P : Params M T) (le : T → T → Prop) (L : T) (l : Loc M T) : Prop :=
  match l.pc with
  | .readConfig | .memRead .loop | .readLatestMsg => True
  | .memCheck .loop | .memInstall .loop => le L l.latest
  | .writeConfig => le L (cfgTree P l.lm)
  | _ => False

theorem Resp.inFlush {P : Params M T} {le : T → T → Prop} {L : T} {l : Loc M T} (h : Resp P le L l) :
    inFlush l.pc = true := by
  unfold Resp at h
  rcases hp : l.pc with _ | _ | (_ | _) | (_ | _) | (_ | _) | _ | _ | _ | _ <;> rw [hp] at h <;>
    first | rfl | exact False.elim h

/-- every in-memory head has reached the configuration or somebody is responsible for it -/
def Flushed (P : Params M T) (le : T → T → Prop) (cl : Nat → Nat) (s : St M T) : Prop :=
  ∀ c, le (s.latest c) (cfgTree P s.config) ∨ ∃ t, cl t = c ∧ Resp P le (s.latest c) (s.th t)

section
variable {P : Params M T} {le : T → T → Prop} {Ch : T → Prop} {presented : Nat → Option M} {c0 : Option M}
  {pres : Option M} {pv : Bool} {t : Nat} {L : T} {LM C : Option M} {sec : List (Nat × Option M × Option M)}
  {l l' : Loc M T} {r : Res} {e : Eff M}

theorem LStep.resp_first (hl : LStep P pres pv L LM C l r l' e) (hfl : inFlush l.pc = false)
    (hpre : le L (cfgTree P C) ∨ e = .install) :
    Resp P le (e.head L l') l' ∨ le (e.head L l') (cfgTree P (e.cfg C l')) := by
  cases e
  case install =>
    obtain ⟨o, hpc, _, rfl⟩ := hl.of_install
    rw [hpc] at hfl
    cases o
    · exact .inl trivial
    · cases hfl
  case cas => rw [hl.of_cas.1] at hfl; cases hfl
  all_goals exact .inr (hpre.resolve_right nofun)

/-- `hz`, `heq` are the two facts about the order that the early returns of `mergeLatestMem` rely on: an empty head is
below everything, and of two comparable heads of the same size each is below the other. -/
theorem LStep.resp_flush (hS : Sound P le)
    (hl : LStep P pres pv L LM C l r l' e) (hm : MsgOf P LM L) (h : LocInv P le pres pv t L C sec l)
    (hfl : inFlush l.pc = true) (hclean : failed l'.pc = false)
    (hz : P.size L = 0 → le L (cfgTree P C))
    (heq : le l.tree l.latest → P.size l.latest ≤ P.size l.tree → le l.latest l.tree)
    (hpre : Resp P le L l ∨ le L (cfgTree P C) ∨ e = .install) :
    Resp P le (e.head L l') l' ∨ le (e.head L l') (cfgTree P (e.cfg C l')) := by
  -- in `memCheck loop`, `memInstall loop` the tree of the argument is the configuration content that was read
  have arg : ∀ {p}, l.pc = p → (p = .memCheck .loop ∨ p = .memInstall .loop) → le l.tree (cfgTree P C) := by
    intro p hpc hp
    have ho : l.pc = .memCheck .loop ∨ l.pc = .memInstall .loop := hpc ▸ hp
    obtain ⟨_, _, m, hm1, hm2⟩ := h.snap .loop ho
    have := h.cfg_le
    rwa [← h.loop_msg (.inr ho), hm1, cfgTree_some P m _ hm2] at this
  have hloop : ∀ {o}, l.pc = .memRead o ∨ l.pc = .memCheck o ∨ l.pc = .memInstall o → o = .loop := by
    intro o ho
    cases o
    · rcases ho with ho | ho | ho <;> rw [ho] at hfl <;> cases hfl
    · rfl
  unfold Resp at hpre ⊢
  cases hl
  case entry hpc | start hpc => rw [hpc] at hfl; cases hfl
  case readBad | oldFork | oldErr | newFork | newErr | readFail | writeFail => cases hclean
  case read | conflict => exact .inl trivial
  case readMsg => exact .inl (cfgTree_of_MsgOf P _ _ hm ▸ hS.refl _)
  case write hpc hC _ =>
    rw [hpc] at hpre
    exact .inr (hpre.elim id fun hG => hS.trans _ _ _ (hG.resolve_right nofun) (hC ▸ h.write_up hpc))
  case readEmpty =>
    cases hloop (.inl ‹_›)
    by_cases h0 : P.size L = 0
    · exact .inr (hz h0)
    · rw [if_neg h0]; exact .inl trivial
  case readOk => cases hloop (.inl ‹_›); exact .inl (hS.refl _)
  case retry => cases hloop (.inr (.inr ‹_›)); exact .inl (hS.refl _)
  case oldOk =>
    have hpc : l.pc = _ := ‹_›
    cases hloop (.inr (.inl hpc))
    rw [hpc] at hpre
    by_cases hlt : P.size l.tree < P.size l.latest
    · rw [if_pos hlt]; exact .inl trivial
    · refine .inr (hpre.elim (fun hr => ?_) (·.resolve_right nofun))
      exact hS.trans _ _ _ (hS.trans _ _ _ hr (heq (hS.chk_ok _ _ ‹_›) (by omega))) (arg hpc (.inl rfl))
  case newOk =>
    have hpc : l.pc = _ := ‹_›
    cases hloop (.inr (.inl hpc))
    rw [hpc] at hpre; exact hpre.imp id (·.resolve_right nofun)
  case install =>
    have hpc : l.pc = _ := ‹_›
    cases hloop (.inr (.inr hpc))
    exact .inr (arg hpc (.inr rfl))

end

theorem Eff.head_eq {e : Eff M} (he : e ≠ .install) (L : T) (l' : Loc M T) : e.head L l' = L := by
  cases e <;> first | rfl | exact absurd rfl he

/-- **A clause of the form "every client is in a good state or one of its goroutines is going to see to it"** is kept
by the step `e.apply s t (cl t) l'` if goodness survives the change of the configuration and the goroutine that moves
sees to it when it was its turn (`hown`): the other goroutines of its client keep the task unless the head has
changed, and the other clients are not concerned. -/
theorem witness_step {Good : T → Option M → Prop} {W : T → Loc M T → Prop} {cl : Nat → Nat} {s : St M T} {t : Nat}
    {l' : Loc M T} {e : Eff M}
    (hF : ∀ c, Good (s.latest c) s.config ∨ ∃ t', cl t' = c ∧ W (s.latest c) (s.th t'))
    (hgood : ∀ L, Good L s.config → Good L (e.cfg s.config l'))
    (hown : (W (s.latest (cl t)) (s.th t) ∨ Good (s.latest (cl t)) s.config ∨ e = .install) →
      W (e.head (s.latest (cl t)) l') l' ∨ Good (e.head (s.latest (cl t)) l') (e.cfg s.config l')) (c : Nat) :
    Good ((e.apply s t (cl t) l').latest c) (e.apply s t (cl t) l').config ∨
      ∃ t', cl t' = c ∧ W ((e.apply s t (cl t) l').latest c) ((e.apply s t (cl t) l').th t') := by
  have hown' : _ → Good (e.head (s.latest (cl t)) l') (e.cfg s.config l') ∨
      ∃ t', cl t' = cl t ∧ W (e.head (s.latest (cl t)) l') (upd s.th t l' t') :=
    fun hpre => (hown hpre).symm.imp_right fun hr => ⟨t, rfl, by rwa [upd_same]⟩
  rw [Eff.apply_config, Eff.apply_th]
  by_cases hc : c = cl t
  · subst hc
    rw [Eff.apply_latest]
    rcases hF (cl t) with hG | ⟨t0, ht0, hr0⟩
    · exact hown' (.inr (.inl hG))
    · by_cases ht : t0 = t
      · exact hown' (.inl (ht ▸ ht0 ▸ hr0))
      · by_cases he : e = .install
        · exact hown' (.inr (.inr he))
        · exact .inr ⟨t0, ht0, by rwa [upd_other _ _ _ _ ht, Eff.head_eq he]⟩
  · rw [Eff.apply_latest_other _ _ _ _ _ _ hc]
    rcases hF c with hG | ⟨t0, ht0, hr0⟩
    · exact .inl (hgood _ hG)
    · exact .inr ⟨t0, ht0, by rwa [upd_other _ _ _ _ fun e => hc (ht0.symm.trans (congrArg cl e))]⟩

variable [DecidableEq M] [DecidableEq T]

variable {P : Params M T} {le : T → T → Prop} {Ch : T → Prop} {cl : Nat → Nat} {presented : Nat → Option M}
  {priv : Nat → Bool} {c0 : Option M} {s s' s1 s2 : St M T} {t : Nat} {r : Res}

theorem flushed_step (hS : Sound P le) (hI : FullInv P le cl presented priv s) (hF : Flushed P le cl s)
    (h : step P cl presented priv s t r = some s') (hcl : CleanStep s s' t)
    (hz : P.size (s.latest (cl t)) = 0 → le (s.latest (cl t)) (cfgTree P s.config))
    (heq : le (s.th t).tree (s.th t).latest → P.size (s.th t).latest ≤ P.size (s.th t).tree →
      le (s.th t).latest (s.th t).tree) : Flushed P le cl s' := by
  obtain ⟨l', e, hl, rfl⟩ := (step_iff ..).mp h
  refine witness_step (Good := fun L C => le L (cfgTree P C)) hF
    (fun L hG => hS.trans _ _ _ hG (hl.cfg_le hS (hI.loc t).write_up)) fun hpre => ?_
  cases hfl : inFlush (s.th t).pc
  · exact hl.resp_first hfl (hpre.resolve_left fun hr => by simp [hr.inFlush] at hfl)
  · refine hl.resp_flush hS (hI.mem_msg _) (hI.loc t) hfl ?_ hz heq hpre
    cases hf : failed l'.pc
    · rfl
    · exact absurd ⟨hfl, by rw [Eff.apply_th, upd_same]; exact hf⟩ hcl

theorem honest_clean (hH : Honest P le Ch presented c0) (t : Nat) (h : HReachable P cl presented priv c0 s) :
    failed (s.th t).pc = false := by
  have hN := (honest_invs hH h).2
  cases hf : failed (s.th t).pc
  · rfl
  · unfold failed at hf
    split at hf
    · exact absurd ‹_› (hN.no_err t)
    · exact absurd ‹_› (hN.no_sec t)
    · cases hf

theorem flush_reachable (hH : Honest P le Ch presented c0) (h : HReachable P cl presented priv c0 s) :
    Flushed P le cl s := by
  induction h with
  | init => exact fun _ => .inl (hH.sound.zero_le _)
  | @step s s' t r hr hok hs ih =>
    have hC := (honest_invs hH hr).1
    have hCc := goodMsg_cfgTree P Ch hH.zero_ch _ hC.config
    refine flushed_step hH.sound (fullInv_reachable hH.sound hr.reachable) ih hs ?_ ?_ ?_
    · exact fun hf => by simp [honest_clean hH t (.step t r hr hok hs)] at hf
    · exact fun h0 => hH.size_le _ _ (hC.latest _) hCc (by omega)
    · exact fun _ hsz => hH.size_le _ _ (hC.loc t).latest (hC.loc t).tree hsz

end ModVerif.ClientLatest
