/-
  Tie proofs for sumdb/tlog/tile.go: `tileHashReader.ReadHashes` = `Tile.readHashes`, assembly of the phases
  (Proofs/TieFnTilePlan.lean: plan, Proofs/TieFnTileAuth.lean: authenticate / extract).
-/
import ModVerif.Proofs.TieFnTilePlan
import ModVerif.Proofs.TieFnTileAuth
import ModVerif.Proofs.TieFnTlogIntTree
set_option linter.unusedSimpArgs false
namespace ModVerif.TieFnTile
open ModVerif ModVerif.GoRt ModVerif.GoRtTile ModVerif.TieFnTlogInt

theorem planIndexes_append (h N : Nat) : ∀ (a b : List Nat) (st : List Tile.Tile × List (Tile.Tile × Nat) × List Nat),
    Tile.planIndexes h N (a ++ b) st = (Tile.planIndexes h N a st >>= Tile.planIndexes h N b) := by
  intro a
  induction a with
  | nil => intro b st; rfl
  | cons x a ih =>
    intro b st
    simp only [List.cons_append, Tile.planIndexes, bind, Except.bind]
    cases Tile.planIndex h N st x with
    | error e => rfl
    | ok st' => simp only; rw [ih b st']; rfl

theorem planIndexes_bad (h N x : Nat) (xs : List Nat) (st : List Tile.Tile × List (Tile.Tile × Nat) × List Nat)
    (hx : x ≥ Tlog.storedHashIndex 0 N) : Tile.planIndexes h N (x :: xs) st = .error .indexRange := by
  obtain ⟨a, b, c⟩ := st
  simp only [Tile.planIndexes, Tile.planIndex, hx, ↓reduceIte, bind, Except.bind]

theorem list_first_bad {α : Type} (P : α → Prop) [DecidablePred P] : ∀ l : List α,
    (∀ x ∈ l, P x) ∨ ∃ pre x rest, l = pre ++ x :: rest ∧ (∀ y ∈ pre, P y) ∧ ¬ P x := by
  intro l
  induction l with
  | nil => left; intro x hx; simp at hx
  | cons a l ih =>
    by_cases ha : P a
    · rcases ih with h | ⟨pre, x, rest, e, hp, hx⟩
      · left; intro x hx
        rcases List.mem_cons.mp hx with h1 | h1
        · subst h1; exact ha
        · exact h x h1
      · right
        refine ⟨a :: pre, x, rest, by rw [e]; rfl, ?_, hx⟩
        intro y hy
        rcases List.mem_cons.mp hy with h1 | h1
        · subst h1; exact ha
        · exact hp y h1
    · right; exact ⟨[], a, l, rfl, by intro y hy; simp at hy, ha⟩

theorem cover_length : ∀ (cs : List (Nat × Nat)) (lo hi : Nat), TlogStore.Cover cs lo hi → cs.length + lo ≤ hi := by
  intro cs
  induction cs with
  | nil => intro lo hi h; simp only [TlogStore.Cover] at h; simp; omega
  | cons c cs ih =>
    intro lo hi h
    obtain ⟨l, k⟩ := c
    simp only [TlogStore.Cover] at h
    have := ih _ _ h.2.2.2
    have := Nat.two_pow_pos l
    simp only [List.length_cons]; omega

/-- the planning part of the model, step by step, for every request (also with indexes outside the tree) -/
theorem plan_decomp (h N : Nat) (h1 : 1 ≤ h) (hN : N < 2 ^ 62) (idx : List Nat) :
    ∃ (cs : List (Nat × Nat)) (tiles0 : List Tile.Tile) (order0 : List (Tile.Tile × Nat)) (sto : List Nat),
      Tlog.subTreeIndex 0 N = .ok (cs.map TileAuth.idxOf) ∧ TlogStore.Cover cs 0 N ∧
      Tile.planStx h N (cs.map TileAuth.idxOf) ([], [], []) = .ok (tiles0, order0, sto) ∧
      (∀ x ∈ cs.map TileAuth.idxOf, ValidIdx N x) ∧
      (∀ e, Tile.planIndexes h N idx (tiles0, order0, []) = .error e → e = .indexRange) ∧
      Tile.plan h N idx = (match Tile.planIndexes h N idx (tiles0, order0, []) with
        | .ok res => .ok ⟨res.1, res.2.1, cs.map TileAuth.idxOf, sto, tiles0.length, res.2.2⟩
        | .error e => .error e) := by
  obtain ⟨cs, c1, _, c3⟩ := TlogStore.subTreeIndex_spec 0 N (Nat.zero_le _) (TlogStore.aligned_zero N) (by omega)
  have c1' : Tlog.subTreeIndex 0 N = .ok (cs.map TileAuth.idxOf) := c1
  have hcs : ∀ c ∈ cs, (c.2 + 1) * 2 ^ c.1 ≤ N ∧ Tlog.splitStoredHashIndex (TileAuth.idxOf c) = .ok c := by
    intro c hc
    have hv := TlogStore.cover_bound cs 0 N c3 c hc
    exact ⟨hv, TileAuth.split_valid N hN c.1 c.2 hv⟩
  obtain ⟨ext, order, sto, s1, _⟩ := TileAuth.planStx_spec h N (by omega) cs [] [] [] hcs TileAuth.look_nil
    (by intro t ht; simp at ht)
  simp only [List.nil_append] at s1
  have hplan : ∀ l, Tile.plan h N l = (match Tile.planIndexes h N l (ext, order, []) with
        | .ok res => .ok ⟨res.1, res.2.1, cs.map TileAuth.idxOf, sto, ext.length, res.2.2⟩
        | .error e => .error e) := by
    intro l
    simp only [Tile.plan, c1', s1, bind, Except.bind]
    cases Tile.planIndexes h N l (ext, order, []) with
    | error e => rfl
    | ok res => obtain ⟨a, b, c⟩ := res; rfl
  refine ⟨cs, ext, order, sto, c1', c3, s1, ?_, ?_, hplan idx⟩
  · intro x hx
    obtain ⟨c, hc, rfl⟩ := List.mem_map.mp hx
    obtain ⟨hv, hs⟩ := hcs c hc
    refine ⟨?_, c, hs, hv⟩
    rw [Tlog.storedHashIndex_zero_eq]
    exact TileAuth.idx_lt_S N c.1 c.2 hv
  · -- the only error of `planIndexes` is `indexRange`
    have hokpre : ∀ l : List Nat, (∀ x ∈ l, x < Tlog.storedHashIndex 0 N) →
        ∃ st, Tile.planIndexes h N l (ext, order, []) = .ok st := by
      intro l hl
      obtain ⟨p, hp⟩ := TileAuth.plan_terminates h N h1 hN l hl
      rw [hplan l] at hp
      cases hpi : Tile.planIndexes h N l (ext, order, []) with
      | error e => rw [hpi] at hp; cases hp
      | ok st => exact ⟨st, rfl⟩
    intro e he
    rcases list_first_bad (fun x => x < Tlog.storedHashIndex 0 N) idx with hall | ⟨pre, x, rest, hsplit, hpre, hx⟩
    · obtain ⟨st, hst⟩ := hokpre idx hall
      rw [hst] at he; cases he
    · obtain ⟨st, hst⟩ := hokpre pre hpre
      rw [hsplit, planIndexes_append, hst] at he
      simp only [bind, Except.bind] at he
      rw [planIndexes_bad h N x rest st (by omega)] at he
      cases he; rfl

theorem planFacts_of_planOK (h N : Nat) (h1 : 1 ≤ h) (hN : N < 2 ^ 62) (cs : List (Nat × Nat)) (idx : List Nat)
    (p : Tile.Plan) (ok : TileAuth.PlanOK h N cs idx p) : PlanFacts h N p.tiles p.order p.nstx := by
  have hstd : ∀ t ∈ p.tiles, ∃ L n, t = { h := h, l := L, n := n, w := min (2 ^ h) (TileAuth.cnt h N L - n * 2 ^ h) } ∧
      n * 2 ^ h < TileAuth.cnt h N L ∧ L ≤ 62 ∧ TileAuth.cnt h N L ≤ N := by
    intro t ht
    obtain ⟨L, n, e, hlt⟩ := ok.inv.std t ht
    rw [TileAuth.stdTile_of_lt h N L n hlt] at e
    have hpos : 0 < TileAuth.cnt h N L := by omega
    have hL := TileAuth.cnt_pos_level h N L (by omega) hpos
    have hlog : N.log2 < 62 := by
      by_cases h0 : N = 0
      · subst h0; simp
      · exact (Nat.log2_lt h0).mpr hN
    exact ⟨L, n, e, hlt, by omega, Nat.div_le_self _ _⟩
  refine ⟨?_, ?_, ok.inv.look, ?_⟩
  · intro t ht
    obtain ⟨L, n, e, hlt, hL, hc⟩ := hstd t ht
    subst e
    refine ⟨rfl, rfl, hL, ?_⟩
    show (n + 1) * 2 ^ h ≤ N + 2 ^ h
    rw [Nat.add_mul, Nat.one_mul]; omega
  · intro t ht
    obtain ⟨L, n, e, hlt, hL, hc⟩ := hstd t ht
    subst e
    have := Nat.two_pow_pos h
    show 1 ≤ min (2 ^ h) (TileAuth.cnt h N L - n * 2 ^ h) ∧ min (2 ^ h) (TileAuth.cnt h N L - n * 2 ^ h) ≤ 2 ^ h
    omega
  · intro i t hi ht
    obtain ⟨hfull, _⟩ := ok.inv.child i t hi ht
    obtain ⟨L, n, e, hlt, hL, hc⟩ := hstd t (List.mem_of_getElem? ht)
    subst e
    simp only at hfull ⊢
    refine ⟨hfull, ?_⟩
    have hfull' : (n + 1) * 2 ^ h ≤ TileAuth.cnt h N L := by
      rw [Nat.add_mul, Nat.one_mul]; omega
    have hv : (n + 1) * 2 ^ ((L + 1) * h) ≤ N := by
      have := (TileAuth.valid_iff' h N L h n).mpr hfull'
      have e : (L + 1) * h = L * h + h := by rw [Nat.add_mul, Nat.one_mul]
      rw [e]; exact this
    have := TileAuth.idx_lt_S N ((L + 1) * h) n hv
    have := Tlog.S_le_two_mul N
    omega

theorem cover_length_log : ∀ (cs : List (Nat × Nat)) (lo hi m : Nat), TlogStore.Cover cs lo hi → hi - lo < 2 ^ m →
    cs.length ≤ m := by
  intro cs
  induction cs with
  | nil => intro lo hi m _ _; simp
  | cons c cs ih =>
    intro lo hi m h hm
    obtain ⟨l, k⟩ := c
    simp only [TlogStore.Cover] at h
    obtain ⟨_, h2, h3, h4⟩ := h
    have := ih (lo + 2 ^ l) hi l h4 (by rw [Nat.pow_succ] at h3; omega)
    have hlm : l < m := by
      apply Nat.lt_of_not_le; intro hc
      have : 2 ^ m ≤ 2 ^ l := Nat.pow_le_pow_right (by omega) hc
      omega
    simp only [List.length_cons]; omega

section
variable {H : Type} [DecidableEq H] [Inhabited H] (node : H → H → H) (ofBytes : Bytes → H)

def planTiles (h N : Nat) (idx : List Nat) : List Tile.Tile :=
  match Tile.plan h N idx with
  | .ok p => p.tiles
  | .error _ => []

/-- what the model's tile server `serve` must answer on the planned tiles, given what `ReadTiles` returns for them:
    an error is "no tile"; a result of the wrong length is presented as empty tiles (rejected by the width check of the
    model like the code's `len(data) != len(tiles)`); otherwise tile `i` is `data[i]` as a list of hashes (`unflatS`) -/
def ServeRel (RT : List GTile → List Bytes × Option String) (serve : Tile.Tile → Option (List H))
    (tiles : List Tile.Tile) : Prop :=
  tiles ≠ [] →
  match RT (tiles.map toGen) with
  | (data, none) => tiles.mapM serve =
      some (if data.length = tiles.length then data.map (unflatS ofBytes) else tiles.map (fun _ => []))
  | (_, some _) => tiles.mapM serve = none

/-- the model's outcome in the result type of the generated function: `((hashes, err), effLog)` where the effect log holds
    the arguments of the (only) `SaveTiles` call -/
def rhOut (out : Tile.ReadOut H) (gtiles : List GTile) (data : List Bytes) (msg : Option String) :
    (List H × Option String) × List (List GTile × List Bytes) :=
  ((match out.result with | .ok hs => (hs, none) | .error _ => ([], msg)),
   (match out.saved with | some _ => [(gtiles, data)] | none => []))

/-- which `badTile` text: given that `ReadTiles` returned no error and the right number of tiles, a failed width check gives
    the "(%v len=%d, want %d)" text, and a `badTile` after a passed width check is one of the three `HashFromTile` texts -/
def MsgRefine (tiles : List Tile.Tile) (data : List Bytes) (rerr : Option String) (res : Except Tlog.Err (List H))
    (msg : Option String) : Prop :=
  rerr = none → data.length = tiles.length →
    (Tile.widthsOk tiles (data.map (unflatS ofBytes)) = false →
      msg = some "TileReader returned bad result slice (%v len=%d, want %d)") ∧
    (Tile.widthsOk tiles (data.map (unflatS ofBytes)) = true → res = .error .badTile → ∃ s, HftMsg s ∧ msg = some s)

theorem ReadHashes_eq_msg (fuel h N : Nat) (th : H) (idx : List Nat) (RT : List GTile → List Bytes × Option String)
    (serve : Tile.Tile → Option (List H)) (h1 : 1 ≤ h) (h57 : h ≤ 57) (hN : N < 2 ^ 62)
    (hserve : ServeRel ofBytes RT serve (planTiles h N idx)) (htl : (planTiles h N idx).length < 2 ^ 63)
    (hf : idx.length + (planTiles h N idx).length + 400 ≤ fuel) :
    ∃ msg, Generated.Tile.tileHashReader_ReadHashes node ofBytes fuel
        { tree := { N := (N : Int), Hash := th }, tr := { Height := (h : Int), ReadTiles := RT } } (idx.map Int.ofNat) =
      .ok (rhOut (Tile.readHashes node N th h idx serve) ((planTiles h N idx).map toGen)
        (RT ((planTiles h N idx).map toGen)).1 msg) ∧
      (∀ e, (Tile.readHashes node N th h idx serve).result = .error e → MsgOK (RT ((planTiles h N idx).map toGen)).2 e msg) ∧
      (∀ p, Tile.plan h N idx = .ok p → p.stx ≠ [] →
        MsgRefine ofBytes (planTiles h N idx) (RT ((planTiles h N idx).map toGen)).1 (RT ((planTiles h N idx).map toGen)).2
          (Tile.readHashes node N th h idx serve).result msg) := by
  have hnf : ∀ {b : Bool}, b = true → b = false → False := by
    intro b h1 h2; rw [h1] at h2; cases h2
  obtain ⟨cs, tiles0, order0, sto, hst, hcov, hps, hvalid, hres, hplan⟩ := plan_decomp h N h1 hN idx
  generalize hr : ({ tree := { N := (N : Int), Hash := th }, tr := { Height := (h : Int), ReadTiles := RT } } :
    Generated.Tile.tileHashReader H) = r
  have hrN : r.tree.N = (N : Int) := by rw [← hr]
  have hrH : r.tr.Height = (h : Int) := by rw [← hr]
  have hrT : r.tr.ReadTiles = RT := by rw [← hr]
  have hrTh : r.tree.Hash = th := by rw [← hr]
  generalize hstx : cs.map TileAuth.idxOf = stx at hst hps hvalid hplan
  have hstxlen : stx.length ≤ 62 := by
    rw [← hstx, List.length_map]
    exact cover_length_log cs 0 N 62 hcov (by omega)
  -- subTreeIndex
  have hsub := subTreeIndex_eq fuel 0 N [] (by omega) (by omega)
  rw [hst] at hsub
  simp only [subTreeIndexOut, List.nil_append, Int.natCast_zero] at hsub
  have hlenstx := len_map Int.ofNat stx
  have hlenidx := len_map Int.ofNat idx
  -- loop 1
  obtain ⟨og1, hl1, hrel1⟩ := loop1_eq node ofBytes r [] h N h1 h57 hN hrN stx stx [] [] [] [] [] fuel (tiles0, order0, sto)
    rfl rfl hvalid mapRel_nil hps (by omega)
  simp only [List.length_nil, Int.natCast_zero, List.map_nil, List.nil_append] at hl1
  -- loop 2
  have hl2 := loop2_eq node ofBytes r [] h N h1 h57 hN hrN idx idx [] tiles0 order0 [] og1 fuel rfl rfl hrel1 hres (by omega)
  simp only [List.length_nil, Int.natCast_zero, List.map_nil, List.nil_append] at hl2
  unfold Generated.Tile.tileHashReader_ReadHashes
  simp only [hrN, hrH, hsub, mbind_ok, hlenstx, makeList_natCast, hl1, hlenidx]
  cases hpi : Tile.planIndexes h N idx (tiles0, order0, []) with
  | error e =>
    have he := hres e hpi
    subst he
    rw [hpi] at hl2 hplan
    simp only at hl2 hplan
    have hpt : planTiles h N idx = [] := by simp [planTiles, hplan]
    have hout : Tile.readHashes node N th h idx serve = { saved := none, result := .error .indexRange } := by
      simp only [Tile.readHashes, hplan]
    refine ⟨some "indexes not in tree", ?_, ?_, ?_⟩
    · simp only [hl2, mbind_ok, mpure, hout, rhOut]
    · intro e he
      rw [hout] at he
      simp only [Except.error.injEq] at he
      subst he
      rfl
    · intro p hp; rw [hplan] at hp; cases hp
  | ok res =>
    obtain ⟨tiles, order, ito⟩ := res
    rw [hpi] at hl2 hplan
    simp only at hl2 hplan
    obtain ⟨og2, hg2, hrel2⟩ := hl2
    have hpt : planTiles h N idx = tiles := by simp [planTiles, hplan]
    rw [hpt] at hserve hf htl ⊢
    -- the facts about the plan
    have hlt := TileAuth.plan_ok_lt h N idx _ hplan
    obtain ⟨cs2, pok⟩ := TileAuth.planOK_of_ok h N h1 hN idx _ hplan
    have pf := planFacts_of_planOK h N h1 hN cs2 idx _ pok
    simp only at pf
    have hstolen : sto.length = stx.length := by
      rw [pok.stoLen, show stx = cs2.map TileAuth.idxOf from pok.stx, List.length_map]
    have hstolt : ∀ j ∈ sto, j < tiles.length := pok.sto_lt
    have hitolen : ito.length = idx.length := pok.itoLen
    have hitolt : ∀ j ∈ ito, j < tiles.length :=
      pok.ito_lt fun x hx => (TileAuth.hidx_of_lt N hN idx hlt x hx).2.imp fun _ hc => hc.1
    have hstx63 : ∀ x ∈ stx, x + 1 < 2 ^ 63 := fun x hx => validIdx_lt N x hN (hvalid x hx)
    have hidx63 : ∀ x ∈ idx, x + 1 < 2 ^ 63 := by
      intro x hx
      have := hlt x hx
      rw [Tlog.storedHashIndex_zero_eq] at this
      have := Tlog.S_le_two_mul N
      omega
    have hlentiles := len_map toGen tiles
    simp only [hg2, mbind_ok]
    by_cases hs0 : stx.length = 0
    · -- the empty tree
      have hstxnil : stx = [] := List.eq_nil_of_length_eq_zero hs0
      have hidxnil : idx = [] := (Tile.plan_stx_nil h N idx _ hplan hstxnil).2
      have hout : Tile.readHashes node N th h idx serve = { saved := none, result := .ok [] } := by
        simp only [Tile.readHashes, hplan, hstxnil, List.isEmpty_nil, ↓reduceIte]
      refine ⟨none, ?_, ?_, ?_⟩
      · rw [hout]
        simp only [hs0, Int.natCast_zero, decide_true, ↓reduceIte, makeList_natCast, mbind_ok, mpure, rhOut, hidxnil,
          List.length_nil, List.replicate_zero]
      · intro e he; rw [hout] at he; cases he
      · intro p hp hne
        rw [hplan] at hp
        simp only [Except.ok.injEq] at hp
        subst hp
        exact absurd hstxnil hne
    · have hs0' : ¬ (((stx.length : Nat) : Int) = 0) := by omega
      have hstxne : stx.isEmpty = false := by
        cases stx with
        | nil => simp at hs0
        | cons a b => rfl
      simp only [hs0', decide_false, Bool.false_eq_true, ↓reduceIte, hrT]
      have htne : tiles ≠ [] := by
        intro hnil
        cases hsx : sto with
        | nil => rw [hsx] at hstolen; simp at hstolen; omega
        | cons j js =>
          have := hstolt j (by rw [hsx]; simp)
          rw [hnil] at this; simp at this
      unfold ServeRel at hserve
      generalize hRT : RT (tiles.map toGen) = rt at hserve ⊢
      obtain ⟨data, err⟩ := rt
      cases err with
      | some em =>
        have hserve := hserve htne
        simp only [hRT] at hserve
        have hout : Tile.readHashes node N th h idx serve = { saved := none, result := .error .reader } := by
          simp only [Tile.readHashes, hplan, hstxne, Bool.false_eq_true, ↓reduceIte, hserve]
        refine ⟨some em, ?_, ?_, ?_⟩
        · simp only [Option.isNone_some, Bool.not_false, ↓reduceIte, mpure, hout, rhOut]
        · intro e he
          rw [hout] at he
          simp only [Except.error.injEq] at he
          subst he
          exact ⟨rfl, by simp⟩
        · intro p _ _ hr; cases hr
      | none =>
        have hserve := hserve htne
        simp only [hRT] at hserve
        simp only [Option.isNone_none, Bool.not_true, Bool.false_eq_true, ↓reduceIte, hlentiles]
        have hw1' : ∀ t ∈ tiles, 1 ≤ t.w ∧ 32 * t.w < 2 ^ 63 := by
          intro t ht
          obtain ⟨a, b⟩ := pf.w1 t ht
          have : 2 ^ h ≤ 2 ^ 57 := Nat.pow_le_pow_right (by omega) h57
          omega
        by_cases hdl : data.length = tiles.length
        case neg =>
          have hdl' : ¬ (len data = ((tiles.length : Nat) : Int)) := by simp only [len, Int.ofNat_eq_natCast]; omega
          rw [if_neg hdl] at hserve
          have hwf : Tile.widthsOk tiles (tiles.map fun _ => ([] : List H)) = false := by
            cases tiles with
            | nil => exact absurd rfl htne
            | cons t ts =>
              have := (hw1' t (by simp)).1
              simp only [List.map_cons, Tile.widthsOk, List.length_nil, Bool.and_eq_false_imp, beq_iff_eq]
              intro hc; omega
          have hout : Tile.readHashes node N th h idx serve = { saved := none, result := .error .badTile } := by
            simp only [Tile.readHashes, hplan, hstxne, Bool.false_eq_true, ↓reduceIte, hserve, hwf, Bool.not_false]
          refine ⟨some "TileReader returned bad result slice (len=%d, want %d)", ?_, ?_, ?_⟩
          · simp only [hdl', decide_false, Bool.not_false, ↓reduceIte, mpure, hout, rhOut]
          · intro e he
            rw [hout] at he
            simp only [Except.error.injEq] at he
            subst he
            exact Or.inl rfl
          · intro p _ _ _ hl; exact absurd hl hdl
        have hdl' : (len data = ((tiles.length : Nat) : Int)) := by simp only [len, hdl]; rfl
        rw [if_pos hdl] at hserve
        have hl5 := loop5_eq node ofBytes [] tiles data hdl hw1' tiles.length 0 fuel (by omega) (by omega)
        simp only [List.drop_zero, Int.natCast_zero] at hl5
        simp only [hdl', decide_true, Bool.not_true, Bool.false_eq_true, ↓reduceIte, hl5, mbind_ok]
        by_cases hwd : Tile.widthsOk tiles (data.map (unflatS ofBytes)) = true
        case neg =>
          have hout : Tile.readHashes node N th h idx serve = { saved := none, result := .error .badTile } := by
            simp only [Tile.readHashes, hplan, hstxne, Bool.false_eq_true, ↓reduceIte, hserve, hwd, Bool.not_false]
          refine ⟨some "TileReader returned bad result slice (%v len=%d, want %d)", ?_, ?_, ?_⟩
          · simp only [hwd, Bool.false_eq_true, ↓reduceIte, mpure, hout, rhOut]
          · intro e he
            rw [hout] at he
            simp only [Except.error.injEq] at he
            subst he
            exact Or.inr (Or.inl rfl)
          · intro p _ _ _ _; exact ⟨fun _ => rfl, fun hwt => absurd hwt hwd⟩
        have hw := widthsOK_of_model ofBytes tiles data (fun t ht => (hw1' t ht).1) hwd
        simp only [hwd, ↓reduceIte]
        -- the model, up to `authenticate`
        have hmodel : Tile.readHashes node N th h idx serve =
            (match Tile.authenticate node N th ⟨tiles, order, stx, sto, tiles0.length, ito⟩ (data.map (unflatS ofBytes)) with
              | .error e => { saved := none, result := .error e }
              | .ok () => { saved := some (tiles.zip (data.map (unflatS ofBytes))),
                            result := Tile.extract node ⟨tiles, order, stx, sto, tiles0.length, ito⟩
                              (data.map (unflatS ofBytes)) (idx.zip ito) }) := by
          simp only [Tile.readHashes, hplan, hstxne, Bool.false_eq_true, ↓reduceIte, hserve, hwd, Bool.not_true]
          cases Tile.authenticate node N th ⟨tiles, order, stx, sto, tiles0.length, ito⟩ (data.map (unflatS ofBytes)) <;> rfl
        rw [hmodel]
        -- the last tree-hash index
        obtain ⟨m, hm⟩ : ∃ m, stx.length = m + 1 := ⟨stx.length - 1, by omega⟩
        have hm1 : m < stx.length := by omega
        have hm2 : m < sto.length := by omega
        have hmz : m < (stx.zip sto).length := by simp; omega
        have htk : stx.zip sto = (stx.zip sto).take m ++ [(stx[m], sto[m])] := by
          have h2 := List.take_add_one (l := stx.zip sto) (i := m)
          rw [List.take_of_length_le (by simp; omega), List.getElem?_eq_getElem hmz] at h2
          simpa using h2
        have hrev : (stx.zip sto).reverse = (stx[m], sto[m]) :: ((stx.zip sto).take m).reverse := by
          conv => lhs; rw [htk]
          simp
        have e31 : ((stx.length : Nat) : Int) - 1 = (m : Int) := by omega
        have e40 : ((stx.length : Nat) : Int) - 2 = (m : Int) - 1 := by omega
        have hi1 : idxL (sto.map Int.ofNat) (m : Int) = .ok ((sto[m] : Nat) : Int) := idxL_map Int.ofNat hm2
        have hi2 : idxL (stx.map Int.ofNat) (m : Int) = .ok ((stx[m] : Nat) : Int) := idxL_map Int.ofNat hm1
        have hj := hstolt sto[m] (List.getElem_mem _)
        have hx := hstx63 stx[m] (List.getElem_mem _)
        obtain ⟨gt, d, hgt, hd, hcases⟩ := hashAt_gen node ofBytes fuel tiles data hw sto[m] stx[m] hj hx (by omega)
        simp only [e31, chk64_natCast (show m < 2 ^ 63 by omega), mbind_ok, hi1, hi2, hgt, hd]
        simp only [Tile.authenticate, hrev]
        rcases hcases with ⟨v0, hha, hhft⟩ | ⟨hha, msg, hmsg, hhft⟩
        case inr =>
          rw [hha, hhft]
          simp only [mbind_error]
          refine ⟨some msg, ?_, ?_, ?_⟩
          · simp [mpure, mbind_ok, rhOut]
          · intro e he
            simp only [Except.error.injEq] at he
            subst he
            exact Or.inr (Or.inr ⟨_, hmsg, rfl⟩)
          · intro p _ _ _ _; exact ⟨fun hwf => (hnf hwd hwf).elim, fun _ _ => ⟨_, hmsg, rfl⟩⟩
        rw [hha, hhft]
        have hc40 := chk64_pred (show m < 2 ^ 63 by omega)
        simp only [mbind_ok, Option.isNone_none, Bool.not_true, Bool.false_eq_true, ↓reduceIte, e40, hc40, mbind_ok]
        have hl6 := loop6_eq node ofBytes [] tiles data hw stx sto hstolen (by omega) hstolt hstx63 m fuel v0 (by omega) (by omega)
        cases hsf : Tile.stxFold node tiles (data.map (unflatS ofBytes)) ((stx.zip sto).take m).reverse v0 with
        | error e6 =>
          rw [hsf] at hl6
          obtain ⟨he6, msg, hmsg, hg6⟩ := hl6
          subst he6
          refine ⟨some msg, ?_, ?_, ?_⟩
          · simp [hg6, mbind_ok, mpure, mbind_error, rhOut]
          · intro e he
            simp only [mbind_error, Except.error.injEq] at he
            subst he
            exact Or.inr (Or.inr ⟨_, hmsg, rfl⟩)
          · intro p _ _ _ _; exact ⟨fun hwf => (hnf hwd hwf).elim, fun _ _ => ⟨_, hmsg, rfl⟩⟩
        | ok th' =>
          rw [hsf] at hl6
          simp only at hl6
          simp only [hl6, mbind_ok, mbind_ok, hrTh]
          by_cases hth : th' = th
          case neg =>
            have hb : (th' != th) = true := by simp [hth]
            refine ⟨some "downloaded inconsistent tile", ?_, ?_, ?_⟩
            · simp [hth, hb, mpure, rhOut]
            · intro e he
              simp only [hb, ↓reduceIte, Except.error.injEq] at he
              subst he
              rfl
            · intro p _ _ _ _
              refine ⟨fun hwf => (hnf hwd hwf).elim, fun _ hres => ?_⟩
              simp only [hb, ↓reduceIte, Except.error.injEq] at hres
              cases hres
          subst hth
          have hlen0 := len_map toGen tiles0
          have hnle : tiles0.length ≤ tiles.length := pok.nstxLe
          have hl7 := loop7_eq node ofBytes [] r
            h N h1 h57 hN hrN (idx.map Int.ofNat) ⟨tiles, order, stx, sto, tiles0.length, ito⟩ og2 hrel2 pf data hw (by simp only; omega)
            none (tiles.length - tiles0.length) tiles0.length fuel (Nat.le_refl _) (by simp only; omega) (by omega)
          simp only at hl7
          simp only [bne_self_eq_false, Bool.false_eq_true, ↓reduceIte, decide_true, Bool.not_true, hlen0]
          cases hac : Tile.authChildren node N ⟨tiles, order, stx, sto, tiles0.length, ito⟩ (data.map (unflatS ofBytes))
              (tiles.length - tiles0.length) tiles0.length with
          | error e7 =>
            rw [hac] at hl7
            obtain ⟨hk7, msg, hmsg, hg7⟩ := hl7
            refine ⟨msg, ?_, ?_, ?_⟩
            · simp [hg7, mbind_ok, mpure, rhOut]
            · intro e he
              simp only [Except.error.injEq] at he
              subst he
              exact hmsg
            · intro p _ _ _ _
              refine ⟨fun hwf => (hnf hwd hwf).elim, fun _ hres => ?_⟩
              simp only [Except.error.injEq] at hres
              subst hres
              rcases hk7 with h | h <;> cases h
          | ok u =>
            rw [hac] at hl7
            simp only at hl7
            simp only [hl7, mbind_ok, List.nil_append]
            have hl8 := loop8_eq node ofBytes [(tiles.map toGen, data)] r tiles data hw idx ito
              ⟨tiles, order, stx, sto, tiles0.length, ito⟩ rfl hitolen hitolt hidx63 idx [] ito [] fuel rfl rfl rfl (by omega)
            simp only [List.length_nil, Int.natCast_zero, List.nil_append] at hl8
            cases hex : Tile.extract node ⟨tiles, order, stx, sto, tiles0.length, ito⟩ (data.map (unflatS ofBytes)) (idx.zip ito) with
            | error e8 =>
              rw [hex] at hl8
              obtain ⟨he8, msg, hmsg, hg8⟩ := hl8
              subst he8
              refine ⟨wrapErr "bad math in tileHashReader %d %v: lost hash %v: %v" (some msg), ?_, ?_, ?_⟩
              · simp [hg8, mbind_ok, mpure, rhOut]
              · intro e he
                simp only [Except.error.injEq] at he
                subst he
                exact Or.inr (Or.inr (Or.inr ⟨_, hmsg, rfl⟩))
              · intro p _ _ _ _
                refine ⟨fun hwf => (hnf hwd hwf).elim, fun _ hres => ?_⟩
                simp only [Except.error.injEq] at hres
                cases hres
            | ok vs =>
              rw [hex] at hl8
              simp only at hl8
              refine ⟨none, ?_, ?_, ?_⟩
              · simp [hl8, mbind_ok, mpure, rhOut]
              · intro e he; cases he
              · intro p _ _ _ _
                exact ⟨fun hwf => (hnf hwd hwf).elim, fun _ hres => by cases hres⟩

theorem ReadHashes_eq (fuel h N : Nat) (th : H) (idx : List Nat) (RT : List GTile → List Bytes × Option String)
    (serve : Tile.Tile → Option (List H)) (h1 : 1 ≤ h) (h57 : h ≤ 57) (hN : N < 2 ^ 62)
    (hserve : ServeRel ofBytes RT serve (planTiles h N idx)) (htl : (planTiles h N idx).length < 2 ^ 63)
    (hf : idx.length + (planTiles h N idx).length + 400 ≤ fuel) :
    ∃ msg, Generated.Tile.tileHashReader_ReadHashes node ofBytes fuel
        { tree := { N := (N : Int), Hash := th }, tr := { Height := (h : Int), ReadTiles := RT } } (idx.map Int.ofNat) =
      .ok (rhOut (Tile.readHashes node N th h idx serve) ((planTiles h N idx).map toGen)
        (RT ((planTiles h N idx).map toGen)).1 msg) ∧
      ∀ e, (Tile.readHashes node N th h idx serve).result = .error e → MsgOK (RT ((planTiles h N idx).map toGen)).2 e msg := by
  obtain ⟨msg, a, b, _⟩ := ReadHashes_eq_msg node ofBytes fuel h N th idx RT serve h1 h57 hN hserve htl hf
  exact ⟨msg, a, b⟩

end
end ModVerif.TieFnTile
