/-
  Helper lemmas for Tie/FnLex.lean: the embedding of the hand model's lexer state (Model/Modfile/Lex.lean,
  `Modfile.Input`) into the regenerated `input` struct of read.go (Generated/FnLex.lean), and the simulation of the
  leaf methods: isIdent, eof, peekRune, peekPrefix (byte loop), readRune, startToken, endToken, peek, isComment, isEOL.

  The two sides keep the lexer state differently:
  * Go keeps `complete` (whole file), `remaining` (a suffix of it), `tokenStart` (the suffix at the start of the
    pending token) and computes texts by slicing; the model keeps the consumed bytes reversed (`consumedRev`), the
    bytes of the pending token reversed (`tokRev`), and the comments reversed (`commentsRev`);
  * Go positions / token kinds are `int`s, the model's are `Nat`s / an inductive type.
  `embK k i` is the Go state that corresponds to the model state `i`, with the pending token's kind being the `int` `k`
  (the kind is the only component of the state for which `newInput` of the two sides differ: Go's zero token has kind 0,
  which is no token kind at all; the model's default is `.eof`; every `readToken` overwrites it).  `emb i` is `embK` at
  the kind code of the model's token kind.  `WF i` is the only invariant needed: `pos.byte = len(consumed)`.
-/
import ModVerif.Generated.FnLex
import ModVerif.Model.Modfile.Lex
import ModVerif.Drv.LexOps
import ModVerif.Proofs.GoRtLemmas
import ModVerif.Proofs.GoRtLemmasStr
import ModVerif.Proofs.GoRtLemmasModfile
import ModVerif.Proofs.GoRtLemmasLex
import ModVerif.Proofs.ModfileLex
namespace ModVerif.TieFnLex
open ModVerif ModVerif.GoRt ModVerif.GoRtStr ModVerif.GoRtModfile ModVerif.GoRtLex ModVerif.Modfile
open ModVerif.Drv.LexOps.G (isPrintI isSpaceI)
open ModVerif.Drv.LexOps.M (kindCode)

def embPos (p : Position) : Generated.Lex.Position :=
  { Line := (p.line : Int), LineRune := (p.lineRune : Int), Byte := (p.byte : Int) }

def embTokK (k : Int) (t : Token) : Generated.Lex.token :=
  { kind := k, pos := embPos t.pos, endPos := embPos t.endPos, text := t.text }

def embTok (t : Token) : Generated.Lex.token := embTokK (kindCode t.kind) t

def embComment (c : Comment) : Generated.Lex.Comment :=
  { Start := embPos c.start, Token := c.token, Suffix := c.suffix }

def embK (k : Int) (i : Input) : Generated.Lex.input :=
  { complete := i.consumedRev.reverse ++ i.remaining
    remaining := i.remaining
    tokenStart := i.tokRev.reverse ++ i.remaining
    token := embTokK k i.token
    pos := embPos i.pos
    comments := i.commentsRev.reverse.map embComment }

def emb (i : Input) : Generated.Lex.input := embK (kindCode i.token.kind) i

def WF (i : Input) : Prop := i.pos.byte = i.consumedRev.length

theorem kindCode_eq_eof (kd : TokKind) : (kindCode kd = -1) ↔ kd = .eof := by
  cases kd <;> simp [kindCode]

theorem isIdent_eq0 (c : Int) (h0 : 0 ≤ c) (h1 : c < 2147483648) :
    Generated.Lex.isIdent isPrintI isSpaceI c = Modfile.isIdent c.toNat := by
  unfold Generated.Lex.isIdent Modfile.isIdent Modfile.identExcluded
  simp only [toI32_id (by omega : -2147483648 ≤ c) h1, Id.run, isPrintI, isSpaceI]
  obtain ⟨n, rfl⟩ := Int.eq_ofNat_of_zero_le h0
  simp only [Int.toNat_natCast, List.contains_cons, List.contains_nil, Bool.or_false]
  simp only [show (32 : Int) = ((32 : Nat) : Int) from rfl, show (40 : Int) = ((40 : Nat) : Int) from rfl,
      show (41 : Int) = ((41 : Nat) : Int) from rfl, show (91 : Int) = ((91 : Nat) : Int) from rfl,
      show (93 : Int) = ((93 : Nat) : Int) from rfl, show (123 : Int) = ((123 : Nat) : Int) from rfl,
      show (125 : Int) = ((125 : Nat) : Int) from rfl, show (44 : Int) = ((44 : Nat) : Int) from rfl,
      natCast_eq_lit, Bool.or_assoc]
  split <;> rfl

/-- the whole int32 range: a negative rune matches no case label and is neither space nor printable (both sides see
    `toNat = 0`) -/
theorem isIdent_eqI (c : Int) (h0 : -2147483648 ≤ c) (h1 : c < 2147483648) :
    Generated.Lex.isIdent isPrintI isSpaceI c = Modfile.isIdent c.toNat := by
  by_cases hc : 0 ≤ c
  · exact isIdent_eq0 c hc h1
  · unfold Generated.Lex.isIdent Modfile.isIdent Modfile.identExcluded
    simp only [toI32_id h0 h1, Id.run, isPrintI, isSpaceI]
    have e : c.toNat = 0 := by omega
    have hne : ∀ k : Int, 0 ≤ k → decide (c = k) = false := by intro k hk; simp; omega
    rw [e]
    simp only [hne 32 (by omega), hne 40 (by omega), hne 41 (by omega), hne 91 (by omega), hne 93 (by omega),
      hne 123 (by omega), hne 125 (by omega), hne 44 (by omega)]
    simp
    rfl

theorem isIdent_eq (n : Nat) (h : n < 2147483648) :
    Generated.Lex.isIdent isPrintI isSpaceI (n : Int) = Modfile.isIdent n := by
  have := isIdent_eq0 (n : Int) (by omega) (by omega)
  simpa using this

theorem len_eq_zero_iff {α : Type} (s : List α) : len s = 0 ↔ s = [] := by
  cases s with
  | nil => simp
  | cons a t => simp [len_eq]; omega

theorem eof_eq (k : Int) (i : Input) : Generated.Lex.input_eof (embK k i) = i.eof := by
  unfold Generated.Lex.input_eof Input.eof embK
  cases i.remaining with
  | nil => simp
  | cons a t =>
    have : ¬ ((t.length : Int) + 1 = 0) := by omega
    simp [len_eq, this]

theorem peekRune_eq (k : Int) (i : Input) : Generated.Lex.input_peekRune (embK k i) = (i.peekRune : Int) := by
  unfold Generated.Lex.input_peekRune Input.peekRune embK
  cases h : i.remaining with
  | nil => simp [Id.run, pure]
  | cons b t =>
    have : ¬ (len (b :: t) = 0) := by simp [len_eq]; omega
    simp only [Id.run, this, decodeRune_cons, decide_false, Bool.false_eq_true, if_false, pure]

theorem peek_eq (i : Input) : Generated.Lex.input_peek (emb i) = kindCode i.peek := rfl

theorem peekRune_le (i : Input) : i.peekRune ≤ 0x10FFFF := by
  unfold Input.peekRune
  split
  · omega
  · exact decodeRune_le _

theorem isComment_eq (kd : TokKind) : Generated.Lex.tokenKind_isComment (kindCode kd) = kd.isComment := by
  cases kd <;> simp [Generated.Lex.tokenKind_isComment, kindCode, TokKind.isComment]

theorem isEOL_eq (kd : TokKind) : Generated.Lex.tokenKind_isEOL (kindCode kd) = kd.isEOL := by
  cases kd with
  | punct c =>
    show ((decide (((c.toNat : Nat) : Int) = -1) || decide (((c.toNat : Nat) : Int) = -2)) ||
      decide (((c.toNat : Nat) : Int) = ((10 : Nat) : Int))) = (c == 10)
    have h1 : decide (((c.toNat : Nat) : Int) = -1) = false := by simp
    have h2 : decide (((c.toNat : Nat) : Int) = -2) = false := by simp
    rw [h1, h2]
    exact byte_eq 10 c (by decide)
  | _ => simp [Generated.Lex.tokenKind_isEOL, kindCode, TokKind.isEOL]

/-! ### peekPrefix: the byte loop is `isPrefixOfB` -/

theorem peekPrefix_loop (gi : Generated.Lex.input) (p : Bytes) : ∀ (fuel k : Nat), k ≤ p.length → p.length - k < fuel →
    Generated.Lex.input_peekPrefix_loop1 gi p fuel (k : Int) =
      .ok (if isPrefixOfB (p.drop k) (gi.remaining.drop k) then Ctl.next (p.length : Int) else Ctl.ret false) := by
  intro fuel
  induction fuel with
  | zero => intro k _ h; omega
  | succ f ih =>
    intro k hk hf
    unfold Generated.Lex.input_peekPrefix_loop1
    by_cases hlt : k < p.length
    · have h1 : decide ((k : Int) < len p) = true := by simp [len_eq]; omega
      have hp : p.drop k = p[k] :: p.drop (k + 1) := List.drop_eq_getElem_cons hlt
      simp only [h1, if_true]
      by_cases hr : k < gi.remaining.length
      · have h2 : decide ((k : Int) ≥ len gi.remaining) = false := by simp [len_eq]; omega
        have hq : gi.remaining.drop k = gi.remaining[k] :: gi.remaining.drop (k + 1) := List.drop_eq_getElem_cons hr
        simp only [h2, idx_natCast hr, idx_natCast hlt, bind_ok, pure_eq_ok, Bool.false_eq_true, if_false]
        rw [hp, hq]
        simp only [isPrefixOfB]
        by_cases he : p[k] = gi.remaining[k]
        · have h3 : decide ((((gi.remaining[k]).toNat : Nat) : Int) = (((p[k]).toNat : Nat) : Int)) = true := by
            simp [he]
          simp only [he, beq_self_eq_true, Bool.true_and]
          have := ih (k + 1) (by omega) (by omega)
          rw [Int.natCast_add] at this
          exact this
        · have h3 : decide ((((gi.remaining[k]).toNat : Nat) : Int) = (((p[k]).toNat : Nat) : Int)) = false := by
            simp only [decide_eq_false_iff_not, byte_toInt_inj]; exact fun e => he e.symm
          have h4 : (p[k] == gi.remaining[k]) = false := by simp [he]
          simp [h3, h4]
      · have h2 : decide ((k : Int) ≥ len gi.remaining) = true := by simp [len_eq]; omega
        have hq : gi.remaining.drop k = [] := List.drop_eq_nil_of_le (by omega)
        simp only [h2, if_true, bind_ok, pure_eq_ok]
        rw [hp, hq]
        simp [isPrefixOfB]
    · have h1 : decide ((k : Int) < len p) = false := by simp [len_eq]; omega
      have hk' : k = p.length := by omega
      have hp : p.drop k = [] := List.drop_eq_nil_of_le (by omega)
      simp only [h1, Bool.false_eq_true, if_false, pure_eq_ok, hp, isPrefixOfB, if_true]
      rw [hk']

theorem peekPrefix_gen (gi : Generated.Lex.input) (p : Bytes) (fuel : Nat) (hf : p.length + 1 ≤ fuel) :
    Generated.Lex.input_peekPrefix fuel gi p = .ok (isPrefixOfB p gi.remaining) := by
  unfold Generated.Lex.input_peekPrefix
  have := peekPrefix_loop gi p fuel 0 (by omega) (by omega)
  rw [show ((0 : Nat) : Int) = 0 from rfl] at this
  simp only [List.drop_zero] at this
  simp only [this, bind_ok]
  split <;> rename_i h
  · split at h <;> simp_all
  · split at h <;> simp_all

theorem peekPrefix_eq (k : Int) (i : Input) (p : Bytes) (fuel : Nat) (hf : p.length + 1 ≤ fuel) :
    Generated.Lex.input_peekPrefix fuel (embK k i) p = .ok (i.peekPrefix p) :=
  peekPrefix_gen (embK k i) p fuel hf

theorem readRune_eof (k : Int) (i : Input) (h : i.remaining = []) :
    Generated.Lex.input_readRune (embK k i) = .error .panic := by
  unfold Generated.Lex.input_readRune embK
  simp [h]

theorem readRune_eof_model (i : Input) (h : i.remaining = []) : ∃ e, readRune i = .error e := by
  unfold readRune; rw [h]; exact ⟨_, rfl⟩

theorem readRune_eq (k : Int) (i : Input) (h : i.remaining ≠ []) (hw : WF i) :
    ∃ r i', readRune i = .ok (r, i') ∧ Generated.Lex.input_readRune (embK k i) = .ok ((r : Int), embK k i') ∧ WF i' ∧
      i'.remaining.length < i.remaining.length ∧ i'.token = i.token ∧ r = i.peekRune := by
  have hwd := decodeRune_width i.remaining h
  unfold readRune Input.peekRune
  cases hr : i.remaining with
  | nil => exact absurd hr h
  | cons b t =>
    rw [hr] at hwd
    refine ⟨_, _, rfl, ?_, ?_, ?_, rfl, rfl⟩
    · unfold Generated.Lex.input_readRune embK
      have h0 : ¬ (len (b :: t) = 0) := by simp [len_eq]; omega
      simp only [hr, h0, decide_false, Bool.false_eq_true, if_false, decodeRune_cons,
        sliceFrom_natCast hwd.2, bind_ok, pure_eq_ok, show (10 : Int) = ((10 : Nat) : Int) from rfl, natCast_eq_lit]
      cases h10 : ((Utf8.decodeRune (b :: t)).1 == 10)
      · simp [embPos, embTokK]
      · simp [embPos, embTokK]
    · unfold WF at *
      have : ((b :: t).take (Utf8.decodeRune (b :: t)).2).length = (Utf8.decodeRune (b :: t)).2 := by
        rw [List.length_take]; omega
      split <;> simp [this, hw] <;> omega
    · simp only [List.length_drop]; omega

theorem startToken_eq (k : Int) (i : Input) :
    Generated.Lex.input_startToken (embK k i) = ((), embK k (startToken i)) := by
  simp [Generated.Lex.input_startToken, embK, startToken, Id.run, embTokK, pure]

theorem startToken_wf {i : Input} (h : WF i) : WF (startToken i) := h

theorem endToken_wf {i : Input} (kd : TokKind) (h : WF i) : WF (endToken kd i) := h

/-- the text `endToken` stores, with the model's pattern match on the reversed token bytes spelled out as prefix tests -/
theorem endToken_text (kd : TokKind) (i : Input) :
    (endToken kd i).token.text =
      if kd.isComment then
        (if isPrefixOfB [10, 13] i.tokRev then (i.tokRev.drop 2).reverse
         else if isPrefixOfB [10] i.tokRev then (i.tokRev.drop 1).reverse else i.tokRev.reverse)
      else i.tokRev.reverse := by
  unfold endToken
  cases hc : kd.isComment
  · simp
  · simp only [if_true]
    split
    · rename_i r heq
      simp [heq, isPrefixOfB]
    · rename_i r h heq
      have h1 : isPrefixOfB [10, 13] (10 :: r) = false := by
        cases r with
        | nil => simp [isPrefixOfB]
        | cons d t =>
          have : d ≠ 13 := fun e => h t (by rw [e])
          simp [isPrefixOfB]; exact fun e => this e.symm
      simp [heq, h1, isPrefixOfB]
    · rename_i h1 h2
      have h3 : isPrefixOfB [10] i.tokRev = false := by
        cases hr : i.tokRev with
        | nil => simp [isPrefixOfB]
        | cons c t =>
          have : c ≠ 10 := fun e => h2 t (by rw [hr, e])
          simp [isPrefixOfB]; exact fun e => this e.symm
      have h4 : isPrefixOfB [10, 13] i.tokRev = false := by
        cases hr : i.tokRev with
        | nil => simp [isPrefixOfB]
        | cons c t =>
          have : c ≠ 10 := fun e => h2 t (by rw [hr, e])
          simp [isPrefixOfB]; exact fun e => (this e.symm).elim
      simp [h3, h4]

theorem endToken_eq (k : Int) (kd : TokKind) (i : Input) :
    Generated.Lex.input_endToken (embK k i) (kindCode kd) = .ok ((), emb (endToken kd i)) := by
  have hE : emb (endToken kd i) = { (embK k i) with token :=
      { kind := kindCode kd, pos := embPos i.token.pos, endPos := embPos i.pos, text := (endToken kd i).token.text } } := rfl
  rw [hE, endToken_text]
  unfold Generated.Lex.input_endToken
  have hl : len (embK k i).tokenStart - len (embK k i).remaining = (i.tokRev.reverse.length : Int) := by
    simp [embK, len_eq]
  have hs : sliceTo (i.tokRev.reverse ++ i.remaining) (i.tokRev.reverse.length : Int) = .ok i.tokRev.reverse := by
    rw [sliceTo_natCast (by simp)]; simp
  simp only [isComment_eq]
  show (do
    let t1 ← sliceTo (i.tokRev.reverse ++ i.remaining) (len (embK k i).tokenStart - len (embK k i).remaining)
    _) = _
  rw [hl, hs]
  simp only [bind_ok]
  cases hc : kd.isComment
  · simp [embK, embTokK, pure, Except.pure]
  · simp only [if_true, hasSuffix_reverse, trimSuffix_reverse]
    simp only [show ([13, 10] : Bytes).reverse = [10, 13] from rfl, show ([10] : Bytes).reverse = [10] from rfl]
    cases h1 : isPrefixOfB [10, 13] i.tokRev
    · simp [embK, embTokK, pure, Except.pure]
    · have hlen := isPrefixOfB_length_le h1
      simp only [List.length_cons, List.length_nil] at hlen
      have h2 : len i.tokRev.reverse - 2 = ((i.tokRev.length - 2 : Nat) : Int) := by simp [len_eq]; omega
      have h3 : i.tokRev.reverse.take (i.tokRev.length - 2) = (i.tokRev.drop 2).reverse := by
        rw [List.reverse_drop]
      simp only [if_true, h2]
      rw [sliceTo_natCast (by simp), h3]
      simp [embK, embTokK]

/-! ### states whose `tokenStart` is arbitrary

  Before `startToken` the field `tokenStart` is dead (Go's `newInput` leaves it nil, the model's `tokRev = []` stands for
  the whole remaining input): `embKT k ts i` is `embK k i` with `tokenStart := ts`.  The methods that run before
  `startToken` (eof, peekRune, peekPrefix, readRune) carry an arbitrary `ts` along; `startToken` overwrites it. -/

def embKT (k : Int) (ts : Bytes) (i : Input) : Generated.Lex.input := { (embK k i) with tokenStart := ts }

theorem embK_eq_embKT (k : Int) (i : Input) : embK k i = embKT k (i.tokRev.reverse ++ i.remaining) i := rfl

theorem eof_eqT (k : Int) (ts : Bytes) (i : Input) : Generated.Lex.input_eof (embKT k ts i) = i.eof := eof_eq k i

theorem peekRune_eqT (k : Int) (ts : Bytes) (i : Input) :
    Generated.Lex.input_peekRune (embKT k ts i) = (i.peekRune : Int) := peekRune_eq k i

theorem peekPrefix_eqT (k : Int) (ts : Bytes) (i : Input) (p : Bytes) (fuel : Nat) (hf : p.length + 1 ≤ fuel) :
    Generated.Lex.input_peekPrefix fuel (embKT k ts i) p = .ok (i.peekPrefix p) :=
  peekPrefix_gen (embKT k ts i) p fuel hf

theorem readRune_frame (gi : Generated.Lex.input) (ts : Bytes) :
    Generated.Lex.input_readRune { gi with tokenStart := ts } =
      match Generated.Lex.input_readRune gi with
      | .ok (r, g) => .ok (r, { g with tokenStart := ts })
      | .error e => .error e := by
  unfold Generated.Lex.input_readRune
  simp only []
  split
  · rfl
  · cases sliceFrom gi.remaining (decodeRune gi.remaining).2 with
    | error e => rfl
    | ok t => simp only [bind_ok]; split <;> rfl

theorem readRune_eofT (k : Int) (ts : Bytes) (i : Input) (h : i.remaining = []) :
    Generated.Lex.input_readRune (embKT k ts i) = .error .panic := by
  unfold embKT; rw [readRune_frame, readRune_eof k i h]

theorem readRune_eqT (k : Int) (ts : Bytes) (i : Input) (h : i.remaining ≠ []) (hw : WF i) :
    ∃ r i', readRune i = .ok (r, i') ∧ Generated.Lex.input_readRune (embKT k ts i) = .ok ((r : Int), embKT k ts i') ∧
      WF i' ∧ i'.remaining.length < i.remaining.length ∧ i'.token = i.token ∧ r = i.peekRune := by
  obtain ⟨r, i', hM, hG, rest⟩ := readRune_eq k i h hw
  refine ⟨r, i', hM, ?_, rest⟩
  unfold embKT; rw [readRune_frame, hG]

theorem startToken_eqT (k : Int) (ts : Bytes) (i : Input) :
    Generated.Lex.input_startToken (embKT k ts i) = ((), embK k (startToken i)) := by
  simp [Generated.Lex.input_startToken, embKT, embK, startToken, Id.run, embTokK, pure]

end ModVerif.TieFnLex
