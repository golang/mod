/- lexicographic comparator on lists (a proper prefix is smaller) and on options. -/
import ModVerif.Proofs.Cmp
namespace ModVerif

def listCmp {α : Type} (c : α → α → Int) : List α → List α → Int
  | [], [] => 0
  | [], _ :: _ => -1
  | _ :: _, [] => 1
  | x :: xs, y :: ys => if c x y ≠ 0 then c x y else listCmp c xs ys

theorem listCmp_strict {α : Type} {c : α → α → Int} (hc : StrictCmp c) : StrictCmp (listCmp c) where
  range := by
    intro x; induction x with
    | nil => intro y; cases y <;> simp [listCmp]
    | cons a as ih =>
      intro y; cases y with
      | nil => simp [listCmp]
      | cons b bs =>
        unfold listCmp; split
        · exact hc.range _ _
        · exact ih bs
  eq_iff := by
    intro x; induction x with
    | nil => intro y; cases y <;> simp [listCmp]
    | cons a as ih =>
      intro y; cases y with
      | nil => simp [listCmp]
      | cons b bs =>
        unfold listCmp
        by_cases h : c a b = 0
        · have e := (hc.eq_iff _ _).1 h
          subst e
          simp [hc.refl, ih bs]
        · have : a ≠ b := fun e => h ((hc.eq_iff _ _).2 e)
          simp [h, this]
  antisymm := by
    intro x; induction x with
    | nil => intro y; cases y <;> simp [listCmp]
    | cons a as ih =>
      intro y; cases y with
      | nil => simp [listCmp]
      | cons b bs =>
        unfold listCmp
        have a1 := hc.antisymm a b
        by_cases h : c a b = 0
        · have h' : c b a = 0 := by omega
          simp [h, h', ih bs]
        · have h' : c b a ≠ 0 := by omega
          simp [h', a1]
  trans := by
    intro x; induction x with
    | nil =>
      intro y z; cases y <;> cases z <;> simp [listCmp]
    | cons a as ih =>
      intro y z
      cases y with
      | nil => simp [listCmp]
      | cons b bs =>
        cases z with
        | nil => simp [listCmp]
        | cons d ds =>
          unfold listCmp
          intro h1 h2
          by_cases e1 : c a b = 0
          · have ab := (hc.eq_iff _ _).1 e1
            simp [e1] at h1
            by_cases e2 : c b d = 0
            · have bd := (hc.eq_iff _ _).1 e2
              simp [e2] at h2
              have : c a d = 0 := by rw [ab, bd]; exact hc.refl _
              simp [this]; exact ih bs ds h1 h2
            · simp [e2] at h2
              have : c a d = -1 := by rw [ab]; exact h2
              simp [this]
          · simp [e1] at h1
            by_cases e2 : c b d = 0
            · have bd := (hc.eq_iff _ _).1 e2
              have : c a d = -1 := by rw [← bd]; exact h1
              simp [this]
            · simp [e2] at h2
              have := hc.trans _ _ _ h1 h2
              simp [this]

/-- for prereleases: a version without one is higher -/
def optHighCmp {α : Type} (c : α → α → Int) : Option α → Option α → Int
  | none, none => 0
  | none, some _ => 1
  | some _, none => -1
  | some x, some y => c x y

theorem optHighCmp_strict {α : Type} {c : α → α → Int} (hc : StrictCmp c) : StrictCmp (optHighCmp c) where
  range := by intro x y; cases x <;> cases y <;> simp [optHighCmp]; exact hc.range _ _
  eq_iff := by intro x y; cases x <;> cases y <;> simp [optHighCmp]; exact hc.eq_iff _ _
  antisymm := by intro x y; cases x <;> cases y <;> simp [optHighCmp]; exact hc.antisymm _ _
  trans := by
    intro x y z; cases x <;> cases y <;> cases z <;> simp [optHighCmp]
    exact hc.trans _ _ _

/-- for parse results: invalid versions sort below valid ones -/
def optLowCmp {α : Type} (c : α → α → Int) : Option α → Option α → Int
  | none, none => 0
  | none, some _ => -1
  | some _, none => 1
  | some x, some y => c x y

theorem optLowCmp_strict {α : Type} {c : α → α → Int} (hc : StrictCmp c) : StrictCmp (optLowCmp c) where
  range := by intro x y; cases x <;> cases y <;> simp [optLowCmp]; exact hc.range _ _
  eq_iff := by intro x y; cases x <;> cases y <;> simp [optLowCmp]; exact hc.eq_iff _ _
  antisymm := by intro x y; cases x <;> cases y <;> simp [optLowCmp]; exact hc.antisymm _ _
  trans := by
    intro x y z; cases x <;> cases y <;> cases z <;> simp [optLowCmp]
    exact hc.trans _ _ _

end ModVerif
