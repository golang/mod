/-
  Tie proofs for sumdb/note/note.go (Generated/FnNoteKey.lean vs Model/Note.lean): strconv.ParseUint(hash16, 16, 32)
  behind the `len(hash16) == 8` test against the model's `parseHash16`, and the embeddings of the model's
  `Except KeyErr Verifier` / `Except KeyErr Signer` into the `(Verifier, error)` / `(Signer, error)` pairs of the Go functions.
-/
import ModVerif.Generated.FnNoteKey
import ModVerif.Model.Note
import ModVerif.Proofs.TieFnNoteSign
namespace ModVerif.TieFnNoteKey
open ModVerif ModVerif.GoRt ModVerif.TieFnNote ModVerif.TieFnNoteSign

abbrev GVerifier := Generated.Note.Verifier

/-! ### strconv.ParseUint(s, 16, 32) and the model's hex parser -/

theorem digitVal_hex (c : UInt8) :
    (match digitVal c with
     | none => none
     | some v => if v < 16 then some v else none) = Note.hexDigitVal c := by
  unfold digitVal Note.hexDigitVal
  simp only []
  by_cases h1 : 48 ≤ c.toNat ∧ c.toNat ≤ 57
  · have : c.toNat - 48 < 16 := by omega
    simp [h1, this]
  · by_cases h2 : 97 ≤ c.toNat ∧ c.toNat ≤ 122
    · by_cases h3 : c.toNat ≤ 102
      · have : c.toNat - 87 < 16 := by omega
        have h4 : 97 ≤ c.toNat ∧ c.toNat ≤ 102 := ⟨h2.1, h3⟩
        simp [h1, h2, h4, this]
      · have : ¬ c.toNat - 87 < 16 := by omega
        have h4 : ¬ (97 ≤ c.toNat ∧ c.toNat ≤ 102) := by omega
        have h5 : ¬ (65 ≤ c.toNat ∧ c.toNat ≤ 70) := by omega
        have h7 : 102 < c.toNat := by omega
        simp [h1, h2, h5, h7, this]
    · have h4 : ¬ (97 ≤ c.toNat ∧ c.toNat ≤ 102) := by omega
      by_cases h3 : 65 ≤ c.toNat ∧ c.toNat ≤ 90
      · by_cases h6 : c.toNat ≤ 70
        · have : c.toNat - 55 < 16 := by omega
          have h5 : 65 ≤ c.toNat ∧ c.toNat ≤ 70 := ⟨h3.1, h6⟩
          simp [h1, h2, h3, h4, h5, this]
        · have : ¬ c.toNat - 55 < 16 := by omega
          have h5 : ¬ (65 ≤ c.toNat ∧ c.toNat ≤ 70) := by omega
          have h7 : 70 < c.toNat := by omega
          simp [h1, h2, h3, h4, h7, this]
      · have h5 : ¬ (65 ≤ c.toNat ∧ c.toNat ≤ 70) := by omega
        simp [h1, h2, h3, h4, h5]

theorem parseDigits_hex : ∀ (s : Bytes) (acc : Nat), parseDigits 16 acc s = Note.parseHexAux acc s
  | [], acc => rfl
  | c :: rest, acc => by
    have h := digitVal_hex c
    simp only [parseDigits, Note.parseHexAux]
    cases hd : digitVal c with
    | none =>
      rw [hd] at h; simp only [] at h
      rw [← h]
    | some v =>
      rw [hd] at h; simp only [] at h
      by_cases hv : v < 16
      · rw [if_pos hv] at h
        rw [← h]; simp only []; rw [if_pos hv]
        exact parseDigits_hex rest _
      · rw [if_neg hv] at h
        rw [← h]; simp only []; rw [if_neg hv]

theorem hexDigitVal_lt {c : UInt8} {v : Nat} (h : Note.hexDigitVal c = some v) : v < 16 := by
  rw [← digitVal_hex] at h
  cases hd : digitVal c with
  | none => rw [hd] at h; cases h
  | some w =>
    rw [hd] at h; simp only [] at h
    by_cases hw : w < 16
    · rw [if_pos hw] at h; cases h; exact hw
    · rw [if_neg hw] at h; cases h

theorem parseHexAux_lt : ∀ (s : Bytes) (acc v : Nat), Note.parseHexAux acc s = some v → v < (acc + 1) * 16 ^ s.length
  | [], acc, v, h => by
    simp only [Note.parseHexAux] at h; cases h; simp
  | c :: rest, acc, v, h => by
    simp only [Note.parseHexAux] at h
    cases hd : Note.hexDigitVal c with
    | none => rw [hd] at h; cases h
    | some d =>
      rw [hd] at h; simp only [] at h
      have hlt := hexDigitVal_lt hd
      have ih := parseHexAux_lt rest _ v h
      have hle : (acc * 16 + d + 1) * 16 ^ rest.length ≤ ((acc + 1) * 16) * 16 ^ rest.length :=
        Nat.mul_le_mul_right _ (by omega)
      simp only [List.length_cons, Nat.pow_succ]
      calc v < (acc * 16 + d + 1) * 16 ^ rest.length := ih
        _ ≤ ((acc + 1) * 16) * 16 ^ rest.length := hle
        _ = (acc + 1) * (16 ^ rest.length * 16) := by rw [Nat.mul_assoc, Nat.mul_comm 16]

theorem parseHexAux_eight {s : Bytes} {v : Nat} (hl : s.length = 8) (h : Note.parseHexAux 0 s = some v) :
    v < 4294967296 := by
  have := parseHexAux_lt s 0 v h
  rw [hl] at this
  simpa using this

theorem parseUint_eight {s : Bytes} (hl : s.length = 8) :
    parseUint s 16 32 =
      match Note.parseHexAux 0 s with
      | some v => ((v : Int), none)
      | none => (0, some "strconv.ParseUint: invalid syntax") := by
  have hne : s.isEmpty = false := by
    cases s with
    | nil => simp at hl
    | cons _ _ => rfl
  have h16 : (16 : Int).toNat = 16 := rfl
  have h32 : (2 : Nat) ^ (32 : Int).toNat = 4294967296 := by decide
  unfold parseUint
  rw [if_neg (by omega), hne, h16, h32, parseDigits_hex]
  simp only [Bool.false_eq_true, if_false]
  cases hp : Note.parseHexAux 0 s with
  | none => rfl
  | some v =>
    simp only []
    rw [if_pos (parseHexAux_eight hl hp)]

theorem len_eq_eight {s : Bytes} : len s = 8 ↔ s.length = 8 := by
  unfold len; simp only [Int.ofNat_eq_natCast]; omega

theorem parseHash16_some {s : Bytes} {h : UInt32} (hp : Note.parseHash16 s = some h) :
    len s = 8 ∧ parseUint s 16 32 = (hashI h, none) := by
  unfold Note.parseHash16 at hp
  by_cases hl : s.length = 8
  · have hl' : (s.length != 8) = false := by simp [hl]
    rw [hl'] at hp
    simp only [Bool.false_eq_true, if_false] at hp
    refine ⟨len_eq_eight.mpr hl, ?_⟩
    rw [parseUint_eight hl]
    cases hx : Note.parseHexAux 0 s with
    | none => rw [hx] at hp; cases hp
    | some v =>
      rw [hx] at hp
      simp only [Option.map_some, Option.some.injEq] at hp
      have hv := parseHexAux_eight hl hx
      subst hp
      simp only [hashI, Int.ofNat_eq_natCast]
      have : (UInt32.ofNat v).toNat = v := by
        simp only [UInt32.toNat_ofNat']
        exact Nat.mod_eq_of_lt hv
      rw [this]
  · have hl' : (s.length != 8) = true := by simp [hl]
    rw [hl'] at hp; simp at hp

theorem parseHash16_none {s : Bytes} (hp : Note.parseHash16 s = none) :
    ¬ (len s = 8 ∧ (parseUint s 16 32).2 = none) := by
  rintro ⟨hl, he⟩
  have hl := len_eq_eight.mp hl
  unfold Note.parseHash16 at hp
  have hl' : (s.length != 8) = false := by simp [hl]
  rw [hl'] at hp
  simp only [Bool.false_eq_true, if_false] at hp
  rw [parseUint_eight hl] at he
  cases hx : Note.parseHexAux 0 s with
  | none => rw [hx] at he; simp at he
  | some v => rw [hx] at hp; simp at hp

theorem toU32_hashI (h : UInt32) : toU32 (hashI h) = hashI h := by
  have hlt : h.toNat < 4294967296 := h.toNat_lt
  simp only [toU32, hashI, Int.ofNat_eq_natCast]; omega

/-- the model's result of NewVerifier as the result of the generated function: the `(Verifier, error)` pair of the Go
    function, or the run-time panic of `binary.BigEndian.Uint32` (only with a `sha` returning fewer than 4 bytes) -/
def embedVerifier : Except Note.KeyErr Note.Verifier → M (GVerifier × Option String)
  | .ok v => .ok ({ Name := v.name, KeyHash := Int.ofNat v.hash.toNat, Verify := v.verify }, none)
  | .error .id => .ok (default, some "errVerifierID")
  | .error .alg => .ok (default, some "errVerifierAlg")
  | .error .hash => .ok (default, some "errVerifierHash")
  | .error .panic => .error .panic

/-- likewise for NewSigner; the Go signer's `Sign` never fails (`ed25519.Sign`) -/
def embedSigner : Except Note.KeyErr Note.Signer → M (GSigner × Option String)
  | .ok s => .ok (gsigner s, none)
  | .error .id => .ok (default, some "errSignerID")
  | .error .alg => .ok (default, some "errSignerAlg")
  | .error .hash => .ok (default, some "errSignerHash")
  | .error .panic => .error .panic

theorem embedVerifier_ok_inv {r : Except Note.KeyErr Note.Verifier} {gv : GVerifier}
    (h : embedVerifier r = .ok (gv, none)) :
    ∃ v, r = .ok v ∧ gv = { Name := v.name, KeyHash := Int.ofNat v.hash.toNat, Verify := v.verify } := by
  match r, h with
  | .ok v, h =>
    simp only [embedVerifier, Except.ok.injEq, Prod.mk.injEq, and_true] at h
    exact ⟨v, rfl, h.symm⟩
  | .error .id, h => simp [embedVerifier] at h
  | .error .alg, h => simp [embedVerifier] at h
  | .error .hash, h => simp [embedVerifier] at h
  | .error .panic, h => simp [embedVerifier] at h

theorem embedSigner_ok_inv {r : Except Note.KeyErr Note.Signer} {gs : GSigner}
    (h : embedSigner r = .ok (gs, none)) : ∃ s, r = .ok s ∧ gs = gsigner s := by
  match r, h with
  | .ok s, h =>
    simp only [embedSigner, Except.ok.injEq, Prod.mk.injEq, and_true] at h
    exact ⟨s, rfl, h.symm⟩
  | .error .id, h => simp [embedSigner] at h
  | .error .alg, h => simp [embedSigner] at h
  | .error .hash, h => simp [embedSigner] at h
  | .error .panic, h => simp [embedSigner] at h

theorem NewVerifier_eq (sha : Bytes → Bytes) (edVerify : Bytes → Bytes → Bytes → Bool) (vkey : Bytes) :
    Generated.NoteKey.NewVerifier b64decI edVerify isSpaceI (fun acc pre => pre ++ sha acc) vkey =
      embedVerifier (Note.NewVerifier sha edVerify vkey) := by
  unfold Generated.NoteKey.NewVerifier Note.NewVerifier
  rw [chop_eq]; simp only [bind_ok]
  rcases Note.chop vkey [43] with ⟨name, vkey1⟩
  simp only []
  rw [chop_eq]; simp only [bind_ok]
  rcases Note.chop vkey1 [43] with ⟨hash16, key64⟩
  simp only []
  rw [isValidName_eq]
  cases hp : Note.parseHash16 hash16 with
  | none =>
    have hn := parseHash16_none hp
    have hc : (!decide (len hash16 = 8) || !(parseUint hash16 16 32).snd.isNone) = true := by
      by_cases h8 : len hash16 = 8
      · cases he : (parseUint hash16 16 32).snd with
        | none => exact absurd ⟨h8, he⟩ hn
        | some _ => simp
      · simp [h8]
    rw [hc]
    simp [embedVerifier]
  | some h =>
    obtain ⟨h8, hu⟩ := parseHash16_some hp
    rw [hu, h8]
    cases hb : B64.b64dec key64 with
    | none =>
      have hbi : b64decI key64 = ([], some "illegal base64 data") := by simp [b64decI, hb]
      rw [hbi]
      simp [embedVerifier]
    | some key =>
      have hbi : b64decI key64 = (key, none) := by simp [b64decI, hb]
      rw [hbi]
      simp only [toU32_hashI]
      rw [keyHash_eq]
      cases key with
      | nil => simp [embedVerifier]
      | cons alg pub =>
        cases hv : Note.isValidName name with
        | false => simp [embedVerifier]
        | true =>
          have hlen : ¬ (len pub + 1 = 0) := by
            have := len_nonneg pub
            omega
          cases hk : Note.keyHash sha name (alg :: pub) with
          | none => simp [embedVerifier, hlen]
          | some kh =>
            by_cases hh : h = kh
            · subst hh
              by_cases ha : alg.toNat = 1
              · have ha' : ((alg.toNat : Nat) : Int) = 1 := by omega
                by_cases hl : pub.length = 32
                · have hl' : len pub = 32 := by simp [len, hl]
                  simp [embedVerifier, Note.algEd25519, ha, hl, hl',
                    Generated.NoteKey.verifier_Name, Generated.NoteKey.verifier_KeyHash,
                    Generated.NoteKey.verifier_Verify, hashI]
                · have hl' : ¬ len pub = 32 := by
                    simp only [len, Int.ofNat_eq_natCast]; omega
                  simp [embedVerifier, hlen, Note.algEd25519, ha, hl, hl']
              · have ha' : ¬ ((alg.toNat : Nat) : Int) = 1 := by omega
                simp [embedVerifier, hlen, Note.algEd25519, ha, ha']
            · have hh' : ¬ hashI h = hashI kh := fun e => hh (hashI_inj.mp e)
              simp [embedVerifier, hlen, hh, hh']

theorem NewSigner_eq (sha : Bytes → Bytes) (edPub : Bytes → Bytes) (edSign edSignG : Bytes → Bytes → Bytes)
    (hsign : ∀ seed msg, seed.length = 32 → edSignG (seed ++ edPub seed) msg = edSign seed msg) (skey : Bytes) :
    Generated.NoteKey.NewSigner b64decI (fun seed => seed ++ edPub seed) edSignG isSpaceI (fun acc pre => pre ++ sha acc) skey =
      embedSigner (Note.NewSigner sha edPub edSign skey) := by
  unfold Generated.NoteKey.NewSigner Note.NewSigner
  rw [chop_eq]; simp only [bind_ok]
  rcases Note.chop skey [43] with ⟨priv1, s1⟩
  simp only []
  rw [chop_eq]; simp only [bind_ok]
  rcases Note.chop s1 [43] with ⟨priv2, s2⟩
  simp only []
  rw [chop_eq]; simp only [bind_ok]
  rcases Note.chop s2 [43] with ⟨name, s3⟩
  simp only []
  rw [chop_eq]; simp only [bind_ok]
  rcases Note.chop s3 [43] with ⟨hash16, key64⟩
  simp only []
  rw [isValidName_eq]
  cases hp : Note.parseHash16 hash16 with
  | none =>
    have hn := parseHash16_none hp
    have hc : (!decide (len hash16 = 8) || !(parseUint hash16 16 32).snd.isNone) = true := by
      by_cases h8 : len hash16 = 8
      · cases he : (parseUint hash16 16 32).snd with
        | none => exact absurd ⟨h8, he⟩ hn
        | some _ => simp
      · simp [h8]
    have hc' : ∀ a b c d e : Bool,
        (a || b || !decide (len hash16 = 8) || !(parseUint hash16 16 32).snd.isNone || c || d || e) = true := by
      intro a b c d e
      rw [Bool.or_assoc (a || b), hc]; simp
    rw [if_pos (hc' _ _ _ _ _)]
    simp [embedSigner]
  | some h =>
    obtain ⟨h8, hu⟩ := parseHash16_some hp
    rw [hu, h8]
    cases hb : B64.b64dec key64 with
    | none =>
      have hbi : b64decI key64 = ([], some "illegal base64 data") := by simp [b64decI, hb]
      rw [hbi]
      simp [embedSigner]
    | some key =>
      have hbi : b64decI key64 = (key, none) := by simp [b64decI, hb]
      rw [hbi]
      simp only [toU32_hashI]
      have hP : B "PRIVATE" = [80, 82, 73, 86, 65, 84, 69] := by decide +kernel
      have hK : B "KEY" = [75, 69, 89] := by decide +kernel
      rw [hP, hK]
      cases key with
      | nil => simp [embedSigner]
      | cons alg seed =>
        by_cases h1 : priv1 = [80, 82, 73, 86, 65, 84, 69]
        · by_cases h2 : priv2 = [75, 69, 89]
          · cases hv : Note.isValidName name with
            | false => simp [embedSigner]
            | true =>
              have hlen : ¬ (len seed + 1 = 0) := by
                have := len_nonneg seed
                omega
              by_cases ha : alg.toNat = 1
              · by_cases hl : seed.length = 32
                · have hl' : len seed = 32 := by simp [len, hl]
                  have hs : sliceFrom (seed ++ edPub seed) 32 = .ok (edPub seed) := by
                    have := sliceFrom_natCast (v := seed ++ edPub seed) (k := 32) (by simp [hl])
                    rw [show ((32 : Nat) : Int) = 32 from rfl] at this
                    rw [this, ← hl]; simp
                  have hm : mkByte 1 = UInt8.ofNat Note.algEd25519 := by decide
                  simp only [h1, h2, idx_zero_cons, sliceFrom_one_cons, bind_ok, hl', hs, List.singleton_append,
                    keyHash_eq, hm]
                  cases hk : Note.keyHash sha name (UInt8.ofNat Note.algEd25519 :: edPub seed) with
                  | none => simp [embedSigner, hlen, Note.algEd25519, ha, hl]
                  | some kh =>
                    by_cases hh : h = kh
                    · subst hh
                      have hf : (fun msg => (edSignG (seed ++ edPub seed) msg, (none : Option String))) =
                          fun msg => (edSign seed msg, none) := by
                        funext msg; rw [hsign seed msg hl]
                      simp [embedSigner, hlen, Note.algEd25519, ha, hl, gsigner,
                        Generated.NoteKey.signer_Name, Generated.NoteKey.signer_KeyHash,
                        Generated.NoteKey.signer_Sign, hashI, hf]
                    · have hh' : ¬ hashI h = hashI kh := fun e => hh (hashI_inj.mp e)
                      simp [embedSigner, hlen, Note.algEd25519, ha, hl, hh, hh']
                · have hl' : ¬ len seed = 32 := by
                    simp only [len, Int.ofNat_eq_natCast]; omega
                  simp [embedSigner, hlen, Note.algEd25519, h1, h2, ha, hl, hl']
              · have ha' : ¬ ((alg.toNat : Nat) : Int) = 1 := by omega
                simp [embedSigner, hlen, Note.algEd25519, h1, h2, ha, ha']
          · simp [embedSigner, h2]
        · simp [embedSigner, h1]

end ModVerif.TieFnNoteKey
