/-
  The exported provers `TreeHash`, `ProveRecord`, `ProveTree` of the generated code against the model's
  `treeHash`, `proveRecord`, `proveTree` over the reader `readerOf r` (natural-number arguments; the Int-argument tie
  theorems are in Tie/FnTlogProof.lean).
-/
import ModVerif.Proofs.TieFnTlogProofProve
import ModVerif.Proofs.TieFnTlogProofIndex
import ModVerif.Proofs.TieFnTlogProofPanic
namespace ModVerif.Tie.FnTlogProof
open ModVerif ModVerif.GoRt ModVerif.TieFnTlogInt

/-- the indexes a model index function asks for (`[]` when it fails) -/
def idxOf : Except Tlog.Err (List Nat) → List Nat
  | .ok l => l
  | .error _ => []

/-- a model result as the `(value, error)` pair of an exported function that reads hashes: `inv` is the function's
    "invalid inputs" text, `rerr` the error value of a failed read (`readErrOf`), `dflt` the value returned next to an error;
    the remaining model errors are the Go panic sites. -/
def readOut {α : Type} (dflt : α) (inv : String) (rerr : Option String) : Except Tlog.Err α → M (α × Option String)
  | .ok a => .ok (a, none)
  | .error .invalid => .ok (dflt, some inv)
  | .error .reader => .ok (dflt, rerr)
  | .error _ => .error .panic

/-- a reader of the translated code over a dense store (the honest reader; used by the non-vacuity examples) -/
def genReader {H : Type} (st : List H) : List Int → List H × Option String := fun idx =>
  match idx.mapM (fun i => st[i.toNat]?) with
  | some hs => (hs, none)
  | none => ([], some "missing hash")

theorem mapM_map_ofNat {H : Type} (st : List H) : ∀ idx : List Nat,
    (idx.map Int.ofNat).mapM (fun i => st[i.toNat]?) = idx.mapM (st[·]?) := by
  intro idx
  induction idx with
  | nil => rfl
  | cons a l ih =>
    simp only [List.map_cons, List.mapM_cons, ih]
    rfl

theorem readerOf_genReader {H : Type} (st : List H) : readerOf (genReader st) = Tlog.storeReader st := by
  funext idx
  unfold readerOf genReader Tlog.storeReader
  rw [mapM_map_ofNat]
  cases idx.mapM (st[·]?) <;> rfl

section
variable {H : Type} [DecidableEq H] [Inhabited H] (node : H → H → H)

omit [DecidableEq H] [Inhabited H] in
theorem readChecked_readerOf (r : List Int → List H × Option String) (idx : List Nat) :
    Tlog.readChecked (readerOf r) idx =
      match r (idx.map Int.ofNat) with
      | (hs, none) => if hs.length != idx.length then .error .reader else .ok hs
      | (_, some _) => .error .reader := by
  unfold Tlog.readChecked readerOf
  split <;> rename_i h <;> split at h <;> simp_all

omit [DecidableEq H] [Inhabited H] in
theorem readErrOf_eq (r : List Int → List H × Option String) (idx : List Nat) :
    readErrOf r idx = match r (idx.map Int.ofNat) with
      | (_, some e) => some e
      | (_, none) => some "tlog: ReadHashes(%d indexes) = %d hashes" := by
  unfold readErrOf
  split <;> rename_i h <;> split <;> simp_all

omit [DecidableEq H] [Inhabited H] in
/-- the read step shared by the three functions: `r.ReadHashes(indexes)` followed by the length check -/
theorem read_step {β : Type} (r : List Int → List H × Option String) (idx : List Nat) (dflt : β)
    (k : List H → M (β × Option String)) :
    (if (!((r (([] : List Int) ++ idx.map Int.ofNat)).snd).isNone) = true then
        (pure (dflt, (r (([] : List Int) ++ idx.map Int.ofNat)).snd) : M (β × Option String))
      else if (!decide (len (r (([] : List Int) ++ idx.map Int.ofNat)).fst =
          len (([] : List Int) ++ idx.map Int.ofNat))) = true then
        pure (dflt, some "tlog: ReadHashes(%d indexes) = %d hashes")
      else k (r (([] : List Int) ++ idx.map Int.ofNat)).fst) =
    match Tlog.readChecked (readerOf r) idx with
      | .ok hs => k hs
      | .error _ => .ok (dflt, readErrOf r idx) := by
  rw [List.nil_append]
  rw [readChecked_readerOf, readErrOf_eq]
  generalize r (idx.map Int.ofNat) = x
  obtain ⟨hs, err⟩ := x
  cases err with
  | some e => simp
  | none =>
    by_cases hl : hs.length = idx.length
    · simp [len, hl]
    · have hl' : ¬ ((hs.length : Int) = (idx.length : Int)) := by omega
      simp [len, hl, hl']

omit [DecidableEq H] [Inhabited H] in
theorem readChecked_err (r : Tlog.HashReader H) (idx : List Nat) (e : Tlog.Err)
    (h : Tlog.readChecked r idx = .error e) : e = .reader := by
  unfold Tlog.readChecked at h
  split at h
  · cases h; rfl
  · split at h <;> cases h; rfl

omit [DecidableEq H] [Inhabited H] in
/-- what the three exported functions do once the indexes are known: read, run the hash recursion `gen` (which computes
    the model's `mod`), insist that every hash was consumed -/
theorem read_and_hash {β : Type} (r : List Int → List H × Option String) (idx : List Nat) (dflt : β) (inv : String)
    (gen : List H → M (β × List H)) (mod : List H → Except Tlog.Err (β × List H))
    (hgm : ∀ hs, gen hs = toM (mod hs)) (hpo : ∀ hs, PanicOnly (mod hs)) :
    (match Tlog.readChecked (readerOf r) idx with
      | .ok hs => do
          let t2 ← gen hs
          if (!decide (len t2.snd = 0)) = true then throw Err.panic else pure (t2.fst, none)
      | .error _ => .ok (dflt, readErrOf r idx)) =
    readOut dflt inv (readErrOf r idx) (do
      let hashes ← Tlog.readChecked (readerOf r) idx
      let (p, rest) ← mod hashes
      if rest.length != 0 then .error .panic else pure p) := by
  cases hrd : Tlog.readChecked (readerOf r) idx with
  | error e =>
    have := readChecked_err _ _ _ hrd
    subst this; rfl
  | ok hs =>
    simp only [mbind_ok]
    rw [hgm hs]
    cases hlf : mod hs with
    | error e => rcases hpo hs e hlf with rfl | rfl <;> rfl
    | ok a =>
      obtain ⟨p, rest⟩ := a
      simp only [toM_ok, mbind_ok]
      by_cases hr : rest = []
      · subst hr; simp [len, readOut, mbind_ok, mpure]
      · have hr' : rest.length ≠ 0 := by simpa using hr
        simp [len, readOut, hr', mbind_ok, mpure]

theorem ProveRecord_ok (fuel t n : Nat) (r : List Int → List H × Option String)
    (hn : n < t) (ht : t ≤ 2 ^ 62) (hf : t + 127 ≤ fuel) :
    Generated.Tlog.ProveRecord node fuel (t : Int) (n : Int) r =
      readOut [] "tlog: invalid inputs in ProveRecord" (readErrOf r (idxOf (Tlog.leafProofIndex 0 t n)))
        (Tlog.proveRecord node (t : Int) (n : Int) (readerOf r)) := by
  unfold Generated.Tlog.ProveRecord Tlog.proveRecord
  have hg : (decide ((t : Int) < 0) || decide ((n : Int) < 0) || decide ((n : Int) ≥ (t : Int))) = false := by
    simp; omega
  simp only [hg, Bool.false_eq_true, if_false, Int.toNat_natCast]
  have hix := leafProofIndex_ok fuel (t - 0) 0 t n [] ht (Nat.le_refl _) (by omega)
  simp only [Int.natCast_zero] at hix
  rw [hix]
  unfold Tlog.leafProofIndex
  have hpo := leafProofIndexF_panicOnly (t - 0) 0 t n
  cases hidx : Tlog.leafProofIndexF (t - 0) 0 t n with
  | error e => rcases hpo e hidx with rfl | rfl <;> rfl
  | ok idx =>
    simp only [subTreeIndexOut, mbind_ok, idxOf]
    by_cases hz : idx = []
    · subst hz; simp [len, readOut, mbind_ok, mpure]
    · have hz' : idx.length ≠ 0 := by simpa using hz
      have e1 : decide (len (([] : List Int) ++ idx.map Int.ofNat) = 0) = false := by
        simp only [len_eq, List.nil_append, List.length_map]; exact decide_eq_false (by omega)
      have e2 : (idx.length == 0) = false := by simpa using hz'
      simp only [e1, e2, Bool.false_eq_true, if_false]
      rw [read_step r idx ([] : List H) (fun hs0 => do
            let t2 ← Generated.Tlog.leafProof node fuel 0 (↑t) (↑n) hs0
            if (!decide (len t2.snd = 0)) = true then throw Err.panic else pure (t2.fst, none))]
      exact read_and_hash r idx [] _ _ (Tlog.leafProof node 0 t n)
        (fun hs => by
          have h := leafProof_ok node fuel (t - 0) 0 t n hs (by omega) (Nat.le_refl _) (by omega)
          rwa [Int.natCast_zero] at h)
        (fun hs => leafProofF_panicOnly node (t - 0) 0 t n hs)

theorem ProveTree_ok (fuel t n : Nat) (r : List Int → List H × Option String)
    (h1 : 1 ≤ n) (hn : n ≤ t) (ht : t ≤ 2 ^ 62) (hf : t + 127 ≤ fuel) :
    Generated.Tlog.ProveTree node fuel (t : Int) (n : Int) r =
      readOut [] "tlog: invalid inputs in ProveTree" (readErrOf r (idxOf (Tlog.treeProofIndex 0 t n)))
        (Tlog.proveTree node (t : Int) (n : Int) (readerOf r)) := by
  unfold Generated.Tlog.ProveTree Tlog.proveTree
  have hg : (decide ((t : Int) < 1) || decide ((n : Int) < 1) || decide ((n : Int) > (t : Int))) = false := by
    simp; omega
  simp only [hg, Bool.false_eq_true, if_false, Int.toNat_natCast]
  have hix := treeProofIndex_ok fuel (t - 0) 0 t n [] ht (Nat.le_refl _) (by omega)
  simp only [Int.natCast_zero] at hix
  rw [hix]
  unfold Tlog.treeProofIndex
  have hpo := treeProofIndexF_panicOnly (t - 0) 0 t n
  cases hidx : Tlog.treeProofIndexF (t - 0) 0 t n with
  | error e => rcases hpo e hidx with rfl | rfl <;> rfl
  | ok idx =>
    simp only [subTreeIndexOut, mbind_ok, idxOf]
    by_cases hz : idx = []
    · subst hz; simp [len, readOut, mbind_ok, mpure]
    · have hz' : idx.length ≠ 0 := by simpa using hz
      have e1 : decide (len (([] : List Int) ++ idx.map Int.ofNat) = 0) = false := by
        simp only [len_eq, List.nil_append, List.length_map]; exact decide_eq_false (by omega)
      have e2 : (idx.length == 0) = false := by simpa using hz'
      simp only [e1, e2, Bool.false_eq_true, if_false]
      rw [read_step r idx ([] : List H) (fun hs0 => do
            let t2 ← Generated.Tlog.treeProof node fuel 0 (↑t) (↑n) hs0
            if (!decide (len t2.snd = 0)) = true then throw Err.panic else pure (t2.fst, none))]
      exact read_and_hash r idx [] _ _ (Tlog.treeProof node 0 t n)
        (fun hs => by
          have h := treeProof_ok node fuel (t - 0) 0 t n hs (by omega) (Nat.le_refl _) (by omega)
          rwa [Int.natCast_zero] at h)
        (fun hs => treeProofF_panicOnly node (t - 0) 0 t n hs)

theorem TreeHash_ok (empty : H) (fuel n : Nat) (r : List Int → List H × Option String)
    (hn : n ≤ 2 ^ 62) (hf : n + 127 ≤ fuel) :
    Generated.Tlog.TreeHash empty node fuel (n : Int) r =
      readOut default "" (readErrOf r (idxOf (Tlog.subTreeIndex 0 n)))
        (Tlog.treeHash node empty n (readerOf r)) := by
  unfold Generated.Tlog.TreeHash Tlog.treeHash
  by_cases hz : n = 0
  · subst hz; simp [readOut]
  · have e1 : decide ((n : Int) = 0) = false := decide_eq_false (by omega)
    have e2 : (n == 0) = false := by simpa using hz
    simp only [e1, e2, Bool.false_eq_true, if_false]
    have hix := subTreeIndex_eq fuel 0 n [] hn (by omega)
    simp only [Int.natCast_zero] at hix
    rw [hix]
    have hpo := subTreeIndex_panicOnly 0 n
    cases hidx : Tlog.subTreeIndex 0 n with
    | error e => rcases hpo e hidx with rfl | rfl <;> rfl
    | ok idx =>
      simp only [subTreeIndexOut, mbind_ok, idxOf]
      rw [read_step r idx (default : H) (fun hs0 => do
            let t2 ← Generated.Tlog.subTreeHash node fuel 0 (↑n) hs0
            if (!decide (len t2.snd = 0)) = true then throw Err.panic else pure (t2.fst, none))]
      exact read_and_hash r idx default _ _ (Tlog.subTreeHash node 0 n)
        (fun hs => by simpa using subTreeHash_ok node fuel 0 n hs (by omega) (by omega) (by omega))
        (fun hs => subTreeHash_panicOnly node 0 n hs)

end
end ModVerif.Tie.FnTlogProof
