/-
  `Module.Deprecated` and `Retract.Rationale` (the comment-derived values) survive formatting.

  `File.add` derives the two values from the COMMENTS of the directive's line — or, for a block line without
  comments of its own, of the enclosing block — through `parseDirectiveComment` / `parseDeprecation`.
  `parseDirectiveComment` gives the same text for a printed line and for the line its formatted text parses to
  (positions erased, every comment text trimmed): `directiveText_trim` for the texts, placeholders stay placeholders,
  list lengths (hence the line-vs-block choice of `parseDirectiveComment`) are preserved.  So the replay of a run on the
  re-parse (`walkStmts_reparse`) carries the two values along with the directive values; the end-of-line comment of a
  block node, which the re-parse finds on `)`, belongs to a block without lines (`parse_blockSuf`).
-/
import ModVerif.Proofs.ModfileEolReplay
import ModVerif.Proofs.ModfileFmtComBlock
import ModVerif.Proofs.ModfileFmtTrim

/-
  Comment-derived values (`Module.Deprecated`, `Retract.Rationale`): for a `//` comment text `c`,
  `trimSpace ((trimSpace c).drop 2) = trimSpace (c.drop 2)` (`directiveText_trim`) — the text
  `parseDirectiveComment` extracts from a comment does not change when the printer writes the comment trimmed.
-/
namespace ModVerif.Proofs.ModfileFmtCom
open ModVerif ModVerif.GoStrings ModVerif.Proofs.ModfileLex ModVerif.Proofs.ModfileFmtUtf8
open ModVerif.Proofs.ModfileFmtLex ModVerif.Proofs.ModfileFmtTrim

/-- `TrimSpace(TrimPrefix(c, "//"))`, what `parseDirectiveComment` extracts, on the comment text and on the trimmed text the
    printer writes -/
theorem directiveText_trim {c : Bytes} (h : CommentOK c) :
    trimSpace ((trimSpace c).drop 2) = trimSpace (c.drop 2) := by
  obtain ⟨e, heq, he, hok⟩ := trimSpace_comment_strong h
  obtain ⟨u, hu⟩ := commentOK_cons hok
  have hc : c.drop 2 = u ++ e := by
    rw [heq, hu]; rfl
  rw [hc, hu]
  exact (trimSpace_append_spaceSeq u e he).symm

example : CommentOK [47, 47, 32, 120, 32, 0xC2, 0xA0, 13] := ⟨by decide, by decide⟩
example : trimSpace (([47, 47, 32, 120, 32, 0xC2, 0xA0, 13] : Bytes).drop 2) = [120] := by decide

theorem slashes_trim {c : Bytes} (h : CommentOK c) : isPrefixOfB [47, 47] (trimSpace c) = true :=
  (trimSpace_comment_strong h).choose_spec.2.2.1

end ModVerif.Proofs.ModfileFmtCom

namespace ModVerif.Proofs.ModfileFmtCom
open ModVerif ModVerif.Modfile ModVerif.Proofs.ModfileFmtLex ModVerif.Proofs.ModfileFmtLine
open ModVerif.Proofs.ModfileFmtFix ModVerif.Proofs.ModfileFmtTree ModVerif.Proofs.ModfileFmtParse
open ModVerif.Proofs.ModfileFmtDir ModVerif.Proofs.ModfileFmtMain ModVerif.Proofs.ModfileEol

structure ComVals where
  deprecated : Option Bytes
  rationale : List Bytes
  deriving DecidableEq, Repr

def comVals (f : Modfile.File) : ComVals :=
  { deprecated := f.module.map (·.deprecated), rationale := f.retract.map (·.rationale) }

theorem comVals_syn (f : Modfile.File) (s : FileSyntax) : comVals { f with syn := s } = comVals f := rfl

def comStep (block : Option Comments) (l : Line) (verb : Bytes) (c : ComVals) : ComVals :=
  if verb == B "module" then { c with deprecated := some (parseDeprecation block l.comments) }
  else if verb == B "retract" then { c with rationale := c.rationale ++ [parseDirectiveComment block l.comments] }
  else c

theorem verb_nm : ∀ v ∈ [B "go", B "toolchain", B "godebug", B "require", B "exclude", B "replace", B "tool"],
    (v == B "module") = false ∧ (v == B "retract") = false := by decide +kernel

theorem retract_ne_module : (B "retract" == B "module") = false := by decide +kernel

theorem add_com (st : AddState) (block : Option Comments) (l : Line) (verb : Bytes) (args : List Bytes)
    (fix : Option Fixer) (he : (File.add st block l verb args fix true).1.errsRev = []) :
    comVals (File.add st block l verb args fix true).1.file = comStep block l verb (comVals st.file) := by
  rcases add_strict st block l verb args fix with ⟨h, -⟩ | h
  case inr => exact absurd he h
  generalize (File.add st block l verb args fix true).1.file = f1 at h
  generalize (File.add st block l verb args fix true).2 = a1 at h
  -- nine outcomes; only `module` and `retract` touch the two values
  cases h <;>
    simp [comStep, comVals, verb_nm (B "go") (by simp), verb_nm (B "toolchain") (by simp),
      verb_nm (B "godebug") (by simp), verb_nm (B "require") (by simp), verb_nm (B "exclude") (by simp),
      verb_nm (B "replace") (by simp), verb_nm (B "tool") (by simp), retract_ne_module]

/-- the text lines `parseDirectiveComment` extracts from a comment list; blank-line placeholders are skipped -/
def dcText (cs : List Comment) : List Bytes :=
  cs.filterMap fun c => if isPrefixOfB [47, 47] c.token then some (GoStrings.trimSpace (c.token.drop 2)) else none

theorem parseDirectiveComment_eq (block : Option Comments) (line : Comments) :
    parseDirectiveComment block line =
      GoStrings.join (dcText (match block with
        | some bc => if line.before.isEmpty && line.suffix.isEmpty then bc.before ++ bc.suffix
                     else line.before ++ line.suffix
        | none => line.before ++ line.suffix)) [10] := by
  unfold parseDirectiveComment dcText
  cases block with
  | none => rfl
  | some bc =>
    simp only
    split <;> rfl

def ComOK (c : Comment) : Prop := c.token = [] ∨ CommentOK c.token

theorem dcText_rel : ∀ (cs' cs : List Comment), cs'.map eraseC = cs.map normC → (∀ c ∈ cs, ComOK c) →
    dcText cs' = dcText cs := by
  intro cs'
  induction cs' with
  | nil =>
    intro cs h _
    have : cs = [] := by simpa using h.symm
    subst this; rfl
  | cons c' cs' ih =>
    intro cs h hok
    cases cs with
    | nil => simp at h
    | cons c cs =>
      simp only [List.map_cons, List.cons.injEq] at h
      obtain ⟨hc, hrest⟩ := h
      have ht : c'.token = GoStrings.trimSpace c.token := by
        have := congrArg Comment.token hc
        simpa [eraseC, normC] using this
      have ih' := ih cs hrest (fun d hd => hok d (by simp [hd]))
      unfold dcText at ih' ⊢
      simp only [List.filterMap_cons, ih', ht]
      rcases hok c (by simp) with h0 | h0
      · rw [h0, ModfileFmtTrim.trimSpace_nil]
      · rw [slashes_trim h0, h0.1, directiveText_trim h0]

def CsRel (cs' cs : Comments) : Prop :=
  cs'.before.map eraseC = cs.before.map normC ∧ cs'.suffix.map eraseC = cs.suffix.map normC

def CsOK (cs : Comments) : Prop := (∀ c ∈ cs.before, ComOK c) ∧ (∀ c ∈ cs.suffix, ComOK c)

theorem isEmpty_of_map {α β γ} {f : α → γ} {g : β → γ} {a : List α} {b : List β} (h : a.map f = b.map g) :
    a.isEmpty = b.isEmpty := by
  cases a <;> cases b <;> simp_all

theorem dcText_append_rel {cs' cs : Comments} (h : CsRel cs' cs) (hok : CsOK cs) :
    dcText (cs'.before ++ cs'.suffix) = dcText (cs.before ++ cs.suffix) := by
  apply dcText_rel
  · rw [List.map_append, List.map_append, h.1, h.2]
  · intro c hc
    rcases List.mem_append.1 hc with h1 | h1
    · exact hok.1 c h1
    · exact hok.2 c h1

def BlkRel : Option Comments → Option Comments → Prop
  | none, none => True
  | some b', some b => CsRel b' b ∧ CsOK b
  | _, _ => False

/-- the line-vs-block choice depends on list lengths only, placeholders are skipped on both sides, texts by `directiveText_trim` -/
theorem parseDirectiveComment_rel {ob' ob : Option Comments} {cs' cs : Comments} (hb : BlkRel ob' ob)
    (h : CsRel cs' cs) (hok : CsOK cs) : parseDirectiveComment ob' cs' = parseDirectiveComment ob cs := by
  rw [parseDirectiveComment_eq, parseDirectiveComment_eq]
  congr 1
  cases ob' with
  | none =>
    cases ob with
    | none => exact dcText_append_rel h hok
    | some b => exact absurd hb id
  | some b' =>
    cases ob with
    | none => exact absurd hb id
    | some b =>
      simp only
      rw [isEmpty_of_map h.1, isEmpty_of_map h.2]
      split
      · exact dcText_append_rel hb.1 hb.2
      · exact dcText_append_rel h hok

theorem comStep_rel {ob' ob : Option Comments} {l' l : Line} (hb : BlkRel ob' ob)
    (h : CsRel l'.comments l.comments) (hok : CsOK l.comments) (verb : Bytes) (c : ComVals) :
    comStep ob' l' verb c = comStep ob l verb c := by
  unfold comStep parseDeprecation
  rw [parseDirectiveComment_rel hb h hok]

theorem topBefore_comOK {cs : List Comment} (h : TopBeforeOK cs) : ∀ c ∈ cs, ComOK c :=
  fun c hc => Or.inr (h c hc).2

theorem sufOK_comOK {cs : List Comment} (h : SufOK cs) : ∀ c ∈ cs, ComOK c :=
  fun c hc => Or.inr (h.2 c hc).1

theorem csRel_of_comments {c' c : Comments} (h : eraseCs c' = normCs c) : CsRel c' c :=
  ⟨congrArg Comments.before h, congrArg Comments.suffix h⟩

def SimC (st st' : AddState) : Prop := Sim st st' ∧ comVals st.file = comVals st'.file

def ComRel : Option Comments → Line → Option Comments → Line → Prop := fun blk l blk' l' =>
  isIndirect l' = isIndirect l ∧ ∀ verb c, comStep blk' l' verb c = comStep blk l verb c

/-- inside a block the comments of the block are consulted; its end-of-line comment, which the re-parse finds on `)`,
    belongs to a block without lines (`BlockSuf`) -/
theorem relates_com : Relates ComRel (fun b => BlockSuf (.lineBlock b)) where
  top l l' hl hcs := ⟨isIndirect_of_comments hl.suffix hcs,
    comStep_rel (ob' := none) (ob := none) trivial (csRel_of_comments hcs)
      ⟨topBefore_comOK hl.before, sufOK_comOK hl.suffix⟩⟩
  blk b bc' allow l l' hb hbs hmem hbef hsuf' hwl hcs := by
    have hsuf : b.comments.suffix = [] := by
      by_cases hs : b.comments.suffix = []
      · exact hs
      · exact absurd (hbs hs) (List.ne_nil_of_mem hmem)
    exact ⟨isIndirect_of_comments hwl.suffix hcs,
      comStep_rel (ob' := some bc') (ob := some b.comments)
        ⟨⟨hbef, by rw [hsuf', hsuf]; rfl⟩, topBefore_comOK hb.before, by rw [hsuf]; intro c hc; cases hc⟩
        (csRel_of_comments hcs) ⟨ModfileFmtRender.blkBefore_cases _ _ hwl.before, sufOK_comOK hwl.suffix⟩⟩

theorem replays_fileAdd_com {fix : Option Fixer} (hfix : FixOK fix) (hne : FixNE fix) :
    Replays (fun st blk l verb args => File.add st blk l verb args fix true)
      (fun st p => st.err p .unknownBlock) (fun st => st.errsRev = [] ∧ WellFormed st.file) SimC ComRel where
  bad st p h := err_ne_nil st p _ h.1
  step st blk l verb args st1 args1 h hok horig := by
    obtain ⟨hs, hwf0, hargs, hane, hanl⟩ := add_stepE st st1 blk l verb args args1 fix h hok.1 hfix hne hok.2 horig
    refine ⟨⟨hs.errs, hwf0⟩, hargs, hane, hanl, fun st' blk' l' hsim hlr => ?_⟩
    obtain ⟨st1', hadd, hsim1⟩ := hs.replay st' blk' l' hsim.1 hlr.1
    refine ⟨st1', hadd, hsim1, ?_⟩
    have c1 := add_com st blk l verb args fix (by rw [h]; exact hok.1)
    have c2 := add_com st' blk' l' verb args1 fix (by rw [hadd]; exact hsim1.errs')
    rw [h] at c1
    rw [hadd] at c2
    rw [c1, c2, hlr.2, hsim.2]

/-- ★ clause 3 with `Module.Deprecated` and `Retract.Rationale`, under `EolCount` (`Props.C02.format_preserves_directives_partial3`) -/
theorem format_preserves_directives_com (name x : Bytes) (fix : Option Fixer) (f : Modfile.File)
    (h : parseToFile name x fix true = .ok f) (hc : EolCount f.syn) (hwf : WellFormed f)
    (hfix : FixOK fix) (hne : FixNE fix) (hret : fix ≠ none → f.retract = []) :
    ∃ f', parseToFile name (format f.syn) fix true = .ok f' ∧ values f' = values f ∧ comVals f' = comVals f := by
  obtain ⟨fs, st, stmts, hp, ha, hest, hf⟩ := parseToFile_noret h hret
  have hsyn : f.syn = { fs with stmts := stmts } := by rw [hf]
  have hwfst : WellFormed st.file := by
    rw [hf] at hwf
    exact wellFormed_syn _ hwf
  rw [hsyn] at hc ⊢
  obtain ⟨-, -, t', hp', -, hrep⟩ := walkStmts_reparse (replays_fileAdd_com hfix hne) relates_com hp
    ((Edit.addStmts_eq_walk ..).symm.trans ha) ⟨hest, hwfst⟩ hc (fun b hb => parse_blockSuf hp _ hb)
  obtain ⟨st1', ha', hsim', hcom⟩ := hrep { file := { syn := t' } } ⟨⟨rfl, rfl, rfl⟩, rfl⟩
  replace ha' := (Edit.addStmts_eq_walk fix true ..).trans ha'
  have hret' : fix ≠ none → st1'.file.retract = [] := by
    intro hfn
    have h1 : st.file.retract = [] := by have := hret hfn; rwa [hf] at this
    have h2 := congrArg Values.retract hsim'.vals
    simp only [values, h1] at h2
    simpa using h2.symm
  refine ⟨_, parseToFile_of_run hp' ha' hsim'.errs' hret', ?_, ?_⟩
  · rw [values_syn, ← hsim'.vals, hf]
    rfl
  · rw [comVals_syn, ← hcom, hf]
    rfl

end ModVerif.Proofs.ModfileFmtCom
