/-
  Fuel of the regenerated directive layer from the INPUT LENGTH: `TreeFuel` (Proofs/TieFnRuleAddO.lean) holds for
  the tree `parse name data` with `F ≥ 32·|data| + 2·B + 64` and `fuel ≥ F + |data| + 16`, `B` a bound on the outputs of
  the version fixer (`FixBound`: output ≤ `B` + its two arguments; vacuous without a fixer) — `treeFuel_of_length`.  From Proofs/TieFnRuleFuelC.lean (`parse_w`): the tokens
  of a line are at most `|data|` bytes together, statements + block lines + comments at most `|data| + 1`; a version the
  directive layer computes WITHOUT a fixer is `module.CanonicalVersion` of an unquoted token (≤ 4·|token| + 17 bytes).
-/
import ModVerif.Proofs.TieFnRuleAddP
import ModVerif.Proofs.TieFnRuleFuelC
import ModVerif.Proofs.TieFnSemverCmp
import ModVerif.Proofs.TieFnModfileQuote
namespace ModVerif.Tie.FnRuleFuelD
open ModVerif ModVerif.Modfile ModVerif.Tie.FnRuleFuelA ModVerif.Tie.FnRuleFuelB ModVerif.Tie.FnRuleFuelC
open ModVerif.Tie.FnRuleAddH ModVerif.Tie.FnRuleAddM ModVerif.Tie.FnRuleAddO
open ModVerif.Tie.FnRuleLeafA (comLen)
open ModVerif.Tie.FnRuleLeafB (tokSum)
open ModVerif.Proofs.ModfileC20 (linesOf)

/-- linear, not constant: a fixer with outputs of at most `B` bytes is the special case `fixBound_const` -/
def FixBound (B : Nat) (fx : Option Fixer) : Prop :=
  ∀ f, fx = some f → ∀ p v r, f p v = .ok r → r.length ≤ B + p.length + v.length

theorem fixBound_none (B : Nat) : FixBound B none := by intro f h; cases h

theorem fixBound_some {B : Nat} {f : Fixer} (h : ∀ p v r, f p v = .ok r → r.length ≤ B + p.length + v.length) :
    FixBound B (some f) := by
  intro g hg; cases hg; exact h

theorem fixBound_const {B : Nat} {f : Fixer} (h : ∀ p v r, f p v = .ok r → r.length ≤ B) : FixBound B (some f) := by
  intro g hg; cases hg; intro p v r hr; have := h p v r hr; omega

theorem tsum_eq (ts : List Bytes) : tsum ts = tokSum ts := rfl
theorem cl_eq (c : Comments) : cl c = comLen c := rfl

theorem mem_le_tokSum {a : Bytes} : ∀ {ts : List Bytes}, a ∈ ts → a.length ≤ tokSum ts := by
  intro ts
  induction ts with
  | nil => intro h; cases h
  | cons t ts ih =>
    intro h
    rcases List.mem_cons.1 h with rfl | h
    · simp
    · have := ih h; simp; omega

/-! ### the versions of a line -/

theorem parseString_len {tok t tok1 : Bytes} (h : parseString tok = some (t, tok1)) : t.length ≤ 4 * tok.length :=
  Tie.FnRuleLeafA.parseString_length h

theorem canonicalVersion_len (v : Bytes) : (Semver.canonicalVersion v).length ≤ v.length + 17 := by
  have := TieFnSemver.canonical_len v
  unfold Semver.canonicalVersion
  simp only
  split
  · simp only [List.length_append]
    have : (B "+incompatible").length = 13 := by decide +kernel
    omega
  · omega

theorem parseVersion_len {Bd : Nat} {fx : Option Fixer} (hB : FixBound Bd fx) {s a1 a1' v : Bytes}
    (h : parseVersion s a1 fx = (a1', .ok v)) : v.length ≤ 4 * a1.length + 17 + Bd + s.length := by
  unfold parseVersion at h
  cases hp : parseString a1 with
  | none => simp [hp] at h
  | some r =>
    obtain ⟨t, tok1⟩ := r
    have ht := parseString_len hp
    simp only [hp] at h
    cases fx with
    | some f =>
      simp only at h
      cases hf : f s t with
      | error e => cases e <;> simp [hf] at h
      | ok fixed =>
        simp only [hf, Prod.mk.injEq, Except.ok.injEq] at h
        obtain ⟨_, rfl⟩ := h
        have := hB f rfl s t _ hf
        omega
    | none =>
      simp only at h
      split at h
      · simp at h
      · simp only [Prod.mk.injEq, Except.ok.injEq] at h
        obtain ⟨_, rfl⟩ := h
        have := canonicalVersion_len t
        omega

theorem lineFuel_of {Bd : Nat} {fx : Option Fixer} (hB : FixBound Bd fx) {n F : Nat} (hF : 32 * n + 2 * Bd + 64 ≤ F)
    {bc : Option Comments} {l : Line} {args : List Bytes} (ht : tokSum l.token ≤ n)
    (hc : comLen l.comments + (bc.map comLen).getD 0 ≤ n + 1) (ha : tokSum args ≤ tokSum l.token) : LineFuel F bc fx l args := by
  refine ⟨by omega, by omega, ?_⟩
  intro a0 a1 rest s a0' a1' v e1 e2 e3
  rw [e1] at ha
  simp only [FnRuleLeafB.tokSum_cons] at ha
  have h2 := parseString_len e2
  have h3 := parseVersion_len hB e3
  omega

/-! ### the sizes of a tree -/

theorem NE_pos (s : Expr) : 1 ≤ NE s := by cases s <;> simp only [NE] <;> omega

theorem NE_le_NEs {s : Expr} : ∀ {ss : List Expr}, s ∈ ss → NE s ≤ NEs ss := by
  intro ss
  induction ss with
  | nil => intro h; cases h
  | cons t ts ih =>
    intro h
    rcases List.mem_cons.1 h with rfl | h
    · simp
    · have := ih h; simp; omega

theorem NL_le_NLs {l : Line} : ∀ {ls : List Line}, l ∈ ls → NL l ≤ NLs ls := by
  intro ls
  induction ls with
  | nil => intro h; cases h
  | cons t ts ih =>
    intro h
    rcases List.mem_cons.1 h with rfl | h
    · simp
    · have := ih h; simp; omega

theorem length_le_NLs (ls : List Line) : ls.length ≤ NLs ls := by
  induction ls with
  | nil => simp
  | cons t ts ih => simp [NL]; omega

theorem maxBlock_le (ss : List Expr) : maxBlock ss + ss.length ≤ NEs ss := by
  induction ss with
  | nil => simp [maxBlock]
  | cons s ss ih =>
    have := NE_pos s
    cases s with
    | lineBlock b =>
      have := length_le_NLs b.lines
      simp only [maxBlock, NEs_cons, NE, List.length_cons]
      omega
    | commentBlock x => simp only [maxBlock, NEs_cons, List.length_cons]; omega
    | line x => simp only [maxBlock, NEs_cons, List.length_cons]; omega
    | lparen x => simp only [maxBlock, NEs_cons, List.length_cons]; omega
    | rparen x => simp only [maxBlock, NEs_cons, List.length_cons]; omega

theorem linesOf_le (ss : List Expr) : (linesOf ss).length ≤ NEs ss := by
  induction ss with
  | nil => simp
  | cons s ss ih =>
    cases s with
    | lineBlock b =>
      have := length_le_NLs b.lines
      simp only [Proofs.ModfileC20.linesOf_block, NEs_cons, NE, List.length_append]
      omega
    | commentBlock x => simp only [Proofs.ModfileC20.linesOf_commentBlock, NEs_cons]; omega
    | line x => simp only [Proofs.ModfileC20.linesOf_line, NEs_cons, NE, List.length_cons]; omega
    | lparen x =>
      have : linesOf (Expr.lparen x :: ss) = linesOf ss := by simp [linesOf, FileSyntax.allLines, List.flatMap_cons]
      rw [this]; simp only [NEs_cons]; omega
    | rparen x =>
      have : linesOf (Expr.rparen x :: ss) = linesOf ss := by simp [linesOf, FileSyntax.allLines, List.flatMap_cons]
      rw [this]; simp only [NEs_cons]; omega

theorem treeFuel_of_sizes {Bd : Nat} {fx : Option Fixer} (hB : FixBound Bd fx) {n F fuel : Nat} {fs : FileSyntax}
    (hF : 32 * n + 2 * Bd + 64 ≤ F) (hfuel : F + n + 16 ≤ fuel)
    (hN : NEs fs.stmts ≤ n + 1) (hT : ∀ s ∈ fs.stmts, TokLe n s) : TreeFuel F fuel fx fs := by
  have hmb := maxBlock_le fs.stmts
  have hlo := linesOf_le fs.stmts
  have tokL : ∀ l, Expr.line l ∈ fs.stmts → tokSum l.token ≤ n := fun l hl => hT _ hl
  have tokB : ∀ b, Expr.lineBlock b ∈ fs.stmts → ∀ l ∈ b.lines, tokSum l.token ≤ n := fun b hb => hT _ hb
  refine ⟨by omega, by omega, by omega, ?_, ?_, ?_⟩
  · intro l hl
    rcases Proofs.ModfileC20.mem_linesOf.1 hl with h | ⟨b, hb, hlb⟩
    · have := tokL l h; omega
    · have := tokB b hb l hlb; omega
  · intro l hl verb args htok
    have h1 := NE_le_NEs hl
    simp only [NE] at h1
    refine lineFuel_of hB hF (tokL l hl) ?_ (by rw [htok]; simp)
    simp only [Option.map_none, Option.getD_none]
    rw [← cl_eq]; omega
  · intro b hb l hl
    have h1 := NE_le_NEs hb
    have h2 := NL_le_NLs hl
    simp only [NE, NL] at h1 h2
    refine lineFuel_of hB hF (tokB b hb l hl) ?_ (Nat.le_refl _)
    simp only [Option.map_some, Option.getD_some]
    rw [← cl_eq, ← cl_eq]; omega

/-- **the fuel hypothesis of `parseToFile_tie` / `ParseWork_tie` from the input length** -/
theorem treeFuel_of_length (name data : Bytes) (fx : Option Fixer) (Bd : Nat) (hB : FixBound Bd fx) (F fuel : Nat)
    (hF : 32 * data.length + 2 * Bd + 64 ≤ F) (hfuel : F + data.length + 16 ≤ fuel) :
    ∀ fs, parse name data = .ok fs → TreeFuel F fuel fx fs := by
  intro fs hp
  obtain ⟨h1, h2⟩ := parse_w hp
  exact treeFuel_of_sizes hB hF hfuel h1 h2

/-! ### a fixer for the non-vacuity examples -/

/-- a fixer that is bounded in the linear sense but not by a constant: `latest ↦ v1.0.0`, everything else canonicalised -/
def exFix : Fixer := fun _ v => if v == B "latest" then .ok (B "v1.0.0") else .ok (Semver.canonicalVersion v)

theorem exFix_bound : FixBound 17 (some exFix) := by
  apply fixBound_some
  intro p v r h
  unfold exFix at h
  split at h
  · simp only [Except.ok.injEq] at h
    subst h
    have : (B "v1.0.0").length = 6 := by decide +kernel
    omega
  · simp only [Except.ok.injEq] at h
    subst h
    have := canonicalVersion_len v
    omega

end ModVerif.Tie.FnRuleFuelD
