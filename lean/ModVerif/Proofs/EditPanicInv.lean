/-
  The tree invariant WITHOUT the indirect-marker clause (`P.Inv`), for C15 `nilDeref_unreachable`.

  `Edit.Inv` says, for a requirement, that the end-of-line comment of its line carries the `// indirect` marker iff the typed
  entry is indirect.  `setIndirect` does not achieve that on a comment whose text after `indirect;` is again a marker (recorded
  finding `C16_violated_indirect_marker_survives`), so `Inv` is preserved by the bulk requirement setters only under
  `NoNestedIndirectMarker`.  The marker plays no role in the Go panics (nil `Syntax` dereference on a cleared entry,
  `ensureBlock` on an unexpected statement): `P.Inv` is `Inv` with the requirement entry weakened to the tokens
  (`P.entRq`), and EVERY go.mod operation preserves it with no hypothesis on the comments.

  `P.Inv e ↔ InvR tokView e` (`P.Inv.r`, `InvR.tok`); what is proved of `InvR V` for every view is read here at `tokView`.
-/
import ModVerif.Proofs.EditMarkerInv
namespace ModVerif.Modfile.Edit.P
open ModVerif ModVerif.Modfile

/-- the requirement entry without the marker clause: the line shows verb, AutoQuoted path and version -/
def entRq (r : Require) : Ent :=
  ⟨r.lineId, fun t _ => t = [B "require", autoQuote r.mod.path, r.mod.version]⟩

def entries (f : File) : List Ent :=
  f.module.toList.map entM ++ (f.go.toList.map entGo ++ (f.toolchain.toList.map entTc ++
  (entsOf liveG entG f.godebug ++ (entsOf liveRq entRq f.require ++ (entsOf liveX entX f.exclude ++
  (entsOf liveRp entRp f.replace ++ (entsOf liveRt entRt f.retract ++ entsOf liveT entT f.tool)))))))

/-- **The tree invariant without the marker clause**: a well-formed tree whose live lines are exactly the renderings
    (tokens) of the live typed entries -/
structure Inv (e : EFile) : Prop where
  tree : TreeWF e.f.syn.stmts e.next
  mtch : Match (entries e.f) (view e.f.syn.stmts)
  tinv : TInv e

theorem entries_require (f : File) : entries f = segA_require f ++ (entsOf liveRq entRq f.require ++ segC_require f) := by
  simp [entries, segA_require, segA_godebug, segC_require, List.append_assoc]

/-! ### `P.Inv` is the invariant for the view that asks nothing of the comments -/

/-- `P.entRq r` and `tokView.rq r` accept the same lines (the latter says `∧ True`) -/
theorem match_tok (f : File) (vs : List VLine) : Match (entries f) vs ↔ Match (entriesR tokView f) vs := by
  have hids : (entsOf liveRq tokView.rq f.require).map (·.id) = (entsOf liveRq entRq f.require).map (·.id) := by
    rw [entsOf_ids (·.lineId) liveRq _ (fun _ => rfl), entsOf_ids (·.lineId) liveRq _ (fun _ => rfl)]
  rw [entries_require, entriesR_require]
  constructor
  · intro h
    refine h.weakenSeg hids fun en' hen' => ?_
    rcases (mem_entsOf liveRq _).1 hen' with ⟨r, hr, hl, rfl⟩
    exact ⟨entRq r, (mem_entsOf liveRq _).2 ⟨r, hr, hl, rfl⟩, rfl, fun t s ha => ⟨ha, trivial⟩⟩
  · intro h
    refine h.weakenSeg hids.symm fun en' hen' => ?_
    rcases (mem_entsOf liveRq _).1 hen' with ⟨r, hr, hl, rfl⟩
    exact ⟨tokView.rq r, (mem_entsOf liveRq _).2 ⟨r, hr, hl, rfl⟩, rfl, fun t s ha => ha.1⟩

theorem Inv.r {e : EFile} (h : Inv e) : InvR tokView e := ⟨h.tree, (match_tok _ _).1 h.mtch, h.tinv⟩
theorem _root_.ModVerif.Modfile.Edit.InvR.tok {e : EFile} (h : InvR tokView e) : Inv e :=
  ⟨h.tree, (match_tok _ _).2 h.mtch, h.tinv⟩

/-- **the projection**: the full invariant implies the invariant without the marker clause -/
theorem Inv.ofFull {e : EFile} (h : Edit.Inv e) : Inv e := (h.r.weaken fun _ _ _ => trivial).tok

theorem Inv.view2 {e : EFile} (h : Inv e) : View2 e.f.syn.stmts := h.r.view2

theorem Inv.fresh {e : EFile} (h : Inv e) : ∀ en ∈ entries e.f, en.id ≠ e.next := fun en hen =>
  Nat.ne_of_lt (h.mtch.ids_lt h.tree en hen)

theorem Inv.entry_id_pos {e : EFile} (hi : Inv e) : ∀ en ∈ entries e.f, en.id ≠ 0 := by
  intro en hen
  rcases hi.mtch.cover en hen with ⟨v, hv, hid, _⟩
  rw [← hid]; exact hi.tree.pos _ (view_id_mem_treeIds hv)

theorem Inv.require_pos {e : EFile} (hi : Inv e) : ∀ x ∈ e.f.require, liveRq x = true → x.lineId ≠ 0 := hi.r.require_pos

theorem addNewRequire_inv (e : EFile) (p v : Bytes) (b : Bool) (hp : p ≠ []) (hi : Inv e) : Inv (addNewRequire e p v b) :=
  (addNewRequire_invR e p v b hp hi.r).tok
theorem cleanup_inv (e : EFile) (hi : Inv e) : Inv (cleanup e) := (cleanup_invR e hi.r).tok
theorem sortBlocks_inv (e : EFile) (hi : Inv e) : Inv (sortBlocks e) := (sortBlocks_invR e hi.r).tok

theorem applyMod_inv (e e' : EFile) (op : Op) (hv : ValidArgsT op) (hi : Inv e) (h : applyMod e op = some (.ok e')) : Inv e' :=
  (applyMod_invR e e' op hv hi.r h).tok

theorem applyMod_noPanic' (e : EFile) (op : Op) (hv : ValidArgsT op) (hm : IsModOp op) (hi : Inv e) : NoPanic (applyMod e op) :=
  Edit.applyMod_noPanic e op hv hm hi.r

/-- **SetRequire preserves the invariant without the marker clause** when every typed requirement is live (a Cleanup has just
    run); no hypothesis on the end-of-line comments -/
theorem setRequire_inv (e e' : EFile) (req : List Want) (perm : List Want → List Want) (hperm : ∀ l, (perm l).Perm l)
    (hg : GoodWant req) (hi : Inv e) (hlive : ∀ r ∈ e.f.require, liveRq r = true)
    (h : setRequire e req perm = .ok e') : Inv e' :=
  (setRequire_invR e e' req perm hperm hg hi.r hlive (fun _ _ _ _ _ _ => trivial) h).tok

theorem setRequireSeparateIndirect_inv (e e' : EFile) (req : List Want) (perm : List Want → List Want)
    (hperm : ∀ l, (perm l).Perm l) (hg : GoodWant req) (hi : Inv e) (hlive : ∀ r ∈ e.f.require, liveRq r = true)
    (h : setRequireSeparateIndirect e req perm = .ok e') : Inv e' :=
  (setRequireSeparateIndirect_invR e e' req perm hperm hg hi.r hlive (fun _ _ _ _ _ _ => trivial) h).tok

theorem _root_.ModVerif.Modfile.Edit.ValidArgsLive.r {e : EFile} {op : Op} (h : ValidArgsLive e op) : ValidArgsR tokView e op := by
  cases op <;> first
    | exact ⟨h.1, h.2, fun _ _ _ _ _ _ => trivial⟩
    | exact h

/-- **one operation preserves the invariant without the marker clause — every go.mod operation**, arguments valid in the
    sense of `ValidArgsLive` (no marker clause) -/
theorem applyMod_inv_all (e e' : EFile) (op : Op) (hv : ValidArgsLive e op) (hi : Inv e) (h : applyMod e op = some (.ok e')) :
    Inv e' :=
  (applyMod_invR_all e e' op hv.r hi.r h).tok

/-- **no panic, every go.mod operation**, no marker hypothesis -/
theorem applyMod_noPanic_all (e : EFile) (op : Op) (hv : ValidArgsLive e op) (hm : IsModOp op) (hi : Inv e) : NoPanic (applyMod e op) :=
  applyMod_noPanicR_all e op hv.r hm hi.r

end ModVerif.Modfile.Edit.P
