/-
  The effect trace of the sequential client model (Model/Client.lean, `World.tr`: every external
  operation is appended by the model itself, so the trace IS the instrumented environment's log) classified:
  below `Lookup`'s own `ReadCache(file)` / `ReadRemote(remotePath)` (both inside `lookupWork`), every logged cache read
  is a tile file of the client (`tileCacheKey name t` = `name ++ "/" ++ "tile/…"`), every logged remote read is a tile
  path (`"/tile/…"`), and the remaining reads are configuration reads (`ReadKind.config`).  For EVERY environment.
  `EF` is that frame (below `mergeLatestMem` it is read off the runs of Proofs/ClientRuns.lean), `LF` the frame of
  `lookupWork` with its own two reads in front.
-/
import ModVerif.Proofs.ClientRuns
namespace ModVerif.ClientEffects
open ModVerif ModVerif.Client ModVerif.Tile ModVerif.Tlog

/-- an effect that is not a read of a lookup file / lookup path of the client named `name` -/
def Other (name : Bytes) : Effect → Prop
  | .read .cache f _ => ∃ t : Tile, f = tileCacheKey name t
  | .read .remote p _ => ∃ t : Tile, p = tileRemotePath t
  | _ => True

def isCacheRead (f : Bytes) : Effect → Bool
  | .read .cache g _ => g == f
  | _ => false

def isRemoteRead (p : Bytes) : Effect → Bool
  | .read .remote q _ => q == p
  | _ => false

def cacheReads (f : Bytes) (tr : List Effect) : Nat := tr.countP (isCacheRead f)

def remoteReads (p : Bytes) (tr : List Effect) : Nat := tr.countP (isRemoteRead p)

section
variable {σ H : Type}

/-- frame of everything below `Lookup`'s own two reads -/
structure EF (w w' : World σ H) : Prop where
  name : w'.c.name = w.c.name
  record : w'.c.record = w.c.record
  inited : w'.c.inited = w.c.inited
  trace : ∃ es, w'.tr = w.tr ++ es ∧ ∀ e ∈ es, Other w.c.name e

theorem EF.refl (w : World σ H) : EF w w := ⟨rfl, rfl, rfl, [], by simp, by simp⟩

theorem EF.trans {w1 w2 w3 : World σ H} (a : EF w1 w2) (b : EF w2 w3) : EF w1 w3 := by
  obtain ⟨es1, e1, g1⟩ := a.trace
  obtain ⟨es2, e2, g2⟩ := b.trace
  refine ⟨b.name.trans a.name, b.record.trans a.record, b.inited.trans a.inited,
    es1 ++ es2, by rw [e2, e1, List.append_assoc], ?_⟩
  intro e he
  rcases List.mem_append.mp he with h | h
  · exact g1 e h
  · have := g2 e h
    rw [a.name] at this
    exact this

variable {E : Env σ}

theorem ef_readRemoteTile (w : World σ H) (t : Tile) : EF w (readRemote E w (tileRemotePath t)).2 :=
  ⟨rfl, rfl, rfl, _, rfl, by intro e he; simp only [List.mem_singleton] at he; subst he; exact ⟨t, rfl⟩⟩

theorem ef_readCacheTile (w : World σ H) (t : Tile) : EF w (readCache E w (tileCacheKey w.c.name t)).2 :=
  ⟨rfl, rfl, rfl, _, rfl, by intro e he; simp only [List.mem_singleton] at he; subst he; exact ⟨t, rfl⟩⟩

theorem ef_readConfig (w : World σ H) (f : Bytes) : EF w (readConfig E w f).2 :=
  ⟨rfl, rfl, rfl, _, rfl, by simp [Other]⟩

theorem ef_writeCache (w : World σ H) (f d : Bytes) : EF w (writeCache E w f d) :=
  ⟨rfl, rfl, rfl, _, rfl, by simp [Other]⟩

theorem ef_writeConfig (w : World σ H) (f o n : Bytes) : EF w (writeConfig E w f o n).2 :=
  ⟨rfl, rfl, rfl, _, rfl, by simp [Other]⟩

theorem ef_securityError (w : World σ H) (m : Bytes) : EF w (securityError E w m) :=
  ⟨rfl, rfl, rfl, _, rfl, by simp [Other]⟩

theorem ef_markTileSaved (w : World σ H) (t : Tile) : EF w (markTileSaved w t) :=
  ⟨rfl, rfl, rfl, [], by simp [markTileSaved], by simp⟩

theorem _root_.ModVerif.Client.TileOp.ef {Wr : Tile → Bytes → Prop} {w w' : World σ H} (op : TileOp E Wr w w') :
    EF w w' := by
  cases op with
  | readCache t => exact ef_readCacheTile _ t
  | readRemote t => exact ef_readRemoteTile _ t
  | mark t => exact ef_markTileSaved _ t
  | memo t r hr => exact ⟨rfl, rfl, rfl, [], by simp, by simp⟩
  | save t d _ => exact ef_writeCache _ _ _

theorem _root_.ModVerif.Client.Runs.ef {Wr : Tile → Bytes → Prop} {w w' : World σ H} (h : Runs E Wr w w') : EF w w' :=
  h.lift EF.refl EF.trans Client.TileOp.ef

/-- frame of `lookupWork file rp`: `ReadCache(file)`, then possibly `ReadRemote(rp)`, then `Other` effects -/
structure LF (file rp : Bytes) (w w' : World σ H) : Prop where
  name : w'.c.name = w.c.name
  record : w'.c.record = w.c.record
  inited : w'.c.inited = w.c.inited
  trace : ∃ ok1 mid es, w'.tr = w.tr ++ (.read .cache file ok1 :: (mid ++ es)) ∧
    (mid = [] ∨ ∃ ok2, mid = [.read .remote rp ok2]) ∧ ∀ e ∈ es, Other w.c.name e

theorem LF.andThen {file rp : Bytes} {w1 w2 w3 : World σ H} (a : LF file rp w1 w2) (b : EF w2 w3) : LF file rp w1 w3 := by
  obtain ⟨ok1, mid, es1, e1, hm, g1⟩ := a.trace
  obtain ⟨es2, e2, g2⟩ := b.trace
  refine ⟨b.name.trans a.name, b.record.trans a.record, b.inited.trans a.inited, ok1, mid, es1 ++ es2, ?_, hm, ?_⟩
  · rw [e2, e1]; simp
  · intro e he
    rcases List.mem_append.mp he with h | h
    · exact g1 e h
    · have := g2 e h
      rw [a.name] at this
      exact this

theorem lf_lwGot (w : World σ H) (file rp : Bytes) : LF file rp w (lwGot E w file rp).2 := by
  unfold lwGot
  split
  · exact ⟨rfl, rfl, rfl, _, [], [], rfl, Or.inl rfl, by simp⟩
  · split
    · exact ⟨rfl, rfl, rfl, (E.readCache w.s file).1.isSome,
        [.read .remote rp (E.readRemote (E.readCache w.s file).2 rp).1.isSome], [],
        by simp [readRemote, readCache], Or.inr ⟨_, rfl⟩, by simp⟩
    · exact ⟨rfl, rfl, rfl, (E.readCache w.s file).1.isSome,
        [.read .remote rp (E.readRemote (E.readCache w.s file).2 rp).1.isSome], [],
        by simp [readRemote, readCache], Or.inr ⟨_, rfl⟩, by simp⟩

variable [DecidableEq H]

theorem ef_checkTrees (P : Params H) (w : World σ H) (older : Head H) (olderNote : Bytes) (newer : Head H)
    (newerNote : Bytes) : EF w (checkTrees P E w older olderNote newer newerNote).2 := by
  rcases runs_checkTrees (E := E) P w older olderNote newer newerNote (savesOK_true P newer) with h | ⟨_, w1, _, _, h, e⟩
  · exact h.ef
  · rw [e]; exact h.ef.trans (ef_securityError _ _)

theorem ef_mergeLatestMem (P : Params H) (w : World σ H) (msg : Bytes) : EF w (mergeLatestMem P E w msg).2 := by
  unfold mergeLatestMem
  split
  · exact EF.refl w
  · split
    · exact EF.refl w
    · rename_i tree _
      simp only
      split
      · have l := ef_checkTrees (E := E) P w tree msg w.c.latest w.c.latestMsg
        split <;> exact l
      · have l := ef_checkTrees (E := E) P w w.c.latest w.c.latestMsg tree msg
        split
        · exact l
        · exact ⟨l.name, l.record, l.inited, l.trace⟩

theorem ef_mergeLatestLoop (P : Params H) : ∀ (f : Nat) (w : World σ H), EF w (mergeLatestLoop P E f w).2 := by
  intro f
  induction f with
  | zero => intro w; exact EF.refl w
  | succ f ih =>
    intro w
    have l1 := ef_readConfig (E := E) w (latestFile w.c.name)
    unfold mergeLatestLoop
    simp only
    split
    · exact l1
    · rename_i msg _
      have l2 := l1.trans (ef_mergeLatestMem (E := E) P _ msg)
      split
      · exact l2
      · split
        · exact l2
        · split
          · exact (l2.trans (ef_writeConfig (E := E) _ _ _ _)).trans (ih _)
          · exact l2.trans (ef_writeConfig (E := E) _ _ _ _)
          · exact l2.trans (ef_writeConfig (E := E) _ _ _ _)

theorem ef_mergeLatest (P : Params H) (w : World σ H) (msg : Bytes) : EF w (mergeLatest P E w msg).2 := by
  have l := ef_mergeLatestMem (E := E) P w msg
  unfold mergeLatest
  simp only
  split
  · exact l
  · split
    · exact l
    · exact l.trans (ef_mergeLatestLoop (E := E) P _ _)

theorem ef_checkRecord (P : Params H) (w : World σ H) (id : Int) (data : Bytes) :
    EF w (Client.checkRecord P E w id data).2 := by
  unfold Client.checkRecord
  simp only
  split
  · exact EF.refl w
  · have l := (runs_readHashes (E := E) P w w.c.latest (savesOK_true P _)
      [if id < 0 then 0 else storedHashIndex 0 id.toNat]).ef
    split
    · exact l
    · split
      · exact l
      · split <;> exact l

theorem ef_lookupValidate (P : Params H) (w : World σ H) (file data : Bytes) (wc : Bool) :
    EF w (lookupValidate P E w file data wc).2 := by
  simp only [lookupValidate]
  split
  · exact EF.refl w
  · rename_i id text treeMsg _
    have hm := ef_mergeLatest (E := E) P w treeMsg
    split
    · exact hm
    · have hk := hm.trans (ef_checkRecord (E := E) P _ id text)
      split
      · exact hk
      · split
        · exact hk.trans (ef_writeCache _ _ _)
        · exact hk

/-- **The work function of the record cache**: exactly one `ReadCache(file)`, at most one `ReadRemote(remotePath)`
(directly after it), everything else `Other` -/
theorem lf_lookupWork (P : Params H) (w : World σ H) (file rp : Bytes) : LF file rp w (lookupWork P E w file rp).2 := by
  rw [lookupWork_eq]
  have hg := lf_lwGot (E := E) w file rp
  split
  · exact hg
  · exact hg.andThen (ef_lookupValidate P _ file _ _)

end
end ModVerif.ClientEffects
