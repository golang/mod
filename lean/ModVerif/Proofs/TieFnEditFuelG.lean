/-
  Closed fuel of the go.mod session ties: the tokens of the WHOLE parsed tree are paid by the input.  Instances of the
  weighted count of Proofs/TieFnRuleFuelB.lean / TieFnRuleFuelC.lean (`parse_weight`): the byte lengths of the tokens against
  the byte potential `Bp` (`parse_tok : ETs fs.stmts ≤ data.length`), their number against the count potential `Cn`
  (`parse_cnt : ECs fs.stmts ≤ data.length`); with `parse_w`'s count of lines, statements and comments they give
  `treeW_parse_le : treeW fs.stmts ≤ 4 * data.length + 1`.

  Namespaces `FnEditFuelG` (bytes), `FnEditFuelH` (number of tokens, tree weight).
-/
import ModVerif.Proofs.TieFnRuleFuelC
import ModVerif.Proofs.TieFnEditFuelA
namespace ModVerif.Tie.FnEditFuelG
open ModVerif ModVerif.Modfile ModVerif.Tie.FnRuleFuelA ModVerif.Tie.FnRuleFuelB ModVerif.Tie.FnRuleFuelC ModVerif.Proofs.ModfileWeight

/-! ### bytes: the potential `Bp` -/

def LT (ls : List Line) : Nat := (ls.map fun l => tsum l.token).sum

def ET : Expr → Nat
  | .line l => tsum l.token
  | .lineBlock b => tsum b.token + LT b.lines
  | _ => 0
def ETs (ss : List Expr) : Nat := (ss.map ET).sum

@[simp] theorem LT_nil : LT [] = 0 := rfl
@[simp] theorem LT_cons (l : Line) (ls : List Line) : LT (l :: ls) = tsum l.token + LT ls := by simp [LT]
@[simp] theorem ETs_nil : ETs [] = 0 := rfl
@[simp] theorem ETs_cons (s : Expr) (ss : List Expr) : ETs (s :: ss) = ET s + ETs ss := by simp [ETs]

theorem LT_eq (ls : List Line) : LT ls = wtBytes.lines ls := by
  induction ls with
  | nil => rfl
  | cons l ls ih =>
    have : tsum l.token = wtBytes.toks l.token := rfl
    simp [ih, Wt.line, Wt.com, this]; simp [wtBytes]

theorem ETs_eq (ss : List Expr) : ETs ss = wtBytes.tree ss := by
  induction ss with
  | nil => rfl
  | cons s ss ih =>
    have e (t : List Bytes) : tsum t = wtBytes.toks t := rfl
    rw [ETs_cons, Wt.tree_cons, ih]
    cases s <;> simp [ET, Wt.expr, Wt.line, Wt.com, e, LT_eq] <;> simp [wtBytes]

theorem parse_tok {name data : Bytes} {fs : FileSyntax} (h : parse name data = .ok fs) : ETs fs.stmts ≤ data.length := by
  obtain ⟨i0, i, _, _, h0, _, hb⟩ := parse_weight paysBytes h
  have := (readToken_w h0).1
  have hr : (newInput data).remaining.length = data.length := rfl
  rw [ETs_eq]
  simp only [show wtBytes.kcb = 0 from rfl, show wtBytes.kbf = 0 from rfl, show wtBytes.ksf = 0 from rfl] at hb
  omega

end ModVerif.Tie.FnEditFuelG

/-! ### number of tokens: the potential `Cn` -/

namespace ModVerif.Tie.FnEditFuelH
open ModVerif ModVerif.Modfile ModVerif.Tie.FnRuleFuelA ModVerif.Tie.FnRuleFuelB ModVerif.Tie.FnRuleFuelC ModVerif.Proofs.ModfileWeight
open ModVerif.Tie.FnEditFuelA ModVerif.Tie.FnEditFuelG

def LC (ls : List Line) : Nat := (ls.map fun l => l.token.length).sum

def EC : Expr → Nat
  | .line l => l.token.length
  | .lineBlock b => b.token.length + LC b.lines
  | _ => 0
def ECs (ss : List Expr) : Nat := (ss.map EC).sum

@[simp] theorem LC_nil : LC [] = 0 := rfl
@[simp] theorem LC_cons (l : Line) (ls : List Line) : LC (l :: ls) = l.token.length + LC ls := by simp [LC]
@[simp] theorem ECs_nil : ECs [] = 0 := rfl
@[simp] theorem ECs_cons (s : Expr) (ss : List Expr) : ECs (s :: ss) = EC s + ECs ss := by simp [ECs]

def wtCount : Wt := ⟨fun _ => 1, 0, 0, 0, 0, 0⟩

theorem paysCount : Pays wtCount 0 Cn Proofs.ModfileRun.Step Proofs.ModfileRun.Step :=
  ⟨releaseCount fun _ => Nat.le_refl _, releaseCount fun _ => Nat.le_refl _, fun _ _ => rfl, Nat.le_refl _, Nat.le_refl _,
    Nat.le_refl _, Nat.le_refl _⟩

theorem toks_count (ts : List Bytes) : wtCount.toks ts = ts.length := by
  induction ts with
  | nil => rfl
  | cons t ts ih => simp [ih]; simp [wtCount]; omega

theorem LC_eq (ls : List Line) : LC ls = wtCount.lines ls := by
  induction ls with
  | nil => rfl
  | cons l ls ih => simp [ih, Wt.line, Wt.com, toks_count]; simp [wtCount]

theorem ECs_eq (ss : List Expr) : ECs ss = wtCount.tree ss := by
  induction ss with
  | nil => rfl
  | cons s ss ih =>
    rw [ECs_cons, Wt.tree_cons, ih]
    cases s <;> simp [EC, Wt.expr, Wt.line, Wt.com, toks_count, LC_eq] <;> simp [wtCount]

theorem parse_cnt {name data : Bytes} {fs : FileSyntax} (h : parse name data = .ok fs) : ECs fs.stmts ≤ data.length := by
  obtain ⟨i0, i, _, _, h0, _, hb⟩ := parse_weight paysCount h
  have := (readToken_w h0).2
  have hr : (newInput data).remaining.length = data.length := rfl
  have hc : (newInput data).commentsRev.length = 0 := rfl
  rw [ECs_eq]
  simp only [show wtCount.kcb = 0 from rfl, show wtCount.kbf = 0 from rfl, show wtCount.ksf = 0 from rfl] at hb
  omega

theorem tokW_eq (t : List Bytes) : tokW t = 2 * tsum t + t.length := rfl

theorem linesW_le : ∀ ls : List Line, linesW ls ≤ 2 * LT ls + LC ls + NLs ls
  | [] => by simp [linesW]
  | l :: ls => by
    have := linesW_le ls
    simp only [linesW, lineW, tokW_eq, LT_cons, LC_cons, NLs_cons, NL]; omega

theorem exprW_le (x : Expr) : exprW x ≤ 2 * ET x + EC x + NE x := by
  cases x with
  | line l => simp only [exprW, lineW, tokW_eq, ET, EC, NE]; omega
  | lineBlock b => have := linesW_le b.lines; simp only [exprW, tokW_eq, ET, EC, NE]; omega
  | _ => simp only [exprW, ET, EC, NE]; omega

theorem treeW_le : ∀ ss : List Expr, treeW ss ≤ 2 * ETs ss + ECs ss + NEs ss
  | [] => by simp [treeW]
  | x :: ss => by
    have := treeW_le ss; have := exprW_le x
    simp only [treeW, ETs_cons, ECs_cons, NEs_cons]; omega

theorem treeW_parse_le {name data : Bytes} {fs : FileSyntax} (h : parse name data = .ok fs) :
    treeW fs.stmts ≤ 4 * data.length + 1 := by
  have h1 := parse_tok h
  have h2 := parse_cnt h
  have h3 := (parse_w h).1
  have h4 := treeW_le fs.stmts
  omega

end ModVerif.Tie.FnEditFuelH
