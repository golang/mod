/-
  Helper lemmas for Tie/FnRuleLeaf.lean: `prOut` (parseReplace on a token list, Proofs/TieFnRuleLeafC.lean) is the
  hand model's `Modfile.parseReplace`: same rewritten tokens; a `Replace` object with the model's fields and
  `Syntax = line`, or an `Error` object at `pos` whose inner error is of the model's kind (`errAbs`).  The same case
  analysis shows that the model's `Replace` entry carries the line id it was given (`PrRelId`, `parseReplace_lineId`).
-/
import ModVerif.Proofs.TieFnRuleLeafC
import ModVerif.Proofs.ModfileC20Rule
namespace ModVerif.Tie.FnRuleLeafD
open ModVerif ModVerif.GoRt ModVerif.Generated ModVerif.Tie.FnRuleRep ModVerif.Tie.FnRuleLeafA ModVerif.Tie.FnRuleLeafB
open ModVerif.Tie.FnRuleLeafC
open ModVerif.Proofs.ModfileC20 (replaceOld replaceNew)

def PrRel (pos : Rule.Position) (line : Int) (o : PrOut) (m : List Bytes × Except ModVerif.Modfile.RuleErrKind ModVerif.Modfile.Replace) : Prop :=
  o.toks = m.1 ∧
  match m.2 with
  | .ok R => ∃ obj, o.res = .ok obj ∧ obj.Old = mvG R.old ∧ obj.New = mvG R.new ∧ obj.Syntax = line
  | .error k => ∃ e, o.res = .error e ∧ e.Pos = pos ∧ errAbs e.Err k

def PrRelId (lineId : Nat) (pos : Rule.Position) (line : Int) (o : PrOut)
    (m : List Bytes × Except ModVerif.Modfile.RuleErrKind ModVerif.Modfile.Replace) : Prop :=
  PrRel pos line o m ∧ ∀ R, m.2 = .ok R → R.lineId = lineId

theorem B_arrow : B "=>" = arrowB := by decide +kernel

theorem eF_usage (fn : Bytes) (pos : Rule.Position) : errAbs (eF fn pos fmtUsage).Err .replaceUsage :=
  ⟨_, rfl, by decide +kernel⟩
theorem eF_quoted (fn : Bytes) (pos : Rule.Position) : errAbs (eF fn pos fmtQuoted).Err .invalidQuotedString :=
  ⟨_, rfl, by decide +kernel⟩
theorem eF_dirVersion (fn : Bytes) (pos : Rule.Position) : errAbs (eF fn pos fmtDirVersion).Err .replaceDirWithVersion :=
  ⟨_, rfl, by decide +kernel⟩
theorem eF_atVersion (fn : Bytes) (pos : Rule.Position) : errAbs (eF fn pos fmtAtVersion).Err .replaceAtVersion :=
  ⟨_, rfl, by decide +kernel⟩
theorem eF_needsDir (fn : Bytes) (pos : Rule.Position) : errAbs (eF fn pos fmtNeedsDir).Err .replaceNeedsDir :=
  ⟨_, rfl, by decide +kernel⟩
theorem eF_windows (fn : Bytes) (pos : Rule.Position) : errAbs (eF fn pos fmtWindows).Err .replaceWindowsPath :=
  ⟨_, rfl, by decide +kernel⟩
theorem eM_path (fn : Bytes) (pos : Rule.Position) (verb mp : Bytes) :
    errAbs (eM fn pos verb mp (some "invalid module path")).Err .invalidModulePath := ⟨_, rfl, by simp [errStrs]⟩
theorem eM_major (fn : Bytes) (pos : Rule.Position) (verb mp : Bytes) :
    errAbs (eM fn pos verb mp TieFnModule.majorErr).Err .pathMajorMismatch :=
  ⟨"InvalidVersionError|should be %s, not %s", by show TieFnModule.majorErr = _; decide +kernel, by simp [errStrs]⟩

theorem usageRel (fn : Bytes) (pos : Rule.Position) (line : Int) (args : List Bytes) :
    PrRel pos line ⟨args, .error (eF fn pos fmtUsage), 0⟩ (args, .error .replaceUsage) :=
  ⟨rfl, _, rfl, rfl, eF_usage fn pos⟩

/-- closes a `PrRel` error goal whose two sides have been evaluated -/
local macro "pr_err" t:term : tactic => `(tactic| exact ⟨⟨rfl, _, rfl, rfl, $t⟩, nofun⟩)

theorem pvErr_ne {path s : Bytes} {fx : Option ModVerif.Modfile.Fixer} {tok : Bytes} {k : ModVerif.Modfile.RuleErrKind}
    (h : ModVerif.Modfile.parseVersion path s fx = (tok, .error k)) : parseVersionErr s k ≠ none := by
  have := parseVersionErr_isSome h
  intro hn; rw [hn] at this; cases this

/-! `prOut` follows the model's own cut of `parseReplace` (`ModfileC20.parseReplace_eq`): the first token and the optional old
  version (`prHead1`, `prHead2` against `replaceOld`), then everything from the arrow on (`prTail` against `replaceNew`). -/

/-- from the arrow on; `mid` are the rewritten tokens between the first token and the arrow (none, or the old version) -/
theorem prTail_rel (fn : Bytes) (pos : Rule.Position) (line : Int) (verb : Bytes) (fx : Option ModVerif.Modfile.Fixer) (lineId : Nat)
    (a0' s v : Bytes) (mid : List Bytes) (vlen : Nat) (nsTok : Bytes) (nvTok : Option Bytes) :
    PrRelId lineId pos line (prTail fn pos line verb fx (a0' :: (mid ++ [arrowB])) s v vlen nsTok nvTok)
      (replaceNew lineId (mid.length + 3 + nvTok.toList.length) (mid.length + 1) a0' s v (mid ++ arrowB :: nsTok :: nvTok.toList) fx) := by
  have hsplit : mid ++ arrowB :: nsTok :: nvTok.toList = (mid ++ [arrowB]) ++ nsTok :: nvTok.toList := by simp
  have hd : (mid ++ arrowB :: nsTok :: nvTok.toList).drop (mid.length + 1) = nsTok :: nvTok.toList := by
    rw [hsplit]; exact List.drop_left' (by simp)
  have ht : (mid ++ arrowB :: nsTok :: nvTok.toList).take (mid.length + 1) = mid ++ [arrowB] := by
    rw [hsplit]; exact List.take_left' (by simp)
  unfold replaceNew prTail
  simp only [hd, ht]
  rcases hps2 : ModVerif.Modfile.parseString nsTok with _ | ⟨ns', nsTok'⟩
  · simp [psOut_none hps2, TieFnModfile.parseStringErr]
    pr_err (eF_quoted _ _)
  have e2 := psOut_some hps2
  cases nvTok with
  | none =>
    rcases Bool.eq_false_or_eq_true (ModVerif.Modfile.isDirectoryPath ns') with d | d
    rotate_left
    · rcases Bool.eq_false_or_eq_true (GoStrings.contains ns' [64]) with c | c
      · simp [e2, d, c, GoRtModfile.contains_eq]
        pr_err (eF_atVersion _ _)
      · simp [e2, d, c, GoRtModfile.contains_eq]
        pr_err (eF_needsDir _ _)
    rcases Bool.eq_false_or_eq_true (GoStrings.contains ns' [92]) with c | c
    · simp [e2, d, c, GoRtModfile.contains_eq]
      pr_err (eF_windows _ _)
    · simp [e2, d, c, GoRtModfile.contains_eq]
      exact ⟨⟨rfl, _, rfl, rfl, rfl, rfl⟩, fun _ h => by cases h; rfl⟩
  | some nvT =>
    rcases hpv2 : ModVerif.Modfile.parseVersion ns' nvT fx with ⟨nv', (k | nvv)⟩
    · have n1 := pvErr_ne hpv2
      simp [e2, hpv2, pvOut_error hpv2, n1]
      pr_err (parseVersion_errAbs hpv2)
    have e3 := pvOut_ok hpv2
    rcases Bool.eq_false_or_eq_true (ModVerif.Modfile.isDirectoryPath ns') with d | d
    · simp [e2, hpv2, e3, d]
      pr_err (eF_dirVersion _ _)
    · simp [e2, hpv2, e3, d]
      exact ⟨⟨rfl, _, rfl, rfl, rfl, rfl⟩, fun _ h => by cases h; rfl⟩

/-- `a0 => ns [nv]` -/
theorem prHead1_rel (fn : Bytes) (pos : Rule.Position) (line : Int) (verb : Bytes) (fx : Option ModVerif.Modfile.Fixer) (lineId : Nat)
    (a0 nsTok : Bytes) (nvTok : Option Bytes) :
    PrRelId lineId pos line (prHead1 fn pos line verb fx a0 arrowB nsTok nvTok)
      (ModVerif.Modfile.parseReplace lineId (a0 :: arrowB :: nsTok :: nvTok.toList) fx) := by
  have hlen : (nvTok.toList.length + 1 + 1 + 1 < 3) = False ∧ (nvTok.toList.length + 1 + 1 + 1 > 4) = False := by
    cases nvTok <;> simp
  rw [Proofs.ModfileC20.parseReplace_eq]
  unfold prHead1
  simp only [List.length_cons, B_arrow, List.getElem?_cons_succ, List.getElem?_cons_zero, beq_self_eq_true, Bool.and_true, ge_iff_le,
    Nat.le_add_left, decide_true, if_true, hlen, decide_false, Bool.false_or, bne_self_eq_false, Bool.false_eq_true, if_false]
  rcases hps : ModVerif.Modfile.parseString a0 with _ | ⟨s, a0'⟩
  · simp [psOut_none hps, TieFnModfile.parseStringErr]
    pr_err (eF_quoted _ _)
  have e0 := psOut_some hps
  rcases hm : ModVerif.Modfile.modulePathMajor s with _ | pm
  · simp [e0, hm]
    pr_err (eM_path _ _ _ _)
  have hn : 1 + (1 + (1 + nvTok.toList.length)) = 3 + nvTok.toList.length := by omega
  simpa [e0, hm, replaceOld, Nat.add_comm, Nat.add_left_comm, hn] using prTail_rel fn pos line verb fx lineId a0' s [] [] 0 nsTok nvTok

/-- `a0 a1 => ns [nv]` -/
theorem prHead2_rel (fn : Bytes) (pos : Rule.Position) (line : Int) (verb : Bytes) (fx : Option ModVerif.Modfile.Fixer) (lineId : Nat)
    (a0 a1 nsTok : Bytes) (nvTok : Option Bytes) (hx : a1 ≠ arrowB) :
    PrRelId lineId pos line (prHead2 fn pos line verb fx a0 a1 arrowB nsTok nvTok)
      (ModVerif.Modfile.parseReplace lineId (a0 :: a1 :: arrowB :: nsTok :: nvTok.toList) fx) := by
  have hlen : (nvTok.toList.length + 1 + 1 + 1 + 1 < 4) = False ∧ (nvTok.toList.length + 1 + 1 + 1 + 1 > 5) = False := by
    cases nvTok <;> simp
  have hx' : (a1 == arrowB) = false := by simpa using hx
  rw [Proofs.ModfileC20.parseReplace_eq]
  unfold prHead2
  simp only [List.length_cons, B_arrow, List.getElem?_cons_succ, List.getElem?_cons_zero, Option.some_beq_some, hx', Bool.and_false,
    Bool.false_eq_true, if_false, hlen, decide_false, Bool.false_or, bne_self_eq_false]
  rcases hps : ModVerif.Modfile.parseString a0 with _ | ⟨s, a0'⟩
  · simp [psOut_none hps, TieFnModfile.parseStringErr]
    pr_err (eF_quoted _ _)
  have e0 := psOut_some hps
  rcases hm : ModVerif.Modfile.modulePathMajor s with _ | pm
  · simp [e0, hm]
    pr_err (eM_path _ _ _ _)
  rcases hpv : ModVerif.Modfile.parseVersion s a1 fx with ⟨a1', (k | v)⟩
  · have n1 := pvErr_ne hpv
    simp [e0, hm, replaceOld, hpv, pvOut_error hpv, n1]
    pr_err (parseVersion_errAbs hpv)
  have e1 := pvOut_ok hpv
  rcases Bool.eq_false_or_eq_true (Module.checkPathMajor v pm) with cm | cm
  rotate_left
  · simp [e0, hm, replaceOld, hpv, e1, cm]
    pr_err (eM_major _ _ _ _)
  have hn : 1 + (1 + (1 + (1 + nvTok.toList.length))) = 4 + nvTok.toList.length := by omega
  simpa [e0, hm, replaceOld, hpv, e1, cm, Nat.add_comm, Nat.add_left_comm, hn] using
    prTail_rel fn pos line verb fx lineId a0' s v [a1'] v.length nsTok nvTok

/-- the arrow in no legal place, or too few or too many tokens: the usage error on both sides -/
local macro "pr_usage" "[" ts:Lean.Parser.Tactic.simpLemma,* "]" : tactic =>
  `(tactic| (simp [ModVerif.Tie.FnRuleLeafC.prOut, ModVerif.Modfile.parseReplace, ModVerif.Tie.FnRuleLeafD.B_arrow, $ts,*]
             exact ⟨⟨rfl, _, rfl, rfl, ModVerif.Tie.FnRuleLeafD.eF_usage _ _⟩, nofun⟩))

theorem prOut_modelId (fn : Bytes) (pos : Rule.Position) (line : Int) (verb : Bytes) (fx : Option ModVerif.Modfile.Fixer) (lineId : Nat)
    (args : List Bytes) :
    PrRelId lineId pos line (prOut fn pos line verb args fx) (ModVerif.Modfile.parseReplace lineId args fx) := by
  have ne_B : ∀ {x : Bytes}, ¬ x = arrowB → ¬ x = B "=>" := fun h => by rw [B_arrow]; exact h
  rcases args with _ | ⟨a, _ | ⟨b, _ | ⟨c, _ | ⟨d, _ | ⟨e, _ | ⟨f, rest⟩⟩⟩⟩⟩⟩
  · pr_usage []
  · pr_usage []
  · by_cases hx : b = arrowB
    · pr_usage [hx]
    · pr_usage [hx, ne_B hx]
  · by_cases hx : b = arrowB
    · subst hx; simpa [prOut] using prHead1_rel fn pos line verb fx lineId a c none
    · pr_usage [hx, ne_B hx]
  · by_cases hx : b = arrowB
    · subst hx; simpa [prOut] using prHead1_rel fn pos line verb fx lineId a c (some d)
    by_cases hy : c = arrowB
    · subst hy; simpa [prOut, hx] using prHead2_rel fn pos line verb fx lineId a b d none hx
    · pr_usage [hx, hy, ne_B hx, ne_B hy]
  · by_cases hx : b = arrowB
    · pr_usage [hx]
    by_cases hy : c = arrowB
    · subst hy; simpa [prOut, hx] using prHead2_rel fn pos line verb fx lineId a b d (some e) hx
    · pr_usage [hx, hy, ne_B hx, ne_B hy]
  · by_cases hx : b = arrowB
    · pr_usage [hx]
    · pr_usage [hx, ne_B hx]

theorem prOut_model (fn : Bytes) (pos : Rule.Position) (line : Int) (verb : Bytes) (fx : Option ModVerif.Modfile.Fixer) (lineId : Nat)
    (args : List Bytes) :
    PrRel pos line (prOut fn pos line verb args fx) (ModVerif.Modfile.parseReplace lineId args fx) :=
  (prOut_modelId fn pos line verb fx lineId args).1

theorem parseReplace_lineId {lineId : Nat} {args : List Bytes} {fx : Option ModVerif.Modfile.Fixer} {R : ModVerif.Modfile.Replace}
    (h : (ModVerif.Modfile.parseReplace lineId args fx).2 = .ok R) : R.lineId = lineId :=
  (prOut_modelId [] default 0 [] fx lineId args).2 R h

theorem _root_.ModVerif.Tie.FnRuleAddC.parseReplace_lineId (lineId : Nat) (args : List Bytes) (fx : Option ModVerif.Modfile.Fixer)
    (args' : List Bytes) (r : ModVerif.Modfile.Replace)
    (h : ModVerif.Modfile.parseReplace lineId args fx = (args', .ok r)) : r.lineId = lineId :=
  FnRuleLeafD.parseReplace_lineId (by rw [h])

theorem prHead1_vlen (fn : Bytes) (pos : Rule.Position) (line : Int) (verb : Bytes) (fx : Option ModVerif.Modfile.Fixer)
    (a0 ar nsTok : Bytes) (nvTok : Option Bytes) : (prHead1 fn pos line verb fx a0 ar nsTok nvTok).vlen = 0 := by
  unfold prHead1
  split
  · rfl
  · split
    · rfl
    · exact prTail_vlen ..

theorem prHead2_vlen_cases (fn : Bytes) (pos : Rule.Position) (line : Int) (verb : Bytes) (fx : Option ModVerif.Modfile.Fixer)
    (a0 a1 ar nsTok : Bytes) (nvTok : Option Bytes) :
    (prHead2 fn pos line verb fx a0 a1 ar nsTok nvTok).vlen = 0 ∨
      ∃ s a0' a1' v, ModVerif.Modfile.parseString a0 = some (s, a0') ∧ ModVerif.Modfile.parseVersion s a1 fx = (a1', .ok v) ∧
        (prHead2 fn pos line verb fx a0 a1 ar nsTok nvTok).vlen = v.length := by
  rcases hps : ModVerif.Modfile.parseString a0 with _ | ⟨s, a0'⟩
  · left
    simp [prHead2, psOut_none hps, TieFnModfile.parseStringErr]
  have e0 := psOut_some hps
  rcases hm : ModVerif.Modfile.modulePathMajor s with _ | pm
  · left
    simp [prHead2, e0, hm]
  rcases hpv : ModVerif.Modfile.parseVersion s a1 fx with ⟨a1', (k | v)⟩
  · left
    have n1 := pvErr_ne hpv
    simp [prHead2, e0, hm, pvOut_error hpv, n1]
  · right
    refine ⟨s, a0', a1', v, rfl, hpv, ?_⟩
    have e1 := pvOut_ok hpv
    have p0 : ((psOut a0).1.2).isNone = true := by rw [e0]; rfl
    have hm' : ModVerif.Modfile.modulePathMajor (psOut a0).1.1 = some pm := by rw [e0]; exact hm
    have p1 : ((pvOut (psOut a0).1.1 a1 fx).1.2).isNone = true := by rw [e0]; simp only []; rw [e1]; rfl
    rw [prHead2_vlen p0 hm' p1, e0]
    simp only []
    rw [e1]

/-- **the fuel parseReplace needs for module.CheckPathMajor**: 0, or the length of the old version the model parses -/
theorem prOut_vlen_cases (fn : Bytes) (pos : Rule.Position) (line : Int) (verb : Bytes) (args : List Bytes) (fx : Option ModVerif.Modfile.Fixer) :
    (prOut fn pos line verb args fx).vlen = 0 ∨
      ∃ a0 a1 rest s a0' a1' v, args = a0 :: a1 :: rest ∧ ModVerif.Modfile.parseString a0 = some (s, a0') ∧
        ModVerif.Modfile.parseVersion s a1 fx = (a1', .ok v) ∧ (prOut fn pos line verb args fx).vlen = v.length := by
  rcases args with _ | ⟨a, _ | ⟨b, _ | ⟨c, _ | ⟨d, _ | ⟨e, _ | ⟨f, rest⟩⟩⟩⟩⟩⟩
  · left; rfl
  · left; rfl
  · left; rfl
  · left
    simp only [prOut]
    split
    · exact prHead1_vlen ..
    · rfl
  · simp only [prOut]
    split
    · left; exact prHead1_vlen ..
    · split
      · rcases prHead2_vlen_cases fn pos line verb fx a b c d none with h0 | ⟨s, a0', a1', v, h1, h2, h3⟩
        · left; exact h0
        · right; exact ⟨a, b, _, s, a0', a1', v, rfl, h1, h2, h3⟩
      · left; rfl
  · simp only [prOut]
    split
    · left; rfl
    · split
      · rcases prHead2_vlen_cases fn pos line verb fx a b c d (some e) with h0 | ⟨s, a0', a1', v, h1, h2, h3⟩
        · left; exact h0
        · right; exact ⟨a, b, _, s, a0', a1', v, rfl, h1, h2, h3⟩
      · left; rfl
  · left; rfl

end ModVerif.Tie.FnRuleLeafD
