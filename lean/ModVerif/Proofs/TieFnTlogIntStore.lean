/-
  Tie proofs: `StoredHashesForRecordHash` (generic in the hash type and in the reader).
-/
import ModVerif.Proofs.TieFnTlogIntTree
namespace ModVerif.TieFnTlogInt
open ModVerif ModVerif.GoRt

/-- the indexes `StoredHashesForRecordHash(n, …)` reads (the model's list) -/
def shIndexes (n : Nat) : List Nat :=
  ((List.range (Tlog.trailingZeros64 (n + 1))).map fun i => Tlog.storedHashIndex i ((n >>> i) - 1)).reverse

theorem tzAux_le : ∀ f n, Tlog.tzAux f n ≤ f := by
  intro f
  induction f with
  | zero => intro n; simp [Tlog.tzAux]
  | succ f ih =>
    intro n
    have := ih (n / 2)
    simp only [Tlog.tzAux]
    split <;> omega

theorem trailingZeros64_le (n : Nat) : Tlog.trailingZeros64 n ≤ 64 := tzAux_le 64 _

section
variable {H : Type} [DecidableEq H] [Inhabited H]

/-- loop 1: `for i := 0; i < m; i++ { indexes[m-1-i] = StoredHashIndex(i, n>>uint(i)-1) }` -/
theorem StoredHashesForRecordHash_loop1_eq (node : H → H → H) (N M : Nat) (hM : M ≤ 64)
    (hrange : ∀ j, j < M → 1 ≤ N >>> j ∧ Tlog.storedHashIndex j ((N >>> j) - 1) < 2 ^ 63) :
    ∀ (d i fuel : Nat), i + d = M → d + 64 ≤ fuel →
    Generated.Tlog.StoredHashesForRecordHash_loop1 node (N : Int) (M : Int) fuel
        (List.replicate d (0 : Int) ++
          ((List.range i).map fun j => ((Tlog.storedHashIndex j ((N >>> j) - 1) : Nat) : Int)).reverse) (i : Int) =
      .ok (((List.range M).map fun j => ((Tlog.storedHashIndex j ((N >>> j) - 1) : Nat) : Int)).reverse, (M : Int)) := by
  intro d
  induction d with
  | zero =>
    intro i fuel hi hf
    obtain ⟨g, rfl⟩ : ∃ g, fuel = g + 1 := ⟨fuel - 1, by omega⟩
    have : i = M := by omega
    subst this
    have hlt : ¬ ((i : Int) < (i : Int)) := by omega
    simp [Generated.Tlog.StoredHashesForRecordHash_loop1, hlt]
  | succ d ih =>
    intro i fuel hi hf
    obtain ⟨g, rfl⟩ : ∃ g, fuel = g + 1 := ⟨fuel - 1, by omega⟩
    have hiM : i < M := by omega
    obtain ⟨h1, h2⟩ := hrange i hiM
    have hlt : ((i : Int) < (M : Int)) := by omega
    have e1 : ((N >>> i : Nat) : Int) - 1 = (((N >>> i) - 1 : Nat) : Int) := by omega
    have e2 : (M : Int) - 1 = ((M - 1 : Nat) : Int) := by omega
    have e3 : ((M - 1 : Nat) : Int) - (i : Int) = (d : Int) := by omega
    have e4 : (i : Int) + 1 = ((i + 1 : Nat) : Int) := by omega
    have hshi := StoredHashIndex_eq g i ((N >>> i) - 1) h2 (by omega)
    have hlen : d < (List.replicate (d + 1) (0 : Int) ++
          ((List.range i).map fun j => ((Tlog.storedHashIndex j ((N >>> j) - 1) : Nat) : Int)).reverse).length := by
      simp; omega
    rw [Generated.Tlog.StoredHashesForRecordHash_loop1]
    simp only [hlt, decide_true, ↓reduceIte, toU64_natCast (show i < 2 ^ 64 by omega), shr_natCast, mbind_ok, e1,
      chk64_natCast (show (N >>> i) - 1 < 2 ^ 63 by
        have := le_storedHashIndex i ((N >>> i) - 1)
        omega), hshi, e2,
      chk64_natCast (show M - 1 < 2 ^ 63 by omega), e3, chk64_natCast (show d < 2 ^ 63 by omega),
      setIdxL_natCast hlen, set_replicate_append, e4, chk64_natCast (show i + 1 < 2 ^ 63 by omega)]
    have := ih (i + 1) g (by omega) (by omega)
    rw [List.range_succ, List.map_append, List.reverse_append] at this
    exact this

/-- loop 2: `for i := 0; i < m; i++ { h = NodeHash(old[m-1-i], h); hashes = append(hashes, h) }` -/
theorem StoredHashesForRecordHash_loop2_eq (node : H → H → H) (old : List H) (hlen : old.length < 2 ^ 63) :
    ∀ (d i fuel : Nat) (h : H) (hashes : List H), i + d = old.length → d < fuel →
    ∃ h' : H, Generated.Tlog.StoredHashesForRecordHash_loop2 node (old.length : Int) old fuel h hashes (i : Int) =
      .ok (h', hashes ++ Tlog.buildHashes node (old.take d).reverse h, (old.length : Int)) := by
  intro d
  induction d with
  | zero =>
    intro i fuel h hashes hi hf
    obtain ⟨g, rfl⟩ : ∃ g, fuel = g + 1 := ⟨fuel - 1, by omega⟩
    have hlt : ¬ ((i : Int) < (old.length : Int)) := by omega
    refine ⟨h, ?_⟩
    have : i = old.length := by omega
    simp [Generated.Tlog.StoredHashesForRecordHash_loop2, Tlog.buildHashes, this]
  | succ d ih =>
    intro i fuel h hashes hi hf
    obtain ⟨g, rfl⟩ : ∃ g, fuel = g + 1 := ⟨fuel - 1, by omega⟩
    have hlt : ((i : Int) < (old.length : Int)) := by omega
    have hd : d < old.length := by omega
    have e2 : (old.length : Int) - 1 = ((old.length - 1 : Nat) : Int) := by omega
    have e3 : ((old.length - 1 : Nat) : Int) - (i : Int) = (d : Int) := by omega
    have e4 : (i : Int) + 1 = ((i + 1 : Nat) : Int) := by omega
    obtain ⟨h', hh'⟩ := ih (i + 1) g (node old[d] h) (hashes ++ [node old[d] h]) (by omega) (by omega)
    refine ⟨h', ?_⟩
    rw [Generated.Tlog.StoredHashesForRecordHash_loop2]
    simp only [hlt, decide_true, ↓reduceIte, e2, chk64_natCast (show old.length - 1 < 2 ^ 63 by omega), mbind_ok, e3,
      chk64_natCast (show d < 2 ^ 63 by omega), idxL_natCast hd, e4, chk64_natCast (show i + 1 < 2 ^ 63 by omega), hh']
    rw [List.take_succ_eq_append_getElem hd, List.reverse_append]
    simp [Tlog.buildHashes]

/-- the model's answer in the result type of the generated function (hashes, error) -/
def shOut (r : List Int → List H × Option String) (N : Nat) : Except Tlog.Err (List H) → List H × Option String
  | .ok hs => (hs, none)
  | .error _ => ([], readErrOf r (shIndexes N))

theorem StoredHashesForRecordHash_eq' (node : H → H → H) (fuel N : Nat) (h : H) (r : List Int → List H × Option String)
    (hN1 : N + 1 < 2 ^ 63) (hidx : ∀ x ∈ shIndexes N, x < 2 ^ 63) (hf : 128 ≤ fuel) :
    Generated.Tlog.StoredHashesForRecordHash node fuel (N : Int) h r =
      .ok (shOut r N (Tlog.storedHashesForRecordHash node N h (readerOf r))) := by
  have hM := trailingZeros64_le (N + 1)
  have hrange : ∀ j, j < Tlog.trailingZeros64 (N + 1) →
      1 ≤ N >>> j ∧ Tlog.storedHashIndex j ((N >>> j) - 1) < 2 ^ 63 := by
    intro j hj
    refine ⟨?_, ?_⟩
    · rw [Tlog.trailingZeros64_eq_tz (N + 1) (by omega) (by omega)] at hj
      have := TlogStore.shiftRight_succ_of_lt_tz N j hj
      omega
    · apply hidx
      simp only [shIndexes, List.mem_reverse, List.mem_map, List.mem_range]
      exact ⟨j, hj, rfl⟩
  clear hidx
  generalize hMd : Tlog.trailingZeros64 (N + 1) = M at hM hrange
  have e1 : (N : Int) + 1 = ((N + 1 : Nat) : Int) := by omega
  have hl1 := StoredHashesForRecordHash_loop1_eq node N M hM hrange M 0 fuel (by omega) (by omega)
  simp only [List.range_zero, List.map_nil, List.reverse_nil, List.append_nil, Int.natCast_zero] at hl1
  have hidx : ((List.range M).map fun j => ((Tlog.storedHashIndex j ((N >>> j) - 1) : Nat) : Int)).reverse =
      (shIndexes N).map Int.ofNat := by
    simp only [shIndexes, hMd, List.map_reverse, List.map_map]
    rfl
  have hilen : (shIndexes N).length = M := by simp [shIndexes, hMd]
  rw [hidx] at hl1
  simp only [Generated.Tlog.StoredHashesForRecordHash, e1, chk64_natCast hN1, mbind_ok,
    toU64_natCast (show N + 1 < 2 ^ 64 by omega), trailingZeros64_eq, hMd, makeList_natCast, hl1]
  -- the model side
  have hmodel : Tlog.storedHashesForRecordHash node N h (readerOf r) =
      (Tlog.readChecked (readerOf r) (shIndexes N)).bind fun old => .ok (h :: Tlog.buildHashes node old.reverse h) := rfl
  rw [hmodel]
  simp only [Tlog.readChecked, readerOf]
  rcases hre : r ((shIndexes N).map Int.ofNat) with ⟨old, err⟩
  cases err with
  | some e =>
    simp [shOut, readErrOf, hre, Except.bind]
  | none =>
    by_cases hlen : old.length = M
    · have hl : (len old = len (List.map Int.ofNat (shIndexes N))) := by simp [len, hlen, hilen]
      obtain ⟨h', hh'⟩ := StoredHashesForRecordHash_loop2_eq node old (by omega) old.length 0 fuel h [h] (by omega) (by omega)
      rw [List.take_length] at hh'
      rw [hlen] at hh'
      simp only [Int.natCast_zero] at hh'
      simp [hl, hh', shOut, hlen, hilen, Except.bind]
    · have hl : ¬ (len old = len (List.map Int.ofNat (shIndexes N))) := by
        simp only [len, List.length_map, hilen, Int.ofNat_eq_natCast]; omega
      simp [hl, shOut, readErrOf, hre, hlen, hilen, Except.bind]

theorem shIndexes_lt (N : Nat) (hN : N + 1 < 2 ^ 64) : ∀ x ∈ shIndexes N, x < Tlog.S N := by
  intro x hx
  simp only [shIndexes, List.mem_reverse, List.mem_map, List.mem_range] at hx
  obtain ⟨j, hj, rfl⟩ := hx
  rw [Tlog.trailingZeros64_eq_tz (N + 1) (by omega) hN] at hj
  have h1 := TlogStore.shiftRight_succ_of_lt_tz N j hj
  have h2 := TlogStore.shiftRight_of_le_tz N j (by omega)
  have h3 := storedHashIndex_lt_S j ((N >>> j) - 1)
  have e : (N >>> j) - 1 + 1 = N >>> j := by omega
  rw [e] at h3
  have hp := Nat.two_pow_pos j
  have h4 : (N >>> j) * 2 ^ j ≤ N := by rw [Nat.add_mul] at h2; omega
  have := TlogStore.S_mono N _ h4
  omega

/-- the position `S N = StoredHashIndex(0, N)` where the hashes are to be stored fits in int64 -/
theorem StoredHashesForRecordHash_eq (node : H → H → H) (fuel N : Nat) (h : H) (r : List Int → List H × Option String)
    (hS : Tlog.S N < 2 ^ 63) (hf : 128 ≤ fuel) :
    Generated.Tlog.StoredHashesForRecordHash node fuel (N : Int) h r =
      .ok (shOut r N (Tlog.storedHashesForRecordHash node N h (readerOf r))) := by
  have hle := TlogStore.le_S N
  have hN1 : N + 1 < 2 ^ 63 := by
    by_cases h0 : N = 0
    · omega
    · have := Tlog.S_pos N (by omega)
      have := TlogStore.le_S (N / 2)
      omega
  refine StoredHashesForRecordHash_eq' node fuel N h r hN1 ?_ hf
  intro x hx
  have := shIndexes_lt N (by omega) x hx
  omega

end
end ModVerif.TieFnTlogInt
