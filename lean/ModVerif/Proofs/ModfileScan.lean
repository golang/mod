/-
  The successful steps of the go.mod lexer as relations: what `readToken` can do to the state.

  `Runes g i i'`: `readRune` steps from `i` to `i'`, each taken from a state satisfying the loop guard `g`
  (`skipSpaces`, `consumeLine`, `readIdent`); `Str q`: the body of a quoted string (an escape reads two runes);
  `Com j1 i`: `readComment`; `Tok j1 i`: `readToken` from the state `j1` after the blanks, one constructor per
  branch, each with the tests that selected it, so that the relation is exact: `readToken j = .ok i` iff blanks are
  skipped up to some `j1` and `Tok j1 i` (`readToken_tok`, `readToken_of_tok`).  A fact about the bytes a step
  consumed is an induction over `Runes` / `Str`; a predicate that `readRune` preserves is carried along
  (`Runes.pres`, `Str.pres`, `Com.pres`).
-/
import ModVerif.Model.Modfile.Lex
import ModVerif.Proofs.ModfileLex
namespace ModVerif.Proofs.ModfileScan
open ModVerif ModVerif.Modfile

inductive Runes (g : Input → Prop) : Input → Input → Prop
  | nil (i : Input) : Runes g i i
  | cons {i i1 i' : Input} {r : Nat} : g i → readRune i = .ok (r, i1) → Runes g i1 i' → Runes g i i'

/-- what every guarded `readRune` step preserves holds at the end of the loop (`R` may mention the start state) -/
theorem Runes.fold {g : Input → Prop} {R : Input → Prop} {i i' : Input} (h : Runes g i i')
    (hs : ∀ a b r, R a → g a → readRune a = .ok (r, b) → R b) (h0 : R i) : R i' := by
  induction h with
  | nil _ => exact h0
  | cons hg hr _ ih => exact ih (hs _ _ _ h0 hg hr)

theorem Runes.pres {Q : Input → Prop} (hQ : ∀ i r i', Q i → readRune i = .ok (r, i') → Q i') {g : Input → Prop}
    {i i' : Input} (h : Runes g i i') (hi : Q i) : Q i' :=
  h.fold (fun a b r ha _ hr => hQ a r b ha hr) hi

def Blank (i : Input) : Prop := i.eof = false ∧ (i.peekRune == 32 || i.peekRune == 9 || i.peekRune == 13) = true
def InLine (i : Input) : Prop := i.eof = false ∧ i.peekRune ≠ 10
def IdentGo (i : Input) : Prop :=
  isIdent i.peekRune = true ∧ i.peekPrefix [47, 47] = false ∧ i.peekPrefix [47, 42] = false

/-- `readString q` -/
inductive Str (q : Nat) : Input → Input → Prop
  | close {i i1 : Input} : i.eof = false → i.peekRune ≠ 10 → readRune i = .ok (q, i1) → Str q i i1
  | esc {i i1 i2 i' : Input} {c r : Nat} : i.eof = false → i.peekRune ≠ 10 → readRune i = .ok (c, i1) → c ≠ q →
      (c == 92 && q != 96) = true → i1.eof = false → readRune i1 = .ok (r, i2) → Str q i2 i' → Str q i i'
  | other {i i1 i' : Input} {c : Nat} : i.eof = false → i.peekRune ≠ 10 → readRune i = .ok (c, i1) → c ≠ q →
      (c == 92 && q != 96) = false → Str q i1 i' → Str q i i'

/-- the comment record `readComment` pushes for an end-of-line comment -/
def pushSuffix (i : Input) : Input :=
  { i with commentsRev := { start := i.token.pos, token := i.token.text, suffix := true } :: i.commentsRev }

/-- is there something other than blanks before the comment on its line? -/
def hasPrefix (i : Input) : Bool :=
  !(GoStrings.trimSpace (i.consumedRev.takeWhile (· != 10)).reverse).isEmpty

/-- `readComment j1`: the two slashes, the rest of the line, its end (`d`: after the newline, if there is one) -/
inductive Com (j1 : Input) : Input → Prop
  | comment {a b c : Input} {r1 r2 : Nat} : readRune (startToken j1) = .ok (r1, a) → readRune a = .ok (r2, b) →
      Runes InLine b c → (c.eof = true ∨ c.peekRune = 10) → hasPrefix j1 = false →
      ∀ d, (c.eof = true ∧ d = c ∨ ∃ r, readRune c = .ok (r, d)) → Com j1 (endToken .comment d)
  | eolComment {a b c : Input} {r1 r2 : Nat} : readRune (startToken j1) = .ok (r1, a) → readRune a = .ok (r2, b) →
      Runes InLine b c → (c.eof = true ∨ c.peekRune = 10) → hasPrefix j1 = true →
      ∀ d, (c.eof = true ∧ d = c ∨ ∃ r, readRune c = .ok (r, d)) → Com j1 (pushSuffix (endToken .eolComment d))

/-- `readToken` from the state `j1` after the blanks.  The comment branch carries the call itself: `readComment` has no
    failing branch of its own to record, users that need its runes take them from `readComment_com`, and those that know
    its result in closed form (`ModfileFmtLex.readComment_char`) rewrite with the equation. -/
inductive Tok (j1 : Input) : Input → Prop
  | comment {i : Input} : j1.eof = false → j1.peekPrefix [47, 47] = true → readComment j1 = .ok i → Tok j1 i
  | eof : j1.eof = true → Tok j1 (endToken .eof (startToken j1))
  | punct {a : Input} {r : Nat} : j1.eof = false → j1.peekPrefix [47, 47] = false → j1.peekPrefix [47, 42] = false →
      isPunct j1.peekRune = true → readRune (startToken j1) = .ok (r, a) →
      Tok j1 (endToken (.punct (UInt8.ofNat j1.peekRune)) a)
  | string {a b : Input} {r : Nat} : j1.eof = false → j1.peekPrefix [47, 47] = false → j1.peekPrefix [47, 42] = false →
      isPunct j1.peekRune = false → quoteRunes.contains j1.peekRune = true →
      readRune (startToken j1) = .ok (r, a) → Str j1.peekRune a b → Tok j1 (endToken .string b)
  | ident {b : Input} : j1.eof = false → j1.peekPrefix [47, 47] = false → j1.peekPrefix [47, 42] = false →
      isPunct j1.peekRune = false → quoteRunes.contains j1.peekRune = false → isIdent j1.peekRune = true →
      Runes IdentGo (startToken j1) b →
      (isIdent b.peekRune = false ∨ b.peekPrefix [47, 47] = true) → Tok j1 (endToken .ident b)

theorem readRune_peek {i i1 : Input} {r : Nat} (h : readRune i = .ok (r, i1)) : r = i.peekRune := by
  unfold readRune at h
  unfold Input.peekRune
  split at h
  · cases h
  · rename_i a t hrem
    simp only [Except.ok.injEq, Prod.mk.injEq] at h
    exact h.1.symm

theorem readRune_cases (i : Input) : (∃ r i1, readRune i = .ok (r, i1)) ∨ ∃ e, readRune i = .error e := by
  cases h : readRune i with
  | ok v => exact Or.inl ⟨v.1, v.2, rfl⟩
  | error e => exact Or.inr ⟨e, rfl⟩

theorem skipSpaces_runes : ∀ (fuel : Nat) (i i' : Input), skipSpaces fuel i = .ok i' →
    Runes Blank i i' ∧ ¬ Blank i' := by
  intro fuel
  induction fuel with
  | zero => intro i i' h; cases h
  | succ n ih =>
    intro i i' h
    unfold skipSpaces at h
    split at h
    · rename_i he
      cases h; exact ⟨.nil _, fun hb => by rw [hb.1] at he; cases he⟩
    · rename_i he
      simp only at h
      split at h
      · rename_i hb
        rcases readRune_cases i with ⟨r, i1, hr⟩ | ⟨e, hr⟩
        · simp only [hr, bind, Except.bind] at h
          exact ⟨.cons ⟨by simpa using he, hb⟩ hr (ih _ _ h).1, (ih _ _ h).2⟩
        · simp [hr, bind, Except.bind] at h
      · rename_i hb
        cases h; exact ⟨.nil _, fun hb' => hb hb'.2⟩

theorem consumeLine_runes : ∀ (fuel : Nat) (i i' : Input), consumeLine fuel i = .ok i' →
    ∃ c, Runes InLine i c ∧ (c.eof = true ∨ c.peekRune = 10) ∧
      (c.eof = true ∧ i' = c ∨ ∃ r, readRune c = .ok (r, i')) := by
  intro fuel
  induction fuel with
  | zero => intro i i' h; cases h
  | succ n ih =>
    intro i i' h
    unfold consumeLine at h
    split at h
    · rename_i he
      cases h
      exact ⟨_, .nil _, Or.inl he, Or.inl ⟨he, rfl⟩⟩
    · rename_i he
      rcases readRune_cases i with ⟨r, i1, hr⟩ | ⟨e, hr⟩
      · simp only [hr, bind, Except.bind] at h
        have hp := readRune_peek hr
        split at h
        · rename_i h10
          cases h
          exact ⟨_, .nil _, Or.inr (by rw [← hp]; simpa using h10), Or.inr ⟨r, hr⟩⟩
        · rename_i h10
          obtain ⟨c, h1, h2, h3⟩ := ih _ _ h
          exact ⟨c, .cons ⟨by simpa using he, by rw [← hp]; simpa using h10⟩ hr h1, h2, h3⟩
      · simp [hr, bind, Except.bind] at h

theorem readIdent_runes : ∀ (fuel : Nat) (i i' : Input), readIdent fuel i = .ok i' →
    Runes IdentGo i i' ∧ (isIdent i'.peekRune = false ∨ i'.peekPrefix [47, 47] = true) := by
  intro fuel
  induction fuel with
  | zero => intro i i' h; cases h
  | succ n ih =>
    intro i i' h
    unfold readIdent at h
    split at h
    · rename_i hid
      split at h
      · rename_i hs
        cases h
        exact ⟨.nil _, Or.inr hs⟩
      · rename_i hs
        split at h
        · cases h
        · rename_i hb
          rcases readRune_cases i with ⟨r, i1, hr⟩ | ⟨e, hr⟩
          · simp only [hr, bind, Except.bind] at h
            obtain ⟨h1, h2⟩ := ih _ _ h
            exact ⟨.cons ⟨hid, by simpa using hs, by simpa using hb⟩ hr h1, h2⟩
          · simp [hr, bind, Except.bind] at h
    · rename_i hid
      cases h
      exact ⟨.nil _, Or.inl (by simpa using hid)⟩

theorem readString_str (q : Nat) : ∀ (fuel : Nat) (i i' : Input), readString q fuel i = .ok i' → Str q i i' := by
  intro fuel
  induction fuel with
  | zero => intro i i' h; cases h
  | succ n ih =>
    intro i i' h
    unfold readString at h
    split at h
    · cases h
    · rename_i he
      split at h
      · cases h
      · rename_i hnl
        have he : i.eof = false := by simpa using he
        have hnl : i.peekRune ≠ 10 := by simpa using hnl
        rcases readRune_cases i with ⟨c, i1, hr⟩ | ⟨e, hr⟩
        · simp only [hr, bind, Except.bind] at h
          split at h
          · rename_i hq
            cases h
            have hq : c = q := by simpa using hq
            subst hq
            exact .close he hnl hr
          · rename_i hq
            have hq : c ≠ q := by simpa using hq
            split at h
            · rename_i hesc
              split at h
              · cases h
              · rename_i he1
                rcases readRune_cases i1 with ⟨r2, i2, hr2⟩ | ⟨e, hr2⟩
                · simp only [hr2] at h
                  exact .esc he hnl hr hq hesc (by simpa using he1) hr2 (ih _ _ h)
                · simp [hr2] at h
            · rename_i hesc
              exact .other he hnl hr hq (by simpa using hesc) (ih _ _ h)
        · simp [hr, bind, Except.bind] at h

theorem readComment_com {j1 i : Input} (h : readComment j1 = .ok i) : Com j1 i := by
  unfold readComment at h
  simp only [bind, Except.bind] at h
  rcases readRune_cases (startToken j1) with ⟨r1, a, h1⟩ | ⟨e, h1⟩
  · simp only [h1] at h
    rcases readRune_cases a with ⟨r2, b, h2⟩ | ⟨e, h2⟩
    · simp only [h2] at h
      cases hc : consumeLine (b.remaining.length + 1) b with
      | error e => simp [hc] at h
      | ok d =>
        simp only [hc] at h
        obtain ⟨c, hl, hstop, hd⟩ := consumeLine_runes _ _ _ hc
        split at h
        · rename_i hs
          cases h
          exact .comment h1 h2 hl hstop (by simpa [hasPrefix, startToken] using hs) d hd
        · rename_i hs
          cases h
          exact .eolComment h1 h2 hl hstop (by simpa [hasPrefix, startToken] using hs) d hd
    · simp [h2] at h
  · simp [h1] at h

theorem readToken_tok {j i : Input} (h : readToken j = .ok i) : ∃ j1, Runes Blank j j1 ∧ ¬ Blank j1 ∧ Tok j1 i := by
  unfold readToken at h
  simp only [bind, Except.bind] at h
  cases hs : skipSpaces (j.remaining.length + 1) j with
  | error e => simp [hs] at h
  | ok j1 =>
    simp only [hs] at h
    refine ⟨j1, (skipSpaces_runes _ _ _ hs).1, (skipSpaces_runes _ _ _ hs).2, ?_⟩
    split at h
    · rename_i hc
      simp only [Bool.and_eq_true, Bool.not_eq_true'] at hc
      exact .comment hc.1 hc.2 h
    · rename_i hc1
      split at h
      · cases h
      · rename_i hc2
        split at h
        · rename_i he
          cases h
          exact .eof he
        · rename_i he
          have he : j1.eof = false := by simpa [startToken, Input.eof] using he
          simp only [he, Bool.not_false, Bool.true_and, Bool.not_eq_true] at hc1 hc2
          split at h
          · rename_i hpun
            rcases readRune_cases (startToken j1) with ⟨r, a, h1⟩ | ⟨e, h1⟩
            · simp only [h1] at h
              cases h
              exact .punct (j1 := j1) he hc1 hc2 hpun h1
            · simp [h1] at h
          · rename_i hnp
            have hnp : isPunct (startToken j1).peekRune = false := by simpa using hnp
            split at h
            · rename_i hq
              rcases readRune_cases (startToken j1) with ⟨r, a, h1⟩ | ⟨e, h1⟩
              · simp only [h1] at h
                cases hrs : readString (startToken j1).peekRune (a.remaining.length + 1) a with
                | error e => simp [hrs] at h
                | ok b =>
                  simp only [hrs] at h
                  cases h
                  exact .string (j1 := j1) he hc1 hc2 hnp hq h1 (readString_str _ _ _ _ hrs)
              · simp [h1] at h
            · rename_i hnq
              split at h
              · cases h
              · rename_i hid
                cases hri : readIdent ((startToken j1).remaining.length + 1) (startToken j1) with
                | error e => simp only [hri] at h; cases h
                | ok b =>
                  simp only [hri] at h
                  cases h
                  obtain ⟨h1, h2⟩ := readIdent_runes _ _ _ hri
                  have hid : isIdent (startToken j1).peekRune = true := by simpa using hid
                  have hnq : quoteRunes.contains (startToken j1).peekRune = false := by simpa using hnq
                  exact .ident (j1 := j1) he hc1 hc2 hnp hnq hid h1 h2

/-! ### the converse: each rune consumes a byte, so the fuel `readToken` supplies suffices -/

theorem readRune_lt {i i1 : Input} {r : Nat} (h : readRune i = .ok (r, i1)) : i1.remaining.length < i.remaining.length := by
  have hne : i.remaining ≠ [] := by
    intro hn
    unfold readRune at h
    rw [hn] at h; cases h
  obtain ⟨r', i', h', hlt, _⟩ := ModfileLex.readRune_ok i hne
  rw [h] at h'; cases h'; exact hlt

theorem skipSpaces_of_runes {i i' : Input} (h : Runes Blank i i') (hstop : ¬ Blank i') :
    ∀ fuel, i.remaining.length < fuel → skipSpaces fuel i = .ok i' := by
  induction h with
  | nil i =>
    intro fuel hf
    obtain ⟨n, rfl⟩ : ∃ n, fuel = n + 1 := ⟨fuel - 1, by omega⟩
    unfold skipSpaces
    split
    · rfl
    · rename_i he
      simp only
      rw [if_neg (fun hb => hstop ⟨by simpa using he, hb⟩)]
  | cons hg hr _ ih =>
    intro fuel hf
    obtain ⟨n, rfl⟩ : ∃ n, fuel = n + 1 := ⟨fuel - 1, by omega⟩
    unfold skipSpaces
    have := readRune_lt hr
    simp only [hg.1, Bool.false_eq_true, if_false, hg.2, if_true, hr, bind, Except.bind]
    exact ih hstop n (by omega)

theorem readIdent_of_runes {i i' : Input} (h : Runes IdentGo i i')
    (hstop : isIdent i'.peekRune = false ∨ i'.peekPrefix [47, 47] = true) :
    ∀ fuel, i.remaining.length < fuel → readIdent fuel i = .ok i' := by
  induction h with
  | nil i =>
    intro fuel hf
    obtain ⟨n, rfl⟩ : ∃ n, fuel = n + 1 := ⟨fuel - 1, by omega⟩
    unfold readIdent
    rcases hstop with h | h
    · simp [h]
    · split
      · rfl
      · rfl
  | cons hg hr _ ih =>
    intro fuel hf
    obtain ⟨n, rfl⟩ : ∃ n, fuel = n + 1 := ⟨fuel - 1, by omega⟩
    unfold readIdent
    have := readRune_lt hr
    simp only [hg.1, if_true, hg.2.1, hg.2.2, Bool.false_eq_true, if_false, hr, bind, Except.bind]
    exact ih hstop n (by omega)

theorem readString_of_str {q : Nat} {i i' : Input} (h : Str q i i') :
    ∀ fuel, i.remaining.length < fuel → readString q fuel i = .ok i' := by
  induction h with
  | close he hnl hr =>
    intro fuel hf
    obtain ⟨n, rfl⟩ : ∃ n, fuel = n + 1 := ⟨fuel - 1, by omega⟩
    unfold readString
    simp [he, hnl, hr, bind, Except.bind]
  | esc he hnl hr hq hesc he1 hr2 _ ih =>
    intro fuel hf
    obtain ⟨n, rfl⟩ : ∃ n, fuel = n + 1 := ⟨fuel - 1, by omega⟩
    unfold readString
    have := readRune_lt hr
    have := readRune_lt hr2
    simp only [he, Bool.false_eq_true, if_false, beq_iff_eq, hnl, hr, bind, Except.bind, hq, hesc, if_true, he1, hr2]
    exact ih n (by omega)
  | other he hnl hr hq hesc _ ih =>
    intro fuel hf
    obtain ⟨n, rfl⟩ : ∃ n, fuel = n + 1 := ⟨fuel - 1, by omega⟩
    unfold readString
    have := readRune_lt hr
    simp only [he, Bool.false_eq_true, if_false, beq_iff_eq, hnl, hr, bind, Except.bind, hq, hesc]
    exact ih n (by omega)

theorem readToken_of_tok {j j1 i : Input} (hb : Runes Blank j j1) (hstop : ¬ Blank j1) (h : Tok j1 i) :
    readToken j = .ok i := by
  unfold readToken
  simp only [skipSpaces_of_runes hb hstop _ (Nat.lt_add_one _), bind, Except.bind]
  have hse : (startToken j1).eof = j1.eof := rfl
  have hsp : (startToken j1).peekRune = j1.peekRune := rfl
  cases h with
  | comment he hp hc => simp [he, hp, hc]
  | eof he => simp [he, hse]
  | punct he h1 h2 hp hr => simp [he, h1, h2, hse, hsp, hp, hr]
  | string he h1 h2 hnp hq hr hs =>
    have hq : j1.peekRune ∈ quoteRunes := by simpa using hq
    simp [he, h1, h2, hse, hsp, hnp, hq, hr, readString_of_str hs _ (Nat.lt_add_one _)]
  | ident he h1 h2 hnp hnq hid hi hex =>
    have hnq : j1.peekRune ∉ quoteRunes := by simpa using hnq
    have : readIdent (j1.remaining.length + 1) (startToken j1) = .ok _ :=
      readIdent_of_runes hi hex _ (Nat.lt_add_one (startToken j1).remaining.length)
    simp [he, h1, h2, hse, hsp, hnp, hnq, hid, this]

section pres
variable {P T : Input → Prop}
  (hR : ∀ i r i', P i → readRune i = .ok (r, i') → P i')
  (hE : ∀ k i, P i → T (endToken k i))
  (hC : ∀ i, T i → T (pushSuffix i))
include hR hE hC

omit hE hC in
theorem Str.pres {q : Nat} {i i' : Input} (h : Str q i i') (hi : P i) : P i' := by
  induction h with
  | close _ _ hr => exact hR _ _ _ hi hr
  | esc _ _ hr _ _ _ hr2 _ ih => exact ih (hR _ _ _ (hR _ _ _ hi hr) hr2)
  | other _ _ hr _ _ _ ih => exact ih (hR _ _ _ hi hr)

theorem Com.pres {j1 i : Input} (h : Com j1 i) (hj : P (startToken j1)) : T i := by
  have hd : ∀ {c d : Input}, P c → (c.eof = true ∧ d = c ∨ ∃ r, readRune c = .ok (r, d)) → P d := by
    intro c d hc h
    rcases h with ⟨_, rfl⟩ | ⟨r, hr⟩
    · exact hc
    · exact hR _ _ _ hc hr
  cases h with
  | comment h1 h2 hl _ _ d hd' => exact hE _ _ (hd (Runes.pres hR hl (hR _ _ _ (hR _ _ _ hj h1) h2)) hd')
  | eolComment h1 h2 hl _ _ d hd' =>
    exact hC _ (hE _ _ (hd (Runes.pres hR hl (hR _ _ _ (hR _ _ _ hj h1) h2)) hd'))

end pres

end ModVerif.Proofs.ModfileScan
