/-
  `FileSyntax.addLine` (read.go:104), the generated code one step at a time: the closure `newLineAfter` as a heap update,
  and what one iteration of loop 1 (the walk over `x.Stmt`) and of loop 2 (the walk over the lines of a block) computes
  at the cursor, case by case of the Go branches.  No representation yet: equations on the heap only.
-/
import ModVerif.Proofs.TieFnEditAddLineA
namespace ModVerif.TieFnEditAddLine
open ModVerif ModVerif.GoRt
open ModVerif.Generated.Edit
open ModVerif.Tie.FnEditRep
open ModVerif.Modfile.Edit (treeIds)

theorem files_set_get {l : List FileSyntax} {x : Int} {fo : FileSyntax} (hf : heapGet l x = .ok fo) (v : FileSyntax) :
    heapGet (l.set (x.toNat - 1) v) x = .ok v := heapGet_listSet_same v hf

theorem newLineAfter_eq {h : Heap} {x : Int} {fo : FileSyntax} (hf : heapGet h.files x = .ok fo)
    (a : List Expr) (s : Expr) (b : List Expr) (hs : fo.Stmt = a ++ s :: b) (tokens : List Bytes) (fuel : Nat)
    {i : Int} (hi : i = (a.length : Int)) :
    FileSyntax_addLine_newLineAfter fuel x tokens i h =
      .ok (((h.lines.length + 1 : Nat) : Int),
           { h with lines := h.lines ++ [({ (default : Line) with Token := tokens } : Line)],
                    files := h.files.set (x.toNat - 1)
                      { fo with Stmt := a ++ s :: Expr.Line ((h.lines.length + 1 : Nat) : Int) :: b } }) := by
  unfold FileSyntax_addLine_newLineAfter
  have hne : ¬ (i = len fo.Stmt) := by rw [hs, len_eq, hi]; simp; omega
  simp only [heapAlloc, hf, bind_ok, hne, decide_false, Bool.false_eq_true, if_false]
  rw [heapSet_of_get _ hf]
  simp only [bind_ok]
  rw [files_set_get hf]
  simp only [bind_ok, hs]
  obtain ⟨src, d, h1, h2, h3⟩ := insert_via_copy_steps a s b Expr.nil (Expr.Line ((h.lines.length + 1 : Nat) : Int)) hi
  simp only [h1, h2, bind_ok]
  have hf2 : heapGet (h.files.set (x.toNat - 1) { Name := fo.Name, Comments := fo.Comments, Stmt := a ++ s :: b ++ [Expr.nil] }) x = .ok { Name := fo.Name, Comments := fo.Comments, Stmt := a ++ s :: b ++ [Expr.nil] } := files_set_get hf _
  rw [heapSet_of_get _ hf2]
  simp only [bind_ok, List.set_set]
  rw [files_set_get hf]
  simp only [bind_ok, h3]
  have hf3 : heapGet (h.files.set (x.toNat - 1) { Name := fo.Name, Comments := fo.Comments, Stmt := d }) x = .ok { Name := fo.Name, Comments := fo.Comments, Stmt := d } := files_set_get hf _
  rw [heapSet_of_get _ hf3]
  simp only [bind_ok, List.set_set, pure_eq_ok]

theorem heapSet_set {α : Type} {l : List α} {p : Int} {w : α} (hf : heapGet l p = .ok w) (v v' : α) :
    heapSet (l.set (p.toNat - 1) v) p v' = .ok (l.set (p.toNat - 1) v') := by
  rw [heapSet_of_get v' (heapGet_listSet_same v hf), List.set_set]

theorem idxL_append_mid {α : Type} (a : List α) (e : α) (c : List α) {i : Int} (hi : i = (a.length : Int)) :
    idxL (a ++ e :: c) i = .ok e := by
  subst hi
  rw [idxL_natCast (by simp)]
  simp

theorem loop2_skip (rx : List Int) (x : Int) (hint : Expr) (tokens : List Bytes) (i1 stmt2 : Int) (rest : List Int) :
    ∀ (a : List Int) (j : Nat) (fuel : Nat) (h : Heap), rx.drop j = a ++ rest → (∀ q ∈ a, Expr.Line q ≠ hint) →
      FileSyntax_addLine_loop2 rx x hint tokens i1 stmt2 (fuel + a.length) (j : Int) h =
        FileSyntax_addLine_loop2 rx x hint tokens i1 stmt2 fuel ((j + a.length : Nat) : Int) h
  | [], j, fuel, h, _, _ => by simp
  | q :: a, j, fuel, h, hd, hq => by
    have hj : j < rx.length := by
      rcases Nat.lt_or_ge j rx.length with hj | hj
      · exact hj
      · rw [List.drop_eq_nil_of_le hj] at hd
        simp at hd
    have hget : rx[j] = q := by
      have := congrArg (fun l => l[0]?) hd
      simp only [List.getElem?_drop, Nat.add_zero, List.cons_append, List.getElem?_cons_zero] at this
      rw [List.getElem?_eq_getElem hj] at this
      exact Option.some.inj this
    have hlt : ((j : Nat) : Int) < len rx := by rw [len_eq]; omega
    have hne : ¬ (Expr.Line q = hint) := hq q (by simp)
    have : fuel + (q :: a).length = (fuel + a.length) + 1 := by simp; omega
    rw [this]
    conv => lhs; unfold FileSyntax_addLine_loop2
    simp only [hlt, decide_true, if_true, idxL_natCast hj, hget, bind_ok, hne, decide_false, Bool.false_eq_true, if_false]
    have e : ((j : Nat) : Int) + 1 = ((j + 1 : Nat) : Int) := by omega
    rw [e, loop2_skip rx x hint tokens i1 stmt2 rest a (j + 1) fuel h (by
      rw [← List.drop_drop, hd]; rfl) (fun q' hq' => hq q' (by simp [hq']))]
    congr 2
    simp; omega

theorem loop2_miss (rx : List Int) (x : Int) (hint : Expr) (tokens : List Bytes) (i1 stmt2 : Int) (fuel : Nat) (h : Heap)
    (hfu : rx.length + 1 ≤ fuel) (hq : ∀ q ∈ rx, Expr.Line q ≠ hint) :
    FileSyntax_addLine_loop2 rx x hint tokens i1 stmt2 fuel 0 h = .ok (.next (len rx, h)) := by
  obtain ⟨f, rfl⟩ : ∃ f, fuel = (f + 1) + rx.length := ⟨fuel - 1 - rx.length, by omega⟩
  have := loop2_skip rx x hint tokens i1 stmt2 [] rx 0 (f + 1) h (by simp) hq
  simp only [Nat.zero_add] at this
  rw [show ((0 : Nat) : Int) = 0 from rfl] at this
  rw [this]
  unfold FileSyntax_addLine_loop2
  rw [if_neg (by simp [len_eq])]
  rfl


theorem newLineAfter_fuel (f1 f2 : Nat) (x : Int) (tokens : List Bytes) (i : Int) (h : Heap) :
    FileSyntax_addLine_newLineAfter f1 x tokens i h = FileSyntax_addLine_newLineAfter f2 x tokens i h := rfl

/-- loop 2 arrives at the hint `q` (first occurrence) inside the block `p` -/
theorem loop2_at_hit (a : List Int) (q : Int) (c : List Int) (x : Int) (tokens : List Bytes) (i1 p : Int) (fuel : Nat)
    (h : Heap) (hq : ∀ q' ∈ a, q' ≠ q) (hfu : a.length + 2 ≤ fuel) :
    ∃ f, FileSyntax_addLine_loop2 (a ++ q :: c) x (Expr.Line q) tokens i1 p fuel 0 h =
      FileSyntax_addLine_loop2 (a ++ q :: c) x (Expr.Line q) tokens i1 p (f + 1) (a.length : Int) h := by
  obtain ⟨f, rfl⟩ : ∃ f, fuel = (f + 1) + a.length := ⟨fuel - 1 - a.length, by omega⟩
  refine ⟨f, ?_⟩
  have := loop2_skip (a ++ q :: c) x (Expr.Line q) tokens i1 p (q :: c) a 0 (f + 1) h (by simp)
    (fun q' hq' e => hq q' hq' (by injection e))
  simp only [Nat.zero_add] at this
  exact this

theorem loop2_hit_ne (a : List Int) (q : Int) (c : List Int) (x : Int) (tokens : List Bytes) (i1 p : Int) (fuel : Nat)
    (h : Heap) (hq : ∀ q' ∈ a, q' ≠ q) (hfu : a.length + 2 ≤ fuel)
    (blk : LineBlock) (hb : heapGet h.blocks p = .ok blk) (bt0 t0 : Bytes) (btr trest : List Bytes)
    (hbt : blk.Token = bt0 :: btr) (htok : tokens = t0 :: trest) (hne : bt0 ≠ t0) :
    FileSyntax_addLine_loop2 (a ++ q :: c) x (Expr.Line q) tokens i1 p fuel 0 h =
      (do let t ← FileSyntax_addLine_newLineAfter 0 x tokens i1 h; pure (Ctl.ret (t.1, t.2))) := by
  obtain ⟨f, hf⟩ := loop2_at_hit a q c x tokens i1 p fuel h hq hfu
  rw [hf]
  unfold FileSyntax_addLine_loop2
  have hlt : ((a.length : Nat) : Int) < len (a ++ q :: c) := by rw [len_eq]; simp; omega
  simp only [hlt, decide_true, if_true, idxL_append_mid a q c rfl, bind_ok, hb, hbt, htok]
  have i0 : ∀ (u : Bytes) (us : List Bytes), idxL (u :: us) 0 = .ok u := fun u us => rfl
  simp only [i0, bind_ok, hne, decide_false, Bool.not_false, if_true]
  rw [newLineAfter_fuel f 0]

theorem loop2_hit_eq (a : List Int) (q : Int) (c : List Int) (x : Int) (tokens : List Bytes) (i1 p : Int) (fuel : Nat)
    (h : Heap) (hq : ∀ q' ∈ a, q' ≠ q) (hfu : a.length + 2 ≤ fuel)
    (blk : LineBlock) (hb : heapGet h.blocks p = .ok blk) (hl : blk.Line = a ++ q :: c) (t0 : Bytes) (btr trest : List Bytes)
    (hbt : blk.Token = t0 :: btr) (htok : tokens = t0 :: trest) :
    FileSyntax_addLine_loop2 (a ++ q :: c) x (Expr.Line q) tokens i1 p fuel 0 h =
      .ok (Ctl.ret (((h.lines.length + 1 : Nat) : Int),
        { h with blocks := h.blocks.set (p.toNat - 1) { blk with Line := a ++ q :: ((h.lines.length + 1 : Nat) : Int) :: c },
                 lines := h.lines ++ [({ (default : Line) with Token := trest, InBlock := true } : Line)] })) := by
  obtain ⟨f, hf⟩ := loop2_at_hit a q c x tokens i1 p fuel h hq hfu
  rw [hf]
  unfold FileSyntax_addLine_loop2
  have hlt : ((a.length : Nat) : Int) < len (a ++ q :: c) := by rw [len_eq]; simp; omega
  simp only [hlt, decide_true, if_true, idxL_append_mid a q c rfl, bind_ok, hb, hbt, htok]
  have i0 : ∀ (u : Bytes) (us : List Bytes), idxL (u :: us) 0 = .ok u := fun u us => rfl
  obtain ⟨src, d, h1, h2, h3⟩ := insert_via_copy_steps a q c (0 : Int) ((h.lines.length + 1 : Nat) : Int) (i := (a.length : Int)) rfl
  simp only [i0, bind_ok, decide_true, Bool.not_true, Bool.false_eq_true, if_false, heapSet_of_get _ hb,
    heapGet_listSet_same _ hb, heapSet_set hb, hl, h1, h2, h3, sliceFrom_one_cons, heapAlloc, pure_eq_ok]


theorem idx0 (u : Bytes) (us : List Bytes) : idxL (u :: us) 0 = .ok u := rfl

theorem succ_cast (k : Nat) : ((k : Nat) : Int) + 1 = ((k + 1 : Nat) : Int) := by omega

theorem loop1_skip_line (pre : List Expr) (p : Int) (xs : List Expr) (x : Int) (hint : Expr) (tokens : List Bytes)
    (fuel : Nat) (h : Heap) (hne : Expr.Line p ≠ hint) :
    FileSyntax_addLine_loop1 (pre ++ Expr.Line p :: xs) x hint tokens (fuel + 1) (pre.length : Int) h =
      FileSyntax_addLine_loop1 (pre ++ Expr.Line p :: xs) x hint tokens fuel ((pre.length + 1 : Nat) : Int) h := by
  conv => lhs; unfold FileSyntax_addLine_loop1
  have hlt : ((pre.length : Nat) : Int) < len (pre ++ Expr.Line p :: xs) := by rw [len_eq]; simp; omega
  simp only [hlt, decide_true, if_true, idxL_append_mid pre _ xs rfl, bind_ok, hne, decide_false, Bool.false_eq_true,
    if_false, succ_cast]

theorem loop1_skip_other (pre : List Expr) (e : Expr) (xs : List Expr) (x : Int) (hint : Expr) (tokens : List Bytes)
    (fuel : Nat) (h : Heap) (h1 : ∀ p, e ≠ Expr.Line p) (h2 : ∀ p, e ≠ Expr.LineBlock p) :
    FileSyntax_addLine_loop1 (pre ++ e :: xs) x hint tokens (fuel + 1) (pre.length : Int) h =
      FileSyntax_addLine_loop1 (pre ++ e :: xs) x hint tokens fuel ((pre.length + 1 : Nat) : Int) h := by
  conv => lhs; unfold FileSyntax_addLine_loop1
  have hlt : ((pre.length : Nat) : Int) < len (pre ++ e :: xs) := by rw [len_eq]; simp; omega
  simp only [hlt, decide_true, if_true, idxL_append_mid pre _ xs rfl, bind_ok]
  cases e with
  | Line p => exact absurd rfl (h1 p)
  | LineBlock p => exact absurd rfl (h2 p)
  | _ => simp only [succ_cast]

theorem loop1_skip_block (pre : List Expr) (p : Int) (xs : List Expr) (x : Int) (hint : Expr) (tokens : List Bytes)
    (fuel : Nat) (h : Heap) (hne : Expr.LineBlock p ≠ hint) (blk : LineBlock) (hb : heapGet h.blocks p = .ok blk)
    (hq : ∀ q ∈ blk.Line, Expr.Line q ≠ hint) (hfu : blk.Line.length + 1 ≤ fuel) :
    FileSyntax_addLine_loop1 (pre ++ Expr.LineBlock p :: xs) x hint tokens (fuel + 1) (pre.length : Int) h =
      FileSyntax_addLine_loop1 (pre ++ Expr.LineBlock p :: xs) x hint tokens fuel ((pre.length + 1 : Nat) : Int) h := by
  conv => lhs; unfold FileSyntax_addLine_loop1
  have hlt : ((pre.length : Nat) : Int) < len (pre ++ Expr.LineBlock p :: xs) := by rw [len_eq]; simp; omega
  simp only [hlt, decide_true, if_true, idxL_append_mid pre _ xs rfl, bind_ok, hne, decide_false, Bool.false_eq_true,
    if_false, hb, loop2_miss blk.Line x hint tokens (pre.length : Int) p fuel h hfu hq, succ_cast]

/-- the hint is the top-level line `p`, dead or of another verb: a new line after it -/
theorem loop1_line_after (pre : List Expr) (p : Int) (xs : List Expr) (x : Int) (t0 : Bytes) (trest : List Bytes)
    (fuel : Nat) (h : Heap) (ln : Line) (hl : heapGet h.lines p = .ok ln)
    (hc : ln.Token = [] ∨ ∃ u us, ln.Token = u :: us ∧ u ≠ t0) :
    FileSyntax_addLine_loop1 (pre ++ Expr.Line p :: xs) x (Expr.Line p) (t0 :: trest) (fuel + 1) (pre.length : Int) h =
      (do let t ← FileSyntax_addLine_newLineAfter 0 x (t0 :: trest) (pre.length : Int) h; pure (Ctl.ret (t.1, t.2))) := by
  conv => lhs; unfold FileSyntax_addLine_loop1
  have hlt : ((pre.length : Nat) : Int) < len (pre ++ Expr.Line p :: xs) := by rw [len_eq]; simp; omega
  simp only [hlt, decide_true, if_true, idxL_append_mid pre _ xs rfl, bind_ok, hl]
  rcases hc with hc | ⟨u, us, hc, hne⟩
  · simp only [hc, decide_true, if_true, pure_eq_ok, bind_ok]
    rw [newLineAfter_fuel fuel 0]
  · simp only [hc, idx0, bind_ok, hne, decide_false, Bool.not_false, pure_eq_ok, if_true, Bool.false_eq_true, if_false,
      reduceCtorEq]
    rw [newLineAfter_fuel fuel 0]

/-- the hint is the top-level line `p` of the same verb: the line becomes a block of two lines -/
theorem loop1_line_convert (pre : List Expr) (p : Int) (xs : List Expr) (x : Int) (t0 : Bytes) (trest : List Bytes)
    (fuel : Nat) (h : Heap) (ln : Line) (hl : heapGet h.lines p = .ok ln) (us : List Bytes) (hc : ln.Token = t0 :: us)
    (fo : FileSyntax) (hf : heapGet h.files x = .ok fo) (hs : fo.Stmt = pre ++ Expr.Line p :: xs) :
    FileSyntax_addLine_loop1 (pre ++ Expr.Line p :: xs) x (Expr.Line p) (t0 :: trest) (fuel + 1) (pre.length : Int) h =
      .ok (Ctl.ret (((h.lines.length + 1 : Nat) : Int),
        { h with
          lines := h.lines.set (p.toNat - 1) { ln with InBlock := true, Token := us } ++
            [({ (default : Line) with Token := trest, InBlock := true } : Line)],
          blocks := h.blocks ++ [({ (default : LineBlock) with
            Token := [t0], Line := [p, ((h.lines.length + 1 : Nat) : Int)] } : LineBlock)],
          files := h.files.set (x.toNat - 1)
            { fo with Stmt := pre ++ Expr.LineBlock ((h.blocks.length + 1 : Nat) : Int) :: xs } })) := by
  conv => lhs; unfold FileSyntax_addLine_loop1
  have hlt : ((pre.length : Nat) : Int) < len (pre ++ Expr.Line p :: xs) := by rw [len_eq]; simp; omega
  simp only [hlt, decide_true, if_true, idxL_append_mid pre _ xs rfl, bind_ok, hl, hc, idx0, reduceCtorEq, decide_false,
    Bool.false_eq_true, if_false, Bool.not_true, pure_eq_ok, heapSet_of_get _ hl, heapGet_listSet_same _ hl,
    heapSet_set hl, heapAlloc, hf, hs]
  have e1 : sliceTo (t0 :: us) 1 = .ok [t0] := by
    have := sliceTo_natCast (v := t0 :: us) (k := 1) (by simp)
    simpa using this
  have e2 : setIdxL (pre ++ Expr.Line p :: xs) (pre.length : Int) (Expr.LineBlock ((h.blocks.length + 1 : Nat) : Int)) =
      .ok (pre ++ Expr.LineBlock ((h.blocks.length + 1 : Nat) : Int) :: xs) := by
    unfold setIdxL
    have : (0 : Int) ≤ (pre.length : Int) ∧ (pre.length : Int) < len (pre ++ Expr.Line p :: xs) := ⟨by omega, hlt⟩
    simp only [this, and_self, if_true, Int.toNat_natCast, pure_eq_ok]
    simp
  simp only [e1, e2, sliceFrom_one_cons, bind_ok, heapSet_of_get _ hf, heapGet_alloc_new,
    heapSet_of_get _ (heapGet_alloc_new _ _), List.length_set, Int.toNat_natCast, Nat.add_sub_cancel,
    List.set_append_right _ _ (Nat.le_refl _), Nat.sub_self, List.set_cons_zero, List.cons_append, List.nil_append]


/-- the hint is the block `p` itself (found by the no-hint search), another verb -/
theorem loop1_block_self_ne (pre : List Expr) (p : Int) (xs : List Expr) (x : Int) (t0 : Bytes) (trest : List Bytes)
    (fuel : Nat) (h : Heap) (blk : LineBlock) (hb : heapGet h.blocks p = .ok blk) (bt0 : Bytes) (btr : List Bytes)
    (hbt : blk.Token = bt0 :: btr) (hne : bt0 ≠ t0) :
    FileSyntax_addLine_loop1 (pre ++ Expr.LineBlock p :: xs) x (Expr.LineBlock p) (t0 :: trest) (fuel + 1) (pre.length : Int) h =
      (do let t ← FileSyntax_addLine_newLineAfter 0 x (t0 :: trest) (pre.length : Int) h; pure (Ctl.ret (t.1, t.2))) := by
  conv => lhs; unfold FileSyntax_addLine_loop1
  have hlt : ((pre.length : Nat) : Int) < len (pre ++ Expr.LineBlock p :: xs) := by rw [len_eq]; simp; omega
  simp only [hlt, decide_true, if_true, idxL_append_mid pre _ xs rfl, bind_ok, hb, hbt, idx0, hne, decide_false,
    Bool.not_false]
  rw [newLineAfter_fuel fuel 0]

/-- the hint is the block `p` itself, same verb: the new line is appended to the block -/
theorem loop1_block_self_eq (pre : List Expr) (p : Int) (xs : List Expr) (x : Int) (t0 : Bytes) (trest : List Bytes)
    (fuel : Nat) (h : Heap) (blk : LineBlock) (hb : heapGet h.blocks p = .ok blk) (btr : List Bytes)
    (hbt : blk.Token = t0 :: btr) :
    FileSyntax_addLine_loop1 (pre ++ Expr.LineBlock p :: xs) x (Expr.LineBlock p) (t0 :: trest) (fuel + 1) (pre.length : Int) h =
      .ok (Ctl.ret (((h.lines.length + 1 : Nat) : Int),
        { h with blocks := h.blocks.set (p.toNat - 1) { blk with Line := blk.Line ++ [((h.lines.length + 1 : Nat) : Int)] },
                 lines := h.lines ++ [({ (default : Line) with Token := trest, InBlock := true } : Line)] })) := by
  conv => lhs; unfold FileSyntax_addLine_loop1
  have hlt : ((pre.length : Nat) : Int) < len (pre ++ Expr.LineBlock p :: xs) := by rw [len_eq]; simp; omega
  simp only [hlt, decide_true, if_true, idxL_append_mid pre _ xs rfl, bind_ok, hb, hbt, idx0, decide_true,
    Bool.not_true, Bool.false_eq_true, if_false, sliceFrom_one_cons, heapAlloc, heapSet_of_get _ hb, pure_eq_ok]

/-- the hint is a line of the block `p` -/
theorem loop1_block_line (pre : List Expr) (p : Int) (xs : List Expr) (x : Int) (q : Int) (tokens : List Bytes)
    (fuel : Nat) (h : Heap) (blk : LineBlock) (hb : heapGet h.blocks p = .ok blk)
    (r : Int × Heap)
    (h2 : FileSyntax_addLine_loop2 blk.Line x (Expr.Line q) tokens (pre.length : Int) p fuel 0 h = .ok (Ctl.ret r)) :
    FileSyntax_addLine_loop1 (pre ++ Expr.LineBlock p :: xs) x (Expr.Line q) tokens (fuel + 1) (pre.length : Int) h =
      .ok (Ctl.ret r) := by
  conv => lhs; unfold FileSyntax_addLine_loop1
  have hlt : ((pre.length : Nat) : Int) < len (pre ++ Expr.LineBlock p :: xs) := by rw [len_eq]; simp; omega
  simp only [hlt, decide_true, if_true, idxL_append_mid pre _ xs rfl, bind_ok, reduceCtorEq, decide_false,
    Bool.false_eq_true, if_false, hb, h2, pure_eq_ok]

theorem loop1_end (es : List Expr) (x : Int) (hint : Expr) (tokens : List Bytes) (fuel : Nat) (h : Heap) :
    FileSyntax_addLine_loop1 es x hint tokens (fuel + 1) (es.length : Int) h = .ok (Ctl.next (len es, h)) := by
  unfold FileSyntax_addLine_loop1
  simp only [len_eq, Int.lt_irrefl, decide_false, Bool.false_eq_true, if_false, pure_eq_ok]

end ModVerif.TieFnEditAddLine
