/-
  Helper lemmas for Tie/FnRuleLeaf.lean: the leaf functions of the regenerated directive layer
  (Generated/FnRule.lean) that read one line / one token: MustQuote, AutoQuote, IsDirectoryPath (transported from the ties
  of Generated/FnModfile.lean: the definitions are the same text in another namespace), parseString, parseVersion,
  modulePathMajor, isIndirect, parseDirectiveComment, parseDeprecation.

  Parameters of the regenerated code are instantiated as the driver Drv/GenRule.lean runs them: `isPrintI`, `Quote.quote`,
  `unquoteI`, `deprecatedSubI`, the fixer `fixG fx` for a model fixer `fx`.
-/
import ModVerif.Proofs.TieFnRuleRep
import ModVerif.Proofs.GoRtSim
import ModVerif.Tie.FnModfile
import ModVerif.Tie.FnModule
namespace ModVerif.Tie.FnRuleLeafA
open ModVerif ModVerif.GoRt ModVerif.Generated ModVerif.Tie.FnRuleRep
open ModVerif.Drv.GenModfile (isPrintI unquoteI)
open ModVerif.Drv.GenRule (fixG deprecatedSubI)
open ModVerif.TieFnModfile (parseStringErr)

theorem MustQuote_loop1_eq (isPrint : Int → Bool) (s : Bytes) : ∀ (fuel : Nat) (i : Int),
    Rule.MustQuote_loop1 isPrint s fuel i = Modfile.MustQuote_loop1 isPrint s fuel i
  | 0, _ => rfl
  | fuel + 1, i => by
    unfold Rule.MustQuote_loop1 Modfile.MustQuote_loop1
    simp only [MustQuote_loop1_eq isPrint s fuel]

theorem MustQuote_eq (isPrint : Int → Bool) (fuel : Nat) (s : Bytes) :
    Rule.MustQuote isPrint fuel s = Modfile.MustQuote isPrint fuel s := by
  unfold Rule.MustQuote Modfile.MustQuote
  simp only [MustQuote_loop1_eq]
  rfl

theorem AutoQuote_eq (isPrint : Int → Bool) (quote : Bytes → Bytes) (fuel : Nat) (s : Bytes) :
    Rule.AutoQuote isPrint quote fuel s = Modfile.AutoQuote isPrint quote fuel s := by
  unfold Rule.AutoQuote Modfile.AutoQuote
  simp only [MustQuote_eq]

theorem IsDirectoryPath_eq (ns : Bytes) : Rule.IsDirectoryPath ns = Modfile.IsDirectoryPath ns := rfl

theorem AutoQuote_spec (s : Bytes) (fuel : Nat) (hf : s.length + 1 ≤ fuel) :
    Rule.AutoQuote isPrintI Quote.quote fuel s = .ok (ModVerif.Modfile.autoQuote s) := by
  rw [AutoQuote_eq]; exact Tie.FnModfile.AutoQuote_tie s fuel hf

/-- value, error, rewritten token -/
def psOut (s : Bytes) : (Bytes × Option String) × Bytes :=
  match ModVerif.Modfile.parseString s with
  | some (t, tok) => ((t, none), tok)
  | none => (([], parseStringErr s), s)

theorem parseString_spec (s : Bytes) (fuel : Nat) (hf : 4 * s.length + 1 ≤ fuel) (w : Rule.Heap) :
    Rule.parseString isPrintI Quote.quote unquoteI fuel s w = .ok (psOut s, w) := by
  unfold Rule.parseString psOut ModVerif.Modfile.parseString parseStringErr
  simp only [hasPrefix, GoRt.containsAny]
  by_cases hp : isPrefixOfB [34] s = true
  · cases hu : Quote.unquote s with
    | none => simp only [hp, if_true, unquoteI, hu]; rfl
    | some t =>
      have := TieFnModfile.unquote_length hu
      simp only [hp, if_true, unquoteI, hu, Option.isNone_none, Bool.not_true, Bool.false_eq_true, if_false]
      rw [AutoQuote_spec t fuel (by omega)]
      rfl
  · by_cases hc : GoStrings.containsAny s [34, 39, 96] = true
    · simp only [hp, hc, Bool.false_eq_true, if_false, if_true]; rfl
    · simp only [hp, hc, Bool.false_eq_true, if_false]
      rw [AutoQuote_spec s fuel (by omega)]
      rfl

theorem psOut_some {s t tok : Bytes} (h : ModVerif.Modfile.parseString s = some (t, tok)) : psOut s = ((t, none), tok) := by
  simp [psOut, h]
theorem psOut_none {s : Bytes} (h : ModVerif.Modfile.parseString s = none) : psOut s = (([], parseStringErr s), s) := by
  simp [psOut, h]

theorem parseStringErr_ne_none (s : Bytes) : (parseStringErr s).isNone = false := rfl

theorem parseString_length {s t tok : Bytes} (h : ModVerif.Modfile.parseString s = some (t, tok)) : t.length ≤ 4 * s.length := by
  unfold ModVerif.Modfile.parseString at h
  split at h
  · split at h
    · cases h
    · next t' hu =>
      simp only [Option.some.injEq, Prod.mk.injEq] at h
      have := TieFnModfile.unquote_length hu
      rw [← h.1]; exact this
  · split at h
    · cases h
    · simp only [Option.some.injEq, Prod.mk.injEq] at h
      rw [← h.1]; omega

/-- the error value of the regenerated parseVersion for each of the model's four error kinds (with the driver's fixer
    strings) -/
def parseVersionErr (s : Bytes) : ModVerif.Modfile.RuleErrKind → Option String
  | .versionString => wrapErr "Error" (wrapErr "InvalidVersionError" (parseStringErr s))
  | .fixModuleError => some "Error|fix-mod"
  | .fixError => some "fix-plain"
  | .versionNotCanonical => some "Error|InvalidVersionError|must be of the form v1.2.3"
  | _ => none

/-- value, error, rewritten token -/
def pvOut (path s : Bytes) (fx : Option ModVerif.Modfile.Fixer) : (Bytes × Option String) × Bytes :=
  match ModVerif.Modfile.parseVersion path s fx with
  | (tok, .ok v) => ((v, none), tok)
  | (tok, .error k) => (([], parseVersionErr s k), tok)

theorem parseVersionErr_versionString (s : Bytes) : errAbs (parseVersionErr s .versionString) .versionString := by
  show errAbs (wrapErr "Error" (wrapErr "InvalidVersionError" (parseStringErr s))) _
  unfold parseStringErr
  by_cases h : isPrefixOfB [34] s = true
  · simp only [h, if_true]
    exact ⟨"Error|InvalidVersionError|invalid syntax", by decide +kernel, by simp [errStrs]⟩
  · simp only [h, Bool.false_eq_true, if_false]
    exact ⟨"Error|InvalidVersionError|unquoted string cannot contain quote", by decide +kernel, by simp [errStrs]⟩

theorem parseVersion_errAbs {path s : Bytes} {fx : Option ModVerif.Modfile.Fixer} {tok : Bytes} {k : ModVerif.Modfile.RuleErrKind}
    (h : ModVerif.Modfile.parseVersion path s fx = (tok, .error k)) : errAbs (parseVersionErr s k) k := by
  have hk : k = .versionString ∨ k = .fixModuleError ∨ k = .fixError ∨ k = .versionNotCanonical := by
    unfold ModVerif.Modfile.parseVersion at h
    split at h
    · simp only [Prod.mk.injEq, Except.error.injEq] at h; exact Or.inl h.2.symm
    · split at h
      · split at h
        · simp only [Prod.mk.injEq, Except.error.injEq] at h; exact Or.inr (Or.inl h.2.symm)
        · simp only [Prod.mk.injEq, Except.error.injEq] at h; exact Or.inr (Or.inr (Or.inl h.2.symm))
        · simp only [Prod.mk.injEq] at h; cases h.2
      · simp only at h
        split at h
        · simp only [Prod.mk.injEq, Except.error.injEq] at h; exact Or.inr (Or.inr (Or.inr h.2.symm))
        · simp only [Prod.mk.injEq] at h; cases h.2
  rcases hk with rfl | rfl | rfl | rfl
  · exact parseVersionErr_versionString s
  · exact ⟨_, rfl, by simp [errStrs]⟩
  · exact ⟨_, rfl, by simp [errStrs]⟩
  · exact ⟨_, rfl, by simp [errStrs]⟩

theorem errIs_mod : errIs "ModuleError" (some "ModuleError|fix-mod") = true := by decide +kernel
theorem errIs_plain : errIs "ModuleError" (some "fix-plain") = false := by decide +kernel
theorem errInner_mod : wrapErr "Error" (errInner "ModuleError" (some "ModuleError|fix-mod")) = some "Error|fix-mod" := by decide +kernel
theorem wrapErr_canon : wrapErr "Error" (wrapErr "InvalidVersionError" (some "must be of the form v1.2.3")) =
    some "Error|InvalidVersionError|must be of the form v1.2.3" := by decide +kernel

theorem parseVersion_spec (verb path s : Bytes) (fx : Option ModVerif.Modfile.Fixer) (fuel : Nat) (hf : 8 * s.length + 1 ≤ fuel)
    (w : Rule.Heap) :
    Rule.parseVersion isPrintI Quote.quote unquoteI fuel verb path s (fixG fx) w = .ok (pvOut path s fx, w) := by
  unfold Rule.parseVersion pvOut ModVerif.Modfile.parseVersion
  rw [parseString_spec s fuel (by omega) w]
  simp only [bind, Except.bind]
  cases hps : ModVerif.Modfile.parseString s with
  | none =>
    simp only [psOut_none hps, parseStringErr_ne_none, Bool.not_false, if_true, parseVersionErr]
    rfl
  | some p =>
    obtain ⟨t, tok1⟩ := p
    have hlen := parseString_length hps
    simp only [psOut_some hps, Option.isNone_none, Bool.not_true, Bool.false_eq_true, if_false]
    cases fx with
    | none =>
      simp only [fixG, Option.map_none, Option.isSome_none, Bool.false_eq_true, if_false]
      rw [Tie.FnModule.CanonicalVersion_tie t fuel (by omega)]
      simp only []
      by_cases hcv : Semver.canonicalVersion t = []
      · simp only [hcv, decide_true, if_true, List.isEmpty_nil, parseVersionErr, wrapErr_canon]
        rfl
      · have : (Semver.canonicalVersion t).isEmpty = false := by
          cases hc : Semver.canonicalVersion t with
          | nil => exact absurd hc hcv
          | cons a b => rfl
        simp only [hcv, decide_false, Bool.false_eq_true, if_false, this]
        rfl
    | some g =>
      simp only [fixG, Option.map_some, Option.isSome_some, if_true, pure, Except.pure]
      cases hg : g path t with
      | ok fixed =>
        simp only [Option.isNone_none, Bool.not_true, Bool.false_eq_true, if_false]
      | error e =>
        cases e with
        | plain =>
          simp only [Option.isNone_some, Bool.not_false, if_true, errIs_plain, Bool.false_eq_true, if_false, parseVersionErr]
        | moduleError =>
          simp only [Option.isNone_some, Bool.not_false, if_true, errIs_mod, errInner_mod, parseVersionErr]

theorem pvOut_ok {path s : Bytes} {fx : Option ModVerif.Modfile.Fixer} {tok v : Bytes}
    (h : ModVerif.Modfile.parseVersion path s fx = (tok, .ok v)) : pvOut path s fx = ((v, none), tok) := by
  simp [pvOut, h]
theorem pvOut_error {path s : Bytes} {fx : Option ModVerif.Modfile.Fixer} {tok : Bytes} {k : ModVerif.Modfile.RuleErrKind}
    (h : ModVerif.Modfile.parseVersion path s fx = (tok, .error k)) : pvOut path s fx = (([], parseVersionErr s k), tok) := by
  simp [pvOut, h]

theorem parseVersionErr_isSome {path s : Bytes} {fx : Option ModVerif.Modfile.Fixer} {tok : Bytes} {k : ModVerif.Modfile.RuleErrKind}
    (h : ModVerif.Modfile.parseVersion path s fx = (tok, .error k)) : (parseVersionErr s k).isNone = false := by
  obtain ⟨x, hx, _⟩ := parseVersion_errAbs h
  rw [hx]; rfl

theorem modulePathMajor_spec (path : Bytes) (fuel : Nat) (hf : path.length + 1 ≤ fuel) :
    Rule.modulePathMajor fuel path = .ok (match ModVerif.Modfile.modulePathMajor path with
      | some major => (major, none)
      | none => ([], some "invalid module path")) := by
  unfold Rule.modulePathMajor ModVerif.Modfile.modulePathMajor
  rw [Tie.FnModule.SplitPathVersion_tie path fuel hf]
  simp only [bind, Except.bind]
  obtain ⟨a, major, ok⟩ := Module.splitPathVersion path
  cases ok <;> rfl

theorem B_indirect : B "indirect" = [105, 110, 100, 105, 114, 101, 99, 116] := by decide +kernel
theorem B_indirect2 : B "indirect;" = [105, 110, 100, 105, 114, 101, 99, 116, 59] := by decide +kernel
theorem idxL_zero_cons {α : Type} (a : α) (t : List α) : idxL (a :: t) 0 = .ok a := rfl
theorem idxL_one_cons {α : Type} (a b : α) (t : List α) : idxL (a :: b :: t) 1 = .ok b := rfl

def indOf : List Bytes → Bool
  | [f0] => f0 == B "indirect"
  | f0 :: _ :: _ => f0 == B "indirect;"
  | [] => false

theorem isIndirect_spec {w : Rule.Heap} {p : Int} {l : ModVerif.Modfile.Line} (hg : heapGet w.lines p = .ok (lineG l)) :
    Rule.isIndirect p w = .ok (ModVerif.Modfile.isIndirect l, w) := by
  obtain ⟨id, ⟨bef, suf, aft⟩, st, tok, ib, en⟩ := l
  cases suf with
  | nil =>
    unfold Rule.isIndirect ModVerif.Modfile.isIndirect
    simp [hg, bind, Except.bind, lineG_Comments, comsG_Suffix, len_eq]
  | cons c rest =>
    have h0 : ¬ (len (comG c :: List.map comG rest) = 0) := by simp [len_eq]; omega
    cases hfe : GoRt.fields (GoRt.trimPrefix c.token [47, 47]) with
    | nil =>
      have hfe' : GoStrings.fields (GoStrings.trimPrefix c.token [47, 47]) = [] := hfe
      unfold Rule.isIndirect ModVerif.Modfile.isIndirect
      simp only [hg, bind, Except.bind, lineG_Comments, comsG_Suffix, List.map_cons, h0, decide_false, Bool.false_eq_true, if_false,
        idxL_zero_cons, comG_Token, hfe, hfe']
      simp [len_eq, pure, Except.pure]
    | cons a t =>
      cases t with
      | nil =>
        have hfe' : GoStrings.fields (GoStrings.trimPrefix c.token [47, 47]) = [a] := hfe
        unfold Rule.isIndirect ModVerif.Modfile.isIndirect
        simp only [hg, bind, Except.bind, lineG_Comments, comsG_Suffix, List.map_cons, h0, decide_false, Bool.false_eq_true, if_false,
          idxL_zero_cons, comG_Token, hfe, hfe']
        simp [len_eq, pure, Except.pure, B_indirect]
        by_cases ha : a = [105, 110, 100, 105, 114, 101, 99, 116] <;> simp [ha]
      | cons b t =>
        have hfe' : GoStrings.fields (GoStrings.trimPrefix c.token [47, 47]) = a :: b :: t := hfe
        have h1 : ¬ (len (a :: b :: t) = 1) := by simp [len_eq]; omega
        have h2 : len (a :: b :: t) > 1 := by simp [len_eq]; omega
        unfold Rule.isIndirect ModVerif.Modfile.isIndirect
        simp only [hg, bind, Except.bind, lineG_Comments, comsG_Suffix, List.map_cons, h0, decide_false, Bool.false_eq_true, if_false,
          idxL_zero_cons, comG_Token, hfe, hfe', h1, h2, decide_true, if_true, pure, Except.pure, B_indirect2]
        congr 2
        rw [Bool.eq_iff_iff]; simp

def dcLines (cs : List ModVerif.Modfile.Comment) : List Bytes :=
  cs.filterMap fun c => if isPrefixOfB [47, 47] c.token then some (GoStrings.trimSpace (c.token.drop 2)) else none

theorem dcLines_cons (c : ModVerif.Modfile.Comment) (cs : List ModVerif.Modfile.Comment) :
    dcLines (c :: cs) = (if isPrefixOfB [47, 47] c.token then [GoStrings.trimSpace (c.token.drop 2)] else []) ++ dcLines cs := by
  unfold dcLines
  by_cases h : isPrefixOfB [47, 47] c.token = true <;> simp [h]

theorem foldl_dcLines : ∀ (cs : List ModVerif.Modfile.Comment) (acc : List Bytes),
    (cs.map comG).foldl (fun acc c => if hasPrefix c.Token [47, 47] then acc ++ [GoRt.trimSpace (GoRt.trimPrefix c.Token [47, 47])] else acc) acc =
      acc ++ dcLines cs
  | [], acc => by simp [dcLines]
  | c :: cs, acc => by
    rw [List.map_cons, List.foldl_cons, foldl_dcLines cs, dcLines_cons]
    by_cases hp : isPrefixOfB [47, 47] c.token = true <;> simp [hp, hasPrefix, GoRt.trimSpace, GoRt.trimPrefix]

theorem loop2_spec (cs : List ModVerif.Modfile.Comment) (w : Rule.Heap) (fuel k : Nat) (acc : List Bytes)
    (hk : k ≤ cs.length) (hf : cs.length - k < fuel) :
    Rule.parseDirectiveComment_loop2 (cs.map comG) w fuel (k : Int) acc = .ok ((cs.length : Int), acc ++ dcLines (cs.drop k)) := by
  rw [← foldl_dcLines, List.map_drop]
  have := range_fold (fun f k acc => Rule.parseDirectiveComment_loop2 (cs.map comG) w f k acc) (cs.map comG)
    (fun acc c => if hasPrefix c.Token [47, 47] then acc ++ [GoRt.trimSpace (GoRt.trimPrefix c.Token [47, 47])] else acc)
    (fun f s => by rw [Rule.parseDirectiveComment_loop2]; simp [len_eq])
    (fun f k hk s => by
      rw [Rule.parseDirectiveComment_loop2]
      simp only [show (k : Int) < len (cs.map comG) by rw [len_eq]; omega, decide_true, if_true, idxL_natCast hk, bind_ok]
      cases h : hasPrefix (cs.map comG)[k].Token [47, 47] <;> simp []) (cs.length - k) fuel k acc (by simp; omega) (by omega)
  simpa [len_eq] using this

theorem loop1_spec (c1 c2 : List ModVerif.Modfile.Comment) (w : Rule.Heap) (fuel : Nat) (hf : c1.length + c2.length + 3 ≤ fuel) :
    Rule.parseDirectiveComment_loop1 [c1.map comG, c2.map comG] w fuel 0 [] = .ok (2, dcLines c1 ++ dcLines c2) := by
  obtain ⟨f, rfl⟩ : ∃ f, fuel = f + 3 := ⟨fuel - 3, by omega⟩
  have e1 := loop2_spec c1 w (f + 2) 0 [] (by omega) (by omega)
  have e2 := loop2_spec c2 w (f + 1) 0 (dcLines c1) (by omega) (by omega)
  have e1' : Rule.parseDirectiveComment_loop2 (c1.map comG) w (f + 2) 0 [] = .ok ((c1.length : Int), dcLines c1) := by
    simpa using e1
  have e2' : Rule.parseDirectiveComment_loop2 (c2.map comG) w (f + 1) 0 (dcLines c1) = .ok ((c2.length : Int), dcLines c1 ++ dcLines c2) := by
    simpa using e2
  unfold Rule.parseDirectiveComment_loop1
  have h0 : (0 : Int) < len [c1.map comG, c2.map comG] := by simp [len_eq]
  simp only [h0, decide_true, if_true, idxL_zero_cons, bind, Except.bind, e1']
  unfold Rule.parseDirectiveComment_loop1
  have h1 : (0 : Int) + 1 < len [c1.map comG, c2.map comG] := by simp [len_eq]
  have h1' : idxL [c1.map comG, c2.map comG] ((0 : Int) + 1) = .ok (c2.map comG) := rfl
  simp only [h1, decide_true, if_true, h1', bind, Except.bind, e2']
  unfold Rule.parseDirectiveComment_loop1
  have h2 : ¬ ((0 : Int) + 1 + 1 < len [c1.map comG, c2.map comG]) := by simp [len_eq]
  simp [pure, Except.pure]

/-- the comments `parseDirectiveComment` reads -/
def dcChoose (bc : Option ModVerif.Modfile.Comments) (lc : ModVerif.Modfile.Comments) : ModVerif.Modfile.Comments :=
  match bc with
  | some bc => if lc.before.isEmpty && lc.suffix.isEmpty then bc else lc
  | none => lc

theorem parseDirectiveComment_model (bc : Option ModVerif.Modfile.Comments) (lc : ModVerif.Modfile.Comments) :
    ModVerif.Modfile.parseDirectiveComment bc lc = GoStrings.join (dcLines (dcChoose bc lc).before ++ dcLines (dcChoose bc lc).suffix) [10] := by
  unfold ModVerif.Modfile.parseDirectiveComment dcChoose dcLines
  cases bc <;> simp [List.filterMap_append]

/-- number of comments `parseDirectiveComment` may walk over -/
def comLen (c : ModVerif.Modfile.Comments) : Nat := c.before.length + c.suffix.length

def BlockArg (w : Rule.Heap) (block : Int) : Option ModVerif.Modfile.Comments → Prop
  | none => block = 0
  | some c => ∃ B, heapGet w.blocks block = .ok B ∧ B.Comments = comsG c

theorem BlockArg.ofBlock {w : Rule.Heap} {block : Int} {b : ModVerif.Modfile.LineBlock} {ps : List Int}
    (h : heapGet w.blocks block = .ok (blockG b ps)) : BlockArg w block (some b.comments) := ⟨_, h, rfl⟩

theorem parseDirectiveComment_spec {w : Rule.Heap} {block p : Int} {l : ModVerif.Modfile.Line} {bc : Option ModVerif.Modfile.Comments}
    (hg : heapGet w.lines p = .ok (lineG l)) (hb : BlockArg w block bc) (fuel : Nat)
    (hf : comLen l.comments + (bc.map comLen).getD 0 + 3 ≤ fuel) :
    Rule.parseDirectiveComment fuel block p w = .ok (ModVerif.Modfile.parseDirectiveComment bc l.comments, w) := by
  rw [parseDirectiveComment_model]
  unfold Rule.parseDirectiveComment
  have hgl : Rule.Expr_getComments (Rule.Expr.Line p) w = .ok (comsG l.comments) := by
    simp [Rule.Expr_getComments, hg, bind, Except.bind, pure, Except.pure]
  cases bc with
  | none =>
    have hb0 : block = 0 := hb
    subst hb0
    simp only [comLen, Option.map_none, Option.getD_none] at hf
    simp only [decide_true, Bool.not_true, Bool.false_eq_true, if_false, bind, Except.bind, pure, Except.pure, hgl, comsG_Before,
      comsG_Suffix, dcChoose]
    rw [loop1_spec _ _ w fuel (by omega)]
    rfl
  | some c =>
    obtain ⟨B, hB, hBc⟩ := hb
    have hne : ¬ (block = 0) := by
      intro h0; have := heapGet_pos hB; omega
    have hgb : Rule.Expr_getComments (Rule.Expr.LineBlock block) w = .ok (comsG c) := by
      simp [Rule.Expr_getComments, hB, hBc, bind, Except.bind, pure, Except.pure]
    simp only [comLen, Option.map_some, Option.getD_some] at hf
    simp only [hne, decide_false, Bool.not_false, if_true, bind, Except.bind, pure, Except.pure, hgl, comsG_Before, comsG_Suffix, dcChoose]
    by_cases h1 : l.comments.before = []
    · by_cases h2 : l.comments.suffix = []
      · simp only [h1, h2, List.map_nil, len_eq, List.length_nil, Int.natCast_zero, decide_true, if_true, List.isEmpty_nil, Bool.and_self, hgb,
          comsG_Before, comsG_Suffix]
        rw [loop1_spec _ _ w fuel (by omega)]
        rfl
      · have h2' : ¬ ((l.comments.suffix.map comG).length : Int) = 0 := by
          cases hs : l.comments.suffix with
          | nil => exact absurd hs h2
          | cons a t => simp; omega
        have h2'' : l.comments.suffix.isEmpty = false := by
          cases hs : l.comments.suffix with
          | nil => exact absurd hs h2
          | cons a t => rfl
        simp only [h1, List.map_nil, len_eq, List.length_nil, Int.natCast_zero, decide_true, if_true, h2', decide_false, Bool.false_eq_true,
          if_false, List.isEmpty_nil, h2'', Bool.and_false]
        have e := loop1_spec l.comments.before l.comments.suffix w fuel (by omega)
        rw [h1] at e
        simp only [List.map_nil] at e
        rw [e]
        rfl
    · have h1' : ¬ ((l.comments.before.map comG).length : Int) = 0 := by
        cases hs : l.comments.before with
        | nil => exact absurd hs h1
        | cons a t => simp; omega
      have h1'' : l.comments.before.isEmpty = false := by
        cases hs : l.comments.before with
        | nil => exact absurd hs h1
        | cons a t => rfl
      simp only [len_eq, h1', decide_false, Bool.false_eq_true, if_false, h1'', Bool.false_and]
      rw [loop1_spec _ _ w fuel (by omega)]
      rfl

theorem parseDeprecation_spec {w : Rule.Heap} {block p : Int} {l : ModVerif.Modfile.Line} {bc : Option ModVerif.Modfile.Comments}
    (hg : heapGet w.lines p = .ok (lineG l)) (hb : BlockArg w block bc) (fuel : Nat)
    (hf : comLen l.comments + (bc.map comLen).getD 0 + 3 ≤ fuel) :
    Rule.parseDeprecation deprecatedSubI fuel block p w = .ok (ModVerif.Modfile.parseDeprecation bc l.comments, w) := by
  cases hd : ModVerif.Modfile.deprecatedRE (ModVerif.Modfile.parseDirectiveComment bc l.comments) with
  | none =>
    unfold Rule.parseDeprecation ModVerif.Modfile.parseDeprecation
    rw [parseDirectiveComment_spec hg hb fuel hf]
    simp [bind, Except.bind, deprecatedSubI, hd, pure, Except.pure]
  | some m =>
    unfold Rule.parseDeprecation ModVerif.Modfile.parseDeprecation
    rw [parseDirectiveComment_spec hg hb fuel hf]
    simp [bind, Except.bind, deprecatedSubI, hd, pure, Except.pure, idxL_one_cons]

end ModVerif.Tie.FnRuleLeafA
