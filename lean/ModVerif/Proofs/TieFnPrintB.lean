/-
  Helper lemmas for Tie/FnPrint.lean: the fuel accounting and the simulation of `printer.newline`.

  Fuel.  The generated functions hand their fuel down unchanged to the functions they call, every loop iteration and
  every recursive call of `expr` costs one unit, and the leaf loops of trim / indent need more fuel than the buffer is
  long.  So what has to be bounded is "buffer length + loop iterations so far".  The bound is a potential:
  `pot M p` = buffer length + the cost of flushing the pending end-of-line comments of `p` (at a margin of at most `M`
  tabs), and every operation `op` has a static cost `c(op)` (bytes it can write + iterations it can take) with
    `pot M p + c(op) ≤ fuel  →  generated op succeeds and equals the model`, and `pot M (op p) ≤ pot M p + c(op)`.
-/
import ModVerif.Proofs.TieFnPrintA
namespace ModVerif.TieFnPrint
open ModVerif ModVerif.GoRt ModVerif.GoRtPrint ModVerif.Modfile
open ModVerif.Generated.Print
open ModVerif.Drv.GenPrint (G.pos G.com G.coms G.line G.lparen G.rparen G.expr G.file)

/-- flushing one pending end-of-line comment: its text, a newline, at most `M` tabs, one loop iteration -/
def cCom (M : Nat) (c : Modfile.Comment) : Nat := (GoStrings.trimSpace c.token).length + M + 2

def cComs (M : Nat) : List Modfile.Comment → Nat
  | [] => 0
  | c :: cs => cCom M c + cComs M cs

theorem cComs_append (M : Nat) (a b : List Modfile.Comment) : cComs M (a ++ b) = cComs M a + cComs M b := by
  induction a with
  | nil => simp [cComs]
  | cons c a ih => simp [cComs, ih]; omega

def pot (M : Nat) (mp : Printer) : Nat := mp.bufRev.length + cComs M mp.comment

/-- `newline` beyond the pending comments: the blank, the newline, at most `M` tabs, the exit of the comment loop -/
def cNewline (M : Nat) : Nat := M + 4

@[simp] theorem write_margin (mp : Printer) (s : Bytes) : (mp.write s).margin = mp.margin := rfl
@[simp] theorem write_comment (mp : Printer) (s : Bytes) : (mp.write s).comment = mp.comment := rfl
@[simp] theorem write_length (mp : Printer) (s : Bytes) :
    (mp.write s).bufRev.length = mp.bufRev.length + s.length := by simp [Printer.write]; omega
@[simp] theorem writeByte_margin (mp : Printer) (c : UInt8) : (mp.writeByte c).margin = mp.margin := rfl
@[simp] theorem writeByte_comment (mp : Printer) (c : UInt8) : (mp.writeByte c).comment = mp.comment := rfl
@[simp] theorem writeByte_length (mp : Printer) (c : UInt8) :
    (mp.writeByte c).bufRev.length = mp.bufRev.length + 1 := by simp [Printer.writeByte]
@[simp] theorem tabs_margin (mp : Printer) : mp.tabs.margin = mp.margin := rfl
@[simp] theorem tabs_comment (mp : Printer) : mp.tabs.comment = mp.comment := rfl
@[simp] theorem tabs_length (mp : Printer) : mp.tabs.bufRev.length = mp.bufRev.length + mp.margin := by
  simp [Printer.tabs]; omega
@[simp] theorem trim_margin (mp : Printer) : mp.trim.margin = mp.margin := rfl
@[simp] theorem trim_comment (mp : Printer) : mp.trim.comment = mp.comment := rfl
theorem trim_length (mp : Printer) : mp.trim.bufRev.length ≤ mp.bufRev.length := by
  simp only [Printer.trim]; exact length_dropWhile_le _ _

@[simp] theorem flush_margin (cs : List Modfile.Comment) : ∀ (mp : Printer) (first : Bool),
    (mp.flushComments cs first).margin = mp.margin := by
  induction cs with
  | nil => intro mp first; rfl
  | cons c cs ih => intro mp first; cases first <;> simp [Printer.flushComments, ih]

@[simp] theorem flush_comment (cs : List Modfile.Comment) : ∀ (mp : Printer) (first : Bool),
    (mp.flushComments cs first).comment = mp.comment := by
  induction cs with
  | nil => intro mp first; rfl
  | cons c cs ih => intro mp first; cases first <;> simp [Printer.flushComments, ih]

theorem flush_length (M : Nat) (cs : List Modfile.Comment) : ∀ (mp : Printer) (first : Bool), mp.margin ≤ M →
    (mp.flushComments cs first).bufRev.length + cs.length ≤ mp.bufRev.length + cComs M cs := by
  induction cs with
  | nil => intro mp first hm; simp [Printer.flushComments, cComs]
  | cons c cs ih =>
    intro mp first hm
    have ht := trim_length mp
    cases first
    · have := ih ((((mp.trim.writeByte 10).tabs)).write (GoStrings.trimSpace c.token)) false (by simpa using hm)
      simp only [write_length, tabs_length, writeByte_length, writeByte_margin, trim_margin] at this
      simp only [Printer.flushComments, cComs, cCom, List.length_cons, Bool.false_eq_true, if_false]
      omega
    · have := ih (mp.write (GoStrings.trimSpace c.token)) false (by simpa using hm)
      simp only [write_length] at this
      simp only [Printer.flushComments, cComs, cCom, List.length_cons, if_true]
      omega

theorem sliceTo_zero {α : Type} (v : List α) : sliceTo v 0 = .ok [] := by
  have := sliceTo_natCast (v := v) (k := 0) (Nat.zero_le _)
  simpa using this

theorem trimSpace_eq (s : Bytes) : GoRt.trimSpace s = GoStrings.trimSpace s := rfl

theorem com_Token (c : Modfile.Comment) : (G.com c).Token = c.token := rfl

theorem flush_loop (M : Nat) (rest : List Modfile.Comment) : ∀ (pre : List Modfile.Comment) (fuel : Nat) (mp : Printer),
    mp.margin ≤ M → mp.bufRev.length + cComs M rest + M + 3 ≤ fuel →
    ∃ r, printer_newline_loop2 ((pre ++ rest).map G.com) fuel (pre.length : Int) (emb mp)
      = .ok (r, emb (mp.flushComments rest (decide (pre = [])))) := by
  induction rest with
  | nil =>
    intro pre fuel mp hm hf
    obtain ⟨f, rfl⟩ : ∃ f, fuel = f + 1 := ⟨fuel - 1, by omega⟩
    rw [printer_newline_loop2]
    have hc : decide ((pre.length : Int) < len ((pre ++ []).map G.com)) = false := by simp [len_eq]
    simp only [hc, Bool.false_eq_true, if_false, pure_eq_ok, Printer.flushComments]
    exact ⟨_, rfl⟩
  | cons c rest ih =>
    intro pre fuel mp hm hf
    obtain ⟨f, rfl⟩ : ∃ f, fuel = f + 1 := ⟨fuel - 1, by omega⟩
    simp only [cComs, cCom] at hf
    rw [printer_newline_loop2]
    have hc : decide ((pre.length : Int) < len ((pre ++ c :: rest).map G.com)) = true := by simp [len_eq]; omega
    have hi : idxL ((pre ++ c :: rest).map G.com) (pre.length : Int) = .ok (G.com c) := by
      have := idxL_append_length (pre.map G.com) (G.com c) (rest.map G.com)
      simpa using this
    have hpre : pre ++ c :: rest = (pre ++ [c]) ++ rest := by simp
    have hne : decide (pre ++ [c] = []) = false := by simp
    simp only [hc, if_true, hi, bind_ok, com_Token, trimSpace_eq]
    rw [hpre, range_next pre c]
    have ht := trim_length mp
    cases pre with
    | nil =>
      have h0 : decide ((([] : List Modfile.Comment).length : Int) > 0) = false := by simp
      simp only [h0, Bool.false_eq_true, if_false, emb, emb_write]
      have := ih ([] ++ [c]) f (mp.write (GoStrings.trimSpace c.token)) (by simpa using hm)
        (by simp only [write_length]; omega)
      rw [hne] at this
      simpa [Printer.flushComments, emb] using this
    | cons a pre =>
      have h0 : decide ((((a :: pre) : List Modfile.Comment).length : Int) > 0) = true := by simp
      have h1 : decide ((a :: pre) = []) = false := by simp
      simp only [h0, if_true, h1]
      rw [trim_sim mp f (by omega)]
      simp only [bind_ok]
      have e1 : ({ Buffer := (emb mp.trim).Buffer ++ [10], comment := (emb mp.trim).comment,
                   margin := (emb mp.trim).margin } : printer) = emb (mp.trim.writeByte 10) := by
        simp [emb, Printer.writeByte]
      rw [e1, newline_loop3_sim _ f (by simp; omega)]
      simp only [bind_ok]
      have e2 : ({ Buffer := (emb (mp.trim.writeByte 10).tabs).Buffer ++ GoStrings.trimSpace c.token,
                   comment := (emb (mp.trim.writeByte 10).tabs).comment,
                   margin := (emb (mp.trim.writeByte 10).tabs).margin } : printer)
            = emb (((mp.trim.writeByte 10).tabs).write (GoStrings.trimSpace c.token)) := by
        simp [emb, Printer.write]
      rw [e2]
      have := ih ((a :: pre) ++ [c]) f (((mp.trim.writeByte 10).tabs).write (GoStrings.trimSpace c.token))
        (by simpa using hm) (by simp only [write_length, tabs_length, writeByte_length, writeByte_margin, trim_margin]; omega)
      rw [hne] at this
      simpa [Printer.flushComments] using this

/-- the part of `newline` after the pending comments -/
def nlTail (mp : Printer) : Printer :=
  let p := mp.trim
  let p := match p.bufRev with
    | [] => p
    | 10 :: 10 :: _ => p
    | _ => p.writeByte 10
  p.tabs

theorem newline_eq (mp : Printer) : mp.newline = nlTail (if mp.comment.isEmpty then mp else
    { (Printer.flushComments (mp.writeByte 32) mp.comment true) with comment := [] }) := rfl

theorem newline_nocomment_sim (mp : Printer) (fuel : Nat) (hc : mp.comment = [])
    (hf : mp.bufRev.length + 1 ≤ fuel) (hm : mp.margin + 1 ≤ fuel) :
    printer_newline fuel (emb mp) = .ok ((), emb (nlTail mp)) := by
  unfold printer_newline
  have h0 : decide (len (emb mp).comment > 0) = false := by simp [hc]
  simp only [h0, Bool.false_eq_true, if_false]
  rw [trim_sim mp fuel hf]
  simp only [bind_ok, nlTail]
  have hm' : mp.trim.margin + 1 ≤ fuel := hm
  generalize mp.trim = q at hm'
  rcases hb : q.bufRev with _ | ⟨c, _ | ⟨d, R⟩⟩
  · simp only [emb_Buffer, hb]
    simp [newline_loop1_sim q fuel hm']
  · have hl0 : decide (len [c].reverse = 0) = false := by simp [len_eq]
    have hl2 : decide (len [c].reverse ≥ 2) = false := by simp [len_eq]
    simp only [emb_Buffer, hb, hl0, hl2, Bool.false_eq_true, if_false, pure_eq_ok, bind_ok]
    have e1 : ({ Buffer := [c].reverse ++ [10], comment := (emb q).comment, margin := (emb q).margin } : printer)
        = emb (q.writeByte 10) := by
      simp [emb, Printer.writeByte, hb]
    rw [e1, newline_loop1_sim _ fuel (by simpa using hm')]
    simp
  · have hl0 : decide (len (c :: d :: R).reverse = 0) = false := by simp [len_eq]; omega
    have hl2 : decide (len (c :: d :: R).reverse ≥ 2) = true := by simp [len_eq]; omega
    simp only [emb_Buffer, hb, hl0, hl2, Bool.false_eq_true, if_false, if_true, pure_eq_ok, bind_ok, idx_last, idx_last2]
    have e10c : decide (((c.toNat : Nat) : Int) = 10) = (c == 10) := decide_byte_eq c 10 (by omega)
    have e10d : decide (((d.toNat : Nat) : Int) = 10) = (d == 10) := decide_byte_eq d 10 (by omega)
    have e1 : ({ Buffer := (c :: d :: R).reverse ++ [10], comment := (emb q).comment, margin := (emb q).margin } : printer)
        = emb (q.writeByte 10) := by
      simp [emb, Printer.writeByte, hb]
    rw [e10c, e1]
    by_cases hc10 : c = 10
    · subst hc10
      simp only [beq_self_eq_true, if_true, bind_ok, e10d]
      by_cases hd10 : d = 10
      · subst hd10
        simp [newline_loop1_sim q fuel hm']
      · have : (d == 10) = false := by simp [hd10]
        simp only [this, Bool.false_eq_true, if_false]
        rw [newline_loop1_sim _ fuel (by simpa using hm')]
        simp [hd10]
    · have : (c == 10) = false := by simp [hc10]
      simp only [this, Bool.false_eq_true, if_false, bind_ok]
      rw [newline_loop1_sim _ fuel (by simpa using hm')]
      simp [hc10]

theorem newline_unfold (fuel : Nat) (p : printer) (h : p.comment ≠ []) :
    printer_newline fuel p = (do
      let r ← printer_newline_loop2 p.comment fuel 0 { p with Buffer := p.Buffer ++ [32] }
      printer_newline fuel { r.2 with comment := [] }) := by
  have h0 : decide (len p.comment > 0) = true := by
    cases hp : p.comment with
    | nil => exact absurd hp h
    | cons a l => simp [len_eq]
  have h1 : decide (len ([] : List Generated.Print.Comment) > 0) = false := by simp
  unfold printer_newline
  simp only [h0, if_true, h1, Bool.false_eq_true, if_false, sliceTo_zero, bind_ok]

@[simp] theorem nlTail_margin (mp : Printer) : (nlTail mp).margin = mp.margin := by
  unfold nlTail; simp only []; split <;> rfl

@[simp] theorem nlTail_comment (mp : Printer) : (nlTail mp).comment = mp.comment := by
  unfold nlTail; simp only []; split <;> rfl

theorem nlTail_length (mp : Printer) : (nlTail mp).bufRev.length ≤ mp.bufRev.length + 1 + mp.margin := by
  have := trim_length mp
  unfold nlTail; simp only []
  split <;> simp only [tabs_length, writeByte_length, writeByte_margin, trim_margin] <;> omega

@[simp] theorem newline_margin (mp : Printer) : mp.newline.margin = mp.margin := by
  rw [newline_eq]; split <;> simp

@[simp] theorem newline_comment (mp : Printer) : mp.newline.comment = [] := by
  rw [newline_eq]; split
  · rename_i h; simpa using h
  · simp

theorem newline_pot (M : Nat) (mp : Printer) (hm : mp.margin ≤ M) :
    pot M mp.newline + 2 ≤ pot M mp + cNewline M := by
  unfold pot cNewline
  rw [newline_comment]
  rw [newline_eq]
  split
  · have := nlTail_length mp
    simp only [cComs]; omega
  · have h1 := nlTail_length { (Printer.flushComments (mp.writeByte 32) mp.comment true) with comment := [] }
    have h2 := flush_length M mp.comment (mp.writeByte 32) true (by simpa using hm)
    simp only [flush_margin, writeByte_margin, writeByte_length] at h1 h2
    simp only [cComs, flush_margin, writeByte_margin]; omega

theorem newline_sim (M : Nat) (mp : Printer) (fuel : Nat) (hm : mp.margin ≤ M) (hf : pot M mp + cNewline M ≤ fuel) :
    printer_newline fuel (emb mp) = .ok ((), emb mp.newline) := by
  unfold pot cNewline at hf
  rw [newline_eq]
  cases hc : mp.comment with
  | nil =>
    simp only [List.isEmpty_nil, if_true]
    exact newline_nocomment_sim mp fuel hc (by omega) (by omega)
  | cons c cs =>
    have hne : (emb mp).comment ≠ [] := by simp [hc]
    rw [newline_unfold fuel (emb mp) hne]
    have e1 : ({ Buffer := (emb mp).Buffer ++ [32], comment := (emb mp).comment, margin := (emb mp).margin } : printer)
        = emb (mp.writeByte 32) := by
      simp [emb, Printer.writeByte]
    obtain ⟨r, hr⟩ := flush_loop M (c :: cs) [] fuel (mp.writeByte 32) (by simpa using hm)
      (by rw [hc] at hf; simp only [writeByte_length]; omega)
    simp only [List.nil_append, List.length_nil, decide_true] at hr
    have z : ((0 : Nat) : Int) = (0 : Int) := rfl
    rw [z] at hr
    rw [e1]
    simp only [emb_comment]
    rw [← hc] at hr
    rw [hr]
    simp only [bind_ok]
    have h2 := flush_length M mp.comment (mp.writeByte 32) true (by simpa using hm)
    simp only [writeByte_length] at h2
    have e2 : ({ Buffer := (emb ((mp.writeByte 32).flushComments mp.comment true)).Buffer, comment := [],
                 margin := (emb ((mp.writeByte 32).flushComments mp.comment true)).margin } : printer)
        = emb { ((mp.writeByte 32).flushComments mp.comment true) with comment := [] } := rfl
    rw [e2, newline_nocomment_sim _ fuel rfl (by simp only []; omega) (by simp; omega)]
    simp [hc]

end ModVerif.TieFnPrint
