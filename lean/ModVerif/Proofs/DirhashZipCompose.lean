/-
  C19 `zip_dir_agree_composed`: the h1 hash of the archive `Zip.create` produces equals the h1 hash of the
  directory `Zip.unzip` builds from it, stated over the actual zip models (C05 / C12), not over the naming
  convention.  Three links are proved here and composed with `hashModZip_eq_hashUnzipped`:

    (1) `zipPairs_create`: the entries of a successful `create` ARE `modZipEntries mpath mvers` of the valid
        files (path, content);
    (2) `treeOfEffects_unzip`: the directory tree read off the effect list of the extraction
        (`treeOfEffects`) is the directory holding exactly those files with their contents;
    (3) `cleanRel_of_cfpSound`, `cleanRel_modPrefix`: every `CheckFilePath`-accepted path and every accepted
        `path@version` is `Dirhash.CleanRel`.
-/
import ModVerif.Proofs.DirhashZip
import ModVerif.Proofs.ZipACreate
import ModVerif.Proofs.ModuleSpec
import ModVerif.Proofs.SemverGrammar
namespace ModVerif.DirhashZip
open ModVerif ModVerif.PathClean ModVerif.Zip ModVerif.ZipSpec ModVerif.Proofs.Zip ModVerif.Proofs.ZipB
  ModVerif.Proofs.ZipA

/-- the archive as `dirhash.HashZip` reads it: (entry name, content) in central-directory order -/
def zipPairs (es : List Entry) : List (Bytes × Bytes) := es.map fun e => (e.name, e.content)

/-- the (path, content) pairs of the files `Create` writes: the valid files of the file check -/
def validPairs (E : Env) (files : List FileInfo) : List (Bytes × Bytes) :=
  (checkFilesSt E files (goVers files)).validFiles.map fun f => (f.path, f.content)

/-- decidable form of `ZipSpec.IsUnder dir p`: the elements of `p` after those of `dir`, joined by `/` -/
def relUnder (dir p : Bytes) : Option Bytes :=
  if isRooted p == isRooted dir && (comps dir).isPrefixOf (comps p)
      && decide ((comps dir).length < (comps p).length) then
    some (joinWith [47] ((comps p).drop (comps dir).length))
  else none

/-- a failed copy (content `none`; excluded by a successful extraction) is not listed -/
def filesUnder (dir : Bytes) : List Effect → List (Bytes × Bytes)
  | [] => []
  | .createExcl p (some c) :: rest =>
    match relUnder dir p with
    | some r => (r, c) :: filesUnder dir rest
    | none => filesUnder dir rest
  | _ :: rest => filesUnder dir rest

def madeDir (dir : Bytes) : Effect → Bool
  | .mkdirAll p => pathClean p == pathClean dir
  | _ => false

/-- what `dir` names after the effects were performed on a fresh (missing or empty) target: a directory
    with the files created below it once `MkdirAll(dir)` happened, nothing before. -/
def treeOfEffects (dir : Bytes) (fx : List Effect) : Dirhash.Root :=
  if fx.any (madeDir dir) then .dir (filesUnder dir fx) else .missing

/-- what the composition needs from `module.Check` + `module.CanonicalVersion` -/
def ModOKSound (modOK : Bytes → Bytes → Bool) : Prop :=
  ∀ p v, modOK p v = true →
    (∀ c ∈ splitOn 47 p, c ≠ [] ∧ c ≠ [46] ∧ c ≠ [46, 46]) ∧ (47 : UInt8) ∉ v

/-! ### (3) accepted names are clean relative paths -/

theorem cleanRel_of_cfpSound {cfp : Bytes → Bool} (h : CfpSound cfp) {p : Bytes} (hp : cfp p = true) :
    Dirhash.CleanRel p := fun c hc => h p hp c hc

theorem splitOn_append_noSep (sep : UInt8) (b : Bytes) (hb : sep ∉ b) : ∀ a : Bytes,
    ∃ init last, splitOn sep a = init ++ [last] ∧ splitOn sep (a ++ b) = init ++ [last ++ b]
  | [] => ⟨[], [], rfl, by simpa using splitOn_noSep sep b hb⟩
  | x :: a => by
    obtain ⟨init, last, h1, h2⟩ := splitOn_append_noSep sep b hb a
    by_cases hx : (x == sep) = true
    · refine ⟨[] :: init, last, ?_, ?_⟩
      · simp [splitOn, hx, h1]
      · simp [splitOn, hx, h2]
    · have hx' : (x == sep) = false := by simpa using hx
      cases init with
      | nil =>
        refine ⟨[], x :: last, ?_, ?_⟩
        · simp only [List.nil_append] at h1; simp [splitOn, hx', h1]
        · simp only [List.nil_append] at h2; simp [splitOn, hx', h2]
      | cons i is =>
        refine ⟨(x :: i) :: is, last, ?_, ?_⟩
        · simp only [List.cons_append] at h1; simp [splitOn, hx', h1]
        · simp only [List.cons_append] at h2; simp [splitOn, hx', h2]

theorem cleanRel_modPrefix {p v : Bytes} (hp : ∀ c ∈ splitOn 47 p, c ≠ [] ∧ c ≠ [46] ∧ c ≠ [46, 46])
    (hv : (47 : UInt8) ∉ v) : Dirhash.CleanRel (Dirhash.modPrefix p v) := by
  have hb : (47 : UInt8) ∉ (64 :: v) := by
    intro h; rcases List.mem_cons.1 h with h | h
    · exact absurd h (by decide)
    · exact hv h
  obtain ⟨init, last, h1, h2⟩ := splitOn_append_noSep 47 (64 :: v) hb p
  have e : Dirhash.modPrefix p v = p ++ 64 :: v := by simp [Dirhash.modPrefix]
  intro c hc
  rw [e] at hc
  change c ∈ splitOn 47 (p ++ 64 :: v) at hc
  rw [h2] at hc
  rcases List.mem_append.1 hc with hc | hc
  · exact hp c (by rw [h1]; exact List.mem_append_left _ hc)
  · have hc : c = last ++ 64 :: v := by simpa using hc
    have h64 : (64 : UInt8) ∈ c := by rw [hc]; simp
    refine ⟨?_, ?_, ?_⟩ <;> intro e' <;> rw [e'] at h64 <;> revert h64 <;> decide

theorem cleanRel_modPrefix_of_sound {modOK : Bytes → Bytes → Bool} (h : ModOKSound modOK) {p v : Bytes}
    (hpv : modOK p v = true) : Dirhash.CleanRel (Dirhash.modPrefix p v) :=
  cleanRel_modPrefix (h p v hpv).1 (h p v hpv).2

/-! ### (1) the created entries are `modZipEntries` of the valid files -/

theorem zipPairs_create (E : Env) (mpath mvers : Bytes) (files : List FileInfo) (es : List Entry)
    (h : create E mpath mvers files = .ok es) :
    zipPairs es = Dirhash.modZipEntries mpath mvers (validPairs E files) := by
  obtain ⟨_, _, hes, _⟩ := create_ok E mpath mvers files es h
  rw [hes]
  simp [zipPairs, validPairs, Dirhash.modZipEntries, Dirhash.modPrefix, Dirhash.slash, zipPrefix, entryOf,
    List.map_map, Function.comp_def]

theorem validPairs_normal (E : Env) (hE : CfpSound E.cfp) (files : List FileInfo) :
    ∀ f ∈ (checkFilesSt E files (goVers files)).validFiles, NormalName f.path := fun f hf =>
  normalName_of_cfpSound hE ((checkFilesSt_validInv E (goVers files) files).nameOK f hf).cfp

theorem validPairs_cleanRel (E : Env) (hE : CfpSound E.cfp) (files : List FileInfo) :
    ∀ q ∈ validPairs E files, Dirhash.CleanRel q.1 := by
  intro q hq
  obtain ⟨f, hf, rfl⟩ := List.mem_map.1 hq
  exact cleanRel_of_cfpSound hE ((checkFilesSt_validInv E (goVers files) files).nameOK f hf).cfp

theorem validPairs_nodup (E : Env) (files : List FileInfo) : ((validPairs E files).map (·.1)).Nodup := by
  have hd := (checkFilesSt_validInv E (goVers files) files).foldDistinct
  unfold validPairs
  rw [List.map_map]
  unfold List.Nodup
  rw [List.pairwise_map]
  exact hd.imp (fun hab e => hab (congrArg E.toFold e))

/-! ### (2) the tree the extraction effects build -/

theorem relUnder_fpJoin (dir : Bytes) {n : Bytes} (h : NormalName n) : relUnder dir (fpJoin dir n) = some n := by
  unfold relUnder
  rw [isRooted_fpJoin dir h, comps_fpJoin dir h]
  have h1 : (comps dir).isPrefixOf (comps dir ++ splitOn 47 n) = true :=
    List.isPrefixOf_iff_prefix.2 (List.prefix_append _ _)
  have h2 : (comps dir).length < (comps dir ++ splitOn 47 n).length := by
    have : 0 < (splitOn 47 n).length := List.length_pos_iff.2 (splitOn_ne_nil 47 n)
    rw [List.length_append]; omega
  simp only [beq_self_eq_true, h1, h2, decide_true, Bool.and_self, if_true, List.drop_left]
  exact congrArg some (J_splitOn n)

theorem dstOf_entryOf (dir pfx : Bytes) (f : FileInfo) : dstOf dir pfx (entryOf pfx f) = fpJoin dir f.path := by
  unfold dstOf entryOf
  rw [show (pfx ++ f.path).drop pfx.length = f.path from List.drop_left' rfl]

theorem filesUnder_expected (dir pfx : Bytes) : ∀ vf : List FileInfo, (∀ f ∈ vf, NormalName f.path) →
    filesUnder dir ((vf.map (entryOf pfx)).flatMap (fun e =>
      [.mkdirAll (pathDir (dstOf dir pfx e)), .createExcl (dstOf dir pfx e) (some e.content)])) =
    vf.map fun f => (f.path, f.content)
  | [], _ => rfl
  | f :: vf, h => by
    have ih := filesUnder_expected dir pfx vf (fun g hg => h g (List.mem_cons_of_mem _ hg))
    simp only [List.map_cons, List.flatMap_cons, List.cons_append, List.nil_append, filesUnder]
    rw [dstOf_entryOf, relUnder_fpJoin dir (h f List.mem_cons_self)]
    simp only []
    rw [ih]
    rfl

/-- C05 `create_unzip`, read as a directory -/
theorem treeOfEffects_unzip (E : Env) (hE : CfpSound E.cfp) (dir : Bytes)
    (hdir : dir = [] ∨ pathClean dir = dir ∨ ([46, 46] : Bytes) ∉ splitOn 47 dir) (t : Target)
    (ht : t = .missing ∨ t = .emptyDir) (mpath mvers : Bytes) (files : List FileInfo) (es : List Entry)
    (zipSize : Nat) (h : create E mpath mvers files = .ok es) (hz : zipSize ≤ MaxZipFile) :
    (unzip E dir t mpath mvers zipSize es).err = none ∧
    treeOfEffects dir (unzip E dir t mpath mvers zipSize es).effects = .dir (validPairs E files) := by
  obtain ⟨h1, h2, _, _⟩ := create_unzip E hE dir hdir t ht mpath mvers files es zipSize h hz
  refine ⟨h1, ?_⟩
  obtain ⟨_, _, hes, _⟩ := create_ok E mpath mvers files es h
  rw [h2]
  unfold treeOfEffects
  have hany : (Effect.mkdirAll dir :: es.flatMap (fun e =>
      [.mkdirAll (pathDir (dstOf dir (zipPrefix mpath mvers) e)),
       .createExcl (dstOf dir (zipPrefix mpath mvers) e) (some e.content)])).any (madeDir dir) = true := by
    simp [madeDir]
  rw [if_pos hany]
  congr 1
  show filesUnder dir (es.flatMap _) = _
  rw [hes]
  exact filesUnder_expected dir (zipPrefix mpath mvers) _ (validPairs_normal E hE files)

/-- the composed statement (wrapped as `Props.C19.zip_dir_agree_composed`) -/
theorem hashZip_create_eq_hashDir_unzip (sha : Bytes → Bytes) (E : Env) (hE : CfpSound E.cfp)
    (hM : ModOKSound E.modOK) (dir : Bytes)
    (hdir : dir = [] ∨ pathClean dir = dir ∨ ([46, 46] : Bytes) ∉ splitOn 47 dir) (t : Target)
    (ht : t = .missing ∨ t = .emptyDir) (mpath mvers : Bytes) (files : List FileInfo) (es : List Entry)
    (zipSize : Nat) (h : create E mpath mvers files = .ok es) (hz : zipSize ≤ MaxZipFile) :
    Dirhash.hashZip sha (zipPairs es) =
      Dirhash.hashDir sha (treeOfEffects dir (unzip E dir t mpath mvers zipSize es).effects)
        (mpath ++ [64] ++ mvers) := by
  obtain ⟨hm, _, _, _⟩ := create_ok E mpath mvers files es h
  rw [zipPairs_create E mpath mvers files es h,
    (treeOfEffects_unzip E hE dir hdir t ht mpath mvers files es zipSize h hz).2]
  exact Dirhash.hashModZip_eq_hashUnzipped sha mpath mvers (validPairs E files)
    (cleanRel_modPrefix_of_sound hM hm) (validPairs_cleanRel E hE files) (validPairs_nodup E files)

/-! ### `ModOKSound` holds for the module check the zip driver plugs into `Env.modOK`

`module.Check` accepts only paths whose elements are non-empty and not made of dots only
(Proofs/ModuleSpec.lean), and only versions of the semver grammar (Proofs/SemverGrammar.lean), which has no
slash. -/

open ModVerif.SemverSpec

/-- `Env.modOK` as the zip driver defines it (`Drv.Zip.realEnv`) -/
def modOKOf (p v : Bytes) : Bool :=
  Semver.canonicalVersion v == v &&
    (match Module.check p v with
     | .ok _ => true
     | .error _ => false)

theorem noSlash_of_all {p : UInt8 → Bool} (hp : p 47 = false) {x : Bytes} (h : x.all p = true) :
    (47 : UInt8) ∉ x := by
  intro hm
  have := List.all_eq_true.1 h 47 hm
  rw [hp] at this; cases this

theorem noSlash_num {x : Bytes} (h : Num x) : (47 : UInt8) ∉ x := noSlash_of_all (by decide) h.2.1

theorem noSlash_joinDots {ids : List Bytes} (h : ∀ i ∈ ids, Ident i) : (47 : UInt8) ∉ joinDots ids := by
  intro hm
  rcases Semver.mem_joinDots hm with h' | ⟨i, hi, hc⟩
  · exact absurd h' (by decide)
  · exact noSlash_of_all (p := isIdentChar) (by decide) (h i hi).2 hc

theorem noSlash_preOpt {pre : Bytes} (h : PreOpt pre) : (47 : UInt8) ∉ pre := by
  rcases h with rfl | ⟨ids, _, hids, rfl⟩
  · simp
  · intro hm
    rcases List.mem_cons.1 hm with h' | h'
    · exact absurd h' (by decide)
    · exact noSlash_joinDots (fun i hi => (hids i hi).1) h'

theorem noSlash_buildOpt {bld : Bytes} (h : BuildOpt bld) : (47 : UInt8) ∉ bld := by
  rcases h with rfl | ⟨ids, _, hids, rfl⟩
  · simp
  · intro hm
    rcases List.mem_cons.1 hm with h' | h'
    · exact absurd h' (by decide)
    · exact noSlash_joinDots hids h'

theorem noSlash_valid {v : Bytes} (h : Valid v) : (47 : UInt8) ∉ v := by
  have h118 : (47 : UInt8) ≠ 118 := by decide
  have h46 : (47 : UInt8) ≠ 46 := by decide
  obtain ⟨maj, nmaj, h | ⟨min, nmin, h | ⟨pat, pre, bld, npat, hpre, hbld, h⟩⟩⟩ := h
  · subst h
    simp only [List.mem_cons, not_or]
    exact ⟨h118, noSlash_num nmaj⟩
  · subst h
    simp only [List.mem_cons, List.mem_append, List.cons_append, not_or]
    exact ⟨h118, noSlash_num nmaj, h46, noSlash_num nmin⟩
  · subst h
    simp only [List.mem_cons, List.mem_append, List.cons_append, List.append_assoc, not_or]
    exact ⟨h118, noSlash_num nmaj, h46, noSlash_num nmin, h46, noSlash_num npat, noSlash_preOpt hpre,
      noSlash_buildOpt hbld⟩

theorem valid_of_isValid {v : Bytes} (h : Semver.isValid v = true) : Valid v := by
  rw [Semver.valid_iff_decomp]
  unfold Semver.isValid at h
  cases hp : Semver.parse v with
  | none => rw [hp] at h; simp at h
  | some p => exact ⟨p, Semver.parse_decomp hp⟩

theorem check_ok {p v : Bytes} (h : Module.check p v = .ok ()) :
    Module.checkPath (fun _ => false) .module p = .ok () ∧ Semver.isValid v = true := by
  unfold Module.check at h
  cases hm : Module.checkModPath p with
  | error e => rw [hm] at h; cases h
  | ok u =>
    rw [hm] at h
    cases hv : Semver.isValid v with
    | false => simp [hv] at h
    | true =>
      refine ⟨?_, rfl⟩
      unfold Module.checkModPath at hm
      cases hc : Module.checkPath (fun _ => false) .module p with
      | error e => rw [hc] at hm; cases hm
      | ok u => rfl

theorem modOKSound_check : ModOKSound modOKOf := by
  intro p v h
  have hck : Module.check p v = .ok () := by
    unfold modOKOf at h
    cases hc : Module.check p v with
    | ok u => rfl
    | error e => rw [hc] at h; simp at h
  obtain ⟨hp, hv⟩ := check_ok hck
  have hspec := (Module.checkPath_iff_spec (fun _ => false) .module p).mp hp
  refine ⟨?_, noSlash_valid (valid_of_isValid hv)⟩
  intro c hc
  have he := hspec.2.2.2 c hc
  refine ⟨he.1, ?_, ?_⟩
  · intro e; apply he.2.1; rw [e]; simp
  · intro e; apply he.2.1; rw [e]; simp

end ModVerif.DirhashZip
