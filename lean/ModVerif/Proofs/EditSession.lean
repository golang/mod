/-
  go.mod sessions.  The static form of C08 `untouched_lines_survive` (no operation names the line's tokens, and the line is
  not an `exclude` / `replace` / `tool` line — the only verbs whose lines SortBlocks de-duplicates): the static condition
  implies the run-following one, `Spared` (`spared_of_static`).  **C16 `comments_survive` composed along a session**
  (`comments_survive_session_eq`): operations that spare the requirement line, a bulk requirement setter, Cleanup,
  operations that spare the rewritten line; with EQUALITY of the end-of-line comments — every Cleanup on the way needs
  `Inv.tree.noBlockSuffix` (no block carries an end-of-line comment of its own) for that.
-/
import ModVerif.Proofs.EditMoreKeepF
import ModVerif.Proofs.EditMoreComD
import ModVerif.Proofs.EditMoreNoPanic
import ModVerif.Proofs.EditWorkSorted
namespace ModVerif.Modfile.Edit
open ModVerif ModVerif.Modfile

/-- the line is still there at every step, so the invariant keeps it out of the kill lists -/
theorem spared_of_static (ops : List Op) : ∀ (e : EFile), RunValid e ops → Inv e → ∀ x ∈ viewX e.f.syn.stmts,
    (∀ op ∈ ops, ¬Targets op x.toks) → NotDedupVerb x.toks → Spared x.toks x.id e ops := by
  induction ops with
  | nil => intro e _ _ x _ _ _; trivial
  | cons op ops ih =>
    intro e hv hi x hx hnt hnd
    have hk := hi.not_killed_of_verb hx hnd
    refine ⟨hnt op List.mem_cons_self, fun _ => hk, fun e1 ha => ?_,
      fun err ha hr => ih e (hv.2.2 err ha hr) hi x hx (fun o ho => hnt o (List.mem_cons_of_mem _ ho)) hnd⟩
    obtain ⟨y, hy, hxy⟩ := applyMod_untouchedS e e1 op hv.1 hi ha x hx (hnt op List.mem_cons_self) (fun _ => hk)
    rw [← hxy.1, ← hxy.2.1]
    exact ih e1 (hv.2.1 e1 ha) (applyMod_inv_all e e1 op hv.1 hi ha) y hy
      (by rw [hxy.2.1]; exact fun o ho => hnt o (List.mem_cons_of_mem _ ho)) (by rw [hxy.2.1]; exact hnd)

theorem runOps_untouched_staticS (ops : List Op) (e : EFile) (res0 : List Bool) (i : Nat) (e' : EFile) (res : List Bool)
    (hv : RunValid e ops) (hi : Inv e) (h : runOps applyMod e ops res0 i = .done e' res)
    (x : XLine) (hx : x ∈ viewX e.f.syn.stmts) (hnt : ∀ op ∈ ops, ¬Targets op x.toks) (hnd : NotDedupVerb x.toks) :
    ∃ x' ∈ viewX e'.f.syn.stmts, x.leS x' :=
  runOps_untouchedS ops e res0 i e' res hv hi h x hx (spared_of_static ops e hv hi x hx hnt hnd)

/-- **C08 `untouched_lines_survive`, static form**: the hypotheses do not follow the run (`Targets` depends on the operation
    and the tokens only). -/
theorem untouched_lines_survive_static_eq (e e' : EFile) (ops : List Op) (res : List Bool) (hi : Inv e) (hv : RunValid e ops)
    (h : runOps applyMod e ops [] 0 = .done e' res) (x : XLine) (hx : x ∈ viewX e.f.syn.stmts)
    (hnt : ∀ op ∈ ops, ¬Targets op x.toks) (hnd : NotDedupVerb x.toks) :
    ∃ x' ∈ viewX (cleanup e').f.syn.stmts, x'.id = x.id ∧ x'.toks = x.toks ∧ x.before.Sublist x'.before ∧
      x'.suffix = x.suffix :=
  untouched_lines_survive_eq e e' ops res hi hv h x hx (spared_of_static ops e hv hi x hx hnt hnd)

theorem RunValid.left (a b : List Op) : ∀ e : EFile, RunValid e (a ++ b) → RunValid e a := by
  induction a with
  | nil => intro e _; trivial
  | cons op ops ih =>
    intro e h
    exact ⟨h.1, fun e' ha => ih e' (h.2.1 e' ha), fun err ha hr => ih e (h.2.2 err ha hr)⟩

theorem RunValid.right (a b : List Op) : ∀ (e : EFile) (res0 : List Bool) (i : Nat) (e1 : EFile) (r1 : List Bool),
    RunValid e (a ++ b) → runOps applyMod e a res0 i = .done e1 r1 → RunValid e1 b := by
  induction a with
  | nil =>
    intro e res0 i e1 r1 hv h
    simp only [runOps, SessionResult.done.injEq] at h
    rw [← h.1]; exact hv
  | cons op ops ih =>
    intro e res0 i e1 r1 hv h
    unfold runOps at h
    cases ha : applyMod e op with
    | none => simp [ha] at h
    | some r =>
      cases r with
      | ok e2 =>
        simp only [ha] at h
        exact ih e2 _ _ e1 r1 (hv.2.1 e2 ha) h
      | error err =>
        simp only [ha] at h
        by_cases hr : err.isReturned = true
        · simp only [hr, if_true] at h
          exact ih e _ _ e1 r1 (hv.2.2 err ha hr) h
        · simp only [Bool.not_eq_true] at hr
          simp [hr] at h

def bulkOp (sep : Bool) (want : List Want) (rev : Bool) : Op :=
  if sep then .setRequireSeparateIndirect want rev else .setRequire want rev

theorem BeforeKept.of_sublist {a b c : List Comment} (h1 : a.Sublist b) (h2 : BeforeKept b c) : BeforeKept a c :=
  (List.Sublist.filter _ h1).trans h2

/-- **C16 `comments_survive` along a session**, with equality of the end-of-line comments.  Session
    `ops1 ++ [bulk setter, Cleanup] ++ ops2`; `x0` is a line that `ops1` spares and that is, in the state `e1` in which the setter
    runs, the line of the FIRST requirement of a requested path.  (1) is about `e1`, (2) about the tree after the final Cleanup. -/
theorem comments_survive_session_eq (e e1 e' : EFile) (ops1 ops2 : List Op) (sep rev : Bool) (want : List Want)
    (res res1 : List Bool) (hi : Inv e) (hv : RunValid e (ops1 ++ bulkOp sep want rev :: .cleanup :: ops2))
    (h : runOps applyMod e (ops1 ++ bulkOp sep want rev :: .cleanup :: ops2) [] 0 = .done e' res)
    (h1 : runOps applyMod e ops1 [] 0 = .done e1 res1)
    (d : List Require) (r : Require) (t : List Require) (hsplit : e1.f.require = d ++ r :: t)
    (hfirst : ∀ r' ∈ d, r'.mod.path ≠ r.mod.path) (w : Want) (hw : w ∈ want) (hwp : w.path = r.mod.path)
    (x0 : XLine) (hx0 : x0 ∈ viewX e.f.syn.stmts) (hid0 : x0.id = r.lineId) (hsp1 : Spared x0.toks x0.id e ops1)
    (hsp2 : ∀ op ∈ ops2, ¬Targets op [B "require", autoQuote r.mod.path, w.vers]) :
    ∃ x1 ∈ viewX e1.f.syn.stmts, x0.leS x1 ∧
      ∃ x' ∈ viewX (cleanup e').f.syn.stmts, x'.toks = [B "require", autoQuote r.mod.path, w.vers] ∧
        BeforeKept x0.before x'.before ∧ x'.suffix = sfxAfter w.indirect x0.suffix := by
  rcases runOps_append applyMod ops1 _ e [] 0 e' res h with ⟨e1', r1', h1', h2⟩
  rw [h1] at h1'
  simp only [SessionResult.done.injEq] at h1'
  obtain ⟨rfl, rfl⟩ := h1'
  have hv1 := RunValid.left ops1 _ e hv
  have hv2 := RunValid.right ops1 _ e [] 0 e1 res1 hv h1
  have hi1 : Inv e1 := runOps_inv_all ops1 e [] 0 e1 res1 hv1 hi h1
  rcases runOps_untouchedS ops1 e [] 0 e1 res1 hv1 hi h1 x0 hx0 hsp1 with ⟨x1, hx1, h01⟩
  refine ⟨x1, hx1, h01, ?_⟩
  have hid1 : x1.id = r.lineId := h01.1.trans hid0
  -- the setter succeeds and keeps the comments of `x1`
  have hbulk : ∃ e2, applyMod e1 (bulkOp sep want rev) = some (.ok e2) ∧
      ∃ x2 ∈ viewX (cleanup e2).f.syn.stmts, x2.toks = [B "require", autoQuote r.mod.path, w.vers] ∧
        BeforeKept x1.before x2.before ∧ x2.suffix = sfxAfter w.indirect x1.suffix := by
    have hva := hv2.1
    cases sep with
    | false =>
      simp only [bulkOp, Bool.false_eq_true, if_false] at hva ⊢
      rcases setRequire_total e1 want (permOf rev) hva.1 hi1.r hva.2.1 with ⟨e2, he2⟩
      exact ⟨e2, by simp [applyMod, he2],
        setRequire_comments_eq e1 e2 want (permOf rev) (permOf_perm rev) hva.1 hi1 hva.2.1 hva.2.2 he2 d r t hsplit hfirst w hw hwp
          x1 hx1 hid1⟩
    | true =>
      simp only [bulkOp, if_true] at hva ⊢
      rcases setRequireSeparateIndirect_total e1 want (permOf rev) hva.1 hi1.r hva.2.1 with ⟨e2, he2⟩
      exact ⟨e2, by simp [applyMod, he2],
        setRequireSeparateIndirect_comments_eq e1 e2 want (permOf rev) (permOf_perm rev) hva.1 hi1 hva.2.1 hva.2.2 he2 d r t hsplit hfirst w hw hwp
          x1 hx1 hid1⟩
  rcases hbulk with ⟨e2, ha, x2, hx2, ht2, hb2, hs2⟩
  have hi2 : Inv e2 := applyMod_inv_all e1 e2 _ hv2.1 hi1 ha
  have hv3 : RunValid e2 (.cleanup :: ops2) := hv2.2.1 e2 ha
  have hv4 : RunValid (cleanup e2) ops2 := hv3.2.1 (cleanup e2) rfl
  have h3 : ∃ res0 i, runOps applyMod (cleanup e2) ops2 res0 i = .done e' res := by
    unfold runOps at h2
    simp only [ha] at h2
    unfold runOps at h2
    simp only [applyMod] at h2
    exact ⟨_, _, h2⟩
  rcases h3 with ⟨res0, i, h3⟩
  have hnd : NotDedupVerb x2.toks := ht2 ▸ notDedupVerb_require _
  rcases runOps_untouched_staticS ops2 (cleanup e2) res0 i e' res hv4 (cleanup_inv e2 hi2) h3 x2 hx2
    (by rw [ht2]; exact hsp2) hnd with ⟨x3, hx3, h23⟩
  rcases keepsS_cleanupStmts e'.f.syn.stmts
    (runOps_inv_all ops2 (cleanup e2) res0 i e' res hv4 (cleanup_inv e2 hi2) h3).tree.noBlockSuffix x3 hx3 (by simp) with ⟨x4, hx4, h34⟩
  have h24 := XLine.leS_trans h23 h34
  exact ⟨x4, hx4, by rw [h24.2.1, ht2], (BeforeKept.of_sublist h01.2.2.1 hb2).trans_sub h24.2.2.1, by rw [h24.2.2.2, hs2, h01.2.2.2]⟩

/-- **C16 `comments_survive` along a session**: (2) of `comments_survive_session_eq`, with the end-of-line comments the line
    had when the setter ran (`x1.suffix`, which contain those of `x0`). -/
theorem comments_survive_session (e e1 e' : EFile) (ops1 ops2 : List Op) (sep rev : Bool) (want : List Want)
    (res res1 : List Bool) (hi : Inv e) (hv : RunValid e (ops1 ++ bulkOp sep want rev :: .cleanup :: ops2))
    (h : runOps applyMod e (ops1 ++ bulkOp sep want rev :: .cleanup :: ops2) [] 0 = .done e' res)
    (h1 : runOps applyMod e ops1 [] 0 = .done e1 res1)
    (d : List Require) (r : Require) (t : List Require) (hsplit : e1.f.require = d ++ r :: t)
    (hfirst : ∀ r' ∈ d, r'.mod.path ≠ r.mod.path) (w : Want) (hw : w ∈ want) (hwp : w.path = r.mod.path)
    (x0 : XLine) (hx0 : x0 ∈ viewX e.f.syn.stmts) (hid0 : x0.id = r.lineId) (hsp1 : Spared x0.toks x0.id e ops1)
    (hsp2 : ∀ op ∈ ops2, ¬Targets op [B "require", autoQuote r.mod.path, w.vers]) :
    ∃ x1 ∈ viewX e1.f.syn.stmts, x0.le x1 ∧
      ∃ x' ∈ viewX (cleanup e').f.syn.stmts, x'.toks = [B "require", autoQuote r.mod.path, w.vers] ∧
        BeforeKept x0.before x'.before ∧ (sfxAfter w.indirect x1.suffix).Sublist x'.suffix := by
  obtain ⟨x1, hx1, h01, x', hx', ht, hb, hs⟩ :=
    comments_survive_session_eq e e1 e' ops1 ops2 sep rev want res res1 hi hv h h1 d r t hsplit hfirst w hw hwp x0 hx0 hid0 hsp1 hsp2
  exact ⟨x1, hx1, h01.le, x', hx', ht, hb, by rw [hs, h01.2.2.2]; exact List.Sublist.refl _⟩

end ModVerif.Modfile.Edit
