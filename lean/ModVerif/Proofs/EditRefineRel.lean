/-
  Observational equivalence of abstract files and the congruence of the specification's
  `step` for it.

  Go's map iteration in SetRequire / SetRequireSeparateIndirect / SetUse appends the missing entries in an
  arbitrary order, so the model's typed `require` (`use`) list and the specification's differ by a reordering —
  but only BETWEEN different paths: the entries of one path stand in the same order (`KeyEq`).  `step` only ever
  looks at the entries of one path at a time, so it respects `KeyEq`.  Retraction rationales are compared
  separately (they are where the recorded defects live): `Rel` compares retractions by interval.
-/
import ModVerif.Proofs.EditSpecSet
set_option linter.unusedSimpArgs false
namespace ModVerif.EditSpec
open ModVerif

section keyeq
variable {α : Type}

/-- same entries per key, in the same order -/
def KeyEq (key : α → Bytes) (l1 l2 : List α) : Prop :=
  ∀ k, l1.filter (fun x => key x == k) = l2.filter (fun x => key x == k)

theorem KeyEq.refl (key : α → Bytes) (l : List α) : KeyEq key l l := fun _ => rfl
theorem KeyEq.symm {key : α → Bytes} {l1 l2 : List α} (h : KeyEq key l1 l2) : KeyEq key l2 l1 := fun k => (h k).symm
theorem KeyEq.trans {key : α → Bytes} {l1 l2 l3 : List α} (h1 : KeyEq key l1 l2) (h2 : KeyEq key l2 l3) : KeyEq key l1 l3 :=
  fun k => (h1 k).trans (h2 k)

theorem KeyEq.perm [DecidableEq α] {key : α → Bytes} {l1 l2 : List α} (h : KeyEq key l1 l2) : l1.Perm l2 := by
  apply List.perm_iff_count.2
  intro a
  have h1 : ∀ l : List α, List.count a l = List.count a (l.filter (fun x => key x == key a)) := by
    intro l
    rw [List.count_filter]; simp
  rw [h1 l1, h1 l2, h (key a)]

theorem KeyEq.any {key : α → Bytes} {l1 l2 : List α} (h : KeyEq key l1 l2) (p : Bytes) :
    l1.any (fun x => key x == p) = l2.any (fun x => key x == p) := by
  have h1 : ∀ l : List α, l.any (fun x => key x == p) = !(l.filter (fun x => key x == p)).isEmpty := by
    intro l
    induction l with
    | nil => rfl
    | cons x xs ih =>
      by_cases hx : (key x == p) = true
      · simp [List.filter, hx]
      · simp only [Bool.not_eq_true] at hx; simp [List.filter, hx, ih]
  rw [h1 l1, h1 l2, h p]

theorem KeyEq.append {key : α → Bytes} {l1 l2 m1 m2 : List α} (h : KeyEq key l1 l2) (h' : KeyEq key m1 m2) :
    KeyEq key (l1 ++ m1) (l2 ++ m2) := by
  intro k; simp only [List.filter_append, h k, h' k]

theorem KeyEq.filter {key : α → Bytes} {l1 l2 : List α} (h : KeyEq key l1 l2) (q : α → Bool) :
    KeyEq key (l1.filter q) (l2.filter q) := by
  intro k
  have : ∀ l : List α, (l.filter q).filter (fun x => key x == k) = (l.filter (fun x => key x == k)).filter q := by
    intro l; simp only [List.filter_filter]; congr 1; funext x; exact Bool.and_comm _ _
  rw [this l1, this l2, h k]

theorem KeyEq.dropAll {key : α → Bytes} {l1 l2 : List α} (h : KeyEq key l1 l2) (m : α → Bool) :
    KeyEq key (EditSpec.dropAll m l1) (EditSpec.dropAll m l2) := h.filter _

theorem find?_eq_head?_filter (m : α → Bool) (l : List α) : l.find? m = (l.filter m).head? := by
  induction l with
  | nil => rfl
  | cons x xs ih =>
    rw [List.find?_cons, List.filter_cons]
    by_cases h : m x = true
    · simp only [h, if_true, List.head?_cons]
    · simp only [Bool.not_eq_true] at h; simp only [h, Bool.false_eq_true, if_false, ih]

theorem KeyEq.updFirstDropRest {key : α → Bytes} {l1 l2 : List α} (h : KeyEq key l1 l2) (p : Bytes) (u : α → α)
    (hu : ∀ x, key (u x) = key x) :
    KeyEq key (EditSpec.updFirstDropRest (fun x => key x == p) u l1) (EditSpec.updFirstDropRest (fun x => key x == p) u l2) := by
  intro k
  have hu' : ∀ x, (fun x => key x == p) x = true → (fun x => key x == p) (u x) = true := by
    intro x hx; simp only [hu x]; exact hx
  by_cases hk : k = p
  · subst hk
    rw [updFirstDropRest_matched _ u hu', updFirstDropRest_matched _ u hu', find?_eq_head?_filter, find?_eq_head?_filter, h k]
  · have hsplit : ∀ l : List α, l.filter (fun x => key x == k) = (l.filter (fun y => !(key y == p))).filter (fun x => key x == k) := by
      intro l
      rw [List.filter_filter]
      apply List.filter_congr
      intro x _
      by_cases hx : (key x == k) = true
      · have : key x = k := eq_of_beq hx
        have hne : (key x == p) = false := by
          cases hb : key x == p with
          | false => rfl
          | true => exact absurd ((eq_of_beq hb).symm.trans this).symm hk
        simp [hx, hne]
      · simp only [Bool.not_eq_true] at hx; simp [hx]
    rw [hsplit (EditSpec.updFirstDropRest _ u l1), hsplit (EditSpec.updFirstDropRest _ u l2),
      updFirstDropRest_others _ u hu', updFirstDropRest_others _ u hu', ← hsplit, ← hsplit, h k]

theorem KeyEq.setKeyed {key : α → Bytes} {l1 l2 : List α} (h : KeyEq key l1 l2) (p : Bytes) (u : α → α)
    (hu : ∀ x, key (u x) = key x) (new : α) :
    KeyEq key (EditSpec.setKeyed (fun x => key x == p) u new l1) (EditSpec.setKeyed (fun x => key x == p) u new l2) := by
  unfold EditSpec.setKeyed
  rw [h.any p]
  split
  · exact h.updFirstDropRest p u hu
  · exact h.append (KeyEq.refl _ _)

theorem filter_key_of_perm {key : α → Bytes} {l want : List α} (hperm : l.Perm want)
    (hW : want.Pairwise (fun a b => key a ≠ key b)) (k : Bytes) :
    l.filter (fun x => key x == k) = want.filter (fun x => key x == k) := by
  have hp := hperm.filter (fun x => key x == k)
  have hlen : (want.filter (fun x => key x == k)).length ≤ 1 := by
    clear hp hperm
    induction want with
    | nil => simp
    | cons w ws ih =>
      rcases List.pairwise_cons.1 hW with ⟨h1, h2⟩
      by_cases hw : (key w == k) = true
      · have : ws.filter (fun x => key x == k) = [] := by
          apply List.filter_eq_nil_iff.2
          intro a ha hka
          exact h1 a ha ((eq_of_beq hw).trans (eq_of_beq hka).symm)
        simp [List.filter, hw, this]
      · simp only [Bool.not_eq_true] at hw
        simp only [List.filter, hw]; exact ih h2
  cases hw : want.filter (fun x => key x == k) with
  | nil => rw [hw] at hp; exact List.Perm.eq_nil hp
  | cons a t =>
    rw [hw] at hp hlen
    have : t = [] := by
      cases t with
      | nil => rfl
      | cons _ _ => simp at hlen
    subst this
    exact List.perm_singleton.1 hp

theorem KeyEq.of_perm {key : α → Bytes} {l1 l2 want : List α} (h1 : l1.Perm want) (h2 : l2.Perm want)
    (hW : want.Pairwise (fun a b => key a ≠ key b)) : KeyEq key l1 l2 :=
  fun k => (filter_key_of_perm h1 hW k).trans (filter_key_of_perm h2 hW k).symm

theorem setExact_filter_key [DecidableEq α] (key : α → Bytes) (want old : List α)
    (hW : want.Pairwise (fun a b => key a ≠ key b)) (k : Bytes) :
    (setExact key want old).filter (fun x => key x == k) = want.filter (fun x => key x == k) :=
  filter_key_of_perm (setExact_perm key want old hW) hW k

theorem KeyEq.setExact [DecidableEq α] (key : α → Bytes) (want old1 old2 : List α)
    (hW : want.Pairwise (fun a b => key a ≠ key b)) :
    KeyEq key (EditSpec.setExact key want old1) (EditSpec.setExact key want old2) := by
  intro k; rw [setExact_filter_key key want old1 hW, setExact_filter_key key want old2 hW]

end keyeq

def Retr.interval (r : Retr) : Bytes × Bytes := (r.lo, r.hi)

/-- observational equivalence: scalars and the order-insensitive collections equal; requirements and uses equal per
    path (same order within a path); retractions compared by interval, in order -/
structure Rel (f g : AbsFile) : Prop where
  module : f.module = g.module
  go : f.go = g.go
  toolchain : f.toolchain = g.toolchain
  godebug : f.godebug = g.godebug
  require : KeyEq Req.path f.require g.require
  exclude : f.exclude = g.exclude
  replace : f.replace = g.replace
  retract : f.retract.map Retr.interval = g.retract.map Retr.interval
  tool : f.tool = g.tool
  use : KeyEq id f.use g.use

theorem Rel.refl (f : AbsFile) : Rel f f := ⟨rfl, rfl, rfl, rfl, KeyEq.refl _ _, rfl, rfl, rfl, rfl, KeyEq.refl _ _⟩
theorem Rel.symm {f g : AbsFile} (h : Rel f g) : Rel g f :=
  ⟨h.module.symm, h.go.symm, h.toolchain.symm, h.godebug.symm, h.require.symm, h.exclude.symm, h.replace.symm,
   h.retract.symm, h.tool.symm, h.use.symm⟩
theorem Rel.trans {f g k : AbsFile} (h1 : Rel f g) (h2 : Rel g k) : Rel f k :=
  ⟨h1.module.trans h2.module, h1.go.trans h2.go, h1.toolchain.trans h2.toolchain, h1.godebug.trans h2.godebug,
   h1.require.trans h2.require, h1.exclude.trans h2.exclude, h1.replace.trans h2.replace, h1.retract.trans h2.retract,
   h1.tool.trans h2.tool, h1.use.trans h2.use⟩

theorem Rel.perm {f g : AbsFile} (h : Rel f g) : f.require.Perm g.require ∧ f.use.Perm g.use :=
  ⟨h.require.perm, h.use.perm⟩

theorem Rel.removeDups {f g : AbsFile} (h : Rel f g) : Rel (EditSpec.removeDups f) (EditSpec.removeDups g) := by
  unfold EditSpec.removeDups
  exact ⟨h.module, h.go, h.toolchain, h.godebug, h.require, by simp only [h.exclude], by simp only [h.replace], h.retract,
    by simp only [h.tool], h.use⟩

/-- the arguments a bulk setter needs: pairwise distinct paths -/
def ValidOp : Op → Prop
  | .setRequire want => want.Pairwise (fun a b => a.path ≠ b.path)
  | .setRequireSeparateIndirect want => want.Pairwise (fun a b => a.path ≠ b.path)
  | .setUse want => (want.map Prod.fst).Pairwise (· ≠ ·)
  | _ => True

theorem Rel.stepOk {f g : AbsFile} (h : Rel f g) (V : Validity) (op : Op) : EditSpec.stepOk V f op = EditSpec.stepOk V g op := by
  cases op <;> simp only [EditSpec.stepOk, h.module]

theorem map_interval_dropAll (lo hi : Bytes) (l : List Retr) :
    (dropAll (fun r : Retr => r.lo == lo && r.hi == hi) l).map Retr.interval
      = (l.map Retr.interval).filter (fun p => !(p.1 == lo && p.2 == hi)) := by
  unfold dropAll; rw [List.filter_map]; rfl

theorem Rel.step {f g : AbsFile} (h : Rel f g) (V : Validity) (op : Op) (hv : ValidOp op) :
    Rel (EditSpec.step V f op) (EditSpec.step V g op) := by
  cases op with
  | addModule p => simp only [EditSpec.step, EditSpec.stepOk, Bool.not_true, Bool.false_eq_true, if_false]; exact { h with module := rfl }
  | addGo v =>
    simp only [EditSpec.step, EditSpec.stepOk]
    by_cases hV : V.goVersion v = true
    · simp only [hV, Bool.not_true, Bool.false_eq_true, if_false, if_true]
      exact { h with go := rfl }
    · simp only [Bool.not_eq_true] at hV
      simp only [hV, Bool.not_false, Bool.false_eq_true, if_true, if_false]
      exact h
  | dropGo => simp only [EditSpec.step, EditSpec.stepOk, Bool.not_true, Bool.false_eq_true, if_false]; exact { h with go := rfl }
  | addToolchain n =>
    simp only [EditSpec.step, EditSpec.stepOk]
    by_cases hV : V.toolchain n = true
    · simp only [hV, Bool.not_true, Bool.false_eq_true, if_false, if_true]
      exact { h with toolchain := rfl }
    · simp only [Bool.not_eq_true] at hV
      simp only [hV, Bool.not_false, Bool.false_eq_true, if_true, if_false]
      exact h
  | dropToolchain => simp only [EditSpec.step, EditSpec.stepOk, Bool.not_true, Bool.false_eq_true, if_false]; exact { h with toolchain := rfl }
  | addGodebug k v =>
    simp only [EditSpec.step, EditSpec.stepOk, Bool.not_true, Bool.false_eq_true, if_false]
    exact { h with godebug := by simp only [h.godebug] }
  | dropGodebug k =>
    simp only [EditSpec.step, EditSpec.stepOk, Bool.not_true, Bool.false_eq_true, if_false]
    exact { h with godebug := by simp only [h.godebug] }
  | addRequire p v =>
    simp only [EditSpec.step, EditSpec.stepOk, Bool.not_true, Bool.false_eq_true, if_false]
    exact { h with require := h.require.setKeyed p (fun r : Req => { r with vers := v }) (fun _ => rfl) _ }
  | addNewRequire p v i =>
    simp only [EditSpec.step, EditSpec.stepOk, Bool.not_true, Bool.false_eq_true, if_false]
    exact { h with require := h.require.append (KeyEq.refl _ _) }
  | dropRequire p =>
    simp only [EditSpec.step, EditSpec.stepOk, Bool.not_true, Bool.false_eq_true, if_false]
    exact { h with require := h.require.dropAll _ }
  | setRequire want =>
    simp only [EditSpec.step, EditSpec.stepOk, Bool.not_true, Bool.false_eq_true, if_false]
    exact Rel.removeDups { h with require := KeyEq.setExact Req.path want _ _ hv }
  | setRequireSeparateIndirect want =>
    simp only [EditSpec.step, EditSpec.stepOk, Bool.not_true, Bool.false_eq_true, if_false]
    exact Rel.removeDups { h with require := KeyEq.setExact Req.path want _ _ hv }
  | addExclude p v =>
    simp only [EditSpec.step, EditSpec.stepOk, h.exclude]
    by_cases hV : V.version p v = true
    · simp only [hV, Bool.not_true, Bool.false_eq_true, if_false]
      by_cases hc : g.exclude.contains (p, v) = true
      · simp only [hc, if_true]; exact h
      · simp only [Bool.not_eq_true] at hc
        simp only [hc, Bool.false_eq_true, if_false]
        exact { h with exclude := by simp only [h.exclude] }
    · simp only [Bool.not_eq_true] at hV
      simp only [hV, Bool.not_false, if_true]
      exact h
  | dropExclude p v =>
    simp only [EditSpec.step, EditSpec.stepOk, Bool.not_true, Bool.false_eq_true, if_false]
    exact { h with exclude := by simp only [h.exclude] }
  | addReplace a b c d =>
    simp only [EditSpec.step, EditSpec.stepOk, Bool.not_true, Bool.false_eq_true, if_false]
    exact { h with replace := by simp only [h.replace] }
  | dropReplace a b =>
    simp only [EditSpec.step, EditSpec.stepOk, Bool.not_true, Bool.false_eq_true, if_false]
    exact { h with replace := by simp only [h.replace] }
  | addRetract lo hi why =>
    have hok := h.stepOk V (.addRetract lo hi why)
    unfold EditSpec.step
    rw [hok]
    by_cases hV : EditSpec.stepOk V g (.addRetract lo hi why) = true
    · simp only [hV, Bool.not_true, Bool.false_eq_true, if_false]
      exact { h with retract := by simp only [List.map_append, h.retract] }
    · simp only [Bool.not_eq_true] at hV
      simp only [hV, Bool.not_false, if_true]
      exact h
  | dropRetract lo hi =>
    simp only [EditSpec.step, EditSpec.stepOk, Bool.not_true, Bool.false_eq_true, if_false]
    exact { h with retract := by simp only [map_interval_dropAll, h.retract] }
  | addTool p =>
    simp only [EditSpec.step, EditSpec.stepOk, Bool.not_true, Bool.false_eq_true, if_false, h.tool]
    by_cases hV : g.tool.contains p = true
    · simp only [hV, Bool.not_true, Bool.false_eq_true, if_false, if_true]
      exact h
    · simp only [Bool.not_eq_true] at hV
      simp only [hV, Bool.not_false, Bool.false_eq_true, if_true, if_false]
      exact Rel.removeDups { h with tool := by simp only [h.tool] }
  | dropTool p =>
    simp only [EditSpec.step, EditSpec.stepOk, Bool.not_true, Bool.false_eq_true, if_false]
    exact { h with tool := by simp only [h.tool] }
  | sortBlocks => simp only [EditSpec.step, EditSpec.stepOk, Bool.not_true, Bool.false_eq_true, if_false]; exact h.removeDups
  | cleanup => simp only [EditSpec.step, EditSpec.stepOk, Bool.not_true, Bool.false_eq_true, if_false]; exact h
  | addUse d m =>
    simp only [EditSpec.step, EditSpec.stepOk, Bool.not_true, Bool.false_eq_true, if_false]
    exact { h with use := h.use.setKeyed d id (fun _ => rfl) _ }
  | addNewUse d m =>
    simp only [EditSpec.step, EditSpec.stepOk, Bool.not_true, Bool.false_eq_true, if_false]
    exact { h with use := h.use.append (KeyEq.refl _ _) }
  | dropUse d =>
    simp only [EditSpec.step, EditSpec.stepOk, Bool.not_true, Bool.false_eq_true, if_false]
    exact { h with use := h.use.dropAll _ }
  | setUse want =>
    simp only [EditSpec.step, EditSpec.stepOk, Bool.not_true, Bool.false_eq_true, if_false]
    exact Rel.removeDups { h with use := KeyEq.setExact id _ _ _ hv }

theorem Rel.run {f g : AbsFile} (h : Rel f g) (V : Validity) (ops : List Op) (hv : ∀ op ∈ ops, ValidOp op) :
    Rel (EditSpec.run V f ops) (EditSpec.run V g ops) := by
  induction ops generalizing f g with
  | nil => exact h
  | cons op ops ih =>
    exact ih (h.step V op (hv op List.mem_cons_self)) (fun o ho => hv o (List.mem_cons_of_mem _ ho))

theorem Rel.runOk {f g : AbsFile} (h : Rel f g) (V : Validity) (ops : List Op) (hv : ∀ op ∈ ops, ValidOp op) :
    EditSpec.runOk V f ops = EditSpec.runOk V g ops := by
  induction ops generalizing f g with
  | nil => rfl
  | cons op ops ih =>
    simp only [EditSpec.runOk, h.stepOk V op]
    rw [ih (h.step V op (hv op List.mem_cons_self)) (fun o ho => hv o (List.mem_cons_of_mem _ ho))]

end ModVerif.EditSpec
