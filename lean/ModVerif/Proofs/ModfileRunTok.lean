/-
  The lexer states the parser sees (`G`: what `readToken` guarantees of the pending token and of the line so far) and the
  protocol between them: after a token of a line no whole-line comment is pending (`Mid`), after an end of line no
  end-of-line comment is (`Top`).

  The runs of the parser with every `lex` call classified accordingly: `TokCall` (the pending token is `TokOK`, the next
  state is `Mid`) or `EolCall` (the next state is `Top`).  The protocol is walked once (`PFile.classify`); the tree-shape
  theorems are rule inductions over the classified runs (`parseFile_runC`).

  What `readToken` emits is classified in Proofs/ModfileFmt{Lex,Line,Class}.lean, hence the import: in this file `LexOK`,
  `TokOK`, `Inv`, `Used`, `AtEOL` are the notions of those files (`ModfileFmtTok.TokOK k t`: `t` can be the text of a line
  token of kind `k`; `ModfileFmtClass.Inv i`: the invariant of the line scanned so far), not `ModfilePos.TokOK` / `ModfilePos.Inv`
  (byte offsets).  `G`, `Top`, `Mid`, `EolKind` and their lemmas are in namespace `ModfileFmtEmits`, the classified runs in
  `ModfileRun`.
-/
import ModVerif.Proofs.ModfileRun
import ModVerif.Proofs.ModfileFmtClass
namespace ModVerif.Proofs.ModfileFmtEmits
open ModVerif ModVerif.Modfile ModVerif.Proofs.ModfileLex
open ModVerif.Proofs.ModfileFmtLex ModVerif.Proofs.ModfileFmtLine ModVerif.Proofs.ModfileFmtClass

def EolKind (k : TokKind) : Prop := k = .punct 10 ∨ k = .eolComment ∨ k = .comment ∨ k = .eof

/-- what holds of every lexer state the parser sees (`reach_G`): `readToken` establishes it from the start state (`G.init`)
    and keeps it (`G.step`), and the parser's bump of `nextId` does not touch it (`G.setId`) -/
structure G (i : Input) : Prop where
  /-- the pending token is one `readToken` can deliver: kind and text fit together -/
  lok : LexOK i.token.kind i.token.text
  /-- the invariant of the line scanned so far (what has been consumed of the current line) -/
  inv : Inv i
  /-- a pending line token means the current line has content: the next comment is an end-of-line comment -/
  used : ∀ t, TokOK i.token.kind t → Used i
  /-- a pending end of line (or whole-line comment, or EOF) means the scan stands at the beginning of a line -/
  eol : EolKind i.token.kind → AtEOL i
  /-- only end-of-line comments are recorded in the state; whole-line comments are delivered as tokens -/
  sfx : ∀ c ∈ i.commentsRev, c.suffix = true

theorem G.setId {i : Input} (h : G i) (n : Nat) : G { i with nextId := n } :=
  ⟨h.lok, h.inv.setId n, fun t ht => (h.used t ht).setId n, fun hk => (h.eol hk).setId n, h.sfx⟩

theorem G.step {j i : Input} (hj : G j) (h : readToken j = .ok i) :
    G i ∧ ((∃ t, TokOK j.token.kind t) → i.token.kind ≠ .comment) ∧ (EolKind j.token.kind → i.token.kind ≠ .eolComment) := by
  obtain ⟨h1, h2, h3⟩ := readToken_class j i h hj.inv
  obtain ⟨h4, h5⟩ := readToken_eol j i h
  exact ⟨⟨lex_emits_LexOK j i h, h1, h3, h4, readToken_comments j i h hj.sfx⟩, fun ⟨t, ht⟩ => h2 (hj.used t ht),
    fun hk => h5 (hj.eol hk)⟩

theorem G.init {data : Bytes} {i : Input} (h : readToken (newInput data) = .ok i) : G i ∧ i.token.kind ≠ .eolComment := by
  obtain ⟨h1, h2, h3⟩ := readToken_class _ i h (inv_newInput data)
  obtain ⟨h4, h5⟩ := readToken_eol _ i h
  refine ⟨⟨lex_emits_LexOK _ i h, h1, h3, h4, readToken_comments _ i h (by intro c hc; simp [newInput] at hc)⟩,
    h5 (Or.inl ?_)⟩
  exact ⟨[], ⟨rfl, by simp, fun h => absurd rfl h⟩⟩

theorem lexOK_tok {k : TokKind} {t : Bytes} (h : LexOK k t) (he : k.isEOL = false) (hc : k ≠ .comment) : TokOK k t := by
  cases h with
  | eof => cases he
  | newline => cases he
  | comment t h => exact absurd rfl hc
  | eolComment t h => cases he
  | tok k t h => exact h

theorem isEOL_eolKind {k : TokKind} (h : k.isEOL = true) : EolKind k := by
  cases k with
  | eof => exact Or.inr (Or.inr (Or.inr rfl))
  | eolComment => exact Or.inr (Or.inl rfl)
  | punct c =>
    simp only [TokKind.isEOL, beq_iff_eq] at h
    subst h
    exact Or.inl rfl
  | _ => cases h

/-- the state at the beginning of a statement or block item -/
def Top (i : Input) : Prop := G i ∧ i.token.kind ≠ .eolComment

/-- the state in the middle of a line -/
def Mid (i : Input) : Prop := G i ∧ i.token.kind ≠ .comment

theorem Top.setId {i : Input} (h : Top i) (n : Nat) : Top { i with nextId := n } := ⟨h.1.setId n, h.2⟩

theorem reach_G {data : Bytes} {i : Input} (h : ModfilePos.Reach data i) : G i := by
  induction h with
  | start h => exact (G.init h).1
  | lex _ h ih => exact (ih.step h).1
  | setId n _ ih => exact ih.setId n

/-- the default branch of the block loop (and of the file loop, where no end-of-line comment is pending) is taken at a line token -/
theorem blk_default_tok {i : Input} (hg : G i) (h1 : i.token.kind ≠ .eolComment) (h2 : i.token.kind ≠ .punct 10)
    (h3 : i.token.kind ≠ .comment) (h4 : i.token.kind ≠ .eof) : TokOK i.token.kind i.token.text := by
  have := hg.lok
  generalize i.token.kind = k at this h1 h2 h3 h4
  generalize i.token.text = t at this
  cases this with
  | eof => exact absurd rfl h4
  | newline => exact absurd rfl h2
  | comment t h => exact absurd rfl h3
  | eolComment t h => exact absurd rfl h1
  | tok k t h => exact h

end ModVerif.Proofs.ModfileFmtEmits

namespace ModVerif.Proofs.ModfileRun
open ModVerif ModVerif.Modfile ModVerif.Proofs.ModfileLex
open ModVerif.Proofs.ModfileFmtLex ModVerif.Proofs.ModfileFmtLine ModVerif.Proofs.ModfileFmtClass
open ModVerif.Proofs.ModfilePos ModVerif.Proofs.ModfileFmtEmits

variable {data : Bytes}

structure TokCall (data : Bytes) (i i1 : Input) : Prop where
  lx : Lx data i i1
  ok : TokOK i.token.kind i.token.text
  mid : Mid i1

structure EolCall (data : Bytes) (i i1 : Input) : Prop where
  lx : Lx data i i1
  eol : EolKind i.token.kind
  top : Top i1

theorem Lx.g {i i1 : Input} (hx : Lx data i i1) : G i := reach_G hx.inv

theorem Lx.tok {i i1 : Input} (hx : Lx data i i1) (hk : TokOK i.token.kind i.token.text) : TokCall data i i1 :=
  ⟨hx, hk, (hx.g.step hx.step).1, (hx.g.step hx.step).2.1 ⟨_, hk⟩⟩

theorem Lx.eol {i i1 : Input} (hx : Lx data i i1) (hk : EolKind i.token.kind) : EolCall data i i1 :=
  ⟨hx, hk, (hx.g.step hx.step).1, (hx.g.step hx.step).2.2 hk⟩

theorem Lx.mid {i i1 : Input} (hx : Lx data i i1) (hc : i.token.kind ≠ .comment) (he : i.token.kind.isEOL = false) :
    TokCall data i i1 :=
  hx.tok (lexOK_tok hx.g.lok he hc)

theorem Lx.punct {i i1 : Input} {c : UInt8} (hx : Lx data i i1) (hk : i.token.kind = .punct c) (hc : c ≠ 10) :
    TokCall data i i1 := by
  refine hx.tok ?_
  have := hx.g.lok
  rw [hk] at this ⊢
  generalize i.token.text = t at this ⊢
  cases this with
  | newline => exact absurd rfl hc
  | tok k t h => exact h

abbrev PLineC (data : Bytes) := PLine (TokCall data) (EolCall data)
abbrev PBlockC (data : Bytes) := PBlock (TokCall data) (EolCall data)
abbrev PStmtC (data : Bytes) := PStmt (TokCall data) (EolCall data)
abbrev PFileC (data : Bytes) := PFile (TokCall data) (EolCall data)

theorem EolCall.reach {i i1 : Input} (h : EolCall data i i1) : Reach data i1 := Reach.lex h.lx.inv h.lx.step

theorem PLine.top {i : Input} {s e : Position} {acc : List Bytes} {l : Line} {i' : Input}
    (h : PLineC data i s e acc l i') : Top i' ∧ Reach data i' := by
  induction h with
  | eol hc _ => exact ⟨hc.top.setId _, Reach.setId _ hc.reach⟩
  | tok _ _ _ ih => exact ih

theorem PBlock.top {i : Input} {x : LineBlock} {ls : List Line} {cs : List Comment} {b : LineBlock} {i' : Input}
    (h : PBlockC data i x ls cs b i') : Top i' ∧ Reach data i' := by
  induction h with
  | close _ _ _ hc2 => exact ⟨hc2.top, hc2.reach⟩
  | eolComment _ _ _ ih | blank _ _ _ ih | comment _ _ _ ih => exact ih
  | line _ _ _ _ _ _ _ _ _ ih => exact ih

theorem PStmt.top {i : Input} {s e : Position} {acc : List Bytes} {x : Expr} {i' : Input}
    (h : PStmtC data i s e acc x i') : Top i' ∧ Reach data i' := by
  induction h with
  | eol hc _ => exact ⟨hc.top.setId _, Reach.setId _ hc.reach⟩
  | block _ _ _ hb => exact hb.top
  | empty _ _ _ _ _ hc3 => exact ⟨hc3.top, hc3.reach⟩
  | parens _ _ _ _ _ _ ih | lparen _ _ _ _ _ ih | tok _ _ _ _ ih => exact ih

theorem PLine.classify {i : Input} {s e : Position} {acc : List Bytes} {l : Line} {i' : Input}
    (h : PLine (Lx data) (Lx data) i s e acc l i') (hm : i.token.kind ≠ .comment) : PLineC data i s e acc l i' := by
  induction h with
  | eol hx he => exact .eol (hx.eol (isEOL_eolKind he)) he
  | tok hx he _ ih => exact .tok (hx.mid hm he) he (ih (hx.mid hm he).mid.2)

theorem PBlock.classify {i : Input} {x : LineBlock} {ls : List Line} {cs : List Comment} {b : LineBlock} {i' : Input}
    (h : PBlock (Lx data) (Lx data) i x ls cs b i') : PBlockC data i x ls cs b i' := by
  induction h with
  | eolComment hk hx _ ih => exact .eolComment hk (hx.eol (Or.inr (Or.inl hk))) ih
  | blank hk hx _ ih => exact .blank hk (hx.eol (Or.inl hk)) ih
  | comment hk hx _ ih => exact .comment hk (hx.eol (Or.inr (Or.inr (Or.inl hk)))) ih
  | close hk hx he hx2 => exact .close hk (hx.punct hk (by decide)) he (hx2.eol (isEOL_eolKind he))
  | line h1 h2 h3 h4 h5 hx he hl _ ih =>
    have hc := hx.tok (blk_default_tok hx.g h1 h2 h3 h4)
    exact .line h1 h2 h3 h4 h5 hc he (hl.classify hc.mid.2) ih

theorem PStmt.classify {i : Input} {s e : Position} {acc : List Bytes} {x : Expr} {i' : Input}
    (h : PStmt (Lx data) (Lx data) i s e acc x i') (hm : i.token.kind ≠ .comment) : PStmtC data i s e acc x i' := by
  induction h with
  | eol hx he => exact .eol (hx.eol (isEOL_eolKind he)) he
  | block hx hk he hb => exact .block (hx.punct hk (by decide)) hk he hb.classify
  | empty hx hk hk1 hx2 he2 hx3 =>
    exact .empty (hx.punct hk (by decide)) hk hk1 (hx2.punct hk1 (by decide)) he2 (hx3.eol (isEOL_eolKind he2))
  | parens hx hk hk1 hx2 he2 _ ih =>
    have hc2 := hx2.punct hk1 (by decide)
    exact .parens (hx.punct hk (by decide)) hk hk1 hc2 he2 (ih hc2.mid.2)
  | lparen hx hk he1 hk1 _ ih =>
    have hc := hx.punct hk (by decide)
    exact .lparen hc hk he1 hk1 (ih hc.mid.2)
  | tok hx he hk _ ih => exact .tok (hx.mid hm he) he hk (ih (hx.mid hm he).mid.2)

theorem PFile.classify {i : Input} {sr : List Expr} {cb : Option CommentBlock} {out : List Expr} {i' : Input}
    (h : PFile (Lx data) (Lx data) i sr cb out i') (ht : i.token.kind ≠ .eolComment) : PFileC data i sr cb out i' := by
  induction h with
  | blank hk hx _ ih =>
    have hc := hx.eol (Or.inl hk)
    exact .blank hk hc (ih hc.top.2)
  | comment hk hx _ ih =>
    have hc := hx.eol (Or.inr (Or.inr (Or.inl hk)))
    exact .comment hk hc (ih hc.top.2)
  | eof hk => exact .eof hk
  | stmt h1 h2 h3 hx hs _ ih =>
    have hc := hx.tok (blk_default_tok hx.g ht h1 h2 h3)
    have hs' := hs.classify hc.mid.2
    exact .stmt h1 h2 h3 hc hs' (ih (PStmt.top hs').1.2)

theorem parseFile_runC {stmts : List Expr} {i' : Input} (h : parseFile data = .ok (stmts, i')) :
    ∃ i0, readToken (newInput data) = .ok i0 ∧ PFileC data i0 [] none stmts i' ∧ Reach data i' := by
  obtain ⟨i0, h0, hrun, hr⟩ := parseFile_reach h
  exact ⟨i0, h0, hrun.classify (G.init h0).2, hr⟩

end ModVerif.Proofs.ModfileRun
