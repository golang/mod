/-
  Helper definitions and lemmas for the second half of Tie/FnModfileCmp.lean: the regenerated comparators as Boolean
  comparators on token lists (`genLess`), equal to the hand model's and hence to the specification's (EditSpec) — the
  bridge that carries the C16 order theorems over to the regenerated code.
-/
import ModVerif.Proofs.TieFnModfileCmp
import ModVerif.Proofs.EditRefineSorted
namespace ModVerif.TieFnModfileCmp
open ModVerif ModVerif.GoRt ModVerif.Modfile

/-- the line the driver (Drv/CmpOps.lean) builds from a token list -/
def mkLine (t : List Bytes) : Generated.Modfile.Line := { (default : Generated.Modfile.Line) with Token := t }

@[simp] theorem mkLine_Token (t : List Bytes) : (mkLine t).Token = t := rfl

/-- a fuel sufficient for all three comparators: loop iterations of `lineLess` + the two `semver.Compare` scans -/
def cmpFuel (a b : List Bytes) : Nat := min a.length b.length + 1 + 2 * tokBytes (a ++ b)

/-- The Boolean comparator on token lists computed by a regenerated comparator `f`, run with fuel `fuelOf a b`
    (an error — panic or fuel exhaustion — would count as `false`; the tie theorems show there is none). -/
def genLess (fuelOf : List Bytes → List Bytes → Nat)
    (f : Nat → Generated.Modfile.Line → Generated.Modfile.Line → M Bool) (a b : List Bytes) : Bool :=
  match f (fuelOf a b) (mkLine a) (mkLine b) with
  | .ok v => v
  | .error _ => false

theorem cmpFuel_lineLess (a b : List Bytes) : min a.length b.length + 1 ≤ cmpFuel a b := by
  unfold cmpFuel; omega

theorem cmpFuel_getD (a b : List Bytes) (k : Nat) :
    2 * max (a.getD k []).length (b.getD k []).length ≤ cmpFuel a b := by
  have h1 := getD_length_le_tokBytes a k
  have h2 := getD_length_le_tokBytes b k
  unfold cmpFuel; rw [tokBytes_append]; omega

theorem cmpFuel_interval (a b : List Bytes) :
    2 * max (Edit.retractInterval a).low.length (Edit.retractInterval b).low.length ≤ cmpFuel a b ∧
    2 * max (Edit.retractInterval a).high.length (Edit.retractInterval b).high.length ≤ cmpFuel a b := by
  have h1 := retractInterval_le_tokBytes a
  have h2 := retractInterval_le_tokBytes b
  unfold cmpFuel; rw [tokBytes_append]; omega

theorem genLess_lineLess (fuelOf : List Bytes → List Bytes → Nat) (hfu : ∀ a b, cmpFuel a b ≤ fuelOf a b) :
    genLess fuelOf Generated.Modfile.lineLess = EditSpec.lineLess := by
  funext a b
  unfold genLess
  rw [lineLess_ok _ _ _ (by simpa using Nat.le_trans (cmpFuel_lineLess a b) (hfu a b))]
  exact Edit.lineLess_eq_spec a b

theorem genLess_lineExcludeLess (fuelOf : List Bytes → List Bytes → Nat) (hfu : ∀ a b, cmpFuel a b ≤ fuelOf a b) :
    genLess fuelOf Generated.Modfile.lineExcludeLess = EditSpec.lineExcludeLess := by
  funext a b
  unfold genLess
  rw [lineExcludeLess_ok _ _ _ (by simpa using Nat.le_trans (cmpFuel_lineLess a b) (hfu a b))
    (by simpa using Nat.le_trans (cmpFuel_getD a b 1) (hfu a b))]
  exact Edit.lineExcludeLess_model_eq_spec a b

theorem genLess_lineRetractLess (fuelOf : List Bytes → List Bytes → Nat) (hfu : ∀ a b, cmpFuel a b ≤ fuelOf a b) :
    genLess fuelOf Generated.Modfile.lineRetractLess = EditSpec.lineRetractLess := by
  funext a b
  unfold genLess
  rw [lineRetractLess_ok _ _ _ (by simpa using Nat.le_trans (cmpFuel_interval a b).1 (hfu a b))
    (by simpa using Nat.le_trans (cmpFuel_interval a b).2 (hfu a b))]
  exact Edit.lineRetractLess_eq_spec a b

end ModVerif.TieFnModfileCmp
