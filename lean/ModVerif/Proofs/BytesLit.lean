/-
  Byte-string literals for kernel evaluation.  `B "…"` is `String.toUTF8 … |>.toList`; `ByteArray.toList` recurses on
  `size - i` (well-founded) and indexes a list-backed array, so the kernel spends time quadratic in the length on it
  (seconds for a 300-byte go.mod).  `B_ofList` is the character-wise form, which the kernel evaluates in linear time;
  the unifier reads a literal `"abc"` as `String.ofList ['a', 'b', 'c']`, so the lemma applies to literals.
  A kernel evaluation over a named text `def exFile : Bytes := B "…"` starts with `rw [B_lit exFile]`, one over literals
  written in the goal is `decide_bytes`.
-/
import ModVerif.Basic.Bytes
namespace ModVerif

theorem byteArray_toList_loop (bs : ByteArray) (i : Nat) (r : List UInt8) :
    ByteArray.toList.loop bs i r = r.reverse ++ bs.data.toList.drop i := by
  fun_induction ByteArray.toList.loop bs i r with
  | case1 i r h ih =>
    have hi : i < bs.data.toList.length := h
    have hg : bs.get! i = bs.data.toList[i] := getElem!_pos bs.data i h
    rw [ih, List.drop_eq_getElem_cons hi, hg]
    simp
  | case2 i r h =>
    have hi : bs.data.toList.length ≤ i := Nat.le_of_not_lt h
    simp [List.drop_eq_nil_of_le hi]

theorem byteArray_toList (bs : ByteArray) : bs.toList = bs.data.toList := by
  simp [ByteArray.toList, byteArray_toList_loop]

theorem B_ofList (cs : List Char) : B (String.ofList cs) = cs.flatMap String.utf8EncodeChar := by
  simp [B, Bytes.ofString, byteArray_toList, List.utf8Encode]

theorem B_append (s t : String) : B (s ++ t) = B s ++ B t := by
  simp [B, Bytes.ofString, byteArray_toList]

/-- The character-wise form of a text that unfolds to a literal.  One equation from the text itself to the fast form: when
    a rewrite leaves `B "…"` and `B (String.ofList _)` to be compared under `+` or `≤`, the kernel normalises both sides as
    numbers and evaluates the slow form after all. -/
theorem B_lit (b : Bytes) {cs : List Char} (h : b = B (String.ofList cs) := by rfl) :
    b = cs.flatMap String.utf8EncodeChar := h.trans (B_ofList cs)

/-- Kernel evaluation of a goal over byte-string literals, each put into its character-wise form first.  The rewriting is
    done under `conv`, whose congruence proof keeps every `B "…"` of the goal as it is written; `rw [B_ofList]` on the whole goal
    would leave the goal and its rewritten form to be compared by the kernel, which evaluates them where they stand under
    a `match`, `+` or `≤`. -/
macro "decide_bytes" : tactic =>
  `(tactic| ((conv in (occs := *) B _ => all_goals rw [B_ofList]); decide +kernel))

end ModVerif
