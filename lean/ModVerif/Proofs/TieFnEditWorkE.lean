/-
  `WorkFile_SetUse` — loop 1 (the map `need`, an association list in insertion order = the model's `useNeedMap`), loop 2
  (= `setUseLoop`), loop 3 (`AddNewUse` for the entries still needed, in insertion order: the model's `perm` is the
  identity), then `WorkFile_SortBlocks` (a hypothesis of `WorkFile_SetUse_sim`).  Also: the fuel measure `nodeCount` grows
  by at most 2 under the model's `addLine`.
-/
import ModVerif.Proofs.TieFnEditWorkC
namespace ModVerif.Tie.FnEditWorkE
open ModVerif ModVerif.GoRt ModVerif.Generated.Edit ModVerif.Tie.FnEditRep ModVerif.Tie.FnEditTreeA ModVerif.Tie.FnEditLoop
  ModVerif.Tie.FnEditWorkA
open ModVerif.Tie.FnEditWorkC
open ModVerif.TieFnEditAddLine (nodeCount)
open ModVerif.Modfile.Edit (EWork EditErr markRemoved deref clearedUse treeIds mkLine setUseLoop)

/-! ### the fuel measure `nodeCount` grows by at most 2 under the model's `addLine` -/

theorem nodeCount_append : ∀ (a b : List Modfile.Expr), nodeCount (a ++ b) = nodeCount a + nodeCount b
  | [], b => by simp [nodeCount]
  | s :: a, b => by
    have ih := nodeCount_append a b
    cases s <;> simp only [List.cons_append, nodeCount, ih] <;> omega

theorem addLine_nodeCount (fs : Modfile.FileSyntax) (hint : Option Nat) (tokens : List Bytes) (new : Nat) :
    nodeCount (Modfile.Edit.addLine fs hint tokens new).stmts ≤ nodeCount fs.stmts + 2 := by
  rcases Modfile.Edit.addLine_grown fs hint tokens new with h | ⟨pre, x, post, g, hs, hg, h⟩
  · rw [h, nodeCount_append]; simp only [nodeCount]; omega
  · have hx : nodeCount g ≤ nodeCount [x] + 2 := by
      cases hg with
      | after x => rw [show [x, Modfile.Expr.line (mkLine new tokens false)] = [x] ++ [.line (mkLine new tokens false)] from rfl,
          nodeCount_append]; simp only [nodeCount]; omega
      | conv l hl hv => simp only [nodeCount, Modfile.Edit.convBlock, List.length_cons, List.length_nil]; omega
      | block b l1 l2 hb hv => simp only [nodeCount, hb, List.length_append, List.length_cons]; omega
    rw [h, hs, nodeCount_append, nodeCount_append, nodeCount_append, show x :: post = [x] ++ post from rfl, nodeCount_append]
    omega
/-! ### SetUse, loop 1: the map `need` in insertion order is the model's `useNeedMap` -/

theorem mapSet_eq (acc : List (Bytes × Bytes)) (w : Bytes × Bytes) :
    mapSet acc w.1 w.2 = (if acc.any (·.1 == w.1) then acc.map (fun a => if a.1 == w.1 then w else a) else acc ++ [w]) := by
  unfold mapSet
  have h1 : (acc.find? (fun p => decide (p.1 = w.1))).isSome = acc.any (·.1 == w.1) := by
    induction acc with
    | nil => rfl
    | cons a t ih =>
      simp only [List.find?_cons, List.any_cons]
      by_cases ha : a.1 = w.1 <;> simp [ha, ih]
  rw [h1]
  cases acc.any (·.1 == w.1) with
  | false => rfl
  | true =>
    simp only [if_true]
    apply List.map_congr_left
    intro a _
    by_cases ha : a.1 = w.1 <;> simp [ha]

/-- the `dirs` argument of SetUse: pointers to `Use` objects carrying the wanted (path, module path) pairs -/
def DirsOK (h : Heap) : List Int → List (Bytes × Bytes) → Prop
  | [], [] => True
  | d :: ds, w :: ws => (∃ u, heapGet h.uses d = .ok u ∧ u.Path = w.1 ∧ u.ModulePath = w.2) ∧ DirsOK h ds ws
  | _, _ => False

theorem DirsOK_length {h : Heap} : ∀ {ds : List Int} {ws : List (Bytes × Bytes)}, DirsOK h ds ws → ds.length = ws.length
  | [], [], _ => rfl
  | _ :: _, _ :: _, r => by simp [DirsOK_length r.2]
  | [], _ :: _, r => r.elim
  | _ :: _, [], r => r.elim

theorem SetUse_loop1_eq (isPrint : Int → Bool) (quote : Bytes → Bytes) (dirs : List Int) (h : Heap) :
    ∀ (suf : List Int) (ws : List (Bytes × Bytes)) (pre : List Int) (acc : List (Bytes × Bytes)) (fuel : Nat),
      dirs = pre ++ suf → DirsOK h suf ws → suf.length + 1 ≤ fuel →
      WorkFile_SetUse_loop1 isPrint quote dirs h fuel (pre.length : Int) acc = .ok (len dirs, Modfile.Edit.useNeedMap ws acc)
  | [], [], pre, acc, fuel, hs, _, hf => by
    obtain ⟨f, rfl⟩ : ∃ f, fuel = f + 1 := ⟨fuel - 1, by omega⟩
    simp only [List.append_nil] at hs
    unfold WorkFile_SetUse_loop1
    simp only [hs, len_eq, Int.lt_irrefl, decide_false, Bool.false_eq_true, if_false, pure, Except.pure, Modfile.Edit.useNeedMap]
  | [], _ :: _, _, _, _, _, r, _ => r.elim
  | _ :: _, [], _, _, _, _, r, _ => r.elim
  | d :: ds, w :: ws, pre, acc, fuel, hs, r, hf => by
    obtain ⟨f, rfl⟩ : ∃ f, fuel = f + 1 := ⟨fuel - 1, by omega⟩
    obtain ⟨⟨u, hu, hu1, hu2⟩, r2⟩ := r
    have hlt : ((pre.length : Nat) : Int) < len dirs := by rw [hs]; exact lt_len_mid _ _ _
    have hidx : idxL dirs (pre.length : Int) = .ok d := by rw [hs]; exact idxL_mid _ _ _
    have hcast : ((pre.length : Nat) : Int) + 1 = (((pre ++ [d]).length : Nat) : Int) := by simp
    have ih := SetUse_loop1_eq isPrint quote dirs h ds ws (pre ++ [d]) (mapSet acc w.1 w.2) f (by simp [hs]) r2
      (by simp at hf; omega)
    unfold WorkFile_SetUse_loop1
    simp only [hlt, decide_true, if_true, hidx, hu, bind, Except.bind, hu1, hu2, hcast, ih]
    rw [mapSet_eq]
    simp only [Modfile.Edit.useNeedMap]
    cases acc.any (·.1 == w.1) <;> simp

/-! ### SetUse, loop 2 against `setUseLoop` -/

theorem mapGet_eq (need : List (Bytes × Bytes)) (k : Bytes) :
    mapGet need k ([] : Bytes) = (match need.find? (·.1 == k) with
      | some w => (w.2, true)
      | none => ([], false)) := by
  unfold mapGet
  have : (fun p : Bytes × Bytes => decide (p.1 = k)) = (·.1 == k) := by
    funext a; exact (bytes_beq_eq_decide a.1 k).symm
  rw [this]
  cases need.find? (·.1 == k) <;> rfl

theorem mapDelete_eq (need : List (Bytes × Bytes)) (k : Bytes) : mapDelete need k = need.filter (·.1 != k) := by
  unfold mapDelete
  apply List.filter_congr
  intro a _
  by_cases ha : a.1 = k <;> simp [ha]

theorem nodeCount_mapLines (g : Modfile.Line → Modfile.Line) : ∀ (ss : List Modfile.Expr),
    nodeCount (ss.map (Modfile.Edit.mapLinesStmt g)) = nodeCount ss
  | [] => rfl
  | s :: ss => by
    have ih := nodeCount_mapLines g ss
    cases s <;> simp only [List.map_cons, Modfile.Edit.mapLinesStmt, nodeCount, List.length_map, ih]

theorem nodeCount_updateLine (fs : Modfile.FileSyntax) (id : Nat) (g : Modfile.Line → Modfile.Line)
    (hnd : (treeIds fs.stmts).Nodup) : nodeCount (fs.updateLine id g).stmts = nodeCount fs.stmts := by
  rw [Modfile.Edit.updateLine_stmts fs id g hnd, nodeCount_mapLines]

/-- one iteration of `setUseLoop` -/
def useStep (d : Modfile.Use) (t : List (Bytes × Bytes) × Modfile.FileSyntax) :
    Except EditErr (Modfile.Use × List (Bytes × Bytes) × Modfile.FileSyntax) :=
  match t.1.find? (·.1 == d.path) with
  | some w => .ok ({ d with modulePath := w.2 }, t.1.filter (·.1 != d.path), t.2)
  | none => (deref d.lineId).map fun i => (clearedUse, t.1, markRemoved t.2 i)

theorem setUseLoop_stepLoop : ∀ (ds : List Modfile.Use) (need : List (Bytes × Bytes)) (syn : Modfile.FileSyntax),
    setUseLoop ds need syn = stepLoop useStep ds (need, syn)
  | [], need, syn => rfl
  | d :: ds, need, syn => by
    rw [stepLoop, setUseLoop, useStep]
    cases need.find? (·.1 == d.path) with
    | some w =>
      simp only [bind, Except.bind, setUseLoop_stepLoop ds]
    | none =>
      simp only [bind, Except.bind]
      cases deref d.lineId with
      | error e => rfl
      | ok i =>
        simp only [Except.map, setUseLoop_stepLoop ds]

theorem SetUse_loop2 (isPrint : Int → Bool) (quote : Bytes → Bytes) {h : Heap} {fp : Int} {o : WorkFile} {e : EWork}
    (R : RepWAt h o e) (need : List (Bytes × Bytes)) {fuel : Nat} (hf : e.f.use.length < fuel) :
    Sim (fun r b => b.1 = len o.Use ∧ b.2.2 = r.2.1 ∧ b.2.1.works = h.works ∧
        RepWAt b.2.1 o { e with f := { e.f with use := r.1, syn := r.2.2 } } ∧
        nodeCount r.2.2.stmts = nodeCount e.f.syn.stmts)
      (setUseLoop e.f.use need e.f.syn) (WorkFile_SetUse_loop2 isPrint quote o.Use fp fuel 0 h need) := by
  rw [setUseLoop_stepLoop]
  refine (range_sim (fun fuel i (s : Heap × List (Bytes × Bytes)) => WorkFile_SetUse_loop2 isPrint quote o.Use fp fuel i s.1 s.2)
    o.Use useStep
    (fun done todo s t => s.2 = t.1 ∧ s.1.works = h.works ∧
      RepWAt s.1 o { e with f := { e.f with use := done ++ todo, syn := t.2 } } ∧
      nodeCount t.2.stmts = nodeCount e.f.syn.stmts) 0
    (fun fuel s => by unfold WorkFile_SetUse_loop2; simp [len_eq]) ?_
    (xs := e.f.use) (s := (h, need)) (t := (need, e.f.syn)) (fuel := fuel) ⟨rfl, rfl, R, rfl⟩ R.use.length (by omega)).imp
    (fun r b _ q => ⟨q.1, q.2.1, q.2.2.1, by simpa using q.2.2.2.1, q.2.2.2.2⟩)
  intro fuel done x todo ⟨h', nd⟩ ⟨need, syn⟩ p ⟨hn, hw', R', hnc⟩ hp _
  dsimp only at hn hw' R' hnc
  obtain ⟨hget, hidle⟩ := R'.use.get hp (getElem?_cursor _ _ _)
  have hlt := lt_len_of_get hp
  have hidx := idxL_of_get hp
  cases hn
  unfold useStep
  cases hfind : nd.find? (·.1 == x.path) with
  | some w =>
    refine ⟨({ h' with uses := h'.uses.set (p.toNat - 1) (useG { x with modulePath := w.2 }) }, _), ?_, rfl, hw',
      by simpa [set_cursor] using R'.withUse (R'.use.set hp { x with modulePath := w.2 } hidle), hnc⟩
    · conv => lhs; unfold WorkFile_SetUse_loop2
      simp only [hlt, decide_true, if_true, hidx, hget, bind, Except.bind, useG_Path, mapGet_eq, hfind,
        heapSet_of_get _ hget, heapGet_listSet_same _ hget, mapDelete_eq]
      rfl
  | none =>
    by_cases h0 : x.lineId = 0
    · simp only [h0, deref_zero, Except.map]
      unfold WorkFile_SetUse_loop2
      simp only [hlt, decide_true, if_true, hidx, hget, bind, Except.bind, useG_Path, mapGet_eq, hfind, Bool.false_eq_true,
        if_false, useG_Syntax, h0]
      rw [Line_markRemoved_nil (by simp)]
    · obtain ⟨l, hgl, _⟩ := R'.linesG.ofId h0 hidle
      obtain ⟨es, rs⟩ := R'.syn
      simp only [deref_pos h0, Except.map]
      refine ⟨({ setLineH h' (x.lineId : Int) (markRemovedLine l) with uses := h'.uses.set (p.toNat - 1) (useG clearedUse) }, nd),
        ?_, rfl, hw', ?_, ?_⟩
      · conv => lhs; unfold WorkFile_SetUse_loop2
        simp only [hlt, decide_true, if_true, hidx, hget, bind, Except.bind, useG_Path, mapGet_eq, hfind, Bool.false_eq_true,
          if_false, useG_Syntax, Line_markRemoved_eq hgl, setLineH_uses, heapSet_of_get _ hget]
        rfl
      · have R1 := R'.setLine (g := markRemovedLine) IdEquiv_markRemoved hgl
        simpa [set_cursor, markRemoved_eq] using R1.withUse (R1.use.set hp clearedUse (Nat.zero_le _))
      · rw [← hnc]; exact nodeCount_updateLine _ _ _ rs.nodupL

/-! ### SetUse, loop 3: the entries still needed are added in the (insertion) order of the map -/

theorem addNewUse_nodeCount (e : EWork) (d m : Bytes) :
    nodeCount (Modfile.Edit.addNewUse e d m).f.syn.stmts ≤ nodeCount e.f.syn.stmts + 2 :=
  addLine_nodeCount _ _ _ _

theorem SetUse_loop3 (fp : Int) (need : List (Bytes × Bytes)) (M : Nat) (hM : ∀ w ∈ need, w.1.length ≤ M) :
    ∀ (suf pre : List (Bytes × Bytes)) (h : Heap) (e : EWork) (fuel : Nat), RepW h fp e → need = pre ++ suf →
      nodeCount e.f.syn.stmts + 3 * suf.length + 3 ≤ fuel → M + suf.length + 1 ≤ fuel →
      ∃ h', WorkFile_SetUse_loop3 Drv.GenEdit.isPrintI Drv.GenEdit.quoteI fp need fuel (pre.length : Int) h = .ok (len need, h') ∧
        RepW h' fp (suf.foldl (fun e w => Modfile.Edit.addNewUse e w.1 w.2) e)
  | [], pre, h, e, fuel, R, hn, hf1, hf2 => by
    obtain ⟨f, rfl⟩ : ∃ f, fuel = f + 1 := ⟨fuel - 1, by omega⟩
    simp only [List.append_nil] at hn
    refine ⟨h, ?_, R⟩
    unfold WorkFile_SetUse_loop3
    simp only [hn, len_eq, Int.lt_irrefl, decide_false, Bool.false_eq_true, if_false, pure, Except.pure]
  | w :: ws, pre, h, e, fuel, R, hn, hf1, hf2 => by
    obtain ⟨f, rfl⟩ : ∃ f, fuel = f + 1 := ⟨fuel - 1, by omega⟩
    have hlt : ((pre.length : Nat) : Int) < len need := by rw [hn]; exact lt_len_mid _ _ _
    have hidx : idxL need (pre.length : Int) = .ok w := by rw [hn]; exact idxL_mid _ _ _
    have hcast : ((pre.length : Nat) : Int) + 1 = (((pre ++ [w]).length : Nat) : Int) := by simp
    have hw : w.1.length ≤ M := hM w (by rw [hn]; simp)
    simp only [List.length_cons] at hf1 hf2
    obtain ⟨h1, ha, R1⟩ := WorkFile_AddNewUse_sim R w.1 w.2 f (by omega) (by omega)
    have hnc := addNewUse_nodeCount e w.1 w.2
    obtain ⟨h2, hl, R2⟩ := SetUse_loop3 fp need M hM ws (pre ++ [w]) h1 _ f R1 (by simp [hn]) (by omega) (by omega)
    refine ⟨h2, ?_, R2⟩
    unfold WorkFile_SetUse_loop3
    simp only [hlt, decide_true, if_true, hidx, bind, Except.bind, ha, hcast, hl]

theorem useNeedMap_mem : ∀ (ws acc : List (Bytes × Bytes)) (w : Bytes × Bytes), w ∈ Modfile.Edit.useNeedMap ws acc → w ∈ ws ∨ w ∈ acc
  | [], acc, w, h => Or.inr h
  | v :: ws, acc, w, h => by
    unfold Modfile.Edit.useNeedMap at h
    split at h
    · rcases useNeedMap_mem ws _ w h with h1 | h1
      · exact Or.inl (List.mem_cons_of_mem _ h1)
      · obtain ⟨a, ha, rfl⟩ := List.mem_map.1 h1
        split
        · exact Or.inl List.mem_cons_self
        · exact Or.inr ha
    · rcases useNeedMap_mem ws _ w h with h1 | h1
      · exact Or.inl (List.mem_cons_of_mem _ h1)
      · rcases List.mem_append.1 h1 with h2 | h2
        · exact Or.inr h2
        · simp only [List.mem_singleton] at h2; subst h2; exact Or.inl List.mem_cons_self

theorem useNeedMap_length : ∀ (ws acc : List (Bytes × Bytes)), (Modfile.Edit.useNeedMap ws acc).length ≤ acc.length + ws.length
  | [], acc => by simp [Modfile.Edit.useNeedMap]
  | v :: ws, acc => by
    unfold Modfile.Edit.useNeedMap
    split
    · have := useNeedMap_length ws (acc.map fun a => if a.1 == v.1 then v else a)
      simp only [List.length_map, List.length_cons] at this ⊢; omega
    · have := useNeedMap_length ws (acc ++ [v])
      simp only [List.length_append, List.length_cons, List.length_nil] at this ⊢; omega

theorem setUseLoop_sub : ∀ (ds : List Modfile.Use) (need : List (Bytes × Bytes)) (syn : Modfile.FileSyntax) (r : List Modfile.Use)
    (need' : List (Bytes × Bytes)) (syn' : Modfile.FileSyntax),
    Modfile.Edit.setUseLoop ds need syn = .ok (r, need', syn') → need'.Sublist need
  | [], need, syn, r, need', syn', h => by
    simp only [Modfile.Edit.setUseLoop, Except.ok.injEq, Prod.mk.injEq] at h
    rw [← h.2.1]; exact List.Sublist.refl _
  | d :: ds, need, syn, r, need', syn', h => by
    unfold Modfile.Edit.setUseLoop at h
    split at h
    · simp only [bind, Except.bind] at h
      cases hr : Modfile.Edit.setUseLoop ds (need.filter (·.1 != d.path)) syn with
      | error er => rw [hr] at h; cases h
      | ok t =>
        obtain ⟨a, b, c⟩ := t
        rw [hr] at h
        simp only [pure, Except.pure, Except.ok.injEq, Prod.mk.injEq] at h
        obtain ⟨_, rfl, _⟩ := h
        exact (setUseLoop_sub ds _ syn a b c hr).trans List.filter_sublist
    · simp only [bind, Except.bind] at h
      cases hd : deref d.lineId with
      | error er => rw [hd] at h; cases h
      | ok i =>
        rw [hd] at h
        simp only [] at h
        cases hr : Modfile.Edit.setUseLoop ds need (Modfile.Edit.markRemoved syn i) with
        | error er => rw [hr] at h; cases h
        | ok t =>
          obtain ⟨a, b, c⟩ := t
          rw [hr] at h
          simp only [pure, Except.pure, Except.ok.injEq, Prod.mk.injEq] at h
          obtain ⟨_, rfl, _⟩ := h
          exact setUseLoop_sub ds need _ a b c hr

/-- the model's SetUse before the final SortBlocks, with the map iterated in insertion order -/
def setUsePre (e : EWork) (ws : List (Bytes × Bytes)) : Except Modfile.Edit.EditErr EWork := do
  let (us, need, syn) ← Modfile.Edit.setUseLoop e.f.use (Modfile.Edit.useNeedMap ws []) e.f.syn
  pure (need.foldl (fun e w => Modfile.Edit.addNewUse e w.1 w.2) { e with f := { e.f with use := us, syn := syn } })

theorem setUse_eq (e : EWork) (ws : List (Bytes × Bytes)) :
    Modfile.Edit.setUse e ws (fun l => l) = (setUsePre e ws).map Modfile.Edit.workSortBlocks := by
  unfold Modfile.Edit.setUse setUsePre
  simp only [bind, Except.bind]
  cases Modfile.Edit.setUseLoop e.f.use (Modfile.Edit.useNeedMap ws []) e.f.syn with
  | error er => rfl
  | ok r => obtain ⟨a, b, c⟩ := r; rfl

section
variable (sortFuel : EWork → Nat)
  (hSort : ∀ {h : Heap} {fp : Int} {e : EWork}, RepW h fp e → ∀ fuel : Nat, sortFuel e ≤ fuel →
    ∃ h', WorkFile_SortBlocks fuel fp h = .ok ((), h') ∧ RepW h' fp (Modfile.Edit.workSortBlocks e))
include hSort

/-- `WorkFile.SetUse` simulates the model's `setUse` with the permutation `perm = id` (the regenerated code iterates the
    map `need` in insertion order), given the tie of `WorkFile.SortBlocks` -/
theorem WorkFile_SetUse_sim {h : Heap} {fp : Int} {e : EWork} (R : RepW h fp e) (dirs : List Int) (ws : List (Bytes × Bytes))
    (hd : DirsOK h dirs ws) (M : Nat) (hM : ∀ w ∈ ws, w.1.length ≤ M) (fuel : Nat)
    (hf1 : nodeCount e.f.syn.stmts + 3 * ws.length + 3 ≤ fuel) (hf2 : M + ws.length + 1 ≤ fuel)
    (hf3 : e.f.use.length + 1 ≤ fuel) (hf4 : ∀ e2, setUsePre e ws = .ok e2 → sortFuel e2 ≤ fuel) :
    match Modfile.Edit.setUse e ws (fun l => l) with
    | .ok e' => ∃ h', WorkFile_SetUse Drv.GenEdit.isPrintI Drv.GenEdit.quoteI fuel fp dirs h = .ok ((), h') ∧ RepW h' fp e'
    | .error _ => WorkFile_SetUse Drv.GenEdit.isPrintI Drv.GenEdit.quoteI fuel fp dirs h = .error .panic := by
  obtain ⟨o, hw, R⟩ := R
  have hl1 : WorkFile_SetUse_loop1 Drv.GenEdit.isPrintI Drv.GenEdit.quoteI dirs h fuel 0 [] =
      .ok (len dirs, Modfile.Edit.useNeedMap ws []) :=
    SetUse_loop1_eq Drv.GenEdit.isPrintI Drv.GenEdit.quoteI dirs h dirs ws [] [] fuel rfl hd (by rw [DirsOK_length hd]; omega)
  have L2 := SetUse_loop2 Drv.GenEdit.isPrintI Drv.GenEdit.quoteI (fp := fp) R (Modfile.Edit.useNeedMap ws []) (fuel := fuel)
    (by omega)
  rw [setUse_eq]
  unfold setUsePre at hf4 ⊢
  unfold WorkFile_SetUse
  simp only [hl1, hw, bind, Except.bind] at hf4 ⊢
  cases hc : Modfile.Edit.setUseLoop e.f.use (Modfile.Edit.useNeedMap ws []) e.f.syn with
  | error er =>
    rw [hc] at L2
    have h2 : WorkFile_SetUse_loop2 Drv.GenEdit.isPrintI Drv.GenEdit.quoteI o.Use fp fuel 0 h
        (Modfile.Edit.useNeedMap ws []) = .error .panic := L2
    simp only [h2]
    trivial
  | ok r =>
    obtain ⟨us, nd, syn'⟩ := r
    rw [hc] at L2 hf4
    obtain ⟨⟨n, h2, need'⟩, hl2, hn, hnd, hw2, R2, hnc⟩ := L2
    dsimp only at hn hnd hw2 R2 hnc
    subst hn hnd
    have hsub := setUseLoop_sub _ _ _ _ _ _ hc
    have hlen : need'.length ≤ ws.length := by
      have := hsub.length_le
      have := useNeedMap_length ws []
      simp only [List.length_nil] at this
      omega
    have hM' : ∀ w ∈ need', w.1.length ≤ M := by
      intro w hw'
      rcases useNeedMap_mem ws [] w (hsub.subset hw') with h1 | h1
      · exact hM w h1
      · cases h1
    obtain ⟨h3, hl3, R3⟩ := SetUse_loop3 fp need' M hM' need' [] h2 _ fuel ⟨o, by rw [hw2]; exact hw, R2⟩ rfl
      (by rw [hnc]; omega) (by omega)
    have hl3' : WorkFile_SetUse_loop3 Drv.GenEdit.isPrintI Drv.GenEdit.quoteI fp need' fuel 0 h2 = .ok (len need', h3) := hl3
    obtain ⟨h4, hs, R4⟩ := hSort R3 fuel (hf4 _ rfl)
    have hl2' : WorkFile_SetUse_loop2 Drv.GenEdit.isPrintI Drv.GenEdit.quoteI o.Use fp fuel 0 h
        (Modfile.Edit.useNeedMap ws []) = .ok (len o.Use, h2, need') := hl2
    simp only [hl2', hl3', hs, pure, Except.pure, Except.map]
    exact ⟨h4, rfl, R4⟩

end
end ModVerif.Tie.FnEditWorkE
