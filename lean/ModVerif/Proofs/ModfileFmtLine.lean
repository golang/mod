/-
  A printed token line.  `tokStr`: the bytes `Printer.tokens` writes, as a pure function (`tokens_eq`).  `kindOf`,
  `TokText`: a token text determines its kind.  `tokens_relex`: the printed line, followed by a delimiter, lexes back
  to the same tokens — the separator is empty only next to punctuation, which is why adjacent tokens never fuse.
-/
import ModVerif.Model.Modfile.Print
import ModVerif.Proofs.ModfileParse
import ModVerif.Proofs.ModfileFmtLex
namespace ModVerif.Proofs.ModfileFmtLine
open ModVerif ModVerif.Modfile ModVerif.Proofs.ModfileLex ModVerif.Proofs.ModfileFmtUtf8
open ModVerif.Proofs.ModfileFmtTok ModVerif.Proofs.ModfileFmtLex

/-- the separator the printer puts after `t` (unless the next token suppresses it) -/
def sepAfter (t : Bytes) : Bytes := if Printer.noSepAfter.contains t then [] else [32]

/-- the bytes `Printer.tokensAux` writes -/
def tokStr : List Bytes → Bytes → Bytes
  | [], _ => []
  | t :: rest, sep => (if Printer.noSepBefore.contains t then [] else sep) ++ t ++ tokStr rest (sepAfter t)

theorem write_write (p : Printer) (a b : Bytes) : (p.write a).write b = p.write (a ++ b) := by
  simp [Printer.write]

theorem write_nil (p : Printer) : p.write [] = p := by
  simp [Printer.write]

theorem tokensAux_eq (p : Printer) (ts : List Bytes) (sep : Bytes) :
    p.tokensAux ts sep = p.write (tokStr ts sep) := by
  induction ts generalizing p sep with
  | nil => simp [Printer.tokensAux, tokStr, write_nil]
  | cons t rest ih =>
    simp only [Printer.tokensAux, tokStr]
    rw [ih, write_write, write_write]
    simp [sepAfter, List.append_assoc]

theorem tokens_eq (p : Printer) (ts : List Bytes) : p.tokens ts = p.write (tokStr ts []) :=
  tokensAux_eq p ts []

/-- the kind `readToken` assigns to a line token with this text -/
def kindOf (t : Bytes) : TokKind :=
  match t with
  | [c] => if c ∈ punctBytes then .punct c else if c = 34 ∨ c = 96 then .string else .ident
  | c :: _ => if c = 34 ∨ c = 96 then .string else .ident
  | [] => .ident

theorem tokOK_kind_eq {k : TokKind} {t : Bytes} (h : TokOK k t) : k = kindOf t := by
  cases h with
  | punct c hc => simp [kindOf, hc]
  | string q a hq hb =>
    have hane := hb.ne_nil
    cases a with
    | nil => exact absurd rfl hane
    | cons x xs => simp [kindOf, hq]
  | ident _ hne hb hnq =>
    cases t with
    | nil => exact absurd rfl hne
    | cons c t' =>
      have hid : isIdent (Utf8.decodeRune (c :: t')).1 = true := by
        cases hb with
        | cons _ hid _ _ _ => exact hid
      -- the first byte is neither a quote nor (alone) a punctuation byte
      have hq : ¬ (c = 34 ∨ c = 96) := by
        intro hq
        have hlt : c.toNat < 0x80 := by rcases hq with h | h <;> subst h <;> decide
        rw [decodeRune_ascii c t' hlt] at hnq
        rcases hq with h | h <;> subst h <;> revert hnq <;> decide
      have hp : c ∉ punctBytes := by
        intro hp
        have hlt : c.toNat < 0x80 := by
          rcases punctBytes_cases hp with h | h | h | h | h | h | h <;> subst h <;> decide
        rw [decodeRune_ascii c t' hlt] at hid
        rcases punctBytes_cases hp with h | h | h | h | h | h | h <;> subst h <;> revert hid <;> decide
      cases t' with
      | nil => simp [kindOf, hp, hq]
      | cons x xs => simp [kindOf, hq]

def TokText (t : Bytes) : Prop := TokOK (kindOf t) t

theorem tokOK_tokText {k : TokKind} {t : Bytes} (h : TokOK k t) : TokText t := by
  have := tokOK_kind_eq h
  subst this
  exact h

theorem tokOK_not_eol {k : TokKind} {t : Bytes} (h : TokOK k t) : k.isEOL = false := by
  cases h with
  | punct c hc =>
    rcases punctBytes_cases hc with h | h | h | h | h | h | h <;> subst h <;> rfl
  | string q a hq hb => rfl
  | ident _ hne hb hnq => rfl

theorem tokOK_punct_iff {k : TokKind} {t : Bytes} (h : TokOK k t) (c : UInt8) (hc : c ∈ punctBytes) :
    k = .punct c ↔ t = [c] := by
  have hk := tokOK_kind_eq h
  constructor
  · intro hkc
    subst hkc
    cases h with
    | punct c' _ => rfl
  · intro ht
    subst ht
    rw [hk]
    simp [kindOf, hc]

theorem sep_blank {sep : Bytes} (hsep : sep = [] ∨ sep = [32]) (t : Bytes) :
    ∀ b ∈ (if Printer.noSepBefore.contains t then [] else sep), isBlank b = true := by
  intro b hb
  split at hb
  · simp at hb
  · rcases hsep with h | h <;> subst h <;> simp at hb
    subst hb; rfl

theorem sepAfter_cases (t : Bytes) : sepAfter t = [] ∨ sepAfter t = [32] := by
  unfold sepAfter; split <;> simp

theorem delimStart_append {a b : Bytes} (h : ∀ x ∈ a.head?, isDelimByte x = true) (ha : a ≠ []) : DelimStart (a ++ b) := by
  cases a with
  | nil => exact absurd rfl ha
  | cons x xs => exact delimStart_cons (h x (by simp))

theorem tokStr_follow {k : TokKind} {t : Bytes} (hk : TokOK k t) (ts : List Bytes)
    (hts : ∀ t' ∈ ts, TokText t') (rest : Bytes) (hrest : DelimStart rest) :
    DelimStart (tokStr ts (sepAfter t) ++ rest) ∨ ∃ c, k = .punct c := by
  cases ts with
  | nil => exact Or.inl (by simpa [tokStr] using hrest)
  | cons t' ts' =>
    have ht' : TokText t' := hts t' (by simp)
    have ht'ne : t' ≠ [] := ht'.ne_nil
    by_cases hb : Printer.noSepBefore.contains t' = true
    · -- the next token is `,` `)` `]` `}`: a delimiter byte
      left
      simp only [tokStr, hb, if_true, List.nil_append, List.append_assoc]
      apply delimStart_append _ ht'ne
      intro x hx
      have : t' = [44] ∨ t' = [41] ∨ t' = [93] ∨ t' = [125] := by
        simpa [Printer.noSepBefore] using hb
      rcases this with h | h | h | h <;> subst h <;> simp at hx <;> subst hx <;> rfl
    · by_cases ha : Printer.noSepAfter.contains t = true
      · -- the token itself is `(` `[` `{`
        right
        have : t = [40] ∨ t = [91] ∨ t = [123] := by simpa [Printer.noSepAfter] using ha
        rcases this with h | h | h
        · exact ⟨40, (tokOK_punct_iff hk 40 (by decide)).2 h⟩
        · exact ⟨91, (tokOK_punct_iff hk 91 (by decide)).2 h⟩
        · exact ⟨123, (tokOK_punct_iff hk 123 (by decide)).2 h⟩
      · left
        simp only [tokStr, hb, sepAfter, ha, Bool.false_eq_true, if_false, List.append_assoc, List.cons_append,
          List.nil_append]
        exact delimStart_cons rfl

theorem lex_tokStr_cons {k : TokKind} {t : Bytes} (hk : TokOK k t) (ts : List Bytes)
    (hts : ∀ t' ∈ ts, TokText t') (sep : Bytes) (hsep : sep = [] ∨ sep = [32]) (ws : Bytes)
    (hws : ∀ b ∈ ws, isBlank b = true) (rest : Bytes) (hrest : DelimStart rest)
    (i : Input) (hi : i.remaining = ws ++ (tokStr (t :: ts) sep ++ rest)) :
    ∃ i', readToken i = .ok i' ∧ i'.token.kind = k ∧ i'.token.text = t ∧
      i'.remaining = tokStr ts (sepAfter t) ++ rest ∧
      i'.commentsRev = i.commentsRev ∧ i'.nextId = i.nextId := by
  have hws' : ∀ b ∈ ws ++ (if Printer.noSepBefore.contains t then [] else sep), isBlank b = true := by
    intro b hb
    rcases List.mem_append.1 hb with h | h
    · exact hws b h
    · exact sep_blank hsep t b h
  obtain ⟨i', hr, hk', ht', hrem, _, hc, hn⟩ := relex_one hk _ (tokStr ts (sepAfter t) ++ rest) hws'
    (tokStr_follow hk ts hts rest hrest) i (by rw [hi]; simp [tokStr, List.append_assoc])
  exact ⟨i', hr, hk', ht', hrem, hc, hn⟩

def lexN : Nat → Input → Except SynErr (List (TokKind × Bytes) × Input)
  | 0, i => .ok ([], i)
  | n + 1, i => do
    let i ← readToken i
    let (l, i') ← lexN n i
    .ok ((i.token.kind, i.token.text) :: l, i')

def tk (t : Bytes) : TokKind × Bytes := (kindOf t, t)

theorem lexN_tokStr (ts : List Bytes) (hts : ∀ t ∈ ts, TokText t) (sep : Bytes) (hsep : sep = [] ∨ sep = [32])
    (ws : Bytes) (hws : ∀ b ∈ ws, isBlank b = true) (rest : Bytes) (hrest : DelimStart rest) (i : Input)
    (hi : i.remaining = ws ++ (tokStr ts sep ++ rest)) :
    ∃ i', lexN ts.length i = .ok (ts.map tk, i') ∧ i'.remaining = (if ts = [] then ws ++ rest else rest) ∧
      i'.commentsRev = i.commentsRev ∧ i'.nextId = i.nextId := by
  induction ts generalizing sep ws i with
  | nil => exact ⟨i, rfl, by simpa [tokStr] using hi, rfl, rfl⟩
  | cons t ts ih =>
    have ht : TokText t := hts t (by simp)
    obtain ⟨i1, hr1, hk1, ht1, hrem1, hc1, hn1⟩ :=
      lex_tokStr_cons ht ts (fun t' h => hts t' (by simp [h])) sep hsep ws hws rest hrest i hi
    obtain ⟨i', hr', hrem', hc', hn'⟩ := ih (fun t' h => hts t' (by simp [h])) (sepAfter t) (sepAfter_cases t) []
      (by simp) i1 (by simpa using hrem1)
    refine ⟨i', ?_, ?_, by rw [hc', hc1], by rw [hn', hn1]⟩
    · simp only [List.length_cons, lexN, hr1, bind, Except.bind, hr', List.map_cons, hk1, ht1]
      rfl
    · simp only [List.nil_append] at hrem'
      simp only [reduceCtorEq, if_false]
      split at hrem'
      · rename_i h; subst h; simpa [tokStr] using hrem'
      · exact hrem'

/-- ★ C02 stage (iii) (`Props.C02.tokens_relex`); in the formatter the delimiter is a newline or ` (` -/
theorem tokens_relex (p : Printer) (ts : List Bytes) (hts : ∀ t ∈ ts, TokText t) (hne : ts ≠ [])
    (rest : Bytes) (hrest : DelimStart rest) (i : Input)
    (hi : p.bufRev.reverse ++ i.remaining = (p.tokens ts).bufRev.reverse ++ rest) :
    ∃ i', lexN ts.length i = .ok (ts.map tk, i') ∧ i'.remaining = rest := by
  rw [tokens_eq] at hi
  simp only [Printer.write, List.reverse_append, List.reverse_reverse, List.append_assoc] at hi
  have hi' := List.append_cancel_left hi
  obtain ⟨i', hr, hrem, _, _⟩ := lexN_tokStr ts hts [] (Or.inl rfl) [] (by simp) rest hrest i (by simpa using hi')
  exact ⟨i', hr, by simpa [hne] using hrem⟩

end ModVerif.Proofs.ModfileFmtLine
