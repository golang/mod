/-
  C02, end-of-line comments, stages (ii)/(iii): the positioned token stream of the lexer.

  * `pa D r` — the position (line, rune-in-line, byte) at which the suffix `r` of the input `D` begins; every
    position the lexer stores is of this form (`SI.step`, from the C20 lexer invariant `LInv0`).
  * `EStream D S i` — from the lexer state `i` (pending token = head of `S`) repeated `readToken` delivers
    exactly the sequence `S` of full `Token` records (kind, start, end, text); every end-of-line comment token
    delivered is recorded in `commentsRev` with its start position (`recOf`).
  * `LexesToE D m B S` — the byte string `B` (a suffix of `D`; in mode `m`: at the beginning of a line / after a
    line token on the same line / anywhere) lexes to `S`; one composition lemma per kind of token, in
    particular `lexesToE_eolc`: a `//` comment after a line token is delivered as an END-OF-LINE comment token.
-/
import ModVerif.Proofs.ModfileEolRender
import ModVerif.Proofs.ModfileFmtClass
import ModVerif.Proofs.ModfileC20Lay
namespace ModVerif.Proofs.ModfileEol
open ModVerif ModVerif.Modfile ModVerif.Proofs.ModfileLex ModVerif.Proofs.ModfileFmtUtf8
open ModVerif.Proofs.ModfileFmtTok ModVerif.Proofs.ModfileFmtLex ModVerif.Proofs.ModfileFmtLine
open ModVerif.Proofs.ModfileFmtStream ModVerif.Proofs.ModfileFmtClass
open ModVerif.Proofs.ModfilePos ModVerif.Proofs.ModfileC20

def posOf (D : Bytes) (n : Nat) : Position :=
  { line := 1 + (D.take n).count 10, lineRune := 1 + GoStrings.runeCount (lastLine (D.take n)), byte := n }

/-- the position at which the suffix `r` of `D` begins -/
def pa (D r : Bytes) : Position := posOf D (D.length - r.length)

theorem posOK_eq {D : Bytes} {p : Position} (h : PosOK D p) : p = posOf D p.byte := by
  cases p
  simp only [posOf, Position.mk.injEq]
  exact ⟨h.line, h.lineRune, trivial⟩

@[simp] theorem pa_byte (D r : Bytes) : (pa D r).byte = D.length - r.length := rfl

/-- the state invariant of the re-lexing chain: the C20 position invariant and the C02 line-prefix
    classification invariant -/
structure SI (D : Bytes) (i : Input) : Prop where
  linv : LInv0 D i
  cls : ModfileFmtClass.Inv i

theorem linv0_setId {D : Bytes} {i : Input} (h : LInv0 D i) (n : Nat) : LInv0 D { i with nextId := n } :=
  ⟨⟨h.base.split, h.base.byte, h.base.tok⟩, h.line, h.rune1, h.aligned, h.comments⟩

theorem SI.setId {D : Bytes} {i : Input} (h : SI D i) (n : Nat) : SI D { i with nextId := n } :=
  ⟨linv0_setId h.linv n, h.cls.setId n⟩

theorem si_newInput (D : Bytes) : SI D (newInput D) := ⟨linv0_newInput D, ModfileFmtClass.inv_newInput D⟩

theorem linv0_len {D : Bytes} {i : Input} (h : LInv0 D i) : D.length = i.consumedRev.length + i.remaining.length := by
  rw [← h.base.split]; simp

theorem linv0_pos {D : Bytes} {i : Input} (h : LInv0 D i) : i.pos = pa D i.remaining := by
  rw [posOK_eq h.cur]
  unfold pa
  congr 1
  have := linv0_len h
  rw [h.base.byte]; omega

theorem SI.step {D : Bytes} {i i' : Input} (hi : SI D i) (h : readToken i = .ok i') :
    SI D i' ∧ i'.token.endPos = pa D i'.remaining ∧
      (i'.token.kind.isComment = false → i'.token.pos = pa D (i'.token.text ++ i'.remaining)) := by
  have ht : TokOK2 D i' := by
    have := readToken_res hi.linv
    rw [h] at this; exact this
  have hl := ht.inv.toLInv0
  refine ⟨⟨hl, (readToken_class i i' h hi.cls).1⟩, by rw [ht.endPos]; exact linv0_pos hl, ?_⟩
  intro hk
  rw [posOK_eq ht.inv.tokpos]
  unfold pa
  congr 1
  obtain ⟨_, h2, h3, _, _⟩ := tokOK_spec ht.old
  have hlen := linv0_len hl
  have hb := hl.base.byte
  have htx : i'.token.text.length = i'.tokRev.length := by rw [ht.exact hk]; simp
  simp only [List.length_append]
  omega

/-- the comment the lexer records when it delivers `tok` -/
def recOf (tok : Token) : List Comment :=
  if tok.kind = .eolComment then [{ start := tok.pos, token := tok.text, suffix := true }] else []

def recs (S : List Token) : List Comment := S.flatMap recOf

/-- `EStream D S i`: the pending token of `i` is the head of `S`, and (whatever `nextId` is set to)
    `readToken` delivers the rest of `S` one by one, recording the end-of-line comments; `S` ends with the
    end-of-input token. -/
def EStream (D : Bytes) : List Token → Input → Prop
  | [], _ => False
  | tok :: s, i => i.token = tok ∧ SI D i ∧ (tok.kind = .eof → s = []) ∧
      (tok.kind ≠ .eof → ∀ n : Nat, ∃ i', readToken { i with nextId := n } = .ok i' ∧ i'.nextId = n ∧
         i'.commentsRev.reverse = i.commentsRev.reverse ++ recOf i'.token ∧ EStream D s i')

/-- the comments recorded so far followed by those the rest of the stream will record: constant along the
    stream -/
def fut (S : List Token) (i : Input) : List Comment := i.commentsRev.reverse ++ recs S.tail

theorem EStream.setId {D : Bytes} {S : List Token} {i : Input} (h : EStream D S i) (m : Nat) :
    EStream D S { i with nextId := m } := by
  cases S with
  | nil => exact h
  | cons a s =>
    obtain ⟨h1, h2, h3, h4⟩ := h
    exact ⟨h1, h2.setId m, h3, h4⟩

theorem EStream.tok {D : Bytes} {tok : Token} {s : List Token} {i : Input} (h : EStream D (tok :: s) i) :
    i.token = tok := h.1

theorem EStream.si {D : Bytes} {tok : Token} {s : List Token} {i : Input} (h : EStream D (tok :: s) i) :
    SI D i := h.2.1

theorem EStream.step {D : Bytes} {tok : Token} {s : List Token} {i : Input} (h : EStream D (tok :: s) i)
    (hk : tok.kind ≠ .eof) :
    ∃ i', ModfileRun.Step i i' ∧ i'.nextId = i.nextId ∧ EStream D s i' ∧ fut s i' = fut (tok :: s) i := by
  obtain ⟨h1, _, _, hnext⟩ := h
  obtain ⟨i', hr, hn, hc, hs⟩ := hnext hk i.nextId
  refine ⟨i', hr, hn, hs, ?_⟩
  unfold fut
  rw [hc]
  cases s with
  | nil => exact absurd hs id
  | cons t2 s2 =>
    have : i'.token = t2 := hs.1
    simp [recs, this]

theorem EStream.ne_nil {D : Bytes} {S : List Token} {i : Input} (h : EStream D S i) : S ≠ [] := by
  intro hS; subst hS; exact h

/-- where on its line the lexer is: at the beginning, after a line token, or anywhere -/
inductive Mode where
  | bol | used | any

def ModeOK : Mode → Input → Prop
  | .bol, i => LineStart i
  | .used, i => Used i
  | .any, _ => True

def LexesToE (D : Bytes) (m : Mode) (B : Bytes) (S : List Token) : Prop :=
  ∀ i : Input, SI D i → i.remaining = B → ModeOK m i →
    ∃ i', readToken i = .ok i' ∧ i'.nextId = i.nextId ∧
      i'.commentsRev.reverse = i.commentsRev.reverse ++ recOf i'.token ∧ EStream D S i'

theorem LexesToE.weaken {D : Bytes} {B : Bytes} {S : List Token} (h : LexesToE D .any B S) (m : Mode) :
    LexesToE D m B S := by
  intro i hi hr _
  exact h i hi hr trivial

theorem modeOK_setId {m : Mode} {i : Input} (h : ModeOK m i) (n : Nat) : ModeOK m { i with nextId := n } := by
  cases m with
  | bol => exact h
  | used => exact Used.setId h n
  | any => trivial

theorem stream_consE {D : Bytes} {tok : Token} {S : List Token} {m : Mode} {i : Input}
    (ht : i.token = tok) (hsi : SI D i) (hne : tok.kind ≠ .eof)
    (hS : LexesToE D m i.remaining S) (hm : ModeOK m i) : EStream D (tok :: S) i := by
  refine ⟨ht, hsi, fun h => absurd h hne, fun _ n => ?_⟩
  obtain ⟨i', hr, hn, hc, hs⟩ := hS { i with nextId := n } (hsi.setId n) rfl (modeOK_setId hm n)
  exact ⟨i', hr, hn, hc, hs⟩

def eofT (D : Bytes) : Token := ⟨.eof, pa D [], pa D [], []⟩
def tokT (D : Bytes) (t rest : Bytes) : Token := ⟨kindOf t, pa D (t ++ rest), pa D rest, t⟩
def nlT (D : Bytes) (rest : Bytes) : Token := ⟨.punct 10, pa D (10 :: rest), pa D rest, [10]⟩
def comT (D : Bytes) (c rest : Bytes) : Token := ⟨.comment, pa D (c ++ 10 :: rest), pa D rest, c⟩
def eolT (D : Bytes) (c rest : Bytes) : Token := ⟨.eolComment, pa D (c ++ 10 :: rest), pa D rest, c⟩

theorem token_ext {a b : Token} (h1 : a.kind = b.kind) (h2 : a.pos = b.pos) (h3 : a.endPos = b.endPos)
    (h4 : a.text = b.text) : a = b := by
  cases a; cases b; simp_all

theorem recOf_of_not_eolc {tok : Token} (h : tok.kind ≠ .eolComment) : recOf tok = [] := by
  simp [recOf, h]

theorem lexesToE_eof (D : Bytes) (m : Mode) : LexesToE D m [] [eofT D] := by
  intro i hsi hi _
  have he : i.eof = true := by simp [Input.eof, hi]
  have hs : skipSpaces (i.remaining.length + 1) i = .ok i := by
    simp [skipSpaces, he]
  have hr : readToken i = .ok (endToken .eof (startToken i)) := by
    unfold readToken
    have : (startToken i).eof = true := he
    simp [hs, bind, Except.bind, he, this]
  obtain ⟨hsi', hend, hpos⟩ := hsi.step hr
  have hrem : (endToken .eof (startToken i)).remaining = [] := hi
  have htxt : (endToken .eof (startToken i)).token.text = [] := by
    have := (hsi.linv.base.tok)
    simp [endToken, startToken, TokKind.isComment]
  have hkind : (endToken .eof (startToken i)).token.kind = .eof := rfl
  refine ⟨_, hr, rfl, ?_, ?_⟩
  · rw [recOf_of_not_eolc (by rw [hkind]; simp)]; simp [endToken, startToken]
  · refine ⟨?_, hsi', fun _ => rfl, fun h => absurd rfl h⟩
    apply token_ext hkind
    · rw [hpos (by rw [hkind]; rfl), htxt, hrem]; rfl
    · rw [hend, hrem]; rfl
    · exact htxt

theorem lexesToE_tok {D : Bytes} {k : TokKind} {t : Bytes} (hk : TokOK k t) (ws rest : Bytes)
    (hws : ∀ b ∈ ws, isBlank b = true) (hrest : DelimStart rest ∨ ∃ c, k = .punct c)
    {S : List Token} (hS : LexesToE D .used rest S) (m : Mode) :
    LexesToE D m (ws ++ (t ++ rest)) (tokT D t rest :: S) := by
  intro i hsi hi _
  obtain ⟨i', hr, hk', ht', hrem, _, hc, hn⟩ := relex_one hk ws rest hws hrest i hi
  obtain ⟨hsi', hend, hpos⟩ := hsi.step hr
  have hne : k ≠ .eof := by
    intro h; subst h; cases hk
  have hnc : i'.token.kind.isComment = false := by
    rw [hk']; cases hk <;> rfl
  have hkk : k = kindOf t := tokOK_kind_eq hk
  have hnotc : i'.token.kind ≠ .eolComment := by
    intro h; rw [h] at hnc; cases hnc
  refine ⟨i', hr, hn, by rw [hc, recOf_of_not_eolc hnotc]; simp, ?_⟩
  have hused : Used i' := (readToken_class i i' hr hsi.cls).2.2 t (by rw [hk']; exact hk)
  have htok : i'.token = tokT D t rest := by
    apply token_ext
    · rw [hk', hkk]; rfl
    · rw [hpos hnc, ht', hrem]; rfl
    · rw [hend, hrem]; rfl
    · exact ht'
  exact stream_consE (m := .used) htok hsi' (by show (kindOf t) ≠ .eof; rw [← hkk]; exact hne) (by rw [hrem]; exact hS) hused

theorem lexesToE_newline {D : Bytes} (ws rest : Bytes) (hws : ∀ b ∈ ws, isBlank b = true)
    {S : List Token} (hS : LexesToE D .bol rest S) (m : Mode) :
    LexesToE D m (ws ++ 10 :: rest) (nlT D rest :: S) := by
  intro i hsi hi _
  obtain ⟨i', hr, hk', ht', hrem, hcons, hc, hn⟩ := relex_newline ws rest hws i hi
  obtain ⟨hsi', hend, hpos⟩ := hsi.step hr
  have hnc : i'.token.kind.isComment = false := by rw [hk']; rfl
  have hnotc : i'.token.kind ≠ .eolComment := by rw [hk']; simp
  refine ⟨i', hr, hn, by rw [hc, recOf_of_not_eolc hnotc]; simp, ?_⟩
  have htok : i'.token = nlT D rest := by
    apply token_ext
    · rw [hk']; rfl
    · rw [hpos hnc, ht', hrem]; rfl
    · rw [hend, hrem]; rfl
    · exact ht'
  refine stream_consE (m := .bol) htok hsi' (by simp [nlT]) (by rw [hrem]; exact hS) ?_
  show LineStart i'
  unfold LineStart
  rw [hcons]
  simp

theorem readRune_tokpos {i i' : Input} {r : Nat} (h : readRune i = .ok (r, i')) : i'.token.pos = i.token.pos := by
  rw [(readRune_token h).1]

theorem readComment_tokpos {i i' : Input} (h : readComment i = .ok i') : i'.token.pos = i.pos :=
  (ModfileScan.readComment_com h).pres (P := fun a => a.token.pos = i.pos) (T := fun a => a.token.pos = i.pos)
    (fun _ _ _ hp hr => by rw [readRune_tokpos hr]; exact hp) (fun _ _ hp => hp) (fun _ hp => hp) rfl

theorem relex_commentLine {D : Bytes} (ws c rest : Bytes) (hws : ∀ b ∈ ws, isBlank b = true)
    (hc : CommentOK c) (hlast : c.getLast? ≠ some 13) (i : Input) (hsi : SI D i)
    (hi : i.remaining = ws ++ (c ++ 10 :: rest)) :
    ∃ (i0 i' : Input), readToken i = .ok i' ∧ i0.consumedRev = ws.reverse ++ i.consumedRev ∧ i.remaining = ws ++ i0.remaining ∧
      i'.nextId = i.nextId ∧ i'.token.text = c ∧ i'.remaining = rest ∧
      i'.consumedRev = 10 :: (c.reverse ++ i0.consumedRev) ∧
      i'.token.pos = pa D (c ++ 10 :: rest) ∧
      (let suffix := !(GoStrings.trimSpace (i0.consumedRev.takeWhile (· != 10)).reverse).isEmpty
       i'.token.kind = (if suffix then TokKind.eolComment else TokKind.comment) ∧
       i'.commentsRev = if suffix then
           ({ start := i'.token.pos, token := i'.token.text, suffix := true } : Comment) :: i.commentsRev
         else i.commentsRev) := by
  obtain ⟨t, ht⟩ : ∃ t, c = 47 :: 47 :: t := ModfileFmtTrim.commentOK_cons hc
  obtain ⟨i0, hs0, hadv0⟩ := skipSpaces_relex ws (c ++ 10 :: rest) hws
    (by intro b hb; rw [ht] at hb; simp at hb; subst hb; rfl)
    (i.remaining.length + 1) i hi (by rw [hi]; simp only [List.length_append]; omega)
  have hrem0 : i0.remaining = c ++ 10 :: rest := hadv0.rem_of hi
  have hne0 : i0.remaining ≠ [] := by rw [hrem0, ht]; simp
  have heof0 : i0.eof = false := (eof_false_iff i0).2 hne0
  have hpp : i0.peekPrefix [47, 47] = true := by
    simp [Input.peekPrefix, hrem0, ht, isPrefixOfB]
  obtain ⟨i', hr, hrem', hcons', hn', htext', hkc⟩ := readComment_char i0 hpp
  have hl0 : LInv0 D i0 := (ModfileScan.skipSpaces_runes _ _ _ hs0).1.pres (fun _ _ _ hp hr => linv0_readRune hp hr) hsi.linv
  have hline : lineOf i0.remaining = c ++ [10] := by
    rw [hrem0, lineOf_append _ _ hc.2]; simp [lineOf]
  have htext : i'.token.text = c := by
    rw [htext', hline]
    unfold stripEOL
    have hrev : (c ++ [10]).reverse = 10 :: c.reverse := by simp
    rw [hrev]
    have : stripRev (10 :: c.reverse) = c.reverse := by
      unfold stripRev
      split
      · rename_i r heq
        simp only [List.cons.injEq, true_and] at heq
        exfalso
        apply hlast
        have : c = r.reverse ++ [13] := by
          have := congrArg List.reverse heq
          simpa using this
        rw [this]; simp
      · rename_i r _ heq
        simp only [List.cons.injEq, true_and] at heq
        exact heq.symm
      · rename_i h1 h2; exact absurd rfl (h2 _)
    rw [this]; simp
  have hremf : i'.remaining = rest := by
    rw [hline, hrem0, List.append_assoc] at hrem'
    have := (List.append_cancel_left hrem').symm
    simpa using this
  have hread : readToken i = .ok i' := by
    unfold readToken
    simp only [hs0, bind, Except.bind, heof0, hpp, Bool.not_false, Bool.and_self, if_true, hr]
  have hpos : i'.token.pos = pa D (c ++ 10 :: rest) := by
    rw [readComment_tokpos hr, linv0_pos hl0, hrem0]
  refine ⟨i0, i', hread, hadv0.cons, hadv0.rem, by rw [hn']; exact hadv0.nextId, htext, hremf, ?_, hpos, ?_⟩
  · rw [hcons', hline]; simp
  · rw [← hadv0.comments]
    exact hkc

theorem lexesToE_comment {D : Bytes} (ws c rest : Bytes) (hws : ∀ b ∈ ws, isBlank b = true)
    (hc : CommentOK c) (hlast : c.getLast? ≠ some 13)
    {S : List Token} (hS : LexesToE D .bol rest S) : LexesToE D .bol (ws ++ (c ++ 10 :: rest)) (comT D c rest :: S) := by
  intro i hsi hi hbol
  have hls : LineStart i := hbol
  obtain ⟨i0, i', hread, hc0, _, hn, htext, hrem, hcons, hpos, hk⟩ := relex_commentLine ws c rest hws hc hlast i hsi hi
  obtain ⟨hsi', hend, _⟩ := hsi.step hread
  have hprefix : (i0.consumedRev.takeWhile (· != 10)).reverse = ws := by
    rw [hc0]
    have h1 : ∀ b ∈ ws.reverse, (b != 10) = true := by
      intro b hb; exact blank_ne_newline hws b (by simpa using hb)
    rw [List.takeWhile_append_of_pos h1]
    have : i.consumedRev.takeWhile (· != 10) = [] := hls
    rw [this]; simp
  have htrim : GoStrings.trimSpace ws = [] := ModfileFmtTrim.trimSpace_blank ws (fun b hb => isBlank_cases (hws b hb))
  simp only [hprefix, htrim, List.isEmpty_nil, Bool.not_true, Bool.false_eq_true, if_false] at hk
  obtain ⟨hkind, hcomm⟩ := hk
  refine ⟨i', hread, hn, by rw [hcomm, recOf_of_not_eolc (by rw [hkind]; simp)]; simp, ?_⟩
  have htok : i'.token = comT D c rest := by
    apply token_ext hkind hpos
    · rw [hend, hrem]; rfl
    · exact htext
  refine stream_consE (m := .bol) htok hsi' (by simp [comT]) (by rw [hrem]; exact hS) ?_
  show LineStart i'
  unfold LineStart
  rw [hcons]
  simp

/-- ★ end-of-line stage (ii): the classification of the printed comment is preserved (it is delivered as an END-OF-LINE
    comment token again), and it is recorded with the position where its text starts. -/
theorem lexesToE_eolc {D : Bytes} (ws c rest : Bytes) (hws : ∀ b ∈ ws, isBlank b = true)
    (hc : CommentOK c) (hlast : c.getLast? ≠ some 13)
    {S : List Token} (hS : LexesToE D .bol rest S) : LexesToE D .used (ws ++ (c ++ 10 :: rest)) (eolT D c rest :: S) := by
  intro i hsi hi hused
  have hu : Used i := hused
  obtain ⟨i0, i', hread, hc0, hr0, hn, htext, hrem, hcons, hpos, hk⟩ := relex_commentLine ws c rest hws hc hlast i hsi hi
  obtain ⟨hsi', hend, _⟩ := hsi.step hread
  have hu0 : Used i0 := (inv_blanks hws hc0 hr0).2 hu
  have hne := hu0.trim_ne_nil
  have hsuf : (!(GoStrings.trimSpace (i0.consumedRev.takeWhile (· != 10)).reverse).isEmpty) = true := by
    have : GoStrings.trimSpace (linePrefix i0) ≠ [] := hne
    unfold linePrefix at this
    simpa using this
  simp only [hsuf, if_true] at hk
  obtain ⟨hkind, hcomm⟩ := hk
  have htok : i'.token = eolT D c rest := by
    apply token_ext hkind hpos
    · rw [hend, hrem]; rfl
    · exact htext
  refine ⟨i', hread, hn, ?_, ?_⟩
  · rw [hcomm]
    simp [recOf, hkind]
  · refine stream_consE (m := .bol) htok hsi' (by simp [eolT]) (by rw [hrem]; exact hS) ?_
    show LineStart i'
    unfold LineStart
    rw [hcons]
    simp

/-- the token records of a printed token line followed by `rest` -/
def tokStrT (D : Bytes) : List Bytes → Bytes → List Token
  | [], _ => []
  | t :: ts, rest => tokT D t (tokStr ts (sepAfter t) ++ rest) :: tokStrT D ts rest

theorem lexesToE_tokStr {D : Bytes} (ts : List Bytes) (hts : ∀ t ∈ ts, TokText t) (hne : ts ≠ []) (sep : Bytes)
    (hsep : sep = [] ∨ sep = [32]) (ws : Bytes) (hws : ∀ b ∈ ws, isBlank b = true) (rest : Bytes)
    (hrest : DelimStart rest) {S : List Token} (hS : LexesToE D .used rest S) (m : Mode) :
    LexesToE D m (ws ++ (tokStr ts sep ++ rest)) (tokStrT D ts rest ++ S) := by
  induction ts generalizing sep ws m with
  | nil => exact absurd rfl hne
  | cons t ts ih =>
    have ht : TokText t := hts t (by simp)
    have hts' : ∀ t' ∈ ts, TokText t' := fun t' h => hts t' (by simp [h])
    have hws' : ∀ b ∈ ws ++ (if Printer.noSepBefore.contains t then [] else sep), isBlank b = true := by
      intro b hb
      rcases List.mem_append.1 hb with h | h
      · exact hws b h
      · exact sep_blank hsep t b h
    have hfollow := tokStr_follow ht ts hts' rest hrest
    have hcont : LexesToE D .used (tokStr ts (sepAfter t) ++ rest) (tokStrT D ts rest ++ S) := by
      cases hts0 : ts with
      | nil => simpa [tokStr, tokStrT] using hS
      | cons t' ts' =>
        rw [← hts0]
        have := ih hts' (by rw [hts0]; simp) (sepAfter t) (sepAfter_cases t) [] (by simp) .used
        simpa using this
    have := lexesToE_tok ht _ (tokStr ts (sepAfter t) ++ rest) hws' hfollow hcont m
    simpa [tokStr, tokStrT, List.append_assoc] using this

end ModVerif.Proofs.ModfileEol
