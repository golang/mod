/-
  Helper lemmas for Tie/FnPrint.lean: simulation of the whole-line-comment loops (three copies in the generated
  code), of the prologue of `printer.expr`, and of `printer.expr` itself for every node type.

  `printer.expr` recurses only from a `LineBlock` into its `(`, its lines and its `)`, none of which is a block, so no
  induction on the fuel is needed: the four leaf node types are done first and the block on top of them.
-/
import ModVerif.Proofs.TieFnPrintC
namespace ModVerif.TieFnPrint
open ModVerif ModVerif.GoRt ModVerif.GoRtPrint ModVerif.Modfile
open ModVerif.Generated.Print
open ModVerif.Drv.GenPrint (G.pos G.com G.coms G.line G.lparen G.rparen G.expr G.file)

/-! ### `for _, com := range cs { p.printf("%s", strings.TrimSpace(com.Token)); p.newline() }` -/

theorem commentLines_generic (M : Nat) (l : List Generated.Print.Comment) (L : Nat → Int → printer → GoRt.M (Int × printer))
    (hs : ∀ fuel ri p, L (fuel + 1) ri p =
      if (decide (ri < len l)) then (do
        let com ← idxL l ri
        let t ← printer_newline fuel { p with Buffer := p.Buffer ++ (trimSpace com.Token) }
        L fuel (ri + 1) t.2) else pure (ri, p))
    (rest : List Modfile.Comment) : ∀ (pre : List Modfile.Comment) (fuel : Nat) (mp : Printer),
    l = (pre ++ rest).map G.com → mp.margin ≤ M → pot M mp + cLines M rest ≤ fuel →
    ∃ r, L fuel (pre.length : Int) (emb mp) = .ok (r, emb (mp.commentLines rest)) := by
  induction rest with
  | nil =>
    intro pre fuel mp hl hm hf
    obtain ⟨f, rfl⟩ : ∃ f, fuel = f + 1 := ⟨fuel - 1, by simp only [cLines] at hf; omega⟩
    rw [hs]
    have hc : decide ((pre.length : Int) < len l) = false := by rw [hl]; simp [len_eq]
    simp only [hc, Bool.false_eq_true, if_false, pure_eq_ok, Printer.commentLines]
    exact ⟨_, rfl⟩
  | cons c rest ih =>
    intro pre fuel mp hl hm hf
    simp only [cLines] at hf
    obtain ⟨f, rfl⟩ : ∃ f, fuel = f + 1 := ⟨fuel - 1, by omega⟩
    rw [hs]
    have hc : decide ((pre.length : Int) < len l) = true := by rw [hl]; simp [len_eq]; omega
    have hi : idxL l (pre.length : Int) = .ok (G.com c) := by
      rw [hl]
      have := idxL_append_length (pre.map G.com) (G.com c) (rest.map G.com)
      simpa using this
    simp only [hc, if_true, hi, bind_ok, com_Token, trimSpace_eq]
    have e1 : ({ Buffer := (emb mp).Buffer ++ GoStrings.trimSpace c.token, comment := (emb mp).comment,
                 margin := (emb mp).margin } : printer) = emb (mp.write (GoStrings.trimSpace c.token)) := by
      simp [emb, Printer.write]
    rw [e1, newline_sim M _ f (by simpa using hm) (by simp only [pot_write]; omega)]
    simp only [bind_ok]
    rw [range_next pre c]
    have h1 := newline_pot M (mp.write (GoStrings.trimSpace c.token)) (by simpa using hm)
    simp only [pot_write] at h1
    have := ih (pre ++ [c]) f (mp.write (GoStrings.trimSpace c.token)).newline (by simpa using hl) (by simpa using hm)
      (by omega)
    simpa [Printer.commentLines] using this

theorem expr_loop3_sim (M : Nat) (cs : List Modfile.Comment) (fuel : Nat) (mp : Printer)
    (hm : mp.margin ≤ M) (hf : pot M mp + cLines M cs ≤ fuel) :
    ∃ r, printer_expr_loop3 (cs.map G.com) fuel 0 (emb mp) = .ok (r, emb (mp.commentLines cs)) :=
  commentLines_generic M (cs.map G.com) (printer_expr_loop3 (cs.map G.com))
    (by intro fuel ri p; rw [printer_expr_loop3]) cs [] fuel mp rfl hm hf

theorem file_loop1_sim (M : Nat) (cs : List Modfile.Comment) (gf : Generated.Print.FileSyntax) (fuel : Nat) (mp : Printer)
    (hm : mp.margin ≤ M) (hf : pot M mp + cLines M cs ≤ fuel) :
    ∃ r, printer_file_loop1 (cs.map G.com) gf fuel 0 (emb mp) = .ok (r, emb (mp.commentLines cs)) :=
  commentLines_generic M (cs.map G.com) (printer_file_loop1 (cs.map G.com) gf)
    (by intro fuel ri p; rw [printer_file_loop1]) cs [] fuel mp rfl hm hf

theorem file_loop3_sim (M : Nat) (cs : List Modfile.Comment) (gs : Generated.Print.Expr) (fuel : Nat) (mp : Printer)
    (hm : mp.margin ≤ M) (hf : pot M mp + cLines M cs ≤ fuel) :
    ∃ r, printer_file_loop3 (cs.map G.com) gs fuel 0 (emb mp) = .ok (r, emb (mp.commentLines cs)) :=
  commentLines_generic M (cs.map G.com) (printer_file_loop3 (cs.map G.com) gs)
    (by intro fuel ri p; rw [printer_file_loop3]) cs [] fuel mp rfl hm hf

/-! ### the two halves of `printer.expr` -/

/-- the prologue of the generated `printer.expr`: "emit line-comments preceding this expression" -/
def gBefore (fuel : Nat) (p : printer) (before : List Generated.Print.Comment) : GoRt.M printer :=
  if (decide ((len before) > (0 : Int))) then (do
    let t19 ← (printer_trim fuel p)
    let t21 ← (printer_indent fuel t19.2)
    if (decide (t21 > (0 : Int))) then (do
      let r ← printer_expr_loop2 fuel { t19.2 with Buffer := (t19.2).Buffer ++ (([10] : Bytes)) } 0
      let r2 ← printer_expr_loop3 before fuel 0 r.1
      pure r2.2) else (do
      let r ← printer_expr_loop2 fuel t19.2 0
      let r2 ← printer_expr_loop3 before fuel 0 r.1
      pure r2.2)) else pure p

set_option linter.unusedVariables false in
/-- the type switch of the generated `printer.expr` followed by the queueing of the end-of-line comments -/
def gBody (fuel : Nat) (p : printer) (x : Generated.Print.Expr) : GoRt.M (Unit × printer) :=
  match x with
    | Expr.CommentBlock x_1 => (do
      let p := { (p) with comment := (((p).comment) ++ (((Expr_Comments x)).Suffix)) }
      pure ((), p))
    | Expr.LParen x_2 => (do
      let p := { p with Buffer := (p).Buffer ++ (([40] : Bytes)) }
      let p := { (p) with comment := (((p).comment) ++ (((Expr_Comments x)).Suffix)) }
      pure ((), p))
    | Expr.RParen x_3 => (do
      let p := { p with Buffer := (p).Buffer ++ (([41] : Bytes)) }
      let p := { (p) with comment := (((p).comment) ++ (((Expr_Comments x)).Suffix)) }
      pure ((), p))
    | Expr.Line x_4 => (do
      let t1 ← (printer_tokens fuel p ((x_4).Token))
      let (io2, p) := t1
      let p := { (p) with comment := (((p).comment) ++ (((Expr_Comments x)).Suffix)) }
      pure ((), p))
    | Expr.LineBlock x_5 => (do
      let t3 ← (printer_tokens fuel p ((x_5).Token))
      let (io4, p) := t3
      let p := { p with Buffer := (p).Buffer ++ (([32] : Bytes)) }
      let t5 ← (printer_expr fuel p (Expr.LParen ((x_5).LParen)))
      let (io6, p) := t5
      let p := { (p) with margin := (((p).margin) + (1 : Int)) }
      let rx7 := ((x_5).Line)
      let ri8 := (0 : Int)
      let (ri8, p) ← printer_expr_loop1 rx7 x_5 fuel ri8 p
      let p := { (p) with margin := (((p).margin) - (1 : Int)) }
      let t14 ← (printer_newline fuel p)
      let (io15, p) := t14
      let t16 ← (printer_expr fuel p (Expr.RParen ((x_5).RParen)))
      let (io17, p) := t16
      let p := { (p) with comment := (((p).comment) ++ (((Expr_Comments x)).Suffix)) }
      pure ((), p))

theorem expr_unfold (fuel : Nat) (p : printer) (x : Generated.Print.Expr) :
    printer_expr (fuel + 1) p x = (gBefore fuel p (Expr_Comments x).Before >>= fun p => gBody fuel p x) := by
  rw [printer_expr]
  unfold gBefore
  simp only []
  split
  · simp only [bind_assoc]
    refine bind_congr (fun t19 => ?_)
    refine bind_congr (fun t21 => ?_)
    split <;> simp only [bind_assoc, pure_bind] <;> rfl
  · simp only [pure_bind]; rfl

theorem before_sim (M : Nat) (mp : Printer) (cs : List Modfile.Comment) (fuel : Nat)
    (hm : mp.margin ≤ M) (hf : pot M mp + cBefore M cs ≤ fuel) :
    gBefore fuel (emb mp) (cs.map G.com) = .ok (emb (mp.emitBefore cs)) := by
  unfold gBefore Printer.emitBefore
  cases cs with
  | nil => simp
  | cons c cs =>
    have h0 : decide (len ((c :: cs).map G.com) > 0) = true := by simp [len_eq]
    simp only [cBefore, List.isEmpty_cons, Bool.false_eq_true, if_false] at hf
    have hL := pot_len M mp
    have ht := trim_length mp
    have hpt := pot_trim M mp
    have hcl : 1 ≤ cLines M (c :: cs) := by simp only [cLines]; omega
    simp only [h0, if_true, List.isEmpty_cons, Bool.false_eq_true, if_false]
    rw [trim_sim mp fuel (by omega)]
    simp only [bind_ok]
    rw [indent_sim mp.trim fuel (by omega)]
    simp only [bind_ok]
    by_cases hi : mp.trim.indent > 0
    · have hd : decide (((mp.trim.indent : Nat) : Int) > 0) = true := by simp; omega
      have e1 : ({ Buffer := (emb mp.trim).Buffer ++ [10], comment := (emb mp.trim).comment,
                   margin := (emb mp.trim).margin } : printer) = emb (mp.trim.writeByte 10) := by
        simp [emb, Printer.writeByte]
      simp only [hd, if_true, hi]
      rw [e1, expr_loop2_sim _ fuel (by simp; omega)]
      simp only [bind_ok]
      obtain ⟨r, hr⟩ := expr_loop3_sim M (c :: cs) fuel (mp.trim.writeByte 10).tabs (by simpa using hm)
        (by simp only [pot_tabs, pot_writeByte, writeByte_margin, trim_margin]; omega)
      rw [hr]
      rfl
    · have hd : decide (((mp.trim.indent : Nat) : Int) > 0) = false := by simp; omega
      simp only [hd, Bool.false_eq_true, if_false, hi]
      rw [expr_loop2_sim _ fuel (by simp; omega)]
      simp only [bind_ok]
      obtain ⟨r, hr⟩ := expr_loop3_sim M (c :: cs) fuel mp.trim.tabs (by simpa using hm)
        (by simp only [pot_tabs, trim_margin]; omega)
      rw [hr]
      rfl

theorem exprLParen_sim (M : Nat) (mp : Printer) (x : Modfile.LParen) (fuel : Nat)
    (hm : mp.margin ≤ M) (hf : pot M mp + cParen M x.comments ≤ fuel) :
    printer_expr fuel (emb mp) (Expr.LParen (G.lparen x)) = .ok ((), emb (mp.exprLParen x)) := by
  simp only [cParen] at hf
  obtain ⟨f, rfl⟩ : ∃ f, fuel = f + 1 := ⟨fuel - 1, by omega⟩
  rw [expr_unfold]
  have hb : (Expr_Comments (Expr.LParen (G.lparen x))).Before = x.comments.before.map G.com := rfl
  rw [hb, before_sim M mp x.comments.before f hm (by omega)]
  simp only [bind_ok, gBody, pure_eq_ok]
  simp [emb, Printer.exprLParen, Printer.writeByte, Printer.queueSuffix, Expr_Comments, G.lparen, G.coms]

theorem exprRParen_sim (M : Nat) (mp : Printer) (x : Modfile.RParen) (fuel : Nat)
    (hm : mp.margin ≤ M) (hf : pot M mp + cParen M x.comments ≤ fuel) :
    printer_expr fuel (emb mp) (Expr.RParen (G.rparen x)) = .ok ((), emb (mp.exprRParen x)) := by
  simp only [cParen] at hf
  obtain ⟨f, rfl⟩ : ∃ f, fuel = f + 1 := ⟨fuel - 1, by omega⟩
  rw [expr_unfold]
  have hb : (Expr_Comments (Expr.RParen (G.rparen x))).Before = x.comments.before.map G.com := rfl
  rw [hb, before_sim M mp x.comments.before f hm (by omega)]
  simp only [bind_ok, gBody, pure_eq_ok]
  simp [emb, Printer.exprRParen, Printer.writeByte, Printer.queueSuffix, Expr_Comments, G.rparen, G.coms]

theorem exprCommentBlock_sim (M : Nat) (mp : Printer) (x : Modfile.CommentBlock) (fuel : Nat)
    (hm : mp.margin ≤ M) (hf : pot M mp + cParen M x.comments ≤ fuel) :
    printer_expr fuel (emb mp) (G.expr (.commentBlock x)) = .ok ((), emb (mp.exprCommentBlock x)) := by
  simp only [cParen] at hf
  obtain ⟨f, rfl⟩ : ∃ f, fuel = f + 1 := ⟨fuel - 1, by omega⟩
  rw [expr_unfold]
  have hb : (Expr_Comments (G.expr (.commentBlock x))).Before = x.comments.before.map G.com := rfl
  rw [hb, before_sim M mp x.comments.before f hm (by omega)]
  simp only [bind_ok, gBody, G.expr, pure_eq_ok]
  simp [emb, Printer.exprCommentBlock, Printer.queueSuffix, Expr_Comments, G.coms]

theorem exprLine_sim (M : Nat) (mp : Printer) (x : Modfile.Line) (fuel : Nat)
    (hm : mp.margin ≤ M) (hf : pot M mp + cLine M x ≤ fuel) :
    printer_expr fuel (emb mp) (Expr.Line (G.line x)) = .ok ((), emb (mp.exprLine x)) := by
  simp only [cLine] at hf
  obtain ⟨f, rfl⟩ : ∃ f, fuel = f + 1 := ⟨fuel - 1, by omega⟩
  rw [expr_unfold]
  have hb : (Expr_Comments (Expr.Line (G.line x))).Before = x.comments.before.map G.com := rfl
  have ht : (G.line x).Token = x.token := rfl
  have hl := length_le_cToks x.token
  rw [hb, before_sim M mp x.comments.before f hm (by omega)]
  simp only [bind_ok, gBody, ht]
  rw [tokens_sim _ x.token f (by omega)]
  simp only [bind_ok, pure_eq_ok]
  simp [emb, Printer.exprLine, Printer.queueSuffix, Expr_Comments, G.line, G.coms]

theorem lines_loop (M : Nat) (gb : Generated.Print.LineBlock) (rest : List Modfile.Line) :
    ∀ (pre : List Modfile.Line) (fuel : Nat) (mp : Printer),
    mp.margin ≤ M → pot M mp + cBlockLines M rest ≤ fuel →
    ∃ r, printer_expr_loop1 ((pre ++ rest).map G.line) gb fuel (pre.length : Int) (emb mp)
      = .ok (r, emb (mp.exprLines rest)) := by
  induction rest with
  | nil =>
    intro pre fuel mp hm hf
    obtain ⟨f, rfl⟩ : ∃ f, fuel = f + 1 := ⟨fuel - 1, by simp only [cBlockLines] at hf; omega⟩
    rw [printer_expr_loop1]
    have hc : decide ((pre.length : Int) < len ((pre ++ []).map G.line)) = false := by simp [len_eq]
    simp only [hc, Bool.false_eq_true, if_false, pure_eq_ok, Printer.exprLines]
    exact ⟨_, rfl⟩
  | cons l rest ih =>
    intro pre fuel mp hm hf
    simp only [cBlockLines] at hf
    obtain ⟨f, rfl⟩ : ∃ f, fuel = f + 1 := ⟨fuel - 1, by omega⟩
    rw [printer_expr_loop1]
    have hc : decide ((pre.length : Int) < len ((pre ++ l :: rest).map G.line)) = true := by simp [len_eq]; omega
    have hi : idxL ((pre ++ l :: rest).map G.line) (pre.length : Int) = .ok (G.line l) := by
      have := idxL_append_length (pre.map G.line) (G.line l) (rest.map G.line)
      simpa using this
    have h1 := newline_pot M mp hm
    have h2 := exprLine_pot M mp.newline l (by simpa using hm)
    simp only [hc, if_true, hi, bind_ok]
    rw [newline_sim M mp f hm (by omega)]
    simp only [bind_ok]
    rw [exprLine_sim M mp.newline l f (by simpa using hm) (by omega)]
    simp only [bind_ok]
    have hpre : pre ++ l :: rest = (pre ++ [l]) ++ rest := by simp
    rw [hpre, range_next pre l]
    have := ih (pre ++ [l]) f (mp.newline.exprLine l) (by simpa using hm) (by omega)
    simpa [Printer.exprLines] using this

theorem emb_incMargin (q : Printer) :
    ({ Buffer := (emb q).Buffer, comment := (emb q).comment, margin := (emb q).margin + 1 } : printer)
      = emb { q with margin := q.margin + 1 } := by
  simp [emb]

theorem emb_decMargin (q : Printer) (h : 1 ≤ q.margin) :
    ({ Buffer := (emb q).Buffer, comment := (emb q).comment, margin := (emb q).margin - 1 } : printer)
      = emb { q with margin := q.margin - 1 } := by
  simp [emb]; omega

theorem exprLineBlock_sim (M : Nat) (mp : Printer) (x : Modfile.LineBlock) (fuel : Nat)
    (hm : mp.margin + 1 ≤ M) (hf : pot M mp + cBlock M x ≤ fuel) :
    printer_expr fuel (emb mp) (G.expr (.lineBlock x)) = .ok ((), emb (mp.exprLineBlock x)) := by
  simp only [cBlock] at hf
  obtain ⟨f, rfl⟩ : ∃ f, fuel = f + 1 := ⟨fuel - 1, by omega⟩
  have hm0 : mp.margin ≤ M := by omega
  -- the intermediate states of the model
  let p1 := mp.emitBefore x.comments.before
  let p2 := (p1.tokens x.token).writeByte 32
  let p3 := p2.exprLParen x.lparen
  let p4 : Printer := { p3 with margin := p3.margin + 1 }
  let p5 := p4.exprLines x.lines
  let p6 : Printer := { p5 with margin := p5.margin - 1 }
  have m1 : p1.margin = mp.margin := by simp [p1]
  have m2 : p2.margin = mp.margin := by simp [p2, m1]
  have m3 : p3.margin = mp.margin := by simp [p3, m2]
  have m4 : p4.margin = mp.margin + 1 := by simp [p4, m3]
  have m5 : p5.margin = mp.margin + 1 := by simp [p5, m4]
  have m6 : p6.margin = mp.margin := by simp [p6, m5]
  have b1 : pot M p1 ≤ pot M mp + cBefore M x.comments.before := emitBefore_pot M mp _ hm0
  have b2 : pot M p2 ≤ pot M p1 + cToks x.token + 1 := by
    have := tokens_pot M p1 x.token
    simp only [p2, pot_writeByte]; omega
  have b3 : pot M p3 + 2 ≤ pot M p2 + cParen M x.lparen.comments := exprLParen_pot M p2 x.lparen (by omega)
  have b4 : pot M p4 = pot M p3 := rfl
  have b5 : pot M p5 + 1 ≤ pot M p4 + cBlockLines M x.lines := exprLines_pot M x.lines p4 (by omega)
  have b6 : pot M p6 = pot M p5 := rfl
  have b7 : pot M p6.newline + 2 ≤ pot M p6 + cNewline M := newline_pot M p6 (by omega)
  have hl := length_le_cToks x.token
  rw [expr_unfold]
  have hb : (Expr_Comments (G.expr (.lineBlock x))).Before = x.comments.before.map G.com := rfl
  rw [hb, before_sim M mp x.comments.before f hm0 (by omega)]
  simp only [bind_ok, gBody, G.expr]
  rw [tokens_sim _ x.token f (by omega)]
  simp only [bind_ok]
  have e2 : ({ Buffer := (emb (p1.tokens x.token)).Buffer ++ [32], comment := (emb (p1.tokens x.token)).comment,
               margin := (emb (p1.tokens x.token)).margin } : printer) = emb p2 := by
    simp [emb, p2, Printer.writeByte]
  rw [e2, exprLParen_sim M p2 x.lparen f (by omega) (by omega)]
  simp only [bind_ok]
  rw [emb_incMargin]
  obtain ⟨r, hr⟩ := lines_loop M
    ⟨G.coms x.comments, G.pos x.start, G.lparen x.lparen, x.token, x.lines.map G.line, G.rparen x.rparen⟩
    x.lines [] f p4 (by omega) (by omega)
  simp only [List.nil_append, List.length_nil] at hr
  have z : ((0 : Nat) : Int) = (0 : Int) := rfl
  rw [z] at hr
  rw [hr]
  simp only [bind_ok]
  rw [emb_decMargin p5 (by omega)]
  rw [newline_sim M p6 f (by omega) (by omega)]
  simp only [bind_ok]
  rw [exprRParen_sim M p6.newline x.rparen f (by simp; omega) (by omega)]
  simp only [bind_ok, pure_eq_ok]
  simp [emb, Printer.exprLineBlock, Printer.queueSuffix, Expr_Comments, G.coms, p6, p5, p4, p3, p2, p1]

theorem expr_sim (M : Nat) (mp : Printer) (x : Modfile.Expr) (fuel : Nat)
    (hm : mp.margin + 1 ≤ M) (hf : pot M mp + cExpr M x ≤ fuel) :
    printer_expr fuel (emb mp) (G.expr x) = .ok ((), emb (mp.expr x)) := by
  have hm0 : mp.margin ≤ M := by omega
  cases x with
  | commentBlock x => exact exprCommentBlock_sim M mp x fuel hm0 hf
  | line x => exact exprLine_sim M mp x fuel hm0 hf
  | lineBlock x => exact exprLineBlock_sim M mp x fuel hm hf
  | lparen x => exact exprLParen_sim M mp x fuel hm0 hf
  | rparen x => exact exprRParen_sim M mp x fuel hm0 hf

end ModVerif.TieFnPrint
