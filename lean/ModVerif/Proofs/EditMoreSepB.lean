/-
  Tree surgery of SetRequireSeparateIndirect on the `view`: inserting an empty `require ( )` block,
  `ensureBlock` (wrapping a line), appending a line to the block at an index; with the comments (`viewX`) the first two
  change no line.
-/
import ModVerif.Proofs.EditMoreSepA
import ModVerif.Proofs.EditMoreKeepA
namespace ModVerif.Modfile.Edit
open ModVerif ModVerif.Modfile

def BlockAt (stmts : List Expr) (k : Nat) : Prop := ∃ b, stmts[k]? = some (.lineBlock b) ∧ b.token = [B "require"]

def ReqStmt : Expr → Prop
  | .line l => l.token ≠ [] ∧ headIs l.token (B "require") = true
  | .lineBlock b => headIs b.token (B "require") = true
  | _ => False

/-- what `ensureBlock` is called on -/
def ReqAt (stmts : List Expr) (k : Nat) : Prop := ∃ x, stmts[k]? = some x ∧ ReqStmt x

theorem split_at {stmts : List Expr} {k : Nat} {x : Expr} (h : stmts[k]? = some x) :
    stmts = stmts.take k ++ x :: stmts.drop (k + 1) ∧ k < stmts.length := by
  rcases List.getElem?_eq_some_iff.1 h with ⟨hk, rfl⟩
  refine ⟨?_, hk⟩
  rw [List.getElem_cons_drop hk, List.take_append_drop]

theorem set_split {stmts : List Expr} {k : Nat} {x : Expr} (y : Expr) (h : stmts[k]? = some x) :
    stmts.set k y = stmts.take k ++ y :: stmts.drop (k + 1) := by
  rw [List.set_eq_take_append_cons_drop, if_pos (split_at h).2]

theorem ShapeWF.take {stmts : List Expr} (h : ShapeWF stmts) (k : Nat) : ShapeWF (stmts.take k) :=
  h.of_subset fun _ hx => List.mem_of_mem_take hx
theorem ShapeWF.drop {stmts : List Expr} (h : ShapeWF stmts) (k : Nat) : ShapeWF (stmts.drop k) :=
  h.of_subset fun _ hx => List.mem_of_mem_drop hx

theorem set_same_lines {stmts : List Expr} {k : Nat} {x y : Expr} (h : stmts[k]? = some x) (hs : ShapeWF stmts)
    (hv : viewX [y] = viewX [x]) (hi : treeIds [y] = treeIds [x]) (hy : ShapeWF [y]) :
    viewX (stmts.set k y) = viewX stmts ∧ treeIds (stmts.set k y) = treeIds stmts ∧ ShapeWF (stmts.set k y) := by
  rw [set_split y h]
  have hsp := (split_at h).1
  refine ⟨?_, ?_, (hs.take k).append (ShapeWF.cons hy (hs.drop (k + 1)))⟩
  · conv => rhs; rw [hsp]
    rw [viewX_append, viewX_append, viewX_cons y, viewX_cons x, hv]
  · conv => rhs; rw [hsp]
    rw [treeIds_append, treeIds_append, treeIds_cons y, treeIds_cons x, hi]

theorem shape_empty_block : ShapeWF [emptyRequireBlock] := by
  refine ⟨fun b hb => ?_, fun l hl => ?_, fun b hb l hl => ?_, fun b hb => ?_⟩
  · simp [emptyRequireBlock] at hb; subst hb; exact ⟨_, rfl⟩
  · simp [emptyRequireBlock] at hl
  · simp [emptyRequireBlock] at hb; subst hb; cases hl
  · simp [emptyRequireBlock] at hb; subst hb; rfl

theorem insertAt_empty_spec (stmts : List Expr) (i : Nat) (hi : i ≤ stmts.length) (hs : ShapeWF stmts) :
    viewX (insertAt stmts i emptyRequireBlock) = viewX stmts ∧ treeIds (insertAt stmts i emptyRequireBlock) = treeIds stmts ∧
    ShapeWF (insertAt stmts i emptyRequireBlock) ∧ BlockAt (insertAt stmts i emptyRequireBlock) i ∧
    (∀ j, j < i → (insertAt stmts i emptyRequireBlock)[j]? = stmts[j]?) ∧
    (∀ j, i ≤ j → (insertAt stmts i emptyRequireBlock)[j + 1]? = stmts[j]?) ∧
    (insertAt stmts i emptyRequireBlock).length = stmts.length + 1 := by
  unfold insertAt
  have hlen : (stmts.take i).length = i := by rw [List.length_take]; omega
  refine ⟨?_, ?_, (hs.take i).append (ShapeWF.cons shape_empty_block (hs.drop i)), ?_, ?_, ?_, ?_⟩
  · rw [viewX_append, viewX_cons]
    have : viewX [emptyRequireBlock] = [] := rfl
    rw [this, List.nil_append, ← viewX_append, List.take_append_drop]
  · rw [treeIds_append, treeIds_cons]
    have : treeIds [emptyRequireBlock] = [] := rfl
    rw [this, List.nil_append, ← treeIds_append, List.take_append_drop]
  · refine ⟨{ token := [B "require"] }, ?_, rfl⟩
    rw [List.getElem?_append_right (by omega), hlen]
    simp [emptyRequireBlock]
  · intro j hj
    rw [List.getElem?_append_left (by omega), List.getElem?_take, if_pos hj]
  · intro j hj
    rw [List.getElem?_append_right (by omega), hlen]
    have : j + 1 - i = (j - i) + 1 := by omega
    rw [this, List.getElem?_cons_succ, List.getElem?_drop]
    congr 1; omega
  · simp [List.length_append, hlen]; omega

theorem BlockAt.req {stmts : List Expr} {k : Nat} (h : BlockAt stmts k) : ReqAt stmts k := by
  rcases h with ⟨b, hb, ht⟩
  exact ⟨_, hb, by simp [ReqStmt, ht, headIs]⟩

theorem ensureBlock_spec (stmts : List Expr) (d : Nat) (hs : ShapeWF stmts) (h2 : View2 stmts) (hr : ReqAt stmts d) :
    ∃ s, ensureBlock stmts d = .ok s ∧ viewX s = viewX stmts ∧ treeIds s = treeIds stmts ∧ ShapeWF s ∧ BlockAt s d ∧
      s.length = stmts.length ∧ (∀ j, j ≠ d → s[j]? = stmts[j]?) := by
  rcases hr with ⟨x, hx, hreq⟩
  have hmem : x ∈ stmts := List.mem_iff_getElem?.2 ⟨d, hx⟩
  unfold ensureBlock
  cases x with
  | lineBlock b =>
    simp only [hx]
    refine ⟨stmts, rfl, rfl, rfl, hs, ?_, rfl, fun _ _ => rfl⟩
    rcases hs.blockTok b hmem with ⟨w, hw⟩
    refine ⟨b, hx, ?_⟩
    simp only [ReqStmt] at hreq
    rw [hw] at hreq ⊢
    rw [headIs_cons hreq]
  | line l =>
    simp only [hx]
    simp only [ReqStmt] at hreq
    -- the line has at least two tokens, the first is `require`
    have hsp := (split_at hx).1
    have hvl : ⟨l.id, l.token, l.comments.suffix⟩ ∈ view stmts := by
      rw [hsp, view_append, view_cons]
      refine List.mem_append_right _ (List.mem_append_left _ ?_)
      cases hlt : l.token with
      | nil => exact absurd hlt hreq.1
      | cons a as => simp [view, loc, locStmt, liveLoc, mkV, hlt]
    have hlen := h2 _ hvl
    simp only at hlen
    rcases hlt : l.token with _ | ⟨a, _ | ⟨a2, as⟩⟩
    · exact absurd hlt hreq.1
    · rw [hlt] at hlen; simp at hlen
    · have ha : a = B "require" := by have := hreq.2; rw [hlt] at this; exact headIs_cons this
      subst ha
      generalize hnb : ({ token := [B "require"], lines := [{ l with token := (B "require" :: a2 :: as).drop 1, inBlock := true }] } : LineBlock) = nb
      have hnbt : nb.token = [B "require"] := by rw [← hnb]
      have hy : ShapeWF [Expr.lineBlock nb] := by
        rw [← hnb]
        refine ⟨fun b hb => ?_, fun l' hl' => ?_, fun b hb l' hl' => ?_, fun b hb => ?_⟩
        · simp at hb; subst hb; exact ⟨_, rfl⟩
        · simp at hl'
        · simp at hb; subst hb; simp at hl'; subst hl'; rfl
        · simp at hb; subst hb; rfl
      rcases set_same_lines (y := Expr.lineBlock nb)
        hx hs (by rw [← hnb, viewX_line, viewX_block, hlt]; simp) (by rw [← hnb]; simp [treeIds, loc, locStmt]) hy with ⟨e1, e2, e3⟩
      refine ⟨_, rfl, e1, e2, e3, ⟨nb, ?_, hnbt⟩, by simp, ?_⟩
      · rw [List.getElem?_set, if_pos rfl, if_pos (split_at hx).2]
      · intro j hj
        rw [List.getElem?_set, if_neg (Ne.symm hj)]
  | commentBlock _ => exact hreq.elim
  | lparen _ => exact hreq.elim
  | rparen _ => exact hreq.elim

theorem appendToBlock_spec (stmts : List Expr) (idx : Nat) (l : Line) (hs : ShapeWF stmts) (hb : BlockAt stmts idx)
    (hl : l.token ≠ []) (hfl : l.inBlock = true) :
    (view (appendToBlock stmts idx l)).Perm (view stmts ++ [⟨l.id, B "require" :: l.token, l.comments.suffix⟩]) ∧
    (treeIds (appendToBlock stmts idx l)).Perm (treeIds stmts ++ [l.id]) ∧ ShapeWF (appendToBlock stmts idx l) ∧
    (∀ k, BlockAt stmts k → BlockAt (appendToBlock stmts idx l) k) := by
  rcases hb with ⟨b, hb, ht⟩
  have hmem : Expr.lineBlock b ∈ stmts := List.mem_iff_getElem?.2 ⟨idx, hb⟩
  unfold appendToBlock
  simp only [hb]
  rw [set_split _ hb]
  have hsp := (split_at hb).1
  have hlive : (!l.token.isEmpty) = true := by
    cases hlt : l.token with
    | nil => exact absurd hlt hl
    | cons _ _ => rfl
  refine ⟨?_, ?_, ?_, ?_⟩
  · conv => rhs; rw [hsp]
    rw [view_append, view_append, view_cons _ (stmts.drop (idx + 1)), view_cons (Expr.lineBlock b), List.append_assoc, List.append_assoc]
    refine List.Perm.append_left _ ?_
    rw [view_block, view_block]
    simp only [List.filter_append, List.map_append, List.filter_cons, hlive, if_true, List.filter_nil, List.map_cons, List.map_nil, ht,
      List.append_assoc, List.singleton_append]
    refine List.Perm.append_left _ ?_
    exact List.perm_append_comm (l₁ := [_])
  · conv => rhs; rw [hsp]
    rw [treeIds_append, treeIds_append, treeIds_cons _ (stmts.drop (idx + 1)), treeIds_cons (Expr.lineBlock b), List.append_assoc, List.append_assoc]
    refine List.Perm.append_left _ ?_
    rw [treeIds_block, treeIds_block]
    simp only [List.map_append, List.map_cons, List.map_nil, List.append_assoc, List.singleton_append]
    refine List.Perm.append_left _ ?_
    exact List.perm_append_comm (l₁ := [_])
  · refine (hs.take idx).append (ShapeWF.cons ?_ (hs.drop (idx + 1)))
    refine ⟨fun b' hb' => ?_, fun l' hl' => by simp at hl', fun b' hb' l' hl' => ?_, fun b' hb' => ?_⟩
    · simp only [List.mem_singleton, Expr.lineBlock.injEq] at hb'; subst hb'; exact hs.blockTok b hmem
    · simp only [List.mem_singleton, Expr.lineBlock.injEq] at hb'; subst hb'
      simp only [List.mem_append, List.mem_singleton] at hl'
      rcases hl' with h | rfl
      · exact hs.flagIn b hmem l' h
      · exact hfl
    · simp only [List.mem_singleton, Expr.lineBlock.injEq] at hb'; subst hb'; exact hs.noBlockSuffix b hmem
  · intro k hk
    rw [← set_split _ hb]
    rcases hk with ⟨b2, hb2, ht2⟩
    by_cases hki : idx = k
    · subst hki
      rw [hb] at hb2
      simp only [Option.some.injEq, Expr.lineBlock.injEq] at hb2
      subst hb2
      exact ⟨{ b with lines := b.lines ++ [l] }, by rw [List.getElem?_set, if_pos rfl, if_pos (split_at hb).2], ht⟩
    · exact ⟨b2, by rw [List.getElem?_set, if_neg hki]; exact hb2, ht2⟩

theorem BlockAt.mapLines {stmts : List Expr} {k : Nat} (h : BlockAt stmts k) (f : Line → Line) :
    BlockAt (stmts.map (mapLinesStmt f)) k := by
  rcases h with ⟨b, hb, ht⟩
  exact ⟨{ b with lines := b.lines.map f }, by rw [List.getElem?_map, hb]; rfl, ht⟩

theorem BlockAt.updateLine {fs : FileSyntax} {k : Nat} (h : BlockAt fs.stmts k) (hnd : (treeIds fs.stmts).Nodup) (id : Nat)
    (g : Line → Line) : BlockAt (fs.updateLine id g).stmts k := by
  rw [updateLine_stmts fs id g hnd]; exact h.mapLines _

def InAt (stmts : List Expr) (k : Nat) (x : Nat) : Prop := ∃ st, stmts[k]? = some st ∧ x ∈ treeIds [st]

theorem treeIds_mapLinesStmt (f : Line → Line) (hid : ∀ l, (f l).id = l.id) (st : Expr) :
    treeIds [mapLinesStmt f st] = treeIds [st] := by
  have := loc_mapLines f [st]
  simp only [List.map_cons, List.map_nil] at this
  unfold treeIds
  rw [this, List.map_map]
  apply List.map_congr_left
  intro p _; exact hid _

theorem InAt.mapLines {stmts : List Expr} {k x : Nat} (f : Line → Line) (hid : ∀ l, (f l).id = l.id) :
    InAt (stmts.map (mapLinesStmt f)) k x ↔ InAt stmts k x := by
  unfold InAt
  rw [List.getElem?_map]
  constructor
  · rintro ⟨st, hst, hx⟩
    cases hs : stmts[k]? with
    | none => rw [hs] at hst; cases hst
    | some st0 =>
      rw [hs] at hst
      simp only [Option.map_some, Option.some.injEq] at hst
      subst hst
      rw [treeIds_mapLinesStmt f hid] at hx
      exact ⟨st0, rfl, hx⟩
  · rintro ⟨st, hst, hx⟩
    rw [hst]
    exact ⟨_, rfl, by rw [treeIds_mapLinesStmt f hid]; exact hx⟩

theorem InAt.updateLine {fs : FileSyntax} {k x : Nat} (hnd : (treeIds fs.stmts).Nodup) (id : Nat) (g : Line → Line)
    (hg : ∀ l, (g l).id = l.id) : InAt (fs.updateLine id g).stmts k x ↔ InAt fs.stmts k x := by
  rw [updateLine_stmts fs id g hnd]
  apply InAt.mapLines
  intro l; split
  · exact hg l
  · rfl

theorem InAt.markRemoved {fs : FileSyntax} {k x : Nat} (hnd : (treeIds fs.stmts).Nodup) (id : Nat) :
    InAt (Edit.markRemoved fs id).stmts k x ↔ InAt fs.stmts k x := by
  unfold Edit.markRemoved
  exact InAt.updateLine hnd id _ (fun _ => rfl)

theorem InAt.append_block {stmts : List Expr} {idx : Nat} (l : Line) (hb : BlockAt stmts idx) (k x : Nat) :
    InAt (appendToBlock stmts idx l) k x ↔ InAt stmts k x ∨ (k = idx ∧ x = l.id) := by
  rcases hb with ⟨b, hb, _⟩
  unfold appendToBlock InAt
  simp only [hb]
  rw [List.getElem?_set]
  by_cases hk : idx = k
  · subst hk
    rw [if_pos rfl, if_pos (split_at hb).2]
    constructor
    · rintro ⟨st, hst, hx⟩
      simp only [Option.some.injEq] at hst
      subst hst
      rw [treeIds_block] at hx
      simp only [List.map_append, List.map_cons, List.map_nil, List.mem_append, List.mem_singleton] at hx
      rcases hx with hx | hx
      · exact Or.inl ⟨_, hb, by rw [treeIds_block]; exact hx⟩
      · exact Or.inr ⟨rfl, hx⟩
    · rintro (⟨st, hst, hx⟩ | ⟨_, hx⟩)
      · rw [hb] at hst
        simp only [Option.some.injEq] at hst
        subst hst
        refine ⟨_, rfl, ?_⟩
        rw [treeIds_block] at hx ⊢
        simp only [List.map_append, List.mem_append]
        exact Or.inl hx
      · refine ⟨_, rfl, ?_⟩
        rw [treeIds_block]
        simp [hx]
  · rw [if_neg hk]
    constructor
    · exact Or.inl
    · rintro (h | ⟨h, _⟩)
      · exact h
      · exact absurd h.symm hk

end ModVerif.Modfile.Edit
