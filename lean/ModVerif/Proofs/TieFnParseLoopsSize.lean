/-
  Hand model only: size bounds on what the model's `parseFile` returns, in terms of the input length.  `input.assignComments` of the regenerated parser runs on fuel proportional to the number of
  nodes of the tree and to the number of recorded comments; to give `parse_tie` an explicit fuel bound in `len(data)`:

      nodeCount stmts + len(comments) ≤ len(data) + 1          (`parseFile_size`)

  (`nodeCount` of Proofs/TieFnParseCommentsTrav.lean: 1 per comment block / line, 3 + lines per block).  An instance of the
  weighted count over the runs of the parser (Proofs/TieFnRuleFuelB.lean, `parseFile_weight`) with the count potential
  `Cn` = bytes left + pending non-EOF token + recorded comments: every node is paid for by one consumed token, a block by its
  first token and its two parentheses.  Also: the statements `parseFile` returns carry no suffix comments (`parseFile_noSuffix`).
-/
import ModVerif.Proofs.TieFnParseCommentsTrav
import ModVerif.Proofs.ModfileParse
import ModVerif.Proofs.ModfileEolFirst
import ModVerif.Proofs.TieFnRuleFuelB
namespace ModVerif.TieFnParse
open ModVerif ModVerif.Modfile
open ModVerif.Proofs.ModfileLex ModVerif.Proofs.ModfilePos
open ModVerif.Proofs.ModfileParse (m)
open ModVerif.TieFnParseComments (nodeCount StmtP)

/-- the potential: bytes left + pending non-EOF token + recorded comments (`FnRuleFuelA.Cn`) -/
def m2 (i : Input) : Nat := m i + i.commentsRev.length

@[simp] theorem m2_nextId (i : Input) (n : Nat) : m2 { i with nextId := n } = m2 i := rfl

/-! ### every node is paid for by one consumed token -/

theorem nodeCount_single_line (l : Line) : nodeCount [.line l] = 1 := rfl
theorem nodeCount_single_block (b : LineBlock) : nodeCount [.lineBlock b] = 3 + b.lines.length := rfl
theorem nodeCount_single_cb (c : CommentBlock) : nodeCount [.commentBlock c] = 1 := rfl

theorem nodeCount_cons (x : Expr) (xs : List Expr) : nodeCount (x :: xs) = nodeCount [x] + nodeCount xs := by
  cases x <;> simp [nodeCount] <;> omega

theorem nodeCount_append (xs ys : List Expr) : nodeCount (xs ++ ys) = nodeCount xs + nodeCount ys := by
  induction xs with
  | nil => simp [nodeCount]
  | cons x t ih => rw [List.cons_append, nodeCount_cons, nodeCount_cons x t, ih]; omega

/-- `nodeCount` as a weight: one per line and comment block, three per block, nothing for tokens and comments -/
def wtNodeCount : Proofs.ModfileWeight.Wt := ⟨fun _ => 0, 1, 1, 3, 0, 0⟩

section
open ModVerif.Tie.FnRuleFuelA ModVerif.Tie.FnRuleFuelB ModVerif.Proofs.ModfileWeight

theorem paysNodeCount : Pays wtNodeCount 1 Cn Proofs.ModfileRun.Step Proofs.ModfileRun.Step :=
  ⟨releaseCount fun _ => Nat.le_refl _, releaseCount fun _ => Nat.le_refl _, fun _ _ => rfl, Nat.le_refl _, Nat.le_refl _,
    Nat.zero_le _, Nat.le_refl _⟩

theorem wtNodeCount_lines (ls : List Line) : wtNodeCount.lines ls = ls.length := by
  induction ls with
  | nil => rfl
  | cons l ls ih => simp [ih, Wt.line, Wt.com, wtNodeCount.toks_zero fun _ => rfl]; simp [wtNodeCount]; omega

theorem nodeCount_eq (ss : List Expr) : nodeCount ss = wtNodeCount.tree ss := by
  induction ss with
  | nil => rfl
  | cons s ss ih =>
    rw [Wt.tree_cons, ← ih]
    cases s <;> simp [nodeCount, Wt.expr, Wt.line, Wt.com, wtNodeCount_lines, wtNodeCount.toks_zero fun _ => rfl] <;>
      simp [wtNodeCount] <;> omega

theorem parseFile_size {data : Bytes} {stmts : List Expr} {i : Input} (h : parseFile data = .ok (stmts, i)) :
    nodeCount stmts + i.commentsRev.length ≤ data.length + 1 := by
  obtain ⟨i0, h0, hw⟩ := parseFile_weight paysNodeCount h
  have c0 := (readToken_w h0).2
  have hr : (newInput data).remaining.length = data.length := rfl
  have hc : (newInput data).commentsRev.length = 0 := rfl
  have : wtNodeCount.kcb = 1 := rfl
  rw [nodeCount_eq]
  unfold Cn at hw c0
  omega

end

/-- the statements `parseFile` returns carry no suffix comments (the parser only fills `before`) -/
theorem parseFile_noSuffix {data : Bytes} {stmts : List Expr} {i : Input} (h : parseFile data = .ok (stmts, i)) :
    ∀ s ∈ stmts, StmtP (fun c => c.suffix.length ≤ 0) s := by
  intro s hs
  have hwf := Proofs.ModfileFmtEmits.parseFile_wf data stmts i h s hs
  have hn := Proofs.ModfileFmtMain.wf_noSuf hwf
  cases s with
  | commentBlock x => simp only [StmtP, Expr.comments]; rw [show x.comments.suffix = [] from hn]; simp
  | line l => simp only [StmtP, Expr.comments]; rw [show l.comments.suffix = [] from hn]; simp
  | lineBlock b =>
    obtain ⟨h1, h2, h3, h4⟩ := hn
    refine ⟨by simp [h1], by simp [h2], by simp [h4], fun l hl => by simp [h3 l hl]⟩
  | lparen x => exact absurd hwf (by simp [Proofs.ModfileFmtTree.WFStmt])
  | rparen x => exact absurd hwf (by simp [Proofs.ModfileFmtTree.WFStmt])

end ModVerif.TieFnParse
