/-
  Helper lemmas for C06: the leaf conditions of the model's checkElem / checkPath coincide with the
  independent specification (Spec/PathSpec.lean).
-/
import ModVerif.Model.Module
import ModVerif.Spec.PathSpec
import ModVerif.Proofs.ModulePath
import ModVerif.Proofs.ModuleSplit
namespace ModVerif.Module
open ModVerif

def toSpec : Kind → PathSpec.Kind
  | .module => .module
  | .import_ => .import_
  | .file => .file

theorem modPathOK_iff (r : Nat) : modPathOK r = true ↔ PathSpec.ModChar r := by
  unfold modPathOK PathSpec.ModChar PathSpec.isAsciiLetter PathSpec.isAsciiDigit
  by_cases h : r < 128
  · simp [h]; omega
  · simp [h]; omega

theorem importPathOK_iff (r : Nat) : importPathOK r = true ↔ PathSpec.ImportChar r := by
  unfold importPathOK PathSpec.ImportChar
  simp [modPathOK_iff]

theorem alnum_iff (r : Nat) :
    ((48 ≤ r && r ≤ 57) || (65 ≤ r && r ≤ 90) || (97 ≤ r && r ≤ 122)) = true ↔
      PathSpec.isAsciiLetter r ∨ PathSpec.isAsciiDigit r := by
  simp only [PathSpec.isAsciiLetter, PathSpec.isAsciiDigit, Bool.or_eq_true, Bool.and_eq_true, decide_eq_true_eq]
  omega

theorem fileNameOK_iff (il : Nat → Bool) (r : Nat) : fileNameOK il r = true ↔ PathSpec.FileChar il r := by
  unfold fileNameOK PathSpec.FileChar
  by_cases h : r < 128
  · -- `allowed` lists the same punctuation as the specification, with the space last instead of apart
    have hmem : fileNameAllowed.elem r = true ↔
        r = 32 ∨ r ∈ [33, 35, 36, 37, 38, 40, 41, 43, 44, 45, 46, 61, 64, 91, 93, 94, 95, 123, 125, 126] := by
      show ([33, 35, 36, 37, 38, 40, 41, 43, 44, 45, 46, 61, 64, 91, 93, 94, 95, 123, 125, 126] ++ [32]).elem r = true ↔ _
      rw [List.elem_eq_mem, decide_eq_true_eq, List.mem_append, List.mem_singleton]
      exact or_comm
    rw [if_pos h, ← hmem, ← or_assoc, ← alnum_iff]
    simp only [h, Nat.not_le.mpr h, true_and, false_and, or_false, Bool.if_true_left,
      Bool.or_eq_true, decide_eq_true_eq]
  · rw [if_neg h]
    simp only [h, Nat.le_of_not_lt h, false_and, true_and, false_or]

theorem charOK_iff (il : Nat → Bool) (k : Kind) (r : Nat) :
    charOK il k r = true ↔ PathSpec.CharOK il (toSpec k) r := by
  cases k
  · exact modPathOK_iff r
  · exact importPathOK_iff r
  · exact fileNameOK_iff il r

theorem badWindowsNames_eq : badWindowsNames = PathSpec.reserved := by decide +kernel

theorem toUpperAscii_eq (c : UInt8) : toUpperAscii c = PathSpec.upperAscii c := by
  have key : ∀ n, n < 256 → toUpperAscii (UInt8.ofNat n) = PathSpec.upperAscii (UInt8.ofNat n) := by decide +kernel
  have := key c.toNat c.toNat_lt
  simpa using this

theorem windows_iff (short : Bytes) :
    badWindowsNames.any (equalFoldAscii · short) = false ↔ ∀ w ∈ PathSpec.reserved, short.map PathSpec.upperAscii ≠ w := by
  rw [badWindowsNames_eq, List.any_eq_false]
  have hmap : short.map toUpperAscii = short.map PathSpec.upperAscii :=
    List.map_congr_left (fun c _ => toUpperAscii_eq c)
  constructor
  · intro h w hw heq
    apply h w hw
    simp [equalFoldAscii, hmap, heq]
  · intro h w hw heq
    apply h w hw
    simpa [equalFoldAscii, hmap] using heq

theorem shortOf_eq (e : Bytes) : shortOf e = PathSpec.beforeFirstDot e :=
  takeWhile_ne_eq_head_splitOn 46 e

theorem looksLikeShortName_iff (s : Bytes) : looksLikeShortName s = true ↔ PathSpec.EndsInTildeDigits s := by
  unfold PathSpec.EndsInTildeDigits
  constructor
  · intro h
    by_cases hc : (126 : UInt8) ∈ s
    · obtain ⟨pre, suf, rfl, hs⟩ := exists_last_split 126 s hc
      rw [looksLikeShortName_split pre suf hs] at h
      simp only [Bool.and_eq_true, Bool.not_eq_true', List.isEmpty_eq_false_iff] at h
      exact ⟨pre, suf, rfl, h.1, fun d hd => (isDigit_iff d).mp (List.all_eq_true.mp h.2 d hd)⟩
    · rw [looksLikeShortName_not_mem s hc] at h; cases h
  · rintro ⟨pre, ds, rfl, hne, hdig⟩
    have h126 : (126 : UInt8) ∉ ds := fun h => by have := hdig _ h; simp [PathSpec.isAsciiDigit] at this
    rw [looksLikeShortName_split pre ds h126]
    simp only [Bool.and_eq_true, Bool.not_eq_true', List.isEmpty_eq_false_iff, List.all_eq_true]
    exact ⟨hne, fun d hd => (isDigit_iff d).mpr (hdig d hd)⟩

theorem checkElem_iff (il : Nat → Bool) (k : Kind) (e : Bytes) :
    checkElem il k e = .ok () ↔ PathSpec.ValidElem il (toSpec k) e := by
  rw [checkElem_ok_iff]
  unfold PathSpec.ValidElem
  have e1 : e.isEmpty = false ↔ e ≠ [] := by simp
  have e2 : e.all (· == 46) = false ↔ ¬ (∀ c ∈ e, c = 46) := by
    rw [← Bool.not_eq_true, List.all_eq_true]; simp
  have e3 : (e.head? == some 46 && k == .module) = false ↔ (toSpec k = .module → e.head? ≠ some 46) := by
    cases k <;> simp [toSpec]
  have e4 : (e.getLast? == some 46) = false ↔ e.getLast? ≠ some 46 := by simp
  have e5 : (Utf8.runes e).all (charOK il k) = true ↔ ∀ r ∈ Utf8.runes e, PathSpec.CharOK il (toSpec k) r := by
    rw [List.all_eq_true]
    exact forall_congr' fun r => imp_congr_right fun _ => charOK_iff il k r
  have e6 := windows_iff (shortOf e)
  have e7 : (k == .file || !looksLikeShortName (shortOf e)) = true ↔
      (toSpec k ≠ .file → ¬ PathSpec.EndsInTildeDigits (PathSpec.beforeFirstDot e)) := by
    rw [← shortOf_eq, ← looksLikeShortName_iff]
    cases k <;> simp [toSpec]
  rw [e1, e2, e3, e4, e5, e6, e7, shortOf_eq]

theorem hasDoubleSlash_tail (p : Bytes) (h : hasDoubleSlash p = true) : [] ∈ (splitOn 47 p).tail := by
  induction p with
  | nil => simp [hasDoubleSlash] at h
  | cons c rest ih =>
    by_cases hc : c = 47
    · subst hc
      rw [splitOn_cons_sep]
      cases rest with
      | nil => simp [hasDoubleSlash] at h
      | cons d r =>
        by_cases hd : d = 47
        · subst hd; rw [splitOn_cons_sep]; simp
        · have : hasDoubleSlash (47 :: d :: r) = hasDoubleSlash (d :: r) := by
            rw [hasDoubleSlash]
            intro h1 _ h3; injection h3 with h4 _; exact hd h4
          rw [this] at h
          exact List.mem_of_mem_tail (ih h)
    · obtain ⟨hd, tl, h1, h2⟩ := splitOn_cons_ne_head 47 c rest hc
      have : hasDoubleSlash (c :: rest) = hasDoubleSlash rest := by
        rw [hasDoubleSlash]
        intro h1 h2; exact absurd h2 hc
      rw [this] at h
      have := ih h
      rw [h1] at this
      rw [h2]
      simpa using this

theorem trailingSlash_tail (p : Bytes) (h : p.getLast? = some 47) : [] ∈ (splitOn 47 p).tail := by
  induction p with
  | nil => simp at h
  | cons c rest ih =>
    cases rest with
    | nil =>
      have : c = 47 := by simpa using h
      subst this
      simp [splitOn]
    | cons d r =>
      have hl : (d :: r).getLast? = some 47 := by simpa [List.getLast?_cons_cons] using h
      have := ih hl
      by_cases hc : c = 47
      · subst hc; rw [splitOn_cons_sep]; exact List.mem_of_mem_tail this
      · obtain ⟨hd, tl, h1, h2⟩ := splitOn_cons_ne_head 47 c (d :: r) hc
        rw [h1] at this; rw [h2]; simpa using this

theorem checkPath_iff_spec (il : Nat → Bool) (k : Kind) (p : Bytes) :
    checkPath il k p = .ok () ↔ PathSpec.ValidPath il (toSpec k) p := by
  rw [checkPath_ok_iff]
  unfold PathSpec.ValidPath
  have e3 : (p.head? == some 45 && k != .file) = false ↔ (toSpec k ≠ .file → p.head? ≠ some 45) := by
    cases k <;> simp [toSpec]
  constructor
  · rintro ⟨h1, h2, h3, _, _, h6⟩
    exact ⟨h1, by simpa using h2, e3.mp h3, fun e he => (checkElem_iff il k e).mp (h6 e he)⟩
  · rintro ⟨h1, h2, h3, h4⟩
    have hnil : ¬ ([] : Bytes) ∈ splitOn 47 p := fun hm => (h4 [] hm).1 rfl
    refine ⟨h1, by simpa using h2, e3.mpr h3, ?_, ?_, fun e he => (checkElem_iff il k e).mpr (h4 e he)⟩
    · cases hd : hasDoubleSlash p
      · rfl
      · exact absurd (List.mem_of_mem_tail (hasDoubleSlash_tail p hd)) hnil
    · cases hl : (p.getLast? == some 47)
      · rfl
      · exact absurd (List.mem_of_mem_tail (trailingSlash_tail p (by simpa using hl))) hnil

end ModVerif.Module
