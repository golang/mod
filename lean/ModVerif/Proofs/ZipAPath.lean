/-
  `path.Clean` / `path.Dir` on clean relative paths: such a path other than "." is the join of its
  elements, which `path.Clean` keeps as they are (`ZipB.Canon`); the parent directory of a clean relative
  path `a/b` is `a`, again clean and relative, so the recursion of the collision checker ends within
  `length + 1` steps.
-/
import ModVerif.Spec.ZipSpec
import ModVerif.Proofs.ZipSubmodule
import ModVerif.Proofs.ZipAChain
import ModVerif.Proofs.ZipBPath
namespace ModVerif.Proofs.ZipA
open ModVerif ModVerif.PathClean ModVerif.Zip ModVerif.ZipSpec ModVerif.Proofs.Zip

theorem joinWith_cons_cons (sep x y : Bytes) (t : List Bytes) :
    joinWith sep (x :: y :: t) = x ++ sep ++ joinWith sep (y :: t) := by
  simp [joinWith]

theorem isRooted_cons (x : UInt8) (t : Bytes) : isRooted (x :: t) = (x == 47) := by
  by_cases h : x = 47
  · subst h; rfl
  · have : (x == 47) = false := by simpa using h
    rw [this]
    unfold isRooted
    split
    · rename_i heq; simp at heq; exact absurd heq.1 h
    · rfl

theorem pathDir_noSlash (p : Bytes) (h : (47 : UInt8) ∉ p) : pathDir p = [46] := by
  unfold pathDir
  rw [ZipB.pathSplit_noSlash p h]; rfl

theorem mem_takeWhile {α : Type} (q : α → Bool) : ∀ (xs : List α) (x : α), x ∈ xs.takeWhile q → q x = true
  | [], _, h => by cases h
  | y :: t, x, h => by
    by_cases hy : q y = true
    · simp only [List.takeWhile, hy] at h
      rcases List.mem_cons.mp h with rfl | h
      · exact hy
      · exact mem_takeWhile q t x h
    · simp [List.takeWhile, hy] at h

theorem lastElem_slashFree (p : Bytes) : (47 : UInt8) ∉ lastElem p := by
  unfold lastElem
  intro hm
  have := mem_takeWhile _ _ _ (List.mem_reverse.mp hm)
  simp at this

theorem last_slash (p : Bytes) : (47 : UInt8) ∉ p ∨ ∃ a b, p = a ++ 47 :: b ∧ (47 : UInt8) ∉ b := by
  obtain ⟨h1, h2, h3⟩ := pathSplit_spec p
  have hns : (47 : UInt8) ∉ (pathSplit p).2 := by rw [h2]; exact lastElem_slashFree p
  rcases h3 with h3 | ⟨a, ha⟩
  · left; rw [h1, h3]; simpa using hns
  · right; exact ⟨a, (pathSplit p).2, by rw [ha] at h1; simpa using h1, hns⟩

structure CleanRel (p : Bytes) : Prop where
  clean : pathClean p = p
  rel : isAbs p = false

theorem cleanRel_canon {p : Bytes} (h : CleanRel p) (hdot : p ≠ [46]) : ZipB.Canon false (splitOn 47 p) := by
  have hr : isRooted p = false := h.rel
  have hc := ZipB.canon_comps p
  rw [hr] at hc
  have hp := ZipB.pathClean_eq_render p
  rw [h.clean, hr] at hp
  have hne : comps p ≠ [] := by intro e; rw [e] at hp; exact hdot hp
  rw [ZipB.render_false_J hne] at hp
  rw [hp, ZipB.splitOn_J _ hne (fun c hc' => (hc.elem c hc').2.2)]
  exact hc

theorem cleanRel_J {cs : List Bytes} (h : ZipB.Canon false cs) (hne : cs ≠ []) : CleanRel (ZipB.J cs) := by
  rw [← ZipB.render_false_J hne]
  exact ⟨ZipB.pathClean_render h, ZipB.isRooted_render h⟩

theorem pathDir_cleanRel (a b : Bytes) (hb : (47 : UInt8) ∉ b) (h : CleanRel (a ++ 47 :: b)) :
    pathDir (a ++ 47 :: b) = a ∧ CleanRel a ∧ a ≠ [46] ∧ a ≠ [] := by
  have hc := cleanRel_canon h (by intro e; have := congrArg (fun l => (47 : UInt8) ∈ l) e; simp at this)
  rw [splitOn_append_sep, splitOn_noSep 47 b hb] at hc
  have hne := splitOn_ne_nil 47 a
  have hca : ZipB.Canon false (splitOn 47 a) := ZipB.canon_sublist hc (List.sublist_append_left _ _)
  refine ⟨?_, ?_, ?_, ?_⟩
  · have e : a ++ 47 :: b = ZipB.render false (splitOn 47 a ++ [b]) := by
      rw [ZipB.render_false_J (by simp), ZipB.J_concat b _ hne, ZipB.J_splitOn]
    rw [e, ZipB.pathDir_render hc, List.dropLast_concat, ZipB.render_false_J hne, ZipB.J_splitOn]
  · have := cleanRel_J hca hne
    rwa [ZipB.J_splitOn] at this
  · intro e; subst e; exact (hca.elem [46] (by decide)).2.1 rfl
  · intro e; subst e; exact (hca.elem [] (by decide)).1 rfl

theorem fuelOK_cleanRel : ∀ (n : Nat) (p : Bytes), CleanRel p → p.length < n → fuelOK n p := by
  intro n
  induction n with
  | zero => intro p _ h; omega
  | succ n ih =>
    intro p hp hlen
    unfold fuelOK
    intro hd
    rcases last_slash p with h | ⟨a, b, rfl, hb⟩
    · rw [pathDir_noSlash p h] at hd; simp at hd
    · obtain ⟨h1, h2, _, _⟩ := pathDir_cleanRel a b hb hp
      rw [h1]
      apply ih a h2
      simp at hlen; omega

theorem ccCheckTop_ne_panic (tf : Bytes → Bytes) (cc : CC) {p : Bytes} (d : Bool) (hp : CleanRel p) :
    (ccCheckTop tf cc p d).2 ≠ some .panic := by
  have hl : 1 ≤ p.length := by
    cases p with
    | nil => exact absurd hp.clean (by decide)
    | cons _ _ => simp
  exact ccCheck_ne_panic tf _ cc p d (fuelOK_cleanRel _ p hp (by omega))

end ModVerif.Proofs.ZipA
