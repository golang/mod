/-
  Vocabulary and frame lemmas for the refinement between the SEQUENTIAL client model
  (Model/Client.lean) and the two CONCURRENT machines (Model/ClientLatest.lean, Model/ParCache.lean); helper for
  Props/C14.lean.

  * `optB` / `unB`: the machine's messages are `Option Bytes` (`none` = the empty message, `len(msg) == 0`), the
    sequential model's are `Bytes`.
  * `CfgCell E name cfg`: the environment's configuration file `<name>/latest` behaves as ONE cell `cfg s` that only
    `WriteConfig` changes, by compare-and-swap (what the machine's `config` component is).  No other process writes it:
    this is the restriction to ONE client.
  * `Fr cfg w w'`: the frame of everything below `mergeLatestMem` (tile reads, tile cache, `SaveTiles`): the head, its
    message, the verifier list, the name, the record cache and the configuration cell are untouched and the trace grows by
    reads and cache writes only (`Quiet`); it holds along every run of the tile layer (`Runs.fr`, Proofs/ClientRuns.lean).
  * `NoSecTile w`: no cached tile error is the security error (the tile cache only ever caches `ReadRemote` failures);
    under it `checkTrees` returns the security error exactly when it has called `SecurityError`.
-/
import ModVerif.Proofs.ClientRuns
namespace ModVerif.ClientRefine
open ModVerif ModVerif.Client ModVerif.Tile


/-- the machine's view of a message: the empty message is `none` -/
def optB (b : Bytes) : Option Bytes := if b.isEmpty then none else some b

def unB : Option Bytes → Bytes
  | none => []
  | some b => b

theorem unB_optB (b : Bytes) : unB (optB b) = b := by
  cases b <;> simp [optB, unB]

theorem optB_nil : optB [] = none := rfl

theorem optB_none {b : Bytes} (h : optB b = none) : b = [] := by
  cases b <;> simp [optB] at h ⊢

theorem optB_some {b m : Bytes} (h : optB b = some m) : m = b ∧ b.isEmpty = false := by
  cases b <;> simp [optB] at h ⊢
  exact h.symm

theorem optB_inj {a b : Bytes} (h : optB a = optB b) : a = b := by
  have := congrArg unB h
  simpa [unB_optB] using this

theorem optB_isEmpty_false {b : Bytes} (h : b.isEmpty = false) : optB b = some b := by
  simp [optB, h]

/-- effects of the tile layer: reads and cache writes -/
def Quiet : Effect → Prop
  | .read _ _ _ => True
  | .writeCache _ _ => True
  | _ => False

/-- the successful configuration writes of a trace, oldest first, as the machine records them -/
def trWrites (tr : List Effect) : List (Option Bytes × Option Bytes) :=
  tr.filterMap fun
    | .writeConfig _ old new .ok => some (optB old, optB new)
    | _ => none

/-- the texts handed to `SecurityError`, oldest first -/
def trSecs (tr : List Effect) : List Bytes :=
  tr.filterMap fun
    | .securityError m => some m
    | _ => none

theorem trWrites_append (a b : List Effect) : trWrites (a ++ b) = trWrites a ++ trWrites b := by
  simp [trWrites, List.filterMap_append]

theorem trSecs_append (a b : List Effect) : trSecs (a ++ b) = trSecs a ++ trSecs b := by
  simp [trSecs, List.filterMap_append]

theorem trWrites_quiet (es : List Effect) (h : ∀ e ∈ es, Quiet e) : trWrites es = [] := by
  rw [trWrites, List.filterMap_eq_nil_iff]
  intro e he
  have := h e he
  cases e <;> first | rfl | exact this.elim

theorem trSecs_quiet (es : List Effect) (h : ∀ e ∈ es, Quiet e) : trSecs es = [] := by
  rw [trSecs, List.filterMap_eq_nil_iff]
  intro e he
  have := h e he
  cases e <;> first | rfl | exact this.elim

section
variable {σ H : Type}

/-- the operations of the tile layer and `SecurityError` do not touch the observation `cfg` of the environment state -/
structure CfgKeep (E : Env σ) (cfg : σ → Bytes) : Prop where
  readRemote : ∀ s p, cfg (E.readRemote s p).2 = cfg s
  readCache : ∀ s p, cfg (E.readCache s p).2 = cfg s
  writeCache : ∀ s f d, cfg (E.writeCache s f d) = cfg s
  securityError : ∀ s m, cfg (E.securityError s m) = cfg s

theorem cfgKeep_const (E : Env σ) : CfgKeep E (fun _ => ([] : Bytes)) := ⟨fun _ _ => rfl, fun _ _ => rfl, fun _ _ _ => rfl, fun _ _ => rfl⟩

/-- **The configuration file `<name>/latest` is one compare-and-swap cell** `cfg s` of the environment state: reads
return its content (or fail), `WriteConfig(old, new)` succeeds only if the content is `old` and then makes it `new`,
answers `ErrWriteConflict` only if the content is not `old`, and nothing else changes it. -/
structure CfgCell (E : Env σ) (name : Bytes) (cfg : σ → Bytes) : Prop where
  keep : CfgKeep E cfg
  readConfig_keeps : ∀ s, cfg (E.readConfig s (latestFile name)).2 = cfg s
  readConfig_val : ∀ s v, (E.readConfig s (latestFile name)).1 = some v → v = cfg s
  write_ok : ∀ s old new, (E.writeConfig s (latestFile name) old new).1 = .ok →
      cfg s = old ∧ cfg (E.writeConfig s (latestFile name) old new).2 = new
  write_conflict : ∀ s old new, (E.writeConfig s (latestFile name) old new).1 = .conflict → cfg s ≠ old
  write_error : ∀ s old new, (E.writeConfig s (latestFile name) old new).1 = .error →
      cfg (E.writeConfig s (latestFile name) old new).2 = cfg s

def NoSecTile (w : World σ H) : Prop := ∀ t, w.c.tileCache.lookup t ≠ some (.error .security)

/-- frame of the operations below `mergeLatestMem` -/
structure Fr (cfg : σ → Bytes) (w w' : World σ H) : Prop where
  verifiers : w'.c.verifiers = w.c.verifiers
  name : w'.c.name = w.c.name
  record : w'.c.record = w.c.record
  inited : w'.c.inited = w.c.inited
  latest : w'.c.latest = w.c.latest
  latestMsg : w'.c.latestMsg = w.c.latestMsg
  cfg : cfg w'.s = cfg w.s
  nosec : NoSecTile w → NoSecTile w'
  trace : ∃ es, w'.tr = w.tr ++ es ∧ ∀ e ∈ es, Quiet e

theorem Fr.refl (cfg : σ → Bytes) (w : World σ H) : Fr cfg w w :=
  ⟨rfl, rfl, rfl, rfl, rfl, rfl, rfl, id, [], by simp, by simp⟩

theorem Fr.trans {cfg : σ → Bytes} {w1 w2 w3 : World σ H} (a : Fr cfg w1 w2) (b : Fr cfg w2 w3) : Fr cfg w1 w3 := by
  obtain ⟨es1, e1, g1⟩ := a.trace
  obtain ⟨es2, e2, g2⟩ := b.trace
  refine ⟨b.verifiers.trans a.verifiers, b.name.trans a.name, b.record.trans a.record, b.inited.trans a.inited,
    b.latest.trans a.latest, b.latestMsg.trans a.latestMsg, b.cfg.trans a.cfg, fun h => b.nosec (a.nosec h),
    es1 ++ es2, by rw [e2, e1, List.append_assoc], ?_⟩
  intro e he
  rcases List.mem_append.mp he with h | h
  · exact g1 e h
  · exact g2 e h

variable {E : Env σ} {cfg : σ → Bytes}

theorem fr_readRemote (hE : CfgKeep E cfg) (w : World σ H) (p : Bytes) : Fr cfg w (readRemote E w p).2 :=
  ⟨rfl, rfl, rfl, rfl, rfl, rfl, hE.readRemote _ _, id, _, rfl, by simp [Quiet]⟩

theorem fr_readCache (hE : CfgKeep E cfg) (w : World σ H) (p : Bytes) : Fr cfg w (readCache E w p).2 :=
  ⟨rfl, rfl, rfl, rfl, rfl, rfl, hE.readCache _ _, id, _, rfl, by simp [Quiet]⟩

theorem fr_writeCache (hE : CfgKeep E cfg) (w : World σ H) (f d : Bytes) : Fr cfg w (writeCache E w f d) :=
  ⟨rfl, rfl, rfl, rfl, rfl, rfl, hE.writeCache _ _ _, id, _, rfl, by simp [Quiet]⟩

theorem fr_markTileSaved (w : World σ H) (t : Tile) : Fr cfg w (markTileSaved w t) :=
  ⟨rfl, rfl, rfl, rfl, rfl, rfl, rfl, id, [], by simp [markTileSaved], by simp⟩

theorem _root_.ModVerif.Client.TileOp.fr (hE : CfgKeep E cfg) {Wr : Tile → Bytes → Prop} {w w' : World σ H} (op : TileOp E Wr w w') :
    Fr cfg w w' := by
  cases op with
  | readCache t => exact fr_readCache hE _ _
  | readRemote t => exact fr_readRemote hE _ _
  | mark t => exact fr_markTileSaved _ t
  | memo t r hr =>
    refine ⟨rfl, rfl, rfl, rfl, rfl, rfl, rfl, fun hn u => ?_, [], by simp, by simp⟩
    simp only
    rw [lookup_cons_eq]
    split
    · exact fun h => hr (Option.some.inj h)
    · exact hn u
  | save t d _ => exact fr_writeCache hE _ _ _

theorem _root_.ModVerif.Client.Runs.fr (hE : CfgKeep E cfg) {Wr : Tile → Bytes → Prop} {w w' : World σ H} (h : Runs E Wr w w') : Fr cfg w w' :=
  h.lift (Fr.refl cfg) Fr.trans (Client.TileOp.fr hE)

/-! Under `NoSecTile` the tile layer does not RETURN the security error either. -/

theorem readTile_nosec (w : World σ H) (hn : NoSecTile w) (t : Tile) : (readTile E w t).1 ≠ .error .security := by
  unfold readTile
  split
  · rename_i r hr
    exact fun h => hn t (by rw [hr]; simp only at h; rw [h])
  · exact fun h => nomatch readTileWork_error w t _ h

theorem readTilesAll_nosec : ∀ (ts : List Tile) (w : World σ H), NoSecTile w →
    ∀ r ∈ (readTilesAll E w ts).1, r ≠ .error .security
  | [], _, _, r, hr => by simp [readTilesAll] at hr
  | t :: ts, w, hn, r, hr => by
    simp only [readTilesAll, List.mem_cons] at hr
    rcases hr with rfl | hr
    · exact readTile_nosec w hn t
    · exact readTilesAll_nosec ts _ (((runs_readTile (Wr := fun _ _ => True) w t).fr (cfgKeep_const E)).nosec hn) r hr

theorem firstError_nosec : ∀ (rs : List (Except Err Bytes)), (∀ r ∈ rs, r ≠ .error .security) →
    firstError rs ≠ .error .security := by
  intro rs
  induction rs with
  | nil => intro _ h; simp [firstError] at h
  | cons r rs ih =>
    intro h
    have ih' := ih (fun x hx => h x (List.mem_cons_of_mem _ hx))
    cases r with
    | error e =>
      simp only [firstError]
      intro hh
      cases hh
      exact h _ (List.mem_cons_self ..) rfl
    | ok d =>
      simp only [firstError]
      cases hr : firstError rs with
      | error e =>
        simp only
        intro hh
        cases hh
        exact ih' hr
      | ok ds => simp

theorem liftTlog_nosec {α : Type} (x : Except Tlog.Err α) : liftTlog x ≠ .error .security := by
  cases x <;> simp [liftTlog]

variable [DecidableEq H]

theorem readHashes_nosec (P : Params H) (w : World σ H) (hn : NoSecTile w) (tree : Head H) (indexes : List Nat) :
    (readHashes P E w tree indexes).1 ≠ .error .security := by
  simp only [Client.readHashes]
  have hfe : ∀ ts, (readTiles E w ts).1 ≠ .error .security := fun ts =>
    firstError_nosec _ (readTilesAll_nosec ts w hn)
  split
  · exact fun h => nomatch h
  · split
    · exact fun h => nomatch h
    · split
      · rename_i e he
        exact fun h => hfe _ (he.trans (by cases h; rfl))
      · split
        · exact fun h => nomatch h
        · split <;> exact liftTlog_nosec _

theorem treeHashVia_nosec (P : Params H) (w : World σ H) (hn : NoSecTile w) (n : Nat) (tree : Head H) :
    (treeHashVia P E w n tree).1 ≠ .error .security := by
  simp only [treeHashVia]
  split
  · exact fun h => nomatch h
  · split
    · exact fun h => nomatch h
    · split
      · rename_i e he
        exact fun h => readHashes_nosec P w hn tree _ (he.trans (by cases h; rfl))
      · exact liftTlog_nosec _

theorem checkTrees_cases (hE : CfgKeep E cfg) (P : Params H) (w : World σ H) (hn : NoSecTile w)
    (older : Head H) (olderNote : Bytes) (newer : Head H) (newerNote : Bytes) :
    ((checkTrees P E w older olderNote newer newerNote).1 ≠ .error .security ∧
      Fr cfg w (checkTrees P E w older olderNote newer newerNote).2) ∨
    ((checkTrees P E w older olderNote newer newerNote).1 = .error .security ∧
      ∃ (w1 : World σ H) (h : H) (tail : Bytes), Fr cfg w w1 ∧
        (checkTrees P E w older olderNote newer newerNote).2 =
          securityError E w1 (securityHead P olderNote newerNote h ++ tail)) := by
  have l1 := (runs_treeHashVia (E := E) P w older.n newer (savesOK_true P newer)).fr hE
  have hns := treeHashVia_nosec (E := E) P w hn older.n newer
  simp only [checkTrees]
  split
  · rename_i e he
    exact .inl ⟨fun h => hns (he.trans (by cases h; rfl)), l1⟩
  · split
    · exact .inl ⟨fun h => (nomatch h), l1⟩
    · exact .inr ⟨rfl, _, _, _, l1.trans ((runs_proveTreeVia P _ _ _ newer (savesOK_true P newer)).fr hE), rfl⟩

end
end ModVerif.ClientRefine
