/-
  C06, `checkModPath_iff` with nothing but the specification on its right-hand side (that is the "Full" of the
  `ModuleFull*` files and of `…_iff_full`: no model function occurs in the characterisation): "SplitPathVersion
  reports ok" is exactly the documented major-suffix rule, stated on the path alone (`PathSpec.MajorRuleOK`, no
  reference to `splitPathVersion`).
  Both directions come from the case and evaluation lemmas of Proofs/ModuleSplit.lean.
-/
import ModVerif.Model.Module
import ModVerif.Spec.PathSpec
import ModVerif.Proofs.ModuleSplit
import ModVerif.Proofs.ModuleMajor
import ModVerif.Proofs.ModuleSpec

/-! ### the documented rules, stated on the path alone (specification side) -/
namespace ModVerif.PathSpec
open ModVerif

/-- a path (not under gopkg.in) ends in a malformed major-version element: "/v" followed by a non-empty run
    of digits and dots that contains a dot ("/v2.1"), starts with '0' ("/v0", "/v02") or is "1" ("/v1"). -/
def BadSlashMajor (p : Bytes) : Prop :=
  ∃ pre n, p = pre ++ 47 :: 118 :: n ∧ n ≠ [] ∧ (∀ c ∈ n, isAsciiDigit c.toNat ∨ c = 46) ∧
    (46 ∈ n ∨ n.head? = some 48 ∨ n = [49])

/-- a gopkg.in path ends in ".vN" or ".vN-unstable" (N decimal without leading zero; ".v0-unstable" is excluded) -/
def GopkgPathOK (p : Bytes) : Prop :=
  ∃ pre n, Num n ∧ (p = pre ++ 46 :: 118 :: n ∨ (p = pre ++ 46 :: 118 :: (n ++ B "-unstable") ∧ n ≠ [48]))

/-- the documented major-version rule of CheckPath: outside gopkg.in no malformed "/vN" element at the end
    (no "/v0…", "/v1", leading zero or dotted major); under gopkg.in the path must end in ".vN[-unstable]". -/
def MajorRuleOK (p : Bytes) : Prop :=
  (isPrefixOfB (B "gopkg.in/") p = true → GopkgPathOK p) ∧
  (isPrefixOfB (B "gopkg.in/") p = false → ¬ BadSlashMajor p)

def FirstChar (r : Nat) : Prop := (97 ≤ r ∧ r ≤ 122) ∨ isAsciiDigit r ∨ r = 45 ∨ r = 46

/-- "The leading path element (up to the first slash, if any), by convention a domain name, must contain only
    lower-case ASCII letters, ASCII digits, dots (U+002E), and dashes (U+002D); it must contain at least one
    dot and cannot start with a dash." -/
def FirstElemOK (p : Bytes) : Prop :=
  46 ∈ (splitOn 47 p).headD [] ∧ ((splitOn 47 p).headD []).head? ≠ some 45 ∧
  ∀ r ∈ Utf8.runes ((splitOn 47 p).headD []), FirstChar r

end ModVerif.PathSpec

namespace ModVerif.Module
open ModVerif

theorem digdot_iff (c : UInt8) :
    (isDigit c || c == 46) = true ↔ (PathSpec.isAsciiDigit c.toNat ∨ c = 46) := by
  simp [isDigit_iff, PathSpec.isAsciiDigit]

theorem isDigit_iff_spec (c : UInt8) : isDigit c = true ↔ PathSpec.isAsciiDigit c.toNat := isDigit_iff c

theorem splitPathVersion_ok_iff_nongopkg (p : Bytes) (hg : isPrefixOfB (B "gopkg.in/") p = false) :
    (splitPathVersion p).2.2 = true ↔ ¬ PathSpec.BadSlashMajor p := by
  have hbad : ∀ n : Bytes, (n.contains 46 || n.head? == some 48 || n == [49]) = true ↔
      (46 ∈ n ∨ n.head? = some 48 ∨ n = [49]) := by
    intro n; simp [or_assoc]
  constructor
  · rintro hok ⟨pre, n, hp, hne, hn, hb⟩
    rw [splitPathVersion_compute p pre n hg hp hne (fun c hc => (digdot_iff c).mpr (hn c hc)),
      if_pos ((hbad n).mpr hb)] at hok
    cases hok
  · intro hnb
    rcases splitPathVersion_cases p hg with h0 | ⟨pre, n, hp, hne, hn⟩
    · rw [h0]
    · rw [splitPathVersion_compute p pre n hg hp hne hn]
      split
      · rename_i hc
        exact absurd ⟨pre, n, hp, hne, fun c hc => (digdot_iff c).mp (hn c hc), (hbad n).mp hc⟩ hnb
      · rfl

theorem splitGopkgIn_ok_iff (p : Bytes) (hg : isPrefixOfB (B "gopkg.in/") p = true) :
    (splitGopkgIn p).2.2 = true ↔ PathSpec.GopkgPathOK p := by
  constructor
  · intro hok
    rcases splitGopkgIn_cases p with h0 | ⟨pre, n, sfx, hp, hne, hn, hsfx⟩
    · rw [h0] at hok; cases hok
    · rw [splitGopkgIn_compute p pre n sfx hg hp hne hn hsfx] at hok
      split at hok
      · cases hok
      · rename_i hc
        have hz : n.head? = some 48 → n = [48] ∧ sfx = [] := by
          intro h48; simpa [h48] using hc
        refine ⟨pre, n, ⟨hne, fun d hd => (isDigit_iff d).mp (hn d hd), fun h => (hz h).1⟩, ?_⟩
        rcases hsfx with rfl | rfl
        · exact Or.inl (by simpa using hp)
        · refine Or.inr ⟨hp, fun h48 => ?_⟩
          have := (hz (by rw [h48]; rfl)).2
          rw [B_unstable] at this; cases this
  · rintro ⟨pre, n, hnum, hform⟩
    rcases hform with hp | ⟨hp, hn0⟩
    · have hc := splitGopkgIn_compute p pre n [] hg (by simpa using hp) hnum.1 (num_digits hnum) (Or.inl rfl)
      have hcond : ¬ (n.head? == some 48 && !(n == [48] && ([] : Bytes) == [])) = true := by
        intro hh
        simp only [Bool.and_eq_true, beq_iff_eq, Bool.not_eq_true', Bool.and_eq_false_iff] at hh
        have := hnum.2.2 hh.1
        rcases hh.2 with h | h
        · simp [this] at h
        · simp at h
      rw [if_neg hcond] at hc
      rw [hc]
    · have hc := splitGopkgIn_compute p pre n (B "-unstable") hg hp hnum.1 (num_digits hnum) (Or.inr rfl)
      have hcond : ¬ (n.head? == some 48 && !(n == [48] && B "-unstable" == [])) = true := by
        intro hh
        simp only [Bool.and_eq_true, beq_iff_eq] at hh
        exact hn0 (hnum.2.2 hh.1)
      rw [if_neg hcond] at hc
      rw [hc]

/-- `Props.C06.split_ok_iff` -/
theorem splitPathVersion_ok_iff (p : Bytes) :
    (splitPathVersion p).2.2 = true ↔ PathSpec.MajorRuleOK p := by
  unfold PathSpec.MajorRuleOK
  cases hg : isPrefixOfB (B "gopkg.in/") p
  · rw [splitPathVersion_ok_iff_nongopkg p hg]
    simp
  · have : splitPathVersion p = splitGopkgIn p := by unfold splitPathVersion; simp [hg]
    rw [this, splitGopkgIn_ok_iff p hg]
    simp

end ModVerif.Module
