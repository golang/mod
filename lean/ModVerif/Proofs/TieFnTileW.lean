/-
  The WORLD-MODE regeneration of `tileHashReader.ReadHashes` (Generated/FnTileW.lean) reduced to the pure regeneration
  (Generated/FnTile.lean): its loops are the pure loops — the world is only carried into the early-return values, where
  the pure version carries its effect log — and the whole function is `stagedW` over the pure one (`ReadHashes_staged`).
  Any world type, no hypothesis.
-/
import ModVerif.Generated.FnTileW
import ModVerif.Proofs.GoRtLemmas
import ModVerif.Proofs.GoRtLemmasInt
namespace ModVerif.TieFnTileW
open ModVerif ModVerif.GoRt
open ModVerif.Generated.Tile (Tile Tree TileReader)

abbrev Log := List (List Tile × List Bytes)

/-- an early return of the pure loop (value, effect log) as an early return of the world-mode loop (value, world) -/
def reW {A E W S : Type} (w : W) : Ctl (A × E) S → Ctl (A × W) S
  | .ret (a, _) => .ret (a, w)
  | .next s => .next s

def mapRet {A E W S : Type} (w : W) (x : M (Ctl (A × E) S)) : M (Ctl (A × W) S) :=
  match x with
  | .ok c => .ok (reW w c)
  | .error e => .error e

@[simp] theorem mapRet_error {A E W S : Type} (w : W) (e : Err) :
    mapRet (A := A) (E := E) (S := S) w (.error e) = .error e := rfl
@[simp] theorem mapRet_ok_ret {A E W S : Type} (w : W) (a : A) (l : E) :
    mapRet (S := S) w (.ok (.ret (a, l))) = .ok (.ret (a, w)) := rfl
@[simp] theorem mapRet_ok_next {A E W S : Type} (w : W) (s : S) :
    mapRet (A := A) (E := E) w (.ok (.next s)) = .ok (.next s) := rfl

theorem mapRet_bind {A E W S β : Type} (w : W) (x : M β) (f : β → M (Ctl (A × E) S)) :
    mapRet w (x >>= f) = x >>= fun b => mapRet w (f b) := by
  cases x <;> rfl

theorem bind_mapRet {A E W S β : Type} (w : W) (x : M (Ctl (A × E) S)) (g : Ctl (A × W) S → M β) :
    (mapRet w x >>= g) = x >>= fun c => g (reW w c) := by
  cases x <;> rfl

theorem mapRet_ite {A E W S : Type} (w : W) (c : Prop) [Decidable c] (a b : M (Ctl (A × E) S)) :
    mapRet w (if c then a else b) = if c then mapRet w a else mapRet w b := by
  split <;> rfl

section
variable {H : Type} [DecidableEq H] [Inhabited H] {W : Type}
  (height : W → M (Int × W)) (node : H → H → H) (ofBytes : Bytes → H)
  (readTiles : List Tile → W → M ((List Bytes × Option String) × W))
  (saveTiles : List Tile → List Bytes → W → M (Unit × W))

theorem loop5_eq (tiles : List Tile) (data : List Bytes) (w : W) (eff : Log) : ∀ (fuel : Nat) (i : Int),
    Generated.TileW.tileHashReader_ReadHashes_loop5 height node ofBytes readTiles saveTiles tiles data w fuel i =
      mapRet w (Generated.Tile.tileHashReader_ReadHashes_loop5 node ofBytes tiles data eff fuel i) := by
  intro fuel
  induction fuel with
  | zero => intro i; rfl
  | succ f ih =>
    intro i
    simp only [Generated.TileW.tileHashReader_ReadHashes_loop5, Generated.Tile.tileHashReader_ReadHashes_loop5, ih,
      mapRet_ite, mapRet_bind, mpure, mapRet_ok_ret, mapRet_ok_next]
theorem loop1_eq (r : Generated.TileW.tileHashReader H) (rp : Generated.Tile.tileHashReader H) (hr : r.tree = rp.tree)
    (h : Int) (stx : List Int) (w : W) (eff : Log) : ∀ (fuel : Nat) (i : Int) (a : List Int) (b : List (Tile × Int)) (c : List Tile),
    Generated.TileW.tileHashReader_ReadHashes_loop1 height node ofBytes readTiles saveTiles r h stx w fuel i a b c =
      Generated.Tile.tileHashReader_ReadHashes_loop1 node ofBytes rp h stx eff fuel i a b c := by
  intro fuel
  induction fuel with
  | zero => intros; rfl
  | succ f ih =>
    intro i a b c
    simp only [Generated.TileW.tileHashReader_ReadHashes_loop1, Generated.Tile.tileHashReader_ReadHashes_loop1, ih, hr]

theorem loop3_eq (r : Generated.TileW.tileHashReader H) (rp : Generated.Tile.tileHashReader H) (hr : r.tree = rp.tree)
    (order : List (Tile × Int)) (i1 : Int) (tile1 : Tile) (w : W) (eff : Log) : ∀ (fuel : Nat) (a : List Int) (k : Int),
    Generated.TileW.tileHashReader_ReadHashes_loop3 height node ofBytes readTiles saveTiles r order i1 tile1 w fuel a k =
      Generated.Tile.tileHashReader_ReadHashes_loop3 node ofBytes rp order i1 tile1 eff fuel a k := by
  intro fuel
  induction fuel with
  | zero => intros; rfl
  | succ f ih =>
    intro a k
    simp only [Generated.TileW.tileHashReader_ReadHashes_loop3, Generated.Tile.tileHashReader_ReadHashes_loop3, ih, hr]

theorem loop4_eq (r : Generated.TileW.tileHashReader H) (rp : Generated.Tile.tileHashReader H) (hr : r.tree = rp.tree)
    (i1 x1 : Int) (tile1 : Tile) (w : W) (eff : Log) :
    ∀ (fuel : Nat) (b : List (Tile × Int)) (a : List Int) (c : List Tile) (k : Int),
    Generated.TileW.tileHashReader_ReadHashes_loop4 height node ofBytes readTiles saveTiles r i1 x1 tile1 w fuel b a c k =
      mapRet w (Generated.Tile.tileHashReader_ReadHashes_loop4 node ofBytes rp i1 x1 tile1 eff fuel b a c k) := by
  intro fuel
  induction fuel with
  | zero => intros; rfl
  | succ f ih =>
    intro b a c k
    simp only [Generated.TileW.tileHashReader_ReadHashes_loop4, Generated.Tile.tileHashReader_ReadHashes_loop4, ih, hr,
      mapRet_ite, mapRet_bind, mpure, mapRet_ok_ret, mapRet_ok_next]
theorem loop2_eq (r : Generated.TileW.tileHashReader H) (rp : Generated.Tile.tileHashReader H) (hr : r.tree = rp.tree)
    (indexes : List Int) (h : Int) (w : W) (eff : Log) :
    ∀ (fuel : Nat) (i : Int) (a : List Int) (b : List (Tile × Int)) (c : List Tile),
    Generated.TileW.tileHashReader_ReadHashes_loop2 height node ofBytes readTiles saveTiles r indexes h w fuel i a b c =
      mapRet w (Generated.Tile.tileHashReader_ReadHashes_loop2 node ofBytes rp indexes h eff fuel i a b c) := by
  intro fuel
  induction fuel with
  | zero => intros; rfl
  | succ f ih =>
    intro i a b c
    simp only [Generated.TileW.tileHashReader_ReadHashes_loop2, Generated.Tile.tileHashReader_ReadHashes_loop2, ih, hr,
      loop3_eq height node ofBytes readTiles saveTiles r rp hr _ _ _ w eff,
      loop4_eq height node ofBytes readTiles saveTiles r rp hr _ _ _ w eff,
      mapRet_ite, mapRet_bind, mpure, mapRet_ok_ret, mapRet_ok_next]
    split
    · congr 1; funext x1
      congr 1; funext t12
      split
      · rfl
      · congr 1; funext t13
        congr 1; funext x4
        congr 1; funext t16
        rw [bind_mapRet]
        congr 1; funext c
        cases c with
        | ret rv => obtain ⟨v, e⟩ := rv; rfl
        | next s => obtain ⟨s1, s2, s3, s4⟩ := s; rfl
    · rfl
theorem loop6_eq (tiles : List Tile) (stx sto : List Int) (data : List Bytes) (w : W) (eff : Log) :
    ∀ (fuel : Nat) (th : H) (i : Int),
    Generated.TileW.tileHashReader_ReadHashes_loop6 height node ofBytes readTiles saveTiles tiles stx sto data w fuel th i =
      mapRet w (Generated.Tile.tileHashReader_ReadHashes_loop6 node ofBytes tiles stx sto data eff fuel th i) := by
  intro fuel
  induction fuel with
  | zero => intros; rfl
  | succ f ih =>
    intro th i
    simp only [Generated.TileW.tileHashReader_ReadHashes_loop6, Generated.Tile.tileHashReader_ReadHashes_loop6, ih,
      mapRet_ite, mapRet_bind, mpure, mapRet_ok_ret, mapRet_ok_next]

theorem loop7_eq (r : Generated.TileW.tileHashReader H) (rp : Generated.Tile.tileHashReader H) (hr : r.tree = rp.tree)
    (indexes : List Int) (order : List (Tile × Int)) (tiles : List Tile) (data : List Bytes) (w : W) (eff : Log) :
    ∀ (fuel : Nat) (i : Int),
    Generated.TileW.tileHashReader_ReadHashes_loop7 height node ofBytes readTiles saveTiles r indexes order tiles data w fuel i =
      mapRet w (Generated.Tile.tileHashReader_ReadHashes_loop7 node ofBytes rp indexes order tiles data eff fuel i) := by
  intro fuel
  induction fuel with
  | zero => intros; rfl
  | succ f ih =>
    intro i
    simp only [Generated.TileW.tileHashReader_ReadHashes_loop7, Generated.Tile.tileHashReader_ReadHashes_loop7, ih, hr,
      mapRet_ite, mapRet_bind, mpure, mapRet_ok_ret, mapRet_ok_next]

theorem loop8_eq (r : Generated.TileW.tileHashReader H) (rp : Generated.Tile.tileHashReader H)
    (indexes : List Int) (tiles : List Tile) (ito : List Int) (data : List Bytes) (w : W) (eff : Log) :
    ∀ (fuel : Nat) (i : Int) (hs : List H),
    Generated.TileW.tileHashReader_ReadHashes_loop8 height node ofBytes readTiles saveTiles r indexes tiles ito data w fuel i hs =
      mapRet w (Generated.Tile.tileHashReader_ReadHashes_loop8 node ofBytes rp indexes tiles ito data eff fuel i hs) := by
  intro fuel
  induction fuel with
  | zero => intros; rfl
  | succ f ih =>
    intro i hs
    simp only [Generated.TileW.tileHashReader_ReadHashes_loop8, Generated.Tile.tileHashReader_ReadHashes_loop8, ih,
      mapRet_ite, mapRet_bind, mpure, mapRet_ok_ret, mapRet_ok_next]
end

/-! ### the pure loops return the effect log they were given -/

theorem ret_log {A E S : Type} (eff : E) (x : M (Ctl (A × E) S)) (hx : x = mapRet eff x) (a : A) (e : E)
    (h : x = .ok (.ret (a, e))) : e = eff := by
  rw [h] at hx
  simp only [mapRet_ok_ret, Except.ok.injEq, Ctl.ret.injEq, Prod.mk.injEq, true_and] at hx
  exact hx

section
variable {H : Type} [DecidableEq H] [Inhabited H] (node : H → H → H) (ofBytes : Bytes → H)

theorem loop5_fix (tiles : List Tile) (data : List Bytes) (eff : Log) : ∀ (fuel : Nat) (i : Int),
    Generated.Tile.tileHashReader_ReadHashes_loop5 node ofBytes tiles data eff fuel i =
      mapRet eff (Generated.Tile.tileHashReader_ReadHashes_loop5 node ofBytes tiles data eff fuel i) := by
  intro fuel
  induction fuel with
  | zero => intro i; rfl
  | succ f ih =>
    intro i
    simp only [Generated.Tile.tileHashReader_ReadHashes_loop5, mapRet_ite, mapRet_bind, mpure, mapRet_ok_ret,
      mapRet_ok_next, ← ih]

theorem loop6_fix (tiles : List Tile) (stx sto : List Int) (data : List Bytes) (eff : Log) :
    ∀ (fuel : Nat) (th : H) (i : Int),
    Generated.Tile.tileHashReader_ReadHashes_loop6 node ofBytes tiles stx sto data eff fuel th i =
      mapRet eff (Generated.Tile.tileHashReader_ReadHashes_loop6 node ofBytes tiles stx sto data eff fuel th i) := by
  intro fuel
  induction fuel with
  | zero => intros; rfl
  | succ f ih =>
    intro th i
    simp only [Generated.Tile.tileHashReader_ReadHashes_loop6, mapRet_ite, mapRet_bind, mpure, mapRet_ok_ret,
      mapRet_ok_next, ← ih]

theorem loop7_fix (rp : Generated.Tile.tileHashReader H)
    (indexes : List Int) (order : List (Tile × Int)) (tiles : List Tile) (data : List Bytes) (eff : Log) :
    ∀ (fuel : Nat) (i : Int),
    Generated.Tile.tileHashReader_ReadHashes_loop7 node ofBytes rp indexes order tiles data eff fuel i =
      mapRet eff (Generated.Tile.tileHashReader_ReadHashes_loop7 node ofBytes rp indexes order tiles data eff fuel i) := by
  intro fuel
  induction fuel with
  | zero => intros; rfl
  | succ f ih =>
    intro i
    simp only [Generated.Tile.tileHashReader_ReadHashes_loop7, mapRet_ite, mapRet_bind, mpure, mapRet_ok_ret,
      mapRet_ok_next, ← ih]

theorem loop8_fix (rp : Generated.Tile.tileHashReader H)
    (indexes : List Int) (tiles : List Tile) (ito : List Int) (data : List Bytes) (eff : Log) :
    ∀ (fuel : Nat) (i : Int) (hs : List H),
    Generated.Tile.tileHashReader_ReadHashes_loop8 node ofBytes rp indexes tiles ito data eff fuel i hs =
      mapRet eff (Generated.Tile.tileHashReader_ReadHashes_loop8 node ofBytes rp indexes tiles ito data eff fuel i hs) := by
  intro fuel
  induction fuel with
  | zero => intros; rfl
  | succ f ih =>
    intro i hs
    simp only [Generated.Tile.tileHashReader_ReadHashes_loop8, mapRet_ite, mapRet_bind, mpure, mapRet_ok_ret,
      mapRet_ok_next, ← ih]

theorem loop4_fix (rp : Generated.Tile.tileHashReader H) (i1 x1 : Int) (tile1 : Tile) (eff : Log) :
    ∀ (fuel : Nat) (b : List (Tile × Int)) (a : List Int) (c : List Tile) (k : Int),
    Generated.Tile.tileHashReader_ReadHashes_loop4 node ofBytes rp i1 x1 tile1 eff fuel b a c k =
      mapRet eff (Generated.Tile.tileHashReader_ReadHashes_loop4 node ofBytes rp i1 x1 tile1 eff fuel b a c k) := by
  intro fuel
  induction fuel with
  | zero => intros; rfl
  | succ f ih =>
    intro b a c k
    simp only [Generated.Tile.tileHashReader_ReadHashes_loop4, mapRet_ite, mapRet_bind, mpure, mapRet_ok_ret,
      mapRet_ok_next, ← ih]

theorem loop2_fix (rp : Generated.Tile.tileHashReader H) (indexes : List Int) (h : Int) (eff : Log) :
    ∀ (fuel : Nat) (i : Int) (a : List Int) (b : List (Tile × Int)) (c : List Tile),
    Generated.Tile.tileHashReader_ReadHashes_loop2 node ofBytes rp indexes h eff fuel i a b c =
      mapRet eff (Generated.Tile.tileHashReader_ReadHashes_loop2 node ofBytes rp indexes h eff fuel i a b c) := by
  intro fuel
  induction fuel with
  | zero => intros; rfl
  | succ f ih =>
    intro i a b c
    simp only [Generated.Tile.tileHashReader_ReadHashes_loop2, mapRet_ite, mapRet_bind, mpure, mapRet_ok_ret,
      mapRet_ok_next]
    split
    · congr 1; funext x1
      congr 1; funext t12
      split
      · rfl
      · congr 1; funext t13
        congr 1; funext x4
        congr 1; funext t16
        have h4 := loop4_fix node ofBytes rp i x1 t13.1 eff f b x4.1 c t16
        generalize Generated.Tile.tileHashReader_ReadHashes_loop4 node ofBytes rp i x1 t13.1 eff f b x4.1 c t16 = x at h4 ⊢
        cases x with
        | error e => rfl
        | ok cc =>
          cases cc with
          | ret rv =>
            obtain ⟨v, e⟩ := rv
            have := ret_log eff _ h4 v e rfl
            subst this
            rfl
          | next s =>
            obtain ⟨s1, s2, s3, s4⟩ := s
            exact ih _ _ _ _
    · rfl

/-! ### agreement up to the choice of the `M`-error -/

/-- `x` and `y` have the same successful results (and fail together, possibly with different `M`-errors) -/
def EqE {α : Type} (x y : M α) : Prop := ∀ a, x = .ok a ↔ y = .ok a

theorem EqE.refl {α : Type} (x : M α) : EqE x x := fun _ => Iff.rfl

theorem EqE.of_eq {α : Type} {x y : M α} (h : x = y) : EqE x y := by subst h; exact EqE.refl _

theorem EqE.errors {α : Type} (e e' : Err) : EqE (.error e : M α) (.error e') := by
  intro a; constructor <;> intro h <;> cases h

theorem EqE.bind {α β : Type} (x : M α) (f g : α → M β) (h : ∀ a, x = .ok a → EqE (f a) (g a)) :
    EqE (x >>= f) (x >>= g) := by
  cases x with
  | error e => exact EqE.refl _
  | ok a => exact h a rfl

theorem EqE.ite {α : Type} (c : Prop) [Decidable c] (a b a' b' : M α) (h1 : EqE a a') (h2 : EqE b b') :
    EqE (if c then a else b) (if c then a' else b') := by
  split
  · exact h1
  · exact h2

theorem EqE.ok_left {α : Type} {x y : M α} (h : EqE x y) (a : α) (hy : y = .ok a) : x = .ok a := (h a).2 hy

theorem EqE.error_left {α : Type} {x y : M α} (h : EqE x y) (e : Err) (hy : y = .error e) : ∃ e', x = .error e' := by
  cases hx : x with
  | error e' => exact ⟨e', rfl⟩
  | ok a => have := (h a).1 hx; rw [hy] at this; cases this

/-! ### the reduction -/

/-- the `ReadTiles` function of the reader the pure version is run with: what the world function `readTiles` answers in the
    world `w1` (the world after the `Height` call; an `M`-error of `readTiles` aborts the world-mode function and is
    presented here as an error text that is never looked at) -/
def readTilesAt {W : Type} (readTiles : List Tile → W → M ((List Bytes × Option String) × W)) (w1 : W) :
    List Tile → List Bytes × Option String := fun ts =>
  match readTiles ts w1 with
  | .ok (de, _) => de
  | .error _ => ([], some "aborted")

/-- the planning phase of the pure `ReadHashes` (its code up to the `ReadTiles` call): `some tiles` iff `ReadTiles` is
    called, and then with `tiles` -/
def planG (fuel : Nat) (rp : Generated.Tile.tileHashReader H) (indexes : List Int) : M (Option (List Tile)) := do
  let stx ← Generated.Tlog.subTreeIndex fuel 0 rp.tree.N []
  let sto ← makeList (len stx) (0 : Int)
  let (_, _, order, tiles) ← Generated.Tile.tileHashReader_ReadHashes_loop1 node ofBytes rp rp.tr.Height stx [] fuel 0 sto [] []
  let ito ← makeList (len indexes) (0 : Int)
  let r22 ← Generated.Tile.tileHashReader_ReadHashes_loop2 node ofBytes rp indexes rp.tr.Height [] fuel 0 ito order tiles
  match r22 with
  | .ret _ => pure none
  | .next (_, _, _, tiles) => if len stx = 0 then pure none else pure (some tiles)

/-- the world after a run whose pure counterpart has effect log `log`: `SaveTiles` on each entry -/
def saveLog {W : Type} (saveTiles : List Tile → List Bytes → W → M (Unit × W)) : Log → W → M W
  | [], w => .ok w
  | (ts, ds) :: rest, w =>
    match saveTiles ts ds w with
    | .error e => .error e
    | .ok (_, w') => saveLog saveTiles rest w'

def finishW {W A : Type} (saveTiles : List Tile → List Bytes → W → M (Unit × W)) (w : W) (x : M (A × Log)) : M (A × W) :=
  match x with
  | .error e => .error e
  | .ok (res, log) =>
    match saveLog saveTiles log w with
    | .error e => .error e
    | .ok w' => .ok (res, w')

/-- the right-hand side of the reduction, after the `Height` call returned `(h, w1)` -/
def stagedW {W : Type} (readTiles : List Tile → W → M ((List Bytes × Option String) × W))
    (saveTiles : List Tile → List Bytes → W → M (Unit × W)) (fuel : Nat) (rp : Generated.Tile.tileHashReader H)
    (indexes : List Int) (w1 : W) : M ((List H × Option String) × W) :=
  match planG node ofBytes fuel rp indexes with
  | .error e => .error e
  | .ok none => finishW saveTiles w1 (Generated.Tile.tileHashReader_ReadHashes node ofBytes fuel rp indexes)
  | .ok (some tiles) =>
    match readTiles tiles w1 with
    | .error e => .error e
    | .ok (_, w2) => finishW saveTiles w2 (Generated.Tile.tileHashReader_ReadHashes node ofBytes fuel rp indexes)

theorem finishW_bind {W A β : Type} (saveTiles : List Tile → List Bytes → W → M (Unit × W)) (w : W) (x : M β)
    (f : β → M (A × Log)) : finishW saveTiles w (x >>= f) = x >>= fun b => finishW saveTiles w (f b) := by
  cases x <;> rfl

theorem finishW_ite {W A : Type} (saveTiles : List Tile → List Bytes → W → M (Unit × W)) (w : W) (c : Prop) [Decidable c]
    (a b : M (A × Log)) :
    finishW saveTiles w (if c then a else b) = if c then finishW saveTiles w a else finishW saveTiles w b := by
  split <;> rfl

@[simp] theorem finishW_ok_nil {W A : Type} (saveTiles : List Tile → List Bytes → W → M (Unit × W)) (w : W) (res : A) :
    finishW saveTiles w (.ok (res, [])) = .ok (res, w) := rfl

@[simp] theorem finishW_error {W A : Type} (saveTiles : List Tile → List Bytes → W → M (Unit × W)) (w : W) (e : Err) :
    finishW (A := A) saveTiles w (.error e) = .error e := rfl

theorem finishW_ok_one {W A : Type} (saveTiles : List Tile → List Bytes → W → M (Unit × W)) (w : W) (res : A)
    (ts : List Tile) (ds : List Bytes) :
    finishW saveTiles w (.ok (res, [(ts, ds)])) = (saveTiles ts ds w >>= fun t => pure (res, t.2)) := by
  simp only [finishW, saveLog]
  cases saveTiles ts ds w with
  | error e => rfl
  | ok v => obtain ⟨u, w'⟩ := v; rfl

theorem makeList_len {α β : Type} (l : List β) (z : α) : makeList (len l) z = .ok (List.replicate l.length z) :=
  makeList_natCast l.length z

variable {W : Type} (height : W → M (Int × W))
  (readTiles : List Tile → W → M ((List Bytes × Option String) × W))
  (saveTiles : List Tile → List Bytes → W → M (Unit × W))

theorem ReadHashes_staged (fuel : Nat) (r : Generated.TileW.tileHashReader H) (rp : Generated.Tile.tileHashReader H)
    (indexes : List Int) (w w1 : W) (h : Int) (hh : height w = .ok (h, w1)) (hr : r.tree = rp.tree)
    (hH : rp.tr.Height = h) (hRT : rp.tr.ReadTiles = readTilesAt readTiles w1) :
    EqE (Generated.TileW.tileHashReader_ReadHashes height node ofBytes readTiles saveTiles fuel r indexes w)
      (stagedW node ofBytes readTiles saveTiles fuel rp indexes w1) := by
  unfold Generated.TileW.tileHashReader_ReadHashes stagedW planG Generated.Tile.tileHashReader_ReadHashes
  simp only [hh, mbind_ok, hr, hH,
    loop1_eq height node ofBytes readTiles saveTiles r rp hr _ _ _ ([] : Log),
    loop2_eq height node ofBytes readTiles saveTiles r rp hr _ _ _ ([] : Log)]
  cases h1 : Generated.Tlog.subTreeIndex fuel 0 rp.tree.N [] with
  | error e => exact EqE.refl _
  | ok stx =>
    simp only [mbind_ok]
    cases h2 : makeList (len stx) (0 : Int) with
    | error e => exact EqE.refl _
    | ok sto0 =>
      simp only [mbind_ok]
      cases h3 : Generated.Tile.tileHashReader_ReadHashes_loop1 node ofBytes rp h stx [] fuel 0 sto0 [] [] with
      | error e => exact EqE.refl _
      | ok v3 =>
        obtain ⟨i3, sto, order, tiles0⟩ := v3
        simp only [mbind_ok]
        cases h4 : makeList (len indexes) (0 : Int) with
        | error e => exact EqE.refl _
        | ok ito0 =>
          simp only [mbind_ok]
          cases h5 : Generated.Tile.tileHashReader_ReadHashes_loop2 node ofBytes rp indexes h [] fuel 0 ito0 order tiles0 with
          | error e => exact EqE.refl _
          | ok v5 =>
            cases v5 with
            | ret rv =>
              obtain ⟨res, lg⟩ := rv
              have := ret_log [] _ (loop2_fix node ofBytes rp indexes h [] fuel 0 ito0 order tiles0) _ _ h5
              subst this
              exact EqE.refl _
            | next s =>
              obtain ⟨i5, ito, order, tiles⟩ := s
              simp only [mbind_ok, mapRet_ok_next, mpure]
              by_cases hs0 : len stx = 0
              · simp only [hs0, decide_true, if_true, makeList_len, mbind_ok, finishW_ok_nil]
                exact EqE.refl _
              · simp only [hs0, decide_false, Bool.false_eq_true, if_false]
                cases h6 : readTiles tiles w1 with
                | error e => exact EqE.refl _
                | ok v6 =>
                  obtain ⟨⟨data, err⟩, w2⟩ := v6
                  have hrt : rp.tr.ReadTiles tiles = (data, err) := by rw [hRT]; simp only [readTilesAt, h6]
                  simp only [mbind_ok, hrt, finishW_ite, finishW_bind, finishW_ok_nil, List.nil_append, makeList_len,
                    loop5_eq height node ofBytes readTiles saveTiles _ _ _ ([] : Log),
                    loop6_eq height node ofBytes readTiles saveTiles _ _ _ _ _ ([] : Log),
                    loop7_eq height node ofBytes readTiles saveTiles r rp hr _ _ _ _ _ ([] : Log),
                    loop8_eq height node ofBytes readTiles saveTiles r rp _ _ _ _ _ ([(tiles, data)] : Log),
                    bind_mapRet]
                  apply EqE.ite _ _ _ _ _ (EqE.refl _)
                  apply EqE.ite _ _ _ _ _ (EqE.refl _)
                  apply EqE.bind; intro c5 hc5
                  cases c5 with
                  | ret rv =>
                    obtain ⟨v, e⟩ := rv
                    have := ret_log [] _ (loop5_fix node ofBytes tiles data [] fuel 0) _ _ hc5
                    subst this
                    exact EqE.refl _
                  | next i5' =>
                    simp only [reW, finishW_bind, finishW_ite, finishW_ok_nil]
                    apply EqE.bind; intro t35 _
                    apply EqE.bind; intro t36 _
                    apply EqE.bind; intro t37 _
                    apply EqE.bind; intro t38 _
                    apply EqE.bind; intro t39 _
                    apply EqE.bind; intro t40 _
                    apply EqE.bind; intro t41 _
                    apply EqE.bind; intro t42 _
                    apply EqE.bind; intro t43 _
                    apply EqE.ite _ _ _ _ _ (EqE.refl _)
                    apply EqE.bind; intro t44 _
                    apply EqE.bind; intro c6 hc6
                    cases c6 with
                    | ret rv =>
                      obtain ⟨v, e⟩ := rv
                      have := ret_log [] _ (loop6_fix node ofBytes tiles stx sto data [] fuel t43.1 t44) _ _ hc6
                      subst this
                      exact EqE.refl _
                    | next s6 =>
                      obtain ⟨th, i6⟩ := s6
                      simp only [finishW_bind, finishW_ite, finishW_ok_nil]
                      apply EqE.ite _ _ _ _ _ (EqE.refl _)
                      apply EqE.bind; intro c7 hc7
                      cases c7 with
                      | ret rv =>
                        obtain ⟨v, e⟩ := rv
                        have := ret_log [] _ (loop7_fix node ofBytes rp indexes order tiles data [] fuel (len tiles0)) _ _ hc7
                        subst this
                        exact EqE.refl _
                      | next i7 =>
                        simp only [finishW_bind]
                        have h8fix := loop8_fix node ofBytes rp indexes tiles ito data [(tiles, data)] fuel 0
                          (List.replicate indexes.length default)
                        generalize Generated.Tile.tileHashReader_ReadHashes_loop8 node ofBytes rp indexes tiles ito data
                          [(tiles, data)] fuel 0 (List.replicate indexes.length default) = x8 at h8fix ⊢
                        cases x8 with
                        | error e8 =>
                          cases saveTiles tiles data w2 with
                          | error e => exact EqE.errors _ _
                          | ok v => exact EqE.refl _
                        | ok c8 =>
                          cases c8 with
                          | ret rv =>
                            obtain ⟨v, e⟩ := rv
                            have := ret_log _ _ h8fix v e rfl
                            subst this
                            simp only [mbind_ok, finishW_ok_one]
                            cases saveTiles tiles data w2 with
                            | error e => exact EqE.refl _
                            | ok v => exact EqE.refl _
                          | next s8 =>
                            obtain ⟨i8, hashes⟩ := s8
                            simp only [mbind_ok, finishW_ok_one]
                            cases saveTiles tiles data w2 with
                            | error e => exact EqE.refl _
                            | ok v => exact EqE.refl _
end
end ModVerif.TieFnTileW
