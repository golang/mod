/-
  C15 `typed_eq_reparse` along sessions, and `GoodBlocks` as an invariant of sessions.

  The start: a go.mod strictly parsed with any version fixer that never answers empty (`FixOK fix`, no fixer included)
  gives `Start f`: the tree invariant after `load`, the refinement's start condition, block verbs on all blocks (the
  statement loop reports `unknown block type` for anything else, `addStmts_gb`; `fixRetract` rewrites tokens of LINES
  only; `load` renumbers).  A theorem about STATES, `reparse_of_run`: from a state with `Inv`, settable markers and
  `GoodBlocks`, after any statically valid session and the final Cleanup, the strict re-parse of the formatted tree reads
  the typed lists (`runOps_gb`, then `reparse_of_inv`).  The re-parse is WITHOUT a fixer: the versions of the typed file
  are already fixed.  An outcome of `sessionMod` is unfolded by `sessionMod_some` (Proofs/EditModel.lean).  Every session
  form of the property is a few lines from these; readable values at the end come from the starting file and the
  operation list by `Start.absOK`.
-/
import ModVerif.Proofs.EditGoodBlocksB
import ModVerif.Proofs.EditReparseF
import ModVerif.Proofs.EditStartParse
namespace ModVerif.Modfile.Edit
open ModVerif ModVerif.Modfile ModVerif.EditSpec ModVerif.Proofs.ModfileC20

theorem addStmts_gb {fix : Option Fixer} (hne : Proofs.ModfileFmtDir.FixNE fix)
    (xs : List Expr) (st st' : AddState) (xs' : List Expr) (h : addStmts fix true st xs = (st', xs')) (he : st'.errsRev = []) :
    GB blockVerbs xs' := by
  rw [addStmts_eq_walk] at h
  refine (gb_iff _).2 (walkStmts_known (ok := (·.errsRev = [])) ?_ ?_ xs st st' xs' h he).2
  · exact fun _ _ _ _ _ h => (addsOne_fileAdd hne _ _ _ _ _ _ _ rfl h).1
  · exact fun st p => err_ne st p _

theorem gb_fixRetractLoop (path : Bytes) (fx : Fixer) : ∀ (rs : List Retract) (fs : FileSyntax) (e : List RuleErr),
    GB blockVerbs fs.stmts → GB blockVerbs (fixRetractLoop path fx rs fs e).2.1.stmts := by
  intro rs
  induction rs with
  | nil => intro fs e h; exact h
  | cons r rest ih =>
    intro fs e h
    rw [fixRetractLoop_cons]
    cases hf : fs.findLine r.lineId with
    | none => exact ih _ _ h
    | some l => exact ih _ _ (gb_updateLine _ _ _ h)

theorem gb_fixRetract (st : AddState) (fix : Option Fixer) (h : GB blockVerbs st.file.syn.stmts) : GB blockVerbs (fixRetract st fix).file.syn.stmts := by
  unfold fixRetract
  cases fix with
  | none => exact h
  | some fx =>
    simp only
    cases hr : st.file.retract with
    | nil => exact h
    | cons r rs =>
      simp only
      have key : ∀ path : Bytes, GB blockVerbs (if path.isEmpty = true then
            st.err ((Option.map (fun x => x.start) (st.file.syn.findLine r.lineId)).getD { }) RuleErrKind.retractNoModule
          else { file := { st.file with retract := (fixRetractLoop path fx (r :: rs) st.file.syn st.errsRev).1,
                                        syn := (fixRetractLoop path fx (r :: rs) st.file.syn st.errsRev).2.1 },
                 errsRev := (fixRetractLoop path fx (r :: rs) st.file.syn st.errsRev).2.2 : AddState }).file.syn.stmts := by
        intro path
        split
        · exact h
        · exact gb_fixRetractLoop _ _ _ _ _ h
      split
      · exact key _
      · exact key _

/-- ★ `go ( … )`, `toolchain ( … )` and blocks of unknown verbs are `unknown block type` errors of the strict parser
    (Props/C15 `parsed_goodBlocks_fix`) -/
theorem SFix.parseStrict_goodBlocks_fix {fix : Option Fixer} (hfx : SFix.FixOK fix) {name data : Bytes} {f : File}
    (h : parseToFile name data fix true = .ok f) : GoodBlocks f.syn.stmts := by
  obtain ⟨fs, st, stmts, _, hA, he0, _, rfl⟩ := SFix.parseToFile_strict_ok h
  exact (gb_iff _).1 (gb_fixRetract _ fix (addStmts_gb hfx.ne fs.stmts _ st stmts hA he0))

theorem parseStrict_goodBlocks {name data : Bytes} {f : File} (h : parseToFile name data none true = .ok f) :
    GoodBlocks f.syn.stmts :=
  SFix.parseStrict_goodBlocks_fix SFix.fixOK_none h

theorem goodBlocks_load (f : File) : GoodBlocks (load f).f.syn.stmts ↔ GoodBlocks f.syn.stmts :=
  ((gb_iff _).symm.trans (gb_shift f.syn)).trans (gb_iff _)

theorem goodBlocksB_iff (stmts : List Expr) : goodBlocksB stmts = true ↔ GoodBlocks stmts :=
  (gb_all_iff blockVerbs stmts).trans (gb_iff _)

theorem goodBlocksB_sound {stmts : List Expr} (h : goodBlocksB stmts = true) : GoodBlocks stmts := (goodBlocksB_iff _).1 h

/-- what a session needs of the file it starts from -/
structure Start (f : File) : Prop where
  inv : Inv (load f)
  ok : StartOK f
  gb : GoodBlocks (load f).f.syn.stmts

theorem Start.of_parse {fix : Option Fixer} (hfx : SFix.FixOK fix) {name data : Bytes} {f : File}
    (h : parseToFile name data fix true = .ok f) (hk : WellFormedKeys f) (hs : NoBlockSuffix f.syn) : Start f :=
  ⟨SFix.parseStrict_inv_fix hfx h hk hs, SFix.parseStrict_startOK_fix hfx h hk,
   (goodBlocks_load f).2 (SFix.parseStrict_goodBlocks_fix hfx h)⟩

/-- ★ the theorem about states of which every session form below is an instance -/
theorem reparse_of_run (name' : Bytes) (e e' : EFile) (ops : List Op) (res : List Bool) (hi : Inv e)
    (hm : MarkersSettable e.f.syn.stmts) (hgb : GoodBlocks e.f.syn.stmts) (hv : StaticValid false ops)
    (h : runOps applyMod e ops [] 0 = .done e' res) :
    (Inv e' ∧ GoodBlocks e'.f.syn.stmts) ∧ Inv (cleanup e') ∧ GoodBlocks (cleanup e').f.syn.stmts ∧
    (AbsOK (absOf (cleanup e').f) → comShapeB (cleanup e').f.syn = true →
      ∃ g, parseStrict name' (format (cleanup e').f.syn) none = .ok g ∧ AbsPerm (absOf g) (absOf (cleanup e').f)) := by
  rcases runOps_gb ops e [] 0 e' res (StaticValid.runValidLive ops false e hv (fun hc => by cases hc)) hi hm
    ((gb_iff _).2 hgb) h with ⟨h1, _, h3⟩
  have hgb' := (gb_iff _).1 (gb_cleanup e' h3)
  exact ⟨⟨h1, (gb_iff _).1 h3⟩, cleanup_inv e' h1, hgb', fun hok hcom =>
    reparse_of_inv name' (cleanup e') (cleanup_inv e' h1) (cleanup_allLive e') (vok_of_absOK hok) (cleanup_linesLive e') hgb' hcom⟩

theorem Start.absOK {f : File} (hst : Start f) (hstart : AbsOK (absOf f)) {ops : List Op} (hv : StaticValid false ops)
    (hmod : ∀ op ∈ ops, IsModOp op) (hargs : ∀ op ∈ ops, ArgsOK op.toSpec) {e' : EFile} {res : List Bool}
    (h : runOps applyMod (load f) ops [] 0 = .done e' res) :
    AbsOK (absOf (cleanup e').f) ∧ Rel (absOf (cleanup e').f) (run stdValidity (absOf f) (ops.map Op.toSpec)) := by
  obtain ⟨h2, _⟩ := refines_abs_typed f ops e' res hst.ok (StaticValid.validArgs ops false hv hmod) h
  rw [mV_eq_std] at h2
  exact ⟨(absOK_iff _).2 (AbsOKF.of_rel h2 (AbsOKF.run _ _ _ ((absOK_iff _).1 hstart) (fun op hop => by
    obtain ⟨op', hop', rfl⟩ := List.mem_map.1 hop; exact hargs op' hop'))), h2⟩

section run
variable {fix : Option Fixer} (hfx : SFix.FixOK fix) (name name' data : Bytes) (f : File) (ops : List Op) (e' : EFile)
  (res : List Bool) (hf : parseToFile name data fix true = .ok f) (hk : WellFormedKeys f) (hs : NoBlockSuffix f.syn)
  (hm : MarkersSettable f.syn.stmts) (hv : StaticValid false ops) (h : runOps applyMod (load f) ops [] 0 = .done e' res)
include hfx hf hk hs hm hv h

/-- ★ Props/C15 `goodBlocks_invariant` -/
theorem SFix.goodBlocks_run_fix :
    (Inv e' ∧ GoodBlocks e'.f.syn.stmts) ∧ Inv (cleanup e') ∧ GoodBlocks (cleanup e').f.syn.stmts :=
  let hst := Start.of_parse hfx hf hk hs
  let r := reparse_of_run name _ e' ops res hst.inv ((markersSettable_load f).2 hm) hst.gb hv h
  ⟨r.1, r.2.1, r.2.2.1⟩

/-- Props/C15 `typed_eq_reparse_partial_run3`, `typed_eq_reparse_run_fix_partial` -/
theorem SFix.typed_eq_reparse_run_fix (hok : AbsOK (absOf (cleanup e').f)) (hcom : comShapeB (cleanup e').f.syn = true) :
    ∃ g, parseStrict name' (format (cleanup e').f.syn) none = .ok g ∧ AbsPerm (absOf g) (absOf (cleanup e').f) :=
  let hst := Start.of_parse hfx hf hk hs
  (reparse_of_run name' _ e' ops res hst.inv ((markersSettable_load f).2 hm) hst.gb hv h).2.2.2 hok hcom

end run

/-- Props/C15 `typed_eq_reparse_run_fix_partial2` -/
theorem SFix.typed_eq_reparse_run_fix2 {fix : Option Fixer} (hfx : SFix.FixOK fix) (name name' data : Bytes) (f : File)
    (ops : List Op) (e' : EFile) (res : List Bool)
    (hf : parseToFile name data fix true = .ok f) (hk : WellFormedKeys f) (hs : NoBlockSuffix f.syn)
    (hm : MarkersSettable f.syn.stmts) (hstart : AbsOK (absOf f)) (hv : StaticValid false ops)
    (hmod : ∀ op ∈ ops, IsModOp op) (hargs : ∀ op ∈ ops, ArgsOK op.toSpec)
    (h : runOps applyMod (load f) ops [] 0 = .done e' res) (hcom : comShapeB (cleanup e').f.syn = true) :
    ∃ g, parseStrict name' (format (cleanup e').f.syn) none = .ok g ∧ AbsPerm (absOf g) (absOf (cleanup e').f) ∧
      Rel (absOf (cleanup e').f) (run stdValidity (absOf f) (ops.map Op.toSpec)) :=
  let ⟨hok, hrel⟩ := (Start.of_parse hfx hf hk hs).absOK hstart hv hmod hargs h
  let ⟨g, hg, hp⟩ := SFix.typed_eq_reparse_run_fix hfx name name' data f ops e' res hf hk hs hm hv h hok hcom
  ⟨g, hg, hp, hrel⟩

/-! ### on `sessionMod` — what `edit.session` prints -/

section session
variable (file : Bytes) (ops : List Op) (o : Outcome) (f : File) (hf : parseStrict (B "go.mod") file none = .ok f)
  (hk : WellFormedKeys f) (hs : NoBlockSuffix f.syn) (hm : MarkersSettable f.syn.stmts) (hv : StaticValid false ops)
  (h : sessionMod file ops = some o)
include hf hk hs hm hv h

theorem goodBlocks_session : goodBlocksB o.tree.stmts = true := by
  obtain ⟨f', e, res, hf', hrun, _, _, h3, _, _⟩ := sessionMod_some h
  cases hf.symm.trans hf'
  rw [h3]
  exact (goodBlocksB_iff _).2 (SFix.goodBlocks_run_fix SFix.fixOK_none _ _ f ops e res hf hk hs hm hv hrun).2.2

theorem typed_eq_reparse_session3 (hok : AbsOK o.typed) (hcom : comShapeB o.tree = true) :
    ∃ r, o.reparsed = some r ∧ AbsPerm r o.typed := by
  obtain ⟨f', e, res, hf', hrun, _, h2, h3, _, h5⟩ := sessionMod_some h
  cases hf.symm.trans hf'
  rw [h2] at hok; rw [h3] at hcom
  obtain ⟨g, hg, hp⟩ := SFix.typed_eq_reparse_run_fix SFix.fixOK_none _ (B "go.mod") _ f ops e res hf hk hs hm hv hrun hok hcom
  rw [h5, hg, h2]
  exact ⟨_, rfl, hp⟩

theorem typed_eq_reparse_session4 (hstart : AbsOK (absOf f)) (hmod : ∀ op ∈ ops, IsModOp op)
    (hargs : ∀ op ∈ ops, ArgsOK op.toSpec) (hcom : comShapeB o.tree = true) :
    ∃ r, o.reparsed = some r ∧ AbsPerm r o.typed ∧ Rel o.typed (run stdValidity o.start (ops.map Op.toSpec)) := by
  obtain ⟨f', e, res, hf', hrun, h1, h2, h3, _, h5⟩ := sessionMod_some h
  cases hf.symm.trans hf'
  rw [h3] at hcom
  obtain ⟨g, hg, hp, hrel⟩ := SFix.typed_eq_reparse_run_fix2 SFix.fixOK_none _ (B "go.mod") _ f ops e res hf hk hs hm hstart hv
    hmod hargs hrun hcom
  rw [h5, hg, h1, h2]
  exact ⟨_, rfl, hp, hrel⟩

end session

/-! ### with the final-tree hypothesis `finalTreeB` (block verbs, derivable, and the comment placement) -/

theorem typed_eq_reparse_run (name name' data : Bytes) (f : File) (ops : List Op) (e' : EFile) (res : List Bool)
    (hf : parseToFile name data none true = .ok f) (hk : WellFormedKeys f) (hs : NoBlockSuffix f.syn)
    (hm : MarkersSettable f.syn.stmts) (hv : StaticValid false ops)
    (h : runOps applyMod (load f) ops [] 0 = .done e' res)
    (hok : AbsOK (absOf (cleanup e').f)) (htree : finalTreeB (cleanup e').f.syn = true) :
    ∃ g, parseStrict name' (format (cleanup e').f.syn) none = .ok g ∧ AbsPerm (absOf g) (absOf (cleanup e').f) :=
  SFix.typed_eq_reparse_run_fix SFix.fixOK_none name name' data f ops e' res hf hk hs hm hv h hok (finalTreeB_com htree)

theorem typed_eq_reparse_session (file : Bytes) (ops : List Op) (o : Outcome) (f : File)
    (hf : parseStrict (B "go.mod") file none = .ok f) (hk : WellFormedKeys f) (hs : NoBlockSuffix f.syn)
    (hm : MarkersSettable f.syn.stmts) (hv : StaticValid false ops)
    (h : sessionMod file ops = some o) (hok : AbsOK o.typed) (htree : finalTreeB o.tree = true) :
    ∃ r, o.reparsed = some r ∧ AbsPerm r o.typed :=
  typed_eq_reparse_session3 file ops o f hf hk hs hm hv h hok (finalTreeB_com htree)

theorem typed_eq_reparse_session2 (file : Bytes) (ops : List Op) (o : Outcome) (f : File)
    (hf : parseStrict (B "go.mod") file none = .ok f) (hk : WellFormedKeys f) (hs : NoBlockSuffix f.syn)
    (hm : MarkersSettable f.syn.stmts) (hstart : AbsOK (absOf f)) (hv : StaticValid false ops)
    (hmod : ∀ op ∈ ops, IsModOp op) (hargs : ∀ op ∈ ops, ArgsOK op.toSpec)
    (h : sessionMod file ops = some o) (htree : finalTreeB o.tree = true) :
    ∃ r, o.reparsed = some r ∧ AbsPerm r o.typed ∧ Rel o.typed (run stdValidity o.start (ops.map Op.toSpec)) :=
  typed_eq_reparse_session4 file ops o f hf hk hs hm hv h hstart hmod hargs (finalTreeB_com htree)

end ModVerif.Modfile.Edit
