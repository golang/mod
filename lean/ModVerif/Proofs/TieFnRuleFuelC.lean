/-
  The weighted count for `parse`: `parseFile_weight` (Proofs/TieFnRuleFuelB.lean) and `assignComments_weight`
  (Proofs/ModfileWeight.lean: comment assignment adds at most `kbf` / `ksf` per recorded comment) give `parse_weight`, and its
  two instances

    `parse_w`:  `parse name data = .ok fs → NEs fs.stmts ≤ data.length + 1 ∧ ∀ s ∈ fs.stmts, TokLe data.length s`

  (nodes against `Cn`; the tokens of a line are among the tokens of the tree, which are paid by `Bp`).
-/
import ModVerif.Proofs.TieFnRuleFuelB
namespace ModVerif.Tie.FnRuleFuelC
open ModVerif ModVerif.Modfile ModVerif.Tie.FnRuleFuelA ModVerif.Tie.FnRuleFuelB ModVerif.Proofs.ModfileWeight

theorem filter_len (l : List Comment) : (l.filter (!·.suffix)).length + (l.filter (·.suffix)).length = l.length := by
  induction l with
  | nil => rfl
  | cons c l ih => cases h : c.suffix <;> simp [h] <;> omega

theorem map_token_of_bare {ls ls' : List Line} (h : ls'.map Proofs.ModfileC20.lineBare = ls.map Proofs.ModfileC20.lineBare) :
    ls'.map (·.token) = ls.map (·.token) := by
  have := congrArg (List.map (·.token)) h
  simpa [List.map_map, Function.comp_def, Proofs.ModfileC20.lineBare] using this

theorem preLines_w (ls ls' : List Line) (line r : List Comment) (h : preLines ls line = (ls', r)) :
    NLs ls' + r.length = NLs ls + line.length ∧ ls'.map (·.token) = ls.map (·.token) :=
  ⟨by have := preLines_weight wtNodes ls line
      rw [h, wtNodes_lines, wtNodes_lines, show wtNodes.kbf = 1 from rfl] at this; simp only at this; omega,
    map_token_of_bare (by have := Proofs.ModfileC20.preLines_bare ls line; rwa [h] at this)⟩

theorem postLinesRev_w (ls ls' : List Line) (suf r : List Comment) (h : postLinesRev ls suf = (ls', r)) :
    NLs ls' + r.length = NLs ls + suf.length ∧ ls'.map (·.token) = ls.map (·.token) :=
  ⟨by have := postLinesRev_weight wtNodes ls suf
      rw [h, wtNodes_lines, wtNodes_lines, show wtNodes.ksf = 1 from rfl] at this; simp only at this; omega,
    map_token_of_bare (by have := Proofs.ModfileC20.postLinesRev_bare ls suf; rwa [h] at this)⟩

/-- `a` whole-line and `b` end-of-line comments are recorded; comment assignment pays each once more, with `kbf` resp. `ksf` -/
theorem parse_weight {wt : Wt} {n : Nat} {Φ : Input → Nat} (hΦ : Pays wt n Φ Proofs.ModfileRun.Step Proofs.ModfileRun.Step) {name data : Bytes}
    {fs : FileSyntax} (h : parse name data = .ok fs) :
    ∃ i0 i a b, readToken (newInput data) = .ok i0 ∧ a + b = i.commentsRev.length ∧
      wt.tree fs.stmts + Φ i ≤ Φ i0 + wt.kcb + wt.kbf * a + wt.ksf * b := by
  unfold parse at h
  cases hp : parseFile data with
  | error e => simp [hp, bind, Except.bind] at h
  | ok v =>
    obtain ⟨ss, i⟩ := v
    simp only [hp, bind, Except.bind, Except.ok.injEq] at h
    subst h
    obtain ⟨i0, h0, a⟩ := parseFile_weight hΦ hp
    have b := assignComments_weight wt { name := name, stmts := ss } i.commentsRev.reverse
    simp only [] at b
    have c := filter_len i.commentsRev.reverse
    simp only [List.length_reverse] at c
    exact ⟨i0, i, _, _, h0, c, by omega⟩

theorem parse_w {name data : Bytes} {fs : FileSyntax} (h : parse name data = .ok fs) :
    NEs fs.stmts ≤ data.length + 1 ∧ ∀ s ∈ fs.stmts, TokLe data.length s := by
  obtain ⟨i0, i, a, b, h0, hab, hn⟩ := parse_weight paysNodes h
  obtain ⟨_, i', _, _, h0', _, hb⟩ := parse_weight paysBytes h
  rw [h0] at h0'; cases h0'
  obtain ⟨b0, c0⟩ := readToken_w h0
  have hr : (newInput data).remaining.length = data.length := rfl
  have hc : (newInput data).commentsRev.length = 0 := rfl
  rw [wtNodes_tree] at hn
  refine ⟨?_, tokLe_of_wtBytes (by
    simp only [show wtBytes.kcb = 0 from rfl, show wtBytes.kbf = 0 from rfl, show wtBytes.ksf = 0 from rfl] at hb; omega)⟩
  simp only [show wtNodes.kcb = 1 from rfl, show wtNodes.kbf = 1 from rfl, show wtNodes.ksf = 1 from rfl] at hn
  unfold Cn at hn c0
  omega

end ModVerif.Tie.FnRuleFuelC
