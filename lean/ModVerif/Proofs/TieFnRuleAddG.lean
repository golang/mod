/-
  Helper lemmas for Tie/FnRuleAdd.lean: model-side facts for the statement loops of `parseToFile` / `ParseWork`:
  `FileSyntax.updateLine` at a line whose position in the statement list is known (line ids pairwise different) is the
  replacement of that line (`updateLine_line_at`, `updateLine_block_at`).
-/
import ModVerif.Proofs.TieFnRuleAddF
namespace ModVerif.Tie.FnRuleAddG
open ModVerif ModVerif.Modfile
open ModVerif.Modfile.Edit (treeIds mapLinesStmt loc locStmt)

def stmtLines : Expr → List Line
  | .line l => [l]
  | .lineBlock b => b.lines
  | _ => []

theorem treeIds_one (x : Expr) : treeIds [x] = (stmtLines x).map (·.id) := by
  cases x <;> simp [treeIds, loc, locStmt, stmtLines, List.map_map, Function.comp_def]

theorem mem_treeIds {xs : List Expr} {id : Nat} : id ∈ treeIds xs ↔ ∃ x ∈ xs, ∃ l ∈ stmtLines x, l.id = id := by
  induction xs with
  | nil => simp [treeIds, loc]
  | cons x xs ih =>
    rw [Modfile.Edit.treeIds_cons, List.mem_append, ih, treeIds_one]
    simp only [List.mem_map, List.mem_cons, exists_eq_or_imp]

theorem mapLinesStmt_noop (f : Line → Line) (x : Expr) (h : ∀ l ∈ stmtLines x, f l = l) : mapLinesStmt f x = x := by
  cases x with
  | line l => simp only [mapLinesStmt]; rw [h l (by simp [stmtLines])]
  | lineBlock b =>
    simp only [mapLinesStmt]
    have : b.lines.map f = b.lines := by
      conv => rhs; rw [← List.map_id b.lines]
      exact List.map_congr_left (fun l hl => h l hl)
    rw [this]
  | commentBlock c => rfl
  | lparen c => rfl
  | rparen c => rfl

theorem map_mapLines_noop (f : Line → Line) (xs : List Expr) (h : ∀ x ∈ xs, ∀ l ∈ stmtLines x, f l = l) :
    xs.map (mapLinesStmt f) = xs := by
  conv => rhs; rw [← List.map_id xs]
  exact List.map_congr_left (fun x hx => mapLinesStmt_noop f x (h x hx))

theorem upd_other (id : Nat) (g : Line → Line) {l : Line} (h : l.id ≠ id) : (if l.id == id then g l else l) = l := by
  have : (l.id == id) = false := by simpa using h
  simp [this]

theorem upd_self (id : Nat) (g : Line → Line) {l : Line} (h : l.id = id) : (if l.id == id then g l else l) = g l := by
  simp [h]

theorem updateLine_line_at (fs : FileSyntax) (A B : List Expr) (l : Line) (g : Line → Line)
    (hs : fs.stmts = A ++ .line l :: B) (hn : (treeIds fs.stmts).Nodup) :
    (fs.updateLine l.id g).stmts = A ++ .line (g l) :: B := by
  rw [Modfile.Edit.updateLine_stmts fs l.id g hn, hs]
  rw [hs, Modfile.Edit.treeIds_append, Modfile.Edit.treeIds_cons] at hn
  obtain ⟨_, hBn, hAB⟩ := List.nodup_append.1 hn
  obtain ⟨_, _, hlB⟩ := List.nodup_append.1 hBn
  have hl : l.id ∈ treeIds [Expr.line l] := by simp [treeIds_one, stmtLines]
  rw [List.map_append, List.map_cons]
  congr 1
  · refine map_mapLines_noop _ A (fun x hx m hm => upd_other _ _ ?_)
    intro e
    exact hAB _ (mem_treeIds.2 ⟨x, hx, m, hm, e⟩) _ (List.mem_append_left _ hl) rfl
  · congr 1
    · simp [mapLinesStmt]
    · refine map_mapLines_noop _ B (fun x hx m hm => upd_other _ _ ?_)
      intro e
      exact hlB _ hl _ (mem_treeIds.2 ⟨x, hx, m, hm, e⟩) rfl

theorem updateLine_block_at (fs : FileSyntax) (A B : List Expr) (b : LineBlock) (LA LB : List Line) (l : Line) (g : Line → Line)
    (hs : fs.stmts = A ++ .lineBlock b :: B) (hb : b.lines = LA ++ l :: LB) (hn : (treeIds fs.stmts).Nodup) :
    (fs.updateLine l.id g).stmts = A ++ .lineBlock { b with lines := LA ++ g l :: LB } :: B := by
  rw [Modfile.Edit.updateLine_stmts fs l.id g hn, hs]
  rw [hs, Modfile.Edit.treeIds_append, Modfile.Edit.treeIds_cons] at hn
  obtain ⟨_, hBn, hAB⟩ := List.nodup_append.1 hn
  obtain ⟨hbn, _, hlB⟩ := List.nodup_append.1 hBn
  have hl : l.id ∈ treeIds [Expr.lineBlock b] := by simp [treeIds_one, stmtLines, hb]
  rw [List.map_append, List.map_cons]
  congr 1
  · refine map_mapLines_noop _ A (fun x hx m hm => upd_other _ _ ?_)
    intro e
    exact hAB _ (mem_treeIds.2 ⟨x, hx, m, hm, e⟩) _ (List.mem_append_left _ hl) rfl
  · congr 1
    · simp only [mapLinesStmt, hb, List.map_append, List.map_cons]
      rw [treeIds_one] at hbn
      simp only [stmtLines, hb, List.map_append, List.map_cons] at hbn
      obtain ⟨_, hLBn, hLAB⟩ := List.nodup_append.1 hbn
      have hlLB := (List.nodup_cons.1 hLBn).1
      have e1 : LA.map (fun x => if x.id == l.id then g x else x) = LA := by
        conv => rhs; rw [← List.map_id LA]
        refine List.map_congr_left (fun m hm => upd_other _ _ ?_)
        intro e
        exact hLAB _ (List.mem_map_of_mem hm) _ List.mem_cons_self e
      have e2 : LB.map (fun x => if x.id == l.id then g x else x) = LB := by
        conv => rhs; rw [← List.map_id LB]
        refine List.map_congr_left (fun m hm => upd_other _ _ ?_)
        intro e
        exact hlLB (by rw [← e]; exact List.mem_map_of_mem hm)
      rw [e1, e2]
      simp
    · refine map_mapLines_noop _ B (fun x hx m hm => upd_other _ _ ?_)
      intro e
      exact hlB _ hl _ (mem_treeIds.2 ⟨x, hx, m, hm, e⟩) rfl

end ModVerif.Tie.FnRuleAddG
