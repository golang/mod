/-
  Tie proofs for sumdb/tlog/tile.go: the AUTHENTICATION and EXTRACTION phases of `tileHashReader.ReadHashes`
  (loops 5–8 of the generated code = `widthsOk`, `stxFold`, `authChildren`, `extract` of the model).

  Tile data: the generated code holds `data : List Bytes` (flat bytes per tile), the model `List (List H)`.
  `unflatS ofBytes b` is `unflat ofBytes b` when `len(b)` is a multiple of `HashSize` and `[]` otherwise (such a tile
  fails the code's length check `len(data[i]) != tile.W*HashSize` and the model's width check alike, `W ≥ 1`).
-/
import ModVerif.Proofs.TieFnTilePlan
import ModVerif.Proofs.TieFnTileHash
set_option linter.unusedSimpArgs false
namespace ModVerif.TieFnTile
open ModVerif ModVerif.GoRt ModVerif.GoRtTile ModVerif.TieFnTlogInt

/-- flat tile data as the model sees it -/
def unflatS {H : Type} (ofBytes : Bytes → H) (b : Bytes) : List H :=
  if b.length % 32 = 0 then unflat ofBytes b else []

theorem unflatS_length_iff {H : Type} (ofBytes : Bytes → H) (b : Bytes) (w : Nat) (hw : 1 ≤ w) :
    (unflatS ofBytes b).length = w ↔ b.length = 32 * w := by
  unfold unflatS
  split
  · rw [unflat_length]; omega
  · simp only [List.length_nil]; omega

theorem unflatS_eq {H : Type} (ofBytes : Bytes → H) (b : Bytes) (w : Nat) (h : b.length = 32 * w) :
    unflatS ofBytes b = unflat ofBytes b := by
  unfold unflatS
  rw [if_pos (by omega)]

def WidthsOK (tiles : List Tile.Tile) (data : List Bytes) : Prop :=
  data.length = tiles.length ∧ ∀ i (h1 : i < tiles.length) (h2 : i < data.length), data[i].length = 32 * tiles[i].w

/-- what the authentication loops need to know about the planned tiles -/
structure PlanFacts (h N : Nat) (tiles : List Tile.Tile) (order : List (Tile.Tile × Nat)) (nstx : Nat) : Prop where
  ok : ∀ t ∈ tiles, TfiOK h N t
  w1 : ∀ t ∈ tiles, 1 ≤ t.w ∧ t.w ≤ 2 ^ h
  look : TileAuth.Look tiles order
  child : ∀ i t, nstx ≤ i → tiles[i]? = some t →
    t.w = 2 ^ h ∧ Tlog.storedHashIndex ((t.l + 1) * h) t.n + 1 < 2 ^ 63

/-- the three error texts of `HashFromTile` -/
def HftMsg (msg : String) : Prop :=
  msg = "invalid tile %v" ∨ msg = "data len %d too short for tile %v" ∨ msg = "index %v is in %v not %v"

theorem hftMsg_ok (t : Tile.Tile) (n : Nat) : HftMsg (hftMsg t n) := by
  unfold hftMsg HftMsg
  split
  · left; rfl
  · split
    · right; left; rfl
    · right; right; rfl

section
variable {H : Type} [DecidableEq H] [Inhabited H] (node : H → H → H) (ofBytes : Bytes → H)

omit [DecidableEq H] [Inhabited H] in
theorem hashFromTile_cases (t : Tile.Tile) (d : List H) (x : Nat) (hx : x + 1 < 2 ^ 63) :
    (∃ v, Tile.hashFromTile node t d x = .ok v) ∨ Tile.hashFromTile node t d x = .error .badTile := by
  unfold Tile.hashFromTile
  split
  · right; rfl
  · rename_i hinv
    split
    · right; rfl
    · rename_i hlen
      simp only [Bool.or_eq_true, decide_eq_true_eq, not_or, Nat.not_lt] at hinv
      obtain ⟨⟨⟨⟨⟨h1, _⟩, _⟩, _⟩, _⟩, hw⟩ := hinv
      obtain ⟨lv, k, hs⟩ := TlogStore.split_total x (by omega)
      have hcl := TileAuth.tileForIndex_eq t.h x lv k (by omega) hs
      rw [hcl]
      simp only [bind, Except.bind]
      split
      · right; rfl
      · rename_i hmis
        left
        simp only [Bool.or_eq_true, bne_iff_ne, ne_eq, decide_eq_true_eq, not_or, Decidable.not_not, Nat.not_lt] at hmis
        obtain ⟨⟨_, _⟩, hwe⟩ := hmis
        have hlen2 : ((d.take ((k % 2 ^ (t.h - lv % t.h) + 1) * 2 ^ (lv % t.h))).drop
            (k % 2 ^ (t.h - lv % t.h) * 2 ^ (lv % t.h))).length = 2 ^ (lv % t.h) := by
          rw [List.length_drop, List.length_take, Nat.add_mul, Nat.one_mul]
          rw [Nat.add_mul, Nat.one_mul] at hwe
          have hp := Nat.two_pow_pos (lv % t.h)
          generalize k % 2 ^ (t.h - lv % t.h) * 2 ^ (lv % t.h) = S at hwe ⊢
          generalize 2 ^ (lv % t.h) = P at hwe hp ⊢
          omega
        obtain ⟨r, hr⟩ := TileAuth.ptree_isSome node (lv % t.h) _ hlen2
        exact ⟨r, TileAuth.tileHash_ptree node (lv % t.h) _ r hlen2 hr⟩

/-- `HashFromTile` on an int64 index: the model's hash with `err == nil`, or the model's `badTile` with one of the three
    error texts -/
theorem HashFromTile_cases (fuel : Nat) (t : Tile.Tile) (data : Bytes) (x : Nat) (hx : x + 1 < 2 ^ 63) (hf : 64 ≤ fuel) :
    (∃ v, Tile.hashFromTile node t (unflat ofBytes data) x = .ok v ∧
      Generated.Tile.HashFromTile node ofBytes fuel (toGen t) data (x : Int) = .ok (v, none)) ∨
    (Tile.hashFromTile node t (unflat ofBytes data) x = .error .badTile ∧ ∃ msg, HftMsg msg ∧
      Generated.Tile.HashFromTile node ofBytes fuel (toGen t) data (x : Int) = .ok (default, some msg)) := by
  rw [HashFromTile_eq node ofBytes fuel t data x hx hf]
  rcases hashFromTile_cases node t (unflat ofBytes data) x hx with ⟨v, hv⟩ | hbad
  · exact Or.inl ⟨v, hv, by rw [hv]; rfl⟩
  · exact Or.inr ⟨hbad, _, hftMsg_ok t (data.length / 32), by rw [hbad]; rfl⟩

/-- the `HashFromTile(tiles[j], data[j], x)` of the authentication loops, on width-checked data -/
theorem hashAt_gen (fuel : Nat) (tiles : List Tile.Tile) (data : List Bytes) (hw : WidthsOK tiles data) (j x : Nat)
    (hj : j < tiles.length) (hx : x + 1 < 2 ^ 63) (hf : 64 ≤ fuel) :
    ∃ (gt : GTile) (d : Bytes), idxL (tiles.map toGen) (j : Int) = .ok gt ∧ idxL data (j : Int) = .ok d ∧
      ((∃ v, Tile.hashAt node tiles (data.map (unflatS ofBytes)) j x = .ok v ∧
        Generated.Tile.HashFromTile node ofBytes fuel gt d (x : Int) = .ok (v, none)) ∨
      (Tile.hashAt node tiles (data.map (unflatS ofBytes)) j x = .error .badTile ∧ ∃ msg, HftMsg msg ∧
        Generated.Tile.HashFromTile node ofBytes fuel gt d (x : Int) = .ok (default, some msg))) := by
  obtain ⟨hl, hwi⟩ := hw
  have hj2 : j < data.length := by omega
  have hat : Tile.hashAt node tiles (data.map (unflatS ofBytes)) j x =
      Tile.hashFromTile node tiles[j] (unflat ofBytes data[j]) x := by
    unfold Tile.hashAt
    rw [List.getElem?_eq_getElem hj, List.getElem?_map, List.getElem?_eq_getElem hj2, Option.map_some,
      unflatS_eq ofBytes _ _ (hwi j hj hj2)]
  refine ⟨toGen tiles[j], data[j], ?_, idxL_natCast hj2, ?_⟩
  · exact idxL_map toGen hj
  · rw [hat]
    exact HashFromTile_cases node ofBytes fuel tiles[j] data[j] x hx hf

variable (effLog : List (List GTile × List Bytes))

/-! ### loop 5: the width check -/

theorem loop5_eq (tiles : List Tile.Tile) (data : List Bytes) (hl : data.length = tiles.length)
    (hw1 : ∀ t ∈ tiles, 1 ≤ t.w ∧ 32 * t.w < 2 ^ 63) :
    ∀ (d i fuel : Nat), i + d = tiles.length → d < fuel →
    Generated.Tile.tileHashReader_ReadHashes_loop5 node ofBytes (tiles.map toGen) data effLog fuel (i : Int) =
      .ok (if Tile.widthsOk (tiles.drop i) ((data.map (unflatS ofBytes)).drop i) = true then Ctl.next ((tiles.length : Nat) : Int)
        else Ctl.ret ((([] : List H), some "TileReader returned bad result slice (%v len=%d, want %d)"), effLog)) := by
  intro d
  induction d with
  | zero =>
    intro i fuel hi hf
    obtain ⟨g, rfl⟩ : ∃ g, fuel = g + 1 := ⟨fuel - 1, by omega⟩
    have e : i = tiles.length := by omega
    subst e
    rw [Generated.Tile.tileHashReader_ReadHashes_loop5]
    rw [List.drop_of_length_le (Nat.le_refl _), List.drop_of_length_le (by simp; omega)]
    simp only [natCast_lt_len, List.length_map, Nat.lt_irrefl, decide_false, Bool.false_eq_true, ↓reduceIte, mpure, Tile.widthsOk]
  | succ d ih =>
    intro i fuel hi hf
    obtain ⟨g, rfl⟩ : ∃ g, fuel = g + 1 := ⟨fuel - 1, by omega⟩
    have hit : i < tiles.length := by omega
    have hid : i < data.length := by omega
    have hlt : ((i : Int) < len (tiles.map toGen)) := (natCast_lt_len _ _).mpr (by simpa using hit)
    have ht := idxL_map toGen hit
    obtain ⟨hwa, hwb⟩ := hw1 tiles[i] (List.getElem_mem _)
    have hW : (toGen tiles[i]).W = (tiles[i].w : Int) := rfl
    have e32 : (tiles[i].w : Int) * 32 = ((32 * tiles[i].w : Nat) : Int) := by omega
    have e1 : (i : Int) + 1 = ((i + 1 : Nat) : Int) := rfl
    rw [Generated.Tile.tileHashReader_ReadHashes_loop5]
    simp only [hlt, decide_true, ↓reduceIte, ht, mbind_ok, idxL_natCast hid, hW, e32, chk64_natCast hwb, e1]
    rw [ih (i + 1) g (by omega) (by omega)]
    rw [List.drop_eq_getElem_cons hit, List.drop_eq_getElem_cons (by simp; exact hid : i < (data.map (unflatS ofBytes)).length)]
    simp only [Tile.widthsOk, List.getElem_map]
    by_cases hlen : data[i].length = 32 * tiles[i].w
    · have h1 : (len data[i] = ((32 * tiles[i].w : Nat) : Int)) := by simp only [len, hlen]; rfl
      have h2 : ((unflatS ofBytes data[i]).length == tiles[i].w) = true := by
        rw [beq_iff_eq]; exact (unflatS_length_iff ofBytes _ _ hwa).mpr hlen
      simp only [h1, decide_true, Bool.not_true, Bool.false_eq_true, ↓reduceIte, h2, Bool.true_and]
    · have h1 : ¬ (len data[i] = ((32 * tiles[i].w : Nat) : Int)) := by
        simp only [len, Int.ofNat_eq_natCast]; omega
      have h2 : ((unflatS ofBytes data[i]).length == tiles[i].w) = false := by
        rw [beq_eq_false_iff_ne]; intro hc; exact hlen ((unflatS_length_iff ofBytes _ _ hwa).mp hc)
      simp only [h1, decide_false, Bool.not_false, ↓reduceIte, h2, Bool.false_and, Bool.false_eq_true, mpure]

omit [DecidableEq H] [Inhabited H] in
theorem widthsOK_of_model (tiles : List Tile.Tile) (data : List Bytes) (hw1 : ∀ t ∈ tiles, 1 ≤ t.w)
    (h : Tile.widthsOk tiles (data.map (unflatS ofBytes)) = true) : WidthsOK tiles data := by
  obtain ⟨h1, h2⟩ := TileAuth.widthsOk_spec _ _ h
  simp only [List.length_map] at h1
  refine ⟨h1, ?_⟩
  intro i hi1 hi2
  have := h2 i tiles[i] (unflatS ofBytes data[i]) (List.getElem?_eq_getElem hi1) (by
    rw [List.getElem?_map, List.getElem?_eq_getElem hi2]; rfl)
  exact (unflatS_length_iff ofBytes _ _ (hw1 _ (List.getElem_mem _))).mp this

/-! ### loop 6: recomputing the tree hash -/

theorem loop6_eq (tiles : List Tile.Tile) (data : List Bytes) (hw : WidthsOK tiles data) (stx sto : List Nat)
    (hls : sto.length = stx.length) (hsl : stx.length < 2 ^ 63) (hsto : ∀ j ∈ sto, j < tiles.length)
    (hstx : ∀ x ∈ stx, x + 1 < 2 ^ 63) :
    ∀ (m fuel : Nat) (th : H), m ≤ stx.length → m + 64 ≤ fuel →
    match Tile.stxFold node tiles (data.map (unflatS ofBytes)) ((stx.zip sto).take m).reverse th with
    | .ok th' => Generated.Tile.tileHashReader_ReadHashes_loop6 node ofBytes (tiles.map toGen) (stx.map Int.ofNat)
        (sto.map Int.ofNat) data effLog fuel th ((m : Int) - 1) = .ok (Ctl.next (th', (-1 : Int)))
    | .error e => e = .badTile ∧ ∃ msg, HftMsg msg ∧ Generated.Tile.tileHashReader_ReadHashes_loop6 node ofBytes
        (tiles.map toGen) (stx.map Int.ofNat) (sto.map Int.ofNat) data effLog fuel th ((m : Int) - 1) =
          .ok (Ctl.ret ((([] : List H), some msg), effLog)) := by
  intro m
  induction m with
  | zero =>
    intro fuel th _ hf
    obtain ⟨g, rfl⟩ : ∃ g, fuel = g + 1 := ⟨fuel - 1, by omega⟩
    simp only [List.take_zero, List.reverse_nil, Tile.stxFold]
    have : ¬ (((0 : Nat) : Int) - 1 ≥ 0) := by omega
    rw [Generated.Tile.tileHashReader_ReadHashes_loop6]
    simp only [this, decide_false, Bool.false_eq_true, ↓reduceIte, mpure]
    rfl
  | succ m ih =>
    intro fuel th hm hf
    obtain ⟨g, rfl⟩ : ∃ g, fuel = g + 1 := ⟨fuel - 1, by omega⟩
    have hm1 : m < stx.length := by omega
    have hm2 : m < sto.length := by omega
    have hmz : m < (stx.zip sto).length := by simp; omega
    have htake : ((stx.zip sto).take (m + 1)).reverse = (stx[m], sto[m]) :: ((stx.zip sto).take m).reverse := by
      rw [List.take_add_one, List.getElem?_eq_getElem hmz]
      simp
    have e0 : ((m + 1 : Nat) : Int) - 1 = (m : Int) := by omega
    have hge : ((m : Int) ≥ 0) := by omega
    have hj := hsto sto[m] (List.getElem_mem _)
    have hx := hstx stx[m] (List.getElem_mem _)
    obtain ⟨gt, d, hgt, hd, hcases⟩ := hashAt_gen node ofBytes g tiles data hw sto[m] stx[m] hj hx (by omega)
    have hi1 : idxL (sto.map Int.ofNat) (m : Int) = .ok ((sto[m] : Nat) : Int) := idxL_map Int.ofNat hm2
    have hi2 : idxL (stx.map Int.ofNat) (m : Int) = .ok ((stx[m] : Nat) : Int) := idxL_map Int.ofNat hm1
    rw [htake, e0, Generated.Tile.tileHashReader_ReadHashes_loop6]
    simp only [hge, decide_true, ↓reduceIte, hi1, hi2, mbind_ok, hgt, hd, Tile.stxFold]
    rcases hcases with ⟨v, hha, hhft⟩ | ⟨hha, msg, hmsg, hhft⟩
    · rw [hha, hhft]
      simp only [mbind_ok, Option.isNone_none, Bool.not_true, Bool.false_eq_true, ↓reduceIte, mbind_ok]
      simp only [chk64_pred (show m < 2 ^ 63 by omega), mbind_ok]
      exact ih g (node v th) (by omega) (by omega)
    · rw [hha, hhft]
      simp only [mbind_error]
      exact ⟨trivial, msg, hmsg, by simp [mpure, mbind_ok]⟩

/-! ### loop 8: pulling out the requested hashes -/

theorem loop8_eq (r : Generated.Tile.tileHashReader H) (tiles : List Tile.Tile)
    (data : List Bytes) (hw : WidthsOK tiles data) (idx ito : List Nat) (p : Tile.Plan) (hpt : p.tiles = tiles)
    (hli : ito.length = idx.length) (hito : ∀ j ∈ ito, j < tiles.length) (hidx : ∀ x ∈ idx, x + 1 < 2 ^ 63) :
    ∀ (xs pre : List Nat) (js : List Nat) (hs : List H) (fuel : Nat), idx = pre ++ xs → ito.drop pre.length = js →
      hs.length = pre.length → xs.length + 64 ≤ fuel →
    match Tile.extract node p (data.map (unflatS ofBytes)) (xs.zip js) with
    | .ok vs => Generated.Tile.tileHashReader_ReadHashes_loop8 node ofBytes r (idx.map Int.ofNat) (tiles.map toGen)
        (ito.map Int.ofNat) data effLog fuel (pre.length : Int) (hs ++ List.replicate xs.length default) =
          .ok (Ctl.next ((idx.length : Int), hs ++ vs))
    | .error e => e = .badMath ∧ ∃ msg, HftMsg msg ∧ Generated.Tile.tileHashReader_ReadHashes_loop8 node ofBytes r
        (idx.map Int.ofNat) (tiles.map toGen) (ito.map Int.ofNat) data effLog fuel (pre.length : Int)
        (hs ++ List.replicate xs.length default) =
          .ok (Ctl.ret ((([] : List H), wrapErr "bad math in tileHashReader %d %v: lost hash %v: %v" (some msg)), effLog)) := by
  intro xs
  induction xs with
  | nil =>
    intro pre js hs fuel hidx' _ _ hf
    obtain ⟨g, rfl⟩ : ∃ g, fuel = g + 1 := ⟨fuel - 1, by omega⟩
    simp only [List.append_nil] at hidx'
    simp only [List.zip_nil_left, Tile.extract]
    rw [Generated.Tile.tileHashReader_ReadHashes_loop8]
    simp only [natCast_lt_len, List.length_map, hidx', Nat.lt_irrefl, decide_false, Bool.false_eq_true, ↓reduceIte, mpure,
      List.length_nil, List.replicate_zero, List.append_nil]
  | cons x xs ih =>
    intro pre js hs fuel hidx' hjs hhs hf
    obtain ⟨g, rfl⟩ : ∃ g, fuel = g + 1 := ⟨fuel - 1, by omega⟩
    simp only [List.length_cons] at hf
    have hpl : pre.length < ito.length := by rw [hli, hidx']; simp
    have hjs' : js = ito[pre.length] :: ito.drop (pre.length + 1) := by
      rw [← hjs, List.drop_eq_getElem_cons hpl]
    have hpi : pre.length < idx.length := hli ▸ hpl
    have hlt : ((pre.length : Int) < len (idx.map Int.ofNat)) := (natCast_lt_len _ _).mpr (by simpa using hpi)
    have hix : idxL (idx.map Int.ofNat) (pre.length : Int) = .ok (x : Int) := by
      rw [idxL_map _ hpi]; simp [hidx']
    have hij : idxL (ito.map Int.ofNat) (pre.length : Int) = .ok ((ito[pre.length] : Nat) : Int) := idxL_map Int.ofNat hpl
    have hj := hito ito[pre.length] (List.getElem_mem _)
    have hx := hidx x (by rw [hidx']; simp)
    obtain ⟨gt, d, hgt, hd, hcases⟩ := hashAt_gen node ofBytes g tiles data hw ito[pre.length] x hj hx (by omega)
    rw [hjs', Generated.Tile.tileHashReader_ReadHashes_loop8]
    simp only [hlt, decide_true, ↓reduceIte, hix, hij, mbind_ok, hgt, hd, List.zip_cons_cons, Tile.extract, hpt,
      List.length_cons]
    rcases hcases with ⟨v, hha, hhft⟩ | ⟨hha, msg, hmsg, hhft⟩
    · have hset := hhs ▸ setIdxL_fill hs xs.length default v
      have e1 : (pre.length : Int) + 1 = (((pre ++ [x]).length : Nat) : Int) := by simp
      have hidx2 : idx = (pre ++ [x]) ++ xs := by rw [hidx']; simp
      have := ih (pre ++ [x]) (ito.drop (pre.length + 1)) (hs ++ [v]) g hidx2 (by simp) (by simp [hhs]) (by omega)
      simp only [hha, hhft, Option.isNone_none, Bool.not_true, Bool.false_eq_true, ↓reduceIte, hset, mbind_ok, e1]
      cases hex : Tile.extract node p (data.map (unflatS ofBytes)) (xs.zip (ito.drop (pre.length + 1))) with
      | error e =>
        rw [hex] at this
        simp only [bind, Except.bind]
        exact this
      | ok vs =>
        rw [hex] at this
        simp only [bind, Except.bind, pure, Except.pure]
        rw [this]
        simp
    · rw [hha, hhft]
      exact ⟨rfl, msg, hmsg, by simp [mpure, mbind_ok]⟩

/-! ### loop 7: authenticating the full tiles against their parents -/

/-- the error texts of `ReadHashes` by the model's error kind (`rerr` = the error returned by `ReadTiles`) -/
def MsgOK (rerr : Option String) : Tlog.Err → Option String → Prop
  | .indexRange, m => m = some "indexes not in tree"
  | .reader, m => m = rerr ∧ rerr ≠ none
  | .badTile, m => m = some "TileReader returned bad result slice (len=%d, want %d)" ∨
      m = some "TileReader returned bad result slice (%v len=%d, want %d)" ∨ ∃ s, HftMsg s ∧ m = some s
  | .inconsistent, m => m = some "downloaded inconsistent tile"
  | .badMath, m => m = some "bad math in tileHashReader: %d %d %v" ∨
      m = some "bad math in tileHashReader %d %v: lost parent of %v" ∨
      (∃ s, HftMsg s ∧ m = wrapErr "bad math in tileHashReader %d %v: lost hash of %v: %v" (some s)) ∨
      (∃ s, HftMsg s ∧ m = wrapErr "bad math in tileHashReader %d %v: lost hash %v: %v" (some s))
  | _, _ => False

omit [DecidableEq H] [Inhabited H] in
theorem tileParent_fields (t : Tile.Tile) (k N : Nat) :
    Tile.tileParent t k N = Tile.Tile.zero ∨
      ((Tile.tileParent t k N).h = t.h ∧ (Tile.tileParent t k N).l = t.l + k ∧ (Tile.tileParent t k N).n = t.n >>> (k * t.h)) := by
  unfold Tile.tileParent
  simp only
  split
  · split
    · left; rfl
    · right; exact ⟨rfl, rfl, rfl⟩
  · right; exact ⟨rfl, rfl, rfl⟩

theorem loop7_eq (r : Generated.Tile.tileHashReader H) (h N : Nat) (h1 : 1 ≤ h) (h57 : h ≤ 57) (hN : N < 2 ^ 62)
    (hrN : r.tree.N = (N : Int)) (idxs : List Int) (p : Tile.Plan) (og : List (GTile × Int)) (hrel : MapRel og p.order)
    (pf : PlanFacts h N p.tiles p.order p.nstx) (data : List Bytes) (hw : WidthsOK p.tiles data)
    (htl : p.tiles.length < 2 ^ 63) (rerr : Option String) :
    ∀ (f i fuel : Nat), p.nstx ≤ i → i + f = p.tiles.length → f + 70 ≤ fuel →
    match Tile.authChildren node N p (data.map (unflatS ofBytes)) f i with
    | .ok () => Generated.Tile.tileHashReader_ReadHashes_loop7 node ofBytes r idxs og (p.tiles.map toGen) data effLog fuel
        (i : Int) = .ok (Ctl.next ((p.tiles.length : Nat) : Int))
    | .error e => (e = .badMath ∨ e = .inconsistent) ∧ ∃ msg, MsgOK rerr e msg ∧
        Generated.Tile.tileHashReader_ReadHashes_loop7 node ofBytes r idxs og
        (p.tiles.map toGen) data effLog fuel (i : Int) = .ok (Ctl.ret ((([] : List H), msg), effLog)) := by
  intro f
  induction f with
  | zero =>
    intro i fuel _ hi hf
    obtain ⟨g, rfl⟩ : ∃ g, fuel = g + 1 := ⟨fuel - 1, by omega⟩
    have e : i = p.tiles.length := by omega
    subst e
    simp only [Tile.authChildren]
    rw [Generated.Tile.tileHashReader_ReadHashes_loop7]
    simp only [natCast_lt_len, List.length_map, Nat.lt_irrefl, decide_false, Bool.false_eq_true, ↓reduceIte, mpure]
  | succ f ih =>
    intro i fuel hin hi hf
    obtain ⟨g, rfl⟩ : ∃ g, fuel = g + 1 := ⟨fuel - 1, by omega⟩
    obtain ⟨hdl, hwi⟩ := hw
    have hit : i < p.tiles.length := by omega
    have hid : i < data.length := by omega
    have hlt : ((i : Int) < len (p.tiles.map toGen)) := (natCast_lt_len _ _).mpr (by simpa using hit)
    have hti := idxL_map toGen hit
    have hmem := List.getElem_mem hit
    have hok := pf.ok _ hmem
    obtain ⟨hfull, hsi⟩ := pf.child i p.tiles[i] hin (List.getElem?_eq_getElem hit)
    have hpar := tileParent_gen h N p.tiles[i] hok 1 (by omega) h57 hN
    have hpd := tileParent_data p.tiles[i] 1 N hok.data
    have hget := mapRel_get hrel _ hpd
    have e1 : ((1 : Nat) : Int) = 1 := by omega
    have hm1 : p.tiles[i]? = some p.tiles[i] := List.getElem?_eq_getElem hit
    have hm2 : (data.map (unflatS ofBytes))[i]? = some (unflat ofBytes data[i]) := by
      rw [List.getElem?_map, List.getElem?_eq_getElem hid, Option.map_some, unflatS_eq ofBytes _ _ (hwi i hit hid)]
    rw [Generated.Tile.tileHashReader_ReadHashes_loop7]
    simp only [e1] at hpar
    simp only [hlt, decide_true, ↓reduceIte, hti, mbind_ok, hrN, hpar, hget]
    unfold Tile.authChildren
    simp only [hm1, hm2]
    generalize hP : Tile.tileParent p.tiles[i] 1 N = par at hpd
    cases hlk : p.order.lookup par with
    | none =>
      refine ⟨Or.inl rfl, some "bad math in tileHashReader %d %v: lost parent of %v", Or.inr (Or.inl rfl), ?_⟩
      simp only [Bool.not_false, ↓reduceIte, mpure]
    | some j =>
      have hj := (pf.look par j).mp hlk
      have hjt : j < p.tiles.length := (List.getElem?_eq_some_iff.mp hj).1
      have hjd : j < data.length := by omega
      have hpmem : par ∈ p.tiles := List.mem_of_getElem? hj
      have hpok := pf.ok _ hpmem
      -- the parent is not `Tile{}`: its fields
      have hfld : par.h = h ∧ par.l = p.tiles[i].l + 1 := by
        rcases tileParent_fields p.tiles[i] 1 N with hz | ⟨a, b, _⟩
        · rw [hP] at hz
          have := hpok.hh
          rw [hz] at this
          simp only [Tile.Tile.zero] at this
          omega
        · rw [hP] at a b
          exact ⟨by rw [a, hok.hh], b⟩
      obtain ⟨hph, hpl⟩ := hfld
      have hL : (toGen par).L = (par.l : Int) := by simp [toGen, hpd]
      have hH : (toGen par).H = (par.h : Int) := rfl
      have hNn : (toGen p.tiles[i]).N = (p.tiles[i].n : Int) := rfl
      have elh : (par.l : Int) * (par.h : Int) = (((p.tiles[i].l + 1) * h : Nat) : Int) := by
        rw [hph, hpl]; simp
      have hlh : (p.tiles[i].l + 1) * h ≤ 63 * 57 := Nat.mul_le_mul (by have := hok.hl; omega) h57
      have hshi := StoredHashIndex_eq g ((p.tiles[i].l + 1) * h) p.tiles[i].n (by omega) (by omega)
      have hm3 : (data.map (unflatS ofBytes))[j]? = some (unflat ofBytes data[j]) := by
        rw [List.getElem?_map, List.getElem?_eq_getElem hjd, Option.map_some]
        have := hwi j hjt hjd
        rw [unflatS_eq ofBytes _ _ this]
      have hidx : Tlog.storedHashIndex (par.l * par.h) p.tiles[i].n = Tlog.storedHashIndex ((p.tiles[i].l + 1) * h) p.tiles[i].n := by
        rw [hph, hpl]
      simp only [Bool.not_true, Bool.false_eq_true, ↓reduceIte, idxL_natCast hjd, mbind_ok, hL, hH, elh,
        chk64_natCast (show (p.tiles[i].l + 1) * h < 2 ^ 63 by omega), hNn, hshi, hm3, hidx]
      rcases HashFromTile_cases node ofBytes g par data[j] _ hsi (by omega) with ⟨v, hv, hhft⟩ | ⟨hbad, msg, hmsg, hhft⟩
      · rw [hv, hhft]
        simp only [Option.isNone_none, Bool.not_true, Bool.false_eq_true, ↓reduceIte, idxL_natCast hid, mbind_ok]
        -- the tile itself: `2^h` hashes
        have hlen : data[i].length = 32 * 2 ^ h := by rw [hwi i hit hid, hfull]
        have hth := tileHash_eq node ofBytes h g data[i] hlen (by omega)
        have hlen2 : (unflat ofBytes data[i]).length = 2 ^ h := by
          rw [unflat_length, hlen, Nat.mul_div_cancel_left _ (by omega)]
        obtain ⟨rr, hrr⟩ := TileAuth.ptree_isSome node h _ hlen2
        have hmod := TileAuth.tileHash_ptree node h _ rr hlen2 hrr
        rw [hmod] at hth
        simp only [hth, errOut, mbind_ok, hmod, mbind_ok]
        by_cases heq : v = rr
        · subst heq
          have hc := chk64_succ (show i + 1 < 2 ^ 63 by omega)
          have := ih (i + 1) g (by omega) (by omega) (by omega)
          simp only [bne_self_eq_false, Bool.false_eq_true, ↓reduceIte, decide_true, Bool.not_true, hc, mbind_ok]
          exact this
        · have hb : (v != rr) = true := by simp [heq]
          simp only [hb, ↓reduceIte]
          refine ⟨Or.inr trivial, some "downloaded inconsistent tile", rfl, ?_⟩
          simp only [heq, decide_false, Bool.not_false, ↓reduceIte, mpure]
      · rw [hbad, hhft]
        exact ⟨Or.inl rfl, _, Or.inr (Or.inr (Or.inl ⟨msg, hmsg, rfl⟩)), by simp [mpure, mbind_ok]⟩

end
end ModVerif.TieFnTile
