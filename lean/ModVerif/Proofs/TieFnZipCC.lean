/-
  Tie proof, zip/zip.go `collisionChecker.check`: the regenerated definition (Generated/FnZip.lean: recursive on fuel, the
  Go map receiver is an association list that is also returned) against the hand model `Zip.ccCheck` (Model/Zip.lean).

  Representation: the association list `List (Bytes × pathInfo)` (key = folded path) and the model's `CC = List PathInfo`
  (records with the key as a field) are the same list entry by entry: `toCC` / `ofCC` are mutually inverse maps.
  The model's `toFold` parameter is instantiated with `Zip.strToFold` (tie of the generated `strToFold`, Proofs/TieFnZipFold).
  Errors: the three `fmt.Errorf` format literals are `errText` of the model's three collision `Reason`s.
-/
import ModVerif.Generated.FnZip
import ModVerif.Model.Zip
import ModVerif.Proofs.GoRtLemmasZip
import ModVerif.Proofs.TieFnZipFold
import ModVerif.Proofs.TieFnZipPath
namespace ModVerif.TieFnZip
open ModVerif ModVerif.GoRt ModVerif.GoRtZip
open ModVerif.Generated.Zip (pathInfo)

def toPI (q : Bytes × pathInfo) : Zip.PathInfo := ⟨q.1, q.2.path, q.2.isDir⟩
def ofPI (e : Zip.PathInfo) : Bytes × pathInfo := (e.fold, { path := e.path, isDir := e.isDir })

/-- the Go map as the model's table -/
def toCC (m : List (Bytes × pathInfo)) : Zip.CC := m.map toPI
def ofCC (cc : Zip.CC) : List (Bytes × pathInfo) := cc.map ofPI

theorem ofPI_toPI (q : Bytes × pathInfo) : ofPI (toPI q) = q := rfl
theorem toPI_ofPI (e : Zip.PathInfo) : toPI (ofPI e) = e := rfl

theorem ofCC_toCC (m : List (Bytes × pathInfo)) : ofCC (toCC m) = m := by
  simp [ofCC, toCC, List.map_map, Function.comp_def, ofPI_toPI]
theorem toCC_ofCC (cc : Zip.CC) : toCC (ofCC cc) = cc := by
  simp [ofCC, toCC, List.map_map, Function.comp_def, toPI_ofPI]

theorem toCC_append (a b : List (Bytes × pathInfo)) : toCC (a ++ b) = toCC a ++ toCC b := by simp [toCC]

/-- the `fmt.Errorf` format literal of a collision reason (the other reasons are never produced by `check`) -/
def errText : Zip.Reason → String
  | .caseCollision => "case-insensitive file name collision: %q and %q"
  | .fileAndDir => "entry %q is both a file and a directory"
  | .multiple => "multiple entries for file %q"
  | _ => ""

/-- the model's result as the result of the generated function: (error, map) -/
def ccOut (r : Zip.CC × Option Zip.Reason) : Option String × List (Bytes × pathInfo) := (r.2.map errText, ofCC r.1)

theorem find_toCC (m : List (Bytes × pathInfo)) (k : Bytes) :
    Zip.CC.find (toCC m) k = (m.find? (fun q => decide (q.1 = k))).map toPI := by
  unfold Zip.CC.find toCC
  exact find?_map_key toPI Zip.PathInfo.fold (fun _ => rfl) k m

theorem bind_pair_eta {α β : Type} (x : M (α × β)) :
    (x >>= fun t => match t with | (a, b) => (pure (a, b) : M (α × β))) = x := by
  cases x with
  | error e => rfl
  | ok v => obtain ⟨a, b⟩ := v; rfl

theorem check_step_of (sf : Int → Int) (f : Nat) (m : List (Bytes × pathInfo)) (p : Bytes) (d : Bool)
    (hst : Generated.Zip.strToFold sf f p = .ok (Zip.strToFold p)) :
    Generated.Zip.collisionChecker_check sf (f + 1) m p d =
      match Zip.ccStep Zip.strToFold (toCC m) p d with
      | (cc', some e) => .ok (some (errText e), ofCC cc')
      | (cc', none) =>
        if PathClean.pathDir p != [46] then Generated.Zip.collisionChecker_check sf f (ofCC cc') (PathClean.pathDir p) true
        else .ok (none, ofCC cc') := by
  rw [Generated.Zip.collisionChecker_check]
  unfold Zip.ccStep
  rw [hst, find_toCC]
  simp only [GoRt.bind_ok]
  have hk : ∀ m' : List (Bytes × pathInfo),
      (if (!decide (GoRt.pathDir p = [46])) = true then
        (Generated.Zip.collisionChecker_check sf f m' (GoRt.pathDir p) true >>= fun t2 =>
          match t2 with | (io3, cc) => (pure (io3, cc) : M _))
      else (pure (none, m') : M (Option String × List (Bytes × pathInfo)))) =
      (if PathClean.pathDir p != [46] then Generated.Zip.collisionChecker_check sf f m' (PathClean.pathDir p) true
        else .ok (none, m')) := by
    intro m'
    rw [bind_pair_eta]
    have : (!decide (GoRt.pathDir p = [46])) = (PathClean.pathDir p != [46]) := by
      show _ = !(PathClean.pathDir p == [46])
      rw [Bool.beq_eq_decide_eq]; rfl
    rw [this]; rfl
  cases hfind : m.find? (fun q => decide (q.1 = Zip.strToFold p)) with
  | none =>
    rw [mapGet_none _ _ _ hfind, mapSet_none _ _ _ hfind]
    simp only [Option.map_none, Bool.false_eq_true, if_false]
    have e : ofCC (toCC m ++ [⟨Zip.strToFold p, p, d⟩]) = m ++ [(Zip.strToFold p, { path := p, isDir := d })] := by
      rw [ofCC, List.map_append, ← ofCC, ofCC_toCC]; rfl
    rw [e]
    exact hk _
  | some q =>
    rw [mapGet_found _ _ _ q hfind]
    simp only [Option.map_some, if_true]
    have e1 : (!decide (p = q.2.path)) = (p != (toPI q).path) := by
      show _ = !(p == q.2.path)
      rw [Bool.beq_eq_decide_eq]
    have e2 : (!(d == q.2.isDir)) = (d != (toPI q).isDir) := rfl
    rw [e1, e2]
    by_cases h1 : (p != (toPI q).path) = true
    · simp only [h1, if_true, ofCC_toCC]; rfl
    simp only [h1, Bool.false_eq_true, if_false]
    by_cases h2 : (d != (toPI q).isDir) = true
    · simp only [h2, if_true, ofCC_toCC]; rfl
    simp only [h2, Bool.false_eq_true, if_false]
    by_cases h3 : (!d) = true
    · simp only [h3, if_true, ofCC_toCC]; rfl
    simp only [h3, Bool.false_eq_true, if_false, ofCC_toCC]
    exact hk _

end ModVerif.TieFnZip
