/-
  What the ties of regenerated loops share beyond the run-time vocabulary: the simulation of a model result by a run of regenerated code
  (`Sim`), and the two forms in which a translated `for i, x := range rx` is used: as an equation with the fold `rangeF`
  of its body over the list (`range_eq`, `rangeDown_eq`: the index arithmetic is done here, once), and as a simulation of
  the model's loop over the model entries (`range_sim`).
-/
import ModVerif.Proofs.GoRtLemmas
namespace ModVerif.GoRt

/-- The run `g` follows the model result `r`: where the model returns `a`, the run returns some `b` with `Q a b`; where
    the model fails, the run panics. -/
def Sim {ε α β : Type} (Q : α → β → Prop) (r : Except ε α) (g : M β) : Prop :=
  match r with
  | .ok a => ∃ b, g = .ok b ∧ Q a b
  | .error _ => g = .error .panic

namespace Sim
variable {ε α β α' β' : Type} {Q : α → β → Prop} {Q' : α' → β' → Prop} {r : Except ε α} {g : M β}

theorem ok {a : α} {b : β} (h : Q a b) : Sim Q (.ok a : Except ε α) (.ok b) := ⟨b, rfl, h⟩

theorem error (e : ε) : Sim Q (.error e) (.error .panic) := rfl

theorem of_ok {a : α} (h : Sim Q r g) (hr : r = .ok a) : ∃ b, g = .ok b ∧ Q a b := by subst hr; exact h

theorem of_error {e : ε} (h : Sim Q r g) (hr : r = .error e) : g = .error .panic := by subst hr; exact h

theorem bind {kr : α → Except ε α'} {kg : β → M β'} (h : Sim Q r g)
    (hk : ∀ a b, r = .ok a → Q a b → Sim Q' (kr a) (kg b)) : Sim Q' (r >>= kr) (g >>= kg) := by
  cases r with
  | error e => rw [show g = .error .panic from h]; rfl
  | ok a => obtain ⟨b, rfl, hq⟩ := h; exact hk a b rfl hq

theorem imp {Q₂ : α → β → Prop} (h : Sim Q r g) (hq : ∀ a b, r = .ok a → Q a b → Q₂ a b) : Sim Q₂ r g := by
  cases r with
  | error e => exact h
  | ok a => obtain ⟨b, hb, hq'⟩ := h; exact ⟨b, hb, hq a b rfl hq'⟩

/-- the run goes on after the call where the model returns the callee's result, or maps it -/
theorem map {f : α → α'} {kg : β → M β'} (h : Sim Q r g)
    (hk : ∀ a b, r = .ok a → Q a b → ∃ b', kg b = .ok b' ∧ Q' (f a) b') : Sim Q' (r.map f) (g >>= kg) := by
  cases r with
  | error e => rw [show g = .error .panic from h]; rfl
  | ok a => obtain ⟨b, rfl, hq⟩ := h; exact hk a b rfl hq

theorem bindG {Q₂ : α → β' → Prop} {kg : β → M β'} (h : Sim Q r g)
    (hk : ∀ a b, r = .ok a → Q a b → ∃ b', kg b = .ok b' ∧ Q₂ a b') : Sim Q₂ r (g >>= kg) := by
  have := h.map (f := id) hk
  rwa [show r.map id = r by cases r <;> rfl] at this

end Sim

/-- the body of a translated loop run over the elements `xs`, one unit of fuel per element (the body gets what is left) -/
def rangeF {γ σ : Type} (body : Nat → γ → σ → M σ) : Nat → List γ → σ → M σ
  | _, [], s => pure s
  | 0, _ :: _, _ => throw Err.fuel
  | f + 1, x :: xs, s => body f x s >>= rangeF body f xs

section rangeF
variable {γ σ : Type} (body : Nat → γ → σ → M σ)

@[simp] theorem rangeF_nil (f : Nat) (s : σ) : rangeF body f [] s = .ok s := by cases f <;> rfl

theorem rangeF_cons (f : Nat) (x : γ) (xs : List γ) (s : σ) :
    rangeF body (f + 1) (x :: xs) s = (body f x s >>= rangeF body f xs) := rfl

theorem rangeF_append : ∀ (fuel : Nat) (xs ys : List γ) (s s' : σ), rangeF body fuel xs s = .ok s' → xs.length ≤ fuel →
    rangeF body fuel (xs ++ ys) s = rangeF body (fuel - xs.length) ys s'
  | fuel, [], ys, s, s', h, _ => by simp at h; subst h; simp
  | 0, x :: xs, ys, s, s', h, hl => by simp at hl
  | f + 1, x :: xs, ys, s, s', h, hl => by
    rw [rangeF_cons] at h
    rw [List.cons_append, rangeF_cons]
    cases hstep : body f x s with
    | error e => rw [hstep] at h; cases h
    | ok s1 =>
      rw [hstep] at h
      simp only [bind_ok] at h ⊢
      rw [rangeF_append f xs ys s1 s' h (by simpa using hl)]
      simp

theorem rangeF_pure (g : σ → γ → σ) (hb : ∀ f x s, body f x s = .ok (g s x)) :
    ∀ (fuel : Nat) (xs : List γ) (s : σ), xs.length ≤ fuel → rangeF body fuel xs s = .ok (xs.foldl g s)
  | _, [], s, _ => by simp
  | 0, _ :: _, _, h => by simp at h
  | f + 1, x :: xs, s, h => by
    rw [rangeF_cons, hb, bind_ok, rangeF_pure g hb f xs _ (by simpa using h)]; rfl

/-- **`for k, x := range rx` from index `k`** is the fold of its body over `rx.drop k`.  The loop may carry only a part
    `π s` of what the body threads, and return its variables in any arrangement `out`. -/
theorem range_eq_of {τ ρ : Type} (π : σ → τ) (out : τ → ρ) (loop : Nat → Int → τ → M ρ) (rx : List γ)
    (hend : ∀ f t, loop (f + 1) (rx.length : Int) t = .ok (out t))
    (hstep : ∀ f (k : Nat) (hk : k < rx.length) s,
      loop (f + 1) (k : Int) (π s) = (body f rx[k] s >>= fun s' => loop f ((k : Int) + 1) (π s'))) :
    ∀ (n fuel k : Nat) (s : σ), k + n = rx.length → n + 1 ≤ fuel →
      loop fuel (k : Int) (π s) = (rangeF body fuel (rx.drop k) s >>= fun s' => pure (out (π s')))
  | 0, fuel + 1, k, s, hk, _ => by
    obtain rfl : k = rx.length := by omega
    rw [hend, List.drop_length, rangeF_nil]; rfl
  | n + 1, fuel + 1, k, s, hk, hf => by
    have hkl : k < rx.length := by omega
    rw [hstep fuel k hkl, ← List.getElem_cons_drop hkl, rangeF_cons]
    cases body fuel rx[k] s with
    | error e => rfl
    | ok s1 =>
      simp only [bind_ok]
      rw [show ((k : Int) + 1) = ((k + 1 : Nat) : Int) by omega]
      exact range_eq_of π out loop rx hend hstep n fuel (k + 1) s1 (by omega) (by omega)
  | _, 0, _, _, _, hf => by omega

theorem range_eq (loop : Nat → Int → σ → M (Int × σ)) (rx : List γ)
    (hend : ∀ f s, loop (f + 1) (rx.length : Int) s = .ok (len rx, s))
    (hstep : ∀ f (k : Nat) (hk : k < rx.length) s, loop (f + 1) (k : Int) s = (body f rx[k] s >>= loop f ((k : Int) + 1))) :
    ∀ (n fuel k : Nat) (s : σ), k + n = rx.length → n + 1 ≤ fuel →
      loop fuel (k : Int) s = (rangeF body fuel (rx.drop k) s >>= fun s' => pure (len rx, s')) :=
  range_eq_of body id (fun s => (len rx, s)) loop rx hend hstep

theorem range_fold (loop : Nat → Int → σ → M (Int × σ)) (rx : List γ) (g : σ → γ → σ)
    (hend : ∀ f s, loop (f + 1) (rx.length : Int) s = .ok (len rx, s))
    (hstep : ∀ f (k : Nat) (hk : k < rx.length) s, loop (f + 1) (k : Int) s = loop f ((k : Int) + 1) (g s rx[k]))
    (n fuel k : Nat) (s : σ) (hk : k + n = rx.length) (hf : n + 1 ≤ fuel) :
    loop fuel (k : Int) s = .ok (len rx, (rx.drop k).foldl g s) := by
  rw [range_eq (fun _ x s => .ok (g s x)) loop rx hend hstep n fuel k s hk hf,
    rangeF_pure _ g (fun _ _ _ => rfl) _ _ _ (by simp; omega)]
  rfl

/-- **`for i := len(rx) - 1; i >= 0; i--`**: the fold of the body over the reversed list; `out` as in `range_eq_of` -/
theorem rangeDown_eq {ρ : Type} (out : σ → ρ) (loop : Nat → Int → σ → M ρ) (rx : List γ)
    (hend : ∀ f s, loop (f + 1) (-1) s = .ok (out s))
    (hstep : ∀ f (k : Nat) (hk : k < rx.length) s, loop (f + 1) (k : Int) s = (body f rx[k] s >>= loop f ((k : Int) - 1))) :
    ∀ (r pfx sfx : List γ) (fuel : Nat) (s : σ), pfx.reverse = r → rx = pfx ++ sfx → pfx.length + 1 ≤ fuel →
      loop fuel ((pfx.length : Int) - 1) s = (rangeF body fuel r s >>= fun s' => pure (out s'))
  | [], pfx, sfx, fuel, s, hr, _, hf => by
    obtain rfl : pfx = [] := by simpa using hr
    obtain ⟨f, rfl⟩ : ∃ f, fuel = f + 1 := ⟨fuel - 1, by omega⟩
    simpa using hend f s
  | x :: r, pfx, sfx, fuel, s, hr, hp, hf => by
    obtain rfl : pfx = r.reverse ++ [x] := by simpa using congrArg List.reverse hr
    obtain ⟨f, rfl⟩ : ∃ f, fuel = f + 1 := ⟨fuel - 1, by omega⟩
    simp only [List.length_append, List.length_singleton] at hf
    have hk : r.reverse.length < rx.length := by rw [hp]; simp
    have hx : rx[r.reverse.length] = x := by simp [hp]
    rw [show (((r.reverse ++ [x]).length : Nat) : Int) - 1 = (r.reverse.length : Int) by simp, hstep f _ hk, hx, rangeF_cons]
    cases body f x s with
    | error e => rfl
    | ok s1 =>
      simp only [bind_ok]
      exact rangeDown_eq out loop rx hend hstep r r.reverse (x :: sfx) f s1 (by simp) (by rw [hp]; simp) (by omega)

end rangeF

/-- the model's loops over a list of entries: `step` gives the new entry and the new state -/
def stepLoop {β τ ε : Type} (step : β → τ → Except ε (β × τ)) : List β → τ → Except ε (List β × τ)
  | [], t => .ok ([], t)
  | x :: xs, t => do
    let (y, t) ← step x t
    let (ys, t) ← stepLoop step xs t
    pure (y :: ys, t)

/-- **A `range` loop simulates the model loop if each iteration simulates the model step.**  `I done todo s t` relates the
    loop-carried variables `s` to the model state `t` when the entries `done` are rewritten and `todo` are still to come.
    No body is named: `hstep` says that one turn takes the loop to the next index in a related state, or panics where
    the model step fails, so an iteration may `continue` from any branch.  Every turn may use `F + 1` units of fuel. -/
theorem range_sim {γ β τ ε σ : Type} (loop : Nat → Int → σ → M (Int × σ)) (rx : List γ)
    (step : β → τ → Except ε (β × τ)) (I : List β → List β → σ → τ → Prop) (F : Nat)
    (hend : ∀ fuel s, loop (fuel + 1) (rx.length : Int) s = .ok (len rx, s))
    (hstep : ∀ fuel done x todo s t p, I done (x :: todo) s t → rx[done.length]? = some p → F < fuel →
      match step x t with
      | .ok (y, t') => ∃ s', loop (fuel + 1) (done.length : Int) s = loop fuel ((done.length : Int) + 1) s' ∧
          I (done ++ [y]) todo s' t'
      | .error _ => loop (fuel + 1) (done.length : Int) s = .error .panic)
    {xs : List β} {s : σ} {t : τ} {fuel : Nat} (hI : I [] xs s t) (hl : rx.length = xs.length) (hf : xs.length + F < fuel) :
    Sim (fun r b => b.1 = len rx ∧ I r.1 [] b.2 r.2) (stepLoop step xs t) (loop fuel 0 s) := by
  have key : ∀ (todo done : List β) (s : σ) (t : τ) (fuel : Nat), I done todo s t → done.length + todo.length = rx.length →
      todo.length + F < fuel →
      Sim (fun r b => b.1 = len rx ∧ I (done ++ r.1) [] b.2 r.2) (stepLoop step todo t) (loop fuel (done.length : Int) s) := by
    intro todo
    induction todo with
    | nil =>
      intro done s t fuel hI hl hf
      obtain ⟨f, rfl⟩ : ∃ f, fuel = f + 1 := ⟨fuel - 1, by omega⟩
      have hd : done.length = rx.length := by simpa using hl
      refine ⟨(len rx, s), by rw [hd]; exact hend f s, rfl, ?_⟩
      simpa using hI
    | cons x todo ih =>
      intro done s t fuel hI hl hf
      obtain ⟨f, rfl⟩ : ∃ f, fuel = f + 1 := ⟨fuel - 1, by omega⟩
      simp only [List.length_cons] at hl hf
      obtain ⟨p, hp⟩ : ∃ p, rx[done.length]? = some p := ⟨rx[done.length]'(by omega), List.getElem?_eq_getElem _⟩
      have hs := hstep f done x todo s t p hI hp (by omega)
      unfold stepLoop
      cases hx : step x t with
      | error e => rw [hx] at hs; exact hs
      | ok r =>
        obtain ⟨y, t'⟩ := r
        rw [hx] at hs
        obtain ⟨s', hrun, hI'⟩ := hs
        have ih' := ih (done ++ [y]) s' t' f hI' (by simp; omega) (by omega)
        rw [show ((done ++ [y]).length : Int) = (done.length : Int) + 1 by simp, ← hrun] at ih'
        simp only [bind, Except.bind]
        cases hr : stepLoop step todo t' with
        | error e => rw [hr] at ih'; exact ih'
        | ok r' =>
          rw [hr] at ih'
          obtain ⟨b, hb, h1, h2⟩ := ih'
          exact ⟨b, hb, h1, by simpa using h2⟩
  have := key xs [] s t fuel hI (by simpa using hl.symm) hf
  simpa using this

end ModVerif.GoRt
