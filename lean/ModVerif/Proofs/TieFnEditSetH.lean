/-
  `File.SetRequireSeparateIndirect`: the closure `moveReq` as equations on
  the heap (an existing requirement: copy of its line under a new pointer, the old line's tokens cleared; a new requirement:
  a fresh line), and the graph lemma for appending a new line to the block at a statement index (`appendToBlock`).
-/
import ModVerif.Proofs.TieFnEditSetG
namespace ModVerif.Tie.FnEditSetH
open ModVerif ModVerif.GoRt ModVerif.Generated.Edit ModVerif.Tie.FnEditRep ModVerif.Tie.FnEditTreeA ModVerif.Tie.FnEditLoop ModVerif.Tie.FnEditSetA
  ModVerif.Tie.FnEditSetB ModVerif.Tie.FnEditSetD ModVerif.Tie.FnEditSetE ModVerif.Tie.FnEditSetF ModVerif.Tie.FnEditSetG
open ModVerif.Modfile.Edit (EFile treeIds appendToBlock headIs mkLine setIndirectLine)

/-! ### allocate, then read / write the fresh and the old objects -/

theorem heapSet_alloc_new {α : Type} (l : List α) (v v' : α) :
    heapSet (l ++ [v]) ((l.length + 1 : Nat) : Int) v' = .ok (l ++ [v']) := by
  rw [heapSet_of_get v' (heapGet_alloc_new l v)]
  have : ((l.length + 1 : Nat) : Int).toNat - 1 = l.length := by omega
  rw [this, set_alloc_last]

theorem heapSet_alloc_old {α : Type} {l : List α} {p : Int} {w : α} (v w' : α) (h : heapGet l p = .ok w) :
    heapSet (l ++ [v]) p w' = .ok (l.set (p.toNat - 1) w' ++ [v]) := by
  rw [heapSet_of_get w' (heapGet_alloc_old v h)]
  have := heapGet_le_length h
  have hp := heapGet_pos h
  rw [List.set_append_left _ _ (by omega)]

theorem heapGet_setalloc_new {α : Type} (l : List α) (k : Nat) (w' v : α) :
    heapGet (l.set k w' ++ [v]) ((l.length + 1 : Nat) : Int) = .ok v := by
  have := heapGet_alloc_new (l.set k w') v
  simpa using this

theorem heapSet_setalloc_new {α : Type} (l : List α) (k : Nat) (w' v v' : α) :
    heapSet (l.set k w' ++ [v]) ((l.length + 1 : Nat) : Int) v' = .ok (l.set k w' ++ [v']) := by
  have := heapSet_alloc_new (l.set k w') v v'
  simpa using this

theorem heapGet_alloc_new' {α : Type} (l : List α) (v : α) : heapGet (l ++ [v]) ((l.length : Int) + 1) = .ok v := by
  have := heapGet_alloc_new l v
  simpa using this

theorem heapSet_alloc_new' {α : Type} (l : List α) (v v' : α) : heapSet (l ++ [v]) ((l.length : Int) + 1) v' = .ok (l ++ [v']) := by
  have := heapSet_alloc_new l v v'
  simpa using this

/-! ### moveReq, existing requirement -/

/-- the token list of the moved copy -/
def moveTok (l : Modfile.Line) : List Bytes :=
  if !l.inBlock && !l.token.isEmpty && headIs l.token (B "require") then l.token.drop 1 else l.token

/-- the heap after `moveReq(r, block)` for a requirement with a syntax line -/
def moveHeap (h : Heap) (r : Int) (rq : Modfile.Require) (l : Modfile.Line) (bp : Int) (blk : LineBlock) : Heap :=
  { h with
    lines := h.lines.set (rq.lineId - 1) (lineG { l with token := [] }) ++
      [lineG { l with id := h.lines.length + 1, token := moveTok l, inBlock := true }],
    requires := h.requires.set (r.toNat - 1) (requireG { rq with lineId := h.lines.length + 1 }),
    blocks := h.blocks.set (bp.toNat - 1) { blk with Line := blk.Line ++ [((h.lines.length + 1 : Nat) : Int)] } }

theorem moveReq_existing_eq (isPrint : Int → Bool) (quote : Bytes → Bytes) (fuel : Nat) {h : Heap} {r : Int} {rq : Modfile.Require}
    {l : Modfile.Line} {bp : Int} {blk : LineBlock} (hr : heapGet h.requires r = .ok (requireG rq)) (h0 : rq.lineId ≠ 0)
    (hl : heapGet h.lines (rq.lineId : Int) = .ok (lineG l)) (hb : heapGet h.blocks bp = .ok blk) :
    File_SetRequireSeparateIndirect_moveReq isPrint quote fuel r bp h = .ok ((), moveHeap h r rq l bp blk) := by
  have hne : ¬ ((rq.lineId : Int) = 0) := by omega
  have hnp : ((h.lines.length + 1 : Nat) : Int) ≠ (rq.lineId : Int) := by
    have := heapGet_le_length hl; omega
  have htn : ((rq.lineId : Nat) : Int).toNat - 1 = rq.lineId - 1 := by omega
  unfold File_SetRequireSeparateIndirect_moveReq
  simp only [bind, Except.bind, pure, Except.pure, hr, requireG_Syntax, hne, decide_false, Bool.false_eq_true, if_false, heapAlloc,
    heapGet_alloc_old _ hl, heapGet_alloc_new, heapSet_alloc_new, lineG_InBlock, lineG_Token]
  rcases l with ⟨id, coms, st, tok, ib, en⟩
  cases ib with
  | true =>
    simp only [Bool.not_true, Bool.false_eq_true, if_false, heapSet_alloc_old _ _ hl, htn,
      heapSet_of_get _ hr, heapGet_setalloc_new,
      heapSet_setalloc_new, hb, heapSet_of_get _ hb]
    simp [moveHeap, moveTok, lineG, requireG]
  | false =>
    cases tok with
    | nil =>
      simp only [Bool.not_false, if_true, len_nil, gt_iff_lt, Int.lt_irrefl, decide_false, Bool.false_eq_true, if_false,
        heapSet_alloc_old _ _ hl, htn,
        heapSet_of_get _ hr, heapGet_setalloc_new,
        heapSet_setalloc_new, hb, heapSet_of_get _ hb]
      try simp [moveHeap, moveTok, lineG, requireG]
    | cons t0 ts =>
      have hpos' : 0 < len ts + 1 := by have := len_nonneg ts; omega
      have hpos : len (t0 :: ts) > 0 := by rw [len_cons]; omega
      by_cases e : t0 = [114, 101, 113, 117, 105, 114, 101]
      · simp only [Bool.not_false, if_true, decide_true, idxL_zero_cons, e, sliceFrom_one_cons,
          
          heapSet_alloc_old _ _ hl, htn,
          heapSet_of_get _ hr, heapGet_setalloc_new,
          heapSet_setalloc_new, hb, heapSet_of_get _ hb]
        simp [moveHeap, moveTok, lineG, requireG, headIs, B_require, hpos']
      · simp only [Bool.not_false, if_true, hpos, decide_true, idxL_zero_cons, e, decide_false, Bool.false_eq_true, if_false,
          
          heapSet_alloc_old _ _ hl, htn,
          heapSet_of_get _ hr, heapGet_setalloc_new,
          heapSet_setalloc_new, hb, heapSet_of_get _ hb]
        simp [moveHeap, moveTok, lineG, requireG, headIs, B_require, e]

/-! ### moveReq, new requirement (`r.Syntax == nil`) -/

/-- `AutoQuote` of this unit computes the model's `autoQuote` (Tie/FnModfile.AutoQuote_tie through FnEditTreeB.AutoQuote_eq);
    discharged in Tie/FnEditSet.lean (`autoQuoteSpec`) -/
def AutoQuoteSpec (isPrint : Int → Bool) (quote : Bytes → Bytes) : Prop :=
  ∀ (s : Bytes) (fuel : Nat), s.length + 1 ≤ fuel → AutoQuote isPrint quote fuel s = .ok (Modfile.autoQuote s)

/-- the line of a new requirement as the model's `addSepNew` builds it -/
def sepNewLine (id : Nat) (toks : List Bytes) (ind : Bool) : Modfile.Line :=
  if ind then setIndirectLine true (mkLine id toks true) else mkLine id toks true

theorem setIndirect_mkLine (id : Nat) (toks : List Bytes) :
    ({ lineG (setIndirectLine true (mkLine id toks false)) with InBlock := true } : Line) =
      lineG (setIndirectLine true (mkLine id toks true)) := by
  simp [setIndirectLine, Modfile.isIndirect, mkLine, lineG]

/-- the heap after `moveReq(r, block)` for a fresh requirement -/
def newHeap (h : Heap) (r : Int) (rq : Modfile.Require) (bp : Int) (blk : LineBlock) : Heap :=
  { h with
    lines := h.lines ++ [lineG (sepNewLine (h.lines.length + 1) [Modfile.autoQuote rq.mod.path, rq.mod.version] rq.indirect)],
    requires := h.requires.set (r.toNat - 1) (requireG { rq with lineId := h.lines.length + 1 }),
    blocks := h.blocks.set (bp.toNat - 1) { blk with Line := blk.Line ++ [((h.lines.length + 1 : Nat) : Int)] } }

/-- the fresh line before `setIndirect` / `InBlock = true` -/
def line0 (h : Heap) (rq : Modfile.Require) : Modfile.Line :=
  mkLine (h.lines.length + 1) [Modfile.autoQuote rq.mod.path, rq.mod.version] false

/-- the intermediate heap of `moveReq` after `r.Syntax = line` -/
def midHeap (h : Heap) (r : Int) (rq : Modfile.Require) : Heap :=
  { h with lines := h.lines ++ [lineG (line0 h rq)],
           requires := h.requires.set (r.toNat - 1) (requireG { rq with lineId := h.lines.length + 1 }) }

theorem moveReq_new_eq {isPrint : Int → Bool} {quote : Bytes → Bytes} (hAQ : AutoQuoteSpec isPrint quote) {fuel : Nat} {h : Heap} {r : Int}
    {rq : Modfile.Require} {bp : Int} {blk : LineBlock} (hr : heapGet h.requires r = .ok (requireG rq)) (h0 : rq.lineId = 0)
    (hb : heapGet h.blocks bp = .ok blk) (hf : rq.mod.path.length + 1 ≤ fuel) :
    File_SetRequireSeparateIndirect_moveReq isPrint quote fuel r bp h = .ok ((), newHeap h r rq bp blk) := by
  have hz : ((rq.lineId : Nat) : Int) = 0 := by simp [h0]
  unfold File_SetRequireSeparateIndirect_moveReq
  simp only [bind, Except.bind, pure, Except.pure, hr, requireG_Syntax, hz, decide_true, if_true, requireG_Mod,
    mvG_Path, mvG_Version, hAQ _ _ hf, heapAlloc, heapSet_of_get _ hr, fun X => heapGet_listSet_same X hr, requireG_Indirect]
  have hv0 : ({ (default : Line) with Token := [Modfile.autoQuote rq.mod.path, rq.mod.version] } : Line) = lineG (line0 h rq) := rfl
  rw [hv0]
  cases hind : rq.indirect with
  | false =>
    simp only [Bool.false_eq_true, if_false, heapGet_alloc_new, heapSet_alloc_new, hb, heapSet_of_get _ hb]
    simp [newHeap, sepNewLine, hind, lineG, mkLine, requireG, line0]
  | true =>
    simp only [if_true]
    have hr1 : heapGet (midHeap h r rq).requires r = .ok (requireG { rq with lineId := h.lines.length + 1 }) :=
      heapGet_listSet_same _ hr
    have hg1 : heapGet (midHeap h r rq).lines ((({ rq with lineId := h.lines.length + 1 } : Modfile.Require).lineId : Nat) : Int) =
        .ok (lineG (line0 h rq)) := heapGet_alloc_new _ _
    have hrun := Require_setIndirect_eq true hr1 hg1 (fun hb' => by cases hb')
    have hmid : midHeap h r rq =
        { h with
          lines := h.lines ++ [lineG (line0 h rq)],
          requires := h.requires.set (r.toNat - 1)
            { Mod := mvG rq.mod, Indirect := true, Syntax := ((h.lines.length + 1 : Nat) : Int) } } := by
      simp [midHeap, requireG, hind]
    rw [hmid] at hrun
    rw [hrun]
    have hset : (h.lines ++ [lineG (line0 h rq)]).set (((h.lines.length + 1 : Nat) : Int).toNat - 1)
        (lineG (setIndirectLine true (line0 h rq))) = h.lines ++ [lineG (setIndirectLine true (line0 h rq))] := by
      have : ((h.lines.length + 1 : Nat) : Int).toNat - 1 = h.lines.length := by omega
      rw [this, set_alloc_last]
    simp only [setLineH, hb, heapSet_of_get _ hb, line0, List.set_set]
    simp [newHeap, sepNewLine, hind, requireG, heapGet_alloc_new', heapSet_alloc_new']
    exact setIndirect_mkLine _ _

end ModVerif.Tie.FnEditSetH
