/-
  `KeepsBelow` / `KeepsSBelow` (lines that existed before an operation), the invariant read on lines with comments, and
  the kill list of SortBlocks under the invariant.
-/
import ModVerif.Proofs.EditMoreKeepB
import ModVerif.Proofs.EditMoreSepG
namespace ModVerif.Modfile.Edit
open ModVerif ModVerif.Modfile

/-- `n`: the fresh-id counter before the operation -/
def KeepsBelow (n : Nat) (S : List Nat) (a b : List Expr) : Prop :=
  ∀ x ∈ viewX a, x.id < n → x.id ∉ S → ∃ x' ∈ viewX b, x.le x'

theorem Keeps.below {S : List Nat} {a b : List Expr} (h : Keeps S a b) (n : Nat) : KeepsBelow n S a b :=
  fun x hx _ hs => h x hx hs

theorem KeepsBelow.trans {n : Nat} {S1 S2 : List Nat} {a b c : List Expr} (h1 : KeepsBelow n S1 a b) (h2 : KeepsBelow n S2 b c) :
    KeepsBelow n (S1 ++ S2) a c := by
  intro x hx hlt hs
  simp only [List.mem_append, not_or] at hs
  rcases h1 x hx hlt hs.1 with ⟨y, hy, hxy⟩
  rcases h2 y hy (by rw [hxy.1]; exact hlt) (by rw [hxy.1]; exact hs.2) with ⟨z, hz, hyz⟩
  exact ⟨z, hz, XLine.le_trans hxy hyz⟩

theorem KeepsBelow.mono {n : Nat} {S S' : List Nat} {a b : List Expr} (h : KeepsBelow n S a b) (hs : ∀ i ∈ S, i ∈ S') :
    KeepsBelow n S' a b :=
  fun x hx hlt hn => h x hx hlt (fun hi => hn (hs _ hi))

theorem KeepsBelow.nil_trans {n : Nat} {S : List Nat} {a b c : List Expr} (h1 : KeepsBelow n [] a b) (h2 : KeepsBelow n S b c) :
    KeepsBelow n S a c :=
  (h1.trans h2).mono (by simp)

theorem KeepsBelow.anti {n n' : Nat} {S : List Nat} {a b : List Expr} (h : KeepsBelow n S a b) (hn : n' ≤ n) : KeepsBelow n' S a b :=
  fun x hx hlt hs => h x hx (Nat.lt_of_lt_of_le hlt hn) hs

def KeepsSBelow (n : Nat) (S : List Nat) (a b : List Expr) : Prop :=
  ∀ x ∈ viewX a, x.id < n → x.id ∉ S → ∃ x' ∈ viewX b, x.leS x'

theorem KeepsS.below {S : List Nat} {a b : List Expr} (h : KeepsS S a b) (n : Nat) : KeepsSBelow n S a b :=
  fun x hx _ hs => h x hx hs

theorem KeepsSBelow.nil_trans {n : Nat} {S : List Nat} {a b c : List Expr} (h1 : KeepsSBelow n [] a b) (h2 : KeepsSBelow n S b c) :
    KeepsSBelow n S a c := by
  intro x hx hlt hs
  rcases h1 x hx hlt (by simp) with ⟨y, hy, hxy⟩
  rcases h2 y hy (by rw [hxy.1]; exact hlt) (by rw [hxy.1]; exact hs) with ⟨z, hz, hyz⟩
  exact ⟨z, hz, XLine.leS_trans hxy hyz⟩

theorem KeepsSBelow.anti {n n' : Nat} {S : List Nat} {a b : List Expr} (h : KeepsSBelow n S a b) (hn : n' ≤ n) : KeepsSBelow n' S a b :=
  fun x hx hlt hs => h x hx (Nat.lt_of_lt_of_le hlt hn) hs

theorem KeepsEq.belowS {S : List Nat} {a b : List Expr} (h : KeepsEq S a b) (n : Nat) : KeepsSBelow n S a b :=
  h.toKeepsS.below n

theorem Inv.acc_of_id {e : EFile} (hi : Inv e) {x : XLine} (hx : x ∈ viewX e.f.syn.stmts) {en : Ent} (hen : en ∈ entries e.f)
    (hid : en.id = x.id) : en.acc x.toks x.suffix := by
  rcases hi.mtch.cover en hen with ⟨v, hv, hvid, hacc⟩
  have : v = ⟨x.id, x.toks, x.suffix⟩ := view_unique hi.tree.nodup hv (view_of_viewX hx) (hvid.trans hid)
  rw [this] at hacc; exact hacc

theorem viewX_id_mem {stmts : List Expr} {x : XLine} (h : x ∈ viewX stmts) : x.id ∈ treeIds stmts :=
  view_id_mem_treeIds (view_of_viewX h)

theorem Inv.x_lt {e : EFile} (hi : Inv e) {x : XLine} (hx : x ∈ viewX e.f.syn.stmts) : x.id < e.next :=
  hi.tree.lt _ (viewX_id_mem hx)

theorem mem_entries_module {f : File} {m : Module} (h : f.module = some m) : entM m ∈ entries f := by
  simp [entries, h]
theorem mem_entries_go {f : File} {g : Go} (h : f.go = some g) : entGo g ∈ entries f := by
  simp [entries, h]
theorem mem_entries_toolchain {f : File} {g : Toolchain} (h : f.toolchain = some g) : entTc g ∈ entries f := by
  simp [entries, h]
theorem mem_entries_godebug {f : File} {g : Godebug} (h : g ∈ f.godebug) (hl : liveG g = true) : entG g ∈ entries f := by
  rw [entries_godebug]
  exact List.mem_append_right _ (List.mem_append_left _ ((mem_entsOf liveG entG).2 ⟨g, h, hl, rfl⟩))
theorem mem_entries_require {f : File} {g : Require} (h : g ∈ f.require) (hl : liveRq g = true) : entRq g ∈ entries f := by
  rw [entries_require]
  exact List.mem_append_right _ (List.mem_append_left _ ((mem_entsOf liveRq entRq).2 ⟨g, h, hl, rfl⟩))
theorem mem_entries_exclude {f : File} {g : Exclude} (h : g ∈ f.exclude) (hl : liveX g = true) : entX g ∈ entries f := by
  rw [entries_exclude]
  exact List.mem_append_right _ (List.mem_append_left _ ((mem_entsOf liveX entX).2 ⟨g, h, hl, rfl⟩))
theorem mem_entries_replace {f : File} {g : Replace} (h : g ∈ f.replace) (hl : liveRp g = true) : entRp g ∈ entries f := by
  rw [entries_replace]
  exact List.mem_append_right _ (List.mem_append_left _ ((mem_entsOf liveRp entRp).2 ⟨g, h, hl, rfl⟩))
theorem mem_entries_retract {f : File} {g : Retract} (h : g ∈ f.retract) (hl : liveRt g = true) : entRt g ∈ entries f := by
  rw [entries_retract]
  exact List.mem_append_right _ (List.mem_append_left _ ((mem_entsOf liveRt entRt).2 ⟨g, h, hl, rfl⟩))
theorem mem_entries_tool {f : File} {g : Tool} (h : g ∈ f.tool) (hl : liveT g = true) : entT g ∈ entries f := by
  rw [entries_tool]
  exact List.mem_append_right _ (List.mem_append_left _ ((mem_entsOf liveT entT).2 ⟨g, h, hl, rfl⟩))

theorem Inv.kill3_entry {e : EFile} (hi : Inv e) {i : Nat} (hk : i ∈ kill3 e.f) (h0 : i ≠ 0) :
    (∃ z ∈ e.f.exclude, liveX z = true ∧ z.lineId = i) ∨ (∃ z ∈ e.f.replace, liveRp z = true ∧ z.lineId = i) ∨
      (∃ z ∈ e.f.tool, liveT z = true ∧ z.lineId = i) := by
  have live : ∀ {b : Bool} {id : Nat}, (b = false → id = 0) → id = i → b = true := fun {b} _ h e1 => by
    cases b with
    | true => rfl
    | false => exact absurd (e1 ▸ h rfl) h0
  rcases kill3_src e.f _ hk with ⟨z, hz, hzid⟩ | ⟨z, hz, hzid⟩ | ⟨z, hz, hzid⟩
  · exact .inl ⟨z, hz, live (hi.tinv.wfX z hz).2 hzid, hzid⟩
  · exact .inr (.inl ⟨z, hz, live (hi.tinv.wfR z hz).2 hzid, hzid⟩)
  · exact .inr (.inr ⟨z, hz, live (hi.tinv.wfT z hz).2 hzid, hzid⟩)

theorem Inv.kill3_lt {e : EFile} (hi : Inv e) : ∀ i ∈ kill3 e.f, i < e.next := by
  intro i hk
  by_cases h0 : i = 0
  · rw [h0]; exact hi.tinv.pos
  · rcases hi.kill3_entry hk h0 with ⟨z, hz, hl, rfl⟩ | ⟨z, hz, hl, rfl⟩ | ⟨z, hz, hl, rfl⟩
    · exact hi.mtch.ids_lt hi.tree (entX z) (mem_entries_exclude hz hl)
    · exact hi.mtch.ids_lt hi.tree (entRp z) (mem_entries_replace hz hl)
    · exact hi.mtch.ids_lt hi.tree (entT z) (mem_entries_tool hz hl)

def NotDedupVerb (toks : List Bytes) : Prop :=
  toks.head? ≠ some (B "exclude") ∧ toks.head? ≠ some (B "replace") ∧ toks.head? ≠ some (B "tool")

instance (toks : List Bytes) : Decidable (NotDedupVerb toks) := by unfold NotDedupVerb; infer_instance

theorem notDedupVerb_require (rest : List Bytes) : NotDedupVerb (B "require" :: rest) := by
  have hne : B "require" ≠ B "exclude" ∧ B "require" ≠ B "replace" ∧ B "require" ≠ B "tool" := by decide +kernel
  exact ⟨by simpa using hne.1, by simpa using hne.2.1, by simpa using hne.2.2⟩

theorem Inv.not_killed_of_verb {e : EFile} (hi : Inv e) {x : XLine} (hx : x ∈ viewX e.f.syn.stmts) (hv : NotDedupVerb x.toks) :
    x.id ∉ kill3 e.f := by
  intro hk
  rcases hi.kill3_entry hk (hi.tree.pos _ (viewX_id_mem hx)) with ⟨z, hz, hl, hzid⟩ | ⟨z, hz, hl, hzid⟩ | ⟨z, hz, hl, hzid⟩
  · have hacc := hi.acc_of_id hx (mem_entries_exclude hz hl) hzid
    simp only [entX] at hacc
    exact hv.1 (by rw [hacc]; rfl)
  · have hacc := hi.acc_of_id hx (mem_entries_replace hz hl) hzid
    simp only [entRp] at hacc
    exact hv.2.1 (by rw [hacc]; simp [replaceToks])
  · obtain ⟨y, h1, _⟩ := hi.acc_of_id hx (mem_entries_tool hz hl) hzid
    exact hv.2.2 (by rw [h1]; rfl)

end ModVerif.Modfile.Edit
