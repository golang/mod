/-
  The model's loops `clearAll` and `firstRest` as step loops (the lines of the dropped entries are marked as they are met,
  not afterwards): the form in which `TieFnEditTyped` meets them for both file kinds.  For the go.work operations
  (Tie/FnEditWork.lean): the insertion of a fresh top-level line into the statement list.
-/
import ModVerif.Proofs.TieFnEditRep
import ModVerif.Proofs.TieFnEditTreeA
import ModVerif.Proofs.EditRefineTree
namespace ModVerif.Tie.FnEditWorkA
open ModVerif ModVerif.GoRt ModVerif.Generated.Edit ModVerif.Tie.FnEditRep ModVerif.Tie.FnEditTreeA ModVerif.Tie.FnEditLoop
open ModVerif.Modfile.Edit (EWork EditErr clearAll firstRest markAll markRemoved deref nilId treeIds)

theorem set_append_mid {α : Type} (a : List α) (x : α) (b : List α) (y : α) :
    (a ++ x :: b).set a.length y = a ++ y :: b := set_cursor a x y b

theorem not_lt_len_self {α : Type} (a : List α) : ¬ (((a.length : Nat) : Int) < len a) :=
  GoRt.not_lt_len_self a

theorem bytes_beq_eq_decide (a b : Bytes) : (a == b) = decide (a = b) := by
  by_cases h : a = b
  · subst h; simp
  · simp [h]

theorem markAll_nil (fs : Modfile.FileSyntax) : markAll fs [] = fs := rfl
theorem markAll_cons (fs : Modfile.FileSyntax) (i : Nat) (d : List Nat) :
    markAll fs (i :: d) = markAll (Modfile.Edit.markRemoved fs i) d := rfl

theorem deref_zero : deref 0 = .error .nilDeref := rfl
theorem deref_pos {i : Nat} (h : i ≠ 0) : deref i = .ok i := by
  simp [deref, nilId, h]

/-- one iteration of `clearAll` -/
def clearStep {α : Type} (m : α → Bool) (id : α → Nat) (cleared : α) (x : α) (syn : Modfile.FileSyntax) :
    Except EditErr (α × Modfile.FileSyntax) :=
  if m x then (deref (id x)).map fun i => (cleared, markRemoved syn i) else .ok (x, syn)

theorem clearAll_stepLoop {α : Type} (m : α → Bool) (id : α → Nat) (cleared : α) : ∀ (xs : List α) (syn : Modfile.FileSyntax),
    stepLoop (clearStep m id cleared) xs syn = (clearAll m id cleared xs).map fun r => (r.1, markAll syn r.2)
  | [], syn => rfl
  | x :: xs, syn => by
    have ih := clearAll_stepLoop m id cleared xs
    rw [stepLoop, clearAll]
    cases hm : m x
    · simp only [clearStep, hm, Bool.false_eq_true, if_false, bind, Except.bind, ih]
      cases clearAll m id cleared xs <;> rfl
    · simp only [clearStep, hm, if_true, bind, Except.bind]
      cases deref (id x) with
      | error e => rfl
      | ok i =>
        simp only [Except.map, ih]
        cases clearAll m id cleared xs <;> rfl

theorem firstRest_false_first {α : Type} (m : α → Bool) (id : α → Nat) (upd : α → α) (cleared : α)
    (xs : List α) (rest : List α) (first : Option Nat) (dead : List Nat)
    (h : firstRest m id upd cleared xs false = .ok (rest, first, dead)) : first = none := by
  rw [Modfile.Edit.firstRest_false] at h
  cases hc : clearAll m id cleared xs with
  | error e => rw [hc] at h; cases h
  | ok v => rw [hc] at h; cases h; rfl

/-- the syntax tree after the "first match" of an Add loop was rewritten -/
def updFirst (syn : Modfile.FileSyntax) (first : Option Nat) (tokens : List Bytes) : Modfile.FileSyntax :=
  match first with
  | some i => Modfile.Edit.updateLine syn i tokens
  | none => syn

/-- one iteration of `firstRest`; the state is the flag "no match yet" and the tree, in which the first match gets the
    line `tokens` -/
def firstStep {α : Type} (m : α → Bool) (id : α → Nat) (upd : α → α) (cleared : α) (tokens : List Bytes) (x : α)
    (t : Bool × Modfile.FileSyntax) : Except EditErr (α × Bool × Modfile.FileSyntax) :=
  if m x then (deref (id x)).map fun i =>
    if t.1 then (upd x, false, Modfile.Edit.updateLine t.2 i tokens) else (cleared, false, markRemoved t.2 i)
  else .ok (x, t)

theorem firstRest_stepLoop {α : Type} (m : α → Bool) (id : α → Nat) (upd : α → α) (cleared : α) (tokens : List Bytes) :
    ∀ (xs : List α) (need : Bool) (syn : Modfile.FileSyntax),
      stepLoop (firstStep m id upd cleared tokens) xs (need, syn) =
        (firstRest m id upd cleared xs need).map fun r => (r.1, need && r.2.1.isNone, markAll (updFirst syn r.2.1 tokens) r.2.2)
  | [], need, syn => by simp [stepLoop, firstRest, Except.map, updFirst, markAll]
  | x :: xs, need, syn => by
    have ih := firstRest_stepLoop m id upd cleared tokens xs
    rw [stepLoop, firstRest]
    cases hm : m x
    · simp only [firstStep, hm, Bool.false_eq_true, if_false, bind, Except.bind, ih]
      cases firstRest m id upd cleared xs need <;> rfl
    · simp only [firstStep, hm, if_true, bind, Except.bind]
      cases deref (id x) with
      | error e => rfl
      | ok i =>
        simp only [Except.map]
        cases hr : firstRest m id upd cleared xs false with
        | error e => cases need <;> simp [ih, hr, Except.map]
        | ok r =>
          obtain ⟨rest, first, dead⟩ := r
          have := firstRest_false_first m id upd cleared xs rest first dead hr
          subst this
          cases need <;> simp [ih, hr, Except.map, updFirst, markAll, pure, Except.pure]

theorem EWork_eta (e : EWork) : ({ e with f := { e.f with use := e.f.use, syn := e.f.syn } } : EWork) = e := rfl

theorem RStmts_take {h : Heap} : ∀ {es : List Expr} {ss : List Modfile.Expr} (i : Nat), RStmts h es ss →
    RStmts h (es.take i) (ss.take i)
  | [], [], i, _ => by simp [RStmts]
  | _ :: _, _ :: _, 0, _ => by simp [RStmts]
  | _ :: _, _ :: _, i + 1, r => ⟨r.1, RStmts_take i r.2⟩
  | [], _ :: _, _, r => r.elim
  | _ :: _, [], _, r => r.elim

theorem RStmts_drop {h : Heap} : ∀ {es : List Expr} {ss : List Modfile.Expr} (i : Nat), RStmts h es ss →
    RStmts h (es.drop i) (ss.drop i)
  | [], [], i, _ => by simp [RStmts]
  | _ :: _, _ :: _, 0, r => r
  | _ :: _, _ :: _, i + 1, r => RStmts_drop i r.2
  | [], _ :: _, _, r => r.elim
  | _ :: _, [], _, r => r.elim

theorem blockPtrs_insertLine (es : List Expr) (i : Nat) (n : Int) :
    blockPtrs (es.take i ++ Expr.Line n :: es.drop i) = blockPtrs es := by
  rw [blockPtrs_append]
  show blockPtrs (es.take i) ++ blockPtrs (es.drop i) = _
  rw [← blockPtrs_append, List.take_append_drop]

theorem BlockTokOK_insertLine {ss : List Modfile.Expr} (hb : BlockTokOK ss) (i : Nat) (l : Modfile.Line) :
    BlockTokOK (Modfile.Edit.insertAt ss i (.line l)) := by
  intro b hbm
  unfold Modfile.Edit.insertAt at hbm
  simp only [List.mem_append, List.mem_cons, reduceCtorEq, false_or] at hbm
  rcases hbm with hbm | hbm
  · exact hb b (List.mem_of_mem_take hbm)
  · exact hb b (List.mem_of_mem_drop hbm)

/-- `h'` is any heap with the new line allocated (pointer `lines.length + 1`), the file object updated, `blocks` and `cbs` kept -/
theorem RepSynAt_insertLine {h h' : Heap} {x : Int} {fs : Modfile.FileSyntax} {es : List Expr} (r : RepSynAt h x fs es)
    (tokens : List Bytes) (i : Nat)
    (hl : h'.lines = h.lines ++ [lineG (Modfile.Edit.mkLine (h.lines.length + 1) tokens false)])
    (hfl : h'.files = h.files.set (x.toNat - 1)
      { fileG fs es with Stmt := es.take i ++ Expr.Line ((h.lines.length + 1 : Nat) : Int) :: es.drop i })
    (hb : h'.blocks = h.blocks) (hc : h'.cbs = h.cbs) :
    RepSynAt h' x { fs with stmts := Modfile.Edit.insertAt fs.stmts i (.line (Modfile.Edit.mkLine (h.lines.length + 1) tokens false)) }
      (es.take i ++ Expr.Line ((h.lines.length + 1 : Nat) : Int) :: es.drop i) := by
  have hmono : ∀ {es' : List Expr} {ss' : List Modfile.Expr}, RStmts h es' ss' → RStmts h' es' ss' := by
    intro es' ss' r'
    refine r'.mono ?_ ?_ ?_
    · intro q w hq; rw [hl]; exact heapGet_alloc_old _ hq
    · intro q w hq; rw [hb]; exact hq
    · intro q w hq; rw [hc]; exact hq
  refine ⟨?_, ?_, ?_, ?_⟩
  · rw [hfl]; exact heapGet_listSet_same _ r.file
  · show RStmts h' _ (Modfile.Edit.insertAt fs.stmts i _)
    unfold Modfile.Edit.insertAt
    refine RStmts.append (hmono (RStmts_take i r.stmts)) ⟨?_, hmono (RStmts_drop i r.stmts)⟩
    refine ⟨?_, rfl⟩
    rw [hl]; exact heapGet_alloc_new _ _
  · rw [blockPtrs_insertLine]; exact r.nodupB
  · show (treeIds (Modfile.Edit.insertAt fs.stmts i _)).Nodup
    unfold Modfile.Edit.insertAt
    have hnd := r.nodupL
    rw [← List.take_append_drop i fs.stmts, Modfile.Edit.treeIds_append] at hnd
    rw [Modfile.Edit.treeIds_append, Modfile.Edit.treeIds_cons, Modfile.Edit.treeIds_newLine]
    have hfresh : ∀ j ∈ treeIds fs.stmts, j ≠ h.lines.length + 1 := by
      intro j hj; have := (r.stmts.treeIds_le j hj).2; omega
    have hsub1 : ∀ j ∈ treeIds (fs.stmts.take i), j ∈ treeIds fs.stmts := by
      intro j hj
      rw [← List.take_append_drop i fs.stmts, Modfile.Edit.treeIds_append]; exact List.mem_append_left _ hj
    have hsub2 : ∀ j ∈ treeIds (fs.stmts.drop i), j ∈ treeIds fs.stmts := by
      intro j hj
      rw [← List.take_append_drop i fs.stmts, Modfile.Edit.treeIds_append]; exact List.mem_append_right _ hj
    rw [List.nodup_append] at hnd ⊢
    refine ⟨hnd.1, ?_, ?_⟩
    · rw [List.singleton_append, List.nodup_cons]
      exact ⟨fun hm => hfresh _ (hsub2 _ hm) rfl, hnd.2.1⟩
    · intro a ha b hbm
      rw [List.singleton_append, List.mem_cons] at hbm
      rcases hbm with rfl | hbm
      · exact fun e => hfresh _ (hsub1 _ ha) e
      · exact hnd.2.2 a ha b hbm

protected theorem getElem?_append_mid {α : Type} (a : List α) (x : α) (b : List α) : (a ++ x :: b)[a.length]? = some x :=
  getElem?_cursor a x b

protected theorem idxL_mid {α : Type} (a : List α) (x : α) (b : List α) {i : Int} (hi : i = (a.length : Int)) :
    idxL (a ++ x :: b) i = .ok x := hi ▸ GoRt.idxL_mid a x b

protected theorem lt_len_mid {α : Type} (a : List α) (x : α) (b : List α) : ((a.length : Nat) : Int) < len (a ++ x :: b) :=
  GoRt.lt_len_mid a x b

section
variable {h : Heap} {o : WorkFile} {e : EWork}

theorem RepWAt_works (R : RepWAt h o e) (w : List WorkFile) : RepWAt { h with works := w } o e := R.congrWorks w

theorem RepWAt_useAt (R : RepWAt h o e) {pre suf : List Int} {p : Int} {xpre xsuf : List Modfile.Use} {x : Modfile.Use}
    (ho : o.Use = pre ++ p :: suf) (he : e.f.use = xpre ++ x :: xsuf) (hl : pre.length = xpre.length) :
    heapGet h.uses p = .ok (useG x) ∧ x.lineId ≤ h.lines.length :=
  R.use.get (i := pre.length) (by rw [ho]; exact getElem?_cursor _ _ _) (by rw [he, hl]; exact getElem?_cursor _ _ _)

theorem RepWAt_godebugAt (R : RepWAt h o e) {pre suf : List Int} {p : Int} {xpre xsuf : List Modfile.Godebug} {x : Modfile.Godebug}
    (ho : o.Godebug = pre ++ p :: suf) (he : e.f.godebug = xpre ++ x :: xsuf) (hl : pre.length = xpre.length) :
    heapGet h.godebugs p = .ok (godebugG x) ∧ x.lineId ≤ h.lines.length :=
  R.godebug.get (i := pre.length) (by rw [ho]; exact getElem?_cursor _ _ _) (by rw [he, hl]; exact getElem?_cursor _ _ _)

theorem RepWAt_replaceAt (R : RepWAt h o e) {pre suf : List Int} {p : Int} {xpre xsuf : List Modfile.Replace} {x : Modfile.Replace}
    (ho : o.Replace = pre ++ p :: suf) (he : e.f.replace = xpre ++ x :: xsuf) (hl : pre.length = xpre.length) :
    heapGet h.replaces p = .ok (replaceG x) ∧ x.lineId ≤ h.lines.length :=
  R.replace.get (i := pre.length) (by rw [ho]; exact getElem?_cursor _ _ _) (by rw [he, hl]; exact getElem?_cursor _ _ _)

theorem RepWAt_setUse (R : RepWAt h o e) {i : Nat} {p : Int} (hi : o.Use[i]? = some p) (y : Modfile.Use)
    (hy : y.lineId ≤ h.lines.length) :
    RepWAt { h with uses := h.uses.set (p.toNat - 1) (useG y) } o { e with f := { e.f with use := e.f.use.set i y } } :=
  R.withUse (R.use.set hi y hy)

theorem RepWAt_setGodebug (R : RepWAt h o e) {i : Nat} {p : Int} (hi : o.Godebug[i]? = some p) (y : Modfile.Godebug)
    (hy : y.lineId ≤ h.lines.length) :
    RepWAt { h with godebugs := h.godebugs.set (p.toNat - 1) (godebugG y) } o
      { e with f := { e.f with godebug := e.f.godebug.set i y } } := R.withGodebug (R.godebug.set hi y hy)

theorem RepWAt_setReplace (R : RepWAt h o e) {i : Nat} {p : Int} (hi : o.Replace[i]? = some p) (y : Modfile.Replace)
    (hy : y.lineId ≤ h.lines.length) :
    RepWAt { h with replaces := h.replaces.set (p.toNat - 1) (replaceG y) } o
      { e with f := { e.f with replace := e.f.replace.set i y } } := R.withReplace (R.replace.set hi y hy)

theorem RepWAt_setGo (R : RepWAt h o e) {g : Modfile.Go} (hg : e.f.go = some g) (y : Modfile.Go) (hy : y.lineId ≤ h.lines.length) :
    RepWAt { h with gos := h.gos.set (o.Go.toNat - 1) (goG y) } o { e with f := { e.f with go := some y } } :=
  R.withGo (x' := some y) ⟨heapGet_listSet_same _ (by have := R.go; rw [hg] at this; exact this.1), hy⟩

theorem RepWAt_setToolchain (R : RepWAt h o e) {t : Modfile.Toolchain} (ht : e.f.toolchain = some t) (y : Modfile.Toolchain)
    (hy : y.lineId ≤ h.lines.length) :
    RepWAt { h with toolchains := h.toolchains.set (o.Toolchain.toNat - 1) (toolchainG y) } o
      { e with f := { e.f with toolchain := some y } } :=
  R.withToolchain (x' := some y) ⟨heapGet_listSet_same _ (by have := R.toolchain; rw [ht] at this; exact this.1), hy⟩

theorem RepWAt_dropGo (R : RepWAt h o e) : RepWAt h { o with Go := 0 } { e with f := { e.f with go := none } } :=
  R.withGo (l' := h.gos) (p' := 0) (x' := none) rfl

theorem RepWAt_dropToolchain (R : RepWAt h o e) :
    RepWAt h { o with Toolchain := 0 } { e with f := { e.f with toolchain := none } } :=
  R.withToolchain (l' := h.toolchains) (p' := 0) (x' := none) rfl

end

end ModVerif.Tie.FnEditWorkA
