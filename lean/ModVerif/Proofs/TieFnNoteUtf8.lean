/-
  Tie proofs for sumdb/note/note.go (Generated/FnNote.lean vs Model/Note.lean):
  the model's UTF-8 walk `runesOf` against the run-time decoder (`Utf8.decode`), strings.IndexFunc,
  isValidName, chop (strings.Index), and the first loop of Open (the rune scan).
-/
import ModVerif.Generated.FnNote
import ModVerif.Model.Note
import ModVerif.Proofs.GoRtLemmasNote
import ModVerif.Proofs.GoRtLemmasZip
import ModVerif.Proofs.NoteBytes
namespace ModVerif.TieFnNote
open ModVerif ModVerif.GoRt ModVerif.GoRtNote

/-! ### instantiation of the abstract parameters of the generated code (as in Drv/GenNote.lean) -/

/-- `unicode.IsSpace` on a rune given as an integer -/
def isSpaceI (r : Int) : Bool := Note.isSpace r.toNat

/-- `base64.StdEncoding.DecodeString` as the model decodes, with Go's `(value, error)` result shape -/
def b64decI (s : Bytes) : Bytes × Option String :=
  match B64.b64dec s with
  | some b => (b, none)
  | none => ([], some "illegal base64 data")

/-! ### the model's `runesOf` is the accept table of `Utf8.decode`, one rune at a time -/

theorem isCont_eq (b : UInt8) : Note.isCont b = Utf8.isCont b := rfl

theorem runesOf_step (b0 : UInt8) (rest : Bytes) :
    Note.runesOf (b0 :: rest) = match Utf8.decode (b0 :: rest) with
      | none => none
      | some (r, w) => (Note.runesOf ((b0 :: rest).drop w)).map (r :: ·) := by
  -- a well-formed non-empty string starts with the sequence `decode` finds
  have key : ∀ {s : Bytes} {rs : List Nat}, Note.Runes s rs → s ≠ [] →
      ∃ p t r rs', s = p ++ t ∧ Utf8.decode s = some (r, p.length) ∧ Note.Runes t rs' ∧ rs = r :: rs' := by
    intro s rs h hne
    cases h with
    | nil => exact absurd rfl hne
    | cons hp ht => exact ⟨_, _, _, _, rfl, Utf8.decode_of_seq hp _, ht, rfl⟩
  cases hd : Utf8.decode (b0 :: rest) with
  | none =>
    cases hr : Note.runesOf (b0 :: rest) with
    | none => rfl
    | some rs =>
      obtain ⟨_, _, _, _, _, hd', _⟩ := key (Note.runes_of_runesOf hr) (by simp)
      rw [hd] at hd'; cases hd'
  | some rw =>
    obtain ⟨r, w⟩ := rw
    obtain ⟨p, t, e, rfl, hp⟩ := Utf8.seq_of_decode hd
    simp only [e, List.drop_left]
    cases ht : Note.runesOf t with
    | some rs' => exact Note.runesOf_of_runes (.cons hp (Note.runes_of_runesOf ht))
    | none =>
      cases hr : Note.runesOf (p ++ t) with
      | none => rfl
      | some rs =>
        obtain ⟨p', t', _, _, e', hd', ht', _⟩ := key (Note.runes_of_runesOf hr) (e ▸ List.cons_ne_nil _ _)
        rw [← e, hd] at hd'
        obtain ⟨_, rfl⟩ := List.append_inj e' (by simp only [Option.some.injEq, Prod.mk.injEq] at hd'; exact hd'.2)
        rw [Note.runesOf_of_runes ht'] at ht; cases ht

theorem runesOf_step' (s : Bytes) (hs : s ≠ []) :
    Note.runesOf s = match Utf8.decode s with
      | none => none
      | some (r, w) => (Note.runesOf (s.drop w)).map (r :: ·) := by
  cases s with
  | nil => exact absurd rfl hs
  | cons b rest => exact runesOf_step b rest

/-! ### utf8.ValidString, one rune at a time; `runesOf` = valid ? runes : none -/

theorem validAux_eq_drop : ∀ (k : Nat) (s : Bytes), Utf8.validAux k s = Utf8.validString (s.drop k) := by
  intro k
  induction k with
  | zero => intro s; rfl
  | succ n ih =>
    intro s
    cases s with
    | nil => rfl
    | cons b t => simp only [Utf8.validAux, List.drop_succ_cons]; exact ih t

theorem valid_step (s : Bytes) (hs : s ≠ []) :
    Utf8.validString s = match Utf8.decode s with
      | none => false
      | some (_, w) => Utf8.validString (s.drop w) := by
  cases s with
  | nil => exact absurd rfl hs
  | cons b t =>
    show Utf8.validAux 0 (b :: t) = _
    simp only [Utf8.validAux]
    cases hd : Utf8.decode (b :: t) with
    | none => rfl
    | some rw =>
      obtain ⟨r, w⟩ := rw
      have hw := GoRtStr.decode_width hd
      obtain ⟨w', rfl⟩ : ∃ w', w = w' + 1 := ⟨w - 1, by omega⟩
      simp only [Nat.add_sub_cancel, List.drop_succ_cons, validAux_eq_drop]

theorem runesOf_eq_aux : ∀ (n : Nat) (s : Bytes), s.length ≤ n →
    Note.runesOf s = if Utf8.validString s then some (Utf8.runes s) else none := by
  intro n
  induction n with
  | zero =>
    intro s hs
    have : s = [] := List.length_eq_zero_iff.mp (by omega)
    subst this; rfl
  | succ n ih =>
    intro s hs
    cases s with
    | nil => rfl
    | cons b t =>
      have hne : (b :: t) ≠ [] := by simp
      rw [runesOf_step b t, valid_step _ hne, GoRtStr.runes_step _ hne]
      unfold Utf8.decodeRune
      cases hd : Utf8.decode (b :: t) with
      | none => rfl
      | some rw =>
        obtain ⟨r, w⟩ := rw
        have hw := GoRtStr.decode_width hd
        simp only
        rw [ih ((b :: t).drop w) (by simp only [List.length_drop, List.length_cons] at hs hw ⊢; omega)]
        cases Utf8.validString ((b :: t).drop w) <;> rfl

theorem runesOf_eq (s : Bytes) :
    Note.runesOf s = if Utf8.validString s then some (Utf8.runes s) else none :=
  runesOf_eq_aux s.length s (Nat.le_refl _)

/-! ### strings.IndexFunc: the result is negative iff no rune of the string satisfies the predicate
    (ill-formed bytes count as U+FFFD, as in Go) -/

theorem indexFuncAux_neg (p : Int → Bool) (s : Bytes) : ∀ (f k : Nat), k ≤ s.length → s.length - k < f →
    decide (indexFuncAux p s f (k : Int) < 0) = !(Utf8.runes (s.drop k)).any (fun r => p (r : Int)) := by
  intro f
  induction f with
  | zero => intro k _ h; omega
  | succ f ih =>
    intro k hk hf
    rw [indexFuncAux]
    by_cases hlt : k < s.length
    · have hc : (k : Int) < len s := by rw [len_eq]; omega
      simp only [hc, if_true]
      obtain ⟨r, w, hd, hw1, hw2, hr, _⟩ := GoRtStr.range_step s k hlt
      rw [hd, hr]
      simp only [List.any_cons]
      by_cases hp : p (r : Int) = true
      · have hn : ¬ ((k : Int) < 0) := by omega
        simp [hp, hn]
      · have hp' : p (r : Int) = false := by simpa using hp
        simp only [hp', Bool.false_eq_true, if_false, Bool.false_or]
        have := ih (k + w) hw2 (by omega)
        rw [← this]
        simp only [Int.natCast_add]
    · have hc : ¬ ((k : Int) < len s) := by rw [len_eq]; omega
      have hke : k = s.length := by omega
      subst hke
      simp only [hc, if_false, List.drop_length]
      rfl

theorem indexFunc_neg (p : Int → Bool) (s : Bytes) :
    decide (indexFunc s p < 0) = !(Utf8.runes s).any (fun r => p (r : Int)) := by
  have := indexFuncAux_neg p s (s.length + 1) 0 (Nat.zero_le _) (by omega)
  simp only [List.drop_zero] at this
  exact this

theorem isValidName_eq (name : Bytes) : Generated.Note.isValidName isSpaceI name = Note.isValidName name := by
  unfold Generated.Note.isValidName Note.isValidName
  rw [indexFunc_neg, indexFunc_neg, GoRtStr.contains_single, runesOf_eq]
  have e0 : (!decide (name = [])) = !name.isEmpty := by cases name <;> rfl
  have e1 : (fun r : Nat => isSpaceI (r : Int)) = Note.isSpace := by funext r; simp [isSpaceI]
  have e2 : (fun r : Nat => decide ((r : Int) < 32)) = (fun r : Nat => decide (r < 0x20)) := by
    funext r; exact decide_eq_decide.mpr (by omega)
  rw [e0, e1, e2]
  simp only [validUtf8]
  cases Utf8.validString name with
  | true => simp
  | false => simp

/-! ### chop: strings.Index is the model's `indexOf` -/

theorem indexOf_eq_indexOpt (sub : Bytes) : ∀ s : Bytes, Note.indexOf sub s = GoRtZip.indexOpt sub s
  | [] => rfl
  | c :: rest => by rw [Note.indexOf, GoRtZip.indexOpt, indexOf_eq_indexOpt sub rest]

theorem indexOf_bound (sub s : Bytes) (i : Nat) (h : Note.indexOf sub s = some i) : i + sub.length ≤ s.length :=
  GoRtZip.indexOpt_range sub s i (indexOf_eq_indexOpt sub s ▸ h)

theorem index_indexOf (s sub : Bytes) :
    index s sub = match Note.indexOf sub s with
      | none => -1
      | some i => (i : Int) := by
  rw [GoRtZip.index_eq, indexOf_eq_indexOpt]
  cases GoRtZip.indexOpt sub s <;> rfl

theorem chop_eq (s sep : Bytes) : Generated.Note.chop s sep = .ok (Note.chop s sep) := by
  unfold Generated.Note.chop Note.chop
  rw [index_indexOf]
  cases hi : Note.indexOf sep s with
  | none => rfl
  | some i =>
    have hb := indexOf_bound sep s i hi
    have hneg : ¬ ((i : Int) < 0) := by omega
    simp only [hneg, decide_false, Bool.false_eq_true, if_false]
    have e : (i : Int) + len sep = ((i + sep.length : Nat) : Int) := by rw [len_eq]; simp
    rw [sliceTo_natCast (by omega), e, sliceFrom_natCast hb]
    rfl

/-! ### Open, first loop: the rune scan is the model's `validMsg` -/

theorem validMsg_nil : Note.validMsg [] = true := rfl

theorem validMsg_step (s : Bytes) (hs : s ≠ []) :
    Note.validMsg s = match Utf8.decode s with
      | none => false
      | some (r, w) => !(decide (r < 0x20) && r != 10) && Note.validMsg (s.drop w) := by
  unfold Note.validMsg
  rw [runesOf_step' s hs]
  cases hd : Utf8.decode s with
  | none => rfl
  | some rw =>
    obtain ⟨r, w⟩ := rw
    simp only
    cases Note.runesOf (s.drop w) with
    | none => simp
    | some rs => simp [List.all_cons]

/-- the result of Open's first loop -/
def loop1Out (msg : Bytes) (k : Nat) : Ctl (Generated.Note.Note × Option String) Int :=
  if Note.validMsg (msg.drop k) then Ctl.next (len msg)
  else Ctl.ret ((default : Generated.Note.Note), some "errMalformedNote")

theorem Open_loop1_spec (b64dec : Bytes → Bytes × Option String) (isSpace : Int → Bool) (msg : Bytes) :
    ∀ (fuel k : Nat), k ≤ msg.length → msg.length - k < fuel →
    Generated.Note.Open_loop1 b64dec isSpace msg fuel (k : Int) = .ok (loop1Out msg k) := by
  intro fuel
  induction fuel with
  | zero => intro k _ h; omega
  | succ fuel ih =>
    intro k hk hf
    rw [Generated.Note.Open_loop1]
    by_cases hlt : k < msg.length
    · have hc : decide ((k : Int) < len msg) = true := decide_eq_true (by rw [len_eq]; omega)
      simp only [hc, if_true]
      rw [sliceFrom_natCast hk]
      simp only [bind_ok]
      have hne : msg.drop k ≠ [] := by
        intro h; have := congrArg List.length h; simp at this; omega
      unfold loop1Out
      rw [decodeRune_of_ne_nil _ hne, validMsg_step _ hne]
      unfold Utf8.decodeRune
      cases hd : Utf8.decode (msg.drop k) with
      | none => simp [Utf8.runeError]
      | some rw =>
        obtain ⟨r, w⟩ := rw
        have hw := GoRtStr.decode_width hd
        have hw1 : w = 1 → r < 0x80 := by intro e; subst e; exact decode_width_one hd
        simp only
        have hnot : (decide (((r : Nat) : Int) = 65533) && decide (((w : Nat) : Int) = 1)) = false := by
          by_cases e : w = 1
          · have := hw1 e
            have : ¬ (((r : Nat) : Int) = 65533) := by omega
            simp [this]
          · have : ¬ (((w : Nat) : Int) = 1) := by omega
            simp [this]
        have e1 : decide (((r : Nat) : Int) < 32) = decide (r < 0x20) := decide_eq_decide.mpr (by omega)
        have e2 : (!decide (((r : Nat) : Int) = 10)) = (r != 10) := by
          by_cases h : r = 10
          · subst h; rfl
          · have h' : ¬ (((r : Nat) : Int) = 10) := by omega
            simp [h, h']
        rw [e2, e1, hnot, Bool.or_false]
        by_cases hbad : (decide (r < 0x20) && r != 10) = true
        · simp [hbad]
        · have hbad' : (decide (r < 0x20) && r != 10) = false := by simpa using hbad
          simp only [hbad', Bool.false_eq_true, if_false, Bool.not_false, Bool.true_and]
          have hlen : (msg.drop k).length = msg.length - k := by simp
          have hkw : k + w ≤ msg.length := by omega
          have := ih (k + w) hkw (by omega)
          simp only [Int.natCast_add] at this
          rw [this, loop1Out, List.drop_drop]
    · have hc : decide ((k : Int) < len msg) = false := decide_eq_false (by rw [len_eq]; omega)
      have hke : k = msg.length := by omega
      subst hke
      simp only [hc, Bool.false_eq_true, if_false, loop1Out, List.drop_length, validMsg_nil, if_true]
      rfl

end ModVerif.TieFnNote
