/-
  C10: the main theorems for the RFC 6962 true hashes over a store satisfying the C09 store invariant.
-/
import ModVerif.Proofs.TileAuthHonest
import ModVerif.Proofs.TlogStoreSplit
namespace ModVerif.TileAuth
open ModVerif ModVerif.Tlog ModVerif.Tile ModVerif.TlogStore ModVerif.RFC6962

theorem idx_lt_S (N l k : Nat) (h : (k + 1) * 2 ^ l ≤ N) : storedHashIndex l k < S N := by
  have := storedHashIndex_layout N l k h
  have := (List.getElem?_eq_some_iff.mp this).1
  rw [layout_length] at this
  exact this

theorem plan_zero_stx (h : Nat) (idx : List Nat) (p : Plan) (hp : plan h 0 idx = .ok p) : p.stx = [] := by
  unfold plan at hp
  have h1 : subTreeIndex 0 0 = .ok [] := rfl
  have h2 : planStx h 0 [] ([], [], []) = .ok ([], [], []) := rfl
  simp only [h1, h2, bind, Except.bind] at hp
  cases h3 : planIndexes h 0 idx ([], [], []) with
  | error e => rw [h3] at hp; cases hp
  | ok r =>
    rw [h3] at hp
    simp only [pure, Except.pure, Except.ok.injEq] at hp
    rw [← hp]

section
variable {H : Type} (leaf : Bytes → H) (node : H → H → H) (empty : H)

def trueHash (D : List Bytes) (l k : Nat) : H := mth node empty (leavesOf (D.map leaf) l k)

theorem env_of_storeOK (D : List Bytes) (st : List H) (hok : StoreOK leaf node empty D st) (hR : D.length < 2 ^ 62) :
    Env node (trueHash leaf node empty D) D.length st := by
  refine ⟨?_, ?_, ?_⟩
  · intro l k hv
    exact mth_leavesOf_succ node empty (D.map leaf) l k (by simpa using hv)
  · intro l k hv
    exact storeOK_get leaf node empty D st hok l k hv
  · intro l k hv
    apply split_storedHashIndex
    have := idx_lt_S D.length l k hv
    have := S_le_two_mul D.length
    omega

theorem root_of_cover (D : List Bytes) (hpos : 0 < D.length) (cs : List (Nat × Nat)) (hc : Cover cs 0 D.length) :
    foldR node (cs.map fun c => trueHash leaf node empty D c.1 c.2) = some (mth node empty (D.map leaf)) := by
  have := mth_cover node empty (D.map leaf) cs 0 D.length hc hpos (by simp)
  rw [slice_zero, List.take_of_length_le (by simp)] at this
  exact this

variable [DecidableEq H]

/-- ★ C10, security half.  For every log `D` (below `2^62` records) whose store satisfies the C09 invariant, every tile
    height `h ≥ 1`, every request and EVERY tile server `serve`: whatever `ReadHashes` passes to SaveTiles is the true tile,
    and if it returns hashes they are the true stored hashes — provided `NodeHash` is collision free and the tree head
    is the true one. -/
theorem readHashes_authenticated (D : List Bytes) (st : List H) (hok : StoreOK leaf node empty D st)
    (hR : D.length < 2 ^ 62) (hcf : ∀ a b c d : H, node a b = node c d → a = c ∧ b = d)
    (h : Nat) (hh : 1 ≤ h) (idx : List Nat) (serve : Tile → Option (List H)) :
    (∀ sv, (readHashes node D.length (mth node empty (D.map leaf)) h idx serve).saved = some sv →
        ∀ td ∈ sv, trueTile st td.1 = some td.2) ∧
    (∀ hs, (readHashes node D.length (mth node empty (D.map leaf)) h idx serve).result = .ok hs →
        idx.mapM (st[·]?) = some hs) := by
  by_cases hpos : 0 < D.length
  · exact readHashes_authenticated_abs node (trueHash leaf node empty D) D.length _ st hcf
      (env_of_storeOK leaf node empty D st hok hR) (root_of_cover leaf node empty D hpos) h (by omega) (by omega) idx serve
  · have h0 : D.length = 0 := by omega
    rw [h0]
    rcases readHashes_cases node 0 (mth node empty (D.map leaf)) h idx serve with ⟨a1, a2⟩ | ⟨p, data, b1, b2, _⟩
    · refine ⟨(by intro sv hsv; rw [a1] at hsv; cases hsv), ?_⟩
      intro hs hr
      obtain ⟨e1, e2⟩ := a2 hs hr
      subst e1 e2; rfl
    · exact absurd (plan_zero_stx h idx p b1) b2

/-- ★ C10, honest half.  Against the honest server (`trueTile st`) every check passes for every request inside the tree:
    the planned tiles are all served, the result is the list of true stored hashes, and SaveTiles receives exactly the
    planned tiles with their true contents.  In particular `plan` succeeds (`plan_terminates`). -/
theorem honest_reads_true (D : List Bytes) (st : List H) (hok : StoreOK leaf node empty D st)
    (hR : D.length < 2 ^ 62) (hpos : 0 < D.length) (h : Nat) (h1 : 1 ≤ h) (h2 : h ≤ 30) (idx : List Nat)
    (hidx : ∀ x ∈ idx, x < storedHashIndex 0 D.length) :
    ∃ p data hs, plan h D.length idx = .ok p ∧ p.tiles.mapM (trueTile st) = some data ∧
      idx.mapM (st[·]?) = some hs ∧
      (readHashes node D.length (mth node empty (D.map leaf)) h idx (trueTile st)).saved = some (p.tiles.zip data) ∧
      (readHashes node D.length (mth node empty (D.map leaf)) h idx (trueTile st)).result = .ok hs :=
  honest_abs node (trueHash leaf node empty D) D.length _ st (env_of_storeOK leaf node empty D st hok hR)
    (root_of_cover leaf node empty D hpos) h h1 h2 (by omega) hpos idx hidx

/-- ★ C10: an error is only ever raised before SaveTiles (collision freedom, true tree head, `1 ≤ h ≤ 30`): when
    `ReadHashes` fails, nothing has been handed to the cache. -/
theorem error_saves_nothing (D : List Bytes) (st : List H) (hok : StoreOK leaf node empty D st)
    (hR : D.length < 2 ^ 62) (hcf : ∀ a b c d : H, node a b = node c d → a = c ∧ b = d)
    (h : Nat) (h1 : 1 ≤ h) (h2 : h ≤ 30) (idx : List Nat) (serve : Tile → Option (List H)) (e : Err)
    (herr : (readHashes node D.length (mth node empty (D.map leaf)) h idx serve).result = .error e) :
    (readHashes node D.length (mth node empty (D.map leaf)) h idx serve).saved = none := by
  by_cases hpos : 0 < D.length
  · exact error_saves_nothing_abs node (trueHash leaf node empty D) D.length _ st hcf
      (env_of_storeOK leaf node empty D st hok hR) (root_of_cover leaf node empty D hpos) h h1 h2 (by omega) idx serve e herr
  · have h0 : D.length = 0 := by omega
    rw [h0] at herr ⊢
    rcases readHashes_cases node 0 (mth node empty (D.map leaf)) h idx serve with ⟨a1, _⟩ | ⟨p, data, b1, b2, _⟩
    · exact a1
    · exact absurd (plan_zero_stx h idx p b1) b2

end

/-! ### plan_terminates / plan_parents_first without reference to a store -/

theorem split_valid (N : Nat) (hR : N < 2 ^ 62) (l k : Nat) (hv : (k + 1) * 2 ^ l ≤ N) :
    splitStoredHashIndex (storedHashIndex l k) = .ok (l, k) := by
  apply split_storedHashIndex
  have := idx_lt_S N l k hv
  have := S_le_two_mul N
  omega

theorem hidx_of_lt (N : Nat) (hR : N < 2 ^ 62) (idx : List Nat) (h : ∀ x ∈ idx, x < storedHashIndex 0 N) :
    ∀ x ∈ idx, x < storedHashIndex 0 N ∧ ∃ c : Nat × Nat, splitStoredHashIndex x = .ok c ∧ (c.2 + 1) * 2 ^ c.1 ≤ N := by
  intro x hx
  have hlt := h x hx
  rw [storedHashIndex_zero_eq] at hlt
  obtain ⟨l, k, h1, h2⟩ := index_decomp N x hlt
  exact ⟨h x hx, (l, k), by rw [← h2]; exact split_valid N hR l k h1, h1⟩

theorem planOK_of_ok (h N : Nat) (hh : 1 ≤ h) (hR : N < 2 ^ 62) (idx : List Nat) (p : Plan) (hp : plan h N idx = .ok p) :
    ∃ cs, PlanOK h N cs idx p := by
  obtain ⟨cs, p', hp', ok⟩ := plan_spec h N (by omega) (by omega) (split_valid N hR) idx
    (hidx_of_lt N hR idx (plan_ok_lt h N idx p hp))
  rw [hp] at hp'; cases hp'
  exact ⟨cs, ok⟩

/-- ★ `plan` terminates successfully on every request inside the tree: `walkUp` never exhausts its fuel (the code's
    unbounded `for ; ; k++` loop terminates), the "must be full" `badMath` return is unreachable, no panic. -/
theorem plan_terminates (h N : Nat) (hh : 1 ≤ h) (hR : N < 2 ^ 62) (idx : List Nat)
    (hidx : ∀ x ∈ idx, x < storedHashIndex 0 N) : ∃ p, plan h N idx = .ok p := by
  obtain ⟨_, p, hp, _⟩ := plan_spec h N (by omega) (by omega) (split_valid N hR) idx (hidx_of_lt N hR idx hidx)
  exact ⟨p, hp⟩

/-- ★ every planned tile from position `nstx` on is full and its parent occurs earlier in the list; the tileOrder map
    is the position map of the tile list (so the list has no duplicates), and `Tile.zero` is never planned. -/
theorem plan_parents_first (h N : Nat) (hh : 1 ≤ h) (hR : N < 2 ^ 62) (idx : List Nat) (p : Plan)
    (hp : plan h N idx = .ok p) :
    (∀ (i : Nat) (t : Tile), p.nstx ≤ i → p.tiles[i]? = some t →
        t.w = 2 ^ h ∧ ∃ j, j < i ∧ p.tiles[j]? = some (tileParent t 1 N) ∧ p.order.lookup (tileParent t 1 N) = some j) ∧
    (∀ (t : Tile) (j : Nat), p.order.lookup t = some j ↔ p.tiles[j]? = some t) ∧
    p.tiles.Nodup ∧ Tile.zero ∉ p.tiles ∧ p.nstx ≤ p.tiles.length := by
  obtain ⟨cs, ok⟩ := planOK_of_ok h N hh hR idx p hp
  refine ⟨?_, ok.inv.look, ?_, ?_, ok.nstxLe⟩
  · intro i t hi ht
    obtain ⟨a, j, b, c⟩ := ok.inv.child i t hi ht
    exact ⟨a, j, b, c, (ok.inv.look _ j).mpr c⟩
  · rw [List.nodup_iff_pairwise_ne, List.pairwise_iff_getElem]
    intro i j hi hj hij heq
    have e1 : p.tiles[i]? = some p.tiles[i] := List.getElem?_eq_getElem hi
    have e2 : p.tiles[j]? = some p.tiles[i] := by rw [heq]; exact List.getElem?_eq_getElem hj
    have := look_inj ok.inv.look _ i j e1 e2
    omega
  · intro hz
    obtain ⟨L, n, e, hlt⟩ := ok.inv.std _ hz
    have := (stdTile_ne_zero h N L n (by omega)).mpr hlt
    exact this e.symm

end ModVerif.TileAuth
