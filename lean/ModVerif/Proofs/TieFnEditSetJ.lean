/-
  `File.SetRequireSeparateIndirect`: the two cases of `moveReq` on a
  represented FILE: an existing requirement (`moveExisting`) and a new one (`addSepNew`, including
  `f.Require = append(f.Require, r)`).
-/
import ModVerif.Proofs.TieFnEditSetI
namespace ModVerif.Tie.FnEditSetJ
open ModVerif ModVerif.GoRt ModVerif.Generated.Edit ModVerif.Tie.FnEditRep ModVerif.Tie.FnEditTreeA ModVerif.Tie.FnEditLoop ModVerif.Tie.FnEditSetA
  ModVerif.Tie.FnEditSetB ModVerif.Tie.FnEditSetD ModVerif.Tie.FnEditSetE ModVerif.Tie.FnEditSetF ModVerif.Tie.FnEditSetG
  ModVerif.Tie.FnEditSetH ModVerif.Tie.FnEditSetI
open ModVerif.Modfile.Edit (EFile Want treeIds appendToBlock headIs mkLine setIndirectLine moveExisting addSepNew SepCtx)

def mkE (e : EFile) (rq : List Modfile.Require) (syn : Modfile.FileSyntax) (next : Nat) : EFile :=
  { f := { e.f with require := rq, syn := syn }, next := next }

@[simp] theorem mkE_mkE (e : EFile) (a b : List Modfile.Require) (s t : Modfile.FileSyntax) (n m : Nat) :
    mkE (mkE e a s n) b t m = mkE e b t m := rfl
@[simp] theorem mkE_require (e : EFile) (a : List Modfile.Require) (s : Modfile.FileSyntax) (n : Nat) : (mkE e a s n).f.require = a := rfl
@[simp] theorem mkE_syn (e : EFile) (a : List Modfile.Require) (s : Modfile.FileSyntax) (n : Nat) : (mkE e a s n).f.syn = s := rfl
@[simp] theorem mkE_next (e : EFile) (a : List Modfile.Require) (s : Modfile.FileSyntax) (n : Nat) : (mkE e a s n).next = n := rfl
theorem mkE_self (e : EFile) : mkE e e.f.require e.f.syn e.next = e := rfl

/-! ### ids of the tree under the operations -/

theorem mem_treeIds_appendToBlock {stmts : List Modfile.Expr} {j : Nat} (i : Nat) (nl : Modfile.Line) (h : j ∈ treeIds stmts) :
    j ∈ treeIds (appendToBlock stmts i nl) := by
  unfold appendToBlock
  cases hs : stmts[i]? with
  | none => exact h
  | some s =>
    cases s with
    | lineBlock b0 =>
      obtain ⟨a, b, rfl, rfl⟩ := split_at hs
      simp only [set_cursor]
      rw [treeIds_mid, Modfile.Edit.treeIds_block] at h ⊢
      simp only [List.mem_append, List.mem_map] at h ⊢
      rcases h with h | h | h
      · exact Or.inl h
      · obtain ⟨l, hl, rfl⟩ := h
        exact Or.inr (Or.inl ⟨l, Or.inl hl, rfl⟩)
      · exact Or.inr (Or.inr h)
    | _ => exact h

theorem mem_treeIds_moveExisting {syn : Modfile.FileSyntax} (hnd : (treeIds syn.stmts).Nodup) {j : Nat} (lid idx new : Nat)
    (h : j ∈ treeIds syn.stmts) : j ∈ treeIds (moveExisting syn lid idx new).stmts := by
  unfold moveExisting
  cases syn.findLine lid with
  | none => exact h
  | some old =>
    simp only
    apply mem_treeIds_appendToBlock
    rw [Modfile.Edit.treeIds_updateLine syn lid (fun l => { l with token := [] }) hnd (fun _ => rfl)]
    exact h

/-! ### moveReq of an existing requirement -/

/-- `r.Syntax.Token = nil` -/
def clearTok (l : Modfile.Line) : Modfile.Line := { l with token := [] }

theorem IdEquiv_clearTok : IdEquiv clearTok := fun _ _ => rfl

theorem RepSynAt_stmt_eq {h : Heap} {x : Int} {fs : Modfile.FileSyntax} {es : List Expr} (r : RepSynAt h x fs es) {fo : FileSyntax}
    (hfile : heapGet h.files x = .ok fo) : fo.Stmt = es := by
  have := r.file; rw [hfile] at this
  rw [Except.ok.inj this]; rfl

/-- the common end of the two cases of `moveReq` -/
theorem _root_.ModVerif.Tie.FnEditRep.RepFAt.appendToBlock {h : Heap} {o : File} {e0 : EFile} {rqs : List Modfile.Require}
    {syn : Modfile.FileSyntax} {next : Nat} (R : RepFAt h o (mkE e0 rqs syn next)) {fo : FileSyntax}
    (hfile : heapGet h.files o.Syntax = .ok fo) {idx : Nat} {bp : Int} (hidx : fo.Stmt[idx]? = some (Expr.LineBlock bp))
    (nl : Modfile.Line) (hid : nl.id = next) :
    ∃ blk, heapGet h.blocks bp = .ok blk ∧
      ∀ (rs' : List Require) (ps' : List Int) (rq' : List Modfile.Require) (ml : List File),
        REnts rs' requireG (·.lineId) (h.lines.length + 1) ps' rq' →
        RepFAt { appHeap h (lineG nl) bp blk with requires := rs', mods := ml } { o with Require := ps' }
          (mkE e0 rq' { syn with stmts := appendToBlock syn.stmts idx nl } (next + 1)) := by
  have hnext : next = h.lines.length + 1 := R.next
  obtain ⟨es, r1⟩ := R.syn
  rw [RepSynAt_stmt_eq r1 hfile] at hidx
  have hlt : idx < syn.stmts.length := by
    have : es.length = syn.stmts.length := r1.stmts.length
    have := (List.getElem?_eq_some_iff.1 hidx).1
    omega
  have hre := RStmts.get r1.stmts idx _ _ hidx (List.getElem?_eq_getElem hlt)
  generalize syn.stmts[idx]'hlt = s0 at hre
  cases s0 <;> simp only [RExpr] at hre <;> try exact hre.elim
  rename_i b0
  obtain ⟨ps, hb, _⟩ := hre
  refine ⟨blockG b0 ps, hb, fun rs' ps' rq' ml hreq => ?_⟩
  have r2 := RepSynAt_appendLine r1 hidx hb nl (by rw [hid, hnext])
  refine RepFAt_rebuild R ps' ⟨es, ?_⟩ ?_ ?_ ?_ ?_ ?_ ⟨rfl, rfl, rfl, rfl, rfl, rfl, rfl, rfl⟩
  · refine RepSynAt.congr (h := appHeap h (lineG nl) bp (blockG b0 ps)) ?_ ?_ ?_ ?_ (by simpa using r2) <;> rfl
  · exact BlockTokOK_appendToBlock (by simpa using R.tok) _ _
  · exact LinesG.allocLine (h := h) R.linesG _
  · simp [appHeap, hnext]
  · simp [appHeap]
  · simpa [appHeap] using hreq

theorem moveExisting_sim {h : Heap} {o : File} {e0 : EFile} {rqs : List Modfile.Require} {syn : Modfile.FileSyntax} {next : Nat}
    (R : RepFAt h o (mkE e0 rqs syn next)) {k : Nat} {r : Int} {rq : Modfile.Require} {l : Modfile.Line} {idx : Nat} {bp : Int}
    {fo : FileSyntax} (hk : o.Require[k]? = some r) (hrq : rqs[k]? = some rq)
    (hfind : syn.findLine rq.lineId = some l) (hfile : heapGet h.files o.Syntax = .ok fo)
    (hidx : fo.Stmt[idx]? = some (Expr.LineBlock bp)) :
    ∃ blk, heapGet h.blocks bp = .ok blk ∧ heapGet h.requires r = .ok (requireG rq) ∧
      heapGet h.lines (rq.lineId : Int) = .ok (lineG l) ∧
      RepFAt (moveHeap h r rq l bp blk) o
        (mkE e0 (rqs.set k { rq with lineId := next }) (moveExisting syn rq.lineId idx next) (next + 1)) := by
  obtain ⟨hobj, hle⟩ := REntsL.get R.require.rel k r rq hk hrq
  obtain ⟨hl, hlid⟩ := R.syn.findLine hfind
  have hnext : next = h.lines.length + 1 := R.next
  have R1 : RepFAt (setLineH h (rq.lineId : Int) (clearTok l)) o (mkE e0 rqs (syn.updateLine rq.lineId clearTok) next) := by
    have := R.setLine IdEquiv_clearTok hl
    simp only [Int.toNat_natCast] at this
    exact this
  obtain ⟨blk, hb, hfin⟩ := R1.appendToBlock (fo := fo) hfile hidx { l with id := next, token := moveTok l, inBlock := true } rfl
  refine ⟨blk, hb, hobj, hl, ?_⟩
  have hreq : REnts (h.requires.set (r.toNat - 1) (requireG { rq with lineId := next })) requireG (·.lineId)
      (h.lines.length + 1) o.Require (rqs.set k { rq with lineId := next }) := by
    have hm := R.require.mono (objs' := h.requires) (nl' := h.lines.length + 1) (fun _ _ x => x) (Nat.le_succ _)
    exact ⟨hm.rel.setAt hm.nodup k r _ hk (by simp [hnext]), hm.nodup⟩
  have hsynEq : moveExisting syn rq.lineId idx next =
      { (syn.updateLine rq.lineId clearTok) with
        stmts := appendToBlock (syn.updateLine rq.lineId clearTok).stmts idx { l with id := next, token := moveTok l, inBlock := true } } := by
    unfold moveExisting
    rw [hfind]
    rfl
  have hH : moveHeap h r rq l bp blk =
      { appHeap (setLineH h (rq.lineId : Int) (clearTok l))
          (lineG { l with id := next, token := moveTok l, inBlock := true }) bp blk with
        requires := h.requires.set (r.toNat - 1) (requireG { rq with lineId := next }), mods := h.mods } := by
    simp [moveHeap, appHeap, setLineH, clearTok, hnext, lineG]
  rw [hsynEq, hH]
  exact hfin _ o.Require _ h.mods (by simpa [setLineH] using hreq)

/-! ### moveReq of a new requirement, and `f.Require = append(f.Require, r)` -/

theorem sepNewLine_id (id : Nat) (toks : List Bytes) (ind : Bool) : (sepNewLine id toks ind).id = id := by
  unfold sepNewLine
  cases ind
  · rfl
  · simp only [if_true]; rw [(IdEquiv_setIndirectLine true).id_eq]; rfl

/-- the entry `addSepNew` appends -/
def newReq (w : Want) (next : Nat) : Modfile.Require :=
  { mod := { path := w.path, version := w.vers }, indirect := w.indirect, lineId := next }

theorem addSepNew_eq (ctx : SepCtx) (e0 : EFile) (rqs : List Modfile.Require) (syn : Modfile.FileSyntax) (next : Nat) (w : Want) :
    addSepNew ctx (mkE e0 rqs syn next) w =
      mkE e0 (rqs ++ [newReq w next])
        { syn with
          stmts := appendToBlock syn.stmts (if w.indirect then ctx.indirectIdx else ctx.directIdx)
            (sepNewLine next [Modfile.autoQuote w.path, w.vers] w.indirect) } (next + 1) := by
  simp only [addSepNew, mkE, newReq, sepNewLine]

theorem addSepNew_sim {h : Heap} {o : File} {e0 : EFile} {rqs : List Modfile.Require} {syn : Modfile.FileSyntax} {next : Nat}
    (R : RepFAt h o (mkE e0 rqs syn next)) {r3 : Int} {w : Want} {idx : Nat} {bp : Int} {fo : FileSyntax}
    (hobj : heapGet h.requires r3 = .ok (requireG (wantReq w))) (hfresh : r3 ∉ o.Require)
    (hfile : heapGet h.files o.Syntax = .ok fo) (hidx : fo.Stmt[idx]? = some (Expr.LineBlock bp)) (ml : List File) :
    ∃ blk, heapGet h.blocks bp = .ok blk ∧
      RepFAt { newHeap h r3 (wantReq w) bp blk with mods := ml } { o with Require := o.Require ++ [r3] }
        (mkE e0 (rqs ++ [newReq w next])
          { syn with stmts := appendToBlock syn.stmts idx (sepNewLine next [Modfile.autoQuote w.path, w.vers] w.indirect) }
          (next + 1)) := by
  have hnext : next = h.lines.length + 1 := R.next
  obtain ⟨blk, hb, hfin⟩ := R.appendToBlock hfile hidx (sepNewLine next [Modfile.autoQuote w.path, w.vers] w.indirect)
    (sepNewLine_id _ _ _)
  refine ⟨blk, hb, ?_⟩
  have hH : ({ newHeap h r3 (wantReq w) bp blk with mods := ml } : Heap) =
      { appHeap h (lineG (sepNewLine next [Modfile.autoQuote w.path, w.vers] w.indirect)) bp blk with
        requires := h.requires.set (r3.toNat - 1) (requireG (newReq w next)), mods := ml } := by
    simp [newHeap, appHeap, hnext, wantReq, newReq]
  rw [hH]
  refine hfin _ _ _ ml ?_
  have hm := R.require.mono (objs' := h.requires) (nl' := h.lines.length + 1) (fun _ _ x => x) (Nat.le_succ _)
  refine ⟨REntsL.append (hm.rel.setOther hobj _ hfresh) ⟨⟨heapGet_listSet_same _ hobj, by simp [newReq, hnext]⟩, trivial⟩, ?_⟩
  rw [List.nodup_append]
  refine ⟨hm.nodup, by simp, ?_⟩
  intro a ha b hb'
  simp only [List.mem_singleton] at hb'; subst hb'
  intro e; subst e; exact hfresh ha

end ModVerif.Tie.FnEditSetJ
