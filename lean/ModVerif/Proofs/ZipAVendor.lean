/-
  C17 `vendor_rule` (general form): `isVendoredPackage` is the documented vendoring rule, in both variants.
-/
import ModVerif.Spec.ZipSpec
import ModVerif.Proofs.ListLemmas
namespace ModVerif.Proofs.ZipA
open ModVerif ModVerif.PathClean ModVerif.Zip ModVerif.ZipSpec

theorem contains_iff (s : Bytes) (c : UInt8) : contains s c = true ↔ c ∈ s := by
  unfold contains
  rw [List.any_eq_true]
  constructor
  · rintro ⟨x, hx, h⟩
    have : x = c := by simpa using h
    rw [← this]; exact hx
  · intro h; exact ⟨c, h, by simp⟩

/-- `strings.Index`: the first occurrence -/
theorem indexOf_some (pat : Bytes) : ∀ (s : Bytes) (j : Nat), indexOf pat s = some j →
    ∃ a b, s = a ++ pat ++ b ∧ a.length = j ∧ ∀ a' b', s = a' ++ pat ++ b' → j ≤ a'.length := by
  intro s
  induction s with
  | nil =>
    intro j h
    unfold indexOf at h
    by_cases hp : pat.isEmpty = true
    · rw [if_pos hp] at h
      have : pat = [] := by simpa using hp
      subst this
      injection h with h; subst h
      exact ⟨[], [], rfl, rfl, fun _ _ _ => Nat.zero_le _⟩
    · rw [if_neg hp] at h; cases h
  | cons c rest ih =>
    intro j h
    unfold indexOf at h
    by_cases hp : isPrefixOfB pat (c :: rest) = true
    · rw [if_pos hp] at h
      injection h with h; subst h
      obtain ⟨t, ht⟩ := (isPrefixOfB_iff _ _).mp hp
      exact ⟨[], t, by rw [ht]; rfl, rfl, fun _ _ _ => Nat.zero_le _⟩
    · rw [if_neg hp] at h
      cases hi : indexOf pat rest with
      | none => rw [hi] at h; cases h
      | some j' =>
        rw [hi] at h
        simp only [Option.map_some, Option.some.injEq] at h
        subst h
        obtain ⟨a, b, h1, h2, h3⟩ := ih j' hi
        refine ⟨c :: a, b, by rw [h1]; rfl, by simp [h2], ?_⟩
        intro a' b' hs
        cases a' with
        | nil =>
          exfalso; apply hp
          exact (isPrefixOfB_iff _ _).mpr ⟨b', by rw [hs]; simp⟩
        | cons x a'' =>
          simp only [List.cons_append, List.cons.injEq] at hs
          have := h3 a'' b' (by rw [hs.2])
          simp; omega

theorem indexOf_none (pat : Bytes) : ∀ (s : Bytes), indexOf pat s = none → ¬ ∃ a b, s = a ++ pat ++ b := by
  intro s
  induction s with
  | nil =>
    intro h
    unfold indexOf at h
    by_cases hp : pat.isEmpty = true
    · rw [if_pos hp] at h; cases h
    · rintro ⟨a, b, hs⟩
      have : pat = [] := by
        have := congrArg List.length hs
        simp at this
        exact List.eq_nil_of_length_eq_zero (by omega)
      exact hp (by rw [this]; rfl)
  | cons c rest ih =>
    intro h
    unfold indexOf at h
    by_cases hp : isPrefixOfB pat (c :: rest) = true
    · rw [if_pos hp] at h; cases h
    · rw [if_neg hp] at h
      have hi : indexOf pat rest = none := by
        cases hi : indexOf pat rest with
        | none => rfl
        | some _ => rw [hi] at h; cases h
      rintro ⟨a, b, hs⟩
      cases a with
      | nil => exact hp ((isPrefixOfB_iff _ _).mpr ⟨b, by rw [hs]; simp⟩)
      | cons x a' =>
        simp only [List.cons_append, List.cons.injEq] at hs
        exact ih hi ⟨a', b, by rw [hs.2]⟩

theorem mem_drop_of_split (l1 l2 : Bytes) (n : Nat) (c : UInt8) (hn : n ≤ l1.length) (hc : c ∈ l2) :
    c ∈ (l1 ++ l2).drop n := by
  rw [List.drop_append_of_le_length hn]
  exact List.mem_append_right _ hc

theorem svs_eq : slashVendorSlash = 47 :: vendorSlash := rfl

theorem vendorSlash_length : vendorSlash.length = 7 := rfl

theorem split_of_pre (name pre rest : Bytes) (h : name = pre ++ vendorSlash ++ rest)
    (hl : pre.getLast? = some 47) : ∃ pre', pre = pre' ++ [47] ∧ name = pre' ++ slashVendorSlash ++ rest := by
  obtain ⟨pre', hp⟩ := List.getLast?_eq_some_iff.mp hl
  exact ⟨pre', hp, by rw [h, hp, svs_eq]; simp⟩

/-- C17 `vendor_rule`, go ≥ 1.24 -/
theorem vendor_rule_ge124 (name : Bytes) : isVendoredPackage name true = true ↔ Vendored124 name := by
  unfold isVendoredPackage Vendored124
  by_cases h0 : name = vendorModulesTxt
  · simp [h0]
  have h0' : (true && name == vendorModulesTxt) = false := by simpa using h0
  rw [h0']
  simp only [Bool.false_eq_true, if_false]
  by_cases hp : isPrefixOfB vendorSlash name = true
  · rw [if_pos hp, contains_iff]
    obtain ⟨t, ht⟩ := (isPrefixOfB_iff _ _).mp hp
    have hd : name.drop 7 = t := by rw [ht]; exact List.drop_left' vendorSlash_length
    rw [hd]
    constructor
    · intro hm; exact Or.inr ⟨[], t, by rw [ht]; rfl, Or.inl rfl, hm⟩
    · rintro (h | ⟨pre, rest, h1, h2, h3⟩)
      · exact absurd h h0
      · rcases h2 with rfl | h2
        · rw [ht] at h1; simp at h1; rw [h1]; exact h3
        · rw [← hd, h1]
          have hne : pre ≠ [] := by intro e; rw [e] at h2; simp at h2
          have hl : 1 ≤ pre.length := by
            cases pre with
            | nil => exact absurd rfl hne
            | cons _ _ => simp
          have e : pre ++ vendorSlash ++ rest = (pre ++ [118, 101, 110, 100, 111, 114]) ++ (47 :: rest) := by
            simp [vendorSlash]
          rw [e]
          exact mem_drop_of_split _ _ 7 47 (by simp; omega) List.mem_cons_self
  · rw [if_neg hp]
    cases hi : indexOf slashVendorSlash name with
    | none =>
      simp only [Bool.false_eq_true, false_iff]
      rintro (h | ⟨pre, rest, h1, h2, h3⟩)
      · exact h0 h
      · rcases h2 with rfl | h2
        · exact hp ((isPrefixOfB_iff _ _).mpr ⟨rest, by rw [h1]; simp⟩)
        · obtain ⟨pre', _, hs⟩ := split_of_pre name pre rest h1 h2
          exact indexOf_none _ _ hi ⟨pre', rest, hs⟩
    | some j =>
      simp only [if_true]
      rw [contains_iff]
      obtain ⟨a, b, h1, h2, h3⟩ := indexOf_some _ _ _ hi
      have hd : name.drop (j + 8) = b := by
        rw [h1]; exact List.drop_left' (by simp [h2, svs_eq, vendorSlash_length])
      constructor
      · intro hm
        rw [hd] at hm
        exact Or.inr ⟨a ++ [47], b, by rw [h1, svs_eq]; simp, Or.inr (by simp), hm⟩
      · rintro (h | ⟨pre, rest, g1, g2, g3⟩)
        · exact absurd h h0
        · rcases g2 with rfl | g2
          · exact absurd ((isPrefixOfB_iff _ _).mpr ⟨rest, by rw [g1]; simp⟩) hp
          · obtain ⟨pre', _, hs⟩ := split_of_pre name pre rest g1 g2
            have hj := h3 pre' rest hs
            rw [hs]
            exact mem_drop_of_split _ _ _ 47 (by simp [svs_eq, vendorSlash_length]; omega) g3

/-- C17 `vendor_rule`, before go 1.24 -/
theorem vendor_rule_pre124 (name : Bytes) : isVendoredPackage name false = true ↔ VendoredPre124 name := by
  unfold isVendoredPackage VendoredPre124
  simp only [Bool.false_and, Bool.false_eq_true, if_false]
  have hpre : isPrefixOfB vendorSlash name = true ↔ vendorSlash <+: name := by
    rw [isPrefixOfB_iff]
    constructor
    · rintro ⟨t, h⟩; exact ⟨t, h.symm⟩
    · rintro ⟨t, h⟩; exact ⟨t, h.symm⟩
  by_cases hp : isPrefixOfB vendorSlash name = true
  · rw [if_pos hp, contains_iff]
    have := hpre.mp hp
    constructor
    · intro h; exact Or.inl ⟨this, h⟩
    · rintro (⟨_, h⟩ | ⟨h, _⟩)
      · exact h
      · exact absurd this h
  · rw [if_neg hp]
    have hnp : ¬ vendorSlash <+: name := fun h => hp (hpre.mpr h)
    cases hi : indexOf slashVendorSlash name with
    | none =>
      simp only [Bool.false_eq_true, false_iff]
      rintro (⟨h, _⟩ | ⟨_, h, _⟩)
      · exact hnp h
      · exact indexOf_none _ _ hi h
    | some j =>
      simp only
      rw [contains_iff]
      obtain ⟨a, b, h1, _, _⟩ := indexOf_some _ _ _ hi
      constructor
      · intro h; exact Or.inr ⟨hnp, ⟨a, b, h1⟩, h⟩
      · rintro (⟨h, _⟩ | ⟨_, _, h⟩)
        · exact absurd h hnp
        · exact h

end ModVerif.Proofs.ZipA
