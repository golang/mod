/-
  The concrete instance used by the non-vacuity examples of Tie/FnParseComments.lean: the go.mod text

      // h
      module m // c

      require (
      <tab>a v1 // d

      <tab>// w
      <tab>b v2
      ) // e

  (a comment block that attaches to the next statement, a block, suffix comments on a line and after `)`, a blank line
  and a whole-line comment inside the block), the heap the REGENERATED parser builds for it (`exHeap`, `exIn`), the tree
  and the recorded comments the hand model's `parseFile` returns (`exTree`, `exComments`), and the kernel-checked facts
  that the former reifies to the latter and is well-formed.
-/
import ModVerif.Proofs.TieFnParseCommentsAssign
import ModVerif.Proofs.GoRtLemmasLex
namespace ModVerif.TieFnParseComments.Ex
open ModVerif ModVerif.GoRt ModVerif.Generated ModVerif.Generated.Parse ModVerif.Tie.FnParseHeap
open ModVerif.TieFnParseComments ModVerif.GoRtLex
open ModVerif.Drv.LexOps.G (isPrintI isSpaceI)

def exData : Bytes :=
  [47, 47, 32, 104, 10, 109, 111, 100, 117, 108, 101, 32, 109, 32, 47, 47, 32, 99, 10, 10, 114, 101, 113, 117, 105, 114,
   101, 32, 40, 10, 9, 97, 32, 118, 49, 32, 47, 47, 32, 100, 10, 10, 9, 47, 47, 32, 119, 10, 9, 98, 32, 118, 50, 10, 41,
   32, 47, 47, 32, 101, 10]

def exIn0 : input :=
  { (default : input) with complete := exData, remaining := exData, pos := { Line := 1, LineRune := 1, Byte := 0 } }

/-- `in.readToken(); in.parseFile()` of the regenerated parser -/
def exParsed : M (input × Heap) := do
  let (_, i1) ← input_readToken isPrintI isSpaceI 300 exIn0
  let ((_, i2), h2) ← input_parseFile isPrintI isSpaceI 300 i1 (default : Heap)
  pure (i2, h2)

def exHeap : Heap := match exParsed with | .ok (_, h) => h | .error _ => default
def exIn : input := match exParsed with | .ok (i, _) => i | .error _ => default
def exTree : Modfile.FileSyntax :=
  match Modfile.parseFile exData with | .ok (ss, _) => { stmts := ss } | .error _ => {}
def exComments : List Modfile.Comment :=
  match Modfile.parseFile exData with | .ok (_, i) => i.commentsRev.reverse | .error _ => []

instance decStmtP (P : Modfile.Comments → Prop) [DecidablePred P] : (s : Modfile.Expr) → Decidable (StmtP P s)
  | .lineBlock b => by simp only [StmtP]; exact inferInstance
  | .commentBlock c => by simp only [StmtP]; exact inferInstance
  | .line l => by simp only [StmtP]; exact inferInstance
  | .lparen l => by simp only [StmtP]; exact inferInstance
  | .rparen l => by simp only [StmtP]; exact inferInstance

set_option maxRecDepth 100000 in
theorem exR : RFile exHeap 1 exTree ∧ WF exHeap 1 := by
  have hf : heapGet exHeap.files 1 = .ok (fileG exTree [.Line 1, .LineBlock 1]) := by decide +kernel
  have hs : RStmts exHeap [.Line 1, .LineBlock 1] exTree.stmts := by decide +kernel
  exact ⟨⟨_, hf, hs⟩, WF_of_RFile hf hs (by decide +kernel) (by decide +kernel) (by decide +kernel)⟩

set_option maxRecDepth 100000 in
theorem exI : exIn.file = 1 ∧ exIn.comments = exComments.map comG ∧ exIn.pre = [] ∧ exIn.post = [] := by
  decide +kernel

set_option maxRecDepth 100000 in
theorem exS : exTree.comments.suffix.length ≤ 1 ∧ (∀ s ∈ exTree.stmts, StmtP (fun c => c.suffix.length ≤ 0) s) ∧
    nodeCount exTree.stmts + exComments.length + 0 + 8 ≤ 300 := by
  decide +kernel

end ModVerif.TieFnParseComments.Ex
