/-
  `File_removeDups` / `WorkFile_removeDups` on a represented heap.
-/
import ModVerif.Proofs.TieFnEditSortB
import ModVerif.Proofs.EditModel
namespace ModVerif.Tie.FnEditSortC
open ModVerif ModVerif.GoRt ModVerif.Generated.Edit ModVerif.Tie.FnEditRep ModVerif.Tie.FnEditLoop ModVerif.Tie.FnEditSortA ModVerif.Tie.FnEditSortB
open ModVerif.Modfile.Edit (treeIds dropKilled killLater killEarlier removeDups EFile EWork)

theorem treeIds_dropKilled (kl : List Nat) : ∀ ss : List Modfile.Expr, (treeIds (dropKilled kl ss)).Sublist (treeIds ss)
  | [] => List.Sublist.refl _
  | s :: ss => by
    rw [Modfile.Edit.dropKilled_cons, Modfile.Edit.treeIds_append, Modfile.Edit.treeIds_cons s ss]
    refine List.Sublist.append ?_ (treeIds_dropKilled kl ss)
    cases s with
    | lineBlock b =>
      simp only [dropKilled]; split
      · exact List.nil_sublist _
      · rw [Modfile.Edit.treeIds_block, Modfile.Edit.treeIds_block]; exact List.Sublist.map _ List.filter_sublist
    | line l => simp only [dropKilled]; split; exact List.nil_sublist _; exact List.Sublist.refl _
    | _ => exact List.Sublist.refl _

theorem BlockTokOK_dropKilled (kl : List Nat) : ∀ ss : List Modfile.Expr, BlockTokOK ss → BlockTokOK (dropKilled kl ss) := by
  intro ss h b hb
  rw [Modfile.Edit.dropKilled_flatMap] at hb
  obtain ⟨x, hx, hy⟩ := List.mem_flatMap.1 hb
  rcases Modfile.Edit.mem_dropKilled_one hy with rfl | ⟨b0, rfl, he⟩
  · exact h b hx
  · cases he; exact h b0 hx

/-- the kill sets of `removeDups` on a go.mod -/
def k1 (e : EFile) : List Nat := killLater (fun x : Modfile.Exclude => x.mod) (·.lineId) e.f.exclude []
def k2 (e : EFile) : List Nat := k1 e ++ killEarlier e.f.replace
def k3 (e : EFile) : List Nat := k2 e ++ killLater (fun t : Modfile.Tool => t.path) (·.lineId) e.f.tool []

/-- `f.removeDups()` on the model (the first line of the model's `sortBlocks`) -/
def removeDupsE (e : EFile) : EFile :=
  let r := removeDups e.f.syn (some e.f.exclude) e.f.replace (some e.f.tool)
  { e with f := { e.f with exclude := r.2.1.getD [], replace := r.2.2.1, tool := r.2.2.2.getD [], syn := r.1 } }

theorem removeDupsE_eq (e : EFile) : removeDupsE e =
    { e with f := { e.f with
        exclude := e.f.exclude.filter (fun x => !(k1 e).contains x.lineId)
        replace := e.f.replace.filter (fun x => !(k2 e).contains x.lineId)
        tool := e.f.tool.filter (fun x => !(k3 e).contains x.lineId)
        syn := { e.f.syn with stmts := dropKilled (k3 e) e.f.syn.stmts } } } := rfl

/-- fuel measure of `removeDups` -/
def dupsSize (e : EFile) : Nat := e.f.exclude.length + e.f.replace.length + e.f.tool.length + nodes e.f.syn.stmts

theorem loop1_run {h : Heap} {zs : List (Int × Modfile.Exclude)} {nl : Nat} (hz : ZEnts h.excludes excludeG (·.lineId) nl zs)
    (f : Int) (fuel : Nat) (hf : zs.length < fuel) :
    ∃ km hv, File_removeDups_loop1 (zs.map (·.1)) f h fuel 0 [] [] = .ok (len (zs.map (·.1)), km, hv) ∧
      KillRel km (killLater (fun x : Modfile.Exclude => x.mod) (·.lineId) (zs.map (·.2)) []) := by
  rw [loop1_eq]
  obtain ⟨km, hv, e1, e2⟩ := seenLoopG_spec mvG (fun a b => mvG_inj)
    (fun x => do let t ← heapGet h.excludes x; pure (t.Mod, t.Syntax)) (fun x : Modfile.Exclude => x.mod) (·.lineId)
    zs [] (zs.map (·.1)) 0 fuel [] [] [] [] (by simp) rfl hf
    (fun z hzm => by simp [(hz z hzm).1, bind, Except.bind, pure, Except.pure]) KillRel.nil (SeenRel.nil _)
  exact ⟨km, hv, e1, by simpa using e2⟩

theorem loop5_run {h : Heap} {zs : List (Int × Modfile.Tool)} {nl : Nat} (hz : ZEnts h.tools toolG (·.lineId) nl zs)
    (f : Int) (fuel : Nat) (hf : zs.length < fuel) {km0 : List (Int × Bool)} {kl0 : List Nat} (hK : KillRel km0 kl0) :
    ∃ km hv, File_removeDups_loop5 (zs.map (·.1)) f h fuel 0 km0 [] = .ok (len (zs.map (·.1)), km, hv) ∧
      KillRel km (kl0 ++ killLater (fun x : Modfile.Tool => x.path) (·.lineId) (zs.map (·.2)) []) := by
  rw [loop5_eq]
  exact seenLoopG_spec (fun b : Bytes => b) (fun a b e => e)
    (fun x => do let t ← heapGet h.tools x; pure (t.Path, t.Syntax)) (fun x : Modfile.Tool => x.path) (·.lineId)
    zs [] (zs.map (·.1)) 0 fuel km0 [] kl0 [] (by simp) rfl hf
    (fun z hzm => by simp [(hz z hzm).1, bind, Except.bind, pure, Except.pure]) hK (SeenRel.nil _)

theorem backLoop_run {h : Heap} {zs : List (Int × Modfile.Replace)} {nl : Nat} (hz : ZEnts h.replaces replaceG (·.lineId) nl zs)
    (fuel : Nat) (hf : zs.length < fuel) {km0 : List (Int × Bool)} {kl0 : List Nat} (hK : KillRel km0 kl0) :
    ∃ km hv, seenBackLoopG (fun x => do let t ← heapGet h.replaces x; pure (t.Old, t.Syntax)) (zs.map (·.1)) fuel km0 []
        (len (zs.map (·.1)) - 1) = .ok (km, hv, -1) ∧
      KillRel km (kl0 ++ killEarlier (zs.map (·.2))) := by
  obtain ⟨km, hv, e1, e2⟩ := seenBackLoopG_spec (fun x => do let t ← heapGet h.replaces x; pure (t.Old, t.Syntax))
    zs.reverse [] (zs.map (·.1)) (len (zs.map (·.1)) - 1) fuel km0 [] kl0 (by simp) (by simp [len_eq]) (by simpa using hf)
    (fun z hzm => by simp [(hz z (List.mem_reverse.1 hzm)).1, bind, Except.bind, pure, Except.pure])
    (by simpa [killEarlier] using hK) (SeenRel.nil _)
  exact ⟨km, hv, e1, by simpa using e2⟩

theorem filter_run {α β : Type} (objs : List α) (g : β → α) (syn : α → Int) (id : β → Nat) (hsyn : ∀ x, syn (g x) = (id x : Int))
    {nl : Nat} {zs : List (Int × β)} (hz : ZEnts objs g id nl zs)
    (fuel : Nat) (hf : zs.length < fuel) {km : List (Int × Bool)} {kl : List Nat} (hK : KillRel km kl) :
    filterLoopG (fun x => do let t ← heapGet objs x; pure (!(mapGet km (syn t) false).1)) (zs.map (·.1)) fuel 0 [] =
      .ok (len (zs.map (·.1)), (zs.filter (fun z => !kl.contains (id z.2))).map (·.1)) :=
  filterLoopG_zip _ (fun x => !kl.contains (id x)) zs fuel hf
    (fun z hzm => by simp [(hz z hzm).1, bind, Except.bind, pure, Except.pure, hsyn, hK (id z.2)])

theorem mods_set_get {l : List File} {p : Int} {o : File} (ho : heapGet l p = .ok o) (v : File) :
    heapGet (l.set (p.toNat - 1) v) p = .ok v := heapGet_listSet_same v ho

theorem bind_ok {α β : Type} {x : M α} {a : α} (f : α → M β) (h : x = .ok a) : (x >>= f) = f a := by rw [h]; rfl

/-- one step of a `do` block whose first action is known -/
macro "step " h:term : tactic => `(tactic| (rw [bind_ok _ $h]; try dsimp only))

theorem File_removeDups_sim {h : Heap} {fp : Int} {e : EFile} (R : RepF h fp e) (fuel : Nat) (hf : dupsSize e < fuel) :
    ∃ h', File_removeDups fuel fp h = .ok ((), h') ∧ RepF h' fp (removeDupsE e) := by
  obtain ⟨o, ho, R⟩ := R
  obtain ⟨zex, hex1, hex2, hex3⟩ := REntsL.toZip R.exclude.rel
  obtain ⟨zrp, hrp1, hrp2, hrp3⟩ := REntsL.toZip R.replace.rel
  obtain ⟨ztl, htl1, htl2, htl3⟩ := REntsL.toZip R.tool.rel
  obtain ⟨es, Rs⟩ := R.syn
  have hfe : zex.length < fuel := by
    have : zex.length = e.f.exclude.length := by rw [hex2]; simp
    unfold dupsSize at hf; omega
  have hfr : zrp.length < fuel := by
    have : zrp.length = e.f.replace.length := by rw [hrp2]; simp
    unfold dupsSize at hf; omega
  have hft : ztl.length < fuel := by
    have : ztl.length = e.f.tool.length := by rw [htl2]; simp
    unfold dupsSize at hf; omega
  have hfs : nodes e.f.syn.stmts < fuel := by unfold dupsSize at hf; omega
  unfold File_removeDups
  step ho
  step ho
  -- loops 1, 2
  obtain ⟨km1, hv1, l1, K1⟩ := loop1_run hex3 fp fuel hfe
  rw [← hex2] at K1
  rw [← hex1] at l1
  step l1
  have l2 := filter_run h.excludes excludeG (·.Syntax) (·.lineId) (fun _ => rfl) hex3 fuel hfe K1
  obtain ⟨excl, hexcl⟩ : ∃ x, x = (zex.filter (fun z => !(k1 e).contains z.2.lineId)).map (·.1) := ⟨_, rfl⟩
  rw [show killLater (fun x : Modfile.Exclude => x.mod) (·.lineId) e.f.exclude [] = k1 e from rfl, ← hexcl, ← hex1] at l2
  step ho
  rw [loop2_eq]
  step l2
  step ho
  step (heapSet_of_get _ ho)
  step (mods_set_get ho _)
  -- loops 3, 4
  rw [loop3_eq fp _ _ (mods_set_get ho _)]
  dsimp only
  obtain ⟨km2, hv2, l3, K2⟩ := backLoop_run hrp3 fuel hfr K1
  rw [← hrp2] at K2
  rw [← hrp1] at l3
  step l3
  step (mods_set_get ho _)
  rw [loop4_eq]
  dsimp only
  have l4 := filter_run h.replaces replaceG (·.Syntax) (·.lineId) (fun _ => rfl) hrp3 fuel hfr K2
  obtain ⟨repl, hrepl⟩ : ∃ x, x = (zrp.filter (fun z => !(k2 e).contains z.2.lineId)).map (·.1) := ⟨_, rfl⟩
  rw [show killLater (fun x : Modfile.Exclude => x.mod) (·.lineId) e.f.exclude [] ++ killEarlier e.f.replace = k2 e from rfl,
    ← hrepl, ← hrp1] at l4
  step l4
  step (mods_set_get ho _)
  step (heapSet_listSet_same ho _ _)
  step (mods_set_get ho _)
  -- loops 5, 6
  obtain ⟨km3, hv3, l5, K3⟩ :=
    loop5_run (h := { h with mods := h.mods.set (fp.toNat - 1) ({ o with Exclude := excl, Replace := repl } : File) })
      htl3 fp fuel hft K2
  rw [← htl2] at K3
  rw [← htl1] at l5
  step l5
  step (mods_set_get ho _)
  rw [loop6_eq]
  dsimp only
  have l6 := filter_run h.tools toolG (·.Syntax) (·.lineId) (fun _ => rfl) htl3 fuel hft K3
  obtain ⟨ntool, hntool⟩ : ∃ x, x = (ztl.filter (fun z => !(k3 e).contains z.2.lineId)).map (·.1) := ⟨_, rfl⟩
  rw [show killLater (fun x : Modfile.Exclude => x.mod) (·.lineId) e.f.exclude [] ++ killEarlier e.f.replace ++
    killLater (fun x : Modfile.Tool => x.path) (·.lineId) e.f.tool [] = k3 e from rfl, ← hntool, ← htl1] at l6
  step l6
  step (mods_set_get ho _)
  step (heapSet_listSet_same ho _ _)
  step Rs.file
  rw [fileG_Stmt]
  -- loop 7
  obtain ⟨o3, ho3⟩ : ∃ x : File, x = { o with Exclude := excl, Replace := repl, Tool := ntool } := ⟨_, rfl⟩
  obtain ⟨h3, hh3⟩ : ∃ x : Heap, x = { h with mods := h.mods.set (fp.toNat - 1) o3 } := ⟨_, rfl⟩
  have rs3 : RStmts h3 es e.f.syn.stmts := by
    rw [hh3]; refine RStmts.mono (h := h) ?_ ?_ ?_ Rs.stmts <;> exact fun _ _ x => x
  obtain ⟨bl', es', l7, b1, b2, b3, b4⟩ := loop7_spec o.Syntax km3 (k3 e) K3 es e.f.syn.stmts [] es 0 fuel h3 [] rfl rfl hfs rs3 Rs.nodupB
  rw [hh3, ho3] at l7 b3
  step l7
  step Rs.file
  step (heapSet_of_get _ Rs.file)
  refine ⟨_, rfl, ?_⟩
  rw [removeDupsE_eq]
  refine ⟨_, mods_set_get ho _, ?_⟩
  exact { R with
    syn := ⟨es', heapGet_listSet_same _ Rs.file,
      by refine RStmts.mono ?_ ?_ ?_ b3 <;> exact fun _ _ x => x,
      Rs.nodupB.sublist b4, Rs.nodupL.sublist (treeIds_dropKilled _ _)⟩
    tok := BlockTokOK_dropKilled _ _ R.tok
    exclude := by
      show REnts h.excludes excludeG (·.lineId) h.lines.length excl (e.f.exclude.filter _)
      rw [hexcl, hex2]; exact REnts.filterZip hex3 (by rw [← hex1]; exact R.exclude.nodup) (fun x => !(k1 e).contains x.lineId)
    replace := by
      show REnts h.replaces replaceG (·.lineId) h.lines.length repl (e.f.replace.filter _)
      rw [hrepl, hrp2]; exact REnts.filterZip hrp3 (by rw [← hrp1]; exact R.replace.nodup) (fun x => !(k2 e).contains x.lineId)
    tool := by
      show REnts h.tools toolG (·.lineId) h.lines.length ntool (e.f.tool.filter _)
      rw [hntool, htl2]; exact REnts.filterZip htl3 (by rw [← htl1]; exact R.tool.nodup) (fun x => !(k3 e).contains x.lineId) }

theorem wloop3_eq (rx : List Expr) (syn : Int) (kill : List (Int × Bool)) :
    ∀ (fuel : Nat) (ri : Int) (world : Heap) (stmts : List Expr),
      WorkFile_removeDups_loop3 rx syn kill fuel ri world stmts = File_removeDups_loop7 rx syn kill fuel ri world stmts := by
  intro fuel
  induction fuel with
  | zero => intro ri world stmts; rfl
  | succ n ih =>
    intro ri world stmts
    simp only [WorkFile_removeDups_loop3, File_removeDups_loop7, ih, wloop4_eq, loop8_eq]

def wk (e : EWork) : List Nat := killEarlier e.f.replace

/-- `f.removeDups()` on the go.work model (the first line of the model's `workSortBlocks`) -/
def workRemoveDupsE (e : EWork) : EWork :=
  let r := removeDups e.f.syn none e.f.replace none
  { e with f := { e.f with replace := r.2.2.1, syn := r.1 } }

theorem workRemoveDupsE_eq (e : EWork) : workRemoveDupsE e =
    { e with f := { e.f with
        replace := e.f.replace.filter (fun x => !(wk e).contains x.lineId)
        syn := { e.f.syn with stmts := dropKilled (wk e) e.f.syn.stmts } } } := rfl

def workDupsSize (e : EWork) : Nat := e.f.replace.length + nodes e.f.syn.stmts

theorem works_set_get {l : List WorkFile} {p : Int} {o : WorkFile} (ho : heapGet l p = .ok o) (v : WorkFile) :
    heapGet (l.set (p.toNat - 1) v) p = .ok v := heapGet_listSet_same v ho

theorem WorkFile_removeDups_sim {h : Heap} {fp : Int} {e : EWork} (R : RepW h fp e) (fuel : Nat) (hf : workDupsSize e < fuel) :
    ∃ h', WorkFile_removeDups fuel fp h = .ok ((), h') ∧ RepW h' fp (workRemoveDupsE e) := by
  obtain ⟨o, ho, R⟩ := R
  obtain ⟨zrp, hrp1, hrp2, hrp3⟩ := REntsL.toZip R.replace.rel
  obtain ⟨es, Rs⟩ := R.syn
  have hfr : zrp.length < fuel := by
    have : zrp.length = e.f.replace.length := by rw [hrp2]; simp
    unfold workDupsSize at hf; omega
  have hfs : nodes e.f.syn.stmts < fuel := by unfold workDupsSize at hf; omega
  unfold WorkFile_removeDups
  step ho
  step ho
  rw [wloop1_eq fp _ _ ho]
  obtain ⟨km2, hv2, l3, K2⟩ := backLoop_run hrp3 fuel hfr KillRel.nil
  rw [← hrp2] at K2
  rw [← hrp1] at l3
  step l3
  step ho
  rw [wloop2_eq]
  have l4 := filter_run h.replaces replaceG (·.Syntax) (·.lineId) (fun _ => rfl) hrp3 fuel hfr K2
  obtain ⟨repl, hrepl⟩ : ∃ x, x = (zrp.filter (fun z => !(wk e).contains z.2.lineId)).map (·.1) := ⟨_, rfl⟩
  rw [show ([] : List Nat) ++ killEarlier e.f.replace = wk e from rfl] at l4 K2
  rw [← hrepl, ← hrp1] at l4
  step l4
  step ho
  step (heapSet_of_get _ ho)
  step Rs.file
  rw [fileG_Stmt, wloop3_eq]
  obtain ⟨o3, ho3⟩ : ∃ x : WorkFile, x = { o with Replace := repl } := ⟨_, rfl⟩
  obtain ⟨h3, hh3⟩ : ∃ x : Heap, x = { h with works := h.works.set (fp.toNat - 1) o3 } := ⟨_, rfl⟩
  have rs3 : RStmts h3 es e.f.syn.stmts := by
    rw [hh3]; refine RStmts.mono (h := h) ?_ ?_ ?_ Rs.stmts <;> exact fun _ _ x => x
  obtain ⟨bl', es', l7, b1, b2, b3, b4⟩ := loop7_spec o.Syntax km2 (wk e) K2 es e.f.syn.stmts [] es 0 fuel h3 [] rfl rfl hfs rs3 Rs.nodupB
  rw [hh3, ho3] at l7 b3
  step l7
  step Rs.file
  step (heapSet_of_get _ Rs.file)
  refine ⟨_, rfl, ?_⟩
  rw [workRemoveDupsE_eq]
  refine ⟨_, works_set_get ho _, ?_⟩
  exact { R with
    syn := ⟨es', heapGet_listSet_same _ Rs.file,
      by refine RStmts.mono ?_ ?_ ?_ b3 <;> exact fun _ _ x => x,
      Rs.nodupB.sublist b4, Rs.nodupL.sublist (treeIds_dropKilled _ _)⟩
    tok := BlockTokOK_dropKilled _ _ R.tok
    replace := by
      show REnts h.replaces replaceG (·.lineId) h.lines.length repl (e.f.replace.filter _)
      rw [hrepl, hrp2]; exact REnts.filterZip hrp3 (by rw [← hrp1]; exact R.replace.nodup) (fun x => !(wk e).contains x.lineId) }

end ModVerif.Tie.FnEditSortC
