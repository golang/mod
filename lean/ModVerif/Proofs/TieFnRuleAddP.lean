/-
  Helper lemmas for Tie/FnRuleAdd.lean: the fuel bound `TreeFuel` as a COMPUTABLE check `treeFuelB` on the parsed
  tree (`treeFuel_of_B`), so that the hypothesis of `parseToFile_tie` / `ParseWork_tie` can be decided for a concrete
  input by kernel evaluation.
-/
import ModVerif.Proofs.TieFnRuleAddO
namespace ModVerif.Tie.FnRuleAddP
open ModVerif ModVerif.Modfile ModVerif.Tie.FnRuleAddH ModVerif.Tie.FnRuleAddM ModVerif.Tie.FnRuleAddO
open ModVerif.Tie.FnRuleLeafA (comLen)
open ModVerif.Tie.FnRuleLeafB (tokSum)
open ModVerif.Proofs.ModfileC20 (linesOf)

def verOKB (F : Nat) (fx : Option Fixer) (args : List Bytes) : Bool :=
  match args with
  | a0 :: a1 :: _ =>
    match parseString a0 with
    | some (s, _) =>
      match parseVersion s a1 fx with
      | (_, .ok v) => decide (2 * v.length ≤ F)
      | _ => true
    | none => true
  | _ => true

theorem verOKB_spec {F : Nat} {fx : Option Fixer} {args : List Bytes} (h : verOKB F fx args = true) :
    ∀ a0 a1 rest s a0' a1' v, args = a0 :: a1 :: rest → parseString a0 = some (s, a0') →
      parseVersion s a1 fx = (a1', .ok v) → 2 * v.length ≤ F := by
  intro a0 a1 rest s a0' a1' v e1 e2 e3
  subst e1
  simp only [verOKB, e2, e3, decide_eq_true_eq] at h
  exact h

def lineFuelB (F : Nat) (bc : Option Comments) (fx : Option Fixer) (l : Line) (args : List Bytes) : Bool :=
  decide (32 * tokSum l.token + 1 ≤ F) && decide (comLen l.comments + (bc.map comLen).getD 0 + 3 ≤ F) && verOKB F fx args

theorem lineFuelB_spec {F : Nat} {bc : Option Comments} {fx : Option Fixer} {l : Line} {args : List Bytes}
    (h : lineFuelB F bc fx l args = true) : LineFuel F bc fx l args := by
  simp only [lineFuelB, Bool.and_eq_true, decide_eq_true_eq] at h
  exact ⟨h.1.1, h.1.2, verOKB_spec h.2⟩

def stmtFuelB (F : Nat) (fx : Option Fixer) : Expr → Bool
  | .line l => (match l.token with | _ :: args => lineFuelB F none fx l args | [] => true)
  | .lineBlock b => b.lines.all (fun l => lineFuelB F (some b.comments) fx l l.token)
  | _ => true

def treeFuelB (F fuel : Nat) (fx : Option Fixer) (fs : FileSyntax) : Bool :=
  decide (1 ≤ F) && decide (F + maxBlock fs.stmts + fs.stmts.length + 2 ≤ fuel) &&
  decide (F + (linesOf fs.stmts).length + 1 ≤ fuel) &&
  (linesOf fs.stmts).all (fun l => decide (32 * tokSum l.token + 1 ≤ F)) && fs.stmts.all (stmtFuelB F fx)

theorem treeFuel_of_B {F fuel : Nat} {fx : Option Fixer} {fs : FileSyntax} (h : treeFuelB F fuel fx fs = true) : TreeFuel F fuel fx fs := by
  simp only [treeFuelB, Bool.and_eq_true, decide_eq_true_eq, List.all_eq_true] at h
  obtain ⟨⟨⟨⟨h1, h2⟩, h3⟩, h4⟩, h5⟩ := h
  refine ⟨h1, h2, h3, h4, ?_, ?_⟩
  · intro l hl verb args htok
    have := h5 _ hl
    simp only [stmtFuelB, htok] at this
    exact lineFuelB_spec this
  · intro b hb l hl
    have := h5 _ hb
    simp only [stmtFuelB, List.all_eq_true] at this
    exact lineFuelB_spec (this l hl)

/-- the check for an input: vacuous on a syntax error -/
def inputFuelB (F fuel : Nat) (name data : Bytes) (fx : Option Fixer) : Bool :=
  match parse name data with
  | .ok fs => treeFuelB F fuel fx fs
  | .error _ => true

theorem treeFuel_of_input {F fuel : Nat} {name data : Bytes} {fx : Option Fixer} (h : inputFuelB F fuel name data fx = true) :
    ∀ fs, parse name data = .ok fs → TreeFuel F fuel fx fs := by
  intro fs hp
  simp only [inputFuelB, hp] at h
  exact treeFuel_of_B h

end ModVerif.Tie.FnRuleAddP

/-
  Concrete inputs for the non-vacuity examples of Tie/FnRuleAdd.lean and Tie/FnRuleC20.lean.
-/
namespace ModVerif.Tie.FnRuleAddEx
open ModVerif ModVerif.GoRt ModVerif.Generated
open ModVerif.Drv.GenRule (parseSynI)

/-- a go.mod file with a module, go, require (indirect) and retract line (the interval needs the fixer) -/
def exMod : Bytes := B "module example.com/m\ngo 1.21\nrequire a.b/c v1.0.0 // indirect\nretract [v1.0.0, latest] // bad\n"
def exBad : Bytes := B "go 1.21\nfrobnicate x\nrequire (\n\ta.b/c v1\n)\n"
def exWork : Bytes := B "go 1.21\nuse (\n\t./a\n\t\"./b c\"\n)\nreplace a.b/c => ../c\n"

/-- the heap of a loaded file with a fresh `File` and `WorkFile` object (both at pointer 1) -/
def exLoad (data : Bytes) : Rule.Heap :=
  match parseSynI (B "go.mod") data default with
  | .ok ((p, _), h) => { h with mods := [{ (default : Rule.File) with Syntax := p }], works := [{ (default : Rule.WorkFile) with Syntax := p }] }
  | .error _ => default

def exLine (data : Bytes) : ModVerif.Modfile.Line :=
  match ModVerif.Modfile.parse (B "go.mod") data with
  | .ok fs => (match fs.stmts with | .line l :: _ => l | _ => default)
  | .error _ => default

end ModVerif.Tie.FnRuleAddEx
