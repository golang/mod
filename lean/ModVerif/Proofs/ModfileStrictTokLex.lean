/-
  Strictly accepted inputs: from the TREE back to the SOURCE.

  `DG t` ("quote-good"): a token text that starts with a double quote contains no newline byte.  If every token of
  every line / block header of the tree `parse` returns is `DG`, then no token of the source spans two source
  lines (`NoMultiLineToken`), `parse_noMultiLineToken`.

  Route: a BACKWARD pass over the runs of the parser (`ModfileRun`, lifted with the invariant `L`).  `All i`: the
  pending token of the lexer state `i` and every token `readToken` delivers after it are free of newline bytes (other
  than the newline token itself).  Each loop
  that runs from `i` to `i'` and whose result has only `DG` tokens satisfies `All i' → All i`: every token the loop
  consumes is an end-of-line token / a comment / `(` / `)` — never a string, hence newline-free by `LexOK` — or is
  pushed to the token list of the line (block header) it builds, where it is `DG`; and a `DG` token the lexer
  delivers is newline-free (only a double-quoted string can contain a newline: identifiers, punctuation, comment
  texts and back-quoted strings never do).  `parseFile` ends at the end-of-input token, after which the lexer
  delivers only end-of-input tokens.  Comment assignment does not touch tokens.
-/
import ModVerif.Proofs.ModfileSrcBytes
import ModVerif.Proofs.ModfileFmtEmits
import ModVerif.Proofs.ModfileC20Ids
namespace ModVerif.Proofs.ModfileStrictTok
open ModVerif ModVerif.Modfile ModVerif.Proofs.ModfileLex
open ModVerif.Proofs.ModfileFmtLex ModVerif.Proofs.ModfileFmtTok ModVerif.Proofs.ModfileFmtClass
open ModVerif.Proofs.ModfilePos ModVerif.Proofs.ModfileC20 ModVerif.Proofs.ModfileC20Utf8
open ModVerif.Proofs.ModfileFmtEmits ModVerif.Proofs.ModfileSrc ModVerif.Proofs.ModfileRun

/-- "quote-good" -/
def DG (t : Bytes) : Prop := t.head? = some 34 → (10 : UInt8) ∉ t

/-- raw strings have no escapes -/
theorem strBody_raw_no_nl {a : Bytes} (h : StrBody 96 a) : (10 : UInt8) ∉ a := by
  induction h with
  | @close a hne hnl hq hend =>
    intro hm
    rcases mem_take_or_drop (n := (Utf8.decodeRune a).2) hm with h1 | h1
    · exact decodeRune_ne_newline hne hnl 10 h1 rfl
    · rw [hend] at h1; cases h1
  | @esc a hne hnl hq hbs hraw hne2 hrest ih => exact absurd rfl hraw
  | @other a hne hnl hq hno hrest ih =>
    intro hm
    rcases mem_take_or_drop (n := (Utf8.decodeRune a).2) hm with h1 | h1
    · exact decodeRune_ne_newline hne hnl 10 h1 rfl
    · exact ih h1

theorem lexOK_cur {k : TokKind} {t : Bytes} (h : LexOK k t) (hd : k = .string → DG t) (hk : k ≠ .punct 10) :
    (10 : UInt8) ∉ t := by
  intro hm
  cases h with
  | eof => cases hm
  | newline => exact hk rfl
  | comment t h => exact h.2 hm
  | eolComment t h => exact h.2 hm
  | tok k t h =>
    cases h with
    | punct c hc =>
      simp only [List.mem_singleton] at hm
      subst hm
      revert hc; decide
    | string q a hq hb =>
      rcases hq with rfl | rfl
      · exact hd rfl rfl hm
      · rcases List.mem_cons.1 hm with h | h
        · cases h
        · exact strBody_raw_no_nl hb h
    | ident a hne hb hnq => exact identBody_no_newline hb hm

/-- forward invariant of the lexer states the parser sees -/
structure L (i : Input) : Prop where
  lok : LexOK i.token.kind i.token.text
  eof : i.token.kind = .eof → i.remaining = []

theorem L.step {i j : Input} (h : readToken i = .ok j) : L j :=
  ⟨lex_emits_LexOK i j h, fun hk => ((readToken_lay h).eof hk).1⟩

theorem L.setId {i : Input} (h : L i) (n : Nat) : L { i with nextId := n } := ⟨h.lok, h.eof⟩

def TokGood (t : Token) : Prop := t.kind ≠ .punct 10 → (10 : UInt8) ∉ t.text

def FutOK (i : Input) : Prop := ∀ f, ∀ t ∈ lexAll f i, TokGood t

def All (i : Input) : Prop := TokGood i.token ∧ FutOK i

theorem lexAll_withId (n : Nat) : ∀ (f : Nat) (i : Input), lexAll f (withId n i) = lexAll f i := by
  intro f
  induction f with
  | zero => intro i; rfl
  | succ f ih =>
    intro i
    simp only [lexAll, readToken_withId]
    cases hr : readToken i with
    | error e => rfl
    | ok j =>
      simp only [Except.map, withId_token]
      rw [ih j]
      rfl

theorem All.ofSetId {i : Input} {n : Nat} (h : All { i with nextId := n }) : All i := by
  refine ⟨h.1, ?_⟩
  intro f t ht
  have := h.2 f t
  rw [show ({ i with nextId := n } : Input) = withId n i from rfl, lexAll_withId] at this
  exact this ht

theorem futOK_step {i j : Input} (h : readToken i = .ok j) (ha : All j) : FutOK i := by
  intro f t ht
  cases f with
  | zero => cases ht
  | succ f =>
    rw [lexAll_succ_ok h] at ht
    rcases List.mem_cons.1 ht with rfl | ht
    · exact ha.1
    · split at ht
      · cases ht
      · exact ha.2 f t ht

theorem all_back {i j : Input} (hL : L i) (h : readToken i = .ok j) (hd : i.token.kind = .string → DG i.token.text)
    (ha : All j) : All i :=
  ⟨lexOK_cur hL.lok hd, futOK_step h ha⟩

theorem all_eof {i : Input} (hL : L i) (hk : i.token.kind = .eof) : All i := by
  refine ⟨lexOK_cur hL.lok (fun hs => by rw [hk] at hs; cases hs), ?_⟩
  intro f t ht
  cases f with
  | zero => cases ht
  | succ f =>
    cases hr : readToken i with
    | error e => simp [lexAll, hr] at ht
    | ok j =>
      rw [lexAll_succ_ok hr] at ht
      have hkj := readToken_at_eof (hL.eof hk) hr
      rw [if_pos hkj] at ht
      simp only [List.mem_singleton] at ht
      subst ht
      exact lexOK_cur (L.step hr).lok (fun hs => by rw [hkj] at hs; cases hs)

theorem eol_not_string {k : TokKind} (h : k.isEOL = true) : k = .string → DG t := by
  intro hs; rw [hs] at h; cases h

def allToks : Expr → List Bytes
  | .line l => l.token
  | .lineBlock b => b.token ++ b.lines.flatMap (·.token)
  | _ => []

def StmtDG (s : Expr) : Prop := ∀ t ∈ allToks s, DG t

theorem allToks_setComments (c : Comments) (s : Expr) : allToks (s.setComments c) = allToks s := by
  cases s <;> rfl

abbrev CL := Call L

/-- `L.step` and `L.setId` in the form `PFile.lift` / `P*.final` take them -/
theorem lstep : ∀ i i1, L i → readToken i = .ok i1 → L i1 := fun _ _ _ h => L.step h
theorem lid : ∀ i n, L i → L { i with nextId := n } := fun _ n h => h.setId n

theorem CL.back {i i1 : Input} (hc : CL i i1) (hd : i.token.kind = .string → DG i.token.text) (ha : All i1) : All i :=
  all_back hc.inv hc.step hd ha

theorem not_string_of {k k' : TokKind} (h : k = k') (hne : k' ≠ .string) {t : Bytes} : k = .string → DG t :=
  fun hs => absurd (h ▸ hs) hne

theorem PLine.bk {i : Input} {s e : Position} {acc : List Bytes} {l : Line} {i' : Input}
    (h : PLine CL CL i s e acc l i') : (∀ t ∈ acc, t ∈ l.token) ∧ ((∀ t ∈ l.token, DG t) → All i' → All i) := by
  induction h with
  | eol hc he => exact ⟨by simp, fun _ ha => hc.back (eol_not_string he) ha.ofSetId⟩
  | tok hc _ _ ih =>
    obtain ⟨hsub, hall⟩ := ih
    exact ⟨fun t ht => hsub t (List.mem_cons_of_mem _ ht),
      fun hd ha => hc.back (fun _ => hd _ (hsub _ List.mem_cons_self)) (hall hd ha)⟩

theorem PBlock.bk {i : Input} {x : LineBlock} {ls : List Line} {cs : List Comment} {b : LineBlock} {i' : Input}
    (h : PBlock CL CL i x ls cs b i') :
    (∀ l ∈ ls, ∃ l' ∈ b.lines, l'.token = l.token) ∧ ((∀ l ∈ b.lines, ∀ t ∈ l.token, DG t) → All i' → All i) := by
  induction h with
  | eolComment hk hc _ ih => exact ⟨ih.1, fun hd ha => hc.back (not_string_of hk (by decide)) (ih.2 hd ha)⟩
  | blank hk hc _ ih => exact ⟨ih.1, fun hd ha => hc.back (not_string_of hk (by decide)) (ih.2 hd ha)⟩
  | comment hk hc _ ih => exact ⟨ih.1, fun hd ha => hc.back (not_string_of hk (by decide)) (ih.2 hd ha)⟩
  | close hk hc he hc2 =>
    exact ⟨fun l hl => ⟨l, by simpa using hl, rfl⟩,
      fun _ ha => hc.back (not_string_of hk (by decide)) (hc2.back (eol_not_string he) ha)⟩
  | @line i i1 i2 x ls cs l b i' _ _ _ _ _ hc _ hl _ ih =>
    obtain ⟨hsub, hall⟩ := PLine.bk hl
    obtain ⟨l', hl', ht'⟩ := ih.1 _ List.mem_cons_self
    have ht' : l'.token = l.token := ht'
    refine ⟨fun l0 h0 => ih.1 l0 (List.mem_cons_of_mem _ h0), fun hd ha => ?_⟩
    have hdl : ∀ t ∈ l.token, DG t := fun t ht => hd l' hl' t (ht' ▸ ht)
    exact hc.back (fun _ => hdl _ (hsub _ (by simp))) (hall hdl (ih.2 hd ha))

theorem PStmt.bk {i : Input} {s e : Position} {acc : List Bytes} {x : Expr} {i' : Input}
    (h : PStmt CL CL i s e acc x i') : (∀ t ∈ acc, t ∈ allToks x) ∧ (StmtDG x → All i' → All i) := by
  induction h with
  | eol hc he => exact ⟨by simp [allToks], fun _ ha => hc.back (eol_not_string he) ha.ofSetId⟩
  | @block i i1 s e acc b i' hc hk _ hb =>
    obtain ⟨_, hall⟩ := PBlock.bk hb
    have htok : b.token = acc.reverse := hb.header.1
    refine ⟨fun t ht => by simp [allToks, htok, ht], fun hd ha => ?_⟩
    refine hc.back (not_string_of hk (by decide)) (hall (fun l hl t ht => hd t ?_) ha)
    simp only [allToks, List.mem_append, List.mem_flatMap]
    exact Or.inr ⟨l, hl, ht⟩
  | empty hc hk hk1 hc2 he2 hc3 =>
    exact ⟨by simp [allToks], fun _ ha => hc.back (not_string_of hk (by decide))
      (hc2.back (not_string_of hk1 (by decide)) (hc3.back (eol_not_string he2) ha))⟩
  | parens hc hk hk1 hc2 _ _ ih =>
    exact ⟨fun t ht => ih.1 t (List.mem_cons_of_mem _ (List.mem_cons_of_mem _ ht)),
      fun hd ha => hc.back (not_string_of hk (by decide)) (hc2.back (not_string_of hk1 (by decide)) (ih.2 hd ha))⟩
  | lparen hc hk _ _ _ ih =>
    exact ⟨fun t ht => ih.1 t (List.mem_cons_of_mem _ ht),
      fun hd ha => hc.back (not_string_of hk (by decide)) (ih.2 hd ha)⟩
  | tok hc _ _ _ ih =>
    exact ⟨fun t ht => ih.1 t (List.mem_cons_of_mem _ ht),
      fun hd ha => hc.back (fun _ => hd _ (ih.1 _ List.mem_cons_self)) (ih.2 hd ha)⟩

theorem mem_flush {sr : List Expr} {cb : Option CommentBlock} {s : Expr} (h : s ∈ sr) : s ∈ flush sr cb := by
  cases cb with
  | none => exact h
  | some c => exact List.mem_cons_of_mem _ h

theorem PFile.bk {i : Input} {sr : List Expr} {cb : Option CommentBlock} {out : List Expr} {i' : Input}
    (h : PFile CL CL i sr cb out i') (hL : L i) :
    (∀ s ∈ sr, ∃ s' ∈ out, allToks s' = allToks s) ∧ ((∀ s ∈ out, StmtDG s) → All i) := by
  induction h with
  | blank hk hc _ ih =>
    obtain ⟨h1, h2⟩ := ih (L.step hc.step)
    exact ⟨fun s hs => h1 s (mem_flush hs), fun hd => hc.back (not_string_of hk (by decide)) (h2 hd)⟩
  | comment hk hc _ ih =>
    obtain ⟨h1, h2⟩ := ih (L.step hc.step)
    exact ⟨h1, fun hd => hc.back (not_string_of hk (by decide)) (h2 hd)⟩
  | eof hk => exact ⟨fun s hs => ⟨s, List.mem_reverse.2 (mem_flush hs), rfl⟩, fun _ => all_eof hL hk⟩
  | @stmt i i1 i2 sr cb x out i' _ _ _ hc hs _ ih =>
    obtain ⟨hsub, hall⟩ := PStmt.bk hs
    obtain ⟨h1, h2⟩ := ih (PStmt.final lstep lid hs)
    obtain ⟨x', hx', htx⟩ := h1 _ List.mem_cons_self
    have htx : allToks x' = allToks x := by
      rw [htx]; cases cb with
      | none => rfl
      | some c => exact allToks_setComments _ _
    refine ⟨fun s hs' => h1 s (List.mem_cons_of_mem _ hs'), fun hd => ?_⟩
    have hdx : StmtDG x := fun t ht => hd x' hx' t (htx ▸ ht)
    exact hc.back (fun _ => hdx _ (hsub _ (by simp))) (hall hdx (h2 hd))

theorem parseFile_noMultiLineToken {data : Bytes} {stmts : List Expr} {i : Input}
    (h : parseFile data = .ok (stmts, i)) (hd : ∀ s ∈ stmts, StmtDG s) : NoMultiLineToken data := by
  obtain ⟨i0, h0, hrun⟩ := parseFile_run h
  exact futOK_step h0 ((PFile.bk (hrun.lift lstep lid (L.step h0)).1 (L.step h0)).2 hd) _

theorem assignComments_toks (f : FileSyntax) (cs : List Comment) :
    (assignComments f cs).stmts.map allToks = f.stmts.map allToks :=
  ModfileC20.assignComments_map _ (fun s => by
    cases s <;> simp [ModfileC20.exprBare, allToks, ModfileC20.lineBare, List.flatMap_map]) f cs

theorem stmtDG_of_map {ss ss' : List Expr} (h : ss'.map allToks = ss.map allToks) (hd : ∀ s ∈ ss', StmtDG s) :
    ∀ s ∈ ss, StmtDG s := by
  intro s hs
  have : allToks s ∈ ss'.map allToks := by rw [h]; exact List.mem_map_of_mem hs
  obtain ⟨s', hs', heq⟩ := List.mem_map.1 this
  have := hd s' hs'
  unfold StmtDG at this ⊢
  rwa [heq] at this

theorem parse_noMultiLineToken {name x : Bytes} {t : FileSyntax} (h : parse name x = .ok t)
    (hd : ∀ s ∈ t.stmts, StmtDG s) : NoMultiLineToken x := by
  unfold parse at h
  cases hp : parseFile x with
  | error e => simp [hp, bind, Except.bind] at h
  | ok v =>
    obtain ⟨stmts, i⟩ := v
    simp only [hp, bind, Except.bind, Except.ok.injEq] at h
    subst h
    exact parseFile_noMultiLineToken hp (stmtDG_of_map (assignComments_toks _ _) hd)

end ModVerif.Proofs.ModfileStrictTok
