/-
  C02, end-of-line comments, clauses 1 and 2: `format_parse_syntax` and `format_idempotent` for every accepted
  input whose tree satisfies `EolOK` (no node carries more than one end-of-line comment, …), and the reading of
  the conclusion as "same statements, same tokens, same comment texts in the same order".

  A line of a parsed tree that carries an end-of-line comment has no newline byte inside its tokens — so the
  clause `NlLine` of `EolOK` is redundant for parsed trees (`parse_nlOK`), and the hypothesis of the main
  theorems reduces to the counting condition `EolCount`.

  * first parse, lexer level: `tok.pos.line + count(␤, tok.text) ≤ tok.endPos.line` and
    `tok.endPos.line ≤ next.pos.line` for every reachable lexer state (from the C20 facts `TokFacts`,
    `tokOK_spec`, `reach_step_gap`);
  * first parse, parser level: `l.start.line + Σ count(␤, token) ≤ l.end.line` for every line the parser builds
    (`parseFile_ln`; the `(` / `( )` pushes of `parseStmt`, which do not move `end`, carry no newline);
  * `assignComments` gives a line a comment only if `start.line = end.line` (`postStmtsRev_span`).
-/
import ModVerif.Proofs.ModfileEolFirst
import ModVerif.Proofs.ModfileFmtConserve
import ModVerif.Proofs.ModfileC20Top
namespace ModVerif.Proofs.ModfileEol
open ModVerif ModVerif.Modfile
open ModVerif.Proofs.ModfileFmtLex ModVerif.Proofs.ModfileFmtTree ModVerif.Proofs.ModfileFmtMain
open ModVerif.Proofs.ModfileFmtConserve

theorem eolStmt_of_ewf (s : Expr) (hwf : EWFStmt s) (hnl : NlOK s) : EolStmt s := by
  cases s with
  | commentBlock x => exact hwf.2.2.1
  | line l => exact ⟨(show EWFLine l from hwf).suffix.1, hnl⟩
  | lineBlock b =>
    have hwf : EWFBlock b := hwf
    have hnl : ∀ l ∈ b.lines, NlLine l := hnl
    have hl : ∀ (ls : List Line) (allow : Bool), EWFBlkLines allow ls → ∀ l ∈ ls, l.comments.suffix.length ≤ 1 := by
      intro ls
      induction ls with
      | nil => intro _ _ l hl; cases hl
      | cons l0 ls ih =>
        intro allow hw l hl
        rcases List.mem_cons.1 hl with rfl | hl
        · exact hw.1.suffix.1
        · exact ih true hw.2 l hl
    exact ⟨hwf.lsuffix.1, fun l h => ⟨hl _ _ hwf.lines l h, hnl l h⟩, hwf.rsuffix.1⟩
  | lparen x => trivial
  | rparen x => trivial

theorem eolOK_of_noEol {t : FileSyntax} (h : NoEol t) : EolOK t := by
  refine ⟨h.1, fun s hs => ?_⟩
  have := h.2 s hs
  cases s with
  | commentBlock x => exact this
  | line l =>
    have hl : l.comments.suffix = [] := this
    exact ⟨by simp [hl], fun hne => absurd hl hne⟩
  | lineBlock b =>
    obtain ⟨h1, h2, h3, h4⟩ := this
    refine ⟨by simp [h2], fun l hl => ⟨by simp [h3 l hl], fun hne => absurd (h3 l hl) hne⟩, by simp [h1, h4]⟩
  | lparen x => trivial
  | rparen x => trivial

theorem format_parse_syntax_eol (name x : Bytes) (t : FileSyntax) (h : parse name x = .ok t) (hok : EolOK t) :
    ∃ t', parse name (format t) = .ok t' ∧ eraseFile t' = normFileE t ∧ EolOK t' := by
  obtain ⟨hwf, hnl, hc, hn⟩ := parse_ewf h hok
  obtain ⟨t', h1, h2⟩ := reparse_ewf name t hwf hnl (by rw [hc])
  obtain ⟨hwf', hnl', hc'⟩ := reparse_shape t t' hwf hnl name h2
  refine ⟨t', h1, ?_, ⟨by rw [hc'], fun s hs => eolStmt_of_ewf s (hwf' s hs) (hnl' s hs)⟩⟩
  rw [h2]
  simp [normFileE, hc, hn, normCs]

theorem format_idempotent_eol (name x : Bytes) (t t' : FileSyntax) (h : parse name x = .ok t) (hok : EolOK t)
    (h' : parse name (format t) = .ok t') : format t' = format t := by
  obtain ⟨hwf, hnl, hc, _⟩ := parse_ewf h hok
  exact format_idem_ewf name t hwf hnl (by rw [hc]) t' h'

/-- kind and tokens of a statement: 0 comment block, 1 line, 2 block (header tokens, tokens of each line) -/
def tokShape : Expr → Nat × List Bytes × List (List Bytes)
  | .commentBlock _ => (0, [], [])
  | .line l => (1, l.token, [])
  | .lineBlock b => (2, b.token, b.lines.map (·.token))
  | _ => (3, [], [])

def csTexts (cs : Comments) : List Bytes := (cs.before ++ cs.suffix ++ cs.after).map (·.token)

/-- the comment texts of a statement in the order in which `Format` prints them -/
def exprTexts : Expr → List Bytes
  | .commentBlock x => csTexts x.comments
  | .line l => csTexts l.comments
  | .lineBlock b => b.comments.before.map (·.token) ++ csTexts b.lparen.comments ++
      b.lines.flatMap (fun l => csTexts l.comments) ++
      (b.rparen.comments.before ++ (b.rparen.comments.suffix ++ b.comments.suffix) ++
        b.rparen.comments.after ++ b.comments.after).map (·.token)
  | .lparen x => csTexts x.comments
  | .rparen x => csTexts x.comments

def fileTexts (t : FileSyntax) : List Bytes := csTexts t.comments ++ t.stmts.flatMap exprTexts

theorem tokShape_erase (s : Expr) : tokShape (eraseExpr s) = tokShape s := by
  cases s <;> simp [tokShape, eraseExpr, eraseLine, eraseBlock, Function.comp_def]

theorem tokShape_normE (s : Expr) : tokShape (normExprE s) = tokShape s := by
  cases s <;> simp [tokShape, normExprE, normExpr, normLine, normBlockE, Function.comp_def]

theorem csTexts_erase (cs : Comments) : csTexts (eraseCs cs) = csTexts cs := by
  simp [csTexts, eraseCs, eraseC, Function.comp_def]

theorem csTexts_norm (cs : Comments) : csTexts (normCs cs) = (csTexts cs).map GoStrings.trimSpace := by
  simp [csTexts, normCs, normC, Function.comp_def]

theorem exprTexts_erase (s : Expr) : exprTexts (eraseExpr s) = exprTexts s := by
  cases s with
  | lineBlock b =>
    simp only [exprTexts, eraseExpr, eraseBlock, csTexts_erase]
    simp [eraseCs, eraseC, eraseLine, csTexts, Function.comp_def, List.flatMap_map]
  | commentBlock x => simp [exprTexts, eraseExpr, csTexts_erase]
  | line l => simp [exprTexts, eraseExpr, eraseLine, csTexts_erase]
  | lparen x => simp [exprTexts, eraseExpr, csTexts_erase]
  | rparen x => simp [exprTexts, eraseExpr, csTexts_erase]

theorem exprTexts_normE (s : Expr) : exprTexts (normExprE s) = (exprTexts s).map GoStrings.trimSpace := by
  cases s with
  | lineBlock b =>
    simp only [exprTexts, normExprE, normBlockE, csTexts_norm]
    simp [normCs, normC, normLine, csTexts, Function.comp_def, List.flatMap_map, List.map_flatMap]
  | commentBlock x => simp [exprTexts, normExprE, normExpr, csTexts_norm]
  | line l => simp [exprTexts, normExprE, normExpr, normLine, csTexts_norm]
  | lparen x => simp [exprTexts, normExprE, normExpr, csTexts_norm]
  | rparen x => simp [exprTexts, normExprE, normExpr, csTexts_norm]

/-- ★ `Props.C02.format_parse_syntax_reading`; the side on which a comment is attached may differ (block vs. its `)`) -/
theorem same_syntax_of_normal_form {t t' : FileSyntax} (h : eraseFile t' = normFileE t) :
    t'.name = t.name ∧ t'.stmts.map tokShape = t.stmts.map tokShape ∧
      fileTexts t' = (fileTexts t).map GoStrings.trimSpace := by
  have hn : t'.name = t.name := by
    have := congrArg FileSyntax.name h; simpa [eraseFile, normFileE] using this
  have hs : t'.stmts.map eraseExpr = t.stmts.map normExprE := by
    have := congrArg FileSyntax.stmts h; simpa [eraseFile, normFileE] using this
  have hc : eraseCs t'.comments = normCs t.comments := by
    have := congrArg FileSyntax.comments h; simpa [eraseFile, normFileE] using this
  refine ⟨hn, ?_, ?_⟩
  · have := congrArg (List.map tokShape) hs
    simpa [List.map_map, Function.comp_def, tokShape_erase, tokShape_normE] using this
  · have h1 := congrArg (List.flatMap exprTexts) hs
    simp only [List.flatMap_map, exprTexts_erase, exprTexts_normE] at h1
    have h2 := congrArg csTexts hc
    rw [csTexts_erase, csTexts_norm] at h2
    simp only [fileTexts, List.map_append, List.map_flatMap, h2]
    congr 1

def eolLineB (l : Line) : Bool :=
  decide (l.comments.suffix.length ≤ 1) && (l.comments.suffix.isEmpty || l.token.all fun t => !t.contains 10)

def eolStmtB : Expr → Bool
  | .commentBlock x => x.comments.suffix.isEmpty
  | .line l => eolLineB l
  | .lineBlock b => decide (b.lparen.comments.suffix.length ≤ 1) && b.lines.all eolLineB &&
      decide ((b.rparen.comments.suffix ++ b.comments.suffix).length ≤ 1)
  | _ => true

def eolOKb (t : FileSyntax) : Bool := t.comments.before.isEmpty && t.stmts.all eolStmtB

theorem eolLineB_sound {l : Line} (h : eolLineB l = true) : EolLine l := by
  simp only [eolLineB, Bool.and_eq_true, decide_eq_true_eq, Bool.or_eq_true, List.all_eq_true,
    Bool.not_eq_true'] at h
  refine ⟨h.1, fun hne t ht => ?_⟩
  rcases h.2 with he | ha
  · exact absurd (by simpa using he) hne
  · have := ha t ht
    intro hm
    simp [List.contains_iff_mem, hm] at this

theorem eolOKb_sound {t : FileSyntax} (h : eolOKb t = true) : EolOK t := by
  simp only [eolOKb, Bool.and_eq_true, List.all_eq_true] at h
  refine ⟨by simpa using h.1, fun s hs => ?_⟩
  have := h.2 s hs
  cases s with
  | commentBlock x =>
    show x.comments.suffix = []
    simpa [eolStmtB] using this
  | line l => exact eolLineB_sound this
  | lineBlock b =>
    simp only [eolStmtB, Bool.and_eq_true, decide_eq_true_eq, List.all_eq_true] at this
    exact ⟨this.1.1, fun l hl => eolLineB_sound (this.1.2 l hl), this.2⟩
  | lparen x => trivial
  | rparen x => trivial

open ModVerif ModVerif.Modfile ModVerif.Proofs.ModfileLex
open ModVerif.Proofs.ModfileFmtLex ModVerif.Proofs.ModfileFmtTree ModVerif.Proofs.ModfileFmtMain
open ModVerif.Proofs.ModfilePos ModVerif.Proofs.ModfileC20 ModVerif.Proofs.ModfileRun

/-! ### lexer level -/

theorem count_take_mono (l : Bytes) {n m : Nat} (h : n ≤ m) : (l.take n).count 10 ≤ (l.take m).count 10 :=
  (List.take_prefix_take_left h).sublist.count_le 10

theorem take_add_prefix {l text : Bytes} {n : Nat} (h : text <+: l.drop n) : l.take (n + text.length) = l.take n ++ text := by
  obtain ⟨r, hr⟩ := h
  rw [List.take_add, ← hr]
  simp

theorem tok_line_le {data : Bytes} {i : Input} (h : Reach data i) :
    i.token.pos.line + i.token.text.count 10 ≤ i.token.endPos.line := by
  have ht := reach_tokOK2 h
  have hf := ht.facts
  obtain ⟨h1, h2, h3, _, _⟩ := tokOK_spec ht.old
  have hlen : i.token.text.length ≤ i.tokRev.length := by
    have := ht.old.text.length_le
    simpa using this
  have hle : i.token.pos.byte + i.token.text.length ≤ i.token.endPos.byte := by omega
  have hc := count_take_mono data hle
  rw [take_add_prefix h1, List.count_append] at hc
  rw [hf.start.1.line, hf.«end».1.line]
  omega

theorem step_line_le {data : Bytes} {j i : Input} (hj : Reach data j) (h : readToken j = .ok i) :
    j.token.endPos.line ≤ i.token.pos.line := by
  obtain ⟨gap, _, hg⟩ := reach_step_gap hj h
  have h1 := (reach_tokOK2 hj).facts.«end».1.line
  have h2 := (reach_tokOK2 (Reach.lex hj h)).facts.start.1.line
  rw [h1, h2, hg, List.count_append]
  omega

/-! ### parser level -/

def nls (ts : List Bytes) : Nat := (ts.map (List.count 10)).sum

theorem nls_cons (t : Bytes) (ts : List Bytes) : nls (t :: ts) = t.count 10 + nls ts := by simp [nls]

theorem nls_reverse (ts : List Bytes) : nls ts.reverse = nls ts := by
  simp [nls, List.map_reverse]

def LnLe (l : Line) : Prop := l.start.line + nls l.token ≤ l.«end».line

def StmtLn : Expr → Prop
  | .line l => LnLe l
  | .lineBlock b => ∀ l ∈ b.lines, LnLe l
  | _ => True

theorem punct_text {data : Bytes} {i : Input} (h : Reach data i) (c : UInt8) (hk : i.token.kind = .punct c) :
    i.token.text = [c] := (reach_tokOK2 h).facts.punct c hk

theorem stmtLn_setComments (x : Expr) (c : Comments) (h : StmtLn x) : StmtLn (x.setComments c) := by
  cases x with
  | line l => exact h
  | lineBlock b => exact h
  | commentBlock _ => trivial
  | lparen _ => trivial
  | rparen _ => trivial

variable {data : Bytes}

theorem Lx.ln {i i1 : Input} (hx : Lx data i i1) :
    i.token.pos.line + i.token.text.count 10 ≤ i.token.endPos.line ∧ i.token.endPos.line ≤ i1.token.pos.line :=
  ⟨tok_line_le hx.inv, step_line_le hx.inv hx.step⟩

theorem PLine.ln {i : Input} {s e : Position} {acc : List Bytes} {l : Line} {i' : Input}
    (h : PLine (Lx data) (Lx data) i s e acc l i') (h1 : s.line + nls acc ≤ e.line) (h2 : e.line ≤ i.token.pos.line) :
    LnLe l := by
  induction h with
  | eol _ _ => simpa [LnLe, nls_reverse] using h1
  | tok hx _ _ ih => exact ih (by rw [nls_cons]; have := Lx.ln hx; omega) (Lx.ln hx).2

/-- `PLine.ln` as `parseLine` meets it: after the `lex` call that delivered the first token, with that token alone pushed -/
theorem PLine.ln1 {i i1 : Input} {l : Line} {i2 : Input} (hx : Lx data i i1)
    (hl : PLine (Lx data) (Lx data) i1 i.token.pos i.token.endPos [i.token.text] l i2) : LnLe l :=
  PLine.ln hl (by have := Lx.ln hx; simp [nls]; omega) (Lx.ln hx).2

theorem PStmt.ln {i : Input} {s e : Position} {acc : List Bytes} {x : Expr} {i' : Input}
    (h : PStmt (Lx data) (Lx data) i s e acc x i') (h1 : s.line + nls acc ≤ e.line) (h2 : e.line ≤ i.token.pos.line) :
    StmtLn x := by
  induction h with
  | eol _ _ => simpa [StmtLn, LnLe, nls_reverse] using h1
  | block _ _ _ hb => exact PBlock.all (fun _ _ h => h) PLine.ln1 hb (by intro l hl; cases hl)
  | empty _ _ _ _ _ _ => intro l hl; cases hl
  | parens hx hk hk1 hx2 _ _ ih =>
    -- `( )` in the middle of the line
    have := Lx.ln hx; have := Lx.ln hx2
    refine ih ?_ (by omega)
    rw [nls_cons, nls_cons, punct_text hx2.inv 41 hk1, punct_text hx.inv 40 hk]
    simpa using h1
  | lparen hx hk _ _ _ ih =>
    -- `(` in the middle of the line
    have := Lx.ln hx
    refine ih ?_ (by omega)
    rw [nls_cons, punct_text hx.inv 40 hk]
    simpa using h1
  | tok hx _ _ _ ih => exact ih (by rw [nls_cons]; have := Lx.ln hx; omega) (Lx.ln hx).2

/-- `PStmt.ln` as `parseStmt` meets it: after the `lex` call that delivered the first token of the statement -/
theorem PStmt.ln1 {i i1 : Input} {x : Expr} {i2 : Input} (hx : Lx data i i1)
    (hs : PStmt (Lx data) (Lx data) i1 i.token.pos i.token.endPos [i.token.text] x i2) : StmtLn x :=
  PStmt.ln hs (by have := Lx.ln hx; simp [nls]; omega) (Lx.ln hx).2

theorem parseFile_ln {stmts : List Expr} {i : Input} (h : parseFile data = .ok (stmts, i)) :
    ∀ s ∈ stmts, StmtLn s := by
  obtain ⟨i0, _, hrun, _⟩ := parseFile_reach h
  exact PFile.all (fun _ => trivial) stmtLn_setComments PStmt.ln1 hrun (by intro s hs; cases hs)

theorem assignSuffix_span (span : Position × Position) (cs : Comments) (suf : List Comment) (hs : cs.suffix = [])
    (hne : (assignSuffix span cs suf).1.suffix ≠ []) : span.1.line = span.2.line := by
  unfold assignSuffix at hne
  split at hne
  · simp [hs] at hne
  · rename_i hl
    simpa using hl

def SpanLine (l : Line) : Prop := l.comments.suffix ≠ [] → l.start.line = l.«end».line

def SpanStmt : Expr → Prop
  | .line l => SpanLine l
  | .lineBlock b => ∀ l ∈ b.lines, SpanLine l
  | _ => True

theorem postLinesRev_span : ∀ (ls : List Line) (suf : List Comment), (∀ l ∈ ls, l.comments.suffix = []) →
    ∀ l ∈ (postLinesRev ls suf).1, SpanLine l := by
  intro ls
  induction ls with
  | nil => intro _ _ l hl; cases hl
  | cons l0 ls ih =>
    intro suf hs l hl
    simp only [postLinesRev] at hl
    rcases List.mem_cons.1 hl with rfl | hl
    · intro hne
      exact assignSuffix_span (l0.start, l0.«end») l0.comments suf (hs l0 (by simp)) hne
    · exact ih _ (fun l' h' => hs l' (by simp [h'])) l hl

theorem postStmt_span (s : Expr) (suf : List Comment) (hs : NoSuf s) : SpanStmt (postStmt s suf).1 := by
  cases s with
  | lineBlock b =>
    obtain ⟨_, _, h3, _⟩ := hs
    simp only [postStmt, SpanStmt]
    intro l hl
    exact postLinesRev_span b.lines.reverse _ (fun l' h' => h3 l' (by simpa using h')) l (by simpa using hl)
  | line l =>
    intro hne
    exact assignSuffix_span (Expr.line l).span l.comments suf hs hne
  | commentBlock x => trivial
  | lparen x => trivial
  | rparen x => trivial

theorem postStmtsRev_span : ∀ (ss : List Expr) (suf : List Comment), (∀ s ∈ ss, NoSuf s) →
    ∀ s ∈ (postStmtsRev ss suf).1, SpanStmt s := by
  intro ss
  induction ss with
  | nil => intro _ _ s hs; cases hs
  | cons s0 ss ih =>
    intro suf hno s hs
    simp only [postStmtsRev] at hs
    rcases List.mem_cons.1 hs with rfl | hs
    · exact postStmt_span s0 suf (hno s0 (by simp))
    · exact ih _ (fun s' h' => hno s' (by simp [h'])) s hs

theorem nls_zero {ts : List Bytes} (h : nls ts = 0) : ∀ t ∈ ts, (10 : UInt8) ∉ t := by
  induction ts with
  | nil => intro t ht; cases ht
  | cons a r ih =>
    rw [nls_cons] at h
    intro t ht
    rcases List.mem_cons.1 ht with rfl | ht
    · exact List.count_eq_zero.1 (by omega)
    · exact ih (by omega) t ht

theorem nlLine_of (l : Line) (h1 : SpanLine l) (h2 : LnLe (clrL l)) : NlLine l := by
  intro hne
  have := h1 hne
  have h3 : l.start.line + nls l.token ≤ l.«end».line := h2
  exact nls_zero (by omega)

/-- ★ `Props.C02.commented_line_one_source_line` -/
theorem parse_nlOK {name x : Bytes} {t : FileSyntax} (h : parse name x = .ok t) : ∀ s ∈ t.stmts, NlOK s := by
  unfold parse at h
  cases hp : parseFile x with
  | error e => simp [hp, bind, Except.bind] at h
  | ok v =>
    obtain ⟨stmts, i⟩ := v
    simp only [hp, bind, Except.bind, Except.ok.injEq] at h
    obtain ⟨hwf, hsfx⟩ := ModfileFmtEmits.parseFile_wf' x stmts i hp
    have hln := parseFile_ln hp
    have hfl : (i.commentsRev.reverse.filter (fun c => !c.suffix)) = [] := by
      rw [List.filter_eq_nil_iff]
      intro c hc
      simp [hsfx c (by simpa using hc)]
    unfold assignComments at h
    simp only [hfl, assignBefore_nil, preStmts_nil] at h
    subst h
    dsimp only
    have hno : ∀ s ∈ stmts.reverse, NoSuf s := fun s hs => wf_noSuf (hwf s (by simpa using hs))
    intro s hs
    have hs' : s ∈ (postStmtsRev stmts.reverse (i.commentsRev.reverse.filter (fun c => c.suffix)).reverse).1 := by
      simpa using hs
    have hspan := postStmtsRev_span _ _ hno s hs'
    have hclr : clrE s ∈ stmts := by
      have h1 : clrE s ∈ ((postStmtsRev stmts.reverse
          (i.commentsRev.reverse.filter (fun c => c.suffix)).reverse).1).map clrE := List.mem_map_of_mem hs'
      rw [postStmtsRev_clr] at h1
      obtain ⟨s0, hs0, heq⟩ := List.mem_map.1 h1
      rw [clrE_of_noSuf (hwf s0 (by simpa using hs0))] at heq
      rw [← heq]
      simpa using hs0
    have hl := hln _ hclr
    cases s with
    | commentBlock x => trivial
    | line l => exact nlLine_of l hspan hl
    | lineBlock b =>
      intro l hl'
      exact nlLine_of l (hspan l hl') (hl (clrL l) (List.mem_map_of_mem hl'))
    | lparen x => trivial
    | rparen x => trivial

/-- the per-statement part of `EolCount` -/
def CountStmt : Expr → Prop
  | .commentBlock x => x.comments.suffix = []
  | .line l => l.comments.suffix.length ≤ 1
  | .lineBlock b => b.lparen.comments.suffix.length ≤ 1 ∧ (∀ l ∈ b.lines, l.comments.suffix.length ≤ 1) ∧
      (b.rparen.comments.suffix ++ b.comments.suffix).length ≤ 1
  | _ => True

/-- ★ The hypothesis of the end-of-line-comment theorems, a decidable counting condition on the parsed tree:
    no line, `(` or `)` carries more than one end-of-line comment (a block and its `)` share one slot), a
    comment block carries none, and none is left over for the file header.  It can fail only if some quoted
    token contains an escaped newline. -/
structure EolCount (t : FileSyntax) : Prop where
  header : t.comments.before = []
  stmts : ∀ s ∈ t.stmts, CountStmt s

/-- for a parsed tree the counting condition is all of `EolOK` -/
theorem eolOK_of_count {name x : Bytes} {t : FileSyntax} (h : parse name x = .ok t) (hc : EolCount t) : EolOK t := by
  have hnl := parse_nlOK h
  refine ⟨hc.header, fun s hs => ?_⟩
  have h1 := hc.stmts s hs
  have h2 := hnl s hs
  cases s with
  | commentBlock x => exact h1
  | line l => exact ⟨h1, h2⟩
  | lineBlock b => exact ⟨h1.1, fun l hl => ⟨h1.2.1 l hl, h2 l hl⟩, h1.2.2⟩
  | lparen x => trivial
  | rparen x => trivial

theorem eolCount_of_ok {t : FileSyntax} (h : EolOK t) : EolCount t := by
  refine ⟨h.header, fun s hs => ?_⟩
  have h1 := h.stmts s hs
  cases s with
  | commentBlock x => exact h1
  | line l => exact h1.1
  | lineBlock b => exact ⟨h1.1, fun l hl => (h1.2.1 l hl).1, h1.2.2⟩
  | lparen x => trivial
  | rparen x => trivial

def countStmtB : Expr → Bool
  | .commentBlock x => x.comments.suffix.isEmpty
  | .line l => decide (l.comments.suffix.length ≤ 1)
  | .lineBlock b => decide (b.lparen.comments.suffix.length ≤ 1) &&
      b.lines.all (fun l => decide (l.comments.suffix.length ≤ 1)) &&
      decide ((b.rparen.comments.suffix ++ b.comments.suffix).length ≤ 1)
  | _ => true

def eolCountB (t : FileSyntax) : Bool := t.comments.before.isEmpty && t.stmts.all countStmtB

theorem eolCountB_sound {t : FileSyntax} (h : eolCountB t = true) : EolCount t := by
  simp only [eolCountB, Bool.and_eq_true, List.all_eq_true] at h
  refine ⟨by simpa using h.1, fun s hs => ?_⟩
  have := h.2 s hs
  cases s with
  | commentBlock x =>
    show x.comments.suffix = []
    simpa [countStmtB] using this
  | line l => simpa [countStmtB, CountStmt] using this
  | lineBlock b =>
    simp only [countStmtB, Bool.and_eq_true, decide_eq_true_eq, List.all_eq_true] at this
    exact ⟨this.1.1, this.1.2, this.2⟩
  | lparen x => trivial
  | rparen x => trivial

/-- ★ C02 clause 1 under `EolCount` (`Props.C02.format_parse_syntax_partial2`) -/
theorem format_parse_syntax_count (name x : Bytes) (t : FileSyntax) (h : parse name x = .ok t) (hc : EolCount t) :
    ∃ t', parse name (format t) = .ok t' ∧ eraseFile t' = normFileE t ∧ EolCount t' := by
  obtain ⟨t', h1, h2, h3⟩ := format_parse_syntax_eol name x t h (eolOK_of_count h hc)
  exact ⟨t', h1, h2, eolCount_of_ok h3⟩

/-- ★ C02 clause 2 under `EolCount` (`Props.C02.format_idempotent_partial2`) -/
theorem format_idempotent_count (name x : Bytes) (t t' : FileSyntax) (h : parse name x = .ok t) (hc : EolCount t)
    (h' : parse name (format t) = .ok t') : format t' = format t :=
  format_idempotent_eol name x t t' h (eolOK_of_count h hc) h'

end ModVerif.Proofs.ModfileEol
