/-
  Where the heads held by the machine come from: every in-memory head and the stored head is the
  empty tree, the tree of the initial configuration, or a tree that was presented to a goroutine that has started
  (`SeenInv`; holds for every run, honest server or not), and per client: the in-memory head is the empty tree, a tree
  presented to one of its own goroutines, or a configuration content one of its goroutines read and merged (`SawInv`).
-/
import ModVerif.Proofs.ClientMoreFlush
namespace ModVerif.ClientLatest
variable {M T : Type}

def Started (priv : Nat → Bool) (s : St M T) (t : Nat) : Prop := priv t = false ∧ (s.th t).pc ≠ .entry

def Seen (P : Params M T) (presented : Nat → Option M) (priv : Nat → Bool) (c0 : Option M) (s : St M T) (x : T) : Prop :=
  x = P.zero ∨ x = cfgTree P c0 ∨ ∃ t m, Started priv s t ∧ presented t = some m ∧ P.parse m = some x

/-- what client `c` has seen: the empty tree, everything presented to its started goroutines, and every configuration
content that one of its goroutines read in a `mergeLatest` that has returned success -/
def ClientSaw (P : Params M T) (cl : Nat → Nat) (presented : Nat → Option M) (priv : Nat → Bool) (s : St M T) (c : Nat)
    (x : T) : Prop :=
  x = P.zero ∨ (∃ t m, cl t = c ∧ Started priv s t ∧ presented t = some m ∧ P.parse m = some x) ∨
  ∃ t, cl t = c ∧ (s.th t).pc = .done .ok ∧ x = cfgTree P (s.th t).cfg

structure SeenInv (P : Params M T) (cl : Nat → Nat) (presented : Nat → Option M) (priv : Nat → Bool) (c0 : Option M)
    (s : St M T) : Prop where
  vals : Vals (fun om => Seen P presented priv c0 s (cfgTree P om)) (Seen P presented priv c0 s) s
  saw : ∀ c, ClientSaw P cl presented priv s c (s.latest c)

theorem seen_init (P : Params M T) (cl : Nat → Nat) (presented : Nat → Option M) (priv : Nat → Bool) (c0 : Option M) :
    SeenInv P cl presented priv c0 (init P c0) :=
  ⟨⟨fun _ => .inl rfl, fun _ => .inl rfl, .inr (.inl rfl), fun _ => ⟨.inl rfl, .inl rfl, .inl rfl, .inl rfl, .inl rfl,
    .inl rfl⟩⟩, fun _ => .inl rfl⟩

variable [DecidableEq M] [DecidableEq T]
variable {P : Params M T} {le : T → T → Prop} {cl : Nat → Nat} {presented : Nat → Option M} {priv : Nat → Bool}
  {c0 : Option M} {s s' : St M T} {t : Nat} {r : Res}

theorem started_mono (h : step P cl presented priv s t r = some s') (t0 : Nat) (h0 : Started priv s t0)
    : Started priv s' t0 := by
  refine ⟨h0.1, ?_⟩
  by_cases ht : t0 = t
  · subst ht; exact step_pc_ne_entry h
  · rw [step_th_frame h t0 ht]; exact h0.2

theorem seen_mono (h : step P cl presented priv s t r = some s') (x : T) (hx : Seen P presented priv c0 s x)
    : Seen P presented priv c0 s' x :=
  hx.imp_right (.imp_right fun ⟨t0, m, h0, h2⟩ => ⟨t0, m, started_mono h t0 h0, h2⟩)

theorem clientSaw_mono (h : step P cl presented priv s t r = some s') (c : Nat) (x : T)
    (hx : ClientSaw P cl presented priv s c x) : ClientSaw P cl presented priv s' c x := by
  rcases hx with h1 | ⟨t0, m, hc, h0, h2, h3⟩ | ⟨t0, hc, h2, h3⟩
  · exact Or.inl h1
  · exact Or.inr (Or.inl ⟨t0, m, hc, started_mono h t0 h0, h2, h3⟩)
  · have ht : t0 ≠ t := by
      intro e; subst e; exact step_not_done h _ h2
    rw [← step_th_frame h t0 ht] at h2 h3
    exact Or.inr (Or.inr ⟨t0, hc, h2, h3⟩)

omit [DecidableEq M] [DecidableEq T] in
theorem seen_presented (P : Params M T) (presented : Nat → Option M) (priv : Nat → Bool) (c0 : Option M) (s : St M T)
    (t : Nat) (h : Started priv s t) : Seen P presented priv c0 s (cfgTree P (presented t)) := by
  cases hp : presented t with
  | none => exact Or.inl rfl
  | some m =>
    cases hq : P.parse m with
    | none => left; simp [cfgTree, hq]
    | some x => right; right; exact ⟨t, m, h, hp, by simp [cfgTree, hq]⟩

theorem started_step (hI : Inv P le cl presented priv s) (h : step P cl presented priv s t r = some s')
    (hpc : (s.th t).pc ≠ .entry) : Started priv s' t := by
  refine ⟨?_, step_pc_ne_entry h⟩
  cases hp : priv t with
  | false => rfl
  | true =>
    rcases (hI.private_idle t hp).1 with h1 | h1
    · exact absurd h1 hpc
    · exact absurd h1 (step_not_done h _)

theorem saw_step (hI : Inv P le cl presented priv s) (v6 : ∀ c, ClientSaw P cl presented priv s c (s.latest c))
    (h : step P cl presented priv s t r = some s') : ∀ c, ClientSaw P cl presented priv s' c (s'.latest c) := by
  intro c
  have hold := clientSaw_mono h c _ (v6 c)
  have hstarted := started_step hI h
  obtain ⟨l', e, hl, rfl⟩ := (step_iff ..).mp h
  by_cases hc : c = cl t
  · subst hc
    rw [Eff.apply_latest]
    cases e
    case install =>
      obtain ⟨o, hpc, _, rfl⟩ := hl.of_install
      obtain ⟨_, _, m, hm1, hm2⟩ := hI.snap t o (.inr hpc)
      cases o
      · exact .inr (.inl ⟨t, m, rfl, hstarted (by rw [hpc]; nofun), hI.first_msg t (.inr (.inr hpc)) ▸ hm1, hm2⟩)
      · refine .inr (.inr ⟨t, rfl, by rw [Eff.apply_th, upd_same]; rfl, ?_⟩)
        rw [Eff.apply_th, upd_same]
        exact (hI.loop_msg t (.inr (.inr hpc)) ▸ hm1 ▸ cfgTree_some P m _ hm2).symm
    all_goals exact hold
  · rw [Eff.apply_latest_other _ _ _ _ _ _ hc]; exact hold

theorem seen_step (hI : Inv P le cl presented priv s) (hV : SeenInv P cl presented priv c0 s)
    (h : step P cl presented priv s t r = some s') : SeenInv P cl presented priv c0 s' := by
  refine ⟨vals_step (fun m tr hm hp => cfgTree_some P m tr hp ▸ hm) (fun hpc => ?_)
    (hV.vals.imp (fun _ => seen_mono h _)
      (seen_mono h)) h, saw_step hI hV.saw h⟩
  exact seen_presented P presented priv c0 s' t (started_step hI h (by rw [hpc]; nofun))

theorem seen_reachable (hS : Sound P le) (h : Reachable P cl presented priv c0 s) : SeenInv P cl presented priv c0 s := by
  induction h with
  | init => exact seen_init P cl presented priv c0
  | step t r hr hs ih =>
    exact seen_step (inv_reachable hS hr) ih hs

end ModVerif.ClientLatest
