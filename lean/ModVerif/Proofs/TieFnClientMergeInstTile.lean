/-
  Tie proofs, sumdb/client.go (merge unit): `readHashesW` of the regenerated client (the world-mode
  `tileHashReader.ReadHashes` of Generated/FnTileW.lean run over the client's own `tileReader` methods) against the model's
  `Client.readHashes`, from
    * the world-mode tie `Tie.FnTileW` (`tileHashReader_ReadHashes_world`, `stagedM`; `planG_eq` of Proofs/TieFnTileWPlan.lean),
    * the pure tie with the error text determined (`Tie.FnTile.tileHashReader_ReadHashes_tie_msg`),
    * the ties of the client's tile reader (`Tie.FnClientTiles`: `tileReader_Height_tie`, `tileReader_ReadTiles_run`,
      `tileReader_SaveTiles_run`).
  Hypotheses on the parameters: `P.hashSize = 32` (`tlog.HashSize`, a constant of the Go code) and tile height `≤ 57`
  (the range of the tile tie; `SetTileHeight` is 8 by default).

  Pure facts first: the client model decodes a tile file with `chunks P.hashSize` / `P.dec`, the tile tie with `unflatS`
  (complete 32-byte groups): equal on files of `32·w` bytes, and `bytesWidthsOk 32` is `Tile.widthsOk` after decoding; the
  planned tiles are in the range of the client's tile ties (`TRange`), of positive width, without duplicates; `errAbs` of
  the error texts of `ReadHashes` (`MsgOK` / `MsgRefine`) is the model's error.
-/
import ModVerif.Proofs.TieFnClientMergeSpec
import ModVerif.Proofs.TileAuthFinal
import ModVerif.Tie.FnTile
import ModVerif.Proofs.TieFnClientMergeInstTlog
import ModVerif.Tie.FnTileW
import ModVerif.Proofs.ClientAuth
import ModVerif.Tie.FnClientTiles
namespace ModVerif.TieFnClientMerge
open ModVerif ModVerif.GoRt ModVerif.Client ModVerif.Generated.SumdbClient ModVerif.TieFnClientRep
open ModVerif.TieFnTile ModVerif.TieFnTileW ModVerif.TieFnClientTiles
open ModVerif.Tie.FnTileW (stagedM)

theorem hashes32_cons (d : Bytes) (m : Nat) (hd : d.length = 32 * (m + 1)) :
    hashes32 d = d.take 32 :: hashes32 (d.drop 32) := by
  unfold hashes32
  have h1 : d.length / 32 = m + 1 := by omega
  have h2 : (d.drop 32).length / 32 = m := by simp only [List.length_drop]; omega
  rw [h1, h2, List.range_succ_eq_map, List.map_cons, List.map_map]
  congr 1
  apply List.map_congr_left
  intro i _
  simp only [Function.comp, List.drop_drop]
  congr 2
  omega

theorem chunksF_eq_hashes32 : ∀ (m f : Nat) (d : Bytes), d.length = 32 * m → m ≤ f →
    Client.chunksF 32 f d = hashes32 d := by
  intro m
  induction m with
  | zero =>
    intro f d hd _
    have : d = [] := List.eq_nil_of_length_eq_zero (by omega)
    subst this
    cases f <;> simp [Client.chunksF, hashes32]
  | succ m ih =>
    intro f d hd hf
    obtain ⟨f', rfl⟩ : ∃ f', f = f' + 1 := ⟨f - 1, by omega⟩
    have hne : d.isEmpty = false := by
      cases d with
      | nil => simp at hd
      | cons a b => rfl
    rw [Client.chunksF, hashes32_cons d m hd]
    simp only [hne, Bool.false_eq_true, if_false]
    rw [ih f' (d.drop 32) (by simp only [List.length_drop]; omega) (by omega)]

theorem decodeTile_eq {H : Type} (P : Params H) (h32 : P.hashSize = 32) (d : Bytes) (w : Nat) (hd : d.length = 32 * w) :
    Client.decodeTile P d = unflatS P.dec d := by
  unfold Client.decodeTile Client.chunks
  rw [h32, chunksF_eq_hashes32 w d.length d hd (by omega), unflatS_eq P.dec d w hd]
  rfl

theorem bytesWidthsOk_eq {H : Type} (ofBytes : Bytes → H) : ∀ (tiles : List Tile.Tile) (ds : List Bytes),
    (∀ t ∈ tiles, 1 ≤ t.w) →
    Client.bytesWidthsOk 32 tiles ds = Tile.widthsOk tiles (ds.map (unflatS ofBytes)) := by
  intro tiles
  induction tiles with
  | nil => intro ds _; cases ds <;> rfl
  | cons t ts ih =>
    intro ds hw
    cases ds with
    | nil => rfl
    | cons d dr =>
      simp only [Client.bytesWidthsOk, List.map_cons, Tile.widthsOk]
      rw [ih dr (fun t ht => hw t (List.mem_cons_of_mem _ ht))]
      have hiff := unflatS_length_iff ofBytes d t.w (hw t (List.mem_cons_self ..))
      have : (d.length == t.w * 32) = ((unflatS ofBytes d).length == t.w) := by
        rw [Bool.eq_iff_iff]
        simp only [beq_iff_eq]
        constructor
        · intro h; exact hiff.2 (by omega)
        · intro h; have := hiff.1 h; omega
      rw [this]

theorem decodeTile_map_eq {H : Type} (P : Params H) (h32 : P.hashSize = 32) : ∀ (tiles : List Tile.Tile) (ds : List Bytes),
    Client.bytesWidthsOk 32 tiles ds = true → ds.map (Client.decodeTile P) = ds.map (unflatS P.dec) := by
  intro tiles
  induction tiles with
  | nil =>
    intro ds h
    cases ds with
    | nil => rfl
    | cons d dr => simp [Client.bytesWidthsOk] at h
  | cons t ts ih =>
    intro ds h
    cases ds with
    | nil => rfl
    | cons d dr =>
      simp only [Client.bytesWidthsOk, Bool.and_eq_true, beq_iff_eq] at h
      simp only [List.map_cons]
      rw [ih dr h.2, decodeTile_eq P h32 d t.w (by omega)]

theorem plan_tiles_facts (h N : Nat) (h1 : 1 ≤ h) (h57 : h ≤ 57) (hN : N < 2 ^ 62) (idx : List Nat) (p : Tile.Plan)
    (hp : Tile.plan h N idx = .ok p) :
    (∀ t ∈ p.tiles, TRange t) ∧ (∀ t ∈ p.tiles, 1 ≤ t.w) ∧ p.tiles.Nodup := by
  have hidx := TileAuth.plan_ok_lt h N idx p hp
  obtain ⟨cs, p', hp', ok⟩ := TileAuth.plan_spec h N (by omega) (by omega) (TileAuth.split_valid N hN) idx
    (TileAuth.hidx_of_lt N hN idx hidx)
  rw [hp] at hp'; cases hp'
  have pf := planFacts_of_planOK h N h1 hN cs idx p ok
  have hnd := (TileAuth.plan_parents_first h N h1 hN idx p hp).2.2.1
  refine ⟨?_, fun t ht => (pf.w1 t ht).1, hnd⟩
  intro t ht
  have o := pf.ok t ht
  have w := pf.w1 t ht
  have hpos : 0 < 2 ^ h := Nat.two_pow_pos h
  refine ⟨TOk_of_not_data t o.data, by rw [o.hh]; omega, ?_, by rw [o.hh]; exact w.2⟩
  have hn := o.hn
  have h63 : (2 : Nat) ^ 62 < 2 ^ 63 := by decide
  have : t.n * 2 ^ h ≤ N := by
    rw [Nat.add_mul, Nat.one_mul] at hn; omega
  have : t.n ≤ t.n * 2 ^ h := Nat.le_mul_of_pos_right _ hpos
  omega

theorem errAbs_hft (s : String) (h : HftMsg s) : errAbs s = .tlog .badTile := by
  rcases h with h | h | h <;> subst h <;> exact errAbs_lit _ rfl (by decide)

theorem errAbs_tileLenN : errAbs "TileReader returned bad result slice (len=%d, want %d)" = .tlog .badTile :=
  errAbs_lit _ rfl (by decide)

/-- the error text of `ReadHashes` for a model error other than the two that need more information (`reader`: the text is
    `ReadTiles`' own; `badTile`: which of the texts) -/
theorem repErr_of_msgOK (rerr : Option String) (e : Tlog.Err) (msg : Option String) (h : MsgOK rerr e msg)
    (hr : e ≠ .reader) (hb : e ≠ .badTile) : RepErr msg (.tlog e) := by
  cases e with
  | indexRange => exact ⟨_, h, errAbs_indexRange⟩
  | reader => exact absurd rfl hr
  | badTile => exact absurd rfl hb
  | inconsistent => exact ⟨_, h, errAbs_inconsistent⟩
  | badMath =>
    -- every text that starts with "bad math in tileHashReader"
    rcases h with h | h | ⟨s, _, h⟩ | ⟨s, _, h⟩
    · exact ⟨_, h, errAbs_lit _ rfl (by decide)⟩
    · exact ⟨_, h, errAbs_lit _ rfl (by decide)⟩
    · rw [h]; exact repErr_wrap _ _ rfl (by decide)
    · rw [h]; exact repErr_wrap _ _ rfl (by decide)
  | _ => exact absurd h id

section
variable {H : Type} [DecidableEq H] [Inhabited H] {W : Type} (height : W → M (Int × W))
  (node : H → H → H) (ofBytes : Bytes → H)
  (readTiles : List Generated.Tile.Tile → W → M ((List Bytes × Option String) × W))
  (saveTiles : List Generated.Tile.Tile → List Bytes → W → M (Unit × W))

/-- `Tie.FnTileW.tileHashReader_ReadHashes_world_tie` with the error text determined (`MsgRefine`) -/
theorem world_tie_msg (fuel h N : Nat) (th : H) (idx : List Nat) (w w1 : W)
    (serve : Tile.Tile → Option (List H))
    (hh : height w = .ok ((h : Int), w1)) (h1 : 1 ≤ h) (h57 : h ≤ 57) (hN : N < 2 ^ 62) (hidx : idx.length < 2 ^ 56)
    (hserve : ServeRel ofBytes (readTilesAt readTiles w1) serve (planTiles h N idx))
    (hf : 64 * idx.length + 500 ≤ fuel) :
    ∃ msg, (∀ a, Generated.TileW.tileHashReader_ReadHashes height node ofBytes readTiles saveTiles fuel
          { tree := { N := (N : Int), Hash := th }, tr := () } (idx.map Int.ofNat) w = .ok a ↔
        stagedM readTiles saveTiles h N idx w1 (Tile.readHashes node N th h idx serve) msg = .ok a) ∧
      (∀ e, (Tile.readHashes node N th h idx serve).result = .error e →
        MsgOK (readTilesAt readTiles w1 ((planTiles h N idx).map toGen)).2 e msg) ∧
      (∀ p, Tile.plan h N idx = .ok p → p.stx ≠ [] →
        MsgRefine ofBytes (planTiles h N idx) (readTilesAt readTiles w1 ((planTiles h N idx).map toGen)).1
          (readTilesAt readTiles w1 ((planTiles h N idx).map toGen)).2 (Tile.readHashes node N th h idx serve).result msg) := by
  obtain ⟨msg, hp, hm, href⟩ := Tie.FnTile.tileHashReader_ReadHashes_tie_msg node ofBytes fuel h N th idx
    (readTilesAt readTiles w1) serve h1 h57 hN hidx hserve hf
  refine ⟨msg, ?_, hm, href⟩
  intro a
  rw [Tie.FnTileW.tileHashReader_ReadHashes_world height node ofBytes readTiles saveTiles fuel _ _ w w1 h hh a]
  have hpl := planG_eq node ofBytes fuel h N idx
    ({ tree := { N := (N : Int), Hash := th }, tr := { Height := (h : Int), ReadTiles := readTilesAt readTiles w1 } } :
      Generated.Tile.tileHashReader H) h1 h57 hN rfl rfl (by omega)
  unfold stagedW stagedM
  simp only [hpl, hp]
  cases hc : planCall h N idx with
  | none => exact Iff.rfl
  | some tiles =>
    have := planCall_some h N idx tiles hc
    subst this
    exact Iff.rfl

end

section
variable {σ H : Type} [DecidableEq H] [Inhabited H] {P : Params H} {E : Env σ}

/-- fuel of `readHashesW`: the tile tie (`64·len + 500`) and the client's `ReadTiles` / `SaveTiles` loops (one unit per
    planned tile, at most `62 + 63·len` of them, `+ 9`) -/
def readHashesFuel (_ : World σ H) (_ : Head H) (idx : List Nat) : Nat := 64 * idx.length + 600

omit [DecidableEq H] [Inhabited H] in
theorem finishW_nil {A : Type} (ST : List Generated.Tile.Tile → List Bytes → GW σ H → M (Unit × GW σ H)) (cw : GW σ H) (res : A) :
    finishW ST cw (.ok (res, [])) = .ok (res, cw) := rfl

omit [DecidableEq H] [Inhabited H] in
theorem finishW_one {A : Type} (ST : List Generated.Tile.Tile → List Bytes → GW σ H → M (Unit × GW σ H)) (cw cw' : GW σ H)
    (res : A) (gt : List Generated.Tile.Tile) (data : List Bytes) (hs : ST gt data cw = .ok ((), cw')) :
    finishW ST cw (.ok (res, [(gt, data)])) = .ok (res, cw') := by
  simp only [finishW, saveLog, hs]

/-- `tlog.TileHashReader(tree, &c.tileReader).ReadHashes(indexes)` of the regenerated client = the model's `readHashes` -/
theorem readHashes_tie (P : Params H) (E : Env σ) (h32 : P.hashSize = 32) (h57 : Client.tileHeight P ≤ 57)
    (w : World σ H) (cw : GW σ H) (tree : Head H) (idx : List Nat) (fuel : Nat)
    (hr : RepRun P E w cw) (htree : tree.n < 2 ^ 62) (hlen : idx.length < 2 ^ 56) (hf : 64 * idx.length + 600 ≤ fuel) :
    Ties (RepRun P E) FrameG FrameM RepRes id w cw (readHashesW (envOf P E) fuel (headG tree) (idx.map Int.ofNat) cw)
      (readHashes P E w tree idx) := by
  have h1 := ModVerif.Client.tileHeight_pos P
  -- the generated function and its world functions
  generalize hRT : (fun ts (w : GW σ H) => tileReader_ReadTiles (envOf P E) fuel ts w) = RT
  generalize hST : (fun ts d (w : GW σ H) => tileReader_SaveTiles (envOf P E) fuel ts d w) = ST
  have hgen : readHashesW (envOf P E) fuel (headG tree) (idx.map Int.ofNat) cw =
      Generated.TileW.tileHashReader_ReadHashes (fun w => pure (tileReader_Height w)) P.node P.dec RT ST fuel
        { tree := { N := (tree.n : Int), Hash := tree.hash }, tr := () } (idx.map Int.ofNat) cw := by
    rw [← hRT, ← hST]; rfl
  rw [hgen]
  have hh : (fun (w : GW σ H) => (pure (tileReader_Height w) : M (Int × GW σ H))) cw = .ok ((Client.tileHeight P : Int), cw) := by
    simp only [Tie.FnClientTiles.tileReader_Height_tie hr]; rfl
  have hRTe : ∀ ts (w : GW σ H), RT ts w = tileReader_ReadTiles (envOf P E) fuel ts w := by intro ts w; rw [← hRT]
  have hSTe : ∀ ts d (w : GW σ H), ST ts d w = tileReader_SaveTiles (envOf P E) fuel ts d w := by intro ts d w; rw [← hST]
  have hplen := planTiles_length (Client.tileHeight P) tree.n h1 htree idx
  cases hp : Tile.plan (Client.tileHeight P) tree.n idx with
  | error e =>
    -- planning fails: an index outside the tree; the world is untouched
    have hpt : planTiles (Client.tileHeight P) tree.n idx = [] := by unfold planTiles; rw [hp]
    have hserve : ServeRel P.dec (readTilesAt RT cw) (fun _ => (none : Option (List H))) (planTiles (Client.tileHeight P) tree.n idx) := by
      rw [hpt]; intro h; exact absurd rfl h
    obtain ⟨msg, hiff, hmsg, _⟩ := world_tie_msg (fun w => pure (tileReader_Height w)) P.node P.dec RT ST fuel
      (Client.tileHeight P) tree.n tree.hash idx cw cw (fun _ => none) hh h1 h57 htree hlen hserve (by omega)
    have hout : Tile.readHashes P.node tree.n tree.hash (Client.tileHeight P) idx (fun _ => none) =
        { saved := none, result := .error e } := by
      simp only [Tile.readHashes, hp]
    have hpc : planCall (Client.tileHeight P) tree.n idx = none := by unfold planCall; rw [hp]
    have hst : stagedM RT ST (Client.tileHeight P) tree.n idx cw
        (Tile.readHashes P.node tree.n tree.hash (Client.tileHeight P) idx (fun _ => none)) msg = .ok ((([] : List H), msg), cw) := by
      unfold stagedM
      simp only [hpc, hout, rhOut]
      exact finishW_nil ST cw _
    have hm : Client.readHashes P E w tree idx = (.error (.tlog e), w) := by
      simp only [Client.readHashes, hp]
    rw [hm]
    have he : e = .indexRange := by
      obtain ⟨cs, tiles0, order0, sto, _, _, _, _, hres, hplan⟩ := plan_decomp (Client.tileHeight P) tree.n h1 htree idx
      rw [hp] at hplan
      cases hpi : Tile.planIndexes (Client.tileHeight P) tree.n idx (tiles0, order0, []) with
      | error e' =>
        rw [hpi] at hplan
        simp only [Except.error.injEq] at hplan
        rw [hplan]
        exact hres e' hpi
      | ok res => rw [hpi] at hplan; cases hplan
    have hmo := hmsg e (by rw [hout])
    subst he
    exact ⟨_, _, (hiff _).2 hst, hr, repErr_of_msgOK _ _ _ hmo (by decide) (by decide), FrameG.refl _, FrameM.refl _⟩
  | ok p =>
    have hpt : planTiles (Client.tileHeight P) tree.n idx = p.tiles := by unfold planTiles; rw [hp]
    obtain ⟨hrange, hw1, hnd⟩ := plan_tiles_facts (Client.tileHeight P) tree.n h1 h57 htree idx p hp
    by_cases hstx : p.stx.isEmpty = true
    · -- the empty tree: nothing to read, the world is untouched
      obtain ⟨serve, hserve⟩ := exists_serve (H := H) P.dec (readTilesAt RT cw) (planTiles (Client.tileHeight P) tree.n idx)
        (by rw [hpt]; exact hnd)
      obtain ⟨msg, hiff, _, _⟩ := world_tie_msg (fun w => pure (tileReader_Height w)) P.node P.dec RT ST fuel
        (Client.tileHeight P) tree.n tree.hash idx cw cw serve hh h1 h57 htree hlen hserve (by omega)
      have hout : Tile.readHashes P.node tree.n tree.hash (Client.tileHeight P) idx serve =
          { saved := none, result := .ok [] } := by
        simp only [Tile.readHashes, hp, hstx, if_true]
      have hpc : planCall (Client.tileHeight P) tree.n idx = none := by
        unfold planCall; rw [hp]; simp only [hstx, if_true]
      have hst : stagedM RT ST (Client.tileHeight P) tree.n idx cw
          (Tile.readHashes P.node tree.n tree.hash (Client.tileHeight P) idx serve) msg = .ok ((([] : List H), none), cw) := by
        unfold stagedM
        simp only [hpc, hout, rhOut]
        exact finishW_nil ST cw _
      have hm : Client.readHashes P E w tree idx = (.ok [], w) := by
        simp only [Client.readHashes, hp, hstx, if_true]
      rw [hm]
      exact ⟨_, _, (hiff _).2 hst, hr, ⟨rfl, rfl⟩, FrameG.refl _, FrameM.refl _⟩
    · have hstx' : p.stx.isEmpty = false := by simpa using hstx
      have hstxne : p.stx ≠ [] := by
        intro hc; rw [hc] at hstx'; simp at hstx'
      have hfuelT : p.tiles.length + 9 ≤ fuel := by rw [← hpt]; omega
      obtain ⟨p0, cwR, eR, rrR, rsR, fgR, fmR⟩ :=
        Tie.FnClientTiles.tileReader_ReadTiles_run hr p.tiles hrange fuel hfuelT
      have hRTc : RT (p.tiles.map toGen) cw = .ok (p0, cwR) := by rw [hRTe, eR]
      have hrta : readTilesAt RT cw (p.tiles.map toGen) = p0 := by unfold readTilesAt; rw [hRTc]
      have hpc : planCall (Client.tileHeight P) tree.n idx = some p.tiles := by
        unfold planCall; rw [hp]; simp only [hstx', Bool.false_eq_true, if_false]
      -- the model, up to the answer of `ReadTiles`
      have hm0 : Client.readHashes P E w tree idx =
          match (Client.readTiles E w p.tiles).1 with
          | .error e => (.error e, (Client.readTiles E w p.tiles).2)
          | .ok datas =>
            if !Client.bytesWidthsOk P.hashSize p.tiles datas then (.error .tileLen, (Client.readTiles E w p.tiles).2) else
            match (Tile.readHashes P.node tree.n tree.hash (Client.tileHeight P) idx
                (fun t => (p.tiles.zip (datas.map (Client.decodeTile P))).lookup t)).saved with
            | some _ => (liftTlog (Tile.readHashes P.node tree.n tree.hash (Client.tileHeight P) idx
                (fun t => (p.tiles.zip (datas.map (Client.decodeTile P))).lookup t)).result,
                Client.saveTiles E (Client.readTiles E w p.tiles).2 (p.tiles.zip datas))
            | none => (liftTlog (Tile.readHashes P.node tree.n tree.hash (Client.tileHeight P) idx
                (fun t => (p.tiles.zip (datas.map (Client.decodeTile P))).lookup t)).result,
                (Client.readTiles E w p.tiles).2) := by
        simp only [Client.readHashes, hp, hstx', Bool.false_eq_true, if_false]
        cases (Client.readTiles E w p.tiles).1 with
        | error e => rfl
        | ok datas =>
          simp only []
          split
          · rfl
          · cases (Tile.readHashes P.node tree.n tree.hash (Client.tileHeight P) idx
                (fun t => (p.tiles.zip (datas.map (Client.decodeTile P))).lookup t)).saved <;> rfl
      rw [hm0]
      cases hrd : (Client.readTiles E w p.tiles).1 with
      | error e =>
        -- `ReadTiles` fails: its error is returned
        rw [hrd] at rsR
        obtain ⟨d0, e0⟩ := p0
        obtain ⟨s, rfl, habs⟩ := rsR
        have hne : p.tiles ≠ [] := by
          intro hnil
          rw [hnil] at hrd
          simp [Client.readTiles, Client.readTilesAll, Client.firstError] at hrd
        have hserve : ServeRel P.dec (readTilesAt RT cw) (fun _ => (none : Option (List H)))
            (planTiles (Client.tileHeight P) tree.n idx) := by
          rw [hpt]
          intro _
          rw [hrta]
          exact mapM_const_none p.tiles hne
        obtain ⟨msg, hiff, hmsg, _⟩ := world_tie_msg (fun w => pure (tileReader_Height w)) P.node P.dec RT ST fuel
          (Client.tileHeight P) tree.n tree.hash idx cw cw (fun _ => none) hh h1 h57 htree hlen hserve (by omega)
        have hout : Tile.readHashes P.node tree.n tree.hash (Client.tileHeight P) idx (fun _ => (none : Option (List H))) =
            { saved := none, result := .error .reader } := by
          simp only [Tile.readHashes, hp, hstx', Bool.false_eq_true, if_false, mapM_const_none p.tiles hne]
        have hmo := hmsg .reader (by rw [hout])
        rw [hpt, hrta] at hmo
        obtain ⟨hm1, _⟩ := hmo
        simp only at hm1
        have hst : stagedM RT ST (Client.tileHeight P) tree.n idx cw
            (Tile.readHashes P.node tree.n tree.hash (Client.tileHeight P) idx (fun _ => none)) msg =
              .ok ((([] : List H), msg), cwR) := by
          unfold stagedM
          simp only [hpc, hout, rhOut, hpt, hRTc]
          exact finishW_nil ST cwR _
        refine ⟨_, _, (hiff _).2 hst, rrR, ?_, fgR, fmR⟩
        rw [hm1]
        exact ⟨s, rfl, habs⟩
      | ok datas =>
        rw [hrd] at rsR
        obtain ⟨d0, e0⟩ := p0
        obtain ⟨rfl, rfl⟩ := rsR
        have hdl : d0.length = p.tiles.length := by
          have h1' := ModVerif.Client.firstError_length _ _ (show Client.firstError (Client.readTilesAll E w p.tiles).1 = .ok d0 from hrd)
          rw [h1', ModVerif.Client.readTilesAll_length]
        -- the server of the tile tie: the table of decoded tiles
        have hserve : ServeRel P.dec (readTilesAt RT cw)
            (fun t => (p.tiles.zip (d0.map (unflatS P.dec))).lookup t) (planTiles (Client.tileHeight P) tree.n idx) := by
          rw [hpt]
          intro _
          rw [hrta]
          simp only [hdl, if_true]
          exact mapM_lookup_zip p.tiles _ hnd (by simp [hdl])
        obtain ⟨msg, hiff, hmsg, href⟩ := world_tie_msg (fun w => pure (tileReader_Height w)) P.node P.dec RT ST fuel
          (Client.tileHeight P) tree.n tree.hash idx cw cw _ hh h1 h57 htree hlen hserve (by omega)
        have href' := href p hp hstxne
        rw [hpt, hrta] at href' hmsg
        have href'' := href' rfl hdl
        rw [h32]
        have hwe := bytesWidthsOk_eq P.dec p.tiles d0 hw1
        by_cases hwd : Client.bytesWidthsOk 32 p.tiles d0 = true
        · -- the widths are right: the model's table is the tile tie's
          have htab : d0.map (Client.decodeTile P) = d0.map (unflatS P.dec) := decodeTile_map_eq P h32 p.tiles d0 hwd
          simp only [hwd, Bool.not_true, Bool.false_eq_true, if_false, htab]
          generalize hout : Tile.readHashes P.node tree.n tree.hash (Client.tileHeight P) idx
            (fun t => (p.tiles.zip (d0.map (unflatS P.dec))).lookup t) = out at hiff hmsg href''
          have hres : RepRes (match out.result with | .ok hs => (hs, (none : Option String)) | .error _ => ([], msg))
              (liftTlog out.result) := by
            cases hor : out.result with
            | ok hs => exact ⟨rfl, rfl⟩
            | error e =>
              simp only [liftTlog]
              have hmo := hmsg e hor
              by_cases heb : e = .badTile
              · subst heb
                obtain ⟨s, hs, hms⟩ := href''.2 (by rw [← hwe]; exact hwd) hor
                rw [hms]
                exact ⟨s, rfl, errAbs_hft s hs⟩
              · by_cases her : e = .reader
                · subst her
                  exact absurd rfl hmo.2
                · exact repErr_of_msgOK _ _ _ hmo her heb
          cases hsv : out.saved with
          | none =>
            have hst : stagedM RT ST (Client.tileHeight P) tree.n idx cw out msg =
                .ok ((match out.result with | .ok hs => (hs, (none : Option String)) | .error _ => ([], msg)), cwR) := by
              unfold stagedM
              simp only [hpc, rhOut, hpt, hRTc, hsv]
              exact finishW_nil ST cwR _
            exact ⟨_, _, (hiff _).2 hst, rrR, hres, fgR, fmR⟩
          | some sv =>
            obtain ⟨cwS, eS, rrS, fgS, fmS⟩ :=
              Tie.FnClientTiles.tileReader_SaveTiles_run rrR p.tiles d0 hdl hrange fuel hfuelT
            have hSTc : ST (p.tiles.map toGen) d0 cwR = .ok ((), cwS) := by rw [hSTe, eS]
            have hst : stagedM RT ST (Client.tileHeight P) tree.n idx cw out msg =
                .ok ((match out.result with | .ok hs => (hs, (none : Option String)) | .error _ => ([], msg)), cwS) := by
              unfold stagedM
              simp only [hpc, rhOut, hpt, hRTc, hsv, hrta]
              exact finishW_one ST cwR cwS _ _ _ hSTc
            exact ⟨_, _, (hiff _).2 hst, rrS, hres, fgR.trans fgS, fmR.trans fmS⟩
        · -- a tile of the wrong length
          have hwd' : Client.bytesWidthsOk 32 p.tiles d0 = false := by simpa using hwd
          simp only [hwd', Bool.not_false, if_true]
          have hwf : Tile.widthsOk p.tiles (d0.map (unflatS P.dec)) = false := by rw [← hwe]; exact hwd'
          have hout : Tile.readHashes P.node tree.n tree.hash (Client.tileHeight P) idx
              (fun t => (p.tiles.zip (d0.map (unflatS P.dec))).lookup t) = { saved := none, result := .error .badTile } := by
            simp only [Tile.readHashes, hp, hstx', Bool.false_eq_true, if_false,
              mapM_lookup_zip p.tiles _ hnd (show p.tiles.length = (d0.map (unflatS P.dec)).length by simp [hdl]), hwf,
              Bool.not_false, if_true]
          have hms := href''.1 hwf
          have hst : stagedM RT ST (Client.tileHeight P) tree.n idx cw
              (Tile.readHashes P.node tree.n tree.hash (Client.tileHeight P) idx
                (fun t => (p.tiles.zip (d0.map (unflatS P.dec))).lookup t)) msg = .ok ((([] : List H), msg), cwR) := by
            unfold stagedM
            simp only [hpc, hout, rhOut, hpt, hRTc]
            exact finishW_nil ST cwR _
          refine ⟨_, _, (hiff _).2 hst, rrR, ?_, fgR, fmR⟩
          rw [hms]
          exact ⟨_, rfl, errAbs_tileLen⟩

/-- the hypothesis `Normal` of the interface is not needed: under the range hypotheses the model-only outcomes do not occur -/
theorem readHashesSpec_inst (P : Params H) (E : Env σ) (h32 : P.hashSize = 32) (h57 : Client.tileHeight P ≤ 57) :
    ReadHashesSpec P E (readHashesFuel (σ := σ) (H := H)) :=
  fun w cw tree idx fuel hr htree hlen hf _ => readHashes_tie P E h32 h57 w cw tree idx fuel hr htree hlen hf

def tileSpecs (P : Params H) (E : Env σ) (h32 : P.hashSize = 32) (h57 : Client.tileHeight P ≤ 57) : TileSpecs P E :=
  { FR := readHashesFuel
    FT := treeHashFuel readHashesFuel
    FP := proveTreeFuel readHashesFuel
    readHashes := readHashesSpec_inst P E h32 h57
    treeHash := treeHashSpec_of_readHashes _ (readHashesSpec_inst P E h32 h57)
    proveTree := proveTreeSpec_of_readHashes _ (readHashesSpec_inst P E h32 h57) }


end
end ModVerif.TieFnClientMerge
