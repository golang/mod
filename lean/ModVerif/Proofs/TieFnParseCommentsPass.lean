/-
  A pass of assignComments over a list of nodes, generically.  `rangeF step fuel xs` runs the loop body `step` at the
  nodes `xs` (fuel decreasing by one per node, as the translated loops do); `StepSpec F emb N P step` says the body
  reads the span and the comments of the node, applies the node function `F` and stores the new comments.  `Run` is
  what a stretch of the pass does; stretches compose (`Run.append`), and on a reified statement list the pass computes
  `travStmts o F` (`pass_stmts`).
-/
import ModVerif.Proofs.TieFnParseCommentsNodes
import ModVerif.Proofs.GoRtSim
namespace ModVerif.TieFnParseComments
open ModVerif ModVerif.GoRt ModVerif.Generated ModVerif.Generated.Parse ModVerif.Tie.FnParseHeap

abbrev PState := Heap × List Comment

/-- The loop body at a node: it reads the span and the comments, applies `F`, stores.  `emb` is the form in which the
    generated pass threads the model's comment list (pass 2 keeps it reversed), `N` bounds that list (the inner loop of a
    body burns one unit of fuel per comment), `P` is what the body needs of the node's comments (pass 3: few enough suffix
    comments for the fuel of `reverseComments`). -/
structure StepSpec (F : NodeF) (emb : List Modfile.Comment → List Comment) (N : Nat) (P : Modfile.Comments → Prop)
    (step : Nat → Expr → PState → M PState) : Prop where
  spec : ∀ (f : Nat) (x : Expr) (h : Heap) (st : List Modfile.Comment) (sp : Modfile.Position × Modfile.Position)
    (c0 : Modfile.Comments), (∀ q, x ≠ Expr.FileSyntax q) → N + 1 ≤ f → st.length ≤ N → P c0 →
    Expr_Span f x h = .ok (spanG sp, h) →
    Expr_getComments x h = .ok (comsG c0) →
    step f x (h, emb st) =
      (Expr_setComments x (comsG (F sp c0 st).1) h >>= fun h' => pure (h', emb (F sp c0 st).2))

/-- The pass over the nodes `xs` takes the heap `h` and the comment list `st` to `h'` and `st'`, whatever fuel beyond
    one unit per node and `N + 1` it is given; the list does not grow, the file objects are not touched, statements that
    own none of the nodes stay reified. -/
structure Run (step : Nat → Expr → PState → M PState) (emb : List Modfile.Comment → List Comment) (N : Nat)
    (xs : List Expr) (h : Heap) (st : List Modfile.Comment) (h' : Heap) (st' : List Modfile.Comment) : Prop where
  pass : ∀ fuel, xs.length + N + 1 ≤ fuel → rangeF step fuel xs (h, emb st) = .ok (h', emb st')
  le : st'.length ≤ st.length
  files : h'.files = h.files
  frame : Frame xs h h'

section generic
variable {F : NodeF} {emb : List Modfile.Comment → List Comment} {N : Nat} {P : Modfile.Comments → Prop}
  {step : Nat → Expr → PState → M PState}

theorem Run.nil (h : Heap) (st : List Modfile.Comment) : Run step emb N [] h st h st :=
  ⟨fun _ _ => rangeF_nil _ _ _, Nat.le_refl _, rfl, Frame.refl h⟩

theorem Run.append {xs ys : List Expr} {h h1 h2 : Heap} {st st1 st2 : List Modfile.Comment}
    (a : Run step emb N xs h st h1 st1) (b : Run step emb N ys h1 st1 h2 st2) : Run step emb N (xs ++ ys) h st h2 st2 where
  pass fuel hf := by
    rw [List.length_append] at hf
    rw [rangeF_append _ _ _ _ _ _ (a.pass fuel (by omega)) (by omega), b.pass _ (by omega)]
  le := Nat.le_trans b.le a.le
  files := b.files.trans a.files
  frame := a.frame.trans b.frame

theorem Run.node (hs : StepSpec F emb N P step) (hF : Shrinks F) {x : Expr} {h h' : Heap} {st : List Modfile.Comment}
    {sp : Modfile.Position × Modfile.Position} {c0 : Modfile.Comments} (hx : ∀ q, x ≠ Expr.FileSyntax q)
    (hst : st.length ≤ N) (hP : P c0) (hsp : ∀ f, Expr_Span f x h = .ok (spanG sp, h))
    (hg : Expr_getComments x h = .ok (comsG c0)) (hset : Expr_setComments x (comsG (F sp c0 st).1) h = .ok h')
    (hfl : h'.files = h.files) : Run step emb N [x] h st h' (F sp c0 st).2 where
  pass fuel hf := by
    obtain ⟨f, rfl⟩ : ∃ f, fuel = f + 1 := ⟨fuel - 1, by simp at hf; omega⟩
    rw [rangeF_cons, hs.spec f x h st sp c0 hx (by simp at hf; omega) hst hP (hsp f) hg, hset]
    simp only [bind_ok, pure_eq_ok, rangeF_nil]
  le := hF _ _ _
  files := hfl
  frame := Frame.single hset

/-! ### the three nodes held by a block object -/

inductive BK where
  | B | LP | RP

def bkNode (k : BK) (p : Int) : Expr :=
  match k with | .B => .LineBlock p | .LP => .LParen p | .RP => .RParen p
def bkSpan (k : BK) (b : Modfile.LineBlock) : Modfile.Position × Modfile.Position :=
  match k with
  | .B => (Modfile.Expr.lineBlock b).span | .LP => (Modfile.Expr.lparen b.lparen).span | .RP => (Modfile.Expr.rparen b.rparen).span
def bkComs (k : BK) (b : Modfile.LineBlock) : Modfile.Comments :=
  match k with | .B => b.comments | .LP => b.lparen.comments | .RP => b.rparen.comments
def bkSet (k : BK) (c : Modfile.Comments) (b : Modfile.LineBlock) : Modfile.LineBlock :=
  match k with
  | .B => { b with comments := c } | .LP => { b with lparen := { b.lparen with comments := c } }
  | .RP => { b with rparen := { b.rparen with comments := c } }

variable {h : Heap} {p : Int} {b : Modfile.LineBlock} {ps : List Int} {st : List Modfile.Comment}

theorem Span_bk (k : BK) (hb : heapGet h.blocks p = .ok (blockG b ps)) (f : Nat) :
    Expr_Span f (bkNode k p) h = .ok (spanG (bkSpan k b), h) :=
  match k with
  | .B => Span_LineBlock hb f
  | .LP => Span_LParen hb f
  | .RP => Span_RParen hb f

theorem getComments_bk (k : BK) (hb : heapGet h.blocks p = .ok (blockG b ps)) :
    Expr_getComments (bkNode k p) h = .ok (comsG (bkComs k b)) :=
  match k with
  | .B => getComments_LineBlock hb
  | .LP => getComments_LParen hb
  | .RP => getComments_RParen hb

theorem setComments_bk (k : BK) (hb : heapGet h.blocks p = .ok (blockG b ps)) (c : Modfile.Comments) :
    Expr_setComments (bkNode k p) (comsG c) h =
      .ok { h with blocks := h.blocks.set (p.toNat - 1) (blockG (bkSet k c b) ps) } :=
  match k with
  | .B => setComments_LineBlock hb _
  | .LP => setComments_LParen hb _
  | .RP => setComments_RParen hb _

theorem block_op (hs : StepSpec F emb N P step) (hF : Shrinks F) (k : BK)
    (hb : heapGet h.blocks p = .ok (blockG b ps)) (hst : st.length ≤ N) (hP : P (bkComs k b)) :
    ∃ h', Run step emb N [bkNode k p] h st h' (F (bkSpan k b) (bkComs k b) st).2 ∧
      heapGet h'.blocks p = .ok (blockG (bkSet k (F (bkSpan k b) (bkComs k b) st).1 b) ps) ∧ h'.lines = h.lines :=
  ⟨_, Run.node hs hF (by intro q; cases k <;> simp [bkNode]) hst hP (Span_bk k hb) (getComments_bk k hb)
    (setComments_bk k hb _) rfl, heapGet_listSet_same _ hb, rfl⟩

theorem pass_simple (hs : StepSpec F emb N P step) (hF : Shrinks F) {e : Expr} {s : Modfile.Expr} (hr : RExpr h e s)
    (hsimple : ∀ p, e ≠ .LineBlock p) (hst : st.length ≤ N) (hP : P s.comments) :
    ∃ h', Run step emb N [e] h st h' (F s.span s.comments st).2 ∧
      RExpr h' e (s.setComments (F s.span s.comments st).1) ∧ h'.blocks = h.blocks := by
  cases e <;> cases s <;> simp only [RExpr] at hr
  · exact ⟨_, Run.node hs hF (by intro q; simp) hst hP (Span_CommentBlock hr) (getComments_CommentBlock hr)
      (setComments_CommentBlock hr _) rfl, heapGet_listSet_same _ hr, rfl⟩
  · exact ⟨_, Run.node hs hF (by intro q; simp) hst hP (Span_Line hr.1) (getComments_Line hr.1)
      (setComments_Line hr.1 _) rfl, ⟨heapGet_listSet_same _ hr.1, hr.2⟩, rfl⟩
  · exact absurd rfl (hsimple _)

/-! ### the lines of a block -/

theorem pass_lines (hs : StepSpec F emb N P step) (hF : Shrinks F) : ∀ {ps : List Int} {ls : List Modfile.Line} {h : Heap}
    {st : List Modfile.Comment}, RLines h ps ls → ps.Nodup → st.length ≤ N → (∀ l ∈ ls, P l.comments) →
    ∃ h', Run step emb N (ps.map Expr.Line) h st h' (travLines F ls st).2 ∧ RLines h' ps (travLines F ls st).1 ∧
      h'.blocks = h.blocks
  | [], [], h, st, _, _, _, _ => ⟨h, Run.nil h st, trivial, rfl⟩
  | p :: ps, l :: ls, h, st, hr, hnd, hst, hP => by
    obtain ⟨hp, hnd⟩ := List.nodup_cons.1 hnd
    obtain ⟨h1, r1, hl1, hb1⟩ := pass_simple hs hF (e := .Line p) (s := .line l) hr.1 (by intro q; simp) hst
      (hP l List.mem_cons_self)
    -- the other lines are statements of their own for the frame
    have hrest : RLines h1 ps ls := RLines_iff.2 ((RLines_iff.1 hr.2).imp fun q hq l' hl' =>
      r1.frame (.Line q) (.line l') hl' (by simp only [List.mem_singleton, stmtNodes]; rintro _ rfl e; cases e; exact hp hq))
    obtain ⟨h2, r2, hl2, hb2⟩ := pass_lines hs hF hrest hnd (Nat.le_trans r1.le hst)
      (fun l' hl' => hP l' (List.mem_cons_of_mem _ hl'))
    refine ⟨h2, r1.append r2, ⟨r2.frame _ _ hl1 ?_, hl2⟩, hb2.trans hb1⟩
    simp only [List.mem_map, stmtNodes, List.mem_singleton]
    rintro _ ⟨q, hq, rfl⟩ e
    cases e
    exact hp hq

theorem nodup_of_map_Line {ps : List Int} (h : (ps.map Expr.Line).Nodup) : ps.Nodup := by
  unfold List.Nodup at *
  rw [List.pairwise_map] at h
  exact h.imp (fun hab e => hab (by rw [e]))

theorem pass_block (hs : StepSpec F emb N P step) (hF : Shrinks F) (o : Ord) (hb : heapGet h.blocks p = .ok (blockG b ps))
    (hl : RLines h ps b.lines) (hnd : ps.Nodup) (hst : st.length ≤ N) (hP : StmtP P (.lineBlock b)) :
    ∃ h', Run step emb N (stmtNodes o (.LineBlock p) (.lineBlock b)) h st h' (travStmt o F (.lineBlock b) st).2 ∧
      RExpr h' (.LineBlock p) (travStmt o F (.lineBlock b) st).1 := by
  obtain ⟨hPb, hPl, hPr, hPls⟩ := hP
  cases o
  · -- preorder: x ( lines )
    obtain ⟨h1, r1, hb1, hl1⟩ := block_op hs hF .B hb hst hPb
    have hst1 := Nat.le_trans r1.le hst
    obtain ⟨h2, r2, hb2, hl2⟩ := block_op hs hF .LP hb1 hst1 hPl
    have hst2 := Nat.le_trans r2.le hst1
    obtain ⟨h3, r3, hrl3, hbk3⟩ := pass_lines hs hF ((RLines_congr (hl2.trans hl1)).2 hl) hnd hst2 hPls
    have hb3 := hbk3 ▸ hb2
    obtain ⟨h4, r4, hb4, hl4⟩ := block_op hs hF .RP hb3 (Nat.le_trans r3.le hst2) hPr
    refine ⟨h4, ?_, ps, hb4, (RLines_congr hl4).2 hrl3⟩
    simp only [stmtNodes, RLines_lineNodes hl]
    exact r1.append (r2.append (r3.append r4))
  · -- postorder backwards: x ) lines⁻¹ (
    obtain ⟨h1, r1, hb1, hl1⟩ := block_op hs hF .B hb hst hPb
    have hst1 := Nat.le_trans r1.le hst
    obtain ⟨h2, r2, hb2, hl2⟩ := block_op hs hF .RP hb1 hst1 hPr
    have hst2 := Nat.le_trans r2.le hst1
    obtain ⟨h3, r3, hrl3, hbk3⟩ := pass_lines hs hF (RLines_reverse ((RLines_congr (hl2.trans hl1)).2 hl))
      ((List.reverse_perm ps).nodup_iff.2 hnd) hst2 (fun l hl' => hPls l (List.mem_reverse.1 hl'))
    have hb3 := hbk3 ▸ hb2
    obtain ⟨h4, r4, hb4, hl4⟩ := block_op hs hF .LP hb3 (Nat.le_trans r3.le hst2) hPl
    refine ⟨h4, ?_, ps, hb4, ?_⟩
    · simp only [stmtNodes, lineNodes_reverse, RLines_lineNodes hl, ← List.map_reverse]
      exact r1.append (r2.append (r3.append r4))
    · have := RLines_reverse ((RLines_congr hl4).2 hrl3)
      rwa [List.reverse_reverse] at this
  · -- postorder: ( lines ) x
    obtain ⟨h1, r1, hb1, hl1⟩ := block_op hs hF .LP hb hst hPl
    have hst1 := Nat.le_trans r1.le hst
    obtain ⟨h2, r2, hrl2, hbk2⟩ := pass_lines hs hF ((RLines_congr hl1).2 hl) hnd hst1 hPls
    have hst2 := Nat.le_trans r2.le hst1
    have hb2 := hbk2 ▸ hb1
    obtain ⟨h3, r3, hb3, hl3⟩ := block_op hs hF .RP hb2 hst2 hPr
    obtain ⟨h4, r4, hb4, hl4⟩ := block_op hs hF .B hb3 (Nat.le_trans r3.le hst2) hPb
    refine ⟨h4, ?_, ps, hb4, (RLines_congr (hl4.trans hl3)).2 hrl2⟩
    simp only [stmtNodes, RLines_lineNodes hl]
    exact r1.append (r2.append (r3.append r4))

theorem pass_stmt (hs : StepSpec F emb N P step) (hF : Shrinks F) (o : Ord) {e : Expr} {s : Modfile.Expr}
    (hr : RExpr h e s) (hnd : (stmtNodes .pre e s).Nodup) (hst : st.length ≤ N) (hP : StmtP P s) :
    ∃ h', Run step emb N (stmtNodes o e s) h st h' (travStmt o F s st).2 ∧ RExpr h' e (travStmt o F s st).1 := by
  cases e <;> cases s <;> (try (simp only [RExpr] at hr; done))
  · obtain ⟨h1, r1, hr1, _⟩ := pass_simple hs hF hr (by intro q; simp) hst hP
    exact ⟨h1, r1, hr1⟩
  · obtain ⟨h1, r1, hr1, _⟩ := pass_simple hs hF hr (by intro q; simp) hst hP
    exact ⟨h1, r1, hr1⟩
  · obtain ⟨ps, hb, hl⟩ := hr
    refine pass_block hs hF o hb hl ?_ hst hP
    simp only [stmtNodes, RLines_lineNodes hl] at hnd
    exact nodup_of_map_Line (List.nodup_append.1 (List.nodup_cons.1 (List.nodup_cons.1 hnd).2).2).1

theorem Frame_stmts {X : List Expr} {h h' : Heap} (fr : Frame X h h') : ∀ {es : List Expr} {ss : List Modfile.Expr},
    RStmts h es ss → (∀ x ∈ X, x ∉ stmtsNodes .pre es ss) → RStmts h' es ss
  | [], [], _, _ => trivial
  | e :: es, s :: ss, hr, hx => by
    refine ⟨fr e s hr.1 (fun x hxX hm => hx x hxX ?_), Frame_stmts fr hr.2 (fun x hxX hm => hx x hxX ?_)⟩
    · simp only [stmtsNodes, List.mem_append]; exact Or.inl hm
    · simp only [stmtsNodes, List.mem_append]; exact Or.inr hm

theorem pass_stmts (hs : StepSpec F emb N P step) (hF : Shrinks F) (o : Ord) : ∀ {es : List Expr} {ss : List Modfile.Expr}
    {h : Heap} {st : List Modfile.Comment}, RStmts h es ss → (stmtsNodes .pre es ss).Nodup → st.length ≤ N →
    (∀ s ∈ ss, StmtP P s) →
    ∃ h', Run step emb N (stmtsNodes o es ss) h st h' (travStmts o F ss st).2 ∧ RStmts h' es (travStmts o F ss st).1
  | [], [], h, st, _, _, _, _ => ⟨h, Run.nil h st, trivial⟩
  | e :: es, s :: ss, h, st, hr, hnd, hst, hP => by
    obtain ⟨hnd1, hnd2, hdisj⟩ := List.nodup_append.1 hnd
    obtain ⟨h1, r1, hr1⟩ := pass_stmt hs hF o hr.1 hnd1 hst (hP s List.mem_cons_self)
    have hrest : RStmts h1 es ss := Frame_stmts r1.frame hr.2 fun x hx hm =>
      hdisj x ((mem_stmtNodes o e s x).1 hx) x hm rfl
    obtain ⟨h2, r2, hr2⟩ := pass_stmts hs hF o hrest hnd2 (Nat.le_trans r1.le hst)
      (fun s' hs' => hP s' (List.mem_cons_of_mem _ hs'))
    refine ⟨h2, r1.append r2, r2.frame e _ hr1 ?_, hr2⟩
    intro x hx hm
    rw [stmtNodes_travStmt] at hm
    exact hdisj x hm x ((mem_stmtsNodes o es ss x).1 hx) rfl

end generic

end ModVerif.TieFnParseComments
