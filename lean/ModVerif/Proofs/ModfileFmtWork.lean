/-
  go.work files: directive values of a `WorkFile`, the simulation relation between two `WorkFile.add` runs,
  well-formedness, and the error-free outcomes of one `WorkFile.add` step as a relation (`WorkOK`): the go.work
  counterparts of `Values`, `Sim`, `WellFormed` and `AddOK`.
-/
import ModVerif.Model.Modfile.Work
import ModVerif.Proofs.ModfileFmtDirLoop
import ModVerif.Proofs.ModfileParseTo
namespace ModVerif.Proofs.ModfileFmtWork
open ModVerif ModVerif.Modfile ModVerif.Proofs.ModfileFmtLex ModVerif.Proofs.ModfileFmtLine
open ModVerif.Proofs.ModfileFmtFix ModVerif.Proofs.ModfileFmtDir

/-- The directive values of a go.work file: everything `WorkFile.add` derives from the tokens, without line
    identities.  (`Use.modulePath` is never set by `ParseWork` and is not part of the values.) -/
structure WorkValues where
  go : Option Bytes
  toolchain : Option Bytes
  godebug : List (Bytes × Bytes)
  use : List Bytes
  replace : List (ModVersion × ModVersion)

def workValues (f : WorkFile) : WorkValues :=
  { go := f.go.map (·.version)
    toolchain := f.toolchain.map (·.name)
    godebug := f.godebug.map fun g => (g.key, g.value)
    use := f.use.map (·.path)
    replace := f.replace.map fun r => (r.old, r.new) }

structure WSim (st st' : WorkState) : Prop where
  vals : workValues st.file = workValues st'.file
  errs : st.errsRev = []
  errs' : st'.errsRev = []

/-- the well-formed go.work files of the property text -/
structure WorkWellFormed (f : WorkFile) : Prop where
  use : ∀ u ∈ f.use, PathOK u.path
  replace : ∀ r ∈ f.replace, PathOK r.old.path ∧ (r.old.version ≠ [] → VerOK r.old.version) ∧
    PathOK r.new.path ∧ (r.new.version ≠ [] → VerOK r.new.version)

theorem workValues_go_isSome {f g : WorkFile} (h : workValues f = workValues g) : f.go.isSome = g.go.isSome :=
  isSome_of_map_eq (congrArg WorkValues.go h)

theorem workValues_toolchain_isSome {f g : WorkFile} (h : workValues f = workValues g) :
    f.toolchain.isSome = g.toolchain.isSome :=
  isSome_of_map_eq (congrArg WorkValues.toolchain h)

theorem work_verb_ne :
    (B "toolchain" == B "go") = false ∧
    (B "godebug" == B "go") = false ∧ (B "godebug" == B "toolchain") = false ∧
    (B "use" == B "go") = false ∧ (B "use" == B "toolchain") = false ∧ (B "use" == B "godebug") = false ∧
    (B "replace" == B "go") = false ∧ (B "replace" == B "toolchain") = false ∧
    (B "replace" == B "godebug") = false ∧ (B "replace" == B "use") = false := by decide +kernel

structure WStepOK (st st1 : WorkState) (verb : Bytes) (args1 : List Bytes) (fix : Option Fixer) : Prop where
  errs : st.errsRev = []
  replay : ∀ (st' : WorkState) (l' : Line), WSim st st' → l'.comments.suffix = [] →
    ∃ st1', WorkFile.add st' l' verb args1 fix = (st1', args1) ∧ WSim st1 st1'

theorem workValues_eq_iff (f g : WorkFile) : workValues f = workValues g ↔
    f.go.map (·.version) = g.go.map (·.version) ∧
    f.toolchain.map (·.name) = g.toolchain.map (·.name) ∧
    f.godebug.map (fun x => (x.key, x.value)) = g.godebug.map (fun x => (x.key, x.value)) ∧
    f.use.map (·.path) = g.use.map (·.path) ∧
    f.replace.map (fun r => (r.old, r.new)) = g.replace.map (fun r => (r.old, r.new)) := by
  simp [workValues]

theorem work_err_ne_nil (st : WorkState) (p : Position) (k : RuleErrKind) : (st.err p k).errsRev ≠ [] := by
  simp [WorkState.err]

/-- the go.work counterpart of `ModfileFmtDir.AddOK` -/
inductive WorkOK (st : WorkState) (line : Line) (fix : Option Fixer) : Bytes → List Bytes → WorkFile → List Bytes → Prop
  | go (a : Bytes) : st.file.go.isSome = false → goVersionRE a = true →
      WorkOK st line fix (B "go") [a] { st.file with go := some { version := a, lineId := line.id } } [a]
  | toolchain (a : Bytes) : st.file.toolchain.isSome = false → toolchainRE a = true →
      WorkOK st line fix (B "toolchain") [a] { st.file with toolchain := some { name := a, lineId := line.id } } [a]
  | godebug (args : List Bytes) (k v : Bytes) : addGodebug args = some (k, v) →
      WorkOK st line fix (B "godebug") args
        { st.file with godebug := st.file.godebug ++ [{ key := k, value := v, lineId := line.id }] } args
  | use (a s a' : Bytes) : parseString a = some (s, a') →
      WorkOK st line fix (B "use") [a] { st.file with use := st.file.use ++ [{ path := s, lineId := line.id }] } [a']
  | replace (args args' : List Bytes) (r : Replace) : parseReplace line.id args fix = (args', .ok r) →
      WorkOK st line fix (B "replace") args { st.file with replace := st.file.replace ++ [r] } args'

theorem workAdd_strict (st : WorkState) (line : Line) (verb : Bytes) (args : List Bytes) (fix : Option Fixer) :
    (WorkOK st line fix verb args (WorkFile.add st line verb args fix).1.file (WorkFile.add st line verb args fix).2 ∧
      (WorkFile.add st line verb args fix).1.errsRev = st.errsRev) ∨
    (WorkFile.add st line verb args fix).1.errsRev ≠ [] := by
  fun_cases WorkFile.add st line verb args fix
  all_goals first
    | (right; exact work_err_ne_nil _ _ _)
    | skip
  case case3 h1 h2 a h3 =>
    obtain rfl := eq_of_beq h1; exact .inl ⟨.go a (by simpa using h2) (by simpa using h3), rfl⟩
  case case7 h1 h2 a h3 =>
    obtain rfl := eq_of_beq h1; exact .inl ⟨.toolchain a (by simpa using h2) (by simpa using h3), rfl⟩
  case case10 h1 k v h3 => obtain rfl := eq_of_beq h1; exact .inl ⟨.godebug _ k v h3, rfl⟩
  case case12 h1 a s a' h3 => obtain rfl := eq_of_beq h1; exact .inl ⟨.use a s a' h3, rfl⟩
  case case15 h1 args' r h3 => obtain rfl := eq_of_beq h1; exact .inl ⟨.replace _ args' r h3, rfl⟩

theorem workAdd_of_ok {st : WorkState} {line : Line} {fix : Option Fixer} {verb : Bytes} {args args1 : List Bytes}
    {f1 : WorkFile} (h : WorkOK st line fix verb args f1 args1) :
    WorkFile.add st line verb args fix = ({ st with file := f1 }, args1) := by
  obtain ⟨v1, v2, v3, v4, v5, v6, v7, v8, v9, v10⟩ := work_verb_ne
  unfold WorkFile.add
  cases h with
  | go a h1 h2 => simp only [beq_self_eq_true, if_true, h1, h2, Bool.false_eq_true, if_false, Bool.not_true]
  | toolchain a h1 h2 => simp only [beq_self_eq_true, if_true, v1, h1, h2, Bool.false_eq_true, if_false, Bool.not_true]
  | godebug args k v h1 => simp only [beq_self_eq_true, if_true, v2, v3, h1, Bool.false_eq_true, if_false]
  | use a s a' h1 => simp only [beq_self_eq_true, if_true, v4, v5, v6, h1, Bool.false_eq_true, if_false]
  | replace args args' r h1 => simp only [beq_self_eq_true, if_true, v7, v8, v9, v10, h1, Bool.false_eq_true, if_false]

theorem workValues_go (f : WorkFile) (g : Go) :
    workValues { f with go := some g } = { workValues f with go := some g.version } := rfl

theorem workValues_toolchain (f : WorkFile) (t : Toolchain) :
    workValues { f with toolchain := some t } = { workValues f with toolchain := some t.name } := rfl

theorem workValues_godebug (f : WorkFile) (g : Godebug) :
    workValues { f with godebug := f.godebug ++ [g] } =
      { workValues f with godebug := (workValues f).godebug ++ [(g.key, g.value)] } := by
  simp [workValues]

theorem workValues_use (f : WorkFile) (u : Use) :
    workValues { f with use := f.use ++ [u] } = { workValues f with use := (workValues f).use ++ [u.path] } := by
  simp [workValues]

theorem workValues_replace (f : WorkFile) (r : Replace) :
    workValues { f with replace := f.replace ++ [r] } =
      { workValues f with replace := (workValues f).replace ++ [(r.old, r.new)] } := by
  simp [workValues]

end ModVerif.Proofs.ModfileFmtWork

/-
  go.work files: a decidable form of `WorkWellFormed` for concrete instances, and a kernel-evaluated non-vacuity instance.
-/
namespace ModVerif.Proofs.ModfileFmtWork
open ModVerif ModVerif.Modfile ModVerif.Proofs.ModfileFmtLex ModVerif.Proofs.ModfileFmtLine
open ModVerif.Proofs.ModfileFmtFix ModVerif.Proofs.ModfileFmtTree ModVerif.Proofs.ModfileFmtParse
open ModVerif.Proofs.ModfileFmtMain ModVerif.Proofs.ModfileFmtDir

theorem workValues_syn (f : WorkFile) (s : FileSyntax) : workValues { f with syn := s } = workValues f := rfl

theorem workWellFormed_syn {f : WorkFile} (s : FileSyntax) (h : WorkWellFormed { f with syn := s }) :
    WorkWellFormed f :=
  ⟨h.use, h.replace⟩

def workWellFormedB (f : WorkFile) : Bool :=
  f.use.all (fun u => pathOKB u.path) &&
  f.replace.all (fun r => pathOKB r.old.path && (r.old.version.isEmpty || Semver.isValid r.old.version) &&
    pathOKB r.new.path && (r.new.version.isEmpty || Semver.isValid r.new.version))

theorem workWellFormedB_sound {f : WorkFile} (h : workWellFormedB f = true) : WorkWellFormed f := by
  simp only [workWellFormedB, Bool.and_eq_true, List.all_eq_true, Bool.or_eq_true] at h
  obtain ⟨h1, h2⟩ := h
  refine ⟨?_, ?_⟩
  · intro u hu; exact pathOKB_sound (h1 u hu)
  · intro r hr
    obtain ⟨⟨⟨a, b⟩, c⟩, d⟩ := h2 r hr
    refine ⟨pathOKB_sound a, ?_, pathOKB_sound c, ?_⟩
    · intro hne; rcases b with b | b
      · exact absurd (by simpa using b) hne
      · exact b
    · intro hne; rcases d with d | d
      · exact absurd (by simpa using d) hne
      · exact d

/-- non-vacuity (no fixer): a go.work text with `go`, `toolchain`, `godebug`, a `use` block with a quoted
    path and a `replace` with a non-canonical version is accepted as a well-formed file, and it has no
    end-of-line comments -/
example :
    let x := B "go 1.21\ntoolchain go1.21.0\ngodebug a=b\nuse (\n\t\"./x y\"\n\t\"./z\"\n\t./w\n)\nreplace a.b/c v1.2 => \"../c\"\n"
    (match parseWork (B "go.work") x none with
     | .ok f => workWellFormedB f
     | .error _ => false) = true ∧ ModfileFmtMain.eolComments x = [] := by decide +kernel

end ModVerif.Proofs.ModfileFmtWork
