/-
  the statement loop of the inlined generic `removeDups`
  (`File_removeDups_loop7` / `_loop8`, `WorkFile_removeDups_loop3` / `_loop4`) against the model's `dropKilled`,
  on a represented statement list (`FnEditRep.RStmts`).  The loop overwrites the `Line` list of every block
  (also of the blocks it drops, which become garbage); everything else of the heap is kept.
-/
import ModVerif.Proofs.TieFnEditSortA
namespace ModVerif.Tie.FnEditSortB
open ModVerif ModVerif.GoRt ModVerif.Generated.Edit ModVerif.Tie.FnEditRep ModVerif.Tie.FnEditLoop ModVerif.Tie.FnEditSortA
open ModVerif.Modfile.Edit (treeIds dropKilled)

/-- fuel measure of a statement list: statements plus lines inside blocks -/
def nodes : List Modfile.Expr → Nat
  | [] => 0
  | .lineBlock b :: xs => b.lines.length + 1 + nodes xs
  | _ :: xs => 1 + nodes xs

theorem length_le_nodes : ∀ ss : List Modfile.Expr, ss.length ≤ nodes ss
  | [] => Nat.le_refl _
  | s :: ss => by
    have := length_le_nodes ss
    cases s <;> simp only [nodes, List.length_cons] <;> omega

theorem RLines.blocks {h : Heap} (bl : List LineBlock) : ∀ {ps : List Int} {ls : List Modfile.Line},
    RLines h ps ls → RLines { h with blocks := bl } ps ls :=
  RLines.mono (h := h) (h' := { h with blocks := bl }) (fun _ _ x => x)

theorem RLines.ofBlocks {h : Heap} {bl : List LineBlock} : ∀ {ps : List Int} {ls : List Modfile.Line},
    RLines { h with blocks := bl } ps ls → RLines h ps ls :=
  RLines.mono (h := { h with blocks := bl }) (h' := h) (fun _ _ x => x)

theorem RStmts.blocksFrame {h : Heap} {bl : List LineBlock} : ∀ {es : List Expr} {ss : List Modfile.Expr},
    RStmts h es ss → (∀ p ∈ blockPtrs es, heapGet bl p = heapGet h.blocks p) → RStmts { h with blocks := bl } es ss
  | [], [], _, _ => trivial
  | e :: es, s :: ss, r, hb => by
    have r1 := r.1
    cases e <;> cases s <;> simp only [RExpr] at r1 <;> try exact r1.elim
    · exact ⟨r1, RStmts.blocksFrame r.2 (fun p hp => hb p (by simpa [blockPtrs] using hp))⟩
    · exact ⟨r1, RStmts.blocksFrame r.2 (fun p hp => hb p (by simpa [blockPtrs] using hp))⟩
    · obtain ⟨ps, r2, r3⟩ := r1
      refine ⟨⟨ps, ?_, RLines.blocks bl r3⟩, RStmts.blocksFrame r.2 (fun p hp => hb p (by simp [blockPtrs, hp]))⟩
      show heapGet bl _ = _
      rw [hb _ (by simp [blockPtrs])]; exact r2
  | [], _ :: _, r, _ => r.elim
  | _ :: _, [], r, _ => r.elim

theorem filter_ptrs (km : List (Int × Bool)) (kl : List Nat) (hK : KillRel km kl) (ls : List Modfile.Line) :
    (ls.map fun l => (l.id : Int)).filter (fun x => !(mapGet km x false).1) =
      (ls.filter fun l => !kl.contains l.id).map fun l => (l.id : Int) := by
  induction ls with
  | nil => rfl
  | cons l ls ih =>
    simp only [List.map_cons, List.filter_cons, hK l.id, ih]
    split <;> rfl

theorem blockG_setLine (b : Modfile.LineBlock) (ps qs : List Int) (ls : List Modfile.Line) :
    ({ (blockG b ps) with Line := qs } : LineBlock) = blockG { b with lines := ls } qs := rfl

theorem heapGet_set_other' {α : Type} {l : List α} {p q : Int} {w : α} (v : α) (h : heapGet l p = .ok w) (hq : q ≠ p) :
    heapGet (l.set (p.toNat - 1) v) q = heapGet l q := heapGet_listSet_other v h hq

theorem blockPtrs_cons_block (p : Int) (es : List Expr) : blockPtrs (Expr.LineBlock p :: es) = p :: blockPtrs es := rfl
theorem blockPtrs_cons_line (p : Int) (es : List Expr) : blockPtrs (Expr.Line p :: es) = blockPtrs es := rfl
theorem blockPtrs_cons_cb (p : Int) (es : List Expr) : blockPtrs (Expr.CommentBlock p :: es) = blockPtrs es := rfl
theorem blockPtrs_nil : blockPtrs [] = [] := rfl

/-- **loop 7 (with loop 8) of `File.removeDups` is `dropKilled`** -/
theorem loop7_spec (syn : Int) (km : List (Int × Bool)) (kl : List Nat) (hK : KillRel km kl) :
    ∀ (rest : List Expr) (ss : List Modfile.Expr) (pre rx : List Expr) (ri : Int) (fuel : Nat) (h : Heap) (acc : List Expr),
      rx = pre ++ rest → ri = (pre.length : Int) → nodes ss < fuel → RStmts h rest ss → (blockPtrs rest).Nodup →
      ∃ bl' es', File_removeDups_loop7 rx syn km fuel ri h acc = .ok (len rx, { h with blocks := bl' }, acc ++ es') ∧
        bl'.length = h.blocks.length ∧ (∀ p, p ∉ blockPtrs rest → heapGet bl' p = heapGet h.blocks p) ∧
        RStmts { h with blocks := bl' } es' (dropKilled kl ss) ∧ (blockPtrs es').Sublist (blockPtrs rest)
  | [], [], pre, rx, ri, fuel + 1, h, acc, hrx, hri, _, _, _ => by
    subst hrx hri
    have := not_lt_len_end pre
    refine ⟨h.blocks, [], ?_, rfl, fun _ _ => rfl, trivial, List.Sublist.refl _⟩
    simp [File_removeDups_loop7, pure, Except.pure, len_eq]
  | e :: rest, s :: ss, pre, rx, ri, fuel + 1, h, acc, hrx, hri, hf, r, hnd => by
    have ih := loop7_spec syn km kl hK rest ss (pre ++ [e]) rx (ri + 1) fuel
    subst hrx hri
    have hrx' : pre ++ e :: rest = pre ++ [e] ++ rest := by simp
    have hri' : (pre.length : Int) + 1 = ((pre ++ [e]).length : Int) := by simp
    have r1 := r.1
    cases e <;> cases s <;> simp only [RExpr] at r1 <;> try exact r1.elim
    · -- comment block
      rename_i p c
      have hf' : nodes ss < fuel := by simp only [nodes] at hf; omega
      obtain ⟨bl', es', e1, e2, e3, e4, e5⟩ := ih h (acc ++ [Expr.CommentBlock p]) hrx' hri' hf' r.2 hnd
      refine ⟨bl', Expr.CommentBlock p :: es', ?_, e2, e3, ⟨r1, e4⟩, e5⟩
      simp only [File_removeDups_loop7, lt_len_mid, decide_true, if_true, idxL_mid, bind, Except.bind, e1]
      simp
    · -- line
      rename_i p l
      have hf' : nodes ss < fuel := by simp only [nodes] at hf; omega
      have hk : (mapGet km p false).1 = kl.contains l.id := by rw [r1.2]; exact hK l.id
      simp only [File_removeDups_loop7, lt_len_mid, decide_true, if_true, idxL_mid, bind, Except.bind, hk]
      cases hc : kl.contains l.id
      · obtain ⟨bl', es', e1, e2, e3, e4, e5⟩ := ih h (acc ++ [Expr.Line p]) hrx' hri' hf' r.2 hnd
        refine ⟨bl', Expr.Line p :: es', ?_, e2, e3, ?_, e5⟩
        · simp only [Bool.false_eq_true, if_false, e1]; simp
        · simp only [dropKilled, hc, Bool.false_eq_true, if_false]
          exact ⟨RLine.mono (h := h) (h' := { h with blocks := bl' }) (fun _ _ x => x) r1, e4⟩
      · obtain ⟨bl', es', e1, e2, e3, e4, e5⟩ := ih h acc hrx' hri' hf' r.2 hnd
        refine ⟨bl', es', ?_, e2, e3, ?_, e5⟩
        · simp only [if_true, e1]
        · simp only [dropKilled, hc, if_true]; exact e4
    · -- block
      rename_i p b
      obtain ⟨ps, r2, r3⟩ := r1
      have hf' : nodes ss < fuel := by simp only [nodes] at hf; omega
      have hfl : b.lines.length < fuel := by simp only [nodes] at hf; omega
      rw [blockPtrs_cons_block, List.nodup_cons] at hnd
      have hps := r3.ptrs
      -- the inner filter loop
      have hin : File_removeDups_loop8 ps km p h fuel 0 [] =
          .ok (len ps, (b.lines.filter fun l => !kl.contains l.id).map fun l => (l.id : Int)) := by
        rw [loop8_eq]
        have := filterLoopG_spec (fun x => pure (!(mapGet km x false).1)) (fun x => !(mapGet km x false).1)
          ps fuel (by rw [← r3.length] at hfl; exact hfl) (fun _ _ => rfl)
        rw [this, hps, filter_ptrs km kl hK]
      obtain ⟨lines', hl'⟩ : ∃ x, x = b.lines.filter fun l => !kl.contains l.id := ⟨_, rfl⟩
      obtain ⟨ps', hp'⟩ : ∃ x, x = lines'.map fun l => (l.id : Int) := ⟨_, rfl⟩
      rw [← hl', ← hp'] at hin
      obtain ⟨bl1, hb1⟩ : ∃ x, x = h.blocks.set (p.toNat - 1) (blockG { b with lines := lines' } ps') := ⟨_, rfl⟩
      have hset : heapSet h.blocks p ({ (blockG b ps) with Line := ps' } : LineBlock) = .ok bl1 := by
        rw [hb1]; exact heapSet_of_get _ r2
      have hg1 : heapGet bl1 p = .ok (blockG { b with lines := lines' } ps') := by
        rw [hb1]; exact heapGet_listSet_same _ r2
      have rrest : RStmts { h with blocks := bl1 } rest ss := by
        refine RStmts.blocksFrame r.2 (fun q hq => ?_)
        rw [hb1]
        exact heapGet_listSet_other _ r2 (fun e => hnd.1 (e ▸ hq))
      obtain ⟨bl', es', e1, e2, e3, e4, e5⟩ := ih { h with blocks := bl1 }
        (if lines'.isEmpty then acc else acc ++ [Expr.LineBlock p]) hrx' hri' hf' rrest hnd.2
      have hlen : (decide (len ps' = 0)) = lines'.isEmpty := by
        rw [hp']
        cases lines' with
        | nil => rfl
        | cons a t => simp [len_eq, -len_cons]; omega
      have hgp : heapGet bl' p = .ok (blockG { b with lines := lines' } ps') := by rw [e3 p hnd.1]; exact hg1
      have hlr : RLines h ps' lines' := by rw [hp', hl']; exact RLines_filter r3 _
      refine ⟨bl', if lines'.isEmpty then es' else Expr.LineBlock p :: es', ?_, by rw [e2, hb1]; simp, ?_, ?_, ?_⟩
      · simp only [File_removeDups_loop7, lt_len_mid, decide_true, if_true, idxL_mid, bind, Except.bind, r2, blockG_Line,
          hin, hset, hlen]
        cases hE : lines'.isEmpty
        · simp only [hE, Bool.false_eq_true, if_false] at e1 ⊢
          rw [e1]; simp
        · simp only [hE, if_true] at e1 ⊢
          rw [e1]
      · intro q hq
        rw [blockPtrs_cons_block, List.mem_cons, not_or] at hq
        rw [e3 q hq.2]
        show heapGet bl1 q = _
        rw [hb1]
        exact heapGet_listSet_other _ r2 hq.1
      · show RStmts _ _ (dropKilled kl (Modfile.Expr.lineBlock b :: ss))
        simp only [dropKilled, ← hl']
        cases hE : lines'.isEmpty
        · simp only [Bool.false_eq_true, if_false]
          exact ⟨⟨ps', hgp, RLines.blocks bl' hlr⟩, e4⟩
        · simp only [if_true]; exact e4
      · rw [blockPtrs_cons_block]
        cases hE : lines'.isEmpty
        · simp only [Bool.false_eq_true, if_false, blockPtrs_cons_block]
          exact List.Sublist.cons_cons _ e5
        · simp only [if_true]; exact List.Sublist.cons _ e5
  | [], _ :: _, _, _, _, _, _, _, _, _, _, r, _ => r.elim
  | _ :: _, [], _, _, _, _, _, _, _, _, _, r, _ => r.elim
  | _, _, _, _, _, 0, _, _, _, _, hf, _, _ => by cases hf

end ModVerif.Tie.FnEditSortB
