/-
  The bulk setters `File.SetRequire` / `File.SetRequireSeparateIndirect` of the regenerated edit operations
  (Generated/FnEdit.lean): the request list (`ReqArgs`: the `[]*Require` argument as pointers to allocated `Require` objects ↔ the model's `List Want`), the local
  map `need` of SetRequire as the embedding `needG` of the model's association list, loop 1 of SetRequire = `needMap true`.
-/
import ModVerif.Proofs.TieFnEditRep
import ModVerif.Proofs.TieFnEditTreeA
namespace ModVerif.Tie.FnEditSetA
open ModVerif ModVerif.GoRt ModVerif.Generated.Edit ModVerif.Tie.FnEditRep ModVerif.Tie.FnEditLoop
open ModVerif.Modfile.Edit (Want needMap)

theorem cursor_succ {α : Type} (pre : List α) (x : α) : ((pre.length : Int) + 1) = ((pre ++ [x]).length : Int) := by
  simp

/-- the `Syntax` of the argument is not looked at -/
def ReqArg (objs : List Require) (p : Int) (w : Want) : Prop :=
  ∃ o, heapGet objs p = .ok o ∧ o.Mod.Path = w.path ∧ o.Mod.Version = w.vers ∧ o.Indirect = w.indirect

def ReqArgs (objs : List Require) : List Int → List Want → Prop
  | [], [] => True
  | p :: ps, w :: ws => ReqArg objs p w ∧ ReqArgs objs ps ws
  | _, _ => False

theorem ReqArgs.length {objs : List Require} : ∀ {ps : List Int} {ws : List Want}, ReqArgs objs ps ws → ps.length = ws.length
  | [], [], _ => rfl
  | _ :: _, _ :: _, r => by simp [ReqArgs.length r.2]
  | [], _ :: _, r => r.elim
  | _ :: _, [], r => r.elim

/-! ### the map `need` of SetRequire -/

def elemG (w : Want) : Bytes × ReqElem := (w.path, { version := w.vers, indirect := w.indirect })

/-- the generated code's map, in insertion order -/
def needG (acc : List Want) : List (Bytes × ReqElem) := acc.map elemG

theorem find_needG (acc : List Want) (k : Bytes) :
    (needG acc).find? (fun p => decide (p.1 = k)) = (acc.find? (·.path == k)).map elemG := by
  induction acc with
  | nil => rfl
  | cons a t ih =>
    simp only [needG, List.map_cons, List.find?_cons] at ih ⊢
    by_cases e : a.path = k
    · simp [elemG, e]
    · have : (a.path == k) = false := by simpa using e
      simp only [elemG, e, decide_false, this]
      exact ih

theorem mapGet_needG (acc : List Want) (k : Bytes) (z : ReqElem) :
    mapGet (needG acc) k z = match acc.find? (·.path == k) with
      | some w => (({ version := w.vers, indirect := w.indirect } : ReqElem), true)
      | none => (z, false) := by
  unfold mapGet
  rw [find_needG]
  cases acc.find? (·.path == k) <;> rfl

theorem mapSet_needG (acc : List Want) (w : Want) :
    mapSet (needG acc) w.path ({ version := w.vers, indirect := w.indirect } : ReqElem) =
      needG (match acc.find? (·.path == w.path) with
        | some _ => acc.map fun a => if a.path == w.path then w else a
        | none => acc ++ [w]) := by
  unfold mapSet
  rw [find_needG]
  cases h : acc.find? (·.path == w.path) with
  | none => simp [needG, elemG]
  | some v =>
    simp only [Option.map_some, Option.isSome_some, if_true, needG, List.map_map]
    apply List.map_congr_left
    intro a _
    by_cases e : a.path = w.path <;> simp [elemG, e]

theorem mapDelete_needG (acc : List Want) (k : Bytes) :
    mapDelete (needG acc) k = needG (acc.filter (·.path != k)) := by
  unfold mapDelete needG
  rw [List.filter_map]
  congr 1
  apply List.filter_congr
  intro a _
  by_cases e : a.path = k <;> simp [elemG, Function.comp, e]

theorem needG_length (acc : List Want) : (needG acc).length = acc.length := by simp [needG]

/-! ### loop 1 of SetRequire: `needMap true` -/

/-- **loop 1 of `File.SetRequire`** (rule.go:1210: `need[r.Mod.Path] = elem{…}` over the request, panic on two versions of one
    path) is the model's `needMap true` -/
theorem loop1_sim (isPrint : Int → Bool) (quote : Bytes → Bytes) (h : Heap) :
    ∀ (rest : List Want) (ps pre rx : List Int) (ri : Int) (acc : List Want) (fuel : Nat),
      rx = pre ++ ps → ri = (pre.length : Int) → ReqArgs h.requires ps rest → rest.length < fuel →
      File_SetRequire_loop1 isPrint quote rx h fuel ri (needG acc) =
        match needMap true rest acc with
        | .ok need => .ok (len rx, needG need)
        | .error _ => .error .panic
  | [], [], pre, rx, ri, acc, fuel + 1, hrx, hri, _, _ => by
    subst hrx hri
    have := not_lt_len_end pre
    simp [File_SetRequire_loop1, pure, Except.pure, needMap, len_eq]
  | w :: ws, p :: ps, pre, rx, ri, acc, fuel + 1, hrx, hri, hr, hf => by
    obtain ⟨⟨o, ho, h1, h2, h3⟩, hr'⟩ := hr
    have ih := fun acc' => loop1_sim isPrint quote h ws ps (pre ++ [p]) rx (ri + 1) acc' fuel (by simp [hrx])
      (by simp [hri]) hr' (by simp at hf; omega)
    subst hrx hri
    simp only [File_SetRequire_loop1, lt_len_mid, decide_true, if_true, idxL_mid, bind, Except.bind, ho, h1, h2, h3,
      mapGet_needG, pure, Except.pure]
    unfold needMap
    cases hfind : acc.find? (·.path == w.path) with
    | none =>
      simp only [Bool.false_eq_true, if_false]
      rw [mapSet_needG, hfind]
      exact ih _
    | some prev =>
      simp only [if_true, Bool.true_and]
      by_cases e : prev.vers = w.vers
      · have e' : (prev.vers != w.vers) = false := by simp [e]
        simp only [e, decide_true, Bool.not_true, Bool.false_eq_true, if_false]
        rw [mapSet_needG, hfind]
        have := ih (List.map (fun a => if (a.path == w.path) = true then w else a) acc)
        simpa [e] using this
      · have e' : (prev.vers != w.vers) = true := by simp [e]
        simp only [e, decide_false, Bool.not_false, if_true, e']
        rfl
  | [], _ :: _, _, _, _, _, _, _, _, hr, _ => hr.elim
  | _ :: _, [], _, _, _, _, _, _, _, hr, _ => hr.elim

protected theorem idxL_cursor {α : Type} (pre : List α) (x : α) (rest : List α) :
    idxL (pre ++ x :: rest) (pre.length : Int) = .ok x := idxL_mid pre x rest

protected theorem lt_len_cursor {α : Type} (pre : List α) (x : α) (rest : List α) :
    ((pre.length : Int) < len (pre ++ x :: rest)) := lt_len_mid pre x rest

protected theorem not_lt_len_end {α : Type} (pre : List α) : ¬ ((pre.length : Int) < len (pre ++ ([] : List α))) :=
  FnEditLoop.not_lt_len_end pre

end ModVerif.Tie.FnEditSetA
