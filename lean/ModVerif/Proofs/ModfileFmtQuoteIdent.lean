/-
  An argument that `AutoQuote` leaves unquoted is ONE identifier token (or a lone
  bracket / comma).  Links `Utf8.runes` (skip-counter recursion) to the `decodeRune`/`drop` recursion of
  `IdentBody`, and `GoStrings.contains` to prefix tests at every offset.
-/
import ModVerif.Model.Modfile.Rule
import ModVerif.Proofs.ModfileFmtQuoteTable
namespace ModVerif.Proofs.ModfileFmtQuote
open ModVerif ModVerif.Modfile ModVerif.Proofs.ModfileLex ModVerif.Proofs.ModfileFmtUtf8
open ModVerif.Proofs.ModfileFmtTok ModVerif.Proofs.ModfileFmtLex

export ModVerif.Utf8 (runes_step)

example : Utf8.runes [97, 98] = (Utf8.decodeRune [97, 98]).1 :: Utf8.runes ([97, 98].drop (Utf8.decodeRune [97, 98]).2) :=
  runes_step _ (by simp)

theorem isPrefixOfB_nil_false {sub : Bytes} (h : sub ≠ []) : isPrefixOfB sub [] = false := by
  cases sub with
  | nil => exact absurd rfl h
  | cons a as => rfl

theorem indexAux_none {sub : Bytes} : ∀ (s : Bytes) (i : Nat), GoStrings.indexAux sub s i = none →
    ∀ k, isPrefixOfB sub (s.drop k) = false := by
  intro s
  induction s with
  | nil =>
    intro i h k
    simp only [GoStrings.indexAux] at h
    split at h
    · cases h
    · rename_i he
      simp only [List.drop_nil]
      exact isPrefixOfB_nil_false (by intro hh; subst hh; simp at he)
  | cons c rest ih =>
    intro i h k
    simp only [GoStrings.indexAux] at h
    split at h
    · cases h
    · rename_i hp
      cases k with
      | zero => simpa using hp
      | succ n => simp only [List.drop_succ_cons]; exact ih (i + 1) h n

theorem contains_false {s sub : Bytes} (h : GoStrings.contains s sub = false) :
    ∀ k, isPrefixOfB sub (s.drop k) = false := by
  apply indexAux_none s 0
  unfold GoStrings.contains GoStrings.index at h
  cases hh : GoStrings.indexAux sub s 0 with
  | none => rfl
  | some v => rw [hh] at h; cases h

example : GoStrings.contains [97, 47, 98] [47, 47] = false := by decide

theorem identBody_of_runes : ∀ (n : Nat) (s : Bytes), s.length ≤ n →
    (∀ r ∈ Utf8.runes s, isIdent r = true) →
    (∀ k, isPrefixOfB [47, 47] (s.drop k) = false) →
    (∀ k, isPrefixOfB [47, 42] (s.drop k) = false) → IdentBody s := by
  intro n
  induction n with
  | zero =>
    intro s hl _ _ _
    have : s = [] := List.eq_nil_of_length_eq_zero (by omega)
    subst this; exact .nil
  | succ n ih =>
    intro s hl hr h1 h2
    by_cases hs : s = []
    · subst hs; exact .nil
    · have hw := decodeRune_width s hs
      rw [runes_step s hs] at hr
      refine .cons hs (hr _ (by simp)) (by simpa using h1 0) (by simpa using h2 0) ?_
      apply ih
      · simp only [List.length_drop]; omega
      · intro r hmem; exact hr r (by simp [hmem])
      · intro k; simpa [List.drop_drop, Nat.add_comm] using h1 ((Utf8.decodeRune s).2 + k)
      · intro k; simpa [List.drop_drop, Nat.add_comm] using h2 ((Utf8.decodeRune s).2 + k)

example : (∀ r ∈ Utf8.runes [97], isIdent r = true) := by decide

theorem mustQuoteRunes_false {len : Nat} : ∀ (rs : List Nat), mustQuoteRunes len rs = false →
    ∀ r ∈ rs, mustQuoteAlways.contains r = false ∧ (mustQuoteIfLong.contains r = true → len ≤ 1) ∧
      UnicodePrint.isPrint r = true := by
  intro rs
  induction rs with
  | nil => intro _ r hr; simp at hr
  | cons a rest ih =>
    intro h r hr
    unfold mustQuoteRunes at h
    split at h
    · cases h
    · rename_i ha
      split at h
      · rename_i hl
        split at h
        · cases h
        · rename_i hlen
          rcases List.mem_cons.1 hr with rfl | hmem
          · refine ⟨by simpa using ha, fun _ => by omega, ?_⟩
            revert hl
            simp only [mustQuoteIfLong, List.contains_cons, List.contains_nil, Bool.or_false, Bool.or_eq_true, beq_iff_eq]
            intro hl
            rcases hl with h | h | h | h | h | h | h <;> subst h <;> decide
          · exact ih h r hmem
      · rename_i hl
        split at h
        · cases h
        · rename_i hp
          rcases List.mem_cons.1 hr with rfl | hmem
          · exact ⟨by simpa using ha, fun hh => absurd hh hl, by simpa using hp⟩
          · exact ih h r hmem

example : mustQuoteRunes 2 [97, 98] = false := by decide

theorem mustQuote_false {s : Bytes} (h : mustQuote s = false) :
    mustQuoteRunes s.length (Utf8.runes s) = false ∧ s ≠ [] ∧
    GoStrings.contains s [47, 47] = false ∧ GoStrings.contains s [47, 42] = false := by
  unfold mustQuote at h
  simp only [Bool.or_eq_false_iff] at h
  obtain ⟨⟨⟨h1, h2⟩, h3⟩, h4⟩ := h
  refine ⟨h1, ?_, h3, h4⟩
  intro hs; subst hs; simp at h2

example : mustQuote [97, 47, 98] = false := by decide

theorem autoQuote_unquoted_ident {s : Bytes} (h : mustQuote s = false) (hp : ∀ c ∈ punctBytes, s ≠ [c]) :
    TokOK .ident s := by
  obtain ⟨hr, hne, h1, h2⟩ := mustQuote_false h
  have hall := mustQuoteRunes_false _ hr
  have hid : ∀ r ∈ Utf8.runes s, isIdent r = true := by
    intro r hmem
    obtain ⟨ha, hl, hpr⟩ := hall r hmem
    apply isIdent_of_print hpr
    intro hx
    simp only [List.mem_cons, List.not_mem_nil, or_false] at hx
    rcases hx with hx | hx
    · subst hx; revert ha; decide
    · have hlong : mustQuoteIfLong.contains r = true := by
        rcases hx with h | h | h | h | h | h | h <;> subst h <;> decide
      have hlen := hl hlong
      -- `s` is one byte
      cases s with
      | nil => exact absurd rfl hne
      | cons b t =>
        have ht : t = [] := List.eq_nil_of_length_eq_zero (by simp only [List.length_cons] at hlen; omega)
        subst ht
        rw [runes_step [b] (by simp)] at hmem
        have hw := decodeRune_width [b] (by simp)
        have hd : [b].drop (Utf8.decodeRune [b]).2 = [] := by
          apply List.drop_of_length_le; simp; omega
        rw [hd] at hmem
        simp only [Utf8.runes, Utf8.runesAux, List.mem_cons, List.not_mem_nil, or_false] at hmem
        have hlt : (Utf8.decodeRune [b]).1 < 0x80 := by
          rw [← hmem]
          rcases hx with h | h | h | h | h | h | h <;> subst h <;> decide
        obtain ⟨b', t', heq, hb', _⟩ := ascii_rune_head (s := [b]) (by simp) hlt
        simp only [List.cons.injEq] at heq
        obtain ⟨rfl, _⟩ := heq
        rw [← hmem] at hb'
        apply hp b ?_ rfl
        have : b = UInt8.ofNat r := by
          apply UInt8.toNat_inj.1
          rw [hb']
          rcases hx with h | h | h | h | h | h | h <;> subst h <;> rfl
        subst this
        rcases hx with h | h | h | h | h | h | h <;> subst h <;> decide
  refine .ident s hne (identBody_of_runes s.length s (Nat.le_refl _) hid (contains_false h1) (contains_false h2)) ?_
  have hmem : (Utf8.decodeRune s).1 ∈ Utf8.runes s := by rw [runes_step s hne]; simp
  have ha := (hall _ hmem).1
  cases hq : quoteRunes.contains (Utf8.decodeRune s).1 with
  | false => rfl
  | true =>
    exfalso
    simp only [quoteRunes, List.contains_cons, List.contains_nil, Bool.or_false, Bool.or_eq_true, beq_iff_eq] at hq
    rcases hq with hq | hq <;> rw [hq] at ha <;> revert ha <;> decide

example : mustQuote [97, 47, 98] = false ∧ ∀ c ∈ punctBytes, ([97, 47, 98] : Bytes) ≠ [c] := by decide

theorem autoQuote_unquoted {s : Bytes} (h : mustQuote s = false) :
    TokOK .ident s ∨ ∃ c, c ∈ punctBytes ∧ s = [c] := by
  by_cases hp : ∀ c ∈ punctBytes, s ≠ [c]
  · exact Or.inl (autoQuote_unquoted_ident h hp)
  · right
    obtain ⟨c, hp⟩ := Classical.not_forall.1 hp
    obtain ⟨hc, hs⟩ := Classical.not_imp.1 hp
    have hs := Classical.not_not.1 hs
    exact ⟨c, hc, hs⟩

example : mustQuote [40] = false := by decide

end ModVerif.Proofs.ModfileFmtQuote
