/-
  C16 `blocks_sorted` for exclude blocks under the semantic order: with the tree invariant every
  line of an exclude block has exactly two tokens (or is removed), and on those `lineExcludeLess` is a strict weak
  order, so `SortBlocks` leaves the block sorted by it.
-/
import ModVerif.Proofs.EditRefineInvRun
namespace ModVerif.Modfile.Edit
open ModVerif ModVerif.Modfile ModVerif.EditSpec

/-- the sort key of a line of an exclude block: removed lines first, then (path, version) -/
def exKey (t : List Bytes) : Option (Bytes × Bytes) :=
  match t with
  | [p, v] => some (p, v)
  | _ => none

def optCmp : Option (Bytes × Bytes) → Option (Bytes × Bytes) → Int
  | none, none => 0
  | none, some _ => -1
  | some _, none => 1
  | some a, some b => excludeCmp a b

theorem optCmp_pre : PreCmp optCmp := by
  have h := (PreCmp.of_strict bytesCmp_strict).lex semver_preCmp
  refine ⟨?_, ?_, ?_⟩
  · intro x y; cases x <;> cases y <;> simp [optCmp]; exact h.range _ _
  · intro x y; cases x <;> cases y <;> simp [optCmp]; exact h.antisymm _ _
  · intro x y z; cases x <;> cases y <;> cases z <;> simp [optCmp]; exact h.le_trans _ _ _

/-- the global strict weak order that agrees with `lineExcludeLess` on removed and two-token lines -/
def exLess (a b : List Bytes) : Bool := decide (optCmp (exKey a) (exKey b) = -1)

theorem exLess_strictWeak : StrictWeak exLess := (optCmp_pre.comap exKey).strictWeak

def TwoOrNone (t : List Bytes) : Prop := t = [] ∨ t.length = 2

theorem lineExcludeLess_model_eq_spec (a b : List Bytes) : lineExcludeLess a b = EditSpec.lineExcludeLess a b := by
  unfold Edit.lineExcludeLess EditSpec.lineExcludeLess
  rcases a with _ | ⟨a1, _ | ⟨a2, _ | ⟨a3, as⟩⟩⟩ <;> rcases b with _ | ⟨b1, _ | ⟨b2, _ | ⟨b3, bs⟩⟩⟩ <;>
    simp [lineLess_eq_spec] <;> (try rfl)

theorem lineExcludeLess_on (a b : List Bytes) (ha : TwoOrNone a) (hb : TwoOrNone b) : lineExcludeLess a b = exLess a b := by
  rw [lineExcludeLess_model_eq_spec]
  rcases ha with rfl | ha <;> rcases hb with rfl | hb
  · simp [EditSpec.lineExcludeLess, EditSpec.lineLess, exLess, exKey, optCmp]
  · rcases b with _ | ⟨b1, _ | ⟨b2, _ | ⟨b3, bs⟩⟩⟩ <;> simp at hb
    simp [EditSpec.lineExcludeLess, EditSpec.lineLess, exLess, exKey, optCmp]
  · rcases a with _ | ⟨a1, _ | ⟨a2, _ | ⟨a3, as⟩⟩⟩ <;> simp at ha
    simp [EditSpec.lineExcludeLess, EditSpec.lineLess, exLess, exKey, optCmp]
  · rcases a with _ | ⟨a1, _ | ⟨a2, _ | ⟨a3, as⟩⟩⟩ <;> simp at ha
    rcases b with _ | ⟨b1, _ | ⟨b2, _ | ⟨b3, bs⟩⟩⟩ <;> simp at hb
    rw [lineExcludeLess_two]
    simp only [exLess, exKey, optCmp, excludeLess2]
    exact decide_eq_decide.2 Iff.rfl

theorem insertLine_congr (less less' : List Bytes → List Bytes → Bool) (x : Line) (l : List Line)
    (h : ∀ y ∈ l, less y.token x.token = less' y.token x.token) : insertLine less x l = insertLine less' x l := by
  induction l with
  | nil => rfl
  | cons y ys ih =>
    simp only [insertLine, h y List.mem_cons_self, ih (fun z hz => h z (List.mem_cons_of_mem _ hz))]

theorem stableSort_congr (less less' : List Bytes → List Bytes → Bool) (l : List Line)
    (h : ∀ x ∈ l, ∀ y ∈ l, less x.token y.token = less' x.token y.token) : stableSort less l = stableSort less' l := by
  induction l with
  | nil => rfl
  | cons x xs ih =>
    show insertLine less x (stableSort less xs) = insertLine less' x (stableSort less' xs)
    rw [ih (fun a ha b hb => h a (List.mem_cons_of_mem _ ha) b (List.mem_cons_of_mem _ hb))]
    apply insertLine_congr
    intro y hy
    have hy' : y ∈ xs := (stableSort_perm less' xs).subset hy
    exact h y (List.mem_cons_of_mem _ hy') x List.mem_cons_self

theorem stableSort_exclude_sorted (l : List Line) (h : ∀ x ∈ l, TwoOrNone x.token) :
    Sorted (onToken lineExcludeLess) (stableSort lineExcludeLess l) := by
  have heq : stableSort lineExcludeLess l = stableSort exLess l :=
    stableSort_congr _ _ l (fun x hx y hy => lineExcludeLess_on _ _ (h x hx) (h y hy))
  rw [heq]
  have hs := (stableSort_sorted exLess_strictWeak l).1
  have hp := (stableSort_sorted exLess_strictWeak l).2
  refine (List.Pairwise.and_mem.1 hs).imp ?_
  intro a b hab
  rcases hab with ⟨ha, hb, hless⟩
  simp only [onToken] at hless ⊢
  rw [lineExcludeLess_on _ _ (h b (hp.subset hb)) (h a (hp.subset ha))]
  exact hless

theorem verbs_ne : B "module" ≠ B "exclude" ∧ B "go" ≠ B "exclude" ∧ B "toolchain" ≠ B "exclude" ∧ B "godebug" ≠ B "exclude" ∧
    B "require" ≠ B "exclude" ∧ B "replace" ≠ B "exclude" ∧ B "retract" ≠ B "exclude" ∧ B "tool" ≠ B "exclude" := by
  decide +kernel

theorem Inv.exclude_toks {e : EFile} (hi : Inv e) (v : VLine) (hv : v ∈ view e.f.syn.stmts)
    (hverb : v.toks.head? = some (B "exclude")) : v.toks.length = 3 := by
  rcases hi.line_entry v hv with ⟨en, hen, _, hacc⟩
  rcases verbs_ne with ⟨n1, n2, n3, n4, n5, n6, n7, n8⟩
  simp only [entries, List.mem_append, List.mem_map, Option.mem_toList, entsOf, List.mem_filter] at hen
  rcases hen with ⟨x, _, rfl⟩ | ⟨x, _, rfl⟩ | ⟨x, _, rfl⟩ | ⟨x, _, rfl⟩ | ⟨x, _, rfl⟩ | ⟨x, _, rfl⟩ | ⟨x, _, rfl⟩ |
    ⟨x, _, rfl⟩ | ⟨x, _, rfl⟩
  · simp only [entM] at hacc; rw [hacc] at hverb; simp at hverb; exact absurd hverb n1
  · simp only [entGo] at hacc; rw [hacc] at hverb; simp at hverb; exact absurd hverb n2
  · simp only [entTc] at hacc; rw [hacc] at hverb; simp at hverb; exact absurd hverb n3
  · simp only [entG] at hacc; rw [hacc] at hverb; simp at hverb; exact absurd hverb n4
  · simp only [entRq] at hacc; rw [hacc.1] at hverb; simp at hverb; exact absurd hverb n5
  · simp only [entX] at hacc; rw [hacc]; rfl
  · simp only [entRp, replaceToks] at hacc; rw [hacc] at hverb; simp at hverb; exact absurd hverb n6
  · simp only [entRt] at hacc
    rcases hacc with ⟨x', h1, _⟩ | ⟨x', y', h1, _⟩ <;> rw [h1] at hverb <;> simp at hverb <;> exact absurd hverb n7
  · simp only [entT] at hacc
    rcases hacc with ⟨x', h1, _⟩; rw [h1] at hverb; simp at hverb; exact absurd hverb n8

theorem Inv.exclude_block_lines {e : EFile} (hi : Inv e) (b : LineBlock) (hb : Expr.lineBlock b ∈ e.f.syn.stmts)
    (hverb : headIs b.token (B "exclude") = true) : ∀ l ∈ b.lines, TwoOrNone l.token := by
  intro l hl
  by_cases hlive : l.token = []
  · exact Or.inl hlive
  · right
    rcases hi.tree.blockTok b hb with ⟨w, hw⟩
    have hwv : w = B "exclude" := by rw [hw] at hverb; exact headIs_cons hverb
    have hp : (b.token, l) ∈ loc e.f.syn.stmts := by
      unfold loc
      exact List.mem_flatMap.2 ⟨_, hb, by simp only [locStmt]; exact List.mem_map.2 ⟨l, hl, rfl⟩⟩
    have hvl : liveLoc (b.token, l) = true := by
      simp only [liveLoc]
      cases ht : l.token with
      | nil => exact absurd ht hlive
      | cons _ _ => rfl
    have hv : mkV (b.token, l) ∈ view e.f.syn.stmts := mem_view.2 ⟨_, hp, hvl, rfl⟩
    have := hi.exclude_toks _ hv (by simp [mkV, hw, hwv])
    simpa [mkV, hw] using this

theorem dropKilled_block (kill : List Nat) (stmts : List Expr) (b' : LineBlock)
    (h : Expr.lineBlock b' ∈ dropKilled kill stmts) :
    ∃ b, Expr.lineBlock b ∈ stmts ∧ b'.token = b.token ∧ ∀ l ∈ b'.lines, l ∈ b.lines := by
  rw [dropKilled_flatMap] at h
  obtain ⟨x, hx, hy⟩ := List.mem_flatMap.1 h
  rcases mem_dropKilled_one hy with rfl | ⟨b, rfl, hb⟩
  · exact ⟨b', hx, rfl, fun _ hl => hl⟩
  · cases hb; exact ⟨b, hx, rfl, fun l hl => (List.mem_filter.1 hl).1⟩

/-- **blocks_sorted**: after `SortBlocks` on a file satisfying the tree invariant, EVERY block — exclude blocks under
    the semantic order included — is sorted by the comparator the code selects for it -/
theorem sortBlocks_blocks_sorted (e : EFile) (hi : Inv e) :
    ∀ b, Expr.lineBlock b ∈ (sortBlocks e).f.syn.stmts →
      Sorted (onToken (lessFor (semOf e.f) false b.token)) b.lines := by
  have heq := sortBlocks_eq_sem e
  generalize semOf e.f = sem at heq ⊢
  intro b hb
  rw [heq] at hb
  simp only at hb
  rcases sortStmts_block sem false _ b hb with ⟨b0, hb0, htok, hlines⟩
  by_cases hx : (headIs b.token (B "exclude") && sem) = true
  · -- an exclude block under the semantic order
    rcases dropKilled_block _ _ b0 hb0 with ⟨b00, hb00, htok0, hsub⟩
    have hverb : headIs b00.token (B "exclude") = true := by
      simp only [Bool.and_eq_true] at hx
      rw [← htok0, ← htok]; exact hx.1
    have hlt : ∀ l ∈ b0.lines, TwoOrNone l.token := fun l hl => hi.exclude_block_lines b00 hb00 hverb l (hsub l hl)
    have hless : lessFor sem false b.token = lineExcludeLess := by
      simp only [lessFor, hx, Bool.false_eq_true, if_false, if_true]
    rw [hless, hlines]
    have hless0 : lessFor sem false b0.token = lineExcludeLess := by rw [← htok]; exact hless
    rw [hless0]
    exact stableSort_exclude_sorted b0.lines hlt
  · simp only [Bool.not_eq_true] at hx
    have hsw := lessFor_strictWeak sem false b.token (Or.inr hx)
    rw [hlines, ← htok]
    exact (stableSort_sorted hsw _).1

end ModVerif.Modfile.Edit
