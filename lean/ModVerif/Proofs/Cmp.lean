/-
  Three-way comparators with values in {-1, 0, 1} (as Go's) and their algebra.
  `StrictCmp c` says c is a strict total order presented as a comparator: c x y = 0 ↔ x = y.
-/
import ModVerif.Basic.Bytes
namespace ModVerif

structure StrictCmp {α : Type} (c : α → α → Int) : Prop where
  range : ∀ x y, c x y = -1 ∨ c x y = 0 ∨ c x y = 1
  eq_iff : ∀ x y, c x y = 0 ↔ x = y
  antisymm : ∀ x y, c x y = - c y x
  trans : ∀ x y z, c x y = -1 → c y z = -1 → c x z = -1

namespace StrictCmp
variable {α β : Type} {c : α → α → Int} {d : β → β → Int}

theorem refl (h : StrictCmp c) (x : α) : c x x = 0 := (h.eq_iff x x).2 rfl

theorem gt_iff (h : StrictCmp c) (x y : α) : c x y = 1 ↔ c y x = -1 := by
  have := h.antisymm x y; constructor <;> intro h' <;> omega

def lex (c : α → α → Int) (d : β → β → Int) (p q : α × β) : Int :=
  if c p.1 q.1 ≠ 0 then c p.1 q.1 else d p.2 q.2

theorem lex_strict (hc : StrictCmp c) (hd : StrictCmp d) : StrictCmp (lex c d) where
  range := by
    intro p q; unfold lex; split
    · exact hc.range _ _
    · exact hd.range _ _
  eq_iff := by
    intro p q; unfold lex
    constructor
    · intro h
      split at h
      · rename_i h1; exact absurd h h1
      · rename_i h1
        have h1 : c p.1 q.1 = 0 := by simpa using h1
        have e1 := (hc.eq_iff _ _).1 h1
        have e2 := (hd.eq_iff _ _).1 h
        exact Prod.ext e1 e2
    · intro h; subst h; simp [hc.refl, hd.refl]
  antisymm := by
    intro p q; unfold lex
    have a1 := hc.antisymm p.1 q.1
    have a2 := hd.antisymm p.2 q.2
    by_cases h : c p.1 q.1 = 0
    · have h' : c q.1 p.1 = 0 := by omega
      simp [h, h', a2]
    · have h' : c q.1 p.1 ≠ 0 := by omega
      simp [h', a1]
  trans := by
    intro p q r; unfold lex
    intro h1 h2
    by_cases e1 : c p.1 q.1 = 0
    · have pq := (hc.eq_iff _ _).1 e1
      simp [e1] at h1
      by_cases e2 : c q.1 r.1 = 0
      · have qr := (hc.eq_iff _ _).1 e2
        simp [e2] at h2
        have : c p.1 r.1 = 0 := by rw [pq, qr]; exact hc.refl _
        simp [this]; exact hd.trans _ _ _ h1 h2
      · simp [e2] at h2
        have : c p.1 r.1 = -1 := by rw [pq]; exact h2
        simp [this]
    · simp [e1] at h1
      by_cases e2 : c q.1 r.1 = 0
      · have qr := (hc.eq_iff _ _).1 e2
        have : c p.1 r.1 = -1 := by rw [← qr]; exact h1
        simp [this]
      · simp [e2] at h2
        have := hc.trans _ _ _ h1 h2
        simp [this]

theorem comap (hd : StrictCmp d) (f : α → β) (hf : ∀ x y, f x = f y → x = y) :
    StrictCmp (fun x y => d (f x) (f y)) where
  range := fun x y => hd.range _ _
  eq_iff := by
    intro x y; constructor
    · intro h; exact hf _ _ ((hd.eq_iff _ _).1 h)
    · intro h; subst h; exact hd.refl _
  antisymm := fun x y => hd.antisymm _ _
  trans := fun x y z => hd.trans _ _ _

theorem le_trans (h : StrictCmp c) {x y z : α} (h1 : c x y ≤ 0) (h2 : c y z ≤ 0) : c x z ≤ 0 := by
  rcases h.range x y with a | a | a <;> rcases h.range y z with b | b | b <;> try omega
  · have := h.trans _ _ _ a b; omega
  · have := (h.eq_iff _ _).1 b; subst this; omega
  · have := (h.eq_iff _ _).1 a; subst this; omega
  · have := (h.eq_iff _ _).1 a; subst this; omega

end StrictCmp

def natCmp (a b : Nat) : Int := if a = b then 0 else if a < b then -1 else 1

theorem natCmp_strict : StrictCmp natCmp where
  range := by
    intro x y; unfold natCmp
    by_cases h : x = y
    · simp [h]
    · by_cases l : x < y <;> simp [h, l]
  eq_iff := by
    intro x y; unfold natCmp
    by_cases h : x = y
    · simp [h]
    · by_cases l : x < y <;> simp [h, l]
  antisymm := by
    intro x y; unfold natCmp
    by_cases h : x = y
    · subst h; simp
    · have h' : ¬ y = x := fun e => h e.symm
      simp only [h, h', if_false]
      by_cases l : x < y
      · have : ¬ y < x := by omega
        simp [l, this]
      · have : y < x := by omega
        simp [l, this]
  trans := by
    intro x y z; unfold natCmp
    intro h1 h2
    have : x < y := by
      by_cases e : x = y
      · simp [e] at h1
      · by_cases l : x < y
        · exact l
        · simp [e, l] at h1
    have : y < z := by
      by_cases e : y = z
      · simp [e] at h2
      · by_cases l : y < z
        · exact l
        · simp [e, l] at h2
    have l : x < z := by omega
    have e : ¬ x = z := by omega
    simp [e, l]

end ModVerif
