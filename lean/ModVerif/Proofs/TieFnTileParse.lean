/-
  Tie proofs for sumdb/tlog/tile.go: `ParseTilePath`.
-/
import ModVerif.Proofs.TieFnTilePath
import ModVerif.Proofs.TilePath
namespace ModVerif.TieFnTile
open ModVerif ModVerif.GoRt ModVerif.GoRtTile

/-- the result of the model's parser in the result type of the generated one (`badPathError` carries the path in Go) -/
def ptpOut : Option Tile.Tile → GTile × Option String
  | some t => (toGen t, none)
  | none => ((default : GTile), some "badPathError")

theorem B_tile' : ([116, 105, 108, 101] : Bytes) = B "tile" := by decide +kernel
theorem B_dotp' : ([46, 112] : Bytes) = B ".p" := by decide +kernel
theorem B_zero' : ([48] : Bytes) = B "0" := by decide +kernel

theorem hasSuffixB_dotp_len (s : Bytes) (h : hasSuffixB s (B ".p") = true) : 2 ≤ s.length := by
  have := isPrefixOfB_length_le h
  simp only [List.length_reverse] at this
  have e : (B ".p").length = 2 := by decide +kernel
  omega

theorem mem_splitOn_length (c : UInt8) : ∀ (s : Bytes) (e : Bytes), e ∈ splitOn c s → e.length ≤ s.length
  | [], e, h => by
    simp only [splitOn, List.mem_singleton] at h; subst h; simp
  | x :: rest, e, h => by
    unfold splitOn at h
    split at h
    · rcases List.mem_cons.mp h with h1 | h1
      · subst h1; simp
      · have := mem_splitOn_length c rest e h1
        simp only [List.length_cons]; omega
    · split at h
      · simp only [List.mem_singleton] at h; subst h; simp
      · rename_i s ss heq
        rcases List.mem_cons.mp h with h1 | h1
        · subst h1
          have := mem_splitOn_length c rest s (by rw [heq]; simp)
          simp only [List.length_cons]; omega
        · have := mem_splitOn_length c rest e (by rw [heq]; simp [h1])
          simp only [List.length_cons]; omega

theorem list_shape4 {α : Type} (f : List α) : f.length < 4 ∨ ∃ a b c d rest, f = a :: b :: c :: d :: rest := by
  match f with
  | [] => left; simp
  | [_] => left; simp
  | [_, _] => left; simp
  | [_, _, _] => left; simp
  | a :: b :: c :: d :: rest => right; exact ⟨a, b, c, d, rest, rfl⟩

/-- the path elements the `n = n*pathBase + nn` loop of ParseTilePath runs over (after "data" → "0" and after removing
    the `.p/W` suffix), exactly as the model computes them -/
def nSegs (path : Bytes) : List Bytes :=
  let f := splitOn 47 path
  let f := if f[2]? == some (B "data") then f.set 2 (B "0") else f
  let dotP := (f[f.length - 2]?).getD []
  let f := if hasSuffixB dotP (B ".p") then (f.set (f.length - 2) (dotP.take (dotP.length - 2))).take (f.length - 1) else f
  f.drop 3

/-- the elements the `n = n*pathBase + nn` loop runs over, from the element list after "data" → "0" -/
def tailSegs (f : List Bytes) : List Bytes :=
  let dotP := (f[f.length - 2]?).getD []
  let f := if hasSuffixB dotP (B ".p") then (f.set (f.length - 2) (dotP.take (dotP.length - 2))).take (f.length - 1) else f
  f.drop 3

theorem toGen_mk (hn : Nat) (l : Int) (hl : 0 ≤ l) (n wn : Nat) (isData : Bool) :
    ({ H := (hn : Int), L := if isData then -1 else l, N := (n : Int), W := (wn : Int) } : GTile) =
      toGen { h := hn, l := if isData then 0 else l.toNat, n := n, w := wn, data := isData } := by
  cases isData
  · simp [toGen]; omega
  · simp [toGen]

/-- the final `path != t.Path()` check -/
theorem ptp_check (fuel : Nat) (path : Bytes) (t : Tile.Tile) (hh : t.h ≤ 62) (hn : t.n < 2 ^ 63) (hf : 8 ≤ fuel) :
    (do let t17 ← Generated.Tile.Tile_Path fuel (toGen t)
        if (!decide (path = t17)) = true then Except.ok ((default : GTile), some "badPathError") else Except.ok (toGen t, none)) =
      .ok (ptpOut (if (path != Tile.tilePath t) = true then none else some t)) := by
  rw [Tile_Path_eq fuel t hh hn hf, mbind_ok]
  by_cases hpe : path = Tile.tilePath t
  · simp [← hpe, ptpOut]
  · simp [hpe, ptpOut]

/-- `ParseTilePath(path)` whenever the running value of the `NNN` elements stays in the int64 range (`Fits`; otherwise the
    Go code wraps around, to be rejected by the final `path != t.Path()`, and the checked translation reports overflow);
    `len(path)` is an int (the code computes `len(f) - 2`). -/
theorem ParseTilePath_eq (fuel : Nat) (path : Bytes) (hfit : Fits (nSegs path) 0)
    (hplen : path.length + 1 < 2 ^ 63) (hfuel : path.length + 9 ≤ fuel) :
    Generated.Tile.ParseTilePath fuel path = .ok (ptpOut (Tile.parseTilePath path)) := by
  have hsl := splitOn_length_le 47 path
  -- The generated code has two local continuations (`k26`: everything after the "data" test, `k18`: the `NNN` loop and
  -- the final check).  They are kept as local definitions (`simp -zeta`, `extract_lets`) and characterised once each
  -- (`key`, `key18`); unfolding them first would put four copies of the tail into the goal.
  unfold Generated.Tile.ParseTilePath
  extract_lets +onlyGivenNames f
  have hfv : f = splitOn 47 path := split_single path 47
  clear_value f
  subst hfv
  rcases list_shape4 (splitOn 47 path) with hshort | ⟨a, b, c, d, rest, hf⟩
  · have h1 : len (splitOn 47 path) < 4 := by simp only [len, Int.ofNat_eq_natCast]; omega
    rw [Tile.parseTilePath_norm path _ _ rfl rfl]
    simp -zeta only [h1, hshort, decide_true, ↓reduceIte, mpure, mbind_ok, Bool.true_or, ptpOut]
  have hall0 : ∀ e ∈ (a :: b :: c :: d :: rest), e.length < 2 ^ 63 := by
    intro e he; rw [← hf] at he; have := mem_splitOn_length 47 path e he; omega
  rw [hf] at hsl
  simp only [List.length_cons] at hsl
  have hb2 : rest.length + 2 < 2 ^ 63 := by omega
  have hb3 : rest.length + 3 < 2 ^ 63 := by omega
  have hbf : rest.length + 4 < fuel := by omega
  have e2 : ((rest.length + 4 : Nat) : Int) - 2 = ((rest.length + 2 : Nat) : Int) := by omega
  have e1 : ((rest.length + 4 : Nat) : Int) - 1 = ((rest.length + 3 : Nat) : Int) := by omega
  have hf8 : 8 ≤ fuel := by omega
  clear hsl hplen hfuel
  have hnS : nSegs path = tailSegs (if (c == B "data") = true then a :: b :: B "0" :: d :: rest else a :: b :: c :: d :: rest) := by
    simp only [nSegs, tailSegs, hf]
    rfl
  rw [hnS] at hfit
  rw [Tile.parseTilePath_norm path _ _ hf rfl]
  rw [hf]
  have hlen : ¬ (len (a :: b :: c :: d :: rest) < 4) := by simp [len]; omega
  have hlen' : ¬ ((a :: b :: c :: d :: rest).length < 4) := by simp
  have i0 : idxL (a :: b :: c :: d :: rest) 0 = .ok a := rfl
  have i1 : idxL (a :: b :: c :: d :: rest) 1 = .ok b := rfl
  have i2 : idxL (a :: b :: c :: d :: rest) 2 = .ok c := rfl
  have g0 : (a :: b :: c :: d :: rest)[0]? = some a := rfl
  have g1 : (a :: b :: c :: d :: rest)[1]? = some b := rfl
  have g2 : (a :: b :: c :: d :: rest)[2]? = some c := rfl
  simp -zeta only [hlen, hlen', decide_false, Bool.false_eq_true, ↓reduceIte, i0, i1, i2, g0, g1, g2, mbind_ok, mpure, Bool.false_or, B_tile', B_data', B_dotp', B_zero', Option.bind_some]
  by_cases ha : a = B "tile"
  case neg =>
    have : (some a != some (B "tile")) = true := by simp [ha]
    simp only [ha, decide_false, Bool.not_false, ↓reduceIte, this, ptpOut]
  subst ha
  simp -zeta only [decide_true, Bool.not_true, Bool.false_eq_true, ↓reduceIte, bne_self_eq_false]
  cases hpb : Decimal.parseInt64 b with
  | none =>
    have hb := atoi_none b hpb
    have i2' : idxL (B "tile" :: b :: B "0" :: d :: rest) 2 = .ok (B "0") := rfl
    have hset : setIdxL (B "tile" :: b :: c :: d :: rest) 2 (B "0") = .ok (B "tile" :: b :: B "0" :: d :: rest) := by
      rw [show (2 : Int) = ((2 : Nat) : Int) from rfl, setIdxL_natCast (by simp)]; rfl
    by_cases hdata : c = B "data"
    · subst hdata
      simp only [hset, i2', hb, decide_true, ↓reduceIte, mbind_ok, Bool.not_false, Bool.true_or, ptpOut]
    · simp only [hdata, i2, hb, decide_false, Bool.false_eq_true, ↓reduceIte, mbind_ok, Bool.not_false, Bool.true_or, ptpOut]
  | some h =>
    rw [atoi_some b h hpb]
    extract_lets dataF n0 lD k26 dataT
    generalize hA : B "tile" = a at *
    have key : ∀ (isD : Bool) (c' : Bytes), c'.length < 2 ^ 63 → Fits (tailSegs (a :: b :: c' :: d :: rest)) 0 →
        k26 isD (a :: b :: c' :: d :: rest) = .ok (ptpOut (match Decimal.parseInt64 c' with
          | some l => Tile.ptpRest path (a :: b :: c' :: d :: rest) isD h l
          | none => none)) := by
      intro isD c' hc' hfit'
      have i2' : idxL (a :: b :: c' :: d :: rest) 2 = .ok c' := rfl
      simp -zeta only [k26, i2', mbind_ok]
      cases hpc : Decimal.parseInt64 c' with
      | none =>
        have hc := atoi_none c' hpc
        simp only [hc, Bool.not_false, Bool.true_or, Bool.or_true, ↓reduceIte, ptpOut]
      | some l =>
        rw [atoi_some c' l hpc]
        simp -zeta only [Option.isNone_none, Bool.not_true, Bool.false_or]
        by_cases hr : (decide (h < 1) || decide (l < 0) || decide (h > 30)) = true
        · simp only [hr, ↓reduceIte, Tile.ptpRest, ptpOut]
        have hr' := hr
        simp only [Bool.or_eq_true, decide_eq_true_eq, not_or, Int.not_lt, Int.not_lt] at hr'
        obtain ⟨⟨hh1, hl0⟩, hh30⟩ := hr'
        obtain ⟨hn, hhn⟩ : ∃ hn : Nat, h = (hn : Int) := ⟨h.toNat, by omega⟩
        have hpw : 2 ^ hn < 2 ^ 63 := Nat.pow_lt_pow_right (by omega) (by omega)
        have hlenf : len (a :: b :: c' :: d :: rest) = ((rest.length + 4 : Nat) : Int) := by simp [len]; omega
        have hi2 : rest.length + 2 < (a :: b :: c' :: d :: rest).length := by simp
        have hi1 : rest.length + 3 < (a :: b :: c' :: d :: rest).length := by simp
        simp -zeta only [hr, Bool.false_eq_true, ↓reduceIte]
        simp -zeta only [hhn, toU64_natCast (show hn < 2 ^ 64 by omega), shl_one_natCast,
          mbind_ok, chk64_natCast hpw, hlenf, e2, chk64_natCast hb2, idxL_natCast hi2]
        extract_lets w dotP k18
        have hw : w = ((2 ^ hn : Nat) : Int) := rfl
        have hdp : (a :: b :: c' :: d :: rest)[rest.length + 2] = dotP := rfl
        clear_value w dotP
        subst hw
        have e3' : (3 : Int) = ((3 : Nat) : Int) := rfl
        -- the tail shared by complete and partial tiles
        have hn62 : hn ≤ 62 := by omega
        have key18 : ∀ (wn : Nat) (g : List Bytes), 3 ≤ g.length → g.length ≤ rest.length + 4 → Fits (g.drop 3) 0 →
            k18 (wn : Int) g = .ok (ptpOut (Tile.ptpTail path hn l isD wn (g.drop 3))) := by
          intro wn g hg3 hgl hfitg
          have hloop := ParseTilePath_loop1_eq path (g.drop 3) [] 0 fuel (by rw [List.length_drop]; omega) hfitg
          simp only [List.nil_append, List.length_nil, Int.natCast_zero] at hloop
          simp only [k18, n0, lD, e3', sliceFrom_natCast hg3, mbind_ok, hloop, Tile.ptpTail]
          cases hpn : Tile.parseN (g.drop 3) 0 with
          | none => simp only [loopOut, ptpOut]
          | some n =>
            have hn63 : n < 2 ^ 63 := hfitg (g.drop 3).length n (by rw [List.take_length]; exact hpn)
            have hge : ¬ (n ≥ 2 ^ 63) := Nat.not_le.mpr hn63
            have hchk := ptp_check fuel path { h := hn, l := if isD then 0 else l.toNat, n := n, w := wn, data := isD }
              hn62 hn63 hf8
            rw [← toGen_mk hn l hl0 n wn isD] at hchk
            simp only [loopOut, hge, ↓reduceIte, Int.toNat_natCast]
            cases isD
            · exact hchk
            · exact hchk
        have hm2 : (a :: b :: c' :: d :: rest).length - 2 = rest.length + 2 := by simp
        have hm1 : (a :: b :: c' :: d :: rest).length - 1 = rest.length + 3 := by simp
        have hdpl : dotP.length < 2 ^ 63 := by
          have he : dotP ∈ a :: b :: c' :: d :: rest := hdp ▸ List.getElem_mem hi2
          simp only [List.mem_cons] at he
          rcases he with h | h | h | h
          · exact h ▸ hall0 a (by simp)
          · exact h ▸ hall0 b (by simp)
          · exact h ▸ hc'
          · exact hall0 dotP (by simp [h])
        have hcast : ((2 : Int) ^ hn) = (((2 ^ hn : Nat)) : Int) := by simp
        have hr2 : (decide ((hn : Int) < 1) || decide (l < 0) || decide ((hn : Int) > 30)) = false := by
          rw [← hhn]; simpa using hr
        simp only [tailSegs, hm2, hm1, List.getElem?_eq_getElem hi2, Option.getD_some, hdp] at hfit'
        simp only [Tile.ptpRest, hr2, Bool.false_eq_true, ↓reduceIte, hm2, hm1, List.getElem?_eq_getElem hi2,
          List.getElem?_eq_getElem hi1, Option.getD_some, Option.bind_some, Int.toNat_natCast, hcast, hasSuffix, hdp]
        by_cases hs : hasSuffixB dotP (B ".p") = true
        · have hdl := hasSuffixB_dotp_len dotP hs
          generalize hlast : (a :: b :: c' :: d :: rest)[rest.length + 3] = last
          simp only [hs, ↓reduceIte, e1, chk64_natCast hb3, mbind_ok, idxL_natCast hi1, hlast] at hfit' ⊢
          cases hpw2 : Decimal.parseInt64 last with
          | none =>
            have hw := atoi_none last hpw2
            simp only [hw, Bool.not_false, Bool.true_or, ↓reduceIte, ptpOut]
          | some ww =>
            rw [atoi_some last ww hpw2]
            simp only [Option.isNone_none, Bool.not_true, Bool.false_or]
            by_cases hwr : (decide (ww ≤ 0) || decide (ww ≥ ((2 ^ hn : Nat) : Int))) = true
            · simp only [hwr, ↓reduceIte, ptpOut]
            have hwr' := hwr
            simp only [Bool.or_eq_true, decide_eq_true_eq, not_or, Int.not_le, ge_iff_le] at hwr'
            obtain ⟨wn, rfl⟩ : ∃ wn : Nat, ww = (wn : Int) := ⟨ww.toNat, by omega⟩
            have e3 : (len dotP) - 2 = ((dotP.length - 2 : Nat) : Int) := by simp only [len, Int.ofNat_eq_natCast]; omega
            have hlen2 : len ((a :: b :: c' :: d :: rest).set (rest.length + 2) (List.take (dotP.length - 2) dotP)) =
                ((rest.length + 4 : Nat) : Int) := by simp [len] <;> omega
            have htk : rest.length + 3 ≤ ((a :: b :: c' :: d :: rest).set (rest.length + 2) (List.take (dotP.length - 2) dotP)).length := by
              simp <;> omega
            simp only [hwr, Bool.false_eq_true, ↓reduceIte, e3, chk64_natCast (show dotP.length - 2 < 2 ^ 63 by omega),
              mbind_ok, sliceTo_natCast (show dotP.length - 2 ≤ dotP.length by omega), setIdxL_natCast hi2, hlen2, e1,
              chk64_natCast hb3, sliceTo_natCast htk]
            have hgl : (List.take (rest.length + 3) ((a :: b :: c' :: d :: rest).set (rest.length + 2)
                (List.take (dotP.length - 2) dotP))).length = rest.length + 3 := by simp
            exact key18 wn _ (by rw [hgl]; exact Nat.le_add_left 3 _) (by rw [hgl]; exact Nat.le_succ _) hfit'
        · simp only [hs, Bool.false_eq_true, ↓reduceIte] at hfit' ⊢
          exact key18 (2 ^ hn) _ (by simp) (by simp) hfit'
    by_cases hdata : c = B "data"
    · subst hdata
      have hset : setIdxL (a :: b :: B "data" :: d :: rest) 2 (B "0") = .ok (a :: b :: B "0" :: d :: rest) := by
        rw [show (2 : Int) = ((2 : Nat) : Int) from rfl, setIdxL_natCast (by simp)]; rfl
      simp only [beq_self_eq_true, ↓reduceIte] at hfit
      simp only [decide_true, ↓reduceIte, hset, mbind_ok, beq_self_eq_true, List.set_cons_succ, List.set_cons_zero,
        List.getElem?_cons_succ, List.getElem?_cons_zero, Option.bind_some]
      have h01 : (B "0").length = 1 := by decide +kernel
      rw [key dataT (B "0") (by rw [h01]; decide) hfit]
      cases Decimal.parseInt64 (B "0") with
      | none => rfl
      | some l => rfl
    · have hdata' : (some c == some (B "data")) = false := by simp [hdata]
      have hdata2 : (c == B "data") = false := by simp [hdata]
      simp only [hdata2, Bool.false_eq_true, ↓reduceIte] at hfit
      simp only [hdata, decide_false, Bool.false_eq_true, ↓reduceIte, hdata', List.getElem?_cons_succ, List.getElem?_cons_zero,
        Option.bind_some]
      rw [key dataF c (hall0 c (by simp)) hfit]
      cases Decimal.parseInt64 c with
      | none => rfl
      | some l => rfl

/-! ### a sufficient condition for `Fits`: at most six `NNN` elements -/

theorem parseN_bound : ∀ (segs : List Bytes) (n0 n : Nat), Tile.parseN segs n0 = some n →
    n + 1 ≤ (n0 + 1) * 1000 ^ segs.length := by
  intro segs
  induction segs with
  | nil => intro n0 n h; simp only [Tile.parseN, Option.some.injEq] at h; subst h; simp
  | cons s rest ih =>
    intro n0 n h
    unfold Tile.parseN at h
    cases hp : Decimal.parseInt64 (Tile.trimX s) with
    | none => rw [hp] at h; cases h
    | some nn =>
      rw [hp] at h
      simp only at h
      split at h
      · cases h
      · rename_i hc
        simp only [Bool.or_eq_true, decide_eq_true_eq, not_or, Int.not_lt, ge_iff_le, Int.not_le] at hc
        have := ih _ _ h
        have h2 : n0 * Tile.pathBase + nn.toNat + 1 ≤ (n0 + 1) * 1000 := by
          simp only [Tile.pathBase]; omega
        have h3 : (n0 * Tile.pathBase + nn.toNat + 1) * 1000 ^ rest.length ≤ (n0 + 1) * 1000 * 1000 ^ rest.length :=
          Nat.mul_le_mul_right _ h2
        rw [List.length_cons, Nat.pow_succ, Nat.mul_comm (1000 ^ rest.length) 1000, ← Nat.mul_assoc]
        omega

theorem nSegs_length (path : Bytes) : (nSegs path).length ≤ (splitOn 47 path).length - 3 := by
  unfold nSegs
  simp only
  split <;> split <;> simp [List.length_drop, List.length_take, List.length_set] <;> omega

/-- a path with at most 9 elements (`tile/H/L/` and at most six `NNN` elements, or five and `.p/W`) stays in int64 -/
theorem fits_of_short (path : Bytes) (h : (splitOn 47 path).length ≤ 9) : Fits (nSegs path) 0 := by
  intro j n hn
  have h1 := parseN_bound _ _ _ hn
  have h2 := nSegs_length path
  have h3 : ((nSegs path).take j).length ≤ 6 := by
    rw [List.length_take]; omega
  have h4 : (1000 : Nat) ^ ((nSegs path).take j).length ≤ 1000 ^ 6 := Nat.pow_le_pow_right (by omega) h3
  have h5 : (1000 : Nat) ^ 6 < 2 ^ 63 := by decide
  omega

end ModVerif.TieFnTile
