/-
  End-of-line comments on the SOURCE text: the parser pass of `ModfileEolSlots` carried through the runs of
  statements and of the file (`ModfileRunTok`).

  Result `parseFile_own`: if every line of the statement list `parseFile` delivers starts and ends on the same
  source line (`OneLineStmt`), then the backwards post-order walk of `assignComments` over that list with the
  recorded comments uses up every comment and gives every line / `(` / `)` at most one, a comment block none
  (`CountStmt`).  `parse_eolCount_of_oneLine` is the same statement for `parse`: `EolCount t`.
-/
import ModVerif.Proofs.ModfileEolSlots
namespace ModVerif.Proofs.ModfileSrc
open ModVerif ModVerif.Modfile ModVerif.Proofs.ModfileLex
open ModVerif.Proofs.ModfileFmtLex ModVerif.Proofs.ModfileFmtTree ModVerif.Proofs.ModfileFmtMain
open ModVerif.Proofs.ModfilePos ModVerif.Proofs.ModfileC20 ModVerif.Proofs.ModfileFmtEmits
open ModVerif.Proofs.ModfileEol ModVerif.Proofs.ModfileRun

def StmtOwnH (s : Expr) (Cs : List Comment) (lo hi : Nat) : Prop := OneLineStmt s → StmtOwn s Cs lo hi

def StmtsOwnH (stmtsRev : List Expr) (C : List Comment) (hi : Nat) : Prop :=
  (∀ s ∈ stmtsRev, OneLineStmt s) → StmtsOwn stmtsRev C hi

theorem stmtsOwnH_nil (hi : Nat) : StmtsOwnH [] [] hi := fun _ => stmtsOwn_nil hi

theorem StmtsOwnH.mono {sr : List Expr} {C : List Comment} {hi hi' : Nat} (h : StmtsOwnH sr C hi) (hh : hi ≤ hi') :
    StmtsOwnH sr C hi' := fun hone => (h hone).mono hh

theorem stmtsOwnH_cons {sr : List Expr} {C : List Comment} {mid lo hi : Nat} (h : StmtsOwnH sr C mid)
    (s : Expr) (Cs : List Comment) (hs : StmtOwnH s Cs lo hi) (hmid : mid ≤ lo) : StmtsOwnH (s :: sr) (C ++ Cs) hi := by
  intro hone
  exact stmtsOwn_cons (h (fun s' hs' => hone s' (by simp [hs']))) s Cs (hs (hone s (by simp))) hmid

theorem oneLineStmt_setBefore (s : Expr) (X : List Comment) :
    OneLineStmt (s.setComments { s.comments with before := X }) ↔ OneLineStmt s := by
  cases s <;> exact Iff.rfl

theorem StmtOwnH.setBefore {s : Expr} {Cs : List Comment} {lo hi : Nat} (h : StmtOwnH s Cs lo hi) (X : List Comment) :
    StmtOwnH (s.setComments { s.comments with before := X }) Cs lo hi :=
  fun hone => (h ((oneLineStmt_setBefore s X).1 hone)).setBefore X

/-- the block loop entered right after `(`: the pending token is an end-of-line token; if it is an
    end-of-line comment it lies in the slot of `(`. -/
theorem PBlock.own0 {data : Bytes} {i : Input} {x b : LineBlock} {i' : Input} (h : PBlockC data i x [] [] b i')
    {D : List Comment} {lpe : Nat} (hD : Done i D) (hlpe : lpe ≤ i.token.pos.byte) :
    b.rparen.comments.suffix = [] ∧
      ∃ Clp Cl Crp m1 m2, Done i' (D ++ (Clp ++ (Cl ++ Crp))) ∧ Slot lpe Clp m1 ∧ lpe ≤ m1 ∧
        LinesOwnH b.lines.reverse Cl m1 m2 ∧ m2 ≤ b.rparen.pos.byte + 1 ∧
        Slot (b.rparen.pos.byte + 1) Crp i'.token.pos.byte ∧ b.rparen.pos.byte + 1 ≤ i'.token.pos.byte := by
  have hnil : ∀ m, LinesOwnH [] [] m m := fun m _ => linesOwn_nil _ _ (Nat.le_refl _)
  by_cases hk : i.token.kind = .eolComment
  · -- `verb ( // comment`: the comment is skipped by the loop and belongs to `(`
    cases h with
    | @eolComment _ i1 _ _ _ _ _ _ hc hrest =>
      obtain ⟨hdone, hb1, _⟩ := Lx.own hc.lx
      obtain ⟨a7, Cl', Crp, m2, b1, b2, b3, b4, b5⟩ :=
        PBlock.own hrest (D := D ++ recOf i.token) (Cl := []) hc.top.2 (by simpa using hdone D hD) (hnil _) (Nat.le_refl _)
      refine ⟨a7, recOf i.token, Cl', Crp, i1.token.pos.byte, m2, ?_, slot_of_eol hc.lx.inv lpe hlpe hb1, by omega,
        b2, b3, b4, b5⟩
      rw [List.append_assoc] at b1
      exact b1
    | blank hk' _ _ => rw [hk] at hk'; cases hk'
    | comment hk' _ _ => rw [hk] at hk'; cases hk'
    | close hk' _ _ _ => rw [hk] at hk'; cases hk'
    | line h1 _ _ _ _ _ _ _ _ => exact absurd hk h1
  · obtain ⟨a7, Cl', Crp, m2, b1, b2, b3, b4, b5⟩ :=
      PBlock.own h (D := D) (Cl := []) hk (by simpa using hD) (hnil _) (Nat.le_refl _)
    exact ⟨a7, [], Cl', Crp, i.token.pos.byte, m2, by simpa using b1, slot_nil _ _, hlpe, b2, b3, b4, b5⟩

theorem recOf_punct {tok : Token} {c : UInt8} (h : tok.kind = .punct c) : recOf tok = [] :=
  recOf_of_not_eolc (by rw [h]; simp)

theorem PStmt.own {data : Bytes} {i : Input} {s e : Position} {acc : List Bytes} {x : Expr} {i' : Input}
    (h : PStmtC data i s e acc x i') {D : List Comment} (hD : Done i D) (h1 : s.byte ≤ e.byte)
    (h2 : e.byte ≤ i.token.pos.byte) : ∃ Cs, Done i' (D ++ Cs) ∧ StmtOwnH x Cs s.byte i'.token.pos.byte := by
  induction h with
  | @eol i i1 s e acc hc _ =>
    -- a top-level line
    obtain ⟨hdone, hb1, _⟩ := Lx.own hc.lx
    refine ⟨recOf i.token, (hdone D hD).setId _, fun hone => ?_⟩
    exact stmtOwn_line _ (recOf i.token) s.byte i1.token.pos.byte rfl h1 (slot_of_eol hc.lx.inv e.byte h2 hb1)
      (fun _ => hone) (by omega)
  | @block i i1 s e acc b i' hc hk _ hb =>
    obtain ⟨_, hb1, hb2⟩ := Lx.own hc.lx
    have hend := punct_end hc.lx.inv 40 hk
    obtain ⟨_, a5, a6, _⟩ := hb.header
    obtain ⟨a7, Clp, Cl, Crp, m1, m2, b1, b2, b3, b4, b5, b6, b7⟩ :=
      PBlock.own0 hb (lpe := i.token.pos.byte + 1) (TokCall.done hc hD) (by omega)
    have hlpp : b.lparen.pos.byte = i.token.pos.byte := by rw [a6]
    refine ⟨Clp ++ (Cl ++ Crp), b1, fun hone => ?_⟩
    have hone' : ∀ l ∈ b.lines.reverse, OneLine l := fun l hl => hone l (by simpa using hl)
    exact stmtOwn_block b Clp Cl Crp s.byte m1 m2 i'.token.pos.byte (by rw [a5]) (by rw [a6]) a7
      (by rw [hlpp]; omega) (by rw [hlpp]; exact b2) (b4 hone') b5 (by rw [hlpp]; exact b3) b6 b7
  | @empty i i1 i2 i3 s e acc hc hk hk1 hc2 _ hc3 =>
    -- empty block `verb ( )`
    obtain ⟨_, hb1, hb2⟩ := Lx.own hc.lx
    obtain ⟨_, hc1, _⟩ := Lx.own hc2.lx
    obtain ⟨hdone3, hd1, _⟩ := Lx.own hc3.lx
    have hend := punct_end hc.lx.inv 40 hk
    have hend1 := punct_end hc2.lx.inv 41 hk1
    have hD3 := hdone3 D (TokCall.done hc2 (TokCall.done hc hD))
    refine ⟨[] ++ ([] ++ recOf i2.token), by simpa using hD3, fun _ => ?_⟩
    refine stmtOwn_block _ [] [] (recOf i2.token) s.byte (i.token.pos.byte + 1) (i.token.pos.byte + 1)
      i3.token.pos.byte rfl rfl rfl ?_ (slot_nil _ _) ?_ ?_ (Nat.le_refl _) ?_ ?_
    · show s.byte ≤ i.token.pos.byte + 1
      omega
    · exact linesOwn_nil _ _ (Nat.le_refl _)
    · show i.token.pos.byte + 1 ≤ i1.token.pos.byte + 1
      omega
    · exact slot_of_eol hc3.lx.inv (i1.token.pos.byte + 1) (by omega) hd1
    · show i1.token.pos.byte + 1 ≤ i3.token.pos.byte
      omega
  | parens hc hk hk1 hc2 _ _ ih =>
    obtain ⟨_, hb1, hb2⟩ := Lx.own hc.lx
    obtain ⟨_, hc1, _⟩ := Lx.own hc2.lx
    have hend := punct_end hc.lx.inv 40 hk
    have hend1 := punct_end hc2.lx.inv 41 hk1
    exact ih (TokCall.done hc2 (TokCall.done hc hD)) h1 (by omega)
  | lparen hc hk _ _ _ ih =>
    obtain ⟨_, hb1, hb2⟩ := Lx.own hc.lx
    have hend := punct_end hc.lx.inv 40 hk
    exact ih (TokCall.done hc hD) h1 (by omega)
  | tok hc _ _ _ ih =>
    obtain ⟨_, hb1, hb2⟩ := Lx.own hc.lx
    exact ih (TokCall.done hc hD) (by omega) hb1

/-- the pending comment block of `parseFileLoop` -/
def CbOK (cb : Option CommentBlock) (mid hi : Nat) : Prop :=
  ∀ c, cb = some c → c.comments.suffix = [] ∧ mid ≤ c.start.byte ∧ c.start.byte ≤ hi

theorem cbOK_none (mid hi : Nat) : CbOK none mid hi := by intro c hc; cases hc

theorem stmtsOwnH_push_cb {sr : List Expr} {C : List Comment} {mid hi hi' : Nat} (h : StmtsOwnH sr C mid) (c : CommentBlock)
    (hcb : CbOK (some c) mid hi) (hh : hi ≤ hi') : StmtsOwnH (.commentBlock c :: sr) C hi' := by
  obtain ⟨h1, h2, h3⟩ := hcb c rfl
  have := stmtsOwnH_cons h (.commentBlock c) [] (fun _ => stmtOwn_commentBlock c h1 hi' (by omega)) h2
  simpa using this

theorem PFile.own {data : Bytes} {i : Input} {sr : List Expr} {cb : Option CommentBlock} {out : List Expr} {i' : Input}
    (h : PFileC data i sr cb out i') {C : List Comment} {mid : Nat} (hne : i.token.kind ≠ .eolComment) (hD : Done i C)
    (hown : StmtsOwnH sr C mid) (hmid : mid ≤ i.token.pos.byte) (hcb : CbOK cb mid i.token.pos.byte) :
    ∃ hi, StmtsOwnH out.reverse i'.commentsRev.reverse hi := by
  have hflush : ∀ {sr : List Expr} {cb : Option CommentBlock} {C : List Comment} {mid hi : Nat}, StmtsOwnH sr C mid →
      CbOK cb mid hi → mid ≤ hi → StmtsOwnH (flush sr cb) C hi := by
    intro sr cb C mid hi hown hcb hh
    cases cb with
    | none => exact hown.mono hh
    | some c => exact stmtsOwnH_push_cb hown c hcb (Nat.le_refl _)
  induction h generalizing C mid with
  | blank hk hc _ ih =>
    obtain ⟨hdone, hb1, hb2⟩ := Lx.own hc.lx
    have hD1 := hdone _ hD
    rw [recOf_punct hk, List.append_nil] at hD1
    exact ih hc.top.2 hD1 ((hflush hown hcb hmid).mono (by omega)) (Nat.le_refl _) (cbOK_none _ _)
  | @comment i i1 sr cb out i' hk hc _ ih =>
    obtain ⟨hdone, hb1, hb2⟩ := Lx.own hc.lx
    have hD1 := hdone _ hD
    rw [recOf_of_not_eolc (by rw [hk]; simp), List.append_nil] at hD1
    refine ih hc.top.2 hD1 hown (by omega) ?_
    intro c hc'
    simp only [Option.some.injEq] at hc'
    subst hc'
    cases cb with
    | none => exact ⟨rfl, hmid, by show i.token.pos.byte ≤ _; omega⟩
    | some c0 =>
      obtain ⟨h1, h2, h3⟩ := hcb c0 rfl
      exact ⟨h1, h2, by show c0.start.byte ≤ _; omega⟩
  | @eof i sr cb hk =>
    have hC : i.commentsRev.reverse = C := by
      have := hD
      unfold Done at this
      rw [recOf_of_not_eolc (by rw [hk]; simp), List.append_nil] at this
      exact this
    refine ⟨i.token.pos.byte, ?_⟩
    rw [List.reverse_reverse, hC]
    exact hflush hown hcb hmid
  | @stmt i i1 i2 sr cb x out i' _ _ _ hc hs _ ih =>
    obtain ⟨_, hb1, hb2⟩ := Lx.own hc.lx
    obtain ⟨Cs, hD1, hs'⟩ := PStmt.own hs (TokCall.done hc hD) hb2 hb1
    refine ih (PStmt.top hs).1.2 hD1 (stmtsOwnH_cons hown _ Cs ?_ hmid) (Nat.le_refl _) (cbOK_none _ _)
    cases cb with
    | none => exact hs'
    | some c => exact hs'.setBefore _

/-- ★ the walk of `assignComments` over the statement list of `parseFile`, if all its lines are one-line lines:
    every recorded comment is used up, and every node gets at most one (a comment block none) -/
theorem parseFile_own {data : Bytes} {stmts : List Expr} {i : Input} (h : parseFile data = .ok (stmts, i))
    (hone : ∀ s ∈ stmts, OneLineStmt s) :
    ∃ ss', postStmtsRev stmts.reverse i.commentsRev.reverse.reverse = (ss', []) ∧ ∀ s ∈ ss', CountStmt s := by
  obtain ⟨i0, h0, hrun, _⟩ := parseFile_runC h
  have hD0 : Done i0 [] := by
    unfold Done
    rw [readToken_comments_rec _ _ h0]
    simp [newInput]
  obtain ⟨hi, hown⟩ := PFile.own hrun (G.init h0).2 hD0 (stmtsOwnH_nil 0) (Nat.zero_le _) (cbOK_none _ _)
  exact (hown (fun s hs => hone s (by simpa using hs))).1

theorem parse_eolCount_of_oneLine {name x : Bytes} {t : FileSyntax} (h : parse name x = .ok t)
    (hone : ∀ stmts i, parseFile x = .ok (stmts, i) → ∀ s ∈ stmts, OneLineStmt s) : EolCount t := by
  unfold parse at h
  cases hp : parseFile x with
  | error e => simp [hp, bind, Except.bind] at h
  | ok v =>
    obtain ⟨stmts, i⟩ := v
    simp only [hp, bind, Except.bind, Except.ok.injEq] at h
    obtain ⟨_, hsfx⟩ := ModfileFmtEmits.parseFile_wf' x stmts i hp
    obtain ⟨ss', hpost, hcount⟩ := parseFile_own hp (hone stmts i hp)
    have hfl : (i.commentsRev.reverse.filter (fun c => !c.suffix)) = [] := by
      rw [List.filter_eq_nil_iff]
      intro c hc
      simp [hsfx c (by simpa using hc)]
    have hfs : (i.commentsRev.reverse.filter (fun c => c.suffix)) = i.commentsRev.reverse := by
      rw [List.filter_eq_self]
      intro c hc
      exact hsfx c (by simpa using hc)
    unfold assignComments at h
    simp only [hfl, hfs, assignBefore_nil, preStmts_nil, hpost] at h
    subst h
    exact ⟨by simp, fun s hs => hcount s (by simpa using hs)⟩

end ModVerif.Proofs.ModfileSrc
