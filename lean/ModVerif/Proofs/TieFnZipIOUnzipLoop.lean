/-
  Tie proof, zip/zip.go `Unzip` (Generated/FnZip.lean: `Unzip`, loop `Unzip_loop1`) against the hand model `Zip.unzip` /
  `Zip.unzipLoop` / `Zip.unzipEntry` (Model/Zip.lean).  The world is `GoRt.FsW` (Basic/GoRtZipIO.lean); its effect list,
  mapped by the driver's `toEffect`, is the model's effect list.
-/
import ModVerif.Proofs.TieFnZipIOUnzipCz
import ModVerif.Proofs.ZipBConfined
namespace ModVerif.TieFnZipIOUnzip
open ModVerif ModVerif.GoRt ModVerif.GoRtZip ModVerif.TieFnZip ModVerif.TieFnZipCf
open ModVerif.Generated.Zip (pathInfo FileError CheckedFiles)
open ModVerif.Drv.GenZipIO (toZEntry toEffect targetCode)

/-! ### the file-system vocabulary of GoRt is the model's -/

theorem fsDirPrefixesAux_eq : ∀ (p racc : Bytes), fsDirPrefixesAux racc p = Zip.dirPrefixesAux racc p
  | [], _ => rfl
  | c :: rest, racc => by
    unfold fsDirPrefixesAux Zip.dirPrefixesAux
    rw [fsDirPrefixesAux_eq rest]

theorem fsAncestorsAndSelf_eq (p : Bytes) : fsAncestorsAndSelf p = Zip.ancestorsAndSelf p := by
  unfold fsAncestorsAndSelf Zip.ancestorsAndSelf Zip.dirPrefixes
  rw [fsDirPrefixesAux_eq]

theorem createdFiles_map : ∀ fx : List FsEffect, Zip.createdFiles (fx.map toEffect) = fsCreatedFiles fx
  | [] => rfl
  | .mkdirAll p :: fx => by
    simp only [List.map_cons, toEffect, Zip.createdFiles, fsCreatedFiles]; exact createdFiles_map fx
  | .createExcl p c :: fx => by
    simp only [List.map_cons, toEffect, Zip.createdFiles, fsCreatedFiles]; rw [createdFiles_map fx]

theorem createdDirs_map : ∀ fx : List FsEffect, Zip.createdDirs (fx.map toEffect) = fsCreatedDirs fx
  | [] => rfl
  | .mkdirAll p :: fx => by
    simp only [List.map_cons, toEffect, Zip.createdDirs, fsCreatedDirs]
    rw [createdDirs_map fx, fsAncestorsAndSelf_eq]
  | .createExcl p c :: fx => by
    simp only [List.map_cons, toEffect, Zip.createdDirs, fsCreatedDirs]; exact createdDirs_map fx

theorem fpJoin_eq (d n : Bytes) : GoRt.fpJoin d n = Zip.fpJoin d n := rfl

/-- the error text inside the `zipError` wrapper; `me` = the error of `module.Check` / the canonical-version test,
    `zs` = size of the archive (selects the text of the size error) -/
def uerrInner (me : Option String) (zs : Nat) : Zip.UnzipErr → Option String
  | .notEmpty => some "target directory %v exists and is not empty"
  | .badModule => me
  | .size => some (sizeTextOf zs)
  | .invalid => some "FileErrorList"
  | .mkdir => some "mkdir: not a directory"
  | .exists => some "file exists"
  | .contentSize => some "zip: format error"

def uerrText (me : Option String) (zs : Nat) (e : Zip.UnzipErr) : Option String := wrapErr "zipError" (uerrInner me zs e)

/-- what the tie observes of the result of the loop: the error and the effects -/
def ctlOut : Ctl (Option String × FsW) (Int × FsW) → Option String × List Zip.Effect
  | .ret (e, w) => (e, w.fx.map toEffect)
  | .next (_, w) => (none, w.fx.map toEffect)

/-- `io.Copy` from the limited reader (`N` = declared size + 1) -/
theorem limRead_honest (c : Bytes) (n : Nat) (h : c.length = n) (h0 : 0 ≤ Zip.int64OfU64 n) (hn : n < 2 ^ 64) :
    limRead { R := c, N := toI64 (n : Int) + 1 } = (c, { R := [], N := 1 }) := by
  rw [toI64_declSize n hn]
  have h63 : n < 2 ^ 63 := by
    unfold Zip.int64OfU64 at h0
    by_cases hc : n < 2 ^ 63
    · exact hc
    · rw [if_neg hc] at h0
      have : (2 : Int) ^ 64 = 18446744073709551616 := by decide
      have : (2 : Nat) ^ 64 = 18446744073709551616 := by decide
      omega
  have hv : Zip.int64OfU64 n = n := by unfold Zip.int64OfU64; rw [if_pos h63]
  rw [hv]
  unfold limRead
  have hpos : ¬ ((n : Int) + 1 ≤ 0) := by omega
  simp only [hpos, if_false]
  have ht : ((n : Int) + 1).toNat = n + 1 := by omega
  rw [ht, List.take_of_length_le (by omega), List.drop_eq_nil_of_le (by omega)]
  congr 2
  omega

section
variable {cv : Bytes → Bytes} {cfp : Bytes → Option String} {ef : Bytes → Bytes → Bool}
  {mc : Bytes → Bytes → Option String} {sf : Int → Int}

/-- `w.target ≠ 3`: the target is not a file (3 = `targetCode .notDir`), so `os.MkdirAll` succeeds -/
theorem loopU_step (me : Option String) (zs : Nat) (d : Bytes) (z : ZReader) (pfx : Bytes) (done : List Zip.Entry)
    (e : Zip.Entry) (rest : List Zip.Entry) (fuel : Nat) (w : FsW) (hw : w.target ≠ 3)
    (hp : isPrefixOfB pfx e.name = true)
    (hnn : Zip.skipEntry pfx e = false → 0 ≤ Zip.int64OfU64 e.declSize ∧ e.declSize < 2 ^ 64) :
    ∃ w' : FsW, w'.target = w.target ∧
      w'.fx.map toEffect =
        (if Zip.skipEntry pfx e then w.fx.map toEffect else (Zip.unzipEntry d pfx (w.fx.map toEffect) e).1) ∧
      Generated.Zip.Unzip_loop1 cv cfp ef mc sf ((done ++ e :: rest).map toZEntry) d z pfx (fuel + 1)
          (done.length : Int) w =
        (match (if Zip.skipEntry pfx e then none else (Zip.unzipEntry d pfx (w.fx.map toEffect) e).2) with
         | some er => .ok (Ctl.ret (uerrText me zs er, w'))
         | none => Generated.Zip.Unzip_loop1 cv cfp ef mc sf ((done ++ e :: rest).map toZEntry) d z pfx fuel
            ((done.length + 1 : Nat) : Int) w') := by
  obtain ⟨R, hR⟩ : ∃ R, Generated.Zip.Unzip_loop1 cv cfp ef mc sf ((done ++ e :: rest).map toZEntry) d z pfx (fuel + 1)
      (done.length : Int) w = R := ⟨_, rfl⟩
  rw [hR]
  rw [Generated.Zip.Unzip_loop1] at hR
  have hi : ((done.length + 1 : Nat) : Int) = (done.length : Int) + 1 := by omega
  have hN : (toZEntry e).Name = e.name := rfl
  have hlen := isPrefixOfB_length_le hp
  have hsl : sliceFrom e.name (len pfx) = .ok (e.name.drop pfx.length) := sliceFrom_natCast hlen
  have hskip : (decide (e.name.drop pfx.length = []) || hasSuffix (e.name.drop pfx.length) [47]) =
      Zip.skipEntry pfx e := by
    unfold Zip.skipEntry
    rw [hasSuffix_slash, Bool.beq_eq_decide_eq]
  have hdst : GoRt.fpJoin d (e.name.drop pfx.length) = Zip.dstOf d pfx e := rfl
  have hpd : ∀ x, GoRt.pathDir x = PathClean.pathDir x := fun _ => rfl
  have hU : (toZEntry e).UncompressedSize64 = (e.declSize : Int) := rfl
  rw [hi]
  simp only [lt_len_map_mid, if_true, idxL_map_mid, bind_ok, hN, hU, hsl, hskip, hdst, hpd] at hR
  cases hsk : Zip.skipEntry pfx e with
  | true =>
    refine ⟨w, rfl, by simp, ?_⟩
    simp only [hsk, if_true] at hR ⊢
    exact hR.symm
  | false =>
    obtain ⟨hnn0, hnn64⟩ := hnn hsk
    simp only [hsk, Bool.false_eq_true, if_false] at hR ⊢
    unfold Zip.unzipEntry
    generalize Zip.dstOf d pfx e = dst at hR ⊢
    -- os.MkdirAll(filepath.Dir(dst))
    have hmk : osMkdirAll (PathClean.pathDir dst) 511 w =
        if (Zip.ancestorsAndSelf (PathClean.pathDir dst)).any (fun x => (Zip.createdFiles (w.fx.map toEffect)).contains x)
        then (some "mkdir: not a directory", w)
        else (none, { w with fx := w.fx ++ [.mkdirAll (PathClean.pathDir dst)] }) := by
      unfold osMkdirAll
      have : (w.target == 3) = false := by simpa using hw
      rw [this, fsAncestorsAndSelf_eq, createdFiles_map]
      simp only [Bool.false_and, Bool.false_or]
    by_cases hc1 : (Zip.ancestorsAndSelf (PathClean.pathDir dst)).any
        (fun x => (Zip.createdFiles (w.fx.map toEffect)).contains x) = true
    · rw [if_pos hc1] at hmk
      refine ⟨w, rfl, by rw [if_pos hc1], ?_⟩
      rw [if_pos hc1]
      simp only [hmk, Option.isNone_some, Bool.not_false, if_true] at hR
      exact hR.symm
    rw [if_neg hc1] at hmk
    rw [if_neg hc1]
    obtain ⟨w1, hw1⟩ : ∃ w1 : FsW, w1 = { w with fx := w.fx ++ [.mkdirAll (PathClean.pathDir dst)] } := ⟨_, rfl⟩
    rw [← hw1] at hmk
    have hfx1 : w1.fx.map toEffect = w.fx.map toEffect ++ [.mkdirAll (PathClean.pathDir dst)] := by
      rw [hw1]; simp [toEffect]
    have ht1 : w1.target = w.target := by rw [hw1]
    rw [← hfx1]
    -- os.OpenFile(dst, O_EXCL)
    have hop : osOpenFile dst 193 292 w1 =
        if (Zip.createdFiles (w1.fx.map toEffect)).contains dst || (Zip.createdDirs (w1.fx.map toEffect)).contains dst
        then (([], some "file exists"), w1) else ((dst, none), w1) := by
      unfold osOpenFile
      rw [createdFiles_map, createdDirs_map]
    by_cases hc2 : ((Zip.createdFiles (w1.fx.map toEffect)).contains dst ||
        (Zip.createdDirs (w1.fx.map toEffect)).contains dst) = true
    · rw [if_pos hc2] at hop
      refine ⟨w1, ht1, by rw [if_pos hc2], ?_⟩
      rw [if_pos hc2]
      simp only [hmk, hop, Option.isNone_some, Option.isNone_none, Bool.not_false, Bool.not_true, Bool.false_eq_true,
        if_false, if_true] at hR
      exact hR.symm
    rw [if_neg hc2] at hop
    rw [if_neg hc2]
    by_cases hc3 : (e.content.length != e.declSize) = true
    · -- the stream ends with an error: the copy fails
      have hne : (e.content.length : Int) ≠ (e.declSize : Int) := by
        have : e.content.length ≠ e.declSize := by simpa using hc3
        omega
      obtain ⟨w2, hw2⟩ : ∃ w2 : FsW, w2 = { w1 with readErr := some "zip: format error" } := ⟨_, rfl⟩
      have hzf : zfOpen (toZEntry e) w1 = ((e.content, none), w2) := by
        unfold zfOpen
        rw [hw2]
        simp only [toZEntry, hne, ne_eq, not_false_eq_true, if_true]
      have hcp : ∀ data, osCopy dst data w2 =
          (((0 : Int), some "zip: format error"), { w2 with fx := w2.fx ++ [.createExcl dst none] }) := by
        intro data
        unfold osCopy
        rw [hw2]
      refine ⟨{ w2 with fx := w2.fx ++ [.createExcl dst none] }, by rw [hw2]; exact ht1, ?_, ?_⟩
      · rw [if_pos hc3, hw2]
        simp only [List.map_append, hfx1, List.map_cons, List.map_nil, toEffect, List.append_assoc, List.cons_append,
          List.nil_append]
      · rw [if_pos hc3]
        simp only [hmk, hop, hzf, hcp, Option.isNone_some, Option.isNone_none, Bool.not_false, Bool.not_true,
          Bool.false_eq_true, if_false, if_true] at hR
        exact hR.symm
    · -- the stream has exactly the declared length
      have heq : e.content.length = e.declSize := by simpa using hc3
      have hzf : zfOpen (toZEntry e) w1 = ((e.content, none), { w1 with readErr := none }) := by
        unfold zfOpen
        simp only [toZEntry, heq, ne_eq, not_true_eq_false, if_false]
      obtain ⟨w2, hw2⟩ : ∃ w2 : FsW, w2 = { w1 with readErr := none } := ⟨_, rfl⟩
      rw [← hw2] at hzf
      have hlr := limRead_honest e.content e.declSize heq hnn0 hnn64
      have hcp : osCopy dst e.content w2 =
          (((e.content.length : Int), none), { w2 with fx := w2.fx ++ [.createExcl dst (some e.content)] }) := by
        unfold osCopy
        rw [hw2]
      obtain ⟨w3, hw3⟩ : ∃ w3 : FsW, w3 = { w2 with fx := w2.fx ++ [.createExcl dst (some e.content)] } := ⟨_, rfl⟩
      rw [← hw3] at hcp
      have hcl : osClose dst w3 = (none, w3) := rfl
      refine ⟨w3, by rw [hw3, hw2]; exact ht1, ?_, ?_⟩
      · rw [if_neg hc3, hw3, hw2]
        simp only [List.map_append, hfx1, List.map_cons, List.map_nil, toEffect, List.append_assoc, List.cons_append,
          List.nil_append]
      · rw [if_neg hc3]
        simp only [hmk, hop, hzf, hlr, hcp, hcl, Option.isNone_some, Option.isNone_none, Bool.not_false, Bool.not_true,
          Bool.false_eq_true, if_false, if_true, show ¬ ((1 : Int) ≤ 0) by omega, decide_false] at hR
        exact hR.symm

end

section
variable {cv : Bytes → Bytes} {cfp : Bytes → Option String} {ef : Bytes → Bytes → Bool}
  {mc : Bytes → Bytes → Option String} {sf : Int → Int}

theorem loopU_from (me : Option String) (zs : Nat) (d : Bytes) (z : ZReader) (pfx : Bytes) :
    ∀ (rest done : List Zip.Entry) (fuel : Nat) (w : FsW), w.target ≠ 3 →
    (∀ e ∈ rest, isPrefixOfB pfx e.name = true ∧
      (Zip.skipEntry pfx e = false → 0 ≤ Zip.int64OfU64 e.declSize ∧ e.declSize < 2 ^ 64)) →
    rest.length + 1 ≤ fuel →
    (Generated.Zip.Unzip_loop1 cv cfp ef mc sf ((done ++ rest).map toZEntry) d z pfx fuel (done.length : Int) w).map
        ctlOut =
      .ok ((Zip.unzipLoop d pfx (w.fx.map toEffect) rest).2.bind (uerrText me zs),
        (Zip.unzipLoop d pfx (w.fx.map toEffect) rest).1) := by
  intro rest
  induction rest with
  | nil =>
    intro done fuel w _ _ hf
    obtain ⟨fuel, rfl⟩ : ∃ k, fuel = k + 1 := ⟨fuel - 1, by omega⟩
    rw [Generated.Zip.Unzip_loop1]
    simp only [List.append_nil, not_lt_len_map, Bool.false_eq_true, if_false]
    rfl
  | cons e rest ih =>
    intro done fuel w hw hB hf
    obtain ⟨fuel, rfl⟩ : ∃ k, fuel = k + 1 := ⟨fuel - 1, by omega⟩
    have hfB := hB e List.mem_cons_self
    simp only [List.length_cons] at hf
    obtain ⟨w', ht, hfx, heq⟩ := loopU_step (cv := cv) (cfp := cfp) (ef := ef) (mc := mc) (sf := sf) me zs d z pfx done e
      rest fuel w hw hfB.1 hfB.2
    rw [heq]
    have e' : done ++ e :: rest = (done ++ [e]) ++ rest := by simp
    have hl : ((done.length + 1 : Nat) : Int) = ((done ++ [e]).length : Int) := by simp
    have hih := ih (done ++ [e]) fuel w' (by rw [ht]; exact hw) (fun g hg => hB g (List.mem_cons_of_mem _ hg)) (by omega)
    rw [← e', ← hl] at hih
    unfold Zip.unzipLoop
    cases hsk : Zip.skipEntry pfx e with
    | true =>
      rw [hsk] at hfx
      simp only [if_true] at hfx ⊢
      rw [hih, hfx]
    | false =>
      rw [hsk] at hfx
      simp only [Bool.false_eq_true, if_false] at hfx ⊢
      cases hu : Zip.unzipEntry d pfx (w.fx.map toEffect) e with
      | mk fx' o =>
        rw [hu] at hfx
        cases o with
        | some er =>
          simp only [Except.map, ctlOut, hfx, Option.bind_some]
        | none =>
          simp only
          rw [hih, hfx]

/-- the final `match` of `Unzip` on the result of the loop -/
theorem ctl_finish (x : M (Ctl (Option String × FsW) (Int × FsW))) :
    ((x >>= fun r15 => match r15 with
        | Ctl.ret rv16 => (pure rv16 : M (Option String × FsW))
        | Ctl.next (_, world) => pure (none, world))).map (fun r => (r.1, r.2.fx.map toEffect)) = x.map ctlOut := by
  cases x with
  | error e => rfl
  | ok r =>
    cases r with
    | ret rv => obtain ⟨a, b⟩ := rv; rfl
    | next rv => obtain ⟨a, b⟩ := rv; rfl

end

/-- the world before the call, as the driver builds it -/
def world0 (d : Bytes) (t : Zip.Target) (zs : Nat) (es : List Zip.Entry) : FsW :=
  { dir := d, target := targetCode t, archive := osFileOf zs es, openErr := none, fx := [], readErr := none }

end ModVerif.TieFnZipIOUnzip
