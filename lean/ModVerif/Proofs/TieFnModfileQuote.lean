/-
  Helper lemmas for Tie/FnModfile.lean: isIdent, IsDirectoryPath, MustQuote (the range-over-string loop),
  AutoQuote, parseString.

  The generated functions are abstract in `unicode.IsPrint / IsSpace`, `strconv.Quote / Unquote`; they are instantiated
  exactly as the driver Drv/GenModfile.lean runs them: `isPrintI r = UnicodePrint.isPrint r.toNat`,
  `isSpaceI r = UnicodePrint.isSpace r.toNat`, `Quote.quote`, `unquoteI` (= `Quote.unquote` with Go's `(value, error)` shape).

  parseString calls AutoQuote on the UNQUOTED value, which can be longer than the token (an ill-formed byte ≥ 0x80 inside
  a `"…"` token is one byte in and U+FFFD = three bytes out): `unquote_length` bounds it by `4 * length`.
-/
import ModVerif.Generated.FnModfile
import ModVerif.Model.Modfile.Lex
import ModVerif.Model.Modfile.Rule
import ModVerif.Drv.GenModfile
import ModVerif.Proofs.GoRtLemmasStr
import ModVerif.Proofs.GoRtLemmasModfile
import ModVerif.Proofs.ModfileC20Unquote
namespace ModVerif.TieFnModfile
open ModVerif ModVerif.GoRt ModVerif.GoRtStr ModVerif.GoRtModfile ModVerif.Drv.GenModfile

theorem B_lits : B "." = [46] ∧ B "./" = [46, 47] ∧ B ".\\" = [46, 92] ∧ B ".." = [46, 46] ∧ B "../" = [46, 46, 47] ∧
    B "..\\" = [46, 46, 92] ∧ B "/" = [47] ∧ B "\\" = [92] := by decide +kernel

theorem B_module : B "module" = [109, 111, 100, 117, 108, 101] := by decide +kernel

theorem isIdent_eq (c : Int) (h0 : -2147483648 ≤ c) (h1 : c < 2147483648) :
    Generated.Modfile.isIdent isPrintI isSpaceI c = Modfile.isIdent c.toNat := by
  unfold Generated.Modfile.isIdent Modfile.isIdent Modfile.identExcluded
  simp only [toI32_id h0 h1, Id.run, isPrintI, isSpaceI]
  by_cases hc : 0 ≤ c
  · obtain ⟨n, rfl⟩ := Int.eq_ofNat_of_zero_le hc
    simp only [Int.toNat_natCast, List.contains_cons, List.contains_nil, Bool.or_false]
    simp only [show (32 : Int) = ((32 : Nat) : Int) from rfl, show (40 : Int) = ((40 : Nat) : Int) from rfl,
      show (41 : Int) = ((41 : Nat) : Int) from rfl, show (91 : Int) = ((91 : Nat) : Int) from rfl,
      show (93 : Int) = ((93 : Nat) : Int) from rfl, show (123 : Int) = ((123 : Nat) : Int) from rfl,
      show (125 : Int) = ((125 : Nat) : Int) from rfl, show (44 : Int) = ((44 : Nat) : Int) from rfl,
      natCast_eq_lit, Bool.or_assoc]
    split <;> rfl
  · -- a negative rune: no case label matches, and `IsSpace / IsPrint` see `toNat = 0` on both sides
    have e : c.toNat = 0 := by omega
    have hne : ∀ k : Int, 0 ≤ k → decide (c = k) = false := by intro k hk; simp; omega
    rw [e]
    simp only [hne 32 (by omega), hne 40 (by omega), hne 41 (by omega), hne 91 (by omega), hne 93 (by omega),
      hne 123 (by omega), hne 125 (by omega), hne 44 (by omega)]
    simp
    rfl

theorem IsDirectoryPath_eq (ns : Bytes) :
    Generated.Modfile.IsDirectoryPath ns = .ok (Modfile.isDirectoryPath ns) := by
  unfold Generated.Modfile.IsDirectoryPath Modfile.isDirectoryPath
  obtain ⟨h1, h2, h3, h4, h5, h6, h7, h8⟩ := B_lits
  have e : ∀ l : Bytes, (ns == l) = decide (ns = l) := by intro l; rw [Bool.eq_iff_iff]; simp
  simp only [hasPrefix, h1, h2, h3, h4, h5, h6, h7, h8, e]
  apply ite_pure_or
  match ns with
  | [] => rfl
  | [c] => rfl
  | c0 :: c1 :: t =>
    have hl : decide (len (c0 :: c1 :: t) ≥ 2) = true := by simp [len_eq]; omega
    simp only [hl, if_true, idx_zero_cons, idx_one_cons, bind_ok, pure_eq_ok]
    simp only [show (65 : Int) = ((65 : Nat) : Int) from rfl, show (90 : Int) = ((90 : Nat) : Int) from rfl,
      show (97 : Int) = ((97 : Nat) : Int) from rfl, show (122 : Int) = ((122 : Nat) : Int) from rfl,
      show (58 : Int) = ((58 : Nat) : Int) from rfl,
      le_byte _ _ (by decide : 65 < 256), le_byte _ _ (by decide : 97 < 256), byte_le _ _ (by decide : 90 < 256),
      byte_le _ _ (by decide : 122 < 256), byte_eq _ _ (by decide : 58 < 256)]
    simp only [show UInt8.ofNat 65 = 65 from rfl, show UInt8.ofNat 90 = 90 from rfl, show UInt8.ofNat 97 = 97 from rfl,
      show UInt8.ofNat 122 = 122 from rfl, show UInt8.ofNat 58 = 58 from rfl]
    cases decide (65 ≤ c0) <;> cases decide (c0 ≤ 90) <;> cases decide (97 ≤ c0) <;> cases decide (c0 ≤ 122) <;>
      cases (c1 == 58) <;> rfl

/-- the translated `for _, r := range s` loop of MustQuote from byte offset `k` -/
theorem MustQuote_loop1_spec (s : Bytes) : ∀ (fuel k : Nat), k ≤ s.length → s.length - k < fuel →
    Generated.Modfile.MustQuote_loop1 isPrintI s fuel (k : Int) =
      .ok (if Modfile.mustQuoteRunes s.length (Utf8.runes (s.drop k)) then Ctl.ret true
           else Ctl.next (s.length : Int)) := by
  intro fuel
  induction fuel with
  | zero => intro k _ h; omega
  | succ f ih =>
    intro k hk hf
    rw [Generated.Modfile.MustQuote_loop1]
    by_cases hlt : k < s.length
    · have h1 : decide ((k : Int) < len s) = true := by simp [len_eq]; omega
      obtain ⟨r, w, hd, hw1, hw2, hr, _⟩ := range_step s k hlt
      simp only [h1, if_true, hd, hr]
      have hih := ih (k + w) hw2 (by omega)
      rw [Int.natCast_add] at hih
      have hlen : decide (len s > 1) = decide (s.length > 1) := by
        rw [Bool.eq_iff_iff]; simp [len_eq]; omega
      simp only [hih, Modfile.mustQuoteRunes, Modfile.mustQuoteAlways, Modfile.mustQuoteIfLong, isPrintI,
        Int.toNat_natCast, List.contains_cons, List.contains_nil, Bool.or_false, hlen,
        show (32 : Int) = ((32 : Nat) : Int) from rfl, show (34 : Int) = ((34 : Nat) : Int) from rfl,
        show (39 : Int) = ((39 : Nat) : Int) from rfl, show (96 : Int) = ((96 : Nat) : Int) from rfl,
        show (40 : Int) = ((40 : Nat) : Int) from rfl,
        show (41 : Int) = ((41 : Nat) : Int) from rfl, show (91 : Int) = ((91 : Nat) : Int) from rfl,
        show (93 : Int) = ((93 : Nat) : Int) from rfl, show (123 : Int) = ((123 : Nat) : Int) from rfl,
        show (125 : Int) = ((125 : Nat) : Int) from rfl, show (44 : Int) = ((44 : Nat) : Int) from rfl,
        natCast_eq_lit, Bool.or_assoc, pure_eq_ok]
      split
      · rfl
      · split
        · by_cases hl1 : s.length > 1
          · simp [hl1]
          · simp [hl1]
        · split
          · rfl
          · rfl
    · have hk' : k = s.length := by omega
      subst hk'
      have h1 : decide (((s.length : Nat) : Int) < len s) = false := by simp [len_eq]
      simp [h1, Utf8.runes, Utf8.runesAux, Modfile.mustQuoteRunes]

theorem MustQuote_eq (s : Bytes) (fuel : Nat) (hf : s.length + 1 ≤ fuel) :
    Generated.Modfile.MustQuote isPrintI fuel s = .ok (Modfile.mustQuote s) := by
  unfold Generated.Modfile.MustQuote Modfile.mustQuote
  have h := MustQuote_loop1_spec s fuel 0 (by omega) (by omega)
  simp only [Int.natCast_zero, List.drop_zero] at h
  simp only [h, bind_ok, contains_eq]
  cases Modfile.mustQuoteRunes s.length (Utf8.runes s)
  · simp only [Bool.false_eq_true, if_false, Bool.false_or, pure_eq_ok]
    congr 2
    cases s <;> simp
  · rfl

theorem AutoQuote_eq (s : Bytes) (fuel : Nat) (hf : s.length + 1 ≤ fuel) :
    Generated.Modfile.AutoQuote isPrintI Quote.quote fuel s = .ok (Modfile.autoQuote s) := by
  unfold Generated.Modfile.AutoQuote Modfile.autoQuote
  rw [MustQuote_eq s fuel hf]
  cases Modfile.mustQuote s <;> rfl

/-! ### the unquoted value is at most four times as long as the token -/

theorem encode_length_le (r : Nat) : (Utf8.encode r).length ≤ 4 := by
  rw [Utf8.encode_length]; repeat' split
  all_goals omega

theorem charBytes_length_le (r : Nat) (mb : Bool) : (Quote.charBytes r mb).length ≤ 4 := by
  unfold Quote.charBytes; split
  · simp
  · exact encode_length_le r

theorem unquoteChar_tail_le (c : UInt8) (rest : Bytes) (r : Nat) (mb : Bool) (tail : Bytes)
    (h : Quote.unquoteChar (c :: rest) = some (r, mb, tail)) : tail.length ≤ rest.length := by
  rcases Proofs.ModfileC20.unquoteChar_chunk c rest r mb tail h with ⟨rfl, _⟩ | ⟨ch, hs, hne, _⟩
  · exact Nat.le_refl _
  · have := congrArg List.length hs
    have : 0 < ch.length := List.length_pos_iff.mpr hne
    simp at *; omega

theorem unquoteLoop_length : ∀ (fuel : Nat) (s acc out rem : Bytes),
    Quote.unquoteLoop fuel s acc = some (out, rem) →
    out.length + 4 * rem.length + 4 ≤ acc.length + 4 * s.length := by
  intro fuel
  induction fuel with
  | zero => intro s acc out rem h; simp [Quote.unquoteLoop] at h
  | succ n ih =>
    intro s acc out rem h
    unfold Quote.unquoteLoop at h
    cases s with
    | nil => simp at h
    | cons c rest =>
      simp only at h
      split at h
      · simp only [Option.some.injEq, Prod.mk.injEq] at h
        obtain ⟨rfl, rfl⟩ := h
        simp; omega
      · cases huc : Quote.unquoteChar (c :: rest) with
        | none => rw [huc] at h; cases h
        | some v =>
          obtain ⟨r, mb, tail⟩ := v
          rw [huc] at h
          simp only at h
          split at h
          · cases h
          · have h1 := ih _ _ _ _ h
            have h2 := unquoteChar_tail_le c rest r mb tail huc
            have h3 := charBytes_length_le r mb
            simp at h1 ⊢; omega

theorem unquote_length {s t : Bytes} (h : Quote.unquote s = some t) : t.length ≤ 4 * s.length := by
  unfold Quote.unquote at h
  match s, h with
  | [], h => cases h
  | [_], h => cases h
  | q :: r1 :: rest', h =>
    simp only at h
    split at h
    · cases h
    · split at h
      · split at h
        · simp only [Option.some.injEq] at h
          subst h
          have h1 := List.length_filter_le (fun x : UInt8 => x != 13) (List.takeWhile (fun x => x != 96) (r1 :: rest'))
          have h2 := GoRt.length_takeWhile_le (fun x : UInt8 => x != 96) (r1 :: rest')
          simp at h1 h2 ⊢; omega
        · cases h
      · split at h
        · split at h
          · rename_i out hl
            simp only [Option.some.injEq] at h
            subst h
            have := unquoteLoop_length _ _ _ _ _ hl
            simp at this ⊢; omega
          · cases h
        · cases h

/-- the `error` value the translated parseString returns when the model says `none` -/
def parseStringErr (s : Bytes) : Option String :=
  some (if isPrefixOfB [34] s then "invalid syntax" else "unquoted string cannot contain quote")

theorem parseString_eq (s : Bytes) (fuel : Nat) (hf : 4 * s.length + 1 ≤ fuel) :
    Generated.Modfile.parseString isPrintI Quote.quote unquoteI fuel s =
      .ok (match Modfile.parseString s with
        | some (t, tok) => ((t, none), tok)
        | none => (([], parseStringErr s), s)) := by
  unfold Generated.Modfile.parseString Modfile.parseString parseStringErr
  simp only [hasPrefix, GoRt.containsAny]
  by_cases hp : isPrefixOfB [34] s = true
  · cases hu : Quote.unquote s with
    | none => simp only [hp, if_true, unquoteI, hu]; rfl
    | some t =>
      have := unquote_length hu
      simp only [hp, if_true, unquoteI, hu, Option.isNone_none, Bool.not_true, Bool.false_eq_true, if_false]
      rw [AutoQuote_eq t fuel (by omega)]
      rfl
  · by_cases hc : GoStrings.containsAny s [34, 39, 96] = true
    · simp only [hp, hc, Bool.false_eq_true, if_false, if_true]; rfl
    · simp only [hp, hc, Bool.false_eq_true, if_false]
      rw [AutoQuote_eq s fuel (by omega)]
      rfl

end ModVerif.TieFnModfile
