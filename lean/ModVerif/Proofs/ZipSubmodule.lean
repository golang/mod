/-
  C17 `submodule_rule`: the directories the first loop of `checkFiles` records are the module roots of the list, so
  `inSubmodule` tests "below a module root"; `dirPrefixes` are the prefixes that end in a slash; `path.Split` at the last
  slash; a valid go.mod is the root `go.mod`.
-/
import ModVerif.Spec.ZipSpec
import ModVerif.Proofs.ZipNameOK
namespace ModVerif.Proofs.Zip
open ModVerif ModVerif.PathClean ModVerif.Zip ModVerif.ZipSpec

theorem prePass_haveGoMod : ∀ (l : List FileInfo) (a : Pre),
    (l.foldl preStep a).haveGoMod = a.haveGoMod ++ (l.filter isGoModFile).map (fun g => (pathSplit g.path).1)
  | [], a => by simp
  | f :: t, a => by
    rw [List.foldl_cons, prePass_haveGoMod t, preStep_eq]
    by_cases hf : isGoModFile f = true <;> simp [hf]

theorem haveGoMod_iff (files : List FileInfo) (d : Bytes) :
    d ∈ (prePass files).haveGoMod ↔ IsModuleDir files d := by
  unfold prePass
  rw [prePass_haveGoMod]
  simp only [List.nil_append, List.mem_map, List.mem_filter, IsModuleDir, isGoModFile, Bool.and_eq_true, beq_iff_eq]
  constructor
  · rintro ⟨g, ⟨hg, h1, h2⟩, h3⟩; exact ⟨g, hg, h2, h1, h3⟩
  · rintro ⟨g, hg, h1, h2, h3⟩; exact ⟨g, ⟨hg, h2, h1⟩, h3⟩

theorem inSubmodule_iff (files : List FileInfo) (p : Bytes) :
    inSubmodule (prePass files).haveGoMod p = true ↔ ∃ d ∈ dirPrefixes p, IsModuleDir files d := by
  unfold inSubmodule
  rw [List.any_eq_true]
  constructor
  · rintro ⟨d, hd, h⟩
    exact ⟨d, hd, (haveGoMod_iff files d).mp (by simpa using h)⟩
  · rintro ⟨d, hd, h⟩
    exact ⟨d, hd, by simpa using (haveGoMod_iff files d).mpr h⟩

theorem dirPrefixesAux_noSlash : ∀ (b racc : Bytes), (47 : UInt8) ∉ b → dirPrefixesAux racc b = [] := by
  intro b
  induction b with
  | nil => intro _ _; rfl
  | cons c t ih =>
    intro racc h
    have hc : (c == 47) = false := by
      simp; intro e; exact h (by rw [e]; exact List.mem_cons_self)
    unfold dirPrefixesAux
    rw [hc]
    exact ih _ (fun hm => h (List.mem_cons_of_mem _ hm))

theorem dirPrefixesAux_cons (racc : Bytes) (c : UInt8) (rest : Bytes) :
    dirPrefixesAux racc (c :: rest) =
      if c == 47 then (c :: racc).reverse :: dirPrefixesAux (c :: racc) rest else dirPrefixesAux (c :: racc) rest := by
  rw [dirPrefixesAux]

theorem dirPrefixesAux_append (b : Bytes) : ∀ (a racc : Bytes),
    dirPrefixesAux racc (a ++ 47 :: b) =
      dirPrefixesAux racc a ++ (racc.reverse ++ a ++ [47]) :: dirPrefixesAux (47 :: (a.reverse ++ racc)) b := by
  intro a
  induction a with
  | nil => intro racc; simp [dirPrefixesAux]
  | cons c t ih =>
    intro racc
    rw [List.cons_append, dirPrefixesAux_cons racc c (t ++ 47 :: b), dirPrefixesAux_cons racc c t]
    by_cases hc : (c == 47) = true
    · rw [if_pos hc, if_pos hc, ih]; simp
    · rw [if_neg hc, if_neg hc, ih]; simp

theorem dirPrefixes_noSlash (p : Bytes) (h : (47 : UInt8) ∉ p) : dirPrefixes p = [] :=
  dirPrefixesAux_noSlash p [] h

theorem dirPrefixes_split (a b : Bytes) (hb : (47 : UInt8) ∉ b) :
    dirPrefixes (a ++ 47 :: b) = dirPrefixes a ++ [a ++ [47]] := by
  unfold dirPrefixes
  rw [dirPrefixesAux_append, dirPrefixesAux_noSlash b _ hb]
  simp

theorem inSubmodule_noSlash (l : List Bytes) (p : Bytes) (h : (47 : UInt8) ∉ p) : inSubmodule l p = false := by
  unfold inSubmodule
  rw [dirPrefixes_noSlash p h]; rfl

theorem inSubmodule_split (l : List Bytes) (a b : Bytes) (hb : (47 : UInt8) ∉ b) :
    inSubmodule l (a ++ 47 :: b) = (l.contains (a ++ [47]) || inSubmodule l a) := by
  unfold inSubmodule
  rw [dirPrefixes_split a b hb, List.any_append]
  simp [Bool.or_comm]

theorem mem_dirPrefixesAux (a b : Bytes) : ∀ (racc : Bytes),
    racc.reverse ++ a ++ [47] ∈ dirPrefixesAux racc (a ++ 47 :: b) := by
  induction a with
  | nil => intro racc; simp [dirPrefixesAux]
  | cons c t ih =>
    intro racc
    have := ih (c :: racc)
    simp only [List.reverse_cons, List.append_assoc, List.singleton_append] at this
    show _ ∈ dirPrefixesAux racc (c :: (t ++ 47 :: b))
    unfold dirPrefixesAux
    split
    · exact List.mem_cons_of_mem _ (by simpa using this)
    · simpa using this

theorem mem_dirPrefixes (a b : Bytes) : a ++ [47] ∈ dirPrefixes (a ++ 47 :: b) := by
  have := mem_dirPrefixesAux a b []
  simpa [dirPrefixes] using this

theorem dirPrefixesAux_sound : ∀ (p racc d : Bytes), d ∈ dirPrefixesAux racc p →
    ∃ a b, p = a ++ 47 :: b ∧ d = racc.reverse ++ a ++ [47] := by
  intro p
  induction p with
  | nil => intro racc d h; simp [dirPrefixesAux] at h
  | cons c t ih =>
    intro racc d h
    unfold dirPrefixesAux at h
    split at h
    · rename_i hc
      have hc' : c = 47 := by simpa using hc
      rcases List.mem_cons.mp h with h | h
      · exact ⟨[], t, by rw [hc']; rfl, by rw [h, hc']; simp⟩
      · obtain ⟨a, b, h1, h2⟩ := ih _ _ h
        exact ⟨c :: a, b, by rw [h1]; rfl, by rw [h2]; simp⟩
    · obtain ⟨a, b, h1, h2⟩ := ih _ _ h
      exact ⟨c :: a, b, by rw [h1]; rfl, by rw [h2]; simp⟩

theorem mem_dirPrefixes_iff (p d : Bytes) : d ∈ dirPrefixes p ↔ ∃ a b, p = a ++ 47 :: b ∧ d = a ++ [47] := by
  constructor
  · intro h
    obtain ⟨a, b, h1, h2⟩ := dirPrefixesAux_sound p [] d h
    exact ⟨a, b, h1, by simpa using h2⟩
  · rintro ⟨a, b, rfl, rfl⟩; exact mem_dirPrefixes a b


theorem pathSplit_spec (p : Bytes) :
    p = (pathSplit p).1 ++ (pathSplit p).2 ∧ (pathSplit p).2 = lastElem p ∧
    ((pathSplit p).1 = [] ∨ ∃ a, (pathSplit p).1 = a ++ [47]) := by
  have key : ∀ tw dw : Bytes, p.reverse = tw ++ dw → p = dw.reverse ++ tw.reverse := by
    intro tw dw h
    have := congrArg List.reverse h
    simpa using this
  have hp : p = (p.reverse.dropWhile (· != 47)).reverse ++ (p.reverse.takeWhile (· != 47)).reverse :=
    key _ _ (List.takeWhile_append_dropWhile).symm
  have htake : ∀ a b : Bytes, (a ++ b).take ((a ++ b).length - b.length) = a := by
    intro a b; simp
  have hdir : (pathSplit p).1 = (p.reverse.dropWhile (· != 47)).reverse := by
    show p.take (p.length - (lastElem p).length) = _
    have h2 := htake (p.reverse.dropWhile (· != 47)).reverse (p.reverse.takeWhile (· != 47)).reverse
    rw [← hp] at h2
    exact h2
  refine ⟨?_, rfl, ?_⟩
  · rw [hdir]; exact hp
  · rw [hdir]
    cases hd : p.reverse.dropWhile (· != 47) with
    | nil => left; rfl
    | cons c t =>
      right
      have := List.head?_dropWhile_not (fun x : UInt8 => x != 47) p.reverse
      rw [hd] at this
      simp at this
      exact ⟨t.reverse, by rw [this]; simp⟩


theorem isRootGoMod_path (f : FileInfo) (h : isRootGoMod f = true) : f.path = goModName := by
  unfold isRootGoMod isGoModFile at h
  simp only [Bool.and_eq_true, beq_iff_eq] at h
  obtain ⟨h1, _, _⟩ := pathSplit_spec f.path
  rw [h1, h.2, h.1.2]; rfl

theorem goMod_below_root_inSubmodule (files : List FileInfo) (f : FileInfo) (hf : f ∈ files)
    (hreg : f.mode = .regular) (hgm : equalFoldGoMod (lastElem f.path) = true)
    (hdir : (pathSplit f.path).1 ≠ []) : inSubmodule (prePass files).haveGoMod f.path = true := by
  obtain ⟨h1, h2, h3⟩ := pathSplit_spec f.path
  rcases h3 with h3 | ⟨a, ha⟩
  · exact absurd h3 hdir
  · rw [inSubmodule_iff]
    refine ⟨(pathSplit f.path).1, ?_, f, hf, hreg, by rw [h2]; exact hgm, rfl⟩
    rw [mem_dirPrefixes_iff]
    exact ⟨a, (pathSplit f.path).2, by rw [ha] at h1; simpa using h1, ha⟩

theorem valid_goMod_is_root (E : Env) (ge124 : Bool) (files : List FileInfo) (f : FileInfo) (hf : f ∈ files)
    (ok : NameOK E ge124 (prePass files).haveGoMod f) (hgm : equalFoldGoMod (lastElem f.path) = true) :
    f.path = goModName := by
  by_cases hdir : (pathSplit f.path).1 = []
  · obtain ⟨h1, h2, _⟩ := pathSplit_spec f.path
    rw [hdir, h2] at h1
    apply ok.goModCase
    have : f.path = lastElem f.path := by simpa using h1
    unfold toLowerIsGoMod
    rw [this]; exact hgm
  · have := goMod_below_root_inSubmodule files f hf ok.regular hgm hdir
    rw [ok.notInSubmodule] at this; cases this

end ModVerif.Proofs.Zip
