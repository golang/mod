/-
  Executable sufficient conditions for the hypotheses of `untouched_lines_survive_work` (for concrete
  instances): `invWB` (the go.work tree invariant), `runValidWB` (`RunValidW`), `sparedWB` (`SparedW`).
-/
import ModVerif.Proofs.EditWorkKeepA
namespace ModVerif.Modfile.Edit
open ModVerif ModVerif.Modfile

def entUB (u : Use) : EntB := ⟨u.lineId, fun t _ => t == [B "use", autoQuote u.path]⟩

theorem dU (u : Use) : Decides (entUB u) (entU u) := ⟨rfl, fun t s h => by simpa [entUB, entU] using h⟩

def entriesWB (f : WorkFile) : List EntB :=
  f.go.toList.map entGoB ++ (f.toolchain.toList.map entTcB ++ (entsOfB liveG entGB f.godebug ++
    (entsOfB liveU entUB f.use ++ entsOfB liveRp entRpB f.replace)))

theorem entriesW_ids_eq (f : WorkFile) : (entriesW f).map (·.id) = (entriesWB f).map (·.id) := by
  simp only [entriesW, entriesWB, entsOf, entsOfB, List.map_append, List.map_map]
  rfl

theorem entriesW_to_B (f : WorkFile) : ∀ en ∈ entriesW f, ∃ p ∈ entriesWB f, Decides p en := by
  intro en hen
  simp only [entriesW, entsOf, List.mem_append, List.mem_map] at hen
  rcases hen with ⟨x, hx, rfl⟩ | ⟨x, hx, rfl⟩ | ⟨x, hx, rfl⟩ | ⟨x, hx, rfl⟩ | ⟨x, hx, rfl⟩
  · exact ⟨entGoB x, by simp only [entriesWB, entsOfB, List.mem_append, List.mem_map]; exact Or.inl ⟨x, hx, rfl⟩, dGo x⟩
  · exact ⟨entTcB x, by simp only [entriesWB, entsOfB, List.mem_append, List.mem_map]; exact Or.inr (Or.inl ⟨x, hx, rfl⟩), dTc x⟩
  · exact ⟨entGB x, by
      simp only [entriesWB, entsOfB, List.mem_append, List.mem_map]; exact Or.inr (Or.inr (Or.inl ⟨x, hx, rfl⟩)), dG x⟩
  · exact ⟨entUB x, by
      simp only [entriesWB, entsOfB, List.mem_append, List.mem_map]; exact Or.inr (Or.inr (Or.inr (Or.inl ⟨x, hx, rfl⟩))), dU x⟩
  · exact ⟨entRpB x, by
      simp only [entriesWB, entsOfB, List.mem_append, List.mem_map]; exact Or.inr (Or.inr (Or.inr (Or.inr ⟨x, hx, rfl⟩))), dRp x⟩

theorem entriesWB_to (f : WorkFile) : ∀ p ∈ entriesWB f, ∃ en ∈ entriesW f, en.id = p.id := by
  intro p hp
  have : p.id ∈ (entriesW f).map (·.id) := by rw [entriesW_ids_eq]; exact List.mem_map.2 ⟨p, hp, rfl⟩
  rcases List.mem_map.1 this with ⟨en, hen, hid⟩
  exact ⟨en, hen, hid⟩

theorem matchWB_sound (f : WorkFile) (vs : List VLine) (h : matchB (entriesWB f) vs = true) : Match (entriesW f) vs := by
  simp only [matchB, Bool.and_eq_true, decide_eq_true_eq, List.all_eq_true, List.any_eq_true, beq_iff_eq] at h
  rcases h with ⟨⟨h1, h2⟩, h3⟩
  refine ⟨by rw [entriesW_ids_eq]; exact h1, ?_, ?_⟩
  · intro en hen
    rcases entriesW_to_B f en hen with ⟨p, hp, hid, hacc⟩
    rcases h2 p hp with ⟨v, hv, hvid, hb⟩
    exact ⟨v, hv, hvid.trans hid, hacc _ _ hb⟩
  · intro v hv
    rcases h3 v hv with ⟨p, hp, hid⟩
    rcases entriesWB_to f p hp with ⟨en, hen, hid'⟩
    exact ⟨en, hen, hid'.trans hid⟩

def winvB (e : EWork) : Bool :=
  idWFB liveRp (·.lineId) e.f.replace && decide (liveIds liveRp (·.lineId) e.f.replace).Nodup &&
    (liveIds liveRp (·.lineId) e.f.replace).all (fun i => decide (i < e.next)) && decide (0 < e.next)

theorem winvB_sound (e : EWork) (h : winvB e = true) : WInv e := by
  simp only [winvB, Bool.and_eq_true, decide_eq_true_eq, List.all_eq_true] at h
  rcases h with ⟨⟨⟨h1, h2⟩, h3⟩, h4⟩
  exact ⟨idWFB_sound _ _ _ h1, h2, h3, h4⟩

def invWB (e : EWork) : Bool :=
  treeWFB e.f.syn.stmts e.next && matchB (entriesWB e.f) (view e.f.syn.stmts) && winvB e

theorem invWB_sound (e : EWork) (h : invWB e = true) : InvW e := by
  simp only [invWB, Bool.and_eq_true] at h
  exact ⟨treeWFB_sound _ _ h.1.1, matchWB_sound _ _ h.1.2, winvB_sound _ h.2⟩

def validArgsWB : Op → Bool
  | .addGodebug k _ => !k.isEmpty
  | .dropGodebug k => !k.isEmpty
  | .addUse d _ => !d.isEmpty
  | .addNewUse d _ => !d.isEmpty
  | .dropUse d => !d.isEmpty
  | .setUse _ _ => false
  | .addReplace op _ _ _ => !op.isEmpty
  | .dropReplace op _ => !op.isEmpty
  | _ => true

theorem validArgsWB_sound (op : Op) (h : validArgsWB op = true) : ValidArgsW op := by
  cases op <;> simp only [validArgsWB, ValidArgsW] at h ⊢ <;>
    first
      | trivial
      | exact isEmpty_false_ne h
      | (cases h; done)

def goodUseB (w : List (Bytes × Bytes)) : Bool := decide (w.Pairwise (fun a b => a.1 ≠ b.1)) && w.all (fun x => !x.1.isEmpty)

theorem goodUseB_sound (w : List (Bytes × Bytes)) (h : goodUseB w = true) : GoodUse w := by
  simp only [goodUseB, Bool.and_eq_true, decide_eq_true_eq, List.all_eq_true] at h
  exact ⟨h.1, fun x hx => isEmpty_false_ne (h.2 x hx)⟩

def validArgsWAllB (e : EWork) : Op → Bool
  | .setUse w _ => goodUseB w && e.f.use.all liveU
  | op => validArgsWB op

theorem validArgsWAllB_sound (e : EWork) (op : Op) (h : validArgsWAllB e op = true) : ValidArgsWAll e op := by
  cases op <;> first
    | (simp only [validArgsWAllB, Bool.and_eq_true] at h
       exact ⟨goodUseB_sound _ h.1, List.all_eq_true.1 h.2⟩)
    | (simp only [ValidArgsWAll]; exact validArgsWB_sound _ h)

def runValidWB : EWork → List Op → Bool
  | _, [] => true
  | e, op :: ops =>
    validArgsWAllB e op &&
      (match applyWork e op with
       | some (.ok e') => runValidWB e' ops
       | some (.error err) => !err.isReturned || runValidWB e ops
       | none => true)

theorem runValidWB_sound (ops : List Op) : ∀ e : EWork, runValidWB e ops = true → RunValidW e ops := by
  induction ops with
  | nil => intro e _; trivial
  | cons op ops ih =>
    intro e h
    simp only [runValidWB, Bool.and_eq_true] at h
    refine ⟨validArgsWAllB_sound e op h.1, ?_, ?_⟩
    · intro e' ha
      have := h.2; rw [ha] at this
      exact ih e' this
    · intro err ha hr
      have := h.2; rw [ha] at this
      simp only [hr, Bool.not_true, Bool.false_or] at this
      exact ih e this

def opVerbW : Op → Option Bytes
  | .addGo _ => some (B "go")
  | .dropGo => some (B "go")
  | .addToolchain _ => some (B "toolchain")
  | .dropToolchain => some (B "toolchain")
  | .addGodebug _ _ => some (B "godebug")
  | .dropGodebug _ => some (B "godebug")
  | .addUse _ _ => some (B "use")
  | .dropUse _ => some (B "use")
  | .setUse _ _ => some (B "use")
  | .addReplace _ _ _ _ => some (B "replace")
  | .dropReplace _ _ => some (B "replace")
  | _ => none

theorem targetsW_verb (op : Op) (t : List Bytes) (h : TargetsW op t) : ∃ v, opVerbW op = some v ∧ t.head? = some v := by
  cases op <;> simp only [TargetsW] at h <;> simp only [opVerbW]
  all_goals first
    | exact h.elim
    | exact ⟨_, rfl, h⟩
    | (rcases h with ⟨v, rfl⟩; exact ⟨_, rfl, rfl⟩)
    | (subst h; exact ⟨_, rfl, rfl⟩)
    | (rcases h with ⟨r, _, rfl⟩; exact ⟨_, rfl, rfl⟩)
    | (rcases h with ⟨r, _, _, rfl⟩; exact ⟨_, rfl, rfl⟩)

/-- sufficient for `SparedW`, not equivalent: it compares verbs only -/
def sparedWB (toks : List Bytes) (id : Nat) : EWork → List Op → Bool
  | _, [] => true
  | e, op :: ops =>
    (match opVerbW op with
     | some v => toks.head? != some v
     | none => true) &&
    (!SortsW op || !(killEarlier e.f.replace).contains id) &&
      (match applyWork e op with
       | some (.ok e') => sparedWB toks id e' ops
       | some (.error err) => !err.isReturned || sparedWB toks id e ops
       | none => true)

theorem sparedWB_sound (toks : List Bytes) (id : Nat) (ops : List Op) :
    ∀ e : EWork, sparedWB toks id e ops = true → SparedW toks id e ops := by
  induction ops with
  | nil => intro e _; trivial
  | cons op ops ih =>
    intro e h
    simp only [sparedWB, Bool.and_eq_true] at h
    refine ⟨?_, ?_, ?_, ?_⟩
    · intro ht
      rcases targetsW_verb op toks ht with ⟨v, hv, hh⟩
      have := h.1.1
      rw [hv] at this
      simp [hh] at this
    · intro hs hk
      have := h.1.2
      simp [hs, hk] at this
    · intro e' ha
      have := h.2; rw [ha] at this
      exact ih e' this
    · intro err ha hr
      have := h.2; rw [ha] at this
      simp only [hr, Bool.not_true, Bool.false_or] at this
      exact ih e this

end ModVerif.Modfile.Edit
