/-
  C03: the iterative verification algorithms of RFC 9162 §2.1.3.2 / §2.1.4.2 (`RFC6962.verifyInclusion`,
  `RFC6962.verifyConsistency`) accept exactly the tuples accepted by root recomputation along the
  RFC 6962 recursion (`AcceptIncl`, `AcceptCons`).  Specification level only.

  Method: a forward simulation, by induction over the top-down recursion, of the bottom-up loop on the
  proof prefix that belongs to a subtree embedded in a larger tree (`a`, `b` = the bits of fn / sn above
  the subtree): for a COMPLETE subtree with `a < b` the loop leaves `(a, b)` (`incl_complete`); for a
  subtree on the right spine (`a = b = c`) it leaves `(c·2^e, c·2^e)` for some `e` (`incl_spine`), and
  the next step (left sibling, then "shift until odd") does not depend on `e` (`inclLoop_spine_step`).
-/
import ModVerif.Spec.RFC6962
import ModVerif.Proofs.TlogMerkleSpec
namespace ModVerif.RFC6962

theorem splitPoint_pow_split (t m : Nat) (h2 : 2 ≤ t) (hm : t ≤ 2 ^ m) :
    ∃ j d, splitPoint t = 2 ^ j ∧ 2 ^ m = 2 * (2 ^ d * 2 ^ j) := by
  have hs := splitPoint_spec t h2
  refine ⟨(t - 1).log2, m - (t - 1).log2 - 1, rfl, ?_⟩
  have hlt : (t - 1).log2 < m := by
    have : 2 ^ (t - 1).log2 < 2 ^ m := by unfold splitPoint at hs; omega
    exact (Nat.pow_lt_pow_iff_right (by omega : 1 < 2)).mp this
  have : m = (m - (t - 1).log2 - 1) + (t - 1).log2 + 1 := by omega
  conv => lhs; rw [this]
  rw [Nat.pow_succ, Nat.pow_add]; omega

theorem shiftUntil_odd_pow : ∀ e f o, o % 2 = 1 → e ≤ f → shiftUntil f (o * 2 ^ e) (o * 2 ^ e) = (o, o) := by
  intro e
  induction e with
  | zero =>
    intro f o ho _
    cases f with
    | zero => simp [shiftUntil]
    | succ f => simp [shiftUntil, ho]
  | succ e ih =>
    intro f o ho hf
    cases f with
    | zero => omega
    | succ f =>
      have hpos := Nat.two_pow_pos e
      have h1 : o * 2 ^ (e + 1) = 2 * (o * 2 ^ e) := by rw [Nat.pow_succ]; ac_rfl
      have hne : o * 2 ^ e ≠ 0 := Nat.ne_of_gt (Nat.mul_pos (by omega) hpos)
      rw [h1]
      unfold shiftUntil
      have hc : ¬ ((2 * (o * 2 ^ e)) % 2 = 1 ∨ 2 * (o * 2 ^ e) = 0) := by omega
      rw [if_neg hc]
      have : 2 * (o * 2 ^ e) / 2 = o * 2 ^ e := by omega
      rw [this]
      exact ih f o ho (by omega)

section
variable {H : Type} [DecidableEq H] (node : H → H → H)

/-- one loop step on the right spine: at `(o·2^e, o·2^e)` with `o` odd the next proof hash is a left sibling and
    the state becomes `(o/2, o/2)`, whatever `e` is -/
theorem inclLoop_spine_step (q : H) (qs : List H) (o e : Nat) (r : H) (ho : o % 2 = 1) :
    inclLoop node (q :: qs) (o * 2 ^ e) (o * 2 ^ e) r = inclLoop node qs (o / 2) (o / 2) (node q r) := by
  have hpos := Nat.two_pow_pos e
  have hne : o * 2 ^ e ≠ 0 := Nat.ne_of_gt (Nat.mul_pos (by omega) hpos)
  conv => lhs; rw [inclLoop]
  rw [if_neg hne, if_pos (Or.inr rfl)]
  by_cases hev : (o * 2 ^ e) % 2 = 0
  · rw [if_pos hev, shiftUntil_odd_pow e _ o ho (Nat.le_of_lt (Nat.lt_of_lt_of_le Nat.lt_two_pow_self
      (Nat.le_mul_of_pos_left _ (by omega))))]
  · rw [if_neg hev]
    cases e with
    | zero => simp
    | succ e => exfalso; apply hev; rw [Nat.pow_succ, ← Nat.mul_assoc]; omega

/-- complete subtree of size `2^M`, embedded with `a < b`: the loop consumes exactly its part of the proof, takes
    `M` single steps directed by the bits of `n`, and leaves `(a, b)` -/
theorem incl_complete : ∀ M f (p1 : List H) n h r1 a b s0 rest, 2 ^ M ≤ f → n < 2 ^ M → s0 < 2 ^ M → a < b →
    inclRootF node f p1 (2 ^ M) n h = some r1 →
    inclLoop node (p1 ++ rest) (n + a * 2 ^ M) (s0 + b * 2 ^ M) h = inclLoop node rest a b r1 := by
  intro M
  induction M with
  | zero =>
    intro f p1 n h r1 a b s0 rest hf hn hs0 hab hacc
    cases f with
    | zero => simp at hf
    | succ f =>
      unfold inclRootF at hacc
      simp only [Nat.pow_zero, Nat.le_refl, ↓reduceIte] at hacc
      cases p1 with
      | nil =>
        simp at hacc
        have : n = 0 := by simpa using hn
        have : s0 = 0 := by simpa using hs0
        subst_vars
        simp
      | cons x xs => simp at hacc
  | succ M ih =>
    intro f p1 n h r1 a b s0 rest hf hn hs0 hab hacc
    have hK := Nat.two_pow_pos M
    have hpow : 2 ^ (M + 1) = 2 * 2 ^ M := by rw [Nat.pow_succ]; omega
    cases f with
    | zero => omega
    | succ f =>
      unfold inclRootF at hacc
      rw [if_neg (by omega)] at hacc
      cases hp : p1.getLast? with
      | none => rw [hp] at hacc; cases hacc
      | some last =>
        rw [hp] at hacc
        simp only [splitPoint_two_pow] at hacc
        obtain ⟨ys, rfl⟩ := List.getLast?_eq_some_iff.mp hp
        simp only [List.dropLast_concat] at hacc
        -- the bit of s0 at position M
        obtain ⟨β, s0', hβ, hs0', hs0eq⟩ : ∃ β s0', β ≤ 1 ∧ s0' < 2 ^ M ∧ s0 = s0' + β * 2 ^ M := by
          by_cases hlt : s0 < 2 ^ M
          · exact ⟨0, s0, by omega, hlt, by omega⟩
          · exact ⟨1, s0 - 2 ^ M, by omega, by omega, by omega⟩
        have hsn : s0 + b * 2 ^ (M + 1) = s0' + (2 * b + β) * 2 ^ M := by
          have e2 : b * 2 ^ (M + 1) = (2 * b) * 2 ^ M := by rw [Nat.pow_succ]; ac_rfl
          rw [hs0eq, e2, Nat.add_mul]; omega
        by_cases hk : n < 2 ^ M
        · rw [if_pos hk] at hacc
          cases hr : inclRootF node f ys (2 ^ M) n h with
          | none => rw [hr] at hacc; cases hacc
          | some r0 =>
            rw [hr] at hacc
            have hr1 : r1 = node r0 last := by simpa using hacc.symm
            have hfn : n + a * 2 ^ (M + 1) = n + (2 * a) * 2 ^ M := by
              have e1 : a * 2 ^ (M + 1) = (2 * a) * 2 ^ M := by rw [Nat.pow_succ]; ac_rfl
              rw [e1]
            rw [List.append_assoc, hfn, hsn,
              ih f ys n h r0 (2 * a) (2 * b + β) s0' ([last] ++ rest) (by omega) hk hs0' (by omega) hr]
            show inclLoop node (last :: rest) (2 * a) (2 * b + β) r0 = _
            conv => lhs; rw [inclLoop]
            rw [if_neg (by omega), if_neg (by omega), hr1]
            congr 1 <;> omega
        · rw [if_neg hk] at hacc
          have hsz : 2 ^ (M + 1) - 2 ^ M = 2 ^ M := by omega
          rw [hsz] at hacc
          cases hr : inclRootF node f ys (2 ^ M) (n - 2 ^ M) h with
          | none => rw [hr] at hacc; cases hacc
          | some r0 =>
            rw [hr] at hacc
            have hr1 : r1 = node last r0 := by simpa using hacc.symm
            have hfn : n + a * 2 ^ (M + 1) = (n - 2 ^ M) + (2 * a + 1) * 2 ^ M := by
              have e1 : a * 2 ^ (M + 1) = (2 * a) * 2 ^ M := by rw [Nat.pow_succ]; ac_rfl
              rw [e1, Nat.add_mul]; omega
            rw [List.append_assoc, hfn, hsn,
              ih f ys (n - 2 ^ M) h r0 (2 * a + 1) (2 * b + β) s0' ([last] ++ rest) (by omega) (by omega) hs0'
                (by omega) hr]
            show inclLoop node (last :: rest) (2 * a + 1) (2 * b + β) r0 = _
            conv => lhs; rw [inclLoop]
            rw [if_neg (by omega), if_pos (Or.inl (by omega)), if_neg (by omega), hr1]
            show inclLoop node rest ((2 * a + 1) / 2) ((2 * b + β) / 2) (node last r0) = _
            have d1 : (2 * a + 1) / 2 = a := by omega
            have d2 : (2 * b + β) / 2 = b := by omega
            rw [d1, d2]

/-- subtree of size `t ≤ 2^m` on the right spine (`fn` and `sn` carry the same bits `c` above it): the loop consumes
    exactly its part of the proof and leaves `(c·2^e, c·2^e)` for some `e` -/
theorem incl_spine : ∀ f t (p1 : List H) n h r1 c m, t ≤ f → n < t → t ≤ 2 ^ m →
    inclRootF node f p1 t n h = some r1 →
    ∃ e, ∀ rest, inclLoop node (p1 ++ rest) (n + c * 2 ^ m) (t - 1 + c * 2 ^ m) h =
      inclLoop node rest (c * 2 ^ e) (c * 2 ^ e) r1 := by
  intro f
  induction f with
  | zero => intro t p1 n h r1 c m hf hn; omega
  | succ f ih =>
    intro t p1 n h r1 c m hf hn hm hacc
    unfold inclRootF at hacc
    by_cases ht : t ≤ 1
    · rw [if_pos ht] at hacc
      have ht1 : t = 1 := by omega
      have hn0 : n = 0 := by omega
      cases p1 with
      | nil =>
        simp at hacc
        subst ht1; subst hn0; subst hacc
        exact ⟨m, fun rest => by simp⟩
      | cons x xs => simp at hacc
    · rw [if_neg ht] at hacc
      have hs := splitPoint_spec t (by omega)
      obtain ⟨j, d, hj, hpm⟩ := splitPoint_pow_split t m (by omega) hm
      cases hp : p1.getLast? with
      | none => rw [hp] at hacc; cases hacc
      | some last =>
        rw [hp] at hacc
        obtain ⟨ys, rfl⟩ := List.getLast?_eq_some_iff.mp hp
        simp only [List.dropLast_concat] at hacc
        -- c·2^m = 2·(c·2^d)·2^j
        have hcm : c * 2 ^ m = (2 * (c * 2 ^ d)) * 2 ^ j := by rw [hpm]; ac_rfl
        by_cases hk : n < splitPoint t
        · rw [if_pos hk] at hacc
          cases hr : inclRootF node f ys (splitPoint t) n h with
          | none => rw [hr] at hacc; cases hacc
          | some r0 =>
            rw [hr] at hacc
            have hr1 : r1 = node r0 last := by simpa using hacc.symm
            refine ⟨d, fun rest => ?_⟩
            have hsn : t - 1 + c * 2 ^ m = (t - 1 - 2 ^ j) + (2 * (c * 2 ^ d) + 1) * 2 ^ j := by
              rw [hcm, Nat.add_mul]; omega
            have hfn : n + c * 2 ^ m = n + (2 * (c * 2 ^ d)) * 2 ^ j := by rw [hcm]
            rw [hj] at hr hk hs
            rw [List.append_assoc, hfn, hsn,
              incl_complete node j f ys n h r0 (2 * (c * 2 ^ d)) (2 * (c * 2 ^ d) + 1) (t - 1 - 2 ^ j) ([last] ++ rest)
                (by omega) hk (by omega) (by omega) hr]
            show inclLoop node (last :: rest) (2 * (c * 2 ^ d)) (2 * (c * 2 ^ d) + 1) r0 = _
            conv => lhs; rw [inclLoop]
            rw [if_neg (by omega), if_neg (by omega), hr1]
            have d1 : 2 * (c * 2 ^ d) / 2 = c * 2 ^ d := by omega
            have d2 : (2 * (c * 2 ^ d) + 1) / 2 = c * 2 ^ d := by omega
            rw [d1, d2]
        · rw [if_neg hk] at hacc
          cases hr : inclRootF node f ys (t - splitPoint t) (n - splitPoint t) h with
          | none => rw [hr] at hacc; cases hacc
          | some r0 =>
            rw [hr] at hacc
            have hr1 : r1 = node last r0 := by simpa using hacc.symm
            rw [hj] at hr hk hs
            obtain ⟨e', he'⟩ := ih (t - 2 ^ j) ys (n - 2 ^ j) h r0 (2 * (c * 2 ^ d) + 1) j (by omega) (by omega) (by omega) hr
            refine ⟨d, fun rest => ?_⟩
            have hfn : n + c * 2 ^ m = (n - 2 ^ j) + (2 * (c * 2 ^ d) + 1) * 2 ^ j := by
              rw [hcm, Nat.add_mul]; omega
            have hsn : t - 1 + c * 2 ^ m = (t - 2 ^ j - 1) + (2 * (c * 2 ^ d) + 1) * 2 ^ j := by
              rw [hcm, Nat.add_mul]; omega
            rw [List.append_assoc, hfn, hsn, he' ([last] ++ rest)]
            show inclLoop node (last :: rest) _ _ r0 = _
            rw [inclLoop_spine_step node last rest _ e' r0 (by omega), hr1]
            have d1 : (2 * (c * 2 ^ d) + 1) / 2 = c * 2 ^ d := by omega
            rw [d1]

/-- the number of hashes the recursion consumes -/
def inclLenF : Nat → Nat → Nat → Nat
  | 0, _, _ => 0
  | f + 1, t, n =>
    if t ≤ 1 then 0
    else if n < splitPoint t then inclLenF f (splitPoint t) n + 1
    else inclLenF f (t - splitPoint t) (n - splitPoint t) + 1

omit [DecidableEq H] in
theorem inclRootF_some_of_len : ∀ f (p : List H) t n h, t ≤ f → 1 ≤ t → p.length = inclLenF f t n →
    ∃ r, inclRootF node f p t n h = some r := by
  intro f
  induction f with
  | zero => intro p t n h hf ht; omega
  | succ f ih =>
    intro p t n h hf ht hlen
    unfold inclLenF at hlen
    unfold inclRootF
    by_cases h1 : t ≤ 1
    · rw [if_pos h1] at hlen
      rw [if_pos h1]
      have : p = [] := List.eq_nil_of_length_eq_zero hlen
      subst this
      exact ⟨h, rfl⟩
    · rw [if_neg h1] at hlen
      rw [if_neg h1]
      have hs := splitPoint_spec t (by omega)
      have hne : p ≠ [] := by
        intro hc; subst hc; split at hlen <;> simp at hlen
      obtain ⟨ys, last, rfl⟩ : ∃ ys last, p = ys ++ [last] :=
        ⟨p.dropLast, p.getLast hne, (List.dropLast_concat_getLast hne).symm⟩
      simp only [List.getLast?_append, List.getLast?_singleton, Option.some_or, List.dropLast_concat]
      simp only [List.length_append, List.length_singleton] at hlen
      by_cases hk : n < splitPoint t
      · rw [if_pos hk] at hlen
        rw [if_pos hk]
        obtain ⟨r, hr⟩ := ih ys (splitPoint t) n h (by omega) (by omega) (by omega)
        exact ⟨_, by rw [hr]; rfl⟩
      · rw [if_neg hk] at hlen
        rw [if_neg hk]
        obtain ⟨r, hr⟩ := ih ys (t - splitPoint t) (n - splitPoint t) h (by omega) (by omega) (by omega)
        exact ⟨_, by rw [hr]; rfl⟩

theorem inclLoop_append_none : ∀ (p : List H) fn sn r r' (ext : List H), inclLoop node p fn sn r = some (0, r') →
    ext ≠ [] → inclLoop node (p ++ ext) fn sn r = none := by
  intro p
  induction p with
  | nil =>
    intro fn sn r r' ext h hext
    simp only [inclLoop, Option.some.injEq, Prod.mk.injEq] at h
    cases ext with
    | nil => exact absurd rfl hext
    | cons x xs => simp [inclLoop, h.1]
  | cons q qs ih =>
    intro fn sn r r' ext h hext
    rw [List.cons_append]
    rw [inclLoop] at h ⊢
    split
    · rfl
    · rename_i hsn
      rw [if_neg hsn] at h
      split
      · rename_i hc
        rw [if_pos hc] at h
        exact ih _ _ _ r' ext h hext
      · rename_i hc
        rw [if_neg hc] at h
        exact ih _ _ _ r' ext h hext

/-- ★ RFC 9162 §2.1.3.2 accepts exactly the tuples accepted by root recomputation along the RFC 6962 recursion -/
theorem rfc9162_incl_equiv (p : List H) (t n : Nat) (h root : H) :
    verifyInclusion node p t n h root = true ↔ AcceptIncl node p t n h root := by
  unfold verifyInclusion AcceptIncl
  by_cases hn : n < t
  · have hge : ¬ n ≥ t := by omega
    rw [if_neg hge]
    have hpow : t ≤ 2 ^ t := Nat.le_of_lt Nat.lt_two_pow_self
    -- forward simulation from the top: c = 0
    have sim : ∀ p1 rest r1, inclRootF node t p1 t n h = some r1 →
        inclLoop node (p1 ++ rest) n (t - 1) h = inclLoop node rest 0 0 r1 := by
      intro p1 rest r1 hacc
      obtain ⟨e, he⟩ := incl_spine node t t p1 n h r1 0 t (Nat.le_refl _) hn hpow hacc
      have := he rest
      simpa using this
    constructor
    · intro hv
      refine ⟨hn, ?_⟩
      cases hl : inclLoop node p n (t - 1) h with
      | none => rw [hl] at hv; cases hv
      | some res =>
        obtain ⟨sn, r⟩ := res
        rw [hl] at hv
        simp only [decide_eq_true_eq] at hv
        obtain ⟨hsn, hr⟩ := hv
        subst hsn; subst hr
        rcases Nat.lt_trichotomy p.length (inclLenF t t n) with hlt | heq | hgt
        · -- too short: padding the proof would both succeed (simulation) and fail (`sn = 0` reached early)
          exfalso
          let ext := List.replicate (inclLenF t t n - p.length) h
          obtain ⟨r1, hr1⟩ := inclRootF_some_of_len node t (p ++ ext) t n h (Nat.le_refl _) (by omega)
            (by simp [ext]; omega)
          have h1 := sim (p ++ ext) [] r1 hr1
          rw [List.append_nil] at h1
          have h2 := inclLoop_append_none node p n (t - 1) h r ext hl
            (by intro hc; have := congrArg List.length hc; simp [ext] at this; omega)
          rw [h2] at h1
          simp [inclLoop] at h1
        · obtain ⟨r1, hr1⟩ := inclRootF_some_of_len node t p t n h (Nat.le_refl _) (by omega) heq
          have h1 := sim p [] r1 hr1
          rw [List.append_nil, hl] at h1
          simp only [inclLoop, Option.some.injEq, Prod.mk.injEq, true_and] at h1
          rw [hr1, h1]
        · -- too long: after the part the recursion consumes the loop is at sn = 0 with hashes left
          exfalso
          obtain ⟨r1, hr1⟩ := inclRootF_some_of_len node t (p.take (inclLenF t t n)) t n h (Nat.le_refl _) (by omega)
            (by rw [List.length_take]; omega)
          have h1 := sim (p.take (inclLenF t t n)) (p.drop (inclLenF t t n)) r1 hr1
          rw [List.take_append_drop, hl] at h1
          cases hd : p.drop (inclLenF t t n) with
          | nil => have := congrArg List.length hd; simp at this; omega
          | cons x xs => rw [hd] at h1; simp [inclLoop] at h1
    · rintro ⟨_, hacc⟩
      have h1 := sim p [] root hacc
      rw [List.append_nil] at h1
      rw [h1]
      simp [inclLoop]
  · have hge : n ≥ t := by omega
    rw [if_pos hge]
    constructor
    · intro hc; cases hc
    · rintro ⟨h1, _⟩; omega

end
end ModVerif.RFC6962
