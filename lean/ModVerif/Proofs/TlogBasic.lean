/-
  The integer kernel `maxpow2` in closed form, and the guarded entry points of the tlog model: from them the proof
  runners answer a hash or errProofFailed (`Clean`), and the interval recursions never exhaust the fuel `hi - lo`.
-/
import ModVerif.Model.Tlog
import ModVerif.Model.Tile
namespace ModVerif.Tlog
open ModVerif

/-- the loop climbs from `l` to `log2 (n - 1)` unless the fuel (the `l < 62` guard) stops it first -/
theorem maxpow2Go_eq (n : Nat) : ∀ f l, maxpow2Go f n l = max l (min (l + f) (n - 1).log2) := by
  intro f
  induction f with
  | zero => intro l; simp only [maxpow2Go]; omega
  | succ f ih =>
    intro l
    unfold maxpow2Go
    have hp := Nat.two_pow_pos l
    split
    · rename_i h
      have : l + 1 ≤ (n - 1).log2 := (Nat.le_log2 (by omega)).mpr (by omega)
      rw [ih (l + 1)]; omega
    · rename_i h
      have : (n - 1).log2 ≤ l := by
        by_cases h0 : n - 1 = 0
        · rw [h0]; simp
        · exact Nat.le_of_lt_succ ((Nat.log2_lt h0).mpr (by omega))
      omega

theorem maxpow2_eq (n : Nat) : maxpow2 n = (2 ^ min 62 (n - 1).log2, min 62 (n - 1).log2) := by
  simp only [maxpow2, maxpow2Go_eq, Nat.zero_add, Nat.zero_max]

theorem maxpow2_of_le (n : Nat) (h : n ≤ 2 ^ 63) : maxpow2 n = (2 ^ (n - 1).log2, (n - 1).log2) := by
  have : (n - 1).log2 ≤ 62 := by
    by_cases h0 : n - 1 = 0
    · rw [h0]; simp
    · exact Nat.le_of_lt_succ ((Nat.log2_lt h0).mpr (by omega))
  rw [maxpow2_eq, Nat.min_eq_right this]

theorem maxpow2_fst_pos (n : Nat) : 0 < (maxpow2 n).1 := by
  simp only [maxpow2]; exact Nat.two_pow_pos _

theorem maxpow2_fst_eq (n : Nat) : (maxpow2 n).1 = 2 ^ (maxpow2 n).2 := rfl

theorem maxpow2_lt (n : Nat) (h : 1 < n) : (maxpow2 n).1 < n := by
  rw [maxpow2_eq]
  have := Nat.log2_self_le (n := n - 1) (by omega)
  have := Nat.pow_le_pow_right (n := 2) (by omega) (Nat.min_le_right 62 (n - 1).log2)
  show 2 ^ min 62 (n - 1).log2 < n
  omega

theorem maxpow2_le_two_mul (n : Nat) (h1 : 1 < n) (h2 : n ≤ 2 ^ 63) : n ≤ 2 * (maxpow2 n).1 := by
  rw [maxpow2_of_le n h2]
  have := Nat.lt_log2_self (n := n - 1)
  rw [Nat.pow_succ] at this
  show n ≤ 2 * 2 ^ (n - 1).log2
  omega

/-! ### the checkers never reach a panic branch and never run out of fuel -/

section
variable {H : Type}

/-- the possible outcomes of running a proof from a guarded entry point -/
def Clean {α : Type} (r : Except Err α) : Prop := r = .error .proofFailed ∨ ∃ a, r = .ok a

theorem Clean.bind_ok {α β : Type} {r : Except Err α} {g : α → Except Err β}
    (hr : Clean r) (hg : ∀ a, Clean (g a)) : Clean (r >>= g) := by
  rcases hr with h | ⟨a, h⟩
  · subst h; left; rfl
  · subst h; exact hg a

theorem runRecordProofF_clean (node : H → H → H) : ∀ f p lo hi n leafHash,
    lo ≤ n → n < hi → hi - lo ≤ f → Clean (runRecordProofF node f p lo hi n leafHash) := by
  intro f
  induction f with
  | zero => intro p lo hi n lh h1 h2 h3; omega
  | succ f ih =>
    intro p lo hi n lh h1 h2 h3
    unfold runRecordProofF
    have hg : (!(decide (lo ≤ n) && decide (n < hi))) = false := by simp [h1, h2]
    simp only [hg, Bool.false_eq_true, ↓reduceIte]
    split
    · split
      · left; rfl
      · right; exact ⟨_, rfl⟩
    · rename_i hne
      have hne' : lo + 1 ≠ hi := by simpa using hne
      split
      · left; rfl
      · rename_i last _
        have hsz : 1 < hi - lo := by omega
        have hk := maxpow2_lt (hi - lo) hsz
        have hkp := maxpow2_fst_pos (hi - lo)
        split
        · rename_i hlt
          refine Clean.bind_ok (ih _ lo (lo + (maxpow2 (hi - lo)).1) n lh h1 hlt (by omega)) ?_
          intro a; right; exact ⟨_, rfl⟩
        · rename_i hge
          refine Clean.bind_ok (ih _ (lo + (maxpow2 (hi - lo)).1) hi n lh (by omega) h2 (by omega)) ?_
          intro a; right; exact ⟨_, rfl⟩

theorem runTreeProofF_clean (node : H → H → H) : ∀ f p lo hi n old,
    lo < n → n ≤ hi → hi - lo ≤ f → Clean (runTreeProofF node f p lo hi n old) := by
  intro f
  induction f with
  | zero => intro p lo hi n old h1 h2 h3; omega
  | succ f ih =>
    intro p lo hi n old h1 h2 h3
    unfold runTreeProofF
    have hg : (!(decide (lo < n) && decide (n ≤ hi))) = false := by simp [h1, h2]
    simp only [hg, Bool.false_eq_true, ↓reduceIte]
    split
    · split
      · split
        · left; rfl
        · right; exact ⟨_, rfl⟩
      · split
        · right; exact ⟨_, rfl⟩
        · left; rfl
    · rename_i hne
      have hne' : n ≠ hi := by simpa using hne
      split
      · left; rfl
      · rename_i last _
        have hsz : 1 < hi - lo := by omega
        have hk := maxpow2_lt (hi - lo) hsz
        have hkp := maxpow2_fst_pos (hi - lo)
        split
        · rename_i hle
          refine Clean.bind_ok (ih _ lo (lo + (maxpow2 (hi - lo)).1) n old h1 hle (by omega)) ?_
          intro a; right; exact ⟨_, rfl⟩
        · rename_i hgt
          refine Clean.bind_ok (ih _ (lo + (maxpow2 (hi - lo)).1) hi n old (by omega) h2 (by omega)) ?_
          intro a; right; exact ⟨_, rfl⟩

end

/-! ### fuel lemmas: the interval recursions never run out of the fuel `hi - lo` -/

theorem subTreeIndexF_ne_fuel : ∀ f lo hi, hi - lo ≤ f → subTreeIndexF f lo hi ≠ .error .fuel := by
  intro f
  induction f with
  | zero =>
    intro lo hi h
    have : ¬ lo < hi := by omega
    simp [subTreeIndexF, this]
  | succ f ih =>
    intro lo hi h
    unfold subTreeIndexF
    split
    · rename_i hlt
      have hk := maxpow2_fst_pos (hi - lo + 1)
      split
      rename_i k level heq
      rw [heq] at hk
      split
      · simp
      · have := ih (lo + k) hi (by simp only at hk; omega)
        simp only [bind, Except.bind]
        split
        · rename_i e he; intro hc; cases hc; exact this he
        · simp [pure, Except.pure]
    · simp

theorem subTreeIndex_ne_fuel (lo hi : Nat) : subTreeIndex lo hi ≠ .error .fuel :=
  subTreeIndexF_ne_fuel _ lo hi (Nat.le_refl _)

theorem numTreeF_eq : ∀ f lo hi, numTreeF f lo hi = (subTreeIndexF f lo hi).map List.length := by
  intro f
  induction f with
  | zero => intro lo hi; unfold numTreeF subTreeIndexF; split <;> rfl
  | succ f ih =>
    intro lo hi
    unfold numTreeF subTreeIndexF
    split
    · rename_i hlt
      have hge : decide (lo ≥ hi) = false := decide_eq_false (by omega)
      simp only [hge, Bool.or_false]
      split
      · rfl
      · rw [ih]; cases subTreeIndexF f (lo + (maxpow2 (hi - lo + 1)).1) hi <;> rfl
    · rfl

theorem numTreeF_ne_fuel (f lo hi : Nat) (h : hi - lo ≤ f) : numTreeF f lo hi ≠ .error .fuel := by
  have := subTreeIndexF_ne_fuel f lo hi h
  rw [numTreeF_eq]
  cases hr : subTreeIndexF f lo hi with
  | ok a => intro hc; cases hc
  | error e => intro hc; cases hc; exact this hr

end ModVerif.Tlog
