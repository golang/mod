/-
  `File.SetRequireSeparateIndirect`: loop 5 (the additions, map `need` in
  insertion order = the model's `perm = id`), facts about `needMap`, and the TAIL of the function (loops 3, 4, 5 and
  SortBlocks) as one simulation.
-/
import ModVerif.Proofs.TieFnEditSetK
namespace ModVerif.Tie.FnEditSetL
open ModVerif ModVerif.GoRt ModVerif.Generated.Edit ModVerif.Tie.FnEditRep ModVerif.Tie.FnEditTreeA ModVerif.Tie.FnEditLoop ModVerif.Tie.FnEditSetA
  ModVerif.Tie.FnEditSetB ModVerif.Tie.FnEditSetC ModVerif.Tie.FnEditSetD ModVerif.Tie.FnEditSetE ModVerif.Tie.FnEditSetF
  ModVerif.Tie.FnEditSetG ModVerif.Tie.FnEditSetH ModVerif.Tie.FnEditSetI ModVerif.Tie.FnEditSetJ ModVerif.Tie.FnEditSetK
open ModVerif.Modfile.Edit (EFile Want treeIds appendToBlock needMap addSepNew SepCtx sepLoop sortBlocks)

/-! ### `needMap`: distinct paths -/

theorem needMap_nodup (strict : Bool) : ∀ (ws acc need : List Want), needMap strict ws acc = .ok need →
    (acc.map (·.path)).Nodup → (need.map (·.path)).Nodup
  | [], acc, need, h, hn => by
    simp only [needMap] at h; cases h; exact hn
  | w :: ws, acc, need, h, hn => by
    unfold needMap at h
    cases hf : acc.find? (·.path == w.path) with
    | none =>
      rw [hf] at h
      refine needMap_nodup strict ws _ need h ?_
      rw [List.map_append, List.nodup_append]
      refine ⟨hn, by simp, ?_⟩
      intro a ha b hb
      simp only [List.map_cons, List.map_nil, List.mem_singleton] at hb
      subst hb
      obtain ⟨x, hx, rfl⟩ := List.mem_map.1 ha
      intro e
      have := List.find?_eq_none.1 hf x hx
      simp [e] at this
    | some prev =>
      rw [hf] at h
      simp only at h
      split at h
      · cases h
      · refine needMap_nodup strict ws _ need h ?_
        have : (acc.map fun a => if a.path == w.path then w else a).map (·.path) = acc.map (·.path) := by
          rw [List.map_map]
          apply List.map_congr_left
          intro a _
          by_cases e : a.path = w.path <;> simp [e]
        rw [this]; exact hn

/-- distinct keys: distinct values (the value's object carries the key) -/
theorem NeedRel_ptr_nodup {objs : List Require} : ∀ {np : List (Bytes × Int)} {ws : List Want}, NeedRel objs np ws →
    (ws.map (·.path)).Nodup → (np.map (·.2)).Nodup
  | [], [], _, _ => List.nodup_nil
  | kp :: t, w :: ws, r, hn => by
    simp only [List.map_cons, List.nodup_cons] at hn ⊢
    refine ⟨?_, NeedRel_ptr_nodup r.2 hn.2⟩
    intro hm
    obtain ⟨kq, hkq, hq⟩ := List.mem_map.1 hm
    -- the entry of `ws` that corresponds to `kq`
    have : ∀ {t : List (Bytes × Int)} {ws : List Want}, NeedRel objs t ws → kq ∈ t →
        ∃ v ∈ ws, heapGet objs kq.2 = .ok (requireG (wantReq v)) := by
      intro t
      induction t with
      | nil => intro ws _ hk; cases hk
      | cons a t ih =>
        intro ws r hk
        cases ws with
        | nil => exact r.elim
        | cons v vs =>
          rcases List.mem_cons.1 hk with rfl | hk
          · exact ⟨v, List.mem_cons_self, r.1.2⟩
          · obtain ⟨v', hv', hg⟩ := ih r.2 hk
            exact ⟨v', List.mem_cons_of_mem _ hv', hg⟩
    obtain ⟨v, hv, hg⟩ := this r.2 hkq
    rw [hq, r.1.2] at hg
    have : wantReq w = wantReq v := by
      have := Except.ok.inj hg
      simp only [requireG, Require.mk.injEq, Drv.GenEdit.mvG, ModVersion.mk.injEq] at this
      simp only [wantReq, Modfile.Require.mk.injEq, Modfile.ModVersion.mk.injEq]
      exact ⟨⟨this.1.1, this.1.2⟩, this.2.1, trivial⟩
    have hp : w.path = v.path := by
      have := congrArg (fun r : Modfile.Require => r.mod.path) this
      exact this
    exact hn.1 (List.mem_map.2 ⟨v, hv, hp.symm⟩)
  | [], _ :: _, r, _ => r.elim
  | _ :: _, [], r, _ => r.elim

/-- the additions on the model: the wants whose path is not among the kept ones -/
def addMissing (ctx : SepCtx) (hv : List Bytes) : EFile → List Want → EFile
  | e, [] => e
  | e, w :: ws => addMissing ctx hv (if hv.contains w.path then e else addSepNew ctx e w) ws

theorem addMissing_eq (ctx : SepCtx) (hv : List Bytes) : ∀ (ws : List Want) (e : EFile),
    (ws.filter fun w => !hv.contains w.path).foldl (addSepNew ctx) e = addMissing ctx hv e ws
  | [], e => rfl
  | w :: ws, e => by
    simp only [List.filter_cons, addMissing]
    cases hv.contains w.path
    · simp only [Bool.not_false, if_true, List.foldl_cons, Bool.false_eq_true, if_false]
      exact addMissing_eq ctx hv ws _
    · simp only [Bool.not_true, Bool.false_eq_true, if_false, if_true]
      exact addMissing_eq ctx hv ws _

/-- fuel of loop 5: one per iteration on top of `AutoQuote` of the path -/
def fuel5 : List Want → Nat
  | [] => 1
  | w :: ws => max (w.path.length + 1) (fuel5 ws) + 1

theorem addMissing_mkE (ctx : SepCtx) (hv : List Bytes) (e0 : EFile) : ∀ (ws : List Want) (rqs : List Modfile.Require)
    (syn : Modfile.FileSyntax) (next : Nat), ∃ rqs' syn' next', addMissing ctx hv (mkE e0 rqs syn next) ws = mkE e0 rqs' syn' next'
  | [], rqs, syn, next => ⟨rqs, syn, next, rfl⟩
  | w :: ws, rqs, syn, next => by
    simp only [addMissing]
    cases hv.contains w.path
    · simp only [Bool.false_eq_true, if_false, addSepNew_eq]
      exact addMissing_mkE ctx hv e0 ws _ _ _
    · simp only [if_true]
      exact addMissing_mkE ctx hv e0 ws _ _ _

/-- **loop 5 of `File.SetRequireSeparateIndirect`** (rule.go:1444: `for path, r := range need`, here in insertion order): every
    wanted requirement whose path was not kept by loop 4 (`have`) gets a fresh line in the direct or the indirect block
    (`moveReq`) and is appended to `f.Require` — the model's `addMissing`. -/
theorem loop5_sim {isPrint : Int → Bool} {quote : Bytes → Bytes} (hAQ : AutoQuoteSpec isPrint quote) (f : Int) (e0 : EFile)
    (ctx : SepCtx) (dB iB : Int) (fo : FileSyntax) (hdi : fo.Stmt[ctx.directIdx]? = some (Expr.LineBlock dB))
    (hii : fo.Stmt[ctx.indirectIdx]? = some (Expr.LineBlock iB)) (np hpf : List (Bytes × Int)) (hv : List Bytes)
    (hH : HaveRel hpf hv) :
    ∀ (rest : List Want) (nrest npre : List (Bytes × Int)) (ri : Int) (o : File) (rqs : List Modfile.Require)
      (syn : Modfile.FileSyntax) (next : Nat) (h : Heap) (fuel : Nat),
      np = npre ++ nrest → ri = (npre.length : Int) → NeedRel h.requires nrest rest → (nrest.map (·.2)).Nodup →
      (∀ kp ∈ nrest, kp.2 ∉ o.Require) → heapGet h.mods f = .ok o → RepFAt h o (mkE e0 rqs syn next) →
      heapGet h.files o.Syntax = .ok fo → fuel5 rest ≤ fuel →
      ∃ h' o', File_SetRequireSeparateIndirect_loop5 isPrint quote f dB iB np hpf fuel ri h = .ok (len np, h') ∧
        heapGet h'.mods f = .ok o' ∧ RepFAt h' o' (addMissing ctx hv (mkE e0 rqs syn next) rest)
  | [], [], npre, ri, o, rqs, syn, next, h, fuel + 1, hnp, hri, _, _, _, hm, R, _, _ => by
    subst hnp hri
    have := not_lt_len_end npre
    refine ⟨h, o, ?_, hm, R⟩
    simp [File_SetRequireSeparateIndirect_loop5, pure, Except.pure, len_eq]
  | w :: ws, kp :: nrest, npre, ri, o, rqs, syn, next, h, fuel + 1, hnp, hri, hN, hnd, hfr, hm, R, hfile, hf => by
    obtain ⟨⟨hk, hobj⟩, hN'⟩ := hN
    simp only [List.map_cons, List.nodup_cons] at hnd
    simp only [fuel5] at hf
    have ih := loop5_sim hAQ f e0 ctx dB iB fo hdi hii np hpf hv hH ws nrest (npre ++ [kp]) (ri + 1)
    subst hnp hri
    have hlt := lt_len_mid npre kp nrest
    have hcur := idxL_mid npre kp nrest
    unfold File_SetRequireSeparateIndirect_loop5
    simp only [hlt, decide_true, if_true, hcur, bind, Except.bind]
    have hpe : kp.1 = w.path := hk
    generalize kp.1 = path at hpe ⊢
    subst hpe
    have hhave := hH.mapGet w.path
    simp only [hhave, addMissing]
    cases hc : hv.contains w.path with
    | true =>
      simp only [Bool.not_true, Bool.false_eq_true, if_false, if_true]
      exact ih o rqs syn next h fuel (by simp) (by simp) hN' hnd.2 (fun q hq => hfr q (List.mem_cons_of_mem _ hq)) hm R hfile
        (by omega)
    | false =>
      simp only [Bool.not_false, if_true, Bool.false_eq_true, if_false, hobj]
      have hwi : (requireG (wantReq w)).Indirect = w.indirect := rfl
      have hfresh : kp.2 ∉ o.Require := hfr kp List.mem_cons_self
      -- the step with the block index `idx` and pointer `bp`
      have hstep : ∀ (idx : Nat) (bp : Int), fo.Stmt[idx]? = some (Expr.LineBlock bp) →
          idx = (if w.indirect then ctx.indirectIdx else ctx.directIdx) →
          ∃ h' o', (File_SetRequireSeparateIndirect_moveReq isPrint quote fuel kp.2 bp h >>= fun t =>
              heapGet t.2.mods f >>= fun t152 => heapGet t.2.mods f >>= fun t153 =>
              heapSet t.2.mods f { t153 with Require := t152.Require ++ [kp.2] } >>= fun t154 =>
              File_SetRequireSeparateIndirect_loop5 isPrint quote f dB iB (npre ++ kp :: nrest) hpf fuel ((npre.length : Int) + 1)
                { t.2 with mods := t154 }) = .ok (len (npre ++ kp :: nrest), h') ∧
            heapGet h'.mods f = .ok o' ∧
            RepFAt h' o' (addMissing ctx hv (addSepNew ctx (mkE e0 rqs syn next) w) ws) := by
        intro idx bp hidx hidx'
        obtain ⟨blk, hb, R1⟩ := addSepNew_sim R (w := w) (idx := idx) (bp := bp) hobj hfresh hfile hidx
          (h.mods.set (f.toNat - 1) { o with Require := o.Require ++ [kp.2] })
        rw [moveReq_new_eq hAQ hobj rfl hb (by simp [wantReq]; omega)]
        have hm1 : heapGet (newHeap h kp.2 (wantReq w) bp blk).mods f = .ok o := hm
        simp only [bind, Except.bind, hm1, heapSet_of_get _ hm1]
        rw [addSepNew_eq, ← hidx']
        have hN1 : NeedRel ({ newHeap h kp.2 (wantReq w) bp blk with
            mods := h.mods.set (f.toNat - 1) { o with Require := o.Require ++ [kp.2] } } : Heap).requires nrest ws := by
          refine NeedRel_setOther hN' hobj ?_ _
          intro q hq e
          exact hnd.1 (List.mem_map.2 ⟨q, hq, e⟩)
        have hfr1 : ∀ q ∈ nrest, q.2 ∉ ({ o with Require := o.Require ++ [kp.2] } : File).Require := by
          intro q hq hmem
          simp only [List.mem_append, List.mem_singleton] at hmem
          rcases hmem with hmem | hmem
          · exact hfr q (List.mem_cons_of_mem _ hq) hmem
          · exact hnd.1 (List.mem_map.2 ⟨q, hq, hmem⟩)
        exact ih _ _ _ _ _ fuel (by simp) (by simp) hN1 hnd.2 hfr1 (heapGet_listSet_same _ hm) R1 hfile (by omega)
      simp only [bind, Except.bind] at hstep
      cases hind : w.indirect with
      | true =>
        simp only [hwi, hind, if_true]
        have := hstep ctx.indirectIdx iB hii (by simp [hind])
        exact this
      | false =>
        simp only [hwi, hind, Bool.false_eq_true, if_false]
        have := hstep ctx.directIdx dB hdi (by simp [hind])
        exact this
  | [], _ :: _, _, _, _, _, _, _, _, _, _, _, hN, _, _, _, _, _, _ => hN.elim
  | _ :: _, [], _, _, _, _, _, _, _, _, _, _, hN, _, _, _, _, _, _ => hN.elim
  | [], [], _, _, _, _, _, _, _, 0, _, _, _, _, _, _, _, _, hf => by simp [fuel5] at hf

/-! ### the tail of the function: loops 3, 4, 5 and SortBlocks -/

/-- the body of the continuation `k162` of the generated function -/
def tailG (isPrint : Int → Bool) (quote : Bytes → Bytes) (fuel : Nat) (f : Int) (req : List Int) (lineToBlock : List (Int × Int))
    (oneFlatUncommentedBlock : Bool) (lastDirectBlock lastIndirectBlock : Int) (world : Heap) : M (Unit × Heap) := do
  let need := ([] : (List (Bytes × Int)))
  let ri119 := (0 : Int)
  let (_, need) ← File_SetRequireSeparateIndirect_loop3 isPrint quote req world fuel ri119 need
  let have_ := ([] : (List (Bytes × Int)))
  let t122 ← heapGet ((world).mods) f
  let rx123 := (t122.Require)
  let ri124 := (0 : Int)
  let (_, world, have_) ← File_SetRequireSeparateIndirect_loop4 isPrint quote rx123 f lineToBlock oneFlatUncommentedBlock lastDirectBlock lastIndirectBlock need fuel ri124 world have_
  let ri148 := (0 : Int)
  let (_, world) ← File_SetRequireSeparateIndirect_loop5 isPrint quote f lastDirectBlock lastIndirectBlock need have_ fuel ri148 world
  let t160 ← (File_SortBlocks fuel f world)
  let (_, world) := t160
  pure ((), world)

/-- the same part of the model (`e'` = the file after the two blocks were ensured) -/
def tailM (ctx : SepCtx) (e' : EFile) (req : List Want) : Except Modfile.Edit.EditErr EFile := do
  let need ← needMap false req []
  let (rq, have_, syn, next) ← sepLoop ctx need e'.f.require [] e'.f.syn e'.next
  let e : EFile := { f := { e'.f with require := rq, syn := syn }, next := next }
  let missing := need.filter fun w => !have_.contains w.path
  let e := missing.foldl (addSepNew ctx) e
  pure (sortBlocks e)

/-- fuel of the tail, through the states of the model -/
def fuelTail (FS : EFile → Nat) (ctx : SepCtx) (e' : EFile) (req : List Want) : Nat :=
  max (req.length + 1) (max (e'.f.require.length + 1)
    (match needMap false req [] with
     | .ok need =>
       match sepLoop ctx need e'.f.require [] e'.f.syn e'.next with
       | .ok (rq, hv, syn, next) => max (fuel5 need) (FS (addMissing ctx hv (mkE e' rq syn next) need))
       | .error _ => 0
     | .error _ => 0))

theorem tail_sim (hIdx : IndirectIdxOK) {isPrint : Int → Bool} {quote : Bytes → Bytes} (hAQ : AutoQuoteSpec isPrint quote)
    {FS : EFile → Nat} (hS : SortBlocksSpec FS) {h : Heap} {fp : Int} {o : File} {e' : EFile} {ctx : SepCtx} {req : List Want}
    {ps : List Int} {ltb : List (Int × Int)} {dB iB : Int} {fo : FileSyntax} {fuel : Nat}
    (hm : heapGet h.mods fp = .ok o) (R : RepFAt h o e') (hfile : heapGet h.files o.Syntax = .ok fo)
    (hdi : fo.Stmt[ctx.directIdx]? = some (Expr.LineBlock dB)) (hii : fo.Stmt[ctx.indirectIdx]? = some (Expr.LineBlock iB))
    (hL : LtbOK ltb ctx dB iB) (hq : ReqArgsS h.requires ps req) (hdis : ∀ p ∈ ps, p ∉ o.Require)
    (hT : ∀ rq ∈ e'.f.require, rq.lineId ≠ 0 → rq.lineId ∈ treeIds e'.f.syn.stmts)
    (hf : fuelTail FS ctx e' req ≤ fuel) :
    match tailM ctx e' req with
    | .ok e'' => ∃ h', tailG isPrint quote fuel fp ps ltb ctx.oneFlat dB iB h = .ok ((), h') ∧ RepF h' fp e''
    | .error _ => tailG isPrint quote fuel fp ps ltb ctx.oneFlat dB iB h = .error .panic := by
  unfold fuelTail at hf
  obtain ⟨need, np, hneed, hrun3, hN, hPn⟩ := loop3S_sim isPrint quote h (fun p => p ∉ o.Require) req ps [] ps 0 [] [] fuel rfl rfl hq
    trivial (by omega) (fun _ hk => by cases hk) hdis
  have hndp : (need.map (·.path)).Nodup := needMap_nodup false req [] need hneed List.nodup_nil
  unfold tailG tailM
  simp only [bind, Except.bind, hrun3, hneed, hm]
  simp only [hneed] at hf
  have h4 := loop4_sim hIdx isPrint quote fp ctx hL hdi hii hPn (h := h) (e0 := e') (rqs := e'.f.require) (syn := e'.f.syn)
    (next := e'.next) R hfile hN hT (fuel := fuel) (by omega)
  cases hl : sepLoop ctx need e'.f.require [] e'.f.syn e'.next with
  | error err =>
    rw [hl] at h4
    have h4' : File_SetRequireSeparateIndirect_loop4 isPrint quote o.Require fp ltb ctx.oneFlat dB iB np fuel 0 h [] =
        .error .panic := h4
    simp only [h4']
  | ok res =>
    obtain ⟨rq, hv, syn, next⟩ := res
    rw [hl] at h4
    simp only [hl] at hf
    obtain ⟨⟨n, h4', hp'⟩, hrun4, hn, R4, hH4, hN4, hm4, hfile4⟩ := h4
    dsimp only at hn R4 hH4 hN4 hm4 hfile4
    subst hn
    have hrun4' : File_SetRequireSeparateIndirect_loop4 isPrint quote o.Require fp ltb ctx.oneFlat dB iB np fuel 0 h [] =
        .ok (len o.Require, h4', hp') := hrun4
    simp only [hrun4']
    obtain ⟨h5, o5, hrun5, hm5, R5⟩ := loop5_sim hAQ fp e' ctx dB iB fo hdi hii np hp' hv hH4 need np [] 0 o rq syn next h4' fuel
      rfl rfl hN4 (NeedRel_ptr_nodup hN4 hndp) hPn (by rw [hm4]; exact hm) R4 hfile4 (by omega)
    simp only [hrun5]
    obtain ⟨h6, hrun6, R6⟩ := hS h5 fp _ fuel ⟨o5, hm5, R5⟩ (by omega)
    simp only [hrun6, pure, Except.pure]
    refine ⟨h6, rfl, ?_⟩
    rw [addMissing_eq]
    exact R6

end ModVerif.Tie.FnEditSetL
