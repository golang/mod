/-
  Directive values (go.mod) — well-formed typed files (`WellFormed`), the tokens written for their paths and versions,
  the two hypotheses on the fixer (`FixOK`, `FixNE`) in the form the fixpoint lemmas take.
-/
import ModVerif.Proofs.ModfileFmtDir
import ModVerif.Proofs.ModfileFmtFixReplace
namespace ModVerif.Proofs.ModfileFmtDir
open ModVerif ModVerif.Modfile ModVerif.Proofs.ModfileFmtLex ModVerif.Proofs.ModfileFmtLine
open ModVerif.Proofs.ModfileFmtFix

/-- the condition of the property text on a path -/
def PathOK (p : Bytes) : Prop := p ≠ [] ∧ ∀ c ∈ punctBytes, p ≠ [c]

def VerOK (v : Bytes) : Prop := Semver.isValid v = true

/-- the well-formed files of the property text -/
structure WellFormed (f : Modfile.File) : Prop where
  module : ∀ m, f.module = some m → PathOK m.mod.path
  require : ∀ r ∈ f.require, PathOK r.mod.path ∧ VerOK r.mod.version
  exclude : ∀ r ∈ f.exclude, PathOK r.mod.path ∧ VerOK r.mod.version
  replace : ∀ r ∈ f.replace, PathOK r.old.path ∧ (r.old.version ≠ [] → VerOK r.old.version) ∧
    PathOK r.new.path ∧ (r.new.version ≠ [] → VerOK r.new.version)
  retract : ∀ r ∈ f.retract, VerOK r.interval.low ∧ VerOK r.interval.high
  tool : ∀ t ∈ f.tool, PathOK t.path

theorem pathOK_tok {s : Bytes} (h : PathOK s) : TokText (autoQuote s) ∧ autoQuote s ≠ [40] ∧ autoQuote s ≠ [41] := by
  obtain ⟨k, hk⟩ := ModfileFmtQuote.autoQuote_single_token s
  refine ⟨tokOK_tokText hk, ?_, ?_⟩
  · intro he
    unfold autoQuote at he
    split at he
    · simp [Quote.quote] at he
    · exact h.2 40 (by decide) he
  · intro he
    unfold autoQuote at he
    split at he
    · simp [Quote.quote] at he
    · exact h.2 41 (by decide) he

theorem verOK_tok {v : Bytes} (h : VerOK v) : TokText v ∧ v ≠ [40] ∧ v ≠ [41] := by
  obtain ⟨d, t, hd, _⟩ := valid_head h
  exact ⟨tokOK_tokText (valid_tokOK h), by rw [hd]; simp, by rw [hd]; simp⟩

theorem effIdem_of_fixOK {fix : Option Fixer} (hfix : FixOK fix) : EffIdem fix := by
  rcases hfix with rfl | ⟨fx, rfl, hidem⟩
  · exact effIdem_none
  · exact effIdem_some hidem

theorem fixOK_version {fix : Option Fixer} (hfix : FixOK fix) {p tok tok' v : Bytes}
    (h : parseVersion p tok fix = (tok', .ok v)) (hv : fix ≠ none → VerOK v) :
    tok' = v ∧ VerOK v ∧ parseVersion p v fix = (v, .ok v) :=
  parseVersion_fix_valid (effIdem_of_fixOK hfix) h hv

/-- the condition the edit operations call `Edit.SFix.FixOK` -/
def FixNE (fix : Option Fixer) : Prop := ∀ fx, fix = some fx → ∀ p v, fx p v ≠ .ok []

theorem punct_tokText (c : UInt8) (hc : c ∈ punctBytes) : TokText [c] := tokOK_tokText (TokOK.punct c hc)

theorem goVersionRE_not_paren {a : Bytes} (h : goVersionRE a = true) : a ≠ [40] ∧ a ≠ [41] := by
  constructor <;> (intro e; subst e; revert h; decide)

theorem toolchainRE_not_paren {a : Bytes} (h : toolchainRE a = true) : a ≠ [40] ∧ a ≠ [41] := by
  constructor <;> (intro e; subst e; revert h; decide +kernel)

theorem addGodebug_not_paren {args : List Bytes} {k v : Bytes} (h : addGodebug args = some (k, v)) :
    ∀ t ∈ args, t ≠ [40] ∧ t ≠ [41] := by
  unfold addGodebug at h
  split at h
  · rename_i a
    split at h
    · cases h
    · intro t ht
      simp at ht
      subst ht
      constructor <;> (intro e; subst e; simp [GoStrings.cut] at h)
  · cases h

theorem B_arrow_tok : TokText (B "=>") ∧ B "=>" ≠ [40] ∧ B "=>" ≠ [41] := by
  refine ⟨?_, by decide +kernel, by decide +kernel⟩
  have : mustQuote (B "=>") = false := by decide +kernel
  exact tokOK_tokText (ModfileFmtQuote.autoQuote_unquoted_ident this (by decide +kernel))

end ModVerif.Proofs.ModfileFmtDir
