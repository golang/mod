/-
  Tie proofs for the regenerated module.go functions: checkElem (its three loops and the function).
  `for _, r := range elem` is a fuel loop over byte offsets; `GoRtStr.range_step` links it to `Utf8.runes`.
-/
import ModVerif.Proofs.TieFnModuleChar
import ModVerif.Proofs.ModulePath
import ModVerif.Tie.Module
namespace ModVerif.TieFnModule
open ModVerif ModVerif.GoRt ModVerif.GoRtStr

theorem drop_length_nil {α : Type} (s : List α) : s.drop s.length = [] := by simp

theorem checkElem_loop1_spec (ef : Bytes → Bytes → Bool) (il : Int → Bool) (elem : Bytes) (kind : Module.Kind) :
    ∀ (fuel k : Nat), k ≤ elem.length → elem.length - k < fuel →
    Generated.Module.checkElem_loop1 ef il elem (kindInt kind) fuel (k : Int) =
      .ok (if (Utf8.runes (elem.drop k)).all (Module.charOK (natLetter il) kind) = true
           then Ctl.next (len elem) else Ctl.ret (some "invalid char %q")) := by
  intro fuel
  induction fuel with
  | zero => intro k _ h; omega
  | succ f ih =>
    intro k hk hf
    unfold Generated.Module.checkElem_loop1
    by_cases hlt : k < elem.length
    · obtain ⟨r, w, hdec, hw1, hw2, hrunes, _⟩ := range_step elem k hlt
      have hlt' : (k : Int) < len elem := by simp [len_eq]; omega
      have hrec := ih (k + w) hw2 (by omega)
      simp only [hlt', decide_true, if_true, hdec, hrunes, List.all_cons]
      have hkw : (k : Int) + (w : Int) = ((k + w : Nat) : Int) := by simp
      cases kind
      · simp only [kindInt] at hrec ⊢
        simp only [modPathOK_nat, Module.charOK, hkw, hrec] at hrec ⊢
        by_cases hp : Module.modPathOK r = true <;> simp [hp]
      · simp only [kindInt] at hrec ⊢
        simp only [importPathOK_nat, Module.charOK, hkw, hrec] at hrec ⊢
        by_cases hp : Module.importPathOK r = true <;> simp [hp]
      · simp only [kindInt] at hrec ⊢
        simp only [fileNameOK_nat, Module.charOK, hkw, hrec] at hrec ⊢
        by_cases hp : Module.fileNameOK (natLetter il) r = true <;> simp [hp]
    · have hk' : k = elem.length := by omega
      have hlt' : ¬ ((k : Int) < len elem) := by simp [len_eq]; omega
      subst hk'
      simp [Utf8.runes, Utf8.runesAux, len_eq]


theorem checkElem_loop2_spec (ef : Bytes → Bytes → Bool) (il : Int → Bool) (short : Bytes) :
    ∀ (fuel k : Nat), k ≤ Generated.module_badWindowsNames.length →
      Generated.module_badWindowsNames.length - k < fuel →
    Generated.Module.checkElem_loop2 ef il short fuel (k : Int) =
      .ok (if (Generated.module_badWindowsNames.drop k).any (ef · short) = true
           then Ctl.ret (some "%q disallowed as path element component on Windows")
           else Ctl.next (len Generated.module_badWindowsNames)) := by
  intro fuel
  induction fuel with
  | zero => intro k _ h; omega
  | succ f ih =>
    intro k hk hf
    unfold Generated.Module.checkElem_loop2
    by_cases hlt : k < Generated.module_badWindowsNames.length
    · have hlt' : (k : Int) < len Generated.module_badWindowsNames := by simp only [len_eq]; omega
      have hrec := ih (k + 1) hlt (by omega)
      have hkw : (k : Int) + 1 = ((k + 1 : Nat) : Int) := by simp
      rw [List.drop_eq_getElem_cons hlt]
      simp only [hlt', decide_true, if_true, idxL_natCast hlt, bind_ok, hkw, hrec, List.any_cons]
      by_cases hp : ef Generated.module_badWindowsNames[k] short = true <;> simp [hp]
    · have hk' : k = Generated.module_badWindowsNames.length := by omega
      have hlt' : ¬ ((k : Int) < len Generated.module_badWindowsNames) := by simp only [len_eq]; omega
      subst hk'
      simp [len_eq]

def isDigitRune (r : Nat) : Bool := 48 ≤ r && r ≤ 57

theorem checkElem_loop3_spec (ef : Bytes → Bytes → Bool) (il : Int → Bool) (suffix : Bytes) (flag : Bool) :
    ∀ (fuel k : Nat), k ≤ suffix.length → suffix.length - k < fuel →
    ∃ j : Int, Generated.Module.checkElem_loop3 ef il suffix fuel (k : Int) flag =
      .ok (j, flag && (Utf8.runes (suffix.drop k)).all isDigitRune) := by
  intro fuel
  induction fuel with
  | zero => intro k _ h; omega
  | succ f ih =>
    intro k hk hf
    unfold Generated.Module.checkElem_loop3
    by_cases hlt : k < suffix.length
    · obtain ⟨r, w, hdec, hw1, hw2, hrunes, _⟩ := range_step suffix k hlt
      have hlt' : (k : Int) < len suffix := by simp [len_eq]; omega
      obtain ⟨j, hrec⟩ := ih (k + w) hw2 (by omega)
      have hkw : (k : Int) + (w : Int) = ((k + w : Nat) : Int) := by simp
      simp only [hlt', decide_true, if_true, hdec, hrunes, List.all_cons, hkw, hrec]
      by_cases hp : isDigitRune r = true
      · have h1 : ¬ ((r : Int) < 48) := by simp [isDigitRune] at hp; omega
        have h2 : ¬ ((r : Int) > 57) := by simp [isDigitRune] at hp; omega
        exact ⟨j, by simp [h1, h2, hp]⟩
      · have h1 : ((r : Int) < 48) ∨ ((r : Int) > 57) := by simp [isDigitRune] at hp; omega
        refine ⟨(k : Int), ?_⟩
        have hp' : isDigitRune r = false := by simpa using hp
        rcases h1 with h1 | h1 <;> simp [h1, hp']
    · have hk' : k = suffix.length := by omega
      have hlt' : ¬ ((k : Int) < len suffix) := by simp [len_eq]; omega
      subst hk'
      exact ⟨(suffix.length : Int), by simp [len_eq, Utf8.runes, Utf8.runesAux]⟩


theorem badNames_any (ef : Bytes → Bytes → Bool) (short : Bytes)
    (hfold : ∀ bad ∈ Module.badWindowsNames, ∀ s, ef bad s = Module.equalFoldAscii bad s) :
    Generated.module_badWindowsNames.any (ef · short) = Module.badWindowsNames.any (Module.equalFoldAscii · short) := by
  rw [Tie.module_badWindowsNames_tie]
  generalize Module.badWindowsNames = l at hfold
  induction l with
  | nil => rfl
  | cons b l ih =>
    simp only [List.any_cons, hfold b (by simp) short, ih (fun x hx => hfold x (by simp [hx]))]

theorem digits_runes (s : Bytes) : (Utf8.runes s).all isDigitRune = s.all Module.isDigit := by
  rw [Utf8.runes_all_of_ascii_pred isDigitRune (by intro r h; simp [isDigitRune] at h; omega)]
  apply List.all_congr rfl
  simp only [isDigitRune, Module.isDigit, UInt8.le_iff_toNat_le]
  intro a; rfl

theorem short_cut {β : Type} (elem : Bytes) (K : Bytes → M β) :
    (if decide (index elem [46] ≥ 0) = true then (sliceTo elem (index elem [46]) >>= fun t17 => K t17) else K elem)
      = K (Module.shortOf elem) := by
  by_cases h : (46 : UInt8) ∈ elem
  · have : index elem [46] ≥ 0 := (index_single_nonneg elem 46).mpr h
    simp only [this, decide_true, if_true, take_index_single elem 46 h, bind_ok, Module.shortOf]
  · have : ¬ index elem [46] ≥ 0 := fun e => h ((index_single_nonneg elem 46).mp e)
    simp only [this, decide_false, Bool.false_eq_true, if_false, Module.shortOf, takeWhile_ne_of_not_mem h]

theorem checkElem_spec (ef : Bytes → Bytes → Bool) (il : Int → Bool) (kind : Module.Kind) (elem : Bytes) (fuel : Nat)
    (hfold : ∀ bad ∈ Module.badWindowsNames, ∀ s, ef bad s = Module.equalFoldAscii bad s)
    (hf : elem.length + 23 ≤ fuel) :
    Generated.Module.checkElem ef il fuel elem (kindInt kind) =
      .ok (errOf (Module.checkElem (natLetter il) kind elem)) := by
  unfold Generated.Module.checkElem Module.checkElem
  by_cases h0 : elem = []
  · subst h0; simp [errOf, msg]
  have h0' : elem.isEmpty = false := by cases elem <;> simp at h0 ⊢
  simp only [h0, decide_false, Bool.false_eq_true, if_false, h0']
  rw [count_single_eq_len]
  by_cases h1 : elem.all (· == 46) = true
  · simp [h1, errOf, msg]
  simp only [h1, Bool.false_eq_true, if_false]
  rw [idx_zero_eq_head elem h0, bind_ok]
  have hk0 : decide (kindInt kind = 0) = (kind == Module.Kind.module) := by cases kind <;> rfl
  have hk2 : decide (kindInt kind = 2) = (kind == Module.Kind.file) := by cases kind <;> rfl
  rw [first_byte_test elem h0 (n := 46) 46 rfl, hk0]
  by_cases h2 : (elem.head? == some 46 && kind == Module.Kind.module) = true
  · simp [h2, errOf, msg]
  simp only [h2, Bool.false_eq_true, if_false]
  rw [idx_last elem h0, bind_ok, last_byte_test elem h0 (n := 46) 46 rfl]
  by_cases h3 : (elem.getLast? == some 46) = true
  · simp [h3, errOf, msg]
  simp only [h3, Bool.false_eq_true, if_false]
  have hl1 := checkElem_loop1_spec ef il elem kind fuel 0 (by omega) (by omega)
  simp only [Int.natCast_zero, List.drop_zero] at hl1
  rw [hl1, bind_ok]
  cases h4 : (Utf8.runes elem).all (Module.charOK (natLetter il) kind)
  · simp [errOf, msg]
  simp only [if_true, Bool.not_true, Bool.false_eq_true, if_false]
  rw [short_cut]
  have hsl : (Module.shortOf elem).length ≤ elem.length := length_takeWhile_le _ _
  generalize Module.shortOf elem = short at hsl ⊢
  have hn : Generated.module_badWindowsNames.length = 22 := by decide
  have hl2 := checkElem_loop2_spec ef il short fuel 0 (by omega) (by omega)
  simp only [Int.natCast_zero, List.drop_zero, badNames_any ef short hfold] at hl2
  rw [hl2, bind_ok, hk2]
  by_cases h5 : Module.badWindowsNames.any (Module.equalFoldAscii · short) = true
  · simp [h5, errOf, msg]
  simp only [h5, Bool.false_eq_true, if_false]
  by_cases h6 : (kind == Module.Kind.file) = true
  · simp [h6, errOf]
  simp only [h6, Bool.false_eq_true, if_false]
  by_cases h7 : (126 : UInt8) ∈ short
  · obtain ⟨pre, suf, rfl, hsuf⟩ := exists_last_split 126 short h7
    rw [lastIndexByte_split pre suf (n := 126) 126 rfl hsuf, Module.looksLikeShortName_split pre suf hsuf]
    cases suf with
    | nil => simp [len_eq, errOf]
    | cons c suf =>
      have hlt : (pre.length : Int) < len (pre ++ 126 :: c :: suf) - 1 := by simp [len_eq]; omega
      have hge : (pre.length : Int) ≥ 0 := by omega
      have hsf : sliceFrom (pre ++ 126 :: c :: suf) ((pre.length : Int) + 1) = .ok (c :: suf) := by
        have := sliceFrom_natCast (v := pre ++ 126 :: c :: suf) (k := pre.length + 1) (by simp)
        simpa using this
      obtain ⟨j, hl3⟩ := checkElem_loop3_spec ef il (c :: suf) true fuel 0 (by omega)
        (by simp at hsl ⊢; omega)
      simp only [Int.natCast_zero, List.drop_zero, Bool.true_and, digits_runes] at hl3
      simp only [hlt, hge, decide_true, Bool.and_self, if_true, hsf, bind_ok, hl3, List.isEmpty_cons, Bool.not_false,
        Bool.true_and]
      by_cases h8 : (c :: suf).all Module.isDigit = true
      · simp [h8, errOf, msg]
      · simp [h8, errOf]
  · simp [lastIndexByte_not_mem short (n := 126) 126 rfl h7, Module.looksLikeShortName_not_mem short h7, errOf]

end ModVerif.TieFnModule
