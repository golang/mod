/-
  General lemmas about the GoRt run-time vocabulary used by the tie proofs of the go.mod lexer (Tie/FnLex.lean):

  * `bytes.LastIndex(s, "\n")` with a one-byte needle, and the slice after it as `takeWhile` on the reversed string
    (the form the lexer model keeps its consumed input in);
  * `strings.HasSuffix` / `strings.TrimSuffix` on a string given by its reversed bytes;
  * `utf8.DecodeRune` on a non-empty string;
  * `rune(c)` on a value in the rune range.
-/
import ModVerif.Basic.GoRt
import ModVerif.Basic.GoRtUtf8
import ModVerif.Basic.GoRtStrings
import ModVerif.Proofs.GoRtLemmas
import ModVerif.Proofs.GoRtLemmasStr
import ModVerif.Proofs.GenPropsUtil
namespace ModVerif.GoRtLex
open ModVerif ModVerif.GoRt ModVerif.GoRtStr

/-! ### strings.LastIndex with a one-byte needle -/

theorem lastIndex_single_not_mem (s : Bytes) (c : UInt8) (h : c ∉ s) : lastIndex s [c] = -1 := by
  simp [lastIndex, lastIndexAux_single, lastIndexByteAux_not_mem c s 0 _ h]

theorem lastIndex_single_split (pre suf : Bytes) (c : UInt8) (h : c ∉ suf) :
    lastIndex (pre ++ c :: suf) [c] = (pre.length : Int) := by
  simp [lastIndex, lastIndexAux_single, lastIndexByteAux_split c suf h pre 0]

/-- `s[LastIndex(s, c)+1 : len(s)]` is the part of `s` after its last `c` (all of `s` when there is none): the
    slice does not panic and equals `takeWhile (· != c)` on the reversed string, reversed. -/
theorem slice_after_lastIndex (s rest : Bytes) (c : UInt8) :
    slice (s ++ rest) (lastIndex s [c] + 1) (s.length : Int) = .ok ((s.reverse.takeWhile (· != c)).reverse) := by
  by_cases hc : c ∈ s
  · obtain ⟨pre, suf, rfl, hs⟩ := exists_last_split c s hc
    rw [lastIndex_single_split pre suf c hs, reverse_takeWhile_split pre suf c hs]
    have h1 : ((pre.length : Int) + 1) = ((pre.length + 1 : Nat) : Int) := by omega
    rw [h1, slice_natCast (by simp) (by simp), List.take_left]
    simp
  · rw [lastIndex_single_not_mem s c hc]
    have h1 : ((-1 : Int) + 1) = ((0 : Nat) : Int) := by omega
    rw [h1, slice_natCast (by omega) (by simp), List.take_left]
    have h2 : c ∉ s.reverse := by simpa using hc
    rw [takeWhile_ne_of_not_mem h2]
    simp

/-! ### HasSuffix / TrimSuffix on a string given by its reversed bytes -/

theorem hasSuffix_reverse (r p : Bytes) : hasSuffix r.reverse p = isPrefixOfB p.reverse r := by
  simp [hasSuffix, hasSuffixB]

theorem trimSuffix_reverse (r p : Bytes) :
    trimSuffix r.reverse p = if isPrefixOfB p.reverse r then (r.drop p.length).reverse else r.reverse := by
  unfold trimSuffix
  rw [show hasSuffixB r.reverse p = isPrefixOfB p.reverse r by simp [hasSuffixB]]
  split
  · rw [List.length_reverse, ← List.reverse_drop]
  · rfl

/-! ### utf8.DecodeRune -/

theorem decodeRune_cons (b : UInt8) (t : Bytes) :
    decodeRune (b :: t) = (((Utf8.decodeRune (b :: t)).1 : Int), ((Utf8.decodeRune (b :: t)).2 : Int)) := by
  simp [decodeRune]

theorem decodeRune_ne_nil {s : Bytes} (h : s ≠ []) :
    decodeRune s = (((Utf8.decodeRune s).1 : Int), ((Utf8.decodeRune s).2 : Int)) := by
  cases s with
  | nil => exact absurd rfl h
  | cons b t => exact decodeRune_cons b t

theorem decodeRune_le (s : Bytes) : (Utf8.decodeRune s).1 ≤ 0x10FFFF := by
  unfold Utf8.decodeRune
  cases h : Utf8.decode s with
  | none => decide
  | some rw =>
    obtain ⟨_, _, _, _, hp⟩ := Utf8.seq_of_decode h
    exact hp.le

/-! ### rune(c) -/

theorem toI32_natCast {n : Nat} (h : n < 2147483648) : toI32 (n : Int) = (n : Int) := by
  unfold toI32; simp only; split <;> omega

end ModVerif.GoRtLex
