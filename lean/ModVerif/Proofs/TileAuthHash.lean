/-
  C10 groundwork, hash layer: `tileHash` on `2^j` hashes is the perfect-tree hash `ptree`; it is injective
  under collision freedom of `node`; on the true hashes of level `l` it yields the true hash of level `l + j`.
  Then what the later files assume: `T l k`, an abstract true-hash function with `StepOK` (a hash is the node hash of its two
  children), `tdata` (the true content of a tile) and `Env` (the store shows `T`, and the honest server serves `tdata`).
-/
import ModVerif.Proofs.TileAuthArith
import ModVerif.Proofs.TlogStoreInv
namespace ModVerif.TileAuth
open ModVerif ModVerif.Tlog ModVerif.Tile

theorem take_range' (s n k : Nat) (hk : k ≤ n) : (List.range' s n).take k = List.range' s k := by
  have : List.range' s n = List.range' s k ++ List.range' (s + 1 * k) (n - k) := by
    rw [List.range'_append]; congr 1; omega
  rw [this, List.take_left' (by simp)]

section
variable {H : Type} (node : H → H → H)

/-- hash of the perfect binary tree over `2^j` hashes -/
def ptree : Nat → List H → Option H
  | 0, d =>
    match d with
    | [x] => some x
    | _ => none
  | j + 1, d =>
    match ptree j (d.take (2 ^ j)), ptree j (d.drop (2 ^ j)) with
    | some a, some b => some (node a b)
    | _, _ => none

theorem ptree_succ_some (j : Nat) (d : List H) (r : H) (h : ptree node (j + 1) d = some r) :
    ∃ a b, ptree node j (d.take (2 ^ j)) = some a ∧ ptree node j (d.drop (2 ^ j)) = some b ∧ r = node a b := by
  simp only [ptree] at h
  split at h
  · rename_i a b ha hb
    exact ⟨a, b, ha, hb, by simpa using h.symm⟩
  · cases h

theorem ptree_isSome : ∀ j (d : List H), d.length = 2 ^ j → ∃ r, ptree node j d = some r := by
  intro j
  induction j with
  | zero =>
    intro d hd
    match d, hd with
    | [x], _ => exact ⟨x, rfl⟩
  | succ j ih =>
    intro d hd
    have hp := Nat.two_pow_pos j
    rw [Nat.pow_succ] at hd
    obtain ⟨a, ha⟩ := ih (d.take (2 ^ j)) (by rw [List.length_take]; omega)
    obtain ⟨b, hb⟩ := ih (d.drop (2 ^ j)) (by rw [List.length_drop]; omega)
    exact ⟨node a b, by simp only [ptree, ha, hb]⟩

theorem ptree_length : ∀ j (d : List H) r, ptree node j d = some r → 2 ^ j ≤ d.length := by
  intro j
  induction j with
  | zero =>
    intro d r h
    match d, h with
    | [x], _ => simp
  | succ j ih =>
    intro d r h
    obtain ⟨a, b, ha, hb, _⟩ := ptree_succ_some node j d r h
    have h1 := ih _ _ ha
    have h2 := ih _ _ hb
    rw [List.length_take] at h1
    rw [List.length_drop] at h2
    rw [Nat.pow_succ]; omega

theorem tileHashF_step (f : Nat) (d : List H) (h : 2 ≤ d.length) :
    tileHashF node (f + 1) d = (do
      let a ← tileHashF node f (d.take (d.length / 2))
      let b ← tileHashF node f (d.drop (d.length / 2))
      pure (node a b)) := by
  match d, h with
  | a :: b :: t, _ => rfl

theorem tileHashF_ptree : ∀ j f (d : List H) r, d.length = 2 ^ j → 2 ^ j ≤ f → ptree node j d = some r →
    tileHashF node f d = .ok r := by
  intro j
  induction j with
  | zero =>
    intro f d r hd hf hr
    match d, hd, f, hf with
    | [x], _, f + 1, _ =>
      simp only [ptree, Option.some.injEq] at hr
      subst hr; rfl
    | [x], _, 0, hf => simp at hf
  | succ j ih =>
    intro f d r hd hf hr
    have hp := Nat.two_pow_pos j
    rw [Nat.pow_succ] at hd hf
    obtain ⟨a, b, ha, hb, hr'⟩ := ptree_succ_some node j d r hr
    match f, hf with
    | 0, hf => omega
    | f + 1, hf =>
      rw [tileHashF_step node f d (by omega)]
      have hhalf : d.length / 2 = 2 ^ j := by omega
      rw [hhalf, ih f _ a (by rw [List.length_take]; omega) (by omega) ha,
        ih f _ b (by rw [List.length_drop]; omega) (by omega) hb, hr']
      rfl

theorem tileHash_ptree (j : Nat) (d : List H) (r : H) (hd : d.length = 2 ^ j) (hr : ptree node j d = some r) :
    tileHash node d = .ok r := by
  unfold tileHash
  exact tileHashF_ptree node j _ d r hd (by omega) hr

theorem ptree_of_tileHash (j : Nat) (d : List H) (r : H) (hd : d.length = 2 ^ j) (hr : tileHash node d = .ok r) :
    ptree node j d = some r := by
  obtain ⟨r', hr'⟩ := ptree_isSome node j d hd
  have := tileHash_ptree node j d r' hd hr'
  rw [hr] at this
  cases this
  exact hr'

theorem ptree_inj (hcf : ∀ a b c d : H, node a b = node c d → a = c ∧ b = d) :
    ∀ j (d d' : List H) r, d.length = 2 ^ j → d'.length = 2 ^ j → ptree node j d = some r →
      ptree node j d' = some r → d = d' := by
  intro j
  induction j with
  | zero =>
    intro d d' r hd hd' h h'
    match d, hd, d', hd' with
    | [x], _, [y], _ =>
      simp only [ptree, Option.some.injEq] at h h'
      rw [h, h']
  | succ j ih =>
    intro d d' r hd hd' h h'
    have hp := Nat.two_pow_pos j
    rw [Nat.pow_succ] at hd hd'
    obtain ⟨a, b, ha, hb, hr⟩ := ptree_succ_some node j d r h
    obtain ⟨a', b', ha', hb', hr'⟩ := ptree_succ_some node j d' r h'
    have := hcf a b a' b' (by rw [← hr, ← hr'])
    obtain ⟨e1, e2⟩ := this
    subst e1 e2
    have t1 := ih _ _ a (by rw [List.length_take]; omega) (by rw [List.length_take]; omega) ha ha'
    have t2 := ih _ _ b (by rw [List.length_drop]; omega) (by rw [List.length_drop]; omega) hb hb'
    rw [← List.take_append_drop (2 ^ j) d, ← List.take_append_drop (2 ^ j) d', t1, t2]

variable (T : Nat → Nat → H) (N : Nat)

def StepOK : Prop := ∀ l k, (k + 1) * 2 ^ (l + 1) ≤ N → T (l + 1) k = node (T l (2 * k)) (T l (2 * k + 1))

theorem ptree_T (hstep : StepOK node T N) : ∀ j l k, (k + 1) * 2 ^ (l + j) ≤ N →
    ptree node j ((List.range' (k * 2 ^ j) (2 ^ j)).map (T l)) = some (T (l + j) k) := by
  intro j
  induction j with
  | zero =>
    intro l k _
    simp [ptree]
  | succ j ih =>
    intro l k hv
    have hp := Nat.two_pow_pos j
    have hpl := Nat.two_pow_pos (l + j)
    have e0 : 2 ^ (j + 1) = 2 ^ j + 2 ^ j := by rw [Nat.pow_succ]; omega
    have e1 : k * 2 ^ (j + 1) = 2 * k * 2 ^ j := by rw [Nat.pow_succ]; ac_rfl
    have e2 : k * 2 ^ (j + 1) + 1 * 2 ^ j = (2 * k + 1) * 2 ^ j := by rw [e1, Nat.add_mul]
    have e3 : 2 ^ (l + (j + 1)) = 2 ^ (l + j) + 2 ^ (l + j) := by
      rw [show l + (j + 1) = (l + j) + 1 by omega, Nat.pow_succ]; omega
    have hv' : (k + 1) * 2 ^ (l + j) + (k + 1) * 2 ^ (l + j) ≤ N := by
      rw [e3, Nat.mul_add] at hv; exact hv
    have v1 : (2 * k + 1) * 2 ^ (l + j) ≤ N := by
      have : (2 * k + 1) * 2 ^ (l + j) ≤ (k + 1) * 2 ^ (l + j) + (k + 1) * 2 ^ (l + j) := by
        rw [← Nat.add_mul]; exact Nat.mul_le_mul_right _ (by omega)
      omega
    have v2 : (2 * k + 1 + 1) * 2 ^ (l + j) ≤ N := by
      have : (2 * k + 1 + 1) * 2 ^ (l + j) = (k + 1) * 2 ^ (l + j) + (k + 1) * 2 ^ (l + j) := by
        rw [← Nat.add_mul]; congr 1; omega
      omega
    have t1 : (List.map (T l) (List.range' (k * 2 ^ (j + 1)) (2 ^ (j + 1)))).take (2 ^ j) =
        List.map (T l) (List.range' (2 * k * 2 ^ j) (2 ^ j)) := by
      rw [← List.map_take, take_range' _ _ _ (by omega), e1]
    have t2 : (List.map (T l) (List.range' (k * 2 ^ (j + 1)) (2 ^ (j + 1)))).drop (2 ^ j) =
        List.map (T l) (List.range' ((2 * k + 1) * 2 ^ j) (2 ^ j)) := by
      rw [← List.map_drop, List.drop_range', Nat.mul_comm (2 ^ j) 1, e2]
      congr 2; omega
    simp only [ptree]
    rw [t1, t2, ih l (2 * k) v1, ih l (2 * k + 1) v2]
    simp only
    rw [show l + (j + 1) = (l + j) + 1 by omega, hstep (l + j) k (by rw [show l + j + 1 = l + (j + 1) by omega]; exact hv)]

end
end ModVerif.TileAuth

namespace ModVerif.TileAuth
open ModVerif ModVerif.Tlog ModVerif.Tile

theorem mapM_option_cons {α β : Type} (f : α → Option β) (a : α) (l : List α) (r : List β) :
    (a :: l).mapM f = some r ↔ ∃ b r', f a = some b ∧ l.mapM f = some r' ∧ r = b :: r' := by
  rw [List.mapM_cons]
  cases f a with
  | none => simp
  | some b =>
    cases l.mapM f with
    | none => simp
    | some r' => simp [eq_comm]

theorem mapM_option_some {α β : Type} (f : α → Option β) (g : α → β) :
    ∀ l : List α, (∀ x ∈ l, f x = some (g x)) → l.mapM f = some (l.map g) := by
  intro l
  induction l with
  | nil => intro _; rfl
  | cons a l ih =>
    intro hl
    exact (mapM_option_cons f a l _).mpr ⟨_, _, hl a (by simp), ih (fun x hx => hl x (by simp [hx])), rfl⟩

theorem mapM_option_exists {α β : Type} (f : α → Option β) : ∀ l : List α, (∀ x ∈ l, ∃ b, f x = some b) →
    ∃ r, l.mapM f = some r := by
  intro l
  induction l with
  | nil => intro _; exact ⟨[], rfl⟩
  | cons a l ih =>
    intro h
    obtain ⟨b, hb⟩ := h a (by simp)
    obtain ⟨r, hr⟩ := ih (fun x hx => h x (by simp [hx]))
    exact ⟨b :: r, (mapM_option_cons f a l _).mpr ⟨b, r, hb, hr, rfl⟩⟩

theorem mapM_option_get {α β : Type} (f : α → Option β) : ∀ (l : List α) (r : List β), l.mapM f = some r →
    r.length = l.length ∧ ∀ (i : Nat) (a : α), l[i]? = some a → ∃ b, r[i]? = some b ∧ f a = some b := by
  intro l
  induction l with
  | nil =>
    intro r h
    simp only [List.mapM_nil, pure, Option.some.injEq] at h
    subst h
    exact ⟨rfl, by intro i a hi; simp at hi⟩
  | cons a l ih =>
    intro r h
    obtain ⟨b, r', hfa, hl, rfl⟩ := (mapM_option_cons f a l r).mp h
    obtain ⟨h1, h2⟩ := ih r' hl
    refine ⟨by simp [h1], ?_⟩
    intro i a' hi
    cases i with
    | zero =>
      simp only [List.getElem?_cons_zero, Option.some.injEq] at hi
      subst hi
      exact ⟨b, rfl, hfa⟩
    | succ i =>
      simp only [List.getElem?_cons_succ] at hi ⊢
      exact h2 i a' hi

theorem mapM_option_of_get {α β : Type} (f : α → Option β) : ∀ (l : List α) (r : List β), r.length = l.length →
    (∀ (i : Nat) (a : α), l[i]? = some a → ∃ b, r[i]? = some b ∧ f a = some b) → l.mapM f = some r := by
  intro l
  induction l with
  | nil =>
    intro r h _
    have : r = [] := List.eq_nil_of_length_eq_zero (by simpa using h)
    subst this; rfl
  | cons a l ih =>
    intro r h hp
    cases r with
    | nil => simp at h
    | cons b r =>
      obtain ⟨b', e1, e2⟩ := hp 0 a rfl
      simp only [List.getElem?_cons_zero, Option.some.injEq] at e1
      subst e1
      exact (mapM_option_cons f a l _).mpr
        ⟨_, _, e2, ih r (by simpa using h) (fun i a' hi => by simpa using hp (i + 1) a' (by simpa using hi)), rfl⟩

section
variable {H : Type} (node : H → H → H) (T : Nat → Nat → H) (N : Nat)

/-- the true content of the tile at tile coordinates `(L, n)` cut to width `w` -/
def tdata (h L n w : Nat) : List H := (List.range' (n * 2 ^ h) w).map (T (L * h))

theorem tdata_length (h L n w : Nat) : (tdata T h L n w).length = w := by simp [tdata]

theorem tdata_get (h L n w q : Nat) (hq : q < w) : (tdata T h L n w)[q]? = some (T (L * h) (n * 2 ^ h + q)) := by
  simp [tdata, List.getElem?_map, List.getElem?_range' hq]

theorem tdata_slice (h L n w s m : Nat) (hle : s + m ≤ w) :
    ((tdata T h L n w).take (s + m)).drop s = (List.range' (n * 2 ^ h + s) m).map (T (L * h)) := by
  unfold tdata
  rw [← List.map_take, take_range' _ _ _ hle, ← List.map_drop, List.drop_range']
  congr 2 <;> omega

/-- what the proofs need to know about the store and the true hashes `T l k` of a tree of `N` records -/
structure Env (st : List H) : Prop where
  step : StepOK node T N
  get : ∀ l k, (k + 1) * 2 ^ l ≤ N → st[storedHashIndex l k]? = some (T l k)
  split : ∀ l k, (k + 1) * 2 ^ l ≤ N → splitStoredHashIndex (storedHashIndex l k) = .ok (l, k)

theorem trueTile_eq (st : List H) (env : Env node T N st) (t : Tile) (hw : 0 < t.w)
    (hin : t.n * 2 ^ t.h + t.w ≤ cnt t.h N t.l) : trueTile st t = some (tdata T t.h t.l t.n t.w) := by
  unfold trueTile readTileData
  have hw0 : (t.w == 0) = false := by simp; omega
  simp only [hw0, Bool.false_eq_true, ↓reduceIte, Nat.shiftLeft_eq]
  rw [TlogStore.readChecked_store st (fun i => storedHashIndex (t.h * t.l) (t.n * 2 ^ t.h + i))
    (fun i => T (t.l * t.h) (t.n * 2 ^ t.h + i)) (List.range t.w)]
  · simp only [tdata, List.range'_eq_map_range, List.map_map]
    rfl
  · intro i hi
    have hi' : i < t.w := List.mem_range.mp hi
    rw [Nat.mul_comm t.h t.l]
    apply env.get
    rw [valid_iff]
    omega

end
end ModVerif.TileAuth
