/-
  go.work: readable values along a session, read off the STARTING file and the OPERATION LIST
  (C15 `typed_eq_reparse`, C08 `refines_abs`, re-parse half, go.work; the counterpart of Proofs/EditReparseF.lean).

  `AbsOKW` is preserved by every step of the specification's step table when the arguments of the operation are readable
  (`ArgsOKW`; go / toolchain / godebug / replace: `AbsOKF.step` of the go.mod proof, `use`: `UseOK.step`), and it is invariant
  under `Rel`.  With C08's `refines_abs_typed_work` this turns the condition `AbsOKW` on the FINAL typed lists into `AbsOKW` of
  the starting file plus `ArgsOKW` of every operation (`absOKW_run`).
-/
import ModVerif.Proofs.EditWorkReparseC
namespace ModVerif.Modfile.Edit.W
open ModVerif ModVerif.Modfile ModVerif.EditSpec
open ModVerif.Proofs.ModfileFmtDir (PathOK pathOKB pathOKB_sound)

def UseOK (a : AbsFile) : Prop := ∀ u ∈ a.use, PathOK u

def ArgsOKW : EditSpec.Op → Prop
  | .addGo v => Edit.ItemOK (.go v)
  | .addToolchain n => Edit.ItemOK (.toolchain n)
  | .addGodebug k v => Edit.ItemOK (.godebug k v)
  | .addReplace a b c d => Edit.ItemOK (.replace ⟨a, b⟩ ⟨c, d⟩)
  | .addUse d _ => PathOK d
  | .addNewUse d _ => PathOK d
  | .setUse want => ∀ w ∈ want, PathOK w.1
  | _ => True

def argsOKWB : EditSpec.Op → Bool
  | .addGo v => Edit.itemOKB (.go v)
  | .addToolchain n => Edit.itemOKB (.toolchain n)
  | .addGodebug k v => Edit.itemOKB (.godebug k v)
  | .addReplace a b c d => Edit.itemOKB (.replace ⟨a, b⟩ ⟨c, d⟩)
  | .addUse d _ => pathOKB d
  | .addNewUse d _ => pathOKB d
  | .setUse want => want.all fun w => pathOKB w.1
  | _ => true

theorem argsOKWB_sound {op : EditSpec.Op} (h : argsOKWB op = true) : ArgsOKW op := by
  cases op <;> simp only [argsOKWB, ArgsOKW] at h ⊢ <;>
    first
      | trivial
      | exact Edit.itemOKB_sound h
      | exact pathOKB_sound h
      | (intro w hw; exact pathOKB_sound (List.all_eq_true.1 h w hw))

/-- on the shared fields `ArgsOKW` is the go.mod `ArgsOK` -/
theorem argsOK_of_W {op : Op} (hw : IsWorkOp op) (h : ArgsOKW op.toSpec) : Edit.ArgsOK op.toSpec := by
  cases op <;> simp only [Op.toSpec, Edit.ArgsOK, ArgsOKW, IsWorkOp] at h hw ⊢ <;> first | exact h | trivial | exact hw.elim

theorem UseOK.step (V : Validity) {a : AbsFile} (h : UseOK a) (op : EditSpec.Op) (ho : ArgsOKW op) : UseOK (step V a op) := by
  unfold EditSpec.step
  split
  · exact h
  · cases op with
    | addUse d m =>
      intro u hu
      rcases mem_setKeyed _ _ _ _ u hu with hu | ⟨x, hx, _, he⟩ | rfl
      · exact h u hu
      · rw [he]; exact h x hx
      · exact ho
    | addNewUse d m =>
      intro u hu
      rcases List.mem_append.1 hu with hu | hu
      · exact h u hu
      · simp only [List.mem_singleton] at hu; subst hu; exact ho
    | dropUse d => exact fun u hu => h u (mem_dropAll _ _ _ hu)
    | setUse want =>
      intro u hu
      have : u ∈ want.map Prod.fst := mem_setExact _ _ _ u hu
      obtain ⟨w, hw, rfl⟩ := List.mem_map.1 this
      exact ho w hw
    | addExclude p v => dsimp only; split <;> exact h
    | addTool p => dsimp only; split <;> exact h
    | _ => exact h

theorem UseOK.run (V : Validity) (ops : List EditSpec.Op) (a : AbsFile) (h : UseOK a) (ho : ∀ op ∈ ops, ArgsOKW op) :
    UseOK (run V a ops) :=
  run_keeps V (fun _ op h ho => h.step V op ho) ops a h ho

theorem UseOK.of_rel {a b : AbsFile} (hr : Rel a b) (h : UseOK b) : UseOK a :=
  fun u hu => h u (hr.use.perm.mem_iff.1 hu)

theorem absOKW_iff (a : AbsFile) : AbsOKW a ↔
    (∀ v, a.go = some v → Edit.ItemOK (.go v)) ∧ (∀ n, a.toolchain = some n → Edit.ItemOK (.toolchain n)) ∧
    (∀ g ∈ a.godebug, Edit.ItemOK (.godebug g.1 g.2)) ∧ UseOK a ∧
    (∀ r ∈ a.replace, Edit.ItemOK (.replace ⟨r.oldPath, r.oldVers⟩ ⟨r.newPath, r.newVers⟩)) := by
  simp only [AbsOKW, absItems, List.forall_mem_append, List.forall_mem_map, Option.mem_toList]
  rfl

/-- the abstract file of a go.work file has no go.mod-only directive -/
theorem absOKF_of_W {f : WorkFile} (h : AbsOKW (absOfWork f)) : AbsOKF (absOfWork f) ∧ UseOK (absOfWork f) := by
  obtain ⟨h1, h2, h3, h4, h5⟩ := (absOKW_iff _).1 h
  exact ⟨⟨nofun, h1, h2, h3, nofun, nofun, h5, nofun, nofun⟩, h4⟩

theorem absOKW_of_F {a : AbsFile} (h : AbsOKF a) (hu : UseOK a) : AbsOKW a :=
  (absOKW_iff a).2 ⟨h.go, h.toolchain, h.godebug, hu, h.replace⟩

theorem validArgs_of_W {op : Op} (h : ValidArgsW op) (hw : IsWorkOp op) : ValidArgs op := by
  cases op <;> simp only [ValidArgsW, ValidArgs, IsWorkOp] at h hw ⊢ <;> first | exact h | trivial | exact hw.elim | exact h.elim

theorem StaticValidW.validArgs : ∀ (ops : List Op) (c : Bool), StaticValidW c ops → (∀ op ∈ ops, IsWorkOp op) →
    ∀ op ∈ ops, ValidArgs op := by
  intro ops
  induction ops with
  | nil => intro _ _ _ op hop; cases hop
  | cons o ops ih =>
    intro c hs hwk op hop
    rcases List.mem_cons.1 hop with rfl | hop
    · have := hs.1
      have hm := hwk op (by simp)
      cases op <;> first
        | exact ⟨List.pairwise_map.2 this.1.1, this.1.2⟩
        | exact validArgs_of_W this hm
    · exact ih _ hs.2 (fun o' ho' => hwk o' (by simp [ho'])) op hop

/-- uses per path ⇒ as multisets -/
theorem absPermW_of_rel {a b : AbsFile} (h : Rel a b) : AbsPermW a b :=
  ⟨h.go, h.toolchain, .of_eq h.godebug, h.use.perm, .of_eq h.replace⟩

/-! ### sessions, conditions on the starting file and the operation list -/

theorem absOKW_run {f : WorkFile} (hs : WorkStartOK f) (hstart : AbsOKW (absOfWork f)) {ops : List Op}
    (hv : StaticValidW false ops) (hw : ∀ op ∈ ops, IsWorkOp op) (hargs : ∀ op ∈ ops, ArgsOKW op.toSpec) {e' : EWork}
    {res : List Bool} (h : runOps applyWork (loadWork f) ops [] 0 = .done e' res) :
    AbsOKW (absOfWork (workCleanup e').f) ∧
      Rel (absOfWork (workCleanup e').f) (run stdValidity (absOfWork f) (ops.map Op.toSpec)) ∧
      res = runOk stdValidity (absOfWork f) (ops.map Op.toSpec) := by
  obtain ⟨h2, h3⟩ := refines_abs_typed_work f ops e' res hs (StaticValidW.validArgs ops false hv hw) h
  rw [mV_eq_std] at h2 h3
  obtain ⟨hF, hU⟩ := absOKF_of_W hstart
  have hmem : ∀ {P : EditSpec.Op → Prop}, (∀ op ∈ ops, P op.toSpec) → ∀ op ∈ ops.map Op.toSpec, P op := fun hP op hop => by
    obtain ⟨op', hop', rfl⟩ := List.mem_map.1 hop; exact hP op' hop'
  exact ⟨absOKW_of_F (AbsOKF.of_rel h2 (AbsOKF.run _ _ _ hF (hmem fun op hop => argsOK_of_W (hw op hop) (hargs op hop))))
    (UseOK.of_rel h2 (UseOK.run _ _ _ hU (hmem hargs))), h2, h3⟩

/-- Props/C15 `typed_eq_reparse_work_partial2` -/
theorem typed_eq_reparse_work_session2 (file : Bytes) (ops : List Op) (o : Outcome) (f : WorkFile)
    (hf : parseWork (B "go.work") file none = .ok f) (hk : WorkKeys f) (hs : NoBlockSuffix f.syn)
    (hstart : AbsOKW (absOfWork f)) (hv : StaticValidW false ops)
    (hw : ∀ op ∈ ops, IsWorkOp op) (hargs : ∀ op ∈ ops, ArgsOKW op.toSpec)
    (h : sessionWork file ops = some o) (hcom : comShapeB o.tree = true) :
    ∃ r, o.reparsed = some r ∧ AbsPermW r o.typed ∧ Rel o.typed (run stdValidity o.start (ops.map Op.toSpec)) ∧
      o.res = runOk stdValidity o.start (ops.map Op.toSpec) := by
  obtain ⟨f', e, res, hf', hrun, h1, h2, h3, h4, h5⟩ := sessionWork_some h
  cases hf.symm.trans hf'
  rw [h3] at hcom
  obtain ⟨hok, hrel, hres⟩ := absOKW_run (parseWork_startOK hf hk) hstart hv hw hargs hrun
  obtain ⟨g, hg, hp⟩ := typed_eq_reparse_work_run _ (B "go.work") _ f ops e res hf hk hs hv hrun hok hcom
  rw [h5, hg, h1, h2, h4]
  exact ⟨_, rfl, hp, hrel, hres⟩

end ModVerif.Modfile.Edit.W
