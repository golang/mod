/-
  Trees without end-of-line comments as the special case of the end-of-line-comment chain.

  `WFStmt s ↔ EWFStmt s ∧ NoSuf s` (`wfStmt_iff`); on such trees `rStmtsE = rStmts`, `normExprE = normExpr`, and the lexer
  records no comment on the formatted text.  Hence `format_eq_rStmts` and the theorems under the hypotheses
  `eolComments x = []` / `NoEol t` are read off `format_eq_rStmtsE`, `parseFile_rendered` and `format_parse_syntax_count`.
-/
import ModVerif.Proofs.ModfileEolLines
namespace ModVerif.Proofs.ModfileEol
open ModVerif ModVerif.Modfile
open ModVerif.Proofs.ModfileFmtLex ModVerif.Proofs.ModfileFmtLine ModVerif.Proofs.ModfileFmtTree
open ModVerif.Proofs.ModfileFmtRender ModVerif.Proofs.ModfileFmtMain ModVerif.Proofs.ModfileFmtConserve

theorem sufOK_of_nil {cs : List Comment} (h : cs = []) : SufOK cs := h ▸ sufOK_nil

theorem wfBlkLines_iff : ∀ (ls : List Line) (allow : Bool),
    WFBlkLines allow ls ↔ EWFBlkLines allow ls ∧ ∀ l ∈ ls, l.comments.suffix = [] := by
  intro ls
  induction ls with
  | nil => intro _; simp [WFBlkLines, EWFBlkLines]
  | cons l ls ih =>
    intro allow
    simp only [WFBlkLines, EWFBlkLines, ih true, List.mem_cons, forall_eq_or_imp]
    constructor
    · rintro ⟨h, h1, h2⟩
      exact ⟨⟨⟨h.ne, h.tok, h.first, h.before, sufOK_of_nil h.suffix, h.after, h.inBlock⟩, h1⟩, h.suffix, h2⟩
    · rintro ⟨⟨h, h1⟩, h0, h2⟩
      exact ⟨⟨h.ne, h.tok, h.first, h.before, h0, h.after, h.inBlock⟩, h1, h2⟩

theorem wfStmt_iff (s : Expr) : WFStmt s ↔ EWFStmt s ∧ NoSuf s := by
  cases s with
  | commentBlock x =>
    exact ⟨fun h => ⟨h, h.2.2.1⟩, fun h => h.1⟩
  | line l =>
    constructor
    · intro h
      have h : WFLine l := h
      exact ⟨(⟨h.ne, h.tok, h.tail, h.before, sufOK_of_nil h.suffix, h.after, h.inBlock⟩ : EWFLine l), h.suffix⟩
    · rintro ⟨h, h0⟩
      have h : EWFLine l := h
      exact (⟨h.ne, h.tok, h.tail, h.before, h0, h.after, h.inBlock⟩ : WFLine l)
  | lineBlock b =>
    constructor
    · intro h
      have h : WFBlock b := h
      obtain ⟨hl, hs⟩ := (wfBlkLines_iff _ _).1 h.lines
      have hlp := h.lparen
      refine ⟨(⟨h.ne, h.tok, h.before, h.after, by rw [hlp], by rw [hlp]; exact sufOK_nil, by rw [hlp], hl, h.rbefore,
        by rw [h.rsuffix, h.suffix]; exact sufOK_nil, h.rafter⟩ : EWFBlock b), h.suffix, by rw [hlp], hs, h.rsuffix⟩
    · rintro ⟨h, h1, h2, h3, h4⟩
      have h : EWFBlock b := h
      refine (⟨h.ne, h.tok, h.before, h1, h.after, ?_, (wfBlkLines_iff _ _).2 ⟨h.lines, h3⟩, h.rbefore, h4, h.rafter⟩ :
        WFBlock b)
      have e1 := h.lbefore
      have e3 := h.lafter
      cases hc : b.lparen.comments
      rw [hc] at e1 h2 e3
      simp only at e1 h2 e3
      subst e1 h2 e3
      rfl
  | lparen x => simp [WFStmt, EWFStmt]
  | rparen x => simp [WFStmt, EWFStmt]

theorem ewf_of_wf {ss : List Expr} (h : WFStmts ss) : EWFStmts ss := fun s hs => ((wfStmt_iff s).1 (h s hs)).1

theorem rLineE_of_noSuf {l : Line} (h : l.comments.suffix = []) : rLineE l = rLineS l := by
  simp [rLineE, rLineS, h, rSuf]

theorem rStmtE_of_noSuf {s : Expr} (h : NoSuf s) : rStmtE s = rStmt s := by
  cases s with
  | lineBlock b =>
    obtain ⟨h1, h2, h3, h4⟩ := h
    have hl : b.lines.flatMap rLineE = b.lines.flatMap rLineS := by
      simp only [List.flatMap]
      exact congrArg List.flatten (List.map_congr_left fun l hl => rLineE_of_noSuf (h3 l hl))
    simp [rStmtE, rStmt, rBlockE, rBlock, h1, h2, h4, hl, rSuf]
  | line l => simp [rStmtE, rStmt, show l.comments.suffix = [] from h, rSuf]
  | commentBlock x => rfl
  | lparen x => rfl
  | rparen x => rfl

theorem rStmtsE_of_noSuf : ∀ {ss : List Expr}, (∀ s ∈ ss, NoSuf s) → rStmtsE ss = rStmts ss
  | [], _ => rfl
  | [s], h => by simp [rStmtsE, rStmts, rStmtE_of_noSuf (h s (by simp))]
  | s :: r :: rs, h => by
    simp only [rStmtsE, rStmts, rStmtE_of_noSuf (h s (by simp))]
    rw [rStmtsE_of_noSuf (ss := r :: rs) (fun x hx => h x (by simp [hx]))]

theorem normExprE_of_noSuf {s : Expr} (h : NoSuf s) : normExprE s = normExpr s := by
  cases s with
  | lineBlock b => simp [normExprE, normExpr, normBlockE, normBlock, normCs, h.1]
  | line l => rfl
  | commentBlock x => rfl
  | lparen x => rfl
  | rparen x => rfl

theorem noSuf_normE {s : Expr} (h : NoSuf s) : NoSuf (normExprE s) := by
  rw [normExprE_of_noSuf h]
  cases s with
  | lineBlock b =>
    obtain ⟨h1, h2, h3, h4⟩ := h
    refine ⟨by simp [normBlock, normCs, h1], by simp [normBlock, normCs, h2], ?_, by simp [normBlock, normCs, h4]⟩
    intro l hl
    simp only [normBlock, List.mem_map] at hl
    obtain ⟨l0, hl0, rfl⟩ := hl
    simp [normLine, normCs, h3 l0 hl0]
  | line l => simp [NoSuf, normExpr, normLine, normCs, show l.comments.suffix = [] from h]
  | commentBlock x => simp [NoSuf, normExpr, normCs, show x.comments.suffix = [] from h]
  | lparen x => simp [NoSuf, normExpr, normCs, show x.comments.suffix = [] from h]
  | rparen x => simp [NoSuf, normExpr, normCs, show x.comments.suffix = [] from h]

theorem noSuf_erase (s : Expr) (h : NoSuf (eraseExpr s)) : NoSuf s := by
  cases s with
  | lineBlock b =>
    simp only [NoSuf, eraseExpr, eraseBlock, eraseCs, List.map_eq_nil_iff, List.mem_map, forall_exists_index, and_imp,
      forall_apply_eq_imp_iff₂, eraseLine] at h
    exact h
  | line l => simpa [NoSuf, eraseExpr, eraseLine, eraseCs] using h
  | commentBlock x => simpa [NoSuf, eraseExpr, eraseCs] using h
  | lparen x => simpa [NoSuf, eraseExpr, eraseCs] using h
  | rparen x => simpa [NoSuf, eraseExpr, eraseCs] using h

theorem noSuf_of_erase_eq {ss ss' : List Expr} (h : ss'.map eraseExpr = ss.map normExprE) (hno : ∀ s ∈ ss, NoSuf s) :
    ∀ s ∈ ss', NoSuf s := by
  intro s hs
  apply noSuf_erase
  have : eraseExpr s ∈ ss'.map eraseExpr := List.mem_map_of_mem hs
  rw [h] at this
  obtain ⟨s0, hs0, heq⟩ := List.mem_map.1 this
  rw [← heq]
  exact noSuf_normE (hno s0 hs0)

theorem normFileE_of_noEol {t : FileSyntax} (h : NoEol t) : normFileE t = normFile t := by
  simp only [normFileE, normFile]
  congr 1
  exact List.map_congr_left fun s hs => normExprE_of_noSuf (h.2 s hs)

theorem linesC_of_noSuf (D : Bytes) : ∀ (ls : List Line) (Z : Bytes), (∀ l ∈ ls, l.comments.suffix = []) →
    linesC D ls Z = []
  | [], _, _ => rfl
  | l :: ls, Z, h => by
    simp [linesC, h l (by simp), sufC, linesC_of_noSuf D ls Z (fun l' hl' => h l' (by simp [hl']))]

theorem stmtsC_of_noSuf (D : Bytes) : ∀ (ss : List Expr), (∀ s ∈ ss, NoSuf s) → stmtsC D ss = []
  | [], _ => rfl
  | s :: rest, h => by
    have hr := stmtsC_of_noSuf D rest (fun x hx => h x (by simp [hx]))
    have hs := h s (by simp)
    cases s with
    | lineBlock b =>
      obtain ⟨h1, h2, h3, h4⟩ := hs
      simp [stmtsC, stmtC, hr, h2, rsOf, h1, h4, sufC, linesC_of_noSuf D b.lines _ h3]
    | line l => simp [stmtsC, stmtC, hr, show l.comments.suffix = [] from hs, sufC]
    | commentBlock x => simp [stmtsC, stmtC, hr]
    | lparen x => simp [stmtsC, stmtC, hr]
    | rparen x => simp [stmtsC, stmtC, hr]

end ModVerif.Proofs.ModfileEol

namespace ModVerif.Proofs.ModfileFmtRender
open ModVerif ModVerif.Modfile ModVerif.Proofs.ModfileFmtTree ModVerif.Proofs.ModfileEol

theorem format_eq_rStmts (f : FileSyntax) (hwf : WFStmts f.stmts) (hc : f.comments.before = []) :
    format f = rStmts f.stmts := by
  rw [format_eq_rStmtsE f (ewf_of_wf hwf) hc, rStmtsE_of_noSuf fun s hs => ((wfStmt_iff s).1 (hwf s hs)).2]

end ModVerif.Proofs.ModfileFmtRender

namespace ModVerif.Proofs.ModfileFmtConserve
open ModVerif ModVerif.Modfile ModVerif.Proofs.ModfileFmtTree ModVerif.Proofs.ModfileFmtMain ModVerif.Proofs.ModfileEol

/-- ★ C02 clause 1 under `NoEol` (`Props.C02.format_parse_syntax_partial`) -/
theorem format_parse_syntax_noEol (name x : Bytes) (t : FileSyntax) (h : parse name x = .ok t) (hno : NoEol t) :
    ∃ t', parse name (format t) = .ok t' ∧ eraseFile t' = normFile t ∧ NoEol t' := by
  obtain ⟨t', h1, h2, h3⟩ := format_parse_syntax_count name x t h (eolCount_of_ok (eolOK_of_noEol hno))
  refine ⟨t', h1, by rw [h2, normFileE_of_noEol hno], h3.header, ?_⟩
  have hs : t'.stmts.map eraseExpr = t.stmts.map normExprE := by
    simpa [eraseFile, normFileE] using congrArg FileSyntax.stmts h2
  exact noSuf_of_erase_eq hs hno.2

/-- ★ C02 clause 2 under `NoEol` (`Props.C02.format_idempotent_partial`) -/
theorem format_idempotent_noEol (name x : Bytes) (t t' : FileSyntax) (h : parse name x = .ok t) (hno : NoEol t)
    (h' : parse name (format t) = .ok t') : format t' = format t :=
  format_idempotent_count name x t t' h (eolCount_of_ok (eolOK_of_noEol hno)) h'

end ModVerif.Proofs.ModfileFmtConserve

namespace ModVerif.Proofs.ModfileFmtFinal
open ModVerif ModVerif.Modfile
open ModVerif.Proofs.ModfileFmtTree ModVerif.Proofs.ModfileFmtMain ModVerif.Proofs.ModfileFmtEmits
open ModVerif.Proofs.ModfileFmtConserve ModVerif.Proofs.ModfileEol

theorem parse_noeol {name x : Bytes} {t : FileSyntax} (h : parse name x = .ok t) (hno : eolComments x = []) :
    WFStmts t.stmts ∧ t.comments = {} ∧ t.name = name := by
  unfold parse at h
  cases hp : parseFile x with
  | error e => simp [hp, bind, Except.bind] at h
  | ok v =>
    obtain ⟨stmts, i⟩ := v
    simp only [hp, bind, Except.bind, Except.ok.injEq] at h
    have hc : i.commentsRev = [] := by simpa [eolComments, hp] using hno
    have hwf := parseFile_wf x stmts i hp
    rw [hc, List.reverse_nil, assignComments_nil name stmts (fun s hs => wf_noSuf (hwf s hs))] at h
    subst h
    exact ⟨hwf, rfl, rfl⟩

/-- ★ C02 clause 1 for inputs on which the lexer records no end-of-line comment -/
theorem format_parse_syntax_noeol (name x : Bytes) (t : FileSyntax) (h : parse name x = .ok t)
    (hno : eolComments x = []) : ∃ t', parse name (format t) = .ok t' ∧ eraseFile t' = normFile t := by
  obtain ⟨hwf, hc, _⟩ := parse_noeol h hno
  obtain ⟨t', h1, h2, _⟩ := format_parse_syntax_noEol name x t h ⟨by rw [hc], fun s hs => wf_noSuf (hwf s hs)⟩
  exact ⟨t', h1, h2⟩

/-- the formatted output contains no end-of-line comment either, so both theorems apply to it again -/
theorem format_noeol (name x : Bytes) (t : FileSyntax) (h : parse name x = .ok t) (hno : eolComments x = []) :
    eolComments (format t) = [] := by
  obtain ⟨hwf, hc, _⟩ := parse_noeol h hno
  obtain ⟨_, out, i', hp, _, hcr⟩ := parseFile_rendered t (ewf_of_wf hwf) (by rw [hc])
  rw [stmtsC_of_noSuf _ _ fun s hs => wf_noSuf (hwf s hs)] at hcr
  simp only [eolComments, hp]
  simpa using hcr

end ModVerif.Proofs.ModfileFmtFinal
