/-
  The typed lists of `*File` and `*WorkFile` (`Godebug`, `Require`, `Exclude`, `Replace`, `Retract`, `Tool`, `Use`) as ONE
  variable `T : TList K α β` over a file kind `K`: where the objects live in the heap, the pointers in the file object, the
  entries in the model state; the scalar entries (`Module`, `Go`, `Toolchain`) likewise as `P : TOpt K α β`.  `Kind.OK` is
  what the proofs use of `RepFAt` / `RepWAt` besides the typed components, `TList.OK` / `TOpt.OK` say that `T` / `P` is the
  component it claims to be.

  Two loops over a typed list, both instances of `range_sim`:
  `dropLoop_sim` — "every matching entry is cleared (`*x = X{}`) and its line marked removed", against `clearAll`;
  `updLoop_sim` — "the first matching entry is updated and its line rewritten, every later one cleared", against `firstRest`.
  The regenerated loop enters through ONE equation: its unfolding is the generic body `dropBody` / `updBody` (the Go pattern as
  go2lean emits it, the recursive call abstracted), which each operation proves by unfolding its loop once; the bridges from
  the regenerated test / update / tokens to the model's are hypotheses of their own.
-/
import ModVerif.Proofs.TieFnEditWorkA
namespace ModVerif.Tie.FnEditReqA
open ModVerif.Tie.FnEditRep

theorem REntsL.cons_of_cons {α β : Type} {objs : List α} {g : β → α} {id : β → Nat} {nl : Nat} {pre : List Int} {r : Int}
    {suf : List Int} {xpre xsuf : List β} (rel : REntsL objs g id nl (pre ++ r :: suf) (xpre ++ xsuf))
    (hl : pre.length = xpre.length) : ∃ x t, xsuf = x :: t := by
  have := rel.length
  cases xsuf with
  | nil => simp at this; omega
  | cons x t => exact ⟨x, t, rfl⟩

theorem REntsL.nil_of_nil {α β : Type} {objs : List α} {g : β → α} {id : β → Nat} {nl : Nat} {pre : List Int}
    {xpre xsuf : List β} (rel : REntsL objs g id nl (pre ++ []) (xpre ++ xsuf))
    (hl : pre.length = xpre.length) : xsuf = [] := by
  have := rel.length
  simp at this
  exact List.eq_nil_of_length_eq_zero (by omega)

end ModVerif.Tie.FnEditReqA

namespace ModVerif.Tie.FnEditTyped
open ModVerif ModVerif.GoRt ModVerif.Generated.Edit ModVerif.Tie.FnEditRep ModVerif.Tie.FnEditTreeA ModVerif.Tie.FnEditLoop
  ModVerif.Tie.FnEditWorkA
open ModVerif.Modfile.Edit (clearAll firstRest markAll markRemoved deref nilId EditErr EFile EWork)

/-- a file kind: go.mod or go.work -/
structure Kind (Ω S : Type) where
  Rep : Heap → Ω → S → Prop
  files : Heap → List Ω
  syn : S → Modfile.FileSyntax
  setSyn : S → Modfile.FileSyntax → S

structure Kind.OK {Ω S : Type} (K : Kind Ω S) : Prop where
  linesG : ∀ {h o e}, K.Rep h o e → LinesG h
  setLine : ∀ {h o e}, K.Rep h o e → ∀ {p : Int} {l0 : Modfile.Line} {g : Modfile.Line → Modfile.Line}, IdEquiv g →
    heapGet h.lines p = .ok (lineG l0) → K.Rep (setLineH h p (g l0)) o (K.setSyn e ((K.syn e).updateLine p.toNat g))
  files_setLineH : ∀ h p l, K.files (setLineH h p l) = K.files h := by intros; rfl
  syn_setSyn : ∀ e s, K.syn (K.setSyn e s) = s := by intros; rfl
  setSyn_syn : ∀ e, K.setSyn e (K.syn e) = e := by intros; rfl
  setSyn_setSyn : ∀ e s t, K.setSyn (K.setSyn e s) t = K.setSyn e t := by intros; rfl

/-- `RepF` for `modK`, `RepW` for `workK` -/
abbrev Kind.RepP {Ω S : Type} (K : Kind Ω S) (h : Heap) (fp : Int) (e : S) : Prop :=
  ∃ o, heapGet (K.files h) fp = .ok o ∧ K.Rep h o e

abbrev modK : Kind File EFile := ⟨RepFAt, (·.mods), (·.f.syn), fun e s => { e with f := { e.f with syn := s } }⟩
abbrev workK : Kind WorkFile EWork := ⟨RepWAt, (·.works), (·.f.syn), fun e s => { e with f := { e.f with syn := s } }⟩

theorem modK_ok : modK.OK := { linesG := fun R => R.linesG, setLine := fun R _ _ _ hg hl => R.setLine hg hl }
theorem workK_ok : workK.OK := { linesG := fun R => R.linesG, setLine := fun R _ _ _ hg hl => R.setLine hg hl }

/-- the `match` form in which the ties are stated.  One lemma per state type: a `match` in a lemma generic in the state
    type elaborates to another auxiliary matcher than the one of the `Tie` statements and does not unify with it. -/
theorem tieF {r : Except EditErr EFile} {x : M (Option String × Heap)} {fp : Int}
    (h : Sim (fun e' b => b.1 = none ∧ modK.RepP b.2 fp e') r x) :
    match (generalizing := false) r with
    | .ok e' => ∃ h', x = .ok (none, h') ∧ RepF h' fp e'
    | .error _ => x = .error .panic := by
  cases r with
  | error e => exact h
  | ok a => obtain ⟨⟨_, b2⟩, hb, rfl, h2⟩ := h; exact ⟨b2, hb, h2⟩

theorem tieW {r : Except EditErr EWork} {x : M (Option String × Heap)} {fp : Int}
    (h : Sim (fun e' b => b.1 = none ∧ workK.RepP b.2 fp e') r x) :
    match (generalizing := false) r with
    | .ok e' => ∃ h', x = .ok (none, h') ∧ RepW h' fp e'
    | .error _ => x = .error .panic := by
  cases r with
  | error e => exact h
  | ok a => obtain ⟨⟨_, b2⟩, hb, rfl, h2⟩ := h; exact ⟨b2, hb, h2⟩

structure TList {Ω S : Type} (K : Kind Ω S) (α β : Type) where
  objs : Heap → List α
  setObjs : Heap → List α → Heap
  ptrs : Ω → List Int
  setPtrs : Ω → List Int → Ω
  ents : S → List β
  setEnts : S → List β → S
  g : β → α
  id : β → Nat
  syn : α → Int

/-- besides `rel` and `put` these are lens equations, which hold by `rfl` for every field of the records -/
structure TList.OK {Ω S α β : Type} {K : Kind Ω S} (T : TList K α β) : Prop where
  rel : ∀ {h o e}, K.Rep h o e → REnts (T.objs h) T.g T.id h.lines.length (T.ptrs o) (T.ents e)
  put : ∀ {h o e}, K.Rep h o e → ∀ {l ps xs}, REnts l T.g T.id h.lines.length ps xs →
    K.Rep (T.setObjs h l) (T.setPtrs o ps) (T.setEnts e xs)
  syn_g : ∀ x, T.syn (T.g x) = (T.id x : Int) := by intros; rfl
  setPtrs_ptrs : ∀ o, T.setPtrs o (T.ptrs o) = o := by intros; rfl
  ptrs_setPtrs : ∀ o ps, T.ptrs (T.setPtrs o ps) = ps := by intros; rfl
  setPtrs_setPtrs : ∀ o ps qs, T.setPtrs (T.setPtrs o ps) qs = T.setPtrs o qs := by intros; rfl
  setObjs_objs : ∀ h, T.setObjs h (T.objs h) = h := by intros; rfl
  objs_setObjs : ∀ h l, T.objs (T.setObjs h l) = l := by intros; rfl
  objs_setLineH : ∀ h p l, T.objs (setLineH h p l) = T.objs h := by intros; rfl
  files_setObjs : ∀ h l, K.files (T.setObjs h l) = K.files h := by intros; rfl
  lines_setObjs : ∀ h l, (T.setObjs h l).lines = h.lines := by intros; rfl
  ents_setEnts : ∀ e xs, T.ents (T.setEnts e xs) = xs := by intros; rfl
  setEnts_ents : ∀ e, T.setEnts e (T.ents e) = e := by intros; rfl
  setEnts_setEnts : ∀ e xs ys, T.setEnts (T.setEnts e xs) ys = T.setEnts e ys := by intros; rfl
  syn_setEnts : ∀ e xs, K.syn (T.setEnts e xs) = K.syn e := by intros; rfl
  ents_setSyn : ∀ e s, T.ents (K.setSyn e s) = T.ents e := by intros; rfl
  setEnts_setSyn : ∀ e xs s, T.setEnts (K.setSyn e s) xs = K.setSyn (T.setEnts e xs) s := by intros; rfl

abbrev godebugT : TList modK Godebug Modfile.Godebug :=
  ⟨(·.godebugs), fun h l => { h with godebugs := l }, (·.Godebug), fun o ps => { o with Godebug := ps },
   (·.f.godebug), fun e xs => { e with f := { e.f with godebug := xs } }, godebugG, (·.lineId), (·.Syntax)⟩
abbrev requireT : TList modK Require Modfile.Require :=
  ⟨(·.requires), fun h l => { h with requires := l }, (·.Require), fun o ps => { o with Require := ps },
   (·.f.require), fun e xs => { e with f := { e.f with require := xs } }, requireG, (·.lineId), (·.Syntax)⟩
abbrev excludeT : TList modK Exclude Modfile.Exclude :=
  ⟨(·.excludes), fun h l => { h with excludes := l }, (·.Exclude), fun o ps => { o with Exclude := ps },
   (·.f.exclude), fun e xs => { e with f := { e.f with exclude := xs } }, excludeG, (·.lineId), (·.Syntax)⟩
abbrev replaceT : TList modK Replace Modfile.Replace :=
  ⟨(·.replaces), fun h l => { h with replaces := l }, (·.Replace), fun o ps => { o with Replace := ps },
   (·.f.replace), fun e xs => { e with f := { e.f with replace := xs } }, replaceG, (·.lineId), (·.Syntax)⟩
abbrev retractT : TList modK Retract Modfile.Retract :=
  ⟨(·.retracts), fun h l => { h with retracts := l }, (·.Retract), fun o ps => { o with Retract := ps },
   (·.f.retract), fun e xs => { e with f := { e.f with retract := xs } }, retractG, (·.lineId), (·.Syntax)⟩
abbrev toolT : TList modK Tool Modfile.Tool :=
  ⟨(·.tools), fun h l => { h with tools := l }, (·.Tool), fun o ps => { o with Tool := ps },
   (·.f.tool), fun e xs => { e with f := { e.f with tool := xs } }, toolG, (·.lineId), (·.Syntax)⟩
abbrev wgodebugT : TList workK Godebug Modfile.Godebug :=
  ⟨(·.godebugs), fun h l => { h with godebugs := l }, (·.Godebug), fun o ps => { o with Godebug := ps },
   (·.f.godebug), fun e xs => { e with f := { e.f with godebug := xs } }, godebugG, (·.lineId), (·.Syntax)⟩
abbrev useT : TList workK Use Modfile.Use :=
  ⟨(·.uses), fun h l => { h with uses := l }, (·.Use), fun o ps => { o with Use := ps },
   (·.f.use), fun e xs => { e with f := { e.f with use := xs } }, useG, (·.lineId), (·.Syntax)⟩
abbrev wreplaceT : TList workK Replace Modfile.Replace :=
  ⟨(·.replaces), fun h l => { h with replaces := l }, (·.Replace), fun o ps => { o with Replace := ps },
   (·.f.replace), fun e xs => { e with f := { e.f with replace := xs } }, replaceG, (·.lineId), (·.Syntax)⟩

theorem godebugT_ok : godebugT.OK := { rel := fun R => R.godebug, put := fun R _ _ _ hr => R.withGodebug hr }
theorem requireT_ok : requireT.OK := { rel := fun R => R.require, put := fun R _ _ _ hr => R.withRequire hr }
theorem excludeT_ok : excludeT.OK := { rel := fun R => R.exclude, put := fun R _ _ _ hr => R.withExclude hr }
theorem replaceT_ok : replaceT.OK := { rel := fun R => R.replace, put := fun R _ _ _ hr => R.withReplace hr }
theorem retractT_ok : retractT.OK := { rel := fun R => R.retract, put := fun R _ _ _ hr => R.withRetract hr }
theorem toolT_ok : toolT.OK := { rel := fun R => R.tool, put := fun R _ _ _ hr => R.withTool hr }
theorem wgodebugT_ok : wgodebugT.OK := { rel := fun R => R.godebug, put := fun R _ _ _ hr => R.withGodebug hr }
theorem useT_ok : useT.OK := { rel := fun R => R.use, put := fun R _ _ _ hr => R.withUse hr }
theorem wreplaceT_ok : wreplaceT.OK := { rel := fun R => R.replace, put := fun R _ _ _ hr => R.withReplace hr }

structure TOpt {Ω S : Type} (K : Kind Ω S) (α β : Type) where
  objs : Heap → List α
  setObjs : Heap → List α → Heap
  ptr : Ω → Int
  setPtr : Ω → Int → Ω
  ent : S → Option β
  setEnt : S → Option β → S
  g : β → α
  id : β → Nat

structure TOpt.OK {Ω S α β : Type} {K : Kind Ω S} (P : TOpt K α β) : Prop where
  rel : ∀ {h o e}, K.Rep h o e → ROpt (P.objs h) P.g P.id h.lines.length (P.ptr o) (P.ent e)
  put : ∀ {h o e}, K.Rep h o e → ∀ {l p x}, ROpt l P.g P.id h.lines.length p x →
    K.Rep (P.setObjs h l) (P.setPtr o p) (P.setEnt e x)
  setPtr_ptr : ∀ o, P.setPtr o (P.ptr o) = o := by intros; rfl
  setObjs_objs : ∀ h, P.setObjs h (P.objs h) = h := by intros; rfl
  lines_setObjs : ∀ h l, (P.setObjs h l).lines = h.lines := by intros; rfl
  syn_setEnt : ∀ e x, K.syn (P.setEnt e x) = K.syn e := by intros; rfl
  setEnt_setSyn : ∀ e s x, P.setEnt (K.setSyn e s) x = K.setSyn (P.setEnt e x) s := by intros; rfl

abbrev moduleP : TOpt modK Module Modfile.Module :=
  ⟨(·.modules), fun h l => { h with modules := l }, (·.Module), fun o p => { o with Module := p },
   (·.f.module), fun e x => { e with f := { e.f with module := x } }, moduleG, (·.lineId)⟩
abbrev goP : TOpt modK Go Modfile.Go :=
  ⟨(·.gos), fun h l => { h with gos := l }, (·.Go), fun o p => { o with Go := p },
   (·.f.go), fun e x => { e with f := { e.f with go := x } }, goG, (·.lineId)⟩
abbrev toolchainP : TOpt modK Toolchain Modfile.Toolchain :=
  ⟨(·.toolchains), fun h l => { h with toolchains := l }, (·.Toolchain), fun o p => { o with Toolchain := p },
   (·.f.toolchain), fun e x => { e with f := { e.f with toolchain := x } }, toolchainG, (·.lineId)⟩
abbrev wgoP : TOpt workK Go Modfile.Go :=
  ⟨(·.gos), fun h l => { h with gos := l }, (·.Go), fun o p => { o with Go := p },
   (·.f.go), fun e x => { e with f := { e.f with go := x } }, goG, (·.lineId)⟩
abbrev wtoolchainP : TOpt workK Toolchain Modfile.Toolchain :=
  ⟨(·.toolchains), fun h l => { h with toolchains := l }, (·.Toolchain), fun o p => { o with Toolchain := p },
   (·.f.toolchain), fun e x => { e with f := { e.f with toolchain := x } }, toolchainG, (·.lineId)⟩

theorem moduleP_ok : moduleP.OK := { rel := fun R => R.module, put := fun R _ _ _ hr => R.withModule hr }
theorem goP_ok : goP.OK := { rel := fun R => R.go, put := fun R _ _ _ hr => R.withGo hr }
theorem toolchainP_ok : toolchainP.OK := { rel := fun R => R.toolchain, put := fun R _ _ _ hr => R.withToolchain hr }
theorem wgoP_ok : wgoP.OK := { rel := fun R => R.go, put := fun R _ _ _ hr => R.withGo hr }
theorem wtoolchainP_ok : wtoolchainP.OK := { rel := fun R => R.toolchain, put := fun R _ _ _ hr => R.withToolchain hr }

section scalar
variable {Ω S α β : Type} {K : Kind Ω S} {P : TOpt K α β} (hK : K.OK) (hP : P.OK)

include hP in
theorem TOpt.OK.none {h : Heap} {o : Ω} {e : S} (R : K.Rep h o e) (hn : P.ent e = none) : P.ptr o = 0 := by
  have := hP.rel R; rw [hn] at this; exact this

include hP in
theorem TOpt.OK.some {h : Heap} {o : Ω} {e : S} (R : K.Rep h o e) {x : β} (hs : P.ent e = some x) :
    heapGet (P.objs h) (P.ptr o) = .ok (P.g x) ∧ P.id x ≤ h.lines.length ∧ ¬ (P.ptr o = 0) := by
  have := hP.rel R; rw [hs] at this
  exact ⟨this.1, this.2, by have := heapGet_pos this.1; omega⟩

include hK hP in
theorem dropOpt_sim {h : Heap} {o : Ω} {e : S} (R : K.Rep h o e) {x : β} (hs : P.ent e = some x) (h0 : P.id x ≠ 0) :
    ∃ l, heapGet h.lines (P.id x : Int) = .ok (lineG l) ∧
      K.Rep (setLineH h (P.id x : Int) (markRemovedLine l)) (P.setPtr o 0)
        (K.setSyn (P.setEnt e none) (markRemoved (K.syn e) (P.id x))) := by
  obtain ⟨l, hl, _⟩ := (hK.linesG R).ofId h0 (hP.some R hs).2.1
  refine ⟨l, hl, ?_⟩
  have R2 := hP.put (hK.setLine R (g := markRemovedLine) IdEquiv_markRemoved hl)
    (l := P.objs (setLineH h (P.id x : Int) (markRemovedLine l))) (p := 0) (x := Option.none) rfl
  rw [hP.setObjs_objs, hP.setEnt_setSyn, Int.toNat_natCast] at R2
  exact R2

include hK hP in
theorem setOpt_sim {h : Heap} {o : Ω} {e : S} (R : K.Rep h o e) {x : β} (hs : P.ent e = some x) (h0 : P.id x ≠ 0)
    (y : β) (hy : P.id y = P.id x) (tokens : List Bytes) :
    ∃ l, heapGet h.lines (P.id x : Int) = .ok (lineG l) ∧
      K.Rep (setLineH (P.setObjs h ((P.objs h).set ((P.ptr o).toNat - 1) (P.g y))) (P.id x : Int) (updateTokLine tokens l)) o
        (K.setSyn (P.setEnt e (some y)) (Modfile.Edit.updateLine (K.syn e) (P.id x) tokens)) := by
  obtain ⟨hg, hle, _⟩ := hP.some R hs
  obtain ⟨l, hl, _⟩ := (hK.linesG R).ofId h0 hle
  refine ⟨l, hl, ?_⟩
  have R1 := hP.put R (p := P.ptr o) (x := Option.some y) ⟨heapGet_listSet_same _ hg, by rw [hy]; exact hle⟩
  rw [hP.setPtr_ptr] at R1
  have R2 := hK.setLine R1 (g := updateTokLine tokens) (IdEquiv_updateTok tokens) (p := (P.id x : Int)) (l0 := l)
    (by rw [hP.lines_setObjs]; exact hl)
  rw [hP.syn_setEnt, Int.toNat_natCast] at R2
  exact R2

end scalar

section step
variable {Ω S α β : Type} {K : Kind Ω S} {T : TList K α β} (hK : K.OK) (hT : T.OK)

include hK hT in
/-- `x.Syntax.markRemoved(); *x = X{}` -/
theorem clear_sim [Inhabited α] {cleared : β} (hc : T.g cleared = default) (hc0 : T.id cleared = 0)
    {h : Heap} {o : Ω} {e : S} (R : K.Rep h o e) {i : Nat} {r : Int} {x : β}
    (hr : (T.ptrs o)[i]? = some r) (hx : (T.ents e)[i]? = some x) (h0 : T.id x ≠ 0) :
    ∃ l, heapGet h.lines (T.id x : Int) = .ok (lineG l) ∧
      K.Rep (T.setObjs (setLineH h (T.id x : Int) (markRemovedLine l)) ((T.objs h).set (r.toNat - 1) default)) o
        (K.setSyn (T.setEnts e ((T.ents e).set i cleared)) (markRemoved (K.syn e) (T.id x))) := by
  obtain ⟨l, hl, _⟩ := (hK.linesG R).ofId h0 ((hT.rel R).get hr hx).2
  refine ⟨l, hl, ?_⟩
  have R1 := hK.setLine R (g := markRemovedLine) IdEquiv_markRemoved hl
  have R2 := hT.put R1 ((hT.rel R1).set hr cleared (by rw [hc0]; exact Nat.zero_le _))
  rw [hT.setPtrs_ptrs, hc, hT.objs_setLineH, hT.ents_setSyn, hT.setEnts_setSyn, Int.toNat_natCast] at R2
  exact R2

include hK hT in
theorem upd_sim {h : Heap} {o : Ω} {e : S} (R : K.Rep h o e) {i : Nat} {r : Int} {x : β}
    (hr : (T.ptrs o)[i]? = some r) (hx : (T.ents e)[i]? = some x) (h0 : T.id x ≠ 0) (y : β) (hy : T.id y = T.id x)
    (tokens : List Bytes) :
    ∃ l, heapGet h.lines (T.id x : Int) = .ok (lineG l) ∧
      K.Rep (setLineH (T.setObjs h ((T.objs h).set (r.toNat - 1) (T.g y))) (T.id x : Int) (updateTokLine tokens l)) o
        (K.setSyn (T.setEnts e ((T.ents e).set i y)) (Modfile.Edit.updateLine (K.syn e) (T.id x) tokens)) := by
  have hle := ((hT.rel R).get hr hx).2
  obtain ⟨l, hl, _⟩ := (hK.linesG R).ofId h0 hle
  refine ⟨l, hl, ?_⟩
  have R1 := hT.put R ((hT.rel R).set hr y (by rw [hy]; exact hle))
  rw [hT.setPtrs_ptrs] at R1
  have R2 := hK.setLine R1 (g := updateTokLine tokens) (IdEquiv_updateTok tokens) (p := (T.id x : Int)) (l0 := l)
    (by rw [hT.lines_setObjs]; exact hl)
  rw [hT.syn_setEnts, Int.toNat_natCast] at R2
  exact R2

include hT in
theorem TList.OK.cursor {h : Heap} {o : Ω} {e : S} {done todo : List β} {x : β} {syn : Modfile.FileSyntax} {p : Int}
    (R : K.Rep h o (K.setSyn (T.setEnts e (done ++ x :: todo)) syn)) (hp : (T.ptrs o)[done.length]? = some p) :
    (T.ents (K.setSyn (T.setEnts e (done ++ x :: todo)) syn))[done.length]? = some x ∧ heapGet (T.objs h) p = .ok (T.g x) := by
  have hx : (T.ents (K.setSyn (T.setEnts e (done ++ x :: todo)) syn))[done.length]? = some x := by
    rw [hT.ents_setSyn, hT.ents_setEnts]; exact getElem?_cursor _ _ _
  exact ⟨hx, ((hT.rel R).get hp hx).1⟩

include hK hT in
theorem TList.OK.setCursor (e : S) (done todo : List β) (x y : β) (syn syn' : Modfile.FileSyntax) :
    K.setSyn (T.setEnts (K.setSyn (T.setEnts e (done ++ x :: todo)) syn)
      ((T.ents (K.setSyn (T.setEnts e (done ++ x :: todo)) syn)).set done.length y)) syn' =
      K.setSyn (T.setEnts e (done ++ [y] ++ todo)) syn' := by
  rw [hT.ents_setSyn, hT.ents_setEnts, set_cursor, hT.setEnts_setSyn, hT.setEnts_setEnts, hK.setSyn_setSyn]; simp

end step

/-- one turn of the loop of a `Drop…` operation as go2lean emits it, the recursive call abstracted: a regenerated loop IS
    this body (by unfolding).  `test` is the regenerated match test (it may read the object again). -/
def dropBody {Ω S α β : Type} [Inhabited α] {K : Kind Ω S} (T : TList K α β) (test : Heap → Int → α → M Bool) (rx : List Int)
    (rec : Int → Heap → M (Int × Heap)) (ri : Int) (world : Heap) : M (Int × Heap) :=
  if decide (ri < len rx) then (do
    let r ← idxL rx ri
    let t5 ← heapGet (T.objs world) r
    let b ← test world r t5
    if b then (do
      let t6 ← heapGet (T.objs world) r
      let t7 ← Line_markRemoved (T.syn t6) world
      let (_, world) := t7
      let _ ← heapGet (T.objs world) r
      let t10 ← heapSet (T.objs world) r default
      rec (ri + 1) (T.setObjs world t10)) else rec (ri + 1) world) else pure (ri, world)

section drop
variable {Ω S α β : Type} [Inhabited α] {K : Kind Ω S} {T : TList K α β} (hK : K.OK) (hT : T.OK) {cleared : β}
  (hc : T.g cleared = default) (hc0 : T.id cleared = 0)

include hK hT hc hc0 in
/-- A matching entry that is already cleared (`Syntax == nil`) is Go's nil dereference, the model's `nilDeref`. -/
theorem dropLoop_sim (m : β → Bool) (test : Heap → Int → α → M Bool)
    (htest : ∀ h r x, heapGet (T.objs h) r = .ok (T.g x) → test h r (T.g x) = .ok (m x))
    (o : Ω) (loop : Nat → Int → Heap → M (Int × Heap))
    (hloop : ∀ fuel ri h, loop (fuel + 1) ri h = dropBody T test (T.ptrs o) (loop fuel) ri h)
    {h : Heap} {e : S} {fuel : Nat} (R : K.Rep h o e) (hf : (T.ents e).length < fuel) :
    Sim (fun r b => b.1 = len (T.ptrs o) ∧ K.files b.2 = K.files h ∧
        K.Rep b.2 o (K.setSyn (T.setEnts e r.1) (markAll (K.syn e) r.2)))
      (clearAll m T.id cleared (T.ents e)) (loop fuel 0 h) := by
  have L := range_sim loop (T.ptrs o) (clearStep m T.id cleared)
    (fun done todo h' syn => K.files h' = K.files h ∧ K.Rep h' o (K.setSyn (T.setEnts e (done ++ todo)) syn)) 0
    (fun fuel h => by rw [hloop, dropBody, if_neg (by simp [len_eq])]; rfl)
    (by
      intro fuel done x todo h' syn p ⟨hw', R'⟩ hp _
      obtain ⟨hx, hget⟩ := hT.cursor R' hp
      rw [hloop, dropBody, if_pos (by simpa using lt_len_of_get hp)]
      simp only [idxL_of_get hp, bind_ok, hget, htest _ _ _ hget, hT.syn_g]
      cases hm : m x
      · simp only [clearStep, hm, Bool.false_eq_true, if_false]
        exact ⟨h', rfl, hw', by simpa using R'⟩
      · by_cases h0 : T.id x = 0
        · simp only [clearStep, hm, if_true, h0, deref_zero, Except.map]
          rw [Line_markRemoved_nil (by simp)]; rfl
        · obtain ⟨l, hgl, R2⟩ := clear_sim hK hT hc hc0 R' hp hx h0
          simp only [clearStep, hm, if_true, deref_pos h0, Except.map]
          refine ⟨T.setObjs (setLineH h' (T.id x : Int) (markRemovedLine l)) ((T.objs h').set (p.toNat - 1) default), ?_, ?_, ?_⟩
          · rw [Line_markRemoved_eq hgl]
            simp only [bind_ok, hT.objs_setLineH, hget, heapSet_of_get _ hget]
          · rw [hT.files_setObjs, hK.files_setLineH]; exact hw'
          · rw [hT.setCursor hK, hK.syn_setSyn] at R2; exact R2)
    (xs := T.ents e) (s := h) (t := K.syn e) (fuel := fuel)
    ⟨rfl, by rw [List.nil_append, hT.setEnts_ents, hK.setSyn_syn]; exact R⟩ (hT.rel R).length (by omega)
  rw [clearAll_stepLoop] at L
  cases hr : clearAll m T.id cleared (T.ents e) with
  | error er => rw [hr] at L; exact L
  | ok q =>
    rw [hr] at L
    obtain ⟨b, hb, h1, h2, h3⟩ := L
    exact ⟨b, hb, h1, h2, by simpa using h3⟩

include hK hT hc hc0 in
theorem dropOp_sim (m : β → Bool) (test : Heap → Int → α → M Bool)
    (htest : ∀ h r x, heapGet (T.objs h) r = .ok (T.g x) → test h r (T.g x) = .ok (m x))
    (loop : Int → Ω → Nat → Int → Heap → M (Int × Heap)) (op : Nat → Int → Heap → M (Option String × Heap))
    (hop : ∀ fuel fp h o, heapGet (K.files h) fp = .ok o → op fuel fp h = (do let r ← loop fp o fuel 0 h; pure (none, r.2)))
    (hloop : ∀ fp o fuel ri h, loop fp o (fuel + 1) ri h = dropBody T test (T.ptrs o) (loop fp o fuel) ri h)
    {h : Heap} {fp : Int} {e : S} (R : K.RepP h fp e) (fuel : Nat) (hf : (T.ents e).length + 1 ≤ fuel) :
    Sim (fun e' b => b.1 = none ∧ K.RepP b.2 fp e')
      (do let r ← clearAll m T.id cleared (T.ents e); pure (K.setSyn (T.setEnts e r.1) (markAll (K.syn e) r.2)))
      (op fuel fp h) := by
  obtain ⟨o, ho, R⟩ := R
  rw [hop fuel fp h o ho]
  exact (dropLoop_sim hK hT hc hc0 m test htest o (loop fp o) (hloop fp o) (fuel := fuel) R (by omega)).bind
    fun r b _ ⟨_, hm, R'⟩ => ⟨(none, b.2), rfl, rfl, o, hm ▸ ho, R'⟩

end drop

/-- one turn of the loop of an `Add…` operation as go2lean emits it, the recursive call abstracted.  `updG` is the field
    update of the first match, `tokM` the computation of the tokens of its line (it may call `AutoQuote`, which needs fuel),
    `files` / `synP` / `f` lead to the `Syntax` pointer of the file object. -/
def updBody {Ω S α β : Type} [Inhabited α] {K : Kind Ω S} (T : TList K α β) (test : Heap → Int → α → M Bool) (updG : α → α)
    (tokM : Nat → M (List Bytes)) (synP : Ω → Int) (f : Int) (rx : List Int) (fuel : Nat)
    (rec : Int → Heap → Bool → M (Int × Heap × Bool)) (ri : Int) (world : Heap) (need : Bool) : M (Int × Heap × Bool) :=
  if decide (ri < len rx) then (do
    let r ← idxL rx ri
    let t5 ← heapGet (T.objs world) r
    let b ← test world r t5
    if b then (if need then (do
        let t6 ← heapGet (T.objs world) r
        let t7 ← heapSet (T.objs world) r (updG t6)
        let world := T.setObjs world t7
        let t8 ← heapGet (K.files world) f
        let t9 ← heapGet (T.objs world) r
        let toks ← tokM fuel
        let t11 ← FileSyntax_updateLine (synP t8) (T.syn t9) toks world
        let (_, world) := t11
        rec (ri + 1) world false) else (do
        let t12 ← heapGet (T.objs world) r
        let t13 ← Line_markRemoved (T.syn t12) world
        let (_, world) := t13
        let _ ← heapGet (T.objs world) r
        let t16 ← heapSet (T.objs world) r default
        rec (ri + 1) (T.setObjs world t16) need)) else rec (ri + 1) world need) else pure (ri, world, need)

section upd
variable {Ω S α β : Type} [Inhabited α] {K : Kind Ω S} {T : TList K α β} (hK : K.OK) (hT : T.OK) {cleared : β}
  (hc : T.g cleared = default) (hc0 : T.id cleared = 0)

include hK hT hc hc0 in
/-- `k` is the fuel the tokens need.  A matching entry that is already cleared is Go's nil dereference. -/
theorem updLoop_sim (m : β → Bool) (test : Heap → Int → α → M Bool)
    (htest : ∀ h r x, heapGet (T.objs h) r = .ok (T.g x) → test h r (T.g x) = .ok (m x))
    (upd : β → β) (updG : α → α) (hupdG : ∀ x, updG (T.g x) = T.g (upd x)) (hupd : ∀ x, T.id (upd x) = T.id x)
    (tokens : List Bytes) (htok : tokens ≠ []) (tokM : Nat → M (List Bytes)) (k : Nat) (htokM : ∀ fuel, k < fuel → tokM fuel = .ok tokens)
    (synP : Ω → Int) (fp : Int) (o : Ω) (loop : Nat → Int → Heap → Bool → M (Int × Heap × Bool))
    (hloop : ∀ fuel ri h need, loop (fuel + 1) ri h need = updBody T test updG tokM synP fp (T.ptrs o) fuel (loop fuel) ri h need)
    {h : Heap} {e : S} {fuel : Nat} (R : K.Rep h o e) (ho : heapGet (K.files h) fp = .ok o) (hf : (T.ents e).length + k < fuel) :
    Sim (fun r b => b.1 = len (T.ptrs o) ∧ b.2.2 = r.2.1.isNone ∧ K.files b.2.1 = K.files h ∧
        K.Rep b.2.1 o (K.setSyn (T.setEnts e r.1) (markAll (updFirst (K.syn e) r.2.1 tokens) r.2.2)))
      (firstRest m T.id upd cleared (T.ents e) true) (loop fuel 0 h true) := by
  have L := range_sim (fun fuel i (s : Heap × Bool) => loop fuel i s.1 s.2) (T.ptrs o) (firstStep m T.id upd cleared tokens)
    (fun done todo s t => s.2 = t.1 ∧ K.files s.1 = K.files h ∧ K.Rep s.1 o (K.setSyn (T.setEnts e (done ++ todo)) t.2)) k
    (fun fuel s => by rw [hloop, updBody, if_neg (by simp [len_eq])]; rfl)
    (by
      intro fuel done x todo ⟨h', need⟩ ⟨nd, syn⟩ p ⟨hn, hw', R'⟩ hp hfu
      dsimp only at hn hw' R' ⊢
      cases hn
      obtain ⟨hx, hget⟩ := hT.cursor R' hp
      rw [hloop, updBody, if_pos (by simpa using lt_len_of_get hp)]
      simp only [idxL_of_get hp, bind_ok, hget, htest _ _ _ hget, hT.syn_g, hupdG]
      cases hm : m x
      · simp only [firstStep, hm, Bool.false_eq_true, if_false]
        exact ⟨(h', need), rfl, rfl, hw', by simpa using R'⟩
      · by_cases h0 : T.id x = 0
        · simp only [firstStep, hm, if_true, h0, deref_zero, Except.map]
          cases need
          · rw [if_neg (by simp), Line_markRemoved_nil (by simp)]; rfl
          · simp only [if_true, heapSet_of_get _ hget, bind_ok, hT.files_setObjs, hw', ho, hT.objs_setObjs,
              heapGet_listSet_same _ hget, htokM fuel hfu, hT.syn_g, hupd, h0]
            rw [FileSyntax_updateLine_nil _ (by simp)]; rfl
        · simp only [firstStep, hm, if_true, deref_pos h0, Except.map]
          cases need
          · obtain ⟨l, hgl, R2⟩ := clear_sim hK hT hc hc0 R' hp hx h0
            simp only [Bool.false_eq_true, if_false]
            refine ⟨(T.setObjs (setLineH h' (T.id x : Int) (markRemovedLine l)) ((T.objs h').set (p.toNat - 1) default), false),
              ?_, rfl, ?_, ?_⟩
            · rw [Line_markRemoved_eq hgl]
              simp only [bind_ok, hT.objs_setLineH, hget, heapSet_of_get _ hget]
            · dsimp only; rw [hT.files_setObjs, hK.files_setLineH]; exact hw'
            · rw [hT.setCursor hK, hK.syn_setSyn] at R2; exact R2
          · obtain ⟨l, hgl, R2⟩ := upd_sim hK hT R' hp hx h0 (upd x) (hupd x) tokens
            refine ⟨(setLineH (T.setObjs h' ((T.objs h').set (p.toNat - 1) (T.g (upd x)))) (T.id x : Int) (updateTokLine tokens l), false),
              ?_, rfl, ?_, ?_⟩
            · simp only [if_true, heapSet_of_get _ hget, bind_ok, hT.files_setObjs, hw', ho, hT.objs_setObjs,
                heapGet_listSet_same _ hget, htokM fuel hfu, hT.syn_g, hupd]
              rw [FileSyntax_updateLine_eq (by rw [hT.lines_setObjs]; exact hgl) (fun _ => htok)]
              rfl
            · dsimp only; rw [hK.files_setLineH, hT.files_setObjs]; exact hw'
            · rw [hT.setCursor hK, hK.syn_setSyn] at R2; exact R2)
    (xs := T.ents e) (s := (h, true)) (t := (true, K.syn e)) (fuel := fuel)
    ⟨rfl, rfl, by rw [List.nil_append, hT.setEnts_ents, hK.setSyn_syn]; exact R⟩ (hT.rel R).length (by omega)
  rw [firstRest_stepLoop] at L
  cases hr : firstRest m T.id upd cleared (T.ents e) true with
  | error er => rw [hr] at L; exact L
  | ok q =>
    rw [hr] at L
    obtain ⟨b, hb, h1, h2, h3, h4⟩ := L
    exact ⟨b, hb, h1, by simpa using h2, h3, by simpa using h4⟩

end upd

end ModVerif.Tie.FnEditTyped
