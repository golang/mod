/-
  The generated `initWork`, `init`, `Lookup` and the closure `Lookup` hands to `c.record.Do` (Generated/FnClient.lean), for an
  arbitrary environment `E : ClientEnv σ H`, in the form in which TieFnClientLookupInit / Main follow them call by call.
  The translator inlines a closure at each of its calls and the deferred error wrapper at every `return`; here each of these
  is a definition of its own (`failG`, `initTailG`, `initKeyG`, `validateG`, `recordDo`, `retG`), and the generated function
  equals the text with these names by `rfl`.  The copies are literal on purpose: against a rearranged form the check by `rfl`
  does not come back.  A change to sumdb/client.go that reaches these functions breaks this file first.
  Before them the pure pieces: the prefix filter over the response lines, the `/go.mod` trimming, byte literals.
-/
import ModVerif.Generated.FnClient
import ModVerif.Model.Client
import ModVerif.Proofs.GoRtLemmas
import ModVerif.Proofs.GoRtLemmasTile
import ModVerif.Proofs.GoRtSim
namespace ModVerif.TieFnClientLookup
open ModVerif ModVerif.GoRt ModVerif.GoRtTile ModVerif.Generated.SumdbClient

theorem lit_key : ([107, 101, 121] : Bytes) = B "key" := by decide +kernel
theorem lit_lookup : ([47, 108, 111, 111, 107, 117, 112, 47] : Bytes) = B "/lookup/" := by decide +kernel
theorem lit_gomod : ([47, 103, 111, 46, 109, 111, 100] : Bytes) = B "/go.mod" := by decide +kernel

/-- `strings.TrimSuffix(vers, "/go.mod")` -/
theorem trimSuffix_gomod (vers : Bytes) :
    trimSuffix vers ([47, 103, 111, 46, 109, 111, 100] : Bytes) = Client.trimGoMod vers := by
  rw [lit_gomod]; rfl

/-- the remote path of a lookup, in the model's bracketing -/
theorem remotePath_eq (epath evers : Bytes) :
    ((([47, 108, 111, 111, 107, 117, 112, 47] : Bytes) ++ epath) ++ ([64] : Bytes)) ++ evers =
      B "/lookup/" ++ epath ++ [64] ++ evers := by
  rw [lit_lookup]

theorem prefix_eq (path vers : Bytes) :
    ((path ++ ([32] : Bytes)) ++ vers) ++ ([32] : Bytes) = path ++ [32] ++ vers ++ [32] := rfl

section
variable {σ H : Type} [DecidableEq H] [Inhabited H]

theorem filter_foldl {α : Type} (q : α → Bool) : ∀ (l acc : List α),
    l.foldl (fun acc x => if q x then acc ++ [x] else acc) acc = acc ++ l.filter q
  | [], acc => by simp
  | x :: l, acc => by
    rw [List.foldl_cons, filter_foldl q l, List.filter_cons]
    split <;> simp

theorem loop2_filterLines (E : ClientEnv σ H) (result : Cached) (pre data : Bytes) (world : CW σ H) (fuel : Nat)
    (hf : data.length + 2 ≤ fuel) :
    Client_Lookup_loop2 E (split data ([10] : Bytes)) result pre world fuel (0 : Int) ([] : List Bytes) =
      .ok (len (split data ([10] : Bytes)), Client.filterLines pre data) := by
  have hlen : (split data ([10] : Bytes)).length ≤ data.length + 1 := by
    rw [split_single]
    exact splitOn_length_le 10 data
  generalize hrx : split data ([10] : Bytes) = rx at hlen
  have := range_fold (fun f i acc => Client_Lookup_loop2 E rx result pre world f i acc) rx
    (fun acc line => if hasPrefix line pre then acc ++ [line] else acc)
    (fun f acc => by rw [Client_Lookup_loop2, if_neg (by simpa using not_lt_len_self rx)]; rfl)
    (fun f k hk acc => by
      rw [Client_Lookup_loop2, if_pos (by simp [len_eq]; omega), idxL_natCast hk]
      show (if _ then _ else _) = _
      split <;> rfl)
    rx.length fuel 0 [] (by simp) (by omega)
  rw [show ((0 : Nat) : Int) = 0 from rfl, List.drop_zero, filter_foldl, List.nil_append] at this
  rw [this, ← hrx, split_single]
  rfl
end

section
variable {σ H : Type} [DecidableEq H] [Inhabited H]

theorem treeHashW_zero (E : ClientEnv σ H) (fuel : Nat) (tree : Generated.Tile.Tree H) (world : CW σ H) :
    treeHashW E fuel 0 tree world = .ok ((E.empty, none), world) := rfl

/-- `c.initErr = err; return` of `initWork`, with the deferred function that wraps `c.initErr` -/
def failG (world : CW σ H) (err : Option String) : M (Unit × CW σ H) := do
  let world := { (world) with initErr := err }
  if (!(((world).initErr)).isNone) then (do
    let world := { (world) with initErr := (wrapErr "initializing sumdb.Client: %v" ((world).initErr)) }
    pure ((), world)) else (pure ((), world))

/-- the rest of `initWork` once the verifier is installed (reached from two places): the stored head is read and merged -/
def initTailG (E : ClientEnv σ H) (fuel : Nat) (world : CW σ H) : M (Unit × CW σ H) := do
  let (wr3, world) := E.readConfig (((world).name) ++ ([47, 108, 97, 116, 101, 115, 116] : Bytes)) world
  let (data, err) := wr3
  if (!(err).isNone) then (failG world err) else (do
    let t4 ← (Client_mergeLatest E fuel data world)
    let (wr5, world) := t4
    let err_1 := wr5
    if (!(err_1).isNone) then (failG world err_1) else (if (!(((world).initErr)).isNone) then (do
      let world := { (world) with initErr := (wrapErr "initializing sumdb.Client: %v" ((world).initErr)) }
      pure ((), world)) else (pure ((), world))))

/-- `initWork` after `if c.tileHeight == 0 { c.tileHeight = 8 }` -/
def initKeyG (E : ClientEnv σ H) (fuel : Nat) (world : CW σ H) : M (Unit × CW σ H) := do
  let world := { (world) with tileSaved := ([] : (List (Generated.Tile.Tile × Bool))) }
  let (wr1, world) := E.readConfig ([107, 101, 121] : Bytes) world
  let (vkey, err) := wr1
  if (!(err).isNone) then (failG world err) else (do
    let t2 ← (newVerifierX E (trimSpace vkey))
    let (verifier, err) := t2
    if (!(err).isNone) then (failG world err) else (do
      let world := { (world) with verifiers := (verifierList1 verifier) }
      let world := { (world) with name := ((verifier).Name ) }
      if (decide (((((world).latest)).N) = (0 : Int))) then (do
        let t8 ← treeHashW E fuel (0 : Int) (default : (Generated.Tile.Tree H)) world
        let (wr7, world) := t8
        let (a9, err) := wr7
        let world := { (world) with latest := { ((world).latest) with Hash := a9 } }
        if (!(err).isNone) then (failG world err) else (initTailG E fuel world)) else (initTailG E fuel world)))

theorem initWork_unfold (E : ClientEnv σ H) (fuel : Nat) (world : CW σ H) :
    Client_initWork E fuel world =
      if (decide (((world).tileHeight) = (0 : Int))) then initKeyG E fuel { (world) with tileHeight := (8 : Int) }
      else initKeyG E fuel world := rfl

theorem init_done (E : ClientEnv σ H) (fuel : Nat) (world : CW σ H) (hd : world.initDone = true) :
    Client_init E fuel world = .ok (world.initErr, world) := by
  unfold Client_init
  simp [hd, pure, Except.pure, bind, Except.bind]

theorem init_run (E : ClientEnv σ H) (fuel : Nat) (world w' : CW σ H) (hd : world.initDone = false)
    (h : Client_initWork E fuel { world with initDone := true } = .ok ((), w')) :
    Client_init E fuel world = .ok (w'.initErr, w') := by
  unfold Client_init
  simp [hd, h, pure, Except.pure, bind, Except.bind]

/-- what the closure does with a response `data`, whether it came from the cache or from the server: the validation -/
def validateG (E : ClientEnv σ H) (fuel : Nat) (file data : Bytes) (world : CW σ H) (writeCache : Bool) :
    M (Cached × CW σ H) := do
  let t9 ← (parseRecordX fuel data)
  let (id, text, treeMsg, err_2) := t9
  if (!(err_2).isNone) then (pure (({ (default : Cached) with data := ([] : Bytes), err := err_2 } : Cached), world)) else (do
    let t10 ← (Client_mergeLatest E fuel treeMsg world)
    let (wr11, world) := t10
    let err_3 := wr11
    if (!(err_3).isNone) then (pure (({ (default : Cached) with data := ([] : Bytes), err := err_3 } : Cached), world)) else (do
      let t12 ← (Client_checkRecord E fuel id text world)
      let (wr13, world) := t12
      let err_4 := wr13
      if (!(err_4).isNone) then (pure (({ (default : Cached) with data := ([] : Bytes), err := err_4 } : Cached), world)) else (if writeCache then (do
        let (_, world) := E.writeCache file data world
        pure (({ (default : Cached) with data := data, err := (none : Option String) } : Cached), world)) else (pure (({ (default : Cached) with data := data, err := (none : Option String) } : Cached), world)))))

theorem Lookup_cacheFn1_unfold (E : ClientEnv σ H) (fuel : Nat) (remotePath file : Bytes) (world : CW σ H) :
    Client_Lookup_cacheFn1 E fuel remotePath file world =
      (let (wr8, world) := E.readCache file world
       let (data, err_2) := wr8
       if (!(err_2).isNone) then (do
         let (wr16, world) := E.readRemote remotePath world
         let (data, err_2) := wr16
         if (!(err_2).isNone) then (pure (({ (default : Cached) with data := ([] : Bytes), err := err_2 } : Cached), world)) else
           validateG E fuel file data world true) else validateG E fuel file data world false) := rfl

/-- `c.record.Do(file, …)`: the memo table of lookups -/
def recordDo (E : ClientEnv σ H) (fuel : Nat) (remotePath file : Bytes) (world : CW σ H) : M (Cached × CW σ H) :=
  match mapGet world.record file (default : Cached) with
  | (hit, true) => pure (hit, world)
  | (_, false) => do
    let (cv, world) ← Client_Lookup_cacheFn1 E fuel remotePath file world
    pure (cv, { world with record := mapSet world.record file cv })

def lookupLit : String := "%s@%s: %v"

/-- `return lines, err` of `Lookup`, with the deferred function that wraps `err` -/
def retG (r : (List Bytes) × (Option String)) (world : CW σ H) :
    M (((List Bytes) × (Option String)) × (CW σ H)) := do
  let (lines, err) := r
  if (!(err).isNone) then (do
    let err := (wrapErr "%s@%s: %v" err)
    pure ((lines, err), world)) else (pure ((lines, err), world))

theorem Lookup_unfold (E : ClientEnv σ H) (fuel : Nat) (path vers : Bytes) (world : CW σ H) :
    Client_Lookup E fuel path vers world = (do
      let world := { (world) with didLookup := (1 : Int) }
      let t1 ← (Client_skip E fuel path world)
      let (wr2, world) := t1
      if wr2 then (pure ((([] : (List Bytes)), (some "ErrGONOSUMDB")), world)) else (do
        let t3 ← (Client_init E fuel world)
        let (wr4, world) := t3
        let err_1 := wr4
        if (!(err_1).isNone) then (retG (([] : (List Bytes)), err_1) world) else (do
          let t5 ← (escapePathX E fuel path)
          let (epath, err) := t5
          if (!(err).isNone) then (retG (([] : (List Bytes)), err) world) else (do
            let t6 ← (escapeVersionX E fuel (trimSuffix vers ([47, 103, 111, 46, 109, 111, 100] : Bytes)))
            let (evers, err) := t6
            if (!(err).isNone) then (retG (([] : (List Bytes)), err) world) else (do
              let remotePath := (((([47, 108, 111, 111, 107, 117, 112, 47] : Bytes) ++ epath) ++ ([64] : Bytes)) ++ evers)
              let file := (((world).name) ++ remotePath)
              let (cr18, world) ← recordDo E fuel remotePath file world
              let result := cr18
              if (!(((result).err)).isNone) then (retG (([] : (List Bytes)), ((result).err)) world) else (do
                let prefix_ := (((path ++ ([32] : Bytes)) ++ vers) ++ ([32] : Bytes))
                let hashes := ([] : (List Bytes))
                let rx19 := (split ((result).data) ([10] : Bytes))
                let ri20 := (0 : Int)
                let (_, hashes) ← Client_Lookup_loop2 E rx19 result prefix_ world fuel ri20 hashes
                retG (hashes, (none : Option String)) world)))))) := rfl

end
end ModVerif.TieFnClientLookup
