/-
  The C14 theorems about an honest server: `honest_all_succeed` and `latest_ends_at_max`
  (statements about every state / every terminal state of every honest run), and the honest two-log instance.
-/
import ModVerif.Proofs.ClientMoreFinish
namespace ModVerif.ClientLatest
variable {M T : Type}

def IsMax (le : T → T → Prop) (S : T → Prop) (x : T) : Prop := S x ∧ ∀ y, S y → le y x

variable [DecidableEq M] [DecidableEq T]

variable {P : Params M T} {le : T → T → Prop} {Ch : T → Prop} {cl : Nat → Nat} {presented : Nat → Option M}
  {priv : Nat → Bool} {c0 : Option M} {s s' s1 s2 : St M T}

theorem config_ge_c0 (hS : Sound P le) (h : Reachable P cl presented priv c0 s) :
    le (cfgTree P c0) (cfgTree P s.config) := by
  induction h with
  | init => exact hS.refl _
  | step t r hr hs ih =>
    rcases step_config (inv_reachable hS hr) hs with
      ⟨e, _⟩ | ⟨_, _, _, hle⟩
    · rw [e]; exact ih
    · exact hS.trans _ _ _ ih hle

theorem config_from (hS : Sound P le) (h : Reachable P cl presented priv c0 s) :
    s.config = c0 ∨ ∃ c, le (cfgTree P s.config) (s.latest c) := by
  induction h with
  | init => exact Or.inl rfl
  | @step s s' t r hr hs ih =>
    have hI := fullInv_reachable hS hr
    have hmono := step_latest_mono hS hI.inv hs
    obtain ⟨l', e, hl, rfl⟩ := (step_iff ..).mp hs
    cases e
    case cas =>
      obtain ⟨hpc, _, rfl⟩ := hl.of_cas
      exact .inr ⟨cl t, (hI.loc t).lm_below hpc⟩
    all_goals exact ih.imp_right fun ⟨c, h1⟩ => ⟨c, hS.trans _ _ _ h1 (hmono c)⟩

/-- C14 `honest_all_succeed` -/
theorem honest_all_succeed_inv (hH : Honest P le Ch presented c0) (h : HReachable P cl presented priv c0 s) :
    (∀ t, (s.th t).pc ≠ .done .err ∧ (s.th t).pc ≠ .done .security) ∧ s.sec = [] ∧
    (∀ t x, (s.th t).pc = .done x → (priv t = false → x = .ok) ∧ (priv t = true → x = .gonosumdb)) := by
  have hN := (honest_invs hH h).2
  have hI := inv_reachable hH.sound h.reachable
  refine ⟨fun t => ⟨hN.no_err t, hN.no_sec t⟩, hN.sec_nil, fun t x hx => ⟨fun hp => ?_, fun hp => ?_⟩⟩
  · have h1 := hN.no_err t; have h2 := hN.no_sec t; have h3 := hI.public_pc t hp
    cases x <;> simp_all
  · rcases (hI.private_idle t hp).1 with h1 | h1
    · rw [hx] at h1; cases h1
    · rw [hx] at h1; cases h1; rfl

/-- C14 `latest_ends_at_max` -/
theorem latest_ends_at_max_inv (hH : Honest P le Ch presented c0) (h : HReachable P cl presented priv c0 s)
    (hq : Quiescent s) :
    (∀ t, (s.th t).pc = .entry ∨ (s.th t).pc = .done .ok ∨ (priv t = true ∧ (s.th t).pc = .done .gonosumdb)) ∧
    (∀ c, IsMax le (ClientSaw P cl presented priv s c) (s.latest c)) ∧
    IsMax le (Seen P presented priv c0 s) (cfgTree P s.config) ∧
    (∀ c, le (s.latest c) (cfgTree P s.config)) ∧
    (s.config = c0 ∨ ∃ c, le (cfgTree P s.config) (s.latest c) ∧ le (s.latest c) (cfgTree P s.config)) := by
  have hS := hH.sound
  have hI := inv_reachable hS h.reachable
  have hF := flush_reachable hH h
  have hL := fullInv_reachable hS h.reachable
  have hV := seen_reachable hS h.reachable
  obtain ⟨_, _, hres⟩ := honest_all_succeed_inv hH h
  -- a started goroutine has returned success
  have hdone : ∀ t, Started priv s t → (s.th t).pc = .done .ok := by
    intro t ⟨hp, hne⟩
    rcases hq t with h1 | ⟨x, h1⟩
    · exact absurd h1 hne
    · rw [h1, (hres t x h1).1 hp]
  -- nobody is responsible any more, so every in-memory head has been flushed
  have hflush : ∀ c, le (s.latest c) (cfgTree P s.config) := by
    intro c
    rcases hF c with h1 | ⟨t, _, hr⟩
    · exact h1
    · have := hr.inFlush
      rcases hq t with h1 | ⟨x, h1⟩ <;> simp [h1, inFlush] at this
  refine ⟨fun t => ?_, fun c => ⟨hV.saw c, ?_⟩, ⟨hV.vals.config, ?_⟩, hflush, ?_⟩
  · rcases hq t with h1 | ⟨x, h1⟩
    · exact Or.inl h1
    · cases hp : priv t with
      | false => right; left; rw [h1, (hres t x h1).1 hp]
      | true => right; right; exact ⟨rfl, by rw [h1, (hres t x h1).2 hp]⟩
  · rintro y (hy | ⟨t, m, hc, hst, hm, hp⟩ | ⟨t, hc, hpc, hy⟩)
    · rw [hy]; exact hS.zero_le _
    · rw [← hc]
      exact hI.accepted t m y hm hp (by simp [PastFirst, hdone t hst])
    · rw [hy, ← hc]; exact (hL.loc t).cfg_merged (Or.inl hpc)
  · rintro y (hy | hy | ⟨t, m, hst, hm, hp⟩)
    · rw [hy]; exact hS.zero_le _
    · rw [hy]; exact config_ge_c0 hS h.reachable
    · exact hS.trans _ _ _ (hI.accepted t m y hm hp (by simp [PastFirst, hdone t hst])) (hflush (cl t))
  · rcases config_from hS h.reachable with h1 | ⟨c, h1⟩
    · exact Or.inl h1
    · exact Or.inr ⟨c, h1, hflush c⟩

/-! ## Concrete runs: helpers for non-vacuity examples -/

theorem hreachable_run_ok (P : Params M T) (cl : Nat → Nat) (presented : Nat → Option M) (priv : Nat → Bool) (c0 : Option M) :
    ∀ (sched : List (Nat × Res)) (s s' : St M T), (∀ x ∈ sched, x.2 = Res.ok) → HReachable P cl presented priv c0 s →
      run P cl presented priv s sched = some s' → HReachable P cl presented priv c0 s' := by
  intro sched
  induction sched with
  | nil => intro s s' _ h hr; simp [run] at hr; subst hr; exact h
  | cons x rest ih =>
    intro s s' hok h hr
    obtain ⟨t, r⟩ := x
    have hr0 : r = Res.ok := hok (t, r) (by simp)
    subst hr0
    simp only [run] at hr
    cases hs : step P cl presented priv s t .ok with
    | none => simp [hs] at hr
    | some s1 =>
      simp only [hs] at hr
      exact ih s1 s' (fun x hx => hok x (by simp [hx])) (HReachable.step t .ok h (cfgOk_ok s t) hs) hr

theorem run_th_frame (P : Params M T) (cl : Nat → Nat) (presented : Nat → Option M) (priv : Nat → Bool) :
    ∀ (sched : List (Nat × Res)) (s s' : St M T) (t : Nat), (∀ x ∈ sched, x.1 ≠ t) →
      run P cl presented priv s sched = some s' → s'.th t = s.th t := by
  intro sched
  induction sched with
  | nil => intro s s' t _ hr; simp [run] at hr; subst hr; rfl
  | cons x rest ih =>
    intro s s' t hne hr
    obtain ⟨t1, r⟩ := x
    simp only [run] at hr
    cases hs : step P cl presented priv s t1 r with
    | none => simp [hs] at hr
    | some s1 =>
      simp only [hs] at hr
      rw [ih s1 s' t (fun x hx => hne x (by simp [hx])) hr]
      exact step_th_frame hs t (fun e => hne (t1, r) (by simp) e.symm)

theorem quiescent_of_run (P : Params M T) (cl : Nat → Nat) (presented : Nat → Option M) (priv : Nat → Bool) (c0 : Option M)
    (sched : List (Nat × Res)) (s' : St M T) (hr : run P cl presented priv (init P c0) sched = some s')
    (hd : ∀ x ∈ sched, ∃ y, (s'.th x.1).pc = .done y) : Quiescent s' := by
  intro t
  by_cases ht : ∃ x ∈ sched, x.1 = t
  · obtain ⟨x, hx, rfl⟩ := ht
    exact Or.inr (hd x hx)
  · left
    rw [run_th_frame P cl presented priv sched _ s' t (fun x hx e => ht ⟨x, hx, e⟩) hr]
    rfl

theorem entry_of_run (P : Params M T) (cl : Nat → Nat) (presented : Nat → Option M) (priv : Nat → Bool) (c0 : Option M)
    (sched : List (Nat × Res)) (s' : St M T) (hr : run P cl presented priv (init P c0) sched = some s')
    (t : Nat) (ht : ∀ x ∈ sched, x.1 ≠ t) : (s'.th t).pc = .entry := by
  rw [run_th_frame P cl presented priv sched _ s' t ht hr]; rfl

/-! ## The honest two-log instance: log A of `forkParams p false` -/

theorem forkParams_sound' (p : Nat) (hostile : Bool) : Sound (forkParams p hostile) (fun a b => forkLe p a b = true) := by
  constructor
  · intro a; simp [forkLe]
  · intro a b c; simp only [forkLe, Bool.and_eq_true, Bool.or_eq_true, decide_eq_true_eq, beq_iff_eq]; omega
  · intro a; simp [forkLe, forkParams]
  · intro a b; cases hostile <;> simp only [forkParams] <;> by_cases h : forkLe p a b = true <;> simp [h]

/-- the server that only ever signs heads of log A (branch 0) and serves its tiles -/
theorem forkParams_honest (p : Nat) (sizes : Nat → Option Nat) (n0 : Option Nat) :
    Honest (forkParams p false) (fun a b => forkLe p a b = true) (fun x => x.1 = 0)
      (fun t => (sizes t).map fun n => (0, n)) (n0.map fun n => (0, n)) := by
  refine ⟨forkParams_sound' p false, rfl, ?_, ?_, ?_, ?_⟩
  · intro t
    cases sizes t with
    | none => trivial
    | some n => refine ⟨(0, n), ?_, rfl⟩; simp [forkParams]
  · cases n0 with
    | none => trivial
    | some n => refine ⟨(0, n), ?_, rfl⟩; simp [forkParams]
  · intro a b ha hb hsz
    simp only [forkParams] at hsz
    simp [forkLe, ha, hb, hsz]
  · intro a b ha hb hsz
    simp only [forkParams] at hsz
    simp [forkParams, forkLe, ha, hb, hsz]

end ModVerif.ClientLatest
