/-
  C09 ★ store invariant: appending records one at a time to the empty log (`buildStore`) never fails, yields a
  store of the documented length, and every position holds the RFC 6962 hash of the complete subtree whose
  coordinate the specification's layout assigns to that position.
-/
import ModVerif.Proofs.TlogStoreMth
namespace ModVerif.TlogStore
open ModVerif ModVerif.Tlog ModVerif.RFC6962

theorem layoutRec_get (n j l k : Nat) (h : (layoutRec n)[j]? = some (l, k)) :
    j ≤ tz (n + 1) ∧ l = j ∧ k = n >>> j := by
  simp only [layoutRec, List.getElem?_map] at h
  by_cases hj : j < tz (n + 1) + 1
  · rw [List.getElem?_range hj] at h
    simp at h
    omega
  · rw [List.getElem?_eq_none (by simp; omega)] at h
    simp at h

theorem layout_bound : ∀ n p l k : Nat, (layout n)[p]? = some (l, k) → (k + 1) * 2 ^ l ≤ n := by
  intro n
  induction n with
  | zero => intro p l k h; simp [layout] at h
  | succ n ih =>
    intro p l k h
    rw [layout_succ] at h
    by_cases hp : p < (layout n).length
    · rw [List.getElem?_append_left hp] at h
      have := ih p l k h
      omega
    · rw [List.getElem?_append_right (by omega)] at h
      obtain ⟨h1, h2, h3⟩ := layoutRec_get n _ l k h
      subst h2 h3
      rw [shiftRight_of_le_tz n _ h1]
      exact Nat.le_refl _

section
variable {H : Type}

theorem storeReader_map {ι : Type} (st : List H) (idx : ι → Nat) (val : ι → H) :
    ∀ is : List ι, (∀ i ∈ is, st[idx i]? = some (val i)) → storeReader st (is.map idx) = some (is.map val) := by
  intro is
  induction is with
  | nil => intro _; simp [storeReader]
  | cons i is ih =>
    intro h
    have h1 := h i (by simp)
    have h2 := ih (fun j hj => h j (by simp [hj]))
    simp only [storeReader] at h2 ⊢
    simp [List.mapM_cons, h1, h2]

theorem storeReader_append (st : List H) (a b : List Nat) (ha hb : List H)
    (h1 : storeReader st a = some ha) (h2 : storeReader st b = some hb) :
    storeReader st (a ++ b) = some (ha ++ hb) := by
  simp only [storeReader] at h1 h2 ⊢
  rw [List.mapM_append, h1, h2]; rfl

theorem storeReader_length (st : List H) : ∀ (idx : List Nat) (hs : List H),
    storeReader st idx = some hs → hs.length = idx.length := by
  intro idx
  induction idx with
  | nil => intro hs h; simp [storeReader] at h; subst h; rfl
  | cons x xs ih =>
    intro hs h
    simp only [storeReader, List.mapM_cons] at h ih
    cases hx : st[x]? with
    | none => rw [hx] at h; cases h
    | some y =>
      cases hr : xs.mapM (st[·]?) with
      | none => rw [hx, hr] at h; cases h
      | some r =>
        rw [hx, hr] at h
        cases h
        simp [ih r hr]

/-- the honest reader passes the `len(hashes) != len(indexes)` check -/
theorem readChecked_storeReader (st : List H) (idx : List Nat) (hs : List H) (h : storeReader st idx = some hs) :
    readChecked (storeReader st) idx = .ok hs := by
  unfold readChecked
  rw [h]
  simp [storeReader_length st idx hs h]

theorem readChecked_store {ι : Type} (st : List H) (idx : ι → Nat) (val : ι → H) (is : List ι)
    (h : ∀ i ∈ is, st[idx i]? = some (val i)) :
    readChecked (storeReader st) (is.map idx) = .ok (is.map val) :=
  readChecked_storeReader st _ _ (storeReader_map st idx val is h)

theorem buildHashes_length (node : H → H → H) : ∀ (os : List H) (h : H), (buildHashes node os h).length = os.length := by
  intro os
  induction os with
  | nil => intro h; rfl
  | cons o os ih => intro h; simp [buildHashes, ih]

/-- `hashes[l+1] = NodeHash(old[l], hashes[l])` -/
theorem buildHashes_get (node : H → H → H) : ∀ (os : List H) (h : H) (l : Nat) (o x : H),
    os[l]? = some o → (h :: buildHashes node os h)[l]? = some x →
    (h :: buildHashes node os h)[l + 1]? = some (node o x) := by
  intro os
  induction os with
  | nil => intro h l o x h1 _; simp at h1
  | cons o' os ih =>
    intro h l o x h1 h2
    cases l with
    | zero =>
      simp at h1 h2
      subst h1 h2
      simp [buildHashes]
    | succ l =>
      simp only [buildHashes, List.getElem?_cons_succ] at h1 h2 ⊢
      exact ih (node o' h) l o x h1 h2

/-- the store invariant for the log `D` (for any value `empty` of the empty-tree hash: it never occurs).  The length is
    written `S |D| = storedHashIndex 0 |D|`, which is what appending a record preserves; `Tlog.StoreOK`
    (Proofs/TlogMerkleProve.lean) states it with the documented `storedHashCount` (equal for `|D| ≤ 2^64`). -/
def StoreOK (leaf : Bytes → H) (node : H → H → H) (empty : H) (D : List Bytes) (st : List H) : Prop :=
  st.length = S D.length ∧
  ∀ p l k : Nat, (layout D.length)[p]? = some (l, k) → st[p]? = some (mth node empty (leavesOf (D.map leaf) l k))

variable (leaf : Bytes → H) (node : H → H → H) (empty : H)

theorem storeOK_nil : StoreOK leaf node empty [] ([] : List H) := by
  refine ⟨by simp [S_zero], ?_⟩
  intro p l k h
  simp [layout] at h

theorem storedHashes_ok (D : List Bytes) (d : Bytes) (st : List H) (hok : StoreOK leaf node empty D st)
    (hr : D.length + 1 < 2 ^ 64) :
    ∃ hs, storedHashes leaf node D.length d (storeReader st) = .ok hs ∧
      hs.length = 1 + tz (D.length + 1) ∧
      ∀ l, l ≤ tz (D.length + 1) →
        hs[l]? = some (mth node empty (leavesOf ((D ++ [d]).map leaf) l (D.length >>> l))) := by
  let n := D.length
  let m := tz (n + 1)
  let LD := D.map leaf
  let idx : Nat → Nat := fun i => storedHashIndex i ((n >>> i) - 1)
  let val : Nat → H := fun i => mth node empty (leavesOf LD i ((n >>> i) - 1))
  have hLD : LD.length = n := by simp [LD, n]
  have hLD' : (D ++ [d]).map leaf = LD ++ [leaf d] := by simp [LD]
  -- the left siblings are in the store
  have hread : ∀ i ∈ (List.range m).reverse, st[idx i]? = some (val i) := by
    intro i hi
    have hi' : i < m := by simpa using hi
    have h1 := shiftRight_succ_of_lt_tz n i hi'
    have h2 := shiftRight_of_le_tz n i (Nat.le_of_lt hi')
    have hp := Nat.two_pow_pos i
    apply hok.2
    apply storedHashIndex_layout
    rw [show n >>> i - 1 + 1 = n >>> i by omega]
    rw [Nat.add_mul] at h2
    omega
  have hrc := readChecked_store st idx val (List.range m).reverse hread
  have htz : trailingZeros64 (n + 1) = m := trailingZeros64_eq_tz (n + 1) (by omega) hr
  have hidx : ((List.range (trailingZeros64 (n + 1))).map fun i => storedHashIndex i ((n >>> i) - 1)).reverse =
      (List.range m).reverse.map idx := by
    rw [htz, List.map_reverse]
  refine ⟨leaf d :: buildHashes node ((List.range m).map val) (leaf d), ?_, ?_, ?_⟩
  · simp only [storedHashes, storedHashesForRecordHash, bind, Except.bind]
    rw [hidx, hrc]
    simp [pure, Except.pure, List.map_reverse]
  · simp [buildHashes_length, m, n]; omega
  · intro l
    induction l with
    | zero =>
      intro _
      rw [hLD', Nat.shiftRight_zero, leavesOf_zero _ n (by simp [hLD])]
      simp [hLD]
    | succ l ih =>
      intro hl
      have hl' : l < m := hl
      have ih' := ih (by omega)
      have ho : ((List.range m).map val)[l]? = some (val l) := by
        rw [List.getElem?_map, List.getElem?_range hl']; rfl
      rw [buildHashes_get node _ (leaf d) l _ _ ho ih']
      have h1 := shiftRight_succ_of_lt_tz n l hl'
      have h2 := shiftRight_of_le_tz n (l + 1) hl
      have h3 := shiftRight_of_le_tz n l (Nat.le_of_lt hl')
      rw [mth_leavesOf_succ node empty ((D ++ [d]).map leaf) l (n >>> (l + 1)) (by rw [h2]; simp [n])]
      congr 2
      · -- the left child was read from the old store
        show mth node empty (leavesOf LD l (n >>> l - 1)) = _
        rw [hLD', leavesOf_append _ _ _ _ (by
          rw [hLD]
          have hp := Nat.two_pow_pos l
          rw [h1, Nat.add_mul] at h3
          omega)]
        rw [h1]; rfl
      · rw [h1]

theorem appendRecord_ok (D : List Bytes) (d : Bytes) (st : List H) (hok : StoreOK leaf node empty D st)
    (hr : D.length + 1 < 2 ^ 64) :
    ∃ st', appendRecord leaf node (D.length, st) d = .ok ((D ++ [d]).length, st') ∧
      StoreOK leaf node empty (D ++ [d]) st' := by
  obtain ⟨hs, h1, h2, h3⟩ := storedHashes_ok leaf node empty D d st hok hr
  refine ⟨st ++ hs, ?_, ?_, ?_⟩
  · simp only [appendRecord, bind, Except.bind]
    rw [h1]
    simp [pure, Except.pure]
  · rw [List.length_append, hok.1, h2]
    simp only [List.length_append, List.length_singleton]
    rw [S_succ]; omega
  · intro p l k hp
    simp only [List.length_append, List.length_singleton] at hp
    rw [layout_succ] at hp
    have hll := layout_length D.length
    by_cases hlt : p < S D.length
    · rw [List.getElem?_append_left (by omega)] at hp
      have hb := layout_bound _ _ _ _ hp
      rw [List.getElem?_append_left (by rw [hok.1]; exact hlt)]
      rw [hok.2 p l k hp]
      congr 2
      rw [List.map_append, leavesOf_append _ _ _ _ (by simpa using hb)]
    · rw [List.getElem?_append_right (by omega), hll] at hp
      obtain ⟨a, b, c⟩ := layoutRec_get _ _ _ _ hp
      rw [List.getElem?_append_right (by rw [hok.1]; omega), hok.1]
      rw [h3 _ a, b, c]

theorem appendAll_ok : ∀ (ds pre : List Bytes) (st : List H), StoreOK leaf node empty pre st →
    (pre ++ ds).length < 2 ^ 64 →
    ∃ st', appendAll leaf node ds (pre.length, st) = .ok ((pre ++ ds).length, st') ∧
      StoreOK leaf node empty (pre ++ ds) st' := by
  intro ds
  induction ds with
  | nil => intro pre st hok _; exact ⟨st, by simp [appendAll], by simpa using hok⟩
  | cons d ds ih =>
    intro pre st hok hr
    have hr' : pre.length + 1 < 2 ^ 64 := by simp at hr; omega
    obtain ⟨st1, h1, h2⟩ := appendRecord_ok leaf node empty pre d st hok hr'
    have e : pre ++ d :: ds = (pre ++ [d]) ++ ds := by simp
    obtain ⟨st2, h3, h4⟩ := ih (pre ++ [d]) st1 h2 (by rw [← e]; exact hr)
    refine ⟨st2, ?_, ?_⟩
    · simp only [appendAll, bind, Except.bind]
      rw [h1]
      simp only []
      rw [h3, e]
    · rw [e]; exact h4

/-- ★ the store invariant, for every sequence of records of length below `2^64`
    (`trailingZeros64` is the 2-adic valuation only there) -/
theorem buildStore_ok (D : List Bytes) (hD : D.length < 2 ^ 64) :
    ∃ st, buildStore leaf node D = .ok st ∧ StoreOK leaf node empty D st := by
  obtain ⟨st, h1, h2⟩ := appendAll_ok leaf node empty D [] [] (storeOK_nil leaf node empty) (by simpa using hD)
  refine ⟨st, ?_, by simpa using h2⟩
  simp only [buildStore]
  have : appendAll leaf node D (0, []) = .ok (D.length, st) := by simpa using h1
  rw [this]
  rfl

theorem storeOK_of_buildStore (D : List Bytes) (hD : D.length < 2 ^ 64) (st : List H)
    (h : buildStore leaf node D = .ok st) : StoreOK leaf node empty D st := by
  obtain ⟨st', h1, h2⟩ := buildStore_ok leaf node empty D hD
  rw [h1] at h
  cases h
  exact h2

theorem storeOK_get (D : List Bytes) (st : List H) (hok : StoreOK leaf node empty D st) (l k : Nat)
    (h : (k + 1) * 2 ^ l ≤ D.length) :
    st[storedHashIndex l k]? = some (mth node empty (leavesOf (D.map leaf) l k)) :=
  hok.2 _ l k (storedHashIndex_layout D.length l k h)

end
end ModVerif.TlogStore
