/-
  Helper lemmas for Tie/FnEditReq.lean: `File_AddRetract` of the regenerated go.mod edit operations
  (Generated/FnEdit.lean) against the model's `addRetract`.

  The regenerated text, whose continuations occur several times, is first written as a composition of named pieces
  (`versionGate`, `retractMain`, `retractTail`; `File_AddRetract_eq`: `rfl` checks that it IS this composition).  The `Retract`
  object is allocated BEFORE the new line exists and gets its `Syntax` and, read back from the comments just written
  (`parseDirectiveComment(nil, line)`), its `Rationale` afterwards.
-/
import ModVerif.Proofs.TieFnEditReqD
import ModVerif.Proofs.GoRtLemmasTile
namespace ModVerif.Tie.FnEditReqE
open ModVerif ModVerif.GoRt ModVerif.Generated.Edit ModVerif.Tie.FnEditRep ModVerif.Tie.FnEditTreeA ModVerif.Tie.FnEditReqA
  ModVerif.Tie.FnEditReqB ModVerif.Tie.FnEditReqC ModVerif.Tie.FnEditTyped
open ModVerif.Modfile.Edit (clearAll firstRest markAll markRemoved deref nilId EditErr EFile addLine addLinePtr addLineWalk Hint mkLine
  insertAfterId loc locStmt treeIds lastWith)
open ModVerif.TieFnEditAddLine (nodeCount Frame hintG)
open ModVerif.Drv.GenEdit (isPrintI quoteI)

/-- the model's per-comment step -/
def dirLine (c : Modfile.Comment) : Option Bytes :=
  if isPrefixOfB [47, 47] c.token then some (GoStrings.trimSpace (c.token.drop 2)) else none

theorem parseDirectiveComment_loop2_eq (h : Heap) : ∀ (suf pre : List Modfile.Comment) (fuel : Nat) (lines : List Bytes),
    suf.length + 1 ≤ fuel →
    parseDirectiveComment_loop2 ((pre ++ suf).map comG) h fuel (pre.length : Int) lines =
      .ok (len ((pre ++ suf).map comG), lines ++ suf.filterMap dirLine)
  | [], pre, fuel, lines, hf => by
    obtain ⟨fuel, rfl⟩ : ∃ k, fuel = k + 1 := ⟨fuel - 1, by omega⟩
    unfold parseDirectiveComment_loop2
    simp [len_eq]
  | c :: suf, pre, fuel, lines, hf => by
    obtain ⟨fuel, rfl⟩ : ∃ k, fuel = k + 1 := ⟨fuel - 1, by omega⟩
    have ih := fun lines' => parseDirectiveComment_loop2_eq h suf (pre ++ [c]) fuel lines' (by simp at hf; omega)
    simp only [List.append_assoc, List.singleton_append] at ih
    unfold parseDirectiveComment_loop2
    have hlt : ((pre.length : Nat) : Int) < len ((pre ++ c :: suf).map comG) := by rw [len_eq]; simp; omega
    have hidx : idxL ((pre ++ c :: suf).map comG) (pre.length : Int) = .ok (comG c) := by
      rw [List.map_append, List.map_cons]
      have := idxL_mid (pre.map comG) (comG c) (suf.map comG)
      simpa using this
    simp only [hlt, decide_true, if_true, hidx, bind_ok]
    have hpre : hasPrefix (comG c).Token [47, 47] = isPrefixOfB [47, 47] c.token := rfl
    by_cases hp : isPrefixOfB [47, 47] c.token = true
    · rw [if_neg (show ¬ ((!hasPrefix (comG c).Token [47, 47]) = true) by rw [hpre, hp]; simp)]
      have := ih (lines ++ [trimSpace (trimPrefix (comG c).Token [47, 47])])
      rw [succ_len_snoc pre c, this]
      simp [dirLine, hp, GoRt.trimPrefix, trimSpace_eq]
    · have hp' : isPrefixOfB [47, 47] c.token = false := by simpa using hp
      rw [if_pos (show ((!hasPrefix (comG c).Token [47, 47]) = true) by rw [hpre, hp']; rfl)]
      have := ih lines
      rw [succ_len_snoc pre c, this]
      simp [dirLine, hp']

theorem parseDirectiveComment_line {h : Heap} {p : Int} {l : Modfile.Line} (hg : heapGet h.lines p = .ok (lineG l)) (fuel : Nat)
    (hf : l.comments.before.length + l.comments.suffix.length + 4 ≤ fuel) :
    parseDirectiveComment fuel 0 p h = .ok (Modfile.parseDirectiveComment none l.comments, h) := by
  obtain ⟨k, rfl⟩ : ∃ k, fuel = k + 3 := ⟨fuel - 3, by omega⟩
  have hb := parseDirectiveComment_loop2_eq h l.comments.before [] (k + 2) [] (by omega)
  have hs := fun lines => parseDirectiveComment_loop2_eq h l.comments.suffix [] (k + 1) lines (by omega)
  simp only [List.nil_append, List.length_nil, show ((0 : Nat) : Int) = 0 from rfl] at hb hs
  unfold parseDirectiveComment
  simp only [decide_true, Bool.not_true, Bool.false_eq_true, if_false, pure_eq_ok, bind_ok, Expr_getComments, hg,
    lineG_Comments, comsG_Before, comsG_Suffix]
  unfold parseDirectiveComment_loop1
  simp only [len_eq, List.length_cons, List.length_nil, idxL_zero_cons, bind_ok, hb]
  unfold parseDirectiveComment_loop1
  simp only [len_eq, List.length_cons, List.length_nil, Int.zero_add, idxL_one_cons, bind_ok, hs]
  unfold parseDirectiveComment_loop1
  simp [len_eq, Modfile.parseDirectiveComment, GoStrings.join, GoRt.join, List.filterMap_append]
  rfl


def ratCom (line : Bytes) : Modfile.Comment := { token := B "// " ++ line }

def addBefore (cs : List Modfile.Comment) (l : Modfile.Line) : Modfile.Line :=
  { l with comments := { l.comments with before := l.comments.before ++ cs } }

theorem IdEquiv_addBefore (cs : List Modfile.Comment) : IdEquiv (addBefore cs) := fun _ _ => rfl

theorem setLineH_setLineH (h : Heap) (p : Int) (l1 l2 : Modfile.Line) : setLineH (setLineH h p l1) p l2 = setLineH h p l2 := by
  simp [setLineH, List.set_set]

theorem addBefore_addBefore (a b : List Modfile.Comment) (l : Modfile.Line) : addBefore b (addBefore a l) = addBefore (a ++ b) l := by
  simp [addBefore]

theorem AddRetract_loop_eq (rationale : Bytes) (r p : Int) :
    ∀ (suf pre : List Bytes) (h : Heap) (l : Modfile.Line) (ro : Retract) (fuel : Nat),
      heapGet h.retracts r = .ok ro → ro.Syntax = p → heapGet h.lines p = .ok (lineG l) → suf.length + 1 ≤ fuel →
      File_AddRetract_loop1 isPrintI quoteI (pre ++ suf) rationale r fuel (pre.length : Int) h =
        .ok (len (pre ++ suf), setLineH h p (addBefore (suf.map ratCom) l))
  | [], pre, h, l, ro, fuel, hr, hp, hl, hf => by
    obtain ⟨fuel, rfl⟩ : ∃ k, fuel = k + 1 := ⟨fuel - 1, by omega⟩
    unfold File_AddRetract_loop1
    have : addBefore [] l = l := by simp [addBefore]
    simp [len_eq, this, setLineH_self hl]
  | line :: suf, pre, h, l, ro, fuel, hr, hp, hl, hf => by
    obtain ⟨fuel, rfl⟩ : ∃ k, fuel = k + 1 := ⟨fuel - 1, by omega⟩
    have hB : ([47, 47, 32] : Bytes) = B "// " := by decide +kernel
    have ih := AddRetract_loop_eq rationale r p suf (pre ++ [line]) (setLineH h p (addBefore [ratCom line] l)) (addBefore [ratCom line] l) ro fuel
      (by simpa using hr) hp (heapGet_setLineH_same hl _) (by simp at hf; omega)
    simp only [List.append_assoc, List.singleton_append] at ih
    unfold File_AddRetract_loop1
    simp only [lt_len_mid, decide_true, if_true, idxL_mid, bind_ok, pure_eq_ok, hr, hp, Expr_getComments, Expr_setComments, hl,
      heapSet_of_get _ hl]
    rw [succ_len_snoc pre line]
    have := ih
    simp only [setLineH_setLineH, addBefore_addBefore] at this
    refine Eq.trans (congrArg (fun w => File_AddRetract_loop1 isPrintI quoteI (pre ++ line :: suf) rationale r fuel
      (((pre ++ [line]).length : Nat) : Int) w) ?_) (this.trans (by simp))
    simp only [setLineH, lineG, addBefore, Drv.GenEdit.comsG, Drv.GenEdit.comG, ratCom, hB, List.map_append, List.map_cons, List.map_nil]
    rfl

theorem findLine_updateLine_self (fs : Modfile.FileSyntax) (id : Nat) (g : Modfile.Line → Modfile.Line) (l : Modfile.Line)
    (hn : (treeIds fs.stmts).Nodup) (hg : ∀ l, (g l).id = l.id) (hf : fs.findLine id = some l) :
    (fs.updateLine id g).findLine id = some (g l) := by
  have hid : l.id = id := by
    unfold Modfile.FileSyntax.findLine at hf
    simpa using List.find?_some hf
  have hm : l ∈ fs.allLines := by
    unfold Modfile.FileSyntax.findLine at hf
    exact List.mem_of_find?_eq_some hf
  rw [Modfile.Edit.allLines_eq_loc] at hm
  obtain ⟨q, hq, rfl⟩ := List.mem_map.1 hm
  have hq' : (q.1, g q.2) ∈ loc (fs.updateLine id g).stmts := by
    rw [Modfile.Edit.loc_updateLine fs id g hn]
    refine List.mem_map.2 ⟨q, hq, ?_⟩
    simp [hid]
  have hn' : (treeIds (fs.updateLine id g).stmts).Nodup := by
    rw [Modfile.Edit.treeIds_updateLine fs id g hn hg]; exact hn
  have := Modfile.Edit.findLine_of_loc _ hn' _ hq'
  simpa [hg, hid] using this

/-- garbage in `retracts`: any object list that still holds the represented entries -/
theorem RepFAt.withRetracts {h : Heap} {o : File} {e : EFile} (R : RepFAt h o e) (v : List Retract)
    (hv : REnts v retractG (·.lineId) h.lines.length o.Retract e.f.retract) : RepFAt { h with retracts := v } o e :=
  R.withRetract hv

def ratComs (rationale : Bytes) : List Modfile.Comment :=
  if rationale.isEmpty then [] else (splitOn 10 rationale).map ratCom

def retrTokens (vi : Modfile.VersionInterval) : List Bytes :=
  if vi.low == vi.high then [B "retract", Modfile.autoQuote vi.low]
  else [B "retract", [91], Modfile.autoQuote vi.low, [44], Modfile.autoQuote vi.high, [93]]

/-- the model's `addRetract` after the two version checks -/
def addRetractOk (e : EFile) (vi : Modfile.VersionInterval) (rationale : Bytes) : EFile :=
  let syn := (addLine e.f.syn none (retrTokens vi) e.next).updateLine e.next (addBefore (ratComs rationale))
  let rat := match syn.findLine e.next with
    | some l => Modfile.parseDirectiveComment none l.comments
    | none => []
  { f := { e.f with retract := e.f.retract ++ [{ interval := vi, rationale := rat, lineId := e.next }], syn := syn },
    next := e.next + 1 }

/-- the module path that `AddRetract` checks the versions against -/
def modPath (e : EFile) : Bytes :=
  match e.f.module with
  | some m => m.mod.path
  | none => []

theorem addRetract_eq (e : EFile) (vi : Modfile.VersionInterval) (rationale : Bytes) :
    Modfile.Edit.addRetract e vi rationale =
      if !Modfile.Edit.checkCanonicalVersion (modPath e) vi.high then .error .invalidVersion else
      if !Modfile.Edit.checkCanonicalVersion (modPath e) vi.low then .error .invalidVersion else
      .ok (addRetractOk e vi rationale) := by
  unfold Modfile.Edit.addRetract modPath addRetractOk retrTokens ratComs addBefore ratCom
  rfl

theorem ratComs_length (rationale : Bytes) : (ratComs rationale).length ≤ rationale.length + 1 := by
  unfold ratComs
  split
  · simp
  · simp only [List.length_map]
    exact splitOn_length_le 10 rationale

/-- the part of `File.AddRetract` after the new line exists (rule.go:1580–1592): `r.Syntax = line`, the rationale comments,
    `r.Rationale = parseDirectiveComment(nil, r.Syntax)`, `f.Retract = append(f.Retract, r)` — a transcription of the
    regenerated text, which `File_AddRetract` contains twice -/
def retractK13 (fuel : Nat) (fp r : Int) (world : Heap) : M (Option String × Heap) := do
  let t5 ← heapGet world.retracts r
  let t6 ← parseDirectiveComment fuel 0 t5.Syntax world
  let t8 ← heapGet t6.2.retracts r
  let t9 ← heapSet t6.2.retracts r { t8 with Rationale := t6.1 }
  let world : Heap := { t6.2 with retracts := t9 }
  let t10 ← heapGet world.mods fp
  let t11 ← heapGet world.mods fp
  let t12 ← heapSet world.mods fp { t11 with Retract := t10.Retract ++ [r] }
  pure (none, { world with mods := t12 })

def retractTail (fuel : Nat) (fp r : Int) (rationale : Bytes) (new : Int) (world : Heap) : M (Option String × Heap) := do
  let t27 ← heapGet world.retracts r
  let t28 ← heapSet world.retracts r { t27 with Syntax := new }
  let world : Heap := { world with retracts := t28 }
  if (!decide (rationale = [])) then (do
    let x ← File_AddRetract_loop1 isPrintI quoteI (split rationale [10]) rationale r fuel 0 world
    retractK13 fuel fp r x.2) else retractK13 fuel fp r world

/-- the new typed entry: its rationale is read back from the comments of its line -/
def newRetract (vi : Modfile.VersionInterval) (l : Modfile.Line) (n : Nat) : Modfile.Retract :=
  { interval := vi, rationale := Modfile.parseDirectiveComment none l.comments, lineId := n }

theorem retractTail_eq {w : Heap} {fp : Int} {o : File} {l : Modfile.Line} (hs : List Retract) (vi : Modfile.VersionInterval)
    (rationale : Bytes) (n : Nat) (fuel : Nat)
    (hw : w.retracts = hs ++ [({ (default : Retract) with VersionInterval := viG vi } : Retract)])
    (hl : heapGet w.lines (n : Int) = .ok (lineG l)) (hc : l.comments = {}) (ho : heapGet w.mods fp = .ok o)
    (hf : rationale.length + 5 ≤ fuel) :
    retractTail fuel fp ((hs.length + 1 : Nat) : Int) rationale (n : Int) w =
      .ok (none, { setLineH w (n : Int) (addBefore (ratComs rationale) l) with
        retracts := hs ++ [retractG (newRetract vi (addBefore (ratComs rationale) l) n)],
        mods := w.mods.set (fp.toNat - 1) { o with Retract := o.Retract ++ [((hs.length + 1 : Nat) : Int)] } }) := by
  have hr0 : heapGet w.retracts ((hs.length + 1 : Nat) : Int) = .ok ({ (default : Retract) with VersionInterval := viG vi } : Retract) := by
    rw [hw]; exact heapGet_alloc_new _ _
  unfold retractTail
  simp only [hr0, bind_ok, heapSet_of_get _ hr0]
  have hidx : (((hs.length + 1 : Nat) : Int).toNat - 1) = hs.length := by simp
  rw [hidx, hw, set_alloc_last]
  -- the heap after `r.Syntax = line`
  generalize hw4 : ({ w with retracts := hs ++ [({ VersionInterval := viG vi, Rationale := (default : Retract).Rationale, Syntax := (n : Int) } : Retract)] } : Heap) = w4
  have hr4 : heapGet w4.retracts ((hs.length + 1 : Nat) : Int) = .ok ({ VersionInterval := viG vi, Rationale := [], Syntax := (n : Int) } : Retract) := by
    rw [← hw4]; exact heapGet_alloc_new _ _
  have hl4 : heapGet w4.lines (n : Int) = .ok (lineG l) := by rw [← hw4]; exact hl
  have ho4 : heapGet w4.mods fp = .ok o := by rw [← hw4]; exact ho
  -- the comment loop
  have hloop : (if (!decide (rationale = [])) = true then (do
        let x ← File_AddRetract_loop1 isPrintI quoteI (split rationale [10]) rationale ((hs.length + 1 : Nat) : Int) fuel 0 w4
        pure x.2) else pure w4 : M Heap) = .ok (setLineH w4 (n : Int) (addBefore (ratComs rationale) l)) := by
    unfold ratComs
    cases rationale with
    | nil =>
      have : addBefore [] l = l := by simp [addBefore]
      simp [this, setLineH_self hl4]
    | cons c cs =>
      have := AddRetract_loop_eq (c :: cs) ((hs.length + 1 : Nat) : Int) (n : Int) (split (c :: cs) [10]) [] w4 l _ fuel hr4 rfl hl4
        (by rw [GoRtTile.split_single]; have := splitOn_length_le 10 (c :: cs); omega)
      simp only [List.nil_append, List.length_nil, show ((0 : Nat) : Int) = 0 from rfl] at this
      have hne : (!decide (c :: cs = ([] : Bytes))) = true := by simp
      rw [if_pos hne, this]
      simp [GoRtTile.split_single]
  have hk : ∀ (k : Heap → M (Option String × Heap)),
      (if (!decide (rationale = [])) = true then (do
        let x ← File_AddRetract_loop1 isPrintI quoteI (split rationale [10]) rationale ((hs.length + 1 : Nat) : Int) fuel 0 w4
        k x.2) else k w4) = k (setLineH w4 (n : Int) (addBefore (ratComs rationale) l)) := by
    intro k
    split at hloop
    · rename_i hc'
      rw [if_pos hc']
      cases hL : File_AddRetract_loop1 isPrintI quoteI (split rationale [10]) rationale ((hs.length + 1 : Nat) : Int) fuel 0 w4 with
      | error err => rw [hL] at hloop; cases hloop
      | ok x =>
        rw [hL] at hloop
        simp only [bind_ok, pure_eq_ok, Except.ok.injEq] at hloop
        simp only [bind_ok, hloop]
    · rename_i hc'
      rw [if_neg hc']
      simp only [pure_eq_ok, Except.ok.injEq] at hloop
      rw [← hloop]
  rw [hk (retractK13 fuel fp ((hs.length + 1 : Nat) : Int))]
  unfold retractK13
  -- the heap after the comments were added
  have hl5 : heapGet (setLineH w4 (n : Int) (addBefore (ratComs rationale) l)).lines (n : Int) =
      .ok (lineG (addBefore (ratComs rationale) l)) := heapGet_setLineH_same hl4 _
  have hpd := parseDirectiveComment_line hl5 fuel (by
    have := ratComs_length rationale
    simp only [addBefore, hc, List.nil_append, List.length_nil]; omega)
  simp only [setLineH_retracts, hr4, bind_ok, hpd, heapSet_of_get _ hr4, setLineH_mods, ho4, pure_eq_ok]
  subst hw4
  simp [setLineH, retractG, newRetract, viG, heapSet_of_get _ ho]


/-- one of the two version checks of `File.AddRetract`: an error is returned, the heap untouched -/
def versionGate (fuel : Nat) (path v : Bytes) (world : Heap) (k : M (Option String × Heap)) : M (Option String × Heap) := do
  let t ← checkCanonicalVersion fuel path v
  if (!(t).isNone) then (pure (t, world)) else k

theorem versionGate_eq (fuel : Nat) (path v : Bytes) (world : Heap) (k : M (Option String × Heap))
    (hf1 : path.length + 1 ≤ fuel) (hf2 : 2 * v.length ≤ fuel) :
    if Modfile.Edit.checkCanonicalVersion path v = true then versionGate fuel path v world k = k
    else ∃ s, versionGate fuel path v world k = .ok (some s, world) := by
  obtain ⟨err, hc, hi⟩ := checkCanonicalVersion_ok fuel path v hf1 hf2
  unfold versionGate
  rw [hc]
  cases err with
  | none => rw [if_pos (hi.1 rfl)]; rfl
  | some s => rw [if_neg (fun hv => by simpa using hi.2 hv)]; exact ⟨s, rfl⟩

/-- `File.AddRetract` after the two version checks: the `Retract` object, the new line, `retractTail` -/
def retractMain (fuel : Nat) (fp : Int) (vi : VersionInterval) (rationale : Bytes) (world : Heap) : M (Option String × Heap) := do
  let a := heapAlloc world.retracts ({ (default : Retract) with VersionInterval := vi } : Retract)
  let world : Heap := { world with retracts := a.2 }
  if decide (vi.Low = vi.High) then (do
    let t23 ← heapGet world.mods fp
    let t24 ← AutoQuote isPrintI quoteI fuel vi.Low
    let t25 ← FileSyntax_addLine fuel t23.Syntax Expr.nil [([114, 101, 116, 114, 97, 99, 116] : Bytes), t24] world
    retractTail fuel fp a.1 rationale t25.1 t25.2)
  else (do
    let t29 ← heapGet world.mods fp
    let t30 ← AutoQuote isPrintI quoteI fuel vi.Low
    let t31 ← AutoQuote isPrintI quoteI fuel vi.High
    let t32 ← FileSyntax_addLine fuel t29.Syntax Expr.nil
      [([114, 101, 116, 114, 97, 99, 116] : Bytes), [91], t30, [44], t31, [93]] world
    retractTail fuel fp a.1 rationale t32.1 t32.2)

/-- `File.AddRetract` once the module path is known -/
def retractBody (fuel : Nat) (fp : Int) (vi : VersionInterval) (rationale : Bytes) (world : Heap) (path : Bytes) :
    M (Option String × Heap) :=
  versionGate fuel path vi.High world (versionGate fuel path vi.Low world (retractMain fuel fp vi rationale world))

theorem File_AddRetract_eq {fp : Int} {world : Heap} {o : File} (ho : heapGet world.mods fp = .ok o) (fuel : Nat)
    (vi : VersionInterval) (rationale : Bytes) :
    File_AddRetract isPrintI quoteI fuel fp vi rationale world =
      if (!decide (o.Module = 0)) then (do
        let t38 ← heapGet world.modules o.Module
        retractBody fuel fp vi rationale world t38.Mod.Path)
      else retractBody fuel fp vi rationale world [] := by
  unfold File_AddRetract
  rw [ho]
  rfl

theorem retractMain_sim {h : Heap} {fp : Int} {o : File} {e : EFile} (ho : heapGet h.mods fp = .ok o)
    (R : RepFAt h o e) (vi : Modfile.VersionInterval) (rationale : Bytes) (fuel : Nat)
    (hf4 : nodeCount e.f.syn.stmts + 3 ≤ fuel) (hf5 : rationale.length + 5 ≤ fuel)
    (hf6 : vi.low.length + 1 ≤ fuel) (hf7 : vi.high.length + 1 ≤ fuel) :
    ∃ h', retractMain fuel fp (viG vi) rationale h = .ok (none, h') ∧ RepF h' fp (addRetractOk e vi rationale) := by
  have hB : ([114, 101, 116, 114, 97, 99, 116] : Bytes) = B "retract" := by decide +kernel
  have R2 : RepFAt { h with retracts := h.retracts ++ [({ (default : Retract) with VersionInterval := viG vi } : Retract)] } o e :=
    RepFAt.withRetracts R _ (R.retract.mono (fun p v hp => heapGet_alloc_old _ hp) (Nat.le_refl _))
  obtain ⟨t0, trest, htk⟩ : ∃ t0 trest, retrTokens vi = t0 :: trest := by
    unfold retrTokens; split <;> exact ⟨_, _, rfl⟩
  obtain ⟨h3, l, a1, F, R3, hl, hnew, hfind⟩ := addLine_file R2 none t0 trest fuel hf4
  rw [← htk] at a1 R3 hfind
  have hlen3 : h3.lines.length = e.next := by have := R3.next; simp at this; omega
  have ho3 : heapGet h3.mods fp = .ok o := by rw [F.mods]; exact ho
  have htail := retractTail_eq (w := h3) (fp := fp) (o := o) (l := l) h.retracts vi rationale e.next fuel F.retracts hl hnew.2 ho3 hf5
  have R3' := RepFAt.withRetracts R3 h.retracts (R.retract.mono (fun _ _ hp => hp) (by have := R.next; omega))
  have R4 := RepFAt.setLine R3' (IdEquiv_addBefore (ratComs rationale)) (p := (e.next : Int)) (l0 := l) hl
  have R5 := R4.withRetract (R4.retract.push (newRetract vi (addBefore (ratComs rationale) l) e.next) (by simp [newRetract, hlen3]))
  have R6 := R5.congrMods (h3.mods.set (fp.toNat - 1) { o with Retract := o.Retract ++ [((h.retracts.length + 1 : Nat) : Int)] })
  generalize hFdef : ({ setLineH h3 (e.next : Int) (addBefore (ratComs rationale) l) with
      retracts := h.retracts ++ [retractG (newRetract vi (addBefore (ratComs rationale) l) e.next)],
      mods := h3.mods.set (fp.toNat - 1) { o with Retract := o.Retract ++ [((h.retracts.length + 1 : Nat) : Int)] } } : Heap) = hF
    at htail
  refine ⟨hF, ?_, { o with Retract := o.Retract ++ [((h.retracts.length + 1 : Nat) : Int)] },
    by rw [← hFdef]; exact heapGet_listSet_same _ ho3, ?_⟩
  · -- the regenerated text is `addLine` followed by `retractTail`
    have hgo : ∀ (toks : List Bytes), toks = retrTokens vi →
        (do let t25 ← FileSyntax_addLine fuel o.Syntax Expr.nil toks
              { h with retracts := (heapAlloc h.retracts ({ (default : Retract) with VersionInterval := viG vi } : Retract)).2 }
            retractTail fuel fp (heapAlloc h.retracts ({ (default : Retract) with VersionInterval := viG vi } : Retract)).1 rationale t25.1 t25.2)
          = .ok (none, hF) := by
      intro toks htoks
      rw [htoks, show (Expr.nil) = hintG none from rfl]
      erw [a1]
      exact htail
    unfold retractMain
    simp only [show heapGet ({ h with retracts := (heapAlloc h.retracts ({ (default : Retract) with VersionInterval := viG vi } : Retract)).2 } : Heap).mods fp = .ok o from ho,
      bind_ok, show AutoQuote isPrintI quoteI fuel (viG vi).Low = .ok (Modfile.autoQuote vi.low) from AutoQuote_ok vi.low fuel hf6,
      show AutoQuote isPrintI quoteI fuel (viG vi).High = .ok (Modfile.autoQuote vi.high) from AutoQuote_ok vi.high fuel hf7]
    by_cases hlh : vi.low = vi.high
    · rw [if_pos (show decide ((viG vi).Low = (viG vi).High) = true from decide_eq_true hlh)]
      exact hgo _ (by unfold retrTokens; simp [hlh, hB])
    · rw [if_neg (show ¬ (decide ((viG vi).Low = (viG vi).High) = true) from fun hd => hlh (of_decide_eq_true hd))]
      exact hgo _ (by unfold retrTokens; simp [hlh, hB])
  · rw [← hFdef]
    have hnd : (treeIds (addLine e.f.syn none (retrTokens vi) e.next).stmts).Nodup := by
      obtain ⟨es, r⟩ := R3.syn; exact r.nodupL
    have hfl := findLine_updateLine_self _ e.next (addBefore (ratComs rationale)) l hnd (fun _ => rfl) hfind
    have hmodel : addRetractOk e vi rationale =
        { f := { e.f with retract := e.f.retract ++ [newRetract vi (addBefore (ratComs rationale) l) e.next],
                          syn := (addLine e.f.syn none (retrTokens vi) e.next).updateLine e.next (addBefore (ratComs rationale)) },
          next := e.next + 1 } := by
      unfold addRetractOk
      simp only [hfl, newRetract]
    rw [hmodel]
    simpa using R6

theorem File_AddRetract_sim {h : Heap} {fp : Int} {e : EFile} (R : RepF h fp e)
    (vi : Modfile.VersionInterval) (rationale : Bytes) (fuel : Nat)
    (hf1 : (modPath e).length + 1 ≤ fuel) (hf2 : 2 * vi.high.length ≤ fuel) (hf3 : 2 * vi.low.length ≤ fuel)
    (hf4 : nodeCount e.f.syn.stmts + 3 ≤ fuel) (hf5 : rationale.length + 5 ≤ fuel)
    (hf6 : vi.low.length + 1 ≤ fuel) (hf7 : vi.high.length + 1 ≤ fuel) :
    match Modfile.Edit.addRetract e vi rationale with
    | .ok e' => ∃ h', File_AddRetract isPrintI quoteI fuel fp (viG vi) rationale h = .ok (none, h') ∧ RepF h' fp e'
    | .error err => err = .invalidVersion ∧ ∃ s, File_AddRetract isPrintI quoteI fuel fp (viG vi) rationale h = .ok (some s, h) := by
  obtain ⟨o, ho, R⟩ := R
  have hbody : File_AddRetract isPrintI quoteI fuel fp (viG vi) rationale h = retractBody fuel fp (viG vi) rationale h (modPath e) := by
    rw [File_AddRetract_eq ho]
    have hm := R.module
    unfold modPath
    cases hmd : e.f.module with
    | none =>
      rw [hmd] at hm
      rw [show o.Module = 0 from hm]; rfl
    | some m =>
      rw [hmd] at hm
      rw [if_pos (by have := heapGet_pos hm.1; simp; omega), hm.1]; rfl
  rw [addRetract_eq, hbody]
  unfold retractBody
  have g1 : if Modfile.Edit.checkCanonicalVersion (modPath e) vi.high = true then _ else _ :=
    versionGate_eq fuel (modPath e) (viG vi).High h
      (versionGate fuel (modPath e) (viG vi).Low h (retractMain fuel fp (viG vi) rationale h)) hf1 hf2
  have g2 : if Modfile.Edit.checkCanonicalVersion (modPath e) vi.low = true then _ else _ :=
    versionGate_eq fuel (modPath e) (viG vi).Low h (retractMain fuel fp (viG vi) rationale h) hf1 hf3
  cases hv1 : Modfile.Edit.checkCanonicalVersion (modPath e) vi.high with
  | false => rw [hv1] at g1; exact ⟨rfl, g1⟩
  | true =>
    rw [hv1, if_pos rfl] at g1
    rw [g1]
    cases hv2 : Modfile.Edit.checkCanonicalVersion (modPath e) vi.low with
    | false => rw [hv2] at g2; exact ⟨rfl, g2⟩
    | true =>
      rw [hv2, if_pos rfl] at g2
      rw [g2]
      exact retractMain_sim ho R vi rationale fuel hf4 hf5 hf6 hf7

end ModVerif.Tie.FnEditReqE
