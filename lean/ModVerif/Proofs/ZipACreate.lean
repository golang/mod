/-
  C05: an archive produced by `create` passes the zip check with no invalid entry, no size error, and the
  entry names as the valid list (`create_checkZip`); it extracts without error to exactly its entries
  (`create_unzip`, from the extraction theorems of Proofs/ZipBUnzip.lean); and `create` fails on an entry name
  longer than 65535 bytes although the file check reports no error (`create_nameTooLong`, a structured proof:
  nothing is evaluated over the 65 kB path).
-/
import ModVerif.Spec.ZipSpec
import ModVerif.Proofs.ZipAChain
import ModVerif.Proofs.ZipAPath
import ModVerif.Proofs.ZipAVendor
import ModVerif.Proofs.ZipNameOK
import ModVerif.Proofs.ZipSubmodule
import ModVerif.Proofs.ZipCreate
import ModVerif.Proofs.ZipAClassify
import ModVerif.Proofs.ZipBUnzip
namespace ModVerif.Proofs.ZipA
open ModVerif ModVerif.PathClean ModVerif.Zip ModVerif.ZipSpec ModVerif.Proofs.Zip

def SizeInv (s : St) : Prop :=
  s.cf.sizeError = true ∨
    (0 ≤ s.maxSize ∧ (∀ f ∈ s.validFiles, 0 ≤ f.size) ∧
      (s.validFiles.map (·.size)).sum + s.maxSize ≤ (MaxZipFile : Int))

theorem sizeInv_addError (s : St) (p : Bytes) (om : Bool) (r : Reason) (h : SizeInv s) :
    SizeInv (s.addError p om r) := by
  unfold St.addError
  by_cases hp : s.errPaths.contains p = true
  · rw [if_pos hp]; exact h
  · rw [if_neg hp]; cases om <;> exact h

theorem sizeInv_setCC (s : St) (cc : CC) (h : SizeInv s) : SizeInv (s.setCC cc) := h

theorem sizeInv_account (s : St) (n : Int) (h : SizeInv s) : SizeInv (s.account n) := by
  unfold St.account
  by_cases hn : 0 ≤ n ∧ n ≤ s.maxSize
  · rw [if_pos hn]
    rcases h with h | ⟨h1, h2, h3⟩
    · exact Or.inl h
    · exact Or.inr ⟨by simp only; omega, h2, by simp only; omega⟩
  · rw [if_neg hn]; exact Or.inl rfl

theorem sizeInv_account_push (s : St) (f : FileInfo) (h : SizeInv s) :
    SizeInv ((s.account f.size).pushValid f) := by
  unfold St.account
  by_cases hn : 0 ≤ f.size ∧ f.size ≤ s.maxSize
  · rw [if_pos hn]
    rcases h with h | ⟨h1, h2, h3⟩
    · exact Or.inl h
    · refine Or.inr ⟨by simp only [St.pushValid]; omega, ?_, ?_⟩
      · intro g hg
        simp only [St.pushValid] at hg
        rcases List.mem_append.mp hg with hg | hg
        · exact h2 g hg
        · rw [List.mem_singleton.mp hg]; exact hn.1
      · simp only [St.pushValid, List.map_append, List.sum_append, List.map_cons, List.map_nil, List.sum_cons,
          List.sum_nil]
        omega
  · rw [if_neg hn]; exact Or.inl rfl

theorem stepFile_sizeInv (E : Env) (ge124 : Bool) (hg : List Bytes) (s : St) (f : FileInfo)
    (h : SizeInv s) : SizeInv (stepFile E ge124 hg s f) := by
  have ho := stepFile_out E ge124 hg s f
  generalize stepFile E ge124 hg s f = s' at ho
  cases ho with
  | early om r _ => exact sizeInv_addError _ _ _ _ h
  | late _ om r _ => exact sizeInv_addError _ _ _ _ (sizeInv_setCC _ _ h)
  | sized _ r => exact sizeInv_addError _ _ _ _ (sizeInv_account _ _ (sizeInv_setCC _ _ h))
  | valid _ _ => exact sizeInv_account_push _ _ (sizeInv_setCC _ _ h)

theorem checkFilesSt_sizeInv (E : Env) (ge124 : Bool) (files : List FileInfo) :
    SizeInv (checkFilesSt E files ge124) := by
  refine foldl_inv _ files _ (fun s f _ => stepFile_sizeInv E ge124 _ s f)
    (prePass_st_inv (fun s p => sizeInv_addError s p _ _) files {} (Or.inr ⟨?_, ?_, ?_⟩))
  · show (0 : Int) ≤ (MaxZipFile : Int)
    unfold MaxZipFile; omega
  · intro f hf; cases hf
  · show ([] : List Int).sum + (MaxZipFile : Int) ≤ _
    simp


theorem cleanRel_ne_nil (p : Bytes) (h : CleanRel p) : p ≠ [] := by
  intro e; have := h.clean; rw [e] at this; simp [pathClean] at this

theorem cleanRel_noTrailingSlash (p : Bytes) (h : CleanRel p) : hasSlashSuffix p = false := by
  rcases last_slash p with hns | ⟨a, b, rfl, hb⟩
  · exact ZipB.noSlashSuffix_append [] (cleanRel_ne_nil p h) hns
  · have hc := cleanRel_canon h (by intro e; have := congrArg (fun l => (47 : UInt8) ∈ l) e; simp at this)
    rw [splitOn_append_sep, splitOn_noSep 47 b hb] at hc
    have := ZipB.noSlashSuffix_append (a ++ [47]) (hc.elem b (by simp)).1 hb
    simpa using this

/-- everything `zipStep` asks of the entry of a valid file -/
structure ZOK (E : Env) (f : FileInfo) : Prop where
  clean : pathClean f.path = f.path
  ne : f.path ≠ []
  noSlash : hasSlashSuffix f.path = false
  cfp : E.cfp f.path = true
  goMod : equalFoldGoMod (pathBase f.path) = true → f.path = goModName
  goModSize : f.path = goModName → (f.content.length : Int) ≤ MaxGoMod
  licenseSize : f.path = licenseName → (f.content.length : Int) ≤ MaxLICENSE

theorem zok_of_nameOK (E : Env) (ge124 : Bool) (files : List FileInfo) (f : FileInfo) (hf : f ∈ files)
    (ok : NameOK E ge124 (prePass files).haveGoMod f) (hadd : (f.content.length : Int) < f.size + 1) : ZOK E f := by
  have hcr : CleanRel f.path := ⟨ok.clean, ok.notAbs⟩
  have hne := cleanRel_ne_nil _ hcr
  have hns := cleanRel_noTrailingSlash _ hcr
  refine ⟨ok.clean, hne, hns, ok.cfp, ?_, ?_, ?_⟩
  · intro h
    rw [ZipB.pathBase_eq_lastElem _ hne hns] at h
    exact valid_goMod_is_root E ge124 files f hf ok h
  · intro hp; have := ok.goModSize hp; omega
  · intro hp; have := ok.licenseSize hp; omega

theorem pathBase_goModName : pathBase goModName = goModName := by decide

theorem int64OfU64_small (n : Nat) (h : (n : Int) ≤ MaxZipFile) : int64OfU64 n = n := by
  unfold int64OfU64
  have : n < 2 ^ 63 := by unfold MaxZipFile at h; omega
  rw [if_pos this]

theorem zipStep_valid (E : Env) (pfx : Bytes) (s : ZSt) (f : FileInfo) (cc1 : CC) (hok : ZOK E f)
    (hcc : ccCheckTop E.toFold s.cc f.path false = (cc1, none)) (hsz : 0 ≤ s.size)
    (hfit : s.size + (f.content.length : Int) ≤ MaxZipFile) :
    zipStep E pfx s (entryOf pfx f) =
      { cf := { s.cf with valid := s.cf.valid ++ [pfx ++ f.path] }, cc := cc1,
        size := s.size + (f.content.length : Int) } := by
  have hpre : isPrefixOfB pfx (pfx ++ f.path) = true := (isPrefixOfB_iff _ _).mpr ⟨_, rfl⟩
  have hdrop : (pfx ++ f.path).drop pfx.length = f.path := List.drop_left' rfl
  have hne : (f.path == []) = false := by simpa using hok.ne
  have hi : int64OfU64 f.content.length = (f.content.length : Int) := int64OfU64_small _ (by omega)
  unfold zipStep
  simp only [entryOf, hpre, hdrop, hne, hok.noSlash, Bool.not_true, Bool.false_eq_true, if_false]
  unfold zipNamed
  have hcl : (pathClean f.path != f.path) = false := by rw [hok.clean]; simp
  simp only [hcl, hok.cfp, hcc, Bool.not_true, Bool.false_eq_true, if_false]
  unfold zipSized
  have c1 : (equalFoldGoMod (pathBase f.path) && pathBase f.path != f.path) = false := by
    by_cases hg : equalFoldGoMod (pathBase f.path) = true
    · have := hok.goMod hg
      rw [this, pathBase_goModName]; simp
    · simp [hg]
  have c2 : (equalFoldGoMod (pathBase f.path) && f.path != goModName) = false := by
    by_cases hg : equalFoldGoMod (pathBase f.path) = true
    · have := hok.goMod hg
      rw [this]; simp
    · simp [hg]
  have c3 : (f.path == goModName && decide (int64OfU64 f.content.length > (MaxGoMod : Int))) = false := by
    by_cases hg : f.path = goModName
    · have := hok.goModSize hg
      rw [hi]; simp; intro _; omega
    · simp [hg]
  have c4 : (f.path == licenseName && decide (int64OfU64 f.content.length > (MaxLICENSE : Int))) = false := by
    by_cases hg : f.path = licenseName
    · have := hok.licenseSize hg
      rw [hi]; simp; intro _; omega
    · simp [hg]
  simp only [c1, c2, c3, c4, Bool.false_eq_true, if_false]
  unfold ZSt.account ZSt.pushValid ZSt.setCC
  rw [hi]
  have hacc : 0 ≤ (f.content.length : Int) ∧ (MaxZipFile : Int) - s.size ≥ (f.content.length : Int) := by
    constructor <;> omega
  simp only [hacc, and_self, if_true]


theorem sum_len_nonneg : ∀ (vs : List FileInfo), 0 ≤ (vs.map (fun f => (f.content.length : Int))).sum := by
  intro vs
  induction vs with
  | nil => simp
  | cons f t ih => simp only [List.map_cons, List.sum_cons]; omega

theorem sum_len_le_size : ∀ (vs : List FileInfo), (∀ f ∈ vs, (f.content.length : Int) ≤ f.size) →
    (vs.map (fun f => (f.content.length : Int))).sum ≤ (vs.map (·.size)).sum := by
  intro vs
  induction vs with
  | nil => intro _; simp
  | cons f t ih =>
    intro h
    have h1 := h f List.mem_cons_self
    have h2 := ih (fun g hg => h g (List.mem_cons_of_mem _ hg))
    simp only [List.map_cons, List.sum_cons]; omega

theorem zip_replay (E : Env) (pfx : Bytes) : ∀ (vs : List FileInfo) (s : ZSt) (R : List (Bytes × Bool)),
    Tab E.toFold s.cc R → (R ++ fileRegs vs).Pairwise (ZipB.Compatible E.toFold) →
    (∀ f ∈ vs, ZOK E f ∧ fuelOK (f.path.length + 1) f.path) → 0 ≤ s.size →
    s.size + (vs.map (fun f => (f.content.length : Int))).sum ≤ MaxZipFile →
    ∃ ccF, (vs.map (entryOf pfx)).foldl (zipStep E pfx) s =
      { cf := { s.cf with valid := s.cf.valid ++ vs.map (fun f => pfx ++ f.path) }, cc := ccF,
        size := s.size + (vs.map (fun f => (f.content.length : Int))).sum } := by
  intro vs
  induction vs with
  | nil =>
    intro s R _ _ _ _ _
    obtain ⟨⟨v, o, i, se⟩, cc, sz⟩ := s
    exact ⟨cc, by simp⟩
  | cons f t ih =>
    intro s R ht hp hok hsz hfit
    have hregs : fileRegs (f :: t) = ZipB.regChain (f.path.length + 1) f.path false ++ fileRegs t := by
      simp [fileRegs, chains]
    rw [hregs, ← List.append_assoc] at hp
    obtain ⟨a, b, _⟩ := ccCheck_tab (f.path.length + 1) f.path false ht
    have hnone := a.mpr ⟨(hok f List.mem_cons_self).2, (List.pairwise_append.mp hp).1⟩
    have hck : ccCheckTop E.toFold s.cc f.path false =
        ((ccCheckTop E.toFold s.cc f.path false).1, none) := Prod.ext rfl hnone
    simp only [List.map_cons, List.sum_cons] at hfit
    have hnn := sum_len_nonneg t
    have hstep := zipStep_valid E pfx s f _ (hok f List.mem_cons_self).1 hck hsz (by omega)
    obtain ⟨ccF, hF⟩ := ih ⟨{ s.cf with valid := s.cf.valid ++ [pfx ++ f.path] },
        (ccCheckTop E.toFold s.cc f.path false).1, s.size + (f.content.length : Int)⟩ _ (b hnone) hp
      (fun g hg => hok g (List.mem_cons_of_mem _ hg)) (by simp only; omega) (by simp only; omega)
    refine ⟨ccF, ?_⟩
    simp only [List.map_cons, List.foldl_cons, hstep]
    rw [hF]
    simp only [List.sum_cons, List.append_assoc, List.singleton_append]
    congr 1
    omega

theorem err_none (cf : CheckedFiles) (h : cf.err = none) : cf.sizeError = false ∧ cf.invalid = [] := by
  unfold CheckedFiles.err at h
  by_cases h1 : cf.sizeError = true
  · rw [if_pos h1] at h; cases h
  · rw [if_neg h1] at h
    by_cases h2 : (!cf.invalid.isEmpty) = true
    · rw [if_pos h2] at h; cases h
    · exact ⟨by simpa using h1, by simpa using h2⟩

/-- C05 `create_checkZip` -/
theorem create_checkZip (E : Env) (mpath mvers : Bytes) (files : List FileInfo) (es : List Entry) (zipSize : Nat)
    (h : create E mpath mvers files = .ok es) (hz : zipSize ≤ MaxZipFile) :
    ∃ cf, checkZip E mpath mvers zipSize es = .ok cf ∧ cf.invalid = [] ∧ cf.sizeError = false ∧
      cf.valid = es.map (·.name) ∧ cf.err = none := by
  obtain ⟨hm, herr, hes, hadd⟩ := create_ok E mpath mvers files es h
  have herr' : (checkFilesSt E files (goVers files)).cf.err = none := herr
  obtain ⟨hse, _⟩ := err_none _ herr'
  obtain ⟨hv1, _⟩ := checkFilesSt_validFiles E (goVers files) files
  obtain ⟨R, ht, hsub, hinv⟩ := checkFilesSt_regInv E (goVers files) files
  have hsize := checkFilesSt_sizeInv E (goVers files) files
  rcases hsize with hsize | ⟨z1, z2, z3⟩
  · rw [hse] at hsize; cases hsize
  generalize (checkFilesSt E files (goVers files)).validFiles = vs at *
  have hzok : ∀ f ∈ vs, ZOK E f ∧ fuelOK (f.path.length + 1) f.path := fun f hf =>
    ⟨zok_of_nameOK E (goVers files) files f (hv1 f hf).1 (hinv f hf).1 (hadd f hf).2, (hinv f hf).2⟩
  have hle : (vs.map (fun f => (f.content.length : Int))).sum ≤ (vs.map (·.size)).sum :=
    sum_len_le_size vs (fun f hf => by have := (hadd f hf).2; omega)
  obtain ⟨ccF, hrun⟩ := zip_replay E (zipPrefix mpath mvers) vs {} [] tab_nil (by simpa using ht.pw.sublist hsub)
    hzok (by simp) (by show (0 : Int) + _ ≤ _; omega)
  unfold checkZip
  have hz' : ¬ zipSize > MaxZipFile := by omega
  simp only [hm, Bool.not_true, Bool.false_eq_true, if_false, hz']
  refine ⟨_, rfl, ?_⟩
  rw [hes, hrun]
  refine ⟨rfl, rfl, ?_, ?_⟩
  · simp [entryOf, Function.comp_def]
  · rfl

section Unzip
open ModVerif.Proofs.ZipB

theorem create_fileEntries (E : Env) (mpath mvers : Bytes) (files : List FileInfo) (es : List Entry)
    (h : create E mpath mvers files = .ok es) : fileEntries (zipPrefix mpath mvers) es = es := by
  obtain ⟨_, _, hes, hadd⟩ := create_ok E mpath mvers files es h
  obtain ⟨hv1, _⟩ := checkFilesSt_validFiles E (goVers files) files
  have hinv := (checkFilesSt_validInv E (goVers files) files).nameOK
  unfold fileEntries
  apply List.filter_eq_self.mpr
  intro e he
  rw [hes] at he
  obtain ⟨f, hf, rfl⟩ := List.mem_map.mp he
  have ok := zok_of_nameOK E (goVers files) files f (hv1 f hf).1 (hinv f hf) (hadd f hf).2
  have hdrop : (zipPrefix mpath mvers ++ f.path).drop (zipPrefix mpath mvers).length = f.path :=
    List.drop_left' rfl
  have hne : (f.path == []) = false := by simpa using ok.ne
  simp [skipEntry, entryOf, hdrop, hne, ok.noSlash]

theorem create_honest (E : Env) (mpath mvers : Bytes) (files : List FileInfo) (es : List Entry)
    (h : create E mpath mvers files = .ok es) : HonestEntries es := by
  obtain ⟨_, _, hes, _⟩ := create_ok E mpath mvers files es h
  intro e he
  rw [hes] at he
  obtain ⟨f, _, rfl⟩ := List.mem_map.mp he
  rfl

/-- C05 `create_unzip` -/
theorem create_unzip (E : Env) (hE : CfpSound E.cfp) (dir : Bytes)
    (hdir : dir = [] ∨ pathClean dir = dir ∨ ([46, 46] : Bytes) ∉ splitOn 47 dir) (t : Target)
    (ht : t = .missing ∨ t = .emptyDir) (mpath mvers : Bytes) (files : List FileInfo) (es : List Entry)
    (zipSize : Nat) (h : create E mpath mvers files = .ok es) (hz : zipSize ≤ MaxZipFile) :
    (unzip E dir t mpath mvers zipSize es).err = none ∧
    (unzip E dir t mpath mvers zipSize es).effects =
      .mkdirAll dir :: es.flatMap (fun e =>
        [.mkdirAll (pathDir (dstOf dir (zipPrefix mpath mvers) e)),
         .createExcl (dstOf dir (zipPrefix mpath mvers) e) (some e.content)]) ∧
    createdFiles (unzip E dir t mpath mvers zipSize es).effects = es.map (dstOf dir (zipPrefix mpath mvers)) ∧
    (es.map (dstOf dir (zipPrefix mpath mvers))).Nodup := by
  obtain ⟨cf, hck, _, _, _, herr⟩ := create_checkZip E mpath mvers files es zipSize h hz
  have hsane : DirSane dir := by
    rcases hdir with rfl | hd | hd
    · exact dirSane_nil
    · exact dirSane_clean hd
    · exact dirSane_noDotDot hd
  have hacc := unzip_accepts E hE dir hsane t mpath mvers zipSize es cf ht
    (create_honest E mpath mvers files es h) hck herr
  have hok : (unzip E dir t mpath mvers zipSize es).err = none := by rw [hacc]
  obtain ⟨x1, x2, x3⟩ := unzip_exact E dir t mpath mvers zipSize es hok
  rw [create_fileEntries E mpath mvers files es h] at x1 x2 x3
  exact ⟨hok, x1, x2, x3⟩

end Unzip

theorem noSlash_cleanRel (p : Bytes) (hns : (47 : UInt8) ∉ p) (hne : p ≠ []) (h1 : p ≠ [46]) : CleanRel p :=
  cleanRel_J (cs := [p]) ⟨by simpa using ⟨hne, h1, hns⟩, List.pairwise_singleton _ _, by simp⟩ (by simp)

theorem notVendored_noSlash (p : Bytes) (ge124 : Bool) (hns : (47 : UInt8) ∉ p) (hm : p ≠ vendorModulesTxt)
    (hv : isPrefixOfB vendorSlash p = false) : isVendoredPackage p ge124 = false := by
  unfold isVendoredPackage
  have e1 : (ge124 && p == vendorModulesTxt) = false := by
    have : (p == vendorModulesTxt) = false := by simpa using hm
    rw [this]; simp
  rw [e1, hv]
  simp only [Bool.false_eq_true, if_false]
  cases hi : indexOf slashVendorSlash p with
  | none => rfl
  | some j =>
    exfalso
    obtain ⟨a, b, h, _, _⟩ := indexOf_some _ _ _ hi
    apply hns
    rw [h, svs_eq]; simp

/-- `20 < p.length`: longer than every name a rule singles out (`vendor/modules.txt`, `.hg_archival.txt`, `go.mod`, `LICENSE`) -/
theorem earlyRule_single (E : Env) (ge124 : Bool) (files : List FileInfo) (p c : Bytes) (sz : Int) (g : Bool)
    (hns : (47 : UInt8) ∉ p) (hlen : 20 < p.length) (hv : isPrefixOfB vendorSlash p = false)
    (hcfp : E.cfp p = true) :
    earlyRule E ge124 files ⟨p, .regular, sz, c, g⟩ = none := by
  have hne : p ≠ [] := by intro e; rw [e] at hlen; simp at hlen
  have h1 : p ≠ [46] := by intro e; rw [e] at hlen; simp at hlen
  have hcr := noSlash_cleanRel p hns hne h1
  have hm : p ≠ vendorModulesTxt := by intro e; rw [e] at hlen; simp [vendorModulesTxt, vendorSlash] at hlen
  have hven := notVendored_noSlash p ge124 hns hm hv
  have hbelow : ¬ BelowModuleRoot files p := by
    unfold BelowModuleRoot dirPrefixes
    rw [dirPrefixesAux_noSlash p [] hns]
    simp
  have hhg : p ≠ hgArchivalName := by intro e; rw [e] at hlen; simp [hgArchivalName] at hlen
  have hlow : ¬ (lowerAscii p = goModName ∧ p ≠ goModName) := by
    rintro ⟨e, _⟩
    have := congrArg List.length e
    simp [lowerAscii, goModName] at this
    omega
  unfold earlyRule
  simp [goModUnreadable, hcr.clean, hcr.rel, hven, hbelow, hhg, hcfp, hlow]

theorem classifyStep_single (E : Env) (ge124 : Bool) (files : List FileInfo) (p c : Bytes) (sz : Int) (g : Bool)
    (hns : (47 : UInt8) ∉ p) (hlen : 20 < p.length) (hv : isPrefixOfB vendorSlash p = false)
    (hcfp : E.cfp p = true) :
    classifyStep E ge124 files [] ⟨p, .regular, sz, c, g⟩ = ([(p, false)], .valid) := by
  unfold classifyStep
  rw [earlyRule_single E ge124 files p c sz g hns hlen hv hcfp]
  have hcol : collide E.toFold [] p false = ([(p, false)], none) := by
    unfold collide
    rw [parents_noSlash p hns]
    simp [regChain, clash, Reg.lookup, register]
  have hg : p ≠ goModName := by intro e; rw [e] at hlen; simp [goModName] at hlen
  have hl : p ≠ licenseName := by intro e; rw [e] at hlen; simp [licenseName] at hlen
  have hmd : (Mode.regular == Mode.dir) = false := rfl
  simp [hmd, hcol, lateRule, hg, hl]

theorem create_nameTooLong (E : Env) (mpath mvers p c : Bytes) (hm : E.modOK mpath mvers = true)
    (hns : (47 : UInt8) ∉ p) (hlen : 20 < p.length) (hv : isPrefixOfB vendorSlash p = false)
    (hcfp : E.cfp p = true) (hc : (c.length : Int) ≤ MaxZipFile)
    (hlong : (zipPrefix mpath mvers ++ p).length > 65535) :
    (checkFilesV E [⟨p, .regular, c.length, c, false⟩]).err = none ∧
    (checkFilesV E [⟨p, .regular, c.length, c, false⟩]).valid = [p] ∧
    HonestFiles [⟨p, .regular, c.length, c, false⟩] ∧
    create E mpath mvers [⟨p, .regular, c.length, c, false⟩] = .error .nameTooLong := by
  generalize hf : (⟨p, .regular, c.length, c, false⟩ : FileInfo) = f
  have hcs : classifyAll E (goVers [f]) [f] = [(f, .valid)] := by
    unfold classifyAll
    rw [classifyFrom_cons, ← hf, classifyStep_single E _ _ p c c.length false hns hlen hv hcfp]
    rfl
  obtain ⟨s1, s2, s3, s4, s5⟩ := checkFilesSt_spec E [f] (goVers [f]) (by simp)
  have hu : goModUnreadable f = false := by rw [← hf]; simp [goModUnreadable]
  rw [hcs] at s1 s2 s3 s4 s5
  have hacc : accountB ((MaxZipFile : Int), false) f.size = ((MaxZipFile : Int) - f.size, false) := by
    unfold accountB
    rw [← hf]
    simp only
    rw [if_pos ⟨by omega, hc⟩]
  simp [vOf, iOf, bOf, hu, Class.sized, hacc] at s1 s2 s3 s4 s5
  have herr : (checkFilesSt E [f] (goVers [f])).cf.err = none := by
    unfold CheckedFiles.err
    rw [s5.2, s4]; rfl
  refine ⟨herr, ?_, ?_, ?_⟩
  · show (checkFilesSt E [f] (goVers [f])).cf.valid = [p]
    rw [s2, ← hf]
  · intro g hg _
    rw [List.mem_singleton.mp hg, ← hf]
  · rw [create_eq]
    simp only [hm, Bool.not_true, Bool.false_eq_true, if_false]
    rw [herr]
    simp only
    rw [s1]
    unfold addFiles
    have : (zipPrefix mpath mvers ++ f.path).length > 65535 := by rw [← hf]; exact hlong
    rw [if_pos this]

end ModVerif.Proofs.ZipA
