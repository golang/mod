/-
  Closed fuel of the go.mod session ties: the potential `W (Edit.load f)` of a strictly parsed file from the byte length of
  the file text — what the DIRECTIVE LAYER (`File.add`, `addBlockLines`, `addStmts` of the strict parse without a version
  fixer) does to the weight of the tree and to the typed part `fileP` of the potential.

  Per token the directive layer writes `AutoQuote (unquote tok)` (`parseString`: `≤ 16·|tok| + 2` through `unquote_length`
  and `quote_length`) or `module.CanonicalVersion` of the unquoted token (`≤ 4·|tok| + 17`); at most four tokens of a line
  are rewritten (`replace`).  So one step of `File.add` maps arguments of weight `tokW args` to arguments of weight at most
  `16 · tokW args + 80`, appends at most ONE entry to the typed lists, and a go version / module path it records is at most
  `4 · tokW args` long (`add_growth`).  Every statement `x` therefore adds at most `102 · exprW x` to `treeW + fileP`
  (`walkStmts_growth`, for the statement loop `walkStmts` of Proofs/ModfileWalk.lean with any such handler: `parseToFile` here,
  `ParseWork` in Proofs/TieFnEditFuelM.lean); `Edit.load` renumbers ids only (`shiftSyntax_treeW`); with `treeW_parse_le`:
  `W_load_le : W (Edit.load f) ≤ 408 · |file| + 102`.

  Namespaces `FnEditFuelI` (one `File.add` step), `FnEditFuelJ` (the loop, `Edit.load`).
-/
import ModVerif.Proofs.TieFnEditFuelG
import ModVerif.Proofs.TieFnEditFuelF
import ModVerif.Proofs.TieFnRuleFuelD
import ModVerif.Proofs.ModfileC20Rule
namespace ModVerif.Tie.FnEditFuelI
open ModVerif ModVerif.Modfile ModVerif.Tie.FnEditFuelA ModVerif.Proofs.ModfileC20

/-- the fixers under which the rewritten version token is bounded by the token: none (`Parse(…, nil)`), and the one
    `File.add` itself uses for `retract` -/
def PlainFix (fix : Option Fixer) : Prop := fix = none ∨ fix = some dontFixRetract

/-- the typed part of the potential `W` -/
def fileP (f : File) : Nat :=
  f.godebug.length + f.require.length + f.exclude.length + f.replace.length + f.retract.length + f.tool.length +
    (match f.go with | some g => g.version.length | none => 0) +
    (match f.module with | some m => m.mod.path.length | none => 0)

theorem parseString_tok {a s a' : Bytes} (h : parseString a = some (s, a')) :
    a'.length ≤ 16 * a.length + 2 ∧ s.length ≤ 4 * a.length := by
  have h1 := FnRuleFuelD.parseString_len h
  have : a' = autoQuote s := Proofs.ModfileFmtQuote.parseString_tok h
  subst this
  have := FnEditFuelF.autoQuote_length s
  omega

theorem parseVersion_tok {fix : Option Fixer} (hfix : PlainFix fix) (p tok : Bytes) :
    (parseVersion p tok fix).1.length ≤ 16 * tok.length + 17 := by
  unfold parseVersion
  cases hp : parseString tok with
  | none => simp only; omega
  | some r =>
    obtain ⟨t, tok1⟩ := r
    have ⟨h1, h2⟩ := parseString_tok hp
    have hc := FnRuleFuelD.canonicalVersion_len t
    rcases hfix with rfl | rfl
    · simp only; split <;> simp only <;> omega
    · simp only [dontFixRetract]; omega

theorem parseVersion_tok' {fix : Option Fixer} (hfix : PlainFix fix) {p tok t' : Bytes} {r : Except RuleErrKind Bytes}
    (h : parseVersion p tok fix = (t', r)) : t'.length ≤ 16 * tok.length + 17 := by
  have := parseVersion_tok hfix p tok; rw [h] at this; exact this

/-! ### `File.add`, verb by verb (strict) -/

theorem addGo_growth (st : AddState) (line : Line) (args : List Bytes) :
    tokW (addGo st line args true).2 ≤ 16 * tokW args + 80 ∧
      fileP (addGo st line args true).1.file ≤ fileP st.file + 4 * tokW args + 1 := by
  unfold addGo
  simp only [if_true]
  split
  · simp only [AddState.err]; omega
  · rename_i hg
    have hg' : st.file.go = none := by cases h : st.file.go <;> simp_all
    split
    · split
      · simp only [fileP, hg', tokW_cons, tokW_nil]; omega
      · simp only [AddState.err]; omega
    · simp only [AddState.err]; omega

theorem addToolchain_growth (st : AddState) (line : Line) (args : List Bytes) :
    tokW (addToolchain st line args).2 ≤ 16 * tokW args + 80 ∧
      fileP (addToolchain st line args).1.file ≤ fileP st.file + 4 * tokW args + 1 := by
  unfold addToolchain
  simp only
  split
  · simp only [AddState.err]; omega
  · split
    · split
      · simp only [AddState.err]; omega
      · simp only [fileP]; omega
    · simp only [AddState.err]; omega

theorem addModule_growth (st : AddState) (block : Option Comments) (line : Line) (args : List Bytes) :
    tokW (addModule st block line args).2 ≤ 16 * tokW args + 80 ∧
      fileP (addModule st block line args).1.file ≤ fileP st.file + 4 * tokW args + 1 := by
  unfold addModule
  simp only
  split
  · simp only [AddState.err]; omega
  · rename_i hg
    have hg' : st.file.module = none := by cases h : st.file.module <;> simp_all
    split
    · split
      · simp only [AddState.err, fileP, hg', List.length_nil]; omega
      · rename_i a s a' hp
        have := parseString_tok hp
        simp only [fileP, hg', tokW_cons, tokW_nil]; omega
    · simp only [AddState.err, fileP, hg', List.length_nil]; omega

theorem addGodebugV_growth (st : AddState) (line : Line) (args : List Bytes) :
    tokW (addGodebugV st line args).2 ≤ 16 * tokW args + 80 ∧
      fileP (addGodebugV st line args).1.file ≤ fileP st.file + 4 * tokW args + 1 := by
  unfold addGodebugV
  simp only
  split
  · simp only [AddState.err]; omega
  · simp only [fileP, List.length_append, List.length_singleton]; omega

theorem addToolV_growth (st : AddState) (line : Line) (args : List Bytes) :
    tokW (addToolV st line args).2 ≤ 16 * tokW args + 80 ∧
      fileP (addToolV st line args).1.file ≤ fileP st.file + 4 * tokW args + 1 := by
  unfold addToolV
  simp only
  split
  · split
    · simp only [AddState.err]; omega
    · rename_i a s a' hp
      have := parseString_tok hp
      simp only [fileP, List.length_append, List.length_singleton, tokW_cons, tokW_nil]; omega
  · simp only [AddState.err]; omega

theorem addReqExc_growth (st : AddState) (line : Line) (verb : Bytes) (args : List Bytes) {fix : Option Fixer}
    (hfix : PlainFix fix) :
    tokW (addReqExc st line verb args fix).2 ≤ 16 * tokW args + 80 ∧
      fileP (addReqExc st line verb args fix).1.file ≤ fileP st.file + 4 * tokW args + 1 := by
  unfold addReqExc
  simp only
  split
  · rename_i a0 a1
    split
    · simp only [AddState.err]; omega
    · rename_i s a0' hp
      have h0 := parseString_tok hp
      split
      · rename_i a1' e hv
        have h1 := parseVersion_tok' hfix hv
        simp only [AddState.err, tokW_cons, tokW_nil]; omega
      · rename_i a1' v hv
        have h1 := parseVersion_tok' hfix hv
        split
        · simp only [AddState.err, tokW_cons, tokW_nil]; omega
        · split
          · simp only [AddState.err, tokW_cons, tokW_nil]; omega
          · split
            · simp only [fileP, List.length_append, List.length_singleton, tokW_cons, tokW_nil]; omega
            · simp only [fileP, List.length_append, List.length_singleton, tokW_cons, tokW_nil]; omega
  · simp only [AddState.err]; omega

/-- collect the token bound of every `parseVersion … = (t', r)` hypothesis -/
macro "pv_facts" hfix:term : tactic =>
  `(tactic| repeat (have := parseVersion_tok' $hfix ‹parseVersion _ _ _ = _›; clear ‹parseVersion _ _ _ = _›))

theorem parseVersionInterval_tok {fix : Option Fixer} (hfix : PlainFix fix) (path : Bytes) (toks : List Bytes) :
    tokW (parseVersionInterval path toks fix).1 ≤ 16 * tokW toks + 80 := by
  unfold parseVersionInterval
  repeat' split
  all_goals (pv_facts hfix)
  all_goals (simp only [tokW_cons, tokW_nil]; omega)

theorem addRetractV_growth (st : AddState) (block : Option Comments) (line : Line) (args : List Bytes) :
    tokW (addRetractV st block line args true).2 ≤ 16 * tokW args + 80 ∧
      fileP (addRetractV st block line args true).1.file ≤ fileP st.file + 4 * tokW args + 1 := by
  have h := parseVersionInterval_tok (Or.inr rfl : PlainFix (some dontFixRetract)) [] args
  unfold addRetractV
  simp only [if_true]
  split
  · rename_i args' e he
    rw [he] at h; simp only at h
    simp only [AddState.err]; omega
  · rename_i args' vi rest he
    rw [he] at h; simp only at h
    split
    · simp only [AddState.err]; omega
    · simp only [fileP, List.length_append, List.length_singleton]; omega

/-! ### `replace`: the two stages of `parseReplace` (Proofs/ModfileC20Rule.lean) -/

theorem replaceOld_shape {fix : Option Fixer} (hfix : PlainFix fix) (s pathMajor : Bytes) (arrow : Nat) (rest0 : List Bytes) :
    (replaceOld s pathMajor arrow rest0 fix).1 = rest0 ∨
      ∃ a1 a1' rest1, rest0 = a1 :: rest1 ∧ (replaceOld s pathMajor arrow rest0 fix).1 = a1' :: rest1 ∧
        a1'.length ≤ 16 * a1.length + 17 := by
  unfold replaceOld
  split
  · split
    · rename_i a1 rest1
      right
      split
      · rename_i a1' e hv
        exact ⟨a1, a1', rest1, rfl, rfl, parseVersion_tok' hfix hv⟩
      · rename_i a1' v hv
        refine ⟨a1, a1', rest1, rfl, ?_, parseVersion_tok' hfix hv⟩
        split <;> rfl
    · left; rfl
  · left; rfl

theorem replaceNew_tok {fix : Option Fixer} (hfix : PlainFix fix) (lineId n arrow : Nat)
    (s a0' : Bytes) (rest0' : List Bytes) (v : Bytes) :
    tokW (replaceNew lineId n arrow a0' s v rest0' fix).1 ≤
      2 * a0'.length + 1 + tokW (rest0'.take arrow) + 16 * tokW (rest0'.drop arrow) + 40 := by
  have htd := tokW_take_drop arrow rest0'
  unfold replaceNew
  simp only
  split
  · rename_i hd
    rw [hd] at htd ⊢
    simp only [tokW_cons, tokW_nil] at htd ⊢; omega
  · rename_i nsTok tail hd
    rw [hd] at htd ⊢
    split
    · simp only [tokW_cons] at htd ⊢; omega
    · rename_i ns nsTok' hp
      have hn := parseString_tok hp
      repeat' split
      all_goals (pv_facts hfix)
      all_goals (simp only [tokW_cons, tokW_nil, tokW_append] at htd ⊢; omega)

theorem parseReplace_tok {fix : Option Fixer} (hfix : PlainFix fix) (lineId : Nat) (args : List Bytes) :
    tokW (parseReplace lineId args fix).1 ≤ 16 * tokW args + 80 := by
  rw [parseReplace_eq]
  simp only
  generalize harrow : (if args.length ≥ 2 && args[1]? == some (B "=>") then 1 else 2) = arrow
  have ha : 1 ≤ arrow := by rw [← harrow]; split <;> omega
  clear harrow
  split
  · simp only; omega
  · split
    · simp only [tokW_nil]; omega
    · rename_i a0 rest0 hcond
      split
      · simp only; omega
      · rename_i s a0' hp
        have h0 := parseString_tok hp
        split
        · simp only [tokW_cons]; omega
        · rename_i pathMajor hpm
          have hsh := replaceOld_shape hfix s pathMajor arrow rest0
          have key : ∀ rest0' : List Bytes, (rest0' = rest0 ∨ ∃ a1 a1' rest1, rest0 = a1 :: rest1 ∧ rest0' = a1' :: rest1 ∧
              a1'.length ≤ 16 * a1.length + 17) →
              2 * a0'.length + 1 + tokW (rest0'.take arrow) + 16 * tokW (rest0'.drop arrow) + 40 ≤
                16 * tokW (a0 :: rest0) + 80 := by
            intro rest0' h
            rcases h with rfl | ⟨a1, a1', rest1, rfl, rfl, hl⟩
            · have := tokW_take_drop arrow rest0'
              simp only [tokW_cons]; omega
            · obtain ⟨n, rfl⟩ : ∃ n, arrow = n + 1 := ⟨arrow - 1, by omega⟩
              have := tokW_take_drop n rest1
              simp only [List.take_succ_cons, List.drop_succ_cons, tokW_cons]; omega
          split
          · rename_i rest0' e he
            rw [he] at hsh
            have := key rest0' hsh
            have := tokW_take_drop arrow rest0'
            simp only [tokW_cons] at *; omega
          · rename_i rest0' v he
            rw [he] at hsh
            have := key rest0' hsh
            have := replaceNew_tok hfix lineId (a0 :: rest0).length arrow s a0' rest0' v
            omega

theorem addReplaceV_growth (st : AddState) (line : Line) (args : List Bytes) {fix : Option Fixer} (hfix : PlainFix fix) :
    tokW (addReplaceV st line args fix).2 ≤ 16 * tokW args + 80 ∧
      fileP (addReplaceV st line args fix).1.file ≤ fileP st.file + 4 * tokW args + 1 := by
  have h := parseReplace_tok hfix line.id args
  unfold addReplaceV
  simp only
  split
  · rename_i args' e he
    rw [he] at h; simp only at h
    simp only [AddState.err]; omega
  · rename_i args' r he
    rw [he] at h; simp only at h
    simp only [fileP, List.length_append, List.length_singleton]; omega

theorem add_growth (st : AddState) (block : Option Comments) (line : Line) (verb : Bytes) (args : List Bytes)
    {fix : Option Fixer} (hfix : PlainFix fix) :
    tokW (File.add st block line verb args fix true).2 ≤ 16 * tokW args + 80 ∧
      fileP (File.add st block line verb args fix true).1.file ≤ fileP st.file + 4 * tokW args + 1 := by
  rw [add_eq, if_neg (by simp)]
  by_cases h1 : (verb == B "go") = true
  · rw [if_pos h1]; exact addGo_growth ..
  rw [if_neg h1]
  by_cases h2 : (verb == B "toolchain") = true
  · rw [if_pos h2]; exact addToolchain_growth ..
  rw [if_neg h2]
  by_cases h3 : (verb == B "module") = true
  · rw [if_pos h3]; exact addModule_growth ..
  rw [if_neg h3]
  by_cases h4 : (verb == B "godebug") = true
  · rw [if_pos h4]; exact addGodebugV_growth ..
  rw [if_neg h4]
  by_cases h5 : (verb == B "require" || verb == B "exclude") = true
  · rw [if_pos h5]; exact addReqExc_growth _ _ _ _ hfix
  rw [if_neg h5]
  by_cases h6 : (verb == B "replace") = true
  · rw [if_pos h6]; exact addReplaceV_growth _ _ _ hfix
  rw [if_neg h6]
  by_cases h7 : (verb == B "retract") = true
  · rw [if_pos h7]; exact addRetractV_growth ..
  rw [if_neg h7]
  by_cases h8 : (verb == B "tool") = true
  · rw [if_pos h8]; exact addToolV_growth ..
  rw [if_neg h8]
  simp only [AddState.err]; omega

end ModVerif.Tie.FnEditFuelI

namespace ModVerif.Tie.FnEditFuelJ
open ModVerif ModVerif.Modfile ModVerif.Tie.FnEditFuelA ModVerif.Tie.FnEditFuelB ModVerif.Tie.FnEditFuelI
open ModVerif.Proofs.ModfileC20
open ModVerif.Tie.FnEditSortE (goLen)
open ModVerif.Tie.FnEditReqE (modPath)

/-! ### the statement loop of `parseToFile` and `ParseWork` (`walkStmts` of Proofs/ModfileWalk.lean) -/

section walk
open ModVerif.Modfile.Edit (walkLines walkStmt walkStmts)
variable {σ : Type} (P : σ → Nat)

theorem walkLines_growth (add : σ → Line → List Bytes → σ × List Bytes)
    (hadd : ∀ st l toks, tokW (add st l toks).2 ≤ 16 * tokW toks + 80 ∧ P (add st l toks).1 ≤ P st + 4 * tokW toks + 1) :
    ∀ (ls : List Line) (st : σ), linesW (walkLines add st ls).2 + P (walkLines add st ls).1 ≤ P st + 102 * linesW ls
  | [], st => by simp [walkLines]
  | l :: ls, st => by
    have h1 := hadd st l l.token
    have h2 := walkLines_growth add hadd ls (add st l l.token).1
    simp only [walkLines, linesW_cons, lineW] at h2 ⊢
    omega

theorem walkStmts_growth (add : σ → Option Comments → Line → Bytes → List Bytes → σ × List Bytes) (known : Bytes → Bool)
    (bad : σ → Position → σ)
    (hadd : ∀ st blk l verb args, tokW (add st blk l verb args).2 ≤ 16 * tokW args + 80 ∧
      P (add st blk l verb args).1 ≤ P st + 4 * tokW args + 1)
    (hbad : ∀ st p, P (bad st p) = P st) :
    ∀ (xs : List Expr) (st : σ),
      treeW (walkStmts add known bad st xs).2 + P (walkStmts add known bad st xs).1 ≤ P st + 102 * treeW xs
  | [], st => by simp [walkStmts]
  | x :: xs, st => by
    have h2 := walkStmts_growth add known bad hadd hbad xs (walkStmt add known bad st x).1
    have h1 : exprW (walkStmt add known bad st x).2 + P (walkStmt add known bad st x).1 ≤ P st + 102 * exprW x := by
      unfold walkStmt
      split
      · rename_i l
        split
        · rename_i verb args ht
          have := hadd st none l verb args
          simp only [exprW, lineW, ht, tokW_cons] at this ⊢
          omega
        · simp only; omega
      · rename_i b
        split
        · rename_i verb ht
          split
          · have := walkLines_growth P (fun st l toks => add st (some b.comments) l verb toks)
              (fun st l toks => hadd st _ l verb toks) b.lines st
            simp only [exprW] at this ⊢
            omega
          · simp only [hbad]; omega
        · simp only [hbad]; omega
      · simp only; omega
    simp only [walkStmts, treeW_cons] at h2 ⊢
    omega

end walk

theorem addStmts_growth {fix : Option Fixer} (hfix : PlainFix fix) (xs : List Expr) (st : AddState) :
    treeW (addStmts fix true st xs).2 + fileP (addStmts fix true st xs).1.file ≤ fileP st.file + 102 * treeW xs := by
  rw [Edit.addStmts_eq_walk]
  exact walkStmts_growth (fun st : AddState => fileP st.file) (fun st blk l verb args => File.add st blk l verb args fix true)
    (verbIn · blockVerbs) (fun st p => if true then st.err p .unknownBlock else st)
    (fun st blk l verb args => add_growth st blk l verb args hfix) (fun _ _ => rfl) xs st

theorem parseStrict_growth {name data : Bytes} {f : File} (h : parseStrict name data none = .ok f) :
    ∃ fs, parse name data = .ok fs ∧ treeW f.syn.stmts + fileP f ≤ 102 * treeW fs.stmts := by
  unfold parseStrict parseToFile at h
  cases hp : parse name data with
  | error e => simp [hp] at h
  | ok fs =>
    refine ⟨fs, rfl, ?_⟩
    have hg := addStmts_growth (Or.inl rfl : PlainFix none) fs.stmts { file := { syn := fs } }
    simp only [hp] at h
    generalize addStmts none true { file := { syn := fs } } fs.stmts = r at h hg
    obtain ⟨st, stmts⟩ := r
    have hfr : ∀ s : AddState, fixRetract s none = s := fun _ => rfl
    simp only [hfr] at h
    cases hE : st.errsRev.isEmpty with
    | false => simp [hE] at h
    | true =>
      simp only [hE, if_true, Except.ok.injEq] at h
      subst h
      simp only [fileP, List.length_nil] at hg ⊢
      omega

theorem shiftLines_linesW : ∀ ls : List Line, linesW (ls.map Edit.shiftLine) = linesW ls
  | [] => rfl
  | l :: ls => by simp [shiftLines_linesW ls, lineW, Edit.shiftLine]

theorem shiftSyntax_treeW (fs : FileSyntax) : treeW (Edit.shiftSyntax fs).stmts = treeW fs.stmts := by
  unfold Edit.shiftSyntax
  simp only
  induction fs.stmts with
  | nil => rfl
  | cons x xs ih =>
    simp only [List.map_cons, treeW_cons, ih]
    cases x <;> simp [exprW, lineW, Edit.shiftLine, shiftLines_linesW]

theorem W_load (f : File) : W (Edit.load f) = treeW f.syn.stmts + fileP f := by
  unfold W listsW goLen modPath Edit.load fileP
  simp only [shiftSyntax_treeW, List.length_map]
  cases f.go <;> cases f.module <;> simp <;> omega

theorem W_load_le {name file : Bytes} {f : File} (h : parseStrict name file none = .ok f) :
    W (Edit.load f) ≤ 408 * file.length + 102 := by
  obtain ⟨fs, hp, hg⟩ := parseStrict_growth h
  have := FnEditFuelH.treeW_parse_le hp
  rw [W_load]; omega

end ModVerif.Tie.FnEditFuelJ
