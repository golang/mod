/-
  `File_Cleanup` / `WorkFile_Cleanup` on a represented heap, relative to
  the tie of `FileSyntax_Cleanup` (hypothesis `hClean`, discharged in Tie/FnEditSort.lean with `FnEditAddLine.Cleanup_tie`).
  Both are a chain of phases, one per typed list (`cleanPhase`: the compaction loop, then the slice bound), followed by the
  cleanup of the tree; a phase takes a represented heap to a represented heap (`cleanPhase_sim`, for any typed list of
  either file kind), so the chain needs no bookkeeping.
-/
import ModVerif.Proofs.TieFnEditSortF
import ModVerif.Proofs.TieFnEditTypedAdd
namespace ModVerif.Tie.FnEditSortG
open ModVerif ModVerif.GoRt ModVerif.Generated.Edit ModVerif.Tie.FnEditRep ModVerif.Tie.FnEditLoop ModVerif.Tie.FnEditSortA ModVerif.Tie.FnEditSortB
  ModVerif.Tie.FnEditSortC ModVerif.Tie.FnEditSortF ModVerif.Tie.FnEditTyped
open ModVerif.Modfile.Edit (EFile EWork cleanup workCleanup cleanupSyntax)

structure SFrame (h h' : Heap) : Prop where
  excludes : h'.excludes = h.excludes
  mods : h'.mods = h.mods
  gos : h'.gos = h.gos
  godebugs : h'.godebugs = h.godebugs
  modules : h'.modules = h.modules
  replaces : h'.replaces = h.replaces
  requires : h'.requires = h.requires
  retracts : h'.retracts = h.retracts
  tools : h'.tools = h.tools
  toolchains : h'.toolchains = h.toolchains
  uses : h'.uses = h.uses
  works : h'.works = h.works

/-- the statement of the `FileSyntax.Cleanup` tie used here; discharged in Tie/FnEditSort.lean (`cleanHyp`) -/
def CleanHyp (cleanFuel : Modfile.FileSyntax → Nat) : Prop :=
  ∀ (h : Heap) (x : Int) (fs : Modfile.FileSyntax) (fuel : Nat), RepSyn h x fs → BlockTokOK fs.stmts → cleanFuel fs ≤ fuel →
    ∃ h', FileSyntax_Cleanup fuel x h = .ok ((), h') ∧ RepSyn h' x (cleanupSyntax fs) ∧ BlockTokOK (cleanupSyntax fs).stmts ∧
      (LinesG h → LinesG h') ∧ h'.lines.length = h.lines.length ∧ SFrame h h'

theorem not_decide_nil (l : Bytes) [inst : Decidable (l = [])] : (!@decide (l = []) inst) = !l.isEmpty := by
  cases l <;> simp

theorem retract_live_eq (lo hi : Bytes) :
    (if (!decide (lo = [])) = true then Except.ok true else Except.ok (!decide (hi = []))) =
      (Except.ok (!lo.isEmpty || !hi.isEmpty) : M Bool) := by
  cases lo <;> cases hi <;> rfl

theorem phase {ω β : Type} (objs : Heap → List ω) (setObjs : Heap → List ω → Heap)
    (hos : ∀ h l, objs (setObjs h l) = l) (hoo : ∀ h l l', setObjs (setObjs h l) l' = setObjs h l')
    (live : Heap → Int → M Bool) (getF : ω → List Int) (setF : ω → List Int → ω)
    (hgs : ∀ o l, getF (setF o l) = l) (hss : ∀ o l l', setF (setF o l) l' = setF o l') (hsg : ∀ o, setF o (getF o) = o)
    (q : β → Bool) (h : Heap) (f : Int) (o0 : ω) (ho : heapGet (objs h) f = .ok o0) (o : ω)
    (zs : List (Int × β)) (hrx : getF o = zs.map (·.1)) (fuel : Nat) (hf : zs.length < fuel)
    (hlive : ∀ ms, ∀ z ∈ zs, live (setObjs h ms) z.1 = .ok (q z.2)) :
    ∃ (cur' : List Int) (n : Nat),
      compact objs setObjs live getF setF (getF o) f fuel 0 (setObjs h ((objs h).set (f.toNat - 1) o)) 0 =
        .ok (len (getF o), setObjs h ((objs h).set (f.toNat - 1) (setF o cur')), (n : Int)) ∧
      sliceTo cur' (n : Int) = .ok ((zs.filter (fun z => q z.2)).map (·.1)) := by
  obtain ⟨cur', e1, e2, e3⟩ := compact_spec objs setObjs hos hoo live getF setF hgs hss q h f o0 ho o zs [] (getF o) 0 fuel
    (getF o) 0 (by simpa using hrx) rfl hf hlive rfl (Nat.le_refl _)
  rw [hsg] at e1
  refine ⟨cur', _, e1, ?_⟩
  simp only [Nat.zero_add, List.take_zero, List.nil_append] at e3
  have hle : (zs.filter (fun z => q z.2)).length ≤ cur'.length := by
    rw [e2, hrx, List.length_map]; exact List.length_filter_le _ _
  have : (0 : Int) ≤ ((0 + (zs.filter (fun z => q z.2)).length : Nat) : Int) ∧
      ((0 + (zs.filter (fun z => q z.2)).length : Nat) : Int) ≤ len cur' := by simp [len_eq]; omega
  simp only [sliceTo, this, and_self, if_true, pure, Except.pure]
  simp [e3]

/-- one phase of `Cleanup`: the compaction loop over the pointer list `getF` of the file object, then `f.X = f.X[:w]` -/
def cleanPhase {ω : Type} (objs : Heap → List ω) (setObjs : Heap → List ω → Heap) (live : Heap → Int → M Bool)
    (getF : ω → List Int) (setF : ω → List Int → ω) (f : Int) (fuel : Nat) (world : Heap) : M Heap := do
  let t1 ← heapGet (objs world) f
  let (_, world, w) ← compact objs setObjs live getF setF (getF t1) f fuel 0 world 0
  let t10 ← heapGet (objs world) f
  let t11 ← sliceTo (getF t10) w
  let t12 ← heapGet (objs world) f
  let t13 ← heapSet (objs world) f (setF t12 t11)
  pure (setObjs world t13)

section
variable {Ω S α β : Type} {K : Kind Ω S} {A : K.Add} {T : TList K α β}

/-- `hlive`: the regenerated liveness test of an object is the model's `q` of its entry -/
theorem cleanPhase_sim (hA : A.OK) (hT : T.OK) (live : Heap → Int → M Bool) (q : β → Bool)
    (hlive : ∀ h l r x, heapGet (T.objs h) r = .ok (T.g x) → live (A.setFiles h l) r = .ok (q x))
    {h : Heap} {fp : Int} {e : S} (R : K.RepP h fp e) (fuel : Nat) (hf : (T.ents e).length < fuel) :
    ∃ h', cleanPhase K.files A.setFiles live T.ptrs T.setPtrs fp fuel h = .ok h' ∧
      K.RepP h' fp (T.setEnts e ((T.ents e).filter q)) := by
  obtain ⟨o, ho, R⟩ := R
  obtain ⟨zs, hz1, hz2, hz3⟩ := REntsL.toZip (hT.rel R).rel
  obtain ⟨cur', n, p1, s1⟩ := phase K.files A.setFiles hA.files_setFiles hA.setFiles_setFiles live T.ptrs T.setPtrs
    hT.ptrs_setPtrs hT.setPtrs_setPtrs hT.setPtrs_ptrs q h fp o ho o zs hz1 fuel (by rw [hz2] at hf; simpa using hf)
    (fun ms z hz => hlive h ms z.1 z.2 (hz3 z hz).1)
  rw [set_self_of_get ho, hA.setFiles_files] at p1
  have R' := hT.put R (REnts.filterZip hz3 (by rw [← hz1]; exact (hT.rel R).nodup) q)
  rw [hT.setObjs_objs, ← hz2] at R'
  refine ⟨_, ?_, hA.store ho R'⟩
  unfold cleanPhase
  step ho
  step p1
  simp only [hA.files_setFiles]
  step (heapGet_listSet_same _ ho)
  rw [hT.ptrs_setPtrs]
  step s1
  step (heapGet_listSet_same _ ho)
  step (heapSet_listSet_same ho _ _)
  rw [hA.setFiles_setFiles, hT.setPtrs_setPtrs]
  rfl

theorem cleanSyn_sim {cleanFuel : Modfile.FileSyntax → Nat} (hClean : CleanHyp cleanFuel) (hK : K.OK) (hA : A.OK)
    (hfiles : ∀ {h h'}, SFrame h h' → K.files h' = K.files h)
    {h : Heap} {fp : Int} {e : S} (R : K.RepP h fp e) (fuel : Nat) (hf : cleanFuel (K.syn e) ≤ fuel) :
    ∃ h', (do let t ← heapGet (K.files h) fp
              let r ← FileSyntax_Cleanup fuel (A.synP t) h
              pure ((), r.2) : M (Unit × Heap)) = .ok ((), h') ∧
      K.RepP h' fp (K.setSyn e (cleanupSyntax (K.syn e))) := by
  obtain ⟨o, ho, R⟩ := R
  obtain ⟨h', c1, c2, c3, c4, c5, F⟩ := hClean h (A.synP o) (K.syn e) fuel (hA.syn R) (hA.tok R) hf
  have R' := hA.ofSyn R ⟨F.modules, F.gos, F.toolchains, F.godebugs, F.requires, F.excludes, F.replaces, F.retracts, F.tools,
    F.uses⟩ (by omega) c2 c3 (c4 (hK.linesG R))
  rw [c5, ← hA.next R, hA.withSyn_next] at R'
  refine ⟨h', ?_, o, by rw [hfiles F]; exact ho, R'⟩
  step ho
  step c1
  rfl

end

/-- fuel measure of the compaction loops -/
def cleanSize (e : EFile) : Nat :=
  e.f.godebug.length + e.f.require.length + e.f.exclude.length + e.f.replace.length + e.f.retract.length + e.f.tool.length

def workCleanSize (e : EWork) : Nat := e.f.godebug.length + e.f.use.length + e.f.replace.length

set_option linter.unusedVariables false in
theorem ZEnts_length {α β : Type} {objs : List α} {g : β → α} {id : β → Nat} {nl : Nat} {xs : List β} {zs : List (Int × β)}
    (h : xs = zs.map (·.2)) : zs.length = xs.length := by rw [h]; simp

theorem File_Cleanup_eq (fuel : Nat) (f : Int) (h : Heap) : File_Cleanup fuel f h = (do
    let w ← cleanPhase modK.files modA.setFiles cl1_live godebugT.ptrs godebugT.setPtrs f fuel h
    let w ← cleanPhase modK.files modA.setFiles cl2_live requireT.ptrs requireT.setPtrs f fuel w
    let w ← cleanPhase modK.files modA.setFiles cl3_live excludeT.ptrs excludeT.setPtrs f fuel w
    let w ← cleanPhase modK.files modA.setFiles cl4_live replaceT.ptrs replaceT.setPtrs f fuel w
    let w ← cleanPhase modK.files modA.setFiles cl5_live retractT.ptrs retractT.setPtrs f fuel w
    let w ← cleanPhase modK.files modA.setFiles cl6_live toolT.ptrs toolT.setPtrs f fuel w
    let t ← heapGet w.mods f
    let r ← FileSyntax_Cleanup fuel t.Syntax w
    pure ((), r.2)) := by
  simp only [File_Cleanup, cleanPhase, modA, cl1_eq, cl2_eq, cl3_eq, cl4_eq, cl5_eq, cl6_eq, bind_assoc, pure_bind]

theorem WorkFile_Cleanup_eq (fuel : Nat) (f : Int) (h : Heap) : WorkFile_Cleanup fuel f h = (do
    let w ← cleanPhase workK.files workA.setFiles wcl1_live wgodebugT.ptrs wgodebugT.setPtrs f fuel h
    let w ← cleanPhase workK.files workA.setFiles wcl2_live useT.ptrs useT.setPtrs f fuel w
    let w ← cleanPhase workK.files workA.setFiles wcl3_live wreplaceT.ptrs wreplaceT.setPtrs f fuel w
    let t ← heapGet w.works f
    let r ← FileSyntax_Cleanup fuel t.Syntax w
    pure ((), r.2)) := by
  simp only [WorkFile_Cleanup, cleanPhase, workA, wcl1_eq, wcl2_eq, wcl3_eq, bind_assoc, pure_bind]

section
variable (cleanFuel : Modfile.FileSyntax → Nat) (hClean : CleanHyp cleanFuel)
include hClean

theorem File_Cleanup_sim {h : Heap} {fp : Int} {e : EFile} (R : RepF h fp e) (fuel : Nat)
    (hf : cleanSize e < fuel) (hf2 : cleanFuel e.f.syn ≤ fuel) :
    ∃ h', File_Cleanup fuel fp h = .ok ((), h') ∧ RepF h' fp (cleanup e) := by
  unfold cleanSize at hf
  obtain ⟨h1, r1, R1⟩ := cleanPhase_sim modA_ok godebugT_ok cl1_live (fun x => !x.key.isEmpty)
    (fun h l r x hg => by
      simp only [cl1_live, show heapGet (modA.setFiles h l).godebugs r = _ from hg, bind, Except.bind, pure, Except.pure, godebugG_Key]
      exact congrArg Except.ok (not_decide_nil _)) R fuel (by show e.f.godebug.length < fuel; omega)
  obtain ⟨h2, r2, R2⟩ := cleanPhase_sim modA_ok requireT_ok cl2_live (fun x => !x.mod.path.isEmpty)
    (fun h l r x hg => by
      simp only [cl2_live, show heapGet (modA.setFiles h l).requires r = _ from hg, bind, Except.bind, pure, Except.pure, requireG_Mod,
        mvG_Path]
      exact congrArg Except.ok (not_decide_nil _)) R1 fuel (by show e.f.require.length < fuel; omega)
  obtain ⟨h3, r3, R3⟩ := cleanPhase_sim modA_ok excludeT_ok cl3_live (fun x => !x.mod.path.isEmpty)
    (fun h l r x hg => by
      simp only [cl3_live, show heapGet (modA.setFiles h l).excludes r = _ from hg, bind, Except.bind, pure, Except.pure, excludeG_Mod,
        mvG_Path]
      exact congrArg Except.ok (not_decide_nil _)) R2 fuel (by show e.f.exclude.length < fuel; omega)
  obtain ⟨h4, r4, R4⟩ := cleanPhase_sim modA_ok replaceT_ok cl4_live (fun x => !x.old.path.isEmpty)
    (fun h l r x hg => by
      simp only [cl4_live, show heapGet (modA.setFiles h l).replaces r = _ from hg, bind, Except.bind, pure, Except.pure, replaceG_Old,
        mvG_Path]
      exact congrArg Except.ok (not_decide_nil _)) R3 fuel (by show e.f.replace.length < fuel; omega)
  obtain ⟨h5, r5, R5⟩ := cleanPhase_sim modA_ok retractT_ok cl5_live
    (fun x => !x.interval.low.isEmpty || !x.interval.high.isEmpty)
    (fun h l r x hg => by
      simp only [cl5_live, show heapGet (modA.setFiles h l).retracts r = _ from hg, bind, Except.bind, pure, Except.pure]
      exact retract_live_eq _ _) R4 fuel (by show e.f.retract.length < fuel; omega)
  obtain ⟨h6, r6, R6⟩ := cleanPhase_sim modA_ok toolT_ok cl6_live (fun x => !x.path.isEmpty)
    (fun h l r x hg => by
      simp only [cl6_live, show heapGet (modA.setFiles h l).tools r = _ from hg, bind, Except.bind, pure, Except.pure, toolG_Path]
      exact congrArg Except.ok (not_decide_nil _)) R5 fuel (by show e.f.tool.length < fuel; omega)
  obtain ⟨h7, r7, R7⟩ := cleanSyn_sim hClean modK_ok modA_ok (fun F => F.mods) R6 fuel hf2
  rw [File_Cleanup_eq]
  step r1; step r2; step r3; step r4; step r5; step r6
  exact ⟨h7, r7, R7⟩

theorem WorkFile_Cleanup_sim {h : Heap} {fp : Int} {e : EWork} (R : RepW h fp e) (fuel : Nat)
    (hf : workCleanSize e < fuel) (hf2 : cleanFuel e.f.syn ≤ fuel) :
    ∃ h', WorkFile_Cleanup fuel fp h = .ok ((), h') ∧ RepW h' fp (workCleanup e) := by
  unfold workCleanSize at hf
  obtain ⟨h1, r1, R1⟩ := cleanPhase_sim workA_ok wgodebugT_ok wcl1_live (fun x => !x.key.isEmpty)
    (fun h l r x hg => by
      simp only [wcl1_live, show heapGet (workA.setFiles h l).godebugs r = _ from hg, bind, Except.bind, pure, Except.pure, godebugG_Key]
      exact congrArg Except.ok (not_decide_nil _)) R fuel (by show e.f.godebug.length < fuel; omega)
  obtain ⟨h2, r2, R2⟩ := cleanPhase_sim workA_ok useT_ok wcl2_live (fun x => !x.path.isEmpty)
    (fun h l r x hg => by
      simp only [wcl2_live, show heapGet (workA.setFiles h l).uses r = _ from hg, bind, Except.bind, pure, Except.pure, useG_Path]
      exact congrArg Except.ok (not_decide_nil _)) R1 fuel (by show e.f.use.length < fuel; omega)
  obtain ⟨h3, r3, R3⟩ := cleanPhase_sim workA_ok wreplaceT_ok wcl3_live (fun x => !x.old.path.isEmpty)
    (fun h l r x hg => by
      simp only [wcl3_live, show heapGet (workA.setFiles h l).replaces r = _ from hg, bind, Except.bind, pure, Except.pure, replaceG_Old,
        mvG_Path]
      exact congrArg Except.ok (not_decide_nil _)) R2 fuel (by show e.f.replace.length < fuel; omega)
  obtain ⟨h4, r4, R4⟩ := cleanSyn_sim hClean workK_ok workA_ok (fun F => F.works) R3 fuel hf2
  rw [WorkFile_Cleanup_eq]
  step r1; step r2; step r3
  exact ⟨h4, r4, R4⟩

end

end ModVerif.Tie.FnEditSortG
