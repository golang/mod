/-
  Closed fuel of the edit session ties: the WEIGHT of a syntax tree and what the tree
  primitives of the model (read.go: `addLine`, `updateLine`, `markRemoved`, `Cleanup`; rule.go: `removeDups`, `SortBlocks`)
  do to it.

  `treeW stmts` = Σ over statements (1 for a comment block / parenthesis; `tokW token + 1` for a line;
  `tokW token + 1 + Σ lines (tokW token + 1)` for a block), `tokW t = 2·Σ|token| + #tokens`.  It dominates every tree
  measure the operation ties ask fuel for: `nodeCount`, `nodes`, `#statements`, `sortSize` (all `≤ treeW`).

  GROWTH: `addLine` / `addLinePtr` add at most `tokW tokens + 2` (each of the forms `Edit.Grown` of Proofs/EditAddLine.lean
  does); a line update `g` with `lineW (g l) ≤ lineW l + k` adds at most `k` (line ids pairwise different: `TreeWF.nodup`) — `updateLine tokens`: `k = tokW tokens`; `markRemoved`, `markAll`,
  `cleanupStmts`, `dropKilled` do not increase it; `sortStmts` keeps it.
-/
import ModVerif.Proofs.TieFnEditSortE
import ModVerif.Proofs.TieFnEditAddLineA
import ModVerif.Proofs.EditAddLine
namespace ModVerif.Tie.FnEditFuelA
open ModVerif ModVerif.Modfile
open ModVerif.TieFnEditAddLine (nodeCount)
open ModVerif.Tie.FnEditSortB (nodes)
open ModVerif.Tie.FnEditSortD (cmpSize tokFuel)
open ModVerif.Tie.FnEditSortE (sortSize)
open ModVerif.Modfile.Edit (treeIds mkLine insertAt)

def tokW (t : List Bytes) : Nat := 2 * (t.map List.length).sum + t.length

def lineW (l : Line) : Nat := tokW l.token + 1

def linesW : List Line → Nat
  | [] => 0
  | l :: ls => lineW l + linesW ls

def exprW : Expr → Nat
  | .line l => lineW l
  | .lineBlock b => tokW b.token + 1 + linesW b.lines
  | _ => 1

def treeW : List Expr → Nat
  | [] => 0
  | x :: xs => exprW x + treeW xs

@[simp] theorem tokW_nil : tokW [] = 0 := rfl
@[simp] theorem tokW_cons (a : Bytes) (t : List Bytes) : tokW (a :: t) = 2 * a.length + 1 + tokW t := by
  simp [tokW]; omega
@[simp] theorem tokW_append (a b : List Bytes) : tokW (a ++ b) = tokW a + tokW b := by
  induction a with
  | nil => simp
  | cons x xs ih => simp [ih]; omega

theorem tokW_take_drop (n : Nat) (t : List Bytes) : tokW (t.take n) + tokW (t.drop n) = tokW t := by
  rw [← tokW_append, List.take_append_drop]

theorem tokW_drop_le (n : Nat) (t : List Bytes) : tokW (t.drop n) ≤ tokW t := by
  have := tokW_take_drop n t; omega

theorem tokW_set_le (t : List Bytes) (i : Nat) (v : Bytes) : tokW (t.set i v) ≤ tokW t + 2 * v.length := by
  induction t generalizing i with
  | nil => simp
  | cons a t ih =>
    cases i with
    | zero => simp; omega
    | succ i => have := ih i; simp; omega

theorem tokFuel_eq (t : List Bytes) : tokFuel t = tokW t + 1 := rfl

@[simp] theorem linesW_nil : linesW [] = 0 := rfl
@[simp] theorem linesW_cons (l : Line) (ls : List Line) : linesW (l :: ls) = lineW l + linesW ls := rfl
@[simp] theorem linesW_append (a b : List Line) : linesW (a ++ b) = linesW a + linesW b := by
  induction a with
  | nil => simp
  | cons x xs ih => simp [ih]; omega

theorem linesW_filter_le (q : Line → Bool) : ∀ ls : List Line, linesW (ls.filter q) ≤ linesW ls
  | [] => Nat.le_refl _
  | l :: ls => by
    have := linesW_filter_le q ls
    by_cases h : q l <;> simp [h] <;> omega

theorem length_le_linesW : ∀ ls : List Line, ls.length ≤ linesW ls
  | [] => Nat.le_refl _
  | l :: ls => by have := length_le_linesW ls; simp [lineW]; omega

theorem lineW_le_linesW {l : Line} : ∀ {ls : List Line}, l ∈ ls → lineW l ≤ linesW ls
  | a :: ls, h => by
    rcases List.mem_cons.1 h with rfl | h
    · simp
    · have := lineW_le_linesW h; simp; omega

theorem linesW_eq_sum (ls : List Line) : linesW ls = (ls.map fun l => tokFuel l.token).sum := by
  induction ls with
  | nil => rfl
  | cons l ls ih => simp [ih, lineW, tokFuel_eq]

@[simp] theorem treeW_nil : treeW [] = 0 := rfl
@[simp] theorem treeW_cons (x : Expr) (xs : List Expr) : treeW (x :: xs) = exprW x + treeW xs := rfl
@[simp] theorem treeW_append (a b : List Expr) : treeW (a ++ b) = treeW a + treeW b := by
  induction a with
  | nil => simp
  | cons x xs ih => simp [ih]; omega

theorem exprW_pos (x : Expr) : 1 ≤ exprW x := by
  cases x <;> simp only [exprW, lineW] <;> omega

/-! ### the weight dominates the fuel measures of the tree -/

theorem nodeCount_le_treeW : ∀ ss : List Expr, nodeCount ss ≤ treeW ss
  | [] => Nat.le_refl _
  | s :: ss => by
    have ih := nodeCount_le_treeW ss
    cases s with
    | lineBlock b => have := length_le_linesW b.lines; simp only [nodeCount, treeW_cons, exprW]; omega
    | line l => simp only [nodeCount, treeW_cons, exprW, lineW]; omega
    | _ => simp only [nodeCount, treeW_cons, exprW]; omega

theorem nodes_le_treeW : ∀ ss : List Expr, nodes ss ≤ treeW ss
  | [] => Nat.le_refl _
  | s :: ss => by
    have ih := nodes_le_treeW ss
    cases s with
    | lineBlock b => have := length_le_linesW b.lines; simp only [nodes, treeW_cons, exprW]; omega
    | line l => simp only [nodes, treeW_cons, exprW, lineW]; omega
    | _ => simp only [nodes, treeW_cons, exprW]; omega

theorem sortSize_le_treeW : ∀ ss : List Expr, sortSize ss ≤ treeW ss
  | [] => Nat.le_refl _
  | s :: ss => by
    have ih := sortSize_le_treeW ss
    unfold sortSize at ih ⊢
    cases s with
    | lineBlock b =>
      simp only [cmpSize, treeW_cons, exprW, List.length_cons, ← linesW_eq_sum]; omega
    | line l => simp only [cmpSize, treeW_cons, exprW, lineW, List.length_cons]; omega
    | _ => simp only [cmpSize, treeW_cons, exprW, List.length_cons]; omega

theorem lineW_mkLine (new : Nat) (t : List Bytes) (b : Bool) : lineW (mkLine new t b) = tokW t + 1 := rfl

theorem Grown.treeW {toks : List Bytes} {new : Nat} {x : Expr} {g : List Expr} (h : Edit.Grown toks new x g) :
    treeW g ≤ exprW x + tokW toks + 2 := by
  have hd := tokW_drop_le 1 toks
  cases h with
  | after => simp only [treeW_cons, treeW_nil, exprW, lineW_mkLine]; omega
  | conv l _ _ =>
    have := tokW_take_drop 1 l.token
    simp only [Edit.convBlock, treeW_cons, treeW_nil, exprW, linesW_cons, linesW_nil, lineW, mkLine]; omega
  | block b l1 l2 hb _ => simp only [treeW_cons, treeW_nil, exprW, hb, linesW_append, linesW_cons, lineW_mkLine]; omega

theorem treeW_grown {toks : List Bytes} {new : Nat} {ss ss' : List Expr}
    (h : ss' = ss ++ [.line (mkLine new toks false)] ∨
      ∃ pre x post g, ss = pre ++ x :: post ∧ Edit.Grown toks new x g ∧ ss' = pre ++ g ++ post) :
    treeW ss' ≤ treeW ss + tokW toks + 2 := by
  rcases h with rfl | ⟨pre, x, post, g, rfl, hg, rfl⟩
  · simp only [treeW_append, treeW_cons, treeW_nil, exprW, lineW_mkLine]; omega
  · have := Grown.treeW hg
    simp only [treeW_append, treeW_cons]; omega

theorem addLine_treeW (fs : FileSyntax) (hint : Option Nat) (tokens : List Bytes) (new : Nat) :
    treeW (Edit.addLine fs hint tokens new).stmts ≤ treeW fs.stmts + tokW tokens + 2 :=
  treeW_grown (Edit.addLine_grown fs hint tokens new)

theorem addLinePtr_treeW (fs : FileSyntax) (hint : Option Nat) (tokens : List Bytes) (new : Nat) :
    treeW (Edit.addLinePtr fs hint tokens new).stmts ≤ treeW fs.stmts + tokW tokens + 2 :=
  treeW_grown (Edit.addLinePtr_grown fs hint tokens new)

def cntL (id : Nat) (ls : List Line) : Nat := ((ls.map (·.id)).count id)

theorem updateLineIn_linesW (id : Nat) (g : Line → Line) (k : Nat) (hg : ∀ l, lineW (g l) ≤ lineW l + k) :
    ∀ ls : List Line, linesW (updateLineIn id g ls) ≤ linesW ls + k * cntL id ls
  | [] => by simp [updateLineIn]
  | l :: ls => by
    have ih := updateLineIn_linesW id g k hg ls
    unfold updateLineIn
    by_cases h : l.id = id
    · have h1 := hg l
      have : cntL id (l :: ls) = cntL id ls + 1 := by simp [cntL, h]
      rw [this, Nat.mul_add, Nat.mul_one]
      simp only [h, beq_self_eq_true, if_true, linesW_cons]; omega
    · have : cntL id (l :: ls) = cntL id ls := by simp [cntL, h]
      rw [this]
      have hb : (l.id == id) = false := by simpa using h
      simp only [hb, Bool.false_eq_true, if_false, linesW_cons]; omega

theorem updateLineIn_linesW_le (id : Nat) (g : Line → Line) (hg : ∀ l, lineW (g l) ≤ lineW l) (ls : List Line) :
    linesW (updateLineIn id g ls) ≤ linesW ls := by
  have := updateLineIn_linesW id g 0 (fun l => by have := hg l; omega) ls
  simpa using this

theorem treeIds_cons_line (l : Line) (xs : List Expr) : treeIds (.line l :: xs) = l.id :: treeIds xs := by
  rw [Edit.treeIds_cons]; rfl

theorem treeIds_cons_block (b : LineBlock) (xs : List Expr) : treeIds (.lineBlock b :: xs) = b.lines.map (·.id) ++ treeIds xs := by
  rw [Edit.treeIds_cons]
  simp [treeIds, Edit.loc, Edit.locStmt, List.map_map, Function.comp_def]

theorem updateLine_treeW_cnt (id : Nat) (g : Line → Line) (k : Nat) (hg : ∀ l, lineW (g l) ≤ lineW l + k) :
    ∀ ss : List Expr, treeW ((({ stmts := ss } : FileSyntax).updateLine id g).stmts) ≤ treeW ss + k * (treeIds ss).count id := by
  intro ss
  induction ss with
  | nil => simp [FileSyntax.updateLine]
  | cons s ss ih =>
    simp only [FileSyntax.updateLine, List.map_cons, treeW_cons] at ih ⊢
    cases s with
    | line l =>
      rw [treeIds_cons_line, List.count_cons, Nat.mul_add]
      by_cases h : l.id = id
      · have h1 := hg l
        simp only [h, beq_self_eq_true, if_true, exprW, Nat.mul_one]; omega
      · have hb : (l.id == id) = false := by simpa using h
        simp only [hb, Bool.false_eq_true, if_false, exprW, Nat.mul_zero]; omega
    | lineBlock b =>
      rw [treeIds_cons_block, List.count_append, Nat.mul_add]
      have := updateLineIn_linesW id g k hg b.lines
      simp only [exprW, cntL] at this ⊢; omega
    | commentBlock c =>
      have : treeIds (Expr.commentBlock c :: ss) = treeIds ss := by rw [Edit.treeIds_cons]; rfl
      rw [this]; simp only [exprW]; omega
    | lparen c =>
      have : treeIds (Expr.lparen c :: ss) = treeIds ss := by rw [Edit.treeIds_cons]; rfl
      rw [this]; simp only [exprW]; omega
    | rparen c =>
      have : treeIds (Expr.rparen c :: ss) = treeIds ss := by rw [Edit.treeIds_cons]; rfl
      rw [this]; simp only [exprW]; omega

theorem updateLine_stmts (fs : FileSyntax) (id : Nat) (g : Line → Line) :
    (fs.updateLine id g).stmts = (({ stmts := fs.stmts } : FileSyntax).updateLine id g).stmts := rfl

theorem updateLine_treeW (fs : FileSyntax) (id : Nat) (g : Line → Line) (k : Nat) (hg : ∀ l, lineW (g l) ≤ lineW l + k)
    (hn : (treeIds fs.stmts).Nodup) : treeW (fs.updateLine id g).stmts ≤ treeW fs.stmts + k := by
  have h1 := updateLine_treeW_cnt id g k hg fs.stmts
  rw [← updateLine_stmts] at h1
  have h2 : (treeIds fs.stmts).count id ≤ 1 := List.nodup_iff_count.1 hn id
  have : k * (treeIds fs.stmts).count id ≤ k * 1 := Nat.mul_le_mul_left k h2
  omega

theorem updateLine_treeW_le (fs : FileSyntax) (id : Nat) (g : Line → Line) (hg : ∀ l, lineW (g l) ≤ lineW l) :
    treeW (fs.updateLine id g).stmts ≤ treeW fs.stmts := by
  have h1 := updateLine_treeW_cnt id g 0 (fun l => by have := hg l; omega) fs.stmts
  rw [← updateLine_stmts] at h1
  simpa using h1

theorem editUpdateLine_treeW (fs : FileSyntax) (id : Nat) (tokens : List Bytes) (hn : (treeIds fs.stmts).Nodup) :
    treeW (Edit.updateLine fs id tokens).stmts ≤ treeW fs.stmts + tokW tokens := by
  unfold Edit.updateLine
  refine updateLine_treeW fs id _ (tokW tokens) (fun l => ?_) hn
  have := tokW_drop_le 1 tokens
  simp only [lineW]
  split <;> omega

theorem markRemoved_treeW (fs : FileSyntax) (id : Nat) : treeW (Edit.markRemoved fs id).stmts ≤ treeW fs.stmts := by
  unfold Edit.markRemoved
  exact updateLine_treeW_le fs id _ (fun l => by simp [lineW])

theorem markAll_treeW : ∀ (ids : List Nat) (fs : FileSyntax), treeW (Edit.markAll fs ids).stmts ≤ treeW fs.stmts
  | [], fs => Nat.le_refl _
  | i :: ids, fs => by
    have h1 := markAll_treeW ids (Edit.markRemoved fs i)
    have h2 := markRemoved_treeW fs i
    simp only [Edit.markAll, List.foldl_cons] at h1 ⊢
    omega

/-! ### `Cleanup`, `removeDups`, `SortBlocks` -/

theorem cleanupStmts_treeW : ∀ ss : List Expr, treeW (Edit.cleanupStmts ss) ≤ treeW ss
  | [] => Nat.le_refl _
  | s :: ss => by
    have ih := cleanupStmts_treeW ss
    cases s with
    | line l =>
      simp only [Edit.cleanupStmts]
      split <;> simp only [treeW_cons, exprW] <;> omega
    | lineBlock b =>
      have hf := linesW_filter_le (fun l => !l.token.isEmpty) b.lines
      simp only [Edit.cleanupStmts]
      split
      · simp only [treeW_cons, exprW]; omega
      · rename_i l hl
        rw [hl] at hf
        simp only [linesW_cons, linesW_nil, lineW] at hf
        split
        · simp only [treeW_cons, exprW, lineW, tokW_append]; omega
        · simp only [treeW_cons, exprW, hl, linesW_cons, linesW_nil, lineW]; omega
      · simp only [treeW_cons, exprW]; omega
    | _ => simp only [Edit.cleanupStmts, treeW_cons]; omega

theorem dropKilled_treeW (kl : List Nat) : ∀ ss : List Expr, treeW (Edit.dropKilled kl ss) ≤ treeW ss
  | [] => Nat.le_refl _
  | s :: ss => by
    have ih := dropKilled_treeW kl ss
    cases s with
    | line l =>
      simp only [Edit.dropKilled]
      split <;> simp only [treeW_cons, exprW] <;> omega
    | lineBlock b =>
      have hf := linesW_filter_le (fun l => !kl.contains l.id) b.lines
      simp only [Edit.dropKilled]
      split
      · simp only [treeW_cons, exprW]; omega
      · simp only [treeW_cons, exprW]; omega
    | _ => simp only [Edit.dropKilled, treeW_cons]; omega

theorem insertLine_linesW (less : List Bytes → List Bytes → Bool) (x : Line) : ∀ ys : List Line,
    linesW (Edit.insertLine less x ys) = lineW x + linesW ys
  | [] => rfl
  | y :: ys => by
    have ih := insertLine_linesW less x ys
    unfold Edit.insertLine
    split <;> simp only [linesW_cons, ih] <;> omega

theorem stableSort_linesW (less : List Bytes → List Bytes → Bool) : ∀ ls : List Line, linesW (Edit.stableSort less ls) = linesW ls
  | [] => rfl
  | l :: ls => by
    have ih := stableSort_linesW less ls
    unfold Edit.stableSort at ih ⊢
    simp only [List.foldr_cons, insertLine_linesW, ih, linesW_cons]

theorem sortStmts_treeW (u w : Bool) : ∀ ss : List Expr, treeW (Edit.sortStmts u w ss) = treeW ss
  | [] => rfl
  | s :: ss => by
    have ih := sortStmts_treeW u w ss
    unfold Edit.sortStmts at ih ⊢
    cases s <;> simp only [List.map_cons, treeW_cons, ih, exprW, stableSort_linesW]

theorem insertAt_treeW (ss : List Expr) (i : Nat) (x : Expr) : treeW (insertAt ss i x) = treeW ss + exprW x := by
  unfold insertAt
  have := congrArg treeW (List.take_append_drop i ss)
  simp only [treeW_append, treeW_cons] at this ⊢
  omega

end ModVerif.Tie.FnEditFuelA
