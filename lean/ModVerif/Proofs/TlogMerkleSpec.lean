/-
  Specification-side lemmas for C03 (RFC 6962 recursion of `Spec/RFC6962.lean`): the split point,
  fuel independence and the unfolding equations of `mth`, `path`, `proof`, `inclRootF`, `consRootsF`.
  Nothing here mentions the model.
-/
import ModVerif.Spec.RFC6962
namespace ModVerif.RFC6962

theorem splitPoint_pos (n : Nat) : 0 < splitPoint n := Nat.two_pow_pos _

theorem splitPoint_eq (n l : Nat) (h1 : 2 ^ l < n) (h2 : n ≤ 2 ^ (l + 1)) : splitPoint n = 2 ^ l := by
  unfold splitPoint
  have hne : n - 1 ≠ 0 := by have := Nat.two_pow_pos l; omega
  have a : l ≤ (n - 1).log2 := (Nat.le_log2 hne).mpr (by omega)
  have b : (n - 1).log2 < l + 1 := (Nat.log2_lt hne).mpr (by omega)
  rw [show (n - 1).log2 = l by omega]

theorem splitPoint_two_pow (l : Nat) : splitPoint (2 ^ (l + 1)) = 2 ^ l :=
  splitPoint_eq _ l (by rw [Nat.pow_succ]; have := Nat.two_pow_pos l; omega) (Nat.le_refl _)

theorem splitPoint_spec (n : Nat) (h : 2 ≤ n) :
    0 < splitPoint n ∧ splitPoint n < n ∧ n ≤ 2 * splitPoint n := by
  unfold splitPoint
  have hne : n - 1 ≠ 0 := by omega
  have h1 := Nat.log2_self_le hne
  have h2 := Nat.lt_log2_self (n := n - 1)
  rw [Nat.pow_succ] at h2
  refine ⟨Nat.two_pow_pos _, by omega, by omega⟩

theorem splitPoint_mid (n m : Nat) (h1 : splitPoint n < m) (h2 : m ≤ n) : splitPoint m = splitPoint n := by
  have hs := splitPoint_spec n (by have := splitPoint_pos n; omega)
  exact splitPoint_eq m (n - 1).log2 h1 (by rw [Nat.pow_succ]; unfold splitPoint at hs; omega)

section
variable {H : Type} (node : H → H → H) (empty : H)

theorem mthF_fuel : ∀ f g (D : List H), D.length ≤ f → D.length ≤ g → mthF node empty f D = mthF node empty g D := by
  intro f
  induction f with
  | zero =>
    intro g D h1 _
    have : D = [] := List.eq_nil_of_length_eq_zero (by omega)
    subst this
    cases g <;> simp [mthF]
  | succ f ih =>
    intro g D h1 h2
    match D, g with
    | [], g => cases g <;> simp [mthF]
    | [x], g => cases g <;> simp [mthF]
    | x :: y :: r, 0 => simp at h2
    | x :: y :: r, g + 1 =>
      simp only [mthF]
      have hs := splitPoint_spec (x :: y :: r).length (by simp)
      rw [ih g _ (by rw [List.length_take]; omega) (by rw [List.length_take]; omega),
        ih g _ (by rw [List.length_drop]; omega) (by rw [List.length_drop]; omega)]

@[simp] theorem mth_nil : mth node empty ([] : List H) = empty := by simp [mth, mthF]

@[simp] theorem mth_singleton (x : H) : mth node empty [x] = x := by simp [mth, mthF]

/-- RFC 6962 §2.1: `MTH(D[n]) = HASH(0x01 || MTH(D[0:k]) || MTH(D[k:n]))` for `n > 1` -/
theorem mth_split (D : List H) (h : 2 ≤ D.length) :
    mth node empty D = node (mth node empty (D.take (splitPoint D.length))) (mth node empty (D.drop (splitPoint D.length))) := by
  have hs := splitPoint_spec D.length h
  match D, h with
  | x :: y :: r, _ =>
    unfold mth
    simp only [List.length_cons, mthF]
    rw [mthF_fuel node empty _ ((x :: y :: r).take (splitPoint (r.length + 1 + 1))).length _
        (by simp only [List.length_take, List.length_cons] at hs ⊢; omega) (Nat.le_refl _),
      mthF_fuel node empty _ ((x :: y :: r).drop (splitPoint (r.length + 1 + 1))).length _
        (by simp only [List.length_drop, List.length_cons] at hs ⊢; omega) (Nat.le_refl _)]

theorem pathF_fuel : ∀ f g m (D : List H), D.length ≤ f → D.length ≤ g →
    pathF node empty f m D = pathF node empty g m D := by
  intro f
  induction f with
  | zero =>
    intro g m D h1 _
    cases g with
    | zero => rfl
    | succ g => simp only [pathF]; rw [if_pos (by omega)]
  | succ f ih =>
    intro g m D h1 h2
    cases g with
    | zero => simp only [pathF]; rw [if_pos (by omega)]
    | succ g =>
      simp only [pathF]
      by_cases hl : D.length ≤ 1
      · simp [hl]
      · have hs := splitPoint_spec D.length (by omega)
        simp only [hl, ↓reduceIte]
        rw [ih g m _ (by rw [List.length_take]; omega) (by rw [List.length_take]; omega),
          ih g (m - splitPoint D.length) _ (by rw [List.length_drop]; omega) (by rw [List.length_drop]; omega)]

theorem path_small (m : Nat) (D : List H) (h : D.length ≤ 1) : path node empty m D = [] := by
  unfold path
  cases hD : D.length with
  | zero => rfl
  | succ k => simp only [pathF]; rw [if_pos (by omega)]

theorem path_left (m : Nat) (D : List H) (h : 2 ≤ D.length) (hm : m < splitPoint D.length) :
    path node empty m D = path node empty m (D.take (splitPoint D.length)) ++ [mth node empty (D.drop (splitPoint D.length))] := by
  have hs := splitPoint_spec D.length h
  unfold path
  cases hD : D.length with
  | zero => omega
  | succ k =>
    simp only [pathF]
    rw [if_neg (by omega), ← hD, if_pos hm]
    rw [pathF_fuel node empty k (D.take (splitPoint D.length)).length _ _ (by rw [List.length_take]; omega) (Nat.le_refl _)]

theorem path_right (m : Nat) (D : List H) (h : 2 ≤ D.length) (hm : ¬ m < splitPoint D.length) :
    path node empty m D =
      path node empty (m - splitPoint D.length) (D.drop (splitPoint D.length)) ++ [mth node empty (D.take (splitPoint D.length))] := by
  have hs := splitPoint_spec D.length h
  unfold path
  cases hD : D.length with
  | zero => omega
  | succ k =>
    simp only [pathF]
    rw [if_neg (by omega), ← hD, if_neg hm]
    rw [pathF_fuel node empty k (D.drop (splitPoint D.length)).length _ _ (by rw [List.length_drop]; omega) (Nat.le_refl _)]

/-- SUBPROOF with the canonical fuel -/
def subProof (m : Nat) (D : List H) (b : Bool) : List H := subProofF node empty (D.length + 1) m D b

theorem subProofF_fuel : ∀ f g m (D : List H) b, 1 ≤ m → m ≤ D.length → D.length < f → D.length < g →
    subProofF node empty f m D b = subProofF node empty g m D b := by
  intro f
  induction f with
  | zero => intro g m D b _ _ h1 _; omega
  | succ f ih =>
    intro g m D b hm1 hm2 h1 h2
    cases g with
    | zero => omega
    | succ g =>
      simp only [subProofF]
      by_cases hm : m = D.length
      · simp [hm]
      · simp only [hm, ↓reduceIte]
        have hs := splitPoint_spec D.length (by omega)
        by_cases hle : m ≤ splitPoint D.length
        · simp only [hle, ↓reduceIte]
          rw [ih g m _ b hm1 (by rw [List.length_take]; omega) (by rw [List.length_take]; omega)
            (by rw [List.length_take]; omega)]
        · simp only [hle, ↓reduceIte]
          rw [ih g (m - splitPoint D.length) _ false (by omega) (by rw [List.length_drop]; omega)
            (by rw [List.length_drop]; omega) (by rw [List.length_drop]; omega)]

theorem proof_eq_subProof (m : Nat) (D : List H) : proof node empty m D = subProof node empty m D true := rfl

theorem subProof_full (D : List H) (b : Bool) :
    subProof node empty D.length D b = if b then [] else [mth node empty D] := by
  simp [subProof, subProofF]

theorem subProof_left (m : Nat) (D : List H) (b : Bool) (h : 2 ≤ D.length) (hm1 : 1 ≤ m) (hne : m ≠ D.length)
    (hm : m ≤ splitPoint D.length) :
    subProof node empty m D b =
      subProof node empty m (D.take (splitPoint D.length)) b ++ [mth node empty (D.drop (splitPoint D.length))] := by
  have hs := splitPoint_spec D.length h
  unfold subProof
  conv => lhs; rw [subProofF]
  simp only [hne, ↓reduceIte, hm]
  rw [subProofF_fuel node empty _ ((D.take (splitPoint D.length)).length + 1) _ _ _ hm1
    (by rw [List.length_take]; omega) (by rw [List.length_take]; omega) (by omega)]

theorem subProof_right (m : Nat) (D : List H) (b : Bool) (h : 2 ≤ D.length) (hm2 : m ≤ D.length) (hne : m ≠ D.length)
    (hm : ¬ m ≤ splitPoint D.length) :
    subProof node empty m D b =
      subProof node empty (m - splitPoint D.length) (D.drop (splitPoint D.length)) false ++
        [mth node empty (D.take (splitPoint D.length))] := by
  have hs := splitPoint_spec D.length h
  unfold subProof
  conv => lhs; rw [subProofF]
  simp only [hne, ↓reduceIte, hm]
  rw [subProofF_fuel node empty _ ((D.drop (splitPoint D.length)).length + 1) _ _ _ (by omega)
    (by rw [List.length_drop]; omega) (by rw [List.length_drop]; omega) (by omega)]

end
end ModVerif.RFC6962
