/-
  Helpers for Tie/FnTlogW.lean: the WORLD-MODE regenerations of `TreeHash`, `ProveTree`, `ProveRecord`
  (Generated/FnTlogW.lean: the hash reader is a world function `List Int → W → M ((hashes, err) × W)`, the world is
  threaded) reduced to the pure regenerations (Generated/FnTlog.lean) — for ANY world type and ANY reader, no hypothesis.
-/
import ModVerif.Generated.FnTlogW
import ModVerif.Proofs.GoRtLemmas
import ModVerif.Proofs.GoRtLemmasInt
namespace ModVerif.TieFnTlogW
open ModVerif ModVerif.GoRt

section
variable {H : Type} [DecidableEq H] [Inhabited H] {W : Type}

/-- ONE call of the world reader `rh` on `idx` in world `w`, then the pure continuation `k` over the constant reader that
    answers what `rh` answered, paired with the world after the call (an `M`-error of `rh` propagates). -/
def viaRead {α : Type} (rh : List Int → W → M ((List H × Option String) × W)) (idx : List Int) (w : W)
    (k : (List Int → List H × Option String) → M α) : M (α × W) :=
  match rh idx w with
  | .error e => .error e
  | .ok ((hs, err), w') =>
    match k (fun _ => (hs, err)) with
    | .error e => .error e
    | .ok a => .ok (a, w')

theorem TreeHash_eq (empty : H) (node : H → H → H) (rh : List Int → W → M ((List H × Option String) × W))
    (fuel : Nat) (n : Int) (w : W) :
    Generated.TlogW.TreeHash empty node rh fuel n () w =
      if n = 0 then .ok ((empty, none), w) else
      match Generated.Tlog.subTreeIndex fuel 0 n [] with
      | .error e => .error e
      | .ok idx => viaRead rh idx w (Generated.Tlog.TreeHash empty node fuel n) := by
  unfold Generated.TlogW.TreeHash
  by_cases hn : n = 0
  · simp [hn]
  · simp only [hn, decide_false, Bool.false_eq_true, if_false]
    cases hs : Generated.Tlog.subTreeIndex fuel 0 n [] with
    | error e => rfl
    | ok idx =>
      simp only [mbind_ok, viaRead]
      cases hr : rh idx w with
      | error e => rfl
      | ok v =>
        obtain ⟨⟨hs', err⟩, w'⟩ := v
        simp only [mbind_ok, Generated.Tlog.TreeHash, hn, decide_false, Bool.false_eq_true, if_false, hs]
        cases err with
        | some e => simp
        | none =>
          simp only [Option.isNone_none, Bool.not_true, Bool.false_eq_true, if_false]
          by_cases hl : len hs' = len idx
          · simp only [hl, decide_true, Bool.not_true, Bool.false_eq_true, if_false]
            cases Generated.Tlog.subTreeHash node fuel 0 n hs' with
            | error e => rfl
            | ok v =>
              obtain ⟨a, b⟩ := v
              simp only [mbind_ok]
              split <;> rfl
          · simp [hl]
theorem ProveTree_eq (node : H → H → H) (rh : List Int → W → M ((List H × Option String) × W))
    (fuel : Nat) (t n : Int) (w : W) :
    Generated.TlogW.ProveTree node rh fuel t n () w =
      if t < 1 ∨ n < 1 ∨ n > t then .ok (([], some "tlog: invalid inputs in ProveTree"), w) else
      match Generated.Tlog.treeProofIndex fuel 0 t n [] with
      | .error e => .error e
      | .ok idx =>
        if idx = [] then .ok (([], none), w) else viaRead rh idx w (Generated.Tlog.ProveTree node fuel t n) := by
  unfold Generated.TlogW.ProveTree
  by_cases hg : t < 1 ∨ n < 1 ∨ n > t
  · have : (decide (t < 1) || decide (n < 1) || decide (n > t)) = true := by
      rcases hg with h | h | h <;> simp [h]
    simp only [this, if_true, hg, mpure]
  · have hb : (decide (t < 1) || decide (n < 1) || decide (n > t)) = false := by
      simp; omega
    simp only [hb, Bool.false_eq_true, if_false, hg]
    cases hs : Generated.Tlog.treeProofIndex fuel 0 t n [] with
    | error e => rfl
    | ok idx =>
      simp only [mbind_ok, viaRead]
      by_cases hi : idx = []
      · subst hi
        have : len ([] : List Int) = 0 := rfl
        simp [this]
      · have hl0 : ¬ len idx = 0 := fun h => hi ((len_zero_iff idx).1 h)
        simp only [hl0, decide_false, Bool.false_eq_true, if_false, hi]
        cases hr : rh idx w with
        | error e => rfl
        | ok v =>
          obtain ⟨⟨hs', err⟩, w'⟩ := v
          simp only [mbind_ok, Generated.Tlog.ProveTree, hb, Bool.false_eq_true, if_false, hs, hl0, decide_false]
          cases err with
          | some e => simp
          | none =>
            simp only [Option.isNone_none, Bool.not_true, Bool.false_eq_true, if_false]
            by_cases hl : len hs' = len idx
            · simp only [hl, decide_true, Bool.not_true, Bool.false_eq_true, if_false]
              cases Generated.Tlog.treeProof node fuel 0 t n hs' with
              | error e => rfl
              | ok v =>
                obtain ⟨a, b⟩ := v
                simp only [mbind_ok]
                split <;> rfl
            · simp [hl]

theorem ProveRecord_eq (node : H → H → H) (rh : List Int → W → M ((List H × Option String) × W))
    (fuel : Nat) (t n : Int) (w : W) :
    Generated.TlogW.ProveRecord node rh fuel t n () w =
      if t < 0 ∨ n < 0 ∨ n ≥ t then .ok (([], some "tlog: invalid inputs in ProveRecord"), w) else
      match Generated.Tlog.leafProofIndex fuel 0 t n [] with
      | .error e => .error e
      | .ok idx =>
        if idx = [] then .ok (([], none), w) else viaRead rh idx w (Generated.Tlog.ProveRecord node fuel t n) := by
  unfold Generated.TlogW.ProveRecord
  by_cases hg : t < 0 ∨ n < 0 ∨ n ≥ t
  · have : (decide (t < 0) || decide (n < 0) || decide (n ≥ t)) = true := by
      rcases hg with h | h | h <;> simp [h]
    simp only [this, if_true, hg, mpure]
  · have hb : (decide (t < 0) || decide (n < 0) || decide (n ≥ t)) = false := by
      simp; omega
    simp only [hb, Bool.false_eq_true, if_false, hg]
    cases hs : Generated.Tlog.leafProofIndex fuel 0 t n [] with
    | error e => rfl
    | ok idx =>
      simp only [mbind_ok, viaRead]
      by_cases hi : idx = []
      · subst hi
        have : len ([] : List Int) = 0 := rfl
        simp [this]
      · have hl0 : ¬ len idx = 0 := fun h => hi ((len_zero_iff idx).1 h)
        simp only [hl0, decide_false, Bool.false_eq_true, if_false, hi]
        cases hr : rh idx w with
        | error e => rfl
        | ok v =>
          obtain ⟨⟨hs', err⟩, w'⟩ := v
          simp only [mbind_ok, Generated.Tlog.ProveRecord, hb, Bool.false_eq_true, if_false, hs, hl0, decide_false]
          cases err with
          | some e => simp
          | none =>
            simp only [Option.isNone_none, Bool.not_true, Bool.false_eq_true, if_false]
            by_cases hl : len hs' = len idx
            · simp only [hl, decide_true, Bool.not_true, Bool.false_eq_true, if_false]
              cases Generated.Tlog.leafProof node fuel 0 t n hs' with
              | error e => rfl
              | ok v =>
                obtain ⟨a, b⟩ := v
                simp only [mbind_ok]
                split <;> rfl
            · simp [hl]
end
end ModVerif.TieFnTlogW
