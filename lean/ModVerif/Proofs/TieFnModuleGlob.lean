/-
  Tie proof for the regenerated module.go function MatchPrefixPatterns (Generated/FnModule.lean):
  the inner slash-counting walk (`MatchPrefixPatterns_loop2`) is `Module.cutPrefix`, one iteration of the outer
  `for globs != ""` loop is `Module.matchOne` on the first comma-separated item, and the whole loop is
  `(splitOn 44 globs).any …`.
-/
import ModVerif.Generated.FnModule
import ModVerif.Model.Module
import ModVerif.Proofs.GoRtLemmas
import ModVerif.Proofs.GoRtLemmasStr
import ModVerif.Proofs.ModulePath
namespace ModVerif.TieFnModule
open ModVerif ModVerif.GoRt ModVerif.GoRtStr

theorem mpp_loop2_spec (pm : Bytes → Bytes → Bool × Option String) (target : Bytes) :
    ∀ (suf pre : Bytes) (fuel n : Nat), target = pre ++ suf → suf.length < fuel →
    ∃ (p' : Bytes) (n' i' : Int),
      Generated.Module.MatchPrefixPatterns_loop2 pm target fuel target (n : Int) (pre.length : Int) = .ok (p', n', i') ∧
      (match Module.cutPrefix n suf with
       | none => n' > 0
       | some q => n' = 0 ∧ p' = pre ++ q) := by
  intro suf
  induction suf with
  | nil =>
    intro pre fuel n ht hf
    cases fuel with
    | zero => simp at hf
    | succ f =>
      have hpre : target = pre := by simpa using ht
      have hlt : ¬ ((pre.length : Int) < len target) := by rw [hpre, len_eq]; omega
      unfold Generated.Module.MatchPrefixPatterns_loop2
      refine ⟨target, (n : Int), (pre.length : Int), ?_, ?_⟩
      · simp only [hlt, decide_false, Bool.false_eq_true, if_false, pure_eq_ok]
      · cases n with
        | zero => simp [Module.cutPrefix, hpre]
        | succ k => simp [Module.cutPrefix] <;> omega
  | cons c rest ih =>
    intro pre fuel n ht hf
    cases fuel with
    | zero => simp at hf
    | succ f =>
      have hf' : rest.length < f := by simp at hf; omega
      have ht' : target = (pre ++ [c]) ++ rest := by simp [ht]
      have hlt : (pre.length : Int) < len target := by rw [ht, len_eq]; simp; omega
      have hidx : idx target (pre.length : Int) = .ok ((c.toNat : Nat) : Int) := by
        rw [ht]; exact idx_append_length pre c rest
      have hi1 : (pre.length : Int) + 1 = ((pre ++ [c]).length : Int) := by simp
      unfold Generated.Module.MatchPrefixPatterns_loop2
      simp only [hlt, decide_true, if_true, hidx, bind_ok, byte_eq_int (n := 47) (d := 47) (c := c) rfl]
      by_cases hc : c = 47
      · subst hc
        cases n with
        | zero =>
          have hst : sliceTo target (pre.length : Int) = .ok pre := by
            rw [sliceTo_natCast (by rw [ht]; simp), ht]; simp
          refine ⟨pre, 0, (pre.length : Int), ?_, ?_⟩
          · simp [hst]
          · simp [Module.cutPrefix]
        | succ k =>
          obtain ⟨p', n', i', h1, h2⟩ := ih (pre ++ [47]) f k ht' hf'
          refine ⟨p', n', i', ?_, ?_⟩
          · have hk : ((k + 1 : Nat) : Int) - 1 = (k : Int) := by omega
            have hk0 : ¬ (((k + 1 : Nat) : Int) = 0) := by omega
            simp only [hk0, decide_false, Bool.false_eq_true, if_false, hk, hi1]
            simpa using h1
          · simp only [Module.cutPrefix]
            cases hq : Module.cutPrefix k rest with
            | none => simpa [hq] using h2
            | some q => simpa [hq] using h2
      · obtain ⟨p', n', i', h1, h2⟩ := ih (pre ++ [c]) f n ht' hf'
        refine ⟨p', n', i', ?_, ?_⟩
        · simp only [hi1]
          simpa [hc] using h1
        · have hc' : (c == 47) = false := by simp [hc]
          simp only [Module.cutPrefix, hc']
          cases hq : Module.cutPrefix n rest with
          | none => simpa [hq] using h2
          | some q => simpa [hq] using h2

/-- the body of the local continuation `k3` of `MatchPrefixPatterns_loop1` (everything after `glob`, `globs` are cut) -/
def mppK3 (pm : Bytes → Bytes → Bool × Option String) (target : Bytes) (fuel : Nat) (glob globs : Bytes) :
    M (Ctl Bool Bytes) := do
  let glob := (trimSuffix glob ([47] : Bytes))
  if (decide (glob = ([] : Bytes))) then (Generated.Module.MatchPrefixPatterns_loop1 pm target fuel globs) else (do
    let n := (count glob ([47] : Bytes))
    let prefix_ := target
    let i_1 := (0 : Int)
    let (prefix_, n, _) ← Generated.Module.MatchPrefixPatterns_loop2 pm target fuel prefix_ n i_1
    if (decide (n > (0 : Int))) then (Generated.Module.MatchPrefixPatterns_loop1 pm target fuel globs) else (do
      let (matched, _) := (pm glob prefix_)
      if matched then (pure (Ctl.ret true)) else (Generated.Module.MatchPrefixPatterns_loop1 pm target fuel globs)))

theorem mppK3_spec (pm : Bytes → Bytes → Bool × Option String) (target : Bytes) (fuel : Nat) (glob globs : Bytes)
    (hf : target.length < fuel) :
    mppK3 pm target fuel glob globs =
      if Module.matchOne (fun p n => (pm p n).1) glob target = true then .ok (Ctl.ret true)
      else Generated.Module.MatchPrefixPatterns_loop1 pm target fuel globs := by
  unfold mppK3 Module.matchOne
  have htr : trimSuffix glob [47] = Module.trimSuffixB glob [47] := rfl
  simp only [htr]
  generalize Module.trimSuffixB glob [47] = g
  by_cases hg : g = []
  · subst hg; simp
  have hg' : g.isEmpty = false := by cases g <;> simp at hg ⊢
  simp only [hg, decide_false, Bool.false_eq_true, if_false, hg', count_single]
  obtain ⟨p', n', i', h1, h2⟩ := mpp_loop2_spec pm target target [] fuel (g.count 47) (by simp) hf
  simp only [List.length_nil, Int.natCast_zero] at h1
  rw [h1, bind_ok]
  cases hq : Module.cutPrefix (g.count 47) target with
  | none =>
    rw [hq] at h2
    simp [h2]
  | some q =>
    rw [hq] at h2
    obtain ⟨hn, hp⟩ := h2
    subst hn
    simp only [List.nil_append] at hp
    subst hp
    cases hm : (pm g p').1 <;> simp [hm]

theorem mpp_splitOn_mem (sep : UInt8) : ∀ (s : Bytes), sep ∈ s →
    splitOn sep s = s.takeWhile (· != sep) :: splitOn sep (s.drop ((s.takeWhile (· != sep)).length + 1))
  | [], h => by simp at h
  | c :: rest, h => by
    by_cases hc : c = sep
    · subst hc; simp [splitOn_cons_sep]
    · have h2 : sep ∈ rest := by
        rcases List.mem_cons.mp h with e | e
        · exact absurd e.symm hc
        · exact e
      have hne : (c != sep) = true := by simp [hc]
      obtain ⟨hd, tl, e1, e2⟩ := Module.splitOn_cons_ne_head sep c rest hc
      rw [mpp_splitOn_mem sep rest h2] at e1
      rw [e2]
      simp at e1
      obtain ⟨e3, e4⟩ := e1
      subst e3 e4
      simp [hne]

theorem mpp_takeWhile_lt_of_mem {c : UInt8} : ∀ {s : Bytes}, c ∈ s → (s.takeWhile (· != c)).length < s.length
  | [], h => by simp at h
  | x :: xs, h => by
    by_cases hx : x = c
    · subst hx; simp
    · have h2 : c ∈ xs := by
        rcases List.mem_cons.mp h with e | e
        · exact absurd e.symm hx
        · exact e
      have := mpp_takeWhile_lt_of_mem h2
      simp [hx]; omega

theorem mpp_any_nil (gl : Bytes → Bytes → Bool) (target : Bytes) :
    (splitOn 44 []).any (fun g => Module.matchOne gl g target) = false := by
  simp [splitOn, Module.matchOne, Module.trimSuffixB, hasSuffixB, isPrefixOfB]

theorem mpp_loop1_spec (pm : Bytes → Bytes → Bool × Option String) (target : Bytes) :
    ∀ (fuel : Nat) (globs : Bytes), globs.length + target.length + 1 ≤ fuel →
    Generated.Module.MatchPrefixPatterns_loop1 pm target fuel globs =
      .ok (if (splitOn 44 globs).any (fun g => Module.matchOne (fun p n => (pm p n).1) g target) = true
           then Ctl.ret true else Ctl.next []) := by
  intro fuel
  induction fuel with
  | zero => intro globs h; omega
  | succ f ih =>
    intro globs hf
    unfold Generated.Module.MatchPrefixPatterns_loop1
    by_cases hg : globs = []
    · subst hg
      simp [mpp_any_nil]
    have hlen : 0 < globs.length := List.length_pos_iff.mpr hg
    simp only [hg, decide_false, Bool.not_false, if_true]
    change (if decide (index globs [44] ≥ 0) = true then
        (sliceTo globs (index globs [44]) >>= fun t4 =>
          sliceFrom globs (index globs [44] + 1) >>= fun t6 => mppK3 pm target f t4 t6)
        else mppK3 pm target f globs []) = _
    by_cases hm : (44 : UInt8) ∈ globs
    · have hi : index globs [44] ≥ 0 := (index_single_nonneg globs 44).mpr hm
      have hlt := mpp_takeWhile_lt_of_mem hm
      have hsf : sliceFrom globs (index globs [44] + 1) =
          .ok (globs.drop ((globs.takeWhile (· != 44)).length + 1)) := by
        rw [index_single, if_pos hm]
        have := sliceFrom_natCast (v := globs) (k := (globs.takeWhile (· != 44)).length + 1) (by omega)
        simpa using this
      simp only [hi, decide_true, if_true, take_index_single globs 44 hm, bind_ok, hsf]
      rw [mppK3_spec pm target f _ _ (by omega), mpp_splitOn_mem 44 globs hm, List.any_cons]
      have hrl : (globs.drop ((globs.takeWhile (· != 44)).length + 1)).length + target.length + 1 ≤ f := by
        simp only [List.length_drop]; omega
      rw [ih _ hrl]
      by_cases h1 : Module.matchOne (fun p n => (pm p n).1) (globs.takeWhile (· != 44)) target = true
      · simp [h1]
      · simp [h1]
    · have hi : ¬ index globs [44] ≥ 0 := fun e => hm ((index_single_nonneg globs 44).mp e)
      simp only [hi, decide_false, Bool.false_eq_true, if_false]
      rw [mppK3_spec pm target f _ _ (by omega), splitOn_noSep 44 globs hm, List.any_cons, List.any_nil]
      rw [ih [] (by simp; omega), mpp_any_nil]
      by_cases h1 : Module.matchOne (fun p n => (pm p n).1) globs target = true
      · simp [h1]
      · simp [h1]

/-- only the boolean of `pm`'s result is used; a malformed-pattern error counts as no match -/
theorem MatchPrefixPatterns_spec (pm : Bytes → Bytes → Bool × Option String) (globs target : Bytes) (fuel : Nat)
    (hf : globs.length + target.length + 1 ≤ fuel) :
    Generated.Module.MatchPrefixPatterns pm fuel globs target =
      .ok (Module.matchPrefixPatterns (fun p n => (pm p n).1) globs target) := by
  unfold Generated.Module.MatchPrefixPatterns Module.matchPrefixPatterns
  rw [mpp_loop1_spec pm target fuel globs hf, bind_ok]
  cases (splitOn 44 globs).any (fun g => Module.matchOne (fun p n => (pm p n).1) g target) <;> rfl

/-- non-vacuity: globs = "x,a/b/", target = "a/b/c" with exact-equality matching -/
example :
    Generated.Module.MatchPrefixPatterns (fun p n => (p == n, none)) 12
        [120, 44, 97, 47, 98, 47] [97, 47, 98, 47, 99] = .ok true ∧
    Module.matchPrefixPatterns (fun p n => ((fun p n => (p == n, (none : Option String))) p n).1)
        [120, 44, 97, 47, 98, 47] [97, 47, 98, 47, 99] = true := by
  decide +kernel

end ModVerif.TieFnModule
