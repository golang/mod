/-
  C16 `perm_independent` on the syntax tree for SetRequire and SetUse: two runs that differ only in the
  map-iteration order leave trees that are equal up to the line ids handed out by the call (`normStmt e.next`).
-/
import ModVerif.Proofs.EditPermB
import ModVerif.Proofs.EditWorkSorted
import ModVerif.Proofs.EditMoreComD
import ModVerif.Proofs.ModfileFmtQuoteUnquote
namespace ModVerif.Modfile.Edit
open ModVerif ModVerif.Modfile ModVerif.EditSpec

theorem autoQuote_injective {a b : Bytes} (h : autoQuote a = autoQuote b) : a = b := by
  have h1 := ModVerif.Proofs.ModfileFmtQuote.parseString_autoQuote a
  have h2 := ModVerif.Proofs.ModfileFmtQuote.parseString_autoQuote b
  rw [h] at h1
  rw [h1] at h2
  simp only [Option.some.injEq, Prod.mk.injEq] at h2
  exact h2.1

/-! ### `setIndirectLine` only rewrites the end-of-line comments -/

theorem setIndirectLine_shape (b : Bool) (l : Line) :
    ∃ s, setIndirectLine b l = { l with comments := { l.comments with suffix := s } } := by
  unfold setIndirectLine
  split
  · exact ⟨l.comments.suffix, rfl⟩
  · split
    · split
      · exact ⟨_, rfl⟩
      · exact ⟨_, rfl⟩
    · split
      · exact ⟨l.comments.suffix, rfl⟩
      · dsimp only
        split
        · exact ⟨_, rfl⟩
        · exact ⟨_, rfl⟩

theorem setIndirectLine_eq (b : Bool) (l : Line) :
    setIndirectLine b l = { l with comments := { l.comments with suffix := sfxAfter b l.comments.suffix } } := by
  rcases setIndirectLine_shape b l with ⟨s, hs⟩
  have := (setIndirectLine_props b l).2.2.2
  rw [hs] at this
  simp only at this
  rw [hs, this]

theorem goodG_setIndirect (b : Bool) : GoodG (setIndirectLine b) :=
  ⟨fun l => (setIndirectLine_props b l).2.1, fun l => (setIndirectLine_props b l).1,
   fun l tok => by rw [setIndirectLine_eq, setIndirectLine_eq]⟩

theorem setIndirectLine_setId (b : Bool) (l : Line) (k : Nat) :
    { setIndirectLine b l with id := k } = setIndirectLine b { l with id := k } := by
  rw [setIndirectLine_eq, setIndirectLine_eq]

theorem goodG_id : GoodG (fun l : Line => l) := ⟨fun _ => rfl, fun _ => rfl, fun _ _ => rfl⟩

/-- the additions a bulk setter makes for the entries still needed, in the order given -/
def addsOf {α : Type} (tk : α → List Bytes) (g : α → Line → Line) (n : Nat) : List α → List Add
  | [] => []
  | w :: ws => ⟨tk w, n, g w⟩ :: addsOf tk g (n + 1) ws

section addsOf
variable {α : Type} (tk : α → List Bytes) (g : α → Line → Line)

theorem addsOf_length (ws : List α) : ∀ n, (addsOf tk g n ws).length = ws.length := by
  induction ws with
  | nil => intro n; rfl
  | cons w ws ih => intro n; simp [addsOf, ih]

theorem addsOf_ids_ge (ws : List α) : ∀ m, ∀ p ∈ addsOf tk g m ws, m ≤ p.id := by
  induction ws with
  | nil => intro m p hp; cases hp
  | cons w ws ih =>
    intro m p hp
    rcases List.mem_cons.1 hp with rfl | hp
    · exact Nat.le_refl _
    · exact Nat.le_trans (Nat.le_succ m) (ih (m + 1) p hp)

theorem addsOf_good (verb : Bytes) (htk : ∀ w, ∃ r, tk w = verb :: r) (hg : ∀ w, GoodG (g w)) (n : Nat) (ws : List α) :
    ∀ m, n ≤ m → GoodAdds verb n (addsOf tk g m ws) := by
  induction ws with
  | nil => intro m _; exact ⟨nofun, nofun, nofun, List.nodup_nil, nofun⟩
  | cons w ws ih =>
    intro m hm
    have h := ih (m + 1) (Nat.le_succ_of_le hm)
    obtain ⟨r, hr⟩ := htk w
    refine ⟨List.forall_mem_cons.2 ⟨by simp [hr], h.verb⟩, List.forall_mem_cons.2 ⟨by simp [hr], h.ne⟩,
      List.forall_mem_cons.2 ⟨hg w, h.good⟩, List.nodup_cons.2 ⟨?_, h.nodup⟩, List.forall_mem_cons.2 ⟨hm, h.ge⟩⟩
    intro hmem
    rcases List.mem_map.1 hmem with ⟨p, hp, e⟩
    have := addsOf_ids_ge tk g ws (m + 1) p hp
    change p.id = m at e
    omega

theorem addsOf_norm (hg : ∀ w, GoodG (g w)) (hid : ∀ w l k, { g w l with id := k } = g w { l with id := k }) (n : Nat)
    (ws : List α) : ∀ m, n ≤ m →
    ((addsOf tk g m ws).map mkG).map (normLine n) = ws.map fun w => g w (mkLine n ((tk w).drop 1) true) := by
  induction ws with
  | nil => intro m _; rfl
  | cons w ws ih =>
    intro m hm
    simp only [addsOf, List.map_cons, ih (m + 1) (Nat.le_succ_of_le hm)]
    congr 1
    simp only [mkG, normLine, (hg w).id, mkLine, hm, if_true]
    rw [hid]

theorem addsOf_tokens (hg : ∀ w, GoodG (g w)) (ws : List α) : ∀ m,
    ((addsOf tk g m ws).map mkG).map (·.token) = ws.map fun w => (tk w).drop 1 := by
  induction ws with
  | nil => intro m; rfl
  | cons w ws ih =>
    intro m
    simp only [addsOf, List.map_cons, ih (m + 1)]
    congr 1
    simp [mkG, (hg w).tok, mkLine]

theorem addsOf_perm_invariant (verb : Bytes) (htk : ∀ w, ∃ r, tk w = verb :: r) (hg : ∀ w, GoodG (g w))
    (hid : ∀ w l k, { g w l with id := k } = g w { l with id := k }) (fs : FileSyntax) (n : Nat)
    (hlt : ∀ i ∈ treeIds fs.stmts, i < n) (K : List Nat) (hK : ∀ k ∈ K, k < n) (sem work : Bool)
    (hless : ∀ tok, headIs tok verb = true → lessFor sem work tok = lineLess) (need l1 l2 : List α)
    (h1 : l1.Perm need) (h2 : l2.Perm need) (hd : need.Pairwise fun a b => (tk a).drop 1 ≠ (tk b).drop 1) :
    (sortStmts sem work (dropKilled K ((addsOf tk g n l1).foldl addStep fs).stmts)).map (normStmt n)
      = (sortStmts sem work (dropKilled K ((addsOf tk g n l2).foldl addStep fs).stmts)).map (normStmt n) := by
  by_cases hlen : need.length ≤ 1
  · rw [← perm_short_eq need l1 h1.symm hlen, ← perm_short_eq need l2 h2.symm hlen]
  · have hl : 2 ≤ need.length := by omega
    refine landing_perm_invariant fs verb n hlt K hK sem work hless _ _ (addsOf_good _ _ _ htk hg _ _ _ (Nat.le_refl _))
      (addsOf_good _ _ _ htk hg _ _ _ (Nat.le_refl _)) (by rw [addsOf_length, h1.length_eq]; exact hl)
      (by rw [addsOf_length, h2.length_eq]; exact hl) ?_ ?_
    · rw [addsOf_norm _ _ hg hid _ _ _ (Nat.le_refl _), addsOf_norm _ _ hg hid _ _ _ (Nat.le_refl _)]
      exact (h1.trans h2.symm).map _
    · rw [← List.pairwise_map (f := fun l : Line => l.token), addsOf_tokens _ _ hg, List.pairwise_map]
      exact (h1.pairwise_iff (fun {a b} h => Ne.symm h)).2 hd

end addsOf

def reqToks (w : Want) : List Bytes := [B "require", autoQuote w.path, w.vers]

theorem foldl_addNewRequire_syn (ws : List Want) : ∀ e : EFile,
    (ws.foldl (fun e w => addNewRequire e w.path w.vers w.indirect) e).f.syn =
      (addsOf reqToks (fun w => setIndirectLine w.indirect) e.next ws).foldl addStep e.f.syn := by
  induction ws with
  | nil => intro e; rfl
  | cons w ws ih =>
    intro e
    simp only [List.foldl_cons, addsOf]
    rw [ih]
    rfl

theorem headIs_other {tok : List Bytes} {v w : Bytes} (h : headIs tok v = true) (hne : v ≠ w) : headIs tok w = false := by
  cases tok with
  | nil => simp [headIs] at h
  | cons a as =>
    simp only [headIs, List.head?_cons, beq_iff_eq, Option.some.injEq] at h
    subst h
    simp [headIs, hne]

theorem lessFor_require (sem : Bool) (tok : List Bytes) (h : headIs tok (B "require") = true) :
    lessFor sem false tok = lineLess := by
  have h1 : headIs tok (B "exclude") = false := headIs_other h (by decide +kernel)
  have h2 : headIs tok (B "retract") = false := headIs_other h (by decide +kernel)
  simp [lessFor, h1, h2]

theorem sortBlocks_stmts (e : EFile) :
    (sortBlocks e).f.syn.stmts = sortStmts (semOf e.f) false (dropKilled (kill3 e.f) e.f.syn.stmts) := by
  rw [sortBlocks_eq_sem]

theorem sortBlocks_hdr (e : EFile) : (sortBlocks e).f.syn.comments = e.f.syn.comments := by
  rw [sortBlocks_eq_sem]

/-- C16 `perm_independent`, SetRequire, on the tree: equal up to the line ids the call handed out (ids `≥ e.next`), and
    the same file header -/
theorem setRequire_syn_perm_independent (e e1 e2 : EFile) (want : List Want) (p1 p2 : List Want → List Want)
    (hp1 : ∀ l, (p1 l).Perm l) (hp2 : ∀ l, (p2 l).Perm l) (hg : GoodWant want) (hi : Inv e)
    (hlive : ∀ r ∈ e.f.require, liveRq r = true) (hset : NoNestedIndirectMarker e)
    (h1 : setRequire e want p1 = .ok e1) (h2 : setRequire e want p2 = .ok e2) :
    e1.f.syn.stmts.map (normStmt e.next) = e2.f.syn.stmts.map (normStmt e.next) ∧
      e1.f.syn.comments = e2.f.syn.comments := by
  unfold setRequire at h1 h2
  rw [needMap_distinct true want [] (by simpa using hg.1)] at h1 h2
  simp only [bind, Except.bind, List.nil_append] at h1 h2
  cases hr : setRequireLoop e.f.require want e.f.syn with
  | error err => simp [hr] at h1
  | ok res =>
    rcases res with ⟨rq, need', syn'⟩
    simp only [hr, pure, Except.pure, Except.ok.injEq] at h1 h2
    subst h1; subst h2
    rcases setRequireLoop_abs _ _ _ _ _ _ hg hr with ⟨_, hsub⟩
    rcases setRequireLoop_inv (V := fullView) (A := segA_require e.f) (C := segC_require e.f) e.next e.f.require [] want e.f.syn rq need' syn'
      hlive hi.tree (by simp only [List.nil_append]; have := hi.mtch; rw [entries_require] at this; exact this) hset hr with ⟨hw', hm'⟩
    have hi1 : Inv (⟨{ e.f with require := rq, syn := syn' }, e.next⟩ : EFile) := by
      refine ⟨hw', ?_, hi.tinv.of_same rfl rfl rfl (Nat.le_refl _)⟩
      simp only [List.nil_append] at hm'
      rw [entries_require]; exact hm'
    generalize hE : (⟨{ e.f with require := rq, syn := syn' }, e.next⟩ : EFile) = E0 at hi1
    have hnext : E0.next = e.next := by rw [← hE]
    rw [← hnext]
    -- the state SortBlocks runs in, for a list of additions
    have hsort : ∀ ws : List Want,
        (sortBlocks (ws.foldl (fun e w => addNewRequire e w.path w.vers w.indirect) E0)).f.syn.stmts
          = sortStmts (semOf E0.f) false (dropKilled (kill3 E0.f)
            ((addsOf reqToks (fun w => setIndirectLine w.indirect) E0.next ws).foldl addStep E0.f.syn).stmts) := by
      intro ws
      rw [sortBlocks_stmts, foldl_addNewRequire_syn]
      rcases foldl_addNewRequire_fields ws E0 with ⟨f1, f2, f3⟩
      rw [kill3_congr (g := E0.f) f1 f2 f3]
      unfold semOf
      rw [foldl_addNewRequire_go]
    refine ⟨?_, by simp only [sortBlocks_hdr, foldl_addNewRequire_syn, foldl_addStep_hdr]⟩
    rw [hsort, hsort]
    refine addsOf_perm_invariant _ _ (B "require") (fun _ => ⟨_, rfl⟩) (fun w => goodG_setIndirect _) (fun w => setIndirectLine_setId _)
      E0.f.syn E0.next hi1.tree.lt (kill3 E0.f) hi1.kill3_lt (semOf E0.f) false (fun tok h => lessFor_require _ tok h)
      need' _ _ (hp1 need') (hp2 need') ((hg.1.sublist hsub).imp ?_)
    intro a b hab heq
    simp only [List.drop_succ_cons, List.drop_zero, List.cons.injEq, and_true] at heq
    exact hab (autoQuote_injective heq.1)

theorem setRequire_tree_perm_independent (e e1 e2 : EFile) (want : List Want) (p1 p2 : List Want → List Want)
    (hp1 : ∀ l, (p1 l).Perm l) (hp2 : ∀ l, (p2 l).Perm l) (hg : GoodWant want) (hi : Inv e)
    (hlive : ∀ r ∈ e.f.require, liveRq r = true) (hset : NoNestedIndirectMarker e)
    (h1 : setRequire e want p1 = .ok e1) (h2 : setRequire e want p2 = .ok e2) :
    e1.f.syn.stmts.map (normStmt e.next) = e2.f.syn.stmts.map (normStmt e.next) :=
  (setRequire_syn_perm_independent e e1 e2 want p1 p2 hp1 hp2 hg hi hlive hset h1 h2).1

def useToks (w : Bytes × Bytes) : List Bytes := [B "use", autoQuote w.1]

theorem foldl_addNewUse_syn (ws : List (Bytes × Bytes)) : ∀ e : EWork,
    (ws.foldl (fun e w => addNewUse e w.1 w.2) e).f.syn = (addsOf useToks (fun _ l => l) e.next ws).foldl addStep e.f.syn := by
  induction ws with
  | nil => intro e; rfl
  | cons w ws ih =>
    intro e
    simp only [List.foldl_cons, addsOf]
    rw [ih]
    congr 1
    simp only [addNewUse, addStep, useToks, Proofs.ModfileC20.updateLine_self _ _ _ fun _ _ _ => rfl]

theorem workSortBlocks_hdr (e : EWork) : (workSortBlocks e).f.syn.comments = e.f.syn.comments := by
  simp [workSortBlocks, Edit.removeDups]

theorem InvW.killEarlier_lt {e : EWork} (hi : InvW e) : ∀ i ∈ killEarlier e.f.replace, i < e.next := by
  intro i hk
  rcases killEarlier_subset _ _ hk with ⟨z, hz, hzid⟩
  cases hzl : liveRp z with
  | true => rw [← hzid]; exact hi.mtch.ids_lt hi.tree (entRp z) (mem_entriesW_replace hz hzl)
  | false =>
    have : z.lineId = 0 := (hi.winv.wfR z hz).2 hzl
    rw [← hzid, this]; exact hi.winv.pos

/-- **C16 `perm_independent`, SetUse, on the tree**: the two trees are equal up to the line ids the call handed out, and
    have the same file header -/
theorem setUse_syn_perm_independent (e e1 e2 : EWork) (dirs : List (Bytes × Bytes))
    (q1 q2 : List (Bytes × Bytes) → List (Bytes × Bytes)) (hq1 : ∀ l, (q1 l).Perm l) (hq2 : ∀ l, (q2 l).Perm l)
    (hg : GoodUse dirs) (hi : InvW e) (hlive : ∀ u ∈ e.f.use, liveU u = true)
    (h1 : setUse e dirs q1 = .ok e1) (h2 : setUse e dirs q2 = .ok e2) :
    e1.f.syn.stmts.map (normStmt e.next) = e2.f.syn.stmts.map (normStmt e.next) ∧
      e1.f.syn.comments = e2.f.syn.comments := by
  unfold setUse at h1 h2
  rw [useNeedMap_distinct dirs [] (by simpa using hg.1)] at h1 h2
  simp only [bind, Except.bind, List.nil_append] at h1 h2
  cases hr : setUseLoop e.f.use dirs e.f.syn with
  | error err => simp [hr] at h1
  | ok res =>
    rcases res with ⟨us, need', syn'⟩
    simp only [hr, pure, Except.pure, Except.ok.injEq] at h1 h2
    subst h1; subst h2
    rcases setUseLoop_abs _ _ _ _ _ _ hg hr with ⟨_, hsub⟩
    have hi1 := setUseLoop_invW hi hlive hr
    generalize hE : (⟨{ e.f with use := us, syn := syn' }, e.next⟩ : EWork) = E0 at hi1
    have hnext : E0.next = e.next := by rw [← hE]
    rw [← hnext]
    have hsort : ∀ ws : List (Bytes × Bytes),
        (workSortBlocks (ws.foldl (fun e w => addNewUse e w.1 w.2) E0)).f.syn.stmts
          = sortStmts false true (dropKilled (killEarlier E0.f.replace)
            ((addsOf useToks (fun _ l => l) E0.next ws).foldl addStep E0.f.syn).stmts) := by
      intro ws
      rw [workSortBlocks_syn, foldl_addNewUse_syn, (foldl_addNewUse_tree _ _).2]
    refine ⟨?_, by simp only [workSortBlocks_hdr, foldl_addNewUse_syn, foldl_addStep_hdr]⟩
    rw [hsort, hsort]
    refine addsOf_perm_invariant _ _ (B "use") (fun _ => ⟨_, rfl⟩) (fun _ => goodG_id) (fun _ _ _ => rfl)
      E0.f.syn E0.next hi1.tree.lt (killEarlier E0.f.replace) hi1.killEarlier_lt false true (fun tok _ => lessFor_work _ tok)
      need' _ _ (hq1 need') (hq2 need') ((hg.1.sublist hsub).imp ?_)
    intro a b hab heq
    simp only [List.drop_succ_cons, List.drop_zero, List.cons.injEq, and_true] at heq
    exact hab (autoQuote_injective heq)

end ModVerif.Modfile.Edit
