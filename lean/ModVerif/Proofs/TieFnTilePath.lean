/-
  Tie proofs for sumdb/tlog/tile.go: `Tile.Path` and `ParseTilePath`.
-/
import ModVerif.Proofs.TieFnTile
import ModVerif.Proofs.Decimal
namespace ModVerif.TieFnTile
open ModVerif ModVerif.GoRt ModVerif.GoRtTile

/-! ### Tile.Path -/

/-- the loop `for n >= pathBase { n /= pathBase; nStr = fmt.Sprintf("x%03d/%s", n%pathBase, nStr) }`;
    `g + 1` units of fuel are enough for `n < 1000^(g+1)`, any model fuel `f ≥ n` -/
theorem Tile_Path_loop1_eq : ∀ (f g n : Nat) (acc : Bytes), n ≤ f → n < 1000 ^ (g + 1) →
    ∃ n' : Int, Generated.Tile.Tile_Path_loop1 (g + 1) (n : Int) acc = .ok (n', Tile.pathN f n acc) := by
  intro f
  induction f with
  | zero =>
    intro g n acc hn _
    have : n = 0 := by omega
    subst this
    exact ⟨0, by simp [Generated.Tile.Tile_Path_loop1, Tile.pathN]⟩
  | succ f ih =>
    intro g n acc hn hg
    by_cases hge : n ≥ 1000
    · have hge' : ((n : Int) ≥ ((1000 : Nat) : Int)) := by omega
      obtain ⟨g', rfl⟩ : ∃ g', g = g' + 1 := by
        cases g with
        | zero => simp at hg; omega
        | succ g' => exact ⟨g', rfl⟩
      have hdiv : n / 1000 < 1000 ^ (g' + 1) := by
        apply Nat.div_lt_of_lt_mul
        rw [Nat.pow_succ, Nat.mul_comm] at hg
        exact hg
      obtain ⟨n', hn'⟩ := ih g' (n / 1000) ([120] ++ Decimal.pad3 (n / 1000 % 1000) ++ [47] ++ acc) (by omega) hdiv
      refine ⟨n', ?_⟩
      have e1 : ((1000 : Int)) = ((1000 : Nat) : Int) := rfl
      rw [Generated.Tile.Tile_Path_loop1]
      simp only [hge', decide_true, ↓reduceIte, e1, quo_natCast n 1000 (by omega), mbind_ok,
        rem_natCast (n / 1000) 1000 (by omega), padDec3_natCast]
      rw [hn']
      simp only [Tile.pathN, Tile.pathBase, hge, ↓reduceIte]
    · have hge' : ¬ ((n : Int) ≥ 1000) := by omega
      refine ⟨(n : Int), ?_⟩
      rw [Generated.Tile.Tile_Path_loop1]
      simp only [hge', decide_false, Bool.false_eq_true, ↓reduceIte, mpure, Tile.pathN, Tile.pathBase, hge]

theorem B_tile_slash' : ([116, 105, 108, 101, 47] : Bytes) = B "tile/" := by decide +kernel
theorem B_data' : ([100, 97, 116, 97] : Bytes) = B "data" := by decide +kernel
theorem B_dotp_slash' : ([46, 112, 47] : Bytes) = B ".p/" := by decide +kernel

/-- `Tile.Path` of (the image of) a model tile with `H ≤ 62` (`1 << H` is an int64) and `N` an int64 -/
theorem Tile_Path_eq (fuel : Nat) (t : Tile.Tile) (hh : t.h ≤ 62) (hn : t.n < 2 ^ 63) (hf : 8 ≤ fuel) :
    Generated.Tile.Tile_Path fuel (toGen t) = .ok (Tile.tilePath t) := by
  obtain ⟨g, rfl⟩ : ∃ g, fuel = g + 1 := ⟨fuel - 1, by omega⟩
  have hpow : t.n < 1000 ^ (g + 1) := by
    have : (1000 : Nat) ^ 7 ≤ 1000 ^ (g + 1) := Nat.pow_le_pow_right (by omega) (by omega)
    have : (2 : Nat) ^ 63 < 1000 ^ 7 := by decide
    omega
  obtain ⟨n', hloop⟩ := Tile_Path_loop1_eq t.n g t.n (Decimal.pad3 (t.n % 1000)) (Nat.le_refl _) hpow
  have hp : 2 ^ t.h < 2 ^ 63 := Nat.pow_lt_pow_right (by omega) (by omega)
  have e1 : ((1000 : Int)) = ((1000 : Nat) : Int) := rfl
  have hW : (((t.w : Int) = ((2 ^ t.h : Nat) : Int))) ↔ t.w = 2 ^ t.h := by omega
  obtain ⟨th, tl, tn, tw, td⟩ := t
  simp only at hh hn hpow hloop hp hW
  simp only [Generated.Tile.Tile_Path, toGen, e1, rem_natCast tn 1000 (by omega), mbind_ok, padDec3_natCast, hloop,
    toU64_natCast (show th < 2 ^ 64 by omega), shl_one_natCast, chk64_natCast hp, hW, itoa_natCast,
    B_tile_slash', B_data', B_dotp_slash', Tile.tilePath, Tile.pathBase]
  cases td
  · have hne : ¬ ((tl : Int) = -1) := by omega
    by_cases hw : tw = 2 ^ th
    · simp [hw, hne, itoa_natCast]
    · simp [hw, hne, itoa_natCast]
  · by_cases hw : tw = 2 ^ th
    · simp [hw]
    · simp [hw]

/-! ### ParseTilePath -/

/-- the int64 range condition of the `n = n*pathBase + nn` loop: every intermediate value fits -/
def Fits (segs : List Bytes) (n0 : Nat) : Prop := ∀ j n, Tile.parseN (segs.take j) n0 = some n → n < 2 ^ 63

theorem trimPrefix_x (s : Bytes) : trimPrefix s [120] = Tile.trimX s := by
  cases s with
  | nil => rfl
  | cons c r =>
    by_cases h : c = 120
    · subst h; rfl
    · have h1 : isPrefixOfB [120] (c :: r) = false := by
        simp only [isPrefixOfB, Bool.and_true]
        cases hb : ((120 : UInt8) == c) with
        | false => rfl
        | true => rw [beq_iff_eq] at hb; exact absurd hb.symm h
      have h2 : Tile.trimX (c :: r) = c :: r := by
        unfold Tile.trimX
        split
        · rename_i heq; simp at heq; exact absurd heq.1 h
        · rfl
      simp only [trimPrefix, h1, Bool.false_eq_true, ↓reduceIte, h2]

def loopOut (len : Nat) : Option Nat → Ctl (GTile × Option String) (Int × Int)
  | some m => Ctl.next ((len : Int), (m : Int))
  | none => Ctl.ret ((default : GTile), some "badPathError")

theorem ParseTilePath_loop1_eq (path : Bytes) : ∀ (segs pre : List Bytes) (n fuel : Nat),
    segs.length < fuel → Fits segs n →
    Generated.Tile.ParseTilePath_loop1 path (pre ++ segs) fuel (pre.length : Int) (n : Int) =
      .ok (loopOut (pre ++ segs).length (Tile.parseN segs n)) := by
  intro segs
  induction segs with
  | nil =>
    intro pre n fuel hf _
    obtain ⟨g, rfl⟩ : ∃ g, fuel = g + 1 := ⟨fuel - 1, by omega⟩
    rw [List.append_nil]
    have : ¬ ((pre.length : Int) < len pre) := by simp [len]
    rw [Generated.Tile.ParseTilePath_loop1]
    simp only [this, decide_false, Bool.false_eq_true, ↓reduceIte, Tile.parseN, loopOut, mpure]
  | cons s rest ih =>
    intro pre n fuel hf hfit
    obtain ⟨g, rfl⟩ : ∃ g, fuel = g + 1 := ⟨fuel - 1, by omega⟩
    simp only [List.length_cons] at hf
    have hlt : ((pre.length : Int) < len (pre ++ s :: rest)) := by simp [len]; omega
    have hidx : idxL (pre ++ s :: rest) (pre.length : Int) = .ok s := by
      rw [idxL_natCast (by simp)]; simp
    rw [Generated.Tile.ParseTilePath_loop1]
    simp only [hlt, decide_true, ↓reduceIte, hidx, mbind_ok, trimPrefix_x]
    cases hp : Decimal.parseInt64 (Tile.trimX s) with
    | none =>
      have := atoi_none _ hp
      simp [this, Tile.parseN, hp, loopOut]
    | some nn =>
      rw [atoi_some _ _ hp]
      by_cases hbad : nn < 0 ∨ nn ≥ 1000
      · have hb : (decide (nn < 0) || decide (nn ≥ 1000)) = true := by
          rcases hbad with h | h <;> simp [h]
        have hb' : (nn < 0 || nn ≥ 1000) = true := hb
        simp [Tile.parseN, hp, hb, loopOut]
      · have h0 : ¬ nn < 0 := by omega
        have h1 : ¬ nn ≥ 1000 := by omega
        have hstep : Tile.parseN (s :: rest) n = Tile.parseN rest (n * 1000 + nn.toNat) := by
          simp [Tile.parseN, hp, h0, h1, Tile.pathBase]
        have hfit1 := hfit 1 (n * 1000 + nn.toNat) (by
          simp [Tile.parseN, hp, h0, h1, Tile.pathBase])
        have hn1000 : n * 1000 < 2 ^ 63 := Nat.lt_of_le_of_lt (Nat.le_add_right _ _) hfit1
        have e1 : (n : Int) * 1000 = ((n * 1000 : Nat) : Int) := by omega
        have e2 : ((n * 1000 : Nat) : Int) + nn = ((n * 1000 + nn.toNat : Nat) : Int) := by omega
        have e3 : (pre.length : Int) + 1 = (((pre ++ [s]).length : Nat) : Int) := by simp
        have e4 : pre ++ s :: rest = (pre ++ [s]) ++ rest := by simp
        have hfit' : Fits rest (n * 1000 + nn.toNat) := by
          intro j m hm
          apply hfit (j + 1) m
          simp only [List.take_succ_cons]
          rw [← hm]
          simp [Tile.parseN, hp, h0, h1, Tile.pathBase]
        rw [e4]
        simp only [Option.isNone_none, Bool.not_true, h0, h1, decide_false, Bool.or_self, Bool.false_eq_true, ↓reduceIte,
          e1, chk64_natCast hn1000, mbind_ok, e2, chk64_natCast hfit1, e3]
        rw [hstep, ih (pre ++ [s]) (n * 1000 + nn.toNat) g (by omega) hfit']

end ModVerif.TieFnTile
