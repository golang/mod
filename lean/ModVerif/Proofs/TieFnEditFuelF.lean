/-
  Closed fuel of the edit session ties: `strconv.Quote` expands every input byte to at most
  FOUR output bytes (`\xNN` for a control / invalid byte; a 2-byte rune gives at most `\uNNNN` = 6 ≤ 8, a 3-byte rune 6 ≤ 12,
  a 4-byte rune `\UNNNNNNNN` = 10 ≤ 16), plus the two quotes:  `quote_length`, `autoQuote_length`, `qsz_le`.  So the size of an
  operation, which counts the `AutoQuote`d forms, is at most five times the byte lengths of its arguments (`rawSize`,
  `opSize_le`).
-/
import ModVerif.Proofs.TieFnEditFuelB
import ModVerif.Proofs.GoRtLemmasStr
import ModVerif.Proofs.ModfileFmtQuoteString
namespace ModVerif.Tie.FnEditFuelF
open ModVerif ModVerif.Modfile ModVerif.Tie.FnEditFuelA ModVerif.Tie.FnEditFuelB ModVerif.Tie.FnEditFuelD

theorem hexDigits_length (r : Nat) : ∀ k, (Quote.hexDigits r k).length = k
  | 0 => rfl
  | k + 1 => by simp [Quote.hexDigits, hexDigits_length r k]

theorem encode_length (r : Nat) : (Utf8.encode r).length ≤ 4 ∧ (r < 0x800 → (Utf8.encode r).length ≤ 2) ∧
    (r < 0x80 → (Utf8.encode r).length = 1) := by
  rw [Utf8.encode_length]; repeat' split
  all_goals omega

theorem ite_le' {c : Prop} [Decidable c] {a b n : Nat} (h1 : c → a ≤ n) (h2 : ¬ c → b ≤ n) : ite c a b ≤ n := by
  split
  · exact h1 ‹_›
  · exact h2 ‹_›

theorem appendEscapedRune_length (r : Nat) : (Quote.appendEscapedRune r).length ≤ 10 := by
  have he := encode_length r
  unfold Quote.appendEscapedRune
  simp only [apply_ite List.length, List.length_cons, List.length_nil, List.length_append, hexDigits_length]
  repeat' (first | (apply ite_le' <;> intro _) | omega)

theorem appendEscapedRune_length6 (r : Nat) (h : r < 0x800) : (Quote.appendEscapedRune r).length ≤ 6 := by
  have he := encode_length r
  unfold Quote.appendEscapedRune
  simp only [apply_ite List.length, List.length_cons, List.length_nil, List.length_append, hexDigits_length]
  repeat' (first | (apply ite_le' <;> intro _) | omega)

theorem isPrint_ascii : ∀ r, r < 128 → 32 ≤ r → r ≠ 127 → UnicodePrint.isPrint r = true := by decide +kernel

theorem appendEscapedRune_length4 (r : Nat) (h : r < 0x80) : (Quote.appendEscapedRune r).length ≤ 4 := by
  have he := encode_length r
  have hp := isPrint_ascii r h
  have hv : Quote.validRune r = true := by simp [Quote.validRune]; omega
  unfold Quote.appendEscapedRune
  simp only [apply_ite List.length, List.length_cons, List.length_nil, List.length_append, hexDigits_length]
  repeat' (first | (apply ite_le' <;> intro _) | omega | (exfalso; simp_all <;> omega))

theorem decode_multibyte {c : UInt8} {t : Bytes} {r w : Nat} (hc : 0x80 ≤ c.toNat) (h : Utf8.decode (c :: t) = some (r, w)) :
    2 ≤ w ∧ (w = 2 → r < 0x800) := by
  obtain ⟨p, u, -, rfl, hp⟩ := Utf8.seq_of_decode h
  rcases Utf8.decode_cases h with ⟨h1, -⟩ | ⟨-, -, h2, -⟩
  · omega
  · refine ⟨h2, fun e2 => ?_⟩
    have := hp.length_eq
    repeat' split at this
    all_goals omega

open ModVerif.Proofs.ModfileFmtQuote (badHead stepOut qbody quote_eq_qbody) in
/-- one round of `quoteLoop` (`stepOut` of Proofs/ModfileFmtQuoteString.lean) -/
theorem stepOut_bound (c : UInt8) (t : Bytes) :
    1 ≤ (Utf8.decodeRune (c :: t)).2 ∧ (Utf8.decodeRune (c :: t)).2 ≤ t.length + 1 ∧
      (stepOut (c :: t)).length ≤ 4 * (Utf8.decodeRune (c :: t)).2 := by
  by_cases hc : c.toNat ≥ 0x80
  · cases hd : Utf8.decode (c :: t) with
    | none =>
      have hdr : Utf8.decodeRune (c :: t) = (Utf8.runeError, 1) := by simp only [Utf8.decodeRune, hd]
      simp [stepOut, badHead, hdr]
    | some rw =>
      obtain ⟨r, w⟩ := rw
      have hdr : Utf8.decodeRune (c :: t) = (r, w) := by simp only [Utf8.decodeRune, hd]
      obtain ⟨h2, hr⟩ := decode_multibyte hc hd
      have hb : badHead (c :: t) = false := by
        simp only [badHead, hdr, Bool.and_eq_false_iff, beq_eq_false_iff_ne]; left; omega
      simp only [stepOut, hb, hdr, Bool.false_eq_true, if_false]
      refine ⟨by omega, (GoRtStr.decode_width hd).2, ?_⟩
      show (Quote.appendEscapedRune r).length ≤ 4 * w
      by_cases hw2 : w = 2
      · have := appendEscapedRune_length6 r (hr hw2); omega
      · have := appendEscapedRune_length r; omega
  · have hdr := Utf8.decodeRune_ascii c t (by omega)
    have hb : badHead (c :: t) = false := by
      simp only [badHead, hdr, Bool.and_eq_false_iff, beq_eq_false_iff_ne, Utf8.runeError]; right; omega
    simp only [stepOut, hb, hdr, Bool.false_eq_true, if_false]
    exact ⟨Nat.le_refl _, by omega, appendEscapedRune_length4 c.toNat (by omega)⟩

open ModVerif.Proofs.ModfileFmtQuote (qbody) in
theorem qbody_length : ∀ (fuel : Nat) (s : Bytes), (qbody fuel s).length ≤ 4 * s.length
  | 0, s => by simp [qbody]
  | fuel + 1, [] => by simp [qbody]
  | fuel + 1, c :: t => by
    obtain ⟨h1, h2, h3⟩ := stepOut_bound c t
    have := qbody_length fuel ((c :: t).drop (Utf8.decodeRune (c :: t)).2)
    simp only [qbody, List.length_append, List.length_drop, List.length_cons] at this ⊢
    omega

/-- the constant 4 is attained (`\x00`) -/
theorem quote_length (s : Bytes) : (Quote.quote s).length ≤ 4 * s.length + 2 := by
  have := qbody_length (s.length + 1) s
  rw [Proofs.ModfileFmtQuote.quote_eq_qbody]
  simp only [List.length_cons, List.length_append, List.length_nil]; omega

example : (Quote.quote [0, 0, 0]).length = 4 * 3 + 2 := by decide +kernel

theorem autoQuote_length (s : Bytes) : (autoQuote s).length ≤ 4 * s.length + 2 := by
  unfold autoQuote
  split
  · exact quote_length s
  · omega

theorem qsz_le (s : Bytes) : qsz s ≤ 5 * s.length + 2 := by
  have := autoQuote_length s; unfold qsz; omega

/-! ### the size of an operation from the BYTE LENGTHS of its arguments alone -/

def reqRaw (r : EditSpec.Req) : Nat := r.path.length + r.vers.length + 4

def rawSize : EditSpec.Op → Nat
  | .addModule p => p.length + 1
  | .addGo v => v.length + 1
  | .dropGo => 0
  | .addToolchain n => n.length + 1
  | .dropToolchain => 0
  | .addGodebug k v => k.length + v.length + 2
  | .dropGodebug k => k.length + 1
  | .addRequire p v => p.length + v.length + 2
  | .addNewRequire p v _ => p.length + v.length + 2
  | .dropRequire p => p.length + 1
  | .setRequire l => (l.map reqRaw).sum
  | .setRequireSeparateIndirect l => (l.map reqRaw).sum
  | .addExclude p v => p.length + v.length + 2
  | .dropExclude p v => p.length + v.length + 2
  | .addReplace a b c d => a.length + b.length + c.length + d.length + 4
  | .dropReplace a b => a.length + b.length + 2
  | .addRetract lo hi why => lo.length + hi.length + why.length + 3
  | .dropRetract lo hi => lo.length + hi.length + 2
  | .addTool p => p.length + 1
  | .dropTool p => p.length + 1
  | .sortBlocks => 0
  | .cleanup => 0
  | .addUse d m => d.length + m.length + 2
  | .addNewUse d m => d.length + m.length + 2
  | .dropUse d => d.length + 1
  | .setUse w => (w.map fun x => x.1.length + x.2.length + 1).sum

theorem reqSize_le (r : EditSpec.Req) : reqSize r ≤ 5 * reqRaw r := by
  have := qsz_le r.path; unfold reqSize reqRaw; omega

theorem reqSizes_le : ∀ l : List EditSpec.Req, (l.map reqSize).sum ≤ 5 * (l.map reqRaw).sum
  | [] => by simp
  | r :: l => by
    have := reqSize_le r; have := reqSizes_le l
    simp only [List.map_cons, List.sum_cons]; omega

theorem opSize_le (op : EditSpec.Op) : opSize op ≤ 5 * rawSize op := by
  cases op <;> simp only [opSize, rawSize]
  case setRequire l => exact reqSizes_le l
  case setRequireSeparateIndirect l => exact reqSizes_le l
  case addModule p => have := qsz_le p; omega
  case addRequire p v => have := qsz_le p; omega
  case addNewRequire p v i => have := qsz_le p; omega
  case addExclude p v => have := qsz_le p; omega
  case addReplace a b c d => have := qsz_le a; have := qsz_le c; omega
  case addRetract lo hi why => have := qsz_le lo; have := qsz_le hi; omega
  all_goals omega

def opsR (ops : List EditSpec.Op) : Nat := (ops.map fun op => 20 * rawSize op + 32).sum

theorem opsG_le : ∀ ops : List EditSpec.Op, opsG ops ≤ opsR ops
  | [] => by simp [opsR]
  | op :: ops => by
    have := opSize_le op; have := opsG_le ops
    simp only [opsG_cons, opsR, List.map_cons, List.sum_cons, G] at *; omega

end ModVerif.Tie.FnEditFuelF
