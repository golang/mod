/-
  Tie proofs, sumdb/client.go (merge unit): size facts about the model.
  * a proof made by `Tlog.proveTree(t, n, _)` has at most `t` hashes (needed for the range hypothesis `len(p) < 2^63` of
    the `CheckTree` tie and for the fuel of the loop over the proof lines);
  * `TlogNote.parseTree` answers sizes `≥ 0`;
  * the index lists of `TreeHash` / `ProveTree` are short (`subTreeIndex` ≤ 63 entries, `treeProofIndex` ≤ 63·63): the
    `len(indexes) < 2^56` range hypothesis of the tile tie.
-/
import ModVerif.Model.Client
import ModVerif.Proofs.TlogMerkleProve
namespace ModVerif.TieFnClientMerge
open ModVerif ModVerif.Client

section
variable {H : Type} (node : H → H → H)

theorem bind_ok_inv {ε α β : Type} {x : Except ε α} {f : α → Except ε β} {b : β} (h : (x >>= f) = .ok b) :
    ∃ a, x = .ok a ∧ f a = .ok b := by
  cases x with
  | error e => cases h
  | ok a => exact ⟨a, rfl, h⟩

theorem treeProofF_length : ∀ (f lo hi n : Nat) (hs p r : List H),
    Tlog.treeProofF node f lo hi n hs = .ok (p, r) → p.length ≤ f := by
  intro f
  induction f with
  | zero => intro lo hi n hs p r h; simp [Tlog.treeProofF] at h
  | succ f ih =>
    intro lo hi n hs p r h
    unfold Tlog.treeProofF at h
    split at h
    · cases h
    · split at h
      · split at h
        · cases h; simp
        · obtain ⟨a, _, h2⟩ := bind_ok_inv h
          obtain ⟨th, hashes⟩ := a
          simp only [pure, Except.pure] at h2
          cases h2; simp
      · simp only at h
        split at h
        · obtain ⟨a, h1, h2⟩ := bind_ok_inv h
          obtain ⟨p1, hashes1⟩ := a
          simp only at h2
          obtain ⟨b, _, h3⟩ := bind_ok_inv h2
          obtain ⟨th, hashes2⟩ := b
          simp only [pure, Except.pure] at h3
          cases h3
          have := ih _ _ _ _ _ _ h1
          simp; omega
        · obtain ⟨a, _, h2⟩ := bind_ok_inv h
          obtain ⟨th, hashes1⟩ := a
          simp only at h2
          obtain ⟨b, h3, h4⟩ := bind_ok_inv h2
          obtain ⟨p1, hashes2⟩ := b
          simp only [pure, Except.pure] at h4
          cases h4
          have := ih _ _ _ _ _ _ h3
          simp; omega

theorem proveTree_length (t n : Int) (r : Tlog.HashReader H) (p : List H)
    (h : Tlog.proveTree node t n r = .ok p) : p.length ≤ t.toNat := by
  unfold Tlog.proveTree at h
  split at h
  · cases h
  · obtain ⟨idx, _, h⟩ := bind_ok_inv h
    split at h
    · simp only [pure, Except.pure] at h; cases h; simp
    · obtain ⟨hashes, _, h⟩ := bind_ok_inv h
      obtain ⟨a, h1, h⟩ := bind_ok_inv h
      obtain ⟨p1, rest⟩ := a
      simp only at h
      split at h
      · cases h
      · simp only [pure, Except.pure] at h
        cases h
        have := treeProofF_length node _ _ _ _ _ _ _ h1
        simpa [Tlog.treeProof] using this

end

section
variable {σ H : Type} [DecidableEq H]

theorem liftTlog_ok_inv {α : Type} {x : Except Tlog.Err α} {a : α} (h : liftTlog x = .ok a) : x = .ok a := by
  cases x with
  | ok b => simpa [liftTlog] using h
  | error e => simp [liftTlog] at h

theorem proveTreeVia_length (P : Params H) (E : Env σ) (w : World σ H) (t n : Nat) (tree : Head H) (p : List H)
    (h : (proveTreeVia P E w t n tree).1 = .ok p) : p.length ≤ t := by
  unfold proveTreeVia at h
  split at h
  · cases h
  · split at h
    · cases h
    · split at h
      · simp only at h; cases h; simp
      · simp only at h
        split at h
        · cases h
        · have := proveTree_length P.node _ _ _ _ (liftTlog_ok_inv h)
          simpa using this

end


/-! ### the index lists of `TreeHash` / `ProveTree` are short -/

/-- `subTreeIndex(lo, hi)` has at most `m` entries when `hi - lo < 2^m` (one per binary digit) -/
theorem subTreeIndexF_length : ∀ (f m lo hi : Nat) (l : List Nat), Tlog.subTreeIndexF f lo hi = .ok l →
    hi - lo < 2 ^ m → hi - lo < 2 ^ 63 → l.length ≤ m := by
  intro f
  induction f with
  | zero =>
    intro m lo hi l h _ _
    unfold Tlog.subTreeIndexF at h
    split at h
    · cases h
    · cases h; simp
  | succ f ih =>
    intro m lo hi l h hm h63
    unfold Tlog.subTreeIndexF at h
    split at h
    · rename_i hlt
      simp only at h
      have hs := Tlog.maxpow2_succ_spec (hi - lo) (by omega) h63
      have e : hi - lo + 1 = hi - lo + 1 := rfl
      generalize hk : Tlog.maxpow2 (hi - lo + 1) = kl at h hs
      obtain ⟨k, level⟩ := kl
      simp only at h hs
      obtain ⟨hk1, hk2, hk3⟩ := hs
      split at h
      · cases h
      · obtain ⟨rest, hr, h2⟩ := bind_ok_inv h
        simp only [pure, Except.pure] at h2
        cases h2
        have hrest := ih level (lo + k) hi rest hr (by omega) (by omega)
        have hlm : level < m := by
          apply Nat.lt_of_not_le; intro hc
          have : 2 ^ m ≤ 2 ^ level := Nat.pow_le_pow_right (by omega) hc
          omega
        simp only [List.length_cons]; omega
    · cases h; simp

theorem subTreeIndex_length (lo hi : Nat) (l : List Nat) (h : Tlog.subTreeIndex lo hi = .ok l) (h63 : hi - lo < 2 ^ 63) :
    l.length ≤ 63 :=
  subTreeIndexF_length _ 63 lo hi l h h63 h63

/-- `treeProofIndex(lo, hi, n)`: at most 63 entries per level of the recursion, at most `m + 1` levels when `hi - lo ≤ 2^m` -/
theorem treeProofIndexF_length : ∀ (f m lo hi n : Nat) (l : List Nat), Tlog.treeProofIndexF f lo hi n = .ok l →
    hi - lo ≤ 2 ^ m → m ≤ 62 → l.length ≤ 63 * (m + 1) := by
  intro f
  induction f with
  | zero => intro m lo hi n l h; simp [Tlog.treeProofIndexF] at h
  | succ f ih =>
    intro m lo hi n l h hm h62
    have hpow : 2 ^ m ≤ 2 ^ 62 := Nat.pow_le_pow_right (by omega) h62
    unfold Tlog.treeProofIndexF at h
    split at h
    · cases h
    · rename_i hcond
      simp only [Bool.not_eq_true, Bool.not_eq_false', Bool.and_eq_true, decide_eq_true_eq] at hcond
      split at h
      · split at h
        · cases h; simp
        · have := subTreeIndex_length lo hi l h (by omega)
          omega
      · rename_i hne
        simp only [beq_iff_eq] at hne
        have hs := Tlog.maxpow2_split_spec (hi - lo) (by omega) (by omega)
        generalize hk : Tlog.maxpow2 (hi - lo) = kl at h hs
        obtain ⟨k, j⟩ := kl
        simp only at h hs
        obtain ⟨hk1, hk2, hk3, _⟩ := hs
        have hjm : j < m := by
          apply Nat.lt_of_not_le; intro hc
          have : 2 ^ m ≤ 2 ^ j := Nat.pow_le_pow_right (by omega) hc
          omega
        have hj1 : 2 ^ j ≤ 2 ^ (m - 1) := Nat.pow_le_pow_right (by omega) (by omega)
        split at h
        · obtain ⟨a, ha, h2⟩ := bind_ok_inv h
          obtain ⟨b, hb, h3⟩ := bind_ok_inv h2
          simp only [pure, Except.pure] at h3
          cases h3
          have h1 := ih (m - 1) lo (lo + k) n a ha (by omega) (by omega)
          have h2' := subTreeIndex_length (lo + k) hi b hb (by omega)
          have : 63 * (m - 1 + 1) + 63 ≤ 63 * (m + 1) := by
            have : m - 1 + 1 = m := by omega
            rw [this]; omega
          simp only [List.length_append]; omega
        · obtain ⟨a, ha, h2⟩ := bind_ok_inv h
          obtain ⟨b, hb, h3⟩ := bind_ok_inv h2
          simp only [pure, Except.pure] at h3
          cases h3
          have h1 := subTreeIndex_length lo (lo + k) a ha (by omega)
          have h2' := ih (m - 1) (lo + k) hi n b hb (by omega) (by omega)
          have : 63 * (m - 1 + 1) + 63 ≤ 63 * (m + 1) := by
            have : m - 1 + 1 = m := by omega
            rw [this]; omega
          simp only [List.length_append]; omega

theorem treeProofIndex_length (t n : Nat) (l : List Nat) (h : Tlog.treeProofIndex 0 t n = .ok l) (ht : t ≤ 2 ^ 62) :
    l.length ≤ 63 * 63 :=
  treeProofIndexF_length _ 62 0 t n l h (by omega) (Nat.le_refl _)

theorem parseTree_nonneg (text : Bytes) (t : TlogNote.Tree) (h : TlogNote.parseTree text = some t) : 0 ≤ t.n := by
  unfold TlogNote.parseTree at h
  split at h
  · cases h
  · split at h
    · split at h
      · cases h
      · split at h
        · cases h
        · split at h
          · cases h
          · split at h
            · cases h
            · rename_i n _ hneg _ _ _ _
              cases h
              simp only [Bool.or_eq_true, decide_eq_true_eq, not_or, Int.not_lt] at hneg
              exact hneg.1
    · cases h

end ModVerif.TieFnClientMerge
