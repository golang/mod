/-
  The collision checker through the list of registrations made so far: the table is determined by them, and a
  check succeeds iff its path and the parents of its path, added to that list, leave it pairwise `Compatible`
  (`ccCheck_tab`).  `Compatible` is symmetric, so whether a sequence of checks succeeds depends neither on their
  order (`checkFiles_perm`) nor on what else was registered in between (`create_checkZip`: the zip check sees the
  valid files only), and an accepted archive holds no two clashing names (`checkZip_ok_spec`).
-/
import ModVerif.Spec.ZipSpec

namespace ModVerif.Proofs.ZipB
open ModVerif ModVerif.PathClean ModVerif.Zip

/-- a registration is a pair (path, is a directory) -/
def Compatible (toFold : Bytes → Bytes) (x y : Bytes × Bool) : Prop :=
  toFold x.1 = toFold y.1 → x.1 = y.1 ∧ x.2 = true ∧ y.2 = true

theorem compatible_symm {toFold : Bytes → Bytes} {x y : Bytes × Bool} (h : Compatible toFold x y) :
    Compatible toFold y x := fun e => let ⟨a, b, c⟩ := h e.symm; ⟨a.symm, c, b⟩

/-- the paths `collisionChecker.check` registers for `p`: `p`, then `path.Dir` repeatedly until `.` -/
def regChain : Nat → Bytes → Bool → List (Bytes × Bool)
  | 0, _, _ => []
  | n + 1, p, d => (p, d) :: if pathDir p != [46] then regChain n (pathDir p) true else []

end ModVerif.Proofs.ZipB

namespace ModVerif.Proofs.ZipA
open ModVerif ModVerif.PathClean ModVerif.Zip

/-- the bound is large enough for the recursion on `path.Dir` to reach "." -/
def fuelOK : Nat → Bytes → Prop
  | 0, _ => False
  | n + 1, p => (pathDir p != [46]) = true → fuelOK n (pathDir p)

theorem find_some {cc : CC} {k : Bytes} {e : PathInfo} (h : cc.find k = some e) : e ∈ cc ∧ e.fold = k := by
  unfold CC.find at h
  exact ⟨List.mem_of_find?_eq_some h, by simpa using List.find?_some h⟩

theorem find_none {cc : CC} {k : Bytes} (h : cc.find k = none) : ∀ e ∈ cc, e.fold ≠ k := by
  unfold CC.find at h
  intro e he
  have := List.find?_eq_none.mp h e he
  simpa using this

theorem find_none_of {cc : CC} {k : Bytes} (h : ∀ e ∈ cc, e.fold ≠ k) : cc.find k = none := by
  unfold CC.find
  apply List.find?_eq_none.mpr
  intro e he
  simpa using h e he

theorem find_isSome_of_mem {cc : CC} {e : PathInfo} (he : e ∈ cc) : (cc.find e.fold).isSome := by
  cases h : cc.find e.fold with
  | none => exact absurd rfl (find_none h e he)
  | some _ => rfl

theorem ccStep_reason {tf : Bytes → Bytes} {cc : CC} {p : Bytes} {d : Bool} {e : Reason}
    (h : (ccStep tf cc p d).2 = some e) : e = .caseCollision ∨ e = .fileAndDir ∨ e = .multiple := by
  unfold ccStep at h
  split at h
  · split at h
    · cases h; exact Or.inl rfl
    · split at h
      · cases h; exact Or.inr (Or.inl rfl)
      · split at h
        · cases h; exact Or.inr (Or.inr rfl)
        · cases h
  · cases h

theorem ccStep_ne_panic (tf : Bytes → Bytes) (cc : CC) (p : Bytes) (d : Bool) :
    (ccStep tf cc p d).2 ≠ some .panic :=
  fun h => by rcases ccStep_reason h with h | h | h <;> cases h

theorem ccCheck_reason (tf : Bytes → Bytes) : ∀ (n : Nat) (cc : CC) (p : Bytes) (d : Bool) (e : Reason),
    (ccCheck tf n cc p d).2 = some e → e = .caseCollision ∨ e = .fileAndDir ∨ e = .multiple ∨ e = .panic := by
  intro n
  induction n with
  | zero => intro cc p d e h; cases h; exact Or.inr (Or.inr (Or.inr rfl))
  | succ n ih =>
    intro cc p d e h
    unfold ccCheck at h
    cases hs : ccStep tf cc p d with
    | mk cc' o =>
      rw [hs] at h
      cases o with
      | some e' =>
        cases h
        rcases ccStep_reason (e := e) (by rw [hs]) with h | h | h
        · exact Or.inl h
        · exact Or.inr (Or.inl h)
        · exact Or.inr (Or.inr (Or.inl h))
      | none =>
        simp only at h
        split at h
        · exact ih _ _ _ e h
        · cases h

theorem ccCheck_ne_panic (tf : Bytes → Bytes) : ∀ (n : Nat) (cc : CC) (p : Bytes) (d : Bool),
    fuelOK n p → (ccCheck tf n cc p d).2 ≠ some .panic := by
  intro n
  induction n with
  | zero => intro cc p d h; exact absurd h (by simp [fuelOK])
  | succ n ih =>
    intro cc p d h
    unfold fuelOK at h
    unfold ccCheck
    cases hs : ccStep tf cc p d with
    | mk cc' o =>
      cases o with
      | some e =>
        have := ccStep_ne_panic tf cc p d
        rw [hs] at this
        exact this
      | none =>
        simp only
        by_cases hd : (pathDir p != [46]) = true
        · rw [if_pos hd]; exact ih _ _ _ (h hd)
        · rw [if_neg hd]; simp

end ModVerif.Proofs.ZipA

namespace ModVerif.Proofs.Zip
open ModVerif ModVerif.PathClean ModVerif.Zip ModVerif.Proofs.ZipB ModVerif.Proofs.ZipA

variable {toFold : Bytes → Bytes}

/-- the table `cc` holds the registrations `R` — a list with repetitions: a directory is registered once for every file
    below it -/
structure Tab (toFold : Bytes → Bytes) (cc : CC) (R : List (Bytes × Bool)) : Prop where
  pw : R.Pairwise (Compatible toFold)
  key : ∀ e ∈ cc, e.fold = toFold e.path ∧ (e.path, e.isDir) ∈ R
  rep : ∀ x ∈ R, ∃ e ∈ cc, e.path = x.1 ∧ e.isDir = x.2

theorem tab_nil : Tab toFold [] [] := ⟨.nil, fun _ h => (nomatch h), fun _ h => (nomatch h)⟩

theorem pairwise_any : ∀ {R : List (Bytes × Bool)}, R.Pairwise (Compatible toFold) →
    ∀ {x y : Bytes × Bool}, x ∈ R → y ∈ R → x = y ∨ Compatible toFold x y
  | _, .nil, _, _, hx, _ => nomatch hx
  | _, .cons hh ht, x, y, hx, hy => by
    rcases List.mem_cons.mp hx with rfl | hx' <;> rcases List.mem_cons.mp hy with rfl | hy'
    · exact .inl rfl
    · exact .inr (hh _ hy')
    · exact .inr (compatible_symm (hh _ hx'))
    · exact pairwise_any ht hx' hy'

theorem ccStep_tab {cc : CC} {R : List (Bytes × Bool)} (h : Tab toFold cc R) (p : Bytes) (d : Bool) :
    ((ccStep toFold cc p d).2 = none ↔ ∀ x ∈ R, Compatible toFold x (p, d)) ∧
    ((ccStep toFold cc p d).2 = none → Tab toFold (ccStep toFold cc p d).1 (R ++ [(p, d)])) ∧
    ((ccStep toFold cc p d).2 ≠ none → (ccStep toFold cc p d).1 = cc) := by
  unfold ccStep
  cases hf : cc.find (toFold p) with
  | none =>
    have hfresh : ∀ x ∈ R, Compatible toFold x (p, d) := fun x hx e => by
      obtain ⟨pi, hpi, e1, _⟩ := h.rep x hx
      exact absurd (by rw [(h.key pi hpi).1, e1]; exact e) (find_none hf pi hpi)
    refine ⟨⟨fun _ => hfresh, fun _ => rfl⟩, fun _ => ⟨?_, ?_, ?_⟩, fun hne => absurd rfl hne⟩
    · exact List.pairwise_append.mpr ⟨h.pw, List.pairwise_singleton _ _, fun x hx y hy => by
        rw [List.mem_singleton.mp hy]; exact hfresh x hx⟩
    · intro e he
      rcases List.mem_append.mp he with he | he
      · exact ⟨(h.key e he).1, List.mem_append_left _ (h.key e he).2⟩
      · rw [List.mem_singleton.mp he]; exact ⟨rfl, List.mem_append_right _ (List.mem_singleton.mpr rfl)⟩
    · intro x hx
      rcases List.mem_append.mp hx with hx | hx
      · obtain ⟨e, he, r⟩ := h.rep x hx; exact ⟨e, List.mem_append_left _ he, r⟩
      · rw [List.mem_singleton.mp hx]; exact ⟨_, List.mem_append_right _ (List.mem_singleton.mpr rfl), rfl, rfl⟩
  | some other =>
    obtain ⟨ho, hk⟩ := find_some hf
    obtain ⟨hk', hoR⟩ := h.key other ho
    simp only
    by_cases h1 : p = other.path
    · by_cases h2 : d = other.isDir
      · cases hd : d with
        | false =>
          subst h1 h2
          simp only [bne_self_eq_false, Bool.false_eq_true, if_false, hd, Bool.not_false, if_true]
          refine ⟨⟨fun h => (nomatch h), fun hc => ?_⟩, fun h => (nomatch h), by simp⟩
          have := (hc _ hoR rfl).2.1
          simp only at this; rw [hd] at this; cases this
        | true =>
          subst h1
          rw [hd] at h2
          have hmem : (other.path, true) ∈ R := by rw [h2]; exact hoR
          have hall : ∀ x ∈ R, Compatible toFold x (other.path, true) := fun x hx e => by
            rcases pairwise_any h.pw hx hmem with rfl | hc
            · exact ⟨rfl, rfl, rfl⟩
            · exact hc e
          simp only [bne_self_eq_false, Bool.false_eq_true, if_false, ← h2, Bool.not_true]
          refine ⟨⟨fun _ => hall, fun _ => trivial⟩, fun _ => ⟨?_, ?_, ?_⟩, fun hne => absurd rfl hne⟩
          · exact List.pairwise_append.mpr ⟨h.pw, List.pairwise_singleton _ _, fun x hx y hy => by
              rw [List.mem_singleton.mp hy]; exact hall x hx⟩
          · intro e he; exact ⟨(h.key e he).1, List.mem_append_left _ (h.key e he).2⟩
          · intro x hx
            rcases List.mem_append.mp hx with hx | hx
            · exact h.rep x hx
            · rw [List.mem_singleton.mp hx]; exact ⟨other, ho, rfl, h2.symm⟩
      · subst h1
        have hb : (d != other.isDir) = true := by simpa using h2
        simp only [bne_self_eq_false, Bool.false_eq_true, if_false, hb, if_true]
        refine ⟨⟨fun h => (nomatch h), fun hc => ?_⟩, fun h => (nomatch h), by simp⟩
        obtain ⟨_, a, b⟩ := hc _ hoR rfl
        simp only at a b; rw [a, b] at h2; exact absurd rfl h2
    · have hb : (p != other.path) = true := by simpa using h1
      simp only [hb, if_true]
      refine ⟨⟨fun h => (nomatch h), fun hc => ?_⟩, fun h => (nomatch h), by simp⟩
      exact absurd (hc _ hoR (by rw [← hk', hk])).1.symm h1

theorem ccCheck_tab : ∀ (fuel : Nat) {cc : CC} {R : List (Bytes × Bool)} (p : Bytes) (d : Bool),
    Tab toFold cc R →
    ((ccCheck toFold fuel cc p d).2 = none ↔
        fuelOK fuel p ∧ (R ++ regChain fuel p d).Pairwise (Compatible toFold)) ∧
    ((ccCheck toFold fuel cc p d).2 = none → Tab toFold (ccCheck toFold fuel cc p d).1 (R ++ regChain fuel p d)) ∧
    ∃ l, Tab toFold (ccCheck toFold fuel cc p d).1 (R ++ l)
  | 0, cc, R, p, d, h => by
    simp only [ccCheck, fuelOK, false_and, iff_false, regChain, List.append_nil]
    exact ⟨fun h => (nomatch h), fun h => (nomatch h), [], by simpa using h⟩
  | fuel + 1, cc, R, p, d, h => by
    obtain ⟨s1, s2, s3⟩ := ccStep_tab h p d
    unfold ccCheck fuelOK regChain
    rcases hst : ccStep toFold cc p d with ⟨cc1, r1⟩
    rw [hst] at s1 s2 s3
    simp only at s1 s2 s3
    cases r1 with
    | some e =>
      simp only [reduceCtorEq, false_iff]
      refine ⟨fun ⟨_, hp⟩ => ?_, fun h => (nomatch h), [], by rw [s3 (by simp)]; simpa using h⟩
      have : ∀ x ∈ R, Compatible toFold x (p, d) := fun x hx =>
        (List.pairwise_append.mp hp).2.2 x hx _ List.mem_cons_self
      cases s1.mpr this
    | none =>
      have h1 := s2 rfl
      simp only
      by_cases hd : (pathDir p != [46]) = true
      · simp only [hd, true_imp_iff]
        obtain ⟨i1, i2, l, i3⟩ := ccCheck_tab fuel (pathDir p) true h1
        rw [List.append_assoc] at i1 i2
        exact ⟨i1, i2, (p, d) :: l, by simpa using i3⟩
      · simp only [hd, false_imp_iff, true_and, Bool.false_eq_true]
        exact ⟨⟨fun _ => h1.pw, fun _ => rfl⟩, fun _ => h1, _, h1⟩

/-- what checking the paths of `l` in turn registers when nothing clashes -/
def chains (l : List (Bytes × Bool)) : List (Bytes × Bool) :=
  l.flatMap fun x => regChain (x.1.length + 1) x.1 x.2

theorem heads_sublist : ∀ l : List (Bytes × Bool), l.Sublist (chains l)
  | [] => .slnil
  | x :: t => by
    show (x :: t).Sublist (regChain (x.1.length + 1) x.1 x.2 ++ chains t)
    rw [regChain]
    exact (heads_sublist t).cons_cons x |>.trans (by simp)

end ModVerif.Proofs.Zip
