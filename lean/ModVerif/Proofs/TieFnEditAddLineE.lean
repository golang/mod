/-
  `FileSyntax.addLine` composed: the function is the no-hint search, then the hinted part, then the final append.  `k24`,
  `k93` are two of the generator's continuations (join points of the Go control flow, numbered by the generator) given a
  name here so that the parts can be stated separately.  Result: `addLine_sim` on `RepSynAt`, `addLine_rep` on `RepSyn`.
-/
import ModVerif.Proofs.TieFnEditAddLineD
namespace ModVerif.TieFnEditAddLine
open ModVerif ModVerif.GoRt
open ModVerif.Generated.Edit
open ModVerif.Tie.FnEditRep
open ModVerif.Modfile.Edit (treeIds addLineWalk Hint mkLine headIs insertAfterId lastStmtWith)

/-- the final `new := &Line{Token: tokens}; x.Stmt = append(x.Stmt, new)` -/
def k24 (x : Int) (tokens : List Bytes) (world : Heap) : M (Int × Heap) := do
  let (p20, hl) := heapAlloc ((world).lines) ({ (default : Line) with Token := tokens } : Line)
  let world := { (world) with lines := hl }
  let new_1 := p20
  let t21 ← heapGet ((world).files) x
  let t22 ← heapGet ((world).files) x
  let t23 ← heapSet ((world).files) x { (t22) with Stmt := ((t21.Stmt) ++ [(Expr.Line new_1)]) }
  let world := { (world) with files := t23 }
  pure (new_1, world)

/-- the part under `if hint != nil` -/
def k93 (fuel : Nat) (x : Int) (tokens : List Bytes) (world : Heap) (hint : Expr) : M (Int × Heap) :=
  if (!decide (hint = (Expr.nil))) then (do
    let t25 ← heapGet ((world).files) x
    let r91 ← FileSyntax_addLine_loop1 (t25.Stmt) x hint tokens fuel (0 : Int) world
    match r91 with
    | Ctl.ret rv92 => (pure rv92)
    | Ctl.next (_, world) => (k24 x tokens world)) else (k24 x tokens world)

theorem addLine_unfold (fuel : Nat) (x : Int) (hint : Expr) (tokens : List Bytes) (world : Heap) :
    FileSyntax_addLine fuel x hint tokens world =
      if (decide (hint = (Expr.nil))) then (do
        let t94 ← heapGet ((world).files) x
        let r ← FileSyntax_addLine_loop3 x tokens world fuel hint ((len (t94.Stmt)) - (1 : Int))
        k93 fuel x tokens world r.1) else (k93 fuel x tokens world hint) := rfl


theorem k24_eq {h : Heap} {x : Int} {fo : FileSyntax} (hf : heapGet h.files x = .ok fo) (tokens : List Bytes) :
    k24 x tokens h = .ok (((h.lines.length + 1 : Nat) : Int),
      { h with lines := h.lines ++ [({ (default : Line) with Token := tokens } : Line)],
               files := h.files.set (x.toNat - 1)
                 { fo with Stmt := fo.Stmt ++ [Expr.Line ((h.lines.length + 1 : Nat) : Int)] } }) := by
  unfold k24
  simp only [heapAlloc, hf, bind_ok, heapSet_of_get _ hf, pure_eq_ok]

def AddRes (x : Int) (fs : Modfile.FileSyntax) (h : Heap) (res : M (Int × Heap)) (stmts' : List Modfile.Expr) : Prop :=
  ∃ h', res = .ok (((h.lines.length + 1 : Nat) : Int), h') ∧ RepSyn h' x { fs with stmts := stmts' } ∧
    BlockTokOK stmts' ∧ (LinesG h → LinesG h') ∧ h'.lines.length = h.lines.length + 1 ∧
    h.blocks.length ≤ h'.blocks.length ∧ Frame h h' ∧ (∀ q, q ≠ x → heapGet h'.files q = heapGet h.files q)

theorem files_other {h h' : Heap} {x : Int} {fo v : FileSyntax} (hf : heapGet h.files x = .ok fo)
    (he : h'.files = h.files.set (x.toNat - 1) v) : ∀ q, q ≠ x → heapGet h'.files q = heapGet h.files q := by
  intro q hq
  rw [he, heapGet_listSet_other _ hf hq]

theorem nodup_ids_new {h : Heap} {es : List Expr} {ss ss' : List Modfile.Expr} (rs : RStmts h es ss)
    (nd : (treeIds ss).Nodup) (hp : (stmtIds ss').Perm ((h.lines.length + 1) :: stmtIds ss)) : (treeIds ss').Nodup := by
  rw [treeIds_eq_stmtIds] at nd ⊢
  rw [hp.nodup_iff]
  refine List.nodup_cons.2 ⟨fun hm => ?_, nd⟩
  rw [← treeIds_eq_stmtIds] at hm
  have := (rs.treeIds_le _ hm).2
  omega

/-- no hint found (or the hint is not in the graph): the line is appended to the file -/
theorem append_res {h : Heap} {x : Int} {fs : Modfile.FileSyntax} {es : List Expr} (r : RepSynAt h x fs es)
    (htok : BlockTokOK fs.stmts) (tokens : List Bytes) :
    AddRes x fs h (k24 x tokens h) (fs.stmts ++ [.line (mkLine (h.lines.length + 1) tokens false)]) := by
  refine ⟨_, k24_eq r.file tokens, ⟨es ++ [Expr.Line ((h.lines.length + 1 : Nat) : Int)], ?_, ?_, ?_, ?_⟩, ?_, ?_, ?_,
    Nat.le_refl _, ⟨rfl, rfl, rfl, rfl, rfl, rfl, rfl, rfl, rfl, rfl, rfl, rfl, rfl⟩, files_other r.file rfl⟩
  · show heapGet (h.files.set (x.toNat - 1) _) x = _
    rw [heapGet_listSet_same _ r.file]; rfl
  · refine RStmts.append (RStmts_allocLine _ _ r.stmts) ?_
    exact ⟨⟨heapGet_alloc_new _ _, rfl⟩, trivial⟩
  · rw [blockPtrs_append]; simpa [blockPtrs] using r.nodupB
  · refine nodup_ids_new r.stmts r.nodupL ?_
    rw [stmtIds_append]
    simp only [stmtIds, mkLine]
    exact List.perm_append_singleton _ _
  · exact BlockTokOK_append htok (BlockTokOK_line _)
  · intro hG
    exact (hG.allocLine (mkLine (h.lines.length + 1) tokens false)).congr rfl
  · simp

theorem k93_res {h : Heap} {x : Int} {fs : Modfile.FileSyntax} {es : List Expr} (r : RepSynAt h x fs es)
    (htok : BlockTokOK fs.stmts) (hintE : Expr) (hne : hintE ≠ Expr.nil) (hintM : Hint) (t0 : Bytes) (trest : List Bytes)
    (fuel : Nat)
    (w : WalkRes x (fileG fs es) hintE (t0 :: trest) [] [] fuel h
      (addLineWalk hintM (t0 :: trest) (h.lines.length + 1) fs.stmts 0)) :
    AddRes x fs h (k93 fuel x (t0 :: trest) h hintE)
      (match addLineWalk hintM (t0 :: trest) (h.lines.length + 1) fs.stmts 0 with
       | some stmts => stmts
       | none => fs.stmts ++ [.line (mkLine (h.lines.length + 1) (t0 :: trest) false)]) := by
  unfold k93
  simp only [hne, decide_false, Bool.not_false, if_true, r.file, bind_ok, fileG_Stmt]
  cases hw : addLineWalk hintM (t0 :: trest) (h.lines.length + 1) fs.stmts 0 with
  | none =>
    rw [hw] at w
    simp only [WalkRes, fileG_Stmt] at w
    have w' : FileSyntax_addLine_loop1 es x hintE (t0 :: trest) fuel 0 h = .ok (Ctl.next (len es, h)) := w
    rw [w']
    exact append_res r htok _
  | some ss' =>
    rw [hw] at w
    obtain ⟨h', suf', h1, h2, _, h4, h5⟩ := w
    have h1' : FileSyntax_addLine_loop1 es x hintE (t0 :: trest) fuel 0 h =
        .ok (Ctl.ret (((h.lines.length + 1 : Nat) : Int), h')) := h1
    rw [h1']
    obtain ⟨p1, p2⟩ := walk_ids hintM t0 trest _ _ _ _ hw htok
    refine ⟨h', rfl, ⟨suf', ?_, h4, by simpa using h5, nodup_ids_new r.stmts r.nodupL p1⟩, p2, h2.linesG, h2.lines,
      h2.blocks, h2.frame, files_other r.file h2.files⟩
    show heapGet h'.files x = _
    rw [h2.files, heapGet_listSet_same _ r.file]; rfl


/-- the hint as the Go interface value: nil, or a `*Line` -/
def hintG : Option Nat → Expr
  | none => Expr.nil
  | some id => Expr.Line (id : Int)

theorem addLine_some (fs : Modfile.FileSyntax) (id : Nat) (tokens : List Bytes) (new : Nat) :
    Modfile.Edit.addLine fs (some id) tokens new =
      { fs with stmts := match addLineWalk (.line id) tokens new fs.stmts 0 with
                         | some stmts => stmts
                         | none => fs.stmts ++ [.line (mkLine new tokens false)] } := by
  unfold Modfile.Edit.addLine
  simp only []
  cases addLineWalk (.line id) tokens new fs.stmts 0 <;> rfl

theorem addLine_none (fs : Modfile.FileSyntax) (tokens : List Bytes) (new : Nat) :
    Modfile.Edit.addLine fs none tokens new =
      { fs with stmts := match lastStmtWith (tokens.head?.getD []) fs.stmts 0 none with
                         | none => fs.stmts ++ [.line (mkLine new tokens false)]
                         | some i => match addLineWalk (.stmt i) tokens new fs.stmts 0 with
                           | some stmts => stmts
                           | none => fs.stmts ++ [.line (mkLine new tokens false)] } := by
  unfold Modfile.Edit.addLine
  simp only []
  cases lastStmtWith (tokens.head?.getD []) fs.stmts 0 none with
  | none => rfl
  | some i =>
    simp only []
    cases addLineWalk (.stmt i) tokens new fs.stmts 0 <;> rfl

theorem addLine_sim {h : Heap} {x : Int} {fs : Modfile.FileSyntax} {es : List Expr} (r : RepSynAt h x fs es)
    (htok : BlockTokOK fs.stmts) (hint : Option Nat) (t0 : Bytes) (trest : List Bytes) (fuel : Nat)
    (hfu : nodeCount fs.stmts + 3 ≤ fuel) :
    AddRes x fs h (FileSyntax_addLine fuel x (hintG hint) (t0 :: trest) h)
      (Modfile.Edit.addLine fs hint (t0 :: trest) (h.lines.length + 1)).stmts := by
  have nl : (stmtIds ([] ++ fs.stmts)).Nodup := by
    rw [List.nil_append, ← treeIds_eq_stmtIds]; exact r.nodupL
  rw [addLine_unfold]
  cases hint with
  | some id =>
    simp only [hintG, reduceCtorEq, decide_false, Bool.false_eq_true, if_false]
    rw [addLine_some]
    exact k93_res r htok _ (by simp) (.line id) t0 trest fuel
      (walkLine_sim x (fileG fs es) id t0 trest es fs.stmts [] [] h fuel 0 r.file rfl trivial r.stmts htok
        (by simpa using r.nodupB) nl (by omega))
  | none =>
    simp only [hintG, decide_true, if_true, r.file, bind_ok, fileG_Stmt]
    rw [addLine_none]
    simp only [List.head?_cons, Option.getD_some]
    have hlen := r.stmts.length
    have hcnt : fs.stmts.length ≤ nodeCount fs.stmts := by
      clear r htok nl hfu hlen
      induction fs.stmts with
      | nil => simp [nodeCount]
      | cons s ss ih => cases s <;> simp only [nodeCount, List.length_cons] <;> omega
    have h3 := loop3_sim x (fileG fs es) h r.file t0 trest fs.stmts r.stmts htok es.length fuel (len es - 1)
      (Nat.le_refl _) (by omega) rfl
    rw [List.take_of_length_le (by omega)] at h3
    cases hlast : lastStmtWith t0 fs.stmts 0 none with
    | none =>
      rw [hlast] at h3
      obtain ⟨j, h3⟩ := h3
      rw [h3]
      simp only [bind_ok]
      have : k93 fuel x (t0 :: trest) h Expr.nil = k24 x (t0 :: trest) h := by
        unfold k93; simp
      rw [this]
      exact append_res r htok _
    | some i =>
      rw [hlast] at h3
      obtain ⟨j, e, he, hsn, hm, h3⟩ := h3
      rw [h3]
      simp only [bind_ok]
      have he' : es[i]? = some e := he
      cases hsi : fs.stmts[i]? with
      | none => exact absurd hsi hsn
      | some s =>
        rw [hsi] at hm
        simp only [Option.getD_some] at hm
        have re := r.stmts.get i e s he' hsi
        cases s with
        | commentBlock c => simp [stmtMatch] at hm
        | lparen c => simp [stmtMatch] at hm
        | rparen c => simp [stmtMatch] at hm
        | line l =>
          cases e <;> simp only [RExpr] at re <;> try exact re.elim
          rename_i p
          have hp : p = (l.id : Int) := re.2
          subst hp
          refine k93_res r htok _ (by simp) (.stmt i) t0 trest fuel ?_
          rw [walk_stmt_line (t0 :: trest) _ l fs.stmts 0 i (Nat.zero_le _) (by simpa using hsi)
            (by simpa using nl)]
          exact walkLine_sim x (fileG fs es) l.id t0 trest es fs.stmts [] [] h fuel 0 r.file rfl trivial r.stmts htok
            (by simpa using r.nodupB) nl (by omega)
        | lineBlock b =>
          cases e <;> simp only [RExpr] at re <;> try exact re.elim
          rename_i p
          refine k93_res r htok _ (by simp) (.stmt i) t0 trest fuel ?_
          exact walkBlock_sim x (fileG fs es) p i t0 trest es fs.stmts [] [] h fuel r.file rfl trivial r.stmts htok
            (by simpa using r.nodupB) (by omega) (Nat.zero_le _) (by simpa using he')

theorem addLine_rep {h : Heap} {x : Int} {fs : Modfile.FileSyntax} (r : RepSyn h x fs) (htok : BlockTokOK fs.stmts)
    (hint : Option Nat) (t0 : Bytes) (trest : List Bytes) (fuel : Nat) (hfu : nodeCount fs.stmts + 3 ≤ fuel) :
    ∃ h', FileSyntax_addLine fuel x (hintG hint) (t0 :: trest) h = .ok (((h.lines.length + 1 : Nat) : Int), h') ∧
      RepSyn h' x (Modfile.Edit.addLine fs hint (t0 :: trest) (h.lines.length + 1)) ∧
      BlockTokOK (Modfile.Edit.addLine fs hint (t0 :: trest) (h.lines.length + 1)).stmts ∧
      (LinesG h → LinesG h') ∧ h'.lines.length = h.lines.length + 1 ∧ h.blocks.length ≤ h'.blocks.length ∧
      Frame h h' ∧ (∀ q, q ≠ x → heapGet h'.files q = heapGet h.files q) := by
  obtain ⟨es, r⟩ := r
  obtain ⟨h', h1, h2, h3, h4, h5, h6, h7, h8⟩ := addLine_sim r htok hint t0 trest fuel hfu
  refine ⟨h', h1, ?_, h3, h4, h5, h6, h7, h8⟩
  have e : ({ fs with stmts := (Modfile.Edit.addLine fs hint (t0 :: trest) (h.lines.length + 1)).stmts } :
      Modfile.FileSyntax) = Modfile.Edit.addLine fs hint (t0 :: trest) (h.lines.length + 1) := by
    cases hint with
    | none => rw [addLine_none]
    | some id => rw [addLine_some]
  rw [← e]; exact h2

end ModVerif.TieFnEditAddLine
