/-
  `FileSyntax.Cleanup` (read.go:209), the generated code one step at a time: the inner compaction of a block's lines
  (loop 2, `cl2_sim`) and what one iteration of the outer loop over `x.Stmt` (loop 1, `cl1_…`; `cl1_k9` is the generator's
  continuation `x.Stmt[w] = stmt; w++`) computes, case by case of the Go branches.
-/
import ModVerif.Proofs.TieFnEditAddLineE
import ModVerif.Proofs.TieFnEditTreeA
namespace ModVerif.TieFnEditAddLine
open ModVerif ModVerif.GoRt
open ModVerif.Generated.Edit
open ModVerif.Tie.FnEditRep
open ModVerif.Modfile.Edit (treeIds cleanupStmts cleanupSyntax)

/-! ### `FileSyntax.Cleanup`: the compaction of a block's lines (loop 2) -/

def isLive (l : Modfile.Line) : Bool := !l.token.isEmpty

def livePtrs (ls : List Modfile.Line) : List Int := (ls.filter isLive).map (fun l => (l.id : Int))

structure BFrame (p : Int) (h h' : Heap) : Prop where
  frame : Frame h h'
  lines : h'.lines = h.lines
  files : h'.files = h.files
  blen : h'.blocks.length = h.blocks.length
  other : ∀ q, q ≠ p → heapGet h'.blocks q = heapGet h.blocks q

theorem BFrame.refl (p : Int) (h : Heap) : BFrame p h h := ⟨Frame.refl h, rfl, rfl, rfl, fun _ _ => rfl⟩

theorem BFrame.trans {p : Int} {h1 h2 h3 : Heap} (a : BFrame p h1 h2) (b : BFrame p h2 h3) : BFrame p h1 h3 :=
  ⟨a.frame.trans b.frame, b.lines.trans a.lines, b.files.trans a.files, b.blen.trans a.blen,
   fun q hq => (b.other q hq).trans (a.other q hq)⟩

theorem BFrame.setBlock {h : Heap} {p : Int} {w : LineBlock} (hb : heapGet h.blocks p = .ok w) (v : LineBlock) :
    BFrame p h { h with blocks := h.blocks.set (p.toNat - 1) v } :=
  ⟨⟨rfl, rfl, rfl, rfl, rfl, rfl, rfl, rfl, rfl, rfl, rfl, rfl, rfl⟩, rfl, rfl, by simp,
   fun q hq => heapGet_listSet_other v hb hq⟩

theorem setIdxL_compact {α : Type} (out junk : List α) (v : α) (hj : junk ≠ []) {w : Int} (hw : w = (out.length : Int)) :
    setIdxL (out ++ junk) w v = .ok ((out ++ [v]) ++ junk.drop 1) := by
  subst hw
  unfold setIdxL
  have : (0 : Int) ≤ (out.length : Int) ∧ (out.length : Int) < len (out ++ junk) := by
    refine ⟨by omega, ?_⟩
    rw [len_eq]
    have : 0 < junk.length := List.length_pos_iff.2 hj
    simp; omega
  simp only [this, and_self, if_true, Int.toNat_natCast, pure_eq_ok, set_compact out junk v hj]

/-- **loop 2 of `Cleanup`** (read.go:218: `ww := 0; for _, line := range stmt.Line`) on the block object `p`: the live lines
    of the rest (`livePtrs ltodo`) are written behind the `out` already kept; what lies behind them (`junk'`) is arbitrary;
    nothing but the block object changes (`BFrame`). -/
theorem cl2_sim (p : Int) (blk0 : LineBlock) :
    ∀ (todo : List Int) (ltodo : List Modfile.Line) (done out junk : List Int) (h : Heap) (fuel : Nat),
      RLines h todo ltodo → heapGet h.blocks p = .ok { blk0 with Line := out ++ junk } →
      out.length + junk.length = done.length + todo.length → out.length ≤ done.length → todo.length + 1 ≤ fuel →
      ∃ h' junk', FileSyntax_Cleanup_loop2 (done ++ todo) p fuel (done.length : Int) h (out.length : Int) =
          .ok (len (done ++ todo), h', ((out ++ livePtrs ltodo).length : Int)) ∧
        heapGet h'.blocks p = .ok { blk0 with Line := (out ++ livePtrs ltodo) ++ junk' } ∧
        (out ++ livePtrs ltodo).length + junk'.length = done.length + todo.length ∧ BFrame p h h'
  | [], [], done, out, junk, h, fuel, _, hb, hlen, _, hfu => by
    obtain ⟨f, rfl⟩ : ∃ f, fuel = f + 1 := ⟨fuel - 1, by omega⟩
    refine ⟨h, junk, ?_, by simpa [livePtrs] using hb, by simpa [livePtrs] using hlen, BFrame.refl p h⟩
    unfold FileSyntax_Cleanup_loop2
    simp [len_eq, livePtrs]
  | [], _ :: _, _, _, _, _, _, r, _, _, _, _ => r.elim
  | _ :: _, [], _, _, _, _, _, r, _, _, _, _ => r.elim
  | q :: todo, l :: ltodo, done, out, junk, h, fuel, r, hb, hlen, hle, hfu => by
    obtain ⟨f, rfl⟩ : ∃ f, fuel = f + 1 := ⟨fuel - 1, by omega⟩
    have hlt : ((done.length : Nat) : Int) < len (done ++ q :: todo) := by rw [len_eq]; simp; omega
    have e1 : (done ++ [q]) ++ todo = done ++ q :: todo := by simp
    have e2 : ((done ++ [q]).length : Int) = (done.length : Int) + 1 := by simp
    have hfu' : todo.length + 1 ≤ f := by simp at hfu; omega
    cases hc : l.token with
    | nil =>
      have hdead : livePtrs (l :: ltodo) = livePtrs ltodo := by simp [livePtrs, isLive, hc]
      have ih := cl2_sim p blk0 todo ltodo (done ++ [q]) out junk h f r.2 hb (by simp at hlen ⊢; omega)
        (by simp; omega) hfu'
      rw [e1, e2] at ih
      obtain ⟨h', junk', i1, i2, i3, i4⟩ := ih
      refine ⟨h', junk', ?_, by rw [hdead]; exact i2, by rw [hdead]; simp at i3 ⊢; omega, i4⟩
      rw [hdead]
      conv => lhs; unfold FileSyntax_Cleanup_loop2
      simp only [hlt, decide_true, if_true, idxL_append_mid done q todo rfl, bind_ok, r.1.1, lineG_Token, hc,
        Bool.not_true, Bool.false_eq_true, if_false]
      exact i1
    | cons u us =>
      have hlive : livePtrs (l :: ltodo) = (l.id : Int) :: livePtrs ltodo := by simp [livePtrs, isLive, hc]
      have hq : q = (l.id : Int) := r.1.2
      have hjunk : junk ≠ [] := by
        intro e; subst e; simp at hlen; omega
      have hset := setIdxL_compact out junk q hjunk rfl
      have hb1 : heapGet (h.blocks.set (p.toNat - 1) { blk0 with Line := (out ++ [q]) ++ junk.drop 1 }) p =
          .ok { blk0 with Line := (out ++ [q]) ++ junk.drop 1 } := heapGet_listSet_same _ hb
      have hjl : (junk.drop 1).length = junk.length - 1 := by simp
      have hjp : 0 < junk.length := List.length_pos_iff.2 hjunk
      have ih := cl2_sim p blk0 todo ltodo (done ++ [q]) (out ++ [q]) (junk.drop 1)
        { h with blocks := h.blocks.set (p.toNat - 1) { blk0 with Line := (out ++ [q]) ++ junk.drop 1 } } f
        ((RLines_congr (h := h) (h' := { h with blocks := h.blocks.set (p.toNat - 1) { blk0 with Line := (out ++ [q]) ++ junk.drop 1 } }) rfl).2 r.2) hb1 (by simp at hlen ⊢; omega) (by simp; omega) hfu'
      rw [e1, e2] at ih
      obtain ⟨h', junk', i1, i2, i3, i4⟩ := ih
      have e3 : (out ++ [q]) ++ livePtrs ltodo = out ++ livePtrs (l :: ltodo) := by rw [hlive, hq]; simp
      have e4 : (((out ++ [q]).length : Nat) : Int) = (out.length : Int) + 1 := by simp
      rw [e3, e4] at i1
      rw [e3] at i2 i3
      refine ⟨h', junk', ?_, i2, by simp at i3 ⊢; omega, (BFrame.setBlock hb _).trans i4⟩
      conv => lhs; unfold FileSyntax_Cleanup_loop2
      simp only [hlt, decide_true, if_true, idxL_append_mid done q todo rfl, bind_ok, r.1.1, lineG_Token, hc,
        reduceCtorEq, decide_false, Bool.not_false, hb, hset, heapSet_of_get _ hb]
      exact i1


/-! ### `FileSyntax.Cleanup`, loop 1: one statement -/

/-- `x.Stmt[w] = stmt; w++` and on to the next statement -/
theorem cl1_k9 (es : List Expr) (x : Int) (f : Nat) (k : Int) (h : Heap) (fo : FileSyntax) (hf : heapGet h.files x = .ok fo)
    (out junk : List Expr) (hs : fo.Stmt = out ++ junk) (hj : junk ≠ []) (e : Expr) :
    (do let t5 ← heapGet h.files x
        let t6 ← setIdxL (t5.Stmt) (out.length : Int) e
        let t7 ← heapGet h.files x
        let t8 ← heapSet h.files x { t7 with Stmt := t6 }
        FileSyntax_Cleanup_loop1 es x f (k + 1) { h with files := t8 } ((out.length : Int) + 1)) =
      FileSyntax_Cleanup_loop1 es x f (k + 1)
        { h with files := h.files.set (x.toNat - 1) { fo with Stmt := (out ++ [e]) ++ junk.drop 1 } }
        (((out ++ [e]).length : Nat) : Int) := by
  have e4 : (((out ++ [e]).length : Nat) : Int) = (out.length : Int) + 1 := by simp
  simp only [hf, bind_ok, hs, setIdxL_compact out junk e hj rfl, heapSet_of_get _ hf, e4]

theorem cl1_keep_line (pre : List Expr) (p : Int) (xs : List Expr) (x : Int) (f : Nat) (h : Heap) (fo : FileSyntax)
    (hf : heapGet h.files x = .ok fo) (out junk : List Expr) (hs : fo.Stmt = out ++ junk) (hj : junk ≠ [])
    (ln : Line) (hl : heapGet h.lines p = .ok ln) (hlive : ln.Token ≠ []) :
    FileSyntax_Cleanup_loop1 (pre ++ Expr.Line p :: xs) x (f + 1) (pre.length : Int) h (out.length : Int) =
      FileSyntax_Cleanup_loop1 (pre ++ Expr.Line p :: xs) x f ((pre.length : Int) + 1)
        { h with files := h.files.set (x.toNat - 1) { fo with Stmt := (out ++ [Expr.Line p]) ++ junk.drop 1 } }
        (((out ++ [Expr.Line p]).length : Nat) : Int) := by
  conv => lhs; unfold FileSyntax_Cleanup_loop1
  have hlt : ((pre.length : Nat) : Int) < len (pre ++ Expr.Line p :: xs) := by rw [len_eq]; simp; omega
  simp only [hlt, decide_true, if_true, idxL_append_mid pre _ xs rfl, bind_ok, hl, hlive, decide_false,
    Bool.false_eq_true, if_false]
  exact cl1_k9 _ x f _ h fo hf out junk hs hj _

theorem cl1_keep_other (pre : List Expr) (e : Expr) (xs : List Expr) (x : Int) (f : Nat) (h : Heap) (fo : FileSyntax)
    (hf : heapGet h.files x = .ok fo) (out junk : List Expr) (hs : fo.Stmt = out ++ junk) (hj : junk ≠ [])
    (h1 : ∀ p, e ≠ Expr.Line p) (h2 : ∀ p, e ≠ Expr.LineBlock p) :
    FileSyntax_Cleanup_loop1 (pre ++ e :: xs) x (f + 1) (pre.length : Int) h (out.length : Int) =
      FileSyntax_Cleanup_loop1 (pre ++ e :: xs) x f ((pre.length : Int) + 1)
        { h with files := h.files.set (x.toNat - 1) { fo with Stmt := (out ++ [e]) ++ junk.drop 1 } }
        (((out ++ [e]).length : Nat) : Int) := by
  conv => lhs; unfold FileSyntax_Cleanup_loop1
  have hlt : ((pre.length : Nat) : Int) < len (pre ++ e :: xs) := by rw [len_eq]; simp; omega
  simp only [hlt, decide_true, if_true, idxL_append_mid pre _ xs rfl, bind_ok]
  cases e with
  | Line p => exact absurd rfl (h1 p)
  | LineBlock p => exact absurd rfl (h2 p)
  | _ => exact cl1_k9 _ x f _ h fo hf out junk hs hj _

theorem cl1_drop_line (pre : List Expr) (p : Int) (xs : List Expr) (x : Int) (f : Nat) (h : Heap) (w : Int)
    (ln : Line) (hl : heapGet h.lines p = .ok ln) (hdead : ln.Token = []) :
    FileSyntax_Cleanup_loop1 (pre ++ Expr.Line p :: xs) x (f + 1) (pre.length : Int) h w =
      FileSyntax_Cleanup_loop1 (pre ++ Expr.Line p :: xs) x f ((pre.length : Int) + 1) h w := by
  conv => lhs; unfold FileSyntax_Cleanup_loop1
  have hlt : ((pre.length : Nat) : Int) < len (pre ++ Expr.Line p :: xs) := by rw [len_eq]; simp; omega
  simp only [hlt, decide_true, if_true, idxL_append_mid pre _ xs rfl, bind_ok, hl, hdead, decide_true, if_true]

/-- a block without live lines is dropped -/
theorem cl1_block_drop (pre : List Expr) (p : Int) (xs : List Expr) (x : Int) (f : Nat) (h : Heap) (w : Int)
    (blk : LineBlock) (hb : heapGet h.blocks p = .ok blk) (ri : Int) (h1 : Heap)
    (h2 : FileSyntax_Cleanup_loop2 blk.Line p f 0 h 0 = .ok (ri, h1, 0)) :
    FileSyntax_Cleanup_loop1 (pre ++ Expr.LineBlock p :: xs) x (f + 1) (pre.length : Int) h w =
      FileSyntax_Cleanup_loop1 (pre ++ Expr.LineBlock p :: xs) x f ((pre.length : Int) + 1) h1 w := by
  conv => lhs; unfold FileSyntax_Cleanup_loop1
  have hlt : ((pre.length : Nat) : Int) < len (pre ++ Expr.LineBlock p :: xs) := by rw [len_eq]; simp; omega
  simp only [hlt, decide_true, if_true, idxL_append_mid pre _ xs rfl, bind_ok, hb, h2, decide_true, if_true]

/-- a block with at least two live lines, or with comments before `)`, is kept with its live lines -/
theorem cl1_block_keep (pre : List Expr) (p : Int) (xs : List Expr) (x : Int) (f : Nat) (h : Heap) (fo : FileSyntax)
    (out junk : List Expr) (hs : fo.Stmt = out ++ junk) (hj : junk ≠ [])
    (blk : LineBlock) (hb : heapGet h.blocks p = .ok blk) (ri : Int) (h1 : Heap) (ww : Nat)
    (h2 : FileSyntax_Cleanup_loop2 blk.Line p f 0 h 0 = .ok (ri, h1, (ww : Int)))
    (hf1 : heapGet h1.files x = .ok fo) (blk1 : LineBlock) (hb1 : heapGet h1.blocks p = .ok blk1)
    (live rest : List Int) (hl1 : blk1.Line = live ++ rest) (hww : live.length = ww)
    (hc : 2 ≤ ww ∨ (ww = 1 ∧ blk1.RParen.Comments.Before ≠ [])) :
    FileSyntax_Cleanup_loop1 (pre ++ Expr.LineBlock p :: xs) x (f + 1) (pre.length : Int) h (out.length : Int) =
      FileSyntax_Cleanup_loop1 (pre ++ Expr.LineBlock p :: xs) x f ((pre.length : Int) + 1)
        { h1 with blocks := h1.blocks.set (p.toNat - 1) { blk1 with Line := live },
                  files := h1.files.set (x.toNat - 1) { fo with Stmt := (out ++ [Expr.LineBlock p]) ++ junk.drop 1 } }
        (((out ++ [Expr.LineBlock p]).length : Nat) : Int) := by
  conv => lhs; unfold FileSyntax_Cleanup_loop1
  have hlt : ((pre.length : Nat) : Int) < len (pre ++ Expr.LineBlock p :: xs) := by rw [len_eq]; simp; omega
  have hne0 : ¬ ((ww : Int) = 0) := by omega
  have hcond : (if decide ((ww : Int) = 1) = true then
        (pure (decide (len blk1.RParen.Comments.Before = 0)) : M Bool) else (pure false : M Bool)) = .ok false := by
    rcases hc with hc | ⟨hc1, hc2⟩
    · have : ¬ ((ww : Int) = 1) := by omega
      simp only [this, decide_false, Bool.false_eq_true, if_false, pure_eq_ok]
    · have : ((ww : Int) = 1) := by omega
      have hlen : ¬ (len blk1.RParen.Comments.Before = 0) := by
        rw [len_eq]; intro e
        exact hc2 (List.length_eq_zero_iff.1 (by omega))
      simp only [this, decide_true, if_true, hlen, decide_false, pure_eq_ok]
  have hst : sliceTo (live ++ rest) (ww : Int) = .ok live := by
    rw [sliceTo_natCast (by simp; omega)]
    rw [← hww]; simp
  simp only [hlt, decide_true, if_true, idxL_append_mid pre _ xs rfl, bind_ok, hb, h2, hne0, decide_false,
    Bool.false_eq_true, if_false, hb1, hcond, hl1, hst, heapSet_of_get _ hb1]
  have := cl1_k9 (pre ++ Expr.LineBlock p :: xs) x f (pre.length : Int)
    { h1 with blocks := h1.blocks.set (p.toNat - 1) { blk1 with Line := live } } fo hf1 out junk hs hj (Expr.LineBlock p)
  exact this


theorem idxL_zero_cons {α : Type} (a : α) (l : List α) : idxL (a :: l) 0 = .ok a := rfl

/-- a block with exactly one live line and no comment before `)` collapses into that line (the Line object is kept) -/
theorem cl1_block_collapse (pre : List Expr) (p : Int) (xs : List Expr) (x : Int) (f : Nat) (h : Heap) (fo : FileSyntax)
    (out junk : List Expr) (hs : fo.Stmt = out ++ junk) (hj : junk ≠ [])
    (blk : LineBlock) (hb : heapGet h.blocks p = .ok blk) (ri : Int) (h1 : Heap)
    (h2 : FileSyntax_Cleanup_loop2 blk.Line p f 0 h 0 = .ok (ri, h1, 1))
    (hf1 : heapGet h1.files x = .ok fo) (blk1 : LineBlock) (hb1 : heapGet h1.blocks p = .ok blk1)
    (q : Int) (rest : List Int) (hl1 : blk1.Line = q :: rest) (hrp : blk1.RParen.Comments.Before = [])
    (ln : Line) (hq : heapGet h1.lines q = .ok ln) :
    FileSyntax_Cleanup_loop1 (pre ++ Expr.LineBlock p :: xs) x (f + 1) (pre.length : Int) h (out.length : Int) =
      FileSyntax_Cleanup_loop1 (pre ++ Expr.LineBlock p :: xs) x f ((pre.length : Int) + 1)
        { h1 with
          lines := h1.lines.set (q.toNat - 1)
            ({ (default : Line) with
               Comments := ({ (default : Comments) with Before := blk1.Comments.Before ++ ln.Comments.Before,
                                                         Suffix := ln.Comments.Suffix ++ blk1.Comments.Suffix,
                                                         After := ln.Comments.After ++ blk1.Comments.After } : Comments),
               Token := blk1.Token ++ ln.Token } : Line),
          files := h1.files.set (x.toNat - 1) { fo with Stmt := (out ++ [Expr.Line q]) ++ junk.drop 1 } }
        (((out ++ [Expr.Line q]).length : Nat) : Int) := by
  conv => lhs; unfold FileSyntax_Cleanup_loop1
  have hlt : ((pre.length : Nat) : Int) < len (pre ++ Expr.LineBlock p :: xs) := by rw [len_eq]; simp; omega
  have e4 : (((out ++ [Expr.Line q]).length : Nat) : Int) = (out.length : Int) + 1 := by simp
  simp only [hlt, decide_true, if_true, idxL_append_mid pre _ xs rfl, bind_ok, hb, h2, decide_false,
    Bool.false_eq_true, if_false, hb1, hrp, len_nil, pure_eq_ok, hl1, idxL_zero_cons, hq, Tie.FnEditTreeA.commentsAdd_eq, Tie.FnEditTreeA.stringsAdd_eq,
    heapSet_of_get _ hq, hf1, hs, setIdxL_compact out junk _ hj rfl, heapSet_of_get _ hf1, e4,
    show ((1 : Int) = 0) = False from by simp]

theorem cl1_end (es : List Expr) (x : Int) (f : Nat) (h : Heap) (w : Int) :
    FileSyntax_Cleanup_loop1 es x (f + 1) (es.length : Int) h w = .ok (len es, h, w) := by
  unfold FileSyntax_Cleanup_loop1
  simp only [len_eq, Int.lt_irrefl, decide_false, Bool.false_eq_true, if_false, pure_eq_ok]

end ModVerif.TieFnEditAddLine
