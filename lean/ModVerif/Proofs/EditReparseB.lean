/-
  One `File.add` step on a line that RENDERS a typed entry (C15 `typed_eq_reparse`:
  render–reparse for one line).

  `Item`: the value of one typed directive (no line identity, no comment-derived field).  `Rend it toks sfx`: the full
  tokens `toks` (verb in front) and the end-of-line comments `sfx` of a line are what the edit operations write for `it` —
  exactly the `acc` relations of `Edit.entries` (Proofs/EditRefineInv.lean).  `ItemOK it`: the value is one the strict parser
  accepts and reads back unchanged (canonical versions matching the path's major version, `go` / `toolchain` texts matching
  their regular expressions, paths that are neither empty nor a lone bracket / comma, raw tokens that need no quotes).
  Under both, the strict `File.add` appends exactly that entry, reports no error and rewrites no token — for every verb.
-/
import ModVerif.Proofs.EditRefineInvCheck
import ModVerif.Proofs.ModfileEolReplay

/-
  The print/parse round trip for a tree that was NOT produced by the parser (C15 `typed_eq_reparse`).

  C02's clause 3 (`format_preserves_directives_eol`) is stated for the tree of a strict parse.  Its second half only needs
  * the shape of the tree (`EWFStmts`, `NlOK`, no header comment), and
  * a FIRST run of the directive layer over that tree that reports no error, rewrites nothing and yields a
    well-formed typed file.
  From such a first run, `Format` of the tree is accepted by the strict parser with the
  same directive values.
-/
namespace ModVerif.Proofs.EditReparse
open ModVerif ModVerif.Modfile ModVerif.Proofs.ModfileFmtDir ModVerif.Proofs.ModfileEol
open ModVerif.Proofs.ModfileFmtTree

theorem fixNE_none : FixNE none := by
  intro fx h; cases h

theorem reparse_of_first_run (name : Bytes) (T : FileSyntax) (st1 : AddState)
    (hwf : EWFStmts T.stmts) (hnl : ∀ s ∈ T.stmts, NlOK s) (hc : T.comments.before = [])
    (ha : addStmts none true { file := { syn := T } } T.stmts = (st1, T.stmts))
    (he : st1.errsRev = []) (hw : WellFormed st1.file) :
    ∃ f', parseToFile name (format T) none true = .ok f' ∧ values f' = values st1.file := by
  obtain ⟨_, _, _, _, hrep⟩ := addStmts_replayE none (Or.inl rfl) fixNE_none T.stmts _ st1 T.stmts ha he hw hwf hnl
  obtain ⟨t', hp', het'⟩ := reparse_ewf name T hwf hnl hc
  have hrel : t'.stmts.map eraseExpr = T.stmts.map normExprE := by
    have := congrArg FileSyntax.stmts het'
    simpa [eraseFile] using this
  have hsim0 : Sim ({ file := { syn := T } } : AddState) ({ file := { syn := t' } } : AddState) := ⟨rfl, rfl, rfl⟩
  obtain ⟨st1', ha', hsim'⟩ := hrep _ t'.stmts hsim0 hrel
  refine ⟨{ st1'.file with syn := { t' with stmts := t'.stmts } }, ?_, ?_⟩
  · unfold parseToFile
    simp only [hp', ha', fixRetract]
    simp [hsim'.errs']
  · rw [values_syn, ← hsim'.vals]

end ModVerif.Proofs.EditReparse

namespace ModVerif.Modfile.Edit
open ModVerif ModVerif.Modfile
open ModVerif.Proofs.ModfileFmtDir (PathOK VerOK verb_ne WellFormed values Values)
open ModVerif.Proofs.ModfileFmtLex (punctBytes TokOK)
open ModVerif.Proofs.ModfileFmtLine (TokText tokOK_tokText)
open ModVerif.Proofs.ModfileFmtFix (valid_parseString valid_autoQuote valid_ne_nil)

inductive Item where
  | module (p : Bytes)
  | go (v : Bytes)
  | toolchain (n : Bytes)
  | godebug (k v : Bytes)
  | require (m : ModVersion) (ind : Bool)
  | exclude (m : ModVersion)
  | replace (o n : ModVersion)
  | retract (vi : VersionInterval)
  | tool (p : Bytes)
  deriving DecidableEq, Repr

def items (f : File) : List (Nat × Item) :=
  f.module.toList.map (fun m => (m.lineId, Item.module m.mod.path)) ++
  (f.go.toList.map (fun g => (g.lineId, Item.go g.version)) ++
  (f.toolchain.toList.map (fun t => (t.lineId, Item.toolchain t.name)) ++
  (f.godebug.map (fun g => (g.lineId, Item.godebug g.key g.value)) ++
  (f.require.map (fun r => (r.lineId, Item.require r.mod r.indirect)) ++
  (f.exclude.map (fun x => (x.lineId, Item.exclude x.mod)) ++
  (f.replace.map (fun r => (r.lineId, Item.replace r.old r.new)) ++
  (f.retract.map (fun r => (r.lineId, Item.retract r.interval)) ++
   f.tool.map (fun t => (t.lineId, Item.tool t.path)))))))))

/-- a version the strict parser leaves alone -/
def CanonV (v : Bytes) : Prop := Semver.isValid v = true ∧ Semver.canonicalVersion v = v

/-- a path / version pair `require` and `exclude` accept -/
def ModOK (m : ModVersion) : Prop :=
  PathOK m.path ∧ CanonV m.version ∧ ∃ pm, modulePathMajor m.path = some pm ∧ Module.checkPathMajor m.version pm = true

/-- a token written without `AutoQuote` that is nevertheless one identifier token -/
def RawTok (t : Bytes) : Prop := mustQuote t = false ∧ ∀ c ∈ punctBytes, t ≠ [c]

/-- the tokens of a replacement after the verb (the `isEmpty` form of `ModfileFmtFix.replaceToks`) -/
def replArgs (o n : ModVersion) : List Bytes :=
  [autoQuote o.path] ++ (if o.version.isEmpty then [] else [o.version]) ++
    [B "=>", autoQuote n.path] ++ (if n.version.isEmpty then [] else [n.version])

/-- the value is accepted by the strict parser and read back unchanged -/
def ItemOK : Item → Prop
  | .module p => PathOK p
  | .go v => goVersionRE v = true ∧ RawTok v
  | .toolchain n => toolchainRE n = true ∧ RawTok n
  | .godebug k v => Modfile.addGodebug [k ++ [61] ++ v] = some (k, v) ∧ RawTok (k ++ [61] ++ v)
  | .require m _ => ModOK m
  | .exclude m => ModOK m
  | .replace o n => PathOK o.path ∧ PathOK n.path ∧ (o.version ≠ [] → VerOK o.version) ∧ (n.version ≠ [] → VerOK n.version) ∧
      ∀ id, parseReplace id (replArgs o n) none = (replArgs o n, .ok { old := o, new := n, lineId := id })
  | .retract vi => VerOK vi.low ∧ VerOK vi.high
  | .tool p => PathOK p ∧ mustQuote p = false

/-- the `acc` relations of `Edit.entries` -/
def Rend : Item → List Bytes → List Comment → Prop
  | .module p, t, _ => t = [B "module", autoQuote p]
  | .go v, t, _ => t = [B "go", v]
  | .toolchain n, t, _ => t = [B "toolchain", n]
  | .godebug k v, t, _ => t = [B "godebug", k ++ [61] ++ v]
  | .require m i, t, s => t = [B "require", autoQuote m.path, m.version] ∧ isIndirectS s = i
  | .exclude m, t, _ => t = [B "exclude", autoQuote m.path, m.version]
  | .replace o n, t, _ => t = B "replace" :: replArgs o n
  | .retract vi, t, _ => (∃ x, t = [B "retract", x] ∧ tokIs x vi.low ∧ vi.low = vi.high) ∨
      (∃ x y, t = [B "retract", [91], x, [44], y, [93]] ∧ tokIs x vi.low ∧ tokIs y vi.high)
  | .tool p, t, _ => ∃ x, t = [B "tool", x] ∧ tokIs x p

theorem canonV_parseVersion {v : Bytes} (h : CanonV v) (p : Bytes) : parseVersion p v none = (v, .ok v) := by
  have hemp : v.isEmpty = false := by
    cases hv : v with
    | nil => exact absurd hv (valid_ne_nil h.1)
    | cons _ _ => rfl
  simp only [parseVersion, valid_parseString h.1, h.2, hemp]
  simp

theorem verOK_parseVersion_dontFix {v : Bytes} (h : VerOK v) (p : Bytes) :
    parseVersion p v (some dontFixRetract) = (v, .ok v) := by
  simp only [parseVersion, valid_parseString h, dontFixRetract]

theorem tokIs_valid {x v : Bytes} (h : tokIs x v) (hv : VerOK v) : x = v := by
  rcases h with h | h
  · exact h
  · rw [h, valid_autoQuote hv]

theorem rawTok_autoQuote {t : Bytes} (h : RawTok t) : autoQuote t = t := by
  unfold autoQuote; rw [h.1]; rfl

theorem rawTok_parseString {t : Bytes} (h : RawTok t) : parseString t = some (t, t) := by
  have := Proofs.ModfileFmtQuote.parseString_autoQuote t
  rwa [rawTok_autoQuote h] at this

theorem rawTok_tok {t : Bytes} (h : RawTok t) : TokText t ∧ t ≠ [40] ∧ t ≠ [41] :=
  ⟨tokOK_tokText (Proofs.ModfileFmtQuote.autoQuote_unquoted_ident h.1 h.2), h.2 40 (by decide), h.2 41 (by decide)⟩

theorem rawTok_no_nl {t : Bytes} (h : RawTok t) : (10 : UInt8) ∉ t := by
  have := Proofs.ModfileEol.autoQuote_no_nl t
  rwa [rawTok_autoQuote h] at this

theorem rawTok_verb :
    RawTok (B "module") ∧ RawTok (B "go") ∧ RawTok (B "toolchain") ∧ RawTok (B "godebug") ∧ RawTok (B "require") ∧
    RawTok (B "exclude") ∧ RawTok (B "replace") ∧ RawTok (B "retract") ∧ RawTok (B "tool") ∧ RawTok (B "=>") := by
  refine ⟨⟨?_, ?_⟩, ⟨?_, ?_⟩, ⟨?_, ?_⟩, ⟨?_, ?_⟩, ⟨?_, ?_⟩, ⟨?_, ?_⟩, ⟨?_, ?_⟩, ⟨?_, ?_⟩, ⟨?_, ?_⟩, ⟨?_, ?_⟩⟩ <;> decide +kernel

section steps
variable (st : AddState) (block : Option Comments) (l : Line)

theorem step_module (p : Bytes) (hm : st.file.module = none) :
    File.add st block l (B "module") [autoQuote p] none true =
      ({ st with file := { st.file with module := some { mod := { path := p }, deprecated := parseDeprecation block l.comments, lineId := l.id } } },
       [autoQuote p]) := by
  unfold File.add
  simp only [Bool.not_true, Bool.false_and, Bool.false_eq_true, if_false, beq_self_eq_true, if_true, verb_ne.2.1,
    verb_ne.2.2.1, hm, Option.isSome_none, Proofs.ModfileFmtQuote.parseString_autoQuote]

theorem step_go (v : Bytes) (hg : st.file.go = none) (hre : goVersionRE v = true) :
    File.add st block l (B "go") [v] none true =
      ({ st with file := { st.file with go := some { version := v, lineId := l.id } } }, [v]) := by
  unfold File.add
  simp only [Bool.not_true, Bool.false_and, Bool.false_eq_true, if_false, beq_self_eq_true, if_true, hg,
    Option.isSome_none, hre]

theorem step_toolchain (n : Bytes) (ht : st.file.toolchain = none) (hre : toolchainRE n = true) :
    File.add st block l (B "toolchain") [n] none true =
      ({ st with file := { st.file with toolchain := some { name := n, lineId := l.id } } }, [n]) := by
  unfold File.add
  simp only [Bool.not_true, Bool.false_and, Bool.false_eq_true, if_false, beq_self_eq_true, if_true, verb_ne.1, ht,
    Option.isSome_none, hre]

theorem step_godebug (k v : Bytes) (hg : Modfile.addGodebug [k ++ [61] ++ v] = some (k, v)) :
    File.add st block l (B "godebug") [k ++ [61] ++ v] none true =
      ({ st with file := { st.file with godebug := st.file.godebug ++ [{ key := k, value := v, lineId := l.id }] } },
       [k ++ [61] ++ v]) := by
  unfold File.add
  simp only [Bool.not_true, Bool.false_and, Bool.false_eq_true, if_false, beq_self_eq_true, if_true, verb_ne.2.2.2.1,
    verb_ne.2.2.2.2.1, verb_ne.2.2.2.2.2.1, hg]

theorem step_require (m : ModVersion) (hm : ModOK m) :
    File.add st block l (B "require") [autoQuote m.path, m.version] none true =
      ({ st with file := { st.file with require := st.file.require ++ [{ mod := m, indirect := isIndirect l, lineId := l.id }] } },
       [autoQuote m.path, m.version]) := by
  obtain ⟨v1, v2, v3, v4, v5, v6, v7, v8, v9, v10, v11, v12, v13, v14, v15, v16, v17, v18, v19, v20, v21, v22, v23,
    v24, v25, v26, v27, v28, v29, v30, v31, v32, v33, v34, v35, v36⟩ := verb_ne
  obtain ⟨_, hcv, pm, hpm, hcm⟩ := hm
  unfold File.add
  simp only [Bool.not_true, Bool.false_and, Bool.false_eq_true, if_false, v7, v8, v9, v10, beq_self_eq_true, Bool.true_or,
    if_true, Proofs.ModfileFmtQuote.parseString_autoQuote, canonV_parseVersion hcv, hpm, hcm]

theorem step_exclude (m : ModVersion) (hm : ModOK m) :
    File.add st block l (B "exclude") [autoQuote m.path, m.version] none true =
      ({ st with file := { st.file with exclude := st.file.exclude ++ [{ mod := m, lineId := l.id }] } },
       [autoQuote m.path, m.version]) := by
  obtain ⟨v1, v2, v3, v4, v5, v6, v7, v8, v9, v10, v11, v12, v13, v14, v15, v16, v17, v18, v19, v20, v21, v22, v23,
    v24, v25, v26, v27, v28, v29, v30, v31, v32, v33, v34, v35, v36⟩ := verb_ne
  obtain ⟨_, hcv, pm, hpm, hcm⟩ := hm
  unfold File.add
  simp only [Bool.not_true, Bool.false_and, Bool.false_eq_true, if_false, v11, v12, v13, v14, v15, beq_self_eq_true,
    Bool.or_true, if_true, Proofs.ModfileFmtQuote.parseString_autoQuote, canonV_parseVersion hcv, hpm, hcm]

theorem step_replace (o n : ModVersion) (args : List Bytes)
    (hr : ∀ id, parseReplace id args none = (args, .ok { old := o, new := n, lineId := id })) :
    File.add st block l (B "replace") args none true =
      ({ st with file := { st.file with replace := st.file.replace ++ [{ old := o, new := n, lineId := l.id }] } }, args) := by
  obtain ⟨v1, v2, v3, v4, v5, v6, v7, v8, v9, v10, v11, v12, v13, v14, v15, v16, v17, v18, v19, v20, v21, v22, v23,
    v24, v25, v26, v27, v28, v29, v30, v31, v32, v33, v34, v35, v36⟩ := verb_ne
  unfold File.add
  simp only [Bool.not_true, Bool.false_and, Bool.false_eq_true, if_false, v16, v17, v18, v19, v20, v21,
    Bool.or_self, beq_self_eq_true, if_true, hr l.id]

theorem step_retract (vi : VersionInterval) (args : List Bytes)
    (hp : parseVersionInterval [] args (some dontFixRetract) = (args, .ok (vi, []))) :
    File.add st block l (B "retract") args none true =
      ({ st with file := { st.file with retract := st.file.retract ++
          [{ interval := vi, rationale := parseDirectiveComment block l.comments, lineId := l.id }] } }, args) := by
  obtain ⟨v1, v2, v3, v4, v5, v6, v7, v8, v9, v10, v11, v12, v13, v14, v15, v16, v17, v18, v19, v20, v21, v22, v23,
    v24, v25, v26, v27, v28, v29, v30, v31, v32, v33, v34, v35, v36⟩ := verb_ne
  unfold File.add
  simp only [Bool.not_true, Bool.false_and, Bool.false_eq_true, if_false, v22, v23, v24, v25, v26, v27, v28,
    Bool.or_self, beq_self_eq_true, if_true, Bool.and_true, hp, List.isEmpty_nil]

theorem step_tool (p : Bytes) (x : Bytes) (hx : parseString x = some (p, x)) :
    File.add st block l (B "tool") [x] none true =
      ({ st with file := { st.file with tool := st.file.tool ++ [{ path := p, lineId := l.id }] } }, [x]) := by
  obtain ⟨v1, v2, v3, v4, v5, v6, v7, v8, v9, v10, v11, v12, v13, v14, v15, v16, v17, v18, v19, v20, v21, v22, v23,
    v24, v25, v26, v27, v28, v29, v30, v31, v32, v33, v34, v35, v36⟩ := verb_ne
  unfold File.add
  simp only [Bool.not_true, Bool.false_and, Bool.false_eq_true, if_false, beq_self_eq_true, if_true,
    v29, v30, v31, v32, v33, v34, v35, v36, Bool.or_self, hx]

end steps

theorem retract_args {vi : VersionInterval} {t : List Bytes} {s : List Comment} (hr : Rend (.retract vi) t s)
    (hok : ItemOK (.retract vi)) :
    ∃ args, t = B "retract" :: args ∧ parseVersionInterval [] args (some dontFixRetract) = (args, .ok (vi, [])) ∧
      (args = [vi.low] ∨ args = [[91], vi.low, [44], vi.high, [93]]) := by
  obtain ⟨hlo, hhi⟩ := hok
  rcases hr with ⟨x, rfl, hx, heq⟩ | ⟨x, y, rfl, hx, hy⟩
  · have hxl := tokIs_valid hx hlo
    subst hxl
    obtain ⟨d, tl, hd, _⟩ := Proofs.ModfileFmtFix.valid_head hlo
    refine ⟨[vi.low], rfl, ?_, Or.inl rfl⟩
    have := Proofs.ModfileFmtFix.parseVersionInterval_single (p := []) (rest := []) (fix := some dontFixRetract)
      (by rw [hd]; simp) (by rw [hd]; simp) (verOK_parseVersion_dontFix hlo [])
    rw [this]
    cases vi
    simp only at heq hd ⊢
    subst heq
    rfl
  · have hxl := tokIs_valid hx hlo
    have hyl := tokIs_valid hy hhi
    subst hxl hyl
    refine ⟨_, rfl, ?_, Or.inr rfl⟩
    exact Proofs.ModfileFmtFix.parseVersionInterval_pair (verOK_parseVersion_dontFix hlo []) (verOK_parseVersion_dontFix hhi [])

theorem tool_arg {p : Bytes} {t : List Bytes} {s : List Comment} (hr : Rend (.tool p) t s) (hok : ItemOK (.tool p)) :
    t = [B "tool", p] ∧ parseString p = some (p, p) := by
  obtain ⟨x, rfl, hx⟩ := hr
  have hraw : RawTok p := ⟨hok.2, hok.1.2⟩
  have : x = p := by
    rcases hx with h | h
    · exact h
    · rw [h, rawTok_autoQuote hraw]
  subst this
  exact ⟨rfl, rawTok_parseString hraw⟩

end ModVerif.Modfile.Edit
