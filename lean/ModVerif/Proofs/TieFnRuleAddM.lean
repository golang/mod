/-
  Helper lemmas for Tie/FnRuleAdd.lean: the leaf hypotheses of Proofs/TieFnRuleAdd{C..F}.lean (`PSok`, `PVok`, `MPMok`, `CPMok`,
  `PVIok`, `PRok`, `AddLeaf`, `WorkLeaf`, `FixLeaf`) discharged from the leaf ties of Tie/FnRuleLeaf.lean
  under the explicit fuel bound `LineFuel` (the tokens of the line, its comments, the versions a fixer returns); with them
  `File.add` and `WorkFile.add` are handlers the statement loops accept (`FA_ok`, `WA_ok`).
-/
import ModVerif.Tie.FnRuleLeaf
import ModVerif.Proofs.TieFnRuleAddH
namespace ModVerif.Tie.FnRuleAddM
open ModVerif ModVerif.GoRt ModVerif.Generated ModVerif.Tie.FnRuleRep ModVerif.Tie.FnRuleAddA ModVerif.Tie.FnRuleAddB ModVerif.Tie.FnRuleAddC
open ModVerif.Tie.FnRuleAddD ModVerif.Tie.FnRuleAddE ModVerif.Tie.FnRuleAddF ModVerif.Tie.FnRuleAddH
open ModVerif.Tie.FnRuleLeaf ModVerif.Tie.FnRuleLeafA ModVerif.Tie.FnRuleLeafB
open ModVerif.Drv.GenRule (isPrintI unquoteI laxSubI deprecatedSubI fixG)

theorem PSok_of (a : Bytes) (fuel : Nat) (hf : 4 * a.length + 1 ≤ fuel) : PSok fuel a := by
  cases hm : Modfile.parseString a with
  | none =>
    refine ⟨[], TieFnModfile.parseStringErr a, a, ?_, fun w => ?_⟩
    · unfold PSOut; rw [hm]
      exact ⟨by have := parseStringErr_ne_none a; cases h : TieFnModfile.parseStringErr a <;> simp_all, rfl⟩
    · have := parseString_tie a fuel hf w; rw [hm] at this; exact this
  | some tt =>
    obtain ⟨t, tok⟩ := tt
    refine ⟨t, none, tok, ?_, fun w => ?_⟩
    · unfold PSOut; rw [hm]; exact ⟨rfl, rfl, rfl⟩
    · have := parseString_tie a fuel hf w; rw [hm] at this; exact this

theorem PVok_of (path a : Bytes) (fx : Option Modfile.Fixer) (fuel : Nat) (hf : 8 * a.length + 1 ≤ fuel) : PVok fuel path a fx := by
  cases hm : Modfile.parseVersion path a fx with
  | mk tok res =>
    cases res with
    | error k =>
      refine ⟨[], parseVersionErr a k, tok, ?_, fun verb w => ?_⟩
      · unfold PVOut; rw [hm]; exact ⟨parseVersion_error_kind hm, rfl⟩
      · have := parseVersion_tie verb path a fx fuel hf w; rw [hm] at this; exact this
    | ok v =>
      refine ⟨v, none, tok, ?_, fun verb w => ?_⟩
      · unfold PVOut; rw [hm]; exact ⟨rfl, rfl, rfl⟩
      · have := parseVersion_tie verb path a fx fuel hf w; rw [hm] at this; exact this

theorem MPMok_of (s : Bytes) (fuel : Nat) (hf : s.length + 1 ≤ fuel) : MPMok fuel s := modulePathMajor_tie s fuel hf

theorem CPMok_of (v pm : Bytes) (fuel : Nat) (hf : 2 * v.length ≤ fuel) : CPMok fuel v pm := by
  unfold CPMok
  rw [Tie.FnModule.CheckPathMajor_tie v pm fuel hf]
  rfl

theorem indL_of (lp : Int) (ls : List Rule.Line) (l' : Modfile.Line) (hg : heapGet ls lp = .ok (lineG l')) :
    indL lp ls = .ok (Modfile.isIndirect l') := by
  unfold indL
  rw [isIndirect_tie (w := { (default : Rule.Heap) with lines := ls }) hg]
  rfl

theorem PVIok_of {h : Rule.Heap} {r : Rule.TokRef} {pre toks : List Bytes} (v : TokView h r pre toks) (path : Bytes) (fx : Option Modfile.Fixer)
    (fuel : Nat) (hf : 8 * tokSum toks + 1 ≤ fuel) : PVIok fuel h r pre toks path fx := by
  have hm := parseVersionInterval_model path toks fx
  have hv := parseVersionInterval_view v path fx
  obtain ⟨h1, h2⟩ := hm
  refine ⟨(pviOut path toks fx).vi, (pviOut path toks fx).err, { r with lo := r.lo + (pviOut path toks fx).dropped },
    setToksH h r.owner (pre ++ (pviOut path toks fx).toks), ⟨by rw [h1], ?_⟩, fun verb => parseVersionInterval_tie v verb path fx fuel hf⟩
  rcases hr : (Modfile.parseVersionInterval path toks fx).2 with k | ⟨mvi, rest⟩
  · rw [hr] at h2
    exact ⟨h2.1, h2.2.1⟩
  · rw [hr] at h2
    obtain ⟨e1, e2, _, _, e5⟩ := h2
    rw [← h1] at e5
    rw [e5] at hv
    exact ⟨e1, by rw [e2]; rfl, by rw [e2]; rfl, rfl, _, hv⟩

theorem PRok_of {h : Rule.Heap} {lp : Int} {l : Modfile.Line} {pre args : List Bytes} {ι : Int → Nat} (hl : RLine ι h lp l)
    (htok : l.token = pre ++ args) (fx : Option Modfile.Fixer) (fuel : Nat) (hf : 8 * tokSum args + 1 ≤ fuel)
    (hv : ∀ a0 a1 rest s a0' a1' v, args = a0 :: a1 :: rest → Modfile.parseString a0 = some (s, a0') →
      Modfile.parseVersion s a1 fx = (a1', .ok v) → 2 * v.length ≤ fuel) : PRok fuel h lp l pre args fx := by
  intro fname verb
  have V : TokView h { owner := lp, lo := (pre.length : Int) } pre args := ⟨lineG l, hl.1, htok, rfl⟩
  have := parseReplace_sim V (l := l) hl.1 fname verb fx fuel hf hv l.id
  unfold PROut
  rcases hr : (Modfile.parseReplace l.id args fx).2 with k | R
  · rw [hr] at this
    obtain ⟨e, hpos, hea, hrun⟩ := this
    refine ⟨0, _, _, ?_, hrun⟩
    exact ⟨e, hpos, hea, rfl, by simp, by simp⟩
  · rw [hr] at this
    obtain ⟨obj, ho, hn, hs, hrun⟩ := this
    refine ⟨_, 0, _, ?_, hrun⟩
    exact ⟨obj, ho, hn, hs, FnRuleLeafD.parseReplace_lineId hr, rfl, by simp, by simp⟩

/-- the fuel bound for `File.add` / `WorkFile.add` / `fixRetract` on the line `l` with the arguments `args` (`F` bounds:
    32 × the token lengths — the tokens `fixRetract` re-reads are at most 4 × as long —, the number of comments of the
    line and of the block, and twice the length of every version the version fixer returns for this line) -/
structure LineFuel (F : Nat) (bc : Option Modfile.Comments) (fx : Option Modfile.Fixer) (l : Modfile.Line) (args : List Bytes) : Prop where
  toks : 32 * tokSum l.token + 1 ≤ F
  coms : comLen l.comments + (bc.map comLen).getD 0 + 3 ≤ F
  ver : ∀ a0 a1 rest s a0' a1' v, args = a0 :: a1 :: rest → Modfile.parseString a0 = some (s, a0') →
    Modfile.parseVersion s a1 fx = (a1', .ok v) → 2 * v.length ≤ F

theorem tokSum_le_append (pre args : List Bytes) : tokSum args ≤ tokSum (pre ++ args) := by
  induction pre with
  | nil => simp
  | cons x xs ih => simp; omega

theorem AddLeaf_of {ι : Int → Nat} {F : Nat} {block : Int} {bc : Option Modfile.Comments} {verb : Bytes} {fx : Option Modfile.Fixer}
    {l : Modfile.Line} {pre args : List Bytes} (htok : l.token = pre ++ args) (hF : LineFuel F bc fx l args) :
    ∀ fuel', F ≤ fuel' → ∀ (hc : Rule.Heap) (p : Int), RLine ι hc p l → BlockRep hc block bc →
      AddLeaf fuel' hc block bc p l pre args verb fx := by
  intro fuel' hfu hc p hl hb
  have hts : tokSum args ≤ tokSum l.token := by rw [htok]; exact tokSum_le_append _ _
  have h8 : 8 * tokSum args + 1 ≤ fuel' := by have := hF.toks; omega
  have hcm : comLen l.comments + (bc.map comLen).getD 0 + 3 ≤ fuel' := Nat.le_trans hF.coms hfu
  have hBA : BlockArg hc block bc := by cases bc <;> exact hb
  refine ⟨?_, ?_, ?_, ?_, ?_, ?_, ?_⟩
  · intro _ a ha
    subst ha
    exact PSok_of a fuel' (by simp at h8; omega)
  · intro _ a0 a1 ha
    subst ha
    simp only [tokSum_cons, tokSum_nil] at h8
    refine ⟨PSok_of a0 fuel' (by omega), fun s a0' hps => ⟨PVok_of s a1 fx fuel' (by omega), MPMok_of s fuel' ?_, ?_⟩⟩
    · have := parseString_length hps; omega
    · intro a1' v hpv pm
      exact CPMok_of v pm fuel' (Nat.le_trans (hF.ver a0 a1 [] s a0' a1' v rfl hps hpv) hfu)
  · intro _ ls l' hg
    exact indL_of p ls l' hg
  · intro _
    exact parseDeprecation_tie hl.1 hBA fuel' hcm
  · intro _
    exact parseDirectiveComment_tie hl.1 hBA fuel' hcm
  · intro _
    exact PVIok_of ⟨lineG l, hl.1, htok, rfl⟩ [] (some Modfile.dontFixRetract) fuel' h8
  · intro _
    exact PRok_of hl htok fx fuel' h8 (fun a0 a1 rest s a0' a1' v e1 e2 e3 => Nat.le_trans (hF.ver a0 a1 rest s a0' a1' v e1 e2 e3) hfu)

theorem WorkLeaf_of {ι : Int → Nat} {F : Nat} {verb : Bytes} {fx : Option Modfile.Fixer}
    {l : Modfile.Line} {pre args : List Bytes} (htok : l.token = pre ++ args) (hF : LineFuel F none fx l args) :
    ∀ fuel', F ≤ fuel' → ∀ (hc : Rule.Heap) (p : Int), RLine ι hc p l → WorkLeaf fuel' hc p l pre args verb fx := by
  intro fuel' hfu hc p hl
  have hts : tokSum args ≤ tokSum l.token := by rw [htok]; exact tokSum_le_append _ _
  have h8 : 8 * tokSum args + 1 ≤ fuel' := by have := hF.toks; omega
  refine ⟨?_, ?_⟩
  · intro _ a ha
    subst ha
    exact PSok_of a fuel' (by simp at h8; omega)
  · intro _
    exact PRok_of hl htok fx fuel' h8 (fun a0 a1 rest s a0' a1' v e1 e2 e3 => Nat.le_trans (hF.ver a0 a1 rest s a0' a1' v e1 e2 e3) hfu)

theorem FA_ok {ι : Int → Nat} {fp : Int} {F : Nat} {fx : Option Modfile.Fixer} {strict : Bool} (bp : Int) (bc : Option Modfile.Comments) (verb : Bytes)
    {l : Modfile.Line} {pre args : List Bytes} (htok : l.token = pre ++ args) (hF : LineFuel F bc fx l args) :
    StepOK modK ι fp (faH fp (fixG fx) strict) (fun st blk l verb args => Modfile.File.add st blk l verb args fx strict) F bp bc verb pre args l := by
  intro fuel hfu h errs st syn p R hl hb
  obtain ⟨e, h', hr, hp⟩ := FA_step R hl htok fuel bp bc verb fx strict (AddLeaf_of htok hF fuel hfu h p hl hb)
  exact ⟨e, h', hr, hp.toG R⟩

/-- `WorkFile.add` ignores the block -/
theorem WA_ok {ι : Int → Nat} {fp : Int} {F : Nat} {fx : Option Modfile.Fixer} (bp : Int) (bc : Option Modfile.Comments) (verb : Bytes)
    {l : Modfile.Line} {pre args : List Bytes} (htok : l.token = pre ++ args) (hF : LineFuel F bc fx l args) :
    StepOK workK ι fp (waH fp (fixG fx)) (fun st _ l verb args => Modfile.WorkFile.add st l verb args fx) F bp bc verb pre args l := by
  intro fuel hfu h errs st syn p R hl _
  have hF0 : LineFuel F none fx l args := ⟨hF.toks, by have := hF.coms; simp at this ⊢; omega, hF.ver⟩
  obtain ⟨e, h', hr, hp⟩ := WA_step R hl htok fuel verb fx (WorkLeaf_of htok hF0 fuel hfu h p hl)
  exact ⟨e, h', hr, hp.toG R⟩

def QF (F : Nat) (l : Modfile.Line) : Prop := 8 * tokSum (frSplit l).2 + 1 ≤ F

theorem FixLeaf_of (ι : Int → Nat) (F : Nat) (path : Bytes) (fx : Modfile.Fixer) : FixLeaf ι (QF F) F path fx := by
  intro fuel' hfu hc sp l hl hQ r V hown
  exact PVIok_of V path (some fx) fuel' (Nat.le_trans hQ hfu)

theorem tokSum_frSplit (l : Modfile.Line) : tokSum (frSplit l).2 ≤ tokSum l.token := by
  have := frSplit_append l
  rw [this]
  exact tokSum_le_append _ _

end ModVerif.Tie.FnRuleAddM
