/-
  Groundwork for the stored-hash layout (C09): fuel independence and the recurrence of
  `storedHashIndex 0`, i.e. "each new record n adds 1 + trailingZeros(n+1) hashes".
  The 2-adic valuation occurs three times: `RFC6962.tz` (the specification's), `trailingZeros64` (bits.TrailingZeros64, model)
  and `trailingOnes` (the `i&1` loop of StoredHashCount); `trailingZeros64_eq_tz` and `trailingOnes_eq_tz` connect them.
-/
import ModVerif.Model.Tlog
import ModVerif.Spec.RFC6962
namespace ModVerif.Tlog
open ModVerif

theorem sumHalves_fuel : ∀ f g n, n ≤ f → n ≤ g → sumHalves f n = sumHalves g n := by
  intro f
  induction f with
  | zero =>
    intro g n h1 _
    have : n = 0 := by omega
    subst this
    cases g <;> simp [sumHalves]
  | succ f ih =>
    intro g n h1 h2
    cases g with
    | zero =>
      have : n = 0 := by omega
      subst this
      simp [sumHalves]
    | succ g =>
      simp only [sumHalves]
      split
      · rw [ih g (n / 2) (by omega) (by omega)]
      · rfl

/-- `S n = n + n/2 + n/4 + …` -/
def S (n : Nat) : Nat := sumHalves n n

theorem S_zero : S 0 = 0 := rfl

theorem S_pos (n : Nat) (h : 0 < n) : S n = n + S (n / 2) := by
  unfold S
  cases n with
  | zero => omega
  | succ m =>
    simp only [sumHalves, Nat.zero_lt_succ, ↓reduceIte, gt_iff_lt]
    rw [sumHalves_fuel m ((m + 1) / 2) ((m + 1) / 2) (by omega) (Nat.le_refl _)]

theorem storedHashIndex_zero_eq (n : Nat) : storedHashIndex 0 n = S n := by
  simp [storedHashIndex, descend, S]

theorem tzF_fuel : ∀ f g n, n ≤ f → n ≤ g → RFC6962.tzF f n = RFC6962.tzF g n := by
  intro f
  induction f with
  | zero =>
    intro g n h1 _
    have : n = 0 := by omega
    subst this
    cases g <;> simp [RFC6962.tzF]
  | succ f ih =>
    intro g n h1 h2
    cases g with
    | zero =>
      have : n = 0 := by omega
      subst this
      simp [RFC6962.tzF]
    | succ g =>
      simp only [RFC6962.tzF]
      split
      · rename_i hc
        rw [ih g (n / 2) (by omega) (by omega)]
      · rfl

theorem tz_odd (n : Nat) (h : n % 2 = 1) : RFC6962.tz n = 0 := by
  unfold RFC6962.tz
  cases n with
  | zero => omega
  | succ m => simp [RFC6962.tzF]; omega

theorem tz_double (m : Nat) (h : 0 < m) : RFC6962.tz (2 * m) = 1 + RFC6962.tz m := by
  unfold RFC6962.tz
  cases hm : 2 * m with
  | zero => omega
  | succ k =>
    have h2 : (k + 1) % 2 = 0 := by omega
    have h3 : (k + 1) / 2 = m := by omega
    simp only [RFC6962.tzF, h2, ne_eq, Nat.add_eq_zero_iff, Nat.succ_ne_self, and_false, not_false_eq_true, and_self,
      ↓reduceIte, h3]
    rw [tzF_fuel k m m (by omega) (Nat.le_refl _)]

/-- ★ "Each new record n adds 1 + trailingZeros(n+1) hashes" (comment in SplitStoredHashIndex):
    the leaf of record `n+1` is stored `1 + tz (n+1)` positions after the leaf of record `n`. -/
theorem S_succ : ∀ n, S (n + 1) = S n + 1 + RFC6962.tz (n + 1) := by
  intro n
  induction n using Nat.strongRecOn with
  | _ n ih =>
    rw [S_pos (n + 1) (by omega)]
    by_cases hodd : (n + 1) % 2 = 1
    · -- n even
      rw [tz_odd _ hodd]
      have h1 : (n + 1) / 2 = n / 2 := by omega
      rw [h1]
      cases n with
      | zero => simp [S_zero]
      | succ k => rw [S_pos (k + 1) (by omega)]; omega
    · -- n + 1 = 2 m
      have hm : ∃ m, n + 1 = 2 * m ∧ 0 < m := ⟨(n + 1) / 2, by omega, by omega⟩
      obtain ⟨m, hm1, hm2⟩ := hm
      have h1 : (n + 1) / 2 = m := by omega
      have hn : n = 2 * m - 1 := by omega
      rw [h1, hm1, tz_double m hm2]
      have ih' := ih (m - 1) (by omega)
      have hmm : m - 1 + 1 = m := by omega
      rw [hmm] at ih'
      have hS : S n = n + S (m - 1) := by
        rw [S_pos n (by omega)]
        have : n / 2 = m - 1 := by omega
        rw [this]
      rw [hS, ih']
      omega

theorem storedHashIndex_zero_succ (n : Nat) :
    storedHashIndex 0 (n + 1) = storedHashIndex 0 n + 1 + RFC6962.tz (n + 1) := by
  rw [storedHashIndex_zero_eq, storedHashIndex_zero_eq, S_succ]

theorem storedHashIndex_zero_lt_succ (n : Nat) : storedHashIndex 0 n < storedHashIndex 0 (n + 1) := by
  rw [storedHashIndex_zero_succ]; omega

/-- bits.TrailingZeros64 is the 2-adic valuation on `0 < n < 2^64` -/
theorem tzAux_eq_tz : ∀ f n, 0 < n → n < 2 ^ f → tzAux f n = RFC6962.tz n := by
  intro f
  induction f with
  | zero => intro n h1 h2; simp at h2; omega
  | succ f ih =>
    intro n h1 h2
    simp only [tzAux]
    by_cases hodd : n % 2 = 1
    · simp [hodd, tz_odd n hodd]
    · have hm : n = 2 * (n / 2) := by omega
      have hne : (n % 2 == 1) = false := by simp; omega
      rw [hne]
      simp only [Bool.false_eq_true, ↓reduceIte]
      rw [ih (n / 2) (by omega) (by rw [Nat.pow_succ] at h2; omega)]
      conv => rhs; rw [hm]
      rw [tz_double (n / 2) (by omega)]

theorem trailingZeros64_eq_tz (n : Nat) (h1 : 0 < n) (h2 : n < 2 ^ 64) : trailingZeros64 n = RFC6962.tz n := by
  unfold trailingZeros64
  rw [Nat.mod_eq_of_lt h2]
  exact tzAux_eq_tz 64 n h1 h2

/-- the `i&1 != 0` loop of StoredHashCount counts the trailing zeros of `i + 1` -/
theorem trailingOnes_eq_tz : ∀ f i, i < 2 ^ f → trailingOnes f i = RFC6962.tz (i + 1) := by
  intro f
  induction f with
  | zero => intro i h; have : i = 0 := by simp at h; omega
            subst this; simp [trailingOnes, tz_odd]
  | succ f ih =>
    intro i h
    simp only [trailingOnes]
    by_cases hodd : i % 2 = 1
    · have hne : (i % 2 == 1) = true := by simp [hodd]
      rw [hne]
      simp only [↓reduceIte]
      rw [ih (i / 2) (by rw [Nat.pow_succ] at h; omega)]
      have : i + 1 = 2 * (i / 2 + 1) := by omega
      rw [this, tz_double _ (by omega)]
    · have hne : (i % 2 == 1) = false := by simp; omega
      rw [hne]
      simp only [Bool.false_eq_true, ↓reduceIte]
      rw [tz_odd (i + 1) (by omega)]

/-- ★ the documented count is the position of the next record's leaf hash -/
theorem storedHashCount_eq_index (n : Nat) (h : n ≤ 2 ^ 64) : storedHashCount n = storedHashIndex 0 n := by
  unfold storedHashCount
  cases n with
  | zero => simp [storedHashIndex_zero_eq, S_zero]
  | succ m =>
    have : (m + 1 == 0) = false := by simp
    simp only [this, Bool.false_eq_true, ↓reduceIte, Nat.add_sub_cancel]
    rw [trailingOnes_eq_tz 64 m (by omega), storedHashIndex_zero_succ]

theorem layout_succ (n : Nat) : RFC6962.layout (n + 1) = RFC6962.layout n ++ RFC6962.layoutRec n := by
  simp [RFC6962.layout, List.range_succ, List.flatMap_append]

theorem layout_length (n : Nat) : (RFC6962.layout n).length = S n := by
  induction n with
  | zero => simp [RFC6962.layout, S_zero]
  | succ n ih =>
    rw [layout_succ, List.length_append, ih, S_succ]
    simp [RFC6962.layoutRec]
    omega

theorem descend_eq : ∀ l k, descend l k = (k + 1) * 2 ^ l - 1 := by
  intro l
  induction l with
  | zero => intro k; simp [descend]
  | succ l ih =>
    intro k
    simp only [descend]
    rw [ih (2 * k + 1), Nat.pow_succ]
    have : (2 * k + 1 + 1) * 2 ^ l = (k + 1) * (2 ^ l * 2) := by
      rw [show 2 * k + 1 + 1 = (k + 1) * 2 by omega, Nat.mul_assoc, Nat.mul_comm 2 (2 ^ l)]
    rw [this]

/-- closed form: the hash of `(level, k)` is written `level` positions after the leaf of its last record -/
theorem storedHashIndex_eq (l k : Nat) : storedHashIndex l k = S ((k + 1) * 2 ^ l - 1) + l := by
  simp [storedHashIndex, S, descend_eq]

theorem le_tz_mul_pow : ∀ l m, 0 < m → l ≤ RFC6962.tz (m * 2 ^ l) := by
  intro l
  induction l with
  | zero => intro m _; exact Nat.zero_le _
  | succ l ih =>
    intro m hm
    have : m * 2 ^ (l + 1) = 2 * (m * 2 ^ l) := by rw [Nat.pow_succ]; ac_rfl
    rw [this, tz_double _ (Nat.mul_pos hm (Nat.two_pow_pos l))]
    have := ih m hm
    omega

theorem layout_prefix {i n : Nat} (h : i ≤ n) : ∃ r, RFC6962.layout n = RFC6962.layout i ++ r := by
  induction n with
  | zero => rw [Nat.le_zero.mp h]; exact ⟨[], rfl⟩
  | succ n ih =>
    by_cases e : i = n + 1
    · subst e; exact ⟨[], (List.append_nil _).symm⟩
    · obtain ⟨r, hr⟩ := ih (by omega)
      exact ⟨r ++ RFC6962.layoutRec n, by rw [layout_succ, hr, List.append_assoc]⟩

theorem layout_get (n i l : Nat) (hi : i < n) (hl : l ≤ RFC6962.tz (i + 1)) :
    (RFC6962.layout n)[S i + l]? = some (l, i >>> l) := by
  obtain ⟨r, hr⟩ := layout_prefix (show i + 1 ≤ n by omega)
  rw [hr, List.getElem?_append_left (by rw [layout_length, S_succ]; omega), layout_succ,
    List.getElem?_append_right (by rw [layout_length]; omega), layout_length, Nat.add_sub_cancel_left]
  simp only [RFC6962.layoutRec, List.getElem?_map]
  rw [List.getElem?_range (by omega)]
  rfl

/-- ★ `storedHashIndex` is the position of `(l, k)` in the specification's layout of any log that
    contains the complete subtree `(l, k)`. -/
theorem storedHashIndex_layout (n l k : Nat) (h : (k + 1) * 2 ^ l ≤ n) :
    (RFC6962.layout n)[storedHashIndex l k]? = some (l, k) := by
  rw [storedHashIndex_eq]
  have hpos : 0 < (k + 1) * 2 ^ l := Nat.mul_pos (by omega) (Nat.two_pow_pos l)
  have hi : (k + 1) * 2 ^ l - 1 < n := by omega
  have hl : l ≤ RFC6962.tz ((k + 1) * 2 ^ l - 1 + 1) := by
    rw [Nat.sub_add_cancel hpos]; exact le_tz_mul_pow l (k + 1) (by omega)
  rw [layout_get n _ l hi hl]
  congr 2
  rw [Nat.shiftRight_eq_div_pow]
  have h2 := Nat.two_pow_pos l
  apply Nat.div_eq_of_lt_le
  · have : k * 2 ^ l + 2 ^ l = (k + 1) * 2 ^ l := by rw [Nat.add_mul]; omega
    omega
  · have : (k + 1) * 2 ^ l = k * 2 ^ l + 2 ^ l := by rw [Nat.add_mul]; omega
    omega

/-- `StoredHashIndex(0, n) ≤ 2n` ("StoredHashIndex(0, n) < 2*n" in the code's comment, for n > 0) -/
theorem S_le_two_mul : ∀ n, S n ≤ 2 * n := by
  intro n
  induction n using Nat.strongRecOn with
  | _ n ih =>
    cases n with
    | zero => simp [S_zero]
    | succ m =>
      rw [S_pos (m + 1) (by omega)]
      have := ih ((m + 1) / 2) (by omega)
      omega

/-- the "bad math" panic at the top of SplitStoredHashIndex is unreachable -/
theorem split_guard_unreachable (index : Nat) : ¬ storedHashIndex 0 (index / 2) > index := by
  rw [storedHashIndex_zero_eq]
  have := S_le_two_mul (index / 2)
  omega

end ModVerif.Tlog
