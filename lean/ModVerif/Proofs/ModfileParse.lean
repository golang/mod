/-
  Fuel and failures of the parser model.  Measure `m`: bytes remaining, plus one while the pending token is not EOF;
  every `lex` call lowers it (`lex_spec`).

  * Every run of the parser (Proofs/ModfileRun.lean) is what the parser returns with the fuel `parseFile` supplies
    (`PFile.sound`, `parseFile_of_run`): a result of `parseFile` can be exhibited as a run, without fuel; and a result
    lowers the measure, whatever the fuel (`parseLine_m_lt`, `parseStmt_m_lt`).
  * The failing runs, walked once (`parseFile_err`): with that fuel every error is raised by `readToken` in a reachable
    state or at the position of one (`ErrAt`), and is not an internal one — no loop runs out of fuel, `parseLine` is never
    entered at an end of line, `readRune` is never called at EOF (`parse_noInternal`).
-/
import ModVerif.Model.Modfile.Comments
import ModVerif.Proofs.ModfileLex
import ModVerif.Proofs.ModfileRun
namespace ModVerif.Proofs.ModfileParse
open ModVerif ModVerif.Modfile ModVerif.Proofs.ModfileLex

/-- the termination measure of the parser loops -/
def m (i : Input) : Nat := i.remaining.length + (if i.token.kind = .eof then 0 else 1)

@[simp] theorem m_nextId (i : Input) (n : Nat) : m { i with nextId := n } = m i := rfl

theorem lex_spec (i : Input) :
    (∃ i', lex i = .ok (i.token, i') ∧ m i' ≤ m i ∧ (i.token.kind ≠ .eof → m i' < m i)) ∨
    (∃ e, lex i = .error e ∧ NotInternal e) := by
  unfold lex
  rcases readToken_spec i with ⟨i', h', hle, hlt, _⟩ | ⟨e, h', hne⟩
  · refine Or.inl ⟨i', by simp [h', bind, Except.bind], ?_, ?_⟩
    · unfold m
      by_cases hk : i'.token.kind = .eof
      · simp only [hk, if_true]; split <;> omega
      · have := hlt hk
        simp only [hk, if_false]; split <;> omega
    · intro hi
      unfold m
      simp only [hi, if_false]
      by_cases hk : i'.token.kind = .eof
      · simp only [hk, if_true]; omega
      · have := hlt hk
        simp only [hk, if_false]; omega
  · exact Or.inr ⟨e, by simp [h', bind, Except.bind], hne⟩

theorem not_eof_of_not_isEOL {k : TokKind} (h : k.isEOL = false) : k ≠ .eof := by
  intro hk; rw [hk] at h; cases h

end ModVerif.Proofs.ModfileParse

namespace ModVerif.Proofs.ModfileRun
open ModVerif ModVerif.Modfile ModVerif.Proofs.ModfileLex ModVerif.Proofs.ModfileParse ModVerif.Proofs.ModfilePos

theorem Step.m_le {i i1 : Input} (h : Step i i1) : m i1 ≤ m i ∧ (i.token.kind ≠ .eof → m i1 < m i) := by
  rcases lex_spec i with ⟨i', h', hle, hlt⟩ | ⟨e, h', _⟩
  · rw [h.lex] at h'; cases h'; exact ⟨hle, hlt⟩
  · rw [h.lex] at h'; cases h'

theorem Step.m_lt {i i1 : Input} (h : Step i i1) (he : i.token.kind.isEOL = false) : m i1 < m i :=
  h.m_le.2 (not_eof_of_not_isEOL he)

/-! `P*.sound`: a run IS a result of the loop — the loop, given any fuel above `m i`, returns the tree and end state of
    the run (first component: the run lowers `m`).  The other direction, a result is a run, is `parse*_run` of
    Proofs/ModfileRun.lean. -/

theorem PLine.sound {i : Input} {s e : Position} {acc : List Bytes} {l : Line} {i' : Input}
    (h : PLine Step Step i s e acc l i') :
    m i' ≤ m i ∧ ∀ fuel, m i < fuel → parseLineLoop fuel i s e acc = .ok (l, i') := by
  induction h with
  | eol hx he =>
    refine ⟨hx.m_le.1, fun fuel hf => ?_⟩
    obtain ⟨n, rfl⟩ : ∃ n, fuel = n + 1 := ⟨fuel - 1, by omega⟩
    unfold parseLineLoop
    simp [hx.lex, bind, Except.bind, he]
  | tok hx he _ ih =>
    have := hx.m_lt he
    refine ⟨by omega, fun fuel hf => ?_⟩
    obtain ⟨n, rfl⟩ : ∃ n, fuel = n + 1 := ⟨fuel - 1, by omega⟩
    unfold parseLineLoop
    simp only [hx.lex, bind, Except.bind, he, Bool.false_eq_true, if_false]
    exact ih.2 n (by omega)

theorem PBlock.sound {i : Input} {x : LineBlock} {ls : List Line} {cs : List Comment} {b : LineBlock} {i' : Input}
    (h : PBlock Step Step i x ls cs b i') :
    m i' ≤ m i ∧ ∀ fuel, m i < fuel → parseLineBlockLoop fuel i x ls cs = .ok (b, i') := by
  induction h with
  | eolComment hk hx _ ih =>
    have := hx.m_le.2 (by rw [hk]; simp)
    refine ⟨by omega, fun fuel hf => ?_⟩
    obtain ⟨n, rfl⟩ : ∃ n, fuel = n + 1 := ⟨fuel - 1, by omega⟩
    unfold parseLineBlockLoop
    simp only [Input.peek, hk, hx.lex, bind, Except.bind]
    exact ih.2 n (by omega)
  | blank hk hx _ ih =>
    have := hx.m_le.2 (by rw [hk]; simp)
    refine ⟨by omega, fun fuel hf => ?_⟩
    obtain ⟨n, rfl⟩ : ∃ n, fuel = n + 1 := ⟨fuel - 1, by omega⟩
    unfold parseLineBlockLoop
    simp only [Input.peek, hk, hx.lex, bind, Except.bind]
    exact ih.2 n (by omega)
  | comment hk hx _ ih =>
    have := hx.m_le.2 (by rw [hk]; simp)
    refine ⟨by omega, fun fuel hf => ?_⟩
    obtain ⟨n, rfl⟩ : ∃ n, fuel = n + 1 := ⟨fuel - 1, by omega⟩
    unfold parseLineBlockLoop
    simp only [Input.peek, hk, hx.lex, bind, Except.bind]
    exact ih.2 n (by omega)
  | close hk hx he hx2 =>
    have := hx.m_le.1
    have := hx2.m_le.1
    refine ⟨by omega, fun fuel hf => ?_⟩
    obtain ⟨n, rfl⟩ : ∃ n, fuel = n + 1 := ⟨fuel - 1, by omega⟩
    unfold parseLineBlockLoop
    simp [Input.peek, hk, hx.lex, hx2.lex, he, bind, Except.bind]
  | @line i i1 i2 x ls cs l b i' h1 h2 h3 h4 h5 hx he hl _ ih =>
    have := hx.m_lt he
    have := hl.sound.1
    refine ⟨by omega, fun fuel hf => ?_⟩
    obtain ⟨n, rfl⟩ : ∃ n, fuel = n + 1 := ⟨fuel - 1, by omega⟩
    have hp : parseLine (n + 1) i = .ok (l, i2) := by
      unfold parseLine
      simp only [hx.lex, bind, Except.bind, he, Bool.false_eq_true, if_false]
      exact hl.sound.2 _ (by omega)
    have key : ∀ r, parseLineBlockLoop (n + 1) i x ls cs = r → r = .ok (b, i') := by
      intro r hr
      unfold parseLineBlockLoop at hr
      simp only [Input.peek] at hr
      simp only [hp, bind, Except.bind] at hr
      rw [← hr]; exact ih.2 n (by omega)
    exact key _ rfl

theorem PStmt.sound {i : Input} {s e : Position} {acc : List Bytes} {x : Expr} {i' : Input}
    (h : PStmt Step Step i s e acc x i') :
    m i' ≤ m i ∧ ∀ fuel, m i < fuel → parseStmtLoop fuel i s e acc = .ok (x, i') := by
  have e40 : (TokKind.punct 40).isEOL = false := rfl
  have e41 : (TokKind.punct 41).isEOL = false := rfl
  induction h with
  | eol hx he =>
    refine ⟨hx.m_le.1, fun fuel hf => ?_⟩
    obtain ⟨n, rfl⟩ : ∃ n, fuel = n + 1 := ⟨fuel - 1, by omega⟩
    unfold parseStmtLoop
    simp [hx.lex, bind, Except.bind, he]
  | block hx hk he hb =>
    have := hx.m_le.2 (by rw [hk]; simp)
    have := hb.sound.1
    refine ⟨by omega, fun fuel hf => ?_⟩
    obtain ⟨n, rfl⟩ : ∃ n, fuel = n + 1 := ⟨fuel - 1, by omega⟩
    unfold parseStmtLoop
    simp [hx.lex, bind, Except.bind, hk, e40, Input.peek, he, parseLineBlock, hb.sound.2 (n + 1) (by omega)]
  | empty hx hk hk1 hx2 he2 hx3 =>
    have := hx.m_le.1
    have := hx2.m_le.1
    have := hx3.m_le.1
    refine ⟨by omega, fun fuel hf => ?_⟩
    obtain ⟨n, rfl⟩ : ∃ n, fuel = n + 1 := ⟨fuel - 1, by omega⟩
    unfold parseStmtLoop
    simp [hx.lex, hx2.lex, hx3.lex, bind, Except.bind, hk, hk1, e40, e41, Input.peek, he2]
  | parens hx hk hk1 hx2 he2 _ ih =>
    have := hx.m_le.2 (by rw [hk]; simp)
    have := hx2.m_le.1
    refine ⟨by omega, fun fuel hf => ?_⟩
    obtain ⟨n, rfl⟩ : ∃ n, fuel = n + 1 := ⟨fuel - 1, by omega⟩
    unfold parseStmtLoop
    simp only [hx.lex, hx2.lex, bind, Except.bind, hk, hk1, e40, e41, Input.peek, he2, beq_self_eq_true,
      Bool.false_eq_true, if_false, if_true]
    exact ih.2 n (by omega)
  | @lparen i i1 s e acc x i' hx hk he1 hk1 _ ih =>
    have := hx.m_le.2 (by rw [hk]; simp)
    refine ⟨by omega, fun fuel hf => ?_⟩
    obtain ⟨n, rfl⟩ : ∃ n, fuel = n + 1 := ⟨fuel - 1, by omega⟩
    have hb : (i1.token.kind == TokKind.punct 41) = false := by simpa using hk1
    unfold parseStmtLoop
    simp only [hx.lex, bind, Except.bind, hk, e40, Input.peek, he1, hb, beq_self_eq_true, Bool.false_eq_true, if_false,
      if_true]
    exact ih.2 n (by omega)
  | @tok i i1 s e acc x i' hx he hk _ ih =>
    have := hx.m_lt he
    refine ⟨by omega, fun fuel hf => ?_⟩
    obtain ⟨n, rfl⟩ : ∃ n, fuel = n + 1 := ⟨fuel - 1, by omega⟩
    have hb : (i.token.kind == TokKind.punct 40) = false := by simpa using hk
    unfold parseStmtLoop
    simp only [hx.lex, bind, Except.bind, he, hb, Bool.false_eq_true, if_false]
    exact ih.2 n (by omega)

theorem PFile.sound {i : Input} {sr : List Expr} {cb : Option CommentBlock} {out : List Expr} {i' : Input}
    (h : PFile Step Step i sr cb out i') : ∀ fuel, m i < fuel → parseFileLoop fuel i sr cb = .ok (out, i') := by
  induction h with
  | @blank i i1 sr cb out i' hk hx _ ih =>
    have := hx.m_le.2 (by rw [hk]; simp)
    intro fuel hf
    obtain ⟨n, rfl⟩ : ∃ n, fuel = n + 1 := ⟨fuel - 1, by omega⟩
    unfold parseFileLoop
    simp only [Input.peek, hk, hx.lex, bind, Except.bind]
    cases cb <;> exact ih n (by omega)
  | comment hk hx _ ih =>
    have := hx.m_le.2 (by rw [hk]; simp)
    intro fuel hf
    obtain ⟨n, rfl⟩ : ∃ n, fuel = n + 1 := ⟨fuel - 1, by omega⟩
    unfold parseFileLoop
    simp only [Input.peek, hk, hx.lex, bind, Except.bind]
    exact ih n (by omega)
  | @eof i sr cb hk =>
    intro fuel hf
    obtain ⟨n, rfl⟩ : ∃ n, fuel = n + 1 := ⟨fuel - 1, by omega⟩
    unfold parseFileLoop
    simp only [Input.peek, hk]
    cases cb <;> rfl
  | @stmt i i1 i2 sr cb x out i' h1 h2 h3 hx hs _ ih =>
    have := hx.m_le.2 h3
    have := hs.sound.1
    intro fuel hf
    obtain ⟨n, rfl⟩ : ∃ n, fuel = n + 1 := ⟨fuel - 1, by omega⟩
    have hp : parseStmt (n + 1) i = .ok (x, i2) := by
      unfold parseStmt
      simp only [hx.lex, bind, Except.bind]
      exact hs.sound.2 _ (by omega)
    have key : ∀ r, parseFileLoop (n + 1) i sr cb = r → r = .ok (out, i') := by
      intro r hr
      unfold parseFileLoop at hr
      simp only [Input.peek, hp, bind, Except.bind] at hr
      rw [← hr]
      cases cb <;> exact ih n (by omega)
    exact key _ rfl

theorem m_first {data : Bytes} {i0 : Input} (h0 : readToken (newInput data) = .ok i0) : m i0 < data.length + 2 := by
  have : m i0 ≤ m (newInput data) := (show Step (newInput data) i0 from h0).m_le.1
  have : m (newInput data) ≤ data.length + 1 := by unfold m; simp only [newInput]; split <;> omega
  omega

theorem parseFile_of_run {data : Bytes} {i0 : Input} {stmts : List Expr} {i' : Input}
    (h0 : readToken (newInput data) = .ok i0) (h : PFile Step Step i0 [] none stmts i') :
    parseFile data = .ok (stmts, i') := by
  unfold parseFile
  simp only [h0, bind, Except.bind]
  exact h.sound _ (m_first h0)

theorem parseLine_m_lt {fuel : Nat} {i : Input} {l : Line} {i' : Input} (h : parseLine fuel i = .ok (l, i')) :
    m i' < m i := by
  obtain ⟨i1, hx, he, hl⟩ := parseLine_run h
  have := hx.m_lt he
  have := hl.sound.1
  omega

theorem parseStmt_m_lt {fuel : Nat} {i : Input} {x : Expr} {i' : Input} (h : parseStmt fuel i = .ok (x, i'))
    (hk : i.token.kind ≠ .eof) : m i' < m i := by
  obtain ⟨i1, hx, hs⟩ := parseStmt_run h
  have := hx.m_le.2 hk
  have := hs.sound.1
  omega

inductive ErrAt (data : Bytes) (e : SynErr) : Prop
  | lex {i : Input} : Reach data i → readToken i = .error e → ErrAt data e
  | here {i : Input} : Reach data i → e.pos = i.pos → ErrAt data e

section errors
variable {data : Bytes}

theorem Step.reach {i i1 : Input} (h : Step i i1) (hr : Reach data i) : Reach data i1 := Reach.lex hr h

theorem ErrAt.ofLex {i : Input} {e : SynErr} (hr : Reach data i) (h : readToken i = .error e) :
    ErrAt data e ∧ NotInternal e := ⟨.lex hr h, readToken_noInternal i e h⟩

theorem ErrAt.ofHere {i : Input} {k : SynErrKind} (hr : Reach data i) (hk : ∀ t, k ≠ .internal t) :
    ErrAt data (i.error k) ∧ NotInternal (i.error k) := ⟨.here hr rfl, hk⟩

theorem parseLine_reach {fuel : Nat} {i : Input} {l : Line} {i' : Input} (hr : Reach data i)
    (h : parseLine fuel i = .ok (l, i')) : Reach data i' := by
  obtain ⟨i1, hx, _, hl⟩ := parseLine_run h
  exact (hl.lift (fun _ _ hr hs => Reach.lex hr hs) (fun _ n hr => Reach.setId n hr) (hx.reach hr)).2

theorem parseStmt_reach {fuel : Nat} {i : Input} {x : Expr} {i' : Input} (hr : Reach data i)
    (h : parseStmt fuel i = .ok (x, i')) : Reach data i' := by
  obtain ⟨i1, hx, hs⟩ := parseStmt_run h
  exact (hs.lift (fun _ _ hr hs => Reach.lex hr hs) (fun _ n hr => Reach.setId n hr) (hx.reach hr)).2

theorem parseLineLoop_err : ∀ (fuel : Nat) (i : Input) (s e : Position) (acc : List Bytes) (err : SynErr),
    Reach data i → m i < fuel → parseLineLoop fuel i s e acc = .error err → ErrAt data err ∧ NotInternal err := by
  intro fuel
  induction fuel with
  -- the out-of-fuel branch is excluded by `m i < fuel`; every other branch calls `lex` first, which lowers `m`
  | zero => intro i s e acc err _ hm; omega
  | succ n ih =>
    intro i s e acc err hr hm h
    unfold parseLineLoop at h
    rcases lex_cases i with ⟨i1, hl, hx⟩ | ⟨e1, hl, hrt⟩
    · simp only [hl, bind, Except.bind] at h
      split at h
      · cases h
      · rename_i he
        have := hx.m_lt (by simpa using he)
        exact ih _ _ _ _ _ (hx.reach hr) (by omega) h
    · simp only [hl, bind, Except.bind] at h
      cases h; exact ErrAt.ofLex hr hrt

theorem parseLine_err {fuel : Nat} {i : Input} {err : SynErr} (hr : Reach data i) (hm : m i ≤ fuel)
    (he : i.token.kind.isEOL = false) (h : parseLine fuel i = .error err) : ErrAt data err ∧ NotInternal err := by
  unfold parseLine at h
  rcases lex_cases i with ⟨i1, hl, hx⟩ | ⟨e1, hl, hrt⟩
  · simp only [hl, bind, Except.bind, he, Bool.false_eq_true, if_false] at h
    have := hx.m_lt he
    exact parseLineLoop_err _ _ _ _ _ _ (hx.reach hr) (by omega) h
  · simp only [hl, bind, Except.bind] at h
    cases h; exact ErrAt.ofLex hr hrt

theorem parseLineBlockLoop_err : ∀ (fuel : Nat) (i : Input) (x : LineBlock) (ls : List Line) (cs : List Comment)
    (err : SynErr), Reach data i → m i < fuel → parseLineBlockLoop fuel i x ls cs = .error err →
    ErrAt data err ∧ NotInternal err := by
  intro fuel
  induction fuel with
  | zero => intro i x ls cs err _ hm; omega
  | succ n ih =>
    intro i x ls cs err hr hm h
    unfold parseLineBlockLoop at h
    have skip : ∀ (cs' : List Comment), i.token.kind ≠ .eof →
        (do let (_, i) ← lex i; parseLineBlockLoop n i x ls cs') = .error err → ErrAt data err ∧ NotInternal err := by
      intro cs' hk h
      rcases lex_cases i with ⟨i1, hl, hx⟩ | ⟨e1, hl, hrt⟩
      · simp only [hl, bind, Except.bind] at h
        have := hx.m_le.2 hk
        exact ih _ _ _ _ _ (hx.reach hr) (by omega) h
      · simp only [hl, bind, Except.bind] at h
        cases h; exact ErrAt.ofLex hr hrt
    simp only [Input.peek] at h
    split at h
    · rename_i hk; exact skip _ (by rw [hk]; simp) h
    · rename_i hk; exact skip _ (by rw [hk]; simp) h
    · rename_i hk
      rcases lex_cases i with ⟨i1, hl, hx⟩ | ⟨e1, hl, hrt⟩
      · simp only [hl, bind, Except.bind] at h
        have := hx.m_le.2 (by rw [hk]; simp)
        exact ih _ _ _ _ _ (hx.reach hr) (by omega) h
      · simp only [hl, bind, Except.bind] at h
        cases h; exact ErrAt.ofLex hr hrt
    · cases h; exact ErrAt.ofHere hr (by intro t ht; cases ht)
    · rcases lex_cases i with ⟨i1, hl, hx⟩ | ⟨e1, hl, hrt⟩
      · simp only [hl, bind, Except.bind] at h
        by_cases he : i1.token.kind.isEOL = true
        · simp only [he, Bool.not_true, Bool.false_eq_true, if_false] at h
          rcases lex_cases i1 with ⟨i2, hl2, hx2⟩ | ⟨e2, hl2, hrt2⟩
          · simp [hl2] at h
          · simp only [hl2] at h
            cases h; exact ErrAt.ofLex (hx.reach hr) hrt2
        · simp only [he, Bool.not_false, if_true] at h
          cases h; exact ErrAt.ofHere (hx.reach hr) (by intro t ht; cases ht)
      · simp only [hl, bind, Except.bind] at h
        cases h; exact ErrAt.ofLex hr hrt
    · rename_i h1 h2 _ h4 _
      have he : i.token.kind.isEOL = false := by
        cases hk : i.token.kind with
        | eof => exact absurd hk h4
        | eolComment => exact absurd hk h1
        | punct c =>
          cases hc : (TokKind.punct c).isEOL with
          | false => rfl
          | true =>
            have : c = 10 := by simpa [TokKind.isEOL] using hc
            subst this
            exact absurd hk h2
        | _ => rfl
      cases hp : parseLine (n + 1) i with
      | error e1 =>
        simp only [hp, bind, Except.bind] at h
        cases h; exact parseLine_err hr (by omega) he hp
      | ok v =>
        simp only [hp, bind, Except.bind] at h
        have := parseLine_m_lt hp
        exact ih _ _ _ _ _ (parseLine_reach hr hp) (by omega) h

theorem parseStmtLoop_err : ∀ (fuel : Nat) (i : Input) (s e : Position) (acc : List Bytes) (err : SynErr),
    Reach data i → m i < fuel → parseStmtLoop fuel i s e acc = .error err → ErrAt data err ∧ NotInternal err := by
  intro fuel
  induction fuel with
  | zero => intro i s e acc err _ hm; omega
  | succ n ih =>
    intro i s e acc err hr hm h
    unfold parseStmtLoop at h
    rcases lex_cases i with ⟨i1, hl, hx⟩ | ⟨e1, hl, hrt⟩
    · have hr1 := hx.reach hr
      simp only [hl, bind, Except.bind, Input.peek] at h
      split at h
      · cases h
      · rename_i he
        have hlt := hx.m_lt (by simpa using he)
        split at h
        · by_cases he1 : i1.token.kind.isEOL = true
          · simp only [he1, if_true] at h
            cases hb : parseLineBlock (n + 1) i1 s acc.reverse i.token with
            | error e1 =>
              simp only [hb] at h
              cases h; exact parseLineBlockLoop_err _ _ _ _ _ _ hr1 (by omega) hb
            | ok v => simp [hb] at h
          · simp only [he1, Bool.false_eq_true, if_false] at h
            by_cases hk1 : (i1.token.kind == TokKind.punct 41) = true
            · simp only [hk1, if_true] at h
              rcases lex_cases i1 with ⟨i2, hl2, hx2⟩ | ⟨e2, hl2, hrt2⟩
              · have hr2 := hx2.reach hr1
                have := hx2.m_le.1
                simp only [hl2] at h
                by_cases he2 : i2.token.kind.isEOL = true
                · simp only [he2, if_true] at h
                  rcases lex_cases i2 with ⟨i3, hl3, hx3⟩ | ⟨e3, hl3, hrt3⟩
                  · simp [hl3] at h
                  · simp only [hl3] at h
                    cases h; exact ErrAt.ofLex hr2 hrt3
                · simp only [he2, Bool.false_eq_true, if_false] at h
                  exact ih _ _ _ _ _ hr2 (by omega) h
              · simp only [hl2] at h
                cases h; exact ErrAt.ofLex hr1 hrt2
            · simp only [hk1, Bool.false_eq_true, if_false] at h
              exact ih _ _ _ _ _ hr1 (by omega) h
        · exact ih _ _ _ _ _ hr1 (by omega) h
    · simp only [hl, bind, Except.bind] at h
      cases h; exact ErrAt.ofLex hr hrt

theorem parseStmt_err {fuel : Nat} {i : Input} {err : SynErr} (hr : Reach data i) (hm : m i < fuel)
    (h : parseStmt fuel i = .error err) : ErrAt data err ∧ NotInternal err := by
  unfold parseStmt at h
  rcases lex_cases i with ⟨i1, hl, hx⟩ | ⟨e1, hl, hrt⟩
  · simp only [hl, bind, Except.bind] at h
    have := hx.m_le.1
    exact parseStmtLoop_err _ _ _ _ _ _ (hx.reach hr) (by omega) h
  · simp only [hl, bind, Except.bind] at h
    cases h; exact ErrAt.ofLex hr hrt

theorem parseFileLoop_err : ∀ (fuel : Nat) (i : Input) (sr : List Expr) (cb : Option CommentBlock) (err : SynErr),
    Reach data i → m i < fuel → parseFileLoop fuel i sr cb = .error err → ErrAt data err ∧ NotInternal err := by
  intro fuel
  induction fuel with
  | zero => intro i sr cb err _ hm; omega
  | succ n ih =>
    intro i sr cb err hr hm h
    unfold parseFileLoop at h
    simp only [Input.peek] at h
    split at h
    · rename_i hk
      rcases lex_cases i with ⟨i1, hl, hx⟩ | ⟨e1, hl, hrt⟩
      · simp only [hl, bind, Except.bind] at h
        have := hx.m_le.2 (by rw [hk]; simp)
        cases cb <;> exact ih _ _ _ _ (hx.reach hr) (by omega) h
      · simp only [hl, bind, Except.bind] at h
        cases h; exact ErrAt.ofLex hr hrt
    · rename_i hk
      rcases lex_cases i with ⟨i1, hl, hx⟩ | ⟨e1, hl, hrt⟩
      · simp only [hl, bind, Except.bind] at h
        have := hx.m_le.2 (by rw [hk]; simp)
        exact ih _ _ _ _ (hx.reach hr) (by omega) h
      · simp only [hl, bind, Except.bind] at h
        cases h; exact ErrAt.ofLex hr hrt
    · cases cb <;> cases h
    · rename_i _ _ h3
      cases hp : parseStmt (n + 1) i with
      | error e1 =>
        simp only [hp, bind, Except.bind] at h
        cases h; exact parseStmt_err hr (by omega) hp
      | ok v =>
        simp only [hp, bind, Except.bind] at h
        have := parseStmt_m_lt hp h3
        cases cb <;> exact ih _ _ _ _ (parseStmt_reach hr hp) (by omega) h

theorem parseFile_err {err : SynErr} (h : parseFile data = .error err) :
    (readToken (newInput data) = .error err ∨ ErrAt data err) ∧ NotInternal err := by
  unfold parseFile at h
  cases hr : readToken (newInput data) with
  | error e =>
    simp only [hr, bind, Except.bind] at h
    cases h; exact ⟨Or.inl rfl, readToken_noInternal _ _ hr⟩
  | ok i0 =>
    simp only [hr, bind, Except.bind] at h
    have := parseFileLoop_err _ _ _ _ _ (Reach.start hr) (m_first hr) h
    exact ⟨Or.inr this.1, this.2⟩

end errors

end ModVerif.Proofs.ModfileRun

namespace ModVerif.Proofs.ModfileParse
open ModVerif ModVerif.Modfile ModVerif.Proofs.ModfileLex

theorem parseFile_noInternal (data : Bytes) : NoInternal (parseFile data) :=
  fun _ h => (ModfileRun.parseFile_err h).2

theorem parse_noInternal (name data : Bytes) : NoInternal (parse name data) := by
  intro e he
  unfold parse at he
  cases hp : parseFile data with
  | error e' =>
    simp only [hp, bind, Except.bind] at he
    have hee : e' = e := by cases he; rfl
    subst hee
    exact parseFile_noInternal data e' hp
  | ok r =>
    simp only [hp, bind, Except.bind] at he
    cases he

end ModVerif.Proofs.ModfileParse
