/-
  What an operation does to the syntax tree, as a program of tree primitives (`TPrim`: the tree surgery of read.go and
  the tree half of removeDups / SortBlocks / Cleanup).  `prog e op` is the program of a go.mod operation in the state
  `e`, `applyMod_prog` says that the operation runs it (on the closed forms of Proofs/EditRefineLists), so a property of
  trees needs one lemma per primitive and one fact about the program text per operation.  The two bulk requirement
  setters are not covered: their tree effect is the loops of Proofs/EditMoreSepA (`BulkPres` there: a property of trees
  that their eight tree steps preserve).

  A primitive acts on the tree and the fresh-id counter only, so go.mod and go.work run the same programs.
-/
import ModVerif.Proofs.EditRefineSorted
namespace ModVerif.Modfile.Edit
open ModVerif ModVerif.Modfile

inductive TPrim where
  | set (id : Nat) (toks : List Bytes)              -- FileSyntax.updateLine: the tokens of the line `id`
  | remove (id : Nat)                               -- (*Line).markRemoved
  | mapLine (id : Nat) (g : Line → Line)            -- setIndirect / comments added, on the line `id`
  | add (hint : Option Nat) (toks : List Bytes)     -- FileSyntax.addLine, under the fresh id
  | addPtr (hint : Option Nat) (toks : List Bytes)  -- addLine hinted by a typed entry's `Syntax` pointer
  | insertLine (i : Nat) (toks : List Bytes)        -- go.work: the go / toolchain line placed by statement index
  | dedup (kill : List Nat)                         -- removeDups, on the tree
  | sort (sem work : Bool)
  | cleanup

/-- tree and fresh-id counter after the primitive -/
def TPrim.run : TPrim → FileSyntax × Nat → FileSyntax × Nat
  | .set id toks, (fs, n) => (updateLine fs id toks, n)
  | .remove id, (fs, n) => (markRemoved fs id, n)
  | .mapLine id g, (fs, n) => (fs.updateLine id g, n)
  | .add hint toks, (fs, n) => (addLine fs hint toks n, n + 1)
  | .addPtr hint toks, (fs, n) => (addLinePtr fs hint toks n, n + 1)
  | .insertLine i toks, (fs, n) => ({ fs with stmts := insertAt fs.stmts i (.line (mkLine n toks false)) }, n + 1)
  | .dedup kill, (fs, n) => ({ fs with stmts := dropKilled kill fs.stmts }, n)
  | .sort sem work, (fs, n) => ({ fs with stmts := sortStmts sem work fs.stmts }, n)
  | .cleanup, (fs, n) => (cleanupSyntax fs, n)

/-- the verb of the line the primitive adds through `addLine` (which may turn a line of that verb into a block) -/
def TPrim.addVerb : TPrim → Option Bytes
  | .add _ toks | .addPtr _ toks => some (toks.head?.getD [])
  | _ => none

def runT (ps : List TPrim) (s : FileSyntax × Nat) : FileSyntax × Nat := ps.foldl (fun s p => p.run s) s

@[simp] theorem runT_nil (s : FileSyntax × Nat) : runT [] s = s := rfl
@[simp] theorem runT_cons (p : TPrim) (ps : List TPrim) (s : FileSyntax × Nat) : runT (p :: ps) s = runT ps (p.run s) := rfl
theorem runT_append (ps qs : List TPrim) (s : FileSyntax × Nat) : runT (ps ++ qs) s = runT qs (runT ps s) := List.foldl_append

theorem runT_removes : ∀ (ids : List Nat) (fs : FileSyntax) (n : Nat), runT (ids.map .remove) (fs, n) = (markAll fs ids, n)
  | [], _, _ => rfl
  | i :: ids, fs, n => by simp only [List.map_cons, runT_cons, TPrim.run]; exact runT_removes ids _ n

theorem runT_induct {P : FileSyntax × Nat → Prop} : ∀ (ps : List TPrim) (s : FileSyntax × Nat),
    (∀ p ∈ ps, ∀ s, P s → P (p.run s)) → P s → P (runT ps s)
  | [], _, _, h => h
  | p :: ps, s, hp, h =>
    runT_induct ps _ (fun q hq => hp q (List.mem_cons_of_mem _ hq)) (hp p List.mem_cons_self s h)

/-! ### the keyed operations (the loops `clearAll` / `firstRest` in closed form) -/

section keyed
variable {α : Type} (m : α → Bool) (id : α → Nat)

def clearProg (l : List α) : List TPrim := (deadIds m id l).map .remove

/-- `new`: the program when nothing matches -/
def setProg (l : List α) (toks : List Bytes) (new : List TPrim) : List TPrim :=
  match l.find? m with
  | some x0 => .set (id x0) toks :: ((deadIds m id l).drop 1).map .remove
  | none => new

theorem setProg_of_none {l : List α} (h : l.find? m = none) (toks : List Bytes) (new : List TPrim) :
    setProg m id l toks new = new := by unfold setProg; rw [h]

theorem setProg_of_some {l : List α} {x0 : α} (h : l.find? m = some x0) (toks : List Bytes) (new : List TPrim) :
    ∃ i ids, setProg m id l toks new = .set i toks :: ids.map .remove ∧ i :: ids = deadIds m id l := by
  obtain ⟨pre, post, rfl, hpre, h0⟩ := split_first h
  refine ⟨id x0, (deadIds m id (pre ++ x0 :: post)).drop 1, by unfold setProg; rw [h], ?_⟩
  rw [deadIds_of_first hpre h0]; rfl

theorem setKeyedRes_tree {upd : α → α} {cleared new : α} (l : List α) (fs : FileSyntax) (next : Nat) (toks : List Bytes)
    (added : FileSyntax) (np : List TPrim) (hnp : runT np (fs, next) = (added, next + 1)) :
    runT (setProg m id l toks np) (fs, next) =
      ((setKeyedRes m id upd cleared l fs next toks added new).1, (setKeyedRes m id upd cleared l fs next toks added new).2.2) := by
  unfold setProg setKeyedRes
  cases l.find? m with
  | none => exact hnp
  | some x0 => simp only [runT_cons, TPrim.run]; exact runT_removes _ _ _

end keyed

/-! ### the program of a go.mod operation

`AddTool` ends in SortBlocks on the state with the new tool (`addToolPre`); `kill3_addToolPre` lets its program name the
kill list of the state BEFORE the operation, like every other program. -/

def retractTokens (vi : VersionInterval) : List Bytes :=
  if vi.low == vi.high then [B "retract", autoQuote vi.low] else [B "retract", [91], autoQuote vi.low, [44], autoQuote vi.high, [93]]

/-- the rationale of AddRetract as whole-line comments -/
def retractComments (why : Bytes) (l : Line) : Line :=
  { l with comments := { l.comments with before := l.comments.before ++
      (if why.isEmpty then [] else (splitOn 10 why).map fun line => ({ token := B "// " ++ line } : Comment)) } }

/-- the state `AddTool` hands to SortBlocks -/
def addToolPre (e : EFile) (p : Bytes) : EFile :=
  { f := { e.f with tool := e.f.tool ++ [{ path := p, lineId := e.next }], syn := addLine e.f.syn none [B "tool", p] e.next },
    next := e.next + 1 }

theorem killLater_append_fresh {α κ : Type} [BEq κ] [LawfulBEq κ] (key : α → κ) (id : α → Nat) (x : α) :
    ∀ (l : List α) (seen : List κ), seen.contains (key x) = false → (∀ y ∈ l, key y ≠ key x) →
      killLater key id (l ++ [x]) seen = killLater key id l seen := by
  intro l
  induction l with
  | nil =>
    intro seen h1 _
    simp only [List.nil_append, killLater, h1, Bool.false_eq_true, if_false]
  | cons y ys ih =>
    intro seen h1 h2
    simp only [List.cons_append, killLater]
    split
    · rw [ih seen h1 (fun z hz => h2 z (List.mem_cons_of_mem _ hz))]
    · apply ih
      · simp only [List.contains_cons, Bool.or_eq_false_iff]
        refine ⟨?_, h1⟩
        have := h2 y List.mem_cons_self
        simp [beq_eq_false_iff_ne, Ne.symm this]
      · exact fun z hz => h2 z (List.mem_cons_of_mem _ hz)

theorem kill3_addToolPre {e : EFile} {p : Bytes} (h : ¬e.f.tool.any (·.path == p) = true) : kill3 (addToolPre e p).f = kill3 e.f := by
  simp only [kill3, kill2, kill1, addToolPre]
  congr 1
  apply killLater_append_fresh
  · rfl
  · intro y hy e1
    exact h (List.any_eq_true.2 ⟨y, hy, by simp [e1]⟩)

/-- the tree program of a go.mod operation.  `[]` also stands for "not covered": the two bulk requirement setters
    (`IsBulk`, excluded in `applyMod_prog`) and the go.work operations (on which `applyMod` is `none`; their programs are
    `progWork` of Proofs/EditWorkProg). -/
def prog (e : EFile) : Op → List TPrim
  | .addModule p => match e.f.module with
    | none => [.add none [B "module", autoQuote p]]
    | some m => [.set m.lineId [B "module", autoQuote p]]
  | .addGo v => match e.f.go with
    | none => [.add (e.f.module.map (·.lineId)) [B "go", v]]
    | some g => [.set g.lineId [B "go", v]]
  | .dropGo => match e.f.go with
    | some g => [.remove g.lineId]
    | none => []
  | .addToolchain n => match e.f.toolchain with
    | none => [.add (match e.f.go with
        | some g => some g.lineId
        | none => e.f.module.map (·.lineId)) [B "toolchain", n]]
    | some t => [.set t.lineId [B "toolchain", n]]
  | .dropToolchain => match e.f.toolchain with
    | some t => [.remove t.lineId]
    | none => []
  | .addGodebug k v => setProg (fun g : Godebug => g.key == k) (·.lineId) e.f.godebug [B "godebug", k ++ [61] ++ v]
      [.add none [B "godebug", k ++ [61] ++ v]]
  | .dropGodebug k => clearProg (fun g : Godebug => g.key == k) (·.lineId) e.f.godebug
  | .addRequire p v => setProg (fun r : Require => r.mod.path == p) (·.lineId) e.f.require [B "require", autoQuote p, v]
      [.add none [B "require", autoQuote p, v], .mapLine e.next (setIndirectLine false)]
  | .addNewRequire p v i => [.add none [B "require", autoQuote p, v], .mapLine e.next (setIndirectLine i)]
  | .dropRequire p => clearProg (fun r : Require => r.mod.path == p) (·.lineId) e.f.require
  | .addExclude p v =>
    if e.f.exclude.any (fun x => x.mod.path == p && x.mod.version == v) then []
    else [.addPtr (lastWith (fun x : Exclude => x.mod.path == p) (·.lineId) e.f.exclude none) [B "exclude", autoQuote p, v]]
  | .dropExclude p v => clearProg (fun x : Exclude => x.mod.path == p && x.mod.version == v) (·.lineId) e.f.exclude
  | .addReplace a b c d => setProg (fun r : Replace => r.old.path == a && (b.isEmpty || r.old.version == b)) (·.lineId) e.f.replace
      (replaceTokens a b c d) [.addPtr (lastWith (fun r : Replace => r.old.path == a) (·.lineId) e.f.replace none) (replaceTokens a b c d)]
  | .dropReplace a b => clearProg (fun r : Replace => r.old.path == a && r.old.version == b) (·.lineId) e.f.replace
  | .addRetract lo hi why => [.add none (retractTokens ⟨lo, hi⟩), .mapLine e.next (retractComments why)]
  | .dropRetract lo hi => clearProg (fun r : Retract => r.interval == (⟨lo, hi⟩ : VersionInterval)) (·.lineId) e.f.retract
  | .addTool p =>
    if e.f.tool.any (·.path == p) then []
    else [.add none [B "tool", p], .dedup (kill3 e.f), .sort (semOf e.f) false]
  | .dropTool p => clearProg (fun t : Tool => t.path == p) (·.lineId) e.f.tool
  | .sortBlocks => [.dedup (kill3 e.f), .sort (semOf e.f) false]
  | .cleanup => [.cleanup]
  | _ => []

def IsBulk : Op → Prop
  | .setRequire _ _ | .setRequireSeparateIndirect _ _ => True
  | _ => False

def treeOf (e : EFile) : FileSyntax × Nat := (e.f.syn, e.next)

theorem applyMod_prog (e e' : EFile) (op : Op) (hb : ¬IsBulk op) (h : applyMod e op = some (.ok e')) :
    treeOf e' = runT (prog e op) (treeOf e) := by
  cases op <;> simp only [applyMod, Option.some.injEq, Except.ok.injEq, reduceCtorEq] at h
  case addModule p => subst h; unfold addModuleStmt prog; cases e.f.module <;> rfl
  case addGo v =>
    unfold addGoStmt at h; split at h; · cases h
    unfold prog; split at h <;> cases h <;> simp only [*] <;> rfl
  case dropGo => subst h; unfold dropGoStmt prog; cases e.f.go <;> rfl
  case addToolchain n =>
    unfold addToolchainStmt at h; split at h; · cases h
    unfold prog; split at h <;> cases h <;> simp only [*] <;> rfl
  case dropToolchain => subst h; unfold dropToolchainStmt prog; cases e.f.toolchain <;> rfl
  case addGodebug k v => obtain ⟨_, ⟨⟩⟩ := ite_ok (addGodebug_eq e k v ▸ h); exact (setKeyedRes_tree _ _ _ _ _ _ _ _ rfl).symm
  case dropGodebug k => obtain ⟨_, ⟨⟩⟩ := ite_ok (dropGodebug_eq e k ▸ h); exact (runT_removes _ _ _).symm
  case addRequire p v => obtain ⟨_, ⟨⟩⟩ := ite_ok (addRequire_eq e p v ▸ h); exact (setKeyedRes_tree _ _ _ _ _ _ _ _ rfl).symm
  case addNewRequire p v i => subst h; rfl
  case dropRequire p => obtain ⟨_, ⟨⟩⟩ := ite_ok (dropRequire_eq e p ▸ h); exact (runT_removes _ _ _).symm
  case setRequire => exact (hb trivial).elim
  case setRequireSeparateIndirect => exact (hb trivial).elim
  case addExclude p v =>
    unfold addExclude at h; split at h; · cases h
    unfold prog; split at h <;> cases h <;> simp only [*] <;> rfl
  case dropExclude p v => obtain ⟨_, ⟨⟩⟩ := ite_ok (dropExclude_eq e p v ▸ h); exact (runT_removes _ _ _).symm
  case addReplace a b c d => obtain ⟨_, ⟨⟩⟩ := ite_ok (addReplace_eq e a b c d ▸ h); exact (setKeyedRes_tree _ _ _ _ _ _ _ _ rfl).symm
  case dropReplace a b => obtain ⟨_, ⟨⟩⟩ := ite_ok (dropReplace_eq e a b ▸ h); exact (runT_removes _ _ _).symm
  case addRetract lo hi why =>
    rw [addRetract_eq] at h; unfold addRetractP at h
    split at h; · cases h
    split at h; · cases h
    simp only [Except.ok.injEq] at h; subst h; rfl
  case dropRetract lo hi => obtain ⟨_, ⟨⟩⟩ := ite_ok (dropRetract_eq e ⟨lo, hi⟩ ▸ h); exact (runT_removes _ _ _).symm
  case addTool p =>
    subst h; unfold addTool
    by_cases ha : e.f.tool.any (·.path == p) = true
    · simp only [prog, ha, if_true]; rfl
    · simp only [prog, ha]; show treeOf (sortBlocks (addToolPre e p)) = _; rw [sortBlocks_eq_sem, kill3_addToolPre ha]; rfl
  case dropTool p => obtain ⟨_, ⟨⟩⟩ := ite_ok (dropTool_eq e p ▸ h); exact (runT_removes _ _ _).symm
  case sortBlocks => subst h; rw [sortBlocks_eq_sem e]; rfl
  case cleanup => subst h; rfl

end ModVerif.Modfile.Edit
