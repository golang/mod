/-
  go.work: "every `LineBlock` of the tree carries a block verb of `ParseWork`" (`W.GoodBlocks` = `GB workBlockVerbs`:
  godebug / use / replace — no `go (` / `toolchain (` block, nor a block of an unknown verb) is an invariant.

  * start: `parseWork` reports `unknown block type` for every other block (the `workBlockVerbs` test of the statement loop),
    and errors are never taken back: `parseWork_goodBlocks`; `loadWork` only renumbers;
  * the tree primitives are those of go.mod (Proofs/EditGoodBlocksA.lean, any verb set; `runT_gb` for a program of them);
  * every go.work operation preserves it, for ARBITRARY arguments and with NO hypothesis on the state: the only primitive
    that makes a block out of a line is `addLine`'s hinted walk, and the programs of go.work (`progWork`) add lines with
    the verbs godebug / use / replace only (`progWork_blockVerbs`) — `WorkFile.AddGoStmt` / `AddToolchainStmt` insert their
    line by index (`insertLine`), unlike their go.mod namesakes.
-/
import ModVerif.Proofs.EditGoodBlocksC
import ModVerif.Proofs.EditWorkTotal
import ModVerif.Proofs.ModfileEolWork
import ModVerif.Proofs.EditWorkSorted
namespace ModVerif.Modfile.Edit.W
open ModVerif ModVerif.Modfile

def GoodBlocks (stmts : List Expr) : Prop :=
  ∀ b, Expr.lineBlock b ∈ stmts → ∀ v, b.token = [v] → verbIn v workBlockVerbs = true

theorem verbIn_godebug : verbIn (B "godebug") workBlockVerbs = true := by decide +kernel
theorem verbIn_use : verbIn (B "use") workBlockVerbs = true := by decide +kernel
theorem verbIn_replace : verbIn (B "replace") workBlockVerbs = true := by decide +kernel

/-- the `go` and `toolchain` lines are placed by statement index, not by `addLine` -/
theorem progWork_blockVerbs (e : EWork) (op : Op) : BlockVerbs workBlockVerbs (progWork e op) := by
  have na : ∀ {ps : List TPrim}, (∀ p ∈ ps, p.addVerb = none) → BlockVerbs workBlockVerbs ps := blockVerbs_noAdd
  have one : ∀ {verb : Bytes} (p : TPrim), p.addVerb = some verb → verbIn verb workBlockVerbs = true →
      BlockVerbs workBlockVerbs [p] := fun p hp hv q hq v e1 => by
    rw [List.mem_singleton.1 hq, hp] at e1; cases e1; exact hv
  have set : ∀ {α : Type} (m : α → Bool) (id : α → Nat) (l : List α) (toks : List Bytes) {np : List TPrim},
      BlockVerbs workBlockVerbs np → BlockVerbs workBlockVerbs (setProg m id l toks np) := fun m id l toks np h => by
    unfold setProg; split
    · intro q hq v e1
      rcases List.mem_cons.1 hq with rfl | hq
      · cases e1
      · exact blockVerbs_removes _ q hq v e1
    · exact h
  cases op <;> simp only [progWork]
  case addGo v => cases e.f.go <;> exact na (by simp [TPrim.addVerb])
  case dropGo => cases e.f.go <;> exact na (by simp [TPrim.addVerb])
  case addToolchain n => cases e.f.toolchain <;> exact na (by simp [TPrim.addVerb])
  case dropToolchain => cases e.f.toolchain <;> exact na (by simp [TPrim.addVerb])
  case addGodebug k v => exact set _ _ _ _ (one _ rfl verbIn_godebug)
  case dropGodebug k => exact blockVerbs_removes _
  case addUse d m => exact set _ _ _ _ (one _ rfl verbIn_use)
  case addNewUse d m => exact one _ rfl verbIn_use
  case dropUse d => exact blockVerbs_removes _
  case setUse dirs rev =>
    intro q hq v e1
    simp only [List.mem_append, List.mem_map, List.mem_cons, List.mem_nil_iff, or_false] at hq
    rcases hq with (⟨i, _, rfl⟩ | ⟨w, _, rfl⟩) | rfl | rfl <;> cases e1
    exact verbIn_use
  case addReplace a b c d => exact set _ _ _ _ (one _ rfl verbIn_replace)
  case dropReplace a b => exact blockVerbs_removes _
  case sortBlocks => exact na (by simp [TPrim.addVerb])
  case cleanup => exact na (by simp [TPrim.addVerb])
  all_goals exact na (by simp)

/-- ★ Props/C15 `op_preserves_goodBlocks_work` -/
theorem applyWork_gb (e e' : EWork) (op : Op) (h : GB workBlockVerbs e.f.syn.stmts) (ha : applyWork e op = some (.ok e')) :
    GB workBlockVerbs e'.f.syn.stmts := by
  have := runT_gb _ (treeOfW e) (progWork_blockVerbs e op) h
  rwa [← applyWork_prog e e' op ha] at this

theorem runOpsWork_gb (ops : List Op) (e : EWork) (res0 : List Bool) (i : Nat) (e' : EWork) (res : List Bool)
    (hg : GB workBlockVerbs e.f.syn.stmts) (hr : runOps applyWork e ops res0 i = .done e' res) : GB workBlockVerbs e'.f.syn.stmts :=
  runOps_done_induct applyWork (fun e _ => GB workBlockVerbs e.f.syn.stmts) (fun e op _ e1 hg ha => applyWork_gb e e1 op hg ha)
    (fun _ _ _ _ hg _ _ => hg) ops e res0 i e' res hg hr

theorem workStmts_gb (fix : Option Fixer) (xs : List Expr) (st st' : WorkState) (xs' : List Expr)
    (h : workStmts fix st xs = (st', xs')) (he : st'.errsRev = []) : GB workBlockVerbs xs' := by
  rw [workStmts_eq_walk] at h
  refine (gb_iff _).2 (walkStmts_known (ok := (·.errsRev = [])) ?_ ?_ xs st st' xs' h he).2
  · intro st blk l verb args hok
    obtain ⟨add, hadd, _⟩ := Proofs.ModfileC20.workAdd_errs st l verb args fix
    exact (List.append_eq_nil_iff.1 (hadd.symm.trans hok)).2
  · exact fun st p => Proofs.ModfileFmtWork.work_err_ne_nil st p _

/-- ★ Props/C15 `parsed_goodBlocks_work` -/
theorem parseWork_goodBlocks {name data : Bytes} {fix : Option Fixer} {f : WorkFile} (h : parseWork name data fix = .ok f) :
    GoodBlocks f.syn.stmts := by
  unfold parseWork at h
  cases hp : parse name data with
  | error e => simp [hp] at h
  | ok fs =>
    simp only [hp] at h
    cases hA : workStmts fix { file := { syn := fs } } fs.stmts with
    | mk st stmts =>
      simp only [hA] at h
      split at h
      · rename_i he
        simp only [Except.ok.injEq] at h
        subst h
        have he' : st.errsRev = [] := by simpa using he
        exact (gb_iff _).1 (workStmts_gb fix fs.stmts _ st stmts hA he')
      · cases h

theorem goodBlocks_loadWork (f : WorkFile) : GoodBlocks (loadWork f).f.syn.stmts ↔ GoodBlocks f.syn.stmts :=
  ((gb_iff _).symm.trans (gb_shift f.syn)).trans (gb_iff _)

def goodBlocksB (stmts : List Expr) : Bool :=
  stmts.all fun
    | .lineBlock b => (match b.token with
      | [v] => verbIn v workBlockVerbs
      | _ => true)
    | _ => true

theorem goodBlocksB_iff (stmts : List Expr) : goodBlocksB stmts = true ↔ GoodBlocks stmts :=
  (gb_all_iff workBlockVerbs stmts).trans (gb_iff _)

theorem goodBlocksB_sound {stmts : List Expr} (h : goodBlocksB stmts = true) : GoodBlocks stmts := (goodBlocksB_iff _).1 h

/-- ★ Props/C15 `goodBlocks_invariant_work` -/
theorem goodBlocks_run (name data : Bytes) (f : WorkFile) (ops : List Op) (e' : EWork) (res : List Bool)
    (hf : parseWork name data none = .ok f) (h : runOps applyWork (loadWork f) ops [] 0 = .done e' res) :
    GoodBlocks e'.f.syn.stmts ∧ GoodBlocks (workCleanup e').f.syn.stmts := by
  have h0 : GB workBlockVerbs (loadWork f).f.syn.stmts := (gb_iff _).2 ((goodBlocks_loadWork f).2 (parseWork_goodBlocks hf))
  have h1 := runOpsWork_gb ops (loadWork f) [] 0 e' res h0 h
  exact ⟨(gb_iff _).1 h1, (gb_iff _).1 (gb_cleanupStmts _ h1)⟩

end ModVerif.Modfile.Edit.W
