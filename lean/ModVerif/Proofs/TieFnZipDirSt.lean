/-
  Tie proof, zip/zip.go `CheckDir`: two facts about the hand model's `checkFilesSt` (Model/Zip.lean) that the statement of
  the tie needs.  (1) It never omits a path for one of the two reasons only `listFilesInDir` gives (`vcs`, `submoduleDir`),
  so one text embedding serves the merged `Omitted` list of `Zip.checkDir`.  (2) Its three lists together are at most twice
  as long as the input (fuel of the path-rewriting loops of `CheckDir`).  The fuel of the walk itself, `nodeFuel` /
  `listFuel`, bounds the number of paths `listFilesInDir` reports (`walkNode_count`).
-/
import ModVerif.Proofs.ZipCheckFiles
namespace ModVerif.TieFnZipDir
open ModVerif ModVerif.Zip ModVerif.Proofs.Zip

/-- not one of the reasons that only `listFilesInDir` gives -/
def ListReason (r : Reason) : Prop := r ≠ .vcs ∧ r ≠ .submoduleDir

instance (r : Reason) : Decidable (ListReason r) := by unfold ListReason; exact inferInstance

def tot (s : St) : Nat := s.cf.valid.length + s.cf.omitted.length + s.cf.invalid.length

/-- invariant of both passes of `checkFiles` -/
def Inv (s : St) (n : Nat) : Prop := tot s ≤ n ∧ ∀ e ∈ s.cf.omitted, ListReason e.2

theorem inv_mono {s : St} {n m : Nat} (h : Inv s n) (hm : n ≤ m) : Inv s m := ⟨Nat.le_trans h.1 hm, h.2⟩

theorem inv_addError {s : St} {n : Nat} (h : Inv s n) (p : Bytes) (om : Bool) (r : Reason)
    (hr : om = true → ListReason r) : Inv (s.addError p om r) (n + 1) := by
  by_cases hm : p ∈ s.errPaths
  · rw [addError_mem s p om r hm]; exact ⟨Nat.le_succ_of_le h.1, h.2⟩
  · rw [addError_not_mem s p om r hm]
    have h1 := h.1
    cases om with
    | true =>
      refine ⟨by simp only [tot, if_true, List.length_append, List.length_singleton, List.length_nil] at h1 ⊢; omega,
        fun e he => ?_⟩
      rcases List.mem_append.mp he with he | he
      · exact h.2 e he
      · rw [List.mem_singleton.mp he]; exact hr rfl
    | false =>
      exact ⟨by simp only [tot, Bool.false_eq_true, if_false, List.length_append, List.length_singleton,
        List.length_nil] at h1 ⊢; omega, fun e he => h.2 e (by simpa using he)⟩

theorem inv_same {a b : St} {n : Nat} (hl : SameLists a b) (h : Inv b n) : Inv a n := by
  unfold Inv tot at *; rw [hl.valid, hl.omitted, hl.invalid]; exact h

theorem inv_stepFile (E : Env) (g : Bool) (hg : List Bytes) {s : St} {n : Nat} (h : Inv s n) (f : FileInfo) :
    Inv (stepFile E g hg s f) (n + 1) := by
  have ho := stepFile_out E g hg s f
  generalize stepFile E g hg s f = s' at ho
  cases ho with
  | early om r hr => exact inv_addError h _ _ _ hr
  | late _ om r hr => exact inv_addError (inv_same (sameLists_setCC s _) h) _ _ _ hr
  | sized _ r => exact inv_addError (inv_same (sameLists_account s _ _) h) _ _ _ (fun h => nomatch h)
  | valid _ _ =>
    have h' := inv_same (sameLists_account s (ccCheckTop E.toFold s.cc f.path false).1 f.size) h
    refine ⟨?_, h'.2⟩
    have := h'.1
    simp only [tot, St.pushValid, List.length_append, List.length_singleton] at this ⊢; omega

theorem foldl_count {α β : Type} {P : β → Nat → Prop} (f : β → α → β)
    (step : ∀ b a n, P b n → P (f b a) (n + 1)) : ∀ (l : List α) (b : β) (n : Nat), P b n → P (l.foldl f b) (n + l.length)
  | [], _, _, h => h
  | a :: t, b, n, h => by
    have := foldl_count f step t (f b a) (n + 1) (step b a n h)
    rwa [Nat.add_right_comm] at this

theorem inv_checkFilesSt (E : Env) (files : List FileInfo) (g : Bool) : Inv (checkFilesSt E files g) (2 * files.length) := by
  have h0 : Inv ({} : Pre).st 0 := ⟨by simp [tot], fun e he => nomatch he⟩
  have h1 := foldl_count (P := fun a n => Inv a.st n) preStep (fun a f n h => by
    rw [preStep_st]; split
    · exact inv_addError h _ _ _ (fun h => nomatch h)
    · exact inv_mono h (Nat.le_succ n)) files {} 0 h0
  have h2 := foldl_count (P := Inv) (stepFile E g (prePass files).haveGoMod) (fun s f n h => inv_stepFile E g _ h f)
    files _ _ h1
  exact inv_mono h2 (by omega)

mutual
/-- fuel the walk of a node needs (one per node and per end of a directory) -/
def nodeFuel : Node → Nat
  | .file .. => 1
  | .dir cs => listFuel cs + 1
def listFuel : List (Bytes × Node) → Nat
  | [] => 1
  | (_, n) :: rest => nodeFuel n + listFuel rest + 1
end

mutual
theorem walkNode_count (g : Bool) : ∀ (n : Node) (rel base : Bytes),
    (walkNode g rel base n).files.length + (walkNode g rel base n).omitted.length ≤ nodeFuel n
  | .file mode size content gg, rel, base => by
    simp only [walkNode, nodeFuel]
    split
    · simp
    · split <;> simp
  | .dir cs, rel, base => by
    have ih := walkChildren_count g cs rel
    simp only [walkNode, nodeFuel]
    split
    · simp only [Listing.append, List.length_append, List.nil_append, List.length_singleton]; omega
    · split
      · simp
      · split
        · simp
        · omega
theorem walkChildren_count (g : Bool) : ∀ (cs : List (Bytes × Node)) (rel : Bytes),
    (walkChildren g rel cs).files.length + (walkChildren g rel cs).omitted.length ≤ listFuel cs
  | [], rel => by simp [walkChildren, listFuel]
  | (name, n) :: rest, rel => by
    have h1 := walkNode_count g n (childPath rel name) name
    have h2 := walkChildren_count g rest rel
    simp only [walkChildren, listFuel, Listing.append, List.length_append]
    omega
end

end ModVerif.TieFnZipDir
