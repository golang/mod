/-
  The index recursions `leafProofIndex` / `treeProofIndex` of the generated code compute the model's
  `leafProofIndexF` / `treeProofIndexF` (appended to `need`).  Uses the tie of `subTreeIndex`
  (Proofs/TieFnTlogIntTree.lean: `subTreeIndex_eq`, range `hi ≤ 2^62` — beyond it `StoredHashIndex` overflows int64).
-/
import ModVerif.Proofs.TieFnTlogProofMax
import ModVerif.Proofs.TieFnTlogIntTree
namespace ModVerif.Tie.FnTlogProof
open ModVerif ModVerif.GoRt ModVerif.TieFnTlogInt

theorem subTreeIndexOut_bind (need : List Int) (a : List Nat) (B : Except Tlog.Err (List Nat)) :
    subTreeIndexOut (need ++ a.map Int.ofNat) B = subTreeIndexOut need (B >>= fun b => pure (a ++ b)) := by
  cases B with
  | error e => rfl
  | ok b =>
    simp only [subTreeIndexOut, mbind_ok, mpure, List.map_append, List.append_assoc]

theorem leafProofIndex_ok : ∀ (fuel f : Nat) (lo hi n : Nat) (need : List Int),
    hi ≤ 2 ^ 62 → hi - lo ≤ f → hi - lo + 127 ≤ fuel →
    Generated.Tlog.leafProofIndex fuel (lo : Int) (hi : Int) (n : Int) need =
      subTreeIndexOut need (Tlog.leafProofIndexF f lo hi n) := by
  intro fuel
  induction fuel with
  | zero => intro f lo hi n need _ _ h; omega
  | succ fuel ih =>
    intro f lo hi n need h3 h4 h5
    unfold Generated.Tlog.leafProofIndex
    by_cases hgd : lo ≤ n ∧ n < hi
    · obtain ⟨h1, h2⟩ := hgd
      obtain ⟨f, rfl⟩ : ∃ f', f = f' + 1 := ⟨f - 1, by omega⟩
      unfold Tlog.leafProofIndexF
      have hg : (!(decide ((lo : Int) ≤ (n : Int)) && decide ((n : Int) < (hi : Int)))) = false := by
        simp; omega
      have hg' : (!(decide (lo ≤ n) && decide (n < hi))) = false := by simp; omega
      simp only [hg, hg', Bool.false_eq_true, if_false]
      rw [chk64_ok _ (by omega) (by omega)]
      simp only [mbind_ok]
      by_cases hone : lo + 1 = hi
      · have e1 : decide ((lo : Int) + 1 = (hi : Int)) = true := decide_eq_true (by omega)
        have e2 : (lo + 1 == hi) = true := by simp [hone]
        simp only [e1, e2, if_true, mpure, subTreeIndexOut, List.map_nil, List.append_nil]
      · have e1 : decide ((lo : Int) + 1 = (hi : Int)) = false := decide_eq_false (by omega)
        have e2 : (lo + 1 == hi) = false := by simp [hone]
        simp only [e1, e2, Bool.false_eq_true, if_false]
        have hsz : 1 < hi - lo := by omega
        have hk := Tlog.maxpow2_lt (hi - lo) hsz
        have hkp := Tlog.maxpow2_fst_pos (hi - lo)
        rw [chk64_ok _ (by omega) (by omega)]
        simp only [mbind_ok]
        rw [maxpow2_ok_sub fuel lo hi (by omega) (by omega)]
        simp only [mbind_ok]
        generalize (Tlog.maxpow2 (hi - lo)).1 = k at *
        rw [chk64_ok _ (by omega) (by omega)]
        simp only [mbind_ok]
        rw [← Int.natCast_add]
        by_cases hlt : n < lo + k
        · have hlt' : decide ((n : Int) < ((lo + k : Nat) : Int)) = true := decide_eq_true (by omega)
          simp only [hlt', hlt, if_true]
          rw [ih f lo (lo + k) n need (by omega) (by omega) (by omega)]
          cases Tlog.leafProofIndexF f lo (lo + k) n with
          | error e => rfl
          | ok a =>
            simp only [subTreeIndexOut, mbind_ok]
            rw [subTreeIndex_eq fuel (lo + k) hi _ h3 (by omega), subTreeIndexOut_bind]
            cases Tlog.subTreeIndex (lo + k) hi <;> rfl
        · have hlt' : decide ((n : Int) < ((lo + k : Nat) : Int)) = false := decide_eq_false (by omega)
          simp only [hlt', hlt, Bool.false_eq_true, if_false]
          rw [subTreeIndex_eq fuel lo (lo + k) _ (by omega) (by omega)]
          cases Tlog.subTreeIndex lo (lo + k) with
          | error e => rfl
          | ok a =>
            simp only [subTreeIndexOut, mbind_ok]
            rw [ih f (lo + k) hi n _ h3 (by omega) (by omega), subTreeIndexOut_bind]
            cases Tlog.leafProofIndexF f (lo + k) hi n <;> rfl
    · have hg : (!(decide ((lo : Int) ≤ (n : Int)) && decide ((n : Int) < (hi : Int)))) = true := by
        simp; omega
      have hg' : (!(decide (lo ≤ n) && decide (n < hi))) = true := by simp; omega
      simp only [hg, if_true, mthrow]
      cases f with
      | zero => rfl
      | succ f => unfold Tlog.leafProofIndexF; simp only [hg', if_true]; rfl

theorem treeProofIndex_ok : ∀ (fuel f : Nat) (lo hi n : Nat) (need : List Int),
    hi ≤ 2 ^ 62 → hi - lo ≤ f → hi - lo + 127 ≤ fuel →
    Generated.Tlog.treeProofIndex fuel (lo : Int) (hi : Int) (n : Int) need =
      subTreeIndexOut need (Tlog.treeProofIndexF f lo hi n) := by
  intro fuel
  induction fuel with
  | zero => intro f lo hi n need _ _ h; omega
  | succ fuel ih =>
    intro f lo hi n need h3 h4 h5
    unfold Generated.Tlog.treeProofIndex
    by_cases hgd : lo < n ∧ n ≤ hi
    · obtain ⟨h1, h2⟩ := hgd
      obtain ⟨f, rfl⟩ : ∃ f', f = f' + 1 := ⟨f - 1, by omega⟩
      unfold Tlog.treeProofIndexF
      have hg : (!(decide ((lo : Int) < (n : Int)) && decide ((n : Int) ≤ (hi : Int)))) = false := by
        simp; omega
      have hg' : (!(decide (lo < n) && decide (n ≤ hi))) = false := by simp; omega
      simp only [hg, hg', Bool.false_eq_true, if_false]
      by_cases hone : n = hi
      · have e1 : decide ((n : Int) = (hi : Int)) = true := decide_eq_true (by omega)
        have e2 : (n == hi) = true := by simp [hone]
        simp only [e1, e2, if_true]
        by_cases hz : lo = 0
        · have e3 : decide ((lo : Int) = 0) = true := decide_eq_true (by omega)
          have e4 : (lo == 0) = true := by simp [hz]
          simp only [e3, e4, if_true, mpure, subTreeIndexOut, List.map_nil, List.append_nil]
        · have e3 : decide ((lo : Int) = 0) = false := decide_eq_false (by omega)
          have e4 : (lo == 0) = false := by simp [hz]
          simp only [e3, e4, Bool.false_eq_true, if_false]
          rw [subTreeIndex_eq fuel lo hi _ h3 (by omega)]
      · have e1 : decide ((n : Int) = (hi : Int)) = false := decide_eq_false (by omega)
        have e2 : (n == hi) = false := by simp [hone]
        simp only [e1, e2, Bool.false_eq_true, if_false]
        have hsz : 1 < hi - lo := by omega
        have hk := Tlog.maxpow2_lt (hi - lo) hsz
        have hkp := Tlog.maxpow2_fst_pos (hi - lo)
        rw [chk64_ok _ (by omega) (by omega)]
        simp only [mbind_ok]
        rw [maxpow2_ok_sub fuel lo hi (by omega) (by omega)]
        simp only [mbind_ok]
        generalize (Tlog.maxpow2 (hi - lo)).1 = k at *
        rw [chk64_ok _ (by omega) (by omega)]
        simp only [mbind_ok]
        rw [← Int.natCast_add]
        by_cases hlt : n ≤ lo + k
        · have hlt' : decide ((n : Int) ≤ ((lo + k : Nat) : Int)) = true := decide_eq_true (by omega)
          simp only [hlt', hlt, if_true]
          rw [ih f lo (lo + k) n need (by omega) (by omega) (by omega)]
          cases Tlog.treeProofIndexF f lo (lo + k) n with
          | error e => rfl
          | ok a =>
            simp only [subTreeIndexOut, mbind_ok]
            rw [subTreeIndex_eq fuel (lo + k) hi _ h3 (by omega), subTreeIndexOut_bind]
            cases Tlog.subTreeIndex (lo + k) hi <;> rfl
        · have hlt' : decide ((n : Int) ≤ ((lo + k : Nat) : Int)) = false := decide_eq_false (by omega)
          simp only [hlt', hlt, Bool.false_eq_true, if_false]
          rw [subTreeIndex_eq fuel lo (lo + k) _ (by omega) (by omega)]
          cases Tlog.subTreeIndex lo (lo + k) with
          | error e => rfl
          | ok a =>
            simp only [subTreeIndexOut, mbind_ok]
            rw [ih f (lo + k) hi n _ h3 (by omega) (by omega), subTreeIndexOut_bind]
            cases Tlog.treeProofIndexF f (lo + k) hi n <;> rfl
    · have hg : (!(decide ((lo : Int) < (n : Int)) && decide ((n : Int) ≤ (hi : Int)))) = true := by
        simp; omega
      have hg' : (!(decide (lo < n) && decide (n ≤ hi))) = true := by simp; omega
      simp only [hg, if_true, mthrow]
      cases f with
      | zero => rfl
      | succ f => unfold Tlog.treeProofIndexF; simp only [hg', if_true]; rfl

end ModVerif.Tie.FnTlogProof
