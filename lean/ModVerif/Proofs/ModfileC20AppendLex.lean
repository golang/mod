/-
  C20 `lax_ignores_unknown` at the level of input bytes, lexer half.

  The SHIFT of a syntax tree: what happens to the statements of a file `b` when complete source lines `a`
  are put in front of it — every position moves by the number of lines / bytes of `a`, every line identity
  by the number of lines parsed from `a`; the rune-in-line column does not move because `a` ends with a
  newline.  The lexer run on `x` embedded in a context `pre ++ x ++ suf` is the run on `x` with every
  position shifted, provided `pre` is a sequence of complete lines and the lexer has not yet consumed the
  last newline of `x` (or `suf = []`).
-/
import ModVerif.Model.Modfile.Comments
import ModVerif.Proofs.ModfileC20Lex
import ModVerif.Proofs.ModfileScan
namespace ModVerif.Proofs.ModfileC20Append
open ModVerif ModVerif.Modfile

/-- a shift: `dl` lines, `db` bytes, `dn` line identities -/
structure Sh where
  dl : Nat := 0
  db : Nat := 0
  dn : Nat := 0
  deriving Repr, DecidableEq

def shP (s : Sh) (p : Position) : Position :=
  { line := p.line + s.dl, lineRune := p.lineRune, byte := p.byte + s.db }

/-- comments are NOT touched: in a comment-free file the only `Comment` values of the tree are the
    blank-line placeholders `{}` inside blocks, whose position is the zero position in every file -/
def shLine (s : Sh) (l : Line) : Line :=
  { l with id := l.id + s.dn, start := shP s l.start, «end» := shP s l.«end» }

def shBlock (s : Sh) (b : LineBlock) : LineBlock :=
  { b with start := shP s b.start, lparen := { b.lparen with pos := shP s b.lparen.pos },
           lines := b.lines.map (shLine s), rparen := { b.rparen with pos := shP s b.rparen.pos } }

def shE (s : Sh) : Expr → Expr
  | .line l => .line (shLine s l)
  | .lineBlock b => .lineBlock (shBlock s b)
  | e => e

/-- the comment-free restriction on input bytes: the two bytes `//` occur nowhere (not even inside a
    quoted string) -/
def NoSS (x : Bytes) : Prop := ¬ ([47, 47] : Bytes) <:+: x

instance (x : Bytes) : Decidable (NoSS x) := by unfold NoSS; infer_instance

/-- `a` is a sequence of complete source lines -/
def EndsNL (a : Bytes) : Prop := a = [] ∨ a.getLast? = some 10

instance (a : Bytes) : Decidable (EndsNL a) := by unfold EndsNL; infer_instance

end ModVerif.Proofs.ModfileC20Append

namespace ModVerif.Proofs.ModfileC20Append
open ModVerif ModVerif.Modfile ModVerif.Proofs.ModfileLex ModVerif.Proofs.ModfilePos ModVerif.Proofs.ModfileC20Utf8 ModVerif.Proofs.ModfileC20
open ModVerif.Proofs.ModfileScan

def shT (s : Sh) (t : Token) : Token := { t with pos := shP s t.pos, endPos := shP s t.endPos }

/-! ### byte facts -/

theorem getLast?_drop' {α : Type} (l : List α) (n : Nat) (h : l.drop n ≠ []) : (l.drop n).getLast? = l.getLast? := by
  conv => rhs; rw [← List.take_append_drop n l]
  rw [List.getLast?_append]
  cases hd : (l.drop n).getLast? with
  | none => rw [List.getLast?_eq_none_iff] at hd; exact absurd hd h
  | some x => simp

theorem decodeRune_side (r suf : Bytes) (hl : r.getLast? = some 10) :
    Utf8.decodeRune (r ++ suf) = Utf8.decodeRune r := by
  have hne : r ≠ [] := by intro h; simp [h] at hl
  apply (decodeRune_prefix _).symm
  match r, hne with
  | b0 :: rest, _ =>
    rcases decodeRune_cases b0 (rest ++ suf) with ⟨_, heq⟩ | ⟨_, _, hall⟩
    · rw [List.cons_append, heq]; simp
    · rw [List.cons_append]
      refine Nat.le_of_not_lt fun hlt => ?_
      have hmem : (10 : UInt8) ∈ (b0 :: (rest ++ suf)).take (Utf8.decodeRune (b0 :: (rest ++ suf))).2 := by
        rw [← List.cons_append, List.take_append]
        apply List.mem_append_left
        have hE : List.take (Utf8.decodeRune (b0 :: rest ++ suf)).snd (b0 :: rest) = b0 :: rest :=
          List.take_of_length_le (Nat.le_of_lt hlt)
        rw [hE]
        exact List.mem_of_getLast? hl
      have := hall _ hmem
      exact absurd this (by decide)

theorem isPrefix2_side (c1 c2 : UInt8) (r suf : Bytes) (h1 : c1 ≠ 10) (h2 : c2 ≠ 10) (hl : r.getLast? = some 10) :
    isPrefixOfB [c1, c2] (r ++ suf) = isPrefixOfB [c1, c2] r := by
  match r with
  | [] => simp at hl
  | [x] =>
    simp at hl; subst hl
    cases suf with
    | nil => rfl
    | cons y ys =>
      simp only [List.cons_append, List.nil_append, isPrefixOfB, Bool.and_true, Bool.and_false]
      simp [h1]
  | x :: y :: t => simp [isPrefixOfB]

section sim
variable (s : Sh) (pre suf : Bytes)

structure RW (i j : Input) : Prop where
  rem : j.remaining = i.remaining ++ suf
  con : j.consumedRev = i.consumedRev ++ pre.reverse
  pos : j.pos = shP s i.pos
  com : j.commentsRev = i.commentsRev
  nid : j.nextId = i.nextId + s.dn

/-- inside a token -/
structure RS (i j : Input) : Prop extends RW s pre suf i j where
  tr : j.tokRev = i.tokRev
  tp : j.token.pos = shP s i.token.pos

/-- after a token -/
structure RT (i j : Input) : Prop extends RW s pre suf i j where
  tr : j.tokRev = i.tokRev
  tok : j.token = shT s i.token

def Side (i : Input) : Prop := suf = [] ∨ i.remaining.getLast? = some 10

variable {s pre suf}

theorem Side.eof {i j : Input} (hs : Side suf i) (h : RW s pre suf i j) : j.eof = i.eof := by
  unfold Input.eof
  rw [h.rem]
  rcases hs with h0 | hl
  · simp [h0]
  · cases hr : i.remaining with
    | nil => simp [hr] at hl
    | cons a t => simp

theorem Side.peekRune {i j : Input} (hs : Side suf i) (h : RW s pre suf i j) : j.peekRune = i.peekRune := by
  unfold Input.peekRune
  rw [h.rem]
  rcases hs with h0 | hl
  · simp [h0]
  · cases hr : i.remaining with
    | nil => simp [hr] at hl
    | cons a t =>
      rw [hr] at hl
      simp only [List.cons_append]
      have := decodeRune_side (a :: t) suf hl
      rw [List.cons_append] at this
      rw [this]

theorem Side.peekPrefix {i j : Input} (hs : Side suf i) (h : RW s pre suf i j) (c1 c2 : UInt8) (h1 : c1 ≠ 10) (h2 : c2 ≠ 10) :
    j.peekPrefix [c1, c2] = i.peekPrefix [c1, c2] := by
  unfold Input.peekPrefix
  rw [h.rem]
  rcases hs with h0 | hl
  · simp [h0]
  · exact isPrefix2_side c1 c2 _ _ h1 h2 hl

theorem readRune_side {i i' : Input} {r : Nat} (hs : Side suf i) (h : readRune i = .ok (r, i')) :
    (r ≠ 10 → Side suf i') ∧ (Side suf i' ∨ i'.remaining = []) := by
  rcases hs with h0 | hl
  · exact ⟨fun _ => Or.inl h0, Or.inl (Or.inl h0)⟩
  · unfold readRune at h
    cases hr : i.remaining with
    | nil => simp [hr] at hl
    | cons a t =>
      rw [hr] at h hl
      simp only [Except.ok.injEq, Prod.mk.injEq] at h
      obtain ⟨h1, h2⟩ := h
      subst h2
      simp only
      have key : (a :: t).drop (Utf8.decodeRune (a :: t)).2 ≠ [] →
          ((a :: t).drop (Utf8.decodeRune (a :: t)).2).getLast? = some 10 := by
        intro hne; rw [getLast?_drop' _ _ hne]; exact hl
      constructor
      · intro hr10
        refine Or.inr (key ?_)
        intro hnil
        have hall := decodeRune_ne_newline (s := a :: t) (by simp) (by rw [h1]; exact hr10)
        have htake : (a :: t).take (Utf8.decodeRune (a :: t)).2 = a :: t := by
          have := List.take_append_drop (Utf8.decodeRune (a :: t)).2 (a :: t)
          rw [hnil, List.append_nil] at this; exact this
        rw [htake] at hall
        exact hall 10 (List.mem_of_getLast? hl) rfl
      · by_cases hnil : (a :: t).drop (Utf8.decodeRune (a :: t)).2 = []
        · exact Or.inr hnil
        · exact Or.inl (Or.inr (key hnil))

theorem readRune_rw {i i' j : Input} {r : Nat} (hs : Side suf i) (h : RW s pre suf i j)
    (hr : readRune i = .ok (r, i')) :
    ∃ j', readRune j = .ok (r, j') ∧ RW s pre suf i' j' ∧ (j.tokRev = i.tokRev → j'.tokRev = i'.tokRev) ∧
      j'.token = j.token ∧ i'.token = i.token := by
  unfold readRune at hr ⊢
  cases hrem : i.remaining with
  | nil => simp [hrem] at hr
  | cons a t =>
    have hd : Utf8.decodeRune j.remaining = Utf8.decodeRune (a :: t) := by
      rw [h.rem, hrem]
      rcases hs with h0 | hl
      · simp [h0]
      · rw [hrem] at hl; exact decodeRune_side _ _ hl
    have hw := decodeRune_width (a :: t) (by simp)
    rw [hrem] at hr
    simp only [Except.ok.injEq, Prod.mk.injEq] at hr
    obtain ⟨h1, h2⟩ := hr
    subst h2
    have hjr : j.remaining = a :: (t ++ suf) := by rw [h.rem, hrem]; rfl
    rw [hjr]
    simp only
    rw [← hjr, hd]
    subst h1
    refine ⟨_, rfl, ?_, ?_, rfl, trivial⟩
    · constructor
      · simp only; rw [h.rem, hrem, List.drop_append_of_le_length hw.2]
      · simp only; rw [h.rem, hrem, h.con, List.take_append_of_le_length hw.2, List.append_assoc]
      · simp only [h.pos, shP]
        split <;> simp <;> omega
      · exact h.com
      · exact h.nid
    · intro ht
      simp only; rw [h.rem, hrem, List.take_append_of_le_length hw.2, ht]

theorem readRune_rs {i i' j : Input} {r : Nat} (hs : Side suf i) (h : RS s pre suf i j)
    (hr : readRune i = .ok (r, i')) : ∃ j', readRune j = .ok (r, j') ∧ RS s pre suf i' j' := by
  obtain ⟨j', hj, hw, ht, htj, hti⟩ := readRune_rw hs h.toRW hr
  exact ⟨j', hj, ⟨hw, ht h.tr, by rw [htj, hti]; exact h.tp⟩⟩

/-- a guarded loop that reads no newline runs the same in the context -/
theorem runes_sim {g : Input → Prop} {R : Input → Input → Prop}
    (hstep : ∀ {i i' j : Input} {r : Nat}, Side suf i → R i j → readRune i = .ok (r, i') →
      ∃ j', readRune j = .ok (r, j') ∧ R i' j')
    (hg : ∀ {i j : Input}, Side suf i → R i j → g i → g j ∧ i.peekRune ≠ 10)
    {i i' : Input} (h : Runes g i i') : ∀ {j : Input}, Side suf i → R i j →
    ∃ j', Runes g j j' ∧ R i' j' ∧ Side suf i' := by
  induction h with
  | nil i => intro j hs hr; exact ⟨j, .nil _, hr, hs⟩
  | cons hgi hrr _ ih =>
    intro j hs hr
    obtain ⟨hgj, h10⟩ := hg hs hr hgi
    obtain ⟨j1, hj1, hr1⟩ := hstep hs hr hrr
    obtain ⟨j', hj', hr', hs'⟩ := ih ((readRune_side hs hrr).1 (by rw [readRune_peek hrr]; exact h10)) hr1
    exact ⟨j', .cons hgj hj1 hj', hr', hs'⟩

theorem isIdent_10 : isIdent 10 = false := by decide +kernel

theorem side_of_ok {i : Input} (hsuf : suf ≠ []) (h : Side suf i ∨ i.remaining = [])
    (hne : i.remaining ≠ []) : Side suf i := by
  rcases h with h | h
  · exact h
  · exact absurd h hne

theorem str_not_eof {q : Nat} {i i' : Input} (h : Str q i i') : i.eof = false := by
  cases h <;> assumption

theorem str_sim {q : Nat} (hq : q ≠ 10) {i i' : Input} (h : Str q i i') : ∀ {j : Input}, Side suf i → RS s pre suf i j →
    ∃ j', Str q j j' ∧ RS s pre suf i' j' ∧ Side suf i' := by
  induction h with
  | close he hnl hrr =>
    intro j hs h
    obtain ⟨j1, hj1, hrs1⟩ := readRune_rs hs h hrr
    exact ⟨j1, .close (by rw [hs.eof h.toRW]; exact he) (by rw [hs.peekRune h.toRW]; exact hnl) hj1, hrs1,
      (readRune_side hs hrr).1 hq⟩
  | @esc i i1 i2 i' c r he hnl hrr hcq hesc he1 hrr2 hrest ih =>
    intro j hs h
    obtain ⟨j1, hj1, hrs1⟩ := readRune_rs hs h hrr
    have hs1 := (readRune_side hs hrr).1 (by rw [readRune_peek hrr]; exact hnl)
    obtain ⟨j2, hj2, hrs2⟩ := readRune_rs hs1 hrs1 hrr2
    have hs2 : Side suf i2 := by
      rcases (readRune_side hs1 hrr2).2 with h2 | h2
      · exact h2
      · have := str_not_eof hrest
        simp [Input.eof, h2] at this
    obtain ⟨j', hj', hr', hs'⟩ := ih hs2 hrs2
    exact ⟨j', .esc (by rw [hs.eof h.toRW]; exact he) (by rw [hs.peekRune h.toRW]; exact hnl) hj1 hcq hesc
      (by rw [hs1.eof hrs1.toRW]; exact he1) hj2 hj', hr', hs'⟩
  | other he hnl hrr hcq hesc _ ih =>
    intro j hs h
    obtain ⟨j1, hj1, hrs1⟩ := readRune_rs hs h hrr
    obtain ⟨j', hj', hr', hs'⟩ := ih ((readRune_side hs hrr).1 (by rw [readRune_peek hrr]; exact hnl)) hrs1
    exact ⟨j', .other (by rw [hs.eof h.toRW]; exact he) (by rw [hs.peekRune h.toRW]; exact hnl) hj1 hcq hesc hj',
      hr', hs'⟩

theorem noSS_peek {D : Bytes} {i : Input} (hD : NoSS D) (hi : LInv0 D i) : i.peekPrefix [47, 47] = false := by
  cases hp : i.peekPrefix [47, 47] with
  | false => rfl
  | true =>
    exfalso
    apply hD
    unfold Input.peekPrefix at hp
    have hsp := hi.base.split
    match hr : i.remaining, hp with
    | x :: y :: t, hp =>
      simp only [isPrefixOfB, Bool.and_true, Bool.and_eq_true, beq_iff_eq] at hp
      refine ⟨i.consumedRev.reverse, t, ?_⟩
      rw [← hsp, hr, ← hp.1, ← hp.2]; simp
    | [], hp => simp [isPrefixOfB] at hp
    | [x], hp => simp [isPrefixOfB] at hp

theorem startToken_rs {i j : Input} (h : RW s pre suf i j) : RS s pre suf (startToken i) (startToken j) :=
  ⟨⟨h.rem, h.con, h.pos, h.com, h.nid⟩, rfl, h.pos⟩

theorem endToken_rt {i j : Input} (k : TokKind) (hk : k.isComment = false) (h : RS s pre suf i j) :
    RT s pre suf (endToken k i) (endToken k j) := by
  unfold endToken
  simp only [hk, Bool.false_eq_true, if_false]
  exact ⟨⟨h.rem, h.con, h.pos, h.com, h.nid⟩, h.tr, by simp only [shT, h.tp, h.pos, h.tr]⟩

theorem readToken_sim {D : Bytes} {i j i' : Input} (hD : NoSS D) (hi : LInv0 D i) (hs : Side suf i)
    (h : RW s pre suf i j) (hr : readToken i = .ok i') :
    ∃ j', readToken j = .ok j' ∧ RT s pre suf i' j' ∧ i'.token.kind.isComment = false ∧
      (Side suf i' ∨ (i'.remaining = [] ∧ i'.token.kind = .punct 10)) := by
  obtain ⟨i1, hb, hstop, ht⟩ := readToken_tok hr
  obtain ⟨j1, hbj, hw1, hs1⟩ := runes_sim (R := RW s pre suf) (fun hs h hrr => by
      obtain ⟨j', hj, hw, _⟩ := readRune_rw hs h hrr; exact ⟨j', hj, hw⟩)
    (fun hs h hg => ⟨⟨by rw [hs.eof h]; exact hg.1, by rw [hs.peekRune h]; exact hg.2⟩, by
      intro h10; have := hg.2; rw [h10] at this; simp at this⟩) hb hs h
  have he1 : j1.eof = i1.eof := hs1.eof hw1
  have hpk : j1.peekRune = i1.peekRune := hs1.peekRune hw1
  have hp47 : j1.peekPrefix [47, 47] = i1.peekPrefix [47, 47] := hs1.peekPrefix hw1 47 47 (by decide) (by decide)
  have hp42 : j1.peekPrefix [47, 42] = i1.peekPrefix [47, 42] := hs1.peekPrefix hw1 47 42 (by decide) (by decide)
  have hstopj : ¬ Blank j1 := fun hbl => hstop ⟨by rw [← he1]; exact hbl.1, by rw [← hpk]; exact hbl.2⟩
  have hst := startToken_rs hw1
  have hss : Side suf (startToken i1) := hs1
  cases ht with
  | comment _ hp _ =>
    rw [noSS_peek hD (hb.pres (fun _ _ _ hp hr => linv0_readRune hp hr) hi)] at hp; cases hp
  | eof he =>
    refine ⟨_, readToken_of_tok hbj hstopj (.eof (by rw [he1]; exact he)), endToken_rt _ rfl hst, rfl, ?_⟩
    rcases hs1 with h0' | hl
    · exact Or.inl (Or.inl h0')
    · have : i1.remaining = [] := by simpa [Input.eof] using he
      rw [this] at hl; simp at hl
  | @punct a r he h1 h2 hp hrr =>
    obtain ⟨j2, hj2, hrs2⟩ := readRune_rs hss hst hrr
    have := readToken_of_tok hbj hstopj (.punct (by rw [he1]; exact he) (by rw [hp47]; exact h1)
      (by rw [hp42]; exact h2) (by rw [hpk]; exact hp) hj2)
    rw [hpk] at this
    refine ⟨_, this, endToken_rt _ rfl hrs2, rfl, ?_⟩
    have hrp : r = i1.peekRune := (readRune_peek hrr : r = (startToken i1).peekRune)
    have hsd := readRune_side hss hrr
    by_cases h10 : r = 10
    · rcases hsd.2 with h2 | h2
      · exact Or.inl h2
      · refine Or.inr ⟨h2, ?_⟩
        show TokKind.punct (UInt8.ofNat i1.peekRune) = .punct 10
        rw [← hrp, h10]; rfl
    · exact Or.inl (hsd.1 h10)
  | @string a b r he h1 h2 hnp hq hrr hstr =>
    have hq10 : i1.peekRune ≠ 10 := by
      intro h10; rw [h10] at hq; simp [quoteRunes] at hq
    obtain ⟨j2, hj2, hrs2⟩ := readRune_rs hss hst hrr
    have hs2 := (readRune_side hss hrr).1 (by rw [(readRune_peek hrr : r = (startToken i1).peekRune)]; exact hq10)
    obtain ⟨j3, hj3, hrs3, hs3⟩ := str_sim hq10 hstr hs2 hrs2
    rw [← hpk] at hj3
    exact ⟨_, readToken_of_tok hbj hstopj (.string (by rw [he1]; exact he) (by rw [hp47]; exact h1)
      (by rw [hp42]; exact h2) (by rw [hpk]; exact hnp) (by rw [hpk]; exact hq) hj2 hj3),
      endToken_rt _ rfl hrs3, rfl, Or.inl hs3⟩
  | @ident b he h1 h2 hnp hnq hid hruns hex =>
    obtain ⟨j3, hj3, hrs3, hs3⟩ := runes_sim (R := RS s pre suf) (fun hs h hrr => readRune_rs hs h hrr)
      (fun hs h hg => ⟨⟨by rw [hs.peekRune h.toRW]; exact hg.1,
          by rw [hs.peekPrefix h.toRW 47 47 (by decide) (by decide)]; exact hg.2.1,
          by rw [hs.peekPrefix h.toRW 47 42 (by decide) (by decide)]; exact hg.2.2⟩, by
        intro h10; have := hg.1; rw [h10, isIdent_10] at this; cases this⟩) hruns hss hst
    refine ⟨_, readToken_of_tok hbj hstopj (.ident (by rw [he1]; exact he) (by rw [hp47]; exact h1)
      (by rw [hp42]; exact h2) (by rw [hpk]; exact hnp) (by rw [hpk]; exact hnq) (by rw [hpk]; exact hid) hj3 ?_),
      endToken_rt _ rfl hrs3, rfl, Or.inl hs3⟩
    rw [hs3.peekRune hrs3.toRW, hs3.peekPrefix hrs3.toRW 47 47 (by decide) (by decide)]
    exact hex

end sim
end ModVerif.Proofs.ModfileC20Append
