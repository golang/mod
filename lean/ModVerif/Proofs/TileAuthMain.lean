/-
  C10: the main theorems over an abstract true-hash function `T` (instantiated with RFC 6962 in TileAuthFinal.lean):
  a passed `authenticate` forces every fetched tile to be the true tile (collision freedom), and the honest
  server passes.
-/
import ModVerif.Proofs.TileAuthRead
namespace ModVerif.TileAuth
open ModVerif ModVerif.Tlog ModVerif.Tile ModVerif.TlogStore

theorem index_decomp : ∀ N x, x < S N → ∃ l k, (k + 1) * 2 ^ l ≤ N ∧ storedHashIndex l k = x := by
  intro N
  induction N with
  | zero => intro x h; simp [S_zero] at h
  | succ N ih =>
    intro x h
    by_cases hx : x < S N
    · obtain ⟨l, k, h1, h2⟩ := ih x hx
      exact ⟨l, k, by omega, h2⟩
    · rw [S_succ] at h
      refine ⟨x - S N, N >>> (x - S N), ?_, ?_⟩
      · rw [shiftRight_of_le_tz N (x - S N) (by omega)]; omega
      · rw [storedHashIndex_eq, shiftRight_of_le_tz N (x - S N) (by omega)]
        simp only [Nat.add_sub_cancel]
        omega

section
variable {H : Type} (node : H → H → H) (T : Nat → Nat → H) (N : Nat) (th : H) (st : List H)

theorem env_split_of_lt (env : Env node T N st) (x : Nat) (hx : x < storedHashIndex 0 N) :
    ∃ c : Nat × Nat, splitStoredHashIndex x = .ok c ∧ (c.2 + 1) * 2 ^ c.1 ≤ N ∧ idxOf c = x := by
  rw [storedHashIndex_zero_eq] at hx
  obtain ⟨l, k, h1, h2⟩ := index_decomp N x hx
  exact ⟨(l, k), by rw [← h2]; exact env.split l k h1, h1, h2⟩

theorem env_hidx (env : Env node T N st) (idx : List Nat) (h : ∀ x ∈ idx, x < storedHashIndex 0 N) :
    ∀ x ∈ idx, x < storedHashIndex 0 N ∧ ∃ c : Nat × Nat, splitStoredHashIndex x = .ok c ∧ (c.2 + 1) * 2 ^ c.1 ≤ N := by
  intro x hx
  obtain ⟨c, c1, c2, _⟩ := env_split_of_lt node T N st env x (h x hx)
  exact ⟨h x hx, c, c1, c2⟩

theorem slice_hash (hstep : StepOK node T N) (t : Tile) (lv k : Nat) (hh : 0 < t.h) (hv : (k + 1) * 2 ^ lv ≤ N)
    (h8 : t.l = lv / t.h) (h9 : t.n = tnum t.h lv k) (h10 : ts t.h lv k + 2 ^ (lv % t.h) ≤ t.w) :
    tileHash node (((tdata T t.h t.l t.n t.w).take (ts t.h lv k + 2 ^ (lv % t.h))).drop (ts t.h lv k)) = .ok (T lv k) := by
  rw [tdata_slice T _ _ _ _ _ _ h10, h9, tnum_ts t.h lv k hh]
  apply tileHash_ptree node (lv % t.h) _ _ (by simp)
  rw [h8, ptree_T node T N hstep (lv % t.h) (lv / t.h * t.h) k (by rw [lv_split]; exact hv), lv_split]

theorem hashFromTile_true (hstep : StepOK node T N) (t : Tile) (x lv k : Nat) (v : H) (hh : 0 < t.h)
    (hs : splitStoredHashIndex x = .ok (lv, k)) (hv : (k + 1) * 2 ^ lv ≤ N)
    (hok : hashFromTile node t (tdata T t.h t.l t.n t.w) x = .ok v) : v = T lv k := by
  obtain ⟨h8, h9, h10, _, hth⟩ := hashFromTile_ok node t _ x lv k v hh hs hok
  rw [slice_hash node T N hstep t lv k hh hv h8 h9 h10] at hth
  cases hth; rfl

theorem std_facts (h : Nat) (t : Tile) (hs : ∃ L n, t = stdTile h N L n ∧ n * 2 ^ h < cnt h N L) :
    t.h = h ∧ t.data = false ∧ 0 < t.w ∧ t.w ≤ 2 ^ h ∧ t.n * 2 ^ h + t.w ≤ cnt h N t.l ∧
      t = stdTile h N t.l t.n := by
  obtain ⟨L, n, e, hlt⟩ := hs
  have e' := e
  rw [stdTile_of_lt h N L n hlt] at e
  subst e
  have hp := Nat.two_pow_pos h
  refine ⟨rfl, rfl, ?_, ?_, ?_, e'⟩
  · simp only; omega
  · simp only; omega
  · simp only; omega

theorem stdTile_fields (h L n : Nat) (hlt : n * 2 ^ h < cnt h N L) :
    (stdTile h N L n).h = h ∧ (stdTile h N L n).l = L ∧ (stdTile h N L n).n = n ∧
      (stdTile h N L n).w = min (2 ^ h) (cnt h N L - n * 2 ^ h) ∧ (stdTile h N L n).data = false := by
  rw [stdTile_of_lt h N L n hlt]
  exact ⟨rfl, rfl, rfl, rfl, rfl⟩

/-- (i) under collision freedom, a recomputed tree hash equal to the true one forces every tree-hash tile to be true
    (structural fact (a): the tree-hash indexes cover the whole content of their tiles) -/
theorem stx_tiles_true (hcf : ∀ a b c d : H, node a b = node c d → a = c ∧ b = d) (env : Env node T N st)
    (hroot : ∀ cs, Cover cs 0 N → foldR node (cs.map fun c => T c.1 c.2) = some th)
    (h : Nat) (hh : 0 < h) (cs : List (Nat × Nat)) (idx : List Nat) (p : Plan) (ok : PlanOK h N cs idx p)
    (data : List (List H)) (hlen : data.length = p.tiles.length)
    (hw : ∀ (i : Nat) (t : Tile) (d : List H), p.tiles[i]? = some t → data[i]? = some d → d.length = t.w)
    (hs : List H) (h1 : hashList node p.tiles data (p.stx.zip p.stxTileOrder) = .ok hs)
    (h2 : foldR node hs = some th) :
    ∀ (j : Nat) (t : Tile) (d : List H), j < p.nstx → p.tiles[j]? = some t → data[j]? = some d →
      d = tdata T t.h t.l t.n t.w := by
  obtain ⟨hl, hget⟩ := hashList_get node _ _ _ _ h1
  have hlen2 : hs.length = (cs.map fun c => T c.1 c.2).length := by
    rw [hl, List.length_zip, ok.stx, ok.stoLen]; simp
  have hhs : hs = cs.map fun c => T c.1 c.2 := foldR_inj node hcf _ _ th hlen2 h2 (hroot cs ok.cover)
  have hA : ∀ (i : Nat) (c : Nat × Nat), cs[i]? = some c → ∃ (j : Nat) (d : List H), p.tiles[j]? = some (home h N c) ∧ data[j]? = some d ∧
      hashFromTile node (home h N c) d (idxOf c) = .ok (T c.1 c.2) := by
    intro i c hi
    obtain ⟨j, s1, _, s3⟩ := ok.sto i c hi
    have hz : (p.stx.zip p.stxTileOrder)[i]? = some (idxOf c, j) := by
      rw [List.getElem?_zip_eq_some]; simp [ok.stx, hi, s1]
    obtain ⟨v, v1, v2⟩ := hget i _ _ hz
    rw [hhs, List.getElem?_map, hi] at v1
    simp only [Option.map_some, Option.some.injEq] at v1
    subst v1
    have hjl : j < data.length := by
      rw [hlen]; exact (List.getElem?_eq_some_iff.mp s3).1
    have hd : data[j]? = some data[j] := List.getElem?_eq_getElem hjl
    unfold hashAt at v2
    rw [s3, hd] at v2
    exact ⟨j, _, s3, hd, v2⟩
  intro j t d hj ht hd
  obtain ⟨c0, hc0, e0⟩ := ok.stxTiles j t hj ht
  have hb0 := cover_props cs 0 N ok.cover (strictAligned_zero N) c0 hc0
  have hnz0 := home_nonzero h N c0 hh hb0.1
  have hright := block_tile_rightmost h N hh c0 hb0
  obtain ⟨f1, f2, f3, f4, _⟩ := stdTile_fields N h (c0.1 / h) (tnum h c0.1 c0.2) hnz0
  rw [← home, ← e0] at f1 f2 f3 f4
  apply tdata_of_pointwise T t.h t.l t.n t.w d (hw j t d ht hd)
  intro q hq
  have hp := Nat.two_pow_pos h
  rw [f1, f2, f3]
  rw [f4] at hq
  -- the level-(L*h) coordinate of position q
  have hm1 : tnum h c0.1 c0.2 * 2 ^ h + q < cnt h N (c0.1 / h) := by omega
  have hm2 : cnt h N (c0.1 / h + 1) * 2 ^ h ≤ tnum h c0.1 c0.2 * 2 ^ h + q := by rw [← hright]; omega
  obtain ⟨c, hc, e1, e2, e3, e4⟩ := block_cover h N hh cs ok.cover (c0.1 / h) _ hm1 hm2
  have hdiv : (tnum h c0.1 c0.2 * 2 ^ h + q) / 2 ^ h = tnum h c0.1 c0.2 := by
    apply Nat.div_eq_of_lt_le
    · omega
    · rw [Nat.add_mul]; omega
  have hmod : (tnum h c0.1 c0.2 * 2 ^ h + q) % 2 ^ h = q := by
    have := Nat.div_add_mod (tnum h c0.1 c0.2 * 2 ^ h + q) (2 ^ h)
    rw [hdiv, Nat.mul_comm] at this
    omega
  rw [hdiv] at e2
  rw [hmod] at e3 e4
  have hhome : home h N c = t := by rw [e0]; simp [home, e1, e2]
  obtain ⟨i, hi⟩ := List.mem_iff_getElem?.mp hc
  obtain ⟨j', d', a1, a2, a3⟩ := hA i c hi
  rw [hhome] at a1 a3
  have hjj := look_inj ok.inv.look t j' j a1 ht
  subst hjj
  rw [hd] at a2
  cases a2
  have hvc := cover_bound cs 0 N ok.cover c hc
  have := hashFromTile_auth node T N hcf env.step t d (idxOf c) c.1 c.2 (by omega) (env.split c.1 c.2 hvc) hvc a3 q
    (by rw [f1]; exact e3) (by rw [f1]; exact e4)
  rw [f1, f2, f3] at this
  exact this

/-- (ii) every later tile is true because its hash inside its (already true) parent is the hash of its data
    (structural fact (d)) -/
theorem all_tiles_true (hcf : ∀ a b c d : H, node a b = node c d → a = c ∧ b = d) (env : Env node T N st)
    (h : Nat) (hh : 0 < h) (cs : List (Nat × Nat)) (idx : List Nat) (p : Plan) (ok : PlanOK h N cs idx p)
    (data : List (List H))
    (hw : ∀ (i : Nat) (t : Tile) (d : List H), p.tiles[i]? = some t → data[i]? = some d → d.length = t.w)
    (hstx : ∀ (j : Nat) (t : Tile) (d : List H), j < p.nstx → p.tiles[j]? = some t → data[j]? = some d →
      d = tdata T t.h t.l t.n t.w)
    (hch : ∀ i', p.nstx ≤ i' → i' < p.tiles.length → ChildOK node N p data i') :
    ∀ (i : Nat) (t : Tile) (d : List H), p.tiles[i]? = some t → data[i]? = some d → d = tdata T t.h t.l t.n t.w := by
  intro i
  induction i using Nat.strongRecOn with
  | _ i ih =>
    intro t d ht hd
    by_cases hi : i < p.nstx
    · exact hstx i t d hi ht hd
    · have hil : i < p.tiles.length := (List.getElem?_eq_some_iff.mp ht).1
      obtain ⟨tile, di, j, dj, v, c1, c2, c3, c4, c5, c6⟩ := hch i (by omega) hil
      rw [ht] at c1; cases c1
      rw [hd] at c2; cases c2
      obtain ⟨hfw, j0, hj0, hpar⟩ := ok.inv.child i t (by omega) ht
      have hjj := look_inj ok.inv.look _ j j0 ((ok.inv.look _ j).mp c3) hpar
      subst hjj
      have hdj := ih j hj0 _ dj hpar c4
      obtain ⟨g1, g2, g3, g4, g5, g6⟩ := std_facts N h t (ok.inv.std t (List.mem_iff_getElem?.mpr ⟨i, ht⟩))
      have hp := Nat.two_pow_pos h
      have hfull : (t.n + 1) * 2 ^ h ≤ cnt h N t.l := by rw [Nat.add_mul]; omega
      have hpn := parent_of_full h N t.l t.n hfull
      have hpe : tileParent t 1 N = stdTile h N (t.l + 1) (t.n / 2 ^ h) := by
        rw [tileParent_eq t 1 N g2, g1, Nat.one_mul]
      have hpnz : t.n / 2 ^ h * 2 ^ h < cnt h N (t.l + 1) := by
        have := Nat.div_mul_le_self t.n (2 ^ h); omega
      obtain ⟨q1, q2, q3, _, _⟩ := stdTile_fields N h (t.l + 1) (t.n / 2 ^ h) hpnz
      rw [← hpe] at q1 q2 q3
      have hvalid : (t.n + 1) * 2 ^ ((t.l + 1) * h) ≤ N := (valid_iff h N (t.l + 1) t.n).mpr hpn
      rw [q1, q2] at c5
      rw [hdj] at c5
      have hv := hashFromTile_true node T N env.step _ _ ((t.l + 1) * h) t.n v (by omega)
        (env.split _ _ hvalid) hvalid c5
      subst hv
      have hlen : d.length = 2 ^ h := by rw [hw i t d ht hd, hfw]
      have hp1 := ptree_of_tileHash node h d _ hlen c6
      have hp2 := ptree_T node T N env.step h (t.l * h) t.n (by
        rw [show t.l * h + h = (t.l + 1) * h by rw [Nat.add_mul]; omega]; exact hvalid)
      rw [show t.l * h + h = (t.l + 1) * h by rw [Nat.add_mul]; omega] at hp2
      have := ptree_inj node hcf h _ _ _ hlen (by simp) hp1 hp2
      rw [this, g1, hfw]
      rfl

theorem extract_true (env : Env node T N st) (h : Nat) (hh : 0 < h) (cs : List (Nat × Nat)) (idx : List Nat) (p : Plan)
    (ok : PlanOK h N cs idx p) (data : List (List H))
    (hall : ∀ (i : Nat) (t : Tile) (d : List H), p.tiles[i]? = some t → data[i]? = some d → d = tdata T t.h t.l t.n t.w)
    (hidx : ∀ x ∈ idx, x < storedHashIndex 0 N) (hs : List H)
    (hx : hashList node p.tiles data (idx.zip p.indexTileOrder) = .ok hs) :
    idx.mapM (st[·]?) = some hs := by
  obtain ⟨hl, hget⟩ := hashList_get node _ _ _ _ hx
  apply mapM_option_of_get
  · rw [hl, List.length_zip, ok.itoLen]; simp
  · intro i x hi
    obtain ⟨c, c1, c2, c3⟩ := env_split_of_lt node T N st env x (hidx x (List.mem_iff_getElem?.mpr ⟨i, hi⟩))
    obtain ⟨j, j1, j2⟩ := ok.ito i x c hi c1
    have hz : (idx.zip p.indexTileOrder)[i]? = some (x, j) := by
      rw [List.getElem?_zip_eq_some]; exact ⟨hi, j1⟩
    obtain ⟨v, v1, v2⟩ := hget i _ _ hz
    refine ⟨v, v1, ?_⟩
    unfold hashAt at v2
    rw [j2] at v2
    cases hd : data[j]? with
    | none => rw [hd] at v2; cases v2
    | some d =>
      rw [hd] at v2
      simp only at v2
      rw [hall j _ d j2 hd] at v2
      have hnz := home_nonzero h N c hh c2
      obtain ⟨f1, _, _, _, _⟩ := stdTile_fields N h (c.1 / h) (tnum h c.1 c.2) hnz
      rw [← home] at f1
      have := hashFromTile_true node T N env.step (home h N c) x c.1 c.2 v (by omega) c1 c2 v2
      rw [this, ← c3]
      exact env.get c.1 c.2 c2

theorem planIndex_ok_lt (h N : Nat) (s s' : List Tile × List (Tile × Nat) × List Nat) (x : Nat)
    (hp : planIndex h N s x = .ok s') : x < storedHashIndex 0 N := by
  obtain ⟨tiles, order, ito⟩ := s
  apply Nat.lt_of_not_le
  intro hge
  unfold planIndex at hp
  simp only [ge_iff_le, hge, ↓reduceIte] at hp
  cases hp

theorem planIndexes_ok_lt (h N : Nat) : ∀ (idx : List Nat) (s s' : List Tile × List (Tile × Nat) × List Nat),
    planIndexes h N idx s = .ok s' → ∀ x ∈ idx, x < storedHashIndex 0 N := by
  intro idx
  induction idx with
  | nil => intro s s' _ x hx; simp at hx
  | cons a l ih =>
    intro s s' hp x hx
    simp only [planIndexes, bind, Except.bind] at hp
    cases h1 : planIndex h N s a with
    | error e => rw [h1] at hp; cases hp
    | ok s1 =>
      rw [h1] at hp
      rcases List.mem_cons.mp hx with e | e
      · subst e; exact planIndex_ok_lt h N s s1 x h1
      · exact ih s1 s' hp x e

theorem plan_ok_lt (h N : Nat) (idx : List Nat) (p : Plan) (hp : plan h N idx = .ok p) :
    ∀ x ∈ idx, x < storedHashIndex 0 N := by
  unfold plan at hp
  simp only [bind, Except.bind] at hp
  cases h1 : subTreeIndex 0 N with
  | error e => rw [h1] at hp; cases hp
  | ok stx =>
    rw [h1] at hp
    simp only at hp
    cases h2 : planStx h N stx ([], [], []) with
    | error e => rw [h2] at hp; cases hp
    | ok r =>
      obtain ⟨tiles, order, sto⟩ := r
      rw [h2] at hp
      simp only at hp
      cases h3 : planIndexes h N idx (tiles, order, []) with
      | error e => rw [h3] at hp; cases hp
      | ok r3 => exact planIndexes_ok_lt h N idx _ _ h3

variable [DecidableEq H]

/-- `readHashes` either stops before SaveTiles, or has fetched data that passed `authenticate` -/
theorem readHashes_cases (h : Nat) (idx : List Nat) (serve : Tile → Option (List H)) :
    ((readHashes node N th h idx serve).saved = none ∧
      ∀ hs, (readHashes node N th h idx serve).result = .ok hs → hs = [] ∧ idx = []) ∨
    ∃ p data, plan h N idx = .ok p ∧ p.stx ≠ [] ∧ p.tiles.mapM serve = some data ∧ widthsOk p.tiles data = true ∧
      authenticate node N th p data = .ok () ∧
      (readHashes node N th h idx serve).saved = some (p.tiles.zip data) ∧
      (readHashes node N th h idx serve).result = extract node p data (idx.zip p.indexTileOrder) := by
  unfold readHashes
  cases hp : plan h N idx with
  | error e => left; exact ⟨rfl, by intro hs hh; cases hh⟩
  | ok p =>
    simp only
    by_cases hstx : p.stx.isEmpty = true
    · left
      rw [if_pos hstx]
      refine ⟨rfl, ?_⟩
      intro hs hh
      simp only [Except.ok.injEq] at hh
      exact ⟨hh.symm, (plan_stx_nil h N idx p hp (by simpa using hstx)).2⟩
    · rw [if_neg hstx]
      cases hm : p.tiles.mapM serve with
      | none => left; exact ⟨rfl, by intro hs hh; cases hh⟩
      | some data =>
        simp only
        by_cases hwd : widthsOk p.tiles data = true
        · rw [if_neg (by simp [hwd])]
          cases ha : authenticate node N th p data with
          | error e => left; exact ⟨rfl, by intro hs hh; cases hh⟩
          | ok u =>
            right
            exact ⟨p, data, rfl, by simpa using hstx, hm, hwd, ha, rfl, rfl⟩
        · rw [if_pos (by simp [hwd])]
          left; exact ⟨rfl, by intro hs hh; cases hh⟩

/-- ★ (abstract form) whatever is served: every tile handed to SaveTiles is the true tile, and a successful read returns
    the true stored hashes -/
theorem readHashes_authenticated_abs (hcf : ∀ a b c d : H, node a b = node c d → a = c ∧ b = d) (env : Env node T N st)
    (hroot : ∀ cs, Cover cs 0 N → foldR node (cs.map fun c => T c.1 c.2) = some th)
    (h : Nat) (hh : 0 < h) (hN : N < 2 ^ 63) (idx : List Nat) (serve : Tile → Option (List H)) :
    (∀ sv, (readHashes node N th h idx serve).saved = some sv → ∀ td ∈ sv, trueTile st td.1 = some td.2) ∧
    (∀ hs, (readHashes node N th h idx serve).result = .ok hs → idx.mapM (st[·]?) = some hs) := by
  rcases readHashes_cases node N th h idx serve with ⟨a1, a2⟩ | ⟨p, data, b1, _, b3, b4, b5, b6, b7⟩
  · refine ⟨(by intro sv hsv; rw [a1] at hsv; cases hsv), ?_⟩
    intro hs hr
    obtain ⟨e1, e2⟩ := a2 hs hr
    subst e1 e2; rfl
  · have hidx := plan_ok_lt h N idx p b1
    obtain ⟨cs, p', q1, ok⟩ := plan_spec h N hh hN env.split idx (env_hidx node T N st env idx hidx)
    rw [b1] at q1; cases q1
    obtain ⟨hlen, hw⟩ := widthsOk_spec p.tiles data b4
    obtain ⟨hs0, r1, r2, r3⟩ := authenticate_ok node N th p data b5
    have hstx := stx_tiles_true node T N th st hcf env hroot h hh cs idx p ok data hlen hw hs0 r1 r2
    have hch : ∀ i', p.nstx ≤ i' → i' < p.tiles.length → ChildOK node N p data i' := by
      intro i' h1 h2
      exact authChildren_ok node N p data _ _ r3 i' h1 (by have := ok.nstxLe; omega)
    have hall := all_tiles_true node T N st hcf env h hh cs idx p ok data hw hstx hch
    constructor
    · intro sv hsv td htd
      rw [b6] at hsv; cases hsv
      obtain ⟨i, hi⟩ := List.mem_iff_getElem?.mp htd
      rw [List.getElem?_zip_eq_some] at hi
      obtain ⟨g1, g2, g3, _, g5, _⟩ := std_facts N h td.1 (ok.inv.std td.1 (List.mem_iff_getElem?.mpr ⟨i, hi.1⟩))
      rw [hall i td.1 td.2 hi.1 hi.2]
      exact trueTile_eq node T N st env td.1 g3 (by rw [g1]; exact g5)
    · intro hs hr
      rw [b7, extract_ok_iff] at hr
      exact extract_true node T N st env h hh cs idx p ok data hall hidx hs hr

end
end ModVerif.TileAuth
