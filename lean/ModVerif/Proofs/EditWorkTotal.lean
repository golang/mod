/-
  **C15 `nilDeref_unreachable`, go.work**: on a state satisfying the go.work tree invariant `InvW`
  every go.work operation (SetUse included, on live `use` entries with distinct non-empty directories) terminates normally
  (`applyWork_noPanic_all`: a success or one of the documented returned errors — never the model's `nilDeref`, Go's nil
  `Syntax` dereference on a cleared entry); hence every session whose operations have statically valid arguments
  (`StaticValidW`: non-empty keys; SetUse directly after a Cleanup) runs to completion from every state satisfying `InvW`,
  in particular from every `parseWork`-accepted well-formed file.  The go.work counterpart of Proofs/EditPanicRun.lean
  (no marker clause to forget here: `InvW` has none).
-/
import ModVerif.Proofs.EditWorkKeepB
import ModVerif.Proofs.EditRefineNoPanic
import ModVerif.Proofs.EditMarkerInv
import ModVerif.Proofs.EditMoreStartW
namespace ModVerif.Modfile.Edit
open ModVerif ModVerif.Modfile

theorem InvW.entry_id_pos {e : EWork} (hi : InvW e) : ∀ en ∈ entriesW e.f, en.id ≠ 0 := by
  intro en hen
  rcases hi.mtch.cover en hen with ⟨v, hv, hid, _⟩
  rw [← hid]; exact hi.tree.pos _ (view_id_mem_treeIds hv)

theorem InvW.godebug_pos {e : EWork} (hi : InvW e) : ∀ x ∈ e.f.godebug, liveG x = true → x.lineId ≠ 0 := fun _ hx hl =>
  hi.entry_id_pos _ (mem_entriesW_godebug hx hl)
theorem InvW.use_pos {e : EWork} (hi : InvW e) : ∀ x ∈ e.f.use, liveU x = true → x.lineId ≠ 0 := fun _ hx hl =>
  hi.entry_id_pos _ (mem_entriesW_use hx hl)
theorem InvW.replace_pos {e : EWork} (hi : InvW e) : ∀ x ∈ e.f.replace, liveRp x = true → x.lineId ≠ 0 := fun _ hx hl =>
  hi.entry_id_pos _ (mem_entriesW_replace hx hl)

/-- the loop of SetUse dereferences the `Syntax` pointer of every `use` entry that is not asked for; all of them point at
    a line -/
theorem setUseLoop_total (us : List Use) (h : ∀ u ∈ us, u.lineId ≠ 0) (need : List (Bytes × Bytes)) (syn : FileSyntax) :
    ∃ r, setUseLoop us need syn = .ok r := by
  rw [setUseLoop_eq, if_pos]
  · exact ⟨_, rfl⟩
  · intro i hi
    obtain ⟨u, hu, rfl⟩ := List.mem_map.1 ((setUseDead_sublist us need).subset hi)
    exact h u hu

theorem setUse_total (e : EWork) (dirs : List (Bytes × Bytes)) (perm : List (Bytes × Bytes) → List (Bytes × Bytes))
    (hi : InvW e) (hlive : ∀ u ∈ e.f.use, liveU u = true) : ∃ e', setUse e dirs perm = .ok e' := by
  unfold setUse
  rcases setUseLoop_total e.f.use (fun u hu => hi.use_pos u hu (hlive u hu)) (useNeedMap dirs []) e.f.syn with ⟨⟨us, need, syn⟩, hr⟩
  simp only [bind, Except.bind, hr]
  exact ⟨_, rfl⟩

def IsWorkOp : Op → Prop
  | .addGo _ | .dropGo | .addToolchain _ | .dropToolchain | .addGodebug _ _ | .dropGodebug _ | .addUse _ _ | .addNewUse _ _
  | .dropUse _ | .setUse _ _ | .addReplace _ _ _ _ | .dropReplace _ _ | .sortBlocks | .cleanup => True
  | _ => False

def isWorkOpB : Op → Bool
  | .addGo _ | .dropGo | .addToolchain _ | .dropToolchain | .addGodebug _ _ | .dropGodebug _ | .addUse _ _ | .addNewUse _ _
  | .dropUse _ | .setUse _ _ | .addReplace _ _ _ _ | .dropReplace _ _ | .sortBlocks | .cleanup => true
  | _ => false

theorem isWorkOpB_sound (op : Op) (h : isWorkOpB op = true) : IsWorkOp op := by
  cases op <;> first | trivial | cases h

theorem isWorkOpB_all {ops : List Op} (h : ops.all isWorkOpB = true) : ∀ op ∈ ops, IsWorkOp op := fun op hop =>
  isWorkOpB_sound op (List.all_eq_true.1 h op hop)

/-- Props/C15 `op_no_panic_work` -/
theorem applyWork_noPanic_all (e : EWork) (op : Op) (hv : ValidArgsWAll e op) (hw : IsWorkOp op) (hi : InvW e) :
    NoPanic (applyWork e op) := by
  cases op with
  | addGo v =>
    simp only [applyWork, workAddGoStmt]
    split
    · exact ⟨_, rfl, fun err h => by cases h; rfl⟩
    · split <;> exact NoPanic.ok _
  | dropGo => exact NoPanic.ok _
  | addToolchain n =>
    simp only [applyWork, workAddToolchainStmt]
    split
    · exact ⟨_, rfl, fun err h => by cases h; rfl⟩
    · split <;> exact NoPanic.ok _
  | dropToolchain => exact NoPanic.ok _
  | addGodebug k v =>
    have hk : k ≠ [] := hv
    simp only [applyWork, workAddGodebug, addGodebugCore, bind, Except.bind]
    rcases firstRest_total (fun g : Godebug => g.key == k) (·.lineId) (fun g => { g with value := v }) clearedGodebug e.f.godebug
      (fun x hx hm => hi.godebug_pos x hx (ne_nil_of_beq hk hm)) true with ⟨⟨l', first, dead⟩, hr⟩
    simp only [hr]
    cases first <;> exact NoPanic.ok _
  | dropGodebug k =>
    have hk : k ≠ [] := hv
    simp only [applyWork, workDropGodebug, bind, Except.bind]
    rcases clearAll_total (fun g : Godebug => g.key == k) (·.lineId) clearedGodebug e.f.godebug
      (fun x hx hm => hi.godebug_pos x hx (ne_nil_of_beq hk hm)) with ⟨⟨l', dead⟩, hr⟩
    simp only [hr]; exact NoPanic.ok _
  | addUse d m =>
    have hd : d ≠ [] := hv
    simp only [applyWork, addUse, bind, Except.bind]
    rcases firstRest_total (fun u : Use => u.path == d) (·.lineId) (fun u => { u with modulePath := m }) clearedUse e.f.use
      (fun x hx hm => hi.use_pos x hx (ne_nil_of_beq hd hm)) true with ⟨⟨l', first, dead⟩, hr⟩
    simp only [hr]
    cases first <;> exact NoPanic.ok _
  | addNewUse d m => exact NoPanic.ok _
  | dropUse d =>
    have hd : d ≠ [] := hv
    simp only [applyWork, dropUse, bind, Except.bind]
    rcases clearAll_total (fun u : Use => u.path == d) (·.lineId) clearedUse e.f.use
      (fun x hx hm => hi.use_pos x hx (ne_nil_of_beq hd hm)) with ⟨⟨l', dead⟩, hr⟩
    simp only [hr]; exact NoPanic.ok _
  | setUse w r =>
    rcases setUse_total e w (permOf r) hi hv.2 with ⟨e', he'⟩
    exact ⟨.ok e', by simp only [applyWork, he'], fun err h => by cases h⟩
  | addReplace a b c d =>
    have ha : a ≠ [] := hv
    simp only [applyWork, workAddReplace, addReplaceCore, bind, Except.bind]
    rcases firstRest_total (fun r : Replace => r.old.path == a && (b.isEmpty || r.old.version == b)) (·.lineId)
      (fun r => { r with old := { path := a, version := b }, new := { path := c, version := d } }) clearedReplace e.f.replace
      (fun x hx hm => hi.replace_pos x hx (by simp only [Bool.and_eq_true] at hm; exact ne_nil_of_beq ha hm.1)) true
      with ⟨⟨l', first, dead⟩, hr⟩
    simp only [hr]
    cases first <;> exact NoPanic.ok _
  | dropReplace a b =>
    have ha : a ≠ [] := hv
    simp only [applyWork, workDropReplace, dropReplaceCore, bind, Except.bind]
    rcases clearAll_total (fun r : Replace => r.old.path == a && r.old.version == b) (·.lineId) clearedReplace e.f.replace
      (fun x hx hm => hi.replace_pos x hx (by simp only [Bool.and_eq_true] at hm; exact ne_nil_of_beq ha hm.1)) with ⟨⟨l', dead⟩, hr⟩
    simp only [hr]; exact NoPanic.ok _
  | sortBlocks => exact NoPanic.ok _
  | cleanup => exact NoPanic.ok _
  | _ => exact hw.elim

theorem runOpsWork_total (ops : List Op) (e : EWork) (res0 : List Bool) (i : Nat)
    (hv : RunValidW e ops) (hm : ∀ op ∈ ops, IsWorkOp op) (hi : InvW e) :
    ∃ e' res, runOps applyWork e ops res0 i = .done e' res ∧ InvW e' := by
  have ha := ((along_iff (P := ValidArgsWAll) (R := RunValidW) (fun _ => Iff.rfl) (fun _ _ _ => Iff.rfl) ops e).1 hv).and
    (Along.of_forall hm e)
  have := Along.total (d := id) (fun e _ => InvW e)
    (fun e op _ hi hv => ⟨applyWork_noPanic_all e op hv.1 hv.2 hi, hi, fun e' h => applyWork_inv_all e e' op hv.1 hi h⟩)
    ops e res0 i hi ha
  rwa [List.map_id] at this

def StaticArgsW (afterCleanup : Bool) : Op → Prop
  | .setUse w _ => GoodUse w ∧ afterCleanup = true
  | op => ValidArgsW op

def StaticValidW : Bool → List Op → Prop
  | _, [] => True
  | c, op :: ops => StaticArgsW c op ∧ StaticValidW (isCleanupOp op) ops

/-- the state-dependent hypothesis of SetUse -/
theorem workCleanup_use_live (e : EWork) : ∀ u ∈ (workCleanup e).f.use, liveU u = true := by
  intro u hu
  simp only [workCleanup] at hu
  exact (List.mem_filter.1 hu).2

theorem StaticValidW.runValidW (ops : List Op) : ∀ (c : Bool) (e : EWork), StaticValidW c ops →
    (c = true → ∀ u ∈ e.f.use, liveU u = true) → RunValidW e ops := by
  induction ops with
  | nil => intro c e _ _; trivial
  | cons op ops ih =>
    intro c e hs hc
    have hargs : ValidArgsWAll e op := by
      have := hs.1
      cases op <;> first
        | exact ⟨this.1, hc this.2⟩
        | exact this
    refine ⟨hargs, ?_, ?_⟩
    · intro e' ha
      refine ih (isCleanupOp op) e' hs.2 ?_
      intro hcl
      cases op <;> simp only [isCleanupOp] at hcl <;> try cases hcl
      simp only [applyWork, Option.some.injEq, Except.ok.injEq] at ha
      subst ha
      exact workCleanup_use_live e
    · intro err ha hr
      refine ih (isCleanupOp op) e hs.2 ?_
      intro hcl
      cases op <;> simp only [isCleanupOp] at hcl <;> try cases hcl
      simp [applyWork] at ha

def staticArgsWB (c : Bool) : Op → Bool
  | .setUse w _ => goodUseB w && c
  | op => validArgsWB op

theorem staticArgsWB_sound (c : Bool) (op : Op) (h : staticArgsWB c op = true) : StaticArgsW c op := by
  cases op <;> first
    | (simp only [staticArgsWB, Bool.and_eq_true] at h; exact ⟨goodUseB_sound _ h.1, h.2⟩)
    | (simp only [StaticArgsW]; exact validArgsWB_sound _ h)

def staticValidWB : Bool → List Op → Bool
  | _, [] => true
  | c, op :: ops => staticArgsWB c op && staticValidWB (isCleanupOp op) ops

theorem staticValidWB_sound (ops : List Op) : ∀ c : Bool, staticValidWB c ops = true → StaticValidW c ops := by
  induction ops with
  | nil => intro c _; trivial
  | cons op ops ih =>
    intro c h
    simp only [staticValidWB, Bool.and_eq_true] at h
    exact ⟨staticArgsWB_sound c op h.1, ih _ h.2⟩

/-- statically valid go.work sessions consist of go.work operations or operations `applyWork` rejects — the latter are
    excluded by `IsWorkOp`; conversely `ValidArgsW` says nothing about them, hence the separate hypothesis -/
theorem StaticValidW.tail {c : Bool} {op : Op} {ops : List Op} (h : StaticValidW c (op :: ops)) :
    StaticValidW (isCleanupOp op) ops := h.2

/-- Props/C15 `nilDeref_unreachable_work_from_state` -/
theorem nilDeref_unreachable_work_state (e : EWork) (ops : List Op) (hi : InvW e) (hv : StaticValidW false ops)
    (hw : ∀ op ∈ ops, IsWorkOp op) :
    ∃ e' res, runOps applyWork e ops [] 0 = .done e' res ∧ InvW e' ∧ InvW (workCleanup e') := by
  have hl := StaticValidW.runValidW ops false e hv (fun hc => by cases hc)
  rcases runOpsWork_total ops e [] 0 hl hw hi with ⟨e', res, h, hi'⟩
  exact ⟨e', res, h, hi', workCleanup_inv e' hi'⟩

theorem nilDeref_unreachable_work_inv (e : EWork) (ops : List Op) (hi : InvW e) (hv : StaticValidW false ops)
    (hw : ∀ op ∈ ops, IsWorkOp op) :
    ∃ e' res, runOps applyWork e ops [] 0 = .done e' res ∧
      (∀ (pre : List Op) (op : Op) (post : List Op), ops = pre ++ op :: post →
        ∃ e1 r1, runOps applyWork e pre [] 0 = .done e1 r1 ∧
          applyWork e1 op ≠ some (.error .nilDeref) ∧ applyWork e1 op ≠ some (.error .badStatement) ∧
          applyWork e1 op ≠ some (.error .conflictingVersions)) ∧
      InvW (workCleanup e') := by
  rcases nilDeref_unreachable_work_state e ops hi hv hw with ⟨e', res, h, _, hi'⟩
  refine ⟨e', res, h, ?_, hi'⟩
  intro pre op post hsplit
  rcases done_no_panic_any applyWork ops e [] 0 e' res h pre op post hsplit with ⟨e1, r1, h1, h2⟩
  exact ⟨e1, r1, h1, h2 _ rfl, h2 _ rfl, h2 _ rfl⟩

/-- Props/C15 `nilDeref_unreachable_work` -/
theorem nilDeref_unreachable_work_parsed (name data : Bytes) (f : WorkFile) (ops : List Op)
    (hf : parseWork name data none = .ok f) (hk : WorkKeys f) (hs : NoBlockSuffix f.syn)
    (hv : StaticValidW false ops) (hw : ∀ op ∈ ops, IsWorkOp op) :
    ∃ e' res, runOps applyWork (loadWork f) ops [] 0 = .done e' res ∧
      (∀ (pre : List Op) (op : Op) (post : List Op), ops = pre ++ op :: post →
        ∃ e1 r1, runOps applyWork (loadWork f) pre [] 0 = .done e1 r1 ∧
          applyWork e1 op ≠ some (.error .nilDeref) ∧ applyWork e1 op ≠ some (.error .badStatement) ∧
          applyWork e1 op ≠ some (.error .conflictingVersions)) ∧
      InvW (workCleanup e') :=
  nilDeref_unreachable_work_inv (loadWork f) ops (parseWork_invW hf hk hs) hv hw

end ModVerif.Modfile.Edit
