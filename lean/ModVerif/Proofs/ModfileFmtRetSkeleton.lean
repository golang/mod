/-
  Version fixer and `retract` directives: the comment SKELETON of the accepted tree.

  `fixRetract` changes the tree only through `FileSyntax.updateLine` with a function that replaces the token list of a
  line; `addStmts` rewrites tokens only (`addStmts_noTok`).  Hence the tree `f.syn` of an accepted strict parse has the
  same token-erased statements (`noTok`) and the same header as the tree `parse` returned — for ANY fixer, with or
  without retract directives.  Consequences: `EolCount f.syn` (no `f.retract = []` side condition), hence clause 3 for
  every strictly accepted go.mod (`format_preserves_directives_strict`); no header comment; and the printable shape
  `EWFStmts f.syn.stmts` reduces to conditions on the TOKENS of `f.syn` alone (`TokShape`).
-/
import ModVerif.Proofs.ModfileFmtRetFixpoints
import ModVerif.Proofs.ModfileStrictTokDir
import ModVerif.Proofs.ModfileSrcDir
namespace ModVerif.Proofs.ModfileFmtRet
open ModVerif ModVerif.Modfile ModVerif.Proofs.ModfileC20
open ModVerif.Proofs.ModfileFmtDir ModVerif.Proofs.ModfileEol ModVerif.Proofs.ModfileFmtTree

theorem updateLine_noTok (fs : FileSyntax) (id : Nat) (g : Line → Line) (hg : ∀ l, noTokL (g l) = noTokL l) :
    (fs.updateLine id g).stmts.map noTok = fs.stmts.map noTok ∧ (fs.updateLine id g).comments = fs.comments ∧
    (fs.updateLine id g).name = fs.name := by
  refine ⟨?_, rfl, rfl⟩
  simp only [FileSyntax.updateLine, List.map_map]
  apply List.map_congr_left
  intro s _
  cases s with
  | line l =>
    simp only [Function.comp]
    split <;> simp [noTok, hg]
  | lineBlock b =>
    simp only [Function.comp, noTok, updateLineIn_map noTokL id g hg]
  | commentBlock c => rfl
  | lparen p => rfl
  | rparen p => rfl

theorem frStep_noTok (path : Bytes) (fx : Fixer) (fs : FileSyntax) (r : Retract) (l : Line) (e : List RuleErr) :
    (frStep path fx fs r l e).2.1.stmts.map noTok = fs.stmts.map noTok ∧
    (frStep path fx fs r l e).2.1.comments = fs.comments ∧ (frStep path fx fs r l e).2.1.name = fs.name :=
  updateLine_noTok fs r.lineId _ (fun _ => rfl)

theorem fixRetractLoop_noTok (path : Bytes) (fx : Fixer) :
    ∀ (rs : List Retract) (fs : FileSyntax) (e : List RuleErr),
    (fixRetractLoop path fx rs fs e).2.1.stmts.map noTok = fs.stmts.map noTok ∧
    (fixRetractLoop path fx rs fs e).2.1.comments = fs.comments ∧
    (fixRetractLoop path fx rs fs e).2.1.name = fs.name := by
  intro rs
  induction rs with
  | nil => intro fs e; exact ⟨rfl, rfl, rfl⟩
  | cons r rest ih =>
    intro fs e
    rw [fixRetractLoop_cons]
    cases hfind : fs.findLine r.lineId with
    | none => exact ih fs e
    | some l =>
      simp only
      obtain ⟨a1, a2, a3⟩ := ih (frStep path fx fs r l e).2.1 (frStep path fx fs r l e).2.2
      obtain ⟨b1, b2, b3⟩ := frStep_noTok path fx fs r l e
      exact ⟨a1.trans b1, a2.trans b2, a3.trans b3⟩

theorem fixRetract_noTok (st : AddState) (fix : Option Fixer) :
    (fixRetract st fix).file.syn.stmts.map noTok = st.file.syn.stmts.map noTok ∧
    (fixRetract st fix).file.syn.comments = st.file.syn.comments ∧
    (fixRetract st fix).file.syn.name = st.file.syn.name := by
  cases fix with
  | none => exact ⟨rfl, rfl, rfl⟩
  | some fx =>
    rw [fixRetract_eq]
    cases hret : st.file.retract with
    | nil => exact ⟨rfl, rfl, rfl⟩
    | cons r0 rs0 =>
      simp only
      cases hemp : (modPath st.file).isEmpty with
      | true => exact ⟨rfl, rfl, rfl⟩
      | false =>
        simp only [Bool.false_eq_true, if_false]
        exact fixRetractLoop_noTok (modPath st.file) fx (r0 :: rs0) st.file.syn st.errsRev

theorem fsyn_skeleton (name x : Bytes) (fix : Option Fixer) (strict : Bool) (f : Modfile.File)
    (h : parseToFile name x fix strict = .ok f) :
    ∃ fs, parse name x = .ok fs ∧ f.syn.stmts.map noTok = fs.stmts.map noTok ∧ f.syn.comments = fs.comments ∧
      f.syn.name = fs.name := by
  obtain ⟨fs, st, stmts, hp, ha, -, rfl⟩ := ModfileParseTo.parseToFile_ok_iff.1 h
  obtain ⟨c1, c2, c3⟩ := fixRetract_noTok { st with file := { st.file with syn := { fs with stmts := stmts } } } fix
  refine ⟨fs, hp, ?_, c2, c3⟩
  rw [c1]
  have := addStmts_noTok fix strict fs.stmts { file := { syn := fs } }
  rwa [ha] at this

theorem eolCount_syn_fix (name x : Bytes) (fix : Option Fixer) (f : Modfile.File)
    (h : parseToFile name x fix true = .ok f) : EolCount f.syn := by
  obtain ⟨fs, hp, h1, h2, _⟩ := fsyn_skeleton name x fix true f h
  have hcfs : EolCount fs :=
    ModfileSrc.eolCount_of_single_line_tokens hp (ModfileStrictTok.strict_noMultiLineToken h)
  refine ⟨by rw [h2]; exact hcfs.header, ?_⟩
  exact count_of_noTok h1.symm hcfs.stmts

theorem fsyn_header_fix (name x : Bytes) (fix : Option Fixer) (f : Modfile.File)
    (h : parseToFile name x fix true = .ok f) : f.syn.comments.before = [] :=
  (eolCount_syn_fix name x fix f h).header

/-- ★ clause 3 for go.mod, comment-derived values included; the `format_preserves_directives_*` statements of Props/C02 without
    `fix_` in their name are instances -/
theorem format_preserves_directives_strict (name x : Bytes) (fix : Option Fixer) (f : Modfile.File)
    (h : parseToFile name x fix true = .ok f) (hwf : WellFormed f) (hfix : ModfileFmtDir.FixOK fix) (hne : FixNE fix)
    (hret : fix ≠ none → f.retract = []) :
    ∃ f', parseToFile name (format f.syn) fix true = .ok f' ∧ values f' = values f ∧
      ModfileFmtCom.comVals f' = ModfileFmtCom.comVals f :=
  ModfileFmtCom.format_preserves_directives_com name x fix f h (eolCount_syn_fix name x fix f h) hwf hfix hne hret

/-- the conditions `EWFStmts` puts on the TOKENS of lines (block headers are never rewritten) -/
def TokShape : Expr → Prop
  | .line l => l.token ≠ [] ∧ (∀ t ∈ l.token, ModfileFmtLine.TokText t) ∧ lineTailOK l.token.tail = true
  | .lineBlock b => ∀ l ∈ b.lines, l.token ≠ [] ∧ (∀ t ∈ l.token, ModfileFmtLine.TokText t) ∧
      l.token.head? ≠ some [41]
  | _ => True

theorem ewfBlkLines_of_noTokL : ∀ (ls ls0 : List Line) (allow : Bool), ls.map noTokL = ls0.map noTokL →
    EWFBlkLines allow ls0 →
    (∀ l ∈ ls, l.token ≠ [] ∧ (∀ t ∈ l.token, ModfileFmtLine.TokText t) ∧ l.token.head? ≠ some [41]) →
    EWFBlkLines allow ls := by
  intro ls
  induction ls with
  | nil => intro ls0 allow _ _ _; trivial
  | cons l ls ih =>
    intro ls0 allow hm hw ht
    cases ls0 with
    | nil => simp at hm
    | cons l0 ls0 =>
      simp only [List.map_cons, List.cons.injEq] at hm
      obtain ⟨hm1, hm2⟩ := hm
      obtain ⟨hw1, hw2⟩ := hw
      obtain ⟨t1, t2, t3⟩ := ht l (by simp)
      have hc : l.comments = l0.comments := by have h9 := congrArg Line.comments hm1; exact h9
      have hb : l.inBlock = l0.inBlock := by have h9 := congrArg Line.inBlock hm1; exact h9
      refine ⟨⟨t1, t2, t3, ?_, ?_, ?_, ?_⟩, ih ls0 true hm2 hw2 (fun l' hl' => ht l' (by simp [hl']))⟩
      · rw [hc]; exact hw1.before
      · rw [hc]; exact hw1.suffix
      · rw [hc]; exact hw1.after
      · rw [hb]; exact hw1.inBlock

theorem ewfStmt_of_noTok {s s0 : Expr} (hm : noTok s = noTok s0) (hw : EWFStmt s0) (ht : TokShape s) : EWFStmt s := by
  cases s with
  | line l =>
    cases s0 with
    | line l0 =>
      simp only [noTok, Expr.line.injEq] at hm
      have hc : l.comments = l0.comments := by have h9 := congrArg Line.comments hm; exact h9
      have hb : l.inBlock = l0.inBlock := by have h9 := congrArg Line.inBlock hm; exact h9
      have hw : EWFLine l0 := hw
      obtain ⟨t1, t2, t3⟩ := ht
      exact ⟨t1, t2, t3, by rw [hc]; exact hw.before, by rw [hc]; exact hw.suffix, by rw [hc]; exact hw.after,
        by rw [hb]; exact hw.inBlock⟩
    | _ => simp [noTok] at hm
  | lineBlock b =>
    cases s0 with
    | lineBlock b0 =>
      simp only [noTok, Expr.lineBlock.injEq] at hm
      have hw : EWFBlock b0 := hw
      have e1 : b.token = b0.token := by have h9 := congrArg LineBlock.token hm; exact h9
      have e2 : b.comments = b0.comments := by have h9 := congrArg LineBlock.comments hm; exact h9
      have e3 : b.lparen = b0.lparen := by have h9 := congrArg LineBlock.lparen hm; exact h9
      have e4 : b.rparen = b0.rparen := by have h9 := congrArg LineBlock.rparen hm; exact h9
      have e5 : b.lines.map noTokL = b0.lines.map noTokL := by have h9 := congrArg LineBlock.lines hm; exact h9
      have e6 : b.lines.isEmpty = b0.lines.isEmpty := by
        have := congrArg List.length e5
        simp only [List.length_map] at this
        cases hb : b.lines <;> cases hb0 : b0.lines <;> simp_all
      exact ⟨by rw [e1]; exact hw.ne, by rw [e1]; exact hw.tok, by rw [e2]; exact hw.before,
        by rw [e2]; exact hw.after, by rw [e3]; exact hw.lbefore, by rw [e3]; exact hw.lsuffix,
        by rw [e3]; exact hw.lafter, ewfBlkLines_of_noTokL _ _ _ e5 hw.lines ht,
        by rw [e4, e6]; exact hw.rbefore, by rw [e4, e2]; exact hw.rsuffix, by rw [e4]; exact hw.rafter⟩
    | _ => simp [noTok] at hm
  | commentBlock c =>
    cases s0 with
    | commentBlock c0 =>
      simp only [noTok, Expr.commentBlock.injEq] at hm
      subst hm
      exact hw
    | _ => simp [noTok] at hm
  | lparen p =>
    cases s0 with
    | lparen p0 => exact hw.elim
    | _ => simp [noTok] at hm
  | rparen p =>
    cases s0 with
    | rparen p0 => exact hw.elim
    | _ => simp [noTok] at hm

theorem ewfStmts_of_noTok {ss ss0 : List Expr} (hm : ss.map noTok = ss0.map noTok) (hw : EWFStmts ss0)
    (ht : ∀ s ∈ ss, TokShape s) : EWFStmts ss := by
  intro s hs
  have : noTok s ∈ ss0.map noTok := by rw [← hm]; exact List.mem_map_of_mem hs
  obtain ⟨s0, hs0, heq⟩ := List.mem_map.1 this
  exact ewfStmt_of_noTok heq.symm (hw s0 hs0) (ht s hs)

theorem fsyn_printable_shape_fix (name x : Bytes) (fix : Option Fixer) (f : Modfile.File)
    (h : parseToFile name x fix true = .ok f) (ht : ∀ s ∈ f.syn.stmts, TokShape s) :
    EWFStmts f.syn.stmts ∧ f.syn.comments.before = [] := by
  obtain ⟨fs, hp, h1, h2, _⟩ := fsyn_skeleton name x fix true f h
  have hcfs : EolCount fs :=
    ModfileSrc.eolCount_of_single_line_tokens hp (ModfileStrictTok.strict_noMultiLineToken h)
  obtain ⟨hwfs, _, _, _⟩ := parse_ewf hp (eolOK_of_count hp hcfs)
  exact ⟨ewfStmts_of_noTok h1 hwfs ht, fsyn_header_fix name x fix f h⟩

/-! ### executable checkers (for the non-vacuity examples) -/

/-- a sufficient test for "is a line token": `AutoQuote` leaves the text alone -/
def tokTextB (t : Bytes) : Bool := autoQuote t == t

theorem tokTextB_sound {t : Bytes} (h : tokTextB t = true) : ModfileFmtLine.TokText t := by
  obtain ⟨k, hk⟩ := ModfileFmtQuote.autoQuote_single_token t
  have e : autoQuote t = t := by simpa [tokTextB] using h
  rw [e] at hk
  exact ModfileFmtLine.tokOK_tokText hk

def tokShapeB : Expr → Bool
  | .line l => !l.token.isEmpty && l.token.all tokTextB && lineTailOK l.token.tail
  | .lineBlock b => b.lines.all fun l => !l.token.isEmpty && l.token.all tokTextB && !(l.token.head? == some [41])
  | _ => true

theorem tokShapeB_sound {s : Expr} (h : tokShapeB s = true) : TokShape s := by
  cases s with
  | line l =>
    simp only [tokShapeB, Bool.and_eq_true, Bool.not_eq_true', List.all_eq_true] at h
    obtain ⟨⟨h1, h2⟩, h3⟩ := h
    exact ⟨by intro e; simp [e] at h1, fun t ht => tokTextB_sound (h2 t ht), h3⟩
  | lineBlock b =>
    simp only [tokShapeB, List.all_eq_true, Bool.and_eq_true, Bool.not_eq_true'] at h
    intro l hl
    obtain ⟨⟨h1, h2⟩, h3⟩ := h l hl
    exact ⟨by intro e; simp [e] at h1, fun t ht => tokTextB_sound (h2 t ht), by intro e; simp [e] at h3⟩
  | commentBlock c => trivial
  | lparen p => trivial
  | rparen p => trivial

def nlLineB (l : Line) : Bool := l.comments.suffix.isEmpty || l.token.all fun t => !t.contains 10

theorem nlLineB_sound {l : Line} (h : nlLineB l = true) : NlLine l := by
  intro hs t ht
  simp only [nlLineB, Bool.or_eq_true, List.all_eq_true] at h
  rcases h with h | h
  · exact absurd (by simpa using h) hs
  · have := h t ht
    simpa using this

def nlOKB : Expr → Bool
  | .line l => nlLineB l
  | .lineBlock b => b.lines.all nlLineB
  | _ => true

theorem nlOKB_sound {s : Expr} (h : nlOKB s = true) : NlOK s := by
  cases s with
  | line l => exact nlLineB_sound h
  | lineBlock b =>
    intro l hl
    simp only [nlOKB, List.all_eq_true] at h
    exact nlLineB_sound (h l hl)
  | commentBlock c => trivial
  | lparen p => trivial
  | rparen p => trivial

/-- ★ clause 3 with a fixer and retract directives, the tree hypotheses on tokens only
    (`Props.C02.format_preserves_directives_fix_partial3`) -/
theorem reparse_of_parse_fix3 (name x : Bytes) (fx : Fixer) (f : Modfile.File) (st1 : AddState)
    (h : parseToFile name x (some fx) true = .ok f) (hwf : WellFormed f)
    (hfix : ModfileFmtDir.FixOK (some fx)) (hne : FixNE (some fx))
    (ht : ∀ s ∈ f.syn.stmts, TokShape s) (hnl : ∀ s ∈ f.syn.stmts, NlOK s)
    (ha : addStmts (some fx) true { file := { syn := f.syn } } f.syn.stmts = (st1, f.syn.stmts))
    (he : st1.errsRev = []) (hv : values st1.file = values f) :
    ∃ f', parseToFile name (format f.syn) (some fx) true = .ok f' ∧ values f' = values f := by
  obtain ⟨hw, hc⟩ := fsyn_printable_shape_fix name x (some fx) f h ht
  exact reparse_of_parse_fix name x fx f st1 h hwf hfix hne hw hnl hc ha he hv

end ModVerif.Proofs.ModfileFmtRet
