/-
  The typed lists and the syntax tree describe the same directives (C15, tree half).

  `entries f`: one `Ent` per live typed entry — the id of its syntax line and what that line must look like
  (`acc`: the full tokens render the entry: verb, AutoQuoted path, version, …; for a requirement also: the
  end-of-line comment carries the `// indirect` marker iff the entry is indirect).
  `Match es vs`: the entries point at pairwise different live lines of the tree, each line is as its entry says,
  and every live line of the tree belongs to an entry.  `Inv e` = tree well-formedness + `Match`.
  This file: the definitions, the generic frame lemmas (`Match.frame`, one segment of the entries changed: `clearSeg`, `updSeg`,
  `appendSeg`, `setKeyed`, `weakenSeg`, `removeMid`), and the functional form of the shared loops.
-/
import ModVerif.Proofs.EditRefineTree
namespace ModVerif.Modfile.Edit
open ModVerif ModVerif.Modfile

structure Ent where
  id : Nat
  acc : List Bytes → List Comment → Prop

/-- `isIndirect` only looks at the end-of-line comments -/
def isIndirectS (s : List Comment) : Bool := isIndirect { comments := { suffix := s } }

theorem isIndirect_eq (l : Line) : isIndirect l = isIndirectS l.comments.suffix := rfl

def tokIs (x v : Bytes) : Prop := x = v ∨ x = autoQuote v

def replaceToks (r : Replace) : List Bytes :=
  [B "replace", autoQuote r.old.path] ++ (if r.old.version.isEmpty then [] else [r.old.version]) ++
    [B "=>", autoQuote r.new.path] ++ (if r.new.version.isEmpty then [] else [r.new.version])

def entM (m : Module) : Ent := ⟨m.lineId, fun t _ => t = [B "module", autoQuote m.mod.path]⟩
def entGo (g : Go) : Ent := ⟨g.lineId, fun t _ => t = [B "go", g.version]⟩
def entTc (t : Toolchain) : Ent := ⟨t.lineId, fun tk _ => tk = [B "toolchain", t.name]⟩
def entG (g : Godebug) : Ent := ⟨g.lineId, fun t _ => t = [B "godebug", g.key ++ [61] ++ g.value]⟩
def entRq (r : Require) : Ent :=
  ⟨r.lineId, fun t s => t = [B "require", autoQuote r.mod.path, r.mod.version] ∧ isIndirectS s = r.indirect⟩
def entX (x : Exclude) : Ent := ⟨x.lineId, fun t _ => t = [B "exclude", autoQuote x.mod.path, x.mod.version]⟩
def entRp (r : Replace) : Ent := ⟨r.lineId, fun t _ => t = replaceToks r⟩
def entRt (r : Retract) : Ent :=
  ⟨r.lineId, fun t _ => (∃ x, t = [B "retract", x] ∧ tokIs x r.interval.low ∧ r.interval.low = r.interval.high) ∨
    (∃ x y, t = [B "retract", [91], x, [44], y, [93]] ∧ tokIs x r.interval.low ∧ tokIs y r.interval.high)⟩
def entT (t : Tool) : Ent := ⟨t.lineId, fun tk _ => ∃ x, tk = [B "tool", x] ∧ tokIs x t.path⟩
def entU (u : Use) : Ent := ⟨u.lineId, fun t _ => t = [B "use", autoQuote u.path]⟩

def entsOf {α : Type} (live : α → Bool) (mk : α → Ent) (l : List α) : List Ent := (l.filter live).map mk

def entries (f : File) : List Ent :=
  f.module.toList.map entM ++ (f.go.toList.map entGo ++ (f.toolchain.toList.map entTc ++
  (entsOf liveG entG f.godebug ++ (entsOf liveRq entRq f.require ++ (entsOf liveX entX f.exclude ++
  (entsOf liveRp entRp f.replace ++ (entsOf liveRt entRt f.retract ++ entsOf liveT entT f.tool)))))))

structure Match (es : List Ent) (vs : List VLine) : Prop where
  nodup : (es.map (·.id)).Nodup
  cover : ∀ en ∈ es, ∃ v ∈ vs, v.id = en.id ∧ en.acc v.toks v.suffix
  surj : ∀ v ∈ vs, ∃ en ∈ es, en.id = v.id

/-- **The tree invariant**: a well-formed tree whose live lines are exactly the renderings of the live typed entries -/
structure Inv (e : EFile) : Prop where
  tree : TreeWF e.f.syn.stmts e.next
  mtch : Match (entries e.f) (view e.f.syn.stmts)
  tinv : TInv e

theorem Match.ids_lt {es : List Ent} {stmts : List Expr} {next : Nat} (h : Match es (view stmts)) (hw : TreeWF stmts next) :
    ∀ en ∈ es, en.id < next := by
  intro en hen
  rcases h.cover en hen with ⟨v, hv, hid, _⟩
  rw [← hid]; exact hw.lt _ (view_id_mem_treeIds hv)

theorem view_unique {stmts : List Expr} (h : (treeIds stmts).Nodup) {v v' : VLine} (hv : v ∈ view stmts)
    (hv' : v' ∈ view stmts) (he : v.id = v'.id) : v = v' := by
  rcases mem_view.1 hv with ⟨p, hp, _, rfl⟩
  rcases mem_view.1 hv' with ⟨q, hq, _, rfl⟩
  rw [loc_unique h hp hq he]

theorem Match.line_entry {es : List Ent} {stmts : List Expr} {next : Nat} (h : Match es (view stmts)) (hw : TreeWF stmts next)
    (v : VLine) (hv : v ∈ view stmts) : ∃ en ∈ es, en.id = v.id ∧ en.acc v.toks v.suffix := by
  rcases h.surj v hv with ⟨en, hen, hid⟩
  rcases h.cover en hen with ⟨v', hv', hid', hacc⟩
  have : v' = v := view_unique hw.nodup hv' hv (hid'.trans hid)
  subst this
  exact ⟨en, hen, hid, hacc⟩

/-- change one segment `K` of the entries and the lines with ids in `S` -/
theorem Match.frame {A K K' C : List Ent} {vs vs' : List VLine} (S : List Nat)
    (h : Match (A ++ (K ++ C)) vs)
    (hout : ∀ v, v.id ∉ S → (v ∈ vs' ↔ v ∈ vs))
    (hS : ∀ i ∈ S, i ∈ K.map (·.id) ∨ ∀ en ∈ A ++ (K ++ C), en.id ≠ i)
    (hK'nd : (K'.map (·.id)).Nodup)
    (hK'ids : ∀ en' ∈ K', en'.id ∈ K.map (·.id) ∨ ∀ en ∈ A ++ (K ++ C), en.id ≠ en'.id)
    (hcov : ∀ en' ∈ K', ∃ v ∈ vs', v.id = en'.id ∧ en'.acc v.toks v.suffix)
    (hsurjS : ∀ v ∈ vs', v.id ∈ S → ∃ en' ∈ K', en'.id = v.id)
    (hkeep : ∀ en ∈ K, en.id ∉ S → ∃ en' ∈ K', en'.id = en.id) :
    Match (A ++ (K' ++ C)) vs' := by
  have hnd := h.nodup
  simp only [List.map_append] at hnd
  rcases List.nodup_append.1 hnd with ⟨ndA, ndKC, disA⟩
  rcases List.nodup_append.1 ndKC with ⟨ndK, ndC, disKC⟩
  -- an id of A or C is not in S
  have hAC : ∀ en, (en ∈ A ∨ en ∈ C) → en.id ∉ S := by
    intro en hen hs
    rcases hS en.id hs with hk | hfresh
    · rcases hen with ha | hc
      · exact disA en.id (List.mem_map.2 ⟨en, ha, rfl⟩) en.id (List.mem_append_left _ hk) rfl
      · exact disKC en.id hk en.id (List.mem_map.2 ⟨en, hc, rfl⟩) rfl
    · rcases hen with ha | hc
      · exact hfresh en (List.mem_append_left _ ha) rfl
      · exact hfresh en (List.mem_append_right _ (List.mem_append_right _ hc)) rfl
  refine ⟨?_, ?_, ?_⟩
  · simp only [List.map_append]
    apply List.nodup_append.2
    refine ⟨ndA, ?_, ?_⟩
    · apply List.nodup_append.2
      refine ⟨hK'nd, ndC, ?_⟩
      intro a ha b hb e
      rcases List.mem_map.1 ha with ⟨en', hen', rfl⟩
      rcases hK'ids en' hen' with hk | hfresh
      · exact disKC _ hk _ hb e
      · rcases List.mem_map.1 hb with ⟨en, hen, rfl⟩
        exact hfresh en (List.mem_append_right _ (List.mem_append_right _ hen)) e.symm
    · intro a ha b hb e
      rcases List.mem_append.1 hb with hb | hb
      · rcases List.mem_map.1 hb with ⟨en', hen', rfl⟩
        rcases hK'ids en' hen' with hk | hfresh
        · exact disA a ha _ (List.mem_append_left _ hk) e
        · rcases List.mem_map.1 ha with ⟨en, hen, rfl⟩
          exact hfresh en (List.mem_append_left _ hen) e
      · exact disA a ha b (List.mem_append_right _ hb) e
  · intro en hen
    rcases List.mem_append.1 hen with ha | hkc
    · rcases h.cover en (List.mem_append_left _ ha) with ⟨v, hv, hid, hacc⟩
      exact ⟨v, (hout v (by rw [hid]; exact hAC en (Or.inl ha))).2 hv, hid, hacc⟩
    · rcases List.mem_append.1 hkc with hk | hc
      · exact hcov en hk
      · rcases h.cover en (List.mem_append_right _ (List.mem_append_right _ hc)) with ⟨v, hv, hid, hacc⟩
        exact ⟨v, (hout v (by rw [hid]; exact hAC en (Or.inr hc))).2 hv, hid, hacc⟩
  · intro v hv
    by_cases hs : v.id ∈ S
    · rcases hsurjS v hv hs with ⟨en', hen', hid⟩
      exact ⟨en', List.mem_append_right _ (List.mem_append_left _ hen'), hid⟩
    · rcases h.surj v ((hout v hs).1 hv) with ⟨en, hen, hid⟩
      rcases List.mem_append.1 hen with ha | hkc
      · exact ⟨en, List.mem_append_left _ ha, hid⟩
      · rcases List.mem_append.1 hkc with hk | hc
        · rcases hkeep en hk (by rw [hid]; exact hs) with ⟨en', hen', hid'⟩
          exact ⟨en', List.mem_append_right _ (List.mem_append_left _ hen'), hid'.trans hid⟩
        · exact ⟨en, List.mem_append_right _ (List.mem_append_right _ hc), hid⟩

theorem Match.perm {es : List Ent} {vs vs' : List VLine} (h : Match es vs) (hp : vs'.Perm vs) : Match es vs' :=
  ⟨h.nodup, fun en hen => by rcases h.cover en hen with ⟨v, hv, r⟩; exact ⟨v, hp.symm.subset hv, r⟩,
   fun v hv => h.surj v (hp.subset hv)⟩

theorem Match.filter {es : List Ent} {vs : List VLine} (h : Match es vs) (kill : List Nat) :
    Match (es.filter fun en => !kill.contains en.id) (vs.filter fun v => !kill.contains v.id) := by
  refine ⟨List.Nodup.sublist (List.filter_sublist.map _) h.nodup, ?_, ?_⟩
  · intro en hen
    rcases List.mem_filter.1 hen with ⟨h1, h2⟩
    rcases h.cover en h1 with ⟨v, hv, hid, hacc⟩
    exact ⟨v, List.mem_filter.2 ⟨hv, by rw [hid]; exact h2⟩, hid, hacc⟩
  · intro v hv
    rcases List.mem_filter.1 hv with ⟨h1, h2⟩
    rcases h.surj v h1 with ⟨en, hen, hid⟩
    exact ⟨en, List.mem_filter.2 ⟨hen, by rw [hid]; exact h2⟩, hid⟩

section loopmem
variable {α : Type} (m : α → Bool) (id : α → Nat) (upd : α → α) (cleared : α) (live : α → Bool)

theorem firstRest_none (l : List α) : ∀ (l' : List α) (dead : List Nat),
    firstRest m id upd cleared l true = .ok (l', none, dead) → l.any m = false ∧ l' = l ∧ dead = [] := by
  intro l' dead h
  obtain ⟨_, rfl, hf, rfl⟩ := firstRest_eq_ok.1 h
  cases hm : l.find? m with
  | some x => rw [hm] at hf; cases hf
  | none =>
    have hn := any_of_find?_none hm
    exact ⟨hn, updFirst_of_none hn, by rw [deadIds_of_none hn]; rfl⟩

end loopmem

/-! ### one typed list (a segment of the entries) changed by a loop, the tree by the matching surgery -/

section seg
variable {α : Type} (m : α → Bool) (id : α → Nat) (upd : α → α) (cleared : α) (live : α → Bool) (mk : α → Ent)

theorem entsOf_ids (hmk : ∀ x, (mk x).id = id x) (l : List α) : (entsOf live mk l).map (·.id) = liveIds live id l := by
  unfold entsOf liveIds
  rw [List.map_map]
  apply List.map_congr_left
  intro x _; exact hmk x

theorem mem_entsOf {l : List α} {en : Ent} : en ∈ entsOf live mk l ↔ ∃ x ∈ l, live x = true ∧ mk x = en := by
  unfold entsOf
  simp only [List.mem_map, List.mem_filter]
  constructor
  · rintro ⟨x, ⟨h1, h2⟩, h3⟩; exact ⟨x, h1, h2, h3⟩
  · rintro ⟨x, h1, h2, h3⟩; exact ⟨x, ⟨h1, h2⟩, h3⟩

theorem live_inj {l : List α} (hnd : (liveIds live id l).Nodup) {x y : α} (hx : x ∈ l) (hy : y ∈ l)
    (hlx : live x = true) (hly : live y = true) (he : id x = id y) : x = y := by
  induction l with
  | nil => cases hx
  | cons z zs ih =>
    rw [liveIds_cons] at hnd
    by_cases hz : live z = true
    · simp only [hz, if_true, List.nodup_cons] at hnd
      rcases List.mem_cons.1 hx with rfl | hx' <;> rcases List.mem_cons.1 hy with rfl | hy'
      · rfl
      · exact absurd ((mem_liveIds live id).2 ⟨y, hy', hly, he.symm⟩) hnd.1
      · exact absurd ((mem_liveIds live id).2 ⟨x, hx', hlx, he⟩) hnd.1
      · exact ih hnd.2 hx' hy'
    · simp only [hz, Bool.false_eq_true, if_false] at hnd
      rcases List.mem_cons.1 hx with rfl | hx'
      · exact absurd hlx hz
      · rcases List.mem_cons.1 hy with rfl | hy'
        · exact absurd hly hz
        · exact ih hnd hx' hy'

theorem seg_nodup {A C : List Ent} {K : List Ent} {vs : List VLine} (h : Match (A ++ (K ++ C)) vs) :
    (K.map (·.id)).Nodup := by
  have := h.nodup
  simp only [List.map_append] at this
  exact (List.nodup_append.1 (List.nodup_append.1 this).2.1).1

variable {m id upd cleared live mk}

/-- **Drop**: the matching entries cleared on the typed list, their lines removed from the tree -/
theorem Match.clearSeg (hmk : ∀ x, (mk x).id = id x) (hml : ∀ x, m x = true → live x = true)
    {A C : List Ent} {L : List α} {fs : FileSyntax} {next : Nat} (hw : TreeWF fs.stmts next)
    (h : Match (A ++ (entsOf live mk L ++ C)) (view fs.stmts)) (hc : live cleared = false := by rfl) :
    Match (A ++ (entsOf live mk (clearM m cleared L) ++ C)) (view (markAll fs (deadIds m id L)).stmts) := by
  have hsub : (liveIds live id (clearM m cleared L)).Sublist (liveIds live id L) := liveIds_clearM L hc
  have hndK : (liveIds live id L).Nodup := by rw [← entsOf_ids id live mk hmk]; exact seg_nodup h
  rcases markAll_spec (deadIds m id L) fs next hw with ⟨_, _, hview⟩
  -- a live entry whose line id is among the dead ones is a matching entry
  have hdead : ∀ y ∈ L, live y = true → id y ∈ deadIds m id L → m y = true := by
    intro y hy hly hd
    obtain ⟨x, hx, hmx, hxid⟩ := mem_deadIds.1 hd
    rw [← live_inj id live hndK hx hy (hml x hmx) hly hxid]; exact hmx
  refine Match.frame (deadIds m id L) h ?_ ?_ ?_ ?_ ?_ ?_ ?_
  · intro v hv; rw [hview v]; exact ⟨fun a => a.1, fun a => ⟨a, hv⟩⟩
  · intro d hd
    obtain ⟨x, hx, hmx, rfl⟩ := mem_deadIds.1 hd
    exact Or.inl (by rw [entsOf_ids id live mk hmk]; exact (mem_liveIds live id).2 ⟨x, hx, hml x hmx, rfl⟩)
  · rw [entsOf_ids id live mk hmk]; exact List.Nodup.sublist hsub hndK
  · intro en' hen'
    refine Or.inl ?_
    rw [entsOf_ids id live mk hmk]
    apply hsub.subset
    rw [← entsOf_ids id live mk hmk]
    exact List.mem_map.2 ⟨en', hen', rfl⟩
  · intro en' hen'
    rcases (mem_entsOf live mk).1 hen' with ⟨y, hy, hly, rfl⟩
    rcases mem_clearM.1 hy with ⟨hyL, hmy⟩ | ⟨rfl, _⟩
    · rcases h.cover (mk y) (List.mem_append_right _ (List.mem_append_left _ ((mem_entsOf live mk).2 ⟨y, hyL, hly, rfl⟩)))
        with ⟨v, hv, hid, hacc⟩
      refine ⟨v, (hview v).2 ⟨hv, fun hd => ?_⟩, hid, hacc⟩
      rw [hdead y hyL hly (by rw [← hmk, ← hid]; exact hd)] at hmy; cases hmy
    · rw [hc] at hly; cases hly
  · intro v hv hs
    exact absurd hs ((hview v).1 hv).2
  · intro en hen hs
    rcases (mem_entsOf live mk).1 hen with ⟨x, hx, hlx, rfl⟩
    have hmx : m x = false := Bool.eq_false_iff.2 fun hm => hs (by rw [hmk]; exact mem_deadIds.2 ⟨x, hx, hm, rfl⟩)
    exact ⟨mk x, (mem_entsOf live mk).2 ⟨x, mem_clearM.2 (Or.inl ⟨hx, hmx⟩), hlx, rfl⟩, rfl⟩

/-- **Set the first, remove the others** (a match exists): on the typed list the first match is updated and the later
    ones are cleared; on the tree the first match's line gets the new tokens `verb :: t :: rest`, the later matches'
    lines are removed -/
theorem Match.updSeg (hmk : ∀ x, (mk x).id = id x) (hml : ∀ x, m x = true → live x = true)
    (hlu : ∀ x, m x = true → live (upd x) = true) (verb t : Bytes) (rest : List Bytes)
    (hacc : ∀ x, m x = true → ∀ t0 s, (mk x).acc t0 s → t0.head? = some verb ∧ (mk (upd x)).acc (verb :: t :: rest) s)
    {A C : List Ent} {L : List α} {x0 : α} {fs : FileSyntax} {next : Nat} (hw : TreeWF fs.stmts next)
    (h : Match (A ++ (entsOf live mk L ++ C)) (view fs.stmts)) (hf : L.find? m = some x0)
    (hid : ∀ x, id (upd x) = id x := by intros; rfl) (hc : live cleared = false := by rfl) :
    Match (A ++ (entsOf live mk (updFirst m upd cleared L) ++ C))
      (view (markAll (updateLine fs (id x0) (verb :: t :: rest)) ((deadIds m id L).drop 1)).stmts) := by
  obtain ⟨pre, post, rfl, hpre, hm0⟩ := split_first hf
  have hnp : ∀ x ∈ pre, m x = false := fun x hx => by simpa using List.any_eq_false.1 hpre x hx
  rw [deadIds_of_first hpre hm0, List.drop_one, List.tail_cons]
  have hsub := liveIds_updFirst (id := id) (pre ++ x0 :: post) hml hlu hid hc
  rw [updFirst_of_first hpre hm0] at hsub ⊢
  have hndK : (liveIds live id (pre ++ x0 :: post)).Nodup := by rw [← entsOf_ids id live mk hmk]; exact seg_nodup h
  have hx0 : x0 ∈ pre ++ x0 :: post := by simp
  have hpost : ∀ x ∈ post, x ∈ pre ++ x0 :: post := fun x hx => by simp [hx]
  have hl0 := hml x0 hm0
  -- the ids of the later matches are not the id of the first one
  have hne : ∀ x ∈ post, live x = true → id x ≠ id x0 := by
    intro x hx hl e
    rw [liveIds_append, liveIds_cons, if_pos hl0] at hndK
    exact (List.nodup_cons.1 (List.nodup_append.1 hndK).2.1).1 ((mem_liveIds live id).2 ⟨x, hx, hl, e⟩)
  -- the line of the first match
  rcases h.cover (mk x0) (List.mem_append_right _ (List.mem_append_left _ ((mem_entsOf live mk).2 ⟨x0, hx0, hl0, rfl⟩)))
    with ⟨v0, hv0, hv0id, hacc0⟩
  rw [hmk] at hv0id
  rcases hacc x0 hm0 _ _ hacc0 with ⟨hverb, hacc1⟩
  have hw1 : TreeWF (updateLine fs (id x0) (verb :: t :: rest)).stmts next := hw.updateTokens _ _
  rcases markAll_spec (deadIds m id post) _ next hw1 with ⟨_, _, hview⟩
  have hupd := mem_view_updateTokens fs next (id x0) verb t rest hw v0 hv0 hv0id hverb
  have hi_dead : id x0 ∉ deadIds m id post := by
    intro hd
    obtain ⟨x, hx, hmx, e⟩ := mem_deadIds.1 hd
    exact hne x hx (hml x hmx) e
  -- a live entry whose line id is among the dead ones is a later match
  have hdeadm : ∀ y ∈ pre ++ x0 :: post, live y = true → id y ∈ deadIds m id post → y ∈ post ∧ m y = true := by
    intro y hy hly hd
    obtain ⟨x, hx, hmx, hxid⟩ := mem_deadIds.1 hd
    rw [← live_inj id live hndK (hpost x hx) hy (hml x hmx) hly hxid]; exact ⟨hx, hmx⟩
  refine Match.frame (id x0 :: deadIds m id post) h ?_ ?_ ?_ ?_ ?_ ?_ ?_
  · intro v hv
    simp only [List.mem_cons, not_or] at hv
    rw [hview v, hupd v]
    constructor
    · rintro ⟨(⟨_, hvv⟩ | rfl), _⟩
      · exact hvv
      · exact absurd hv0id hv.1
    · intro hvv; exact ⟨Or.inl ⟨hv.1, hvv⟩, hv.2⟩
  · intro d hd
    refine Or.inl ?_
    rw [entsOf_ids id live mk hmk]
    rcases List.mem_cons.1 hd with rfl | hd
    · exact (mem_liveIds live id).2 ⟨x0, hx0, hl0, rfl⟩
    · obtain ⟨x, hx, hmx, rfl⟩ := mem_deadIds.1 hd
      exact (mem_liveIds live id).2 ⟨x, hpost x hx, hml x hmx, rfl⟩
  · rw [entsOf_ids id live mk hmk]; exact List.Nodup.sublist hsub hndK
  · intro en' hen'
    refine Or.inl ?_
    rw [entsOf_ids id live mk hmk]
    apply hsub.subset
    rw [← entsOf_ids id live mk hmk]
    exact List.mem_map.2 ⟨en', hen', rfl⟩
  · intro en' hen'
    rcases (mem_entsOf live mk).1 hen' with ⟨y, hy, hly, rfl⟩
    -- an untouched entry `y` of the old list
    have hold : ∀ y ∈ pre ++ x0 :: post, live y = true → m y = false →
        ∃ v ∈ view (markAll (updateLine fs (id x0) (verb :: t :: rest)) (deadIds m id post)).stmts,
          v.id = (mk y).id ∧ (mk y).acc v.toks v.suffix := by
      intro y hyL hly hmy
      rcases h.cover (mk y) (List.mem_append_right _ (List.mem_append_left _ ((mem_entsOf live mk).2 ⟨y, hyL, hly, rfl⟩)))
        with ⟨v, hv, hvid, hacc'⟩
      have hne0 : v.id ≠ id x0 := by
        intro e
        rw [live_inj id live hndK hyL hx0 hly hl0 (by rw [← hmk, ← hvid, e]), hm0] at hmy; cases hmy
      refine ⟨v, (hview v).2 ⟨(hupd v).2 (Or.inl ⟨hne0, hv⟩), fun hd => ?_⟩, hvid, hacc'⟩
      rw [(hdeadm y hyL hly (by rw [← hmk, ← hvid]; exact hd)).2] at hmy; cases hmy
    rcases List.mem_append.1 hy with hy | hy
    · exact hold y (List.mem_append_left _ hy) hly (hnp y hy)
    · rcases List.mem_cons.1 hy with rfl | hy
      · exact ⟨{ v0 with toks := verb :: t :: rest }, (hview _).2 ⟨(hupd _).2 (Or.inr rfl), by simpa [hv0id] using hi_dead⟩,
          by simp only [hmk, hid, hv0id], hacc1⟩
      · rcases mem_clearM.1 hy with ⟨h1, h2⟩ | ⟨rfl, _⟩
        · exact hold y (hpost y h1) hly h2
        · rw [hc] at hly; cases hly
  · intro v hv hs
    rcases (hview v).1 hv with ⟨hvv, hnd⟩
    rcases List.mem_cons.1 hs with hvi | hvd
    · exact ⟨mk (upd x0), (mem_entsOf live mk).2 ⟨upd x0, by simp, hlu x0 hm0, rfl⟩, by rw [hmk, hid, hvi]⟩
    · exact absurd hvd hnd
  · intro en hen hs
    simp only [List.mem_cons, not_or] at hs
    rcases (mem_entsOf live mk).1 hen with ⟨x, hx, hlx, rfl⟩
    rw [hmk] at hs
    rcases List.mem_append.1 hx with hx | hx
    · exact ⟨mk x, (mem_entsOf live mk).2 ⟨x, List.mem_append_left _ hx, hlx, rfl⟩, rfl⟩
    · rcases List.mem_cons.1 hx with rfl | hx
      · exact absurd rfl hs.1
      · have hmx : m x = false := Bool.eq_false_iff.2 fun hm => hs.2 (mem_deadIds.2 ⟨x, hx, hm, rfl⟩)
        exact ⟨mk x, (mem_entsOf live mk).2 ⟨x, by simp [mem_clearM.2 (Or.inl ⟨hx, hmx⟩)], hlx, rfl⟩, rfl⟩

variable (id live mk)

/-- **Append**: a new live entry at the end of the typed list, a new line with a fresh id in the tree -/
theorem Match.appendSeg (hmk : ∀ x, (mk x).id = id x) {A C : List Ent} {L : List α} {x : α} {vs vs' : List VLine}
    (hlx : live x = true) (toks : List Bytes) (sfx : List Comment) (hacc : (mk x).acc toks sfx)
    (h : Match (A ++ (entsOf live mk L ++ C)) vs)
    (hfresh : ∀ en ∈ A ++ (entsOf live mk L ++ C), en.id ≠ id x)
    (hvs : vs'.Perm (vs ++ [⟨id x, toks, sfx⟩])) :
    Match (A ++ (entsOf live mk (L ++ [x]) ++ C)) vs' := by
  have hK' : entsOf live mk (L ++ [x]) = entsOf live mk L ++ [mk x] := by
    simp [entsOf, List.filter_append, hlx]
  have hvfresh : ∀ v ∈ vs, v.id ≠ id x := by
    intro v hv e
    rcases h.surj v hv with ⟨en, hen, hid⟩
    exact hfresh en hen (hid.trans e)
  have hmem : ∀ v, v ∈ vs' ↔ v ∈ vs ∨ v = ⟨id x, toks, sfx⟩ := by
    intro v; rw [hvs.mem_iff]; simp
  rw [hK']
  refine Match.frame [id x] h ?_ ?_ ?_ ?_ ?_ ?_ ?_
  · intro v hv
    simp only [List.mem_singleton] at hv
    rw [hmem v]
    constructor
    · rintro (a | rfl)
      · exact a
      · exact absurd rfl hv
    · exact Or.inl
  · intro i hi
    rw [List.mem_singleton.1 hi]
    exact Or.inr hfresh
  · simp only [List.map_append, List.map_cons, List.map_nil]
    apply List.nodup_append.2
    refine ⟨seg_nodup h, List.pairwise_singleton _ _, ?_⟩
    intro a ha b hb
    rw [List.mem_singleton] at hb
    rcases List.mem_map.1 ha with ⟨en, hen, rfl⟩
    rw [hb, hmk]
    exact hfresh en (List.mem_append_right _ (List.mem_append_left _ hen))
  · intro en' hen'
    rcases List.mem_append.1 hen' with hk | hx
    · exact Or.inl (List.mem_map.2 ⟨en', hk, rfl⟩)
    · rw [List.mem_singleton.1 hx, hmk]; exact Or.inr hfresh
  · intro en' hen'
    rcases List.mem_append.1 hen' with hk | hx
    · rcases h.cover en' (List.mem_append_right _ (List.mem_append_left _ hk)) with ⟨v, hv, hid, ha⟩
      exact ⟨v, (hmem v).2 (Or.inl hv), hid, ha⟩
    · rw [List.mem_singleton.1 hx]
      exact ⟨⟨id x, toks, sfx⟩, (hmem _).2 (Or.inr rfl), (hmk x).symm, hacc⟩
  · intro v _ hs
    exact ⟨mk x, List.mem_append_right _ (List.mem_singleton.2 rfl), by rw [hmk, List.mem_singleton.1 hs]⟩
  · intro en hen _
    exact ⟨en, List.mem_append_left _ hen, rfl⟩

end seg

/-- **Set the first, remove the others; none ⇒ append** (`hR` comes first: it fixes the matcher and the update for the
    side conditions): the entries of the new typed list are shown by the new tree.  `added` is the tree with the new
    line, of which `addLine_spec` / `addLinePtr_spec` / `addNewRequire_tree` say what is asked here. -/
theorem Match.setKeyed {α : Type} {m : α → Bool} {id : α → Nat} {upd : α → α} {cleared new : α} {live : α → Bool} {mk : α → Ent}
    {A C : List Ent} {L : List α} {fs added : FileSyntax} {next : Nat} {verb t : Bytes} {rest : List Bytes} {sfx : List Comment}
    {R : FileSyntax × List α × Nat} (hR : R = setKeyedRes m id upd cleared L fs next (verb :: t :: rest) added new)
    (hmk : ∀ x, (mk x).id = id x) (hml : ∀ x, m x = true → live x = true) (hlu : ∀ x, m x = true → live (upd x) = true)
    (hacc : ∀ x, m x = true → ∀ t0 s, (mk x).acc t0 s → t0.head? = some verb ∧ (mk (upd x)).acc (verb :: t :: rest) s)
    (hnew : live new = true) (hidn : id new = next) (haccn : (mk new).acc (verb :: t :: rest) sfx)
    (hw : TreeWF fs.stmts next) (h : Match (A ++ (entsOf live mk L ++ C)) (view fs.stmts))
    (hview : (view added.stmts).Perm (view fs.stmts ++ [⟨next, verb :: t :: rest, sfx⟩]))
    (hwadd : TreeWF added.stmts (next + 1))
    (hid : ∀ x, id (upd x) = id x := by intros; rfl) (hc : live cleared = false := by rfl) :
    TreeWF R.1.stmts R.2.2 ∧ Match (A ++ (entsOf live mk R.2.1 ++ C)) (view R.1.stmts) := by
  subst hR
  unfold setKeyedRes
  cases hf : L.find? m with
  | some x0 =>
    exact ⟨(markAll_spec _ _ next (hw.updateTokens _ _)).1, Match.updSeg hmk hml hlu verb t rest hacc hw h hf hid hc⟩
  | none =>
    refine ⟨hwadd, Match.appendSeg id live mk hmk hnew _ sfx haccn h ?_ (by rw [hidn]; exact hview)⟩
    intro en hen
    rw [hidn]
    exact Nat.ne_of_lt (h.ids_lt hw en hen)

/-! ### a one-entry segment (module / go / toolchain) -/

theorem Match.updOne {A C : List Ent} {en en' : Ent} {fs : FileSyntax} {next : Nat} (hw : TreeWF fs.stmts next)
    (h : Match (A ++ ([en] ++ C)) (view fs.stmts)) (hid : en'.id = en.id) (verb t : Bytes) (rest : List Bytes)
    (hacc : ∀ t0 s, en.acc t0 s → t0.head? = some verb ∧ en'.acc (verb :: t :: rest) s) :
    Match (A ++ ([en'] ++ C)) (view (updateLine fs en.id (verb :: t :: rest)).stmts) := by
  rcases h.cover en (List.mem_append_right _ (List.mem_append_left _ (List.mem_singleton.2 rfl))) with ⟨v0, hv0, hv0id, hacc0⟩
  rcases hacc _ _ hacc0 with ⟨hverb, hacc1⟩
  have hupd := mem_view_updateTokens fs next en.id verb t rest hw v0 hv0 hv0id hverb
  refine Match.frame [en.id] h ?_ ?_ ?_ ?_ ?_ ?_ ?_
  · intro v hv
    simp only [List.mem_singleton] at hv
    rw [hupd v]
    constructor
    · rintro (⟨_, a⟩ | rfl)
      · exact a
      · exact absurd hv0id hv
    · intro a; exact Or.inl ⟨hv, a⟩
  · intro i hi; rw [List.mem_singleton.1 hi]; exact Or.inl (by simp)
  · simp
  · intro e1 he1; rw [List.mem_singleton.1 he1, hid]; exact Or.inl (by simp)
  · intro e1 he1
    rw [List.mem_singleton.1 he1]
    exact ⟨{ v0 with toks := verb :: t :: rest }, (hupd _).2 (Or.inr rfl), by simp [hv0id, hid], hacc1⟩
  · intro v _ hs
    exact ⟨en', List.mem_singleton.2 rfl, by rw [hid, List.mem_singleton.1 hs]⟩
  · intro e1 he1 hs
    rw [List.mem_singleton.1 he1] at hs
    exact absurd (List.mem_singleton.2 rfl) hs

theorem Match.dropOne {A C : List Ent} {en : Ent} {fs : FileSyntax} {next : Nat} (hw : TreeWF fs.stmts next)
    (h : Match (A ++ ([en] ++ C)) (view fs.stmts)) :
    Match (A ++ ([] ++ C)) (view (markRemoved fs en.id).stmts) := by
  have hview := mem_view_markRemoved fs en.id hw.nodup
  refine Match.frame [en.id] h ?_ ?_ ?_ ?_ ?_ ?_ ?_
  · intro v hv
    simp only [List.mem_singleton] at hv
    rw [hview v]
    exact ⟨fun a => a.1, fun a => ⟨a, hv⟩⟩
  · intro i hi; rw [List.mem_singleton.1 hi]; exact Or.inl (by simp)
  · simp
  · intro e1 he1; cases he1
  · intro e1 he1; cases he1
  · intro v hv hs
    exact absurd (List.mem_singleton.1 hs) ((hview v).1 hv).2
  · intro e1 he1 hs
    rw [List.mem_singleton.1 he1] at hs
    exact absurd (List.mem_singleton.2 rfl) hs

theorem seg_disjoint {A K C : List Ent} {vs : List VLine} (h : Match (A ++ (K ++ C)) vs) {en en' : Ent}
    (hen : en ∈ A ∨ en ∈ C) (hen' : en' ∈ K) : en.id ≠ en'.id := by
  have hnd := h.nodup
  simp only [List.map_append] at hnd
  rcases List.nodup_append.1 hnd with ⟨_, ndKC, disA⟩
  rcases List.nodup_append.1 ndKC with ⟨_, _, disKC⟩
  rcases hen with ha | hc
  · exact disA _ (List.mem_map.2 ⟨en, ha, rfl⟩) _ (List.mem_append_left _ (List.mem_map.2 ⟨en', hen', rfl⟩))
  · exact fun e => disKC _ (List.mem_map.2 ⟨en', hen', rfl⟩) _ (List.mem_map.2 ⟨en, hc, rfl⟩) e.symm

theorem Match.weakenSeg {A K K' C : List Ent} {vs : List VLine} (h : Match (A ++ (K ++ C)) vs)
    (hids : K'.map (·.id) = K.map (·.id))
    (hacc : ∀ en' ∈ K', ∃ en ∈ K, en.id = en'.id ∧ ∀ t s, en.acc t s → en'.acc t s) : Match (A ++ (K' ++ C)) vs := by
  refine Match.frame [] h (fun v _ => Iff.rfl) (fun i hi => by cases hi) (by rw [hids]; exact seg_nodup h) ?_ ?_
    (fun v _ hs => by cases hs) ?_
  · intro en' hen'
    left; rw [← hids]; exact List.mem_map.2 ⟨en', hen', rfl⟩
  · intro en' hen'
    rcases hacc en' hen' with ⟨en, hen, hid, hw⟩
    rcases h.cover en (List.mem_append_right _ (List.mem_append_left _ hen)) with ⟨v, hv, hvid, ha⟩
    exact ⟨v, hv, hvid.trans hid, hw _ _ ha⟩
  · intro en hen _
    have : en.id ∈ K'.map (·.id) := by rw [hids]; exact List.mem_map.2 ⟨en, hen, rfl⟩
    rcases List.mem_map.1 this with ⟨en', hen', hid⟩
    exact ⟨en', hen', hid⟩

/-! ### the entry in the middle of a typed list (the loops of the bulk setters) -/

theorem mid_id_ne {α : Type} (live : α → Bool) (id : α → Nat) (d t : List α) (x : α)
    (hnd : (liveIds live id (d ++ x :: t)).Nodup) (hx : live x = true) :
    ∀ y, (y ∈ d ∨ y ∈ t) → live y = true → id y ≠ id x := by
  intro y hy hly e
  rw [liveIds_append, liveIds_cons] at hnd
  simp only [hx, if_true] at hnd
  rcases List.nodup_append.1 hnd with ⟨_, h2, h3⟩
  rcases hy with hd | ht
  · exact h3 (id y) ((mem_liveIds live id).2 ⟨y, hd, hly, rfl⟩) (id x) List.mem_cons_self e
  · exact (List.nodup_cons.1 h2).1 ((mem_liveIds live id).2 ⟨y, ht, hly, e⟩)

theorem mem_entsOf_mid {α : Type} (live : α → Bool) (mk : α → Ent) (d t : List α) (x : α) (en : Ent) :
    en ∈ entsOf live mk (d ++ x :: t) ↔ (∃ y, (y ∈ d ∨ y ∈ t) ∧ live y = true ∧ mk y = en) ∨ (live x = true ∧ mk x = en) := by
  rw [mem_entsOf]
  constructor
  · rintro ⟨y, hy, hl, he⟩
    rcases List.mem_append.1 hy with h | h
    · exact Or.inl ⟨y, Or.inl h, hl, he⟩
    · rcases List.mem_cons.1 h with rfl | h
      · exact Or.inr ⟨hl, he⟩
      · exact Or.inl ⟨y, Or.inr h, hl, he⟩
  · rintro (⟨y, hy | hy, hl, he⟩ | ⟨hl, he⟩)
    · exact ⟨y, List.mem_append_left _ hy, hl, he⟩
    · exact ⟨y, List.mem_append_right _ (List.mem_cons_of_mem _ hy), hl, he⟩
    · exact ⟨x, List.mem_append_right _ List.mem_cons_self, hl, he⟩

/-- one iteration of the loop of a bulk setter (SetRequire, SetRequireSeparateIndirect, SetUse) that drops the entry -/
theorem Match.removeMid {α : Type} {live : α → Bool} {id : α → Nat} {mk : α → Ent} (hmk : ∀ x, (mk x).id = id x)
    {cleared : α} (hcl : live cleared = false) {A C : List Ent} {done rs : List α} {r : α} {syn : FileSyntax} {next : Nat}
    (hw : TreeWF syn.stmts next) (hlr : live r = true)
    (hm : Match (A ++ (entsOf live mk (done ++ r :: rs) ++ C)) (view syn.stmts)) :
    Match (A ++ (entsOf live mk (done ++ cleared :: rs) ++ C)) (view (markRemoved syn (id r)).stmts) := by
  have hndK : (liveIds live id (done ++ r :: rs)).Nodup := by
    rw [← entsOf_ids id live mk hmk]; exact seg_nodup hm
  have hne := mid_id_ne live id done rs r hndK hlr
  have hview := mem_view_markRemoved syn (id r) hw.nodup
  refine Match.frame [id r] hm ?_ ?_ ?_ ?_ ?_ ?_ ?_
  · intro v hv
    simp only [List.mem_singleton] at hv
    rw [hview v]
    exact ⟨fun a => a.1, fun a => ⟨a, hv⟩⟩
  · intro j hj
    rw [List.mem_singleton.1 hj]
    left
    rw [entsOf_ids id live mk hmk]
    exact (mem_liveIds live id).2 ⟨r, List.mem_append_right _ List.mem_cons_self, hlr, rfl⟩
  · rw [entsOf_ids id live mk hmk]
    have hsl : (liveIds live id (done ++ cleared :: rs)).Sublist (liveIds live id (done ++ r :: rs)) := by
      simp only [liveIds_append, liveIds_cons, hlr, if_true]
      refine List.Sublist.append (List.Sublist.refl _) ?_
      simp only [hcl, Bool.false_eq_true, if_false]
      exact List.Sublist.cons _ (List.Sublist.refl _)
    exact List.Nodup.sublist hsl hndK
  · intro en' hen'
    left
    rcases (mem_entsOf_mid live mk done rs _ en').1 hen' with ⟨y, hy, hly, rfl⟩ | ⟨hc, _⟩
    · exact List.mem_map.2 ⟨mk y, (mem_entsOf_mid live mk done rs r _).2 (Or.inl ⟨y, hy, hly, rfl⟩), rfl⟩
    · exact absurd hc (by rw [hcl]; decide)
  · intro en' hen'
    rcases (mem_entsOf_mid live mk done rs _ en').1 hen' with ⟨y, hy, hly, rfl⟩ | ⟨hc, _⟩
    · rcases hm.cover (mk y) (List.mem_append_right _ (List.mem_append_left _
        ((mem_entsOf_mid live mk done rs r _).2 (Or.inl ⟨y, hy, hly, rfl⟩)))) with ⟨v, hv, hvid, hacc⟩
      refine ⟨v, (hview v).2 ⟨hv, ?_⟩, hvid, hacc⟩
      rw [hvid, hmk]; exact hne y hy hly
    · exact absurd hc (by rw [hcl]; decide)
  · intro v hv hs
    exact absurd (List.mem_singleton.1 hs) ((hview v).1 hv).2
  · intro en hen hs
    simp only [List.mem_singleton] at hs
    rcases (mem_entsOf_mid live mk done rs r en).1 hen with ⟨y, hy, hly, rfl⟩ | ⟨_, rfl⟩
    · exact ⟨mk y, (mem_entsOf_mid live mk done rs _ _).2 (Or.inl ⟨y, hy, hly, rfl⟩), rfl⟩
    · exact absurd (hmk r) hs

end ModVerif.Modfile.Edit
