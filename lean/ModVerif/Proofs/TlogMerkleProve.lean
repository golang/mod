/-
  C03: the provers of the model (`proveRecord`, `proveTree`), reading a dense store that satisfies the
  C09 store invariant, produce exactly the RFC 6962 audit path / consistency proof.
  The store invariant is an explicit hypothesis (`StoreOK`, the conclusion of C09 `store_invariant`); the intervals the
  recursions pass down are `TlogStore.Aligned` (inside one aligned block: Proofs/TlogStoreTree.lean), which is what
  `subTree_read` asks for.
-/
import ModVerif.Proofs.TlogCheck
import ModVerif.Proofs.TlogStoreTree
namespace ModVerif.Tlog
open ModVerif ModVerif.TlogStore

section
variable {H : Type}

/-- the store invariant of C09 (conclusion of `Props.C09.store_invariant`), with the length as the documented
    `storedHashCount`.  `TlogStore.StoreOK` (Proofs/TlogStoreInv.lean) is the same invariant with the length written `S |D|`,
    the form its induction uses; they agree for `|D| ≤ 2^64` (`storedHashCount_eq_index`, `storedHashIndex_zero_eq`), and only
    the second clause is used here (`subTree_read`). -/
def StoreOK (leaf : Bytes → H) (node : H → H → H) (empty : H) (D : List Bytes) (st : List H) : Prop :=
  st.length = storedHashCount D.length ∧
    ∀ (p l k : Nat), (RFC6962.layout D.length)[p]? = some (l, k) →
      st[p]? = some (RFC6962.mth node empty (RFC6962.leavesOf (D.map leaf) l k))

end

section
variable {H : Type} (leaf : Bytes → H) (node : H → H → H) (empty : H) (D : List Bytes) (st : List H)

omit leaf empty D in
/-- the common tail of `ProveRecord` / `ProveTree`: no read for an empty index list, otherwise the honest read followed
    by the hash recursion `run`, which consumes exactly the hashes read -/
theorem read_and_run (idx : List Nat) (hs : List H) (run : List H → Except Err (List H × List H)) (p : List H)
    (e2 : storeReader st idx = some hs) (e3 : hs = [] → p = [])
    (e4 : ∀ rest, run (hs ++ rest) = .ok (p, rest)) :
    (do
      let indexes ← (Except.ok idx : Except Err (List Nat))
      if indexes.length == 0 then pure [] else do
        let hashes ← readChecked (storeReader st) indexes
        let (p, rest) ← run hashes
        if rest.length != 0 then .error .panic else pure p) = .ok p := by
  simp only [bind, Except.bind]
  by_cases hz : idx.length = 0
  · have : idx = [] := List.eq_nil_of_length_eq_zero hz
    subst this
    rw [e3 (Option.some.inj e2).symm]
    simp [pure, Except.pure]
  · have hz' : (idx.length == 0) = false := by simp [hz]
    have := e4 []
    rw [List.append_nil] at this
    simp only [hz', Bool.false_eq_true, ↓reduceIte, readChecked_storeReader st idx hs e2, this]
    simp [pure, Except.pure]

theorem leafProof_spec (hst : StoreOK leaf node empty D st) : ∀ f lo hi n, lo ≤ n → n < hi → hi ≤ D.length →
    Aligned lo hi → hi - lo ≤ f → hi < 2 ^ 63 →
    ∃ idx hs, leafProofIndexF f lo hi n = .ok idx ∧ storeReader st idx = some hs ∧
      (hs = [] → RFC6962.path node empty (n - lo) (slice (D.map leaf) lo hi) = []) ∧
      ∀ rest, leafProofF node f lo hi n (hs ++ rest) =
        .ok (RFC6962.path node empty (n - lo) (slice (D.map leaf) lo hi), rest) := by
  intro f
  induction f with
  | zero => intro lo hi n h1 h2 _ _ h3; omega
  | succ f ih =>
    intro lo hi n h1 h2 h3 hal hf hr
    have hlen := slice_length (D.map leaf) lo hi (by simpa using h3)
    unfold leafProofIndexF leafProofF
    have hg : (!(decide (lo ≤ n) && decide (n < hi))) = false := by simp [h1, h2]
    simp only [hg, Bool.false_eq_true, ↓reduceIte]
    by_cases hone : lo + 1 = hi
    · have hp : RFC6962.path node empty (n - lo) (slice (D.map leaf) lo hi) = [] :=
        RFC6962.path_small node empty _ _ (by rw [hlen]; omega)
      simp only [hone, beq_self_eq_true, ↓reduceIte]
      exact ⟨[], [], rfl, rfl, fun _ => hp, fun rest => by rw [hp]; rfl⟩
    · have h6 : (lo + 1 == hi) = false := by simp [hone]
      simp only [h6, Bool.false_eq_true, ↓reduceIte]
      obtain ⟨ka, kb, kc, kd⟩ := maxpow2_split_spec (hi - lo) (by omega) (by omega)
      obtain ⟨al, ar⟩ := hal.split (by rw [← ka]; exact kb) (by rw [← ka]; exact kc)
      rw [← ka] at al ar
      have hsp : RFC6962.splitPoint (slice (D.map leaf) lo hi).length = (maxpow2 (hi - lo)).1 := by rw [hlen, kd]
      -- the code reads left to right: the half containing `n` recursively, its sibling as a cover (`subTree_read`); the hashes
      -- come back in the order of the indexes, so each part consumes exactly its own
      by_cases hb : n < lo + (maxpow2 (hi - lo)).1
      · simp only [hb, ↓reduceIte]
        obtain ⟨ia, ha, a1, a2, a3, a4⟩ := ih lo (lo + (maxpow2 (hi - lo)).1) n h1 hb (by omega)
          al (by omega) (by omega)
        obtain ⟨ib, hb', b1, b2, b3, b4⟩ := subTree_read leaf node empty D st hst.2 (lo + (maxpow2 (hi - lo)).1) hi
          (by omega) h3 ar hr
        have hpath : RFC6962.path node empty (n - lo) (slice (D.map leaf) lo hi) =
            RFC6962.path node empty (n - lo) (slice (D.map leaf) lo (lo + (maxpow2 (hi - lo)).1)) ++
              [RFC6962.mth node empty (slice (D.map leaf) (lo + (maxpow2 (hi - lo)).1) hi)] := by
          rw [RFC6962.path_left node empty (n - lo) _ (by rw [hlen]; omega) (by rw [hsp]; omega), hsp,
            take_slice _ _ _ _ (by omega), drop_slice]
        rw [a1, b1]
        refine ⟨ia ++ ib, ha ++ hb', rfl, storeReader_append st _ _ _ _ a2 b2, ?_, ?_⟩
        · intro hc; exfalso; apply b3; simpa using (List.append_eq_nil_iff.mp hc).2
        · intro rest
          rw [List.append_assoc, a4, hpath]
          simp only [bind, Except.bind]
          rw [b4]
          rfl
      · simp only [hb, ↓reduceIte]
        obtain ⟨ia, ha, a1, a2, a3, a4⟩ := subTree_read leaf node empty D st hst.2 lo (lo + (maxpow2 (hi - lo)).1)
          (by omega) (by omega) al (by omega)
        obtain ⟨ib, hb', b1, b2, b3, b4⟩ := ih (lo + (maxpow2 (hi - lo)).1) hi n (by omega) h2 h3
          ar (by omega) hr
        have hpath : RFC6962.path node empty (n - lo) (slice (D.map leaf) lo hi) =
            RFC6962.path node empty (n - (lo + (maxpow2 (hi - lo)).1)) (slice (D.map leaf) (lo + (maxpow2 (hi - lo)).1) hi) ++
              [RFC6962.mth node empty (slice (D.map leaf) lo (lo + (maxpow2 (hi - lo)).1))] := by
          rw [RFC6962.path_right node empty (n - lo) _ (by rw [hlen]; omega) (by rw [hsp]; omega), hsp,
            take_slice _ _ _ _ (by omega), drop_slice]
          congr 2; omega
        rw [a1, b1]
        refine ⟨ia ++ ib, ha ++ hb', rfl, storeReader_append st _ _ _ _ a2 b2, ?_, ?_⟩
        · intro hc; exfalso; apply a3; simpa using (List.append_eq_nil_iff.mp hc).1
        · intro rest
          rw [List.append_assoc, a4, hpath]
          simp only [bind, Except.bind]
          rw [b4]
          rfl

/-- ★ `ProveRecord(t, n)` over a store satisfying the C09 invariant is the RFC 6962 audit path `PATH(n, D[0:t])` -/
theorem proveRecord_eq_PATH_of_storeOK (hst : StoreOK leaf node empty D st) (t n : Nat) (hn : n < t) (ht : t ≤ D.length)
    (hr : t < 2 ^ 63) :
    proveRecord node t n (storeReader st) = .ok (RFC6962.path node empty n ((D.map leaf).take t)) := by
  unfold proveRecord
  have hg : (decide ((t : Int) < 0) || decide ((n : Int) < 0) || decide ((n : Int) ≥ (t : Int))) = false := by
    simp; omega
  simp only [hg, Bool.false_eq_true, ↓reduceIte, Int.toNat_natCast]
  obtain ⟨idx, hs, e1, e2, e3, e4⟩ := leafProof_spec leaf node empty D st hst (t - 0) 0 t n (Nat.zero_le _) hn ht
    (aligned_zero t) (Nat.le_refl _) (by omega)
  rw [slice_zero, Nat.sub_zero] at e3 e4
  unfold leafProofIndex leafProof
  rw [e1]
  exact read_and_run st idx hs _ _ e2 e3 e4

theorem treeProof_spec (hst : StoreOK leaf node empty D st) : ∀ f lo hi n, lo < n → n ≤ hi → hi ≤ D.length →
    Aligned lo hi → hi - lo ≤ f → hi < 2 ^ 63 →
    ∃ idx hs, treeProofIndexF f lo hi n = .ok idx ∧ storeReader st idx = some hs ∧
      (hs = [] → RFC6962.subProof node empty (n - lo) (slice (D.map leaf) lo hi) (lo == 0) = []) ∧
      ∀ rest, treeProofF node f lo hi n (hs ++ rest) =
        .ok (RFC6962.subProof node empty (n - lo) (slice (D.map leaf) lo hi) (lo == 0), rest) := by
  intro f
  induction f with
  | zero => intro lo hi n h1 h2 _ _ h3; omega
  | succ f ih =>
    intro lo hi n h1 h2 h3 hal hf hr
    have hlen := slice_length (D.map leaf) lo hi (by simpa using h3)
    unfold treeProofIndexF treeProofF
    have hg : (!(decide (lo < n) && decide (n ≤ hi))) = false := by simp [h1, h2]
    simp only [hg, Bool.false_eq_true, ↓reduceIte]
    by_cases heq : n = hi
    · have hfull : RFC6962.subProof node empty (n - lo) (slice (D.map leaf) lo hi) (lo == 0) =
          if (lo == 0) = true then [] else [RFC6962.mth node empty (slice (D.map leaf) lo hi)] := by
        have : n - lo = (slice (D.map leaf) lo hi).length := by rw [hlen, heq]
        rw [this, RFC6962.subProof_full]
      simp only [heq, beq_self_eq_true, ↓reduceIte]
      rw [heq] at hfull
      by_cases hz : lo = 0
      · simp only [hz, beq_self_eq_true, ↓reduceIte] at hfull ⊢
        exact ⟨[], [], rfl, rfl, fun _ => hfull, fun rest => by rw [hfull]; rfl⟩
      · have hz' : (lo == 0) = false := by simp [hz]
        simp only [hz', Bool.false_eq_true, ↓reduceIte] at hfull ⊢
        obtain ⟨ia, ha, a1, a2, a3, a4⟩ := subTree_read leaf node empty D st hst.2 lo hi (by omega) h3 hal hr
        refine ⟨ia, ha, a1, a2, fun hc => absurd hc a3, ?_⟩
        intro rest
        rw [a4, hfull]
        rfl
    · have h6 : (n == hi) = false := by simp [heq]
      simp only [h6, Bool.false_eq_true, ↓reduceIte]
      obtain ⟨ka, kb, kc, kd⟩ := maxpow2_split_spec (hi - lo) (by omega) (by omega)
      obtain ⟨al, ar⟩ := hal.split (by rw [← ka]; exact kb) (by rw [← ka]; exact kc)
      rw [← ka] at al ar
      have hsp : RFC6962.splitPoint (slice (D.map leaf) lo hi).length = (maxpow2 (hi - lo)).1 := by rw [hlen, kd]
      by_cases hb : n ≤ lo + (maxpow2 (hi - lo)).1
      · simp only [hb, ↓reduceIte]
        obtain ⟨ia, ha, a1, a2, a3, a4⟩ := ih lo (lo + (maxpow2 (hi - lo)).1) n h1 hb (by omega)
          al (by omega) (by omega)
        obtain ⟨ib, hb', b1, b2, b3, b4⟩ := subTree_read leaf node empty D st hst.2 (lo + (maxpow2 (hi - lo)).1) hi
          (by omega) h3 ar hr
        have hproof : RFC6962.subProof node empty (n - lo) (slice (D.map leaf) lo hi) (lo == 0) =
            RFC6962.subProof node empty (n - lo) (slice (D.map leaf) lo (lo + (maxpow2 (hi - lo)).1)) (lo == 0) ++
              [RFC6962.mth node empty (slice (D.map leaf) (lo + (maxpow2 (hi - lo)).1) hi)] := by
          rw [RFC6962.subProof_left node empty (n - lo) _ _ (by rw [hlen]; omega) (by omega) (by rw [hlen]; omega)
            (by rw [hsp]; omega), hsp, take_slice _ _ _ _ (by omega), drop_slice]
        rw [a1, b1]
        refine ⟨ia ++ ib, ha ++ hb', rfl, storeReader_append st _ _ _ _ a2 b2, ?_, ?_⟩
        · intro hc; exfalso; apply b3; simpa using (List.append_eq_nil_iff.mp hc).2
        · intro rest
          rw [List.append_assoc, a4, hproof]
          simp only [bind, Except.bind]
          rw [b4]
          rfl
      · simp only [hb, ↓reduceIte]
        obtain ⟨ia, ha, a1, a2, a3, a4⟩ := subTree_read leaf node empty D st hst.2 lo (lo + (maxpow2 (hi - lo)).1)
          (by omega) (by omega) al (by omega)
        obtain ⟨ib, hb', b1, b2, b3, b4⟩ := ih (lo + (maxpow2 (hi - lo)).1) hi n (by omega) h2 h3
          ar (by omega) hr
        have e3 : (lo + (maxpow2 (hi - lo)).1 == 0) = false := by simp; omega
        rw [e3] at b3 b4
        have hproof : RFC6962.subProof node empty (n - lo) (slice (D.map leaf) lo hi) (lo == 0) =
            RFC6962.subProof node empty (n - (lo + (maxpow2 (hi - lo)).1))
                (slice (D.map leaf) (lo + (maxpow2 (hi - lo)).1) hi) false ++
              [RFC6962.mth node empty (slice (D.map leaf) lo (lo + (maxpow2 (hi - lo)).1))] := by
          rw [RFC6962.subProof_right node empty (n - lo) _ _ (by rw [hlen]; omega) (by rw [hlen]; omega)
            (by rw [hlen]; omega) (by rw [hsp]; omega), hsp, take_slice _ _ _ _ (by omega), drop_slice]
          congr 2; omega
        rw [a1, b1]
        refine ⟨ia ++ ib, ha ++ hb', rfl, storeReader_append st _ _ _ _ a2 b2, ?_, ?_⟩
        · intro hc; exfalso; apply a3; simpa using (List.append_eq_nil_iff.mp hc).1
        · intro rest
          rw [List.append_assoc, a4, hproof]
          simp only [bind, Except.bind]
          rw [b4]
          rfl

/-- ★ `ProveTree(t, n)` over a store satisfying the C09 invariant is the RFC 6962 consistency proof `PROOF(n, D[0:t])` -/
theorem proveTree_eq_PROOF_of_storeOK (hst : StoreOK leaf node empty D st) (t n : Nat) (h1 : 1 ≤ n) (hn : n ≤ t)
    (ht : t ≤ D.length) (hr : t < 2 ^ 63) :
    proveTree node t n (storeReader st) = .ok (RFC6962.proof node empty n ((D.map leaf).take t)) := by
  unfold proveTree
  have hg : (decide ((t : Int) < 1) || decide ((n : Int) < 1) || decide ((n : Int) > (t : Int))) = false := by
    simp; omega
  simp only [hg, Bool.false_eq_true, ↓reduceIte, Int.toNat_natCast]
  obtain ⟨idx, hs, e1, e2, e3, e4⟩ := treeProof_spec leaf node empty D st hst (t - 0) 0 t n (by omega) hn ht
    (aligned_zero t) (Nat.le_refl _) (by omega)
  rw [slice_zero, Nat.sub_zero] at e3 e4
  simp only [beq_self_eq_true, Nat.sub_zero] at e3 e4
  rw [RFC6962.proof_eq_subProof]
  unfold treeProofIndex treeProof
  rw [e1]
  exact read_and_run st idx hs _ _ e2 e3 e4

end
end ModVerif.Tlog
