/-
  Tie proofs for sumdb/note/note.go (Generated/FnNote.lean vs Model/Note.lean): Open.
  Embeddings of the model's verifiers / notes / errors into the types of the generated code, bytes.LastIndex,
  the state relation of the signature loop (maps `seen` / `seenUnverified` as association lists), one iteration of
  the loop against the model's `openStep`, the loop against `openLoop`, and the whole function.
-/
import ModVerif.Proofs.TieFnNoteUtf8
import ModVerif.Proofs.Note
namespace ModVerif.TieFnNote
open ModVerif ModVerif.GoRt ModVerif.GoRtNote ModVerif.GoRtTile

abbrev GV := Generated.Note.Verifier
abbrev GNote := Generated.Note.Note
abbrev GSig := Generated.Note.Signature
abbrev GNH := Generated.Note.nameHash

/-! ### embeddings (as in Drv/GenNote.lean) -/

/-- a uint32 key hash as the integer the generated code computes with -/
def hashI (h : UInt32) : Int := Int.ofNat h.toNat

def toGV (v : Note.Verifier) : GV :=
  { Name := v.name, KeyHash := Int.ofNat v.hash.toNat, Verify := v.verify }

/-- the model's `Verifiers` as the `known.Verifier(name, hash)` function of the generated code: the error values are
    `&UnknownVerifierError{name, hash}`, the ambiguity error of `VerifierList`, and an arbitrary other error -/
def knownG (k : Note.Verifiers) : Bytes → Int → (GV × Option String) := fun name hash =>
  match k name (UInt32.ofNat hash.toNat) with
  | .found v => (toGV v, none)
  | .unknown => (default, errWith "UnknownVerifierError" [errHex name, toString hash])
  | .ambiguous => (default, errWith "ambiguousVerifierError" [errHex name, toString hash])
  | .otherErr => (default, some "other")

def embedSig (s : Note.Signature) : GSig := { Name := s.name, Hash := hashI s.hash, Base64 := s.base64 }

def embedNote (n : Note.Note) : GNote :=
  { Text := n.text, Sigs := n.sigs.map embedSig, UnverifiedSigs := n.unverifiedSigs.map embedSig }

/-- the error results of Open: `(*Note)(nil)` next to every error except `*UnverifiedNoteError{n}`, which carries the note -/
def embedErr : Note.OpenErr → GNote × Option String
  | .malformed => (default, some "errMalformedNote")
  | .unverified n => (embedNote n, some "UnverifiedNoteError")
  | .invalidSignature name hash => (default, errWith "InvalidSignatureError" [errHex name, toString (hashI hash)])
  | .ambiguous name hash => (default, errWith "ambiguousVerifierError" [errHex name, toString (hashI hash)])
  | .mismatchedVerifier => (default, some "errMismatchedVerifier")
  | .other => (default, some "other")

/-- the model's result of Open as the `(note, error)` pair of the generated code -/
def embedOpen : Except Note.OpenErr Note.Note → GNote × Option String
  | .ok n => (embedNote n, none)
  | .error e => embedErr e

/-! ### the error type test `err.(*UnknownVerifierError)` -/

theorem intercalate3 (x a b : String) : "|".intercalate [x, a, b] = x ++ "|" ++ (a ++ "|" ++ b) := by
  simp [String.intercalate_cons_cons, String.intercalate_singleton, String.append_assoc]

theorem errIs_unknown (a b : String) :
    errIs "UnknownVerifierError" (errWith "UnknownVerifierError" [a, b]) = true := by
  simp only [errIs, errWith, intercalate3, Bool.or_eq_true]
  right
  rw [String.startsWith_string_iff]
  simp [String.toList_append]

theorem errIs_ambiguous (a b : String) :
    errIs "UnknownVerifierError" (errWith "ambiguousVerifierError" [a, b]) = false := by
  simp only [errIs, errWith, intercalate3, Bool.or_eq_false_iff]
  constructor
  · rw [beq_eq_false_iff_ne]
    intro h
    have := congrArg String.toList h
    simp [String.toList_append] at this
  · rw [String.startsWith_string_eq_false_iff]
    simp [String.toList_append]

theorem errIs_other : errIs "UnknownVerifierError" (some "other") = false := by decide

theorem errIs_none : errIs "UnknownVerifierError" none = false := rfl

theorem errWith_isNone (n : String) (l : List String) : (errWith n l).isNone = false := rfl

theorem ofNat_hashI (h : UInt32) : UInt32.ofNat (hashI h).toNat = h := by
  simp [hashI]

theorem hashI_inj {a b : UInt32} : hashI a = hashI b ↔ a = b := by
  constructor
  · intro h
    apply UInt32.toNat_inj.mp
    simp only [hashI, Int.ofNat_eq_natCast] at h
    omega
  · intro h; rw [h]

theorem be32_eq (a b c d : UInt8) (t : Bytes) :
    ∃ h : UInt32, Note.be32 (a :: b :: c :: d :: t) = some h ∧ beUint32 [a, b, c, d] = .ok (hashI h) := by
  refine ⟨UInt32.ofNat (a.toNat * 16777216 + b.toNat * 65536 + c.toNat * 256 + d.toNat), by simp only [Note.be32], ?_⟩
  have ha := a.toNat_lt; have hb := b.toNat_lt; have hc := c.toNat_lt; have hd := d.toNat_lt
  have hlt : a.toNat * 16777216 + b.toNat * 65536 + c.toNat * 256 + d.toNat < 4294967296 := by omega
  have e : ((a.toNat * 256 + b.toNat) * 256 + c.toNat) * 256 + d.toNat =
      a.toNat * 16777216 + b.toNat * 65536 + c.toNat * 256 + d.toNat := by omega
  simp only [beUint32, hashI, UInt32.toNat_ofNat_of_lt' hlt, pure_eq_ok, e]

/-! ### bytes.LastIndex is the model's `lastIndexOf` -/

theorem lastIndexAux_lastIndexOf (sub : Bytes) : ∀ (s : Bytes) (k : Nat) (acc : Int),
    lastIndexAux sub s k acc = match Note.lastIndexOf sub s with
      | none => acc
      | some i => ((k + i : Nat) : Int)
  | [], k, acc => by
    simp only [lastIndexAux, Note.lastIndexOf]
    cases sub.isEmpty <;> simp
  | x :: xs, k, acc => by
    rw [lastIndexAux, Note.lastIndexOf, lastIndexAux_lastIndexOf sub xs (k + 1)]
    cases Note.lastIndexOf sub xs with
    | some i => simp only; congr 1; omega
    | none =>
      simp only
      by_cases hp : isPrefixOfB sub (x :: xs) = true <;> simp [hp]

theorem lastIndex_lastIndexOf (s sub : Bytes) :
    lastIndex s sub = match Note.lastIndexOf sub s with
      | none => -1
      | some i => (i : Int) := by
  rw [lastIndex, lastIndexAux_lastIndexOf]
  cases Note.lastIndexOf sub s <;> simp

/-! ### maps that only ever hold `true` -/

theorem mapGet_mapSet_true {κ : Type} [DecidableEq κ] (m : List (κ × Bool)) (a k : κ) :
    (mapGet (mapSet m a true) k false).1 = (decide (a = k) || (mapGet m k false).1) := by
  rw [mapGet_eq, mapGet_eq, mapLookup_mapSet]
  by_cases h : a = k
  · simp [h]
  · simp only [h, if_false, decide_false, Bool.false_or]

structure Rel (text : Bytes) (st : Note.LoopState) (numSig : Int) (seenU : List (Bytes × Bool)) (n : GNote)
    (seen : List (GNH × Bool)) : Prop where
  num : numSig = (st.numSig : Int)
  su : ∀ l, (mapGet seenU l false).1 = st.seenUnverified.contains l
  sn : ∀ (name : Bytes) (h : UInt32),
    (mapGet seen ({ name := name, hash := hashI h } : GNH) false).1 = st.seen.contains (name, h)
  note : n = { Text := text, Sigs := st.sigs.map embedSig, UnverifiedSigs := st.unverifiedSigs.map embedSig }


theorem sigPrefix_eq : Generated.note_sigPrefix = Note.sigPrefix := rfl
theorem sigSplit_eq : Generated.note_sigSplit = Note.sigSplit := rfl

theorem takeWhile_line (line rest : Bytes) (h : (10 : UInt8) ∉ line) :
    (line ++ 10 :: rest).takeWhile (· != 10) = line := by
  rw [List.takeWhile_append_of_pos (by intro x hx; simp; intro e; subst e; exact h hx)]
  simp

theorem mismatch_eq (v : Note.Verifier) (name : Bytes) (h32 : UInt32) :
    (!decide ((toGV v).Name = name) || !decide ((toGV v).KeyHash = hashI h32)) = (v.name != name || v.hash != h32) := by
  have hk : ((toGV v).KeyHash = hashI h32) ↔ v.hash = h32 := hashI_inj (a := v.hash)
  have hn : ((toGV v).Name = name) ↔ v.name = name := Iff.rfl
  have e1 : decide ((toGV v).KeyHash = hashI h32) = decide (v.hash = h32) := decide_eq_decide.mpr hk
  have e2 : decide ((toGV v).Name = name) = decide (v.name = name) := decide_eq_decide.mpr hn
  rw [e1, e2]
  by_cases h1 : v.name = name <;> by_cases h2 : v.hash = h32 <;> simp [h1, h2]

theorem loop2_step (known : Note.Verifiers) (text : Bytes) (fuel : Nat) (line rest : Bytes)
    (hline : (10 : UInt8) ∉ line) (st : Note.LoopState) (numSig : Int) (seenU : List (Bytes × Bool)) (n : GNote)
    (seen : List (GNH × Bool)) (hR : Rel text st numSig seenU n seen) :
    match Note.openStep known text st line with
    | .error e =>
      Generated.Note.Open_loop2 b64decI isSpaceI (knownG known) text (fuel + 1) (line ++ 10 :: rest) numSig seenU n seen =
        .ok (Ctl.ret (embedErr e))
    | .ok st' => ∃ numSig' seenU' n' seen', Rel text st' numSig' seenU' n' seen' ∧
      Generated.Note.Open_loop2 b64decI isSpaceI (knownG known) text (fuel + 1) (line ++ 10 :: rest) numSig seenU n seen =
        Generated.Note.Open_loop2 b64decI isSpaceI (knownG known) text fuel rest numSig' seenU' n' seen' := by
  rw [Generated.Note.Open_loop2]
  have hpos : decide (len (line ++ 10 :: rest) > 0) = true := decide_eq_true (by rw [len_eq]; simp; omega)
  have hmem : (10 : UInt8) ∈ line ++ 10 :: rest := by simp
  have hib : indexByte (line ++ 10 :: rest) 10 = (line.length : Int) := by
    rw [indexByte_eq _ 10 10 (by decide), if_pos hmem, takeWhile_line line rest hline]
  have hst : sliceTo (line ++ 10 :: rest) (line.length : Int) = .ok line := by
    rw [sliceTo_natCast (by simp), List.take_left' rfl]
  have hsf : sliceFrom (line ++ 10 :: rest) ((line.length : Int) + 1) = .ok rest := by
    have : ((line.length : Int) + 1) = ((line.length + 1 : Nat) : Int) := by simp
    rw [this, sliceFrom_natCast (by simp)]; simp
  simp only [hpos, if_true, hib, hst, hsf, bind_ok, hasPrefix, sigPrefix_eq]
  unfold Note.openStep Note.parseSigLine
  by_cases hp : isPrefixOfB Note.sigPrefix line = true
  · simp only [hp, Bool.not_true, Bool.false_eq_true, if_false]
    have h4 : Note.sigPrefix.length ≤ line.length := isPrefixOfB_length_le hp
    have hsl : sliceFrom line (len Note.sigPrefix) = .ok (line.drop Note.sigPrefix.length) := by
      rw [len_eq, sliceFrom_natCast h4]
    simp only [hsl, bind_ok, chop_eq]
    generalize line.drop Note.sigPrefix.length = l2
    cases hch : Note.chop l2 [32] with
    | mk name b64 =>
    simp only
    cases hb : B64.b64dec b64 with
    | none =>
      have hbI : b64decI b64 = ([], some "illegal base64 data") := by simp [b64decI, hb]
      simp only [hbI, Option.isNone_some, Bool.not_false, Bool.true_or, if_true]
      rfl
    | some sig =>
      have hbI : b64decI b64 = (sig, none) := by simp [b64decI, hb]
      have e1 : decide (b64 = []) = b64.isEmpty := by cases b64 <;> rfl
      have e2 : decide (len sig < 5) = decide (sig.length < 5) := decide_eq_decide.mpr (by rw [len_eq]; omega)
      simp only [hbI, Option.isNone_none, Bool.not_true, Bool.false_or, isValidName_eq, e1, e2]
      by_cases hbad : (!Note.isValidName name || b64.isEmpty || decide (sig.length < 5)) = true
      · simp only [hbad, if_true]; rfl
      · simp only [hbad, Bool.false_eq_true, if_false]
        have hl5 : 5 ≤ sig.length := by
          simp only [Bool.or_eq_true, decide_eq_true_eq, not_or] at hbad; omega
        match sig, hl5 with
        | a :: b :: c :: d :: e :: t, _ =>
        obtain ⟨h32, hm, hg⟩ := be32_eq a b c d (e :: t)
        have hs4 : slice (a :: b :: c :: d :: e :: t) 0 4 = .ok [a, b, c, d] := by
          simp [slice, len_eq]; omega
        have hf4 : sliceFrom (a :: b :: c :: d :: e :: t) 4 = .ok (e :: t) :=
          sliceFrom_natCast (v := a :: b :: c :: d :: e :: t) (k := 4) (by simp)
        simp only [hs4, hm, hg, hf4, bind_ok]
        have hnum := hR.num
        subst hnum
        have e3 : decide (((st.numSig : Nat) : Int) + 1 > 100) = decide (st.numSig + 1 > Note.maxSigs) :=
          decide_eq_decide.mpr (by simp only [Note.maxSigs]; omega)
        have ecast : ((st.numSig : Nat) : Int) + 1 = ((st.numSig + 1 : Nat) : Int) := by simp
        simp only [e3]
        by_cases hn : st.numSig + 1 > Note.maxSigs
        · simp only [hn, decide_true, if_true]; rfl
        · simp only [hn, decide_false, Bool.false_eq_true, if_false]
          have hkG : knownG known name (hashI h32) = (match known name h32 with
              | .found v => (toGV v, none)
              | .unknown => (default, errWith "UnknownVerifierError" [errHex name, toString (hashI h32)])
              | .ambiguous => (default, errWith "ambiguousVerifierError" [errHex name, toString (hashI h32)])
              | .otherErr => (default, some "other")) := by
            simp only [knownG, ofNat_hashI]
          rw [hkG]
          cases hk : known name h32 with
          | unknown =>
            simp only [errIs_unknown, if_true, hR.su]
            by_cases hsu : st.seenUnverified.contains l2 = true
            · simp only [hsu, if_true]
              refine ⟨_, _, _, _, ⟨ecast, hR.su, hR.sn, hR.note⟩, rfl⟩
            · simp only [hsu, Bool.false_eq_true, if_false]
              refine ⟨_, _, _, _, ⟨ecast, ?_, hR.sn, ?_⟩, rfl⟩
              · intro l
                rw [mapGet_mapSet_true, hR.su, List.contains_cons]
                congr 1
                by_cases h : l2 = l
                · subst h; simp
                · have h' : ¬ l = l2 := fun e => h e.symm
                  simp [h, h']
              · rw [hR.note, List.map_append]; rfl
          | ambiguous =>
            simp only [errIs_ambiguous, Bool.false_eq_true, if_false, errWith_isNone, Bool.not_false, if_true]
            rfl
          | otherErr =>
            simp only [errIs_other, Bool.false_eq_true, if_false, Option.isNone_some, Bool.not_false, if_true]
            rfl
          | found v =>
            have en : (!decide ((toGV v).Name = name) || !decide ((toGV v).KeyHash = hashI h32)) =
                (v.name != name || v.hash != h32) :=
              mismatch_eq v name h32
            simp only [errIs_none, Bool.false_eq_true, if_false, Option.isNone_none, Bool.not_true, en]
            by_cases hmm : (v.name != name || v.hash != h32) = true
            · simp only [hmm, if_true]; rfl
            · simp only [hmm, Bool.false_eq_true, if_false, hR.sn]
              by_cases hsn : st.seen.contains (name, h32) = true
              · simp only [hsn, if_true]
                refine ⟨_, _, _, _, ⟨ecast, hR.su, hR.sn, hR.note⟩, rfl⟩
              · simp only [hsn, Bool.false_eq_true, if_false]
                have ev : (toGV v).Verify = v.verify := rfl
                simp only [ev, List.drop_succ_cons, List.drop_zero]
                by_cases hv : (!v.verify text (e :: t)) = true
                · simp only [hv, if_true]; rfl
                · simp only [hv, Bool.false_eq_true, if_false]
                  refine ⟨_, _, _, _, ⟨ecast, hR.su, ?_, ?_⟩, rfl⟩
                  · intro nm h
                    rw [mapGet_mapSet_true, hR.sn, List.contains_cons]
                    congr 1
                    by_cases h1 : name = nm ∧ h32 = h
                    · obtain ⟨rfl, rfl⟩ := h1; simp
                    · have h2 : ¬ ((nm, h) = (name, h32)) := by
                        intro e; cases e; exact h1 ⟨rfl, rfl⟩
                      have h3 : ¬ (({ name := name, hash := hashI h32 } : GNH) = { name := nm, hash := hashI h }) := by
                        intro e; injection e with e1 e2; exact h1 ⟨e1, hashI_inj.mp e2⟩
                      simp [h2, h3]
                  · rw [hR.note, List.map_append]; rfl
  · have hp' : isPrefixOfB Note.sigPrefix line = false := by simpa using hp
    simp only [hp', Bool.not_false, if_true]
    rfl

theorem Open_loop2_spec (known : Note.Verifiers) (text : Bytes) :
    ∀ (fuel : Nat) (sigs : Bytes) (st : Note.LoopState) (numSig : Int) (seenU : List (Bytes × Bool)) (n : GNote)
      (seen : List (GNH × Bool)),
    sigs.length < fuel → (sigs = [] ∨ sigs.getLast? = some 10) → Rel text st numSig seenU n seen →
    ∃ r, Generated.Note.Open_loop2 b64decI isSpaceI (knownG known) text fuel sigs numSig seenU n seen = .ok r ∧
      match Note.openLoop known text (Note.sigLines sigs) st with
      | .error e => r = Ctl.ret (embedErr e)
      | .ok st' => ∃ sigs' numSig' seenU' seen', r = Ctl.next (sigs', numSig', seenU',
          ({ Text := text, Sigs := st'.sigs.map embedSig, UnverifiedSigs := st'.unverifiedSigs.map embedSig } : GNote),
          seen') := by
  intro fuel
  induction fuel with
  | zero => intro sigs _ _ _ _ _ h; omega
  | succ fuel ih =>
    intro sigs st numSig seenU n seen hf hlast hR
    by_cases hs : sigs = []
    · subst hs
      rw [Generated.Note.Open_loop2]
      have hc : decide (len ([] : Bytes) > 0) = false := by decide
      simp only [hc, Bool.false_eq_true, if_false, Note.sigLines, Note.openLoop]
      exact ⟨_, rfl, [], numSig, seenU, seen, by rw [hR.note]⟩
    · have hl : sigs.getLast? = some 10 := by
        rcases hlast with h | h
        · exact absurd h hs
        · exact h
      obtain ⟨line, rest, rfl, hline, hsl, hrest⟩ := Note.sigLines_first sigs hl
      rw [hsl, Note.openLoop]
      have hstep := loop2_step known text fuel line rest hline st numSig seenU n seen hR
      cases hos : Note.openStep known text st line with
      | error e =>
        rw [hos] at hstep
        exact ⟨_, hstep, rfl⟩
      | ok st' =>
        rw [hos] at hstep
        obtain ⟨numSig', seenU', n', seen', hR', heq⟩ := hstep
        rw [heq]
        simp only
        exact ih rest st' numSig' seenU' n' seen' (by simp at hf; omega) hrest hR'

theorem lastIndexOf_bound {msg : Bytes} {split : Nat} (hs : Note.lastIndexOf Note.sigSplit msg = some split) :
    split + 2 ≤ msg.length := by
  have h := Note.lastIndexOf_spec hs
  have := congrArg List.length h
  simp only [Note.sigSplit, List.length_append, List.length_take, List.length_cons, List.length_nil,
    List.length_drop] at this
  omega

theorem Open_eq (msg : Bytes) (known : Note.Verifiers) (fuel : Nat) (hf : msg.length + 1 ≤ fuel) :
    Generated.Note.Open b64decI isSpaceI fuel msg (knownG known) = .ok (embedOpen (Note.Open msg known)) := by
  unfold Generated.Note.Open Note.Open
  have h1 := Open_loop1_spec b64decI isSpaceI msg fuel 0 (Nat.zero_le _) (by omega)
  have h1' : Generated.Note.Open_loop1 b64decI isSpaceI msg fuel 0 = .ok (loop1Out msg 0) := h1
  simp only [h1', bind_ok, loop1Out, List.drop_zero]
  cases hv : Note.validMsg msg with
  | false => rfl
  | true =>
    simp only [if_true, Bool.not_true, Bool.false_eq_true, if_false, sigSplit_eq, lastIndex_lastIndexOf]
    cases hl : Note.lastIndexOf Note.sigSplit msg with
    | none => rfl
    | some split =>
      have hb := lastIndexOf_bound hl
      have hneg : ¬ ((split : Int) < 0) := by omega
      have e1 : (split : Int) + 1 = ((split + 1 : Nat) : Int) := by simp
      have e2 : (split : Int) + 2 = ((split + 2 : Nat) : Int) := by simp
      simp only [hneg, decide_false, Bool.false_eq_true, if_false]
      rw [e1, e2, sliceTo_natCast (by omega), sliceFrom_natCast hb]
      simp only [bind_ok]
      generalize hsg : msg.drop (split + 2) = sigs
      generalize msg.take (split + 1) = text
      have hsl : sigs.length < fuel := by
        rw [← hsg]; simp; omega
      by_cases hs : sigs = []
      · subst hs; rfl
      · have hlen0 : decide (len sigs = 0) = false := by
          apply decide_eq_false
          rw [len_eq]
          have : 0 < sigs.length := List.length_pos_iff.mpr hs
          omega
        have hie : sigs.isEmpty = false := by cases sigs with
          | nil => exact absurd rfl hs
          | cons _ _ => rfl
        have ht : decide ((((sigs.getLast hs).toNat : Nat) : Int) = 10) = (sigs.getLast? == some 10) :=
          GoRtStr.last_byte_test sigs hs (n := 10) 10 rfl
        simp only [hlen0, Bool.false_eq_true, if_false, GoRtStr.idx_last sigs hs, bind_ok, pure_eq_ok, hie, Bool.false_or]
        rw [ht]
        by_cases hg : (sigs.getLast? == some 10) = true
        · have hg' : (sigs.getLast? != some 10) = false := by simp [bne, hg]
          simp only [hg, Bool.not_true, Bool.false_eq_true, if_false, hg']
          have hR : Rel text {} 0 [] ({ (default : GNote) with Text := text } : GNote) [] :=
            ⟨rfl, fun _ => rfl, fun _ _ => rfl, rfl⟩
          obtain ⟨r, hr, hm⟩ := Open_loop2_spec known text fuel sigs {} 0 [] _ [] hsl
            (Or.inr (by simpa using hg)) hR
          rw [hr]
          simp only [bind_ok]
          cases hol : Note.openLoop known text (Note.sigLines sigs) {} with
          | error e =>
            rw [hol] at hm
            subst hm
            rfl
          | ok st' =>
            rw [hol] at hm
            obtain ⟨sigs', numSig', seenU', seen', rfl⟩ := hm
            simp only
            cases hss : st'.sigs with
            | nil => rfl
            | cons a t => rfl
        · have hg0 : (sigs.getLast? == some 10) = false := by simpa using hg
          have hg' : (sigs.getLast? != some 10) = true := by simp [bne, hg0]
          simp only [hg0, Bool.not_false, if_true, hg']
          rfl

end ModVerif.TieFnNote
