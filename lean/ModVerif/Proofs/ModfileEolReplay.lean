/-
  C02, clause 3 with end-of-line comments: the statement loop on a well-shaped tree WITH end-of-line comments, for any
  directive handler (`Replays`: what the argument asks of the handler; `walkStmts_replay`).  The rewritten tree is
  well-shaped again (and its commented lines still have no newline byte in their tokens), and the loop can be replayed on
  every tree that is the normal form (`normExprE`) of the rewritten tree up to positions — in particular on the re-parse of
  its formatted text.  `File.add` is such a handler (`replays_fileAdd`; the `indirect` flags are among the values
  compared).  The directive layer rewrites tokens only (`noTok`).
-/
import ModVerif.Proofs.ModfileEolAddStep
import ModVerif.Proofs.ModfileEolLines
namespace ModVerif.Proofs.ModfileEol
open ModVerif ModVerif.Modfile ModVerif.Proofs.ModfileFmtLex ModVerif.Proofs.ModfileFmtLine
open ModVerif.Proofs.ModfileFmtFix ModVerif.Proofs.ModfileFmtTree ModVerif.Proofs.ModfileFmtParse
open ModVerif.Proofs.ModfileFmtDir ModVerif.Proofs.ModfileFmtMain

theorem isIndirect_of_norm (l l' : Line) (hs : SufOK l.comments.suffix)
    (h : l'.comments.suffix.map eraseC = l.comments.suffix.map normC) : isIndirect l' = isIndirect l := by
  rcases sufOK_cases hs with h0 | ⟨c, hc, hok, _⟩
  · rw [h0] at h
    have : l'.comments.suffix = [] := by simpa using h
    rw [isIndirect_nil l h0, isIndirect_nil l' this]
  · rw [hc] at h
    cases hl' : l'.comments.suffix with
    | nil => rw [hl'] at h; simp at h
    | cons c' r' =>
      rw [hl'] at h
      simp only [List.map_cons, List.map_nil, List.cons.injEq, List.map_eq_nil_iff] at h
      have ht : c'.token = GoStrings.trimSpace c.token := by
        have := congrArg Comment.token h.1
        simpa [eraseC, normC] using this
      unfold isIndirect
      rw [hl', hc]
      simp only
      rw [ht, fields_comment_trim hok]

theorem nlLine_rewrite {l : Line} {toks : List Bytes} (hnl : NlLine l)
    (h : ∀ t ∈ toks, t ∈ l.token ∨ (10 : UInt8) ∉ t) : NlLine { l with token := toks } := by
  intro hne t ht
  rcases h t ht with h1 | h1
  · exact hnl hne t h1
  · exact h1

theorem ewfBlkLines_nonempty_eq {ls1 ls : List Line} (h : ls1.length = ls.length) : ls1.isEmpty = ls.isEmpty := by
  cases ls1 <;> cases ls <;> simp_all

theorem map_erase_cons {ss' : List Expr} {x : Expr} {xs : List Expr}
    (h : ss'.map eraseExpr = (x :: xs).map normExprE) :
    ∃ s' ss'', ss' = s' :: ss'' ∧ eraseExpr s' = normExprE x ∧ ss''.map eraseExpr = xs.map normExprE := by
  cases ss' with
  | nil => simp at h
  | cons s' ss'' =>
    simp only [List.map_cons, List.cons.injEq] at h
    exact ⟨s', ss'', rfl, h.1, h.2⟩

theorem erase_line_inv {s' : Expr} {l : Line} (h : eraseExpr s' = normExprE (.line l)) :
    ∃ l', s' = .line l' ∧ eraseLine l' = normLine l := by
  cases s' <;> simp [eraseExpr, normExprE, normExpr] at h
  exact ⟨_, rfl, h⟩

theorem erase_block_inv {s' : Expr} {b : LineBlock} (h : eraseExpr s' = normExprE (.lineBlock b)) :
    ∃ b', s' = .lineBlock b' ∧ eraseBlock b' = normBlockE b := by
  cases s' <;> simp [eraseExpr, normExprE] at h
  exact ⟨_, rfl, h⟩

theorem erase_commentBlock_inv {s' : Expr} {c : CommentBlock} (h : eraseExpr s' = normExprE (.commentBlock c)) :
    ∃ c', s' = .commentBlock c' := by
  cases s' <;> simp [eraseExpr, normExprE, normExpr] at h
  exact ⟨_, rfl⟩

section walk
open ModVerif.Modfile.Edit
variable {σ : Type} {add : σ → Option Comments → Line → Bytes → List Bytes → σ × List Bytes} {known : Bytes → Bool}
  {bad : σ → Position → σ} {ok : σ → Prop} {sim : σ → σ → Prop}
  {LR : Option Comments → Line → Option Comments → Line → Prop} {BS : LineBlock → Prop}

/-- What the replay of a run on the re-parsed formatted text needs of a directive handler `add` with unknown-block action
    `bad`.  `ok`: no error so far and the typed file well-formed; `sim`: the states of the two runs; `LR blk l blk' l'`: the
    handler cannot tell `l'` (with the comments `blk'` of its block) from `l`, e.g. the same `isIndirect`. -/
structure Replays (add : σ → Option Comments → Line → Bytes → List Bytes → σ × List Bytes) (bad : σ → Position → σ)
    (ok : σ → Prop) (sim : σ → σ → Prop) (LR : Option Comments → Line → Option Comments → Line → Prop) : Prop where
  bad : ∀ st p, ¬ ok (bad st p)
  step : ∀ st blk l verb args st1 args1, add st blk l verb args = (st1, args1) → ok st1 → (∀ t ∈ args, TokText t) →
    ok st ∧ ArgsTok args1 ∧ args1 ≠ [] ∧ (∀ t ∈ args1, t ∈ args ∨ (10 : UInt8) ∉ t) ∧
    ∀ st' blk' l', sim st st' → LR blk l blk' l' →
      ∃ st1', add st' blk' l' verb args1 = (st1', args1) ∧ sim st1 st1'

/-- How the loop learns `LR` of a printed line and the line its formatted text parses to: from the comments of the two
    (`eraseCs c' = normCs c`: positions erased, texts trimmed) and the shape of the printed node; inside a block also
    from the comments of the block (its end-of-line comment has moved to `)`), given `BS` of the printed block. -/
structure Relates (LR : Option Comments → Line → Option Comments → Line → Prop) (BS : LineBlock → Prop) : Prop where
  top : ∀ l l', EWFLine l → eraseCs l'.comments = normCs l.comments → LR none l none l'
  blk : ∀ (b : LineBlock) (bc' : Comments) (allow : Bool) (l l' : Line), EWFBlock b → BS b → l ∈ b.lines →
    bc'.before.map eraseC = b.comments.before.map normC → bc'.suffix = [] → EWFBlkLine allow l →
    eraseCs l'.comments = normCs l.comments → LR (some b.comments) l (some bc') l'

theorem walkLines_replay (H : Replays add bad ok sim LR) (blk : Option Comments) (verb : Bytes) :
    ∀ (ls : List Line) (allow : Bool) (st st1 : σ) (ls1 : List Line),
    walkLines (fun st l toks => add st blk l verb toks) st ls = (st1, ls1) → ok st1 →
    EWFBlkLines allow ls → (∀ l ∈ ls, NlLine l) →
    EWFBlkLines allow ls1 ∧ (∀ l ∈ ls1, NlLine l) ∧ ls1.length = ls.length ∧ ok st ∧
    ∀ (st' : σ) (blk' : Option Comments) (ls' : List Line),
      (∀ l ∈ ls, ∀ allow l', EWFBlkLine allow l → eraseCs l'.comments = normCs l.comments → LR blk l blk' l') →
      sim st st' → ls'.map eraseLine = ls1.map normLine →
      ∃ st1', walkLines (fun st l toks => add st blk' l verb toks) st' ls' = (st1', ls') ∧ sim st1 st1' := by
  intro ls
  induction ls with
  | nil =>
    intro allow st st1 ls1 h hok _ _
    simp only [walkLines, Prod.mk.injEq] at h
    obtain ⟨rfl, rfl⟩ := h
    refine ⟨trivial, (by intro l hl; cases hl), rfl, hok, ?_⟩
    intro st' blk' ls' _ hsim hrel
    have : ls' = [] := by simpa using hrel
    subst this
    exact ⟨st', rfl, hsim⟩
  | cons l ls ih =>
    intro allow st st1 ls1 h hok hwfl hnl
    obtain ⟨hl, hls⟩ := hwfl
    simp only [walkLines] at h
    cases hstep : add st blk l verb l.token with
    | mk stm toks =>
      cases hrest : walkLines (fun st l toks => add st blk l verb toks) stm ls with
      | mk st2 ls2 =>
        simp only [hstep, hrest, Prod.mk.injEq] at h
        obtain ⟨rfl, rfl⟩ := h
        -- the tail first: `ok` at the end gives `ok` after this line, which is what `H.step` asks for
        obtain ⟨hwl2, hnl2, hlen2, hokm, hreplay2⟩ := ih true stm st2 ls2 hrest hok hls
          (fun l' h' => hnl l' (by simp [h']))
        obtain ⟨hok0, hargs, hane, hanl, hrep⟩ := H.step st blk l verb l.token stm toks hstep hokm hl.tok
        refine ⟨⟨?_, hwl2⟩, ?_, by simp [hlen2], hok0, ?_⟩
        · refine ⟨hane, fun t ht => (hargs t ht).1, ?_, hl.before, hl.suffix, hl.after, hl.inBlock⟩
          cases toks with
          | nil => exact absurd rfl hane
          | cons t0 tr =>
            simp only [List.head?_cons, ne_eq, Option.some.injEq]
            exact (hargs t0 (by simp)).2.2
        · intro l' hl'
          rcases List.mem_cons.1 hl' with rfl | hl'
          · exact nlLine_rewrite (hnl l (by simp)) hanl
          · exact hnl2 l' hl'
        · intro st' blk' ls' hL hsim hrel
          cases ls' with
          | nil => simp at hrel
          | cons l' ls'' =>
            simp only [List.map_cons, List.cons.injEq] at hrel
            obtain ⟨hl', hrel'⟩ := hrel
            have htok' : l'.token = toks := by
              have := congrArg Line.token hl'
              simpa [eraseLine, normLine] using this
            have hcs : eraseCs l'.comments = normCs l.comments := congrArg Line.comments hl'
            obtain ⟨stm', hadd', hsim'⟩ := hrep st' blk' l' hsim (hL l List.mem_cons_self allow l' hl hcs)
            obtain ⟨st2', hrest', hsim2⟩ := hreplay2 stm' blk' ls''
              (fun x hx => hL x (List.mem_cons_of_mem _ hx)) hsim' hrel'
            refine ⟨st2', ?_, hsim2⟩
            simp only [walkLines, htok', hadd', hrest']
            congr 2
            cases l'
            simp only at htok'
            subst htok'
            rfl

theorem walkStmts_replay (H : Replays add bad ok sim LR) (R : Relates LR BS) :
    ∀ (ss : List Expr) (st st1 : σ) (ss1 : List Expr),
    walkStmts add known bad st ss = (st1, ss1) → ok st1 → EWFStmts ss → (∀ s ∈ ss, NlOK s) →
    (∀ b, Expr.lineBlock b ∈ ss → BS b) →
    EWFStmts ss1 ∧ (∀ s ∈ ss1, NlOK s) ∧ ok st ∧
    ∀ (st' : σ) (ss' : List Expr), sim st st' → ss'.map eraseExpr = ss1.map normExprE →
      ∃ st1', walkStmts add known bad st' ss' = (st1', ss') ∧ sim st1 st1' := by
  intro ss
  induction ss with
  | nil =>
    intro st st1 ss1 h hok _ _ _
    simp only [walkStmts, Prod.mk.injEq] at h
    obtain ⟨rfl, rfl⟩ := h
    refine ⟨fun s hs => by simp at hs, fun s hs => by simp at hs, hok, ?_⟩
    intro st' ss' hsim hrel
    have : ss' = [] := by simpa using hrel
    subst this
    exact ⟨st', rfl, hsim⟩
  | cons x xs ih =>
    intro st st1 ss1 h hok hwfs hnls hbs
    have hbxs : ∀ b, Expr.lineBlock b ∈ xs → BS b := fun b hb => hbs b (List.mem_cons_of_mem _ hb)
    have hx : EWFStmt x := hwfs x (by simp)
    have hxs : EWFStmts xs := fun s hs => hwfs s (by simp [hs])
    have hnx : NlOK x := hnls x (by simp)
    have hnxs : ∀ s ∈ xs, NlOK s := fun s hs => hnls s (by simp [hs])
    cases x with
    | commentBlock c =>
      simp only [walkStmts, walkStmt] at h
      cases hrest : walkStmts add known bad st xs with
      | mk st2 xs2 =>
        simp only [hrest, Prod.mk.injEq] at h
        obtain ⟨rfl, rfl⟩ := h
        obtain ⟨hw2, hn2, hok0, hrep⟩ := ih st st2 xs2 hrest hok hxs hnxs hbxs
        refine ⟨?_, ?_, hok0, ?_⟩
        · intro s hs
          rcases List.mem_cons.1 hs with rfl | hs
          · exact hx
          · exact hw2 s hs
        · intro s hs
          rcases List.mem_cons.1 hs with rfl | hs
          · trivial
          · exact hn2 s hs
        · intro st' ss' hsim hrel
          obtain ⟨s', ss'', rfl, hs', hrel'⟩ := map_erase_cons hrel
          obtain ⟨c', rfl⟩ := erase_commentBlock_inv hs'
          obtain ⟨st2', hr', hsim'⟩ := hrep st' ss'' hsim hrel'
          exact ⟨st2', by simp only [walkStmts, walkStmt, hr'], hsim'⟩
    | line l =>
      have hl : EWFLine l := hx
      have hnl : NlLine l := hnx
      obtain ⟨verb, args, htok⟩ : ∃ verb args, l.token = verb :: args := by
        cases ht : l.token with
        | nil => exact absurd ht hl.ne
        | cons a b => exact ⟨a, b, rfl⟩
      simp only [walkStmts, walkStmt, htok] at h
      cases hstep : add st none l verb args with
      | mk stm args1 =>
        cases hrest : walkStmts add known bad stm xs with
        | mk st2 xs2 =>
          simp only [hstep, hrest, Prod.mk.injEq] at h
          obtain ⟨rfl, rfl⟩ := h
          obtain ⟨hw2, hn2, hokm, hrep⟩ := ih stm st2 xs2 hrest hok hxs hnxs hbxs
          have horig : ∀ t ∈ args, TokText t := fun t ht => hl.tok t (by rw [htok]; simp [ht])
          obtain ⟨hok0, hargs, _, hanl, hrp⟩ := H.step st none l verb args stm args1 hstep hokm horig
          refine ⟨?_, ?_, hok0, ?_⟩
          · intro s hs
            rcases List.mem_cons.1 hs with rfl | hs
            · show EWFLine _
              refine ⟨by simp, ?_, ?_, hl.before, hl.suffix, hl.after, hl.inBlock⟩
              · intro t ht
                simp only [List.mem_cons] at ht
                rcases ht with rfl | ht
                · exact hl.tok t (by rw [htok]; simp)
                · exact (hargs t ht).1
              · simp only [List.tail_cons]
                exact lineTailOK_no_lparen args1 (fun t ht => (hargs t ht).2.1)
            · exact hw2 s hs
          · intro s hs
            rcases List.mem_cons.1 hs with rfl | hs
            · show NlLine _
              apply nlLine_rewrite hnl
              intro t ht
              simp only [List.mem_cons] at ht
              rcases ht with rfl | ht
              · exact Or.inl (by rw [htok]; simp)
              · rcases hanl t ht with h1 | h1
                · exact Or.inl (by rw [htok]; simp [h1])
                · exact Or.inr h1
            · exact hn2 s hs
          · intro st' ss' hsim hrel
            obtain ⟨s', ss'', rfl, hs', hrel'⟩ := map_erase_cons hrel
            obtain ⟨l', rfl, hl'⟩ := erase_line_inv hs'
            have htok' : l'.token = verb :: args1 := by
              have := congrArg Line.token hl'
              simpa [eraseLine, normLine] using this
            have hcs : eraseCs l'.comments = normCs l.comments := congrArg Line.comments hl'
            obtain ⟨stm', hadd', hsim'⟩ := hrp st' none l' hsim (R.top l l' hl hcs)
            obtain ⟨st2', hr', hsim2⟩ := hrep stm' ss'' hsim' hrel'
            refine ⟨st2', ?_, hsim2⟩
            simp only [walkStmts, walkStmt, htok', hadd', hr']
            congr 3
            cases l'
            simp only at htok'
            subst htok'
            rfl
    | lineBlock b =>
      have hb : EWFBlock b := hx
      have hnb : ∀ l ∈ b.lines, NlLine l := hnx
      simp only [walkStmts, walkStmt] at h
      -- an `ok` run accepts the block only if its header is one known verb
      have hbad : ∀ (st2 : σ) (xs2 : List Expr),
          walkStmts add known bad (bad st b.start) xs = (st2, xs2) → ok st2 → False := by
        intro st2 xs2 hr h2
        exact H.bad _ _ (ih _ st2 xs2 hr h2 hxs hnxs hbxs).2.2.1
      cases hbt : b.token with
      | nil => exact absurd hbt hb.ne
      | cons verb rest =>
        cases rest with
        | cons r0 rs =>
          exfalso
          simp only [hbt] at h
          cases hrest : walkStmts add known bad (bad st b.start) xs with
          | mk st2 xs2 =>
            simp only [hrest, Prod.mk.injEq] at h
            obtain ⟨rfl, _⟩ := h
            exact hbad _ _ hrest hok
        | nil =>
          simp only [hbt] at h
          by_cases hvb : known verb = true
          · simp only [hvb, if_true] at h
            cases hlines : walkLines (fun st l toks => add st (some b.comments) l verb toks) st b.lines with
            | mk stm ls1 =>
              cases hrest : walkStmts add known bad stm xs with
              | mk st2 xs2 =>
                simp only [hlines, hrest, Prod.mk.injEq] at h
                obtain ⟨rfl, rfl⟩ := h
                obtain ⟨hw2, hn2, hokm, hrep⟩ := ih stm st2 xs2 hrest hok hxs hnxs hbxs
                obtain ⟨hwl1, hnl1, hlen1, hok0, hrepl⟩ := walkLines_replay H (some b.comments) verb b.lines
                  false st stm ls1 hlines hokm hb.lines hnb
                have hemp : ls1.isEmpty = b.lines.isEmpty := ewfBlkLines_nonempty_eq hlen1
                refine ⟨?_, ?_, hok0, ?_⟩
                · intro s hs
                  rcases List.mem_cons.1 hs with rfl | hs
                  · show EWFBlock _
                    exact ⟨by simp, fun t ht => hb.tok t (by rw [hbt]; simpa using ht), hb.before,
                      hb.after, hb.lbefore, hb.lsuffix, hb.lafter, hwl1, by simpa [hemp] using hb.rbefore, hb.rsuffix,
                      hb.rafter⟩
                  · exact hw2 s hs
                · intro s hs
                  rcases List.mem_cons.1 hs with rfl | hs
                  · exact hnl1
                  · exact hn2 s hs
                · intro st' ss' hsim hrel
                  obtain ⟨s', ss'', rfl, hs', hrel'⟩ := map_erase_cons hrel
                  obtain ⟨b', rfl, hb'⟩ := erase_block_inv hs'
                  have htok' : b'.token = [verb] := by
                    have := congrArg LineBlock.token hb'
                    simpa [eraseBlock, normBlockE, hbt] using this
                  have hlines' : b'.lines.map eraseLine = ls1.map normLine := by
                    have := congrArg LineBlock.lines hb'
                    simpa [eraseBlock, normBlockE] using this
                  have hbef : b'.comments.before.map eraseC = b.comments.before.map normC := by
                    have := congrArg (fun x : LineBlock => x.comments.before) hb'
                    simpa [eraseBlock, normBlockE, eraseCs] using this
                  have hsuf : b'.comments.suffix = [] := by
                    have := congrArg (fun x : LineBlock => x.comments.suffix) hb'
                    simpa [eraseBlock, normBlockE, eraseCs] using this
                  obtain ⟨stm', hadd', hsim'⟩ := hrepl st' (some b'.comments) b'.lines
                    (fun l hl allow l' hwl hcs =>
                      R.blk b b'.comments allow l l' hb (hbs b List.mem_cons_self) hl hbef hsuf hwl hcs)
                    hsim hlines'
                  obtain ⟨st2', hr', hsim2⟩ := hrep stm' ss'' hsim' hrel'
                  refine ⟨st2', ?_, hsim2⟩
                  simp only [walkStmts, walkStmt, htok', hvb, if_true, hadd', hr']
                  congr 3
                  cases b'
                  simp only at htok'
                  subst htok'
                  rfl
          · exfalso
            simp only [hvb, Bool.false_eq_true, if_false] at h
            cases hrest : walkStmts add known bad (bad st b.start) xs with
            | mk st2 xs2 =>
              simp only [hrest, Prod.mk.injEq] at h
              obtain ⟨rfl, _⟩ := h
              exact hbad _ _ hrest hok
    | lparen _ => exact absurd hx id
    | rparen _ => exact absurd hx id

end walk

def IndRel : Option Comments → Line → Option Comments → Line → Prop := fun _ l _ l' => isIndirect l' = isIndirect l

theorem isIndirect_of_comments {l l' : Line} (hs : SufOK l.comments.suffix)
    (h : eraseCs l'.comments = normCs l.comments) : isIndirect l' = isIndirect l :=
  isIndirect_of_norm l l' hs (by have := congrArg Comments.suffix h; simpa [eraseCs, normCs] using this)

theorem relates_ind : Relates IndRel (fun _ => True) where
  top _ _ hl hcs := isIndirect_of_comments hl.suffix hcs
  blk _ _ _ _ _ _ _ _ _ _ hwl hcs := isIndirect_of_comments hwl.suffix hcs

theorem replays_fileAdd {fix : Option Fixer} (hfix : FixOK fix) (hne : FixNE fix) :
    Replays (fun st blk l verb args => File.add st blk l verb args fix true)
      (fun st p => st.err p .unknownBlock) (fun st => st.errsRev = [] ∧ WellFormed st.file) Sim IndRel where
  bad st p h := err_ne_nil st p _ h.1
  step st blk l verb args st1 args1 h hok horig := by
    obtain ⟨hs, hwf0, hargs, hane, hanl⟩ := add_stepE st st1 blk l verb args args1 fix h hok.1 hfix hne hok.2 horig
    exact ⟨⟨hs.errs, hwf0⟩, hargs, hane, hanl, hs.replay⟩

theorem addStmts_replayE (fix : Option Fixer) (hfix : FixOK fix) (hne : FixNE fix) :
    ∀ (ss : List Expr) (st st1 : AddState) (ss1 : List Expr),
    addStmts fix true st ss = (st1, ss1) → st1.errsRev = [] → WellFormed st1.file → EWFStmts ss →
    (∀ s ∈ ss, NlOK s) →
    EWFStmts ss1 ∧ (∀ s ∈ ss1, NlOK s) ∧ WellFormed st.file ∧ st.errsRev = [] ∧
    ∀ (st' : AddState) (ss' : List Expr), Sim st st' → ss'.map eraseExpr = ss1.map normExprE →
      ∃ st1', addStmts fix true st' ss' = (st1', ss') ∧ Sim st1 st1' := by
  intro ss st st1 ss1 h he hw hwf hnl
  rw [Edit.addStmts_eq_walk] at h
  obtain ⟨h1, h2, h3, h4⟩ := walkStmts_replay (replays_fileAdd hfix hne) relates_ind ss st st1 ss1 h ⟨he, hw⟩ hwf hnl
    (fun _ _ => trivial)
  refine ⟨h1, h2, h3.2, h3.1, fun st' ss' hs hr => ?_⟩
  rw [Edit.addStmts_eq_walk]
  exact h4 st' ss' hs hr

open ModVerif ModVerif.Modfile ModVerif.Proofs.ModfileFmtLex ModVerif.Proofs.ModfileFmtLine
open ModVerif.Proofs.ModfileFmtFix ModVerif.Proofs.ModfileFmtTree ModVerif.Proofs.ModfileFmtParse
open ModVerif.Proofs.ModfileFmtDir ModVerif.Proofs.ModfileFmtMain
open ModVerif.Proofs.ModfileWalk

theorem addStmts_noTok (fix : Option Fixer) (strict : Bool) (ss : List Expr) (st : AddState) :
    (addStmts fix strict st ss).2.map noTok = ss.map noTok := by
  rw [Edit.addStmts_eq_walk]; exact ModfileWalk.walkStmts_noTok _ _ _ ss st

theorem countStmt_noTok (s : Expr) : CountStmt (noTok s) ↔ CountStmt s := by
  cases s with
  | line l => exact Iff.rfl
  | lineBlock b =>
    simp only [noTok, CountStmt, List.mem_map]
    constructor
    · intro ⟨h1, h2, h3⟩
      exact ⟨h1, fun l hl => h2 (noTokL l) ⟨l, hl, rfl⟩, h3⟩
    · intro ⟨h1, h2, h3⟩
      refine ⟨h1, ?_, h3⟩
      rintro l ⟨l0, hl0, rfl⟩
      exact h2 l0 hl0
  | commentBlock x => exact Iff.rfl
  | lparen x => exact Iff.rfl
  | rparen x => exact Iff.rfl

theorem count_of_noTok {ss ss1 : List Expr} (h : ss1.map noTok = ss.map noTok) (hc : ∀ s ∈ ss1, CountStmt s) :
    ∀ s ∈ ss, CountStmt s := by
  intro s hs
  have : noTok s ∈ ss1.map noTok := by rw [h]; exact List.mem_map_of_mem hs
  obtain ⟨s1, hs1, heq⟩ := List.mem_map.1 this
  rw [← countStmt_noTok, ← heq, countStmt_noTok]
  exact hc s1 hs1

/-- ★ the middle of clause 3, for any handler -/
theorem walkStmts_reparse {σ : Type} {add : σ → Option Comments → Line → Bytes → List Bytes → σ × List Bytes}
    {known : Bytes → Bool} {bad : σ → Position → σ} {ok : σ → Prop} {sim : σ → σ → Prop}
    {LR : Option Comments → Line → Option Comments → Line → Prop} {BS : LineBlock → Prop}
    (H : Replays add bad ok sim LR) (R : Relates LR BS)
    {name x : Bytes} {fs : FileSyntax} (hp : parse name x = .ok fs) {st st1 : σ} {stmts : List Expr}
    (hrun : Edit.walkStmts add known bad st fs.stmts = (st1, stmts)) (hok : ok st1)
    (hc : EolCount { fs with stmts := stmts }) (hbs : ∀ b, Expr.lineBlock b ∈ fs.stmts → BS b) :
    EWFStmts stmts ∧ stmts.map noTok = fs.stmts.map noTok ∧
    ∃ t', parse name (format { fs with stmts := stmts }) = .ok t' ∧ t'.stmts.map eraseExpr = stmts.map normExprE ∧
      ∀ st', sim st st' → ∃ st1', Edit.walkStmts add known bad st' t'.stmts = (st1', t'.stmts) ∧ sim st1 st1' := by
  have hnt : stmts.map noTok = fs.stmts.map noTok := by
    have := ModfileWalk.walkStmts_noTok add known bad fs.stmts st
    rwa [hrun] at this
  -- the counting condition holds for the tree of the first parse as well (same comments)
  have hcfs : EolCount fs := ⟨hc.header, count_of_noTok (ss1 := stmts) hnt hc.stmts⟩
  obtain ⟨hwfs, hnls, hcm, -⟩ := parse_ewf hp (eolOK_of_count hp hcfs)
  obtain ⟨hw1, hn1, -, hrep⟩ := walkStmts_replay H R fs.stmts st st1 stmts hrun hok hwfs hnls hbs
  obtain ⟨t', hp', het'⟩ := reparse_ewf name { fs with stmts := stmts } hw1 hn1 (by simp [hcm])
  have hrel : t'.stmts.map eraseExpr = stmts.map normExprE := by
    have := congrArg FileSyntax.stmts het'
    simpa [eraseFile] using this
  exact ⟨hw1, hnt, t', hp', hrel, fun st' hs => hrep st' t'.stmts hs hrel⟩

end ModVerif.Proofs.ModfileEol
