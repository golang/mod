/-
  C20: the line identities the parser assigns are pairwise distinct (first line parsed = 0, in source
  order), and comment assignment changes nothing but comments.
-/
import ModVerif.Proofs.ModfileC20Stmts
import ModVerif.Proofs.ModfileAssign
import ModVerif.Proofs.ModfileRun
namespace ModVerif.Proofs.ModfileC20
open ModVerif ModVerif.Modfile ModVerif.Proofs.ModfileLex ModVerif.Proofs.ModfileRun

def idsOf (xs : List Expr) : List Nat := (linesOf xs).map (·.id)

theorem readToken_nextId {i i' : Input} (h : readToken i = .ok i') : i'.nextId = i.nextId := by
  rcases readToken_spec i with ⟨i'', h', _, _, hn⟩ | ⟨e, h', _⟩
  · rw [h'] at h; cases h; exact hn
  · rw [h'] at h; cases h

theorem lex_nextId {i i' : Input} {tok : Token} (h : lex i = .ok (tok, i')) : i'.nextId = i.nextId := by
  unfold lex at h
  cases hr : readToken i with
  | error e => simp [hr, bind, Except.bind] at h
  | ok i1 =>
    simp only [hr, bind, Except.bind, Except.ok.injEq, Prod.mk.injEq] at h
    rw [← h.2]; exact readToken_nextId hr

theorem range'_snoc (a n : Nat) : List.range' a n ++ [a + n] = List.range' a (n + 1) := by
  rw [List.range'_concat]; simp

theorem idsOf_cons (x : Expr) (xs : List Expr) : idsOf (x :: xs) = idsOf [x] ++ idsOf xs := by
  cases x <;> simp [idsOf]

theorem idsOf_append (xs ys : List Expr) : idsOf (xs ++ ys) = idsOf xs ++ idsOf ys := by
  induction xs with
  | nil => simp [idsOf]
  | cons x rest ih => rw [List.cons_append, idsOf_cons, idsOf_cons x rest, ih, List.append_assoc]

theorem idsOf_setComments (x : Expr) (c : Comments) : idsOf [x.setComments c] = idsOf [x] := by
  cases x <;> simp [idsOf, Expr.setComments]

theorem range'_append' (a m n : Nat) : List.range' a m ++ List.range' (a + m) n = List.range' a (m + n) := by
  rw [List.range'_append_1]

theorem idsOf_commentBlock1 (c : CommentBlock) : idsOf [.commentBlock c] = [] := by simp [idsOf]

theorem PLine.id {i : Input} {s e : Position} {acc : List Bytes} {l : Line} {i' : Input}
    (h : PLine Step Step i s e acc l i') : l.id = i.nextId ∧ i'.nextId = i.nextId + 1 := by
  induction h with
  | eol hx _ => have hn := readToken_nextId hx; exact ⟨hn, by simp [hn]⟩
  | tok hx _ _ ih => rw [← readToken_nextId hx]; exact ih

theorem parseLine_id {fuel : Nat} {i : Input} {l : Line} {i' : Input} (h : parseLine fuel i = .ok (l, i')) :
    l.id = i.nextId ∧ i'.nextId = i.nextId + 1 := by
  obtain ⟨i1, hx, _, hl⟩ := parseLine_run h
  rw [← readToken_nextId hx]; exact PLine.id hl

theorem PBlock.ids {i : Input} {x : LineBlock} {ls : List Line} {cs : List Comment} {b : LineBlock} {i' : Input}
    (h : PBlock Step Step i x ls cs b i') :
    i.nextId ≤ i'.nextId ∧
      b.lines.map (·.id) = ls.reverse.map (·.id) ++ List.range' i.nextId (i'.nextId - i.nextId) := by
  induction h with
  | eolComment _ hx _ ih | blank _ hx _ ih | comment _ hx _ ih => rw [← readToken_nextId hx]; exact ih
  | close _ hx _ hx2 => rw [readToken_nextId hx2, readToken_nextId hx]; simp
  | @line i i1 i2 x ls cs l b i' _ _ _ _ _ hx _ hl _ ih =>
    obtain ⟨hid, hnx⟩ := PLine.id hl
    rw [readToken_nextId hx] at hid hnx
    obtain ⟨hle, hids⟩ := ih
    rw [hnx] at hle hids
    refine ⟨by omega, ?_⟩
    rw [hids]
    simp only [List.reverse_cons, List.map_append, List.map_cons, List.map_nil, List.append_assoc, hid]
    congr 1
    have : i'.nextId - i.nextId = (i'.nextId - (i.nextId + 1)) + 1 := by omega
    rw [this, List.range'_succ]
    rfl

theorem PStmt.ids {i : Input} {s e : Position} {acc : List Bytes} {x : Expr} {i' : Input}
    (h : PStmt Step Step i s e acc x i') :
    i.nextId ≤ i'.nextId ∧ idsOf [x] = List.range' i.nextId (i'.nextId - i.nextId) := by
  induction h with
  | eol hx _ => simp [idsOf, readToken_nextId hx]
  | block hx _ _ hb =>
    obtain ⟨hle, hids⟩ := PBlock.ids hb
    rw [readToken_nextId hx] at hle hids
    exact ⟨hle, by simpa [idsOf] using hids⟩
  | empty hx _ _ hx2 _ hx3 => rw [readToken_nextId hx3, readToken_nextId hx2, readToken_nextId hx]; simp [idsOf]
  | parens hx _ _ hx2 _ _ ih => rw [← readToken_nextId hx, ← readToken_nextId hx2]; exact ih
  | lparen hx _ _ _ _ ih | tok hx _ _ _ ih => rw [← readToken_nextId hx]; exact ih

theorem PFile.ids {i : Input} {sr : List Expr} {cb : Option CommentBlock} {out : List Expr} {i' : Input}
    (h : PFile Step Step i sr cb out i') :
    i.nextId ≤ i'.nextId ∧ idsOf out = idsOf sr.reverse ++ List.range' i.nextId (i'.nextId - i.nextId) := by
  have hflush : ∀ (sr : List Expr) (cb : Option CommentBlock), idsOf (flush sr cb).reverse = idsOf sr.reverse := by
    intro sr cb
    cases cb with
    | none => rfl
    | some c => simp [flush, List.reverse_cons, idsOf_append, idsOf_commentBlock1]
  induction h with
  | blank _ hx _ ih => rw [← readToken_nextId hx, ← hflush]; exact ih
  | comment _ hx _ ih => rw [← readToken_nextId hx]; exact ih
  | eof _ => simp [hflush]
  | @stmt i i1 i2 sr cb x out i' _ _ _ hx hs _ ih =>
    obtain ⟨hle1, hids1⟩ := PStmt.ids hs
    rw [readToken_nextId hx] at hle1 hids1
    obtain ⟨hle2, hids2⟩ := ih
    have hy : idsOf [attach cb x] = idsOf [x] := by
      cases cb with
      | none => rfl
      | some c => exact idsOf_setComments _ _
    refine ⟨by omega, ?_⟩
    rw [hids2, List.reverse_cons, idsOf_append, hy, hids1, List.append_assoc]
    congr 1
    have e1 : i2.nextId = i.nextId + (i2.nextId - i.nextId) := by omega
    have e2 : i'.nextId - i.nextId = (i2.nextId - i.nextId) + (i'.nextId - i2.nextId) := by omega
    rw [e2, ← range'_append', ← e1]

theorem parseFile_idsOf {data : Bytes} {stmts : List Expr} {i' : Input} (h : parseFile data = .ok (stmts, i')) :
    idsOf stmts = List.range' 0 i'.nextId := by
  obtain ⟨i0, h0, hrun⟩ := parseFile_run h
  have hn : i0.nextId = 0 := readToken_nextId h0
  rw [(PFile.ids hrun).2, hn]
  simp [idsOf]

theorem parseFile_ids {data : Bytes} {stmts : List Expr} {i' : Input} (h : parseFile data = .ok (stmts, i')) :
    (idsOf stmts).Nodup := by
  rw [parseFile_idsOf h]; exact List.nodup_range'

/-! ### comment assignment changes nothing but comments -/

theorem linesOf_bare (xs : List Expr) : linesOf (xs.map exprBare) = (linesOf xs).map lineBare := by
  induction xs with
  | nil => rfl
  | cons x rest ih => cases x <;> simp [exprBare, ih]

/-- whatever does not look at the comments of a line is the same before and after comment assignment -/
theorem assignComments_lines {α : Type} (g : Line → α) (hg : ∀ l, g (lineBare l) = g l) (f : FileSyntax)
    (cs : List Comment) : (linesOf (assignComments f cs).stmts).map g = (linesOf f.stmts).map g := by
  have hb : ∀ xs : List Expr, (linesOf xs).map g = (linesOf (xs.map exprBare)).map g := by
    intro xs
    rw [linesOf_bare, List.map_map]
    exact List.map_congr_left fun l _ => (hg l).symm
  rw [hb, assignComments_bare, ← hb]

theorem assignComments_keys (f : FileSyntax) (cs : List Comment) :
    (linesOf (assignComments f cs).stmts).map lineKey = (linesOf f.stmts).map lineKey :=
  assignComments_lines lineKey (fun _ => rfl) f cs

theorem parse_ids_nodup {name data : Bytes} {t : FileSyntax} (h : parse name data = .ok t) :
    ((linesOf t.stmts).map (·.id)).Nodup := by
  unfold parse at h
  cases hp : parseFile data with
  | error e => simp [hp, bind, Except.bind] at h
  | ok v =>
    simp only [hp, bind, Except.bind, Except.ok.injEq] at h
    subst h
    have hk := assignComments_keys { name := name, stmts := v.1 } v.2.commentsRev.reverse
    have hn := parseFile_ids (show parseFile data = .ok (v.1, v.2) by rw [hp])
    have : (linesOf (assignComments { name := name, stmts := v.1 } v.2.commentsRev.reverse).stmts).map (·.id) =
        idsOf v.1 := by
      have := congrArg (List.map Prod.fst) hk
      simpa [List.map_map, lineKey, idsOf, Function.comp_def] using this
    rw [this]; exact hn

end ModVerif.Proofs.ModfileC20
