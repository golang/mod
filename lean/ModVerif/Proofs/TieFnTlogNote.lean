/-
  Tie proofs for sumdb/tlog/note.go (Generated/FnTlogNote.lean vs Model/TlogNote.lean):
  FormatTree, ParseTree (strings.SplitN, strings.Count, the line tests).
-/
import ModVerif.Generated.FnTlogNote
import ModVerif.Model.TlogNote
import ModVerif.Proofs.GoRtLemmasNote
namespace ModVerif.TieFnTlogNote
open ModVerif ModVerif.GoRt ModVerif.GoRtTile ModVerif.GoRtNote

abbrev GTree := Generated.TlogNote.Tree Bytes

/-- `base64.StdEncoding.DecodeString` as the model decodes (the instantiation of Drv/GenTlog.lean, `GenTlogNote.b64decI`) -/
def b64decI (s : Bytes) : Bytes × Option String :=
  match Base64.decodeStd s with
  | some b => (b, none)
  | none => ([], some "illegal base64 data")

def toGen (t : TlogNote.Tree) : GTree := { N := t.n, Hash := t.hash }

/-- the result of the model's `parseTree` in the result type of the generated one -/
def ptOut : Option TlogNote.Tree → GTree × Option String
  | some t => (toGen t, none)
  | none => ((default : GTree), some "errMalformedTree")

theorem treePrefix_eq : Generated.tlog_treePrefix = TlogNote.treePrefix := by decide +kernel

/-! ### FormatTree -/

theorem FormatTree_eq (n : Int) (h : Bytes) :
    Generated.TlogNote.FormatTree TlogNote.hashString ({ N := n, Hash := h } : GTree) =
      TlogNote.formatTree { n := n, hash := h } := by
  have e : ([103, 111, 46, 115, 117, 109, 32, 100, 97, 116, 97, 98, 97, 115, 101, 32, 116, 114, 101, 101, 10] : Bytes)
      = TlogNote.treePrefix := treePrefix_eq
  simp only [Generated.TlogNote.FormatTree, TlogNote.formatTree, e, itoa_eq]

/-! ### strings.Count(text, "\n") -/

theorem count_nl (s : Bytes) : count s [10] = ((TlogNote.countNL s : Nat) : Int) := by
  rw [GoRtStr.count_single, TlogNote.countNL, List.count_eq_length_filter]

/-! ### strings.SplitN(text, "\n", k) -/

theorem splitN_ne_nil : ∀ (k : Nat) (s : Bytes), TlogNote.splitN (k + 1) s ≠ []
  | 0, s => by simp [TlogNote.splitN]
  | k + 1, s => by
    unfold TlogNote.splitN
    split <;> simp

theorem splitN_cons (k : Nat) (x : UInt8) (xs : Bytes) :
    TlogNote.splitN (k + 2) (x :: xs) =
      if x == 10 then [] :: TlogNote.splitN (k + 1) xs else prependHead [x] (TlogNote.splitN (k + 2) xs) := by
  by_cases hx : x = 10
  · subst hx
    simp [TlogNote.splitN, span_eq]
  · have h1 : (x != 10) = true := by simpa using hx
    have h2 : (x == 10) = false := by simpa using hx
    rw [if_neg (by simp [h2])]
    conv => lhs; unfold TlogNote.splitN
    conv => rhs; unfold TlogNote.splitN
    simp only [span_eq, List.takeWhile_cons, List.dropWhile_cons, h1, if_true]
    cases hd : xs.dropWhile (· != 10) with
    | nil => simp [prependHead]
    | cons a rest => simp [prependHead]

theorem splitN_nil (k : Nat) : TlogNote.splitN (k + 1) [] = [[]] := by
  cases k with
  | zero => rfl
  | succ k => simp [TlogNote.splitN, span_eq]

theorem splitNAux_eq : ∀ (s : Bytes) (f k : Nat) (cur : Bytes), s.length < f →
    splitNAux [10] f (k + 1) s cur = prependHead cur.reverse (TlogNote.splitN (k + 1) s) := by
  intro s
  induction s with
  | nil =>
    intro f k cur hf
    obtain ⟨f, rfl⟩ : ∃ g, f = g + 1 := ⟨f - 1, by omega⟩
    simp [splitNAux, splitN_nil, prependHead]
  | cons x xs ih =>
    intro f k cur hf
    obtain ⟨f, rfl⟩ : ∃ g, f = g + 1 := ⟨f - 1, by omega⟩
    simp only [List.length_cons] at hf
    rw [splitNAux]
    cases k with
    | zero => simp [TlogNote.splitN, prependHead]
    | succ k =>
      have hk : ¬ (k + 1 = 0) := by omega
      simp only [hk, if_false, GoRtStr.isPrefixOfB_single, List.length_cons, List.length_nil, Nat.zero_add,
        List.drop_succ_cons, List.drop_zero]
      rw [splitN_cons]
      by_cases hx : x = 10
      · subst hx
        simp only [beq_self_eq_true, if_true]
        rw [ih f k [] (by omega)]
        simp only [List.reverse_nil]
        rw [prependHead_nil _ (splitN_ne_nil k xs)]
        simp [prependHead]
      · have h2 : (x == 10) = false := by simpa using hx
        have h3 : ((10 : UInt8) == x) = false := by simpa using fun e : (10 : UInt8) = x => hx e.symm
        simp only [h2, h3, Bool.false_eq_true, if_false]
        rw [ih f (k + 1) (x :: cur) (by omega), prependHead_prependHead _ _ _ (splitN_ne_nil (k + 1) xs)]
        simp

/-- `strings.SplitN(s, "\n", k)` for a positive literal `k` is the model's `splitN` -/
theorem splitN_eq (s : Bytes) (k : Nat) : splitN s [10] ((k + 1 : Nat) : Int) = TlogNote.splitN (k + 1) s := by
  have h : ¬ (((k + 1 : Nat) : Int) ≤ 0) := by omega
  simp only [splitN, h, if_false, Int.toNat_natCast]
  rw [splitNAux_eq s _ k [] (by omega)]
  simp only [List.reverse_nil]
  exact prependHead_nil _ (splitN_ne_nil k s)

theorem length_prependHead (p : Bytes) (l : List Bytes) (h : l ≠ []) : (prependHead p l).length = l.length := by
  cases l with
  | nil => exact absurd rfl h
  | cons a t => rfl

theorem countNL_cons (x : UInt8) (xs : Bytes) :
    TlogNote.countNL (x :: xs) = (if x == 10 then 1 else 0) + TlogNote.countNL xs := by
  by_cases h : (x == 10) = true <;> simp [TlogNote.countNL, h] <;> omega

theorem length_splitN : ∀ (s : Bytes) (k : Nat), k ≤ TlogNote.countNL s → (TlogNote.splitN (k + 1) s).length = k + 1 := by
  intro s
  induction s with
  | nil =>
    intro k hk
    have : k = 0 := by simp [TlogNote.countNL] at hk; exact hk
    subst this; rfl
  | cons x xs ih =>
    intro k hk
    cases k with
    | zero => rfl
    | succ k =>
      rw [splitN_cons]
      rw [countNL_cons] at hk
      by_cases hx : (x == 10) = true
      · simp only [hx, if_true] at hk ⊢
        simp only [List.length_cons]
        rw [ih k (by omega)]
      · simp only [hx, Bool.false_eq_true, if_false] at hk ⊢
        rw [length_prependHead _ _ (splitN_ne_nil _ _)]
        exact ih (k + 1) (by omega)

theorem splitN4_shape (s : Bytes) (h : 3 ≤ TlogNote.countNL s) :
    ∃ a b c d, TlogNote.splitN 4 s = [a, b, c, d] := by
  have := length_splitN s 3 h
  match hl : TlogNote.splitN 4 s, this with
  | [a, b, c, d], _ => exact ⟨a, b, c, d, rfl⟩

/-! ### ParseTree -/

theorem ParseTree_eq (text : Bytes) :
    Generated.TlogNote.ParseTree b64decI id text = .ok (ptOut (TlogNote.parseTree text)) := by
  unfold Generated.TlogNote.ParseTree TlogNote.parseTree
  simp only [hasPrefix, treePrefix_eq, count_nl]
  have e1 : decide (((TlogNote.countNL text : Nat) : Int) < 3) = decide (TlogNote.countNL text < 3) :=
    decide_eq_decide.mpr (by omega)
  have e2 : decide (len text > 1000000) = decide (text.length > 1000000) :=
    decide_eq_decide.mpr (by simp only [len_eq]; omega)
  simp only [e1, e2]
  by_cases hc : (!isPrefixOfB TlogNote.treePrefix text || decide (TlogNote.countNL text < 3) ||
      decide (text.length > 1000000)) = true
  · simp only [hc, ↓reduceIte]; rfl
  · simp only [hc, ↓reduceIte]
    have h3 : 3 ≤ TlogNote.countNL text := by
      simp only [Bool.or_eq_true, decide_eq_true_eq, not_or] at hc; omega
    obtain ⟨a, b, c, d, hs⟩ := splitN4_shape text h3
    have e4 : splitN text [10] 4 = [a, b, c, d] := by
      have := splitN_eq text 3; rw [hs] at this; exact this
    simp only [e4, hs]
    have i1 : idxL [a, b, c, d] 1 = .ok b := idxL_natCast (v := [a, b, c, d]) (k := 1) (by simp)
    have i2 : idxL [a, b, c, d] 2 = .ok c := idxL_natCast (v := [a, b, c, d]) (k := 2) (by simp)
    simp only [i1, i2, bind_ok, formatInt_ten]
    cases hp : Decimal.parseInt64 b with
    | none =>
      have := parseInt_none b hp
      simp only [this, Bool.not_false, Bool.true_or, if_true, bind_ok, pure_eq_ok]
      rfl
    | some n =>
      rw [parseInt_some b n hp]
      simp only [Option.isNone_none, Bool.not_true, Bool.false_or]
      by_cases hn : n < 0
      · simp only [hn, decide_true, if_true, bind_ok, Bool.true_or, pure_eq_ok]; rfl
      · simp only [hn, decide_false, Bool.false_eq_true, if_false, bind_ok, pure_eq_ok, Bool.false_or]
        by_cases hb : b = Decimal.formatInt n
        · have hb' : (b != Decimal.formatInt n) = false := by simpa using hb
          have hb2 : decide (b = Decimal.formatInt n) = true := by simpa using hb
          simp only [hb2, hb', Bool.not_true, Bool.false_eq_true, if_false]
          unfold b64decI
          cases hd : Base64.decodeStd c with
          | none => simp only [Option.isNone_some, Bool.not_false, Bool.true_or, if_true]; rfl
          | some h =>
            simp only [Option.isNone_none, Bool.not_true, Bool.false_or, len_eq, Tlog.HashSize]
            by_cases hl : h.length = 32
            · have hl' : (h.length != 32) = false := by simpa using hl
              have hl2 : (((h.length : Nat) : Int) = 32) := by omega
              simp only [hl2, decide_true, Bool.not_true, Bool.false_eq_true, if_false, hl']
              rfl
            · have hl' : (h.length != 32) = true := by simpa using hl
              have hl2 : ¬ (((h.length : Nat) : Int) = 32) := by omega
              simp only [hl2, decide_false, Bool.not_false, if_true, hl']
              rfl
        · have hb' : (b != Decimal.formatInt n) = true := by simpa using hb
          have hb2 : decide (b = Decimal.formatInt n) = false := by simpa using hb
          simp only [hb2, Bool.not_false, if_true, hb']
          rfl

end ModVerif.TieFnTlogNote
