/-
  `FileSyntax.addLine` (read.go) inverted (`addLine_grown`): the tree after the call is the old one with the new line
  appended at the end (first disjunct), or the old one with ONE statement replaced; what can stand in its place are the
  three constructors of `Grown`: the new line placed after it, a line of the same verb turned into a two-line block, or a
  block of that verb with the new line appended or inserted.  What `addLine` preserves or establishes is read off these
  four forms, without walking the statements again.
-/
import ModVerif.Model.Modfile.Edit
namespace ModVerif.Modfile.Edit
open ModVerif ModVerif.Modfile

def convBlock (l : Line) (toks : List Bytes) (new : Nat) : Expr :=
  .lineBlock { token := l.token.take 1, lines := [{ l with inBlock := true, token := l.token.drop 1 }, mkLine new (toks.drop 1) true] }

/-- what the hinted walk of `addLine` puts in the place of the statement it stops at -/
inductive Grown (toks : List Bytes) (new : Nat) : Expr → List Expr → Prop
  | after (x : Expr) : Grown toks new x [x, .line (mkLine new toks false)]
  | conv (l : Line) (hl : l.token.isEmpty = false) (hv : headIs l.token (toks.head?.getD []) = true) :
      Grown toks new (.line l) [convBlock l toks new]
  | block (b : LineBlock) (l1 l2 : List Line) (hb : b.lines = l1 ++ l2) (hv : headIs b.token (toks.head?.getD []) = true) :
      Grown toks new (.lineBlock b) [.lineBlock { b with lines := l1 ++ mkLine new (toks.drop 1) true :: l2 }]

theorem insertAfterId_split (h : Nat) (new : Line) : ∀ (ls r : List Line), insertAfterId h new ls = some r →
    ∃ l1 l2, ls = l1 ++ l2 ∧ r = l1 ++ new :: l2
  | [], _, hr => by simp [insertAfterId] at hr
  | l :: ls, r, hr => by
    unfold insertAfterId at hr
    split at hr
    · cases hr; exact ⟨[l], ls, rfl, rfl⟩
    · cases hi : insertAfterId h new ls with
      | none => simp [hi] at hr
      | some r' =>
        simp only [hi, Option.some.injEq] at hr; subst hr
        obtain ⟨l1, l2, e1, e2⟩ := insertAfterId_split h new ls r' hi
        exact ⟨l :: l1, l2, by rw [e1]; rfl, by rw [e2]; rfl⟩

theorem addLineWalk_grown (hint : Hint) (toks : List Bytes) (new : Nat) : ∀ (stmts : List Expr) (i : Nat) (r : List Expr),
    addLineWalk hint toks new stmts i = some r →
    ∃ pre x post g, stmts = pre ++ x :: post ∧ Grown toks new x g ∧ r = pre ++ g ++ post
  | [], _, _, h => by simp [addLineWalk] at h
  | x :: xs, i, r, h => by
    have here : ∀ {g}, Grown toks new x g → ∃ pre y post g', x :: xs = pre ++ y :: post ∧ Grown toks new y g' ∧ g ++ xs = pre ++ g' ++ post :=
      fun hg => ⟨[], x, xs, _, rfl, hg, rfl⟩
    have hrest : ∀ r, (addLineWalk hint toks new xs (i + 1)).map (x :: ·) = some r →
        ∃ pre y post g, x :: xs = pre ++ y :: post ∧ Grown toks new y g ∧ r = pre ++ g ++ post := by
      intro r hr
      cases hw : addLineWalk hint toks new xs (i + 1) with
      | none => simp [hw] at hr
      | some r' =>
        simp only [hw, Option.map_some, Option.some.injEq] at hr; subst hr
        obtain ⟨pre, y, post, g, e1, hg, e2⟩ := addLineWalk_grown hint toks new xs (i + 1) r' hw
        exact ⟨x :: pre, y, post, g, by rw [e1]; rfl, hg, by rw [e2]; rfl⟩
    unfold addLineWalk at h
    dsimp only at h
    cases x with
    | line l =>
      simp only at h
      split at h
      · split at h
        · cases h; exact here (.after _)
        · rename_i hc
          simp only [Bool.or_eq_true, Bool.not_eq_true', not_or, Bool.not_eq_true, Bool.not_eq_false] at hc
          cases h; exact here (.conv l hc.1 hc.2)
      · exact hrest _ h
    | lineBlock b =>
      simp only at h
      split at h
      · split at h
        · cases h; exact here (.after _)
        · rename_i hv
          cases h
          have := here (Grown.block (toks := toks) (new := new) b b.lines [] (by simp) (by simpa using hv))
          simpa using this
      · cases hint with
        | line hid =>
          simp only at h
          split at h
          · split at h
            · cases h; exact here (.after _)
            · rename_i hv
              cases hins : insertAfterId hid (mkLine new (toks.drop 1) true) b.lines with
              | none => simp only [hins] at h; exact hrest _ h
              | some ls =>
                simp only [hins, Option.some.injEq] at h; subst h
                obtain ⟨l1, l2, e1, rfl⟩ := insertAfterId_split _ _ _ _ hins
                exact here (.block b l1 l2 e1 (by simpa using hv))
          · exact hrest _ h
        | none => exact hrest _ h
        | stmt k => exact hrest _ h
    | commentBlock c => exact hrest _ h
    | lparen c => exact hrest _ h
    | rparen c => exact hrest _ h

theorem addLine_grown (fs : FileSyntax) (hint : Option Nat) (toks : List Bytes) (new : Nat) :
    (addLine fs hint toks new).stmts = fs.stmts ++ [.line (mkLine new toks false)] ∨
    ∃ pre x post g, fs.stmts = pre ++ x :: post ∧ Grown toks new x g ∧ (addLine fs hint toks new).stmts = pre ++ g ++ post := by
  unfold addLine
  cases hint with
  | some id =>
    dsimp only
    cases hw : addLineWalk (Hint.line id) toks new fs.stmts 0 with
    | none => left; rfl
    | some s => right; exact addLineWalk_grown _ _ _ _ _ _ hw
  | none =>
    dsimp only
    cases hl : lastStmtWith (toks.head?.getD []) fs.stmts 0 none with
    | none => left; rfl
    | some i =>
      dsimp only
      cases hw : addLineWalk (Hint.stmt i) toks new fs.stmts 0 with
      | none => left; rfl
      | some s => right; exact addLineWalk_grown _ _ _ _ _ _ hw

theorem addLinePtr_grown (fs : FileSyntax) (hint : Option Nat) (toks : List Bytes) (new : Nat) :
    (addLinePtr fs hint toks new).stmts = fs.stmts ++ [.line (mkLine new toks false)] ∨
    ∃ pre x post g, fs.stmts = pre ++ x :: post ∧ Grown toks new x g ∧ (addLinePtr fs hint toks new).stmts = pre ++ g ++ post := by
  unfold addLinePtr
  split
  · split
    · left; rfl
    · exact addLine_grown _ _ _ _
  · left; rfl

end ModVerif.Modfile.Edit
