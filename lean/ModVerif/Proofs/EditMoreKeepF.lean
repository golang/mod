/-
  **C08 `untouched_lines_survive`**: one operation (`applyMod_untouchedS`) and whole sessions: a directive line that no
  operation names and no SortBlocks removes as a duplicate keeps its id, its tokens, its Before comments (Cleanup may prepend
  those of a collapsed block) and exactly its Suffix comments.  `sparedB`: a Boolean sufficient condition for concrete
  instances.
-/
import ModVerif.Proofs.EditMoreKeepE
namespace ModVerif.Modfile.Edit
open ModVerif ModVerif.Modfile

theorem applyMod_opKeepsS (e e' : EFile) (op : Op) (hv : ValidArgsAll e op) (hi : Inv e) (h : applyMod e op = some (.ok e')) :
    OpKeepsS e e' op := by
  by_cases hb : IsBulk op
  · cases op <;> try exact hb.elim
    case setRequire w r =>
      simp only [applyMod, Option.some.injEq] at h
      exact setRequire_keepsS e e' w (permOf r) (permOf_perm r) hv.1 hi hv.2.1 hv.2.2 h r
    case setRequireSeparateIndirect w r =>
      simp only [applyMod, Option.some.injEq] at h
      exact setRequireSeparateIndirect_keepsS e e' w (permOf r) hv.1 hi hv.2.1 h r
  by_cases hc : op = .cleanup
  · -- Cleanup is no `KeepsEq` step: the line of a collapsed block gains the block's whole-line comments
    subst hc
    simp only [applyMod, Option.some.injEq, Except.ok.injEq] at h
    subst h
    exact ⟨[], (keepsS_cleanupStmts _ hi.tree.noBlockSuffix).below _, fun _ hi' => by cases hi'⟩
  · exact OpKeepsS.of_prog _ (applyMod_prog e e' op hb h) (prog_preAll e op hi hc)
      (prog_src e op (by cases op <;> first | exact hv | exact (hb trivial).elim))

/-- C08 `op_untouched_line_survives` is read off this -/
theorem applyMod_untouchedS (e e' : EFile) (op : Op) (hv : ValidArgsAll e op) (hi : Inv e) (h : applyMod e op = some (.ok e'))
    (x : XLine) (hx : x ∈ viewX e.f.syn.stmts) (hnt : ¬Targets op x.toks) (hk : Sorts op = true → x.id ∉ kill3 e.f) :
    ∃ x' ∈ viewX e'.f.syn.stmts, x.leS x' := by
  rcases applyMod_opKeepsS e e' op hv hi h with ⟨S, hS, hsrc⟩
  refine hS x hx (hi.x_lt hx) ?_
  intro hs
  rcases hsrc _ hs with ⟨h1, h2⟩ | ⟨en, hen, hid, ht⟩
  · exact hk h1 h2
  · exact hnt (ht _ _ (hi.acc_of_id hx hen hid))

/-- along a session: no operation names the line (by its tokens), no SortBlocks removes it as a duplicate -/
def Spared (toks : List Bytes) (id : Nat) : EFile → List Op → Prop
  | _, [] => True
  | e, op :: ops =>
    ¬Targets op toks ∧ (Sorts op = true → id ∉ kill3 e.f) ∧
      (∀ e', applyMod e op = some (.ok e') → Spared toks id e' ops) ∧
      (∀ err, applyMod e op = some (.error err) → err.isReturned = true → Spared toks id e ops)

theorem runOps_untouchedS (ops : List Op) (e : EFile) (res0 : List Bool) (i : Nat) (e' : EFile) (res : List Bool)
    (hv : RunValid e ops) (hi : Inv e) (h : runOps applyMod e ops res0 i = .done e' res)
    (x : XLine) (hx : x ∈ viewX e.f.syn.stmts) (hsp : Spared x.toks x.id e ops) : ∃ x' ∈ viewX e'.f.syn.stmts, x.leS x' := by
  have := runOps_done_induct applyMod
    (fun e ops => RunValid e ops ∧ Inv e ∧ ∃ y ∈ viewX e.f.syn.stmts, x.leS y ∧ Spared y.toks y.id e ops)
    (fun e op _ e1 ⟨hv, hi, y, hy, hxy, hsp⟩ ha => by
      obtain ⟨z, hz, hyz⟩ := applyMod_untouchedS e e1 op hv.1 hi ha y hy hsp.1 hsp.2.1
      exact ⟨hv.2.1 e1 ha, applyMod_inv_all e e1 op hv.1 hi ha, z, hz, XLine.leS_trans hxy hyz,
        by rw [hyz.1, hyz.2.1]; exact hsp.2.2.1 e1 ha⟩)
    (fun e _ _ err ⟨hv, hi, y, hy, hxy, hsp⟩ ha hr => ⟨hv.2.2 err ha hr, hi, y, hy, hxy, hsp.2.2.2 err ha hr⟩)
    ops e res0 i e' res ⟨hv, hi, x, hx, x.leS_refl, hsp⟩ h
  obtain ⟨_, _, y, hy, hxy, _⟩ := this
  exact ⟨y, hy, hxy⟩

/-- **C08 `untouched_lines_survive`** with the `Suffix` comments exact.  `Before` is a sublist only: Cleanup may add the
    whole-line comments of a collapsed block. -/
theorem untouched_lines_survive_eq (e e' : EFile) (ops : List Op) (res : List Bool) (hi : Inv e) (hv : RunValid e ops)
    (h : runOps applyMod e ops [] 0 = .done e' res) (x : XLine) (hx : x ∈ viewX e.f.syn.stmts) (hsp : Spared x.toks x.id e ops) :
    ∃ x' ∈ viewX (cleanup e').f.syn.stmts, x'.id = x.id ∧ x'.toks = x.toks ∧ x.before.Sublist x'.before ∧
      x'.suffix = x.suffix := by
  rcases runOps_untouchedS ops e [] 0 e' res hv hi h x hx hsp with ⟨y, hy, hxy⟩
  rcases keepsS_cleanupStmts e'.f.syn.stmts (runOps_inv_all ops e [] 0 e' res hv hi h).tree.noBlockSuffix y hy (by simp) with ⟨z, hz, hyz⟩
  exact ⟨z, hz, XLine.leS_trans hxy hyz⟩


/-- **C08 `untouched_lines_survive`** -/
theorem untouched_lines_survive (e e' : EFile) (ops : List Op) (res : List Bool) (hi : Inv e) (hv : RunValid e ops)
    (h : runOps applyMod e ops [] 0 = .done e' res) (x : XLine) (hx : x ∈ viewX e.f.syn.stmts) (hsp : Spared x.toks x.id e ops) :
    ∃ x' ∈ viewX (cleanup e').f.syn.stmts, x'.id = x.id ∧ x'.toks = x.toks ∧ x.before.Sublist x'.before ∧
      x.suffix.Sublist x'.suffix := by
  rcases untouched_lines_survive_eq e e' ops res hi hv h x hx hsp with ⟨z, hz, h1, h2, h3, h4⟩
  exact ⟨z, hz, h1, h2, h3, by rw [h4]; exact List.Sublist.refl _⟩

/-! ### an executable sufficient condition for `Spared` (for concrete instances) -/

def opVerb : Op → Option Bytes
  | .addModule _ => some (B "module")
  | .addGo _ => some (B "go")
  | .dropGo => some (B "go")
  | .addToolchain _ => some (B "toolchain")
  | .dropToolchain => some (B "toolchain")
  | .addGodebug _ _ => some (B "godebug")
  | .dropGodebug _ => some (B "godebug")
  | .addRequire _ _ => some (B "require")
  | .dropRequire _ => some (B "require")
  | .setRequire _ _ => some (B "require")
  | .setRequireSeparateIndirect _ _ => some (B "require")
  | .dropExclude _ _ => some (B "exclude")
  | .addReplace _ _ _ _ => some (B "replace")
  | .dropReplace _ _ => some (B "replace")
  | .dropRetract _ _ => some (B "retract")
  | .dropTool _ => some (B "tool")
  | _ => none

theorem targets_verb (op : Op) (t : List Bytes) (h : Targets op t) : ∃ v, opVerb op = some v ∧ t.head? = some v := by
  cases op <;> simp only [Targets] at h <;> simp only [opVerb]
  all_goals first
    | exact h.elim
    | exact ⟨_, rfl, h⟩
    | (rcases h with ⟨v, rfl⟩; exact ⟨_, rfl, rfl⟩)
    | (subst h; exact ⟨_, rfl, rfl⟩)
    | (rcases h with ⟨r, _, rfl⟩; exact ⟨_, rfl, rfl⟩)
    | (rcases h with ⟨r, _, _, rfl⟩; exact ⟨_, rfl, rfl⟩)
    | (rcases h with ⟨x, rfl, _⟩; exact ⟨_, rfl, rfl⟩)
    | (rcases h with ⟨r, _, ⟨x, rfl, _⟩ | ⟨x, y, rfl, _⟩⟩ <;> exact ⟨_, rfl, rfl⟩)

/-- a Boolean test implying `Spared`: by the line's verb, not by its key -/
def sparedB (toks : List Bytes) (id : Nat) : EFile → List Op → Bool
  | _, [] => true
  | e, op :: ops =>
    (match opVerb op with
     | some v => toks.head? != some v
     | none => true) &&
    (!Sorts op || !(kill3 e.f).contains id) &&
      (match applyMod e op with
       | some (.ok e') => sparedB toks id e' ops
       | some (.error err) => !err.isReturned || sparedB toks id e ops
       | none => true)

theorem sparedB_sound (toks : List Bytes) (id : Nat) (ops : List Op) : ∀ e : EFile, sparedB toks id e ops = true → Spared toks id e ops := by
  induction ops with
  | nil => intro e _; trivial
  | cons op ops ih =>
    intro e h
    simp only [sparedB, Bool.and_eq_true] at h
    refine ⟨?_, ?_, ?_, ?_⟩
    · intro ht
      rcases targets_verb op toks ht with ⟨v, hv, hh⟩
      have := h.1.1
      rw [hv] at this
      simp [hh] at this
    · intro hs hk
      have := h.1.2
      simp [hs, hk] at this
    · intro e' ha
      have := h.2; rw [ha] at this
      exact ih e' this
    · intro err ha hr
      have := h.2; rw [ha] at this
      simp only [hr, Bool.not_true, Bool.false_or] at this
      exact ih e this

end ModVerif.Modfile.Edit
