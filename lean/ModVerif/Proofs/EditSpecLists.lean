/-
  Helper lemmas about the list algebra of Spec/EditSpec.lean (updFirstDropRest, dropAll, dedupLast,
  dedupFirst, setExact).  Core Lean only.
-/
import ModVerif.Spec.EditSpec
namespace ModVerif.EditSpec
open ModVerif

section lists
variable {α : Type}

theorem dropAll_none (m : α → Bool) (l : List α) : (dropAll m l).any m = false := by
  induction l with
  | nil => rfl
  | cons x xs ih =>
    unfold dropAll at *
    by_cases h : m x = true <;> simp_all [List.filter]

theorem dropAll_idem (m : α → Bool) (l : List α) : dropAll m (dropAll m l) = dropAll m l := by
  unfold dropAll; simp [List.filter_filter]

theorem dropAll_sublist (m : α → Bool) (l : List α) : (dropAll m l).Sublist l := by
  unfold dropAll; exact List.filter_sublist

theorem dropAll_keeps (m : α → Bool) (l : List α) :
    (dropAll m l).filter (fun y => !m y) = l.filter (fun y => !m y) := by
  unfold dropAll; simp [List.filter_filter]

theorem updFirstDropRest_unmatched (m : α → Bool) (u : α → α) (l : List α) :
    l.any m = false → updFirstDropRest m u l = l := by
  induction l with
  | nil => intro _; rfl
  | cons x xs ih =>
    intro h
    simp only [List.any_cons, Bool.or_eq_false_iff] at h
    simp [updFirstDropRest, h.1, ih h.2]

theorem updFirstDropRest_others (m : α → Bool) (u : α → α) (hu : ∀ x, m x = true → m (u x) = true) (l : List α) :
    (updFirstDropRest m u l).filter (fun y => !m y) = l.filter (fun y => !m y) := by
  induction l with
  | nil => rfl
  | cons x xs ih =>
    by_cases h : m x = true
    · simp [updFirstDropRest, h, hu x h, List.filter_filter]
    · simp only [Bool.not_eq_true] at h
      simp [updFirstDropRest, h, ih]

theorem updFirstDropRest_matched (m : α → Bool) (u : α → α) (hu : ∀ x, m x = true → m (u x) = true) (l : List α) :
    (updFirstDropRest m u l).filter m = (l.find? m).toList.map u := by
  induction l with
  | nil => rfl
  | cons x xs ih =>
    by_cases h : m x = true
    · have : (xs.filter (fun y => !m y)).filter m = [] := by
        simp [List.filter_filter]
      simp [updFirstDropRest, h, hu x h, this]
    · simp only [Bool.not_eq_true] at h
      simp [updFirstDropRest, h, ih]

theorem setKeyed_present (m : α → Bool) (u : α → α) (new : α) (hu : ∀ x, m x = true → m (u x) = true)
    (hn : m new = true) (l : List α) : ((setKeyed m u new l).filter m).length = 1 := by
  unfold setKeyed
  by_cases h : l.any m = true
  · simp only [h, if_true]
    rw [updFirstDropRest_matched m u hu]
    have : ∃ a, l.find? m = some a := by
      rcases List.any_eq_true.1 h with ⟨a, ha, hma⟩
      cases hf : l.find? m with
      | none => exact absurd hma (by simpa using (List.find?_eq_none.1 hf) a ha)
      | some b => exact ⟨b, rfl⟩
    rcases this with ⟨a, ha⟩
    simp [ha]
  · simp only [Bool.not_eq_true] at h
    have h0 : l.filter m = [] := by
      apply List.filter_eq_nil_iff.2
      intro a ha
      have := List.any_eq_false.1 h a ha
      simpa using this
    simp [h, List.filter_append, h0, hn]

variable {κ : Type} [BEq κ] [LawfulBEq κ]

theorem any_dedupLast (key : α → κ) (k : κ) (l : List α) :
    (dedupLast key l).any (fun y => key y == k) = l.any (fun y => key y == k) := by
  induction l with
  | nil => rfl
  | cons x xs ih =>
    unfold dedupLast
    by_cases h : xs.any (fun y => key y == key x) = true
    · simp only [h, if_true, ih, List.any_cons]
      by_cases hk : (key x == k) = true
      · have hk' : key x = k := by simpa using hk
        subst hk'
        simp [h]
      · simp only [Bool.not_eq_true] at hk; simp [hk]
    · simp only [Bool.not_eq_true] at h
      simp [h, ih]

theorem dedupLast_idem (key : α → κ) (l : List α) : dedupLast key (dedupLast key l) = dedupLast key l := by
  induction l with
  | nil => rfl
  | cons x xs ih =>
    by_cases h : xs.any (fun y => key y == key x) = true
    · simp [dedupLast, h, ih]
    · simp only [Bool.not_eq_true] at h
      have h2 : (dedupLast key xs).any (fun y => key y == key x) = false := by
        rw [any_dedupLast]; exact h
      simp [dedupLast, h, h2, ih]

theorem dedupFirst_idem (key : α → κ) (l : List α) : dedupFirst key (dedupFirst key l) = dedupFirst key l := by
  unfold dedupFirst; simp [dedupLast_idem]

omit [LawfulBEq κ] in
theorem dedupLast_sublist (key : α → κ) (l : List α) : (dedupLast key l).Sublist l := by
  induction l with
  | nil => exact List.Sublist.slnil
  | cons x xs ih =>
    unfold dedupLast
    by_cases h : xs.any (fun y => key y == key x) = true
    · simp only [h, if_true]; exact List.Sublist.cons _ ih
    · simp only [Bool.not_eq_true] at h
      simp only [h]; exact List.Sublist.cons_cons _ ih

theorem dedupLast_nodup (key : α → κ) (l : List α) :
    (dedupLast key l).Pairwise (fun a b => key a ≠ key b) := by
  induction l with
  | nil => exact List.Pairwise.nil
  | cons x xs ih =>
    unfold dedupLast
    by_cases h : xs.any (fun y => key y == key x) = true
    · simp only [h, if_true]; exact ih
    · simp only [Bool.not_eq_true] at h
      simp only [h]
      refine List.Pairwise.cons ?_ ih
      intro b hb hkey
      have hb' := (dedupLast_sublist key xs).subset hb
      have := List.any_eq_false.1 h b hb'
      simp [hkey] at this

theorem dedupLast_keys (key : α → κ) (l : List α) (a : α) (ha : a ∈ l) :
    ∃ b ∈ dedupLast key l, key b = key a := by
  have h : l.any (fun y => key y == key a) = true := List.any_eq_true.2 ⟨a, ha, by simp⟩
  rw [← any_dedupLast] at h
  rcases List.any_eq_true.1 h with ⟨b, hb, hk⟩
  exact ⟨b, hb, by simpa using hk⟩

theorem dedupLast_of_nodup (key : α → κ) (l : List α) (h : l.Pairwise (fun a b => key a ≠ key b)) :
    dedupLast key l = l := by
  induction l with
  | nil => rfl
  | cons x xs ih =>
    rcases List.pairwise_cons.1 h with ⟨h1, h2⟩
    have : xs.any (fun y => key y == key x) = false := by
      apply List.any_eq_false.2
      intro b hb
      have := h1 b hb
      simp [Ne.symm this]
    simp [dedupLast, this, ih h2]

end lists
end ModVerif.EditSpec
