/-
  **C16 `comments_survive`, SetRequireSeparateIndirect**: as for SetRequire; the line may have been moved to another block
  (under a fresh line id) — it keeps its comments all the same.
-/
import ModVerif.Proofs.EditMoreComB
namespace ModVerif.Modfile.Edit
open ModVerif ModVerif.Modfile

theorem SepStep.have_sub {ctx : SepCtx} {need : List Want} {r : Require} {have_ : List Bytes} {syn : FileSyntax} {next : Nat}
    {t : Require × List Bytes × FileSyntax × Nat} (ht : SepStep ctx need r have_ syn next t) :
    ∀ p ∈ t.2.1, p = r.mod.path ∨ p ∈ have_ := by
  cases ht with
  | drop _ => exact fun p hp => Or.inr hp
  | keep w _ _ _ => exact fun p hp => List.mem_cons.1 hp
  | move w _ _ => exact fun p hp => List.mem_cons.1 hp

theorem sepLoop_split (ctx : SepCtx) (need : List Want) (rs : List Require) : ∀ (d : List Require) (have_ : List Bytes) (syn : FileSyntax)
    (next : Nat) (rs' : List Require) (have' : List Bytes) (syn' : FileSyntax) (next' : Nat),
    sepLoop ctx need (d ++ rs) have_ syn next = .ok (rs', have', syn', next') →
    ∃ d' hm synm nextm rs'', sepLoop ctx need d have_ syn next = .ok (d', hm, synm, nextm) ∧
      sepLoop ctx need rs hm synm nextm = .ok (rs'', have', syn', next') ∧ rs' = d' ++ rs'' ∧
      (∀ p ∈ hm, p ∈ have_ ∨ ∃ r' ∈ d, r'.mod.path = p)
  | [], have_, syn, next, rs', _, _, _, h => ⟨[], have_, syn, next, rs', rfl, h, rfl, fun p hp => Or.inl hp⟩
  | r :: d, have_, syn, next, _, _, _, _, h => by
    rcases sepLoop_cons_ok h with ⟨hr0, rs1, rfl, hrec⟩
    rcases sepLoop_split ctx need rs d _ _ _ _ _ _ _ hrec with ⟨d', hm, synm, nextm, rs'', q1, q2, rfl, q4⟩
    refine ⟨_ :: d', hm, synm, nextm, rs'', ?_, q2, rfl, ?_⟩
    · rw [sepLoop_cons, deref_ok hr0, q1]; rfl
    · intro p hp
      rcases q4 p hp with h1 | ⟨r', hr', e1⟩
      · rcases (sepStep_spec ctx need r have_ syn next).have_sub p h1 with rfl | h1
        · exact Or.inr ⟨r, List.mem_cons_self, rfl⟩
        · exact Or.inl h1
      · exact Or.inr ⟨r', List.mem_cons_of_mem _ hr', e1⟩

theorem entsOf_append {α : Type} (live : α → Bool) (mk : α → Ent) (l1 l2 : List α) :
    entsOf live mk (l1 ++ l2) = entsOf live mk l1 ++ entsOf live mk l2 := by
  simp [entsOf, List.filter_append]

theorem SepStep.first_comments {ctx : SepCtx} {need : List Want} {r : Require} {have_ : List Bytes} {syn : FileSyntax} {next : Nat}
    {t : Require × List Bytes × FileSyntax × Nat} (ht : SepStep ctx need r have_ syn next t) {w : Want}
    (hw : TreeWF syn.stmts next) (hbd : BlockAt syn.stmts ctx.directIdx) (hbi : BlockAt syn.stmts ctx.indirectIdx)
    (hf : need.find? (fun a => a.path == r.mod.path) = some w) (hc : have_.contains r.mod.path = false)
    (x0 : XLine) (hx0 : x0 ∈ viewX syn.stmts) (hid0 : x0.id = r.lineId) (a ver : Bytes) (htoks : x0.toks = [B "require", a, ver]) :
    ∃ x1 ∈ viewX t.2.2.1.stmts, (x1.id = r.lineId ∨ x1.id = next) ∧ x1.toks = [B "require", a, w.vers] ∧
      BeforeKept x0.before x1.before ∧ x1.suffix = sfxAfter w.indirect x0.suffix := by
  rcases viewX_setReq syn next r.lineId w.vers w.indirect hw x0 hx0 hid0 a ver htoks with ⟨x1, hx1, e1, e2, e3, e4⟩
  cases ht with
  | drop h =>
    rcases h with h | h
    · rw [hf] at h; cases h
    · rw [hc] at h; cases h
  | keep w' hf' _ _ =>
    rw [hf] at hf'; cases hf'
    exact ⟨x1, hx1, Or.inl e1, e2, e3, e4⟩
  | move w' hf' _ =>
    rw [hf] at hf'; cases hf'
    have hidx : BlockAt (syn.updateLine r.lineId fun l => setIndirectLine w.indirect (setVersionLine w.vers l)).stmts
        (if w.indirect then ctx.indirectIdx else ctx.directIdx) := by
      split
      · exact hbi.updateLine hw.nodup _ _
      · exact hbd.updateLine hw.nodup _ _
    exact ⟨_, viewX_moveExisting _ next r.lineId _ (hw.setReq r.lineId w.vers w.indirect) x1 hx1 e1 a w.vers e2 hidx,
      Or.inr rfl, e2, e3, e4⟩

theorem sepLoop_first_comments (ctx : SepCtx) (need : List Want) (r : Require) (t : List Require) (w : Want)
    (have_ : List Bytes) (syn : FileSyntax) (next : Nat) (rs' : List Require) (have' : List Bytes) (syn' : FileSyntax) (next' : Nat)
    (hw : TreeWF syn.stmts next) (hbd : BlockAt syn.stmts ctx.directIdx) (hbi : BlockAt syn.stmts ctx.indirectIdx)
    (hf : need.find? (fun a => a.path == r.mod.path) = some w) (hc : have_.contains r.mod.path = false)
    (hnd : ((r :: t).map (·.lineId)).Nodup) (hlt : ∀ r' ∈ t, r'.lineId < next)
    (h : sepLoop ctx need (r :: t) have_ syn next = .ok (rs', have', syn', next'))
    (x0 : XLine) (hx0 : x0 ∈ viewX syn.stmts) (hid0 : x0.id = r.lineId) (a ver : Bytes) (htoks : x0.toks = [B "require", a, ver]) :
    ∃ x1 ∈ viewX syn'.stmts, (x1.id = r.lineId ∨ x1.id = next) ∧ x1.toks = [B "require", a, w.vers] ∧
      BeforeKept x0.before x1.before ∧ x1.suffix = sfxAfter w.indirect x0.suffix := by
  rcases sepLoop_cons_ok h with ⟨_, rs'', _, hrec⟩
  rcases (sepStep_spec ctx need r have_ syn next).first_comments hw hbd hbi hf hc x0 hx0 hid0 a ver htoks
    with ⟨xt, hxt, hidt, e2, e3, e4⟩
  refine ⟨xt, sepLoop_keepsEq ctx need t _ _ _ _ _ _ _ hrec xt hxt ?_, hidt, e2, e3, e4⟩
  intro hmem
  rcases List.mem_map.1 hmem with ⟨r', hr', hid'⟩
  rcases hidt with hh | hh
  · exact (List.nodup_cons.1 hnd).1 (List.mem_map.2 ⟨r', hr', hid'.trans hh⟩)
  · have := hlt r' hr'
    omega

theorem setRequireSeparateIndirect_comments_pre (e e' : EFile) (req : List Want) (perm : List Want → List Want)
    (hg : GoodWant req) (hi : Inv e) (hlive : ∀ r ∈ e.f.require, liveRq r = true)
    (hset : NoNestedIndirectMarker e) (h : setRequireSeparateIndirect e req perm = .ok e')
    (d : List Require) (r : Require) (t : List Require) (hsplit : e.f.require = d ++ r :: t)
    (hfirst : ∀ r' ∈ d, r'.mod.path ≠ r.mod.path) (w : Want) (hw : w ∈ req) (hwp : w.path = r.mod.path)
    (x0 : XLine) (hx0 : x0 ∈ viewX e.f.syn.stmts) (hid0 : x0.id = r.lineId) :
    ∃ x' ∈ viewX e'.f.syn.stmts, x'.toks = [B "require", autoQuote r.mod.path, w.vers] ∧
      BeforeKept x0.before x'.before ∧ x'.suffix = sfxAfter w.indirect x0.suffix := by
  -- the line is followed through the five stages: the block phase changes no line (`sepStage_viewX`); the loop over the
  -- requirements before `r` does not touch it (`sepLoop_keepsEq`, its id is not theirs); the step at `r` rewrites or moves it
  -- (`sepLoop_first_comments`); the later steps, the added requirements and SortBlocks keep it (`foldl_addSepNew_keepsEq`,
  -- `keepsEq_sortBlocks`: it is no duplicate)
  have hr : r ∈ e.f.require := by rw [hsplit]; exact List.mem_append_right _ List.mem_cons_self
  have hlr := hlive r hr
  have htoks : x0.toks = [B "require", autoQuote r.mod.path, r.mod.version] :=
    (hi.acc_of_id hx0 (mem_entries_require hr hlr) hid0.symm).1
  have hfind := hg.find_eq hw hwp
  have hidlt : ∀ r' ∈ e.f.require, r'.lineId < e.next := fun r' hr' =>
    hi.mtch.ids_lt hi.tree (entRq r') (mem_entries_require hr' (hlive r' hr'))
  have hnd := hi.require_ids_nodup hlive
  rcases setRSI_stages h with ⟨s1, dI, dO, lI, sh, s2, iI, iO, h1, h2, ht⟩
  have hgood := sepStage_spec e.f.syn.stmts hi.tree.shape hi.view2 _ (scan_inv _) h1 h2
  have hx0s : x0 ∈ viewX s2 := sepStage_viewX e.f.syn.stmts hi.tree.shape hi.view2 _ (scan_inv _) h1 h2 ▸ hx0
  generalize hctx : (SepCtx.mk (sepOneFlat e.f.syn.stmts (scanStmts e.f.syn.stmts 0 {})) dI iI dO iO
    (scanStmts e.f.syn.stmts 0 {}).lineToBlock) = ctx at ht
  have hcd : ctx.directIdx = dI := by rw [← hctx]
  have hci : ctx.indirectIdx = iI := by rw [← hctx]
  rcases sepTail_loop hg ht with ⟨rq, have', syn', next', hr', rfl⟩
  have hw0 : TreeWF s2 e.next :=
    ⟨by rw [hgood.ids_eq]; exact hi.tree.nodup, by rw [hgood.ids_eq]; exact hi.tree.lt, by rw [hgood.ids_eq]; exact hi.tree.pos,
     hgood.shape.blockTok, hgood.shape.flagTop, hgood.shape.flagIn, hgood.shape.noBlockSuffix⟩
  have hset0 : ∀ r ∈ e.f.require, ∀ v ∈ view s2, v.id = r.lineId → MarkerSettable v.suffix := by
    intro r hr v hv; rw [hgood.view_eq] at hv; exact hset r hr v hv
  -- split at `r`
  rw [hsplit] at hr' hnd
  rcases sepLoop_split ctx req (r :: t) d [] _ e.next rq have' syn' next' hr' with ⟨d', hm, synm, nextm, rs'', q1, q2, _, q4⟩
  have hmd : Match (segA_require e.f ++ (entsOf liveRq entRq ([] ++ d) ++ (entsOf liveRq entRq (r :: t) ++ segC_require e.f))) (view s2) := by
    simp only [List.nil_append]
    rw [← List.append_assoc (entsOf liveRq entRq d), ← entsOf_append, ← hsplit, ← entries_require, hgood.view_eq]
    exact hi.mtch
  have hlived : ∀ r' ∈ d, liveRq r' = true := fun r' hr' => hlive r' (by rw [hsplit]; exact List.mem_append_left _ hr')
  have hsetd : ∀ r' ∈ d, ∀ v ∈ view s2, v.id = r'.lineId → MarkerSettable v.suffix :=
    fun r' hr' => hset0 r' (by rw [hsplit]; exact List.mem_append_left _ hr')
  rcases sepLoop_inv (V := fullView) (A := segA_require e.f) (C := entsOf liveRq entRq (r :: t) ++ segC_require e.f) ctx req d [] []
    { e.f.syn with stmts := s2 } e.next d' hm synm nextm hlived hw0 hi.tinv.pos hmd (by rw [hcd]; exact hgood.direct)
    (by rw [hci]; exact hgood.indirect) hsetd q1 with ⟨hwm, hlem, _, hbdm, hbim⟩
  have hndd : ∀ r' ∈ d, r'.lineId ≠ r.lineId := by
    intro r' hr' e0
    simp only [List.map_append, List.map_cons] at hnd
    rcases List.nodup_append.1 hnd with ⟨_, _, n3⟩
    exact n3 _ (List.mem_map.2 ⟨r', hr', rfl⟩) _ List.mem_cons_self e0
  have hx0m : x0 ∈ viewX synm.stmts := by
    refine sepLoop_keepsEq ctx req d _ _ _ _ _ _ _ q1 x0 hx0s ?_
    intro hmem
    rcases List.mem_map.1 hmem with ⟨r', hr', e0⟩
    exact hndd r' hr' (e0.trans hid0)
  have hcm : hm.contains r.mod.path = false := by
    cases hcc : hm.contains r.mod.path with
    | false => rfl
    | true =>
      have hmem : r.mod.path ∈ hm := by simpa using hcc
      rcases q4 _ hmem with h0 | ⟨r', hr', e0⟩
      · cases h0
      · exact absurd e0 (hfirst r' hr')
  have hndt : ((r :: t).map (·.lineId)).Nodup := by
    simp only [List.map_append] at hnd
    exact (List.nodup_append.1 hnd).2.1
  have hltt : ∀ r' ∈ t, r'.lineId < nextm := fun r' hr' =>
    Nat.lt_of_lt_of_le (hidlt r' (by rw [hsplit]; exact List.mem_append_right _ (List.mem_cons_of_mem _ hr'))) hlem
  rcases sepLoop_first_comments ctx req r t w hm synm nextm rs'' have' syn' next'
    hwm hbdm hbim hfind hcm hndt hltt q2 x0 hx0m hid0 _ _ htoks with ⟨x1, hx1, hid1, e2, e3, e4⟩
  -- the missing entries, SortBlocks
  have hx2 := foldl_addSepNew_keepsEq ctx ((perm req).filter fun w => !have'.contains w.path)
    (⟨{ e.f with require := rq, syn := syn' }, next'⟩ : EFile) x1 hx1 (by simp)
  have k3 := keepsEq_sortBlocks (((perm req).filter fun w => !have'.contains w.path).foldl (addSepNew ctx)
    (⟨{ e.f with require := rq, syn := syn' }, next'⟩ : EFile))
  rcases foldl_addSepNew_fields ctx ((perm req).filter fun w => !have'.contains w.path)
    (⟨{ e.f with require := rq, syn := syn' }, next'⟩ : EFile) with ⟨f1, f2, f3⟩
  rw [kill3_congr (g := e.f) f1 f2 f3] at k3
  refine ⟨x1, k3 x1 hx2 ?_, e2, e3, e4⟩
  rcases hid1 with hh | hh
  · rw [hh]; exact hi.require_not_killed r hr hlr
  · intro hk
    have := hi.kill3_lt _ hk
    omega

/-- **C16 `comments_survive`, SetRequireSeparateIndirect.**  As `setRequire_comments_eq`; the line may have moved to another
    block, under a fresh id. -/
theorem setRequireSeparateIndirect_comments_eq (e e' : EFile) (req : List Want) (perm : List Want → List Want)
    (hperm : ∀ l, (perm l).Perm l) (hg : GoodWant req) (hi : Inv e) (hlive : ∀ r ∈ e.f.require, liveRq r = true)
    (hset : NoNestedIndirectMarker e) (h : setRequireSeparateIndirect e req perm = .ok e')
    (d : List Require) (r : Require) (t : List Require) (hsplit : e.f.require = d ++ r :: t)
    (hfirst : ∀ r' ∈ d, r'.mod.path ≠ r.mod.path) (w : Want) (hw : w ∈ req) (hwp : w.path = r.mod.path)
    (x0 : XLine) (hx0 : x0 ∈ viewX e.f.syn.stmts) (hid0 : x0.id = r.lineId) :
    ∃ x' ∈ viewX (cleanup e').f.syn.stmts, x'.toks = [B "require", autoQuote r.mod.path, w.vers] ∧
      BeforeKept x0.before x'.before ∧ x'.suffix = sfxAfter w.indirect x0.suffix := by
  rcases setRequireSeparateIndirect_comments_pre e e' req perm hg hi hlive hset h d r t hsplit hfirst w hw hwp x0 hx0 hid0
    with ⟨x3, hx3, e2, e3, e4⟩
  rcases keepsS_cleanupStmts _ (setRequireSeparateIndirect_inv e e' req perm hperm hg hi hlive hset h).tree.noBlockSuffix
    x3 hx3 (by simp) with ⟨x4, hx4, h34⟩
  exact ⟨x4, hx4, by rw [h34.2.1, e2], e3.trans_sub h34.2.2.1, h34.2.2.2.trans e4⟩

/-- `setIndirect` changes the text of the first end-of-line comment only; a comment that is only the marker is dropped -/
theorem sfxAfter_cons (b : Bool) (c : Comment) (rest : List Comment) :
    (∃ tok, sfxAfter b (c :: rest) = { c with token := tok } :: rest) ∨
    (b = false ∧ sfxAfter b (c :: rest) = [] ∧ GoStrings.trimSpace (GoStrings.trimPrefix c.token slashSlash) = B "indirect") := by
  unfold sfxAfter setIndirectLine
  split
  · exact Or.inl ⟨c.token, rfl⟩
  · cases b with
    | true => simp only [if_true]; exact Or.inl ⟨_, rfl⟩
    | false =>
      simp only [Bool.false_eq_true, if_false]
      split
      · rename_i hf
        exact Or.inr ⟨trivial, rfl, eq_of_beq hf⟩
      · exact Or.inl ⟨_, rfl⟩

theorem sfxAfter_nil_eq (b : Bool) : sfxAfter b [] = if b then [{ token := indirectTok, suffix := true }] else [] := by
  cases b <;> rfl

end ModVerif.Modfile.Edit
