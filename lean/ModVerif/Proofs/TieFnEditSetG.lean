/-
  `File.SetRequireSeparateIndirect`: LOCAL frame lemmas for the statement relation (only the lines of the tree and the
  blocks of the statement list are read), and the closure `ensureBlock` as equations on the heap and on the graph
  (a `*Line` statement is wrapped into a new block: `RepSynAt_wrap`).
-/
import ModVerif.Proofs.TieFnEditSetF
namespace ModVerif.Tie.FnEditSetG
open ModVerif ModVerif.GoRt ModVerif.Generated.Edit ModVerif.Tie.FnEditRep ModVerif.Tie.FnEditTreeA ModVerif.Tie.FnEditLoop ModVerif.Tie.FnEditSetA
  ModVerif.Tie.FnEditSetB ModVerif.Tie.FnEditSetD ModVerif.Tie.FnEditSetE ModVerif.Tie.FnEditSetF
open ModVerif.Modfile.Edit (EFile insertAt emptyRequireBlock treeIds appendToBlock)

theorem RLines_local {h h' : Heap} : ∀ {ps : List Int} {ls : List Modfile.Line},
    (∀ l ∈ ls, ∀ v, heapGet h.lines (l.id : Int) = .ok v → heapGet h'.lines (l.id : Int) = .ok v) →
    RLines h ps ls → RLines h' ps ls
  | [], [], _, _ => trivial
  | p :: ps, l :: ls, hl, r => by
    refine ⟨⟨?_, r.1.2⟩, RLines_local (fun l' hl' => hl l' (List.mem_cons_of_mem _ hl')) r.2⟩
    have := r.1.2
    rw [this]
    exact hl l List.mem_cons_self _ (by rw [← this]; exact r.1.1)
  | [], _ :: _, _, r => r.elim
  | _ :: _, [], _, r => r.elim

theorem RStmts_local {h h' : Heap} (hc : h'.cbs = h.cbs) : ∀ {es : List Expr} {ss : List Modfile.Expr},
    (∀ i ∈ treeIds ss, ∀ v, heapGet h.lines (i : Int) = .ok v → heapGet h'.lines (i : Int) = .ok v) →
    (∀ p ∈ blockPtrs es, ∀ v, heapGet h.blocks p = .ok v → heapGet h'.blocks p = .ok v) →
    RStmts h es ss → RStmts h' es ss
  | [], [], _, _, _ => trivial
  | e :: es, s :: ss, hl, hb, r => by
    have hl2 : ∀ i ∈ treeIds ss, ∀ v, heapGet h.lines (i : Int) = .ok v → heapGet h'.lines (i : Int) = .ok v := by
      intro i hi; apply hl; rw [Modfile.Edit.treeIds_cons]; exact List.mem_append_right _ hi
    have hl1 : ∀ i ∈ treeIds [s], ∀ v, heapGet h.lines (i : Int) = .ok v → heapGet h'.lines (i : Int) = .ok v := by
      intro i hi; apply hl; rw [Modfile.Edit.treeIds_cons]; exact List.mem_append_left _ hi
    have r1 := r.1
    cases e <;> cases s <;> simp only [RExpr] at r1 <;> try exact r1.elim
    · refine ⟨?_, RStmts_local hc hl2 (fun p hp => hb p (by simpa [blockPtrs] using hp)) r.2⟩
      simp only [RExpr]; rw [hc]; exact r1
    · rename_i p l
      refine ⟨?_, RStmts_local hc hl2 (fun p hp => hb p (by simpa [blockPtrs] using hp)) r.2⟩
      simp only [RExpr]
      have := RLines_local (h := h) (h' := h') (ps := [p]) (ls := [l])
        (fun l' hl' => by simp only [List.mem_singleton] at hl'; subst hl'; exact hl1 _ (by simp [treeIds, Modfile.Edit.loc, Modfile.Edit.locStmt]))
        ⟨r1, trivial⟩
      exact this.1
    · rename_i p b
      refine ⟨?_, RStmts_local hc hl2 (fun p hp => hb p (by simp only [blockPtrs, List.mem_cons]; exact Or.inr hp)) r.2⟩
      simp only [RExpr]
      obtain ⟨ps, hg, hls⟩ := r1
      refine ⟨ps, hb p (by simp [blockPtrs]) _ hg, RLines_local ?_ hls⟩
      intro l' hl'
      exact hl1 _ (by rw [Modfile.Edit.treeIds_block]; exact List.mem_map.2 ⟨l', hl', rfl⟩)
  | [], _ :: _, _, _, r => r.elim
  | _ :: _, [], _, _, r => r.elim

theorem treeIds_line (l : Modfile.Line) : treeIds [Modfile.Expr.line l] = [l.id] := by
  simp [treeIds, Modfile.Edit.loc, Modfile.Edit.locStmt]

theorem treeIds_mid (sa : List Modfile.Expr) (s : Modfile.Expr) (sb : List Modfile.Expr) :
    treeIds (sa ++ s :: sb) = treeIds sa ++ (treeIds [s] ++ treeIds sb) := by
  rw [Modfile.Edit.treeIds_append, Modfile.Edit.treeIds_cons]

theorem blockPtrs_mid_block (a : List Expr) (p : Int) (b : List Expr) :
    blockPtrs (a ++ Expr.LineBlock p :: b) = blockPtrs a ++ p :: blockPtrs b := by
  rw [blockPtrs_append]; rfl

theorem blockPtrs_mid_line (a : List Expr) (p : Int) (b : List Expr) :
    blockPtrs (a ++ Expr.Line p :: b) = blockPtrs a ++ blockPtrs b := by
  rw [blockPtrs_append]; rfl

/-! ### ensureBlock -/

/-- `&LineBlock{Token: []string{"require"}, Line: []*Line{stmt}}` -/
def wrapBlock (q : Int) : LineBlock := { (default : LineBlock) with Token := [([114, 101, 113, 117, 105, 114, 101] : Bytes)], Line := [q] }

theorem wrapBlock_eq (q : Int) : wrapBlock q = blockG { token := [B "require"] } [q] := by
  rw [B_require]; rfl

/-- the line function of ensureBlock: `stmt.Token = stmt.Token[1:]; stmt.InBlock = true` -/
def wrapLine (l : Modfile.Line) : Modfile.Line := { l with token := l.token.drop 1, inBlock := true }

theorem IdEquiv_wrapLine : IdEquiv wrapLine := fun _ _ => rfl

/-- the heap after `ensureBlock(i)` on a line -/
def wrapHeap (h : Heap) (x : Int) (fo : FileSyntax) (es' : List Expr) (q : Int) (l : Modfile.Line) : Heap :=
  { h with blocks := h.blocks ++ [wrapBlock q], lines := h.lines.set (q.toNat - 1) (lineG (wrapLine l)),
           files := h.files.set (x.toNat - 1) { fo with Stmt := es' } }

theorem ensureBlock_block (isPrint : Int → Bool) (quote : Bytes → Bytes) (fuel : Nat) {h : Heap} {f : Int} {o : File} {fo : FileSyntax}
    (hm : heapGet h.mods f = .ok o) (hfile : heapGet h.files o.Syntax = .ok fo) (a b : List Expr) (p : Int)
    (hab : fo.Stmt = a ++ Expr.LineBlock p :: b) :
    File_SetRequireSeparateIndirect_ensureBlock isPrint quote fuel f (a.length : Int) h = .ok (p, h) := by
  unfold File_SetRequireSeparateIndirect_ensureBlock
  simp only [bind, Except.bind, pure, Except.pure, hm, hfile, hab, idxL_mid]

theorem ensureBlock_line (isPrint : Int → Bool) (quote : Bytes → Bytes) (fuel : Nat) {h : Heap} {f : Int} {o : File} {fo : FileSyntax}
    (hm : heapGet h.mods f = .ok o) (hfile : heapGet h.files o.Syntax = .ok fo) (a b : List Expr) (q : Int)
    (hab : fo.Stmt = a ++ Expr.Line q :: b) {l : Modfile.Line} (hq : heapGet h.lines q = .ok (lineG l)) (ht : l.token ≠ []) :
    File_SetRequireSeparateIndirect_ensureBlock isPrint quote fuel f (a.length : Int) h =
      .ok (((h.blocks.length + 1 : Nat) : Int),
           wrapHeap h o.Syntax fo (a ++ Expr.LineBlock ((h.blocks.length + 1 : Nat) : Int) :: b) q l) := by
  obtain ⟨t0, ts, htok⟩ := List.exists_cons_of_ne_nil ht
  unfold File_SetRequireSeparateIndirect_ensureBlock
  simp only [heapAlloc, bind, Except.bind, pure, Except.pure, hm, hfile, hab, idxL_mid, hq, lineG_Token, htok, sliceFrom_one_cons,
    heapSet_of_get _ hq, fun X => heapGet_listSet_same X hq, fun X Y => heapSet_listSet_same hq X Y, setIdxL_mid,
    heapSet_of_get _ hfile]
  simp only [wrapHeap, wrapLine, lineG, htok, List.drop_one, List.tail_cons]
  rfl

theorem ensureBlock_bad (isPrint : Int → Bool) (quote : Bytes → Bytes) (fuel : Nat) {h : Heap} {f : Int} {o : File} {fo : FileSyntax}
    (hm : heapGet h.mods f = .ok o) (hfile : heapGet h.files o.Syntax = .ok fo) (i : Nat)
    (hbad : ∀ p, fo.Stmt[i]? ≠ some (Expr.LineBlock p) ∧ fo.Stmt[i]? ≠ some (Expr.Line p)) :
    File_SetRequireSeparateIndirect_ensureBlock isPrint quote fuel f (i : Int) h = .error .panic := by
  unfold File_SetRequireSeparateIndirect_ensureBlock
  simp only [bind, Except.bind, pure, Except.pure, hm, hfile]
  by_cases hi : i < fo.Stmt.length
  · rw [idxL_natCast hi]
    have hget : fo.Stmt[i]? = some fo.Stmt[i] := List.getElem?_eq_getElem hi
    cases he : fo.Stmt[i] with
    | LineBlock p => rw [he] at hget; exact absurd hget (hbad p).1
    | Line p => rw [he] at hget; exact absurd hget (hbad p).2
    | _ => rfl
  · rw [idxL_natCast_ge (by omega)]

theorem RepSynAt_wrap {h : Heap} {x : Int} {fs : Modfile.FileSyntax} {a b : List Expr} {q : Int}
    (r : RepSynAt h x fs (a ++ Expr.Line q :: b)) {sa sb : List Modfile.Expr} {l : Modfile.Line}
    (hs : fs.stmts = sa ++ Modfile.Expr.line l :: sb) (hl : sa.length = a.length) :
    RepSynAt (wrapHeap h x (fileG fs (a ++ Expr.Line q :: b)) (a ++ Expr.LineBlock ((h.blocks.length + 1 : Nat) : Int) :: b) q l) x
      { fs with stmts := sa ++ Modfile.Expr.lineBlock { token := [B "require"], lines := [wrapLine l] } :: sb }
      (a ++ Expr.LineBlock ((h.blocks.length + 1 : Nat) : Int) :: b) := by
  obtain ⟨sa', sb', h1, h2, h3, h4⟩ := RStmts_append_inv r.stmts
  have hsa : sa' = sa := by
    have := congrArg (List.take a.length) (h1.symm.trans hs)
    rw [← h2, List.take_left, h2, ← hl, List.take_left] at this
    exact this
  subst hsa
  cases sb' with
  | nil => exact h4.elim
  | cons s0 sb0 =>
    have hcons : s0 :: sb0 = Modfile.Expr.line l :: sb := List.append_cancel_left (h1.symm.trans hs)
    injection hcons with e1 e2
    subst e1 e2
    obtain ⟨hline, h5⟩ := h4
    simp only [RExpr] at hline
    obtain ⟨hq, hqid⟩ := hline
    have hnd := r.nodupL
    rw [hs, treeIds_mid, treeIds_line] at hnd
    have hnd' := List.nodup_append.1 hnd
    have hnd2 := List.nodup_append.1 hnd'.2.1
    have hqn : q.toNat = l.id := by omega
    -- the frame for the other statements
    have hframe : ∀ {es ss}, RStmts h es ss → l.id ∉ treeIds ss →
        RStmts (wrapHeap h x (fileG fs (a ++ Expr.Line q :: b)) (a ++ Expr.LineBlock ((h.blocks.length + 1 : Nat) : Int) :: b) q l) es ss := by
      intro es ss rr hn
      refine RStmts_local (h := h)
        (h' := wrapHeap h x (fileG fs (a ++ Expr.Line q :: b)) (a ++ Expr.LineBlock ((h.blocks.length + 1 : Nat) : Int) :: b) q l)
        rfl ?_ ?_ rr
      · intro i hi v hv
        show heapGet (h.lines.set (q.toNat - 1) _) _ = _
        have hne : ((i : Nat) : Int) ≠ q := by
          intro e
          rw [hqid] at e
          have : i = l.id := by omega
          subst this; exact hn hi
        rw [heapGet_listSet_other _ hq hne]
        exact hv
      · intro p _ v hv
        exact heapGet_alloc_old _ hv
    refine ⟨?_, ?_, ?_, ?_⟩
    · exact heapGet_listSet_same _ r.file
    · refine RStmts.append (hframe h3 (fun hm => hnd'.2.2 _ hm _ (List.mem_append_left _ (List.mem_singleton.2 rfl)) rfl))
        ⟨?_, hframe h5 (fun hm => hnd2.2.2 _ (List.mem_singleton.2 rfl) _ hm rfl)⟩
      refine ⟨[q], ?_, ⟨?_, hqid⟩, trivial⟩
      · show heapGet (h.blocks ++ [wrapBlock q]) _ = _
        rw [wrapBlock_eq]
        exact heapGet_alloc_new _ _
      · show heapGet (h.lines.set (q.toNat - 1) _) _ = _
        exact heapGet_listSet_same _ hq
    · rw [blockPtrs_mid_block]
      have hnb := r.nodupB
      rw [blockPtrs_mid_line] at hnb
      have hfresh : ∀ p ∈ blockPtrs (a ++ Expr.Line q :: b), p ≠ ((h.blocks.length + 1 : Nat) : Int) := by
        intro p hp
        have := (RStmts_blockPtrs_le r.stmts p hp).2
        omega
      rw [blockPtrs_mid_line] at hfresh
      apply TieFnEditAddLine.nodup_insert_fresh hnb
      · intro hm; exact hfresh _ (List.mem_append_left _ hm) rfl
      · intro hm; exact hfresh _ (List.mem_append_right _ hm) rfl
    · show (treeIds (sa' ++ Modfile.Expr.lineBlock { token := [B "require"], lines := [wrapLine l] } :: sb0)).Nodup
      rw [treeIds_mid, Modfile.Edit.treeIds_block]
      exact hnd

end ModVerif.Tie.FnEditSetG
