/-
  Tie of `Client.initWork` and `Client.init` (Generated/FnClient.lean) against the hand model's `initWork` / `init`
  (Model/Client.lean), under the representation relation of Proofs/TieFnClientRep.lean and the correspondence of
  `Client_mergeLatest` taken as a hypothesis (`MergeLatestSpec`; Tie/FnClientC01.lean discharges it by the tie of the
  merge unit).
-/
import ModVerif.Proofs.TieFnClientRep
import ModVerif.Proofs.TieFnClientLookupGen
import ModVerif.Proofs.ClientEffectsLookup
import ModVerif.Tie.FnNoteKey
import ModVerif.Model.Client

/-
  The external operations of the hand model of the sumdb client (Model/Client.lean) commute with overwriting the field
  `inited` (`wi`): nothing below `init` reads it.  (That nothing below `init` changes it is the frame `ClientEffects.EF`.)
-/
namespace ModVerif.TieFnClientLookup
open ModVerif ModVerif.Client ModVerif.Tile

section
variable {σ H : Type}

def wi (x : Option (Option Err)) (w : World σ H) : World σ H := { w with c := { w.c with inited := x } }

@[simp] theorem wi_s (x : Option (Option Err)) (w : World σ H) : (wi x w).s = w.s := rfl
@[simp] theorem wi_tr (x : Option (Option Err)) (w : World σ H) : (wi x w).tr = w.tr := rfl
@[simp] theorem wi_name (x : Option (Option Err)) (w : World σ H) : (wi x w).c.name = w.c.name := rfl
@[simp] theorem wi_verifiers (x : Option (Option Err)) (w : World σ H) : (wi x w).c.verifiers = w.c.verifiers := rfl
@[simp] theorem wi_latest (x : Option (Option Err)) (w : World σ H) : (wi x w).c.latest = w.c.latest := rfl
@[simp] theorem wi_latestMsg (x : Option (Option Err)) (w : World σ H) : (wi x w).c.latestMsg = w.c.latestMsg := rfl
@[simp] theorem wi_record (x : Option (Option Err)) (w : World σ H) : (wi x w).c.record = w.c.record := rfl
@[simp] theorem wi_tileCache (x : Option (Option Err)) (w : World σ H) : (wi x w).c.tileCache = w.c.tileCache := rfl
@[simp] theorem wi_tileSaved (x : Option (Option Err)) (w : World σ H) : (wi x w).c.tileSaved = w.c.tileSaved := rfl
@[simp] theorem wi_inited (x : Option (Option Err)) (w : World σ H) : (wi x w).c.inited = x := rfl
@[simp] theorem wi_wi (x y : Option (Option Err)) (w : World σ H) : wi x (wi y w) = wi x w := rfl
theorem wi_self (w : World σ H) : wi w.c.inited w = w := rfl
theorem setInit_eq_wi (w : World σ H) (e : Option Err) : setInit w e = wi (some e) w := rfl

variable (E : Env σ) (x : Option (Option Err))

theorem readRemote_wi (w : World σ H) (p : Bytes) :
    readRemote E (wi x w) p = ((readRemote E w p).1, wi x (readRemote E w p).2) := rfl
theorem readCache_wi (w : World σ H) (p : Bytes) :
    readCache E (wi x w) p = ((readCache E w p).1, wi x (readCache E w p).2) := rfl
theorem readConfig_wi (w : World σ H) (p : Bytes) :
    readConfig E (wi x w) p = ((readConfig E w p).1, wi x (readConfig E w p).2) := rfl
theorem writeCache_wi (w : World σ H) (f d : Bytes) :
    writeCache E (wi x w) f d = wi x (writeCache E w f d) := rfl
theorem writeConfig_wi (w : World σ H) (f o n : Bytes) :
    writeConfig E (wi x w) f o n = ((writeConfig E w f o n).1, wi x (writeConfig E w f o n).2) := rfl
theorem securityError_wi (w : World σ H) (m : Bytes) :
    securityError E (wi x w) m = wi x (securityError E w m) := rfl
theorem markTileSaved_wi (w : World σ H) (t : Tile) :
    markTileSaved (wi x w) t = wi x (markTileSaved w t) := rfl

end
end ModVerif.TieFnClientLookup

namespace ModVerif.TieFnClientLookup
open ModVerif ModVerif.GoRt ModVerif.GoRtTile ModVerif.Generated.SumdbClient ModVerif.TieFnClientRep
open ModVerif.TieFnTile (toGen)

section
variable {σ H : Type} [DecidableEq H] [Inhabited H]

/-- what the tie of `Client_mergeLatest` provides: `AM fuel w msg` is its side condition (enough fuel for the run of the
    model from `w`, none of the model-only outcomes) -/
def MergeLatestSpec (P : Client.Params H) (E : Client.Env σ) (AM : Nat → Client.World σ H → Bytes → Prop) : Prop :=
  ∀ (w : Client.World σ H) (cw : GW σ H) (msg : Bytes) (fuel : Nat), RepRun P E w cw → AM fuel w msg →
    ∃ r' cw', Client_mergeLatest (envOf P E) fuel msg cw = .ok (r', cw') ∧
      RepRun P E (Client.mergeLatest P E w msg).2 cw' ∧ RepUnit r' (Client.mergeLatest P E w msg).1 ∧
      cw'.initDone = cw.initDone ∧ cw'.initErr = cw.initErr

def CheckRecordSpec (P : Client.Params H) (E : Client.Env σ) (AC : Nat → Client.World σ H → Int → Bytes → Prop) : Prop :=
  ∀ (w : Client.World σ H) (cw : GW σ H) (id : Int) (data : Bytes) (fuel : Nat), RepRun P E w cw → AC fuel w id data →
    ∃ r' cw', Client_checkRecord (envOf P E) fuel id data cw = .ok (r', cw') ∧
      RepRun P E (Client.checkRecord P E w id data).2 cw' ∧ RepUnit r' (Client.checkRecord P E w id data).1 ∧
      cw'.initDone = cw.initDone ∧ cw'.initErr = cw.initErr

/-- what `Lookup` needs to know of a call below it: `initOnce` (`initDone`, hence the D) and `c.initErr` are left alone -/
def FrameD (cw cw' : GW σ H) : Prop := cw'.initDone = cw.initDone ∧ cw'.initErr = cw.initErr

omit [DecidableEq H] [Inhabited H] in
theorem framingD : Framing (σ := σ) (H := H) FrameD (fun _ _ => True) :=
  ⟨fun _ => ⟨rfl, rfl⟩, fun _ => trivial, fun h1 h2 => ⟨h2.1.trans h1.1, h2.2.trans h1.2⟩, fun _ _ => trivial⟩

omit [DecidableEq H] [Inhabited H] in
theorem withS_frameD (cw : GW σ H) (w' : Client.World σ H) : FrameD cw (withS cw w') := ⟨rfl, rfl⟩

theorem MergeLatestSpec.ties {P : Client.Params H} {E : Client.Env σ} {AM : Nat → Client.World σ H → Bytes → Prop}
    (hM : MergeLatestSpec P E AM) {w : Client.World σ H} {cw : GW σ H} {msg : Bytes} {fuel : Nat}
    (hr : RepRun P E w cw) (ha : AM fuel w msg) :
    Ties (RepRun P E) FrameD (fun _ _ => True) RepUnit id w cw (Client_mergeLatest (envOf P E) fuel msg cw)
      (Client.mergeLatest P E w msg) := by
  obtain ⟨r', cw', h1, h2, h3, h4, h5⟩ := hM w cw msg fuel hr ha
  exact ⟨r', cw', h1, h2, h3, ⟨h4, h5⟩, trivial⟩

theorem CheckRecordSpec.ties {P : Client.Params H} {E : Client.Env σ} {AC : Nat → Client.World σ H → Int → Bytes → Prop}
    (hC : CheckRecordSpec P E AC) {w : Client.World σ H} {cw : GW σ H} {id : Int} {data : Bytes} {fuel : Nat}
    (hr : RepRun P E w cw) (ha : AC fuel w id data) :
    Ties (RepRun P E) FrameD (fun _ _ => True) RepUnit _root_.id w cw (Client_checkRecord (envOf P E) fuel id data cw)
      (Client.checkRecord P E w id data) := by
  obtain ⟨r', cw', h1, h2, h3, h4, h5⟩ := hC w cw id data fuel hr ha
  exact ⟨r', cw', h1, h2, h3, ⟨h4, h5⟩, trivial⟩

/-- the side condition of `mergeLatest` at the point where `initWork` calls it (if it gets there) -/
def InitAdm (P : Client.Params H) (E : Client.Env σ) (AM : Nat → Client.World σ H → Bytes → Prop) (fuel : Nat)
    (w : Client.World σ H) : Prop :=
  match (Client.readConfig E w (B "key")).1 with
  | none => True
  | some vkey =>
    match Note.NewVerifier P.sha P.edVerify (GoStrings.trimSpace vkey) with
    | .error _ => True
    | .ok v =>
      let rk := Client.readConfig E w (B "key")
      let w1 : Client.World σ H := { rk.2 with c := { rk.2.c with verifiers := [v], name := v.name } }
      let rl := Client.readConfig E w1 (Client.latestFile v.name)
      match rl.1 with
      | none => True
      | some data => AM fuel rl.2 data

theorem core_setInit {P : Client.Params H} {E : Client.Env σ} {w : Client.World σ H} {cw : GW σ H}
    (h : RepCore P E w cw) (e : Option Client.Err) (g : Option String) :
    RepCore P E (Client.setInit w e) { cw with initErr := g } :=
  { h with }

theorem newVerifierX_eq (P : Client.Params H) (E : Client.Env σ) (vkey : Bytes) :
    newVerifierX (envOf P E) vkey = TieFnNoteKey.embedVerifier (Note.NewVerifier P.sha P.edVerify vkey) :=
  Tie.FnNoteKey.NewVerifier_tie P.sha P.edVerify vkey

theorem initLit_pass : "initializing sumdb.Client: %v" ∈ passLits := by simp [passLits]
theorem lookupLit_pass : "%s@%s: %v" ∈ passLits := by simp [passLits]

theorem repW_initFailed {P : Client.Params H} {E : Client.Env σ} {w : Client.World σ H} {cw : GW σ H}
    (hc : RepCore P E w cw) (hd : cw.initDone = true) (g : Option String) (e : Client.Err) (hg : RepErr g e) :
    RepW P E (Client.setInit w (some e)) { cw with initErr := wrapErr "initializing sumdb.Client: %v" g } :=
  { toRepCore := core_setInit hc _ _
    init := by
      unfold RepInit
      exact ⟨hd, errAbs_wrap _ initLit_pass g e hg⟩ }

omit [DecidableEq H] [Inhabited H] in
theorem failG_some (cw : GW σ H) (e : String) :
    failG cw (some e) = .ok ((), { cw with initErr := wrapErr "initializing sumdb.Client: %v" (some e) }) := rfl

/-- the model's `initWork` once the verifier is installed: the stored head is read and merged -/
def initTailM (P : Client.Params H) (E : Client.Env σ) (w1 : Client.World σ H) : Client.World σ H :=
  match (Client.readConfig E w1 (Client.latestFile w1.c.name)).1 with
  | none => Client.setInit (Client.readConfig E w1 (Client.latestFile w1.c.name)).2 (some .config)
  | some data =>
    match (Client.mergeLatest P E (Client.readConfig E w1 (Client.latestFile w1.c.name)).2 data).1 with
    | .error e => Client.setInit (Client.mergeLatest P E (Client.readConfig E w1 (Client.latestFile w1.c.name)).2 data).2 (some e)
    | .ok () => Client.setInit (Client.mergeLatest P E (Client.readConfig E w1 (Client.latestFile w1.c.name)).2 data).2 none

theorem initTail_tie (P : Client.Params H) (E : Client.Env σ) (AM : Nat → Client.World σ H → Bytes → Prop)
    (hM : MergeLatestSpec P E AM) (w1 : Client.World σ H) (cw2 : GW σ H) (fuel : Nat) (hr : RepRun P E w1 cw2)
    (hd : cw2.initDone = true) (he : cw2.initErr = none)
    (ha : ∀ data, (Client.readConfig E w1 (Client.latestFile w1.c.name)).1 = some data →
      AM fuel (Client.readConfig E w1 (Client.latestFile w1.c.name)).2 data) :
    ∃ cw', initTailG (envOf P E) fuel cw2 = .ok ((), cw') ∧ RepW P E (initTailM P E w1) cw' := by
  unfold initTailG initTailM
  rw [hr.name, latestFile_eq, readConfig_eq hr.s]
  have hr3 := hr.withS (w' := (Client.readConfig E w1 (Client.latestFile w1.c.name)).2) rfl
  cases hl : (Client.readConfig E w1 (Client.latestFile w1.c.name)).1 with
  | none =>
    simp only [readOut_none, Option.isNone_some, Bool.not_false, if_true, failG_some]
    exact ⟨_, rfl, repW_initFailed hr3.toRepCore hd _ _ ⟨_, rfl, errAbs_config⟩⟩
  | some data =>
    simp only [readOut_some, Option.isNone_none, Bool.not_true, Bool.false_eq_true, if_false]
    obtain ⟨r', w4g, hm, hrun4, hres, hd4, he4⟩ := hM _ _ data fuel hr3 (ha data hl)
    have hd4' : w4g.initDone = true := by rw [hd4]; exact hd
    have he4' : w4g.initErr = none := by rw [he4]; exact he
    rw [hm, mbind_ok]
    cases hmr : (Client.mergeLatest P E (Client.readConfig E w1 (Client.latestFile w1.c.name)).2 data).1 with
    | error e =>
      rw [hmr] at hres
      obtain ⟨s, rfl, hs⟩ := hres
      simp only [Option.isNone_some, Bool.not_false, if_true, failG_some]
      exact ⟨_, rfl, repW_initFailed hrun4.toRepCore hd4' _ _ ⟨_, rfl, hs⟩⟩
    | ok u =>
      cases u
      rw [hmr] at hres
      obtain rfl : r' = none := hres
      simp only [he4', Option.isNone_none, Bool.not_true, Bool.false_eq_true, if_false]
      refine ⟨_, rfl, { toRepCore := { hrun4.toRepCore with }, init := ?_ }⟩
      unfold RepInit
      exact ⟨hd4', he4', hrun4.tileHeight, hrun4.latestHash⟩

/-- `{ cw with initDone := true }`: `Client_init` sets `initOnce` before it calls `initWork` -/
theorem initWork_tie (P : Client.Params H) (E : Client.Env σ) (AM : Nat → Client.World σ H → Bytes → Prop)
    (hM : MergeLatestSpec P E AM) (hsha : ∀ x, 4 ≤ (P.sha x).length)
    (w : Client.World σ H) (cw : GW σ H) (fuel : Nat) (h : RepW P E w cw)
    (hin : w.c.inited = none) (hts : w.c.tileSaved = []) (ha : InitAdm P E AM fuel w) :
    ∃ cw', Client_initWork (envOf P E) fuel { cw with initDone := true } = .ok ((), cw') ∧
      RepW P E (Client.initWork P E w) cw' := by
  have hi := h.init
  unfold RepInit at hi
  rw [hin] at hi
  obtain ⟨hd0, he0, hth0, hz, hnz⟩ := hi
  have hc := h.toRepCore
  -- `if c.tileHeight == 0 { c.tileHeight = 8 }`: either way the rest runs from the same world `cwa`
  obtain ⟨cwa, hcwa, ha1, ha2, ha3, ha4⟩ : ∃ cwa : GW σ H,
      Client_initWork (envOf P E) fuel { cw with initDone := true } = initKeyG (envOf P E) fuel cwa ∧
      cwa = { cw with initDone := true, tileHeight := ((Client.tileHeight P : Nat) : Int) } ∧
      cwa.initDone = true ∧ cwa.initErr = none ∧ cwa.tileHeight = ((Client.tileHeight P : Nat) : Int) := by
    refine ⟨{ cw with initDone := true, tileHeight := ((Client.tileHeight P : Nat) : Int) }, ?_, rfl, rfl, he0, rfl⟩
    rw [initWork_unfold]
    by_cases hP : P.height = 0
    · rw [if_pos (decide_eq_true (show cw.tileHeight = 0 by rw [hth0, hP]; rfl)),
        show ((Client.tileHeight P : Nat) : Int) = 8 by simp [Client.tileHeight, hP]]
    · rw [if_neg (by simp only [decide_eq_true_eq]; show ¬ cw.tileHeight = 0; rw [hth0]; omega),
        show ((Client.tileHeight P : Nat) : Int) = cw.tileHeight by rw [hth0]; simp [Client.tileHeight, hP]]
  rw [hcwa]
  have hsx : ({ cwa with tileSaved := [] } : GW σ H).s = (w.s, w.tr) := by rw [ha1]; exact hc.s
  have hrc := readConfig_eq (P := P) (E := E) hsx (B "key")
  rw [← lit_key] at hrc
  unfold InitAdm at ha
  rw [← lit_key] at ha
  have hc1 : RepCore P E (Client.readConfig E w [107, 101, 121]).2
      (withS ({ cwa with tileSaved := [] } : GW σ H) (Client.readConfig E w [107, 101, 121]).2) := by
    subst ha1
    refine { hc with s := rfl, tileSaved := fun t _ => ?_ }
    show (mapGet ([] : List (Generated.Tile.Tile × Bool)) (toGen t) false).1 = w.c.tileSaved.contains t
    rw [hts]; rfl
  simp only [Client.initWork]
  rw [← lit_key]
  unfold initKeyG
  simp only [hrc]
  cases hk : (Client.readConfig E w [107, 101, 121]).1 with
  | none =>
    simp only [readOut_none, Option.isNone_some, Bool.not_false, if_true, failG_some]
    exact ⟨_, rfl, repW_initFailed hc1 ha2 _ _ ⟨_, rfl, errAbs_config⟩⟩
  | some vkey =>
    rw [hk] at ha
    simp only [readOut_some, Option.isNone_none, Bool.not_true, Bool.false_eq_true, if_false] at ha ⊢
    have hN : cwa.latest.N = (w.c.latest.n : Int) := by rw [ha1]; exact hc.latestN
    have hH : w.c.latest.n ≠ 0 → cwa.latest.Hash = w.c.latest.hash := by rw [ha1]; exact hnz
    have hd1 : (withS ({ cwa with tileSaved := [] } : GW σ H) (Client.readConfig E w [107, 101, 121]).2).initDone = true := ha2
    have he1 : (withS ({ cwa with tileSaved := [] } : GW σ H) (Client.readConfig E w [107, 101, 121]).2).initErr = none := ha3
    have hth1 : (withS ({ cwa with tileSaved := [] } : GW σ H) (Client.readConfig E w [107, 101, 121]).2).tileHeight =
        ((Client.tileHeight P : Nat) : Int) := ha4
    have hl1 : (withS ({ cwa with tileSaved := [] } : GW σ H) (Client.readConfig E w [107, 101, 121]).2).latest = cwa.latest :=
      rfl
    -- `w1g`: the generated world after the key was read; only the five facts above are used of it
    generalize withS ({ cwa with tileSaved := [] } : GW σ H) (Client.readConfig E w [107, 101, 121]).2 = w1g
      at hc1 hd1 he1 hth1 hl1 ⊢
    rw [newVerifierX_eq P E (trimSpace vkey)]
    have hnp := Tie.FnNoteKey.NewVerifier_no_panic P.sha hsha P.edVerify (GoStrings.trimSpace vkey)
    cases hv : Note.NewVerifier P.sha P.edVerify (GoStrings.trimSpace vkey) with
    | error e =>
      rw [show Note.NewVerifier P.sha P.edVerify (trimSpace vkey) = .error e from hv]
      cases e with
      | panic => exact absurd hv hnp
      | id => exact ⟨_, rfl, repW_initFailed hc1 hd1 _ _ ⟨_, rfl, errAbs_keyId⟩⟩
      | alg => exact ⟨_, rfl, repW_initFailed hc1 hd1 _ _ ⟨_, rfl, errAbs_keyAlg⟩⟩
      | hash => exact ⟨_, rfl, repW_initFailed hc1 hd1 _ _ ⟨_, rfl, errAbs_keyHash⟩⟩
    | ok v =>
      rw [show Note.NewVerifier P.sha P.edVerify (trimSpace vkey) = .ok v from hv]
      rw [hv] at ha
      simp only at ha
      have hN1 : w1g.latest.N = (w.c.latest.n : Int) := by rw [hl1]; exact hN
      -- the worlds after `c.verifiers = …; c.name = …`, with `c.latest.Hash = TreeHash(0)` if the tree is empty or without
      have hrun : ∀ (n : Int) (hash : H), n = (w.c.latest.n : Int) → hash = w.c.latest.hash →
          RepRun P E { (Client.readConfig E w [107, 101, 121]).2 with
              c := { (Client.readConfig E w [107, 101, 121]).2.c with verifiers := [v], name := v.name } }
            ({ w1g with verifiers := verifierList1 (TieFnNote.toGV v), name := v.name,
                        latest := { N := n, Hash := hash } } : GW σ H) := fun n hash hn hh =>
        { toRepCore := { hc1 with s := hc1.s, name := rfl, verifiers := rfl, vlen := Nat.le_refl _, latestN := hn },
          tileHeight := hth1, latestHash := hh }
      by_cases hn : w1g.latest.N = 0
      · simp only [TieFnNoteKey.embedVerifier, bind, Except.bind, Option.isNone_none, Bool.not_true, Bool.false_eq_true,
          if_false, hn, decide_true, if_true, treeHashW_zero]
        exact initTail_tie P E AM hM _ _ fuel (hrun 0 P.empty (by omega) (hz (by omega)).symm) hd1 he1 fun data hd => by
          rw [hd] at ha; exact ha
      · simp only [TieFnNoteKey.embedVerifier, bind, Except.bind, Option.isNone_none, Bool.not_true, Bool.false_eq_true,
          if_false, hn, decide_false]
        exact initTail_tie P E AM hM _ _ fuel
          (hrun w1g.latest.N w1g.latest.Hash hN1 (by rw [hl1]; exact hH (by omega))) hd1 he1
          fun data hd => by rw [hd] at ha; exact ha

theorem init_inited (P : Client.Params H) (E : Client.Env σ) (w : Client.World σ H) :
    (Client.init P E w).c.inited ≠ none :=
  (ClientEffects.init_trace (E := E) P w).1

theorem init_of_inited (P : Client.Params H) (E : Client.Env σ) (w : Client.World σ H) (x : Option Client.Err)
    (h : w.c.inited = some x) : Client.init P E w = w := by
  unfold Client.init; rw [h]

theorem init_of_none (P : Client.Params H) (E : Client.Env σ) (w : Client.World σ H)
    (h : w.c.inited = none) : Client.init P E w = Client.initWork P E w := by
  unfold Client.init; rw [h]

/-- `Client.init`: `c.initOnce.Do(c.initWork); return c.initErr` -/
theorem init_tie (P : Client.Params H) (E : Client.Env σ) (AM : Nat → Client.World σ H → Bytes → Prop)
    (hM : MergeLatestSpec P E AM) (hsha : ∀ x, 4 ≤ (P.sha x).length)
    (w : Client.World σ H) (cw : GW σ H) (fuel : Nat) (h : RepW P E w cw)
    (hts : w.c.inited = none → w.c.tileSaved = []) (ha : w.c.inited = none → InitAdm P E AM fuel w) :
    ∃ cw', Client_init (envOf P E) fuel cw = .ok (cw'.initErr, cw') ∧ RepW P E (Client.init P E w) cw' := by
  cases hin : w.c.inited with
  | none =>
    have hi := h.init
    unfold RepInit at hi
    rw [hin] at hi
    obtain ⟨cw', h1, h2⟩ := initWork_tie P E AM hM hsha w cw fuel h hin (hts hin) (ha hin)
    refine ⟨cw', init_run _ _ _ _ hi.1 h1, ?_⟩
    rw [init_of_none P E w hin]; exact h2
  | some x =>
    have hi := h.init
    unfold RepInit at hi
    rw [hin] at hi
    have hd : cw.initDone = true := by cases x <;> exact hi.1
    refine ⟨cw, init_done _ _ _ hd, ?_⟩
    rw [init_of_inited P E w x hin]; exact h

/-- `c.didLookup` is not represented -/
theorem repW_didLookup {P : Client.Params H} {E : Client.Env σ} {w : Client.World σ H} {cw : GW σ H}
    (h : RepW P E w cw) (n : Int) : RepW P E w { cw with didLookup := n } :=
  { h with }

end
end ModVerif.TieFnClientLookup
