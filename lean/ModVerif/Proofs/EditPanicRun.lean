/-
  **C15 `nilDeref_unreachable` (full)**: every go.mod operation preserves `P.Inv` (`applyMod_inv_all`) and,
  on a state satisfying it, terminates normally (`applyMod_noPanic_all`: success or one of the three documented returned
  errors — never the model's `nilDeref` / `conflictingVersions` / `badStatement`, Go's panics); hence every session whose
  operations have statically valid arguments runs to completion from every state satisfying `P.Inv`, in particular from
  every strictly parsed well-formed file — with NO hypothesis on the end-of-line comments (`MarkersSettable`,
  `NoNestedIndirectMarker`).
-/
import ModVerif.Proofs.EditPanicInv
import ModVerif.Proofs.EditStartParse
namespace ModVerif.Modfile.Edit.P
open ModVerif ModVerif.Modfile

/-- **nilDeref_unreachable, every go.mod operation, no marker hypothesis**: a session whose operations have valid arguments
    in the state in which they run (`RunValidLive`: a bulk setter runs on live requirements — a Cleanup has just run) always
    runs to completion — no Go panic — and ends in a state satisfying `P.Inv` -/
theorem runOps_total_live (ops : List Op) (e : EFile) (res0 : List Bool) (i : Nat)
    (hv : RunValidLive e ops) (hm : ∀ op ∈ ops, IsModOp op) (hi : Inv e) :
    ∃ e' res, runOps applyMod e ops res0 i = .done e' res ∧ Inv e' :=
  let ⟨e', res, h, hi'⟩ := runOps_totalR ops e res0 i
    ((((runValidLive_along ops e).1 hv).mono fun _ _ h => h.r).and (Along.of_forall hm e)) hi.r
  ⟨e', res, h, hi'.tok⟩

/-- no operation of a session that runs to completion returned a panic: the result of every operation, in the state in
    which it ran, is a success or a returned error.  (`runOps … = .done` says exactly this; stated for the record, with the
    two panics of the property named.) -/
theorem done_no_panic (ops : List Op) (e : EFile) (res0 : List Bool) (i : Nat) (e' : EFile) (res : List Bool)
    (h : runOps applyMod e ops res0 i = .done e' res) (pre : List Op) (op : Op) (post : List Op) (hs : ops = pre ++ op :: post) :
    ∃ e1 r1, runOps applyMod e pre res0 i = .done e1 r1 ∧
      applyMod e1 op ≠ some (.error .nilDeref) ∧ applyMod e1 op ≠ some (.error .badStatement) ∧
      applyMod e1 op ≠ some (.error .conflictingVersions) :=
  let ⟨e1, r1, h1, h2⟩ := done_no_panic_any applyMod ops e res0 i e' res h pre op post hs
  ⟨e1, r1, h1, h2 _ rfl, h2 _ rfl, h2 _ rfl⟩

/-- **C15 `nilDeref_unreachable`, from a state**: from a state satisfying the tree invariant without the marker clause, a
    session of go.mod operations with statically valid arguments (`StaticValid`: bulk setters directly after a Cleanup, with
    distinct non-empty paths) runs to completion, and `P.Inv` holds again after the final Cleanup -/
theorem nilDeref_unreachable_state (e : EFile) (ops : List Op) (hi : Inv e) (hv : StaticValid false ops)
    (hmod : ∀ op ∈ ops, IsModOp op) :
    ∃ e' res, runOps applyMod e ops [] 0 = .done e' res ∧ Inv (cleanup e') := by
  have hl := StaticValid.runValidLive ops false e hv (fun hc => by cases hc)
  rcases runOps_total_live ops e [] 0 hl hmod hi with ⟨e', res, h, hi'⟩
  exact ⟨e', res, h, cleanup_inv e' hi'⟩

theorem nilDeref_unreachable_inv (e : EFile) (ops : List Op) (hi : Inv e) (hv : StaticValid false ops)
    (hmod : ∀ op ∈ ops, IsModOp op) :
    ∃ e' res, runOps applyMod e ops [] 0 = .done e' res ∧
      (∀ (pre : List Op) (op : Op) (post : List Op), ops = pre ++ op :: post →
        ∃ e1 r1, runOps applyMod e pre [] 0 = .done e1 r1 ∧
          applyMod e1 op ≠ some (.error .nilDeref) ∧ applyMod e1 op ≠ some (.error .badStatement) ∧
          applyMod e1 op ≠ some (.error .conflictingVersions)) ∧
      Inv (cleanup e') := by
  rcases nilDeref_unreachable_state e ops hi hv hmod with ⟨e', res, h, hi'⟩
  exact ⟨e', res, h, done_no_panic ops e [] 0 e' res h, hi'⟩

/-- **C15 `nilDeref_unreachable` (full)**: for EVERY strictly parsed go.mod with well-formed keys (and `NoBlockSuffix`, as in
    `parseStrict_inv`) and every session of go.mod operations with statically valid arguments, the run completes: every
    operation, in the state in which it runs, succeeds or returns a documented error — it never returns `nilDeref`,
    `badStatement` or `conflictingVersions` (Go's panics) —, and the tree invariant without the marker clause holds after the
    final Cleanup.  No hypothesis on the end-of-line comments. -/
theorem nilDeref_unreachable_parsed (name data : Bytes) (f : File) (ops : List Op)
    (hf : parseToFile name data none true = .ok f) (hk : WellFormedKeys f) (hs : NoBlockSuffix f.syn)
    (hv : StaticValid false ops) (hmod : ∀ op ∈ ops, IsModOp op) :
    ∃ e' res, runOps applyMod (load f) ops [] 0 = .done e' res ∧
      (∀ (pre : List Op) (op : Op) (post : List Op), ops = pre ++ op :: post →
        ∃ e1 r1, runOps applyMod (load f) pre [] 0 = .done e1 r1 ∧
          applyMod e1 op ≠ some (.error .nilDeref) ∧ applyMod e1 op ≠ some (.error .badStatement) ∧
          applyMod e1 op ≠ some (.error .conflictingVersions)) ∧
      Inv (cleanup e') :=
  nilDeref_unreachable_inv (load f) ops (Inv.ofFull (Edit.parseStrict_inv hf hk hs)) hv hmod

end ModVerif.Modfile.Edit.P
