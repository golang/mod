/-
  Helper lemmas for Tie/FnEditStmt.lean: the godebug operations of the regenerated go.mod edit operations
  (Generated/FnEdit.lean): File_AddGodebug (+ loop 1, File_addNewGodebug), File_DropGodebug (+ loop 1) against
  `Modfile.Edit.addGodebug` (`addGodebugCore`, `firstRest`) and `Modfile.Edit.dropGodebug` (`clearAll`).

  The loops walk the pointer list `f.Godebug` (read once, before the loop); the objects are changed in place.  They are
  instances of `FnEditTyped.addOp_sim` / `dropOp_sim`: here the unfolding of each regenerated loop as `updBody` / `dropBody`.
-/
import ModVerif.Proofs.TieFnEditStmtA
import ModVerif.Proofs.EditRefineInv
namespace ModVerif.Tie.FnEditStmtB
open ModVerif ModVerif.GoRt ModVerif.Generated.Edit ModVerif.Tie.FnEditRep ModVerif.Tie.FnEditTreeA ModVerif.Tie.FnEditStmtA
  ModVerif.Tie.FnEditTyped ModVerif.Tie.FnEditLoop
open ModVerif.Tie.FnEditWorkA (updFirst)
open ModVerif.TieFnEditAddLine (Frame nodeCount idxL_append_mid addLine_rep)
open ModVerif.Modfile.Edit (firstRest clearAll markAll clearedGodebug deref nilId)

theorem B_godebug : B "godebug" = [103, 111, 100, 101, 98, 117, 103] := by decide +kernel

theorem REntsL_at {α β : Type} {objs : List α} {g : β → α} {id : β → Nat} {nl : Nat} {ppre ps : List Int} {p : Int}
    {mpre xs : List β} {x : β} (r : REntsL objs g id nl (ppre ++ p :: ps) (mpre ++ x :: xs)) (hl : ppre.length = mpre.length) :
    heapGet objs p = .ok (g x) ∧ id x ≤ nl :=
  r.get ppre.length p x (by simp) (by simp [hl])

theorem ps_of_nil {α β : Type} {objs : List α} {g : β → α} {id : β → Nat} {nl : Nat} {ppre ps : List Int} {mpre : List β}
    (r : REntsL objs g id nl (ppre ++ ps) (mpre ++ [])) (hl : ppre.length = mpre.length) : ps = [] := by
  have := r.length
  simp only [List.length_append, List.length_nil] at this
  exact List.eq_nil_of_length_eq_zero (by omega)

theorem ps_of_cons {α β : Type} {objs : List α} {g : β → α} {id : β → Nat} {nl : Nat} {ppre ps : List Int} {mpre : List β}
    {x : β} {xs : List β} (r : REntsL objs g id nl (ppre ++ ps) (mpre ++ x :: xs)) (hl : ppre.length = mpre.length) :
    ∃ p ps', ps = p :: ps' := by
  have := r.length
  simp only [List.length_append, List.length_cons] at this
  cases ps with
  | nil => simp only [List.length_nil] at this; omega
  | cons p ps' => exact ⟨p, ps', rfl⟩

theorem markAll_cons (fs : Modfile.FileSyntax) (i : Nat) (dead : List Nat) :
    markAll fs (i :: dead) = markAll (Modfile.Edit.markRemoved fs i) dead := rfl

structure AtGd (h : Heap) (fp : Int) (o : File) (e : Modfile.Edit.EFile) (ppre : List Int) (p : Int) (ps : List Int)
    (mpre : List Modfile.Godebug) (x : Modfile.Godebug) (xs : List Modfile.Godebug) : Prop where
  ho : heapGet h.mods fp = .ok o
  R : RepFAt h o e
  hO : o.Godebug = ppre ++ p :: ps
  hE : e.f.godebug = mpre ++ x :: xs
  hl : ppre.length = mpre.length

theorem AtGd.next {h : Heap} {fp : Int} {o : File} {e : Modfile.Edit.EFile} {ppre : List Int} {p q : Int} {ps : List Int}
    {mpre : List Modfile.Godebug} {x y : Modfile.Godebug} {xs : List Modfile.Godebug} (A : AtGd h fp o e ppre p (q :: ps) mpre x (y :: xs)) :
    AtGd h fp o e (ppre ++ [p]) q ps (mpre ++ [x]) y xs :=
  ⟨A.ho, A.R, by rw [A.hO]; simp, by rw [A.hE]; simp, by simp [A.hl]⟩

/-- the tokens of a godebug line (`"godebug"` as bytes: the regenerated text has the literal) -/
def gdTokens (key value : Bytes) : List Bytes := [[103, 111, 100, 101, 98, 117, 103], (key ++ [61]) ++ value]

theorem gdTokens_eq (key value : Bytes) : [B "godebug", key ++ [61] ++ value] = gdTokens key value := by
  rw [B_godebug]; rfl

theorem AddGodebug_body (f : Int) (key value : Bytes) (rx : List Int) (fuel : Nat) (ri : Int) (h : Heap) (need : Bool) :
    File_AddGodebug_loop1 rx f key value (fuel + 1) ri h need =
      updBody godebugT (fun _ _ a => pure (decide (a.Key = key))) (fun a => { a with Value := value })
        (fun _ => pure (gdTokens key value)) (·.Syntax) f rx fuel (File_AddGodebug_loop1 rx f key value fuel) ri h need := by
  conv => lhs; unfold File_AddGodebug_loop1
  rfl

theorem REnts_snoc {α β : Type} {objs : List α} {g : β → α} {id : β → Nat} {nl : Nat} {ps : List Int} {xs : List β}
    (r : REnts objs g id nl ps xs) (y : β) (hy : id y ≤ nl) :
    REnts (objs ++ [g y]) g id nl (ps ++ [((objs.length + 1 : Nat) : Int)]) (xs ++ [y]) := r.push y hy

theorem File_addNewGodebug_sim {h : Heap} {fp : Int} {e : Modfile.Edit.EFile} (R : RepF h fp e)
    (key value : Bytes) (fuel : Nat) (hf : nodeCount e.f.syn.stmts + 3 ≤ fuel) :
    ∃ h', File_addNewGodebug fuel fp key value h = .ok ((), h') ∧
      RepF h' fp { f := { e.f with godebug := e.f.godebug ++ [{ key := key, value := value, lineId := e.next }],
                                   syn := Modfile.Edit.addLine e.f.syn none [B "godebug", key ++ [61] ++ value] e.next },
                   next := e.next + 1 } := by
  obtain ⟨o, ho, R⟩ := R
  obtain ⟨h1, hrun, ho1, R'⟩ := pushNew_sim modK_ok modA_ok godebugT_ok (fun _ _ _ => rfl) ho R none
    [103, 111, 100, 101, 98, 117, 103] [key ++ [61] ++ value] { key := key, value := value, lineId := e.next } rfl fuel hf
  refine ⟨_, ?_, by rw [B_godebug]; exact R'⟩
  have hrun' : FileSyntax_addLine fuel o.Syntax Expr.nil [[103, 111, 100, 101, 98, 117, 103], key ++ [61] ++ value] h =
      .ok (((e.next : Nat) : Int), h1) := hrun
  have ho1' : heapGet h1.mods fp = .ok o := ho1
  simp only [File_addNewGodebug, show heapGet h.mods fp = .ok o from ho, hrun', bind, Except.bind, pure, Except.pure, heapAlloc, ho1',
    heapSet_of_get _ ho1']
  rfl

/-- `addGodebugCore` (shared by go.mod and go.work) followed by `k`, in the form `addOp_sim` speaks of -/
theorem addGodebugCore_bind {σ : Type} (syn : Modfile.FileSyntax) (gd : List Modfile.Godebug) (next : Nat) (key value : Bytes)
    (k : Modfile.FileSyntax × List Modfile.Godebug × Nat → Except Modfile.Edit.EditErr σ) :
    (Modfile.Edit.addGodebugCore syn gd next key value >>= k) =
      (do let r ← firstRest (fun g : Modfile.Godebug => g.key == key) (·.lineId) (fun g => { g with value := value }) clearedGodebug gd true
          match r.2.1 with
          | some i => k (markAll (Modfile.Edit.updateLine syn i (gdTokens key value)) r.2.2, r.1, next)
          | none => k (Modfile.Edit.addLine syn none [B "godebug", key ++ [61] ++ value] next,
              r.1 ++ [{ key := key, value := value, lineId := next }], next + 1)) := by
  unfold Modfile.Edit.addGodebugCore
  rw [bind_assoc, gdTokens_eq]
  congr 1; funext ⟨gd', first, dead⟩
  cases first <;> rfl

theorem File_AddGodebug_sim {h : Heap} {fp : Int} {e : Modfile.Edit.EFile} (R : RepF h fp e)
    (key value : Bytes) (fuel : Nat) (hf1 : e.f.godebug.length + 1 ≤ fuel) (hf2 : nodeCount e.f.syn.stmts + 3 ≤ fuel) :
    match Modfile.Edit.addGodebug e key value with
    | .ok e' => ∃ h', File_AddGodebug fuel fp key value h = .ok (none, h') ∧ RepF h' fp e'
    | .error _ => File_AddGodebug fuel fp key value h = .error .panic := by
  obtain ⟨o, ho, R0⟩ := R
  have X := addOp_sim modK_ok godebugT_ok (cleared := clearedGodebug) rfl rfl (fun g => g.key == key)
    (fun _ _ a => pure (decide (a.Key = key))) (fun _ _ x _ => congrArg Except.ok (FnEditWorkA.bytes_beq_eq_decide _ _).symm)
    (fun g => { g with value := value }) (fun a => { a with Value := value }) (fun _ => rfl) (fun _ => rfl) (gdTokens key value)
    (by simp [gdTokens]) (fun _ => pure (gdTokens key value)) 0 (fun _ _ => rfl) (·.Syntax) fp o
    (File_AddGodebug_loop1 o.Godebug fp key value) (AddGodebug_body fp key value o.Godebug) (fuel := fuel) R0 ho
    (by show e.f.godebug.length + 0 < fuel; omega) (addNew := File_addNewGodebug fuel fp key value)
    (eNew := fun gd => { f := { e.f with godebug := gd ++ [{ key := key, value := value, lineId := e.next }],
                                         syn := Modfile.Edit.addLine e.f.syn none [B "godebug", key ++ [61] ++ value] e.next },
                         next := e.next + 1 })
    (fun h1 R1 => File_addNewGodebug_sim R1 key value fuel hf2)
  refine tieF ?_
  unfold Modfile.Edit.addGodebug
  rw [addGodebugCore_bind]
  simp only [File_AddGodebug, ho, bind_ok]
  exact X

theorem DropGodebug_body (f : Int) (key : Bytes) (rx : List Int) (fuel : Nat) (ri : Int) (h : Heap) :
    File_DropGodebug_loop1 rx f key (fuel + 1) ri h =
      dropBody godebugT (fun _ _ a => pure (decide (a.Key = key))) rx (File_DropGodebug_loop1 rx f key fuel) ri h := by
  conv => lhs; unfold File_DropGodebug_loop1
  rfl

/-! ### `clearAll` on a cons, read off its closed form `clearAll_eq` -/

section
open ModVerif.Modfile.Edit
variable {α : Type} (m : α → Bool) (id : α → Nat) (upd : α → α) (cleared : α)

theorem clearAll_cons_nil {x : α} (xs : List α) (hm : m x = true) (h0 : id x = 0) :
    clearAll m id cleared (x :: xs) = .error .nilDeref := by
  rw [clearAll_eq, if_neg]; simp [noNil_cons, hm, h0]

theorem clearAll_cons_match {x : α} {xs ys : List α} {dead : List Nat} (hm : m x = true) (_h0 : id x ≠ 0)
    (h : clearAll m id cleared (x :: xs) = .ok (ys, dead)) :
    ∃ rest dead', clearAll m id cleared xs = .ok (rest, dead') ∧ ys = cleared :: rest ∧ dead = id x :: dead' := by
  obtain ⟨hn, rfl, rfl⟩ := clearAll_eq_ok.1 h
  exact ⟨_, _, clearAll_eq_ok.2 ⟨((noNil_cons m id x xs).1 hn).2, rfl, rfl⟩, by simp [clearM, hm], by simp [deadIds, hm]⟩

theorem clearAll_cons_nomatch {x : α} {xs ys : List α} {dead : List Nat} (hm : m x = false)
    (h : clearAll m id cleared (x :: xs) = .ok (ys, dead)) :
    ∃ rest, clearAll m id cleared xs = .ok (rest, dead) ∧ ys = x :: rest := by
  obtain ⟨hn, rfl, rfl⟩ := clearAll_eq_ok.1 h
  exact ⟨_, clearAll_eq_ok.2 ⟨((noNil_cons m id x xs).1 hn).2, rfl, by simp [deadIds, hm]⟩, by simp [clearM, hm]⟩

theorem clearAll_cons_match_err {x : α} {xs : List α} {err : Modfile.Edit.EditErr} (hm : m x = true) (h0 : id x ≠ 0)
    (h : clearAll m id cleared (x :: xs) = .error err) : clearAll m id cleared xs = .error err := by
  rw [clearAll_eq] at h ⊢
  simp only [noNil_cons, hm, h0, ne_eq, not_false_eq_true, forall_const, true_and] at h
  split at h
  · cases h
  · rw [if_neg ‹_›]; exact h

theorem clearAll_cons_nomatch_err {x : α} {xs : List α} {err : Modfile.Edit.EditErr} (hm : m x = false)
    (h : clearAll m id cleared (x :: xs) = .error err) : clearAll m id cleared xs = .error err := by
  rw [clearAll_eq] at h ⊢
  simp only [noNil_cons, hm, Bool.false_eq_true, false_imp_iff, true_and] at h
  split at h
  · cases h
  · rw [if_neg ‹_›]; exact h

end

protected theorem lt_len_mid {α : Type} (a : List α) (x : α) (c : List α) : ((a.length : Nat) : Int) < len (a ++ x :: c) :=
  GoRt.lt_len_mid a x c

protected theorem not_lt_len_end {α : Type} (a : List α) : ¬ (((a.length : Nat) : Int) < len a) := GoRt.not_lt_len_self a

protected theorem succ_len {α : Type} (a : List α) (x : α) : ((a.length : Nat) : Int) + 1 = (((a ++ [x]).length : Nat) : Int) :=
  GoRt.succ_len_snoc a x

end ModVerif.Tie.FnEditStmtB
