/- `parse` accepts exactly the documented grammar (Spec/SemverSpec.lean). -/
import ModVerif.Model.Semver
import ModVerif.Spec.SemverSpec
import ModVerif.Proofs.ListLemmas
namespace ModVerif.Semver
open ModVerif ModVerif.SemverSpec

theorem isDigit_eq : Semver.isDigit = SemverSpec.isDigit := rfl
theorem isIdentChar_eq : Semver.isIdentChar = SemverSpec.isIdentChar := rfl

theorem parseInt_some {v t r : Bytes} (h : parseInt v = some (t, r)) :
    Num t ∧ v = t ++ r ∧ NoHead Semver.isDigit r := by
  unfold parseInt at h
  cases v with
  | nil => simp at h
  | cons c rest =>
    simp only at h
    by_cases hc : Semver.isDigit c = true
    · simp only [hc, Bool.not_true] at h
      by_cases hz : (c == 48 && !(rest.takeWhile Semver.isDigit).isEmpty) = true
      · simp [hz] at h
      · simp only [hz] at h
        simp at h
        obtain ⟨rfl, rfl⟩ := h
        refine ⟨⟨by simp, ?_, ?_⟩, ?_, ?_⟩
        · simp only [List.all_cons, ← isDigit_eq, hc, all_takeWhile, Bool.and_self]
        · intro hh
          simp at hh
          subst hh
          simp at hz
          simp [hz]
        · simp [List.takeWhile_append_dropWhile]
        · intro c' r' hr; exact dropWhile_head _ _ _ _ hr
    · simp [hc] at h

theorem parseInt_append {t r : Bytes} (ht : Num t) (hr : NoHead Semver.isDigit r) :
    parseInt (t ++ r) = some (t, r) := by
  obtain ⟨hne, hall, hz⟩ := ht
  cases t with
  | nil => exact absurd rfl hne
  | cons c ds =>
    rw [← isDigit_eq] at hall
    simp only [List.all_cons, Bool.and_eq_true] at hall
    unfold parseInt
    simp only [List.cons_append, hall.1, Bool.not_true]
    rw [takeWhile_append_all _ ds r hall.2 hr, dropWhile_append_all _ ds r hall.2 hr]
    by_cases hc : c = 48
    · have := hz (by simp [hc])
      simp at this
      simp [this]
    · simp [hc]


theorem joinDots_eq : ∀ ids : List Bytes, joinDots ids = joinWith [46] ids
  | [] => rfl
  | [_] => rfl
  | x :: y :: rest => by simp [joinDots, joinWith, joinDots_eq (y :: rest)]

theorem mem_joinDots : ∀ {ids : List Bytes} {c : UInt8}, c ∈ joinDots ids → c = 46 ∨ ∃ i ∈ ids, c ∈ i
  | [], c, h => by simp [joinDots] at h
  | [x], c, h => Or.inr ⟨x, List.mem_cons_self, h⟩
  | x :: y :: rest, c, h => by
    simp only [joinDots, List.mem_append, List.mem_cons] at h
    rcases h with h | h | h
    · exact Or.inr ⟨x, List.mem_cons_self, h⟩
    · exact Or.inl h
    · rcases mem_joinDots h with h | ⟨i, hi, hc⟩
      · exact Or.inl h
      · exact Or.inr ⟨i, List.mem_cons_of_mem _ hi, hc⟩

theorem identChar_ne_dot {c : UInt8} (h : Semver.isIdentChar c = true) : c ≠ 46 := by
  intro e; subst e; revert h; decide

/-- the test that the loops of parsePrerelease and parseBuild make on the text after the sign -/
def dottedOK (q : Bytes → Bool) (body : Bytes) : Bool :=
  body.all (fun c => Semver.isIdentChar c || c == 46) && (splitOn 46 body).all q

theorem dottedOK_forall (q : Bytes → Bool) (body : Bytes) :
    dottedOK q body = true ↔
      (∀ c ∈ body, (Semver.isIdentChar c || c == 46) = true) ∧ ∀ s ∈ splitOn 46 body, q s = true := by
  simp only [dottedOK, Bool.and_eq_true, List.all_eq_true]

theorem dottedOK_iff {q : Bytes → Bool} {P : Bytes → Prop}
    (hP : ∀ s, P s ↔ s.all SemverSpec.isIdentChar = true ∧ q s = true) (body : Bytes) :
    dottedOK q body = true ↔ ∃ ids : List Bytes, ids ≠ [] ∧ (∀ i ∈ ids, P i) ∧ body = joinDots ids := by
  rw [dottedOK_forall]
  constructor
  · rintro ⟨hc, hq⟩
    refine ⟨splitOn 46 body, splitOn_ne_nil _ _, fun i hi => (hP i).mpr ⟨?_, hq i hi⟩,
      by rw [joinDots_eq, joinWith_splitOn]⟩
    rw [← isIdentChar_eq, List.all_eq_true]
    intro c hci
    obtain ⟨hcb, hne⟩ := mem_splitOn 46 _ i hi c hci
    simpa [hne] using hc c hcb
  · rintro ⟨ids, hne, hids, rfl⟩
    have hid : ∀ i ∈ ids, ∀ c ∈ i, Semver.isIdentChar c = true := fun i hi =>
      List.all_eq_true.mp (isIdentChar_eq ▸ ((hP i).mp (hids i hi)).1)
    constructor
    · intro c hc
      rcases mem_joinDots hc with rfl | ⟨i, hi, hci⟩
      · rfl
      · rw [hid i hi c hci]; rfl
    · rw [joinDots_eq, splitOn_joinWith 46 ids hne fun i hi h46 => identChar_ne_dot (hid i hi 46 h46) rfl]
      exact fun i hi => ((hP i).mp (hids i hi)).2

theorem isBadNum_iff (s : Bytes) :
    isBadNum s = true ↔ (s.all SemverSpec.isDigit = true ∧ s.length > 1 ∧ s.head? = some 48) := by
  unfold isBadNum; rw [isDigit_eq]; simp [Bool.and_eq_true, and_assoc]

/-- the piece test of parsePrerelease -/
def goodPre (s : Bytes) : Bool := !s.isEmpty && !isBadNum s

theorem preIdent_iff (s : Bytes) : PreIdent s ↔ s.all SemverSpec.isIdentChar = true ∧ goodPre s = true := by
  unfold PreIdent Ident goodPre
  rw [← isBadNum_iff]
  cases s <;> simp [and_comm]

theorem ident_iff (s : Bytes) : Ident s ↔ s.all SemverSpec.isIdentChar = true ∧ (!s.isEmpty) = true := by
  unfold Ident
  cases s <;> simp

theorem preOpt_iff (pre : Bytes) :
    PreOpt pre ↔ pre = [] ∨ ∃ body, pre = 45 :: body ∧ dottedOK goodPre body = true := by
  refine or_congr Iff.rfl ⟨?_, ?_⟩
  · rintro ⟨ids, hne, hids, rfl⟩
    exact ⟨_, rfl, (dottedOK_iff preIdent_iff _).mpr ⟨ids, hne, hids, rfl⟩⟩
  · rintro ⟨body, rfl, h⟩
    obtain ⟨ids, hne, hids, rfl⟩ := (dottedOK_iff preIdent_iff _).mp h
    exact ⟨ids, hne, hids, rfl⟩

theorem buildOpt_iff (bld : Bytes) :
    BuildOpt bld ↔ bld = [] ∨ ∃ body, bld = 43 :: body ∧ dottedOK (fun s => !s.isEmpty) body = true := by
  refine or_congr Iff.rfl ⟨?_, ?_⟩
  · rintro ⟨ids, hne, hids, rfl⟩
    exact ⟨_, rfl, (dottedOK_iff ident_iff _).mpr ⟨ids, hne, hids, rfl⟩⟩
  · rintro ⟨body, rfl, h⟩
    obtain ⟨ids, hne, hids, rfl⟩ := (dottedOK_iff ident_iff _).mp h
    exact ⟨ids, hne, hids, rfl⟩

theorem parsePrerelease_some {v t r : Bytes} (h : parsePrerelease v = some (t, r)) :
    (t ≠ [] ∧ PreOpt t) ∧ v = t ++ r ∧ NoHead (· != 43) r := by
  unfold parsePrerelease at h
  split at h
  · rename_i rest
    split at h
    · rename_i hc
      obtain ⟨rfl, rfl⟩ := Prod.mk.inj (Option.some.inj h)
      exact ⟨⟨List.cons_ne_nil _ _, (preOpt_iff _).mpr (Or.inr ⟨_, rfl, hc⟩)⟩,
        by simp [List.takeWhile_append_dropWhile], fun c r' hr => dropWhile_head (fun x => x != 43) rest c r' hr⟩
    · cases h
  · cases h

theorem dottedOK_no_plus {q : Bytes → Bool} {body : Bytes} (h : dottedOK q body = true) : 43 ∉ body :=
  fun hm => absurd (((dottedOK_forall _ _).mp h).1 43 hm) (by decide)

theorem preOpt_no_plus {pre : Bytes} (h : PreOpt pre) : 43 ∉ pre := by
  rcases (preOpt_iff pre).mp h with rfl | ⟨body, rfl, hb⟩
  · exact List.not_mem_nil
  · intro hm
    rcases List.mem_cons.mp hm with h | h
    · cases h
    · exact dottedOK_no_plus hb h

theorem parsePrerelease_append {body r : Bytes} (hb : dottedOK goodPre body = true) (hr : NoHead (· != 43) r) :
    parsePrerelease (45 :: body ++ r) = some (45 :: body, r) := by
  have hall43 : body.all (· != 43) = true :=
    List.all_eq_true.mpr fun c hc => bne_iff_ne.mpr fun e => dottedOK_no_plus hb (e ▸ hc)
  unfold parsePrerelease
  simp only [List.cons_append]
  rw [takeWhile_append_all _ _ r hall43 hr, dropWhile_append_all _ _ r hall43 hr]
  exact if_pos hb

theorem parseBuild_some {v t r : Bytes} (h : parseBuild v = some (t, r)) :
    (t ≠ [] ∧ BuildOpt t) ∧ v = t ∧ r = [] := by
  unfold parseBuild at h
  split at h
  · split at h
    · rename_i hc
      obtain ⟨rfl, rfl⟩ := Prod.mk.inj (Option.some.inj h)
      exact ⟨⟨List.cons_ne_nil _ _, (buildOpt_iff _).mpr (Or.inr ⟨_, rfl, hc⟩)⟩, rfl, rfl⟩
    · cases h
  · cases h

theorem parseBuild_join {body : Bytes} (hb : dottedOK (fun s => !s.isEmpty) body = true) :
    parseBuild (43 :: body) = some (43 :: body, []) :=
  if_pos hb

/-- `Decomp v p`: `v` is one of the three documented forms and `p` holds its parts. -/
inductive Decomp : Bytes → Parsed → Prop
  | short1 (maj : Bytes) : Num maj →
      Decomp (118 :: maj) { major := maj, minor := [48], patch := [48], short := B ".0.0" }
  | short2 (maj min : Bytes) : Num maj → Num min →
      Decomp (118 :: maj ++ 46 :: min) { major := maj, minor := min, patch := [48], short := B ".0" }
  | full (maj min pat pre bld : Bytes) : Num maj → Num min → Num pat → PreOpt pre → BuildOpt bld →
      Decomp (118 :: maj ++ 46 :: min ++ 46 :: pat ++ pre ++ bld)
        { major := maj, minor := min, patch := pat, prerelease := pre, build := bld }

theorem noHead_digit_cons {c : UInt8} {r : Bytes} (h : Semver.isDigit c = false) :
    NoHead Semver.isDigit (c :: r) := by
  intro c' r' e; simp at e; rw [← e.1]; exact h

theorem noHead_nil {α} (p : α → Bool) : NoHead p ([] : List α) := by
  intro c r e; simp at e

theorem parsePreOpt_some {p q : Parsed} {v w : Bytes} (hp : p.prerelease = [])
    (h : parsePreOpt p v = some (q, w)) : ∃ pre, PreOpt pre ∧ v = pre ++ w ∧ q = { p with prerelease := pre } := by
  unfold parsePreOpt at h
  split at h
  · split at h
    · rename_i t r hpp
      obtain ⟨rfl, rfl⟩ := Prod.mk.inj (Option.some.inj h)
      obtain ⟨⟨_, ht⟩, hv, _⟩ := parsePrerelease_some hpp
      exact ⟨t, ht, hv, rfl⟩
    · cases h
  · obtain ⟨rfl, rfl⟩ := Prod.mk.inj (Option.some.inj h)
    exact ⟨[], Or.inl rfl, rfl, by rw [← hp]⟩

theorem parseBuildOpt_some {p q : Parsed} {v : Bytes} (hp : p.build = [])
    (h : parseBuildOpt p v = some (q, [])) : BuildOpt v ∧ q = { p with build := v } := by
  unfold parseBuildOpt at h
  split at h
  · split at h
    · rename_i t r hpb
      obtain ⟨rfl, rfl⟩ := Prod.mk.inj (Option.some.inj h)
      obtain ⟨⟨_, ht⟩, rfl, _⟩ := parseBuild_some hpb
      exact ⟨ht, rfl⟩
    · cases h
  · obtain ⟨rfl, rfl⟩ := Prod.mk.inj (Option.some.inj h)
    exact ⟨Or.inl rfl, by rw [← hp]⟩

theorem parseTail_some {p q : Parsed} {v : Bytes} (hp : p.prerelease = []) (hb : p.build = [])
    (h : parseTail p v = some q) :
    ∃ pre bld, PreOpt pre ∧ BuildOpt bld ∧ v = pre ++ bld ∧ q = { p with prerelease := pre, build := bld } := by
  unfold parseTail at h
  split at h
  · cases h
  · rename_i p1 v1 h1
    obtain ⟨pre, hpre, rfl, rfl⟩ := parsePreOpt_some hp h1
    split at h
    · cases h
    · rename_i p2 v2 h2
      split at h
      · rename_i hv2
        obtain rfl : v2 = [] := List.isEmpty_iff.mp hv2
        obtain ⟨hbld, rfl⟩ := parseBuildOpt_some (p := { p with prerelease := pre }) hb h2
        exact ⟨pre, v1, hpre, hbld, rfl, (Option.some.inj h).symm⟩
      · cases h

theorem parse_decomp {v : Bytes} {p : Parsed} (h : parse v = some p) : Decomp v p := by
  unfold parse at h
  split at h
  · rename_i v1
    cases hmaj : parseInt v1 with
    | none => simp [hmaj] at h
    | some tr =>
      obtain ⟨maj, v2⟩ := tr
      simp only [hmaj] at h
      obtain ⟨nmaj, e1, _⟩ := parseInt_some hmaj
      cases v2 with
      | nil =>
        simp at h; subst h
        simp at e1; subst e1
        exact Decomp.short1 _ nmaj
      | cons c2 v3 =>
        by_cases hc2 : c2 = 46
        · subst hc2
          simp only at h
          cases hmin : parseInt v3 with
          | none => simp [hmin] at h
          | some tr2 =>
            obtain ⟨mn, v4⟩ := tr2
            simp only [hmin] at h
            obtain ⟨nmin, e2, _⟩ := parseInt_some hmin
            cases v4 with
            | nil =>
              simp at h; subst h
              simp at e2; subst e2 e1
              exact Decomp.short2 _ _ nmaj nmin
            | cons c4 v5 =>
              by_cases hc4 : c4 = 46
              · subst hc4
                simp only at h
                cases hpat : parseInt v5 with
                | none => simp [hpat] at h
                | some tr3 =>
                  obtain ⟨pat, v6⟩ := tr3
                  simp only [hpat] at h
                  obtain ⟨npat, e3, _⟩ := parseInt_some hpat
                  obtain ⟨pre, bld, hpre, hbld, hv6, hq⟩ := parseTail_some rfl rfl h
                  subst hq hv6 e3 e2 e1
                  have := Decomp.full _ _ _ pre bld nmaj nmin npat hpre hbld
                  simpa [List.append_assoc] using this
              · simp [hc4] at h
        · simp [hc2] at h
  · simp at h

theorem preOpt_noDigitHead {pre bld : Bytes} (hpre : PreOpt pre) (hbld : BuildOpt bld) :
    NoHead Semver.isDigit (pre ++ bld) := by
  rcases hpre with rfl | ⟨ids, _, _, rfl⟩
  · rcases hbld with rfl | ⟨ids, _, _, rfl⟩
    · exact noHead_nil _
    · exact noHead_digit_cons (by decide)
  · exact noHead_digit_cons (by decide)

theorem parseTail_decomp {p : Parsed} {pre bld : Bytes} (hp0 : p.prerelease = []) (hb0 : p.build = [])
    (hpre : PreOpt pre) (hbld : BuildOpt bld) :
    parseTail p (pre ++ bld) = some { p with prerelease := pre, build := bld } := by
  have hb43 : NoHead (· != 43) bld := by
    rcases hbld with rfl | ⟨ids, _, _, rfl⟩
    · exact noHead_nil _
    · intro c r e; rw [← (List.cons.inj e).1]; rfl
  have stage2 : ∀ p1 : Parsed, p1.build = [] → (match parseBuildOpt p1 bld with
      | none => none
      | some (p2, v2) => if v2.isEmpty then some p2 else none) = some { p1 with build := bld } := by
    intro p1 hp1
    rcases (buildOpt_iff bld).mp hbld with rfl | ⟨body, rfl, hb⟩
    · simp only [parseBuildOpt, List.isEmpty_nil, if_true]; rw [← hp1]
    · simp only [parseBuildOpt, parseBuild_join hb, List.isEmpty_nil, if_true]
  unfold parseTail
  rcases (preOpt_iff pre).mp hpre with rfl | ⟨body, rfl, hb⟩
  · have : parsePreOpt p ([] ++ bld) = some (p, bld) := by
      rcases hbld with rfl | ⟨ids, _, _, rfl⟩ <;> rfl
    rw [this, ← hp0]
    exact stage2 p hb0
  · have : parsePreOpt p (45 :: body ++ bld) = some ({ p with prerelease := 45 :: body }, bld) := by
      simp only [parsePreOpt, List.cons_append]
      rw [← List.cons_append, parsePrerelease_append hb hb43]
    rw [this]
    exact stage2 _ hb0

theorem decomp_parse {v : Bytes} {p : Parsed} (h : Decomp v p) : parse v = some p := by
  cases h with
  | short1 maj nmaj =>
    unfold parse
    have := parseInt_append (r := []) nmaj (noHead_nil _)
    simp at this
    simp [this]
  | short2 maj min nmaj nmin =>
    unfold parse
    have h1 := parseInt_append (r := 46 :: min) nmaj (noHead_digit_cons (by decide))
    have h2 := parseInt_append (r := []) nmin (noHead_nil _)
    simp at h2
    simp [h1, h2]
  | full maj min pat pre bld nmaj nmin npat hpre hbld =>
    unfold parse
    have h1 := parseInt_append (r := 46 :: min ++ 46 :: pat ++ pre ++ bld) nmaj (noHead_digit_cons (by decide))
    have h2 := parseInt_append (r := 46 :: pat ++ pre ++ bld) nmin (noHead_digit_cons (by decide))
    have h3 := parseInt_append (r := pre ++ bld) npat (preOpt_noDigitHead hpre hbld)
    simp only [List.append_assoc, List.cons_append] at h1 h2 h3 ⊢
    simp only [h1, h2, h3]
    have := parseTail_decomp (p := { major := maj, minor := min, patch := pat }) rfl rfl hpre hbld
    simpa using this

theorem parse_iff_decomp (v : Bytes) (p : Parsed) : parse v = some p ↔ Decomp v p :=
  ⟨parse_decomp, decomp_parse⟩

theorem valid_iff_decomp (v : Bytes) : Valid v ↔ ∃ p, Decomp v p := by
  constructor
  · rintro ⟨maj, nmaj, h | ⟨min, nmin, h | ⟨pat, pre, bld, npat, hpre, hbld, h⟩⟩⟩
    · subst h; exact ⟨_, Decomp.short1 maj nmaj⟩
    · subst h; exact ⟨_, Decomp.short2 maj min nmaj nmin⟩
    · subst h; exact ⟨_, Decomp.full maj min pat pre bld nmaj nmin npat hpre hbld⟩
  · rintro ⟨p, h⟩
    cases h with
    | short1 maj nmaj => exact ⟨maj, nmaj, Or.inl rfl⟩
    | short2 maj min nmaj nmin => exact ⟨maj, nmaj, Or.inr ⟨min, nmin, Or.inl rfl⟩⟩
    | full maj min pat pre bld nmaj nmin npat hpre hbld =>
      exact ⟨maj, nmaj, Or.inr ⟨min, nmin, Or.inr ⟨pat, pre, bld, npat, hpre, hbld, rfl⟩⟩⟩

theorem num_zero : Num [48] := ⟨by simp, by decide, by simp⟩

theorem decomp_fields {v : Bytes} {p : Parsed} (h : Decomp v p) :
    Num p.major ∧ Num p.minor ∧ Num p.patch ∧ PreOpt p.prerelease ∧ BuildOpt p.build := by
  cases h with
  | short1 maj nmaj => exact ⟨nmaj, num_zero, num_zero, Or.inl rfl, Or.inl rfl⟩
  | short2 maj min nmaj nmin => exact ⟨nmaj, nmin, num_zero, Or.inl rfl, Or.inl rfl⟩
  | full maj min pat pre bld nmaj nmin npat hpre hbld => exact ⟨nmaj, nmin, npat, hpre, hbld⟩

end ModVerif.Semver
