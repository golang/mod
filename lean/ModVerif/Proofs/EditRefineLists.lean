/-
  The shared loops of the edit model (`firstRest`, `clearAll`) in closed form — they fail exactly when a matched
  entry has the nil line id, and otherwise compute `updFirst` / `clearM` — and these two list functions against the
  list algebra of the specification (`updFirstDropRest`, `dropAll`, `setKeyed`), through an abstraction `a : α → β`
  and after dropping the cleared placeholders (`live`).
-/
import ModVerif.Model.Modfile.Edit
import ModVerif.Proofs.EditSpecLists
namespace ModVerif.Modfile.Edit
open ModVerif ModVerif.Modfile ModVerif.EditSpec

theorem bind_eq_ok {ε α β : Type} {x : Except ε α} {f : α → Except ε β} {b : β} :
    x >>= f = .ok b ↔ ∃ a, x = .ok a ∧ f a = .ok b := by
  cases x <;> simp [bind, Except.bind]

theorem deref_ok {i : Nat} (h : i ≠ 0) : deref i = .ok i := by
  simp [deref, nilId, h]

theorem ite_ok {α : Type} {c : Prop} [Decidable c] {x : Except EditErr α} {b : α} {err : EditErr}
    (h : (if c then x else .error err) = .ok b) : c ∧ x = .ok b := by
  split at h
  · exact ⟨‹c›, h⟩
  · cases h

theorem except_bind_ok {ε α β : Type} {x : Except ε α} {f : α → Except ε β} {b : β} (h : (x >>= f) = .ok b) :
    ∃ a, x = .ok a ∧ f a = .ok b := bind_eq_ok.1 h

/-! ### the live part of a typed list, abstracted -/

section liveAbs
variable {α β : Type} (live : α → Bool) (a : α → β)

def liveAbs (l : List α) : List β := (l.filter live).map a

theorem liveAbs_cons (x : α) (xs : List α) :
    liveAbs live a (x :: xs) = if live x then a x :: liveAbs live a xs else liveAbs live a xs := by
  unfold liveAbs; by_cases h : live x = true <;> simp [List.filter, h]

theorem liveAbs_append (l1 l2 : List α) : liveAbs live a (l1 ++ l2) = liveAbs live a l1 ++ liveAbs live a l2 := by
  simp [liveAbs, List.filter_append]

theorem liveAbs_snoc (l : List α) {x : α} (h : live x = true) : liveAbs live a (l ++ [x]) = liveAbs live a l ++ [a x] := by
  simp [liveAbs, List.filter_append, h]

theorem liveAbs_mem (l : List α) (b : β) : b ∈ liveAbs live a l ↔ ∃ x ∈ l, live x = true ∧ a x = b := by
  simp [liveAbs, and_assoc]

theorem liveAbs_all (l : List α) (h : ∀ x ∈ l, live x = true) : liveAbs live a l = l.map a := by
  unfold liveAbs; rw [List.filter_eq_self.2 h]

theorem liveAbs_filter_live (l : List α) : liveAbs live a (l.filter live) = liveAbs live a l := by
  simp [liveAbs, List.filter_filter]

theorem liveAbs_any {m : α → Bool} {m' : β → Bool} (hm : ∀ x, live x = true → m' (a x) = m x)
    (hml : ∀ x, m x = true → live x = true) (l : List α) : (liveAbs live a l).any m' = l.any m := by
  induction l with
  | nil => rfl
  | cons x xs ih =>
    rw [liveAbs_cons]
    by_cases h : live x = true
    · simp [h, ih, hm x h]
    · have : m x = false := Bool.eq_false_iff.2 fun hmx => h (hml x hmx)
      simp [h, ih, this]

end liveAbs

section loops
variable {α : Type} (m : α → Bool) (id : α → Nat) (upd : α → α) (cleared : α)

/-- no matched entry carries the nil line id (a cleared entry's `Syntax`): the loops do not panic -/
def NoNil (l : List α) : Prop := ∀ x ∈ l, m x = true → id x ≠ 0

instance (l : List α) : Decidable (NoNil m id l) := by unfold NoNil; infer_instance

theorem noNil_cons (x : α) (xs : List α) : NoNil m id (x :: xs) ↔ (m x = true → id x ≠ 0) ∧ NoNil m id xs := by
  simp [NoNil]

def clearM (l : List α) : List α := l.map fun x => if m x then cleared else x

/-- the first matching entry updated, every later one cleared -/
def updFirst : List α → List α
  | [] => []
  | x :: xs => if m x then upd x :: clearM m cleared xs else x :: updFirst xs

/-- the line ids of the matching entries: the lines `clearAll` reports as dead -/
def deadIds (l : List α) : List Nat := (l.filter m).map id

theorem clearAll_eq (l : List α) : clearAll m id cleared l =
    if NoNil m id l then .ok (clearM m cleared l, deadIds m id l) else .error .nilDeref := by
  induction l with
  | nil => simp [clearAll, clearM, deadIds, NoNil]
  | cons x xs ih =>
    unfold clearAll; rw [ih]
    by_cases hm : m x = true <;> by_cases hx : id x = 0 <;> by_cases hxs : NoNil m id xs <;>
      simp [noNil_cons, hm, hx, hxs, deref, nilId, bind, Except.bind, pure, Except.pure, clearM, deadIds]

theorem firstRest_false (l : List α) : firstRest m id upd cleared l false =
    (clearAll m id cleared l).map fun r => (r.1, none, r.2) := by
  induction l with
  | nil => rfl
  | cons x xs ih =>
    unfold firstRest clearAll; rw [ih]
    by_cases hm : m x = true <;> cases deref (id x) <;> cases clearAll m id cleared xs <;>
      simp [hm, bind, Except.bind, pure, Except.pure, Except.map]

theorem firstRest_eq (l : List α) : firstRest m id upd cleared l true =
    if NoNil m id l then .ok (updFirst m upd cleared l, (l.find? m).map id, (deadIds m id l).drop 1)
    else .error .nilDeref := by
  induction l with
  | nil => simp [firstRest, updFirst, deadIds, NoNil]
  | cons x xs ih =>
    unfold firstRest
    by_cases hm : m x = true
    · rw [firstRest_false, clearAll_eq]
      by_cases hx : id x = 0 <;> by_cases hxs : NoNil m id xs <;>
        simp [noNil_cons, hm, hx, hxs, deref, nilId, bind, Except.bind, pure, Except.pure, Except.map, updFirst, deadIds]
    · rw [ih]
      by_cases hxs : NoNil m id xs <;>
        simp [noNil_cons, hm, hxs, bind, Except.bind, pure, Except.pure, updFirst, deadIds]

variable {m id upd cleared}

theorem clearAll_eq_ok {l l' : List α} {dead : List Nat} : clearAll m id cleared l = .ok (l', dead) ↔
    NoNil m id l ∧ l' = clearM m cleared l ∧ dead = deadIds m id l := by
  rw [clearAll_eq]; split <;> simp [*, eq_comm]

theorem firstRest_eq_ok {l l' : List α} {first : Option Nat} {dead : List Nat} :
    firstRest m id upd cleared l true = .ok (l', first, dead) ↔
      NoNil m id l ∧ l' = updFirst m upd cleared l ∧ first = (l.find? m).map id ∧ dead = (deadIds m id l).drop 1 := by
  rw [firstRest_eq]; split <;> simp [*, eq_comm]

theorem mem_clearM {l : List α} {y : α} :
    y ∈ clearM m cleared l ↔ (y ∈ l ∧ m y = false) ∨ (y = cleared ∧ l.any m = true) := by
  simp only [clearM, List.mem_map, List.any_eq_true]
  constructor
  · rintro ⟨x, hx, rfl⟩
    by_cases h : m x = true
    · exact Or.inr ⟨if_pos h, x, hx, h⟩
    · exact Or.inl ⟨by rwa [if_neg h], by rw [if_neg h]; exact Bool.eq_false_iff.2 h⟩
  · rintro (⟨hy, h⟩ | ⟨rfl, x, hx, h⟩)
    · exact ⟨y, hy, by simp [h]⟩
    · exact ⟨x, hx, by simp [h]⟩

theorem mem_deadIds {l : List α} {d : Nat} : d ∈ deadIds m id l ↔ ∃ x ∈ l, m x = true ∧ id x = d := by
  simp [deadIds, and_assoc]

theorem updFirst_of_none {l : List α} (h : l.any m = false) : updFirst m upd cleared l = l := by
  induction l with
  | nil => rfl
  | cons x xs ih =>
    simp only [List.any_cons, Bool.or_eq_false_iff] at h
    simp [updFirst, h.1, ih h.2]

theorem updFirst_of_first {pre post : List α} {x0 : α} (hpre : pre.any m = false) (h0 : m x0 = true) :
    updFirst m upd cleared (pre ++ x0 :: post) = pre ++ upd x0 :: clearM m cleared post := by
  induction pre with
  | nil => simp [updFirst, h0]
  | cons x xs ih =>
    simp only [List.any_cons, Bool.or_eq_false_iff] at hpre
    simp [updFirst, hpre.1, ih hpre.2]

theorem deadIds_of_first {pre post : List α} {x0 : α} (hpre : pre.any m = false) (h0 : m x0 = true) :
    deadIds m id (pre ++ x0 :: post) = id x0 :: deadIds m id post := by
  have : pre.filter m = [] := List.filter_eq_nil_iff.2 fun x hx => by simpa using List.any_eq_false.1 hpre x hx
  simp [deadIds, List.filter_append, this, h0]

theorem any_of_find?_some {l : List α} {x : α} (h : l.find? m = some x) : l.any m = true :=
  List.any_eq_true.2 ⟨x, List.mem_of_find?_eq_some h, List.find?_some h⟩

theorem any_of_find?_none {l : List α} (h : l.find? m = none) : l.any m = false := by
  simpa using h

theorem split_first {l : List α} {x0 : α} (h : l.find? m = some x0) :
    ∃ pre post, l = pre ++ x0 :: post ∧ pre.any m = false ∧ m x0 = true := by
  rcases List.find?_eq_some_iff_append.1 h with ⟨h0, pre, post, rfl, hpre⟩
  exact ⟨pre, post, rfl, List.any_eq_false.2 fun x hx => by simpa using hpre x hx, h0⟩

/-- "the first match is updated, the later ones are cleared; no match ⇒ append": the tree (the first match's line gets
    the tokens `toks`, the later matches' lines are removed; `added` is the tree with the new line), the typed list and
    the fresh-id counter afterwards -/
def setKeyedRes (m : α → Bool) (id : α → Nat) (upd : α → α) (cleared : α) (l : List α) (fs : FileSyntax) (next : Nat)
    (toks : List Bytes) (added : FileSyntax) (new : α) : FileSyntax × List α × Nat :=
  match l.find? m with
  | some x0 => (markAll (updateLine fs (id x0) toks) ((deadIds m id l).drop 1), updFirst m upd cleared l, next)
  | none => (added, l ++ [new], next + 1)

theorem setKeyedRes_next (l : List α) (fs : FileSyntax) (next : Nat) (toks : List Bytes) (added : FileSyntax) (new : α) :
    next ≤ (setKeyedRes m id upd cleared l fs next toks added new).2.2 := by
  unfold setKeyedRes; split
  · exact Nat.le_refl _
  · exact Nat.le_succ _

theorem deadIds_of_none {l : List α} (h : l.any m = false) : deadIds m id l = [] := by
  simpa [deadIds, List.filter_eq_nil_iff] using List.any_eq_false.1 h

variable (m id upd cleared)

theorem clearAll_bind {β : Type} (l : List α) (k : List α × List Nat → Except EditErr β) :
    (clearAll m id cleared l >>= k) =
      if NoNil m id l then k (clearM m cleared l, deadIds m id l) else .error .nilDeref := by
  rw [clearAll_eq]; split <;> rfl

theorem firstRest_bind {β : Type} (l : List α) (k : List α × Option Nat × List Nat → Except EditErr β) :
    (firstRest m id upd cleared l true >>= k) =
      if NoNil m id l then
        match l.find? m with
        | some x0 => k (updFirst m upd cleared l, some (id x0), (deadIds m id l).drop 1)
        | none => k (l, none, [])
      else .error .nilDeref := by
  rw [firstRest_eq]
  split
  · cases h : l.find? m with
    | some x0 => rfl
    | none =>
      have hn := any_of_find?_none h
      show k _ = k _
      rw [updFirst_of_none hn, deadIds_of_none hn]; rfl
  · rfl

end loops

/-! ### against the specification's list algebra -/

section abs
variable {α β : Type} {m : α → Bool} {upd : α → α} {cleared : α} {live : α → Bool} {a : α → β} {m' : β → Bool} {u : β → β}

/-- the side conditions hold by computation for all typed lists but the retractions -/
theorem liveAbs_clearM (l : List α) (hc : live cleared = false := by rfl)
    (hm : ∀ x, live x = true → m' (a x) = m x := by intros; rfl) :
    liveAbs live a (clearM m cleared l) = dropAll m' (liveAbs live a l) := by
  induction l with
  | nil => rfl
  | cons x xs ih =>
    show liveAbs live a ((if m x then cleared else x) :: clearM m cleared xs) = _
    rw [liveAbs_cons, liveAbs_cons, ih]
    by_cases hmx : m x = true <;> by_cases hl : live x = true <;> simp [hmx, hc, hl, dropAll, hm]

theorem liveAbs_updFirst (hc : live cleared = false) (hm : ∀ x, live x = true → m' (a x) = m x)
    (hml : ∀ x, m x = true → live x = true) (hlu : ∀ x, m x = true → live (upd x) = true)
    (hau : ∀ x, m x = true → a (upd x) = u (a x)) (l : List α) :
    liveAbs live a (updFirst m upd cleared l) = updFirstDropRest m' u (liveAbs live a l) := by
  induction l with
  | nil => rfl
  | cons x xs ih =>
    by_cases hmx : m x = true
    · have hl := hml x hmx
      simp [updFirst, liveAbs_cons, hmx, hl, hlu, hau, updFirstDropRest, hm, liveAbs_clearM _ hc hm, dropAll]
    · by_cases hl : live x = true <;> simp [updFirst, liveAbs_cons, hmx, hl, updFirstDropRest, hm, ih]

/-- "set the first, remove the others; none ⇒ append" on the live abstraction (`hR` comes first: it fixes the
    matcher and the update for the side conditions) -/
theorem liveAbs_setKeyed {id : α → Nat} {new : α} {l : List α} {fs added : FileSyntax} {next : Nat} {toks : List Bytes}
    {R : FileSyntax × List α × Nat} (hR : R = setKeyedRes m id upd cleared l fs next toks added new)
    (hm : ∀ x, live x = true → m' (a x) = m x) (hml : ∀ x, m x = true → live x = true)
    (hlu : ∀ x, m x = true → live (upd x) = true) (hau : ∀ x, m x = true → a (upd x) = u (a x)) (hnew : live new = true)
    (hc : live cleared = false := by rfl) : liveAbs live a R.2.1 = setKeyed m' u (a new) (liveAbs live a l) := by
  subst hR
  unfold setKeyed setKeyedRes
  rw [liveAbs_any live a hm hml]
  cases hf : l.find? m with
  | some x0 => rw [if_pos (any_of_find?_some hf)]; exact liveAbs_updFirst hc hm hml hlu hau l
  | none => rw [if_neg (by simp [any_of_find?_none hf])]; exact liveAbs_snoc live a l hnew

end abs
/-! ### the operations built on the loops, in closed form

    Each of them fails exactly when a matched entry has the nil line id, and otherwise returns a result that is
    computed without the error monad. -/

/-- AddGodebug on the tree and the typed list (go.mod and go.work) -/
def addGodebugRes (syn : FileSyntax) (gd : List Godebug) (next : Nat) (k v : Bytes) : FileSyntax × List Godebug × Nat :=
  setKeyedRes (fun g => g.key == k) (·.lineId) (fun g => { g with value := v }) clearedGodebug gd syn next
    [B "godebug", k ++ [61] ++ v] (addLine syn none [B "godebug", k ++ [61] ++ v] next) { key := k, value := v, lineId := next }

theorem addGodebugCore_eq (syn : FileSyntax) (gd : List Godebug) (next : Nat) (k v : Bytes) :
    addGodebugCore syn gd next k v =
      if NoNil (fun g : Godebug => g.key == k) (·.lineId) gd then .ok (addGodebugRes syn gd next k v)
      else .error .nilDeref := by
  unfold addGodebugCore addGodebugRes setKeyedRes; rw [firstRest_bind]; cases gd.find? (fun g : Godebug => g.key == k) <;> rfl

theorem addGodebug_eq (e : EFile) (k v : Bytes) : addGodebug e k v =
    if NoNil (fun g : Godebug => g.key == k) (·.lineId) e.f.godebug then
      .ok { f := { e.f with godebug := (addGodebugRes e.f.syn e.f.godebug e.next k v).2.1,
                            syn := (addGodebugRes e.f.syn e.f.godebug e.next k v).1 },
            next := (addGodebugRes e.f.syn e.f.godebug e.next k v).2.2 }
    else .error .nilDeref := by
  unfold addGodebug; rw [addGodebugCore_eq]; split <;> rfl

theorem workAddGodebug_eq (e : EWork) (k v : Bytes) : workAddGodebug e k v =
    if NoNil (fun g : Godebug => g.key == k) (·.lineId) e.f.godebug then
      .ok { f := { e.f with godebug := (addGodebugRes e.f.syn e.f.godebug e.next k v).2.1,
                            syn := (addGodebugRes e.f.syn e.f.godebug e.next k v).1 },
            next := (addGodebugRes e.f.syn e.f.godebug e.next k v).2.2 }
    else .error .nilDeref := by
  unfold workAddGodebug; rw [addGodebugCore_eq]; split <;> rfl

theorem dropGodebug_eq (e : EFile) (k : Bytes) : dropGodebug e k =
    if NoNil (fun g : Godebug => g.key == k) (·.lineId) e.f.godebug then
      .ok { e with f := { e.f with godebug := clearM (fun g => g.key == k) clearedGodebug e.f.godebug,
                                   syn := markAll e.f.syn (deadIds (fun g => g.key == k) (·.lineId) e.f.godebug) } }
    else .error .nilDeref := by
  unfold dropGodebug; rw [clearAll_bind]; rfl

theorem workDropGodebug_eq (e : EWork) (k : Bytes) : workDropGodebug e k =
    if NoNil (fun g : Godebug => g.key == k) (·.lineId) e.f.godebug then
      .ok { e with f := { e.f with godebug := clearM (fun g => g.key == k) clearedGodebug e.f.godebug,
                                   syn := markAll e.f.syn (deadIds (fun g => g.key == k) (·.lineId) e.f.godebug) } }
    else .error .nilDeref := by
  unfold workDropGodebug; rw [clearAll_bind]; rfl

/-- AddRequire on the tree and the typed list -/
def addRequireRes (e : EFile) (p v : Bytes) : FileSyntax × List Require × Nat :=
  setKeyedRes (fun r => r.mod.path == p) (·.lineId) (fun r => { r with mod := { r.mod with version := v } }) clearedRequire
    e.f.require e.f.syn e.next [B "require", autoQuote p, v] (addNewRequire e p v false).f.syn
    { mod := { path := p, version := v }, indirect := false, lineId := e.next }

theorem addRequire_eq (e : EFile) (p v : Bytes) : addRequire e p v =
    if NoNil (fun r : Require => r.mod.path == p) (·.lineId) e.f.require then
      .ok { f := { e.f with require := (addRequireRes e p v).2.1, syn := (addRequireRes e p v).1 },
            next := (addRequireRes e p v).2.2 }
    else .error .nilDeref := by
  unfold addRequire addRequireRes setKeyedRes; rw [firstRest_bind]
  cases e.f.require.find? (fun r : Require => r.mod.path == p) <;> rfl

theorem dropRequire_eq (e : EFile) (p : Bytes) : dropRequire e p =
    if NoNil (fun r : Require => r.mod.path == p) (·.lineId) e.f.require then
      .ok { e with f := { e.f with require := clearM (fun r => r.mod.path == p) clearedRequire e.f.require,
                                   syn := markAll e.f.syn (deadIds (fun r => r.mod.path == p) (·.lineId) e.f.require) } }
    else .error .nilDeref := by
  unfold dropRequire; rw [clearAll_bind]; rfl

theorem dropExclude_eq (e : EFile) (p v : Bytes) : dropExclude e p v =
    if NoNil (fun x : Exclude => x.mod.path == p && x.mod.version == v) (·.lineId) e.f.exclude then
      .ok { e with f := { e.f with
        exclude := clearM (fun x => x.mod.path == p && x.mod.version == v) clearedExclude e.f.exclude,
        syn := markAll e.f.syn (deadIds (fun x => x.mod.path == p && x.mod.version == v) (·.lineId) e.f.exclude) } }
    else .error .nilDeref := by
  unfold dropExclude; rw [clearAll_bind]; rfl

def replaceTokens (op ov np nv : Bytes) : List Bytes :=
  B "replace" :: autoQuote op :: ((if ov.isEmpty then [] else [ov]) ++ [B "=>", autoQuote np] ++ (if nv.isEmpty then [] else [nv]))

/-- addReplace on the tree and the typed list (go.mod and go.work) -/
def addReplaceRes (syn : FileSyntax) (rp : List Replace) (next : Nat) (op ov np nv : Bytes) : FileSyntax × List Replace × Nat :=
  setKeyedRes (fun r => r.old.path == op && (ov.isEmpty || r.old.version == ov)) (·.lineId)
    (fun r => { r with old := { path := op, version := ov }, new := { path := np, version := nv } }) clearedReplace rp syn next
    (replaceTokens op ov np nv)
    (addLinePtr syn (lastWith (fun r : Replace => r.old.path == op) (·.lineId) rp none) (replaceTokens op ov np nv) next)
    { old := { path := op, version := ov }, new := { path := np, version := nv }, lineId := next }

theorem addReplaceCore_eq (syn : FileSyntax) (rp : List Replace) (next : Nat) (op ov np nv : Bytes) :
    addReplaceCore syn rp next op ov np nv =
      if NoNil (fun r : Replace => r.old.path == op && (ov.isEmpty || r.old.version == ov)) (·.lineId) rp then
        .ok (addReplaceRes syn rp next op ov np nv)
      else .error .nilDeref := by
  unfold addReplaceCore addReplaceRes setKeyedRes; rw [firstRest_bind]
  cases rp.find? (fun r : Replace => r.old.path == op && (ov.isEmpty || r.old.version == ov)) <;>
    simp [replaceTokens, pure, Except.pure]

theorem addReplace_eq (e : EFile) (op ov np nv : Bytes) : addReplace e op ov np nv =
    if NoNil (fun r : Replace => r.old.path == op && (ov.isEmpty || r.old.version == ov)) (·.lineId) e.f.replace then
      .ok { f := { e.f with replace := (addReplaceRes e.f.syn e.f.replace e.next op ov np nv).2.1,
                            syn := (addReplaceRes e.f.syn e.f.replace e.next op ov np nv).1 },
            next := (addReplaceRes e.f.syn e.f.replace e.next op ov np nv).2.2 }
    else .error .nilDeref := by
  unfold addReplace; rw [addReplaceCore_eq]; split <;> rfl

theorem workAddReplace_eq (e : EWork) (op ov np nv : Bytes) : workAddReplace e op ov np nv =
    if NoNil (fun r : Replace => r.old.path == op && (ov.isEmpty || r.old.version == ov)) (·.lineId) e.f.replace then
      .ok { f := { e.f with replace := (addReplaceRes e.f.syn e.f.replace e.next op ov np nv).2.1,
                            syn := (addReplaceRes e.f.syn e.f.replace e.next op ov np nv).1 },
            next := (addReplaceRes e.f.syn e.f.replace e.next op ov np nv).2.2 }
    else .error .nilDeref := by
  unfold workAddReplace; rw [addReplaceCore_eq]; split <;> rfl

theorem dropReplace_eq (e : EFile) (op ov : Bytes) : dropReplace e op ov =
    if NoNil (fun r : Replace => r.old.path == op && r.old.version == ov) (·.lineId) e.f.replace then
      .ok { e with f := { e.f with
        replace := clearM (fun r => r.old.path == op && r.old.version == ov) clearedReplace e.f.replace,
        syn := markAll e.f.syn (deadIds (fun r => r.old.path == op && r.old.version == ov) (·.lineId) e.f.replace) } }
    else .error .nilDeref := by
  unfold dropReplace dropReplaceCore; rw [clearAll_bind]; split <;> rfl

theorem workDropReplace_eq (e : EWork) (op ov : Bytes) : workDropReplace e op ov =
    if NoNil (fun r : Replace => r.old.path == op && r.old.version == ov) (·.lineId) e.f.replace then
      .ok { e with f := { e.f with
        replace := clearM (fun r => r.old.path == op && r.old.version == ov) clearedReplace e.f.replace,
        syn := markAll e.f.syn (deadIds (fun r => r.old.path == op && r.old.version == ov) (·.lineId) e.f.replace) } }
    else .error .nilDeref := by
  unfold workDropReplace dropReplaceCore; rw [clearAll_bind]; split <;> rfl

theorem dropRetract_eq (e : EFile) (vi : VersionInterval) : dropRetract e vi =
    if NoNil (fun r : Retract => r.interval == vi) (·.lineId) e.f.retract then
      .ok { e with f := { e.f with retract := clearM (fun r => r.interval == vi) clearedRetract e.f.retract,
                                   syn := markAll e.f.syn (deadIds (fun r => r.interval == vi) (·.lineId) e.f.retract) } }
    else .error .nilDeref := by
  unfold dropRetract; rw [clearAll_bind]; rfl

theorem dropTool_eq (e : EFile) (p : Bytes) : dropTool e p =
    if NoNil (fun t : Tool => t.path == p) (·.lineId) e.f.tool then
      .ok { e with f := { e.f with tool := clearM (fun t => t.path == p) clearedTool e.f.tool,
                                   syn := markAll e.f.syn (deadIds (fun t => t.path == p) (·.lineId) e.f.tool) } }
    else .error .nilDeref := by
  unfold dropTool; rw [clearAll_bind]; rfl

/-- AddUse on the tree and the typed list -/
def addUseRes (e : EWork) (d mp : Bytes) : FileSyntax × List Use × Nat :=
  setKeyedRes (fun u => u.path == d) (·.lineId) (fun u => { u with modulePath := mp }) clearedUse e.f.use e.f.syn e.next
    [B "use", autoQuote d] (addNewUse e d mp).f.syn { path := d, modulePath := mp, lineId := e.next }

theorem addUse_eq (e : EWork) (d mp : Bytes) : addUse e d mp =
    if NoNil (fun u : Use => u.path == d) (·.lineId) e.f.use then
      .ok { f := { e.f with use := (addUseRes e d mp).2.1, syn := (addUseRes e d mp).1 }, next := (addUseRes e d mp).2.2 }
    else .error .nilDeref := by
  unfold addUse addUseRes setKeyedRes; rw [firstRest_bind]; cases e.f.use.find? (fun u : Use => u.path == d) <;> rfl

theorem dropUse_eq (e : EWork) (d : Bytes) : dropUse e d =
    if NoNil (fun u : Use => u.path == d) (·.lineId) e.f.use then
      .ok { e with f := { e.f with use := clearM (fun u => u.path == d) clearedUse e.f.use,
                                   syn := markAll e.f.syn (deadIds (fun u => u.path == d) (·.lineId) e.f.use) } }
    else .error .nilDeref := by
  unfold dropUse; rw [clearAll_bind]; rfl

end ModVerif.Modfile.Edit
