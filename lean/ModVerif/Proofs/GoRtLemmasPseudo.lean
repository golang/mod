/-
  GoRt lemmas used by the pseudo.go tie proofs (regenerated code = hand model): `setIdx` at a split point,
  byte arithmetic through `toU8`/`mkByte`, and the one-byte-separator instances of strings.LastIndex,
  strings.LastIndexByte and strings.Count.
-/
import ModVerif.Basic.GoRt
import ModVerif.Proofs.GoRtLemmasStr
namespace ModVerif.GoRtPseudo
open ModVerif ModVerif.GoRt

theorem setIdx_append_length (pre : Bytes) (c : UInt8) (suf : Bytes) (x : Int) :
    setIdx (pre ++ c :: suf) (pre.length : Int) x = .ok (pre ++ mkByte x :: suf) := by
  have h : (0 : Int) ≤ (pre.length : Int) ∧ (pre.length : Int) < len (pre ++ c :: suf) := by
    simp [len_eq]; omega
  simp [setIdx, h]

theorem setIdx_zero_cons (c : UInt8) (s : Bytes) (x : Int) : setIdx (c :: s) 0 x = .ok (mkByte x :: s) := by
  simpa using setIdx_append_length [] c s x

theorem setIdx_zero_nil (x : Int) : setIdx [] 0 x = .error .panic := by
  simp [setIdx]

/-! ### bytes through Int arithmetic -/

theorem forall_uint8 {P : UInt8 → Prop} (h : ∀ f : Fin 256, P ⟨⟨f⟩⟩) : ∀ c, P c := fun ⟨⟨f⟩⟩ => h f

theorem mkByte_lit (c : UInt8) : mkByte ((c.toNat : Nat) : Int) = c := mkByte_byte c

@[simp] theorem mkByte_48 : mkByte 48 = 48 := by decide
@[simp] theorem mkByte_49 : mkByte 49 = 49 := by decide
@[simp] theorem mkByte_57 : mkByte 57 = 57 := by decide

/-- `digits[i]++` on a byte (wraps at 255 like Go's uint8) -/
theorem mkByte_succ : ∀ c : UInt8, mkByte (toU8 (((c.toNat : Nat) : Int) + 1)) = c + 1 :=
  forall_uint8 (by decide +kernel)

/-- `digits[i]--` on a byte (wraps at 0 like Go's uint8) -/
theorem mkByte_pred : ∀ c : UInt8, mkByte (toU8 (((c.toNat : Nat) : Int) - 1)) = c - 1 :=
  forall_uint8 (by decide +kernel)

theorem byte_eq_57 (c : UInt8) : (((c.toNat : Nat) : Int) = 57) ↔ c = 57 := byte_toInt_inj (d := 57)
theorem byte_eq_48 (c : UInt8) : (((c.toNat : Nat) : Int) = 48) ↔ c = 48 := byte_toInt_inj (d := 48)
theorem byte_eq_49 (c : UInt8) : (((c.toNat : Nat) : Int) = 49) ↔ c = 49 := byte_toInt_inj (d := 49)

/-! ### one-byte separators: strings.LastIndex(s, "c"), strings.LastIndexByte(s, 'c'), strings.Count(s, "c") -/

theorem isPrefixOfB_single (c x : UInt8) (xs : Bytes) : isPrefixOfB [c] (x :: xs) = (c == x) :=
  GoRtStr.isPrefixOfB_single c x xs

/-- the last occurrence: `strings.LastIndex(a + "c" + b, "c") = len(a)` when `c` does not occur in `b` -/
theorem lastIndex_single_split (c : UInt8) (a b : Bytes) (h : c ∉ b) :
    lastIndex (a ++ c :: b) [c] = (a.length : Int) := by
  simp [lastIndex, GoRtStr.lastIndexAux_single, GoRtStr.lastIndexByteAux_split c b h a 0]

theorem lastIndex_single_notMem (c : UInt8) (s : Bytes) (h : c ∉ s) : lastIndex s [c] = -1 := by
  simp [lastIndex, GoRtStr.lastIndexAux_single, GoRtStr.lastIndexByteAux_not_mem c s 0 _ h]

/-- the byte given as the integer literal the generated code passes -/
theorem lastIndexByte_split_lit (c : UInt8) (n : Int) (hn : mkByte n = c) (a b : Bytes) (h : c ∉ b) :
    lastIndexByte (a ++ c :: b) n = (a.length : Int) := by
  simp [lastIndexByte, hn, GoRtStr.lastIndexByteAux_split c b h a 0]

theorem lastIndexByte_notMem_lit (c : UInt8) (n : Int) (hn : mkByte n = c) (s : Bytes) (h : c ∉ s) :
    lastIndexByte s n = -1 := by
  simp [lastIndexByte, hn, GoRtStr.lastIndexByteAux_not_mem c s 0 _ h]

theorem lastIndexByte_split (c : UInt8) (a b : Bytes) (h : c ∉ b) :
    lastIndexByte (a ++ c :: b) ((c.toNat : Nat) : Int) = (a.length : Int) :=
  lastIndexByte_split_lit c _ (mkByte_byte c) a b h

theorem lastIndexByte_notMem (c : UInt8) (s : Bytes) (h : c ∉ s) :
    lastIndexByte s ((c.toNat : Nat) : Int) = -1 :=
  lastIndexByte_notMem_lit c _ (mkByte_byte c) s h

/-- `s[:i+1]` at a split point keeps the separator -/
theorem sliceTo_split_succ (a b : Bytes) (c : UInt8) :
    sliceTo (a ++ c :: b) ((a.length : Int) + 1) = .ok (a ++ [c]) := by
  have : ((a.length : Int) + 1) = ((a.length + 1 : Nat) : Int) := by simp
  rw [this, sliceTo_natCast (by simp)]
  have h2 : a ++ c :: b = (a ++ [c]) ++ b := by simp
  rw [h2, List.take_left' (by simp)]

theorem sliceFrom_split_succ (a b : Bytes) (c : UInt8) :
    sliceFrom (a ++ c :: b) ((a.length : Int) + 1) = .ok b := by
  have : ((a.length : Int) + 1) = ((a.length + 1 : Nat) : Int) := by simp
  rw [this, sliceFrom_natCast (by simp)]; simp

theorem count_single (c : UInt8) (s : Bytes) : count s [c] = ((s.count c : Nat) : Int) :=
  GoRtStr.count_single s c

/-! ### TrimSuffix / HasSuffix are the model's functions -/

theorem trimSuffix_eq (s p : Bytes) : trimSuffix s p = if hasSuffixB s p then s.take (s.length - p.length) else s := rfl
theorem hasSuffix_eq (s p : Bytes) : hasSuffix s p = hasSuffixB s p := rfl

end ModVerif.GoRtPseudo
