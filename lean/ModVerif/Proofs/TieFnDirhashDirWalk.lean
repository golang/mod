/-
  Tie proof, sumdb/dirhash `DirFiles` / `HashDir`: the walk.  `GoRt.walkChildren` (the assumed behaviour of `filepath.Walk`)
  over the `FsTree` of a well-formed trie, with a callback that passes directories and appends `g (relative elements)` for
  files, visits the file leaves in pre-order (`walkChildren_spec`, `flatList`); the closure of `DirFiles` is such a callback.
-/
import ModVerif.Generated.FnDirhash
import ModVerif.Drv.GenDirhash
import ModVerif.Proofs.TieFnDirhashDirOrder
import ModVerif.Proofs.GoRtLemmas
import ModVerif.Basic.GoRtWalk
import ModVerif.Model.Dirhash
import ModVerif.Proofs.DirhashZip
import ModVerif.Proofs.TieFnZipDirPath

/-
  Tie proof, sumdb/dirhash `DirFiles` / `HashDir`: paths.  `Dirhash.joinPath a b = GoRt.fpJoin a b` unless both are empty
  (`filepath.Join("", "")` is `""` in the model and `"."` in the vocabulary; DirFiles never joins an empty relative path);
  one step of the walk, `fpJoin P n` for a normal element `n`, appends `n` to the components of `P`.
-/
namespace ModVerif.TieFnDirhashDir
open ModVerif ModVerif.PathClean ModVerif.ZipSpec ModVerif.Proofs.ZipB

theorem joinPath_eq_fpJoin (a b : Bytes) (h : a ≠ [] ∨ b ≠ []) : Dirhash.joinPath a b = GoRt.fpJoin a b := by
  unfold Dirhash.joinPath GoRt.fpJoin GoRt.pathClean
  by_cases ha : a = []
  · subst ha
    have hb : b ≠ [] := by simpa using h
    have e : b.isEmpty = false := by simpa using hb
    simp [e, clean_eq_pathClean]
  · have e : a.isEmpty = false := by simpa using ha
    have e' : (a == []) = false := by simpa using ha
    by_cases hb : b = []
    · subst hb; simp [e, e', clean_eq_pathClean]
    · have f : b.isEmpty = false := by simpa using hb
      have f' : (b == []) = false := by simpa using hb
      simp [e, e', f, f', clean_eq_pathClean, Dirhash.slash]

theorem fpJoin_step (P : Bytes) {n : Bytes} (h : NormalElem n) :
    GoRt.fpJoin P n = render (isRooted P) (comps P ++ [n]) ∧
    isRooted (GoRt.fpJoin P n) = isRooted P ∧ comps (GoRt.fpJoin P n) = comps P ++ [n] := by
  have hs : splitOn 47 n = [n] := splitOn_noSep 47 n h.2.2.2
  have hn := normalName_elem h
  have e : GoRt.fpJoin P n = Zip.fpJoin P n := rfl
  rw [e]
  refine ⟨?_, isRooted_fpJoin P hn, ?_⟩
  · rw [fpJoin_eq_render P hn, hs]
  · rw [comps_fpJoin P hn, hs]

theorem render_eq_dot_iff {base : List Bytes} (h : Canon false base) : render false base = [46] ↔ base = [] := by
  constructor
  · intro e
    have := comps_render h
    rw [e] at this
    rw [← this]; decide
  · rintro rfl; rfl

end ModVerif.TieFnDirhashDir

namespace ModVerif.TieFnDirhashDir
open ModVerif ModVerif.GoRt ModVerif.ZipSpec ModVerif.Proofs.ZipB
open ModVerif.TieFnZipDir (render_append render_false_nil_append)
open ModVerif.Generated.Dirhash (FileInfo)
open ModVerif.Drv.GenDirhash (toFs toFsList)

abbrev WalkFn := Bytes → FileInfo → Option String → List Bytes → M (Option String × List Bytes)

theorem szList_pos : ∀ cs : List (Bytes × Zip.Node), 1 ≤ szList cs
  | [] => by simp [szList]
  | (_, _) :: _ => by simp only [szList]; omega

/-- `P` is rooted or not (`r`) and has the components `base ++ pre`: `base` those of the walk root, `pre` the directories
    descended into since; `g q` is what the callback appends at the file with the components `q` below the root -/
theorem walkChildren_spec (fn : WalkFn) (r : Bool) (base : List Bytes) (g : List Bytes → Bytes)
    (hdir : ∀ p st, fn p { IsDir := true } none st = .ok (none, st))
    (hfile : ∀ q st, q ≠ [] → (∀ c ∈ q, NormalElem c) →
      fn (render r (base ++ q)) { IsDir := false } none st = .ok (none, st ++ [g q])) :
    ∀ (fuel : Nat) (P : Bytes) (pre : List Bytes) (cs : List (Bytes × Zip.Node)) (st : List Bytes),
      PathClean.isRooted P = r → PathClean.comps P = base ++ pre → (∀ c ∈ pre, NormalElem c) → wfList cs →
      szList cs < fuel →
      walkChildren fn fuel P (toFsList cs) st = .ok (none, st ++ (flatList cs).map (fun q => g (pre ++ q))) := by
  intro fuel
  induction fuel using Nat.strongRecOn with
  | _ fuel ih =>
    intro P pre cs st hr hc hpre hwf hsz
    cases fuel with
    | zero => omega
    | succ fuel =>
      cases cs with
      | nil => simp [toFsList, walkChildren, flatList, pure, Except.pure]
      | cons e rest =>
        obtain ⟨n, x⟩ := e
        simp only [wfList] at hwf
        obtain ⟨⟨hn, hx⟩, _, hrest⟩ := hwf
        obtain ⟨hj, hjr, hjc⟩ := fpJoin_step P hn
        have hrestsz : szList rest < fuel := by simp only [szList] at hsz; omega
        have hpos := szList_pos rest
        have ihrest := fun st' => ih fuel (Nat.lt_succ_self _) P pre rest st' hr hc hpre hrest hrestsz
        cases x with
        | file m s ct gg =>
          obtain ⟨f, rfl⟩ : ∃ f, fuel = f + 1 := ⟨fuel - 1, by omega⟩
          have hq : fpJoin P n = render r (base ++ (pre ++ [n])) := by
            rw [hj, hr, hc, List.append_assoc]
          have hf := hfile (pre ++ [n]) st (by simp) (by
            intro c hc'
            rcases List.mem_append.1 hc' with h | h
            · exact hpre c h
            · simp at h; subst h; exact hn)
          simp only [toFsList, toFs, walkChildren, walkNode, hq, hf, bind, Except.bind]
          simp only [Option.isSome_none, Bool.false_eq_true, if_false]
          rw [ihrest]
          simp [flatList, flatNode]
        | dir sub =>
          obtain ⟨f, rfl⟩ : ∃ f, fuel = f + 1 := ⟨fuel - 1, by omega⟩
          have hsub : wfList sub := by simpa [wfNode] using hx
          have hsubsz : szList sub < f := by simp only [szList, szNode] at hsz; omega
          have ihsub := ih f (by omega) (fpJoin P n) (pre ++ [n]) sub st (by rw [hjr, hr])
            (by rw [hjc, hc, List.append_assoc]) (by
              intro c hc'
              rcases List.mem_append.1 hc' with h | h
              · exact hpre c h
              · simp at h; subst h; exact hn) hsub hsubsz
          simp only [toFsList, toFs, walkChildren, walkNode, hdir, bind, Except.bind]
          simp only [Option.isSome_none, Bool.false_eq_true, if_false]
          rw [ihsub]
          simp only [Option.isSome_none, Bool.false_eq_true, if_false]
          rw [ihrest]
          simp [flatList, flatNode, List.map_map, Function.comp_def]

open ModVerif.Generated.Dirhash in
theorem walkFn1_err (walkRoot : Bytes → Option (FsTree FileInfo)) (fuel : Nat) (dir pfx file : Bytes)
    (info : FileInfo) (e : String) (st : List Bytes) :
    DirFiles_walkFn1 walkRoot fuel dir pfx file info (some e) st = .ok (some e, st) := by
  simp [DirFiles_walkFn1, pure, Except.pure]

open ModVerif.Generated.Dirhash in
theorem walkFn1_dir (walkRoot : Bytes → Option (FsTree FileInfo)) (fuel : Nat) (dir pfx file : Bytes)
    (st : List Bytes) :
    DirFiles_walkFn1 walkRoot fuel dir pfx file { IsDir := true } none st = .ok (none, st) := by
  simp [DirFiles_walkFn1, pure, Except.pure]

open ModVerif.Generated.Dirhash in
theorem walkFn1_rootFile (walkRoot : Bytes → Option (FsTree FileInfo)) (fuel : Nat) (dir pfx : Bytes)
    (st : List Bytes) :
    DirFiles_walkFn1 walkRoot fuel dir pfx dir { IsDir := false } none st =
      .ok (some "%s is not a directory", st) := by
  simp [DirFiles_walkFn1, pure, Except.pure]

open ModVerif.Generated.Dirhash in
theorem walkFn1_file (walkRoot : Bytes → Option (FsTree FileInfo)) (fuel : Nat) (pfx : Bytes) (r : Bool)
    (base : List Bytes) (hbase : Canon r base) (hroot : ¬ (r = true ∧ base = []))
    (q : List Bytes) (st : List Bytes) (hq : q ≠ []) (hn : ∀ c ∈ q, NormalElem c) :
    DirFiles_walkFn1 walkRoot fuel (render r base) pfx (render r (base ++ q)) { IsDir := false } none st =
      .ok (none, st ++ [fpJoin pfx (J q)]) := by
  have hcq : Canon r (base ++ q) := canon_append_normal hbase hn
  have hne : render r (base ++ q) ≠ render r base := by
    intro e
    have := render_injective hcq hbase e
    have : q = [] := List.append_right_eq_self.1 this
    exact hq this
  unfold DirFiles_walkFn1
  simp only [Option.isNone_none, Bool.not_true, Bool.false_eq_true, if_false, hne, decide_false]
  by_cases hb : base = []
  · subst hb
    have hr : r = false := by
      cases r with
      | true => exact absurd ⟨rfl, rfl⟩ hroot
      | false => rfl
    subst hr
    have hd : render false [] = [46] := rfl
    simp only [hd, decide_true, Bool.not_true, Bool.false_eq_true, if_false, id, pure, Except.pure]
    rw [render_false_nil_append hq]
  · have hd : render r base ≠ [46] := by
      cases r with
      | true => simp [render]
      | false => exact fun e => hb ((render_eq_dot_iff hbase).1 e)
    simp only [hd, decide_false, Bool.not_false, if_true]
    rw [render_append r hb hq]
    have hlen : len (render r base) + 1 = ((render r base).length + 1 : Nat) := by simp [len_eq]
    have hsl : sliceFrom (render r base ++ 47 :: J q) (len (render r base) + 1) = .ok (J q) := by
      rw [hlen, sliceFrom_natCast (by simp)]
      simp
    simp only [hsl, bind, Except.bind, id, pure, Except.pure]

end ModVerif.TieFnDirhashDir
