/-
  **C16 `blocks_sorted` for go.work**: after `WorkFile.SortBlocks` (also at the end of SetUse) every block
  of the tree is sorted by `lineLess`; Cleanup keeps blocks sorted (it only deletes lines).
  No hypothesis on the state is needed (`lineLess` is a strict weak order on all token lists).
-/
import ModVerif.Proofs.EditWorkKeepA
namespace ModVerif.Modfile.Edit
open ModVerif ModVerif.Modfile ModVerif.EditSpec

theorem lessFor_work (sem : Bool) (tok : List Bytes) : lessFor sem true tok = lineLess := by
  simp [lessFor]

theorem workSortBlocks_blocks_sorted (e : EWork) (b : LineBlock) (hb : Expr.lineBlock b ∈ (workSortBlocks e).f.syn.stmts) :
    Sorted (onToken lineLess) b.lines := by
  rw [workSortBlocks_syn] at hb
  rcases sortStmts_block false true _ b hb with ⟨b0, _, _, hlines⟩
  rw [hlines, lessFor_work]
  exact (stableSort_sorted (lessFor_work false b0.token ▸ lessFor_strictWeak false true b0.token (Or.inl rfl)) _).1

theorem setUse_eq_sort (e e' : EWork) (dirs : List (Bytes × Bytes)) (perm : List (Bytes × Bytes) → List (Bytes × Bytes))
    (h : setUse e dirs perm = .ok e') : ∃ e0, e' = workSortBlocks e0 := by
  unfold setUse at h
  simp only [bind, Except.bind] at h
  cases hr : setUseLoop e.f.use (useNeedMap dirs []) e.f.syn with
  | error err => simp [hr] at h
  | ok res =>
    rcases res with ⟨us, need', syn'⟩
    simp only [hr, pure, Except.pure, Except.ok.injEq] at h
    exact ⟨_, h.symm⟩

theorem cleanupStmts_sorted (less : List Bytes → List Bytes → Bool) (stmts : List Expr)
    (h : ∀ b, Expr.lineBlock b ∈ stmts → Sorted (onToken less) b.lines) :
    ∀ b, Expr.lineBlock b ∈ cleanupStmts stmts → Sorted (onToken less) b.lines := by
  intro b hb
  rcases cleanupStmts_block stmts b hb with ⟨b0, hb0, _, hsub⟩
  exact List.Pairwise.sublist hsub (h b0 hb0)

theorem applyWork_sorts (e e' : EWork) (op : Op) (hs : SortsW op = true) (h : applyWork e op = some (.ok e')) :
    ∀ b, Expr.lineBlock b ∈ e'.f.syn.stmts → Sorted (onToken lineLess) b.lines := by
  cases op with
  | setUse w r =>
    simp only [applyWork, Option.some.injEq] at h
    rcases setUse_eq_sort e e' w (permOf r) h with ⟨e0, rfl⟩
    exact workSortBlocks_blocks_sorted e0
  | sortBlocks =>
    simp only [applyWork, Option.some.injEq, Except.ok.injEq] at h
    subst h
    exact workSortBlocks_blocks_sorted e
  | _ => simp [SortsW] at hs

theorem setUseLoop_error (us : List Use) (need : List (Bytes × Bytes)) (syn : FileSyntax) (err : EditErr)
    (h : setUseLoop us need syn = .error err) : err.isReturned = false := by
  rw [setUseLoop_eq] at h
  split at h <;> cases h
  rfl

theorem applyWork_sorts_no_returned_error (e : EWork) (op : Op) (hs : SortsW op = true) (err : EditErr)
    (h : applyWork e op = some (.error err)) : err.isReturned = false := by
  cases op with
  | setUse w r =>
    simp only [applyWork, Option.some.injEq] at h
    unfold setUse at h
    simp only [bind, Except.bind] at h
    cases hr : setUseLoop e.f.use (useNeedMap w []) e.f.syn with
    | error err' =>
      simp only [hr, Except.error.injEq] at h
      subst h
      exact setUseLoop_error _ _ _ _ hr
    | ok res => simp [hr, pure, Except.pure] at h
  | sortBlocks => simp [applyWork] at h
  | _ => simp [SortsW] at hs

/-- Props/C16 `blocks_sorted_work` -/
theorem blocks_sorted_work (e e' : EWork) (ops : List Op) (op : Op) (res : List Bool) (hs : SortsW op = true)
    (h : runOps applyWork e (ops ++ [op]) [] 0 = .done e' res) :
    (∀ b, Expr.lineBlock b ∈ e'.f.syn.stmts → Sorted (onToken lineLess) b.lines) ∧
    (∀ b, Expr.lineBlock b ∈ (workCleanup e').f.syn.stmts → Sorted (onToken lineLess) b.lines) := by
  rcases runOps_append applyWork ops [op] e [] 0 e' res h with ⟨e1, r1, _, h2⟩
  have hsorted : ∀ b, Expr.lineBlock b ∈ e'.f.syn.stmts → Sorted (onToken lineLess) b.lines := by
    unfold runOps at h2
    cases ha : applyWork e1 op with
    | none => simp [ha] at h2
    | some r =>
      cases r with
      | ok e2 =>
        simp only [ha, runOps, SessionResult.done.injEq] at h2
        rw [← h2.1]
        exact applyWork_sorts e1 e2 op hs ha
      | error err =>
        simp only [ha, applyWork_sorts_no_returned_error e1 op hs err ha, Bool.false_eq_true, if_false] at h2
        cases h2
  exact ⟨hsorted, cleanupStmts_sorted lineLess _ hsorted⟩

end ModVerif.Modfile.Edit
