/-
  Directive values (go.mod): the values compared before and after formatting, the simulation relation between two
  `File.add` runs, the error-free outcomes of a strict `File.add` step as a relation (`AddOK`), and which branch `File.add`
  takes in either mode.
-/
import ModVerif.Model.Modfile.Rule
import ModVerif.Proofs.ModfileC20Rule
import ModVerif.Proofs.ModfileFmtQuoteUnquote
import ModVerif.Proofs.ModfileFmtConserve
namespace ModVerif.Proofs.ModfileFmtDir
open ModVerif ModVerif.Modfile ModVerif.Proofs.ModfileFmtLex ModVerif.Proofs.ModfileFmtLine

/-- The directive values of a go.mod file: everything `File.add` derives from the tokens, without line
    identities.  (`Module.deprecated` and `Retract.rationale` are derived from comments, not from the
    directive's arguments, and are not part of the values.) -/
structure Values where
  module : Option Bytes
  go : Option Bytes
  toolchain : Option Bytes
  godebug : List (Bytes × Bytes)
  require : List (ModVersion × Bool)
  exclude : List ModVersion
  replace : List (ModVersion × ModVersion)
  retract : List VersionInterval
  tool : List Bytes

def values (f : Modfile.File) : Values :=
  { module := f.module.map (·.mod.path)
    go := f.go.map (·.version)
    toolchain := f.toolchain.map (·.name)
    godebug := f.godebug.map fun g => (g.key, g.value)
    require := f.require.map fun r => (r.mod, r.indirect)
    exclude := f.exclude.map (·.mod)
    replace := f.replace.map fun r => (r.old, r.new)
    retract := f.retract.map (·.interval)
    tool := f.tool.map (·.path) }

structure Sim (st st' : AddState) : Prop where
  vals : values st.file = values st'.file
  errs : st.errsRev = []
  errs' : st'.errsRev = []

/-- Not the `FixOK` of the edit operations (`Edit.SFix.FixOK`: never the empty string), which here is `FixNE`. -/
def FixOK (fix : Option Fixer) : Prop :=
  fix = none ∨ ∃ fx, fix = some fx ∧ ∀ p v w, fx p v = .ok w → fx p w = .ok w

def ArgsTok (args : List Bytes) : Prop := ∀ t ∈ args, TokText t ∧ t ≠ [40] ∧ t ≠ [41]

theorem isSome_of_map_eq {α β γ : Type} {f : α → γ} {g : β → γ} {a : Option α} {b : Option β}
    (h : a.map f = b.map g) : a.isSome = b.isSome := by
  cases a <;> cases b <;> simp_all

theorem values_module_isSome {f g : Modfile.File} (h : values f = values g) : f.module.isSome = g.module.isSome :=
  isSome_of_map_eq (congrArg Values.module h)

theorem values_go_isSome {f g : Modfile.File} (h : values f = values g) : f.go.isSome = g.go.isSome :=
  isSome_of_map_eq (congrArg Values.go h)

theorem values_toolchain_isSome {f g : Modfile.File} (h : values f = values g) : f.toolchain.isSome = g.toolchain.isSome :=
  isSome_of_map_eq (congrArg Values.toolchain h)

theorem verb_ne :
    (B "toolchain" == B "go") = false ∧ (B "module" == B "go") = false ∧ (B "module" == B "toolchain") = false ∧
    (B "godebug" == B "go") = false ∧ (B "godebug" == B "toolchain") = false ∧ (B "godebug" == B "module") = false ∧
    (B "require" == B "go") = false ∧ (B "require" == B "toolchain") = false ∧ (B "require" == B "module") = false ∧
    (B "require" == B "godebug") = false ∧
    (B "exclude" == B "go") = false ∧ (B "exclude" == B "toolchain") = false ∧ (B "exclude" == B "module") = false ∧
    (B "exclude" == B "godebug") = false ∧ (B "exclude" == B "require") = false ∧
    (B "replace" == B "go") = false ∧ (B "replace" == B "toolchain") = false ∧ (B "replace" == B "module") = false ∧
    (B "replace" == B "godebug") = false ∧ (B "replace" == B "require") = false ∧ (B "replace" == B "exclude") = false ∧
    (B "retract" == B "go") = false ∧ (B "retract" == B "toolchain") = false ∧ (B "retract" == B "module") = false ∧
    (B "retract" == B "godebug") = false ∧ (B "retract" == B "require") = false ∧ (B "retract" == B "exclude") = false ∧
    (B "retract" == B "replace") = false ∧
    (B "tool" == B "go") = false ∧ (B "tool" == B "toolchain") = false ∧ (B "tool" == B "module") = false ∧
    (B "tool" == B "godebug") = false ∧ (B "tool" == B "require") = false ∧ (B "tool" == B "exclude") = false ∧
    (B "tool" == B "replace") = false ∧ (B "tool" == B "retract") = false := by decide +kernel

structure StepOK (st st1 : AddState) (verb : Bytes) (args1 : List Bytes) (fix : Option Fixer) : Prop where
  errs : st.errsRev = []
  replay : ∀ (st' : AddState) (block' : Option Comments) (l' : Line), Sim st st' → l'.comments.suffix = [] →
    ∃ st1', File.add st' block' l' verb args1 fix true = (st1', args1) ∧ Sim st1 st1'

theorem values_eq_iff (f g : Modfile.File) : values f = values g ↔
    f.module.map (·.mod.path) = g.module.map (·.mod.path) ∧ f.go.map (·.version) = g.go.map (·.version) ∧
    f.toolchain.map (·.name) = g.toolchain.map (·.name) ∧
    f.godebug.map (fun x => (x.key, x.value)) = g.godebug.map (fun x => (x.key, x.value)) ∧
    f.require.map (fun r => (r.mod, r.indirect)) = g.require.map (fun r => (r.mod, r.indirect)) ∧
    f.exclude.map (·.mod) = g.exclude.map (·.mod) ∧
    f.replace.map (fun r => (r.old, r.new)) = g.replace.map (fun r => (r.old, r.new)) ∧
    f.retract.map (·.interval) = g.retract.map (·.interval) ∧ f.tool.map (·.path) = g.tool.map (·.path) := by
  simp [values]

theorem err_ne_nil (st : AddState) (p : Position) (k : RuleErrKind) : (st.err p k).errsRev ≠ [] := by
  simp [AddState.err]

/-- The error-free outcomes of strict `File.add`, each with the decisions that lead to it: verb, arguments, the new typed
    file, the rewritten arguments.  A fact about an accepted step is a case analysis on this relation (`add_strict`);
    a constructor applied at another state or line gives the step there (`add_of_ok`). -/
inductive AddOK (st : AddState) (blk : Option Comments) (line : Line) (fix : Option Fixer) :
    Bytes → List Bytes → Modfile.File → List Bytes → Prop
  | go (a : Bytes) : st.file.go.isSome = false → goVersionRE a = true →
      AddOK st blk line fix (B "go") [a] { st.file with go := some { version := a, lineId := line.id } } [a]
  | toolchain (a : Bytes) : st.file.toolchain.isSome = false → toolchainRE a = true →
      AddOK st blk line fix (B "toolchain") [a] { st.file with toolchain := some { name := a, lineId := line.id } } [a]
  | module (a s a' : Bytes) : st.file.module.isSome = false → parseString a = some (s, a') →
      AddOK st blk line fix (B "module") [a]
        { st.file with module := some { mod := { path := s }, deprecated := parseDeprecation blk line.comments,
                                         lineId := line.id } } [a']
  | godebug (args : List Bytes) (k v : Bytes) : addGodebug args = some (k, v) →
      AddOK st blk line fix (B "godebug") args
        { st.file with godebug := st.file.godebug ++ [{ key := k, value := v, lineId := line.id }] } args
  | require (a0 a1 s a0' a1' v pm : Bytes) : parseString a0 = some (s, a0') → parseVersion s a1 fix = (a1', .ok v) →
      modulePathMajor s = some pm → Module.checkPathMajor v pm = true →
      AddOK st blk line fix (B "require") [a0, a1]
        { st.file with require := st.file.require ++
          [{ mod := { path := s, version := v }, indirect := isIndirect line, lineId := line.id }] } [a0', a1']
  | exclude (a0 a1 s a0' a1' v pm : Bytes) : parseString a0 = some (s, a0') → parseVersion s a1 fix = (a1', .ok v) →
      modulePathMajor s = some pm → Module.checkPathMajor v pm = true →
      AddOK st blk line fix (B "exclude") [a0, a1]
        { st.file with exclude := st.file.exclude ++ [{ mod := { path := s, version := v }, lineId := line.id }] }
        [a0', a1']
  | replace (args args' : List Bytes) (r : Replace) : parseReplace line.id args fix = (args', .ok r) →
      AddOK st blk line fix (B "replace") args { st.file with replace := st.file.replace ++ [r] } args'
  | retract (args args' : List Bytes) (vi : VersionInterval) :
      parseVersionInterval [] args (some dontFixRetract) = (args', .ok (vi, [])) →
      AddOK st blk line fix (B "retract") args
        { st.file with retract := st.file.retract ++
          [{ interval := vi, rationale := parseDirectiveComment blk line.comments, lineId := line.id }] } args'
  | tool (a s a' : Bytes) : parseString a = some (s, a') →
      AddOK st blk line fix (B "tool") [a] { st.file with tool := st.file.tool ++ [{ path := s, lineId := line.id }] } [a']

open ModVerif.Proofs.ModfileC20 in
theorem add_strict (st : AddState) (blk : Option Comments) (line : Line) (verb : Bytes) (args : List Bytes)
    (fix : Option Fixer) :
    (AddOK st blk line fix verb args (File.add st blk line verb args fix true).1.file
        (File.add st blk line verb args fix true).2 ∧
      (File.add st blk line verb args fix true).1.errsRev = st.errsRev) ∨
    (File.add st blk line verb args fix true).1.errsRev ≠ [] := by
  fun_cases File.add st blk line verb args fix true
  all_goals first
    | (right; exact err_ne_nil _ _ _)
    | skip
  -- three branches belong to lax mode only
  case case1 h => simp at h
  case case4 h => simp at h
  case case27 h _ => exact absurd rfl h
  -- what is left are the nine branches without an error, one constructor each
  case case3 h1 h2 a h3 => obtain rfl := eq_of_beq h1; exact .inl ⟨.go a (by simpa using h2) h3, rfl⟩
  case case9 h1 h2 a h3 =>
    obtain rfl := eq_of_beq h1; exact .inl ⟨.toolchain a (by simpa using h2) (by simpa using h3), rfl⟩
  case case13 h1 h2 _ _ _ a s a' h3 => obtain rfl := eq_of_beq h1; exact .inl ⟨.module a s a' (by simpa using h2) h3, rfl⟩
  case case16 h1 k v h3 => obtain rfl := eq_of_beq h1; exact .inl ⟨.godebug _ k v h3, rfl⟩
  case case21 h0 a0 a1 s a0' h3 a1' v h4 pm h5 h6 h1 =>
    obtain rfl := eq_of_beq h1; exact .inl ⟨.require a0 a1 s a0' a1' v pm h3 h4 h5 (by simpa using h6), rfl⟩
  case case22 h0 a0 a1 s a0' h3 a1' v h4 pm h5 h6 h1 =>
    obtain rfl := eq_of_beq (beq_of_or h0 h1)
    exact .inl ⟨.exclude a0 a1 s a0' a1' v pm h3 h4 h5 (by simpa using h6), rfl⟩
  case case25 h1 args' r h3 => obtain rfl := eq_of_beq h1; exact .inl ⟨.replace _ args' r h3, rfl⟩
  case case29 h1 _ args' vi rest h2 h3 =>
    obtain rfl := eq_of_beq h1
    obtain rfl : rest = [] := by cases rest <;> simp_all
    exact .inl ⟨.retract _ args' vi h3, rfl⟩
  case case31 h1 a s a' h3 => obtain rfl := eq_of_beq h1; exact .inl ⟨.tool a s a' h3, rfl⟩

theorem add_of_ok {st : AddState} {blk : Option Comments} {line : Line} {fix : Option Fixer} {verb : Bytes}
    {args args1 : List Bytes} {f1 : Modfile.File} (h : AddOK st blk line fix verb args f1 args1) :
    File.add st blk line verb args fix true = ({ st with file := f1 }, args1) := by
  obtain ⟨v1, v2, v3, v4, v5, v6, v7, v8, v9, v10, v11, v12, v13, v14, v15, v16, v17, v18, v19, v20, v21, v22, v23,
    v24, v25, v26, v27, v28, v29, v30, v31, v32, v33, v34, v35, v36⟩ := verb_ne
  unfold File.add
  cases h with
  | go a h1 h2 =>
    simp only [Bool.not_true, Bool.false_and, Bool.false_eq_true, if_false, beq_self_eq_true, if_true, h1, h2]
  | toolchain a h1 h2 =>
    simp only [Bool.not_true, Bool.false_and, Bool.false_eq_true, if_false, beq_self_eq_true, if_true, v1, h1, h2]
  | module a s a' h1 h2 =>
    simp only [Bool.not_true, Bool.false_and, Bool.false_eq_true, if_false, beq_self_eq_true, if_true, v2, v3, h1, h2]
  | godebug args k v h1 =>
    simp only [Bool.not_true, Bool.false_and, Bool.false_eq_true, if_false, beq_self_eq_true, if_true, v4, v5, v6, h1]
  | require a0 a1 s a0' a1' v pm h1 h2 h3 h4 =>
    simp only [Bool.not_true, Bool.false_and, Bool.false_eq_true, if_false, beq_self_eq_true, if_true, v7, v8, v9, v10,
      Bool.true_or, h1, h2, h3, h4]
  | exclude a0 a1 s a0' a1' v pm h1 h2 h3 h4 =>
    simp only [Bool.not_true, Bool.false_and, Bool.false_eq_true, if_false, beq_self_eq_true, if_true, v11, v12, v13,
      v14, v15, Bool.or_true, h1, h2, h3, h4]
  | replace args args' r h1 =>
    simp only [Bool.not_true, Bool.false_and, Bool.false_eq_true, if_false, beq_self_eq_true, if_true, v16, v17, v18,
      v19, v20, v21, Bool.or_self, h1]
  | retract args args' vi h1 =>
    simp only [Bool.not_true, Bool.false_and, Bool.false_eq_true, if_false, beq_self_eq_true, if_true, v22, v23, v24,
      v25, v26, v27, v28, Bool.or_self, h1, List.isEmpty_nil, Bool.and_true]
  | tool a s a' h1 =>
    simp only [Bool.not_true, Bool.false_and, Bool.false_eq_true, if_false, beq_self_eq_true, if_true, v29, v30, v31,
      v32, v33, v34, v35, v36, Bool.or_self, h1]

theorem values_go (f : Modfile.File) (g : Go) : values { f with go := some g } = { values f with go := some g.version } := rfl

theorem values_toolchain (f : Modfile.File) (t : Toolchain) :
    values { f with toolchain := some t } = { values f with toolchain := some t.name } := rfl

theorem values_module (f : Modfile.File) (m : Modfile.Module) :
    values { f with module := some m } = { values f with module := some m.mod.path } := rfl

theorem values_godebug (f : Modfile.File) (g : Godebug) :
    values { f with godebug := f.godebug ++ [g] } = { values f with godebug := (values f).godebug ++ [(g.key, g.value)] } := by
  simp [values]

theorem values_require (f : Modfile.File) (r : Require) :
    values { f with require := f.require ++ [r] } = { values f with require := (values f).require ++ [(r.mod, r.indirect)] } := by
  simp [values]

theorem values_exclude (f : Modfile.File) (r : Exclude) :
    values { f with exclude := f.exclude ++ [r] } = { values f with exclude := (values f).exclude ++ [r.mod] } := by
  simp [values]

theorem values_replace (f : Modfile.File) (r : Replace) :
    values { f with replace := f.replace ++ [r] } = { values f with replace := (values f).replace ++ [(r.old, r.new)] } := by
  simp [values]

theorem values_retract (f : Modfile.File) (r : Retract) :
    values { f with retract := f.retract ++ [r] } = { values f with retract := (values f).retract ++ [r.interval] } := by
  simp [values]

theorem values_tool (f : Modfile.File) (t : Tool) :
    values { f with tool := f.tool ++ [t] } = { values f with tool := (values f).tool ++ [t.path] } := by
  simp [values]

open ModVerif.Proofs.ModfileC20 in
theorem add_dispatch (verb : Bytes) (strict : Bool) :
    (strict = false ∧ ∀ st block line args fix, File.add st block line verb args fix strict = (st, args)) ∨
    (verb = B "go" ∧ ∀ st block line args fix, File.add st block line verb args fix strict = addGo st line args strict) ∨
    (verb = B "toolchain" ∧ ∀ st block line args fix, File.add st block line verb args fix strict = addToolchain st line args) ∨
    (verb = B "module" ∧ ∀ st block line args fix, File.add st block line verb args fix strict = addModule st block line args) ∨
    (verb = B "godebug" ∧ ∀ st block line args fix, File.add st block line verb args fix strict = addGodebugV st line args) ∨
    ((verb = B "require" ∨ verb = B "exclude") ∧
      ∀ st block line args fix, File.add st block line verb args fix strict = addReqExc st line verb args fix) ∨
    (verb = B "replace" ∧ ∀ st block line args fix, File.add st block line verb args fix strict = addReplaceV st line args fix) ∨
    (verb = B "retract" ∧
      ∀ st block line args fix, File.add st block line verb args fix strict = addRetractV st block line args strict) ∨
    (verb = B "tool" ∧ ∀ st block line args fix, File.add st block line verb args fix strict = addToolV st line args) ∨
    (∀ st block line args fix,
      File.add st block line verb args fix strict = (st.err line.start .unknownDirective, args)) := by
  by_cases h0 : (!strict && !verbIn verb laxVerbs) = true
  · exact .inl ⟨by cases strict <;> simp_all, fun st block line args fix => (add_eq ..).trans (if_pos h0)⟩
  have e0 := fun st block line args fix => (add_eq st block line verb args fix strict).trans (if_neg h0)
  refine .inr ?_
  by_cases h1 : (verb == B "go") = true
  · exact .inl ⟨beq_iff_eq.1 h1, fun st block line args fix => (e0 ..).trans (if_pos h1)⟩
  have e1 := fun st block line args fix => (e0 st block line args fix).trans (if_neg h1)
  refine .inr ?_
  by_cases h2 : (verb == B "toolchain") = true
  · exact .inl ⟨beq_iff_eq.1 h2, fun st block line args fix => (e1 ..).trans (if_pos h2)⟩
  have e2 := fun st block line args fix => (e1 st block line args fix).trans (if_neg h2)
  refine .inr ?_
  by_cases h3 : (verb == B "module") = true
  · exact .inl ⟨beq_iff_eq.1 h3, fun st block line args fix => (e2 ..).trans (if_pos h3)⟩
  have e3 := fun st block line args fix => (e2 st block line args fix).trans (if_neg h3)
  refine .inr ?_
  by_cases h4 : (verb == B "godebug") = true
  · exact .inl ⟨beq_iff_eq.1 h4, fun st block line args fix => (e3 ..).trans (if_pos h4)⟩
  have e4 := fun st block line args fix => (e3 st block line args fix).trans (if_neg h4)
  refine .inr ?_
  by_cases h5 : (verb == B "require" || verb == B "exclude") = true
  · exact .inl ⟨by simpa using h5, fun st block line args fix => (e4 ..).trans (if_pos h5)⟩
  have e5 := fun st block line args fix => (e4 st block line args fix).trans (if_neg h5)
  refine .inr ?_
  by_cases h6 : (verb == B "replace") = true
  · exact .inl ⟨beq_iff_eq.1 h6, fun st block line args fix => (e5 ..).trans (if_pos h6)⟩
  have e6 := fun st block line args fix => (e5 st block line args fix).trans (if_neg h6)
  refine .inr ?_
  by_cases h7 : (verb == B "retract") = true
  · exact .inl ⟨beq_iff_eq.1 h7, fun st block line args fix => (e6 ..).trans (if_pos h7)⟩
  have e7 := fun st block line args fix => (e6 st block line args fix).trans (if_neg h7)
  refine .inr ?_
  by_cases h8 : (verb == B "tool") = true
  · exact .inl ⟨beq_iff_eq.1 h8, fun st block line args fix => (e7 ..).trans (if_pos h8)⟩
  exact .inr fun st block line args fix => (e7 ..).trans (if_neg h8)

end ModVerif.Proofs.ModfileFmtDir
