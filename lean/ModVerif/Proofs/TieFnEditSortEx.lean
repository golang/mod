/-
  Test harness of the non-vacuity examples of Tie/FnEditSort.lean: a parsed go.mod / go.work is loaded into a heap with the
  driver's `Drv.GenEdit.load` / `loadWork`, an operation is run, the WHOLE file (typed lists and syntax graph, line ids =
  pointers) is read back with the driver's `fileM` / `workM` and compared with the hand model applied to `Edit.load` /
  `Edit.loadWork` of the same file (kernel-evaluated).  `fileM` does not read the `Syntax` pointers of the typed entries
  (it puts `lineId := 0`), so the model side is compared after `zeroIds`.
-/
import ModVerif.Proofs.TieFnEditRep
namespace ModVerif.Tie.FnEditSortEx
open ModVerif ModVerif.GoRt ModVerif.Generated.Edit

def zeroIds (f : Modfile.File) : Modfile.File :=
  { f with
    module := f.module.map fun m => { m with lineId := 0 }
    go := f.go.map fun g => { g with lineId := 0 }
    toolchain := f.toolchain.map fun t => { t with lineId := 0 }
    godebug := f.godebug.map fun g => { g with lineId := 0 }
    require := f.require.map fun r => { r with lineId := 0 }
    exclude := f.exclude.map fun r => { r with lineId := 0 }
    replace := f.replace.map fun r => { r with lineId := 0 }
    retract := f.retract.map fun r => { r with lineId := 0 }
    tool := f.tool.map fun t => { t with lineId := 0 } }

def zeroIdsW (f : Modfile.WorkFile) : Modfile.WorkFile :=
  { f with
    go := f.go.map fun g => { g with lineId := 0 }
    toolchain := f.toolchain.map fun t => { t with lineId := 0 }
    godebug := f.godebug.map fun g => { g with lineId := 0 }
    use := f.use.map fun r => { r with lineId := 0 }
    replace := f.replace.map fun r => { r with lineId := 0 } }

def runFile (file : Bytes) (op : Int → Heap → M (Unit × Heap)) : Option Modfile.File :=
  match Modfile.parseStrict (B "go.mod") file none with
  | .ok f =>
    let (h, fp) := Drv.GenEdit.load f
    match op fp h with
    | .ok (_, h') => Drv.GenEdit.fileM h' fp
    | .error _ => none
  | .error _ => none

def modelFile (file : Bytes) (g : Modfile.Edit.EFile → Modfile.Edit.EFile) : Option Modfile.File :=
  match Modfile.parseStrict (B "go.mod") file none with
  | .ok f => some (zeroIds (g (Modfile.Edit.load f)).f)
  | .error _ => none

def runWork (file : Bytes) (op : Int → Heap → M (Unit × Heap)) : Option Modfile.WorkFile :=
  match Modfile.parseWork (B "go.work") file none with
  | .ok f =>
    let (h, fp) := Drv.GenEdit.loadWork f
    match op fp h with
    | .ok (_, h') => Drv.GenEdit.workM h' fp
    | .error _ => none
  | .error _ => none

def modelWork (file : Bytes) (g : Modfile.Edit.EWork → Modfile.Edit.EWork) : Option Modfile.WorkFile :=
  match Modfile.parseWork (B "go.work") file none with
  | .ok f => some (zeroIdsW (g (Modfile.Edit.loadWork f)).f)
  | .error _ => none

/-- go 1.21 (semantic exclude order), a duplicate exclude, unsorted exclude / retract / replace blocks, a duplicate
    replacement (the later one wins), a duplicate tool -/
def exSort : Bytes :=
  B "module m\n\ngo 1.21\n\nexclude (\n\tx.y/z v1.10.0\n\tx.y/z v1.2.0\n\tx.y/z v1.10.0\n)\n\nretract (\n\tv1.0.0\n\t[v1.1.0, v1.2.0]\n)\n\nreplace (\n\tb.c/d => ../d\n\ta.b/c v1.0.0 => ../c\n\tb.c/d => ../e\n)\n\ntool (\n\tq.r/s\n\tq.r/a\n\tq.r/s\n)\n"

/-- the same without a go directive (lexical exclude order) -/
def exSortOld : Bytes :=
  B "module m\n\nexclude (\n\tx.y/z v1.10.0\n\tx.y/z v1.2.0\n)\n\nrequire (\n\td.e/f v1.2.3\n\ta.b/c v1.0.0\n)\n"

def exWork : Bytes :=
  B "go 1.21\n\nuse (\n\t./b\n\t./a\n)\n\nreplace (\n\tx.y/z => ../z\n\ta.b/c => ../c\n\tx.y/z => ../w\n)\n"

/-- three entries are dropped (their lines marked removed, the typed entries cleared), then `Cleanup` -/
def dropThenCleanup (fp : Int) (h : Heap) : M (Unit × Heap) := do
  let (_, h) ← File_DropExclude 100 fp (B "x.y/z") (B "v1.2.0") h
  let (_, h) ← File_DropReplace 100 fp (B "a.b/c") (B "v1.0.0") h
  let (_, h) ← File_DropTool 100 fp (B "q.r/a") h
  File_Cleanup 100 fp h

def dropThenCleanupM (e : Modfile.Edit.EFile) : Modfile.Edit.EFile :=
  match (do
    let e ← Modfile.Edit.dropExclude e (B "x.y/z") (B "v1.2.0")
    let e ← Modfile.Edit.dropReplace e (B "a.b/c") (B "v1.0.0")
    let e ← Modfile.Edit.dropTool e (B "q.r/a")
    pure (Modfile.Edit.cleanup e) : Except Modfile.Edit.EditErr Modfile.Edit.EFile) with
  | .ok e => e
  | .error _ => e

def wDropThenCleanup (fp : Int) (h : Heap) : M (Unit × Heap) := do
  let (_, h) ← WorkFile_DropUse 100 fp (B "./b") h
  let (_, h) ← WorkFile_DropReplace 100 fp (B "a.b/c") (B "") h
  WorkFile_Cleanup 100 fp h

def wDropThenCleanupM (e : Modfile.Edit.EWork) : Modfile.Edit.EWork :=
  match (do
    let e ← Modfile.Edit.dropUse e (B "./b")
    let e ← Modfile.Edit.workDropReplace e (B "a.b/c") (B "")
    pure (Modfile.Edit.workCleanup e) : Except Modfile.Edit.EditErr Modfile.Edit.EWork) with
  | .ok e => e
  | .error _ => e

end ModVerif.Tie.FnEditSortEx
