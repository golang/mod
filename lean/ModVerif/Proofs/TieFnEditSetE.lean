/-
  `File.SetRequireSeparateIndirect`: the SCAN of the statements (loops 1 and 2
  of the generated function) = the model's `scanStmts` / `scanBlockLines`.  The scan only reads the heap.  The indices are
  `Int`s with -1 for "none" (`optI`); the map `lineToBlock : map[*Line]*LineBlock` is the model's `(line id, block index)`
  list with the block index replaced by the block pointer at that index (`ltbG`).
-/
import ModVerif.Proofs.TieFnEditSetD
namespace ModVerif.Tie.FnEditSetE
open ModVerif ModVerif.GoRt ModVerif.Generated.Edit ModVerif.Tie.FnEditRep ModVerif.Tie.FnEditTreeA ModVerif.Tie.FnEditLoop ModVerif.Tie.FnEditSetA
  ModVerif.Tie.FnEditSetB ModVerif.Tie.FnEditSetD
open ModVerif.Modfile.Edit (Scan scanStmts scanBlockLines headIs hasComments treeIds)

theorem B_require : B "require" = [114, 101, 113, 117, 105, 114, 101] := by decide +kernel

def optI : Option Nat → Int
  | none => -1
  | some k => (k : Int)

@[simp] theorem optI_none : optI none = -1 := rfl
@[simp] theorem optI_some (k : Nat) : optI (some k) = (k : Int) := rfl

theorem optI_lt_zero (o : Option Nat) : optI o < 0 ↔ o = none := by
  cases o <;> simp [optI] <;> omega

def blockPtrAt (es : List Expr) (i : Nat) : Int :=
  match es[i]? with
  | some (.LineBlock p) => p
  | _ => 0

/-- the generated `lineToBlock` -/
def ltbG (es : List Expr) (ml : List (Nat × Nat)) : List (Int × Int) := ml.map fun q => ((q.1 : Int), blockPtrAt es q.2)

theorem ltbG_append (es : List Expr) (a b : List (Nat × Nat)) : ltbG es (a ++ b) = ltbG es a ++ ltbG es b := by simp [ltbG]

/-- fuel of the scan: one per statement, one per line of a block -/
def nodes : List Modfile.Expr → Nat
  | [] => 0
  | .lineBlock b :: ss => 1 + b.lines.length + nodes ss
  | _ :: ss => 1 + nodes ss

theorem nodes_block (b : Modfile.LineBlock) (ss : List Modfile.Expr) :
    nodes (Modfile.Expr.lineBlock b :: ss) = 1 + b.lines.length + nodes ss := rfl
theorem nodes_line (l : Modfile.Line) (ss : List Modfile.Expr) : nodes (Modfile.Expr.line l :: ss) = 1 + nodes ss := rfl
theorem nodes_cb (c : Modfile.CommentBlock) (ss : List Modfile.Expr) : nodes (Modfile.Expr.commentBlock c :: ss) = 1 + nodes ss := rfl

/-- the verb test of the scan: `len(tok) == 0 || tok[0] != "require"` -/
theorem verbTest (tok : List Bytes) :
    (if decide (len tok = (0 : Int)) then (pure true : M Bool) else (do
        let t ← idxL tok (0 : Int)
        pure (!decide (t = ([114, 101, 113, 117, 105, 114, 101] : Bytes))))) =
      .ok (tok.isEmpty || !headIs tok (B "require")) := by
  cases tok with
  | nil => simp [len_eq, pure, Except.pure]
  | cons a t =>
    have : ¬ (len (a :: t) = 0) := by simp [len_eq, -len_cons]; omega
    simp only [this, decide_false, Bool.false_eq_true, if_false, idxL_zero_cons, bind, Except.bind, pure, Except.pure, headIs,
      List.head?_cons, List.isEmpty_cons, Bool.false_or, B_require]
    by_cases e : a = [114, 101, 113, 117, 105, 114, 101] <;> simp [e]

/-! ### the inner loop over the lines of a block -/

theorem mapSet_fresh {κ ν : Type} [DecidableEq κ] (m : List (κ × ν)) (k : κ) (v : ν) (h : k ∉ m.map (·.1)) :
    mapSet m k v = m ++ [(k, v)] := by
  unfold GoRt.mapSet
  simp [find_none_of_keys h]

theorem loop2S_sim (isPrint : Int → Bool) (quote : Bytes → Bytes) (h : Heap) (bp : Int) :
    ∀ (ls : List Modfile.Line) (ps pre rx : List Int) (ri : Int) (ltb : List (Int × Int)) (d i : Bool) (fuel : Nat),
      rx = pre ++ ps → ri = (pre.length : Int) → RLines h ps ls → (ls.map (·.id)).Nodup →
      (∀ l ∈ ls, ((l.id : Nat) : Int) ∉ ltb.map (·.1)) → ls.length < fuel →
      File_SetRequireSeparateIndirect_loop2 isPrint quote rx bp fuel ri ltb d i h =
        .ok (len rx, ltb ++ ls.map (fun l => ((l.id : Int), bp)), (scanBlockLines ls d i).1, (scanBlockLines ls d i).2, h)
  | [], [], pre, rx, ri, ltb, d, i, fuel + 1, hrx, hri, _, _, _, _ => by
    subst hrx hri
    have := not_lt_len_end pre
    simp [File_SetRequireSeparateIndirect_loop2, pure, Except.pure, scanBlockLines, len_eq]
  | l :: ls, p :: ps, pre, rx, ri, ltb, d, i, fuel + 1, hrx, hri, hr, hnd, hfr, hf => by
    obtain ⟨⟨hg, hp⟩, hr'⟩ := hr
    simp only [List.map_cons, List.nodup_cons] at hnd
    have hfresh : p ∉ ltb.map (·.1) := by rw [hp]; exact hfr l List.mem_cons_self
    have hfr' : ∀ l' ∈ ls, ((l'.id : Nat) : Int) ∉ (ltb ++ [(p, bp)]).map (·.1) := by
      intro l' hl' hm
      simp only [List.map_append, List.map_cons, List.map_nil, List.mem_append, List.mem_singleton] at hm
      rcases hm with hm | hm
      · exact hfr l' (List.mem_cons_of_mem _ hl') hm
      · rw [hp] at hm
        have : l'.id = l.id := by omega
        exact hnd.1 (List.mem_map.2 ⟨l', hl', this⟩)
    have ih := fun d' i' => loop2S_sim isPrint quote h bp ls ps (pre ++ [p]) rx (ri + 1) (ltb ++ [(p, bp)]) d' i' fuel
      (by simp [hrx]) (by simp [hri]) hr' hnd.2 hfr' (by simp at hf; omega)
    subst hrx hri
    unfold File_SetRequireSeparateIndirect_loop2
    simp only [lt_len_mid, decide_true, if_true, idxL_mid, bind, Except.bind, mapSet_fresh _ _ _ hfresh, hg, lineG_Comments,
      hasComments_eq, isIndirect_eq hg]
    have hcons : ltb ++ [(p, bp)] ++ ls.map (fun l => ((l.id : Int), bp)) =
        ltb ++ (l :: ls).map (fun l => ((l.id : Int), bp)) := by simp [hp]
    unfold scanBlockLines
    by_cases hc : hasComments l.comments = true
    · simp only [hc, if_true]
      rw [ih, hcons]
    · simp only [hc, Bool.false_eq_true, if_false]
      by_cases hi : Modfile.isIndirect l = true
      · simp only [hi, if_true]
        rw [ih, hcons]
      · simp only [hi, Bool.false_eq_true, if_false]
        rw [ih, hcons]
  | [], _ :: _, _, _, _, _, _, _, _, _, _, hr, _, _, _ => hr.elim
  | _ :: _, [], _, _, _, _, _, _, _, _, _, hr, _, _, _ => hr.elim

/-! ### the outer loop over the statements -/

theorem blockPtrAt_cursor (pre : List Expr) (p : Int) (es : List Expr) : blockPtrAt (pre ++ Expr.LineBlock p :: es) pre.length = p := by
  simp [blockPtrAt]

theorem treeIds_block_mid (preS : List Modfile.Expr) (b : Modfile.LineBlock) (ss : List Modfile.Expr) :
    treeIds (preS ++ Modfile.Expr.lineBlock b :: ss) = treeIds preS ++ (b.lines.map (·.id) ++ treeIds ss) := by
  rw [Modfile.Edit.treeIds_append, Modfile.Edit.treeIds_cons, Modfile.Edit.treeIds_block]

/-- **the scan of `File.SetRequireSeparateIndirect`** (rule.go:1312, loops 1 and 2 of the generated function) from the statement
    index `pre.length` is the model's `scanStmts`; the heap is only read.  `lineToBlock` maps the line ids met so far, all in
    the part already passed (`preS`), which with `hnd` makes the map insertions fresh. -/
theorem loop1S_sim (isPrint : Int → Bool) (quote : Bytes → Bytes) (h : Heap) (f : Int) (rx : List Expr) (allS : List Modfile.Expr)
    (hnd : (treeIds allS).Nodup) :
    ∀ (ss : List Modfile.Expr) (es pre : List Expr) (preS : List Modfile.Expr) (ri : Int) (s : Scan) (fuel : Nat),
      rx = pre ++ es → allS = preS ++ ss → ri = (pre.length : Int) → preS.length = pre.length → RStmts h es ss →
      (∀ q ∈ s.lineToBlock, q.1 ∈ treeIds preS) → nodes ss < fuel →
      File_SetRequireSeparateIndirect_loop1 isPrint quote rx f fuel ri (optI s.lastRequire) (s.count : Int) h (optI s.lastIndirect)
          (optI s.lastDirect) (ltbG rx s.lineToBlock) =
        .ok (len rx, optI (scanStmts ss pre.length s).lastRequire, ((scanStmts ss pre.length s).count : Int), h,
          optI (scanStmts ss pre.length s).lastIndirect, optI (scanStmts ss pre.length s).lastDirect,
          ltbG rx (scanStmts ss pre.length s).lineToBlock)
  | [], [], pre, preS, ri, s, fuel + 1, hrx, _, hri, _, _, _, _ => by
    subst hrx hri
    have := not_lt_len_end pre
    simp [File_SetRequireSeparateIndirect_loop1, pure, Except.pure, scanStmts, len_eq]
  | st :: ss, e :: es, pre, preS, ri, s, fuel + 1, hrx, hall, hri, hpl, hr, hkeys, hf => by
    have ih := fun s' hk' hf' => loop1S_sim isPrint quote h f rx allS hnd ss es (pre ++ [e]) (preS ++ [st]) (ri + 1) s' fuel
      (by simp [hrx]) (by simp [hall]) (by simp [hri]) (by simp [hpl]) hr.2 hk' hf'
    simp only [List.length_append, List.length_singleton] at ih
    have hkeys' : ∀ q ∈ s.lineToBlock, q.1 ∈ treeIds (preS ++ [st]) := by
      intro q hq; rw [Modfile.Edit.treeIds_append]; exact List.mem_append_left _ (hkeys q hq)
    have hr1 := hr.1
    subst hrx hri
    unfold File_SetRequireSeparateIndirect_loop1
    simp only [lt_len_mid, decide_true, if_true, idxL_mid, bind, Except.bind, pure, Except.pure]
    cases e <;> cases st <;> simp only [RExpr] at hr1 <;> try exact hr1.elim
    · -- comment block
      simp only [scanStmts]
      exact ih s hkeys' (by rw [nodes_cb] at hf; omega)
    · -- line
      rename_i p l
      obtain ⟨hg, hp⟩ := hr1
      have hv : _ = Except.ok (l.token.isEmpty || !headIs l.token (B "require")) := verbTest (lineG l).Token
      simp only [bind, Except.bind, pure, Except.pure] at hv
      simp only [hg]
      simp only [hv]
      simp only [lineG_Comments, hasComments_eq, isIndirect_eq hg]
      unfold scanStmts
      have hf' : nodes ss < fuel := by rw [nodes_line] at hf; omega
      by_cases ht : (l.token.isEmpty || !headIs l.token (B "require")) = true
      · simp only [ht, if_true]
        exact ih s hkeys' hf'
      · simp only [ht, Bool.false_eq_true, if_false]
        by_cases hc : hasComments l.comments = true
        · simp only [hc, Bool.not_true, Bool.false_eq_true, if_false]
          exact ih { s with lastRequire := some pre.length, count := s.count + 1 } hkeys' hf'
        · simp only [hc, Bool.not_false, if_true]
          by_cases hi : Modfile.isIndirect l = true
          · simp only [hi, if_true]
            exact ih { s with lastRequire := some pre.length, count := s.count + 1, lastIndirect := some pre.length } hkeys' hf'
          · simp only [hi, Bool.false_eq_true, if_false]
            exact ih { s with lastRequire := some pre.length, count := s.count + 1, lastDirect := some pre.length } hkeys' hf'
    · -- block
      rename_i p b
      obtain ⟨lps, hg, hl⟩ := hr1
      have hv : _ = Except.ok (b.token.isEmpty || !headIs b.token (B "require")) := verbTest (blockG b lps).Token
      simp only [bind, Except.bind, pure, Except.pure] at hv
      simp only [hg]
      simp only [hv]
      unfold scanStmts
      by_cases ht : (b.token.isEmpty || !headIs b.token (B "require")) = true
      · simp only [ht, if_true]
        exact ih s hkeys' (by rw [nodes_block] at hf; omega)
      · simp only [ht, Bool.false_eq_true, if_false]
        -- the initial flags
        have hinit : (if decide (len (blockG b lps).Line > (0 : Int)) then (do
              let v ← File_SetRequireSeparateIndirect_hasComments isPrint quote fuel (blockG b lps).Comments
              (pure (!v) : M Bool)) else pure false) =
            .ok (!b.lines.isEmpty && !hasComments b.comments) := by
          have := hl.length
          rw [blockG_Comments, hasComments_eq]
          cases hb : b.lines with
          | nil => rw [hb] at this; simp at this; subst this; simp [len_eq, pure, Except.pure]
          | cons a t =>
            rw [hb] at this
            have hl2 : lps.length = t.length + 1 := by simpa using this
            have : len lps > 0 := by simp [len_eq]; omega
            simp [this, bind, Except.bind, pure, Except.pure]
        simp only [bind, Except.bind, pure, Except.pure] at hinit
        simp only [hinit]
        simp only [blockG_Line]
        -- the inner loop
        rw [hall, treeIds_block_mid] at hnd
        have hnd2 := (List.nodup_append.1 hnd).2.1
        have hndb : (b.lines.map (·.id)).Nodup := (List.nodup_append.1 hnd2).1
        have hdisj := (List.nodup_append.1 hnd).2.2
        have hfr : ∀ l ∈ b.lines, ((l.id : Nat) : Int) ∉ (ltbG (pre ++ Expr.LineBlock p :: es) s.lineToBlock).map (·.1) := by
          intro l hl' hm
          simp only [ltbG, List.map_map, List.mem_map, Function.comp] at hm
          obtain ⟨q, hq, hqe⟩ := hm
          have hq' := hkeys q hq
          have : q.1 = l.id := by omega
          exact hdisj q.1 hq' l.id (List.mem_append_left _ (List.mem_map.2 ⟨l, hl', rfl⟩)) this
        have hinner := loop2S_sim isPrint quote h p b.lines lps [] lps 0 (ltbG (pre ++ Expr.LineBlock p :: es) s.lineToBlock)
          (!b.lines.isEmpty && !hasComments b.comments) (!b.lines.isEmpty && !hasComments b.comments) fuel rfl rfl hl hndb hfr
          (by rw [nodes_block] at hf; omega)
        simp only [hinner]
        have hltb : ltbG (pre ++ Expr.LineBlock p :: es) s.lineToBlock ++ b.lines.map (fun l => ((l.id : Int), p)) =
            ltbG (pre ++ Expr.LineBlock p :: es) (s.lineToBlock ++ b.lines.map fun l => (l.id, pre.length)) := by
          rw [ltbG_append]; congr 1
          simp [ltbG, blockPtrAt_cursor]
        rw [hltb]
        have hkeys2 : ∀ q ∈ s.lineToBlock ++ b.lines.map (fun l => (l.id, pre.length)),
            q.1 ∈ treeIds (preS ++ [Modfile.Expr.lineBlock b]) := by
          intro q hq
          rw [Modfile.Edit.treeIds_append, Modfile.Edit.treeIds_block]
          rcases List.mem_append.1 hq with hq | hq
          · exact List.mem_append_left _ (hkeys q hq)
          · obtain ⟨l, hl', rfl⟩ := List.mem_map.1 hq
            exact List.mem_append_right _ (List.mem_map.2 ⟨l, hl', rfl⟩)
        have hf' : nodes ss < fuel := by rw [nodes_block] at hf; omega
        generalize hsb : scanBlockLines b.lines (!b.lines.isEmpty && !hasComments b.comments)
          (!b.lines.isEmpty && !hasComments b.comments) = sb
        obtain ⟨ad, ai⟩ := sb
        simp only []
        cases ad <;> cases ai <;> simp only [if_true, if_false, Bool.false_eq_true]
        · exact ih { s with lastRequire := some pre.length, count := s.count + 1,
                            lineToBlock := s.lineToBlock ++ b.lines.map fun l => (l.id, pre.length) } hkeys2 hf'
        · exact ih { s with lastRequire := some pre.length, count := s.count + 1,
                            lineToBlock := s.lineToBlock ++ b.lines.map fun l => (l.id, pre.length),
                            lastIndirect := some pre.length } hkeys2 hf'
        · exact ih { s with lastRequire := some pre.length, count := s.count + 1,
                            lineToBlock := s.lineToBlock ++ b.lines.map fun l => (l.id, pre.length),
                            lastDirect := some pre.length } hkeys2 hf'
        · exact ih { s with lastRequire := some pre.length, count := s.count + 1,
                            lineToBlock := s.lineToBlock ++ b.lines.map fun l => (l.id, pre.length),
                            lastDirect := some pre.length, lastIndirect := some pre.length } hkeys2 hf'
  | [], _ :: _, _, _, _, _, _, _, _, _, _, hr, _, _ => hr.elim
  | _ :: _, [], _, _, _, _, _, _, _, _, _, hr, _, _ => hr.elim

end ModVerif.Tie.FnEditSetE
