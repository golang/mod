/-
  The term-algebra instance of the tlog / tile models used by the concrete witness theorems and the
  non-vacuity examples: hashes are the free terms over `leaf` / `node`, so distinct constructions never collide.
-/
import ModVerif.Model.Tlog
import ModVerif.Model.Tile
import ModVerif.Spec.RFC6962
namespace ModVerif.TlogTH
open ModVerif ModVerif.Tlog ModVerif.Tile

def recs (n : Nat) : List Bytes := (List.range n).map fun i => [UInt8.ofNat i]

/-- `[]` if the model failed -/
def store (n : Nat) : List TH :=
  match buildStore TH.leaf TH.node (recs n) with
  | .ok s => s
  | .error _ => []

def reader (n : Nat) : HashReader TH := storeReader (store n)

def root (m : Nat) : TH := RFC6962.mth TH.node TH.empty ((recs m).map TH.leaf)

def isOk {α : Type} [DecidableEq α] (r : Except Err α) (a : α) : Bool :=
  match r with
  | .ok b => b = a
  | .error _ => false

def isErr {α : Type} (r : Except Err α) (e : Err) : Bool :=
  match r with
  | .ok _ => false
  | .error e' => e' = e

/-- a tile server that replaces the first hash of the tile at level 0, number 0 by a forged value and is honest otherwise -/
def evil (n : Nat) (t : Tile) : Option (List TH) :=
  if t.l == 0 && t.n == 0 then (trueTile (store n) t).map fun d => TH.junk 0 :: d.drop 1
  else trueTile (store n) t

end ModVerif.TlogTH
