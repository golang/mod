/-
  C02, end-of-line comments, stage (iv): the second `assignComments`.

  On the statement list `eStmts D ss` the parser builds from a rendered tree (all positions explicit) and the
  end-of-line comments `stmtsC D ss` the lexer recorded, the backwards post-order walk of `assignComments`
  gives every node the comment that was printed after it: `assign_reattach`.  The walk compares
  `end.byte ≤ c.start.byte` and skips nodes with `start.line ≠ end.line`; both are decided here from the
  positions `pa D r` (byte = `D.length - r.length`, line = 1 + newlines before), i.e. from the lengths of the
  suffixes and the newlines between them.

  Hypothesis `NlOK`: a line that carries an end-of-line comment has no newline byte inside its tokens (a
  quoted string with an escaped newline) — such a line spans two source lines and is skipped by the walk,
  which is the mechanism behind `C02_violated_format_not_idempotent`.
-/
import ModVerif.Proofs.ModfileEolParseFile
import ModVerif.Proofs.ModfileFmtMain
namespace ModVerif.Proofs.ModfileEol
open ModVerif ModVerif.Modfile
open ModVerif.Proofs.ModfileFmtLex ModVerif.Proofs.ModfileFmtLine ModVerif.Proofs.ModfileFmtStream
open ModVerif.Proofs.ModfileFmtTree ModVerif.Proofs.ModfileFmtParse ModVerif.Proofs.ModfileFmtRender
open ModVerif.Proofs.ModfileFmtMain

variable {D : Bytes}

theorem pa_len {r : Bytes} (h : r <:+ D) : (pa D r).byte + r.length = D.length := by
  obtain ⟨p, rfl⟩ := h
  simp [pa, posOf]

theorem pa_line {x r : Bytes} (h : (x ++ r) <:+ D) : (pa D r).line = (pa D (x ++ r)).line + x.count 10 := by
  obtain ⟨p, rfl⟩ := h
  have h1 : (p ++ (x ++ r)).length - r.length = (p ++ x).length := by simp; omega
  have h2 : (p ++ (x ++ r)).length - (x ++ r).length = p.length := by simp
  simp only [pa, posOf, h1, h2]
  rw [show p ++ (x ++ r) = (p ++ x) ++ r by simp, List.take_left]
  rw [show (p ++ x) ++ r = p ++ (x ++ r) by simp, List.take_left]
  simp [List.count_append]; omega

theorem pa_mono {r r' : Bytes} (h : r'.length ≤ r.length) : (pa D r).byte ≤ (pa D r').byte := by
  simp only [pa_byte]; omega

theorem pa_lt {x r : Bytes} (h : (x ++ r) <:+ D) (hx : x ≠ []) : (pa D (x ++ r)).byte < (pa D r).byte := by
  have h1 := pa_len h
  have h2 : (pa D r).byte + r.length = D.length := pa_len ((List.suffix_append x r).trans h)
  have : 0 < x.length := List.length_pos_iff.mpr hx
  simp only [List.length_append] at h1
  omega

theorem suf_app {a b : Bytes} (h : (a ++ b) <:+ D) : b <:+ D := (List.suffix_append a b).trans h
theorem suf_cons {a : UInt8} {b : Bytes} (h : (a :: b) <:+ D) : b <:+ D := (List.suffix_cons a b).trans h

@[simp] theorem add1_line (p : Position) : p.add1.line = p.line := rfl
@[simp] theorem add1_byte (p : Position) : p.add1.byte = p.byte + 1 := rfl

def Below (P : List Comment) (n : Nat) : Prop := ∀ p ∈ P, p.start.byte < n

theorem Below.mono {P : List Comment} {n m : Nat} (h : Below P n) (hnm : n ≤ m) : Below P m :=
  fun p hp => Nat.lt_of_lt_of_le (h p hp) hnm

theorem Below.append {P Q : List Comment} {n : Nat} (h1 : Below P n) (h2 : Below Q n) : Below (P ++ Q) n := by
  intro p hp
  rcases List.mem_append.1 hp with h | h
  · exact h1 p h
  · exact h2 p h

theorem below_nil (n : Nat) : Below [] n := by intro p hp; cases hp

theorem takeSuffix_stop (e : Position) (acc : List Comment) (L : List Comment) (h : Below L e.byte) :
    takeSuffix e acc L.reverse = (acc, L.reverse) := by
  rcases List.eq_nil_or_concat L with rfl | ⟨L', p, rfl⟩
  · simp [takeSuffix]
  · have hp := h p (by simp)
    simp only [List.concat_eq_append, List.reverse_append, List.reverse_cons, List.reverse_nil, List.nil_append,
      List.singleton_append]
    unfold takeSuffix
    have : ¬ e.byte ≤ p.start.byte := by omega
    simp [this]

theorem assignSuffix_none (span : Position × Position) (cs : Comments) (hs : cs.suffix = []) (P : List Comment)
    (hP : Below P span.2.byte) : assignSuffix span cs P.reverse = (cs, P.reverse) := by
  cases cs
  simp only at hs
  subst hs
  unfold assignSuffix
  split
  · simp
  · rw [takeSuffix_stop _ _ _ hP]
    simp

theorem assignSuffix_skip (span : Position × Position) (cs : Comments) (hs : cs.suffix = [])
    (hl : span.1.line ≠ span.2.line) (L : List Comment) : assignSuffix span cs L = (cs, L) := by
  cases cs
  simp only at hs
  subst hs
  unfold assignSuffix
  have : (span.1.line != span.2.line) = true := by simpa using hl
  rw [if_pos this]
  simp

theorem assignSuffix_take (span : Position × Position) (cs : Comments) (hs : cs.suffix = [])
    (hl : span.1.line = span.2.line) (c : Comment) (hc : span.2.byte ≤ c.start.byte) (P : List Comment)
    (hP : Below P span.2.byte) : assignSuffix span cs (P ++ [c]).reverse = ({ cs with suffix := [c] }, P.reverse) := by
  cases cs
  simp only at hs
  subst hs
  unfold assignSuffix
  have : (span.1.line != span.2.line) = false := by simp [hl]
  simp only [this, Bool.false_eq_true, if_false, List.reverse_append, List.reverse_cons, List.reverse_nil,
    List.nil_append, List.singleton_append]
  unfold takeSuffix
  simp only [hc, if_true]
  rw [takeSuffix_stop _ _ _ hP]
  simp

/-- the node gets back the comment that was printed after it -/
theorem assignSuffix_sufC (span : Position × Position) (bf : List Comment) (cs : List Comment) (R' : Bytes)
    (P : List Comment) (hl : cs ≠ [] → span.1.line = span.2.line)
    (hc : ∀ c, cs = [c] → span.2.byte ≤ (pa D (GoStrings.trimSpace c.token ++ 10 :: R')).byte)
    (hP : Below P span.2.byte) :
    assignSuffix span { before := bf } (P ++ sufC D cs R').reverse =
      ({ before := bf, suffix := sufC D cs R' }, P.reverse) := by
  cases cs with
  | nil => simpa [sufC] using assignSuffix_none span { before := bf } rfl P hP
  | cons c r =>
    cases r with
    | nil =>
      simp only [sufC]
      exact assignSuffix_take span { before := bf } rfl (hl (by simp)) _ (hc c rfl) P hP
    | cons d r2 => simpa [sufC] using assignSuffix_none span { before := bf } rfl P hP

theorem postLinesRev_append : ∀ (A B : List Line) (suf : List Comment),
    postLinesRev (A ++ B) suf =
      ((postLinesRev A suf).1 ++ (postLinesRev B (postLinesRev A suf).2).1, (postLinesRev B (postLinesRev A suf).2).2) := by
  intro A
  induction A with
  | nil => intro B suf; simp [postLinesRev]
  | cons a A ih =>
    intro B suf
    simp only [List.cons_append, postLinesRev]
    rw [ih]

theorem postStmtsRev_append : ∀ (A B : List Expr) (suf : List Comment),
    postStmtsRev (A ++ B) suf =
      ((postStmtsRev A suf).1 ++ (postStmtsRev B (postStmtsRev A suf).2).1, (postStmtsRev B (postStmtsRev A suf).2).2) := by
  intro A
  induction A with
  | nil => intro B suf; simp [postStmtsRev]
  | cons a A ih =>
    intro B suf
    simp only [List.cons_append, postStmtsRev]
    rw [ih]

def linesC (D : Bytes) : List Line → Bytes → List Comment
  | [], _ => []
  | l :: ls, Z => sufC D l.comments.suffix (linesB ls Z) ++ linesC D ls Z

def stmtC (D : Bytes) : Expr → Bytes → List Comment
  | .line l, R => sufC D l.comments.suffix R
  | .lineBlock b, R => sufC D b.lparen.comments.suffix (linesB b.lines (closeB b R)) ++
      (linesC D b.lines (closeB b R) ++ sufC D (rsOf b) R)
  | _, _ => []

def stmtsC (D : Bytes) : List Expr → List Comment
  | [] => []
  | s :: rest => stmtC D s (sepR rest) ++ stmtsC D rest

theorem recs_append (A B : List Token) : recs (A ++ B) = recs A ++ recs B := by simp [recs]
theorem recs_cons (t : Token) (S : List Token) : recs (t :: S) = recOf t ++ recs S := by simp [recs]
theorem recs_nil : recs [] = [] := rfl

theorem recs_befT (m : Nat) (cs : List Comment) (R : Bytes) : recs (befT D m cs R) = [] := by
  induction cs with
  | nil => rfl
  | cons c cs ih =>
    simp only [befT, recs, List.flatMap_cons] at ih ⊢
    rw [ih]
    split <;> simp [recOf, nlT, comT]

theorem recOf_tokT (t rest : Bytes) (h : TokText t) : recOf (tokT D t rest) = [] := by
  have : kindOf t ≠ .eolComment := by
    rcases tokText_kind_cases h with hk | hk | ⟨c, _, hk, _⟩ <;> rw [hk] <;> simp
  simp [recOf, tokT, this]

theorem recs_tokStrT (ts : List Bytes) (hts : ∀ t ∈ ts, TokText t) (rest : Bytes) : recs (tokStrT D ts rest) = [] := by
  induction ts with
  | nil => rfl
  | cons t ts ih =>
    have := ih (fun t' h => hts t' (by simp [h]))
    simp only [tokStrT, recs, List.flatMap_cons] at this ⊢
    rw [this, recOf_tokT t _ (hts t (by simp))]
    rfl

theorem recOf_sufT (cs : List Comment) (R : Bytes) : recOf (sufT D cs R) = sufC D cs R := by
  unfold sufT sufC
  split <;> simp [recOf, eolT, nlT]

theorem recs_linesT : ∀ (ls : List Line) (allow : Bool) (Z : Bytes), EWFBlkLines allow ls →
    recs (linesT D ls Z) = linesC D ls Z := by
  intro ls
  induction ls with
  | nil => intro _ _ _; rfl
  | cons l ls ih =>
    intro allow Z hwf
    simp only [linesT, linesC, recs_append, recs_cons, recs_befT, List.nil_append, recs_tokStrT l.token hwf.1.tok,
      ih true Z hwf.2, recOf_sufT]

theorem recs_stmtT (s : Expr) (R : Bytes) (hwf : EWFStmt s) : recs (stmtT D s R) = stmtC D s R := by
  cases s with
  | commentBlock x => simp [stmtT, stmtC, recs_befT]
  | line l =>
    have hwf : EWFLine l := hwf
    simp only [stmtT, stmtC, recs_append, recs_cons, recs_nil, recs_befT, List.nil_append, List.append_nil,
      recs_tokStrT l.token hwf.tok, recOf_sufT]
  | lineBlock b =>
    have hwf : EWFBlock b := hwf
    have h40 : recOf (tokT D [40] (bodyB b R)) = [] := recOf_tokT _ _ (tokOK_tokText (TokOK.punct 40 (by decide)))
    have h41 : recOf (tokT D [41] (sufB (rsOf b) R)) = [] := recOf_tokT _ _ (tokOK_tokText (TokOK.punct 41 (by decide)))
    have hl := recs_linesT (D := D) b.lines false (closeB b R) hwf.lines
    simp only [stmtT, stmtC, recs_append, recs_cons, recs_nil, recs_befT, List.nil_append, List.append_nil,
      recs_tokStrT b.token hwf.tok, recOf_sufT, h40, h41, hl]
  | lparen x => exact absurd hwf id
  | rparen x => exact absurd hwf id

theorem recs_stmtsT : ∀ (ss : List Expr), EWFStmts ss → recs (stmtsT D ss) = stmtsC D ss := by
  intro ss
  induction ss with
  | nil => intro _; simp [stmtsT, stmtsC, recs, recOf, eofT]
  | cons s rest ih =>
    intro hwf
    rw [stmtsT_cons, recs_append, recs_stmtT s _ (hwf s (by simp))]
    have := ih (fun x hx => hwf x (by simp [hx]))
    cases rest with
    | nil => simp [stmtsC, sepT, recs, recOf, eofT]
    | cons r rs =>
      simp only [stmtsC, sepT, recs_cons] at this ⊢
      rw [this]
      simp [recOf, nlT]

def NlLine (l : Line) : Prop := l.comments.suffix ≠ [] → ∀ t ∈ l.token, (10 : UInt8) ∉ t

def NlOK : Expr → Prop
  | .line l => NlLine l
  | .lineBlock b => ∀ l ∈ b.lines, NlLine l
  | _ => True

theorem tokStr_count10 : ∀ (ts : List Bytes) (sep : Bytes), (sep = [] ∨ sep = [32]) → (∀ t ∈ ts, (10 : UInt8) ∉ t) →
    (tokStr ts sep).count 10 = 0 := by
  intro ts
  induction ts with
  | nil => intro _ _ _; rfl
  | cons t ts ih =>
    intro sep hsep h
    have h1 : t.count 10 = 0 := List.count_eq_zero.2 (h t (by simp))
    have h2 := ih (sepAfter t) (sepAfter_cases t) (fun t' ht' => h t' (by simp [ht']))
    have h3 : (if Printer.noSepBefore.contains t then [] else sep : Bytes).count 10 = 0 := by
      split
      · rfl
      · rcases hsep with rfl | rfl <;> decide
    simp only [tokStr, List.count_append, h1, h2, h3]

theorem sufB_length (cs : List Comment) (X : Bytes) : X.length < (sufB cs X).length := by
  simp [sufB]; omega

theorem sufB_suffix (cs : List Comment) (X : Bytes) : X <:+ sufB cs X := by
  unfold sufB
  exact (List.suffix_cons 10 X).trans (List.suffix_append _ _)

theorem sufC_below (cs : List Comment) (X : Bytes) (h : sufB cs X <:+ D) : Below (sufC D cs X) (pa D X).byte := by
  intro p hp
  unfold sufC at hp
  split at hp
  · rename_i c
    simp only [List.mem_singleton] at hp
    subst hp
    have h2 : (GoStrings.trimSpace c.token ++ [10]) ++ X <:+ D := by
      have : (32 :: GoStrings.trimSpace c.token ++ 10 :: X) <:+ D := by simpa [sufB, rSuf] using h
      have := suf_cons this
      simpa using this
    have := pa_lt h2 (by simp)
    simpa using this
  · cases hp

theorem postLines_E : ∀ (ls : List Line) (allow : Bool) (Z : Bytes) (P : List Comment), EWFBlkLines allow ls →
    (∀ l ∈ ls, NlLine l) → linesB ls Z <:+ D → Below P (pa D (linesB ls Z)).byte →
    postLinesRev (eLines D ls Z).reverse (P ++ linesC D ls Z).reverse = ((aLines D ls Z).reverse, P.reverse) := by
  intro ls
  induction ls with
  | nil =>
    intro _ Z P _ _ _ _
    simp [eLines, aLines, linesC, postLinesRev]
  | cons l ls ih =>
    intro allow Z P hwf hnl hsuf hP
    obtain ⟨hl, hls⟩ := hwf
    obtain ⟨X, hX⟩ : ∃ X, X = linesB ls Z := ⟨_, rfl⟩
    have hB : linesB (l :: ls) Z = rBefore 1 l.comments.before ++ (9 :: (tokStr l.token [] ++ sufB l.comments.suffix X)) := by
      rw [hX]; rfl
    rw [hB] at hsuf hP
    have hs1 : (tokStr l.token [] ++ sufB l.comments.suffix X) <:+ D := suf_cons (suf_app hsuf)
    have hs2 : sufB l.comments.suffix X <:+ D := suf_app hs1
    have hs3 : X <:+ D := (sufB_suffix _ _).trans hs2
    -- the later lines
    have hP' : Below (P ++ sufC D l.comments.suffix X) (pa D X).byte := by
      apply Below.append
      · apply hP.mono
        apply pa_mono
        have := sufB_length l.comments.suffix X
        simp only [List.length_append, List.length_cons]
        omega
      · exact sufC_below _ _ hs2
    have ih' := ih true Z (P ++ sufC D l.comments.suffix (linesB ls Z)) hls (fun l' h => hnl l' (by simp [h]))
      (by rw [← hX]; exact hs3) (by rw [← hX]; exact hP')
    simp only [eLines, aLines, linesC, List.reverse_cons]
    rw [postLinesRev_append, ← List.append_assoc, ih']
    simp only [postLinesRev]
    rw [← hX]
    -- this line
    have hnode := assignSuffix_sufC (D := D)
      (pa D (tokStr l.token [] ++ sufB l.comments.suffix X), pa D (sufB l.comments.suffix X))
      (befC D 1 l.comments.before (9 :: (tokStr l.token [] ++ sufB l.comments.suffix X))) l.comments.suffix X P
      (by
        intro hne
        have := pa_line hs1
        rw [tokStr_count10 l.token [] (Or.inl rfl) (hnl l (by simp) hne)] at this
        simpa using this.symm)
      (by
        intro c hc
        apply pa_mono
        simp [hc, sufB, rSuf])
      (by
        apply hP.mono
        apply pa_mono
        simp only [List.length_append, List.length_cons]
        omega)
    rw [hnode]

theorem linesC_below : ∀ (ls : List Line) (Z : Bytes), linesB ls Z <:+ D → Below (linesC D ls Z) (pa D Z).byte := by
  intro ls
  induction ls with
  | nil => intro Z _; exact below_nil _
  | cons l ls ih =>
    intro Z hsuf
    have hs2 : sufB l.comments.suffix (linesB ls Z) <:+ D := suf_app (suf_cons (suf_app hsuf))
    have hs3 : linesB ls Z <:+ D := (sufB_suffix _ _).trans hs2
    have hlen : ∀ (ls : List Line), Z.length ≤ (linesB ls Z).length := by
      intro ls
      induction ls with
      | nil => simp [linesB]
      | cons l ls ih => simp only [linesB, sufB, List.length_append, List.length_cons]; omega
    apply Below.append
    · exact (sufC_below _ _ hs2).mono (pa_mono (hlen ls))
    · exact ih Z hs3

theorem linesB_append : ∀ (ls : List Line) (A B : Bytes), linesB ls (A ++ B) = linesB ls A ++ B := by
  intro ls
  induction ls with
  | nil => intro A B; rfl
  | cons l ls ih => intro A B; simp [linesB, sufB, ih, List.append_assoc]

theorem stmtC_below (s : Expr) (R : Bytes) (hsuf : stmtB s R <:+ D) : Below (stmtC D s R) (pa D R).byte := by
  cases s with
  | commentBlock x => exact below_nil _
  | line l => exact sufC_below _ _ (suf_app (suf_app hsuf))
  | lineBlock b =>
    have h1 : bodyB b R <:+ D := suf_cons (suf_cons (suf_app (suf_app hsuf)))
    have h2 : linesB b.lines (closeB b R) <:+ D := (sufB_suffix _ _).trans h1
    have h3 : closeB b R <:+ D := by
      have hh : ∀ (ls : List Line) (Z : Bytes), Z <:+ linesB ls Z := by
        intro ls
        induction ls with
        | nil => intro Z; exact List.suffix_refl _
        | cons l ls ih =>
          intro Z
          simp only [linesB]
          exact (ih Z).trans ((sufB_suffix _ _).trans ((List.suffix_append _ _).trans
            ((List.suffix_cons _ _).trans (List.suffix_append _ _))))
      exact (hh _ _).trans h2
    have h4 : sufB (rsOf b) R <:+ D := suf_cons (suf_app h3)
    have hl1 : R.length ≤ (closeB b R).length := by
      simp only [closeB, sufB, List.length_append, List.length_cons]; omega
    have hlen : ∀ (ls : List Line) (Z : Bytes), Z.length ≤ (linesB ls Z).length := by
      intro ls
      induction ls with
      | nil => intro Z; simp [linesB]
      | cons l ls ih => intro Z; have := ih Z; simp only [linesB, sufB, List.length_append, List.length_cons]; omega
    apply Below.append
    · exact (sufC_below _ _ h1).mono (pa_mono (Nat.le_trans hl1 (hlen _ _)))
    · apply Below.append
      · exact (linesC_below _ _ h2).mono (pa_mono hl1)
      · exact sufC_below _ _ h4
  | lparen x => exact below_nil _
  | rparen x => exact below_nil _

theorem count_pos_of_mem {x : Bytes} (h : (10 : UInt8) ∈ x) : 0 < x.count 10 := List.count_pos_iff.2 h

theorem postStmt_E (s : Expr) (R : Bytes) (P : List Comment) (hwf : EWFStmt s) (hnl : NlOK s)
    (hsuf : stmtB s R <:+ D) (hP : Below P (pa D (stmtB s R)).byte) :
    postStmt (eStmt D s R) (P ++ stmtC D s R).reverse = (aStmt D s R, P.reverse) := by
  cases s with
  | commentBlock x =>
    simp only [eStmt, aStmt, stmtC, List.append_nil, postStmt, Expr.span, Expr.comments, Expr.setComments]
    rw [assignSuffix_none _ _ rfl P (by simpa [stmtB] using hP)]
  | line l =>
    have hwf : EWFLine l := hwf
    have hnl : NlLine l := hnl
    simp only [stmtB] at hsuf hP
    have hs1 : (tokStr l.token [] ++ sufB l.comments.suffix R) <:+ D := suf_app hsuf
    have hnode := assignSuffix_sufC (D := D)
      (pa D (tokStr l.token [] ++ sufB l.comments.suffix R), pa D (sufB l.comments.suffix R))
      (befC D 0 l.comments.before (tokStr l.token [] ++ sufB l.comments.suffix R)) l.comments.suffix R P
      (by
        intro hne
        have := pa_line hs1
        rw [tokStr_count10 l.token [] (Or.inl rfl) (hnl hne)] at this
        simpa using this.symm)
      (by
        intro c hc
        apply pa_mono
        simp [hc, sufB, rSuf])
      (by
        apply hP.mono
        apply pa_mono
        simp only [List.length_append]
        omega)
    simp only [eStmt, aStmt, stmtC, postStmt, Expr.span, Expr.comments, Expr.setComments]
    rw [hnode]
  | lineBlock b =>
    have hwf : EWFBlock b := hwf
    have hnl : ∀ l ∈ b.lines, NlLine l := hnl
    simp only [stmtB] at hsuf hP
    obtain ⟨Z, hZ⟩ : ∃ Z, Z = closeB b R := ⟨_, rfl⟩
    obtain ⟨X, hX⟩ : ∃ X, X = linesB b.lines Z := ⟨_, rfl⟩
    have hbody : bodyB b R = sufB b.lparen.comments.suffix X := by rw [hX, hZ]; rfl
    have hclose : Z = rBefore 0 b.rparen.comments.before ++ (41 :: sufB (rsOf b) R) := by rw [hZ]; rfl
    rw [hbody] at hsuf hP
    -- suffixes of the input
    have hs1 : (tokStr b.token [] ++ (32 :: 40 :: sufB b.lparen.comments.suffix X)) <:+ D := suf_app hsuf
    have hs2 : (40 :: sufB b.lparen.comments.suffix X) <:+ D := suf_cons (suf_app hs1)
    have hs3 : sufB b.lparen.comments.suffix X <:+ D := suf_cons hs2
    have hs4 : X <:+ D := (sufB_suffix _ _).trans hs3
    have hZX : Z <:+ X := by
      rw [hX]
      have hh : ∀ (ls : List Line) (Z : Bytes), Z <:+ linesB ls Z := by
        intro ls
        induction ls with
        | nil => intro Z; exact List.suffix_refl _
        | cons l ls ih =>
          intro Z
          simp only [linesB]
          exact (ih Z).trans ((sufB_suffix _ _).trans ((List.suffix_append _ _).trans
            ((List.suffix_cons _ _).trans (List.suffix_append _ _))))
      exact hh _ _
    have hs5 : Z <:+ D := hZX.trans hs4
    have hs6 : (41 :: sufB (rsOf b) R) <:+ D := by rw [hclose] at hs5; exact suf_app hs5
    have hs7 : sufB (rsOf b) R <:+ D := suf_cons hs6
    -- lengths
    have hlZX : Z.length ≤ X.length := hZX.length_le
    have hlcl : (41 :: sufB (rsOf b) R).length ≤ Z.length := by rw [hclose]; simp
    -- the order of the comments
    have hPX : Below P (pa D X).byte := by
      apply hP.mono; apply pa_mono
      have := sufB_length b.lparen.comments.suffix X
      simp only [List.length_append, List.length_cons]; omega
    have hlpC : Below (sufC D b.lparen.comments.suffix X) (pa D X).byte := sufC_below _ _ hs3
    have hlinesC : Below (linesC D b.lines Z) (pa D Z).byte := linesC_below _ _ (by rw [← hX]; exact hs4)
    -- the block node spans several lines: skipped
    have hskip : (pa D (tokStr b.token [] ++ (32 :: 40 :: sufB b.lparen.comments.suffix X))).line ≠
        (pa D (41 :: sufB (rsOf b) R)).add1.line := by
      have hsplit : tokStr b.token [] ++ (32 :: 40 :: sufB b.lparen.comments.suffix X) =
          (tokStr b.token [] ++ (32 :: 40 :: (rSuf b.lparen.comments.suffix ++
            10 :: linesB b.lines (rBefore 0 b.rparen.comments.before)))) ++ (41 :: sufB (rsOf b) R) := by
        rw [hX, hclose, linesB_append]
        simp [sufB, List.append_assoc]
      have hline := pa_line (D := D) (x := tokStr b.token [] ++ (32 :: 40 :: (rSuf b.lparen.comments.suffix ++
            10 :: linesB b.lines (rBefore 0 b.rparen.comments.before)))) (r := 41 :: sufB (rsOf b) R)
        (by rw [← hsplit]; exact hs1)
      have hpos : 0 < (tokStr b.token [] ++ (32 :: 40 :: (rSuf b.lparen.comments.suffix ++
            10 :: linesB b.lines (rBefore 0 b.rparen.comments.before)))).count 10 :=
        count_pos_of_mem (by simp)
      rw [hsplit]
      simp only [add1_line]
      omega
    -- `)`
    have hrp := assignSuffix_sufC (D := D)
      (pa D (41 :: sufB (rsOf b) R), (pa D (41 :: sufB (rsOf b) R)).add1)
      (befC D 0 b.rparen.comments.before (41 :: sufB (rsOf b) R)) (rsOf b) R
      (P ++ (sufC D b.lparen.comments.suffix X ++ linesC D b.lines Z))
      (fun _ => rfl)
      (by
        intro c hc
        have h1 := pa_len hs6
        have h2 : (GoStrings.trimSpace c.token ++ [10]) ++ R <:+ D := by
          have : (32 :: GoStrings.trimSpace c.token ++ 10 :: R) <:+ D := by simpa [sufB, rSuf, hc] using hs7
          simpa using suf_cons this
        have h3 := pa_len h2
        simp only [List.append_assoc, List.singleton_append] at h3
        have hlen : (41 :: sufB (rsOf b) R).length = (GoStrings.trimSpace c.token).length + R.length + 3 := by
          simp [hc, sufB, rSuf]; omega
        rw [hlen] at h1
        simp only [add1_byte]
        simp only [List.length_cons, List.length_append] at h3
        omega)
      (by
        have hb : (pa D Z).byte < (pa D (41 :: sufB (rsOf b) R)).add1.byte := by
          have h1 := pa_len hs6
          have h2 := pa_len hs5
          simp only [add1_byte]
          omega
        apply Below.append
        · exact (hPX.mono (pa_mono hlZX)).mono (Nat.le_of_lt hb)
        · apply Below.append
          · exact (hlpC.mono (pa_mono hlZX)).mono (Nat.le_of_lt hb)
          · exact hlinesC.mono (Nat.le_of_lt hb))
    -- the lines
    have hlines := postLines_E (D := D) b.lines false Z (P ++ sufC D b.lparen.comments.suffix X) hwf.lines hnl
      (by rw [← hX]; exact hs4) (by rw [← hX]; exact hPX.append hlpC)
    -- `(`
    have hlp := assignSuffix_sufC (D := D)
      (pa D (40 :: sufB b.lparen.comments.suffix X), (pa D (40 :: sufB b.lparen.comments.suffix X)).add1)
      [] b.lparen.comments.suffix X P
      (fun _ => rfl)
      (by
        intro c hc
        have h1 := pa_len hs2
        have h2 : (GoStrings.trimSpace c.token ++ [10]) ++ X <:+ D := by
          have : (32 :: GoStrings.trimSpace c.token ++ 10 :: X) <:+ D := by simpa [sufB, rSuf, hc] using hs3
          simpa using suf_cons this
        have h3 := pa_len h2
        simp only [List.append_assoc, List.singleton_append] at h3
        have hlen : (40 :: sufB b.lparen.comments.suffix X).length = (GoStrings.trimSpace c.token).length + X.length + 3 := by
          simp [hc, sufB, rSuf]; omega
        rw [hlen] at h1
        simp only [add1_byte]
        simp only [List.length_cons, List.length_append] at h3
        omega)
      (by
        apply hP.mono
        have h1 := pa_len hs2
        have h2 := pa_len hsuf
        simp only [add1_byte]
        simp only [List.length_cons, List.length_append] at h1 h2
        omega)
    simp only [eStmt, aStmt, stmtC, postStmt, Expr.span, ← hZ, ← hX, hbody]
    have hreassoc : (P ++ (sufC D b.lparen.comments.suffix X ++ (linesC D b.lines Z ++ sufC D (rsOf b) R))) =
        (P ++ (sufC D b.lparen.comments.suffix X ++ linesC D b.lines Z)) ++ sufC D (rsOf b) R := by simp
    rw [hreassoc]
    -- block node
    rw [assignSuffix_skip _ _ rfl hskip]
    simp only
    rw [hrp]
    simp only
    have hre2 : P ++ (sufC D b.lparen.comments.suffix X ++ linesC D b.lines Z) =
        (P ++ sufC D b.lparen.comments.suffix X) ++ linesC D b.lines Z := by simp
    rw [hre2, hlines]
    simp only
    rw [hlp]
    simp
  | lparen x => exact absurd hwf id
  | rparen x => exact absurd hwf id

theorem stmtsB_cons (s : Expr) (rest : List Expr) : stmtsB (s :: rest) = stmtB s (sepR rest) := by
  cases rest <;> rfl

theorem aStmts_cons (s : Expr) (rest : List Expr) : aStmts D (s :: rest) = aStmt D s (sepR rest) :: aStmts D rest := by
  cases rest <;> rfl

theorem suffix_stmtB (s : Expr) (R : Bytes) : R <:+ stmtB s R := by
  cases s with
  | commentBlock x => exact List.suffix_append _ _
  | line l => exact (sufB_suffix _ _).trans ((List.suffix_append _ _).trans (List.suffix_append _ _))
  | lineBlock b =>
    have hh : ∀ (ls : List Line) (Z : Bytes), Z <:+ linesB ls Z := by
      intro ls
      induction ls with
      | nil => intro Z; exact List.suffix_refl _
      | cons l ls ih =>
        intro Z
        simp only [linesB]
        exact (ih Z).trans ((sufB_suffix _ _).trans ((List.suffix_append _ _).trans
          ((List.suffix_cons _ _).trans (List.suffix_append _ _))))
    simp only [stmtB, bodyB, closeB]
    exact (sufB_suffix _ _).trans ((List.suffix_cons _ _).trans ((List.suffix_append _ _).trans ((hh _ _).trans
      ((sufB_suffix _ _).trans ((List.suffix_cons _ _).trans ((List.suffix_cons _ _).trans
        ((List.suffix_append _ _).trans (List.suffix_append _ _))))))))
  | lparen x => exact List.suffix_refl _
  | rparen x => exact List.suffix_refl _

theorem postStmts_E : ∀ (ss : List Expr) (P : List Comment), EWFStmts ss → (∀ s ∈ ss, NlOK s) →
    stmtsB ss <:+ D → Below P (pa D (stmtsB ss)).byte →
    postStmtsRev (eStmts D ss).reverse (P ++ stmtsC D ss).reverse = ((aStmts D ss).reverse, P.reverse) := by
  intro ss
  induction ss with
  | nil => intro P _ _ _ _; simp [eStmts, aStmts, stmtsC, postStmtsRev]
  | cons s rest ih =>
    intro P hwf hnl hsuf hP
    rw [stmtsB_cons] at hsuf hP
    have hR : sepR rest <:+ D := (suffix_stmtB s _).trans hsuf
    have hrest : stmtsB rest <:+ D := by
      cases rest with
      | nil => exact List.nil_suffix
      | cons r rs => exact suf_cons hR
    have hlenR : (stmtsB rest).length ≤ (sepR rest).length := by
      cases rest with
      | nil => simp [stmtsB]
      | cons r rs => simp [sepR]
    have hP' : Below (P ++ stmtC D s (sepR rest)) (pa D (stmtsB rest)).byte := by
      apply Below.append
      · apply hP.mono
        apply pa_mono
        exact Nat.le_trans hlenR (suffix_stmtB s _).length_le
      · exact (stmtC_below s _ hsuf).mono (pa_mono hlenR)
    have ih' := ih (P ++ stmtC D s (sepR rest)) (fun x hx => hwf x (by simp [hx])) (fun x hx => hnl x (by simp [hx]))
      hrest hP'
    rw [eStmts_cons, aStmts_cons]
    simp only [stmtsC, List.reverse_cons]
    rw [postStmtsRev_append, ← List.append_assoc, ih']
    simp only [postStmtsRev]
    rw [postStmt_E s (sepR rest) P (hwf s (by simp)) (hnl s (by simp)) hsuf hP]

/-- ★ end-of-line stage (iv) (`Props.C02.assign_reattach`) -/
theorem assign_reattach (name : Bytes) (ss : List Expr) (hwf : EWFStmts ss) (hnl : ∀ s ∈ ss, NlOK s)
    (hD : D = stmtsB ss) :
    assignComments { name := name, stmts := eStmts D ss } (stmtsC D ss) =
      { name := name, comments := {}, stmts := aStmts D ss } := by
  have hall : ∀ c ∈ stmtsC D ss, c.suffix = true := by
    rw [← recs_stmtsT ss hwf]
    intro c hc
    simp only [recs, List.mem_flatMap] at hc
    obtain ⟨tok, _, hc⟩ := hc
    unfold recOf at hc
    split at hc
    · simp only [List.mem_singleton] at hc; rw [hc]
    · cases hc
  have hfl : (stmtsC D ss).filter (fun c => !c.suffix) = [] := by
    rw [List.filter_eq_nil_iff]
    intro c hc
    simp [hall c hc]
  have hfs : (stmtsC D ss).filter (fun c => c.suffix) = stmtsC D ss := by
    rw [List.filter_eq_self]
    intro c hc
    exact hall c hc
  have hpost := postStmts_E (D := D) ss [] hwf hnl (by rw [hD]; exact List.suffix_refl _) (below_nil _)
  simp only [List.nil_append, List.reverse_nil] at hpost
  unfold assignComments
  simp only [hfl, hfs, assignBefore_nil, preStmts_nil, hpost]
  simp

end ModVerif.Proofs.ModfileEol
