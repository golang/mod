/-
  C07 (sumdb/note), `Sign` followed by `Open`: the message `Sign` writes for a note whose existing signatures are
  well-formed (`Sign_eq`), how `Open` reads back a text followed by a block of well-formed signature lines
  (`Open_signed`), and what `Open` guarantees about the signatures of a note it returns (`Open_ok_sigs`), so that an
  opened note can be signed again.  `ParsedSig g x` is the common notion: `g` is a signature as a well-formed line of a
  valid message carries it, `x` its decoded signature bytes; the signatures `Sign` creates are the instance with the
  canonical base64 text.
-/
import ModVerif.Model.Note
import ModVerif.Spec.NoteSpec
import ModVerif.Proofs.Note
import ModVerif.Proofs.NoteBytes
namespace ModVerif.Note
open ModVerif ModVerif.B64

/-- a signature as a well-formed line of a valid message carries it; `x` = the decoded signature bytes -/
def ParsedSig (g : Signature) (x : Bytes) : Prop :=
  isValidName g.name = true ∧ g.base64 ≠ [] ∧ (10 : UInt8) ∉ g.base64 ∧ validMsg g.base64 = true ∧
  ∃ raw, b64dec g.base64 = some raw ∧ 5 ≤ raw.length ∧ be32 raw = some g.hash ∧ x = raw.drop 4

theorem sigLine_eq (g : Signature) : sigLine g.name g.base64 = lineOf g ++ [10] := by
  simp [sigLine, lineOf]

theorem parsedSig_of_signer {name : Bytes} (hash : UInt32) {x : Bytes} (hn : isValidName name = true) (hx : x ≠ []) :
    ParsedSig ⟨name, hash, b64enc (putU32 hash ++ x)⟩ x := by
  have hch := b64enc_chars (putU32 hash ++ x)
  refine ⟨hn, b64enc_ne_nil (by simp [putU32]), fun hm => absurd (hch 10 hm).1 (by decide), ?_,
    putU32 hash ++ x, b64dec_b64enc _, ?_, be32_putU32 _ _, by simp [putU32]⟩
  · exact validMsg_of_ascii _ fun c hc => ⟨.inl (Nat.le_of_lt (hch c hc).1), (hch c hc).2⟩
  · cases x with
    | nil => exact absurd rfl hx
    | cons a x => simp [putU32]

theorem lineOf_ne_nil (g : Signature) : lineOf g ≠ [] := by simp [lineOf, sigPrefix]

theorem indexOf_single {c : UInt8} : ∀ (a b : Bytes), c ∉ a → indexOf [c] (a ++ c :: b) = some a.length
  | [], b, _ => by simp [indexOf, isPrefixOfB]
  | d :: a, b, h => by
    simp only [List.mem_cons, not_or] at h
    have hne : (c == d) = false := by simpa using h.1
    simp only [List.cons_append, indexOf, isPrefixOfB, hne, Bool.false_and, Bool.false_eq_true, ↓reduceIte,
      indexOf_single a b h.2, Option.map_some, List.length_cons]

theorem chop_single {c : UInt8} (a b : Bytes) (h : c ∉ a) : chop (a ++ c :: b) [c] = (a, b) := by
  unfold chop
  rw [indexOf_single a b h]
  simp

theorem parseSigLine_lineOf {g : Signature} {x : Bytes} (h : ParsedSig g x) :
    parseSigLine (lineOf g) = some ⟨g.name, g.base64, g.hash, x, g.name ++ [32] ++ g.base64⟩ := by
  obtain ⟨hn, hne, _, _, raw, hdec, hlen, hbe, hx⟩ := h
  obtain ⟨_, _, _, h32⟩ := isValidName_spec hn
  have hpre : isPrefixOfB sigPrefix (lineOf g) = true :=
    (isPrefixOfB_iff _ _).mpr ⟨g.name ++ [32] ++ g.base64, by simp [lineOf]⟩
  have hdrop : (lineOf g).drop sigPrefix.length = g.name ++ 32 :: g.base64 := by
    simp [lineOf, sigPrefix]
  have hlen' : ¬ raw.length < 5 := by omega
  unfold parseSigLine
  simp only [hpre, Bool.not_true, Bool.false_eq_true, ↓reduceIte, hdrop, chop_single g.name g.base64 h32,
    hdec, hn, Bool.false_or, decide_false, hlen', hbe]
  simp [hne, hx]

theorem lineOf_no_nl {g : Signature} {x : Bytes} (h : ParsedSig g x) : (10 : UInt8) ∉ lineOf g := by
  obtain ⟨hn, _, hb, _⟩ := h
  obtain ⟨_, _, h10, _⟩ := isValidName_spec hn
  simp only [lineOf, sigPrefix, List.mem_append, List.mem_cons, List.not_mem_nil, or_false, not_or]
  exact ⟨⟨⟨by decide, h10⟩, by decide⟩, hb⟩

theorem validMsg_lineOf {g : Signature} {x : Bytes} (h : ParsedSig g x) : validMsg (lineOf g ++ [10]) = true := by
  obtain ⟨hn, _, _, hb, _⟩ := h
  obtain ⟨_, hv, _, _⟩ := isValidName_spec hn
  have hp : validMsg sigPrefix = true := by decide
  have h32 : validMsg [32] = true := by decide
  have h10 : validMsg [10] = true := by decide
  have : lineOf g ++ [10] = sigPrefix ++ (g.name ++ ([32] ++ (g.base64 ++ [10]))) := by simp [lineOf]
  rw [this]
  exact validMsg_append hp (validMsg_append hv (validMsg_append h32 (validMsg_append hb h10)))

/-- no two consecutive newlines -/
def noNN : Bytes → Bool
  | a :: b :: r => !(a == 10 && b == 10) && noNN (b :: r)
  | _ => true

theorem lastIndexOf_noNN : ∀ (s : Bytes), noNN s = true → lastIndexOf sigSplit s = none
  | [], _ => by simp [lastIndexOf, sigSplit]
  | [a], _ => by simp [lastIndexOf, sigSplit, isPrefixOfB]
  | a :: b :: r, h => by
    simp only [noNN, Bool.and_eq_true, Bool.not_eq_eq_eq_not, Bool.not_true] at h
    have ih := lastIndexOf_noNN (b :: r) h.2
    rw [lastIndexOf, ih]
    simp only [sigSplit, isPrefixOfB, Bool.and_true]
    have : (10 == a && 10 == b) = false := by
      have := h.1
      simp only [Bool.and_eq_false_iff, beq_eq_false_iff_ne, ne_eq] at this ⊢
      rcases this with h | h
      · left; exact fun e => h e.symm
      · right; exact fun e => h e.symm
    simp [this]

theorem noNN_line : ∀ (l rest : Bytes), (10 : UInt8) ∉ l → l ≠ [] → noNN (10 :: rest) = true →
    noNN (10 :: (l ++ 10 :: rest)) = true
  | [], _, _, hne, _ => absurd rfl hne
  | [c], rest, h, _, hr => by
    simp only [List.mem_singleton] at h
    have : (c == 10) = false := by simpa using fun e => h e.symm
    simp [noNN, this, hr]
  | c :: d :: l, rest, h, _, hr => by
    have hc : (c == 10) = false := by
      simp only [List.mem_cons, not_or] at h; simpa using fun e => h.1 e.symm
    have ih := noNN_line (d :: l) rest (fun hm => h (List.mem_cons_of_mem _ hm)) (by simp) hr
    rw [List.cons_append, noNN] at ih
    simp only [Bool.and_eq_true] at ih
    simp only [List.cons_append, noNN, hc, Bool.and_false, Bool.not_false, Bool.true_and, Bool.false_and]
    exact ih.2

theorem blockOf_spec : ∀ (gs : List Signature), (∀ g ∈ gs, ∃ x, ParsedSig g x) →
    sigLines (blockOf gs) = gs.map lineOf ∧ validMsg (blockOf gs) = true ∧ noNN (10 :: blockOf gs) = true
  | [], _ => ⟨by simp [blockOf, sigLines], by decide, by decide⟩
  | g :: gs, h => by
    obtain ⟨x, hg⟩ := h g List.mem_cons_self
    obtain ⟨ih1, ih2, ih3⟩ := blockOf_spec gs (fun g' hg' => h g' (List.mem_cons_of_mem _ hg'))
    simp only [blockOf, List.flatMap_cons, List.append_assoc, List.singleton_append, List.map_cons] at ih1 ih2 ih3 ⊢
    exact ⟨by rw [sigLines_line _ _ (lineOf_no_nl hg), ih1],
      by rw [← List.singleton_append, ← List.append_assoc]; exact validMsg_append (validMsg_lineOf hg) ih2,
      noNN_line _ _ (lineOf_no_nl hg) (lineOf_ne_nil g) ih3⟩

theorem lastIndexOf_signed : ∀ (t0 block : Bytes), noNN (10 :: block) = true →
    lastIndexOf sigSplit (t0 ++ 10 :: 10 :: block) = some t0.length
  | [], block, h => by
    rw [List.nil_append, lastIndexOf, lastIndexOf_noNN _ h]
    simp [sigSplit, isPrefixOfB]
  | c :: t0, block, h => by
    simp only [List.cons_append, lastIndexOf, lastIndexOf_signed t0 block h, List.length_cons]

theorem blockOf_last : ∀ (gs : List Signature), gs ≠ [] → blockOf gs ≠ [] ∧ (blockOf gs).getLast? = some 10 := by
  intro gs hne
  obtain ⟨init, g, rfl⟩ : ∃ init g, gs = init ++ [g] :=
    ⟨gs.dropLast, gs.getLast hne, (List.dropLast_concat_getLast hne).symm⟩
  simp [blockOf, List.flatMap_append]

theorem blockOf_append (a b : List Signature) : blockOf (a ++ b) = blockOf a ++ blockOf b := by
  simp [blockOf, List.flatMap_append]

/-- what each written signature meets at lookup time: unknown key, or a known key that accepts it -/
def LookupOK (known : Verifiers) (t : Bytes) (g : Signature) (x : Bytes) : Prop :=
  known g.name g.hash = .unknown ∨
  ∃ k, known g.name g.hash = .found k ∧ k.name = g.name ∧ k.hash = g.hash ∧ k.verify t x = true

theorem openLoop_forward {known : Verifiers} {t : Bytes} :
    ∀ (gs : List Signature) (st : LoopState),
      (∀ g ∈ gs, ∃ x, ParsedSig g x ∧ LookupOK known t g x) →
      st.numSig + gs.length ≤ maxSigs →
      ∃ st', openLoop known t (gs.map lineOf) st = .ok st' ∧
        st'.sigs = st.sigs ++
          dedupFrom (fun g : Signature => (g.name, g.hash)) st.seen (gs.filter (sigKnown known)) ∧
        st'.unverifiedSigs = st.unverifiedSigs ++
          dedupFrom (fun g : Signature => g.name ++ [32] ++ g.base64) st.seenUnverified
            (gs.filter (sigUnknown known))
  | [], st, _, _ => ⟨st, by simp [openLoop], by simp [dedupFrom], by simp [dedupFrom]⟩
  | g :: gs, st, h, hlen => by
    obtain ⟨x, hg, hlook⟩ := h g List.mem_cons_self
    have hrest : ∀ g' ∈ gs, ∃ x, ParsedSig g' x ∧ LookupOK known t g' x :=
      fun g' hg' => h g' (List.mem_cons_of_mem _ hg')
    simp only [List.length_cons] at hlen
    have hn : ¬ st.numSig + 1 > maxSigs := by omega
    simp only [List.map_cons, openLoop, openStep, parseSigLine_lineOf hg, hn, ↓reduceIte]
    rcases hlook with hu | ⟨k, hk, hkn, hkh, hver⟩
    · have h1 : sigKnown known g = false := by simp [sigKnown, hu]
      have h2 : sigUnknown known g = true := by simp [sigUnknown, hu]
      simp only [hu, List.filter_cons, h1, h2, Bool.false_eq_true, ↓reduceIte]
      by_cases hc : (g.name ++ [32] ++ g.base64) ∈ st.seenUnverified
      · have hc' : st.seenUnverified.contains (g.name ++ [32] ++ g.base64) = true := by simpa using hc
        simp only [hc', ↓reduceIte]
        obtain ⟨st', hl, hs, hu'⟩ := openLoop_forward gs { st with numSig := st.numSig + 1 } hrest (by simp; omega)
        rw [show g.name ++ [32] ++ g.base64 = g.name ++ 32 :: g.base64 by simp] at hc
        exact ⟨st', hl, by simpa using hs, by simpa [dedupFrom, hc] using hu'⟩
      · have hc' : st.seenUnverified.contains (g.name ++ [32] ++ g.base64) = false := by simpa using hc
        simp only [hc', Bool.false_eq_true, ↓reduceIte]
        obtain ⟨st', hl, hs, hu'⟩ := openLoop_forward gs
          { st with numSig := st.numSig + 1, seenUnverified := (g.name ++ [32] ++ g.base64) :: st.seenUnverified,
                    unverifiedSigs := st.unverifiedSigs ++ [SigLine.toSig ⟨g.name, g.base64, g.hash, x, g.name ++ [32] ++ g.base64⟩] }
          hrest (by simp; omega)
        rw [show g.name ++ [32] ++ g.base64 = g.name ++ 32 :: g.base64 by simp] at hc
        exact ⟨st', hl, by simpa using hs, by simpa [dedupFrom, hc, SigLine.toSig] using hu'⟩
    · have h1 : sigKnown known g = true := by simp [sigKnown, hk]
      have h2 : sigUnknown known g = false := by simp [sigUnknown, hk]
      simp only [hk, hkn, hkh, bne_self_eq_false, Bool.or_self, Bool.false_eq_true, ↓reduceIte,
        List.filter_cons, h1, h2, hver, Bool.not_true]
      by_cases hc : (g.name, g.hash) ∈ st.seen
      · have hc' : st.seen.contains (g.name, g.hash) = true := by simpa using hc
        simp only [hc', ↓reduceIte]
        obtain ⟨st', hl, hs, hu'⟩ := openLoop_forward gs { st with numSig := st.numSig + 1 } hrest (by simp; omega)
        exact ⟨st', hl, by simpa [dedupFrom, hc] using hs, by simpa using hu'⟩
      · have hc' : st.seen.contains (g.name, g.hash) = false := by simpa using hc
        simp only [hc', Bool.false_eq_true, ↓reduceIte]
        obtain ⟨st', hl, hs, hu'⟩ := openLoop_forward gs
          { st with numSig := st.numSig + 1, seen := (g.name, g.hash) :: st.seen,
                    sigs := st.sigs ++ [SigLine.toSig ⟨g.name, g.base64, g.hash, x, g.name ++ [32] ++ g.base64⟩] }
          hrest (by simp; omega)
        exact ⟨st', hl, by simpa [dedupFrom, hc, SigLine.toSig] using hs, by simpa using hu'⟩

theorem Open_signed {t : Bytes} {all : List Signature} {known : Verifiers} (ht : ValidText t)
    (hall : ∀ g ∈ all, ∃ x, ParsedSig g x ∧ LookupOK known t g x) (hne : all ≠ []) (hlen : all.length ≤ maxSigs) :
    Open (t ++ [10] ++ blockOf all) known =
      if dedupFrom (fun g : Signature => (g.name, g.hash)) [] (all.filter (sigKnown known)) = [] then
        .error (.unverified ⟨t, [],
          dedupFrom (fun g : Signature => g.name ++ [32] ++ g.base64) [] (all.filter (sigUnknown known))⟩)
      else .ok ⟨t, dedupFrom (fun g : Signature => (g.name, g.hash)) [] (all.filter (sigKnown known)),
          dedupFrom (fun g : Signature => g.name ++ [32] ++ g.base64) [] (all.filter (sigUnknown known))⟩ := by
  obtain ⟨hlines, hvb, hnn⟩ := blockOf_spec all fun g hg => (hall g hg).imp fun _ h => h.1
  obtain ⟨t0, ht0⟩ := List.getLast?_eq_some_iff.mp ht.2
  have hmsg : t ++ [10] ++ blockOf all = t0 ++ 10 :: 10 :: blockOf all := by rw [ht0]; simp
  have hsplit := lastIndexOf_signed t0 (blockOf all) hnn
  have htake : (t0 ++ 10 :: 10 :: blockOf all).take (t0.length + 1) = t := by rw [take_len_succ, ht0]
  have hdrop : (t0 ++ 10 :: 10 :: blockOf all).drop (t0.length + 2) = blockOf all := drop_len_add2 _ _ _ _
  obtain ⟨hbne, hblast⟩ := blockOf_last all hne
  obtain ⟨st, hloop, hs1, hs2⟩ := openLoop_forward (known := known) (t := t) all {} hall (by
    show 0 + all.length ≤ maxSigs
    omega)
  have hvalid : validMsg (t0 ++ 10 :: 10 :: blockOf all) = true := by
    rw [← hmsg]
    exact validMsg_append (validMsg_append ht.1 (by decide)) hvb
  rw [hmsg]
  rw [← hdrop] at hbne hblast
  rw [← hlines, ← hdrop, ← htake] at hloop
  simp only [List.nil_append] at hs1 hs2
  split
  · rename_i he
    rw [Open_intro_unverified hvalid hsplit hbne hblast hloop (by rw [hs1]; exact he), htake, hs2]
  · rename_i he
    rw [Open_intro hvalid hsplit hbne hblast hloop (by rw [hs1]; exact he), htake, hs1, hs2]

/-- the first loop of Sign -/
theorem signNew_ok {t : Bytes} : ∀ (ss : List Signer),
    (∀ s ∈ ss, isValidName s.name = true ∧ ∃ x, s.sign t = some x) →
    signNew t ss = .ok (blockOf (ss.filterMap (sigOfSigner t))) ∧
      (ss.filterMap (sigOfSigner t)).length = ss.length
  | [], _ => by simp [signNew, blockOf]
  | s :: ss, h => by
    obtain ⟨hn, x, hx⟩ := h s List.mem_cons_self
    obtain ⟨ih1, ih2⟩ := signNew_ok ss (fun s' hs' => h s' (List.mem_cons_of_mem _ hs'))
    have hs : sigOfSigner t s = some ⟨s.name, s.hash, b64enc (putU32 s.hash ++ x)⟩ := by
      simp [sigOfSigner, hx]
    simp only [signNew, hn, Bool.not_true, Bool.false_eq_true, ↓reduceIte, hx, ih1, List.filterMap_cons, hs,
      List.length_cons, ih2, and_true]
    simp [blockOf, sigLine, lineOf]

/-- the second loop of Sign -/
theorem signExisting_ok (have_ : List (Bytes × UInt32)) : ∀ (gs : List Signature), (∀ g ∈ gs, ∃ x, ParsedSig g x) →
    signExisting have_ gs = .ok (blockOf (gs.filter fun g => !have_.contains (g.name, g.hash)))
  | [], _ => by simp [signExisting, blockOf]
  | g :: gs, h => by
    obtain ⟨x, hn, _, _, _, raw, hraw, hlen, hbe, _⟩ := h g List.mem_cons_self
    have ih := signExisting_ok have_ gs (fun g' hg' => h g' (List.mem_cons_of_mem _ hg'))
    by_cases hc : have_.contains (g.name, g.hash) = true
    · simp only [signExisting, hn, Bool.not_true, Bool.false_eq_true, ↓reduceIte, hc, ih, List.filter_cons]
    · have hc' : have_.contains (g.name, g.hash) = false := by simpa using hc
      have hl4 : ¬ raw.length < 4 := by omega
      simp only [signExisting, hn, Bool.not_true, Bool.false_eq_true, ↓reduceIte, hc', hraw, hbe, ih,
        List.filter_cons, Bool.not_false, decide_false, hl4, bne_self_eq_false, Bool.or_self]
      simp [blockOf, sigLine, lineOf]

theorem hasSuffixB_of_getLast {t : Bytes} {c : UInt8} (h : t.getLast? = some c) : hasSuffixB t [c] = true := by
  obtain ⟨t0, rfl⟩ := List.getLast?_eq_some_iff.mp h
  simp [hasSuffixB, isPrefixOfB]

theorem Sign_eq {n : Note} {ss : List Signer} (ht : n.text.getLast? = some 10)
    (hold : ∀ g ∈ n.sigs ++ n.unverifiedSigs, ∃ x, ParsedSig g x)
    (hnew : ∀ s ∈ ss, isValidName s.name = true ∧ ∃ x, s.sign n.text = some x) :
    Sign n ss = .ok (n.text ++ [10] ++ blockOf ((n.sigs ++ n.unverifiedSigs).filter
      (fun g => !(ss.map fun s => (s.name, s.hash)).contains (g.name, g.hash)) ++ ss.filterMap (sigOfSigner n.text))) := by
  unfold Sign
  simp only [hasSuffixB_of_getLast ht, Bool.not_true, Bool.false_eq_true, ↓reduceIte, (signNew_ok ss hnew).1,
    signExisting_ok _ _ hold, blockOf_append, List.append_assoc]

theorem made_ok {t : Bytes} {ss : List Signer} {known : Verifiers}
    (hgood : ∀ s ∈ ss, isValidName s.name = true ∧ ∃ x, s.sign t = some x ∧ x ≠ [] ∧
      LookupOK known t ⟨s.name, s.hash, b64enc (putU32 s.hash ++ x)⟩ x) :
    ∀ g ∈ ss.filterMap (sigOfSigner t), ∃ x, ParsedSig g x ∧ LookupOK known t g x := by
  intro g hg
  obtain ⟨s, hs, hsg⟩ := List.mem_filterMap.mp hg
  obtain ⟨hn, x, hx, hxne, hlook⟩ := hgood s hs
  simp only [sigOfSigner, hx, Option.map_some, Option.some.injEq] at hsg
  subst hsg
  exact ⟨x, parsedSig_of_signer _ hn hxne, hlook⟩

theorem mem_made {t : Bytes} {ss : List Signer} {s : Signer} {x : Bytes} (hs : s ∈ ss) (hx : s.sign t = some x) :
    (⟨s.name, s.hash, b64enc (putU32 s.hash ++ x)⟩ : Signature) ∈ ss.filterMap (sigOfSigner t) :=
  List.mem_filterMap.mpr ⟨s, hs, by simp [sigOfSigner, hx]⟩

theorem sign_open_core {t : Bytes} {ss : List Signer} {known : Verifiers}
    (ht : ValidText t)
    (hcount : ss.length ≤ maxSigs)
    (hgood : ∀ s ∈ ss, isValidName s.name = true ∧ ∃ x, s.sign t = some x ∧ x ≠ [] ∧
      LookupOK known t ⟨s.name, s.hash, b64enc (putU32 s.hash ++ x)⟩ x)
    (hone : ∃ s ∈ ss, ∃ k, known s.name s.hash = .found k) :
    Sign ⟨t, [], []⟩ ss = .ok (t ++ [10] ++ blockOf (ss.filterMap (sigOfSigner t))) ∧
    Open (t ++ [10] ++ blockOf (ss.filterMap (sigOfSigner t))) known = .ok ⟨t,
      dedupFrom (fun g : Signature => (g.name, g.hash)) [] ((ss.filterMap (sigOfSigner t)).filter (sigKnown known)),
      dedupFrom (fun g : Signature => g.name ++ [32] ++ g.base64) []
        ((ss.filterMap (sigOfSigner t)).filter (sigUnknown known))⟩ := by
  have hnew : ∀ s ∈ ss, isValidName s.name = true ∧ ∃ x, s.sign t = some x := fun s hs => by
    obtain ⟨hn, x, hx, _⟩ := hgood s hs; exact ⟨hn, x, hx⟩
  obtain ⟨s, hs, k, hk⟩ := hone
  obtain ⟨_, x, hx, _, _⟩ := hgood s hs
  have hmem : (⟨s.name, s.hash, b64enc (putU32 s.hash ++ x)⟩ : Signature) ∈
      (ss.filterMap (sigOfSigner t)).filter (sigKnown known) :=
    List.mem_filter.mpr ⟨mem_made hs hx, by simp [sigKnown, hk]⟩
  refine ⟨by simpa using Sign_eq (n := ⟨t, [], []⟩) ht.2 (by simp) hnew, ?_⟩
  rw [Open_signed ht (made_ok hgood) (List.ne_nil_of_mem (List.mem_filter.mp hmem).1)
    (by rw [(signNew_ok ss hnew).2]; exact hcount),
    if_neg (dedupFrom_nil_ne_nil _ (List.ne_nil_of_mem hmem))]

theorem sign_open_unverified_core {t : Bytes} {ss : List Signer} {known : Verifiers}
    (ht : ValidText t)
    (hcount : ss.length ≤ maxSigs)
    (hgood : ∀ s ∈ ss, isValidName s.name = true ∧ ∃ x, s.sign t = some x ∧ x ≠ [])
    (hunk : ∀ s ∈ ss, known s.name s.hash = .unknown)
    (hss : ss ≠ []) :
    Sign ⟨t, [], []⟩ ss = .ok (t ++ [10] ++ blockOf (ss.filterMap (sigOfSigner t))) ∧
    Open (t ++ [10] ++ blockOf (ss.filterMap (sigOfSigner t))) known = .error (.unverified ⟨t, [],
      dedupFrom (fun g : Signature => g.name ++ [32] ++ g.base64) [] (ss.filterMap (sigOfSigner t))⟩) := by
  have hnew : ∀ s ∈ ss, isValidName s.name = true ∧ ∃ x, s.sign t = some x := fun s hs => by
    obtain ⟨hn, x, hx, _⟩ := hgood s hs; exact ⟨hn, x, hx⟩
  have hgood' : ∀ s ∈ ss, isValidName s.name = true ∧ ∃ x, s.sign t = some x ∧ x ≠ [] ∧
      LookupOK known t ⟨s.name, s.hash, b64enc (putU32 s.hash ++ x)⟩ x := fun s hs => by
    obtain ⟨hn, x, hx, hxne⟩ := hgood s hs
    exact ⟨hn, x, hx, hxne, .inl (hunk s hs)⟩
  have hall : ∀ g ∈ ss.filterMap (sigOfSigner t), known g.name g.hash = .unknown := by
    intro g hg
    obtain ⟨s, hs, hsg⟩ := List.mem_filterMap.mp hg
    obtain ⟨_, x, hx, _⟩ := hgood s hs
    simp only [sigOfSigner, hx, Option.map_some, Option.some.injEq] at hsg
    subst hsg
    exact hunk s hs
  have hk : (ss.filterMap (sigOfSigner t)).filter (sigKnown known) = [] :=
    List.filter_eq_nil_iff.mpr fun g hg => by simp [sigKnown, hall g hg]
  have hu : (ss.filterMap (sigOfSigner t)).filter (sigUnknown known) = ss.filterMap (sigOfSigner t) :=
    List.filter_eq_self.mpr fun g hg => by simp [sigUnknown, hall g hg]
  have hlen := (signNew_ok ss hnew).2
  refine ⟨by simpa using Sign_eq (n := ⟨t, [], []⟩) ht.2 (by simp) hnew, ?_⟩
  rw [Open_signed ht (made_ok hgood') (by intro e; rw [e] at hlen; exact hss (List.length_eq_zero_iff.mp hlen.symm))
    (by rw [hlen]; exact hcount), hk, hu]
  rfl

theorem sigLines_valid : ∀ (n : Nat) (s : Bytes), s.length ≤ n → validMsg s = true → (s = [] ∨ s.getLast? = some 10) →
    ∀ l ∈ sigLines s, validMsg l = true ∧ (10 : UInt8) ∉ l
  | 0, s, hn, _, _ => by
    have : s = [] := List.length_eq_zero_iff.mp (by omega)
    subst this
    simp [sigLines]
  | n + 1, s, hn, hv, hlast => by
    rcases hlast with rfl | hlast
    · simp [sigLines]
    · obtain ⟨l0, rest, e, hnl, hs, hrl⟩ := sigLines_first s hlast
      rw [e] at hv
      obtain ⟨hv1, hv2, _⟩ := validMsg_split_ascii (by decide) hv
      have hlen : rest.length ≤ n := by
        have := congrArg List.length e
        simp at this
        omega
      intro l hl
      rw [hs] at hl
      rcases List.mem_cons.mp hl with rfl | hl
      · exact ⟨hv1, hnl⟩
      · exact sigLines_valid n rest hlen hv2 hrl l hl

theorem parsedSig_of_line {line : Bytes} {p : SigLine} (hp : parseSigLine line = some p)
    (hv : validMsg line = true) (hnl : (10 : UInt8) ∉ line) : ParsedSig p.toSig p.sig := by
  obtain ⟨_, _, _, hn, hne, raw, hraw, hlen, hbe, hsig⟩ := parseSigLine_spec hp
  have hline := parseSigLine_line hp
  have hline' : line = (sigPrefix ++ p.name) ++ 32 :: p.b64 := by rw [hline]; simp
  rw [hline'] at hv
  obtain ⟨_, hvb, _⟩ := validMsg_split_ascii (by decide) hv
  refine ⟨hn, hne, ?_, hvb, raw, hraw, hlen, hbe, hsig⟩
  intro hm
  apply hnl
  rw [hline]
  simp only [List.mem_append]
  exact Or.inr hm

theorem Open_ok_sigs {msg : Bytes} {known : Verifiers} {n : Note} (h : Open msg known = .ok n) :
    ValidText n.text ∧ n.sigs ≠ [] ∧
    (∀ g ∈ n.sigs, ∃ x, ParsedSig g x ∧ ∃ k, known g.name g.hash = .found k ∧ k.name = g.name ∧ k.hash = g.hash ∧
      k.verify n.text x = true) ∧
    (∀ g ∈ n.unverifiedSigs, ∃ x, ParsedSig g x ∧ known g.name g.hash = .unknown) := by
  obtain ⟨hv, split, ps, hs, hne, hlast, hps, _, hlook, hfirst, ⟨p0, hp0, hp0k⟩, rfl⟩ := Open_ok_iff.mp h
  obtain ⟨hmsg, htl⟩ := split_spec hs
  -- validity of the two halves
  obtain ⟨t0, ht0⟩ := List.getLast?_eq_some_iff.mp htl
  have hmsg' : msg = (t0 ++ [10]) ++ 10 :: msg.drop (split + 2) := by
    rw [← ht0]; rw [hmsg] at *; simp at *
    exact hmsg
  have hv' := hv
  rw [hmsg'] at hv'
  obtain ⟨hvt, hvb, _⟩ := validMsg_split_ascii (by decide) hv'
  rw [← ht0] at hvt
  have hlines := sigLines_valid _ (msg.drop (split + 2)) (Nat.le_refl _) hvb (Or.inr hlast)
  have hparsed : ∀ p ∈ ps, ParsedSig p.toSig p.sig := by
    intro p hp
    obtain ⟨line, hl, hpl⟩ := parseAll_mem _ _ hps p hp
    obtain ⟨h1, h2⟩ := hlines line hl
    exact parsedSig_of_line hpl h1 h2
  refine ⟨⟨hvt, htl⟩, ?_, ?_, ?_⟩
  · simp only [ne_eq, List.map_eq_nil_iff]
    exact dedupFrom_nil_ne_nil _ (List.ne_nil_of_mem (List.mem_filter.mpr ⟨hp0, hp0k⟩))
  · intro g hg
    simp only [List.mem_map] at hg
    obtain ⟨p, hp, rfl⟩ := hg
    have hpf := mem_dedupFrom _ _ _ _ hp
    obtain ⟨hpm, _⟩ := List.mem_filter.mp hpf
    obtain ⟨k, hk, hver⟩ := hfirst p hp
    refine ⟨p.sig, hparsed p hpm, k, hk, ?_, ?_, hver⟩
    · rcases hlook p hpm with hu | ⟨k', hk', hn', _⟩
      · rw [hu] at hk; cases hk
      · rw [hk] at hk'; simp only [Lookup.found.injEq] at hk'; subst hk'; exact hn'
    · rcases hlook p hpm with hu | ⟨k', hk', _, hh'⟩
      · rw [hu] at hk; cases hk
      · rw [hk] at hk'; simp only [Lookup.found.injEq] at hk'; subst hk'; exact hh'
  · intro g hg
    simp only [List.mem_map] at hg
    obtain ⟨p, hp, rfl⟩ := hg
    have hpf := mem_dedupFrom _ _ _ _ hp
    obtain ⟨hpm, hpu⟩ := List.mem_filter.mp hpf
    refine ⟨p.sig, hparsed p hpm, ?_⟩
    simp only [isUnknown] at hpu
    show known p.name p.hash = .unknown
    split at hpu
    · assumption
    · cases hpu

theorem sign_existing_core {msg : Bytes} {known : Verifiers} {n : Note} {ss : List Signer}
    (hopen : Open msg known = .ok n)
    (hcount : n.sigs.length + n.unverifiedSigs.length + ss.length ≤ maxSigs)
    (hgood : ∀ s ∈ ss, isValidName s.name = true ∧ ∃ x, s.sign n.text = some x ∧ x ≠ [] ∧
      LookupOK known n.text ⟨s.name, s.hash, b64enc (putU32 s.hash ++ x)⟩ x) :
    let kept := (n.sigs ++ n.unverifiedSigs).filter
      (fun g => !(ss.map fun s => (s.name, s.hash)).contains (g.name, g.hash))
    let all := kept ++ ss.filterMap (sigOfSigner n.text)
    Sign n ss = .ok (n.text ++ [10] ++ blockOf all) ∧
    Open (n.text ++ [10] ++ blockOf all) known = .ok ⟨n.text,
      dedupFrom (fun g : Signature => (g.name, g.hash)) [] (all.filter (sigKnown known)),
      dedupFrom (fun g : Signature => g.name ++ [32] ++ g.base64) [] (all.filter (sigUnknown known))⟩ := by
  intro kept all
  obtain ⟨ht, hsne, hsigs, hunv⟩ := Open_ok_sigs hopen
  have hold : ∀ g ∈ n.sigs ++ n.unverifiedSigs, ∃ x, ParsedSig g x ∧ LookupOK known n.text g x := by
    intro g hg
    rcases List.mem_append.mp hg with hg | hg
    · obtain ⟨x, hp, hk⟩ := hsigs g hg
      exact ⟨x, hp, .inr hk⟩
    · obtain ⟨x, hp, hu⟩ := hunv g hg
      exact ⟨x, hp, .inl hu⟩
  have hnew : ∀ s ∈ ss, isValidName s.name = true ∧ ∃ x, s.sign n.text = some x := fun s hs => by
    obtain ⟨hn, x, hx, _⟩ := hgood s hs; exact ⟨hn, x, hx⟩
  have hallOK : ∀ g ∈ all, ∃ x, ParsedSig g x ∧ LookupOK known n.text g x := by
    intro g hg
    rcases List.mem_append.mp hg with hg | hg
    · exact hold g (List.mem_filter.mp hg).1
    · exact made_ok hgood g hg
  -- some signature of a known key is written: an old one, or the new one that replaces it
  obtain ⟨g0, hg0⟩ := List.exists_mem_of_ne_nil _ hsne
  obtain ⟨_, _, k0, hk0, _⟩ := hsigs g0 hg0
  have hknown : ∃ g ∈ all, sigKnown known g = true := by
    by_cases hc : (ss.map fun s => (s.name, s.hash)).contains (g0.name, g0.hash) = true
    · simp only [List.contains_eq_mem, List.mem_map, decide_eq_true_eq] at hc
      obtain ⟨s, hs, hse⟩ := hc
      simp only [Prod.mk.injEq] at hse
      obtain ⟨_, x, hx, _, _⟩ := hgood s hs
      exact ⟨_, List.mem_append_right _ (mem_made hs hx), by simp only [sigKnown, hse.1, hse.2, hk0]⟩
    · exact ⟨g0, List.mem_append_left _ (List.mem_filter.mpr ⟨List.mem_append_left _ hg0, by simpa using hc⟩),
        by simp only [sigKnown, hk0]⟩
  obtain ⟨g1, hg1, hg1k⟩ := hknown
  have hallLen : all.length ≤ maxSigs := by
    have h1 : kept.length ≤ (n.sigs ++ n.unverifiedSigs).length := List.length_filter_le _ _
    have h2 := (signNew_ok ss hnew).2
    simp only [all, List.length_append] at h1 ⊢
    omega
  refine ⟨Sign_eq ht.2 (fun g hg => (hold g hg).imp fun _ h => h.1) hnew, ?_⟩
  rw [Open_signed ht hallOK (List.ne_nil_of_mem hg1) hallLen,
    if_neg (dedupFrom_nil_ne_nil _ (List.ne_nil_of_mem (List.mem_filter.mpr ⟨hg1, hg1k⟩)))]

end ModVerif.Note
