/-
  C02, end-of-line comments: the rendered text in continuation form (`stmtsB`), the token records it lexes to
  (`stmtsT`), and the statement list the parser builds from them with every position given explicitly
  (`eStmts`), all as functions of the tree and of the input `D` the positions refer to.  Positions are
  `pa D r` = "where the suffix `r` of `D` begins", so the order of two positions is the order of the lengths of
  the suffixes, and the suffixes are read off the continuation.

  The rendered text of a well-shaped tree with end-of-line comments lexes to the token records `stmtsT`
  (`lexesE_stmts`), and the continuation form `stmtsB` is the rendered text `rStmtsE`.

  Naming: for each piece of the tree (`bef…` comments in front of a node, `suf…` the end of a line, `lines…`, `stmt…`,
  `stmts…`) the suffix says what is computed — `B` the bytes, `T` the token records, `C` the comments (built by the
  parser resp. recorded by the lexer); `e…` is what the parser builds before comment assignment, `a…` after it; each
  takes the text `R` / `Z` that follows the piece.  `zidL` / `zidE` set the line identities to 0.
-/
import ModVerif.Proofs.ModfileEolStream
namespace ModVerif.Proofs.ModfileFmtRender
open ModVerif ModVerif.Modfile ModVerif.Proofs.ModfileFmtLex ModVerif.Proofs.ModfileFmtTree

theorem tabs_blank (m : Nat) : ∀ b ∈ tabs m, isBlank b = true := by
  intro b hb
  have : b = 9 := by simpa [tabs] using (List.eq_of_mem_replicate hb)
  subst this; rfl

theorem blkBefore_cases : ∀ (cs : List Comment) (allow : Bool), BlkBeforeOK allow cs →
    ∀ c ∈ cs, c.token = [] ∨ CommentOK c.token := by
  intro cs
  induction cs with
  | nil => intro _ _ c hc; simp at hc
  | cons c0 cs ih =>
    intro allow h c hc
    unfold BlkBeforeOK at h
    by_cases he : c0.token.isEmpty = true
    · simp only [he, if_true] at h
      rcases List.mem_cons.1 hc with rfl | hc
      · exact Or.inl (by simpa using he)
      · exact ih false h.2.2 c hc
    · simp only [he, Bool.false_eq_true, if_false] at h
      rcases List.mem_cons.1 hc with rfl | hc
      · exact Or.inr h.2.1
      · exact ih true h.2.2 c hc

end ModVerif.Proofs.ModfileFmtRender

namespace ModVerif.Proofs.ModfileEol
open ModVerif ModVerif.Modfile
open ModVerif.Proofs.ModfileFmtLex ModVerif.Proofs.ModfileFmtLine
open ModVerif.Proofs.ModfileFmtStream ModVerif.Proofs.ModfileFmtTree ModVerif.Proofs.ModfileFmtRender

/-- the token records of the comment lines `rBefore m cs`, followed by `R` -/
def befT (D : Bytes) (m : Nat) : List Comment → Bytes → List Token
  | [], _ => []
  | c :: cs, R =>
    (if (GoStrings.trimSpace c.token).isEmpty then nlT D (rBefore m cs ++ R)
     else comT D (GoStrings.trimSpace c.token) (rBefore m cs ++ R)) :: befT D m cs R

/-- the comments the parser builds from them -/
def befC (D : Bytes) (m : Nat) : List Comment → Bytes → List Comment
  | [], _ => []
  | c :: cs, R =>
    (if (GoStrings.trimSpace c.token).isEmpty then ({} : Comment)
     else { start := pa D (GoStrings.trimSpace c.token ++ 10 :: (rBefore m cs ++ R)),
            token := GoStrings.trimSpace c.token, suffix := false }) :: befC D m cs R

/-- the bytes that end a line whose node carries the suffix list `cs`, followed by `R` -/
def sufB (cs : List Comment) (R : Bytes) : Bytes := rSuf cs ++ 10 :: R

/-- the token that ends the line -/
def sufT (D : Bytes) : List Comment → Bytes → Token
  | [c], R => eolT D (GoStrings.trimSpace c.token) R
  | _, R => nlT D R

/-- the end-of-line comment the node gets back -/
def sufC (D : Bytes) : List Comment → Bytes → List Comment
  | [c], R => [{ start := pa D (GoStrings.trimSpace c.token ++ 10 :: R), token := GoStrings.trimSpace c.token,
                 suffix := true }]
  | _, _ => []

/-- the lines of a block, each ended by its newline or end-of-line comment, followed by `Z` -/
def linesB : List Line → Bytes → Bytes
  | [], Z => Z
  | l :: ls, Z => rBefore 1 l.comments.before ++
      (9 :: (tokStr l.token [] ++ sufB l.comments.suffix (linesB ls Z)))

def linesT (D : Bytes) : List Line → Bytes → List Token
  | [], _ => []
  | l :: ls, Z =>
    befT D 1 l.comments.before (9 :: (tokStr l.token [] ++ sufB l.comments.suffix (linesB ls Z))) ++
      (tokStrT D l.token (sufB l.comments.suffix (linesB ls Z)) ++
        sufT D l.comments.suffix (linesB ls Z) :: linesT D ls Z)

/-- the lines the parser builds (before comment assignment; identities zero) -/
def eLines (D : Bytes) : List Line → Bytes → List Line
  | [], _ => []
  | l :: ls, Z =>
    { id := 0,
      comments := { before := befC D 1 l.comments.before
                      (9 :: (tokStr l.token [] ++ sufB l.comments.suffix (linesB ls Z))) },
      start := pa D (tokStr l.token [] ++ sufB l.comments.suffix (linesB ls Z)),
      token := l.token, inBlock := true,
      «end» := pa D (sufB l.comments.suffix (linesB ls Z)) } :: eLines D ls Z

/-- the end-of-line comments printed after `)` -/
def rsOf (b : LineBlock) : List Comment := b.rparen.comments.suffix ++ b.comments.suffix

/-- what follows the lines of a block: comments before `)`, `)`, its end of line, `R` -/
def closeB (b : LineBlock) (R : Bytes) : Bytes :=
  rBefore 0 b.rparen.comments.before ++ (41 :: sufB (rsOf b) R)

/-- what follows `(`: its end of line, the lines, the closing part -/
def bodyB (b : LineBlock) (R : Bytes) : Bytes :=
  sufB b.lparen.comments.suffix (linesB b.lines (closeB b R))

/-- a statement followed by `R` -/
def stmtB : Expr → Bytes → Bytes
  | .commentBlock x, R => rBefore 0 x.comments.before ++ R
  | .line l, R => rBefore 0 l.comments.before ++ (tokStr l.token [] ++ sufB l.comments.suffix R)
  | .lineBlock b, R => rBefore 0 b.comments.before ++ (tokStr b.token [] ++ (32 :: 40 :: bodyB b R))
  | _, R => R

def stmtsB : List Expr → Bytes
  | [] => []
  | [s] => stmtB s []
  | s :: rest => stmtB s (10 :: stmtsB rest)

def stmtT (D : Bytes) : Expr → Bytes → List Token
  | .commentBlock x, R => befT D 0 x.comments.before R
  | .line l, R =>
    befT D 0 l.comments.before (tokStr l.token [] ++ sufB l.comments.suffix R) ++
      (tokStrT D l.token (sufB l.comments.suffix R) ++ [sufT D l.comments.suffix R])
  | .lineBlock b, R =>
    befT D 0 b.comments.before (tokStr b.token [] ++ (32 :: 40 :: bodyB b R)) ++
      (tokStrT D b.token (32 :: 40 :: bodyB b R) ++
        (tokT D [40] (bodyB b R) :: sufT D b.lparen.comments.suffix (linesB b.lines (closeB b R)) ::
          (linesT D b.lines (closeB b R) ++
            (befT D 0 b.rparen.comments.before (41 :: sufB (rsOf b) R) ++
              [tokT D [41] (sufB (rsOf b) R), sufT D (rsOf b) R]))))
  | _, _ => []

/-- the statement the parser builds (before comment assignment; identities zero) -/
def eStmt (D : Bytes) : Expr → Bytes → Expr
  | .commentBlock x, R =>
    .commentBlock { comments := { before := befC D 0 x.comments.before R },
                    start := pa D (rBefore 0 x.comments.before ++ R) }
  | .line l, R =>
    .line { id := 0,
            comments := { before := befC D 0 l.comments.before (tokStr l.token [] ++ sufB l.comments.suffix R) },
            start := pa D (tokStr l.token [] ++ sufB l.comments.suffix R),
            token := l.token, inBlock := false, «end» := pa D (sufB l.comments.suffix R) }
  | .lineBlock b, R =>
    .lineBlock { comments := { before := befC D 0 b.comments.before (tokStr b.token [] ++ (32 :: 40 :: bodyB b R)) },
                 start := pa D (tokStr b.token [] ++ (32 :: 40 :: bodyB b R)),
                 lparen := { pos := pa D (40 :: bodyB b R) },
                 token := b.token,
                 lines := eLines D b.lines (closeB b R),
                 rparen := { comments := { before := befC D 0 b.rparen.comments.before (41 :: sufB (rsOf b) R) },
                             pos := pa D (41 :: sufB (rsOf b) R) } }
  | s, _ => s

/-- the statement list with the separating blank lines -/
def stmtsT (D : Bytes) : List Expr → List Token
  | [] => [eofT D]
  | [s] => stmtT D s [] ++ [eofT D]
  | s :: rest => stmtT D s (10 :: stmtsB rest) ++ nlT D (stmtsB rest) :: stmtsT D rest

def eStmts (D : Bytes) : List Expr → List Expr
  | [] => []
  | [s] => [eStmt D s []]
  | s :: rest => eStmt D s (10 :: stmtsB rest) :: eStmts D rest

/-- `l` with the end-of-line comment it gets back -/
def aLines (D : Bytes) : List Line → Bytes → List Line
  | [], _ => []
  | l :: ls, Z =>
    { id := 0,
      comments := { before := befC D 1 l.comments.before
                      (9 :: (tokStr l.token [] ++ sufB l.comments.suffix (linesB ls Z))),
                    suffix := sufC D l.comments.suffix (linesB ls Z) },
      start := pa D (tokStr l.token [] ++ sufB l.comments.suffix (linesB ls Z)),
      token := l.token, inBlock := true,
      «end» := pa D (sufB l.comments.suffix (linesB ls Z)) } :: aLines D ls Z

def aStmt (D : Bytes) : Expr → Bytes → Expr
  | .commentBlock x, R => eStmt D (.commentBlock x) R
  | .line l, R =>
    .line { id := 0,
            comments := { before := befC D 0 l.comments.before (tokStr l.token [] ++ sufB l.comments.suffix R),
                          suffix := sufC D l.comments.suffix R },
            start := pa D (tokStr l.token [] ++ sufB l.comments.suffix R),
            token := l.token, inBlock := false, «end» := pa D (sufB l.comments.suffix R) }
  | .lineBlock b, R =>
    .lineBlock { comments := { before := befC D 0 b.comments.before (tokStr b.token [] ++ (32 :: 40 :: bodyB b R)) },
                 start := pa D (tokStr b.token [] ++ (32 :: 40 :: bodyB b R)),
                 lparen := { comments := { suffix := sufC D b.lparen.comments.suffix (linesB b.lines (closeB b R)) },
                             pos := pa D (40 :: bodyB b R) },
                 token := b.token,
                 lines := aLines D b.lines (closeB b R),
                 rparen := { comments := { before := befC D 0 b.rparen.comments.before (41 :: sufB (rsOf b) R),
                                           suffix := sufC D (rsOf b) R },
                             pos := pa D (41 :: sufB (rsOf b) R) } }
  | s, _ => s

def aStmts (D : Bytes) : List Expr → List Expr
  | [] => []
  | [s] => [aStmt D s []]
  | s :: rest => aStmt D s (10 :: stmtsB rest) :: aStmts D rest

def zidL (l : Line) : Line := { l with id := 0 }

def zidE : Expr → Expr
  | .line l => .line (zidL l)
  | .lineBlock b => .lineBlock { b with lines := b.lines.map zidL }
  | s => s

open ModVerif ModVerif.Modfile
open ModVerif.Proofs.ModfileFmtTok ModVerif.Proofs.ModfileFmtLex ModVerif.Proofs.ModfileFmtLine
open ModVerif.Proofs.ModfileFmtStream ModVerif.Proofs.ModfileFmtTree ModVerif.Proofs.ModfileFmtRender
open ModVerif.Proofs.ModfileFmtTrim

theorem linesB_eq : ∀ (ls : List Line) (Z : Bytes), ls.flatMap rLineE ++ 10 :: Z = 10 :: linesB ls Z := by
  intro ls
  induction ls with
  | nil => intro Z; rfl
  | cons l ls ih =>
    intro Z
    simp only [List.flatMap_cons, rLineE, linesB, sufB, List.append_assoc, List.cons_append]
    rw [ih]

theorem stmtB_app (s : Expr) (R : Bytes) (h : EWFStmt s) : stmtB s (10 :: R) = rStmtE s ++ 10 :: R := by
  cases s with
  | commentBlock x => simp [stmtB, rStmtE]
  | line l => simp [stmtB, rStmtE, sufB]
  | lineBlock b =>
    have := linesB_eq b.lines (closeB b (10 :: R))
    simp only [stmtB, rStmtE, rBlockE, bodyB, sufB, List.append_assoc, List.cons_append]
    rw [← this]
    simp [closeB, sufB, rsOf]
  | lparen x => exact absurd h id
  | rparen x => exact absurd h id

theorem stmtB_last (s : Expr) (h : EWFStmt s) : stmtB s [] = rStmtE s := by
  cases s with
  | commentBlock x => simp [stmtB, rStmtE]
  | line l => simp [stmtB, rStmtE, sufB]
  | lineBlock b =>
    have := linesB_eq b.lines (closeB b [])
    simp only [stmtB, rStmtE, rBlockE, bodyB, sufB, List.append_assoc, List.cons_append]
    rw [← this]
    simp [closeB, sufB, rsOf]
  | lparen x => exact absurd h id
  | rparen x => exact absurd h id

theorem stmtsB_eq : ∀ (ss : List Expr), EWFStmts ss → stmtsB ss = rStmtsE ss := by
  intro ss
  induction ss with
  | nil => intro _; rfl
  | cons s rest ih =>
    intro hwf
    cases rest with
    | nil => simpa [stmtsB, rStmtsE] using stmtB_last s (hwf s (by simp))
    | cons r rs =>
      have := ih (fun x hx => hwf x (by simp [hx]))
      simp only [stmtsB, rStmtsE] at this ⊢
      rw [stmtB_app s _ (hwf s (by simp)), this]

variable {D : Bytes}

theorem lexesE_before (m : Nat) : ∀ (cs : List Comment), (∀ c ∈ cs, c.token = [] ∨ CommentOK c.token) →
    ∀ {R : Bytes} {S : List Token}, LexesToE D .bol R S →
    LexesToE D .bol (rBefore m cs ++ R) (befT D m cs R ++ S) := by
  intro cs
  induction cs with
  | nil => intro _ R S hS; simpa [rBefore, befT] using hS
  | cons c cs ih =>
    intro h R S hS
    have hrest := ih (fun c' hc' => h c' (by simp [hc'])) hS
    rcases h c (by simp) with he | hok
    · -- blank-line placeholder
      have ht : GoStrings.trimSpace c.token = [] := by rw [he]; exact trimSpace_nil
      have := lexesToE_newline (D := D) [] (rBefore m cs ++ R) (by simp) hrest .bol
      simpa [rBefore, befT, ht] using this
    · obtain ⟨e, _, hok'⟩ := trimSpace_comment hok
      obtain ⟨hne, _⟩ := commentOK_lastOK hok
      have hne' : GoStrings.trimSpace c.token ≠ [] := by simpa using hne
      have hlast : (GoStrings.trimSpace c.token).getLast? ≠ some 13 := by
        intro hl
        exact (trimSpace_last _ 13 hl).2.2.1 rfl
      have := lexesToE_comment (D := D) (tabs m) (GoStrings.trimSpace c.token) (rBefore m cs ++ R) (tabs_blank m)
        hok' hlast hrest
      simpa [rBefore, befT, hne', List.append_assoc] using this

theorem lexesE_top_before (cs : List Comment) (h : TopBeforeOK cs) {R : Bytes} {S : List Token}
    (hS : LexesToE D .bol R S) : LexesToE D .bol (rBefore 0 cs ++ R) (befT D 0 cs R ++ S) :=
  lexesE_before 0 cs (fun c hc => Or.inr (h c hc).2) hS

theorem lexesE_suf (cs : List Comment) (h : SufOK cs) {R : Bytes} {S : List Token} (hS : LexesToE D .bol R S) :
    LexesToE D .used (sufB cs R) (sufT D cs R :: S) := by
  rcases sufOK_cases h with rfl | ⟨c, rfl, hok, _⟩
  · have := lexesToE_newline (D := D) [] R (by simp) hS .used
    simpa [sufB, rSuf, sufT] using this
  · obtain ⟨e, _, hok'⟩ := trimSpace_comment hok
    have hlast : (GoStrings.trimSpace c.token).getLast? ≠ some 13 := by
      intro hl
      exact (trimSpace_last _ 13 hl).2.2.1 rfl
    have := lexesToE_eolc (D := D) [32] (GoStrings.trimSpace c.token) R
      (by intro b hb; simp at hb; subst hb; rfl) hok' hlast hS
    simpa [sufB, rSuf, sufT] using this

theorem sufB_delim (cs : List Comment) (R : Bytes) : DelimStart (sufB cs R) := by
  unfold sufB rSuf
  split
  · exact delimStart_cons rfl
  · exact delimStart_cons rfl

/-- ★ end-of-line stage (ii) (`Props.C02.relex_line_eol`) -/
theorem lexesE_tokline (ws : Bytes) (hws : ∀ b ∈ ws, isBlank b = true) (ts : List Bytes) (hne : ts ≠ [])
    (hts : ∀ t ∈ ts, TokText t) (cs : List Comment) (hcs : SufOK cs) {R : Bytes} {S : List Token}
    (hS : LexesToE D .bol R S) (m : Mode) :
    LexesToE D m (ws ++ (tokStr ts [] ++ sufB cs R)) (tokStrT D ts (sufB cs R) ++ sufT D cs R :: S) :=
  lexesToE_tokStr ts hts hne [] (Or.inl rfl) ws hws (sufB cs R) (sufB_delim cs R) (lexesE_suf cs hcs hS) m

theorem lexesE_lines : ∀ (ls : List Line) (allow : Bool), EWFBlkLines allow ls →
    ∀ {Z : Bytes} {S : List Token}, LexesToE D .bol Z S →
    LexesToE D .bol (linesB ls Z) (linesT D ls Z ++ S) := by
  intro ls
  induction ls with
  | nil => intro _ _ Z S hS; simpa [linesB, linesT] using hS
  | cons l ls ih =>
    intro allow hwf Z S hS
    obtain ⟨hl, hls⟩ := hwf
    have h1 := ih true hls hS
    have h2 := lexesE_tokline (D := D) [9] (by intro b hb; simp at hb; subst hb; rfl) l.token hl.ne hl.tok
      l.comments.suffix hl.suffix h1 .bol
    have h3 := lexesE_before (D := D) 1 l.comments.before (blkBefore_cases _ _ hl.before) h2
    simpa [linesB, linesT, List.append_assoc] using h3

theorem lexesE_stmt (s : Expr) (hwf : EWFStmt s) {R : Bytes} {S : List Token} (hS : LexesToE D .bol R S) :
    LexesToE D .bol (stmtB s R) (stmtT D s R ++ S) := by
  cases s with
  | commentBlock x =>
    obtain ⟨_, hbefore, _, _⟩ := hwf
    simpa [stmtB, stmtT] using lexesE_top_before x.comments.before hbefore hS
  | line l =>
    have hwf : EWFLine l := hwf
    have h1 := lexesE_tokline (D := D) [] (by simp) l.token hwf.ne hwf.tok l.comments.suffix hwf.suffix hS .bol
    have h2 := lexesE_top_before l.comments.before hwf.before h1
    simpa [stmtB, stmtT, List.append_assoc] using h2
  | lineBlock b =>
    have hwf : EWFBlock b := hwf
    -- `)` and the end of its line
    have e1 := lexesE_suf (D := D) (rsOf b) hwf.rsuffix hS
    have e2 : LexesToE D .bol ([] ++ ([41] ++ sufB (rsOf b) R)) (tokT D [41] (sufB (rsOf b) R) :: sufT D (rsOf b) R :: S) :=
      lexesToE_tok (TokOK.punct 41 (by decide)) [] _ (by simp) (Or.inr ⟨41, rfl⟩) e1 .bol
    have e3 := lexesE_before (D := D) 0 b.rparen.comments.before (blkBefore_cases _ _ hwf.rbefore) e2
    simp only [List.nil_append, List.singleton_append] at e3
    have e4 := lexesE_lines (D := D) b.lines false hwf.lines e3
    have e5 := lexesE_suf (D := D) b.lparen.comments.suffix hwf.lsuffix e4
    have e6 : LexesToE D .used ([32] ++ ([40] ++ bodyB b R)) (tokT D [40] (bodyB b R) :: _) :=
      lexesToE_tok (TokOK.punct 40 (by decide)) [32] _ (by intro x hx; simp at hx; subst hx; rfl)
        (Or.inr ⟨40, rfl⟩) e5 .used
    have e7 := lexesToE_tokStr (D := D) b.token hwf.tok hwf.ne [] (Or.inl rfl) [] (by simp) _ (delimStart_cons rfl) e6 .bol
    have e8 := lexesE_top_before b.comments.before hwf.before e7
    simpa [stmtB, stmtT, bodyB, closeB, List.append_assoc] using e8
  | lparen x => exact absurd hwf id
  | rparen x => exact absurd hwf id

/-- ★ end-of-line stage (iii), lexing half -/
theorem lexesE_stmts : ∀ (ss : List Expr), EWFStmts ss → LexesToE D .bol (stmtsB ss) (stmtsT D ss) := by
  intro ss
  induction ss with
  | nil => intro _; simpa [stmtsB, stmtsT] using lexesToE_eof D .bol
  | cons s rest ih =>
    intro hwf
    have hs := hwf s (by simp)
    cases rest with
    | nil =>
      have := lexesE_stmt s hs (lexesToE_eof D .bol)
      simpa [stmtsB, stmtsT] using this
    | cons r rs =>
      have hrest := ih (fun x hx => hwf x (by simp [hx]))
      have hnl := lexesToE_newline (D := D) [] _ (by simp) hrest .bol
      have := lexesE_stmt s hs hnl
      simpa [stmtsB, stmtsT, List.append_assoc] using this

end ModVerif.Proofs.ModfileEol
