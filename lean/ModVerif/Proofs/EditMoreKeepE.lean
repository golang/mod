/-
  `OpKeepsS` for the two bulk requirement setters (they touch every `require` line and end with SortBlocks); up to
  SortBlocks every line they do not touch stays literally as it is.
-/
import ModVerif.Proofs.EditMoreKeepD
namespace ModVerif.Modfile.Edit
open ModVerif ModVerif.Modfile

theorem setReqStep_keepsEq (need : List Want) (r : Require) (syn : FileSyntax) :
    KeepsEq [r.lineId] syn.stmts (setReqStep need r syn).2.2.stmts := by
  unfold setReqStep
  split
  · exact keepsEq_updateLine _ _ _
  · exact keepsEq_markRemoved _ _

theorem setRequireLoop_keepsEq : ∀ (rs : List Require) (need : List Want) (syn : FileSyntax) (rs' : List Require) (need' : List Want)
    (syn' : FileSyntax), setRequireLoop rs need syn = .ok (rs', need', syn') → KeepsEq (rs.map (·.lineId)) syn.stmts syn'.stmts
  | [], _, _, _, _, _, h => by
    simp only [setRequireLoop, Except.ok.injEq, Prod.mk.injEq] at h
    rcases h with ⟨_, _, rfl⟩
    exact KeepsEq.refl _ _
  | r :: rs, need, syn, _, _, _, h => by
    rcases setRequireLoop_cons_ok h with ⟨_, rs'', _, hrec⟩
    exact (setReqStep_keepsEq need r syn).trans (setRequireLoop_keepsEq rs _ _ _ _ _ hrec)

theorem foldl_addNewRequire_keepsEq : ∀ (ws : List Want) (e : EFile), Inv e → (∀ w ∈ ws, w.path ≠ []) →
    ∀ x ∈ viewX e.f.syn.stmts, x.id < e.next →
      x ∈ viewX (ws.foldl (fun e w => addNewRequire e w.path w.vers w.indirect) e).f.syn.stmts
  | [], _, _, _, _, hx, _ => hx
  | w :: ws, e, hi, hne, x, hx, hlt => by
    have h1 := keepsEq_addLine e.f.syn none [B "require", autoQuote w.path, w.vers] e.next hi.view2
    have h2 := keepsEq_updateLine (addLine e.f.syn none [B "require", autoQuote w.path, w.vers] e.next) e.next (setIndirectLine w.indirect)
    have hx1 : x ∈ viewX (addNewRequire e w.path w.vers w.indirect).f.syn.stmts :=
      (h1.trans h2) x hx (by simp only [List.nil_append, List.mem_singleton]; omega)
    exact foldl_addNewRequire_keepsEq ws _ (addNewRequire_inv e w.path w.vers w.indirect (hne w List.mem_cons_self) hi)
      (fun y hy => hne y (List.mem_cons_of_mem _ hy)) x hx1 (Nat.lt_succ_of_lt hlt)

theorem foldl_addNewRequire_fields (ws : List Want) : ∀ e : EFile,
    (ws.foldl (fun e w => addNewRequire e w.path w.vers w.indirect) e).f.exclude = e.f.exclude ∧
    (ws.foldl (fun e w => addNewRequire e w.path w.vers w.indirect) e).f.replace = e.f.replace ∧
    (ws.foldl (fun e w => addNewRequire e w.path w.vers w.indirect) e).f.tool = e.f.tool := by
  induction ws with
  | nil => intro e; exact ⟨rfl, rfl, rfl⟩
  | cons w ws ih => intro e; simp only [List.foldl_cons]; rcases ih (addNewRequire e w.path w.vers w.indirect) with ⟨a, b, c⟩; exact ⟨a, b, c⟩

theorem kill3_congr {f g : File} (h1 : f.exclude = g.exclude) (h2 : f.replace = g.replace) (h3 : f.tool = g.tool) :
    kill3 f = kill3 g := by
  simp only [kill3, kill2, kill1, h1, h2, h3]

theorem require_targets {e : EFile} {op : Op} (hlive : ∀ r ∈ e.f.require, liveRq r = true) (hs : Sorts op = true)
    (hop : ∀ t : List Bytes, t.head? = some (B "require") → Targets op t) :
    ∀ i ∈ e.f.require.map (·.lineId) ++ kill3 e.f,
      (Sorts op = true ∧ i ∈ kill3 e.f) ∨ ∃ en ∈ entries e.f, en.id = i ∧ ∀ t s, en.acc t s → Targets op t := by
  intro i hi'
  rcases List.mem_append.1 hi' with h1 | h1
  · rcases List.mem_map.1 h1 with ⟨r, hr', rfl⟩
    refine Or.inr ⟨entRq r, mem_entries_require hr' (hlive r hr'), rfl, ?_⟩
    intro t s hacc
    simp only [entRq] at hacc
    exact hop t (by rw [hacc.1]; rfl)
  · exact Or.inl ⟨hs, h1⟩

theorem setRequire_keepsS (e e' : EFile) (req : List Want) (perm : List Want → List Want) (hperm : ∀ l, (perm l).Perm l)
    (hg : GoodWant req) (hi : Inv e) (hlive : ∀ r ∈ e.f.require, liveRq r = true) (hset : NoNestedIndirectMarker e)
    (h : setRequire e req perm = .ok e') (rev : Bool) : OpKeepsS e e' (.setRequire req rev) := by
  rcases setRequire_loop hg h with ⟨rq, need', syn', hr, rfl⟩
  rcases setRequire_loop_inv hperm hg hi hlive hset hr with ⟨hi1, hne⟩
  have k3 := keepsEq_sortBlocks ((perm need').foldl (fun e w => addNewRequire e w.path w.vers w.indirect)
    (⟨{ e.f with require := rq, syn := syn' }, e.next⟩ : EFile))
  rcases foldl_addNewRequire_fields (perm need') (⟨{ e.f with require := rq, syn := syn' }, e.next⟩ : EFile) with ⟨f1, f2, f3⟩
  rw [kill3_congr (g := e.f) f1 f2 f3] at k3
  refine ⟨e.f.require.map (·.lineId) ++ kill3 e.f, ?_, require_targets hlive rfl fun _ ht => ht⟩
  intro x hx hlt hs
  simp only [List.mem_append, not_or] at hs
  exact ⟨x, k3 x (foldl_addNewRequire_keepsEq (perm need') _ hi1 hne x (setRequireLoop_keepsEq _ _ _ _ _ _ hr x hx hs.1) hlt) hs.2,
    x.leS_refl⟩

theorem SepStep.keepsEq {ctx : SepCtx} {need : List Want} {r : Require} {have_ : List Bytes} {syn : FileSyntax} {next : Nat}
    {t : Require × List Bytes × FileSyntax × Nat} (ht : SepStep ctx need r have_ syn next t) :
    KeepsEq [r.lineId] syn.stmts t.2.2.1.stmts := by
  cases ht with
  | drop _ => exact keepsEq_markRemoved _ _
  | keep w _ _ _ => exact keepsEq_updateLine _ _ _
  | move w _ _ => exact ((keepsEq_updateLine _ _ _).trans (keepsEq_moveExisting _ r.lineId _ next)).mono (by simp)

theorem sepLoop_keepsEq (ctx : SepCtx) (need : List Want) : ∀ (rs : List Require) (have_ : List Bytes) (syn : FileSyntax) (next : Nat)
    (rs' : List Require) (have' : List Bytes) (syn' : FileSyntax) (next' : Nat),
    sepLoop ctx need rs have_ syn next = .ok (rs', have', syn', next') → KeepsEq (rs.map (·.lineId)) syn.stmts syn'.stmts
  | [], _, _, _, _, _, _, _, h => by
    simp only [sepLoop, Except.ok.injEq, Prod.mk.injEq] at h
    rcases h with ⟨_, _, rfl, _⟩
    exact KeepsEq.refl _ _
  | r :: rs, have_, syn, next, _, _, _, _, h => by
    rcases sepLoop_cons_ok h with ⟨_, rs'', _, hrec⟩
    exact (sepStep_spec ctx need r have_ syn next).keepsEq.trans (sepLoop_keepsEq ctx need rs _ _ _ _ _ _ _ hrec)

theorem foldl_addSepNew_keepsEq (ctx : SepCtx) : ∀ (ws : List Want) (e : EFile),
    KeepsEq [] e.f.syn.stmts (ws.foldl (addSepNew ctx) e).f.syn.stmts
  | [], _ => KeepsEq.refl _ _
  | w :: ws, e => (show KeepsEq [] e.f.syn.stmts (addSepNew ctx e w).f.syn.stmts from keepsEq_appendToBlock _ _ _).comp
      (foldl_addSepNew_keepsEq ctx ws _)

theorem foldl_addSepNew_fields (ctx : SepCtx) (ws : List Want) : ∀ e : EFile,
    (ws.foldl (addSepNew ctx) e).f.exclude = e.f.exclude ∧ (ws.foldl (addSepNew ctx) e).f.replace = e.f.replace ∧
    (ws.foldl (addSepNew ctx) e).f.tool = e.f.tool := by
  induction ws with
  | nil => intro e; exact ⟨rfl, rfl, rfl⟩
  | cons w ws ih => intro e; simp only [List.foldl_cons]; rcases ih (addSepNew ctx e w) with ⟨a, b, c⟩; exact ⟨a, b, c⟩

theorem sepTail_keepsEq (e e' : EFile) (req : List Want) (perm : List Want → List Want) (ctx : SepCtx) (stmts : List Expr)
    (hg : GoodWant req) (h : sepTail e req perm ctx stmts = .ok e') :
    KeepsEq (e.f.require.map (·.lineId) ++ kill3 e.f) stmts e'.f.syn.stmts := by
  rcases sepTail_loop hg h with ⟨rq, have', syn', next', hr, rfl⟩
  have k3 := keepsEq_sortBlocks (((perm req).filter fun w => !have'.contains w.path).foldl (addSepNew ctx)
    (⟨{ e.f with require := rq, syn := syn' }, next'⟩ : EFile))
  rcases foldl_addSepNew_fields ctx ((perm req).filter fun w => !have'.contains w.path)
    (⟨{ e.f with require := rq, syn := syn' }, next'⟩ : EFile) with ⟨f1, f2, f3⟩
  rw [kill3_congr (g := e.f) f1 f2 f3] at k3
  have k1 := sepLoop_keepsEq ctx req e.f.require [] _ e.next rq have' syn' next' hr
  have k2 := foldl_addSepNew_keepsEq ctx ((perm req).filter fun w => !have'.contains w.path)
    (⟨{ e.f with require := rq, syn := syn' }, next'⟩ : EFile)
  exact ((k1.trans k2).trans k3).mono (by simp)

theorem setRequireSeparateIndirect_keepsS (e e' : EFile) (req : List Want) (perm : List Want → List Want)
    (hg : GoodWant req) (hi : Inv e) (hlive : ∀ r ∈ e.f.require, liveRq r = true)
    (h : setRequireSeparateIndirect e req perm = .ok e') (rev : Bool) : OpKeepsS e e' (.setRequireSeparateIndirect req rev) := by
  rcases setRSI_stages h with ⟨s1, dI, dO, lI, sh, s2, iI, iO, h1, h2, ht⟩
  have k0 : KeepsEq [] e.f.syn.stmts s2 := .of_eq (sepStage_viewX e.f.syn.stmts hi.tree.shape hi.view2 _ (scan_inv _) h1 h2)
  exact ⟨e.f.require.map (·.lineId) ++ kill3 e.f, ((k0.trans (sepTail_keepsEq e e' req perm _ s2 hg ht)).mono (by simp)).belowS _,
    require_targets hlive rfl fun _ ht => ht⟩

end ModVerif.Modfile.Edit
