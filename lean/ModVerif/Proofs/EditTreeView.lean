/-
  The syntax tree as a list of directive lines: `loc` (every line with the tokens of its block in front), `view` (the live
  lines with their full tokens and end-of-line comments), `treeIds`; tree well-formedness `TreeWF`; what `updateLine`,
  `markRemoved` and a token update do to them.  Needs the model only: the heap ties of the edit operations start here.
-/
import ModVerif.Model.Modfile.Edit
import ModVerif.Proofs.ModfileWalk
namespace ModVerif.Modfile.Edit
open ModVerif ModVerif.Modfile

/-- a live line as the typed lists see it: the id of the `Line` (Go: the `*Line` pointer a typed entry's `Syntax` holds), its
    FULL tokens (the verb of its block in front), its end-of-line comments -/
structure VLine where
  id : Nat
  toks : List Bytes
  suffix : List Comment      -- the end-of-line comments (they carry the `// indirect` marker)
  deriving DecidableEq, Repr

/-- the lines of a statement, each with the verb tokens of its block (`[]` at top level) -/
def locStmt : Expr → List (List Bytes × Line)
  | .line l => [([], l)]
  | .lineBlock b => b.lines.map fun l => (b.token, l)
  | _ => []

def loc (stmts : List Expr) : List (List Bytes × Line) := stmts.flatMap locStmt

/-- `markRemoved` empties a line's tokens; Cleanup deletes such lines later -/
def liveLoc (p : List Bytes × Line) : Bool := !p.2.token.isEmpty
def mkV (p : List Bytes × Line) : VLine := ⟨p.2.id, p.1 ++ p.2.token, p.2.comments.suffix⟩

/-- the live lines of the tree with their full tokens -/
def view (stmts : List Expr) : List VLine := ((loc stmts).filter liveLoc).map mkV

/-- removed lines included -/
def treeIds (stmts : List Expr) : List Nat := (loc stmts).map (·.2.id)

theorem loc_cons (x : Expr) (xs : List Expr) : loc (x :: xs) = locStmt x ++ loc xs := by simp [loc]
theorem loc_append (xs ys : List Expr) : loc (xs ++ ys) = loc xs ++ loc ys := by simp [loc]
theorem view_cons (x : Expr) (xs : List Expr) : view (x :: xs) = view [x] ++ view xs := by
  simp [view, loc, List.filter_append]
theorem view_append (xs ys : List Expr) : view (xs ++ ys) = view xs ++ view ys := by
  simp [view, loc_append, List.filter_append]
theorem treeIds_cons (x : Expr) (xs : List Expr) : treeIds (x :: xs) = treeIds [x] ++ treeIds xs := by
  simp [treeIds, loc]
theorem treeIds_append (xs ys : List Expr) : treeIds (xs ++ ys) = treeIds xs ++ treeIds ys := by
  simp [treeIds, loc_append]

theorem allLines_eq_loc (fs : FileSyntax) : fs.allLines = (loc fs.stmts).map (·.2) := by
  unfold FileSyntax.allLines loc
  induction fs.stmts with
  | nil => rfl
  | cons x xs ih =>
    simp only [List.flatMap_cons, List.map_append, ih]
    congr 1
    cases x <;> simp [locStmt, List.map_map, Function.comp_def]

/-- the line ids of the tree, in the vocabulary of the parser proofs (`Proofs.ModfileC20.linesOf`) -/
theorem treeIds_eq_linesOf (xs : List Expr) : treeIds xs = (Proofs.ModfileC20.linesOf xs).map (·.id) := by
  unfold treeIds Proofs.ModfileC20.linesOf
  rw [allLines_eq_loc]
  simp [List.map_map, Function.comp_def]

/-- tree well-formedness: the line ids are pairwise different (Go: distinct `*Line` pointers), below the fresh-id counter and not
    the nil id; a block's token is its single verb; the `InBlock` flags are right; no block carries an end-of-line comment (Cleanup
    would hand it to the block's one line) -/
structure TreeWF (stmts : List Expr) (next : Nat) : Prop where
  nodup : (treeIds stmts).Nodup
  lt : ∀ i ∈ treeIds stmts, i < next
  pos : ∀ i ∈ treeIds stmts, i ≠ 0
  blockTok : ∀ b, Expr.lineBlock b ∈ stmts → ∃ v, b.token = [v]
  flagTop : ∀ l, Expr.line l ∈ stmts → l.inBlock = false
  flagIn : ∀ b, Expr.lineBlock b ∈ stmts → ∀ l ∈ b.lines, l.inBlock = true
  noBlockSuffix : ∀ b, Expr.lineBlock b ∈ stmts → b.comments.suffix = []

def mapLinesStmt (f : Line → Line) : Expr → Expr
  | .line l => .line (f l)
  | .lineBlock b => .lineBlock { b with lines := b.lines.map f }
  | x => x

theorem loc_mapLines (f : Line → Line) (stmts : List Expr) :
    loc (stmts.map (mapLinesStmt f)) = (loc stmts).map fun p => (p.1, f p.2) := by
  induction stmts with
  | nil => rfl
  | cons x xs ih =>
    simp only [List.map_cons, loc_cons, ih, List.map_append]
    congr 1
    cases x <;> simp [mapLinesStmt, locStmt, List.map_map, Function.comp_def]

theorem updateLineIn_eq_map (id : Nat) (g : Line → Line) (ls : List Line) (h : (ls.map (·.id)).Nodup) :
    updateLineIn id g ls = ls.map fun l => if l.id == id then g l else l :=
  Proofs.ModfileC20.updateLineIn_eq_map id g ls h

theorem nodup_block {stmts : List Expr} (h : (treeIds stmts).Nodup) (b : LineBlock) (hb : Expr.lineBlock b ∈ stmts) :
    (b.lines.map (·.id)).Nodup := by
  induction stmts with
  | nil => cases hb
  | cons x xs ih =>
    rw [treeIds_cons] at h
    rcases List.nodup_append.1 h with ⟨h1, h2, _⟩
    rcases List.mem_cons.1 hb with rfl | hb'
    · simpa [treeIds, loc, locStmt, List.map_map, Function.comp_def] using h1
    · exact ih h2 hb'

theorem updateLine_stmts (fs : FileSyntax) (id : Nat) (g : Line → Line) (h : (treeIds fs.stmts).Nodup) :
    (fs.updateLine id g).stmts = fs.stmts.map (mapLinesStmt fun l => if l.id == id then g l else l) := by
  unfold FileSyntax.updateLine
  simp only
  apply List.map_congr_left
  intro x hx
  cases x with
  | line l => simp only [mapLinesStmt]; split <;> rfl
  | lineBlock b => simp only [mapLinesStmt]; rw [updateLineIn_eq_map id g b.lines (nodup_block h b hx)]
  | commentBlock _ => rfl
  | lparen _ => rfl
  | rparen _ => rfl

theorem loc_updateLine (fs : FileSyntax) (id : Nat) (g : Line → Line) (h : (treeIds fs.stmts).Nodup) :
    loc (fs.updateLine id g).stmts = (loc fs.stmts).map fun p => (p.1, if p.2.id == id then g p.2 else p.2) := by
  rw [updateLine_stmts fs id g h, loc_mapLines]

theorem treeIds_updateLine (fs : FileSyntax) (id : Nat) (g : Line → Line) (h : (treeIds fs.stmts).Nodup)
    (hg : ∀ l, (g l).id = l.id) : treeIds (fs.updateLine id g).stmts = treeIds fs.stmts := by
  unfold treeIds
  rw [loc_updateLine fs id g h, List.map_map]
  apply List.map_congr_left
  intro p _
  simp only [Function.comp]
  split
  · exact hg _
  · rfl

theorem mem_view {stmts : List Expr} {v : VLine} : v ∈ view stmts ↔ ∃ p ∈ loc stmts, liveLoc p = true ∧ mkV p = v := by
  unfold view
  simp only [List.mem_map, List.mem_filter]
  constructor
  · rintro ⟨p, ⟨h1, h2⟩, h3⟩; exact ⟨p, h1, h2, h3⟩
  · rintro ⟨p, h1, h2, h3⟩; exact ⟨p, ⟨h1, h2⟩, h3⟩

theorem view_id_mem_treeIds {stmts : List Expr} {v : VLine} (h : v ∈ view stmts) : v.id ∈ treeIds stmts := by
  rcases mem_view.1 h with ⟨p, hp, _, rfl⟩
  exact List.mem_map.2 ⟨p, hp, rfl⟩

theorem loc_unique {stmts : List Expr} (h : (treeIds stmts).Nodup) {p q : List Bytes × Line}
    (hp : p ∈ loc stmts) (hq : q ∈ loc stmts) (he : p.2.id = q.2.id) : p = q := by
  unfold treeIds at h
  generalize loc stmts = L at h hp hq
  induction L with
  | nil => cases hp
  | cons x xs ih =>
    simp only [List.map_cons, List.nodup_cons] at h
    rcases List.mem_cons.1 hp with rfl | hp' <;> rcases List.mem_cons.1 hq with rfl | hq'
    · rfl
    · exact absurd (List.mem_map.2 ⟨q, hq', he.symm⟩) h.1
    · exact absurd (List.mem_map.2 ⟨p, hp', he⟩) h.1
    · exact ih h.2 hp' hq'

theorem TreeWF.locShape {stmts : List Expr} {next : Nat} (h : TreeWF stmts next) :
    ∀ p ∈ loc stmts, (p.1 = [] ∧ p.2.inBlock = false) ∨ (∃ v, p.1 = [v] ∧ p.2.inBlock = true) := by
  intro p hp
  unfold loc at hp
  rcases List.mem_flatMap.1 hp with ⟨x, hx, hpx⟩
  cases x with
  | line l =>
    simp only [locStmt, List.mem_singleton] at hpx
    subst hpx
    exact Or.inl ⟨rfl, h.flagTop l hx⟩
  | lineBlock b =>
    simp only [locStmt, List.mem_map] at hpx
    rcases hpx with ⟨l, hl, rfl⟩
    rcases h.blockTok b hx with ⟨v, hv⟩
    exact Or.inr ⟨v, hv, h.flagIn b hx l hl⟩
  | commentBlock _ => simp [locStmt] at hpx
  | lparen _ => simp [locStmt] at hpx
  | rparen _ => simp [locStmt] at hpx

theorem mem_view_updateLine (fs : FileSyntax) (id : Nat) (g : Line → Line) (h : (treeIds fs.stmts).Nodup)
    (_hg : ∀ l, (g l).id = l.id) (v : VLine) :
    v ∈ view (fs.updateLine id g).stmts ↔
      (v.id ≠ id ∧ v ∈ view fs.stmts) ∨
      (∃ p ∈ loc fs.stmts, p.2.id = id ∧ liveLoc (p.1, g p.2) = true ∧ v = mkV (p.1, g p.2)) := by
  rw [mem_view, loc_updateLine fs id g h]
  constructor
  · rintro ⟨q, hq, hlive, rfl⟩
    rcases List.mem_map.1 hq with ⟨p, hp, rfl⟩
    by_cases hid : (p.2.id == id) = true
    · simp only [hid, if_true] at hlive ⊢
      exact Or.inr ⟨p, hp, eq_of_beq hid, hlive, rfl⟩
    · simp only [Bool.not_eq_true] at hid
      simp only [hid, Bool.false_eq_true, if_false] at hlive ⊢
      refine Or.inl ⟨?_, mem_view.2 ⟨p, hp, hlive, rfl⟩⟩
      simp only [mkV]
      intro e; simp [e] at hid
  · rintro (⟨hne, hv⟩ | ⟨p, hp, hid, hlive, rfl⟩)
    · rcases mem_view.1 hv with ⟨p, hp, hlive, rfl⟩
      have hid : (p.2.id == id) = false := by
        cases hb : p.2.id == id with
        | false => rfl
        | true => exact absurd (eq_of_beq hb) hne
      exact ⟨(p.1, if p.2.id == id then g p.2 else p.2), List.mem_map.2 ⟨p, hp, rfl⟩, by simp [hid, hlive], by simp [hid]⟩
    · have hb : (p.2.id == id) = true := by rw [hid]; exact beq_self_eq_true _
      exact ⟨(p.1, if p.2.id == id then g p.2 else p.2), List.mem_map.2 ⟨p, hp, rfl⟩, by simp [hb, hlive], by simp [hb]⟩

theorem mem_mapLines_block {f : Line → Line} {stmts : List Expr} {b : LineBlock}
    (h : Expr.lineBlock b ∈ stmts.map (mapLinesStmt f)) :
    ∃ b0, Expr.lineBlock b0 ∈ stmts ∧ b = { b0 with lines := b0.lines.map f } := by
  rcases List.mem_map.1 h with ⟨x, hx, hxe⟩
  cases x with
  | lineBlock b0 => simp only [mapLinesStmt, Expr.lineBlock.injEq] at hxe; exact ⟨b0, hx, hxe.symm⟩
  | line _ => simp [mapLinesStmt] at hxe
  | commentBlock _ => simp [mapLinesStmt] at hxe
  | lparen _ => simp [mapLinesStmt] at hxe
  | rparen _ => simp [mapLinesStmt] at hxe

theorem mem_mapLines_line {f : Line → Line} {stmts : List Expr} {l : Line}
    (h : Expr.line l ∈ stmts.map (mapLinesStmt f)) : ∃ l0, Expr.line l0 ∈ stmts ∧ l = f l0 := by
  rcases List.mem_map.1 h with ⟨x, hx, hxe⟩
  cases x with
  | line l0 => simp only [mapLinesStmt, Expr.line.injEq] at hxe; exact ⟨l0, hx, hxe.symm⟩
  | lineBlock _ => simp [mapLinesStmt] at hxe
  | commentBlock _ => simp [mapLinesStmt] at hxe
  | lparen _ => simp [mapLinesStmt] at hxe
  | rparen _ => simp [mapLinesStmt] at hxe

theorem TreeWF.mapLines {stmts : List Expr} {next : Nat} (h : TreeWF stmts next) (f : Line → Line)
    (hid : ∀ l, (f l).id = l.id) (hfl : ∀ l, (f l).inBlock = l.inBlock) : TreeWF (stmts.map (mapLinesStmt f)) next := by
  have hids : treeIds (stmts.map (mapLinesStmt f)) = treeIds stmts := by
    unfold treeIds; rw [loc_mapLines, List.map_map]; apply List.map_congr_left; intro p _; exact hid _
  refine ⟨by rw [hids]; exact h.nodup, by rw [hids]; exact h.lt, by rw [hids]; exact h.pos, ?_, ?_, ?_, ?_⟩
  · intro b hb
    rcases mem_mapLines_block hb with ⟨b0, hb0, rfl⟩
    exact h.blockTok b0 hb0
  · intro l hl
    rcases mem_mapLines_line hl with ⟨l0, hl0, rfl⟩
    rw [hfl]; exact h.flagTop l0 hl0
  · intro b hb l hl
    rcases mem_mapLines_block hb with ⟨b0, hb0, rfl⟩
    simp only [List.mem_map] at hl
    rcases hl with ⟨l0, hl0, rfl⟩
    rw [hfl]; exact h.flagIn b0 hb0 l0 hl0
  · intro b hb
    rcases mem_mapLines_block hb with ⟨b0, hb0, rfl⟩
    exact h.noBlockSuffix b0 hb0

theorem TreeWF.updateLine {fs : FileSyntax} {next : Nat} (h : TreeWF fs.stmts next) (id : Nat) (g : Line → Line)
    (hid : ∀ l, (g l).id = l.id) (hfl : ∀ l, (g l).inBlock = l.inBlock) : TreeWF (fs.updateLine id g).stmts next := by
  rw [updateLine_stmts fs id g h.nodup]
  apply h.mapLines
  · intro l; split
    · exact hid l
    · rfl
  · intro l; split
    · exact hfl l
    · rfl

theorem mem_view_markRemoved (fs : FileSyntax) (id : Nat) (h : (treeIds fs.stmts).Nodup) (v : VLine) :
    v ∈ view (markRemoved fs id).stmts ↔ v ∈ view fs.stmts ∧ v.id ≠ id := by
  unfold markRemoved
  refine (mem_view_updateLine fs id
    (fun l => { l with token := [], comments := { l.comments with suffix := [] } }) h (fun _ => rfl) v).trans ?_
  constructor
  · rintro (⟨h1, h2⟩ | ⟨p, _, _, hlive, _⟩)
    · exact ⟨h2, h1⟩
    · simp [liveLoc] at hlive
  · rintro ⟨h1, h2⟩; exact Or.inl ⟨h2, h1⟩

theorem TreeWF.markRemoved {fs : FileSyntax} {next : Nat} (h : TreeWF fs.stmts next) (id : Nat) :
    TreeWF (markRemoved fs id).stmts next :=
  h.updateLine id _ (fun _ => rfl) (fun _ => rfl)

theorem treeIds_markRemoved (fs : FileSyntax) (id : Nat) (h : (treeIds fs.stmts).Nodup) :
    treeIds (markRemoved fs id).stmts = treeIds fs.stmts :=
  treeIds_updateLine fs id _ h (fun _ => rfl)

theorem markAll_spec (ids : List Nat) : ∀ (fs : FileSyntax) (next : Nat), TreeWF fs.stmts next →
    TreeWF (markAll fs ids).stmts next ∧ treeIds (markAll fs ids).stmts = treeIds fs.stmts ∧
    ∀ v, v ∈ view (markAll fs ids).stmts ↔ v ∈ view fs.stmts ∧ v.id ∉ ids := by
  induction ids with
  | nil => intro fs next h; exact ⟨h, rfl, fun v => by simp [markAll]⟩
  | cons i is ih =>
    intro fs next h
    have h1 := h.markRemoved i
    rcases ih (markRemoved fs i) next h1 with ⟨h2, h3, h4⟩
    refine ⟨h2, by rw [← treeIds_markRemoved fs i h.nodup]; exact h3, ?_⟩
    intro v
    have := h4 v
    simp only [markAll, List.foldl_cons] at this ⊢
    rw [this, mem_view_markRemoved fs i h.nodup]
    simp only [List.mem_cons, not_or]
    constructor
    · rintro ⟨⟨a, b⟩, c⟩; exact ⟨a, b, c⟩
    · rintro ⟨a, b, c⟩; exact ⟨⟨a, b⟩, c⟩

theorem mem_view_updateTokens (fs : FileSyntax) (next : Nat) (id : Nat) (verb t : Bytes) (rest : List Bytes)
    (h : TreeWF fs.stmts next) (v0 : VLine) (hv0 : v0 ∈ view fs.stmts) (hid0 : v0.id = id)
    (hverb : v0.toks.head? = some verb) (v : VLine) :
    v ∈ view (updateLine fs id (verb :: t :: rest)).stmts ↔
      (v.id ≠ id ∧ v ∈ view fs.stmts) ∨ v = { v0 with toks := verb :: t :: rest } := by
  unfold Edit.updateLine
  refine (mem_view_updateLine fs id
    (fun l => { l with token := if l.inBlock then (verb :: t :: rest).drop 1 else verb :: t :: rest }) h.nodup (fun _ => rfl) v).trans ?_
  rcases mem_view.1 hv0 with ⟨p0, hp0, hlive0, rfl⟩
  simp only [mkV] at hid0 hverb
  have key : mkV (p0.1, { p0.2 with token := if p0.2.inBlock = true then (verb :: t :: rest).drop 1 else verb :: t :: rest })
      = { mkV p0 with toks := verb :: t :: rest } ∧
      liveLoc (p0.1, { p0.2 with token := if p0.2.inBlock = true then (verb :: t :: rest).drop 1 else verb :: t :: rest }) = true := by
    rcases h.locShape p0 hp0 with ⟨h1, h2⟩ | ⟨w, h1, h2⟩
    · simp [mkV, liveLoc, h1, h2]
    · have : w = verb := by
        rw [h1] at hverb; simpa using hverb
      simp [mkV, liveLoc, h1, h2, this]
  constructor
  · rintro (hl | ⟨p, hp, hid, _, rfl⟩)
    · exact Or.inl hl
    · have : p = p0 := loc_unique h.nodup hp hp0 (hid.trans hid0.symm)
      subst this
      exact Or.inr key.1
  · rintro (hl | rfl)
    · exact Or.inl hl
    · exact Or.inr ⟨p0, hp0, hid0, key.2, key.1.symm⟩

theorem TreeWF.updateTokens {fs : FileSyntax} {next : Nat} (h : TreeWF fs.stmts next) (id : Nat) (toks : List Bytes) :
    TreeWF (Edit.updateLine fs id toks).stmts next :=
  h.updateLine id _ (fun _ => rfl) (fun _ => rfl)

theorem treeIds_updateTokens (fs : FileSyntax) (id : Nat) (toks : List Bytes) (h : (treeIds fs.stmts).Nodup) :
    treeIds (Edit.updateLine fs id toks).stmts = treeIds fs.stmts :=
  treeIds_updateLine fs id _ h (fun _ => rfl)

theorem view_block (b : LineBlock) :
    view [Expr.lineBlock b] = (b.lines.filter (fun l => !l.token.isEmpty)).map fun l => ⟨l.id, b.token ++ l.token, l.comments.suffix⟩ := by
  simp only [view, loc, List.flatMap_cons, List.flatMap_nil, List.append_nil, locStmt]
  rw [List.filter_map, List.map_map]
  rfl

theorem treeIds_block (b : LineBlock) : treeIds [Expr.lineBlock b] = b.lines.map (·.id) := by
  simp [treeIds, loc, locStmt, List.map_map, Function.comp_def]

end ModVerif.Modfile.Edit
