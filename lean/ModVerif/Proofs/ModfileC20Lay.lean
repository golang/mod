/-
  C20 `modulePath_agrees`, lexer level: the layout of the input around a token — only blanks (space,
  tab, CR) between the end of one token and the start of the next, what the raw bytes of each kind of
  token look like, and what follows an identifier.
-/
import ModVerif.Proofs.ModfileC20Lex
import ModVerif.Proofs.ModfileScan
namespace ModVerif.Proofs.ModfileC20
open ModVerif ModVerif.Modfile ModVerif.Proofs.ModfileLex ModVerif.Proofs.ModfilePos ModVerif.Proofs.ModfileC20Utf8
open ModVerif.Proofs.ModfileScan

/-- only the blanks `skipSpaces` skips -/
def WS (g : Bytes) : Prop := ∀ b ∈ g, b = 32 ∨ b = 9 ∨ b = 13

theorem WS.nil : WS [] := by intro b h; cases h

theorem WS.append {a b : Bytes} (ha : WS a) (hb : WS b) : WS (a ++ b) := by
  intro x hx
  rcases List.mem_append.mp hx with h | h
  · exact ha x h
  · exact hb x h

theorem readRune_ascii {i i' : Input} {r : Nat} (h : readRune i = .ok (r, i')) (hr : i.peekRune < 128) :
    i'.consumedRev = UInt8.ofNat i.peekRune :: i.consumedRev ∧ i'.tokRev = UInt8.ofNat i.peekRune :: i.tokRev ∧
    i.remaining = UInt8.ofNat i.peekRune :: i'.remaining ∧ r = i.peekRune := by
  unfold readRune at h
  unfold Input.peekRune at hr ⊢
  split at h
  · cases h
  · rename_i a t hrem
    simp only [Except.ok.injEq, Prod.mk.injEq] at h
    obtain ⟨hr', rfl⟩ := h
    rw [hrem] at hr hr' ⊢
    simp only at hr ⊢
    rcases decodeRune_cases a t with ⟨hlt, heq⟩ | ⟨hge, hr2, _⟩
    · rw [heq] at hr' ⊢
      simp [← hr']
    · omega

theorem blanks_gap {i i' : Input} (h : Runes Blank i i') :
    ∃ gap, WS gap ∧ i'.consumedRev = gap.reverse ++ i.consumedRev ∧ i.remaining = gap ++ i'.remaining := by
  refine h.fold (R := fun a => ∃ gap, WS gap ∧ a.consumedRev = gap.reverse ++ i.consumedRev ∧
    i.remaining = gap ++ a.remaining) ?_ ⟨[], WS.nil, rfl, rfl⟩
  rintro a b r ⟨gap, hws, hc, hr⟩ ⟨_, hb⟩ hrr
  have hlt : a.peekRune < 128 := by
    simp only [Bool.or_eq_true, beq_iff_eq] at hb
    omega
  obtain ⟨h1, _, h3, _⟩ := readRune_ascii hrr hlt
  refine ⟨gap ++ [UInt8.ofNat a.peekRune], WS.append hws ?_, by rw [h1, hc]; simp, by rw [hr, h3]; simp⟩
  intro x hx
  simp only [List.mem_singleton] at hx
  subst hx
  simp only [Bool.or_eq_true, beq_iff_eq] at hb
  rcases hb with (hb | hb) | hb <;> rw [hb] <;> decide

def OnBase (base : Bytes) (j : Input) : Prop := j.consumedRev = j.tokRev ++ base

theorem onBase_readRune {base : Bytes} (i : Input) (r : Nat) (i' : Input) (hp : OnBase base i)
    (h : readRune i = .ok (r, i')) : OnBase base i' := by
  unfold readRune at h
  split at h
  · cases h
  · simp only [Except.ok.injEq, Prod.mk.injEq] at h
    obtain ⟨_, rfl⟩ := h
    unfold OnBase at hp ⊢
    simp only [hp, List.append_assoc]

/-- after the end of a comment line: a newline was consumed last, or the input is exhausted -/
theorem line_end {c d : Input} (hstop : c.eof = true ∨ c.peekRune = 10)
    (hd : c.eof = true ∧ d = c ∨ ∃ r, readRune c = .ok (r, d)) :
    d.consumedRev.head? = some 10 ∨ d.remaining = [] := by
  rcases hd with ⟨he, rfl⟩ | ⟨r, hr⟩
  · right; unfold Input.eof at he; simpa using he
  · left
    have hp : c.peekRune = 10 := by
      rcases hstop with he | hp
      · unfold readRune at hr
        unfold Input.eof at he
        have : c.remaining = [] := by simpa using he
        rw [this] at hr; cases hr
      · exact hp
    obtain ⟨hc, _⟩ := readRune_ascii hr (by rw [hp]; decide)
    rw [hc, hp]; rfl

/-- layout facts of one `readToken` step -/
structure Lay (i i' : Input) : Prop where
  gap : ∃ gap, WS gap ∧ i'.consumedRev = i'.tokRev ++ (gap.reverse ++ i.consumedRev)
  eof : i'.token.kind = .eof → i'.remaining = [] ∧ i'.tokRev = []
  comment : i'.token.kind.isComment = true →
    (∃ more, i'.tokRev = more ++ [47, 47]) ∧ (i'.consumedRev.head? = some 10 ∨ i'.remaining = [])
  string : i'.token.kind = .string → ∃ q rest, i'.tokRev.reverse = q :: rest ∧ (q = 34 ∨ q = 96)
  ident : i'.token.kind = .ident → isIdent i'.peekRune = false ∨ i'.peekPrefix [47, 47] = true


theorem onBase_start (i : Input) : OnBase i.consumedRev (startToken i) := rfl

theorem lay_of_endToken {i j : Input} {k : TokKind} {gap : Bytes} (hws : WS gap)
    (hb : OnBase (gap.reverse ++ i.consumedRev) j)
    (heof : k = .eof → j.remaining = [] ∧ j.tokRev = [])
    (hcom : k.isComment = true →
      (∃ more, j.tokRev = more ++ [47, 47]) ∧ (j.consumedRev.head? = some 10 ∨ j.remaining = []))
    (hstr : k = .string → ∃ q rest, j.tokRev.reverse = q :: rest ∧ (q = 34 ∨ q = 96))
    (hid : k = .ident → isIdent j.peekRune = false ∨ j.peekPrefix [47, 47] = true) :
    Lay i (endToken k j) :=
  ⟨⟨gap, hws, hb⟩, heof, hcom, hstr, hid⟩

theorem lay_comments {i i' : Input} (c : List Comment) (h : Lay i i') : Lay i { i' with commentsRev := c } :=
  ⟨h.gap, h.eof, h.comment, h.string, h.ident⟩

theorem peekPrefix_slashes {i : Input} (h : i.peekPrefix [47, 47] = true) : ∃ t, i.remaining = 47 :: 47 :: t := by
  unfold Input.peekPrefix at h
  cases hr : i.remaining with
  | nil => rw [hr] at h; simp [isPrefixOfB] at h
  | cons a r1 =>
    rw [hr] at h
    cases r1 with
    | nil => simp [isPrefixOfB] at h
    | cons b r2 =>
      simp [isPrefixOfB] at h
      exact ⟨r2, by rw [← h.1, ← h.2]⟩

theorem tokRev_suffix (s : Bytes) (j : Input) (r : Nat) (j' : Input)
    (hp : ∃ more, j.tokRev = more ++ s) (hr : readRune j = .ok (r, j')) : ∃ more, j'.tokRev = more ++ s := by
  obtain ⟨more, hm⟩ := hp
  unfold readRune at hr
  split at hr
  · cases hr
  · simp only [Except.ok.injEq, Prod.mk.injEq] at hr
    obtain ⟨_, rfl⟩ := hr
    exact ⟨(List.take (Utf8.decodeRune j.remaining).2 j.remaining).reverse ++ more, by simp [hm]⟩

theorem peek_cons_ascii {i : Input} {b : UInt8} {t : Bytes} (h : i.remaining = b :: t) (hb : b.toNat < 0x80) :
    i.peekRune = b.toNat := by
  unfold Input.peekRune
  rw [h]
  exact congrArg Prod.fst (decodeRune_ascii b t hb)

theorem com_lay {i j1 i' : Input} {gap : Bytes} (hws : WS gap)
    (hbase : OnBase (gap.reverse ++ i.consumedRev) (startToken j1)) (hp : j1.peekPrefix [47, 47] = true)
    (h : Com j1 i') : Lay i i' := by
  have comment : ∀ {a b c d : Input} {r1 r2 : Nat} (k : TokKind), k.isComment = true →
      readRune (startToken j1) = .ok (r1, a) → readRune a = .ok (r2, b) →
      Runes InLine b c → (c.eof = true ∨ c.peekRune = 10) → (c.eof = true ∧ d = c ∨ ∃ r, readRune c = .ok (r, d)) →
      Lay i (endToken k d) := by
    intro a b c d r1 r2 k hk h1 h2 hl hstop hd
    obtain ⟨t, ht⟩ := peekPrefix_slashes hp
    have hpk1 : (startToken j1).peekRune = 47 := peek_cons_ascii (b := 47) ht (by decide)
    obtain ⟨_, ht1, hr1, _⟩ := readRune_ascii h1 (by rw [hpk1]; decide)
    have hra : a.remaining = 47 :: t := by
      rw [hpk1] at hr1
      have : (startToken j1).remaining = 47 :: 47 :: t := ht
      rw [this] at hr1
      exact (List.cons.inj hr1).2.symm
    have hpk2 : a.peekRune = 47 := peek_cons_ascii (b := 47) hra (by decide)
    obtain ⟨_, ht2, _, _⟩ := readRune_ascii h2 (by rw [hpk2]; decide)
    have hcs : ∃ more, c.tokRev = more ++ [47, 47] :=
      Runes.pres (Q := fun x => ∃ more, x.tokRev = more ++ [47, 47]) (fun x r x' => tokRev_suffix _ x r x') hl
        ⟨[], by rw [ht2, hpk2, ht1, hpk1]; rfl⟩
    have hc := Runes.pres (Q := OnBase (gap.reverse ++ i.consumedRev)) (fun x r x' hx hr => onBase_readRune x r x' hx hr) hl
      (onBase_readRune _ _ _ (onBase_readRune _ _ _ hbase h1) h2)
    have hd' : OnBase (gap.reverse ++ i.consumedRev) d ∧ ∃ more, d.tokRev = more ++ [47, 47] := by
      rcases hd with ⟨_, rfl⟩ | ⟨r, hr⟩
      · exact ⟨hc, hcs⟩
      · exact ⟨onBase_readRune _ _ _ hc hr, tokRev_suffix _ _ _ _ hcs hr⟩
    refine lay_of_endToken hws hd'.1 ?_ (fun _ => ⟨hd'.2, line_end hstop hd⟩) ?_ ?_ <;>
      (intro hkk; rw [hkk] at hk; cases hk)
  cases h with
  | comment h1 h2 hl hstop _ d hd => exact comment _ rfl h1 h2 hl hstop hd
  | eolComment h1 h2 hl hstop _ d hd => exact lay_comments _ (comment _ rfl h1 h2 hl hstop hd)

theorem readToken_lay {i i' : Input} (h : readToken i = .ok i') : Lay i i' := by
  obtain ⟨j1, hb, _, ht⟩ := readToken_tok h
  obtain ⟨gap, hws, hc, _⟩ := blanks_gap hb
  have hbase : OnBase (gap.reverse ++ i.consumedRev) (startToken j1) := by
    have := onBase_start j1
    rw [hc] at this; exact this
  cases ht with
  | comment _ hp hrc => exact com_lay hws hbase hp (readComment_com hrc)
  | eof he =>
    refine lay_of_endToken hws hbase (fun _ => ⟨?_, rfl⟩) ?_ ?_ ?_
    · unfold Input.eof at he; simpa using he
    · intro hk; cases hk
    · intro hk; cases hk
    · intro hk; cases hk
  | punct _ _ _ _ h1 =>
    refine lay_of_endToken hws (onBase_readRune _ _ _ hbase h1) ?_ ?_ ?_ ?_ <;> (intro hk; cases hk)
  | string _ _ _ _ hq h1 hs =>
    have hq' : j1.peekRune = 34 ∨ j1.peekRune = 96 := by simpa [quoteRunes] using hq
    have hlt : (startToken j1).peekRune < 128 := by
      show j1.peekRune < 128
      omega
    obtain ⟨_, ht1, _, _⟩ := readRune_ascii h1 hlt
    obtain ⟨more, hm⟩ := Str.pres (P := fun x => ∃ more, x.tokRev = more ++ [UInt8.ofNat j1.peekRune])
      (fun x r x' => tokRev_suffix _ x r x') hs ⟨[], by rw [ht1]; rfl⟩
    refine lay_of_endToken hws (Str.pres (P := OnBase _) (fun x r x' hx hr => onBase_readRune x r x' hx hr) hs
      (onBase_readRune _ _ _ hbase h1)) ?_ ?_ (fun _ => ?_) ?_
    · intro hk; cases hk
    · intro hk; cases hk
    · refine ⟨UInt8.ofNat j1.peekRune, more.reverse, by rw [hm]; simp, ?_⟩
      rcases hq' with h | h <;> rw [h]
      · exact Or.inl rfl
      · exact Or.inr rfl
    · intro hk; cases hk
  | ident _ _ _ _ _ _ hi hex =>
    refine lay_of_endToken hws (Runes.pres (Q := OnBase _) (fun x r x' hx hr => onBase_readRune x r x' hx hr) hi hbase)
      ?_ ?_ ?_ (fun _ => hex)
    · intro hk; cases hk
    · intro hk; cases hk
    · intro hk; cases hk


/-! ### the same facts in terms of the input, for the states the parser reaches -/

def peekOf (s : Bytes) : Nat :=
  match s with
  | [] => 0
  | _ :: _ => (Utf8.decodeRune s).1

theorem peekRune_eq (i : Input) : i.peekRune = peekOf i.remaining := by
  unfold Input.peekRune peekOf; cases i.remaining <;> rfl

theorem isPrefixOfB_iff {p s : Bytes} : isPrefixOfB p s = true ↔ p <+: s := by
  induction p generalizing s with
  | nil => simp [isPrefixOfB]
  | cons a p ih =>
    cases s with
    | nil => simp [isPrefixOfB]
    | cons b s => simp [isPrefixOfB, ih, List.cons_prefix_cons]

/-- layout facts about the pending token of a reachable state, in terms of the input -/
structure RLay (data : Bytes) (i : Input) : Prop where
  eofText : i.token.kind = .eof → i.token.text = []
  eof : i.token.kind = .eof → data.drop i.token.pos.byte = []
  comment : i.token.kind.isComment = true → [47, 47] <+: i.token.text
  string : i.token.kind = .string → ∃ q rest, i.token.text = q :: rest ∧ (q = 34 ∨ q = 96)
  ident : i.token.kind = .ident →
    isIdent (peekOf (data.drop i.token.endPos.byte)) = false ∨ [47, 47] <+: data.drop i.token.endPos.byte
  eol : (i.token.kind.isEOL = true ∨ i.token.kind = .comment) →
    (∃ a, data.take i.pos.byte = a ++ [10]) ∨ data.drop i.pos.byte = []

theorem take_pos {data : Bytes} {i : Input} (hb : Inv data i) : data.take i.pos.byte = i.consumedRev.reverse := by
  rw [← hb.split, hb.byte, ← List.length_reverse]
  exact List.take_left

theorem drop_pos {data : Bytes} {i : Input} (hb : Inv data i) : data.drop i.pos.byte = i.remaining := by
  rw [← hb.split, hb.byte, ← List.length_reverse]
  exact List.drop_left

theorem take_tokpos {data : Bytes} {i : Input} {pre : Bytes} (hb : Inv data i) (hpre : i.consumedRev = i.tokRev ++ pre) :
    data.take i.token.pos.byte = pre.reverse := by
  obtain ⟨pre', hpre', hlen⟩ := hb.tok
  have : pre' = pre := List.append_cancel_left (hpre'.symm.trans hpre)
  subst this
  rw [← hb.split, hpre, List.reverse_append, List.append_assoc, ← hlen, ← List.length_reverse]
  exact List.take_left

theorem rlay_of_step {data : Bytes} {j i : Input} (hj : LInv0 data j) (h : readToken j = .ok i) : RLay data i := by
  have hl := readToken_lay h
  have ht : TokOK2 data i := by
    have := readToken_res hj
    rw [h] at this; exact this
  have hb := ht.inv.base
  obtain ⟨gap, _, hg⟩ := hl.gap
  refine ⟨?_, ?_, ?_, ?_, ?_, ?_⟩
  · intro hk
    obtain ⟨_, htk⟩ := hl.eof hk
    have hnc : i.token.kind.isComment = false := by rw [hk]; rfl
    rw [ht.exact hnc, htk]; rfl
  · intro hk
    obtain ⟨hr, htk⟩ := hl.eof hk
    have h1 := take_tokpos hb hg
    have h2 := take_pos hb
    rw [hg, htk, List.nil_append] at h2
    have : data.take i.token.pos.byte = data.take i.pos.byte := by rw [h1, h2]
    have hd := drop_pos hb
    rw [hr] at hd
    have hlen : i.token.pos.byte = i.pos.byte ∨ (data.length ≤ i.token.pos.byte ∧ data.length ≤ i.pos.byte) := by
      have := congrArg List.length this
      simp only [List.length_take] at this
      omega
    rcases hlen with hlen | hlen
    · rw [hlen]; exact hd
    · exact List.drop_eq_nil_of_le hlen.1
  · intro hk
    obtain ⟨⟨more, hm⟩, _⟩ := hl.comment hk
    -- the token text is the scanned bytes without the line end
    have htext : ∃ more', i.token.text = (more' ++ [47, 47]).reverse := by
      rcases ht.raw with hr | hr | hr
      · exact ⟨more, by rw [← hm, ← hr]⟩
      · have := congrArg List.reverse hr
        simp only [List.reverse_reverse, List.reverse_append, List.reverse_cons, List.reverse_nil, List.nil_append,
          List.singleton_append] at this
        rw [hm] at this
        cases more with
        | nil => simp at this
        | cons a rest =>
          simp only [List.cons_append, List.cons.injEq] at this
          exact ⟨rest, by rw [this.2, List.reverse_reverse]⟩
      · have := congrArg List.reverse hr
        simp only [List.reverse_reverse, List.reverse_append, List.reverse_cons, List.reverse_nil, List.nil_append,
          List.cons_append] at this
        rw [hm] at this
        match more, this with
        | [], this => simp at this
        | [a], this => simp at this
        | a :: b :: rest, this =>
          simp only [List.cons_append, List.cons.injEq] at this
          exact ⟨rest, by rw [this.2.2, List.reverse_reverse]⟩
    obtain ⟨more', hm'⟩ := htext
    rw [hm']
    simp
  · intro hk
    have hnc : i.token.kind.isComment = false := by rw [hk]; rfl
    rw [ht.exact hnc]
    exact hl.string hk
  · intro hk
    have hd : data.drop i.token.endPos.byte = i.remaining := by rw [ht.endPos]; exact drop_pos hb
    rw [hd]
    rcases hl.ident hk with h1 | h1
    · left; rw [← peekRune_eq]; exact h1
    · right; exact isPrefixOfB_iff.mp h1
  · intro hk
    have hcons : i.consumedRev.head? = some 10 ∨ i.remaining = [] := by
      cases hkind : i.token.kind with
      | eof => exact Or.inr (hl.eof hkind).1
      | eolComment => exact (hl.comment (by rw [hkind]; rfl)).2
      | comment => exact (hl.comment (by rw [hkind]; rfl)).2
      | punct c =>
        rw [hkind] at hk
        have hc : c = 10 := by
          rcases hk with hk | hk
          · simpa [TokKind.isEOL] using hk
          · cases hk
        subst hc
        have htxt := ht.punct 10 hkind
        have hnc : i.token.kind.isComment = false := by rw [hkind]; rfl
        have := ht.exact hnc
        rw [htxt] at this
        have htr : i.tokRev = [10] := by
          have := congrArg List.reverse this
          simpa using this.symm
        left
        rw [hg, htr]; rfl
      | ident => rw [hkind] at hk; rcases hk with hk | hk <;> cases hk
      | string => rw [hkind] at hk; rcases hk with hk | hk <;> cases hk
    rcases hcons with hc | hc
    · left
      rw [take_pos hb]
      cases hcr : i.consumedRev with
      | nil => rw [hcr] at hc; cases hc
      | cons a rest =>
        rw [hcr] at hc
        simp only [List.head?_cons, Option.some.injEq] at hc
        exact ⟨rest.reverse, by rw [hc]; simp⟩
    · right
      rw [drop_pos hb]; exact hc


theorem reach_rlay {data : Bytes} {i : Input} (h : Reach data i) : RLay data i := by
  induction h with
  | start h => exact rlay_of_step (linv0_newInput data) h
  | lex hj h _ => exact rlay_of_step (reach_tokOK2 hj).inv.toLInv0 h
  | setId n _ ih => exact ⟨ih.eofText, ih.eof, ih.comment, ih.string, ih.ident, ih.eol⟩

theorem step_gap {data : Bytes} {j i : Input} (hj : LInv0 data j) (h : readToken j = .ok i) :
    ∃ gap, WS gap ∧ data.take i.token.pos.byte = data.take j.pos.byte ++ gap := by
  have ht : TokOK2 data i := by
    have := readToken_res hj
    rw [h] at this; exact this
  obtain ⟨gap, hws, hg⟩ := (readToken_lay h).gap
  refine ⟨gap, hws, ?_⟩
  rw [take_tokpos ht.inv.base hg, take_pos hj.base]
  simp

theorem ws_no_newline {g : Bytes} (h : WS g) : ∀ b ∈ g, (b != 10) = true := by
  intro b hb
  rcases h b hb with rfl | rfl | rfl <;> decide

theorem lastLine_append_ws (a g : Bytes) (hg : WS g) (ha : a = [] ∨ ∃ a', a = a' ++ [10]) : lastLine (a ++ g) = g := by
  unfold lastLine
  rw [List.reverse_append, List.takeWhile_append_of_pos (by
    intro b hb; exact ws_no_newline hg b (List.mem_reverse.mp hb))]
  rcases ha with rfl | ⟨a', rfl⟩
  · simp
  · simp

/-- the pending token is the first on its source line, or the input is exhausted -/
def SOL (data : Bytes) (i : Input) : Prop := WS (lastLine (data.take i.token.pos.byte)) ∨ i.token.kind = .eof

theorem readToken_at_eof {j i : Input} (hr : j.remaining = []) (h : readToken j = .ok i) : i.token.kind = .eof := by
  obtain ⟨j1, hb, _, ht⟩ := readToken_tok h
  have he : j.eof = true := by simp [Input.eof, hr]
  cases hb with
  | nil _ => cases ht with
    | eof _ => rfl
    | comment h0 _ _ => rw [he] at h0; cases h0
    | punct h0 _ _ _ _ => rw [he] at h0; cases h0
    | string h0 _ _ _ _ _ _ => rw [he] at h0; cases h0
    | ident h0 _ _ _ _ _ _ _ => rw [he] at h0; cases h0
  | cons hg _ _ => have := hg.1; rw [he] at this; cases this

theorem sol_first {data : Bytes} {i : Input} (h : readToken (newInput data) = .ok i) : SOL data i := by
  obtain ⟨gap, hws, hg⟩ := step_gap (linv0_newInput data) h
  left
  have : data.take (newInput data).pos.byte = [] := by simp [newInput]
  rw [hg, this, lastLine_append_ws [] gap hws (Or.inl rfl)]
  exact hws

theorem sol_after_eol {data : Bytes} {j i : Input} (hj : Reach data j)
    (hk : j.token.kind.isEOL = true ∨ j.token.kind = .comment) (h : readToken j = .ok i) : SOL data i := by
  have hinv := (reach_tokOK2 hj).inv
  rcases (reach_rlay hj).eol hk with ⟨a, ha⟩ | hd
  · obtain ⟨gap, hws, hg⟩ := step_gap hinv.toLInv0 h
    left
    rw [hg, ha, lastLine_append_ws _ gap hws (Or.inr ⟨a, rfl⟩)]
    exact hws
  · right
    apply readToken_at_eof _ h
    rw [← drop_pos hinv.base]; exact hd


theorem tok_exact_take {data : Bytes} {i : Input} (h : TokOK2 data i) (hk : i.token.kind.isComment = false) :
    data.take i.token.endPos.byte = data.take i.token.pos.byte ++ i.token.text := by
  obtain ⟨pre, hpre, _⟩ := h.inv.base.tok
  rw [h.endPos, take_pos h.inv.base, take_tokpos h.inv.base hpre, h.exact hk, hpre, List.reverse_append]

theorem drop_of_take_eq {data g : Bytes} {b c : Nat} (h : data.take c = data.take b ++ g) :
    data.drop b = g ++ data.drop c := by
  have h1 : data.take b ++ data.drop b = data.take b ++ (g ++ data.drop c) := by
    rw [List.take_append_drop, ← List.append_assoc, ← h, List.take_append_drop]
  exact List.append_cancel_left h1


/-- What follows a token: unless the text has the shape of a non-identifier token (empty, one byte, a
    comment, a quoted string), the input after it does not continue with an identifier rune — or it
    continues with `//`. -/
def IdentEnd (data : Bytes) (t : Bytes) (b : Nat) : Prop :=
  t = [] ∨ t.length = 1 ∨ [47, 47] <+: t ∨ t.head? = some 34 ∨ t.head? = some 96 ∨
  (isIdent (peekOf (data.drop b)) = false ∨ [47, 47] <+: data.drop b)

theorem reach_identEnd {data : Bytes} {i : Input} (h : Reach data i) :
    IdentEnd data i.token.text i.token.endPos.byte := by
  have hrl := reach_rlay h
  have hf := (reach_tokOK2 h).facts
  unfold IdentEnd
  cases hk : i.token.kind with
  | eof => exact Or.inl (hrl.eofText hk)
  | eolComment => exact Or.inr (Or.inr (Or.inl (hrl.comment (by rw [hk]; rfl))))
  | comment => exact Or.inr (Or.inr (Or.inl (hrl.comment (by rw [hk]; rfl))))
  | punct c => exact Or.inr (Or.inl (by rw [hf.punct c hk]; rfl))
  | string =>
    obtain ⟨q, rest, hq, hq'⟩ := hrl.string hk
    rcases hq' with rfl | rfl
    · exact Or.inr (Or.inr (Or.inr (Or.inl (by rw [hq]; rfl))))
    · exact Or.inr (Or.inr (Or.inr (Or.inr (Or.inl (by rw [hq]; rfl)))))
  | ident => exact Or.inr (Or.inr (Or.inr (Or.inr (Or.inr (hrl.ident hk)))))

end ModVerif.Proofs.ModfileC20
