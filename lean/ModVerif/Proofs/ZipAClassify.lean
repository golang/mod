/-
  C17 `checkFiles_eq_classify`: the report of `checkFiles` is the classification by the documented rules
  (`ZipSpec.classify`, Proofs/ZipASpec.lean).
-/
import ModVerif.Spec.ZipSpec
import ModVerif.Proofs.ZipASpec
import ModVerif.Proofs.ZipAPath
import ModVerif.Proofs.ZipAChain
import ModVerif.Proofs.ZipSubmodule
namespace ModVerif.Proofs.ZipA
open ModVerif ModVerif.PathClean ModVerif.Zip ModVerif.ZipSpec ModVerif.Proofs.Zip

def toPI (toFold : Bytes → Bytes) (e : Bytes × Bool) : PathInfo := ⟨toFold e.1, e.1, e.2⟩

def toCC (toFold : Bytes → Bytes) (reg : Reg) : CC := reg.map (toPI toFold)

theorem find_toCC (toFold : Bytes → Bytes) (reg : Reg) (q : Bytes) :
    (toCC toFold reg).find (toFold q) = (reg.lookup toFold q).map (toPI toFold) := by
  unfold toCC CC.find Reg.lookup
  rw [List.find?_map]
  rfl

theorem ccStep_toCC (toFold : Bytes → Bytes) (reg : Reg) (q : Bytes) (d : Bool) :
    ccStep toFold (toCC toFold reg) q d =
      match clash toFold reg q d with
      | some r => (toCC toFold reg, some r)
      | none => (toCC toFold (register toFold reg q d), none) := by
  unfold ccStep clash register
  rw [find_toCC]
  cases hl : reg.lookup toFold q with
  | none => simp [toCC, toPI]
  | some e =>
    obtain ⟨q', d'⟩ := e
    simp only [Option.map_some, toPI, Option.isSome_some, if_true]
    by_cases h1 : q = q'
    · subst h1
      by_cases h2 : d = d'
      · subst h2
        cases d <;> simp
      · simp [h2]
    · simp [h1]

theorem parents_noSlash (p : Bytes) (h : (47 : UInt8) ∉ p) : parents p = [] := by
  unfold parents
  rw [dirPrefixes_noSlash p h]; rfl

theorem parents_split (a b : Bytes) (hb : (47 : UInt8) ∉ b) : parents (a ++ 47 :: b) = a :: parents a := by
  unfold parents
  rw [dirPrefixes_split a b hb]
  simp

theorem ccCheck_toCC (toFold : Bytes → Bytes) : ∀ (n : Nat) (reg : Reg) (p : Bytes) (d : Bool),
    CleanRel p → p.length < n →
    ccCheck toFold n (toCC toFold reg) p d =
      (toCC toFold (regChain toFold reg ((p, d) :: (parents p).map (fun q => (q, true)))).1,
       (regChain toFold reg ((p, d) :: (parents p).map (fun q => (q, true)))).2) := by
  intro n
  induction n with
  | zero => intro _ p _ _ h; omega
  | succ n ih =>
    intro reg p d hp hlen
    unfold ccCheck
    rw [ccStep_toCC]
    rw [regChain]
    cases hc : clash toFold reg p d with
    | some r => rfl
    | none =>
      simp only
      rcases last_slash p with h | ⟨a, b, rfl, hb⟩
      · rw [pathDir_noSlash p h, parents_noSlash p h]
        simp [regChain]
      · obtain ⟨h1, h2, h3, _⟩ := pathDir_cleanRel a b hb hp
        rw [h1, parents_split a b hb]
        have : (a != [46]) = true := by simpa using h3
        rw [if_pos this]
        rw [ih _ a true h2 (by simp at hlen; omega)]
        rfl

theorem ccCheckTop_toCC (toFold : Bytes → Bytes) (reg : Reg) (p : Bytes) (d : Bool) (hp : CleanRel p) :
    ccCheckTop toFold (toCC toFold reg) p d =
      ((toCC toFold (collide toFold reg p d).1), (collide toFold reg p d).2) :=
  ccCheck_toCC toFold _ reg p d hp (by omega)


theorem collide_reason (toFold : Bytes → Bytes) (reg : Reg) (p : Bytes) (d : Bool) (e : Reason) (hp : CleanRel p)
    (h : (collide toFold reg p d).2 = some e) : e = .caseCollision ∨ e = .fileAndDir ∨ e = .multiple := by
  have h' : (ccCheckTop toFold (toCC toFold reg) p d).2 = some e := by rw [ccCheckTop_toCC _ _ _ _ hp]; exact h
  rcases ccCheck_reason _ _ _ _ _ e h' with h1 | h1 | h1 | h1
  · exact .inl h1
  · exact .inr (.inl h1)
  · exact .inr (.inr h1)
  · exact absurd (h1 ▸ h') (ccCheckTop_ne_panic _ _ d hp)

def report (s : St) (f : FileInfo) : Class → St
  | .valid => s.pushValid f
  | .omitted r => s.addError f.path true r
  | .invalid r => s.addError f.path false r

def applyClass (toFold : Bytes → Bytes) (s : St) (f : FileInfo) (reg' : Reg) (c : Class) : St :=
  report (if c.sized then (s.setCC (toCC toFold reg')).account f.size else s.setCC (toCC toFold reg')) f c

/-- `hu`: the specification tests the unreadable go.mod first; the second loop meets it as an `lstat` error that the first
    loop has reported -/
theorem stepFile_eq (E : Env) (ge124 : Bool) (files : List FileInfo) (s : St) (reg : Reg) (f : FileInfo)
    (hcc : s.cc = toCC E.toFold reg) (hu : goModUnreadable f = false) :
    stepFile E ge124 (prePass files).haveGoMod s f =
      applyClass E.toFold s f (classifyStep E ge124 files reg f).1 (classifyStep E ge124 files reg f).2 := by
  have hset : s.setCC (toCC E.toFold reg) = s := by rw [← hcc]; rfl
  -- a class that is not sized leaves the table and the budget alone
  have hrep : ∀ c : Class, c.sized = false → report s f c = applyClass E.toFold s f reg c := fun c hc => by
    simp [applyClass, hc, hset]
  have hsub : inSubmodule (prePass files).haveGoMod f.path = true ↔ BelowModuleRoot files f.path :=
    inSubmodule_iff files f.path
  unfold stepFile classifyStep earlyRule stepStat
  -- both sides test the same conditions
  simp only [hu, Bool.false_eq_true, if_false, bne_iff_ne, ne_eq, beq_iff_eq, Bool.not_eq_true', hsub,
    toLowerIsGoMod, Bool.and_eq_true, eq_comm (a := f.path) (b := pathClean f.path)]
  by_cases h1 : ¬pathClean f.path = f.path
  · simp only [if_pos h1]; exact hrep (.invalid .notClean) rfl
  simp only [if_neg h1]
  by_cases h2 : isAbs f.path = true
  · simp only [if_pos h2]; exact hrep (.invalid .notRelative) rfl
  simp only [if_neg h2]
  by_cases h3 : isVendoredPackage f.path ge124 = true
  · simp only [if_pos h3]; exact hrep (.omitted .vendored) rfl
  simp only [if_neg h3]
  by_cases h4 : BelowModuleRoot files f.path
  · simp only [if_pos h4]; exact hrep (.omitted .submoduleFile) rfl
  simp only [if_neg h4]
  by_cases h5 : f.path = hgArchivalName
  · simp only [if_pos h5]; exact hrep (.omitted .hgArchival) rfl
  simp only [if_neg h5]
  by_cases h6 : E.cfp f.path = false
  · simp only [if_pos h6]; exact hrep (.invalid .filePath) rfl
  simp only [if_neg h6]
  by_cases h7 : lowerAscii f.path = goModName ∧ ¬f.path = goModName
  · simp only [if_pos h7]; exact hrep (.invalid .goModCase) rfl
  simp only [if_neg h7]
  by_cases h8 : f.mode = .lstatErr
  · simp only [if_pos h8]; exact hrep (.invalid .lstat) rfl
  simp only [if_neg h8]
  have hp : CleanRel f.path := ⟨Classical.not_not.mp h1, by simpa using h2⟩
  rw [hcc, ccCheckTop_toCC E.toFold reg f.path (f.mode == .dir) hp]
  rcases hcol : collide E.toFold reg f.path (f.mode == .dir) with ⟨reg', err⟩
  cases err with
  | some e =>
    rcases collide_reason E.toFold reg f.path (f.mode == .dir) e hp (by rw [hcol]) with rfl | rfl | rfl <;>
      simp [applyClass, report, Class.sized]
  | none =>
    simp only [stepMode, lateRule, stepSized, bne_iff_ne, ne_eq, beq_iff_eq, Bool.and_eq_true, decide_eq_true_eq,
      apply_ite (applyClass E.toFold s f reg')]
    rfl


theorem stepFile_lstatErr (E : Env) (ge124 : Bool) (hg : List Bytes) (s : St) (f : FileInfo)
    (hm : f.mode = .lstatErr) : ∃ om r, stepFile E ge124 hg s f = s.addError f.path om r := by
  have ho := stepFile_out E ge124 hg s f
  generalize stepFile E ge124 hg s f = s' at ho ⊢
  cases ho with
  | early om r _ => exact ⟨om, r, rfl⟩
  | late hl _ _ _ => exact absurd hm hl
  | sized hreg _ => rw [hm] at hreg; cases hreg
  | valid ok _ => have := ok.regular; rw [hm] at this; cases this

def vOf (x : FileInfo × Class) : Option FileInfo :=
  match x.2 with
  | .valid => some x.1
  | _ => none

def oOf (x : FileInfo × Class) : Option (Bytes × Reason) :=
  match x.2 with
  | .omitted r => some (x.1.path, r)
  | _ => none

def iOf (x : FileInfo × Class) : Option (Bytes × Reason) :=
  if goModUnreadable x.1 then none
  else match x.2 with
    | .invalid r => some (x.1.path, r)
    | _ => none

/-- `size >= 0 && size <= budget` then the budget shrinks, else the size error is set (and the budget stays) -/
def accountB (b : Int × Bool) (sz : Int) : Int × Bool :=
  if 0 ≤ sz ∧ sz ≤ b.1 then (b.1 - sz, b.2) else (b.1, true)

theorem account_budget (s : St) (n : Int) :
    ((s.account n).maxSize, (s.account n).cf.sizeError) = accountB (s.maxSize, s.cf.sizeError) n := by
  by_cases h : 0 ≤ n ∧ n ≤ s.maxSize <;> simp [St.account, accountB, h]

def bOf (b : Int × Bool) (x : FileInfo × Class) : Int × Bool :=
  if x.2.sized then accountB b x.1.size else b

structure StepRel (toFold : Bytes → Bytes) (s s1 : St) (f : FileInfo) (reg1 : Reg) (c : Class) : Prop where
  cc : s1.cc = toCC toFold reg1
  validFiles : s1.validFiles = s.validFiles ++ (vOf (f, c)).toList
  valid : s1.cf.valid = s.cf.valid ++ (vOf (f, c)).toList.map (·.path)
  omitted : s1.cf.omitted = s.cf.omitted ++ (oOf (f, c)).toList
  invalid : s1.cf.invalid = s.cf.invalid ++ (iOf (f, c)).toList
  budget : (s1.maxSize, s1.cf.sizeError) = bOf (s.maxSize, s.cf.sizeError) (f, c)
  errPaths : s1.errPaths = s.errPaths ∨ s1.errPaths = s.errPaths ++ [f.path]

theorem applyClass_rel (toFold : Bytes → Bytes) (s : St) (f : FileInfo) (reg1 : Reg) (c : Class)
    (hnot : f.path ∉ s.errPaths) (hu : goModUnreadable f = false) :
    StepRel toFold s (applyClass toFold s f reg1 c) f reg1 c := by
  unfold applyClass
  -- the state handed to `report`: the lists of `s`, the new table, the budget after accounting
  generalize hs1 : (if c.sized = true then (s.setCC (toCC toFold reg1)).account f.size
    else s.setCC (toCC toFold reg1)) = s1
  have hl : SameLists s1 s := by
    rw [← hs1]; split
    · exact sameLists_account s _ _
    · exact sameLists_setCC s _
  have hcc : s1.cc = toCC toFold reg1 := by
    rw [← hs1]; split
    · exact (account_cc _ _).1
    · rfl
  have hb : (s1.maxSize, s1.cf.sizeError) = bOf (s.maxSize, s.cf.sizeError) (f, c) := by
    rw [← hs1]; unfold bOf
    split
    · exact account_budget _ _
    · rfl
  have hn : f.path ∉ s1.errPaths := by rw [hl.errPaths]; exact hnot
  cases c with
  | valid =>
    exact ⟨hcc, by simp [report, St.pushValid, vOf, hl.validFiles], by simp [report, St.pushValid, vOf, hl.valid],
      by simp [report, St.pushValid, oOf, hl.omitted], by simp [report, St.pushValid, iOf, hu, hl.invalid], hb,
      Or.inl hl.errPaths⟩
  | omitted r =>
    rw [report, addError_not_mem _ _ _ _ hn]
    exact ⟨hcc, by simp [vOf, hl.validFiles], by simp [vOf, hl.valid], by simp [oOf, hl.omitted],
      by simp [iOf, hu, hl.invalid], hb, Or.inr (by simp [hl.errPaths])⟩
  | invalid r =>
    rw [report, addError_not_mem _ _ _ _ hn]
    exact ⟨hcc, by simp [vOf, hl.validFiles], by simp [vOf, hl.valid], by simp [oOf, hl.omitted],
      by simp [iOf, hu, hl.invalid], hb, Or.inr (by simp [hl.errPaths])⟩


theorem filterMap_cons_toList {α β : Type} (g : α → Option β) (a : α) (l : List α) :
    (a :: l).filterMap g = (g a).toList ++ l.filterMap g := by
  rw [List.filterMap_cons]; cases g a <;> rfl

theorem classifyFrom_cons (E : Env) (ge124 : Bool) (files : List FileInfo) (reg : Reg) (f : FileInfo)
    (t : List FileInfo) : classifyFrom E ge124 files reg (f :: t) =
      (f, (classifyStep E ge124 files reg f).2) ::
        classifyFrom E ge124 files (classifyStep E ge124 files reg f).1 t := rfl

theorem mainPass_cons (E : Env) (ge124 : Bool) (hg : List Bytes) (s : St) (f : FileInfo) (t : List FileInfo) :
    mainPass E ge124 hg s (f :: t) = mainPass E ge124 hg (stepFile E ge124 hg s f) t := rfl

theorem mainPass_spec (E : Env) (ge124 : Bool) (files : List FileInfo) :
    ∀ (l : List FileInfo) (s : St) (reg : Reg),
    s.cc = toCC E.toFold reg → (l.map (·.path)).Nodup →
    (∀ f ∈ l, (f.path ∈ s.errPaths ↔ goModUnreadable f = true)) →
    (mainPass E ge124 (prePass files).haveGoMod s l).validFiles =
        s.validFiles ++ (classifyFrom E ge124 files reg l).filterMap vOf ∧
    (mainPass E ge124 (prePass files).haveGoMod s l).cf.valid =
        s.cf.valid ++ ((classifyFrom E ge124 files reg l).filterMap vOf).map (·.path) ∧
    (mainPass E ge124 (prePass files).haveGoMod s l).cf.omitted =
        s.cf.omitted ++ (classifyFrom E ge124 files reg l).filterMap oOf ∧
    (mainPass E ge124 (prePass files).haveGoMod s l).cf.invalid =
        s.cf.invalid ++ (classifyFrom E ge124 files reg l).filterMap iOf ∧
    ((mainPass E ge124 (prePass files).haveGoMod s l).maxSize,
      (mainPass E ge124 (prePass files).haveGoMod s l).cf.sizeError) =
        (classifyFrom E ge124 files reg l).foldl bOf (s.maxSize, s.cf.sizeError) := by
  intro l
  induction l with
  | nil => intro s reg _ _ _; simp [mainPass, classifyFrom]
  | cons f t ih =>
    intro s reg hcc hnd herr
    rw [List.map_cons, List.nodup_cons] at hnd
    have hne : ∀ g ∈ t, g.path ≠ f.path := by
      intro g hg e
      exact hnd.1 (by rw [← e]; exact List.mem_map_of_mem (f := fun x : FileInfo => x.path) hg)
    rw [classifyFrom_cons]
    simp only [mainPass_cons]
    by_cases hu : goModUnreadable f = true
    · have hin : f.path ∈ s.errPaths := (herr f List.mem_cons_self).mpr hu
      have hm : f.mode = .lstatErr := by
        unfold goModUnreadable at hu; simp at hu; exact hu.2
      obtain ⟨om, r, hst⟩ := stepFile_lstatErr E ge124 (prePass files).haveGoMod s f hm
      rw [hst, addError_mem s _ om r hin]
      have hcs : classifyStep E ge124 files reg f = (reg, .invalid .lstat) := by
        simp [classifyStep, earlyRule, hu]
      rw [hcs]
      obtain ⟨i1, i2, i3, i4, i5⟩ := ih s reg hcc hnd.2 (fun g hg => herr g (List.mem_cons_of_mem _ hg))
      rw [i1, i2, i3, i4, i5]
      simp [filterMap_cons_toList, vOf, oOf, iOf, bOf, hu, Class.sized]
    · have hu' : goModUnreadable f = false := by simpa using hu
      have hnot : f.path ∉ s.errPaths := fun h => hu ((herr f List.mem_cons_self).mp h)
      rw [stepFile_eq E ge124 files s reg f hcc hu']
      have rel := applyClass_rel E.toFold s f (classifyStep E ge124 files reg f).1
        (classifyStep E ge124 files reg f).2 hnot hu'
      generalize applyClass E.toFold s f (classifyStep E ge124 files reg f).1
        (classifyStep E ge124 files reg f).2 = s1 at rel
      have herr1 : ∀ g ∈ t, (g.path ∈ s1.errPaths ↔ goModUnreadable g = true) := by
        intro g hg
        rw [← herr g (List.mem_cons_of_mem _ hg)]
        rcases rel.errPaths with e | e
        · rw [e]
        · rw [e]; simp [hne g hg]
      obtain ⟨i1, i2, i3, i4, i5⟩ := ih s1 _ rel.cc hnd.2 herr1
      rw [i1, i2, i3, i4, i5, rel.validFiles, rel.valid, rel.omitted, rel.invalid, rel.budget]
      simp only [filterMap_cons_toList, List.foldl_cons, List.append_assoc, List.map_append, and_self]


theorem prePass_spec : ∀ (l : List FileInfo) (a : Pre), (l.map (·.path)).Nodup →
    (∀ f ∈ l, f.path ∉ a.st.errPaths) →
    (l.foldl preStep a).st.errPaths = a.st.errPaths ++ (l.filter goModUnreadable).map (·.path) ∧
    (l.foldl preStep a).st.cf.invalid =
      a.st.cf.invalid ++ (l.filter goModUnreadable).map (fun f => (f.path, Reason.lstat)) ∧
    (l.foldl preStep a).st.cf.valid = a.st.cf.valid ∧
    (l.foldl preStep a).st.cf.omitted = a.st.cf.omitted ∧
    (l.foldl preStep a).st.maxSize = a.st.maxSize ∧
    (l.foldl preStep a).st.cf.sizeError = a.st.cf.sizeError := by
  intro l
  induction l with
  | nil => intro a _ _; simp
  | cons f t ih =>
    intro a hnd hnot
    rw [List.map_cons, List.nodup_cons] at hnd
    have hne : ∀ g ∈ t, g.path ≠ f.path := by
      intro g hg e
      exact hnd.1 (by rw [← e]; exact List.mem_map_of_mem (f := fun x : FileInfo => x.path) hg)
    have hst := preStep_st a f
    simp only [List.foldl_cons]
    by_cases hu : goModUnreadable f = true
    · rw [if_pos hu] at hst
      have hn := hnot f List.mem_cons_self
      obtain ⟨i1, i2, i3, i4, i5, i6⟩ := ih (preStep a f) hnd.2 (by
        intro g hg
        rw [hst, addError_not_mem_errPaths _ _ _ _ hn]
        intro hm
        rcases List.mem_append.mp hm with hm | hm
        · exact hnot g (List.mem_cons_of_mem _ hg) hm
        · exact hne g hg (List.mem_singleton.mp hm))
      rw [i1, i2, i3, i4, i5, i6, hst]
      generalize a.st = st at hn
      obtain ⟨⟨v, o, i, se⟩, ep, vf, cc, ms⟩ := st
      simp only at hn
      simp [St.addError, hn, hu]
    · rw [if_neg hu] at hst
      obtain ⟨i1, i2, i3, i4, i5, i6⟩ := ih (preStep a f) hnd.2 (by
        intro g hg; rw [hst]; exact hnot g (List.mem_cons_of_mem _ hg))
      rw [i1, i2, i3, i4, i5, i6, hst]
      simp [hu]

theorem checkFilesSt_spec (E : Env) (files : List FileInfo) (ge124 : Bool) (hnd : (files.map (·.path)).Nodup) :
    (checkFilesSt E files ge124).validFiles = (classifyAll E ge124 files).filterMap vOf ∧
    (checkFilesSt E files ge124).cf.valid = ((classifyAll E ge124 files).filterMap vOf).map (·.path) ∧
    (checkFilesSt E files ge124).cf.omitted = (classifyAll E ge124 files).filterMap oOf ∧
    (checkFilesSt E files ge124).cf.invalid =
      (files.filter goModUnreadable).map (fun f => (f.path, Reason.lstat)) ++ (classifyAll E ge124 files).filterMap iOf ∧
    ((checkFilesSt E files ge124).maxSize, (checkFilesSt E files ge124).cf.sizeError) =
      (classifyAll E ge124 files).foldl bOf ((MaxZipFile : Int), false) := by
  obtain ⟨p1, p2, p3, p4, p5, p6⟩ := prePass_spec files {} hnd (fun f _ h => by cases h)
  change (prePass files).st.errPaths = _ at p1
  change (prePass files).st.cf.invalid = _ at p2
  change (prePass files).st.cf.valid = _ at p3
  change (prePass files).st.cf.omitted = _ at p4
  change (prePass files).st.maxSize = _ at p5
  change (prePass files).st.cf.sizeError = _ at p6
  have h0 : (prePass files).st.validFiles = [] := prePass_validFiles files {} rfl
  have hcc : (prePass files).st.cc = toCC E.toFold [] := prePass_cc files {}
  have herr : ∀ f ∈ files, (f.path ∈ (prePass files).st.errPaths ↔ goModUnreadable f = true) := by
    intro f hf
    rw [p1]
    simp only [List.nil_append, List.mem_map, List.mem_filter]
    show (∃ a, (a ∈ files ∧ goModUnreadable a = true) ∧ a.path = f.path) ↔ _
    constructor
    · rintro ⟨g, ⟨hg, hu⟩, hp⟩
      have := eq_of_nodup_map_path files hnd g hg f hf hp
      subst this; exact hu
    · intro hu; exact ⟨f, ⟨hf, hu⟩, rfl⟩
  obtain ⟨m1, m2, m3, m4, m5⟩ := mainPass_spec E ge124 files files (prePass files).st [] hcc hnd herr
  unfold checkFilesSt classifyAll
  simp only
  rw [m1, m2, m3, m4, m5, h0, p2, p3, p4, p5, p6]
  simp


theorem mem_classifyFrom (E : Env) (ge124 : Bool) (files : List FileInfo) (f : FileInfo) (c : Class) :
    ∀ (l : List FileInfo) (reg : Reg), (f, c) ∈ classifyFrom E ge124 files reg l ↔
      ∃ pre post, l = pre ++ f :: post ∧
        c = (classifyStep E ge124 files (pre.foldl (fun r g => (classifyStep E ge124 files r g).1) reg) f).2 := by
  intro l
  induction l with
  | nil => intro reg; simp [classifyFrom]
  | cons g t ih =>
    intro reg
    rw [classifyFrom_cons, List.mem_cons, ih]
    constructor
    · rintro (h | ⟨pre, post, h1, h2⟩)
      · simp only [Prod.mk.injEq] at h
        exact ⟨[], t, by rw [h.1]; rfl, by rw [h.2, h.1]; rfl⟩
      · exact ⟨g :: pre, post, by rw [h1]; rfl, h2⟩
    · rintro ⟨pre, post, h1, h2⟩
      cases pre with
      | nil =>
        simp only [List.nil_append, List.cons.injEq] at h1
        left; rw [h2, h1.1]; rfl
      | cons x pre' =>
        simp only [List.cons_append, List.cons.injEq] at h1
        right
        refine ⟨pre', post, h1.2, ?_⟩
        rw [h2, h1.1]; rfl

theorem mem_classifyAll (E : Env) (ge124 : Bool) (files : List FileInfo) (f : FileInfo) (c : Class) :
    (f, c) ∈ classifyAll E ge124 files ↔
      ∃ pre post, files = pre ++ f :: post ∧ c = classify E ge124 files pre f :=
  mem_classifyFrom E ge124 files f c files []

theorem classifyFrom_map_fst (E : Env) (ge124 : Bool) (files : List FileInfo) :
    ∀ (l : List FileInfo) (reg : Reg), (classifyFrom E ge124 files reg l).map (·.1) = l := by
  intro l
  induction l with
  | nil => intro _; rfl
  | cons g t ih => intro reg; rw [classifyFrom_cons, List.map_cons, ih]

theorem classifyStep_unreadable (E : Env) (ge124 : Bool) (files : List FileInfo) (reg : Reg) (f : FileInfo)
    (hu : goModUnreadable f = true) : (classifyStep E ge124 files reg f).2 = .invalid .lstat := by
  simp [classifyStep, earlyRule, hu]

theorem count_reported (a : Bytes) : ∀ (cl : List (FileInfo × Class)),
    (∀ x ∈ cl, goModUnreadable x.1 = true → x.2 = .invalid .lstat) →
    (((cl.filterMap vOf).map (·.path)).count a + ((cl.filterMap oOf).map (·.1)).count a +
      (((cl.map (·.1)).filter goModUnreadable).map (·.path)).count a +
      ((cl.filterMap iOf).map (·.1)).count a) = ((cl.map (·.1)).map (·.path)).count a
  | [], _ => rfl
  | (f, c) :: t, h => by
    have ih := count_reported a t (fun x hx => h x (List.mem_cons_of_mem _ hx))
    by_cases hu : goModUnreadable f = true
    · have hc : c = .invalid .lstat := h (f, c) List.mem_cons_self hu
      subst hc
      simp [List.filterMap_cons, vOf, oOf, iOf, hu, List.count_cons] at ih ⊢
      omega
    · cases c <;> simp [List.filterMap_cons, vOf, oOf, iOf, hu, List.count_cons] at ih ⊢ <;> omega

/-- C17 `checkFiles_partition`, as a statement about the final state -/
theorem checkFilesSt_reported_perm (E : Env) (ge124 : Bool) (files : List FileInfo)
    (hnd : (files.map (·.path)).Nodup) :
    (reported (checkFilesSt E files ge124).cf).Perm (files.map (·.path)) := by
  obtain ⟨_, s2, s3, s4, _⟩ := checkFilesSt_spec E files ge124 hnd
  have hc := fun a => count_reported a (classifyAll E ge124 files) (fun x hx hu => by
    obtain ⟨pre, post, _, h⟩ := (mem_classifyAll E ge124 files x.1 x.2).mp hx
    rw [h]; exact classifyStep_unreadable E ge124 files _ x.1 hu)
  refine List.perm_iff_count.mpr (fun a => ?_)
  have hm : (classifyAll E ge124 files).map (·.1) = files := classifyFrom_map_fst E ge124 files files []
  have := hc a
  rw [hm] at this
  unfold reported
  rw [s2, s3, s4, ← this]
  simp [List.count_append, List.map_map, Function.comp_def]
  omega

theorem foldl_bOf (cl : List (FileInfo × Class)) : ∀ b : Int × Bool,
    cl.foldl bOf b = (sizedSizes cl).foldl accountB b := by
  induction cl with
  | nil => intro b; rfl
  | cons x t ih =>
    intro b
    unfold sizedSizes at ih ⊢
    simp only [List.foldl_cons, List.filter_cons]
    rw [ih]
    unfold bOf
    by_cases h : x.2.sized = true
    · simp [h]
    · simp [h]

theorem sum_nonneg_of_all : ∀ (l : List Int), (∀ x ∈ l, 0 ≤ x) → 0 ≤ l.sum := by
  intro l
  induction l with
  | nil => intro _; simp
  | cons a t ih =>
    intro h
    have h1 := h a List.mem_cons_self
    have h2 := ih (fun x hx => h x (List.mem_cons_of_mem _ hx))
    simp only [List.sum_cons]; omega

theorem foldl_accountB : ∀ (sizes : List Int) (b : Int × Bool), 0 ≤ b.1 →
    ((sizes.foldl accountB b).2 = true ↔ b.2 = true ∨ (∃ x ∈ sizes, x < 0) ∨ b.1 < sizes.sum) ∧
    ((sizes.foldl accountB b).2 = false → (sizes.foldl accountB b).1 = b.1 - sizes.sum) := by
  intro sizes
  induction sizes with
  | nil => intro b hb; simp; omega
  | cons x t ih =>
    intro b hb
    simp only [List.foldl_cons, List.sum_cons]
    by_cases hx : 0 ≤ x ∧ x ≤ b.1
    · have e : accountB b x = (b.1 - x, b.2) := by unfold accountB; rw [if_pos hx]
      rw [e]
      obtain ⟨i1, i2⟩ := ih (b.1 - x, b.2) (by simp only; omega)
      simp only at i1 i2
      refine ⟨?_, ?_⟩
      · rw [i1]
        constructor
        · rintro (h | ⟨y, hy, hlt⟩ | h)
          · exact Or.inl h
          · exact Or.inr (Or.inl ⟨y, List.mem_cons_of_mem _ hy, hlt⟩)
          · exact Or.inr (Or.inr (by omega))
        · rintro (h | ⟨y, hy, hlt⟩ | h)
          · exact Or.inl h
          · rcases List.mem_cons.mp hy with rfl | hy
            · omega
            · exact Or.inr (Or.inl ⟨y, hy, hlt⟩)
          · exact Or.inr (Or.inr (by omega))
      · intro h; rw [i2 h]; omega
    · have e : accountB b x = (b.1, true) := by unfold accountB; rw [if_neg hx]
      rw [e]
      obtain ⟨i1, _⟩ := ih (b.1, true) hb
      simp only at i1
      have ht : (List.foldl accountB (b.1, true) t).2 = true := i1.mpr (Or.inl trivial)
      refine ⟨?_, fun h => by rw [ht] at h; cases h⟩
      constructor
      · intro _
        by_cases hneg : ∃ y ∈ t, y < 0
        · obtain ⟨y, hy, hlt⟩ := hneg
          exact Or.inr (Or.inl ⟨y, List.mem_cons_of_mem _ hy, hlt⟩)
        · have hall : ∀ y ∈ t, 0 ≤ y := by
            intro y hy
            by_cases h0 : 0 ≤ y
            · exact h0
            · exact absurd ⟨y, hy, by omega⟩ hneg
          have := sum_nonneg_of_all t hall
          by_cases hx0 : x < 0
          · exact Or.inr (Or.inl ⟨x, List.mem_cons_self, hx0⟩)
          · exact Or.inr (Or.inr (by omega))
      · intro _; exact ht


theorem classify_unreadable (E : Env) (ge124 : Bool) (files pre : List FileInfo) (f : FileInfo)
    (hu : goModUnreadable f = true) : classify E ge124 files pre f = .invalid .lstat :=
  classifyStep_unreadable E ge124 files _ f hu

theorem vOf_some (x : FileInfo × Class) (g : FileInfo) : vOf x = some g ↔ x = (g, .valid) := by
  obtain ⟨f, c⟩ := x
  cases c <;> simp [vOf]

theorem oOf_some (x : FileInfo × Class) (p : Bytes) (r : Reason) :
    oOf x = some (p, r) ↔ x.1.path = p ∧ x.2 = .omitted r := by
  obtain ⟨f, c⟩ := x
  cases c <;> simp [oOf]

theorem iOf_some (x : FileInfo × Class) (p : Bytes) (r : Reason) :
    iOf x = some (p, r) ↔ goModUnreadable x.1 = false ∧ x.1.path = p ∧ x.2 = .invalid r := by
  obtain ⟨f, c⟩ := x
  by_cases hu : goModUnreadable f = true
  · simp [iOf, hu]
  · cases c <;> simp [iOf, hu]

/-- C17: for a list without repeated paths the report of the file check is the classification by the documented rules -/
theorem checkFiles_eq_classify (E : Env) (files : List FileInfo) (ge124 : Bool)
    (hnd : (files.map (·.path)).Nodup) :
    (∀ pre f post, files = pre ++ f :: post →
      match classify E ge124 files pre f with
      | .valid => f.path ∈ (checkFiles E files ge124).valid
      | .omitted r => (f.path, r) ∈ (checkFiles E files ge124).omitted
      | .invalid r => (f.path, r) ∈ (checkFiles E files ge124).invalid) ∧
    (∀ p ∈ (checkFiles E files ge124).valid, ∃ pre f post, files = pre ++ f :: post ∧ f.path = p ∧
      classify E ge124 files pre f = .valid) ∧
    (∀ p r, (p, r) ∈ (checkFiles E files ge124).omitted → ∃ pre f post, files = pre ++ f :: post ∧ f.path = p ∧
      classify E ge124 files pre f = .omitted r) ∧
    (∀ p r, (p, r) ∈ (checkFiles E files ge124).invalid → ∃ pre f post, files = pre ++ f :: post ∧ f.path = p ∧
      classify E ge124 files pre f = .invalid r) ∧
    ((checkFiles E files ge124).sizeError = true ↔
      (∃ x ∈ sizedSizes (classifyAll E ge124 files), x < 0) ∨
      (MaxZipFile : Int) < (sizedSizes (classifyAll E ge124 files)).sum) := by
  obtain ⟨_, s2, s3, s4, s5⟩ := checkFilesSt_spec E files ge124 hnd
  unfold checkFiles
  refine ⟨?_, ?_, ?_, ?_, ?_⟩
  · intro pre f post hsplit
    have hmem : (f, classify E ge124 files pre f) ∈ classifyAll E ge124 files :=
      (mem_classifyAll E ge124 files f _).mpr ⟨pre, post, hsplit, rfl⟩
    cases hc : classify E ge124 files pre f with
    | valid =>
      simp only
      rw [s2, List.mem_map]
      exact ⟨f, List.mem_filterMap.mpr ⟨_, hmem, by rw [hc]; rfl⟩, rfl⟩
    | omitted r =>
      simp only
      rw [s3]
      exact List.mem_filterMap.mpr ⟨_, hmem, by rw [hc]; rfl⟩
    | invalid r =>
      simp only
      rw [s4]
      by_cases hu : goModUnreadable f = true
      · rw [classify_unreadable E ge124 files pre f hu] at hc
        injection hc with hc; subst hc
        refine List.mem_append_left _ (List.mem_map.mpr ⟨f, List.mem_filter.mpr ⟨?_, hu⟩, rfl⟩)
        rw [hsplit]; simp
      · refine List.mem_append_right _ (List.mem_filterMap.mpr ⟨_, hmem, ?_⟩)
        rw [hc, iOf_some]
        exact ⟨by simpa using hu, rfl, rfl⟩
  · intro p hp
    rw [s2, List.mem_map] at hp
    obtain ⟨g, hg, rfl⟩ := hp
    obtain ⟨x, hx, hv⟩ := List.mem_filterMap.mp hg
    rw [vOf_some] at hv; subst hv
    obtain ⟨pre, post, h1, h2⟩ := (mem_classifyAll E ge124 files g _).mp hx
    exact ⟨pre, g, post, h1, rfl, h2.symm⟩
  · intro p r hp
    rw [s3] at hp
    obtain ⟨x, hx, hv⟩ := List.mem_filterMap.mp hp
    rw [oOf_some] at hv
    obtain ⟨g, c⟩ := x
    simp only at hv
    obtain ⟨rfl, rfl⟩ := hv
    obtain ⟨pre, post, h1, h2⟩ := (mem_classifyAll E ge124 files g _).mp hx
    exact ⟨pre, g, post, h1, rfl, h2.symm⟩
  · intro p r hp
    rw [s4] at hp
    rcases List.mem_append.mp hp with hp | hp
    · obtain ⟨g, hg, he⟩ := List.mem_map.mp hp
      simp only [Prod.mk.injEq] at he
      obtain ⟨rfl, rfl⟩ := he
      obtain ⟨hgm, hu⟩ := List.mem_filter.mp hg
      obtain ⟨pre, post, h1⟩ := List.append_of_mem hgm
      exact ⟨pre, g, post, h1, rfl, classify_unreadable E ge124 files pre g hu⟩
    · obtain ⟨x, hx, hv⟩ := List.mem_filterMap.mp hp
      rw [iOf_some] at hv
      obtain ⟨g, c⟩ := x
      simp only at hv
      obtain ⟨_, rfl, rfl⟩ := hv
      obtain ⟨pre, post, h1, h2⟩ := (mem_classifyAll E ge124 files g _).mp hx
      exact ⟨pre, g, post, h1, rfl, h2.symm⟩
  · have h2 : (checkFilesSt E files ge124).cf.sizeError =
        ((classifyAll E ge124 files).foldl bOf ((MaxZipFile : Int), false)).2 := by
      rw [← s5]
    rw [h2, foldl_bOf]
    have := (foldl_accountB (sizedSizes (classifyAll E ge124 files)) ((MaxZipFile : Int), false)
      (by simp only; unfold MaxZipFile; omega)).1
    rw [this]
    simp

end ModVerif.Proofs.ZipA
