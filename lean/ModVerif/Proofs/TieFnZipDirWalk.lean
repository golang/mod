/-
  Tie proof, zip/zip.go `listFilesInDir` (Generated/FnZip.lean): the closure passed to `filepath.Walk`
  (`listFilesInDir_walkFn1`) run by the assumed walk `GoRt.walkNode` / `GoRt.walkChildren` (Basic/GoRtWalk.lean) over the
  tree `toFs` of a model tree appends exactly the model's listing `Zip.walkNode` / `Zip.walkChildren` to the captured
  variables `omitted`, `files` — including both `SkipDir` cases and "a vendored directory is reported but still walked".
-/
import ModVerif.Generated.FnZip
import ModVerif.Model.Zip
import ModVerif.Drv.GenZip
import ModVerif.Drv.GenZipDir
import ModVerif.Tie.FnZip
import ModVerif.Proofs.TieFnZipCfPre
import ModVerif.Proofs.TieFnZipDirPath
import ModVerif.Proofs.TieFnZipDirSt
namespace ModVerif.TieFnZipDir
open ModVerif ModVerif.GoRt ModVerif.GoRtZip ModVerif.TieFnZip ModVerif.TieFnZipCf ModVerif.ZipSpec ModVerif.Proofs.ZipB
open ModVerif.Generated.Zip (File FileError FileInfo)
open ModVerif.Drv.GenZip (toGFile modeBits)
open ModVerif.Drv.GenZipDir (toFs toFsList dirInfo)

/-- the text of a reason in the `omitted` list of `listFilesInDir` (sentinel errors by their Go names); differs from
    `reasonText` (Proofs/TieFnZipCfBase.lean) on the two reasons only `listFilesInDir` gives -/
def reasonTextD : Zip.Reason → String
  | .vcs => "errVCS"
  | .submoduleDir => "errSubmoduleDir"
  | r => reasonText r

def embOm (e : Bytes × Zip.Reason) : FileError := { Path := e.1, Err := some (reasonTextD e.2) }

/-- the captured variables `(omitted, files)` after the model's listing `l` was appended -/
def addL (st : List FileError × List File) (l : Zip.Listing) : List FileError × List File :=
  (st.1 ++ l.omitted.map embOm, st.2 ++ l.files.map toGFile)

theorem addL_empty (st : List FileError × List File) : addL st {} = st := by
  simp [addL]

theorem addL_append (st : List FileError × List File) (a b : Zip.Listing) :
    addL st (a.append b) = addL (addL st a) b := by
  simp [addL, Zip.Listing.append, List.append_assoc]

section
variable (osLstat : Bytes → (FileInfo × Option String)) (osOpenRead : Bytes → (Bytes × Option String)) (d : Bytes)

/-- `os.Lstat(filepath.Join(p, "go.mod"))` succeeded with a non-directory -/
def lstatGoMod (p : Bytes) : Bool :=
  (osLstat (GoRt.fpJoin p Zip.goModName)).2.isNone && !(osLstat (GoRt.fpJoin p Zip.goModName)).1.IsDir

mutual
/-- the node with slash path `rel` as the walk and the file-system parameters present it: names are ordinary path elements
    (as `ReadDir` returns them), `Lstat` succeeded for every file (no `Mode.lstatErr`), `os.Open` of a regular file yields its
    content, and `os.Lstat(<directory>/go.mod)` answers from the tree -/
def NodeOK : Bytes → Zip.Node → Prop
  | rel, .file mode _ content _ =>
    mode ≠ .lstatErr ∧ (mode = .regular → osOpenRead (fp d rel) = (content, none))
  | rel, .dir cs => lstatGoMod osLstat (fp d rel) = Zip.hasGoModFile cs ∧ ChildrenOK rel cs
def ChildrenOK : Bytes → List (Bytes × Zip.Node) → Prop
  | _, [] => True
  | rel, (name, n) :: rest => NormalElem name ∧ NodeOK (Zip.childPath rel name) n ∧ ChildrenOK rel rest
end

end

section
variable (osLstat : Bytes → (FileInfo × Option String)) (osOpenRead : Bytes → (Bytes × Option String))
  (osReadFile : Bytes → (Bytes × Option String)) (pgv : Bytes → Bytes → Bytes) (vc : Bytes → Bytes → Int)
  (vl : Bytes → Bytes) (walkRoot : Bytes → FsTree FileInfo) (fuel0 : Nat) (d vers : Bytes)

/-- the function `listFilesInDir` hands to the walk -/
def cb : Bytes → FileInfo → Option String → (List FileError × List File) →
    M (Option String × List FileError × List File) :=
  fun wp wi we (omitted, files) =>
    Generated.Zip.listFilesInDir_walkFn1 osLstat osOpenRead osReadFile pgv vc vl walkRoot fuel0 d vers wp wi we omitted files

theorem isVendored_dot (g : Bool) : Zip.isVendoredPackage [46] g = false := by
  cases g <;> decide

theorem cb_root (ge124 : Bool) (hg : ge124 = decide (0 ≤ vc vers go124)) (st : List FileError × List File) :
    cb osLstat osOpenRead osReadFile pgv vc vl walkRoot fuel0 d vers d dirInfo none st = .ok (none, st) := by
  obtain ⟨om, fs⟩ := st
  simp only [cb, Generated.Zip.listFilesInDir_walkFn1, fpRel_self, id,
    Tie.FnZip.isVendoredPackage_tie vc [46] vers ge124 hg, isVendored_dot]
  simp [dirInfo]

theorem vcs_contains (name : Bytes) :
    (decide (name = ([46, 98, 122, 114] : Bytes)) || decide (name = ([46, 103, 105, 116] : Bytes)) ||
      decide (name = ([46, 104, 103] : Bytes)) || decide (name = ([46, 115, 118, 110] : Bytes))) =
    Zip.vcsDirs.contains name := by
  simp only [Zip.vcsDirs, List.contains_cons, List.contains_nil, Bool.beq_eq_decide_eq, Bool.or_false, Bool.or_assoc]

theorem cb_dir (ge124 : Bool) (hg : ge124 = decide (0 ≤ vc vers go124)) {prel name : Bytes} (hr : RelOK prel)
    (hn : NormalElem name) (om : List FileError) (fs : List File) :
    cb osLstat osOpenRead osReadFile pgv vc vl walkRoot fuel0 d vers (fp d (Zip.childPath prel name)) dirInfo none (om, fs) =
      .ok (if Zip.isVendoredPackage (Zip.childPath prel name) ge124 then
             (none, om ++ [embOm (Zip.childPath prel name, .vendored)], fs)
           else if Zip.vcsDirs.contains name then
             (some "SkipDir", om ++ [embOm (Zip.childPath prel name, .vcs)], fs)
           else if lstatGoMod osLstat (fp d (Zip.childPath prel name)) then
             (some "SkipDir", om ++ [embOm (Zip.childPath prel name, .submoduleDir)], fs)
           else (none, om, fs)) := by
  have hc := normalName_child hr hn
  simp only [cb, Generated.Zip.listFilesInDir_walkFn1, fpRel_fp d hc, id,
    Tie.FnZip.isVendoredPackage_tie vc _ vers ge124 hg, pathBase_fp d hr hn, vcs_contains]
  have hne : decide (fp d (Zip.childPath prel name) = d) = false := by
    simpa using fp_ne d hc
  cases hv : Zip.isVendoredPackage (Zip.childPath prel name) ge124
  · cases hvc : Zip.vcsDirs.contains name
    · cases hl : lstatGoMod osLstat (fp d (Zip.childPath prel name))
      · have hl' : ((osLstat (fpJoin (fp d (Zip.childPath prel name)) [103, 111, 46, 109, 111, 100])).snd.isNone &&
            !(osLstat (fpJoin (fp d (Zip.childPath prel name)) [103, 111, 46, 109, 111, 100])).fst.IsDir) = false := hl
        simp [hl', hne, dirInfo, Bind.bind, Except.bind, pure, Except.pure]
      · have hl' : ((osLstat (fpJoin (fp d (Zip.childPath prel name)) [103, 111, 46, 109, 111, 100])).snd.isNone &&
            !(osLstat (fpJoin (fp d (Zip.childPath prel name)) [103, 111, 46, 109, 111, 100])).fst.IsDir) = true := hl
        simp [hl', hne, dirInfo, Bind.bind, Except.bind, pure, Except.pure, embOm, reasonTextD]
    · simp [dirInfo, hne, Bind.bind, Except.bind, pure, Except.pure, embOm, reasonTextD]
  · simp [Bind.bind, Except.bind, pure, Except.pure, embOm, reasonTextD, reasonText]

theorem cb_file (ge124 : Bool) (hg : ge124 = decide (0 ≤ vc vers go124)) {prel name : Bytes} (hr : RelOK prel)
    (hn : NormalElem name) (mode : Zip.Mode) (size : Int) (content : Bytes) (g : Bool) (hm : mode ≠ .lstatErr)
    (hopen : mode = .regular → osOpenRead (fp d (Zip.childPath prel name)) = (content, none))
    (om : List FileError) (fs : List File) :
    cb osLstat osOpenRead osReadFile pgv vc vl walkRoot fuel0 d vers (fp d (Zip.childPath prel name))
        { Mode := modeBits mode, IsDir := false, Size := size } none (om, fs) =
      .ok (if Zip.isVendoredPackage (Zip.childPath prel name) ge124 then
             (none, om ++ [embOm (Zip.childPath prel name, .vendored)], fs)
           else if mode != .regular then
             (none, om ++ [embOm (Zip.childPath prel name, .notRegular)], fs)
           else (none, om, fs ++ [toGFile ⟨Zip.childPath prel name, mode, size, content, g⟩])) := by
  have hc := normalName_child hr hn
  simp only [cb, Generated.Zip.listFilesInDir_walkFn1, fpRel_fp d hc, id,
    Tie.FnZip.isVendoredPackage_tie vc _ vers ge124 hg, modeIsRegular_modeBits mode hm]
  cases hv : Zip.isVendoredPackage (Zip.childPath prel name) ge124
  · by_cases hreg : mode = .regular
    · subst hreg
      simp [Bind.bind, Except.bind, pure, Except.pure, Generated.Zip.dirFile_Lstat, Generated.Zip.dirFile_Open,
        Generated.Zip.dirFile_Path, hopen rfl, toGFile, modeBits]
    · have : (mode == Zip.Mode.regular) = false := by simpa using hreg
      simp [Bind.bind, Except.bind, pure, Except.pure, this, hreg, embOm, reasonTextD, reasonText]
  · simp [Bind.bind, Except.bind, pure, Except.pure, embOm, reasonTextD, reasonText]

theorem toFs_isDir (n : Zip.Node) : (toFs n).isDir = n.isDir := by
  cases n <;> simp [toFs, FsTree.isDir, Zip.Node.isDir]

mutual
theorem walkNode_sim (ge124 : Bool) (hg : ge124 = decide (0 ≤ vc vers go124)) :
    ∀ (n : Zip.Node) (prel name : Bytes) (st : List FileError × List File) (fuel : Nat), RelOK prel → NormalElem name →
    NodeOK osLstat osOpenRead d (Zip.childPath prel name) n → nodeFuel n ≤ fuel →
    ∃ e, GoRt.walkNode (cb osLstat osOpenRead osReadFile pgv vc vl walkRoot fuel0 d vers) fuel
        (fp d (Zip.childPath prel name)) (toFs n) st =
      .ok (e, addL st (Zip.walkNode ge124 (Zip.childPath prel name) name n)) ∧
      (e = none ∨ (e = some "SkipDir" ∧ n.isDir = true))
  | .file mode size content g, prel, name, st, fuel, hr, hn, hok, hf => by
    obtain ⟨om, fs⟩ := st
    simp only [NodeOK] at hok
    obtain ⟨k, rfl⟩ : ∃ k, fuel = k + 1 := ⟨fuel - 1, by simp only [nodeFuel] at hf; omega⟩
    simp only [toFs, GoRt.walkNode, Zip.walkNode]
    rw [cb_file osLstat osOpenRead osReadFile pgv vc vl walkRoot fuel0 d vers ge124 hg hr hn mode size content g hok.1
      hok.2 om fs]
    refine ⟨none, ?_, Or.inl rfl⟩
    cases Zip.isVendoredPackage (Zip.childPath prel name) ge124
    · cases hmr : (mode != Zip.Mode.regular) <;> simp [addL]
    · simp [addL]
  | .dir cs, prel, name, st, fuel, hr, hn, hok, hf => by
    obtain ⟨om, fs⟩ := st
    simp only [NodeOK] at hok
    obtain ⟨k, rfl⟩ : ∃ k, fuel = k + 1 := ⟨fuel - 1, by simp only [nodeFuel] at hf; omega⟩
    have hk : listFuel cs ≤ k := by simp only [nodeFuel] at hf; omega
    have hc := normalName_child hr hn
    simp only [toFs, GoRt.walkNode, Zip.walkNode]
    rw [cb_dir osLstat osOpenRead osReadFile pgv vc vl walkRoot fuel0 d vers ge124 hg hr hn om fs, hok.1]
    cases hv : Zip.isVendoredPackage (Zip.childPath prel name) ge124
    · cases hvc : Zip.vcsDirs.contains name
      · cases hl : Zip.hasGoModFile cs
        · have ih := walkChildren_sim ge124 hg cs (Zip.childPath prel name) (om, fs) k (Or.inr hc) hok.2 hk
          simp only [Bool.false_eq_true, if_false, Bind.bind, Except.bind, Option.isSome_none]
          exact ⟨none, ih, Or.inl rfl⟩
        · refine ⟨some "SkipDir", ?_, Or.inr ⟨rfl, rfl⟩⟩
          simp [Bind.bind, Except.bind, pure, Except.pure, addL]
      · refine ⟨some "SkipDir", ?_, Or.inr ⟨rfl, rfl⟩⟩
        simp [Bind.bind, Except.bind, pure, Except.pure, addL]
    · have ih := walkChildren_sim ge124 hg cs (Zip.childPath prel name)
        (om ++ [embOm (Zip.childPath prel name, .vendored)], fs) k (Or.inr hc) hok.2 hk
      refine ⟨none, ?_, Or.inl rfl⟩
      simp only [if_true, Bind.bind, Except.bind, Option.isSome_none, Bool.false_eq_true, if_false]
      rw [ih, addL_append]
      simp [addL]
theorem walkChildren_sim (ge124 : Bool) (hg : ge124 = decide (0 ≤ vc vers go124)) :
    ∀ (cs : List (Bytes × Zip.Node)) (rel : Bytes) (st : List FileError × List File) (fuel : Nat), RelOK rel →
    ChildrenOK osLstat osOpenRead d rel cs → listFuel cs ≤ fuel →
    GoRt.walkChildren (cb osLstat osOpenRead osReadFile pgv vc vl walkRoot fuel0 d vers) fuel (fp d rel) (toFsList cs) st =
      .ok (none, addL st (Zip.walkChildren ge124 rel cs))
  | [], rel, st, fuel, _, _, hf => by
    obtain ⟨k, rfl⟩ : ∃ k, fuel = k + 1 := ⟨fuel - 1, by simp only [listFuel] at hf; omega⟩
    simp only [toFsList, GoRt.walkChildren, Zip.walkChildren, addL_empty]
    rfl
  | (name, n) :: rest, rel, st, fuel, hr, hok, hf => by
    simp only [ChildrenOK] at hok
    obtain ⟨k, rfl⟩ : ∃ k, fuel = k + 1 := ⟨fuel - 1, by simp only [listFuel] at hf; omega⟩
    have hk1 : nodeFuel n ≤ k := by simp only [listFuel] at hf; omega
    have hk2 : listFuel rest ≤ k := by simp only [listFuel] at hf; omega
    obtain ⟨e, h1, he⟩ := walkNode_sim ge124 hg n rel name st k hr hok.1 hok.2.1 hk1
    have h2 := walkChildren_sim ge124 hg rest rel (addL st (Zip.walkNode ge124 (Zip.childPath rel name) name n)) k hr
      hok.2.2 hk2
    simp only [toFsList, GoRt.walkChildren, Zip.walkChildren, fp_child d hr hok.1, h1, Bind.bind, Except.bind,
      addL_append]
    rcases he with rfl | ⟨rfl, hd⟩
    · simpa using h2
    · simp only [toFs_isDir, hd]
      simpa using h2
end

/-- the version string `listFilesInDir` extracts from the root go.mod ("" when `os.ReadFile` fails) -/
def versDir : Bytes :=
  if (osReadFile (GoRt.fpJoin d Zip.goModName)).2.isNone then
    vl (pgv Zip.goModName (osReadFile (GoRt.fpJoin d Zip.goModName)).1)
  else []

end

end ModVerif.TieFnZipDir
