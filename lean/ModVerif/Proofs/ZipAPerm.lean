/-
  C17 `checkFiles_perm`: for a list without repeated paths whose report has no collision error, the
  report does not depend on the order of the list (the three lists are permuted, the size error is the
  same).
-/
import ModVerif.Spec.ZipSpec
import ModVerif.Proofs.ZipAClassify
namespace ModVerif.Proofs.ZipA
open ModVerif ModVerif.PathClean ModVerif.Zip ModVerif.ZipSpec ModVerif.Proofs.Zip

/-- the class of a file when no collision is involved -/
def ofc (E : Env) (ge124 : Bool) (files : List FileInfo) (f : FileInfo) : Class :=
  match earlyRule E ge124 files f with
  | some c => c
  | none => lateRule f

def collisionReason (r : Reason) : Prop := r = .caseCollision ∨ r = .fileAndDir ∨ r = .multiple

theorem lateRule_not_collision (f : FileInfo) (r : Reason) (h : lateRule f = .invalid r) : ¬ collisionReason r := by
  unfold lateRule at h
  repeat' split at h
  all_goals (cases h <;> (unfold collisionReason; simp))

theorem earlyRule_none_cleanRel (E : Env) (ge124 : Bool) (files : List FileInfo) (f : FileInfo)
    (h : earlyRule E ge124 files f = none) : CleanRel f.path := by
  unfold earlyRule at h
  by_cases h0 : goModUnreadable f = true
  · rw [if_pos h0] at h; cases h
  rw [if_neg h0] at h
  by_cases h1 : pathClean f.path ≠ f.path
  · rw [if_pos h1] at h; cases h
  rw [if_neg h1] at h
  by_cases h2 : isAbs f.path = true
  · rw [if_pos h2] at h; cases h
  exact ⟨Classical.not_not.mp h1, by simpa using h2⟩

theorem classifyStep_none (E : Env) (ge124 : Bool) (files : List FileInfo) (reg : Reg) (f : FileInfo)
    (h : earlyRule E ge124 files f = none) :
    (ccCheckTop E.toFold (toCC E.toFold reg) f.path (f.mode == .dir)).1 =
        toCC E.toFold (classifyStep E ge124 files reg f).1 ∧
    (((ccCheckTop E.toFold (toCC E.toFold reg) f.path (f.mode == .dir)).2 = none ∧
        (classifyStep E ge124 files reg f).2 = lateRule f) ∨
     (∃ r, (ccCheckTop E.toFold (toCC E.toFold reg) f.path (f.mode == .dir)).2 = some r ∧ collisionReason r ∧
        (classifyStep E ge124 files reg f).2 = .invalid r)) := by
  have hp := earlyRule_none_cleanRel E ge124 files f h
  rw [ccCheckTop_toCC E.toFold reg f.path _ hp]
  unfold classifyStep
  rw [h]
  simp only
  rcases hc : collide E.toFold reg f.path (f.mode == .dir) with ⟨reg', err⟩
  cases err with
  | none => exact ⟨rfl, Or.inl ⟨rfl, rfl⟩⟩
  | some r =>
    exact ⟨rfl, Or.inr ⟨r, rfl, collide_reason E.toFold reg f.path _ r hp (by rw [hc]), rfl⟩⟩

theorem classifyStep_some (E : Env) (ge124 : Bool) (files : List FileInfo) (reg : Reg) (f : FileInfo) (c : Class)
    (h : earlyRule E ge124 files f = some c) : classifyStep E ge124 files reg f = (reg, c) := by
  unfold classifyStep; rw [h]

/-- what the files of `l` that reach the collision check register there -/
def checked (E : Env) (ge124 : Bool) (files l : List FileInfo) : List (Bytes × Bool) :=
  (l.filter fun f => (earlyRule E ge124 files f).isNone).map fun f => (f.path, f.mode == .dir)

theorem classifyFrom_noCollision (E : Env) (ge124 : Bool) (files : List FileInfo) :
    ∀ (l : List FileInfo) (reg : Reg) (R : List (Bytes × Bool)), Tab E.toFold (toCC E.toFold reg) R →
    ((∀ x ∈ classifyFrom E ge124 files reg l, x.2 = ofc E ge124 files x.1) ↔
      (R ++ chains (checked E ge124 files l)).Pairwise (ZipB.Compatible E.toFold))
  | [], reg, R, h => by simpa [classifyFrom, checked, chains] using h.pw
  | f :: t, reg, R, h => by
    rw [classifyFrom_cons, List.forall_mem_cons]
    cases he : earlyRule E ge124 files f with
    | some c =>
      have hck : checked E ge124 files (f :: t) = checked E ge124 files t := by simp [checked, he]
      rw [hck, classifyStep_some E ge124 files reg f c he, ← classifyFrom_noCollision E ge124 files t reg R h]
      simp [ofc, he]
    | none =>
      have hck : chains (checked E ge124 files (f :: t)) =
          ZipB.regChain (f.path.length + 1) f.path (f.mode == .dir) ++ chains (checked E ge124 files t) := by
        simp [checked, he, chains]
      have hofc : ofc E ge124 files f = lateRule f := by unfold ofc; rw [he]
      have hfuel := fuelOK_cleanRel (f.path.length + 1) f.path (earlyRule_none_cleanRel E ge124 files f he) (by omega)
      obtain ⟨k1, k2⟩ := classifyStep_none E ge124 files reg f he
      obtain ⟨a, b, _⟩ := ccCheck_tab (f.path.length + 1) f.path (f.mode == .dir) h
      rw [hck, ← List.append_assoc, hofc]
      rcases k2 with ⟨k2, k3⟩ | ⟨r, k2, k3, k4⟩
      · have hb := b k2
        rw [show (ccCheck E.toFold (f.path.length + 1) (toCC E.toFold reg) f.path (f.mode == .dir)).1 = _ from k1] at hb
        rw [← classifyFrom_noCollision E ge124 files t _ _ hb]
        exact ⟨fun h => h.2, fun h => ⟨k3, h⟩⟩
      · constructor
        · rintro ⟨h1, _⟩
          rw [k4] at h1
          exact absurd k3 (lateRule_not_collision f r h1.symm)
        · intro hp
          have := a.mpr ⟨hfuel, (List.pairwise_append.mp hp).1⟩
          rw [show (ccCheck E.toFold (f.path.length + 1) (toCC E.toFold reg) f.path (f.mode == .dir)).2 = _ from k2] at this
          cases this

theorem noCollision_perm (E : Env) (ge124 : Bool) (files files' : List FileInfo) (hp : files'.Perm files)
    (h : ∀ x ∈ classifyFrom E ge124 files [] files, x.2 = ofc E ge124 files x.1) :
    ∀ x ∈ classifyFrom E ge124 files [] files', x.2 = ofc E ge124 files x.1 := by
  have t0 : Tab E.toFold (toCC E.toFold []) [] := tab_nil
  rw [classifyFrom_noCollision E ge124 files _ [] [] t0] at h ⊢
  simp only [List.nil_append] at h ⊢
  exact (((hp.filter _).map _).flatMap_right _).symm.pairwise h ZipB.compatible_symm

theorem earlyRule_congr (E : Env) (ge124 : Bool) (files files' : List FileInfo)
    (h : ∀ g, g ∈ files' ↔ g ∈ files) (f : FileInfo) :
    earlyRule E ge124 files' f = earlyRule E ge124 files f := by
  have hb : BelowModuleRoot files' f.path ↔ BelowModuleRoot files f.path := by
    unfold BelowModuleRoot IsModuleDir
    constructor
    · rintro ⟨d, hd, g, hg, r⟩; exact ⟨d, hd, g, (h g).mp hg, r⟩
    · rintro ⟨d, hd, g, hg, r⟩; exact ⟨d, hd, g, (h g).mpr hg, r⟩
  unfold earlyRule
  simp only [hb]

theorem classifyStep_congr (E : Env) (ge124 : Bool) (files files' : List FileInfo)
    (h : ∀ g, g ∈ files' ↔ g ∈ files) (reg : Reg) (f : FileInfo) :
    classifyStep E ge124 files' reg f = classifyStep E ge124 files reg f := by
  unfold classifyStep
  rw [earlyRule_congr E ge124 files files' h]

theorem classifyFrom_congr (E : Env) (ge124 : Bool) (files files' : List FileInfo)
    (h : ∀ g, g ∈ files' ↔ g ∈ files) : ∀ (l : List FileInfo) (reg : Reg),
    classifyFrom E ge124 files' reg l = classifyFrom E ge124 files reg l := by
  intro l
  induction l with
  | nil => intro _; rfl
  | cons f t ih => intro reg; rw [classifyFrom_cons, classifyFrom_cons, classifyStep_congr E ge124 files files' h, ih]

theorem classifyFrom_eq_map (E : Env) (ge124 : Bool) (files : List FileInfo) (l : List FileInfo) (reg : Reg)
    (h : ∀ x ∈ classifyFrom E ge124 files reg l, x.2 = ofc E ge124 files x.1) :
    classifyFrom E ge124 files reg l = l.map (fun f => (f, ofc E ge124 files f)) := by
  have hm := classifyFrom_map_fst E ge124 files l reg
  generalize classifyFrom E ge124 files reg l = cl at h hm
  subst hm
  induction cl with
  | nil => rfl
  | cons x t ih =>
    simp only [List.map_cons, List.map_map] at ih ⊢
    rw [← ih (fun y hy => h y (List.mem_cons_of_mem _ hy))]
    congr 1
    have := h x List.mem_cons_self
    rw [← this]

theorem perm_sum_int {l1 l2 : List Int} (h : l1.Perm l2) : l1.sum = l2.sum := by
  induction h with
  | nil => rfl
  | cons x _ ih => simp [ih]
  | swap x y l => simp; omega
  | trans _ _ ih1 ih2 => omega

/-- C17 `checkFiles_perm` -/
theorem checkFiles_perm (E : Env) (files files' : List FileInfo) (ge124 : Bool) (hp : files'.Perm files)
    (hnd : (files.map (·.path)).Nodup)
    (hnc : ∀ p r, (p, r) ∈ (checkFiles E files ge124).invalid → ¬ collisionReason r) :
    (checkFiles E files' ge124).valid.Perm (checkFiles E files ge124).valid ∧
    (checkFiles E files' ge124).omitted.Perm (checkFiles E files ge124).omitted ∧
    (checkFiles E files' ge124).invalid.Perm (checkFiles E files ge124).invalid ∧
    (checkFiles E files' ge124).sizeError = (checkFiles E files ge124).sizeError := by
  have hnd' : (files'.map (·.path)).Nodup := (hp.map _).nodup_iff.mpr hnd
  have hmem : ∀ g, g ∈ files' ↔ g ∈ files := fun g => hp.mem_iff
  obtain ⟨c1, _, _, _, _⟩ := checkFiles_eq_classify E files ge124 hnd
  -- the run on `files` has no collision
  have hall : ∀ x ∈ classifyFrom E ge124 files [] files, x.2 = ofc E ge124 files x.1 := by
    intro x hx
    obtain ⟨f, c⟩ := x
    obtain ⟨pre, post, h1, h2⟩ := (mem_classifyAll E ge124 files f c).mp hx
    have hcl := c1 pre f post h1
    simp only
    unfold ofc
    cases he : earlyRule E ge124 files f with
    | some c' =>
      rw [h2]; unfold classify; rw [classifyStep_some E ge124 files _ f c' he]
    | none =>
      obtain ⟨_, k2⟩ := classifyStep_none E ge124 files (registryAfter E ge124 files pre) f he
      rcases k2 with ⟨_, k2⟩ | ⟨r, _, k3, k4⟩
      · rw [h2]; exact k2
      · exfalso
        have : classify E ge124 files pre f = .invalid r := k4
        rw [this] at hcl
        exact hnc _ _ hcl k3
  have hall' := noCollision_perm E ge124 files files' hp hall
  have e1 : classifyAll E ge124 files = files.map (fun f => (f, ofc E ge124 files f)) :=
    classifyFrom_eq_map E ge124 files files [] hall
  have e2 : classifyAll E ge124 files' = files'.map (fun f => (f, ofc E ge124 files f)) := by
    unfold classifyAll
    rw [classifyFrom_congr E ge124 files files' hmem]
    exact classifyFrom_eq_map E ge124 files files' [] hall'
  have pcl : (classifyAll E ge124 files').Perm (classifyAll E ge124 files) := by
    rw [e1, e2]; exact hp.map _
  obtain ⟨_, a2, a3, a4, a5⟩ := checkFilesSt_spec E files ge124 hnd
  obtain ⟨_, b2, b3, b4, b5⟩ := checkFilesSt_spec E files' ge124 hnd'
  unfold checkFiles
  refine ⟨?_, ?_, ?_, ?_⟩
  · rw [a2, b2]; exact (pcl.filterMap _).map _
  · rw [a3, b3]; exact pcl.filterMap _
  · rw [a4, b4]; exact ((hp.filter _).map _).append (pcl.filterMap _)
  · have ha : (checkFilesSt E files ge124).cf.sizeError =
        ((classifyAll E ge124 files).foldl bOf ((MaxZipFile : Int), false)).2 := by rw [← a5]
    have hb : (checkFilesSt E files' ge124).cf.sizeError =
        ((classifyAll E ge124 files').foldl bOf ((MaxZipFile : Int), false)).2 := by rw [← b5]
    rw [ha, hb, foldl_bOf, foldl_bOf]
    have hmax : (0 : Int) ≤ ((MaxZipFile : Int), false).1 := by simp only; unfold MaxZipFile; omega
    have ps : (sizedSizes (classifyAll E ge124 files')).Perm (sizedSizes (classifyAll E ge124 files)) := by
      unfold sizedSizes; exact (pcl.filter _).map _
    have i1 := (foldl_accountB (sizedSizes (classifyAll E ge124 files)) _ hmax).1
    have i2 := (foldl_accountB (sizedSizes (classifyAll E ge124 files')) _ hmax).1
    have : ((sizedSizes (classifyAll E ge124 files')).foldl accountB ((MaxZipFile : Int), false)).2 = true ↔
        ((sizedSizes (classifyAll E ge124 files)).foldl accountB ((MaxZipFile : Int), false)).2 = true := by
      rw [i1, i2, perm_sum_int ps]
      constructor
      · rintro (h | ⟨x, hx, hlt⟩ | h)
        · exact Or.inl h
        · exact Or.inr (Or.inl ⟨x, ps.mem_iff.mp hx, hlt⟩)
        · exact Or.inr (Or.inr h)
      · rintro (h | ⟨x, hx, hlt⟩ | h)
        · exact Or.inl h
        · exact Or.inr (Or.inl ⟨x, ps.mem_iff.mpr hx, hlt⟩)
        · exact Or.inr (Or.inr h)
    exact Bool.eq_iff_iff.mpr this


theorem prePass_ge124 : ∀ (l : List FileInfo) (a : Pre), (l.map (·.path)).Nodup →
    (l.foldl preStep a).ge124 = match l.find? isRootGoMod with
      | some f => f.goGe124
      | none => a.ge124 := by
  intro l
  induction l with
  | nil => intro a _; rfl
  | cons f t ih =>
    intro a hnd
    rw [List.map_cons, List.nodup_cons] at hnd
    simp only [List.foldl_cons]
    rw [ih _ hnd.2, preStep_eq]
    by_cases hr : isRootGoMod f = true
    · have hnone : t.find? isRootGoMod = none := by
        apply List.find?_eq_none.mpr
        intro g hg hgr
        apply hnd.1
        rw [isRootGoMod_path f hr, ← isRootGoMod_path g hgr]
        exact List.mem_map_of_mem (f := fun x : FileInfo => x.path) hg
      simp [hr, hnone]
    · simp [hr]

theorem find_unique_congr {α : Type} (q : α → Bool) (l1 l2 : List α)
    (hmem : ∀ x, q x = true → (x ∈ l1 ↔ x ∈ l2))
    (hu : ∀ x ∈ l2, ∀ y ∈ l2, q x = true → q y = true → x = y) : l1.find? q = l2.find? q := by
  cases h2 : l2.find? q with
  | none =>
    have := List.find?_eq_none.mp h2
    exact List.find?_eq_none.mpr (fun x hx hq => this x ((hmem x hq).mp hx) hq)
  | some y =>
    have hy := List.mem_of_find?_eq_some h2
    have hqy := List.find?_some h2
    cases h1 : l1.find? q with
    | none => exact absurd hqy (List.find?_eq_none.mp h1 y ((hmem y hqy).mpr hy))
    | some x =>
      have hqx := List.find?_some h1
      rw [hu x ((hmem x hqx).mp (List.mem_of_find?_eq_some h1)) y hy hqx hqy]

theorem goVers_congr (A L : List FileInfo) (hnd : (A.map (·.path)).Nodup) (hndL : (L.map (·.path)).Nodup)
    (hmem : ∀ f, isRootGoMod f = true → (f ∈ L ↔ f ∈ A)) : goVers L = goVers A := by
  unfold goVers prePass
  rw [prePass_ge124 A {} hnd, prePass_ge124 L {} hndL, find_unique_congr isRootGoMod L A hmem (by
    intro x hx y hy qx qy
    exact eq_of_nodup_map_path A hnd x hx y hy (by rw [isRootGoMod_path x qx, isRootGoMod_path y qy]))]

theorem goVers_perm (files files' : List FileInfo) (hp : files'.Perm files) (hnd : (files.map (·.path)).Nodup) :
    goVers files' = goVers files :=
  goVers_congr files files' hnd ((hp.map _).nodup_iff.mpr hnd) (fun _ _ => hp.mem_iff)

/-- C17 `checkFiles_perm` for the function as Go computes it (flag derived from the list) -/
theorem checkFilesV_perm (E : Env) (files files' : List FileInfo) (hp : files'.Perm files)
    (hnd : (files.map (·.path)).Nodup)
    (hnc : ∀ p r, (p, r) ∈ (checkFilesV E files).invalid → ¬ collisionReason r) :
    (checkFilesV E files').valid.Perm (checkFilesV E files).valid ∧
    (checkFilesV E files').omitted.Perm (checkFilesV E files).omitted ∧
    (checkFilesV E files').invalid.Perm (checkFilesV E files).invalid ∧
    (checkFilesV E files').sizeError = (checkFilesV E files).sizeError := by
  unfold checkFilesV at hnc ⊢
  rw [goVers_perm files files' hp hnd]
  exact checkFiles_perm E files files' (goVers files) hp hnd hnc

end ModVerif.Proofs.ZipA
