/-
  `File_SortBlocks` / `WorkFile_SortBlocks` on a represented heap.
-/
import ModVerif.Proofs.TieFnEditSortD
import ModVerif.Tie.FnSemver
namespace ModVerif.Tie.FnEditSortE
open ModVerif ModVerif.GoRt ModVerif.Generated.Edit ModVerif.Tie.FnEditRep ModVerif.Tie.FnEditLoop ModVerif.Tie.FnEditSortA ModVerif.Tie.FnEditSortB
  ModVerif.Tie.FnEditSortC ModVerif.Tie.FnEditSortD
open ModVerif.Modfile.Edit (treeIds dropKilled stableSort sortStmts EFile EWork sortBlocks workSortBlocks)

theorem sortStmts_cons (sem work : Bool) (s : Modfile.Expr) (ss : List Modfile.Expr) :
    sortStmts sem work (s :: ss) = sortStmts sem work [s] ++ sortStmts sem work ss := by
  simp [sortStmts]

theorem treeIds_sortStmts (sem work : Bool) : ∀ ss : List Modfile.Expr, (treeIds (sortStmts sem work ss)).Perm (treeIds ss)
  | [] => List.Perm.refl _
  | s :: ss => by
    rw [sortStmts_cons, Modfile.Edit.treeIds_append, Modfile.Edit.treeIds_cons s ss]
    refine List.Perm.append ?_ (treeIds_sortStmts sem work ss)
    cases s with
    | lineBlock b =>
      simp only [sortStmts, List.map_cons, List.map_nil]
      rw [Modfile.Edit.treeIds_block, Modfile.Edit.treeIds_block]
      exact (Modfile.Edit.stableSort_perm _ _).map _
    | line l => exact List.Perm.refl _
    | commentBlock c => exact List.Perm.refl _
    | lparen c => exact List.Perm.refl _
    | rparen c => exact List.Perm.refl _

theorem BlockTokOK_sortStmts (sem work : Bool) (ss : List Modfile.Expr) (h : BlockTokOK ss) : BlockTokOK (sortStmts sem work ss) := by
  intro b hb
  simp only [sortStmts, List.mem_map] at hb
  obtain ⟨s, hs, he⟩ := hb
  cases s with
  | lineBlock b0 =>
    simp only [Modfile.Expr.lineBlock.injEq] at he
    subst he; exact h b0 hs
  | line l => cases he
  | commentBlock c => cases he
  | lparen c => cases he
  | rparen c => cases he

def sortSize (ss : List Modfile.Expr) : Nat := ss.length + cmpSize ss

theorem sum_filter_le {α : Type} (f : α → Nat) (q : α → Bool) : ∀ l : List α, ((l.filter q).map f).sum ≤ (l.map f).sum
  | [] => Nat.le_refl _
  | a :: l => by
    have := sum_filter_le f q l
    by_cases h : q a <;> simp [h] <;> omega

theorem sortSize_dropKilled (kl : List Nat) : ∀ ss : List Modfile.Expr, sortSize (dropKilled kl ss) ≤ sortSize ss
  | [] => Nat.le_refl _
  | s :: ss => by
    have ih := sortSize_dropKilled kl ss
    unfold sortSize at ih ⊢
    cases s with
    | line l => simp only [dropKilled]; split <;> simp only [cmpSize, List.length_cons] <;> omega
    | lineBlock b =>
      have := sum_filter_le (fun l : Modfile.Line => tokFuel l.token) (fun l => !kl.contains l.id) b.lines
      simp only [dropKilled]; split <;> simp only [cmpSize, List.length_cons] <;> omega
    | _ => simp only [dropKilled, cmpSize, List.length_cons]; omega

/-- the model's `useSemanticSortForExclude` -/
def useSem (e : EFile) : Bool :=
  match e.f.go with
  | some g => decide (Semver.compare (118 :: g.version) Modfile.Edit.semanticSortForExcludeVersionV ≥ 0)
  | none => false

theorem sortBlocks_eq (e : EFile) : sortBlocks e =
    { removeDupsE e with f := { (removeDupsE e).f with
        syn := { (removeDupsE e).f.syn with stmts := sortStmts (useSem e) false (removeDupsE e).f.syn.stmts } } } := by
  unfold sortBlocks useSem
  cases e.f.go <;> rfl

theorem workSortBlocks_eq (e : EWork) : workSortBlocks e =
    { workRemoveDupsE e with f := { (workRemoveDupsE e).f with
        syn := { (workRemoveDupsE e).f.syn with stmts := sortStmts false true (workRemoveDupsE e).f.syn.stmts } } } := rfl

theorem v121 : Modfile.Edit.semanticSortForExcludeVersionV = [118, 49, 46, 50, 49] := by decide +kernel

def goLen (e : EFile) : Nat := match e.f.go with | some g => g.version.length | none => 0

def sortFuel (e : EFile) : Nat := dupsSize e + sortSize e.f.syn.stmts + 2 * goLen e + 12

def workSortFuel (e : EWork) : Nat := workDupsSize e + sortSize e.f.syn.stmts + 1

theorem File_SortBlocks_sim {h : Heap} {fp : Int} {e : EFile} (R : RepF h fp e) (fuel : Nat) (hf : sortFuel e ≤ fuel) :
    ∃ h', File_SortBlocks fuel fp h = .ok ((), h') ∧ RepF h' fp (sortBlocks e) := by
  unfold sortFuel at hf
  obtain ⟨h1, hd, R1⟩ := File_removeDups_sim R fuel (by omega)
  obtain ⟨o1, ho1, R1⟩ := R1
  obtain ⟨es, Rs⟩ := R1.syn
  have hsz : sortSize (removeDupsE e).f.syn.stmts < fuel := by
    have := sortSize_dropKilled (k3 e) e.f.syn.stmts
    rw [removeDupsE_eq]; simp only []; omega
  obtain ⟨bl', l1, b1, b2, b3⟩ := sortLoop_spec fp (useSem e) es (removeDupsE e).f.syn.stmts [] es 0 fuel h1 rfl rfl hsz
    Rs.stmts Rs.nodupB R1.tok
  -- the go version test
  have hsem : (if (!decide (o1.Go = 0)) = true then (do
      let t4 ← heapGet h1.mods fp
      let t5 ← heapGet h1.gos t4.Go
      let t6 ← ModVerif.Generated.Semver.Compare fuel (([118] : Bytes) ++ t5.Version) ([118, 49, 46, 50, 49] : Bytes)
      pure (decide (t6 ≥ (0 : Int)))) else pure false) = (.ok (useSem e) : M Bool) := by
    have hgo := R1.go
    have hgo' : (removeDupsE e).f.go = e.f.go := rfl
    rw [hgo'] at hgo
    unfold useSem
    cases hg : e.f.go with
    | none =>
      rw [hg] at hgo
      have : o1.Go = 0 := hgo
      simp [this, pure, Except.pure]
    | some g =>
      rw [hg] at hgo
      have hne : ¬ (o1.Go = 0) := by have := heapGet_pos hgo.1; omega
      have hl : goLen e = g.version.length := by unfold goLen; rw [hg]
      have hc := Tie.FnSemver.Compare_tie (([118] : Bytes) ++ g.version) [118, 49, 46, 50, 49] fuel (by
        simp only [List.length_append, List.length_cons, List.length_nil]; omega)
      simp only [hne, decide_false, Bool.not_false, if_true, ho1, bind, Except.bind, hgo.1, goG_Version, hc, v121]
      rfl
  unfold File_SortBlocks
  step hd
  step ho1
  rw [bind_ok _ hsem]
  step ho1
  step Rs.file
  rw [fileG_Stmt]
  step l1
  refine ⟨_, rfl, ?_⟩
  rw [sortBlocks_eq]
  refine ⟨o1, ho1, ?_⟩
  exact { R1 with
    syn := ⟨es, Rs.file, b3, Rs.nodupB, (treeIds_sortStmts _ _ _).nodup_iff.2 Rs.nodupL⟩
    tok := BlockTokOK_sortStmts _ _ _ R1.tok }

theorem WorkFile_SortBlocks_sim {h : Heap} {fp : Int} {e : EWork} (R : RepW h fp e) (fuel : Nat) (hf : workSortFuel e ≤ fuel) :
    ∃ h', WorkFile_SortBlocks fuel fp h = .ok ((), h') ∧ RepW h' fp (workSortBlocks e) := by
  unfold workSortFuel at hf
  obtain ⟨h1, hd, R1⟩ := WorkFile_removeDups_sim R fuel (by omega)
  obtain ⟨o1, ho1, R1⟩ := R1
  obtain ⟨es, Rs⟩ := R1.syn
  have hsz : sortSize (workRemoveDupsE e).f.syn.stmts < fuel := by
    have := sortSize_dropKilled (wk e) e.f.syn.stmts
    rw [workRemoveDupsE_eq]; simp only []; omega
  obtain ⟨bl', l1, b1, b2, b3⟩ := workSortLoop_spec fp false es (workRemoveDupsE e).f.syn.stmts [] es 0 fuel h1 rfl rfl hsz
    Rs.stmts Rs.nodupB R1.tok
  unfold WorkFile_SortBlocks
  step hd
  step ho1
  step Rs.file
  rw [fileG_Stmt]
  step l1
  refine ⟨_, rfl, ?_⟩
  rw [workSortBlocks_eq]
  refine ⟨o1, ho1, ?_⟩
  exact { R1 with
    syn := ⟨es, Rs.file, b3, Rs.nodupB, (treeIds_sortStmts _ _ _).nodup_iff.2 Rs.nodupL⟩
    tok := BlockTokOK_sortStmts _ _ _ R1.tok }

end ModVerif.Tie.FnEditSortE
