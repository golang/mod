/-
  Tile paths: `parseTilePath` only accepts what `tilePath` prints, and `tilePath` round-trips.
-/
import ModVerif.Model.Tile
import ModVerif.Proofs.Decimal
import ModVerif.Proofs.ListLemmas
namespace ModVerif.Tile
open ModVerif ModVerif.Tlog

def ptpTail (path : Bytes) (h l : Int) (isData : Bool) (w : Int) (segs : List Bytes) : Option Tile :=
  match parseN segs 0 with
  | none => none
  | some n =>
    if n ≥ 2 ^ 63 then none else
    let t : Tile := { h := h.toNat, l := if isData then 0 else l.toNat, n := n, w := w.toNat, data := isData }
    if path != tilePath t then none else some t

def ptpRest (path : Bytes) (f : List Bytes) (isData : Bool) (h l : Int) : Option Tile :=
  if h < 1 || l < 0 || h > 30 then none else
  let w : Int := 2 ^ h.toNat
  let dotP := (f[f.length - 2]?).getD []
  if hasSuffixB dotP (B ".p") then
    match (f[f.length - 1]?).bind Decimal.parseInt64 with
    | none => none
    | some ww =>
      if ww ≤ 0 || ww ≥ w then none
      else ptpTail path h l isData ww (((f.set (f.length - 2) (dotP.take (dotP.length - 2))).take (f.length - 1)).drop 3)
  else ptpTail path h l isData w (f.drop 3)


/-- the model's parser with the tail of the computation named -/
theorem parseTilePath_norm (path : Bytes) (f f' : List Bytes) (hf : splitOn 47 path = f)
    (hf' : (if f[2]? == some (B "data") then f.set 2 (B "0") else f) = f') :
    parseTilePath path =
      if f.length < 4 || f[0]? != some (B "tile") then none else
      match (f[1]?).bind Decimal.parseInt64, (f'[2]?).bind Decimal.parseInt64 with
      | some h, some l => ptpRest path f' (f[2]? == some (B "data")) h l
      | _, _ => none := by
  unfold parseTilePath
  simp only [hf, hf']
  by_cases h0 : (decide (f.length < 4) || f[0]? != some (B "tile")) = true
  · simp only [h0, ↓reduceIte]
  · simp only [h0, Bool.false_eq_true, ↓reduceIte]
    cases f[1]?.bind Decimal.parseInt64 with
    | none => rfl
    | some h =>
      cases f'[2]?.bind Decimal.parseInt64 with
      | none => rfl
      | some l =>
        simp only [ptpRest]
        by_cases hr : (decide (h < 1) || decide (l < 0) || decide (h > 30)) = true
        · simp only [hr, ↓reduceIte]
        · simp only [hr, Bool.false_eq_true, ↓reduceIte]
          by_cases hs : hasSuffixB (f'[f'.length - 2]?.getD []) (B ".p") = true
          · simp only [hs, ↓reduceIte]
            cases f'[f'.length - 1]?.bind Decimal.parseInt64 with
            | none => rfl
            | some ww =>
              simp only
              by_cases hw : (decide (ww ≤ 0) || decide (ww ≥ 2 ^ h.toNat)) = true
              · simp only [hw, ↓reduceIte]
              · simp only [hw, Bool.false_eq_true, ↓reduceIte, ptpTail]
                rfl
          · simp only [hs, Bool.false_eq_true, ↓reduceIte, ptpTail]
            rfl

theorem ptpTail_sound (path : Bytes) (h l : Int) (isData : Bool) (w : Int) (segs : List Bytes) (t : Tile)
    (ht : ptpTail path h l isData w segs = some t) : tilePath t = path := by
  unfold ptpTail at ht
  cases hp : parseN segs 0 with
  | none => simp only [hp] at ht; cases ht
  | some n =>
    simp only [hp, Option.ite_none_left_eq_some] at ht
    obtain ⟨_, hne, ht⟩ := ht
    cases ht
    simp only [bne_iff_ne, ne_eq, Decidable.not_not] at hne
    exact hne.symm

theorem ptpRest_sound (path : Bytes) (f : List Bytes) (isData : Bool) (h l : Int) (t : Tile)
    (ht : ptpRest path f isData h l = some t) : tilePath t = path := by
  unfold ptpRest at ht
  simp only [Option.ite_none_left_eq_some] at ht
  obtain ⟨_, ht⟩ := ht
  split at ht
  · split at ht
    · cases ht
    · rw [Option.ite_none_left_eq_some] at ht
      exact ptpTail_sound _ _ _ _ _ _ _ ht.2
  · exact ptpTail_sound _ _ _ _ _ _ _ ht

/-- the only `some` the parser returns has passed the final `path != t.Path()` test -/
theorem parseTilePath_sound (s : Bytes) (t : Tile) : parseTilePath s = some t → tilePath t = s := by
  intro h
  rw [parseTilePath_norm s _ _ rfl rfl] at h
  split at h
  · cases h
  · split at h
    · exact ptpRest_sound _ _ _ _ _ _ h
    · cases h

theorem hasSuffixB_dotp (e : Bytes) (h : hasSuffixB e (B ".p") = true) : (112 : UInt8) ∈ e := by
  have hb : B ".p" = [46, 112] := by decide +kernel
  rw [hb] at h
  unfold hasSuffixB at h
  simp only [List.reverse_cons, List.reverse_nil, List.nil_append, List.cons_append] at h
  cases hr : e.reverse with
  | nil => rw [hr] at h; simp [isPrefixOfB] at h
  | cons c r =>
    rw [hr] at h
    simp only [isPrefixOfB, Bool.and_eq_true, beq_iff_eq] at h
    have : c ∈ e.reverse := by rw [hr]; simp
    rw [← h.1] at this
    simpa using this

theorem parse_eval_full (path fh L : Bytes) (segs : List Bytes) (h l n : Nat) (isData : Bool)
    (hsplit : splitOn 47 path = B "tile" :: fh :: L :: segs) (hsegs : segs ≠ [])
    (hfh : Decimal.parseInt64 fh = some (h : Int)) (hL : (L == B "data") = isData)
    (hL' : Decimal.parseInt64 (if isData then B "0" else L) = some (l : Int))
    (hh1 : 1 ≤ h) (hh2 : h ≤ 30)
    (hnop : ∀ e ∈ (B "tile" :: fh :: (if isData then B "0" else L) :: segs), (112 : UInt8) ∉ e)
    (hpn : parseN segs 0 = some n) (hn : n < 2 ^ 63)
    (hpath : path = tilePath { h := h, l := if isData then 0 else l, n := n, w := 2 ^ h, data := isData }) :
    parseTilePath path = some { h := h, l := if isData then 0 else l, n := n, w := 2 ^ h, data := isData } := by
  obtain ⟨s0, segs', rfl⟩ : ∃ s0 segs', segs = s0 :: segs' := by
    cases segs with
    | nil => exact absurd rfl hsegs
    | cons a b => exact ⟨a, b, rfl⟩
  have e2 : ((B "tile" :: fh :: L :: s0 :: segs')[2]? == some (B "data")) = isData := by
    simp [hL]
  have ef : (if isData = true then (B "tile" :: fh :: L :: s0 :: segs').set 2 (B "0")
      else B "tile" :: fh :: L :: s0 :: segs') =
      B "tile" :: fh :: (if isData = true then B "0" else L) :: s0 :: segs' := by
    cases isData <;> simp
  have hsuf : ∀ k : Nat, hasSuffixB ((B "tile" :: fh :: (if isData = true then B "0" else L) :: s0 :: segs')[k]?.getD [])
      (B ".p") = false := by
    intro k
    cases hk : (B "tile" :: fh :: (if isData = true then B "0" else L) :: s0 :: segs')[k]? with
    | none => decide +kernel
    | some e =>
      have hm := List.mem_of_getElem? hk
      cases hs : hasSuffixB e (B ".p") with
      | false => simp [hs]
      | true => exact absurd (hasSuffixB_dotp e hs) (hnop e hm)
  have hpow : ((2 : Int) ^ h).toNat = 2 ^ h := by
    have : ((2 : Int) ^ h) = ((2 ^ h : Nat) : Int) := by rw [Int.natCast_pow]; rfl
    rw [this, Int.toNat_natCast]
  unfold parseTilePath
  simp only [hsplit, e2, ef, hsuf]
  simp [hfh, hL', hpn, hpow]
  exact ⟨⟨by omega, by omega⟩, by omega, hpath⟩

theorem idx2 {α : Type} (P : List α) (a b : α) : (P ++ [a, b])[(P ++ [a, b]).length - 2]? = some a := by
  rw [List.getElem?_append_right (by simp)]
  simp

theorem idx1 {α : Type} (P : List α) (a b : α) : (P ++ [a, b])[(P ++ [a, b]).length - 1]? = some b := by
  rw [List.getElem?_append_right (by simp)]
  simp

theorem settake {α : Type} (P : List α) (a b z : α) :
    ((P ++ [a, b]).set ((P ++ [a, b]).length - 2) z).take ((P ++ [a, b]).length - 1) = P ++ [z] := by
  induction P with
  | nil => simp
  | cons c P ih =>
    simp only [List.cons_append, List.length_cons, List.length_append, List.length_nil] at ih ⊢
    have h1 : P.length + (0 + 1 + 1) + 1 - 2 = (P.length + (0 + 1 + 1) - 2) + 1 := by omega
    have h2 : P.length + (0 + 1 + 1) + 1 - 1 = (P.length + (0 + 1 + 1) - 1) + 1 := by omega
    rw [h1, h2, List.set_cons_succ, List.take_succ_cons, ih]

theorem parse_eval_partial (path fh L : Bytes) (pre : List Bytes) (x fw : Bytes) (h l n w : Nat)
    (isData : Bool)
    (hsplit : splitOn 47 path = B "tile" :: fh :: L :: (pre ++ [x ++ B ".p", fw]))
    (hfh : Decimal.parseInt64 fh = some (h : Int)) (hL : (L == B "data") = isData)
    (hL' : Decimal.parseInt64 (if isData then B "0" else L) = some (l : Int))
    (hh1 : 1 ≤ h) (hh2 : h ≤ 30)
    (hfw : Decimal.parseInt64 fw = some (w : Int)) (hw1 : 1 ≤ w) (hw2 : w < 2 ^ h)
    (hpn : parseN (pre ++ [x]) 0 = some n) (hn : n < 2 ^ 63)
    (hpath : path = tilePath { h := h, l := if isData then 0 else l, n := n, w := w, data := isData }) :
    parseTilePath path = some { h := h, l := if isData then 0 else l, n := n, w := w, data := isData } := by
  have e2 : ((B "tile" :: fh :: L :: (pre ++ [x ++ B ".p", fw]))[2]? == some (B "data")) = isData := by
    simp [hL]
  have ef : (if isData = true then (B "tile" :: fh :: L :: (pre ++ [x ++ B ".p", fw])).set 2 (B "0")
      else B "tile" :: fh :: L :: (pre ++ [x ++ B ".p", fw])) =
      (B "tile" :: fh :: (if isData = true then B "0" else L) :: pre) ++ [x ++ B ".p", fw] := by
    cases isData <;> simp
  have hpow : ((2 : Int) ^ h) = ((2 ^ h : Nat) : Int) := by rw [Int.natCast_pow]; rfl
  have htk : List.take ((x ++ B ".p").length - 2) (x ++ B ".p") = x := by
    have : (B ".p").length = 2 := by decide +kernel
    simp [this]
  unfold parseTilePath
  simp only [hsplit, e2, ef, idx2, idx1, settake, Option.getD_some, hasSuffixB_append, htk]
  have hc : ¬ (w = 0 ∨ (2 : Int) ^ h ≤ (w : Int)) := by
    rw [hpow]; omega
  simp [hfh, hL', hpn, hfw, hc]
  exact ⟨⟨by omega, by omega⟩, by omega, hpath⟩

theorem pathN_append : ∀ (f n : Nat) (acc p : Bytes), pathN f n acc ++ p = pathN f n (acc ++ p) := by
  intro f
  induction f with
  | zero => intro n acc p; rfl
  | succ f ih =>
    intro n acc p
    simp only [pathN]
    split
    · rw [ih]; simp
    · rfl

/-- the `xNNN` directory components that `pathN` prepends -/
def hi : Nat → Nat → List Bytes
  | 0, _ => []
  | f + 1, n => if n ≥ pathBase then hi f (n / pathBase) ++ [120 :: Decimal.pad3 (n / pathBase % pathBase)] else []

theorem splitOn_pathN : ∀ (f n : Nat) (acc : Bytes),
    splitOn 47 (pathN f n acc) = hi f n ++ splitOn 47 acc := by
  intro f
  induction f with
  | zero => intro n acc; simp [pathN, hi]
  | succ f ih =>
    intro n acc
    simp only [pathN, hi]
    split
    · rw [ih]
      have h47 : (47 : UInt8) ∉ (120 :: Decimal.pad3 (n / pathBase % pathBase)) := by
        simp only [List.mem_cons, not_or]
        exact ⟨by decide, Decimal.pad3_not_mem _ 47 (by decide)⟩
      have := splitOn_noSep_append 47 acc _ h47
      simp only [List.cons_append, List.append_assoc, List.nil_append] at this ⊢
      rw [this]
    · simp

theorem hi_no_p : ∀ (f n : Nat), ∀ e ∈ hi f n, (112 : UInt8) ∉ e := by
  intro f
  induction f with
  | zero => intro n e he; simp [hi] at he
  | succ f ih =>
    intro n e he
    simp only [hi] at he
    split at he
    · rcases List.mem_append.1 he with he | he
      · exact ih _ e he
      · simp only [List.mem_singleton] at he
        subst he
        simp only [List.mem_cons, not_or]
        exact ⟨by decide, Decimal.pad3_not_mem _ 112 (by decide)⟩
    · simp at he

theorem parseN_append : ∀ (l1 l2 : List Bytes) (a : Nat),
    parseN (l1 ++ l2) a = (parseN l1 a).bind (parseN l2) := by
  intro l1
  induction l1 with
  | nil => intro l2 a; simp [parseN]
  | cons s l1 ih =>
    intro l2 a
    simp only [List.cons_append, parseN]
    split
    · rfl
    · split
      · rfl
      · exact ih _ _

theorem trimX_pad3 (d : Nat) : trimX (Decimal.pad3 d) = Decimal.pad3 d := by
  have hne := Decimal.pad3_ne_nil d
  have hx := Decimal.pad3_not_mem d 120 (by decide)
  cases hp : Decimal.pad3 d with
  | nil => exact absurd hp hne
  | cons c r =>
    rw [hp] at hx
    have hc : c ≠ 120 := fun e => hx (by simp [e])
    unfold trimX
    split
    · rename_i heq
      simp only [List.cons.injEq] at heq
      exact absurd heq.1 hc
    · rfl

theorem parseN_single (d a : Nat) (h : d < 1000) :
    parseN [Decimal.pad3 d] a = some (a * 1000 + d) := by
  simp only [parseN, trimX_pad3, Decimal.parseInt64_pad3 d h, pathBase]
  have : ¬ ((d : Int) < 0 ∨ (d : Int) ≥ 1000) := by omega
  simp [this]

theorem parseN_single_x (d a : Nat) (h : d < 1000) :
    parseN [120 :: Decimal.pad3 d] a = some (a * 1000 + d) := by
  have := parseN_single d a h
  simp only [parseN, trimX_pad3] at this
  simp only [parseN, trimX]
  exact this

theorem parseN_hi : ∀ (f n : Nat), n ≤ f → parseN (hi f n) 0 = some (n / 1000) := by
  intro f
  induction f with
  | zero => intro n h; have : n = 0 := by omega
            subst this; simp [hi, parseN]
  | succ f ih =>
    intro n h
    have hb : pathBase = 1000 := rfl
    by_cases hge : n ≥ pathBase
    · simp only [hi, if_pos hge]
      rw [hb] at hge ⊢
      rw [parseN_append, ih (n / 1000) (by omega)]
      simp only [Option.bind_some]
      rw [parseN_single_x _ _ (Nat.mod_lt _ (by omega))]
      congr 1
      omega
    · simp only [hi, if_neg hge]
      rw [hb] at hge
      simp only [parseN]
      congr 1
      omega

theorem B_tile_slash : B "tile/" = B "tile" ++ [47] := by decide +kernel
theorem B_dotp_slash : B ".p/" = B ".p" ++ [47] := by decide +kernel

theorem splitOn_tilePath (t : Tile) :
    splitOn 47 (tilePath t) = B "tile" :: Decimal.formatNat t.h ::
      (if t.data then B "data" else Decimal.formatNat t.l) ::
      (hi t.n t.n ++ splitOn 47 (Decimal.pad3 (t.n % pathBase) ++
        (if t.w != 2 ^ t.h then B ".p/" ++ Decimal.formatNat t.w else []))) := by
  have h1 : (47 : UInt8) ∉ B "tile" := by decide +kernel
  have h2 := Decimal.formatNat_not_mem t.h 47 (by decide)
  have h3 : (47 : UInt8) ∉ (if t.data then B "data" else Decimal.formatNat t.l) := by
    split
    · decide +kernel
    · exact Decimal.formatNat_not_mem t.l 47 (by decide)
  unfold tilePath
  simp only [B_tile_slash, List.append_assoc, List.cons_append, List.nil_append]
  rw [splitOn_noSep_append 47 _ _ h1, splitOn_noSep_append 47 _ _ h2, splitOn_noSep_append 47 _ _ h3, pathN_append, splitOn_pathN]

/-- `ParseTilePath(t.Path()) = t` for a valid tile.  (`hl`: Go's `Tile.L` is an `int`; the model's `l` is
    an unbounded `Nat`, and `parseTilePath` reads it with `parseInt64`.) -/
theorem tilePath_roundtrip (t : Tile) (hh : 1 ≤ t.h ∧ t.h ≤ 30) (hw : 1 ≤ t.w ∧ t.w ≤ 2 ^ t.h)
    (hn : t.n < 2 ^ 63) (hl : t.l < 2 ^ 63) (hd : t.data = true → t.l = 0) :
    parseTilePath (tilePath t) = some t := by
  have hsplit := splitOn_tilePath t
  obtain ⟨h, l, n, w, data⟩ := t
  simp only at hh hw hn hl hd hsplit
  have hl0 : (if data = true then 0 else l) = l := by
    cases data with
    | false => rfl
    | true => simp [hd rfl]
  have hfh : Decimal.parseInt64 (Decimal.formatNat h) = some (h : Int) :=
    Decimal.parseInt64_formatNat h (by simp only [Decimal.int64Max]; omega)
  have hL : ((if data = true then B "data" else Decimal.formatNat l) == B "data") = data := by
    cases data with
    | true => simp
    | false =>
      have : Decimal.formatNat l ≠ B "data" := by
        intro e
        have h100 : (100 : UInt8) ∈ B "data" := by decide +kernel
        rw [← e] at h100
        exact Decimal.formatNat_not_mem l 100 (by decide) h100
      simpa using this
  have hL' : Decimal.parseInt64 (if data = true then B "0"
      else (if data = true then B "data" else Decimal.formatNat l)) = some (l : Int) := by
    cases data with
    | true =>
      have : l = 0 := hd rfl
      subst this
      decide +kernel
    | false =>
      simp only [Bool.false_eq_true, if_false]
      exact Decimal.parseInt64_formatNat l (by simp only [Decimal.int64Max]; omega)
  have hr : n % pathBase < 1000 := Nat.mod_lt _ (by decide)
  have hpn : parseN (hi n n ++ [Decimal.pad3 (n % pathBase)]) 0 = some n := by
    rw [parseN_append, parseN_hi n n (Nat.le_refl _)]
    simp only [Option.bind_some]
    rw [parseN_single _ _ hr]
    congr 1
    have hb : pathBase = 1000 := rfl
    rw [hb]; omega
  have hnop0 : ∀ e ∈ B "tile" :: Decimal.formatNat h ::
      (if data = true then B "0" else (if data = true then B "data" else Decimal.formatNat l)) ::
      hi n n, (112 : UInt8) ∉ e := by
    intro e he
    simp only [List.mem_cons] at he
    rcases he with rfl | rfl | rfl | he
    · decide +kernel
    · exact Decimal.formatNat_not_mem h 112 (by decide)
    · cases data with
      | true => simp only [if_true]; decide +kernel
      | false => exact Decimal.formatNat_not_mem l 112 (by decide)
    · exact hi_no_p n n e he
  by_cases hfull : w = 2 ^ h
  · subst hfull
    have hsp : splitOn 47 (tilePath ⟨h, l, n, 2 ^ h, data⟩) = B "tile" :: Decimal.formatNat h ::
        (if data = true then B "data" else Decimal.formatNat l) ::
        (hi n n ++ [Decimal.pad3 (n % pathBase)]) := by
      rw [hsplit]
      simp [splitOn_noSep 47 _ (Decimal.pad3_not_mem (n % pathBase) 47 (by decide))]
    have hnop : ∀ e ∈ B "tile" :: Decimal.formatNat h ::
        (if data = true then B "0" else (if data = true then B "data" else Decimal.formatNat l)) ::
        (hi n n ++ [Decimal.pad3 (n % pathBase)]), (112 : UInt8) ∉ e := by
      intro e he
      simp only [List.mem_cons, List.mem_append, List.not_mem_nil, or_false] at he
      rcases he with he | he | he | he | he
      · exact hnop0 e (by simp [he])
      · exact hnop0 e (by simp [he])
      · exact hnop0 e (by simp [he])
      · exact hnop0 e (by simp [he])
      · subst he; exact Decimal.pad3_not_mem _ 112 (by decide)
    have := parse_eval_full _ _ _ _ h l n data hsp (by simp) hfh hL hL' hh.1 hh.2 hnop hpn hn
      (by rw [hl0])
    rw [hl0] at this
    exact this
  · have hne : (w != 2 ^ h) = true := by simpa using hfull
    have hsp : splitOn 47 (tilePath ⟨h, l, n, w, data⟩) = B "tile" :: Decimal.formatNat h ::
        (if data = true then B "data" else Decimal.formatNat l) ::
        (hi n n ++ [Decimal.pad3 (n % pathBase) ++ B ".p", Decimal.formatNat w]) := by
      rw [hsplit]
      simp only [hne, if_true, B_dotp_slash]
      have h47 : (47 : UInt8) ∉ Decimal.pad3 (n % pathBase) ++ B ".p" := by
        simp only [List.mem_append, not_or]
        exact ⟨Decimal.pad3_not_mem _ 47 (by decide), by decide +kernel⟩
      have := splitOn_noSep_append 47 (Decimal.formatNat w) _ h47
      simp only [List.append_assoc, List.singleton_append] at this ⊢
      rw [this, splitOn_noSep 47 _ (Decimal.formatNat_not_mem w 47 (by decide))]
    have hfw : Decimal.parseInt64 (Decimal.formatNat w) = some (w : Int) := by
      apply Decimal.parseInt64_formatNat
      have : 2 ^ h ≤ 2 ^ 30 := Nat.pow_le_pow_right (by omega) hh.2
      simp only [Decimal.int64Max]; omega
    have := parse_eval_partial _ _ _ _ _ _ h l n w data hsp hfh hL hL' hh.1 hh.2 hfw hw.1
      (by omega) hpn hn (by rw [hl0])
    rw [hl0] at this
    exact this

end ModVerif.Tile
