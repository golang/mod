/-
  Byte-offset consistency of lexed tokens.

  `Inv data i`: the lexer state `i` is a split of the input `data` (consumed ++ remaining), its
  position's byte offset is the number of consumed bytes, and the bytes of the token being scanned are
  the last consumed bytes, starting at the token's recorded byte offset.  Every lexer step preserves it.

  The four lexer loops are walked on BOTH outcomes for an arbitrary predicate `P` that `readRune` preserves
  (`Res P Q`: a result satisfying `P`, or an error at a position satisfying `Q`); `readComment` / `readToken` at that
  level, for the position invariant, are in ModfileC20Lex.  (The successful steps alone, as exact relations, are
  ModfileScan; progress and the absence of internal errors are the `*_spec` lemmas of ModfileLex.)
  `TokOK`: what holds right after a token has been delivered; `Reach data`: the lexer states the parser can be in.
-/
import ModVerif.Model.Modfile.Lex
import ModVerif.Proofs.ModfileLex
namespace ModVerif.Proofs.ModfilePos
open ModVerif ModVerif.Modfile ModVerif.Proofs.ModfileLex

structure Inv (data : Bytes) (i : Input) : Prop where
  split : i.consumedRev.reverse ++ i.remaining = data
  byte : i.pos.byte = i.consumedRev.length
  tok : ∃ pre, i.consumedRev = i.tokRev ++ pre ∧ pre.length = i.token.pos.byte

theorem inv_newInput (data : Bytes) : Inv data (newInput data) :=
  ⟨rfl, rfl, ⟨[], rfl, rfl⟩⟩

theorem inv_readRune {data : Bytes} {i i' : Input} {r : Nat} (hi : Inv data i) (h : readRune i = .ok (r, i')) :
    Inv data i' := by
  unfold readRune at h
  split at h
  · cases h
  · rename_i a t hrem
    have hw := decodeRune_width i.remaining (by rw [hrem]; simp)
    simp only [Except.ok.injEq, Prod.mk.injEq] at h
    obtain ⟨_, rfl⟩ := h
    obtain ⟨pre, hpre, hlen⟩ := hi.tok
    refine ⟨?_, ?_, ⟨pre, ?_, hlen⟩⟩
    · simp only [List.reverse_append, List.reverse_reverse, List.append_assoc, List.take_append_drop]
      exact hi.split
    · have : (List.take (Utf8.decodeRune i.remaining).2 i.remaining).length = (Utf8.decodeRune i.remaining).2 := by
        rw [List.length_take]; omega
      split <;> simp [hi.byte, this] <;> omega
    · simp only [hpre, List.append_assoc]

theorem inv_startToken {data : Bytes} {i : Input} (hi : Inv data i) : Inv data (startToken i) :=
  ⟨hi.split, hi.byte, ⟨i.consumedRev, rfl, hi.byte.symm⟩⟩

theorem inv_endToken {data : Bytes} {i : Input} (k : TokKind) (hi : Inv data i) : Inv data (endToken k i) :=
  ⟨hi.split, hi.byte, hi.tok⟩

end ModVerif.Proofs.ModfilePos

namespace ModVerif.Proofs.ModfileC20
open ModVerif ModVerif.Modfile

theorem readRune_err {i : Input} {e : SynErr} (h : readRune i = .error e) : e.pos = i.pos := by
  unfold readRune at h
  split at h
  · cases h; rfl
  · cases h

def Res (P : Input → Prop) (Q : Position → Prop) : Except SynErr Input → Prop
  | .ok i => P i
  | .error e => Q e.pos

section res
variable {P : Input → Prop} {Q : Position → Prop}
  (hP : ∀ i r i', P i → readRune i = .ok (r, i') → P i') (hQ : ∀ i, P i → Q i.pos)
include hP hQ

theorem skipSpaces_res : ∀ (fuel : Nat) (i : Input), P i → Res P Q (skipSpaces fuel i) := by
  intro fuel
  induction fuel with
  | zero => intro i hp; exact hQ i hp
  | succ n ih =>
    intro i hp
    unfold skipSpaces
    split
    · exact hp
    · simp only
      split
      · cases h1 : readRune i with
        | error e => simp only [bind, Except.bind]; show Q e.pos; rw [readRune_err h1]; exact hQ i hp
        | ok v => simp only [bind, Except.bind]; exact ih v.2 (hP i v.1 v.2 hp (by rw [h1]))
      · exact hp

theorem consumeLine_res : ∀ (fuel : Nat) (i : Input), P i → Res P Q (consumeLine fuel i) := by
  intro fuel
  induction fuel with
  | zero => intro i hp; exact hQ i hp
  | succ n ih =>
    intro i hp
    unfold consumeLine
    split
    · exact hp
    · cases h1 : readRune i with
      | error e => simp only [bind, Except.bind]; show Q e.pos; rw [readRune_err h1]; exact hQ i hp
      | ok v =>
        simp only [bind, Except.bind]
        have hv := hP i v.1 v.2 hp (by rw [h1])
        split
        · exact hv
        · exact ih v.2 hv

theorem readIdent_res : ∀ (fuel : Nat) (i : Input), P i → Res P Q (readIdent fuel i) := by
  intro fuel
  induction fuel with
  | zero => intro i hp; exact hQ i hp
  | succ n ih =>
    intro i hp
    unfold readIdent
    split
    · split
      · exact hp
      · split
        · exact hQ i hp
        · cases h1 : readRune i with
          | error e => simp only [bind, Except.bind]; show Q e.pos; rw [readRune_err h1]; exact hQ i hp
          | ok v => simp only [bind, Except.bind]; exact ih v.2 (hP i v.1 v.2 hp (by rw [h1]))
    · exact hp

theorem readString_res (hT : ∀ i, P i → Q i.token.pos) (q : Nat) :
    ∀ (fuel : Nat) (i : Input), P i → Res P Q (readString q fuel i) := by
  intro fuel
  induction fuel with
  | zero => intro i hp; exact hQ i hp
  | succ n ih =>
    intro i hp
    unfold readString
    split
    · exact hT i hp
    · split
      · exact hQ i hp
      · cases h1 : readRune i with
        | error e => simp only [bind, Except.bind]; show Q e.pos; rw [readRune_err h1]; exact hQ i hp
        | ok v =>
          simp only [bind, Except.bind]
          have hv := hP i v.1 v.2 hp (by rw [h1])
          split
          · exact hv
          · split
            · split
              · exact hT v.2 hv
              · cases h2 : readRune v.2 with
                | error e => simp only; show Q e.pos; rw [readRune_err h2]; exact hQ v.2 hv
                | ok w => simp only; exact ih w.2 (hP v.2 w.1 w.2 hv (by rw [h2]))
            · exact ih v.2 hv

end res

end ModVerif.Proofs.ModfileC20

namespace ModVerif.Proofs.ModfilePos
open ModVerif ModVerif.Modfile ModVerif.Proofs.ModfileLex ModVerif.Proofs.ModfileC20

/-- what holds of the state right after a token has been delivered -/
structure TokOK (data : Bytes) (i : Input) : Prop where
  inv : Inv data i
  text : i.token.text <+: i.tokRev.reverse
  endPos : i.token.endPos = i.pos

theorem tokOK_spec {data : Bytes} {i : Input} (h : TokOK data i) :
    i.token.text <+: data.drop i.token.pos.byte ∧
    i.token.endPos.byte = i.pos.byte ∧
    i.token.pos.byte + i.tokRev.length = i.token.endPos.byte ∧
    data.drop i.pos.byte = i.remaining ∧ i.pos.byte ≤ data.length := by
  obtain ⟨pre, hpre, hlen⟩ := h.inv.tok
  have hd : data = pre.reverse ++ (i.tokRev.reverse ++ i.remaining) := by
    rw [← h.inv.split, hpre]; simp
  have hbyte := h.inv.byte
  refine ⟨?_, by rw [h.endPos], ?_, ?_, ?_⟩
  · have : data.drop i.token.pos.byte = i.tokRev.reverse ++ i.remaining := by
      rw [hd, ← hlen, ← List.length_reverse]
      exact List.drop_left
    rw [this]
    exact List.IsPrefix.trans h.text (List.prefix_append _ _)
  · rw [h.endPos, hbyte, hpre]; simp; omega
  · rw [← h.inv.split, hbyte, ← List.length_reverse]
    exact List.drop_left
  · rw [← h.inv.split, hbyte]; simp

end ModVerif.Proofs.ModfilePos

namespace ModVerif.Proofs.ModfilePos
open ModVerif ModVerif.Modfile

/-- The lexer states the parser can be in: it primes the lexer with `readToken (newInput data)`, calls
    `readToken` (through `lex`) and otherwise only bumps the line-identity counter. -/
inductive Reach (data : Bytes) : Input → Prop
  | start {i : Input} : readToken (newInput data) = .ok i → Reach data i
  | lex {i i' : Input} : Reach data i → readToken i = .ok i' → Reach data i'
  | setId {i : Input} (n : Nat) : Reach data i → Reach data { i with nextId := n }

end ModVerif.Proofs.ModfilePos
