/-
  what `File.SetRequire` needs of `File.AddNewRequire` and `File.SortBlocks`
  (`AddNewRequireSpec`, `SortBlocksSpec`: the simulation statements), loop 3 of SetRequire
  (the additions, in INSERTION order of the map `need` = the model's `perm = id`), and the composition.
-/
import ModVerif.Proofs.TieFnEditSetB
namespace ModVerif.Tie.FnEditSetC
open ModVerif ModVerif.GoRt ModVerif.Generated.Edit ModVerif.Tie.FnEditRep ModVerif.Tie.FnEditTreeA ModVerif.Tie.FnEditLoop
  ModVerif.Tie.FnEditSetA ModVerif.Tie.FnEditSetB
open ModVerif.Modfile.Edit (Want needMap setRequireLoop EFile addNewRequire sortBlocks setRequire)

/-- the simulation statement of `File_AddNewRequire` against `Modfile.Edit.addNewRequire`; `FA e path` is its fuel demand;
    discharged, like the other `…Spec` hypotheses of the bulk setters, in Tie/FnEditSet.lean (`addNewRequireSpec`) -/
def AddNewRequireSpec (isPrint : Int → Bool) (quote : Bytes → Bytes) (FA : EFile → Bytes → Nat) : Prop :=
  ∀ (h : Heap) (fp : Int) (e : EFile) (path vers : Bytes) (ind : Bool) (fuel : Nat),
    RepF h fp e → FA e path ≤ fuel →
    ∃ h', File_AddNewRequire isPrint quote fuel fp path vers ind h = .ok ((), h') ∧ RepF h' fp (addNewRequire e path vers ind)

/-- the simulation statement of `File_SortBlocks` against `Modfile.Edit.sortBlocks`; `FS e` is its fuel demand (`sortBlocksSpec`) -/
def SortBlocksSpec (FS : EFile → Nat) : Prop :=
  ∀ (h : Heap) (fp : Int) (e : EFile) (fuel : Nat),
    RepF h fp e → FS e ≤ fuel →
    ∃ h', File_SortBlocks fuel fp h = .ok ((), h') ∧ RepF h' fp (sortBlocks e)

def addAll (e : EFile) (need : List Want) : EFile := need.foldl (fun e w => addNewRequire e w.path w.vers w.indirect) e

@[simp] theorem addAll_nil (e : EFile) : addAll e [] = e := rfl
@[simp] theorem addAll_cons (e : EFile) (w : Want) (ws : List Want) :
    addAll e (w :: ws) = addAll (addNewRequire e w.path w.vers w.indirect) ws := rfl

/-- fuel of loop 3: one per iteration on top of what each `AddNewRequire` asks for in the state it is called in -/
def fuel3 (FA : EFile → Bytes → Nat) : EFile → List Want → Nat
  | _, [] => 1
  | e, w :: ws => max (FA e w.path) (fuel3 FA (addNewRequire e w.path w.vers w.indirect) ws) + 1

theorem needG_append (a b : List Want) : needG (a ++ b) = needG a ++ needG b := by simp [needG]
theorem needG_cons (w : Want) (b : List Want) : needG (w :: b) = elemG w :: needG b := rfl

/-- **loop 3 of `File.SetRequire`** (rule.go:1235: `for path, e := range need { f.AddNewRequire(…) }`, here in insertion order)
    is the model's `addAll` -/
theorem loop3_sim {isPrint : Int → Bool} {quote : Bytes → Bytes} {FA : EFile → Bytes → Nat}
    (hA : AddNewRequireSpec isPrint quote FA) (fp : Int) (need : List Want) :
    ∀ (rest pre : List Want) (ri : Int) (e : EFile) (h : Heap) (fuel : Nat),
      need = pre ++ rest → ri = (pre.length : Int) → RepF h fp e → fuel3 FA e rest ≤ fuel →
      ∃ h', File_SetRequire_loop3 isPrint quote fp (needG need) fuel ri h = .ok (len (needG need), h') ∧
        RepF h' fp (addAll e rest)
  | [], pre, ri, e, h, fuel + 1, hn, hri, R, _ => by
    subst hn hri
    have := not_lt_len_end (needG pre)
    rw [needG_length] at this
    refine ⟨h, ?_, R⟩
    simp [File_SetRequire_loop3, pure, Except.pure, needG, len_eq]
  | w :: ws, pre, ri, e, h, fuel + 1, hn, hri, R, hf => by
    subst hn hri
    simp only [fuel3] at hf
    obtain ⟨h1, hrun, R1⟩ := hA h fp e w.path w.vers w.indirect fuel R (by omega)
    obtain ⟨h', hloop, R'⟩ := loop3_sim hA fp (pre ++ w :: ws) ws (pre ++ [w]) ((pre.length : Int) + 1) _ h1 fuel
      (by simp) (by simp) R1 (by omega)
    refine ⟨h', ?_, R'⟩
    have hlt := lt_len_mid (needG pre) (elemG w) (needG ws)
    have hcur := idxL_mid (needG pre) (elemG w) (needG ws)
    rw [needG_length] at hlt hcur
    unfold File_SetRequire_loop3
    simp only [needG_append, needG_cons, hlt, decide_true, if_true, hcur, bind, Except.bind]
    have e1 : (elemG w).1 = w.path := rfl
    have e2 : (elemG w).2.version = w.vers := rfl
    have e3 : (elemG w).2.indirect = w.indirect := rfl
    simp only [e1, e2, e3, hrun]
    simpa [needG_append, needG_cons] using hloop
  | [], _, _, _, _, 0, _, _, _, hf => by simp [fuel3] at hf
  | _ :: _, _, _, _, _, 0, _, _, _, hf => by simp [fuel3] at hf

/-- fuel of `File_SetRequire`: the three loops (one per iteration) and the demands of `AddNewRequire` / `SortBlocks` in the
    states the model passes through -/
def fuelSetRequire (FA : EFile → Bytes → Nat) (FS : EFile → Nat) (e : EFile) (req : List Want) : Nat :=
  max (req.length + 1) (max (e.f.require.length + 1)
    (match needMap true req [] with
     | .ok need =>
       match setRequireLoop e.f.require need e.f.syn with
       | .ok (rq, need', syn) => max (fuel3 FA (withRS e rq syn) need') (FS (addAll (withRS e rq syn) need'))
       | .error _ => 0
     | .error _ => 0))

/-- **`File.SetRequire` on a represented file is the model's `setRequire` with `perm = id`** (the regenerated code iterates
    the map `need` in insertion order); the model's errors (`conflictingVersions`, `nilDeref`) are Go panics -/
theorem File_SetRequire_sim (hIdx : IndirectIdxOK) {isPrint : Int → Bool} {quote : Bytes → Bytes}
    {FA : EFile → Bytes → Nat} {FS : EFile → Nat} (hA : AddNewRequireSpec isPrint quote FA) (hS : SortBlocksSpec FS)
    {h : Heap} {fp : Int} {e : EFile} {ps : List Int} {req : List Want} {fuel : Nat}
    (R : RepF h fp e) (hq : ReqArgs h.requires ps req) (hf : fuelSetRequire FA FS e req ≤ fuel) :
    match setRequire e req id with
    | .ok e' => ∃ h', File_SetRequire isPrint quote fuel fp ps h = .ok ((), h') ∧ RepF h' fp e'
    | .error _ => File_SetRequire isPrint quote fuel fp ps h = .error .panic := by
  obtain ⟨o, ho, RA⟩ := R
  unfold fuelSetRequire at hf
  suffices Sim (fun e' (b : Unit × Heap) => RepF b.2 fp e') (setRequire e req id) (File_SetRequire isPrint quote fuel fp ps h) by
    split <;> rename_i hr
    · obtain ⟨⟨_, h'⟩, hb, hR⟩ := this.of_ok hr; exact ⟨h', hb, hR⟩
    · exact this.of_error hr
  have S1 : Sim (fun need b => b = (len ps, needG need)) (needMap true req [])
      (File_SetRequire_loop1 isPrint quote ps h fuel 0 []) := by
    rw [show ([] : List (Bytes × ReqElem)) = needG [] from rfl, loop1_sim isPrint quote h req ps [] ps 0 [] fuel rfl rfl hq (by omega)]
    cases needMap true req [] <;> first | rfl | exact ⟨_, rfl, rfl⟩
  unfold File_SetRequire setRequire
  refine S1.bind fun need b hn hb => ?_
  subst hb
  simp only [hn] at hf
  simp only [bind, Except.bind, ho]
  refine (loop2_sim hIdx isPrint quote fp RA need (fuel := fuel) (by omega)).bind fun res b hl ⟨hn2, hng, R2, hm2⟩ => ?_
  obtain ⟨rq, need', syn⟩ := res
  obtain ⟨n, h2', ng⟩ := b
  dsimp only at hn2 hng R2 hm2 ⊢
  subst hn2 hng
  simp only [hl] at hf
  obtain ⟨h3, hrun3, R3⟩ := loop3_sim hA fp need' need' [] 0 (withRS e rq syn) h2' fuel rfl rfl
    ⟨o, by rw [hm2]; exact ho, R2⟩ (by omega)
  obtain ⟨h4, hrun4, R4⟩ := hS h3 fp _ fuel R3 (by omega)
  simp only [hrun3, hrun4, pure, Except.pure]
  exact ⟨_, rfl, R4⟩

end ModVerif.Tie.FnEditSetC
