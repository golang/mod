/-
  C20 `pos_consistent`, lexer level: UTF-8 facts (`decodeRune` is stable under cutting the input after the
  rune, a newline byte occurs only as the newline rune, `runeCount` of an aligned prefix), the full position
  invariant (byte, line, rune-in-line) of the lexer state, its preservation by `readToken`, and what it says
  about the delivered token, about the recorded suffix comments and about the position of every lexer error.
-/
import ModVerif.Basic.GoStrings
import ModVerif.Proofs.ModfileLex
import ModVerif.Proofs.ModfilePos
namespace ModVerif.Proofs.ModfileC20Utf8
open ModVerif ModVerif.Proofs.ModfileLex

export ModVerif.Utf8 (decodeRune_prefix decodeRune_cases)

theorem decodeRune_eq_newline {s : Bytes} (hs : s ≠ []) (h : (Utf8.decodeRune s).1 = 10) :
    s.take (Utf8.decodeRune s).2 = [10] := by
  match s, hs with
  | b0 :: rest, _ =>
    obtain ⟨rfl, hw⟩ := (Utf8.decodeRune_newline b0 rest).1 h
    rw [hw]; rfl

theorem decodeRune_ne_newline {s : Bytes} (hs : s ≠ []) (h : (Utf8.decodeRune s).1 ≠ 10) :
    ∀ b ∈ s.take (Utf8.decodeRune s).2, b ≠ 10 := by
  match s, hs with
  | b0 :: rest, _ => exact (Utf8.decodeRune_newline b0 rest).2 h

theorem decodeRune_newline (s : Bytes) (hs : s ≠ []) :
    (s.take (Utf8.decodeRune s).2).count 10 = if (Utf8.decodeRune s).1 = 10 then 1 else 0 := by
  split
  · rw [decodeRune_eq_newline hs ‹_›]; rfl
  · exact List.count_eq_zero.mpr fun hm => decodeRune_ne_newline hs ‹_› 10 hm rfl

theorem runeCountAux_acc : ∀ (fuel : Nat) (s : Bytes) (n : Nat),
    GoStrings.runeCountAux fuel s n = n + GoStrings.runeCountAux fuel s 0 := by
  intro fuel
  induction fuel with
  | zero => intro s n; simp [GoStrings.runeCountAux]
  | succ k ih =>
    intro s n
    cases s with
    | nil => simp [GoStrings.runeCountAux]
    | cons a t =>
      simp only [GoStrings.runeCountAux]
      rw [ih _ (n + 1), ih _ (0 + 1)]
      omega

theorem runeCountAux_fuel : ∀ (fuel : Nat) (s : Bytes), s.length ≤ fuel →
    GoStrings.runeCountAux fuel s 0 = GoStrings.runeCountAux s.length s 0 := by
  intro fuel
  induction fuel using Nat.strongRecOn with
  | _ fuel ih =>
    intro s hle
    cases s with
    | nil => cases fuel <;> simp [GoStrings.runeCountAux]
    | cons a t =>
      cases fuel with
      | zero => simp at hle
      | succ k =>
        have hw := decodeRune_width (a :: t) (by simp)
        simp only [GoStrings.runeCountAux, List.length_cons]
        rw [runeCountAux_acc k, runeCountAux_acc t.length]
        have hlen : ((a :: t).drop (Utf8.decodeRune (a :: t)).2).length ≤ t.length := by
          simp only [List.length_drop, List.length_cons]; omega
        simp only [List.length_cons] at hle
        rw [ih k (by omega) _ (by omega), ih t.length (by omega) _ hlen]

theorem runeCount_nil : GoStrings.runeCount [] = 0 := rfl

theorem runeCount_step {s : Bytes} (hs : s ≠ []) :
    GoStrings.runeCount s = 1 + GoStrings.runeCount (s.drop (Utf8.decodeRune s).2) := by
  match s, hs with
  | a :: t, _ =>
    have hw := decodeRune_width (a :: t) (by simp)
    unfold GoStrings.runeCount
    simp only [List.length_cons, GoStrings.runeCountAux]
    rw [runeCountAux_acc]
    have hlen : ((a :: t).drop (Utf8.decodeRune (a :: t)).2).length ≤ t.length := by
      simp only [List.length_drop, List.length_cons]; omega
    rw [runeCountAux_fuel t.length _ hlen]

/-- `Aligned s k n`: decoding `s` rune by rune reaches byte offset `k` after exactly `n` runes. -/
inductive Aligned : Bytes → Nat → Nat → Prop
  | zero (s : Bytes) : Aligned s 0 0
  | step {s : Bytes} {k n : Nat} : s ≠ [] → Aligned (s.drop (Utf8.decodeRune s).2) k n →
      Aligned s ((Utf8.decodeRune s).2 + k) (n + 1)

theorem Aligned.le {s : Bytes} {k n : Nat} (h : Aligned s k n) : k ≤ s.length := by
  induction h with
  | zero s => omega
  | @step s k n hs _ ih =>
    have := decodeRune_width s hs
    simp only [List.length_drop] at ih
    omega

theorem Aligned.snoc {s : Bytes} {k n : Nat} (h : Aligned s k n) (hk : s.drop k ≠ []) :
    Aligned s (k + (Utf8.decodeRune (s.drop k)).2) (n + 1) := by
  induction h with
  | zero s =>
    have : s ≠ [] := by simpa using hk
    simpa using Aligned.step this (Aligned.zero _)
  | @step s k n hs _ ih =>
    rw [← List.drop_drop] at hk ⊢
    have := Aligned.step hs (ih hk)
    rw [Nat.add_assoc]
    exact this

theorem Aligned.runeCount {s : Bytes} {k n : Nat} (h : Aligned s k n) : GoStrings.runeCount (s.take k) = n := by
  induction h with
  | zero s => simp [runeCount_nil]
  | @step s k n hs hrest ih =>
    have hw := decodeRune_width s hs
    have hk := hrest.le
    simp only [List.length_drop] at hk
    have hne : s.take ((Utf8.decodeRune s).2 + k) ≠ [] := by
      intro h0
      have := congrArg List.length h0
      simp only [List.length_take, List.length_nil] at this
      have : 0 < s.length := List.length_pos_iff.mpr hs
      omega
    have hsplit : s = s.take ((Utf8.decodeRune s).2 + k) ++ s.drop ((Utf8.decodeRune s).2 + k) :=
      (List.take_append_drop _ _).symm
    have hpre : Utf8.decodeRune (s.take ((Utf8.decodeRune s).2 + k)) = Utf8.decodeRune s := by
      have := @decodeRune_prefix (s.take ((Utf8.decodeRune s).2 + k)) (s.drop ((Utf8.decodeRune s).2 + k))
        (by rw [← hsplit, List.length_take]; omega)
      rw [← hsplit] at this
      exact this
    rw [runeCount_step hne, hpre, List.drop_take, Nat.add_sub_cancel_left, ih]
    omega

end ModVerif.Proofs.ModfileC20Utf8

namespace ModVerif.Proofs.ModfileC20
open ModVerif ModVerif.Modfile ModVerif.Proofs.ModfileLex ModVerif.Proofs.ModfilePos ModVerif.Proofs.ModfileC20Utf8

def lastLine (c : Bytes) : Bytes := (c.reverse.takeWhile (· != 10)).reverse

/-- `lineRune` counts runes as Go's `utf8.RuneCountInString` does -/
structure PosOK (data : Bytes) (p : Position) : Prop where
  le : p.byte ≤ data.length
  line : p.line = 1 + (data.take p.byte).count 10
  lineRune : p.lineRune = 1 + GoStrings.runeCount (lastLine (data.take p.byte))

def PosAt (data : Bytes) (p : Position) (text : Bytes) : Prop :=
  PosOK data p ∧ text <+: data.drop p.byte

/-- the lexer invariant without the pending token's start (which is a dummy before the first token) -/
structure LInv0 (data : Bytes) (i : Input) : Prop where
  base : Inv data i
  line : i.pos.line = 1 + i.consumedRev.count 10
  rune1 : 1 ≤ i.pos.lineRune
  aligned : Aligned ((i.consumedRev.takeWhile (· != 10)).reverse ++ i.remaining)
              (i.consumedRev.takeWhile (· != 10)).length (i.pos.lineRune - 1)
  comments : ∀ c ∈ i.commentsRev, PosAt data c.start c.token ∧ c.suffix = true

structure LInv (data : Bytes) (i : Input) : Prop extends LInv0 data i where
  tokpos : PosOK data i.token.pos

theorem LInv0.cur {data : Bytes} {i : Input} (h : LInv0 data i) : PosOK data i.pos := by
  have hb := h.base
  have htake : data.take i.pos.byte = i.consumedRev.reverse := by
    rw [← hb.split, hb.byte, ← List.length_reverse]
    exact List.take_left
  refine ⟨?_, ?_, ?_⟩
  · rw [← hb.split, hb.byte]; simp
  · rw [htake, h.line, List.count_reverse]
  · rw [htake]
    unfold lastLine
    rw [List.reverse_reverse]
    have := h.aligned.runeCount
    rw [← List.length_reverse, List.take_left] at this
    rw [this]
    have := h.rune1
    omega

theorem linv0_newInput (data : Bytes) : LInv0 data (newInput data) :=
  ⟨inv_newInput data, rfl, Nat.le_refl 1, Aligned.zero _, by intro c hc; cases hc⟩

theorem aligned_step (c rem : Bytes) (n : Nat) (hne : rem ≠ [])
    (ha : Aligned ((c.takeWhile (· != 10)).reverse ++ rem) (c.takeWhile (· != 10)).length n) :
    Aligned ((((rem.take (Utf8.decodeRune rem).2).reverse ++ c).takeWhile (· != 10)).reverse ++
        rem.drop (Utf8.decodeRune rem).2)
      (((rem.take (Utf8.decodeRune rem).2).reverse ++ c).takeWhile (· != 10)).length
      (if (Utf8.decodeRune rem).1 = 10 then 0 else n + 1) := by
  by_cases h10 : (Utf8.decodeRune rem).1 = 10
  · rw [decodeRune_eq_newline hne h10]
    simp only [h10, if_true]
    simp only [List.reverse_cons, List.reverse_nil, List.nil_append, List.cons_append]
    rw [List.takeWhile_cons_of_neg (by decide)]
    exact Aligned.zero _
  · simp only [h10, if_false]
    have hall : ∀ b ∈ (rem.take (Utf8.decodeRune rem).2).reverse, (b != 10) = true := by
      intro b hb
      have := decodeRune_ne_newline hne h10 b (List.mem_reverse.mp hb)
      simpa using this
    rw [List.takeWhile_append_of_pos hall]
    simp only [List.reverse_append, List.reverse_reverse, List.append_assoc, List.take_append_drop,
      List.length_append, List.length_reverse]
    have hw := decodeRune_width rem hne
    have hs := ha.snoc (by rw [← List.length_reverse, List.drop_left]; exact hne)
    rw [← List.length_reverse, List.drop_left] at hs
    have hlen : (rem.take (Utf8.decodeRune rem).2).length = (Utf8.decodeRune rem).2 := by
      rw [List.length_take]; omega
    rw [hlen, Nat.add_comm]
    rw [List.length_reverse] at hs
    exact hs

theorem linv0_readRune {data : Bytes} {i i' : Input} {r : Nat} (hi : LInv0 data i) (h : readRune i = .ok (r, i')) :
    LInv0 data i' := by
  have hbase := inv_readRune hi.base h
  unfold readRune at h
  split at h
  · cases h
  · rename_i a t hrem
    have hne : i.remaining ≠ [] := by rw [hrem]; simp
    have hw := decodeRune_width i.remaining hne
    have hnl := decodeRune_newline i.remaining hne
    have hal := aligned_step i.consumedRev i.remaining _ hne hi.aligned
    have hr1 := hi.rune1
    simp only [Except.ok.injEq, Prod.mk.injEq] at h
    obtain ⟨_, rfl⟩ := h
    refine ⟨hbase, ?_, ?_, ?_, hi.comments⟩
    · show (if ((Utf8.decodeRune i.remaining).1 == 10) = true then _ else _ : Position).line = _
      simp only [List.count_append, List.count_reverse, hnl, hi.line]
      by_cases h10 : (Utf8.decodeRune i.remaining).1 = 10
      · simp [h10]; omega
      · simp [h10]
    · show 1 ≤ (if ((Utf8.decodeRune i.remaining).1 == 10) = true then _ else _ : Position).lineRune
      split <;> simp
    · by_cases h10 : (Utf8.decodeRune i.remaining).1 = 10
      · simp only [h10, if_true] at hal
        simpa [h10] using hal
      · simp only [h10, if_false] at hal
        have : i.pos.lineRune - 1 + 1 = i.pos.lineRune + 1 - 1 := by omega
        rw [this] at hal
        simpa [h10] using hal

theorem readRune_token {i i' : Input} {r : Nat} (h : readRune i = .ok (r, i')) :
    i'.token = i.token ∧ i'.commentsRev = i.commentsRev ∧ i'.nextId = i.nextId := by
  unfold readRune at h
  split at h
  · cases h
  · simp only [Except.ok.injEq, Prod.mk.injEq] at h
    obtain ⟨_, rfl⟩ := h
    exact ⟨rfl, rfl, rfl⟩

theorem linv_readRune {data : Bytes} {i i' : Input} {r : Nat} (hi : LInv data i) (h : readRune i = .ok (r, i')) :
    LInv data i' :=
  ⟨linv0_readRune hi.toLInv0 h, by rw [(readRune_token h).1]; exact hi.tokpos⟩

theorem linv_startToken {data : Bytes} {i : Input} (hi : LInv0 data i) : LInv data (startToken i) :=
  ⟨⟨inv_startToken hi.base, hi.line, hi.rune1, hi.aligned, hi.comments⟩, hi.cur⟩

theorem linv_endToken {data : Bytes} {i : Input} (k : TokKind) (hi : LInv data i) : LInv data (endToken k i) :=
  ⟨⟨inv_endToken k hi.base, hi.line, hi.rune1, hi.aligned, hi.comments⟩, hi.tokpos⟩

/-- `raw` is `text`, possibly followed by the line end that `endToken` strips from comments -/
def RawOf (text raw : Bytes) : Prop := raw = text ∨ raw = text ++ [10] ∨ raw = text ++ [13, 10]

/-- `ModfilePos.TokOK` with line and rune counts and the raw bytes of the token -/
structure TokOK2 (data : Bytes) (i : Input) : Prop where
  inv : LInv data i
  endPos : i.token.endPos = i.pos
  raw : RawOf i.token.text i.tokRev.reverse
  exact : i.token.kind.isComment = false → i.token.text = i.tokRev.reverse
  punct : ∀ c, i.token.kind = .punct c → i.token.text = [c]

theorem tokOK2_endToken {data : Bytes} {j : Input} (k : TokKind) (hj : LInv data j)
    (hp : ∀ c, k = .punct c → j.tokRev = [c]) : TokOK2 data (endToken k j) := by
  refine ⟨linv_endToken k hj, rfl, ?_, ?_, ?_⟩
  · show RawOf (if k.isComment then _ else j.tokRev).reverse j.tokRev.reverse
    split
    · split
      · rename_i r h; rw [h]; exact Or.inr (Or.inr (by simp))
      · rename_i r _ h; rw [h]; exact Or.inr (Or.inl (by simp))
      · exact Or.inl rfl
    · exact Or.inl rfl
  · intro hk
    show (if k.isComment then _ else j.tokRev).reverse = j.tokRev.reverse
    have hk : k.isComment = false := hk
    simp [hk]
  · intro c hc
    have hk : k = .punct c := hc
    show (if k.isComment then _ else j.tokRev).reverse = [c]
    subst hk
    simp [TokKind.isComment, hp c rfl]

theorem tokOK2_comments {data : Bytes} {i : Input} (c : Comment) (h : TokOK2 data i)
    (hc : PosAt data c.start c.token ∧ c.suffix = true) :
    TokOK2 data { i with commentsRev := c :: i.commentsRev } := by
  refine ⟨⟨⟨⟨h.inv.base.split, h.inv.base.byte, h.inv.base.tok⟩, h.inv.line, h.inv.rune1, h.inv.aligned, ?_⟩, h.inv.tokpos⟩,
    h.endPos, h.raw, h.exact, h.punct⟩
  intro c' hc'
  simp only [List.mem_cons] at hc'
  rcases hc' with rfl | hc'
  · exact hc
  · exact h.inv.comments c' hc'

theorem TokOK2.old {data : Bytes} {i : Input} (h : TokOK2 data i) : TokOK data i := by
  refine ⟨h.inv.base, ?_, h.endPos⟩
  rcases h.raw with h1 | h1 | h1 <;> rw [h1]
  · exact List.prefix_refl _
  · exact List.prefix_append _ _
  · exact List.prefix_append _ _

theorem TokOK2.posAt {data : Bytes} {i : Input} (h : TokOK2 data i) : PosAt data i.token.pos i.token.text :=
  ⟨h.inv.tokpos, (tokOK_spec h.old).1⟩

theorem readComment_res {data : Bytes} {i : Input} (hi : LInv0 data i) :
    Res (TokOK2 data) (PosOK data) (readComment i) := by
  unfold readComment
  have hR : ∀ i r i', LInv data i → readRune i = .ok (r, i') → LInv data i' := fun _ _ _ hp hr => linv_readRune hp hr
  have hQ : ∀ i, LInv data i → PosOK data i.pos := fun _ hp => hp.cur
  have hs := linv_startToken hi
  simp only [bind, Except.bind]
  cases h1 : readRune (startToken i) with
  | error e => show PosOK data e.pos; rw [readRune_err h1]; exact hs.cur
  | ok v1 =>
    have hv1 := hR _ v1.1 v1.2 hs (by rw [h1])
    simp only
    cases h2 : readRune v1.2 with
    | error e => show PosOK data e.pos; rw [readRune_err h2]; exact hv1.cur
    | ok v2 =>
      have hv2 := hR _ v2.1 v2.2 hv1 (by rw [h2])
      simp only
      have h3 := consumeLine_res hR hQ (v2.2.remaining.length + 1) v2.2 hv2
      cases hc : consumeLine (v2.2.remaining.length + 1) v2.2 with
      | error e => rw [hc] at h3; exact h3
      | ok v3 =>
        rw [hc] at h3
        simp only
        have ht := tokOK2_endToken (data := data) (j := v3) .comment h3 (by intro c hc; cases hc)
        have ht2 := tokOK2_endToken (data := data) (j := v3) .eolComment h3 (by intro c hc; cases hc)
        split
        · exact ht
        · exact tokOK2_comments _ ht2 ⟨ht2.posAt, rfl⟩

theorem isPunct_lt {c : Nat} (h : isPunct c = true) : c < 128 := by
  simp [isPunct, punctRunes] at h
  omega

theorem readRune_ascii_tokRev {i i' : Input} {r : Nat} (h : readRune i = .ok (r, i')) (hr : i.peekRune < 128) :
    i'.tokRev = UInt8.ofNat i.peekRune :: i.tokRev := by
  unfold readRune at h
  unfold Input.peekRune at hr ⊢
  split at h
  · cases h
  · rename_i a t hrem
    simp only [Except.ok.injEq, Prod.mk.injEq] at h
    obtain ⟨_, rfl⟩ := h
    rw [hrem] at hr ⊢
    simp only at hr ⊢
    rcases decodeRune_cases a t with ⟨hlt, heq⟩ | ⟨hge, hr2, _⟩
    · rw [heq]
      simp
    · omega

theorem readToken_res {data : Bytes} {i : Input} (hi : LInv0 data i) :
    Res (TokOK2 data) (PosOK data) (readToken i) := by
  unfold readToken
  have hR0 : ∀ i r i', LInv0 data i → readRune i = .ok (r, i') → LInv0 data i' := fun _ _ _ hp hr => linv0_readRune hp hr
  have hQ0 : ∀ i, LInv0 data i → PosOK data i.pos := fun _ hp => hp.cur
  have hR : ∀ i r i', LInv data i → readRune i = .ok (r, i') → LInv data i' := fun _ _ _ hp hr => linv_readRune hp hr
  have hQ : ∀ i, LInv data i → PosOK data i.pos := fun _ hp => hp.cur
  have hT : ∀ i, LInv data i → PosOK data i.token.pos := fun _ hp => hp.tokpos
  have h0 := skipSpaces_res hR0 hQ0 (i.remaining.length + 1) i hi
  simp only [bind, Except.bind]
  cases hs : skipSpaces (i.remaining.length + 1) i with
  | error e => rw [hs] at h0; exact h0
  | ok i0 =>
    rw [hs] at h0
    simp only
    split
    · exact readComment_res h0
    · split
      · exact h0.cur
      · have hst := linv_startToken h0
        split
        · exact tokOK2_endToken _ hst (by intro c hc; cases hc)
        · split
          · rename_i hpun
            cases h1 : readRune (startToken i0) with
            | error e => show PosOK data e.pos; rw [readRune_err h1]; exact hst.cur
            | ok v1 =>
              have hv1 := hR _ v1.1 v1.2 hst (by rw [h1])
              simp only
              refine tokOK2_endToken _ hv1 ?_
              intro c hc
              have htr := readRune_ascii_tokRev (show readRune (startToken i0) = .ok (v1.1, v1.2) by rw [h1]) (isPunct_lt hpun)
              rw [htr]
              simp only [TokKind.punct.injEq] at hc
              rw [hc]; rfl
          · split
            · cases h1 : readRune (startToken i0) with
              | error e => show PosOK data e.pos; rw [readRune_err h1]; exact hst.cur
              | ok v1 =>
                have hv1 := hR _ v1.1 v1.2 hst (by rw [h1])
                simp only
                have h2 := readString_res hR hQ hT (startToken i0).peekRune (v1.2.remaining.length + 1) v1.2 hv1
                cases hrs : readString (startToken i0).peekRune (v1.2.remaining.length + 1) v1.2 with
                | error e => rw [hrs] at h2; exact h2
                | ok v2 =>
                  rw [hrs] at h2
                  exact tokOK2_endToken _ h2 (by intro c hc; cases hc)
            · split
              · exact hst.cur
              · have h2 := readIdent_res hR hQ ((startToken i0).remaining.length + 1) (startToken i0) hst
                cases hri : readIdent ((startToken i0).remaining.length + 1) (startToken i0) with
                | error e => rw [hri] at h2; exact h2
                | ok v2 =>
                  rw [hri] at h2
                  exact tokOK2_endToken _ h2 (by intro c hc; cases hc)

theorem reach_tokOK2 {data : Bytes} {i : Input} (h : Reach data i) : TokOK2 data i := by
  induction h with
  | start h =>
    have := readToken_res (linv0_newInput data)
    rw [h] at this; exact this
  | lex _ h ih =>
    have := readToken_res ih.inv.toLInv0
    rw [h] at this; exact this
  | setId n _ ih =>
    exact ⟨⟨⟨⟨ih.inv.base.split, ih.inv.base.byte, ih.inv.base.tok⟩, ih.inv.line, ih.inv.rune1, ih.inv.aligned,
      ih.inv.comments⟩, ih.inv.tokpos⟩, ih.endPos, ih.raw, ih.exact, ih.punct⟩

theorem _root_.ModVerif.Proofs.ModfilePos.reach_tokOK {data : Bytes} {i : Input} (h : Reach data i) : TokOK data i :=
  (reach_tokOK2 h).old

def EndsAt (data : Bytes) (p : Position) (text : Bytes) : Prop :=
  PosOK data p ∧ ∃ raw, RawOf text raw ∧ raw <:+ data.take p.byte

/-- what the parser may assume about a token it takes from the lexer -/
structure TokFacts (data : Bytes) (tok : Token) : Prop where
  start : PosAt data tok.pos tok.text
  «end» : EndsAt data tok.endPos tok.text
  exactEnd : tok.kind.isComment = false → tok.text <:+ data.take tok.endPos.byte
  punct : ∀ c, tok.kind = .punct c → tok.text = [c]

theorem TokOK2.facts {data : Bytes} {i : Input} (h : TokOK2 data i) : TokFacts data i.token := by
  have hb := h.inv.base
  have htake : data.take i.pos.byte = i.consumedRev.reverse := by
    rw [← hb.split, hb.byte, ← List.length_reverse]
    exact List.take_left
  obtain ⟨pre, hpre, _⟩ := hb.tok
  have hsuf : i.tokRev.reverse <:+ data.take i.token.endPos.byte := by
    rw [h.endPos, htake, hpre, List.reverse_append]
    exact List.suffix_append _ _
  refine ⟨h.posAt, ⟨by rw [h.endPos]; exact h.inv.cur, _, h.raw, hsuf⟩, ?_, h.punct⟩
  intro hk
  rw [h.exact hk]; exact hsuf

theorem readToken_err_pos {data : Bytes} {i : Input} {e : SynErr} (h : Reach data i) (he : readToken i = .error e) :
    PosOK data e.pos := by
  have := readToken_res (reach_tokOK2 h).inv.toLInv0
  rw [he] at this; exact this

theorem readToken_first_err_pos {data : Bytes} {e : SynErr} (he : readToken (newInput data) = .error e) :
    PosOK data e.pos := by
  have := readToken_res (linv0_newInput data)
  rw [he] at this; exact this

end ModVerif.Proofs.ModfileC20
