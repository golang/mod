/-
  C10: the honest server (abstract true-hash function `T`): every check of ReadHashes passes, the true stored hashes
  are returned and exactly the planned tiles with their true contents are saved.
-/
import ModVerif.Proofs.TileAuthMain
namespace ModVerif.TileAuth
open ModVerif ModVerif.Tlog ModVerif.Tile ModVerif.TlogStore

theorem lv_lt_63 (N lv k : Nat) (hv : (k + 1) * 2 ^ lv ≤ N) (hN : N < 2 ^ 63) : lv < 63 := by
  have : 1 * 2 ^ lv ≤ (k + 1) * 2 ^ lv := Nat.mul_le_mul_right _ (by omega)
  have h2 : 2 ^ lv < 2 ^ 63 := by omega
  exact (Nat.pow_lt_pow_iff_right (by omega)).mp h2

section
variable {H : Type} (node : H → H → H) (T : Nat → Nat → H) (N : Nat) (th : H) (st : List H)

theorem hashList_of_get (tiles : List Tile) (data : List (List H)) : ∀ (l : List (Nat × Nat)) (hs : List H),
    hs.length = l.length →
    (∀ (i x j : Nat), l[i]? = some (x, j) → ∃ v, hs[i]? = some v ∧ hashAt node tiles data j x = .ok v) →
    hashList node tiles data l = .ok hs := by
  intro l
  induction l with
  | nil =>
    intro hs h _
    have : hs = [] := List.eq_nil_of_length_eq_zero (by simpa using h)
    subst this; rfl
  | cons a l ih =>
    intro hs h hp
    obtain ⟨x, j⟩ := a
    cases hs with
    | nil => simp at h
    | cons v hs =>
      obtain ⟨v', e1, e2⟩ := hp 0 x j rfl
      simp only [List.getElem?_cons_zero, Option.some.injEq] at e1
      subst e1
      simp only [hashList, e2, ih hs (by simpa using h) (fun i x' j' hi => by simpa using hp (i + 1) x' j' (by simpa using hi)),
        bind, Except.bind, pure, Except.pure]

theorem hashAt_home (env : Env node T N st) (h : Nat) (h1 : 1 ≤ h) (h2 : h ≤ 30) (hN : N < 2 ^ 63)
    (tiles : List Tile) (data : List (List H)) (j x : Nat) (c : Nat × Nat)
    (hs : splitStoredHashIndex x = .ok c) (hv : (c.2 + 1) * 2 ^ c.1 ≤ N)
    (ht : tiles[j]? = some (home h N c))
    (hd : data[j]? = some (tdata T (home h N c).h (home h N c).l (home h N c).n (home h N c).w)) :
    hashAt node tiles data j x = .ok (T c.1 c.2) := by
  unfold hashAt
  rw [ht, hd]
  simp only
  have hnz := home_nonzero h N c (by omega) hv
  obtain ⟨f1, f2, f3, f4, f5⟩ := stdTile_fields N h (c.1 / h) (tnum h c.1 c.2) hnz
  rw [← home] at f1 f2 f3 f4 f5
  have hlv := lv_lt_63 N c.1 c.2 hv hN
  have hdiv : c.1 / h ≤ c.1 := Nat.div_le_self _ _
  have hin := coord_in_tile h N c.1 c.2 (by omega) hv
  have hle := ts_le h c.1 c.2 (by omega)
  exact hashFromTile_good node T N env.step (home h N c) x c.1 c.2 hs hv (by omega) (by omega) f5 (by omega)
    (by rw [f4, f1]; omega) (by rw [f1, f2]) (by rw [f1, f3]) (by rw [f1, f4]; omega)

variable [DecidableEq H]

/-- ★ (abstract form) against the honest server every check passes: the result is the list of true stored hashes and
    SaveTiles receives exactly the planned tiles with their true contents -/
theorem honest_abs (env : Env node T N st)
    (hroot : ∀ cs, Cover cs 0 N → foldR node (cs.map fun c => T c.1 c.2) = some th)
    (h : Nat) (h1 : 1 ≤ h) (h2 : h ≤ 30) (hN : N < 2 ^ 63) (hpos : 0 < N) (idx : List Nat)
    (hidx : ∀ x ∈ idx, x < storedHashIndex 0 N) :
    ∃ p data hs, plan h N idx = .ok p ∧ p.tiles.mapM (trueTile st) = some data ∧ idx.mapM (st[·]?) = some hs ∧
      (readHashes node N th h idx (trueTile st)).saved = some (p.tiles.zip data) ∧
      (readHashes node N th h idx (trueTile st)).result = .ok hs := by
  have hh : 0 < h := by omega
  obtain ⟨cs, p, hp, ok⟩ := plan_spec h N hh hN env.split idx (env_hidx node T N st env idx hidx)
  have hm : p.tiles.mapM (trueTile st) = some (p.tiles.map fun t => tdata T t.h t.l t.n t.w) := by
    apply mapM_option_some
    intro t ht
    obtain ⟨g1, _, g3, _, g5, _⟩ := std_facts N h t (ok.inv.std t ht)
    exact trueTile_eq node T N st env t g3 (by rw [g1]; exact g5)
  generalize hdat : (p.tiles.map fun t => tdata T t.h t.l t.n t.w) = data at hm
  have hdata : ∀ (i : Nat) (t : Tile), p.tiles[i]? = some t → data[i]? = some (tdata T t.h t.l t.n t.w) := by
    intro i t ht
    rw [← hdat, List.getElem?_map, ht]; rfl
  have hwd : widthsOk p.tiles data = true := by
    apply widthsOk_of
    · rw [← hdat]; simp
    · intro i t d ht hd
      rw [hdata i t ht] at hd
      cases hd
      exact tdata_length T _ _ _ _
  have hstxne : p.stx.isEmpty = false := by
    rw [ok.stx]
    cases hcs : cs with
    | nil =>
      have := ok.cover
      rw [hcs] at this
      simp [Cover] at this
      omega
    | cons c cs' => rfl
  -- the tree-hash recomputation
  have hauth : authenticate node N th p data = .ok () := by
    apply authenticate_of node N th p data (cs.map fun c => T c.1 c.2) ?_ (hroot cs ok.cover) ?_
    · apply hashList_of_get
      · rw [List.length_zip, ok.stx, ok.stoLen]; simp
      · intro i x j hz
        rw [List.getElem?_zip_eq_some, ok.stx, List.getElem?_map] at hz
        obtain ⟨z1, z2⟩ := hz
        cases hc : cs[i]? with
        | none => rw [hc] at z1; cases z1
        | some c =>
          rw [hc] at z1
          simp only [Option.map_some, Option.some.injEq] at z1
          obtain ⟨j', s1, _, s3⟩ := ok.sto i c hc
          have hjj : j' = j := by rw [s1] at z2; exact Option.some.inj z2
          subst hjj
          refine ⟨T c.1 c.2, by rw [List.getElem?_map, hc]; rfl, ?_⟩
          have hv := cover_bound cs 0 N ok.cover c (List.mem_iff_getElem?.mpr ⟨i, hc⟩)
          rw [← z1]
          exact hashAt_home node T N st env h h1 h2 hN p.tiles data j' (idxOf c) c (env.split c.1 c.2 hv) hv s3
            (hdata j' _ s3)
    · apply authChildren_of
      intro i' hi1 hi2
      have hil : i' < p.tiles.length := by have := ok.nstxLe; omega
      have ht : p.tiles[i']? = some p.tiles[i'] := List.getElem?_eq_getElem hil
      generalize p.tiles[i'] = t at ht
      obtain ⟨hfw, j, hj, hpar⟩ := ok.inv.child i' t hi1 ht
      obtain ⟨g1, g2, g3, g4, g5, g6⟩ := std_facts N h t (ok.inv.std t (List.mem_iff_getElem?.mpr ⟨i', ht⟩))
      have hp2 := Nat.two_pow_pos h
      have hfull : (t.n + 1) * 2 ^ h ≤ cnt h N t.l := by rw [Nat.add_mul]; omega
      have hpn := parent_of_full h N t.l t.n hfull
      have hpe : tileParent t 1 N = stdTile h N (t.l + 1) (t.n / 2 ^ h) := by
        rw [tileParent_eq t 1 N g2, g1, Nat.one_mul]
      have hvalid : (t.n + 1) * 2 ^ ((t.l + 1) * h) ≤ N := (valid_iff h N (t.l + 1) t.n).mpr hpn
      have hhome : tileParent t 1 N = home h N ((t.l + 1) * h, t.n) := by
        rw [hpe]
        simp only [home, tnum, Nat.mul_div_cancel _ hh, Nat.mul_mod_left, Nat.sub_zero]
      have hpfields := stdTile_fields N h (t.l + 1) (t.n / 2 ^ h) (by
        have := Nat.div_mul_le_self t.n (2 ^ h); omega)
      rw [← hpe] at hpfields
      obtain ⟨q1, q2, _, _, _⟩ := hpfields
      refine ⟨t, _, j, _, T ((t.l + 1) * h) t.n, ht, hdata i' t ht, (ok.inv.look _ j).mpr hpar, hdata j _ hpar, ?_, ?_⟩
      · have := hashAt_home node T N st env h h1 h2 hN p.tiles data j (storedHashIndex ((t.l + 1) * h) t.n)
          ((t.l + 1) * h, t.n) (env.split _ _ hvalid) hvalid (by rw [← hhome]; exact hpar)
          (by rw [← hhome]; exact hdata j _ hpar)
        unfold hashAt at this
        rw [hpar, hdata j _ hpar] at this
        simp only at this
        have e : (tileParent t 1 N).l * (tileParent t 1 N).h = (t.l + 1) * h := by rw [q1, q2]
        rw [e]
        exact this
      · rw [g1, hfw]
        apply tileHash_ptree node h _ _ (by simp [tdata])
        have := ptree_T node T N env.step h (t.l * h) t.n (by
          rw [show t.l * h + h = (t.l + 1) * h by rw [Nat.add_mul]; omega]; exact hvalid)
        rw [show t.l * h + h = (t.l + 1) * h by rw [Nat.add_mul]; omega] at this
        exact this
  -- the requested hashes
  obtain ⟨hs, hhs⟩ := mapM_option_exists (fun x => st[x]?) idx (by
    intro x hx
    obtain ⟨c, _, c2, c3⟩ := env_split_of_lt node T N st env x (hidx x hx)
    exact ⟨_, by rw [← c3]; exact env.get c.1 c.2 c2⟩)
  obtain ⟨hl, hget⟩ := mapM_option_get _ _ _ hhs
  have hext : extract node p data (idx.zip p.indexTileOrder) = .ok hs := by
    rw [extract_ok_iff]
    apply hashList_of_get
    · rw [List.length_zip, ok.itoLen, hl]; simp
    · intro i x j hz
      rw [List.getElem?_zip_eq_some] at hz
      obtain ⟨z1, z2⟩ := hz
      simp only at z1 z2
      obtain ⟨c, c1, c2, c3⟩ := env_split_of_lt node T N st env x (hidx x (List.mem_iff_getElem?.mpr ⟨i, z1⟩))
      obtain ⟨j', j1, j2⟩ := ok.ito i x c z1 c1
      have hjj : j' = j := by rw [j1] at z2; exact Option.some.inj z2
      subst hjj
      obtain ⟨b, b1, b2⟩ := hget i x z1
      refine ⟨b, b1, ?_⟩
      have := env.get c.1 c.2 c2
      rw [show storedHashIndex c.1 c.2 = x from c3, b2] at this
      cases this
      exact hashAt_home node T N st env h h1 h2 hN p.tiles data j' x c c1 c2 j2 (hdata j' _ j2)
  refine ⟨p, data, hs, hp, hm, hhs, ?_, ?_⟩
  · unfold readHashes
    simp only [hp, hstxne, Bool.false_eq_true, ↓reduceIte, hm, hwd, Bool.not_true, hauth]
  · unfold readHashes
    simp only [hp, hstxne, Bool.false_eq_true, ↓reduceIte, hm, hwd, Bool.not_true, hauth, hext]

omit [DecidableEq H] in
theorem extract_ok_of_true (env : Env node T N st) (h : Nat) (h1 : 1 ≤ h) (h2 : h ≤ 30) (hN : N < 2 ^ 63)
    (cs : List (Nat × Nat)) (idx : List Nat) (p : Plan) (ok : PlanOK h N cs idx p) (data : List (List H))
    (hdata : ∀ (i : Nat) (t : Tile), p.tiles[i]? = some t → data[i]? = some (tdata T t.h t.l t.n t.w))
    (hidx : ∀ x ∈ idx, x < storedHashIndex 0 N) :
    ∃ hs, extract node p data (idx.zip p.indexTileOrder) = .ok hs := by
  obtain ⟨hs, hhs⟩ := mapM_option_exists (fun x => st[x]?) idx (by
    intro x hx
    obtain ⟨c, _, c2, c3⟩ := env_split_of_lt node T N st env x (hidx x hx)
    exact ⟨_, by rw [← c3]; exact env.get c.1 c.2 c2⟩)
  obtain ⟨hl, hget⟩ := mapM_option_get _ _ _ hhs
  refine ⟨hs, ?_⟩
  rw [extract_ok_iff]
  apply hashList_of_get
  · rw [List.length_zip, ok.itoLen, hl]; simp
  · intro i x j hz
    rw [List.getElem?_zip_eq_some] at hz
    obtain ⟨z1, z2⟩ := hz
    simp only at z1 z2
    obtain ⟨c, c1, c2, c3⟩ := env_split_of_lt node T N st env x (hidx x (List.mem_iff_getElem?.mpr ⟨i, z1⟩))
    obtain ⟨j', j1, j2⟩ := ok.ito i x c z1 c1
    have hjj : j' = j := by rw [j1] at z2; exact Option.some.inj z2
    subst hjj
    obtain ⟨b, b1, b2⟩ := hget i x z1
    refine ⟨b, b1, ?_⟩
    have := env.get c.1 c.2 c2
    rw [show storedHashIndex c.1 c.2 = x from c3, b2] at this
    cases this
    exact hashAt_home node T N st env h h1 h2 hN p.tiles data j' x c c1 c2 j2 (hdata j' _ j2)

/-- (abstract form) under collision freedom an error can only be raised before SaveTiles -/
theorem error_saves_nothing_abs (hcf : ∀ a b c d : H, node a b = node c d → a = c ∧ b = d) (env : Env node T N st)
    (hroot : ∀ cs, Cover cs 0 N → foldR node (cs.map fun c => T c.1 c.2) = some th)
    (h : Nat) (h1 : 1 ≤ h) (h2 : h ≤ 30) (hN : N < 2 ^ 63) (idx : List Nat) (serve : Tile → Option (List H)) (e : Err)
    (herr : (readHashes node N th h idx serve).result = .error e) :
    (readHashes node N th h idx serve).saved = none := by
  rcases readHashes_cases node N th h idx serve with ⟨a1, _⟩ | ⟨p, data, b1, _, b3, b4, b5, b6, b7⟩
  · exact a1
  · exfalso
    have hh : 0 < h := by omega
    have hidx := plan_ok_lt h N idx p b1
    obtain ⟨cs, p', q1, ok⟩ := plan_spec h N hh hN env.split idx (env_hidx node T N st env idx hidx)
    rw [b1] at q1; cases q1
    obtain ⟨hlen, hw⟩ := widthsOk_spec p.tiles data b4
    obtain ⟨hs0, r1, r2, r3⟩ := authenticate_ok node N th p data b5
    have hstx := stx_tiles_true node T N th st hcf env hroot h hh cs idx p ok data hlen hw hs0 r1 r2
    have hch : ∀ i', p.nstx ≤ i' → i' < p.tiles.length → ChildOK node N p data i' := by
      intro i' h1 h2
      exact authChildren_ok node N p data _ _ r3 i' h1 (by have := ok.nstxLe; omega)
    have hall := all_tiles_true node T N st hcf env h hh cs idx p ok data hw hstx hch
    have hdata : ∀ (i : Nat) (t : Tile), p.tiles[i]? = some t → data[i]? = some (tdata T t.h t.l t.n t.w) := by
      intro i t ht
      have hil : i < data.length := by rw [hlen]; exact (List.getElem?_eq_some_iff.mp ht).1
      have hd : data[i]? = some data[i] := List.getElem?_eq_getElem hil
      rw [hd, ← hall i t _ ht hd]
    obtain ⟨hs, hx⟩ := extract_ok_of_true node T N st env h h1 h2 hN cs idx p ok data hdata hidx
    rw [b7, hx] at herr
    cases herr

end
end ModVerif.TileAuth
