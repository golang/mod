/-
  General facts about the Go-to-Lean run-time vocabulary (`Basic/GoRt.lean`) used by the tie proofs of
  sumdb/tlog/tile.go (Proofs/TieFnTile*.lean): shifts of natural numbers, maps as association lists
  (`mapGet`/`mapSet`), `strconv.Atoi`, `strings.Split`, `%03d`/`%d` formatting, `copy`.
-/
import ModVerif.Basic.GoRt
import ModVerif.Basic.Decimal
import ModVerif.Proofs.GoRtLemmasInt
import ModVerif.Proofs.ListLemmas
namespace ModVerif.GoRtTile
open ModVerif ModVerif.GoRt

theorem epure {ε α : Type} (a : α) : (pure a : Except ε α) = .ok a := mpure a

theorem shl_natCast (a k : Nat) : shl (a : Int) (k : Int) = .ok (((a * 2 ^ k : Nat)) : Int) := by
  rw [shl_nonneg _ (by omega)]
  simp

theorem shl_natCast' (a k : Nat) : shl (a : Int) (k : Int) = .ok (((a <<< k : Nat)) : Int) := by
  rw [shl_natCast, Nat.shiftLeft_eq]

/-- a huge shift count of a small number gives 0 (Go: `x >> 64` and more is 0 for non-negative `x`) -/
theorem shiftRight_eq_zero_of_lt (a k : Nat) (h : a < 2 ^ k) : a >>> k = 0 := by
  rw [Nat.shiftRight_eq_div_pow]; exact Nat.div_eq_of_lt h

/-! ### maps as association lists -/

section maps
variable {κ ν : Type} [DecidableEq κ]

/-- the map read as an `Option` -/
def mapLookup (m : List (κ × ν)) (k : κ) : Option ν := (m.find? (fun p => decide (p.1 = k))).map (·.2)

theorem mapGet_eq (m : List (κ × ν)) (k : κ) (z : ν) :
    mapGet m k z = match mapLookup m k with | some v => (v, true) | none => (z, false) := by
  unfold mapGet mapLookup
  cases m.find? (fun p => decide (p.1 = k)) <;> rfl

theorem mapLookup_nil (k : κ) : mapLookup ([] : List (κ × ν)) k = none := rfl

theorem mapLookup_cons (p : κ × ν) (m : List (κ × ν)) (k : κ) :
    mapLookup (p :: m) k = if p.1 = k then some p.2 else mapLookup m k := by
  unfold mapLookup
  by_cases h : p.1 = k <;> simp [List.find?, h]

theorem mapLookup_append_single (m : List (κ × ν)) (a k : κ) (v : ν) :
    mapLookup (m ++ [(a, v)]) k = match mapLookup m k with | some w => some w | none => if a = k then some v else none := by
  induction m with
  | nil => simp [mapLookup_cons, mapLookup_nil]
  | cons p m ih =>
    rw [List.cons_append, mapLookup_cons, mapLookup_cons]
    by_cases h : p.1 = k
    · simp [h]
    · simp [h, ih]

theorem mapLookup_map_replace (m : List (κ × ν)) (a k : κ) (v : ν) :
    mapLookup (m.map (fun p => if p.1 = a then (a, v) else p)) k =
      if a = k then (match mapLookup m k with | some _ => some v | none => none) else mapLookup m k := by
  induction m with
  | nil => simp [mapLookup_nil]
  | cons p m ih =>
    rw [List.map_cons, mapLookup_cons, mapLookup_cons, ih]
    by_cases hpa : p.1 = a
    · by_cases hak : a = k
      · subst hak; simp [hpa]
      · have : ¬ p.1 = k := by rw [hpa]; exact hak
        simp [hpa, hak]
    · by_cases hpk : p.1 = k
      · have hak : ¬ a = k := by intro e; apply hpa; rw [hpk, e]
        rw [if_neg hpa, if_pos hpk, if_pos hpk, if_neg hak]
      · rw [if_neg hpa, if_neg hpk, if_neg hpk]

theorem mapLookup_mapSet (m : List (κ × ν)) (a k : κ) (v : ν) :
    mapLookup (mapSet m a v) k = if a = k then some v else mapLookup m k := by
  unfold mapSet
  have hs : (m.find? (fun p => decide (p.1 = a))).isSome = (mapLookup m a).isSome := by
    unfold mapLookup; cases m.find? (fun p => decide (p.1 = a)) <;> rfl
  rw [hs]
  by_cases hsome : (mapLookup m a).isSome = true
  · rw [if_pos hsome, mapLookup_map_replace]
    by_cases hak : a = k
    · subst hak
      obtain ⟨w, hw⟩ := Option.isSome_iff_exists.mp hsome
      simp [hw]
    · simp [hak]
  · rw [if_neg hsome, mapLookup_append_single]
    have hnone : mapLookup m a = none := by simpa using hsome
    by_cases hak : a = k
    · subst hak; simp [hnone]
    · simp only [hak, ↓reduceIte]
      cases mapLookup m k <;> rfl

end maps

theorem digitsAux_eq : ∀ f n acc, GoRt.digitsAux f n acc = Decimal.digitsAux f n acc := by
  intro f
  induction f with
  | zero => intro n acc; rfl
  | succ f ih => intro n acc; simp only [GoRt.digitsAux, Decimal.digitsAux, Decimal.digitChar, ih]

theorem natDigits_eq (n : Nat) : natDigits n = Decimal.formatNat n := digitsAux_eq _ _ _

/-- `strconv.Itoa` / `%d` of a non-negative number -/
theorem itoa_natCast (n : Nat) : itoa (n : Int) = Decimal.formatNat n := by
  have : ¬ ((n : Int) < 0) := by omega
  simp only [itoa, this, ↓reduceIte, Int.toNat_natCast, natDigits_eq]

/-- `%03d` of a non-negative number -/
theorem padDec3_natCast (n : Nat) : padDec 3 (n : Int) = Decimal.pad3 n := by
  have : ¬ ((n : Int) < 0) := by omega
  simp only [padDec, this, ↓reduceIte, Int.toNat_natCast, natDigits_eq, Decimal.pad3]

/-- Go `%` on non-negative numbers -/
theorem rem_natCast (a b : Nat) (hb : b ≠ 0) : rem (a : Int) (b : Int) = .ok (((a % b : Nat)) : Int) := by
  have : ¬ ((b : Int) = 0) := by omega
  simp only [rem, this, ↓reduceIte]
  show Except.ok _ = _
  rw [Int.tmod_eq_emod_of_nonneg (by omega)]
  rfl

/-- Go `/` on non-negative numbers -/
theorem quo_natCast (a b : Nat) (hb : b ≠ 0) : quo (a : Int) (b : Int) = .ok (((a / b : Nat)) : Int) := by
  have : ¬ ((b : Int) = 0) := by omega
  simp only [quo, this, ↓reduceIte]
  show Except.ok _ = _
  rw [Int.tdiv_eq_ediv_of_nonneg (by omega)]
  rfl

theorem quo_zero (a : Int) : quo a 0 = .error .panic := by
  simp only [quo, ↓reduceIte]; rfl

/-! ### strings.Split with a one-byte separator -/

def prependHead (p : Bytes) : List Bytes → List Bytes
  | [] => [p]
  | h :: t => (p ++ h) :: t

theorem prependHead_nil (l : List Bytes) (h : l ≠ []) : prependHead [] l = l := by
  cases l with
  | nil => exact absurd rfl h
  | cons a t => simp [prependHead]

theorem prependHead_prependHead (p q : Bytes) (l : List Bytes) (h : l ≠ []) :
    prependHead p (prependHead q l) = prependHead (p ++ q) l := by
  cases l with
  | nil => exact absurd rfl h
  | cons a t => simp [prependHead]

theorem splitOn_cons_ne (c x : UInt8) (rest : Bytes) (h : (x == c) = false) :
    splitOn c (x :: rest) = prependHead [x] (splitOn c rest) := by
  rw [splitOn]
  simp only [h, Bool.false_eq_true, ↓reduceIte]
  cases hs : splitOn c rest with
  | nil => exact absurd hs (splitOn_ne_nil c rest)
  | cons a t => simp [prependHead]

theorem splitAux_eq (c : UInt8) : ∀ (s : Bytes) (f : Nat) (cur : Bytes), s.length < f →
    splitAux [c] f s cur = prependHead cur.reverse (splitOn c s) := by
  intro s
  induction s with
  | nil =>
    intro f cur hf
    obtain ⟨f, rfl⟩ : ∃ g, f = g + 1 := ⟨f - 1, by omega⟩
    simp [splitAux, splitOn, prependHead]
  | cons x xs ih =>
    intro f cur hf
    obtain ⟨f, rfl⟩ : ∃ g, f = g + 1 := ⟨f - 1, by omega⟩
    simp only [List.length_cons] at hf
    rw [splitAux]
    simp only [isPrefixOfB, Bool.and_true, List.length_cons, List.length_nil, Nat.zero_add, List.drop_succ_cons, List.drop_zero]
    by_cases hcx : (c == x) = true
    · have hxc : (x == c) = true := by rw [beq_iff_eq] at hcx ⊢; exact hcx.symm
      rw [if_pos hcx, ih f [] (by omega)]
      rw [splitOn]
      simp only [hxc, ↓reduceIte, List.reverse_nil]
      rw [prependHead_nil _ (splitOn_ne_nil c xs)]
      simp [prependHead]
    · have hxc : (x == c) = false := by
        cases h : (x == c) with
        | false => rfl
        | true => rw [beq_iff_eq] at h; exact absurd (by rw [beq_iff_eq]; exact h.symm) hcx
      rw [if_neg hcx, ih f (x :: cur) (by omega), splitOn_cons_ne c x xs hxc,
        prependHead_prependHead _ _ _ (splitOn_ne_nil c xs)]
      simp

/-- `strings.Split(s, "/")`-style splits are the model's `splitOn` -/
theorem split_single (s : Bytes) (c : UInt8) : split s [c] = splitOn c s := by
  unfold split
  rw [splitAux_eq c s _ [] (by omega)]
  simp only [List.reverse_nil]
  exact prependHead_nil _ (splitOn_ne_nil c s)

/-! ### strconv.Atoi -/

theorem atoiDigits_eq : ∀ (s : Bytes) (acc : Nat), atoiDigits s acc = Decimal.parseDigitsAux s acc := by
  intro s
  induction s with
  | nil => intro acc; rfl
  | cons c cs ih =>
    intro acc
    simp only [atoiDigits, Decimal.parseDigitsAux, Decimal.isDigit, ih]
    have h1 : ((48 : UInt8) ≤ c) ↔ 48 ≤ c.toNat := by rw [UInt8.le_iff_toNat_le]; rfl
    have h2 : (c ≤ (57 : UInt8)) ↔ c.toNat ≤ 57 := by rw [UInt8.le_iff_toNat_le]; rfl
    by_cases a : 48 ≤ c.toNat <;> by_cases b : c.toNat ≤ 57 <;> simp [h1, h2, a, b]

/-- what `atoi` does after the sign has been removed -/
def atoiCore (neg : Bool) (ds : Bytes) : Int × Option String :=
  if ds.isEmpty then (0, some "strconv.Atoi: syntax") else
  match atoiDigits ds 0 with
  | none => (0, some "strconv.Atoi: syntax")
  | some n =>
    let v : Int := if neg then -(Int.ofNat n) else Int.ofNat n
    if v < -two63 then (-two63, some "strconv.Atoi: range")
    else if v ≥ two63 then (two63 - 1, some "strconv.Atoi: range")
    else (v, none)

theorem atoi_plus (r : Bytes) : atoi (43 :: r) = atoiCore false r := rfl
theorem atoi_minus (r : Bytes) : atoi (45 :: r) = atoiCore true r := rfl
theorem atoi_nil : atoi [] = atoiCore false [] := rfl
theorem atoi_other (c : UInt8) (r : Bytes) (h1 : c ≠ 43) (h2 : c ≠ 45) : atoi (c :: r) = atoiCore false (c :: r) := by
  unfold atoi atoiCore
  split
  rename_i heq
  split at heq
  · rename_i h; simp at h; exact absurd h.1 h1
  · rename_i h; simp at h; exact absurd h.1 h2
  · cases heq; rfl

theorem atoi_spec (s : Bytes) :
    match Decimal.parseInt64 s with
    | some v => atoi s = (v, none)
    | none => (atoi s).2.isNone = false := by
  have core : ∀ (neg : Bool) (ds : Bytes),
      match Decimal.parseDigits ds with
      | some n =>
        if neg then (if -(n : Int) ≥ Decimal.int64Min then atoiCore neg ds = (-(n : Int), none) else (atoiCore neg ds).2.isNone = false)
        else (if (n : Int) ≤ Decimal.int64Max then atoiCore neg ds = ((n : Int), none) else (atoiCore neg ds).2.isNone = false)
      | none => (atoiCore neg ds).2.isNone = false := by
    intro neg ds
    unfold Decimal.parseDigits atoiCore
    by_cases he : ds.isEmpty = true
    · simp [he]
    · simp only [he, Bool.false_eq_true, ↓reduceIte, atoiDigits_eq]
      cases hd : Decimal.parseDigitsAux ds 0 with
      | none => simp
      | some n =>
        simp only [Decimal.int64Min, Decimal.int64Max, two63, Int.ofNat_eq_natCast]
        cases neg
        · simp only [Bool.false_eq_true, ↓reduceIte]
          by_cases hle : (n : Int) ≤ 9223372036854775807
          · have a : ¬ ((n : Int) < -9223372036854775808) := by omega
            have b : ¬ ((n : Int) ≥ 9223372036854775808) := by omega
            simp [hle, a, b]
          · have a : ¬ ((n : Int) < -9223372036854775808) := by omega
            have b : ((n : Int) ≥ 9223372036854775808) := by omega
            simp [hle, a, b]
        · simp only [↓reduceIte]
          by_cases hle : -(n : Int) ≥ -9223372036854775808
          · have a : ¬ (-(n : Int) < -9223372036854775808) := by omega
            have b : ¬ (-(n : Int) ≥ 9223372036854775808) := by omega
            simp [hle, a, b]
          · have a : (-(n : Int) < -9223372036854775808) := by omega
            simp [hle, a]
  cases s with
  | nil => simp [Decimal.parseInt64, atoi_nil, atoiCore]
  | cons c rest =>
    unfold Decimal.parseInt64
    by_cases h43 : c = 43
    · subst h43
      have := core false rest
      simp only [beq_self_eq_true, ↓reduceIte, atoi_plus]
      cases hp : Decimal.parseDigits rest with
      | none => rw [hp] at this; simpa using this
      | some n =>
        rw [hp] at this
        simp only [Bool.false_eq_true, ↓reduceIte] at this
        by_cases hle : (n : Int) ≤ Decimal.int64Max
        · simp only [hle, ↓reduceIte] at this ⊢; exact this
        · simp only [hle, ↓reduceIte] at this ⊢; exact this
    · by_cases h45 : c = 45
      · subst h45
        have := core true rest
        have hne : ((45 : UInt8) == 43) = false := by decide
        simp only [hne, Bool.false_eq_true, beq_self_eq_true, ↓reduceIte, atoi_minus]
        cases hp : Decimal.parseDigits rest with
        | none => rw [hp] at this; simpa using this
        | some n =>
          rw [hp] at this
          simp only [↓reduceIte] at this
          by_cases hle : -(n : Int) ≥ Decimal.int64Min
          · simp only [hle, ↓reduceIte] at this ⊢; exact this
          · simp only [hle, ↓reduceIte] at this ⊢; exact this
      · have := core false (c :: rest)
        have hne1 : (c == 43) = false := by simpa using h43
        have hne2 : (c == 45) = false := by simpa using h45
        simp only [hne1, hne2, Bool.false_eq_true, ↓reduceIte, atoi_other c rest h43 h45]
        cases hp : Decimal.parseDigits (c :: rest) with
        | none => rw [hp] at this; simpa using this
        | some n =>
          rw [hp] at this
          simp only [Bool.false_eq_true, ↓reduceIte] at this
          by_cases hle : (n : Int) ≤ Decimal.int64Max
          · simp only [hle, ↓reduceIte] at this ⊢; exact this
          · simp only [hle, ↓reduceIte] at this ⊢; exact this

theorem atoi_some (s : Bytes) (v : Int) (h : Decimal.parseInt64 s = some v) : atoi s = (v, none) := by
  have := atoi_spec s; rw [h] at this; exact this

theorem atoi_none (s : Bytes) (h : Decimal.parseInt64 s = none) : (atoi s).2.isNone = false := by
  have := atoi_spec s; rw [h] at this; exact this

end ModVerif.GoRtTile
