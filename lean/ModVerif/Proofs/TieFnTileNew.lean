/-
  Tie proofs for sumdb/tlog/tile.go: `NewTiles`.
-/
import ModVerif.Proofs.TieFnTile
import ModVerif.Proofs.TileAuthNew
namespace ModVerif.TieFnTile
open ModVerif ModVerif.GoRt ModVerif.GoRtTile

theorem toI64_natCast {n : Nat} (h : n < 2 ^ 63) : toI64 (n : Int) = (n : Int) := by
  have h1 : (n : Int) % two64 = (n : Int) := by
    unfold two64; omega
  simp only [toI64, h1]
  have : (n : Int) < two63 := by unfold two63; omega
  simp [this]

def fullTiles (h level n d : Nat) : List Tile.Tile :=
  (List.range d).map fun i => ({ h := h, l := level, n := n + i, w := 2 ^ h } : Tile.Tile)

theorem fullTiles_succ (h level n d : Nat) :
    fullTiles h level n (d + 1) = { h := h, l := level, n := n, w := 2 ^ h } :: fullTiles h level (n + 1) d := by
  simp only [fullTiles, List.range_succ_eq_map, List.map_cons, List.map_map, Nat.add_zero]
  congr 1
  apply List.map_congr_left
  intro i _
  simp only [Function.comp]
  congr 1
  omega

/-- `for n := oldN >> H; n < newN>>H; n++ { tiles = append(tiles, Tile{H: h, L: int(level), N: n, W: 1 << H}) }` -/
theorem NewTiles_loop2_eq (h level newN : Nat) (hN : newN < 2 ^ 63) (hl : level < 2 ^ 63) :
    ∀ (d n fuel : Nat) (tiles : List GTile), d = newN >>> h - n → d < fuel →
    Generated.Tile.NewTiles_loop2 (h : Int) (h : Int) (level : Int) (newN : Int) fuel tiles (n : Int) =
      .ok (tiles ++ (fullTiles h level n d).map toGen, ((n + d : Nat) : Int)) := by
  intro d
  induction d with
  | zero =>
    intro n fuel tiles hd hf
    obtain ⟨g, rfl⟩ : ∃ g, fuel = g + 1 := ⟨fuel - 1, by omega⟩
    have : ¬ ((n : Int) < ((newN >>> h : Nat) : Int)) := by omega
    rw [Generated.Tile.NewTiles_loop2]
    simp only [shr_natCast, mbind_ok, this, decide_false, Bool.false_eq_true, ↓reduceIte, fullTiles, mpure, List.range_zero,
      List.map_nil, List.append_nil, Nat.add_zero]
  | succ d ih =>
    intro n fuel tiles hd hf
    obtain ⟨g, rfl⟩ : ∃ g, fuel = g + 1 := ⟨fuel - 1, by omega⟩
    have hlt : ((n : Int) < ((newN >>> h : Nat) : Int)) := by omega
    have hpos : 0 < newN >>> h := by omega
    have hp : 2 ^ h < 2 ^ 63 := by
      rw [Nat.shiftRight_eq_div_pow] at hpos
      have := (Nat.le_div_iff_mul_le (Nat.two_pow_pos h)).mp hpos
      omega
    have hle : newN >>> h ≤ newN := by rw [Nat.shiftRight_eq_div_pow]; exact Nat.div_le_self _ _
    have e1 : (n : Int) + 1 = ((n + 1 : Nat) : Int) := by omega
    rw [Generated.Tile.NewTiles_loop2]
    simp only [shr_natCast, mbind_ok, hlt, decide_true, ↓reduceIte, shl_one_natCast, chk64_natCast hp, toI64_natCast hl, e1,
      chk64_natCast (show n + 1 < 2 ^ 63 by omega)]
    rw [ih (n + 1) g _ (by omega) (by omega), fullTiles_succ]
    simp only [List.map_cons, List.append_assoc, List.singleton_append, toGen, Bool.false_eq_true, ↓reduceIte]
    congr 3
    omega

/-- the tiles of the model in the result type of the generated loop -/
def ntOut : Except Tlog.Err (List Tile.Tile) → M (List GTile)
  | .ok ts => .ok (ts.map toGen)
  | .error _ => .error .panic

/-- the level loop of `NewTiles`; `f` is the model's fuel.  `h*level ≤ 62 + h`: the uint product `H*level` does not wrap
    (the loop ends at the first level with `newTreeSize >> (H*level) = 0`, i.e. `H*level ≥ 63`). -/
theorem NewTiles_loop1_eq (h old new : Nat) (hh0 : 0 < h) (hh : h < 2 ^ 63) (ho : old < 2 ^ 63) (hn : new < 2 ^ 63) :
    ∀ (f level fuel : Nat) (tiles : List GTile) (rest : List Tile.Tile), h * level ≤ 62 + h →
      Tile.newTilesF h old new f level = .ok rest → f + new + 2 ≤ fuel →
      ∃ lv : Int, Generated.Tile.NewTiles_loop1 (h : Int) (old : Int) (new : Int) (h : Int) fuel tiles (level : Int) =
        .ok (tiles ++ rest.map toGen, lv) := by
  intro f
  induction f with
  | zero =>
    intro level fuel tiles rest hlv hm hf
    obtain ⟨g, rfl⟩ : ∃ g, fuel = g + 1 := ⟨fuel - 1, by omega⟩
    unfold Tile.newTilesF at hm
    split at hm
    · cases hm
    · rename_i hz
      cases hm
      have e1 : (h : Int) * (level : Int) = ((h * level : Nat) : Int) := by simp
      have hz' : ¬ (((new >>> (h * level) : Nat) : Int) > 0) := by omega
      refine ⟨(level : Int), ?_⟩
      rw [Generated.Tile.NewTiles_loop1]
      simp only [e1, toU64_natCast (show h * level < 2 ^ 64 by omega), shr_natCast, mbind_ok, hz', decide_false,
        Bool.false_eq_true, ↓reduceIte, mpure, List.map_nil, List.append_nil]
  | succ f ih =>
    intro level fuel tiles rest hlv hm hf
    obtain ⟨g, rfl⟩ : ∃ g, fuel = g + 1 := ⟨fuel - 1, by omega⟩
    have e1 : (h : Int) * (level : Int) = ((h * level : Nat) : Int) := by simp
    have hu : h * level < 2 ^ 64 := by omega
    unfold Tile.newTilesF at hm
    by_cases hpos : new >>> (h * level) > 0
    · rw [if_pos hpos] at hm
      have hpos' : (((new >>> (h * level) : Nat) : Int) > 0) := by omega
      -- the level is small
      have h62 : h * level ≤ 62 := by
        rw [Nat.shiftRight_eq_div_pow] at hpos
        have := (Nat.le_div_iff_mul_le (Nat.two_pow_pos (h * level))).mp hpos
        apply Nat.le_of_not_lt; intro hc
        have : 2 ^ 63 ≤ 2 ^ (h * level) := Nat.pow_le_pow_right (by omega) hc
        omega
      have hlevel : level ≤ 62 := by
        have : level * 1 ≤ level * h := Nat.mul_le_mul_left _ hh0
        rw [Nat.mul_comm level h] at this
        omega
      cases hrest : Tile.newTilesF h old new f (level + 1) with
      | error e => rw [hrest] at hm; cases hm
      | ok rest' =>
        rw [hrest] at hm
        simp only [bind, Except.bind, pure, Except.pure, Except.ok.injEq] at hm
        subst hm
        have hlv' : h * (level + 1) ≤ 62 + h := by rw [Nat.mul_add]; omega
        have e2 : toU64 ((level : Int) + 1) = ((level + 1 : Nat) : Int) := by
          have : (level : Int) + 1 = ((level + 1 : Nat) : Int) := by omega
          rw [this, toU64_natCast (by omega)]
        generalize hO : old >>> (h * level) = oldN
        generalize hNn : new >>> (h * level) = newN at hpos hpos'
        have hO63 : oldN < 2 ^ 63 := by
          rw [← hO, Nat.shiftRight_eq_div_pow]; exact Nat.lt_of_le_of_lt (Nat.div_le_self _ _) ho
        have hN63 : newN < 2 ^ 63 := by
          rw [← hNn, Nat.shiftRight_eq_div_pow]; exact Nat.lt_of_le_of_lt (Nat.div_le_self _ _) hn
        have hNle : newN ≤ new := by
          rw [← hNn, Nat.shiftRight_eq_div_pow]; exact Nat.div_le_self _ _
        rw [Generated.Tile.NewTiles_loop1]
        simp only [e1, toU64_natCast hu, shr_natCast, mbind_ok, hNn, hO, hpos', decide_true, ↓reduceIte, e2]
        unfold Tile.newTilesLevel
        simp only [hO, hNn]
        by_cases heq : oldN = newN
        · have heq' : ((oldN : Int) = (newN : Int)) := by omega
          have hb : (oldN == newN) = true := by simp [heq]
          obtain ⟨lv, hlv2⟩ := ih (level + 1) g tiles rest' hlv' hrest (by omega)
          refine ⟨lv, ?_⟩
          simp only [heq', decide_true, ↓reduceIte, hb, List.nil_append]
          exact hlv2
        · have heq' : ¬ ((oldN : Int) = (newN : Int)) := by omega
          have hb : (oldN == newN) = false := by simp [heq]
          have hdle : newN >>> h ≤ newN := by rw [Nat.shiftRight_eq_div_pow]; exact Nat.div_le_self _ _
          have hloop2 := NewTiles_loop2_eq h level newN hN63 (by omega) (newN >>> h - oldN >>> h) (oldN >>> h) g tiles rfl
            (by have := Nat.sub_le (newN >>> h) (oldN >>> h); omega)
          have hmul : (newN >>> h) * 2 ^ h ≤ newN := by
            rw [Nat.shiftRight_eq_div_pow]; exact Nat.div_mul_le_self _ _
          have e3 : (newN : Int) - (((newN >>> h) * 2 ^ h : Nat) : Int) = ((newN - (newN >>> h) * 2 ^ h : Nat) : Int) := by omega
          simp only [heq', decide_false, Bool.false_eq_true, ↓reduceIte, hb, hloop2, mbind_ok, shl_natCast,
            chk64_natCast (show (newN >>> h) * 2 ^ h < 2 ^ 63 by omega), e3,
            chk64_natCast (show newN - (newN >>> h) * 2 ^ h < 2 ^ 63 by omega), Nat.shiftLeft_eq, toI64_natCast (show level < 2 ^ 63 by omega)]
          by_cases hw : newN - (newN >>> h) * 2 ^ h > 0
          · have hw' : (((newN - (newN >>> h) * 2 ^ h : Nat) : Int) > 0) := by omega
            obtain ⟨lv, hlv2⟩ := ih (level + 1) g
              (tiles ++ (fullTiles h level (oldN >>> h) (newN >>> h - oldN >>> h)).map toGen ++
                [toGen { h := h, l := level, n := newN >>> h, w := newN - (newN >>> h) * 2 ^ h }]) rest' hlv' hrest (by omega)
            refine ⟨lv, ?_⟩
            simp only [hw, hw', decide_true, ↓reduceIte]
            have : (⟨(h : Int), (level : Int), ((newN >>> h : Nat) : Int), ((newN - (newN >>> h) * 2 ^ h : Nat) : Int)⟩ : GTile) =
                toGen ⟨h, level, newN >>> h, newN - (newN >>> h) * 2 ^ h, false⟩ := by simp [toGen]
            rw [this, hlv2]
            simp [fullTiles, List.append_assoc]
          · have hw' : ¬ (((newN - (newN >>> h) * 2 ^ h : Nat) : Int) > 0) := by omega
            obtain ⟨lv, hlv2⟩ := ih (level + 1) g
              (tiles ++ (fullTiles h level (oldN >>> h) (newN >>> h - oldN >>> h)).map toGen) rest' hlv' hrest (by omega)
            refine ⟨lv, ?_⟩
            simp only [hw, hw', decide_false, Bool.false_eq_true, ↓reduceIte]
            rw [hlv2]
            simp [fullTiles, List.append_assoc]
    · rw [if_neg hpos] at hm
      cases hm
      have hz' : ¬ (((new >>> (h * level) : Nat) : Int) > 0) := by omega
      refine ⟨(level : Int), ?_⟩
      rw [Generated.Tile.NewTiles_loop1]
      simp only [e1, toU64_natCast hu, shr_natCast, mbind_ok, hz', decide_false,
        Bool.false_eq_true, ↓reduceIte, mpure, List.map_nil, List.append_nil]

/-- `NewTiles(h, old, new)`, natural-number form, `h ≥ 1`; the fuel covers the number of tiles of level 0 -/
theorem NewTiles_eq (fuel h old new : Nat) (hh0 : 0 < h) (hh : h < 2 ^ 63) (ho : old < 2 ^ 63) (hn : new < 2 ^ 63)
    (hf : new + 67 ≤ fuel) :
    Generated.Tile.NewTiles fuel (h : Int) (old : Int) (new : Int) = ntOut (Tile.newTiles h old new) := by
  have hle : ¬ ((h : Int) ≤ 0) := by omega
  have hne : (h == 0) = false := by simp; omega
  have hlog : new.log2 < 63 := by
    by_cases h0 : new = 0
    · subst h0; simp
    · exact (Nat.log2_lt h0).mpr hn
  simp only [Generated.Tile.NewTiles, hle, decide_false, Bool.false_eq_true, ↓reduceIte, Tile.newTiles, hne,
    toU64_natCast (show h < 2 ^ 64 by omega)]
  cases hm : Tile.newTilesF h old new (new.log2 + 2) 0 with
  | error e =>
    exfalso
    obtain ⟨ts, h1, _⟩ := TileAuth.newTilesF_spec h old new hh0 (new.log2 + 2) 0 (by omega)
    rw [hm] at h1; cases h1
  | ok rest =>
    obtain ⟨lv, hlv⟩ := NewTiles_loop1_eq h old new hh0 hh ho hn (new.log2 + 2) 0 fuel [] rest (by omega) hm (by omega)
    simp only [Int.natCast_zero] at hlv
    simp only [hlv, mbind_ok, mpure, ntOut, List.nil_append]

end ModVerif.TieFnTile
