/-
  Helper lemmas for Tie/FnEditStmt.lean: the scalar-statement operations of the regenerated go.mod edit
  operations (Generated/FnEdit.lean): File_AddModuleStmt, File_AddGoStmt, File_DropGoStmt, File_AddToolchainStmt,
  File_DropToolchainStmt against Model/Modfile/Edit.lean, through the rules for a scalar entry (`FnEditTyped.TOpt`:
  `dropOpt_sim`, `setOpt_sim`, `pushOpt_sim`); what is left here is the unfolding of each regenerated function.
-/
import ModVerif.Proofs.TieFnEditTypedAdd
import ModVerif.Tie.FnModfile
namespace ModVerif.Tie.FnEditStmtA
open ModVerif ModVerif.GoRt ModVerif.Generated.Edit ModVerif.Tie.FnEditRep ModVerif.Tie.FnEditTreeA ModVerif.Tie.FnEditTyped
open ModVerif.TieFnEditAddLine (Frame nodeCount hintG addLine_rep)

theorem RepFAt_afterAddLine {h h' : Heap} {o : File} {e : Modfile.Edit.EFile} (R : RepFAt h o e) {fs' : Modfile.FileSyntax}
    (F : Frame h h') (hsyn : RepSyn h' o.Syntax fs') (htok : BlockTokOK fs'.stmts) (hG : LinesG h')
    (hlen : h'.lines.length = h.lines.length + 1) :
    RepFAt h' o { f := { e.f with syn := fs' }, next := e.next + 1 } := R.afterAddLine F hsyn htok hG hlen

theorem RepF_ofSetMods {h : Heap} {fp : Int} {o o' : File} {e' : Modfile.Edit.EFile} (ho : heapGet h.mods fp = .ok o)
    (R : RepFAt h o' e') : RepF { h with mods := h.mods.set (fp.toNat - 1) o' } fp e' := RepF.setMods ho R

theorem RepFAt_replaceGodebug {h : Heap} {o : File} {e : Modfile.Edit.EFile} (R : RepFAt h o e) (gds' : List Godebug)
    (ps : List Int) (xs : List Modfile.Godebug) (hx : REnts gds' godebugG (·.lineId) h.lines.length ps xs) :
    RepFAt { h with godebugs := gds' } { o with Godebug := ps } { e with f := { e.f with godebug := xs } } := R.withGodebug hx

theorem RepFAt_replaceTool {h : Heap} {o : File} {e : Modfile.Edit.EFile} (R : RepFAt h o e) (tls' : List Tool)
    (ps : List Int) (xs : List Modfile.Tool) (hx : REnts tls' toolG (·.lineId) h.lines.length ps xs) :
    RepFAt { h with tools := tls' } { o with Tool := ps } { e with f := { e.f with tool := xs } } := R.withTool hx

theorem ROpt_none {α β : Type} {objs : List α} {g : β → α} {id : β → Nat} {nl : Nat} : ROpt objs g id nl 0 none := rfl

theorem File_DropGoStmt_none {h : Heap} {fp : Int} {e : Modfile.Edit.EFile} (R : RepF h fp e) (hn : e.f.go = none) :
    File_DropGoStmt fp h = .ok ((), h) := by
  obtain ⟨o, ho, R⟩ := R
  have hgo := R.go
  rw [hn] at hgo
  have hgo : o.Go = 0 := hgo
  simp [File_DropGoStmt, ho, hgo, bind, Except.bind, pure, Except.pure]

theorem File_DropGoStmt_some {h : Heap} {fp : Int} {e : Modfile.Edit.EFile} (R : RepF h fp e) {g : Modfile.Go}
    (hs : e.f.go = some g) (h0 : g.lineId ≠ 0) :
    ∃ h', File_DropGoStmt fp h = .ok ((), h') ∧ RepF h' fp (Modfile.Edit.dropGoStmt e) := by
  obtain ⟨o, ho, R⟩ := R
  have hgo1 : heapGet h.gos o.Go = .ok (goG g) := (goP_ok.some R hs).1
  have hpos : ¬ (o.Go = 0) := (goP_ok.some R hs).2.2
  obtain ⟨l, hl, R1⟩ := dropOpt_sim modK_ok goP_ok R hs h0
  simp only [Modfile.Edit.dropGoStmt, hs]
  refine ⟨_, ?_, modA_ok.store (h := setLineH h (g.lineId : Int) (markRemovedLine l)) ho R1⟩
  simp only [File_DropGoStmt, ho, hgo1, hpos, bind, Except.bind, pure, Except.pure, decide_false, Bool.not_false, if_true,
    goG_Syntax, Line_markRemoved_eq hl, setLineH_mods, heapSet_of_get _ ho]
  rfl

theorem File_DropGoStmt_nil {h : Heap} {fp : Int} {e : Modfile.Edit.EFile} (R : RepF h fp e) {g : Modfile.Go}
    (hs : e.f.go = some g) (h0 : g.lineId = 0) : File_DropGoStmt fp h = .error .panic := by
  obtain ⟨o, ho, R⟩ := R
  have hgo := R.go
  rw [hs] at hgo
  obtain ⟨hgo1, hgo2⟩ : heapGet h.gos o.Go = .ok (goG g) ∧ g.lineId ≤ h.lines.length := hgo
  have hpos : ¬ (o.Go = 0) := by have := heapGet_pos hgo1; omega
  simp only [File_DropGoStmt, ho, hgo1, hpos, bind, Except.bind, pure, Except.pure, decide_false, Bool.not_false, if_true,
    goG_Syntax, h0]
  rw [Line_markRemoved_nil (by simp)]


theorem File_DropToolchainStmt_none {h : Heap} {fp : Int} {e : Modfile.Edit.EFile} (R : RepF h fp e) (hn : e.f.toolchain = none) :
    File_DropToolchainStmt fp h = .ok ((), h) := by
  obtain ⟨o, ho, R⟩ := R
  have htc := R.toolchain
  rw [hn] at htc
  have htc : o.Toolchain = 0 := htc
  simp [File_DropToolchainStmt, ho, htc, bind, Except.bind, pure, Except.pure]

theorem File_DropToolchainStmt_some {h : Heap} {fp : Int} {e : Modfile.Edit.EFile} (R : RepF h fp e) {g : Modfile.Toolchain}
    (hs : e.f.toolchain = some g) (h0 : g.lineId ≠ 0) :
    ∃ h', File_DropToolchainStmt fp h = .ok ((), h') ∧ RepF h' fp (Modfile.Edit.dropToolchainStmt e) := by
  obtain ⟨o, ho, R⟩ := R
  have htc1 : heapGet h.toolchains o.Toolchain = .ok (toolchainG g) := (toolchainP_ok.some R hs).1
  have hpos : ¬ (o.Toolchain = 0) := (toolchainP_ok.some R hs).2.2
  obtain ⟨l, hl, R1⟩ := dropOpt_sim modK_ok toolchainP_ok R hs h0
  simp only [Modfile.Edit.dropToolchainStmt, hs]
  refine ⟨_, ?_, modA_ok.store (h := setLineH h (g.lineId : Int) (markRemovedLine l)) ho R1⟩
  simp only [File_DropToolchainStmt, ho, htc1, hpos, bind, Except.bind, pure, Except.pure, decide_false, Bool.not_false, if_true,
    toolchainG_Syntax, Line_markRemoved_eq hl, setLineH_mods, heapSet_of_get _ ho]
  rfl

theorem File_DropToolchainStmt_nil {h : Heap} {fp : Int} {e : Modfile.Edit.EFile} (R : RepF h fp e) {g : Modfile.Toolchain}
    (hs : e.f.toolchain = some g) (h0 : g.lineId = 0) : File_DropToolchainStmt fp h = .error .panic := by
  obtain ⟨o, ho, R⟩ := R
  have htc := R.toolchain
  rw [hs] at htc
  obtain ⟨htc1, htc2⟩ : heapGet h.toolchains o.Toolchain = .ok (toolchainG g) ∧ g.lineId ≤ h.lines.length := htc
  have hpos : ¬ (o.Toolchain = 0) := by have := heapGet_pos htc1; omega
  simp only [File_DropToolchainStmt, ho, htc1, hpos, bind, Except.bind, pure, Except.pure, decide_false, Bool.not_false, if_true,
    toolchainG_Syntax, h0]
  rw [Line_markRemoved_nil (by simp)]


theorem B_go : B "go" = [103, 111] := by decide +kernel
theorem B_toolchain : B "toolchain" = [116, 111, 111, 108, 99, 104, 97, 105, 110] := by decide +kernel
theorem B_module : B "module" = [109, 111, 100, 117, 108, 101] := by decide +kernel

theorem File_AddGoStmt_invalid (fuel : Nat) (fp : Int) (version : Bytes) (h : Heap) (hv : Modfile.goVersionRE version = false) :
    File_AddGoStmt Modfile.goVersionRE fuel fp version h = .ok (some "invalid language version %q", h) := by
  simp [File_AddGoStmt, hv, pure, Except.pure]

/-- `f.Go != nil` -/
theorem File_AddGoStmt_update {h : Heap} {fp : Int} {e : Modfile.Edit.EFile} (R : RepF h fp e) {g : Modfile.Go}
    (hs : e.f.go = some g) (h0 : g.lineId ≠ 0) (version : Bytes) (hv : Modfile.goVersionRE version = true) (fuel : Nat) :
    ∃ h', File_AddGoStmt Modfile.goVersionRE fuel fp version h = .ok (none, h') ∧
      RepF h' fp { e with f := { e.f with go := some { g with version := version },
                                          syn := Modfile.Edit.updateLine e.f.syn g.lineId [B "go", version] } } := by
  obtain ⟨o, ho, R⟩ := R
  have hgo1 : heapGet h.gos o.Go = .ok (goG g) := (goP_ok.some R hs).1
  have hpos : ¬ (o.Go = 0) := (goP_ok.some R hs).2.2
  obtain ⟨l, hl, R2⟩ := setOpt_sim modK_ok goP_ok R hs h0 { g with version := version } rfl [[103, 111], version]
  rw [B_go]
  refine ⟨_, ?_, o, ?_, R2⟩
  rotate_left
  · exact ho
  have hset : heapSet h.gos o.Go ({ (goG g) with Version := version } : Go) =
      .ok (h.gos.set (o.Go.toNat - 1) (goG { g with version := version })) := heapSet_of_get _ hgo1
  simp only [File_AddGoStmt, hv, ho, hgo1, hpos, bind, Except.bind, pure, Except.pure, decide_false, Bool.not_true,
    Bool.false_eq_true, if_false, hset]
  simp only [heapGet_listSet_same _ hgo1, goG_Syntax]
  rw [FileSyntax_updateLine_eq (h := { h with gos := h.gos.set (o.Go.toNat - 1) (goG { g with version := version }) }) (l := l) hl
    (by intro _; simp)]

theorem File_AddGoStmt_update_nil {h : Heap} {fp : Int} {e : Modfile.Edit.EFile} (R : RepF h fp e) {g : Modfile.Go}
    (hs : e.f.go = some g) (h0 : g.lineId = 0) (version : Bytes) (hv : Modfile.goVersionRE version = true) (fuel : Nat) :
    File_AddGoStmt Modfile.goVersionRE fuel fp version h = .error .panic := by
  obtain ⟨o, ho, R⟩ := R
  have hgo := R.go
  rw [hs] at hgo
  obtain ⟨hgo1, hgo2⟩ : heapGet h.gos o.Go = .ok (goG g) ∧ g.lineId ≤ h.lines.length := hgo
  have hpos : ¬ (o.Go = 0) := by have := heapGet_pos hgo1; omega
  let g' : Modfile.Go := { g with version := version }
  let h1 : Heap := { h with gos := h.gos.set (o.Go.toNat - 1) (goG g') }
  have hgo1' : heapGet h1.gos o.Go = .ok (goG g') := heapGet_listSet_same _ hgo1
  have hset : heapSet h.gos o.Go ({ (goG g) with Version := version } : Go) = .ok (h.gos.set (o.Go.toNat - 1) (goG g')) :=
    heapSet_of_get _ hgo1
  have ho1 : heapGet h1.mods fp = .ok o := ho
  simp only [File_AddGoStmt, hv, ho, hgo1, hpos, bind, Except.bind, pure, Except.pure, decide_false, Bool.not_true,
    Bool.false_eq_true, if_false, hset]
  simp only [show heapGet (h.gos.set (o.Go.toNat - 1) (goG g')) o.Go = .ok (goG g') from hgo1', goG_Syntax]
  rw [FileSyntax_updateLine_nil _ (by show ((g.lineId : Nat) : Int) ≤ 0; simp [h0])]

/-- the continuation `k12` of `File_AddGoStmt`: the new line, the new `Go` object, `f.Go = …` -/
def addGoTail (fuel : Nat) (f : Int) (version : Bytes) (hint : Expr) (world : Heap) : M ((Option String) × Heap) := do
  let t6 ← heapGet ((world).mods) f
  let t7 ← (FileSyntax_addLine fuel (t6.Syntax) hint ([([103, 111] : Bytes), version] : (List Bytes)) world)
  let (wr8, world) := t7
  let (p9, hl) := heapAlloc ((world).gos) ({ (default : Go) with Version := version, Syntax := wr8 } : Go)
  let world := { (world) with gos := hl }
  let t10 ← heapGet ((world).mods) f
  let t11 ← heapSet ((world).mods) f { (t10) with Go := p9 }
  let world := { (world) with mods := t11 }
  pure ((none : Option String), world)

theorem addGoTail_sim {h : Heap} {fp : Int} {e : Modfile.Edit.EFile} (R : RepF h fp e) (hint : Option Nat)
    (version : Bytes) (fuel : Nat) (hf : nodeCount e.f.syn.stmts + 3 ≤ fuel) :
    ∃ h', addGoTail fuel fp version (hintG hint) h = .ok (none, h') ∧
      RepF h' fp { f := { e.f with go := some { version := version, lineId := e.next },
                                   syn := Modfile.Edit.addLine e.f.syn hint [B "go", version] e.next }, next := e.next + 1 } := by
  obtain ⟨o, ho, R⟩ := R
  obtain ⟨h1, hrun, ho1, R3⟩ := pushOpt_sim modK_ok modA_ok goP_ok (fun _ _ => rfl) ho R hint [103, 111] [version]
    { version := version, lineId := e.next } rfl fuel hf
  rw [B_go]
  refine ⟨_, ?_, R3⟩
  have hrun' : FileSyntax_addLine fuel o.Syntax (hintG hint) [[103, 111], version] h = .ok (((e.next : Nat) : Int), h1) := hrun
  have ho1' : heapGet h1.mods fp = .ok o := ho1
  simp only [addGoTail, show heapGet h.mods fp = .ok o from ho, hrun', bind, Except.bind, pure, Except.pure, heapAlloc, ho1',
    heapSet_of_get _ ho1']
  rfl

/-- `f.Go == nil`.  The model's hint is the module's `lineId`; Go takes the hint only if that pointer is not nil. -/
theorem File_AddGoStmt_insert {h : Heap} {fp : Int} {e : Modfile.Edit.EFile} (R : RepF h fp e)
    (hn : e.f.go = none) (hm : ∀ m, e.f.module = some m → m.lineId ≠ 0) (version : Bytes)
    (hv : Modfile.goVersionRE version = true) (fuel : Nat) (hf : nodeCount e.f.syn.stmts + 3 ≤ fuel) :
    ∃ h', File_AddGoStmt Modfile.goVersionRE fuel fp version h = .ok (none, h') ∧
      RepF h' fp { f := { e.f with go := some { version := version, lineId := e.next },
                                   syn := Modfile.Edit.addLine e.f.syn (e.f.module.map (·.lineId)) [B "go", version] e.next },
                   next := e.next + 1 } := by
  have key : File_AddGoStmt Modfile.goVersionRE fuel fp version h =
      addGoTail fuel fp version (hintG (e.f.module.map (·.lineId))) h := by
    obtain ⟨o, ho, R⟩ := R
    have hgo := R.go
    rw [hn] at hgo
    have hgo : o.Go = 0 := hgo
    have hsynpos : ¬ (o.Syntax = 0) := by
      obtain ⟨es, r⟩ := R.syn
      have := heapGet_pos r.file; omega
    have hmod := R.module
    cases hmm : e.f.module with
    | none =>
      rw [hmm] at hmod
      have hmod : o.Module = 0 := hmod
      simp only [File_AddGoStmt, addGoTail, hv, ho, hgo, hmod, hsynpos, bind, Except.bind, pure, Except.pure, decide_true, decide_false,
        Bool.not_true, Bool.false_eq_true, if_false, if_true, Option.map_none, hintG]
    | some m =>
      rw [hmm] at hmod
      obtain ⟨hmod1, hmod2⟩ : heapGet h.modules o.Module = .ok (moduleG m) ∧ m.lineId ≤ h.lines.length := hmod
      have hmpos : ¬ (o.Module = 0) := by have := heapGet_pos hmod1; omega
      have hml : ¬ ((m.lineId : Int) = 0) := by have := hm m hmm; omega
      simp only [File_AddGoStmt, addGoTail, hv, ho, hgo, hmod1, hmpos, hml, bind, Except.bind, pure, Except.pure, decide_true, decide_false,
        Bool.not_true, Bool.not_false, Bool.false_eq_true, if_false, if_true, Option.map_some, hintG, moduleG_Syntax]
  rw [key]
  exact addGoTail_sim R _ version fuel hf

theorem File_AddToolchainStmt_invalid (fuel : Nat) (fp : Int) (name : Bytes) (h : Heap) (hv : Modfile.toolchainRE name = false) :
    File_AddToolchainStmt Modfile.toolchainRE fuel fp name h = .ok (some "invalid toolchain name %q", h) := by
  simp [File_AddToolchainStmt, hv, pure, Except.pure]

/-- `f.Toolchain != nil` -/
theorem File_AddToolchainStmt_update {h : Heap} {fp : Int} {e : Modfile.Edit.EFile} (R : RepF h fp e) {g : Modfile.Toolchain}
    (hs : e.f.toolchain = some g) (h0 : g.lineId ≠ 0) (name : Bytes) (hv : Modfile.toolchainRE name = true) (fuel : Nat) :
    ∃ h', File_AddToolchainStmt Modfile.toolchainRE fuel fp name h = .ok (none, h') ∧
      RepF h' fp { e with f := { e.f with toolchain := some { g with name := name },
                                          syn := Modfile.Edit.updateLine e.f.syn g.lineId [B "toolchain", name] } } := by
  obtain ⟨o, ho, R⟩ := R
  have htc1 : heapGet h.toolchains o.Toolchain = .ok (toolchainG g) := (toolchainP_ok.some R hs).1
  have hpos : ¬ (o.Toolchain = 0) := (toolchainP_ok.some R hs).2.2
  obtain ⟨l, hl, R2⟩ := setOpt_sim modK_ok toolchainP_ok R hs h0 { g with name := name } rfl
    [[116, 111, 111, 108, 99, 104, 97, 105, 110], name]
  rw [B_toolchain]
  refine ⟨_, ?_, o, ?_, R2⟩
  rotate_left
  · exact ho
  have hset : heapSet h.toolchains o.Toolchain ({ (toolchainG g) with Name := name } : Toolchain) =
      .ok (h.toolchains.set (o.Toolchain.toNat - 1) (toolchainG { g with name := name })) := heapSet_of_get _ htc1
  simp only [File_AddToolchainStmt, hv, ho, htc1, hpos, bind, Except.bind, pure, Except.pure, decide_false, Bool.not_true,
    Bool.false_eq_true, if_false, hset]
  simp only [heapGet_listSet_same _ htc1, toolchainG_Syntax]
  rw [FileSyntax_updateLine_eq
    (h := { h with toolchains := h.toolchains.set (o.Toolchain.toNat - 1) (toolchainG { g with name := name }) }) (l := l) hl
    (by intro _; simp)]

theorem File_AddToolchainStmt_update_nil {h : Heap} {fp : Int} {e : Modfile.Edit.EFile} (R : RepF h fp e) {g : Modfile.Toolchain}
    (hs : e.f.toolchain = some g) (h0 : g.lineId = 0) (name : Bytes) (hv : Modfile.toolchainRE name = true) (fuel : Nat) :
    File_AddToolchainStmt Modfile.toolchainRE fuel fp name h = .error .panic := by
  obtain ⟨o, ho, R⟩ := R
  have htc := R.toolchain
  rw [hs] at htc
  obtain ⟨htc1, htc2⟩ : heapGet h.toolchains o.Toolchain = .ok (toolchainG g) ∧ g.lineId ≤ h.lines.length := htc
  have hpos : ¬ (o.Toolchain = 0) := by have := heapGet_pos htc1; omega
  let g' : Modfile.Toolchain := { g with name := name }
  let h1 : Heap := { h with toolchains := h.toolchains.set (o.Toolchain.toNat - 1) (toolchainG g') }
  have htc1' : heapGet h1.toolchains o.Toolchain = .ok (toolchainG g') := heapGet_listSet_same _ htc1
  have hset : heapSet h.toolchains o.Toolchain ({ (toolchainG g) with Name := name } : Toolchain) = .ok (h.toolchains.set (o.Toolchain.toNat - 1) (toolchainG g')) :=
    heapSet_of_get _ htc1
  have ho1 : heapGet h1.mods fp = .ok o := ho
  simp only [File_AddToolchainStmt, hv, ho, htc1, hpos, bind, Except.bind, pure, Except.pure, decide_false, Bool.not_true,
    Bool.false_eq_true, if_false, hset]
  simp only [show heapGet (h.toolchains.set (o.Toolchain.toNat - 1) (toolchainG g')) o.Toolchain = .ok (toolchainG g') from htc1', toolchainG_Syntax]
  rw [FileSyntax_updateLine_nil _ (by show ((g.lineId : Nat) : Int) ≤ 0; simp [h0])]

/-- the continuation `k12` of `File_AddToolchainStmt` -/
def addToolchainTail (fuel : Nat) (f : Int) (name : Bytes) (hint : Expr) (world : Heap) : M ((Option String) × Heap) := do
  let t6 ← heapGet ((world).mods) f
  let t7 ← (FileSyntax_addLine fuel (t6.Syntax) hint ([([116, 111, 111, 108, 99, 104, 97, 105, 110] : Bytes), name] : (List Bytes)) world)
  let (wr8, world) := t7
  let (p9, hl) := heapAlloc ((world).toolchains) ({ (default : Toolchain) with Name := name, Syntax := wr8 } : Toolchain)
  let world := { (world) with toolchains := hl }
  let t10 ← heapGet ((world).mods) f
  let t11 ← heapSet ((world).mods) f { (t10) with Toolchain := p9 }
  let world := { (world) with mods := t11 }
  pure ((none : Option String), world)

theorem addToolchainTail_sim {h : Heap} {fp : Int} {e : Modfile.Edit.EFile} (R : RepF h fp e) (hint : Option Nat)
    (name : Bytes) (fuel : Nat) (hf : nodeCount e.f.syn.stmts + 3 ≤ fuel) :
    ∃ h', addToolchainTail fuel fp name (hintG hint) h = .ok (none, h') ∧
      RepF h' fp { f := { e.f with toolchain := some { name := name, lineId := e.next },
                                   syn := Modfile.Edit.addLine e.f.syn hint [B "toolchain", name] e.next }, next := e.next + 1 } := by
  obtain ⟨o, ho, R⟩ := R
  obtain ⟨h1, hrun, ho1, R3⟩ := pushOpt_sim modK_ok modA_ok toolchainP_ok (fun _ _ => rfl) ho R hint
    [116, 111, 111, 108, 99, 104, 97, 105, 110] [name] { name := name, lineId := e.next } rfl fuel hf
  rw [B_toolchain]
  refine ⟨_, ?_, R3⟩
  have hrun' : FileSyntax_addLine fuel o.Syntax (hintG hint) [[116, 111, 111, 108, 99, 104, 97, 105, 110], name] h =
      .ok (((e.next : Nat) : Int), h1) := hrun
  have ho1' : heapGet h1.mods fp = .ok o := ho1
  simp only [addToolchainTail, show heapGet h.mods fp = .ok o from ho, hrun', bind, Except.bind, pure, Except.pure, heapAlloc, ho1',
    heapSet_of_get _ ho1']
  rfl

/-- the model's hint of `addToolchainStmt`: the go line, else the module line -/
def toolchainHint (e : Modfile.Edit.EFile) : Option Nat :=
  match e.f.go with
  | some g => some g.lineId
  | none => e.f.module.map (·.lineId)

/-- `f.Toolchain == nil`.  Go takes a hint only if that `Syntax` pointer is not nil. -/
theorem File_AddToolchainStmt_insert {h : Heap} {fp : Int} {e : Modfile.Edit.EFile} (R : RepF h fp e)
    (hn : e.f.toolchain = none) (hg : ∀ g, e.f.go = some g → g.lineId ≠ 0) (hm : ∀ m, e.f.module = some m → m.lineId ≠ 0)
    (name : Bytes) (hv : Modfile.toolchainRE name = true) (fuel : Nat) (hf : nodeCount e.f.syn.stmts + 3 ≤ fuel) :
    ∃ h', File_AddToolchainStmt Modfile.toolchainRE fuel fp name h = .ok (none, h') ∧
      RepF h' fp { f := { e.f with toolchain := some { name := name, lineId := e.next },
                                   syn := Modfile.Edit.addLine e.f.syn (toolchainHint e) [B "toolchain", name] e.next },
                   next := e.next + 1 } := by
  have key : File_AddToolchainStmt Modfile.toolchainRE fuel fp name h =
      addToolchainTail fuel fp name (hintG (toolchainHint e)) h := by
    obtain ⟨o, ho, R⟩ := R
    have htc := R.toolchain
    rw [hn] at htc
    have htc : o.Toolchain = 0 := htc
    have hgo := R.go
    have hmod := R.module
    cases hgg : e.f.go with
    | some g =>
      rw [hgg] at hgo
      obtain ⟨hgo1, hgo2⟩ : heapGet h.gos o.Go = .ok (goG g) ∧ g.lineId ≤ h.lines.length := hgo
      have hgpos : ¬ (o.Go = 0) := by have := heapGet_pos hgo1; omega
      have hgl : ¬ ((g.lineId : Int) = 0) := by have := hg g hgg; omega
      simp only [File_AddToolchainStmt, addToolchainTail, hv, ho, htc, hgo1, hgpos, hgl, bind, Except.bind, pure, Except.pure,
        decide_true, decide_false, Bool.not_true, Bool.not_false, Bool.false_eq_true, if_false, if_true, hintG, goG_Syntax,
        toolchainHint, hgg]
    | none =>
      rw [hgg] at hgo
      have hgo : o.Go = 0 := hgo
      cases hmm : e.f.module with
      | none =>
        rw [hmm] at hmod
        have hmod : o.Module = 0 := hmod
        simp only [File_AddToolchainStmt, addToolchainTail, hv, ho, htc, hgo, hmod, bind, Except.bind, pure, Except.pure,
          decide_true, Bool.not_true, Bool.false_eq_true, if_false, if_true, Option.map_none, hintG,
          toolchainHint, hgg, hmm]
      | some m =>
        rw [hmm] at hmod
        obtain ⟨hmod1, hmod2⟩ : heapGet h.modules o.Module = .ok (moduleG m) ∧ m.lineId ≤ h.lines.length := hmod
        have hmpos : ¬ (o.Module = 0) := by have := heapGet_pos hmod1; omega
        have hml : ¬ ((m.lineId : Int) = 0) := by have := hm m hmm; omega
        simp only [File_AddToolchainStmt, addToolchainTail, hv, ho, htc, hgo, hmod1, hmpos, hml, bind, Except.bind, pure, Except.pure,
          decide_true, decide_false, Bool.not_true, Bool.not_false, Bool.false_eq_true, if_false, if_true, Option.map_some, hintG,
          moduleG_Syntax, toolchainHint, hgg, hmm]
  rw [key]
  exact addToolchainTail_sim R _ name fuel hf

theorem MustQuote_loop1_same (isPrint : Int → Bool) (s : Bytes) : ∀ (fuel : Nat) (ri : Int),
    Generated.Edit.MustQuote_loop1 isPrint s fuel ri = Generated.Modfile.MustQuote_loop1 isPrint s fuel ri
  | 0, _ => rfl
  | fuel + 1, ri => by
    unfold Generated.Edit.MustQuote_loop1 Generated.Modfile.MustQuote_loop1
    simp only [MustQuote_loop1_same isPrint s fuel]

theorem AutoQuote_model (s : Bytes) (fuel : Nat) (hf : s.length + 1 ≤ fuel) :
    AutoQuote Drv.GenModfile.isPrintI Quote.quote fuel s = .ok (Modfile.autoQuote s) := by
  have e : AutoQuote Drv.GenModfile.isPrintI Quote.quote fuel s =
      Generated.Modfile.AutoQuote Drv.GenModfile.isPrintI Quote.quote fuel s := by
    unfold AutoQuote Generated.Modfile.AutoQuote MustQuote Generated.Modfile.MustQuote
    simp only [MustQuote_loop1_same]
    rfl
  rw [e]
  exact ModVerif.Tie.FnModfile.AutoQuote_tie s fuel hf

/-- `f.Module == nil` -/
theorem File_AddModuleStmt_insert {h : Heap} {fp : Int} {e : Modfile.Edit.EFile} (R : RepF h fp e)
    (hn : e.f.module = none) (path : Bytes) (fuel : Nat) (hf : nodeCount e.f.syn.stmts + 3 ≤ fuel) (hq : path.length + 1 ≤ fuel) :
    ∃ h', File_AddModuleStmt Drv.GenModfile.isPrintI Quote.quote fuel fp path h = .ok (none, h') ∧
      RepF h' fp { f := { e.f with module := some { mod := { path := path }, lineId := e.next },
                                   syn := Modfile.Edit.addLine e.f.syn none [B "module", Modfile.autoQuote path] e.next },
                   next := e.next + 1 } := by
  obtain ⟨o, ho, R⟩ := R
  have hmod : o.Module = 0 := moduleP_ok.none R hn
  have hsynpos : ¬ (o.Syntax = 0) := by
    obtain ⟨es, r⟩ := R.syn
    have := heapGet_pos r.file; omega
  obtain ⟨h1, hrun, ho1, R3⟩ := pushOpt_sim modK_ok modA_ok moduleP_ok (fun _ _ => rfl) ho R none [109, 111, 100, 117, 108, 101]
    [Modfile.autoQuote path] { mod := { path := path }, lineId := e.next } rfl fuel hf
  rw [B_module]
  refine ⟨_, ?_, R3⟩
  have hrun' : FileSyntax_addLine fuel o.Syntax Expr.nil [[109, 111, 100, 117, 108, 101], Modfile.autoQuote path] h =
      .ok (((e.next : Nat) : Int), h1) := hrun
  have ho1' : heapGet h1.mods fp = .ok o := ho1
  simp only [File_AddModuleStmt, show heapGet h.mods fp = .ok o from ho, hmod, hsynpos, AutoQuote_model path fuel hq, hrun', bind,
    Except.bind, pure, Except.pure, heapAlloc, ho1', heapSet_of_get _ ho1', decide_true, decide_false, Bool.false_eq_true, if_false, if_true]
  rfl

/-- `f.Module != nil` -/
theorem File_AddModuleStmt_update {h : Heap} {fp : Int} {e : Modfile.Edit.EFile} (R : RepF h fp e) {m : Modfile.Module}
    (hs : e.f.module = some m) (h0 : m.lineId ≠ 0) (path : Bytes) (fuel : Nat) (hq : path.length + 1 ≤ fuel) :
    ∃ h', File_AddModuleStmt Drv.GenModfile.isPrintI Quote.quote fuel fp path h = .ok (none, h') ∧
      RepF h' fp { e with f := { e.f with module := some { m with mod := { m.mod with path := path } },
                                          syn := Modfile.Edit.updateLine e.f.syn m.lineId [B "module", Modfile.autoQuote path] } } := by
  obtain ⟨o, ho, R⟩ := R
  have hmod1 : heapGet h.modules o.Module = .ok (moduleG m) := (moduleP_ok.some R hs).1
  have hpos : ¬ (o.Module = 0) := (moduleP_ok.some R hs).2.2
  have hsynpos : ¬ (o.Syntax = 0) := by
    obtain ⟨es, r⟩ := R.syn
    have := heapGet_pos r.file; omega
  obtain ⟨l, hl, R2⟩ := setOpt_sim modK_ok moduleP_ok R hs h0 { m with mod := { m.mod with path := path } } rfl
    [[109, 111, 100, 117, 108, 101], Modfile.autoQuote path]
  rw [B_module]
  refine ⟨_, ?_, o, ?_, R2⟩
  rotate_left
  · exact ho
  have hset : heapSet h.modules o.Module ({ (moduleG m) with Mod := { (moduleG m).Mod with Path := path } } : Module) =
      .ok (h.modules.set (o.Module.toNat - 1) (moduleG { m with mod := { m.mod with path := path } })) := heapSet_of_get _ hmod1
  simp only [File_AddModuleStmt, ho, hmod1, hpos, hsynpos, bind, Except.bind, pure, Except.pure, decide_false,
    Bool.false_eq_true, if_false, hset, AutoQuote_model path fuel hq]
  simp only [heapGet_listSet_same _ hmod1, moduleG_Syntax]
  rw [FileSyntax_updateLine_eq
    (h := { h with modules := h.modules.set (o.Module.toNat - 1) (moduleG { m with mod := { m.mod with path := path } }) }) (l := l) hl
    (by intro _; simp)]

theorem File_AddModuleStmt_update_nil {h : Heap} {fp : Int} {e : Modfile.Edit.EFile} (R : RepF h fp e) {m : Modfile.Module}
    (hs : e.f.module = some m) (h0 : m.lineId = 0) (path : Bytes) (fuel : Nat) (hq : path.length + 1 ≤ fuel) :
    File_AddModuleStmt Drv.GenModfile.isPrintI Quote.quote fuel fp path h = .error .panic := by
  obtain ⟨o, ho, R⟩ := R
  have hmod := R.module
  rw [hs] at hmod
  obtain ⟨hmod1, hmod2⟩ : heapGet h.modules o.Module = .ok (moduleG m) ∧ m.lineId ≤ h.lines.length := hmod
  have hpos : ¬ (o.Module = 0) := by have := heapGet_pos hmod1; omega
  have hsynpos : ¬ (o.Syntax = 0) := by
    obtain ⟨es, r⟩ := R.syn
    have := heapGet_pos r.file; omega
  let m' : Modfile.Module := { m with mod := { m.mod with path := path } }
  have hmod1' : heapGet (h.modules.set (o.Module.toNat - 1) (moduleG m')) o.Module = .ok (moduleG m') := heapGet_listSet_same _ hmod1
  have hset : heapSet h.modules o.Module ({ (moduleG m) with Mod := { (moduleG m).Mod with Path := path } } : Module) =
      .ok (h.modules.set (o.Module.toNat - 1) (moduleG m')) := heapSet_of_get _ hmod1
  simp only [File_AddModuleStmt, ho, hmod1, hpos, hsynpos, bind, Except.bind, pure, Except.pure, decide_false,
    Bool.false_eq_true, if_false, hset, AutoQuote_model path fuel hq]
  simp only [hmod1', moduleG_Syntax]
  rw [FileSyntax_updateLine_nil _ (by show ((m.lineId : Nat) : Int) ≤ 0; simp [h0])]

end ModVerif.Tie.FnEditStmtA
