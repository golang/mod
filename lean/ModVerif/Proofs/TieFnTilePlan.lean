/-
  Tie proofs for sumdb/tlog/tile.go: the PLANNING phase of `tileHashReader.ReadHashes`
  (loops 1–4 of the generated code = `planStx`, `walkUp`, `walkDown`, `planIndexes` of the model).

  The generated `tileOrder` map is an association list `List (Tile × Int)` read with `mapGet` and written with `mapSet`;
  the model's is a `List (Tile × Nat)` with the latest binding first.  `MapRel` relates them through the lookup function.
-/
import ModVerif.Proofs.TieFnTile
import ModVerif.Proofs.TileAuthNew
namespace ModVerif.TieFnTile
open ModVerif ModVerif.GoRt ModVerif.GoRtTile ModVerif.TieFnTlogInt

def MapRel (og : List (GTile × Int)) (order : List (Tile.Tile × Nat)) : Prop :=
  ∀ t : Tile.Tile, t.data = false → mapLookup og (toGen t) = (order.lookup t).map Int.ofNat

theorem mapRel_nil : MapRel [] [] := by
  intro t _; rfl

theorem mapRel_get {og : List (GTile × Int)} {order : List (Tile.Tile × Nat)} (hr : MapRel og order) (t : Tile.Tile)
    (hd : t.data = false) :
    mapGet og (toGen t) (0 : Int) = match order.lookup t with | some j => ((j : Int), true) | none => (0, false) := by
  rw [mapGet_eq, hr t hd]
  cases order.lookup t <;> rfl

theorem mapRel_set {og : List (GTile × Int)} {order : List (Tile.Tile × Nat)} (hr : MapRel og order) (p : Tile.Tile)
    (hd : p.data = false) (v : Nat) : MapRel (mapSet og (toGen p) (v : Int)) ((p, v) :: order) := by
  intro t ht
  rw [mapLookup_mapSet, List.lookup_cons]
  by_cases htp : t = p
  · subst htp
    simp
  · have hb : (t == p) = false := by simpa using htp
    have hne : ¬ toGen p = toGen t := fun e => htp (toGen_inj t p ht hd e.symm)
    rw [if_neg hne, hb]
    exact hr t ht

/-- a requested / tree-hash position inside the tree, with its coordinates -/
def ValidIdx (N x : Nat) : Prop :=
  x < Tlog.storedHashIndex 0 N ∧ ∃ c : Nat × Nat, Tlog.splitStoredHashIndex x = .ok c ∧ (c.2 + 1) * 2 ^ c.1 ≤ N

theorem validIdx_lt (N x : Nat) (hN : N < 2 ^ 62) (hv : ValidIdx N x) : x + 1 < 2 ^ 63 := by
  have h1 := hv.1
  rw [Tlog.storedHashIndex_zero_eq] at h1
  have := Tlog.S_le_two_mul N
  omega

/-- what the planning loops need to know about the tile `tileForIndex` returns -/
structure TfiOK (h N : Nat) (t0 : Tile.Tile) : Prop where
  data : t0.data = false
  hh : t0.h = h
  hl : t0.l ≤ 62
  hn : (t0.n + 1) * 2 ^ h ≤ N + 2 ^ h

theorem tfi_gen (fuel h N x : Nat) (h1 : 1 ≤ h) (h57 : h ≤ 57) (hN : N < 2 ^ 62) (hv : ValidIdx N x) (hf : 64 ≤ fuel) :
    ∃ t0 s e, Tile.tileForIndex h x = .ok (t0, s, e) ∧
      Generated.Tile.tileForIndex fuel (h : Int) (x : Int) = .ok (toGen t0, ((32 * s : Nat) : Int), ((32 * e : Nat) : Int)) ∧
      TfiOK h N t0 := by
  have hx := validIdx_lt N x hN hv
  obtain ⟨_, ⟨lv, k⟩, hs, hval⟩ := hv
  simp only at hval
  have hcl := TileAuth.tileForIndex_eq h x lv k (by omega) hs
  have hgen := tileForIndex_eq fuel h x hx (by omega) (Or.inl h57) hf
  rw [hcl] at hgen
  refine ⟨_, _, _, hcl, hgen, ⟨rfl, rfl, ?_, ?_⟩⟩
  · have := TileAuth.lv_lt_63 N lv k hval (by omega)
    have := Nat.div_le_self lv h
    show lv / h ≤ 62
    omega
  · have h2 := TileAuth.tnum_ts h lv k (by omega)
    simp only [TileAuth.tnum] at h2
    have h3 : k * 2 ^ (lv % h) ≤ k * 2 ^ lv :=
      Nat.mul_le_mul_left _ (Nat.pow_le_pow_right (by omega) (Nat.mod_le _ _))
    rw [Nat.add_mul] at hval
    show (k / 2 ^ (h - lv % h) + 1) * 2 ^ h ≤ N + 2 ^ h
    rw [Nat.add_mul, Nat.one_mul]
    have hpos := Nat.two_pow_pos lv
    omega

theorem tileParent_data (t : Tile.Tile) (k N : Nat) (hd : t.data = false) : (Tile.tileParent t k N).data = false := by
  unfold Tile.tileParent
  simp only
  split
  · split
    · rfl
    · exact hd
  · exact hd

theorem tileParent_gen (h N : Nat) (t0 : Tile.Tile) (ok : TfiOK h N t0) (kk : Nat) (hk : kk ≤ 100) (h57 : h ≤ 57)
    (hN : N < 2 ^ 62) :
    Generated.Tile.tileParent (toGen t0) (kk : Int) (N : Int) = .ok (toGen (Tile.tileParent t0 kk N)) := by
  have hp57 : 2 ^ h ≤ 2 ^ 57 := Nat.pow_le_pow_right (by omega) h57
  have hkh : kk * h ≤ 100 * 57 := Nat.mul_le_mul hk h57
  have hlh : (t0.l + kk) * h ≤ 162 * 57 := Nat.mul_le_mul (by have := ok.hl; omega) h57
  apply tileParent_eq t0 kk N ok.data
  · have := ok.hl; omega
  · rw [ok.hh]; omega
  · rw [ok.hh]; omega
  · rw [ok.hh]
    have h1 : t0.n >>> (kk * h) ≤ t0.n := by rw [Nat.shiftRight_eq_div_pow]; exact Nat.div_le_self _ _
    have h2 : (t0.n >>> (kk * h) + 1) * 2 ^ h ≤ (t0.n + 1) * 2 ^ h := Nat.mul_le_mul_right _ (by omega)
    have := ok.hn
    omega
  · omega

section
variable {H : Type} [DecidableEq H] [Inhabited H] (node : H → H → H) (ofBytes : Bytes → H)
variable (r : Generated.Tile.tileHashReader H) (effLog : List (List GTile × List Bytes))

/-! ### loop 1: the tiles of the tree hash -/

theorem loop1_eq (h N : Nat) (h1 : 1 ≤ h) (h57 : h ≤ 57) (hN : N < 2 ^ 62) (hrN : r.tree.N = (N : Int))
    (stx : List Nat) :
    ∀ (xs pre : List Nat) (tiles : List Tile.Tile) (order : List (Tile.Tile × Nat)) (sto : List Nat)
      (og : List (GTile × Int)) (fuel : Nat) (res : List Tile.Tile × List (Tile.Tile × Nat) × List Nat),
      stx = pre ++ xs → sto.length = pre.length → (∀ x ∈ xs, ValidIdx N x) → MapRel og order →
      Tile.planStx h N xs (tiles, order, sto) = .ok res → xs.length + 65 ≤ fuel →
      ∃ og', Generated.Tile.tileHashReader_ReadHashes_loop1 node ofBytes r (h : Int) (stx.map Int.ofNat) effLog fuel
          (pre.length : Int) (sto.map Int.ofNat ++ List.replicate xs.length (0 : Int)) og (tiles.map toGen) =
        .ok ((stx.length : Int), res.2.2.map Int.ofNat, og', res.1.map toGen) ∧ MapRel og' res.2.1 := by
  intro xs
  induction xs with
  | nil =>
    intro pre tiles order sto og fuel res hstx hsto _ hrel hm hf
    obtain ⟨g, rfl⟩ : ∃ g, fuel = g + 1 := ⟨fuel - 1, by omega⟩
    simp only [Tile.planStx, Except.ok.injEq] at hm
    subst hm
    simp only [List.append_nil] at hstx
    rw [hstx]
    refine ⟨og, ?_, hrel⟩
    rw [Generated.Tile.tileHashReader_ReadHashes_loop1]
    simp only [natCast_lt_len, List.length_map, Nat.lt_irrefl, decide_false, Bool.false_eq_true, ↓reduceIte, mpure, List.length_nil, List.replicate_zero,
      List.append_nil]
  | cons x xs ih =>
    intro pre tiles order sto og fuel res hstx hsto hval hrel hm hf
    obtain ⟨g, rfl⟩ : ∃ g, fuel = g + 1 := ⟨fuel - 1, by omega⟩
    simp only [List.length_cons] at hf
    have hpl : pre.length < stx.length := by simp [hstx]
    have hlt : ((pre.length : Int) < len (stx.map Int.ofNat)) := (natCast_lt_len _ _).mpr (by simpa using hpl)
    have hidx : idxL (stx.map Int.ofNat) (pre.length : Int) = .ok (x : Int) := by
      rw [idxL_map _ hpl]; simp [hstx]
    obtain ⟨t0, s, e, hmt, hgt, hok⟩ := tfi_gen g h N x h1 h57 hN (hval x (by simp)) (by omega)
    have hpar := tileParent_gen h N t0 hok 0 (by omega) h57 hN
    have hpd := tileParent_data t0 0 N hok.data
    have hget := mapRel_get hrel _ hpd
    have hset : ∀ v : Int, setIdxL (sto.map Int.ofNat ++ List.replicate (xs.length + 1) (0 : Int)) (pre.length : Int) v =
        .ok (sto.map Int.ofNat ++ [v] ++ List.replicate xs.length (0 : Int)) := by
      intro v
      have := setIdxL_fill (sto.map Int.ofNat) xs.length 0 v
      rwa [List.length_map, hsto] at this
    have hstx' : stx = (pre ++ [x]) ++ xs := by rw [hstx]; simp
    have e1 : (pre.length : Int) + 1 = (((pre ++ [x]).length : Nat) : Int) := by simp
    rw [Generated.Tile.tileHashReader_ReadHashes_loop1]
    simp only [hlt, decide_true, ↓reduceIte, hidx, mbind_ok, hgt, hrN, Int.natCast_zero, List.length_cons] at hpar ⊢
    simp only [hpar, mbind_ok, hget]
    simp only [Tile.planStx, hmt, bind, Except.bind] at hm
    cases hlk : order.lookup (Tile.tileParent t0 0 N) with
    | some j =>
      rw [hlk] at hm
      simp only at hm
      obtain ⟨og', hg', hr'⟩ := ih (pre ++ [x]) tiles order (sto ++ [j]) og g res hstx' (by simp [hsto])
        (fun y hy => hval y (by simp [hy])) hrel hm (by omega)
      refine ⟨og', ?_, hr'⟩
      simp only [↓reduceIte, mbind_ok, hset, e1]
      rw [← hg']
      simp
    | none =>
      rw [hlk] at hm
      simp only at hm
      have hrel' := mapRel_set hrel _ hpd tiles.length
      obtain ⟨og', hg', hr'⟩ := ih (pre ++ [x]) (tiles ++ [Tile.tileParent t0 0 N])
        ((Tile.tileParent t0 0 N, tiles.length) :: order) (sto ++ [tiles.length]) _ g res hstx' (by simp [hsto])
        (fun y hy => hval y (by simp [hy])) hrel' hm (by omega)
      refine ⟨og', ?_, hr'⟩
      simp only [Bool.false_eq_true, ↓reduceIte, len_map, mbind_ok, hset, e1]
      rw [← hg']
      simp

/-! ### loop 3: walk up to a requested tile -/

theorem loop3_eq (h N : Nat) (h57 : h ≤ 57) (hN : N < 2 ^ 62) (hrN : r.tree.N = (N : Int))
    (t0 : Tile.Tile) (hok : TfiOK h N t0) (og : List (GTile × Int)) (order : List (Tile.Tile × Nat)) (hrel : MapRel og order)
    (i : Nat) (K j : Nat) :
    ∀ (f k fuel : Nat) (ito : List Int), Tile.walkUp N order t0 f k = .ok (K, j) → k + f ≤ 100 → f ≤ fuel → i < ito.length →
      Generated.Tile.tileHashReader_ReadHashes_loop3 node ofBytes r og (i : Int) (toGen t0) effLog fuel ito (k : Int) =
        .ok (if K = 0 then ito.set i (j : Int) else ito, (K : Int)) := by
  intro f
  induction f with
  | zero => intro k fuel ito hw; simp [Tile.walkUp] at hw
  | succ f ih =>
    intro k fuel ito hw hkf hf hi
    obtain ⟨g, rfl⟩ : ∃ g, fuel = g + 1 := ⟨fuel - 1, by omega⟩
    have hpar := tileParent_gen h N t0 hok k (by omega) h57 hN
    have hpd := tileParent_data t0 k N hok.data
    have hget := mapRel_get hrel _ hpd
    rw [Generated.Tile.tileHashReader_ReadHashes_loop3]
    simp only [hrN, hpar, mbind_ok, hget]
    unfold Tile.walkUp at hw
    cases hlk : order.lookup (Tile.tileParent t0 k N) with
    | some j' =>
      rw [hlk] at hw
      simp only [Except.ok.injEq, Prod.mk.injEq] at hw
      obtain ⟨rfl, rfl⟩ := hw
      by_cases hk0 : k = 0
      · subst hk0
        simp only [↓reduceIte, Int.natCast_zero, decide_true, setIdxL_natCast hi, mbind_ok, mpure]
      · have : ¬ ((k : Int) = 0) := by omega
        simp only [↓reduceIte, this, decide_false, Bool.false_eq_true, mpure, hk0]
    | none =>
      rw [hlk] at hw
      simp only at hw
      simp only [Bool.false_eq_true, ↓reduceIte, chk64_succ (show k + 1 < 2 ^ 63 by omega), mbind_ok]
      exact ih (k + 1) g ito hw (by omega) (by omega) hi

/-! ### loop 4: walk down recording the child tiles -/

theorem loop4_eq (h N : Nat) (h57 : h ≤ 57) (hN : N < 2 ^ 62) (hrN : r.tree.N = (N : Int))
    (t0 : Tile.Tile) (hok : TfiOK h N t0) (i x : Nat) :
    ∀ (K fuel : Nat) (tiles : List Tile.Tile) (order : List (Tile.Tile × Nat)) (pos : Option Nat)
      (og : List (GTile × Int)) (ito : List Int) (res : List Tile.Tile × List (Tile.Tile × Nat) × Option Nat),
      MapRel og order → Tile.walkDown N t0 K (tiles, order, pos) = .ok res → K ≤ 100 → K < fuel → i < ito.length →
      ∃ og' ito', Generated.Tile.tileHashReader_ReadHashes_loop4 node ofBytes r (i : Int) (x : Int) (toGen t0) effLog fuel
          og ito (tiles.map toGen) ((K : Int) - 1) = .ok (Ctl.next (og', ito', res.1.map toGen, (-1 : Int))) ∧
        MapRel og' res.2.1 ∧ (K = 0 → ito' = ito ∧ res.2.2 = pos) ∧
        (0 < K → ∃ p' : Nat, res.2.2 = some p' ∧ ito' = ito.set i (p' : Int)) := by
  intro K
  induction K with
  | zero =>
    intro fuel tiles order pos og ito res hrel hw _ hf hi
    obtain ⟨g, rfl⟩ : ∃ g, fuel = g + 1 := ⟨fuel - 1, by omega⟩
    simp only [Tile.walkDown, Except.ok.injEq] at hw
    subst hw
    refine ⟨og, ito, ?_, hrel, fun _ => ⟨rfl, rfl⟩, fun hc => by omega⟩
    rw [Generated.Tile.tileHashReader_ReadHashes_loop4]
    have : ¬ (((0 : Nat) : Int) - 1 ≥ 0) := by omega
    simp only [this, decide_false, Bool.false_eq_true, ↓reduceIte, mpure]
    rfl
  | succ K ih =>
    intro fuel tiles order pos og ito res hrel hw hK hf hi
    obtain ⟨g, rfl⟩ : ∃ g, fuel = g + 1 := ⟨fuel - 1, by omega⟩
    have e0 : ((K + 1 : Nat) : Int) - 1 = (K : Int) := by omega
    have hge : ((K : Int) ≥ 0) := by omega
    have hpar := tileParent_gen h N t0 hok K (by omega) h57 hN
    have hpd := tileParent_data t0 K N hok.data
    unfold Tile.walkDown at hw
    simp only at hw
    generalize hP : Tile.tileParent t0 K N = P at hw hpar hpd
    -- `P.h ≤ 57`: `P` is `Tile{}` or has height `h`
    have hPh : P.h ≤ 57 := by
      rw [← hP]
      unfold Tile.tileParent
      simp only
      split
      · split
        · simp [Tile.Tile.zero]
        · rw [hok.hh]; exact h57
      · rw [hok.hh]; exact h57
    have hpw : 2 ^ P.h < 2 ^ 63 := Nat.pow_lt_pow_right (by omega) (by omega)
    have hH : (toGen P).H = (P.h : Int) := rfl
    have hW : (toGen P).W = (P.w : Int) := rfl
    rw [Generated.Tile.tileHashReader_ReadHashes_loop4, e0]
    simp only [hge, decide_true, ↓reduceIte, hrN, hpar, mbind_ok, hH, hW, toU64_natCast (show P.h < 2 ^ 64 by omega),
      shl_one_natCast, chk64_natCast hpw]
    by_cases hfull : P.w = 2 ^ P.h
    · have hb : (P.w != 2 ^ P.h) = false := by simp [hfull]
      have hfull' : ((P.w : Int) = ((2 ^ P.h : Nat) : Int)) := by omega
      rw [hb] at hw
      simp only [Bool.false_eq_true, ↓reduceIte] at hw
      have hrel' := mapRel_set hrel P hpd tiles.length
      have hmap : tiles.map toGen ++ [toGen P] = (tiles ++ [P]).map toGen := by simp
      simp only [hfull', decide_true, Bool.not_true, Bool.false_eq_true, ↓reduceIte, len_map, hmap]
      by_cases hK0 : K = 0
      · subst hK0
        have hb0 : ((0 : Nat) == 0) = true := rfl
        rw [hb0] at hw
        simp only [↓reduceIte] at hw
        obtain ⟨og', ito', hg, hr', hz, _⟩ := ih g (tiles ++ [P]) ((P, tiles.length) :: order) (some tiles.length) _
          (ito.set i (tiles.length : Int)) res hrel' hw (by omega) (by omega) (by simp; exact hi)
        obtain ⟨hz1, hz2⟩ := hz rfl
        refine ⟨og', ito', ?_, hr', fun hc => by omega, fun _ => ⟨tiles.length, hz2, hz1⟩⟩
        have hc := chk64_pred (m := 0) (by decide)
        simp only [Int.natCast_zero, decide_true, ↓reduceIte, setIdxL_natCast hi, mbind_ok] at hg hc ⊢
        rw [hc]
        simp only [mbind_ok]
        exact hg
      · have hb0 : (K == 0) = false := by simp [hK0]
        rw [hb0] at hw
        simp only [Bool.false_eq_true, ↓reduceIte] at hw
        obtain ⟨og', ito', hg, hr', _, hp⟩ := ih g (tiles ++ [P]) ((P, tiles.length) :: order) pos _ ito res hrel' hw
          (by omega) (by omega) hi
        refine ⟨og', ito', ?_, hr', fun hc => by omega, fun _ => hp (by omega)⟩
        have hk0' : ¬ ((K : Int) = 0) := by omega
        have hc := chk64_pred (show K < 2 ^ 63 by omega)
        simp only [hk0', decide_false, Bool.false_eq_true, ↓reduceIte, hc, mbind_ok]
        exact hg
    · have hb : (P.w != 2 ^ P.h) = true := by simp [hfull]
      rw [hb] at hw
      simp at hw

/-! ### loop 2: the requested indexes -/

omit [DecidableEq H] [Inhabited H] in
theorem walkUp_bound (N : Nat) (order : List (Tile.Tile × Nat)) (t : Tile.Tile) (K j : Nat) :
    ∀ f k, Tile.walkUp N order t f k = .ok (K, j) → k ≤ K ∧ K < k + f := by
  intro f
  induction f with
  | zero => intro k hw; simp [Tile.walkUp] at hw
  | succ f ih =>
    intro k hw
    unfold Tile.walkUp at hw
    split at hw
    · simp only [Except.ok.injEq, Prod.mk.injEq] at hw
      omega
    · have := ih (k + 1) hw
      omega

omit [DecidableEq H] [Inhabited H] in
theorem walkUp_err (N : Nat) (order : List (Tile.Tile × Nat)) (t : Tile.Tile) (e : Tlog.Err) :
    ∀ f k, Tile.walkUp N order t f k = .error e → e = .fuel := by
  intro f
  induction f with
  | zero => intro k hw; simp only [Tile.walkUp, Except.error.injEq] at hw; exact hw.symm
  | succ f ih =>
    intro k hw
    unfold Tile.walkUp at hw
    split at hw
    · cases hw
    · exact ih (k + 1) hw

omit [DecidableEq H] [Inhabited H] in
theorem walkDown_err (N : Nat) (t : Tile.Tile) (e : Tlog.Err) :
    ∀ K st, Tile.walkDown N t K st = .error e → e = .badMath := by
  intro K
  induction K with
  | zero => intro st hw; simp [Tile.walkDown] at hw
  | succ K ih =>
    intro st hw
    obtain ⟨tiles, order, pos⟩ := st
    unfold Tile.walkDown at hw
    simp only at hw
    split at hw
    · simp only [Except.error.injEq] at hw; exact hw.symm
    · exact ih _ hw

theorem loop2_eq (h N : Nat) (h1 : 1 ≤ h) (h57 : h ≤ 57) (hN : N < 2 ^ 62) (hrN : r.tree.N = (N : Int))
    (idx : List Nat) :
    ∀ (xs pre : List Nat) (tiles : List Tile.Tile) (order : List (Tile.Tile × Nat)) (ito : List Nat)
      (og : List (GTile × Int)) (fuel : Nat),
      idx = pre ++ xs → ito.length = pre.length → MapRel og order →
      (∀ e, Tile.planIndexes h N xs (tiles, order, ito) = .error e → e = .indexRange) → xs.length + 170 ≤ fuel →
      match Tile.planIndexes h N xs (tiles, order, ito) with
      | .ok res => ∃ og', Generated.Tile.tileHashReader_ReadHashes_loop2 node ofBytes r (idx.map Int.ofNat) (h : Int) effLog fuel
            (pre.length : Int) (ito.map Int.ofNat ++ List.replicate xs.length (0 : Int)) og (tiles.map toGen) =
          .ok (Ctl.next ((idx.length : Int), res.2.2.map Int.ofNat, og', res.1.map toGen)) ∧ MapRel og' res.2.1
      | .error _ => Generated.Tile.tileHashReader_ReadHashes_loop2 node ofBytes r (idx.map Int.ofNat) (h : Int) effLog fuel
            (pre.length : Int) (ito.map Int.ofNat ++ List.replicate xs.length (0 : Int)) og (tiles.map toGen) =
          .ok (Ctl.ret ((([] : List H), some "indexes not in tree"), effLog)) := by
  intro xs
  induction xs with
  | nil =>
    intro pre tiles order ito og fuel hidx hito hrel _ hf
    obtain ⟨g, rfl⟩ : ∃ g, fuel = g + 1 := ⟨fuel - 1, by omega⟩
    simp only [List.append_nil] at hidx
    simp only [Tile.planIndexes]
    refine ⟨og, ?_, hrel⟩
    rw [hidx]
    rw [Generated.Tile.tileHashReader_ReadHashes_loop2]
    simp only [natCast_lt_len, List.length_map, Nat.lt_irrefl, decide_false, Bool.false_eq_true, ↓reduceIte, mpure, List.length_nil, List.replicate_zero,
      List.append_nil]
  | cons x xs ih =>
    intro pre tiles order ito og fuel hidx hito hrel hres hf
    obtain ⟨g, rfl⟩ : ∃ g, fuel = g + 1 := ⟨fuel - 1, by omega⟩
    simp only [List.length_cons] at hf
    have hpl : pre.length < idx.length := by simp [hidx]
    have hlt : ((pre.length : Int) < len (idx.map Int.ofNat)) := (natCast_lt_len _ _).mpr (by simpa using hpl)
    have hix : idxL (idx.map Int.ofNat) (pre.length : Int) = .ok (x : Int) := by
      rw [idxL_map _ hpl]; simp [hidx]
    have hS := Tlog.S_le_two_mul N
    have hshi := StoredHashIndex_eq g 0 N (by rw [Tlog.storedHashIndex_zero_eq]; omega) (by omega)
    simp only [Int.natCast_zero] at hshi
    rw [Generated.Tile.tileHashReader_ReadHashes_loop2]
    simp only [hlt, decide_true, ↓reduceIte, hix, mbind_ok, hrN, hshi, List.length_cons]
    simp only [Tile.planIndexes, Tile.planIndex] at hres ⊢
    by_cases hx : x ≥ Tlog.storedHashIndex 0 N
    · have hx' : ((x : Int) ≥ ((Tlog.storedHashIndex 0 N : Nat) : Int)) := by omega
      simp only [hx, ↓reduceIte, bind, Except.bind, hx', decide_true, mpure]
    · have hx' : ¬ ((x : Int) ≥ ((Tlog.storedHashIndex 0 N : Nat) : Int)) := by omega
      have hv : ValidIdx N x := (TileAuth.hidx_of_lt N hN [x] (by intro y hy; simp at hy; subst hy; omega)) x (by simp)
      obtain ⟨t0, s, e, hmt, hgt, hok⟩ := tfi_gen g h N x h1 h57 hN hv (by omega)
      simp only [hx, ↓reduceIte, hmt, bind, Except.bind] at hres ⊢
      simp only [hx', decide_false, Bool.false_eq_true, ↓reduceIte, hgt]
      have hlog : N.log2 < 62 := by
        by_cases h0 : N = 0
        · subst h0; simp
        · exact (Nat.log2_lt h0).mpr hN
      -- the walk up
      cases hwu : Tile.walkUp N order t0 (N.log2 + 2) 0 with
      | error e' =>
        rw [hwu] at hres
        have h2 := hres _ rfl
        have h3 := walkUp_err N order t0 e' _ _ hwu
        rw [h3] at h2
        cases h2
      | ok kj =>
        obtain ⟨K, j⟩ := kj
        rw [hwu] at hres
        simp only at hres ⊢
        obtain ⟨_, hKb⟩ := walkUp_bound N order t0 K j _ _ hwu
        have hslot : pre.length < (ito.map Int.ofNat ++ List.replicate (xs.length + 1) (0 : Int)).length := by
          simp; omega
        have hl3 := loop3_eq node ofBytes r effLog h N h57 hN hrN t0 hok og order hrel pre.length K j (N.log2 + 2) 0 g
          (ito.map Int.ofNat ++ List.replicate (xs.length + 1) (0 : Int)) hwu (by omega) (by omega) hslot
        simp only [Int.natCast_zero] at hl3
        simp only [hl3]
        simp only [chk64_pred (show K < 2 ^ 63 by omega)]
        -- the walk down
        cases hwd : Tile.walkDown N t0 K (tiles, order, if (K == 0) = true then some j else none) with
        | error e' =>
          rw [hwd] at hres
          have h2 := hres _ rfl
          have h3 := walkDown_err N t0 e' _ _ hwd
          rw [h3] at h2
          cases h2
        | ok res =>
          rw [hwd] at hres
          simp only at hres ⊢
          have hslot' : pre.length < (if K = 0 then (ito.map Int.ofNat ++ List.replicate (xs.length + 1) (0 : Int)).set pre.length (j : Int)
              else ito.map Int.ofNat ++ List.replicate (xs.length + 1) (0 : Int)).length := by
            split <;> simp <;> omega
          obtain ⟨og', ito', hg4, hr4, hz, hp⟩ := loop4_eq node ofBytes r effLog h N h57 hN hrN t0 hok pre.length x K g tiles order
            (if (K == 0) = true then some j else none) og _ res hrel hwd (by omega) (by omega) hslot'
          simp only [hg4]
          -- the position of the index tile
          have hset : ∀ v : Int, (ito.map Int.ofNat ++ List.replicate (xs.length + 1) (0 : Int)).set pre.length v =
              (ito ++ []).map Int.ofNat ++ [v] ++ List.replicate xs.length (0 : Int) := by
            intro v
            rw [List.set_append_right _ _ (by simp; omega)]
            simp [hito, List.replicate_succ]
          have hpos : ∃ p : Nat, res.2.2 = some p ∧
              ito' = (ito ++ [p]).map Int.ofNat ++ List.replicate xs.length (0 : Int) := by
            by_cases hK0 : K = 0
            · obtain ⟨a, b⟩ := hz hK0
              subst hK0
              refine ⟨j, by rw [b]; rfl, ?_⟩
              rw [a]
              simp only [↓reduceIte, hset]
              simp
            · obtain ⟨p', a, b⟩ := hp (by omega)
              refine ⟨p', a, ?_⟩
              rw [b]
              simp only [hK0, ↓reduceIte, hset]
              simp
          obtain ⟨p, hp1, hp2⟩ := hpos
          obtain ⟨tiles1, order1, pos1⟩ := res
          simp only at hp1 hr4
          subst hp1
          simp only at hres ⊢
          have hidx' : idx = (pre ++ [x]) ++ xs := by rw [hidx]; simp
          have e1 : (pre.length : Int) + 1 = (((pre ++ [x]).length : Nat) : Int) := by simp
          have := ih (pre ++ [x]) tiles1 order1 (ito ++ [p]) og' g hidx' (by simp [hito]) hr4 hres (by omega)
          rw [hp2, e1]
          exact this

end
end ModVerif.TieFnTile
