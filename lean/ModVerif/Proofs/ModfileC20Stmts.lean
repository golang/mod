/-
  C20, directive layer: `workStmts`, the shape of the tree returned by `addStmts` (only tokens
  change), the line identities of retract entries, `fixRetract`, and the resulting theorems about the
  error lists of `parseToFile` / `parseWork`.
-/
import ModVerif.Proofs.ModfileC20Rule
import ModVerif.Proofs.ModfileC20Tree
import ModVerif.Proofs.ModfileParse
namespace ModVerif.Proofs.ModfileC20
open ModVerif ModVerif.Modfile

section
open ModVerif.Modfile.Edit ModVerif.Proofs.ModfileWalk

theorem workStmts_errs (Q : Position → Prop) (fix : Option Fixer) (xs : List Expr) (st : WorkState)
    (h : ∀ x ∈ xs, StmtPos Q x) : ErrsExt (RErr Q) st.errsRev (workStmts fix st xs).1.errsRev := by
  rw [workStmts_eq_walk]
  exact walk_errs WorkState.errsRev (fun st _ l verb args => workAdd_errs st l verb args fix)
    (fun st p => .one ⟨rfl, nofun⟩) Q xs st h

end

theorem stmtPos_of_exprOK {data : Bytes} {x : Expr} (h : ExprOK data x) : StmtPos (PosOK data) x := by
  cases x with
  | line l => obtain ⟨_, _, _, hp⟩ := h.start; exact hp.1
  | lineBlock b =>
    obtain ⟨_, _, _, hp⟩ := h.start
    refine ⟨hp.1, ?_⟩
    intro l hl
    obtain ⟨_, _, _, hq⟩ := (h.lines l hl).start
    exact hq.1
  | commentBlock c => trivial
  | lparen c => trivial
  | rparen c => trivial

/-! ### what `parseToFile` and `ParseWork` do with the error list -/

theorem finish_total {α : Type} (a : α) (l : List RuleErr) :
    (∃ f, (if l.isEmpty then (.ok a : Except (List RuleErr) α) else .error l.reverse) = .ok f) ∨
    (∃ es, (if l.isEmpty then (.ok a : Except (List RuleErr) α) else .error l.reverse) = .error es ∧ es ≠ []) := by
  cases l with
  | nil => exact .inl ⟨a, rfl⟩
  | cons e l => exact .inr ⟨_, rfl, by simp⟩

theorem syn_error_ok {name data : Bytes} {e : SynErr} (h : parse name data = .error e) :
    (∀ e' ∈ [(⟨e.pos, .syn e.kind⟩ : RuleErr)], PosOK data e'.pos) ∧
    (∀ e' ∈ [(⟨e.pos, .syn e.kind⟩ : RuleErr)], ∀ t, e'.kind ≠ .syn (.internal t)) := by
  have hp := parse_pos_consistent name data
  rw [h] at hp
  refine ⟨?_, ?_⟩ <;> intro e' he' <;> cases List.mem_singleton.1 he'
  · exact hp
  · intro t ht
    exact ModVerif.Proofs.ModfileParse.parse_noInternal name data e h t (RuleErrKind.syn.inj ht)

theorem ext_errors_ok {data : Bytes} {errsRev : List RuleErr} (h : ErrsExt (RErr (PosOK data)) [] errsRev) :
    (∀ e ∈ errsRev.reverse, PosOK data e.pos) ∧ (∀ e ∈ errsRev.reverse, ∀ t, e.kind ≠ .syn (.internal t)) := by
  obtain ⟨add, hadd, hall⟩ := h
  rw [List.append_nil] at hadd
  subst hadd
  exact ⟨fun e he => (hall e (List.mem_reverse.1 he)).1, fun e he t => (hall e (List.mem_reverse.1 he)).2 _⟩

/-- `pos_consistent_errors` and `directive_layer_no_internal_error_work` (Props/C20) -/
theorem parseWork_errors (name data : Bytes) (fix : Option Fixer) (es : List RuleErr)
    (h : parseWork name data fix = .error es) :
    (∀ e ∈ es, PosOK data e.pos) ∧ (∀ e ∈ es, ∀ t, e.kind ≠ .syn (.internal t)) := by
  unfold parseWork at h
  have hp := parse_pos_consistent name data
  cases hparse : parse name data with
  | error e =>
    rw [hparse] at h
    cases h
    exact syn_error_ok hparse
  | ok fs =>
    rw [hparse] at hp h
    simp only at hp h
    split at h
    · cases h
    · cases h
      exact ext_errors_ok (workStmts_errs (PosOK data) fix fs.stmts { file := { syn := fs } }
        (fun x hx => stmtPos_of_exprOK (hp.stmts x hx)))


/-! ### shape of the rewritten tree -/

/-- what the directive layer never changes of a line -/
def lineKey (l : Line) : Nat × Position := (l.id, l.start)

open ModVerif.Modfile.Edit ModVerif.Proofs.ModfileWalk in
theorem addStmts_keys (fix : Option Fixer) (strict : Bool) (xs : List Expr) (st : AddState) :
    (linesOf (addStmts fix strict st xs).2).map lineKey = (linesOf xs).map lineKey := by
  rw [addStmts_eq_walk]
  exact walk_lines _ _ _ lineKey (fun _ => rfl) xs st

/-! ### retract entries refer to lines of the tree -/

def FstRetr {β : Type} (line : Line) (old : List Retract) (r : AddState × β) : Prop :=
  r.1.file.retract = old ∨ ∃ x, r.1.file.retract = old ++ [x] ∧ x.lineId = line.id

theorem add_retr (st : AddState) (block : Option Comments) (line : Line) (verb : Bytes) (args : List Bytes)
    (fix : Option Fixer) (strict : Bool) :
    FstRetr line st.file.retract (File.add st block line verb args fix strict) := by
  have h := (add_shape st block line verb args fix strict).1
  unfold FstRetr
  generalize (File.add st block line verb args fix strict).1.file = f' at h
  cases h <;> first | exact Or.inl rfl | exact Or.inr ⟨_, rfl, rfl⟩

def RetrIn (old : List Retract) (ls : List Line) (new : List Retract) : Prop :=
  ∀ r ∈ new, r ∈ old ∨ ∃ l ∈ ls, l.id = r.lineId

theorem RetrIn.trans {a b c : List Retract} {ls : List Line} (h1 : RetrIn a ls b) (h2 : RetrIn b ls c) : RetrIn a ls c := by
  intro r hr
  rcases h2 r hr with h | h
  · exact h1 r h
  · exact .inr h

theorem RetrIn.of_fstRetr {β : Type} {l : Line} {ls : List Line} {old : List Retract} {r : AddState × β}
    (h : FstRetr l old r) (hl : l ∈ ls) : RetrIn old ls r.1.file.retract := by
  intro x hx
  rcases h with h | ⟨y, h, hy⟩
  · exact .inl (h ▸ hx)
  · rw [h] at hx
    rcases List.mem_append.1 hx with hx | hx
    · exact .inl hx
    · cases List.mem_singleton.1 hx; exact .inr ⟨l, hl, hy.symm⟩

open ModVerif.Modfile.Edit ModVerif.Proofs.ModfileWalk in
theorem addStmts_retr (fix : Option Fixer) (strict : Bool) (xs : List Expr) (st : AddState) :
    RetrIn st.file.retract (linesOf xs) (addStmts fix strict st xs).1.file.retract := by
  rw [addStmts_eq_walk, walkStmts_fst]
  refine foldl_trans (T := fun a b => RetrIn a.file.retract (linesOf xs) b.file.retract) (fun _ _ hr => .inl hr)
    RetrIn.trans _ _ st ?_
  intro c hc s
  cases c with
  | add blk l verb args pre =>
    exact .of_fstRetr (add_retr s blk l verb args fix strict) (calls_lines hc l List.mem_cons_self)
  | bad b => intro r hr; cases strict <;> exact .inl hr
  | skip l => exact fun _ hr => .inl hr

/-! ### fixRetract -/

/-- stated on the keys, which the directive layer preserves -/
def AllQ (Q : Position → Prop) (xs : List Expr) : Prop := ∀ k ∈ (linesOf xs).map lineKey, Q k.2

theorem allQ_of_stmtPos {Q : Position → Prop} (xs : List Expr) (h : ∀ x ∈ xs, StmtPos Q x) : AllQ Q xs := by
  intro k hk
  obtain ⟨l, hl, rfl⟩ := List.mem_map.1 hk
  rcases mem_linesOf.1 hl with hl | ⟨b, hb, hl⟩
  · exact h _ hl
  · exact (h _ hb).2 l hl

theorem findLine_key_mem {fs : FileSyntax} {id : Nat} {l : Line} (h : fs.findLine id = some l) :
    lineKey l ∈ (linesOf fs.stmts).map lineKey := by
  unfold FileSyntax.findLine at h
  exact List.mem_map_of_mem (List.mem_of_find?_eq_some h)

/-- the tokens of a retract line split into the verb (kept) and the interval arguments -/
def frArgs (l : Line) : List Bytes × List Bytes :=
  match l.token with
  | t0 :: rest => if t0 == B "retract" then ([t0], rest) else ([], l.token)
  | [] => ([], [])

/-- one iteration of `fixRetractLoop` on the line `l` found for `r`: new interval, tree, error list -/
def frStep (path : Bytes) (fx : Fixer) (fs : FileSyntax) (r : Retract) (l : Line) (errsRev : List RuleErr) :
    VersionInterval × FileSyntax × List RuleErr :=
  let pv := parseVersionInterval path (frArgs l).2 (some fx)
  (match pv.2 with
     | .error _ => {}
     | .ok (vi, _) => vi,
   fs.updateLine r.lineId (fun l' => { l' with token := (frArgs l).1 ++ pv.1 }),
   match pv.2 with
     | .error e => ⟨l.start, e⟩ :: errsRev
     | .ok _ => errsRev)

theorem fixRetractLoop_cons (path : Bytes) (fx : Fixer) (r : Retract) (rs : List Retract) (fs : FileSyntax)
    (errsRev : List RuleErr) :
    fixRetractLoop path fx (r :: rs) fs errsRev =
      match fs.findLine r.lineId with
      | none =>
        (r :: (fixRetractLoop path fx rs fs errsRev).1, (fixRetractLoop path fx rs fs errsRev).2.1,
          (fixRetractLoop path fx rs fs errsRev).2.2)
      | some l =>
        let s := frStep path fx fs r l errsRev
        ({ r with interval := s.1 } :: (fixRetractLoop path fx rs s.2.1 s.2.2).1,
          (fixRetractLoop path fx rs s.2.1 s.2.2).2.1, (fixRetractLoop path fx rs s.2.1 s.2.2).2.2) := by
  rw [fixRetractLoop]
  cases hf : fs.findLine r.lineId with
  | none => rfl
  | some l =>
    simp only [frStep, frArgs]
    cases l.token with
    | nil =>
      simp only
      cases (parseVersionInterval path [] (some fx)) with
      | mk a b => cases b <;> rfl
    | cons t0 rest =>
      simp only
      cases (t0 == B "retract")
      · simp only [Bool.false_eq_true, if_false]
        cases (parseVersionInterval path (t0 :: rest) (some fx)) with
        | mk a b => cases b <;> rfl
      · simp only [if_true]
        cases (parseVersionInterval path rest (some fx)) with
        | mk a b => cases b <;> rfl

theorem fixRetractLoop_errs (Q : Position → Prop) (path : Bytes) (fx : Fixer) :
    ∀ (rs : List Retract) (fs : FileSyntax) (errsRev : List RuleErr), AllQ Q fs.stmts →
    ErrsExt (RErr Q) errsRev (fixRetractLoop path fx rs fs errsRev).2.2 := by
  intro rs
  induction rs with
  | nil => intro fs errsRev _; exact ErrsExt.refl _
  | cons r rest ih =>
    intro fs errsRev hq
    rw [fixRetractLoop_cons]
    cases hfind : fs.findLine r.lineId with
    | none => exact ih fs errsRev hq
    | some l =>
      simp only
      have hq' : AllQ Q (frStep path fx fs r l errsRev).2.1.stmts := by
        intro k hk
        simp only [frStep] at hk
        have hkeys := updateLine_map lineKey fs r.lineId (fun l' => { l' with
          token := (frArgs l).fst ++ (parseVersionInterval path (frArgs l).snd (some fx)).fst }) (fun _ => rfl)
        rw [hkeys] at hk
        exact hq k hk
      have hl : Q l.start := hq _ (findLine_key_mem hfind)
      refine ErrsExt.trans ?_ (ih _ _ hq')
      simp only [frStep]
      split
      · rename_i e heq
        refine ErrsExt.one ⟨hl, ?_⟩
        exact notSyn_of_pair (parseVersionInterval_notSyn _ _ _) (Prod.ext rfl heq)
      · exact ErrsExt.refl _


theorem mem_of_keys {L1 L2 : List Line} (h : L1.map lineKey = L2.map lineKey) {l : Line} (hl : l ∈ L2) :
    ∃ l' ∈ L1, l'.id = l.id ∧ l'.start = l.start := by
  have : lineKey l ∈ L1.map lineKey := by rw [h]; exact List.mem_map_of_mem hl
  obtain ⟨l', hl', hk⟩ := List.mem_map.mp this
  simp only [lineKey, Prod.mk.injEq] at hk
  exact ⟨l', hl', hk.1, hk.2⟩

theorem fixRetract_errs (Q : Position → Prop) (st : AddState) (fix : Option Fixer) (hq : AllQ Q st.file.syn.stmts)
    (hr : ∀ r ∈ st.file.retract, ∃ l ∈ linesOf st.file.syn.stmts, l.id = r.lineId) :
    ErrsExt (RErr Q) st.errsRev (fixRetract st fix).errsRev := by
  unfold fixRetract
  cases fix with
  | none => exact ErrsExt.refl _
  | some fx =>
    simp only
    cases hret : st.file.retract with
    | nil => exact ErrsExt.refl _
    | cons r rest =>
      simp only
      have hno : ErrsExt (RErr Q) st.errsRev
          (st.err (((st.file.syn.findLine r.lineId).map (·.start)).getD {}) .retractNoModule).errsRev := by
        refine ErrsExt.one ⟨?_, by intro s hs; cases hs⟩
        obtain ⟨l, hl, hid⟩ := hr r (by rw [hret]; simp)
        have hsome : (st.file.syn.findLine r.lineId).isSome = true := by
          unfold FileSyntax.findLine
          rw [List.find?_isSome]
          exact ⟨l, hl, by simp [hid]⟩
        cases hf : st.file.syn.findLine r.lineId with
        | none => rw [hf] at hsome; cases hsome
        | some l' => exact hq _ (findLine_key_mem hf)
      split
      · split
        · exact hno
        · exact fixRetractLoop_errs Q _ fx (r :: rest) st.file.syn st.errsRev hq
      · exact hno

/-- `pos_consistent_errors` and `directive_layer_no_internal_error` (Props/C20) -/
theorem parseToFile_errors (name data : Bytes) (fix : Option Fixer) (strict : Bool) (es : List RuleErr)
    (h : parseToFile name data fix strict = .error es) :
    (∀ e ∈ es, PosOK data e.pos) ∧ (∀ e ∈ es, ∀ t, e.kind ≠ .syn (.internal t)) := by
  unfold parseToFile at h
  have hp := parse_pos_consistent name data
  cases hparse : parse name data with
  | error e =>
    rw [hparse] at h
    cases h
    exact syn_error_ok hparse
  | ok fs =>
    rw [hparse] at hp h
    simp only at hp h
    split at h
    · cases h
    · cases h
      have hsp : ∀ x ∈ fs.stmts, StmtPos (PosOK data) x := fun x hx => stmtPos_of_exprOK (hp.stmts x hx)
      have hkeys := addStmts_keys fix strict fs.stmts { file := { syn := fs } }
      refine ext_errors_ok ((addStmts_errs (PosOK data) fix strict fs.stmts { file := { syn := fs } } hsp).trans
        (fixRetract_errs (PosOK data) _ fix ?_ ?_))
      · intro k hk; exact allQ_of_stmtPos fs.stmts hsp k (by rw [← hkeys]; exact hk)
      · intro r hr
        rcases addStmts_retr fix strict fs.stmts { file := { syn := fs } } r hr with h0 | ⟨l, hl, hid⟩
        · cases h0
        · obtain ⟨l', hl', hid', _⟩ := mem_of_keys hkeys hl
          exact ⟨l', hl', hid'.trans hid⟩


/-! ### the verb lists regenerated from the source are the verbs of the if-chains -/

/-- A verb outside `addVerbs` (the list regenerated from `File.add`'s switch, `Tie.modfile_addVerbs_tie`) is
    answered by "unknown directive" in strict mode. -/
theorem add_unknown_verb (st : AddState) (block : Option Comments) (line : Line) (verb : Bytes) (args : List Bytes)
    (fix : Option Fixer) (h : verbIn verb addVerbs = false) :
    File.add st block line verb args fix true = (st.err line.start .unknownDirective, args) := by
  rw [add_eq]
  simp only [verbIn, addVerbs, List.any_cons, List.any_nil, Bool.or_false, Bool.or_eq_false_iff] at h
  obtain ⟨h1, h2, h3, h4, h5, h6, h7, h8, h9⟩ := h
  have e1 : (verb == B "go") = false := by rw [← h1]; exact Bool.beq_comm
  have e2 : (verb == B "toolchain") = false := by rw [← h2]; exact Bool.beq_comm
  have e3 : (verb == B "module") = false := by rw [← h3]; exact Bool.beq_comm
  have e4 : (verb == B "godebug") = false := by rw [← h4]; exact Bool.beq_comm
  have e5 : (verb == B "require") = false := by rw [← h5]; exact Bool.beq_comm
  have e6 : (verb == B "exclude") = false := by rw [← h6]; exact Bool.beq_comm
  have e7 : (verb == B "replace") = false := by rw [← h7]; exact Bool.beq_comm
  have e8 : (verb == B "retract") = false := by rw [← h8]; exact Bool.beq_comm
  have e9 : (verb == B "tool") = false := by rw [← h9]; exact Bool.beq_comm
  simp [e1, e2, e3, e4, e5, e6, e7, e8, e9]

theorem workAdd_unknown_verb (st : WorkState) (line : Line) (verb : Bytes) (args : List Bytes)
    (fix : Option Fixer) (h : verbIn verb workVerbs = false) :
    WorkFile.add st line verb args fix = (st.err line.start .unknownDirective, args) := by
  simp only [verbIn, workVerbs, List.any_cons, List.any_nil, Bool.or_false, Bool.or_eq_false_iff] at h
  obtain ⟨h1, h2, h3, h4, h5⟩ := h
  have e1 : (verb == B "go") = false := by rw [← h1]; exact Bool.beq_comm
  have e2 : (verb == B "toolchain") = false := by rw [← h2]; exact Bool.beq_comm
  have e3 : (verb == B "godebug") = false := by rw [← h3]; exact Bool.beq_comm
  have e4 : (verb == B "use") = false := by rw [← h4]; exact Bool.beq_comm
  have e5 : (verb == B "replace") = false := by rw [← h5]; exact Bool.beq_comm
  unfold WorkFile.add
  simp [e1, e2, e3, e4, e5]

end ModVerif.Proofs.ModfileC20
