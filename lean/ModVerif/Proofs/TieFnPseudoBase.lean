/-
  Tie helper for PseudoVersionBase of module/pseudo.go: the regenerated definition computes the hand model's
  `Pseudo.pseudoVersionBase`, including its two explicit `panic(...)` sites and the two error returns.
-/
import ModVerif.Generated.FnModule
import ModVerif.Model.Pseudo
import ModVerif.Proofs.GoRtLemmas
import ModVerif.Proofs.GoRtLemmasPseudo
import ModVerif.Proofs.TieFnPseudoDec
import ModVerif.Proofs.TieFnPseudoParse
import ModVerif.Tie.FnSemver
namespace ModVerif.TieFnPseudo
open ModVerif ModVerif.GoRt ModVerif.GoRtPseudo

/-- strings.LastIndexByte(s, 'c') = strings.LastIndex(s, "c") -/
theorem lastIndexByteAux_eq (c : UInt8) : ∀ (s : Bytes) (k : Nat) (acc : Int),
    lastIndexByteAux c s k acc = lastIndexAux [c] s k acc
  | [], _, _ => by simp [lastIndexByteAux, lastIndexAux]
  | x :: xs, k, acc => by
    have : (x == c) = (c == x) := by
      by_cases h : x = c
      · simp [h]
      · have h1 : (x == c) = false := by simpa using h
        have h2 : (c == x) = false := by simpa using fun e : c = x => h e.symm
        rw [h1, h2]
    simp only [lastIndexByteAux, lastIndexAux, isPrefixOfB_single, this]
    exact lastIndexByteAux_eq c xs (k + 1) _

theorem lastIndexByte_lit (n : Int) (c : UInt8) (hn : mkByte n = c) (s : Bytes) :
    lastIndexByte s n = lastIndex s [c] := by
  unfold lastIndexByte lastIndex; rw [hn]; exact lastIndexByteAux_eq c s 0 _

theorem trimSuffix_length_le (s p : Bytes) : (Pseudo.trimSuffix s p).length ≤ s.length := by
  unfold Pseudo.trimSuffix; split <;> simp

theorem parseRestModel_inv (v build : Bytes) (p : Pseudo.PseudoParts) (h : parseRestModel v build = .ok p) :
    p.base.length + 1 ≤ v.length ∧ p.build = build := by
  unfold parseRestModel at h
  have hw := trimSuffix_length_le v build
  generalize Pseudo.trimSuffix v build = w at h hw
  rcases last_cases 45 w with ⟨_, _, hs⟩ | ⟨a, rev, e, _, _, hs, _, _⟩
  · simp [hs] at h
  · have hal : a.length + 1 ≤ v.length := by
      have : w.length = a.length + 1 + rev.length := by rw [e]; simp; omega
      omega
    simp only [hs] at h
    rcases last_cases 45 a with ⟨_, _, hs1⟩ | ⟨a1, a2, e1, _, _, hs1, _, _⟩
    · rcases last_cases 46 a with ⟨_, _, ht⟩ | ⟨q1, q2, e2, _, _, ht, _, _⟩
      · simp [hs1, ht] at h
      · have hq : q1.length ≤ a.length := by rw [e2]; simp
        have hgt : ((q1.length : Int) > -1) := by omega
        simp only [hs1, ht, hgt, if_true] at h
        injection h with h; subst h
        exact ⟨by simp only []; omega, rfl⟩
    · have ha1 : a1.length ≤ a.length := by rw [e1]; simp
      rcases last_cases 46 a with ⟨_, _, ht⟩ | ⟨q1, q2, e2, _, _, ht, _, _⟩
      · simp only [hs1, ht] at h
        injection h with h; subst h
        exact ⟨by simp only []; omega, rfl⟩
      · have hq : q1.length ≤ a.length := by rw [e2]; simp
        simp only [hs1, ht] at h
        split at h
        · injection h with h; subst h
          exact ⟨by simp only []; omega, rfl⟩
        · injection h with h; subst h
          exact ⟨by simp only []; omega, rfl⟩

theorem parsePseudoVersion_inv (v : Bytes) (p : Pseudo.PseudoParts) (h : Pseudo.parsePseudoVersion v = .ok p) :
    p.base.length + 1 ≤ v.length := by
  rw [parsePseudoVersion_model_unfold] at h
  split at h
  · cases h
  · exact (parseRestModel_inv v _ p h).1

/-- PseudoVersionBase after the `err != nil` test -/
def baseRest (fuel : Nat) (base build : Bytes) : M (Bytes × (Option String)) := do
    let t2 ← (ModVerif.Generated.Semver.Prerelease fuel base)
    let pre := t2
    if decide (pre = ([] : Bytes)) then (if (!decide (build = ([] : Bytes))) then (pure (([] : Bytes), (wrapErr "InvalidVersionError" (some "lacks base version, but has build metadata %q")))) else (pure (([] : Bytes), (none : Option String)))) else (if decide (pre = ([45, 48] : Bytes)) then (do
      let base := (trimSuffix base pre)
      let i := (lastIndexByte base (46 : Int))
      if (decide (i < (0 : Int))) then (throw Err.panic) else (do
        let t3 ← sliceFrom base (i + (1 : Int))
        let t4 ← (Generated.Module.decDecimal fuel t3)
        let patch := t4
        if (decide (patch = ([] : Bytes))) then (pure (([] : Bytes), (wrapErr "InvalidVersionError" (some "version before %s would have negative patch number")))) else (do
          let t5 ← sliceTo base (i + (1 : Int))
          pure (((t5 ++ patch) ++ build), (none : Option String))))) else (if (!(hasSuffix base ([46, 48] : Bytes))) then (throw Err.panic) else (pure (((trimSuffix base ([46, 48] : Bytes)) ++ build), (none : Option String)))))

theorem PseudoVersionBase_unfold (re : Bytes → Bool) (fuel : Nat) (v : Bytes) :
    Generated.Module.PseudoVersionBase re fuel v =
      (Generated.Module.parsePseudoVersion re fuel v >>= fun t1 =>
        if (!(t1.2.2.2.2).isNone) then (pure (([] : Bytes), t1.2.2.2.2)) else baseRest fuel t1.1 t1.2.2.2.1) := by
  unfold Generated.Module.PseudoVersionBase baseRest
  rfl

/-- the model's pseudoVersionBase after a successful parse -/
def baseRestModel (p : Pseudo.PseudoParts) : Except Pseudo.Err Bytes :=
    let pre := Semver.prerelease p.base
    if pre.isEmpty then
      (if !p.build.isEmpty then .error .build else .ok [])
    else if pre == ([45, 48] : Bytes) then
      let base := Pseudo.trimSuffix p.base pre
      match Pseudo.splitLast 46 base with
      | none => .error .panic
      | some (a, b) =>
        let patch := Pseudo.decDecimal b
        if patch.isEmpty then .error .negative
        else .ok (a ++ [46] ++ patch ++ p.build)
    else
      if !hasSuffixB p.base (([46, 48] : Bytes)) then .error .panic
      else .ok (Pseudo.trimSuffix p.base (([46, 48] : Bytes)) ++ p.build)

theorem pseudoVersionBase_model_unfold (v : Bytes) :
    Pseudo.pseudoVersionBase v =
      match Pseudo.parsePseudoVersion v with
      | .error e => .error e
      | .ok p => baseRestModel p := rfl

theorem baseRest_ok (p : Pseudo.PseudoParts) (fuel : Nat) (hf : 2 * p.base.length ≤ fuel) :
    baseRest fuel p.base p.build = strErrOut (baseRestModel p) := by
  unfold baseRest baseRestModel
  rw [Tie.FnSemver.Prerelease_tie p.base fuel hf, bind_ok]
  generalize Semver.prerelease p.base = pre
  by_cases hpe : pre = []
  · subst hpe
    by_cases hbe : p.build = []
    · simp [hbe, strErrOut]
    · have hbe' : p.build.isEmpty = false := by simpa using hbe
      simp [hbe, hbe', strErrOut, errOf]
  · have hpe' : pre.isEmpty = false := by simpa using hpe
    simp only [hpe, decide_false, Bool.false_eq_true, if_false, hpe']
    by_cases hp0 : pre = [45, 48]
    · subst hp0
      have hbeq : (([45, 48] : Bytes) == [45, 48]) = true := by decide
      simp only [decide_true, if_true, hbeq]
      have htrim : trimSuffix p.base [45, 48] = Pseudo.trimSuffix p.base [45, 48] := rfl
      have htl := trimSuffix_length_le p.base [45, 48]
      rw [htrim]
      generalize Pseudo.trimSuffix p.base [45, 48] = w at htl
      rw [lastIndexByte_lit 46 46 (by decide) w]
      rcases last_cases 46 w with ⟨_, hi, hs⟩ | ⟨a, b, e, _, hi, hs, _, _⟩
      · simp [hi, hs, strErrOut]
      · have hlt : ¬ ((a.length : Int) < 0) := by omega
        have hb : b.length + 1 ≤ fuel := by
          have : w.length = a.length + 1 + b.length := by rw [e]; simp; omega
          omega
        simp only [hi, hs, hlt, decide_false, Bool.false_eq_true, if_false]
        rw [e, sliceFrom_split_succ, sliceTo_split_succ, bind_ok, decDecimal_ok b fuel hb, bind_ok]
        by_cases hpz : Pseudo.decDecimal b = []
        · simp [hpz, strErrOut, errOf]
        · have hpz' : (Pseudo.decDecimal b).isEmpty = false := by simpa using hpz
          simp [hpz, hpz', strErrOut]
    · have hbeq : (pre == ([45, 48] : Bytes)) = false := by simpa using hp0
      simp only [hp0, decide_false, Bool.false_eq_true, if_false, hbeq]
      have hsuf : hasSuffix p.base [46, 48] = hasSuffixB p.base [46, 48] := rfl
      have htrim : trimSuffix p.base [46, 48] = Pseudo.trimSuffix p.base [46, 48] := rfl
      rw [hsuf, htrim]
      cases hasSuffixB p.base [46, 48] <;> simp [strErrOut]

theorem PseudoVersionBase_ok (v : Bytes) (fuel : Nat) (hf : 2 * v.length ≤ fuel) :
    Generated.Module.PseudoVersionBase Pseudo.matchPseudoVersionRE fuel v =
      strErrOut (Pseudo.pseudoVersionBase v) := by
  rw [PseudoVersionBase_unfold, parsePseudoVersion_ok v fuel hf, pseudoVersionBase_model_unfold]
  cases h : Pseudo.parsePseudoVersion v with
  | error e => cases e <;> simp [parseOut, strErrOut, errOf, wrapErr]
  | ok p =>
    have hl := parsePseudoVersion_inv v p h
    simp only [parseOut, bind_ok, Option.isNone_none, Bool.not_true, Bool.false_eq_true, if_false]
    exact baseRest_ok p fuel (by omega)

/-! ### concrete inputs of the non-vacuity examples in Tie/FnPseudo.lean -/

/-- "v1.2.4-0.20060102150405-abcdefabcdef" -/
def exRelease : Bytes := [118, 49, 46, 50, 46, 52, 45, 48, 46, 50, 48, 48, 54, 48, 49, 48, 50, 49, 53, 48, 52, 48, 53, 45, 97, 98, 99,
  100, 101, 102, 97, 98, 99, 100, 101, 102]
/-- "v1.0.0-20060102150405-abcdefabcdef+incompatible" -/
def exNoBaseBuild : Bytes := [118, 49, 46, 48, 46, 48, 45, 50, 48, 48, 54, 48, 49, 48, 50, 49, 53, 48, 52, 48, 53, 45, 97, 98, 99, 100,
  101, 102, 97, 98, 99, 100, 101, 102, 43, 105, 110, 99, 111, 109, 112, 97, 116, 105, 98, 108, 101]
/-- "v1.2.3-pre.0.20060102150405-abcdefabcdef" -/
def exPre : Bytes := [118, 49, 46, 50, 46, 51, 45, 112, 114, 101, 46, 48, 46, 50, 48, 48, 54, 48, 49, 48, 50, 49, 53, 48, 52, 48, 53,
  45, 97, 98, 99, 100, 101, 102, 97, 98, 99, 100, 101, 102]
/-- "v1.0.0-0.20060102150405-abcdefabcdef" -/
def exNegative : Bytes := [118, 49, 46, 48, 46, 48, 45, 48, 46, 50, 48, 48, 54, 48, 49, 48, 50, 49, 53, 48, 52, 48, 53, 45, 97, 98, 99,
  100, 101, 102, 97, 98, 99, 100, 101, 102]
/-- "20060102150405" -/
def exStamp : Bytes := [50, 48, 48, 54, 48, 49, 48, 50, 49, 53, 48, 52, 48, 53]
/-- "abcdefabcdef" -/
def exRev : Bytes := [97, 98, 99, 100, 101, 102, 97, 98, 99, 100, 101, 102]

end ModVerif.TieFnPseudo
