/-
  C20, directive layer (rule.go parsing half, work.go): `File.add` split into one definition per verb,
  `parseReplace` split into its two stages, the effect of one `File.add` step on the typed file
  (`FileStep`), the statement loop as a fold of `addCall` over its calls (`addStmts_fst`, `addStmts_both`), and what
  every error the directive layer reports looks like: it is positioned at the start of a line or block of the syntax
  tree and its kind is never a syntax-layer kind (in particular never one of the "internal error" kinds).  At the end: strict/lax agreement of `File.add` on lines the
  strict parser accepts, and lax ignoring the verbs it does not keep.
-/
import ModVerif.Proofs.ModfileWalk
namespace ModVerif.Proofs.ModfileC20
open ModVerif ModVerif.Modfile

def PairNotSyn {α β : Type} (r : β × Except RuleErrKind α) : Prop := ∀ e, r.2 = .error e → NotSyn e

theorem pairNotSyn_ok {α β : Type} (b : β) (a : α) : PairNotSyn (b, (.ok a : Except RuleErrKind α)) := by
  intro e h; cases h

theorem pairNotSyn_err {α β : Type} (b : β) {k : RuleErrKind} (hk : NotSyn k) :
    PairNotSyn (b, (.error k : Except RuleErrKind α)) := by
  intro e h; cases h; exact hk

theorem notSyn_of_pair {α β : Type} {r : β × Except RuleErrKind α} {b : β} {e : RuleErrKind}
    (h : PairNotSyn r) (heq : r = (b, .error e)) : NotSyn e := by
  subst heq; exact h e rfl

theorem parseVersion_notSyn (p t : Bytes) (fix : Option Fixer) : PairNotSyn (parseVersion p t fix) := by
  fun_cases parseVersion p t fix <;>
    first | exact pairNotSyn_ok _ _ | (refine pairNotSyn_err _ ?_; intro s hs; cases hs)

/-- a branch that returns a value, passes on an error of `parseVersion`, or reports an error kind of its own -/
macro "notsyn_leaf" : tactic =>
  `(tactic| first
    | exact pairNotSyn_ok _ _
    | exact pairNotSyn_err _ (notSyn_of_pair (parseVersion_notSyn _ _ _) ‹_›)
    | (refine pairNotSyn_err _ ?_; intro s hs; cases hs; done))

theorem parseVersionInterval_notSyn (p : Bytes) (toks : List Bytes) (fix : Option Fixer) :
    PairNotSyn (parseVersionInterval p toks fix) := by
  fun_cases parseVersionInterval p toks fix <;> notsyn_leaf

/-! ### `parseReplace` in two stages -/

/-- the optional old version of `parseReplace` (present when the arrow is the third token) -/
def replaceOld (s pathMajor : Bytes) (arrow : Nat) (rest0 : List Bytes) (fix : Option Fixer) :
    List Bytes × Except RuleErrKind Bytes :=
  if arrow == 2 then
    match rest0 with
    | a1 :: rest1 =>
      match parseVersion s a1 fix with
      | (a1', .error e) => (a1' :: rest1, .error e)
      | (a1', .ok v) =>
        if !Module.checkPathMajor v pathMajor then (a1' :: rest1, .error .pathMajorMismatch)
        else (a1' :: rest1, .ok v)
    | [] => (rest0, .error .replaceUsage)
  else (rest0, .ok [])

/-- `parseReplace` from the arrow on: the new path and its optional version; `n` is the number of arguments -/
def replaceNew (lineId n arrow : Nat) (a0' s v : Bytes) (rest0' : List Bytes) (fix : Option Fixer) :
    List Bytes × Except RuleErrKind Replace :=
  let pre := rest0'.take arrow
  match rest0'.drop arrow with
  | [] => (a0' :: rest0', .error .replaceUsage)
  | nsTok :: tail =>
  match parseString nsTok with
  | none => (a0' :: rest0', .error .invalidQuotedString)
  | some (ns, nsTok') =>
  let argsNow := a0' :: (pre ++ nsTok' :: tail)
  if n == arrow + 2 && !isDirectoryPath ns then
    if GoStrings.contains ns [64] then (argsNow, .error .replaceAtVersion)
    else (argsNow, .error .replaceNeedsDir)
  else if n == arrow + 2 && GoStrings.contains ns [92] then
    (argsNow, .error .replaceWindowsPath)
  else if n == arrow + 3 then
    match tail with
    | [] => (argsNow, .error .replaceUsage)
    | nvTok :: tail2 =>
      match parseVersion ns nvTok fix with
      | (nvTok', .error e) => (a0' :: (pre ++ nsTok' :: nvTok' :: tail2), .error e)
      | (nvTok', .ok nv) =>
        let argsNow := a0' :: (pre ++ nsTok' :: nvTok' :: tail2)
        if isDirectoryPath ns then (argsNow, .error .replaceDirWithVersion)
        else (argsNow, .ok { old := { path := s, version := v }, new := { path := ns, version := nv }, lineId := lineId })
  else
    (argsNow, .ok { old := { path := s, version := v }, new := { path := ns, version := [] }, lineId := lineId })

theorem parseReplace_eq (lineId : Nat) (args : List Bytes) (fix : Option Fixer) :
    parseReplace lineId args fix =
      let arrow := if args.length ≥ 2 && args[1]? == some (B "=>") then 1 else 2
      if args.length < arrow + 2 || args.length > arrow + 3 || args[arrow]? != some (B "=>") then
        (args, .error .replaceUsage)
      else
      match args with
      | [] => (args, .error .replaceUsage)
      | a0 :: rest0 =>
      match parseString a0 with
      | none => (args, .error .invalidQuotedString)
      | some (s, a0') =>
      match modulePathMajor s with
      | none => (a0' :: rest0, .error .invalidModulePath)
      | some pathMajor =>
      match replaceOld s pathMajor arrow rest0 fix with
      | (rest0', .error e) => (a0' :: rest0', .error e)
      | (rest0', .ok v) => replaceNew lineId args.length arrow a0' s v rest0' fix := rfl

theorem replaceOld_notSyn (s pm : Bytes) (arrow : Nat) (rest0 : List Bytes) (fix : Option Fixer) :
    PairNotSyn (replaceOld s pm arrow rest0 fix) := by
  fun_cases replaceOld s pm arrow rest0 fix <;> notsyn_leaf

theorem replaceNew_notSyn (lineId n arrow : Nat) (a0' s v : Bytes) (rest0' : List Bytes) (fix : Option Fixer) :
    PairNotSyn (replaceNew lineId n arrow a0' s v rest0' fix) := by
  fun_cases replaceNew lineId n arrow a0' s v rest0' fix <;> notsyn_leaf

theorem parseReplace_notSyn (lineId : Nat) (args : List Bytes) (fix : Option Fixer) :
    PairNotSyn (parseReplace lineId args fix) := by
  rw [parseReplace_eq]
  dsimp only
  repeat' split
  all_goals first
    | notsyn_leaf
    | exact pairNotSyn_err _ (notSyn_of_pair (replaceOld_notSyn _ _ _ _ _) ‹_›)
    | exact replaceNew_notSyn _ _ _ _ _ _ _ _

/-! ### `File.add`, one definition per verb (twins of the branches of the model's `File.add`) -/

def addGo (st : AddState) (line : Line) (args : List Bytes) (strict : Bool) : AddState × List Bytes :=
  let f := st.file
  let pos := line.start
  if f.go.isSome then (st.err pos .repeatedGo, args) else
  match args with
  | [a] =>
    if goVersionRE a then ({ st with file := { f with go := some { version := a, lineId := line.id } } }, args)
    else
      match (if strict then none else laxGoVersionRE a) with
      | some m1 => ({ st with file := { f with go := some { version := m1, lineId := line.id } } }, [m1])
      | none => (st.err pos .invalidGoVersion, args)
  | _ => (st.err pos .goArgs, args)

def addToolchain (st : AddState) (line : Line) (args : List Bytes) : AddState × List Bytes :=
  let f := st.file
  let pos := line.start
  if f.toolchain.isSome then (st.err pos .repeatedToolchain, args) else
  match args with
  | [a] =>
    if !toolchainRE a then (st.err pos .invalidToolchain, args)
    else ({ st with file := { f with toolchain := some { name := a, lineId := line.id } } }, args)
  | _ => (st.err pos .toolchainArgs, args)

def addModule (st : AddState) (block : Option Comments) (line : Line) (args : List Bytes) : AddState × List Bytes :=
  let f := st.file
  let pos := line.start
  if f.module.isSome then (st.err pos .repeatedModule, args) else
  let deprecated := parseDeprecation block line.comments
  let m : Module := { lineId := line.id, deprecated := deprecated }
  let st := { st with file := { f with module := some m } }
  match args with
  | [a] =>
    match parseString a with
    | none => (st.err pos .invalidQuotedString, args)
    | some (s, a') => ({ st with file := { st.file with module := some { m with mod := { path := s } } } }, [a'])
  | _ => (st.err pos .moduleUsage, args)

def addGodebugV (st : AddState) (line : Line) (args : List Bytes) : AddState × List Bytes :=
  let f := st.file
  let pos := line.start
  match addGodebug args with
  | none => (st.err pos .godebugUsage, args)
  | some (k, v) => ({ st with file := { f with godebug := f.godebug ++ [{ key := k, value := v, lineId := line.id }] } }, args)

def addReqExc (st : AddState) (line : Line) (verb : Bytes) (args : List Bytes) (fix : Option Fixer) :
    AddState × List Bytes :=
  let f := st.file
  let pos := line.start
  match args with
  | [a0, a1] =>
    match parseString a0 with
    | none => (st.err pos .invalidQuotedString, args)
    | some (s, a0') =>
      match parseVersion s a1 fix with
      | (a1', .error e) => (st.err pos e, [a0', a1'])
      | (a1', .ok v) =>
        match modulePathMajor s with
        | none => (st.err pos .invalidModulePath, [a0', a1'])
        | some pathMajor =>
          if !Module.checkPathMajor v pathMajor then (st.err pos .pathMajorMismatch, [a0', a1'])
          else if verb == B "require" then
            ({ st with file := { f with require := f.require ++
                [{ mod := { path := s, version := v }, indirect := isIndirect line, lineId := line.id }] } }, [a0', a1'])
          else
            ({ st with file := { f with exclude := f.exclude ++
                [{ mod := { path := s, version := v }, lineId := line.id }] } }, [a0', a1'])
  | _ => (st.err pos .requireUsage, args)

def addReplaceV (st : AddState) (line : Line) (args : List Bytes) (fix : Option Fixer) : AddState × List Bytes :=
  let f := st.file
  let pos := line.start
  match parseReplace line.id args fix with
  | (args', .error e) => (st.err pos e, args')
  | (args', .ok r) => ({ st with file := { f with replace := f.replace ++ [r] } }, args')

def addRetractV (st : AddState) (block : Option Comments) (line : Line) (args : List Bytes) (strict : Bool) :
    AddState × List Bytes :=
  let f := st.file
  let pos := line.start
  let rationale := parseDirectiveComment block line.comments
  match parseVersionInterval [] args (some dontFixRetract) with
  | (args', .error e) =>
    if strict then (st.err pos e, args') else (st, args')
  | (args', .ok (vi, rest)) =>
    if !rest.isEmpty && strict then (st.err pos .tokenAfterVersion, args')
    else ({ st with file := { f with retract := f.retract ++
            [{ interval := vi, rationale := rationale, lineId := line.id }] } }, args')

def addToolV (st : AddState) (line : Line) (args : List Bytes) : AddState × List Bytes :=
  let f := st.file
  let pos := line.start
  match args with
  | [a] =>
    match parseString a with
    | none => (st.err pos .invalidQuotedString, args)
    | some (s, a') => ({ st with file := { f with tool := f.tool ++ [{ path := s, lineId := line.id }] } }, [a'])
  | _ => (st.err pos .toolArgs, args)

theorem add_eq (st : AddState) (block : Option Comments) (line : Line) (verb : Bytes) (args : List Bytes)
    (fix : Option Fixer) (strict : Bool) :
    File.add st block line verb args fix strict =
      if !strict && !verbIn verb laxVerbs then (st, args)
      else if verb == B "go" then addGo st line args strict
      else if verb == B "toolchain" then addToolchain st line args
      else if verb == B "module" then addModule st block line args
      else if verb == B "godebug" then addGodebugV st line args
      else if verb == B "require" || verb == B "exclude" then addReqExc st line verb args fix
      else if verb == B "replace" then addReplaceV st line args fix
      else if verb == B "retract" then addRetractV st block line args strict
      else if verb == B "tool" then addToolV st line args
      else (st.err line.start .unknownDirective, args) := by
  rfl

/-! ### `File.add` on the four verbs the lax parser keeps -/

theorem add_go_eq (st : AddState) (block : Option Comments) (line : Line) (args : List Bytes) (fix : Option Fixer)
    (strict : Bool) : File.add st block line (B "go") args fix strict = addGo st line args strict := by
  have h : verbIn (B "go") laxVerbs = true := by decide +kernel
  rw [add_eq]
  simp only [h, Bool.not_true, Bool.and_false, Bool.false_eq_true, if_false, beq_self_eq_true, if_true]

theorem add_module_eq (st : AddState) (block : Option Comments) (line : Line) (args : List Bytes) (fix : Option Fixer)
    (strict : Bool) : File.add st block line (B "module") args fix strict = addModule st block line args := by
  have h : verbIn (B "module") laxVerbs = true := by decide +kernel
  have h1 : (B "module" == B "go") = false := by decide +kernel
  have h2 : (B "module" == B "toolchain") = false := by decide +kernel
  rw [add_eq]
  simp only [h, h1, h2, Bool.not_true, Bool.and_false, Bool.false_eq_true, if_false, beq_self_eq_true, if_true]

theorem add_require_eq (st : AddState) (block : Option Comments) (line : Line) (args : List Bytes) (fix : Option Fixer)
    (strict : Bool) :
    File.add st block line (B "require") args fix strict = addReqExc st line (B "require") args fix := by
  have h : verbIn (B "require") laxVerbs = true := by decide +kernel
  have h1 : (B "require" == B "go") = false := by decide +kernel
  have h2 : (B "require" == B "toolchain") = false := by decide +kernel
  have h3 : (B "require" == B "module") = false := by decide +kernel
  have h4 : (B "require" == B "godebug") = false := by decide +kernel
  rw [add_eq]
  simp only [h, h1, h2, h3, h4, Bool.not_true, Bool.and_false, Bool.false_eq_true, if_false, beq_self_eq_true,
    Bool.true_or, if_true]

theorem add_retract_eq (st : AddState) (block : Option Comments) (line : Line) (args : List Bytes) (fix : Option Fixer)
    (strict : Bool) :
    File.add st block line (B "retract") args fix strict = addRetractV st block line args strict := by
  have h : verbIn (B "retract") laxVerbs = true := by decide +kernel
  have h1 : (B "retract" == B "go") = false := by decide +kernel
  have h2 : (B "retract" == B "toolchain") = false := by decide +kernel
  have h3 : (B "retract" == B "module") = false := by decide +kernel
  have h4 : (B "retract" == B "godebug") = false := by decide +kernel
  have h5 : (B "retract" == B "require") = false := by decide +kernel
  have h6 : (B "retract" == B "exclude") = false := by decide +kernel
  have h7 : (B "retract" == B "replace") = false := by decide +kernel
  rw [add_eq]
  simp only [h, h1, h2, h3, h4, h5, h6, h7, Bool.not_true, Bool.and_false, Bool.false_eq_true, if_false, Bool.or_self,
    beq_self_eq_true, if_true]

/-! ### the effect of one step -/

/-- the ways one `File.add` step for `line` changes the typed file: at most one new entry, in the field of
    the verb, carrying the identity of the line -/
inductive FileStep (line : Line) (verb : Bytes) (f : File) : File → Prop
  | same : FileStep line verb f f
  | go (v : Bytes) : verb = B "go" → FileStep line verb f { f with go := some { version := v, lineId := line.id } }
  | toolchain (n : Bytes) : verb = B "toolchain" →
      FileStep line verb f { f with toolchain := some { name := n, lineId := line.id } }
  | module (m : Module) : verb = B "module" → m.lineId = line.id → FileStep line verb f { f with module := some m }
  | godebug (k v : Bytes) : verb = B "godebug" →
      FileStep line verb f { f with godebug := f.godebug ++ [{ key := k, value := v, lineId := line.id }] }
  | require (m : ModVersion) : verb = B "require" →
      FileStep line verb f { f with require := f.require ++ [{ mod := m, indirect := isIndirect line, lineId := line.id }] }
  | exclude (m : ModVersion) : verb = B "exclude" →
      FileStep line verb f { f with exclude := f.exclude ++ [{ mod := m, lineId := line.id }] }
  | replace (r : Replace) : verb = B "replace" → FileStep line verb f { f with replace := f.replace ++ [r] }
  | retract (vi : VersionInterval) (rat : Bytes) : verb = B "retract" →
      FileStep line verb f { f with retract := f.retract ++ [{ interval := vi, rationale := rat, lineId := line.id }] }
  | tool (p : Bytes) : verb = B "tool" → FileStep line verb f { f with tool := f.tool ++ [{ path := p, lineId := line.id }] }

theorem beq_of_or {a b : Bool} (h : (a || b) = true) (ha : ¬ a = true) : b = true := by
  cases a
  · exact h
  · exact absurd rfl ha

theorem add_shape (st : AddState) (block : Option Comments) (line : Line) (verb : Bytes) (args : List Bytes)
    (fix : Option Fixer) (strict : Bool) :
    FileStep line verb st.file (File.add st block line verb args fix strict).1.file ∧
    ErrsExt (LineErr line) st.errsRev (File.add st block line verb args fix strict).1.errsRev := by
  fun_cases File.add st block line verb args fix strict
  all_goals refine ⟨?_, ?_⟩
  all_goals first
    | exact .same
    | exact .refl _
    | exact .one ⟨rfl, notSyn_of_pair (parseVersion_notSyn _ _ _) ‹_›⟩
    | exact .one ⟨rfl, notSyn_of_pair (parseVersionInterval_notSyn _ _ _) ‹_›⟩
    | exact .one ⟨rfl, notSyn_of_pair (parseReplace_notSyn _ _ _) ‹_›⟩
    | (refine .one ⟨rfl, ?_⟩; intro s hs; cases hs; done)
    | (constructor <;> first | rfl | exact eq_of_beq ‹_› | exact eq_of_beq (beq_of_or ‹_› ‹_›))

theorem add_errs (st : AddState) (block : Option Comments) (line : Line) (verb : Bytes) (args : List Bytes)
    (fix : Option Fixer) (strict : Bool) :
    ErrsExt (LineErr line) st.errsRev (File.add st block line verb args fix strict).1.errsRev :=
  (add_shape st block line verb args fix strict).2

theorem workAdd_errs (st : WorkState) (line : Line) (verb : Bytes) (args : List Bytes) (fix : Option Fixer) :
    ErrsExt (LineErr line) st.errsRev (WorkFile.add st line verb args fix).1.errsRev := by
  fun_cases WorkFile.add st line verb args fix <;>
    first
    | exact .refl _
    | exact .one ⟨rfl, notSyn_of_pair (parseReplace_notSyn _ _ _) ‹_›⟩
    | (refine .one ⟨rfl, ?_⟩; intro s hs; cases hs; done)


/-! ### the statement loops -/

section
open ModVerif.Modfile.Edit ModVerif.Proofs.ModfileWalk

/-- one call of the statement loop of `parseToFile` -/
def addCall (fix : Option Fixer) (strict : Bool) (st : AddState) (c : Call) : AddState :=
  c.run (fun st blk l verb args => File.add st blk l verb args fix strict)
    (fun st p => if strict then st.err p .unknownBlock else st) st

theorem addStmts_fst (fix : Option Fixer) (strict : Bool) (xs : List Expr) (st : AddState) :
    (addStmts fix strict st xs).1 = (calls (verbIn · blockVerbs) xs).foldl (addCall fix strict) st := by
  rw [addStmts_eq_walk, walkStmts_fst]; rfl

/-- one call on the state together with the lines written back so far -/
def addCallO (fix : Option Fixer) (strict : Bool) (p : AddState × List Line) (c : Call) : AddState × List Line :=
  runO (fun st blk l verb args => File.add st blk l verb args fix strict)
    (fun st p => if strict then st.err p .unknownBlock else st) p c

theorem addCallO_add (fix : Option Fixer) (strict : Bool) (p : AddState × List Line) (blk : Option Comments) (l : Line)
    (verb : Bytes) (args pre : List Bytes) :
    (addCallO fix strict p (.add blk l verb args pre)).2 =
      p.2 ++ [{ l with token := pre ++ (File.add p.1 blk l verb args fix strict).2 }] := rfl

theorem addStmts_both (fix : Option Fixer) (strict : Bool) (xs : List Expr) (st : AddState) (acc : List Line) :
    (calls (verbIn · blockVerbs) xs).foldl (addCallO fix strict) (st, acc) =
      ((addStmts fix strict st xs).1, acc ++ linesOf (addStmts fix strict st xs).2) := by
  rw [addStmts_eq_walk]; exact walkStmts_both _ _ _ xs st acc

theorem addCall_errs (fix : Option Fixer) (strict : Bool) (st : AddState) (c : Call) :
    ErrsExt (fun e => e.pos = c.pos ∧ NotSyn e.kind) st.errsRev (addCall fix strict st c).errsRev := by
  cases c with
  | add blk l verb args pre => exact add_errs st blk l verb args fix strict
  | bad b =>
    cases strict
    · exact .refl _
    · exact .one ⟨rfl, nofun⟩
  | skip l => exact .refl _

theorem addStmts_errs (Q : Position → Prop) (fix : Option Fixer) (strict : Bool) (xs : List Expr) (st : AddState)
    (h : ∀ x ∈ xs, StmtPos Q x) : ErrsExt (RErr Q) st.errsRev (addStmts fix strict st xs).1.errsRev := by
  rw [addStmts_eq_walk]
  refine walk_errs AddState.errsRev (fun st blk l verb args => add_errs st blk l verb args fix strict) ?_ Q xs st h
  intro st p
  cases strict
  · exact .refl _
  · exact .one ⟨rfl, nofun⟩

end

end ModVerif.Proofs.ModfileC20

namespace ModVerif.Proofs.ModfileRule
open ModVerif ModVerif.Modfile

/-- `lax_ignores_unknown_line` (Props/C20) -/
theorem add_lax_ignores (st : AddState) (block : Option Comments) (line : Line) (verb : Bytes)
    (args : List Bytes) (fix : Option Fixer) (h : verbIn verb laxVerbs = false) :
    File.add st block line verb args fix false = (st, args) := by
  unfold File.add
  simp [h]

/-- `lax_superset_line` (Props/C20) -/
theorem add_strict_ok_lax (st : AddState) (block : Option Comments) (line : Line) (verb : Bytes)
    (args : List Bytes) (fix : Option Fixer) (hv : verbIn verb laxVerbs = true)
    (hok : (File.add st block line verb args fix true).1.errsRev = st.errsRev) :
    File.add st block line verb args fix false = File.add st block line verb args fix true := by
  have hlen : ∀ (p : Position) (k : RuleErrKind), (st.err p k).errsRev ≠ st.errsRev := by
    intro p k h
    have := congrArg List.length h
    simp [AddState.err] at this
  unfold File.add at hok ⊢
  simp only [hv, Bool.not_true, Bool.false_and, Bool.true_and, Bool.not_false, Bool.false_eq_true, if_false] at hok ⊢
  by_cases hgo : verb = B "go"
  · subst hgo
    simp only [beq_self_eq_true, if_true] at hok ⊢
    cases hg : st.file.go.isSome with
    | true => simp
    | false =>
      simp only [hg, Bool.false_eq_true, if_false] at hok ⊢
      split
      · rename_i a
        by_cases hre : goVersionRE a = true
        · simp [hre]
        · simp only [hre, Bool.false_eq_true, if_false] at hok
          exact absurd hok (hlen _ _)
      · rfl
  · have hgo' : (verb == B "go") = false := by simpa using hgo
    simp only [hgo', Bool.false_eq_true, if_false] at hok ⊢
    by_cases hre : verb = B "retract"
    · subst hre
      have h1 : (B "retract" == B "toolchain") = false := by decide +kernel
      have h2 : (B "retract" == B "module") = false := by decide +kernel
      have h3 : (B "retract" == B "godebug") = false := by decide +kernel
      have h4 : (B "retract" == B "require") = false := by decide +kernel
      have h5 : (B "retract" == B "exclude") = false := by decide +kernel
      have h6 : (B "retract" == B "replace") = false := by decide +kernel
      simp only [h1, h2, h3, h4, h5, h6, Bool.false_eq_true, if_false, Bool.or_self, beq_self_eq_true, if_true] at hok ⊢
      split
      · rename_i args' e heq
        simp only [heq] at hok
        exact absurd hok (hlen _ _)
      · rename_i args' vi rest heq
        simp only [heq] at hok
        cases hr : rest.isEmpty with
        | true => simp
        | false =>
          simp only [hr, Bool.not_false, Bool.true_and, if_true] at hok
          exact absurd hok (hlen _ _)
    · -- every other kept verb does not look at `strict`
      have hre' : (verb == B "retract") = false := by simpa using hre
      simp only [hre', Bool.false_eq_true, if_false]

end ModVerif.Proofs.ModfileRule

/-
  C20 `lax_ignores_unknown` at the level of the statement list: the lax directive layer's typed state does
  not depend on statements it ignores (unknown directives, unknown blocks, blocks of verbs it does not
  keep, comment blocks), wherever and however many of them occur.
-/
namespace ModVerif.Proofs.ModfileC20
open ModVerif ModVerif.Modfile ModVerif.Proofs.ModfileRule

def laxIgnored : Expr → Bool
  | .line l =>
    match l.token with
    | verb :: _ => !verbIn verb laxVerbs
    | [] => true
  | .lineBlock b =>
    match b.token with
    | [verb] => !(verbIn verb blockVerbs && verbIn verb laxVerbs)
    | _ => true
  | _ => true

open ModVerif.Proofs.ModfileWalk

theorem addCall_lax_ignored (fix : Option Fixer) {x : Expr} (hx : laxIgnored x = true) :
    ∀ c ∈ callsOf (verbIn · blockVerbs) x, ∀ s, addCall fix false s c = s := by
  intro c hc s
  unfold callsOf at hc
  unfold laxIgnored at hx
  split at hc
  · split at hc
    · rename_i verb args ht
      cases List.mem_singleton.1 hc
      simp only [ht] at hx
      exact congrArg Prod.fst (add_lax_ignores s none _ verb args fix (by simpa using hx))
    · cases List.mem_singleton.1 hc; rfl
  · split at hc
    · rename_i verb ht
      simp only [ht] at hx
      split at hc
      · rename_i hk
        obtain ⟨l, _, rfl⟩ := List.mem_map.1 hc
        simp only [hk, Bool.true_and, Bool.not_eq_true'] at hx
        exact congrArg Prod.fst (add_lax_ignores s _ l verb l.token fix hx)
      · cases List.mem_singleton.1 hc; rfl
    · cases List.mem_singleton.1 hc; rfl
  · cases hc

theorem addStmts_lax_filter (fix : Option Fixer) (xs : List Expr) (st : AddState) :
    (addStmts fix false st xs).1 = (addStmts fix false st (xs.filter (fun x => !laxIgnored x))).1 := by
  rw [addStmts_fst, addStmts_fst]
  exact foldl_flatMap_filter _ _ _ (fun x hx => addCall_lax_ignored fix (by simpa using hx)) xs st

end ModVerif.Proofs.ModfileC20
