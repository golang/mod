/-
  The environment of `tileHashReader.ReadHashes` and the security theorem of C10 for the regenerated code.
  * the number of planned tiles is at most `62 + 63 * len(indexes)` (explicit fuel bound);
  * every `TileReader.ReadTiles` function has a model tile server related to it on the planned tiles (`exists_serve`);
  * `readHashes_authenticated` transferred to the regenerated `tileHashReader.ReadHashes` through the tie theorem,
    against every `ReadTiles` function.
-/
import ModVerif.Proofs.TieFnTileReadHashes
import ModVerif.Props.C10
namespace ModVerif.TieFnTile
open ModVerif ModVerif.GoRt ModVerif.GoRtTile ModVerif.TieFnTlogInt

theorem planStx_len (h N : Nat) : ∀ (xs : List Nat) (st res : List Tile.Tile × List (Tile.Tile × Nat) × List Nat),
    Tile.planStx h N xs st = .ok res → res.1.length ≤ st.1.length + xs.length := by
  intro xs
  induction xs with
  | nil => intro st res h; simp only [Tile.planStx, Except.ok.injEq] at h; subst h; simp
  | cons x xs ih =>
    intro st res hm
    obtain ⟨tiles, order, sto⟩ := st
    simp only [Tile.planStx, bind, Except.bind] at hm
    cases ht : Tile.tileForIndex h x with
    | error e => rw [ht] at hm; cases hm
    | ok t =>
      rw [ht] at hm
      simp only at hm
      split at hm
      · have := ih _ _ hm; simp only [List.length_cons] at this ⊢; omega
      · have := ih _ _ hm; simp only [List.length_append, List.length_cons, List.length_nil] at this ⊢; omega

theorem walkDown_len (N : Nat) (t : Tile.Tile) : ∀ (K : Nat) (st res : List Tile.Tile × List (Tile.Tile × Nat) × Option Nat),
    Tile.walkDown N t K st = .ok res → res.1.length = st.1.length + K := by
  intro K
  induction K with
  | zero => intro st res h; simp only [Tile.walkDown, Except.ok.injEq] at h; subst h; rfl
  | succ K ih =>
    intro st res hm
    obtain ⟨tiles, order, pos⟩ := st
    unfold Tile.walkDown at hm
    simp only at hm
    split at hm
    · cases hm
    · have := ih _ _ hm
      simp only [List.length_append, List.length_cons, List.length_nil] at this ⊢; omega

theorem planIndexes_len (h N : Nat) : ∀ (xs : List Nat) (st res : List Tile.Tile × List (Tile.Tile × Nat) × List Nat),
    Tile.planIndexes h N xs st = .ok res → res.1.length ≤ st.1.length + (N.log2 + 2) * xs.length := by
  intro xs
  induction xs with
  | nil => intro st res h; simp only [Tile.planIndexes, Except.ok.injEq] at h; subst h; simp
  | cons x xs ih =>
    intro st res hm
    obtain ⟨tiles, order, ito⟩ := st
    simp only [Tile.planIndexes, bind, Except.bind] at hm
    cases hp : Tile.planIndex h N (tiles, order, ito) x with
    | error e => rw [hp] at hm; cases hm
    | ok st1 =>
      rw [hp] at hm
      simp only at hm
      have h1 := ih _ _ hm
      -- one index adds at most `log2 N + 2` tiles
      have h2 : st1.1.length ≤ tiles.length + (N.log2 + 2) := by
        simp only [Tile.planIndex, bind, Except.bind] at hp
        split at hp
        · cases hp
        · cases ht : Tile.tileForIndex h x with
          | error e => rw [ht] at hp; cases hp
          | ok t =>
            rw [ht] at hp
            simp only at hp
            cases hwu : Tile.walkUp N order t.1 (N.log2 + 2) 0 with
            | error e => rw [hwu] at hp; cases hp
            | ok kj =>
              rw [hwu] at hp
              simp only at hp
              obtain ⟨_, hK⟩ := walkUp_bound N order t.1 kj.1 kj.2 _ _ hwu
              cases hwd : Tile.walkDown N t.1 kj.1 (tiles, order, if (kj.1 == 0) = true then some kj.2 else none) with
              | error e => rw [hwd] at hp; cases hp
              | ok r3 =>
                rw [hwd] at hp
                simp only at hp
                have hl := walkDown_len N t.1 kj.1 _ _ hwd
                split at hp
                · simp only [pure, Except.pure, Except.ok.injEq] at hp
                  subst hp
                  simp only at hl ⊢
                  omega
                · cases hp
      simp only [List.length_cons, Nat.mul_add, Nat.mul_one] at h1 ⊢
      omega

/-- at most 62 tiles for the tree hash and 63 per requested index -/
theorem planTiles_length (h N : Nat) (h1 : 1 ≤ h) (hN : N < 2 ^ 62) (idx : List Nat) :
    (planTiles h N idx).length ≤ 62 + 63 * idx.length := by
  obtain ⟨cs, tiles0, order0, sto, _, hcov, hps, _, _, hplan⟩ := plan_decomp h N h1 hN idx
  have hcl := cover_length_log cs 0 N 62 hcov (by omega)
  have h0 := planStx_len h N _ _ _ hps
  simp only [List.length_nil, List.length_map, Nat.zero_add] at h0
  have hlog : N.log2 < 62 := by
    by_cases h0 : N = 0
    · subst h0; simp
    · exact (Nat.log2_lt h0).mpr hN
  unfold planTiles
  rw [hplan]
  cases hpi : Tile.planIndexes h N idx (tiles0, order0, []) with
  | error e => simp
  | ok res =>
    have := planIndexes_len h N idx _ _ hpi
    simp only at this ⊢
    have hmul : (N.log2 + 2) * idx.length ≤ 63 * idx.length := Nat.mul_le_mul_right _ (by omega)
    omega

theorem planTiles_nodup (h N : Nat) (h1 : 1 ≤ h) (hN : N < 2 ^ 62) (idx : List Nat) : (planTiles h N idx).Nodup := by
  unfold planTiles
  cases hp : Tile.plan h N idx with
  | error e => simp
  | ok p => exact (TileAuth.plan_parents_first h N h1 hN idx p hp).2.2.1

theorem mapM_const_none {α β : Type} : ∀ l : List α, l ≠ [] → l.mapM (fun _ => (none : Option β)) = none := by
  intro l h
  cases l with
  | nil => exact absurd rfl h
  | cons a l => simp [List.mapM_cons]

theorem mapM_lookup_zip {α β : Type} [BEq α] [LawfulBEq α] (ks : List α) (vs : List β) (hnd : ks.Nodup)
    (hl : ks.length = vs.length) : ks.mapM (fun k => (ks.zip vs).lookup k) = some vs := by
  apply TileAuth.mapM_option_of_get _ _ _ hl.symm
  intro i k hi
  have hik : i < ks.length := (List.getElem?_eq_some_iff.mp hi).1
  refine ⟨vs[i]'(hl ▸ hik), List.getElem?_eq_getElem _, ?_⟩
  induction ks generalizing vs i with
  | nil => simp at hik
  | cons k0 ks ih =>
    cases vs with
    | nil => simp at hl
    | cons v vs =>
      simp only [List.nodup_cons] at hnd
      cases i with
      | zero =>
        simp only [List.getElem?_cons_zero, Option.some.injEq] at hi
        subst hi
        simp []
      | succ i =>
        simp only [List.getElem?_cons_succ] at hi
        have hne : (k == k0) = false := by
          rw [beq_eq_false_iff_ne]; rintro rfl; exact hnd.1 (List.mem_of_getElem? hi)
        simp only [List.zip_cons_cons, List.lookup_cons, hne, List.getElem_cons_succ]
        exact ih vs hnd.2 (by simpa using hl) i hi (by simpa using hik)

section
variable {H : Type} (ofBytes : Bytes → H)

theorem exists_serve (RT : List GTile → List Bytes × Option String) (tiles : List Tile.Tile) (hnd : tiles.Nodup) :
    ∃ serve : Tile.Tile → Option (List H), ServeRel ofBytes RT serve tiles := by
  cases hrt : RT (tiles.map toGen) with
  | mk data err =>
    cases err with
    | some e =>
      refine ⟨fun _ => none, ?_⟩
      intro hne
      simp only [hrt]
      exact mapM_const_none tiles hne
    | none =>
      by_cases hl : data.length = tiles.length
      · refine ⟨fun t => (tiles.zip (data.map (unflatS ofBytes))).lookup t, ?_⟩
        intro _
        simp only [hrt, hl, ↓reduceIte]
        exact mapM_lookup_zip tiles _ hnd (by simp [hl])
      · refine ⟨fun _ => some [], ?_⟩
        intro _
        simp only [hrt, hl, ↓reduceIte]
        exact TileAuth.mapM_option_some _ (fun _ => []) tiles (fun _ _ => rfl)

end
theorem wrapErr_ne_none (name : String) (inner : Option String) : wrapErr name inner ≠ none := by
  simp [wrapErr]

theorem msgOK_ne_none (rerr : Option String) (e : Tlog.Err) (msg : Option String) (h : MsgOK rerr e msg) : msg ≠ none := by
  cases e with
  | invalid => simp only [MsgOK] at h
  | proofFailed => simp only [MsgOK] at h
  | panic => simp only [MsgOK] at h
  | fuel => simp only [MsgOK] at h
  | reader =>
    simp only [MsgOK] at h
    obtain ⟨a, b⟩ := h; rw [a]; exact b
  | indexRange =>
    simp only [MsgOK] at h
    subst h; simp
  | badTile =>
    simp only [MsgOK] at h
    rcases h with h | h | ⟨s, _, h⟩ <;> subst h <;> simp
  | inconsistent =>
    simp only [MsgOK] at h
    subst h; simp
  | badMath =>
    simp only [MsgOK] at h
    rcases h with h | h | ⟨s, _, h⟩ | ⟨s, _, h⟩
    · subst h; simp
    · subst h; simp
    · subst h; exact wrapErr_ne_none _ _
    · subst h; exact wrapErr_ne_none _ _

section
variable {H : Type} [DecidableEq H] [Inhabited H] (leaf : Bytes → H) (node : H → H → H) (empty : H) (ofBytes : Bytes → H)

/-- ★ Against ANY `ReadTiles` function, for the true tree head of a log `D` of fewer than `2^62` records and a
    collision-free `NodeHash`: the generated `tileHashReader.ReadHashes` terminates without panic or overflow; if it
    returns `err = nil` the hashes are the true stored hashes; and every (tile, data) pair it passes to `SaveTiles` (the
    effect log) is the true tile of the log. -/
theorem ReadHashes_generated_authenticated (D : List Bytes) (st : List H) (hst : Tlog.buildStore leaf node D = .ok st)
    (hR : D.length < 2 ^ 62) (hcf : ∀ a b c d : H, node a b = node c d → a = c ∧ b = d)
    (h : Nat) (h1 : 1 ≤ h) (h57 : h ≤ 57) (idx : List Nat) (hidx : idx.length < 2 ^ 56)
    (RT : List GTile → List Bytes × Option String) (fuel : Nat) (hf : 64 * idx.length + 500 ≤ fuel) :
    ∃ res, Generated.Tile.tileHashReader_ReadHashes node ofBytes fuel
        { tree := { N := (D.length : Int), Hash := RFC6962.mth node empty (D.map leaf) },
          tr := { Height := (h : Int), ReadTiles := RT } } (idx.map Int.ofNat) = .ok res ∧
      (res.1.2 = none → idx.mapM (st[·]?) = some res.1.1) ∧
      (∀ entry ∈ res.2, entry.2.length = entry.1.length ∧
        ∀ i (hi1 : i < entry.1.length) (hi2 : i < entry.2.length),
          Tile.trueTile st (ofGen entry.1[i]) = some (unflatS ofBytes entry.2[i])) := by
  have hlen := planTiles_length h D.length h1 hR idx
  obtain ⟨serve, hs⟩ := exists_serve ofBytes RT (planTiles h D.length idx) (planTiles_nodup h D.length h1 hR idx)
  obtain ⟨msg, hgen, hmsg⟩ := ReadHashes_eq node ofBytes fuel h D.length (RFC6962.mth node empty (D.map leaf)) idx RT serve
    h1 h57 hR hs (by omega) (by omega)
  obtain ⟨hauth1, hauth2⟩ := Props.C10.readHashes_authenticated leaf node empty D st hst hR hcf h h1 idx serve
  refine ⟨_, hgen, ?_, ?_⟩
  · -- the returned hashes
    intro hnone
    simp only [rhOut] at hnone ⊢
    cases hres : (Tile.readHashes node D.length (RFC6962.mth node empty (D.map leaf)) h idx serve).result with
    | error e =>
      rw [hres] at hnone
      simp only at hnone
      exact absurd hnone (msgOK_ne_none _ _ _ (hmsg e hres))
    | ok hs' =>
      simp only
      exact hauth1 hs' hres
  · -- the saved tiles
    intro entry hentry
    simp only [rhOut] at hentry
    cases hsv : (Tile.readHashes node D.length (RFC6962.mth node empty (D.map leaf)) h idx serve).saved with
    | none => rw [hsv] at hentry; simp at hentry
    | some sv =>
      rw [hsv] at hentry
      simp only [List.mem_singleton] at hentry
      subst hentry
      simp only
      -- the model saved `p.tiles.zip data'`
      rcases TileAuth.readHashes_cases node D.length (RFC6962.mth node empty (D.map leaf)) h idx serve with
        ⟨hn, _⟩ | ⟨p, data', hp, hstxne, hmap, hwd, _, hsaved, _⟩
      · rw [hsv] at hn; cases hn
      · rw [hsv] at hsaved
        simp only [Option.some.injEq] at hsaved
        have hpt : planTiles h D.length idx = p.tiles := by simp [planTiles, hp]
        rw [hpt] at hs ⊢
        -- plan facts
        obtain ⟨cs2, pok⟩ := TileAuth.planOK_of_ok h D.length h1 hR idx p hp
        have pf := planFacts_of_planOK h D.length h1 hR cs2 idx _ pok
        obtain ⟨hwl, hww⟩ := TileAuth.widthsOk_spec _ _ hwd
        have htne : p.tiles ≠ [] := by
          intro hnil
          obtain ⟨c, hc⟩ : ∃ c, cs2[0]? = some c := by
            have : p.stx = cs2.map TileAuth.idxOf := pok.stx
            cases hcs : cs2 with
            | nil => rw [hcs] at this; exact absurd this hstxne
            | cons c _ => exact ⟨c, rfl⟩
          obtain ⟨j, _, _, hj⟩ := pok.sto 0 c hc
          rw [hnil] at hj; simp at hj
        have hs' := hs htne
        generalize hrt : RT (p.tiles.map toGen) = rt at hs' ⊢
        obtain ⟨data, err⟩ := rt
        cases err with
        | some e => simp only at hs'; rw [hmap] at hs'; cases hs'
        | none =>
          simp only at hs' ⊢
          rw [hmap] at hs'
          simp only [Option.some.injEq] at hs'
          by_cases hdl : data.length = p.tiles.length
          · rw [if_pos hdl] at hs'
            refine ⟨by simp [hdl], ?_⟩
            intro i hi1 hi2
            simp only [List.length_map] at hi1
            have hmem : (p.tiles[i], (data.map (unflatS ofBytes))[i]'(by simp; exact hi2)) ∈ sv := by
              rw [hsaved, hs']
              apply List.mem_iff_getElem.mpr
              refine ⟨i, by simp; omega, by simp⟩
            have := hauth2 sv hsv _ hmem
            simp only [List.getElem_map] at this ⊢
            rw [ofGen_toGen _ (by intro hd; rw [(pf.ok _ (List.getElem_mem hi1)).data] at hd; cases hd)]
            exact this
          · -- a result of the wrong length never passes the width check
            exfalso
            rw [if_neg hdl] at hs'
            cases hpt2 : p.tiles with
            | nil => exact htne hpt2
            | cons t ts =>
              have hw1 := (pf.w1 t (by rw [hpt2]; simp)).1
              have := hww 0 t [] (by rw [hpt2]; rfl) (by rw [hs', hpt2]; rfl)
              simp at this
              omega

/-- ★ … and (tile height at most 30) an error is only ever returned BEFORE `SaveTiles`: `err ≠ nil` implies an empty
    effect log, against any `ReadTiles` function. -/
theorem ReadHashes_generated_error_saves_nothing (D : List Bytes) (st : List H) (hst : Tlog.buildStore leaf node D = .ok st)
    (hR : D.length < 2 ^ 62) (hcf : ∀ a b c d : H, node a b = node c d → a = c ∧ b = d)
    (h : Nat) (h1 : 1 ≤ h) (h30 : h ≤ 30) (idx : List Nat) (hidx : idx.length < 2 ^ 56)
    (RT : List GTile → List Bytes × Option String) (fuel : Nat) (hf : 64 * idx.length + 500 ≤ fuel) :
    ∃ res, Generated.Tile.tileHashReader_ReadHashes node ofBytes fuel
        { tree := { N := (D.length : Int), Hash := RFC6962.mth node empty (D.map leaf) },
          tr := { Height := (h : Int), ReadTiles := RT } } (idx.map Int.ofNat) = .ok res ∧
      (res.1.2 ≠ none → res.2 = []) := by
  have hlen := planTiles_length h D.length h1 hR idx
  obtain ⟨serve, hs⟩ := exists_serve ofBytes RT (planTiles h D.length idx) (planTiles_nodup h D.length h1 hR idx)
  obtain ⟨msg, hgen, _⟩ := ReadHashes_eq node ofBytes fuel h D.length (RFC6962.mth node empty (D.map leaf)) idx RT serve
    h1 (by omega) hR hs (by omega) (by omega)
  refine ⟨_, hgen, ?_⟩
  intro herr
  simp only [rhOut] at herr ⊢
  cases hres : (Tile.readHashes node D.length (RFC6962.mth node empty (D.map leaf)) h idx serve).result with
  | ok hs' => rw [hres] at herr; simp at herr
  | error e =>
    have := Props.C10.error_saves_nothing leaf node empty D st hst hR hcf h h1 h30 idx serve e hres
    rw [this]

end
end ModVerif.TieFnTile
