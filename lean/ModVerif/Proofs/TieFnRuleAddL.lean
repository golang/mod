/-
  Helper lemmas for Tie/FnRuleAdd.lean: MODEL-side facts about the retract entries `addStmts` creates, needed by
  the tie of `fixRetract` (which re-reads the tokens of the retract lines: `args[0]` must exist, and the fuel must
  cover the REWRITTEN tokens): every entry belongs to exactly one line of the rewritten tree, that line has at least
  one token, and its tokens are at most four times as long as the original ones (`addStmts_retOK`).
-/
import ModVerif.Proofs.TieFnRuleLeafB
import ModVerif.Proofs.ModfileC20Stmts
namespace ModVerif.Tie.FnRuleAddL
open ModVerif ModVerif.Modfile
open ModVerif.Tie.FnRuleLeafA (parseString_length)
open ModVerif.Tie.FnRuleLeafB (tokSum tokSum_nil tokSum_cons)
open ModVerif.Proofs.ModfileC20 (linesOf addGo addToolchain addModule addGodebugV addReqExc addReplaceV addRetractV addToolV add_eq
  linesOf_nil linesOf_line linesOf_block linesOf_commentBlock linesOf_lparen linesOf_rparen)

theorem tokSum_append (a b : List Bytes) : tokSum (a ++ b) = tokSum a + tokSum b := by
  induction a with
  | nil => simp
  | cons x xs ih => simp [ih]; omega

theorem parseVersion_dontFix {path tok tok' v : Bytes} (h : parseVersion path tok (some dontFixRetract) = (tok', .ok v)) :
    tok'.length ≤ 4 * tok.length := by
  unfold parseVersion at h
  split at h
  · cases h
  · next t tok1 hps =>
    simp only [dontFixRetract] at h
    simp only [Prod.mk.injEq, Except.ok.injEq] at h
    obtain ⟨rfl, _⟩ := h
    exact parseString_length hps

theorem pvi_dontFix {path : Bytes} {toks toks' : List Bytes} {vi : VersionInterval} {rest : List Bytes}
    (h : parseVersionInterval path toks (some dontFixRetract) = (toks', .ok (vi, rest))) :
    toks' ≠ [] ∧ tokSum toks' ≤ 4 * tokSum toks := by
  unfold parseVersionInterval at h
  repeat' (first | split at h | (dsimp only at h))
  all_goals first
    | (simp only [Prod.mk.injEq, reduceCtorEq, and_false] at h; done)
    | skip
  all_goals
    simp only [Prod.mk.injEq, Except.ok.injEq] at h
    obtain ⟨rfl, _⟩ := h
    refine ⟨by simp, ?_⟩
    simp only [tokSum_cons]
    have hv : ∀ {p t t' w}, parseVersion p t (some dontFixRetract) = (t', Except.ok w) → t'.length ≤ 4 * t.length :=
      fun h => parseVersion_dontFix h
  · rename_i heq _
    have := hv heq
    omega
  · rename_i heq1 _ _ _ _ _ _ _ _ heq2 _ _ _ _ _
    have := hv heq1
    have := hv heq2
    omega

def RetStep (line : Line) (args : List Bytes) (old : List Retract) (r : AddState × List Bytes) : Prop :=
  r.1.file.retract = old ∨ ∃ x, r.1.file.retract = old ++ [x] ∧ x.lineId = line.id ∧ r.2 ≠ [] ∧ tokSum r.2 ≤ 4 * tokSum args

/-- a property of both branches holds of the conditional (`split` would evaluate the verb literals of the condition) -/
theorem ite_ind {α : Sort _} {P : α → Prop} {c : Prop} [Decidable c] {a b : α} (ha : c → P a) (hb : ¬ c → P b) :
    P (if c then a else b) := by
  by_cases h : c
  · rw [if_pos h]; exact ha h
  · rw [if_neg h]; exact hb h

/-- the results of the verbs other than `retract` are built from `st.err …` and updates of other fields of `st.file` -/
local macro "ret_auto" : tactic =>
  `(tactic| (repeat' (first | split | (dsimp only))) <;> exact Or.inl rfl)

theorem add_retStep (st : AddState) (block : Option Comments) (line : Line) (verb : Bytes) (args : List Bytes)
    (fix : Option Fixer) (strict : Bool) :
    RetStep line args st.file.retract (File.add st block line verb args fix strict) := by
  rw [add_eq]
  refine ite_ind (fun _ => Or.inl rfl) fun _ => ?_
  refine ite_ind (fun _ => by unfold addGo; ret_auto) fun _ => ?_
  refine ite_ind (fun _ => by unfold addToolchain; ret_auto) fun _ => ?_
  refine ite_ind (fun _ => by unfold addModule; ret_auto) fun _ => ?_
  refine ite_ind (fun _ => by unfold addGodebugV; ret_auto) fun _ => ?_
  refine ite_ind (fun _ => by unfold addReqExc; ret_auto) fun _ => ?_
  refine ite_ind (fun _ => by unfold addReplaceV; ret_auto) fun _ => ?_
  refine ite_ind (fun _ => ?_) fun _ => ite_ind (fun _ => by unfold addToolV; ret_auto) fun _ => Or.inl rfl
  unfold addRetractV
  dsimp only
  split
  · split <;> exact Or.inl rfl
  · next args' vi rest hpv =>
    split
    · exact Or.inl rfl
    · obtain ⟨h1, h2⟩ := pvi_dontFix hpv
      exact Or.inr ⟨_, rfl, rfl, h1, h2⟩

def RetNew (M : Nat) (ls ls' : List Line) (new : List Retract) : Prop :=
  (new.map (·.lineId)).Sublist (ls.map (·.id)) ∧
  ∀ x ∈ new, ∃ l' ∈ ls', l'.id = x.lineId ∧ l'.token ≠ [] ∧ tokSum l'.token ≤ M

theorem RetNew.nil (M : Nat) (ls ls' : List Line) : RetNew M ls ls' [] := ⟨List.nil_sublist _, fun _ h => by cases h⟩

theorem RetNew.append {M : Nat} {l1 l1' l2 l2' : List Line} {n1 n2 : List Retract} (h1 : RetNew M l1 l1' n1) (h2 : RetNew M l2 l2' n2) :
    RetNew M (l1 ++ l2) (l1' ++ l2') (n1 ++ n2) := by
  refine ⟨by simp only [List.map_append]; exact h1.1.append h2.1, ?_⟩
  intro x hx
  rcases List.mem_append.1 hx with hx | hx
  · obtain ⟨l', hl', h⟩ := h1.2 x hx; exact ⟨l', List.mem_append_left _ hl', h⟩
  · obtain ⟨l', hl', h⟩ := h2.2 x hx; exact ⟨l', List.mem_append_right _ hl', h⟩

theorem RetNew.ofStep {M : Nat} {l : Line} {pre args : List Bytes} {old : List Retract} {r : AddState × List Bytes}
    (h : RetStep l args old r) (hM : tokSum pre + 4 * tokSum args ≤ M) :
    ∃ new, r.1.file.retract = old ++ new ∧ RetNew M [l] [{ l with token := pre ++ r.2 }] new := by
  rcases h with h | ⟨x, hx, hid, hne, hsum⟩
  · exact ⟨[], by simp [h], RetNew.nil _ _ _⟩
  · refine ⟨[x], hx, by simp [hid], ?_⟩
    intro y hy
    simp only [List.mem_singleton] at hy
    subst hy
    refine ⟨_, List.mem_singleton.2 rfl, hid.symm, by simp [hne], ?_⟩
    simp only [tokSum_append]
    omega

theorem addBlockLines_retOK (M : Nat) (block : Comments) (verb : Bytes) (fix : Option Fixer) (strict : Bool) :
    ∀ (ls : List Line) (st : AddState), (∀ l ∈ ls, 4 * tokSum l.token ≤ M) →
    ∃ new, (addBlockLines block verb fix strict st ls).1.file.retract = st.file.retract ++ new ∧
      RetNew M ls (addBlockLines block verb fix strict st ls).2 new := by
  intro ls
  induction ls with
  | nil => intro st _; exact ⟨[], by simp [addBlockLines], RetNew.nil _ _ _⟩
  | cons l rest ih =>
    intro st hM
    obtain ⟨n1, e1, r1⟩ := RetNew.ofStep (M := M) (pre := []) (add_retStep st (some block) l verb l.token fix strict)
      (by simp; exact hM l List.mem_cons_self)
    obtain ⟨n2, e2, r2⟩ := ih (File.add st (some block) l verb l.token fix strict).1 (fun x hx => hM x (List.mem_cons_of_mem _ hx))
    refine ⟨n1 ++ n2, ?_, ?_⟩
    · unfold addBlockLines; simp only []; rw [e2, e1, List.append_assoc]
    · have := r1.append r2
      unfold addBlockLines
      simpa using this

theorem addStmts_retOK (M : Nat) (fix : Option Fixer) (strict : Bool) :
    ∀ (xs : List Expr) (st : AddState), (∀ l ∈ linesOf xs, 4 * tokSum l.token ≤ M) →
    ∃ new, (addStmts fix strict st xs).1.file.retract = st.file.retract ++ new ∧
      RetNew M (linesOf xs) (linesOf (addStmts fix strict st xs).2) new := by
  intro xs
  induction xs with
  | nil => intro st _; exact ⟨[], by simp [addStmts], by simpa [addStmts] using RetNew.nil M [] []⟩
  | cons x rest ih =>
    intro st hM
    have hrest : ∀ st' : AddState, ∃ new, (addStmts fix strict st' rest).1.file.retract = st'.file.retract ++ new ∧
        RetNew M (linesOf rest) (linesOf (addStmts fix strict st' rest).2) new :=
      fun st' => ih st' (fun l hl => hM l (by cases x <;> simp [hl]))
    -- a statement that changes nothing of the retract list and of its own lines
    have hskip : ∀ (st' : AddState), st'.file.retract = st.file.retract →
        ∃ new, (addStmts fix strict st' rest).1.file.retract = st.file.retract ++ new ∧
          RetNew M (linesOf (x :: rest)) (linesOf (x :: (addStmts fix strict st' rest).2)) new := by
      intro st' he
      obtain ⟨n, e, r⟩ := hrest st'
      refine ⟨n, by rw [e, he], ?_⟩
      have h0 : RetNew M (linesOf [x]) (linesOf [x]) [] := RetNew.nil _ _ _
      have := h0.append r
      have e1 : ∀ ys, linesOf (x :: ys) = linesOf [x] ++ linesOf ys := by intro ys; cases x <;> simp
      rw [e1, e1 (addStmts fix strict st' rest).2]
      simpa using this
    unfold addStmts
    cases x with
    | line l =>
      cases htok : l.token with
      | nil =>
        simp only [htok]
        exact hskip st rfl
      | cons verb args =>
        simp only [htok]
        obtain ⟨n1, e1, r1⟩ := RetNew.ofStep (M := M) (pre := [verb]) (add_retStep st none l verb args fix strict)
          (by have := hM l (by simp); rw [htok] at this; simp at this ⊢; omega)
        obtain ⟨n2, e2, r2⟩ := hrest (File.add st none l verb args fix strict).1
        refine ⟨n1 ++ n2, by rw [e2, e1, List.append_assoc], ?_⟩
        have := r1.append r2
        simpa using this
    | lineBlock b =>
      simp only
      split
      · split
        · obtain ⟨n1, e1, r1⟩ := addBlockLines_retOK M b.comments _ fix strict b.lines st (fun l hl => hM l (by simp [hl]))
          obtain ⟨n2, e2, r2⟩ := hrest (addBlockLines b.comments _ fix strict st b.lines).1
          refine ⟨n1 ++ n2, by rw [e2, e1, List.append_assoc], ?_⟩
          have := r1.append r2
          simpa using this
        · exact hskip _ (by cases strict <;> rfl)
      · exact hskip _ (by cases strict <;> rfl)
    | commentBlock c => exact hskip st rfl
    | lparen c => exact hskip st rfl
    | rparen c => exact hskip st rfl

end ModVerif.Tie.FnRuleAddL
