/-
  C10 groundwork, arithmetic layer: the "standard" tile of a tree at tile coordinates `(L, n)`,
  `tileParent` as a standard tile, and the closed form of `tileForIndex` (tileForIndex_spec, first half).
-/
import ModVerif.Model.Tlog
import ModVerif.Model.Tile
import ModVerif.Proofs.TlogIndex
namespace ModVerif.TileAuth
open ModVerif ModVerif.Tlog ModVerif.Tile

/-- number of stored hashes at level `L * h` of a tree of `N` records (`N >> (L*h)` in the code) -/
def cnt (h N L : Nat) : Nat := N / 2 ^ (L * h)

/-- the tile of tree `N` at tile level `L`, tile number `n`, with the width the tree gives it
    (`Tile.zero` if the tree has no hash there) -/
def stdTile (h N L n : Nat) : Tile :=
  if cnt h N L ≤ n * 2 ^ h then Tile.zero
  else { h := h, l := L, n := n, w := min (2 ^ h) (cnt h N L - n * 2 ^ h) }

theorem cnt_succ (h N L : Nat) : cnt h N (L + 1) = cnt h N L / 2 ^ h := by
  unfold cnt
  rw [Nat.add_mul, Nat.one_mul, Nat.pow_add, Nat.div_div_eq_div_mul]

theorem cnt_add (h N L k : Nat) : cnt h N (L + k) = cnt h N L / 2 ^ (k * h) := by
  unfold cnt
  rw [Nat.add_mul, Nat.pow_add, Nat.div_div_eq_div_mul]

theorem valid_iff (h N L m : Nat) : (m + 1) * 2 ^ (L * h) ≤ N ↔ m < cnt h N L := by
  unfold cnt
  rw [Nat.lt_iff_add_one_le, Nat.le_div_iff_mul_le (Nat.two_pow_pos _)]

theorem valid_iff' (h N L r k : Nat) : (k + 1) * 2 ^ (L * h + r) ≤ N ↔ (k + 1) * 2 ^ r ≤ cnt h N L := by
  unfold cnt
  rw [Nat.le_div_iff_mul_le (Nat.two_pow_pos _), Nat.pow_add, Nat.mul_assoc, Nat.mul_comm (2 ^ (L * h))]

theorem stdTile_ne_zero (h N L n : Nat) (hh : 0 < h) : stdTile h N L n ≠ Tile.zero ↔ n * 2 ^ h < cnt h N L := by
  unfold stdTile
  split
  · simp; omega
  · simp [Tile.zero]; omega

theorem stdTile_of_lt (h N L n : Nat) (hlt : n * 2 ^ h < cnt h N L) :
    stdTile h N L n = { h := h, l := L, n := n, w := min (2 ^ h) (cnt h N L - n * 2 ^ h) } := by
  unfold stdTile
  rw [if_neg (by omega)]

theorem stdTile_zero_of_ge (h N L n : Nat) (hge : cnt h N L ≤ n * 2 ^ h) : stdTile h N L n = Tile.zero := by
  unfold stdTile
  rw [if_pos hge]

theorem tileParent_eq (t : Tile) (k N : Nat) (hd : t.data = false) :
    tileParent t k N = stdTile t.h N (t.l + k) (t.n / 2 ^ (k * t.h)) := by
  obtain ⟨th, tl, tn, tw, td⟩ := t
  simp only at hd
  subst hd
  unfold tileParent stdTile cnt
  simp only [Nat.shiftRight_eq_div_pow, Nat.shiftLeft_eq]
  generalize tn / 2 ^ (k * th) = a
  generalize N / 2 ^ ((tl + k) * th) = b
  generalize 2 ^ th = c
  by_cases h1 : b ≤ a * c
  · rw [if_pos (by omega), if_pos (by omega), if_pos h1]
  · by_cases h2 : a * c + c ≥ b
    · rw [if_pos h2, if_neg (by omega), if_neg h1]
      congr 1
      omega
    · rw [if_neg h2, if_neg h1]
      congr 1
      omega

theorem stdTile_h (h N L n : Nat) (hlt : n * 2 ^ h < cnt h N L) : (stdTile h N L n).h = h := by
  rw [stdTile_of_lt h N L n hlt]

theorem tileParent_std (h N L n k : Nat) (hlt : n * 2 ^ h < cnt h N L) :
    tileParent (stdTile h N L n) k N = stdTile h N (L + k) (n / 2 ^ (k * h)) := by
  rw [stdTile_of_lt h N L n hlt, tileParent_eq _ _ _ rfl]

/-- a full standard tile has a (non-zero) parent, and its slot in the parent is inside the parent's width -/
theorem parent_of_full (h N L n : Nat) (hfull : (n + 1) * 2 ^ h ≤ cnt h N L) :
    n < cnt h N (L + 1) := by
  rw [cnt_succ]
  rw [Nat.lt_iff_add_one_le, Nat.le_div_iff_mul_le (Nat.two_pow_pos _)]
  exact hfull

theorem tileForIndex_eq (h x lv k : Nat) (hh : 0 < h) (hs : splitStoredHashIndex x = .ok (lv, k)) :
    tileForIndex h x = .ok
      ({ h := h, l := lv / h, n := k / 2 ^ (h - lv % h), w := (k % 2 ^ (h - lv % h) + 1) * 2 ^ (lv % h) },
        (k % 2 ^ (h - lv % h)) * 2 ^ (lv % h), (k % 2 ^ (h - lv % h) + 1) * 2 ^ (lv % h)) := by
  unfold tileForIndex
  have hne : (h == 0) = false := by simp; omega
  simp only [hne, Bool.false_eq_true, ↓reduceIte, hs, bind, Except.bind, pure, Except.pure,
    Nat.shiftRight_eq_div_pow, Nat.shiftLeft_eq]
  have hr : lv - lv / h * h = lv % h := by
    have := Nat.div_add_mod lv h
    rw [Nat.mul_comm] at this
    omega
  rw [hr]
  have hrlt : lv % h < h := Nat.mod_lt _ hh
  have hpow : 2 ^ h = 2 ^ (h - lv % h) * 2 ^ (lv % h) := by
    rw [← Nat.pow_add]; congr 1; omega
  have e1 : k * 2 ^ (lv % h) / 2 ^ h = k / 2 ^ (h - lv % h) := by
    rw [hpow, Nat.mul_div_mul_right _ _ (Nat.two_pow_pos _)]
  have e2 : k / 2 ^ (h - lv % h) * 2 ^ h / 2 ^ (lv % h) = k / 2 ^ (h - lv % h) * 2 ^ (h - lv % h) := by
    rw [hpow, ← Nat.mul_assoc, Nat.mul_div_cancel _ (Nat.two_pow_pos _)]
  have e3 : k - k / 2 ^ (h - lv % h) * 2 ^ (h - lv % h) = k % 2 ^ (h - lv % h) := by
    have := Nat.div_add_mod k (2 ^ (h - lv % h))
    rw [Nat.mul_comm] at this
    omega
  rw [e1, e2, e3]

end ModVerif.TileAuth
