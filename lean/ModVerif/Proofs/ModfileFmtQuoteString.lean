/-
  `strconv.Quote(s)` is ONE string token, for every byte string `s`.

  `quoteLoop` is rewritten as the concatenation `qbody` of per-rune chunks `stepOut`; every chunk is either
  a backslash escape (backslash, an ASCII byte, then hex digits) or the well-formed UTF-8 bytes of a
  printable rune other than `"` and `\`; such chunks prolong a `StrBody 34`.
-/
import ModVerif.Proofs.ModfileFmtQuoteIdent
namespace ModVerif.Proofs.ModfileFmtQuote
open ModVerif ModVerif.Modfile ModVerif.Proofs.ModfileLex ModVerif.Proofs.ModfileFmtUtf8
open ModVerif.Proofs.ModfileFmtTok ModVerif.Proofs.ModfileFmtLex

theorem encode_of_decode {s : Bytes} {r w : Nat} (h : Utf8.decode s = some (r, w)) :
    Utf8.encode r = s.take w := by
  obtain ⟨p, t, rfl, rfl, hp⟩ := Utf8.seq_of_decode h
  rw [hp.encode, List.take_left]

example : Utf8.decode [0xE2, 0x82, 0xAC, 65] = some (0x20AC, 3) := by decide

theorem validRune_of_decode {s : Bytes} {r w : Nat} (h : Utf8.decode s = some (r, w)) :
    Quote.validRune r = true := by
  obtain ⟨p, t, -, -, hp⟩ := Utf8.seq_of_decode h
  have := hp.scalar
  simp only [Quote.validRune, Bool.or_eq_true, Bool.and_eq_true, decide_eq_true_eq]
  omega

theorem decodeRune_of_decode {s : Bytes} {r w : Nat} (h : Utf8.decode s = some (r, w)) :
    Utf8.decodeRune s = (r, w) := by
  simp [Utf8.decodeRune, h]

/-- the ill-formed-byte test of `strconv.Quote`: `width == 1 && r == utf8.RuneError` -/
def badHead (s : Bytes) : Bool := (Utf8.decodeRune s).2 == 1 && (Utf8.decodeRune s).1 == Utf8.runeError

/-- what one iteration of `quoteLoop` appends -/
def stepOut : Bytes → Bytes
  | [] => []
  | c :: t =>
    if badHead (c :: t) then [92, 120, Quote.lowerhex (c.toNat / 16), Quote.lowerhex (c.toNat % 16)]
    else Quote.appendEscapedRune (Utf8.decodeRune (c :: t)).1

/-- the output of `quoteLoop` started with an empty accumulator -/
def qbody : Nat → Bytes → Bytes
  | 0, _ => []
  | _ + 1, [] => []
  | fuel + 1, c :: t => stepOut (c :: t) ++ qbody fuel ((c :: t).drop (Utf8.decodeRune (c :: t)).2)

theorem quoteLoop_cons (fuel : Nat) (c : UInt8) (t acc : Bytes) :
    Quote.quoteLoop (fuel + 1) (c :: t) acc =
      Quote.quoteLoop fuel ((c :: t).drop (Utf8.decodeRune (c :: t)).2) ((stepOut (c :: t)).reverse ++ acc) := by
  have hrw : (if c.toNat ≥ 0x80 then Utf8.decodeRune (c :: t) else (c.toNat, 1)) = Utf8.decodeRune (c :: t) := by
    split
    · rfl
    · rw [decodeRune_ascii c t (by omega)]
  simp only [Quote.quoteLoop, hrw]
  by_cases hb : badHead (c :: t) = true
  · have hb' := hb
    simp only [badHead, Bool.and_eq_true, beq_iff_eq] at hb'
    simp only [stepOut, hb, if_true, hb'.1, hb'.2, beq_self_eq_true, Bool.and_self]
  · have hc : ¬ ((Utf8.decodeRune (c :: t)).2 == 1 && (Utf8.decodeRune (c :: t)).1 == Utf8.runeError) = true := hb
    simp only [stepOut, hb, hc]
    rfl

theorem quoteLoop_eq_qbody : ∀ (fuel : Nat) (s acc : Bytes),
    Quote.quoteLoop fuel s acc = acc.reverse ++ qbody fuel s := by
  intro fuel
  induction fuel with
  | zero => intro s acc; simp [Quote.quoteLoop, qbody]
  | succ n ih =>
    intro s acc
    cases s with
    | nil => simp [Quote.quoteLoop, qbody]
    | cons c t =>
      rw [quoteLoop_cons, ih]
      simp [qbody]

theorem quote_eq_qbody (s : Bytes) : Quote.quote s = 34 :: (qbody (s.length + 1) s ++ [34]) := by
  simp [Quote.quote, quoteLoop_eq_qbody]

def HexBytes (hs : Bytes) : Prop := ∀ b ∈ hs, ∃ n, n < 16 ∧ b = Quote.lowerhex n

theorem hexBytes_nil : HexBytes [] := by intro b hb; simp at hb

theorem hexBytes_cons {n : Nat} {hs : Bytes} (hn : n < 16) (h : HexBytes hs) : HexBytes (Quote.lowerhex n :: hs) := by
  intro b hb
  rcases List.mem_cons.1 hb with rfl | hb
  · exact ⟨n, hn, rfl⟩
  · exact h b hb

theorem hexBytes_hexDigits (r : Nat) : ∀ k, HexBytes (Quote.hexDigits r k) := by
  intro k
  induction k with
  | zero => exact hexBytes_nil
  | succ k ih => exact hexBytes_cons (Nat.mod_lt _ (by decide)) ih

theorem lowerhex_fin : ∀ n : Fin 16, (Quote.lowerhex n.val).toNat < 0x80 ∧ Quote.lowerhex n.val ≠ 10 ∧
    Quote.lowerhex n.val ≠ 34 ∧ Quote.lowerhex n.val ≠ 92 := by decide

theorem lowerhex_plain {n : Nat} (hn : n < 16) : (Quote.lowerhex n).toNat < 0x80 ∧ Quote.lowerhex n ≠ 10 ∧
    Quote.lowerhex n ≠ 34 ∧ Quote.lowerhex n ≠ 92 := lowerhex_fin ⟨n, hn⟩

def IsEscape (u : Bytes) : Prop := ∃ e hs, u = 92 :: e :: hs ∧ e.toNat < 0x80 ∧ HexBytes hs

theorem isEscape_two (e : UInt8) (he : e.toNat < 0x80) : IsEscape [92, e] := ⟨e, [], rfl, he, hexBytes_nil⟩

theorem isEscape_ite {c : Prop} [Decidable c] {a b : Bytes} (ha : c → IsEscape a) (hb : ¬ c → IsEscape b) :
    IsEscape (if c then a else b) := by
  by_cases h : c
  · rw [if_pos h]; exact ha h
  · rw [if_neg h]; exact hb h

theorem isPrint_lt_128 {r : Nat} (hp : UnicodePrint.isPrint r = true) (hr : r < 0x80) : 0x20 ≤ r ∧ r ≤ 0x7E := by
  unfold UnicodePrint.isPrint at hp
  rw [if_pos (by omega)] at hp
  simp only [Bool.or_eq_true, Bool.and_eq_true, decide_eq_true_eq, bne_iff_ne] at hp
  omega

theorem appendEscapedRune_class (r : Nat) :
    IsEscape (Quote.appendEscapedRune r) ∨
    (Quote.appendEscapedRune r = Utf8.encode r ∧ UnicodePrint.isPrint r = true ∧ r ≠ 34 ∧ r ≠ 92) := by
  delta Quote.appendEscapedRune
  by_cases h : (r == 34 || r == 92) = true
  · rw [if_pos h]
    left
    simp only [Bool.or_eq_true, beq_iff_eq] at h
    rcases h with h | h <;> subst h <;> exact isEscape_two _ (by decide)
  · rw [if_neg h]
    simp only [Bool.or_eq_true, beq_iff_eq, not_or] at h
    by_cases hp : UnicodePrint.isPrint r = true
    · rw [if_pos hp]
      exact Or.inr ⟨rfl, hp, h.1, h.2⟩
    · rw [if_neg hp]
      left
      refine isEscape_ite (fun _ => isEscape_two _ (by decide)) (fun _ => ?_)
      refine isEscape_ite (fun _ => isEscape_two _ (by decide)) (fun _ => ?_)
      refine isEscape_ite (fun _ => isEscape_two _ (by decide)) (fun _ => ?_)
      refine isEscape_ite (fun _ => isEscape_two _ (by decide)) (fun _ => ?_)
      refine isEscape_ite (fun _ => isEscape_two _ (by decide)) (fun _ => ?_)
      refine isEscape_ite (fun _ => isEscape_two _ (by decide)) (fun _ => ?_)
      refine isEscape_ite (fun _ => isEscape_two _ (by decide)) (fun _ => ?_)
      refine isEscape_ite (fun hx => ?_) (fun _ => ?_)
      · simp only [Bool.or_eq_true, decide_eq_true_eq, beq_iff_eq] at hx
        exact ⟨120, _, rfl, by decide, hexBytes_cons (by omega) (hexBytes_cons (by omega) hexBytes_nil)⟩
      · refine isEscape_ite (fun _ => ?_) (fun _ => isEscape_ite (fun _ => ?_) (fun _ => ?_))
        · exact ⟨117, _, rfl, by decide, hexBytes_hexDigits _ _⟩
        · exact ⟨117, _, rfl, by decide, hexBytes_hexDigits _ _⟩
        · exact ⟨85, _, rfl, by decide, hexBytes_hexDigits _ _⟩

theorem decode_of_not_bad {s : Bytes} (hb : badHead s = false) :
    Utf8.decode s = some (Utf8.decodeRune s) := by
  cases hd : Utf8.decode s with
  | some rw => simp [Utf8.decodeRune, hd]
  | none =>
    exfalso
    have : Utf8.decodeRune s = (Utf8.runeError, 1) := by simp [Utf8.decodeRune, hd]
    simp [badHead, this] at hb

example : badHead [0xC3, 0xA9] = false := by decide

theorem stepOut_class (s : Bytes) (hs : s ≠ []) :
    IsEscape (stepOut s) ∨
    (stepOut s = s.take (Utf8.decodeRune s).2 ∧ Utf8.decode s = some (Utf8.decodeRune s) ∧
      UnicodePrint.isPrint (Utf8.decodeRune s).1 = true ∧ (Utf8.decodeRune s).1 ≠ 34 ∧ (Utf8.decodeRune s).1 ≠ 92) := by
  cases s with
  | nil => exact absurd rfl hs
  | cons c t =>
    simp only [stepOut]
    by_cases hb : badHead (c :: t) = true
    · left
      rw [if_pos hb]
      exact ⟨120, _, rfl, by decide, hexBytes_cons (by have := c.toNat_lt; omega)
        (hexBytes_cons (Nat.mod_lt _ (by decide)) hexBytes_nil)⟩
    · rw [if_neg hb]
      rcases appendEscapedRune_class (Utf8.decodeRune (c :: t)).1 with h | ⟨h1, h2, h3, h4⟩
      · exact Or.inl h
      · right
        have hd := decode_of_not_bad (by simpa using hb)
        exact ⟨by rw [h1]; exact encode_of_decode hd, hd, h2, h3, h4⟩

theorem strBody_ascii {c : UInt8} {t : Bytes} (hc : c.toNat < 0x80) (h10 : c ≠ 10) (h34 : c ≠ 34) (h92 : c ≠ 92)
    (ht : StrBody 34 t) : StrBody 34 (c :: t) := by
  have hd := decodeRune_ascii c t hc
  have hne : ∀ (x : UInt8), c ≠ x → c.toNat ≠ x.toNat := fun x h1 h2 => h1 (UInt8.toNat_inj.1 h2)
  refine .other (by simp) ?_ ?_ ?_ ?_
  · rw [hd]; exact hne 10 h10
  · rw [hd]; exact hne 34 h34
  · rw [hd]; intro h; exact hne 92 h92 h.1
  · rw [hd]; simpa using ht

theorem strBody_hex {hs : Bytes} (hh : HexBytes hs) {t : Bytes} (ht : StrBody 34 t) : StrBody 34 (hs ++ t) := by
  induction hs with
  | nil => simpa using ht
  | cons b bs ih =>
    obtain ⟨n, hn, rfl⟩ := hh b (by simp)
    obtain ⟨h1, h2, h3, h4⟩ := lowerhex_plain hn
    exact strBody_ascii h1 h2 h3 h4 (ih (fun x hx => hh x (by simp [hx])))

theorem strBody_escape {u : Bytes} (hu : IsEscape u) {t : Bytes} (ht : StrBody 34 t) : StrBody 34 (u ++ t) := by
  obtain ⟨e, hs, rfl, he, hh⟩ := hu
  have hd := decodeRune_ascii 92 (e :: (hs ++ t)) (by decide)
  have hd2 := decodeRune_ascii e (hs ++ t) he
  have h92 : (92 : UInt8).toNat = 92 := rfl
  refine .esc (by simp) ?_ ?_ ?_ (by decide) ?_ ?_
  · simp only [List.cons_append, hd, h92]; decide
  · simp only [List.cons_append, hd, h92]; decide
  · simp only [List.cons_append, hd, h92]
  · simp only [List.cons_append, hd]; simp
  · simp only [List.cons_append, hd, List.drop_succ_cons, List.drop_zero, hd2]
    exact strBody_hex hh ht

theorem strBody_plain {s : Bytes} (hd : Utf8.decode s = some (Utf8.decodeRune s))
    (hp : UnicodePrint.isPrint (Utf8.decodeRune s).1 = true) (h34 : (Utf8.decodeRune s).1 ≠ 34)
    (h92 : (Utf8.decodeRune s).1 ≠ 92) {t : Bytes} (ht : StrBody 34 t) :
    StrBody 34 (s.take (Utf8.decodeRune s).2 ++ t) := by
  have hs : s ≠ [] := by intro h; subst h; simp [Utf8.decode] at hd
  have hw := decodeRune_width s hs
  have hlen := take_length_decodeRune s hs
  have hctx : Utf8.decodeRune (s.take (Utf8.decodeRune s).2 ++ t) = Utf8.decodeRune s := by
    exact decodeRune_of_decode (decode_take (r := (Utf8.decodeRune s).1) (w := (Utf8.decodeRune s).2) hd t)
  have h10 : (Utf8.decodeRune s).1 ≠ 10 := by
    intro h; rw [h] at hp; revert hp; decide
  have hne : s.take (Utf8.decodeRune s).2 ++ t ≠ [] := by
    intro h
    have := congrArg List.length h
    simp only [List.length_append, hlen, List.length_nil] at this
    omega
  refine .other hne (by rw [hctx]; exact h10) (by rw [hctx]; exact h34) (by rw [hctx]; exact fun h => h92 h.1) ?_
  rw [hctx, List.drop_append, List.drop_of_length_le (by omega), hlen]
  simpa using ht

example : Utf8.decode [0xC3, 0xA9] = some (Utf8.decodeRune [0xC3, 0xA9]) ∧
    UnicodePrint.isPrint (Utf8.decodeRune [0xC3, 0xA9]).1 = true := by decide

theorem strBody_close : StrBody 34 [34] := by
  have hd := decodeRune_ascii 34 [] (by decide)
  refine .close (by simp) ?_ ?_ ?_
  · rw [hd]; decide
  · rw [hd]; rfl
  · rw [hd]; rfl

/-- non-vacuity of the prolongation lemmas: `a"`, `\n"` and `é"` are string bodies -/
example : StrBody 34 [97, 34] := strBody_ascii (by decide) (by decide) (by decide) (by decide) strBody_close
example : StrBody 34 ([92, 110] ++ [34]) := strBody_escape (isEscape_two _ (by decide)) strBody_close
example : StrBody 34 (([0xC3, 0xA9] : Bytes).take (Utf8.decodeRune [0xC3, 0xA9]).2 ++ [34]) :=
  strBody_plain (by decide) (by decide) (by decide) (by decide) strBody_close
example : HexBytes [Quote.lowerhex 3] := hexBytes_cons (by decide) hexBytes_nil

theorem strBody_stepOut (s : Bytes) (hs : s ≠ []) {t : Bytes} (ht : StrBody 34 t) : StrBody 34 (stepOut s ++ t) := by
  rcases stepOut_class s hs with h | ⟨h1, h2, h3, h4, h5⟩
  · exact strBody_escape h ht
  · rw [h1]; exact strBody_plain h2 h3 h4 h5 ht

theorem strBody_qbody : ∀ (fuel : Nat) (s : Bytes) {t : Bytes}, StrBody 34 t → StrBody 34 (qbody fuel s ++ t) := by
  intro fuel
  induction fuel with
  | zero => intro s t ht; simpa [qbody] using ht
  | succ n ih =>
    intro s t ht
    cases s with
    | nil => simpa [qbody] using ht
    | cons c r =>
      simp only [qbody, List.append_assoc]
      exact strBody_stepOut _ (by simp) (ih _ ht)

theorem autoQuote_quoted (s : Bytes) : TokOK .string (Quote.quote s) := by
  rw [quote_eq_qbody]
  exact .string 34 _ (Or.inl rfl) (strBody_qbody _ s strBody_close)

theorem autoQuote_single_token (s : Bytes) : ∃ k, TokOK k (autoQuote s) := by
  unfold autoQuote
  cases h : mustQuote s with
  | true => exact ⟨.string, by simpa using autoQuote_quoted s⟩
  | false =>
    simp only [Bool.false_eq_true, if_false]
    rcases autoQuote_unquoted h with h | ⟨c, hc, rfl⟩
    · exact ⟨_, h⟩
    · exact ⟨_, .punct c hc⟩

end ModVerif.Proofs.ModfileFmtQuote
