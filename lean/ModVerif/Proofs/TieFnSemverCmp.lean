/-
  Tie proofs for the regenerated semver functions: comparePrerelease (the loop against
  `cmpIdents (splitOn 46 …)`), Compare and Max.
-/
import ModVerif.Proofs.TieFnSemverAcc
import ModVerif.Proofs.SemverOrder
namespace ModVerif.TieFnSemver
open ModVerif ModVerif.GoRt
open ModVerif.Generated.Semver (parsed)

/-- the identifiers still to be compared when the loop of comparePrerelease is at the remaining string `x`
    (`x` is "" or begins with the separator that the loop strips first) -/
def idents : Bytes → List Bytes
  | [] => []
  | _ :: r => splitOn 46 r

/-- the loop of comparePrerelease together with the two lines after it, on identifier lists.  It differs from the
    model's `cmpIdents` only when both lists run out together (Go answers -1, unreachable from Compare because
    equal strings are handled first). -/
def goCmp : List Bytes → List Bytes → Int
  | [], [] => -1
  | [], _ :: _ => -1
  | _ :: _, [] => 1
  | dx :: xs, dy :: ys => if dx = dy then goCmp xs ys else Semver.cmpIdent dx dy

theorem splitOn_eq_idents : ∀ s : Bytes,
    splitOn 46 s = s.takeWhile (· != 46) :: idents (s.dropWhile (· != 46))
  | [] => by simp [splitOn, idents]
  | c :: r => by
    by_cases hc : c = 46
    · subst hc; simp [splitOn, idents]
    · have ih := splitOn_eq_idents r
      have hb : (c == 46) = false := by simp [hc]
      have hb' : (c != 46) = true := by simp [hc]
      simp [splitOn, hb, hb', ih]

theorem goCmp_eq : ∀ xs ys : List Bytes, goCmp xs ys = if xs = ys then -1 else Semver.cmpIdents xs ys
  | [], [] => by simp [goCmp]
  | [], _ :: _ => by simp [goCmp, Semver.cmpIdents]
  | _ :: _, [] => by simp [goCmp, Semver.cmpIdents]
  | dx :: xs, dy :: ys => by
    by_cases h : dx = dy
    · subst h; simp [goCmp, Semver.cmpIdents, goCmp_eq xs ys]
    · simp [goCmp, Semver.cmpIdents, h]

def cmpCont (r : Ctl Int (Bytes × Bytes)) : M Int :=
  match r with
  | Ctl.ret rv8 => (pure rv8)
  | Ctl.next (x, _) => (if (decide (x = ([] : Bytes))) then (pure (-1 : Int)) else (pure (1 : Int)))

theorem comparePrerelease_unfold (fuel : Nat) (x y : Bytes) :
    Generated.Semver.comparePrerelease fuel x y =
      if x = y then .ok 0 else if x = [] then .ok 1 else if y = [] then .ok (-1) else
        Generated.Semver.comparePrerelease_loop1 fuel x y >>= cmpCont := by
  unfold Generated.Semver.comparePrerelease
  by_cases h1 : x = y
  · simp [h1]
  · by_cases h2 : x = []
    · simp [h2]
    · by_cases h3 : y = []
      · simp [h2, h3]
      · simp only [h1, h2, h3, decide_false, Bool.false_eq_true, if_false]
        congr 1

theorem comparePrerelease_loop1_spec : ∀ (fuel : Nat) (x y : Bytes), x.length + 1 ≤ fuel → y.length + 1 ≤ fuel →
    (Generated.Semver.comparePrerelease_loop1 fuel x y >>= cmpCont) = .ok (goCmp (idents x) (idents y)) := by
  intro fuel
  induction fuel with
  | zero => intro x y hx hy; omega
  | succ f ih =>
    intro x y hx hy
    cases x with
    | nil =>
      simp [Generated.Semver.comparePrerelease_loop1, cmpCont]
      cases idents y <;> simp [idents, goCmp]
    | cons a x' =>
      cases y with
      | nil =>
        simp [Generated.Semver.comparePrerelease_loop1, cmpCont, idents]
        cases h : splitOn 46 x' with
        | nil => exact absurd h (splitOn_ne_nil 46 x')
        | cons _ _ => simp [goCmp]
      | cons b y' =>
        simp only [List.length_cons] at hx hy
        unfold Generated.Semver.comparePrerelease_loop1
        have hdx := length_takeWhile_le (· != 46) x'
        have hdy := length_takeWhile_le (· != 46) y'
        have hrx := (List.dropWhile_sublist (l := x') (· != 46)).length_le
        have hry := (List.dropWhile_sublist (l := y') (· != 46)).length_le
        have hR : goCmp (idents (a :: x')) (idents (b :: y')) =
            if x'.takeWhile (· != 46) = y'.takeWhile (· != 46)
            then goCmp (idents (x'.dropWhile (· != 46))) (idents (y'.dropWhile (· != 46)))
            else Semver.cmpIdent (x'.takeWhile (· != 46)) (y'.takeWhile (· != 46)) := by
          show goCmp (splitOn 46 x') (splitOn 46 y') = _
          rw [splitOn_eq_idents x', splitOn_eq_idents y']
          simp only [goCmp]
        rw [hR]
        simp only [sliceFrom_one_cons, bind_ok, nextIdent_ok x' f (by omega), nextIdent_ok y' f (by omega),
          Semver.nextIdent, isNum_ok _ f (show (x'.takeWhile (· != 46)).length + 1 ≤ f by omega),
          isNum_ok _ f (show (y'.takeWhile (· != 46)).length + 1 ≤ f by omega)]
        have hrec := ih (x'.dropWhile (· != 46)) (y'.dropWhile (· != 46)) (by omega) (by omega)
        generalize x'.takeWhile (· != 46) = dx at *
        generalize y'.takeWhile (· != 46) = dy at *
        generalize x'.dropWhile (· != 46) = x2 at *
        generalize y'.dropWhile (· != 46) = y2 at *
        by_cases hd : dx = dy
        · simp [hd, hrec]
        · simp only [hd, decide_false, Bool.not_false, if_true, if_false, Semver.cmpIdent, len_eq, strLt_eq]
          clear hR hrec ih
          by_cases hb : bytesLt dx dy = true <;> by_cases h1 : dx.length < dy.length <;>
            by_cases h2 : dx.length > dy.length <;>
            cases Semver.isNum dx <;> cases Semver.isNum dy <;> simp [hb, h1, h2, cmpCont] <;> omega

/-- `comparePrerelease` on ALL pairs of byte strings.  The first alternative (Go answers -1 where the model's
    `comparePrerelease` says 0) needs two different non-empty strings that agree after their first byte; it cannot
    occur for the prerelease fields of parsed versions (both are "" or begin with '-'), see `comparePrerelease_ok'`. -/
theorem comparePrerelease_ok (x y : Bytes) (fuel : Nat) (hf : max x.length y.length + 1 ≤ fuel) :
    Generated.Semver.comparePrerelease fuel x y =
      .ok (if x ≠ y ∧ x ≠ [] ∧ y ≠ [] ∧ x.drop 1 = y.drop 1 then -1 else Semver.comparePrerelease x y) := by
  rw [comparePrerelease_unfold]
  unfold Semver.comparePrerelease
  by_cases h1 : x = y
  · simp [h1]
  · by_cases h2 : x = []
    · subst h2
      have : y ≠ [] := fun h => h1 h.symm
      simp [this, Ne.symm this]
    · by_cases h3 : y = []
      · simp [h2, h3]
      · rw [comparePrerelease_loop1_spec fuel x y (by omega) (by omega)]
        obtain ⟨a, x', rfl⟩ := List.exists_cons_of_ne_nil h2
        obtain ⟨b, y', rfl⟩ := List.exists_cons_of_ne_nil h3
        simp only [h1, idents, goCmp_eq, List.drop_one, List.tail_cons]
        by_cases h4 : x' = y'
        · subst h4
          have hab : a ≠ b := fun h => h1 (by rw [h])
          simp [hab]
        · have : splitOn 46 x' ≠ splitOn 46 y' := fun h => h4 (splitOn_inj 46 x' y' h)
          simp [h4, this]

theorem comparePrerelease_ok' (x y : Bytes) (fuel : Nat) (hf : max x.length y.length + 1 ≤ fuel)
    (hx : Semver.PreOK x) (hy : Semver.PreOK y) :
    Generated.Semver.comparePrerelease fuel x y = .ok (Semver.comparePrerelease x y) := by
  rw [comparePrerelease_ok x y fuel hf]
  have : ¬ (x ≠ y ∧ x ≠ [] ∧ y ≠ [] ∧ x.drop 1 = y.drop 1) := by
    rintro ⟨h1, h2, h3, h4⟩
    rcases hx with rfl | ⟨s, rfl⟩
    · exact h2 rfl
    · rcases hy with rfl | ⟨t, rfl⟩
      · exact h3 rfl
      · simp at h4; exact h1 (by rw [h4])
  simp only [this, if_false]

theorem parse_pre_len {v : Bytes} {p : Semver.Parsed} (h : Semver.parse v = some p) :
    p.prerelease.length + 1 ≤ v.length := by
  have hd := Semver.parse_decomp h
  cases hd with
  | short1 maj nmaj => simp
  | short2 maj min nmaj nmin => simp
  | full maj min pat pre bld nmaj nmin npat hpre hbld => simp; omega

theorem Compare_ok (v w : Bytes) (fuel : Nat) (hf : 2 * max v.length w.length ≤ fuel) :
    Generated.Semver.Compare fuel v w = .ok (Semver.compare v w) := by
  unfold Generated.Semver.Compare Semver.compare
  rw [parse_ok v fuel (by omega), parse_ok w fuel (by omega)]
  cases hv : Semver.parse v with
  | none => cases hw : Semver.parse w <;> simp
  | some pv =>
    cases hw : Semver.parse w with
    | none => simp
    | some pw =>
      have h1 := parse_pre_len hv
      have h2 := parse_pre_len hw
      have hc := comparePrerelease_ok' pv.prerelease pw.prerelease fuel (by omega)
        (Semver.parse_preOK hv) (Semver.parse_preOK hw)
      simp only [bind_ok, Bool.not_true, Bool.and_self, Bool.false_eq_true, if_false, ofParsed, compareInt_eq, hc,
        pure_eq_ok]
      by_cases c1 : Semver.compareInt pv.major pw.major = 0
      · by_cases c2 : Semver.compareInt pv.minor pw.minor = 0
        · by_cases c3 : Semver.compareInt pv.patch pw.patch = 0
          · simp [c1, c2, c3]
          · simp [c1, c2, c3]
        · simp [c1, c2]
      · simp [c1]

theorem canonical_len (v : Bytes) : (Semver.canonical v).length ≤ v.length + 4 := by
  unfold Semver.canonical
  cases h : Semver.parse v with
  | none => simp
  | some p =>
    have hd := Semver.parse_decomp h
    simp only
    split
    · simp; omega
    · cases hd with
      | short1 maj nmaj => simp [B_dot00]
      | short2 maj min nmaj nmin => simp [B_dot0]; omega
      | full maj min pat pre bld nmaj nmin npat hpre hbld => simp

theorem Max_ok (v w : Bytes) (fuel : Nat) (hf : 2 * max v.length w.length + 8 ≤ fuel) :
    Generated.Semver.Max fuel v w = .ok (Semver.max v w) := by
  unfold Generated.Semver.Max Semver.max
  have h1 := canonical_len v
  have h2 := canonical_len w
  rw [Canonical_ok v fuel (by omega), Canonical_ok w fuel (by omega)]
  simp only [bind_ok, Compare_ok _ _ fuel (show 2 * max (Semver.canonical v).length (Semver.canonical w).length ≤ fuel by omega)]
  by_cases h : Semver.compare (Semver.canonical v) (Semver.canonical w) > 0 <;> simp [h]

end ModVerif.TieFnSemver
