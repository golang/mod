/-
  General facts about the Go-to-Lean run-time vocabulary (`Basic/GoRt.lean`, `GoRtUtf8.lean`, `GoRtNote.lean`) used by the
  tie proofs of sumdb/tlog/note.go and sumdb/note/note.go (Proofs/TieFnTlogNote*.lean, Proofs/TieFnNote*.lean):
  `%d` of any integer, `strconv.ParseInt(s, 10, 64)`, `strings.IndexByte`, `utf8.DecodeRune` on a non-empty string,
  `strings.IndexFunc` as a statement about the rune list, prefix tests.
-/
import ModVerif.Basic.GoRt
import ModVerif.Basic.GoRtUtf8
import ModVerif.Basic.GoRtNote
import ModVerif.Basic.Decimal
import ModVerif.Proofs.GoRtLemmas
import ModVerif.Proofs.GoRtLemmasStr
import ModVerif.Proofs.GoRtLemmasTile
import ModVerif.Proofs.GenPropsUtil
namespace ModVerif.GoRtNote
open ModVerif ModVerif.GoRt

/-- `strconv.Itoa` / `%d` / `strconv.FormatInt(·, 10)` of any integer -/
theorem itoa_eq (x : Int) : itoa x = Decimal.formatInt x := by
  cases x with
  | ofNat n => exact GoRtTile.itoa_natCast n
  | negSucc n =>
    have h : Int.negSucc n < 0 := Int.negSucc_lt_zero n
    have e : (-Int.negSucc n).toNat = n + 1 := by omega
    simp only [itoa, h, ↓reduceIte, e, GoRtTile.natDigits_eq, Decimal.formatInt]

theorem formatInt_ten (x : Int) : formatInt x 10 = Decimal.formatInt x := by
  simp only [formatInt, ↓reduceIte, itoa_eq]

theorem parseInt_ten (s : Bytes) : parseInt s 10 64 = atoi s := by
  simp [parseInt]

theorem parseInt_some (s : Bytes) (v : Int) (h : Decimal.parseInt64 s = some v) : parseInt s 10 64 = (v, none) := by
  rw [parseInt_ten]; exact GoRtTile.atoi_some s v h

theorem parseInt_none (s : Bytes) (h : Decimal.parseInt64 s = none) : (parseInt s 10 64).2.isNone = false := by
  rw [parseInt_ten]; exact GoRtTile.atoi_none s h

/-! ### strings.IndexByte -/

/-- `strings.IndexByte(s, c)` with the byte given as the integer literal the generated code passes -/
theorem indexByte_eq (s : Bytes) (n : Int) (c : UInt8) (hn : mkByte n = c) :
    indexByte s n = if c ∈ s then (((s.takeWhile (· != c)).length : Nat) : Int) else -1 := by
  simp [indexByte, hn, GoRtStr.indexByteAux_eq]

theorem mem_of_dropWhile_cons {c x : UInt8} {s rest : Bytes} (h : s.dropWhile (· != c) = x :: rest) : x = c ∧ c ∈ s := by
  induction s with
  | nil => simp at h
  | cons a t ih =>
    by_cases ha : a = c
    · subst ha; simp at h; exact ⟨h.1.symm, by simp⟩
    · have : (a != c) = true := by simpa using ha
      simp only [List.dropWhile_cons, this, if_true] at h
      obtain ⟨h1, h2⟩ := ih h
      exact ⟨h1, by simp [h2]⟩

theorem dropWhile_nil_not_mem {c : UInt8} {s : Bytes} (h : s.dropWhile (· != c) = []) : c ∉ s := by
  induction s with
  | nil => simp
  | cons a t ih =>
    by_cases ha : a = c
    · subst ha; simp at h
    · have : (a != c) = true := by simpa using ha
      simp only [List.dropWhile_cons, this, if_true] at h
      have := ih h
      simp only [List.mem_cons, not_or]; exact ⟨fun e => ha e.symm, this⟩

theorem span_loop_eq {α : Type} (p : α → Bool) : ∀ (l acc : List α),
    List.span.loop p l acc = (acc.reverse ++ l.takeWhile p, l.dropWhile p)
  | [], acc => by simp [List.span.loop]
  | a :: l, acc => by
    by_cases h : p a = true
    · simp [List.span.loop, h, span_loop_eq p l (a :: acc)]
    · simp [List.span.loop, h]

theorem span_eq {α : Type} (p : α → Bool) (l : List α) : l.span p = (l.takeWhile p, l.dropWhile p) := by
  simp [List.span, span_loop_eq]

theorem isPrefixOfB_nil_right (p : Bytes) : isPrefixOfB p [] = p.isEmpty := by
  cases p <;> rfl

/-! ### utf8.DecodeRune on a non-empty string -/

theorem decodeRune_cons (b : UInt8) (rest : Bytes) :
    decodeRune (b :: rest) =
      (((Utf8.decodeRune (b :: rest)).1 : Int), ((Utf8.decodeRune (b :: rest)).2 : Int)) := by
  simp [decodeRune]

theorem decodeRune_of_ne_nil (s : Bytes) (hs : s ≠ []) :
    decodeRune s = (((Utf8.decodeRune s).1 : Int), ((Utf8.decodeRune s).2 : Int)) := by
  cases s with
  | nil => exact absurd rfl hs
  | cons b rest => exact decodeRune_cons b rest

theorem decode_width_one {s : Bytes} {r : Nat} (h : Utf8.decode s = some (r, 1)) : r < 0x80 := by
  match s, h with
  | b :: t, h => rcases Utf8.decode_cases h with ⟨hb, rfl, -⟩ | ⟨-, -, h2, -⟩ <;> omega

end ModVerif.GoRtNote
