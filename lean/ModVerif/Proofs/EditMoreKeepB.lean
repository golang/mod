/-
  Every primitive tree operation of read.go / rule.go leaves the lines it does not name literally as they are (`KeepsEq`):
  removeDups, the sort, addLine (off its four forms, Proofs/EditAddLine), insertAt, appendToBlock, moveExisting;
  hence so does a program of tree primitives (`runT_keepsEq`, Proofs/EditTreeProg).  Cleanup hands the comments of a
  collapsed one-line block to its line (`viewX_cleanupStmts`).
-/
import ModVerif.Proofs.EditMoreKeepA
import ModVerif.Proofs.EditMoreSepH
import ModVerif.Proofs.EditTreeProg
import ModVerif.Proofs.EditAddLine
namespace ModVerif.Modfile.Edit
open ModVerif ModVerif.Modfile

theorem keepsEq_dropKilled (kill : List Nat) (stmts : List Expr) : KeepsEq kill stmts (dropKilled kill stmts) := by
  intro x hx hk
  obtain ⟨p, hp, rfl⟩ := List.mem_map.1 hx
  exact List.mem_map.2 ⟨p, by rw [live_dropKilled]; exact List.mem_filter.2 ⟨hp, by simpa [mkX] using hk⟩, rfl⟩

theorem keepsEq_sortStmts (sem work : Bool) (stmts : List Expr) : KeepsEq [] stmts (sortStmts sem work stmts) :=
  fun _ hx _ => (((loc_sortStmts sem work stmts).filter _).map _).symm.subset hx

theorem keepsEq_insertAt (stmts : List Expr) (i : Nat) (y : Expr) : KeepsEq [] stmts (insertAt stmts i y) := by
  unfold insertAt
  intro v hv _
  rw [viewX_append, viewX_cons]
  rw [← List.take_append_drop i stmts, viewX_append] at hv
  rcases List.mem_append.1 hv with h | h
  · exact List.mem_append_left _ h
  · exact List.mem_append_right _ (List.mem_append_right _ h)

theorem keepsEq_append_stmt (stmts : List Expr) (y : Expr) : KeepsEq [] stmts (stmts ++ [y]) := by
  intro v hv _
  rw [viewX_append]; exact List.mem_append_left _ hv

theorem keepsEq_appendToBlock (stmts : List Expr) (idx : Nat) (l : Line) : KeepsEq [] stmts (appendToBlock stmts idx l) := by
  unfold appendToBlock
  cases hx : stmts[idx]? with
  | none => exact KeepsEq.refl _ _
  | some x =>
    cases x with
    | lineBlock b =>
      simp only
      rw [set_split _ hx]
      conv => lhs; rw [(split_at hx).1]
      refine KeepsEq.append (KeepsEq.refl _ _) (KeepsEq.cons ?_ (KeepsEq.refl _ _))
      exact keepsEq_subset_block b _ (fun l' hl' _ _ => List.mem_append_left _ hl')
    | line _ => exact KeepsEq.refl _ _
    | commentBlock _ => exact KeepsEq.refl _ _
    | lparen _ => exact KeepsEq.refl _ _
    | rparen _ => exact KeepsEq.refl _ _

theorem keepsEq_moveExisting (syn : FileSyntax) (i idx next : Nat) : KeepsEq [i] syn.stmts (moveExisting syn i idx next).stmts := by
  unfold moveExisting
  cases syn.findLine i with
  | none => exact KeepsEq.refl _ _
  | some old =>
    simp only
    have h1 := keepsEq_updateLine syn i (fun l => { l with token := [] })
    have h2 := keepsEq_appendToBlock (syn.updateLine i fun l => { l with token := [] }).stmts idx
      { old with id := next, token := (if (!old.inBlock && !old.token.isEmpty && headIs old.token (B "require")) = true then old.token.drop 1 else old.token), inBlock := true }
    exact (h1.trans h2).mono (by simp)


theorem Grown.keepsEq {toks : List Bytes} {new : Nat} {x : Expr} {g : List Expr} (hg : Grown toks new x g) (h2 : View2 [x]) :
    KeepsEq [] [x] g := by
  cases hg with
  | after => exact KeepsEq.cons (KeepsEq.refl _ _) (KeepsEq.add_head (KeepsEq.refl _ _))
  | conv l hl hv =>
    intro v hv _
    rw [viewX_line] at hv
    rcases hlt : l.token with _ | ⟨a, _ | ⟨a2, as⟩⟩
    · simp [hlt] at hl
    · have := h2 ⟨l.id, l.token, l.comments.suffix⟩ (by simp [view, loc, locStmt, liveLoc, mkV, hlt])
      simp [hlt] at this
    · rw [hlt] at hv
      simp only [List.isEmpty_cons, Bool.false_eq_true, if_false, List.mem_singleton] at hv
      subst hv
      rw [convBlock, viewX_block]
      simp [hlt, mkLine]
  | block b l1 l2 hb hv =>
    refine keepsEq_subset_block b _ (fun l hl _ _ => ?_)
    rw [hb] at hl
    rcases List.mem_append.1 hl with h | h
    · exact List.mem_append_left _ h
    · exact List.mem_append_right _ (List.mem_cons_of_mem _ h)

theorem View2.mid {pre post : List Expr} {x : Expr} (h : View2 (pre ++ x :: post)) : View2 [x] :=
  fun v hv => h v (by rw [view_append, view_cons]; exact List.mem_append_right _ (List.mem_append_left _ hv))

theorem keepsEq_grown {toks : List Bytes} {new : Nat} {stmts r : List Expr} (h2 : View2 stmts)
    (h : r = stmts ++ [.line (mkLine new toks false)] ∨
      ∃ pre x post g, stmts = pre ++ x :: post ∧ Grown toks new x g ∧ r = pre ++ g ++ post) : KeepsEq [] stmts r := by
  rcases h with rfl | ⟨pre, x, post, g, rfl, hg, rfl⟩
  · exact keepsEq_append_stmt _ _
  · rw [List.append_assoc]
    exact (KeepsEq.refl _ pre).append (KeepsEq.append (a := [x]) (hg.keepsEq h2.mid) (KeepsEq.refl _ post))

theorem keepsEq_addLine (fs : FileSyntax) (hint : Option Nat) (tokens : List Bytes) (new : Nat) (h2 : View2 fs.stmts) :
    KeepsEq [] fs.stmts (addLine fs hint tokens new).stmts :=
  keepsEq_grown h2 (addLine_grown fs hint tokens new)

theorem keepsEq_addLinePtr (fs : FileSyntax) (hint : Option Nat) (tokens : List Bytes) (new : Nat) (h2 : View2 fs.stmts) :
    KeepsEq [] fs.stmts (addLinePtr fs hint tokens new).stmts :=
  keepsEq_grown h2 (addLinePtr_grown fs hint tokens new)

theorem Cleaned.viewX {st : Expr} {g : List Expr} (hc : Cleaned st g) (x : XLine) (hx : x ∈ viewX [st]) :
    x ∈ viewX g ∨ ∃ b, st = Expr.lineBlock b ∧
      (⟨x.id, x.toks, b.comments.before ++ x.before, x.suffix ++ b.comments.suffix⟩ : XLine) ∈ viewX g := by
  cases hc with
  | dead l h => rw [viewX_line, if_pos h] at hx; cases hx
  | live | other => exact Or.inl hx
  | empty b h => rw [viewX_block, h] at hx; cases hx
  | collapse b l h hr =>
    rw [viewX_block, h] at hx
    simp only [List.map_cons, List.map_nil, List.mem_singleton] at hx
    subst hx
    have hl : l.token.isEmpty = false := by
      have : l ∈ b.lines.filter (!·.token.isEmpty) := by rw [h]; exact List.mem_singleton.2 rfl
      simpa using (List.mem_filter.1 this).2
    have hne : (b.token ++ l.token).isEmpty = false := by
      cases hlt : l.token with
      | nil => simp [hlt] at hl
      | cons _ _ => simp
    exact Or.inr ⟨b, rfl, by rw [viewX_line]; simp [hne]⟩
  | block b h => left; rw [viewX_block] at hx ⊢; simpa [List.filter_filter] using hx

theorem viewX_cleanupStmts : ∀ (stmts : List Expr) (x : XLine), x ∈ viewX stmts →
    x ∈ viewX (cleanupStmts stmts) ∨ ∃ b, Expr.lineBlock b ∈ stmts ∧
      (⟨x.id, x.toks, b.comments.before ++ x.before, x.suffix ++ b.comments.suffix⟩ : XLine) ∈ viewX (cleanupStmts stmts)
  | st :: xs, x, hx => by
    rw [viewX_cons] at hx
    rw [cleanupStmts_cons, viewX_append]
    rcases List.mem_append.1 hx with h | h
    · rcases (cleanupStmts_one st).viewX x h with h | ⟨b, rfl, h⟩
      · exact Or.inl (List.mem_append_left _ h)
      · exact Or.inr ⟨b, List.mem_cons_self, List.mem_append_left _ h⟩
    · rcases viewX_cleanupStmts xs x h with h | ⟨b, hb, h⟩
      · exact Or.inl (List.mem_append_right _ h)
      · exact Or.inr ⟨b, List.mem_cons_of_mem _ hb, List.mem_append_right _ h⟩

theorem keeps_cleanupStmts (stmts : List Expr) : Keeps [] stmts (cleanupStmts stmts) := by
  intro x hx _
  rcases viewX_cleanupStmts stmts x hx with h | ⟨b, _, h⟩
  · exact ⟨x, h, x.le_refl⟩
  · exact ⟨_, h, rfl, rfl, List.sublist_append_right _ _, List.sublist_append_left _ _⟩

theorem keepsS_cleanupStmts (stmts : List Expr) (hnb : ∀ b, Expr.lineBlock b ∈ stmts → b.comments.suffix = []) :
    KeepsS [] stmts (cleanupStmts stmts) := by
  intro x hx _
  rcases viewX_cleanupStmts stmts x hx with h | ⟨b, hb, h⟩
  · exact ⟨x, h, x.leS_refl⟩
  · exact ⟨_, h, rfl, rfl, List.sublist_append_right _ _, by simp [hnb b hb]⟩

/-! ### a program of tree primitives (Proofs/EditTreeProg) keeps every line it does not touch -/

def TPrim.touched : TPrim → List Nat
  | .set id _ | .remove id | .mapLine id _ => [id]
  | .dedup kill => kill
  | _ => []

/-- what the primitive needs of the tree it runs on; Cleanup is left out: it changes a line it keeps (`viewX_cleanupStmts`) -/
def TPrim.Pre : TPrim → FileSyntax × Nat → Prop
  | .add _ _, s | .addPtr _ _, s => View2 s.1.stmts
  | .cleanup, _ => False
  | _, _ => True

theorem TPrim.keepsEq (p : TPrim) (s : FileSyntax × Nat) (h : p.Pre s) : KeepsEq p.touched s.1.stmts (p.run s).1.stmts := by
  cases p with
  | set id toks => exact keepsEq_updateTokens _ _ _
  | remove id => exact keepsEq_markRemoved _ _
  | mapLine id g => exact keepsEq_updateLine _ _ _
  | add hint toks => exact keepsEq_addLine _ _ _ _ h
  | addPtr hint toks => exact keepsEq_addLinePtr _ _ _ _ h
  | insertLine i toks => exact keepsEq_insertAt _ _ _
  | dedup kill => exact keepsEq_dropKilled _ _
  | sort sem work => exact keepsEq_sortStmts _ _ _
  | cleanup => exact h.elim

def PreAll : List TPrim → FileSyntax × Nat → Prop
  | [], _ => True
  | p :: ps, s => p.Pre s ∧ PreAll ps (p.run s)

theorem runT_keepsEq : ∀ (ps : List TPrim) (s : FileSyntax × Nat), PreAll ps s →
    KeepsEq (ps.flatMap TPrim.touched) s.1.stmts (runT ps s).1.stmts
  | [], s, _ => KeepsEq.refl _ _
  | p :: ps, s, h => by
    simp only [List.flatMap_cons, runT_cons]
    exact (p.keepsEq s h.1).trans (runT_keepsEq ps _ h.2)

theorem runT_keepsEq_below (n : Nat) (ps : List TPrim) (s : FileSyntax × Nat) (hpre : PreAll ps s) {P : Nat → Prop}
    (hsrc : ∀ i ∈ ps.flatMap TPrim.touched, n ≤ i ∨ P i) :
    ∃ S : List Nat, (∀ x ∈ viewX s.1.stmts, x.id < n → x.id ∉ S → x ∈ viewX (runT ps s).1.stmts) ∧ ∀ i ∈ S, P i := by
  refine ⟨(ps.flatMap TPrim.touched).filter (· < n), fun x hx hlt hn => ?_, fun i hi => ?_⟩
  · exact runT_keepsEq ps s hpre x hx fun hm => hn (List.mem_filter.2 ⟨hm, by simpa using hlt⟩)
  · rcases List.mem_filter.1 hi with ⟨hm, hlt⟩
    exact (hsrc i hm).resolve_left (Nat.not_le.2 (by simpa using hlt))

theorem preAll_removes (ids : List Nat) : ∀ s, PreAll (ids.map .remove) s := by
  induction ids with
  | nil => intro _; trivial
  | cons i ids ih => intro s; exact ⟨trivial, ih _⟩

theorem touched_removes (ids : List Nat) : (ids.map TPrim.remove).flatMap TPrim.touched = ids := by
  induction ids with
  | nil => rfl
  | cons i ids ih => simp only [List.map_cons, List.flatMap_cons, TPrim.touched, ih]; rfl

/-- the hypothesis of `keepsS_cleanupStmts` is needed: the tree `require ( // c` + one line `a v1 // s` + `)`, i.e. a block that
    carries an end-of-line comment of its own, is collapsed by Cleanup into the line `require a v1 // s // c` — the line's
    end-of-line comments grow.  (A strictly parsed file never attaches a comment to a block that way except for
    `verb () // c`: finding `C15_violated_empty_block_suffix_comment`; the invariant `TreeWF.noBlockSuffix` excludes it.) -/
def growTree : List Expr :=
  [.lineBlock { token := [B "require"], comments := { suffix := [{ token := B "// c", suffix := true }] },
                lines := [{ id := 1, token := [B "a", B "v1"], inBlock := true,
                            comments := { suffix := [{ token := B "// s", suffix := true }] } }] }]

theorem keepsS_cleanupStmts_needs_noBlockSuffix : ¬ KeepsS [] growTree (cleanupStmts growTree) := by
  intro h
  have hx : (⟨1, [B "require", B "a", B "v1"], [], [{ token := B "// s", suffix := true }]⟩ : XLine) ∈ viewX growTree := by
    simp [growTree, viewX, loc, locStmt, liveLoc, mkX]
  rcases h _ hx (by simp) with ⟨x', hx', _, _, _, hs⟩
  have hv : viewX (cleanupStmts growTree) =
      [⟨1, [B "require", B "a", B "v1"], [], [{ token := B "// s", suffix := true }, { token := B "// c", suffix := true }]⟩] := by
    simp [growTree, cleanupStmts, viewX, loc, locStmt, liveLoc, mkX]
  rw [hv, List.mem_singleton] at hx'
  subst hx'
  simp at hs

end ModVerif.Modfile.Edit
