/-
  Every go.mod operation preserves "`setIndirect` achieves what it is asked for on every line of
  the tree" (`MarkersSettable`), hence `NoNestedIndirectMarker` holds along a whole session once it holds (in this
  form) for the starting file: the state-dependent marker clause of `RunValid` can be dropped (`RunValidLive`).

  `MarkersSettable stmts`: the end-of-line comments of EVERY `Line` of the tree (removed lines included) are
  `MarkerSettable`.  It is a purely syntactic condition; the tree primitives preserve it by structural arguments
  (no id bookkeeping): token updates, removals, new lines (no comments), Cleanup (a collapsed one-line block hands
  its end-of-line comments to the line: none, `TreeWF.noBlockSuffix`), SortBlocks, the block surgery of
  SetRequireSeparateIndirect keep the comments; `setIndirect` rewrites them into settable ones
  (`markerSettable_sfxAfter`, Proofs/EditMarkerStr.lean).  The operations other than the bulk setters and Cleanup are handled
  through their tree programs (Proofs/EditTreeProg.lean): `TPrim.good`, `prog_goodP`.
-/
import ModVerif.Proofs.EditMarkerStr
import ModVerif.Proofs.EditMoreSepG
import ModVerif.Proofs.EditMoreNoPanic
import ModVerif.Proofs.EditTreeProg
import ModVerif.Proofs.EditAddLine
namespace ModVerif.Modfile.Edit
open ModVerif ModVerif.Modfile

def GoodLine (l : Line) : Prop := MarkerSettable l.comments.suffix

instance (l : Line) : Decidable (GoodLine l) := inferInstanceAs (Decidable (MarkerSettable l.comments.suffix))

def stmtLines : Expr → List Line
  | .line l => [l]
  | .lineBlock b => b.lines
  | _ => []

/-- on every line of the tree `setIndirect` achieves what it is asked for: no end-of-line comment whose text after
    `indirect;` is again an indirect marker (the recorded finding `C16_violated_indirect_marker_survives`) -/
def MarkersSettable (stmts : List Expr) : Prop := ∀ x ∈ stmts, ∀ l ∈ stmtLines x, GoodLine l

instance (stmts : List Expr) : Decidable (MarkersSettable stmts) :=
  inferInstanceAs (Decidable (∀ x ∈ stmts, ∀ l ∈ stmtLines x, GoodLine l))

theorem goodLine_of_suffix_nil {l : Line} (h : l.comments.suffix = []) : GoodLine l := by
  unfold GoodLine; rw [h]; exact markerSettable_nil

theorem goodLine_mkLine (id : Nat) (toks : List Bytes) (b : Bool) : GoodLine (mkLine id toks b) :=
  goodLine_of_suffix_nil rfl

theorem goodLine_of_suffix_eq {l l' : Line} (h : l'.comments.suffix = l.comments.suffix) (hl : GoodLine l) : GoodLine l' := by
  unfold GoodLine at hl ⊢; rw [h]; exact hl

theorem MarkersSettable.nil : MarkersSettable [] := by intro x hx; cases hx

theorem markersSettable_cons {x : Expr} {xs : List Expr} :
    MarkersSettable (x :: xs) ↔ (∀ l ∈ stmtLines x, GoodLine l) ∧ MarkersSettable xs := by
  unfold MarkersSettable
  simp only [List.mem_cons, forall_eq_or_imp]

theorem markersSettable_append {xs ys : List Expr} :
    MarkersSettable (xs ++ ys) ↔ MarkersSettable xs ∧ MarkersSettable ys := by
  unfold MarkersSettable
  simp only [List.mem_append]
  constructor
  · intro h; exact ⟨fun x hx => h x (Or.inl hx), fun x hx => h x (Or.inr hx)⟩
  · rintro ⟨h1, h2⟩ x (hx | hx)
    · exact h1 x hx
    · exact h2 x hx

theorem MarkersSettable.of_subset {xs ys : List Expr} (h : MarkersSettable ys) (hs : ∀ x ∈ xs, x ∈ ys) : MarkersSettable xs :=
  fun x hx => h x (hs x hx)

theorem mem_allLines {fs : FileSyntax} {l : Line} : l ∈ fs.allLines ↔ ∃ x ∈ fs.stmts, l ∈ stmtLines x := by
  unfold FileSyntax.allLines
  rw [List.mem_flatMap]
  constructor
  · rintro ⟨x, hx, hl⟩
    refine ⟨x, hx, ?_⟩
    cases x <;> simp only [stmtLines] at hl ⊢ <;> exact hl
  · rintro ⟨x, hx, hl⟩
    refine ⟨x, hx, ?_⟩
    cases x <;> simp only [stmtLines] at hl ⊢ <;> exact hl

theorem MarkersSettable.allLines {fs : FileSyntax} (h : MarkersSettable fs.stmts) : ∀ l ∈ fs.allLines, GoodLine l := by
  intro l hl
  rcases mem_allLines.1 hl with ⟨x, hx, hlx⟩
  exact h x hx l hlx

theorem MarkersSettable.loc {stmts : List Expr} (h : MarkersSettable stmts) : ∀ p ∈ loc stmts, GoodLine p.2 := by
  intro p hp
  unfold Edit.loc at hp
  rcases List.mem_flatMap.1 hp with ⟨x, hx, hpx⟩
  cases x with
  | line l =>
    simp only [locStmt, List.mem_singleton] at hpx
    subst hpx
    exact h _ hx l (by simp [stmtLines])
  | lineBlock b =>
    simp only [locStmt, List.mem_map] at hpx
    rcases hpx with ⟨l, hl, rfl⟩
    exact h _ hx l (by simpa [stmtLines] using hl)
  | commentBlock c => simp [locStmt] at hpx
  | lparen c => simp [locStmt] at hpx
  | rparen c => simp [locStmt] at hpx

theorem MarkersSettable.noNested {e : EFile} (h : MarkersSettable e.f.syn.stmts) : NoNestedIndirectMarker e := by
  intro r _ v hv _
  rcases mem_view.1 hv with ⟨p, hp, _, rfl⟩
  exact h.loc p hp

theorem mem_updateLineIn (id : Nat) (g : Line → Line) : ∀ (ls : List Line) (l' : Line), l' ∈ updateLineIn id g ls →
    l' ∈ ls ∨ ∃ l ∈ ls, l' = g l := by
  intro ls
  induction ls with
  | nil => intro l' h; simp [updateLineIn] at h
  | cons a t ih =>
    intro l' h
    unfold updateLineIn at h
    split at h
    · rcases List.mem_cons.1 h with rfl | h
      · exact Or.inr ⟨a, List.mem_cons_self, rfl⟩
      · exact Or.inl (List.mem_cons_of_mem _ h)
    · rcases List.mem_cons.1 h with rfl | h
      · exact Or.inl List.mem_cons_self
      · rcases ih l' h with h | ⟨l, hl, rfl⟩
        · exact Or.inl (List.mem_cons_of_mem _ h)
        · exact Or.inr ⟨l, List.mem_cons_of_mem _ hl, rfl⟩

theorem good_updateLine (fs : FileSyntax) (id : Nat) (g : Line → Line) (hg : ∀ l, GoodLine l → GoodLine (g l))
    (h : MarkersSettable fs.stmts) : MarkersSettable (fs.updateLine id g).stmts := by
  intro x hx l hl
  unfold FileSyntax.updateLine at hx
  simp only [List.mem_map] at hx
  rcases hx with ⟨y, hy, rfl⟩
  cases y with
  | line l0 =>
    simp only at hl
    split at hl
    · simp only [stmtLines, List.mem_singleton] at hl
      subst hl
      exact hg _ (h _ hy l0 (by simp [stmtLines]))
    · simp only [stmtLines, List.mem_singleton] at hl
      subst hl
      exact h _ hy l (by simp [stmtLines])
  | lineBlock b =>
    simp only [stmtLines] at hl
    rcases mem_updateLineIn id g b.lines l hl with hl | ⟨l0, hl0, rfl⟩
    · exact h _ hy l (by simpa [stmtLines] using hl)
    · exact hg _ (h _ hy l0 (by simpa [stmtLines] using hl0))
  | commentBlock c => simp [stmtLines] at hl
  | lparen c => simp [stmtLines] at hl
  | rparen c => simp [stmtLines] at hl

theorem good_updateTokens (fs : FileSyntax) (id : Nat) (toks : List Bytes) (h : MarkersSettable fs.stmts) :
    MarkersSettable (updateLine fs id toks).stmts :=
  good_updateLine fs id _ (fun _ hl => goodLine_of_suffix_eq rfl hl) h

theorem good_markRemoved (fs : FileSyntax) (id : Nat) (h : MarkersSettable fs.stmts) :
    MarkersSettable (markRemoved fs id).stmts :=
  good_updateLine fs id _ (fun _ _ => goodLine_of_suffix_nil rfl) h

theorem goodLine_setIndirectLine (b : Bool) (l : Line) (h : GoodLine l) : GoodLine (setIndirectLine b l) := by
  unfold GoodLine at h ⊢
  rw [(setIndirectLine_props b l).2.2.2]
  exact markerSettable_sfxAfter b _ h

theorem goodLine_setVersionLine (v : Bytes) (l : Line) (h : GoodLine l) : GoodLine (setVersionLine v l) :=
  goodLine_of_suffix_eq (setVersionLine_props v l).2.2 h

theorem good_setReq (fs : FileSyntax) (id : Nat) (v : Bytes) (b : Bool) (h : MarkersSettable fs.stmts) :
    MarkersSettable (fs.updateLine id fun l => setIndirectLine b (setVersionLine v l)).stmts :=
  good_updateLine fs id _ (fun l hl => goodLine_setIndirectLine b _ (goodLine_setVersionLine v l hl)) h

theorem good_newLine (new : Nat) (toks : List Bytes) (b : Bool) : ∀ l ∈ stmtLines (.line (mkLine new toks b)), GoodLine l := by
  intro l hl
  simp only [stmtLines, List.mem_singleton] at hl
  subst hl; exact goodLine_mkLine _ _ _

theorem Grown.good {toks : List Bytes} {new : Nat} {x : Expr} {g : List Expr} (hg : Grown toks new x g)
    (hx : ∀ l ∈ stmtLines x, GoodLine l) : MarkersSettable g := by
  cases hg with
  | after => exact markersSettable_cons.2 ⟨hx, markersSettable_cons.2 ⟨good_newLine _ _ _, .nil⟩⟩
  | conv l0 =>
    refine markersSettable_cons.2 ⟨fun l hl => ?_, .nil⟩
    simp only [convBlock, stmtLines, List.mem_cons, List.mem_nil_iff, or_false] at hl
    rcases hl with rfl | rfl
    · exact goodLine_of_suffix_eq rfl (hx l0 (by simp [stmtLines]))
    · exact goodLine_mkLine _ _ _
  | block b l1 l2 hb =>
    refine markersSettable_cons.2 ⟨fun l hl => ?_, .nil⟩
    simp only [stmtLines, List.mem_append, List.mem_cons] at hl
    rcases hl with hl | rfl | hl
    · exact hx l (by simp [stmtLines, hb, hl])
    · exact goodLine_mkLine _ _ _
    · exact hx l (by simp [stmtLines, hb, hl])

theorem good_of_grown {stmts r : List Expr} {toks : List Bytes} {new : Nat}
    (hr : r = stmts ++ [.line (mkLine new toks false)] ∨
      ∃ pre x post g, stmts = pre ++ x :: post ∧ Grown toks new x g ∧ r = pre ++ g ++ post)
    (h : MarkersSettable stmts) : MarkersSettable r := by
  rcases hr with rfl | ⟨pre, x, post, g, rfl, hg, rfl⟩
  · exact markersSettable_append.2 ⟨h, markersSettable_cons.2 ⟨good_newLine _ _ _, .nil⟩⟩
  · obtain ⟨h1, h2⟩ := markersSettable_append.1 h
    obtain ⟨hx, h3⟩ := markersSettable_cons.1 h2
    exact markersSettable_append.2 ⟨markersSettable_append.2 ⟨h1, hg.good hx⟩, h3⟩

theorem good_addLine (fs : FileSyntax) (hint : Option Nat) (toks : List Bytes) (new : Nat) (h : MarkersSettable fs.stmts) :
    MarkersSettable (addLine fs hint toks new).stmts := good_of_grown (addLine_grown fs hint toks new) h

theorem good_addLinePtr (fs : FileSyntax) (hint : Option Nat) (toks : List Bytes) (new : Nat) (h : MarkersSettable fs.stmts) :
    MarkersSettable (addLinePtr fs hint toks new).stmts := good_of_grown (addLinePtr_grown fs hint toks new) h

/-- a collapsed block hands its end-of-line comments to its one line: none (`TreeWF.noBlockSuffix`) -/
theorem Cleaned.good {x : Expr} {g : List Expr} (hc : Cleaned x g) (hb : ∀ b, x = .lineBlock b → b.comments.suffix = [])
    (hx : ∀ l ∈ stmtLines x, GoodLine l) : MarkersSettable g := by
  cases hc with
  | dead | empty => exact .nil
  | live | other => exact markersSettable_cons.2 ⟨hx, .nil⟩
  | collapse b l h =>
    refine markersSettable_cons.2 ⟨fun l' hl' => ?_, .nil⟩
    simp only [stmtLines, List.mem_singleton] at hl'
    subst hl'
    have hl : GoodLine l := hx l (by
      have : l ∈ b.lines.filter (!·.token.isEmpty) := by rw [h]; exact List.mem_singleton.2 rfl
      simpa [stmtLines] using (List.mem_filter.1 this).1)
    unfold GoodLine at hl ⊢
    simpa only [hb b rfl, List.append_nil] using hl
  | block b =>
    refine markersSettable_cons.2 ⟨fun l hl => hx l ?_, .nil⟩
    simp only [stmtLines] at hl ⊢
    exact (List.mem_filter.1 hl).1

theorem good_cleanupStmts (stmts : List Expr) (hb : ∀ b, Expr.lineBlock b ∈ stmts → b.comments.suffix = [])
    (h : MarkersSettable stmts) : MarkersSettable (cleanupStmts stmts) := by
  intro y hy
  obtain ⟨x, hx, g, hc, hyg⟩ := mem_cleanupStmts hy
  exact hc.good (fun b e => hb b (e ▸ hx)) (h x hx) y hyg

theorem good_sortStmts (sem work : Bool) (stmts : List Expr) (h : MarkersSettable stmts) :
    MarkersSettable (sortStmts sem work stmts) := by
  intro x hx l hl
  unfold sortStmts at hx
  simp only [List.mem_map] at hx
  rcases hx with ⟨y, hy, rfl⟩
  cases y with
  | lineBlock b =>
    simp only [stmtLines] at hl
    exact h _ hy l (by simpa [stmtLines] using (stableSort_perm _ b.lines).subset hl)
  | line l0 => exact h _ hy l hl
  | commentBlock c => exact h _ hy l hl
  | lparen c => exact h _ hy l hl
  | rparen c => exact h _ hy l hl

theorem good_dropKilled (kill : List Nat) (stmts : List Expr) (h : MarkersSettable stmts) :
    MarkersSettable (dropKilled kill stmts) := by
  intro y hy l hl
  rw [dropKilled_flatMap] at hy
  obtain ⟨x, hx, hyx⟩ := List.mem_flatMap.1 hy
  rcases mem_dropKilled_one hyx with rfl | ⟨b, rfl, rfl⟩
  · exact h _ hx l hl
  · exact h _ hx l (by simp only [stmtLines] at hl ⊢; exact (List.mem_filter.1 hl).1)

theorem good_sortBlocks (e : EFile) (h : MarkersSettable e.f.syn.stmts) : MarkersSettable (sortBlocks e).f.syn.stmts := by
  rw [sortBlocks_eq_sem]
  exact good_sortStmts _ false _ (good_dropKilled _ _ h)

theorem good_cleanup (e : EFile) (hi : Inv e) (h : MarkersSettable e.f.syn.stmts) : MarkersSettable (cleanup e).f.syn.stmts :=
  good_cleanupStmts _ hi.tree.noBlockSuffix h

theorem good_insertAt (stmts : List Expr) (i : Nat) (y : Expr) (hy : ∀ l ∈ stmtLines y, GoodLine l)
    (h : MarkersSettable stmts) : MarkersSettable (insertAt stmts i y) := by
  unfold insertAt
  rw [markersSettable_append, markersSettable_cons]
  exact ⟨h.of_subset (fun x hx => List.mem_of_mem_take hx), hy, h.of_subset (fun x hx => List.mem_of_mem_drop hx)⟩

theorem good_emptyRequireBlock : ∀ l ∈ stmtLines emptyRequireBlock, GoodLine l := by
  intro l hl; simp [emptyRequireBlock, stmtLines] at hl

theorem good_set (stmts : List Expr) (i : Nat) (y : Expr) (hy : ∀ l ∈ stmtLines y, GoodLine l)
    (h : MarkersSettable stmts) : MarkersSettable (stmts.set i y) := by
  intro x hx
  rcases List.mem_or_eq_of_mem_set hx with hx | rfl
  · exact h x hx
  · exact hy

theorem good_ensureBlock (stmts s : List Expr) (i : Nat) (he : ensureBlock stmts i = .ok s) (h : MarkersSettable stmts) :
    MarkersSettable s := by
  unfold ensureBlock at he
  split at he
  · simp only [Except.ok.injEq] at he; subst he; exact h
  · rename_i l0 hget
    simp only [Except.ok.injEq] at he; subst he
    refine good_set _ _ _ ?_ h
    intro l hl
    simp only [stmtLines, List.mem_singleton] at hl
    subst hl
    have hmem : Expr.line l0 ∈ stmts := List.mem_of_getElem? hget
    exact goodLine_of_suffix_eq rfl (h _ hmem l0 (by simp [stmtLines]))
  · cases he

theorem good_appendToBlock (stmts : List Expr) (i : Nat) (l : Line) (hl : GoodLine l) (h : MarkersSettable stmts) :
    MarkersSettable (appendToBlock stmts i l) := by
  unfold appendToBlock
  split
  · rename_i b hget
    refine good_set _ _ _ ?_ h
    intro l' hl'
    simp only [stmtLines, List.mem_append, List.mem_singleton] at hl'
    have hmem : Expr.lineBlock b ∈ stmts := List.mem_of_getElem? hget
    rcases hl' with hl' | rfl
    · exact h _ hmem l' (by simpa [stmtLines] using hl')
    · exact hl
  · exact h

theorem good_moveExisting (syn : FileSyntax) (lineId idx new : Nat) (h : MarkersSettable syn.stmts) :
    MarkersSettable (moveExisting syn lineId idx new).stmts := by
  unfold moveExisting
  split
  · exact h
  · rename_i old hfind
    have hold : GoodLine old := by
      unfold FileSyntax.findLine at hfind
      exact h.allLines old (List.mem_of_find?_eq_some hfind)
    simp only
    refine good_appendToBlock _ _ _ (goodLine_of_suffix_eq rfl hold) ?_
    exact good_updateLine syn lineId _ (fun l hl => goodLine_of_suffix_eq rfl hl) h


/-! ### a program of tree primitives (Proofs/EditTreeProg): every operation but the bulk setters -/

/-- a line edit of the program keeps the settable markers; Cleanup (which hands a block's comment to its one line) is not covered -/
def TPrim.GoodP : TPrim → Prop
  | .mapLine _ g => ∀ l, GoodLine l → GoodLine (g l)
  | .cleanup => False
  | _ => True

theorem TPrim.good (p : TPrim) (s : FileSyntax × Nat) (hp : p.GoodP) (h : MarkersSettable s.1.stmts) :
    MarkersSettable (p.run s).1.stmts := by
  cases p with
  | set id toks => exact good_updateTokens _ _ _ h
  | remove id => exact good_markRemoved _ _ h
  | mapLine id g => exact good_updateLine _ _ _ hp h
  | add hint toks => exact good_addLine _ _ _ _ h
  | addPtr hint toks => exact good_addLinePtr _ _ _ _ h
  | insertLine i toks =>
    exact good_insertAt _ _ _ (fun l hl => by simp only [stmtLines, List.mem_singleton] at hl; rw [hl]; exact goodLine_mkLine _ _ _) h
  | dedup kill => exact good_dropKilled _ _ h
  | sort sem work => exact good_sortStmts _ _ _ h
  | cleanup => exact hp.elim

theorem goodP_removes (ids : List Nat) : ∀ p ∈ ids.map TPrim.remove, p.GoodP := fun p hp => by
  obtain ⟨i, _, rfl⟩ := List.mem_map.1 hp; trivial

theorem goodP_setProg {α : Type} (m : α → Bool) (id : α → Nat) (l : List α) (toks : List Bytes) {np : List TPrim}
    (h : ∀ p ∈ np, p.GoodP) : ∀ p ∈ setProg m id l toks np, p.GoodP := by
  unfold setProg; split
  · intro p hp
    rcases List.mem_cons.1 hp with rfl | hp
    · trivial
    · exact goodP_removes _ p hp
  · exact h

/-- the one fact about the program of a go.mod operation other than Cleanup: its line edits are `setIndirect` and the
    whole-line comments of AddRetract -/
theorem prog_goodP (e : EFile) (op : Op) (hc : op ≠ .cleanup) : ∀ p ∈ prog e op, p.GoodP := by
  have hset : ∀ b, TPrim.GoodP (.mapLine e.next (setIndirectLine b)) := fun b l hl => goodLine_setIndirectLine b l hl
  have two : ∀ {p q : TPrim}, p.GoodP → q.GoodP → ∀ r ∈ [p, q], r.GoodP := fun hp hq r hr => by
    simp only [List.mem_cons, List.mem_nil_iff, or_false] at hr; rcases hr with rfl | rfl <;> assumption
  have one : ∀ {p : TPrim}, p.GoodP → ∀ r ∈ [p], r.GoodP := fun hp r hr => by rw [List.mem_singleton.1 hr]; exact hp
  cases op <;> simp only [prog] <;> try (first | exact goodP_removes _ | exact fun _ h => absurd h List.not_mem_nil)
  case addModule p => split <;> exact one (by trivial)
  case addGo v => split <;> exact one (by trivial)
  case dropGo => split <;> first | exact one (by trivial) | exact fun _ h => absurd h List.not_mem_nil
  case addToolchain n => split <;> exact one (by trivial)
  case dropToolchain => split <;> first | exact one (by trivial) | exact fun _ h => absurd h List.not_mem_nil
  case addGodebug k v => exact goodP_setProg _ _ _ _ (one (by trivial))
  case addRequire p v => exact goodP_setProg _ _ _ _ (two (by trivial) (hset false))
  case addNewRequire p v i => exact two (by trivial) (hset i)
  case addExclude p v => split <;> first | exact one (by trivial) | exact fun _ h => absurd h List.not_mem_nil
  case addReplace a b c d => exact goodP_setProg _ _ _ _ (one (by trivial))
  case addRetract lo hi why => exact two (by trivial) fun l hl => goodLine_of_suffix_eq rfl hl
  case addTool p =>
    split
    · intro p hp; cases hp
    · intro r hr
      simp only [List.mem_cons, List.mem_nil_iff, or_false] at hr
      rcases hr with rfl | rfl | rfl <;> trivial
  case sortBlocks => exact two (by trivial) (by trivial)
  case cleanup => exact (hc rfl).elim

theorem good_addNewRequire (e : EFile) (p v : Bytes) (b : Bool) (h : MarkersSettable e.f.syn.stmts) :
    MarkersSettable (addNewRequire e p v b).f.syn.stmts := by
  unfold addNewRequire
  exact good_updateLine _ _ _ (fun l hl => goodLine_setIndirectLine b l hl) (good_addLine _ _ _ _ h)

theorem good_addSepNew (ctx : SepCtx) (e : EFile) (w : Want) (h : MarkersSettable e.f.syn.stmts) :
    MarkersSettable (addSepNew ctx e w).f.syn.stmts := by
  unfold addSepNew
  simp only
  apply good_appendToBlock _ _ _ _ h
  split
  · exact goodLine_setIndirectLine true _ (goodLine_mkLine _ _ _)
  · exact goodLine_mkLine _ _ _

theorem good_bulk : BulkPres MarkersSettable where
  setReq := good_setReq
  remove := good_markRemoved
  addNew := good_addNewRequire
  sort := good_sortBlocks
  emptyBlock := fun _ _ h => good_insertAt _ _ _ good_emptyRequireBlock h
  ensure := good_ensureBlock
  move := good_moveExisting
  sepNew := good_addSepNew

/-- ★ **every go.mod operation preserves `MarkersSettable`** (no hypothesis on the arguments; the invariant is only used
    for `noBlockSuffix` in Cleanup) -/
theorem applyMod_good (e e' : EFile) (op : Op) (hi : Inv e) (h : MarkersSettable e.f.syn.stmts)
    (ha : applyMod e op = some (.ok e')) : MarkersSettable e'.f.syn.stmts := by
  by_cases hb : IsBulk op
  · cases op <;> try exact hb.elim
    case setRequire w r => simp only [applyMod, Option.some.injEq] at ha; exact good_bulk.setRequire ha h
    case setRequireSeparateIndirect w r =>
      simp only [applyMod, Option.some.injEq] at ha; exact good_bulk.setRequireSeparateIndirect ha h
  · by_cases hc : op = .cleanup
    · subst hc
      simp only [applyMod, Option.some.injEq, Except.ok.injEq] at ha; subst ha; exact good_cleanup e hi h
    · have := runT_induct (P := fun s => MarkersSettable s.1.stmts) (prog e op) (treeOf e)
        (fun p hp s hs => p.good s (prog_goodP e op hc p hp) hs) h
      rwa [← applyMod_prog e e' op hb ha] at this

/-! ### along a session: the marker clause of `RunValid` is redundant -/

/-- validity of an operation's arguments in a given state WITHOUT the marker clause: as `ValidArgsT`, and for the two bulk
    requirement setters distinct non-empty paths and every typed requirement live (a Cleanup has just run).

    The validity conditions of the tree half and how they imply each other.  Per operation: `ValidArgsT op` (non-empty keys; no
    bulk setter) ⇒ `ValidArgsLive e op` ⇒ (with `MarkersSettable`: `ValidArgsLive.all`) `ValidArgsAll e op` = `ValidArgsR fullView
    e op`; `ValidArgsLive.r : … → ValidArgsR tokView e op`; `StaticArgs c op` is `ValidArgsLive` read off the operation list
    (`c`: a Cleanup came directly before).  Per session, each the per-operation condition in the state in which the run reaches
    the operation (`Along`): `StaticValid` ⇒ `RunValidLive` (`StaticValid.runValidLive`) ⇒ (with `Inv`, `MarkersSettable`:
    `RunValidLive.runValid`) `RunValid`.  `Inv` is preserved under `RunValid` / `ValidArgsAll`, `P.Inv` and termination under
    `RunValidLive` / `ValidArgsLive`; the typed half (C08) has its own `ValidArgs` ⇒ `EditSpec.ValidOp`. -/
def ValidArgsLive (e : EFile) : Op → Prop
  | .setRequire w _ => GoodWant w ∧ (∀ r ∈ e.f.require, liveRq r = true)
  | .setRequireSeparateIndirect w _ => GoodWant w ∧ (∀ r ∈ e.f.require, liveRq r = true)
  | op => ValidArgsT op

theorem ValidArgsLive.all {e : EFile} {op : Op} (hv : ValidArgsLive e op) (h : MarkersSettable e.f.syn.stmts) :
    ValidArgsAll e op := by
  cases op <;> first
    | exact ⟨hv.1, hv.2, h.noNested⟩
    | exact hv

/-- `RunValid` without `NoNestedIndirectMarker`; it is `Along id applyMod ValidArgsLive` (`runValidLive_along`) -/
def RunValidLive : EFile → List Op → Prop
  | _, [] => True
  | e, op :: ops =>
    ValidArgsLive e op ∧
      (∀ e', applyMod e op = some (.ok e') → RunValidLive e' ops) ∧
      (∀ err, applyMod e op = some (.error err) → err.isReturned = true → RunValidLive e ops)

theorem runValidLive_along (ops : List Op) (e : EFile) : RunValidLive e ops ↔ Along id applyMod ValidArgsLive e ops :=
  along_iff (fun _ => Iff.rfl) (fun _ _ _ => Iff.rfl) ops e

theorem applyMod_inv_good (e e' : EFile) (op : Op) (hv : ValidArgsLive e op) (hi : Inv e ∧ MarkersSettable e.f.syn.stmts)
    (ha : applyMod e op = some (.ok e')) : Inv e' ∧ MarkersSettable e'.f.syn.stmts :=
  ⟨applyMod_inv_all e e' op (hv.all hi.2) hi.1 ha, applyMod_good e e' op hi.1 hi.2 ha⟩

/-- ★ **closure of `NoNestedIndirectMarker` along a session**: from a state satisfying the invariant whose lines all have
    settable markers, the marker clause of `RunValid` holds in every state of the run -/
theorem RunValidLive.runValid (ops : List Op) (e : EFile) (hv : RunValidLive e ops) (hi : Inv e)
    (h : MarkersSettable e.f.syn.stmts) : RunValid e ops :=
  (runValid_along ops e).2 <| Along.of_inv (fun e _ => Inv e ∧ MarkersSettable e.f.syn.stmts)
    (fun e op _ hi hv => ⟨hv.all hi.2, hi, fun e' ha => applyMod_inv_good e e' op hv hi ha⟩) ops e ⟨hi, h⟩
    ((runValidLive_along ops e).1 hv)

theorem runOps_good (ops : List Op) (e : EFile) (res0 : List Bool) (i : Nat) (e' : EFile) (res : List Bool)
    (hv : RunValidLive e ops) (hi : Inv e) (h : MarkersSettable e.f.syn.stmts)
    (hr : runOps applyMod e ops res0 i = .done e' res) : Inv e' ∧ MarkersSettable e'.f.syn.stmts :=
  Along.done_inv (fun e _ => Inv e ∧ MarkersSettable e.f.syn.stmts)
    (fun e op _ hi hv => ⟨hi, fun e' ha => applyMod_inv_good e e' op hv hi ha⟩) ops e res0 i e' res ⟨hi, h⟩
    ((runValidLive_along ops e).1 hv) (by simpa using hr)

/-- **C15 `typed_eq_tree`, tree half, without the state-dependent marker hypothesis** -/
theorem typed_eq_tree_live (e e' : EFile) (ops : List Op) (res : List Bool) (hi : Inv e) (hm : MarkersSettable e.f.syn.stmts)
    (hv : RunValidLive e ops) (h : runOps applyMod e ops [] 0 = .done e' res) :
    Inv (cleanup e') ∧ MarkersSettable (cleanup e').f.syn.stmts := by
  rcases runOps_good ops e [] 0 e' res hv hi hm h with ⟨h1, h2⟩
  exact ⟨cleanup_inv e' h1, good_cleanup e' h1 h2⟩

/-! ### the start state: `load` only renumbers -/

theorem markersSettable_shift (fs : FileSyntax) : MarkersSettable (shiftSyntax fs).stmts ↔ MarkersSettable fs.stmts := by
  unfold shiftSyntax MarkersSettable
  simp only [List.mem_map]
  constructor
  · intro h x hx l hl
    cases x with
    | line l0 =>
      simp only [stmtLines, List.mem_singleton] at hl
      subst hl
      have := h _ ⟨_, hx, rfl⟩ (shiftLine l) (by simp [stmtLines])
      exact goodLine_of_suffix_eq (l := shiftLine l) rfl this
    | lineBlock b =>
      simp only [stmtLines] at hl
      have := h _ ⟨_, hx, rfl⟩ (shiftLine l) (by simp only [stmtLines, List.mem_map]; exact ⟨l, hl, rfl⟩)
      exact goodLine_of_suffix_eq (l := shiftLine l) rfl this
    | commentBlock c => simp [stmtLines] at hl
    | lparen c => simp [stmtLines] at hl
    | rparen c => simp [stmtLines] at hl
  · rintro h x ⟨y, hy, rfl⟩ l hl
    cases y with
    | line l0 =>
      simp only [stmtLines, List.mem_singleton] at hl
      subst hl
      exact goodLine_of_suffix_eq (l := l0) rfl (h _ hy l0 (by simp [stmtLines]))
    | lineBlock b =>
      simp only [stmtLines, List.mem_map] at hl
      rcases hl with ⟨l0, hl0, rfl⟩
      exact goodLine_of_suffix_eq (l := l0) rfl (h _ hy l0 (by simpa [stmtLines] using hl0))
    | commentBlock c => simp [stmtLines] at hl
    | lparen c => simp [stmtLines] at hl
    | rparen c => simp [stmtLines] at hl

theorem markersSettable_load (f : File) : MarkersSettable (load f).f.syn.stmts ↔ MarkersSettable f.syn.stmts :=
  markersSettable_shift f.syn

/-! ### a static form of `RunValidLive`: a bulk setter directly after a Cleanup -/

def isCleanupOp : Op → Bool
  | .cleanup => true
  | _ => false

/-- validity of the arguments that can be read off the operation list: as `ValidArgsT`; a bulk requirement setter has
    distinct non-empty paths and comes directly after a Cleanup (`afterCleanup`) -/
def StaticArgs (afterCleanup : Bool) : Op → Prop
  | .setRequire w _ => GoodWant w ∧ afterCleanup = true
  | .setRequireSeparateIndirect w _ => GoodWant w ∧ afterCleanup = true
  | op => ValidArgsT op

def StaticValid : Bool → List Op → Prop
  | _, [] => True
  | c, op :: ops => StaticArgs c op ∧ StaticValid (isCleanupOp op) ops

theorem StaticValid.runValidLive (ops : List Op) : ∀ (c : Bool) (e : EFile), StaticValid c ops →
    (c = true → ∀ r ∈ e.f.require, liveRq r = true) → RunValidLive e ops := by
  induction ops with
  | nil => intro c e _ _; trivial
  | cons op ops ih =>
    intro c e hs hc
    have hargs : ValidArgsLive e op := by
      have := hs.1
      cases op <;> first
        | exact ⟨this.1, hc this.2⟩
        | exact this
    refine ⟨hargs, ?_, ?_⟩
    · intro e' ha
      refine ih (isCleanupOp op) e' hs.2 ?_
      intro hcl
      cases op <;> simp only [isCleanupOp] at hcl <;> try cases hcl
      simp only [applyMod, Option.some.injEq, Except.ok.injEq] at ha
      subst ha
      exact cleanup_require_live e
    · intro err ha hr
      refine ih (isCleanupOp op) e hs.2 ?_
      intro hcl
      cases op <;> simp only [isCleanupOp] at hcl <;> try cases hcl
      simp [applyMod] at ha

/-! ### executable checks of the hypotheses (for concrete instances) -/

def staticArgsB (c : Bool) : Op → Bool
  | .setRequire w _ => goodWantB w && c
  | .setRequireSeparateIndirect w _ => goodWantB w && c
  | op => validArgsTB op

theorem staticArgsB_sound (c : Bool) (op : Op) (h : staticArgsB c op = true) : StaticArgs c op := by
  cases op <;> first
    | (simp only [staticArgsB, Bool.and_eq_true] at h; exact ⟨goodWantB_sound _ h.1, h.2⟩)
    | (simp only [StaticArgs]; exact validArgsTB_sound _ h)

def staticValidB : Bool → List Op → Bool
  | _, [] => true
  | c, op :: ops => staticArgsB c op && staticValidB (isCleanupOp op) ops

theorem staticValidB_sound (ops : List Op) : ∀ c : Bool, staticValidB c ops = true → StaticValid c ops := by
  induction ops with
  | nil => intro c _; trivial
  | cons op ops ih =>
    intro c h
    simp only [staticValidB, Bool.and_eq_true] at h
    exact ⟨staticArgsB_sound c op h.1, ih _ h.2⟩

end ModVerif.Modfile.Edit
