/-
  Helper lemmas for Tie/FnEditReq.lean: the loops `File_DropRequire_loop1`, `File_DropExclude_loop1`,
  `File_DropReplace_loop1`, `File_DropRetract_loop1` of the regenerated go.mod edit operations (Generated/FnEdit.lean)
  unfold to `FnEditTyped.dropBody`, which is what `dropOp_sim` asks of a "every matching entry is cleared" loop.
-/
import ModVerif.Proofs.TieFnEditTyped
namespace ModVerif.Tie.FnEditReqA
open ModVerif ModVerif.GoRt ModVerif.Generated.Edit ModVerif.Tie.FnEditRep ModVerif.Tie.FnEditTreeA ModVerif.Tie.FnEditTyped
open ModVerif.Modfile.Edit (EFile)

theorem DropRequire_body (f : Int) (path : Bytes) (rx : List Int) (fuel : Nat) (ri : Int) (h : Heap) :
    File_DropRequire_loop1 rx f path (fuel + 1) ri h =
      dropBody requireT (fun _ _ a => pure (decide (a.Mod.Path = path))) rx (File_DropRequire_loop1 rx f path fuel) ri h := by
  conv => lhs; unfold File_DropRequire_loop1
  rfl

theorem File_DropRequire_sim {h : Heap} {fp : Int} {e : EFile} (R : RepF h fp e) (path : Bytes) (fuel : Nat)
    (hf : e.f.require.length + 1 ≤ fuel) :
    match Modfile.Edit.dropRequire e path with
    | .ok e' => ∃ h', File_DropRequire fuel fp path h = .ok (none, h') ∧ RepF h' fp e'
    | .error _ => File_DropRequire fuel fp path h = .error .panic :=
  tieF <| dropOp_sim modK_ok requireT_ok (cleared := Modfile.Edit.clearedRequire) rfl rfl (fun r => r.mod.path == path)
    (fun _ _ a => pure (decide (a.Mod.Path = path))) (fun _ _ x _ => congrArg Except.ok (FnEditWorkA.bytes_beq_eq_decide _ _).symm)
    (fun fp o => File_DropRequire_loop1 o.Require fp path) (fun fuel fp => File_DropRequire fuel fp path)
    (fun fuel fp h o ho => by simp only [File_DropRequire, show heapGet h.mods fp = .ok o from ho, bind_ok])
    (fun fp o => DropRequire_body fp path o.Require) R fuel hf

/-- the regenerated test `x.Mod.Path == path && x.Mod.Version == vers` (short-circuit: the object is read again) -/
def mvTest (objs : Heap → List α) (mv : α → ModVersion) (path vers : Bytes) : Heap → Int → α → M Bool :=
  fun world r a => if decide ((mv a).Path = path) then (do
    let t6 ← heapGet (objs world) r
    pure (decide ((mv t6).Version = vers))) else pure false

theorem mvTest_eq {objs : Heap → List α} {mv : α → ModVersion} {h : Heap} {r : Int} {a : α} (hg : heapGet (objs h) r = .ok a)
    (path vers : Bytes) : mvTest objs mv path vers h r a = .ok (decide ((mv a).Path = path) && decide ((mv a).Version = vers)) := by
  unfold mvTest
  cases decide ((mv a).Path = path) <;> simp [hg, pure, Except.pure]

theorem DropExclude_body (f : Int) (path vers : Bytes) (rx : List Int) (fuel : Nat) (ri : Int) (h : Heap) :
    File_DropExclude_loop1 rx f path vers (fuel + 1) ri h =
      dropBody excludeT (mvTest (·.excludes) (·.Mod) path vers) rx (File_DropExclude_loop1 rx f path vers fuel) ri h := by
  conv => lhs; unfold File_DropExclude_loop1
  rfl

theorem File_DropExclude_sim {h : Heap} {fp : Int} {e : EFile} (R : RepF h fp e) (path vers : Bytes) (fuel : Nat)
    (hf : e.f.exclude.length + 1 ≤ fuel) :
    match Modfile.Edit.dropExclude e path vers with
    | .ok e' => ∃ h', File_DropExclude fuel fp path vers h = .ok (none, h') ∧ RepF h' fp e'
    | .error _ => File_DropExclude fuel fp path vers h = .error .panic :=
  tieF <| dropOp_sim modK_ok excludeT_ok (cleared := Modfile.Edit.clearedExclude) rfl rfl (fun x => x.mod.path == path && x.mod.version == vers)
    (mvTest (·.excludes) (·.Mod) path vers) (fun _ _ x hg => by rw [mvTest_eq hg]; simp only [FnEditWorkA.bytes_beq_eq_decide]; rfl)
    (fun fp o => File_DropExclude_loop1 o.Exclude fp path vers) (fun fuel fp => File_DropExclude fuel fp path vers)
    (fun fuel fp h o ho => by simp only [File_DropExclude, show heapGet h.mods fp = .ok o from ho, bind_ok])
    (fun fp o => DropExclude_body fp path vers o.Exclude) R fuel hf

theorem DropReplace_body (f : Int) (path vers : Bytes) (rx : List Int) (fuel : Nat) (ri : Int) (h : Heap) :
    File_DropReplace_loop1 rx f path vers (fuel + 1) ri h =
      dropBody replaceT (mvTest (·.replaces) (·.Old) path vers) rx (File_DropReplace_loop1 rx f path vers fuel) ri h := by
  conv => lhs; unfold File_DropReplace_loop1
  rfl

theorem File_DropReplace_sim {h : Heap} {fp : Int} {e : EFile} (R : RepF h fp e) (path vers : Bytes) (fuel : Nat)
    (hf : e.f.replace.length + 1 ≤ fuel) :
    match Modfile.Edit.dropReplace e path vers with
    | .ok e' => ∃ h', File_DropReplace fuel fp path vers h = .ok (none, h') ∧ RepF h' fp e'
    | .error _ => File_DropReplace fuel fp path vers h = .error .panic := by
  have X := dropOp_sim modK_ok replaceT_ok (cleared := Modfile.Edit.clearedReplace) rfl rfl
    (fun x => x.old.path == path && x.old.version == vers)
    (mvTest (·.replaces) (·.Old) path vers) (fun _ _ x hg => by rw [mvTest_eq hg]; simp only [FnEditWorkA.bytes_beq_eq_decide]; rfl)
    (fun fp o => File_DropReplace_loop1 o.Replace fp path vers) (fun fuel fp => File_DropReplace fuel fp path vers)
    (fun fuel fp h o ho => by simp only [File_DropReplace, show heapGet h.mods fp = .ok o from ho, bind_ok])
    (fun fp o => DropReplace_body fp path vers o.Replace) R fuel hf
  have hm : Modfile.Edit.dropReplace e path vers = _ := bind_assoc _ _ _
  exact tieF (hm ▸ X)

def viG (v : Modfile.VersionInterval) : VersionInterval := { Low := v.low, High := v.high }

@[simp] theorem viG_Low (v : Modfile.VersionInterval) : (viG v).Low = v.low := rfl
@[simp] theorem viG_High (v : Modfile.VersionInterval) : (viG v).High = v.high := rfl
theorem retractG_interval (r : Modfile.Retract) : (retractG r).VersionInterval = viG r.interval := rfl

theorem viG_inj {a b : Modfile.VersionInterval} (h : viG a = viG b) : a = b := by
  cases a; cases b
  simp only [viG, VersionInterval.mk.injEq] at h
  simp [h.1, h.2]

theorem DropRetract_body (f : Int) (vi : VersionInterval) (rx : List Int) (fuel : Nat) (ri : Int) (h : Heap) :
    File_DropRetract_loop1 rx f vi (fuel + 1) ri h =
      dropBody retractT (fun _ _ a => pure (decide (a.VersionInterval = vi))) rx (File_DropRetract_loop1 rx f vi fuel) ri h := by
  conv => lhs; unfold File_DropRetract_loop1
  rfl

theorem File_DropRetract_sim {h : Heap} {fp : Int} {e : EFile} (R : RepF h fp e) (vi : Modfile.VersionInterval) (fuel : Nat)
    (hf : e.f.retract.length + 1 ≤ fuel) :
    match Modfile.Edit.dropRetract e vi with
    | .ok e' => ∃ h', File_DropRetract fuel fp (viG vi) h = .ok (none, h') ∧ RepF h' fp e'
    | .error _ => File_DropRetract fuel fp (viG vi) h = .error .panic :=
  tieF <| dropOp_sim modK_ok retractT_ok (cleared := Modfile.Edit.clearedRetract) rfl rfl (fun r => r.interval == vi)
    (fun _ _ a => pure (decide (a.VersionInterval = viG vi))) (fun _ _ x _ => by
      rw [retractG_interval]
      by_cases hm : x.interval = vi
      · simp [hm, pure, Except.pure]
      · simp [hm, show viG x.interval ≠ viG vi from fun hd => hm (viG_inj hd), pure, Except.pure])
    (fun fp o => File_DropRetract_loop1 o.Retract fp (viG vi)) (fun fuel fp => File_DropRetract fuel fp (viG vi))
    (fun fuel fp h o ho => by simp only [File_DropRetract, show heapGet h.mods fp = .ok o from ho, bind_ok])
    (fun fp o => DropRetract_body fp (viG vi) o.Retract) R fuel hf

protected theorem idxL_mid {α : Type} (a : List α) (e : α) (c : List α) : idxL (a ++ e :: c) (a.length : Int) = .ok e :=
  GoRt.idxL_mid a e c

protected theorem lt_len_mid {α : Type} (a : List α) (e : α) (c : List α) : ((a.length : Int) < len (a ++ e :: c)) :=
  GoRt.lt_len_mid a e c

protected theorem not_lt_len_end {α : Type} (a : List α) : ¬ ((a.length : Int) < len a) := GoRt.not_lt_len_self a

protected theorem succ_len_snoc {α : Type} (a : List α) (e : α) : ((a.length : Int) + 1) = ((a ++ [e]).length : Int) :=
  GoRt.succ_len_snoc a e

end ModVerif.Tie.FnEditReqA
