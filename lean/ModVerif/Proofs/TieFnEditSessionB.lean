/-
  go.mod sessions of the regenerated edit operations (`Drv.GenEdit.applyOp`, `runOps`) against the model's
  (`Edit.applyMod`, `Edit.runOps`).  Nothing here is about a single Go function: `applyOp_out` dispatches an operation to
  its tie (Tie/FnEdit{Stmt,Req,Set,Sort}.lean, all over `RepF`), and a session is the driver loop `run_rel` of
  Proofs/TieFnEditSessionA.lean over it.

  What a tie asks for besides `RepF` is collected per operation in `StepOK`: fuel (`stepFuel e op`, the maximum of the
  bounds of the operation's tie, a function of the MODEL state so that it can be followed along the model run), `ScalarsLive`
  and `InTree`.  The last two follow from the model invariant `Edit.P.Inv` (`runOK_of_valid`), which leaves the fuel part
  `FuelOK`; Proofs/TieFnEditFuel*.lean derive that from sizes.  The driver's read-back of a represented heap is the model
  file with the typed `lineId`s zeroed (`fileM_rep`), which the typed dump does not print.  The hypotheses have sound Boolean
  tests, and the two whole sessions are also values, for the kernel to compare on examples.

  Namespaces `FnEditSessionB` … `FnEditSessionF` (the full names are cited by Tie/FnEditSession.lean and the checks).
-/
import ModVerif.Proofs.TieFnEditSessionA
import ModVerif.Proofs.TieFnEditStmtEx
import ModVerif.Proofs.EditRefineRun
import ModVerif.Tie.FnEditStmt
import ModVerif.Tie.FnEditReq
import ModVerif.Tie.FnEditSet
import ModVerif.Tie.FnEditSort
namespace ModVerif.Tie.FnEditSessionB
open ModVerif ModVerif.GoRt ModVerif.Generated.Edit ModVerif.Tie.FnEditRep ModVerif.Tie.FnEditSessionA
open ModVerif.Modfile.Edit (EFile EditErr Want)
open ModVerif.Drv.GenEdit (isPrintI quoteI applyOp)
open ModVerif.TieFnEditAddLine (nodeCount)
open ModVerif.Tie.FnEditSortB (nodes)
open ModVerif.Tie.FnEditSortE (sortFuel)
open ModVerif.Tie.FnEditSortG (cleanSize)
open ModVerif.Tie.FnEditSetC (fuelSetRequire)
open ModVerif.Tie.FnEditSetP (fuelSep)
open ModVerif.Tie.FnEditSet (addNewFuel)
open ModVerif.Tie.FnEditSetQ (allocReqs InTree)
open ModVerif.Tie.FnEditReqE (modPath)

/-! ### the request objects of the bulk setters -/

/-- `newReqs` of `Drv.GenEdit.applyOp` -/
def newReqs (l : List EditSpec.Req) (h : Heap) : List Int × Heap :=
  l.foldl (fun (acc : List Int × Heap) r =>
    let (p, rl) := heapAlloc acc.2.requires ({ Mod := { Path := r.path, Version := r.vers }, Indirect := r.indirect, Syntax := 0 } : Require)
    (acc.1 ++ [p], { acc.2 with requires := rl })) ([], h)

theorem newReqs_aux : ∀ (l : List EditSpec.Req) (acc : List Int) (h : Heap),
    l.foldl (fun (acc : List Int × Heap) r =>
      let (p, rl) := heapAlloc acc.2.requires ({ Mod := { Path := r.path, Version := r.vers }, Indirect := r.indirect, Syntax := 0 } : Require)
      (acc.1 ++ [p], { acc.2 with requires := rl })) (acc, h) =
    (acc ++ (allocReqs (l.map toWant) h).1, (allocReqs (l.map toWant) h).2)
  | [], acc, h => by simp [allocReqs]
  | r :: rs, acc, h => by
    rw [List.foldl_cons]
    refine (newReqs_aux rs (acc ++ [((h.requires.length + 1 : Nat) : Int)])
      { h with requires := h.requires ++ [({ Mod := { Path := r.path, Version := r.vers }, Indirect := r.indirect, Syntax := 0 } : Require)] }).trans ?_
    simp only [List.map_cons, allocReqs, List.append_assoc, List.singleton_append]
    rfl

theorem newReqs_eq (l : List EditSpec.Req) (h : Heap) : newReqs l h = allocReqs (l.map toWant) h := by
  unfold newReqs
  rw [newReqs_aux]
  simp

/-- the model state `File.AddTool` hands to `SortBlocks` -/
def addToolPre (e : EFile) (path : Bytes) : EFile :=
  { f := { e.f with tool := e.f.tool ++ [{ path := path, lineId := e.next }],
                    syn := Modfile.Edit.addLine e.f.syn none [B "tool", path] e.next }, next := e.next + 1 }

/-- fuel demand of one go.mod operation in the model state `e`: the maximum of the explicit lower bounds of its tie -/
def stepFuel (e : EFile) : EditSpec.Op → Nat
  | .addModule p => max (nodeCount e.f.syn.stmts + 3) (p.length + 1)
  | .addGo _ => nodeCount e.f.syn.stmts + 3
  | .dropGo => 0
  | .addToolchain _ => nodeCount e.f.syn.stmts + 3
  | .dropToolchain => 0
  | .addGodebug _ _ => max (e.f.godebug.length + 1) (nodeCount e.f.syn.stmts + 3)
  | .dropGodebug _ => e.f.godebug.length + 1
  | .addRequire p _ => max (e.f.require.length + p.length + 2) (nodeCount e.f.syn.stmts + 3)
  | .addNewRequire p _ _ => max (nodeCount e.f.syn.stmts + 3) (p.length + 1)
  | .dropRequire _ => e.f.require.length + 1
  | .setRequire l => fuelSetRequire addNewFuel sortFuel e (l.map toWant)
  | .setRequireSeparateIndirect l => fuelSep sortFuel e (l.map toWant)
  | .addExclude p v => max (max (p.length + 1) (2 * v.length)) (max (e.f.exclude.length + 1) (nodeCount e.f.syn.stmts + 3))
  | .dropExclude _ _ => e.f.exclude.length + 1
  | .addReplace a _ c _ => max (max (a.length + 1) (c.length + 1)) (max (e.f.replace.length + 1) (nodeCount e.f.syn.stmts + 3))
  | .dropReplace _ _ => e.f.replace.length + 1
  | .addRetract lo hi why => max (max ((modPath e).length + 1) (max (2 * hi.length + 1) (2 * lo.length + 1)))
      (max (nodeCount e.f.syn.stmts + 3) (why.length + 5))
  | .dropRetract _ _ => e.f.retract.length + 1
  | .addTool p => if e.f.tool.any (·.path == p) then e.f.tool.length + 1
      else max (max (e.f.tool.length + 1) (nodeCount e.f.syn.stmts + 3)) (sortFuel (addToolPre e p))
  | .dropTool _ => e.f.tool.length + 1
  | .sortBlocks => sortFuel e
  | .cleanup => max (cleanSize e + 1) (nodes e.f.syn.stmts + 1)
  | _ => 0

theorem out_res_panic {r : M ((Option String) × Heap)} {h : Heap} {fp : Int} {x : Except EditErr EFile}
    (T : match x with
      | .ok e' => ∃ h', r = .ok (none, h') ∧ RepF h' fp e'
      | .error _ => r = .error .panic) (hx : Modfile.Edit.NoRet x) : Out RepF (some x) (resW r) h fp := by
  cases x with
  | ok e' => exact out_res_ok T
  | error err => exact out_res_error (hx err rfl) T

theorem out_unit_panic {r : M (Unit × Heap)} {h : Heap} {fp : Int} {x : Except EditErr EFile}
    (T : match x with
      | .ok e' => ∃ h', r = .ok ((), h') ∧ RepF h' fp e'
      | .error _ => r = .error .panic) (hx : Modfile.Edit.NoRet x) : Out RepF (some x) (unitW r) h fp := by
  cases x with
  | ok e' => exact out_unit_ok T
  | error err => exact out_unit_error (hx err rfl) T

theorem applyOp_out {h : Heap} {fp : Int} {e : EFile} (R : RepF h fp e) (op : EditSpec.Op) (hs : ScalarsLive e)
    (hT : ∀ w, op = .setRequireSeparateIndirect w → InTree e) (fuel : Nat) (hf : stepFuel e op ≤ fuel) :
    Out RepF (Modfile.Edit.applyMod e (opM op)) (applyOp fuel fp h op) h fp := by
  -- One case per operation: unfold its share of `stepFuel`, apply its tie, and read the tie's conclusion as `Out` — the
  -- ties come in three shapes: always succeeds (`out_res_ok`, `out_unit_ok`), may return an error that leaves the heap
  -- alone (`out_res_ret`), fails only by a panic (`out_res_panic`, `out_unit_panic`, with the operation's `Edit.NoRet`).
  cases op with
  | addModule p =>
    simp only [stepFuel, Nat.max_le] at hf
    exact out_res_ok (FnEditStmt.File_AddModuleStmt_tie R hs.module p fuel (by omega) (by omega))
  | addGo v =>
    simp only [stepFuel] at hf
    have T := FnEditStmt.File_AddGoStmt_tie R hs.go hs.module v fuel hf
    exact out_res_ret (fun e' hx => by rw [hx] at T; exact T) fun err hx => by rw [hx] at T; exact ⟨by rw [T.1]; rfl, _, T.2⟩
  | dropGo => exact out_unit_ok (FnEditStmt.File_DropGoStmt_tie R hs.go)
  | addToolchain n =>
    simp only [stepFuel] at hf
    have T := FnEditStmt.File_AddToolchainStmt_tie R hs.toolchain hs.go hs.module n fuel hf
    exact out_res_ret (fun e' hx => by rw [hx] at T; exact T) fun err hx => by rw [hx] at T; exact ⟨by rw [T.1]; rfl, _, T.2⟩
  | dropToolchain => exact out_unit_ok (FnEditStmt.File_DropToolchainStmt_tie R hs.toolchain)
  | addGodebug k v =>
    simp only [stepFuel, Nat.max_le] at hf
    exact out_res_panic (FnEditStmt.File_AddGodebug_tie R k v fuel (by omega) (by omega)) (Modfile.Edit.NoRet.addGodebug e k v)
  | dropGodebug k =>
    simp only [stepFuel] at hf
    exact out_res_panic (FnEditStmt.File_DropGodebug_tie R k fuel hf) (Modfile.Edit.NoRet.dropGodebug e k)
  | addRequire p v =>
    simp only [stepFuel, Nat.max_le] at hf
    exact out_res_panic (FnEditReq.File_AddRequire_tie R p v fuel (by omega) (by omega)) (Modfile.Edit.NoRet.addRequire e p v)
  | addNewRequire p v i =>
    simp only [stepFuel, Nat.max_le] at hf
    exact out_unit_ok (FnEditReq.File_AddNewRequire_tie R p v i fuel (by omega) (by omega))
  | dropRequire p =>
    simp only [stepFuel] at hf
    exact out_res_panic (FnEditReq.File_DropRequire_tie R p fuel hf) (Modfile.Edit.NoRet.dropRequire e p)
  | setRequire l =>
    simp only [stepFuel] at hf
    have T := FnEditSet.File_SetRequire_alloc_tie (h := h) (l.map toWant) R hf
    rw [← newReqs_eq] at T
    exact out_unit_panic T (Modfile.Edit.NoRet.setRequire e _ _)
  | setRequireSeparateIndirect l =>
    simp only [stepFuel] at hf
    have T := FnEditSet.File_SetRequireSeparateIndirect_alloc_tie (h := h) (l.map toWant) R (hT l rfl) hf
    rw [← newReqs_eq] at T
    exact out_unit_panic T (Modfile.Edit.NoRet.setRequireSeparateIndirect e _ _)
  | addExclude p v =>
    simp only [stepFuel, Nat.max_le] at hf
    have T := FnEditReq.File_AddExclude_tie R p v fuel (by omega) (by omega) (by omega) (by omega)
    exact out_res_ret (fun e' hx => by rw [hx] at T; exact T) fun err hx => by rw [hx] at T; exact ⟨by rw [T.1]; rfl, T.2⟩
  | dropExclude p v =>
    simp only [stepFuel] at hf
    exact out_res_panic (FnEditReq.File_DropExclude_tie R p v fuel hf) (Modfile.Edit.NoRet.dropExclude e p v)
  | addReplace a b c d =>
    simp only [stepFuel, Nat.max_le] at hf
    exact out_res_panic (FnEditReq.File_AddReplace_tie R a b c d fuel (by omega) (by omega) (by omega) (by omega)) (Modfile.Edit.NoRet.addReplace e a b c d)
  | dropReplace a b =>
    simp only [stepFuel] at hf
    exact out_res_panic (FnEditReq.File_DropReplace_tie R a b fuel hf) (Modfile.Edit.NoRet.dropReplace e a b)
  | addRetract lo hi why =>
    simp only [stepFuel, Nat.max_le] at hf
    have T := FnEditReq.File_AddRetract_tie R { low := lo, high := hi } why fuel (by omega) (by simp only []; omega)
      (by simp only []; omega) (by omega) (by omega)
    exact out_res_ret (fun e' hx => by rw [hx] at T; exact T) fun err hx => by rw [hx] at T; exact ⟨by rw [T.1]; rfl, T.2⟩
  | dropRetract lo hi =>
    simp only [stepFuel] at hf
    exact out_res_panic (FnEditReq.File_DropRetract_tie R { low := lo, high := hi } fuel hf) (Modfile.Edit.NoRet.dropRetract e { low := lo, high := hi })
  | addTool p =>
    simp only [stepFuel] at hf
    cases hp : e.f.tool.any (·.path == p) with
    | true =>
      simp only [hp, if_true] at hf
      obtain ⟨h1, h2⟩ := FnEditStmt.File_AddTool_present_tie R p fuel hf hp
      refine out_res_ok (e' := Modfile.Edit.addTool e p) ⟨h, h1, ?_⟩
      rw [h2]; exact R
    | false =>
      simp only [hp, if_false, Bool.false_eq_true] at hf
      exact out_res_ok (FnEditStmt.File_AddTool_tie R p fuel (by omega) (by omega) (by unfold addToolPre at hf; omega))
  | dropTool p =>
    simp only [stepFuel] at hf
    exact out_res_panic (FnEditStmt.File_DropTool_tie R p fuel hf) (Modfile.Edit.NoRet.dropTool e p)
  | sortBlocks =>
    simp only [stepFuel] at hf
    exact out_unit_ok (FnEditSort.File_SortBlocks_tie R fuel hf)
  | cleanup =>
    simp only [stepFuel, Nat.max_le] at hf
    exact out_unit_ok (FnEditSort.File_Cleanup_tie R fuel (by omega) (by omega))
  | addUse d m => exact (rfl : applyOp fuel fp h (.addUse d m) = .ok (none, h))
  | addNewUse d m => exact (rfl : applyOp fuel fp h (.addNewUse d m) = .ok (none, h))
  | dropUse d => exact (rfl : applyOp fuel fp h (.dropUse d) = .ok (none, h))
  | setUse w => exact (rfl : applyOp fuel fp h (.setUse w) = .ok (none, h))

end ModVerif.Tie.FnEditSessionB

namespace ModVerif.Tie.FnEditSessionC
open ModVerif ModVerif.GoRt ModVerif.Generated.Edit ModVerif.Tie.FnEditRep ModVerif.Tie.FnEditSessionA ModVerif.Tie.FnEditSessionB
open ModVerif.Modfile.Edit (EFile EditErr Want applyMod SessionResult Along along_iff alongB alongB_sound)
open ModVerif.Drv.GenEdit (applyOp opNameD Run)
open ModVerif.Tie.FnEditSetQ (InTree)

structure StepOK (fuel : Nat) (e : EFile) (op : EditSpec.Op) : Prop where
  fuel : stepFuel e op ≤ fuel
  scalars : ScalarsLive e
  inTree : ∀ w, op = .setRequireSeparateIndirect w → InTree e

/-- `StepOK` in every state of the model run.  Written out as a recursion of its own, like `FuelOK` and the model's
    `RunValidLive`, because the statements of the session ties mention it; each is `Edit.Along` at its step predicate
    (`runOK_iff`, `fuelOK_iff`, `runValidLive_iff`), and every proof goes through that form. -/
def RunOK (fuel : Nat) : EFile → List EditSpec.Op → Prop
  | _, [] => True
  | e, op :: ops =>
    StepOK fuel e op ∧
      (∀ e', applyMod e (opM op) = some (.ok e') → RunOK fuel e' ops) ∧
      (∀ err, applyMod e (opM op) = some (.error err) → err.isReturned = true → RunOK fuel e ops)

def FuelOK (fuel : Nat) : EFile → List EditSpec.Op → Prop
  | _, [] => True
  | e, op :: ops =>
    stepFuel e op ≤ fuel ∧
      (∀ e', applyMod e (opM op) = some (.ok e') → FuelOK fuel e' ops) ∧
      (∀ err, applyMod e (opM op) = some (.error err) → err.isReturned = true → FuelOK fuel e ops)

theorem runOK_iff (fuel : Nat) : ∀ ops e, RunOK fuel e ops ↔ Along opM applyMod (StepOK fuel) e ops :=
  along_iff (fun _ => Iff.rfl) fun _ _ _ => Iff.rfl

theorem fuelOK_iff (fuel : Nat) : ∀ ops e, FuelOK fuel e ops ↔ Along opM applyMod (fun e op => stepFuel e op ≤ fuel) e ops :=
  along_iff (fun _ => Iff.rfl) fun _ _ _ => Iff.rfl

theorem runValidLive_iff : ∀ ops e, Modfile.Edit.RunValidLive e (ops.map opM) ↔
    Along opM applyMod (fun e op => Modfile.Edit.ValidArgsLive e (opM op)) e ops :=
  along_iff (R := fun e ops => Modfile.Edit.RunValidLive e (ops.map opM)) (fun _ => Iff.rfl) fun _ _ _ => Iff.rfl

theorem runOps_rel (fuel : Nat) (fp : Int) (ops : List EditSpec.Op) (h : Heap) (e : EFile) (acc : List Bool) (i : Nat)
    (R : RepF h fp e) (ok : RunOK fuel e ops) :
    RunRel RepF fp ops i (Modfile.Edit.runOps applyMod e (ops.map opM) acc i) (Drv.GenEdit.runOps fuel fp h ops acc) :=
  run_rel (run := Drv.GenEdit.runOps fuel fp) (step := applyOp fuel fp) (fun _ _ => rfl) (fun _ _ _ _ => rfl) fp
    (fun _ _ op R ok => applyOp_out R op ok.scalars ok.inTree fuel ok.fuel) ops h e acc i R ((runOK_iff fuel ops e).1 ok)

theorem runOK_of_valid (fuel : Nat) (ops : List EditSpec.Op) (e : EFile) (hi : Modfile.Edit.P.Inv e)
    (hv : Modfile.Edit.RunValidLive e (ops.map opM)) (hf : FuelOK fuel e ops) : RunOK fuel e ops :=
  (runOK_iff fuel ops e).2 <| Along.of_inv (fun e _ => Modfile.Edit.P.Inv e)
    (fun e op _ hi hv => ⟨⟨hv.2, scalarsLive_of_Inv hi, fun w hw => by subst hw; exact inTree_of_Inv_live hi hv.1.2⟩, hi,
      fun e' hx => Modfile.Edit.P.applyMod_inv_all e e' _ hv.1 hi hx⟩)
    ops e hi (((runValidLive_iff ops e).1 hv).and ((fuelOK_iff fuel ops e).1 hf))

def fuelOKB (fuel : Nat) : EFile → List EditSpec.Op → Bool := alongB opM applyMod fun e op => decide (stepFuel e op ≤ fuel)

theorem fuelOKB_sound (fuel : Nat) (ops : List EditSpec.Op) (e : EFile) (h : fuelOKB fuel e ops = true) : FuelOK fuel e ops :=
  (fuelOK_iff fuel ops e).2 (alongB_sound (fun _ _ h => of_decide_eq_true h) ops e h)

theorem runOps_valid (fuel : Nat) (fp : Int) (ops : List EditSpec.Op) (h : Heap) (e : EFile) (R : RepF h fp e)
    (hi : Modfile.Edit.P.Inv e) (hv : Modfile.Edit.RunValidLive e (ops.map opM))
    (hm : ∀ op ∈ ops.map opM, Modfile.Edit.IsModOp op) (hf : FuelOK fuel e ops) :
    ∃ e' res h', Modfile.Edit.runOps applyMod e (ops.map opM) [] 0 = .done e' res ∧
      Drv.GenEdit.runOps fuel fp h ops [] = .done h' res ∧ RepF h' fp e' ∧ Modfile.Edit.P.Inv e' := by
  obtain ⟨e', res, hrun, hi'⟩ := Modfile.Edit.P.runOps_total_live (ops.map opM) e [] 0 hv hm hi
  have hrel := runOps_rel fuel fp ops h e [] 0 R (runOK_of_valid fuel ops e hi hv hf)
  rw [hrun] at hrel
  obtain ⟨h', h1, R'⟩ := hrel
  exact ⟨e', res, h', hrun, h1, R', hi'⟩

end ModVerif.Tie.FnEditSessionC

/-! ### reading a represented heap back -/

namespace ModVerif.Tie.FnEditSessionD
open ModVerif ModVerif.GoRt ModVerif.Generated.Edit ModVerif.Tie.FnEditRep
open ModVerif.Modfile.Edit (EFile)
open ModVerif.Tie.FnEditStmtEx (zeroIds)
open ModVerif.Drv.GenEdit (fileM getAll)

theorem toOption_ok {ε α : Type} (a : α) : (Except.ok a : Except ε α).toOption = some a := rfl

theorem getAll_rep {α β : Type} {objs : List α} {g : β → α} {id : β → Nat} {nl : Nat} :
    ∀ {ps : List Int} {xs : List β}, REntsL objs g id nl ps xs → getAll objs ps = some (xs.map g)
  | [], [], _ => rfl
  | p :: ps, x :: xs, h => by
    have ih := getAll_rep h.2
    unfold getAll at ih ⊢
    rw [List.mapM_cons, h.1.1, ih]
    rfl
  | [], _ :: _, h => h.elim
  | _ :: _, [], h => h.elim

theorem ropt_ne {α β : Type} {objs : List α} {g : β → α} {id : β → Nat} {nl : Nat} {p : Int} {x : β}
    (h : ROpt objs g id nl p (some x)) : (p == 0) = false := by
  have := heapGet_pos h.1
  simp only [beq_eq_false_iff_ne, ne_eq]
  omega

/-- `k`: what the driver reads off the object -/
theorem readOpt_rep {α β γ : Type} {objs : List α} {g : β → α} {id : β → Nat} {nl : Nat} {p : Int} {x : Option β}
    (k : α → γ) (h : ROpt objs g id nl p x) :
    (if (p == 0) = true then some none else do
      let m ← (heapGet objs p).toOption
      pure (some (k m))) = some (x.map fun b => k (g b)) := by
  cases x with
  | none => simp only [ROpt] at h; simp [h]
  | some b =>
    simp only [ropt_ne h, Bool.false_eq_true, if_false, h.1, toOption_ok, Option.map_some]
    rfl

/-- typed `lineId`s are not read back, hence `zeroIds` -/
theorem fileM_rep {h : Heap} {fp : Int} {e : EFile} (R : RepF h fp e) : fileM h fp = some (zeroIds e.f) := by
  obtain ⟨o, ho, RA⟩ := R
  have hsyn := RA.syn.synM
  have hgd := getAll_rep RA.godebug.rel
  have hrq := getAll_rep RA.require.rel
  have hex := getAll_rep RA.exclude.rel
  have hrp := getAll_rep RA.replace.rel
  have hrt := getAll_rep RA.retract.rel
  have htl := getAll_rep RA.tool.rel
  have hmod := readOpt_rep (fun m : Module =>
    ({ mod := { path := m.Mod.Path, version := m.Mod.Version }, deprecated := m.Deprecated, lineId := 0 } : Modfile.Module)) RA.module
  have hgo := readOpt_rep (fun g : Go => ({ version := g.Version, lineId := 0 } : Modfile.Go)) RA.go
  have htc := readOpt_rep (fun t : Toolchain => ({ name := t.Name, lineId := 0 } : Modfile.Toolchain)) RA.toolchain
  unfold fileM
  simp only [bind, pure] at hmod hgo htc ⊢
  simp only [ho, toOption_ok, hsyn, hmod, hgo, htc, hgd, hrq, hex, hrp, hrt, htl, Option.bind_some,
    List.map_map]
  rfl

open ModVerif.Drv.Edit.M (dumpMod encSorted)

theorem encSorted_congr {α : Type} {enc : α → String} {l' : List α} (l : List α) (h : l'.map enc = l.map enc) :
    encSorted enc l' = encSorted enc l := by
  unfold encSorted
  have h1 : l'.isEmpty = l.isEmpty := by
    have := congrArg List.length h
    simp only [List.length_map] at this
    cases l' <;> cases l <;> simp_all
  rw [h1, h]

theorem dumpMod_zeroIds (f : Modfile.File) : dumpMod (zeroIds f) = dumpMod f := by
  unfold dumpMod zeroIds
  simp only [Option.map_map]
  rw [encSorted_congr f.godebug, encSorted_congr f.require, encSorted_congr f.exclude, encSorted_congr f.replace,
    encSorted_congr f.retract, encSorted_congr f.tool]
  · rfl
  all_goals (rw [List.map_map]; rfl)

theorem zeroIds_syn (f : Modfile.File) : (zeroIds f).syn = f.syn := rfl

end ModVerif.Tie.FnEditSessionD

/-! ### Boolean tests of the hypotheses of the session ties; the two sessions as values -/

namespace ModVerif.Tie.FnEditSessionE
open ModVerif ModVerif.GoRt ModVerif.Generated.Edit ModVerif.Tie.FnEditRep
open ModVerif.Tie.FnEditSessionA ModVerif.Tie.FnEditSessionB ModVerif.Tie.FnEditSessionC
open ModVerif.Modfile.Edit (EFile EditErr applyMod SessionResult Along alongB alongB_sound)
open ModVerif.Tie.FnEditSetQ (InTree)
open ModVerif.Tie.FnEditStmtEx (zeroIds optOK optOK_sound)

def scalarsLiveB (e : EFile) : Bool :=
  optOK (·.lineId) e.f.module && optOK (·.lineId) e.f.go && optOK (·.lineId) e.f.toolchain

theorem scalarsLiveB_sound {e : EFile} (h : scalarsLiveB e = true) : ScalarsLive e := by
  simp only [scalarsLiveB, Bool.and_eq_true] at h
  exact ⟨optOK_sound h.1.1, optOK_sound h.1.2, optOK_sound h.2⟩

def isSepB : EditSpec.Op → Bool
  | .setRequireSeparateIndirect _ => true
  | _ => false

def stepOKB (fuel : Nat) (e : EFile) (op : EditSpec.Op) : Bool :=
  decide (stepFuel e op ≤ fuel) && scalarsLiveB e && (!isSepB op || decide (InTree e))

theorem stepOKB_sound {fuel : Nat} {e : EFile} {op : EditSpec.Op} (h : stepOKB fuel e op = true) : StepOK fuel e op := by
  simp only [stepOKB, Bool.and_eq_true, decide_eq_true_eq, Bool.or_eq_true, Bool.not_eq_true'] at h
  refine ⟨h.1.1, scalarsLiveB_sound h.1.2, fun w hw => ?_⟩
  subst hw
  rcases h.2 with h2 | h2
  · cases h2
  · exact h2

def runOKB (fuel : Nat) : EFile → List EditSpec.Op → Bool := alongB opM applyMod (stepOKB fuel)

theorem runOKB_sound (fuel : Nat) (ops : List EditSpec.Op) (e : EFile) (h : runOKB fuel e ops = true) : RunOK fuel e ops :=
  (runOK_iff fuel ops e).2 (alongB_sound (fun _ _ => stepOKB_sound) ops e h)

def FinalFuel (fuel : Nat) (e : EFile) (ops : List EditSpec.Op) : Prop :=
  ∀ e' res, Modfile.Edit.runOps applyMod e (ops.map opM) [] 0 = .done e' res → stepFuel e' .cleanup ≤ fuel

def finalFuelB (fuel : Nat) (e : EFile) (ops : List EditSpec.Op) : Bool :=
  match Modfile.Edit.runOps applyMod e (ops.map opM) [] 0 with
  | .done e' _ => decide (stepFuel e' .cleanup ≤ fuel)
  | _ => true

theorem finalFuelB_sound {fuel : Nat} {e : EFile} {ops : List EditSpec.Op} (h : finalFuelB fuel e ops = true) :
    FinalFuel fuel e ops := by
  intro e' res hx
  simp only [finalFuelB, hx, decide_eq_true_eq] at h
  exact h

def noBlockSuffixB (fs : Modfile.FileSyntax) : Bool :=
  fs.stmts.all fun x => match x with
    | .lineBlock b => b.comments.suffix.isEmpty
    | _ => true

theorem noBlockSuffixB_sound {fs : Modfile.FileSyntax} (h : noBlockSuffixB fs = true) : Modfile.Edit.NoBlockSuffix fs := by
  intro b hb
  simp only [noBlockSuffixB, List.all_eq_true] at h
  have := h _ hb
  simpa using this

def isModOpB : Modfile.Edit.Op → Bool
  | .addUse _ _ => false
  | .addNewUse _ _ => false
  | .dropUse _ => false
  | .setUse _ _ => false
  | _ => true

theorem isModOpB_sound {ops : List Modfile.Edit.Op} (h : ops.all isModOpB = true) : ∀ op ∈ ops, Modfile.Edit.IsModOp op := by
  intro op hop
  have := List.all_eq_true.1 h op hop
  cases op <;> first | trivial | cases this

theorem of_parsed {P : Modfile.File → Prop} (file : Bytes) (b : Modfile.File → Bool) (hb : ∀ f, b f = true → P f)
    (h : (match Modfile.parseStrict (B "go.mod") file none with
      | .ok f => b f
      | .error _ => true) = true) : ∀ f, Modfile.parseStrict (B "go.mod") file none = .ok f → P f := by
  intro f hp
  rw [hp] at h
  exact hb f h

/-- The Boolean test `b` holds of the strict parse of `file`, if there is one.  A definition, so that `b` is an argument of
    a constant: `of_parsed` applied to `b := fun f => …` has the redex `(fun f => …) f` under its `match`, and the kernel
    compares that with an evaluated (beta-normal) statement by evaluating the `match` once more, on the slow `B "…"` form
    of the text. -/
def parsedTest (file : Bytes) (b : Modfile.File → Bool) : Bool :=
  match Modfile.parseStrict (B "go.mod") file none with
  | .ok f => b f
  | .error _ => true

theorem parsedTest_sound {P : Modfile.File → Prop} (file : Bytes) (b : Modfile.File → Bool) (hb : ∀ f, b f = true → P f)
    (h : parsedTest file b = true) : ∀ f, Modfile.parseStrict (B "go.mod") file none = .ok f → P f :=
  of_parsed file b hb h

/-- `none`: parse error, panic, bad operation or bad heap -/
def genSession (fuel : Nat) (file : Bytes) (ops : List EditSpec.Op) : Option (List Bool × Modfile.File) :=
  match Modfile.parseStrict (B "go.mod") file none with
  | .error _ => none
  | .ok f =>
    match Drv.GenEdit.runOps fuel (Drv.GenEdit.load f).2 (Drv.GenEdit.load f).1 ops [] with
    | .done h res =>
      match File_Cleanup fuel (Drv.GenEdit.load f).2 h with
      | .ok (_, h') => (Drv.GenEdit.fileM h' (Drv.GenEdit.load f).2).map fun g => (res, g)
      | .error _ => none
    | _ => none

/-- typed `lineId`s zeroed, as `fileM` reads them back -/
def modelSession (file : Bytes) (ops : List EditSpec.Op) : Option (List Bool × Modfile.File) :=
  match Modfile.parseStrict (B "go.mod") file none with
  | .error _ => none
  | .ok f =>
    match Modfile.Edit.runOps applyMod (Modfile.Edit.load f) (ops.map opM) [] 0 with
    | .done e res => some (res, zeroIds (Modfile.Edit.cleanup e).f)
    | _ => none

def genPanic (fuel : Nat) (file : Bytes) (ops : List EditSpec.Op) : Option String :=
  match Modfile.parseStrict (B "go.mod") file none with
  | .error _ => none
  | .ok f =>
    match Drv.GenEdit.runOps fuel (Drv.GenEdit.load f).2 (Drv.GenEdit.load f).1 ops [] with
    | .panic n => some n
    | _ => none

def modelPanic (file : Bytes) (ops : List EditSpec.Op) : Option Nat :=
  match Modfile.parseStrict (B "go.mod") file none with
  | .error _ => none
  | .ok f =>
    match Modfile.Edit.runOps applyMod (Modfile.Edit.load f) (ops.map opM) [] 0 with
    | .panic j => some j
    | _ => none

end ModVerif.Tie.FnEditSessionE

namespace ModVerif.Tie.FnEditSessionF
open ModVerif ModVerif.GoRt ModVerif.Generated.Edit
open ModVerif.Drv.GenEdit (applyOp)

/-- the driver-side counterpart of `Edit.P.done_no_panic` -/
theorem genDone_steps (fuel : Nat) (fp : Int) (ops : List EditSpec.Op) (h : Heap) (acc : List Bool) (h' : Heap) (res : List Bool)
    (hd : Drv.GenEdit.runOps fuel fp h ops acc = .done h' res) (pre : List EditSpec.Op) (op : EditSpec.Op) (post : List EditSpec.Op)
    (hs : ops = pre ++ op :: post) :
    ∃ h1 r1, Drv.GenEdit.runOps fuel fp h pre acc = .done h1 r1 ∧ ∃ b h2, applyOp fuel fp h1 op = .ok (some b, h2) :=
  FnEditSessionA.done_steps (run := Drv.GenEdit.runOps fuel fp) (step := applyOp fuel fp) (fun _ _ => rfl) (fun _ _ _ _ => rfl)
    ops h acc h' res hd pre op post hs

end ModVerif.Tie.FnEditSessionF
