/-
  Version fixer and `retract` directives: from an error-free run of the directive layer over a printable tree to the
  acceptance of its formatted text by the strict parser WITH the fixer and its deferred `fixRetract` pass
  (`EditReparse.reparse_of_first_run` is the same without a fixer).
-/
import ModVerif.Proofs.ModfileFmtRet
import ModVerif.Proofs.ModfileEolReplay
namespace ModVerif.Proofs.ModfileFmtRet
open ModVerif ModVerif.Modfile ModVerif.Proofs.ModfileC20
open ModVerif.Proofs.ModfileFmtDir ModVerif.Proofs.ModfileEol ModVerif.Proofs.ModfileFmtTree

/-- the interval tokens start with a valid version or with `[`, not with the word `retract` -/
theorem frArgs_of_split {l : Line} {keep args rest : List Bytes} {vi : VersionInterval}
    (htok : l.token = keep ++ args) (hk : keep = [] ∨ keep = [B "retract"])
    (hpv : parseVersionInterval [] args (some dontFixRetract) = (args, .ok (vi, rest)))
    (hv : VerOK vi.low) : frArgs l = (keep, args) := by
  rcases hk with rfl | rfl
  · have hret : B "retract" = [114, 101, 116, 114, 97, 99, 116] := by decide +kernel
    obtain ⟨t0, r0, rfl, hne⟩ : ∃ t0 r0, args = t0 :: r0 ∧ (t0 == B "retract") = false := by
      rcases ModfileFmtFix.parseVersionInterval_shape hpv with ⟨t0, -, -, -, -, -, e⟩ | ⟨t1, t2, e, -⟩
      · obtain ⟨d, t, hd, -⟩ := ModfileFmtFix.valid_head hv
        exact ⟨_, _, e, by rw [hd, hret]; rfl⟩
      · exact ⟨_, _, e, by rw [hret]; rfl⟩
    unfold frArgs
    rw [htok, List.nil_append]
    simp only [hne, Bool.false_eq_true, if_false]
  · unfold frArgs
    rw [htok]
    simp

/-- ★ clause 3 with a fixer and retract directives, from a first run over any printable tree `T`
    (`Props.C02.format_preserves_directives_fix_partial`).  The deferred `fixRetract` pass of the re-parse finds every retract
    line by its identity (`parse_ids_nodup`), re-parses the interval with `fx`, which sees its own image, and writes back the
    tokens that are there.  `himg` holds of an accepted file: `fixRetract` wrote the fixer's results into the tree, and the
    fixer is idempotent on its image. -/
theorem reparse_of_first_run_fix (name : Bytes) (T : FileSyntax) (fx : Fixer) (st1 : AddState)
    (hfix : FixOK (some fx)) (hne : FixNE (some fx))
    (hwf : EWFStmts T.stmts) (hnl : ∀ s ∈ T.stmts, NlOK s) (hc : T.comments.before = [])
    (ha : addStmts (some fx) true { file := { syn := T } } T.stmts = (st1, T.stmts))
    (he : st1.errsRev = []) (hw : WellFormed st1.file)
    (hmod : (values st1.file).retract ≠ [] → ((values st1.file).module.getD []) ≠ [])
    (himg : ∀ vi ∈ (values st1.file).retract,
      fx ((values st1.file).module.getD []) vi.low = .ok vi.low ∧
      fx ((values st1.file).module.getD []) vi.high = .ok vi.high) :
    ∃ f', parseToFile name (format T) (some fx) true = .ok f' ∧ values f' = values st1.file := by
  obtain ⟨_, _, _, _, hrep⟩ := addStmts_replayE (some fx) hfix hne T.stmts _ st1 T.stmts ha he hw hwf hnl
  obtain ⟨t', hp', het'⟩ := reparse_ewf name T hwf hnl hc
  have hrel : t'.stmts.map eraseExpr = T.stmts.map normExprE := by
    have := congrArg FileSyntax.stmts het'
    simpa [eraseFile] using this
  have hsim0 : ModfileFmtDir.Sim ({ file := { syn := T } } : AddState) ({ file := { syn := t' } } : AddState) :=
    ⟨rfl, rfl, rfl⟩
  obtain ⟨st1', ha', hsim'⟩ := hrep _ t'.stmts hsim0 hrel
  have hvals := hsim'.vals
  have hw' : WellFormed st1'.file := wellFormed_of_values hvals hw
  -- what the second run recorded about its retract entries
  have htokin : RetTokIn [] (linesOf t'.stmts) st1'.file.retract := by
    have := addStmts_rettok (some fx) true t'.stmts { file := { syn := t' } }
    rwa [ha'] at this
  have hnodup : NodupIds t'.stmts := parse_ids_nodup hp'
  -- the state `fixRetract` runs on
  have hfr : fixRetract { st1' with file := { st1'.file with syn := { t' with stmts := t'.stmts } } } (some fx) =
      { st1' with file := { st1'.file with syn := { t' with stmts := t'.stmts } } } := by
    unfold fixRetract
    simp only
    cases hret : st1'.file.retract with
    | nil => rfl
    | cons r0 rs0 =>
      simp only
      have hretne : (values st1.file).retract ≠ [] := by
        rw [hvals]
        simp [values, hret]
      have hpne := hmod hretne
      cases hm : st1'.file.module with
      | none =>
        exfalso
        apply hpne
        rw [hvals]
        simp [values, hm]
      | some m =>
        have hP : (values st1.file).module.getD [] = m.mod.path := by
          rw [hvals]
          simp [values, hm]
        simp only
        rw [← hP]
        have hemp : ((values st1.file).module.getD []).isEmpty = false := by
          cases hh : (values st1.file).module.getD [] with
          | nil => exact absurd hh hpne
          | cons _ _ => rfl
        simp only [hemp, Bool.false_eq_true, if_false]
        have hloop := fixRetractLoop_fixpoint ((values st1.file).module.getD []) fx (r0 :: rs0)
          { t' with stmts := t'.stmts } st1'.errsRev hnodup (by
            intro r hr
            have hr' : r ∈ st1'.file.retract := by rw [hret]; exact hr
            rcases htokin r hr' with h0 | ⟨l, hl, hid, keep, args0, args, rest, htok, hk, hpv0⟩
            · cases h0
            · have hver := hw'.retract r hr'
              -- what the placeholder parse wrote parses to itself (valid bounds)
              have hpv := (ModfileFmtFix.parseVersionInterval_fix hpv0
                (Or.inr ⟨_, rfl, ModfileFmtFix.dontFixRetract_idem, hver.1, hver.2⟩)).1
              have hvi : r.interval ∈ (values st1.file).retract := by
                rw [hvals]
                simp only [values]
                exact List.mem_map_of_mem hr'
              have hfa := frArgs_of_split htok hk hpv hver.1
              refine ⟨l, hl, hid, rest, ?_⟩
              rw [hfa]
              exact pvi_fix_of_dontFix _ fx args r.interval rest hpv (himg _ hvi).1 (himg _ hvi).2)
        rw [hloop]
  refine ⟨{ st1'.file with syn := { t' with stmts := t'.stmts } }, ?_, ?_⟩
  · exact ModfileParseTo.parseToFile_ok_iff.2 ⟨t', st1', t'.stmts, hp', ha', by rw [hfr]; exact hsim'.errs', by rw [hfr]⟩
  · rw [values_syn, ← hvals]

end ModVerif.Proofs.ModfileFmtRet
