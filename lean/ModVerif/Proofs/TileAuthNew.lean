/-
  C10: `NewTiles` — the tiles a publisher is told to publish along any growth sequence `0 = n₀ ≤ … ≤ n_k = N`
  contain every tile a reader of tree `N` plans to fetch, with exactly the planned width.
-/
import ModVerif.Proofs.TileAuthFinal
namespace ModVerif.TileAuth
open ModVerif ModVerif.Tlog ModVerif.Tile ModVerif.TlogStore

theorem cnt_shift (h m L : Nat) : m >>> (h * L) = cnt h m L := by
  rw [Nat.shiftRight_eq_div_pow, Nat.mul_comm]; rfl

theorem cnt_div (h m L : Nat) : m / 2 ^ (h * L) = cnt h m L := by
  rw [Nat.mul_comm]; rfl

theorem cnt_mono (h L a b : Nat) (hab : a ≤ b) : cnt h a L ≤ cnt h b L := Nat.div_le_div_right hab

theorem cnt_pos_level (h m L : Nat) (hh : 0 < h) (hpos : 0 < cnt h m L) : L ≤ m.log2 := by
  unfold cnt at hpos
  have h1 : 2 ^ (L * h) ≤ m := by
    have := (Nat.le_div_iff_mul_le (Nat.two_pow_pos (L * h))).mp hpos
    omega
  have hm : m ≠ 0 := by have := Nat.two_pow_pos (L * h); omega
  have := (Nat.le_log2 hm).mpr h1
  have : L * 1 ≤ L * h := Nat.mul_le_mul_left _ hh
  omega

theorem newTilesLevel_full (h L old new n : Nat) (h1 : cnt h old L / 2 ^ h ≤ n) (h2 : n < cnt h new L / 2 ^ h) :
    ({ h := h, l := L, n := n, w := 2 ^ h } : Tile) ∈ newTilesLevel h L old new := by
  unfold newTilesLevel
  simp only [Nat.shiftRight_eq_div_pow, Nat.shiftLeft_eq, cnt_div]
  have hne : (cnt h old L == cnt h new L) = false := by
    simp only [beq_eq_false_iff_ne, ne_eq]
    intro e; rw [e] at h1; omega
  rw [hne]
  simp only [Bool.false_eq_true, ↓reduceIte]
  have hmem : ({ h := h, l := L, n := n, w := 2 ^ h } : Tile) ∈
      (List.range (cnt h new L / 2 ^ h - cnt h old L / 2 ^ h)).map fun i =>
        ({ h := h, l := L, n := cnt h old L / 2 ^ h + i, w := 2 ^ h } : Tile) := by
    rw [List.mem_map]
    exact ⟨n - cnt h old L / 2 ^ h, List.mem_range.mpr (by omega), by congr 1; omega⟩
  split
  · exact List.mem_append_left _ hmem
  · exact hmem

theorem newTilesLevel_partial (h L old new : Nat) (hne : cnt h old L ≠ cnt h new L)
    (hw : 0 < cnt h new L - cnt h new L / 2 ^ h * 2 ^ h) :
    ({ h := h, l := L, n := cnt h new L / 2 ^ h, w := cnt h new L - cnt h new L / 2 ^ h * 2 ^ h } : Tile) ∈
      newTilesLevel h L old new := by
  unfold newTilesLevel
  simp only [Nat.shiftRight_eq_div_pow, Nat.shiftLeft_eq, cnt_div]
  have hne' : (cnt h old L == cnt h new L) = false := by simpa using hne
  rw [hne']
  simp only [Bool.false_eq_true, ↓reduceIte]
  rw [if_pos hw]
  exact List.mem_append_right _ (by simp)

/-- the level loop reaches every non-empty level within its fuel -/
theorem newTilesF_spec (h old new : Nat) (hh : 0 < h) : ∀ f level, new.log2 + 2 ≤ f + level →
    ∃ ts, newTilesF h old new f level = .ok ts ∧
      ∀ L, level ≤ L → 0 < cnt h new L → ∀ t ∈ newTilesLevel h L old new, t ∈ ts := by
  intro f
  induction f with
  | zero =>
    intro level hf
    have hz : ¬ new >>> (h * level) > 0 := by
      rw [cnt_shift]
      intro hpos
      have := cnt_pos_level h new level hh hpos
      omega
    refine ⟨[], by simp only [newTilesF]; rw [if_neg hz], ?_⟩
    intro L hL hpos
    have := cnt_pos_level h new L hh hpos
    omega
  | succ f ih =>
    intro level hf
    by_cases hpos : new >>> (h * level) > 0
    · obtain ⟨rest, r1, r2⟩ := ih (level + 1) (by omega)
      refine ⟨newTilesLevel h level old new ++ rest, ?_, ?_⟩
      · simp only [newTilesF]
        rw [if_pos hpos, r1]
        rfl
      · intro L hL hp t ht
        by_cases hLl : L = level
        · subst hLl; exact List.mem_append_left _ ht
        · exact List.mem_append_right _ (r2 L (by omega) hp t ht)
    · refine ⟨[], by simp only [newTilesF]; rw [if_neg hpos], ?_⟩
      intro L hL hp
      exfalso
      apply hpos
      rw [cnt_shift]
      have : cnt h new L ≤ cnt h new level := by
        unfold cnt
        apply Nat.div_le_div_left _ (Nat.two_pow_pos _)
        exact Nat.pow_le_pow_right (by omega) (Nat.mul_le_mul_right _ hL)
      omega

theorem newTiles_spec (h old new : Nat) (hh : 0 < h) :
    ∃ ts, newTiles h old new = .ok ts ∧
      ∀ L, 0 < cnt h new L → ∀ t ∈ newTilesLevel h L old new, t ∈ ts := by
  obtain ⟨ts, t1, t2⟩ := newTilesF_spec h old new hh (new.log2 + 2) 0 (by omega)
  refine ⟨ts, ?_, fun L hp t ht => t2 L (Nat.zero_le _) hp t ht⟩
  unfold newTiles
  have : (h == 0) = false := by simp; omega
  rw [this]
  exact t1

/-- a discrete intermediate-value argument along a list -/
theorem cross (f : Nat → Nat) (n : Nat) : ∀ (l : List Nat) (a : Nat), f a ≤ n →
    (∃ b, (a :: l).getLast? = some b ∧ n < f b) → ∃ x y, (x, y) ∈ (a :: l).zip l ∧ f x ≤ n ∧ n < f y := by
  intro l
  induction l with
  | nil =>
    intro a ha hb
    obtain ⟨b, hb1, hb2⟩ := hb
    simp at hb1
    subst hb1; omega
  | cons c l ih =>
    intro a ha hb
    by_cases hc : n < f c
    · exact ⟨a, c, by simp, ha, hc⟩
    · obtain ⟨b, hb1, hb2⟩ := hb
      rw [List.getLast?_cons_cons] at hb1
      obtain ⟨x, y, h1, h2, h3⟩ := ih c (by omega) ⟨b, hb1, hb2⟩
      exact ⟨x, y, by rw [List.zip_cons_cons]; exact List.mem_cons_of_mem _ h1, h2, h3⟩

theorem le_last (ns : List Nat) (N : Nat) (hs : ns.Pairwise (· ≤ ·)) (hl : ns.getLast? = some N) :
    ∀ m ∈ ns, m ≤ N := by
  obtain ⟨ys, e⟩ := List.getLast?_eq_some_iff.mp hl
  subst e
  rw [List.pairwise_append] at hs
  intro m hm
  rcases List.mem_append.mp hm with h | h
  · exact hs.2.2 m h N (by simp)
  · simp at h; omega

theorem stdTile_published (h N : Nat) (hh : 0 < h) (ns : List Nat) (hs : ns.Pairwise (· ≤ ·))
    (h0 : ns.head? = some 0) (hl : ns.getLast? = some N) (L n : Nat) (hlt : n * 2 ^ h < cnt h N L) :
    ∃ a b ts, (a, b) ∈ ns.zip ns.tail ∧ newTiles h a b = .ok ts ∧ stdTile h N L n ∈ ts := by
  cases ns with
  | nil => simp at h0
  | cons a0 l =>
    simp only [List.head?_cons, Option.some.injEq] at h0
    subst h0
    simp only [List.tail_cons]
    have hp := Nat.two_pow_pos h
    have hc0 : cnt h 0 L = 0 := by simp [cnt]
    by_cases hfull : (n + 1) * 2 ^ h ≤ cnt h N L
    · -- a full tile: published when the number of full tiles of its level passes `n`
      obtain ⟨x, y, m1, m2, m3⟩ := cross (fun m => cnt h m L / 2 ^ h) n l 0 (by simp [hc0])
        ⟨N, hl, by
          show n < cnt h N L / 2 ^ h
          rw [Nat.lt_iff_add_one_le, Nat.le_div_iff_mul_le hp]; exact hfull⟩
      obtain ⟨ts, t1, t2⟩ := newTiles_spec h x y hh
      refine ⟨x, y, ts, m1, t1, ?_⟩
      rw [stdTile_full_w h N L n hfull]
      apply t2 L
      · have : 0 < cnt h y L / 2 ^ h := by omega
        exact Nat.pos_of_div_pos this
      · exact newTilesLevel_full h L x y n m2 m3
    · -- the partial tile: published at the step that brings its level to the final count
      have hCpos : 0 < cnt h N L := by omega
      obtain ⟨x, y, m1, m2, m3⟩ := cross (fun m => cnt h m L) (cnt h N L - 1) l 0 (by simp [hc0])
        ⟨N, hl, by show cnt h N L - 1 < cnt h N L; omega⟩
      have hyN : y ≤ N := le_last (0 :: l) N hs hl y (List.mem_cons_of_mem _ (List.of_mem_zip m1).2)
      have hcy : cnt h y L = cnt h N L := by
        have := cnt_mono h L y N hyN; omega
      obtain ⟨ts, t1, t2⟩ := newTiles_spec h x y hh
      refine ⟨x, y, ts, m1, t1, ?_⟩
      have hn : cnt h N L / 2 ^ h = n := by
        apply Nat.div_eq_of_lt_le
        · omega
        · omega
      have : stdTile h N L n =
          { h := h, l := L, n := cnt h y L / 2 ^ h, w := cnt h y L - cnt h y L / 2 ^ h * 2 ^ h } := by
        rw [stdTile_of_lt h N L n hlt, hcy, hn]
        congr 1
        rw [Nat.add_mul] at hfull
        omega
      rw [this]
      apply t2 L (by omega)
      apply newTilesLevel_partial h L x y (by omega)
      rw [hcy, hn]; omega

/-- ★ `NewTiles` is sufficient: along any growth sequence ending at `N`, every tile that `ReadHashes` plans to fetch
    for tree `N` (any requested indexes) is among the tiles of some step, with exactly the planned width. -/
theorem newTiles_sufficient (h N : Nat) (hh : 1 ≤ h) (hR : N < 2 ^ 62) (ns : List Nat) (hs : ns.Pairwise (· ≤ ·))
    (h0 : ns.head? = some 0) (hl : ns.getLast? = some N) (idx : List Nat) (p : Plan) (hp : plan h N idx = .ok p) :
    ∀ t ∈ p.tiles, ∃ a b ts, (a, b) ∈ ns.zip ns.tail ∧ newTiles h a b = .ok ts ∧ t ∈ ts := by
  obtain ⟨cs, ok⟩ := planOK_of_ok h N hh hR idx p hp
  intro t ht
  obtain ⟨L, n, e, hlt⟩ := ok.inv.std t ht
  rw [e]
  exact stdTile_published h N (by omega) ns hs h0 hl L n hlt

end ModVerif.TileAuth
