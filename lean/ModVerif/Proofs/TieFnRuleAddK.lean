/-
  Helper lemmas for Tie/FnRuleAdd.lean: LOADING.  The driver's `parseSynI` (Drv/GenRule.lean: the hand model's
  parser, its tree loaded into the heap, the map from line pointers to line ids recorded on the way) produces a heap
  whose syntax graph represents the parsed tree under `ι = idOf (idsOf name data)`, with `ι` injective on the line
  pointers (`parseSynI_rep`).
-/
import ModVerif.Proofs.TieFnRuleRep
import ModVerif.Proofs.ModfileC20Ids
import ModVerif.Proofs.ModfileC20Stmts
import ModVerif.Model.Modfile.Comments
import ModVerif.Proofs.ModfileRun

/-
  Helper lemmas for Tie/FnRuleAdd.lean: a fact about the hand model's PARSER that the regenerated directive layer
  relies on (`x.Token[0]` would panic otherwise): in a parsed tree every statement is a comment block, a line with at
  least one token, or a line block with at least one token (`parse_ne`).
-/
namespace ModVerif.Tie.FnRuleAddJ
open ModVerif ModVerif.Modfile

/-- a statement the directive layer can process: no stray parenthesis, lines and blocks have a token -/
def StmtNE : Expr → Prop
  | .lparen _ => False
  | .rparen _ => False
  | .line l => l.token ≠ []
  | .lineBlock b => b.token ≠ []
  | .commentBlock _ => True

theorem ne_setComments (x : Expr) (c : Comments) (h : StmtNE x) : StmtNE (x.setComments c) := by
  cases x <;> first | exact h | trivial

open ModVerif.Proofs.ModfileRun in
theorem PStmt.ne {T E : Input → Input → Prop} {i : Input} {s e : Position} {acc : List Bytes} {x : Expr} {i' : Input}
    (h : PStmt T E i s e acc x i') (hacc : acc ≠ []) : StmtNE x := by
  induction h with
  | eol _ _ | empty _ _ _ _ _ _ => simpa [StmtNE] using hacc
  | block _ _ _ hb => show _ ≠ []; rw [hb.header.1]; simpa using hacc
  | parens _ _ _ _ _ _ ih | lparen _ _ _ _ _ ih | tok _ _ _ _ ih => exact ih (by simp)

open ModVerif.Proofs.ModfileRun in
theorem parseFile_ne {data : Bytes} {stmts : List Expr} {i' : Input} (h : parseFile data = .ok (stmts, i')) :
    ∀ x ∈ stmts, StmtNE x := by
  obtain ⟨i0, _, hrun⟩ := parseFile_run h
  exact PFile.all (fun _ => trivial) ne_setComments (fun _ hs => PStmt.ne hs (by simp)) hrun (by intro x hx; cases hx)

theorem assignComments_ne (f : FileSyntax) (cs : List Comment) (h : ∀ x ∈ f.stmts, StmtNE x) :
    ∀ x ∈ (assignComments f cs).stmts, StmtNE x :=
  Proofs.ModfileC20.assignComments_all _ (fun s => by cases s <;> simp [Proofs.ModfileC20.exprBare, StmtNE, Proofs.ModfileC20.lineBare]) f cs h

theorem parse_ne {name data : Bytes} {t : FileSyntax} (h : parse name data = .ok t) : ∀ x ∈ t.stmts, StmtNE x := by
  unfold parse at h
  cases hp : parseFile data with
  | error e => simp [hp, bind, Except.bind] at h
  | ok v =>
    simp only [hp, bind, Except.bind, Except.ok.injEq] at h
    subst h
    exact assignComments_ne _ _ (parseFile_ne (show parseFile data = .ok (v.1, v.2) by rw [hp]))

end ModVerif.Tie.FnRuleAddJ

namespace ModVerif.Tie.FnRuleAddK
open ModVerif ModVerif.GoRt ModVerif.Generated ModVerif.Tie.FnRuleRep ModVerif.Tie.FnRuleAddJ
open ModVerif.Drv.GenRule (Ld idOf idsOf parseSynI)
open ModVerif.Modfile.Edit (treeIds)
open ModVerif.Proofs.ModfileC20 (linesOf)

theorem lookup_of_mem {α β : Type} [BEq α] [LawfulBEq α] : ∀ {l : List (α × β)} {a : α} {b : β},
    (l.map (·.1)).Nodup → (a, b) ∈ l → l.lookup a = some b
  | [], _, _, _, h => by cases h
  | (a', b') :: l, a, b, hn, h => by
    simp only [List.map_cons, List.nodup_cons] at hn
    rcases List.mem_cons.1 h with e | h'
    · cases e; simp [List.lookup]
    · have hne : a ≠ a' := by
        intro e; subst e
        exact hn.1 (List.mem_map.2 ⟨(a, b), h', rfl⟩)
      have : (a == a') = false := by simpa using hne
      simp only [List.lookup, this]
      exact lookup_of_mem hn.2 h'

theorem nodup_reverse' {α : Type} {l : List α} : l.reverse.Nodup ↔ l.Nodup := by
  unfold List.Nodup
  rw [List.pairwise_reverse]
  constructor <;> intro h <;> exact h.imp (fun hab => Ne.symm hab)

theorem key_unique {α β : Type} : ∀ {l : List (α × β)} {a a' : α} {b : β},
    (l.map (·.2)).Nodup → (a, b) ∈ l → (a', b) ∈ l → a = a'
  | [], _, _, _, _, h, _ => by cases h
  | (x, y) :: l, a, a', b, hn, h, h' => by
    simp only [List.map_cons, List.nodup_cons] at hn
    simp only [List.mem_cons, Prod.mk.injEq] at h h'
    rcases h with ⟨rfl, rfl⟩ | h1 <;> rcases h' with ⟨rfl, e2⟩ | h1'
    · rfl
    · exact absurd (List.mem_map.2 ⟨(a', b), h1', rfl⟩) hn.1
    · exact absurd (List.mem_map.2 ⟨(a, y), by rw [← e2]; exact h1, rfl⟩) hn.1
    · exact key_unique hn.2 h1 h1'

def KeysOK (s : Ld) : Prop := s.ids.map (·.1) = (List.range s.h.lines.length).reverse.map (fun i => ((i + 1 : Nat) : Int))

theorem Ld_line_eq (s : Ld) (l : Modfile.Line) :
    s.line l = ({ h := { s.h with lines := s.h.lines ++ [lineG l] }, ids := (((s.h.lines.length + 1 : Nat) : Int), l.id) :: s.ids },
      ((s.h.lines.length + 1 : Nat) : Int)) := rfl

structure Grow (s s' : Ld) : Prop where
  lines : s.h.lines <+: s'.h.lines
  blocks : s.h.blocks <+: s'.h.blocks
  cbs : s.h.cbs <+: s'.h.cbs
  files : s'.h.files = s.h.files
  ids : ∃ extra, s'.ids = extra ++ s.ids
  keys : KeysOK s → KeysOK s'

theorem Grow.refl (s : Ld) : Grow s s := ⟨List.prefix_refl _, List.prefix_refl _, List.prefix_refl _, rfl, ⟨[], rfl⟩, id⟩

theorem Grow.trans {a b c : Ld} (h1 : Grow a b) (h2 : Grow b c) : Grow a c :=
  ⟨h1.lines.trans h2.lines, h1.blocks.trans h2.blocks, h1.cbs.trans h2.cbs, h2.files.trans h1.files,
    (by obtain ⟨x, hx⟩ := h1.ids; obtain ⟨y, hy⟩ := h2.ids; exact ⟨y ++ x, by rw [hy, hx, List.append_assoc]⟩),
    fun k => h2.keys (h1.keys k)⟩

theorem Grow.mem_ids {s s' : Ld} (g : Grow s s') {q : Int × Nat} (hq : q ∈ s.ids) : q ∈ s'.ids := by
  obtain ⟨x, hx⟩ := g.ids; rw [hx]; exact List.mem_append_right _ hq

theorem grow_line (s : Ld) (l : Modfile.Line) : Grow s (s.line l).1 := by
  rw [Ld_line_eq]
  refine ⟨List.prefix_append _ _, List.prefix_refl _, List.prefix_refl _, rfl, ⟨[_], rfl⟩, ?_⟩
  intro k
  unfold KeysOK at k ⊢
  simp only [List.map_cons, List.length_append, List.length_singleton, List.range_succ, List.reverse_append, List.reverse_singleton,
    List.singleton_append, k]

/-- what loading a statement list yields, for every later heap `hf` and map `ι` that respects the recorded ids -/
def Later (s' : Ld) (hf : Rule.Heap) (ι : Int → Nat) : Prop :=
  s'.h.lines <+: hf.lines ∧ s'.h.blocks <+: hf.blocks ∧ s'.h.cbs <+: hf.cbs ∧ ∀ q ∈ s'.ids, ι q.1 = q.2

theorem Later.mono {s s' : Ld} (g : Grow s s') {hf : Rule.Heap} {ι : Int → Nat} (l : Later s' hf ι) : Later s hf ι :=
  ⟨g.lines.trans l.1, g.blocks.trans l.2.1, g.cbs.trans l.2.2.1, fun q hq => l.2.2.2 q (g.mem_ids hq)⟩

theorem load_line (s : Ld) (l : Modfile.Line) {hf : Rule.Heap} {ι : Int → Nat} (lt : Later (s.line l).1 hf ι) :
    RLine ι hf (s.line l).2 l := by
  rw [Ld_line_eq] at lt ⊢
  obtain ⟨h1, _, _, h4⟩ := lt
  exact ⟨ModVerif.Tie.FnParseHeap.heapGet_prefix h1 (heapGet_alloc_new _ _), h4 _ List.mem_cons_self⟩

theorem load_lines : ∀ (ls : List Modfile.Line) (s : Ld),
    Grow s (s.lines ls).1 ∧
    (s.lines ls).1.ids.map (·.2) = (ls.map (·.id)).reverse ++ s.ids.map (·.2) ∧
    (s.lines ls).1.h.blocks = s.h.blocks ∧ (s.lines ls).1.h.cbs = s.h.cbs ∧
    ∀ hf ι, Later (s.lines ls).1 hf ι → RLines ι hf (s.lines ls).2 ls
  | [], s => ⟨Grow.refl s, by simp [Ld.lines], rfl, rfl, fun _ _ _ => trivial⟩
  | l :: rest, s => by
    obtain ⟨g2, v2, b2, c2, r2⟩ := load_lines rest (s.line l).1
    have g1 := grow_line s l
    refine ⟨g1.trans g2, ?_, ?_, ?_, ?_⟩
    · show ((s.line l).1.lines rest).1.ids.map (·.2) = _
      rw [v2, Ld_line_eq]; simp
    · show ((s.line l).1.lines rest).1.h.blocks = _
      rw [b2, Ld_line_eq]
    · show ((s.line l).1.lines rest).1.h.cbs = _
      rw [c2, Ld_line_eq]
    · intro hf ι lt
      exact ⟨load_line s l (lt.mono g2), r2 hf ι lt⟩

def FreshB (n n' : Nat) (es : List Rule.Expr) : Prop :=
  (blockPtrs es).Nodup ∧ ∀ p ∈ blockPtrs es, n < p.toNat ∧ p.toNat ≤ n'

theorem load_stmt (x : Modfile.Expr) (hx : StmtNE x) (s : Ld) :
    Grow s (s.stmt x).1 ∧
    (s.stmt x).1.ids.map (·.2) = ((linesOf [x]).map (·.id)).reverse ++ s.ids.map (·.2) ∧
    FreshB s.h.blocks.length (s.stmt x).1.h.blocks.length [(s.stmt x).2] ∧
    ∀ hf ι, Later (s.stmt x).1 hf ι → RExpr ι hf (s.stmt x).2 x := by
  cases x with
  | commentBlock c =>
    refine ⟨⟨List.prefix_refl _, List.prefix_refl _, List.prefix_append _ _, rfl, ⟨[], rfl⟩, id⟩, by simp [Ld.stmt],
      ⟨by simp [Ld.stmt, blockPtrs], by simp [Ld.stmt, blockPtrs]⟩, ?_⟩
    intro hf ι lt
    exact ModVerif.Tie.FnParseHeap.heapGet_prefix lt.2.2.1 (heapGet_alloc_new _ _)
  | line l =>
    refine ⟨grow_line s l, by simp [Ld.stmt, Ld_line_eq], ⟨by simp [Ld.stmt, blockPtrs], by simp [Ld.stmt, blockPtrs]⟩, ?_⟩
    intro hf ι lt
    exact load_line s l lt
  | lineBlock b =>
    obtain ⟨g, v, hb, hc, r⟩ := load_lines b.lines s
    have hS : (s.stmt (.lineBlock b)) =
        ({ (s.lines b.lines).1 with h := { (s.lines b.lines).1.h with blocks := (s.lines b.lines).1.h.blocks ++ [blockG b (s.lines b.lines).2] } },
          .LineBlock (((s.lines b.lines).1.h.blocks.length + 1 : Nat) : Int)) := rfl
    rw [hS]
    refine ⟨⟨g.lines, g.blocks.trans (List.prefix_append _ _), g.cbs, g.files, g.ids, g.keys⟩, ?_, ⟨by simp [blockPtrs], ?_⟩, ?_⟩
    · show (s.lines b.lines).1.ids.map (·.2) = _
      rw [v]; simp
    · intro p hp
      simp only [blockPtrs, List.mem_singleton] at hp
      subst hp
      simp only [List.length_append, List.length_singleton, hb]
      omega
    · intro hf ι lt
      refine ⟨_, ModVerif.Tie.FnParseHeap.heapGet_prefix lt.2.1 (heapGet_alloc_new _ _), r hf ι ⟨lt.1, ?_, lt.2.2.1, lt.2.2.2⟩⟩
      exact (List.prefix_append _ _).trans lt.2.1
  | lparen c => exact hx.elim
  | rparen c => exact hx.elim

theorem blockPtrs_cons (e : Rule.Expr) (es : List Rule.Expr) : blockPtrs (e :: es) = blockPtrs [e] ++ blockPtrs es := by
  cases e <;> simp [blockPtrs]

theorem load_stmts : ∀ (xs : List Modfile.Expr), (∀ x ∈ xs, StmtNE x) → ∀ (s : Ld),
    Grow s (s.stmts xs).1 ∧
    (s.stmts xs).1.ids.map (·.2) = ((linesOf xs).map (·.id)).reverse ++ s.ids.map (·.2) ∧
    FreshB s.h.blocks.length (s.stmts xs).1.h.blocks.length (s.stmts xs).2 ∧
    ∀ hf ι, Later (s.stmts xs).1 hf ι → RStmts ι hf (s.stmts xs).2 xs
  | [], _, s => ⟨Grow.refl s, by simp [Ld.stmts], ⟨by simp [Ld.stmts, blockPtrs], by simp [Ld.stmts, blockPtrs]⟩, fun _ _ _ => trivial⟩
  | x :: rest, hne, s => by
    obtain ⟨g1, v1, f1, r1⟩ := load_stmt x (hne x List.mem_cons_self) s
    obtain ⟨g2, v2, f2, r2⟩ := load_stmts rest (fun y hy => hne y (List.mem_cons_of_mem _ hy)) (s.stmt x).1
    have hS : s.stmts (x :: rest) = (((s.stmt x).1.stmts rest).1, (s.stmt x).2 :: ((s.stmt x).1.stmts rest).2) := rfl
    rw [hS]
    refine ⟨g1.trans g2, ?_, ?_, ?_⟩
    · show ((s.stmt x).1.stmts rest).1.ids.map (·.2) = _
      rw [v2, v1]
      have : linesOf (x :: rest) = linesOf [x] ++ linesOf rest := by
        cases x <;> simp [linesOf, Modfile.FileSyntax.allLines]
      rw [this]; simp
    · show FreshB s.h.blocks.length ((s.stmt x).1.stmts rest).1.h.blocks.length ((s.stmt x).2 :: ((s.stmt x).1.stmts rest).2)
      have hle1 : s.h.blocks.length ≤ (s.stmt x).1.h.blocks.length := g1.blocks.length_le
      have hle2 : (s.stmt x).1.h.blocks.length ≤ ((s.stmt x).1.stmts rest).1.h.blocks.length := g2.blocks.length_le
      constructor
      · rw [blockPtrs_cons, List.nodup_append]
        refine ⟨f1.1, f2.1, ?_⟩
        intro a ha b hb e
        have := (f1.2 a ha).2
        have := (f2.2 b hb).1
        subst e; omega
      · intro p hp
        rw [blockPtrs_cons, List.mem_append] at hp
        rcases hp with hp | hp
        · have := f1.2 p hp; omega
        · have := f2.2 p hp; omega
    · intro hf ι lt
      exact ⟨r1 hf ι (lt.mono g2), r2 hf ι lt⟩

theorem treeIds_eq_linesOf (xs : List Modfile.Expr) : treeIds xs = (linesOf xs).map (·.id) :=
  Modfile.Edit.treeIds_eq_linesOf xs

theorem parseSynI_rep {name data : Bytes} {fs : Modfile.FileSyntax} (hp : Modfile.parse name data = .ok fs) :
    ∃ p h0, parseSynI name data default = .ok ((p, none), h0) ∧
      RepSyn (idOf (idsOf name data)) h0 p fs ∧ LineInj (idOf (idsOf name data)) h0 := by
  have hne := parse_ne hp
  obtain ⟨g, v, f, r⟩ := load_stmts fs.stmts hne ({} : Ld)
  have hnodup : (treeIds fs.stmts).Nodup := by rw [treeIds_eq_linesOf]; exact Proofs.ModfileC20.parse_ids_nodup hp
  have hk : KeysOK (({} : Ld).stmts fs.stmts).1 := g.keys (by simp [KeysOK]; rfl)
  have hids : idsOf name data = (({} : Ld).stmts fs.stmts).1.ids := by simp [idsOf, hp]
  have hvals : ((({} : Ld).stmts fs.stmts).1.ids.map (·.2)).Nodup := by
    rw [v]
    have h0 : (({} : Ld).ids.map (·.2)) = [] := rfl
    rw [h0, List.append_nil, nodup_reverse', ← treeIds_eq_linesOf]
    exact hnodup
  have hkeys : ((({} : Ld).stmts fs.stmts).1.ids.map (·.1)).Nodup := by
    rw [hk]
    unfold List.Nodup
    rw [List.pairwise_map]
    have : (List.range (({} : Ld).stmts fs.stmts).1.h.lines.length).reverse.Nodup := nodup_reverse'.2 List.nodup_range
    exact this.imp (fun hab e => hab (by omega))
  have hι : ∀ q ∈ (({} : Ld).stmts fs.stmts).1.ids, idOf (idsOf name data) q.1 = q.2 := by
    intro q hq
    rw [hids]
    unfold idOf
    rw [lookup_of_mem hkeys (show (q.1, q.2) ∈ _ from hq)]
    rfl
  refine ⟨(((({} : Ld).stmts fs.stmts).1.h.files.length + 1 : Nat) : Int),
    { (({} : Ld).stmts fs.stmts).1.h with files := (({} : Ld).stmts fs.stmts).1.h.files ++ [fileG fs (({} : Ld).stmts fs.stmts).2] },
    ?_, ⟨(({} : Ld).stmts fs.stmts).2, ?_, ?_, f.1, hnodup⟩, ?_⟩
  · simp only [parseSynI, hp]
    rfl
  · exact heapGet_alloc_new _ _
  · exact r _ _ ⟨List.prefix_refl _, List.prefix_refl _, List.prefix_refl _, hι⟩
  · -- injectivity: every allocated pointer is a key, the values are pairwise different
    intro a b ha hla hb hlb hab
    have hmem : ∀ c : Int, 0 < c → c.toNat ≤ (({} : Ld).stmts fs.stmts).1.h.lines.length →
        ∃ v, (c, v) ∈ (({} : Ld).stmts fs.stmts).1.ids := by
      intro c hc hlc
      have : c ∈ (({} : Ld).stmts fs.stmts).1.ids.map (·.1) := by
        rw [hk]
        refine List.mem_map.2 ⟨c.toNat - 1, by simp; omega, by omega⟩
      obtain ⟨q, hq, rfl⟩ := List.mem_map.1 this
      exact ⟨q.2, hq⟩
    obtain ⟨va, hva⟩ := hmem a ha hla
    obtain ⟨vb, hvb⟩ := hmem b hb hlb
    have ea := hι _ hva
    have eb := hι _ hvb
    simp only at ea eb
    rw [ea, eb] at hab
    subst hab
    exact key_unique hvals hva hvb

end ModVerif.Tie.FnRuleAddK
