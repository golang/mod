/-
  C02, end-of-line comments, stage (i): what `Format` prints for a well-shaped tree whose nodes carry at
  most one end-of-line (suffix) comment each, as a pure function (`rStmtsE`), and the proof that the printer
  with its pending-comment queue (`Printer.comment`, flushed by `Printer.newline`) computes it.

  * `SufOK` — the suffix list of one node: at most one comment, a `//` text, flagged as suffix.
  * `EWFStmts` — `WFStmts` (Proofs/ModfileFmtTree.lean) with the `suffix = []` clauses replaced by `SufOK`
    (comment blocks still carry none; the `)` of a block and the block itself share one slot).
  * `rStmtsE` — the rendered text: as `rStmts`, with ` //comment` appended to a line, to `verb (` and to `)`.

  Throughout `ModfileEol*` an `E` in a name (`EWF…`, `rStmtsE`, `EStream`, `LexesToE`, `normExprE`, `…_E`) marks the
  notion with end-of-line comments; the one without (`WF…`, `rStmts`, `normExpr` of `ModfileFmt*`) is its special case
  on trees whose `suffix` lists are empty (`wfStmt_iff` and the lemmas after it, Proofs/ModfileFmtFinal.lean).
-/
import ModVerif.Proofs.ModfileFmtRender
namespace ModVerif.Proofs.ModfileEol
open ModVerif ModVerif.Modfile ModVerif.Proofs.ModfileFmtUtf8
open ModVerif.Proofs.ModfileFmtTok ModVerif.Proofs.ModfileFmtLex ModVerif.Proofs.ModfileFmtLine
open ModVerif.Proofs.ModfileFmtStream ModVerif.Proofs.ModfileFmtTree ModVerif.Proofs.ModfileFmtTrim
open ModVerif.Proofs.ModfileFmtRender

def SufOK (cs : List Comment) : Prop := cs.length ≤ 1 ∧ ∀ c ∈ cs, CommentOK c.token ∧ c.suffix = true

theorem sufOK_nil : SufOK [] := ⟨by simp, by intro c h; cases h⟩

structure EWFLine (l : Line) : Prop where
  ne : l.token ≠ []
  tok : ∀ t ∈ l.token, TokText t
  tail : lineTailOK l.token.tail = true
  before : TopBeforeOK l.comments.before
  suffix : SufOK l.comments.suffix
  after : l.comments.after = []
  inBlock : l.inBlock = false

structure EWFBlkLine (allow : Bool) (l : Line) : Prop where
  ne : l.token ≠ []
  tok : ∀ t ∈ l.token, TokText t
  first : l.token.head? ≠ some [41]
  before : BlkBeforeOK allow l.comments.before
  suffix : SufOK l.comments.suffix
  after : l.comments.after = []
  inBlock : l.inBlock = true

def EWFBlkLines : Bool → List Line → Prop
  | _, [] => True
  | allow, l :: ls => EWFBlkLine allow l ∧ EWFBlkLines true ls

structure EWFBlock (b : LineBlock) : Prop where
  ne : b.token ≠ []
  tok : ∀ t ∈ b.token, TokText t
  before : TopBeforeOK b.comments.before
  after : b.comments.after = []
  lbefore : b.lparen.comments.before = []
  lsuffix : SufOK b.lparen.comments.suffix
  lafter : b.lparen.comments.after = []
  lines : EWFBlkLines false b.lines
  rbefore : BlkBeforeOK (!b.lines.isEmpty) b.rparen.comments.before
  rsuffix : SufOK (b.rparen.comments.suffix ++ b.comments.suffix)
  rafter : b.rparen.comments.after = []

def EWFStmt : Expr → Prop
  | .commentBlock x => x.comments.before ≠ [] ∧ TopBeforeOK x.comments.before ∧
      x.comments.suffix = [] ∧ x.comments.after = []
  | .line l => EWFLine l
  | .lineBlock b => EWFBlock b
  | _ => False

def EWFStmts (stmts : List Expr) : Prop := ∀ s ∈ stmts, EWFStmt s

def rSuf : List Comment → Bytes
  | [c] => 32 :: GoStrings.trimSpace c.token
  | _ => []

/-- a block line, preceded by the newline that ends the previous line -/
def rLineE (l : Line) : Bytes :=
  10 :: (rBefore 1 l.comments.before ++ (9 :: (tokStr l.token [] ++ rSuf l.comments.suffix)))

def rBlockE (b : LineBlock) : Bytes :=
  rBefore 0 b.comments.before ++ (tokStr b.token [] ++ (32 :: 40 :: (rSuf b.lparen.comments.suffix ++
    (b.lines.flatMap rLineE ++ (10 :: (rBefore 0 b.rparen.comments.before ++
      (41 :: rSuf (b.rparen.comments.suffix ++ b.comments.suffix))))))))

def rStmtE : Expr → Bytes
  | .commentBlock x => rBefore 0 x.comments.before
  | .line l => rBefore 0 l.comments.before ++ (tokStr l.token [] ++ (rSuf l.comments.suffix ++ [10]))
  | .lineBlock b => rBlockE b ++ [10]
  | _ => []

def rStmtsE : List Expr → Bytes
  | [] => []
  | [s] => rStmtE s
  | s :: rest => rStmtE s ++ 10 :: rStmtsE rest

theorem trim_midq (y : UInt8) (r : Bytes) (q : List Comment) (m : Nat) (hy : OKByte y) :
    Printer.trim ⟨y :: r, q, m⟩ = ⟨y :: r, q, m⟩ := by
  obtain ⟨h1, h2, _⟩ := hy
  have : (y == 9 || y == 32) = false := by simp [h1, h2]
  simp [Printer.trim, List.dropWhile, this]

theorem sufOK_cases {cs : List Comment} (h : SufOK cs) :
    cs = [] ∨ ∃ c, cs = [c] ∧ CommentOK c.token ∧ c.suffix = true := by
  obtain ⟨hl, hc⟩ := h
  cases cs with
  | nil => exact Or.inl rfl
  | cons c r =>
    cases r with
    | nil => exact Or.inr ⟨c, rfl, hc c (by simp)⟩
    | cons d r2 => simp at hl

theorem newline_flush {buf : Bytes} (hm : MidOK buf) (q : List Comment) (hq : SufOK q) (m : Nat) :
    Printer.newline ⟨buf, q, m⟩ = ⟨tabs m ++ 10 :: ((rSuf q).reverse ++ buf), [], m⟩ ∧
      MidOK ((rSuf q).reverse ++ buf) := by
  rcases sufOK_cases hq with rfl | ⟨c, rfl, hok, _⟩
  · exact ⟨by simpa [rSuf] using newline_midOK hm m, by simpa [rSuf] using hm⟩
  · obtain ⟨_, hlast⟩ := commentOK_lastOK hok
    obtain ⟨y, r, hrev, hy⟩ := hlast.rev
    have hmid : MidOK ((rSuf [c]).reverse ++ buf) := by
      refine ⟨y, r ++ 32 :: buf, ?_, hy⟩
      simp [rSuf, hrev]
    refine ⟨?_, hmid⟩
    have h10 : y ≠ 10 := hy.2.2
    unfold Printer.newline
    simp only [List.isEmpty_cons, Bool.false_eq_true, if_false, Printer.flushComments, if_true,
      Printer.writeByte, Printer.write]
    rw [hrev]
    simp only [List.cons_append, trim_midq y _ [] m hy]
    split
    · rename_i heq; simp at heq
    · rename_i heq
      simp only [List.cons.injEq] at heq
      exact absurd heq.1 h10
    · simp [Printer.tabs, rSuf, hrev, tabs]

theorem exprLine_blkE (l : Line) (allow : Bool) (buf : Bytes) (hm : MidOK buf) (q : List Comment) (hq : SufOK q)
    (hl : EWFBlkLine allow l) :
    Printer.exprLine (Printer.newline ⟨buf, q, 1⟩) l =
      ⟨(tokStr l.token []).reverse ++ (9 :: ((rBefore 1 l.comments.before).reverse ++ 10 :: ((rSuf q).reverse ++ buf))),
        l.comments.suffix, 1⟩ ∧
      MidOK ((tokStr l.token []).reverse ++ (9 :: ((rBefore 1 l.comments.before).reverse ++ 10 :: ((rSuf q).reverse ++ buf)))) := by
  obtain ⟨hnl, hm2⟩ := newline_flush hm q hq 1
  have hclean := hm2.clean
  obtain ⟨h1, _, _⟩ := emitBefore_eq l.comments.before 1 allow (10 :: ((rSuf q).reverse ++ buf)) hclean.bol
    (prBefore_of_blk _ _ hl.before) (fun _ => hclean)
  have hlast := tokStr_lastOK l.token [] hl.ne hl.tok
  refine ⟨?_, midOK_of_lastOK hlast _⟩
  unfold Printer.exprLine
  rw [hnl, h1, tokens_eq]
  simp [Printer.queueSuffix, Printer.write, tabs]

/-- the text of the lines of a block, where `q` is the comment pending when the first line starts -/
theorem exprLines_eqE : ∀ (ls : List Line) (allow : Bool) (buf : Bytes) (q : List Comment), MidOK buf → SufOK q →
    EWFBlkLines allow ls →
    ∃ buf' q', Printer.exprLines ⟨buf, q, 1⟩ ls = ⟨buf', q', 1⟩ ∧ MidOK buf' ∧ SufOK q' ∧
      (rSuf q').reverse ++ buf' = (ls.flatMap rLineE).reverse ++ ((rSuf q).reverse ++ buf) := by
  intro ls
  induction ls with
  | nil => intro _ buf q hm hq _; exact ⟨buf, q, by simp [Printer.exprLines], hm, hq, by simp⟩
  | cons l ls ih =>
    intro allow buf q hm hq hwf
    obtain ⟨hl, hls⟩ := hwf
    obtain ⟨h1, h2⟩ := exprLine_blkE l allow buf hm q hq hl
    obtain ⟨buf', q', h3, h4, h5, h6⟩ := ih true _ l.comments.suffix h2 hl.suffix hls
    refine ⟨buf', q', ?_, h4, h5, ?_⟩
    · simp only [Printer.exprLines]
      rw [h1, h3]
    · rw [h6]
      simp [rLineE]

theorem sufOK_of_append_left {a b : List Comment} (h : SufOK (a ++ b)) : SufOK a :=
  ⟨by have := h.1; simp at this; omega, fun c hc => h.2 c (by simp [hc])⟩

/-- a block statement, from the beginning of a line at margin 0, leaves the comment of `)` pending -/
theorem exprLineBlock_eqE (b : LineBlock) (base : Bytes) (hb : BOL base) (hwf : EWFBlock b) :
    ∃ buf', Printer.exprLineBlock ⟨base, [], 0⟩ b = ⟨buf', b.rparen.comments.suffix ++ b.comments.suffix, 0⟩ ∧
      MidOK buf' ∧
      (rSuf (b.rparen.comments.suffix ++ b.comments.suffix)).reverse ++ buf' = (rBlockE b).reverse ++ base := by
  -- comments before the block
  obtain ⟨h1, hbol1, _⟩ := emitBefore_eq b.comments.before 0 false base hb (prBefore_of_top _ _ hwf.before)
    (by intro h; cases h)
  simp only [tabs_zero, List.nil_append] at h1
  -- header, blank, `(`
  let buf1 : Bytes := 40 :: 32 :: ((tokStr b.token []).reverse ++ ((rBefore 0 b.comments.before).reverse ++ base))
  have hm1 : MidOK buf1 := ⟨40, _, rfl, by refine ⟨?_, ?_, ?_⟩ <;> decide⟩
  -- the lines
  obtain ⟨buf2, q2, h2, hm2, hq2, hr2⟩ := exprLines_eqE b.lines false buf1 b.lparen.comments.suffix hm1 hwf.lsuffix hwf.lines
  -- the newline before `)` and the comments before it
  obtain ⟨hnl, hm3⟩ := newline_flush hm2 q2 hq2 0
  have hclean3 : Clean1 (10 :: ((rSuf q2).reverse ++ buf2)) := hm3.clean
  obtain ⟨h3, _, _⟩ := emitBefore_eq b.rparen.comments.before 0 (!b.lines.isEmpty) (10 :: ((rSuf q2).reverse ++ buf2))
    hclean3.bol (prBefore_of_blk _ _ hwf.rbefore) (fun _ => hclean3)
  simp only [tabs_zero, List.nil_append] at h3 hnl
  refine ⟨41 :: ((rBefore 0 b.rparen.comments.before).reverse ++ 10 :: ((rSuf q2).reverse ++ buf2)), ?_,
    ⟨41, _, rfl, by refine ⟨?_, ?_, ?_⟩ <;> decide⟩, ?_⟩
  · unfold Printer.exprLineBlock
    simp only [h1, tokens_eq, Printer.exprLParen, Printer.exprRParen]
    have e1 : Printer.emitBefore
        (Printer.writeByte (Printer.write ⟨(rBefore 0 b.comments.before).reverse ++ base, [], 0⟩ (tokStr b.token [])) 32)
        b.lparen.comments.before =
        ⟨32 :: ((tokStr b.token []).reverse ++ ((rBefore 0 b.comments.before).reverse ++ base)), [], 0⟩ := by
      simp [hwf.lbefore, Printer.emitBefore, Printer.writeByte, Printer.write]
    simp only [e1]
    have e2 : ({ (Printer.queueSuffix (Printer.writeByte ⟨32 :: ((tokStr b.token []).reverse ++ ((rBefore 0 b.comments.before).reverse ++ base)), [], 0⟩ 40) b.lparen.comments.suffix) with
        margin := (Printer.queueSuffix (Printer.writeByte ⟨32 :: ((tokStr b.token []).reverse ++ ((rBefore 0 b.comments.before).reverse ++ base)), [], 0⟩ 40) b.lparen.comments.suffix).margin + 1 } : Printer) =
        ⟨buf1, b.lparen.comments.suffix, 1⟩ := by
      simp [Printer.queueSuffix, Printer.writeByte, buf1]
    simp only [e2, h2]
    have e3 : ({ (⟨buf2, q2, 1⟩ : Printer) with margin := (⟨buf2, q2, 1⟩ : Printer).margin - 1 } : Printer) = ⟨buf2, q2, 0⟩ := rfl
    simp only [e3, hnl, h3]
    simp [Printer.queueSuffix, Printer.writeByte]
  · rw [hr2]
    simp [rBlockE, buf1]

theorem stmt_eqE (s : Expr) (base : Bytes) (hb : BOL base) (hwf : EWFStmt s) :
    (match s with
     | .commentBlock x => Printer.exprCommentBlock ⟨base, [], 0⟩ x
     | s => (Printer.expr ⟨base, [], 0⟩ s).newline) = ⟨(rStmtE s).reverse ++ base, [], 0⟩ ∧
      Clean1 ((rStmtE s).reverse ++ base) ∧ s.comments.after = [] := by
  cases s with
  | commentBlock x =>
    obtain ⟨hne, hbefore, hsuf, haft⟩ := hwf
    obtain ⟨h1, _, h3⟩ := emitBefore_eq x.comments.before 0 false base hb (prBefore_of_top _ _ hbefore)
      (by intro h; cases h)
    simp only [tabs_zero, List.nil_append] at h1
    refine ⟨?_, h3 (lastReal_top hne hbefore), haft⟩
    simp only [Printer.exprCommentBlock, h1, hsuf, queueSuffix_nil, rStmtE]
  | line l =>
    have hwf : EWFLine l := hwf
    obtain ⟨h1, _, _⟩ := emitBefore_eq l.comments.before 0 false base hb (prBefore_of_top _ _ hwf.before)
      (by intro h; cases h)
    simp only [tabs_zero, List.nil_append] at h1
    have hlast := tokStr_lastOK l.token [] hwf.ne hwf.tok
    have hm : MidOK ((tokStr l.token []).reverse ++ ((rBefore 0 l.comments.before).reverse ++ base)) :=
      midOK_of_lastOK hlast _
    obtain ⟨hnl, hm2⟩ := newline_flush hm l.comments.suffix hwf.suffix 0
    have hr : (rStmtE (.line l)).reverse ++ base =
        10 :: ((rSuf l.comments.suffix).reverse ++
          ((tokStr l.token []).reverse ++ ((rBefore 0 l.comments.before).reverse ++ base))) := by
      simp [rStmtE]
    refine ⟨?_, by rw [hr]; exact hm2.clean, hwf.after⟩
    simp only [Printer.expr, Printer.exprLine, h1, tokens_eq, Printer.write, Printer.queueSuffix, List.nil_append]
    rw [hnl, hr]
    rfl
  | lineBlock b =>
    have hwf : EWFBlock b := hwf
    obtain ⟨buf', h1, hm, hr1⟩ := exprLineBlock_eqE b base hb hwf
    obtain ⟨hnl, hm2⟩ := newline_flush hm _ hwf.rsuffix 0
    have hr : (rStmtE (.lineBlock b)).reverse ++ base = 10 :: ((rBlockE b).reverse ++ base) := by
      simp [rStmtE]
    refine ⟨?_, by rw [hr, ← hr1]; exact hm2.clean, hwf.after⟩
    simp only [Printer.expr, h1]
    rw [hnl, hr, ← hr1]
    rfl
  | lparen x => exact absurd hwf id
  | rparen x => exact absurd hwf id

theorem stmts_eqE : ∀ (ss : List Expr) (base : Bytes), BOL base → EWFStmts ss →
    Printer.stmts ⟨base, [], 0⟩ ss = ⟨(rStmtsE ss).reverse ++ base, [], 0⟩ ∧
      (ss ≠ [] → Clean1 ((rStmtsE ss).reverse ++ base)) := by
  intro ss
  induction ss with
  | nil => intro base _ _; exact ⟨by simp [Printer.stmts, rStmtsE], fun h => absurd rfl h⟩
  | cons s rest ih =>
    intro base hb hwf
    obtain ⟨h1, hc1, haft⟩ := stmt_eqE s base hb (hwf s (by simp))
    cases rest with
    | nil =>
      refine ⟨?_, fun _ => by simpa [rStmtsE] using hc1⟩
      unfold Printer.stmts
      simp only [haft, commentLines_nil, List.isEmpty_nil, if_true, Printer.stmts, rStmtsE]
      exact h1
    | cons r rs =>
      have hsep : Printer.newline ⟨(rStmtE s).reverse ++ base, [], 0⟩ = ⟨10 :: ((rStmtE s).reverse ++ base), [], 0⟩ := by
        have := newline_bol 0 0 _ hc1
        simpa [tabs_zero] using this
      obtain ⟨h2, hc2⟩ := ih (10 :: ((rStmtE s).reverse ++ base)) (Or.inr ⟨_, rfl⟩) (fun x h => hwf x (by simp [h]))
      have hr : (rStmtsE (s :: r :: rs)).reverse ++ base = (rStmtsE (r :: rs)).reverse ++ 10 :: ((rStmtE s).reverse ++ base) := by
        simp [rStmtsE]
      refine ⟨?_, fun _ => by rw [hr]; exact hc2 (by simp)⟩
      conv => lhs; unfold Printer.stmts
      simp only [haft, commentLines_nil, List.isEmpty_cons, Bool.false_eq_true, if_false, hr]
      exact (congrArg (fun p => (Printer.newline p).stmts (r :: rs)) h1).trans (by rw [hsep, h2])

/-- ★ end-of-line stage (i) (`Props.C02.format_eq_render_eol`): the printer's pending-comment queue (`Printer.comment`,
    filled by `queueSuffix`, flushed by `newline`) computes exactly the `rSuf` pieces of the rendered text. -/
theorem format_eq_rStmtsE (f : FileSyntax) (hwf : EWFStmts f.stmts) (hc : f.comments.before = []) :
    format f = rStmtsE f.stmts := by
  obtain ⟨h1, h2⟩ := stmts_eqE f.stmts [] (Or.inl rfl) hwf
  unfold format Printer.file
  simp only [hc, commentLines_nil]
  have : (({} : Printer)) = ⟨[], [], 0⟩ := rfl
  rw [this, h1]
  simp only [List.append_nil]
  rw [ModfilePrint.trimTrailingBlank_of_not_blank]
  · simp
  · by_cases hne : f.stmts = []
    · simp [hne, rStmtsE, ModfilePrint.EndsBlankRev]
    · obtain ⟨y, r, hr, hy⟩ := h2 hne
      simp only [List.append_nil] at hr
      rw [hr]
      unfold ModfilePrint.EndsBlankRev
      split
      · rename_i heq; simp at heq
      · rename_i heq
        simp only [List.cons.injEq, true_and] at heq
        exact absurd heq.1 hy
      · exact id

end ModVerif.Proofs.ModfileEol
