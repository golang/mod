/-
  Algebra of `GoStrings.trimSpace` (= Go's strings.TrimSpace / bytes.TrimSpace), for EVERY byte string, well-formed
  UTF-8 or not.  `s = p ++ trimSpace s ++ e` where `p` and `e` are concatenations of well-formed encodings of
  white-space runes (`SpaceSeq`), and a non-empty result starts (forward decode) and ends (backward decode) with a rune
  that is not white space.  Conversely that decomposition determines the result (`trimSpace_unique`); fixed points,
  idempotence and `trimSpace (x ++ e) = trimSpace x` for `SpaceSeq e` are its instances.  `trimSpace s = [] ↔ SpaceSeq s`.
  From a comment text (`CommentOK`) only a suffix is removed.
-/
import ModVerif.Proofs.ModfileFmtTrimRight
import ModVerif.Proofs.ModfileFmtLex
namespace ModVerif.Proofs.ModfileFmtTrim
open ModVerif ModVerif.GoStrings ModVerif.Proofs.ModfileLex ModVerif.Proofs.ModfileFmtUtf8
open ModVerif.Proofs.ModfileFmtLex

theorem SpaceSeq.append {a b : Bytes} (ha : SpaceSeq a) (hb : SpaceSeq b) : SpaceSeq (a ++ b) := by
  induction ha with
  | nil => simpa using hb
  | cons seg t r hd hs _ ih =>
    rw [List.append_assoc]
    exact SpaceSeq.cons seg (t ++ b) r hd hs ih

/-- an ASCII white-space byte (9–13, 32) -/
def AsciiSpace (b : UInt8) : Prop := b.toNat < 0x80 ∧ UnicodePrint.isSpace b.toNat = true

instance (b : UInt8) : Decidable (AsciiSpace b) :=
  inferInstanceAs (Decidable (b.toNat < 0x80 ∧ UnicodePrint.isSpace b.toNat = true))

theorem spaceSeq_of_ascii : ∀ (s : Bytes), (∀ b ∈ s, AsciiSpace b) → SpaceSeq s := by
  intro s
  induction s with
  | nil => intro _; exact SpaceSeq.nil
  | cons b t ih =>
    intro h
    have hb := h b (by simp)
    have := SpaceSeq.cons [b] t b.toNat (by simp [Utf8.decode, hb.1]) hb.2
      (ih (fun c hc => h c (by simp [hc])))
    simpa using this

theorem trimLeftSpace_spaceSeq {s : Bytes} (h : SpaceSeq s) : trimLeftSpace s = [] := by
  simpa using trimLeftSpace_spaceSeq_append s [] h (Or.inl rfl)

theorem trimSpace_nil : trimSpace [] = [] := by
  unfold trimSpace
  rw [trimLeftSpace_nil, trimRightSpace_nil]

theorem trimSpace_spaceSeq {s : Bytes} (h : SpaceSeq s) : trimSpace s = [] := by
  unfold trimSpace
  rw [trimLeftSpace_spaceSeq h, trimRightSpace_nil]

theorem trimSpace_asciiSpace (s : Bytes) (h : ∀ b ∈ s, AsciiSpace b) : trimSpace s = [] :=
  trimSpace_spaceSeq (spaceSeq_of_ascii s h)

example : ∀ b ∈ ([32, 9, 11, 12, 13, 10] : Bytes), AsciiSpace b := by decide

theorem trimSpace_blank (s : Bytes) (h : ∀ b ∈ s, b = 32 ∨ b = 9 ∨ b = 13) : trimSpace s = [] := by
  apply trimSpace_asciiSpace
  intro b hb
  rcases h b hb with rfl | rfl | rfl <;> decide

example : ∀ b ∈ ([32, 9, 9, 13] : Bytes), b = 32 ∨ b = 9 ∨ b = 13 := by decide

theorem trimRightSpace_ne_nil (s : Bytes) (hne : s ≠ [])
    (hs : UnicodePrint.isSpace (Utf8.decodeRune s).1 = false) : trimRightSpace s ≠ [] := by
  rcases trimRightSpace_cases s with ⟨_, hseq⟩ | ⟨_, h, _⟩
  · have := hseq.first_space hne
    rw [hs] at this
    cases this
  · exact h

example : ([120, 32] : Bytes) ≠ [] ∧ UnicodePrint.isSpace (Utf8.decodeRune [120, 32]).1 = false := by decide

theorem trimSpace_infix (s : Bytes) :
    ∃ p e, s = p ++ trimSpace s ++ e ∧ SpaceSeq p ∧ SpaceSeq e := by
  obtain ⟨p, hp, heq, _⟩ := trimLeftSpace_cases s
  unfold trimSpace
  rcases trimRightSpace_cases (trimLeftSpace s) with ⟨h0, hseq⟩ | ⟨sp, _, hsp, heq2, _⟩
  · refine ⟨p, trimLeftSpace s, ?_, hp, hseq⟩
    rw [h0]; simpa using heq
  · refine ⟨p, sp, ?_, hp, hsp⟩
    rw [List.append_assoc, ← heq2]
    exact heq

theorem trimSpace_last_rune (s : Bytes) (hne : trimSpace s ≠ []) :
    UnicodePrint.isSpace (decodeLastRuneRev (trimSpace s).reverse).1 = false := by
  unfold trimSpace at hne ⊢
  rcases trimRightSpace_cases (trimLeftSpace s) with ⟨h0, _⟩ | ⟨_, _, _, _, h⟩
  · exact absurd h0 hne
  · exact h

theorem trimSpace_first_rune (s : Bytes) (hne : trimSpace s ≠ []) :
    UnicodePrint.isSpace (Utf8.decodeRune (trimSpace s)).1 = false := by
  unfold trimSpace at hne ⊢
  obtain ⟨_, _, _, hl | hl⟩ := trimLeftSpace_cases s
  · rw [hl, trimRightSpace_nil] at hne
    exact absurd rfl hne
  · rcases trimRightSpace_cases (trimLeftSpace s) with ⟨h0, _⟩ | ⟨sp, hne', hsp, heq, _⟩
    · exact absurd h0 hne
    · rw [heq, Utf8.decodeRune_append _ sp hne' hsp.noContStart] at hl
      exact hl

example : trimSpace [32, 120, 32] ≠ [] := by decide

theorem trimSpace_last_byte (s : Bytes) (b : UInt8) (h : (trimSpace s).getLast? = some b) :
    ¬ AsciiSpace b := by
  intro ⟨hb, hsp⟩
  have hne : trimSpace s ≠ [] := by
    intro h0; rw [h0] at h; simp at h
  have hl := trimSpace_last_rune s hne
  have hrev : (trimSpace s).reverse.head? = some b := by
    rw [List.head?_reverse]; exact h
  cases hr : (trimSpace s).reverse with
  | nil => rw [hr] at hrev; simp at hrev
  | cons c rest =>
    rw [hr] at hrev hl
    simp only [List.head?_cons, Option.some.injEq] at hrev
    subst hrev
    rcases decodeLast_cases c rest with ⟨_, hd⟩ | ⟨hge, _⟩ | ⟨hge, _⟩
    · rw [hd, hsp] at hl
      cases hl
    · omega
    · omega

theorem trimSpace_last (s : Bytes) (b : UInt8) (h : (trimSpace s).getLast? = some b) :
    b ≠ 32 ∧ b ≠ 9 ∧ b ≠ 13 ∧ b ≠ 10 ∧ b ≠ 11 ∧ b ≠ 12 := by
  have := trimSpace_last_byte s b h
  refine ⟨?_, ?_, ?_, ?_, ?_, ?_⟩ <;> (rintro rfl; exact this (by decide))

example : (trimSpace [32, 120, 32]).getLast? = some 120 := by decide

/-- ★ for every byte string, ill-formed UTF-8 included -/
theorem trimSpace_unique (p v q : Bytes) (hp : SpaceSeq p) (hq : SpaceSeq q) (hne : v ≠ [])
    (hf : UnicodePrint.isSpace (Utf8.decodeRune v).1 = false)
    (hl : UnicodePrint.isSpace (decodeLastRuneRev v.reverse).1 = false) : trimSpace (p ++ v ++ q) = v := by
  unfold trimSpace
  rw [List.append_assoc, trimLeftSpace_spaceSeq_append p (v ++ q) hp
    (Or.inr (by rw [Utf8.decodeRune_append v q hne hq.noContStart]; exact hf))]
  exact trimRightSpace_append_spaceSeq v q hne hl hq

example : trimSpace ([32, 0xC2, 0xA0] ++ [120, 0x80] ++ [9, 0xE3, 0x80, 0x80]) = [120, 0x80] := by decide

theorem trimSpace_fix (u : Bytes) (hne : u ≠ [])
    (hf : UnicodePrint.isSpace (Utf8.decodeRune u).1 = false)
    (hl : UnicodePrint.isSpace (decodeLastRuneRev u.reverse).1 = false) : trimSpace u = u := by
  simpa using trimSpace_unique [] u [] .nil .nil hne hf hl

example : ([120, 32, 121] : Bytes) ≠ [] ∧
    UnicodePrint.isSpace (Utf8.decodeRune [120, 32, 121]).1 = false ∧
    UnicodePrint.isSpace (decodeLastRuneRev ([120, 32, 121] : Bytes).reverse).1 = false := by decide

theorem trimSpace_idem (s : Bytes) : trimSpace (trimSpace s) = trimSpace s := by
  by_cases hne : trimSpace s = []
  · rw [hne, trimSpace_nil]
  · exact trimSpace_fix _ hne (trimSpace_first_rune s hne) (trimSpace_last_rune s hne)

theorem trimSpace_ne_nil (s : Bytes) (hne : s ≠ [])
    (hs : UnicodePrint.isSpace (Utf8.decodeRune s).1 = false) : trimSpace s ≠ [] := by
  unfold trimSpace
  rw [trimLeftSpace_fix s hs]
  exact trimRightSpace_ne_nil s hne hs

example : ([120, 32] : Bytes) ≠ [] ∧ UnicodePrint.isSpace (Utf8.decodeRune [120, 32]).1 = false := by decide

theorem trimSpace_prefix_of_first (s : Bytes) (hs : UnicodePrint.isSpace (Utf8.decodeRune s).1 = false) :
    ∃ e, s = trimSpace s ++ e ∧ SpaceSeq e := by
  unfold trimSpace
  rw [trimLeftSpace_fix s hs]
  rcases trimRightSpace_cases s with ⟨h0, hseq⟩ | ⟨sp, _, hsp, heq, _⟩
  · exact ⟨s, by rw [h0]; rfl, hseq⟩
  · exact ⟨sp, heq, hsp⟩

theorem trimSpace_eq_nil_iff (s : Bytes) : trimSpace s = [] ↔ SpaceSeq s := by
  constructor
  · intro h
    obtain ⟨p, e, heq, hp, he⟩ := trimSpace_infix s
    rw [h, List.append_nil] at heq
    rw [heq]
    exact hp.append he
  · exact trimSpace_spaceSeq

theorem trimSpace_append_spaceSeq (x e : Bytes) (he : SpaceSeq e) : trimSpace (x ++ e) = trimSpace x := by
  by_cases h0 : trimSpace x = []
  · rw [h0]
    exact trimSpace_spaceSeq (((trimSpace_eq_nil_iff x).1 h0).append he)
  · obtain ⟨p, e', heq, hp, he'⟩ := trimSpace_infix x
    have := trimSpace_unique p (trimSpace x) (e' ++ e) hp (he'.append he) h0 (trimSpace_first_rune x h0)
      (trimSpace_last_rune x h0)
    rw [← List.append_assoc, ← heq] at this
    exact this

theorem commentOK_cons {c : Bytes} (h : CommentOK c) : ∃ t, c = 47 :: 47 :: t := by
  obtain ⟨hp, _⟩ := h
  cases c with
  | nil => simp [isPrefixOfB] at hp
  | cons a c1 =>
    cases c1 with
    | nil => simp [isPrefixOfB] at hp
    | cons b t =>
      simp [isPrefixOfB] at hp
      obtain ⟨rfl, rfl⟩ := hp
      exact ⟨t, rfl⟩

theorem trimSpace_comment_strong {c : Bytes} (h : CommentOK c) :
    ∃ e, c = trimSpace c ++ e ∧ SpaceSeq e ∧ CommentOK (trimSpace c) := by
  obtain ⟨t, rfl⟩ := commentOK_cons h
  have hs : UnicodePrint.isSpace (Utf8.decodeRune (47 :: 47 :: t)).1 = false := by
    rw [decodeRune_ascii 47 _ (by decide)]; decide
  obtain ⟨e, heq, he⟩ := trimSpace_prefix_of_first _ hs
  have hne := trimSpace_ne_nil _ (by simp) hs
  refine ⟨e, heq, he, ?_, ?_⟩
  · -- the result keeps both slashes
    generalize trimSpace (47 :: 47 :: t) = u at heq hne ⊢
    cases u with
    | nil => exact absurd rfl hne
    | cons a u1 =>
      cases u1 with
      | nil =>
        exfalso
        simp only [List.cons_append, List.nil_append, List.cons.injEq] at heq
        obtain ⟨_, heq⟩ := heq
        rw [← heq] at he
        have := he.head_ascii (by decide)
        revert this; decide
      | cons b u2 =>
        simp only [List.cons_append, List.cons.injEq] at heq
        obtain ⟨rfl, rfl, _⟩ := heq
        simp [isPrefixOfB]
  · intro hmem
    apply h.2
    rw [heq]
    exact List.mem_append_left _ hmem

theorem trimSpace_comment {c : Bytes} (h : CommentOK c) :
    ∃ e, c = trimSpace c ++ e ∧ CommentOK (trimSpace c) := by
  obtain ⟨e, h1, _, h2⟩ := trimSpace_comment_strong h
  exact ⟨e, h1, h2⟩

theorem trimSpace_comment_idem {c : Bytes} (_h : CommentOK c) :
    trimSpace (trimSpace c) = trimSpace c := trimSpace_idem c

example : CommentOK [47, 47, 32, 120, 32, 9, 13] := ⟨by decide, by decide⟩
example : trimSpace [47, 47, 32, 120, 32, 9, 13] = [47, 47, 32, 120] := by decide
/-- non-ASCII white space (U+00A0, U+3000) and an ill-formed tail byte -/
example : trimSpace [0xC2, 0xA0, 47, 47, 0x80, 0xE3, 0x80, 0x80, 32] = [47, 47, 0x80] := by decide

end ModVerif.Proofs.ModfileFmtTrim
