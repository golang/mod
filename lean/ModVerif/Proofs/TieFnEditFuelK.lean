/-
  Closed fuel of the go.mod session ties: the bulk setter `File.SetRequireSeparateIndirect`, and then whole sessions.

  The setter runs in phases, each bounded on the tree weight: the scan plan (`ensureBlock` and the inserted empty `require`
  blocks add at most 32), the loop over the existing requirements (a line moved to the other block adds at most 1: the
  emptied old line pays for the copy, `kill_treeW`), the new requirements.  Along the loop the potential
  `treeW + Σ_{need, path not yet kept} wantW` does not increase (`sepLoop_W`); the line ids stay pairwise different and below
  `next` through every phase (`IdOK`), which is what the line updates need.

  Sessions: every operation increases the potential `W` by at most its allowance `G op` and asks for fuel linear in
  `W e + G op`, i.e. `W` with `G` is a `Potential` (Proofs/TieFnEditSessionA.lean) of the go.mod operations; along a run from
  a state with the invariant everything stays below the initial potential plus the allowances.

  Namespaces `FnEditFuelK` (the setter), `FnEditFuelL` (every operation), `FnEditFuelD` (sessions).
-/
import ModVerif.Proofs.TieFnEditFuelE
namespace ModVerif.Tie.FnEditFuelK
open ModVerif ModVerif.Modfile ModVerif.Tie.FnEditFuelA ModVerif.Tie.FnEditFuelB ModVerif.Tie.FnEditFuelC
open ModVerif.Tie.FnEditFuelE
open ModVerif.Tie.FnEditSetL (addMissing fuel5)
open ModVerif.Tie.FnEditSetN (sepPlan indirectPlan)
open ModVerif.Modfile.Edit (EFile EditErr Want treeIds SepCtx)
open ModVerif.Tie.FnEditSortE (sortFuel goLen)
open ModVerif.Tie.FnEditReqE (modPath)

theorem set_split {α : Type} : ∀ (ss : List α) (i : Nat) (x y : α), ss[i]? = some x →
    ∃ a b, ss = a ++ x :: b ∧ ss.set i y = a ++ y :: b
  | [], i, x, y, h => by simp at h
  | c :: ss, 0, x, y, h => by
    simp only [List.getElem?_cons_zero, Option.some.injEq] at h
    exact ⟨[], ss, by rw [h]; rfl, rfl⟩
  | c :: ss, i + 1, x, y, h => by
    obtain ⟨a, b, h1, h2⟩ := set_split ss i x y (by simpa using h)
    exact ⟨c :: a, b, by rw [h1]; rfl, by rw [List.set_cons_succ, h2]; rfl⟩

theorem treeW_set (ss : List Expr) (i : Nat) (x y : Expr) (h : ss[i]? = some x) :
    treeW (ss.set i y) + exprW x = treeW ss + exprW y := by
  obtain ⟨a, b, rfl, h2⟩ := set_split ss i x y h
  rw [h2]
  simp only [treeW_append, treeW_cons]
  omega

theorem appendToBlock_treeW (ss : List Expr) (i : Nat) (l : Line) :
    treeW (Edit.appendToBlock ss i l) ≤ treeW ss + lineW l := by
  unfold Edit.appendToBlock
  split
  · rename_i b hb
    have := treeW_set ss i _ (.lineBlock { b with lines := b.lines ++ [l] }) hb
    simp only [exprW, linesW_append, linesW_cons, linesW_nil] at this
    omega
  · omega

theorem exprW_emptyRequireBlock : exprW Edit.emptyRequireBlock = 16 := by
  simp only [Edit.emptyRequireBlock, exprW, tokW_cons, tokW_nil, len_require, linesW_nil]

/-! ### killing the line that `findLine` finds -/

def kill (l : Line) : Line := { l with token := [] }

theorem kill_lineW (l : Line) : lineW (kill l) ≤ lineW l := by simp [kill, lineW]

theorem killIn_linesW (id : Nat) (old : Line) : ∀ ls : List Line, ls.find? (·.id == id) = some old →
    linesW (updateLineIn id kill ls) + tokW old.token ≤ linesW ls
  | [], h => by simp at h
  | l :: ls, h => by
    unfold updateLineIn
    by_cases hb : (l.id == id) = true
    · simp only [List.find?_cons, hb, Option.some.injEq] at h
      subst h
      simp only [hb, if_true, linesW_cons, lineW, kill, tokW_nil]; omega
    · have hb' : (l.id == id) = false := by simpa using hb
      simp only [List.find?_cons, hb'] at h
      have := killIn_linesW id old ls h
      simp only [hb', Bool.false_eq_true, if_false, linesW_cons]; omega

theorem kill_treeW_aux (id : Nat) (old : Line) : ∀ ss : List Expr,
    (({ stmts := ss } : FileSyntax).allLines.find? (·.id == id)) = some old →
    treeW ((({ stmts := ss } : FileSyntax).updateLine id kill).stmts) + tokW old.token ≤ treeW ss := by
  intro ss
  induction ss with
  | nil => intro h; simp [FileSyntax.allLines] at h
  | cons s ss ih =>
    intro h
    have hrest := updateLine_treeW_le ({ stmts := ss } : FileSyntax) id kill kill_lineW
    simp only [FileSyntax.updateLine, FileSyntax.allLines, List.map_cons, treeW_cons, List.flatMap_cons, List.find?_append] at ih h hrest ⊢
    cases s with
    | line l =>
      by_cases hb : (l.id == id) = true
      · simp only [List.find?_cons, hb, Option.some_or, Option.some.injEq] at h
        subst h
        have hk : lineW (kill l) = 1 := rfl
        have hk2 : lineW l = tokW l.token + 1 := rfl
        simp only [hb, if_true, exprW, hk, hk2]; omega
      · have hb' : (l.id == id) = false := by simpa using hb
        simp only [List.find?_cons, hb', List.find?_nil, Option.none_or] at h
        have := ih h
        simp only [hb', Bool.false_eq_true, if_false, exprW]; omega
    | lineBlock b =>
      simp only [] at h
      cases hf : b.lines.find? (·.id == id) with
      | some o =>
        rw [hf] at h
        simp only [Option.some_or, Option.some.injEq] at h
        subst h
        have := killIn_linesW id o b.lines hf
        simp only [exprW]; omega
      | none =>
        rw [hf] at h
        simp only [Option.none_or] at h
        have := ih h
        have h2 := updateLineIn_linesW_le id kill kill_lineW b.lines
        simp only [exprW]; omega
    | _ =>
      simp only [List.find?_nil, Option.none_or] at h
      have := ih h
      simp only [exprW]; omega

theorem kill_treeW (fs : FileSyntax) (id : Nat) (old : Line) (h : fs.findLine id = some old) :
    treeW (fs.updateLine id kill).stmts + tokW old.token ≤ treeW fs.stmts :=
  kill_treeW_aux id old fs.stmts h

/-- the emptied old line pays for the copy -/
theorem moveExisting_treeW (syn : FileSyntax) (i idx new : Nat) :
    treeW (Edit.moveExisting syn i idx new).stmts ≤ treeW syn.stmts + 1 := by
  unfold Edit.moveExisting
  split
  · omega
  · rename_i old ho
    have h1 := kill_treeW syn i old ho
    have h2 : ∀ tok : List Bytes, tokW tok ≤ tokW old.token →
        treeW (Edit.appendToBlock (syn.updateLine i fun l => { l with token := [] }).stmts idx
          { old with id := new, token := tok, inBlock := true }) ≤ treeW syn.stmts + 1 := by
      intro tok ht
      have := appendToBlock_treeW (syn.updateLine i fun l => { l with token := [] }).stmts idx
        { old with id := new, token := tok, inBlock := true }
      have h1' : treeW (syn.updateLine i fun l => { l with token := [] }).stmts + tokW old.token ≤ treeW syn.stmts := h1
      simp only [lineW] at this
      omega
    exact h2 _ (by split <;> first | exact tokW_drop_le 1 _ | exact Nat.le_refl _)

theorem addSepNew_wantW (ctx : SepCtx) (e : EFile) (w : Want) :
    W (Edit.addSepNew ctx e w) + w.path.length + 1 ≤ W e + wantW w := by
  unfold Edit.addSepNew
  simp only []
  have key : ∀ (idx : Nat) (line : Line), lineW line = tokW [autoQuote w.path, w.vers] + 1 →
      treeW (Edit.appendToBlock e.f.syn.stmts idx line) ≤ treeW e.f.syn.stmts + 2 * (autoQuote w.path).length + 2 * w.vers.length + 3 := by
    intro idx line hl
    have := appendToBlock_treeW e.f.syn.stmts idx line
    rw [hl, tokW2] at this; omega
  have hl1 : lineW (Edit.mkLine e.next [autoQuote w.path, w.vers] true) = tokW [autoQuote w.path, w.vers] + 1 := rfl
  have hl2 : lineW (Edit.setIndirectLine true (Edit.mkLine e.next [autoQuote w.path, w.vers] true)) = tokW [autoQuote w.path, w.vers] + 1 := by
    simp only [lineW, setIndirectLine_token]; rfl
  cases hi : w.indirect
  · have := key ctx.directIdx _ hl1
    simp only [W, listsW, goLen, modPath, wantW, Bool.false_eq_true, if_false, List.length_append, List.length_cons, List.length_nil] at this ⊢
    omega
  · have := key ctx.indirectIdx _ hl2
    simp only [W, listsW, goLen, modPath, wantW, if_true, List.length_append, List.length_cons, List.length_nil] at this ⊢
    omega

theorem addMissing_W (ctx : SepCtx) (hv : List Bytes) : ∀ (ws : List Want) (e : EFile),
    W (addMissing ctx hv e ws) ≤ W e + wantsW ws
  | [], e => by simp [addMissing]
  | w :: ws, e => by
    simp only [addMissing, wantsW_cons]
    split
    · have := addMissing_W ctx hv ws e; omega
    · have h1 := addMissing_W ctx hv ws (Edit.addSepNew ctx e w)
      have h2 := addSepNew_wantW ctx e w
      omega

theorem fuel5_le : ∀ ws : List Want, fuel5 ws ≤ wantsW ws + 1
  | [] => by simp [fuel5]
  | w :: ws => by
    have := fuel5_le ws
    have h1 : w.path.length + 2 ≤ wantW w := by unfold wantW; omega
    simp only [fuel5, wantsW_cons]; omega

/-! ### the line ids: pairwise different and below `next` -/

def IdOK (ss : List Expr) (next : Nat) : Prop := (treeIds ss).Nodup ∧ ∀ i ∈ treeIds ss, i < next

theorem treeIds_set_perm (ss : List Expr) (i : Nat) (x y : Expr) (extra : List Nat) (h : ss[i]? = some x)
    (hp : (treeIds [y]).Perm (treeIds [x] ++ extra)) : (treeIds (ss.set i y)).Perm (treeIds ss ++ extra) := by
  obtain ⟨a, b, rfl, h2⟩ := set_split ss i x y h
  rw [h2, Edit.treeIds_append, Edit.treeIds_append, Edit.treeIds_cons y, Edit.treeIds_cons x, List.append_assoc, List.append_assoc]
  refine List.Perm.append_left _ ((hp.append_right _).trans ?_)
  rw [List.append_assoc]
  exact List.Perm.append_left _ List.perm_append_comm

theorem IdOK.perm {ss ss' : List Expr} {next next' : Nat} {extra : List Nat} (h : IdOK ss next)
    (hp : (treeIds ss').Perm (treeIds ss ++ extra)) (hn : extra.Nodup) (hd : ∀ i ∈ extra, next ≤ i ∧ i < next')
    (hle : next ≤ next') : IdOK ss' next' := by
  constructor
  · rw [hp.nodup_iff, List.nodup_append]
    refine ⟨h.1, hn, ?_⟩
    intro a ha b hb hab
    have := h.2 a ha
    have := (hd b hb).1
    omega
  · intro i hi
    have := hp.subset hi
    rcases List.mem_append.1 this with h1 | h1
    · have := h.2 i h1; omega
    · exact (hd i h1).2

theorem appendToBlock_idOK (ss : List Expr) (idx : Nat) (l : Line) (next : Nat) (h : IdOK ss next) (hl : l.id = next) :
    IdOK (Edit.appendToBlock ss idx l) (next + 1) := by
  unfold Edit.appendToBlock
  split
  · rename_i b hb
    refine h.perm (extra := [l.id]) (treeIds_set_perm ss idx _ _ [l.id] hb ?_) (by simp) (by simp [hl]) (by omega)
    rw [treeIds_cons_block, treeIds_cons_block]
    simp [show treeIds [] = [] from rfl]
  · exact ⟨h.1, fun i hi => by have := h.2 i hi; omega⟩

theorem IdOK.of_perm {ss ss' : List Expr} {next : Nat} (h : IdOK ss next) (hp : (treeIds ss').Perm (treeIds ss)) : IdOK ss' next :=
  ⟨hp.nodup_iff.2 h.1, fun i hi => h.2 i (hp.subset hi)⟩

theorem moveExisting_idOK (syn : FileSyntax) (i idx next : Nat) (h : IdOK syn.stmts next) :
    IdOK (Edit.moveExisting syn i idx next).stmts (next + 1) := by
  unfold Edit.moveExisting
  split
  · exact ⟨h.1, fun j hj => by have := h.2 j hj; omega⟩
  · rename_i old ho
    have h1 : IdOK (syn.updateLine i fun l => { l with token := [] }).stmts next := by
      unfold IdOK
      rw [Edit.treeIds_updateLine syn i (fun l => { l with token := [] }) h.1 (fun _ => rfl)]
      exact h
    exact appendToBlock_idOK _ idx _ next h1 rfl

/-! ### the plan: the two `require` blocks -/

def Grows (k : Nat) (ss s : List Expr) : Prop := treeW s ≤ treeW ss + k ∧ (treeIds s).Perm (treeIds ss)

theorem Grows.trans {j k : Nat} {ss s t : List Expr} (h1 : Grows j ss s) (h2 : Grows k s t) : Grows (j + k) ss t :=
  ⟨by have := h1.1; have := h2.1; omega, h2.2.trans h1.2⟩

theorem treeIds_emptyRequireBlock (ss : List Expr) : treeIds (Edit.emptyRequireBlock :: ss) = treeIds ss := by
  rw [Edit.treeIds_cons]; rfl

theorem grows_insertAt (ss : List Expr) (i : Nat) : Grows 16 ss (Edit.insertAt ss i Edit.emptyRequireBlock) := by
  unfold Edit.insertAt
  refine ⟨?_, ?_⟩
  · have := congrArg treeW (List.take_append_drop i ss)
    simp only [treeW_append, treeW_cons, exprW_emptyRequireBlock] at this ⊢
    omega
  · rw [Edit.treeIds_append, treeIds_emptyRequireBlock, ← Edit.treeIds_append, List.take_append_drop]

theorem grows_append (ss : List Expr) : Grows 16 ss (ss ++ [Edit.emptyRequireBlock]) :=
  ⟨by simp only [treeW_append, treeW_cons, treeW_nil, exprW_emptyRequireBlock]; omega,
    by rw [Edit.treeIds_append, treeIds_emptyRequireBlock]; simp [treeIds, Edit.loc]⟩

theorem grows_ensureBlock {ss s : List Expr} {i : Nat} (h : Edit.ensureBlock ss i = .ok s) : Grows 16 ss s := by
  unfold Edit.ensureBlock at h
  split at h
  · cases h; exact ⟨Nat.le_add_right _ _, List.Perm.refl _⟩
  · rename_i l hl
    simp only [Except.ok.injEq] at h
    subst h
    refine ⟨?_, ?_⟩
    · have := treeW_set ss i _ (.lineBlock { token := [B "require"], lines := [{ l with token := l.token.drop 1, inBlock := true }] }) hl
      have hd := tokW_drop_le 1 l.token
      simp only [exprW, lineW, tokW_cons, tokW_nil, len_require, linesW_cons, linesW_nil] at this
      omega
    · have := treeIds_set_perm ss i _ (.lineBlock { token := [B "require"], lines := [{ l with token := l.token.drop 1, inBlock := true }] }) [] hl
        (by rw [treeIds_cons_block, treeIds_cons_line]; simp)
      simpa using this
  · cases h

theorem indirectPlan_grows {oneFlat : Bool} {ml : List (Nat × Nat)} {ss : List Expr} {d : Nat} {dO li ish : Option Nat}
    {ctx : SepCtx} {s : List Expr} (h : indirectPlan oneFlat ml ss d dO li ish = .ok (ctx, s)) : Grows 16 ss s := by
  unfold indirectPlan at h
  split at h
  · simp only [Except.ok.injEq, Prod.mk.injEq] at h
    exact h.2 ▸ grows_insertAt ss _
  · split at h
    · cases h
    · rename_i s' he
      simp only [Except.ok.injEq, Prod.mk.injEq] at h
      exact h.2 ▸ grows_ensureBlock he

theorem sepPlan_grows {e : EFile} {ctx : SepCtx} {s : List Expr} (h : sepPlan e = .ok (ctx, s)) : Grows 32 e.f.syn.stmts s := by
  unfold sepPlan at h
  simp only [] at h
  split at h
  · split at h
    · exact (grows_insertAt _ _).trans (indirectPlan_grows h)
    · split at h
      · exact (grows_insertAt _ _).trans (indirectPlan_grows h)
      · exact (grows_append _).trans (indirectPlan_grows h)
  · split at h
    · cases h
    · rename_i s' he
      exact (grows_ensureBlock he).trans (indirectPlan_grows h)

theorem sepPlan_treeW (e : EFile) (ctx : SepCtx) (s : List Expr) (h : sepPlan e = .ok (ctx, s)) :
    treeW s ≤ treeW e.f.syn.stmts + 32 := (sepPlan_grows h).1

theorem sepPlan_ids (e : EFile) (ctx : SepCtx) (s : List Expr) (h : sepPlan e = .ok (ctx, s)) :
    (treeIds s).Perm (treeIds e.f.syn.stmts) := (sepPlan_grows h).2

end ModVerif.Tie.FnEditFuelK


namespace ModVerif.Tie.FnEditFuelL
open ModVerif ModVerif.Modfile ModVerif.Tie.FnEditFuelA ModVerif.Tie.FnEditFuelB ModVerif.Tie.FnEditFuelC
open ModVerif.Tie.FnEditFuelE ModVerif.Tie.FnEditFuelK
open ModVerif.Tie.FnEditSessionA ModVerif.Tie.FnEditSessionB
open ModVerif.Tie.FnEditSortE (sortFuel goLen)
open ModVerif.Tie.FnEditReqE (modPath)
open ModVerif.Tie.FnEditSetF (withStmts)
open ModVerif.Tie.FnEditSetJ (mkE)
open ModVerif.Tie.FnEditSetL (addMissing fuel5 fuelTail tailM addMissing_eq)
open ModVerif.Tie.FnEditSetN (sepPlan model_factor)
open ModVerif.Tie.FnEditSetP (fuelSep)
open ModVerif.Modfile.Edit (EFile EditErr Want applyMod treeIds SepCtx sepLoop needMap)

def notHave (hv : List Bytes) (a : Want) : Bool := !hv.contains a.path

theorem filter_notHave_cons (need : List Want) (hv : List Bytes) (p : Bytes) :
    need.filter (notHave (p :: hv)) = (need.filter (notHave hv)).filter (fun a => a.path != p) := by
  rw [List.filter_filter]
  congr 1
  funext a
  simp only [notHave, List.contains_cons, Bool.not_or, bne]

theorem wantsW_keep (need : List Want) (hv : List Bytes) (w : Want) (hm : w ∈ need) (hc : hv.contains w.path = false) :
    wantsW (need.filter (notHave (w.path :: hv))) + wantW w ≤ wantsW (need.filter (notHave hv)) := by
  rw [filter_notHave_cons]
  refine wantsW_filter_mem (fun a : Want => a.path != w.path) _ w ?_ (by simp)
  exact List.mem_filter.2 ⟨hm, by simp only [notHave, hc, Bool.not_false]⟩

theorem nodesE_le_treeW : ∀ ss : List Expr, FnEditSetE.nodes ss ≤ treeW ss
  | [] => by simp [FnEditSetE.nodes]
  | x :: ss => by
    have ih := nodesE_le_treeW ss
    cases x with
    | lineBlock b =>
      have := length_le_linesW b.lines
      simp only [FnEditSetE.nodes_block, treeW_cons, exprW]; omega
    | line l => simp only [FnEditSetE.nodes_line, treeW_cons, exprW, lineW]; omega
    | commentBlock c => simp only [FnEditSetE.nodes_cb, treeW_cons, exprW]; omega
    | lparen c =>
      have : FnEditSetE.nodes (Expr.lparen c :: ss) = 1 + FnEditSetE.nodes ss := rfl
      simp only [this, treeW_cons, exprW]; omega
    | rparen c =>
      have : FnEditSetE.nodes (Expr.rparen c :: ss) = 1 + FnEditSetE.nodes ss := rfl
      simp only [this, treeW_cons, exprW]; omega

theorem sepLoop_W (ctx : SepCtx) (need : List Want) : ∀ (rs : List Require) (hv : List Bytes) (syn : FileSyntax) (next : Nat)
    (rq : List Require) (hv' : List Bytes) (syn' : FileSyntax) (next' : Nat), IdOK syn.stmts next →
    sepLoop ctx need rs hv syn next = .ok (rq, hv', syn', next') →
    rq.length = rs.length ∧
      treeW syn'.stmts + wantsW (need.filter (notHave hv')) ≤ treeW syn.stmts + wantsW (need.filter (notHave hv))
  | [], hv, syn, next, rq, hv', syn', next', hi, h => by
    simp only [sepLoop, Except.ok.injEq, Prod.mk.injEq] at h
    obtain ⟨rfl, rfl, rfl, rfl⟩ := h
    exact ⟨rfl, Nat.le_refl _⟩
  | r :: rs, hv, syn, next, rq, hv', syn', next', hi, h => by
    -- the removal step (two branches)
    have hrem : ∀ i, (sepLoop ctx need rs hv (Edit.markRemoved syn i) next).bind
          (fun v => (.ok (Edit.clearedRequire :: v.fst, v.2.fst, v.2.2.fst, v.2.2.snd) : Except EditErr _)) = .ok (rq, hv', syn', next') →
        rq.length = (r :: rs).length ∧
          treeW syn'.stmts + wantsW (need.filter (notHave hv')) ≤ treeW syn.stmts + wantsW (need.filter (notHave hv)) := by
      intro i hx
      have hi1 : IdOK (Edit.markRemoved syn i).stmts next := by
        unfold IdOK; rw [Edit.treeIds_markRemoved syn i hi.1]; exact hi
      have hw1 := markRemoved_treeW syn i
      cases hr : sepLoop ctx need rs hv (Edit.markRemoved syn i) next with
      | error err => rw [hr] at hx; cases hx
      | ok t =>
        obtain ⟨rs', h', sy, nx⟩ := t
        obtain ⟨i1, i2⟩ := sepLoop_W ctx need rs _ _ _ rs' h' sy nx hi1 hr
        rw [hr] at hx
        simp only [Except.bind, Except.ok.injEq, Prod.mk.injEq] at hx
        obtain ⟨rfl, rfl, rfl, rfl⟩ := hx
        refine ⟨by simp [i1], ?_⟩
        omega
    unfold sepLoop at h
    -- a requirement that is requested (`w`) and not yet kept is kept: its line gets the version and the marker of `w`
    -- (at most `2·|vers|` more) and may move to the other block (at most 1 more), and `w` leaves the sum (`wantsW_keep`
    -- frees `wantW w ≥ 2·|vers| + 1`); every other requirement is removed, which costs nothing
    split at h
    · rename_i w hw
      split at h
      · cases hd : Edit.deref r.lineId with
        | error err => simp [hd, bind, Except.bind] at h
        | ok i =>
          simp only [hd, bind, Except.bind, pure, Except.pure] at h
          exact hrem i h
      · rename_i hc
        have hc' : hv.contains r.mod.path = false := by simpa using hc
        cases hd : Edit.deref r.lineId with
        | error err => simp [hd, bind, Except.bind] at h
        | ok i =>
          simp only [hd, bind, Except.bind, pure, Except.pure] at h
          have hi1 : IdOK (syn.updateLine i (fun l => Edit.setIndirectLine w.indirect (Edit.setVersionLine w.vers l))).stmts next := by
            unfold IdOK; rw [Edit.treeIds_updateLine syn i _ hi.1 (keepLine_id w)]; exact hi
          have hw1 := updateLine_treeW syn i (fun l => Edit.setIndirectLine w.indirect (Edit.setVersionLine w.vers l)) (2 * w.vers.length)
            (keepLine_lineW w) hi.1
          have hmem := List.mem_of_find?_eq_some hw
          have hp0 := List.find?_some hw
          have hp : w.path = r.mod.path := eq_of_beq hp0
          have h3 := wantsW_keep need hv w hmem (by rw [hp]; exact hc')
          rw [hp] at h3
          have hvers : 2 * w.vers.length + 1 ≤ wantW w := by unfold wantW; omega
          -- the continuation, for any of the three outcomes of the move
          have key : ∀ (r1 : Require) (syn1 : FileSyntax) (next1 : Nat), r1.mod.path = r.mod.path →
              treeW syn1.stmts ≤ treeW (syn.updateLine i (fun l => Edit.setIndirectLine w.indirect (Edit.setVersionLine w.vers l))).stmts + 1 →
              IdOK syn1.stmts next1 →
              (sepLoop ctx need rs (r1.mod.path :: hv) syn1 next1).bind
                (fun v => (.ok (r1 :: v.fst, v.2.fst, v.2.2.fst, v.2.2.snd) : Except EditErr _)) = .ok (rq, hv', syn', next') →
              rq.length = (r :: rs).length ∧
                treeW syn'.stmts + wantsW (need.filter (notHave hv')) ≤ treeW syn.stmts + wantsW (need.filter (notHave hv)) := by
            intro r1 syn1 next1 hp1 hw2 hi2 hx
            cases hr : sepLoop ctx need rs (r1.mod.path :: hv) syn1 next1 with
            | error err => rw [hr] at hx; cases hx
            | ok t =>
              obtain ⟨rs', h', sy, nx⟩ := t
              obtain ⟨i1, i2⟩ := sepLoop_W ctx need rs _ _ _ rs' h' sy nx hi2 hr
              rw [hr] at hx
              simp only [Except.bind, Except.ok.injEq, Prod.mk.injEq] at hx
              obtain ⟨rfl, rfl, rfl, rfl⟩ := hx
              rw [hp1] at i2
              refine ⟨by simp [i1], ?_⟩
              omega
          by_cases c1 : (w.indirect && (ctx.oneFlat || Edit.inBlockOrig ctx i ctx.directOrig)) = true
          · simp only [c1, if_true] at h
            exact key { r with mod := { r.mod with version := w.vers }, indirect := w.indirect, lineId := next }
              (Edit.moveExisting (syn.updateLine i (fun l => Edit.setIndirectLine w.indirect (Edit.setVersionLine w.vers l))) i ctx.indirectIdx next)
              (next + 1) rfl (moveExisting_treeW _ _ _ _) (moveExisting_idOK _ _ _ _ hi1) h
          · by_cases c2 : (!w.indirect && (ctx.oneFlat || Edit.inBlockOrig ctx i ctx.indirectOrig)) = true
            · simp only [c1, c2, if_true, if_false, Bool.false_eq_true] at h
              exact key { r with mod := { r.mod with version := w.vers }, indirect := w.indirect, lineId := next }
                (Edit.moveExisting (syn.updateLine i (fun l => Edit.setIndirectLine w.indirect (Edit.setVersionLine w.vers l))) i ctx.directIdx next)
                (next + 1) rfl (moveExisting_treeW _ _ _ _) (moveExisting_idOK _ _ _ _ hi1) h
            · simp only [c1, c2, if_false, Bool.false_eq_true] at h
              exact key { r with mod := { r.mod with version := w.vers }, indirect := w.indirect }
                (syn.updateLine i (fun l => Edit.setIndirectLine w.indirect (Edit.setVersionLine w.vers l))) next rfl (Nat.le_succ _) hi1 h
    · cases hd : Edit.deref r.lineId with
      | error err => simp [hd, bind, Except.bind] at h
      | ok i =>
        simp only [hd, bind, Except.bind, pure, Except.pure] at h
        exact hrem i h

theorem W_mkE (e0 : EFile) (rq : List Require) (syn : FileSyntax) (next : Nat) (hl : rq.length = e0.f.require.length) :
    W (mkE e0 rq syn next) + treeW e0.f.syn.stmts = W e0 + treeW syn.stmts := by
  simp only [W, listsW, goLen, modPath, mkE, hl]; omega

theorem W_withStmts (e : EFile) (s : List Expr) : W (withStmts e s) + treeW e.f.syn.stmts = W e + treeW s := by
  simp only [W, listsW, goLen, modPath, withStmts]; omega

theorem sep_state_W (e : EFile) (req : List Want) (ctx : SepCtx) (s : List Expr) (rq : List Require) (hv : List Bytes)
    (syn : FileSyntax) (next : Nat) (hi : IdOK e.f.syn.stmts e.next) (hp : sepPlan e = .ok (ctx, s))
    (hr : sepLoop ctx req (withStmts e s).f.require [] (withStmts e s).f.syn (withStmts e s).next = .ok (rq, hv, syn, next)) :
    W (addMissing ctx hv (mkE (withStmts e s) rq syn next) req) ≤ W e + 32 + 2 * wantsW req := by
  obtain ⟨h1, hids⟩ := sepPlan_grows hp
  have hi1 : IdOK (withStmts e s).f.syn.stmts (withStmts e s).next := hi.of_perm hids
  obtain ⟨i1, i2⟩ := sepLoop_W ctx req _ _ _ _ rq hv syn next hi1 hr
  have h3 := addMissing_W ctx hv req (mkE (withStmts e s) rq syn next)
  have h4 := W_mkE (withStmts e s) rq syn next i1
  have h5 := W_withStmts e s
  have h6 := wantsW_filter_le (notHave []) req
  simp only [FnEditSetF.withStmts_stmts] at h4 i2
  omega

theorem sep_stepFuel_le (e : EFile) (l : List EditSpec.Req) (hi : IdOK e.f.syn.stmts e.next)
    (hg : Edit.GoodWant (l.map toWant)) :
    stepFuel e (.setRequireSeparateIndirect l) ≤ 3 * (W e + G (.setRequireSeparateIndirect l)) + 12 := by
  have hs := wantsW_toWant l
  have hl : e.f.require.length ≤ W e := by unfold W listsW; omega
  have hn := nodesE_le_treeW e.f.syn.stmts
  have hn' : treeW e.f.syn.stmts ≤ W e := by unfold W; omega
  simp only [stepFuel, fuelSep, G, opSize]
  cases hp : sepPlan e with
  | error err => (try simp only []); omega
  | ok t =>
    obtain ⟨ctx, s⟩ := t
    simp only [fuelTail, needMap_good hg, List.length_map, FnEditSetF.withStmts_require]
    cases hr : sepLoop ctx (l.map toWant) e.f.require [] (withStmts e s).f.syn (withStmts e s).next with
    | error err => (try simp only []); omega
    | ok t =>
      obtain ⟨rq, hv, syn, next⟩ := t
      have h1 := sep_state_W e _ ctx s rq hv syn next hi hp hr
      have h2 := sortFuel_le (addMissing ctx hv (mkE (withStmts e s) rq syn next) (l.map toWant))
      have h3 := fuel5_le (l.map toWant)
      (try simp only [])
      omega

theorem sep_W (e e' : EFile) (l : List EditSpec.Req) (hi : IdOK e.f.syn.stmts e.next)
    (hg : Edit.GoodWant (l.map toWant)) (h : Edit.setRequireSeparateIndirect e (l.map toWant) id = .ok e') :
    W e' ≤ W e + G (.setRequireSeparateIndirect l) := by
  have hs := wantsW_toWant l
  rw [model_factor] at h
  cases hp : sepPlan e with
  | error err => rw [hp] at h; cases h
  | ok t =>
    obtain ⟨ctx, s⟩ := t
    rw [hp] at h
    simp only [tailM, bind, Except.bind, needMap_good hg] at h
    cases hr : sepLoop ctx (l.map toWant) (withStmts e s).f.require [] (withStmts e s).f.syn (withStmts e s).next with
    | error err => rw [hr] at h; cases h
    | ok t =>
      obtain ⟨rq, hv, syn, next⟩ := t
      have h1 := sep_state_W e _ ctx s rq hv syn next hi hp hr
      rw [hr] at h
      simp only [pure, Except.pure, Except.ok.injEq, addMissing_eq] at h
      subst h
      have h6 := sortBlocks_W (addMissing ctx hv (mkE (withStmts e s) rq syn next) (l.map toWant))
      simp only [G, opSize, mkE] at *
      omega

theorem idOK_of_inv {e : EFile} (hi : Edit.P.Inv e) : IdOK e.f.syn.stmts e.next := ⟨hi.tree.nodup, hi.tree.lt⟩

theorem stepFuel_le_all (e : EFile) (op : EditSpec.Op) (hi : Edit.P.Inv e)
    (hv : Edit.ValidArgsLive e (opM op)) : stepFuel e op ≤ 3 * (W e + G op) + 12 := by
  cases op
  case setRequireSeparateIndirect l => exact sep_stepFuel_le e l (idOK_of_inv hi) hv.1
  all_goals exact Nat.le_trans (stepFuel_le' e _ trivial hi.tree.nodup hv) (Nat.le_add_right _ _)

theorem applyMod_W_all (e e' : EFile) (op : EditSpec.Op) (hi : Edit.P.Inv e)
    (hv : Edit.ValidArgsLive e (opM op)) (h : applyMod e (opM op) = some (.ok e')) : W e' ≤ W e + G op := by
  cases op
  case setRequireSeparateIndirect l => exact sep_W e e' l (idOK_of_inv hi) hv.1 (Option.some.inj h)
  all_goals exact applyMod_W' e e' _ trivial hi.tree.nodup hv h

end ModVerif.Tie.FnEditFuelL

namespace ModVerif.Tie.FnEditFuelD
open ModVerif ModVerif.Modfile ModVerif.Tie.FnEditFuelA ModVerif.Tie.FnEditFuelB ModVerif.Tie.FnEditFuelC ModVerif.Tie.FnEditFuelE
open ModVerif.Tie.FnEditFuelL
open ModVerif.Tie.FnEditSessionA ModVerif.Tie.FnEditSessionB ModVerif.Tie.FnEditSessionC ModVerif.Tie.FnEditSessionE
open ModVerif.Modfile.Edit (EFile EditErr applyMod treeIds)

theorem potential : Potential applyMod Edit.P.Inv (fun e op => Edit.ValidArgsLive e (opM op)) W G :=
  fun e op e' hi hv hx => ⟨Edit.P.applyMod_inv_all e e' _ hv hi hx, applyMod_W_all e e' op hi hv hx⟩

theorem run_W_all (ops : List EditSpec.Op) (e : EFile) (acc : List Bool) (i : Nat) (e' : EFile) (res : List Bool)
    (hi : Edit.P.Inv e) (hv : Edit.RunValidLive e (ops.map opM))
    (h : Edit.runOps applyMod e (ops.map opM) acc i = .done e' res) : W e' ≤ W e + opsG ops :=
  (potential.done ops e acc i e' res hi ((runValidLive_iff ops e).1 hv) h).2

theorem fuelOK_of_W_gen (Q : EditSpec.Op → Prop) (c : Nat)
    (hQ : ∀ e op, Q op → Edit.P.Inv e → Edit.ValidArgsLive e (opM op) → stepFuel e op ≤ 3 * (W e + G op) + c)
    (fuel : Nat) (ops : List EditSpec.Op) (e : EFile) (hi : Edit.P.Inv e) (hv : Edit.RunValidLive e (ops.map opM))
    (hq : ∀ op ∈ ops, Q op) (hf : 3 * (W e + opsG ops) + c ≤ fuel) : FuelOK fuel e ops :=
  (fuelOK_iff fuel ops e).2 <|
    potential.along Q stepFuel 3 c hQ fuel ops e hi ((runValidLive_iff ops e).1 hv) hq hf

theorem _root_.ModVerif.Tie.FnEditFuelL.finalFuel_of_W_all (fuel : Nat) (ops : List EditSpec.Op) (e : EFile) (hi : Edit.P.Inv e)
    (hv : Edit.RunValidLive e (ops.map opM)) (hf : W e + opsG ops + 1 ≤ fuel) : FinalFuel fuel e ops := by
  intro e' res hx
  have h1 := run_W_all ops e [] 0 e' res hi hv hx
  have h2 := cleanupFuel_le e'
  omega

theorem fuelOK_of_W (fuel : Nat) : ∀ (ops : List EditSpec.Op) (e : EFile), Edit.P.Inv e → Edit.RunValidLive e (ops.map opM) →
    (∀ op ∈ ops, NotBulk op) → 3 * (W e + opsG ops) ≤ fuel → FuelOK fuel e ops :=
  fun ops e hi hv hb hf => fuelOK_of_W_gen NotBulk 0 (fun e op hb _ _ => stepFuel_le e op hb) fuel ops e hi hv hb hf

-- the statement has `hb` although the bound holds without it
set_option linter.unusedVariables false in
theorem finalFuel_of_W (fuel : Nat) (ops : List EditSpec.Op) (e : EFile) (hi : Edit.P.Inv e)
    (hv : Edit.RunValidLive e (ops.map opM)) (hb : ∀ op ∈ ops, NotBulk op) (hf : W e + opsG ops + 1 ≤ fuel) :
    FinalFuel fuel e ops := finalFuel_of_W_all fuel ops e hi hv hf

theorem _root_.ModVerif.Tie.FnEditFuelL.fuelOK_of_W_all (fuel : Nat) : ∀ (ops : List EditSpec.Op) (e : EFile), Edit.P.Inv e → Edit.RunValidLive e (ops.map opM) →
    3 * (W e + opsG ops) + 12 ≤ fuel → FuelOK fuel e ops :=
  fun ops e hi hv hf =>
    fuelOK_of_W_gen (fun _ => True) 12 (fun e op _ hi hv => stepFuel_le_all e op hi hv) fuel ops e hi hv (fun _ _ => trivial) hf

theorem _root_.ModVerif.Tie.FnEditFuelE.fuelOK_of_W' (fuel : Nat) : ∀ (ops : List EditSpec.Op) (e : EFile), Edit.P.Inv e → Edit.RunValidLive e (ops.map opM) →
    (∀ op ∈ ops, NotSep op) → 3 * (W e + opsG ops) ≤ fuel → FuelOK fuel e ops :=
  fun ops e hi hv hb hf =>
    fuelOK_of_W_gen NotSep 0 (fun e op hb hi hv => stepFuel_le' e op hb hi.tree.nodup hv) fuel ops e hi hv hb hf

set_option linter.unusedVariables false in
theorem _root_.ModVerif.Tie.FnEditFuelE.finalFuel_of_W' (fuel : Nat) (ops : List EditSpec.Op) (e : EFile) (hi : Edit.P.Inv e)
    (hv : Edit.RunValidLive e (ops.map opM)) (hb : ∀ op ∈ ops, NotSep op) (hf : W e + opsG ops + 1 ≤ fuel) :
    FinalFuel fuel e ops := finalFuel_of_W_all fuel ops e hi hv hf

end ModVerif.Tie.FnEditFuelD
