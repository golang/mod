/-
  The universal start-state lemma for go.work: a file accepted by `parseWork` (no fixer) with
  non-empty keys satisfies `Edit.InvW` after `loadWork`, and `WorkStartOK`.  Same structure as for go.mod.
-/
import ModVerif.Proofs.EditMoreStartC
import ModVerif.Proofs.EditRefineInvWork
import ModVerif.Proofs.ModfileFmtWork
namespace ModVerif.Modfile.Edit
open ModVerif ModVerif.Modfile ModVerif.Proofs.ModfileC20 ModVerif.Proofs.EditMore

def segsW (f : WorkFile) : List (List Ent) :=
  [f.go.toList.map entGo, f.toolchain.toList.map entTc, f.godebug.map entG, f.use.map entU, f.replace.map entRp]

def entsAllW (f : WorkFile) : List Ent := (segsW f).flatten

theorem entsAllW_perm {f f' : WorkFile} {en : Ent} (k : Nat) (hk : k < 5)
    (h : segsW f' = (segsW f).set k ((segsW f).getD k [] ++ [en])) : (entsAllW f').Perm (entsAllW f ++ [en]) := by
  unfold entsAllW; rw [h]; exact flatten_set_perm en _ k (by simpa [segsW] using hk)

theorem errW_ne (st : WorkState) (p : Position) (k : RuleErrKind) : (st.err p k).errsRev ≠ [] := by simp [WorkState.err]

theorem WorkOK.ent {fix : Option Fixer} (hne : Proofs.ModfileFmtDir.FixNE fix)
    {st : WorkState} {line : Line} {verb : Bytes} {args args' : List Bytes} {f' : WorkFile}
    (h : Proofs.ModfileFmtWork.WorkOK st line fix verb args f' args') :
    (∃ en : Ent, (entsAllW f').Perm (entsAllW st.file ++ [en]) ∧ en.id = line.id ∧ en.acc (verb :: args') line.comments.suffix) ∧
      args' ≠ [] := by
  have none_of : ∀ {α : Type} {o : Option α}, o.isSome = false → o = none := fun h => by simpa using h
  cases h with
  | go a h1 _ => exact ⟨⟨entGo ⟨a, line.id⟩, entsAllW_perm 0 (by omega) (by simp [segsW, none_of h1]), rfl, rfl⟩, by simp⟩
  | toolchain a h1 _ => exact ⟨⟨entTc ⟨a, line.id⟩, entsAllW_perm 1 (by omega) (by simp [segsW, none_of h1]), rfl, rfl⟩, by simp⟩
  | godebug args k v hkv =>
    obtain rfl := addGodebug_spec _ _ _ hkv
    exact ⟨⟨entG ⟨k, v, line.id⟩, entsAllW_perm 2 (by omega) (by simp [segsW]), rfl, rfl⟩, by simp⟩
  | use a s a' hs =>
    obtain rfl := Proofs.ModfileFmtQuote.parseString_tok hs
    exact ⟨⟨entU { path := s, lineId := line.id }, entsAllW_perm 3 (by omega) (by simp [segsW]), rfl, rfl⟩, by simp⟩
  | replace args args' r hr =>
    obtain ⟨e1, e2⟩ := parseReplace_spec hne _ _ _ _ hr
    exact ⟨⟨entRp r, entsAllW_perm 4 (by omega) (by simp [segsW]), e2, e1⟩, fun h0 => by rw [h0] at e1; simp [replaceToks] at e1⟩

theorem addsOne_workAdd {fix : Option Fixer} (hne : Proofs.ModfileFmtDir.FixNE fix) :
    AddsOne (fun st _ l verb args => WorkFile.add st l verb args fix) (fun st => entsAllW st.file) (·.errsRev = []) := by
  intro st blk l verb args st' args' h he
  have hs := Proofs.ModfileFmtWork.workAdd_strict st l verb args fix
  rw [show WorkFile.add st l verb args fix = (st', args') from h] at hs
  rcases hs with ⟨hok, herr⟩ | hne
  · exact ⟨herr.symm.trans he, (WorkOK.ent hne hok).2, (WorkOK.ent hne hok).1⟩
  · exact absurd he hne

theorem workStmts_keys (fix : Option Fixer) (xs : List Expr) (st : WorkState) :
    (linesOf (workStmts fix st xs).2).map lineKey = (linesOf xs).map lineKey := by
  rw [workStmts_eq_walk]; exact walkStmts_keys _ _ _ xs st

structure ParsedWorkOK (f : WorkFile) : Prop where
  mtch : Match (entsAllW f) (view f.syn.stmts)
  nodup : (treeIds f.syn.stmts).Nodup
  blockTok : ∀ b, Expr.lineBlock b ∈ f.syn.stmts → ∃ v, b.token = [v]
  flags : ∀ x ∈ f.syn.stmts, FlagOK x

theorem parseWork_ok_of {fix : Option Fixer} (hne : Proofs.ModfileFmtDir.FixNE fix)
    {name data : Bytes} {f : WorkFile} (h : parseWork name data fix = .ok f) : ParsedWorkOK f := by
  unfold parseWork at h
  cases hp : parse name data with
  | error e => simp [hp] at h
  | ok fs =>
    simp only [hp] at h
    cases hA : workStmts fix { file := { syn := fs } } fs.stmts with
    | mk st stmts =>
      simp only [hA] at h
      split at h
      · rename_i he
        simp only [Except.ok.injEq] at h
        subst h
        have he' : st.errsRev = [] := by simpa using he
        rw [workStmts_eq_walk] at hA
        obtain ⟨hm, hnd, hblk, hfl⟩ := walkStmts_parsed (addsOne_workAdd hne) (fun st p => errW_ne st p _) hp rfl hA he'
        exact ⟨hm, hnd, hblk, hfl⟩
      · cases h

theorem parseWork_ok {name data : Bytes} {f : WorkFile} (h : parseWork name data none = .ok f) : ParsedWorkOK f :=
  parseWork_ok_of (fun _ e => by cases e) h

structure WorkKeys (f : WorkFile) : Prop where
  godebug : ∀ g ∈ f.godebug, g.key ≠ []
  use : ∀ u ∈ f.use, u.path ≠ []
  replace : ∀ r ∈ f.replace, r.old.path ≠ []

theorem entriesW_load (f : WorkFile) (h : WorkKeys f) : entriesW (loadWork f).f = (entsAllW f).map shiftE := by
  unfold entriesW
  simp only [loadWork]
  rw [toList_map_shift entGo _ _ fun _ => rfl, toList_map_shift entTc _ _ fun _ => rfl,
    entsOf_map_shift liveG entG (fun x : Godebug => { x with lineId := x.lineId + 1 }) _ (fun x hx => ne_nil_live' (h.godebug x hx)) fun _ => rfl,
    entsOf_map_shift liveU entU (fun x : Use => { x with lineId := x.lineId + 1 }) _ (fun x hx => ne_nil_live' (h.use x hx)) fun _ => rfl,
    entsOf_map_shift liveRp entRp (fun x : Replace => { x with lineId := x.lineId + 1 }) _ (fun x hx => ne_nil_live' (h.replace x hx)) fun _ => rfl]
  simp [entsAllW, segsW, List.map_append]

theorem ParsedWorkOK.treeWF_load {f : WorkFile} (h : ParsedWorkOK f) (hs : NoBlockSuffix f.syn) :
    TreeWF (loadWork f).f.syn.stmts (loadWork f).next := by
  rw [show (loadWork f).f.syn.stmts = _ from shiftSyntax_stmts f.syn]
  exact treeWF_shift h.nodup (id_lt_next_load { syn := f.syn }) h.blockTok h.flags hs

theorem ParsedWorkOK.startOK {f : WorkFile} (h : ParsedWorkOK f) (hk : WorkKeys f) : WorkStartOK f := by
  have hsub : (f.replace.map (·.lineId)).Sublist ((entsAllW f).map (·.id)) := by
    simp only [entsAllW, segsW, List.flatten_cons, List.flatten_nil, List.append_nil, List.map_append, List.map_map]
    refine List.Sublist.trans ?_ (List.sublist_append_right _ _)
    refine List.Sublist.trans ?_ (List.sublist_append_right _ _)
    refine List.Sublist.trans ?_ (List.sublist_append_right _ _)
    refine List.Sublist.trans ?_ (List.sublist_append_right _ _)
    exact List.Sublist.refl _
  refine ⟨hk.godebug, hk.use, hk.replace, List.Nodup.sublist hsub h.mtch.nodup, ?_⟩
  intro i hi
  rcases List.mem_map.1 (hsub.subset hi) with ⟨en, hen, rfl⟩
  exact h.mtch.line_of_ent hen

theorem ParsedWorkOK.invW_load {f : WorkFile} (hp : ParsedWorkOK f) (hk : WorkKeys f) (hs : NoBlockSuffix f.syn) :
    InvW (loadWork f) := by
  refine ⟨hp.treeWF_load hs, ?_, WInv_load f (hp.startOK hk)⟩
  rw [entriesW_load f hk, show (loadWork f).f.syn.stmts = _ from shiftSyntax_stmts f.syn, view_shift]
  exact hp.mtch.shift

theorem parseWork_invW {name data : Bytes} {f : WorkFile} (h : parseWork name data none = .ok f)
    (hk : WorkKeys f) (hs : NoBlockSuffix f.syn) : InvW (loadWork f) :=
  (parseWork_ok h).invW_load hk hs

theorem parseWork_startOK {name data : Bytes} {f : WorkFile} (h : parseWork name data none = .ok f)
    (hk : WorkKeys f) : WorkStartOK f :=
  (parseWork_ok h).startOK hk

end ModVerif.Modfile.Edit
