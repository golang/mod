/-
  `fetch_once`: the once-per-key cache machine (Model/ParCache.lean) instantiated with the keys
  `Client.Lookup` uses for its record cache.

      epath, err := module.EscapePath(path)
      evers, err := module.EscapeVersion(strings.TrimSuffix(vers, "/go.mod"))
      remotePath := "/lookup/" + epath + "@" + evers
      file := c.name + remotePath
      result := c.record.Do(file, func() interface{} { ReadCache(file) / ReadRemote(remotePath) / … })

  `lookupFile` is that `file` (`none` = Lookup returns the escape error before it reaches `Do`); `lookupKey` numbers the
  files injectively.  Two requests share a key exactly when they name the same module path (case sensitive: the
  escaping is injective) and the same version after the `/go.mod` suffix is stripped.
-/
import ModVerif.Proofs.ParCacheInv
import ModVerif.Props.C11
import ModVerif.Model.Tile
namespace ModVerif.ClientFetch
open ModVerif ModVerif.Module

/-- `strings.TrimSuffix(vers, "/go.mod")` (same definition as `Client.trimGoMod` of Model/Client.lean) -/
def trimGoMod (vers : Bytes) : Bytes := Module.trimSuffixB vers (B "/go.mod")

/-- the cache file name / `parCache` key of `Lookup(path, vers)` on the client named `name` -/
def lookupFile (isLetter : Nat → Bool) (name path vers : Bytes) : Option Bytes :=
  match Module.escapePath path with
  | .error _ => none
  | .ok epath =>
    match Module.escapeVersion isLetter (trimGoMod vers) with
    | .error _ => none
    | .ok evers => some (name ++ (B "/lookup/" ++ epath ++ [64] ++ evers))

/-- injective numbering of byte strings (bijective base 257) -/
def encBytes : Bytes → Nat
  | [] => 0
  | b :: bs => b.toNat + 1 + 257 * encBytes bs

theorem encBytes_inj : ∀ a b : Bytes, encBytes a = encBytes b → a = b := by
  intro a
  induction a with
  | nil =>
    intro b h
    cases b with
    | nil => rfl
    | cons y ys => simp only [encBytes] at h; omega
  | cons x xs ih =>
    intro b h
    cases b with
    | nil => simp only [encBytes] at h; omega
    | cons y ys =>
      simp only [encBytes] at h
      have hx := x.toNat_lt; have hy := y.toNat_lt
      have h1 : x.toNat = y.toNat := by omega
      have h2 : encBytes xs = encBytes ys := by omega
      rw [ih ys h2, UInt8.toNat_inj.mp h1]

/-- the `parCache` key as a number; `0` stands for "no call of `Do`" (the request is rejected before) -/
def lookupKey (isLetter : Nat → Bool) (name path vers : Bytes) : Nat :=
  match lookupFile isLetter name path vers with
  | none => 0
  | some f => encBytes f + 1

theorem lookupKey_eq_iff (isLetter : Nat → Bool) (name p v q w f g : Bytes)
    (hf : lookupFile isLetter name p v = some f) (hg : lookupFile isLetter name q w = some g) :
    lookupKey isLetter name p v = lookupKey isLetter name q w ↔ f = g := by
  simp only [lookupKey, hf, hg]
  constructor
  · intro h; exact encBytes_inj f g (by omega)
  · intro h; rw [h]

theorem trimGoMod_append (v : Bytes) : trimGoMod (v ++ B "/go.mod") = v := by
  simp [trimGoMod, Module.trimSuffixB, hasSuffixB_append]

theorem trimGoMod_id (v : Bytes) (h : hasSuffixB v (B "/go.mod") = false) : trimGoMod v = v := by
  simp [trimGoMod, Module.trimSuffixB, h]

/-- C14 `fetch_key_gomod` -/
theorem lookupFile_gomod (isLetter : Nat → Bool) (name path v : Bytes) (h : hasSuffixB v (B "/go.mod") = false) :
    lookupFile isLetter name path (v ++ B "/go.mod") = lookupFile isLetter name path v := by
  simp only [lookupFile, trimGoMod_append, trimGoMod_id v h]

theorem escapeRunes_no_at (s : Bytes) (hs : ∀ b ∈ s, b.toNat < 128 ∧ b.toNat ≠ 64) :
    ∀ c ∈ escapeRunes (s.map (·.toNat)), c.toNat ≠ 64 := by
  induction s with
  | nil => intro c hc; simp [escapeRunes] at hc
  | cons b s ih =>
    have hb := hs b (by simp)
    have ih' := ih (fun c hc => hs c (by simp [hc]))
    intro c hc
    simp only [List.map_cons, escapeRunes] at hc
    split at hc
    · rename_i hup
      simp at hup
      simp only [List.mem_cons] at hc
      rcases hc with rfl | rfl | hc
      · simp
      · rw [toNat_ofNat_lt _ (by omega)]; omega
      · exact ih' c hc
    · simp only [List.mem_cons] at hc
      rcases hc with rfl | hc
      · rw [toNat_ofNat_lt _ (by omega)]; omega
      · exact ih' c hc

theorem escapePath_no_at (p e : Bytes) (h : escapePath p = .ok e) : (64 : UInt8) ∉ e := by
  obtain ⟨hv, hs⟩ := (escapePath_ok_iff p e).mp h
  obtain ⟨hall, rfl⟩ := escapeString_some p e hs
  intro hmem
  refine escapeRunes_no_at p (fun b hb => ⟨okByte_ascii p hall b hb, ?_⟩) 64 hmem rfl
  rcases checkModPath_bytes p hv b hb with h47 | hok
  · subst h47; decide
  · intro h64; rw [h64] at hok; revert hok; decide

theorem split_at_first (c : UInt8) : ∀ (a a' b b' : Bytes), c ∉ a → c ∉ a' → a ++ c :: b = a' ++ c :: b' → a = a' ∧ b = b' := by
  intro a
  induction a with
  | nil =>
    intro a' b b' _ h2 h
    cases a' with
    | nil => simpa using h
    | cons x xs => simp at h; exact absurd (by simp [h.1]) h2
  | cons x xs ih =>
    intro a' b b' h1 h2 h
    cases a' with
    | nil => simp at h; exact absurd (by simp [h.1]) h1
    | cons y ys =>
      simp only [List.cons_append, List.cons.injEq] at h
      obtain ⟨e1, e2⟩ := ih ys b b' (fun hm => h1 (by simp [hm])) (fun hm => h2 (by simp [hm])) h.2
      exact ⟨by rw [h.1, e1], e2⟩

/-- C14 `fetch_key_eq_iff`, the half about the cache file -/
theorem lookupFile_eq_iff (isLetter : Nat → Bool) (name p v q w f g : Bytes)
    (hf : lookupFile isLetter name p v = some f) (hg : lookupFile isLetter name q w = some g) :
    f = g ↔ p = q ∧ trimGoMod v = trimGoMod w := by
  unfold lookupFile at hf hg
  cases h1 : escapePath p with
  | error x => simp [h1] at hf
  | ok ep =>
    cases h2 : escapeVersion isLetter (trimGoMod v) with
    | error x => simp [h1, h2] at hf
    | ok ev =>
      cases h3 : escapePath q with
      | error x => simp [h3] at hg
      | ok eq =>
        cases h4 : escapeVersion isLetter (trimGoMod w) with
        | error x => simp [h3, h4] at hg
        | ok ew =>
          simp only [h1, h2, Option.some.injEq] at hf
          simp only [h3, h4, Option.some.injEq] at hg
          subst hf; subst hg
          constructor
          · intro h
            have h' := List.append_cancel_left h
            simp only [List.append_assoc, List.singleton_append] at h'
            have h'' := List.append_cancel_left h'
            obtain ⟨e1, e2⟩ := split_at_first 64 ep eq ev ew (escapePath_no_at p ep h1) (escapePath_no_at q eq h3) h''
            subst e1; subst e2
            exact ⟨Props.C11.escapePath_fold_inj p q ep ep h1 h3 rfl,
              Props.C11.escapeVersion_fold_inj isLetter _ _ ev ev h2 h4 rfl⟩
          · rintro ⟨rfl, e⟩
            rw [e] at h2
            rw [h1] at h3; rw [h2] at h4
            cases h3; cases h4; rfl

/-! ### the composition with `parCache_once` -/

section
open ModVerif.ParCache
variable {V : Type}

/-- C14 `fetch_once` -/
theorem fetch_once_inv (isLetter : Nat → Bool) (name : Bytes) (path vers : Nat → Bytes) (fval : Nat → V) (s : St V)
    (h : Reachable (fun i => lookupKey isLetter name (path i) (vers i)) fval s) :
    (∀ k, s.runs k ≤ 1) ∧
    (∀ i, s.pc i = .returned →
      s.runs (lookupKey isLetter name (path i) (vers i)) = 1 ∧
      (s.ran (lookupKey isLetter name (path i) (vers i))).isSome = true ∧
      s.got i = s.ran (lookupKey isLetter name (path i) (vers i))) ∧
    (∀ i j, s.pc i = .returned → s.pc j = .returned →
      lookupFile isLetter name (path i) (vers i) = lookupFile isLetter name (path j) (vers j) → s.got i = s.got j) := by
  have hI := inv_reachable _ fval s h
  refine ⟨hI.runs_le, fun i hi => ⟨(hI.returned_ok i hi).2.2, (hI.returned_ok i hi).2.1, (hI.returned_ok i hi).1⟩, ?_⟩
  intro i j hi hj hf
  have hk : lookupKey isLetter name (path i) (vers i) = lookupKey isLetter name (path j) (vers j) := by
    simp only [lookupKey, hf]
  rw [(hI.returned_ok i hi).1, (hI.returned_ok j hj).1, hk]

/-- C14 `tile_fetch_once`, for ANY key type with an injective numbering (`sync.Map` compares keys with `==`) -/
theorem once_per_key {K : Type} (enc : K → Nat) (hinj : ∀ a b, enc a = enc b → a = b) (keyOf : Nat → K) (fval : Nat → V)
    (s : St V) (h : Reachable (fun i => enc (keyOf i)) fval s) :
    (∀ k, s.runs (enc k) ≤ 1) ∧
    (∀ i, s.pc i = .returned → s.runs (enc (keyOf i)) = 1 ∧ s.got i = s.ran (enc (keyOf i)) ∧ (s.got i).isSome = true) ∧
    (∀ i j, s.pc i = .returned → s.pc j = .returned → (keyOf i = keyOf j ↔ enc (keyOf i) = enc (keyOf j)) ∧
      (keyOf i = keyOf j → s.got i = s.got j)) := by
  have hI := inv_reachable _ fval s h
  refine ⟨fun k => hI.runs_le _, fun i hi => ?_, fun i j hi hj => ⟨⟨fun e => by rw [e], hinj _ _⟩, fun e => ?_⟩⟩
  · have := hI.returned_ok i hi
    exact ⟨this.2.2, this.1, by rw [this.1]; exact this.2.1⟩
  · have h1 := (hI.returned_ok i hi).1
    have h2 := (hI.returned_ok j hj).1
    rw [h1, h2, e]

end

/-! ### the tile cache: `c.tileCache.Do(tile, …)` is keyed by the `tlog.Tile` value -/

def encNats : List Nat → Nat
  | [] => 0
  | x :: xs => 2 ^ x * (2 * encNats xs + 1)

theorem pow_odd_inj : ∀ (x y a b : Nat), 2 ^ x * (2 * a + 1) = 2 ^ y * (2 * b + 1) → x = y ∧ a = b := by
  intro x
  induction x with
  | zero =>
    intro y a b h
    cases y with
    | zero => simp at h; exact ⟨rfl, by omega⟩
    | succ y =>
      have e : 2 ^ (y + 1) * (2 * b + 1) = 2 * (2 ^ y * (2 * b + 1)) := by rw [Nat.pow_succ]; ac_rfl
      rw [e] at h; simp at h; omega
  | succ x ih =>
    intro y a b h
    have e1 : 2 ^ (x + 1) * (2 * a + 1) = 2 * (2 ^ x * (2 * a + 1)) := by rw [Nat.pow_succ]; ac_rfl
    cases y with
    | zero => rw [e1] at h; simp at h; omega
    | succ y =>
      have e2 : 2 ^ (y + 1) * (2 * b + 1) = 2 * (2 ^ y * (2 * b + 1)) := by rw [Nat.pow_succ]; ac_rfl
      rw [e1, e2] at h
      obtain ⟨h1, h2⟩ := ih y a b (by omega)
      exact ⟨by omega, h2⟩

theorem encNats_inj : ∀ a b : List Nat, encNats a = encNats b → a = b := by
  intro a
  induction a with
  | nil =>
    intro b h
    cases b with
    | nil => rfl
    | cons y ys =>
      simp only [encNats] at h
      have : 0 < 2 ^ y * (2 * encNats ys + 1) := Nat.mul_pos (Nat.pow_pos (by omega)) (by omega)
      omega
  | cons x xs ih =>
    intro b h
    cases b with
    | nil =>
      simp only [encNats] at h
      have : 0 < 2 ^ x * (2 * encNats xs + 1) := Nat.mul_pos (Nat.pow_pos (by omega)) (by omega)
      omega
    | cons y ys =>
      simp only [encNats] at h
      obtain ⟨h1, h2⟩ := pow_odd_inj x y _ _ h
      rw [h1, ih ys h2]

/-- the tile cache key: the `tlog.Tile` value itself (height, level, index, width) -/
def tileKey (t : Tile.Tile) : Nat := encNats [t.h, t.l, t.n, t.w, t.data.toNat]

theorem tileKey_inj (t u : Tile.Tile) (h : tileKey t = tileKey u) : t = u := by
  have := encNats_inj _ _ h
  simp only [List.cons.injEq, and_true] at this
  obtain ⟨h1, h2, h3, h4, h5⟩ := this
  cases t; cases u
  simp only [Tile.Tile.mk.injEq]
  refine ⟨h1, h2, h3, h4, ?_⟩
  rename_i d1 _ _ _ _ d2
  cases d1 <;> cases d2 <;> simp_all

end ModVerif.ClientFetch
