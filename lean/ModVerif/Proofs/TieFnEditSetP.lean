/-
  `File.SetRequireSeparateIndirect`: the direct-block stage
  (`phaseCG` ↔ `sepPlan`) and the composition of the whole function.
-/
import ModVerif.Proofs.TieFnEditSetO
namespace ModVerif.Tie.FnEditSetP
open ModVerif ModVerif.GoRt ModVerif.Generated.Edit ModVerif.Tie.FnEditRep ModVerif.Tie.FnEditTreeA ModVerif.Tie.FnEditLoop ModVerif.Tie.FnEditSetA
  ModVerif.Tie.FnEditSetB ModVerif.Tie.FnEditSetC ModVerif.Tie.FnEditSetD ModVerif.Tie.FnEditSetE ModVerif.Tie.FnEditSetF
  ModVerif.Tie.FnEditSetG ModVerif.Tie.FnEditSetH ModVerif.Tie.FnEditSetI ModVerif.Tie.FnEditSetJ ModVerif.Tie.FnEditSetK
  ModVerif.Tie.FnEditSetL ModVerif.Tie.FnEditSetM ModVerif.Tie.FnEditSetN ModVerif.Tie.FnEditSetO
open ModVerif.Modfile.Edit (EFile Want treeIds Scan scanStmts hasComments SepCtx insertAt emptyRequireBlock ensureBlock EditErr
  setRequireSeparateIndirect)

theorem Good_lt {stmts : List Modfile.Expr} {i : Nat} (h : Good stmts i) : i < stmts.length := by
  rcases h with ⟨l, hl, _⟩ | ⟨b, hb⟩
  · exact (List.getElem?_eq_some_iff.1 hl).1
  · exact (List.getElem?_eq_some_iff.1 hb).1

theorem Good_line {stmts : List Modfile.Expr} {i : Nat} (h : Good stmts i) {l : Modfile.Line}
    (hl : stmts[i]? = some (Modfile.Expr.line l)) : l.token ≠ [] := by
  rcases h with ⟨l', hl', ht⟩ | ⟨b, hb⟩
  · rw [hl] at hl'; cases hl'; exact ht
  · rw [hl] at hb; cases hb

/-- the common hypotheses of the block stages -/
structure Stage0 (h : Heap) (fp : Int) (o : File) (e : EFile) (fo0 : FileSyntax) (ps : List Int) (req : List Want) : Prop where
  mods : heapGet h.mods fp = .ok o
  rep : RepFAt h o e
  file : heapGet h.files o.Syntax = .ok fo0
  args : ReqArgsS h.requires ps req
  dis : ∀ p ∈ ps, p ∉ o.Require
  inTree : ∀ rq ∈ e.f.require, rq.lineId ≠ 0 → rq.lineId ∈ treeIds e.f.syn.stmts

theorem Stage0.stmts {h : Heap} {fp : Int} {o : File} {e : EFile} {fo0 : FileSyntax} {ps : List Int} {req : List Want}
    (S : Stage0 h fp o e fo0 ps req) : RStmts h fo0.Stmt e.f.syn.stmts ∧ (blockPtrs fo0.Stmt).Nodup := by
  obtain ⟨es, r⟩ := S.rep.syn
  rw [RepSynAt_stmt_eq r S.file]
  exact ⟨r.stmts, r.nodupB⟩

theorem cast_succ (k : Nat) : ((k : Int) + 1) = ((k + 1 : Nat) : Int) := by omega

/-- **the two block stages of `File.SetRequireSeparateIndirect`** (rule.go:1388–1409: `insertBlock` / `ensureBlock` for the direct
    block, then for the indirect one) against the model's `sepPlan`: from a scanned file (`Stage0`) the generated function arrives
    at its tail `tailG` with the block pointers `dB`, `iB`, on a heap that satisfies what the tail simulation asks (`TailReady`);
    where the model reports `badStatement` the generated function panics. -/
theorem plan_sim (isPrint : Int → Bool) (quote : Bytes → Bytes) (fuel : Nat) {h : Heap} {fp : Int} {o : File} {e : EFile}
    {fo0 : FileSyntax} {ps : List Int} {req : List Want} (S : Stage0 h fp o e fo0 ps req) :
    match sepPlan e with
    | .ok (ctx, stmts') =>
      ∃ h' dB iB, phaseCG isPrint quote fuel fp ps (ltbG fo0.Stmt (scanStmts e.f.syn.stmts 0 {}).lineToBlock)
          (oneFlatM e.f.syn.stmts (scanStmts e.f.syn.stmts 0 {})) (optI (scanStmts e.f.syn.stmts 0 {}).lastDirect)
          (optI (scanStmts e.f.syn.stmts 0 {}).lastIndirect) (optI (scanStmts e.f.syn.stmts 0 {}).lastRequire) h =
          tailG isPrint quote fuel fp ps (ltbG fo0.Stmt (scanStmts e.f.syn.stmts 0 {}).lineToBlock) ctx.oneFlat dB iB h' ∧
        TailReady h' fp e ctx stmts' ps req (ltbG fo0.Stmt (scanStmts e.f.syn.stmts 0 {}).lineToBlock) dB iB
    | .error _ =>
      phaseCG isPrint quote fuel fp ps (ltbG fo0.Stmt (scanStmts e.f.syn.stmts 0 {}).lineToBlock)
          (oneFlatM e.f.syn.stmts (scanStmts e.f.syn.stmts 0 {})) (optI (scanStmts e.f.syn.stmts 0 {}).lastDirect)
          (optI (scanStmts e.f.syn.stmts 0 {}).lastIndirect) (optI (scanStmts e.f.syn.stmts 0 {}).lastRequire) h = .error .panic := by
  obtain ⟨hrs, hnb⟩ := S.stmts
  have hlen0 : fo0.Stmt.length = e.f.syn.stmts.length := hrs.length
  have hOK : ScanOK e.f.syn.stmts (scanStmts e.f.syn.stmts 0 {}) := by
    have := scan_ok e.f.syn.stmts [] {} (by simpa using ScanOK.init e.f.syn.stmts)
    simpa using this
  have hle0 : ∀ p ∈ blockPtrs fo0.Stmt, p.toNat ≤ h.blocks.length := fun p hp => (RStmts_blockPtrs_le hrs p hp).2
  have hml0 : ∀ q ∈ (scanStmts e.f.syn.stmts 0 {}).lineToBlock, ∃ p, fo0.Stmt[q.2]? = some (Expr.LineBlock p) := by
    intro q hq
    obtain ⟨b, hb⟩ := hOK.ltb q hq
    obtain ⟨p, _, hp, _⟩ := RStmts_get_block hrs hb
    exact ⟨p, hp⟩
  -- the state after `insertBlock(i)` as input of the indirect stage
  have hins : ∀ (i : Nat) (hi : i ≤ e.f.syn.stmts.length) (li sh : Option Nat),
      (∀ j, li = some j → sh = some i ∧ j = i + 1 ∧ Good e.f.syn.stmts i) →
      ∃ h1 fo1, File_SetRequireSeparateIndirect_insertBlock isPrint quote fuel fp (i : Int) h =
          .ok (((h.blocks.length + 1 : Nat) : Int), h1) ∧
        Stage1 h1 fp o e (insertAt e.f.syn.stmts i emptyRequireBlock) fo1 fo0.Stmt (scanStmts e.f.syn.stmts 0 {}).lineToBlock i none
          ((h.blocks.length + 1 : Nat) : Int) li sh ps req := by
    intro i hi li sh hli
    obtain ⟨h1, fo, es, hrun, R', hfile, hes, hfile', hmods, hreqs, hlines, hblocks, _⟩ :=
      insertBlock_sim isPrint quote fuel S.mods S.rep i hi
    have hfo : fo = fo0 := by rw [S.file] at hfile; exact (Except.ok.inj hfile).symm
    subst hfo
    subst hes
    have hi' : i ≤ fo.Stmt.length := by rw [hlen0]; exact hi
    refine ⟨h1, _, hrun, ⟨by rw [hmods]; exact S.mods, R', hfile', insertAt_get_eq _ _ _ hi', by omega, ?_, hnb, hml0, ?_, ?_, ?_, ?_,
      by rw [hreqs]; exact S.args, S.dis, ?_⟩⟩
    · show _ ∉ blockPtrs fo.Stmt
      intro hm; have := hle0 _ hm; omega
    · intro p hp; have := hle0 p hp; rw [hblocks]; simp; omega
    · intro j hj
      obtain ⟨hsh, hj1, hg⟩ := hli j hj
      subst hj1
      refine ⟨i, hsh, ?_, ?_⟩
      · intro p hp
        have : (insertAt fo.Stmt i (Expr.LineBlock ((h.blocks.length + 1 : Nat) : Int)))[i + 1]? = fo.Stmt[i]? :=
          insertAt_get_succ _ _ _ hi'
        exact Or.inl (by rw [← this]; exact hp)
      · intro q' hq' ⟨p', hp'⟩
        have : (insertAt fo.Stmt i (Expr.LineBlock ((h.blocks.length + 1 : Nat) : Int)))[i + 1]? = fo.Stmt[i]? :=
          insertAt_get_succ _ _ _ hi'
        have hq'' : fo.Stmt[i]? = some (Expr.Line q') := by rw [← this]; exact hq'
        rw [hq''] at hp'; cases hp'
    · intro j hj l hl
      obtain ⟨hsh, hj1, hg⟩ := hli j hj
      subst hj1
      rw [insertAt_get_succ _ _ _ hi] at hl
      exact Good_line hg hl
    · rw [insertAt_length]; omega
    · intro rq hrq h0; rw [treeIds_insertAt]; exact S.inTree rq hrq h0
  unfold sepPlan phaseCG
  simp only []
  cases hld : (scanStmts e.f.syn.stmts 0 {}).lastDirect with
  | none =>
    have hlt : decide (optI (none : Option Nat) < 0) = true := by simp [optI]
    simp only [hlt, if_true]
    cases hli : (scanStmts e.f.syn.stmts 0 {}).lastIndirect with
    | some j =>
      have ho : optI (some j) = (j : Int) := rfl
      generalize optI (some j) = oj at ho ⊢
      subst ho
      have hge : decide ((j : Int) ≥ 0) = true := by
        have : (j : Int) ≥ 0 := by omega
        simp [this]
      simp only [hge, if_true]
      have hg := hOK.li j hli
      obtain ⟨h1, fo1, hrun, S1⟩ := hins j (Nat.le_of_lt (Good_lt hg)) (some (j + 1)) (some j)
        (fun j' hj' => ⟨rfl, by cases hj'; rfl, hg⟩)
      simp only [bind, Except.bind, hrun]
      have := indirectPlan_sim isPrint quote fuel (oneFlatM e.f.syn.stmts (scanStmts e.f.syn.stmts 0 {})) S1
      rw [cast_succ]
      have ho2 : optI (some (j + 1)) = ((j + 1 : Nat) : Int) := rfl
      rw [ho2] at this
      exact this
    | none =>
      have hge : decide (optI (none : Option Nat) ≥ 0) = false := by simp [optI]
      simp only [hge, Bool.false_eq_true, if_false]
      cases hlr : (scanStmts e.f.syn.stmts 0 {}).lastRequire with
      | some k =>
        have ho : optI (some k) = (k : Int) := rfl
        generalize optI (some k) = ok at ho ⊢
        subst ho
        have hge2 : decide ((k : Int) ≥ 0) = true := by
          have : (k : Int) ≥ 0 := by omega
          simp [this]
        simp only [hge2, if_true]
        have hg := hOK.lr k hlr
        obtain ⟨h1, fo1, hrun, S1⟩ := hins (k + 1) (Good_lt hg) none none (fun j' hj' => by cases hj')
        rw [cast_succ]
        simp only [bind, Except.bind, hrun]
        have := indirectPlan_sim isPrint quote fuel (oneFlatM e.f.syn.stmts (scanStmts e.f.syn.stmts 0 {})) S1
        exact this
      | none =>
        simp only [hge, Bool.false_eq_true, if_false, bind, Except.bind, S.mods, S.file]
        have hlen : len fo0.Stmt = ((e.f.syn.stmts.length : Nat) : Int) := by rw [len_eq, hlen0]
        rw [hlen]
        obtain ⟨h1, fo1, hrun, S1⟩ := hins e.f.syn.stmts.length (Nat.le_refl _) none none (fun j' hj' => by cases hj')
        simp only [hrun]
        have hia : insertAt e.f.syn.stmts e.f.syn.stmts.length emptyRequireBlock = e.f.syn.stmts ++ [emptyRequireBlock] := by
          simp [insertAt]
        rw [hia] at S1
        have := indirectPlan_sim isPrint quote fuel (oneFlatM e.f.syn.stmts (scanStmts e.f.syn.stmts 0 {})) S1
        exact this
  | some d =>
    have ho : optI (some d) = (d : Int) := rfl
    generalize optI (some d) = od at ho ⊢
    subst ho
    have hlt : decide ((d : Int) < 0) = false := by
      have : ¬ ((d : Int) < 0) := by omega
      simp [this]
    simp only [hlt, Bool.false_eq_true, if_false]
    have hg := hOK.ld d hld
    have hE := ensureBlock_sim isPrint quote fuel S.mods S.rep d S.file (fun l hl => Good_line hg hl)
    cases hen : ensureBlock e.f.syn.stmts d with
    | error err =>
      rw [hen] at hE
      simp only [bind, Except.bind, hE]
    | ok stmts1 =>
      rw [hen] at hE
      obtain ⟨h1, dB, es1, hrun, R1, hfile1, hget1, hdpos, hcase, hmods, hreqs, hble, htree⟩ := hE
      simp only [bind, Except.bind, hrun]
      -- the model's list after ensureBlock
      have hst1 : (∀ b, e.f.syn.stmts[d]? = some (Modfile.Expr.lineBlock b) → stmts1 = e.f.syn.stmts) ∧
          (∀ l, e.f.syn.stmts[d]? = some (Modfile.Expr.line l) → stmts1 = e.f.syn.stmts.set d
            (Modfile.Expr.lineBlock { token := [B "require"], lines := [{ l with token := l.token.drop 1, inBlock := true }] })) := by
        constructor
        · intro b hb; simp only [ensureBlock, hb] at hen; cases hen; rfl
        · intro l hl; simp only [ensureBlock, hl] at hen; cases hen; rfl
      have hlen1 : stmts1.length = e.f.syn.stmts.length := by
        rcases hcase with ⟨_, _, b, hb⟩ | ⟨_, _, _, _, l, hl⟩
        · rw [hst1.1 b hb]
        · rw [hst1.2 l hl]; simp
      have S1 : Stage1 h1 fp o e stmts1 { fo0 with Stmt := es1 } fo0.Stmt (scanStmts e.f.syn.stmts 0 {}).lineToBlock d
          (if isBlockAt e.f.syn.stmts d then some d else none) dB (scanStmts e.f.syn.stmts 0 {}).lastIndirect
          (scanStmts e.f.syn.stmts 0 {}).lastIndirect ps req := by
        refine ⟨by rw [hmods]; exact S.mods, R1, hfile1, hget1, hdpos, ?_, hnb, hml0, ?_, ?_, ?_, by rw [hlen1]; exact Good_lt hg,
          by rw [hreqs]; exact S.args, S.dis, ?_⟩
        · rcases hcase with ⟨hb, _, b, hsb⟩ | ⟨q, hq, _, hbp, l, hsl⟩
          · rw [isBlockAt_true hsb, if_pos rfl]; exact Or.inl hb
          · rw [isBlockAt_line hsl]
            simp only [Bool.false_eq_true, if_false, Origin]
            intro hm; have := hle0 _ hm; omega
        · intro p hp; have := hle0 p hp; omega
        · intro j hj
          refine ⟨j, hj, ?_, ?_⟩
          · intro p hp
            rcases hcase with ⟨hb, hes', _⟩ | ⟨q, hq, hes', hbp, l, hsl⟩
            · exact Or.inl (by rw [← hes']; exact hp)
            · by_cases ejd : d = j
              · subst ejd
                have hp' : es1[d]? = some (Expr.LineBlock p) := hp
                rw [hget1] at hp'; cases hp'
                refine Or.inr ⟨?_, ?_⟩
                · intro hm; have := hle0 _ hm; omega
                · intro ⟨p', hp''⟩; rw [hq] at hp''; cases hp''
              · have hp' : es1[j]? = some (Expr.LineBlock p) := hp
                rw [hes', List.getElem?_set_ne ejd] at hp'
                exact Or.inl hp'
          · intro q' hq' ⟨p', hp'⟩
            have hq'' : es1[j]? = some (Expr.Line q') := hq'
            rcases hcase with ⟨hb, hes', _⟩ | ⟨q, hq, hes', hbp, l, hsl⟩
            · rw [hes', hp'] at hq''; cases hq''
            · by_cases ejd : d = j
              · subst ejd; rw [hget1] at hq''; cases hq''
              · rw [hes', List.getElem?_set_ne ejd, hp'] at hq''; cases hq''
        · intro j hj l hl
          have hgj := hOK.li j hj
          rcases hcase with ⟨_, _, b, hb⟩ | ⟨_, _, _, _, l', hl'⟩
          · rw [hst1.1 b hb] at hl; exact Good_line hgj hl
          · rw [hst1.2 l' hl'] at hl
            by_cases ejd : d = j
            · subst ejd
              rw [List.getElem?_set_self (Good_lt hg)] at hl; cases hl
            · rw [List.getElem?_set_ne ejd] at hl; exact Good_line hgj hl
        · intro rq hrq h0; rw [htree]; exact S.inTree rq hrq h0
      have := indirectPlan_sim isPrint quote fuel (oneFlatM e.f.syn.stmts (scanStmts e.f.syn.stmts 0 {})) S1
      exact this

/-! ### oneFlatUncommentedBlock -/

theorem oneFlatG_eq (isPrint : Int → Bool) (quote : Bytes → Bytes) (fuel : Nat) {h : Heap} {fp : Int} {o : File} {e : EFile}
    {fo0 : FileSyntax} {ps : List Int} {req : List Want} (S : Stage0 h fp o e fo0 ps req) :
    oneFlatG isPrint quote fuel fp ((scanStmts e.f.syn.stmts 0 {}).count : Int) (optI (scanStmts e.f.syn.stmts 0 {}).lastRequire) h =
      .ok (oneFlatM e.f.syn.stmts (scanStmts e.f.syn.stmts 0 {})) := by
  obtain ⟨hrs, hnb⟩ := S.stmts
  have hOK : ScanOK e.f.syn.stmts (scanStmts e.f.syn.stmts 0 {}) := by
    have := scan_ok e.f.syn.stmts [] {} (by simpa using ScanOK.init e.f.syn.stmts)
    simpa using this
  unfold oneFlatG oneFlatM
  by_cases hc : (scanStmts e.f.syn.stmts 0 {}).count = 1
  · have hci : (((scanStmts e.f.syn.stmts 0 {}).count : Nat) : Int) = 1 := by omega
    have hd : decide ((((scanStmts e.f.syn.stmts 0 {}).count : Nat) : Int) = 1) = true := decide_eq_true hci
    have hne := hOK.cnt (by omega)
    cases hlr : (scanStmts e.f.syn.stmts 0 {}).lastRequire with
    | none => exact absurd hlr hne
    | some i =>
      have hg := hOK.lr i hlr
      have hlt := Good_lt hg
      have hlt' : i < fo0.Stmt.length := by rw [hrs.length]; exact hlt
      have hs : e.f.syn.stmts[i]? = some e.f.syn.stmts[i] := List.getElem?_eq_getElem hlt
      have he : fo0.Stmt[i]? = some fo0.Stmt[i] := List.getElem?_eq_getElem hlt'
      have hre := hrs.get i _ _ he hs
      simp only [bind, Except.bind, S.mods, S.file, optI_some, idxL_natCast hlt', getComments_eq hre, hasComments_eq,
        pure, Except.pure, hc, hs, Option.map_some, Option.getD_some]
      simp
  · have hci : ¬ ((((scanStmts e.f.syn.stmts 0 {}).count : Nat) : Int) = 1) := by omega
    have hd : decide ((((scanStmts e.f.syn.stmts 0 {}).count : Nat) : Int) = 1) = false := decide_eq_false hci
    have hb : ((scanStmts e.f.syn.stmts 0 {}).count == 1) = false := by simpa using hc
    simp only [hd, Bool.false_eq_true, if_false, hb, Bool.false_and, pure, Except.pure]

/-- fuel of `File_SetRequireSeparateIndirect`: the scan, then the tail in the state the model's plan leads to -/
def fuelSep (FS : EFile → Nat) (e : EFile) (req : List Want) : Nat :=
  max (nodes e.f.syn.stmts + 1)
    (match sepPlan e with
     | .ok (ctx, stmts') => fuelTail FS ctx (withStmts e stmts') req
     | .error _ => 0)

/-- **`File.SetRequireSeparateIndirect` on a represented file is the model's `setRequireSeparateIndirect` with `perm = id`**
    (the regenerated code iterates the map `need` in insertion order); the model's errors (`nilDeref`, `badStatement`) are Go
    panics.  `InTree`: the syntax line of every requirement is a line of the tree (or nil). -/
theorem File_SetRequireSeparateIndirect_sim (hIdx : IndirectIdxOK) {isPrint : Int → Bool} {quote : Bytes → Bytes}
    (hAQ : AutoQuoteSpec isPrint quote) {FS : EFile → Nat} (hS : SortBlocksSpec FS)
    {h : Heap} {fp : Int} {e : EFile} {ps : List Int} {req : List Want} {fuel : Nat}
    (R : RepF h fp e) (hq : ReqArgsS h.requires ps req)
    (hdis : ∀ o, heapGet h.mods fp = .ok o → ∀ p ∈ ps, p ∉ o.Require)
    (hT : ∀ rq ∈ e.f.require, rq.lineId ≠ 0 → rq.lineId ∈ treeIds e.f.syn.stmts)
    (hf : fuelSep FS e req ≤ fuel) :
    match setRequireSeparateIndirect e req id with
    | .ok e' => ∃ h', File_SetRequireSeparateIndirect isPrint quote fuel fp ps h = .ok ((), h') ∧ RepF h' fp e'
    | .error _ => File_SetRequireSeparateIndirect isPrint quote fuel fp ps h = .error .panic := by
  obtain ⟨o, hm, RA⟩ := R
  obtain ⟨es, r⟩ := RA.syn
  have S : Stage0 h fp o e (fileG e.f.syn es) ps req := ⟨hm, RA, r.file, hq, hdis o hm, hT⟩
  unfold fuelSep at hf
  have h1 : File_SetRequireSeparateIndirect_loop1 isPrint quote es fp fuel 0 (-1) 0 h (-1) (-1) [] =
      .ok (len es, optI (scanStmts e.f.syn.stmts 0 {}).lastRequire, ((scanStmts e.f.syn.stmts 0 {}).count : Int), h,
        optI (scanStmts e.f.syn.stmts 0 {}).lastIndirect, optI (scanStmts e.f.syn.stmts 0 {}).lastDirect,
        ltbG es (scanStmts e.f.syn.stmts 0 {}).lineToBlock) :=
    loop1S_sim isPrint quote h fp es e.f.syn.stmts r.nodupL e.f.syn.stmts es [] [] 0 {} fuel rfl rfl rfl rfl r.stmts
      (fun _ hq' => by cases hq') (by omega)
  rw [main_factor, model_factor]
  simp only [bind, Except.bind, hm, r.file, fileG_Stmt, h1, oneFlatG_eq isPrint quote fuel S]
  have hplan := plan_sim isPrint quote fuel S
  simp only [fileG_Stmt] at hplan
  cases hp : sepPlan e with
  | error err =>
    rw [hp] at hplan
    exact hplan
  | ok res =>
    obtain ⟨ctx, stmts'⟩ := res
    rw [hp] at hplan
    simp only [hp] at hf
    obtain ⟨h', dB, iB, hrun, T⟩ := hplan
    obtain ⟨o', fo', hm', R', hfile', hdi, hii, hdis'⟩ := T.ex
    rw [hrun]
    exact tail_sim hIdx hAQ hS hm' R' hfile' hdi hii T.ltb T.args hdis' (by simpa using T.inTree) (by omega)

end ModVerif.Tie.FnEditSetP
