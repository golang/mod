/-
  **C16 `perm_independent` (full) for SetRequire and SetUse**: `Format` does not look at line ids
  (`format_norm`), Cleanup commutes with erasing them (`cleanupStmts_norm`); with the
  tree-level theorems of Proofs/EditPermC.lean: the formatted file is the same byte string for every map-iteration order,
  before and after Cleanup.
-/
import ModVerif.Proofs.EditPermC
import ModVerif.Model.Modfile.Print
namespace ModVerif.Modfile.Edit
open ModVerif ModVerif.Modfile

theorem normLine_comments (n : Nat) (l : Line) : (normLine n l).comments = l.comments := by
  unfold normLine; split <;> rfl

theorem exprLine_norm (n : Nat) (p : Printer) (l : Line) : p.exprLine (normLine n l) = p.exprLine l := by
  unfold normLine; split <;> rfl

theorem exprLines_norm (n : Nat) : ∀ (ls : List Line) (p : Printer), p.exprLines (ls.map (normLine n)) = p.exprLines ls := by
  intro ls
  induction ls with
  | nil => intro p; rfl
  | cons l ls ih => intro p; simp only [List.map_cons, Printer.exprLines, exprLine_norm, ih]

theorem expr_norm (n : Nat) (p : Printer) (x : Expr) : p.expr (normStmt n x) = p.expr x := by
  cases x with
  | line l => exact exprLine_norm n p l
  | lineBlock b => simp only [normStmt, Printer.expr, Printer.exprLineBlock, exprLines_norm]
  | commentBlock c => rfl
  | lparen c => rfl
  | rparen c => rfl

theorem comments_norm (n : Nat) (x : Expr) : (normStmt n x).comments = x.comments := by
  cases x with
  | line l => simp only [normStmt, Expr.comments, normLine]; split <;> rfl
  | lineBlock b => rfl
  | commentBlock c => rfl
  | lparen c => rfl
  | rparen c => rfl

theorem stmtHead_norm (n : Nat) (p : Printer) (x : Expr) :
    (match normStmt n x with
      | .commentBlock c => p.exprCommentBlock c
      | s => (p.expr s).newline) =
    (match x with
      | .commentBlock c => p.exprCommentBlock c
      | s => (p.expr s).newline) := by
  cases x with
  | line l =>
    show (p.expr (.line (normLine n l))).newline = (p.expr (.line l)).newline
    rw [show p.expr (.line (normLine n l)) = p.expr (.line l) from exprLine_norm n p l]
  | lineBlock b =>
    show (p.expr (normStmt n (.lineBlock b))).newline = _
    rw [expr_norm]
  | commentBlock c => rfl
  | lparen c => rfl
  | rparen c => rfl

theorem stmts_norm (n : Nat) : ∀ (xs : List Expr) (p : Printer), p.stmts (xs.map (normStmt n)) = p.stmts xs := by
  intro xs
  induction xs with
  | nil => intro p; rfl
  | cons x xs ih =>
    intro p
    simp only [List.map_cons, Printer.stmts, List.isEmpty_map, comments_norm, ih]
    exact congrArg (fun q : Printer => (if xs.isEmpty then q.commentLines x.comments.after
      else (q.commentLines x.comments.after).newline).stmts xs) (stmtHead_norm n p x)

theorem format_norm (n : Nat) (fs : FileSyntax) : format { fs with stmts := fs.stmts.map (normStmt n) } = format fs := by
  simp only [format, Printer.file, stmts_norm]

theorem format_eq_of_norm (n : Nat) (a b : FileSyntax) (hc : a.comments = b.comments)
    (hs : a.stmts.map (normStmt n) = b.stmts.map (normStmt n)) : format a = format b := by
  rw [← format_norm n a, ← format_norm n b]
  simp only [format, Printer.file, hc, hs]

theorem normLine_token_isEmpty (n : Nat) (l : Line) : (normLine n l).token.isEmpty = l.token.isEmpty := by
  rw [normLine_token]

theorem normLine_collapse (n : Nat) (b : LineBlock) (l : Line) :
    normLine n { id := l.id, comments := { before := b.comments.before ++ l.comments.before,
                                            suffix := l.comments.suffix ++ b.comments.suffix,
                                            after := l.comments.after ++ b.comments.after },
                 token := b.token ++ l.token }
      = { id := (normLine n l).id, comments := { before := b.comments.before ++ (normLine n l).comments.before,
                                                  suffix := (normLine n l).comments.suffix ++ b.comments.suffix,
                                                  after := (normLine n l).comments.after ++ b.comments.after },
          token := b.token ++ (normLine n l).token } := by
  unfold normLine; split <;> rfl

theorem cleanupStmts_norm (n : Nat) : ∀ xs : List Expr,
    cleanupStmts (xs.map (normStmt n)) = (cleanupStmts xs).map (normStmt n) := by
  intro xs
  rw [cleanupStmts_flatMap, cleanupStmts_flatMap xs, List.map_flatMap, List.flatMap_map]
  congr 1; funext x
  cases x with
  | line l =>
    simp only [normStmt, cleanupStmts, normLine_token_isEmpty]
    split <;> simp [normStmt]
  | lineBlock b =>
    have hf : (b.lines.map (normLine n)).filter (fun l => !l.token.isEmpty)
        = (b.lines.filter (fun l => !l.token.isEmpty)).map (normLine n) := by
      rw [List.filter_map]
      congr 1
      apply List.filter_congr
      intro l _
      simp only [Function.comp, normLine_token_isEmpty]
    simp only [normStmt, cleanupStmts, hf]
    rcases hl : b.lines.filter (fun l => !l.token.isEmpty) with _ | ⟨l1, _ | ⟨l2, ls⟩⟩
    · simp only [hl, List.map_nil]
    · simp only [hl, List.map_cons, List.map_nil]
      split
      · simp only [List.map_cons, normStmt, normLine_collapse, List.map_nil]
      · simp only [List.map_cons, normStmt, List.map_nil]
    · simp only [hl, List.map_cons, normStmt, List.map_nil]
  | commentBlock c => rfl
  | lparen c => rfl
  | rparen c => rfl

/-- C16 `perm_independent` (full), SetRequire -/
theorem setRequire_format_perm_independent (e e1 e2 : EFile) (want : List Want) (p1 p2 : List Want → List Want)
    (hp1 : ∀ l, (p1 l).Perm l) (hp2 : ∀ l, (p2 l).Perm l) (hg : GoodWant want) (hi : Inv e)
    (hlive : ∀ r ∈ e.f.require, liveRq r = true) (hset : NoNestedIndirectMarker e)
    (h1 : setRequire e want p1 = .ok e1) (h2 : setRequire e want p2 = .ok e2) :
    format e1.f.syn = format e2.f.syn ∧ format (cleanup e1).f.syn = format (cleanup e2).f.syn := by
  obtain ⟨ht, hc⟩ := setRequire_syn_perm_independent e e1 e2 want p1 p2 hp1 hp2 hg hi hlive hset h1 h2
  refine ⟨format_eq_of_norm e.next _ _ hc ht, format_eq_of_norm e.next _ _ hc ?_⟩
  show (cleanupStmts e1.f.syn.stmts).map (normStmt e.next) = (cleanupStmts e2.f.syn.stmts).map (normStmt e.next)
  rw [← cleanupStmts_norm, ← cleanupStmts_norm, ht]

/-- **C16 `perm_independent` (full), SetUse** -/
theorem setUse_format_perm_independent (e e1 e2 : EWork) (dirs : List (Bytes × Bytes))
    (q1 q2 : List (Bytes × Bytes) → List (Bytes × Bytes)) (hq1 : ∀ l, (q1 l).Perm l) (hq2 : ∀ l, (q2 l).Perm l)
    (hg : GoodUse dirs) (hi : InvW e) (hlive : ∀ u ∈ e.f.use, liveU u = true)
    (h1 : setUse e dirs q1 = .ok e1) (h2 : setUse e dirs q2 = .ok e2) :
    format e1.f.syn = format e2.f.syn ∧ format (workCleanup e1).f.syn = format (workCleanup e2).f.syn := by
  obtain ⟨ht, hc⟩ := setUse_syn_perm_independent e e1 e2 dirs q1 q2 hq1 hq2 hg hi hlive h1 h2
  refine ⟨format_eq_of_norm e.next _ _ hc ht, format_eq_of_norm e.next _ _ hc ?_⟩
  show (cleanupStmts e1.f.syn.stmts).map (normStmt e.next) = (cleanupStmts e2.f.syn.stmts).map (normStmt e.next)
  rw [← cleanupStmts_norm, ← cleanupStmts_norm, ht]

end ModVerif.Modfile.Edit
