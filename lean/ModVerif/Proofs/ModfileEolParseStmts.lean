/-
  C02, end-of-line comments: the runs of the parser (`ModfileRun.PLine`, `PStmt`, `PBlock`) on a stream of token
  records — token lines, top-level lines and block headers, block bodies.  A line (and `(`, `)`) may end with an
  end-of-line comment token instead of a newline, the positions of the lines and parentheses built are read off
  the records (`eLines`), and the comments the lexer records meanwhile are accounted for (`fut`).
-/
import ModVerif.Proofs.ModfileEolRelex
import ModVerif.Proofs.ModfileFmtParse
namespace ModVerif.Proofs.ModfileEol
open ModVerif ModVerif.Modfile
open ModVerif.Proofs.ModfileFmtLex ModVerif.Proofs.ModfileFmtLine ModVerif.Proofs.ModfileFmtStream
open ModVerif.Proofs.ModfileFmtTree ModVerif.Proofs.ModfileFmtParse ModVerif.Proofs.ModfileRun

variable {D : Bytes}

/-- a list of line-token records: each text is a line token and the kind is the one the text determines -/
def LT (toks : List Token) : Prop := ∀ tok ∈ toks, TokText tok.text ∧ tok.kind = kindOf tok.text

theorem LT.head {t : Token} {r : List Token} (h : LT (t :: r)) : TokText t.text ∧ t.kind = kindOf t.text := h t (by simp)
theorem LT.tail {t : Token} {r : List Token} (h : LT (t :: r)) : LT r := fun x hx => h x (by simp [hx])

theorem lt_not_eol {t : Token} (h : TokText t.text ∧ t.kind = kindOf t.text) : t.kind.isEOL = false := by
  rw [h.2]; exact tokText_not_eol h.1

theorem lt_ne_eof {t : Token} (h : TokText t.text ∧ t.kind = kindOf t.text) : t.kind ≠ .eof := by
  rw [h.2]; exact tokText_ne_eof h.1

theorem lt_lparen_iff {t : Token} (h : TokText t.text ∧ t.kind = kindOf t.text) : t.kind = .punct 40 ↔ t.text = [40] := by
  rw [h.2]; exact tokText_punct_iff h.1 40 (by decide)

theorem lt_rparen_iff {t : Token} (h : TokText t.text ∧ t.kind = kindOf t.text) : t.kind = .punct 41 ↔ t.text = [41] := by
  rw [h.2]; exact tokText_punct_iff h.1 41 (by decide)

def lastEnd (e : Position) : List Token → Position
  | [] => e
  | t :: r => lastEnd t.endPos r

theorem lastEnd_cons (e e' : Position) (t : Token) (r : List Token) : lastEnd e (t :: r) = lastEnd e' (t :: r) := rfl

theorem tokStrT_LT (ts : List Bytes) (hts : ∀ t ∈ ts, TokText t) (rest : Bytes) : LT (tokStrT D ts rest) := by
  induction ts with
  | nil => intro x hx; simp [tokStrT] at hx
  | cons t ts ih =>
    intro x hx
    simp only [tokStrT, List.mem_cons] at hx
    rcases hx with rfl | hx
    · exact ⟨hts t (by simp), rfl⟩
    · exact ih (fun t' h => hts t' (by simp [h])) x hx

theorem tokStrT_texts (ts : List Bytes) (rest : Bytes) : (tokStrT D ts rest).map (·.text) = ts := by
  induction ts with
  | nil => rfl
  | cons t ts ih => simp [tokStrT, tokT, ih]

theorem tokStrT_lastEnd (ts : List Bytes) (rest : Bytes) (e : Position) (hne : ts ≠ []) :
    lastEnd e (tokStrT D ts rest) = pa D rest := by
  induction ts generalizing e with
  | nil => exact absurd rfl hne
  | cons t ts ih =>
    cases ts with
    | nil => simp [tokStrT, lastEnd, tokT, tokStr]
    | cons t2 r => exact ih (tokT D t (tokStr (t2 :: r) (sepAfter t) ++ rest)).endPos (by simp)

theorem tokStrT_ne (ts : List Bytes) (rest : Bytes) (hne : ts ≠ []) : tokStrT D ts rest ≠ [] := by
  cases ts with
  | nil => exact absurd rfl hne
  | cons t r => simp [tokStrT]

theorem tokStrT_head (t : Bytes) (ts : List Bytes) (rest : Bytes) :
    tokStrT D (t :: ts) rest = tokT D t (tokStr ts (sepAfter t) ++ rest) :: tokStrT D ts rest := rfl

theorem tokStr_cons_nil (t : Bytes) (ts : List Bytes) : tokStr (t :: ts) [] = t ++ tokStr ts (sepAfter t) := by
  simp [tokStr]

theorem parseLineLoop_E : ∀ (toks : List Token) (acc : List Bytes) (i : Input) (s e : Position)
    (eol : Token) (T : List Token), LT toks → eol.kind.isEOL = true → eol.kind ≠ .eof →
    EStream D (toks ++ eol :: T) i →
    ∃ l i', PLine Step Step i s e acc l i' ∧ l.token = acc.reverse ++ toks.map (·.text) ∧
      l.comments = {} ∧ l.inBlock = true ∧ l.start = s ∧ l.«end» = lastEnd e toks ∧
      EStream D T i' ∧ fut T i' = fut (toks ++ eol :: T) i := by
  intro toks
  induction toks with
  | nil =>
    intro acc i s e eol T _ heol hne hS
    simp only [List.nil_append] at hS
    obtain ⟨i1, hx, _, hS1, hf1⟩ := hS.step hne
    exact ⟨_, _, .eol hx (by rw [hS.tok]; exact heol), by simp, rfl, rfl, rfl, rfl, hS1.setId _, hf1⟩
  | cons t toks ih =>
    intro acc i s e eol T hlt heol hne hS
    have ht := hlt.head
    simp only [List.cons_append] at hS
    obtain ⟨i1, hx, _, hS1, hf1⟩ := hS.step (lt_ne_eof ht)
    obtain rfl := hS.tok
    obtain ⟨l, i', hr, htok, hcm, hib, hst, hen, hS', hf'⟩ := ih (i.token.text :: acc) i1 s i.token.endPos eol T
      hlt.tail heol hne hS1
    exact ⟨l, i', .tok hx (lt_not_eol ht) hr, by rw [htok]; simp, hcm, hib, hst, by rw [hen]; rfl, hS', hf'.trans hf1⟩

theorem parseStmtLoop_lineE : ∀ (n : Nat) (toks : List Token), toks.length ≤ n → ∀ (acc : List Bytes) (i : Input)
    (s e : Position) (eol : Token) (T : List Token), LT toks →
    lineTailOK (toks.map (·.text)) = true → eol.kind.isEOL = true → eol.kind ≠ .eof →
    EStream D (toks ++ eol :: T) i →
    ∃ l i', PStmt Step Step i s e acc (.line l) i' ∧ l.token = acc.reverse ++ toks.map (·.text) ∧
      l.comments = {} ∧ l.inBlock = false ∧ l.start = s ∧ l.«end» = lastEnd e toks ∧
      EStream D T i' ∧ fut T i' = fut (toks ++ eol :: T) i := by
  intro n
  induction n with
  | zero =>
    intro toks hlen acc i s e eol T _ _ heol hne hS
    obtain rfl : toks = [] := List.eq_nil_of_length_eq_zero (by omega)
    simp only [List.nil_append] at hS
    obtain ⟨i1, hx, _, hS1, hf1⟩ := hS.step hne
    exact ⟨_, _, .eol hx (by rw [hS.tok]; exact heol), by simp, rfl, rfl, rfl, rfl, hS1.setId _, hf1⟩
  | succ n ih =>
    intro toks hlen acc i s e eol T hlt hok heol hne hS
    cases toks with
    | nil => exact ih [] (by simp) acc i s e eol T hlt hok heol hne hS
    | cons t r =>
      have ht := hlt.head
      have hr := hlt.tail
      simp only [List.cons_append] at hS
      obtain ⟨i1, hx, _, hS1, hf1⟩ := hS.step (lt_ne_eof ht)
      obtain rfl := hS.tok
      simp only [List.length_cons] at hlen
      simp only [List.map_cons] at hok
      by_cases ht40 : i.token.text = [40]
      · have hk40 := (lt_lparen_iff ht).2 ht40
        rw [ht40] at hok
        -- `(`: the tail is not empty
        cases r with
        | nil => simp [lineTailOK] at hok
        | cons t2 r2 =>
          have ht2 := hr.head
          simp only [List.length_cons] at hlen
          simp only [List.cons_append] at hS1
          obtain rfl := hS1.tok
          simp only [List.map_cons] at hok
          by_cases ht41 : i1.token.text = [41]
          · -- `( )` in the middle of the line
            rw [ht41] at hok
            obtain ⟨i2, hx2, _, hS2, hf2⟩ := hS1.step (lt_ne_eof ht2)
            have hok' : r2 ≠ [] ∧ lineTailOK (r2.map (·.text)) = true := by
              simp [lineTailOK] at hok
              exact ⟨by intro h; simp [h] at hok, hok.2⟩
            have hk2 : i2.token.kind.isEOL = false := by
              cases r2 with
              | nil => exact absurd rfl hok'.1
              | cons t3 r3 => rw [hS2.tok]; exact lt_not_eol hr.tail.head
            obtain ⟨l, i', hres, htok, hcm, hib, hst, hen, hS', hf'⟩ := ih r2 (by omega)
              (i1.token.text :: i.token.text :: acc) i2 s e eol T hr.tail hok'.2 heol hne hS2
            refine ⟨l, i', .parens hx hk40 ((lt_rparen_iff ht2).2 ht41) hx2 hk2 hres, by rw [htok]; simp, hcm, hib, hst, ?_,
              hS', hf'.trans (hf2.trans hf1)⟩
            rw [hen]
            cases r2 with
            | nil => exact absurd rfl hok'.1
            | cons t3 r3 => rfl
          · -- `(` in the middle of the line
            have hok' : lineTailOK ((i1.token :: r2).map (·.text)) = true := by
              simp only [lineTailOK, beq_self_eq_true, if_true] at hok
              have : (i1.token.text == [41]) = false := by simpa using ht41
              simpa [this] using hok
            obtain ⟨l, i', hres, htok, hcm, hib, hst, hen, hS', hf'⟩ := ih (i1.token :: r2) (by simp; omega)
              (i.token.text :: acc) i1 s e eol T hr hok' heol hne (by simpa using hS1)
            exact ⟨l, i', .lparen hx hk40 (lt_not_eol ht2) (fun h => ht41 ((lt_rparen_iff ht2).1 h)) hres,
              by rw [htok]; simp, hcm, hib, hst, by rw [hen]; rfl, hS', hf'.trans hf1⟩
      · have hok' : lineTailOK (r.map (·.text)) = true := by
          rw [lineTailOK_cons_ne _ ht40] at hok
          exact hok
        obtain ⟨l, i', hres, htok, hcm, hib, hst, hen, hS', hf'⟩ := ih r (by omega) (i.token.text :: acc) i1 s
          i.token.endPos eol T hr hok' heol hne hS1
        exact ⟨l, i', .tok hx (lt_not_eol ht) (fun h => ht40 ((lt_lparen_iff ht).1 h)) hres, by rw [htok]; simp, hcm, hib,
          hst, by rw [hen]; rfl, hS', hf'.trans hf1⟩

/-- Scanning a header: every token list followed by `(` and an end of line makes `parseStmtLoop` enter the block
    loop with exactly that header and the record of that `(`. -/
theorem parseStmtLoop_hdrE : ∀ (n : Nat) (hs : List Token), hs.length ≤ n → ∀ (acc : List Bytes) (i : Input)
    (s e : Position) (lpT eol : Token) (U : List Token), LT hs → lpT.kind = .punct 40 → eol.kind.isEOL = true →
    EStream D (hs ++ lpT :: eol :: U) i →
    ∃ i1, EStream D (eol :: U) i1 ∧ fut (eol :: U) i1 = fut (hs ++ lpT :: eol :: U) i ∧
      ∀ b i', PBlock Step Step i1
          { start := s, token := acc.reverse ++ hs.map (·.text), lparen := { pos := lpT.pos } } [] [] b i' →
        PStmt Step Step i s e acc (.lineBlock b) i' := by
  intro n
  induction n with
  | zero =>
    intro hs hlen acc i s e lpT eol U _ hlk heol hS
    obtain rfl : hs = [] := List.eq_nil_of_length_eq_zero (by omega)
    simp only [List.nil_append] at hS
    obtain ⟨i1, hx, _, hS1, hf1⟩ := hS.step (by rw [hlk]; simp)
    obtain rfl := hS.tok
    refine ⟨i1, hS1, hf1, fun b i' hb => .block hx hlk (by rw [hS1.tok]; exact heol) ?_⟩
    simpa using hb
  | succ n ih =>
    intro hs hlen acc i s e lpT eol U hlt hlk heol hS
    cases hs with
    | nil => exact ih [] (by simp) acc i s e lpT eol U hlt hlk heol hS
    | cons t r =>
      have ht := hlt.head
      have hr := hlt.tail
      simp only [List.cons_append] at hS
      obtain ⟨i1, hx, _, hS1, hf1⟩ := hS.step (lt_ne_eof ht)
      obtain rfl := hS.tok
      simp only [List.length_cons] at hlen
      by_cases ht40 : i.token.text = [40]
      · have hk40 := (lt_lparen_iff ht).2 ht40
        -- what follows this `(` is a token (of the header, or the final `(`), never an end of line
        cases r with
        | nil =>
          -- followed by the final `(`
          simp only [List.nil_append] at hS1
          obtain ⟨i2, hS2, hf2, hres⟩ := ih [] (by simp) (i.token.text :: acc) i1 s e lpT eol U
            (by intro x hx; simp at hx) hlk heol (by simpa using hS1)
          refine ⟨i2, hS2, hf2.trans hf1, fun b i' hb => .lparen hx hk40 (by rw [hS1.tok, hlk]; rfl)
            (by rw [hS1.tok, hlk]; simp) (hres b i' (by simpa using hb))⟩
        | cons t2 r2 =>
          have ht2 := hr.head
          simp only [List.length_cons] at hlen
          simp only [List.cons_append] at hS1
          obtain rfl := hS1.tok
          by_cases ht41 : i1.token.text = [41]
          · obtain ⟨i2, hx2, _, hS2, hf2⟩ := hS1.step (lt_ne_eof ht2)
            -- the token after `( )` is a header token or the final `(`
            have hk2 : i2.token.kind.isEOL = false := by
              cases r2 with
              | nil =>
                simp only [List.nil_append] at hS2
                rw [hS2.tok, hlk]; rfl
              | cons t3 r3 =>
                simp only [List.cons_append] at hS2
                rw [hS2.tok]; exact lt_not_eol (hr.tail.head)
            obtain ⟨i3, hS3, hf3, hres⟩ := ih r2 (by omega) (i1.token.text :: i.token.text :: acc) i2 s e lpT eol U
              hr.tail hlk heol hS2
            exact ⟨i3, hS3, hf3.trans (hf2.trans hf1), fun b i' hb =>
              .parens hx hk40 ((lt_rparen_iff ht2).2 ht41) hx2 hk2 (hres b i' (by simpa using hb))⟩
          · obtain ⟨i3, hS3, hf3, hres⟩ := ih (i1.token :: r2) (by simp; omega) (i.token.text :: acc) i1 s e lpT eol U
              hr hlk heol (by simpa using hS1)
            exact ⟨i3, hS3, hf3.trans hf1, fun b i' hb =>
              .lparen hx hk40 (lt_not_eol ht2) (fun h => ht41 ((lt_rparen_iff ht2).1 h)) (hres b i' (by simpa using hb))⟩
      · obtain ⟨i3, hS3, hf3, hres⟩ := ih r (by omega) (i.token.text :: acc) i1 s i.token.endPos lpT eol U
          hr hlk heol hS1
        exact ⟨i3, hS3, hf3.trans hf1, fun b i' hb =>
          .tok hx (lt_not_eol ht) (fun h => ht40 ((lt_lparen_iff ht).1 h)) (hres b i' (by simpa using hb))⟩

open ModVerif ModVerif.Modfile
open ModVerif.Proofs.ModfileFmtLex ModVerif.Proofs.ModfileFmtLine ModVerif.Proofs.ModfileFmtStream
open ModVerif.Proofs.ModfileFmtTree ModVerif.Proofs.ModfileFmtParse ModVerif.Proofs.ModfileFmtRender
open ModVerif.Proofs.ModfileRun

theorem blk_commentsE (m : Nat) : ∀ (cs : List Comment) (crev : List Comment) (i : Input) (x : LineBlock)
    (linesRev : List Line) (R : Bytes) (U : List Token),
    BlkBeforeOK (allowOf linesRev crev) cs → EStream D (befT D m cs R ++ U) i →
    ∃ crev' i', crev'.reverse = crev.reverse ++ befC D m cs R ∧ EStream D U i' ∧
      fut U i' = fut (befT D m cs R ++ U) i ∧
      ∀ b i'', PBlock Step Step i' x linesRev crev' b i'' → PBlock Step Step i x linesRev crev b i'' := by
  intro cs
  induction cs with
  | nil =>
    intro crev i x linesRev R U _ hS
    exact ⟨crev, i, by simp [befC], by simpa [befT] using hS, by simp [befT], fun _ _ h => h⟩
  | cons c cs ih =>
    intro crev i x linesRev R U hok hS
    unfold BlkBeforeOK at hok
    by_cases hemp : c.token.isEmpty = true
    · -- a blank line that is kept
      simp only [hemp, if_true] at hok
      obtain ⟨hallow, hsuf, hok'⟩ := hok
      have hemp' : c.token = [] := by simpa using hemp
      have htrim : (GoStrings.trimSpace c.token).isEmpty = true := by
        rw [hemp', ModfileFmtTrim.trimSpace_nil]; rfl
      have hS0 : EStream D (nlT D (rBefore m cs ++ R) :: (befT D m cs R ++ U)) i := by
        simpa [befT, htrim] using hS
      obtain ⟨i1, hx, _, hS1, hf1⟩ := hS0.step (by simp [nlT])
      have hk : i.token.kind = .punct 10 := by rw [hS0.tok]; rfl
      have hallow1 : allowOf linesRev (({} : Comment) :: crev) = false := rfl
      obtain ⟨crev', i', hcs, hS', hf', hres⟩ := ih (({} : Comment) :: crev) i1 x linesRev R U
        (by rw [hallow1]; exact hok') hS1
      refine ⟨crev', i', ?_, hS', ?_, fun b i'' h => .blank hk hx (by rw [hallow]; exact hres b i'' h)⟩
      · rw [hcs]
        simp [befC, htrim]
      · rw [hf', hf1]
        simp [befT, htrim]
    · -- a whole-line comment
      simp only [hemp, Bool.false_eq_true, if_false] at hok
      obtain ⟨hsuf, hcok, hok'⟩ := hok
      obtain ⟨hne, _⟩ := commentOK_lastOK hcok
      have hS0 : EStream D (comT D (GoStrings.trimSpace c.token) (rBefore m cs ++ R) :: (befT D m cs R ++ U)) i := by
        simpa [befT, hne] using hS
      obtain ⟨i1, hx, _, hS1, hf1⟩ := hS0.step (by simp [comT])
      have hk : i.token.kind = .comment := by rw [hS0.tok]; rfl
      have htx : i.token.text = GoStrings.trimSpace c.token := by rw [hS0.tok]; rfl
      have hps : i.token.pos = pa D (GoStrings.trimSpace c.token ++ 10 :: (rBefore m cs ++ R)) := by rw [hS0.tok]; rfl
      have hallow1 : allowOf linesRev (({ start := i.token.pos, token := i.token.text } : Comment) :: crev) = true := by
        simp only [allowOf, htx]
        simpa using hne
      obtain ⟨crev', i', hcs, hS', hf', hres⟩ := ih
        (({ start := i.token.pos, token := i.token.text } : Comment) :: crev) i1 x linesRev R U
        (by rw [hallow1]; exact hok') hS1
      refine ⟨crev', i', ?_, hS', ?_, fun b i'' h => .comment hk hx (hres b i'' h)⟩
      · rw [hcs]
        simp [befC, hne, htx, hps]
      · rw [hf', hf1]
        simp [befT, hne]

theorem line_ext {a b : Line} (h1 : a.id = b.id) (h2 : a.comments = b.comments) (h3 : a.start = b.start)
    (h4 : a.token = b.token) (h5 : a.inBlock = b.inBlock) (h6 : a.«end» = b.«end») : a = b := by
  cases a; cases b; simp_all

theorem blk_linesE : ∀ (ls : List Line) (linesRev : List Line) (i : Input) (x : LineBlock)
    (rb : List Comment) (RR Z : Bytes) (rpT eol : Token) (T : List Token), Z = rBefore 0 rb ++ RR →
    EWFBlkLines (!linesRev.isEmpty) ls → BlkBeforeOK (!(linesRev.isEmpty && ls.isEmpty)) rb →
    rpT.kind = .punct 41 → eol.kind.isEOL = true → eol.kind ≠ .eof →
    EStream D (linesT D ls Z ++ (befT D 0 rb RR ++ rpT :: eol :: T)) i →
    ∃ b i', PBlock Step Step i x linesRev [] b i' ∧
      b.lines.map zidL = linesRev.reverse.map zidL ++ eLines D ls Z ∧
      b.rparen = { comments := { before := befC D 0 rb RR }, pos := rpT.pos } ∧
      b.token = x.token ∧ b.comments = x.comments ∧ b.lparen = x.lparen ∧ b.start = x.start ∧
      EStream D T i' ∧ fut T i' = fut (linesT D ls Z ++ (befT D 0 rb RR ++ rpT :: eol :: T)) i := by
  intro ls
  induction ls with
  | nil =>
    intro linesRev i x rb RR Z rpT eol T _ _ hrb hrk heol hne hS
    simp only [linesT, List.nil_append] at hS
    have hallow : allowOf linesRev [] = !(linesRev.isEmpty && ([] : List Line).isEmpty) := by
      simp [allowOf]
    obtain ⟨crev', i1, hcs, hS1, hf1, hres⟩ := blk_commentsE 0 rb [] i x linesRev RR (rpT :: eol :: T)
      (by rw [hallow]; exact hrb) hS
    obtain ⟨i2, hx2, _, hS2, hf2⟩ := hS1.step (by rw [hrk]; simp)
    obtain ⟨i3, hx3, _, hS3, hf3⟩ := hS2.step hne
    refine ⟨_, i3, hres _ _ (.close (by rw [hS1.tok]; exact hrk) hx2 (by rw [hS2.tok]; exact heol) hx3),
      by simp [eLines], ?_, rfl, rfl, rfl, rfl, hS3, ?_⟩
    · simp only [List.reverse_nil, List.nil_append] at hcs
      rw [hcs, hS1.tok]
    · rw [hf3, hf2, hf1]; simp [linesT]
  | cons l ls ih =>
    intro linesRev i x rb RR Z rpT eol T hZ hls hrb hrk heol hne hS
    obtain ⟨hl, hls'⟩ := hls
    have hallow : allowOf linesRev [] = !linesRev.isEmpty := rfl
    obtain ⟨t0, ts, htok⟩ : ∃ t0 ts, l.token = t0 :: ts := by
      cases h : l.token with
      | nil => exact absurd h hl.ne
      | cons a b => exact ⟨a, b, rfl⟩
    -- names for the pieces of the stream
    obtain ⟨rest', hrest'⟩ : ∃ r, r = sufB l.comments.suffix (linesB ls Z) := ⟨_, rfl⟩
    obtain ⟨Tl, hTl⟩ : ∃ r, r = linesT D ls Z ++ (befT D 0 rb RR ++ rpT :: eol :: T) := ⟨_, rfl⟩
    obtain ⟨eolL, heolL⟩ : ∃ r, r = sufT D l.comments.suffix (linesB ls Z) := ⟨_, rfl⟩
    have hSeq : linesT D (l :: ls) Z ++ (befT D 0 rb RR ++ rpT :: eol :: T) =
        befT D 1 l.comments.before (9 :: (tokStr l.token [] ++ rest')) ++ (tokStrT D l.token rest' ++ eolL :: Tl) := by
      simp [linesT, List.append_assoc, hrest', hTl, heolL]
    rw [hSeq] at hS
    obtain ⟨crev', i1, hcs, hS1, hf1, hres1⟩ := blk_commentsE 1 l.comments.before [] i x linesRev _ _
      (by rw [hallow]; exact hl.before) hS
    have htt : ∀ t ∈ l.token, TokText t := hl.tok
    have hlt : LT (tokStrT D l.token rest') := tokStrT_LT l.token htt rest'
    rw [htok, tokStrT_head] at hS1 hlt
    have ht0 : TokText t0 := htt t0 (by rw [htok]; simp)
    have h41 : t0 ≠ [41] := by
      intro h
      apply hl.first
      rw [htok, h]; rfl
    have hk1 : i1.token.kind = kindOf t0 := by
      rw [hS1.tok]; rfl
    obtain ⟨d1, d2, d3, d4, d5⟩ := tokText_blk_default ht0 h41
    have heolk : eolL.kind.isEOL = true ∧ eolL.kind ≠ .eof := by
      rw [heolL]; unfold sufT; split <;> simp [eolT, nlT, TokKind.isEOL]
    simp only [List.cons_append] at hS1
    obtain ⟨i1', hx1, _, hS1', hf1'⟩ := hS1.step (lt_ne_eof hlt.head)
    obtain ⟨l0, i2, hpl, hl0tok, hl0c, hl0b, hl0s, hl0e, hS2, hf2⟩ := parseLineLoop_E (tokStrT D ts rest') [i1.token.text]
      i1' i1.token.pos i1.token.endPos eolL Tl hlt.tail heolk.1 heolk.2 hS1'
    have hi1 := hS1.tok
    -- the line with its comments attached
    have hl1 : zidL { l0 with comments := { l0.comments with before := crev'.reverse } } =
        { id := 0,
          comments := { before := befC D 1 l.comments.before (9 :: (tokStr l.token [] ++ rest')) },
          start := pa D (tokStr l.token [] ++ rest'),
          token := l.token, inBlock := true, «end» := pa D rest' } := by
      apply line_ext
      · rfl
      · show ({ l0.comments with before := crev'.reverse } : Comments) = _
        rw [hl0c, hcs]; simp
      · show l0.start = _
        rw [hl0s, hi1]
        simp only [tokT, htok, tokStr_cons_nil, List.append_assoc]
      · show l0.token = _
        rw [hl0tok, hi1]
        simp only [List.reverse_cons, List.reverse_nil, List.nil_append, List.singleton_append]
        rw [show (tokT D t0 (tokStr ts (sepAfter t0) ++ rest')).text = t0 from rfl, tokStrT_texts, htok]
      · exact hl0b
      · show l0.«end» = _
        rw [hl0e, hi1]
        have := tokStrT_lastEnd (D := D) (t0 :: ts) rest' (tokT D t0 (tokStr ts (sepAfter t0) ++ rest')).endPos (by simp)
        rw [tokStrT_head] at this
        exact this
    obtain ⟨b, i3, hres, hlines, hrp, hbt, hbc, hbl, hbs, hS3, hf3⟩ := ih
      ({ l0 with comments := { l0.comments with before := crev'.reverse } } :: linesRev) i2 x rb RR Z rpT eol T hZ
      (by simpa using hls') (by simpa using hrb) hrk heol hne (by rw [← hTl]; exact hS2)
    refine ⟨b, i3, hres1 _ _ (.line (hk1 ▸ d1) (hk1 ▸ d2) (hk1 ▸ d3) (hk1 ▸ d4) (hk1 ▸ d5) hx1
      (by rw [hi1]; exact lt_not_eol hlt.head) hpl hres), ?_, hrp, hbt, hbc, hbl, hbs, hS3, ?_⟩
    · rw [hlines]
      simp only [List.reverse_cons, List.map_append, List.map_cons, List.map_nil, List.append_assoc,
        List.singleton_append, hl1, eLines, hrest']
    · have e1 : fut T i3 = fut Tl i2 := by rw [hf3, hTl]
      have e2 : fut (tokT D t0 (tokStr ts (sepAfter t0) ++ rest') :: (tokStrT D ts rest' ++ eolL :: Tl)) i1 =
          fut (tokStrT D l.token rest' ++ eolL :: Tl) i1 := by rw [htok]; rfl
      rw [hSeq]
      exact e1.trans (hf2.trans (hf1'.trans (e2.trans hf1)))

/-- a block statement: the `lex` call that delivers its first token, and the run of `parseStmtLoop` after it -/
theorem parseStmt_blockE (h0 : Token) (hs : List Token) (lpT lpEol : Token) (ls : List Line) (rb : List Comment)
    (RR : Bytes) (rpT eol : Token) (i : Input) (T : List Token)
    (hlt : LT (h0 :: hs)) (hlk : lpT.kind = .punct 40)
    (hlpe : lpEol.kind = .punct 10 ∨ lpEol.kind = .eolComment)
    (hls : EWFBlkLines false ls) (hrb : BlkBeforeOK (!ls.isEmpty) rb)
    (hrk : rpT.kind = .punct 41) (heol : eol.kind.isEOL = true) (hne : eol.kind ≠ .eof)
    (Z : Bytes) (hZ : Z = rBefore 0 rb ++ RR)
    (hS : EStream D ((h0 :: hs) ++ lpT :: lpEol :: (linesT D ls Z ++
      (befT D 0 rb RR ++ rpT :: eol :: T))) i) :
    ∃ i1 b i', Step i i1 ∧ PStmt Step Step i1 h0.pos h0.endPos [h0.text] (.lineBlock b) i' ∧
      b.token = (h0 :: hs).map (·.text) ∧ b.comments = {} ∧
      b.lparen = { pos := lpT.pos } ∧ b.start = h0.pos ∧
      b.lines.map zidL = eLines D ls Z ∧
      b.rparen = { comments := { before := befC D 0 rb RR }, pos := rpT.pos } ∧
      EStream D T i' ∧
      fut T i' = fut ((h0 :: hs) ++ lpT :: lpEol :: (linesT D ls Z ++
        (befT D 0 rb RR ++ rpT :: eol :: T))) i := by
  simp only [List.cons_append] at hS
  obtain ⟨i1, hx, _, hS1, hf1⟩ := hS.step (lt_ne_eof hlt.head)
  have hlpeol : lpEol.kind.isEOL = true := by
    rcases hlpe with h | h <;> rw [h] <;> rfl
  have hlpne : lpEol.kind ≠ .eof := by
    rcases hlpe with h | h <;> rw [h] <;> simp
  obtain ⟨i2, hS2, hf2, hres⟩ := parseStmtLoop_hdrE hs.length hs (Nat.le_refl _) [h0.text] i1
    h0.pos h0.endPos lpT lpEol _ hlt.tail hlk hlpeol hS1
  -- the end of the `(` line is dropped, then the body
  obtain ⟨i3, hx3, _, hS3, hf3⟩ := hS2.step hlpne
  obtain ⟨b, i4, hb, hlines, hrp, hbt, hbc, hbl, hbs, hS4, hf4⟩ := blk_linesE ls [] i3
    { start := h0.pos, token := [h0.text].reverse ++ hs.map (·.text), lparen := { pos := lpT.pos } } rb RR Z rpT eol T hZ
    (by simpa using hls) (by simpa using hrb) hrk heol hne hS3
  refine ⟨i1, b, i4, hx, hres b i4 ?_, by rw [hbt]; simp, hbc, by rw [hbl], by rw [hbs], by simpa using hlines, hrp, hS4,
    hf4.trans (hf3.trans (hf2.trans hf1))⟩
  rcases hlpe with h | h
  · exact .blank (by rw [hS2.tok]; exact h) hx3 (by simpa [allowOf] using hb)
  · exact .eolComment (by rw [hS2.tok]; exact h) hx3 hb

theorem parseStmt_lineE (t0 : Token) (toks : List Token) (i : Input) (eol : Token) (T : List Token)
    (hlt : LT (t0 :: toks)) (hok : lineTailOK (toks.map (·.text)) = true)
    (heol : eol.kind.isEOL = true) (hne : eol.kind ≠ .eof)
    (hS : EStream D ((t0 :: toks) ++ eol :: T) i) :
    ∃ i1 l i', Step i i1 ∧ PStmt Step Step i1 t0.pos t0.endPos [t0.text] (.line l) i' ∧
      l.token = (t0 :: toks).map (·.text) ∧ l.comments = {} ∧
      l.inBlock = false ∧ l.start = t0.pos ∧ l.«end» = lastEnd t0.endPos toks ∧
      EStream D T i' ∧ fut T i' = fut ((t0 :: toks) ++ eol :: T) i := by
  simp only [List.cons_append] at hS
  obtain ⟨i1, hx, _, hS1, hf1⟩ := hS.step (lt_ne_eof hlt.head)
  obtain ⟨l, i', hr, htok, hcm, hib, hst, hen, hS', hf'⟩ := parseStmtLoop_lineE toks.length toks (Nat.le_refl _) [t0.text] i1
    t0.pos t0.endPos eol T hlt.tail hok heol hne hS1
  exact ⟨i1, l, i', hx, hr, by rw [htok]; simp, hcm, hib, hst, hen, hS', hf'.trans hf1⟩

end ModVerif.Proofs.ModfileEol
