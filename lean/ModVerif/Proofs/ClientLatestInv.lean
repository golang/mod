/-
  The latest-tree-head machine, step by step, and its inductive invariant (for Props/C13.lean and Props/C14.lean).

  A step of goroutine `t` rewrites `t`'s locals and touches the shared state in at most one way (`Eff`): `LStep` lists
  the branches of `step` as a relation on the locals.  The invariant proved by induction is `FullInv`: three clauses about the
  shared state and, per goroutine, an assertion about its locals (`LocInv`) that mentions the shared state only through the head of
  its client and the security log, and survives their growth.  So a step has to re-establish the assertion of the
  goroutine that moves only; there the assertion is the one attached to the program counter it arrives at (`At`).
  The flat invariant `Inv` that the property theorems use is read off it (`FullInv.inv`).
-/
import ModVerif.Model.ClientLatest
namespace ModVerif.ClientLatest
variable {M T : Type}

/-- what a step does to the shared state -/
inductive Eff (M : Type)
  | none
  | install                            -- `c.latest, c.latestMsg = tree, msg`
  | report (older newer : Option M)    -- `SecurityError`
  | cas                                -- a successful `WriteConfig(cfg, lm)`

def Eff.apply (e : Eff M) (s : St M T) (t c : Nat) (l' : Loc M T) : St M T :=
  match e with
  | .none => { s with th := upd s.th t l' }
  | .install => { s with latest := upd s.latest c l'.tree, latestMsg := upd s.latestMsg c l'.msg, th := upd s.th t l' }
  | .report a b => { s with th := upd s.th t l', sec := (t, a, b) :: s.sec }
  | .cas => { s with config := l'.lm, writes := (l'.cfg, l'.lm) :: s.writes, th := upd s.th t l' }

def Eff.head (e : Eff M) (L : T) (l' : Loc M T) : T :=
  match e with
  | .install => l'.tree
  | _ => L

def Eff.log (e : Eff M) (t : Nat) (sec : List (Nat × Option M × Option M)) : List (Nat × Option M × Option M) :=
  match e with
  | .report a b => (t, a, b) :: sec
  | _ => sec

def Eff.cfg (e : Eff M) (C : Option M) (l' : Loc M T) : Option M :=
  match e with
  | .cas => l'.lm
  | _ => C

theorem Eff.apply_config (e : Eff M) (s : St M T) (t c : Nat) (l' : Loc M T) :
    (e.apply s t c l').config = e.cfg s.config l' := by
  cases e <;> rfl

theorem Eff.apply_th (e : Eff M) (s : St M T) (t c : Nat) (l' : Loc M T) : (e.apply s t c l').th = upd s.th t l' := by
  cases e <;> rfl

theorem Eff.apply_latest (e : Eff M) (s : St M T) (t c : Nat) (l' : Loc M T) :
    (e.apply s t c l').latest c = e.head (s.latest c) l' := by
  cases e <;> simp [Eff.apply, Eff.head]

theorem Eff.apply_latest_other (e : Eff M) (s : St M T) (t c : Nat) (l' : Loc M T) (c' : Nat) (h : c' ≠ c) :
    (e.apply s t c l').latest c' = s.latest c' := by
  cases e <;> simp [Eff.apply, h]

theorem Eff.apply_sec (e : Eff M) (s : St M T) (t c : Nat) (l' : Loc M T) : (e.apply s t c l').sec = e.log t s.sec := by
  cases e <;> rfl

/-- One step of a goroutine with locals `l`, given what it sees of the shared state: the head `L` and the message `LM`
of its client and the configuration `C`. -/
inductive LStep (P : Params M T) (pres : Option M) (pv : Bool) (L : T) (LM C : Option M) (l : Loc M T) :
    Res → Loc M T → Eff M → Prop
  | entry (r) : l.pc = .entry → LStep P pres pv L LM C l r { l with pc := if pv then .done .gonosumdb else .start } .none
  | start (r) : l.pc = .start → LStep P pres pv L LM C l r { l with pc := .memRead .first, msg := pres } .none
  | readEmpty (r o) : l.pc = .memRead o → l.msg = none →
      LStep P pres pv L LM C l r { l with pc := afterMem o (if P.size L = 0 then .now else .past) } .none
  | readBad (r o m) : l.pc = .memRead o → l.msg = some m → P.parse m = none →
      LStep P pres pv L LM C l r { l with pc := .done .err } .none
  | readOk (r o m tr) : l.pc = .memRead o → l.msg = some m → P.parse m = some tr →
      LStep P pres pv L LM C l r { l with pc := .memCheck o, tree := tr, latest := L, latestMsg := LM } .none
  | oldOk (o) : l.pc = .memCheck o → P.size l.tree ≤ P.size l.latest → .ok ∈ P.chk l.tree l.latest →
      LStep P pres pv L LM C l .ok
        { l with pc := afterMem o (if P.size l.tree < P.size l.latest then .past else .now), ops := l.ops + 1 } .none
  | oldFork (o) : l.pc = .memCheck o → P.size l.tree ≤ P.size l.latest → .fork ∈ P.chk l.tree l.latest →
      LStep P pres pv L LM C l .fork { l with pc := .done .security, ops := l.ops + 2 } (.report l.msg l.latestMsg)
  | oldErr (o) : l.pc = .memCheck o → P.size l.tree ≤ P.size l.latest → .error ∈ P.chk l.tree l.latest →
      LStep P pres pv L LM C l .error { l with pc := .done .err, ops := l.ops + 1 } .none
  | newOk (o) : l.pc = .memCheck o → ¬ P.size l.tree ≤ P.size l.latest → .ok ∈ P.chk l.latest l.tree →
      LStep P pres pv L LM C l .ok { l with pc := .memInstall o, ops := l.ops + 1 } .none
  | newFork (o) : l.pc = .memCheck o → ¬ P.size l.tree ≤ P.size l.latest → .fork ∈ P.chk l.latest l.tree →
      LStep P pres pv L LM C l .fork { l with pc := .done .security, ops := l.ops + 2 } (.report l.latestMsg l.msg)
  | newErr (o) : l.pc = .memCheck o → ¬ P.size l.tree ≤ P.size l.latest → .error ∈ P.chk l.latest l.tree →
      LStep P pres pv L LM C l .error { l with pc := .done .err, ops := l.ops + 1 } .none
  | install (r o) : l.pc = .memInstall o → L = l.latest →
      LStep P pres pv L LM C l r { l with pc := afterMem o .future } .install
  | retry (r o) : l.pc = .memInstall o → L ≠ l.latest →
      LStep P pres pv L LM C l r { l with pc := .memCheck o, latest := L, latestMsg := LM } .none
  | readFail : l.pc = .readConfig → LStep P pres pv L LM C l .error { l with pc := .done .err, ops := l.ops + 1 } .none
  | read (r) : l.pc = .readConfig → r ≠ .error →
      LStep P pres pv L LM C l r { l with pc := .memRead .loop, cfg := C, msg := C, ops := l.ops + 1 } .none
  | readMsg (r) : l.pc = .readLatestMsg → LStep P pres pv L LM C l r { l with pc := .writeConfig, lm := LM } .none
  | writeFail : l.pc = .writeConfig → LStep P pres pv L LM C l .error { l with pc := .done .err, ops := l.ops + 1 } .none
  | write (r) : l.pc = .writeConfig → r ≠ .error → C = l.cfg →
      LStep P pres pv L LM C l r { l with pc := .done .ok, ops := l.ops + 1 } .cas
  | conflict (r) : l.pc = .writeConfig → r ≠ .error → C ≠ l.cfg →
      LStep P pres pv L LM C l r { l with pc := .readConfig, ops := l.ops + 1 } .none

theorem afterMem_done (o : Outer) (w : When) (r : Result) (h : afterMem o w = .done r) : r = .ok := by
  cases o <;> cases w <;> cases h <;> rfl

/-- What the protocol needs from the verification layer: `le` is the prefix order on tree heads and an `ok` answer of
`checkTrees(older, newer)` implies `older ≤ newer` (this is what C03/C10 deliver: the recomputed hash of the first
`older.N` records of the authenticated newer tree equals the older hash). -/
structure Sound (P : Params M T) (le : T → T → Prop) : Prop where
  refl : ∀ a, le a a
  trans : ∀ a b c, le a b → le b c → le a c
  zero_le : ∀ a, le P.zero a
  chk_ok : ∀ a b, Res.ok ∈ P.chk a b → le a b

def MsgOf (P : Params M T) (om : Option M) (t : T) : Prop :=
  match om with
  | none => t = P.zero
  | some m => P.parse m = some t

theorem MsgOf_some (P : Params M T) (m : M) (t : T) (h : P.parse m = some t) : MsgOf P (some m) t := h
theorem MsgOf_none (P : Params M T) : MsgOf P none P.zero := rfl
theorem cfgTree_some (P : Params M T) (m : M) (t : T) (h : P.parse m = some t) : cfgTree P (some m) = t := by simp [cfgTree, h]
theorem cfgTree_none (P : Params M T) : cfgTree P none = P.zero := rfl

theorem cfgTree_of_MsgOf (P : Params M T) (om : Option M) (t : T) (h : MsgOf P om t) : cfgTree P om = t := by
  cases om with
  | none => exact h.symm
  | some m => exact cfgTree_some P m t h

def hasSec (l : List (Nat × Option M × Option M)) (t : Nat) : Bool := l.any (fun e => e.1 == t)
theorem hasSec_cons (e : Nat × Option M × Option M) (l : List (Nat × Option M × Option M)) (t : Nat) :
    hasSec (e :: l) t = (e.1 == t || hasSec l t) := by simp [hasSec]
theorem hasSec_nil (t : Nat) : hasSec ([] : List (Nat × Option M × Option M)) t = false := rfl
theorem hasSec_mem (l : List (Nat × Option M × Option M)) (t : Nat) (h : hasSec l t = true) : ∃ a b, (t, a, b) ∈ l := by
  simp only [hasSec, List.any_eq_true, beq_iff_eq] at h
  obtain ⟨⟨t', a, b⟩, hm, ht⟩ := h
  simp at ht; subst ht
  exact ⟨a, b, hm⟩

/-- the thread has completed its first `mergeLatestMem` successfully -/
def PastFirst (p : PC) : Prop :=
  p = .readConfig ∨ p = .memRead .loop ∨ p = .memCheck .loop ∨ p = .memInstall .loop ∨ p = .readLatestMsg ∨
  p = .writeConfig ∨ p = .done .ok

structure Inv (P : Params M T) (le : T → T → Prop) (cl : Nat → Nat) (presented : Nat → Option M) (priv : Nat → Bool)
    (s : St M T) : Prop where
  mem_msg : ∀ c, MsgOf P (s.latestMsg c) (s.latest c)
  snap : ∀ t o, ((s.th t).pc = .memCheck o ∨ (s.th t).pc = .memInstall o) →
      le (s.th t).latest (s.latest (cl t)) ∧ MsgOf P (s.th t).latestMsg (s.th t).latest ∧
      ∃ m, (s.th t).msg = some m ∧ P.parse m = some (s.th t).tree
  checked : ∀ t o, (s.th t).pc = .memInstall o → le (s.th t).latest (s.th t).tree
  loop_msg : ∀ t, ((s.th t).pc = .memRead .loop ∨ (s.th t).pc = .memCheck .loop ∨ (s.th t).pc = .memInstall .loop) →
      (s.th t).msg = (s.th t).cfg
  first_msg : ∀ t, ((s.th t).pc = .memRead .first ∨ (s.th t).pc = .memCheck .first ∨ (s.th t).pc = .memInstall .first) →
      (s.th t).msg = presented t
  cfg_below : ∀ t, (s.th t).pc = .readLatestMsg → le (cfgTree P (s.th t).cfg) (s.latest (cl t))
  write_up : ∀ t, (s.th t).pc = .writeConfig → le (cfgTree P (s.th t).cfg) (cfgTree P (s.th t).lm)
  writes_up : ∀ w ∈ s.writes, le (cfgTree P w.1) (cfgTree P w.2)
  sec_fork : ∀ e ∈ s.sec, Res.fork ∈ P.chk (cfgTree P e.2.1) (cfgTree P e.2.2)
  sec_done : ∀ t, (s.th t).pc = .done .security → hasSec s.sec t = true
  accepted : ∀ t m pt, presented t = some m → P.parse m = some pt → PastFirst (s.th t).pc → le pt (s.latest (cl t))
  private_idle : ∀ t, priv t = true → ((s.th t).pc = .entry ∨ (s.th t).pc = .done .gonosumdb) ∧ (s.th t).ops = 0
  public_pc : ∀ t, priv t = false → (s.th t).pc ≠ .done .gonosumdb

/-- program counters of the first `mergeLatestMem` call (before any `ReadConfig`) -/
def FirstPhase (p : PC) : Prop :=
  p = .entry ∨ p = .start ∨ p = .memRead .first ∨ p = .memCheck .first ∨ p = .memInstall .first

/-- What is known about one goroutine with locals `l`; `L` is the head of its client, `C` the configuration, `sec`
the security log.  The first ten clauses are those of `Inv`; the last four say how the configuration content the
goroutine has read lies between the heads it deals with. -/
structure LocInv (P : Params M T) (le : T → T → Prop) (pres : Option M) (pv : Bool) (t : Nat) (L : T) (C : Option M)
    (sec : List (Nat × Option M × Option M)) (l : Loc M T) : Prop where
  snap : ∀ o, (l.pc = .memCheck o ∨ l.pc = .memInstall o) →
      le l.latest L ∧ MsgOf P l.latestMsg l.latest ∧ ∃ m, l.msg = some m ∧ P.parse m = some l.tree
  checked : ∀ o, l.pc = .memInstall o → le l.latest l.tree
  loop_msg : (l.pc = .memRead .loop ∨ l.pc = .memCheck .loop ∨ l.pc = .memInstall .loop) → l.msg = l.cfg
  first_msg : (l.pc = .memRead .first ∨ l.pc = .memCheck .first ∨ l.pc = .memInstall .first) → l.msg = pres
  cfg_below : l.pc = .readLatestMsg → le (cfgTree P l.cfg) L
  write_up : l.pc = .writeConfig → le (cfgTree P l.cfg) (cfgTree P l.lm)
  sec_done : l.pc = .done .security → hasSec sec t = true
  accepted : ∀ m pt, pres = some m → P.parse m = some pt → PastFirst l.pc → le pt L
  private_idle : pv = true → (l.pc = .entry ∨ l.pc = .done .gonosumdb) ∧ l.ops = 0
  public_pc : pv = false → l.pc ≠ .done .gonosumdb
  cfg_first : FirstPhase l.pc → l.cfg = none
  cfg_le : le (cfgTree P l.cfg) (cfgTree P C)
  cfg_merged : (l.pc = .done .ok ∨ l.pc = .readLatestMsg ∨ l.pc = .writeConfig) → le (cfgTree P l.cfg) L
  lm_below : l.pc = .writeConfig → le (cfgTree P l.lm) L

section
variable {P : Params M T} {le : T → T → Prop} {pres : Option M} {pv : Bool} {t : Nat} {L L' : T} {LM C C' : Option M}
  {sec sec' : List (Nat × Option M × Option M)} {l l' : Loc M T} {r : Res} {e : Eff M}

theorem LocInv.mono (hS : Sound P le) (hL : le L L')
    (hC : le (cfgTree P C) (cfgTree P C')) (hsec : hasSec sec t = true → hasSec sec' t = true)
    (h : LocInv P le pres pv t L C sec l) : LocInv P le pres pv t L' C' sec' l :=
  { h with
    snap := fun o ho => ⟨hS.trans _ _ _ (h.snap o ho).1 hL, (h.snap o ho).2⟩
    cfg_below := fun hp => hS.trans _ _ _ (h.cfg_below hp) hL
    sec_done := fun hp => hsec (h.sec_done hp)
    accepted := fun m pt hm hp hpc => hS.trans _ _ _ (h.accepted m pt hm hp hpc) hL
    cfg_le := hS.trans _ _ _ h.cfg_le hC
    cfg_merged := fun hp => hS.trans _ _ _ (h.cfg_merged hp) hL
    lm_below := fun hp => hS.trans _ _ _ (h.lm_below hp) hL }

/-- every tree presented to the goroutine is a prefix of `L` -/
def Acc (P : Params M T) (le : T → T → Prop) (pres : Option M) (L : T) : Prop :=
  ∀ m pt, pres = some m → P.parse m = some pt → le pt L

/-- where the argument of the running `mergeLatestMem` comes from: in the call at the top of `mergeLatest` it is the
presented message, and no configuration has been read; in the loop it is the configuration just read, and the first
call has accepted what was presented -/
def Src (P : Params M T) (le : T → T → Prop) (pres : Option M) (L : T) (l : Loc M T) : Outer → Prop
  | .first => l.msg = pres ∧ l.cfg = none
  | .loop => l.msg = l.cfg ∧ Acc P le pres L

/-- the snapshot of `c.latest`, `c.latestMsg` taken by `mergeLatestMem` -/
def Snap (P : Params M T) (le : T → T → Prop) (L : T) (l : Loc M T) : Prop :=
  le l.latest L ∧ MsgOf P l.latestMsg l.latest ∧ ∃ m, l.msg = some m ∧ P.parse m = some l.tree

/-- the assertion attached to each program counter of a public goroutine -/
def At (P : Params M T) (le : T → T → Prop) (pres : Option M) (t : Nat) (L : T)
    (sec : List (Nat × Option M × Option M)) (l : Loc M T) : Prop :=
  match l.pc with
  | .entry | .start => l.cfg = none
  | .memRead o => Src P le pres L l o
  | .memCheck o => Src P le pres L l o ∧ Snap P le L l
  | .memInstall o => Src P le pres L l o ∧ Snap P le L l ∧ le l.latest l.tree
  | .readConfig => Acc P le pres L
  | .readLatestMsg => Acc P le pres L ∧ le (cfgTree P l.cfg) L
  | .writeConfig => Acc P le pres L ∧ le (cfgTree P l.cfg) (cfgTree P l.lm) ∧ le (cfgTree P l.lm) L
  | .done .ok => Acc P le pres L ∧ le (cfgTree P l.cfg) L
  | .done .security => hasSec sec t = true
  | .done _ => True

/-- each clause speaks of some program counters, and there the assertion says the same -/
theorem LocInv.of_at (hS : Sound P le) (hne : l.pc ≠ .done .gonosumdb)
    (hC : le (cfgTree P l.cfg) (cfgTree P C)) (h : At P le pres t L sec l) : LocInv P le pres false t L C sec l := by
  unfold At at h
  refine ⟨fun o ho => ?_, fun o ho => ?_, fun ho => ?_, fun ho => ?_, fun ho => ?_, fun ho => ?_, fun ho => ?_,
    fun m pt hm hp ho => ?_, nofun, fun _ => hne, fun ho => ?_, hC, fun ho => ?_, fun ho => ?_⟩
  · rcases ho with ho | ho <;> rw [ho] at h
    · exact h.2
    · exact h.2.1
  · rw [ho] at h; exact h.2.2
  · rcases ho with ho | ho | ho <;> rw [ho] at h
    · exact h.1
    · exact h.1.1
    · exact h.1.1
  · rcases ho with ho | ho | ho <;> rw [ho] at h
    · exact h.1
    · exact h.1.1
    · exact h.1.1
  · rw [ho] at h; exact h.2
  · rw [ho] at h; exact h.2.1
  · rw [ho] at h; exact h
  · rcases ho with ho | ho | ho | ho | ho | ho | ho <;> rw [ho] at h
    · exact h m pt hm hp
    · exact h.2 m pt hm hp
    · exact h.1.2 m pt hm hp
    · exact h.1.2 m pt hm hp
    · exact h.1 m pt hm hp
    · exact h.1 m pt hm hp
    · exact h.1 m pt hm hp
  · rcases ho with ho | ho | ho | ho | ho <;> rw [ho] at h
    · exact h
    · exact h
    · exact h.2
    · exact h.1.2
    · exact h.1.2
  · rcases ho with ho | ho | ho <;> rw [ho] at h
    · exact h.2
    · exact h.2
    · exact hS.trans _ _ _ h.2.1 h.2.2
  · rw [ho] at h; exact h.2.2

theorem at_afterMem (o : Outer) (w : When) (hpc : l'.pc = afterMem o w)
    (hacc : Acc P le pres L) (hcfg : le (cfgTree P l'.cfg) L) : At P le pres t L sec l' := by
  unfold At
  cases o <;> cases w <;> rw [hpc]
  case first.future => exact hacc
  all_goals exact ⟨hacc, hcfg⟩

theorem LocInv.src (h : LocInv P le pres pv t L C sec l)
    (o : Outer) (hpc : l.pc = .memRead o ∨ l.pc = .memCheck o ∨ l.pc = .memInstall o) : Src P le pres L l o := by
  cases o
  · exact ⟨h.first_msg hpc, h.cfg_first (.inr (.inr hpc))⟩
  · exact ⟨h.loop_msg hpc, fun m pt hm hp => h.accepted m pt hm hp (.inr (hpc.elim .inl fun h => .inr (h.elim .inl
      fun h => .inr (.inl h))))⟩

theorem Src.acc (hS : Sound P le) {o : Outer} (h : Src P le pres L l o) (hL : le L L')
    (hfirst : ∀ m pt, l.msg = some m → P.parse m = some pt → le pt L') : Acc P le pres L' := by
  cases o
  · exact fun m pt hm hp => hfirst m pt (h.1.trans hm) hp
  · exact fun m pt hm hp => hS.trans _ _ _ (h.2 m pt hm hp) hL

theorem Src.cfg_le (hS : Sound P le)
    {o : Outer} (h : Src P le pres L l o) (hmsg : le (cfgTree P l.msg) L') : le (cfgTree P l.cfg) L' := by
  cases o
  · rw [h.2]; exact hS.zero_le _
  · exact h.1 ▸ hmsg

theorem LStep.at (hS : Sound P le)
    (hl : LStep P pres pv L LM C l r l' e) (hm : MsgOf P LM L) (h : LocInv P le pres pv t L C sec l) :
    At P le pres t (e.head L l') (e.log t sec) l' := by
  -- in `memCheck`, `memInstall`: the argument stands for `l.tree`, which is what an accepted argument is compared to
  have arg : ∀ o, l.pc = .memCheck o ∨ l.pc = .memInstall o → cfgTree P l.msg = l.tree ∧
      ∀ L', le l.tree L' → ∀ m pt, l.msg = some m → P.parse m = some pt → le pt L' := by
    intro o ho
    obtain ⟨_, _, m, hm1, hm2⟩ := h.snap o ho
    refine ⟨hm1 ▸ cfgTree_some P m _ hm2, fun L' hL m' pt hm' hp => ?_⟩
    cases hm1.symm.trans hm'; cases hm2.symm.trans hp; exact hL
  cases hl
  case readEmpty o hpc hmsg =>
    have hsrc := h.src o (.inl hpc)
    exact at_afterMem o _ rfl (hsrc.acc hS (hS.refl _) fun m pt hm' => by cases hmsg.symm.trans hm')
      (hsrc.cfg_le hS (hmsg ▸ hS.zero_le _))
  case oldOk o hpc _ hok =>
    have hsrc := h.src o (.inr (.inl hpc))
    obtain ⟨harg, hacc⟩ := arg o (.inl hpc)
    have hle : le l.tree L := hS.trans _ _ _ (hS.chk_ok _ _ hok) (h.snap o (.inl hpc)).1
    exact at_afterMem o _ rfl (hsrc.acc hS (hS.refl _) (hacc L hle)) (hsrc.cfg_le hS (harg ▸ hle))
  case install o hpc hL =>
    have hsrc := h.src o (.inr (.inr hpc))
    obtain ⟨harg, hacc⟩ := arg o (.inr hpc)
    exact at_afterMem o _ rfl (hsrc.acc hS (hL ▸ h.checked o hpc) (hacc _ (hS.refl _)))
      (hsrc.cfg_le hS (harg ▸ hS.refl _))
  all_goals unfold At; dsimp only [Eff.head, Eff.log]
  case entry hpc => cases pv <;> first | trivial | exact h.cfg_first (.inl hpc)
  case start hpc => exact ⟨rfl, h.cfg_first (.inr (.inl hpc))⟩
  case readOk o m tr hpc hmsg hp => exact ⟨h.src o (.inl hpc), hS.refl _, hm, m, hmsg, hp⟩
  case oldFork => simp [hasSec_cons]
  case newOk o hpc _ hok =>
    exact ⟨h.src o (.inr (.inl hpc)), h.snap o (.inl hpc), hS.chk_ok _ _ hok⟩
  case newFork => simp [hasSec_cons]
  case retry o hpc _ =>
    exact ⟨h.src o (.inr (.inr hpc)), hS.refl _, hm, (h.snap o (.inr hpc)).2.2⟩
  case read hpc _ => exact ⟨rfl, fun m pt hm' hp => h.accepted m pt hm' hp (.inl hpc)⟩
  case readMsg hpc =>
    refine ⟨fun m pt hm' hp => h.accepted m pt hm' hp (.inr (.inr (.inr (.inr (.inl hpc))))), ?_⟩
    rw [cfgTree_of_MsgOf P _ _ hm]; exact ⟨h.cfg_below hpc, hS.refl _⟩
  case write hpc _ _ =>
    exact ⟨fun m pt hm' hp => h.accepted m pt hm' hp (.inr (.inr (.inr (.inr (.inr (.inl hpc)))))),
      h.cfg_merged (.inr (.inr hpc))⟩
  case conflict hpc _ _ => exact fun m pt hm' hp => h.accepted m pt hm' hp (.inr (.inr (.inr (.inr (.inr (.inl hpc))))))
  all_goals trivial

theorem LStep.not_done (hl : LStep P pres pv L LM C l r l' e) (x : Result) : l.pc ≠ .done x := by
  intro h
  cases hl <;> simp only [h, reduceCtorEq] at *

theorem LStep.of_entry (hl : LStep P pres pv L LM C l r l' e) (hpc : l.pc = .entry) :
    l' = { l with pc := if pv then .done .gonosumdb else .start } ∧ e = .none := by
  cases hl
  case entry => exact ⟨rfl, rfl⟩
  all_goals simp only [hpc, reduceCtorEq] at *

theorem LStep.ne_gonosumdb (hl : LStep P pres false L LM C l r l' e) : l'.pc ≠ .done .gonosumdb := by
  intro h
  cases hl <;> first | cases h | cases afterMem_done _ _ _ h

theorem afterMem_ne_entry (o : Outer) (w : When) : afterMem o w ≠ .entry := by
  cases o <;> cases w <;> nofun

theorem LStep.pc_ne_entry (hl : LStep P pres pv L LM C l r l' e) : l'.pc ≠ .entry := by
  cases hl
  case entry => cases pv <;> nofun
  case readEmpty | oldOk | install => exact afterMem_ne_entry _ _
  all_goals nofun

/-! What the three effects say about the step that has them. -/

theorem LStep.of_install (hl : LStep P pres pv L LM C l r l' .install) :
    ∃ o, l.pc = .memInstall o ∧ L = l.latest ∧ l' = { l with pc := afterMem o .future } := by
  cases hl with | install r o h1 h2 => exact ⟨o, h1, h2, rfl⟩

theorem LStep.of_report {a b : Option M} (hl : LStep P pres pv L LM C l r l' (.report a b)) :
    (∃ o, l.pc = .memCheck o) ∧ r = .fork ∧ l'.pc = .done .security ∧
    ((a = l.msg ∧ b = l.latestMsg ∧ Res.fork ∈ P.chk l.tree l.latest) ∨
      (a = l.latestMsg ∧ b = l.msg ∧ Res.fork ∈ P.chk l.latest l.tree)) := by
  cases hl with
  | oldFork o h1 _ h3 => exact ⟨⟨o, h1⟩, rfl, rfl, .inl ⟨rfl, rfl, h3⟩⟩
  | newFork o h1 _ h3 => exact ⟨⟨o, h1⟩, rfl, rfl, .inr ⟨rfl, rfl, h3⟩⟩

theorem LStep.of_cas (hl : LStep P pres pv L LM C l r l' .cas) :
    l.pc = .writeConfig ∧ C = l.cfg ∧ l' = { l with pc := .done .ok, ops := l.ops + 1 } := by
  cases hl with | write r h1 _ h3 => exact ⟨h1, h3, rfl⟩

theorem LStep.head_le (hS : Sound P le)
    (hl : LStep P pres pv L LM C l r l' e) (h : ∀ o, l.pc = .memInstall o → le l.latest l.tree) :
    le L (e.head L l') := by
  cases e
  case install => obtain ⟨o, hpc, hL, rfl⟩ := hl.of_install; exact hL ▸ h o hpc
  all_goals exact hS.refl _

theorem LStep.cfg_le (hS : Sound P le)
    (hl : LStep P pres pv L LM C l r l' e) (h : l.pc = .writeConfig → le (cfgTree P l.cfg) (cfgTree P l.lm)) :
    le (cfgTree P C) (cfgTree P (e.cfg C l')) := by
  cases e
  case cas => obtain ⟨hpc, hC, rfl⟩ := hl.of_cas; exact hC ▸ h hpc
  all_goals exact hS.refl _

theorem LocInv.step (hS : Sound P le)
    (hl : LStep P pres pv L LM C l r l' e) (hm : MsgOf P LM L) (h : LocInv P le pres pv t L C sec l) :
    LocInv P le pres pv t (e.head L l') (e.cfg C l') (e.log t sec) l' := by
  cases pv
  · refine .of_at hS hl.ne_gonosumdb ?_ (hl.at hS hm h)
    cases hl
    case read => exact hS.refl _
    case write hpc _ _ => exact h.write_up hpc
    all_goals exact h.cfg_le
  · have hpc := (h.private_idle rfl).1.resolve_right (hl.not_done _)
    obtain ⟨rfl, rfl⟩ := hl.of_entry hpc
    refine ⟨?_, nofun, ?_, ?_, nofun, nofun, nofun, ?_, fun _ => ⟨.inr rfl, (h.private_idle rfl).2⟩, nofun, ?_,
      h.cfg_le, ?_, nofun⟩
    · exact fun o ho => ho.elim nofun nofun
    · exact fun ho => ho.elim nofun fun ho => ho.elim nofun nofun
    · exact fun ho => ho.elim nofun fun ho => ho.elim nofun nofun
    · intro m pt _ _ ho
      simp [PastFirst] at ho
    · intro ho
      simp [FirstPhase] at ho
    · exact fun ho => ho.elim nofun fun ho => ho.elim nofun nofun

end

/-- **The inductive invariant**: three clauses about the shared state, and the clauses about each goroutine. -/
structure FullInv (P : Params M T) (le : T → T → Prop) (cl : Nat → Nat) (presented : Nat → Option M) (priv : Nat → Bool)
    (s : St M T) : Prop where
  mem_msg : ∀ c, MsgOf P (s.latestMsg c) (s.latest c)
  writes_up : ∀ w ∈ s.writes, le (cfgTree P w.1) (cfgTree P w.2)
  sec_fork : ∀ e ∈ s.sec, Res.fork ∈ P.chk (cfgTree P e.2.1) (cfgTree P e.2.2)
  loc : ∀ t, LocInv P le (presented t) (priv t) t (s.latest (cl t)) s.config s.sec (s.th t)

theorem FullInv.inv {P : Params M T} {le : T → T → Prop} {cl : Nat → Nat} {presented : Nat → Option M}
    {priv : Nat → Bool} {s : St M T} (h : FullInv P le cl presented priv s) : Inv P le cl presented priv s :=
  ⟨h.mem_msg, fun t => (h.loc t).snap, fun t => (h.loc t).checked, fun t => (h.loc t).loop_msg,
    fun t => (h.loc t).first_msg, fun t => (h.loc t).cfg_below, fun t => (h.loc t).write_up, h.writes_up, h.sec_fork,
    fun t => (h.loc t).sec_done, fun t => (h.loc t).accepted, fun t => (h.loc t).private_idle,
    fun t => (h.loc t).public_pc⟩

theorem fullInv_init (P : Params M T) (le : T → T → Prop) (hS : Sound P le) (cl : Nat → Nat)
    (presented : Nat → Option M) (priv : Nat → Bool) (c0 : Option M) : FullInv P le cl presented priv (init P c0) := by
  refine ⟨fun _ => rfl, nofun, nofun, fun t => ?_⟩
  constructor <;> simp [init, PastFirst, FirstPhase, hS.zero_le, cfgTree]

variable [DecidableEq M] [DecidableEq T]
variable {P : Params M T} {le : T → T → Prop} {cl : Nat → Nat} {presented : Nat → Option M} {priv : Nat → Bool}
  {c0 : Option M} {s s' : St M T} {t : Nat} {r : Res}

theorem step_iff (P : Params M T) (cl : Nat → Nat) (presented : Nat → Option M) (priv : Nat → Bool)
    (s s' : St M T) (t : Nat) (r : Res) :
    step P cl presented priv s t r = some s' ↔
      ∃ l' e, LStep P (presented t) (priv t) (s.latest (cl t)) (s.latestMsg (cl t)) s.config (s.th t) r l' e ∧
        e.apply s t (cl t) l' = s' := by
  constructor
  · intro h
    unfold step at h
    cases hpc : (s.th t).pc <;> simp only [hpc] at h
    case entry => exact ⟨_, _, .entry r hpc, Option.some.inj h⟩
    case start => exact ⟨_, _, .start r hpc, Option.some.inj h⟩
    case memRead o =>
      split at h
      · exact ⟨_, _, .readEmpty r o hpc ‹_›, Option.some.inj h⟩
      · split at h
        · exact ⟨_, _, .readBad r o _ hpc ‹_› ‹_›, Option.some.inj h⟩
        · exact ⟨_, _, .readOk r o _ _ hpc ‹_› ‹_›, Option.some.inj h⟩
    case memCheck o =>
      split at h <;> split at h <;> try cases h
      all_goals cases r <;> simp only [Option.some.injEq] at h
      · exact ⟨_, _, .oldOk o hpc ‹_› ‹_›, h⟩
      · exact ⟨_, _, .oldFork o hpc ‹_› ‹_›, h⟩
      · exact ⟨_, _, .oldErr o hpc ‹_› ‹_›, h⟩
      · exact ⟨_, _, .newOk o hpc ‹_› ‹_›, h⟩
      · exact ⟨_, _, .newFork o hpc ‹_› ‹_›, h⟩
      · exact ⟨_, _, .newErr o hpc ‹_› ‹_›, h⟩
    case memInstall o =>
      split at h
      · exact ⟨_, _, .install r o hpc ‹_›, Option.some.inj h⟩
      · exact ⟨_, _, .retry r o hpc ‹_›, Option.some.inj h⟩
    case readConfig =>
      split at h
      · subst r; exact ⟨_, _, .readFail hpc, Option.some.inj h⟩
      · exact ⟨_, _, .read r hpc ‹_›, Option.some.inj h⟩
    case readLatestMsg => exact ⟨_, _, .readMsg r hpc, Option.some.inj h⟩
    case writeConfig =>
      split at h
      · subst r; exact ⟨_, _, .writeFail hpc, Option.some.inj h⟩
      · split at h
        · exact ⟨_, _, .write r hpc ‹_› ‹_›, Option.some.inj h⟩
        · exact ⟨_, _, .conflict r hpc ‹_› ‹_›, Option.some.inj h⟩
    case done => cases h
  · rintro ⟨l', e, hl, rfl⟩
    cases hl <;> simp [step, Eff.apply, *]


theorem step_th_frame (h : step P cl presented priv s t r = some s') (t' : Nat) (ht : t' ≠ t) : s'.th t' = s.th t' := by
  obtain ⟨l', e, _, rfl⟩ := (step_iff ..).mp h
  rw [Eff.apply_th, upd_other _ _ _ _ ht]

theorem step_latest_frame (h : step P cl presented priv s t r = some s') (c : Nat) (hc : c ≠ cl t) : s'.latest c =
    s.latest c := by
  obtain ⟨l', e, _, rfl⟩ := (step_iff ..).mp h
  exact Eff.apply_latest_other _ _ _ _ _ _ hc

theorem step_pc_ne_entry (h : step P cl presented priv s t r = some s') : (s'.th t).pc ≠ .entry := by
  obtain ⟨l', e, hl, rfl⟩ := (step_iff ..).mp h
  rw [Eff.apply_th, upd_same]; exact hl.pc_ne_entry

theorem step_not_done (h : step P cl presented priv s t r = some s') (x : Result) : (s.th t).pc ≠ .done x := by
  obtain ⟨l', e, hl, rfl⟩ := (step_iff ..).mp h
  exact hl.not_done x

theorem fullInv_step (hS : Sound P le) (hI : FullInv P le cl presented priv s)
    (h : step P cl presented priv s t r = some s') : FullInv P le cl presented priv s' := by
  obtain ⟨l', e, hl, rfl⟩ := (step_iff ..).mp h
  obtain ⟨h1, h2, h3, hloc⟩ := hI
  refine ⟨fun c => ?_, ?_, ?_, fun t' => ?_⟩
  · cases e
    case install =>
      obtain ⟨o, hpc, _, rfl⟩ := hl.of_install
      obtain ⟨_, _, m, hm1, hm2⟩ := (hloc t).snap o (.inr hpc)
      by_cases hc : c = cl t
      · subst hc; simp only [Eff.apply, upd_same]; rw [hm1]; exact hm2
      · simp only [Eff.apply, upd_other _ _ _ _ hc]; exact h1 c
    all_goals exact h1 c
  · cases e
    case cas =>
      obtain ⟨hpc, _, rfl⟩ := hl.of_cas
      intro w hw
      rcases List.mem_cons.mp hw with rfl | hw
      · exact (hloc t).write_up hpc
      · exact h2 w hw
    all_goals exact h2
  · cases e
    case report a b =>
      obtain ⟨⟨o, hpc⟩, _, _, hab⟩ := hl.of_report
      obtain ⟨_, hmo, m, hm1, hm2⟩ := (hloc t).snap o (.inl hpc)
      have e1 : cfgTree P (s.th t).msg = (s.th t).tree := hm1 ▸ cfgTree_some P m _ hm2
      have e2 := cfgTree_of_MsgOf P _ _ hmo
      intro x hx
      rcases List.mem_cons.mp hx with rfl | hx
      · rcases hab with ⟨rfl, rfl, hf⟩ | ⟨rfl, rfl, hf⟩ <;> simpa only [e1, e2] using hf
      · exact h3 x hx
    all_goals exact h3
  · rw [Eff.apply_th, Eff.apply_sec, Eff.apply_config]
    by_cases ht : t' = t
    · subst ht; rw [upd_same, Eff.apply_latest]; exact (hloc t').step hS hl (h1 _)
    · rw [upd_other _ _ _ _ ht]
      refine (hloc t').mono hS ?_ (hl.cfg_le hS (hloc t).write_up) ?_
      · by_cases hc : cl t' = cl t
        · rw [hc, Eff.apply_latest]; exact hl.head_le hS (hloc t).checked
        · rw [Eff.apply_latest_other _ _ _ _ _ _ hc]; exact hS.refl _
      · cases e <;> first | exact id | (intro hh; simp [Eff.log, hasSec_cons, hh])

theorem fullInv_reachable (hS : Sound P le) (h : Reachable P cl presented priv c0 s) :
    FullInv P le cl presented priv s := by
  induction h with
  | init => exact fullInv_init P le hS cl presented priv c0
  | step t r _ hs ih => exact fullInv_step hS ih hs

theorem inv_reachable (hS : Sound P le) (h : Reachable P cl presented priv c0 s) : Inv P le cl presented priv s :=
  (fullInv_reachable hS h).inv

theorem step_latest_mono (hS : Sound P le) (hI : Inv P le cl presented priv s)
    (h : step P cl presented priv s t r = some s') (c : Nat) : le (s.latest c) (s'.latest c) := by
  obtain ⟨l', e, hl, rfl⟩ := (step_iff ..).mp h
  by_cases hc : c = cl t
  · rw [hc, Eff.apply_latest]; exact hl.head_le hS (hI.checked t)
  · rw [Eff.apply_latest_other _ _ _ _ _ _ hc]; exact hS.refl _

theorem step_config (hI : Inv P le cl presented priv s) (h : step P cl presented priv s t r = some s') :
    (s'.config = s.config ∧ s'.writes = s.writes) ∨
    ((s.th t).pc = .writeConfig ∧ (s.th t).cfg = s.config ∧ s'.writes = (s.config, s'.config) :: s.writes ∧
      le (cfgTree P s.config) (cfgTree P s'.config)) := by
  obtain ⟨l', e, hl, rfl⟩ := (step_iff ..).mp h
  cases e
  case cas =>
    obtain ⟨hpc, hc, rfl⟩ := hl.of_cas
    exact .inr ⟨hpc, hc.symm, by rw [hc]; rfl, hc ▸ hI.write_up t hpc⟩
  all_goals exact .inl ⟨rfl, rfl⟩

/-- C13 `fork_rejected` -/
theorem step_fork {o : Outer} (hI : Inv P le cl presented priv s) (hpc : (s.th t).pc = .memCheck o)
    (h : step P cl presented priv s t .fork = some s') :
    s'.config = s.config ∧ s'.latest = s.latest ∧ s'.latestMsg = s.latestMsg ∧ s'.writes = s.writes ∧
    (s'.th t).pc = .done .security ∧
    ∃ older newer, s'.sec = (t, older, newer) :: s.sec ∧ Res.fork ∈ P.chk (cfgTree P older) (cfgTree P newer) ∧
      ((older = (s.th t).msg ∧ newer = (s.th t).latestMsg) ∨ (older = (s.th t).latestMsg ∧ newer = (s.th t).msg)) := by
  obtain ⟨_, hmo, m, hm, hp⟩ := hI.snap t o (Or.inl hpc)
  have e1 : cfgTree P (s.th t).msg = (s.th t).tree := hm ▸ cfgTree_some P m _ hp
  have e2 := cfgTree_of_MsgOf P _ _ hmo
  obtain ⟨l', e, hl, rfl⟩ := (step_iff ..).mp h
  cases hl <;> simp only [hpc, reduceCtorEq] at *
  · exact ⟨rfl, rfl, rfl, rfl, by rw [Eff.apply_th, upd_same], _, _, rfl, by rwa [e1, e2], .inl ⟨rfl, rfl⟩⟩
  · exact ⟨rfl, rfl, rfl, rfl, by rw [Eff.apply_th, upd_same], _, _, rfl, by rwa [e1, e2], .inr ⟨rfl, rfl⟩⟩

theorem step_private (hI : Inv P le cl presented priv s) (hp : priv t = true) (h : step P cl presented priv s t r = some s') :
    s'.config = s.config ∧ s'.latest = s.latest ∧ s'.latestMsg = s.latestMsg ∧ s'.sec = s.sec ∧ s'.writes = s.writes ∧
    (s'.th t).pc = .done .gonosumdb ∧ (s'.th t).ops = 0 := by
  obtain ⟨l', e, hl, rfl⟩ := (step_iff ..).mp h
  obtain ⟨hpc, hops⟩ := hI.private_idle t hp
  obtain ⟨rfl, rfl⟩ := hl.of_entry (hpc.resolve_right (hl.not_done _))
  simp [Eff.apply, hp, hops]

end ModVerif.ClientLatest
