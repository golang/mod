/-
  C09 groundwork on the specification side: contiguous slices of the leaf list and how the RFC 6962 tree hash
  `mth` splits on them, the leaves under a coordinate `(l, k)`, and the 2-adic valuation `tz` as a
  divisibility statement.  (No reference to the store here.)
-/
import ModVerif.Model.Tlog
import ModVerif.Spec.RFC6962
import ModVerif.Proofs.TlogIndex
import ModVerif.Proofs.TlogMerkleSpec
namespace ModVerif.TlogStore
open ModVerif ModVerif.Tlog ModVerif.RFC6962

section
variable {H : Type} (node : H → H → H) (empty : H)

theorem mth_singleton (h : H) : mth node empty [h] = h := RFC6962.mth_singleton node empty h

end

section
variable {α : Type}

def slice (D : List α) (lo hi : Nat) : List α := (D.drop lo).take (hi - lo)

theorem slice_length (D : List α) (lo hi : Nat) (h : hi ≤ D.length) : (slice D lo hi).length = hi - lo := by
  simp [slice, List.length_take, List.length_drop]; omega

theorem take_slice (D : List α) (lo hi k : Nat) (h : lo + k ≤ hi) : (slice D lo hi).take k = slice D lo (lo + k) := by
  simp only [slice, List.take_take]
  congr 1; omega

theorem drop_slice (D : List α) (lo hi k : Nat) : (slice D lo hi).drop k = slice D (lo + k) hi := by
  simp only [slice, List.drop_take, List.drop_drop]
  congr 1; omega

theorem slice_append (D E : List α) (lo hi : Nat) (h : hi ≤ D.length) : slice (D ++ E) lo hi = slice D lo hi := by
  by_cases hlo : lo ≤ hi
  · simp only [slice]
    rw [List.drop_append_of_le_length (by omega), List.take_append_of_le_length]
    rw [List.length_drop]; omega
  · simp only [slice]
    have : hi - lo = 0 := by omega
    rw [this]; simp

theorem slice_zero (D : List α) (m : Nat) : slice D 0 m = D.take m := by simp [slice]

theorem leavesOf_eq_slice (D : List α) (l k : Nat) : leavesOf D l k = slice D (k * 2 ^ l) (k * 2 ^ l + 2 ^ l) := by
  simp only [leavesOf, slice, Nat.add_sub_cancel_left]

theorem slice_one (D : List α) (n : Nat) (h : n < D.length) : slice D n (n + 1) = [D[n]] := by
  simp only [slice]
  rw [show n + 1 - n = 1 by omega]
  rw [List.drop_eq_getElem_cons h]
  rfl

theorem leavesOf_zero (D : List α) (n : Nat) (h : n < D.length) : leavesOf D 0 n = [D[n]] := by
  rw [leavesOf_eq_slice]
  simpa using slice_one D n h

theorem leavesOf_append (D E : List α) (l k : Nat) (h : (k + 1) * 2 ^ l ≤ D.length) :
    leavesOf (D ++ E) l k = leavesOf D l k := by
  rw [leavesOf_eq_slice, leavesOf_eq_slice, slice_append _ _ _ _ (by rw [Nat.add_mul] at h; omega)]

end

section
variable {H : Type} (node : H → H → H) (empty : H)

theorem mth_slice_split (D : List H) (lo hi : Nat) (h : lo + 2 ≤ hi) (h3 : hi ≤ D.length) :
    mth node empty (slice D lo hi) =
      node (mth node empty (slice D lo (lo + splitPoint (hi - lo))))
        (mth node empty (slice D (lo + splitPoint (hi - lo)) hi)) := by
  have hl := slice_length D lo hi h3
  have hs := splitPoint_spec (hi - lo) (by omega)
  rw [mth_split node empty (slice D lo hi) (by omega), hl, take_slice D lo hi _ (by omega), drop_slice]

theorem mth_leavesOf_succ (D : List H) (l k : Nat) (h : (k + 1) * 2 ^ (l + 1) ≤ D.length) :
    mth node empty (leavesOf D (l + 1) k) =
      node (mth node empty (leavesOf D l (2 * k))) (mth node empty (leavesOf D l (2 * k + 1))) := by
  have hp := Nat.two_pow_pos l
  have e1 : k * 2 ^ (l + 1) = 2 * k * 2 ^ l := by rw [Nat.pow_succ]; ac_rfl
  have e2 : 2 ^ (l + 1) = 2 ^ l + 2 ^ l := by rw [Nat.pow_succ]; omega
  have e3 : (2 * k + 1) * 2 ^ l = 2 * k * 2 ^ l + 2 ^ l := by rw [Nat.add_mul]; omega
  have h' : 2 * k * 2 ^ l + 2 ^ (l + 1) ≤ D.length := by rw [← e1, Nat.add_mul] at *; omega
  rw [leavesOf_eq_slice, leavesOf_eq_slice, leavesOf_eq_slice, e1, e3,
    mth_slice_split node empty D _ _ (by omega) h', Nat.add_sub_cancel_left, splitPoint_two_pow, e2, Nat.add_assoc]

end

theorem tz_spec : ∀ m, 0 < m → ∃ q, m = q * 2 ^ tz m ∧ q % 2 = 1 := by
  intro m
  induction m using Nat.strongRecOn with
  | _ m ih =>
    intro hm
    by_cases hodd : m % 2 = 1
    · exact ⟨m, by rw [tz_odd m hodd]; simp, hodd⟩
    · have e : m = 2 * (m / 2) := by omega
      obtain ⟨q, hq1, hq2⟩ := ih (m / 2) (by omega) (by omega)
      refine ⟨q, ?_, hq2⟩
      rw [e, tz_double (m / 2) (by omega), show 1 + tz (m / 2) = tz (m / 2) + 1 by omega, Nat.pow_succ]
      conv => lhs; rw [hq1]
      ac_rfl

theorem two_pow_dvd_of_le_tz (m l : Nat) (hm : 0 < m) (hl : l ≤ tz m) : 2 ^ l ∣ m := by
  obtain ⟨q, hq, _⟩ := tz_spec m hm
  have : 2 ^ l ∣ 2 ^ tz m := Nat.pow_dvd_pow 2 hl
  rw [hq]
  exact Nat.dvd_trans this (Nat.dvd_mul_left _ _)

theorem le_tz_of_two_pow_dvd (m l : Nat) (hm : 0 < m) (hl : 2 ^ l ∣ m) : l ≤ tz m := by
  obtain ⟨c, hc⟩ := hl
  have hcpos : 0 < c := by
    rcases Nat.eq_zero_or_pos c with h | h
    · subst h; omega
    · exact h
  rw [hc, Nat.mul_comm]
  exact le_tz_mul_pow l c hcpos

/-- for `l ≤ tz (n+1)` the low `l` bits of `n` are ones -/
theorem shiftRight_of_le_tz (n l : Nat) (hl : l ≤ tz (n + 1)) : (n >>> l + 1) * 2 ^ l = n + 1 := by
  obtain ⟨c, hc⟩ := two_pow_dvd_of_le_tz (n + 1) l (by omega) hl
  have hp := Nat.two_pow_pos l
  have hcpos : 0 < c := by
    rcases Nat.eq_zero_or_pos c with h | h
    · subst h; omega
    · exact h
  rw [Nat.shiftRight_eq_div_pow]
  have : n / 2 ^ l = c - 1 := by
    apply Nat.div_eq_of_lt_le
    · have : (c - 1) * 2 ^ l + 2 ^ l = c * 2 ^ l := by
        rw [← Nat.add_one_mul]; congr 1; omega
      rw [Nat.mul_comm] at hc; omega
    · rw [Nat.mul_comm] at hc
      rw [show c - 1 + 1 = c by omega]; omega
  rw [this, show c - 1 + 1 = c by omega, Nat.mul_comm]; omega

theorem shiftRight_succ_of_lt_tz (n l : Nat) (hl : l < tz (n + 1)) : n >>> l = 2 * (n >>> (l + 1)) + 1 := by
  have a := shiftRight_of_le_tz n l (by omega)
  have b := shiftRight_of_le_tz n (l + 1) (by omega)
  have hp := Nat.two_pow_pos l
  have : (n >>> l + 1) * 2 ^ l = ((n >>> (l + 1) + 1) * 2) * 2 ^ l := by
    rw [a, ← b, Nat.pow_succ]; ac_rfl
  have := Nat.eq_of_mul_eq_mul_right hp this
  omega

end ModVerif.TlogStore
