/-
  Comment-derived values (`Module.Deprecated`, `Retract.Rationale`): a first-parse fact.

  `parseDirectiveComment` reads the comments of the enclosing BLOCK (`Before` and `Suffix`) for a block line that
  has no comments of its own.  The re-parse of the formatted text moves an end-of-line comment of the block node
  to its `)` (`normBlockE`), so the block's `Suffix` list must be shown to be irrelevant: in every parsed tree a
  block that carries an end-of-line comment itself has NO LINES (it is the one-line block `x ( ) // c`).

  Why: the token after a newline or end-of-line-comment token is the end-of-input token or starts on a later source line
  (the input consumed up to the end of such a token ends with a newline byte, or is the whole input); so a block built
  by `parseLineBlock` starts on an earlier source line than its `)` (only the `x ( )` special case of `parseStmt`, which
  has no lines, is a one-line block); and `assignComments` gives the block node a comment only if it starts and ends on
  the same source line.
-/
import ModVerif.Proofs.ModfileEolSlots
namespace ModVerif.Proofs.ModfileFmtCom
open ModVerif ModVerif.Modfile ModVerif.Proofs.ModfileLex
open ModVerif.Proofs.ModfileFmtLex ModVerif.Proofs.ModfileFmtTree ModVerif.Proofs.ModfileFmtMain
open ModVerif.Proofs.ModfilePos ModVerif.Proofs.ModfileC20 ModVerif.Proofs.ModfileEol ModVerif.Proofs.ModfileRun

theorem count_take_le (l : Bytes) (n : Nat) : (l.take n).count 10 ≤ l.count 10 :=
  (List.take_sublist n l).count_le 10

theorem eol_next_line {data : Bytes} {j i : Input} (hj : Reach data j) (hk : j.token.kind.isEOL = true)
    (hne : j.token.kind ≠ .eof) (h : readToken j = .ok i) :
    i.token.kind = .eof ∨ j.token.pos.line < i.token.pos.line := by
  have ht := reach_tokOK2 hj
  rcases (reach_rlay hj).eol (Or.inl hk) with ⟨a, ha⟩ | hd
  · right
    have hf := ht.facts
    have hlt : j.token.pos.byte < j.token.endPos.byte := by
      cases hkk : j.token.kind with
      | eof => exact absurd hkk hne
      | eolComment => exact tok_bytes_lt_comment hj (by rw [hkk]; rfl)
      | punct c => have := punct_end hj c hkk; omega
      | ident => rw [hkk] at hk; cases hk
      | string => rw [hkk] at hk; cases hk
      | comment => rw [hkk] at hk; cases hk
    rw [← ht.endPos] at ha
    have hle := hf.«end».1.le
    have hlen : j.token.endPos.byte = a.length + 1 := by
      have := congrArg List.length ha
      simp only [List.length_take, List.length_append, List.length_cons, List.length_nil] at this
      omega
    have h1 : data.take j.token.pos.byte = a.take j.token.pos.byte := by
      have : data.take j.token.pos.byte = (data.take j.token.endPos.byte).take j.token.pos.byte := by
        rw [List.take_take, Nat.min_eq_left (by omega)]
      rw [this, ha, List.take_append_of_le_length (by omega)]
    have h2 := step_line_le hj h
    have h3 := count_take_le a j.token.pos.byte
    rw [hf.start.1.line, h1]
    rw [hf.«end».1.line, ha, List.count_append] at h2
    simp only [List.count_cons_self, List.count_nil] at h2
    omega
  · left
    apply readToken_at_eof _ h
    rw [← drop_pos ht.inv.base]; exact hd

variable {data : Bytes}

theorem Lx.mono {i i1 : Input} (hx : Lx data i i1) : i.token.pos.line ≤ i1.token.pos.line := by
  have := Lx.ln hx; omega

theorem PLine.mono {i : Input} {s e : Position} {acc : List Bytes} {l : Line} {i' : Input}
    (h : PLine (Lx data) (Lx data) i s e acc l i') : i.token.pos.line ≤ i'.token.pos.line := by
  induction h with
  | @eol i i1 _ _ _ hx _ => exact (Lx.mono hx : _ ≤ i1.token.pos.line)
  | tok hx _ _ ih => have := Lx.mono hx; omega

/-- `n`: the source line of the block header -/
theorem Lx.span {i i1 : Input} (hx : Lx data i i1) {n : Nat} (hle : n ≤ i.token.pos.line) :
    n ≤ i1.token.pos.line ∧
      (i.token.kind.isEOL = true → i.token.kind ≠ .eof → (n < i1.token.pos.line ∨ i1.token.kind.isEOL = true)) ∧
      (n < i.token.pos.line → n < i1.token.pos.line) := by
  have hb := Lx.mono hx
  refine ⟨by omega, fun hk hne => ?_, fun h => by omega⟩
  rcases eol_next_line hx.inv hk hne hx.step with h1 | h1
  · right; rw [h1]; rfl
  · left; omega

/-- `hor`: the loop is entered at the end-of-line token after `(`, or already below the header line -/
theorem PBlock.span {i : Input} {x : LineBlock} {ls : List Line} {cs : List Comment} {b : LineBlock} {i' : Input}
    (h : PBlock (Lx data) (Lx data) i x ls cs b i') (hle : x.start.line ≤ i.token.pos.line)
    (hor : x.start.line < i.token.pos.line ∨ i.token.kind.isEOL = true) : b.start.line < b.rparen.pos.line := by
  induction h with
  | eolComment hk hx _ ih =>
    obtain ⟨h2, h3, _⟩ := Lx.span hx hle
    exact ih h2 (h3 (by rw [hk]; rfl) (by rw [hk]; simp))
  | blank hk hx _ ih =>
    obtain ⟨h2, h3, _⟩ := Lx.span hx hle
    exact ih h2 (h3 (by rw [hk]; rfl) (by rw [hk]; simp))
  | comment hk hx _ ih =>
    obtain ⟨h2, _, h4⟩ := Lx.span hx hle
    exact ih h2 (Or.inl (h4 (hor.resolve_right (by rw [hk]; simp [TokKind.isEOL]))))
  | close hk _ _ _ => exact hor.resolve_right (by rw [hk]; simp [TokKind.isEOL])
  | @line i i1 i2 x ls cs l b i' hn1 hn2 _ hn4 _ hx _ hl _ ih =>
    have hlt : x.start.line < i.token.pos.line := by
      refine hor.resolve_right fun h0 => ?_
      cases hkk : i.token.kind with
      | eof => exact hn4 hkk
      | eolComment => exact hn1 hkk
      | punct c =>
        rw [hkk] at h0
        simp only [TokKind.isEOL, beq_iff_eq] at h0
        subst h0
        exact hn2 hkk
      | ident => rw [hkk] at h0; cases h0
      | string => rw [hkk] at h0; cases h0
      | comment => rw [hkk] at h0; cases h0
    have := Lx.mono hx
    have := PLine.mono hl
    exact ih (by omega) (Or.inl (by omega))

def BlkLn : Expr → Prop
  | .lineBlock b => b.lines = [] ∨ b.start.line < b.rparen.pos.line
  | _ => True

theorem PStmt.span {i : Input} {s e : Position} {acc : List Bytes} {x : Expr} {i' : Input}
    (h : PStmt (Lx data) (Lx data) i s e acc x i') (h1 : s.line ≤ i.token.pos.line) : BlkLn x := by
  induction h with
  | eol _ _ => trivial
  | @block i i1 s _ _ _ _ hx _ he hb =>
    exact Or.inr (PBlock.span hb (by have := Lx.mono hx; show s.line ≤ _; omega) (Or.inr he))
  | empty _ _ _ _ _ _ => exact Or.inl rfl
  | parens hx _ _ hx2 _ _ ih => have := Lx.mono hx; have := Lx.mono hx2; exact ih (by omega)
  | lparen hx _ _ _ _ ih | tok hx _ _ _ ih => have := Lx.mono hx; exact ih (by omega)

theorem blkLn_setComments (x : Expr) (c : Comments) (h : BlkLn x) : BlkLn (x.setComments c) := by
  cases x with
  | line l => trivial
  | lineBlock b => exact h
  | commentBlock _ => trivial
  | lparen _ => trivial
  | rparen _ => trivial

theorem parseFile_blockLn {stmts : List Expr} {i : Input} (h : parseFile data = .ok (stmts, i)) :
    ∀ s ∈ stmts, BlkLn s := by
  obtain ⟨i0, _, hrun, _⟩ := parseFile_reach h
  exact PFile.all (fun _ => trivial) blkLn_setComments (fun hx hs => PStmt.span hs (Lx.mono hx)) hrun
    (by intro s hs; cases hs)

def BlockSuf : Expr → Prop
  | .lineBlock b => b.comments.suffix ≠ [] → b.lines = []
  | _ => True

theorem postStmt_blockSuf (s : Expr) (suf : List Comment) (hs : NoSuf s) (hb : BlkLn s) : BlockSuf (postStmt s suf).1 := by
  cases s with
  | lineBlock b =>
    obtain ⟨hb1, _, _, _⟩ := hs
    simp only [postStmt, BlockSuf]
    intro hne
    have hspan := assignSuffix_span (Expr.lineBlock b).span b.comments suf hb1 hne
    have hspan' : b.start.line = b.rparen.pos.line := hspan
    rcases hb with h0 | h0
    · rw [h0]; rfl
    · omega
  | line l => trivial
  | commentBlock x => trivial
  | lparen x => trivial
  | rparen x => trivial

theorem postStmtsRev_blockSuf : ∀ (ss : List Expr) (suf : List Comment), (∀ s ∈ ss, NoSuf s) → (∀ s ∈ ss, BlkLn s) →
    ∀ s ∈ (postStmtsRev ss suf).1, BlockSuf s := by
  intro ss
  induction ss with
  | nil => intro _ _ _ s hs; cases hs
  | cons s0 ss ih =>
    intro suf hno hb s hs
    simp only [postStmtsRev] at hs
    rcases List.mem_cons.1 hs with rfl | hs
    · exact postStmt_blockSuf s0 suf (hno s0 (by simp)) (hb s0 (by simp))
    · exact ih _ (fun s' h' => hno s' (by simp [h'])) (fun s' h' => hb s' (by simp [h'])) s hs

theorem parse_blockSuf {name x : Bytes} {t : FileSyntax} (h : parse name x = .ok t) : ∀ s ∈ t.stmts, BlockSuf s := by
  unfold parse at h
  cases hp : parseFile x with
  | error e => simp [hp, bind, Except.bind] at h
  | ok v =>
    obtain ⟨stmts, i⟩ := v
    simp only [hp, bind, Except.bind, Except.ok.injEq] at h
    obtain ⟨hwf, hsfx⟩ := ModfileFmtEmits.parseFile_wf' x stmts i hp
    have hln := parseFile_blockLn hp
    have hfl : (i.commentsRev.reverse.filter (fun c => !c.suffix)) = [] := by
      rw [List.filter_eq_nil_iff]
      intro c hc
      simp [hsfx c (by simpa using hc)]
    unfold assignComments at h
    simp only [hfl, assignBefore_nil, preStmts_nil] at h
    subst h
    dsimp only
    have hno : ∀ s ∈ stmts.reverse, NoSuf s := fun s hs => wf_noSuf (hwf s (by simpa using hs))
    intro s hs
    have hs' : s ∈ (postStmtsRev stmts.reverse (i.commentsRev.reverse.filter (fun c => c.suffix)).reverse).1 := by
      simpa using hs
    exact postStmtsRev_blockSuf _ _ hno (fun s' h' => hln s' (by simpa using h')) s hs'

end ModVerif.Proofs.ModfileFmtCom
