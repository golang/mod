/- Helper lemmas for C18: incDecimal / decDecimal on digit strings. -/
import ModVerif.Proofs.PseudoSemver
import ModVerif.Proofs.SemverNumeric
namespace ModVerif.Proofs.Pseudo
open ModVerif ModVerif.PseudoSpec
open ModVerif.Pseudo hiding isDigit isAlnum

theorem forall_uint8 {P : UInt8 → Prop} (h : ∀ f : Fin 256, P ⟨⟨f⟩⟩) : ∀ c, P c := fun ⟨⟨f⟩⟩ => h f

theorem isDigit_eq : Pseudo.isDigit = PseudoSpec.isDigit := rfl
theorem isDigit_eq' : Semver.isDigit = PseudoSpec.isDigit := rfl
theorem isAlnum_eq : Pseudo.isAlnum = PseudoSpec.isAlnum := rfl

theorem digit_range : ∀ c : UInt8, isDigit c = true → 48 ≤ c.toNat ∧ c.toNat ≤ 57 :=
  forall_uint8 (by decide +kernel)

theorem digit_succ : ∀ c : UInt8, isDigit c = true → (c == 57) = false →
    isDigit (c + 1) = true ∧ (c + 1).toNat = c.toNat + 1 ∧ c + 1 ≠ 48 ∧ ((c + 1 == 48) = false)
      ∧ c + 1 - 1 = c ∧ ((c + 1 == 49) = true → c = 48) :=
  forall_uint8 (by decide +kernel)

theorem digit_nine : ∀ c : UInt8, (c == 57) = true → c = 57 := forall_uint8 (by decide +kernel)

theorem decValue_replicate_zero : ∀ n, decValue (List.replicate n 48) = 0
  | 0 => rfl
  | n + 1 => by simp [List.replicate_succ, decValue, decValue_replicate_zero n]

theorem decValue_replicate_nine : ∀ n, decValue (List.replicate n 57) + 1 = 10 ^ n
  | 0 => rfl
  | n + 1 => by
    have ih := decValue_replicate_nine n
    simp [List.replicate_succ, decValue]
    rw [Nat.pow_succ]; omega

theorem decAux_zeros : ∀ n, decAux (List.replicate n 48) = (List.replicate n 57, true)
  | 0 => rfl
  | n + 1 => by simp [List.replicate_succ, decAux, decAux_zeros n]

theorem decVal_eq_decValue : ∀ d : Bytes, Semver.decVal d = decValue d
  | [] => rfl
  | c :: cs => by rw [Semver.decVal, decValue, decVal_eq_decValue cs]

theorem incAux_spec : ∀ cs : Bytes, (∀ c ∈ cs, isDigit c = true) →
    ((incAux cs).2 = true → cs = List.replicate cs.length 57 ∧ (incAux cs).1 = List.replicate cs.length 48) ∧
    ((incAux cs).2 = false →
        (incAux cs).1.length = cs.length ∧ (∀ c ∈ (incAux cs).1, isDigit c = true) ∧
        decValue (incAux cs).1 = decValue cs + 1 ∧
        ((incAux cs).1.head? ≠ some 48 ∨ (incAux cs).1.head? = cs.head?) ∧
        decAux (incAux cs).1 = (cs, false))
  | [], _ => by simp [incAux]
  | c :: cs, h => by
    have hc : isDigit c = true := h c (by simp)
    have hcs : ∀ x ∈ cs, isDigit x = true := fun x hx => h x (by simp [hx])
    have ih := incAux_spec cs hcs
    cases hcarry : (incAux cs).2 with
    | true =>
      obtain ⟨e1, e2⟩ := ih.1 hcarry
      cases h9 : (c == 57) with
      | true =>
        have : c = 57 := digit_nine c h9
        subst this
        have hs : incAux (57 :: cs) = (48 :: (incAux cs).1, true) := by simp [incAux, hcarry]
        rw [hs]
        refine ⟨fun _ => ?_, fun hf => by simp at hf⟩
        simp only [List.length_cons, List.replicate_succ]
        exact ⟨by rw [← e1], by rw [← e2]⟩
      | false =>
        have hs : incAux (c :: cs) = ((c + 1) :: (incAux cs).1, false) := by simp [incAux, hcarry, h9]
        rw [hs]
        obtain ⟨d1, d2, d3, d5, d6, _⟩ := digit_succ c hc h9
        have hr := digit_range c hc
        refine ⟨fun hf => by simp at hf, fun _ => ?_⟩
        refine ⟨by simp [e2], ?_, ?_, Or.inl (by simp [d3]), ?_⟩
        · intro x hx
          rcases List.mem_cons.mp hx with rfl | hx
          · exact d1
          · rw [e2] at hx; rw [List.eq_of_mem_replicate hx]; decide
        · have e9 := decValue_replicate_nine cs.length
          rw [← e1] at e9
          simp only [decValue, d2]
          rw [e2, decValue_replicate_zero, List.length_replicate]
          have : (c.toNat + 1 - 48) = (c.toNat - 48) + 1 := by omega
          rw [this, Nat.add_mul]; omega
        · simp only [decAux]
          rw [e2, decAux_zeros]
          simp [d5, d6, ← e1]
    | false =>
      obtain ⟨f1, f2, f3, f5, f6⟩ := ih.2 hcarry
      have hs : incAux (c :: cs) = (c :: (incAux cs).1, false) := by simp [incAux, hcarry]
      rw [hs]
      refine ⟨fun hf => by simp at hf, fun _ => ?_⟩
      refine ⟨by simp [f1], ?_, ?_, Or.inr (by simp), ?_⟩
      · intro x hx
        rcases List.mem_cons.mp hx with rfl | hx
        · exact hc
        · exact f2 x hx
      · simp only [decValue, f1, f3]; omega
      · simp [decAux, f6]

theorem incDecimal_isSome {d : Bytes} (hne : d ≠ []) : ∃ r, incDecimal d = some r := by
  unfold incDecimal
  cases hc : (incAux d).2 with
  | true =>
    cases hr : (incAux d).1 with
    | nil =>
      exfalso
      cases d with
      | nil => exact hne rfl
      | cons c cs =>
        simp only [incAux] at hr
        revert hr
        cases (incAux cs) with
        | mk r b => cases b <;> simp <;> split <;> simp
    | cons x t =>
      refine ⟨49 :: t ++ [48], ?_⟩
      have : incAux d = (x :: t, true) := by rw [← hr, ← hc]
      simp [this]
  | false =>
    refine ⟨(incAux d).1, ?_⟩
    have : incAux d = ((incAux d).1, false) := by rw [← hc]
    rw [this]; simp

theorem incDecimal_num {d : Bytes} (hd : Num d) :
    ∃ r, incDecimal d = some r ∧ Num r ∧ decValue r = decValue d + 1 ∧
      Semver.compareInt d r = -1 ∧ decDecimal r = d := by
  suffices h : ∃ r, incDecimal d = some r ∧ Num r ∧ decValue r = decValue d + 1 ∧ decDecimal r = d by
    obtain ⟨r, h1, h2, h3, h4⟩ := h
    refine ⟨r, h1, h2, h3, ?_, h4⟩
    -- semver compares numbers by value
    rw [Semver.compareInt_numeric ((num_iff d).mp hd) ((num_iff r).mp h2), decVal_eq_decValue, decVal_eq_decValue, h3]
    simp [natCmp]
  obtain ⟨hne, hdig, hlead⟩ := hd
  have sp := incAux_spec d hdig
  unfold incDecimal
  cases hc : (incAux d).2 with
  | true =>
    obtain ⟨e1, e2⟩ := sp.1 hc
    cases d with
    | nil => exact absurd rfl hne
    | cons c cs =>
      simp only [List.length_cons, List.replicate_succ] at e1 e2
      have hst : incAux (c :: cs) = (48 :: List.replicate cs.length 48, true) := by rw [← e2, ← hc]
      refine ⟨49 :: List.replicate cs.length 48 ++ [48], by simp [hst], ?_, ?_, ?_⟩
      · refine ⟨by simp, ?_, Or.inr (by simp)⟩
        intro x hx
        simp at hx
        rcases hx with rfl | ⟨_, rfl⟩ | rfl <;> decide
      · have e9 := decValue_replicate_nine (cs.length + 1)
        rw [List.replicate_succ, ← e1] at e9
        have : (49 :: List.replicate cs.length 48 ++ [48] : Bytes) = 49 :: List.replicate (cs.length + 1) 48 := by
          simp [List.replicate_succ']
        rw [this]
        simp only [decValue, decValue_replicate_zero, List.length_replicate]
        rw [← e9]; simp [decValue]
      · have : (49 :: List.replicate cs.length 48 ++ [48] : Bytes) = 49 :: List.replicate (cs.length + 1) 48 := by
          simp [List.replicate_succ']
        rw [this]
        simp only [decDecimal, decAux_zeros]
        simp
        exact e1.symm
  | false =>
    obtain ⟨f1, f2, f3, f5, f6⟩ := sp.2 hc
    have hst : incAux d = ((incAux d).1, false) := by rw [← hc]
    refine ⟨(incAux d).1, by rw [hst]; simp, ⟨?_, f2, ?_⟩, f3, ?_⟩
    · intro h; rw [h] at f1; simp at f1; exact hne (List.eq_nil_of_length_eq_zero f1.symm)
    · rcases f5 with h | h
      · exact Or.inr h
      · rcases hlead with rfl | hl
        · left; simp [incAux] at *
        · exact Or.inr (by rw [h]; exact hl)
    · -- decDecimal (incAux d).1 = d
      cases d with
      | nil => exact absurd rfl hne
      | cons c cs =>
        have hcD : isDigit c = true := hdig c (by simp)
        have hcs : ∀ x ∈ cs, isDigit x = true := fun x hx => hdig x (by simp [hx])
        have sp' := incAux_spec cs hcs
        cases hc' : (incAux cs).2 with
        | true =>
          obtain ⟨e1, e2⟩ := sp'.1 hc'
          cases h9 : (c == 57) with
          | true => simp [incAux, hc', h9] at hc
          | false =>
            obtain ⟨_, _, _, d5, d6, d7⟩ := digit_succ c hcD h9
            have hs : incAux (c :: cs) = ((c + 1) :: (incAux cs).1, false) := by simp [incAux, hc', h9]
            rw [hs]
            simp only [decDecimal]
            rw [e2, decAux_zeros]
            simp only [d5]
            cases h1 : (c + 1 == 49) with
            | true =>
              have hc48 : c = 48 := d7 h1
              rcases hlead with hl | hl
              · simp at hl; obtain ⟨_, rfl⟩ := hl; simp [d6]
              · simp [hc48] at hl
            | false => simp [d6, ← e1]
        | false =>
          obtain ⟨g1, g2, g3, g5, g6⟩ := sp'.2 hc'
          have hs : incAux (c :: cs) = (c :: (incAux cs).1, false) := by simp [incAux, hc']
          rw [hs]
          simp [decDecimal, g6]

/-- semver compares numbers by value, and only equal strings compare equal -/
theorem num_unique {a b : Bytes} (ha : Num a) (hb : Num b) (hv : decValue a = decValue b) : a = b := by
  have := Semver.compareInt_numeric ((num_iff a).mp ha) ((num_iff b).mp hb)
  rw [decVal_eq_decValue, decVal_eq_decValue, hv, natCmp_strict.refl] at this
  exact (Semver.compareInt_strict.eq_iff a b).mp this

end ModVerif.Proofs.Pseudo
