/-
  Tie proofs for sumdb/tlog/tile.go: the representation maps between the generated `Tile` (Int fields,
  `L = -1` for data tiles) and the model `Tile` (Nat fields and a `data` flag), `tileParent`, `tileForIndex`.
  The tie theorems themselves are in `Tie/FnTile.lean`.
-/
import ModVerif.Generated.FnTile
import ModVerif.Model.Tile
import ModVerif.Proofs.GoRtLemmasTile
import ModVerif.Proofs.TieFnTlogInt
import ModVerif.Proofs.TileAuthArith
import ModVerif.Proofs.TileAuthTile
namespace ModVerif.TieFnTile
open ModVerif ModVerif.GoRt ModVerif.GoRtTile

abbrev GTile := Generated.Tile.Tile

/-- the model tile as a tile of the generated code (`data` tiles have `L = -1`) -/
def toGen (t : Tile.Tile) : GTile :=
  { H := (t.h : Int), L := if t.data then -1 else (t.l : Int), N := (t.n : Int), W := (t.w : Int) }

/-- a tile of the generated code as a model tile (`L = -1` is the data flag, then `l = 0`) -/
def ofGen (t : GTile) : Tile.Tile :=
  if t.L = -1 then { h := t.H.toNat, l := 0, n := t.N.toNat, w := t.W.toNat, data := true }
  else { h := t.H.toNat, l := t.L.toNat, n := t.N.toNat, w := t.W.toNat }

theorem toGen_zero : toGen Tile.Tile.zero = (default : GTile) := rfl

theorem ofGen_toGen (t : Tile.Tile) (hd : t.data = true → t.l = 0) : ofGen (toGen t) = t := by
  obtain ⟨h, l, n, w, d⟩ := t
  cases d
  · have : ¬ ((l : Int) = -1) := by omega
    simp [toGen, ofGen, this]
  · simp only [forall_const] at hd
    subst hd
    simp [toGen, ofGen]

theorem toGen_ofGen (t : GTile) (hH : 0 ≤ t.H) (hL : -1 ≤ t.L) (hN : 0 ≤ t.N) (hW : 0 ≤ t.W) : toGen (ofGen t) = t := by
  obtain ⟨H, L, N, W⟩ := t
  simp only at hH hL hN hW
  by_cases h : L = -1
  · subst h
    simp [toGen, ofGen]
    omega
  · have : 0 ≤ L := by omega
    simp [toGen, ofGen, h]
    omega

theorem toGen_inj (t u : Tile.Tile) (ht : t.data = false) (hu : u.data = false) (h : toGen t = toGen u) : t = u := by
  obtain ⟨a, b, c, d, e⟩ := t
  obtain ⟨a', b', c', d', e'⟩ := u
  simp only at ht hu
  subst ht hu
  simp only [toGen, Bool.false_eq_true, ↓reduceIte, Generated.Tile.Tile.mk.injEq] at h
  obtain ⟨h1, h2, h3, h4⟩ := h
  simp only [Tile.Tile.mk.injEq, and_true]
  omega

/-! ### slices, indexes and counters of the generated code on natural numbers -/

theorem len_map {α β : Type} (f : α → β) (l : List α) : len (l.map f) = ((l.length : Nat) : Int) := by simp [len]

/-- the loop test `i < len(l)` -/
theorem natCast_lt_len {α : Type} (l : List α) (i : Nat) : ((i : Int) < len l) ↔ i < l.length := by simp [len]

theorem idxL_map {α β : Type} (f : α → β) {l : List α} {i : Nat} (h : i < l.length) :
    idxL (l.map f) (i : Int) = .ok (f l[i]) := by
  rw [idxL_natCast (by simpa using h)]; simp

/-- `i++` -/
theorem chk64_succ {i : Nat} (h : i + 1 < 2 ^ 63) : chk64 ((i : Int) + 1) = .ok ((i + 1 : Nat) : Int) := chk64_natCast h

/-- `i--` (possibly to `-1`, the end of a downward loop) -/
theorem chk64_pred {m : Nat} (h : m < 2 ^ 63) : chk64 ((m : Int) - 1) = .ok ((m : Int) - 1) := by
  apply chk64_ok <;> omega

/-- filling slot `len(pre)` of a pre-allocated slice -/
theorem setIdxL_fill {α : Type} (pre : List α) (d : Nat) (z v : α) :
    setIdxL (pre ++ List.replicate (d + 1) z) (pre.length : Int) v = .ok (pre ++ [v] ++ List.replicate d z) := by
  rw [setIdxL_natCast (by simp)]
  congr 1
  rw [List.set_append_right _ _ (Nat.le_refl _), Nat.sub_self, List.replicate_succ, List.set_cons_zero]
  simp

/-! ### tileParent -/

/-- `tileParent`, natural-number form.  The range hypotheses say exactly that no int64 intermediate overflows:
    `t.L + k`, `k * t.H`, `t.L * t.H` (new `L`), `t.N<<H + W` (new `N`, full width) and `n` are int64 values. -/
theorem tileParent_eq (t : Tile.Tile) (k n : Nat) (hd : t.data = false)
    (h1 : t.l + k < 2 ^ 63) (h2 : k * t.h < 2 ^ 63) (h3 : (t.l + k) * t.h < 2 ^ 63)
    (h4 : (t.n >>> (k * t.h) + 1) * 2 ^ t.h < 2 ^ 63) (hn : n < 2 ^ 63) :
    Generated.Tile.tileParent (toGen t) (k : Int) (n : Int) = .ok (toGen (Tile.tileParent t k n)) := by
  obtain ⟨th, tl, tn, tw, td⟩ := t
  simp only at hd h1 h2 h3 h4
  subst hd
  have e2 : (k : Int) * (th : Int) = ((k * th : Nat) : Int) := by simp
  have e3 : ((tl + k : Nat) : Int) * (th : Int) = (((tl + k) * th : Nat) : Int) := by simp
  unfold Tile.tileParent
  simp only [Nat.shiftLeft_eq]
  rw [Nat.add_mul, Nat.one_mul] at h4
  have hM63 : n >>> ((tl + k) * th) < 2 ^ 63 := by
    rw [Nat.shiftRight_eq_div_pow]
    exact Nat.lt_of_le_of_lt (Nat.div_le_self _ _) hn
  generalize hKH : k * th = KH at h2 e2 h4
  generalize hLH : (tl + k) * th = LH at h3 e3 hM63
  generalize hA : tn >>> KH = A at h4
  generalize hM : n >>> LH = M at hM63
  have hth : th < 63 := by
    apply Nat.lt_of_not_le; intro hc
    have : 2 ^ 63 ≤ 2 ^ th := Nat.pow_le_pow_right (by omega) hc
    have : 0 ≤ A * 2 ^ th := Nat.zero_le _
    omega
  have e4 : ∀ a b : Nat, (a : Int) + (b : Int) = ((a + b : Nat) : Int) := by intro a b; omega
  generalize hP : 2 ^ th = P at h4
  generalize hAP : A * P = AP at h4
  simp only [Generated.Tile.tileParent, toGen, Bool.false_eq_true, ↓reduceIte, e4, chk64_natCast h1, mbind_ok, e2,
    chk64_natCast h2, toU64_natCast (show KH < 2 ^ 64 by omega), shr_natCast, hA, hM,
    toU64_natCast (show th < 2 ^ 64 by omega), shl_one_natCast, hP, chk64_natCast (show P < 2 ^ 63 by omega), e3, chk64_natCast h3,
    toU64_natCast (show LH < 2 ^ 64 by omega), shl_natCast, hAP, chk64_natCast (show AP < 2 ^ 63 by omega),
    chk64_natCast (show AP + P < 2 ^ 63 by omega)]
  by_cases c1 : AP + P ≥ M
  · have c1' : (((AP + P : Nat) : Int) ≥ (M : Int)) := by omega
    by_cases c2 : AP ≥ M
    · have c2' : (((AP : Nat) : Int) ≥ (M : Int)) := by omega
      simp only [c1, c1', c2, c2', decide_true, ↓reduceIte, mpure, Tile.Tile.zero]
      rfl
    · have c2' : ¬ (((AP : Nat) : Int) ≥ (M : Int)) := by omega
      have e5 : (M : Int) - ((AP : Nat) : Int) = ((M - AP : Nat) : Int) := by omega
      simp only [c1, c1', c2, c2', decide_true, decide_false, Bool.false_eq_true, ↓reduceIte, e5,
        chk64_natCast (show M - AP < 2 ^ 63 by omega), mbind_ok, mpure]
  · have c1' : ¬ (((AP + P : Nat) : Int) ≥ (M : Int)) := by omega
    simp only [c1, c1', decide_false, Bool.false_eq_true, ↓reduceIte, mpure]

/-! ### tileForIndex -/

theorem split_bound (x l k : Nat) (hx : x < 2 ^ 63) (hs : Tlog.splitStoredHashIndex x = .ok (l, k)) :
    (k + 1) * 2 ^ l ≤ x + 1 := by
  have h1 := TlogStore.storedHashIndex_split x l k hx hs
  rw [Tlog.storedHashIndex_eq] at h1
  have h2 := TlogStore.le_S ((k + 1) * 2 ^ l - 1)
  omega

/-- the int64 range of the intermediate values of `tileForIndex`: with `A = n << level`, `B = (A >> h) << h`,
    `C = B >> level` (level `r ≤ lv` inside the tile) everything is bounded by `(k + 1) * 2^lv` -/
theorem tfi_bounds (k lv r h x : Nat) (hr : r ≤ lv) (hb : (k + 1) * 2 ^ lv ≤ x + 1) (hx : x + 1 < 2 ^ 63) :
    lv < 63 ∧ ((k * 2 ^ r) >>> h) * 2 ^ h ≤ k * 2 ^ r ∧ k * 2 ^ r < 2 ^ 63 ∧ (((k * 2 ^ r) >>> h) * 2 ^ h) >>> r ≤ k ∧
      (k - (((k * 2 ^ r) >>> h) * 2 ^ h) >>> r + 1) * 2 ^ r ≤ x + 1 ∧
      (k - (((k * 2 ^ r) >>> h) * 2 ^ h) >>> r) * 2 ^ r ≤ (k - (((k * 2 ^ r) >>> h) * 2 ^ h) >>> r + 1) * 2 ^ r := by
  have hpr : 2 ^ r ≤ 2 ^ lv := Nat.pow_le_pow_right (by omega) hr
  have hk1 : (k + 1) * 2 ^ r ≤ (k + 1) * 2 ^ lv := Nat.mul_le_mul_left _ hpr
  have hBA : ((k * 2 ^ r) >>> h) * 2 ^ h ≤ k * 2 ^ r := by
    rw [Nat.shiftRight_eq_div_pow]; exact Nat.div_mul_le_self _ _
  have hCk : (((k * 2 ^ r) >>> h) * 2 ^ h) >>> r ≤ k := by
    rw [Nat.shiftRight_eq_div_pow (_ * _)]
    exact Nat.le_trans (Nat.div_le_div_right hBA) (Nat.le_of_eq (Nat.mul_div_cancel _ (Nat.two_pow_pos r)))
  have hW : (k - (((k * 2 ^ r) >>> h) * 2 ^ h) >>> r + 1) * 2 ^ r ≤ (k + 1) * 2 ^ r := Nat.mul_le_mul_right _ (Nat.succ_le_succ (Nat.sub_le _ _))
  refine ⟨?_, hBA, ?_, hCk, by omega, Nat.mul_le_mul_right _ (Nat.le_succ _)⟩
  · apply Nat.lt_of_not_le; intro hc
    have : 2 ^ 63 ≤ 2 ^ lv := Nat.pow_le_pow_right (by omega) hc
    have : 1 * 2 ^ lv ≤ (k + 1) * 2 ^ lv := Nat.mul_le_mul_right _ (by omega)
    omega
  · rw [Nat.add_mul] at hk1; omega

/-- the model's answer in the result type of the generated `tileForIndex` (byte offsets = hash offsets × HashSize);
    a model error (only `h = 0`: division by zero) is a panic -/
def tfiOut : Except Tlog.Err (Tile.Tile × Nat × Nat) → M (GTile × Int × Int)
  | .ok (t, s, e) => .ok (toGen t, ((32 * s : Nat) : Int), ((32 * e : Nat) : Int))
  | .error _ => .error .panic

/-- `tileForIndex(h, x)` for `h ≥ 0`, `0 ≤ x ≤ MaxInt64 - 1`, and `h ≤ 57` or `x < 2^57` (otherwise the byte offsets
    `… * HashSize` overflow int64: they are at most `2^h * 32` and at most `(x + 1) * 32`). -/
theorem tileForIndex_eq (fuel h x : Nat) (hx : x + 1 < 2 ^ 63) (hh : h < 2 ^ 63) (hr : h ≤ 57 ∨ x < 2 ^ 57) (hf : 64 ≤ fuel) :
    Generated.Tile.tileForIndex fuel (h : Int) (x : Int) = tfiOut (Tile.tileForIndex h x) := by
  obtain ⟨lv, k, hs⟩ := TlogStore.split_total x (by omega)
  have hb := split_bound x lv k (by omega) hs
  have hsplit := TieFnTlogInt.SplitStoredHashIndex_eq fuel x hx hf
  rw [hs] at hsplit
  simp only [TieFnTlogInt.splitOut] at hsplit
  by_cases h0 : h = 0
  · subst h0
    simp only [Generated.Tile.tileForIndex, hsplit, mbind_ok, Int.natCast_zero, quo_zero, mbind_error]
    simp [Tile.tileForIndex, tfiOut]
  · have hpos : 0 < h := by omega
    have hcl := TileAuth.tileForIndex_eq h x lv k hpos hs
    have hmod : Tile.tileForIndex h x = .ok
        ({ h := h, l := lv / h, n := (k <<< (lv - lv / h * h)) >>> h,
           w := (k - (((k <<< (lv - lv / h * h)) >>> h) <<< h) >>> (lv - lv / h * h) + 1) <<< (lv - lv / h * h) },
          (k - (((k <<< (lv - lv / h * h)) >>> h) <<< h) >>> (lv - lv / h * h)) <<< (lv - lv / h * h),
          (k - (((k <<< (lv - lv / h * h)) >>> h) <<< h) >>> (lv - lv / h * h) + 1) <<< (lv - lv / h * h)) := by
      unfold Tile.tileForIndex
      have hne : (h == 0) = false := by simp; omega
      simp only [hne, Bool.false_eq_true, ↓reduceIte, hs, bind, Except.bind, pure, Except.pure]
    rw [hmod] at hcl
    simp only [Except.ok.injEq, Prod.mk.injEq, Tile.Tile.mk.injEq, true_and, and_true] at hcl
    obtain ⟨⟨hNeq, hWeq⟩, hSeq, _⟩ := hcl
    rw [hmod]
    clear hmod
    simp only [tfiOut, toGen, Bool.false_eq_true, ↓reduceIte, Nat.shiftLeft_eq] at hNeq hWeq hSeq ⊢
    -- every intermediate value of the code is at most `(k + 1) * 2^lv ≤ x + 1`
    have hts := TileAuth.ts_le h lv k hpos
    simp only [TileAuth.ts] at hts
    have hmodr : lv % h = lv - lv / h * h := by
      have := Nat.div_add_mod lv h
      rw [Nat.mul_comm] at this
      omega
    simp only [hmodr] at hts hWeq
    obtain ⟨hlv63, hBA, hA63, hCk, hWx, hSW⟩ := tfi_bounds k lv (lv - lv / h * h) h x (Nat.sub_le _ _) hb hx
    have hLh : lv / h * h < 2 ^ 63 := Nat.lt_of_le_of_lt (Nat.le_trans (Nat.div_mul_le_self lv h) (Nat.le_of_lt hlv63)) (by decide)
    have hr63 : lv - lv / h * h < 63 := Nat.lt_of_le_of_lt (Nat.sub_le _ _) hlv63
    clear hmodr
    generalize hR : lv - lv / h * h = r at *
    generalize hA : k * 2 ^ r = A at *
    generalize hB : (A >>> h) * 2 ^ h = B at *
    generalize hC : B >>> r = C at *
    generalize hW : (k - C + 1) * 2 ^ r = W at *
    generalize hS : (k - C) * 2 ^ r = S at *
    have hW63 : W < 2 ^ 63 := Nat.lt_of_le_of_lt hWx hx
    have hW32 : 32 * W < 2 ^ 63 := by
      rcases hr with hr | hr
      · have : 2 ^ h ≤ 2 ^ 57 := Nat.pow_le_pow_right (by omega) hr
        rw [hWeq, Nat.add_mul, Nat.one_mul]
        omega
      · omega
    have hkC : k - C + 1 < 2 ^ 63 :=
      Nat.lt_of_le_of_lt (hW ▸ Nat.le_mul_of_pos_right _ (Nat.two_pow_pos r)) hW63
    have e1 : ((lv / h : Nat) : Int) * (h : Int) = ((lv / h * h : Nat) : Int) := (Int.natCast_mul _ _).symm
    have e2 : (lv : Int) - ((lv / h * h : Nat) : Int) = ((lv - lv / h * h : Nat) : Int) :=
      (Int.ofNat_sub (Nat.div_mul_le_self lv h)).symm
    have e3 : (k : Int) - (C : Int) = ((k - C : Nat) : Int) := (Int.ofNat_sub hCk).symm
    have e4 : ((k - C : Nat) : Int) + 1 = ((k - C + 1 : Nat) : Int) := rfl
    have e5 : (W : Int) * 32 = ((32 * W : Nat) : Int) := by rw [Int.natCast_mul, Int.mul_comm]; rfl
    have e6 : (S : Int) * 32 = ((32 * S : Nat) : Int) := by rw [Int.natCast_mul, Int.mul_comm]; rfl
    simp only [Generated.Tile.tileForIndex, hsplit, mbind_ok, quo_natCast lv h h0, e1, chk64_natCast hLh, e2, hR,
      chk64_natCast (Nat.lt_trans hr63 (by decide)), toU64_natCast (Nat.lt_trans hr63 (by decide)), shl_natCast, hA,
      chk64_natCast hA63, toU64_natCast (show h < 2 ^ 64 by omega), shr_natCast, hB, chk64_natCast (Nat.lt_of_le_of_lt hBA hA63),
      hC, e3, chk64_natCast (Nat.lt_of_succ_lt hkC), e4, chk64_natCast hkC, hW, chk64_natCast hW63, hS,
      chk64_natCast (Nat.lt_of_le_of_lt hSW hW63), e5, e6, chk64_natCast hW32,
      chk64_natCast (Nat.lt_of_le_of_lt (Nat.mul_le_mul_left 32 hSW) hW32), mpure]

end ModVerif.TieFnTile
