/-
  C02, end-of-line comments: formatting a well-shaped tree WITH end-of-line comments and parsing the result.

  `parse name (format f)` succeeds and yields `f` in normal form (`normFileE`): positions / identities erased, every
  comment text trimmed, the comment of a one-line block `x ( ) // c` moved from the block to its `)`; every end-of-line
  comment is re-attached to the node it was printed after (`reparse_ewf`).  The normal form of a well-shaped tree is
  well-shaped and renders to the same bytes; hence `Format` is idempotent on such trees (`format_idem_ewf`).
-/
import ModVerif.Proofs.ModfileEolAssign
namespace ModVerif.Proofs.ModfileEol
open ModVerif ModVerif.Modfile ModVerif.Proofs.ModfileLex
open ModVerif.Proofs.ModfileFmtLex ModVerif.Proofs.ModfileFmtLine ModVerif.Proofs.ModfileFmtStream
open ModVerif.Proofs.ModfileFmtTree ModVerif.Proofs.ModfileFmtParse ModVerif.Proofs.ModfileFmtRender
open ModVerif.Proofs.ModfileFmtMain ModVerif.Proofs.ModfileFmtTrim

def zidF (f : FileSyntax) : FileSyntax := { f with stmts := f.stmts.map zidE }

theorem preLines_zid : ∀ (ls : List Line) (line : List Comment),
    preLines (ls.map zidL) line = ((preLines ls line).1.map zidL, (preLines ls line).2) := by
  intro ls
  induction ls with
  | nil => intro _; rfl
  | cons l ls ih =>
    intro line
    simp only [List.map_cons, preLines]
    rw [show (zidL l).start = l.start from rfl, show (zidL l).comments = l.comments from rfl, ih]
    rfl

theorem postLinesRev_zid : ∀ (ls : List Line) (suf : List Comment),
    postLinesRev (ls.map zidL) suf = ((postLinesRev ls suf).1.map zidL, (postLinesRev ls suf).2) := by
  intro ls
  induction ls with
  | nil => intro _; rfl
  | cons l ls ih =>
    intro suf
    simp only [List.map_cons, postLinesRev]
    rw [show (zidL l).start = l.start from rfl, show (zidL l).comments = l.comments from rfl,
      show (zidL l).«end» = l.«end» from rfl, ih]
    rfl

theorem zidE_span (s : Expr) : (zidE s).span = s.span := by
  cases s <;> rfl

theorem zidE_comments (s : Expr) : (zidE s).comments = s.comments := by
  cases s <;> rfl

theorem preStmt_zid (s : Expr) (line : List Comment) :
    preStmt (zidE s) line = (zidE (preStmt s line).1, (preStmt s line).2) := by
  cases s with
  | lineBlock b =>
    simp only [zidE, preStmt]
    rw [preLines_zid]
  | commentBlock x => rfl
  | line x => rfl
  | lparen x => rfl
  | rparen x => rfl

theorem postStmt_zid (s : Expr) (suf : List Comment) :
    postStmt (zidE s) suf = (zidE (postStmt s suf).1, (postStmt s suf).2) := by
  cases s with
  | lineBlock b =>
    simp only [zidE, postStmt, Expr.span]
    rw [← List.map_reverse, postLinesRev_zid]
    simp [List.map_reverse]
  | commentBlock x => rfl
  | line x => rfl
  | lparen x => rfl
  | rparen x => rfl

theorem preStmts_zid : ∀ (ss : List Expr) (line : List Comment),
    preStmts (ss.map zidE) line = ((preStmts ss line).1.map zidE, (preStmts ss line).2) := by
  intro ss
  induction ss with
  | nil => intro _; rfl
  | cons s ss ih =>
    intro line
    simp only [List.map_cons, preStmts]
    rw [preStmt_zid, ih]

theorem postStmtsRev_zid : ∀ (ss : List Expr) (suf : List Comment),
    postStmtsRev (ss.map zidE) suf = ((postStmtsRev ss suf).1.map zidE, (postStmtsRev ss suf).2) := by
  intro ss
  induction ss with
  | nil => intro _; rfl
  | cons s ss ih =>
    intro suf
    simp only [List.map_cons, postStmtsRev]
    rw [postStmt_zid, ih]

theorem span_zid (f : FileSyntax) : (zidF f).span = f.span := by
  unfold FileSyntax.span zidF
  simp only [List.head?_map, List.getLast?_map]
  cases f.stmts.head? <;> cases f.stmts.getLast? <;> simp [zidE_span]

theorem assignComments_zid (f : FileSyntax) (cs : List Comment) :
    zidF (assignComments f cs) = assignComments (zidF f) cs := by
  unfold assignComments
  rw [span_zid]
  simp only [zidF]
  rw [preStmts_zid, ← List.map_reverse, postStmtsRev_zid]
  simp [List.map_reverse]

def normBlockE (b : LineBlock) : LineBlock :=
  { comments := { before := b.comments.before.map normC, suffix := [], after := b.comments.after.map normC },
    start := {}, lparen := { comments := normCs b.lparen.comments, pos := {} },
    token := b.token, lines := b.lines.map normLine,
    rparen := { comments := { before := b.rparen.comments.before.map normC,
                              suffix := (b.rparen.comments.suffix ++ b.comments.suffix).map normC,
                              after := b.rparen.comments.after.map normC }, pos := {} } }

def normExprE : Expr → Expr
  | .lineBlock b => .lineBlock (normBlockE b)
  | s => normExpr s

def normFileE (f : FileSyntax) : FileSyntax :=
  { name := f.name, comments := normCs f.comments, stmts := f.stmts.map normExprE }

theorem eraseC_befC (m : Nat) : ∀ (cs : List Comment) (R : Bytes) {D : Bytes}, (∀ c ∈ cs, c.suffix = false) →
    (befC D m cs R).map eraseC = cs.map normC := by
  intro cs
  induction cs with
  | nil => intro _ _ _; rfl
  | cons c cs ih =>
    intro R D h
    simp only [befC, List.map_cons, ih R (fun c' hc' => h c' (by simp [hc']))]
    congr 1
    have hs := h c (by simp)
    split
    · rename_i he
      have : GoStrings.trimSpace c.token = [] := by simpa using he
      simp [eraseC, normC, this, hs]
    · simp [eraseC, normC, hs]

theorem eraseC_sufC {D : Bytes} (cs : List Comment) (R : Bytes) (h : SufOK cs) :
    (sufC D cs R).map eraseC = cs.map normC := by
  rcases sufOK_cases h with rfl | ⟨c, rfl, _, hs⟩
  · rfl
  · simp [sufC, eraseC, normC, hs]

theorem blkBefore_suffix : ∀ (cs : List Comment) (allow : Bool), BlkBeforeOK allow cs → ∀ c ∈ cs, c.suffix = false := by
  intro cs
  induction cs with
  | nil => intro _ _ c hc; simp at hc
  | cons c0 cs ih =>
    intro allow h c hc
    unfold BlkBeforeOK at h
    by_cases he : c0.token.isEmpty = true
    · simp only [he, if_true] at h
      rcases List.mem_cons.1 hc with rfl | hc
      · exact h.2.1
      · exact ih false h.2.2 c hc
    · simp only [he, Bool.false_eq_true, if_false] at h
      rcases List.mem_cons.1 hc with rfl | hc
      · exact h.1
      · exact ih true h.2.2 c hc

theorem erase_aLines {D : Bytes} : ∀ (ls : List Line) (allow : Bool) (Z : Bytes), EWFBlkLines allow ls →
    (aLines D ls Z).map eraseLine = ls.map normLine := by
  intro ls
  induction ls with
  | nil => intro _ _ _; rfl
  | cons l ls ih =>
    intro allow Z hwf
    obtain ⟨hl, hls⟩ := hwf
    simp only [aLines, List.map_cons, ih true Z hls]
    congr 1
    simp only [eraseLine, normLine, eraseCs, normCs, List.map_nil, hl.after, hl.inBlock,
      eraseC_befC 1 _ _ (blkBefore_suffix _ _ hl.before), eraseC_sufC _ _ hl.suffix]

theorem erase_aStmt {D : Bytes} (s : Expr) (R : Bytes) (hwf : EWFStmt s) : eraseExpr (aStmt D s R) = normExprE s := by
  cases s with
  | commentBlock x =>
    obtain ⟨_, hb, hs, ha⟩ := hwf
    simp only [aStmt, eStmt, eraseExpr, normExprE, normExpr, eraseCs, normCs, List.map_nil, hs, ha,
      eraseC_befC 0 _ _ (fun c hc => (hb c hc).1)]
  | line l =>
    have hwf : EWFLine l := hwf
    simp only [aStmt, eraseExpr, normExprE, normExpr, eraseLine, normLine, eraseCs, normCs, List.map_nil,
      hwf.after, hwf.inBlock, eraseC_befC 0 _ _ (fun c hc => (hwf.before c hc).1), eraseC_sufC _ _ hwf.suffix]
  | lineBlock b =>
    have hwf : EWFBlock b := hwf
    simp only [aStmt, eraseExpr, normExprE, eraseBlock, normBlockE, eraseCs, normCs, List.map_nil,
      hwf.after, hwf.lbefore, hwf.lafter, hwf.rafter, erase_aLines b.lines false _ hwf.lines,
      eraseC_befC 0 _ _ (fun c hc => (hwf.before c hc).1),
      eraseC_befC 0 _ _ (blkBefore_suffix _ _ hwf.rbefore), eraseC_sufC _ _ hwf.lsuffix,
      eraseC_sufC _ _ hwf.rsuffix, rsOf]
  | lparen x => exact absurd hwf id
  | rparen x => exact absurd hwf id

theorem erase_aStmts {D : Bytes} : ∀ (ss : List Expr), EWFStmts ss → (aStmts D ss).map eraseExpr = ss.map normExprE := by
  intro ss
  induction ss with
  | nil => intro _; rfl
  | cons s rest ih =>
    intro hwf
    rw [aStmts_cons]
    simp only [List.map_cons, erase_aStmt s _ (hwf s (by simp)), ih (fun x hx => hwf x (by simp [hx]))]

theorem eraseExpr_zid (s : Expr) : eraseExpr (zidE s) = eraseExpr s := by
  cases s with
  | lineBlock b => simp [zidE, eraseExpr, eraseBlock, eraseLine, zidL]
  | line l => simp [zidE, eraseExpr, eraseLine, zidL]
  | commentBlock x => rfl
  | lparen x => rfl
  | rparen x => rfl

/-- ★ end-of-line stage (iii) (`Props.C02.reparse_positions`) -/
theorem parseFile_rendered (f : FileSyntax) (hwf : EWFStmts f.stmts) (hc : f.comments.before = []) :
    format f = stmtsB f.stmts ∧
    ∃ out i', parseFile (format f) = .ok (out, i') ∧ out.map zidE = eStmts (format f) f.stmts ∧
      i'.commentsRev.reverse = stmtsC (format f) f.stmts := by
  have hfmt : format f = stmtsB f.stmts := by rw [format_eq_rStmtsE f hwf hc, ← stmtsB_eq f.stmts hwf]
  refine ⟨hfmt, ?_⟩
  obtain ⟨D, hD⟩ : ∃ D, D = format f := ⟨_, rfl⟩
  rw [← hD]
  have hD' : D = stmtsB f.stmts := by rw [hD, hfmt]
  have hlex := lexesE_stmts (D := D) f.stmts hwf
  rw [← hD'] at hlex
  obtain ⟨i0, hr0, _, hc0, hS0⟩ := hlex (newInput D) (si_newInput D) rfl (newInput_lineStart D)
  obtain ⟨out, i', hrun, hout, hcr⟩ := parseFileLoop_E f.stmts i0 [] hwf hS0
  refine ⟨out, i', ModfileRun.parseFile_of_run hr0 (by simpa using hrun), hout, ?_⟩
  · -- the recorded comments
    rw [hcr, ← recs_stmtsT f.stmts hwf]
    unfold fut
    rw [hc0]
    have hne := hS0.ne_nil
    cases hT : stmtsT D f.stmts with
    | nil => exact absurd hT hne
    | cons t0 T =>
      rw [hT] at hS0
      have : i0.token = t0 := hS0.tok
      simp [newInput, recs, this]

/-- ★ Clause 1 of C02 for ANY well-shaped tree, parsed or not; the `format_parse_syntax_*` theorems are its instances at
    parsed trees. -/
theorem reparse_ewf (name : Bytes) (f : FileSyntax) (hwf : EWFStmts f.stmts) (hnl : ∀ s ∈ f.stmts, NlOK s)
    (hc : f.comments.before = []) :
    ∃ t', parse name (format f) = .ok t' ∧
      eraseFile t' = { name := name, comments := {}, stmts := f.stmts.map normExprE } := by
  obtain ⟨hfmt, out, i', hres, hout, hcomm⟩ := parseFile_rendered f hwf hc
  obtain ⟨D, hD⟩ : ∃ D, D = format f := ⟨_, rfl⟩
  rw [← hD] at hres hout hcomm ⊢
  have hD' : D = stmtsB f.stmts := by rw [hD, hfmt]
  -- comment assignment
  have hassign := assign_reattach (D := D) name f.stmts hwf hnl hD'
  have hz := assignComments_zid { name := name, stmts := out } (stmtsC D f.stmts)
  have hzf : zidF { name := name, stmts := out } = { name := name, stmts := eStmts D f.stmts } := by
    simp [zidF, hout]
  rw [hzf, hassign] at hz
  refine ⟨assignComments { name := name, stmts := out } (stmtsC D f.stmts), ?_, ?_⟩
  · unfold parse
    simp only [hres, bind, Except.bind, hcomm]
  · generalize assignComments { name := name, stmts := out } (stmtsC D f.stmts) = t' at hz
    have h1 : t'.name = name := by
      have := congrArg FileSyntax.name hz
      simpa [zidF] using this
    have h2 : t'.comments = {} := by
      have := congrArg FileSyntax.comments hz
      simpa [zidF] using this
    have h3 : t'.stmts.map zidE = aStmts D f.stmts := by
      have := congrArg FileSyntax.stmts hz
      simpa [zidF] using this
    have h4 : t'.stmts.map eraseExpr = f.stmts.map normExprE := by
      rw [← erase_aStmts f.stmts hwf, ← h3, List.map_map]
      apply List.map_congr_left
      intro s _
      exact (eraseExpr_zid s).symm
    simp only [eraseFile, h1, h2, h4]
    rfl

open ModVerif ModVerif.Modfile ModVerif.Proofs.ModfileLex
open ModVerif.Proofs.ModfileFmtLex ModVerif.Proofs.ModfileFmtLine ModVerif.Proofs.ModfileFmtStream
open ModVerif.Proofs.ModfileFmtTree ModVerif.Proofs.ModfileFmtParse ModVerif.Proofs.ModfileFmtRender
open ModVerif.Proofs.ModfileFmtMain ModVerif.Proofs.ModfileFmtTrim

theorem sufOK_erase (cs : List Comment) : SufOK (cs.map eraseC) ↔ SufOK cs := by
  simp [SufOK, eraseC]

theorem rSuf_erase (cs : List Comment) : rSuf (cs.map eraseC) = rSuf cs := by
  cases cs with
  | nil => rfl
  | cons c r => cases r <;> simp [rSuf, eraseC]

theorem ewfBlkLine_erase (allow : Bool) (l : Line) : EWFBlkLine allow (eraseLine l) → EWFBlkLine allow l := by
  intro h
  exact ⟨h.ne, h.tok, h.first, (blkBeforeOK_erase _ _).1 h.before, (sufOK_erase _).1 h.suffix,
    by simpa [eraseLine, eraseCs] using h.after, h.inBlock⟩

theorem ewfBlkLines_erase : ∀ (ls : List Line) (allow : Bool), EWFBlkLines allow (ls.map eraseLine) → EWFBlkLines allow ls := by
  intro ls
  induction ls with
  | nil => intro _ _; trivial
  | cons l ls ih => intro allow h; exact ⟨ewfBlkLine_erase _ _ h.1, ih true h.2⟩

theorem ewfStmt_erase (s : Expr) : EWFStmt (eraseExpr s) → EWFStmt s := by
  cases s with
  | commentBlock x =>
    simp only [eraseExpr, EWFStmt, eraseCs, topBeforeOK_erase]
    simp
  | line l =>
    intro h
    have h : EWFLine (eraseLine l) := h
    exact (⟨h.ne, h.tok, h.tail, (topBeforeOK_erase _).1 h.before, (sufOK_erase _).1 h.suffix,
      by simpa [eraseLine, eraseCs] using h.after, h.inBlock⟩ : EWFLine l)
  | lineBlock b =>
    intro h
    have h : EWFBlock (eraseBlock b) := h
    refine (⟨h.ne, h.tok, (topBeforeOK_erase _).1 h.before, by simpa [eraseBlock, eraseCs] using h.after,
      by simpa [eraseBlock, eraseCs] using h.lbefore, (sufOK_erase _).1 h.lsuffix,
      by simpa [eraseBlock, eraseCs] using h.lafter, ewfBlkLines_erase _ _ h.lines, ?_, ?_,
      by simpa [eraseBlock, eraseCs] using h.rafter⟩ : EWFBlock b)
    · have := h.rbefore
      simp only [eraseBlock, List.isEmpty_map] at this
      exact (blkBeforeOK_erase _ _).1 this
    · have := h.rsuffix
      simp only [eraseBlock, eraseCs, ← List.map_append] at this
      exact (sufOK_erase _).1 this
  | lparen x => simp [eraseExpr, EWFStmt]
  | rparen x => simp [eraseExpr, EWFStmt]

theorem rStmtE_erase (s : Expr) : rStmtE (eraseExpr s) = rStmtE s := by
  cases s with
  | commentBlock x => simp [eraseExpr, rStmtE, eraseCs, rBefore_erase]
  | line l => simp [eraseExpr, rStmtE, eraseLine, eraseCs, rBefore_erase, rSuf_erase]
  | lineBlock b =>
    have : (b.lines.map eraseLine).flatMap rLineE = b.lines.flatMap rLineE := by
      rw [List.flatMap_map]
      congr 1
      funext l
      simp [rLineE, eraseLine, eraseCs, rBefore_erase, rSuf_erase]
    simp only [eraseExpr, rStmtE, rBlockE, eraseBlock, eraseCs, rBefore_erase, rSuf_erase, this,
      ← List.map_append]
  | lparen x => rfl
  | rparen x => rfl

theorem rStmtsE_congr : ∀ (a b : List Expr), a.map rStmtE = b.map rStmtE → rStmtsE a = rStmtsE b := by
  intro a
  induction a with
  | nil => intro b h; cases b <;> simp_all [rStmtsE]
  | cons x xs ih =>
    intro b h
    cases b with
    | nil => simp at h
    | cons y ys =>
      simp only [List.map_cons, List.cons.injEq] at h
      have := ih ys h.2
      cases xs with
      | nil =>
        cases ys with
        | nil => simp [rStmtsE, h.1]
        | cons _ _ => simp at h
      | cons x2 xs2 =>
        cases ys with
        | nil => simp at h
        | cons y2 ys2 => simp only [rStmtsE] at this ⊢; rw [h.1, this]

theorem rSuf_norm (cs : List Comment) : rSuf (cs.map normC) = rSuf cs := by
  cases cs with
  | nil => rfl
  | cons c r => cases r <;> simp [rSuf, normC, trimSpace_idem]

theorem rStmtE_normE (s : Expr) : rStmtE (normExprE s) = rStmtE s := by
  cases s with
  | commentBlock x => simp [normExprE, normExpr, rStmtE, normCs, rBefore_norm]
  | line l => simp [normExprE, normExpr, rStmtE, normLine, normCs, rBefore_norm, rSuf_norm]
  | lineBlock b =>
    have : (b.lines.map normLine).flatMap rLineE = b.lines.flatMap rLineE := by
      rw [List.flatMap_map]
      congr 1
      funext l
      simp [rLineE, normLine, normCs, rBefore_norm, rSuf_norm]
    simp only [normExprE, rStmtE, rBlockE, normBlockE, normCs, rBefore_norm, rSuf_norm, this, List.append_nil]
  | lparen x => rfl
  | rparen x => rfl

theorem sufOK_norm {cs : List Comment} (h : SufOK cs) : SufOK (cs.map normC) := by
  refine ⟨by simpa using h.1, ?_⟩
  intro c hc
  obtain ⟨c0, hc0, rfl⟩ := List.mem_map.1 hc
  exact ⟨normC_ok (h.2 c0 hc0).1, (h.2 c0 hc0).2⟩

theorem ewfBlkLines_norm : ∀ (ls : List Line) (allow : Bool), EWFBlkLines allow ls → EWFBlkLines allow (ls.map normLine) := by
  intro ls
  induction ls with
  | nil => intro _ _; trivial
  | cons l ls ih =>
    intro allow h
    refine ⟨?_, ih true h.2⟩
    have hl := h.1
    exact ⟨hl.ne, hl.tok, hl.first, blkBeforeOK_norm _ _ hl.before, sufOK_norm hl.suffix,
      by simp [normLine, normCs, hl.after], hl.inBlock⟩

theorem ewfStmt_normE {s : Expr} (h : EWFStmt s) : EWFStmt (normExprE s) := by
  cases s with
  | commentBlock x =>
    obtain ⟨h1, h2, h3, h4⟩ := h
    exact ⟨by simpa [normCs] using h1, topBeforeOK_norm h2, by simp [normCs, h3], by simp [normCs, h4]⟩
  | line l =>
    have h : EWFLine l := h
    exact (⟨h.ne, h.tok, h.tail, topBeforeOK_norm h.before, sufOK_norm h.suffix,
      by simp [normLine, normCs, h.after], h.inBlock⟩ : EWFLine (normLine l))
  | lineBlock b =>
    have h : EWFBlock b := h
    refine (⟨h.ne, h.tok, topBeforeOK_norm h.before, by simp [normBlockE, h.after],
      by simp [normBlockE, normCs, h.lbefore], sufOK_norm h.lsuffix, by simp [normBlockE, normCs, h.lafter],
      ewfBlkLines_norm _ _ h.lines, ?_, ?_, by simp [normBlockE, h.rafter]⟩ : EWFBlock (normBlockE b))
    · simp only [normBlockE, List.isEmpty_map]
      exact blkBeforeOK_norm _ _ h.rbefore
    · simp only [normBlockE, List.append_nil]
      exact sufOK_norm h.rsuffix
  | lparen x => exact absurd h id
  | rparen x => exact absurd h id

/-- a line of the normal form carries an end-of-line comment iff the original line does -/
theorem nlOK_normE {s : Expr} (h : NlOK s) : NlOK (normExprE s) := by
  cases s with
  | commentBlock x => trivial
  | line l =>
    intro hne
    exact h (by intro he; apply hne; simp [normLine, normCs, he])
  | lineBlock b =>
    intro l hl
    simp only [normBlockE, List.mem_map] at hl
    obtain ⟨l0, hl0, rfl⟩ := hl
    intro hne
    exact h l0 hl0 (by intro he; apply hne; simp [normLine, normCs, he])
  | lparen x => trivial
  | rparen x => trivial

theorem nlOK_erase (s : Expr) (h : NlOK (eraseExpr s)) : NlOK s := by
  cases s with
  | commentBlock x => trivial
  | line l =>
    intro hne
    exact h (by intro he; apply hne; simpa [eraseLine, eraseCs] using he)
  | lineBlock b =>
    intro l hl
    intro hne
    exact h (eraseLine l) (by simp only [eraseBlock]; exact List.mem_map_of_mem hl)
      (by intro he; apply hne; simpa [eraseLine, eraseCs] using he)
  | lparen x => trivial
  | rparen x => trivial

theorem reparse_shape (f t' : FileSyntax) (hwf : EWFStmts f.stmts) (hnl : ∀ s ∈ f.stmts, NlOK s) (name : Bytes)
    (he : eraseFile t' = { name := name, comments := {}, stmts := f.stmts.map normExprE }) :
    EWFStmts t'.stmts ∧ (∀ s ∈ t'.stmts, NlOK s) ∧ t'.comments = {} := by
  have hs : t'.stmts.map eraseExpr = f.stmts.map normExprE := by
    have := congrArg FileSyntax.stmts he
    simpa [eraseFile] using this
  have hcm : eraseCs t'.comments = {} := by
    have := congrArg FileSyntax.comments he
    simpa [eraseFile] using this
  refine ⟨?_, ?_, ?_⟩
  · intro s hs'
    apply ewfStmt_erase
    have : eraseExpr s ∈ t'.stmts.map eraseExpr := List.mem_map_of_mem hs'
    rw [hs] at this
    obtain ⟨s0, hs0, heq⟩ := List.mem_map.1 this
    rw [← heq]
    exact ewfStmt_normE (hwf s0 hs0)
  · intro s hs'
    apply nlOK_erase
    have : eraseExpr s ∈ t'.stmts.map eraseExpr := List.mem_map_of_mem hs'
    rw [hs] at this
    obtain ⟨s0, hs0, heq⟩ := List.mem_map.1 this
    rw [← heq]
    exact nlOK_normE (hnl s0 hs0)
  · cases hc : t'.comments
    rw [hc] at hcm
    simp only [eraseCs, Comments.mk.injEq, List.map_eq_nil_iff] at hcm
    obtain ⟨h1, h2, h3⟩ := hcm
    subst h1 h2 h3
    rfl

/-- ★ clause 2 of C02 for any well-shaped tree -/
theorem format_idem_ewf (name : Bytes) (f : FileSyntax) (hwf : EWFStmts f.stmts) (hnl : ∀ s ∈ f.stmts, NlOK s)
    (hc : f.comments.before = []) (t' : FileSyntax) (h : parse name (format f) = .ok t') : format t' = format f := by
  obtain ⟨t2, h2, he⟩ := reparse_ewf name f hwf hnl hc
  rw [h] at h2
  have : t' = t2 := by cases h2; rfl
  subst this
  obtain ⟨hwf2, _, hc2⟩ := reparse_shape f t' hwf hnl name he
  rw [format_eq_rStmtsE t' hwf2 (by rw [hc2]), format_eq_rStmtsE f hwf hc]
  apply rStmtsE_congr
  have hs : t'.stmts.map eraseExpr = f.stmts.map normExprE := by
    have := congrArg FileSyntax.stmts he
    simpa [eraseFile] using this
  have h1 : t'.stmts.map rStmtE = (t'.stmts.map eraseExpr).map rStmtE := by
    simp [List.map_map, Function.comp_def, rStmtE_erase]
  rw [h1, hs]
  simp [List.map_map, Function.comp_def, rStmtE_normE]

end ModVerif.Proofs.ModfileEol
