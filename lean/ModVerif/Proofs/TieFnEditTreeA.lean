/-
  Helper lemmas for Tie/FnEditTree.lean: the leaf and simple tree functions of the regenerated edit operations
  (Generated/FnEdit.lean) as equations on the heap: `commentsAdd`, `stringsAdd`, `Line_markRemoved`,
  `FileSyntax_updateLine`, `isIndirect`, `Require_markRemoved`, `Require_setVersion`, `Require_setIndirect`.
  The line object the function works on is `lineG l` for a model line `l` (every line object of a represented heap is one,
  `FnEditRep.LinesG`); the result heap is `setLineH h p (g l)` with `g` the model's line function.
-/
import ModVerif.Proofs.TieFnEditRep
import ModVerif.Proofs.GoRtLemmasModfile
namespace ModVerif.Tie.FnEditTreeA
open ModVerif ModVerif.GoRt ModVerif.Generated.Edit ModVerif.Tie.FnEditRep

theorem B_indirect : B "indirect" = [105, 110, 100, 105, 114, 101, 99, 116] := by decide +kernel
theorem B_indirectSemi : B "indirect;" = [105, 110, 100, 105, 114, 101, 99, 116, 59] := by decide +kernel
theorem B_indirectTok : Modfile.Edit.indirectTok = [47, 47, 32, 105, 110, 100, 105, 114, 101, 99, 116] := by decide +kernel
theorem B_indirectLong : B "// indirect; " = [47, 47, 32, 105, 110, 100, 105, 114, 101, 99, 116, 59, 32] := by decide +kernel

theorem commentsAdd_eq (x y : List Comment) : commentsAdd x y = .ok (x ++ y) := by
  simp [commentsAdd, bind, Except.bind, pure, Except.pure]

theorem stringsAdd_eq (x y : List Bytes) : stringsAdd x y = .ok (x ++ y) := by
  simp [stringsAdd, bind, Except.bind, pure, Except.pure]

/-- the model's line function of `markRemoved` -/
def markRemovedLine (l : Modfile.Line) : Modfile.Line := { l with token := [], comments := { l.comments with suffix := [] } }

theorem markRemoved_eq (fs : Modfile.FileSyntax) (id : Nat) : Modfile.Edit.markRemoved fs id = fs.updateLine id markRemovedLine := rfl

theorem Line_markRemoved_eq {h : Heap} {p : Int} {l : Modfile.Line} (hg : heapGet h.lines p = .ok (lineG l)) :
    Line_markRemoved p h = .ok ((), setLineH h p (markRemovedLine l)) := by
  have h1 := heapSet_of_get ({ (lineG l) with Token := [] } : Line) hg
  have h2 := heapGet_listSet_same ({ (lineG l) with Token := [] } : Line) hg
  simp only [Line_markRemoved, hg, h1, bind, Except.bind, pure, Except.pure, h2]
  rw [heapSet_of_get _ h2]
  simp [setLineH, lineG, Drv.GenEdit.comsG, markRemovedLine]

theorem Line_markRemoved_nil {h : Heap} {p : Int} (hp : p ≤ 0) : Line_markRemoved p h = .error .panic := by
  simp only [Line_markRemoved, heapGet_nil _ hp, bind, Except.bind]

/-- the model's line function of `updateLine` -/
def updateTokLine (tokens : List Bytes) (l : Modfile.Line) : Modfile.Line :=
  { l with token := if l.inBlock then tokens.drop 1 else tokens }

theorem updateLine_eq (fs : Modfile.FileSyntax) (id : Nat) (tokens : List Bytes) :
    Modfile.Edit.updateLine fs id tokens = fs.updateLine id (updateTokLine tokens) := rfl

theorem FileSyntax_updateLine_eq {h : Heap} {x p : Int} {l : Modfile.Line} {tokens : List Bytes}
    (hg : heapGet h.lines p = .ok (lineG l)) (ht : l.inBlock = true → tokens ≠ []) :
    FileSyntax_updateLine x p tokens h = .ok ((), setLineH h p (updateTokLine tokens l)) := by
  unfold FileSyntax_updateLine
  simp only [hg, bind, Except.bind, pure, Except.pure, lineG_InBlock]
  cases hb : l.inBlock with
  | false =>
    simp only [Bool.false_eq_true, if_false]
    rw [heapSet_of_get _ hg]; simp [setLineH, updateTokLine, hb, lineG]
  | true =>
    obtain ⟨t0, ts, rfl⟩ := List.exists_cons_of_ne_nil (ht hb)
    simp only [if_true, sliceFrom_one_cons]
    rw [heapSet_of_get _ hg]; simp [setLineH, updateTokLine, hb, lineG]

/-- Go's `tokens[1:]` on an empty token list for a line inside a block -/
theorem FileSyntax_updateLine_panic {h : Heap} {x p : Int} {l : Modfile.Line}
    (hg : heapGet h.lines p = .ok (lineG l)) (hb : l.inBlock = true) :
    FileSyntax_updateLine x p [] h = .error .panic := by
  unfold FileSyntax_updateLine
  simp only [hg, bind, Except.bind, pure, Except.pure, lineG_InBlock, hb, if_true]
  rfl

theorem FileSyntax_updateLine_nil {h : Heap} {x p : Int} (tokens : List Bytes) (hp : p ≤ 0) :
    FileSyntax_updateLine x p tokens h = .error .panic := by
  simp only [FileSyntax_updateLine, heapGet_nil _ hp, bind, Except.bind]

theorem isIndirect_eq {h : Heap} {p : Int} {l : Modfile.Line} (hg : heapGet h.lines p = .ok (lineG l)) :
    isIndirect p h = .ok (Modfile.isIndirect l, h) := by
  unfold isIndirect Modfile.isIndirect
  simp only [hg, bind, Except.bind, pure, Except.pure, lineG_Comments, comsG_Suffix]
  rcases l with ⟨id, ⟨bef, suf, aft⟩, st, tok, ib, en⟩
  cases suf with
  | nil => simp
  | cons c rest =>
    have h0 : idxL (List.map comG (c :: rest)) 0 = .ok (comG c) := rfl
    have hl : ¬ (len (List.map comG (c :: rest)) = 0) := by simp [len_eq, -len_cons]; omega
    simp only [h0, hl, decide_false, Bool.false_eq_true, if_false]
    have e : GoStrings.fields (GoStrings.trimPrefix c.token [47, 47]) = GoRt.fields (GoRt.trimPrefix (comG c).Token [47, 47]) := rfl
    rw [e]
    generalize GoRt.fields (GoRt.trimPrefix (comG c).Token [47, 47]) = F
    rcases F with _ | ⟨a, _ | ⟨b, t⟩⟩
    · simp [len_eq]
    · by_cases ha : a = [105, 110, 100, 105, 114, 101, 99, 116] <;> simp [len_eq, idxL_zero_cons, B_indirect, ha]
    · have h2 : ¬ ((t.length : Int) + 1 + 1 = 1) := by omega
      have h3 : ((t.length : Int) + 1 + 1 > 1) := by omega
      by_cases ha : a = [105, 110, 100, 105, 114, 101, 99, 116, 59] <;> simp [len_eq, idxL_zero_cons, B_indirectSemi, h2, h3, ha]

theorem isIndirect_nil {h : Heap} {p : Int} (hp : p ≤ 0) : isIndirect p h = .error .panic := by
  simp only [isIndirect, heapGet_nil _ hp, bind, Except.bind]

theorem Require_markRemoved_eq {h : Heap} {r : Int} {rq : Modfile.Require} {l : Modfile.Line}
    (hr : heapGet h.requires r = .ok (requireG rq)) (hg : heapGet h.lines (rq.lineId : Int) = .ok (lineG l)) :
    Require_markRemoved r h =
      .ok ((), { setLineH h (rq.lineId : Int) (markRemovedLine l) with
                   requires := h.requires.set (r.toNat - 1) (requireG Modfile.Edit.clearedRequire) }) := by
  unfold Require_markRemoved
  simp only [hr, bind, Except.bind, pure, Except.pure, requireG_Syntax, Line_markRemoved_eq hg, setLineH_requires,
    heapSet_of_get _ hr]
  rfl

/-- a cleared entry (`Syntax == nil`): nil dereference -/
theorem Require_markRemoved_nil {h : Heap} {r : Int} {rq : Modfile.Require}
    (hr : heapGet h.requires r = .ok (requireG rq)) (h0 : rq.lineId = 0) : Require_markRemoved r h = .error .panic := by
  unfold Require_markRemoved
  simp only [hr, bind, Except.bind, pure, Except.pure, requireG_Syntax, h0]
  rw [Line_markRemoved_nil (by simp)]

theorem Require_setVersion_eq {h : Heap} {r : Int} {rq : Modfile.Require} {l : Modfile.Line} (v : Bytes)
    (hr : heapGet h.requires r = .ok (requireG rq)) (hg : heapGet h.lines (rq.lineId : Int) = .ok (lineG l)) :
    Require_setVersion r v h =
      .ok ((), { setLineH h (rq.lineId : Int) (Modfile.Edit.setVersionLine v l) with
                   requires := h.requires.set (r.toNat - 1) (requireG { rq with mod := { rq.mod with version := v } }) }) := by
  unfold Require_setVersion
  simp only [hr, heapSet_of_get _ hr, heapGet_listSet_same _ hr, bind, Except.bind, pure, Except.pure, requireG_Syntax, hg]
  rcases l with ⟨id, ⟨bef, suf, aft⟩, st, tok, ib, en⟩
  rcases tok with _ | ⟨a, _ | ⟨b, _ | ⟨c, t⟩⟩⟩
  · -- `len(line.Token) > 0` fails: the line is left alone
    simp [-len_cons, setLineH, lineG, Drv.GenEdit.comsG, Modfile.Edit.setVersionLine, requireG, Drv.GenEdit.mvG]
    exact (set_self_of_get_nat (by simpa [lineG, Drv.GenEdit.comsG, Drv.GenEdit.comG] using hg)).symm
  all_goals
    cases ib
    · -- not in a block: `if len(line.Token) >= 3 { line.Token[2] = v }`
      simp [-len_cons, setLineH, lineG, Drv.GenEdit.comsG, len_gt_zero_iff, len_ge_three_iff, fun X => heapSet_of_get_nat X hg,
        Modfile.Edit.setVersionLine, requireG, Drv.GenEdit.mvG, setIdxL_two_cons] <;>
      (try exact (set_self_of_get_nat (by simpa [lineG, Drv.GenEdit.comsG, Drv.GenEdit.comG] using hg)).symm)
    · -- in a block: a single empty comment line before it is removed, then `if len(line.Token) >= 2 { line.Token[1] = v }`
      rcases bef with _ | ⟨c1, _ | ⟨c2, bt⟩⟩ <;>
      (try rcases c1 with ⟨cs, _ | ⟨x, xs⟩, cf⟩) <;>
      simp [-len_cons, setLineH, lineG, Drv.GenEdit.comsG, Drv.GenEdit.comG, len_gt_zero_iff, len_ge_two_iff,
        len_eq_one_iff, len_eq_zero_iff, idxL_zero_cons, sliceTo_zero, fun X => heapSet_of_get_nat X hg,
        fun X => heapGet_listSet_same_nat X hg, fun X Y => heapSet_listSet_same_nat hg X Y,
        Modfile.Edit.setVersionLine, requireG, Drv.GenEdit.mvG, setIdxL_one_cons] <;>
      (try exact (set_self_of_get_nat (by simpa [lineG, Drv.GenEdit.comsG, Drv.GenEdit.comG] using hg)).symm)

theorem Require_setVersion_nil {h : Heap} {r : Int} {rq : Modfile.Require} (v : Bytes)
    (hr : heapGet h.requires r = .ok (requireG rq)) (h0 : rq.lineId = 0) : Require_setVersion r v h = .error .panic := by
  unfold Require_setVersion
  simp only [hr, heapSet_of_get _ hr, heapGet_listSet_same _ hr, bind, Except.bind, pure, Except.pure, requireG_Syntax, h0]
  rw [show ((0 : Nat) : Int) = 0 from rfl, heapGet_zero]

theorem gs_indexAux_add_le (sub : Bytes) : ∀ (s : Bytes) (k i : Nat),
    GoStrings.indexAux sub s k = some i → i + sub.length ≤ k + s.length
  | [], k, i, h => by
    simp only [GoStrings.indexAux] at h
    split at h
    · cases h; rename_i he; simp [List.isEmpty_iff.1 he]
    · cases h
  | c :: rest, k, i, h => by
    simp only [GoStrings.indexAux] at h
    split at h
    · cases h
      rename_i hp
      have := isPrefixOfB_length_le hp
      omega
    · have := gs_indexAux_add_le sub rest (k + 1) i h
      simp only [List.length_cons]; omega

theorem gs_index_add_le {s sub : Bytes} {i : Nat} (h : GoStrings.index s sub = some i) : i + sub.length ≤ s.length := by
  have := gs_indexAux_add_le sub s 0 i h
  omega

theorem Require_setIndirect_eq {h : Heap} {r : Int} {rq : Modfile.Require} {l : Modfile.Line} (ind : Bool)
    (hr : heapGet h.requires r = .ok (requireG rq)) (hg : heapGet h.lines (rq.lineId : Int) = .ok (lineG l))
    (hidx : ind = false → Modfile.isIndirect l = true → ∀ com rest, l.comments.suffix = com :: rest →
      GoStrings.trimSpace (GoStrings.trimPrefix com.token [47, 47]) ≠ B "indirect" →
      (GoStrings.index com.token (B "indirect;")).isSome) :
    Require_setIndirect r ind h =
      .ok ((), { setLineH h (rq.lineId : Int) (Modfile.Edit.setIndirectLine ind l) with
                   requires := h.requires.set (r.toNat - 1) (requireG { rq with indirect := ind }) }) := by
  unfold Require_setIndirect
  have hI := isIndirect_eq (h := { h with requires := h.requires.set (r.toNat - 1) { Mod := (requireG rq).Mod, Indirect := ind, Syntax := (rq.lineId : Int) } }) (p := (rq.lineId : Int)) (l := l) hg
  simp only [hr, heapSet_of_get _ hr, heapGet_listSet_same _ hr, bind, Except.bind, pure, Except.pure, requireG_Syntax, hI]
  by_cases hq : (Modfile.isIndirect l == ind) = true
  · simp only [hq, if_true]
    have : Modfile.Edit.setIndirectLine ind l = l := by simp [Modfile.Edit.setIndirectLine, hq]
    rw [this, setLineH_self hg]
    rfl
  · simp only [hq, Bool.false_eq_true, if_false, hg]
    rcases l with ⟨id, ⟨bef, suf, aft⟩, st, tok, ib, en⟩
    cases ind with
    | true =>
      simp only [if_true]
      cases suf with
      | nil =>
        simp [-len_cons, setLineH, lineG, Drv.GenEdit.comsG, Drv.GenEdit.comG, fun X => heapSet_of_get_nat X hg,
          Modfile.Edit.setIndirectLine, hq, B_indirectTok, requireG]
        rfl
      | cons c rest =>
        by_cases ht : GoStrings.trimSpace (GoStrings.trimPrefix c.token [47, 47]) = [] <;>
        simp [-len_cons, setLineH, lineG, Drv.GenEdit.comsG, Drv.GenEdit.comG, fun X => heapSet_of_get_nat X hg,
          Modfile.Edit.setIndirectLine, hq, B_indirectTok, B_indirectLong, requireG, len_eq_zero_iff, idxL_zero_cons, setIdxL_zero_cons,
          trimSpace_eq, trimPrefix_eq, ht, Modfile.Edit.slashSlash]
    | false =>
      simp only [Bool.false_eq_true, if_false]
      cases suf with
      | nil => simp [Modfile.isIndirect] at hq
      | cons c rest =>
        have hq' : Modfile.isIndirect { id := id, comments := { before := bef, suffix := c :: rest, after := aft }, start := st, token := tok, inBlock := ib, «end» := en } = true := by
          simpa using hq
        by_cases ht : GoStrings.trimSpace (GoStrings.trimPrefix c.token [47, 47]) = [105, 110, 100, 105, 114, 101, 99, 116]
        · simp [-len_cons, setLineH, lineG, Drv.GenEdit.comsG, Drv.GenEdit.comG, fun X => heapSet_of_get_nat X hg,
            Modfile.Edit.setIndirectLine, hq, B_indirect, requireG, idxL_zero_cons,
            trimSpace_eq, trimPrefix_eq, ht, Modfile.Edit.slashSlash]
        · have hsome := hidx rfl hq' c rest rfl (by rw [B_indirect]; exact ht)
          obtain ⟨i, hi⟩ := Option.isSome_iff_exists.1 hsome
          have hle := gs_index_add_le hi
          have hidx2 : GoRt.index c.token [105, 110, 100, 105, 114, 101, 99, 116, 59] = (i : Int) := by
            rw [GoRtModfile.index_eq, ← B_indirectSemi, hi]
          have hlen : (B "indirect;").length = 9 := by decide +kernel
          have hsl : sliceFrom c.token ((i : Int) + 9) = .ok (c.token.drop (i + 9)) := by
            have := sliceFrom_natCast (v := c.token) (k := i + 9) (by omega)
            simpa using this
          simp [-len_cons, setLineH, lineG, Drv.GenEdit.comsG, Drv.GenEdit.comG, fun X => heapSet_of_get_nat X hg,
            Modfile.Edit.setIndirectLine, hq, B_indirect, requireG, idxL_zero_cons, setIdxL_zero_cons,
            trimSpace_eq, trimPrefix_eq, ht, Modfile.Edit.slashSlash, hidx2, hsl, hi, hlen]

theorem Require_setIndirect_nil {h : Heap} {r : Int} {rq : Modfile.Require} (ind : Bool)
    (hr : heapGet h.requires r = .ok (requireG rq)) (h0 : rq.lineId = 0) : Require_setIndirect r ind h = .error .panic := by
  unfold Require_setIndirect
  simp only [hr, heapSet_of_get _ hr, heapGet_listSet_same _ hr, bind, Except.bind, pure, Except.pure, requireG_Syntax, h0]
  rw [isIndirect_nil (by simp)]

end ModVerif.Tie.FnEditTreeA
