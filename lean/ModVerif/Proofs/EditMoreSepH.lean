/-
  For C16 `separate_blocks`: lines in the same statement (`SameStmt`); lines at two different statement indices are not.
-/
import ModVerif.Proofs.EditMoreSepF
namespace ModVerif.Modfile.Edit
open ModVerif ModVerif.Modfile

def SameStmt (stmts : List Expr) (i j : Nat) : Prop := ∃ st ∈ stmts, i ∈ treeIds [st] ∧ j ∈ treeIds [st]

theorem ids_subset_of_mem {stmts : List Expr} {st : Expr} (h : st ∈ stmts) : ∀ x ∈ treeIds [st], x ∈ treeIds stmts := by
  intro x hx
  induction stmts with
  | nil => cases h
  | cons y ys ih =>
    rw [treeIds_cons]
    rcases List.mem_cons.1 h with rfl | h
    · exact List.mem_append_left _ hx
    · exact List.mem_append_right _ (ih h)

theorem idx_unique : ∀ {stmts : List Expr}, (treeIds stmts).Nodup → ∀ {k k' : Nat} {st st' : Expr} {x : Nat},
    stmts[k]? = some st → stmts[k']? = some st' → x ∈ treeIds [st] → x ∈ treeIds [st'] → k = k' := by
  intro stmts
  induction stmts with
  | nil => intro _ k k' st st' x h; simp at h
  | cons y ys ih =>
    intro hnd k k' st st' x h h' hx hx'
    rw [treeIds_cons] at hnd
    rcases List.nodup_append.1 hnd with ⟨_, n2, n3⟩
    cases k with
    | zero =>
      cases k' with
      | zero => rfl
      | succ k' =>
        simp only [List.getElem?_cons_zero, Option.some.injEq] at h
        simp only [List.getElem?_cons_succ] at h'
        subst h
        exact absurd rfl (n3 x hx x (ids_subset_of_mem (List.mem_iff_getElem?.2 ⟨k', h'⟩) x hx'))
    | succ k =>
      cases k' with
      | zero =>
        simp only [List.getElem?_cons_zero, Option.some.injEq] at h'
        simp only [List.getElem?_cons_succ] at h
        subst h'
        exact absurd rfl (n3 x hx' x (ids_subset_of_mem (List.mem_iff_getElem?.2 ⟨k, h⟩) x hx))
      | succ k' =>
        simp only [List.getElem?_cons_succ] at h h'
        rw [ih n2 h h' hx hx']

theorem not_same_of_inAt {stmts : List Expr} (hnd : (treeIds stmts).Nodup) {a b i j : Nat} (hij : i ≠ j)
    (ha : InAt stmts i a) (hb : InAt stmts j b) : ¬SameStmt stmts a b := by
  rintro ⟨st, hst, h1, h2⟩
  rcases List.mem_iff_getElem?.1 hst with ⟨k, hk⟩
  rcases ha with ⟨sa, hsa, hxa⟩
  rcases hb with ⟨sb, hsb, hxb⟩
  have e1 := idx_unique hnd hk hsa h1 hxa
  have e2 := idx_unique hnd hk hsb h2 hxb
  exact hij (e1.symm.trans e2)

theorem cleanupStmts_block_live (stmts : List Expr) (b : LineBlock) (hb : Expr.lineBlock b ∈ cleanupStmts stmts) :
    ∀ l ∈ b.lines, l.token ≠ [] := by
  obtain ⟨x, _, g, hg, hy⟩ := mem_cleanupStmts hb
  cases hg <;> simp only [List.mem_cons, List.mem_nil_iff, or_false, reduceCtorEq, Expr.lineBlock.injEq] at hy
  · subst hy; exact fun l hl e => by simpa [e] using (List.mem_filter.1 hl).2
  · subst hy; rename_i h1 h2; exact absurd rfl (h2 _)

end ModVerif.Modfile.Edit
