/-
  Tie proofs for the regenerated module.go functions: CheckPathMajor, MatchPathMajor, PathMajorPrefix,
  CanonicalVersion.  The semver functions they call are the regenerated ones (Generated.Semver.*), replaced by the
  model's through the tie theorems of Tie/FnSemver.lean.
-/
import ModVerif.Generated.FnModule
import ModVerif.Model.Module
import ModVerif.Proofs.GoRtLemmasStr
import ModVerif.Tie.FnSemver
import ModVerif.Proofs.ModuleMajor
namespace ModVerif.TieFnModule
open ModVerif ModVerif.GoRt ModVerif.GoRtStr

theorem B_unstable : B "-unstable" = [45, 117, 110, 115, 116, 97, 98, 108, 101] := by decide +kernel
theorem B_dotv : B ".v" = [46, 118] := by decide +kernel
theorem B_dotv1 : B ".v1" = [46, 118, 49] := by decide +kernel
theorem B_v000 : B "v0.0.0-" = [118, 48, 46, 48, 46, 48, 45] := by decide +kernel
theorem B_v0 : B "v0" = [118, 48] := by decide +kernel
theorem B_v1 : B "v1" = [118, 49] := by decide +kernel
theorem B_incompatible : B "+incompatible" = [43, 105, 110, 99, 111, 109, 112, 97, 116, 105, 98, 108, 101] := by
  decide +kernel

/-- the error value of CheckPathMajor: `&InvalidVersionError{Version: v, Err: fmt.Errorf("should be %s, not %s", …)}` -/
def majorErr : Option String := wrapErr "InvalidVersionError" (some "should be %s, not %s")

theorem beq_bytes (a b : Bytes) : decide (a = b) = (a == b) := by
  rw [Bool.eq_iff_iff]; simp

theorem CheckPathMajor_spec (v pathMajor : Bytes) (fuel : Nat) (hf : 2 * v.length ≤ fuel) :
    Generated.Module.CheckPathMajor fuel v pathMajor =
      .ok (if Module.checkPathMajor v pathMajor = true then none else majorErr) := by
  unfold Generated.Module.CheckPathMajor
  extract_lets _ k9 pm'
  have hk : ∀ pm : Bytes, k9 pm = .ok (if
      (if (isPrefixOfB (B "v0.0.0-") v && pm == B ".v1") = true then true
       else match pm with
        | [] => Semver.major v == B "v0" || Semver.major v == B "v1" || Semver.build v == B "+incompatible"
        | c :: rest => if (c == 47 || c == 46) = true then Semver.major v == rest else false) = true
      then none else majorErr) := by
    intro pm
    simp only [k9, hasPrefix, B_dotv1, B_v000, B_v0, B_v1, B_incompatible, beq_bytes,
      Tie.FnSemver.Major_tie v fuel hf, Tie.FnSemver.Build_tie v fuel hf, bind_ok, pure_eq_ok]
    by_cases h1 : (isPrefixOfB [118, 48, 46, 48, 46, 48, 45] v && pm == [46, 118, 49]) = true
    · simp [h1]
    simp only [h1, Bool.false_eq_true, if_false]
    cases pm with
    | nil =>
      simp only [List.nil_beq_eq, List.isEmpty_nil]
      by_cases h2 : (Semver.major v == [118, 48] || Semver.major v == [118, 49]) = true
      · simp [h2]
      · simp only [h2, Bool.false_eq_true, if_false, bind_ok]
        have h2' : (Semver.major v == [118, 48] || Semver.major v == [118, 49]) = false := by simpa using h2
        simp only [Bool.false_or]
        cases (Semver.build v == [43, 105, 110, 99, 111, 109, 112, 97, 116, 105, 98, 108, 101]) <;> simp [majorErr]
    | cons c rest =>
      simp only [idx_zero_cons, bind_ok, sliceFrom_one_cons, byte_eq_int (n := 47) (d := 47) rfl,
        byte_eq_int (n := 46) (d := 46) rfl]
      by_cases h47 : c = 47
      · subst h47
        by_cases hm : Semver.major v = rest <;> simp [hm, majorErr]
      · by_cases h46 : c = 46
        · subst h46
          by_cases hm : Semver.major v = rest <;> simp [hm, majorErr]
        · simp [h47, h46, majorErr]
  unfold Module.checkPathMajor
  simp only [hasPrefix, hasSuffix, B_unstable, B_dotv]
  have htrim : pm' = Module.trimSuffixB pathMajor [45, 117, 110, 115, 116, 97, 98, 108, 101] := rfl
  by_cases hc : (isPrefixOfB [46, 118] pathMajor && hasSuffixB pathMajor [45, 117, 110, 115, 116, 97, 98, 108, 101]) = true
  · simp only [hc, if_true, hk, htrim]; rfl
  · simp only [hc, Bool.false_eq_true, if_false, hk]; rfl


theorem MatchPathMajor_spec (v pathMajor : Bytes) (fuel : Nat) (hf : 2 * v.length ≤ fuel) :
    Generated.Module.MatchPathMajor fuel v pathMajor = .ok (Module.matchPathMajor v pathMajor) := by
  unfold Generated.Module.MatchPathMajor Module.matchPathMajor
  rw [CheckPathMajor_spec v pathMajor fuel hf, bind_ok]
  cases Module.checkPathMajor v pathMajor <;> simp [majorErr, wrapErr]

theorem PathMajorPrefix_spec (pathMajor : Bytes) (fuel : Nat) (hf : 2 * pathMajor.length ≤ fuel) :
    Generated.Module.PathMajorPrefix fuel pathMajor =
      (match Module.pathMajorPrefix pathMajor with
       | some m => .ok m
       | none => .error .panic) := by
  unfold Generated.Module.PathMajorPrefix
  extract_lets k6 pm'
  have hk : ∀ pm : Bytes, pm ≠ [] → pm.length ≤ pathMajor.length →
      k6 pm = (if (pm.drop 1 != Semver.major (pm.drop 1)) = true then .error .panic else .ok (pm.drop 1)) := by
    intro pm hne hlen
    cases pm with
    | nil => exact absurd rfl hne
    | cons c m =>
      have hm : 2 * m.length ≤ fuel := by simp at hlen; omega
      simp only [k6, sliceFrom_one_cons, bind_ok, Tie.FnSemver.Major_tie m fuel hm, List.drop_succ_cons, List.drop_zero]
      have e : (m != Semver.major m) = !decide (m = Semver.major m) := by rw [beq_bytes]; rfl
      rw [e]
      cases decide (m = Semver.major m) <;> simp
  cases pathMajor with
  | nil => simp [Module.pathMajorPrefix]
  | cons c rest =>
    simp only [reduceCtorEq, decide_false, Bool.false_eq_true, if_false, idx_zero_cons, bind_ok,
      byte_eq_int (n := 47) (d := 47) rfl, byte_eq_int (n := 46) (d := 46) rfl, Module.pathMajorPrefix,
      hasPrefix, hasSuffix, B_unstable, B_dotv]
    by_cases hsep : c = 47 ∨ c = 46
    · have h1 : (c != 47 && c != 46) = false := by rcases hsep with h | h <;> simp [h]
      have h2 : (if (!decide (c = 47)) = true then (pure (!decide (c = 46)) : M Bool) else pure false)
          = .ok false := by
        rcases hsep with h | h <;> simp [h]
      simp only [h1, h2, bind_ok, Bool.false_eq_true, if_false]
      by_cases hc : (isPrefixOfB [46, 118] (c :: rest) && hasSuffixB (c :: rest) [45, 117, 110, 115, 116, 97, 98, 108, 101]) = true
      · have ht : Module.trimSuffixB (c :: rest) [45, 117, 110, 115, 116, 97, 98, 108, 101] = Module.trimUnstable (c :: rest) := by
          simp only [Module.trimUnstable, B_unstable, B_dotv, hc, if_true]
        have hne : Module.trimUnstable (c :: rest) ≠ [] ∧ (Module.trimUnstable (c :: rest)).length ≤ (c :: rest).length := by
          rcases Module.trimUnstable_cases (c :: rest) with ⟨e, _⟩ | ⟨t, e, htr⟩
          · rw [e]; simp
          · rw [htr, e]; simp
        simp only [hc, if_true]
        rw [show pm' = Module.trimSuffixB (c :: rest) [45, 117, 110, 115, 116, 97, 98, 108, 101] from rfl, ht, hk _ hne.1 hne.2]
        cases ((Module.trimUnstable (c :: rest)).drop 1 != Semver.major ((Module.trimUnstable (c :: rest)).drop 1)) <;> simp
      · simp only [hc, Bool.false_eq_true, if_false]
        rw [hk (c :: rest) (by simp) (Nat.le_refl _)]
        cases ((c :: rest).drop 1 != Semver.major ((c :: rest).drop 1)) <;> simp
    · have h47 : c ≠ 47 := fun e => hsep (Or.inl e)
      have h46 : c ≠ 46 := fun e => hsep (Or.inr e)
      simp [h47, h46]

theorem CanonicalVersion_spec (v : Bytes) (fuel : Nat) (hf : 2 * v.length ≤ fuel) :
    Generated.Module.CanonicalVersion fuel v = .ok (Semver.canonicalVersion v) := by
  unfold Generated.Module.CanonicalVersion Semver.canonicalVersion
  simp only [Tie.FnSemver.Canonical_tie v fuel hf, Tie.FnSemver.Build_tie v fuel hf, bind_ok, beq_bytes, B_incompatible]
  cases (Semver.build v == [43, 105, 110, 99, 111, 109, 112, 97, 116, 105, 98, 108, 101]) <;> simp

end ModVerif.TieFnModule
