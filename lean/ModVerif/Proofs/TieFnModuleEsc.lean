/-
  Tie proofs for the regenerated module.go functions: escapeString (two `range` loops) and unescapeString (one).
  `for _, r := range s` is a fuel loop over byte offsets; `GoRtStr.range_step` links it to `Utf8.runes`.
  The byte conversions `byte(r)`, `byte(r+'a'-'A')`, `byte(r+'A'-'a')` of the Go code appear as
  `mkByte (toU8 …)` over int32 wrap-arounds; the `esc…`/`unesc…` arithmetic lemmas reduce them to `UInt8.ofNat`.
-/
import ModVerif.Generated.FnModule
import ModVerif.Model.Module
import ModVerif.Proofs.GoRtLemmas
import ModVerif.Proofs.GoRtLemmasStr
namespace ModVerif.TieFnModule
open ModVerif ModVerif.GoRt ModVerif.GoRtStr

theorem escOfNat_mod (n : Nat) : UInt8.ofNat (n % 256) = UInt8.ofNat n := by
  apply UInt8.toNat_inj.mp
  simp [UInt8.toNat_ofNat']

/-- `byte(r)` for any rune value: both sides are `r mod 256` -/
theorem escByte_plain (r : Nat) : mkByte (toU8 (r : Int)) = UInt8.ofNat r := by
  simp only [mkByte, toU8]
  have h : (((r : Int) % 256) % 256).toNat = r % 256 := by omega
  rw [h, escOfNat_mod]

/-- `byte(r+'a'-'A')` for an upper-case letter -/
theorem escByte_upper (r : Nat) (h1 : 65 ≤ r) (h2 : r ≤ 90) :
    mkByte (toU8 (toI32 ((toI32 ((r : Int) + 97)) - 65))) = UInt8.ofNat (r + 32) := by
  have e1 : toI32 ((r : Int) + 97) = (r : Int) + 97 := by
    simp only [toI32]; split <;> omega
  have e2 : toI32 ((r : Int) + 97 - 65) = ((r + 32 : Nat) : Int) := by
    simp only [toI32]; split <;> omega
  rw [e1, e2, escByte_plain]

/-- `byte(r+'A'-'a')` for a lower-case letter -/
theorem unescByte_lower (r : Nat) (h1 : 97 ≤ r) (h2 : r ≤ 122) :
    mkByte (toU8 (toI32 ((toI32 ((r : Int) + 65)) - 97))) = UInt8.ofNat (r - 32) := by
  have e1 : toI32 ((r : Int) + 65) = (r : Int) + 65 := by
    simp only [toI32]; split <;> omega
  have e2 : toI32 ((r : Int) + 65 - 97) = ((r - 32 : Nat) : Int) := by
    simp only [toI32]; split <;> omega
  rw [e1, e2, escByte_plain]

theorem escapeString_loop1_spec (s : Bytes) :
    ∀ (fuel k : Nat) (hu : Bool), k ≤ s.length → s.length - k < fuel →
    Generated.Module.escapeString_loop1 s fuel (k : Int) hu =
      .ok (if (Utf8.runes (s.drop k)).any (fun r => r == 33 || r ≥ 128) = true
           then Ctl.ret (([] : Bytes), some "internal error: inconsistency in EscapePath")
           else Ctl.next (len s, hu || (Utf8.runes (s.drop k)).any (fun r => 65 ≤ r && r ≤ 90))) := by
  intro fuel
  induction fuel with
  | zero => intro k _ _ h; omega
  | succ f ih =>
    intro k hu hk hf
    unfold Generated.Module.escapeString_loop1
    by_cases hlt : k < s.length
    · obtain ⟨r, w, hdec, hw1, hw2, hrunes, _⟩ := range_step s k hlt
      have hlt' : (k : Int) < len s := by simp [len_eq]; omega
      have hkw : (k : Int) + (w : Int) = ((k + w : Nat) : Int) := by simp
      simp only [hlt', decide_true, if_true, hdec, hrunes, List.any_cons, hkw]
      by_cases hbad : r = 33 ∨ r ≥ 128
      · have hb1 : (decide ((r : Int) = 33) || decide ((r : Int) ≥ 128)) = true := by
          rcases hbad with h | h
          · subst h; simp
          · have : (r : Int) ≥ 128 := by omega
            simp [this]
        have hb2 : (r == 33 || decide (r ≥ 128)) = true := by
          rcases hbad with h | h
          · subst h; simp
          · simp [h]
        simp [hb1, hb2]
      · have hb1 : (decide ((r : Int) = 33) || decide ((r : Int) ≥ 128)) = false := by
          have h1 : ¬ ((r : Int) = 33) := by omega
          have h2 : ¬ ((r : Int) ≥ 128) := by omega
          simp [h1, h2]
        have hb2 : (r == 33 || decide (r ≥ 128)) = false := by
          have h1 : ¬ (r = 33) := by omega
          have h2 : ¬ (r ≥ 128) := by omega
          simp [h1, h2]
        simp only [hb1, hb2, Bool.false_eq_true, if_false, Bool.false_or]
        by_cases hup : 65 ≤ r ∧ r ≤ 90
        · have hc1 : (decide ((65 : Int) ≤ (r : Int)) && decide ((r : Int) ≤ 90)) = true := by
            have h1 : (65 : Int) ≤ (r : Int) := by omega
            have h2 : (r : Int) ≤ 90 := by omega
            simp [h1, h2]
          have hc2 : (decide (65 ≤ r) && decide (r ≤ 90)) = true := by simp [hup.1, hup.2]
          simp only [hc1, hc2, if_true, ih (k + w) true hw2 (by omega), Bool.true_or, Bool.or_true]
        · have hc1 : (decide ((65 : Int) ≤ (r : Int)) && decide ((r : Int) ≤ 90)) = false := by
            by_cases h1 : (65 : Int) ≤ (r : Int)
            · have h2 : ¬ ((r : Int) ≤ 90) := by omega
              simp [h2]
            · simp [h1]
          have hc2 : (decide (65 ≤ r) && decide (r ≤ 90)) = false := by
            by_cases h1 : 65 ≤ r
            · have h2 : ¬ (r ≤ 90) := by omega
              simp [h2]
            · simp [h1]
          simp only [hc1, hc2, Bool.false_eq_true, if_false, ih (k + w) hu hw2 (by omega), Bool.false_or]
    · have hk' : k = s.length := by omega
      have hlt' : ¬ ((k : Int) < len s) := by simp [len_eq]; omega
      subst hk'
      simp [Utf8.runes, Utf8.runesAux, len_eq]

theorem escapeString_loop2_spec (s : Bytes) :
    ∀ (fuel k : Nat) (buf : Bytes), k ≤ s.length → s.length - k < fuel →
    Generated.Module.escapeString_loop2 s fuel (k : Int) buf =
      .ok (len s, buf ++ Module.escapeRunes (Utf8.runes (s.drop k))) := by
  intro fuel
  induction fuel with
  | zero => intro k _ _ h; omega
  | succ f ih =>
    intro k buf hk hf
    unfold Generated.Module.escapeString_loop2
    by_cases hlt : k < s.length
    · obtain ⟨r, w, hdec, hw1, hw2, hrunes, _⟩ := range_step s k hlt
      have hlt' : (k : Int) < len s := by simp [len_eq]; omega
      have hkw : (k : Int) + (w : Int) = ((k + w : Nat) : Int) := by simp
      simp only [hlt', decide_true, if_true, hdec, hrunes, hkw, Module.escapeRunes]
      by_cases hup : 65 ≤ r ∧ r ≤ 90
      · have hc1 : (decide ((65 : Int) ≤ (r : Int)) && decide ((r : Int) ≤ 90)) = true := by
          have h1 : (65 : Int) ≤ (r : Int) := by omega
          have h2 : (r : Int) ≤ 90 := by omega
          simp [h1, h2]
        have hc2 : (decide (65 ≤ r) && decide (r ≤ 90)) = true := by simp [hup.1, hup.2]
        have h33 : mkByte (33 : Int) = (33 : UInt8) := by decide
        simp only [hc1, hc2, if_true, ih (k + w) _ hw2 (by omega), escByte_upper r hup.1 hup.2, h33]
        simp
      · have hc1 : (decide ((65 : Int) ≤ (r : Int)) && decide ((r : Int) ≤ 90)) = false := by
          by_cases h1 : (65 : Int) ≤ (r : Int)
          · have h2 : ¬ ((r : Int) ≤ 90) := by omega
            simp [h2]
          · simp [h1]
        have hc2 : (decide (65 ≤ r) && decide (r ≤ 90)) = false := by
          by_cases h1 : 65 ≤ r
          · have h2 : ¬ (r ≤ 90) := by omega
            simp [h2]
          · simp [h1]
        simp only [hc1, hc2, Bool.false_eq_true, if_false, ih (k + w) _ hw2 (by omega), escByte_plain]
        simp
    · have hk' : k = s.length := by omega
      have hlt' : ¬ ((k : Int) < len s) := by simp [len_eq]; omega
      subst hk'
      simp [Utf8.runes, Utf8.runesAux, len_eq, Module.escapeRunes]

/-- `escapeString` (module/module.go:709) = the hand model, for all byte strings -/
theorem escapeString_spec (s : Bytes) (fuel : Nat) (hf : s.length + 1 ≤ fuel) :
    Generated.Module.escapeString fuel s =
      .ok (match Module.escapeString s with
           | some e => (e, none)
           | none => ([], some "internal error: inconsistency in EscapePath")) := by
  unfold Generated.Module.escapeString Module.escapeString
  have h1 := escapeString_loop1_spec s fuel 0 false (by omega) (by omega)
  have h2 := escapeString_loop2_spec s fuel 0 [] (by omega) (by omega)
  simp only [Int.natCast_zero, List.drop_zero, Bool.false_or, List.nil_append] at h1 h2
  simp only [h1, h2, bind_ok, pure_eq_ok]
  by_cases hbad : (Utf8.runes s).any (fun r => r == 33 || r ≥ 128) = true
  · simp [hbad]
  · simp only [hbad, Bool.false_eq_true, if_false]
    cases hup : (Utf8.runes s).any (fun r => 65 ≤ r && r ≤ 90) <;> simp

/-- what `unescapeString` does with the result of its loop -/
def unescPost : Ctl (Bytes × Bool) (Int × Bool × Bytes) → M (Bytes × Bool)
  | Ctl.ret rv => pure rv
  | Ctl.next (_, bang, buf) => if bang then pure (([] : Bytes), false) else pure (buf, true)

/-- the loop followed by the final `if bang` test -/
theorem unescapeString_loop1_spec (escaped : Bytes) :
    ∀ (fuel k : Nat) (bang : Bool) (buf : Bytes), k ≤ escaped.length → escaped.length - k < fuel →
    (Generated.Module.unescapeString_loop1 escaped fuel (k : Int) bang buf >>= unescPost) =
      .ok (match Module.unescapeRunes bang (Utf8.runes (escaped.drop k)) with
           | some out => (buf ++ out, true)
           | none => (([] : Bytes), false)) := by
  intro fuel
  induction fuel with
  | zero => intro k _ _ _ h; omega
  | succ f ih =>
    intro k bang buf hk hf
    unfold Generated.Module.unescapeString_loop1
    by_cases hlt : k < escaped.length
    · obtain ⟨r, w, hdec, hw1, hw2, hrunes, _⟩ := range_step escaped k hlt
      have hlt' : (k : Int) < len escaped := by simp [len_eq]; omega
      have hkw : (k : Int) + (w : Int) = ((k + w : Nat) : Int) := by simp
      simp only [hlt', decide_true, if_true, hdec, hrunes, hkw, Module.unescapeRunes]
      by_cases h128 : r ≥ 128
      · have h1 : (r : Int) ≥ 128 := by omega
        simp [h1, h128, unescPost]
      · have h1 : ¬ ((r : Int) ≥ 128) := by omega
        simp only [h1, h128, decide_false, Bool.false_eq_true, if_false]
        cases bang
        · simp only [Bool.false_eq_true, if_false]
          by_cases h33 : r = 33
          · have h2 : decide ((r : Int) = 33) = true := by
              have : (r : Int) = 33 := by omega
              simp [this]
            have h3 : (r == 33) = true := by simp [h33]
            simp only [h2, h3, if_true]
            exact ih (k + w) true buf hw2 (by omega)
          · have h2 : ¬ ((r : Int) = 33) := by omega
            have h3 : (r == 33) = false := by simp [h33]
            simp only [h2, h3, decide_false, Bool.false_eq_true, if_false]
            by_cases hup : 65 ≤ r ∧ r ≤ 90
            · have hc1 : (decide ((65 : Int) ≤ (r : Int)) && decide ((r : Int) ≤ 90)) = true := by
                have h1 : (65 : Int) ≤ (r : Int) := by omega
                have h2 : (r : Int) ≤ 90 := by omega
                simp [h1, h2]
              have hc2 : (decide (65 ≤ r) && decide (r ≤ 90)) = true := by simp [hup.1, hup.2]
              simp [hc1, hc2, unescPost]
            · have hc1 : (decide ((65 : Int) ≤ (r : Int)) && decide ((r : Int) ≤ 90)) = false := by
                by_cases h1 : (65 : Int) ≤ (r : Int)
                · have h2 : ¬ ((r : Int) ≤ 90) := by omega
                  simp [h2]
                · simp [h1]
              have hc2 : (decide (65 ≤ r) && decide (r ≤ 90)) = false := by
                by_cases h1 : 65 ≤ r
                · have h2 : ¬ (r ≤ 90) := by omega
                  simp [h2]
                · simp [h1]
              simp only [hc1, hc2, Bool.false_eq_true, if_false, escByte_plain]
              rw [ih (k + w) false _ hw2 (by omega)]
              cases Module.unescapeRunes false (Utf8.runes (escaped.drop (k + w))) <;> simp
        · simp only [if_true]
          by_cases hlow : 97 ≤ r ∧ r ≤ 122
          · have hc1 : (decide ((r : Int) < 97) || decide ((122 : Int) < (r : Int))) = false := by
              have h1 : ¬ ((r : Int) < 97) := by omega
              have h2 : ¬ ((122 : Int) < (r : Int)) := by omega
              simp [h1, h2]
            have hc2 : (decide (r < 97) || decide (122 < r)) = false := by
              have h1 : ¬ (r < 97) := by omega
              have h2 : ¬ (122 < r) := by omega
              simp [h1, h2]
            simp only [hc1, hc2, Bool.false_eq_true, if_false, unescByte_lower r hlow.1 hlow.2]
            rw [ih (k + w) false _ hw2 (by omega)]
            cases Module.unescapeRunes false (Utf8.runes (escaped.drop (k + w))) <;> simp
          · have hc1 : (decide ((r : Int) < 97) || decide ((122 : Int) < (r : Int))) = true := by
              by_cases h1 : (r : Int) < 97
              · simp [h1]
              · have h2 : (122 : Int) < (r : Int) := by omega
                simp [h2]
            have hc2 : (decide (r < 97) || decide (122 < r)) = true := by
              by_cases h1 : r < 97
              · simp [h1]
              · have h2 : 122 < r := by omega
                simp [h2]
            simp [hc1, hc2, unescPost]
    · have hk' : k = escaped.length := by omega
      have hlt' : ¬ ((k : Int) < len escaped) := by simp [len_eq]; omega
      subst hk'
      cases bang <;> simp [Utf8.runes, Utf8.runesAux, len_eq, Module.unescapeRunes, unescPost]

/-- `unescapeString` (module/module.go:765) = the hand model, for all byte strings -/
theorem unescapeString_spec (escaped : Bytes) (fuel : Nat) (hf : escaped.length + 1 ≤ fuel) :
    Generated.Module.unescapeString fuel escaped =
      .ok (match Module.unescapeString escaped with
           | some b => (b, true)
           | none => ([], false)) := by
  have h := unescapeString_loop1_spec escaped fuel 0 false [] (by omega) (by omega)
  simp only [Int.natCast_zero, List.drop_zero, List.nil_append] at h
  unfold Module.unescapeString
  rw [← h]
  unfold Generated.Module.unescapeString
  congr 1

/-! ### non-vacuity: both sides evaluated on concrete inputs -/

-- "aBc" ↦ "a!bc"
example : Generated.Module.escapeString 4 [97, 66, 99] = .ok ([97, 33, 98, 99], none) ∧
    Module.escapeString [97, 66, 99] = some [97, 33, 98, 99] := by decide +kernel
-- no upper-case letter: the string itself
example : Generated.Module.escapeString 4 [97, 98, 99] = .ok ([97, 98, 99], none) ∧
    Module.escapeString [97, 98, 99] = some [97, 98, 99] := by decide +kernel
-- "!" ↦ the internal error
example : Generated.Module.escapeString 2 [33] = .ok ([], some "internal error: inconsistency in EscapePath") ∧
    Module.escapeString [33] = none := by decide +kernel
-- "é" (two bytes) and the ill-formed byte 0xFF (decoded as U+FFFD) ↦ the internal error
example : Generated.Module.escapeString 3 [195, 169] = .ok ([], some "internal error: inconsistency in EscapePath") ∧
    Module.escapeString [195, 169] = none ∧
    Generated.Module.escapeString 2 [255] = .ok ([], some "internal error: inconsistency in EscapePath") ∧
    Module.escapeString [255] = none := by decide +kernel
-- too little fuel is an error, not a wrong answer
example : Generated.Module.escapeString 3 [97, 66, 99] = .error .fuel := by decide +kernel

-- "a!bc" ↦ "aBc"
example : Generated.Module.unescapeString 5 [97, 33, 98, 99] = .ok ([97, 66, 99], true) ∧
    Module.unescapeString [97, 33, 98, 99] = some [97, 66, 99] := by decide +kernel
-- a trailing "!", an upper-case letter, "!" before a non-letter, a non-ASCII rune, an ill-formed byte: not ok
example : Generated.Module.unescapeString 2 [33] = .ok ([], false) ∧ Module.unescapeString [33] = none ∧
    Generated.Module.unescapeString 2 [66] = .ok ([], false) ∧ Module.unescapeString [66] = none ∧
    Generated.Module.unescapeString 3 [33, 49] = .ok ([], false) ∧ Module.unescapeString [33, 49] = none ∧
    Generated.Module.unescapeString 3 [195, 169] = .ok ([], false) ∧ Module.unescapeString [195, 169] = none ∧
    Generated.Module.unescapeString 2 [255] = .ok ([], false) ∧ Module.unescapeString [255] = none := by
  decide +kernel
example : Generated.Module.unescapeString 0 [] = .error .fuel ∧
    Generated.Module.unescapeString 1 [] = .ok ([], true) ∧ Module.unescapeString [] = some [] := by decide +kernel

end ModVerif.TieFnModule
