/-
  The two facts about `strings.Fields` that `Require.setIndirect(false)` rests on, for EVERY byte string (ill-formed UTF-8
  included), on the `GoStrings` model: `fields z = [w] → trimSpace z = w` (the backward decoder `DecodeLastRune` finds a
  well-formed sequence that ends the string: Proofs/Utf8Last.lean), and a field of `x` occurs in every string that ends with
  `x`.  Hence a comment that `isIndirect` accepts and that is not `// indirect` after trimming contains `indirect;`
  (`indirect_index`) — Go's `tok[strings.Index(tok, "indirect;")+9:]` is the model's, and `Require_setIndirect_full` has no
  side condition.
-/
import ModVerif.Proofs.EditMarkerFields
import ModVerif.Proofs.TieFnEditTreeA
import ModVerif.Proofs.Utf8Last
namespace ModVerif.Tie.FnEditTreeC
open ModVerif ModVerif.Modfile ModVerif.GoStrings ModVerif.Modfile.Edit
open ModVerif.Proofs.ModfileLex ModVerif.Proofs.ModfileFmtUtf8 ModVerif.Proofs.ModfileFmtTrim ModVerif.Proofs.ModfileEol

/-! ### a trailing run of white-space encodings is seen by the backward decoder -/

theorem spaceSeq_last_seg {d : Bytes} (h : SpaceSeq d) (hne : d ≠ []) :
    ∃ d' seg r, d = d' ++ seg ∧ Utf8.decode seg = some (r, seg.length) ∧ UnicodePrint.isSpace r = true := by
  induction h with
  | nil => exact absurd rfl hne
  | cons seg t r hd hs ht ih =>
    by_cases htn : t = []
    · subst htn
      exact ⟨[], seg, r, by simp, hd, hs⟩
    · obtain ⟨t', seg', r', he, hd', hs'⟩ := ih htn
      exact ⟨seg ++ t', seg', r', by rw [he, List.append_assoc], hd', hs'⟩

theorem spaceSeq_last_space {d : Bytes} (h : SpaceSeq d) (hne : d ≠ []) (x : Bytes) :
    UnicodePrint.isSpace (decodeLastRuneRev (x ++ d).reverse).1 = true := by
  obtain ⟨d', seg, r, he, hd, hs⟩ := spaceSeq_last_seg h hne
  rw [he, ← List.append_assoc, List.reverse_append, Utf8.decodeLast_of_decode hd]
  exact hs

theorem spaceSeq_first_space_append {a : Bytes} (h : SpaceSeq a) (ha : a ≠ []) (rest : Bytes) :
    UnicodePrint.isSpace (Utf8.decodeRune (a ++ rest)).1 = true := by
  cases h with
  | nil => exact absurd rfl ha
  | cons seg t r hd hs ht =>
    have := decode_take hd (t ++ rest)
    rw [List.take_length] at this
    unfold Utf8.decodeRune
    rw [List.append_assoc, this]
    exact hs

theorem fields_drop_space (s : Bytes) (hne : s ≠ []) (hs : UnicodePrint.isSpace (Utf8.decodeRune s).1 = true) :
    fields s = fields (s.drop (Utf8.decodeRune s).2) := by
  obtain ⟨c, t, rfl⟩ := List.exists_cons_of_ne_nil hne
  have hw := decodeRune_width (c :: t) (by simp)
  unfold fields
  rw [fieldsAux_cons]
  simp only [hs, if_true, List.isEmpty_nil]
  rw [fieldsAux_eq_fields _ _ (by simp only [List.length_drop, List.length_cons]; omega)]
  rfl

theorem fieldsAux_word' : ∀ (fuel : Nat) (s cur : Bytes), s.length < fuel →
    (cur ≠ [] ∨ (s ≠ [] ∧ UnicodePrint.isSpace (Utf8.decodeRune s).1 = false)) →
    ∃ u rest, s = u ++ rest ∧ fieldsAux fuel s cur [] = (cur.reverse ++ u) :: fields rest ∧ cur.reverse ++ u ≠ [] := by
  intro fuel
  induction fuel with
  | zero => intro s cur h; omega
  | succ n ih =>
    intro s cur hlt hc
    cases s with
    | nil =>
      have hcur : cur ≠ [] := by
        rcases hc with h | h
        · exact h
        · exact absurd rfl h.1
      refine ⟨[], [], rfl, ?_, by simpa using hcur⟩
      rw [fieldsAux_nil]
      have : cur.isEmpty = false := by cases cur <;> simp_all
      simp [this, fields_nil]
    | cons c t =>
      have hw := decodeRune_width (c :: t) (by simp)
      rw [fieldsAux_cons]
      by_cases hsp : UnicodePrint.isSpace (Utf8.decodeRune (c :: t)).1 = true
      · have hcur : cur ≠ [] := by
          rcases hc with h | h
          · exact h
          · rw [h.2] at hsp; cases hsp
        have hce : cur.isEmpty = false := by cases cur <;> simp_all
        simp only [hsp, if_true, hce, Bool.false_eq_true, if_false]
        refine ⟨[], c :: t, rfl, ?_, by simpa using hcur⟩
        rw [fieldsAux_acc, fieldsAux_eq_fields _ _ (by simp only [List.length_drop, List.length_cons] at hlt ⊢; omega),
          ← fields_drop_space (c :: t) (by simp) hsp]
        simp
      · simp only [hsp, Bool.false_eq_true, if_false]
        have hlen : ((c :: t).drop (Utf8.decodeRune (c :: t)).2).length < n := by
          simp only [List.length_drop, List.length_cons] at hlt ⊢; omega
        have hne : ((c :: t).take (Utf8.decodeRune (c :: t)).2).reverse ++ cur ≠ [] := by
          intro h
          have h1 := (List.append_eq_nil_iff.1 h).1
          have : ((c :: t).take (Utf8.decodeRune (c :: t)).2).length = 0 := by
            rw [← List.length_reverse, h1]; rfl
          simp only [List.length_take, List.length_cons] at this
          omega
        obtain ⟨u', rest, he, hf, hn⟩ := ih _ _ hlen (Or.inl hne)
        refine ⟨(c :: t).take (Utf8.decodeRune (c :: t)).2 ++ u', rest, ?_, ?_, ?_⟩
        · rw [List.append_assoc, ← he, List.take_append_drop]
        · rw [hf]; simp
        · simpa using hn

theorem fields_cons_decomp {s w : Bytes} {ws : List Bytes} (h : fields s = w :: ws) :
    ∃ a b, s = a ++ w ++ b ∧ SpaceSeq a ∧ fields b = ws ∧ w ≠ [] := by
  obtain ⟨p, hp, heq, hcase⟩ := trimLeftSpace_cases s
  have hf : fields s = fields (trimLeftSpace s) := by
    conv => lhs; rw [heq]
    exact fields_spaceSeq_append p _ hp
  rcases hcase with h0 | hns
  · rw [hf, h0, fields_nil] at h; cases h
  · have hne : trimLeftSpace s ≠ [] := by
      intro h0; rw [hf, h0, fields_nil] at h; cases h
    obtain ⟨u, rest, he, hfa, hn⟩ := fieldsAux_word' ((trimLeftSpace s).length + 1) (trimLeftSpace s) [] (by omega)
      (Or.inr ⟨hne, hns⟩)
    have : fields (trimLeftSpace s) = u :: fields rest := by
      unfold fields at hfa ⊢; simpa using hfa
    rw [hf, this] at h
    simp only [List.cons.injEq] at h
    obtain ⟨rfl, rfl⟩ := h
    refine ⟨p, rest, ?_, hp, rfl, by simpa using hn⟩
    rw [List.append_assoc, ← he]; exact heq

theorem trimSpace_of_fields_single {z w : Bytes} (h : fields z = [w]) : trimSpace z = w := by
  have hy : fields (trimSpace z) = [w] := by rw [fields_trimSpace]; exact h
  have hne : trimSpace z ≠ [] := by
    intro h0; rw [h0, fields_nil] at hy; cases hy
  obtain ⟨a, b, he, ha, hb, _⟩ := fields_cons_decomp hy
  have hbs : SpaceSeq b := (trimSpace_eq_nil_iff b).1 ((trimSpace_eq_nil_iff_fields b).2 hb)
  have ha0 : a = [] := by
    apply Classical.byContradiction
    intro hane
    have h1 := spaceSeq_first_space_append ha hane (w ++ b)
    rw [← List.append_assoc, ← he, trimSpace_first_rune z hne] at h1
    cases h1
  have hb0 : b = [] := by
    apply Classical.byContradiction
    intro hbne
    have h1 := spaceSeq_last_space hbs hbne (a ++ w)
    rw [← he, trimSpace_last_rune z hne] at h1
    cases h1
  rw [he, ha0, hb0]; simp

/-! ### a field occurs in the string -/

theorem indexAux_infix (w b : Bytes) : ∀ (a : Bytes) (k : Nat), (GoStrings.indexAux w (a ++ w ++ b) k).isSome = true
  | [], k => by
    cases hwb : w ++ b with
    | nil =>
      have hw : w = [] := (List.append_eq_nil_iff.1 hwb).1
      have hb : b = [] := (List.append_eq_nil_iff.1 hwb).2
      simp [GoStrings.indexAux, hw, hb]
    | cons c t =>
      simp only [List.nil_append, hwb, GoStrings.indexAux]
      rw [← hwb, isPrefixOfB_append]; rfl
  | c :: a, k => by
    simp only [List.cons_append, GoStrings.indexAux]
    split
    · rfl
    · have := indexAux_infix w b a (k + 1)
      simpa using this

theorem index_of_field {x w : Bytes} {ws : List Bytes} (h : fields x = w :: ws) (pre : Bytes) :
    (GoStrings.index (pre ++ x) w).isSome = true := by
  obtain ⟨a, b, he, _, _, _⟩ := fields_cons_decomp h
  unfold GoStrings.index
  have : pre ++ x = (pre ++ a) ++ w ++ b := by rw [he]; simp
  rw [this]
  exact indexAux_infix w b (pre ++ a) 0

/-- what `Require.setIndirect(false)` needs of a marked comment: it is `// indirect` after trimming, or `indirect;` occurs -/
theorem indirect_index (tok : Bytes)
    (hI : (match fields (trimPrefix tok [47, 47]) with
      | [f0] => f0 == B "indirect" | f0 :: _ :: _ => f0 == B "indirect;" | [] => false) = true)
    (hne : trimSpace (trimPrefix tok [47, 47]) ≠ B "indirect") : (GoStrings.index tok (B "indirect;")).isSome = true := by
  have hpre : ∃ pre, tok = pre ++ trimPrefix tok [47, 47] := by
    unfold trimPrefix
    split
    · exact ⟨tok.take 2, by simp⟩
    · exact ⟨[], rfl⟩
  obtain ⟨pre, hp⟩ := hpre
  rcases hf : fields (trimPrefix tok [47, 47]) with _ | ⟨a, _ | ⟨b, t⟩⟩
  · rw [hf] at hI; cases hI
  · rw [hf] at hI
    simp only [beq_iff_eq] at hI
    subst hI
    exact absurd (trimSpace_of_fields_single hf) hne
  · rw [hf] at hI
    simp only [beq_iff_eq] at hI
    subst hI
    rw [hp]
    exact index_of_field hf pre


/-- `FnEditSetB.IndirectIdxOK` holds -/
theorem indirectIdx_all : ∀ l : Modfile.Line, Modfile.isIndirect l = true → ∀ com rest, l.comments.suffix = com :: rest →
    GoStrings.trimSpace (GoStrings.trimPrefix com.token [47, 47]) ≠ B "indirect" →
    (GoStrings.index com.token (B "indirect;")).isSome :=
  fun l hI com rest hs hne => indirect_index com.token (by rw [Modfile.isIndirect, hs] at hI; exact hI) hne

open ModVerif.GoRt ModVerif.Generated.Edit ModVerif.Tie.FnEditRep in
/-- without the side condition `hidx` of `Require_setIndirect_eq` -/
theorem Require_setIndirect_full {h : Heap} {r : Int} {rq : Modfile.Require} {l : Modfile.Line} (ind : Bool)
    (hr : heapGet h.requires r = .ok (requireG rq)) (hg : heapGet h.lines (rq.lineId : Int) = .ok (lineG l)) :
    Require_setIndirect r ind h =
      .ok ((), { setLineH h (rq.lineId : Int) (Modfile.Edit.setIndirectLine ind l) with
                   requires := h.requires.set (r.toNat - 1) (requireG { rq with indirect := ind }) }) :=
  Tie.FnEditTreeA.Require_setIndirect_eq ind hr hg (fun _ hI com rest hs hne =>
    indirect_index com.token (by rw [Modfile.isIndirect, hs] at hI; exact hI) hne)

end ModVerif.Tie.FnEditTreeC
