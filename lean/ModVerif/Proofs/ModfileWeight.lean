/-
  Weights of go.mod syntax trees (`Wt`: per token of a line or block head, per line, comment block, line block, per comment in
  a `before` list and in a `suffix` list) and what comment assignment does to them.  A weight is the weight of the tree without
  comments plus a sum over its `Comments` slots (`tree_slots`); a pass of `assignComments` is a scan over the slots
  (Proofs/ModfileAssign.lean) that moves every recorded comment into at most one list, so the preorder pass adds `kbf` per
  comment it places and the postorder pass `ksf` (`preStmts_weight`, `postStmtsRev_weight`: equalities with what is handed
  on; `assignComments_weight`).  The counts of the parsed tree against the input length (Proofs/TieFnRuleFuelB.lean,
  TieFnRuleFuelC.lean) are instances.
-/
import ModVerif.Proofs.ModfileAssign
namespace ModVerif.Proofs.ModfileWeight
open ModVerif ModVerif.Modfile

/-- a weight of syntax trees: `w` of a token of a line or block head, `kl` per line, `kcb` per comment block, `kb` per line
    block, `kbf` per comment in a `before` list, `ksf` per comment in a `suffix` list -/
structure Wt where
  w : Bytes → Nat
  kl : Nat
  kcb : Nat
  kb : Nat
  kbf : Nat
  ksf : Nat

namespace Wt
variable (wt : Wt)

def toks (ts : List Bytes) : Nat := (ts.map wt.w).sum
def com (c : Comments) : Nat := wt.kbf * c.before.length + wt.ksf * c.suffix.length
def line (l : Line) : Nat := wt.kl + wt.com l.comments + wt.toks l.token
def lines (ls : List Line) : Nat := (ls.map wt.line).sum
def expr : Expr → Nat
  | .commentBlock x => wt.kcb + wt.com x.comments
  | .line l => wt.line l
  | .lineBlock b =>
    wt.kb + wt.com b.comments + wt.com b.lparen.comments + wt.com b.rparen.comments + wt.toks b.token + wt.lines b.lines
  | .lparen x => wt.kl + wt.com x.comments
  | .rparen x => wt.kl + wt.com x.comments
def tree (ss : List Expr) : Nat := (ss.map wt.expr).sum
@[simp] theorem toks_nil : wt.toks [] = 0 := rfl
@[simp] theorem toks_cons (t : Bytes) (ts : List Bytes) : wt.toks (t :: ts) = wt.w t + wt.toks ts := by simp [toks]
@[simp] theorem toks_append (a b : List Bytes) : wt.toks (a ++ b) = wt.toks a + wt.toks b := by simp [toks]
@[simp] theorem toks_reverse (a : List Bytes) : wt.toks a.reverse = wt.toks a := by
  induction a with
  | nil => rfl
  | cons x xs ih => simp [ih]; omega
@[simp] theorem lines_nil : wt.lines [] = 0 := rfl
@[simp] theorem lines_cons (l : Line) (ls : List Line) : wt.lines (l :: ls) = wt.line l + wt.lines ls := by simp [lines]
@[simp] theorem lines_append (a b : List Line) : wt.lines (a ++ b) = wt.lines a + wt.lines b := by simp [lines]
@[simp] theorem lines_reverse (a : List Line) : wt.lines a.reverse = wt.lines a := by
  induction a with
  | nil => rfl
  | cons x xs ih => simp [ih]; omega
@[simp] theorem tree_nil : wt.tree [] = 0 := rfl
@[simp] theorem tree_cons (s : Expr) (ss : List Expr) : wt.tree (s :: ss) = wt.expr s + wt.tree ss := by simp [tree]
@[simp] theorem tree_append (a b : List Expr) : wt.tree (a ++ b) = wt.tree a + wt.tree b := by simp [tree]
@[simp] theorem tree_reverse (a : List Expr) : wt.tree a.reverse = wt.tree a := by
  induction a with
  | nil => rfl
  | cons x xs ih => simp [ih]; omega

theorem com_default : wt.com {} = 0 := by simp [com]

theorem toks_zero (hw : ∀ t, wt.w t = 0) (ts : List Bytes) : wt.toks ts = 0 := by
  induction ts with
  | nil => rfl
  | cons t ts ih => simp [ih, hw]

theorem expr_setComments (s : Expr) (cs : Comments) : wt.expr (s.setComments cs) + wt.com s.comments = wt.expr s + wt.com cs := by
  cases s <;> simp only [Expr.setComments, Expr.comments, expr, line] <;> omega


end Wt

open ModVerif.Proofs.ModfileAssign ModVerif.Proofs.ModfileC20

theorem com_before (wt : Wt) (start : Position) (cs : Comments) (line : List Comment) :
    wt.com (assignBefore start cs line).1 + wt.kbf * (assignBefore start cs line).2.length = wt.com cs + wt.kbf * line.length := by
  obtain ⟨h1, h2⟩ := assignBefore_length start cs line
  have := congrArg (wt.kbf * ·) h1
  simp only [Nat.mul_add] at this
  simp only [Wt.com, h2]; omega

theorem com_suffix (wt : Wt) (span : Position × Position) (cs : Comments) (suf : List Comment) :
    wt.com (assignSuffix span cs suf).1 + wt.ksf * (assignSuffix span cs suf).2.length = wt.com cs + wt.ksf * suf.length := by
  obtain ⟨h1, h2⟩ := assignSuffix_length span cs suf
  have := congrArg (wt.ksf * ·) h1
  simp only [Nat.mul_add] at this
  simp only [Wt.com, h2]; omega

section
variable (wt : Wt)

theorem lines_slots : ∀ (ls : List Line),
    wt.lines ls = wt.lines (ls.map lineBare) + (ls.map fun l => wt.com l.comments).sum
  | [] => rfl
  | l :: ls => by
    simp only [List.map_cons, Wt.lines_cons, List.sum_cons, lines_slots ls, Wt.line, lineBare, wt.com_default]; omega

theorem expr_slots (x : Expr) : wt.expr x = wt.expr (exprBare x) + ((preVisitsOf x).map fun v => wt.com v.2).sum := by
  cases x with
  | lineBlock b =>
    simp only [Wt.expr, exprBare, preVisitsOf, lines_slots wt b.lines, List.cons_append, List.map_cons, List.map_append,
      List.map_map, List.sum_cons, List.sum_append, List.sum_nil, Function.comp_def, wt.com_default, List.map_nil]
    omega
  | _ => simp only [Wt.expr, Wt.line, exprBare, lineBare, preVisitsOf, Expr.comments, List.map_cons, List.map_nil, List.sum_cons,
      List.sum_nil, wt.com_default] <;> omega

theorem tree_slots : ∀ (ss : List Expr), wt.tree ss = wt.tree (ss.map exprBare) + ((preVisits ss).map fun v => wt.com v.2).sum
  | [] => rfl
  | s :: ss => by
    rw [Wt.tree_cons, List.map_cons, Wt.tree_cons, preVisits_cons, List.map_append, List.sum_append, expr_slots wt s,
      tree_slots ss]
    omega

theorem preLines_weight (ls : List Line) (line : List Comment) :
    wt.lines (preLines ls line).1 + wt.kbf * (preLines ls line).2.length = wt.lines ls + wt.kbf * line.length := by
  have h := scan_sum (v := assignBefore) wt.com (wt.kbf * ·.length) (com_before wt) (ls.map fun l => (l.start, l.comments)) line
  rw [← preLines_scan] at h
  simp only [List.map_map, Function.comp_def] at h
  rw [lines_slots wt (preLines ls line).1, lines_slots wt ls, preLines_bare]
  omega

theorem postLinesRev_weight (ls : List Line) (suf : List Comment) :
    wt.lines (postLinesRev ls suf).1 + wt.ksf * (postLinesRev ls suf).2.length = wt.lines ls + wt.ksf * suf.length := by
  have h := scan_sum (v := assignSuffix) wt.com (wt.ksf * ·.length) (com_suffix wt)
    (ls.map fun l => ((l.start, l.«end»), l.comments)) suf
  rw [← postLinesRev_scan] at h
  simp only [List.map_map, Function.comp_def] at h
  rw [lines_slots wt (postLinesRev ls suf).1, lines_slots wt ls, postLinesRev_bare]
  omega

theorem preStmts_weight (ss : List Expr) (line : List Comment) :
    wt.tree (preStmts ss line).1 + wt.kbf * (preStmts ss line).2.length = wt.tree ss + wt.kbf * line.length := by
  have h := scan_sum (v := assignBefore) wt.com (wt.kbf * ·.length) (com_before wt) (preVisits ss) line
  rw [← preStmts_scan] at h
  simp only [List.map_map, Function.comp_def] at h
  rw [tree_slots wt (preStmts ss line).1, tree_slots wt ss, preStmts_bare]
  omega

theorem postStmtsRev_weight (ss : List Expr) (suf : List Comment) :
    wt.tree (postStmtsRev ss suf).1 + wt.ksf * (postStmtsRev ss suf).2.length = wt.tree ss + wt.ksf * suf.length := by
  have h := scan_sum (v := assignSuffix) wt.com (wt.ksf * ·.length) (com_suffix wt) (postVisits ss) suf
  rw [← postStmtsRev_scan] at h
  simp only [List.map_map, Function.comp_def] at h
  rw [tree_slots wt (postStmtsRev ss suf).1, tree_slots wt ss, postStmtsRev_bare, ← sum_postVisits, ← sum_postVisits wt.com ss]
  omega

/-- `≤`: a comment that no statement takes goes to the file, which `tree` does not weigh -/
theorem assignComments_weight (f : FileSyntax) (cs : List Comment) :
    wt.tree (assignComments f cs).stmts ≤
      wt.tree f.stmts + wt.kbf * (cs.filter (!·.suffix)).length + wt.ksf * (cs.filter (·.suffix)).length := by
  unfold assignComments
  simp only [Wt.tree_reverse]
  have e0 := takeLine_length f.span.1 (cs.filter (!·.suffix))
  have e1 := preStmts_weight wt f.stmts (assignBefore f.span.1 f.comments (cs.filter (!·.suffix))).2
  have e2 := postStmtsRev_weight wt (preStmts f.stmts (assignBefore f.span.1 f.comments (cs.filter (!·.suffix))).2).1.reverse
    (cs.filter (·.suffix)).reverse
  simp only [Wt.tree_reverse, List.length_reverse] at e2
  have := Nat.mul_le_mul_left wt.kbf
    (show (assignBefore f.span.1 f.comments (cs.filter (!·.suffix))).2.length ≤ (cs.filter (!·.suffix)).length by
      simp only [assignBefore]; omega)
  omega

end

end ModVerif.Proofs.ModfileWeight
