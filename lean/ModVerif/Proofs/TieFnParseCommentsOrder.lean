/-
  `Position.add`, the six `Span` methods and the interface dispatch `x.Span()`, `reverseComments`, and `input.order` —
  the preorder / postorder lists of node pointers — of the regenerated parser.
-/
import ModVerif.Proofs.TieFnParseHeap
namespace ModVerif.TieFnParseComments
open ModVerif ModVerif.GoRt ModVerif.Generated ModVerif.Generated.Parse ModVerif.Tie.FnParseHeap

/-- `Position.add(")")`: one single-byte rune that is not a newline -/
theorem Position_add_rparen (p : Modfile.Position) : Position_add (posG p) [41] = .ok (posG p.add1) := by
  have hc : count ([41] : Bytes) [10] = 0 := by decide
  have hr : runeCount ([41] : Bytes) = 1 := by decide
  simp [Position_add, hc, hr, posG, Modfile.Position.add1, len_eq]

def spanG (s : Modfile.Position × Modfile.Position) : Position × Position := (posG s.1, posG s.2)

/-- `x.Span()` on an interface value: the dispatch the translator emits (same text as in the loops of assignComments) -/
def Expr_Span (fuel : Nat) (x : Expr) (world : Heap) : M ((Position × Position) × Heap) :=
  (match x with
        | Expr.CommentBlock dp => (do
        let t10 ← (CommentBlock_Span dp world)
        let (wr11, world) := t10
        pure (wr11, world))
        | Expr.LParen dp => (do
        let t12 ← (LParen_Span dp world)
        let (wr13, world) := t12
        pure (wr13, world))
        | Expr.RParen dp => (do
        let t14 ← (RParen_Span dp world)
        let (wr15, world) := t14
        pure (wr15, world))
        | Expr.Line dp => (do
        let t16 ← (Line_Span dp world)
        let (wr17, world) := t16
        pure (wr17, world))
        | Expr.LineBlock dp => (do
        let t18 ← (LineBlock_Span dp world)
        let (wr19, world) := t18
        pure (wr19, world))
        | Expr.FileSyntax dp => (do
        let t20 ← (FileSyntax_Span fuel dp world)
        let (wr21, world) := t20
        pure (wr21, world))
        | Expr.nil => throw Err.panic : M ((Position × Position) × Heap))

theorem Span_CommentBlock {h : Heap} {p : Int} {c : Modfile.CommentBlock} (hg : heapGet h.cbs p = .ok (cbG c))
    (fuel : Nat) : Expr_Span fuel (.CommentBlock p) h = .ok (spanG (Modfile.Expr.commentBlock c).span, h) := by
  simp [Expr_Span, CommentBlock_Span, hg, cbG, spanG, Modfile.Expr.span]

theorem Span_Line {h : Heap} {p : Int} {l : Modfile.Line} (hg : heapGet h.lines p = .ok (lineG l))
    (fuel : Nat) : Expr_Span fuel (.Line p) h = .ok (spanG (Modfile.Expr.line l).span, h) := by
  simp [Expr_Span, Line_Span, hg, lineG, spanG, Modfile.Expr.span]

theorem Span_LineBlock {h : Heap} {p : Int} {b : Modfile.LineBlock} {ps : List Int}
    (hg : heapGet h.blocks p = .ok (blockG b ps)) (fuel : Nat) :
    Expr_Span fuel (.LineBlock p) h = .ok (spanG (Modfile.Expr.lineBlock b).span, h) := by
  simp [Expr_Span, LineBlock_Span, hg, blockG, rparenG, Position_add_rparen, spanG, Modfile.Expr.span]

theorem Span_LParen {h : Heap} {p : Int} {b : Modfile.LineBlock} {ps : List Int}
    (hg : heapGet h.blocks p = .ok (blockG b ps)) (fuel : Nat) :
    Expr_Span fuel (.LParen p) h = .ok (spanG (Modfile.Expr.lparen b.lparen).span, h) := by
  simp [Expr_Span, LParen_Span, hg, blockG, lparenG, Position_add_rparen, spanG, Modfile.Expr.span]

theorem Span_RParen {h : Heap} {p : Int} {b : Modfile.LineBlock} {ps : List Int}
    (hg : heapGet h.blocks p = .ok (blockG b ps)) (fuel : Nat) :
    Expr_Span fuel (.RParen p) h = .ok (spanG (Modfile.Expr.rparen b.rparen).span, h) := by
  simp [Expr_Span, RParen_Span, hg, blockG, rparenG, Position_add_rparen, spanG, Modfile.Expr.span]

theorem Span_stmt {h : Heap} {e : Expr} {s : Modfile.Expr} (hr : RExpr h e s) (fuel : Nat) :
    Expr_Span fuel e h = .ok (spanG s.span, h) := by
  cases e <;> cases s <;> simp only [RExpr] at hr
  · exact Span_CommentBlock hr fuel
  · exact Span_Line hr.1 fuel
  · obtain ⟨ps, hb, _⟩ := hr; exact Span_LineBlock hb fuel


theorem FileSyntax_Span_unfold (fuel : Nat) (x : Int) (world : Heap) :
    FileSyntax_Span (fuel + 1) x world = (do
      let t1 ← heapGet world.files x
      if (decide ((len (t1.Stmt)) = (0 : Int))) then (pure (((default : Position), (default : Position)), world)) else (do
        let t2 ← heapGet world.files x
        let t3 ← idxL (t2.Stmt) (0 : Int)
        let (dr16, world) ← Expr_Span fuel t3 world
        let (start, _) := dr16
        let t17 ← heapGet world.files x
        let t18 ← heapGet world.files x
        let t19 ← idxL (t17.Stmt) ((len (t18.Stmt)) - (1 : Int))
        let (dr32, world) ← Expr_Span fuel t19 world
        let (_, end_) := dr32
        pure ((start, end_), world))) := rfl

theorem RStmts_getLast {h : Heap} : ∀ {es : List Expr} {ss : List Modfile.Expr}, RStmts h es ss → es ≠ [] →
    ∃ eL sL, es.getLast? = some eL ∧ ss.getLast? = some sL ∧ RExpr h eL sL
  | [], _, _, hne => absurd rfl hne
  | [e], [s], hr, _ => ⟨e, s, rfl, rfl, by simpa using hr⟩
  | [e], _ :: _ :: _, hr, _ => by simp at hr
  | e :: e2 :: es, [], hr, _ => by simp at hr
  | e :: e2 :: es, [s], hr, _ => by simp at hr
  | e :: e2 :: es, s :: s2 :: ss, hr, _ => by
    simp only [RStmts_cons] at hr
    obtain ⟨eL, sL, h1, h2, h3⟩ := RStmts_getLast (es := e2 :: es) (ss := s2 :: ss) (by simpa using hr.2) (by simp)
    exact ⟨eL, sL, by simpa [List.getLast?_cons_cons] using h1, by simpa [List.getLast?_cons_cons] using h2, h3⟩
  | [e], [], hr, _ => by simp at hr

theorem idxL_last {α : Type} {l : List α} {a : α} (h : l.getLast? = some a) : idxL l (len l - 1) = .ok a := by
  have hne : l ≠ [] := by intro e; subst e; simp at h
  have hl : 0 < l.length := List.length_pos_iff.2 hne
  have e1 : len l - 1 = ((l.length - 1 : Nat) : Int) := by simp [len_eq]; omega
  rw [e1, idxL_natCast (by omega)]
  rw [List.getLast?_eq_getElem?] at h
  have := List.getElem?_eq_some_iff.1 h
  obtain ⟨_, h2⟩ := this
  simp [h2]

/-- `FileSyntax.Span`: start of the first statement, end of the last one; two zero positions for an empty file -/
theorem FileSyntax_Span_eq {h : Heap} {p : Int} {f : Modfile.FileSyntax} (hr : RFile h p f) (fuel : Nat) :
    FileSyntax_Span (fuel + 1) p h = .ok (spanG f.span, h) := by
  obtain ⟨es, hf, hs⟩ := hr
  rw [FileSyntax_Span_unfold]
  simp only [hf, bind_ok, fileG]
  cases es with
  | nil =>
    cases hss : f.stmts with
    | nil => simp [Modfile.FileSyntax.span, hss, spanG]
    | cons s ss => rw [hss] at hs; simp at hs
  | cons e es =>
    cases hss : f.stmts with
    | nil => rw [hss] at hs; simp at hs
    | cons s ss =>
      rw [hss] at hs
      have hs0 := hs
      simp only [RStmts_cons] at hs
      obtain ⟨eL, sL, h1, h2, h3⟩ := RStmts_getLast hs0 (by simp)
      have hne : ¬ (len (e :: es) = 0) := by simp [len_eq]; omega
      have hi0 : idxL (e :: es) 0 = .ok e := by
        have := idxL_natCast (v := e :: es) (k := 0) (by simp)
        simpa using this
      simp only [hne, decide_false, Bool.false_eq_true, if_false, hi0, bind_ok, Span_stmt hs.1, idxL_last h1,
        Span_stmt h3, pure_eq_ok, hf, fileG]
      simp [Modfile.FileSyntax.span, hss, h2, spanG]

theorem Span_FileSyntax {h : Heap} {p : Int} {f : Modfile.FileSyntax} (hr : RFile h p f) (fuel : Nat) :
    Expr_Span (fuel + 1) (.FileSyntax p) h = .ok (spanG f.span, h) := by
  simp [Expr_Span, FileSyntax_Span_eq hr]


theorem reverseComments_loop1_eq : ∀ (fuel : Nat) (a mid b : List Comment) (i j : Int), mid.length + 1 ≤ fuel →
    i = len a → j = len a + len mid - 1 →
    ∃ i' j', reverseComments_loop1 fuel (a ++ mid ++ b) i j = .ok (a ++ mid.reverse ++ b, i', j')
  | 0, _, _, _, _, _, hf, _, _ => by omega
  | fuel + 1, a, mid, b, i, j, hf, hi, hj => by
    unfold reverseComments_loop1
    rcases mid with _ | ⟨x, _ | ⟨y0, m0⟩⟩
    · have : ¬ (i < j) := by simp only [len_eq, List.length_nil] at hi hj ⊢; omega
      simp [this]
    · have : ¬ (i < j) := by simp only [len_eq, List.length_cons, List.length_nil] at hi hj ⊢; omega
      simp [this]
    ·
      obtain ⟨m', y, hm⟩ : ∃ m' y, y0 :: m0 = m' ++ [y] := by
        rcases List.eq_nil_or_concat (y0 :: m0) with h | ⟨L, b, h⟩
        · cases h
        · exact ⟨L, b, by simpa using h⟩
      rw [hm] at hf hj ⊢
      have hlt : i < j := by simp only [len_eq, List.length_cons, List.length_append, List.length_nil] at hi hj ⊢; omega
      simp only [hlt, decide_true, if_true]
      have e1 : a ++ (x :: (m' ++ [y])) ++ b = (a ++ x :: m') ++ y :: b := by simp
      have hj1 : j = len (a ++ x :: m') := by simp only [len_eq, List.length_cons, List.length_append, List.length_nil] at hi hj ⊢; omega
      have g1 : idxL (a ++ (x :: (m' ++ [y])) ++ b) j = .ok y := by rw [e1]; exact hj1 ▸ idxL_mid _ _ _
      have e2 : a ++ (x :: (m' ++ [y])) ++ b = a ++ x :: (m' ++ y :: b) := by simp
      have g2 : idxL (a ++ (x :: (m' ++ [y])) ++ b) i = .ok x := by rw [e2]; exact hi ▸ idxL_mid _ _ _
      have g3 : setIdxL (a ++ (x :: (m' ++ [y])) ++ b) i y = .ok (a ++ y :: (m' ++ y :: b)) := by
        rw [e2]; exact hi ▸ setIdxL_mid _ _ _ _
      have e3 : a ++ y :: (m' ++ y :: b) = (a ++ y :: m') ++ y :: b := by simp
      have hj2 : j = len (a ++ y :: m') := by simp only [len_eq, List.length_cons, List.length_append, List.length_nil] at hi hj ⊢; omega
      have g4 : setIdxL (a ++ y :: (m' ++ y :: b)) j x = .ok ((a ++ y :: m') ++ x :: b) := by
        rw [e3]; exact hj2 ▸ setIdxL_mid _ _ _ _
      simp only [g1, g2, g3, g4, bind_ok]
      have e4 : (a ++ y :: m') ++ x :: b = (a ++ [y]) ++ m' ++ (x :: b) := by simp
      rw [e4]
      obtain ⟨i', j', hh⟩ := reverseComments_loop1_eq fuel (a ++ [y]) m' (x :: b) (i + 1) (j - 1)
        (by simp at hf; omega) (by simp only [len_eq, List.length_cons, List.length_append, List.length_nil] at hi hj ⊢; omega) (by simp only [len_eq, List.length_cons, List.length_append, List.length_nil] at hi hj ⊢; omega)
      exact ⟨i', j', by rw [hh]; simp⟩

theorem reverseComments_eq (fuel : Nat) (l : List Comment) (hf : l.length + 1 ≤ fuel) :
    reverseComments fuel l = .ok ((), l.reverse) := by
  obtain ⟨i', j', hh⟩ := reverseComments_loop1_eq fuel [] l [] 0 (len l - 1) hf (by simp) (by simp)
  simp only [List.nil_append, List.append_nil] at hh
  simp [reverseComments, hh]

/-! ## `input.order` -/

/-- preorder of a statement: the statement; for a block then its `(`, its lines, its `)` -/
def preStmtPtrs (h : Heap) : Expr → List Expr
  | .LineBlock p => .LineBlock p :: .LParen p :: ((blockLines h p).map .Line ++ [.RParen p])
  | e => [e]

/-- postorder of a statement: for a block its `(`, its lines, its `)`; then the statement -/
def postStmtPtrs (h : Heap) : Expr → List Expr
  | .LineBlock p => .LParen p :: ((blockLines h p).map .Line ++ [.RParen p, .LineBlock p])
  | e => [e]

def prePtrs (h : Heap) (p : Int) (es : List Expr) : List Expr := .FileSyntax p :: es.flatMap (preStmtPtrs h)
def postPtrs (h : Heap) (p : Int) (es : List Expr) : List Expr := es.flatMap (postStmtPtrs h) ++ [.FileSyntax p]

theorem preStmtPtrs_length_pos (h : Heap) (e : Expr) : 1 ≤ (preStmtPtrs h e).length := by
  cases e <;> simp [preStmtPtrs]

/-- the statement kinds `order` accepts without recursion into another file -/
def OrderOK (h : Heap) : Expr → Prop
  | .CommentBlock _ => True
  | .Line _ => True
  | .LineBlock p => ∃ b, heapGet h.blocks p = .ok b
  | _ => False

theorem OrderOK_of_StmtOK {h : Heap} {e : Expr} (hs : StmtOK h e) : OrderOK h e := by
  cases e <;> simp only [StmtOK, OrderOK] at hs ⊢
  obtain ⟨b, hb, _⟩ := hs; exact ⟨b, hb⟩

def addOrder (in_ : input) (pre post : List Expr) : input := { in_ with pre := in_.pre ++ pre, post := in_.post ++ post }

@[simp] theorem addOrder_nil (in_ : input) : addOrder in_ [] [] = in_ := by simp [addOrder]
@[simp] theorem addOrder_addOrder (in_ : input) (a b c d : List Expr) :
    addOrder (addOrder in_ a b) c d = addOrder in_ (a ++ c) (b ++ d) := by simp [addOrder]

theorem order_leaf (fuel : Nat) (in_ : input) (x : Expr) (h : Heap)
    (hx : (∃ p, x = .LParen p) ∨ (∃ p, x = .RParen p) ∨ (∃ p, x = .CommentBlock p) ∨ (∃ p, x = .Line p)) :
    input_order (fuel + 1) in_ x h = .ok (((), addOrder in_ [x] [x]), h) := by
  rcases hx with ⟨p, rfl⟩ | ⟨p, rfl⟩ | ⟨p, rfl⟩ | ⟨p, rfl⟩ <;> (rw [input_order]; simp [addOrder])

theorem order_loop2 (rx : List Int) (x5 : Int) (h : Heap) : ∀ (n fuel k : Nat) (in_ : input), k + n = rx.length →
    n + 2 ≤ fuel →
    input_order_loop2 rx x5 fuel (k : Int) h in_ =
      .ok (len rx, h, addOrder in_ ((rx.drop k).map .Line) ((rx.drop k).map .Line))
  | 0, fuel + 1, k, in_, hk, _ => by
    rw [input_order_loop2]
    have : ¬ ((k : Int) < len rx) := by simp [len_eq]; omega
    have hd : rx.drop k = [] := List.drop_eq_nil_of_le (by omega)
    have hk' : (k : Int) = len rx := by simp [len_eq]; omega
    simp [hd, hk']
  | n + 1, fuel + 1, k, in_, hk, hf => by
    rw [input_order_loop2]
    have hlt : (k : Int) < len rx := by simp [len_eq]; omega
    have hkl : k < rx.length := by omega
    obtain ⟨f', rfl⟩ : ∃ f', fuel = f' + 1 := ⟨fuel - 1, by omega⟩
    simp only [hlt, decide_true, if_true, idxL_natCast hkl, bind_ok,
      order_leaf f' in_ (.Line rx[k]) h (Or.inr (Or.inr (Or.inr ⟨_, rfl⟩)))]
    have := order_loop2 rx x5 h n (f' + 1) (k + 1) (addOrder in_ [.Line rx[k]] [.Line rx[k]]) (by omega) (by omega)
    rw [show ((k : Int) + 1) = ((k + 1 : Nat) : Int) by omega, this]
    have hd : rx.drop k = rx[k] :: rx.drop (k + 1) := (List.getElem_cons_drop hkl).symm
    rw [hd]; simp only [List.map_cons, addOrder_addOrder, List.cons_append, List.nil_append]
  | _, 0, _, _, _, hf => by omega

theorem order_block (fuel : Nat) (in_ : input) (p : Int) (h : Heap) {b : LineBlock} (hb : heapGet h.blocks p = .ok b)
    (hf : b.Line.length + 3 ≤ fuel) :
    input_order fuel in_ (.LineBlock p) h =
      .ok (((), addOrder in_ (preStmtPtrs h (.LineBlock p)) (postStmtPtrs h (.LineBlock p))), h) := by
  obtain ⟨f', rfl⟩ : ∃ f', fuel = f' + 1 := ⟨fuel - 1, by omega⟩
  obtain ⟨f'', rfl⟩ : ∃ f'', f' = f'' + 1 := ⟨f' - 1, by omega⟩
  rw [input_order]
  have h2 := order_loop2 b.Line p h b.Line.length (f'' + 1) 0
  simp only [Nat.zero_add, List.drop_zero, Int.natCast_zero] at h2
  simp [order_leaf f'' _ (.LParen p) h (Or.inl ⟨_, rfl⟩), hb, h2 _ trivial (by omega),
    order_leaf f'' _ (.RParen p) h (Or.inr (Or.inl ⟨_, rfl⟩)), preStmtPtrs, postStmtPtrs, blockLines, addOrder]

theorem order_stmt (fuel : Nat) (in_ : input) (e : Expr) (h : Heap) (hok : OrderOK h e)
    (hf : (preStmtPtrs h e).length + 1 ≤ fuel) :
    input_order fuel in_ e h = .ok (((), addOrder in_ (preStmtPtrs h e) (postStmtPtrs h e)), h) := by
  cases e <;> simp only [OrderOK] at hok
  · obtain ⟨f', rfl⟩ : ∃ f', fuel = f' + 1 := ⟨fuel - 1, by simp [preStmtPtrs] at hf; omega⟩
    exact order_leaf f' in_ _ h (Or.inr (Or.inr (Or.inl ⟨_, rfl⟩)))
  · obtain ⟨f', rfl⟩ : ∃ f', fuel = f' + 1 := ⟨fuel - 1, by simp [preStmtPtrs] at hf; omega⟩
    exact order_leaf f' in_ _ h (Or.inr (Or.inr (Or.inr ⟨_, rfl⟩)))
  · obtain ⟨b, hb⟩ := hok
    refine order_block fuel in_ _ h hb ?_
    simp [preStmtPtrs, blockLines, hb] at hf
    omega

theorem order_loop1 (rx : List Expr) (x4 : Int) (h : Heap) (hok : ∀ e ∈ rx, OrderOK h e) :
    ∀ (n fuel k : Nat) (in_ : input), k + n = rx.length →
    ((rx.drop k).flatMap (preStmtPtrs h)).length + 2 ≤ fuel →
    input_order_loop1 rx x4 fuel (k : Int) h in_ =
      .ok (len rx, h, addOrder in_ ((rx.drop k).flatMap (preStmtPtrs h)) ((rx.drop k).flatMap (postStmtPtrs h)))
  | 0, fuel + 1, k, in_, hk, _ => by
    rw [input_order_loop1]
    have : ¬ ((k : Int) < len rx) := by simp [len_eq]; omega
    have hd : rx.drop k = [] := List.drop_eq_nil_of_le (by omega)
    have hk' : (k : Int) = len rx := by simp [len_eq]; omega
    simp [hd, hk']
  | n + 1, fuel + 1, k, in_, hk, hf => by
    rw [input_order_loop1]
    have hlt : (k : Int) < len rx := by simp [len_eq]; omega
    have hkl : k < rx.length := by omega
    have hd : rx.drop k = rx[k] :: rx.drop (k + 1) := (List.getElem_cons_drop hkl).symm
    rw [hd] at hf
    simp only [List.flatMap_cons, List.length_append] at hf
    have hpos := preStmtPtrs_length_pos h rx[k]
    simp only [hlt, decide_true, if_true, idxL_natCast hkl, bind_ok,
      order_stmt fuel in_ rx[k] h (hok _ (List.getElem_mem hkl)) (by omega)]
    have := order_loop1 rx x4 h hok n fuel (k + 1) (addOrder in_ (preStmtPtrs h rx[k]) (postStmtPtrs h rx[k]))
      (by omega) (by omega)
    rw [show ((k : Int) + 1) = ((k + 1 : Nat) : Int) by omega, this]
    rw [hd]; simp only [List.flatMap_cons, addOrder_addOrder]
  | _, 0, _, _, _, hf => by omega

/-- `in.order(in.file)`: the preorder and the postorder list of the graph -/
theorem order_file (fuel : Nat) (in_ : input) (p : Int) (h : Heap) {f : FileSyntax} (hf : heapGet h.files p = .ok f)
    (hok : ∀ e ∈ f.Stmt, OrderOK h e) (hfuel : (prePtrs h p f.Stmt).length + 2 ≤ fuel) :
    input_order fuel in_ (.FileSyntax p) h =
      .ok (((), addOrder in_ (prePtrs h p f.Stmt) (postPtrs h p f.Stmt)), h) := by
  obtain ⟨f', rfl⟩ : ∃ f', fuel = f' + 1 := ⟨fuel - 1, by omega⟩
  rw [input_order]
  have h1 := order_loop1 f.Stmt p h hok f.Stmt.length f' 0
  simp only [Nat.zero_add, List.drop_zero, Int.natCast_zero] at h1
  simp only [prePtrs, List.length_cons] at hfuel
  simp [hf, h1 _ trivial (by omega), prePtrs, postPtrs, addOrder]

end ModVerif.TieFnParseComments
