/-
  The scan of SetRequireSeparateIndirect: every index it reports is a live `require` line or a
  `require` block of the statement list, and the last direct-only and the last indirect-only statement are different.
-/
import ModVerif.Proofs.EditMoreSepB
namespace ModVerif.Modfile.Edit
open ModVerif ModVerif.Modfile

structure ScanInv (all : List Expr) (i : Nat) (s : Scan) : Prop where
  direct : ∀ d, s.lastDirect = some d → d < i ∧ ReqAt all d
  indirect : ∀ j, s.lastIndirect = some j → j < i ∧ ReqAt all j
  require : ∀ k, s.lastRequire = some k → k < i ∧ ReqAt all k
  ne : ∀ d j, s.lastDirect = some d → s.lastIndirect = some j → d ≠ j

/-- one of the three recorded indices after a statement: unchanged, or the index of that statement -/
theorem scan_field_step {all : List Expr} {i : Nat} {o o' : Option Nat} (h : ∀ d, o = some d → d < i ∧ ReqAt all d)
    (e : o' = o ∨ (o' = some i ∧ ReqAt all i)) : ∀ d, o' = some d → d < i + 1 ∧ ReqAt all d := by
  intro d hd
  rcases e with e | ⟨e, hx⟩
  · rw [e] at hd; exact ⟨Nat.lt_succ_of_lt (h d hd).1, (h d hd).2⟩
  · rw [e] at hd; cases hd; exact ⟨Nat.lt_succ_self _, hx⟩

theorem ScanInv.mono {all : List Expr} {i : Nat} {s : Scan} (h : ScanInv all i s) : ScanInv all (i + 1) s :=
  ⟨scan_field_step h.direct (Or.inl rfl), scan_field_step h.indirect (Or.inl rfl), scan_field_step h.require (Or.inl rfl), h.ne⟩

theorem ScanInv.step {all : List Expr} {i : Nat} {s s' : Scan} (h : ScanInv all i s) (hx : ReqAt all i)
    (h1 : s'.lastDirect = s.lastDirect ∨ s'.lastDirect = some i) (h2 : s'.lastIndirect = s.lastIndirect ∨ s'.lastIndirect = some i)
    (h3 : s'.lastRequire = s.lastRequire ∨ s'.lastRequire = some i)
    (h4 : ¬(s'.lastDirect = some i ∧ s'.lastIndirect = some i)) : ScanInv all (i + 1) s' := by
  refine ⟨scan_field_step h.direct (h1.imp_right fun e => ⟨e, hx⟩), scan_field_step h.indirect (h2.imp_right fun e => ⟨e, hx⟩),
    scan_field_step h.require (h3.imp_right fun e => ⟨e, hx⟩), ?_⟩
  intro d j hd hj
  rcases h1 with e1 | e1 <;> rcases h2 with e2 | e2
  · rw [e1] at hd; rw [e2] at hj; exact h.ne d j hd hj
  · rw [e1] at hd; rw [e2] at hj; cases hj
    exact Nat.ne_of_lt (h.direct d hd).1
  · rw [e1] at hd; rw [e2] at hj; cases hd
    exact Nat.ne_of_gt (h.indirect j hj).1
  · exact absurd ⟨e1, e2⟩ h4

theorem scanBlockLines_false_left : ∀ (ls : List Line) (i : Bool), (scanBlockLines ls false i).1 = false := by
  intro ls
  induction ls with
  | nil => intro i; rfl
  | cons l ls ih =>
    intro i
    unfold scanBlockLines
    split
    · exact ih _
    · split
      · exact ih _
      · exact ih _

theorem scanBlockLines_false_right : ∀ (ls : List Line) (d : Bool), (scanBlockLines ls d false).2 = false := by
  intro ls
  induction ls with
  | nil => intro i; rfl
  | cons l ls ih =>
    intro d
    unfold scanBlockLines
    split
    · exact ih _
    · split
      · exact ih _
      · exact ih _

theorem scanBlockLines_not_both (ls : List Line) (init : Bool) (hinit : init = true → ls ≠ []) :
    ¬((scanBlockLines ls init init).1 = true ∧ (scanBlockLines ls init init).2 = true) := by
  rintro ⟨h1, h2⟩
  cases ls with
  | nil =>
    simp only [scanBlockLines] at h1
    exact hinit h1 rfl
  | cons l ls =>
    unfold scanBlockLines at h1 h2
    by_cases hc : hasComments l.comments = true
    · rw [if_pos hc] at h1; rw [scanBlockLines_false_left] at h1; cases h1
    · rw [if_neg hc] at h1 h2
      by_cases hi : isIndirect l = true
      · rw [if_pos hi] at h1; rw [scanBlockLines_false_left] at h1; cases h1
      · rw [if_neg hi] at h2; rw [scanBlockLines_false_right] at h2; cases h2

theorem ScanInv.step2 {all : List Expr} {i : Nat} {s : Scan} (h : ScanInv all i s) (hx : ReqAt all i) (nd ni : Bool)
    (hnb : ¬(nd = true ∧ ni = true)) (s' : Scan) (h1 : s'.lastDirect = if nd then some i else s.lastDirect)
    (h2 : s'.lastIndirect = if ni then some i else s.lastIndirect) (h3 : s'.lastRequire = some i) : ScanInv all (i + 1) s' := by
  refine h.step hx ?_ ?_ (Or.inr h3) ?_
  · rw [h1]; cases nd
    · exact Or.inl rfl
    · exact Or.inr rfl
  · rw [h2]; cases ni
    · exact Or.inl rfl
    · exact Or.inr rfl
  · rintro ⟨e1, e2⟩
    rw [h1] at e1; rw [h2] at e2
    cases nd with
    | false =>
      simp only [Bool.false_eq_true, if_false] at e1
      have := (h.direct _ e1).1; omega
    | true =>
      cases ni with
      | false =>
        simp only [Bool.false_eq_true, if_false] at e2
        have := (h.indirect _ e2).1; omega
      | true => exact hnb ⟨rfl, rfl⟩

theorem scanStmts_inv (all : List Expr) : ∀ (xs pre : List Expr) (s : Scan), all = pre ++ xs → ScanInv all pre.length s →
    ScanInv all all.length (scanStmts xs pre.length s) := by
  intro xs
  induction xs with
  | nil =>
    intro pre s hall h
    simp only [scanStmts]
    have : all.length = pre.length := by rw [hall]; simp
    rw [this]; exact h
  | cons x xs ih =>
    intro pre s hall h
    have hall' : all = (pre ++ [x]) ++ xs := by rw [hall]; simp
    have hlen : (pre ++ [x]).length = pre.length + 1 := by simp
    have hget : all[pre.length]? = some x := by
      rw [hall, List.getElem?_append_right (Nat.le_refl _)]; simp
    have next : ∀ s', ScanInv all (pre.length + 1) s' → ScanInv all all.length (scanStmts xs (pre.length + 1) s') := by
      intro s' hs'
      have := ih (pre ++ [x]) s' hall' (by rw [hlen]; exact hs')
      rw [hlen] at this; exact this
    cases x with
    | line l =>
      unfold scanStmts
      by_cases hc : (l.token.isEmpty || !headIs l.token (B "require")) = true
      · rw [if_pos hc]; exact next _ h.mono
      · rw [if_neg hc]
        simp only [Bool.or_eq_true, not_or, Bool.not_eq_true, Bool.not_eq_true'] at hc
        have hreq : ReqAt all pre.length := ⟨_, hget, by
          refine ⟨?_, by simpa using hc.2⟩
          intro e; rw [e] at hc; simp at hc⟩
        apply next
        dsimp only
        refine h.step2 hreq (!hasComments l.comments && !isIndirect l) (!hasComments l.comments && isIndirect l) ?_ _ ?_ ?_ ?_
        · cases hasComments l.comments <;> cases isIndirect l <;> simp
        · cases hasComments l.comments <;> cases isIndirect l <;> simp
        · cases hasComments l.comments <;> cases isIndirect l <;> simp
        · cases hasComments l.comments <;> cases isIndirect l <;> simp
    | lineBlock b =>
      unfold scanStmts
      by_cases hc : (b.token.isEmpty || !headIs b.token (B "require")) = true
      · rw [if_pos hc]; exact next _ h.mono
      · rw [if_neg hc]
        simp only [Bool.or_eq_true, not_or, Bool.not_eq_true, Bool.not_eq_true'] at hc
        have hreq : ReqAt all pre.length := ⟨_, hget, by simpa [ReqStmt] using hc.2⟩
        have hnb := scanBlockLines_not_both b.lines (!b.lines.isEmpty && !hasComments b.comments) (by
          intro hi e; rw [e] at hi; simp at hi)
        apply next
        dsimp only
        generalize scanBlockLines b.lines (!b.lines.isEmpty && !hasComments b.comments) (!b.lines.isEmpty && !hasComments b.comments) = r at hnb ⊢
        rcases r with ⟨ad, ai⟩
        refine h.step2 hreq ad ai hnb _ ?_ ?_ ?_
        · cases ad <;> cases ai <;> simp
        · cases ad <;> cases ai <;> simp
        · cases ad <;> cases ai <;> simp
    | commentBlock c => unfold scanStmts; exact next _ h.mono
    | lparen c => unfold scanStmts; exact next _ h.mono
    | rparen c => unfold scanStmts; exact next _ h.mono

theorem scan_inv (stmts : List Expr) : ScanInv stmts stmts.length (scanStmts stmts 0 {}) := by
  have h0 : ScanInv stmts ([] : List Expr).length {} := by
    refine ⟨fun _ h => ?_, fun _ h => ?_, fun _ h => ?_, fun _ _ h => ?_⟩ <;> cases h
  exact scanStmts_inv stmts stmts [] {} (by simp) h0

end ModVerif.Modfile.Edit
