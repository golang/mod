/-
  C20, `lax_ignores_unknown` at the level of input bytes — the VALUES of the lax directive layer
  (module path / deprecation, go version, require (path, version, indirect), retract (interval,
  rationale), and the kinds of the reported errors) do not depend on the positions and line identities
  of the statements: two statement lists that agree after erasing every position and every line id
  give the same values, from any two states with the same values.  With `addStmts_lax_filter`:
  inserting ignored statements in the middle and shifting what follows does not change the values.
  At the end: from the statement lists of the two parses to the typed values returned by ParseLax (no fixer).
-/
import Batteries.Data.List.Basic
import ModVerif.Proofs.ModfileC20AppendLex
import ModVerif.Proofs.ModfileC20Rule
import ModVerif.Proofs.ModfileC20Lax
namespace ModVerif.Proofs.ModfileC20Append
open ModVerif ModVerif.Modfile ModVerif.Proofs.ModfileRule ModVerif.Proofs.ModfileC20

/-! ### erasing positions and line identities -/

def erL (l : Line) : Line := { l with id := 0, start := {}, «end» := {} }

def erB (b : LineBlock) : LineBlock :=
  { b with start := {}, lparen := { b.lparen with pos := {} }, lines := b.lines.map erL,
           rparen := { b.rparen with pos := {} } }

def erE : Expr → Expr
  | .line l => .line (erL l)
  | .lineBlock b => .lineBlock (erB b)
  | e => e

theorem erL_shLine (s : Sh) (l : Line) : erL (shLine s l) = erL l := rfl

theorem erB_shBlock (s : Sh) (b : LineBlock) : erB (shBlock s b) = erB b := by
  simp only [erB, shBlock, List.map_map]
  congr 1

theorem erE_shE (s : Sh) (x : Expr) : erE (shE s x) = erE x := by
  cases x with
  | line l => rfl
  | lineBlock b => simp only [shE, erE, erB_shBlock]
  | commentBlock c => rfl
  | lparen c => rfl
  | rparen c => rfl

theorem erL_comments {l l' : Line} (h : erL l = erL l') : l.comments = l'.comments := by
  have := congrArg Line.comments h; exact this

theorem laxIgnored_shE (s : Sh) (x : Expr) : laxIgnored (shE s x) = laxIgnored x := by
  cases x <;> rfl

/-! ### the values and the state relation -/

def vals (f : File) :
    Option (ModVersion × Bytes) × Option Bytes × List (ModVersion × Bool) × List (VersionInterval × Bytes) :=
  (f.module.map (fun m => (m.mod, m.deprecated)), f.go.map (·.version),
   f.require.map (fun r => (r.mod, r.indirect)), f.retract.map (fun r => (r.interval, r.rationale)))

def V (st st' : AddState) : Prop :=
  vals st.file = vals st'.file ∧ st.errsRev.map (·.kind) = st'.errsRev.map (·.kind)

theorem V.refl (st : AddState) : V st st := ⟨rfl, rfl⟩

theorem isSome_of_map_eq {α β γ : Type} {f : α → γ} {g : β → γ} {a : Option α} {b : Option β}
    (h : a.map f = b.map g) : a.isSome = b.isSome := by
  cases a <;> cases b <;> simp at h ⊢

macro "v_leaf" : tactic =>
  `(tactic| (first
      | (simp [V, vals, AddState.err, *]; done)
      | (simp_all [V, vals, AddState.err]; done)))

theorem addGo_V (st st' : AddState) (l l' : Line) (args : List Bytes) (h : V st st') :
    V (addGo st l args false).1 (addGo st' l' args false).1 := by
  obtain ⟨hv, he⟩ := h
  simp only [vals, Prod.mk.injEq] at hv
  obtain ⟨hm, hg, hr, ht⟩ := hv
  have hs := isSome_of_map_eq hg
  unfold addGo
  simp only [hs, Bool.false_eq_true, if_false]
  repeat' (first | split | (dsimp only))
  all_goals v_leaf

theorem addModule_V (st st' : AddState) (block : Option Comments) (l l' : Line) (args : List Bytes)
    (hc : l.comments = l'.comments) (h : V st st') :
    V (addModule st block l args).1 (addModule st' block l' args).1 := by
  obtain ⟨hv, he⟩ := h
  simp only [vals, Prod.mk.injEq] at hv
  obtain ⟨hm, hg, hr, ht⟩ := hv
  have hs := isSome_of_map_eq hm
  unfold addModule
  simp only [hs, hc]
  repeat' (first | split | (dsimp only))
  all_goals v_leaf

theorem isIndirect_congr {l l' : Line} (hc : l.comments = l'.comments) : isIndirect l = isIndirect l' := by
  unfold isIndirect; rw [hc]

theorem addReqExc_V (st st' : AddState) (l l' : Line) (args : List Bytes) (fix : Option Fixer)
    (hc : l.comments = l'.comments) (h : V st st') :
    V (addReqExc st l (B "require") args fix).1 (addReqExc st' l' (B "require") args fix).1 := by
  obtain ⟨hv, he⟩ := h
  simp only [vals, Prod.mk.injEq] at hv
  obtain ⟨hm, hg, hr, ht⟩ := hv
  have hi := isIndirect_congr hc
  unfold addReqExc
  simp only [beq_self_eq_true, if_true, hi]
  repeat' (first | split | (dsimp only))
  all_goals v_leaf

theorem addRetractV_V (st st' : AddState) (block : Option Comments) (l l' : Line) (args : List Bytes)
    (hc : l.comments = l'.comments) (h : V st st') :
    V (addRetractV st block l args false).1 (addRetractV st' block l' args false).1 := by
  obtain ⟨hv, he⟩ := h
  simp only [vals, Prod.mk.injEq] at hv
  obtain ⟨hm, hg, hr, ht⟩ := hv
  unfold addRetractV
  simp only [hc, Bool.and_false, Bool.false_eq_true, if_false]
  repeat' (first | split | (dsimp only))
  all_goals v_leaf

theorem add_V (st st' : AddState) (block : Option Comments) (l l' : Line) (verb : Bytes) (args : List Bytes)
    (fix : Option Fixer) (hc : l.comments = l'.comments) (h : V st st') :
    V (File.add st block l verb args fix false).1 (File.add st' block l' verb args fix false).1 := by
  cases hv : verbIn verb laxVerbs with
  | false => rw [add_lax_ignores _ _ _ _ _ _ hv, add_lax_ignores _ _ _ _ _ _ hv]; exact h
  | true =>
    rcases verbIn_lax_cases hv with rfl | rfl | rfl | rfl
    · rw [add_go_eq, add_go_eq]; exact addGo_V st st' l l' args h
    · rw [add_module_eq, add_module_eq]; exact addModule_V st st' block l l' args hc h
    · rw [add_retract_eq, add_retract_eq]; exact addRetractV_V st st' block l l' args hc h
    · rw [add_require_eq, add_require_eq]; exact addReqExc_V st st' l l' args fix hc h

/-! ### the statement loop on two lists that agree up to positions and line identities -/

open ModVerif.Proofs.ModfileWalk

/-- `erE` on the calls of the loop -/
def erC : Call → Call
  | .add blk l verb args pre => .add blk (erL l) verb args pre
  | .bad b => .bad (erB b)
  | .skip l => .skip (erL l)

theorem callsOf_erE (known : Bytes → Bool) (x : Expr) : callsOf known (erE x) = (callsOf known x).map erC := by
  cases x with
  | line l => rcases ht : l.token with _ | ⟨verb, args⟩ <;> simp [erE, callsOf, erL, erC, ht]
  | lineBlock b =>
    rcases ht : b.token with _ | ⟨verb, _ | ⟨v2, r⟩⟩
    · simp [erE, callsOf, erB, erC, ht]
    · cases hk : known verb <;> simp [erE, callsOf, erB, erC, erL, ht, hk]
    · simp [erE, callsOf, erB, erC, ht]
  | _ => rfl

theorem calls_erE (known : Bytes → Bool) (xs : List Expr) : calls known (xs.map erE) = (calls known xs).map erC := by
  simp only [calls, List.flatMap_map, List.map_flatMap, callsOf_erE]

theorem addCall_V (fix : Option Fixer) (c d : Call) (he : erC c = erC d) (st st' : AddState) (h : V st st') :
    V (addCall fix false st c) (addCall fix false st' d) := by
  cases c <;> cases d <;> simp only [erC, Call.add.injEq, reduceCtorEq] at he
  · obtain ⟨rfl, hl, rfl, rfl, -⟩ := he
    exact add_V st st' _ _ _ _ _ fix (erL_comments hl) h
  · exact h
  · exact h

theorem addStmts_vals (fix : Option Fixer) (xs ys : List Expr) (st st' : AddState) (hxy : xs.map erE = ys.map erE)
    (h : V st st') : V (addStmts fix false st xs).1 (addStmts fix false st' ys).1 := by
  rw [addStmts_fst, addStmts_fst]
  refine foldl_rel_of_map_eq erC _ _ (addCall_V fix) _ _ ?_ st st' h
  rw [← calls_erE, ← calls_erE, hxy]

/-! ### inserting ignored statements, shifting what follows -/

theorem addStmts_lax_drop (fix : Option Fixer) (A I C : List Expr) (st : AddState)
    (hI : ∀ x ∈ I, laxIgnored x = true) :
    (addStmts fix false st (A ++ I ++ C)).1 = (addStmts fix false st (A ++ C)).1 := by
  rw [addStmts_lax_filter fix (A ++ I ++ C), addStmts_lax_filter fix (A ++ C)]
  have : I.filter (fun x => !laxIgnored x) = [] := by
    rw [List.filter_eq_nil_iff]
    intro x hx
    simp [hI x hx]
  simp only [List.filter_append, this, List.append_nil]

/-- `lax_ignores_unknown_values` (Props/C20) -/
theorem lax_vals_insert (fix : Option Fixer) (A B I : List Expr) (s1 s2 : Sh) (st st' : AddState)
    (hV : V st st') (hI : ∀ x ∈ I, laxIgnored x = true) :
    V (addStmts fix false st (A ++ B.map (shE s1))).1 (addStmts fix false st' (A ++ I ++ B.map (shE s2))).1 := by
  rw [addStmts_lax_drop fix A I _ st' hI]
  refine addStmts_vals fix _ _ st st' ?_ hV
  simp only [List.map_append, List.map_map]
  congr 2
  funext x
  simp only [Function.comp, erE_shE]

/-! ### non-vacuity -/

example : V {} {} := V.refl _

example : ∀ x ∈ [Expr.line { token := [B "tool", B "x"] }], laxIgnored x = true := by
  decide +kernel

example : List.Forall₂ (fun x y => erE x = erE y)
    [Expr.line { id := 3, start := ⟨4, 1, 20⟩, token := [B "go", B "1.21"], «end» := ⟨4, 8, 27⟩ }]
    [Expr.line { id := 0, start := ⟨1, 1, 0⟩, token := [B "go", B "1.21"], «end» := ⟨1, 8, 7⟩ }] :=
  List.Forall₂.cons rfl List.Forall₂.nil

end ModVerif.Proofs.ModfileC20Append

namespace ModVerif.Proofs.ModfileC20Append
open ModVerif ModVerif.Modfile ModVerif.Proofs.ModfileC20

theorem parseToFile_insert (name x x' : Bytes) (t t' : FileSyntax) (A B I : List Expr) (s1 s2 : Sh)
    (hx : parse name x = .ok t) (hx' : parse name x' = .ok t')
    (ht : t.stmts = A ++ B.map (shE s1)) (ht' : t'.stmts = A ++ I ++ B.map (shE s2))
    (hI : ∀ y ∈ I, laxIgnored y = true) (f : File) (hf : parseToFile name x none false = .ok f) :
    ∃ f', parseToFile name x' none false = .ok f' ∧ vals f' = vals f := by
  obtain ⟨fs, S, out, hp, hS, hnil, rfl⟩ := ModfileParseTo.parseToFile_ok_iff.1 hf
  cases hx.symm.trans hp
  cases hS' : addStmts none false { file := { syn := t' } } t'.stmts with
  | mk S' out' =>
    have hV := lax_vals_insert none A B I s1 s2 { file := { syn := t } } { file := { syn := t' } } ⟨rfl, rfl⟩ hI
    rw [← ht, ← ht', hS, hS'] at hV
    obtain ⟨hv, he⟩ := hV
    have hnil' : S'.errsRev = [] := by
      have hS0 : S.errsRev = [] := hnil
      rw [hS0] at he
      exact List.map_eq_nil_iff.1 he.symm
    exact ⟨_, ModfileParseTo.parseToFile_ok_iff.2 ⟨t', S', out', hx', hS', hnil', rfl⟩, hv.symm⟩

end ModVerif.Proofs.ModfileC20Append
