/-
  Tie proofs for sumdb/tlog/tile.go: `ReadTileData`.
-/
import ModVerif.Proofs.TieFnTile
import ModVerif.Proofs.TieFnTileHash
set_option linter.unusedSimpArgs false
namespace ModVerif.TieFnTile
open ModVerif ModVerif.GoRt ModVerif.GoRtTile ModVerif.TieFnTlogInt

theorem storedHashIndex_mono (l a b : Nat) (h : a ≤ b) : Tlog.storedHashIndex l a ≤ Tlog.storedHashIndex l b := by
  rw [Tlog.storedHashIndex_eq, Tlog.storedHashIndex_eq]
  have h1 : (a + 1) * 2 ^ l ≤ (b + 1) * 2 ^ l := Nat.mul_le_mul_right _ (by omega)
  have := TlogStore.S_mono ((b + 1) * 2 ^ l - 1) ((a + 1) * 2 ^ l - 1) (by omega)
  omega

theorem le_storedHashIndex (l k : Nat) : k + l ≤ Tlog.storedHashIndex l k := by
  rw [Tlog.storedHashIndex_eq]
  have h1 := TlogStore.le_S ((k + 1) * 2 ^ l - 1)
  have h2 : (k + 1) * 1 ≤ (k + 1) * 2 ^ l := Nat.mul_le_mul_left _ (Nat.two_pow_pos l)
  omega

/-- the stored-hash indexes of the hashes of a tile (the model's list) -/
def rtdIndexes (t : Tile.Tile) : List Nat :=
  (List.range (if t.w == 0 then 2 ^ t.h else t.w)).map fun i => Tlog.storedHashIndex (t.h * t.l) (t.n <<< t.h + i)

section
variable {H : Type} [DecidableEq H] [Inhabited H] (toBytes : H → Bytes)

/-- `for i := 0; i < size; i++ { indexes[i] = StoredHashIndex(t.H*t.L, start+int64(i)) }` -/
theorem ReadTileData_loop1_eq (t : Tile.Tile) (hd : t.data = false) (size start : Nat)
    (hlv : t.h * t.l < 2 ^ 63) (hsz : size < 2 ^ 63)
    (hr : ∀ i, i < size → Tlog.storedHashIndex (t.h * t.l) (start + i) < 2 ^ 63) :
    ∀ (d i fuel : Nat) (pre : List Int), i + d = size → pre.length = i → d + 64 ≤ fuel →
    Generated.Tile.ReadTileData_loop1 (H := H) toBytes (toGen t) (size : Int) (start : Int) fuel
        (pre ++ List.replicate d (0 : Int)) (i : Int) =
      .ok (pre ++ (List.range' i d).map (fun j => ((Tlog.storedHashIndex (t.h * t.l) (start + j) : Nat) : Int)), (size : Int)) := by
  intro d
  induction d with
  | zero =>
    intro i fuel pre hi hp hf
    obtain ⟨g, rfl⟩ : ∃ g, fuel = g + 1 := ⟨fuel - 1, by omega⟩
    have e : i = size := by omega
    subst e
    have : ¬ ((i : Int) < (i : Int)) := by omega
    rw [Generated.Tile.ReadTileData_loop1]
    simp only [this, decide_false, Bool.false_eq_true, ↓reduceIte, mpure, List.replicate_zero, List.append_nil,
      List.range'_zero, List.map_nil]
  | succ d ih =>
    intro i fuel pre hi hp hf
    obtain ⟨g, rfl⟩ : ∃ g, fuel = g + 1 := ⟨fuel - 1, by omega⟩
    have hlt : ((i : Int) < (size : Int)) := by omega
    have hri := hr i (by omega)
    have hle := le_storedHashIndex (t.h * t.l) (start + i)
    have e1 : (t.h : Int) * (t.l : Int) = ((t.h * t.l : Nat) : Int) := by simp
    have e2 : (start : Int) + (i : Int) = ((start + i : Nat) : Int) := by omega
    have e3 : (i : Int) + 1 = ((i + 1 : Nat) : Int) := rfl
    have hset := hp ▸ setIdxL_fill pre d (0 : Int) ((Tlog.storedHashIndex (t.h * t.l) (start + i) : Nat) : Int)
    rw [Generated.Tile.ReadTileData_loop1]
    simp only [hlt, decide_true, ↓reduceIte, toGen, hd, Bool.false_eq_true, e1, chk64_natCast hlv, mbind_ok, e2,
      chk64_natCast (show start + i < 2 ^ 63 by omega), StoredHashIndex_eq g _ _ hri (by omega), hset, e3,
      chk64_natCast (show i + 1 < 2 ^ 63 by omega)]
    have := ih (i + 1) g (pre ++ [((Tlog.storedHashIndex (t.h * t.l) (start + i) : Nat) : Int)]) (by omega) (by simp; omega)
      (by omega)
    simp only [toGen, hd, Bool.false_eq_true, ↓reduceIte] at this
    rw [this, List.range'_succ]
    simp

/-- `for i := 0; i < size; i++ { copy(tile[i*HashSize:], hashes[i][:]) }` for 32-byte hashes -/
theorem ReadTileData_loop2_eq (hb : ∀ x : H, (toBytes x).length = 32) (hashes : List H) (size : Nat)
    (hs : hashes.length = size) (hsz : 32 * size < 2 ^ 63) :
    ∀ (d i fuel : Nat) (pre : Bytes), i + d = size → pre.length = 32 * i → d < fuel →
    Generated.Tile.ReadTileData_loop2 toBytes (size : Int) hashes fuel (pre ++ List.replicate (32 * d) (0 : UInt8)) (i : Int) =
      .ok (pre ++ ((hashes.drop i).map toBytes).flatten, (size : Int)) := by
  intro d
  induction d with
  | zero =>
    intro i fuel pre hi hp hf
    obtain ⟨g, rfl⟩ : ∃ g, fuel = g + 1 := ⟨fuel - 1, by omega⟩
    have e : i = size := by omega
    subst e
    have : ¬ ((i : Int) < (i : Int)) := by omega
    rw [Generated.Tile.ReadTileData_loop2]
    simp only [this, decide_false, Bool.false_eq_true, ↓reduceIte, mpure, Nat.mul_zero, List.replicate_zero, List.append_nil]
    rw [List.drop_of_length_le (by omega)]
    simp
  | succ d ih =>
    intro i fuel pre hi hp hf
    obtain ⟨g, rfl⟩ : ∃ g, fuel = g + 1 := ⟨fuel - 1, by omega⟩
    have hlt : ((i : Int) < (size : Int)) := by omega
    have hil : i < hashes.length := by omega
    have e1 : (i : Int) * 32 = ((32 * i : Nat) : Int) := by omega
    have e3 : (i : Int) + 1 = ((i + 1 : Nat) : Int) := rfl
    have hcopy : copyAt (pre ++ List.replicate (32 * (d + 1)) (0 : UInt8)) ((32 * i : Nat) : Int) (toBytes hashes[i]) =
        .ok ((pre ++ toBytes hashes[i]) ++ List.replicate (32 * d) (0 : UInt8)) := by
      have hlen : (pre ++ List.replicate (32 * (d + 1)) (0 : UInt8)).length = 32 * i + 32 * (d + 1) := by simp [hp]
      have hc : ¬ (((32 * i : Nat) : Int) < 0 ∨ ((32 * i : Nat) : Int) > len (pre ++ List.replicate (32 * (d + 1)) (0 : UInt8))) := by
        simp only [len, hlen, Int.ofNat_eq_natCast]; omega
      have hmin : min (32 * i + 32 * (d + 1) - 32 * i) 32 = 32 := by omega
      simp only [copyAt, hc, ↓reduceIte, Int.toNat_natCast, hlen, hb, hmin]
      show Except.ok _ = Except.ok _
      congr 1
      rw [← hp, List.take_left' rfl, List.take_of_length_le (by rw [hb]; exact Nat.le_refl _), List.drop_append,
        List.drop_replicate]
      rw [List.drop_of_length_le (by omega), List.nil_append]
      congr 2
      omega
    rw [Generated.Tile.ReadTileData_loop2]
    simp only [hlt, decide_true, ↓reduceIte, idxL_natCast hil, mbind_ok, e1, chk64_natCast (show 32 * i < 2 ^ 63 by omega),
      hcopy, e3, chk64_natCast (show i + 1 < 2 ^ 63 by omega)]
    rw [ih (i + 1) g (pre ++ toBytes hashes[i]) (by omega) (by simp [hp, hb]; omega) (by omega)]
    rw [List.drop_eq_getElem_cons hil, List.map_cons, List.flatten_cons, List.append_assoc]

/-- the model's answer in the result type of the generated `ReadTileData` (tile data as flat bytes); the error is the
    reader's own error or the "wrong number of hashes" message (`readErrOf`) -/
def rtdOut (r : List Int → List H × Option String) (t : Tile.Tile) : Except Tlog.Err (List H) → Bytes × Option String
  | .ok hs => ((hs.map toBytes).flatten, none)
  | .error _ => ([], readErrOf r (rtdIndexes t))

/-- `ReadTileData(t, r)` for an ordinary (non-data) tile, 32-byte hashes (`toBytes`), `H ≤ 62`, `size*HashSize` an
    int64, every stored-hash index of the tile an int64 (`hr`: the last one suffices, they increase) -/
theorem ReadTileData_eq (hb : ∀ x : H, (toBytes x).length = 32) (fuel : Nat) (t : Tile.Tile)
    (r : List Int → List H × Option String) (hd : t.data = false) (hh : t.h ≤ 62)
    (hsz : 32 * (if t.w == 0 then 2 ^ t.h else t.w) < 2 ^ 63)
    (hr : Tlog.storedHashIndex (t.h * t.l) (t.n <<< t.h + (if t.w == 0 then 2 ^ t.h else t.w) - 1) < 2 ^ 63)
    (hf : (if t.w == 0 then 2 ^ t.h else t.w) + 65 ≤ fuel) :
    Generated.Tile.ReadTileData toBytes fuel (toGen t) r =
      .ok (rtdOut toBytes r t (Tile.readTileData t (readerOf r))) := by
  have hp : 2 ^ t.h < 2 ^ 63 := Nat.pow_lt_pow_right (by omega) (by omega)
  have hpos : 0 < 2 ^ t.h := Nat.two_pow_pos _
  -- the size
  generalize hsize : (if t.w == 0 then 2 ^ t.h else t.w) = size at hsz hr hf
  have hsize_pos : 0 < size := by
    rw [← hsize]; split
    · exact hpos
    · rename_i h; simp at h; omega
  generalize hstart : t.n <<< t.h = start at hr
  have hlast := le_storedHashIndex (t.h * t.l) (start + size - 1)
  have hri : ∀ i, i < size → Tlog.storedHashIndex (t.h * t.l) (start + i) < 2 ^ 63 := by
    intro i hi
    exact Nat.lt_of_le_of_lt (storedHashIndex_mono _ _ _ (by omega)) hr
  have hidx : rtdIndexes t = (List.range size).map fun i => Tlog.storedHashIndex (t.h * t.l) (start + i) := by
    simp only [rtdIndexes, hsize, hstart]
  have hN : (toGen t).N = (t.n : Int) := rfl
  have hH : (toGen t).H = (t.h : Int) := rfl
  have hW : (toGen t).W = (t.w : Int) := rfl
  have hst : t.n * 2 ^ t.h = start := by rw [← hstart, Nat.shiftLeft_eq]
  have hl1 := ReadTileData_loop1_eq (H := H) toBytes t hd size start
    (by have := le_storedHashIndex (t.h * t.l) (start + size - 1); omega) (by omega) hri size 0 fuel [] (by omega) rfl (by omega)
  simp only [List.nil_append, Int.natCast_zero] at hl1
  have hmapidx : (List.range' 0 size).map (fun j => ((Tlog.storedHashIndex (t.h * t.l) (start + j) : Nat) : Int)) =
      (rtdIndexes t).map Int.ofNat := by
    rw [hidx, List.map_map, List.range_eq_range']
    rfl
  rw [hmapidx] at hl1
  have hmodel : Tile.readTileData t (readerOf r) = Tlog.readChecked (readerOf r) (rtdIndexes t) := rfl
  have hlenidx : (rtdIndexes t).length = size := by rw [hidx]; simp
  have e32 : (size : Int) * 32 = ((32 * size : Nat) : Int) := by omega
  have hsz63 : size < 2 ^ 63 := by omega
  rw [hmodel]
  unfold Generated.Tile.ReadTileData
  -- both branches of `if size == 0 { size = 1 << uint(t.H) }` call the same continuation `k13`, with `size`
  extract_lets sz i0 k13
  have key : k13 (size : Int) = .ok (rtdOut toBytes r t (Tlog.readChecked (readerOf r) (rtdIndexes t))) := by
    simp only [k13, i0, hN, hH, toU64_natCast (show t.h < 2 ^ 64 by omega), shl_natCast, hst,
      chk64_natCast (show start < 2 ^ 63 by omega), mbind_ok, makeList_natCast, hl1]
    unfold Tlog.readChecked readerOf
    generalize hrr : r ((rtdIndexes t).map Int.ofNat) = res
    obtain ⟨hashes, err⟩ := res
    cases err with
    | some e => simp [rtdOut, readErrOf, hrr, mpure]
    | none =>
      simp only [Option.isNone_none, Bool.not_true, Bool.false_eq_true, ↓reduceIte]
      by_cases hl : hashes.length = size
      · have hl' : (len hashes = len ((rtdIndexes t).map Int.ofNat)) := by
          simp only [len, List.length_map, hlenidx, hl]
        have hne : (hashes.length != (rtdIndexes t).length) = false := by simp [hlenidx, hl]
        have hl2 := ReadTileData_loop2_eq toBytes hb hashes size hl hsz size 0 fuel [] (by omega) rfl (by omega)
        simp only [List.nil_append, Int.natCast_zero, List.drop_zero] at hl2
        simp only [hl', decide_true, Bool.not_true, Bool.false_eq_true, ↓reduceIte, e32, chk64_natCast hsz, mbind_ok,
          makeList_natCast, hl2, mpure, hne, rtdOut]
      · have hl' : ¬ (len hashes = len ((rtdIndexes t).map Int.ofNat)) := by
          simp only [len, List.length_map, hlenidx, Int.ofNat_eq_natCast]; omega
        have hne : (hashes.length != (rtdIndexes t).length) = true := by simp [hlenidx, hl]
        simp only [hl', decide_false, Bool.not_false, ↓reduceIte, mpure, hne, rtdOut, readErrOf, hrr]
  by_cases hw0 : t.w = 0
  · have hs2 : size = 2 ^ t.h := by rw [← hsize]; simp [hw0]
    have hwz : ((t.w : Int) = 0) := by omega
    simp only [sz, hW, hwz, decide_true, ↓reduceIte, hH, toU64_natCast (show t.h < 2 ^ 64 by omega), shl_one_natCast, ← hs2,
      chk64_natCast hsz63, mbind_ok]
    exact key
  · have hs2 : size = t.w := by rw [← hsize]; simp [hw0]
    have hwz : ¬ ((size : Int) = 0) := by omega
    simp only [sz, hW, ← hs2, hwz, decide_false, Bool.false_eq_true, ↓reduceIte]
    exact key

end
end ModVerif.TieFnTile
