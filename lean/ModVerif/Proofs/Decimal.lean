/-
  Helper lemmas on the decimal model: `parseDigits ∘ formatNat`, `parseInt64 ∘ formatInt`,
  the characters and the length of a formatted number, `pad3`.
-/
import ModVerif.Basic.Decimal
namespace ModVerif.Decimal
open ModVerif

theorem digitChar_toNat (d : Nat) (h : d < 10) : (digitChar d).toNat = 48 + d := by
  simp only [digitChar, UInt8.toNat_ofNat']
  omega

theorem isDigit_digitChar (d : Nat) (h : d < 10) : isDigit (digitChar d) = true := by
  simp only [isDigit, digitChar_toNat d h, Bool.and_eq_true, decide_eq_true_eq]
  omega

theorem isDigit_range (c : UInt8) (h : isDigit c = true) : 48 ≤ c.toNat ∧ c.toNat ≤ 57 := by
  simpa [isDigit] using h

theorem isDigit_ne (c : UInt8) (h : isDigit c = true) (d : UInt8) (hd : d.toNat < 48 ∨ 57 < d.toNat) :
    c ≠ d := by
  intro e; subst e
  have := isDigit_range c h
  omega

theorem digitsAux_append : ∀ (f n : Nat) (acc : Bytes), digitsAux f n acc = digitsAux f n [] ++ acc := by
  intro f
  induction f with
  | zero => intro n acc; simp [digitsAux]
  | succ f ih =>
    intro n acc
    simp only [digitsAux]
    split
    · simp
    · rw [ih (n / 10) (digitChar (n % 10) :: acc), ih (n / 10) [digitChar (n % 10)]]
      simp

theorem digitsAux_succ_ne_nil (f n : Nat) (acc : Bytes) : digitsAux (f + 1) n acc ≠ [] := by
  simp only [digitsAux]
  split
  · simp
  · rw [digitsAux_append]; simp

theorem digitsAux_all (P : UInt8 → Prop) (hP : ∀ d, d < 10 → P (digitChar d)) :
    ∀ (f n : Nat) (acc : Bytes), (∀ c ∈ acc, P c) → ∀ c ∈ digitsAux f n acc, P c := by
  intro f
  induction f with
  | zero => intro n acc h; simpa [digitsAux] using h
  | succ f ih =>
    intro n acc h
    simp only [digitsAux]
    split
    · intro c hc
      rcases List.mem_cons.1 hc with rfl | hc
      · exact hP _ (by omega)
      · exact h c hc
    · apply ih
      intro c hc
      rcases List.mem_cons.1 hc with rfl | hc
      · exact hP _ (Nat.mod_lt _ (by omega))
      · exact h c hc

theorem parseDigitsAux_append : ∀ (l1 l2 : Bytes) (a : Nat),
    parseDigitsAux (l1 ++ l2) a = (parseDigitsAux l1 a).bind (parseDigitsAux l2) := by
  intro l1
  induction l1 with
  | nil => intro l2 a; simp [parseDigitsAux]
  | cons c l1 ih =>
    intro l2 a
    simp only [List.cons_append, parseDigitsAux]
    split
    · exact ih _ _
    · rfl

theorem parseDigitsAux_single (d a : Nat) (h : d < 10) :
    parseDigitsAux [digitChar d] a = some (a * 10 + d) := by
  simp [parseDigitsAux, isDigit_digitChar d h, digitChar_toNat d h]

theorem parseDigitsAux_digitsAux : ∀ (f n : Nat), n < f →
    parseDigitsAux (digitsAux f n []) 0 = some n := by
  intro f
  induction f with
  | zero => intro n h; omega
  | succ f ih =>
    intro n h
    simp only [digitsAux]
    split
    · rename_i h10
      rw [parseDigitsAux_single n 0 h10]; simp
    · rename_i h10
      rw [digitsAux_append, parseDigitsAux_append, ih (n / 10) (by omega)]
      simp only [Option.bind_some]
      rw [parseDigitsAux_single _ _ (Nat.mod_lt _ (by omega))]
      congr 1
      omega

theorem formatNat_ne_nil (n : Nat) : formatNat n ≠ [] := digitsAux_succ_ne_nil n n []

theorem formatNat_all_digits (n : Nat) : ∀ c ∈ formatNat n, isDigit c = true :=
  digitsAux_all (fun c => isDigit c = true) isDigit_digitChar (n + 1) n [] (by simp)

theorem parseDigits_formatNat (n : Nat) : parseDigits (formatNat n) = some n := by
  unfold parseDigits
  have hne := formatNat_ne_nil n
  cases h : formatNat n with
  | nil => exact absurd h hne
  | cons c rest =>
    rw [← h]
    simp only [h, List.isEmpty_cons, Bool.false_eq_true, if_false]
    rw [← h]
    exact parseDigitsAux_digitsAux (n + 1) n (by omega)

theorem formatNat_not_mem (n : Nat) (d : UInt8) (hd : d.toNat < 48 ∨ 57 < d.toNat) :
    d ∉ formatNat n :=
  fun h => isDigit_ne d (formatNat_all_digits n d h) d hd rfl

theorem formatNat_no_newline (n : Nat) : (10 : UInt8) ∉ formatNat n :=
  formatNat_not_mem n 10 (by decide)

theorem formatInt_no_newline (n : Int) : (10 : UInt8) ∉ formatInt n := by
  cases n with
  | ofNat k => exact formatNat_no_newline k
  | negSucc k =>
    simp only [formatInt, List.mem_cons, not_or]
    exact ⟨by decide, formatNat_no_newline (k + 1)⟩

theorem formatInt_ne_nil (n : Int) : formatInt n ≠ [] := by
  cases n with
  | ofNat k => exact formatNat_ne_nil k
  | negSucc k => simp [formatInt]

theorem parseInt64_of_digits (s : Bytes) (k : Nat) (hall : ∀ c ∈ s, isDigit c = true)
    (hp : parseDigits s = some k) (h : (k : Int) ≤ int64Max) : parseInt64 s = some (k : Int) := by
  cases s with
  | nil => simp [parseDigits] at hp
  | cons c rest =>
    have hc : isDigit c = true := hall c (by simp)
    have h43 : (c == 43) = false := by
      simpa using isDigit_ne c hc 43 (by decide)
    have h45 : (c == 45) = false := by
      simpa using isDigit_ne c hc 45 (by decide)
    simp only [parseInt64, h43, h45, hp, Bool.false_eq_true, if_false, h, if_true]

theorem parseInt64_formatNat (k : Nat) (h : (k : Int) ≤ int64Max) :
    parseInt64 (formatNat k) = some (k : Int) :=
  parseInt64_of_digits _ k (formatNat_all_digits k) (parseDigits_formatNat k) h

theorem parseInt64_formatInt (n : Int) (h1 : int64Min ≤ n) (h2 : n ≤ int64Max) :
    parseInt64 (formatInt n) = some n := by
  cases n with
  | ofNat k => exact parseInt64_formatNat k h2
  | negSucc k =>
    have hp := parseDigits_formatNat (k + 1)
    have hge : -((k + 1 : Nat) : Int) ≥ int64Min := by
      have : Int.negSucc k = -((k + 1 : Nat) : Int) := rfl
      rw [← this]; exact h1
    simp only [formatInt, parseInt64, hp]
    simp only [show ((45 : UInt8) == 43) = false by decide, Bool.false_eq_true, if_false,
      show ((45 : UInt8) == 45) = true by decide, if_true, hge]
    rfl

theorem digitsAux_length_le : ∀ (f n k : Nat), n < f → 1 ≤ k → n < 10 ^ k →
    (digitsAux f n []).length ≤ k := by
  intro f
  induction f with
  | zero => intro n k h; omega
  | succ f ih =>
    intro n k h hk hn
    simp only [digitsAux]
    split
    · simpa using hk
    · rename_i h10
      rw [digitsAux_append]
      simp only [List.length_append, List.length_cons, List.length_nil]
      have hk2 : 2 ≤ k := by
        rcases Nat.lt_or_ge k 2 with h' | h'
        · have : k = 1 := by omega
          subst this; simp at hn; omega
        · exact h'
      have : n / 10 < 10 ^ (k - 1) := by
        rw [Nat.div_lt_iff_lt_mul (by omega)]
        have : 10 ^ k = 10 ^ (k - 1) * 10 := by
          rw [← Nat.pow_succ]; congr 1; omega
        omega
      have := ih (n / 10) (k - 1) (by omega) (by omega) this
      omega

theorem formatNat_length_le (n k : Nat) (hk : 1 ≤ k) (hn : n < 10 ^ k) : (formatNat n).length ≤ k :=
  digitsAux_length_le (n + 1) n k (by omega) hk hn

theorem formatNat_length_pos (n : Nat) : 1 ≤ (formatNat n).length := by
  have := formatNat_ne_nil n
  cases h : formatNat n with
  | nil => exact absurd h this
  | cons c r => simp

theorem pad3_length (n : Nat) (h : n < 1000) : (pad3 n).length = 3 := by
  have := formatNat_length_le n 3 (by omega) (by omega)
  simp only [pad3, List.length_append, List.length_replicate]
  omega

theorem pad3_all_digits (n : Nat) : ∀ c ∈ pad3 n, isDigit c = true := by
  intro c hc
  simp only [pad3, List.mem_append, List.mem_replicate] at hc
  rcases hc with ⟨_, rfl⟩ | hc
  · decide
  · exact formatNat_all_digits n c hc

theorem parseDigitsAux_replicate_zero : ∀ (m : Nat) (l : Bytes),
    parseDigitsAux (List.replicate m 48 ++ l) 0 = parseDigitsAux l 0 := by
  intro m
  induction m with
  | zero => intro l; simp
  | succ m ih =>
    intro l
    simp only [List.replicate_succ, List.cons_append, parseDigitsAux]
    rw [if_pos (by decide)]
    simpa using ih l

theorem parseDigits_pad3 (n : Nat) : parseDigits (pad3 n) = some n := by
  have hne := formatNat_ne_nil n
  have hp := parseDigits_formatNat n
  unfold parseDigits at hp ⊢
  have h1 : (formatNat n).isEmpty = false := by simpa using hne
  have h2 : (pad3 n).isEmpty = false := by
    simp [pad3, hne]
  rw [h1] at hp
  rw [h2]
  simp only [Bool.false_eq_true, if_false] at hp ⊢
  simp only [pad3]
  rw [parseDigitsAux_replicate_zero]
  exact hp

theorem parseInt64_pad3 (n : Nat) (h : n < 1000) : parseInt64 (pad3 n) = some (n : Int) :=
  parseInt64_of_digits (pad3 n) n (pad3_all_digits n) (parseDigits_pad3 n) (by
    simp only [int64Max]; omega)

theorem pad3_ne_nil (n : Nat) : pad3 n ≠ [] := by
  simp [pad3, formatNat_ne_nil]

theorem pad3_not_mem (n : Nat) (d : UInt8) (hd : d.toNat < 48 ∨ 57 < d.toNat) : d ∉ pad3 n :=
  fun h => isDigit_ne d (pad3_all_digits n d h) d hd rfl

end ModVerif.Decimal
