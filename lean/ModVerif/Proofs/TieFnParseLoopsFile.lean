/-
  `input.parseFile` of the regenerated parser (the top-level loop: blank lines, comment blocks, EOF, statements) against
  the model's `parseFileLoop`.  The model accumulates the statements (reversed) and the pending comment block as values;
  the Go code appends to `in.file.Stmt` and keeps the pending `*CommentBlock` in `cb`.

  Loop invariant (`FInv`): the file object is `{ fo with Stmt := es }`, the statement pointers `es` reify to the model's
  statements (`RStmts`), block / comment-block pointers occur in allocation order (so no pointer is held twice), the
  number of Line objects is the model's line counter; the pending comment block is the LAST comment-block object and
  is not yet referenced (`CbRel`).  At the end the invariant gives the reification `RFile` of the graph as the model's
  statement list and the well-formedness `WF` of Proofs/TieFnParseHeap.lean.
-/
import ModVerif.Proofs.TieFnParseLoopsStmt
namespace ModVerif.TieFnParse
open ModVerif ModVerif.GoRt ModVerif.Modfile ModVerif.TieFnLex
open ModVerif.Tie.FnParseHeap
open ModVerif.Proofs.ModfileParse (m lex_spec)
open ModVerif.Proofs.ModfileC20 (linesOf idsOf)
open ModVerif.Drv.LexOps.G (isPrintI isSpaceI)
open ModVerif.Drv.LexOps.M (kindCode)

variable {f : Int} {pre post : List Generated.Parse.Expr}

theorem blockPtrs_append (a b : List Generated.Parse.Expr) : blockPtrs (a ++ b) = blockPtrs a ++ blockPtrs b := by
  induction a with
  | nil => rfl
  | cons e t ih => cases e <;> simp [blockPtrs, ih]

theorem cbPtrs_append (a b : List Generated.Parse.Expr) : cbPtrs (a ++ b) = cbPtrs a ++ cbPtrs b := by
  induction a with
  | nil => rfl
  | cons e t ih => cases e <;> simp [cbPtrs, ih]

theorem linePtrs_append (h : Generated.Parse.Heap) (a b : List Generated.Parse.Expr) :
    linePtrs h (a ++ b) = linePtrs h a ++ linePtrs h b := by
  induction a with
  | nil => rfl
  | cons e t ih => cases e <;> simp [linePtrs, ih]

/-- pointers in allocation order, all allocated: strictly increasing and at most `n` -/
def Sorted (l : List Int) (n : Nat) : Prop := l.Pairwise (· < ·) ∧ ∀ p ∈ l, p ≤ (n : Int)

theorem Sorted.mono {l : List Int} {n n' : Nat} (hs : Sorted l n) (hn : n ≤ n') : Sorted l n' :=
  ⟨hs.1, fun p hp => by have := hs.2 p hp; omega⟩

theorem Sorted.snoc {l : List Int} {n n' : Nat} {a : Int} (hs : Sorted l n) (ha : ∀ p ∈ l, p < a) (hn : a ≤ (n' : Int))
    (hnn : n ≤ n') : Sorted (l ++ [a]) n' := by
  refine ⟨List.pairwise_append.2 ⟨hs.1, List.pairwise_singleton _ _, fun x hx y hy => ?_⟩, fun p hp => ?_⟩
  · rw [List.mem_singleton.1 hy]; exact ha x hx
  · rcases List.mem_append.1 hp with hp | hp
    · have := hs.2 p hp; omega
    · rw [List.mem_singleton.1 hp]; exact hn

/-- block and comment-block pointers of the statement list are in allocation order and allocated -/
structure PtrsOK (h : Generated.Parse.Heap) (es : List Generated.Parse.Expr) : Prop where
  blocks : Sorted (blockPtrs es) h.blocks.length
  cbs : Sorted (cbPtrs es) h.cbs.length

theorem PtrsOK.mono {h h' : Generated.Parse.Heap} {es : List Generated.Parse.Expr} (hp : PtrsOK h es)
    (hb : h.blocks.length ≤ h'.blocks.length) (hc : h.cbs.length ≤ h'.cbs.length) : PtrsOK h' es :=
  ⟨hp.blocks.mono hb, hp.cbs.mono hc⟩

/-- the pending comment block: the last comment-block object, referenced by no statement yet -/
def CbRel (h : Generated.Parse.Heap) (es : List Generated.Parse.Expr) (cb : Int) : Option CommentBlock → Prop
  | none => cb = 0
  | some c => cb = (h.cbs.length : Int) ∧ heapGet h.cbs cb = .ok (cbG c) ∧ ∀ p ∈ cbPtrs es, p < cb

/-! ### frame: overwriting a comment block that no statement references -/

theorem mem_cbPtrs {q : Int} {es : List Generated.Parse.Expr} (hm : .CommentBlock q ∈ es) : q ∈ cbPtrs es := by
  obtain ⟨a, b, rfl⟩ := List.append_of_mem hm
  rw [cbPtrs_append]
  exact List.mem_append_right _ List.mem_cons_self

theorem RExpr_setCb {h : Generated.Parse.Heap} {q : Int} {w : Generated.Parse.CommentBlock}
    (hq : heapGet h.cbs q = .ok w) (v : Generated.Parse.CommentBlock) {e : Generated.Parse.Expr} {s : Expr}
    (hne : e ≠ .CommentBlock q) (hr : RExpr h e s) : RExpr { h with cbs := h.cbs.set (q.toNat - 1) v } e s := by
  cases e <;> cases s <;> simp only [RExpr] at hr ⊢
  · rw [heapGet_listSet_other v hq fun e => hne (e ▸ rfl)]; exact hr
  · exact (RLine_congr (h := h) (h' := { h with cbs := h.cbs.set (q.toNat - 1) v }) rfl).2 hr
  · obtain ⟨ps, hb, hl⟩ := hr
    exact ⟨ps, hb, (RLines_congr (h := h) (h' := { h with cbs := h.cbs.set (q.toNat - 1) v }) rfl).2 hl⟩

theorem RStmts_setCb {h : Generated.Parse.Heap} {q : Int} {w : Generated.Parse.CommentBlock}
    (hq : heapGet h.cbs q = .ok w) (v : Generated.Parse.CommentBlock) {es : List Generated.Parse.Expr} {ss : List Expr}
    (hne : q ∉ cbPtrs es) (hr : RStmts h es ss) : RStmts { h with cbs := h.cbs.set (q.toNat - 1) v } es ss :=
  RStmts_iff.2 ((RStmts_iff.1 hr).imp fun _ he _ hs => RExpr_setCb hq v (fun heq => hne (mem_cbPtrs (heq ▸ he))) hs)

/-! ### the model's loop body as an if-chain in the order of Go's `switch` -/

theorem parseFileLoop_succ (n : Nat) (i : Input) (stmtsRev : List Expr) (cb : Option CommentBlock) :
    parseFileLoop (n + 1) i stmtsRev cb =
      if i.peek = .punct 10 then (do
        let (_, i) ← lex i
        match cb with
        | some c => parseFileLoop n i (.commentBlock c :: stmtsRev) none
        | none => parseFileLoop n i stmtsRev none)
      else if i.peek = .comment then (do
        let (tok, i) ← lex i
        let c : CommentBlock := match cb with
          | some c => c
          | none => { start := tok.pos }
        let c := { c with comments := { c.comments with before := c.comments.before ++ [{ start := tok.pos, token := tok.text }] } }
        parseFileLoop n i stmtsRev (some c))
      else if i.peek = .eof then
        (match cb with
        | some c => .ok ((.commentBlock c :: stmtsRev).reverse, i)
        | none => .ok (stmtsRev.reverse, i))
      else (do
        let (s, i) ← parseStmt (n + 1) i
        match cb with
        | some c => parseFileLoop n i (s.setComments { s.comments with before := c.comments.before } :: stmtsRev) none
        | none => parseFileLoop n i (s :: stmtsRev) none) := by
  conv => lhs; unfold parseFileLoop
  split
  · rename_i hk; simp only [hk, if_true]; cases cb <;> rfl
  · rename_i hk; simp only [hk, reduceCtorEq, if_false, if_true]; cases cb <;> rfl
  · rename_i hk; simp only [hk, reduceCtorEq, if_false, if_true]; cases cb <;> rfl
  · rename_i h1 h2 h3
    rw [if_neg h1, if_neg h2, if_neg h3]; cases cb <;> rfl

structure FInv (h : Generated.Parse.Heap) (f : Int) (fo : Generated.Parse.FileSyntax) (es : List Generated.Parse.Expr)
    (ss : List Expr) (nid : Nat) : Prop where
  file : heapGet h.files f = .ok { fo with Stmt := es }
  stmts : RStmts h es ss
  ptrs : PtrsOK h es
  lines : h.lines.length = nid

theorem cbG_new (t : Token) :
    ({ (default : Generated.Parse.CommentBlock) with Start := ((tokG t).pos) } : Generated.Parse.CommentBlock) =
      cbG { start := t.pos } := rfl

theorem peek_kind (i : Input) : i.peek = i.token.kind := rfl

theorem FInv_flush {h : Generated.Parse.Heap} {fo : Generated.Parse.FileSyntax} {es : List Generated.Parse.Expr}
    {ss : List Expr} {nid : Nat} {cb : Int} {c : CommentBlock} (hi : FInv h f fo es ss nid) (hc : CbRel h es cb (some c)) :
    FInv { h with files := h.files.set (f.toNat - 1) { fo with Stmt := es ++ [Generated.Parse.Expr.CommentBlock cb] } }
      f fo (es ++ [Generated.Parse.Expr.CommentBlock cb]) (ss ++ [Expr.commentBlock c]) nid := by
  obtain ⟨hcl, hcg, hclt⟩ := hc
  refine ⟨heapGet_listSet_same _ hi.file, ?_, ?_, hi.lines⟩
  · refine RStmts_append ((RStmts_files h _ _ _).2 hi.stmts) ?_
    simp only [RStmts_cons, RStmts_nil, and_true]
    exact hcg
  · refine ⟨?_, ?_⟩
    · rw [blockPtrs_append]; simpa [blockPtrs] using hi.ptrs.blocks
    · rw [cbPtrs_append]
      exact hi.ptrs.cbs.snoc hclt (by rw [hcl]; exact Int.le_refl _) (Nat.le_refl _)

theorem bind_pair {α β γ : Type} (A : M α) (B : α → M β) (K : β → M γ) (v : β)
    (h : (do let a ← A; B a) = .ok v) : (do let a ← A; let b ← B a; K b) = K v := by
  cases hA : A with
  | error e => rw [hA] at h; cases h
  | ok a =>
    rw [hA] at h
    simp only [bind_ok] at h ⊢
    rw [h]; rfl

theorem PtrsOK_stmt {h h1 : Generated.Parse.Heap} {es : List Generated.Parse.Expr} {ex : Generated.Parse.Expr}
    (hp : PtrsOK h es) (hc1 : h1.cbs = h.cbs) (hnew : NewStmt h h1 ex) : PtrsOK h1 (es ++ [ex]) := by
  have hcb : Sorted (cbPtrs es) h1.cbs.length := hc1 ▸ hp.cbs
  rcases hnew with ⟨rfl, hb⟩ | ⟨rfl, hb⟩
  · refine ⟨?_, ?_⟩
    · rw [blockPtrs_append, hb]; simpa [blockPtrs] using hp.blocks
    · rw [cbPtrs_append]; simpa [cbPtrs] using hcb
  · refine ⟨?_, ?_⟩
    · rw [blockPtrs_append]
      exact hp.blocks.snoc (fun p hm => by have := hp.blocks.2 p hm; omega) (by omega) (by omega)
    · rw [cbPtrs_append]; simpa [cbPtrs] using hcb

theorem FInv_stmt {h h1 : Generated.Parse.Heap} {fo : Generated.Parse.FileSyntax} {es : List Generated.Parse.Expr}
    {ss : List Expr} {nid nid1 : Nat} {ex : Generated.Parse.Expr} {x : Expr} (hi : FInv h f fo es ss nid)
    (hc1 : h1.cbs = h.cbs) (hpl : h.lines <+: h1.lines) (hpb : h.blocks <+: h1.blocks)
    (hfl : h1.files = h.files.set (f.toNat - 1) { fo with Stmt := es ++ [ex] }) (hrx : RExpr h1 ex x)
    (hnl : h1.lines.length = nid1) (hnew : NewStmt h h1 ex) : FInv h1 f fo (es ++ [ex]) (ss ++ [x]) nid1 := by
  refine ⟨?_, ?_, PtrsOK_stmt hi.ptrs hc1 hnew, hnl⟩
  · rw [hfl]; exact heapGet_listSet_same _ hi.file
  · refine RStmts_append (RStmts.ext ⟨hc1 ▸ List.prefix_refl _, hpl, hpb⟩ hi.stmts) ?_
    simp only [RStmts_cons, RStmts_nil, and_true]
    exact hrx

/-- `x.Comment().Before = cb.Before` on the statement parseStmt appended (the LAST line / block object) -/
theorem stmt_setBefore {h h1 : Generated.Parse.Heap} {fo : Generated.Parse.FileSyntax} {es : List Generated.Parse.Expr}
    {ss : List Expr} {nid nid1 : Nat} {ex : Generated.Parse.Expr} {x : Expr} (hi : FInv h f fo es ss nid)
    (hc1 : h1.cbs = h.cbs) (hpl : h.lines <+: h1.lines) (hpb : h.blocks <+: h1.blocks)
    (hfl : h1.files = h.files.set (f.toNat - 1) { fo with Stmt := es ++ [ex] }) (hrx : RExpr h1 ex x)
    (hnl : h1.lines.length = nid1) (hnew : NewStmt h h1 ex) (before : List Comment) :
    ∃ h2, (do
        let t25 ← Generated.Parse.Expr_getComments ex h1
        Generated.Parse.Expr_setComments ex { t25 with Before := before.map comG } h1) = .ok h2 ∧
      FInv h2 f fo (es ++ [ex]) (ss ++ [x.setComments { x.comments with before := before }]) nid1 ∧ h2.cbs = h1.cbs := by
  have hfile : heapGet h1.files f = .ok { fo with Stmt := es ++ [ex] } := by
    rw [hfl]; exact heapGet_listSet_same _ hi.file
  rcases hnew with ⟨rfl, hb⟩ | ⟨rfl, hb⟩
  · cases x <;> simp only [RExpr] at hrx
    rename_i l
    obtain ⟨hg, hp⟩ := hrx
    let v : Generated.Parse.Line := { lineG l with Comments := { (lineG l).Comments with Before := before.map comG } }
    let h2 : Generated.Parse.Heap := { h1 with lines := h1.lines.set (((h.lines.length + 1 : Nat) : Int).toNat - 1) v }
    refine ⟨h2, ?_, ?_, rfl⟩
    · rw [getComments_Line hg]
      simp only [bind_ok]
      rw [setComments_Line hg]
    · have hx : Ext h h2 := by
        refine ⟨hc1 ▸ List.prefix_refl _, ?_, hpb⟩
        exact prefix_set_of_le hpl (by rw [idx_pred]; exact Nat.le_refl _) _
      refine ⟨hfile, ?_, ?_, ?_⟩
      · refine RStmts_append (RStmts.ext hx hi.stmts) ?_
        simp only [RStmts_cons, RStmts_nil, and_true]
        exact ⟨heapGet_listSet_same _ hg, hp⟩
      · exact (PtrsOK_stmt hi.ptrs hc1 (Or.inl ⟨rfl, hb⟩)).mono (Nat.le_refl _) (Nat.le_refl _)
      · show (h1.lines.set _ _).length = _
        simpa using hnl
  · cases x <;> simp only [RExpr] at hrx
    rename_i b
    obtain ⟨ps, hg, hl⟩ := hrx
    let v : Generated.Parse.LineBlock :=
      { blockG b ps with Comments := { (blockG b ps).Comments with Before := before.map comG } }
    let h2 : Generated.Parse.Heap := { h1 with blocks := h1.blocks.set (((h.blocks.length + 1 : Nat) : Int).toNat - 1) v }
    refine ⟨h2, ?_, ?_, rfl⟩
    · rw [getComments_LineBlock hg]
      simp only [bind_ok]
      rw [setComments_LineBlock hg]
    · have hx : Ext h h2 := by
        refine ⟨hc1 ▸ List.prefix_refl _, hpl, ?_⟩
        exact prefix_set_of_le hpb (by rw [idx_pred]; exact Nat.le_refl _) _
      refine ⟨hfile, ?_, ?_, hnl⟩
      · refine RStmts_append (RStmts.ext hx hi.stmts) ?_
        simp only [RStmts_cons, RStmts_nil, and_true]
        exact ⟨ps, heapGet_listSet_same _ hg, (RLines_blocks h1 _ _ _).2 hl⟩
      · refine (PtrsOK_stmt hi.ptrs hc1 (Or.inr ⟨rfl, hb⟩)).mono ?_ (Nat.le_refl _)
        show h1.blocks.length ≤ (h1.blocks.set _ _).length
        simp

theorem parseFile_loop_sim : ∀ (fm : Nat) (i : Input) (stmtsRev : List Expr) (cbM : Option CommentBlock), WF i → m i < fm →
    ∀ (fg : Nat), m i + 8 ≤ fg → ∀ (h : Generated.Parse.Heap) (fo : Generated.Parse.FileSyntax)
      (es : List Generated.Parse.Expr) (cb : Int),
    FInv h f fo es stmtsRev.reverse i.nextId → CbRel h es cb cbM →
    Sim (fun (stmts, i') r => ∃ h' es', r = .ret (((), embP f pre post i'), h') ∧ WF i' ∧ FInv h' f fo es' stmts i'.nextId)
      (parseFileLoop fm i stmtsRev cbM)
      (Generated.Parse.input_parseFile_loop1 isPrintI isSpaceI fg (embP f pre post i) h cb)
  | 0, i, _, _, _, hm => by omega
  | n + 1, i, stmtsRev, cbM, hw, hm => by
    intro fg hfg h fo es cb hinv hcb
    obtain ⟨g, rfl⟩ : ∃ g, fg = g + 1 := ⟨fg - 1, by omega⟩
    have ih := parseFile_loop_sim n
    rw [parseFileLoop_succ]
    unfold Generated.Parse.input_parseFile_loop1
    dsimp (config := { instances := true }) only [embP_peek]
    simp only [dk_10, dk_m5, dk_m1]
    -- `cb != nil` in terms of the model's pending comment block
    have hne : ∀ c, cbM = some c → decide (cb = 0) = false := fun c hc => by
      have := heapGet_pos (hc ▸ hcb).2.1
      simp; omega
    by_cases h1 : i.peek = .punct 10
    · simp only [h1, decide_true, if_true]
      refine (lex_sim i hw g (by omega)).bind ?_
      rintro ⟨_, j⟩ _ - ⟨rfl, rfl, hwj, hle, hlt, hid⟩
      have hlt' := hlt (peek_ne_eof h1 (by simp))
      cases cbM with
      | none =>
        have hcb0 : cb = 0 := hcb
        subst hcb0
        simp only [decide_true, Bool.not_true, Bool.false_eq_true, if_false]
        exact ih j stmtsRev none hwj (by omega) g (by omega) h fo es 0 (hid ▸ hinv) hcb
      | some c =>
        dsimp (config := { instances := true }) only [embP_file]
        simp only [hne c rfl, Bool.not_false, if_true, hinv.file, bind_ok, heapSet_of_get _ hinv.file]
        refine ih j (.commentBlock c :: stmtsRev) none hwj (by omega) g (by omega) _ fo
          (es ++ [Generated.Parse.Expr.CommentBlock cb]) 0 ?_ rfl
        rw [List.reverse_cons, hid]
        exact FInv_flush hinv hcb
    simp only [h1, decide_false, if_false, Bool.false_eq_true]
    by_cases h2 : i.peek = .comment
    · simp only [h2, decide_true, if_true]
      refine (lex_sim i hw g (by omega)).bind ?_
      rintro ⟨_, j⟩ _ - ⟨rfl, rfl, hwj, hle, hlt, hid⟩
      have hlt' := hlt (peek_ne_eof h2 (by simp))
      cases cbM with
      | none =>
        have hcb0 : cb = 0 := hcb
        subst hcb0
        have hnew : heapGet (h.cbs ++ [cbG { start := i.token.pos }]) ((h.cbs.length + 1 : Nat) : Int) =
            .ok (cbG { start := i.token.pos }) := heapGet_alloc_new _ _
        dsimp only
        rw [cbG_new]
        simp only [decide_true, if_true, heapAlloc_fst, heapAlloc_snd, Generated.Parse.Expr_getComments,
          Generated.Parse.Expr_setComments, hnew, bind_ok, pure_eq_ok, heapSet_of_get _ hnew, idx_pred, set_alloc_last]
        refine ih j stmtsRev (some _) hwj (by omega) g (by omega) _ fo es _ ?_ ?_
        · rw [hid]
          exact ⟨hinv.file, RStmts.ext (Ext.allocCb h _) hinv.stmts,
            hinv.ptrs.mono (Nat.le_refl _) (by simp), hinv.lines⟩
        · refine ⟨by simp, heapGet_alloc_new _ _, fun p hp => ?_⟩
          have := hinv.ptrs.cbs.2 p hp
          omega
      | some c =>
        obtain ⟨hcl, hcg, hclt⟩ := hcb
        simp only [hne c rfl, Bool.false_eq_true, if_false, Generated.Parse.Expr_getComments,
          Generated.Parse.Expr_setComments, hcg, bind_ok, pure_eq_ok, heapSet_of_get _ hcg]
        refine ih j stmtsRev (some _) hwj (by omega) g (by omega) _ fo es _ ?_ ?_
        · rw [hid]
          exact ⟨hinv.file, RStmts_setCb hcg _ (fun hm => Int.lt_irrefl _ (hclt cb hm)) hinv.stmts,
            hinv.ptrs.mono (Nat.le_refl _) (by simp), hinv.lines⟩
        · refine ⟨by simpa using hcl, ?_, hclt⟩
          show heapGet (h.cbs.set (cb.toNat - 1) _) cb = _
          rw [heapGet_listSet_same _ hcg]
          congr 1
          simp [cbG, comsG, comG, tokG]
          rfl
    simp only [h2, decide_false, if_false, Bool.false_eq_true]
    by_cases h3 : i.peek = .eof
    · simp only [h3, decide_true, if_true]
      cases cbM with
      | none =>
        have hcb0 : cb = 0 := hcb
        subst hcb0
        simp only [decide_true, Bool.not_true, Bool.false_eq_true, if_false, pure_eq_ok]
        exact Sim.ok ⟨h, es, rfl, hw, hinv⟩
      | some c =>
        dsimp (config := { instances := true }) only [embP_file]
        simp only [hne c rfl, Bool.not_false, if_true, hinv.file, bind_ok, heapSet_of_get _ hinv.file, pure_eq_ok]
        refine Sim.ok ⟨_, es ++ [Generated.Parse.Expr.CommentBlock cb], rfl, hw, ?_⟩
        rw [List.reverse_cons]
        exact FInv_flush hinv hcb
    simp only [h3, decide_false, if_false, Bool.false_eq_true]
    refine (parseStmt_sim (n + 1) i hw hm g (by omega) h { fo with Stmt := es } hinv.file hinv.lines).bind ?_
    rintro ⟨x, i1⟩ ⟨⟨_, gi⟩, h1'⟩ hS ⟨ex, rfl, hw1, hc1, hpl, hpb, hfl, hrx, hnl, hnew⟩
    have hlt : m i1 < m i := Proofs.ModfileRun.parseStmt_m_lt hS h3
    cases cbM with
    | none =>
      have hcb0 : cb = 0 := hcb
      subst hcb0
      simp only [decide_true, Bool.not_true, Bool.false_eq_true, if_false]
      refine ih i1 (x :: stmtsRev) none hw1 (by omega) g (by omega) h1' fo (es ++ [ex]) 0 ?_ rfl
      rw [List.reverse_cons]
      exact FInv_stmt hinv hc1 hpl hpb hfl hrx hnl hnew
    | some c =>
      obtain ⟨hcl, hcg, hclt⟩ := hcb
      have hfile : heapGet h1'.files f = .ok { fo with Stmt := es ++ [ex] } := by
        rw [hfl]; exact heapGet_listSet_same _ hinv.file
      have hcg1 : heapGet h1'.cbs cb = .ok (cbG c) := by rw [hc1]; exact hcg
      obtain ⟨h2, hset, hinv2, hc2⟩ := stmt_setBefore hinv hc1 hpl hpb hfl hrx hnl hnew c.comments.before
      dsimp (config := { instances := true }) only [embP_file]
      simp only [hne c rfl, Bool.not_false, if_true, hcg1, hfile, bind_ok, idxL_concat]
      have hset' : (do
          let t25 ← Generated.Parse.Expr_getComments ex h1'
          Generated.Parse.Expr_setComments ex { t25 with Before := (cbG c).Comments.Before } h1') = .ok h2 := hset
      simp only [bind_pair _ _ _ h2 hset']
      refine ih i1 (_ :: stmtsRev) none hw1 (by omega) g (by omega) h2 fo (es ++ [ex]) 0 ?_ rfl
      rw [List.reverse_cons]
      exact hinv2

/-! ### parseFile as a function -/

/-- parseFile: `in.file = new(FileSyntax)` (pointer `len(files) + 1`), then the loop -/
theorem parseFile_fn_sim (fm : Nat) (i : Input) (hw : WF i) (hm : m i < fm) (fg : Nat) (hfg : m i + 8 ≤ fg)
    (h : Generated.Parse.Heap) (hn : h.lines.length = i.nextId) :
    Sim (fun (stmts, i') r => ∃ es', r.1 = ((), embP ((h.files.length + 1 : Nat) : Int) pre post i') ∧ WF i' ∧
        FInv r.2 ((h.files.length + 1 : Nat) : Int) default es' stmts i'.nextId)
      (parseFileLoop fm i [] none) (Generated.Parse.input_parseFile isPrintI isSpaceI fg (embP f pre post i) h) := by
  unfold Generated.Parse.input_parseFile
  simp only [heapAlloc_fst, heapAlloc_snd]
  have key := parseFile_loop_sim (f := ((h.files.length + 1 : Nat) : Int)) (pre := pre) (post := post) fm i [] none hw hm
    fg hfg { h with files := h.files ++ [default] } default [] 0
    ⟨heapGet_alloc_new _ _, trivial, ⟨⟨List.Pairwise.nil, by simp [blockPtrs]⟩, ⟨List.Pairwise.nil, by simp [cbPtrs]⟩⟩, hn⟩ rfl
  refine Sim.bindG (g := Generated.Parse.input_parseFile_loop1 isPrintI isSpaceI fg
    { embP f pre post i with file := ((h.files.length + 1 : Nat) : Int) } { h with files := h.files ++ [default] } 0)
    key ?_
  rintro ⟨stmts, i'⟩ _ - ⟨h', es', rfl, hw', hinv⟩
  exact ⟨_, rfl, es', rfl, hw', hinv⟩

/-! ### from the invariant to `RFile` and `WF` -/

theorem RStmts_linePtrs {h : Generated.Parse.Heap} : ∀ {es : List Generated.Parse.Expr} {ss : List Expr}, RStmts h es ss →
    linePtrs h es = (linesOf ss).map (fun l => ((l.id + 1 : Nat) : Int))
  | [], [], _ => rfl
  | e :: es, s :: ss, hr => by
    simp only [RStmts_cons] at hr
    have ih := RStmts_linePtrs hr.2
    obtain ⟨h1, _⟩ := hr
    cases e <;> cases s <;> simp only [RExpr] at h1
    · simp only [linePtrs, Proofs.ModfileC20.linesOf_commentBlock, ih]
    · simp only [linePtrs, Proofs.ModfileC20.linesOf_line, List.map_cons, ih, h1.2]
    · obtain ⟨ps, hb, hl⟩ := h1
      simp only [linePtrs, blockLines, hb, Proofs.ModfileC20.linesOf_block, List.map_append, ih, blockG,
        RLines_ptrs hl]
  | [], _ :: _, hr => by simp at hr
  | _ :: _, [], hr => by simp at hr

theorem FInv_RFile {h : Generated.Parse.Heap} {es : List Generated.Parse.Expr} {ss : List Expr} {nid : Nat}
    (hi : FInv h f default es ss nid) : RFile h f { stmts := ss } :=
  ⟨es, hi.file, hi.stmts⟩

theorem FInv_WF {h : Generated.Parse.Heap} {fo : Generated.Parse.FileSyntax} {es : List Generated.Parse.Expr}
    {ss : List Expr} {nid : Nat} (hi : FInv h f fo es ss nid) (hids : (idsOf ss).Nodup) :
    Tie.FnParseHeap.WF h f := by
  refine ⟨_, hi.file, hi.stmts.stmtOK, ?_, nodup_of_pairwise_lt hi.ptrs.blocks.1,
    nodup_of_pairwise_lt hi.ptrs.cbs.1⟩
  show (linePtrs h es).Nodup
  rw [RStmts_linePtrs hi.stmts]
  have : (linesOf ss).map (fun l => ((l.id + 1 : Nat) : Int)) = (idsOf ss).map (fun n => ((n + 1 : Nat) : Int)) := by
    simp [idsOf, List.map_map]
  rw [this]
  refine List.Pairwise.map _ ?_ hids
  intro a b hab heq
  apply hab
  omega

/-! ### `in.file.Name = name` -/

theorem stmtOK_files (h : Generated.Parse.Heap) (fl : List Generated.Parse.FileSyntax) (e : Generated.Parse.Expr) :
    StmtOK { h with files := fl } e ↔ StmtOK h e := by
  cases e <;> exact Iff.rfl

theorem linePtrs_files (h : Generated.Parse.Heap) (fl : List Generated.Parse.FileSyntax) :
    ∀ es : List Generated.Parse.Expr, linePtrs { h with files := fl } es = linePtrs h es
  | [] => rfl
  | e :: es => by
    cases e <;> simp only [linePtrs, linePtrs_files h fl es]
    rfl

theorem setName_RFile {h : Generated.Parse.Heap} {p : Int} {t : FileSyntax} (hr : RFile h p t)
    (hw : Tie.FnParseHeap.WF h p) (name : Bytes) :
    ∃ f, heapGet h.files p = .ok f ∧
      RFile { h with files := h.files.set (p.toNat - 1) { f with Name := name } } p { t with name := name } ∧
      Tie.FnParseHeap.WF { h with files := h.files.set (p.toNat - 1) { f with Name := name } } p := by
  obtain ⟨es, hf, hs⟩ := hr
  refine ⟨_, hf, ⟨es, heapGet_listSet_same _ hf, (RStmts_files h _ _ _).2 hs⟩, ?_⟩
  obtain ⟨f', hf', hok, h1, h2, h3⟩ := hw.file
  rw [hf] at hf'
  cases hf'
  refine ⟨_, heapGet_listSet_same _ hf, ?_, ?_, h2, h3⟩
  · intro e he
    exact (stmtOK_files h _ e).2 (hok e he)
  · show (linePtrs _ es).Nodup
    rw [linePtrs_files]
    exact h1

end ModVerif.TieFnParse
