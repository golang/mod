/-
  Closed fuel of the go.mod session ties: the bulk setter `File.SetRequire`.  Its fuel `fuelSetRequire` is defined through
  the states the model passes through; each of them is bounded by the growth lemmas of Proofs/TieFnEditFuelB.lean:
  `setRequireLoop_W` (the loop over the existing entries keeps `treeW + Σ_need wantW`), `addAll_W`, `fuel3_le`.
-/
import ModVerif.Proofs.TieFnEditFuelB
namespace ModVerif.Tie.FnEditFuelE
open ModVerif ModVerif.Modfile ModVerif.Tie.FnEditFuelA ModVerif.Tie.FnEditFuelB ModVerif.Tie.FnEditFuelC
open ModVerif.Tie.FnEditSessionA ModVerif.Tie.FnEditSessionB
open ModVerif.TieFnEditAddLine (nodeCount)
open ModVerif.Tie.FnEditSortE (sortFuel goLen)
open ModVerif.Tie.FnEditReqE (modPath)
open ModVerif.Tie.FnEditSetB (withRS)
open ModVerif.Tie.FnEditSetC (fuelSetRequire fuel3 addAll)
open ModVerif.Tie.FnEditSet (addNewFuel)
open ModVerif.Modfile.Edit (EFile EditErr Want applyMod treeIds setRequireLoop needMap)

/-- what one request may add to the potential and to the fuel -/
def wantW (w : Want) : Nat := 2 * (autoQuote w.path).length + 2 * w.vers.length + w.path.length + 21

def wantsW (ws : List Want) : Nat := (ws.map wantW).sum

@[simp] theorem wantsW_nil : wantsW [] = 0 := rfl
@[simp] theorem wantsW_cons (w : Want) (ws : List Want) : wantsW (w :: ws) = wantW w + wantsW ws := by simp [wantsW]

theorem wantsW_filter_le (q : Want → Bool) : ∀ ws : List Want, wantsW (ws.filter q) ≤ wantsW ws
  | [] => Nat.le_refl _
  | w :: ws => by
    have := wantsW_filter_le q ws
    by_cases h : q w <;> simp [h] <;> omega

theorem wantsW_filter_mem (q : Want → Bool) : ∀ (ws : List Want) (w : Want), w ∈ ws → q w = false →
    wantsW (ws.filter q) + wantW w ≤ wantsW ws
  | a :: ws, w, hm, hq => by
    rcases List.mem_cons.1 hm with rfl | hm
    · have := wantsW_filter_le q ws
      simp [hq]; omega
    · have := wantsW_filter_mem q ws w hm hq
      by_cases h : q a <;> simp [h] <;> omega

theorem setVersionLine_lineW (v : Bytes) (l : Line) : lineW (Edit.setVersionLine v l) ≤ lineW l + 2 * v.length := by
  rw [Edit.setVersionLine_eq]
  have hd := (Edit.dropBlank_props l).2.1
  split
  · omega
  · split
    · split
      · have := tokW_set_le (Edit.dropBlank l).token 1 v
        simp only [lineW, hd] at *; omega
      · simp only [lineW, hd]; omega
    · split
      · have := tokW_set_le l.token 2 v; simp only [lineW]; omega
      · omega

theorem keepLine_lineW (w : Want) (l : Line) :
    lineW (Edit.setIndirectLine w.indirect (Edit.setVersionLine w.vers l)) ≤ lineW l + 2 * w.vers.length := by
  have := setVersionLine_lineW w.vers l
  simp only [lineW, setIndirectLine_token] at *
  exact this

theorem setVersionLine_id (v : Bytes) (l : Line) : (Edit.setVersionLine v l).id = l.id :=
  (Edit.setVersionLine_props v l).1

theorem setIndirectLine_id (b : Bool) (l : Line) : (Edit.setIndirectLine b l).id = l.id :=
  (Edit.setIndirectLine_props b l).1

theorem keepLine_id (w : Want) (l : Line) : (Edit.setIndirectLine w.indirect (Edit.setVersionLine w.vers l)).id = l.id := by
  rw [setIndirectLine_id, setVersionLine_id]

theorem setRequireLoop_W : ∀ (rs : List Require) (need : List Want) (syn : FileSyntax) (rq : List Require) (need' : List Want)
    (syn' : FileSyntax), (treeIds syn.stmts).Nodup → setRequireLoop rs need syn = .ok (rq, need', syn') →
    rq.length = rs.length ∧ treeW syn'.stmts + wantsW need' ≤ treeW syn.stmts + wantsW need
  | [], need, syn, rq, need', syn', hn, h => by
    simp only [setRequireLoop, Except.ok.injEq, Prod.mk.injEq] at h
    obtain ⟨rfl, rfl, rfl⟩ := h
    exact ⟨rfl, Nat.le_refl _⟩
  | r :: rs, need, syn, rq, need', syn', hn, h => by
    unfold setRequireLoop at h
    split at h
    · -- a requested requirement is kept: its line grows by at most `2·|vers|`, and its request `w` leaves `need`, which frees `wantW w`
      rename_i w hw
      cases hd : Edit.deref r.lineId with
      | error err => simp [hd, bind, Except.bind] at h
      | ok i =>
        simp only [hd, bind, Except.bind] at h
        have hn1 : (treeIds (syn.updateLine i (fun l => Edit.setIndirectLine w.indirect (Edit.setVersionLine w.vers l))).stmts).Nodup := by
          rw [Edit.treeIds_updateLine syn i _ hn (keepLine_id w)]; exact hn
        have hw1 := updateLine_treeW syn i (fun l => Edit.setIndirectLine w.indirect (Edit.setVersionLine w.vers l)) (2 * w.vers.length)
          (keepLine_lineW w) hn
        cases hr : setRequireLoop rs (need.filter (·.path != r.mod.path))
            (syn.updateLine i (fun l => Edit.setIndirectLine w.indirect (Edit.setVersionLine w.vers l))) with
        | error err => simp [hr] at h
        | ok t =>
          obtain ⟨rs', nd, sy⟩ := t
          obtain ⟨i1, i2⟩ := setRequireLoop_W rs _ _ rs' nd sy hn1 hr
          simp only [hr, pure, Except.pure, Except.ok.injEq, Prod.mk.injEq] at h
          obtain ⟨rfl, rfl, rfl⟩ := h
          have hmem := List.mem_of_find?_eq_some hw
          have hp := List.find?_some hw
          have hq : (fun a : Want => a.path != r.mod.path) w = false := by
            simp only [bne_eq_false_iff_eq]; exact eq_of_beq hp
          have h3 := wantsW_filter_mem (fun a : Want => a.path != r.mod.path) need w hmem hq
          refine ⟨by simp [i1], ?_⟩
          have : 2 * w.vers.length ≤ wantW w := by unfold wantW; omega
          omega
    · cases hd : Edit.deref r.lineId with
      | error err => simp [hd, bind, Except.bind] at h
      | ok i =>
        simp only [hd, bind, Except.bind] at h
        have hn1 : (treeIds (Edit.markRemoved syn i).stmts).Nodup := by
          rw [Edit.treeIds_markRemoved syn i hn]; exact hn
        have hw1 := markRemoved_treeW syn i
        cases hr : setRequireLoop rs (need.filter (!·.path.isEmpty)) (Edit.markRemoved syn i) with
        | error err => simp [hr] at h
        | ok t =>
          obtain ⟨rs', nd, sy⟩ := t
          obtain ⟨i1, i2⟩ := setRequireLoop_W rs _ _ rs' nd sy hn1 hr
          simp only [hr, pure, Except.pure, Except.ok.injEq, Prod.mk.injEq] at h
          obtain ⟨rfl, rfl, rfl⟩ := h
          have h3 := wantsW_filter_le (fun a : Want => !a.path.isEmpty) need
          refine ⟨by simp [i1], ?_⟩
          omega

theorem addNewRequire_wantW (e : EFile) (w : Want) : W (Edit.addNewRequire e w.path w.vers w.indirect) + w.path.length + 1 ≤ W e + wantW w := by
  have := addNewRequire_W e w.path w.vers w.indirect
  unfold wantW; omega

theorem addAll_W : ∀ (ws : List Want) (e : EFile), W (addAll e ws) ≤ W e + wantsW ws
  | [], e => by simp
  | w :: ws, e => by
    have h1 := addAll_W ws (Edit.addNewRequire e w.path w.vers w.indirect)
    have h2 := addNewRequire_wantW e w
    simp only [FnEditSetC.addAll_cons, wantsW_cons]; omega

theorem fuel3_le : ∀ (ws : List Want) (e : EFile), fuel3 addNewFuel e ws ≤ W e + wantsW ws + 4
  | [], e => by simp [fuel3]
  | w :: ws, e => by
    have h1 := fuel3_le ws (Edit.addNewRequire e w.path w.vers w.indirect)
    have h2 := addNewRequire_wantW e w
    have h3 := nodeCount_le_W e
    simp only [fuel3, addNewFuel, wantsW_cons]
    have : w.path.length + 1 ≤ wantW w := by unfold wantW; omega
    omega

theorem wantsW_toWant : ∀ l : List EditSpec.Req, wantsW (l.map toWant) + l.length ≤ 2 * (l.map reqSize).sum
  | [] => by simp
  | r :: l => by
    have := wantsW_toWant l
    have h1 : wantW (toWant r) + 1 ≤ 2 * reqSize r := by
      simp only [wantW, reqSize, qsz, toWant, Drv.Edit.M.toWant]; omega
    simp only [List.map_cons, wantsW_cons, List.sum_cons, List.length_cons]; omega

theorem needMap_good {req : List Want} (hg : Edit.GoodWant req) (s : Bool) : needMap s req [] = .ok req := by
  have := Edit.needMap_distinct s req [] (by simpa using hg.1)
  simpa using this

theorem W_withRS (e : EFile) (rq : List Require) (syn : FileSyntax) (hl : rq.length = e.f.require.length) :
    W (withRS e rq syn) + treeW e.f.syn.stmts = W e + treeW syn.stmts := by
  simp only [W, listsW, goLen, modPath, withRS, hl]; omega

theorem setRequire_stepFuel_le (e : EFile) (l : List EditSpec.Req) (hn : (treeIds e.f.syn.stmts).Nodup)
    (hg : Edit.GoodWant (l.map toWant)) : stepFuel e (.setRequire l) ≤ 3 * (W e + G (.setRequire l)) := by
  have hs := wantsW_toWant l
  have hl : e.f.require.length ≤ W e := by unfold W listsW; omega
  simp only [stepFuel, fuelSetRequire, needMap_good hg, G, opSize, List.length_map]
  cases hr : setRequireLoop e.f.require (l.map toWant) e.f.syn with
  | error err => simp only []; omega
  | ok t =>
    obtain ⟨rq, need', syn⟩ := t
    obtain ⟨i1, i2⟩ := setRequireLoop_W _ _ _ _ _ _ hn hr
    have hw := W_withRS e rq syn i1
    have h3 := fuel3_le need' (withRS e rq syn)
    have h4 := sortFuel_le (addAll (withRS e rq syn) need')
    have h5 := addAll_W need' (withRS e rq syn)
    simp only []
    omega

theorem setRequire_W (e e' : EFile) (l : List EditSpec.Req) (hn : (treeIds e.f.syn.stmts).Nodup)
    (hg : Edit.GoodWant (l.map toWant)) (h : Edit.setRequire e (l.map toWant) (Edit.permOf false) = .ok e') :
    W e' ≤ W e + G (.setRequire l) := by
  have hs := wantsW_toWant l
  unfold Edit.setRequire at h
  simp only [bind, Except.bind, needMap_good hg] at h
  cases hr : setRequireLoop e.f.require (l.map toWant) e.f.syn with
  | error err => simp [hr] at h
  | ok t =>
    obtain ⟨rq, need', syn⟩ := t
    obtain ⟨i1, i2⟩ := setRequireLoop_W _ _ _ _ _ _ hn hr
    have hw := W_withRS e rq syn i1
    simp only [hr, pure, Except.pure, Except.ok.injEq, Edit.permOf, Bool.false_eq_true, if_false] at h
    subst h
    have h5 := addAll_W need' (withRS e rq syn)
    have h6 := sortBlocks_W (addAll (withRS e rq syn) need')
    simp only [addAll, withRS, G, opSize] at *
    omega

/-! ### every operation but `SetRequireSeparateIndirect` -/

def NotSep : EditSpec.Op → Prop
  | .setRequireSeparateIndirect _ => False
  | _ => True

theorem notBulk_or (op : EditSpec.Op) (hb : NotSep op) : NotBulk op ∨ ∃ l, op = .setRequire l := by
  cases op <;> first | exact Or.inl trivial | exact Or.inr ⟨_, rfl⟩ | exact hb.elim

theorem stepFuel_le' (e : EFile) (op : EditSpec.Op) (hb : NotSep op) (hn : (treeIds e.f.syn.stmts).Nodup)
    (hv : Edit.ValidArgsLive e (opM op)) : stepFuel e op ≤ 3 * (W e + G op) := by
  rcases notBulk_or op hb with h | ⟨l, rfl⟩
  · exact stepFuel_le e op h
  · exact setRequire_stepFuel_le e l hn hv.1

theorem applyMod_W' (e e' : EFile) (op : EditSpec.Op) (hb : NotSep op) (hn : (treeIds e.f.syn.stmts).Nodup)
    (hv : Edit.ValidArgsLive e (opM op)) (h : applyMod e (opM op) = some (.ok e')) : W e' ≤ W e + G op := by
  rcases notBulk_or op hb with h1 | ⟨l, rfl⟩
  · exact applyMod_W e e' op h1 hn h
  · exact setRequire_W e e' l hn hv.1 (Option.some.inj h)

end ModVerif.Tie.FnEditFuelE
