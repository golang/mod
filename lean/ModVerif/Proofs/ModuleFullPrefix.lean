/-
  C06: PathMajorPrefix — exact characterisation of the non-panicking inputs and their results, and
  unreachability of the panics on suffixes returned by SplitPathVersion.  (`Full` as in `checkModPath_iff_full` / `check_iff_full`
  of Proofs/ModuleFullCheck.lean, on which this file builds: statements against the specification alone.)
-/
import ModVerif.Proofs.ModuleFullCheck
namespace ModVerif.Module
open ModVerif

/-- Each specification defines its own `Num` (a decimal number without leading zero) in its own vocabulary:
    `PathSpec.Num` (digits by `isAsciiDigit` on code points, "a leading 0 is the whole"), `SemverSpec.Num` (`all isDigit`,
    "a leading 0 has length 1") and `PseudoSpec.Num` (bridged to `SemverSpec.Num` by `Proofs.Pseudo.num_iff`). -/
theorem num_spec_iff (n : Bytes) : PathSpec.Num n ↔ SemverSpec.Num n := by
  unfold PathSpec.Num SemverSpec.Num
  have e1 : (∀ d ∈ n, PathSpec.isAsciiDigit d.toNat) ↔ n.all SemverSpec.isDigit = true := by
    rw [List.all_eq_true]
    exact forall_congr' fun d => imp_congr_right fun _ => (isDigit_iff d).symm
  have e2 : (n.head? = some 48 → n = [48]) ↔ (n.head? = some 48 → n.length = 1) := by
    constructor
    · intro h hh; rw [h hh]; rfl
    · intro h hh
      have hl := h hh
      cases n with
      | nil => simp at hl
      | cons a t =>
        cases t with
        | nil => simp at hh; rw [hh]
        | cons b t' => simp at hl
  rw [e1, e2]

theorem major_fixed_iff (m : Bytes) :
    Semver.major m = m ↔ m = [] ∨ ∃ n, PathSpec.Num n ∧ m = 118 :: n := by
  constructor
  · intro h
    cases hp : Semver.parse m with
    | none =>
      left
      unfold Semver.major at h
      rw [hp] at h
      exact h.symm
    | some q =>
      right
      have hm := Semver.major_spec hp
      rw [h] at hm
      have hd := Semver.parse_decomp hp
      cases hd with
      | short1 maj hmaj => exact ⟨maj, (num_spec_iff maj).mpr hmaj, rfl⟩
      | short2 maj min _ _ =>
        have := congrArg List.length hm
        simp at this
      | full maj min pat pre bld _ _ _ _ _ =>
        have := congrArg List.length hm
        simp at this
  · rintro (rfl | ⟨n, hn, rfl⟩)
    · unfold Semver.major
      have : Semver.parse [] = none := rfl
      rw [this]
    · have hd := Semver.Decomp.short1 n ((num_spec_iff n).mp hn)
      have hp := Semver.decomp_parse hd
      exact Semver.major_spec hp

theorem pathMajorPrefix_eq (c : UInt8) (t : Bytes) :
    pathMajorPrefix (c :: t) =
      if (c != 47 && c != 46) = true then none
      else if ((trimUnstable (c :: t)).drop 1 != Semver.major ((trimUnstable (c :: t)).drop 1)) = true then none
      else some ((trimUnstable (c :: t)).drop 1) := rfl

/-- `Props.C06.pathMajorPrefix_spec` -/
theorem pathMajorPrefix_iff (maj m : Bytes) :
    pathMajorPrefix maj = some m ↔
      (maj = [] ∧ m = []) ∨ ((maj = [47] ∨ maj = [46]) ∧ m = []) ∨
      ∃ n, PathSpec.Num n ∧ m = 118 :: n ∧
        (maj = 47 :: 118 :: n ∨ maj = 46 :: 118 :: n ∨ maj = 46 :: 118 :: (n ++ B "-unstable")) := by
  cases maj with
  | nil =>
    simp [pathMajorPrefix]
  | cons c t =>
    rw [pathMajorPrefix_eq]
    constructor
    · intro h
      split at h
      · cases h
      · rename_i hc
        split at h
        · cases h
        · rename_i hfix
          injection h with h
          have hfix' : Semver.major m = m := by
            rw [← h]
            simp only [bne_iff_ne, ne_eq, Decidable.not_not] at hfix
            exact hfix.symm
          have hc' : c = 47 ∨ c = 46 := by
            simp only [Bool.and_eq_true, bne_iff_ne, ne_eq, not_and, Decidable.not_not] at hc
            by_cases h47 : c = 47
            · exact Or.inl h47
            · exact Or.inr (hc h47)
          right
          rcases trimUnstable_cases (c :: t) with ⟨ht, hnot⟩ | ⟨t', ht', htr⟩
          · rw [ht] at h
            simp only [List.drop_succ_cons, List.drop_zero] at h
            subst h
            rcases (major_fixed_iff t).mp hfix' with rfl | ⟨n, hn, rfl⟩
            · left; rcases hc' with rfl | rfl <;> simp
            · right
              refine ⟨n, hn, rfl, ?_⟩
              rcases hc' with rfl | rfl
              · left; rfl
              · right; left; rfl
          · rw [htr] at h
            simp only [List.drop_succ_cons, List.drop_zero] at h
            subst h
            right
            rcases (major_fixed_iff (118 :: t')).mp hfix' with h0 | ⟨n, hn, hn'⟩
            · cases h0
            · have : t' = n := by injection hn'
              subst this
              exact ⟨t', hn, rfl, Or.inr (Or.inr (by rw [ht']; simp))⟩
    · rintro (⟨h, _⟩ | ⟨hsep, rfl⟩ | ⟨n, hn, rfl, hform⟩)
      · cases h
      · have hm0 : Semver.major [] = ([] : Bytes) := (major_fixed_iff []).mpr (Or.inl rfl)
        rcases hsep with h | h
        · injection h with h1 h2; subst h1; subst h2
          rw [trimUnstable_of_not_dot (by decide)]; simp [hm0]
        · injection h with h1 h2; subst h1; subst h2
          rw [(by decide +kernel : trimUnstable [46] = [46])]; simp [hm0]
      · have hmn : Semver.major (118 :: n) = 118 :: n := (major_fixed_iff _).mpr (Or.inr ⟨n, hn, rfl⟩)
        have hdig : ∀ d ∈ n, isDigit d = true := num_digits hn
        have key : (trimUnstable (c :: t)).drop 1 = 118 :: n ∧ (c = 47 ∨ c = 46) := by
          rcases hform with h | h | h <;> (injection h with h1 h2; subst h1; subst h2)
          · exact ⟨by rw [trimUnstable_of_not_dot (by decide)]; rfl, Or.inl rfl⟩
          · have := trimUnstable_gopkg n hdig false
            simp only [Bool.false_eq_true, if_false, List.append_nil] at this
            exact ⟨by rw [this]; rfl, Or.inr rfl⟩
          · have := trimUnstable_gopkg n hdig true
            simp only [if_true] at this
            exact ⟨by rw [this]; rfl, Or.inr rfl⟩
        rw [key.1, hmn]
        have hc : (c != 47 && c != 46) = false := by
          rcases key.2 with rfl | rfl <;> decide
        simp [hc]

/-- `Props.C06.pathMajorPrefix_no_panic_on_split` -/
theorem pathMajorPrefix_total_on_split (p pre maj : Bytes) (h : splitPathVersion p = (pre, maj, true)) :
    (maj = [] ∧ pathMajorPrefix maj = some []) ∨
    ∃ n, PathSpec.Num n ∧ pathMajorPrefix maj = some (118 :: n) ∧
      (maj = 47 :: 118 :: n ∨ maj = 46 :: 118 :: n ∨ maj = 46 :: 118 :: (n ++ B "-unstable")) := by
  have hok : (splitPathVersion p).2.2 = true := by rw [h]
  have hs := (split_spec' p hok).2
  rw [h] at hs
  simp only at hs
  rcases hs with rfl | ⟨n, rfl, hn, _, _⟩ | ⟨_, n, hn, hform⟩
  · left; exact ⟨rfl, rfl⟩
  · right
    exact ⟨n, hn, (pathMajorPrefix_iff _ _).mpr (Or.inr (Or.inr ⟨n, hn, rfl, Or.inl rfl⟩)), Or.inl rfl⟩
  · right
    rcases hform with rfl | rfl
    · exact ⟨n, hn, (pathMajorPrefix_iff _ _).mpr (Or.inr (Or.inr ⟨n, hn, rfl, Or.inr (Or.inl rfl)⟩)), Or.inr (Or.inl rfl)⟩
    · exact ⟨n, hn, (pathMajorPrefix_iff _ _).mpr (Or.inr (Or.inr ⟨n, hn, rfl, Or.inr (Or.inr rfl)⟩)), Or.inr (Or.inr rfl)⟩

end ModVerif.Module
