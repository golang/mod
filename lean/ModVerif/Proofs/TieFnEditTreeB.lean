/-
  Helper lemmas for Tie/FnEditTree.lean: the PURE functions that Generated/FnEdit.lean regenerates once more
  (`MustQuote`, `AutoQuote`, `checkCanonicalVersion`: syntactically the definitions of Generated/FnModfile.lean) and the
  block comparators, which in this unit take line POINTERS and read the heap (`lineLess`, `lineExcludeLess`,
  `lineRetractLess`): each is the function of Generated/FnModfile.lean on the `Token`s of the two line objects, so the
  ties of Tie/FnModfile.lean and Tie/FnModfileCmp.lean transport.
-/
import ModVerif.Generated.FnEdit
import ModVerif.Tie.FnModfile
import ModVerif.Proofs.TieFnModfileCmp
import ModVerif.Proofs.GoRtLemmasHeap
namespace ModVerif.Tie.FnEditTreeB
open ModVerif ModVerif.GoRt

/-! ### MustQuote, AutoQuote, checkCanonicalVersion: the same definitions -/

theorem MustQuote_loop1_eq (isPrint : Int → Bool) (s : Bytes) : ∀ (fuel : Nat) (ri : Int),
    Generated.Edit.MustQuote_loop1 isPrint s fuel ri = Generated.Modfile.MustQuote_loop1 isPrint s fuel ri
  | 0, _ => rfl
  | fuel + 1, ri => by
    unfold Generated.Edit.MustQuote_loop1 Generated.Modfile.MustQuote_loop1
    simp only [MustQuote_loop1_eq isPrint s fuel]

theorem MustQuote_eq (isPrint : Int → Bool) (fuel : Nat) (s : Bytes) :
    Generated.Edit.MustQuote isPrint fuel s = Generated.Modfile.MustQuote isPrint fuel s := by
  unfold Generated.Edit.MustQuote Generated.Modfile.MustQuote
  simp only [MustQuote_loop1_eq]
  rfl

theorem AutoQuote_eq (isPrint : Int → Bool) (quote : Bytes → Bytes) (fuel : Nat) (s : Bytes) :
    Generated.Edit.AutoQuote isPrint quote fuel s = Generated.Modfile.AutoQuote isPrint quote fuel s := by
  unfold Generated.Edit.AutoQuote Generated.Modfile.AutoQuote
  simp only [MustQuote_eq]

theorem checkCanonicalVersion_eq (fuel : Nat) (path vers : Bytes) :
    Generated.Edit.checkCanonicalVersion fuel path vers = Generated.Modfile.checkCanonicalVersion fuel path vers := rfl

/-! ### the comparators: pointer version = value version on the two line objects -/

/-- a line VALUE of Generated/FnModfile.lean with the given tokens -/
def mkL (t : List Bytes) : Generated.Modfile.Line := { (default : Generated.Modfile.Line) with Token := t }

@[simp] theorem mkL_Token (t : List Bytes) : (mkL t).Token = t := rfl

def ctlMap {α β γ : Type} (f : α → β) : Ctl α γ → Ctl β γ
  | .ret a => .ret (f a)
  | .next c => .next c

theorem lineLess_loop1_eq {h : Generated.Edit.Heap} {li lj : Int} {a b : Generated.Edit.Line}
    (ha : heapGet h.lines li = .ok a) (hb : heapGet h.lines lj = .ok b) : ∀ (fuel : Nat) (k : Int),
    Generated.Edit.lineLess_loop1 li lj h fuel k =
      (Generated.Modfile.lineLess_loop1 (mkL a.Token) (mkL b.Token) fuel k).map (ctlMap fun r => (r, h))
  | 0, _ => rfl
  | fuel + 1, k => by
    unfold Generated.Edit.lineLess_loop1 Generated.Modfile.lineLess_loop1
    simp only [ha, hb, bind, Except.bind, pure, Except.pure, mkL_Token]
    by_cases h1 : k < len a.Token <;> by_cases h2 : k < len b.Token <;>
      simp only [h1, h2, decide_true, decide_false, Bool.true_and, Bool.false_and, Bool.and_false, if_true, if_false,
        Bool.false_eq_true, Except.map, ctlMap]
    cases e1 : idxL a.Token k with
    | error e => rfl
    | ok x =>
      cases e2 : idxL b.Token k with
      | error e => rfl
      | ok y =>
        simp only []
        by_cases hxy : x = y
        · simp only [hxy, decide_true, Bool.not_true, Bool.false_eq_true, if_false]
          exact lineLess_loop1_eq ha hb fuel (k + 1)
        · simp only [hxy, decide_false, Bool.not_false, if_true]


theorem lineLess_eq {h : Generated.Edit.Heap} {li lj : Int} {a b : Generated.Edit.Line}
    (ha : heapGet h.lines li = .ok a) (hb : heapGet h.lines lj = .ok b) (fuel : Nat) :
    Generated.Edit.lineLess fuel li lj h =
      (Generated.Modfile.lineLess fuel (mkL a.Token) (mkL b.Token)).map (fun r => (r, h)) := by
  unfold Generated.Edit.lineLess Generated.Modfile.lineLess
  simp only [lineLess_loop1_eq ha hb, bind, Except.bind, pure, Except.pure, ha, hb, mkL_Token]
  cases Generated.Modfile.lineLess_loop1 (mkL a.Token) (mkL b.Token) fuel 0 with
  | error e => rfl
  | ok c => cases c <;> rfl

theorem lineExcludeLess_eq {h : Generated.Edit.Heap} {li lj : Int} {a b : Generated.Edit.Line}
    (ha : heapGet h.lines li = .ok a) (hb : heapGet h.lines lj = .ok b) (fuel : Nat) :
    Generated.Edit.lineExcludeLess fuel li lj h =
      (Generated.Modfile.lineExcludeLess fuel (mkL a.Token) (mkL b.Token)).map (fun r => (r, h)) := by
  unfold Generated.Edit.lineExcludeLess Generated.Modfile.lineExcludeLess
  simp only [lineLess_eq ha hb, bind, Except.bind, pure, Except.pure, ha, hb, mkL_Token]
  by_cases h1 : len a.Token = 2 <;> by_cases h2 : len b.Token = 2 <;>
    simp only [h1, h2, decide_true, decide_false, Bool.not_true, Bool.not_false, Bool.or_false, Bool.or_true,
      if_true, if_false, Bool.false_eq_true]
  · cases idxL a.Token 0 with
    | error e => rfl
    | ok x =>
      cases idxL b.Token 0 with
      | error e => rfl
      | ok y =>
        simp only []
        by_cases hxy : x = y
        · simp only [hxy, decide_true, Bool.not_true, Bool.false_eq_true, if_false]
          cases idxL a.Token 1 with
          | error e => rfl
          | ok u =>
            cases idxL b.Token 1 with
            | error e => rfl
            | ok w =>
              simp only []
              cases Generated.Semver.Compare fuel u w <;> rfl
        · simp only [hxy, decide_false, Bool.not_false, if_true, Except.map]
  all_goals
    cases Generated.Modfile.lineLess fuel (mkL a.Token) (mkL b.Token) <;> rfl

theorem interval_eq {h : Generated.Edit.Heap} {l : Int} {a : Generated.Edit.Line}
    (ha : heapGet h.lines l = .ok a) (fuel : Nat) :
    Generated.Edit.lineRetractLess_interval fuel h l =
      (Generated.Modfile.lineRetractLess_interval fuel (mkL a.Token)).map
        (fun v => ({ Low := v.Low, High := v.High } : Generated.Edit.VersionInterval)) := by
  unfold Generated.Edit.lineRetractLess_interval Generated.Modfile.lineRetractLess_interval
  simp only [bind, Except.bind, pure, Except.pure, ha, mkL_Token]
  by_cases h1 : len a.Token = 1
  · simp only [h1, decide_true, if_true]
    cases idxL a.Token 0 <;> rfl
  · simp only [h1, decide_false, Bool.false_eq_true, if_false]
    by_cases h5 : len a.Token = 5
    · simp only [h5, decide_true, if_true]
      cases idxL a.Token 0 with
      | error e => rfl
      | ok x0 =>
        simp only []
        by_cases c0 : x0 = [91]
        · simp only [c0, decide_true, if_true]
          cases idxL a.Token 2 with
          | error e => rfl
          | ok x2 =>
            simp only []
            by_cases c2 : x2 = [44]
            · simp only [c2, decide_true, if_true]
              cases idxL a.Token 4 with
              | error e => rfl
              | ok x4 =>
                simp only []
                by_cases c4 : x4 = [93]
                · simp only [c4, decide_true, if_true]
                  cases idxL a.Token 1 with
                  | error e => rfl
                  | ok x1 =>
                    cases idxL a.Token 3 <;> rfl
                · simp only [c4, decide_false, Bool.false_eq_true, if_false]; rfl
            · simp only [c2, decide_false, Bool.false_eq_true, if_false]; rfl
        · simp only [c0, decide_false, Bool.false_eq_true, if_false]; rfl
    · simp only [h5, decide_false, Bool.false_eq_true, if_false]; rfl

theorem lineRetractLess_eq {h : Generated.Edit.Heap} {li lj : Int} {a b : Generated.Edit.Line}
    (ha : heapGet h.lines li = .ok a) (hb : heapGet h.lines lj = .ok b) (fuel : Nat) :
    Generated.Edit.lineRetractLess fuel li lj h =
      (Generated.Modfile.lineRetractLess fuel (mkL a.Token) (mkL b.Token)).map (fun r => (r, h)) := by
  unfold Generated.Edit.lineRetractLess Generated.Modfile.lineRetractLess
  simp only [interval_eq ha, interval_eq hb, bind, Except.bind, pure, Except.pure]
  cases Generated.Modfile.lineRetractLess_interval fuel (mkL a.Token) with
  | error e => rfl
  | ok vi =>
    cases Generated.Modfile.lineRetractLess_interval fuel (mkL b.Token) with
    | error e => rfl
    | ok vj =>
      simp only [Except.map]
      cases Generated.Semver.Compare fuel vi.Low vj.Low with
      | error e => rfl
      | ok c =>
        simp only []
        by_cases hc : c = 0
        · simp only [hc, decide_true, Bool.not_true, Bool.false_eq_true, if_false]
          cases Generated.Semver.Compare fuel vi.High vj.High <;> rfl
        · simp only [hc, decide_false, Bool.not_false, if_true]

end ModVerif.Tie.FnEditTreeB
