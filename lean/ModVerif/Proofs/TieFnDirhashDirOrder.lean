/-
  Tie proof, sumdb/dirhash `DirFiles` / `HashDir`: order and size.  `compsLt` (lexical order on element lists) and `walkLt`
  are strict total orders; the pre-order of a `wfList` trie is strictly increasing in `compsLt`, so for a well-formed flat
  list `walkOrder` of the paths IS the pre-order of the trie (`walkOrder_eq_flat`).  `szList_trieOf` bounds the size of the
  trie (the fuel of the walk).
-/
import ModVerif.Proofs.TieFnDirhashDirTrie
import ModVerif.Proofs.ZipBPath
namespace ModVerif.TieFnDirhashDir
open ModVerif ModVerif.Zip ModVerif.ZipSpec ModVerif.Dirhash

theorem bytesLt_tri (a b : Bytes) : bytesLt a b = true ∨ a = b ∨ bytesLt b a = true := by
  cases h1 : bytesLt a b with
  | true => exact Or.inl rfl
  | false =>
    cases h2 : bytesLt b a with
    | true => exact Or.inr (Or.inr rfl)
    | false => exact Or.inr (Or.inl (bytesLt_total a b h1 h2))

theorem compsLt_cons_self (n : Bytes) (a b : List Bytes) : compsLt (n :: a) (n :: b) = compsLt a b := by
  simp [compsLt, bytesLt_irrefl]

theorem compsLt_cons_lt {n n' : Bytes} (h : bytesLt n n' = true) (a b : List Bytes) :
    compsLt (n :: a) (n' :: b) = true := by
  simp [compsLt, h]

theorem compsLt_cons_gt {n n' : Bytes} (h : bytesLt n' n = true) (a b : List Bytes) :
    compsLt (n :: a) (n' :: b) = false := by
  simp [compsLt, h, bytesLt_asymm n' n h]

theorem compsLt_asymm : ∀ a b : List Bytes, compsLt a b = true → compsLt b a = false
  | [], [], h => by simp [compsLt] at h
  | [], _ :: _, _ => by simp [compsLt]
  | _ :: _, [], h => by simp [compsLt] at h
  | a :: as, b :: bs, h => by
    rcases bytesLt_tri a b with hab | rfl | hba
    · exact compsLt_cons_gt hab _ _
    · rw [compsLt_cons_self] at h ⊢; exact compsLt_asymm as bs h
    · rw [compsLt_cons_gt hba] at h; cases h

theorem compsLt_total : ∀ a b : List Bytes, compsLt a b = false → compsLt b a = false → a = b
  | [], [], _, _ => rfl
  | [], _ :: _, h, _ => by simp [compsLt] at h
  | _ :: _, [], _, h => by simp [compsLt] at h
  | a :: as, b :: bs, h1, h2 => by
    rcases bytesLt_tri a b with hab | rfl | hba
    · rw [compsLt_cons_lt hab] at h1; cases h1
    · rw [compsLt_cons_self] at h1 h2; rw [compsLt_total as bs h1 h2]
    · rw [compsLt_cons_lt hba] at h2; cases h2

theorem compsLt_trans : ∀ a b c : List Bytes, compsLt a b = true → compsLt b c = true → compsLt a c = true
  | [], [], _, h, _ => by simp [compsLt] at h
  | [], _ :: _, [], _, h => by simp [compsLt] at h
  | [], _ :: _, _ :: _, _, _ => by simp [compsLt]
  | _ :: _, [], _, h, _ => by simp [compsLt] at h
  | _ :: _, _ :: _, [], _, h => by simp [compsLt] at h
  | a :: as, b :: bs, c :: cs, h1, h2 => by
    rcases bytesLt_tri a b with hab | rfl | hba
    · rcases bytesLt_tri b c with hbc | rfl | hcb
      · exact compsLt_cons_lt (bytesLt_trans a b c hab hbc) _ _
      · exact compsLt_cons_lt hab _ _
      · rw [compsLt_cons_gt hcb] at h2; cases h2
    · rcases bytesLt_tri a c with hac | rfl | hca
      · exact compsLt_cons_lt hac _ _
      · rw [compsLt_cons_self] at h1 h2 ⊢; exact compsLt_trans as bs cs h1 h2
      · rw [compsLt_cons_gt hca] at h2; cases h2
    · rw [compsLt_cons_gt hba] at h1; cases h1

theorem compsLt_strictTotal : StrictTotal compsLt := ⟨compsLt_asymm, compsLt_trans, compsLt_total⟩

theorem splitOn_injective {a b : Bytes} (h : splitOn slash a = splitOn slash b) : a = b := by
  rw [← joinWith_splitOn slash a, ← joinWith_splitOn slash b, h]

theorem walkLt_strictTotal : StrictTotal walkLt :=
  ⟨fun _ _ h => compsLt_asymm _ _ h, fun _ _ _ h1 h2 => compsLt_trans _ _ _ h1 h2,
   fun _ _ h1 h2 => splitOn_injective (compsLt_total _ _ h1 h2)⟩

theorem mem_flatList {q : List Bytes} : ∀ {cs : List (Bytes × Node)}, q ∈ flatList cs →
    ∃ p ∈ cs, ∃ q', q = p.1 :: q' := by
  intro cs h
  rw [flatList_eq_flatMap] at h
  obtain ⟨p, hp, hq⟩ := List.mem_flatMap.1 h
  obtain ⟨q', _, rfl⟩ := List.mem_map.1 hq
  exact ⟨p, hp, q', rfl⟩

mutual
theorem flatNode_sorted : ∀ x : Node, wfNode x → (flatNode x).Pairwise (fun a b => compsLt a b = true)
  | .file .., _ => by simp [flatNode]
  | .dir cs, h => by
    simp only [flatNode]
    exact flatList_sorted cs (by simpa [wfNode] using h)
theorem flatList_sorted : ∀ cs : List (Bytes × Node), wfList cs →
    (flatList cs).Pairwise (fun a b => compsLt a b = true)
  | [], _ => by simp [flatList]
  | (n, x) :: rest, h => by
    simp only [wfList] at h
    obtain ⟨⟨_, hx⟩, hlt, hrest⟩ := h
    rw [flatList_cons, List.pairwise_append]
    refine ⟨?_, flatList_sorted rest hrest, ?_⟩
    · rw [List.pairwise_map]
      exact (flatNode_sorted x hx).imp (fun {a b} hab => by rw [compsLt_cons_self]; exact hab)
    · intro a ha b hb
      obtain ⟨a', _, rfl⟩ := List.mem_map.1 ha
      obtain ⟨p, hp, b', rfl⟩ := mem_flatList hb
      exact compsLt_cons_lt (hlt p hp) _ _
end

def incompB (a b : Bytes) : Bool :=
  !(splitOn 47 a).isPrefixOf (splitOn 47 b) && !(splitOn 47 b).isPrefixOf (splitOn 47 a)

/-- a well-formed flat directory listing; in particular the paths are pairwise distinct and no file lies below another
    file -/
def WF (files : List (Bytes × Bytes)) : Prop :=
  (∀ f ∈ files, cleanRelB f.1 = true) ∧ (files.map (·.1)).Pairwise (fun a b => incompB a b = true)

instance (files : List (Bytes × Bytes)) : Decidable (WF files) := by unfold WF; exact inferInstance

theorem normal_of_cleanRelB {p : Bytes} (h : cleanRelB p = true) : ∀ c ∈ splitOn 47 p, NormalElem c := by
  intro c hc
  have h1 := cleanRel_of_check p h c hc
  exact ⟨h1.1, h1.2.1, h1.2.2, Proofs.ZipB.not_mem_of_mem_splitOn 47 p c hc⟩

theorem incomp_of_incompB {a b : Bytes} (h : incompB a b = true) : Incomp (splitOn 47 a) (splitOn 47 b) := by
  simp only [incompB, Bool.and_eq_true, Bool.not_eq_true'] at h
  constructor
  · intro hp; have := List.isPrefixOf_iff_prefix.2 hp; simp [h.1] at this
  · intro hp; have := List.isPrefixOf_iff_prefix.2 hp; simp [h.2] at this

theorem WF.nodup {files : List (Bytes × Bytes)} (h : WF files) : (files.map (·.1)).Nodup := by
  refine h.2.imp ?_
  intro a b hab e
  subst e
  exact (incomp_of_incompB hab).1 (List.prefix_refl _)

theorem WF.cleanRel {files : List (Bytes × Bytes)} (h : WF files) : ∀ f ∈ files, CleanRel f.1 :=
  fun f hf => cleanRel_of_check _ (h.1 f hf)

abbrev trieOf (files : List (Bytes × Bytes)) : List (Bytes × Node) := treeOfList (files.map leafOf)

theorem trieOf_spec {files : List (Bytes × Bytes)} (h : WF files) :
    wfList (trieOf files) ∧ (flatList (trieOf files)).Perm (files.map (fun f => splitOn 47 f.1)) := by
  have hpw : (files.map (fun f => splitOn 47 f.1)).Pairwise Incomp := by
    have := h.2
    rw [List.pairwise_map] at this ⊢
    exact this.imp (fun hab => incomp_of_incompB hab)
  have := foldl_insert_spec files [] (fun f hf => normal_of_cleanRelB (h.1 f hf)) hpw wfList_nil (by simp [flatList])
  simpa [trieOf, treeOfList, flatList] using this

theorem walkOrder_eq_flat {files : List (Bytes × Bytes)} (h : WF files) :
    walkOrder (files.map (·.1)) = (flatList (trieOf files)).map (joinWith [slash]) := by
  obtain ⟨hwf, hperm⟩ := trieOf_spec h
  have hsorted := flatList_sorted _ hwf
  have hmem : ∀ a ∈ flatList (trieOf files), splitOn slash (joinWith [slash] a) = a := by
    intro a ha
    obtain ⟨f, _, rfl⟩ := List.mem_map.1 (hperm.subset ha)
    show splitOn slash (joinWith [slash] (splitOn slash f.1)) = splitOn slash f.1
    rw [joinWith_splitOn]
  unfold walkOrder
  apply insertionSort_eq_of_sorted_perm walkLt_strictTotal
  · apply strictSorted_le walkLt_strictTotal
    rw [List.pairwise_map]
    exact List.Pairwise.imp_of_mem (fun {a b} ha hb hab => by
      show compsLt (splitOn slash _) (splitOn slash _) = true
      rw [hmem a ha, hmem b hb]; exact hab) hsorted
  · have := hperm.map (joinWith [slash])
    refine this.trans ?_
    rw [List.map_map]
    have : (files.map ((joinWith [slash]) ∘ fun f => splitOn 47 f.1)) = files.map (·.1) := by
      apply List.map_congr_left
      intro f _
      exact joinWith_splitOn slash f.1
    rw [this]

def szOpt : Option Node → Nat
  | none => 0
  | some v => szNode v

theorem szList_modifyChild (name : Bytes) (f : Option Node → Node) (k : Nat)
    (hf : ∀ old, szNode (f old) ≤ szOpt old + k) : ∀ cs : List (Bytes × Node),
    szList (modifyChild name f cs) ≤ szList cs + k + 1
  | [] => by
    have := hf none
    simp only [modifyChild, szList, szOpt] at this ⊢
    omega
  | (n, v) :: rest => by
    have ih := szList_modifyChild name f k hf rest
    simp only [modifyChild]
    split
    · have := hf (some v)
      simp only [szList, szOpt] at this ⊢
      omega
    · split
      · have := hf none
        simp only [szList, szOpt] at this ⊢
        omega
      · simp only [szList]
        omega

theorem szList_insertPath (m : Mode) (s : Int) (ct : Bytes) (g : Bool) : ∀ (cs : List Bytes) (t : List (Bytes × Node)),
    szList (insertPath cs (.file m s ct g) t) ≤ szList t + 3 * cs.length
  | [], t => by simp [insertPath]
  | [c], t => by
    rw [insertPath_single]
    have := szList_modifyChild c (fun _ => Node.file m s ct g) 1 (fun old => by simp [szNode]) t
    simp only [List.length_cons, List.length_nil]
    omega
  | c :: c' :: rest, t => by
    have hins : insertPath (c :: c' :: rest) (.file m s ct g) t =
        modifyChild c (fun old => .dir (insertPath (c' :: rest) (.file m s ct g) (childrenOf old))) t := by
      simp only [insertPath]
    rw [hins]
    have := szList_modifyChild c
      (fun old => Node.dir (insertPath (c' :: rest) (.file m s ct g) (childrenOf old))) (3 * (c' :: rest).length + 2)
      (fun old => by
        have ih := szList_insertPath m s ct g (c' :: rest) (childrenOf old)
        simp only [szNode]
        cases old with
        | none => simp only [childrenOf, szList, szOpt] at ih ⊢; omega
        | some v =>
          cases v with
          | file m' s' ct' g' => simp only [childrenOf, szList, szOpt, szNode] at ih ⊢; omega
          | dir sub => simp only [childrenOf, szOpt, szNode] at ih ⊢; omega) t
    simp only [List.length_cons] at this ⊢
    omega

/-- the fuel a walk over the trie of `files` needs: three per path element -/
def walkFuel (files : List (Bytes × Bytes)) : Nat := 3 * (files.map (fun f => f.1.length + 1)).sum + 1

theorem szList_foldl : ∀ (files : List (Bytes × Bytes)) (acc : List (Bytes × Node)),
    szList ((files.map leafOf).foldl (fun cs it => insertPath (splitOn 47 it.1) it.2 cs) acc) ≤
      szList acc + 3 * (files.map (fun f => f.1.length + 1)).sum
  | [], acc => by simp
  | f :: files, acc => by
    have h1 := szList_insertPath .regular (f.2.length : Int) f.2 false (splitOn 47 f.1) acc
    have h2 := splitOn_length_le 47 f.1
    have ih := szList_foldl files (insertPath (splitOn 47 f.1) (.file .regular (f.2.length : Int) f.2 false) acc)
    simp only [List.map_cons, List.foldl_cons, List.sum_cons]
    omega

theorem szList_trieOf (files : List (Bytes × Bytes)) : szList (trieOf files) ≤ walkFuel files := by
  have := szList_foldl files []
  simp only [szList] at this
  unfold trieOf treeOfList walkFuel
  omega

end ModVerif.TieFnDirhashDir
