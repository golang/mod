/-
  C07 (sumdb/note), `Open`: what a parsed signature line says, the signature loop in both directions
  (`openLoop_ok`, `openLoop_forward_gen`), the split of the message at its last blank line, and the exact
  acceptance condition of `Open` (`Open_ok_iff`).
-/
import ModVerif.Model.Note
import ModVerif.Spec.NoteSpec
import ModVerif.Proofs.ListLemmas
namespace ModVerif.Note
open ModVerif ModVerif.B64

theorem parseSigLine_spec {line : Bytes} {p : SigLine} (h : parseSigLine line = some p) :
    isPrefixOfB sigPrefix line = true ∧
    p.line = line.drop sigPrefix.length ∧
    (p.name, p.b64) = chop (line.drop sigPrefix.length) [32] ∧
    isValidName p.name = true ∧ p.b64 ≠ [] ∧
    ∃ raw, b64dec p.b64 = some raw ∧ 5 ≤ raw.length ∧ be32 raw = some p.hash ∧ p.sig = raw.drop 4 := by
  unfold parseSigLine at h
  split at h
  · simp at h
  · rename_i hpre
    simp only at h
    split at h
    · simp at h
    · rename_i raw hraw
      split at h
      · simp at h
      · rename_i hc
        split at h
        · simp at h
        · rename_i hash hh
          simp only [Option.some.injEq] at h
          subst h
          simp only [Bool.not_eq_true, Bool.or_eq_true, Bool.not_eq_eq_eq_not, Bool.not_true,
            not_or, Bool.not_eq_false, decide_eq_true_eq] at hc hpre
          refine ⟨by simpa using hpre, rfl, rfl, ?_, ?_, raw, hraw, ?_, hh, rfl⟩
          · simpa using hc.1.1
          · have := hc.1.2; simpa [List.isEmpty_iff] using this
          · have := hc.2; omega

theorem openStep_ok {known : Verifiers} {text : Bytes} {st st' : LoopState} {line : Bytes}
    (h : openStep known text st line = .ok st') :
    ∃ p, parseSigLine line = some p ∧ st.numSig + 1 ≤ maxSigs ∧ st'.numSig = st.numSig + 1 ∧
      ((known p.name p.hash = .unknown ∧ st'.seen = st.seen ∧ st'.sigs = st.sigs ∧
          ((p.line ∈ st.seenUnverified ∧ st'.seenUnverified = st.seenUnverified ∧
              st'.unverifiedSigs = st.unverifiedSigs) ∨
           (p.line ∉ st.seenUnverified ∧ st'.seenUnverified = p.line :: st.seenUnverified ∧
              st'.unverifiedSigs = st.unverifiedSigs ++ [p.toSig])))
       ∨ (∃ v, known p.name p.hash = .found v ∧ v.name = p.name ∧ v.hash = p.hash ∧
          st'.seenUnverified = st.seenUnverified ∧ st'.unverifiedSigs = st.unverifiedSigs ∧
          (((p.name, p.hash) ∈ st.seen ∧ st'.seen = st.seen ∧ st'.sigs = st.sigs) ∨
           ((p.name, p.hash) ∉ st.seen ∧ v.verify text p.sig = true ∧
              st'.seen = (p.name, p.hash) :: st.seen ∧ st'.sigs = st.sigs ++ [p.toSig])))) := by
  unfold openStep at h
  split at h
  · simp at h
  · rename_i p hp
    refine ⟨p, hp, ?_⟩
    simp only at h
    split at h
    · simp at h
    · rename_i hn
      refine ⟨by omega, ?_⟩
      split at h
      · rename_i hk
        split at h
        · rename_i hc
          simp only [Except.ok.injEq] at h; subst h
          exact ⟨rfl, Or.inl ⟨hk, rfl, rfl, Or.inl ⟨by simpa using hc, rfl, rfl⟩⟩⟩
        · rename_i hc
          simp only [Except.ok.injEq] at h; subst h
          exact ⟨rfl, Or.inl ⟨hk, rfl, rfl, Or.inr ⟨by simpa using hc, rfl, rfl⟩⟩⟩
      · simp at h
      · simp at h
      · rename_i v hk
        split at h
        · simp at h
        · rename_i hm
          simp only [bne_iff_ne, ne_eq, Bool.or_eq_true, not_or, Decidable.not_not] at hm
          split at h
          · rename_i hc
            simp only [Except.ok.injEq] at h; subst h
            exact ⟨rfl, Or.inr ⟨v, hk, hm.1, hm.2, rfl, rfl, Or.inl ⟨by simpa using hc, rfl, rfl⟩⟩⟩
          · rename_i hc
            split at h
            · simp at h
            · rename_i hv
              simp only [Except.ok.injEq] at h; subst h
              exact ⟨rfl, Or.inr ⟨v, hk, hm.1, hm.2, rfl, rfl,
                Or.inr ⟨by simpa using hc, by simpa using hv, rfl, rfl⟩⟩⟩

theorem openLoop_cons_ok {known : Verifiers} {text : Bytes} {line : Bytes} {rest : List Bytes}
    {st st' : LoopState} (h : openLoop known text (line :: rest) st = .ok st') :
    ∃ st1, openStep known text st line = .ok st1 ∧ openLoop known text rest st1 = .ok st' := by
  simp only [openLoop] at h
  split at h
  · simp at h
  · rename_i st1 h1; exact ⟨st1, h1, h⟩

theorem lastIndexOf_spec {sep s : Bytes} {i : Nat} (h : lastIndexOf sep s = some i) :
    s = s.take i ++ sep ++ s.drop (i + sep.length) := by
  induction s generalizing i with
  | nil =>
    simp only [lastIndexOf] at h
    split at h
    · rename_i he
      simp only [List.isEmpty_iff] at he
      simp at h; subst h; subst he; simp
    · simp at h
  | cons c rest ih =>
    simp only [lastIndexOf] at h
    split at h
    · rename_i j hj
      simp only [Option.some.injEq] at h; subst h
      have := ih hj
      simp only [List.take_succ_cons, List.cons_append, List.cons.injEq, true_and]
      rw [show j + 1 + sep.length = (j + sep.length) + 1 by omega, List.drop_succ_cons]
      exact this
    · split at h
      · rename_i hp
        simp only [Option.some.injEq] at h; subst h
        obtain ⟨t, ht⟩ := (isPrefixOfB_iff _ _).mp hp
        rw [ht]; simp
      · simp at h

theorem Open_ok {msg : Bytes} {known : Verifiers} {n : Note} (h : Open msg known = .ok n) :
    ∃ split st, validMsg msg = true ∧ lastIndexOf sigSplit msg = some split ∧
      n.text = msg.take (split + 1) ∧ msg.drop (split + 2) ≠ [] ∧
      (msg.drop (split + 2)).getLast? = some 10 ∧
      openLoop known n.text (sigLines (msg.drop (split + 2))) {} = .ok st ∧
      n.sigs = st.sigs ∧ n.unverifiedSigs = st.unverifiedSigs ∧ st.sigs ≠ [] := by
  unfold Open at h
  split at h
  · simp at h
  · rename_i hv
    split at h
    · simp at h
    · rename_i split hs
      simp only at h
      split at h
      · simp at h
      · rename_i hc
        split at h
        · simp at h
        · rename_i st hl
          split at h
          · simp at h
          · rename_i hne
            simp only [Except.ok.injEq] at h; subst h
            simp only [Bool.or_eq_true, List.isEmpty_iff, bne_iff_ne, ne_eq, not_or, Decidable.not_not] at hc
            exact ⟨split, st, by simpa using hv, hs, rfl, hc.1, hc.2, hl, rfl, rfl,
              by simpa [List.isEmpty_iff] using hne⟩

theorem take_len_succ {α} (A : List α) (x : α) (R : List α) : (A ++ x :: R).take (A.length + 1) = A ++ [x] := by
  induction A with
  | nil => simp
  | cons a A ih => simp [ih]

theorem drop_len_add2 {α} (A : List α) (x y : α) (R : List α) : (A ++ x :: y :: R).drop (A.length + 2) = R := by
  induction A with
  | nil => simp
  | cons a A ih => simp [ih]

theorem split_spec {msg : Bytes} {split : Nat} (hs : lastIndexOf sigSplit msg = some split) :
    msg = msg.take (split + 1) ++ [10] ++ msg.drop (split + 2) ∧
    (msg.take (split + 1)).getLast? = some 10 := by
  have h := lastIndexOf_spec hs
  simp only [sigSplit, List.length_cons, List.length_nil] at h
  have hlen : split ≤ msg.length := by
    have := congrArg List.length h
    simp only [List.length_append, List.length_take, List.length_cons, List.length_nil,
      List.length_drop] at this
    omega
  generalize hA : msg.take split = A at h
  generalize hB : msg.drop (split + 0 + 1 + 1) = R at h
  have hAl : A.length = split := by rw [← hA]; simp; omega
  have h' : msg = A ++ 10 :: 10 :: R := by rw [h]; simp
  have h1 : msg.take (split + 1) = A ++ [10] := by
    rw [h', ← hAl]; exact take_len_succ A 10 (10 :: R)
  have h2 : msg.drop (split + 2) = R := by
    rw [h', ← hAl]; exact drop_len_add2 A 10 10 R
  first | rw [h1, h2] | rw [h1]
  exact ⟨by rw [h']; simp, by simp⟩

theorem indexOf_spec {sep s : Bytes} {i : Nat} (h : indexOf sep s = some i) :
    s = s.take i ++ sep ++ s.drop (i + sep.length) := by
  induction s generalizing i with
  | nil =>
    simp only [indexOf] at h
    split at h
    · rename_i he
      simp only [List.isEmpty_iff] at he
      simp at h; subst h; subst he; simp
    · simp at h
  | cons c rest ih =>
    simp only [indexOf] at h
    split at h
    · rename_i hp
      simp only [Option.some.injEq] at h; subst h
      obtain ⟨t, ht⟩ := (isPrefixOfB_iff _ _).mp hp
      rw [ht]; simp
    · simp only [Option.map_eq_some_iff] at h
      obtain ⟨j, hj, rfl⟩ := h
      have := ih hj
      simp only [List.take_succ_cons, List.cons_append, List.cons.injEq, true_and]
      rw [show j + 1 + sep.length = (j + sep.length) + 1 by omega, List.drop_succ_cons]
      exact this

theorem chop_spec {s sep a b : Bytes} (h : (a, b) = chop s sep) (hb : b ≠ []) : s = a ++ sep ++ b := by
  unfold chop at h
  split at h
  · simp only [Prod.mk.injEq] at h; exact absurd h.2 hb
  · rename_i i hi
    simp only [Prod.mk.injEq] at h
    rw [h.1, h.2]; exact indexOf_spec hi

theorem parseSigLine_line {line : Bytes} {p : SigLine} (h : parseSigLine line = some p) :
    line = sigPrefix ++ p.name ++ [32] ++ p.b64 := by
  obtain ⟨hpre, _, hchop, _, hne, _⟩ := parseSigLine_spec h
  obtain ⟨t, ht⟩ := (isPrefixOfB_iff _ _).mp hpre
  have hd : line.drop sigPrefix.length = t := by rw [ht]; simp
  rw [hd] at hchop
  have := chop_spec hchop hne
  rw [ht, this]; simp

def LookOK (known : Verifiers) (p : SigLine) : Prop :=
  known p.name p.hash = .unknown ∨ ∃ k, known p.name p.hash = .found k ∧ k.name = p.name ∧ k.hash = p.hash

/-- the FIRST line of every known key (not already in `seen`) carries a signature its verifier accepts over `text` -/
def FirstVerified (known : Verifiers) (text : Bytes) (seen : List (Bytes × UInt32)) (ps : List SigLine) : Prop :=
  ∀ p ∈ dedupFrom (fun p : SigLine => (p.name, p.hash)) seen (ps.filter (isKnown known)),
    ∃ k, known p.name p.hash = .found k ∧ k.verify text p.sig = true

theorem parseAll_cons {line : Bytes} {rest : List Bytes} {ps : List SigLine} (h : parseAll (line :: rest) = some ps) :
    ∃ p ps', parseSigLine line = some p ∧ parseAll rest = some ps' ∧ ps = p :: ps' := by
  simp only [parseAll] at h
  split at h
  · rename_i p ps' hp hps
    simp only [Option.some.injEq] at h
    exact ⟨p, ps', hp, hps, h.symm⟩
  · cases h

theorem parseAll_mem : ∀ (ls : List Bytes) (ps : List SigLine), parseAll ls = some ps →
    ∀ p ∈ ps, ∃ line ∈ ls, parseSigLine line = some p
  | [], ps, h, p, hp => by
    simp only [parseAll, Option.some.injEq] at h; subst h; cases hp
  | line :: rest, ps, h, p, hp => by
    obtain ⟨p0, ps', hp0, hps', rfl⟩ := parseAll_cons h
    rcases List.mem_cons.mp hp with rfl | hp
    · exact ⟨line, List.mem_cons_self, hp0⟩
    · obtain ⟨l, hl, hpl⟩ := parseAll_mem rest ps' hps' p hp
      exact ⟨l, List.mem_cons_of_mem _ hl, hpl⟩

theorem mem_dedupFrom {α κ : Type} [DecidableEq κ] (key : α → κ) : ∀ (seen : List κ) (l : List α) (a : α),
    a ∈ dedupFrom key seen l → a ∈ l
  | _, [], a, h => by simp [dedupFrom] at h
  | seen, b :: l, a, h => by
    simp only [dedupFrom] at h
    split at h
    · exact List.mem_cons_of_mem _ (mem_dedupFrom key seen l a h)
    · rcases List.mem_cons.mp h with rfl | h
      · exact List.mem_cons_self
      · exact List.mem_cons_of_mem _ (mem_dedupFrom key _ l a h)

theorem dedupFrom_nil_ne_nil {α κ : Type} [DecidableEq κ] (key : α → κ) {l : List α} (h : l ≠ []) :
    dedupFrom key [] l ≠ [] := by
  cases l with
  | nil => exact absurd rfl h
  | cons a l => simp [dedupFrom]

theorem openLoop_bad_fails {known : Verifiers} {text : Bytes} :
    ∀ (ls : List Bytes) (st : LoopState) (i : Nat) (line : Bytes) (p : SigLine) (k : Verifier),
      ls[i]? = some line → parseSigLine line = some p →
      (∀ j, j < i → ∀ lj pj, ls[j]? = some lj → parseSigLine lj = some pj →
        (pj.name, pj.hash) ≠ (p.name, p.hash)) →
      (p.name, p.hash) ∉ st.seen →
      known p.name p.hash = .found k → k.verify text p.sig = false →
      ∀ st', openLoop known text ls st ≠ .ok st' := by
  intro ls
  induction ls with
  | nil => intro st i line p k hi; simp at hi
  | cons l0 rest ih =>
    intro st i line p k hi hp hfirst hseen hk hbad st' h
    obtain ⟨st1, h1, h2⟩ := openLoop_cons_ok h
    obtain ⟨p0, hp0, _, _, hcase⟩ := openStep_ok h1
    cases i with
    | zero =>
      simp only [List.getElem?_cons_zero, Option.some.injEq] at hi
      subst hi
      rw [hp] at hp0
      simp only [Option.some.injEq] at hp0; subst hp0
      rcases hcase with ⟨hu, _⟩ | ⟨v, hv, _, _, _, _, hcase⟩
      · rw [hk] at hu; cases hu
      · rw [hk] at hv
        simp only [Lookup.found.injEq] at hv; subst hv
        rcases hcase with ⟨hin, _⟩ | ⟨_, hver, _⟩
        · exact hseen hin
        · rw [hbad] at hver; cases hver
    | succ i =>
      simp only [List.getElem?_cons_succ] at hi
      have hne := hfirst 0 (by omega) l0 p0 (by simp) hp0
      refine ih st1 i line p k hi hp ?_ ?_ hk hbad st' h2
      · intro j hj lj pj hlj hpj
        exact hfirst (j + 1) (by omega) lj pj (by simpa using hlj) hpj
      · rcases hcase with ⟨_, hs, _⟩ | ⟨v, _, _, _, _, _, hcase⟩
        · rw [hs]; exact hseen
        · rcases hcase with ⟨_, hs, _⟩ | ⟨_, _, hs, _⟩
          · rw [hs]; exact hseen
          · rw [hs]
            simp only [List.mem_cons, not_or]
            exact ⟨fun e => hne e.symm, hseen⟩

theorem openLoop_ok {known : Verifiers} {text : Bytes} :
    ∀ (ls : List Bytes) (st st' : LoopState), openLoop known text ls st = .ok st' →
      ∃ ps, parseAll ls = some ps ∧ ps.length ≤ maxSigs - st.numSig ∧
        (∀ p ∈ ps, LookOK known p) ∧ FirstVerified known text st.seen ps ∧
        st'.sigs = st.sigs ++
          (dedupFrom (fun p : SigLine => (p.name, p.hash)) st.seen (ps.filter (isKnown known))).map SigLine.toSig ∧
        st'.unverifiedSigs = st.unverifiedSigs ++
          (dedupFrom (fun p : SigLine => p.line) st.seenUnverified (ps.filter (isUnknown known))).map SigLine.toSig := by
  intro ls
  induction ls with
  | nil =>
    intro st st' h
    simp only [openLoop, Except.ok.injEq] at h; subst h
    exact ⟨[], rfl, by simp, by simp, by simp [FirstVerified, dedupFrom], by simp [dedupFrom], by simp [dedupFrom]⟩
  | cons line rest ih =>
    intro st st' h
    obtain ⟨st1, h1, h2⟩ := openLoop_cons_ok h
    obtain ⟨ps, hps, hlen, hlook, hfirst, hsigs, hunv⟩ := ih st1 st' h2
    obtain ⟨p, hp, hn, hn1, hcase⟩ := openStep_ok h1
    refine ⟨p :: ps, by simp [parseAll, hp, hps], by simp only [List.length_cons]; omega, ?_⟩
    rcases hcase with ⟨hu, hseen, hs, hcase⟩ | ⟨v, hv, hvn, hvh, hsu, hus, hcase⟩
    · have hk : isKnown known p = false := by simp [isKnown, hu]
      have hk' : isUnknown known p = true := by simp [isUnknown, hu]
      rw [hseen] at hfirst hsigs
      refine ⟨List.forall_mem_cons.mpr ⟨.inl hu, hlook⟩, by simpa [FirstVerified, hk] using hfirst,
        by rw [hsigs, hs]; simp [hk], ?_⟩
      rcases hcase with ⟨hin, hsu, hus⟩ | ⟨hnin, hsu, hus⟩
      · rw [hunv, hus, hsu]; simp [hk', dedupFrom, hin]
      · rw [hunv, hus, hsu]; simp [hk', dedupFrom, hnin]
    · have hk : isKnown known p = true := by simp [isKnown, hv]
      have hk' : isUnknown known p = false := by simp [isUnknown, hv]
      rw [hsu] at hunv
      refine ⟨List.forall_mem_cons.mpr ⟨.inr ⟨v, hv, hvn, hvh⟩, hlook⟩, ?_, ?_, by rw [hunv, hus]; simp [hk']⟩
      · rcases hcase with ⟨hin, hseen, _⟩ | ⟨hnin, hver, hseen, _⟩
        · rw [hseen] at hfirst
          simpa [FirstVerified, hk, dedupFrom, hin] using hfirst
        · rw [hseen] at hfirst
          intro q hq
          simp only [List.filter_cons, hk, ↓reduceIte, dedupFrom, hnin, List.mem_cons] at hq
          rcases hq with rfl | hq
          · exact ⟨v, hv, hver⟩
          · exact hfirst q hq
      · rcases hcase with ⟨hin, hseen, hs⟩ | ⟨hnin, _, hseen, hs⟩
        · rw [hsigs, hs, hseen]; simp [hk, dedupFrom, hin]
        · rw [hsigs, hs, hseen]; simp [hk, dedupFrom, hnin]

/-- the converse of `openLoop_ok` -/
theorem openLoop_forward_gen {known : Verifiers} {text : Bytes} :
    ∀ (ls : List Bytes) (ps : List SigLine) (st : LoopState),
      parseAll ls = some ps → st.numSig + ps.length ≤ maxSigs →
      (∀ p ∈ ps, LookOK known p) → FirstVerified known text st.seen ps →
      ∃ st', openLoop known text ls st = .ok st' ∧
        st'.sigs = st.sigs ++
          (dedupFrom (fun p : SigLine => (p.name, p.hash)) st.seen (ps.filter (isKnown known))).map SigLine.toSig ∧
        st'.unverifiedSigs = st.unverifiedSigs ++
          (dedupFrom (fun p : SigLine => p.line) st.seenUnverified (ps.filter (isUnknown known))).map SigLine.toSig
  | [], ps, st, hps, _, _, _ => by
    simp only [parseAll, Option.some.injEq] at hps
    subst hps
    exact ⟨st, by simp [openLoop], by simp [dedupFrom], by simp [dedupFrom]⟩
  | line :: rest, ps, st, hps, hlen, hlook, hfirst => by
    obtain ⟨p, ps', hp, hps', rfl⟩ := parseAll_cons hps
    simp only [List.length_cons] at hlen
    have hn : ¬ st.numSig + 1 > maxSigs := by omega
    have hlook' : ∀ q ∈ ps', LookOK known q := fun q hq => hlook q (List.mem_cons_of_mem _ hq)
    simp only [openLoop, openStep, hp, hn, ↓reduceIte]
    rcases hlook p List.mem_cons_self with hu | ⟨k, hk, hkn, hkh⟩
    · have h1 : isKnown known p = false := by simp [isKnown, hu]
      have h2 : isUnknown known p = true := by simp [isUnknown, hu]
      have hfirst' : FirstVerified known text st.seen ps' := by
        intro q hq; apply hfirst q; simpa [List.filter_cons, h1] using hq
      simp only [hu, List.filter_cons, h1, h2, Bool.false_eq_true, ↓reduceIte]
      by_cases hc : p.line ∈ st.seenUnverified
      · have hc' : st.seenUnverified.contains p.line = true := by simpa using hc
        simp only [hc', ↓reduceIte]
        obtain ⟨st', hl, hs, hu'⟩ := openLoop_forward_gen rest ps' { st with numSig := st.numSig + 1 } hps'
          (by simp; omega) hlook' hfirst'
        exact ⟨st', hl, by simpa using hs, by simpa [dedupFrom, hc] using hu'⟩
      · have hc' : st.seenUnverified.contains p.line = false := by simpa using hc
        simp only [hc', Bool.false_eq_true, ↓reduceIte]
        obtain ⟨st', hl, hs, hu'⟩ := openLoop_forward_gen rest ps'
          { st with numSig := st.numSig + 1, seenUnverified := p.line :: st.seenUnverified,
                    unverifiedSigs := st.unverifiedSigs ++ [p.toSig] }
          hps' (by simp; omega) hlook' hfirst'
        exact ⟨st', hl, by simpa using hs, by simpa [dedupFrom, hc] using hu'⟩
    · have h1 : isKnown known p = true := by simp [isKnown, hk]
      have h2 : isUnknown known p = false := by simp [isUnknown, hk]
      simp only [hk, hkn, hkh, bne_self_eq_false, Bool.or_self, Bool.false_eq_true, ↓reduceIte,
        List.filter_cons, h1, h2]
      by_cases hc : (p.name, p.hash) ∈ st.seen
      · have hc' : st.seen.contains (p.name, p.hash) = true := by simpa using hc
        have hfirst' : FirstVerified known text st.seen ps' := by
          intro q hq; apply hfirst q; simpa [h1, dedupFrom, hc] using hq
        simp only [hc', ↓reduceIte]
        obtain ⟨st', hl, hs, hu'⟩ := openLoop_forward_gen rest ps' { st with numSig := st.numSig + 1 } hps'
          (by simp; omega) hlook' hfirst'
        exact ⟨st', hl, by simpa [dedupFrom, hc] using hs, by simpa using hu'⟩
      · have hc' : st.seen.contains (p.name, p.hash) = false := by simpa using hc
        have hver : k.verify text p.sig = true := by
          obtain ⟨k', hk', hv⟩ := hfirst p (by simp [h1, dedupFrom, hc])
          rw [hk] at hk'
          simp only [Lookup.found.injEq] at hk'
          subst hk'; exact hv
        have hfirst' : FirstVerified known text ((p.name, p.hash) :: st.seen) ps' := by
          intro q hq; apply hfirst q
          simp only [List.filter_cons, h1, ↓reduceIte, dedupFrom, hc]
          exact List.mem_cons_of_mem _ hq
        simp only [hc', Bool.false_eq_true, ↓reduceIte, hver, Bool.not_true]
        obtain ⟨st', hl, hs, hu'⟩ := openLoop_forward_gen rest ps'
          { st with numSig := st.numSig + 1, seen := (p.name, p.hash) :: st.seen, sigs := st.sigs ++ [p.toSig] }
          hps' (by simp; omega) hlook' hfirst'
        exact ⟨st', hl, by simpa [dedupFrom, hc] using hs, by simpa using hu'⟩

theorem sigLines_line (l rest : Bytes) (h : (10 : UInt8) ∉ l) : sigLines (l ++ 10 :: rest) = l :: sigLines rest := by
  induction l with
  | nil => simp [sigLines]
  | cons c l ih =>
    simp only [List.mem_cons, not_or] at h
    have hne : (c == 10) = false := by simpa using fun e => h.1 e.symm
    simp only [List.cons_append, sigLines, hne, Bool.false_eq_true, ↓reduceIte, ih h.2]

theorem sigLines_first : ∀ (s : Bytes), s.getLast? = some 10 →
    ∃ l rest, s = l ++ 10 :: rest ∧ (10 : UInt8) ∉ l ∧ sigLines s = l :: sigLines rest ∧
      (rest = [] ∨ rest.getLast? = some 10)
  | [], h => by simp at h
  | c :: s', h => by
    by_cases hs' : s' = []
    · subst hs'
      simp only [List.getLast?_singleton, Option.some.injEq] at h
      subst h
      exact ⟨[], [], rfl, by simp, by simp [sigLines], .inl rfl⟩
    · rw [List.getLast?_cons_of_ne_nil hs'] at h
      by_cases hc : c = 10
      · subst hc
        exact ⟨[], s', rfl, by simp, by simp [sigLines], .inr h⟩
      · obtain ⟨l, rest, e, hnl, hs, hr⟩ := sigLines_first s' h
        have hcb : (c == 10) = false := by simpa using hc
        refine ⟨c :: l, rest, by rw [e]; rfl, ?_, by simp only [sigLines, hcb, Bool.false_eq_true, ↓reduceIte, hs], hr⟩
        simp only [List.mem_cons, not_or]; exact ⟨fun e => hc e.symm, hnl⟩

theorem Open_intro {msg : Bytes} {known : Verifiers} {split : Nat} {st : LoopState}
    (hv : validMsg msg = true) (hs : lastIndexOf sigSplit msg = some split)
    (hne : msg.drop (split + 2) ≠ []) (hlast : (msg.drop (split + 2)).getLast? = some 10)
    (hl : openLoop known (msg.take (split + 1)) (sigLines (msg.drop (split + 2))) {} = .ok st)
    (hsigs : st.sigs ≠ []) :
    Open msg known = .ok ⟨msg.take (split + 1), st.sigs, st.unverifiedSigs⟩ := by
  unfold Open
  have he : (msg.drop (split + 2)).isEmpty = false := by simpa [List.isEmpty_iff] using hne
  have he2 : st.sigs.isEmpty = false := by simpa [List.isEmpty_iff] using hsigs
  simp only [hv, Bool.not_true, Bool.false_eq_true, ↓reduceIte, hs, he, hlast, bne_self_eq_false,
    Bool.or_self, hl, he2]

theorem Open_intro_unverified {msg : Bytes} {known : Verifiers} {split : Nat} {st : LoopState}
    (hv : validMsg msg = true) (hs : lastIndexOf sigSplit msg = some split)
    (hne : msg.drop (split + 2) ≠ []) (hlast : (msg.drop (split + 2)).getLast? = some 10)
    (hl : openLoop known (msg.take (split + 1)) (sigLines (msg.drop (split + 2))) {} = .ok st)
    (hsigs : st.sigs = []) :
    Open msg known = .error (.unverified ⟨msg.take (split + 1), [], st.unverifiedSigs⟩) := by
  unfold Open
  have he : (msg.drop (split + 2)).isEmpty = false := by simpa [List.isEmpty_iff] using hne
  simp only [hv, Bool.not_true, Bool.false_eq_true, ↓reduceIte, hs, he, hlast, bne_self_eq_false,
    Bool.or_self, hl, hsigs, List.isEmpty_nil]

/-- `Props.C07.open_ok_iff` -/
theorem Open_ok_iff {msg : Bytes} {known : Verifiers} {n : Note} :
    Open msg known = .ok n ↔
      validMsg msg = true ∧ ∃ split ps, lastIndexOf sigSplit msg = some split ∧
        msg.drop (split + 2) ≠ [] ∧ (msg.drop (split + 2)).getLast? = some 10 ∧
        parseAll (sigLines (msg.drop (split + 2))) = some ps ∧ ps.length ≤ maxSigs ∧
        (∀ p ∈ ps, LookOK known p) ∧ FirstVerified known (msg.take (split + 1)) [] ps ∧
        (∃ p ∈ ps, isKnown known p = true) ∧
        n = ⟨msg.take (split + 1),
          (dedupFrom (fun p : SigLine => (p.name, p.hash)) [] (ps.filter (isKnown known))).map SigLine.toSig,
          (dedupFrom (fun p : SigLine => p.line) [] (ps.filter (isUnknown known))).map SigLine.toSig⟩ := by
  constructor
  · intro h
    obtain ⟨split, st, hv, hs, ht, hne, hlast, hl, hsig, hunv, hsne⟩ := Open_ok h
    obtain ⟨ps, hps, hlen, hlook, hfirst, h1, h2⟩ := openLoop_ok _ _ _ hl
    rw [ht] at hfirst
    refine ⟨hv, split, ps, hs, hne, hlast, hps, by simpa using hlen, hlook, hfirst, ?_, ?_⟩
    · rw [h1] at hsne
      simp only [List.nil_append, ne_eq, List.map_eq_nil_iff] at hsne
      have : ps.filter (isKnown known) ≠ [] := by
        intro e; rw [e] at hsne; exact hsne (by simp [dedupFrom])
      obtain ⟨p, hp⟩ := List.exists_mem_of_ne_nil _ this
      obtain ⟨hp1, hp2⟩ := List.mem_filter.mp hp
      exact ⟨p, hp1, hp2⟩
    · cases n with
      | mk text sigs unv =>
        simp only at ht hsig hunv
        rw [ht, hsig, hunv, h1, h2]
        simp
  · rintro ⟨hv, split, ps, hs, hne, hlast, hps, hlen, hlook, hfirst, ⟨p, hp, hpk⟩, rfl⟩
    obtain ⟨st', hl, hsig, hunv⟩ := openLoop_forward_gen (known := known) (text := msg.take (split + 1))
      _ ps {} hps (by show 0 + ps.length ≤ maxSigs; omega) hlook hfirst
    have hkne : ps.filter (isKnown known) ≠ [] := by
      intro e
      have : p ∈ ps.filter (isKnown known) := List.mem_filter.mpr ⟨hp, hpk⟩
      rw [e] at this; cases this
    have hsne : st'.sigs ≠ [] := by
      rw [hsig]
      simp only [List.nil_append, ne_eq, List.map_eq_nil_iff]
      exact dedupFrom_nil_ne_nil _ hkne
    rw [Open_intro hv hs hne hlast hl hsne, hsig, hunv]
    simp

end ModVerif.Note
