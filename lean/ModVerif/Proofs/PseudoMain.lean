/- Helper lemmas for C18: the text of a pseudo-version by parts; it parses as a version and is
   recognised by the matcher. -/
import ModVerif.Proofs.PseudoDecimal
import ModVerif.Proofs.PseudoSemver
namespace ModVerif.Proofs.Pseudo
open ModVerif ModVerif.PseudoSpec
open ModVerif.Pseudo hiding isDigit isAlnum
open ModVerif.SemverSpec (PreOpt BuildOpt)
open ModVerif.Semver (dottedOK goodPre)

theorem digit_identOrDot : ∀ c : UInt8, isDigit c = true → (Semver.isIdentChar c || c == 46) = true :=
  forall_uint8 (by decide +kernel)
theorem alnum_identOrDot : ∀ c : UInt8, isAlnum c = true → (Semver.isIdentChar c || c == 46) = true :=
  forall_uint8 (by decide +kernel)
theorem digit_ne : ∀ c : UInt8, isDigit c = true → c ≠ 45 ∧ c ≠ 46 ∧ c ≠ 43 := forall_uint8 (by decide +kernel)
theorem alnum_ne : ∀ c : UInt8, isAlnum c = true → c ≠ 45 ∧ c ≠ 46 ∧ c ≠ 43 := forall_uint8 (by decide +kernel)

theorem num0 : Num [48] := ⟨by simp, by intro c hc; simp at hc; subst hc; decide, Or.inl rfl⟩

theorem not_mem_of_forall {p : UInt8 → Prop} {l : Bytes} {x : UInt8} (h : ∀ c ∈ l, p c) (hx : ¬ p x) : x ∉ l :=
  fun hm => hx (h x hm)

theorem digits_no (l : Bytes) (h : ∀ c ∈ l, isDigit c = true) : 45 ∉ l ∧ 46 ∉ l ∧ 43 ∉ l :=
  ⟨fun hm => (digit_ne 45 (h 45 hm)).1 rfl, fun hm => (digit_ne 46 (h 46 hm)).2.1 rfl, fun hm => (digit_ne 43 (h 43 hm)).2.2 rfl⟩

theorem alnums_no (l : Bytes) (h : ∀ c ∈ l, isAlnum c = true) : 45 ∉ l ∧ 46 ∉ l ∧ 43 ∉ l :=
  ⟨fun hm => (alnum_ne 45 (h 45 hm)).1 rfl, fun hm => (alnum_ne 46 (h 46 hm)).2.1 rfl, fun hm => (alnum_ne 43 (h 43 hm)).2.2 rfl⟩

/-- The middle part `R0` between the '-' after the patch number and the time stamp:
    empty (form 1), "0." (forms 2, 3) or `pre.0.` (forms 4, 5). -/
inductive Mid : Bytes → Bytes → Bytes → Prop
  | nobase : Mid [48] [48] []
  | release (min pat : Bytes) : Mid min pat [48, 46]
  | prerelease (min pat body : Bytes) (hb : dottedOK goodPre body = true) : Mid min pat (body ++ [46, 48, 46])

/-- the prerelease part of a pseudo-version -/
def pvPre (R0 ts rev : Bytes) : Bytes := 45 :: (R0 ++ ts ++ 45 :: rev)

/-- the text of a pseudo-version by parts -/
def pvText (maj min pat R0 ts rev bld : Bytes) : Bytes :=
  118 :: maj ++ 46 :: min ++ 46 :: pat ++ pvPre R0 ts rev ++ bld

theorem seg_nodot {ts rev : Bytes} (hts : Ts ts) (hrev : Rev rev) : 46 ∉ ts ++ 45 :: rev := by
  intro h
  rcases List.mem_append.mp h with h | h
  · exact (digits_no ts hts.2).2.1 h
  · rcases List.mem_cons.mp h with h | h
    · exact absurd h (by decide)
    · exact (alnums_no rev hrev.2).2.1 h

/-- one prerelease identifier, and not a number: it contains '-' -/
theorem dottedOK_seg {ts rev : Bytes} (hts : Ts ts) (hrev : Rev rev) :
    dottedOK goodPre (ts ++ 45 :: rev) = true := by
  refine (Semver.dottedOK_forall _ _).mpr ⟨?_, ?_⟩
  · intro c hc
    rcases List.mem_append.mp hc with h | h
    · exact digit_identOrDot c (hts.2 c h)
    · rcases List.mem_cons.mp h with rfl | h
      · rfl
      · exact alnum_identOrDot c (hrev.2 c h)
  · rw [splitOn_noSep 46 _ (seg_nodot hts hrev)]
    intro s hs
    rw [List.mem_singleton.mp hs]
    have : (ts ++ 45 :: rev).all Semver.isDigit = false := List.all_eq_false.mpr ⟨45, by simp, by decide⟩
    simp [goodPre, Semver.isBadNum, this]

theorem preOpt_pvPre {min pat R0 ts rev : Bytes} (hR : Mid min pat R0) (hts : Ts ts) (hrev : Rev rev) :
    PreOpt (pvPre R0 ts rev) := by
  refine (Semver.preOpt_iff _).mpr (Or.inr ⟨R0 ++ ts ++ 45 :: rev, rfl, ?_⟩)
  have hseg := dottedOK_seg hts hrev
  rw [List.append_assoc]
  cases hR with
  | nobase => exact hseg
  | release =>
    rw [show ([48, 46] ++ (ts ++ 45 :: rev) : Bytes) = [48] ++ 46 :: (ts ++ 45 :: rev) from rfl,
      dottedOK_append_dot, hseg]; rfl
  | prerelease _ _ body hb =>
    rw [show (body ++ [46, 48, 46] ++ (ts ++ 45 :: rev) : Bytes) = body ++ 46 :: ([48] ++ 46 :: (ts ++ 45 :: rev)) by simp,
      dottedOK_append_dot, dottedOK_append_dot, hb, hseg]; rfl

theorem parse_pvText {maj min pat R0 ts rev bld : Bytes} (hmaj : Num maj) (hmin : Num min) (hpat : Num pat)
    (hR : Mid min pat R0) (hts : Ts ts) (hrev : Rev rev) (hbld : BuildOpt bld) :
    Semver.parse (pvText maj min pat R0 ts rev bld)
      = some { major := maj, minor := min, patch := pat, prerelease := pvPre R0 ts rev, build := bld } :=
  parse_full hmaj hmin hpat (preOpt_pvPre hR hts hrev) hbld


/-- the part of the text before the time stamp -/
def pvP (maj min pat R0 : Bytes) : Bytes := 118 :: maj ++ 46 :: min ++ 46 :: pat ++ 45 :: R0

/-- the text up to the build metadata -/
def pvHead (maj min pat R0 ts rev : Bytes) : Bytes := pvP maj min pat R0 ++ ts ++ 45 :: rev

theorem pvText_eq (maj min pat R0 ts rev bld : Bytes) :
    pvText maj min pat R0 ts rev bld = pvHead maj min pat R0 ts rev ++ bld := by
  simp [pvText, pvHead, pvP, pvPre]

theorem no_plus_head {maj min pat R0 ts rev : Bytes} (hmaj : Num maj) (hmin : Num min) (hpat : Num pat)
    (hR : Mid min pat R0) (hts : Ts ts) (hrev : Rev rev) : 43 ∉ pvHead maj min pat R0 ts rev := by
  have h1 := (digits_no maj hmaj.2.1).2.2
  have h2 := (digits_no min hmin.2.1).2.2
  have h3 := (digits_no pat hpat.2.1).2.2
  have h4 := Semver.preOpt_no_plus (preOpt_pvPre hR hts hrev)
  have e : pvHead maj min pat R0 ts rev = 118 :: maj ++ 46 :: min ++ 46 :: pat ++ pvPre R0 ts rev := by
    simp [pvHead, pvP, pvPre]
  simp [e, h1, h2, h3, h4]

theorem matchBuildRE_ok {bld : Bytes} (hbld : BuildOpt bld) : matchBuildRE bld = true := by
  rcases (Semver.buildOpt_iff bld).mp hbld with rfl | ⟨body, rfl, hb⟩
  · rfl
  · exact hb

theorem takeWhile_digits (d r : Bytes) (hd : ∀ c ∈ d, isDigit c = true) (c : UInt8) (hc : Pseudo.isDigit c = false) :
    (d ++ c :: r).takeWhile Pseudo.isDigit = d ∧ (d ++ c :: r).dropWhile Pseudo.isDigit = c :: r := by
  have hn : NoHead Pseudo.isDigit (c :: r) := fun x r' e => (List.cons.inj e).1 ▸ hc
  exact ⟨takeWhile_append_all _ _ _ (List.all_eq_true.mpr hd) hn, dropWhile_append_all _ _ _ (List.all_eq_true.mpr hd) hn⟩

theorem num_isEmpty {d : Bytes} (h : Num d) : d.isEmpty = false := by
  cases d with
  | nil => exact absurd rfl h.1
  | cons _ _ => rfl

theorem matchPrefixRE_ok {maj min pat R0 : Bytes} (hmaj : Num maj) (hmin : Num min) (hpat : Num pat)
    (hR : Mid min pat R0) : matchPrefixRE (pvP maj min pat R0) = true := by
  have e : pvP maj min pat R0 = 118 :: (maj ++ 46 :: (min ++ 46 :: (pat ++ 45 :: R0))) := by simp [pvP]
  rw [e]
  obtain ⟨a1, a2⟩ := takeWhile_digits maj (min ++ 46 :: (pat ++ 45 :: R0)) hmaj.2.1 46 (by decide)
  obtain ⟨b1, b2⟩ := takeWhile_digits min (pat ++ 45 :: R0) hmin.2.1 46 (by decide)
  obtain ⟨c1, c2⟩ := takeWhile_digits pat R0 hpat.2.1 45 (by decide)
  simp only [matchPrefixRE, matchAlt2, a1, a2, b1, b2, c1, c2, num_isEmpty hmaj, num_isEmpty hmin, num_isEmpty hpat,
    Bool.not_false, Bool.true_and]
  cases hR with
  | nobase => decide
  | release => simp [hasSuffixB]
  | prerelease _ _ body hb => simp [hasSuffixB_append]

theorem splitLast_head {maj min pat R0 ts rev : Bytes} (hrev : Rev rev) :
    splitLast 45 (pvHead maj min pat R0 ts rev) = some (pvP maj min pat R0 ++ ts, rev) := by
  unfold pvHead
  exact splitLast_append 45 _ rev (alnums_no rev hrev.2).1

theorem matchHeadRE_ok {maj min pat R0 ts rev : Bytes} (hmaj : Num maj) (hmin : Num min) (hpat : Num pat)
    (hR : Mid min pat R0) (hts : Ts ts) (hrev : Rev rev) : matchHeadRE (pvHead maj min pat R0 ts rev) = true := by
  unfold matchHeadRE
  rw [splitLast_head hrev]
  have hlen : (pvP maj min pat R0 ++ ts).length - 14 = (pvP maj min pat R0).length := by
    rw [List.length_append, hts.1]; omega
  have hrev_ne : rev.isEmpty = false := by
    cases rev with
    | nil => exact absurd rfl hrev.1
    | cons _ _ => rfl
  have h1 : rev.all Pseudo.isAlnum = true := by rw [List.all_eq_true]; exact hrev.2
  have h2 : ts.all Pseudo.isDigit = true := by rw [List.all_eq_true]; exact hts.2
  have h3 : 14 ≤ (pvP maj min pat R0 ++ ts).length := by rw [List.length_append, hts.1]; omega
  simp only [hlen, List.drop_left, List.take_left, hrev_ne, h1, h2, matchPrefixRE_ok hmaj hmin hpat hR]
  simpa using h3

theorem matchRE_pvText {maj min pat R0 ts rev bld : Bytes} (hmaj : Num maj) (hmin : Num min) (hpat : Num pat)
    (hR : Mid min pat R0) (hts : Ts ts) (hrev : Rev rev) (hbld : BuildOpt bld) :
    matchPseudoVersionRE (pvText maj min pat R0 ts rev bld) = true := by
  rw [pvText_eq]
  have hp : (pvHead maj min pat R0 ts rev).all (· != 43) = true :=
    List.all_eq_true.mpr fun x hx => bne_iff_ne.mpr fun e => no_plus_head hmaj hmin hpat hR hts hrev (e ▸ hx)
  have hr : NoHead (· != 43) bld := by
    rcases hbld with rfl | ⟨ids, _, _, rfl⟩
    · exact Semver.noHead_nil _
    · intro c r' e; rw [← (List.cons.inj e).1]; rfl
  unfold matchPseudoVersionRE
  rw [takeWhile_append_all _ _ _ hp hr, dropWhile_append_all _ _ _ hp hr, matchHeadRE_ok hmaj hmin hpat hR hts hrev,
    matchBuildRE_ok hbld]
  rfl

theorem count_dash_pvText (maj min pat R0 ts rev bld : Bytes) :
    (pvText maj min pat R0 ts rev bld).count 45 ≥ 2 := by
  simp only [pvText, pvPre, List.count_append, List.count_cons, List.cons_append]
  simp
  omega

theorem isPseudoVersion_pvText {maj min pat R0 ts rev bld : Bytes} (hmaj : Num maj) (hmin : Num min) (hpat : Num pat)
    (hR : Mid min pat R0) (hts : Ts ts) (hrev : Rev rev) (hbld : BuildOpt bld) :
    Semver.isValid (pvText maj min pat R0 ts rev bld) = true ∧ isPseudoVersion (pvText maj min pat R0 ts rev bld) = true := by
  have hv : Semver.isValid (pvText maj min pat R0 ts rev bld) = true := by
    simp [Semver.isValid, parse_pvText hmaj hmin hpat hR hts hrev hbld]
  refine ⟨hv, ?_⟩
  unfold isPseudoVersion
  rw [hv, matchRE_pvText hmaj hmin hpat hR hts hrev hbld]
  simp
  exact count_dash_pvText maj min pat R0 ts rev bld

end ModVerif.Proofs.Pseudo
