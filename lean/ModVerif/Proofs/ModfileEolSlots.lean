/-
  C02, end-of-line comments: where `assignComments` puts the comments of an ARBITRARY accepted input.

  Abstract form of the argument: a comment that directly follows a node (`Slot`: it starts at or after the
  node's end and before the byte where the parser continues) is taken by that node in the backwards post-order
  walk, provided the node starts and ends on the same line; nodes and comments met earlier in the source stay
  untouched.  `LinesOwn` / `StmtOwn` / `StmtsOwn` package this for the accumulators of the parser loops (which
  are kept in reverse order, exactly the order of the walk).

  The parser pass: for every reachable lexer state it tracks which recorded comments belong to tokens the
  parser has already consumed (`Done`), and byte bounds; for every line / `(` / `)` it concludes that the
  end-of-line comment token that terminates it (if any) lies in its `Slot`.
-/
import ModVerif.Proofs.ModfileEolLines
import ModVerif.Proofs.ModfileFmtEmits
namespace ModVerif.Proofs.ModfileEol
open ModVerif ModVerif.Modfile
open ModVerif.Proofs.ModfileFmtTree ModVerif.Proofs.ModfileFmtMain

/-- the comments that directly follow a node ending at byte `e`: none, or one that starts at or after `e` and
    before byte `hi` -/
def Slot (e : Nat) (cl : List Comment) (hi : Nat) : Prop :=
  cl = [] ∨ ∃ c, cl = [c] ∧ e ≤ c.start.byte ∧ c.start.byte < hi

theorem Slot.below {e hi : Nat} {cl : List Comment} (h : Slot e cl hi) : Below cl hi := by
  rcases h with rfl | ⟨c, rfl, _, h2⟩
  · exact below_nil _
  · intro p hp; simp at hp; subst hp; exact h2

theorem Slot.mono {e hi hi' : Nat} {cl : List Comment} (h : Slot e cl hi) (hh : hi ≤ hi') : Slot e cl hi' := by
  rcases h with rfl | ⟨c, rfl, h1, h2⟩
  · exact Or.inl rfl
  · exact Or.inr ⟨c, rfl, h1, Nat.lt_of_lt_of_le h2 hh⟩

theorem slot_nil (e hi : Nat) : Slot e [] hi := Or.inl rfl

/-- a node with an empty suffix list takes the comments of its slot, and nothing else -/
theorem assignSuffix_slot (span : Position × Position) (cs : Comments) (hs : cs.suffix = []) (cl : List Comment)
    (hi : Nat) (hsl : Slot span.2.byte cl hi) (hl : cl ≠ [] → span.1.line = span.2.line) (P : List Comment)
    (hP : Below P span.2.byte) :
    ∃ cs', assignSuffix span cs (P ++ cl).reverse = (cs', P.reverse) ∧ cs'.suffix = cl := by
  rcases hsl with rfl | ⟨c, rfl, h1, _⟩
  · refine ⟨cs, ?_, hs⟩
    simpa using assignSuffix_none span cs hs P hP
  · exact ⟨{ cs with suffix := [c] }, assignSuffix_take span cs hs (hl (by simp)) c h1 P hP, rfl⟩

/-- the block node and its `)` end at the same byte and share one slot -/
theorem block_rparen_slot (bstart rpos : Position) (bc rc : Comments) (hb : bc.suffix = []) (hr : rc.suffix = [])
    (cl : List Comment) (hi : Nat) (hsl : Slot (rpos.byte + 1) cl hi) (P : List Comment) (hP : Below P (rpos.byte + 1)) :
    ∃ bcx rcx, assignSuffix (bstart, rpos.add1) bc (P ++ cl).reverse = (bcx, (assignSuffix (bstart, rpos.add1) bc (P ++ cl).reverse).2) ∧
      assignSuffix (rpos, rpos.add1) rc (assignSuffix (bstart, rpos.add1) bc (P ++ cl).reverse).2 = (rcx, P.reverse) ∧
      (rcx.suffix ++ bcx.suffix).length ≤ 1 := by
  have hlen : cl.length ≤ 1 := by
    rcases hsl with rfl | ⟨c, rfl, _, _⟩ <;> simp
  by_cases hline : bstart.line = rpos.add1.line
  · -- a one-line block takes the comment
    obtain ⟨bcx, h1, h2⟩ := assignSuffix_slot (bstart, rpos.add1) bc hb cl hi (by simpa using hsl) (fun _ => hline) P
      (by simpa using hP)
    refine ⟨bcx, rc, by rw [h1], ?_, by rw [h2, hr]; simpa using hlen⟩
    rw [h1]
    exact assignSuffix_none (rpos, rpos.add1) rc hr P (by simpa using hP)
  · -- a block over several lines is skipped; `)` takes the comment
    have hskip := assignSuffix_skip (bstart, rpos.add1) bc hb hline (P ++ cl).reverse
    obtain ⟨rcx, h1, h2⟩ := assignSuffix_slot (rpos, rpos.add1) rc hr cl hi (by simpa using hsl) (fun _ => rfl) P
      (by simpa using hP)
    refine ⟨bc, rcx, by rw [hskip], by rw [hskip]; exact h1, by rw [h2, hb]; simpa using hlen⟩

/-- the lines of a block read so far (most recent first) with the comments `Cl` recorded since `(`: the walk
    over them gives every line at most one comment and leaves earlier comments alone -/
def LinesOwn (linesRev : List Line) (Cl : List Comment) (lo hi : Nat) : Prop :=
  (∀ P, Below P lo → ∃ ls', postLinesRev linesRev (P ++ Cl).reverse = (ls', P.reverse) ∧
    ∀ l ∈ ls', l.comments.suffix.length ≤ 1) ∧ Below Cl hi ∧ lo ≤ hi

theorem linesOwn_nil (lo hi : Nat) (h : lo ≤ hi) : LinesOwn [] [] lo hi :=
  ⟨fun P _ => ⟨[], by simp [postLinesRev], by intro l hl; cases hl⟩, below_nil _, h⟩

theorem LinesOwn.mono {lr : List Line} {Cl : List Comment} {lo hi hi' : Nat} (h : LinesOwn lr Cl lo hi) (hh : hi ≤ hi') :
    LinesOwn lr Cl lo hi' :=
  ⟨h.1, h.2.1.mono hh, Nat.le_trans h.2.2 hh⟩

theorem linesOwn_cons {lr : List Line} {Cl : List Comment} {lo mid hi : Nat} (h : LinesOwn lr Cl lo mid)
    (l : Line) (cl : List Comment) (hs : l.comments.suffix = []) (hmid : mid ≤ l.«end».byte)
    (hsl : Slot l.«end».byte cl hi) (hl : cl ≠ [] → l.start.line = l.«end».line) (hhi : mid ≤ hi) :
    LinesOwn (l :: lr) (Cl ++ cl) lo hi := by
  refine ⟨?_, (h.2.1.mono hhi).append hsl.below, Nat.le_trans h.2.2 hhi⟩
  intro P hP
  have hP' : Below (P ++ Cl) l.«end».byte :=
    (hP.mono (Nat.le_trans h.2.2 hmid)).append (h.2.1.mono hmid)
  obtain ⟨cs', h1, h2⟩ := assignSuffix_slot (l.start, l.«end») l.comments hs cl hi hsl hl (P ++ Cl) hP'
  obtain ⟨ls', h3, h4⟩ := h.1 P hP
  refine ⟨{ l with comments := cs' } :: ls', ?_, ?_⟩
  · simp only [postLinesRev]
    rw [← List.append_assoc, h1]
    simp only
    rw [h3]
  · intro l' hl'
    rcases List.mem_cons.1 hl' with rfl | hl'
    · rw [show ({ l with comments := cs' } : Line).comments.suffix = cs'.suffix from rfl, h2]
      rcases hsl with rfl | ⟨c, rfl, _, _⟩ <;> simp
    · exact h4 l' hl'

/-- a statement with the comments `Cs` recorded while it was parsed -/
def StmtOwn (s : Expr) (Cs : List Comment) (lo hi : Nat) : Prop :=
  (∀ P, Below P lo → ∃ s', postStmt s (P ++ Cs).reverse = (s', P.reverse) ∧ CountStmt s') ∧ Below Cs hi ∧ lo ≤ hi

/-- the statements read so far (most recent first) with all comments recorded so far -/
def StmtsOwn (stmtsRev : List Expr) (C : List Comment) (hi : Nat) : Prop :=
  (∃ ss', postStmtsRev stmtsRev C.reverse = (ss', []) ∧ ∀ s ∈ ss', CountStmt s) ∧ Below C hi

theorem stmtsOwn_nil (hi : Nat) : StmtsOwn [] [] hi :=
  ⟨⟨[], by simp [postStmtsRev], by intro s hs; cases hs⟩, below_nil _⟩

theorem StmtsOwn.mono {sr : List Expr} {C : List Comment} {hi hi' : Nat} (h : StmtsOwn sr C hi) (hh : hi ≤ hi') :
    StmtsOwn sr C hi' := ⟨h.1, h.2.mono hh⟩

theorem stmtsOwn_cons {sr : List Expr} {C : List Comment} {mid lo hi : Nat} (h : StmtsOwn sr C mid)
    (s : Expr) (Cs : List Comment) (hs : StmtOwn s Cs lo hi) (hmid : mid ≤ lo) : StmtsOwn (s :: sr) (C ++ Cs) hi := by
  obtain ⟨⟨ss', h1, h2⟩, h3⟩ := h
  obtain ⟨s', h4, h5⟩ := hs.1 C (h3.mono hmid)
  refine ⟨⟨s' :: ss', ?_, ?_⟩, (h3.mono (Nat.le_trans hmid hs.2.2)).append hs.2.1⟩
  · simp only [postStmtsRev]
    rw [h4]
    simp only
    rw [h1]
  · intro x hx
    rcases List.mem_cons.1 hx with rfl | hx
    · exact h5
    · exact h2 x hx

theorem stmtOwn_commentBlock (x : CommentBlock) (hs : x.comments.suffix = []) (hi : Nat) (h : x.start.byte ≤ hi) :
    StmtOwn (.commentBlock x) [] x.start.byte hi := by
  refine ⟨?_, below_nil _, h⟩
  intro P hP
  refine ⟨.commentBlock x, ?_, hs⟩
  simp only [List.append_nil, postStmt, Expr.span, Expr.comments, Expr.setComments]
  rw [assignSuffix_none _ _ hs P hP]

theorem stmtOwn_line (l : Line) (cl : List Comment) (lo hi : Nat) (hs : l.comments.suffix = [])
    (hlo : lo ≤ l.«end».byte) (hsl : Slot l.«end».byte cl hi) (hl : cl ≠ [] → l.start.line = l.«end».line)
    (hhi : lo ≤ hi) : StmtOwn (.line l) cl lo hi := by
  refine ⟨?_, hsl.below, hhi⟩
  intro P hP
  obtain ⟨cs', h1, h2⟩ := assignSuffix_slot (l.start, l.«end») l.comments hs cl hi hsl hl P (hP.mono hlo)
  refine ⟨.line { l with comments := cs' }, ?_, ?_⟩
  · simp only [postStmt, Expr.span, Expr.comments, Expr.setComments]
    rw [h1]
  · show cs'.suffix.length ≤ 1
    rw [h2]
    rcases hsl with rfl | ⟨c, rfl, _, _⟩ <;> simp

theorem stmtOwn_block (b : LineBlock) (Clp Cl Crp : List Comment) (lo m1 m2 hi : Nat)
    (hb0 : b.comments.suffix = []) (hlp0 : b.lparen.comments.suffix = []) (hrp0 : b.rparen.comments.suffix = [])
    (hlo : lo ≤ b.lparen.pos.byte + 1) (hlp : Slot (b.lparen.pos.byte + 1) Clp m1)
    (hlines : LinesOwn b.lines.reverse Cl m1 m2) (hm2 : m2 ≤ b.rparen.pos.byte + 1)
    (hm1 : b.lparen.pos.byte + 1 ≤ m1)
    (hrp : Slot (b.rparen.pos.byte + 1) Crp hi) (hhi : b.rparen.pos.byte + 1 ≤ hi) :
    StmtOwn (.lineBlock b) (Clp ++ (Cl ++ Crp)) lo hi := by
  have hlm : lo ≤ m1 := Nat.le_trans hlo hm1
  have hmm : m1 ≤ m2 := hlines.2.2
  have hmr : m1 ≤ b.rparen.pos.byte + 1 := Nat.le_trans hmm hm2
  refine ⟨?_, ?_, Nat.le_trans hlm (Nat.le_trans hmr hhi)⟩
  · intro P hP
    -- block node and `)`
    have hP1 : Below (P ++ (Clp ++ Cl)) (b.rparen.pos.byte + 1) :=
      (hP.mono (Nat.le_trans hlm hmr)).append ((hlp.below.mono hmr).append (hlines.2.1.mono hm2))
    obtain ⟨bcx, rcx, h1, h2, h3⟩ := block_rparen_slot b.start b.rparen.pos b.comments b.rparen.comments hb0 hrp0 Crp hi
      hrp (P ++ (Clp ++ Cl)) hP1
    -- the lines
    have hP2 : Below (P ++ Clp) m1 := (hP.mono hlm).append hlp.below
    obtain ⟨ls', h4, h5⟩ := hlines.1 (P ++ Clp) hP2
    -- `(`
    obtain ⟨lcx, h6, h7⟩ := assignSuffix_slot (b.lparen.pos, b.lparen.pos.add1) b.lparen.comments hlp0 Clp m1
      (by simpa using hlp) (fun _ => rfl) P (by simpa using hP.mono hlo)
    refine ⟨Expr.lineBlock { b with comments := bcx, lparen := { b.lparen with comments := lcx }, lines := ls'.reverse, rparen := { b.rparen with comments := rcx } }, ?_, ?_⟩
    · have hre : P ++ (Clp ++ (Cl ++ Crp)) = (P ++ (Clp ++ Cl)) ++ Crp := by simp
      simp only [postStmt, Expr.span]
      rw [hre, h1]
      simp only
      rw [h2]
      simp only
      rw [show P ++ (Clp ++ Cl) = (P ++ Clp) ++ Cl by simp, h4]
      simp only
      rw [h6]
    · refine ⟨by show lcx.suffix.length ≤ 1; rw [h7]; rcases hlp with rfl | ⟨c, rfl, _, _⟩ <;> simp, ?_, h3⟩
      intro l hl
      exact h5 l (by simpa using hl)
  · exact (hlp.below.mono (Nat.le_trans hmr hhi)).append ((hlines.2.1.mono (Nat.le_trans hm2 hhi)).append hrp.below)

theorem assignSuffix_setBefore (span : Position × Position) (cs : Comments) (X : List Comment) (suf : List Comment) :
    assignSuffix span { cs with before := X } suf =
      ({ (assignSuffix span cs suf).1 with before := X }, (assignSuffix span cs suf).2) := by
  unfold assignSuffix
  split <;> rfl

theorem countStmt_setBefore (s : Expr) (X : List Comment) :
    CountStmt (s.setComments { s.comments with before := X }) ↔ CountStmt s := by
  cases s <;> exact Iff.rfl

theorem postStmt_setBefore (s : Expr) (X : List Comment) (suf : List Comment) :
    postStmt (s.setComments { s.comments with before := X }) suf =
      ((postStmt s suf).1.setComments { (postStmt s suf).1.comments with before := X }, (postStmt s suf).2) := by
  cases s with
  | lineBlock b =>
    simp only [Expr.setComments, Expr.comments, postStmt, Expr.span]
    rw [assignSuffix_setBefore]
  | commentBlock x =>
    simp only [Expr.setComments, Expr.comments, postStmt, Expr.span]
    rw [assignSuffix_setBefore]
  | line x =>
    simp only [Expr.setComments, Expr.comments, postStmt, Expr.span]
    rw [assignSuffix_setBefore]
  | lparen x =>
    simp only [Expr.setComments, Expr.comments, postStmt, Expr.span]
    rw [assignSuffix_setBefore]
  | rparen x =>
    simp only [Expr.setComments, Expr.comments, postStmt, Expr.span]
    rw [assignSuffix_setBefore]

theorem StmtOwn.setBefore {s : Expr} {Cs : List Comment} {lo hi : Nat} (h : StmtOwn s Cs lo hi) (X : List Comment) :
    StmtOwn (s.setComments { s.comments with before := X }) Cs lo hi := by
  refine ⟨?_, h.2.1, h.2.2⟩
  intro P hP
  obtain ⟨s', h1, h2⟩ := h.1 P hP
  refine ⟨s'.setComments { s'.comments with before := X }, ?_, (countStmt_setBefore s' X).2 h2⟩
  rw [postStmt_setBefore, h1]

open ModVerif ModVerif.Modfile ModVerif.Proofs.ModfileLex
open ModVerif.Proofs.ModfileFmtLex ModVerif.Proofs.ModfileFmtTree ModVerif.Proofs.ModfileFmtMain
open ModVerif.Proofs.ModfilePos ModVerif.Proofs.ModfileC20 ModVerif.Proofs.ModfileFmtEmits
open ModVerif.Proofs.ModfileRun

/-! ### lexer level -/

/-- the comments of the tokens the parser has consumed so far (the pending token is not consumed yet) -/
def Done (i : Input) (D : List Comment) : Prop := i.commentsRev.reverse = D ++ recOf i.token

theorem Done.setId {i : Input} {D : List Comment} (h : Done i D) (n : Nat) : Done { i with nextId := n } D := h

theorem tok_bytes_le {data : Bytes} {i : Input} (h : Reach data i) : i.token.pos.byte ≤ i.token.endPos.byte := by
  obtain ⟨_, _, h3, _, _⟩ := tokOK_spec (reach_tokOK2 h).old
  omega

theorem tok_bytes_lt_comment {data : Bytes} {i : Input} (h : Reach data i) (hk : i.token.kind.isComment = true) :
    i.token.pos.byte < i.token.endPos.byte := by
  have ht := reach_tokOK2 h
  obtain ⟨_, _, h3, _, _⟩ := tokOK_spec ht.old
  have hpre := (reach_rlay h).comment hk
  have hlen : 2 ≤ i.token.text.length := by
    have := hpre.length_le; simpa using this
  have hlen2 : i.token.text.length ≤ i.tokRev.length := by
    have := ht.old.text.length_le
    simpa using this
  omega

theorem punct_end {data : Bytes} {i : Input} (h : Reach data i) (c : UInt8) (hk : i.token.kind = .punct c) :
    i.token.endPos.byte = i.token.pos.byte + 1 := by
  have ht := reach_tokOK2 h
  obtain ⟨_, _, h3, _, _⟩ := tokOK_spec ht.old
  have hx := ht.exact (by rw [hk]; rfl)
  have htx := ht.punct c hk
  have : i.tokRev.length = 1 := by
    have := congrArg List.length hx
    rw [htx] at this
    simpa using this.symm
  omega

theorem step_bytes {data : Bytes} {j i : Input} (hj : Reach data j) (h : readToken j = .ok i) :
    j.token.endPos.byte ≤ i.token.pos.byte := by
  obtain ⟨gap, _, hg⟩ := reach_step_gap hj h
  have h1 := (reach_tokOK2 hj).facts.«end».1.le
  have h2 := (reach_tokOK2 (Reach.lex hj h)).facts.start.1.le
  have := congrArg List.length hg
  simp only [List.length_take, List.length_append] at this
  omega

theorem recOf_not_eol {tok : Token} (h : tok.kind.isEOL = false) : recOf tok = [] := by
  unfold recOf
  have : tok.kind ≠ .eolComment := by intro hk; rw [hk] at h; cases h
  simp [this]

theorem Lx.own {data : Bytes} {i i1 : Input} (hx : Lx data i i1) :
    (∀ D, Done i D → Done i1 (D ++ recOf i.token)) ∧ i.token.endPos.byte ≤ i1.token.pos.byte ∧
      i.token.pos.byte ≤ i.token.endPos.byte := by
  refine ⟨?_, step_bytes hx.inv hx.step, tok_bytes_le hx.inv⟩
  intro D hD
  unfold Done at hD ⊢
  rw [readToken_comments_rec i i1 hx.step, hD]

theorem TokCall.done {data : Bytes} {i i1 : Input} (hc : TokCall data i i1) {D : List Comment} (hD : Done i D) :
    Done i1 D := by
  have := (Lx.own hc.lx).1 D hD
  rwa [recOf_not_eol (ModfileFmtLine.tokOK_not_eol hc.ok), List.append_nil] at this

theorem slot_of_eol {data : Bytes} {i i1 : Input} (hr : Reach data i) (e : Nat) (he : e ≤ i.token.pos.byte)
    (hb : i.token.endPos.byte ≤ i1.token.pos.byte) : Slot e (recOf i.token) i1.token.pos.byte := by
  unfold recOf
  split
  · rename_i hk
    right
    refine ⟨_, rfl, he, ?_⟩
    have := tok_bytes_lt_comment hr (by rw [hk]; rfl)
    show i.token.pos.byte < _
    omega
  · exact Or.inl rfl

/-! ### token lines -/

theorem PLine.own {data : Bytes} {i : Input} {s e : Position} {acc : List Bytes} {l : Line} {i' : Input}
    (h : PLineC data i s e acc l i') {D : List Comment} (hD : Done i D) (h1 : s.byte ≤ e.byte)
    (h2 : e.byte ≤ i.token.pos.byte) :
    l.start = s ∧ l.comments = {} ∧ s.byte ≤ l.«end».byte ∧ l.«end».byte ≤ i'.token.pos.byte ∧
      ∃ cl, Done i' (D ++ cl) ∧ Slot l.«end».byte cl i'.token.pos.byte := by
  induction h with
  | @eol i i1 s e acc hc _ =>
    obtain ⟨hdone, hb1, _⟩ := Lx.own hc.lx
    exact ⟨rfl, rfl, h1, by show e.byte ≤ i1.token.pos.byte; omega, recOf i.token, (hdone D hD).setId _,
      slot_of_eol hc.lx.inv e.byte h2 hb1⟩
  | tok hc _ _ ih =>
    obtain ⟨_, hb1, hb2⟩ := Lx.own hc.lx
    exact ih (TokCall.done hc hD) (by omega) hb1

/-- `PLine.own` after the `lex` call `hc` that delivered a token of the line -/
theorem PLine.own1 {data : Bytes} {i i1 : Input} {acc : List Bytes} {l : Line} {i' : Input} (hc : TokCall data i i1)
    (h : PLineC data i1 i.token.pos i.token.endPos acc l i') {D : List Comment} (hD : Done i D) :
    l.comments = {} ∧ i.token.pos.byte ≤ l.«end».byte ∧ l.«end».byte ≤ i'.token.pos.byte ∧
      ∃ cl, Done i' (D ++ cl) ∧ Slot l.«end».byte cl i'.token.pos.byte := by
  obtain ⟨_, hb1, hb2⟩ := Lx.own hc.lx
  obtain ⟨_, a5, a6, a7, a8⟩ := PLine.own h (TokCall.done hc hD) hb2 hb1
  exact ⟨a5, a6, a7, a8⟩

/-! ### block bodies -/

def OneLine (l : Line) : Prop := l.start.line = l.«end».line

def OneLineStmt : Expr → Prop
  | .line l => OneLine l
  | .lineBlock b => ∀ l ∈ b.lines, OneLine l
  | _ => True

/-- `LinesOwn`, provided the lines are one-line lines -/
def LinesOwnH (linesRev : List Line) (Cl : List Comment) (lo hi : Nat) : Prop :=
  (∀ l ∈ linesRev, OneLine l) → LinesOwn linesRev Cl lo hi

theorem linesOwnH_cons {lr : List Line} {Cl : List Comment} {lo mid hi : Nat} (h : LinesOwnH lr Cl lo mid)
    (l : Line) (cl : List Comment) (hs : l.comments.suffix = []) (hmid : mid ≤ l.«end».byte)
    (hsl : Slot l.«end».byte cl hi) (hhi : mid ≤ hi) : LinesOwnH (l :: lr) (Cl ++ cl) lo hi := by
  intro hone
  exact linesOwn_cons (h (fun l' hl' => hone l' (by simp [hl']))) l cl hs hmid hsl (fun _ => hone l (by simp)) hhi

theorem LinesOwnH.mono {lr : List Line} {Cl : List Comment} {lo hi hi' : Nat} (h : LinesOwnH lr Cl lo hi) (hh : hi ≤ hi') :
    LinesOwnH lr Cl lo hi' := fun hone => (h hone).mono hh

theorem PBlock.own {data : Bytes} {i : Input} {x : LineBlock} {ls : List Line} {cs : List Comment} {b : LineBlock}
    {i' : Input} (h : PBlockC data i x ls cs b i') {D Cl : List Comment} {lo mid : Nat}
    (hne : i.token.kind ≠ .eolComment) (hD : Done i (D ++ Cl)) (hlo : LinesOwnH ls Cl lo mid)
    (hmid : mid ≤ i.token.pos.byte) :
    b.rparen.comments.suffix = [] ∧
      ∃ Cl' Crp m2, Done i' (D ++ (Cl' ++ Crp)) ∧ LinesOwnH b.lines.reverse Cl' lo m2 ∧ m2 ≤ b.rparen.pos.byte + 1 ∧
        Slot (b.rparen.pos.byte + 1) Crp i'.token.pos.byte ∧ b.rparen.pos.byte + 1 ≤ i'.token.pos.byte := by
  induction h generalizing Cl mid with
  | eolComment hk _ _ _ => exact absurd hk hne
  | blank hk hc _ ih =>
    obtain ⟨hdone, hb1, hb2⟩ := Lx.own hc.lx
    have hD1 := hdone _ hD
    rw [recOf_of_not_eolc (by rw [hk]; simp), List.append_nil] at hD1
    exact ih hc.top.2 hD1 hlo (by omega)
  | comment hk hc _ ih =>
    obtain ⟨hdone, hb1, hb2⟩ := Lx.own hc.lx
    have hD1 := hdone _ hD
    rw [recOf_of_not_eolc (by rw [hk]; simp), List.append_nil] at hD1
    exact ih hc.top.2 hD1 hlo (by omega)
  | @close i i1 i2 x ls cs hk hc _ hc2 =>
    obtain ⟨_, hb1, hb2⟩ := Lx.own hc.lx
    obtain ⟨hdone2, hc1, _⟩ := Lx.own hc2.lx
    have hD2 := hdone2 _ (TokCall.done hc hD)
    have hend := punct_end hc.lx.inv 41 hk
    refine ⟨rfl, Cl, recOf i1.token, mid, by rw [List.append_assoc] at hD2; exact hD2, ?_,
      by show mid ≤ i.token.pos.byte + 1; omega, slot_of_eol hc2.lx.inv (i.token.pos.byte + 1) (by omega) hc1, ?_⟩
    · show LinesOwnH (ls.reverse).reverse Cl lo mid
      rw [List.reverse_reverse]; exact hlo
    · show i.token.pos.byte + 1 ≤ i2.token.pos.byte
      omega
  | @line i i1 i2 x ls cs l b i' _ _ _ _ _ hc _ hl _ ih =>
    obtain ⟨hlc, hlo1, hhi1, cl, hD1, hsl⟩ := PLine.own1 hc hl hD
    have hown : LinesOwnH ({ l with comments := { l.comments with before := cs.reverse } } :: ls) (Cl ++ cl) lo
        i2.token.pos.byte :=
      linesOwnH_cons hlo _ cl (by show l.comments.suffix = []; rw [hlc]) (by show mid ≤ l.«end».byte; omega) hsl
        (by omega)
    exact ih (PLine.top hl).1.2 (by rw [← List.append_assoc]; exact hD1) hown (Nat.le_refl _)

end ModVerif.Proofs.ModfileEol
