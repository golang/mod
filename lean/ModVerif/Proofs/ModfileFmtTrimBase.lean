/-
  Algebra of `GoStrings.trimSpace`, the building blocks: `SpaceSeq z` (a concatenation of well-formed encodings of
  white-space runes) and what the backward decoder `decodeLastRuneRev` (Go's `DecodeLastRuneInString`) returns.
  The Go code finds the last rune backwards but cuts with the width of a FORWARD decode at its start; in front of a
  context that does not start with a continuation byte the two agree (`forward_width`).
-/
import ModVerif.Basic.GoStrings
import ModVerif.Proofs.ModfileLex
import ModVerif.Proofs.Utf8Last
namespace ModVerif.Proofs.ModfileFmtTrim
open ModVerif ModVerif.GoStrings ModVerif.Proofs.ModfileLex ModVerif.Proofs.ModfileFmtUtf8

theorem decode_single_nonascii (b : UInt8) (hb : 0x80 ≤ b.toNat) : Utf8.decode [b] = none := by
  cases h : Utf8.decode [b] with
  | none => rfl
  | some rw =>
    have := (decode_width (r := rw.1) (w := rw.2) h).2
    rcases Utf8.decode_cases (r := rw.1) (w := rw.2) h with h1 | h1 <;> simp at this <;> omega

export ModVerif.Utf8 (NoContStart noContStart_nil noContStart_cons decode_within)

theorem decodeRune_single_width (b : UInt8) (z : Bytes) (hz : NoContStart z) :
    (Utf8.decodeRune (b :: z)).2 = 1 := by
  have h := Utf8.decodeRune_append [b] z (by simp) hz
  have hw := decodeRune_width [b] (by simp)
  rw [List.singleton_append] at h
  rw [h]; simpa using Nat.le_antisymm hw.2 hw.1

/-- a concatenation of well-formed encodings of white-space runes -/
inductive SpaceSeq : Bytes → Prop
  | nil : SpaceSeq []
  | cons (seg t : Bytes) (r : Nat) (hd : Utf8.decode seg = some (r, seg.length))
      (hs : UnicodePrint.isSpace r = true) (ht : SpaceSeq t) : SpaceSeq (seg ++ t)

theorem SpaceSeq.first_space {z : Bytes} (h : SpaceSeq z) (hz : z ≠ []) :
    UnicodePrint.isSpace (Utf8.decodeRune z).1 = true := by
  cases h with
  | nil => exact absurd rfl hz
  | cons seg t r hd hs ht =>
    have := decode_take hd t
    rw [List.take_length] at this
    unfold Utf8.decodeRune
    rw [this]
    exact hs

theorem SpaceSeq.noContStart {z : Bytes} (h : SpaceSeq z) : NoContStart z := by
  cases h with
  | nil => exact noContStart_nil
  | cons seg t r hd hs ht =>
    obtain ⟨p, t', e, -, hp⟩ := Utf8.seq_of_decode hd
    obtain ⟨b0, cs, rfl, hb0, -⟩ := hp.lead_cont
    rw [e]; exact noContStart_cons hb0

theorem SpaceSeq.head_ascii {b : UInt8} {t : Bytes} (h : SpaceSeq (b :: t)) (hb : b.toNat < 0x80) :
    UnicodePrint.isSpace b.toNat = true := by
  have := h.first_space (by simp)
  rw [decodeRune_ascii b t hb] at this
  exact this

theorem decodeLast_cases (b0 : UInt8) (rest : Bytes) :
    (b0.toNat < 0x80 ∧ decodeLastRuneRev (b0 :: rest) = (b0.toNat, 1)) ∨
    (0x80 ≤ b0.toNat ∧ decodeLastRuneRev (b0 :: rest) = (Utf8.runeError, 1)) ∨
    (0x80 ≤ b0.toNat ∧ ∃ r size, decodeLastRuneRev (b0 :: rest) = (r, size) ∧ size ≤ (b0 :: rest).length ∧
      Utf8.decode (((b0 :: rest).take size).reverse) = some (r, size)) := by
  by_cases hb : b0.toNat < 0x80
  · left
    exact ⟨hb, by simp [decodeLastRuneRev, hb]⟩
  · right
    have hb' : 0x80 ≤ b0.toNat := by omega
    -- the general shape: for the computed k ≤ length, the result is determined by `decodeRune seg`
    have key : ∀ k, 1 ≤ k → k ≤ (b0 :: rest).length →
        ((if ((Utf8.decodeRune (((b0 :: rest).take k).reverse)).2 != k) = true then (Utf8.runeError, 1)
          else Utf8.decodeRune (((b0 :: rest).take k).reverse)) = (Utf8.runeError, 1)) ∨
        ∃ r size, (if ((Utf8.decodeRune (((b0 :: rest).take k).reverse)).2 != k) = true then (Utf8.runeError, 1)
          else Utf8.decodeRune (((b0 :: rest).take k).reverse)) = (r, size) ∧ size ≤ (b0 :: rest).length ∧
          Utf8.decode (((b0 :: rest).take size).reverse) = some (r, size) := by
      intro k hk1 hk2
      unfold Utf8.decodeRune
      cases hd : Utf8.decode (((b0 :: rest).take k).reverse) with
      | none =>
        left
        simp only
        split <;> rfl
      | some rw =>
        obtain ⟨r, w⟩ := rw
        simp only
        by_cases hwk : w = k
        · right
          subst hwk
          exact ⟨r, w, by simp, hk2, hd⟩
        · left
          simp [hwk]
    -- the backward scan stops after `k ≤ 4` bytes, at a rune start if there is one
    obtain ⟨k, hk1, hk2, hk⟩ : ∃ k, 1 ≤ k ∧ k ≤ (b0 :: rest).length ∧ decodeLastRuneRev (b0 :: rest) =
        if ((Utf8.decodeRune (((b0 :: rest).take k).reverse)).2 != k) = true then (Utf8.runeError, 1)
        else Utf8.decodeRune (((b0 :: rest).take k).reverse) := by
      unfold decodeLastRuneRev
      simp only [hb, if_false]
      rcases rest with _ | ⟨b1, _ | ⟨b2, _ | ⟨b3, r3⟩⟩⟩
      · exact ⟨1, by omega, by simp, by simp⟩
      · exact ⟨2, by omega, by simp, by simp⟩
      · by_cases hs1 : runeStart b1 = true
        · exact ⟨2, by omega, by simp, by simp [hs1]⟩
        · exact ⟨3, by omega, by simp, by simp [hs1]⟩
      · by_cases hs1 : runeStart b1 = true
        · exact ⟨2, by omega, by simp, by simp [hs1]⟩
        · by_cases hs2 : runeStart b2 = true
          · exact ⟨3, by omega, by simp, by simp [hs1, hs2]⟩
          · exact ⟨4, by omega, by simp, by simp [hs1, hs2]⟩
    rw [hk]
    rcases key k hk1 hk2 with h | h
    · exact .inl ⟨hb', h⟩
    · exact .inr ⟨hb', h⟩

theorem decodeLast_size (b0 : UInt8) (rest : Bytes) :
    1 ≤ (decodeLastRuneRev (b0 :: rest)).2 ∧ (decodeLastRuneRev (b0 :: rest)).2 ≤ (b0 :: rest).length := by
  rcases decodeLast_cases b0 rest with ⟨_, h⟩ | ⟨_, h⟩ | ⟨_, r, size, h, hle, hd⟩
  · rw [h]; simp
  · rw [h]; simp
  · rw [h]; exact ⟨(decode_width hd).1, hle⟩

theorem decodeLast_space_seg (b0 : UInt8) (rest : Bytes)
    (hs : UnicodePrint.isSpace (decodeLastRuneRev (b0 :: rest)).1 = true) :
    Utf8.decode (((b0 :: rest).take (decodeLastRuneRev (b0 :: rest)).2).reverse) =
      some ((decodeLastRuneRev (b0 :: rest)).1,
        (((b0 :: rest).take (decodeLastRuneRev (b0 :: rest)).2).reverse).length) := by
  rcases decodeLast_cases b0 rest with ⟨hb, h⟩ | ⟨_, h⟩ | ⟨_, r, size, h, hle, hd⟩
  · rw [h]; simp [Utf8.decode, hb]
  · rw [h] at hs; exact absurd hs (by decide)
  · rw [h]
    simp only [List.length_reverse, List.length_take]
    rw [Nat.min_eq_left hle]
    exact hd

/-- The width of a FORWARD decode at the start of the rune found by the backward decode, in front of a
    context that does not start with a continuation byte, is the size the backward decode reported. -/
theorem forward_width (b0 : UInt8) (rest z : Bytes) (hz : NoContStart z) :
    (Utf8.decodeRune (((b0 :: rest).take (decodeLastRuneRev (b0 :: rest)).2).reverse ++ z)).2 =
      (decodeLastRuneRev (b0 :: rest)).2 := by
  rcases decodeLast_cases b0 rest with ⟨hb, h⟩ | ⟨hb, h⟩ | ⟨_, r, size, h, hle, hd⟩
  · rw [h]; simp [decodeRune_ascii b0 z hb]
  · rw [h]; simpa using decodeRune_single_width b0 z hz
  · rw [h]
    simp only
    have := decode_take hd z
    rw [List.take_of_length_le (by simp; omega)] at this
    unfold Utf8.decodeRune
    rw [this]

/-- the `if` in `trimRightSpace` is an optimisation -/
theorem width_if (b : UInt8) (t : Bytes) :
    (if b.toNat ≥ 0x80 then (Utf8.decodeRune (b :: t)).2 else 1) = (Utf8.decodeRune (b :: t)).2 := by
  by_cases hb : b.toNat < 0x80
  · rw [decodeRune_ascii b t hb]
    simp
  · simp; omega

example : Utf8.decode [0xE3, 0x80, 0x80, 47] = some (0x3000, 3) := by decide
example : NoContStart [0xE3, 0x80, 0x80] := noContStart_cons (by decide)
example : ¬ NoContStart [0x80, 47] := by intro h; exact absurd (h 0x80 (by simp)) (by decide)
/-- U+0020, U+00A0, U+3000 -/
example : SpaceSeq [32, 0xC2, 0xA0, 0xE3, 0x80, 0x80] :=
  SpaceSeq.cons [32] _ 32 (by decide) (by decide)
    (SpaceSeq.cons [0xC2, 0xA0] _ 0xA0 (by decide) (by decide)
      (SpaceSeq.cons [0xE3, 0x80, 0x80] [] 0x3000 (by decide) (by decide) SpaceSeq.nil))
example : UnicodePrint.isSpace (decodeLastRuneRev ([47, 0xE3, 0x80, 0x80] : Bytes).reverse).1 = true := by decide
example : decodeLastRuneRev ([47, 0xE3, 0x80, 0x80] : Bytes).reverse = (0x3000, 3) := by decide
example : decodeLastRuneRev ([47, 0xE3, 0x80] : Bytes).reverse = (Utf8.runeError, 1) := by decide

end ModVerif.Proofs.ModfileFmtTrim
