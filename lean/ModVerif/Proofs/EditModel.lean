/-
  Lemmas about the edit MODEL (Model/Modfile/Edit.lean) that need nothing but the model: the model's comparators are the
  specification's, SortBlocks leaves every block sorted, Cleanup leaves no cleared entries; Cleanup and the tree half of
  removeDups statement by statement (`Cleaned`, `cleanupStmts_cons`, `dropKilled_cons`); the outcome of a session unfolded
  (`sessionMod_some`).
-/
import ModVerif.Model.Modfile.EditAbs
import ModVerif.Proofs.EditSpecCmp
namespace ModVerif.Modfile.Edit
open ModVerif ModVerif.Modfile

theorem lineLess_eq_spec : ∀ a b : List Bytes, lineLess a b = EditSpec.lineLess a b
  | [], [] => rfl
  | [], _ :: _ => rfl
  | _ :: _, [] => rfl
  | a :: as, b :: bs => by
    unfold lineLess EditSpec.lineLess
    by_cases h : a = b
    · subst h; simp [lineLess_eq_spec as bs]
    · simp [h]

theorem lbracket : B "[" = [91] ∧ B "," = [44] ∧ B "]" = [93] := by decide +kernel

theorem retractInterval_eq_spec : ∀ t : List Bytes,
    ((retractInterval t).low, (retractInterval t).high) = EditSpec.interval t
  | [] => by simp [retractInterval, EditSpec.interval]
  | [_] => by simp [retractInterval, EditSpec.interval]
  | [_, _] => by simp [retractInterval, EditSpec.interval]
  | [_, _, _] => by simp [retractInterval, EditSpec.interval]
  | [_, _, _, _] => by simp [retractInterval, EditSpec.interval]
  | [a, lo, b, hi, c] => by
    rcases lbracket with ⟨h1, h2, h3⟩
    simp only [retractInterval, EditSpec.interval, h1, h2, h3]
    split <;> rfl
  | _ :: _ :: _ :: _ :: _ :: _ :: _ => by simp [retractInterval, EditSpec.interval]

theorem lineRetractLess_eq_spec (a b : List Bytes) : lineRetractLess a b = EditSpec.lineRetractLess a b := by
  unfold lineRetractLess EditSpec.lineRetractLess
  have ha := retractInterval_eq_spec a
  have hb := retractInterval_eq_spec b
  rw [← ha, ← hb]

theorem lineLess_strictWeak : EditSpec.StrictWeak lineLess := by
  have : lineLess = EditSpec.lineLess := by funext a b; exact lineLess_eq_spec a b
  rw [this]; exact EditSpec.lineLess_strictWeak

theorem lineRetractLess_strictWeak : EditSpec.StrictWeak lineRetractLess := by
  have : lineRetractLess = EditSpec.lineRetractLess := by funext a b; exact lineRetractLess_eq_spec a b
  rw [this]; exact EditSpec.lineRetractLess_strictWeak

def onToken (less : List Bytes → List Bytes → Bool) (a b : Line) : Bool := less a.token b.token

theorem onToken_strictWeak {less : List Bytes → List Bytes → Bool} (h : EditSpec.StrictWeak less) :
    EditSpec.StrictWeak (onToken less) :=
  ⟨fun _ => h.irrefl _, fun _ _ => h.asymm _ _, fun _ _ _ => h.trans _ _ _, fun _ _ _ => h.negTrans _ _ _⟩

theorem insertLine_eq (less : List Bytes → List Bytes → Bool) (x : Line) (l : List Line) :
    insertLine less x l = EditSpec.insertBy (onToken less) x l := by
  induction l with
  | nil => rfl
  | cons y ys ih =>
    simp only [insertLine, EditSpec.insertBy, onToken, ih]
    by_cases h : less y.token x.token = true <;> simp [h]

theorem stableSort_eq (less : List Bytes → List Bytes → Bool) (l : List Line) :
    stableSort less l = EditSpec.sortBy (onToken less) l := by
  induction l with
  | nil => rfl
  | cons x xs ih =>
    show insertLine less x (stableSort less xs) = EditSpec.insertBy (onToken less) x (EditSpec.sortBy (onToken less) xs)
    rw [ih, insertLine_eq]

theorem stableSort_sorted {less : List Bytes → List Bytes → Bool} (h : EditSpec.StrictWeak less) (l : List Line) :
    EditSpec.Sorted (onToken less) (stableSort less l) ∧ (stableSort less l).Perm l := by
  rw [stableSort_eq]
  exact ⟨EditSpec.sortBy_sorted (onToken_strictWeak h) l, EditSpec.sortBy_perm _ l⟩

theorem cleanup_no_cleared (e : EFile) :
    (∀ g ∈ (cleanup e).f.godebug, g.key ≠ []) ∧ (∀ r ∈ (cleanup e).f.require, r.mod.path ≠ []) ∧
    (∀ x ∈ (cleanup e).f.exclude, x.mod.path ≠ []) ∧ (∀ r ∈ (cleanup e).f.replace, r.old.path ≠ []) ∧
    (∀ r ∈ (cleanup e).f.retract, r.interval.low ≠ [] ∨ r.interval.high ≠ []) ∧ (∀ t ∈ (cleanup e).f.tool, t.path ≠ []) := by
  refine ⟨?_, ?_, ?_, ?_, ?_, ?_⟩ <;> intro x hx <;> simp only [cleanup, List.mem_filter] at hx <;>
    (have h := hx.2; simp at h; first | exact h | (intro e0; simp [e0] at h) | skip)
  all_goals (first | (by_cases h1 : x.interval.low = [] <;> simp_all) | simp_all)

theorem workCleanup_no_cleared (e : EWork) :
    (∀ g ∈ (workCleanup e).f.godebug, g.key ≠ []) ∧ (∀ u ∈ (workCleanup e).f.use, u.path ≠ []) ∧
    (∀ r ∈ (workCleanup e).f.replace, r.old.path ≠ []) := by
  refine ⟨?_, ?_, ?_⟩ <;> intro x hx <;> simp only [workCleanup, List.mem_filter] at hx <;>
    (have h := hx.2; simp at h; exact h)


/-- the comparator SortBlocks uses for a block with the given verb tokens -/
def lessFor (useSemantic work : Bool) (token : List Bytes) : List Bytes → List Bytes → Bool :=
  if work then lineLess
  else if headIs token (B "exclude") && useSemantic then lineExcludeLess
  else if headIs token (B "retract") then lineRetractLess
  else lineLess

theorem sortStmts_block (sem work : Bool) (stmts : List Expr) (b : LineBlock)
    (h : Expr.lineBlock b ∈ sortStmts sem work stmts) :
    ∃ b0, Expr.lineBlock b0 ∈ stmts ∧ b.token = b0.token ∧ b.lines = stableSort (lessFor sem work b0.token) b0.lines := by
  unfold sortStmts at h
  rcases List.mem_map.1 h with ⟨x, hx, hxe⟩
  cases x with
  | lineBlock b0 =>
    simp only [Expr.lineBlock.injEq] at hxe
    refine ⟨b0, hx, ?_, ?_⟩
    · rw [← hxe]
    · rw [← hxe]; simp only [lessFor]
  | commentBlock _ => simp at hxe
  | line _ => simp at hxe
  | lparen _ => simp at hxe
  | rparen _ => simp at hxe

/-! ### Cleanup, statement by statement -/

/-- what Cleanup leaves of one statement: nothing of a line without tokens or of a block without live lines; a block with
    one live line and no comment before its `)` collapses into a line with that line's id; any other block keeps its live
    lines; everything else stays -/
inductive Cleaned : Expr → List Expr → Prop
  | dead (l : Line) (h : l.token.isEmpty = true) : Cleaned (.line l) []
  | live (l : Line) (h : l.token.isEmpty = false) : Cleaned (.line l) [.line l]
  | empty (b : LineBlock) (h : b.lines.filter (!·.token.isEmpty) = []) : Cleaned (.lineBlock b) []
  | collapse (b : LineBlock) (l : Line) (h : b.lines.filter (!·.token.isEmpty) = [l])
      (hr : b.rparen.comments.before.isEmpty = true) :
      Cleaned (.lineBlock b) [.line { id := l.id,
                                      comments := { before := b.comments.before ++ l.comments.before,
                                                    suffix := l.comments.suffix ++ b.comments.suffix,
                                                    after := l.comments.after ++ b.comments.after },
                                      token := b.token ++ l.token }]
  | block (b : LineBlock) (h : b.lines.filter (!·.token.isEmpty) ≠ []) :
      Cleaned (.lineBlock b) [.lineBlock { b with lines := b.lines.filter (!·.token.isEmpty) }]
  | other (x : Expr) (h1 : ∀ l, x ≠ .line l) (h2 : ∀ b, x ≠ .lineBlock b) : Cleaned x [x]

theorem cleanupStmts_one (x : Expr) : Cleaned x (cleanupStmts [x]) := by
  cases x with
  | line l =>
    simp only [cleanupStmts]
    split
    · exact .dead l ‹_›
    · exact .live l (by simpa using ‹¬l.token.isEmpty = true›)
  | lineBlock b =>
    simp only [cleanupStmts]
    split
    · exact .empty b ‹_›
    · rename_i l hl
      split
      · exact .collapse b l hl ‹_›
      · exact .block b (by rw [hl]; simp)
    · rename_i h0 _
      exact .block b h0
  | commentBlock c => exact .other _ nofun nofun
  | lparen c => exact .other _ nofun nofun
  | rparen c => exact .other _ nofun nofun

theorem cleanupStmts_cons (x : Expr) (xs : List Expr) : cleanupStmts (x :: xs) = cleanupStmts [x] ++ cleanupStmts xs := by
  cases x with
  | line l => simp only [cleanupStmts]; split <;> rfl
  | lineBlock b =>
    simp only [cleanupStmts]
    split
    · rfl
    · split <;> rfl
    · rfl
  | commentBlock c => rfl
  | lparen c => rfl
  | rparen c => rfl

theorem mem_cleanupStmts {y : Expr} : ∀ {xs : List Expr}, y ∈ cleanupStmts xs → ∃ x ∈ xs, ∃ g, Cleaned x g ∧ y ∈ g
  | [], h => by simp [cleanupStmts] at h
  | x :: xs, h => by
    rw [cleanupStmts_cons] at h
    rcases List.mem_append.1 h with h | h
    · exact ⟨x, List.mem_cons_self, _, cleanupStmts_one x, h⟩
    · obtain ⟨x', hx', r⟩ := mem_cleanupStmts h
      exact ⟨x', List.mem_cons_of_mem _ hx', r⟩

theorem cleanupStmts_flatMap : ∀ xs : List Expr, cleanupStmts xs = xs.flatMap fun x => cleanupStmts [x]
  | [] => rfl
  | x :: xs => by rw [cleanupStmts_cons, List.flatMap_cons, ← cleanupStmts_flatMap xs]

theorem cleanupStmts_block (stmts : List Expr) (b' : LineBlock) (h : Expr.lineBlock b' ∈ cleanupStmts stmts) :
    ∃ b, Expr.lineBlock b ∈ stmts ∧ b'.token = b.token ∧ b'.lines.Sublist b.lines := by
  obtain ⟨x, hx, g, hg, hy⟩ := mem_cleanupStmts h
  cases hg <;> simp only [List.mem_cons, List.mem_nil_iff, or_false, reduceCtorEq, Expr.lineBlock.injEq] at hy
  · subst hy; exact ⟨_, hx, rfl, List.filter_sublist⟩
  · subst hy; exact ⟨b', hx, rfl, List.Sublist.refl _⟩

/-! ### removeDups on the tree, statement by statement -/

theorem dropKilled_cons (K : List Nat) (x : Expr) (xs : List Expr) : dropKilled K (x :: xs) = dropKilled K [x] ++ dropKilled K xs := by
  cases x <;> simp only [dropKilled] <;> first | rfl | (split <;> rfl)

theorem dropKilled_flatMap (K : List Nat) : ∀ xs : List Expr, dropKilled K xs = xs.flatMap fun x => dropKilled K [x]
  | [] => rfl
  | x :: xs => by rw [dropKilled_cons, List.flatMap_cons, ← dropKilled_flatMap K xs]

theorem mem_dropKilled_one {K : List Nat} {x y : Expr} (h : y ∈ dropKilled K [x]) :
    y = x ∨ ∃ b, x = .lineBlock b ∧ y = .lineBlock { b with lines := b.lines.filter fun l => !K.contains l.id } := by
  cases x with
  | line l => simp only [dropKilled] at h; split at h <;> simp_all
  | lineBlock b => simp only [dropKilled] at h; split at h <;> simp_all
  | commentBlock c => simp_all [dropKilled]
  | lparen c => simp_all [dropKilled]
  | rparen c => simp_all [dropKilled]

/-- when is the comparator known to be a strict weak order on ALL token lists: every case but an exclude
    block under the semantic order (there it is one on two-token lines only, see Props/C16) -/
theorem lessFor_strictWeak (sem work : Bool) (token : List Bytes)
    (h : work = true ∨ (headIs token (B "exclude") && sem) = false) : EditSpec.StrictWeak (lessFor sem work token) := by
  unfold lessFor
  by_cases hw : work = true
  · simp [hw]; exact lineLess_strictWeak
  · have hx : (headIs token (B "exclude") && sem) = false := by
      rcases h with h | h
      · exact absurd h hw
      · exact h
    simp only [hw, hx]
    by_cases hr : headIs token (B "retract") = true
    · simp [hr]; exact lineRetractLess_strictWeak
    · simp [hr]; exact lineLess_strictWeak

/-! ### an outcome of `sessionMod` / `sessionWork`, unfolded -/

theorem sessionMod_some {file : Bytes} {ops : List Op} {o : Outcome} (h : sessionMod file ops = some o) :
    ∃ f e res, parseStrict (B "go.mod") file none = .ok f ∧ runOps applyMod (load f) ops [] 0 = .done e res ∧
      o.start = absOf f ∧ o.typed = absOf (cleanup e).f ∧ o.tree = (cleanup e).f.syn ∧ o.res = res ∧
      o.reparsed = (match parseStrict (B "go.mod") (format (cleanup e).f.syn) none with
        | .ok g => some (absOf g)
        | .error _ => none) := by
  unfold sessionMod at h
  split at h
  · cases h
  · rename_i f hf
    split at h
    · rename_i e res hrun
      simp only [Option.some.injEq] at h
      subst h
      exact ⟨f, e, res, hf, hrun, rfl, rfl, rfl, rfl, rfl⟩
    · cases h

theorem sessionWork_some {file : Bytes} {ops : List Op} {o : Outcome} (h : sessionWork file ops = some o) :
    ∃ f e res, parseWork (B "go.work") file none = .ok f ∧ runOps applyWork (loadWork f) ops [] 0 = .done e res ∧
      o.start = absOfWork f ∧ o.typed = absOfWork (workCleanup e).f ∧ o.tree = (workCleanup e).f.syn ∧ o.res = res ∧
      o.reparsed = (match parseWork (B "go.work") (format (workCleanup e).f.syn) none with
        | .ok g => some (absOfWork g)
        | .error _ => none) := by
  unfold sessionWork at h
  split at h
  · cases h
  · rename_i f hf
    split at h
    · rename_i e res hrun
      simp only [Option.some.injEq] at h
      subst h
      exact ⟨f, e, res, hf, hrun, rfl, rfl, rfl, rfl, rfl⟩
    · cases h

end ModVerif.Modfile.Edit
