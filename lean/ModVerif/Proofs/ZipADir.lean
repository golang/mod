/-
  C17 `dir_vs_list`: for a directory tree of regular files and directories, with ordinary names and no VCS
  metadata directories, the files `listFilesInDir` lists are the files of the tree minus files that the
  list check omits anyway; the directory check / creation and the list check / creation over all files
  of the tree agree.  `allFiles` and `WFNode` / `WFChildren`, which the statement speaks of, extend the
  specification vocabulary (namespace `ZipSpec`).
-/
import ModVerif.Spec.ZipSpec
import ModVerif.Proofs.ZipASpec
import ModVerif.Proofs.ZipAClassify
import ModVerif.Proofs.ZipAPerm
import ModVerif.Proofs.ZipAVendor
import ModVerif.Proofs.ZipBPath
import ModVerif.Proofs.ZipCreate
import ModVerif.Proofs.Dirhash
namespace ModVerif.ZipSpec
open ModVerif ModVerif.PathClean ModVerif.Zip

mutual
def allFilesNode (slashPath : Bytes) : Node → List FileInfo
  | .file mode size content g => [⟨slashPath, mode, size, content, g⟩]
  | .dir children => allFilesChildren slashPath children

def allFilesChildren (rel : Bytes) : List (Bytes × Node) → List FileInfo
  | [] => []
  | (name, n) :: rest => allFilesNode (childPath rel name) n ++ allFilesChildren rel rest
end

def allFiles (children : List (Bytes × Node)) : List FileInfo := allFilesChildren [] children

mutual
/-- a tree as a real directory presents it to the walk -/
def WFNode : Node → Prop
  | .file mode _ _ _ => mode = .regular
  | .dir children => WFChildren children

def WFChildren : List (Bytes × Node) → Prop
  | [] => True
  | (name, n) :: rest =>
    NormalElem name ∧ (n.isDir = true → vcsDirs.contains name = false) ∧ (∀ x ∈ rest, x.1 ≠ name) ∧
      WFNode n ∧ WFChildren rest
end

end ModVerif.ZipSpec

namespace ModVerif.Proofs.ZipA
open ModVerif ModVerif.PathClean ModVerif.Zip ModVerif.ZipSpec ModVerif.Proofs.Zip
open ModVerif.Proofs.ZipB (childPath_nil childPath_ne normalName_child)

def Below (P q : Bytes) : Prop := ∃ r, q = P ++ 47 :: r

def AtOrBelow (P q : Bytes) : Prop := q = P ∨ Below P q

theorem childPath_ne_nil (rel name : Bytes) (h : name ≠ []) : childPath rel name ≠ [] := by
  by_cases hr : rel = []
  · subst hr; rw [childPath_nil]; exact h
  · rw [childPath_ne rel name hr]; simp

theorem below_child (rel name q : Bytes) (hrel : rel ≠ []) (h : AtOrBelow (childPath rel name) q) : Below rel q := by
  rw [childPath_ne rel name hrel] at h
  rcases h with h | ⟨r, h⟩
  · exact ⟨name, h⟩
  · exact ⟨name ++ 47 :: r, by rw [h]; simp⟩

theorem sibling_disjoint (rel n1 n2 q : Bytes) (h1 : AtOrBelow (childPath rel n1) q) (h2 : AtOrBelow (childPath rel n2) q)
    (s1 : (47 : UInt8) ∉ n1) (s2 : (47 : UInt8) ∉ n2) : n1 = n2 := by
  have key : ∀ q', AtOrBelow n1 q' → AtOrBelow n2 q' → n1 = n2 := by
    intro q' a1 a2
    rcases a1 with a1 | ⟨r1, a1⟩ <;> rcases a2 with a2 | ⟨r2, a2⟩
    · rw [← a1, ← a2]
    · exfalso; apply s1; rw [← a1, a2]; simp
    · exfalso; apply s2; rw [← a2, a1]; simp
    · exact (Dirhash.sep_unique 47 n1 n2 r1 r2 s1 s2 (by rw [← a1, ← a2])).1
  by_cases hr : rel = []
  · subst hr; rw [childPath_nil] at h1 h2; exact key q h1 h2
  · rw [childPath_ne rel _ hr] at h1 h2
    -- strip `rel/`
    have strip : ∀ n, AtOrBelow (rel ++ 47 :: n) q → ∃ q', q = rel ++ 47 :: q' ∧ AtOrBelow n q' := by
      intro n h
      rcases h with h | ⟨r, h⟩
      · exact ⟨n, h, Or.inl rfl⟩
      · exact ⟨n ++ 47 :: r, by rw [h]; simp, Or.inr ⟨r, rfl⟩⟩
    obtain ⟨q1, e1, a1⟩ := strip n1 h1
    obtain ⟨q2, e2, a2⟩ := strip n2 h2
    have : q1 = q2 := by
      have := e1.symm.trans e2
      simpa using this
    subst this
    exact key q1 a1 a2

theorem normalElem_facts {c : Bytes} (h : NormalElem c) : c ≠ [] ∧ (47 : UInt8) ∉ c := ⟨h.1, h.2.2.2⟩

mutual
theorem allFilesNode_path : ∀ (n : Node) (P : Bytes), WFNode n → P ≠ [] → ∀ f ∈ allFilesNode P n,
    f.mode = .regular ∧ (n.isDir = false → f.path = P) ∧ (n.isDir = true → Below P f.path)
  | .file mode size content g, P => by
    intro hw _ f hf
    simp only [allFilesNode, List.mem_singleton] at hf
    simp only [WFNode] at hw
    rw [hf]
    exact ⟨hw, fun _ => rfl, fun h => by simp [Node.isDir] at h⟩
  | .dir cs, P => by
    intro hw hP f hf
    simp only [allFilesNode] at hf
    simp only [WFNode] at hw
    obtain ⟨name, n, _, _, hreg, hat, _⟩ := allFilesChildren_path cs P hw f hf
    exact ⟨hreg, fun h => by simp [Node.isDir] at h, fun _ => below_child P name f.path hP hat⟩
theorem allFilesChildren_path : ∀ (cs : List (Bytes × Node)) (rel : Bytes), WFChildren cs →
    ∀ f ∈ allFilesChildren rel cs,
    ∃ name n, (name, n) ∈ cs ∧ f ∈ allFilesNode (childPath rel name) n ∧ f.mode = .regular ∧
      AtOrBelow (childPath rel name) f.path ∧ (n.isDir = false → f.path = childPath rel name)
  | [], rel => by intro _ f hf; simp [allFilesChildren] at hf
  | (name, n) :: rest, rel => by
    intro hw f hf
    simp only [allFilesChildren, List.mem_append] at hf
    simp only [WFChildren] at hw
    obtain ⟨hname, _, _, hwn, hwr⟩ := hw
    rcases hf with hf | hf
    · obtain ⟨h1, h2, h3⟩ := allFilesNode_path n (childPath rel name) hwn
        (childPath_ne_nil rel name (normalElem_facts hname).1) f hf
      refine ⟨name, n, List.mem_cons_self, hf, h1, ?_, h2⟩
      cases hd : n.isDir with
      | false => exact Or.inl (h2 hd)
      | true => exact Or.inr (h3 hd)
    · obtain ⟨name', n', m1, m2, m3, m4, m5⟩ := allFilesChildren_path rest rel hwr f hf
      exact ⟨name', n', List.mem_cons_of_mem _ m1, m2, m3, m4, m5⟩
end

theorem wf_mem : ∀ (cs : List (Bytes × Node)), WFChildren cs → ∀ x ∈ cs,
    NormalElem x.1 ∧ (x.2.isDir = true → vcsDirs.contains x.1 = false) ∧ WFNode x.2 := by
  intro cs
  induction cs with
  | nil => intro _ x hx; cases hx
  | cons c t ih =>
    intro hw x hx
    obtain ⟨name, n⟩ := c
    simp only [WFChildren] at hw
    rcases List.mem_cons.mp hx with rfl | hx
    · exact ⟨hw.1, hw.2.1, hw.2.2.2.1⟩
    · exact ih hw.2.2.2.2 x hx

theorem allFilesNode_sub_children : ∀ (cs : List (Bytes × Node)) (rel : Bytes) (name : Bytes) (n : Node),
    (name, n) ∈ cs → ∀ f ∈ allFilesNode (childPath rel name) n, f ∈ allFilesChildren rel cs := by
  intro cs
  induction cs with
  | nil => intro _ _ _ h; cases h
  | cons c t ih =>
    intro rel name n h f hf
    obtain ⟨name', n'⟩ := c
    simp only [allFilesChildren, List.mem_append]
    rcases List.mem_cons.mp h with h | h
    · simp only [Prod.mk.injEq] at h
      left; rw [← h.1, ← h.2]; exact hf
    · right; exact ih rel name n h f hf


/-! ### the walk lists a sublist of the files, none of them vendored -/

theorem append_files (a b : Listing) : (a.append b).files = a.files ++ b.files := rfl

theorem walkNode_file (g : Bool) (P base : Bytes) (mode : Mode) (size : Int) (content : Bytes) (gg : Bool) :
    (walkNode g P base (.file mode size content gg)).files =
      if isVendoredPackage P g then [] else if mode != .regular then [] else [⟨P, mode, size, content, gg⟩] := by
  simp only [walkNode]
  split
  · rfl
  · split <;> rfl

theorem walkNode_dir (g : Bool) (P base : Bytes) (cs : List (Bytes × Node)) :
    (walkNode g P base (.dir cs)).files =
      if isVendoredPackage P g then (walkChildren g P cs).files
      else if vcsDirs.contains base then []
      else if hasGoModFile cs then []
      else (walkChildren g P cs).files := by
  simp only [walkNode]
  split
  · rfl
  · split
    · rfl
    · split <;> rfl

theorem walkChildren_cons (g : Bool) (rel name : Bytes) (n : Node) (rest : List (Bytes × Node)) :
    (walkChildren g rel ((name, n) :: rest)).files =
      (walkNode g (childPath rel name) name n).files ++ (walkChildren g rel rest).files := by
  simp only [walkChildren]; rfl

theorem walkChildren_nil (g : Bool) (rel : Bytes) : (walkChildren g rel []).files = [] := by
  simp only [walkChildren]

mutual
theorem walkNode_sub (g : Bool) : ∀ (n : Node) (P base : Bytes),
    (walkNode g P base n).files.Sublist (allFilesNode P n) ∧
    ∀ f ∈ (walkNode g P base n).files, isVendoredPackage f.path g = false
  | .file mode size content gg, P, base => by
    rw [walkNode_file]
    simp only [allFilesNode]
    by_cases hv : isVendoredPackage P g = true
    · rw [if_pos hv]; exact ⟨List.nil_sublist _, fun f hf => by cases hf⟩
    · rw [if_neg hv]
      split
      · exact ⟨List.nil_sublist _, fun f hf => by cases hf⟩
      · refine ⟨List.Sublist.refl _, ?_⟩
        intro f hf; rw [List.mem_singleton.mp hf]; simpa using hv
  | .dir cs, P, base => by
    rw [walkNode_dir]
    simp only [allFilesNode]
    have ih := walkChildren_sub g cs P
    repeat' split
    all_goals first
      | exact ih
      | exact ⟨List.nil_sublist _, fun f hf => by cases hf⟩
theorem walkChildren_sub (g : Bool) : ∀ (cs : List (Bytes × Node)) (rel : Bytes),
    (walkChildren g rel cs).files.Sublist (allFilesChildren rel cs) ∧
    ∀ f ∈ (walkChildren g rel cs).files, isVendoredPackage f.path g = false
  | [], rel => by
    rw [walkChildren_nil]; exact ⟨List.nil_sublist _, fun f hf => by cases hf⟩
  | (name, n) :: rest, rel => by
    rw [walkChildren_cons]
    simp only [allFilesChildren]
    obtain ⟨a1, a2⟩ := walkNode_sub g n (childPath rel name) name
    obtain ⟨b1, b2⟩ := walkChildren_sub g rest rel
    refine ⟨a1.append b1, ?_⟩
    intro f hf
    rcases List.mem_append.mp hf with hf | hf
    · exact a2 f hf
    · exact b2 f hf
end


/-! ### the files the walk leaves out are omitted by the list check anyway -/

theorem hasGoModFile_child (cs : List (Bytes × Node)) (h : hasGoModFile cs = true) :
    ∃ mode size content gg, (goModName, Node.file mode size content gg) ∈ cs := by
  unfold hasGoModFile at h
  rw [List.any_eq_true] at h
  obtain ⟨c, hc, h2⟩ := h
  obtain ⟨name, n⟩ := c
  simp only [Bool.and_eq_true, beq_iff_eq, Bool.not_eq_true'] at h2
  cases n with
  | file mode size content gg => exact ⟨mode, size, content, gg, by rw [← h2.1]; exact hc⟩
  | dir cs' => simp [Node.isDir] at h2

/-- what makes the list check omit a file -/
def OmittedIn (g : Bool) (files : List FileInfo) (f : FileInfo) : Prop :=
  isVendoredPackage f.path g = true ∨
    ∃ d ∈ dirPrefixes f.path, ∃ g1 ∈ files, g1.mode = .regular ∧ pathSplit g1.path = (d, goModName)

theorem omittedIn_mono (g : Bool) (l1 l2 : List FileInfo) (f : FileInfo) (h : ∀ x ∈ l1, x ∈ l2)
    (ho : OmittedIn g l1 f) : OmittedIn g l2 f := by
  rcases ho with ho | ⟨d, hd, g1, hg1, r⟩
  · exact Or.inl ho
  · exact Or.inr ⟨d, hd, g1, h g1 hg1, r⟩

mutual
theorem walkNode_left_out (g : Bool) : ∀ (n : Node) (P base : Bytes), WFNode n → P ≠ [] →
    (n.isDir = true → vcsDirs.contains base = false) →
    ∀ f ∈ allFilesNode P n, f ∉ (walkNode g P base n).files → OmittedIn g (allFilesNode P n) f
  | .file mode size content gg, P, base => by
    intro hw _ _ f hf hnot
    simp only [allFilesNode, List.mem_singleton] at hf
    simp only [WFNode] at hw
    rw [walkNode_file] at hnot
    by_cases hv : isVendoredPackage P g = true
    · left; rw [hf]; exact hv
    · subst hw
      rw [if_neg hv] at hnot
      simp at hnot
      exact absurd hf hnot
  | .dir cs, P, base => by
    intro hw hP hvcs f hf hnot
    simp only [allFilesNode] at hf ⊢
    simp only [WFNode] at hw
    rw [walkNode_dir] at hnot
    by_cases hv : isVendoredPackage P g = true
    · rw [if_pos hv] at hnot
      exact walkChildren_left_out g cs P hw f hf hnot
    rw [if_neg hv] at hnot
    have hvcs' : vcsDirs.contains base = false := hvcs rfl
    rw [hvcs'] at hnot
    simp only [Bool.false_eq_true, if_false] at hnot
    by_cases hgm : hasGoModFile cs = true
    · obtain ⟨mode, size, content, gg, hmem⟩ := hasGoModFile_child cs hgm
      obtain ⟨_, _, hbelow⟩ := allFilesNode_path (.dir cs) P (by simpa [WFNode] using hw) hP f (by simpa [allFilesNode] using hf)
      obtain ⟨r, hr⟩ := hbelow rfl
      right
      refine ⟨P ++ [47], ?_, ⟨childPath P goModName, mode, size, content, gg⟩, ?_, ?_, ?_⟩
      · rw [hr]; exact mem_dirPrefixes P r
      · exact allFilesNode_sub_children cs P goModName _ hmem _ (by simp [allFilesNode])
      · have := (wf_mem cs hw _ hmem).2.2
        simpa [WFNode] using this
      · show pathSplit (childPath P goModName) = _
        rw [childPath_ne P _ hP]
        exact ZipB.pathSplit_append P goModName (by decide)
    · rw [if_neg hgm] at hnot
      exact walkChildren_left_out g cs P hw f hf hnot
theorem walkChildren_left_out (g : Bool) : ∀ (cs : List (Bytes × Node)) (rel : Bytes), WFChildren cs →
    ∀ f ∈ allFilesChildren rel cs, f ∉ (walkChildren g rel cs).files → OmittedIn g (allFilesChildren rel cs) f
  | [], rel => by intro _ f hf; simp [allFilesChildren] at hf
  | (name, n) :: rest, rel => by
    intro hw f hf hnot
    rw [walkChildren_cons] at hnot
    simp only [allFilesChildren, List.mem_append] at hf ⊢
    simp only [WFChildren] at hw
    obtain ⟨hname, hvcs, _, hwn, hwr⟩ := hw
    have hn1 : f ∉ (walkNode g (childPath rel name) name n).files := fun h => hnot (List.mem_append_left _ h)
    have hn2 : f ∉ (walkChildren g rel rest).files := fun h => hnot (List.mem_append_right _ h)
    rcases hf with hf | hf
    · have := walkNode_left_out g n (childPath rel name) name hwn
        (childPath_ne_nil rel name (normalElem_facts hname).1) hvcs f hf hn1
      exact omittedIn_mono g _ _ f (fun x hx => List.mem_append_left _ hx) this
    · have := walkChildren_left_out g rest rel hwr f hf hn2
      exact omittedIn_mono g _ _ f (fun x hx => List.mem_append_right _ hx) this
end


/-! ### files in the directories above a listed file are listed, unless vendored -/

theorem last_slash_unique (a b a' b' : Bytes) (h : a ++ 47 :: b = a' ++ 47 :: b') (hb : (47 : UInt8) ∉ b)
    (hb' : (47 : UInt8) ∉ b') : a = a' ∧ b = b' := by
  have hr := congrArg List.reverse h
  simp only [List.reverse_append, List.reverse_cons, List.append_assoc, List.singleton_append] at hr
  obtain ⟨h1, h2⟩ := Dirhash.sep_unique 47 b.reverse b'.reverse a.reverse a'.reverse
    (fun hm => hb (List.mem_reverse.mp hm)) (fun hm => hb' (List.mem_reverse.mp hm)) hr
  exact ⟨List.reverse_inj.mp h2, List.reverse_inj.mp h1⟩

theorem dir_of_below (P p : Bytes) (h : Below P p) : ∃ x, (pathSplit p).1 = P ++ 47 :: x := by
  obtain ⟨r, hr⟩ := h
  rcases last_slash r with hns | ⟨a2, b2, rfl, hb2⟩
  · rw [hr, ZipB.pathSplit_append P r hns]; exact ⟨[], rfl⟩
  · have : p = (P ++ 47 :: a2) ++ 47 :: b2 := by rw [hr]; simp
    rw [this, ZipB.pathSplit_append _ b2 hb2]
    exact ⟨a2 ++ [47], by simp⟩

theorem below_of_dirPrefix (P q x : Bytes) (h : P ++ 47 :: x ∈ dirPrefixes q) : Below P q := by
  obtain ⟨a, b, h1, h2⟩ := (mem_dirPrefixes_iff q _).mp h
  refine ⟨x ++ b, ?_⟩
  have : q = (a ++ [47]) ++ b := by rw [h1]; simp
  rw [this, ← h2]; simp

theorem file_listed (g : Bool) : ∀ (cs : List (Bytes × Node)) (rel name : Bytes) (mode : Mode) (size : Int)
    (content : Bytes) (gg : Bool), WFChildren cs → (name, Node.file mode size content gg) ∈ cs →
    isVendoredPackage (childPath rel name) g = false →
    (⟨childPath rel name, mode, size, content, gg⟩ : FileInfo) ∈ (walkChildren g rel cs).files := by
  intro cs
  induction cs with
  | nil => intro _ _ _ _ _ _ _ h; cases h
  | cons c t ih =>
    intro rel name mode size content gg hw hm hv
    obtain ⟨name', n'⟩ := c
    rw [walkChildren_cons]
    simp only [WFChildren] at hw
    rcases List.mem_cons.mp hm with hm | hm
    · simp only [Prod.mk.injEq] at hm
      obtain ⟨rfl, rfl⟩ := hm
      have hreg : mode = .regular := by simpa [WFNode] using hw.2.2.2.1
      subst hreg
      apply List.mem_append_left
      rw [walkNode_file, hv]
      simp
    · exact List.mem_append_right _ (ih rel name mode size content gg hw.2.2.2.2 hm hv)

mutual
theorem walkNode_ancestors (g : Bool) : ∀ (n : Node) (P base : Bytes), WFNode n → P ≠ [] →
    ∀ f ∈ (walkNode g P base n).files, ∀ g0 ∈ allFilesNode P n, isVendoredPackage g0.path g = false →
    (pathSplit g0.path).1 ∈ dirPrefixes f.path → g0 ∈ (walkNode g P base n).files
  | .file mode size content gg, P, base => by
    intro _ _ f hf g0 hg0 _ _
    simp only [allFilesNode, List.mem_singleton] at hg0
    rw [walkNode_file] at hf ⊢
    by_cases h1 : isVendoredPackage P g = true
    · rw [if_pos h1] at hf; cases hf
    rw [if_neg h1] at hf ⊢
    by_cases h2 : (mode != Mode.regular) = true
    · rw [if_pos h2] at hf; cases hf
    rw [if_neg h2, hg0]; exact List.mem_singleton.mpr rfl
  | .dir cs, P, base => by
    intro hw hP f hf g0 hg0 hv hd
    simp only [allFilesNode] at hg0
    simp only [WFNode] at hw
    rw [walkNode_dir] at hf ⊢
    by_cases h1 : isVendoredPackage P g = true
    · rw [if_pos h1] at hf ⊢
      exact walkChildren_ancestors g cs P hw f hf g0 hg0 hv hd
    rw [if_neg h1] at hf ⊢
    by_cases h2 : vcsDirs.contains base = true
    · rw [if_pos h2] at hf; cases hf
    rw [if_neg h2] at hf ⊢
    by_cases h3 : hasGoModFile cs = true
    · rw [if_pos h3] at hf; cases hf
    rw [if_neg h3] at hf ⊢
    exact walkChildren_ancestors g cs P hw f hf g0 hg0 hv hd
theorem walkChildren_ancestors (g : Bool) : ∀ (cs : List (Bytes × Node)) (rel : Bytes), WFChildren cs →
    ∀ f ∈ (walkChildren g rel cs).files, ∀ g0 ∈ allFilesChildren rel cs, isVendoredPackage g0.path g = false →
    (pathSplit g0.path).1 ∈ dirPrefixes f.path → g0 ∈ (walkChildren g rel cs).files
  | [], rel => by intro _ f hf; rw [walkChildren_nil] at hf; cases hf
  | (name, n) :: rest, rel => by
    intro hw f hf g0 hg0 hv hd
    have hw' := hw
    simp only [WFChildren] at hw
    obtain ⟨hname, _, hdist, hwn, hwr⟩ := hw
    have hP : childPath rel name ≠ [] := childPath_ne_nil rel name (normalElem_facts hname).1
    rw [walkChildren_cons] at hf ⊢
    simp only [allFilesChildren, List.mem_append] at hg0
    rcases List.mem_append.mp hf with hf | hf <;> rcases hg0 with hg0 | hg0
    · exact List.mem_append_left _ (walkNode_ancestors g n (childPath rel name) name hwn hP f hf g0 hg0 hv hd)
    · -- f below the first child, g0 in a later sibling
      apply List.mem_append_right
      have hfa := (walkNode_sub g n (childPath rel name) name).1.subset hf
      obtain ⟨_, f1, f2⟩ := allFilesNode_path n (childPath rel name) hwn hP f hfa
      have hfat : AtOrBelow (childPath rel name) f.path := by
        cases hdn : n.isDir with
        | false => exact Or.inl (f1 hdn)
        | true => exact Or.inr (f2 hdn)
      obtain ⟨name2, n2, m1, m2, _, m4, _⟩ := allFilesChildren_path rest rel hwr g0 hg0
      have hne : name2 ≠ name := hdist (name2, n2) m1
      have hwf2 := wf_mem rest hwr _ m1
      rcases m4 with m4 | m4
      · -- g0 is the sibling node itself, so a file
        cases n2 with
        | dir cs2 =>
          obtain ⟨_, _, b⟩ := allFilesNode_path (.dir cs2) (childPath rel name2) hwf2.2.2
            (childPath_ne_nil rel name2 (normalElem_facts hwf2.1).1) g0 m2
          obtain ⟨r, hr⟩ := b rfl
          rw [m4] at hr
          have := congrArg List.length hr
          simp at this
        | file mode size content gg =>
          simp only [allFilesNode, List.mem_singleton] at m2
          rw [m2]
          exact file_listed g rest rel name2 mode size content gg hwr m1 (by rw [m2] at hv; exact hv)
      · exfalso
        obtain ⟨x, hx⟩ := dir_of_below _ _ m4
        rw [hx] at hd
        have := below_of_dirPrefix _ _ _ hd
        exact hne (sibling_disjoint rel name2 name f.path (Or.inr this) hfat
          (normalElem_facts hwf2.1).2 (normalElem_facts hname).2)
    · -- f below a later sibling, g0 below the first child
      apply List.mem_append_left
      have hfa := (walkChildren_sub g rest rel).1.subset hf
      obtain ⟨name1, n1, k1, _, _, k4, _⟩ := allFilesChildren_path rest rel hwr f hfa
      have hne : name1 ≠ name := hdist (name1, n1) k1
      have hwf1 := wf_mem rest hwr _ k1
      obtain ⟨_, g1, g2⟩ := allFilesNode_path n (childPath rel name) hwn hP g0 hg0
      cases n with
      | dir cs0 =>
        exfalso
        obtain ⟨x, hx⟩ := dir_of_below _ _ (g2 rfl)
        rw [hx] at hd
        have := below_of_dirPrefix _ _ _ hd
        exact hne (sibling_disjoint rel name1 name f.path k4 (Or.inr this)
          (normalElem_facts hwf1.1).2 (normalElem_facts hname).2)
      | file mode size content gg =>
        simp only [allFilesNode, List.mem_singleton] at hg0
        have hreg : mode = .regular := by simpa [WFNode] using hwn
        subst hreg
        rw [walkNode_file]
        have : isVendoredPackage (childPath rel name) g = false := by rw [hg0] at hv; exact hv
        rw [this, hg0]; simp
    · exact List.mem_append_right _ (walkChildren_ancestors g rest rel hwr f hf g0 hg0 hv hd)
end


/-! ### the paths of a well-formed tree are clean, relative and pairwise distinct -/

mutual
theorem allFilesNode_normal : ∀ (n : Node) (P : Bytes), WFNode n → ZipB.NormalName P →
    ∀ f ∈ allFilesNode P n, ZipB.NormalName f.path
  | .file mode size content gg, P => by
    intro _ hP f hf
    simp only [allFilesNode, List.mem_singleton] at hf
    rw [hf]; exact hP
  | .dir cs, P => by
    intro hw hP f hf
    simp only [allFilesNode] at hf
    simp only [WFNode] at hw
    exact allFilesChildren_normal cs P hw (Or.inr hP) f hf
theorem allFilesChildren_normal : ∀ (cs : List (Bytes × Node)) (rel : Bytes), WFChildren cs →
    (rel = [] ∨ ZipB.NormalName rel) → ∀ f ∈ allFilesChildren rel cs, ZipB.NormalName f.path
  | [], rel => by intro _ _ f hf; simp [allFilesChildren] at hf
  | (name, n) :: rest, rel => by
    intro hw hr f hf
    simp only [allFilesChildren, List.mem_append] at hf
    simp only [WFChildren] at hw
    rcases hf with hf | hf
    · exact allFilesNode_normal n (childPath rel name) hw.2.2.2.1 (normalName_child hr hw.1) f hf
    · exact allFilesChildren_normal rest rel hw.2.2.2.2 hr f hf
end

mutual
theorem allFilesNode_nodup : ∀ (n : Node) (P : Bytes), WFNode n → P ≠ [] →
    ((allFilesNode P n).map (·.path)).Nodup
  | .file mode size content gg, P => by
    intro _ _; simp [allFilesNode]
  | .dir cs, P => by
    intro hw _
    simp only [allFilesNode]
    simp only [WFNode] at hw
    exact allFilesChildren_nodup cs P hw
theorem allFilesChildren_nodup : ∀ (cs : List (Bytes × Node)) (rel : Bytes), WFChildren cs →
    ((allFilesChildren rel cs).map (·.path)).Nodup
  | [], rel => by intro _; simp [allFilesChildren]
  | (name, n) :: rest, rel => by
    intro hw
    have hw' := hw
    simp only [WFChildren] at hw
    obtain ⟨hname, _, hdist, hwn, hwr⟩ := hw
    have hP : childPath rel name ≠ [] := childPath_ne_nil rel name (normalElem_facts hname).1
    simp only [allFilesChildren, List.map_append]
    refine List.nodup_append.mpr ⟨allFilesNode_nodup n (childPath rel name) hwn hP,
      allFilesChildren_nodup rest rel hwr, ?_⟩
    intro a ha b hb hab
    obtain ⟨f1, hf1, rfl⟩ := List.mem_map.mp ha
    obtain ⟨f2, hf2, e2⟩ := List.mem_map.mp hb
    obtain ⟨_, x1, x2⟩ := allFilesNode_path n (childPath rel name) hwn hP f1 hf1
    have hat1 : AtOrBelow (childPath rel name) f1.path := by
      cases hdn : n.isDir with
      | false => exact Or.inl (x1 hdn)
      | true => exact Or.inr (x2 hdn)
    obtain ⟨name2, n2, m1, _, _, m4, _⟩ := allFilesChildren_path rest rel hwr f2 hf2
    have hwf2 := wf_mem rest hwr _ m1
    have hat2 : AtOrBelow (childPath rel name2) f1.path := by rw [hab, ← e2]; exact m4
    exact hdist (name2, n2) m1 (sibling_disjoint rel name2 name f1.path hat2 hat1
      (normalElem_facts hwf2.1).2 (normalElem_facts hname).2)
end

theorem allFiles_facts (t : List (Bytes × Node)) (hw : WFChildren t) :
    ((allFiles t).map (·.path)).Nodup ∧
    ∀ f ∈ allFiles t, f.mode = .regular ∧ pathClean f.path = f.path ∧ isAbs f.path = false := by
  refine ⟨allFilesChildren_nodup t [] hw, ?_⟩
  intro f hf
  obtain ⟨_, _, _, _, hreg, _, _⟩ := allFilesChildren_path t [] hw f hf
  have hn := allFilesChildren_normal t [] hw (Or.inl rfl) f hf
  exact ⟨hreg, ZipB.pathClean_normalName hn, ZipB.normalName_not_rooted hn⟩


/-! ### vendoring does not depend on the last path element -/

theorem mem_drop_append_left (d base : Bytes) (n : Nat) (hb : (47 : UInt8) ∉ base)
    (h : (47 : UInt8) ∈ (d ++ base).drop n) : (47 : UInt8) ∈ d.drop n := by
  rw [List.drop_append] at h
  rcases List.mem_append.mp h with h | h
  · exact h
  · exact absurd (List.mem_of_mem_drop h) hb

theorem mem_drop_append_right (d rest : Bytes) (n : Nat) (h : (47 : UInt8) ∈ d.drop n) :
    (47 : UInt8) ∈ (d ++ rest).drop n := by
  rw [List.drop_append]; exact List.mem_append_left _ h

theorem prefix_append_iff (v d x : Bytes) (h : v.length ≤ d.length) : v <+: d ++ x ↔ v <+: d := by
  rw [List.prefix_iff_eq_take, List.prefix_iff_eq_take, List.take_append_of_le_length h]

theorem vendored_extend (g : Bool) (d base rest : Bytes) (hb : (47 : UInt8) ∉ base)
    (hne : d ++ base ≠ vendorModulesTxt) (hv : isVendoredPackage (d ++ base) g = true) :
    isVendoredPackage (d ++ rest) g = true := by
  cases g with
  | true =>
    rw [vendor_rule_ge124] at hv ⊢
    rcases hv with hv | ⟨pre, r, h1, h2, h3⟩
    · exact absurd hv hne
    · right
      have h1' : d ++ base = (pre ++ vendorSlash) ++ r := by rw [h1]
      rcases List.append_eq_append_iff.mp h1' with ⟨a', _, e2⟩ | ⟨c', e1, e2⟩
      · exfalso; apply hb; rw [e2]; exact List.mem_append_right _ h3
      · have hc : (47 : UInt8) ∈ c' := by
          rw [e2] at h3
          rcases List.mem_append.mp h3 with h | h
          · exact h
          · exact absurd h hb
        exact ⟨pre, c' ++ rest, by rw [e1]; simp, h2, List.mem_append_left _ hc⟩
  | false =>
    rw [vendor_rule_pre124] at hv ⊢
    rcases hv with ⟨p1, p2⟩ | ⟨p1, ⟨pre, r, p2⟩, p3⟩
    · have hd := mem_drop_append_left d base 7 hb p2
      have hlen : vendorSlash.length ≤ d.length := by
        have : 7 < d.length := by
          by_cases hl : 7 < d.length
          · exact hl
          · rw [List.drop_eq_nil_of_le (by omega)] at hd; cases hd
        rw [vendorSlash_length]; omega
      left
      exact ⟨(prefix_append_iff _ d rest hlen).mpr ((prefix_append_iff _ d base hlen).mp p1),
        mem_drop_append_right d rest 7 hd⟩
    · have hd := mem_drop_append_left d base 8 hb p3
      have hlen : vendorSlash.length ≤ d.length := by
        have : 8 < d.length := by
          by_cases hl : 8 < d.length
          · exact hl
          · rw [List.drop_eq_nil_of_le (by omega)] at hd; cases hd
        rw [vendorSlash_length]; omega
      right
      refine ⟨fun hp => p1 ((prefix_append_iff _ d base hlen).mpr ((prefix_append_iff _ d rest hlen).mp hp)), ?_,
        mem_drop_append_right d rest 8 hd⟩
      have p2' : d ++ base = (pre ++ slashVendorSlash) ++ r := by rw [p2]
      rcases List.append_eq_append_iff.mp p2' with ⟨a', e1, e2⟩ | ⟨c', e1, _⟩
      · cases a' with
        | nil => exact ⟨pre, rest, by rw [← List.append_nil d, ← e1]⟩
        | cons x t =>
          exfalso
          -- the last byte of `pre ++ "/vendor/"` is a slash, and it would lie in `base`
          have hl : (pre ++ slashVendorSlash).getLast? = some 47 := by
            rw [List.getLast?_append]; simp [slashVendorSlash, vendorSlash]
          rw [e1, List.getLast?_append] at hl
          have hx : (x :: t).getLast? = some 47 := by
            cases hxt : (x :: t).getLast? with
            | none => simp at hxt
            | some y => rw [hxt] at hl; simpa using hl
          apply hb
          rw [e2]
          exact List.mem_append_left _ (List.mem_of_getLast? hx)
      · exact ⟨pre, c' ++ rest, by rw [e1]; simp⟩


theorem earlyRule_of_omittedIn (E : Env) (g : Bool) (A : List FileInfo) (f : FileInfo) (hreg : f.mode = .regular)
    (hcl : pathClean f.path = f.path) (hrel : isAbs f.path = false) (ho : OmittedIn g A f) :
    ∃ r, earlyRule E g A f = some (.omitted r) := by
  have hu : goModUnreadable f = false := by simp [goModUnreadable, hreg]
  unfold earlyRule
  by_cases hv : isVendoredPackage f.path g = true
  · exact ⟨.vendored, by simp [hu, hcl, hrel, hv]⟩
  · rcases ho with ho | ⟨d, hd, g1, hg1, hr1, hs1⟩
    · exact absurd ho hv
    · have hb : BelowModuleRoot A f.path :=
        ⟨d, hd, g1, hg1, hr1, by rw [hs1]; show equalFoldGoMod goModName = true; decide, by rw [hs1]⟩
      exact ⟨.submoduleFile, by simp [hu, hcl, hrel, hv, hb]⟩

theorem pathSplit_vmt : (pathSplit vendorModulesTxt).2 = [109, 111, 100, 117, 108, 101, 115, 46, 116, 120, 116] := by
  decide

theorem belowModuleRoot_listed (g : Bool) (A L : List FileInfo) (hsub : ∀ x ∈ L, x ∈ A)
    (hLnv : ∀ f ∈ L, isVendoredPackage f.path g = false)
    (hanc : ∀ f ∈ L, ∀ g0 ∈ A, isVendoredPackage g0.path g = false →
      (pathSplit g0.path).1 ∈ dirPrefixes f.path → g0 ∈ L)
    (f : FileInfo) (hf : f ∈ L) : BelowModuleRoot A f.path ↔ BelowModuleRoot L f.path := by
  constructor
  · rintro ⟨d, hd, g0, hg0, hr0, he0, hs0⟩
    refine ⟨d, hd, g0, ?_, hr0, he0, hs0⟩
    apply hanc f hf g0 hg0 ?_ (by rw [hs0]; exact hd)
    -- g0 is not vendored, because `f` is not
    cases hv : isVendoredPackage g0.path g with
    | false => rfl
    | true =>
      exfalso
      obtain ⟨a, b, h1, h2⟩ := (mem_dirPrefixes_iff f.path d).mp hd
      obtain ⟨s1, s2, _⟩ := pathSplit_spec g0.path
      have hne : (pathSplit g0.path).1 ++ (pathSplit g0.path).2 ≠ vendorModulesTxt := by
        intro e
        rw [← s1] at e
        rw [e, pathSplit_vmt] at he0
        revert he0; decide
      have hb : (47 : UInt8) ∉ (pathSplit g0.path).2 := by rw [s2]; exact lastElem_slashFree _
      rw [s1] at hv
      have := vendored_extend g (pathSplit g0.path).1 (pathSplit g0.path).2 b hb hne hv
      rw [hs0, h2] at this
      have hfp : f.path = a ++ [47] ++ b := by rw [h1]; simp
      rw [← hfp, hLnv f hf] at this
      cases this
  · rintro ⟨d, hd, g0, hg0, r⟩
    exact ⟨d, hd, g0, hsub g0 hg0, r⟩

theorem earlyRule_listed (E : Env) (g : Bool) (A L : List FileInfo) (f : FileInfo)
    (hb : BelowModuleRoot A f.path ↔ BelowModuleRoot L f.path) : earlyRule E g A f = earlyRule E g L f := by
  unfold earlyRule
  simp only [hb]

theorem classifyFrom_sublist (E : Env) (g : Bool) (A L : List FileInfo) : ∀ (l' l : List FileInfo),
    l'.Sublist l → (l.map (·.path)).Nodup →
    (∀ f ∈ l, f ∉ l' → ∃ r, earlyRule E g A f = some (.omitted r)) →
    (∀ f ∈ l', earlyRule E g A f = earlyRule E g L f) →
    ∀ reg, (classifyFrom E g A reg l).filterMap vOf = (classifyFrom E g L reg l').filterMap vOf ∧
      (classifyFrom E g A reg l).filterMap iOf = (classifyFrom E g L reg l').filterMap iOf ∧
      ∀ b, (classifyFrom E g A reg l).foldl bOf b = (classifyFrom E g L reg l').foldl bOf b := by
  intro l' l h
  induction h with
  | slnil => intro _ _ _ reg; exact ⟨rfl, rfl, fun _ => rfl⟩
  | @cons l1 l2 a h ih =>
    intro hnd hout hsame reg
    rw [List.map_cons, List.nodup_cons] at hnd
    have ha : a ∉ l1 := fun hm => hnd.1 (List.mem_map_of_mem (f := fun x : FileInfo => x.path) (h.subset hm))
    obtain ⟨r, hr⟩ := hout a List.mem_cons_self ha
    obtain ⟨i1, i2, i3⟩ := ih hnd.2 (fun f hf hn => hout f (List.mem_cons_of_mem _ hf) hn) hsame reg
    rw [classifyFrom_cons, classifyStep_some E g A reg a _ hr]
    refine ⟨?_, ?_, ?_⟩
    · rw [filterMap_cons_toList, i1]; simp [vOf]
    · rw [filterMap_cons_toList, i2]; simp [iOf]
    · intro b; rw [List.foldl_cons, i3]; simp [bOf, Class.sized]
  | @cons_cons l1 l2 a h ih =>
    intro hnd hout hsame reg
    rw [List.map_cons, List.nodup_cons] at hnd
    have ha2 : a ∉ l2 := fun hm => hnd.1 (List.mem_map_of_mem (f := fun x : FileInfo => x.path) hm)
    have hstep : classifyStep E g A reg a = classifyStep E g L reg a := by
      unfold classifyStep; rw [hsame a List.mem_cons_self]
    obtain ⟨i1, i2, i3⟩ := ih hnd.2 (by
        intro f hf hn
        apply hout f (List.mem_cons_of_mem _ hf)
        intro hm
        rcases List.mem_cons.mp hm with rfl | hm
        · exact ha2 hf
        · exact hn hm)
      (fun f hf => hsame f (List.mem_cons_of_mem _ hf)) (classifyStep E g L reg a).1
    rw [classifyFrom_cons, classifyFrom_cons, hstep]
    refine ⟨?_, ?_, ?_⟩
    · rw [filterMap_cons_toList, filterMap_cons_toList, i1]
    · rw [filterMap_cons_toList, filterMap_cons_toList, i2]
    · intro b; rw [List.foldl_cons, List.foldl_cons, i3]


theorem filter_unreadable_regular (l : List FileInfo) (h : ∀ f ∈ l, f.mode = .regular) :
    l.filter goModUnreadable = [] := by
  apply List.filter_eq_nil_iff.mpr
  intro f hf
  simp [goModUnreadable, h f hf]

theorem notVendored_goModName (g : Bool) : isVendoredPackage goModName g = false := by
  cases g <;> decide

theorem goVers_listed (g : Bool) (A L : List FileInfo) (hnd : (A.map (·.path)).Nodup) (hsl : L.Sublist A)
    (hout : ∀ f ∈ A, f ∉ L → OmittedIn g A f) : goVers L = goVers A := by
  refine goVers_congr A L hnd (hnd.sublist (hsl.map _)) (fun f hr => ⟨fun h => hsl.subset h, fun h => ?_⟩)
  -- the file `go.mod` is neither vendored nor below a directory: the walk does not leave it out
  have hp := isRootGoMod_path f hr
  apply Classical.byContradiction
  intro hn
  rcases hout f h hn with hv | ⟨d, hd, _⟩
  · rw [hp, notVendored_goModName] at hv; cases hv
  · rw [hp] at hd
    have : dirPrefixes goModName = [] := by decide
    rw [this] at hd; cases hd

/-- C17 `dir_vs_list`, on the state of the list check -/
theorem dir_vs_list_state (E : Env) (g : Bool) (t : List (Bytes × Node)) (hw : WFChildren t)
    (hg : g = goVers (allFiles t)) :
    (checkFilesSt E (listFilesInDir g t).files (goVers (listFilesInDir g t).files)).validFiles =
      (checkFilesSt E (allFiles t) (goVers (allFiles t))).validFiles ∧
    (checkFilesSt E (listFilesInDir g t).files (goVers (listFilesInDir g t).files)).cf.valid =
      (checkFilesSt E (allFiles t) (goVers (allFiles t))).cf.valid ∧
    (checkFilesSt E (listFilesInDir g t).files (goVers (listFilesInDir g t).files)).cf.invalid =
      (checkFilesSt E (allFiles t) (goVers (allFiles t))).cf.invalid ∧
    (checkFilesSt E (listFilesInDir g t).files (goVers (listFilesInDir g t).files)).cf.sizeError =
      (checkFilesSt E (allFiles t) (goVers (allFiles t))).cf.sizeError := by
  obtain ⟨hnd, hfacts⟩ := allFiles_facts t hw
  obtain ⟨hsl, hLnv⟩ := walkChildren_sub g t []
  have hout : ∀ f ∈ allFiles t, f ∉ (listFilesInDir g t).files → OmittedIn g (allFiles t) f :=
    walkChildren_left_out g t [] hw
  have hanc : ∀ f ∈ (listFilesInDir g t).files, ∀ g0 ∈ allFiles t, isVendoredPackage g0.path g = false →
      (pathSplit g0.path).1 ∈ dirPrefixes f.path → g0 ∈ (listFilesInDir g t).files :=
    walkChildren_ancestors g t [] hw
  change (listFilesInDir g t).files.Sublist (allFiles t) at hsl
  change ∀ f ∈ (listFilesInDir g t).files, isVendoredPackage f.path g = false at hLnv
  have hgv := goVers_listed g _ _ hnd hsl hout
  rw [hgv, ← hg]
  generalize hA : allFiles t = A at *
  generalize hL : (listFilesInDir g t).files = L at *
  have hndL : (L.map (·.path)).Nodup := hnd.sublist (hsl.map _)
  have hsame : ∀ f ∈ L, earlyRule E g A f = earlyRule E g L f := fun f hf =>
    earlyRule_listed E g A L f (belowModuleRoot_listed g A L (fun x hx => hsl.subset hx) hLnv hanc f hf)
  have hearly : ∀ f ∈ A, f ∉ L → ∃ r, earlyRule E g A f = some (.omitted r) := fun f hf hn =>
    earlyRule_of_omittedIn E g A f (hfacts f hf).1 (hfacts f hf).2.1 (hfacts f hf).2.2 (hout f hf hn)
  obtain ⟨c1, c2, c3⟩ := classifyFrom_sublist E g A L L A hsl hnd hearly hsame []
  obtain ⟨a1, a2, _, a4, a5⟩ := checkFilesSt_spec E A g hnd
  obtain ⟨b1, b2, _, b4, b5⟩ := checkFilesSt_spec E L g hndL
  have hfA := filter_unreadable_regular A (fun f hf => (hfacts f hf).1)
  have hfL := filter_unreadable_regular L (fun f hf => (hfacts f (hsl.subset hf)).1)
  unfold classifyAll at a1 a2 a4 a5 b1 b2 b4 b5
  refine ⟨by rw [a1, b1, c1], by rw [a2, b2, c1], by rw [a4, b4, c2, hfA, hfL], ?_⟩
  have := c3 ((MaxZipFile : Int), false)
  rw [← a5, ← b5] at this
  exact (congrArg Prod.snd this).symm


/-- C17 `dir_vs_list` -/
theorem dir_vs_list (E : Env) (mpath mvers : Bytes) (g : Bool) (t : List (Bytes × Node)) (hw : WFChildren t)
    (hg : g = goVers (allFiles t)) :
    (checkDir E g t).valid = (checkFilesV E (allFiles t)).valid ∧
    (checkDir E g t).invalid = (checkFilesV E (allFiles t)).invalid ∧
    (checkDir E g t).sizeError = (checkFilesV E (allFiles t)).sizeError ∧
    (checkDir E g t).err = (checkFilesV E (allFiles t)).err ∧
    createFromDir E mpath mvers g t = create E mpath mvers (allFiles t) := by
  obtain ⟨s1, s2, s3, s4⟩ := dir_vs_list_state E g t hw hg
  have herr : (checkFilesSt E (listFilesInDir g t).files (goVers (listFilesInDir g t).files)).cf.err =
      (checkFilesSt E (allFiles t) (goVers (allFiles t))).cf.err := by
    unfold CheckedFiles.err; rw [s3, s4]
  refine ⟨s2, s3, s4, ?_, ?_⟩
  · show CheckedFiles.err { (checkFilesSt E (listFilesInDir g t).files (goVers (listFilesInDir g t).files)).cf with
        omitted := _ } = _
    unfold CheckedFiles.err
    show (if (checkFilesSt E (listFilesInDir g t).files (goVers (listFilesInDir g t).files)).cf.sizeError = true then _
      else if (!(checkFilesSt E (listFilesInDir g t).files (goVers (listFilesInDir g t).files)).cf.invalid.isEmpty) = true
        then _ else _) = _
    rw [s3, s4]; rfl
  · unfold createFromDir
    rw [create_eq, create_eq, herr, s1]

end ModVerif.Proofs.ZipA
