/-
  Tie proof, zip/zip.go `Create` (Generated/FnZip.lean: `Create`, closure `Create_addFile`, loop `Create_loop1`) and
  `CheckedFiles.Err` against the hand model `Zip.create` / `Zip.addFiles` / `Zip.CheckedFiles.err` (Model/Zip.lean).

  * errors: a model `CreateErr` is the text `createErrText bad c` (`bad` = the text of the module/version rejection, which
    depends on the instantiation of `module.CanonicalVersion` / `module.Check`: `badModuleText`); `Create` wraps every
    error as `zipError|…` (`embCreateErr`);
  * the world (archive/zip writer, `GoRt.ZipW`) after the loop over `validFiles` is `writtenW pfx validFiles`: one pair
    (name, content) per file until the first failure; for a file that is larger than declared the truncated content
    (`size + 1` bytes, what the `io.LimitedReader` lets through) has been written.
-/
import ModVerif.Generated.FnZip
import ModVerif.Model.Zip
import ModVerif.Drv.GenZip
import ModVerif.Proofs.GoRtLemmas
import ModVerif.Tie.FnZipCheckFiles
import ModVerif.Proofs.ZipCreate
import ModVerif.Proofs.ZipShape
namespace ModVerif.TieFnZipIOCreate
open ModVerif ModVerif.GoRt ModVerif.GoRtZip ModVerif.TieFnZip ModVerif.TieFnZipCf
open ModVerif.Generated.Zip (File FileError CheckedFiles)
open ModVerif.Drv.GenZip (toGFile)

/-- text of `CheckedFiles.Err()`: the size error itself, or the `FileErrorList` of the invalid files (by its type name) -/
def errKindText : Zip.ErrKind → String
  | .size => sizeErrorText
  | .invalid => "FileErrorList"

/-- the text `Create` reports when the module path/version is rejected: the format literal of the canonical-version
    error, or whatever `module.Check` returned -/
def badModuleText (canonicalVersion : Bytes → Bytes) (moduleCheck : Bytes → Bytes → Option String) (p v : Bytes) : String :=
  if canonicalVersion v ≠ v then "version %q is not canonical (should be %q)" else (moduleCheck p v).getD ""

/-- inner text of a model `CreateErr` (`bad` = text of the module rejection) -/
def createErrText (bad : String) : Zip.CreateErr → String
  | .badModule => bad
  | .size => sizeErrorText
  | .invalid => "FileErrorList"
  | .contentLarger => "file %q is larger than declared size"
  | .nameTooLong => "zip: FileHeader.Name too long"

/-- the error value `Create` returns for a model error: wrapped as a `zipError` -/
def embCreateErr (bad : String) (c : Zip.CreateErr) : Option String := some ("zipError|" ++ createErrText bad c)

def embCreateRes (bad : String) : Except Zip.CreateErr (List Zip.Entry) → Option String
  | .ok _ => none
  | .error c => embCreateErr bad c

/-- an entry as the writer world records it -/
def entryPair (e : Zip.Entry) : Bytes × Bytes := (e.name, e.content)

/-- what has been written to the archive when the loop over the valid files ends or stops at the first failure -/
def writtenW (pfx : Bytes) : List Zip.FileInfo → ZipW
  | [] => []
  | f :: rest =>
    if (pfx ++ f.path).length > 65535 then []
    else if (f.content.length : Int) ≥ f.size + 1 then [(pfx ++ f.path, f.content.take (f.size + 1).toNat)]
    else (pfx ++ f.path, f.content) :: writtenW pfx rest

/-- the writer world when `Create` returns (started from the empty world) -/
def createWorld (E : Zip.Env) (p v : Bytes) (files : List Zip.FileInfo) : ZipW :=
  if !E.modOK p v then []
  else match (Zip.checkFilesSt E files (Zip.goVers files)).cf.err with
    | some _ => []
    | none => writtenW (Zip.zipPrefix p v) (Zip.checkFilesSt E files (Zip.goVers files)).validFiles

theorem writtenW_of_ok (pfx : Bytes) : ∀ (l : List Zip.FileInfo) (es : List Zip.Entry),
    Zip.addFiles pfx l = .ok es → writtenW pfx l = es.map entryPair := by
  intro l
  induction l with
  | nil => intro es h; simp [Zip.addFiles] at h; subst h; rfl
  | cons f t ih =>
    intro es h
    unfold Zip.addFiles at h
    by_cases h1 : (pfx ++ f.path).length > 65535
    · rw [if_pos h1] at h; cases h
    by_cases h2 : (f.content.length : Int) ≥ f.size + 1
    · rw [if_neg h1, if_pos h2] at h; cases h
    rw [if_neg h1, if_neg h2] at h
    cases hr : Zip.addFiles pfx t with
    | error e => rw [hr] at h; cases h
    | ok es' =>
      rw [hr] at h
      injection h with h
      subst h
      unfold writtenW
      rw [if_neg h1, if_neg h2, ih es' hr]
      rfl

section
variable {cv : Bytes → Bytes} {cfp : Bytes → Option String} {ef : Bytes → Bytes → Bool}
  {mc : Bytes → Bytes → Option String} {pgv : Bytes → Bytes → Bytes} {sf : Int → Int}
  {tl : Bytes → Bytes} {vc : Bytes → Bytes → Int} {vl : Bytes → Bytes}

theorem zwWrite_concat (u : Unit) (data : Bytes) (w : ZipW) (n c : Bytes) :
    zwWrite u data (w ++ [(n, c)]) = (((data.length : Int), none), w ++ [(n, c ++ data)]) := by
  unfold zwWrite
  simp

theorem addFile_eq (fuel : Nat) (pfx : Bytes) (f : Zip.FileInfo) (w : ZipW) :
    Generated.Zip.Create_addFile cv cfp ef mc pgv sf tl vc vl fuel () pfx (toGFile f) f.path f.size w =
      .ok (if (pfx ++ f.path).length > 65535 then (some "zip: FileHeader.Name too long", w)
        else if (f.content.length : Int) ≥ f.size + 1 then
          (some "file %q is larger than declared size", w ++ [(pfx ++ f.path, f.content.take (f.size + 1).toNat)])
        else (none, w ++ [(pfx ++ f.path, f.content)])) := by
  unfold Generated.Zip.Create_addFile
  simp only [toGFile_Open, Option.isNone_none, Bool.not_true, Bool.false_eq_true, if_false]
  unfold zwCreate
  by_cases h1 : (pfx ++ f.path).length > 65535
  · simp only [h1, if_true]
    rfl
  simp only [h1, if_false, Option.isNone_none, Bool.not_true, Bool.false_eq_true]
  unfold limRead
  by_cases hN : f.size + 1 ≤ 0
  · have h2 : (f.content.length : Int) ≥ f.size + 1 := by omega
    have h0 : (f.size + 1).toNat = 0 := by omega
    simp only [hN, if_true, zwWrite_concat, Option.isNone_none, Bool.not_true, Bool.false_eq_true, if_false,
      decide_true, h2, h0, List.take_zero, List.append_nil]
    rfl
  simp only [hN, if_false, zwWrite_concat, Option.isNone_none, Bool.not_true, Bool.false_eq_true, List.nil_append]
  by_cases h2 : (f.content.length : Int) ≥ f.size + 1
  · have : (f.size + 1 - ((List.take (f.size + 1).toNat f.content).length : Int)) ≤ 0 := by
      rw [List.length_take]; omega
    simp only [this, decide_true, if_true, h2]
    rfl
  · have : ¬ (f.size + 1 - ((List.take (f.size + 1).toNat f.content).length : Int)) ≤ 0 := by
      rw [List.length_take]; omega
    have ht : List.take (f.size + 1).toNat f.content = f.content := by
      apply List.take_of_length_le; omega
    rw [ht] at this
    simp only [this, decide_false, Bool.false_eq_true, if_false, h2, ht]
    rfl

/-- outcome of the loop from a given position: the rest of the files `l`, the world `w` so far; `n` = number of files -/
def loopOut (bad : String) (pfx : Bytes) (n : Nat) (l : List Zip.FileInfo) (w : ZipW) :
    Ctl (Option String × ZipW) (Int × ZipW) :=
  match Zip.addFiles pfx l with
  | .ok _ => Ctl.next ((n : Int), w ++ writtenW pfx l)
  | .error c => Ctl.ret (embCreateErr bad c, w ++ writtenW pfx l)

theorem loopOut_nil (bad : String) (pfx : Bytes) (n : Nat) (w : ZipW) :
    loopOut bad pfx n [] w = Ctl.next ((n : Int), w) := by
  simp [loopOut, Zip.addFiles, writtenW]

theorem loopOut_long (bad : String) (pfx : Bytes) (n : Nat) (f : Zip.FileInfo) (t : List Zip.FileInfo) (w : ZipW)
    (h1 : (pfx ++ f.path).length > 65535) :
    loopOut bad pfx n (f :: t) w = Ctl.ret (some "zipError|zip: FileHeader.Name too long", w) := by
  unfold loopOut
  rw [Zip.addFiles, if_pos h1, writtenW, if_pos h1]
  simp [embCreateErr, createErrText]

theorem loopOut_larger (bad : String) (pfx : Bytes) (n : Nat) (f : Zip.FileInfo) (t : List Zip.FileInfo) (w : ZipW)
    (h1 : ¬ (pfx ++ f.path).length > 65535) (h2 : (f.content.length : Int) ≥ f.size + 1) :
    loopOut bad pfx n (f :: t) w = Ctl.ret (some "zipError|file %q is larger than declared size",
      w ++ [(pfx ++ f.path, f.content.take (f.size + 1).toNat)]) := by
  unfold loopOut
  rw [Zip.addFiles, if_neg h1, if_pos h2, writtenW, if_neg h1, if_pos h2]
  simp [embCreateErr, createErrText]

theorem loopOut_next (bad : String) (pfx : Bytes) (n : Nat) (f : Zip.FileInfo) (t : List Zip.FileInfo) (w : ZipW)
    (h1 : ¬ (pfx ++ f.path).length > 65535) (h2 : ¬ (f.content.length : Int) ≥ f.size + 1) :
    loopOut bad pfx n (f :: t) w = loopOut bad pfx n t (w ++ [(pfx ++ f.path, f.content)]) := by
  unfold loopOut
  rw [Zip.addFiles, if_neg h1, if_neg h2, writtenW, if_neg h1, if_neg h2]
  cases Zip.addFiles pfx t <;> simp

theorem loop1_from (bad : String) (pfx : Bytes) : ∀ (rest done : List Zip.FileInfo) (fuel : Nat) (w : ZipW),
    rest.length + 1 ≤ fuel →
    Generated.Zip.Create_loop1 cv cfp ef mc pgv sf tl vc vl ((done ++ rest).map toGFile) ((done ++ rest).map (·.size))
        () pfx fuel (done.length : Int) w =
      .ok (loopOut bad pfx (done ++ rest).length rest w) := by
  intro rest
  induction rest with
  | nil =>
    intro done fuel w hf
    obtain ⟨fuel, rfl⟩ : ∃ k, fuel = k + 1 := ⟨fuel - 1, by omega⟩
    rw [Generated.Zip.Create_loop1]
    simp only [List.append_nil, not_lt_len_map, Bool.false_eq_true, if_false, loopOut_nil]
    rfl
  | cons f rest ih =>
    intro done fuel w hf
    obtain ⟨fuel, rfl⟩ : ∃ k, fuel = k + 1 := ⟨fuel - 1, by omega⟩
    simp only [List.length_cons] at hf
    rw [Generated.Zip.Create_loop1]
    simp only [lt_len_map_mid, if_true, idxL_map_mid, bind_ok, toGFile_Path, addFile_eq]
    by_cases h1 : (pfx ++ f.path).length > 65535
    · rw [loopOut_long bad pfx _ f rest w h1]
      simp only [h1, if_true]
      rfl
    by_cases h2 : (f.content.length : Int) ≥ f.size + 1
    · rw [loopOut_larger bad pfx _ f rest w h1 h2]
      simp only [h1, if_false, h2, if_true]
      rfl
    rw [loopOut_next bad pfx _ f rest w h1 h2]
    simp only [h1, if_false, h2, Option.isNone_none, Bool.not_true, Bool.false_eq_true]
    have e : done ++ f :: rest = (done ++ [f]) ++ rest := by simp
    have hl : (done.length : Int) + 1 = ((done ++ [f]).length : Int) := by simp
    rw [e, hl]
    exact ih (done ++ [f]) fuel _ (by omega)

end

/-! ### fuel: `validFiles` is no longer than the input -/

open ModVerif.Zip ModVerif.Proofs.Zip in
theorem mainPass_validFiles_length (E : Zip.Env) (ge124 : Bool) (hg : List Bytes) :
    ∀ (l : List Zip.FileInfo) (s : Zip.St),
      (Zip.mainPass E ge124 hg s l).validFiles.length ≤ s.validFiles.length + l.length := by
  intro l
  induction l with
  | nil => intro s; simp [Zip.mainPass]
  | cons f t ih =>
    intro s
    simp only [Zip.mainPass, List.foldl_cons]
    have hsh := stepFile_shape E ge124 hg s f
    generalize Zip.stepFile E ge124 hg s f = s' at hsh ⊢
    have := ih s'
    simp only [Zip.mainPass] at this
    cases hsh with
    | err s0 h om r =>
      rw [(addError_valid s0 f.path om r).2, h.validFiles] at this
      simp only [List.length_cons]; omega
    | valid s0 h hreg =>
      have e : (s0.pushValid f).validFiles = s0.validFiles ++ [f] := rfl
      rw [e, h.validFiles, List.length_append] at this
      simp only [List.length_cons, List.length_nil] at this ⊢; omega

theorem validFiles_length_le (E : Zip.Env) (ge124 : Bool) (files : List Zip.FileInfo) :
    (Zip.checkFilesSt E files ge124).validFiles.length ≤ files.length := by
  unfold Zip.checkFilesSt
  have h0 : (Zip.prePass files).st.validFiles = [] := Proofs.Zip.prePass_validFiles files {} rfl
  have := mainPass_validFiles_length E ge124 (Zip.prePass files).haveGoMod files (Zip.prePass files).st
  rw [h0] at this
  simpa using this

end ModVerif.TieFnZipIOCreate
