/-
  Every go.mod edit operation of the model, on the typed lists, is the specification's `step` (`Refines`): if the
  model returns `.ok e'` then `stepOk` holds and `absLive e'.f` is `step (absLive e.f) op` (equal, or `Rel`ated for
  the bulk setters and for retraction rationales); if the model returns a (non-panic) error, `stepOk` is false.
  The validity predicates of the specification are instantiated by the model's own checks (`mV`).
-/
import ModVerif.Proofs.EditRefineAbs
import ModVerif.Proofs.EditRefineRel
namespace ModVerif.Modfile.Edit
open ModVerif ModVerif.Modfile ModVerif.EditSpec

/-- the validity checks the Go functions perform, as the model computes them -/
def mV : Validity := ⟨goVersionRE, toolchainRE, checkCanonicalVersion⟩

theorem Rel.of_eq {f g : AbsFile} (h : f = g) : Rel f g := h ▸ Rel.refl f

/-- the result `r` of an operation on the state `e` against the step `op` of the specification, for a state type with
    an abstraction and an invariant: success ⇒ the step is enabled, the new abstract file is the specified one and
    the invariant holds again; a returned error ⇒ the step is not enabled -/
def Refines {σ : Type} (abs : σ → AbsFile) (I : σ → Prop) (e : σ) (r : Except EditErr σ) (op : EditSpec.Op) : Prop :=
  (∀ e', r = .ok e' → stepOk mV (abs e) op = true ∧ Rel (abs e') (step mV (abs e) op) ∧ I e') ∧
  (∀ err, r = .error err → err.isReturned = true → stepOk mV (abs e) op = false)

section refines
variable {σ : Type} {abs : σ → AbsFile} {I : σ → Prop} {e e1 : σ} {op : EditSpec.Op}

theorem Refines.ok (hok : stepOk mV (abs e) op = true) (h : abs e1 = step mV (abs e) op) (hi : I e1) :
    Refines abs I e (.ok e1) op :=
  ⟨fun _ he => by cases he; exact ⟨hok, Rel.of_eq h, hi⟩, fun _ he => nomatch he⟩

theorem Refines.panic {err : EditErr} (h : err.isReturned = false) : Refines abs I e (.error err) op :=
  ⟨fun _ he => (nomatch he), fun _ he hr => by cases he; rw [h] at hr; cases hr⟩

theorem Refines.error {err : EditErr} (h : stepOk mV (abs e) op = false) : Refines abs I e (.error err) op :=
  ⟨fun _ he => (nomatch he), fun _ _ _ => h⟩

theorem Refines.ite {c : Prop} [Decidable c] {r : Except EditErr σ} (h : c → Refines abs I e r op) :
    Refines abs I e (if c then r else .error .nilDeref) op := by
  split
  · exact h ‹c›
  · exact Refines.panic rfl

end refines

theorem TInv.of_same {e e' : EFile} (h : TInv e) (hX : e'.f.exclude = e.f.exclude) (hR : e'.f.replace = e.f.replace)
    (hT : e'.f.tool = e.f.tool) (hn : e.next ≤ e'.next) : TInv e' := by
  refine TInv.of_sublist h (by rw [hX]; exact h.wfX) (by rw [hR]; exact h.wfR) (by rw [hT]; exact h.wfT) ?_ hn
  unfold idsOf; rw [hX, hR, hT]; exact List.Sublist.refl _

abbrev RefinesM (e : EFile) (r : Except EditErr EFile) (op : EditSpec.Op) : Prop :=
  Refines (fun e => absLive e.f) TInv e r op

theorem addModuleStmt_refines (e : EFile) (p : Bytes) (h : TInv e) : RefinesM e (.ok (addModuleStmt e p)) (.addModule p) := by
  unfold addModuleStmt
  cases hm : e.f.module with
  | none => exact Refines.ok rfl (by simp [absLive, step, stepOk]) (h.of_same rfl rfl rfl (Nat.le_succ _))
  | some m => exact Refines.ok rfl (by simp [absLive, step, stepOk]) (h.of_same rfl rfl rfl (Nat.le_refl _))

theorem addGoStmt_refines (e : EFile) (v : Bytes) (h : TInv e) : RefinesM e (addGoStmt e v) (.addGo v) := by
  unfold addGoStmt
  by_cases hv : goVersionRE v = true
  · simp only [hv, Bool.not_true, Bool.false_eq_true, if_false]
    cases hg : e.f.go with
    | none => exact Refines.ok hv (by simp [absLive, step, stepOk, mV, hv]) (h.of_same rfl rfl rfl (Nat.le_succ _))
    | some g => exact Refines.ok hv (by simp [absLive, step, stepOk, mV, hv]) (h.of_same rfl rfl rfl (Nat.le_refl _))
  · simp only [Bool.not_eq_true] at hv
    simp only [hv, Bool.not_false, if_true]
    exact Refines.error hv

theorem dropGoStmt_refines (e : EFile) (h : TInv e) : RefinesM e (.ok (dropGoStmt e)) .dropGo := by
  unfold dropGoStmt
  cases hg : e.f.go with
  | none => exact Refines.ok rfl (by simp [absLive, step, stepOk, hg]) h
  | some g => exact Refines.ok rfl (by simp [absLive, step, stepOk]) (h.of_same rfl rfl rfl (Nat.le_refl _))

theorem addToolchainStmt_refines (e : EFile) (n : Bytes) (h : TInv e) :
    RefinesM e (addToolchainStmt e n) (.addToolchain n) := by
  unfold addToolchainStmt
  by_cases hv : toolchainRE n = true
  · simp only [hv, Bool.not_true, Bool.false_eq_true, if_false]
    cases hg : e.f.toolchain with
    | none => exact Refines.ok hv (by simp [absLive, step, stepOk, mV, hv]) (h.of_same rfl rfl rfl (Nat.le_succ _))
    | some g => exact Refines.ok hv (by simp [absLive, step, stepOk, mV, hv]) (h.of_same rfl rfl rfl (Nat.le_refl _))
  · simp only [Bool.not_eq_true] at hv
    simp only [hv, Bool.not_false, if_true]
    exact Refines.error hv

theorem dropToolchainStmt_refines (e : EFile) (h : TInv e) : RefinesM e (.ok (dropToolchainStmt e)) .dropToolchain := by
  unfold dropToolchainStmt
  cases hg : e.f.toolchain with
  | none => exact Refines.ok rfl (by simp [absLive, step, stepOk, hg]) h
  | some g => exact Refines.ok rfl (by simp [absLive, step, stepOk]) (h.of_same rfl rfl rfl (Nat.le_refl _))

theorem addGodebugRes_abs (syn : FileSyntax) (gd : List Godebug) (next : Nat) {k : Bytes} (v : Bytes) (hk : k ≠ []) :
    liveAbs liveG aG (addGodebugRes syn gd next k v).2.1
      = setKeyed (fun e => e.1 == k) (fun _ => (k, v)) (k, v) (liveAbs liveG aG gd) :=
  liveAbs_setKeyed (R := addGodebugRes syn gd next k v) rfl (fun _ _ => rfl) (fun x hx => ne_nil_of_beq hk hx)
    (fun x hx => ne_nil_of_beq hk hx) (fun x hx => by simp only [aG]; rw [eq_of_beq hx]) (ne_nil_live hk)

theorem addGodebug_refines (e : EFile) (k v : Bytes) (hk : k ≠ []) (hi : TInv e) :
    RefinesM e (addGodebug e k v) (.addGodebug k v) := by
  rw [addGodebug_eq]
  exact Refines.ite fun _ => Refines.ok rfl (by simp [absLive, step, stepOk, addGodebugRes_abs _ _ _ v hk])
    (hi.of_same rfl rfl rfl (setKeyedRes_next ..))

theorem dropGodebug_refines (e : EFile) (k : Bytes) (hi : TInv e) : RefinesM e (dropGodebug e k) (.dropGodebug k) := by
  rw [dropGodebug_eq]
  exact Refines.ite fun _ => Refines.ok rfl (by simp [absLive, step, stepOk, dropGodebug_abs])
    (hi.of_same rfl rfl rfl (Nat.le_refl _))

theorem addNewRequire_abs (e : EFile) (p v : Bytes) (i : Bool) (hp : p ≠ []) :
    absLive (addNewRequire e p v i).f = { absLive e.f with require := (absLive e.f).require ++ [⟨p, v, i⟩] } := by
  simp only [addNewRequire, absLive, liveAbs_snoc, liveRq, aRq, ne_nil_live hp]

theorem addNewRequire_tinv (e : EFile) (p v : Bytes) (i : Bool) (hi : TInv e) : TInv (addNewRequire e p v i) :=
  hi.of_same rfl rfl rfl (Nat.le_succ _)

theorem addNewRequire_refines (e : EFile) (p v : Bytes) (i : Bool) (hp : p ≠ []) (hi : TInv e) :
    RefinesM e (.ok (addNewRequire e p v i)) (.addNewRequire p v i) :=
  Refines.ok rfl (addNewRequire_abs e p v i hp) (addNewRequire_tinv e p v i hi)

theorem addRequire_refines (e : EFile) (p v : Bytes) (hp : p ≠ []) (hi : TInv e) :
    RefinesM e (addRequire e p v) (.addRequire p v) := by
  rw [addRequire_eq]
  have hs : liveAbs liveRq aRq (addRequireRes e p v).2.1
      = setKeyed (fun r => r.path == p) (fun r => { r with vers := v }) ⟨p, v, false⟩ (liveAbs liveRq aRq e.f.require) :=
    liveAbs_setKeyed (R := addRequireRes e p v) rfl (fun _ _ => rfl) (fun x hx => ne_nil_of_beq hp hx)
      (fun x hx => ne_nil_of_beq hp hx) (fun _ _ => rfl) (ne_nil_live hp)
  exact Refines.ite fun _ => Refines.ok rfl (by simp [absLive, step, stepOk, hs]) (hi.of_same rfl rfl rfl (setKeyedRes_next ..))

theorem dropRequire_refines (e : EFile) (p : Bytes) (hi : TInv e) : RefinesM e (dropRequire e p) (.dropRequire p) := by
  rw [dropRequire_eq]
  exact Refines.ite fun _ => Refines.ok rfl (by simp [absLive, step, stepOk, dropRequire_abs])
    (hi.of_same rfl rfl rfl (Nat.le_refl _))

theorem pair_beq_comm (a b c d : Bytes) : ((a, b) == (c, d)) = (c == a && d == b) := by
  rw [Bool.eq_iff_iff]
  simp only [beq_iff_eq, Bool.and_eq_true, Prod.mk.injEq]
  constructor <;> rintro ⟨rfl, rfl⟩ <;> exact ⟨rfl, rfl⟩

theorem exclude_contains (l : List Exclude) (p v : Bytes) (hp : p ≠ []) :
    (liveAbs liveX aX l).contains (p, v) = l.any (fun x => x.mod.path == p && x.mod.version == v) := by
  rw [List.contains_eq_any_beq]
  refine (liveAbs_any liveX aX (fun x _ => ?_) (fun x hx => ?_) l)
  · simp only [aX]; exact pair_beq_comm _ _ _ _
  · simp only [Bool.and_eq_true] at hx; exact ne_nil_of_beq hp hx.1

theorem TInv.append {e e' : EFile} (h : TInv e) (hn : e'.next = e.next + 1)
    (wfX : IdWF liveX (·.lineId) e'.f.exclude) (wfR : IdWF liveRp (·.lineId) e'.f.replace)
    (wfT : IdWF liveT (·.lineId) e'.f.tool) (hids : (idsOf e'.f).Perm (e.next :: idsOf e.f)) : TInv e' :=
  TInv.of_sublist_fresh h wfX wfR wfT _ (List.Sublist.refl _) hids (by omega)

theorem addExclude_refines (e : EFile) (p v : Bytes) (hp : p ≠ []) (hi : TInv e) :
    RefinesM e (addExclude e p v) (.addExclude p v) := by
  unfold addExclude
  by_cases hv : checkCanonicalVersion p v = true
  · simp only [hv, Bool.not_true, Bool.false_eq_true, if_false]
    have hc := exclude_contains e.f.exclude p v hp
    by_cases hany : e.f.exclude.any (fun x => x.mod.path == p && x.mod.version == v) = true
    · rw [if_pos hany]
      rw [hany] at hc
      exact Refines.ok hv (by simp only [step, stepOk, mV, hv, absLive, hc]; rfl) hi
    · rw [if_neg hany]
      rw [Bool.eq_false_iff.2 hany] at hc
      refine Refines.ok hv ?_ ?_
      · simp only [step, stepOk, mV, hv, absLive, hc, liveAbs_snoc, liveX, aX, ne_nil_live hp]; rfl
      · refine hi.append rfl (IdWF_append hi.wfX (IdWF_single (ne_nil_live hp) (Nat.ne_of_gt hi.pos))) hi.wfR hi.wfT ?_
        simp only [idsOf, liveIds_snoc, liveX, ne_nil_live hp, List.append_assoc]
        exact List.perm_middle
  · simp only [Bool.not_eq_true] at hv
    simp only [hv, Bool.not_false, if_true]
    exact Refines.error hv

theorem dropExclude_refines (e : EFile) (p v : Bytes) (hi : TInv e) : RefinesM e (dropExclude e p v) (.dropExclude p v) := by
  rw [dropExclude_eq]
  exact Refines.ite fun _ => Refines.ok rfl (by simp [absLive, step, stepOk, dropExclude_abs])
    (TInv.of_sublist hi (IdWF_clearM hi.wfX) hi.wfR hi.wfT ((liveIds_clearM _).append (List.Sublist.refl _)) (Nat.le_refl _))

/-! ### replace (shared by go.mod and go.work) -/

theorem replaceMatch_live {op ov : Bytes} (hop : op ≠ []) (x : Replace)
    (hx : (x.old.path == op && (ov.isEmpty || x.old.version == ov)) = true) : liveRp x = true := by
  simp only [Bool.and_eq_true] at hx
  exact ne_nil_of_beq hop hx.1

theorem addReplaceRes_abs (syn : FileSyntax) (rp : List Replace) (next : Nat) {op : Bytes} (ov np nv : Bytes) (hop : op ≠ [])
    (hnext : next ≠ 0) (hwf : IdWF liveRp (·.lineId) rp) :
    liveAbs liveRp aRp (addReplaceRes syn rp next op ov np nv).2.1
      = setKeyed (replMatch op ov) (fun _ => ⟨op, ov, np, nv⟩) ⟨op, ov, np, nv⟩ (liveAbs liveRp aRp rp) ∧
    IdWF liveRp (·.lineId) (addReplaceRes syn rp next op ov np nv).2.1 ∧
    (((addReplaceRes syn rp next op ov np nv).2.2 = next ∧
        (liveIds liveRp (·.lineId) (addReplaceRes syn rp next op ov np nv).2.1).Sublist (liveIds liveRp (·.lineId) rp)) ∨
     ((addReplaceRes syn rp next op ov np nv).2.2 = next + 1 ∧
        liveIds liveRp (·.lineId) (addReplaceRes syn rp next op ov np nv).2.1 = liveIds liveRp (·.lineId) rp ++ [next])) := by
  have hs : liveAbs liveRp aRp (addReplaceRes syn rp next op ov np nv).2.1
      = setKeyed (replMatch op ov) (fun _ => ⟨op, ov, np, nv⟩) ⟨op, ov, np, nv⟩ (liveAbs liveRp aRp rp) :=
    liveAbs_setKeyed (R := addReplaceRes syn rp next op ov np nv) rfl (fun _ _ => rfl) (replaceMatch_live hop)
      (fun _ _ => ne_nil_live hop) (fun _ _ => rfl) (ne_nil_live hop)
  refine ⟨hs, ?_⟩
  unfold addReplaceRes setKeyedRes
  cases hf : rp.find? (fun r => r.old.path == op && (ov.isEmpty || r.old.version == ov)) with
  | some r =>
    exact ⟨IdWF_updFirst hwf (replaceMatch_live hop) (fun _ _ => ne_nil_live hop),
      Or.inl ⟨rfl, liveIds_updFirst rp (replaceMatch_live hop) (fun _ _ => ne_nil_live hop)⟩⟩
  | none =>
    exact ⟨IdWF_append hwf (IdWF_single (ne_nil_live hop) hnext), Or.inr ⟨rfl, liveIds_snoc liveRp _ rp (ne_nil_live hop)⟩⟩

theorem addReplace_refines (e : EFile) (op ov np nv : Bytes) (hop : op ≠ []) (hi : TInv e) :
    RefinesM e (addReplace e op ov np nv) (.addReplace op ov np nv) := by
  rw [addReplace_eq]
  obtain ⟨h1, h2, h3⟩ := addReplaceRes_abs e.f.syn e.f.replace e.next ov np nv hop (Nat.ne_of_gt hi.pos) hi.wfR
  refine Refines.ite fun _ => Refines.ok rfl (by simp [absLive, step, stepOk, h1]) ?_
  rcases h3 with ⟨hn, hs⟩ | ⟨hn, hs⟩
  · exact TInv.of_sublist hi hi.wfX h2 hi.wfT ((List.Sublist.refl _).append (hs.append (List.Sublist.refl _))) (by simp [hn])
  · refine hi.append hn hi.wfX h2 hi.wfT ?_
    simp only [idsOf, hs, List.append_assoc, List.singleton_append]
    rw [← List.append_assoc]
    exact List.perm_middle.trans (by rw [List.append_assoc])

theorem dropReplace_tinv {e : EFile} (hi : TInv e) (m : Replace → Bool) (syn : FileSyntax) :
    TInv { e with f := { e.f with replace := clearM m clearedReplace e.f.replace, syn := syn } } :=
  TInv.of_sublist hi hi.wfX (IdWF_clearM hi.wfR) hi.wfT
    ((List.Sublist.refl _).append ((liveIds_clearM _).append (List.Sublist.refl _))) (Nat.le_refl _)

theorem dropReplace_refines (e : EFile) (op ov : Bytes) (hi : TInv e) :
    RefinesM e (dropReplace e op ov) (.dropReplace op ov) := by
  rw [dropReplace_eq]
  exact Refines.ite fun _ => Refines.ok rfl (by simp [absLive, step, stepOk, dropReplace_abs]) (dropReplace_tinv hi _ _)

theorem checkCanonicalVersion_ne_nil {p v : Bytes} (h : checkCanonicalVersion p v = true) : (!v.isEmpty) = true := by
  unfold checkCanonicalVersion at h
  cases hv : v.isEmpty with
  | false => rfl
  | true => simp [hv] at h

/-- `addRetract` with the module path as a parameter -/
def addRetractP (e : EFile) (path : Bytes) (vi : VersionInterval) (rationale : Bytes) : Except EditErr EFile :=
  if !checkCanonicalVersion path vi.high then .error .invalidVersion else
  if !checkCanonicalVersion path vi.low then .error .invalidVersion else
  let tokens := if vi.low == vi.high then [B "retract", autoQuote vi.low]
    else [B "retract", [91], autoQuote vi.low, [44], autoQuote vi.high, [93]]
  let syn := addLine e.f.syn none tokens e.next
  let coms : List Comment := if rationale.isEmpty then [] else
    (splitOn 10 rationale).map fun line => { token := B "// " ++ line }
  let syn := syn.updateLine e.next fun l => { l with comments := { l.comments with before := l.comments.before ++ coms } }
  let rat := match syn.findLine e.next with
    | some l => parseDirectiveComment none l.comments
    | none => []
  .ok { f := { e.f with retract := e.f.retract ++ [{ interval := vi, rationale := rat, lineId := e.next }], syn := syn },
        next := e.next + 1 }

theorem addRetract_eq (e : EFile) (vi : VersionInterval) (why : Bytes) :
    addRetract e vi why = addRetractP e ((absLive e.f).module.getD []) vi why := by
  unfold addRetract addRetractP
  cases h : e.f.module <;> simp only [absLive, h, Option.map_none, Option.map_some, Option.getD_none, Option.getD_some] <;> rfl

theorem addRetract_refines (e : EFile) (lo hi' why : Bytes) (hi : TInv e) :
    RefinesM e (addRetract e { low := lo, high := hi' } why) (.addRetract lo hi' why) := by
  rw [addRetract_eq]
  unfold addRetractP
  by_cases h1 : checkCanonicalVersion ((absLive e.f).module.getD []) hi' = true
  · by_cases h2 : checkCanonicalVersion ((absLive e.f).module.getD []) lo = true
    · simp only [h1, h2, Bool.not_true, Bool.false_eq_true, if_false]
      have hok : stepOk mV (absLive e.f) (.addRetract lo hi' why) = true := by simp [stepOk, mV, h1, h2]
      refine ⟨fun _ he => ?_, fun _ he => nomatch he⟩
      cases he
      refine ⟨hok, ?_, hi.of_same rfl rfl rfl (Nat.le_succ _)⟩
      simp only [step, hok, Bool.not_true, Bool.false_eq_true, if_false]
      refine { Rel.refl (absLive e.f) with retract := ?_ }
      simp [absLive, liveAbs_snoc, liveRt, checkCanonicalVersion_ne_nil h2, aRt, Retr.interval]
    · simp only [Bool.not_eq_true] at h2
      simp only [h1, h2, Bool.not_true, Bool.not_false, Bool.false_eq_true, if_false, if_true]
      exact Refines.error (by simp [stepOk, mV, h2])
  · simp only [Bool.not_eq_true] at h1
    simp only [h1, Bool.not_false, if_true]
    exact Refines.error (by simp [stepOk, mV, h1])

theorem dropRetract_refines (e : EFile) (lo hi' : Bytes) (hi : TInv e) :
    RefinesM e (dropRetract e { low := lo, high := hi' }) (.dropRetract lo hi') := by
  rw [dropRetract_eq]
  exact Refines.ite fun _ => Refines.ok rfl (by simp [absLive, step, stepOk, dropRetract_abs])
    (hi.of_same rfl rfl rfl (Nat.le_refl _))

theorem tool_contains (l : List Tool) (p : Bytes) (hp : p ≠ []) :
    (liveAbs liveT aT l).contains p = l.any (fun t => t.path == p) := by
  rw [List.contains_eq_any_beq]
  exact liveAbs_any liveT aT (fun x _ => BEq.comm) (fun x hx => ne_nil_of_beq hp hx) l

theorem addTool_tinv (e : EFile) (p : Bytes) (hp : p ≠ []) (hi : TInv e) (syn : FileSyntax) :
    TInv ⟨{ e.f with tool := e.f.tool ++ [{ path := p, lineId := e.next }], syn := syn }, e.next + 1⟩ := by
  refine hi.append rfl hi.wfX hi.wfR (IdWF_append hi.wfT (IdWF_single (ne_nil_live hp) (Nat.ne_of_gt hi.pos))) ?_
  simp only [idsOf, liveIds_snoc, liveT, ne_nil_live hp, ← List.append_assoc]
  exact List.perm_append_singleton _ _

theorem addTool_refines (e : EFile) (p : Bytes) (hp : p ≠ []) (hi : TInv e) : RefinesM e (.ok (addTool e p)) (.addTool p) := by
  unfold addTool
  have hc := tool_contains e.f.tool p hp
  by_cases hany : e.f.tool.any (fun t => t.path == p) = true
  · rw [if_pos hany]
    rw [hany] at hc
    exact Refines.ok rfl (by simp only [step, stepOk, absLive, hc]; rfl) hi
  · rw [if_neg hany]
    rw [Bool.eq_false_iff.2 hany] at hc
    obtain ⟨h1, h2⟩ := sortBlocks_abs _ (addTool_tinv e p hp hi (addLine e.f.syn none [B "tool", p] e.next))
    refine Refines.ok rfl ?_ h2
    rw [h1]
    simp only [step, stepOk, absLive, hc, liveAbs_snoc, liveT, aT, ne_nil_live hp]; rfl

theorem dropTool_refines (e : EFile) (p : Bytes) (hi : TInv e) : RefinesM e (dropTool e p) (.dropTool p) := by
  rw [dropTool_eq]
  exact Refines.ite fun _ => Refines.ok rfl (by simp [absLive, step, stepOk, dropTool_abs])
    (TInv.of_sublist hi hi.wfX hi.wfR (IdWF_clearM hi.wfT)
      ((List.Sublist.refl _).append ((List.Sublist.refl _).append (liveIds_clearM _))) (Nat.le_refl _))

end ModVerif.Modfile.Edit
