/-
  Helper lemmas for Tie/FnPrint.lean: the static costs of the printer's operations on the model's tree, and the
  model-side facts the simulation needs: every operation preserves the margin, and the potential `pot M` grows by at most
  the cost of the operation (see the header of TieFnPrintB.lean).  No generated code in this file.
-/
import ModVerif.Proofs.TieFnPrintB
namespace ModVerif.TieFnPrint
open ModVerif ModVerif.Modfile

/-- whole-line comments, each followed by `newline` -/
def cLines (M : Nat) : List Modfile.Comment → Nat
  | [] => 1
  | c :: cs => (GoStrings.trimSpace c.token).length + cNewline M + 1 + cLines M cs

/-- the prologue of `expr` -/
def cBefore (M : Nat) (cs : List Modfile.Comment) : Nat := if cs.isEmpty then 0 else M + 2 + cLines M cs

def cToks : List Bytes → Nat
  | [] => 0
  | t :: ts => t.length + 1 + cToks ts

def cLine (M : Nat) (l : Modfile.Line) : Nat :=
  cBefore M l.comments.before + cToks l.token + cComs M l.comments.suffix + 2

/-- `(`, `)` and a comment block: at most one byte -/
def cParen (M : Nat) (c : Modfile.Comments) : Nat := cBefore M c.before + cComs M c.suffix + 3

def cBlockLines (M : Nat) : List Modfile.Line → Nat
  | [] => 1
  | l :: ls => cNewline M + cLine M l + 1 + cBlockLines M ls

def cBlock (M : Nat) (b : Modfile.LineBlock) : Nat :=
  cBefore M b.comments.before + cToks b.token + cParen M b.lparen.comments + cBlockLines M b.lines + cNewline M
    + cParen M b.rparen.comments + cComs M b.comments.suffix + 3

def cExpr (M : Nat) : Modfile.Expr → Nat
  | .commentBlock x => cParen M x.comments
  | .line x => cLine M x
  | .lineBlock x => cBlock M x
  | .lparen x => cParen M x.comments
  | .rparen x => cParen M x.comments

def cStmts (M : Nat) : List Modfile.Expr → Nat
  | [] => 1
  | s :: rest => cExpr M s + cNewline M + cLines M s.comments.after + cNewline M + 1 + cStmts M rest

def cFile (M : Nat) (f : Modfile.FileSyntax) : Nat := cLines M f.comments.before + cStmts M f.stmts

@[simp] theorem pot_write (M : Nat) (mp : Printer) (s : Bytes) : pot M (mp.write s) = pot M mp + s.length := by
  simp [pot]; omega
@[simp] theorem pot_writeByte (M : Nat) (mp : Printer) (c : UInt8) : pot M (mp.writeByte c) = pot M mp + 1 := by
  simp [pot]; omega
@[simp] theorem pot_tabs (M : Nat) (mp : Printer) : pot M mp.tabs = pot M mp + mp.margin := by
  simp [pot]; omega
theorem pot_trim (M : Nat) (mp : Printer) : pot M mp.trim ≤ pot M mp := by
  have := trim_length mp
  simp [pot]; omega
theorem pot_len (M : Nat) (mp : Printer) : mp.bufRev.length ≤ pot M mp := by simp [pot]

@[simp] theorem queueSuffix_margin (mp : Printer) (s : List Modfile.Comment) : (mp.queueSuffix s).margin = mp.margin := rfl
@[simp] theorem pot_queueSuffix (M : Nat) (mp : Printer) (s : List Modfile.Comment) :
    pot M (mp.queueSuffix s) = pot M mp + cComs M s := by
  simp [pot, Printer.queueSuffix, cComs_append]; omega

@[simp] theorem pot_setMargin (M : Nat) (mp : Printer) (m : Nat) : pot M { mp with margin := m } = pot M mp := rfl

@[simp] theorem commentLines_margin (cs : List Modfile.Comment) : ∀ mp : Printer, (mp.commentLines cs).margin = mp.margin := by
  induction cs with
  | nil => intro mp; rfl
  | cons c cs ih => intro mp; simp [Printer.commentLines, ih]

theorem commentLines_pot (M : Nat) (cs : List Modfile.Comment) : ∀ mp : Printer, mp.margin ≤ M →
    pot M (mp.commentLines cs) + 1 ≤ pot M mp + cLines M cs := by
  induction cs with
  | nil => intro mp hm; simp [Printer.commentLines, cLines]
  | cons c cs ih =>
    intro mp hm
    have h1 := newline_pot M (mp.write (GoStrings.trimSpace c.token)) (by simpa using hm)
    have h2 := ih (mp.write (GoStrings.trimSpace c.token)).newline (by simpa using hm)
    simp only [pot_write] at h1
    simp only [Printer.commentLines, cLines]
    omega

@[simp] theorem emitBefore_margin (mp : Printer) (cs : List Modfile.Comment) : (mp.emitBefore cs).margin = mp.margin := by
  unfold Printer.emitBefore
  split
  · rfl
  · simp only [commentLines_margin, tabs_margin]
    split <;> simp

theorem emitBefore_pot (M : Nat) (mp : Printer) (cs : List Modfile.Comment) (hm : mp.margin ≤ M) :
    pot M (mp.emitBefore cs) ≤ pot M mp + cBefore M cs := by
  unfold Printer.emitBefore cBefore
  split
  · omega
  · have ht := pot_trim M mp
    simp only []
    split
    · have := commentLines_pot M cs (mp.trim.writeByte 10).tabs (by simpa using hm)
      simp only [pot_tabs, pot_writeByte, writeByte_margin, trim_margin] at this
      omega
    · have := commentLines_pot M cs mp.trim.tabs (by simpa using hm)
      simp only [pot_tabs, trim_margin] at this
      omega

@[simp] theorem tokensAux_margin (ts : List Bytes) : ∀ (mp : Printer) (sep : Bytes),
    (mp.tokensAux ts sep).margin = mp.margin := by
  induction ts with
  | nil => intro mp sep; rfl
  | cons t ts ih => intro mp sep; simp [Printer.tokensAux, ih]

@[simp] theorem tokensAux_comment (ts : List Bytes) : ∀ (mp : Printer) (sep : Bytes),
    (mp.tokensAux ts sep).comment = mp.comment := by
  induction ts with
  | nil => intro mp sep; rfl
  | cons t ts ih => intro mp sep; simp [Printer.tokensAux, ih]

theorem tokensAux_length (ts : List Bytes) : ∀ (mp : Printer) (sep : Bytes), sep.length ≤ 1 →
    (mp.tokensAux ts sep).bufRev.length ≤ mp.bufRev.length + cToks ts := by
  induction ts with
  | nil => intro mp sep hs; simp [Printer.tokensAux, cToks]
  | cons t ts ih =>
    intro mp sep hs
    simp only [Printer.tokensAux, cToks]
    have h1 : (if Printer.noSepBefore.contains t = true then ([] : Bytes) else sep).length ≤ 1 := by
      split <;> simp [hs]
    have h2 : (if Printer.noSepAfter.contains t = true then ([] : Bytes) else [32]).length ≤ 1 := by
      split <;> simp
    have := ih ((mp.write (if Printer.noSepBefore.contains t = true then [] else sep)).write t) _ h2
    simp only [write_length] at this
    omega

@[simp] theorem tokens_margin (mp : Printer) (ts : List Bytes) : (mp.tokens ts).margin = mp.margin := by
  simp [Printer.tokens]

theorem tokens_pot (M : Nat) (mp : Printer) (ts : List Bytes) : pot M (mp.tokens ts) ≤ pot M mp + cToks ts := by
  have := tokensAux_length ts mp [] (by simp)
  simp only [pot, Printer.tokens, tokensAux_comment]
  omega

theorem length_le_cToks : ∀ ts : List Bytes, ts.length ≤ cToks ts
  | [] => Nat.le_refl _
  | t :: ts => by have := length_le_cToks ts; simp only [List.length_cons, cToks]; omega

@[simp] theorem exprCommentBlock_margin (mp : Printer) (x : Modfile.CommentBlock) :
    (mp.exprCommentBlock x).margin = mp.margin := by simp [Printer.exprCommentBlock]
@[simp] theorem exprLParen_margin (mp : Printer) (x : Modfile.LParen) : (mp.exprLParen x).margin = mp.margin := by
  simp [Printer.exprLParen]
@[simp] theorem exprRParen_margin (mp : Printer) (x : Modfile.RParen) : (mp.exprRParen x).margin = mp.margin := by
  simp [Printer.exprRParen]
@[simp] theorem exprLine_margin (mp : Printer) (x : Modfile.Line) : (mp.exprLine x).margin = mp.margin := by
  simp [Printer.exprLine]

theorem exprCommentBlock_pot (M : Nat) (mp : Printer) (x : Modfile.CommentBlock) (hm : mp.margin ≤ M) :
    pot M (mp.exprCommentBlock x) + 3 ≤ pot M mp + cParen M x.comments := by
  have := emitBefore_pot M mp x.comments.before hm
  simp only [Printer.exprCommentBlock, pot_queueSuffix, cParen]; omega

theorem exprLParen_pot (M : Nat) (mp : Printer) (x : Modfile.LParen) (hm : mp.margin ≤ M) :
    pot M (mp.exprLParen x) + 2 ≤ pot M mp + cParen M x.comments := by
  have := emitBefore_pot M mp x.comments.before hm
  simp only [Printer.exprLParen, pot_queueSuffix, pot_writeByte, cParen]; omega

theorem exprRParen_pot (M : Nat) (mp : Printer) (x : Modfile.RParen) (hm : mp.margin ≤ M) :
    pot M (mp.exprRParen x) + 2 ≤ pot M mp + cParen M x.comments := by
  have := emitBefore_pot M mp x.comments.before hm
  simp only [Printer.exprRParen, pot_queueSuffix, pot_writeByte, cParen]; omega

theorem exprLine_pot (M : Nat) (mp : Printer) (x : Modfile.Line) (hm : mp.margin ≤ M) :
    pot M (mp.exprLine x) + 2 ≤ pot M mp + cLine M x := by
  have h1 := emitBefore_pot M mp x.comments.before hm
  have h2 := tokens_pot M (mp.emitBefore x.comments.before) x.token
  simp only [Printer.exprLine, pot_queueSuffix, cLine]; omega

@[simp] theorem exprLines_margin (ls : List Modfile.Line) : ∀ mp : Printer, (mp.exprLines ls).margin = mp.margin := by
  induction ls with
  | nil => intro mp; rfl
  | cons l ls ih => intro mp; simp [Printer.exprLines, ih]

theorem exprLines_pot (M : Nat) (ls : List Modfile.Line) : ∀ mp : Printer, mp.margin ≤ M →
    pot M (mp.exprLines ls) + 1 ≤ pot M mp + cBlockLines M ls := by
  induction ls with
  | nil => intro mp hm; simp [Printer.exprLines, cBlockLines]
  | cons l ls ih =>
    intro mp hm
    have h1 := newline_pot M mp hm
    have h2 := exprLine_pot M mp.newline l (by simpa using hm)
    have h3 := ih (mp.newline.exprLine l) (by simpa using hm)
    simp only [Printer.exprLines, cBlockLines]
    omega

@[simp] theorem exprLineBlock_margin (mp : Printer) (x : Modfile.LineBlock) : (mp.exprLineBlock x).margin = mp.margin := by
  simp [Printer.exprLineBlock]

theorem exprLineBlock_pot (M : Nat) (mp : Printer) (x : Modfile.LineBlock) (hm : mp.margin + 1 ≤ M) :
    pot M (mp.exprLineBlock x) + 3 ≤ pot M mp + cBlock M x := by
  have hm0 : mp.margin ≤ M := by omega
  have h1 := emitBefore_pot M mp x.comments.before hm0
  have h2 := tokens_pot M (mp.emitBefore x.comments.before) x.token
  let p2 := ((mp.emitBefore x.comments.before).tokens x.token).writeByte 32
  have h3 := exprLParen_pot M p2 x.lparen (by simpa [p2] using hm0)
  let p3 : Printer := { p2.exprLParen x.lparen with margin := (p2.exprLParen x.lparen).margin + 1 }
  have h4 := exprLines_pot M x.lines p3 (by simpa [p3, p2] using hm)
  let p4 : Printer := { p3.exprLines x.lines with margin := (p3.exprLines x.lines).margin - 1 }
  have h5 := newline_pot M p4 (by simp [p4, p3, p2]; omega)
  have h6 := exprRParen_pot M p4.newline x.rparen (by simp [p4, p3, p2]; omega)
  have e : mp.exprLineBlock x = (p4.newline.exprRParen x.rparen).queueSuffix x.comments.suffix := rfl
  rw [e, pot_queueSuffix]
  simp only [p4, p3, p2, pot_setMargin, pot_writeByte] at h3 h4 h5 h6 ⊢
  simp only [cBlock]
  omega

@[simp] theorem expr_margin (mp : Printer) (x : Modfile.Expr) : (mp.expr x).margin = mp.margin := by
  cases x <;> simp [Printer.expr]

theorem expr_pot (M : Nat) (mp : Printer) (x : Modfile.Expr) (hm : mp.margin + 1 ≤ M) :
    pot M (mp.expr x) + 2 ≤ pot M mp + cExpr M x := by
  have hm0 : mp.margin ≤ M := by omega
  cases x with
  | commentBlock x => have := exprCommentBlock_pot M mp x hm0; simp only [Printer.expr, cExpr]; omega
  | line x => exact exprLine_pot M mp x hm0
  | lineBlock x => have := exprLineBlock_pot M mp x hm; simp only [Printer.expr, cExpr]; omega
  | lparen x => exact exprLParen_pot M mp x hm0
  | rparen x => exact exprRParen_pot M mp x hm0

/-- one iteration of the statement loop of `file` -/
def stmtStep (mp : Printer) (s : Modfile.Expr) (last : Bool) : Printer :=
  let p := match s with
    | .commentBlock x => mp.exprCommentBlock x
    | s => (mp.expr s).newline
  let p := p.commentLines s.comments.after
  if last then p else p.newline

theorem stmts_cons (mp : Printer) (s : Modfile.Expr) (rest : List Modfile.Expr) :
    mp.stmts (s :: rest) = (stmtStep mp s rest.isEmpty).stmts rest := by
  cases s <;> rfl

@[simp] theorem stmtStep_margin (mp : Printer) (s : Modfile.Expr) (last : Bool) : (stmtStep mp s last).margin = mp.margin := by
  unfold stmtStep
  cases s <;> cases last <;> simp

theorem stmtStep_pot (M : Nat) (mp : Printer) (s : Modfile.Expr) (last : Bool) (hm : mp.margin + 1 ≤ M) :
    pot M (stmtStep mp s last) + 1 ≤ pot M mp + cExpr M s + cNewline M + cLines M s.comments.after + cNewline M := by
  have hm0 : mp.margin ≤ M := by omega
  have key : ∀ q : Printer, q.margin = mp.margin → pot M q ≤ pot M mp + cExpr M s + cNewline M →
      pot M (if last then q.commentLines s.comments.after else (q.commentLines s.comments.after).newline) + 1
        ≤ pot M mp + cExpr M s + cNewline M + cLines M s.comments.after + cNewline M := by
    intro q hq hp
    have h1 := commentLines_pot M s.comments.after q (by omega)
    have h2 := newline_pot M (q.commentLines s.comments.after) (by simp; omega)
    cases last
    · simp only [Bool.false_eq_true, if_false]; omega
    · simp only [if_true]; omega
  cases s with
  | commentBlock x =>
    have := exprCommentBlock_pot M mp x hm0
    exact key (mp.exprCommentBlock x) (by simp) (by simp only [cExpr]; omega)
  | line x =>
    have h1 := expr_pot M mp (.line x) hm
    have h2 := newline_pot M (mp.expr (.line x)) (by simp; omega)
    exact key (mp.expr (.line x)).newline (by simp) (by omega)
  | lineBlock x =>
    have h1 := expr_pot M mp (.lineBlock x) hm
    have h2 := newline_pot M (mp.expr (.lineBlock x)) (by simp; omega)
    exact key (mp.expr (.lineBlock x)).newline (by simp) (by omega)
  | lparen x =>
    have h1 := expr_pot M mp (.lparen x) hm
    have h2 := newline_pot M (mp.expr (.lparen x)) (by simp; omega)
    exact key (mp.expr (.lparen x)).newline (by simp) (by omega)
  | rparen x =>
    have h1 := expr_pot M mp (.rparen x) hm
    have h2 := newline_pot M (mp.expr (.rparen x)) (by simp; omega)
    exact key (mp.expr (.rparen x)).newline (by simp) (by omega)

theorem stmts_pot (M : Nat) (ss : List Modfile.Expr) : ∀ mp : Printer, mp.margin + 1 ≤ M →
    pot M (mp.stmts ss) + 1 ≤ pot M mp + cStmts M ss := by
  induction ss with
  | nil => intro mp hm; simp [Printer.stmts, cStmts]
  | cons s rest ih =>
    intro mp hm
    have h1 := stmtStep_pot M mp s rest.isEmpty hm
    have h2 := ih (stmtStep mp s rest.isEmpty) (by simpa using hm)
    rw [stmts_cons]
    simp only [cStmts]
    omega

theorem file_pot (M : Nat) (mp : Printer) (f : Modfile.FileSyntax) (hm : mp.margin + 1 ≤ M) :
    pot M (mp.file f) + 2 ≤ pot M mp + cFile M f := by
  have h1 := commentLines_pot M f.comments.before mp (by omega)
  have h2 := stmts_pot M f.stmts (mp.commentLines f.comments.before) (by simpa using hm)
  simp only [Printer.file, cFile]
  omega

end ModVerif.TieFnPrint
