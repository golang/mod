/-
  C06, the statements with nothing but the specification on the right-hand side (`…_iff_full`): `checkModPath_iff`,
  the dead error returns of CheckPath, and `check_iff` with the single predicate `PathSpec.MajorMatches`.
-/
import ModVerif.Proofs.ModuleFullSplit
import ModVerif.Proofs.SemverGrammar
import ModVerif.Proofs.SemverCanonical
namespace ModVerif.Module
open ModVerif

theorem head_splitOn_mem (sep : UInt8) (p : Bytes) : (splitOn sep p).headD [] ∈ splitOn sep p := by
  cases h : splitOn sep p with
  | nil => exact absurd h (splitOn_ne_nil sep p)
  | cons a t => simp

theorem takeWhile_head? {α : Type} (q : α → Bool) (l : List α) (c : α)
    (h : (l.takeWhile q).head? = some c) : l.head? = some c := by
  cases l with
  | nil => simp at h
  | cons a t =>
    by_cases hq : q a = true
    · simpa [List.takeWhile, hq] using h
    · simp [List.takeWhile, hq] at h

theorem head?_takeWhile_of {α : Type} (q : α → Bool) (l : List α) (c : α)
    (h : l.head? = some c) (hq : q c = true) : (l.takeWhile q).head? = some c := by
  cases l with
  | nil => simp at h
  | cons a t =>
    have : a = c := by simpa using h
    subst this
    simp [List.takeWhile, hq]

theorem firstPathOK_iff (r : Nat) : firstPathOK r = true ↔ PathSpec.FirstChar r := by
  unfold firstPathOK PathSpec.FirstChar PathSpec.isAsciiDigit
  simp
  omega

/-- `Props.C06.checkModPath_iff` -/
theorem checkModPath_iff_full (p : Bytes) :
    checkModPath p = .ok () ↔
      PathSpec.ValidPath (fun _ => false) .module p ∧ PathSpec.FirstElemOK p ∧ PathSpec.MajorRuleOK p := by
  rw [checkModPath_ok_iff, checkPath_iff_spec, splitPathVersion_ok_iff, takeWhile_ne_eq_head_splitOn]
  unfold PathSpec.FirstElemOK
  simp only [toSpec]
  constructor
  · rintro ⟨hv, _, hdot, hdash, hchars, hmaj⟩
    refine ⟨hv, ⟨by simpa using hdot, ?_, ?_⟩, hmaj⟩
    · intro hh
      rw [← takeWhile_ne_eq_head_splitOn] at hh
      have := takeWhile_head? _ _ _ hh
      simp [this] at hdash
    · intro r hr
      exact (firstPathOK_iff r).mp (List.all_eq_true.mp hchars r hr)
  · rintro ⟨hv, ⟨hdot, _, hchars⟩, hmaj⟩
    refine ⟨hv, ?_, by simpa using hdot, ?_, ?_, hmaj⟩
    · have := (hv.2.2.2 _ (head_splitOn_mem 47 p)).1
      simpa using this
    · have := hv.2.2.1 (by decide)
      simpa using this
    · rw [List.all_eq_true]
      intro r hr
      exact (firstPathOK_iff r).mpr (hchars r hr)

/-- an error of the general checker `checkPath`: any but the two returns for the first element -/
def generalErr (x : PathErr) : Prop := x ≠ .leadingSlash ∧ x ≠ .leadingDashFirst

instance (x : PathErr) : Decidable (generalErr x) := inferInstanceAs (Decidable (_ ∧ _))

theorem checkElem_err (il : Nat → Bool) (k : Kind) (e : Bytes) (x : PathErr) :
    checkElem il k e = .error x → generalErr x := by
  unfold checkElem
  exact ite_error_of generalErr (by decide) <| ite_error_of generalErr (by decide) <|
    ite_error_of generalErr (by decide) <| ite_error_of generalErr (by decide) <|
    ite_error_of generalErr (by decide) <| ite_error_of generalErr (by decide) <|
    ite_ok_of generalErr <| ite_error_of generalErr (by decide) fun h => nomatch h

theorem checkElems_err (il : Nat → Bool) (k : Kind) (x : PathErr) :
    ∀ l : List Bytes, checkElems il k l = .error x → generalErr x
  | [], h => nomatch h
  | e :: es, h => by
    unfold checkElems at h
    cases he : checkElem il k e with
    | error y => rw [he] at h; injection h with h; exact h ▸ checkElem_err il k e y he
    | ok u => rw [he] at h; exact checkElems_err il k x es h

theorem checkPath_err (il : Nat → Bool) (k : Kind) (p : Bytes) (x : PathErr) :
    checkPath il k p = .error x → generalErr x := by
  unfold checkPath
  exact ite_error_of generalErr (by decide) <| ite_error_of generalErr (by decide) <|
    ite_error_of generalErr (by decide) <| ite_error_of generalErr (by decide) <|
    ite_error_of generalErr (by decide) <| checkElems_err il k x _

/-- The `leading slash` and `leading dash in first path element` returns of CheckPath are unreachable:
    the general checker has already rejected an empty first element (empty path, or "empty path element" /
    double slash) and a leading dash. -/
theorem checkModPath_dead (p : Bytes) :
    checkModPath p ≠ .error .leadingSlash ∧ checkModPath p ≠ .error .leadingDashFirst := by
  unfold checkModPath
  cases h : checkPath (fun _ => false) .module p with
  | error x =>
    have := checkPath_err _ _ _ _ h
    simp only
    exact ⟨fun hh => this.1 (by injection hh), fun hh => this.2 (by injection hh)⟩
  | ok u =>
    have hp := (checkPath_ok_iff _ _ _).mp h
    have hfirst : (p.takeWhile (· != 47)).isEmpty = false := by
      rw [takeWhile_ne_eq_head_splitOn]
      exact ((checkElem_ok_iff _ _ _).mp (hp.2.2.2.2.2 _ (head_splitOn_mem 47 p))).1
    have hdash : (p.head? == some 45) = false := by simpa using hp.2.2.1
    simp only [hfirst, hdash, Bool.false_eq_true, if_false]
    constructor <;> (repeat' split) <;> simp

/-! ### Check: CheckPathMajor on the suffixes SplitPathVersion returns = `PathSpec.MajorMatches` -/

theorem noHead_unstable : NoHead isDigit (B "-unstable") := by
  rw [B_unstable]; intro c r e; simp at e; rw [← e.1]; decide

theorem noHead_unstable_or_nil (uns : Bool) : NoHead isDigit (if uns then B "-unstable" else []) := by
  cases uns
  · intro c r e; simp at e
  · exact noHead_unstable

theorem gopkg_suffix_unique (n n' : Bytes) (u u' : Bool)
    (hn : ∀ d ∈ n, isDigit d = true) (hn' : ∀ d ∈ n', isDigit d = true)
    (h : n ++ (if u then B "-unstable" else []) = n' ++ (if u' then B "-unstable" else [])) :
    n = n' := by
  have h1 := takeWhile_append_all isDigit n _ (List.all_eq_true.mpr hn) (noHead_unstable_or_nil u)
  have h2 := takeWhile_append_all isDigit n' _ (List.all_eq_true.mpr hn') (noHead_unstable_or_nil u')
  rw [← h1, ← h2, h]

theorem majorMatches_gopkg (v n : Bytes) (hn : ∀ d ∈ n, PathSpec.isAsciiDigit d.toNat) (uns : Bool) :
    PathSpec.MajorMatches (46 :: 118 :: (n ++ if uns then B "-unstable" else [])) v ↔
      (Semver.major v = 118 :: n ∨ (n = [49] ∧ isPrefixOfB (B "v0.0.0-") v = true)) := by
  unfold PathSpec.MajorMatches
  constructor
  · rintro (⟨h, _⟩ | ⟨m, h, _⟩ | ⟨n', hn', hform, hm⟩)
    · cases h
    · simp at h
    · have hnn : n = n' := by
        have hd : ∀ d ∈ n, isDigit d = true := fun d hd => (isDigit_iff d).mpr (hn d hd)
        have hd' : ∀ d ∈ n', isDigit d = true := fun d hd => (isDigit_iff d).mpr (hn' d hd)
        rcases hform with hf | hf
        · exact gopkg_suffix_unique n n' uns false hd hd' (by simpa using hf)
        · exact gopkg_suffix_unique n n' uns true hd hd' (by simpa using hf)
      subst hnn
      exact hm
  · intro hm
    right; right
    refine ⟨n, hn, ?_, hm⟩
    cases uns
    · left; simp
    · right; rfl

/-- `Props.C06.checkPathMajor_iff` -/
theorem checkPathMajor_iff_matches (p maj v : Bytes) (hs : PathSpec.MajorSuffix p maj) :
    checkPathMajor v maj = true ↔ PathSpec.MajorMatches maj v := by
  rcases hs with rfl | ⟨n, rfl, _⟩ | ⟨_, n, hnum, hform⟩
  · exact checkPathMajor_nil v
  · exact checkPathMajor_slash v n
  · rcases hform with rfl | rfl
    · have h1 := checkPathMajor_gopkg v n hnum.2.1 false
      have h2 := majorMatches_gopkg v n hnum.2.1 false
      simp only [Bool.false_eq_true, if_false, List.append_nil] at h1 h2
      rw [h1, h2]
    · have h1 := checkPathMajor_gopkg v n hnum.2.1 true
      have h2 := majorMatches_gopkg v n hnum.2.1 true
      simp only [if_true] at h1 h2
      rw [h1, h2]

theorem split_spec' (p : Bytes) (hok : (splitPathVersion p).2.2 = true) :
    (splitPathVersion p).1 ++ (splitPathVersion p).2.1 = p ∧ PathSpec.MajorSuffix p (splitPathVersion p).2.1 :=
  split_spec p _ _ (by rw [← hok])

/-- `Props.C06.check_iff` -/
theorem check_iff_full (p v : Bytes) :
    check p v = .ok () ↔
      checkModPath p = .ok () ∧ Semver.isValid v = true ∧ PathSpec.MajorMatches (splitPathVersion p).2.1 v := by
  rw [check_ok_iff]
  constructor
  · rintro ⟨h1, h2, h3⟩
    have hok := ((checkModPath_ok_iff p).mp h1).2.2.2.2.2
    have hs := (split_spec' p hok).2
    exact ⟨h1, h2, (checkPathMajor_iff_matches p _ v hs).mp h3⟩
  · rintro ⟨h1, h2, h3⟩
    have hok := ((checkModPath_ok_iff p).mp h1).2.2.2.2.2
    have hs := (split_spec' p hok).2
    exact ⟨h1, h2, (checkPathMajor_iff_matches p _ v hs).mpr h3⟩

end ModVerif.Module
