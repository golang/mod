/-
  Tie proofs for the regenerated module.go functions: CheckPath (module paths), Check, EscapePath,
  EscapeVersion, UnescapePath, UnescapeVersion — the functions that compose the parts proved in
  TieFnModule{Elem,Path,Split,Major,Esc}.lean.  Every Go `error` result is determined exactly: `nil`, or the
  message literal of the `fmt.Errorf` site (`msg`), wrapped as the Go code wraps it.
-/
import ModVerif.Proofs.TieFnModulePath
import ModVerif.Proofs.TieFnModuleSplit
import ModVerif.Proofs.TieFnModuleMajor
import ModVerif.Proofs.TieFnModuleEsc
import ModVerif.Proofs.ModuleEscape
namespace ModVerif.TieFnModule
open ModVerif ModVerif.GoRt ModVerif.GoRtStr

def firstCharErr : Option String := wrapErr "InvalidPathError" (some "invalid char %q in first path element")

theorem CheckPath_loop1_spec (ef : Bytes → Bytes → Bool) (il : Int → Bool) (t4 path : Bytes) (i : Int) :
    ∀ (fuel k : Nat), k ≤ t4.length → t4.length - k < fuel →
    Generated.Module.CheckPath_loop1 ef il t4 path i fuel (k : Int) =
      .ok (if (Utf8.runes (t4.drop k)).all Module.firstPathOK = true
           then Ctl.next (len t4) else Ctl.ret firstCharErr) := by
  intro fuel
  induction fuel with
  | zero => intro k _ h; omega
  | succ f ih =>
    intro k hk hf
    unfold Generated.Module.CheckPath_loop1
    by_cases hlt : k < t4.length
    · obtain ⟨r, w, hdec, hw1, hw2, hrunes, _⟩ := range_step t4 k hlt
      have hlt' : (k : Int) < len t4 := by simp [len_eq]; omega
      have hrec := ih (k + w) hw2 (by omega)
      have hkw : (k : Int) + (w : Int) = ((k + w : Nat) : Int) := by simp
      simp only [hlt', decide_true, if_true, hdec, hrunes, List.all_cons, firstPathOK_nat, hkw, hrec]
      by_cases hp : Module.firstPathOK r = true <;> simp [hp, firstCharErr]
    · have hk' : k = t4.length := by omega
      subst hk'
      simp [Utf8.runes, Utf8.runesAux, len_eq]

/-- the checks of CheckPath after `checkPath(path, modulePath)` succeeded -/
def modTail (path : Bytes) : Except Module.PathErr Unit :=
  let first := path.takeWhile (· != 47)
  if first.isEmpty then .error .leadingSlash
  else if !first.contains 46 then .error .missingDot
  else if path.head? == some 45 then .error .leadingDashFirst
  else if !(Utf8.runes first).all Module.firstPathOK then .error .invalidCharFirst
  else if !(Module.splitPathVersion path).2.2 then .error .invalidVersion
  else .ok ()

theorem checkModPath_eq (path : Bytes) :
    Module.checkModPath path =
      (match Module.checkPath (fun _ => false) .module path with
       | .error e => .error e
       | .ok () => modTail path) := by
  unfold Module.checkModPath modTail
  rfl

theorem CheckPath_spec_aux (ef : Bytes → Bytes → Bool) (il : Int → Bool) (path : Bytes) (fuel : Nat)
    (hfold : ∀ bad ∈ Module.badWindowsNames, ∀ s, ef bad s = Module.equalFoldAscii bad s)
    (hf : 2 * path.length + 24 ≤ fuel)
    (hsplit : Generated.Module.SplitPathVersion fuel path = .ok (Module.splitPathVersion path)) :
    Generated.Module.CheckPath ef il fuel path = .ok (wrappedErrOf (Module.checkModPath path)) := by
  unfold Generated.Module.CheckPath
  extract_lets err0 i0 e1 e1w e2 e2w e3 e3w ri5 e4 e4w e0w k11 ilen
  have hfl := length_takeWhile_le (· != (47 : UInt8)) path
  have hk : k11 (((path.takeWhile (· != 47)).length : Nat) : Int) = .ok (wrappedErrOf (modTail path)) := by
    simp only [k11, e1, e1w, e2, e2w, e3, e3w, e4, e4w, e0w, err0, ri5, modTail]
    generalize hfirst : path.takeWhile (· != 47) = first at hfl ⊢
    cases first with
    | nil => simp [wrappedErrOf, msg, wrapErr]
    | cons c first' =>
      have hne : ¬ (((c :: first').length : Nat) : Int) = 0 := by simp; omega
      have hp : path ≠ [] := by intro e; subst e; simp at hfirst
      have htake : path.take (c :: first').length = c :: first' := by
        rw [← hfirst]; exact take_length_takeWhile _ _
      simp only [hne, decide_false, Bool.false_eq_true, if_false, sliceTo_natCast hfl, htake, bind_ok,
        contains_single, List.isEmpty_cons]
      cases h1 : (c :: first').contains 46
      · simp [wrappedErrOf, msg, wrapErr]
      simp only [Bool.not_true, Bool.false_eq_true, if_false]
      rw [idx_zero_eq_head path hp, bind_ok, first_byte_test path hp (n := 45) 45 rfl]
      cases h2 : (path.head? == some 45)
      rotate_left
      · simp [wrappedErrOf, msg, wrapErr]
      simp only [Bool.false_eq_true, if_false]
      have hl := CheckPath_loop1_spec ef il (c :: first') path (((c :: first').length : Nat) : Int) fuel 0
        (by omega) (by omega)
      simp only [Int.natCast_zero, List.drop_zero] at hl
      rw [hl, bind_ok]
      cases h3 : (Utf8.runes (c :: first')).all Module.firstPathOK
      · simp [wrappedErrOf, msg, wrapErr, firstCharErr]
      simp only [if_true, Bool.not_true, Bool.false_eq_true, if_false, hsplit, bind_ok]
      cases h4 : (Module.splitPathVersion path).2.2 <;> simp [wrappedErrOf, msg, wrapErr]
  have hcp := checkPath_spec ef il .module path fuel hfold hf
  simp only [kindInt] at hcp
  have hnf : Module.checkPath (fun _ => false) .module path = Module.checkPath (natLetter il) .module path :=
    checkPath_nonfile _ _ .module (by decide) path
  rw [hcp, bind_ok, checkModPath_eq, hnf]
  cases hchk : Module.checkPath (natLetter il) .module path with
  | error x => simp [errOf, wrappedErrOf, wrapErr]
  | ok u =>
    cases u
    simp only [errOf, Option.isNone_none, Bool.not_true, Bool.false_eq_true, if_false]
    by_cases h47 : (47 : UInt8) ∈ path
    · have hi : i0 = (((path.takeWhile (· != 47)).length : Nat) : Int) := by
        simp only [i0, index_single, h47, if_true]
      have hneg : ¬ (i0 < 0) := by rw [hi]; omega
      simp only [hneg, decide_false, Bool.false_eq_true, if_false]
      rw [hi, hk]
    · have hi : i0 < 0 := by
        simp only [i0, index_single, h47, if_false]; omega
      have hl : ilen = (((path.takeWhile (· != 47)).length : Nat) : Int) := by
        simp only [ilen, len_eq, takeWhile_ne_of_not_mem h47]
      simp only [hi, decide_true, if_true]
      rw [hl, hk]


theorem CheckPath_spec (ef : Bytes → Bytes → Bool) (il : Int → Bool) (path : Bytes) (fuel : Nat)
    (hfold : ∀ bad ∈ Module.badWindowsNames, ∀ s, ef bad s = Module.equalFoldAscii bad s)
    (hf : 2 * path.length + 24 ≤ fuel) :
    Generated.Module.CheckPath ef il fuel path = .ok (wrappedErrOf (Module.checkModPath path)) :=
  CheckPath_spec_aux ef il path fuel hfold hf (SplitPathVersion_spec path fuel (by omega))

/-- the Go `error` of Check from the model's result: CheckPath's own error, or `&ModuleError{Path, Err}` around an
    `*InvalidVersionError` -/
def checkErrOf : Except Module.CheckErr Unit → Option String
  | .ok () => none
  | .error (.path e) => some ("InvalidPathError|" ++ msg e)
  | .error .notSemver => wrapErr "ModuleError" (wrapErr "InvalidVersionError" (some "not a semantic version"))
  | .error .major => wrapErr "ModuleError" majorErr

theorem Check_spec (ef : Bytes → Bytes → Bool) (il : Int → Bool) (path version : Bytes) (fuel : Nat)
    (hfold : ∀ bad ∈ Module.badWindowsNames, ∀ s, ef bad s = Module.equalFoldAscii bad s)
    (hf : 2 * path.length + 2 * version.length + 24 ≤ fuel) :
    Generated.Module.Check ef il fuel path version = .ok (checkErrOf (Module.check path version)) := by
  unfold Generated.Module.Check Module.check
  rw [CheckPath_spec ef il path fuel hfold (by omega), bind_ok]
  cases hcp : Module.checkModPath path with
  | error x => simp [wrappedErrOf, checkErrOf]
  | ok u =>
    cases u
    simp only [wrappedErrOf, Option.isNone_none, Bool.not_true, Bool.false_eq_true, if_false,
      Tie.FnSemver.IsValid_tie version fuel (by omega), bind_ok]
    cases hv : Semver.isValid version
    · simp [checkErrOf]
    simp only [Bool.not_true, Bool.false_eq_true, if_false, SplitPathVersion_spec path fuel (by omega), bind_ok,
      CheckPathMajor_spec version _ fuel (by omega)]
    cases hm : Module.checkPathMajor version (Module.splitPathVersion path).2.1 <;> simp [checkErrOf, majorErr, wrapErr]

/-- (escaped, err) of EscapePath / EscapeVersion from the model's result -/
def escResOf : Except Module.EscErr Bytes → Bytes × Option String
  | .ok e => (e, none)
  | .error (.path e) => ([], some ("InvalidPathError|" ++ msg e))
  | .error .disallowed => ([], wrapErr "InvalidVersionError" (some "disallowed version string"))
  | .error .internal => ([], some "internal error: inconsistency in EscapePath")

theorem EscapePath_spec (ef : Bytes → Bytes → Bool) (il : Int → Bool) (path : Bytes) (fuel : Nat)
    (hfold : ∀ bad ∈ Module.badWindowsNames, ∀ s, ef bad s = Module.equalFoldAscii bad s)
    (hf : 2 * path.length + 24 ≤ fuel) :
    Generated.Module.EscapePath ef il fuel path = .ok (escResOf (Module.escapePath path)) := by
  unfold Generated.Module.EscapePath Module.escapePath
  rw [CheckPath_spec ef il path fuel hfold hf, bind_ok]
  cases hcp : Module.checkModPath path with
  | error x => simp [wrappedErrOf, escResOf]
  | ok u =>
    cases u
    simp only [wrappedErrOf, Option.isNone_none, Bool.not_true, Bool.false_eq_true, if_false,
      escapeString_spec path fuel (by omega)]
    cases Module.escapeString path <;> simp [escResOf]

theorem EscapeVersion_spec (ef : Bytes → Bytes → Bool) (il : Int → Bool) (v : Bytes) (fuel : Nat)
    (hfold : ∀ bad ∈ Module.badWindowsNames, ∀ s, ef bad s = Module.equalFoldAscii bad s)
    (hf : v.length + 23 ≤ fuel) :
    Generated.Module.EscapeVersion ef il fuel v = .ok (escResOf (Module.escapeVersion (natLetter il) v)) := by
  unfold Generated.Module.EscapeVersion Module.escapeVersion
  have hce := checkElem_spec ef il .file v fuel hfold hf
  simp only [kindInt] at hce
  rw [hce, bind_ok, contains_single]
  cases hchk : Module.checkElem (natLetter il) .file v with
  | error x => simp [errOf, escResOf]
  | ok u =>
    cases u
    cases hb : v.contains 33
    · simp only [errOf, Option.isNone_none, Bool.not_true, Bool.or_self, Bool.false_eq_true, if_false,
        escapeString_spec v fuel (by omega)]
      cases Module.escapeString v <;> simp [escResOf]
    · simp [errOf, escResOf]

/-- (result, err) of UnescapePath / UnescapeVersion from the model's result; `what` is "module path" / "version",
    `inner` renders the error of the validity check on the unescaped string -/
def unescResOf (bad badWrap : String) (inner : Module.PathErr → String) : Except Module.UnescErr Bytes → Bytes × Option String
  | .ok p => (p, none)
  | .error .escaped => ([], some bad)
  | .error (.invalid e) => ([], wrapErr badWrap (some (inner e)))

theorem unescapeString_length (e p : Bytes) (h : Module.unescapeString e = some p) : p.length ≤ e.length := by
  rw [Module.unescapeString_eq] at h
  have key : ∀ (rs : List Nat) (bang : Bool) (out : Bytes), Module.unescapeRunes bang rs = some out →
      out.length ≤ rs.length := by
    intro rs
    induction rs with
    | nil => intro bang out h; cases bang <;> simp [Module.unescapeRunes] at h; subst h; simp
    | cons r rs ih =>
      intro bang out h
      unfold Module.unescapeRunes at h
      split at h
      · cases h
      · split at h
        · split at h
          · cases h
          · simp only [Option.map_eq_some_iff] at h
            obtain ⟨o, ho, rfl⟩ := h
            have := ih _ _ ho; simp; omega
        · split at h
          · have := ih _ _ h; simp; omega
          · split at h
            · cases h
            · simp only [Option.map_eq_some_iff] at h
              obtain ⟨o, ho, rfl⟩ := h
              have := ih _ _ ho; simp; omega
  have := key _ _ _ h
  simpa using this

theorem UnescapePath_spec (ef : Bytes → Bytes → Bool) (il : Int → Bool) (escaped : Bytes) (fuel : Nat)
    (hfold : ∀ bad ∈ Module.badWindowsNames, ∀ s, ef bad s = Module.equalFoldAscii bad s)
    (hf : 2 * escaped.length + 24 ≤ fuel) :
    Generated.Module.UnescapePath ef il fuel escaped =
      .ok (unescResOf "invalid escaped module path %q" "invalid escaped module path %q: %v"
        (fun e => "InvalidPathError|" ++ msg e) (Module.unescapePath escaped)) := by
  unfold Generated.Module.UnescapePath Module.unescapePath
  rw [unescapeString_spec escaped fuel (by omega), bind_ok]
  cases hu : Module.unescapeString escaped with
  | none => simp [unescResOf]
  | some p =>
    have hl := unescapeString_length escaped p hu
    simp only [Bool.not_true, Bool.false_eq_true, if_false, CheckPath_spec ef il p fuel hfold (by omega), bind_ok]
    cases hcp : Module.checkModPath p with
    | error x => simp [wrappedErrOf, unescResOf]
    | ok u => cases u; simp [wrappedErrOf, unescResOf]

theorem UnescapeVersion_spec (ef : Bytes → Bytes → Bool) (il : Int → Bool) (escaped : Bytes) (fuel : Nat)
    (hfold : ∀ bad ∈ Module.badWindowsNames, ∀ s, ef bad s = Module.equalFoldAscii bad s)
    (hf : escaped.length + 23 ≤ fuel) :
    Generated.Module.UnescapeVersion ef il fuel escaped =
      .ok (unescResOf "invalid escaped version %q" "invalid escaped version %q: %v" msg
        (Module.unescapeVersion (natLetter il) escaped)) := by
  unfold Generated.Module.UnescapeVersion Module.unescapeVersion
  rw [unescapeString_spec escaped fuel (by omega), bind_ok]
  cases hu : Module.unescapeString escaped with
  | none => simp [unescResOf]
  | some p =>
    have hl := unescapeString_length escaped p hu
    have hce := checkElem_spec ef il .file p fuel hfold (by omega)
    simp only [kindInt] at hce
    simp only [Bool.not_true, Bool.false_eq_true, if_false, hce, bind_ok]
    cases hcp : Module.checkElem (natLetter il) .file p with
    | error x => simp [errOf, unescResOf]
    | ok u => cases u; simp [errOf, unescResOf]

end ModVerif.TieFnModule
