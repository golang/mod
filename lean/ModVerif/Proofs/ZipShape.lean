/-
  The body of the second loop of `checkFiles` by its outcomes (`StepOut`): `stepFile_out` walks the rules
  once, and every property of the state after one file is proved by cases on the four outcomes.
-/
import ModVerif.Spec.ZipSpec
namespace ModVerif.Proofs.Zip
open ModVerif ModVerif.PathClean ModVerif.Zip ModVerif.ZipSpec

theorem addError_mem (s : St) (p : Bytes) (om : Bool) (r : Reason) (h : p ∈ s.errPaths) :
    s.addError p om r = s := by
  simp [St.addError, h]

theorem addError_not_mem (s : St) (p : Bytes) (om : Bool) (r : Reason) (h : p ∉ s.errPaths) :
    s.addError p om r =
      { s with errPaths := s.errPaths ++ [p],
               cf := { s.cf with omitted := s.cf.omitted ++ (if om then [(p, r)] else []),
                                 invalid := s.cf.invalid ++ (if om then [] else [(p, r)]) } } := by
  cases om <;> simp [St.addError, h]

theorem addError_not_mem_errPaths (s : St) (p : Bytes) (om : Bool) (r : Reason) (h : p ∉ s.errPaths) :
    (s.addError p om r).errPaths = s.errPaths ++ [p] := by
  rw [addError_not_mem s p om r h]

theorem addError_rest (s : St) (p : Bytes) (om : Bool) (r : Reason) :
    (s.addError p om r).cf.valid = s.cf.valid ∧ (s.addError p om r).validFiles = s.validFiles ∧
    (s.addError p om r).cc = s.cc ∧ (s.addError p om r).maxSize = s.maxSize ∧
    (s.addError p om r).cf.sizeError = s.cf.sizeError := by
  by_cases h : p ∈ s.errPaths
  · rw [addError_mem s p om r h]; simp
  · rw [addError_not_mem s p om r h]; simp

theorem addError_valid (s : St) (p : Bytes) (om : Bool) (r : Reason) :
    (s.addError p om r).cf.valid = s.cf.valid ∧ (s.addError p om r).validFiles = s.validFiles :=
  ⟨(addError_rest s p om r).1, (addError_rest s p om r).2.1⟩

theorem addError_cc (s : St) (p : Bytes) (om : Bool) (r : Reason) : (s.addError p om r).cc = s.cc :=
  (addError_rest s p om r).2.2.1

/-- everything the second loop has established about a file when it appends it to the valid list -/
structure NameOK (E : Env) (ge124 : Bool) (hg : List Bytes) (f : FileInfo) : Prop where
  clean : pathClean f.path = f.path
  notAbs : isAbs f.path = false
  notVendored : isVendoredPackage f.path ge124 = false
  notInSubmodule : inSubmodule hg f.path = false
  notHg : f.path ≠ hgArchivalName
  cfp : E.cfp f.path = true
  goModCase : toLowerIsGoMod f.path = true → f.path = goModName
  regular : f.mode = .regular
  goModSize : f.path = goModName → f.size ≤ MaxGoMod
  licenseSize : f.path = licenseName → f.size ≤ MaxLICENSE

/-- the four ways one file of the second loop (`stepFile`) ends -/
inductive StepOut (E : Env) (ge124 : Bool) (hg : List Bytes) (s : St) (f : FileInfo) : St → Prop
  | early (om : Bool) (r : Reason) (hr : om = true → r ≠ .vcs ∧ r ≠ .submoduleDir) :
      StepOut E ge124 hg s f (s.addError f.path om r)
  | late (hl : f.mode ≠ .lstatErr) (om : Bool) (r : Reason) (hr : om = true → r ≠ .vcs ∧ r ≠ .submoduleDir) :
      StepOut E ge124 hg s f ((s.setCC (ccCheckTop E.toFold s.cc f.path (f.mode == .dir)).1).addError f.path om r)
  | sized (hreg : f.mode = .regular) (r : Reason) :
      StepOut E ge124 hg s f
        (((s.setCC (ccCheckTop E.toFold s.cc f.path false).1).account f.size).addError f.path false r)
  | valid (ok : NameOK E ge124 hg f) (hnone : (ccCheckTop E.toFold s.cc f.path false).2 = none) :
      StepOut E ge124 hg s f (((s.setCC (ccCheckTop E.toFold s.cc f.path false).1).account f.size).pushValid f)

theorem stepFile_out (E : Env) (ge124 : Bool) (hg : List Bytes) (s : St) (f : FileInfo) :
    StepOut E ge124 hg s f (stepFile E ge124 hg s f) := by
  unfold stepFile
  by_cases h1 : (f.path != pathClean f.path) = true
  · rw [if_pos h1]; exact .early _ _ (by decide)
  rw [if_neg h1]
  by_cases h2 : isAbs f.path = true
  · rw [if_pos h2]; exact .early _ _ (by decide)
  rw [if_neg h2]
  by_cases h3 : isVendoredPackage f.path ge124 = true
  · rw [if_pos h3]; exact .early _ _ (by decide)
  rw [if_neg h3]
  by_cases h4 : inSubmodule hg f.path = true
  · rw [if_pos h4]; exact .early _ _ (by decide)
  rw [if_neg h4]
  by_cases h5 : (f.path == hgArchivalName) = true
  · rw [if_pos h5]; exact .early _ _ (by decide)
  rw [if_neg h5]
  by_cases h6 : (!E.cfp f.path) = true
  · rw [if_pos h6]; exact .early _ _ (by decide)
  rw [if_neg h6]
  by_cases h7 : (toLowerIsGoMod f.path && f.path != goModName) = true
  · rw [if_pos h7]; exact .early _ _ (by decide)
  rw [if_neg h7]
  unfold stepStat
  by_cases h8 : (f.mode == Mode.lstatErr) = true
  · rw [if_pos h8]; exact .early _ _ (by decide)
  rw [if_neg h8]
  have hl : f.mode ≠ .lstatErr := by simpa using h8
  rcases hc : ccCheckTop E.toFold s.cc f.path (f.mode == Mode.dir) with ⟨cc', err⟩
  have hcc : cc' = (ccCheckTop E.toFold s.cc f.path (f.mode == Mode.dir)).1 := by rw [hc]
  cases err with
  | some e => rw [hcc]; exact .late hl _ _ (fun h => nomatch h)
  | none =>
    simp only
    unfold stepMode
    by_cases h9 : (f.mode == Mode.symlink) = true
    · rw [if_pos h9, hcc]; exact .late hl _ _ (by decide)
    rw [if_neg h9]
    by_cases h10 : (f.mode != Mode.regular) = true
    · rw [if_pos h10, hcc]; exact .late hl _ _ (by decide)
    rw [if_neg h10]
    have hreg : f.mode = .regular := by simpa using h10
    have hnd : (f.mode == Mode.dir) = false := by rw [hreg]; rfl
    rw [hnd] at hc hcc
    rw [hcc]
    unfold stepSized
    by_cases h11 : (f.path == goModName && f.size > MaxGoMod) = true
    · rw [if_pos h11]; exact .sized hreg _
    rw [if_neg h11]
    by_cases h12 : (f.path == licenseName && f.size > MaxLICENSE) = true
    · rw [if_pos h12]; exact .sized hreg _
    rw [if_neg h12]
    refine .valid ⟨?_, by simpa using h2, by simpa using h3, by simpa using h4, by simpa using h5,
      by simpa using h6, ?_, hreg, ?_, ?_⟩ (by rw [hc])
    · have : ¬ f.path ≠ pathClean f.path := by simpa using h1
      exact (Classical.not_not.mp this).symm
    · intro ht; simp [ht] at h7; exact h7
    · intro hp; simp [hp] at h11; exact h11
    · intro hp; simp [hp] at h12; exact h12

structure SameLists (a b : St) : Prop where
  valid : a.cf.valid = b.cf.valid
  omitted : a.cf.omitted = b.cf.omitted
  invalid : a.cf.invalid = b.cf.invalid
  errPaths : a.errPaths = b.errPaths
  validFiles : a.validFiles = b.validFiles

theorem SameLists.rfl' (s : St) : SameLists s s := ⟨rfl, rfl, rfl, rfl, rfl⟩

theorem sameLists_setCC (s : St) (cc : CC) : SameLists (s.setCC cc) s := ⟨rfl, rfl, rfl, rfl, rfl⟩

theorem sameLists_account (s : St) (cc : CC) (n : Int) : SameLists ((s.setCC cc).account n) s := by
  unfold St.account; split <;> exact ⟨rfl, rfl, rfl, rfl, rfl⟩

inductive StepShape (s : St) (f : FileInfo) : St → Prop
  | err (s0 : St) (h : SameLists s0 s) (om : Bool) (r : Reason) : StepShape s f (s0.addError f.path om r)
  | valid (s0 : St) (h : SameLists s0 s) (hreg : f.mode = .regular) : StepShape s f (s0.pushValid f)

theorem stepFile_shape (E : Env) (ge124 : Bool) (h : List Bytes) (s : St) (f : FileInfo) :
    StepShape s f (stepFile E ge124 h s f) := by
  have ho := stepFile_out E ge124 h s f
  generalize stepFile E ge124 h s f = s' at ho
  cases ho with
  | early om r _ => exact .err _ (SameLists.rfl' s) _ _
  | late _ om r _ => exact .err _ (sameLists_setCC s _) _ _
  | sized _ r => exact .err _ (sameLists_account s _ _) _ _
  | valid ok _ => exact .valid _ (sameLists_account s _ _) ok.regular

end ModVerif.Proofs.Zip
