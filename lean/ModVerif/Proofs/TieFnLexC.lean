/-
  Helper lemmas for Tie/FnLex.lean: `input.readToken` as a whole against the model's `readToken`, `input.lex`
  against `lex`, and running `lex` to the EOF token (`lexAll` of Drv/LexOps.lean) on both sides.
-/
import ModVerif.Proofs.TieFnLexB
namespace ModVerif.TieFnLex
open ModVerif ModVerif.GoRt ModVerif.GoRtStr ModVerif.GoRtModfile ModVerif.GoRtLex ModVerif.Modfile
open ModVerif.Proofs.ModfileLex (eof_false_iff)
open ModVerif.Drv.LexOps.G (isPrintI isSpaceI)
open ModVerif.Drv.LexOps.M (kindCode)

/-- the model's readToken after the spaces / comment tests (a verbatim copy; `readToken_headM` checks it) -/
def restM (i : Input) : Except SynErr Input :=
    let i := startToken i
    if i.eof then .ok (endToken .eof i)
    else
      let c := i.peekRune
      if isPunct c then do
        let (_, i) ← readRune i
        .ok (endToken (.punct (UInt8.ofNat c)) i)
      else if quoteRunes.contains c then do
        let (_, i) ← readRune i
        let i ← readString c (i.remaining.length + 1) i
        .ok (endToken .string i)
      else if !isIdent c then .error (i.error .badChar)
      else do
        let i ← readIdent (i.remaining.length + 1) i
        .ok (endToken .ident i)

theorem readToken_headM (i : Input) :
    readToken i = match headM (i.remaining.length + 1) i with
      | .ok (.ret j) => .ok j
      | .ok (.next j) => restM j
      | .error e => .error e := by
  unfold readToken headM
  cases skipSpaces (i.remaining.length + 1) i with
  | error e => rfl
  | ok j =>
    simp only [ebind_ok, tailM]
    split
    · cases readComment j <;> rfl
    · split <;> rfl

/-- image of a model result of readToken on the generated side -/
def simU : Except SynErr Input → M (Unit × Generated.Lex.input)
  | .ok j => .ok ((), emb j)
  | .error _ => .error .panic

theorem isPunct_lt {c : Nat} (h : isPunct c = true) : c < 128 := by
  simp only [isPunct, punctRunes, List.contains_cons, List.contains_nil, Bool.or_false, Bool.or_eq_true, beq_iff_eq] at h
  omega

theorem kindCode_punct {c : Nat} (h : c < 256) : kindCode (.punct (UInt8.ofNat c)) = (c : Int) := by
  show Int.ofNat (UInt8.ofNat c).toNat = _
  simp only [UInt8.toNat_ofNat']
  have : c % 2 ^ 8 = c := Nat.mod_eq_of_lt h
  rw [this]; rfl

set_option linter.unusedVariables false in
theorem rest_eq (k : Int) (ts : Bytes) (j : Input) (hw : WF j) (fuel : Nat) (hf : j.remaining.length + 3 ≤ fuel) :
    (do
      let (io21, in_) := (Generated.Lex.input_startToken (embKT k ts j))
      if (Generated.Lex.input_eof in_) then (do
        let t22 ← (Generated.Lex.input_endToken in_ (-1 : Int))
        let (io23, in_) := t22
        pure ((), in_)) else (do
        let c_1 := (Generated.Lex.input_peekRune in_)
        if (decide (c_1 = (10 : Int)) || decide (c_1 = (40 : Int)) || decide (c_1 = (41 : Int)) || decide (c_1 = (91 : Int)) || decide (c_1 = (93 : Int)) || decide (c_1 = (123 : Int)) || decide (c_1 = (125 : Int)) || decide (c_1 = (44 : Int))) then (do
          let t24 ← (Generated.Lex.input_readRune in_)
          let (io25, in_) := t24
          let t26 ← (Generated.Lex.input_endToken in_ c_1)
          let (io27, in_) := t26
          pure ((), in_)) else (if (decide (c_1 = (34 : Int)) || decide (c_1 = (96 : Int))) then (do
          let quote := c_1
          let t28 ← (Generated.Lex.input_readRune in_)
          let (io29, in_) := t28
          let in_ ← Generated.Lex.input_readToken_loop3 isPrintI isSpaceI quote fuel in_
          let t34 ← (Generated.Lex.input_endToken in_ (-4 : Int))
          let (io35, in_) := t34
          pure ((), in_)) else (do
          let c_3 := (Generated.Lex.input_peekRune in_)
          if (!(Generated.Lex.isIdent isPrintI isSpaceI c_3)) then (throw Err.panic) else (do
            let in_ ← Generated.Lex.input_readToken_loop4 isPrintI isSpaceI fuel in_
            let t40 ← (Generated.Lex.input_endToken in_ (-3 : Int))
            let (io41, in_) := t40
            pure ((), in_))))) : M (Unit × Generated.Lex.input)) = simU (restM j) ∧
      ∀ j', restM j = .ok j' → WF j' := by
  unfold restM
  simp only [startToken_eqT]
  have hws : WF (startToken j) := startToken_wf hw
  have hrem : (startToken j).remaining.length + 3 ≤ fuel := hf
  generalize startToken j = s at hws hrem
  have hidG : Generated.Lex.isIdent isPrintI isSpaceI (s.peekRune : Int) = isIdent s.peekRune :=
    isIdent_eq _ (by have := peekRune_le s; omega)
  simp only [eof_eq, peekRune_eq, hidG,
    show (10 : Int) = ((10 : Nat) : Int) from rfl, show (40 : Int) = ((40 : Nat) : Int) from rfl,
    show (41 : Int) = ((41 : Nat) : Int) from rfl, show (91 : Int) = ((91 : Nat) : Int) from rfl,
    show (93 : Int) = ((93 : Nat) : Int) from rfl, show (123 : Int) = ((123 : Nat) : Int) from rfl,
    show (125 : Int) = ((125 : Nat) : Int) from rfl, show (44 : Int) = ((44 : Nat) : Int) from rfl,
    show (34 : Int) = ((34 : Nat) : Int) from rfl, show (96 : Int) = ((96 : Nat) : Int) from rfl,
    natCast_eq_natCast, isPunct, punctRunes, quoteRunes, List.contains_cons, List.contains_nil, Bool.or_false,
    Bool.or_assoc]
  by_cases he : s.remaining = []
  · have h1 : s.eof = true := (eof_true_iff s).2 he
    have := endToken_eq k .eof s
    rw [show kindCode .eof = (-1 : Int) from rfl] at this
    simp only [h1, if_true, this, bind_ok, pure_eq_ok, simU, true_and]
    intro j' hj; cases hj; exact hws
  · have h1 : s.eof = false := (eof_false_iff s).2 he
    simp only [h1, Bool.false_eq_true, if_false]
    obtain ⟨r, i1, hM, hG, hw1, hlt, htok, hr⟩ := readRune_eq k s he hws
    rcases Bool.eq_false_or_eq_true (s.peekRune == 10 || (s.peekRune == 40 || (s.peekRune == 41 || (s.peekRune == 91 ||
      (s.peekRune == 93 || (s.peekRune == 123 || (s.peekRune == 125 || s.peekRune == 44))))))) with hp | hp
    · have hlt128 : s.peekRune < 128 := isPunct_lt (by
        simpa only [isPunct, punctRunes, List.contains_cons, List.contains_nil, Bool.or_false] using hp)
      have := endToken_eq k (.punct (UInt8.ofNat s.peekRune)) i1
      rw [kindCode_punct (by omega)] at this
      simp only [hp, if_true, hM, hG, ebind_ok, this, pure_eq_ok, simU, true_and]
      intro j' hj; cases hj; exact hw1
    · simp only [hp, Bool.false_eq_true, if_false]
      rcases Bool.eq_false_or_eq_true (s.peekRune == 34 || s.peekRune == 96) with hq | hq
      · simp only [hq, if_true, hM, hG, ebind_ok]
        obtain ⟨hG3, hP3⟩ := loop3_eq k s.peekRune (i1.remaining.length + 1) fuel i1 hw1 (by omega) (by omega)
        rw [hG3]
        cases hrs : readString s.peekRune (i1.remaining.length + 1) i1 with
        | error e => simp [simI, simU, ebind_error]
        | ok i2 =>
          have := endToken_eq k .string i2
          rw [show kindCode .string = (-4 : Int) from rfl] at this
          simp only [simI_ok, ebind_ok, this, pure_eq_ok, simU, true_and]
          intro j' hj; cases hj; exact (hP3 i2 hrs).1
      · simp only [hq, Bool.false_eq_true, if_false]
        cases hid : isIdent s.peekRune
        · simp [simU]
        · simp only [Bool.not_true, Bool.false_eq_true, if_false]
          obtain ⟨hG4, hP4⟩ := loop4_eq k (s.remaining.length + 1) fuel s hws (by omega) (by omega)
          rw [hG4]
          cases hrs : readIdent (s.remaining.length + 1) s with
          | error e => simp [simI, simU, ebind_error]
          | ok i2 =>
            have := endToken_eq k .ident i2
            rw [show kindCode .ident = (-3 : Int) from rfl] at this
            simp only [simI_ok, ebind_ok, this, pure_eq_ok, simU, true_and]
            intro j' hj; cases hj; exact (hP4 i2 hrs).1

theorem readToken_eq (k : Int) (ts : Bytes) (i : Input) (hw : WF i) (fuel : Nat) (hf : i.remaining.length + 4 ≤ fuel) :
    Generated.Lex.input_readToken isPrintI isSpaceI fuel (embKT k ts i) = simU (readToken i) ∧
      ∀ j, readToken i = .ok j → WF j := by
  unfold Generated.Lex.input_readToken
  obtain ⟨hG1, hP1, hP2⟩ := loop1_eq k ts (i.remaining.length + 1) fuel i hw (by omega) hf
  rw [hG1, readToken_headM]
  cases hh : headM (i.remaining.length + 1) i with
  | error e => simp [simC, simU]
  | ok c =>
    cases c with
    | ret j =>
      simp only [simC, bind_ok, pure_eq_ok, simU, true_and]
      intro j' hj; cases hj; exact hP1 j hh
    | next j =>
      obtain ⟨hwj, hlej⟩ := hP2 j hh
      simp only [simC, bind_ok]
      exact rest_eq k ts j hwj fuel (by omega)

def simL : Except SynErr (Token × Input) → M (Generated.Lex.token × Generated.Lex.input)
  | .ok (t, j) => .ok (embTok t, emb j)
  | .error _ => .error .panic

theorem lex_eq (i : Input) (hw : WF i) (fuel : Nat) (hf : i.remaining.length + 4 ≤ fuel) :
    Generated.Lex.input_lex isPrintI isSpaceI fuel (emb i) = simL (lex i) ∧
      ∀ t j, lex i = .ok (t, j) → WF j ∧ j.remaining.length ≤ i.remaining.length := by
  unfold Generated.Lex.input_lex lex
  obtain ⟨hG, hP⟩ := readToken_eq (kindCode i.token.kind) _ i hw fuel hf
  show (do
    let t1 ← Generated.Lex.input_readToken isPrintI isSpaceI fuel
      (embKT (kindCode i.token.kind) (i.tokRev.reverse ++ i.remaining) i)
    _) = _ ∧ _
  rw [hG]
  cases hr : readToken i with
  | error e =>
    simp only [simU, ebind_error, simL, true_and]
    intro t j h; cases h
  | ok j =>
    simp only [simU, ebind_ok, pure_eq_ok, simL]
    refine ⟨rfl, ?_⟩
    intro t j' h; cases h
    refine ⟨hP j hr, ?_⟩
    rcases Proofs.ModfileLex.readToken_spec i with ⟨i', h1, h2, _⟩ | ⟨e, h1, _⟩
    · rw [hr] at h1; cases h1; exact h2
    · rw [hr] at h1; cases h1

/-! ### lexAll (Drv/LexOps.lean): `lex` until the EOF token -/

theorem kind_beq_eof (t : Token) : ((embTok t).kind == (-1 : Int)) = (t.kind == TokKind.eof) := by
  rw [Bool.eq_iff_iff]
  simp only [beq_iff_eq]
  exact kindCode_eq_eof t.kind

theorem lexAll_eq (fuel : Nat) : ∀ (n : Nat) (i : Input) (acc : List Token), WF i → i.remaining.length + 4 ≤ fuel →
    Drv.LexOps.G.lexAll fuel n (emb i) (acc.map embTok) =
      (Drv.LexOps.M.lexAll n i acc).map (fun p => (p.1.map embTok, emb p.2)) := by
  intro n
  induction n with
  | zero => intro i acc _ _; rfl
  | succ n ih =>
    intro i acc hw hf
    unfold Drv.LexOps.G.lexAll Drv.LexOps.M.lexAll
    obtain ⟨hG, hP⟩ := lex_eq i hw fuel hf
    rw [hG]
    cases hl : lex i with
    | error e => rfl
    | ok p =>
      obtain ⟨t, j⟩ := p
      simp only [simL, kind_beq_eof]
      cases hk : (t.kind == TokKind.eof)
      · simp only [Bool.false_eq_true, if_false]
        obtain ⟨hwj, hle⟩ := hP t j hl
        have := ih j (t :: acc) hwj (by omega)
        simpa using this
      · simp

theorem lexAll_wf : ∀ (n : Nat) (i : Input) (acc : List Token), WF i → ∀ {ts : List Token} {i' : Input},
    Drv.LexOps.M.lexAll n i acc = some (ts, i') → WF i' := by
  intro n
  induction n with
  | zero => intro i acc _ ts i' h; cases h
  | succ n ih =>
    intro i acc hw ts i' h
    unfold Drv.LexOps.M.lexAll at h
    obtain ⟨_, hP⟩ := lex_eq i hw (i.remaining.length + 4) (Nat.le_refl _)
    cases hl : lex i with
    | error e => rw [hl] at h; cases h
    | ok p =>
      obtain ⟨t, j⟩ := p
      rw [hl] at h
      simp only at h
      obtain ⟨hwj, _⟩ := hP t j hl
      split at h
      · cases h; exact hwj
      · exact ih j (t :: acc) hwj h

/-! ### the printers of Drv/LexOps.lean agree on embedded values (an `Int.ofNat n` prints as `n`) -/

theorem showPos_emb (p : Position) : Drv.LexOps.G.showPos (embPos p) = Drv.LexOps.M.showPos p := rfl
theorem showTok_emb (t : Token) : Drv.LexOps.G.showTok (embTok t) = Drv.LexOps.M.showTok t := rfl
theorem showComment_emb (c : Comment) : Drv.LexOps.G.showComment (embComment c) = Drv.LexOps.M.showComment c := rfl

theorem map_showTok_emb (ts : List Token) : (ts.map embTok).map Drv.LexOps.G.showTok = ts.map Drv.LexOps.M.showTok := by
  rw [List.map_map]; rfl

theorem map_showComment_emb (cs : List Comment) :
    (cs.map embComment).map Drv.LexOps.G.showComment = cs.map Drv.LexOps.M.showComment := by
  rw [List.map_map]; rfl

end ModVerif.TieFnLex
