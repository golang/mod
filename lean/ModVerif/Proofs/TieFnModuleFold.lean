/-
  Tie proofs for the regenerated module.go functions: the hypothesis `FoldOK` on `strings.EqualFold`
  (checkElem's reserved-Windows-name test) holds for EqualFold computed by simple case folding over the committed
  SimpleFold table (Basic/FoldTable.lean) — the executable stand-in `Drv.GenModule.equalFoldI` that the regenerated code
  is run with against the real implementation.  Reason: a rune folds to a digit or to an ASCII letter other than K and S
  only if it is that character or its other ASCII case (U+212A and U+017F are the only non-ASCII runes with an ASCII
  orbit, those of K and S), and no reserved name contains K or S.
-/
import ModVerif.Basic.FoldTable
import ModVerif.Basic.Utf8
import ModVerif.Model.Module
import ModVerif.Proofs.Utf8
namespace ModVerif.TieFnModule
open ModVerif

/-! ### facts about the SimpleFold table

  (`FoldTable.search` is stated over the constant `FoldTable.table`; unfolding it with `rw`/`unfold`/`split` makes the
  elaborator evaluate the 1454-entry table.  The step is therefore restated over an ARBITRARY table `t`.) -/

/-- one halving step of `FoldTable.search` over an arbitrary table -/
def foldStep (t : Array (Nat × Nat)) (r : Nat) (rec : Nat → Nat → Option Nat) (lo hi : Nat) : Option Nat :=
  if lo ≥ hi then none
  else
    let mid := (lo + hi) / 2
    match t[mid]? with
    | none => none
    | some (k, v) =>
      if k == r then some v
      else if k < r then rec (mid + 1) hi
      else rec lo mid

set_option maxRecDepth 10000 in
theorem fold_search_succ (r f lo hi : Nat) :
    FoldTable.search r (f + 1) lo hi = foldStep FoldTable.table r (FoldTable.search r f) lo hi := by
  delta foldStep
  rfl

theorem foldStep_mem (t : Array (Nat × Nat)) (r : Nat) (rec : Nat → Nat → Option Nat)
    (hrec : ∀ lo hi v, rec lo hi = some v → ∃ i : Nat, t[i]? = some (r, v)) :
    ∀ lo hi v, foldStep t r rec lo hi = some v → ∃ i : Nat, t[i]? = some (r, v) := by
  intro lo hi v h
  unfold foldStep at h
  split at h
  · cases h
  · simp only at h
    split at h
    · cases h
    · rename_i k w hm
      split at h
      · rename_i hk
        injection h with h
        subst h
        have hk' : k = r := by simpa using hk
        subst hk'
        exact ⟨_, hm⟩
      · split at h
        · exact hrec _ _ _ h
        · exact hrec _ _ _ h

theorem fold_search_mem (r : Nat) (fuel : Nat) : ∀ (lo hi v : Nat), FoldTable.search r fuel lo hi = some v →
    ∃ i : Nat, FoldTable.table[i]? = some (r, v) := by
  induction fuel with
  | zero =>
    intro lo hi v h
    have : FoldTable.search r 0 lo hi = none := rfl
    rw [this] at h; cases h
  | succ f ih =>
    intro lo hi v h
    rw [fold_search_succ] at h
    exact foldStep_mem FoldTable.table r _ ih lo hi v h


/-- the only table entries whose orbit minimum is ASCII: the 26 lower-case letters, U+017F (ſ ↦ S), U+212A (K ↦ K) -/
theorem fold_table_ascii : ∀ p ∈ FoldTable.table.toList, p.2 < 128 →
    (65 ≤ p.2 ∧ p.2 ≤ 90 ∧ p.1 = p.2 + 32) ∨ p = (383, 83) ∨ p = (8490, 75) := by
  decide +kernel

theorem foldMin_ascii : ∀ b : Nat, b < 128 → FoldTable.foldMin b = (Module.toUpperAscii (UInt8.ofNat b)).toNat := by
  decide +kernel

theorem foldMin_nonascii (r c : Nat) (hr : 128 ≤ r) (hc : c < 128) (h : FoldTable.foldMin r = c) : c = 83 ∨ c = 75 := by
  unfold FoldTable.foldMin at h
  cases hs : FoldTable.search r 16 0 FoldTable.table.size with
  | none => rw [hs] at h; simp only at h; omega
  | some m =>
    rw [hs] at h
    simp only at h
    subst h
    obtain ⟨i, hi⟩ := fold_search_mem r 16 _ _ _ hs
    have hmem : (r, m) ∈ FoldTable.table.toList := by
      rw [Array.getElem?_eq_some_iff] at hi
      obtain ⟨hlt, hget⟩ := hi
      rw [← hget]
      exact Array.mem_toList_iff.mpr (Array.getElem_mem hlt)
    rcases fold_table_ascii (r, m) hmem hc with ⟨_, _, h3⟩ | h3 | h3
    · simp only at h3; omega
    · injection h3 with _ h4; left; exact h4
    · injection h3 with _ h4; right; exact h4


/-! ### strings.EqualFold by simple folding (the executable stand-in `Drv.GenModule.equalFoldI`) against a reserved name -/

def foldRunes (s : Bytes) : List Nat := (Utf8.runes s).map FoldTable.foldMin

/-- strings.EqualFold as the driver computes it: rune-wise equality of the SimpleFold orbit minima -/
def equalFoldSimple (a b : Bytes) : Bool := foldRunes a == foldRunes b

/-- the bytes of the reserved Windows names: digits and upper-case ASCII letters other than K and S -/
def GoodNameByte (c : UInt8) : Prop := ((48 ≤ c ∧ c ≤ 57) ∨ (65 ≤ c ∧ c ≤ 90)) ∧ c ≠ 75 ∧ c ≠ 83

theorem goodNameByte_facts {c : UInt8} (h : GoodNameByte c) :
    c.toNat < 128 ∧ Module.toUpperAscii c = c ∧ c.toNat ≠ 75 ∧ c.toNat ≠ 83 := by
  obtain ⟨h1, h2, h3⟩ := h
  simp only [UInt8.le_iff_toNat_le] at h1
  have e48 : (48 : UInt8).toNat = 48 := rfl
  have e57 : (57 : UInt8).toNat = 57 := rfl
  have e65 : (65 : UInt8).toNat = 65 := rfl
  have e90 : (90 : UInt8).toNat = 90 := rfl
  rw [e48, e57, e65, e90] at h1
  refine ⟨by omega, ?_, ?_, ?_⟩
  · have : ¬ ((97 : UInt8) ≤ c ∧ c ≤ 122) := by
      simp only [UInt8.le_iff_toNat_le]
      have e97 : (97 : UInt8).toNat = 97 := rfl
      rw [e97]; omega
    simp [Module.toUpperAscii, this]
  · intro e; apply h2; apply UInt8.toNat_inj.mp; rw [e]; rfl
  · intro e; apply h3; apply UInt8.toNat_inj.mp; rw [e]; rfl

theorem foldRunes_nil : foldRunes [] = [] := rfl

theorem foldRunes_cons_ascii (b : UInt8) (s : Bytes) (h : b.toNat < 128) :
    foldRunes (b :: s) = (Module.toUpperAscii b).toNat :: foldRunes s := by
  simp only [foldRunes, Utf8.runes_cons_ascii b s h, List.map_cons, foldMin_ascii b.toNat h]
  simp

theorem equalFoldSimple_reserved : ∀ (bad : Bytes), (∀ c ∈ bad, GoodNameByte c) → ∀ s : Bytes,
    (foldRunes bad = foldRunes s ↔ s.map Module.toUpperAscii = bad) := by
  intro bad
  induction bad with
  | nil =>
    intro _ s
    cases s with
    | nil => simp [foldRunes_nil]
    | cons b s =>
      have : foldRunes (b :: s) ≠ [] := by
        by_cases hb : b.toNat < 128
        · rw [foldRunes_cons_ascii b s hb]; simp
        · obtain ⟨r, rs, hr, _⟩ := Utf8.runes_cons_nonascii b s (by omega)
          simp [foldRunes, hr]
      simp [foldRunes_nil]
      exact this
  | cons c bad ih =>
    intro hgood s
    obtain ⟨hc1, hc2, hc3, hc4⟩ := goodNameByte_facts (hgood c (by simp))
    have ih' := ih (fun x hx => hgood x (by simp [hx]))
    rw [foldRunes_cons_ascii c bad hc1, hc2]
    cases s with
    | nil => simp [foldRunes_nil]
    | cons b s =>
      by_cases hb : b.toNat < 128
      · rw [foldRunes_cons_ascii b s hb]
        simp only [List.cons.injEq, List.map_cons, ih' s]
        constructor
        · rintro ⟨h1, h2⟩; exact ⟨(UInt8.toNat_inj.mp h1).symm, h2⟩
        · rintro ⟨h1, h2⟩; exact ⟨by rw [h1], h2⟩
      · obtain ⟨r, rs, hr, hge⟩ := Utf8.runes_cons_nonascii b s (by omega)
        have hup : Module.toUpperAscii b = b := by
          have : ¬ ((97 : UInt8) ≤ b ∧ b ≤ 122) := by
            simp only [UInt8.le_iff_toNat_le]
            have e122 : (122 : UInt8).toNat = 122 := rfl
            rw [e122]; omega
          simp [Module.toUpperAscii, this]
        simp only [foldRunes, hr, List.map_cons, List.cons.injEq, hup]
        constructor
        · rintro ⟨h1, _⟩
          rcases foldMin_nonascii r c.toNat hge hc1 h1.symm with h | h
          · exact absurd h hc4
          · exact absurd h hc3
        · rintro ⟨h1, _⟩
          rw [h1] at hb; exact absurd hc1 hb

theorem equalFoldSimple_eq (bad : Bytes) (hgood : ∀ c ∈ bad, GoodNameByte c) (s : Bytes) :
    equalFoldSimple bad s = Module.equalFoldAscii bad s := by
  unfold equalFoldSimple Module.equalFoldAscii
  rw [Bool.eq_iff_iff, beq_iff_eq, beq_iff_eq]
  exact equalFoldSimple_reserved bad hgood s

end ModVerif.TieFnModule
