/-
  C10 structural fact (a) (the facts (a)–(d) are those listed in DESIGN.md §6 C10): the tree-hash indexes (`subTreeIndex 0 N`, a `Cover` of `[0, N)`) lie in the right-edge
  tiles of their tile levels, and together they cover every hash of every right-edge partial tile.
-/
import ModVerif.Proofs.TileAuthTile
import ModVerif.Proofs.TlogStoreTree
namespace ModVerif.TileAuth
open ModVerif ModVerif.Tlog ModVerif.Tile ModVerif.TlogStore

/-- a block `(b, c)` of the cover of `[0, N)`: inside the tree, the largest that fits, and a left child (or the root) -/
def BlockOK (N : Nat) (c : Nat × Nat) : Prop :=
  (c.2 + 1) * 2 ^ c.1 ≤ N ∧ N < c.2 * 2 ^ c.1 + 2 ^ (c.1 + 1) ∧ c.2 % 2 = 0

theorem cover_props : ∀ cs lo hi, Cover cs lo hi → (∃ j, 2 ^ j ∣ lo ∧ hi - lo < 2 ^ j) → ∀ c ∈ cs, BlockOK hi c := by
  intro cs
  induction cs with
  | nil => intro lo hi _ _ c hc; simp at hc
  | cons c0 cs ih =>
    intro lo hi h hal c hc
    obtain ⟨l, k⟩ := c0
    simp only [Cover] at h
    obtain ⟨h1, h2, h3, h4⟩ := h
    have hp := Nat.two_pow_pos l
    rcases List.mem_cons.mp hc with e | e
    · subst e
      obtain ⟨j, hj1, hj2⟩ := hal
      refine ⟨by simp only; rw [Nat.add_mul]; omega, by simp only; omega, ?_⟩
      simp only
      have hlj : l + 1 ≤ j := by
        apply Nat.le_of_not_lt
        intro hc'
        have := Nat.pow_le_pow_right (n := 2) (by omega) (Nat.le_of_lt_succ hc')
        omega
      have hd : 2 ^ (l + 1) ∣ k * 2 ^ l := by
        rw [h1]; exact Nat.dvd_trans (Nat.pow_dvd_pow 2 hlj) hj1
      obtain ⟨z, hz⟩ := hd
      have : k * 2 ^ l = (2 * z) * 2 ^ l := by rw [hz, Nat.pow_succ]; ac_rfl
      have := Nat.eq_of_mul_eq_mul_right hp this
      omega
    · exact ih (lo + 2 ^ l) hi h4 ⟨l, Nat.dvd_add (by rw [← h1]; exact Nat.dvd_mul_left _ _) (Nat.dvd_refl _),
        by rw [Nat.pow_succ] at h3; omega⟩ c e

theorem cover_find : ∀ cs lo hi, Cover cs lo hi → ∀ a, lo ≤ a → a < hi →
    ∃ c ∈ cs, c.2 * 2 ^ c.1 ≤ a ∧ a < (c.2 + 1) * 2 ^ c.1 := by
  intro cs
  induction cs with
  | nil => intro lo hi h a h1 h2; simp [Cover] at h; omega
  | cons c0 cs ih =>
    intro lo hi h a ha1 ha2
    obtain ⟨l, k⟩ := c0
    simp only [Cover] at h
    obtain ⟨h1, h2, h3, h4⟩ := h
    by_cases hlt : a < lo + 2 ^ l
    · exact ⟨(l, k), by simp, by simp only; omega, by simp only; rw [Nat.add_mul]; omega⟩
    · obtain ⟨c, hc, hc'⟩ := ih (lo + 2 ^ l) hi h4 a (by omega) ha2
      exact ⟨c, by simp [hc], hc'⟩

theorem strictAligned_zero (N : Nat) : ∃ j, 2 ^ j ∣ 0 ∧ N - 0 < 2 ^ j :=
  ⟨N, Nat.dvd_zero _, by have := Nat.lt_two_pow_self (n := N); omega⟩

/-- (a), first half: the tile of a tree-hash index is the right-edge tile of its level -/
theorem block_tile_rightmost (h N : Nat) (hh : 0 < h) (c : Nat × Nat) (hc : BlockOK N c) :
    tnum h c.1 c.2 = cnt h N (c.1 / h + 1) := by
  obtain ⟨b, c⟩ := c
  obtain ⟨h1, h2, h3⟩ := hc
  simp only at h1 h2 h3 ⊢
  unfold tnum cnt
  have hr := Nat.mod_lt b hh
  have hq : 1 ≤ h - b % h := by omega
  have hP : 2 ^ ((b / h + 1) * h) = 2 ^ (h - b % h) * 2 ^ b := by
    rw [← Nat.pow_add]; congr 1
    have := lv_split h b
    rw [Nat.add_mul]; omega
  rw [hP]
  symm
  have hQ2 : 2 ^ (h - b % h) = 2 * 2 ^ (h - b % h - 1) := by
    rw [← Nat.pow_succ']; congr 1; omega
  have hQ'pos := Nat.two_pow_pos (h - b % h - 1)
  generalize 2 ^ (h - b % h) = Q at *
  generalize 2 ^ (h - b % h - 1) = Q' at *
  have hA := Nat.two_pow_pos b
  rw [Nat.pow_succ] at h2
  generalize 2 ^ b = A at *
  have hQpos : 0 < Q := by omega
  have hdm := Nat.div_add_mod c Q
  have hv := Nat.mod_lt c hQpos
  have hv2 : (c % Q) % 2 = 0 := by
    rw [Nat.mod_mod_of_dvd _ ⟨Q', hQ2⟩]; exact h3
  have hv3 : c % Q + 2 ≤ Q := by omega
  apply Nat.div_eq_of_lt_le
  · -- (c / Q) * (Q * A) ≤ N
    have : c / Q * (Q * A) ≤ c * A := by
      rw [← Nat.mul_assoc]; apply Nat.mul_le_mul_right
      rw [Nat.mul_comm]; omega
    have h1' : c * A + A ≤ N := by
      have := h1; rw [Nat.add_mul, Nat.one_mul] at this; exact this
    omega
  · -- N < (c / Q + 1) * (Q * A)
    have e1 : c * A = c / Q * (Q * A) + c % Q * A := by
      rw [← Nat.mul_assoc, ← Nat.add_mul]; congr 1
      rw [Nat.mul_comm]; omega
    have e2 : (c % Q + 2) * A ≤ Q * A := Nat.mul_le_mul_right _ hv3
    rw [Nat.add_mul] at e2
    rw [Nat.add_mul, Nat.one_mul]
    omega

/-- (a), second half: every hash of a right-edge tile lies under a tree-hash index of that tile -/
theorem block_cover (h N : Nat) (hh : 0 < h) (cs : List (Nat × Nat)) (hcov : Cover cs 0 N) (L m : Nat)
    (hm : m < cnt h N L) (hedge : cnt h N (L + 1) * 2 ^ h ≤ m) :
    ∃ c ∈ cs, c.1 / h = L ∧ tnum h c.1 c.2 = m / 2 ^ h ∧ ts h c.1 c.2 ≤ m % 2 ^ h ∧
      m % 2 ^ h < ts h c.1 c.2 + 2 ^ (c.1 % h) := by
  have hmv : (m + 1) * 2 ^ (L * h) ≤ N := (valid_iff h N L m).mpr hm
  have hpL := Nat.two_pow_pos (L * h)
  obtain ⟨c, hc, hc1, hc2⟩ := cover_find cs 0 N hcov (m * 2 ^ (L * h)) (Nat.zero_le _)
    (by rw [Nat.add_mul] at hmv; omega)
  obtain ⟨hb1, hb2, _⟩ := cover_props cs 0 N hcov (strictAligned_zero N) c hc
  obtain ⟨b, c⟩ := c
  simp only at hc1 hc2 hb1 hb2 ⊢
  refine ⟨(b, c), hc, ?_⟩
  simp only
  have hlo : L * h ≤ b := by
    apply Nat.le_of_not_lt
    intro hlt
    have := Nat.pow_le_pow_right (n := 2) (by omega) (show b + 1 ≤ L * h by omega)
    rw [Nat.add_mul] at hmv
    omega
  have hhi : b < (L + 1) * h := by
    apply Nat.lt_of_not_le
    intro hge
    have hz : 2 ^ b = 2 ^ (b - (L + 1) * h) * 2 ^ ((L + 1) * h) := by
      rw [← Nat.pow_add]; congr 1; omega
    have h1 : (c + 1) * 2 ^ (b - (L + 1) * h) ≤ cnt h N (L + 1) := by
      unfold cnt
      rw [Nat.le_div_iff_mul_le (Nat.two_pow_pos _), Nat.mul_assoc, ← hz]
      exact hb1
    have h2 : (c + 1) * 2 ^ (b - (L + 1) * h) * 2 ^ h ≤ m := Nat.le_trans (Nat.mul_le_mul_right _ h1) hedge
    have h3 : (c + 1) * 2 ^ (b - (L + 1) * h) * 2 ^ h * 2 ^ (L * h) ≤ m * 2 ^ (L * h) := Nat.mul_le_mul_right _ h2
    have h4 : (c + 1) * 2 ^ (b - (L + 1) * h) * 2 ^ h * 2 ^ (L * h) = (c + 1) * 2 ^ b := by
      rw [hz]
      simp only [Nat.mul_assoc]
      congr 2
      rw [← Nat.pow_add]; congr 1
      rw [Nat.add_mul]; omega
    omega
  have hbL : b / h = L := by
    apply Nat.div_eq_of_lt_le
    · exact hlo
    · exact hhi
  have hr : b % h = b - L * h := by
    have := lv_split h b
    rw [hbL] at this; omega
  have hb : 2 ^ b = 2 ^ (b % h) * 2 ^ (L * h) := by
    rw [← Nat.pow_add]; congr 1; omega
  have hc1' : c * 2 ^ (b % h) ≤ m := by
    rw [hb, ← Nat.mul_assoc] at hc1
    exact Nat.le_of_mul_le_mul_right hc1 hpL
  have hc2' : m < (c + 1) * 2 ^ (b % h) := by
    rw [hb, ← Nat.mul_assoc] at hc2
    exact Nat.lt_of_mul_lt_mul_right hc2
  have hpr := Nat.two_pow_pos (b % h)
  have hmr : m / 2 ^ (b % h) = c := by
    apply Nat.div_eq_of_lt_le
    · exact hc1'
    · exact hc2'
  have htn : tnum h b c = m / 2 ^ h := by
    unfold tnum
    rw [two_pow_split h b hh, Nat.mul_comm, ← Nat.div_div_eq_div_mul, hmr]
  have hts := tnum_ts h b c hh
  have hdm := Nat.div_add_mod m (2 ^ h)
  rw [Nat.mul_comm, ← htn] at hdm
  rw [Nat.add_mul] at hc2'
  refine ⟨hbL, htn, by omega, by omega⟩

end ModVerif.TileAuth
