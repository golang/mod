/-
  Tie proofs for sumdb/tlog/note.go (Generated/FnTlogNote.lean vs Model/TlogNote.lean):
  isValidRecordText (the rune loop), FormatRecord, ParseRecord (bytes.IndexByte, bytes.Index(msg, "\n\n")).
-/
import ModVerif.Proofs.TieFnTlogNote
namespace ModVerif.TieFnTlogNote
open ModVerif ModVerif.GoRt ModVerif.GoRtTile ModVerif.GoRtNote

/-! ### the model's rune walk, one rune at a time -/

theorem aux_skip : ∀ (k last : Nat) (s : Bytes), k ≤ s.length →
    TlogNote.isValidRecordTextAux k last s = TlogNote.isValidRecordTextAux 0 last (s.drop k)
  | 0, _, _, _ => rfl
  | k + 1, last, [], h => by simp at h
  | k + 1, last, _ :: rest, h => by
    simp only [TlogNote.isValidRecordTextAux, List.drop_succ_cons]
    exact aux_skip k last rest (by simp at h; omega)

theorem aux_step (last : Nat) (s : Bytes) (hs : s ≠ []) :
    TlogNote.isValidRecordTextAux 0 last s =
      match Utf8.decode s with
      | none => false
      | some (r, w) =>
        if (r < 0x20 && r != 10) || (last == 10 && r == 10) then false
        else TlogNote.isValidRecordTextAux 0 r (s.drop w) := by
  cases s with
  | nil => exact absurd rfl hs
  | cons b rest =>
    simp only [TlogNote.isValidRecordTextAux]
    cases hd : Utf8.decode (b :: rest) with
    | none => rfl
    | some rw =>
      obtain ⟨r, w⟩ := rw
      have hw := GoRtStr.decode_width hd
      simp only
      split
      · rfl
      · obtain ⟨w', rfl⟩ : ∃ w', w = w' + 1 := ⟨w - 1, by omega⟩
        simp only [Nat.add_sub_cancel, List.drop_succ_cons]
        exact aux_skip w' r rest (by simp at hw; omega)

/-- what `isValidRecordText` does with the loop result -/
def post : Ctl Bool (Int × Int) → Bool
  | .ret b => b
  | .next (_, last) => decide (last = 10)

theorem loop1_spec (text : Bytes) : ∀ (fuel k lastN : Nat), k ≤ text.length → text.length - k < fuel →
    ∃ r, Generated.TlogNote.isValidRecordText_loop1 text fuel (k : Int) (lastN : Int) = .ok r ∧
      post r = TlogNote.isValidRecordTextAux 0 lastN (text.drop k) := by
  intro fuel
  induction fuel with
  | zero => intro k lastN _ h; omega
  | succ fuel ih =>
    intro k lastN hk hf
    rw [Generated.TlogNote.isValidRecordText_loop1]
    by_cases hlt : k < text.length
    · have hc : decide ((k : Int) < len text) = true := decide_eq_true (by rw [len_eq]; omega)
      simp only [hc, if_true]
      rw [sliceFrom_natCast hk]
      simp only [bind_ok]
      have hne : text.drop k ≠ [] := by
        intro h; have := congrArg List.length h; simp at this; omega
      rw [decodeRune_of_ne_nil _ hne, aux_step lastN _ hne]
      unfold Utf8.decodeRune
      cases hd : Utf8.decode (text.drop k) with
      | none =>
        refine ⟨Ctl.ret false, ?_, rfl⟩
        simp [Utf8.runeError]
      | some rw =>
        obtain ⟨r, w⟩ := rw
        have hw := GoRtStr.decode_width hd
        have hw1 : w = 1 → r < 0x80 := by intro e; subst e; exact decode_width_one hd
        simp only
        have hnot : (decide (((r : Nat) : Int) = 65533) && decide (((w : Nat) : Int) = 1)) = false := by
          by_cases e : w = 1
          · have := hw1 e
            have : ¬ (((r : Nat) : Int) = 65533) := by omega
            simp [this]
          · have : ¬ (((w : Nat) : Int) = 1) := by omega
            simp [this]
        have e1 : decide (((r : Nat) : Int) < 32) = decide (r < 0x20) := decide_eq_decide.mpr (by omega)
        have e2 : (!decide (((r : Nat) : Int) = 10)) = (r != 10) := by
          by_cases h : r = 10
          · subst h; rfl
          · have h' : ¬ (((r : Nat) : Int) = 10) := by omega
            simp [h, h']
        have e3 : decide (((lastN : Nat) : Int) = 10) = (lastN == 10) := by
          by_cases h : lastN = 10
          · subst h; rfl
          · have h' : ¬ (((lastN : Nat) : Int) = 10) := by omega
            simp [h, h']
        have e4 : decide (((r : Nat) : Int) = 10) = (r == 10) := by
          by_cases h : r = 10
          · subst h; rfl
          · have h' : ¬ (((r : Nat) : Int) = 10) := by omega
            simp [h, h']
        rw [e2, e1, hnot, e3, e4, Bool.or_false]
        by_cases hbad : ((decide (r < 0x20) && r != 10) || (lastN == 10 && r == 10)) = true
        · rw [if_pos hbad, if_pos hbad]
          exact ⟨Ctl.ret false, rfl, rfl⟩
        · rw [if_neg hbad, if_neg hbad]
          have hlen : (text.drop k).length = text.length - k := by simp
          have hkw : k + w ≤ text.length := by omega
          obtain ⟨res, h1, h2⟩ := ih (k + w) r hkw (by omega)
          refine ⟨res, ?_, ?_⟩
          · rw [← h1]; simp only [Int.natCast_add]
          · rw [h2, List.drop_drop]
    · have hc : decide ((k : Int) < len text) = false := decide_eq_false (by rw [len_eq]; omega)
      have hke : k = text.length := by omega
      simp only [hc, Bool.false_eq_true, if_false]
      refine ⟨Ctl.next ((k : Int), (lastN : Int)), rfl, ?_⟩
      subst hke
      simp only [post, List.drop_length, TlogNote.isValidRecordTextAux]
      by_cases h : lastN = 10
      · subst h; rfl
      · have h' : ¬ (((lastN : Nat) : Int) = 10) := by omega
        simp [h, h']

theorem isValidRecordText_eq (text : Bytes) (fuel : Nat) (hf : text.length + 1 ≤ fuel) :
    Generated.TlogNote.isValidRecordText fuel text = .ok (TlogNote.isValidRecordText text) := by
  obtain ⟨r, h1, h2⟩ := loop1_spec text fuel 0 0 (Nat.zero_le _) (by omega)
  unfold Generated.TlogNote.isValidRecordText TlogNote.isValidRecordText
  have h1' : Generated.TlogNote.isValidRecordText_loop1 text fuel 0 0 = .ok r := h1
  simp only [h1', bind_ok]
  simp only [List.drop_zero] at h2
  rw [← h2]
  cases r with
  | ret b => rfl
  | next s =>
    obtain ⟨i, last⟩ := s
    simp only [post]
    by_cases h : last = 10 <;> simp [h]

/-! ### FormatRecord -/

/-- the result of the model's `formatRecord` in the result type of the generated one -/
def frOut : Option Bytes → Bytes × Option String
  | some m => (m, none)
  | none => ([], some "errMalformedRecord")

theorem FormatRecord_eq (id : Int) (text : Bytes) (fuel : Nat) (hf : text.length + 1 ≤ fuel) :
    Generated.TlogNote.FormatRecord fuel id text = .ok (frOut (TlogNote.formatRecord id text)) := by
  unfold Generated.TlogNote.FormatRecord TlogNote.formatRecord
  rw [isValidRecordText_eq text fuel hf]
  simp only [bind_ok]
  have e : mkByte 10 = 10 := by decide
  cases h : TlogNote.isValidRecordText text with
  | false => rfl
  | true =>
    simp only [Bool.not_true, Bool.false_eq_true, if_false, itoa_eq, e, pure_eq_ok, frOut]

/-! ### ParseRecord -/

theorem dropWhile_of_not_mem {c : UInt8} : ∀ {s : Bytes}, c ∉ s → s.dropWhile (· != c) = []
  | [], _ => rfl
  | x :: xs, h => by
    have h1 : x ≠ c := fun e => h (by simp [e])
    have h2 : c ∉ xs := fun e => h (by simp [e])
    simp [h1, dropWhile_of_not_mem h2]


/-- the result of the model's `parseRecord` in the result type of the generated one -/
def prOut : Option (Int × Bytes × Bytes) → Int × Bytes × Bytes × Option String
  | some (id, text, rest) => (id, text, rest, none)
  | none => (0, [], [], some "errMalformedRecord")

/-- `bytes.Index(msg, "\n\n")` is the model's `splitBlank` -/
theorem indexAux_blank : ∀ (s : Bytes) (k : Nat),
    match TlogNote.splitBlank s with
    | none => indexAux [10, 10] s k = -1
    | some (pre, post) => indexAux [10, 10] s k = ((k + pre.length : Nat) : Int) ∧ s = pre ++ 10 :: 10 :: post
  | [], k => by simp [TlogNote.splitBlank, indexAux]
  | [a], k => by simp [TlogNote.splitBlank, indexAux, isPrefixOfB]
  | a :: b :: rest, k => by
    have ih := indexAux_blank (b :: rest) (k + 1)
    rw [TlogNote.splitBlank]
    by_cases h : (a == 10 && b == 10) = true
    · simp only [h, if_true]
      have h' := h
      simp only [Bool.and_eq_true, beq_iff_eq] at h'
      obtain ⟨rfl, rfl⟩ := h'
      simp [indexAux, isPrefixOfB]
    · simp only [h, Bool.false_eq_true, if_false]
      have hp : isPrefixOfB [10, 10] (a :: b :: rest) = false := by
        simp only [isPrefixOfB, Bool.and_true]
        simp only [Bool.and_eq_true, beq_iff_eq, not_and] at h
        cases h1 : ((10 : UInt8) == a) with
        | false => rfl
        | true =>
          have ha : a = 10 := by simpa using (beq_iff_eq.mp h1).symm
          have hb := h ha
          simp only [Bool.true_and]
          simpa using fun e : (10 : UInt8) = b => hb e.symm
      rw [indexAux]
      simp only [hp, Bool.false_eq_true, if_false]
      cases hsb : TlogNote.splitBlank (b :: rest) with
      | none => rw [hsb] at ih; exact ih
      | some pp =>
        obtain ⟨pre, post⟩ := pp
        rw [hsb] at ih
        simp only at ih ⊢
        refine ⟨?_, ?_⟩
        · rw [ih.1]; simp only [List.length_cons]; congr 1; omega
        · rw [ih.2]; rfl

theorem ParseRecord_eq (msg : Bytes) (fuel : Nat) (hf : msg.length + 1 ≤ fuel) :
    Generated.TlogNote.ParseRecord fuel msg = .ok (prOut (TlogNote.parseRecord msg)) := by
  unfold Generated.TlogNote.ParseRecord TlogNote.parseRecord
  rw [indexByte_eq msg 10 10 (by decide), span_eq]
  by_cases hm : (10 : UInt8) ∈ msg
  · simp only [hm, if_true]
    have hlen := length_takeWhile_le (· != (10 : UInt8)) msg
    have hneg : ¬ ((((msg.takeWhile (· != (10 : UInt8))).length : Nat) : Int) < 0) := by omega
    simp only [hneg, decide_false, Bool.false_eq_true, if_false]
    rw [sliceTo_natCast hlen, take_length_takeWhile]
    simp only [bind_ok]
    -- the part after the first newline
    have hsplit : msg.dropWhile (· != (10 : UInt8)) = 10 :: msg.drop ((msg.takeWhile (· != (10 : UInt8))).length + 1) := by
      have h1 := drop_length_takeWhile (· != (10 : UInt8)) msg
      cases hd : msg.dropWhile (· != (10 : UInt8)) with
      | nil => exact absurd hm (dropWhile_nil_not_mem hd)
      | cons x rest =>
        have := (mem_of_dropWhile_cons hd).1
        subst this
        rw [hd] at h1
        rw [← List.drop_drop, h1]; rfl
    rw [hsplit]
    simp only
    cases hp : Decimal.parseInt64 (msg.takeWhile (· != (10 : UInt8))) with
    | none =>
      have := parseInt_none _ hp
      simp only [this, Bool.not_false, if_true]; rfl
    | some idv =>
      rw [parseInt_some _ idv hp]
      simp only [Option.isNone_none, Bool.not_true, Bool.false_eq_true, if_false]
      have hlt : (msg.takeWhile (· != (10 : UInt8))).length < msg.length := by
        have h1 := drop_length_takeWhile (· != (10 : UInt8)) msg
        rw [hsplit] at h1
        have := congrArg List.length h1
        simp at this; omega
      have e1 : (((msg.takeWhile (· != (10 : UInt8))).length : Nat) : Int) + 1 =
          (((msg.takeWhile (· != (10 : UInt8))).length + 1 : Nat) : Int) := by simp
      rw [e1, sliceFrom_natCast (by omega)]
      simp only [bind_ok]
      generalize msg.drop ((msg.takeWhile (· != (10 : UInt8))).length + 1) = m2 at *
      have hb := indexAux_blank m2 0
      unfold index
      cases hsb : TlogNote.splitBlank m2 with
      | none =>
        rw [hsb] at hb
        simp only at hb
        rw [hb]
        rfl
      | some pp =>
        obtain ⟨pre, post⟩ := pp
        rw [hsb] at hb
        simp only [Nat.zero_add] at hb
        obtain ⟨hb1, hb2⟩ := hb
        rw [hb1]
        have hneg2 : ¬ (((pre.length : Nat) : Int) < 0) := by omega
        simp only [hneg2, decide_false, Bool.false_eq_true, if_false]
        have e2 : ((pre.length : Nat) : Int) + 1 = ((pre.length + 1 : Nat) : Int) := by simp
        have e3 : ((pre.length : Nat) : Int) + 2 = ((pre.length + 2 : Nat) : Int) := by simp
        have hl2 : m2.length = pre.length + 2 + post.length := by rw [hb2]; simp; omega
        rw [e2, e3, sliceTo_natCast (by omega), sliceFrom_natCast (by omega)]
        simp only [bind_ok]
        have t1 : m2.take (pre.length + 1) = pre ++ [10] := by
          rw [hb2]
          have : pre ++ 10 :: 10 :: post = (pre ++ [10]) ++ 10 :: post := by simp
          rw [this, List.take_left' (by simp)]
        have t2 : m2.drop (pre.length + 2) = post := by
          rw [hb2]
          have : pre ++ 10 :: 10 :: post = (pre ++ [10, 10]) ++ post := by simp
          rw [this, List.drop_left' (by simp)]
        rw [t1, t2]
        have hfl : (pre ++ [10]).length + 1 ≤ fuel := by
          simp only [List.length_append, List.length_cons, List.length_nil]
          have : m2.length ≤ msg.length := by
            have h1 := congrArg List.length hsplit
            have h0 := drop_length_takeWhile (· != (10 : UInt8)) msg
            have h3 := congrArg List.length h0
            simp at h1 h3
            omega
          omega
        rw [isValidRecordText_eq _ fuel hfl]
        simp only [bind_ok]
        cases TlogNote.isValidRecordText (pre ++ [10]) <;> rfl
  · simp only [hm, if_false]
    have hd : msg.dropWhile (· != (10 : UInt8)) = [] := dropWhile_of_not_mem hm
    rw [hd]
    rfl

end ModVerif.TieFnTlogNote
