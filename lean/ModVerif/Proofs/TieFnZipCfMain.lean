/-
  Tie proof, zip/zip.go `checkFiles`: one iteration of the main loop (`checkFiles_loop3`) is one `Zip.stepFile` of the
  model's `mainPass`, and the loop is the fold.  Also the fuel bound of the whole function.
-/
import ModVerif.Tie.FnZip
import ModVerif.Proofs.TieFnZipCfPre
import ModVerif.Proofs.TieFnZipCfBase
import ModVerif.Proofs.ZipAPath

/-
  Tie proof, zip/zip.go `checkFiles`: the hoisted closure `inSubmodule` with its loop (`checkFiles_loop2`) is the model's
  `Zip.inSubmodule` (some directory prefix of the path is a key of `haveGoMod`).  The Go loop walks the directory
  prefixes from the longest to the shortest (`path.Split`, then cut the trailing slash); the model lists them shortest
  first (`dirPrefixes`).  No panic: the loop always returns (the `Ctl.next` exit of the translated `for {}` is dead).
-/
namespace ModVerif.TieFnZipCf
open ModVerif ModVerif.GoRt ModVerif.GoRtZip ModVerif.TieFnZip
open ModVerif.PathClean

section
variable {cfp : Bytes → Option String} {ef : Bytes → Bytes → Bool} {pgv : Bytes → Bytes → Bytes} {sf : Int → Int}
  {tl : Bytes → Bytes} {vc : Bytes → Bytes → Int} {vl : Bytes → Bytes}

theorem loop2_eq (l : List Bytes) : ∀ (fuel : Nat) (p : Bytes), p.length + 1 ≤ fuel →
    Generated.Zip.checkFiles_loop2 cfp ef pgv sf tl vc vl (hgOf l) fuel p = .ok (Ctl.ret (Zip.inSubmodule l p)) := by
  intro fuel
  induction fuel with
  | zero => intro p h; omega
  | succ fuel ih =>
    intro p hf
    rw [Generated.Zip.checkFiles_loop2]
    rcases Proofs.ZipA.last_slash p with h | ⟨a, b, rfl, hb⟩
    · have hs : GoRt.pathSplit p = ([], p) := Proofs.ZipB.pathSplit_noSlash p h
      rw [hs, Proofs.Zip.inSubmodule_noSlash l p h]
      rfl
    · have hs : GoRt.pathSplit (a ++ 47 :: b) = (a ++ [47], b) := Proofs.ZipB.pathSplit_append a b hb
      rw [hs, Proofs.Zip.inSubmodule_split l a b hb]
      have hne : (a ++ [47] : Bytes) ≠ [] := by simp
      simp only [hne, decide_false, Bool.false_eq_true, if_false, mapGet_hgOf]
      cases hc : l.contains (a ++ [47]) with
      | true => rfl
      | false =>
        simp only [Bool.false_eq_true, if_false, Bool.false_or]
        have hl : len (a ++ [47] : Bytes) - 1 = (a.length : Int) := by simp [len_eq]
        rw [hl, sliceTo_natCast (by simp)]
        simp only [bind_ok, List.take_left']
        exact ih a (by simp at hf; omega)

theorem inSubmodule_eq (l : List Bytes) (fuel : Nat) (p : Bytes) (hf : p.length + 1 ≤ fuel) :
    Generated.Zip.checkFiles_inSubmodule cfp ef pgv sf tl vc vl fuel (hgOf l) p = .ok (Zip.inSubmodule l p) := by
  unfold Generated.Zip.checkFiles_inSubmodule
  rw [loop2_eq l fuel p hf]
  rfl

end

end ModVerif.TieFnZipCf

namespace ModVerif.TieFnZipCf
open ModVerif ModVerif.GoRt ModVerif.GoRtZip ModVerif.TieFnZip
open ModVerif.Generated.Zip (pathInfo File FileError CheckedFiles)
open ModVerif.Proofs.ZipA (ccCheck_reason ccCheckTop_ne_panic)
open ModVerif.Drv.GenZip (toGFile modeBits)

/-- `module.CheckFilePath` as the driver instantiates it from the model's predicate -/
def cfpOf (E : Zip.Env) : Bytes → Option String := fun p => if E.cfp p then none else some "filepath"

theorem cfpOf_isNone (E : Zip.Env) (p : Bytes) : (!(cfpOf E p).isNone) = !E.cfp p := by
  unfold cfpOf; cases E.cfp p <;> rfl

theorem cfpOf_rejected {E : Zip.Env} {p : Bytes} (h : (!E.cfp p) = true) : cfpOf E p = some "filepath" := by
  unfold cfpOf
  cases hc : E.cfp p with
  | true => rw [hc] at h; cases h
  | false => rfl

theorem check_cleanRel (sf : Int → Int) (K : Nat) (hsf : FoldsTo sf K) (fuel : Nat) (cc : Zip.CC) (p : Bytes)
    (d : Bool) (hp : Proofs.ZipA.CleanRel p) (hf : 3 * p.length + K + 5 ≤ fuel) :
    Generated.Zip.collisionChecker_check sf fuel (ofCC cc) p d =
      .ok ((Zip.ccCheckTop Zip.strToFold cc p d).2.map reasonText, ofCC (Zip.ccCheckTop Zip.strToFold cc p d).1) := by
  rw [Tie.FnZip.collisionChecker_check_tie_cleanRel sf K hsf fuel (ofCC cc) p d hp hf, toCC_ofCC]
  unfold ccOut
  congr 2
  cases hr : (Zip.ccCheckTop Zip.strToFold cc p d).2 with
  | none => rfl
  | some e =>
    -- on the three collision reasons `errText` is `reasonText`
    rcases ccCheck_reason _ _ _ _ _ e hr with rfl | rfl | rfl | rfl
    · rfl
    · rfl
    · rfl
    · exact absurd hr (ccCheckTop_ne_panic _ cc d hp)

section
variable {cfp : Bytes → Option String} {ef : Bytes → Bytes → Bool} {pgv : Bytes → Bytes → Bytes} {sf : Int → Int}
  {tl : Bytes → Bytes} {vc : Bytes → Bytes → Int} {vl : Bytes → Bytes}

/-- the carried variables of loop 3 as a function of the model's state -/
def run3 {X : Type}
    (L : List (Bytes × Unit) → CheckedFiles → List (Bytes × pathInfo) → Int → List File → List Int → M X)
    (s : Zip.St) : M X :=
  L (epOf s.errPaths) (embCF s.cf) (ofCC s.cc) s.maxSize (s.validFiles.map toGFile) (s.validFiles.map (·.size))

/-- a call of `addError` followed by the next iteration -/
theorem ae_run {X : Type} {txt : String} (r : Zip.Reason) (h : reasonText r = txt) (s : Zip.St) {path : Bytes}
    {omitted : Bool} {fuel : Nat} {vf : List File} {vs : List Int}
    {L : List (Bytes × Unit) → CheckedFiles → List (Bytes × pathInfo) → Int → List File → List Int → M X} :
    (Generated.Zip.checkFiles_addError cfp ef pgv sf tl vc vl fuel vf vs path omitted (some txt)
        (epOf s.errPaths) (embCF s.cf) >>= fun t =>
      L t.2.1 t.2.2 (ofCC s.cc) s.maxSize (s.validFiles.map toGFile) (s.validFiles.map (·.size))) =
      run3 L (s.addError path omitted r) := by
  subst h
  rw [addError_eq]
  simp only [bind_ok, run3, addError_cc, addError_maxSize, addError_validFiles]

theorem toGFile_ok (f : Zip.FileInfo) (h : (f.mode == Zip.Mode.lstatErr) = false) :
    toGFile f = { Path := f.path,
                  Lstat := ({ Mode := modeBits f.mode, IsDir := f.mode == Zip.Mode.dir, Size := f.size }, none),
                  Open := (f.content, none) } := by
  simp [toGFile, h]

theorem maxGoMod_cast : ((Zip.MaxGoMod : Nat) : Int) = 16777216 := by decide
theorem maxLICENSE_cast : ((Zip.MaxLICENSE : Nat) : Int) = 16777216 := by decide

/-- the end of the loop body — the two per-file size limits, then the file is valid — as a function of the variables the
    size accounting before it may change (`maxSize`, `cf`) -/
def tail3 {X : Type} (cfp : Bytes → Option String) (ef : Bytes → Bytes → Bool) (pgv : Bytes → Bytes → Bytes)
    (sf : Int → Int) (tl : Bytes → Bytes) (vc : Bytes → Bytes → Int) (vl : Bytes → Bytes)
    (L : List (Bytes × Unit) → CheckedFiles → List (Bytes × pathInfo) → Int → List File → List Int → M X)
    (f : Zip.FileInfo) (gf : File) (fuel : Nat) (vf : List File) (vs : List Int) (ep : List (Bytes × Unit))
    (m : List (Bytes × pathInfo)) (maxSize : Int) (cf : CheckedFiles) : M X :=
  if (decide (f.path = ([103, 111, 46, 109, 111, 100] : Bytes)) && decide (f.size > (16777216 : Int))) = true then
    (Generated.Zip.checkFiles_addError cfp ef pgv sf tl vc vl fuel vf vs f.path false (some "errGoModSize") ep cf >>=
      fun t => L t.2.1 t.2.2 m maxSize vf vs)
  else if (decide (f.path = ([76, 73, 67, 69, 78, 83, 69] : Bytes)) && decide (f.size > (16777216 : Int))) = true then
    (Generated.Zip.checkFiles_addError cfp ef pgv sf tl vc vl fuel vf vs f.path false (some "errLICENSESize") ep cf >>=
      fun t => L t.2.1 t.2.2 m maxSize vf vs)
  else L ep { cf with Valid := cf.Valid ++ [f.path] } m maxSize (vf ++ [gf]) (vs ++ [f.size])

theorem sized_tail {X : Type} (s2 : Zip.St) (f : Zip.FileInfo) (gf : File) (hgf : toGFile f = gf) (fuel : Nat)
    (L : List (Bytes × Unit) → CheckedFiles → List (Bytes × pathInfo) → Int → List File → List Int → M X) :
    tail3 cfp ef pgv sf tl vc vl L f gf fuel (s2.validFiles.map toGFile) (s2.validFiles.map (·.size)) (epOf s2.errPaths)
        (ofCC s2.cc) s2.maxSize (embCF s2.cf) =
      run3 L (if f.path == Zip.goModName && f.size > Zip.MaxGoMod then s2.addError f.path false .goModSize
        else if f.path == Zip.licenseName && f.size > Zip.MaxLICENSE then s2.addError f.path false .licenseSize
        else s2.pushValid f) := by
  subst hgf
  unfold tail3
  have bA : (decide (f.path = ([103, 111, 46, 109, 111, 100] : Bytes)) && decide (f.size > (16777216 : Int))) =
      (f.path == Zip.goModName && decide (f.size > (Zip.MaxGoMod : Int))) := by
    rw [maxGoMod_cast, Bool.beq_eq_decide_eq]; rfl
  have bB : (decide (f.path = ([76, 73, 67, 69, 78, 83, 69] : Bytes)) && decide (f.size > (16777216 : Int))) =
      (f.path == Zip.licenseName && decide (f.size > (Zip.MaxLICENSE : Int))) := by
    rw [maxLICENSE_cast, Bool.beq_eq_decide_eq]; rfl
  rw [bA, bB]
  by_cases hA : (f.path == Zip.goModName && decide (f.size > (Zip.MaxGoMod : Int))) = true
  · rw [if_pos hA, if_pos hA]
    exact ae_run .goModSize rfl s2
  rw [if_neg hA, if_neg hA]
  by_cases hB : (f.path == Zip.licenseName && decide (f.size > (Zip.MaxLICENSE : Int))) = true
  · rw [if_pos hB, if_pos hB]
    exact ae_run .licenseSize rfl s2
  rw [if_neg hB, if_neg hB]
  simp only [run3, Zip.St.pushValid, List.map_append, List.map_cons, List.map_nil]
  rfl

/-- the size accounting of the total (`maxSize`, `SizeError`), then `tail3`: the model's `stepSized` -/
theorem sized_run {X : Type} (s1 : Zip.St) (f : Zip.FileInfo) (gf : File) (hgf : toGFile f = gf) (fuel : Nat)
    (L : List (Bytes × Unit) → CheckedFiles → List (Bytes × pathInfo) → Int → List File → List Int → M X) :
    (if (decide (f.size ≥ 0) && decide (f.size ≤ s1.maxSize)) = true then
        tail3 cfp ef pgv sf tl vc vl L f gf fuel (s1.validFiles.map toGFile) (s1.validFiles.map (·.size))
          (epOf s1.errPaths) (ofCC s1.cc) (s1.maxSize - f.size) (embCF s1.cf)
      else if (embCF s1.cf).SizeError.isNone = true then
        tail3 cfp ef pgv sf tl vc vl L f gf fuel (s1.validFiles.map toGFile) (s1.validFiles.map (·.size))
          (epOf s1.errPaths) (ofCC s1.cc) s1.maxSize
          { (embCF s1.cf) with SizeError := some "module source tree too large (max size is %d bytes)" }
      else
        tail3 cfp ef pgv sf tl vc vl L f gf fuel (s1.validFiles.map toGFile) (s1.validFiles.map (·.size))
          (epOf s1.errPaths) (ofCC s1.cc) s1.maxSize (embCF s1.cf)) =
      run3 L (Zip.stepSized s1 f) := by
  -- `account` changes `maxSize` and `cf` only
  have key : ∀ s2 : Zip.St, s1.account f.size = s2 → s2.errPaths = s1.errPaths → s2.cc = s1.cc →
      s2.validFiles = s1.validFiles →
      tail3 cfp ef pgv sf tl vc vl L f gf fuel (s1.validFiles.map toGFile) (s1.validFiles.map (·.size))
        (epOf s1.errPaths) (ofCC s1.cc) s2.maxSize (embCF s2.cf) = run3 L (Zip.stepSized s1 f) := by
    intro s2 h2 h3 h4 h5
    have := sized_tail (cfp := cfp) (ef := ef) (pgv := pgv) (sf := sf) (tl := tl) (vc := vc) (vl := vl) s2 f gf hgf fuel L
    rw [h3, h4, h5] at this
    rw [this, ← h2]; rfl
  unfold Zip.St.account at key
  by_cases hA : (decide (f.size ≥ 0) && decide (f.size ≤ s1.maxSize)) = true
  · rw [if_pos hA]
    have hA' : 0 ≤ f.size ∧ f.size ≤ s1.maxSize := by simpa using hA
    exact key { s1 with maxSize := s1.maxSize - f.size } (by rw [if_pos hA']) rfl rfl rfl
  rw [if_neg hA]
  have hA' : ¬ (0 ≤ f.size ∧ f.size ≤ s1.maxSize) := fun h => hA (by simpa using h)
  have hk := key { s1 with cf := { s1.cf with sizeError := true } } (by rw [if_neg hA']) rfl rfl rfl
  cases hB : s1.cf.sizeError with
  | true =>
    have hnone : (embCF s1.cf).SizeError.isNone = false := by simp [embCF, hB]
    rw [hnone]
    have e : ({ s1.cf with sizeError := true } : Zip.CheckedFiles) = s1.cf := by
      obtain ⟨⟨v, om, iv, se⟩, ep, vfs, cc, ms⟩ := s1
      cases hB; rfl
    rw [e] at hk
    exact hk
  | false =>
    have hnone : (embCF s1.cf).SizeError.isNone = true := by simp [embCF, hB]
    rw [hnone, if_pos rfl]
    exact hk

end

section
variable {ef : Bytes → Bytes → Bool} {pgv : Bytes → Bytes → Bytes} {sf : Int → Int}
  {tl : Bytes → Bytes} {vc : Bytes → Bytes → Int} {vl : Bytes → Bytes}

theorem loop3_step (E : Zip.Env) (K : Nat) (hsf : FoldsTo sf K) (hE : E.toFold = Zip.strToFold)
    (htl : ∀ s, decide (tl s = Zip.goModName) = Zip.toLowerIsGoMod s)
    (vers : Bytes) (ge : Bool) (hge : ge = decide (0 ≤ vc vers go124)) (hgm : List Bytes)
    (done : List Zip.FileInfo) (f : Zip.FileInfo) (rest : List Zip.FileInfo) (fuel : Nat) (s : Zip.St)
    (hfuel : 3 * f.path.length + K + 5 ≤ fuel) :
    run3 (Generated.Zip.checkFiles_loop3 (cfpOf E) ef pgv sf tl vc vl ((done ++ f :: rest).map toGFile) (hgOf hgm) vers
        (fuel + 1) (done.length : Int)) s =
      run3 (Generated.Zip.checkFiles_loop3 (cfpOf E) ef pgv sf tl vc vl ((done ++ f :: rest).map toGFile) (hgOf hgm) vers
        fuel ((done.length + 1 : Nat) : Int)) (Zip.stepFile E ge hgm s f) := by
  conv => lhs; unfold run3
  rw [Generated.Zip.checkFiles_loop3]
  have hi : ((done.length + 1 : Nat) : Int) = (done.length : Int) + 1 := by omega
  have hv := Tie.FnZip.isVendoredPackage_tie vc f.path vers ge hge
  have hsub := inSubmodule_eq (cfp := cfpOf E) (ef := ef) (pgv := pgv) (sf := sf) (tl := tl) (vc := vc) (vl := vl) hgm fuel
    f.path (by omega)
  simp only [lt_len_map_mid, if_true, idxL_map_mid, bind_ok]
  rw [toGFile_Path]
  simp only [hi, hv, hsub, bind_ok]
  generalize Generated.Zip.checkFiles_loop3 (cfpOf E) ef pgv sf tl vc vl ((done ++ f :: rest).map toGFile) (hgOf hgm) vers
    fuel ((done.length : Int) + 1) = L
  -- the conditions of the generated code in the model's vocabulary
  have b1 : (!decide (f.path = GoRt.pathClean f.path)) = (f.path != PathClean.pathClean f.path) := by
    show _ = !(f.path == _)
    rw [Bool.beq_eq_decide_eq]; rfl
  have b2 : GoRt.pathIsAbs f.path = PathClean.isAbs f.path := rfl
  have b5 : decide (f.path = ([46, 104, 103, 95, 97, 114, 99, 104, 105, 118, 97, 108, 46, 116, 120, 116] : Bytes)) =
      (f.path == Zip.hgArchivalName) := by
    rw [Bool.beq_eq_decide_eq]; rfl
  have b7 : (decide (tl f.path = ([103, 111, 46, 109, 111, 100] : Bytes)) &&
      !decide (f.path = ([103, 111, 46, 109, 111, 100] : Bytes))) =
      (Zip.toLowerIsGoMod f.path && f.path != Zip.goModName) := by
    have := htl f.path
    unfold Zip.goModName at this
    rw [this]
    congr 1
    show _ = !(f.path == _)
    rw [Bool.beq_eq_decide_eq]; rfl
  simp only [b1, b2, b5, cfpOf_isNone, b7]
  clear b1 b2 b5 b7 hv hsub
  -- the seven rules on the path alone: the same tests in the same order on both sides
  unfold Zip.stepFile
  by_cases h1 : (f.path != PathClean.pathClean f.path) = true
  · rw [if_pos h1, if_pos h1]
    exact ae_run .notClean rfl s
  rw [if_neg h1, if_neg h1]
  by_cases h2 : PathClean.isAbs f.path = true
  · rw [if_pos h2, if_pos h2]
    exact ae_run .notRelative rfl s
  rw [if_neg h2, if_neg h2]
  by_cases h3 : Zip.isVendoredPackage f.path ge = true
  · rw [if_pos h3, if_pos h3]
    exact ae_run .vendored rfl s
  rw [if_neg h3, if_neg h3]
  by_cases h4 : Zip.inSubmodule hgm f.path = true
  · rw [if_pos h4, if_pos h4]
    exact ae_run .submoduleFile rfl s
  rw [if_neg h4, if_neg h4]
  by_cases h5 : (f.path == Zip.hgArchivalName) = true
  · rw [if_pos h5, if_pos h5]
    exact ae_run .hgArchival rfl s
  rw [if_neg h5, if_neg h5]
  by_cases h6 : (!E.cfp f.path) = true
  · rw [if_pos h6, if_pos h6, cfpOf_rejected h6]
    exact ae_run .filePath rfl s
  rw [if_neg h6, if_neg h6]
  by_cases h7 : (Zip.toLowerIsGoMod f.path && f.path != Zip.goModName) = true
  · rw [if_pos h7, if_pos h7]
    exact ae_run .goModCase rfl s
  rw [if_neg h7, if_neg h7]
  -- `Lstat`, then the collision check: the path is clean and relative here
  have hcr : Proofs.ZipA.CleanRel f.path := by
    constructor
    · have : ¬ (f.path ≠ PathClean.pathClean f.path) := by simpa using h1
      exact (Classical.not_not.mp this).symm
    · simpa using h2
  have hcc := fun d => check_cleanRel sf K hsf fuel s.cc f.path d hcr hfuel
  simp only [toGFile]
  unfold Zip.stepStat
  rw [hE]
  by_cases hm : (f.mode == Zip.Mode.lstatErr) = true
  · simp only [hm, if_true, Option.isNone_some, Bool.not_false]
    exact ae_run .lstat rfl s
  simp only [hm, Bool.false_eq_true, if_false, Option.isNone_none, Bool.not_true, hcc, bind_ok]
  have hm' : (f.mode == Zip.Mode.lstatErr) = false := by simpa using hm
  have hmne : f.mode ≠ .lstatErr := by simpa using hm
  generalize Zip.ccCheckTop Zip.strToFold s.cc f.path (f.mode == Zip.Mode.dir) = r
  obtain ⟨cc', o⟩ := r
  cases o with
  | some e =>
    simp only [Option.map_some, Option.isNone_some, Bool.not_false, if_true]
    exact ae_run e rfl (s.setCC cc')
  | none =>
    simp only [Option.map_none, Option.isNone_none, Bool.not_true, Bool.false_eq_true, if_false]
    -- the mode of the file
    have b9 : (!modeIsRegular (modeBits f.mode)) = (f.mode != .regular) := by
      rw [modeIsRegular_modeBits _ hmne]; rfl
    rw [isSymlink_modeBits f.mode hmne, b9]
    unfold Zip.stepMode
    by_cases h8 : (f.mode == Zip.Mode.symlink) = true
    · rw [if_pos h8, if_pos h8]
      exact ae_run .symlink rfl (s.setCC cc')
    rw [if_neg h8, if_neg h8]
    by_cases h9 : (f.mode != Zip.Mode.regular) = true
    · rw [if_pos h9, if_pos h9]
      exact ae_run .notRegular rfl (s.setCC cc')
    rw [if_neg h9, if_neg h9]
    -- a regular file: the sizes
    exact sized_run (s.setCC cc') f _ (toGFile_ok f hm') fuel L

theorem loop3_from (E : Zip.Env) (K : Nat) (hsf : FoldsTo sf K) (hE : E.toFold = Zip.strToFold)
    (htl : ∀ s, decide (tl s = Zip.goModName) = Zip.toLowerIsGoMod s)
    (vers : Bytes) (ge : Bool) (hge : ge = decide (0 ≤ vc vers go124)) (hgm : List Bytes) (B : Nat) :
    ∀ (rest done : List Zip.FileInfo) (fuel : Nat) (s : Zip.St),
    (∀ f ∈ rest, 3 * f.path.length + K + 5 ≤ B) → rest.length + 1 + B ≤ fuel →
    run3 (Generated.Zip.checkFiles_loop3 (cfpOf E) ef pgv sf tl vc vl ((done ++ rest).map toGFile) (hgOf hgm) vers
        fuel (done.length : Int)) s =
      .ok (((done ++ rest).length : Int), epOf (rest.foldl (Zip.stepFile E ge hgm) s).errPaths,
        embCF (rest.foldl (Zip.stepFile E ge hgm) s).cf, ofCC (rest.foldl (Zip.stepFile E ge hgm) s).cc,
        (rest.foldl (Zip.stepFile E ge hgm) s).maxSize, (rest.foldl (Zip.stepFile E ge hgm) s).validFiles.map toGFile,
        (rest.foldl (Zip.stepFile E ge hgm) s).validFiles.map (·.size)) := by
  intro rest
  induction rest with
  | nil =>
    intro done fuel s _ hf
    obtain ⟨fuel, rfl⟩ : ∃ k, fuel = k + 1 := ⟨fuel - 1, by omega⟩
    unfold run3
    rw [Generated.Zip.checkFiles_loop3]
    simp only [List.append_nil, not_lt_len_map, Bool.false_eq_true, if_false, List.foldl_nil]
    rfl
  | cons f rest ih =>
    intro done fuel s hB hf
    obtain ⟨fuel, rfl⟩ : ∃ k, fuel = k + 1 := ⟨fuel - 1, by omega⟩
    have hfB := hB f List.mem_cons_self
    simp only [List.length_cons] at hf
    rw [loop3_step E K hsf hE htl vers ge hge hgm done f rest fuel s (by omega)]
    have e : done ++ f :: rest = (done ++ [f]) ++ rest := by simp
    have hl : ((done.length + 1 : Nat) : Int) = ((done ++ [f]).length : Int) := by simp
    rw [e, hl, ih (done ++ [f]) fuel (Zip.stepFile E ge hgm s f)
      (fun g hg => hB g (List.mem_cons_of_mem _ hg)) (by omega)]
    rfl

end

def maxPathLen : List Zip.FileInfo → Nat
  | [] => 0
  | f :: rest => max f.path.length (maxPathLen rest)

theorem le_maxPathLen : ∀ (files : List Zip.FileInfo) (f : Zip.FileInfo), f ∈ files → f.path.length ≤ maxPathLen files
  | g :: rest, f, h => by
    rcases List.mem_cons.mp h with rfl | h
    · exact Nat.le_max_left _ _
    · exact Nat.le_trans (le_maxPathLen rest f h) (Nat.le_max_right _ _)

theorem maxPathLen_le_sum : ∀ files : List Zip.FileInfo, maxPathLen files ≤ (files.map fun f => f.path.length).sum
  | [] => Nat.le_refl _
  | f :: rest => by
    have := maxPathLen_le_sum rest
    simp only [maxPathLen, List.map_cons, List.sum_cons]
    omega

/-- fuel that is enough for `checkFiles`: one unit per file (each loop), plus — for the longest path — the collision check
    (one level of recursion per path element, `strToFold` with `K` steps of `unicode.SimpleFold` per rune) and the
    `inSubmodule` walk -/
def fuelBound (K : Nat) (files : List Zip.FileInfo) : Nat := files.length + 3 * maxPathLen files + K + 6

end ModVerif.TieFnZipCf
