/-
  Tie proof, sumdb/dirhash `Hash1` (Generated/FnDirhash.lean, re-translated from sumdb/dirhash/hash.go on every run)
  against the hand model `Dirhash.hash1` (Model/Dirhash.lean), and what the C19 theorems restated about it need: the two
  insertion sorts, the `open` callback of Go against the model's `open` function, the error Hash1 returns (`firstErr`), and
  what the model's `hash1` depends on.  At the end, in the namespace `TieFnDirhashDir` of the directory half, the model's
  error values as Go errors (`embedErr`, `embedHash`), which the statement of `Hash1_tie` for a model `open` function uses.
-/
import ModVerif.Generated.FnDirhash
import ModVerif.Model.Dirhash
import ModVerif.Proofs.Dirhash
import ModVerif.Proofs.Base64
import ModVerif.Proofs.GoRtLemmas
import ModVerif.Proofs.GoRtLemmasStr
namespace ModVerif.TieFnDirhash
open ModVerif ModVerif.GoRt ModVerif.Dirhash

theorem hexNibble_eq (n : Nat) : hexNibble n = Dirhash.hexDigit n := rfl

theorem insertSorted_eq_cons (x : Bytes) : ∀ ys : List Bytes, (∀ y ∈ ys, bytesLt y x = false) →
    insertSorted x ys = x :: ys
  | [], _ => rfl
  | z :: zs, h => by
    have hz : bytesLt z x = false := h z (by simp)
    rw [insertSorted]
    by_cases hxz : bytesLt x z = true
    · simp [hxz]
    · have hxz' : bytesLt x z = false := by simpa using hxz
      have e : x = z := bytesLt_total x z hxz' hz
      subst e
      simp only [hxz', Bool.false_eq_true, if_false]
      rw [insertSorted_eq_cons x zs (fun y hy => h y (by simp [hy]))]

/-- on a sorted list the two insertion procedures agree: `GoRt.insertSorted` inserts AFTER equal elements,
    `Dirhash.orderedInsert` BEFORE them, and on a strict total order equal elements are identical -/
theorem insertSorted_eq_orderedInsert (x : Bytes) : ∀ l : List Bytes,
    l.Pairwise (fun a b => bytesLt b a = false) → insertSorted x l = Dirhash.orderedInsert bytesLt x l
  | [], _ => rfl
  | y :: ys, hs => by
    have hy : ∀ z ∈ ys, bytesLt z y = false := (List.pairwise_cons.1 hs).1
    have hys := (List.pairwise_cons.1 hs).2
    rw [insertSorted, Dirhash.orderedInsert]
    by_cases hyx : bytesLt y x = true
    · have hxy : bytesLt x y = false := bytesLt_asymm y x hyx
      simp only [hyx, hxy, if_true, Bool.false_eq_true, if_false]
      rw [insertSorted_eq_orderedInsert x ys hys]
    · have hyx' : bytesLt y x = false := by simpa using hyx
      simp only [hyx', Bool.false_eq_true, if_false]
      by_cases hxy : bytesLt x y = true
      · simp [hxy]
      · have hxy' : bytesLt x y = false := by simpa using hxy
        have e : x = y := bytesLt_total x y hxy' hyx'
        subst e
        simp only [hxy', Bool.false_eq_true, if_false]
        rw [insertSorted_eq_cons x ys hy]

/-- the text of the newline error of hash.go -/
def newlineMsg : String := "dirhash: filenames with newlines are not supported"

/-- the Go `open` callback that belongs to the model's `openF`: the reader delivers the content to the end, a failure
    carries the error text `e` -/
def openOf (openF : Bytes → Option Bytes) (e : String) : Bytes → Bytes × Option String :=
  fun name => match openF name with
    | some c => (c, none)
    | none => ([], some e)

/-- the model's `open` function that belongs to a Go callback: the content when the error is nil -/
def openFOf (open_ : Bytes → Bytes × Option String) : Bytes → Option Bytes :=
  fun name => match (open_ name).2 with
    | none => some (open_ name).1
    | some _ => none

/-- the error Hash1 returns on a (sorted) list: that of the first name that has a newline or cannot be opened -/
def firstErr (open_ : Bytes → Bytes × Option String) : List Bytes → Option String
  | [] => none
  | file :: rest =>
    if Dirhash.hasNewline file then some newlineMsg else
    match (open_ file).2 with
    | none => firstErr open_ rest
    | some e => some e

theorem openFOf_openOf (openF : Bytes → Option Bytes) (e : String) : openFOf (openOf openF e) = openF := by
  funext name
  unfold openFOf openOf
  cases openF name <;> rfl

theorem openFOf_of_ok {open_ : Bytes → Bytes × Option String} {n c : Bytes} (h : open_ n = (c, none)) :
    openFOf open_ n = some c := by
  simp [openFOf, h]

theorem openFOf_eq_some {open_ : Bytes → Bytes × Option String} {n c : Bytes} (h : openFOf open_ n = some c) :
    open_ n = (c, none) := by
  unfold openFOf at h
  cases hop : open_ n with
  | mk r err =>
    rw [hop] at h
    cases err with
    | none => simp at h; rw [h]
    | some e => simp at h

theorem openFOf_eq_openPairs {open_ : Bytes → Bytes × Option String} {l : List (Bytes × Bytes)}
    (hnd : (l.map (·.1)).Nodup) (hopen : ∀ p ∈ l, open_ p.1 = (p.2, none)) :
    ∀ n ∈ l.map (·.1), openFOf open_ n = openPairs l n := by
  intro n hn
  obtain ⟨p, hp, rfl⟩ := List.mem_map.1 hn
  rw [openFOf_of_ok (hopen p hp)]
  exact (lookup_of_mem_nodup l p.1 p.2 hnd hp).symm

theorem summaryLoop_error_iff (sha : Bytes → Bytes) (open_ : Bytes → Bytes × Option String) : ∀ l : List Bytes,
    (∃ er, Dirhash.summaryLoop sha (openFOf open_) l = .error er) ↔ (firstErr open_ l).isSome = true
  | [] => by simp [Dirhash.summaryLoop, firstErr]
  | file :: rest => by
    have ih := summaryLoop_error_iff sha open_ rest
    rw [Dirhash.summaryLoop, firstErr]
    cases hnl : Dirhash.hasNewline file with
    | true => simp
    | false =>
      simp only [Bool.false_eq_true, if_false]
      cases hop : (open_ file).2 with
      | some e => simp [openFOf, hop]
      | none =>
        simp only [openFOf, hop]
        rw [← ih]
        cases hs : Dirhash.summaryLoop sha (openFOf open_) rest with
        | error er => simp
        | ok s => simp

theorem firstErr_newline (open_ : Bytes → Bytes × Option String) : ∀ (l : List Bytes) (n : Bytes),
    n ∈ l → hasNewline n = true → (∀ m ∈ l, (open_ m).2 = none) → firstErr open_ l = some newlineMsg
  | [], _, hm, _, _ => by simp at hm
  | m :: l, n, hm, hn, ho => by
    rw [firstErr]
    cases hml : hasNewline m with
    | true => simp
    | false =>
      have hm' : n ∈ l := by
        rcases List.mem_cons.1 hm with rfl | hm'
        · rw [hn] at hml; exact absurd hml (by decide)
        · exact hm'
      simp only [Bool.false_eq_true, if_false, ho m List.mem_cons_self]
      exact firstErr_newline open_ l n hm' hn (fun q hq => ho q (List.mem_cons_of_mem _ hq))

theorem hasNewline_of_mem {n : Bytes} (hn : (10 : UInt8) ∈ n) : hasNewline n = true := by
  cases e : hasNewline n with
  | true => rfl
  | false => exact absurd hn ((hasNewline_false_iff n).1 e)

theorem summaryLoop_err (sha : Bytes → Bytes) (openF : Bytes → Option Bytes) : ∀ (l : List Bytes) (er : Dirhash.Err),
    Dirhash.summaryLoop sha openF l = .error er → er = .newline ∨ er = .openFail
  | [], er, h => by simp [Dirhash.summaryLoop] at h
  | file :: rest, er, h => by
    rw [Dirhash.summaryLoop] at h
    split at h
    · cases h; exact Or.inl rfl
    · split at h
      · cases h; exact Or.inr rfl
      · split at h
        · next e' he' => cases h; exact summaryLoop_err sha openF rest _ he'
        · cases h

theorem summary_congr (sha : Bytes → Bytes) (files : List Bytes) (o₁ o₂ : Bytes → Option Bytes)
    (h : ∀ n ∈ files, o₁ n = o₂ n) : summary sha files o₁ = summary sha files o₂ := by
  unfold summary
  rw [summaryLoop_congr sha o₁ o₂ _ (fun n hn => h n ((sortStrings_perm files).subset hn))]

theorem hash1_congr (sha : Bytes → Bytes) (files : List Bytes) (o₁ o₂ : Bytes → Option Bytes)
    (h : ∀ n ∈ files, o₁ n = o₂ n) : hash1 sha files o₁ = hash1 sha files o₂ := by
  unfold hash1
  rw [summary_congr sha files o₁ o₂ h]

theorem encodeStd_injective {x y : Bytes} (h : Base64.encodeStd x = Base64.encodeStd y) : x = y := by
  have hx := Base64.decodeStd_encodeStd x
  rw [h, Base64.decodeStd_encodeStd y] at hx
  exact (Option.some.inj hx).symm

theorem summary_of_hash1_eq (sha : Bytes → Bytes) (hsha : Function.Injective sha) {files₁ files₂ : List Bytes}
    {o₁ o₂ : Bytes → Option Bytes} {r : Bytes} (h₁ : hash1 sha files₁ o₁ = .ok r) (h₂ : hash1 sha files₂ o₂ = .ok r) :
    ∃ s, summary sha files₁ o₁ = .ok s ∧ summary sha files₂ o₂ = .ok s := by
  unfold hash1 at h₁ h₂
  cases hs₁ : summary sha files₁ o₁ with
  | error e => rw [hs₁] at h₁; cases h₁
  | ok s₁ =>
    cases hs₂ : summary sha files₂ o₂ with
    | error e => rw [hs₂] at h₂; cases h₂
    | ok s₂ =>
      rw [hs₁] at h₁; rw [hs₂] at h₂
      have h := (Except.ok.inj h₁).trans (Except.ok.inj h₂).symm
      have hs : s₁ = s₂ := hsha (encodeStd_injective (List.append_cancel_left h))
      exact ⟨s₁, rfl, by rw [hs]⟩

end ModVerif.TieFnDirhash

namespace ModVerif.TieFnDirhashDir
open ModVerif

/-- the error `filepath.Walk` hands to the callback for a missing root -/
def lstatMsg : String := "lstat: no such file or directory"
/-- the (unformatted) text of DirFiles' own error -/
def notDirMsg : String := "%s is not a directory"

/-- the error values of the model as Go errors; `e` is the text of a failing `open` -/
def embedErr (e : String) : Dirhash.Err → Option String
  | .walk => some lstatMsg
  | .notDir => some notDirMsg
  | .newline => some TieFnDirhash.newlineMsg
  | .openFail => some e

/-- the model's `hashDir` / `hash1` result as the Go result pair `(string, error)` -/
def embedHash (e : String) : Except Dirhash.Err Bytes → Bytes × Option String
  | .ok h => (h, none)
  | .error er => ([], embedErr e er)

theorem firstErr_openOf (sha : Bytes → Bytes) (openF : Bytes → Option Bytes) (e : String) :
    ∀ (l : List Bytes) (er : Dirhash.Err), Dirhash.summaryLoop sha openF l = .error er →
    TieFnDirhash.firstErr (TieFnDirhash.openOf openF e) l = embedErr e er
  | [], er, h => by simp [Dirhash.summaryLoop] at h
  | file :: rest, er, h => by
    rw [Dirhash.summaryLoop] at h
    rw [TieFnDirhash.firstErr]
    split at h
    · rename_i hnl; cases h; rw [if_pos hnl]; rfl
    · rename_i hnl
      rw [if_neg hnl]
      unfold TieFnDirhash.openOf
      split at h
      · rename_i ho; cases h; rw [ho]; rfl
      · rename_i c ho
        rw [ho]
        split at h
        · next e' he' => cases h; exact firstErr_openOf sha openF e rest _ he'
        · cases h

end ModVerif.TieFnDirhashDir
