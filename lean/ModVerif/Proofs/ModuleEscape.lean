/-
  Helper lemmas for C11: byte-level characterisation of escapeString / unescapeString and the
  combinatorial core (round trip, image, case-insensitive injectivity).
  The three definitions below are the vocabulary of the statements of Props/C11: `okByte` (what escapeString
  accepts), `lowerAscii` / `lower` (the folding under which escaped paths stay distinct).
-/
import ModVerif.Model.Module
import ModVerif.Proofs.Utf8
namespace ModVerif.Module
open ModVerif

/-- a byte that escapeString accepts: ASCII and not '!' -/
def okByte (b : UInt8) : Bool := b.toNat != 33 && b.toNat < 128

def lowerAscii (b : UInt8) : UInt8 :=
  if 65 ≤ b.toNat ∧ b.toNat ≤ 90 then UInt8.ofNat (b.toNat + 32) else b

/-- on ASCII strings `lower e = lower f` is strings.EqualFold e f -/
def lower (s : Bytes) : Bytes := s.map lowerAscii

theorem ofNat_toNat (b : UInt8) : UInt8.ofNat b.toNat = b := by simp

theorem toNat_ofNat_lt (n : Nat) (h : n < 256) : (UInt8.ofNat n).toNat = n := by
  simp [UInt8.toNat_ofNat']; omega

theorem eq_of_toNat_eq {a b : UInt8} (h : a.toNat = b.toNat) : a = b := UInt8.toNat_inj.mp h

theorem escapeRunes_no_upper (s : Bytes) (h : ∀ b ∈ s, ¬ (65 ≤ b.toNat ∧ b.toNat ≤ 90)) :
    escapeRunes (s.map (·.toNat)) = s := by
  induction s with
  | nil => rfl
  | cons b s ih =>
    have hb := h b (by simp)
    have : ¬ (65 ≤ b.toNat ∧ b.toNat ≤ 90) := hb
    simp only [List.map_cons, escapeRunes]
    rw [if_neg (by simpa using this), ih (fun c hc => h c (by simp [hc]))]
    simp

theorem escapeString_eq (s : Bytes) :
    escapeString s = if s.all okByte then some (escapeRunes (s.map (·.toNat))) else none := by
  unfold escapeString
  have hany : (Utf8.runes s).any (fun r => r == 33 || decide (r ≥ 128)) = s.any (fun b => !okByte b) := by
    rw [Utf8.runes_any_of_nonascii_pred _ (by intro r hr; simp; omega)]
    congr 1; funext b
    unfold okByte
    rw [bne]
    cases h1 : (b.toNat == 33) <;> cases h2 : decide (b.toNat < 128) <;> simp_all <;> omega
  by_cases hall : s.all okByte = true
  · have hnone : s.any (fun b => !okByte b) = false := by
      rw [List.any_eq_false]; intro b hb; simpa using (List.all_eq_true.mp hall b hb)
    have hasc : ∀ b ∈ s, b.toNat < 128 := by
      intro b hb; have := List.all_eq_true.mp hall b hb; simp [okByte] at this; exact this.2
    simp only [hany, hnone, hall, if_true]
    rw [Utf8.runes_ascii s hasc]
    by_cases hup : (s.map (·.toNat)).any (fun r => decide (65 ≤ r) && decide (r ≤ 90)) = true
    · simp [hup]
    · simp only [hup]
      have : ∀ b ∈ s, ¬ (65 ≤ b.toNat ∧ b.toNat ≤ 90) := by
        intro b hb hc
        apply hup
        rw [List.any_eq_true]
        exact ⟨b.toNat, List.mem_map.mpr ⟨b, hb, rfl⟩, by simp [hc.1, hc.2]⟩
      simp [escapeRunes_no_upper s this]
  · have hsome : s.any (fun b => !okByte b) = true := by
      rw [List.any_eq_true]
      have hall' : s.all okByte = false := by simpa using hall
      obtain ⟨b, hb, hnb⟩ := List.all_eq_false.mp hall'
      exact ⟨b, hb, by simpa using hnb⟩
    simp [hany, hsome, hall]

theorem unescapeRunes_runes (s : Bytes) (bang : Bool) :
    unescapeRunes bang (Utf8.runes s) = unescapeRunes bang (s.map (·.toNat)) := by
  induction s generalizing bang with
  | nil => rfl
  | cons b s ih =>
    by_cases h : b.toNat < 128
    · rw [Utf8.runes_cons_ascii b s h]
      simp only [List.map_cons, unescapeRunes, ih]
    · have h' : 128 ≤ b.toNat := by omega
      obtain ⟨r, rs, hr, hge⟩ := Utf8.runes_cons_nonascii b s h'
      rw [hr]
      simp [unescapeRunes, hge, h']

theorem unescapeString_eq (e : Bytes) : unescapeString e = unescapeRunes false (e.map (·.toNat)) :=
  unescapeRunes_runes e false

theorem escapeRunes_out (s : Bytes) (hs : ∀ b ∈ s, b.toNat < 128) :
    ∀ c ∈ escapeRunes (s.map (·.toNat)), c.toNat < 128 ∧ ¬ (65 ≤ c.toNat ∧ c.toNat ≤ 90) := by
  induction s with
  | nil => intro c hc; simp [escapeRunes] at hc
  | cons b s ih =>
    have hb := hs b (by simp)
    have ih' := ih (fun c hc => hs c (by simp [hc]))
    intro c hc
    simp only [List.map_cons, escapeRunes] at hc
    split at hc
    · rename_i hup
      simp at hup
      simp only [List.mem_cons] at hc
      rcases hc with rfl | rfl | hc
      · simp
      · rw [toNat_ofNat_lt _ (by omega)]; omega
      · exact ih' c hc
    · rename_i hup
      simp at hup
      simp only [List.mem_cons] at hc
      rcases hc with rfl | hc
      · rw [toNat_ofNat_lt _ (by omega)]; omega
      · exact ih' c hc

theorem unescape_escapeRunes (s : Bytes) (hs : s.all okByte = true) :
    unescapeRunes false ((escapeRunes (s.map (·.toNat))).map (·.toNat)) = some s := by
  induction s with
  | nil => rfl
  | cons b s ih =>
    simp only [List.all_cons, Bool.and_eq_true] at hs
    have hb := hs.1
    simp [okByte] at hb
    have ih' := ih hs.2
    simp only [List.map_cons, escapeRunes]
    split
    · rename_i hup
      simp at hup
      have h1 : (UInt8.ofNat (b.toNat + 32)).toNat = b.toNat + 32 := toNat_ofNat_lt _ (by omega)
      simp only [List.map_cons, unescapeRunes, h1, ih']
      have e1 : (33 : UInt8).toNat = 33 := rfl
      simp only [e1]
      have : UInt8.ofNat (b.toNat + 32 - 32) = b := by simp
      simp
      omega
    · rename_i hup
      simp at hup
      have h1 : (UInt8.ofNat b.toNat).toNat = b.toNat := by simp
      simp only [List.map_cons, unescapeRunes, h1, ih']
      have : ¬ (65 ≤ b.toNat ∧ b.toNat ≤ 90) := by omega
      simp [hb.1, this]
      omega

theorem unescapeRunes_out (e : Bytes) : ∀ (bang : Bool) (v : Bytes),
    unescapeRunes bang (e.map (·.toNat)) = some v → v.all okByte = true := by
  induction e with
  | nil =>
    intro bang v h
    cases bang <;> simp [unescapeRunes] at h
    subst h; rfl
  | cons b e ih =>
    intro bang v h
    simp only [List.map_cons, unescapeRunes] at h
    split at h
    · simp at h
    · rename_i hlt
      split at h
      · split at h
        · simp at h
        · rename_i hr
          simp at hr
          simp only [Option.map_eq_some_iff] at h
          obtain ⟨v', hv', rfl⟩ := h
          have := ih false v' hv'
          simp only [List.all_cons, this, Bool.and_true]
          simp [okByte]
          rw [Nat.mod_eq_of_lt (by omega)]
          omega
      · split at h
        · exact ih true v h
        · split at h
          · simp at h
          · rename_i h33 hup
            simp at h33 hup hlt
            simp only [Option.map_eq_some_iff] at h
            obtain ⟨v', hv', rfl⟩ := h
            have := ih false v' hv'
            simp only [List.all_cons, this, Bool.and_true]
            simp [okByte]
            omega

/-- `bang`: a '!' has been read and waits for its letter, so it belongs in front of `e` -/
theorem escape_unescapeRunes (e : Bytes) : ∀ (bang : Bool) (v : Bytes),
    unescapeRunes bang (e.map (·.toNat)) = some v →
    escapeRunes (v.map (·.toNat)) = if bang then 33 :: e else e := by
  induction e with
  | nil =>
    intro bang v h
    cases bang <;> simp [unescapeRunes] at h
    subst h; rfl
  | cons b e ih =>
    intro bang v h
    simp only [List.map_cons, unescapeRunes] at h
    split at h
    · simp at h
    · rename_i hlt
      simp at hlt
      split at h
      · rename_i hbang
        split at h
        · simp at h
        · rename_i hr
          simp at hr
          simp only [Option.map_eq_some_iff] at h
          obtain ⟨v', hv', rfl⟩ := h
          have := ih false v' hv'
          simp only [Bool.false_eq_true, if_false] at this
          have h1 : (UInt8.ofNat (b.toNat - 32)).toNat = b.toNat - 32 := toNat_ofNat_lt _ (by omega)
          simp only [List.map_cons, escapeRunes, h1, this, hbang, if_true]
          have h2 : (decide (65 ≤ b.toNat - 32) && decide (b.toNat - 32 ≤ 90)) = true := by
            simp; omega
          rw [if_pos h2]
          have h3 : b.toNat - 32 + 32 = b.toNat := by omega
          simp [h3]
      · rename_i hbang
        simp at hbang
        subst hbang
        split at h
        · rename_i h33
          simp at h33
          have := ih true v h
          simp only [if_true] at this
          rw [this]
          have : b = 33 := eq_of_toNat_eq (by simpa using h33)
          simp [this]
        · split at h
          · simp at h
          · rename_i h33 hup
            simp at h33 hup
            simp only [Option.map_eq_some_iff] at h
            obtain ⟨v', hv', rfl⟩ := h
            have := ih false v' hv'
            simp only [Bool.false_eq_true, if_false] at this
            have h1 : (UInt8.ofNat b.toNat).toNat = b.toNat := by simp
            simp only [List.map_cons, escapeRunes, h1, this]
            have h2 : ¬ ((decide (65 ≤ b.toNat) && decide (b.toNat ≤ 90)) = true) := by
              simp; omega
            rw [if_neg h2]
            simp

theorem escapeRunes_cons (b : UInt8) (s : Bytes) :
    escapeRunes ((b :: s).map (·.toNat)) =
      if 65 ≤ b.toNat ∧ b.toNat ≤ 90 then 33 :: UInt8.ofNat (b.toNat + 32) :: escapeRunes (s.map (·.toNat))
      else b :: escapeRunes (s.map (·.toNat)) := by
  simp only [List.map_cons, escapeRunes]
  by_cases h : 65 ≤ b.toNat ∧ b.toNat ≤ 90
  · simp [h]
  · rw [if_neg h, if_neg (by simpa using h)]; simp

theorem lowerAscii_33 : lowerAscii 33 = 33 := by decide

theorem lowerAscii_of_not_upper (b : UInt8) (h : ¬ (65 ≤ b.toNat ∧ b.toNat ≤ 90)) : lowerAscii b = b := by
  simp [lowerAscii, h]

theorem lowerAscii_shift (b : UInt8) (h : 65 ≤ b.toNat ∧ b.toNat ≤ 90) :
    lowerAscii (UInt8.ofNat (b.toNat + 32)) = UInt8.ofNat (b.toNat + 32) := by
  apply lowerAscii_of_not_upper
  rw [toNat_ofNat_lt _ (by omega)]; omega

theorem escapeRunes_lower_inj (p : Bytes) : ∀ (q : Bytes), p.all okByte = true → q.all okByte = true →
    lower (escapeRunes (p.map (·.toNat))) = lower (escapeRunes (q.map (·.toNat))) → p = q := by
  induction p with
  | nil =>
    intro q _ _ h
    cases q with
    | nil => rfl
    | cons c q' =>
      rw [escapeRunes_cons] at h
      split at h <;> simp [lower, escapeRunes] at h
  | cons a p' ih =>
    intro q hp hq h
    simp only [List.all_cons, Bool.and_eq_true] at hp
    have ha := hp.1
    simp [okByte] at ha
    cases q with
    | nil =>
      rw [escapeRunes_cons] at h
      split at h <;> simp [lower, escapeRunes] at h
    | cons c q' =>
      simp only [List.all_cons, Bool.and_eq_true] at hq
      have hc := hq.1
      simp [okByte] at hc
      rw [escapeRunes_cons, escapeRunes_cons] at h
      -- '!' is never an input byte and is its own lower case: the first folded output byte tells
      -- whether the input byte was upper case, so the two heads fall into the same case
      by_cases hau : 65 ≤ a.toNat ∧ a.toNat ≤ 90 <;> by_cases hcu : 65 ≤ c.toNat ∧ c.toNat ≤ 90
      · rw [if_pos hau, if_pos hcu] at h
        simp only [lower, List.map_cons, lowerAscii_33, lowerAscii_shift a hau, lowerAscii_shift c hcu,
          List.cons.injEq, true_and] at h
        have h1 : a.toNat + 32 = c.toNat + 32 := by
          have := congrArg UInt8.toNat h.1
          rwa [toNat_ofNat_lt _ (by omega), toNat_ofNat_lt _ (by omega)] at this
        have : a = c := eq_of_toNat_eq (by omega)
        rw [this, ih q' hp.2 hq.2 h.2]
      · rw [if_pos hau, if_neg hcu] at h
        simp only [lower, List.map_cons, lowerAscii_33, lowerAscii_of_not_upper c hcu, List.cons.injEq] at h
        have := congrArg UInt8.toNat h.1
        simp at this
        omega
      · rw [if_neg hau, if_pos hcu] at h
        simp only [lower, List.map_cons, lowerAscii_33, lowerAscii_of_not_upper a hau, List.cons.injEq] at h
        have := congrArg UInt8.toNat h.1
        simp at this
        omega
      · rw [if_neg hau, if_neg hcu] at h
        simp only [lower, List.map_cons, lowerAscii_of_not_upper a hau, lowerAscii_of_not_upper c hcu,
          List.cons.injEq] at h
        rw [h.1, ih q' hp.2 hq.2 h.2]

theorem escapePath_ok_iff (p e : Bytes) :
    escapePath p = .ok e ↔ checkModPath p = .ok () ∧ escapeString p = some e := by
  unfold escapePath
  cases h1 : checkModPath p with
  | error x => simp
  | ok u =>
    cases h2 : escapeString p with
    | none => simp
    | some e' => simp

theorem unescapePath_ok_iff (e p : Bytes) :
    unescapePath e = .ok p ↔ unescapeString e = some p ∧ checkModPath p = .ok () := by
  unfold unescapePath
  cases h1 : unescapeString e with
  | none => simp
  | some p' =>
    cases h2 : checkModPath p' with
    | error x =>
      simp only [h2]; simp; intro h; subst h; simp [h2]
    | ok u =>
      simp only [h2]; simp; intro h; subst h; exact h2

theorem escapeVersion_ok_iff (isLetter : Nat → Bool) (v e : Bytes) :
    escapeVersion isLetter v = .ok e ↔
      checkElem isLetter .file v = .ok () ∧ v.contains 33 = false ∧ escapeString v = some e := by
  unfold escapeVersion
  cases h1 : checkElem isLetter .file v with
  | error x => simp
  | ok u =>
    cases h3 : v.contains 33 with
    | true => simp
    | false =>
      cases h2 : escapeString v with
      | none => simp
      | some e' => simp

theorem unescapeVersion_ok_iff (isLetter : Nat → Bool) (e v : Bytes) :
    unescapeVersion isLetter e = .ok v ↔ unescapeString e = some v ∧ checkElem isLetter .file v = .ok () := by
  unfold unescapeVersion
  cases h1 : unescapeString e with
  | none => simp
  | some p' =>
    cases h2 : checkElem isLetter .file p' with
    | error x =>
      simp only [h2]; simp; intro h; subst h; simp [h2]
    | ok u =>
      simp only [h2]; simp; intro h; subst h; exact h2

theorem escapeString_some (s e : Bytes) (h : escapeString s = some e) :
    s.all okByte = true ∧ e = escapeRunes (s.map (·.toNat)) := by
  rw [escapeString_eq] at h
  split at h
  · rename_i hall; simp at h; exact ⟨hall, h.symm⟩
  · simp at h

theorem okByte_ascii (s : Bytes) (h : s.all okByte = true) : ∀ b ∈ s, b.toNat < 128 := by
  intro b hb; have := List.all_eq_true.mp h b hb; simp [okByte] at this; exact this.2

theorem okByte_no_bang (s : Bytes) (h : s.all okByte = true) : s.contains 33 = false := by
  cases hc : s.contains 33 with
  | false => rfl
  | true =>
    have hm : (33 : UInt8) ∈ s := by simpa using hc
    have := List.all_eq_true.mp h 33 hm
    simp [okByte] at this

end ModVerif.Module
