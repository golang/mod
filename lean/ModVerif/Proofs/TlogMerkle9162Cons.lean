/-
  C03: RFC 9162 §2.1.4.2 (`RFC6962.verifyConsistency`) accepts exactly the tuples accepted by
  recomputation of both roots along the RFC 6962 SUBPROOF recursion (`AcceptCons`).
  Same method as for inclusion (Proofs/TlogMerkle9162.lean): forward simulation of the bottom-up loop
  over the top-down recursion, for complete subtrees embedded with `a < b` (`cons_complete`) and for
  subtrees on the right spine (`cons_spine`).  The loop starts at the node where SUBPROOF stops:
  level `s` with `m = (2u+1)·2^s` (`Tz m s`), reached by "shift while fn is odd".
-/
import ModVerif.Spec.RFC6962
import ModVerif.Proofs.TlogMerkleSpec
import ModVerif.Proofs.TlogMerkle9162
namespace ModVerif.RFC6962

/-- `s` is the number of trailing zero bits of `m` -/
def Tz (m s : Nat) : Prop := ∃ u, m = (2 * u + 1) * 2 ^ s

def Pow2 (m : Nat) : Prop := ∃ s, m = 2 ^ s

theorem exists_tz : ∀ m, 1 ≤ m → ∃ s, Tz m s := by
  intro m
  induction m using Nat.strongRecOn with
  | _ m ih =>
    intro hm
    by_cases hodd : m % 2 = 1
    · exact ⟨0, m / 2, by simp; omega⟩
    · obtain ⟨s, u, hu⟩ := ih (m / 2) (by omega) (by omega)
      refine ⟨s + 1, u, ?_⟩
      have : m = 2 * (m / 2) := by omega
      rw [this, hu, Nat.pow_succ]; ac_rfl

theorem tz_of_pow_eq {M s : Nat} (h : Tz (2 ^ M) s) : s = M := by
  obtain ⟨u, hu⟩ := h
  have hle : s ≤ M := by
    apply Classical.byContradiction
    intro hc
    have h1 : 2 ^ M < 2 ^ s := Nat.pow_lt_pow_right (by omega) (by omega)
    have h2 : 2 ^ s ≤ (2 * u + 1) * 2 ^ s := Nat.le_mul_of_pos_left _ (by omega)
    omega
  have h3 : 2 ^ M = 2 ^ (M - s) * 2 ^ s := by rw [← Nat.pow_add]; congr 1; omega
  rw [h3] at hu
  have h4 := Nat.eq_of_mul_eq_mul_right (Nat.two_pow_pos s) hu
  cases hd : M - s with
  | zero => omega
  | succ d => rw [hd, Nat.pow_succ] at h4; omega

theorem tz_sub {m s M : Nat} (h : Tz m s) (h1 : 2 ^ M < m) (h2 : m < 2 ^ (M + 1)) : Tz (m - 2 ^ M) s := by
  obtain ⟨u, hu⟩ := h
  have hK := Nat.two_pow_pos M
  have hP := Nat.two_pow_pos s
  have hlt : s < M := by
    apply Classical.byContradiction
    intro hc
    obtain ⟨q, hq⟩ : 2 ^ M ∣ m := by
      rw [hu]; exact Nat.dvd_trans (Nat.pow_dvd_pow 2 (by omega : M ≤ s)) (Nat.dvd_mul_left _ _)
    rw [hq, Nat.pow_succ] at h2
    rw [hq] at h1
    have a1 : 1 < q := by
      have : 2 ^ M * 1 < 2 ^ M * q := by omega
      exact Nat.lt_of_mul_lt_mul_left this
    have a2 : q < 2 := Nat.lt_of_mul_lt_mul_left h2
    omega
  have hKP : 2 ^ M = 2 * 2 ^ (M - s - 1) * 2 ^ s := by
    have : M = (M - s - 1) + 1 + s := by omega
    conv => lhs; rw [this]
    rw [Nat.pow_add, Nat.pow_succ]; ac_rfl
  have hv : 2 * 2 ^ (M - s - 1) < 2 * u + 1 := by
    rw [hu, hKP] at h1
    exact Nat.lt_of_mul_lt_mul_right h1
  refine ⟨u - 2 ^ (M - s - 1), ?_⟩
  have e : 2 * u + 1 = 2 * 2 ^ (M - s - 1) + (2 * (u - 2 ^ (M - s - 1)) + 1) := by omega
  rw [hu, hKP, e, Nat.add_mul]; omega

theorem no_pow2_between {m M : Nat} (h1 : 2 ^ M < m) (h2 : m < 2 ^ (M + 1)) : ¬ Pow2 m := by
  rintro ⟨s, rfl⟩
  have a := (Nat.pow_lt_pow_iff_right (by omega : 1 < 2)).mp h1
  have b := (Nat.pow_lt_pow_iff_right (by omega : 1 < 2)).mp h2
  omega

theorem add_mul_div_pow (x a M : Nat) (h : x < 2 ^ M) : (x + a * 2 ^ M) / 2 ^ M = a := by
  rw [Nat.add_mul_div_right _ _ (Nat.two_pow_pos M), Nat.div_eq_of_lt h]; omega

/-- "right-shift both until LSB(fn) is not set", when `fn` ends in exactly `s` one bits -/
theorem shiftWhileOdd_spec : ∀ s f u sn, s ≤ f →
    shiftWhileOdd f (2 ^ s - 1 + 2 ^ (s + 1) * u) sn = (2 * u, sn / 2 ^ s) := by
  intro s
  induction s with
  | zero =>
    intro f u sn _
    cases f with
    | zero => simp [shiftWhileOdd]
    | succ f =>
      unfold shiftWhileOdd
      rw [if_neg (by simp)]
      simp
  | succ s ih =>
    intro f u sn hf
    cases f with
    | zero => omega
    | succ f =>
      have hP := Nat.two_pow_pos s
      have e1 : 2 ^ (s + 1) = 2 * 2 ^ s := by rw [Nat.pow_succ]; omega
      have e2 : 2 ^ (s + 1 + 1) * u = 2 * (2 ^ (s + 1) * u) := by
        rw [show s + 1 + 1 = (s + 1) + 1 from rfl, Nat.pow_succ 2 (s + 1)]; ac_rfl
      unfold shiftWhileOdd
      rw [if_pos (by rw [e2, e1]; omega)]
      have e3 : (2 ^ (s + 1) - 1 + 2 ^ (s + 1 + 1) * u) / 2 = 2 ^ s - 1 + 2 ^ (s + 1) * u := by
        rw [e2, e1]; omega
      rw [e3, ih f u (sn / 2) (by omega), Nat.div_div_eq_div_mul, ← Nat.pow_succ']

section
variable {H : Type} [DecidableEq H] (node : H → H → H)

/-- how the top-down recursion with flag `b` and the loop agree on the starting hash `x`: for `b = true` it is the
    claimed old root and the whole proof is consumed by the loop; for `b = false` it is the first proof hash -/
def Seeded (b : Bool) (old : H) (p1 : List H) (x : H) (p1' : List H) : Prop :=
  (b = true ∧ x = old ∧ p1' = p1) ∨ (b = false ∧ p1 = x :: p1')

omit [DecidableEq H] in
theorem Seeded.snoc {b : Bool} {old : H} {ys : List H} {x : H} {ys' : List H} (h : Seeded b old ys x ys') (last : H) :
    Seeded b old (ys ++ [last]) x (ys' ++ [last]) := by
  rcases h with ⟨h1, h2, h3⟩ | ⟨h1, h2⟩
  · exact Or.inl ⟨h1, h2, by rw [h3]⟩
  · exact Or.inr ⟨h1, by rw [h2]; rfl⟩

theorem consLoop_spine_step (q : H) (qs : List H) (o e : Nat) (fr sr : H) (ho : o % 2 = 1) :
    consLoop node (q :: qs) (o * 2 ^ e) (o * 2 ^ e) fr sr =
      consLoop node qs (o / 2) (o / 2) (node q fr) (node q sr) := by
  have hpos := Nat.two_pow_pos e
  have hne : o * 2 ^ e ≠ 0 := Nat.ne_of_gt (Nat.mul_pos (by omega) hpos)
  conv => lhs; rw [consLoop]
  rw [if_neg hne, if_pos (Or.inr rfl)]
  by_cases hev : (o * 2 ^ e) % 2 = 0
  · rw [if_pos hev, shiftUntil_odd_pow e _ o ho (Nat.le_of_lt (Nat.lt_of_lt_of_le Nat.lt_two_pow_self
      (Nat.le_mul_of_pos_left _ (by omega))))]
  · rw [if_neg hev]
    cases e with
    | zero => simp
    | succ e => exfalso; apply hev; rw [Nat.pow_succ, ← Nat.mul_assoc]; omega

theorem cons_base (M f : Nat) (p1 : List H) (b' : Bool) (old o r : H) (a b s0 s : Nat) (hs0 : s0 < 2 ^ M)
    (htz : Tz (2 ^ M) s) (hacc : consRootsF node (f + 1) p1 (2 ^ M) (2 ^ M) b' old = some (o, r)) :
    ∃ x p1', Seeded b' old p1 x p1' ∧ ∀ rest,
      consLoop node (p1' ++ rest) ((2 ^ M - 1 + a * 2 ^ M) / 2 ^ s) ((s0 + b * 2 ^ M) / 2 ^ s) x x =
        consLoop node rest a b o r := by
  have hs : s = M := tz_of_pow_eq htz
  subst hs
  have hK := Nat.two_pow_pos s
  rw [add_mul_div_pow _ a s (by omega), add_mul_div_pow _ b s hs0]
  unfold consRootsF at hacc
  simp only [↓reduceIte] at hacc
  cases b' with
  | true =>
    simp only [↓reduceIte] at hacc
    cases p1 with
    | nil =>
      simp at hacc
      exact ⟨old, [], Or.inl ⟨rfl, rfl, rfl⟩, fun rest => by simp [← hacc.1, ← hacc.2]⟩
    | cons y ys => simp at hacc
  | false =>
    simp only [Bool.false_eq_true, ↓reduceIte] at hacc
    match p1, hacc with
    | [x], hacc =>
      simp at hacc
      exact ⟨x, [], Or.inr ⟨rfl, rfl⟩, fun rest => by simp [← hacc.1, ← hacc.2]⟩

/-- complete subtree of size `2^M` with old part `m'`, embedded with `a < b`: from the node where SUBPROOF stops the
    loop consumes exactly the subtree's part of the proof and leaves `(a, b)` with the two recomputed roots -/
theorem cons_complete : ∀ M f (p1 : List H) m' b' old o r a b s0 s, 2 ^ M ≤ f → 1 ≤ m' → m' ≤ 2 ^ M → s0 < 2 ^ M →
    a < b → Tz m' s → (b' = true → Pow2 m') → consRootsF node f p1 (2 ^ M) m' b' old = some (o, r) →
    ∃ x p1', Seeded b' old p1 x p1' ∧ ∀ rest,
      consLoop node (p1' ++ rest) ((m' - 1 + a * 2 ^ M) / 2 ^ s) ((s0 + b * 2 ^ M) / 2 ^ s) x x =
        consLoop node rest a b o r := by
  intro M
  induction M with
  | zero =>
    intro f p1 m' b' old o r a b s0 s hf hm1 hm2 hs0 hab htz hb hacc
    have : m' = 2 ^ 0 := by simp at hm2; omega
    subst this
    cases f with
    | zero => simp at hf
    | succ f => exact cons_base node 0 f p1 b' old o r a b s0 s hs0 htz hacc
  | succ M ih =>
    intro f p1 m' b' old o r a b s0 s hf hm1 hm2 hs0 hab htz hb hacc
    have hK := Nat.two_pow_pos M
    have hpow : 2 ^ (M + 1) = 2 * 2 ^ M := by rw [Nat.pow_succ]; omega
    cases f with
    | zero => omega
    | succ f =>
      by_cases hmt : m' = 2 ^ (M + 1)
      · subst hmt
        exact cons_base node (M + 1) f p1 b' old o r a b s0 s hs0 htz hacc
      · unfold consRootsF at hacc
        rw [if_neg hmt] at hacc
        cases hp : p1.getLast? with
        | none => rw [hp] at hacc; cases hacc
        | some last =>
          rw [hp] at hacc
          simp only [splitPoint_two_pow] at hacc
          obtain ⟨ys, rfl⟩ := List.getLast?_eq_some_iff.mp hp
          simp only [List.dropLast_concat] at hacc
          obtain ⟨β, s0', hβ, hs0', hs0eq⟩ : ∃ β s0', β ≤ 1 ∧ s0' < 2 ^ M ∧ s0 = s0' + β * 2 ^ M := by
            by_cases hlt : s0 < 2 ^ M
            · exact ⟨0, s0, by omega, hlt, by omega⟩
            · exact ⟨1, s0 - 2 ^ M, by omega, by omega, by omega⟩
          have hsn : s0 + b * 2 ^ (M + 1) = s0' + (2 * b + β) * 2 ^ M := by
            have e2 : b * 2 ^ (M + 1) = (2 * b) * 2 ^ M := by rw [Nat.pow_succ]; ac_rfl
            rw [hs0eq, e2, Nat.add_mul]; omega
          have e1 : a * 2 ^ (M + 1) = (2 * a) * 2 ^ M := by rw [Nat.pow_succ]; ac_rfl
          by_cases hk : m' ≤ 2 ^ M
          · rw [if_pos hk] at hacc
            cases hr : consRootsF node f ys (2 ^ M) m' b' old with
            | none => rw [hr] at hacc; cases hacc
            | some res =>
              obtain ⟨o', t'⟩ := res
              rw [hr] at hacc
              simp only [Option.map_some, Option.some.injEq, Prod.mk.injEq] at hacc
              obtain ⟨eo, et⟩ := hacc
              obtain ⟨x, ys', hseed, hsim⟩ := ih f ys m' b' old o' t' (2 * a) (2 * b + β) s0' s (by omega) hm1 hk hs0'
                (by omega) htz hb hr
              refine ⟨x, ys' ++ [last], hseed.snoc last, fun rest => ?_⟩
              have hfn : m' - 1 + a * 2 ^ (M + 1) = m' - 1 + (2 * a) * 2 ^ M := by rw [e1]
              rw [List.append_assoc, hfn, hsn, hsim ([last] ++ rest)]
              show consLoop node (last :: rest) (2 * a) (2 * b + β) o' t' = _
              conv => lhs; rw [consLoop]
              rw [if_neg (by omega), if_neg (by omega), ← eo, ← et]
              have d1 : 2 * a / 2 = a := by omega
              have d2 : (2 * b + β) / 2 = b := by omega
              rw [d1, d2]
          · rw [if_neg hk] at hacc
            have hsz : 2 ^ (M + 1) - 2 ^ M = 2 ^ M := by omega
            rw [hsz] at hacc
            have hbf : b' = false := by
              cases b' with
              | false => rfl
              | true => exact absurd (hb rfl) (no_pow2_between (M := M) (by omega) (by omega))
            cases hr : consRootsF node f ys (2 ^ M) (m' - 2 ^ M) false old with
            | none => rw [hr] at hacc; cases hacc
            | some res =>
              obtain ⟨o', t'⟩ := res
              rw [hr] at hacc
              simp only [Option.map_some, Option.some.injEq, Prod.mk.injEq] at hacc
              obtain ⟨eo, et⟩ := hacc
              obtain ⟨x, ys', hseed, hsim⟩ := ih f ys (m' - 2 ^ M) false old o' t' (2 * a + 1) (2 * b + β) s0' s
                (by omega) (by omega) (by omega) hs0' (by omega) (tz_sub htz (by omega) (by omega))
                (fun hc => by cases hc) hr
              subst hbf
              refine ⟨x, ys' ++ [last], hseed.snoc last, fun rest => ?_⟩
              have hfn : m' - 1 + a * 2 ^ (M + 1) = (m' - 2 ^ M - 1) + (2 * a + 1) * 2 ^ M := by
                rw [e1, Nat.add_mul]; omega
              rw [List.append_assoc, hfn, hsn, hsim ([last] ++ rest)]
              show consLoop node (last :: rest) (2 * a + 1) (2 * b + β) o' t' = _
              conv => lhs; rw [consLoop]
              rw [if_neg (by omega), if_pos (Or.inl (by omega)), if_neg (by omega), ← eo, ← et]
              show consLoop node rest ((2 * a + 1) / 2) ((2 * b + β) / 2) (node last o') (node last t') = _
              have d1 : (2 * a + 1) / 2 = a := by omega
              have d2 : (2 * b + β) / 2 = b := by omega
              rw [d1, d2]

/-- subtree of size `t' ≤ 2^m` on the right spine with old part `m' < t'`: the loop leaves `(c·2^e, c·2^e)` -/
theorem cons_spine : ∀ f t' (p1 : List H) m' b' old o r c m s, t' ≤ f → 1 ≤ m' → m' < t' → t' ≤ 2 ^ m → Tz m' s →
    (b' = true → Pow2 m') → consRootsF node f p1 t' m' b' old = some (o, r) →
    ∃ x p1', Seeded b' old p1 x p1' ∧ ∃ e, ∀ rest,
      consLoop node (p1' ++ rest) ((m' - 1 + c * 2 ^ m) / 2 ^ s) ((t' - 1 + c * 2 ^ m) / 2 ^ s) x x =
        consLoop node rest (c * 2 ^ e) (c * 2 ^ e) o r := by
  intro f
  induction f with
  | zero => intro t' p1 m' b' old o r c m s hf h1 h2; omega
  | succ f ih =>
    intro t' p1 m' b' old o r c m s hf hm1 hm2 hm htz hb hacc
    unfold consRootsF at hacc
    rw [if_neg (by omega)] at hacc
    have hs := splitPoint_spec t' (by omega)
    obtain ⟨j, d, hj, hpm⟩ := splitPoint_pow_split t' m (by omega) hm
    cases hp : p1.getLast? with
    | none => rw [hp] at hacc; cases hacc
    | some last =>
      rw [hp] at hacc
      obtain ⟨ys, rfl⟩ := List.getLast?_eq_some_iff.mp hp
      simp only [List.dropLast_concat] at hacc
      have hcm : c * 2 ^ m = (2 * (c * 2 ^ d)) * 2 ^ j := by rw [hpm]; ac_rfl
      rw [hj] at hacc hs
      by_cases hk : m' ≤ 2 ^ j
      · rw [if_pos hk] at hacc
        cases hr : consRootsF node f ys (2 ^ j) m' b' old with
        | none => rw [hr] at hacc; cases hacc
        | some res =>
          obtain ⟨o', t''⟩ := res
          rw [hr] at hacc
          simp only [Option.map_some, Option.some.injEq, Prod.mk.injEq] at hacc
          obtain ⟨eo, et⟩ := hacc
          obtain ⟨x, ys', hseed, hsim⟩ := cons_complete node j f ys m' b' old o' t'' (2 * (c * 2 ^ d))
            (2 * (c * 2 ^ d) + 1) (t' - 1 - 2 ^ j) s (by omega) hm1 hk (by omega) (by omega) htz hb hr
          refine ⟨x, ys' ++ [last], hseed.snoc last, d, fun rest => ?_⟩
          have hfn : m' - 1 + c * 2 ^ m = m' - 1 + (2 * (c * 2 ^ d)) * 2 ^ j := by rw [hcm]
          have hsn : t' - 1 + c * 2 ^ m = (t' - 1 - 2 ^ j) + (2 * (c * 2 ^ d) + 1) * 2 ^ j := by
            rw [hcm, Nat.add_mul]; omega
          rw [List.append_assoc, hfn, hsn, hsim ([last] ++ rest)]
          show consLoop node (last :: rest) (2 * (c * 2 ^ d)) (2 * (c * 2 ^ d) + 1) o' t'' = _
          conv => lhs; rw [consLoop]
          rw [if_neg (by omega), if_neg (by omega), ← eo, ← et]
          have d1 : 2 * (c * 2 ^ d) / 2 = c * 2 ^ d := by omega
          have d2 : (2 * (c * 2 ^ d) + 1) / 2 = c * 2 ^ d := by omega
          rw [d1, d2]
      · rw [if_neg hk] at hacc
        have hbf : b' = false := by
          cases b' with
          | false => rfl
          | true => exact absurd (hb rfl) (no_pow2_between (M := j) (by omega) (by rw [Nat.pow_succ]; omega))
        cases hr : consRootsF node f ys (t' - 2 ^ j) (m' - 2 ^ j) false old with
        | none => rw [hr] at hacc; cases hacc
        | some res =>
          obtain ⟨o', t''⟩ := res
          rw [hr] at hacc
          simp only [Option.map_some, Option.some.injEq, Prod.mk.injEq] at hacc
          obtain ⟨eo, et⟩ := hacc
          obtain ⟨x, ys', hseed, e', hsim⟩ := ih (t' - 2 ^ j) ys (m' - 2 ^ j) false old o' t'' (2 * (c * 2 ^ d) + 1) j s
            (by omega) (by omega) (by omega) (by omega) (tz_sub htz (by omega) (by rw [Nat.pow_succ]; omega))
            (fun hc => by cases hc) hr
          subst hbf
          refine ⟨x, ys' ++ [last], hseed.snoc last, d, fun rest => ?_⟩
          have hfn : m' - 1 + c * 2 ^ m = (m' - 2 ^ j - 1) + (2 * (c * 2 ^ d) + 1) * 2 ^ j := by
            rw [hcm, Nat.add_mul]; omega
          have hsn : t' - 1 + c * 2 ^ m = (t' - 2 ^ j - 1) + (2 * (c * 2 ^ d) + 1) * 2 ^ j := by
            rw [hcm, Nat.add_mul]; omega
          rw [List.append_assoc, hfn, hsn, hsim ([last] ++ rest)]
          show consLoop node (last :: rest) _ _ o' t'' = _
          rw [consLoop_spine_step node last rest _ e' o' t'' (by omega), ← eo, ← et]
          have d1 : (2 * (c * 2 ^ d) + 1) / 2 = c * 2 ^ d := by omega
          rw [d1]

omit [DecidableEq H] in
/-- when the old size is not a power of two the recursion leaves the left spine before it stops, so the flag is
    never consulted -/
theorem consRootsF_flag : ∀ f (p : List H) t m old, ¬ Pow2 m → m ≠ t →
    consRootsF node f p t m true old = consRootsF node f p t m false old := by
  intro f
  induction f with
  | zero => intros; rfl
  | succ f ih =>
    intro p t m old hp hne
    unfold consRootsF
    rw [if_neg hne, if_neg hne]
    have hk : m ≠ splitPoint t := fun hc => hp ⟨_, hc⟩
    dsimp only
    rw [ih p.dropLast (splitPoint t) m old hp hk]

/-- the number of hashes the recursion consumes -/
def consLenF : Nat → Nat → Nat → Bool → Nat
  | 0, _, _, _ => 0
  | f + 1, t, m, b =>
    if m = t then (if b then 0 else 1)
    else if m ≤ splitPoint t then consLenF f (splitPoint t) m b + 1
    else consLenF f (t - splitPoint t) (m - splitPoint t) false + 1

omit [DecidableEq H] in
theorem consRootsF_some_of_len : ∀ f (p : List H) t m b old, t ≤ f → 1 ≤ m → m ≤ t → p.length = consLenF f t m b →
    ∃ res, consRootsF node f p t m b old = some res := by
  intro f
  induction f with
  | zero => intro p t m b old hf h1 h2; omega
  | succ f ih =>
    intro p t m b old hf h1 h2 hlen
    unfold consLenF at hlen
    unfold consRootsF
    by_cases hmt : m = t
    · rw [if_pos hmt] at hlen
      rw [if_pos hmt]
      cases b with
      | true =>
        simp only [↓reduceIte] at hlen ⊢
        have : p = [] := List.eq_nil_of_length_eq_zero hlen
        subst this
        exact ⟨_, rfl⟩
      | false =>
        simp only [Bool.false_eq_true, ↓reduceIte] at hlen ⊢
        match p, hlen with
        | [x], _ => exact ⟨_, rfl⟩
    · rw [if_neg hmt] at hlen
      rw [if_neg hmt]
      have hs := splitPoint_spec t (by omega)
      have hne : p ≠ [] := by
        intro hc; subst hc; split at hlen <;> simp at hlen
      obtain ⟨ys, last, rfl⟩ : ∃ ys last, p = ys ++ [last] :=
        ⟨p.dropLast, p.getLast hne, (List.dropLast_concat_getLast hne).symm⟩
      simp only [List.getLast?_append, List.getLast?_singleton, Option.some_or, List.dropLast_concat]
      simp only [List.length_append, List.length_singleton] at hlen
      by_cases hk : m ≤ splitPoint t
      · rw [if_pos hk] at hlen
        rw [if_pos hk]
        obtain ⟨res, hr⟩ := ih ys (splitPoint t) m b old (by omega) h1 hk (by omega)
        exact ⟨_, by rw [hr]; rfl⟩
      · rw [if_neg hk] at hlen
        rw [if_neg hk]
        obtain ⟨res, hr⟩ := ih ys (t - splitPoint t) (m - splitPoint t) false old (by omega) (by omega) (by omega) (by omega)
        exact ⟨_, by rw [hr]; rfl⟩

theorem consLoop_append_none : ∀ (p : List H) fn sn fr sr fr' sr' (ext : List H),
    consLoop node p fn sn fr sr = some (0, fr', sr') → ext ≠ [] → consLoop node (p ++ ext) fn sn fr sr = none := by
  intro p
  induction p with
  | nil =>
    intro fn sn fr sr fr' sr' ext h hext
    simp only [consLoop, Option.some.injEq, Prod.mk.injEq] at h
    cases ext with
    | nil => exact absurd rfl hext
    | cons x xs => simp [consLoop, h.1]
  | cons q qs ih =>
    intro fn sn fr sr fr' sr' ext h hext
    rw [List.cons_append]
    rw [consLoop] at h ⊢
    split
    · rfl
    · rename_i hsn
      rw [if_neg hsn] at h
      split
      · rename_i hc
        rw [if_pos hc] at h
        exact ih _ _ _ _ fr' sr' ext h hext
      · rename_i hc
        rw [if_neg hc] at h
        exact ih _ _ _ _ fr' sr' ext h hext

/-- "if first is an exact power of 2, then prepend first_hash to the consistency_path array" -/
def seedList (n : Nat) (h : H) (p : List H) : List H := if n = 2 ^ n.log2 then h :: p else p

omit [DecidableEq H] in
theorem seedList_append (n : Nat) (h : H) (p e : List H) : seedList n h (p ++ e) = seedList n h p ++ e := by
  unfold seedList; split <;> rfl

theorem pow2_iff (n : Nat) : n = 2 ^ n.log2 ↔ Pow2 n := by
  constructor
  · intro h; exact ⟨_, h⟩
  · rintro ⟨s, rfl⟩; rw [Nat.log2_two_pow]

/-- ★ RFC 9162 §2.1.4.2 accepts exactly the tuples accepted by recomputation of both roots along the RFC 6962
    SUBPROOF recursion -/
theorem rfc9162_cons_equiv (p : List H) (t n : Nat) (h root : H) (h0 : 0 < n) (hn : n < t) :
    verifyConsistency node p n t h root = true ↔ AcceptCons node p t n h root := by
  obtain ⟨s, htz⟩ := exists_tz n h0
  obtain ⟨u, hu⟩ := id htz
  have hP := Nat.two_pow_pos s
  have hn1 : n - 1 = 2 ^ s - 1 + 2 ^ (s + 1) * u := by
    have : 2 ^ (s + 1) * u = (2 * u) * 2 ^ s := by rw [Nat.pow_succ]; ac_rfl
    rw [this, hu, Nat.add_mul]; omega
  have hsle : s ≤ n := by
    have : 2 ^ s ≤ n := by rw [hu]; exact Nat.le_mul_of_pos_left _ (by omega)
    exact Nat.le_of_lt (Nat.lt_of_lt_of_le Nat.lt_two_pow_self this)
  have hshift : shiftWhileOdd n (n - 1) (t - 1) = (2 * u, (t - 1) / 2 ^ s) := by
    rw [hn1]; exact shiftWhileOdd_spec s n u (t - 1) hsle
  have hfn0 : (n - 1 + 0 * 2 ^ t) / 2 ^ s = 2 * u := by
    have : n - 1 + 0 * 2 ^ t = (2 ^ s - 1) + (2 * u) * 2 ^ s := by rw [hu, Nat.add_mul]; omega
    rw [this, add_mul_div_pow _ _ s (by omega)]
  have hpow : t ≤ 2 ^ t := Nat.le_of_lt Nat.lt_two_pow_self
  -- forward simulation from the top (c = 0)
  have sim : ∀ p1 o r, consRootsF node t p1 t n true h = some (o, r) →
      ∃ x p1', seedList n h p1 = x :: p1' ∧ ∀ rest,
        consLoop node (p1' ++ rest) (2 * u) ((t - 1) / 2 ^ s) x x = consLoop node rest 0 0 o r := by
    intro p1 o r hacc
    by_cases hp2 : Pow2 n
    · obtain ⟨x, p1', hseed, e, hsim⟩ := cons_spine node t t p1 n true h o r 0 t s (Nat.le_refl _) h0 hn hpow htz
        (fun _ => hp2) hacc
      rcases hseed with ⟨_, hx, hp1⟩ | ⟨hc, _⟩
      · refine ⟨x, p1', by rw [seedList, if_pos ((pow2_iff n).mpr hp2), hx, hp1], fun rest => ?_⟩
        have := hsim rest
        rw [hfn0] at this
        simpa using this
      · cases hc
    · rw [consRootsF_flag node t p1 t n h hp2 (by omega)] at hacc
      obtain ⟨x, p1', hseed, e, hsim⟩ := cons_spine node t t p1 n false h o r 0 t s (Nat.le_refl _) h0 hn hpow htz
        (fun hc => by cases hc) hacc
      rcases hseed with ⟨hc, _⟩ | ⟨_, hp1⟩
      · cases hc
      · refine ⟨x, p1', by rw [seedList, if_neg (fun hc => hp2 ((pow2_iff n).mp hc)), hp1], fun rest => ?_⟩
        have := hsim rest
        rw [hfn0] at this
        simpa using this
  -- the verifier, in terms of `seedList`
  have hver : verifyConsistency node p n t h root =
      if p.isEmpty then false else
        match seedList n h p with
        | [] => false
        | x :: rest =>
          match consLoop node rest (2 * u) ((t - 1) / 2 ^ s) x x with
          | some (sn, fr, sr) => decide (fr = h ∧ sr = root ∧ sn = 0)
          | none => false := by
    unfold verifyConsistency seedList
    rw [hshift]
    rfl
  rw [hver]
  unfold AcceptCons
  constructor
  · intro hv
    refine ⟨h0, Nat.le_of_lt hn, ?_⟩
    by_cases hemp : p.isEmpty
    · rw [if_pos hemp] at hv; cases hv
    · rw [if_neg hemp] at hv
      have hpne : p ≠ [] := by intro hc; subst hc; simp at hemp
      cases hsl : seedList n h p with
      | nil => rw [hsl] at hv; cases hv
      | cons x q =>
        rw [hsl] at hv
        simp only [] at hv
        cases hl : consLoop node q (2 * u) ((t - 1) / 2 ^ s) x x with
        | none => rw [hl] at hv; cases hv
        | some res =>
          obtain ⟨sn, fr, sr⟩ := res
          rw [hl] at hv
          simp only [decide_eq_true_eq] at hv
          obtain ⟨hfr, hsr, hsn⟩ := hv
          subst hfr; subst hsr; subst hsn
          rcases Nat.lt_trichotomy p.length (consLenF t t n true) with hlt | heq | hgt
          · exfalso
            let ext := List.replicate (consLenF t t n true - p.length) fr
            have hext : ext ≠ [] := by
              intro hc; have := congrArg List.length hc; simp [ext] at this; omega
            obtain ⟨⟨o, r⟩, hr1⟩ := consRootsF_some_of_len node t (p ++ ext) t n true fr (Nat.le_refl _) h0
              (Nat.le_of_lt hn) (by simp [ext]; omega)
            obtain ⟨x', p1', hs1, hs2⟩ := sim (p ++ ext) o r hr1
            rw [seedList_append, hsl] at hs1
            simp only [List.cons_append, List.cons.injEq] at hs1
            have h1 := hs2 []
            rw [List.append_nil, ← hs1.2, ← hs1.1, consLoop_append_none node q _ _ x x fr sr ext hl hext] at h1
            simp [consLoop] at h1
          · obtain ⟨⟨o, r⟩, hr1⟩ := consRootsF_some_of_len node t p t n true fr (Nat.le_refl _) h0
              (Nat.le_of_lt hn) heq
            obtain ⟨x', p1', hs1, hs2⟩ := sim p o r hr1
            rw [hsl] at hs1
            simp only [List.cons.injEq] at hs1
            have h1 := hs2 []
            rw [List.append_nil, ← hs1.2, ← hs1.1, hl] at h1
            simp only [consLoop, Option.some.injEq, Prod.mk.injEq, true_and] at h1
            rw [hr1, h1.1, h1.2]
          · exfalso
            obtain ⟨⟨o, r⟩, hr1⟩ := consRootsF_some_of_len node t (p.take (consLenF t t n true)) t n true fr
              (Nat.le_refl _) h0 (Nat.le_of_lt hn) (by rw [List.length_take]; omega)
            obtain ⟨x', p1', hs1, hs2⟩ := sim (p.take (consLenF t t n true)) o r hr1
            have hsplit : seedList n fr p = x' :: (p1' ++ p.drop (consLenF t t n true)) := by
              conv => lhs; rw [← List.take_append_drop (consLenF t t n true) p]
              rw [seedList_append, hs1]; rfl
            rw [hsl] at hsplit
            simp only [List.cons.injEq] at hsplit
            have h1 := hs2 (p.drop (consLenF t t n true))
            rw [← hsplit.2, ← hsplit.1, hl] at h1
            cases hd : p.drop (consLenF t t n true) with
            | nil => have := congrArg List.length hd; simp at this; omega
            | cons y ys => rw [hd] at h1; simp [consLoop] at h1
  · rintro ⟨_, _, hacc⟩
    obtain ⟨x, p1', hs1, hs2⟩ := sim p h root hacc
    have hpne : p.isEmpty = false := by
      cases p with
      | nil =>
        exfalso
        have : consRootsF node t [] t n true h = none := by
          cases t with
          | zero => omega
          | succ t' => unfold consRootsF; rw [if_neg (by omega)]; rfl
        rw [this] at hacc; cases hacc
      | cons y ys => rfl
    rw [hpne, hs1]
    simp only [Bool.false_eq_true, ↓reduceIte]
    have h1 := hs2 []
    rw [List.append_nil] at h1
    rw [h1]
    simp [consLoop]

end
end ModVerif.RFC6962
