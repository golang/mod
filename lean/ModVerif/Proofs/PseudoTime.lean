/- Helper lemmas for C18: fixed-width decimal time stamps — bytewise order is numeric order.
   `fmtTime_mono_aux`, `timeValid_fmtTime_aux` are the complete statements of Props/C18 (which has the plain names). -/
import ModVerif.Proofs.PseudoDecimal
namespace ModVerif.Proofs.Pseudo
open ModVerif ModVerif.PseudoSpec
open ModVerif.Pseudo hiding isDigit isAlnum

theorem decValue_append : ∀ a b : Bytes, decValue (a ++ b) = decValue a * 10 ^ b.length + decValue b
  | [], b => by simp [decValue]
  | c :: a, b => by
    simp only [List.cons_append, decValue, decValue_append a b, List.length_append]
    rw [Nat.pow_add, Nat.add_mul, Nat.mul_assoc]
    omega

theorem bytesLt_iff_decValue (a b : Bytes) (ha : ∀ c ∈ a, isDigit c = true) (hb : ∀ c ∈ b, isDigit c = true)
    (hl : a.length = b.length) : bytesLt a b = true ↔ decValue a < decValue b := by
  have := (Semver.bytesLt_iff_decVal a b hl (List.all_eq_true.mpr ha) (List.all_eq_true.mpr hb)).1
  rwa [decVal_eq_decValue, decVal_eq_decValue] at this

theorem small_digit : ∀ n : Fin 10, isDigit (UInt8.ofNat (48 + n)) = true ∧ (UInt8.ofNat (48 + n)).toNat - 48 = n := by
  decide

theorem natDigits_spec : ∀ (fuel n k : Nat), 1 ≤ k → n < 10 ^ k → k ≤ fuel →
    (natDigits fuel n).length ≤ k ∧ decValue (natDigits fuel n) = n ∧ ∀ c ∈ natDigits fuel n, isDigit c = true
  | 0, _, _, hk, _, hf => by omega
  | fuel + 1, n, k, hk, hn, hf => by
    by_cases h10 : n < 10
    · have := small_digit ⟨n, h10⟩
      simp only [natDigits, h10, if_true]
      refine ⟨by simpa using hk, ?_, ?_⟩
      · simp only [decValue, List.length_nil, Nat.pow_zero, Nat.mul_one, Nat.add_zero]; exact this.2
      · intro c hc; rw [List.mem_singleton] at hc; subst hc; exact this.1
    · have hk2 : 2 ≤ k := by
        rcases Nat.lt_or_ge k 2 with h | h
        · have : k = 1 := by omega
          subst this; simp at hn; omega
        · exact h
      have hdiv : n / 10 < 10 ^ (k - 1) := by
        apply Nat.div_lt_of_lt_mul
        have : 10 ^ k = 10 * 10 ^ (k - 1) := by
          rw [← Nat.pow_succ']; congr 1; omega
        omega
      obtain ⟨i1, i2, i3⟩ := natDigits_spec fuel (n / 10) (k - 1) (by omega) hdiv (by omega)
      have hm := small_digit ⟨n % 10, Nat.mod_lt _ (by omega)⟩
      simp only [natDigits, h10, if_false]
      refine ⟨by simp; omega, ?_, ?_⟩
      · rw [decValue_append, i2]
        simp only [decValue, List.length_nil, Nat.pow_zero, Nat.mul_one, Nat.add_zero, List.length_singleton, Nat.pow_one]
        rw [hm.2]; simp only []; omega
      · intro c hc
        rcases List.mem_append.mp hc with h | h
        · exact i3 c h
        · rw [List.mem_singleton] at h; subst h; exact hm.1

theorem padDec_spec (w n : Nat) (hw : 1 ≤ w) (hw' : w ≤ 40) (hn : n < 10 ^ w) :
    (padDec w n).length = w ∧ decValue (padDec w n) = n ∧ ∀ c ∈ padDec w n, isDigit c = true := by
  obtain ⟨i1, i2, i3⟩ := natDigits_spec 40 n w hw hn hw'
  unfold padDec
  refine ⟨by simp; omega, ?_, ?_⟩
  · rw [decValue_append, decValue_replicate_zero, i2]; simp
  · intro c hc
    rcases List.mem_append.mp hc with h | h
    · rw [List.eq_of_mem_replicate h]; decide
    · exact i3 c h

theorem fmtTime_spec {Y M D h m s : Nat} (hr : Y < 10000 ∧ M < 100 ∧ D < 100 ∧ h < 100 ∧ m < 100 ∧ s < 100) :
    Ts (fmtTime Y M D h m s) ∧
    decValue (fmtTime Y M D h m s) = ((((Y * 100 + M) * 100 + D) * 100 + h) * 100 + m) * 100 + s := by
  obtain ⟨r1, r2, r3, r4, r5, r6⟩ := hr
  obtain ⟨a1, a2, a3⟩ := padDec_spec 4 Y (by omega) (by omega) (by omega)
  obtain ⟨b1, b2, b3⟩ := padDec_spec 2 M (by omega) (by omega) (by omega)
  obtain ⟨c1, c2, c3⟩ := padDec_spec 2 D (by omega) (by omega) (by omega)
  obtain ⟨d1, d2, d3⟩ := padDec_spec 2 h (by omega) (by omega) (by omega)
  obtain ⟨e1, e2, e3⟩ := padDec_spec 2 m (by omega) (by omega) (by omega)
  obtain ⟨f1, f2, f3⟩ := padDec_spec 2 s (by omega) (by omega) (by omega)
  unfold fmtTime
  refine ⟨⟨by simp [a1, b1, c1, d1, e1, f1], ?_⟩, ?_⟩
  · intro c hc
    simp only [List.mem_append] at hc
    rcases hc with ((((hc | hc) | hc) | hc) | hc) | hc
    · exact a3 c hc
    · exact b3 c hc
    · exact c3 c hc
    · exact d3 c hc
    · exact e3 c hc
    · exact f3 c hc
  · simp only [decValue_append, a2, b2, c2, d2, e2, f2, b1, c1, d1, e1, f1]

theorem fmtTime_mono_aux {Y M D h m s Y' M' D' h' m' s' : Nat}
    (hr : Y < 10000 ∧ M < 100 ∧ D < 100 ∧ h < 100 ∧ m < 100 ∧ s < 100)
    (hr' : Y' < 10000 ∧ M' < 100 ∧ D' < 100 ∧ h' < 100 ∧ m' < 100 ∧ s' < 100) :
    Ts (fmtTime Y M D h m s) ∧
    (bytesLt (fmtTime Y M D h m s) (fmtTime Y' M' D' h' m' s') = true ↔
      civilLt (Y, M, D, h, m, s) (Y', M', D', h', m', s')) := by
  obtain ⟨t1, v1⟩ := fmtTime_spec hr
  obtain ⟨t2, v2⟩ := fmtTime_spec hr'
  refine ⟨t1, ?_⟩
  rw [bytesLt_iff_decValue _ _ t1.2 t2.2 (by rw [t1.1, t2.1]), v1, v2]
  obtain ⟨r1, r2, r3, r4, r5, r6⟩ := hr
  obtain ⟨q1, q2, q3, q4, q5, q6⟩ := hr'
  simp only [civilLt]
  omega


theorem foldl_decVal : ∀ (d : Bytes) (n : Nat),
    d.foldl (fun n c => 10 * n + (c.toNat - 48)) n = n * 10 ^ d.length + decValue d
  | [], n => by simp [decValue]
  | c :: d, n => by
    simp only [List.foldl_cons, foldl_decVal d, decValue, List.length_cons, Nat.pow_succ]
    rw [Nat.add_mul, Nat.mul_comm 10 n, Nat.mul_assoc, Nat.mul_comm 10 (10 ^ d.length)]
    omega

theorem decVal_eq (d : Bytes) : decVal d = decValue d := by
  unfold decVal; rw [foldl_decVal]; simp

theorem fields_of_concat (A B C D E F : Bytes) (ha : A.length = 4) (hb : B.length = 2) (hc : C.length = 2)
    (hd : D.length = 2) (he : E.length = 2) :
    let ts := A ++ B ++ C ++ D ++ E ++ F
    ts.take 4 = A ∧ (ts.drop 4).take 2 = B ∧ (ts.drop 6).take 2 = C ∧ (ts.drop 8).take 2 = D ∧
      (ts.drop 10).take 2 = E ∧ ts.drop 12 = F := by
  intro ts
  have e : ts = A ++ (B ++ (C ++ (D ++ (E ++ F)))) := by simp [ts]
  have d4 : ts.drop 4 = B ++ (C ++ (D ++ (E ++ F))) := by rw [e]; exact List.drop_left' ha
  have d6 : ts.drop 6 = C ++ (D ++ (E ++ F)) := by
    have : ts.drop 6 = (ts.drop 4).drop 2 := by simp
    rw [this, d4]; exact List.drop_left' hb
  have d8 : ts.drop 8 = D ++ (E ++ F) := by
    have : ts.drop 8 = (ts.drop 6).drop 2 := by simp
    rw [this, d6]; exact List.drop_left' hc
  have d10 : ts.drop 10 = E ++ F := by
    have : ts.drop 10 = (ts.drop 8).drop 2 := by simp
    rw [this, d8]; exact List.drop_left' hd
  have d12 : ts.drop 12 = F := by
    have : ts.drop 12 = (ts.drop 10).drop 2 := by simp
    rw [this, d10]; exact List.drop_left' he
  refine ⟨by rw [e]; exact List.take_left' ha, by rw [d4]; exact List.take_left' hb,
    by rw [d6]; exact List.take_left' hc, by rw [d8]; exact List.take_left' hd,
    by rw [d10]; exact List.take_left' he, d12⟩

theorem timeValid_fmtTime_aux {Y M D h m s : Nat} (hY : Y < 10000) (hM : 1 ≤ M ∧ M ≤ 12)
    (hD : 1 ≤ D ∧ D ≤ daysIn M Y) (hh : h < 24) (hm : m < 60) (hs : s < 60) :
    timeValid (fmtTime Y M D h m s) = true := by
  have hD31 : D ≤ 31 := by
    have : daysIn M Y ≤ 31 := by unfold daysIn; split <;> (try split) <;> omega
    omega
  obtain ⟨a1, a2, _⟩ := padDec_spec 4 Y (by omega) (by omega) (by omega)
  obtain ⟨b1, b2, _⟩ := padDec_spec 2 M (by omega) (by omega) (by omega)
  obtain ⟨c1, c2, _⟩ := padDec_spec 2 D (by omega) (by omega) (by omega)
  obtain ⟨d1, d2, _⟩ := padDec_spec 2 h (by omega) (by omega) (by omega)
  obtain ⟨e1, e2, _⟩ := padDec_spec 2 m (by omega) (by omega) (by omega)
  obtain ⟨f1, f2, _⟩ := padDec_spec 2 s (by omega) (by omega) (by omega)
  obtain ⟨t1, _⟩ := fmtTime_spec (Y := Y) (M := M) (D := D) (h := h) (m := m) (s := s)
    ⟨hY, by omega, by omega, by omega, by omega, by omega⟩
  obtain ⟨g1, g2, g3, g4, g5, g6⟩ := fields_of_concat _ _ _ _ _ (padDec 2 s) a1 b1 c1 d1 e1
  have g6' : (List.drop 12 (fmtTime Y M D h m s)).take 2 = padDec 2 s := by
    unfold fmtTime; rw [g6]; exact List.take_of_length_le (by omega)
  have hall : (fmtTime Y M D h m s).all Pseudo.isDigit = true := by
    rw [List.all_eq_true]; exact t1.2
  unfold timeValid
  simp only [hall, t1.1]
  unfold fmtTime
  simp only [g1, g2, g3, g4, g5]
  have g6'' := g6'
  unfold fmtTime at g6''
  simp only [g6'', decVal_eq, a2, b2, c2, d2, e2, f2]
  simp [hM.1, hM.2, hD.1, hD.2, hh, hm, hs]

end ModVerif.Proofs.Pseudo
