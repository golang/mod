/-
  Degenerate intervals (`hi` negative, `hi ≤ lo`) — the Go functions panic at the first guard, and so
  does the model on `hi.toNat = 0`.  Lets the Int-argument tie theorems do without a hypothesis `0 ≤ hi`.
-/
import ModVerif.Proofs.TieFnTlogProofTop
namespace ModVerif.Tie.FnTlogProof
open ModVerif ModVerif.GoRt ModVerif.TieFnTlogInt

section
variable {H : Type} [DecidableEq H] [Inhabited H] (node : H → H → H)

/-- a negative `hi`: the guard `lo <= n && n < hi` fails -/
theorem leafProof_neg (fuel : Nat) (lo hi n : Int) (hashes : List H) (hn : 0 ≤ n) (hhi : hi < 0) (hf : 1 ≤ fuel) :
    Generated.Tlog.leafProof node fuel lo hi n hashes = .error .panic := by
  obtain ⟨fuel, rfl⟩ : ∃ f', fuel = f' + 1 := ⟨fuel - 1, by omega⟩
  unfold Generated.Tlog.leafProof
  have hg : (!(decide (lo ≤ n) && decide (n < hi))) = true := by simp; omega
  simp only [hg, if_true, mthrow]

theorem treeProof_neg (fuel : Nat) (lo hi n : Int) (hashes : List H) (hn : 0 ≤ n) (hhi : hi < 0) (hf : 1 ≤ fuel) :
    Generated.Tlog.treeProof node fuel lo hi n hashes = .error .panic := by
  obtain ⟨fuel, rfl⟩ : ∃ f', fuel = f' + 1 := ⟨fuel - 1, by omega⟩
  unfold Generated.Tlog.treeProof
  have hg : (!(decide (lo < n) && decide (n ≤ hi))) = true := by simp; omega
  simp only [hg, if_true, mthrow]

theorem leafProofIndex_neg (fuel : Nat) (lo hi n : Int) (need : List Int) (hn : 0 ≤ n) (hhi : hi < 0) (hf : 1 ≤ fuel) :
    Generated.Tlog.leafProofIndex fuel lo hi n need = .error .panic := by
  obtain ⟨fuel, rfl⟩ : ∃ f', fuel = f' + 1 := ⟨fuel - 1, by omega⟩
  unfold Generated.Tlog.leafProofIndex
  have hg : (!(decide (lo ≤ n) && decide (n < hi))) = true := by simp; omega
  simp only [hg, if_true, mthrow]

theorem treeProofIndex_neg (fuel : Nat) (lo hi n : Int) (need : List Int) (hn : 0 ≤ n) (hhi : hi < 0) (hf : 1 ≤ fuel) :
    Generated.Tlog.treeProofIndex fuel lo hi n need = .error .panic := by
  obtain ⟨fuel, rfl⟩ : ∃ f', fuel = f' + 1 := ⟨fuel - 1, by omega⟩
  unfold Generated.Tlog.treeProofIndex
  have hg : (!(decide (lo < n) && decide (n ≤ hi))) = true := by simp; omega
  simp only [hg, if_true, mthrow]

/-- `hi ≤ lo` (in particular a negative `hi`): no subtree, `hashes[-1]` panics -/
theorem subTreeHash_empty (fuel : Nat) (lo hi : Int) (hashes : List H) (h : hi ≤ lo) (hf : 1 ≤ fuel) :
    Generated.Tlog.subTreeHash node fuel lo hi hashes = .error .panic := by
  obtain ⟨fuel, rfl⟩ : ∃ f', fuel = f' + 1 := ⟨fuel - 1, by omega⟩
  unfold Generated.Tlog.subTreeHash Generated.Tlog.subTreeHash_loop1
  have e1 : decide (lo < hi) = false := decide_eq_false (by omega)
  simp only [e1, Bool.false_eq_true, if_false, mpure, mbind_ok]
  have e2 : decide (len hashes < 0) = false := by rw [len_eq]; exact decide_eq_false (by omega)
  simp only [e2, Bool.false_eq_true, if_false]
  rw [chk64_ok _ (by omega) (by omega), mbind_ok, idxL_out _ _ (by omega), mbind_error]

omit [DecidableEq H] [Inhabited H] in
theorem subTreeHash_model_empty (lo hi : Nat) (hashes : List H) (h : hi ≤ lo) :
    Tlog.subTreeHash node lo hi hashes = .error .panic := by
  have : hi - lo = 0 := by omega
  have hlt : ¬ lo < hi := by omega
  simp [Tlog.subTreeHash, this, Tlog.numTreeF, hlt, Tlog.foldRight, mbind_ok]

end
end ModVerif.Tie.FnTlogProof
