/-
  Tie proofs for the regenerated semver functions: the accessors (IsValid, Canonical, Major, MajorMinor,
  Prerelease, Build).
-/
import ModVerif.Proofs.TieFnSemverParse
import ModVerif.Proofs.SemverGrammar
namespace ModVerif.TieFnSemver
open ModVerif ModVerif.GoRt
open ModVerif.Generated.Semver (parsed)

theorem parse_lens {v : Bytes} {p : Semver.Parsed} (h : Semver.parse v = some p) :
    1 + p.major.length ≤ v.length ∧ p.build.length ≤ v.length := by
  have hd := Semver.parse_decomp h
  cases hd with
  | short1 maj nmaj => simp; omega
  | short2 maj min nmaj nmin => simp; omega
  | full maj min pat pre bld nmaj nmin npat hpre hbld => simp; omega

theorem IsValid_ok (v : Bytes) (fuel : Nat) (hf : 2 * v.length ≤ fuel) :
    Generated.Semver.IsValid fuel v = .ok (Semver.isValid v) := by
  unfold Generated.Semver.IsValid Semver.isValid
  rw [parse_ok v fuel hf]
  cases Semver.parse v <;> rfl

theorem Prerelease_ok (v : Bytes) (fuel : Nat) (hf : 2 * v.length ≤ fuel) :
    Generated.Semver.Prerelease fuel v = .ok (Semver.prerelease v) := by
  unfold Generated.Semver.Prerelease Semver.prerelease
  rw [parse_ok v fuel hf]
  cases Semver.parse v <;> rfl

theorem Build_ok (v : Bytes) (fuel : Nat) (hf : 2 * v.length ≤ fuel) :
    Generated.Semver.Build fuel v = .ok (Semver.build v) := by
  unfold Generated.Semver.Build Semver.build
  rw [parse_ok v fuel hf]
  cases Semver.parse v <;> rfl

theorem Major_ok (v : Bytes) (fuel : Nat) (hf : 2 * v.length ≤ fuel) :
    Generated.Semver.Major fuel v = .ok (Semver.major v) := by
  unfold Generated.Semver.Major Semver.major
  rw [parse_ok v fuel hf]
  cases h : Semver.parse v with
  | none => rfl
  | some p =>
    have hl := (parse_lens h).1
    have : (1 : Int) + len p.major = ((1 + p.major.length : Nat) : Int) := by simp [len_eq]
    simp only [bind_ok, Bool.not_true, Bool.false_eq_true, if_false, ofParsed, this, sliceTo_natCast hl, pure_eq_ok]

theorem Canonical_ok (v : Bytes) (fuel : Nat) (hf : 2 * v.length ≤ fuel) :
    Generated.Semver.Canonical fuel v = .ok (Semver.canonical v) := by
  unfold Generated.Semver.Canonical Semver.canonical
  rw [parse_ok v fuel hf]
  cases h : Semver.parse v with
  | none => rfl
  | some p =>
    have hl := (parse_lens h).2
    have : len v - len p.build = ((v.length - p.build.length : Nat) : Int) := by simp [len_eq]; omega
    simp only [bind_ok, Bool.not_true, Bool.false_eq_true, if_false, ofParsed, this,
      sliceTo_natCast (Nat.sub_le _ _), pure_eq_ok]
    cases hb : p.build <;> cases hs : p.short <;> simp

theorem MajorMinor_ok (v : Bytes) (fuel : Nat) (hf : 2 * v.length ≤ fuel) :
    Generated.Semver.MajorMinor fuel v = .ok (Semver.majorMinor v) := by
  unfold Generated.Semver.MajorMinor Semver.majorMinor
  rw [parse_ok v fuel hf]
  cases h : Semver.parse v with
  | none => rfl
  | some p =>
    have hl := (parse_lens h).1
    have hi : (1 : Int) + len p.major = ((1 + p.major.length : Nat) : Int) := by simp [len_eq]
    simp only [bind_ok, Bool.not_true, Bool.false_eq_true, if_false, ofParsed, hi]
    generalize p.minor = minor
    generalize 1 + p.major.length = i at *
    have hj : (i : Int) + 1 + len minor = ((i + 1 + minor.length : Nat) : Int) := by simp [len_eq]
    have hi1 : (i : Int) + 1 = ((i + 1 : Nat) : Int) := by simp
    simp only [hj]
    simp only [hi1, sliceTo_natCast hl, pure_eq_ok]
    generalize hJ : i + 1 + minor.length = j at *
    clear hi hj hi1
    by_cases hjl : j ≤ v.length
    · have hjl' : (j : Int) ≤ len v := by simp [len_eq]; omega
      have hil : i < v.length := by omega
      simp only [hjl', decide_true, if_true, idx_natCast hil, bind_ok, byte_eq_int (n := 46) (d := 46) rfl]
      simp only [hjl, decide_true, Bool.true_and, List.getElem?_eq_getElem hil]
      by_cases hdot : v[i] = 46
      · simp only [hdot, decide_true, if_true, slice_natCast (v := v) (a := i + 1) (b := j) (by omega) hjl,
          bind_ok]
        by_cases hm : List.drop (i + 1) (List.take j v) = minor
        · simp [hm, sliceTo_natCast hjl]
        · simp [hm]
      · simp [hdot]
    · have hjl' : ¬ (j : Int) ≤ len v := by simp [len_eq]; omega
      simp [hjl', hjl]

end ModVerif.TieFnSemver
