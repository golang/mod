/-
  Tie proofs for the regenerated module.go functions (Generated/FnModule.lean):
  the vocabulary of the statements (path kinds as Go integers, `unicode.IsLetter` on `Int` runes, the message
  literal of every `fmt.Errorf` site as a function of the model's `PathErr`) and the character predicates
  firstPathOK / modPathOK / importPathOK / fileNameOK on runes that are images of natural numbers.
-/
import ModVerif.Generated.FnModule
import ModVerif.Model.Module
import ModVerif.Proofs.GoRtLemmasStr
namespace ModVerif.TieFnModule
open ModVerif ModVerif.GoRt ModVerif.GoRtStr

theorem firstPathOK_nat (n : Nat) : Generated.Module.firstPathOK (n : Int) = Module.firstPathOK n := by
  simp only [Generated.Module.firstPathOK, Module.firstPathOK]
  rw [Bool.eq_iff_iff]; simp; omega

theorem modPathOK_nat (n : Nat) : Generated.Module.modPathOK (n : Int) = Module.modPathOK n := by
  simp only [Generated.Module.modPathOK, Module.modPathOK, Id.run]
  by_cases h : n < 128
  · have h' : (n : Int) < 128 := by omega
    simp only [h, h', decide_true, if_true, pure]
    rw [Bool.eq_iff_iff]; simp; omega
  · have h' : ¬ (n : Int) < 128 := by omega
    simp [h, h', pure]

theorem importPathOK_nat (n : Nat) : Generated.Module.importPathOK (n : Int) = Module.importPathOK n := by
  simp only [Generated.Module.importPathOK, Module.importPathOK, modPathOK_nat]
  congr 1
  rw [Bool.eq_iff_iff]; simp; omega

theorem allowed_nat : ∀ n : Nat, n < 128 →
    containsRune ([33, 35, 36, 37, 38, 40, 41, 43, 44, 45, 46, 61, 64, 91, 93, 94, 95, 123, 125, 126, 32] : Bytes) (n : Int)
      = Module.fileNameAllowed.elem n := by
  decide +kernel


/-- the model's `isLetter : Nat → Bool` that corresponds to the generated code's `isLetter : Int → Bool`
    (runes delivered by `range` are never negative) -/
def natLetter (il : Int → Bool) : Nat → Bool := fun n => il (n : Int)

theorem fileNameOK_nat (il : Int → Bool) (n : Nat) :
    Generated.Module.fileNameOK il (n : Int) = Module.fileNameOK (natLetter il) n := by
  simp only [Generated.Module.fileNameOK, Module.fileNameOK, Id.run, natLetter]
  by_cases h : n < 128
  · have h' : (n : Int) < 128 := by omega
    simp only [h, h', decide_true, if_true, pure, allowed_nat n h]
    have e : (((decide ((48 : Int) ≤ (n : Int))) && (decide ((n : Int) ≤ (57 : Int)))) ||
        ((decide ((65 : Int) ≤ (n : Int))) && (decide ((n : Int) ≤ (90 : Int)))) ||
        ((decide ((97 : Int) ≤ (n : Int))) && (decide ((n : Int) ≤ (122 : Int)))))
        = ((48 ≤ n && n ≤ 57) || (65 ≤ n && n ≤ 90) || (97 ≤ n && n ≤ 122)) := by
      rw [Bool.eq_iff_iff]; simp; omega
    rw [e]
  · have h' : ¬ (n : Int) < 128 := by omega
    simp [h, h', pure]

/-! ### the same on arbitrary `Int` runes (negative values are rejected on both sides) -/

theorem firstPathOK_int (r : Int) : Generated.Module.firstPathOK r = Module.firstPathOK r.toNat := by
  by_cases h : 0 ≤ r
  · obtain ⟨n, rfl⟩ := Int.eq_ofNat_of_zero_le h
    simpa using firstPathOK_nat n
  · have h0 : r.toNat = 0 := by omega
    rw [h0]
    simp only [Generated.Module.firstPathOK, Module.firstPathOK]
    rw [Bool.eq_iff_iff]; simp; omega

theorem modPathOK_int (r : Int) : Generated.Module.modPathOK r = Module.modPathOK r.toNat := by
  by_cases h : 0 ≤ r
  · obtain ⟨n, rfl⟩ := Int.eq_ofNat_of_zero_le h
    simpa using modPathOK_nat n
  · have h0 : r.toNat = 0 := by omega
    rw [h0]
    have h' : r < 128 := by omega
    simp only [Generated.Module.modPathOK, Module.modPathOK, Id.run, h', decide_true, if_true, pure]
    rw [Bool.eq_iff_iff]; simp; omega

theorem importPathOK_int (r : Int) : Generated.Module.importPathOK r = Module.importPathOK r.toNat := by
  by_cases h : 0 ≤ r
  · obtain ⟨n, rfl⟩ := Int.eq_ofNat_of_zero_le h
    simpa using importPathOK_nat n
  · have h0 : r.toNat = 0 := by omega
    simp only [Generated.Module.importPathOK, Module.importPathOK, modPathOK_int, h0]
    have : ¬ r = 43 := by omega
    simp [this]

theorem fileNameOK_int (il : Int → Bool) (r : Int) :
    Generated.Module.fileNameOK il r = Module.fileNameOK (natLetter il) r.toNat := by
  by_cases h : 0 ≤ r
  · obtain ⟨n, rfl⟩ := Int.eq_ofNat_of_zero_le h
    simpa using fileNameOK_nat il n
  · have h0 : r.toNat = 0 := by omega
    have h' : r < 128 := by omega
    have hc : containsRune ([33, 35, 36, 37, 38, 40, 41, 43, 44, 45, 46, 61, 64, 91, 93, 94, 95, 123, 125, 126, 32] : Bytes) r = false := by
      simp only [containsRune, encodeRune, h0]; decide +kernel
    simp only [Generated.Module.fileNameOK, Module.fileNameOK, Id.run, h', decide_true, if_true, pure, h0, hc]
    have e : (((decide ((48 : Int) ≤ r)) && (decide (r ≤ (57 : Int)))) ||
        ((decide ((65 : Int) ≤ r)) && (decide (r ≤ (90 : Int)))) ||
        ((decide ((97 : Int) ≤ r)) && (decide (r ≤ (122 : Int))))) = false := by
      rw [Bool.eq_false_iff]; simp; omega
    rw [e]; simp [Module.fileNameAllowed]


/-- Go's `pathKind` constants (`modulePath = iota`, `importPath`, `filePath`) -/
def kindInt : Module.Kind → Int
  | .module => 0
  | .import_ => 1
  | .file => 2

/-- the message literal of the `fmt.Errorf` site behind each error kind of the model (module.go, source order) -/
def msg : Module.PathErr → String
  | .invalidUtf8 => "invalid UTF-8"
  | .emptyString => "empty string"
  | .leadingDash => "leading dash"
  | .doubleSlash => "double slash"
  | .trailingSlash => "trailing slash"
  | .emptyElem => "empty path element"
  | .allDots => "invalid path element %q"
  | .leadingDot => "leading dot in path element"
  | .trailingDot => "trailing dot in path element"
  | .invalidChar => "invalid char %q"
  | .windows => "%q disallowed as path element component on Windows"
  | .tildeDigits => "trailing tilde and digits in path element"
  | .leadingSlash => "leading slash"
  | .missingDot => "missing dot in first path element"
  | .leadingDashFirst => "leading dash in first path element"
  | .invalidCharFirst => "invalid char %q in first path element"
  | .invalidVersion => "invalid version"

/-- from the message literal back to the error kind (the same table as `Drv.GenModule.pathKind`) -/
def kindOfMsg (m : String) : Option Module.PathErr :=
  match m with
  | "invalid UTF-8" => some .invalidUtf8
  | "empty string" => some .emptyString
  | "leading dash" => some .leadingDash
  | "double slash" => some .doubleSlash
  | "trailing slash" => some .trailingSlash
  | "empty path element" => some .emptyElem
  | "invalid path element %q" => some .allDots
  | "leading dot in path element" => some .leadingDot
  | "trailing dot in path element" => some .trailingDot
  | "invalid char %q" => some .invalidChar
  | "%q disallowed as path element component on Windows" => some .windows
  | "trailing tilde and digits in path element" => some .tildeDigits
  | "leading slash" => some .leadingSlash
  | "missing dot in first path element" => some .missingDot
  | "leading dash in first path element" => some .leadingDashFirst
  | "invalid char %q in first path element" => some .invalidCharFirst
  | "invalid version" => some .invalidVersion
  | _ => none

theorem kindOfMsg_msg (e : Module.PathErr) : kindOfMsg (msg e) = some e := by
  cases e <;> rfl

theorem msg_injective {a b : Module.PathErr} (h : msg a = msg b) : a = b := by
  have := congrArg kindOfMsg h
  simpa [kindOfMsg_msg] using this

/-- a Go `error` result (nil or the message literal) from the model's result -/
def errOf : Except Module.PathErr Unit → Option String
  | .ok () => none
  | .error e => some (msg e)

/-- the same, wrapped by `&InvalidPathError{…, Err: err}` -/
def wrappedErrOf : Except Module.PathErr Unit → Option String
  | .ok () => none
  | .error e => some ("InvalidPathError|" ++ msg e)

theorem wrapErr_some (name m : String) : wrapErr name (some m) = some (name ++ "|" ++ m) := rfl

end ModVerif.TieFnModule
