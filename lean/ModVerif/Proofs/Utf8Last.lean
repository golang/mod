/-
  The backward decoder `GoStrings.decodeLastRuneRev` (utf8.DecodeLastRuneInString) on a string that ends with a
  well-formed sequence.
-/
import ModVerif.Proofs.Utf8
import ModVerif.Basic.GoStrings
import ModVerif.Proofs.ModfileLex
namespace ModVerif.Utf8
open ModVerif

theorem runeStart_eq (b : UInt8) : GoStrings.runeStart b = !isCont b := by
  have := b.toNat_lt
  by_cases h : 0x80 ≤ b.toNat ∧ b.toNat ≤ 0xBF
  · have e : b.toNat / 64 = 2 := by omega
    simp [GoStrings.runeStart, isCont, h, e]
  · have e : ¬ (b.toNat / 64 = 2) := by omega
    have : isCont b = false := by simp [isCont]; omega
    simp [GoStrings.runeStart, this, e]

theorem Seq.decodeLast {seg : Bytes} {r : Nat} (hp : Seq seg r) (rest : Bytes) :
    GoStrings.decodeLastRuneRev (seg.reverse ++ rest) = (r, seg.length) := by
  have hdr : decodeRune seg = (r, seg.length) := by
    have := decode_of_seq hp []; rw [List.append_nil] at this; rw [decodeRune, this]
  obtain ⟨b0, cs, e, hb0, hcs⟩ := hp.lead_cont
  have st : ∀ c ∈ cs, GoStrings.runeStart c = false ∧ ¬ c.toNat < 128 := fun c hc => by
    have := hcs c hc
    exact ⟨by rw [runeStart_eq, this]; rfl, by rw [isCont_iff] at this; omega⟩
  have hs : GoStrings.runeStart b0 = true := by rw [runeStart_eq, hb0]; rfl
  cases hp with
  | one h0 => simp [GoStrings.decodeLastRuneRev, h0]
  | two h0 h1 hc =>
    cases e
    have := st _ (List.mem_cons_self)
    rcases rest with _ | ⟨x, _ | ⟨y, t⟩⟩ <;> simp [GoStrings.decodeLastRuneRev, this, hs, hdr]
  | three h0 h1 hlo hhi hc =>
    cases e
    have h1 := st _ (List.mem_cons_self)
    have h2 := st _ (List.mem_cons_of_mem _ List.mem_cons_self)
    rcases rest with _ | ⟨x, t⟩ <;> simp [GoStrings.decodeLastRuneRev, h1, h2, hs, hdr]
  | four h0 h1 hlo hhi hc2 hc3 =>
    cases e
    have h1 := st _ (List.mem_cons_self)
    have h2 := st _ (List.mem_cons_of_mem _ List.mem_cons_self)
    have h3 := st _ (List.mem_cons_of_mem _ (List.mem_cons_of_mem _ List.mem_cons_self))
    simp [GoStrings.decodeLastRuneRev, h1, h2, h3, hs, hdr]

theorem decodeLast_of_decode {seg : Bytes} {r : Nat} (hd : decode seg = some (r, seg.length)) (rest : Bytes) :
    GoStrings.decodeLastRuneRev (seg.reverse ++ rest) = (r, seg.length) := by
  obtain ⟨p, t, e, hl, hp⟩ := seq_of_decode hd
  have : t = [] := List.eq_nil_of_length_eq_zero (by have := congrArg List.length e; simp at this; omega)
  subst this; rw [List.append_nil] at e; subst e
  exact hp.decodeLast rest

end ModVerif.Utf8

/-
  Context (in)dependence of UTF-8 decoding.

  The lexer decodes a rune at the head of the REMAINING INPUT, so a priori the decoding of the bytes of
  a token depends on what follows the token.  A well-formed sequence (`Utf8.Seq`, Proofs/Utf8.lean) is a lead
  byte, which is not a continuation byte, followed by continuation bytes, decoded the same in front of any
  context (`Utf8.decodeRune_prefix`).  Hence an ill-formed head stays ill-formed in front of an ASCII byte
  (`decodeRune_append`).
-/
namespace ModVerif.Proofs.ModfileFmtUtf8
open ModVerif ModVerif.Proofs.ModfileLex

export ModVerif.Utf8 (decode_take decode_ctx_some decodeRune_newline)

def AsciiStart (r : Bytes) : Prop := ∀ b ∈ r.head?, b.toNat < 0x80

theorem asciiStart_nil : AsciiStart [] := by intro b h; simp at h

theorem asciiStart_cons {b : UInt8} {t : Bytes} (h : b.toNat < 0x80) : AsciiStart (b :: t) := by
  intro c hc; simp at hc; subst hc; exact h

theorem AsciiStart.noContStart {z : Bytes} (h : AsciiStart z) : Utf8.NoContStart z := fun b hb => by
  have := h b hb
  simp [Utf8.isCont]; omega

theorem decodeRune_append (a r2 : Bytes) (ha : a ≠ []) (hd : AsciiStart r2) :
    Utf8.decodeRune (a ++ r2) = Utf8.decodeRune a :=
  Utf8.decodeRune_append a r2 ha hd.noContStart

theorem decodeRune_nonascii (b : UInt8) (t : Bytes) (hb : 0x80 ≤ b.toNat) :
    0x80 ≤ (Utf8.decodeRune (b :: t)).1 ∧
    ∀ c ∈ (b :: t).take (Utf8.decodeRune (b :: t)).2, 0x80 ≤ c.toNat :=
  ((Utf8.decodeRune_cases b t).resolve_left fun h => by omega).2

end ModVerif.Proofs.ModfileFmtUtf8
