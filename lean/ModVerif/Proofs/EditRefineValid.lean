/-
  The validity checks as the model computes them (`Edit.mV`: the hand-translated matchers of
  GoVersionRE / ToolchainRE and `checkCanonicalVersion`) are the specification's `EditSpec.stdValidity`.
-/
import ModVerif.Proofs.EditRefineWork
set_option linter.unusedSimpArgs false
namespace ModVerif.Modfile.Edit
open ModVerif ModVerif.Modfile ModVerif.EditSpec

theorem checkCanonicalVersion_eq (p v : Bytes) : checkCanonicalVersion p v = versionOK p v := by
  unfold checkCanonicalVersion versionOK
  rcases Module.splitPathVersion p with ⟨a, pm, ok⟩
  simp only
  by_cases h1 : v.isEmpty = true
  · simp [h1]
  · simp only [Bool.not_eq_true] at h1
    by_cases h2 : Semver.canonicalVersion v = v
    · have h2' : (v != Semver.canonicalVersion v) = false := by simp [bne, h2]
      have h2'' : (Semver.canonicalVersion v == v) = true := by simp [h2]
      simp only [h1, h2', h2'', Bool.or_self, Bool.false_eq_true, if_false, Bool.not_false, Bool.true_and]
      cases ok <;> simp
    · have h2' : (v != Semver.canonicalVersion v) = true := by
        simp only [bne, Bool.not_eq_true']
        cases hb : v == Semver.canonicalVersion v with
        | false => rfl
        | true => exact absurd (eq_of_beq hb).symm h2
      have h2'' : (Semver.canonicalVersion v == v) = false := by
        cases hb : Semver.canonicalVersion v == v with
        | false => rfl
        | true => exact absurd (eq_of_beq hb) h2
      simp [h1, h2', h2'']

theorem go1 : B "go1" = [103, 111, 49] ∧ B "go1." = [103, 111, 49, 46] := by decide +kernel

theorem toolchainRE_eq (s : Bytes) : toolchainRE s = toolchainOK s := by
  unfold toolchainRE toolchainOK
  rw [go1.1, go1.2, Bool.or_assoc]
  congr 1
  rcases s with _ | ⟨a, _ | ⟨b, _ | ⟨c, _ | ⟨d, rest⟩⟩⟩⟩ <;> simp [isPrefixOfB]
  · rw [Bool.eq_iff_iff]; simp only [Bool.and_eq_true, beq_iff_eq]
    constructor <;> rintro ⟨rfl, rfl, rfl⟩ <;> exact ⟨rfl, rfl, rfl⟩
  · rw [Bool.eq_iff_iff]; simp only [Bool.and_eq_true, beq_iff_eq]
    constructor
    · rintro ⟨⟨rfl, rfl, rfl⟩, rfl⟩; exact ⟨rfl, rfl, rfl, rfl⟩
    · rintro ⟨rfl, rfl, rfl, rfl⟩; exact ⟨⟨rfl, rfl, rfl⟩, rfl⟩

theorem isDigit_eq : Modfile.isDigit = EditSpec.isDigit := by funext c; rfl
theorem isLower_eq : Modfile.isLower = EditSpec.isLower := by funext c; rfl

theorem nz_digit (c : UInt8) : (49 ≤ c && c ≤ 57) = (!(c == 48) && EditSpec.isDigit c) := by
  unfold EditSpec.isDigit
  rw [Bool.eq_iff_iff]
  simp only [Bool.and_eq_true, decide_eq_true_eq, Bool.not_eq_true', beq_eq_false_iff_ne, ne_eq]
  simp only [UInt8.le_iff_toNat_le, ← UInt8.toNat_inj]
  constructor
  · rintro ⟨h1, h2⟩
    have e1 : (49 : UInt8).toNat = 49 := rfl
    have e2 : (57 : UInt8).toNat = 57 := rfl
    have e3 : (48 : UInt8).toNat = 48 := rfl
    rw [e1] at h1; rw [e2] at h2; rw [e3]
    omega
  · rintro ⟨h0, h1, h2⟩
    have e1 : (49 : UInt8).toNat = 49 := rfl
    have e2 : (57 : UInt8).toNat = 57 := rfl
    have e3 : (48 : UInt8).toNat = 48 := rfl
    rw [e3] at h0 h1; rw [e2] at h2; rw [e1, e2]
    omega

theorem reNumNZ_eq (s : Bytes) : (reNumNZ s).map (·.2) = numPrefix false s := by
  cases s with
  | nil => rfl
  | cons c rest =>
    simp only [reNumNZ, numPrefix, nz_digit, isDigit_eq]
    by_cases h48 : (c == 48) = true
    · simp [h48]
    · simp only [Bool.not_eq_true] at h48
      simp only [h48, Bool.not_false, Bool.true_and, Bool.false_eq_true, if_false]
      by_cases hd : EditSpec.isDigit c = true
      · simp [hd]
      · simp only [Bool.not_eq_true] at hd; simp [hd]

/-- the suffix test of the two matchers -/
def sfxRE (s3 : Bytes) : Bool :=
  if s3.isEmpty then true else
    !(s3.takeWhile Modfile.isLower).isEmpty && !((s3.dropWhile Modfile.isLower).takeWhile Modfile.isDigit).isEmpty &&
      ((s3.dropWhile Modfile.isLower).dropWhile Modfile.isDigit).isEmpty

theorem digits_all (p : UInt8 → Bool) (r : Bytes) :
    (!(r.takeWhile p).isEmpty && (r.dropWhile p).isEmpty) = (!r.isEmpty && r.all p) := by
  induction r with
  | nil => rfl
  | cons x xs ih =>
    by_cases hx : p x = true
    · simp only [List.takeWhile_cons, List.dropWhile_cons, hx, if_true, List.isEmpty_cons, Bool.not_false, Bool.true_and,
        List.all_cons]
      have : (xs.dropWhile p).isEmpty = xs.all p := by
        clear ih
        induction xs with
        | nil => rfl
        | cons y ys ih2 =>
          by_cases hy : p y = true
          · simp [List.dropWhile_cons, hy, ih2]
          · simp only [Bool.not_eq_true] at hy; simp [List.dropWhile_cons, hy]
      rw [this]
    · simp only [Bool.not_eq_true] at hx
      simp [List.takeWhile_cons, List.dropWhile_cons, hx]

theorem sfxRE_eq (s : Bytes) : sfxRE s = goSuffixOK s := by
  unfold sfxRE goSuffixOK
  rw [isLower_eq, isDigit_eq]
  by_cases he : s.isEmpty = true
  · simp [he]
  · simp only [Bool.not_eq_true] at he
    simp only [he, Bool.false_eq_true, if_false, Bool.false_or, Bool.and_assoc]
    rw [digits_all]

theorem goSuffixOK_digit (d : UInt8) (rest : Bytes) (hd : EditSpec.isDigit d = true) : goSuffixOK (d :: rest) = false := by
  unfold goSuffixOK
  have hl : EditSpec.isLower d = false := by
    unfold EditSpec.isDigit at hd; unfold EditSpec.isLower
    simp only [Bool.and_eq_true, decide_eq_true_eq, UInt8.le_iff_toNat_le] at hd
    have e2 : (57 : UInt8).toNat = 57 := rfl
    have e3 : (97 : UInt8).toNat = 97 := rfl
    rw [Bool.and_eq_false_iff]
    left
    simp only [decide_eq_false_iff_not, UInt8.le_iff_toNat_le, e3]
    rw [e2] at hd
    omega
  simp [List.takeWhile_cons, hl]

/-- `(0|[1-9][0-9]*)` followed by a continuation that rejects a leading digit: the two matchers agree -/
theorem reNum_cont (k : Bytes → Bool) (hk : ∀ d rest, EditSpec.isDigit d = true → k (d :: rest) = false) (s : Bytes) :
    (match reNum s with | some (_, r) => k r | none => false) = (match numPrefix true s with | some r => k r | none => false) := by
  cases s with
  | nil => rfl
  | cons c rest =>
    by_cases h48 : c = 48
    · subst h48
      simp only [reNum, numPrefix, beq_self_eq_true, if_true]
      cases rest with
      | nil => rfl
      | cons d rest' =>
        simp only [List.head?_cons, Option.map_some, Option.getD_some, isDigit_eq]
        by_cases hd : EditSpec.isDigit d = true
        · simp [hd, hk d rest' hd]
        · simp only [Bool.not_eq_true] at hd; simp [hd]
    · have hb : (c == 48) = false := by simp [h48]
      have hre : reNum (c :: rest) = reNumNZ (c :: rest) := by
        unfold reNum
        split
        · rename_i heq; simp only [List.cons.injEq] at heq; exact absurd heq.1 h48
        · rfl
      rw [hre]
      have hnp : numPrefix true (c :: rest) = numPrefix false (c :: rest) := by simp [numPrefix, hb]
      rw [hnp]
      have := reNumNZ_eq (c :: rest)
      cases hr : reNumNZ (c :: rest) with
      | none => rw [hr] at this; simp only [Option.map_none] at this; rw [← this]
      | some pr => rw [hr] at this; simp only [Option.map_some] at this; rw [← this]

/-- the part of both matchers after `major.` -/
def k2OK (r2 : Bytes) : Bool :=
  match r2 with
  | 46 :: r3 => (match numPrefix true r3 with | some r4 => goSuffixOK r4 | none => false)
  | _ => goSuffixOK r2

theorem k2OK_digit (d : UInt8) (rest : Bytes) (hd : EditSpec.isDigit d = true) : k2OK (d :: rest) = false := by
  unfold k2OK
  split
  · rename_i heq
    simp only [List.cons.injEq] at heq
    rw [heq.1] at hd
    exact absurd hd (by decide)
  · exact goSuffixOK_digit d rest hd

theorem goVersionRE_eq (s : Bytes) : goVersionRE s = goVersionOK s := by
  have hOK : goVersionOK s = (match numPrefix false s with
      | some (46 :: r1) => (match numPrefix true r1 with | some r2 => k2OK r2 | none => false)
      | _ => false) := by
    unfold goVersionOK k2OK; rfl
  have hRE : goVersionRE s = (match reNumNZ s with
      | some (_, 46 :: s1) => (match reNum s1 with | some (_, s2) => k2OK s2 | none => false)
      | _ => false) := by
    unfold goVersionRE
    split
    · rename_i a s1 heq
      simp only [heq]
      cases hr : reNum s1 with
      | none => rfl
      | some pr =>
        rcases pr with ⟨b, s2⟩
        simp only
        cases s2 with
        | nil => exact sfxRE_eq []
        | cons y t =>
          by_cases hy : y = 46
          · subst hy
            show (match (reNum t).map (·.2) with | none => false | some s3 => sfxRE s3) = k2OK (46 :: t)
            have := reNum_cont goSuffixOK goSuffixOK_digit t
            unfold k2OK
            simp only
            rw [← this]
            cases hrt : reNum t with
            | none => rfl
            | some q => rcases q with ⟨q1, q2⟩; simp only [Option.map_some]; exact sfxRE_eq q2
          · have hk : k2OK (y :: t) = goSuffixOK (y :: t) := by
              unfold k2OK
              split
              · rename_i heq; simp only [List.cons.injEq] at heq; exact absurd heq.1 hy
              · rfl
            rw [hk, ← sfxRE_eq]
            split
            · rename_i heq
              split at heq
              · rename_i heq2; simp only [List.cons.injEq] at heq2; exact absurd heq2.1 hy
              · cases heq
            · rename_i s3 heq
              split at heq
              · rename_i heq2; simp only [List.cons.injEq] at heq2; exact absurd heq2.1 hy
              · simp only [Option.some.injEq] at heq; subst heq; rfl
    · rename_i hne
      split
      · rename_i a s1 heq; exact absurd heq (hne a s1)
      · rfl
  rw [hOK, hRE]
  have h1 := reNumNZ_eq s
  cases hr : reNumNZ s with
  | none =>
    rw [hr] at h1; simp only [Option.map_none] at h1; rw [← h1]
  | some pr =>
    rcases pr with ⟨a, r⟩
    rw [hr] at h1; simp only [Option.map_some] at h1; rw [← h1]
    cases r with
    | nil => rfl
    | cons x s1 =>
      by_cases hx : x = 46
      · subst hx
        exact reNum_cont k2OK k2OK_digit s1
      · split
        · rename_i heq; simp only [Option.some.injEq, Prod.mk.injEq, List.cons.injEq] at heq; exact absurd heq.2.1 hx
        · split
          · rename_i heq; simp only [Option.some.injEq, List.cons.injEq] at heq; exact absurd heq.1 hx
          · rfl

theorem mV_eq_std : mV = stdValidity := by
  unfold mV stdValidity
  congr 1
  · funext s; exact goVersionRE_eq s
  · funext s; exact toolchainRE_eq s
  · funext p v; exact checkCanonicalVersion_eq p v

end ModVerif.Modfile.Edit

