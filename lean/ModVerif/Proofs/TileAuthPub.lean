/-
  C10: composition of `newTiles_sufficient` with the reader — the tiles published along a growth sequence keep the
  contents they had when published, and those are the true tiles of the final tree; `readHashes` consults the
  server only on the planned tiles.
-/
import ModVerif.Proofs.TileAuthNew
namespace ModVerif.TileAuth
open ModVerif ModVerif.Tlog ModVerif.Tile ModVerif.TlogStore ModVerif.RFC6962

theorem newTilesLevel_mem (h L old new : Nat) (t : Tile) (ht : t ∈ newTilesLevel h L old new) :
    t.h = h ∧ t.l = L ∧ 0 < t.w ∧ t.n * 2 ^ h + t.w ≤ cnt h new L := by
  unfold newTilesLevel at ht
  simp only [Nat.shiftRight_eq_div_pow, Nat.shiftLeft_eq, cnt_div] at ht
  have hp := Nat.two_pow_pos h
  have hfull : ∀ t : Tile, t ∈ (List.range (cnt h new L / 2 ^ h - cnt h old L / 2 ^ h)).map (fun i =>
      ({ h := h, l := L, n := cnt h old L / 2 ^ h + i, w := 2 ^ h } : Tile)) →
      t.h = h ∧ t.l = L ∧ 0 < t.w ∧ t.n * 2 ^ h + t.w ≤ cnt h new L := by
    intro t ht
    rw [List.mem_map] at ht
    obtain ⟨i, hi, e⟩ := ht
    have hi' := List.mem_range.mp hi
    subst e
    refine ⟨rfl, rfl, hp, ?_⟩
    simp only
    have h1 : cnt h old L / 2 ^ h + i + 1 ≤ cnt h new L / 2 ^ h := by omega
    have h2 := (Nat.le_div_iff_mul_le hp).mp h1
    rw [Nat.add_mul] at h2
    omega
  split at ht
  · simp at ht
  · split at ht
    · rename_i hw
      rcases List.mem_append.mp ht with h1 | h1
      · exact hfull t h1
      · simp only [List.mem_singleton] at h1
        subst h1
        refine ⟨rfl, rfl, hw, ?_⟩
        simp only
        have := Nat.div_mul_le_self (cnt h new L) (2 ^ h)
        omega
    · exact hfull t ht

theorem newTilesF_mem (h old new : Nat) : ∀ f level ts, newTilesF h old new f level = .ok ts →
    ∀ t ∈ ts, ∃ L, t ∈ newTilesLevel h L old new := by
  intro f
  induction f with
  | zero =>
    intro level ts hts t ht
    simp only [newTilesF] at hts
    split at hts
    · cases hts
    · cases hts; simp at ht
  | succ f ih =>
    intro level ts hts t ht
    simp only [newTilesF] at hts
    split at hts
    · simp only [bind, Except.bind] at hts
      cases hr : newTilesF h old new f (level + 1) with
      | error e => rw [hr] at hts; cases hts
      | ok rest =>
        rw [hr] at hts
        simp only [pure, Except.pure, Except.ok.injEq] at hts
        subst hts
        rcases List.mem_append.mp ht with h1 | h1
        · exact ⟨level, h1⟩
        · exact ih (level + 1) rest hr t h1
    · cases hts; simp at ht

theorem newTiles_mem (h old new : Nat) (ts : List Tile) (hts : newTiles h old new = .ok ts) (t : Tile) (ht : t ∈ ts) :
    t.h = h ∧ 0 < t.w ∧ t.n * 2 ^ h + t.w ≤ cnt h new t.l := by
  unfold newTiles at hts
  split at hts
  · cases hts
  · obtain ⟨L, hL⟩ := newTilesF_mem h old new _ _ ts hts t ht
    obtain ⟨a, b, c, d⟩ := newTilesLevel_mem h L old new t hL
    exact ⟨a, c, by rw [b]; exact d⟩

section
variable {H : Type} (leaf : Bytes → H) (node : H → H → H) (empty : H)

theorem tdata_congr (T T' : Nat → Nat → H) (h L n w : Nat)
    (hT : ∀ i, i < w → T (L * h) (n * 2 ^ h + i) = T' (L * h) (n * 2 ^ h + i)) :
    tdata T h L n w = tdata T' h L n w := by
  unfold tdata
  apply List.map_congr_left
  intro a ha
  rw [List.mem_range'_1] at ha
  have := hT (a - n * 2 ^ h) (by omega)
  rw [show n * 2 ^ h + (a - n * 2 ^ h) = a by omega] at this
  exact this

theorem trueHash_take (D : List Bytes) (b l k : Nat) (hb : b ≤ D.length) (hv : (k + 1) * 2 ^ l ≤ b) :
    trueHash leaf node empty (D.take b) l k = trueHash leaf node empty D l k := by
  unfold trueHash
  have : D.map leaf = (D.take b).map leaf ++ (D.drop b).map leaf := by
    rw [← List.map_append, List.take_append_drop]
  rw [this, leavesOf_append _ _ l k (by simp; omega)]

theorem trueTile_stable (D : List Bytes) (stN stb : List H) (hokN : StoreOK leaf node empty D stN)
    (hR : D.length < 2 ^ 62) (b : Nat) (hb : b ≤ D.length) (hokb : StoreOK leaf node empty (D.take b) stb)
    (t : Tile) (hw : 0 < t.w) (hin : t.n * 2 ^ t.h + t.w ≤ cnt t.h b t.l) :
    trueTile stb t = trueTile stN t := by
  have hlen : (D.take b).length = b := by simp; omega
  have envb := env_of_storeOK leaf node empty (D.take b) stb hokb (by omega)
  have envN := env_of_storeOK leaf node empty D stN hokN hR
  rw [hlen] at envb
  rw [trueTile_eq node _ b stb envb t hw hin,
    trueTile_eq node _ D.length stN envN t hw (Nat.le_trans hin (cnt_mono t.h t.l b D.length hb))]
  congr 1
  apply tdata_congr
  intro i hi
  apply trueHash_take leaf node empty D b _ _ hb
  rw [valid_iff]
  omega

variable [DecidableEq H]

theorem readHashes_congr (N : Nat) (th : H) (h : Nat) (idx : List Nat) (serve serve' : Tile → Option (List H))
    (hs : ∀ p, plan h N idx = .ok p → ∀ t ∈ p.tiles, serve t = serve' t) :
    readHashes node N th h idx serve = readHashes node N th h idx serve' := by
  unfold readHashes
  cases hp : plan h N idx with
  | error e => rfl
  | ok p =>
    simp only
    have : p.tiles.mapM serve = p.tiles.mapM serve' := by
      have := hs p hp
      generalize p.tiles = l at this
      induction l with
      | nil => rfl
      | cons a l ih =>
        rw [List.mapM_cons, List.mapM_cons, this a (by simp), ih (fun t ht => this t (by simp [ht]))]
    rw [this]

omit [DecidableEq H] in
/-- ★ the publisher's tiles suffice: along any growth sequence `0 = n₀ ≤ … ≤ n_k = N` of the log `D`, every tile the
    reader of tree `N` plans is published at some step `(a, b)` (`NewTiles(h, a, b)`, exact width), and the content it had
    then — the true tile of the log's first `b` records — is its true content in tree `N`. -/
theorem published_tiles_true (D : List Bytes) (stN : List H) (hokN : StoreOK leaf node empty D stN)
    (hR : D.length < 2 ^ 62) (h : Nat) (hh : 1 ≤ h) (ns : List Nat) (hs : ns.Pairwise (· ≤ ·))
    (h0 : ns.head? = some 0) (hl : ns.getLast? = some D.length) (idx : List Nat) (p : Plan)
    (hp : plan h D.length idx = .ok p) :
    ∀ t ∈ p.tiles, ∃ a b ts stb, (a, b) ∈ ns.zip ns.tail ∧ newTiles h a b = .ok ts ∧ t ∈ ts ∧
      buildStore leaf node (D.take b) = .ok stb ∧ trueTile stb t = trueTile stN t := by
  intro t ht
  obtain ⟨a, b, ts, m1, m2, m3⟩ := newTiles_sufficient h D.length hh hR ns hs h0 hl idx p hp t ht
  have hbN : b ≤ D.length := le_last ns D.length hs hl b (List.mem_of_mem_tail (List.of_mem_zip m1).2)
  have hlen : (D.take b).length = b := by simp; omega
  obtain ⟨stb, s1, s2⟩ := buildStore_ok leaf node empty (D.take b) (by omega)
  obtain ⟨g1, g2, g3⟩ := newTiles_mem h a b ts m2 t m3
  exact ⟨a, b, ts, stb, m1, m2, m3, s1,
    trueTile_stable leaf node empty D stN stb hokN hR b hbN s2 t g2 (by rw [g1]; exact g3)⟩

end
end ModVerif.TileAuth
