/-
  Version fixer and `retract` directives: the tree effect of `fixRetract` as a MAP OVER LINES,
  statement by statement: `f.syn.stmts = mapLines F stmts` where `stmts` are the statements the first run of the
  directive layer rewrote, `F` replaces tokens only and leaves every line alone whose identity no retract entry carries.
-/
import ModVerif.Proofs.ModfileFmtRetFrame
namespace ModVerif.Proofs.ModfileFmtRet
open ModVerif ModVerif.Modfile ModVerif.Proofs.ModfileC20
open ModVerif.Proofs.ModfileFmtDir ModVerif.Proofs.ModfileEol ModVerif.Proofs.ModfileFmtTree

def mapLines (F : Line → Line) : List Expr → List Expr
  | [] => []
  | .line l :: xs => .line (F l) :: mapLines F xs
  | .lineBlock b :: xs => .lineBlock { b with lines := b.lines.map F } :: mapLines F xs
  | x :: xs => x :: mapLines F xs

theorem linesOf_mapLines (F : Line → Line) : ∀ xs : List Expr, linesOf (mapLines F xs) = (linesOf xs).map F := by
  intro xs
  induction xs with
  | nil => rfl
  | cons x xs ih =>
    cases x <;> simp [mapLines, ih]

theorem mapLines_noTok (F : Line → Line) (hF : ∀ l, noTokL (F l) = noTokL l) :
    ∀ xs : List Expr, (mapLines F xs).map noTok = xs.map noTok := by
  intro xs
  induction xs with
  | nil => rfl
  | cons x xs ih =>
    cases x with
    | line l => simp [mapLines, ih, noTok, hF]
    | lineBlock b =>
      simp only [mapLines, List.map_cons, ih, noTok, List.map_map]
      congr 3
      apply List.map_congr_left
      intro l _
      exact hF l
    | commentBlock c => simp [mapLines, ih]
    | lparen p => simp [mapLines, ih]
    | rparen p => simp [mapLines, ih]

theorem noTokL_inj {l l' : Line} (h : noTokL l = noTokL l') (ht : l.token = l'.token) : l = l' := by
  cases l; cases l'
  simp only [noTokL, Line.mk.injEq] at h ⊢
  simp only at ht
  obtain ⟨h1, h2, h3, _, h5, h6⟩ := h
  exact ⟨h1, h2, h3, ht, h5, h6⟩

theorem stmts_eq_of_noTok_lines : ∀ (xs ys : List Expr), xs.map noTok = ys.map noTok → linesOf xs = linesOf ys →
    xs = ys := by
  intro xs
  induction xs with
  | nil => intro ys h _; cases ys with | nil => rfl | cons y ys => simp at h
  | cons x xs ih =>
    intro ys h hl
    cases ys with
    | nil => simp at h
    | cons y ys =>
      simp only [List.map_cons, List.cons.injEq] at h
      obtain ⟨h1, h2⟩ := h
      cases x with
      | line l =>
        cases y with
        | line l' =>
          simp only [linesOf_line, List.cons.injEq] at hl
          rw [hl.1, ih ys h2 hl.2]
        | _ => simp [noTok] at h1
      | lineBlock b =>
        cases y with
        | lineBlock b' =>
          simp only [linesOf_block] at hl
          simp only [noTok, Expr.lineBlock.injEq] at h1
          have hlen : b.lines.length = b'.lines.length := by
            have h9 := congrArg LineBlock.lines h1
            have := congrArg List.length h9
            simpa using this
          obtain ⟨e1, e2⟩ := List.append_inj hl hlen
          rw [ih ys h2 e2]
          have hb : b = b' := by
            cases b; cases b'
            simp only [LineBlock.mk.injEq] at h1 ⊢
            simp only at e1
            obtain ⟨a1, a2, a3, a4, _, a6⟩ := h1
            exact ⟨a1, a2, a3, a4, e1, a6⟩
          rw [hb]
        | _ => simp [noTok] at h1
      | commentBlock c =>
        cases y with
        | commentBlock c' =>
          simp only [linesOf_commentBlock] at hl
          simp only [noTok] at h1
          rw [h1, ih ys h2 hl]
        | _ => simp [noTok] at h1
      | lparen p =>
        cases y with
        | lparen p' =>
          simp only [linesOf_lparen] at hl
          simp only [noTok] at h1
          rw [h1, ih ys h2 hl]
        | _ => simp [noTok] at h1
      | rparen p =>
        cases y with
        | rparen p' =>
          simp only [linesOf_rparen] at hl
          simp only [noTok] at h1
          rw [h1, ih ys h2 hl]
        | _ => simp [noTok] at h1

theorem updF_tok_noTokL (id : Nat) (toks : List Bytes) (l : Line) :
    noTokL (updF id (fun l' => { l' with token := toks }) l) = noTokL l := by
  unfold updF; split <;> rfl

theorem fixRetractLoop_lineMap (path : Bytes) (fx : Fixer) :
    ∀ (rs : List Retract) (fs : FileSyntax) (e : List RuleErr), NodupIds fs.stmts →
    ∃ F : Line → Line, (∀ l, noTokL (F l) = noTokL l) ∧ (∀ l, l.id ∉ rs.map (·.lineId) → F l = l) ∧
      linesOf (fixRetractLoop path fx rs fs e).2.1.stmts = (linesOf fs.stmts).map F := by
  intro rs
  induction rs with
  | nil => intro fs e _; exact ⟨id, fun _ => rfl, fun _ _ => rfl, by simp [fixRetractLoop]⟩
  | cons r rest ih =>
    intro fs e hn
    rw [fixRetractLoop_cons]
    cases hfind : fs.findLine r.lineId with
    | none =>
      obtain ⟨F, f1, f2, f3⟩ := ih fs e hn
      exact ⟨F, f1, fun l hl => f2 l (fun hc => hl (by simp [hc])), f3⟩
    | some a =>
      simp only
      have hs : (frStep path fx fs r a e).2.1 = fs.updateLine r.lineId (fun l' => { l' with
          token := (frArgs a).1 ++ (parseVersionInterval path (frArgs a).2 (some fx)).1 }) := rfl
      have hn1 : NodupIds (frStep path fx fs r a e).2.1.stmts := by rw [hs]; exact nodupIds_updateLine _ _ fs hn
      obtain ⟨F, f1, f2, f3⟩ := ih (frStep path fx fs r a e).2.1 (frStep path fx fs r a e).2.2 hn1
      refine ⟨F ∘ updF r.lineId (fun l' => { l' with
          token := (frArgs a).1 ++ (parseVersionInterval path (frArgs a).2 (some fx)).1 }), ?_, ?_, ?_⟩
      · intro l
        simp only [Function.comp, f1, updF_tok_noTokL]
      · intro l hl
        simp only [List.map_cons, List.mem_cons, not_or] at hl
        have h1 : updF r.lineId (fun l' => { l' with
            token := (frArgs a).1 ++ (parseVersionInterval path (frArgs a).2 (some fx)).1 }) l = l := by
          unfold updF
          split
          · rename_i hc
            exact absurd (by simpa using hc) hl.1
          · rfl
        simp only [Function.comp, h1]
        exact f2 l hl.2
      · rw [f3, hs, linesOf_updateLine _ _ fs hn, List.map_map]

theorem fixRetractLoop_ids (path : Bytes) (fx : Fixer) :
    ∀ (rs : List Retract) (fs : FileSyntax) (e : List RuleErr),
    (fixRetractLoop path fx rs fs e).1.map (·.lineId) = rs.map (·.lineId) ∧
    (fixRetractLoop path fx rs fs e).1.map (·.rationale) = rs.map (·.rationale) := by
  intro rs
  induction rs with
  | nil => intro fs e; exact ⟨rfl, rfl⟩
  | cons r rest ih =>
    intro fs e
    rw [fixRetractLoop_cons]
    cases hfind : fs.findLine r.lineId with
    | none => simp [ih fs e]
    | some a => simp [ih]

theorem fsyn_lines_map (name x : Bytes) (fx : Fixer) (f : Modfile.File)
    (h : parseToFile name x (some fx) true = .ok f) :
    ∃ (fs : FileSyntax) (st : AddState) (stmts : List Expr) (F : Line → Line),
      parse name x = .ok fs ∧ addStmts (some fx) true { file := { syn := fs } } fs.stmts = (st, stmts) ∧
      st.errsRev = [] ∧ NodupIds stmts ∧ (∀ l, noTokL (F l) = noTokL l) ∧
      (∀ l, l.id ∉ f.retract.map (·.lineId) → F l = l) ∧ f.syn.stmts = mapLines F stmts ∧
      f.retract.map (·.lineId) = st.file.retract.map (·.lineId) ∧
      f.retract.map (·.rationale) = st.file.retract.map (·.rationale) ∧
      withRet [] ⟨{ f with syn := {} }, []⟩ = withRet [] ⟨{ st.file with syn := {} }, []⟩ := by
  obtain ⟨fs, st, stmts, hp, ha, herr', rfl⟩ := ModfileParseTo.parseToFile_ok_iff.1 h
  have hkeys := addStmts_keys (some fx) true fs.stmts { file := { syn := fs } }
  rw [ha] at hkeys
  simp only at hkeys
  have hn : NodupIds stmts := nodupIds_of_keys hkeys (parse_ids_nodup hp)
  generalize hst2 : ({ st with file := { st.file with syn := { fs with stmts := stmts } } } : AddState) = st2 at herr' ⊢
  have hsyn : st2.file.syn.stmts = stmts := by rw [← hst2]
  have hretq : st2.file.retract = st.file.retract := by rw [← hst2]
  have herr2 : st2.errsRev = st.errsRev := by rw [← hst2]
  have hcore : withRet [] ⟨{ st2.file with syn := {} }, []⟩ = withRet [] ⟨{ st.file with syn := {} }, []⟩ := by
    rw [← hst2]
  rw [fixRetract_eq] at herr' ⊢
  -- without a retraction `F` is the identity, else the map of `fixRetractLoop_lineMap`
  cases hret : st2.file.retract with
  | nil =>
    simp only [hret] at herr' ⊢
    refine ⟨fs, st, stmts, id, hp, ha, by rw [← herr2]; exact herr', hn, fun _ => rfl, fun _ _ => rfl, ?_,
      by rw [← hretq, hret], by rw [← hretq, hret], hcore⟩
    rw [hsyn]
    have : ∀ xs : List Expr, mapLines id xs = xs := by
      intro xs
      induction xs with
      | nil => rfl
      | cons y ys ih => cases y <;> simp [mapLines, ih]
    exact (this stmts).symm
  | cons r0 rs0 =>
    simp only [hret] at herr' ⊢
    cases hemp : (modPath st2.file).isEmpty with
    | true =>
      simp only [hemp, if_true, AddState.err] at herr'
      cases herr'
    | false =>
      simp only [hemp, Bool.false_eq_true, if_false] at herr' ⊢
      obtain ⟨add, hadd⟩ := loop_errs_ext (modPath st2.file) fx (r0 :: rs0) st2.file.syn st2.errsRev
      have he0 : st2.errsRev = [] := by
        rw [herr'] at hadd
        have := congrArg List.length hadd
        simp only [List.length_nil, List.length_append] at this
        exact List.eq_nil_of_length_eq_zero (by omega)
      obtain ⟨F, f1, f2, f3⟩ := fixRetractLoop_lineMap (modPath st2.file) fx (r0 :: rs0) st2.file.syn st2.errsRev
        (by rw [hsyn]; exact hn)
      obtain ⟨i1, i2⟩ := fixRetractLoop_ids (modPath st2.file) fx (r0 :: rs0) st2.file.syn st2.errsRev
      obtain ⟨n1, _, _⟩ := fixRetractLoop_noTok (modPath st2.file) fx (r0 :: rs0) st2.file.syn st2.errsRev
      refine ⟨fs, st, stmts, F, hp, ha, by rw [← herr2]; exact he0, hn, f1, ?_, ?_, ?_, ?_, ?_⟩
      · intro l hl
        apply f2 l
        rw [← i1]
        exact hl
      · apply stmts_eq_of_noTok_lines
        · rw [mapLines_noTok F f1, ← hsyn]
          exact n1
        · rw [linesOf_mapLines, ← hsyn]
          exact f3
      · rw [← hretq, hret]; exact i1
      · rw [← hretq, hret]; exact i2
      · rw [← hcore]; rfl

end ModVerif.Proofs.ModfileFmtRet
