/-
  Helper lemmas on the base64 model: round trips `decodeStd ∘ encodeStd`, `decodeRawStd ∘ encodeRawStd`,
  lengths and the characters that occur in an encoding.
-/
import ModVerif.Basic.Base64
namespace ModVerif.Base64
open ModVerif

theorem decChar_encChar (v : Nat) (h : v < 64) : decChar (encChar v) = some v := by
  have key : ∀ w : Fin 64, decChar (encChar w.val) = some w.val := by decide
  exact key ⟨v, h⟩

/-- no bound on `v`: the last branch of `encChar` is a default -/
theorem encChar_toNat (v : Nat) : 43 ≤ (encChar v).toNat ∧ (encChar v).toNat ≤ 122 ∧ (encChar v).toNat ≠ 61 := by
  unfold encChar
  repeat' split
  all_goals first | decide | (simp only [UInt8.toNat_ofNat']; omega)

theorem decChar_pad : decChar padChar = none := by decide
theorem isNL_pad : isNL padChar = false := by decide

theorem ofNat_toNat' (a : UInt8) (n : Nat) (h : n = a.toNat) : UInt8.ofNat n = a := by
  subst h; exact UInt8.ofNat_toNat

theorem sextets4 (n : Nat) : n / 262144 * 262144 + n / 4096 % 64 * 4096 + n / 64 % 64 * 64 + n % 64 = n := by omega
theorem sextets3 (n : Nat) : n / 262144 * 262144 + n / 4096 % 64 * 4096 + n / 64 % 64 * 64 = n / 64 * 64 := by omega
theorem sextets2 (n : Nat) : n / 262144 * 262144 + n / 4096 % 64 * 4096 = n / 4096 * 4096 := by omega

theorem emit4 (a b c : UInt8) :
    emit [(a.toNat * 65536 + b.toNat * 256 + c.toNat) / 262144,
          (a.toNat * 65536 + b.toNat * 256 + c.toNat) / 4096 % 64,
          (a.toNat * 65536 + b.toNat * 256 + c.toNat) / 64 % 64,
          (a.toNat * 65536 + b.toNat * 256 + c.toNat) % 64] = [a, b, c] := by
  have ha := UInt8.toNat_lt a
  have hb := UInt8.toNat_lt b
  have hc := UInt8.toNat_lt c
  simp only [emit, sextets4]
  rw [ofNat_toNat' a _ (by omega), ofNat_toNat' b _ (by omega), ofNat_toNat' c _ (by omega)]

theorem emit3 (a b : UInt8) :
    emit [(a.toNat * 65536 + b.toNat * 256) / 262144,
          (a.toNat * 65536 + b.toNat * 256) / 4096 % 64,
          (a.toNat * 65536 + b.toNat * 256) / 64 % 64] = [a, b] := by
  have ha := UInt8.toNat_lt a
  have hb := UInt8.toNat_lt b
  simp only [emit, sextets3]
  rw [ofNat_toNat' a _ (by omega), ofNat_toNat' b _ (by omega)]

theorem emit2 (a : UInt8) :
    emit [(a.toNat * 65536) / 262144, (a.toNat * 65536) / 4096 % 64] = [a] := by
  have ha := UInt8.toNat_lt a
  simp only [emit, sextets2]
  rw [ofNat_toNat' a _ (by omega)]

theorem decodeAux_encChar (pad : Bool) (v : Nat) (hv : v < 64) (rest : Bytes) (q : List Nat) :
    decodeAux pad (encChar v :: rest) q =
      if q.length == 3 then (decodeAux pad rest []).map (emit (q ++ [v]) ++ ·) else decodeAux pad rest (q ++ [v]) := by
  rw [decodeAux, decChar_encChar v hv]

theorem decode_encode (pad : Bool) : ∀ x : Bytes, decodeAux pad (encode pad x) [] = some x
  | a :: b :: c :: rest => by
    have ha := UInt8.toNat_lt a
    have hb := UInt8.toNat_lt b
    have hc := UInt8.toNat_lt c
    have h1 : (a.toNat * 65536 + b.toNat * 256 + c.toNat) / 262144 < 64 := by omega
    have h2 : (a.toNat * 65536 + b.toNat * 256 + c.toNat) / 4096 % 64 < 64 := by omega
    have h3 : (a.toNat * 65536 + b.toNat * 256 + c.toNat) / 64 % 64 < 64 := by omega
    have h4 : (a.toNat * 65536 + b.toNat * 256 + c.toNat) % 64 < 64 := by omega
    simp only [encode, decodeAux_encChar pad _ h1, decodeAux_encChar pad _ h2, decodeAux_encChar pad _ h3,
      decodeAux_encChar pad _ h4, List.length_nil, List.length_cons, List.nil_append, List.cons_append,
      decode_encode pad rest, emit4]
    rfl
  | [a, b] => by
    have ha := UInt8.toNat_lt a
    have hb := UInt8.toNat_lt b
    have h1 : (a.toNat * 65536 + b.toNat * 256) / 262144 < 64 := by omega
    have h2 : (a.toNat * 65536 + b.toNat * 256) / 4096 % 64 < 64 := by omega
    have h3 : (a.toNat * 65536 + b.toNat * 256) / 64 % 64 < 64 := by omega
    simp only [encode, decodeAux_encChar pad _ h1, decodeAux_encChar pad _ h2, decodeAux_encChar pad _ h3,
      List.length_nil, List.length_cons, List.nil_append, List.cons_append]
    cases pad <;> simp [decodeAux, decChar_pad, isNL_pad, skipNL, emit3]
  | [a] => by
    have ha := UInt8.toNat_lt a
    have h1 : (a.toNat * 65536) / 262144 < 64 := by omega
    have h2 : (a.toNat * 65536) / 4096 % 64 < 64 := by omega
    simp only [encode, decodeAux_encChar pad _ h1, decodeAux_encChar pad _ h2,
      List.length_nil, List.length_cons, List.nil_append, List.cons_append]
    cases pad <;> simp [decodeAux, decChar_pad, isNL_pad, skipNL, emit2]
  | [] => by simp [encode, decodeAux]

theorem decodeStd_encodeStd (x : Bytes) : decodeStd (encodeStd x) = some x :=
  decode_encode true x

theorem decodeRawStd_encodeRawStd (x : Bytes) : decodeRawStd (encodeRawStd x) = some x :=
  decode_encode false x

theorem encode_true_length : ∀ x : Bytes, (encode true x).length = 4 * ((x.length + 2) / 3)
  | a :: b :: c :: rest => by
    simp only [encode, List.length_cons, encode_true_length rest]; omega
  | [a, b] => by simp [encode]
  | [a] => by simp [encode]
  | [] => by simp [encode]

theorem encode_false_length : ∀ x : Bytes, (encode false x).length = (x.length * 8 + 5) / 6
  | a :: b :: c :: rest => by
    simp only [encode, List.length_cons, encode_false_length rest]; omega
  | [a, b] => by simp [encode]
  | [a] => by simp [encode]
  | [] => by simp [encode]

theorem encodeStd_length (x : Bytes) : (encodeStd x).length = 4 * ((x.length + 2) / 3) :=
  encode_true_length x

theorem encodeRawStd_length (x : Bytes) : (encodeRawStd x).length = (x.length * 8 + 5) / 6 :=
  encode_false_length x

theorem encodeStd_length_32 (x : Bytes) (h : x.length = 32) : (encodeStd x).length = 44 := by
  rw [encodeStd_length, h]

theorem encodeRawStd_length_32 (x : Bytes) (h : x.length = 32) : (encodeRawStd x).length = 43 := by
  rw [encodeRawStd_length, h]

theorem encode_chars (pad : Bool) : ∀ x : Bytes, ∀ ch ∈ encode pad x, 43 ≤ ch.toNat ∧ ch.toNat ≤ 122
  | a :: b :: c :: rest, ch, hch => by
    simp only [encode, List.mem_cons] at hch
    rcases hch with rfl | rfl | rfl | rfl | h
    · exact ⟨(encChar_toNat _).1, (encChar_toNat _).2.1⟩
    · exact ⟨(encChar_toNat _).1, (encChar_toNat _).2.1⟩
    · exact ⟨(encChar_toNat _).1, (encChar_toNat _).2.1⟩
    · exact ⟨(encChar_toNat _).1, (encChar_toNat _).2.1⟩
    · exact encode_chars pad rest ch h
  | [a, b], ch, hch => by
    simp only [encode, List.mem_append, List.mem_cons, List.not_mem_nil, or_false] at hch
    rcases hch with (rfl | rfl | rfl) | h
    · exact ⟨(encChar_toNat _).1, (encChar_toNat _).2.1⟩
    · exact ⟨(encChar_toNat _).1, (encChar_toNat _).2.1⟩
    · exact ⟨(encChar_toNat _).1, (encChar_toNat _).2.1⟩
    · cases pad <;> simp at h
      subst h; decide
  | [a], ch, hch => by
    simp only [encode, List.mem_append, List.mem_cons, List.not_mem_nil, or_false] at hch
    rcases hch with (rfl | rfl) | h
    · exact ⟨(encChar_toNat _).1, (encChar_toNat _).2.1⟩
    · exact ⟨(encChar_toNat _).1, (encChar_toNat _).2.1⟩
    · cases pad <;> simp at h
      subst h; decide
  | [], ch, hch => by simp [encode] at hch

theorem encode_no_nl (pad : Bool) (x : Bytes) : (10 : UInt8) ∉ encode pad x :=
  fun h => absurd (encode_chars pad x 10 h).1 (by decide)

theorem encodeStd_no_newline (x : Bytes) : (10 : UInt8) ∉ encodeStd x := encode_no_nl true x

theorem encodeRawStd_no_newline (x : Bytes) : (10 : UInt8) ∉ encodeRawStd x := encode_no_nl false x

set_option linter.unusedVariables false in
theorem encChar_ne_quote (v : Nat) (h : v < 64) : encChar v ≠ 34 :=
  fun e => absurd (e ▸ (encChar_toNat v).1) (by decide)

theorem encode_true_eq_false_append : ∀ x : Bytes, x.length % 3 = 2 →
    encode true x = encode false x ++ [61]
  | a :: b :: c :: rest, h => by
    simp only [List.length_cons] at h
    simp only [encode, List.cons_append, encode_true_eq_false_append rest (by omega)]
  | [a, b], _ => by simp [encode, padChar]
  | [a], h => by simp at h
  | [], h => by simp at h

theorem encodeStd_eq_raw_append (x : Bytes) (h : x.length % 3 = 2) :
    encodeStd x = encodeRawStd x ++ [61] :=
  encode_true_eq_false_append x h

theorem encodeStd_getLast_32 (x : Bytes) (h : x.length = 32) :
    (encodeStd x)[43]? = some 61 := by
  have hr := encodeRawStd_length_32 x h
  rw [encodeStd_eq_raw_append x (by omega)]
  rw [List.getElem?_append_right (by omega)]
  simp [hr]
end ModVerif.Base64
