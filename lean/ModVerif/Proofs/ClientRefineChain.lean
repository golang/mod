/-
  Closing the chain for the head protocol in C01's honest world: a block of a sequential
  execution (`SeqExec`: goroutine `t` alone, every answer `ok`) of the latest-head machine over the honest worlds
  (`honestParams`) IS the sequential client's `mergeLatest` in the honest environment.
   * `step_mono` / `run_mono`: a machine with fewer admissible `checkTrees` answers runs inside one with more;
   * `corun_all_ok`: a lock-step run that ends with success made the choice `ok` everywhere;
   * `honest_block_is_mergeLatest`: the theorem.
  Helper for Props/C14.lean.
-/
import ModVerif.Proofs.ClientRefineHonest
namespace ModVerif.ClientRefine
open ModVerif ModVerif.Client ModVerif.Tile


section generic
variable {M T : Type} [DecidableEq M] [DecidableEq T]

theorem step_mono (P1 P2 : ClientLatest.Params M T) (hp : P1.parse = P2.parse) (hs : P1.size = P2.size)
    (hc : ∀ a b r, r ∈ P1.chk a b → r ∈ P2.chk a b) (cl : Nat → Nat) (presented : Nat → Option M)
    (priv : Nat → Bool) (s s' : ClientLatest.St M T) (t : Nat) (r : ClientLatest.Res)
    (h : ClientLatest.step P1 cl presented priv s t r = some s') :
    ClientLatest.step P2 cl presented priv s t r = some s' := by
  unfold ClientLatest.step at h ⊢
  rw [← hp, ← hs]
  cases hpc : (s.th t).pc with
  | memCheck o =>
    simp only [hpc] at h ⊢
    by_cases hsz : P1.size (s.th t).tree ≤ P1.size (s.th t).latest
    · simp only [hsz, if_true] at h ⊢
      by_cases hm : r ∈ P1.chk (s.th t).tree (s.th t).latest
      · rw [if_pos hm] at h; rw [if_pos (hc _ _ _ hm)]; exact h
      · rw [if_neg hm] at h; cases h
    · simp only [hsz, if_false] at h ⊢
      by_cases hm : r ∈ P1.chk (s.th t).latest (s.th t).tree
      · rw [if_pos hm] at h; rw [if_pos (hc _ _ _ hm)]; exact h
      · rw [if_neg hm] at h; cases h
  | _ => simp only [hpc] at h ⊢; exact h

theorem run_mono (P1 P2 : ClientLatest.Params M T) (hp : P1.parse = P2.parse) (hs : P1.size = P2.size)
    (hc : ∀ a b r, r ∈ P1.chk a b → r ∈ P2.chk a b) (cl : Nat → Nat) (presented : Nat → Option M)
    (priv : Nat → Bool) : ∀ (sched : List (Nat × ClientLatest.Res)) (s s' : ClientLatest.St M T),
    ClientLatest.run P1 cl presented priv s sched = some s' → ClientLatest.run P2 cl presented priv s sched = some s' := by
  intro sched
  induction sched with
  | nil => intro s s' h; exact h
  | cons x rest ih =>
    intro s s' h
    obtain ⟨t, r⟩ := x
    simp only [ClientLatest.run] at h ⊢
    cases hs1 : ClientLatest.step P1 cl presented priv s t r with
    | none => simp [hs1] at h
    | some s1 =>
      simp only [hs1] at h
      rw [step_mono P1 P2 hp hs hc cl presented priv s s1 t r hs1]
      exact ih s1 s' h

theorem solo_run_unique (P : ClientLatest.Params M T) (cl : Nat → Nat) (presented : Nat → Option M) (priv : Nat → Bool)
    (s s1 s2 : ClientLatest.St M T) (t : Nat) (n m : Nat)
    (h1 : ClientLatest.run P cl presented priv s (List.replicate n (t, ClientLatest.Res.ok)) = some s1)
    (d1 : ∃ x, (s1.th t).pc = .done x)
    (h2 : ClientLatest.run P cl presented priv s (List.replicate m (t, ClientLatest.Res.ok)) = some s2)
    (d2 : ∃ x, (s2.th t).pc = .done x) : s1 = s2 := by
  have stuck : ∀ (s0 : ClientLatest.St M T), (∃ x, (s0.th t).pc = .done x) →
      ClientLatest.step P cl presented priv s0 t .ok = none := by
    intro s0 ⟨x, hx⟩
    unfold ClientLatest.step; simp [hx]
  have key : ∀ (n d : Nat) (s sa sb : ClientLatest.St M T),
      ClientLatest.run P cl presented priv s (List.replicate n (t, ClientLatest.Res.ok)) = some sa →
      (∃ x, (sa.th t).pc = .done x) →
      ClientLatest.run P cl presented priv s (List.replicate (n + d) (t, ClientLatest.Res.ok)) = some sb → sa = sb := by
    intro n
    induction n with
    | zero =>
      intro d s sa sb ha hda hb
      simp [ClientLatest.run] at ha; subst ha
      cases d with
      | zero => simp [ClientLatest.run] at hb; exact hb
      | succ d => simp [List.replicate_succ, ClientLatest.run, stuck _ hda] at hb
    | succ n ih =>
      intro d s sa sb ha hda hb
      rw [show n + 1 + d = (n + d) + 1 by omega] at hb
      simp only [List.replicate_succ, ClientLatest.run] at ha hb
      cases hs : ClientLatest.step P cl presented priv s t .ok with
      | none => simp [hs] at ha
      | some s0 => simp only [hs] at ha hb; exact ih d s0 sa sb ha hda hb
  by_cases hnm : n ≤ m
  · obtain ⟨d, rfl⟩ : ∃ d, m = n + d := ⟨m - n, by omega⟩
    exact key n d s s1 s2 h1 d1 h2
  · obtain ⟨d, rfl⟩ : ∃ d, n = m + d := ⟨n - m, by omega⟩
    exact (key m d s s2 s1 h2 d2 h1).symm

end generic

section
variable {σ H : Type} [DecidableEq H]

theorem step_no_choice (MP : MParams H) (cl : Nat → Nat) (presented : Nat → Option Bytes) (priv : Nat → Bool)
    (s : MSt H) (t : Nat) (r r' : ClientLatest.Res) (h : ¬ IsChoice (s.th t).pc) :
    ClientLatest.step MP cl presented priv s t r = ClientLatest.step MP cl presented priv s t r' := by
  unfold ClientLatest.step
  cases hpc : (s.th t).pc <;> simp only [hpc, IsChoice, not_true_eq_false] at h ⊢

theorem choice_not_ok (MP : MParams H) (cl : Nat → Nat) (presented : Nat → Option Bytes) (priv : Nat → Bool)
    (s s' : MSt H) (t : Nat) (r : ClientLatest.Res) (hch : IsChoice (s.th t).pc) (hne : r ≠ .ok)
    (hcfg : ((s.th t).pc = .readConfig ∨ (s.th t).pc = .writeConfig) → r = .error)
    (h : ClientLatest.step MP cl presented priv s t r = some s') :
    (s'.th t).pc = .done .err ∨ (s'.th t).pc = .done .security := by
  obtain ⟨l', e, hl, rfl⟩ := (ClientLatest.step_iff MP cl presented priv s s' t r).mp h
  rw [ClientLatest.Eff.apply_th, ClientLatest.upd_same]
  cases hl <;> simp_all [IsChoice]

theorem answer_cfg (P : Params H) (E : Env σ) (w : World σ H) (l : MLoc H)
    (h : l.pc = .readConfig ∨ l.pc = .writeConfig) (hne : answer P E w l ≠ .ok) : answer P E w l = .error := by
  rcases h with h | h
  · simp only [answer, h] at hne ⊢
    split at hne
    · exact absurd rfl hne
    · rename_i hc; simp [hc]
  · simp only [answer, h] at hne ⊢
    split at hne
    · rfl
    · exact absurd rfl hne

theorem corun_all_ok (P : Params H) (E : Env σ) (MP : MParams H) (cl : Nat → Nat) (presented : Nat → Option Bytes)
    (priv : Nat → Bool) (t : Nat) : ∀ (rs : List ClientLatest.Res) (w w' : World σ H) (s s' : MSt H),
    corun P E MP cl presented priv t w s rs = some (w', s') → (s'.th t).pc = .done .ok →
    corun P E MP cl presented priv t w s (List.replicate rs.length .ok) = some (w', s') := by
  intro rs
  induction rs with
  | nil => intro w w' s s' h _; exact h
  | cons r rs ih =>
    intro w w' s s' h hd
    simp only [corun] at h
    split at h
    · cases h
    · rename_i hc
      cases hs : ClientLatest.step MP cl presented priv s t r with
      | none => simp [hs] at h
      | some s1 =>
        simp only [hs] at h
        have ih' := ih _ _ _ _ h hd
        by_cases hch : IsChoice (s.th t).pc
        · have hr : r = answer P E w (s.th t) := by
            by_cases e : r = answer P E w (s.th t)
            · exact e
            · exact absurd ⟨hch, e⟩ hc
          by_cases hok : r = .ok
          · subst hok
            simp only [List.length_cons, List.replicate_succ, corun]
            rw [if_neg hc, hs]; exact ih'
          · -- the goroutine has failed: it cannot end with success
            exfalso
            have hbad := choice_not_ok MP cl presented priv s s1 t r hch hok
              (fun hp => by rw [hr]; exact answer_cfg P E w _ hp (by rw [← hr]; exact hok)) hs
            -- a goroutine that has returned takes no further step
            have hstuck : ∀ (rs : List ClientLatest.Res) (wa wb : World σ H) (sa sb : MSt H),
                (∃ x, (sa.th t).pc = .done x ∧ x ≠ .ok) →
                corun P E MP cl presented priv t wa sa rs = some (wb, sb) → (sb.th t).pc ≠ .done .ok := by
              intro rs
              cases rs with
              | nil =>
                intro wa wb sa sb ⟨x, hx, hxn⟩ hrun
                simp [corun] at hrun
                rw [← hrun.2, hx]
                intro e; cases e; exact hxn rfl
              | cons r0 rs0 =>
                intro wa wb sa sb ⟨x, hx, _⟩ hrun
                simp only [corun] at hrun
                split at hrun
                · cases hrun
                · have : ClientLatest.step MP cl presented priv sa t r0 = none := by
                    unfold ClientLatest.step; simp [hx]
                  simp [this] at hrun
            refine hstuck rs _ w' s1 s' ?_ h hd
            rcases hbad with e | e
            · exact ⟨_, e, by simp⟩
            · exact ⟨_, e, by simp⟩
        · simp only [List.length_cons, List.replicate_succ, corun]
          rw [if_neg (fun hh => hch hh.1), step_no_choice MP cl presented priv s t .ok r hch, hs]
          exact ih'

end

section honest
variable {H : Type} [DecidableEq H]

theorem honest_run_is_client_run (P : Params H) (D : List Bytes) (S : Server) (stN : List H) (cl : Nat → Nat)
    (presented : Nat → Option Bytes) (priv : Nat → Bool) (sched : List (Nat × ClientLatest.Res)) (s s' : MSt H)
    (h : ClientLatest.run (honestParams P D S stN) cl presented priv s sched = some s') :
    ClientLatest.run (Props.C13.clientParams P (honestEnv S) [S.v]) cl presented priv s sched = some s' := by
  refine run_mono (honestParams P D S stN) (Props.C13.clientParams P (honestEnv S) [S.v]) ?_ rfl ?_ cl presented priv
    sched s s' h
  · funext m
    simp only [honestParams, Props.C13.clientParams]
    cases openTree P [S.v] m <;> rfl
  · intro a b r hr
    simp only [honestParams, List.mem_append] at hr
    simp only [Props.C13.clientParams, List.mem_append, List.mem_cons, List.not_mem_nil, or_false]
    rcases hr with (hr | hr) | hr
    · split at hr
      · rename_i hc
        obtain ⟨hle, w, o1, o2, _, _, hok⟩ := hc
        simp only [List.mem_cons, List.not_mem_nil, or_false] at hr
        subst hr
        left
        rw [if_pos ⟨hle, w, o1, o2, absChk_ok hok⟩]; simp
      · simp at hr
    · split at hr
      · simp only [List.mem_cons, List.not_mem_nil, or_false] at hr; subst hr; right; left; rfl
      · simp at hr
    · split at hr
      · simp only [List.mem_cons, List.not_mem_nil, or_false] at hr; subst hr; right; right; rfl
      · simp at hr

/-- C14 `honest_sequential_block_is_mergeLatest` -/
theorem honest_block_is_mergeLatest (P : Params H) (D : List Bytes) (S : Server) (stN : List H) (hon : Honest P D S stN)
    (cl : Nat → Nat) (presented : Nat → Option Bytes) (priv : Nat → Bool) (t : Nat) (msg : Bytes)
    (hmsg : msg = [] ∨ ∃ m, Signed P D S msg m) (hpres : presented t = optB msg) (hpriv : priv t = false)
    (w : World HState H) (hw : HW P D S stN w) (hname : w.c.name = S.v.name) (hvs : w.c.verifiers = [S.v])
    (s s' : MSt H) (hR : RelG cl S.v.name (fun x : HState => x.latest) [S.v] t w s) (hpc : (s.th t).pc = .entry)
    (k : Nat) (hrun : ClientLatest.run (honestParams P D S stN) cl presented priv s
      (List.replicate k (t, ClientLatest.Res.ok)) = some s')
    (hdone : ∃ x, (s'.th t).pc = .done x) :
    (s'.th t).pc = .done .ok ∧ (mergeLatest P (honestEnv S) w msg).1 = .ok () ∧
    RelG cl S.v.name (fun x : HState => x.latest) [S.v] t (mergeLatest P (honestEnv S) w msg).2 s' ∧
    Obs P t w.tr s.writes s.sec (mergeLatest P (honestEnv S) w msg).2 s' := by
  have hA := clientParams_abs P (honestEnv S) [S.v]
  have hE := honestEnv_cfgCell S
  obtain ⟨⟨rs, s1, _, hco, hpc1⟩, hb⟩ :=
    head_refinement (cl := cl) (priv := priv) hA hE hon.hret hpres hpriv w s hR hpc
  have hres : (mergeLatest P (honestEnv S) w msg).1 = .ok () :=
    (mergeLatest_honest P D S stN hon w hw hname hvs msg hmsg).1
  rw [hres] at hpc1
  have hpc1' : (s1.th t).pc = .done .ok := hpc1
  have hco' := corun_all_ok P (honestEnv S) _ cl presented priv t rs _ _ _ _ hco hpc1'
  obtain ⟨hrun1, hR1, hO1, _⟩ := hb _ _ _ hco'
  rw [List.map_replicate] at hrun1
  have hrun' := honest_run_is_client_run P D S stN cl presented priv _ s s' hrun
  have heq : s1 = s' := solo_run_unique _ cl presented priv s s1 s' t _ _ hrun1 ⟨_, hpc1'⟩ hrun' hdone
  subst heq
  exact ⟨hpc1', hres, hR1, hO1⟩

end honest
end ModVerif.ClientRefine
