/-
  Helper lemmas for Tie/FnRuleAdd.lean: the regenerated `File.fixRetract` (loop `File_fixRetract_loop1` over
  `f.Retract`) = the model's `fixRetract` / `fixRetractLoop`, under the hypothesis `FixLeaf` about the
  `parseVersionInterval` calls.
-/
import ModVerif.Proofs.TieFnRuleAddD
namespace ModVerif.Tie.FnRuleAddF
open ModVerif ModVerif.GoRt ModVerif.Generated ModVerif.Tie.FnRuleRep ModVerif.Tie.FnRuleAddA ModVerif.Tie.FnRuleAddB ModVerif.Tie.FnRuleAddC
open ModVerif.Drv.GenRule (isPrintI unquoteI laxSubI deprecatedSubI fixG)
open ModVerif.Modfile.Edit (treeIds)

abbrev FRL := Rule.File_fixRetract_loop1 isPrintI Quote.quote unquoteI
abbrev FR := Rule.File_fixRetract isPrintI Quote.quote unquoteI

theorem fr_wrapError_eq {h : Rule.Heap} {fp q : Int} {o : Rule.File} {F : Rule.FileSyntax} {obj : Rule.Retract} {L : Rule.Line}
    (ho : heapGet h.mods fp = .ok o) (hF : heapGet h.files o.Syntax = .ok F) (hq : heapGet h.retracts q = .ok obj)
    (hL : heapGet h.lines obj.Syntax = .ok L) (fuel : Nat) (e : Option String) (errs : List Rule.Error) :
    Rule.File_fixRetract_wrapError isPrintI Quote.quote unquoteI fuel fp q h e errs = .ok ((), errs ++ [errV F L e]) := by
  simp [Rule.File_fixRetract_wrapError, errV, ho, hF, hq, hL, bind, Except.bind, pure, Except.pure]

/-- the arguments of a retract line: the verb, if present, is kept -/
def frSplit (l : Modfile.Line) : List Bytes × List Bytes :=
  match l.token with
  | t0 :: rest => if t0 == B "retract" then ([t0], rest) else ([], l.token)
  | [] => ([], [])

theorem frSplit_append (l : Modfile.Line) : l.token = (frSplit l).1 ++ (frSplit l).2 := by
  unfold frSplit
  split
  · split <;> simp_all
  · simp_all

/-- `Q`: what the caller knows of every retract line (in use `QF F` of Proofs/TieFnRuleAddM.lean: the fuel covers its arguments) -/
def TodoOK (ι : Int → Nat) (h : Rule.Heap) (Q : Modfile.Line → Prop) : List Int → List Modfile.Retract → Prop
  | [], [] => True
  | q :: qs, r :: rs => (∃ obj l, heapGet h.retracts q = .ok obj ∧ retractR ι h.lines.length obj r ∧ RLine ι h obj.Syntax l ∧
      l.token ≠ [] ∧ Q l) ∧ TodoOK ι h Q qs rs
  | _, _ => False

def frVi (res : Except Modfile.RuleErrKind (Modfile.VersionInterval × List Bytes)) : Modfile.VersionInterval :=
  match res with
  | .error _ => {}
  | .ok (vi, _) => vi

def frErrs (l : Modfile.Line) (res : Except Modfile.RuleErrKind (Modfile.VersionInterval × List Bytes)) (errsRev : List Modfile.RuleErr) :
    List Modfile.RuleErr :=
  match res with
  | .error e => ⟨l.start, e⟩ :: errsRev
  | .ok _ => errsRev

theorem fixRetractLoop_cons (path : Bytes) (fx : Modfile.Fixer) (r : Modfile.Retract) (rs : List Modfile.Retract) (fs : Modfile.FileSyntax)
    (errsRev : List Modfile.RuleErr) {l : Modfile.Line} (hfind : fs.findLine r.lineId = some l) :
    Modfile.fixRetractLoop path fx (r :: rs) fs errsRev =
      (let pv := Modfile.parseVersionInterval path (frSplit l).2 (some fx)
       let fs1 := fs.updateLine r.lineId fun x => { x with token := (frSplit l).1 ++ pv.1 }
       let rec' := Modfile.fixRetractLoop path fx rs fs1 (frErrs l pv.2 errsRev)
       ({ r with interval := frVi pv.2 } :: rec'.1, rec'.2.1, rec'.2.2)) := by
  rw [Modfile.fixRetractLoop]
  simp only [hfind]
  unfold frSplit
  cases l.token with
  | nil =>
    simp only []
    cases hpv : Modfile.parseVersionInterval path [] (some fx) with
    | mk args' res =>
      cases res with
      | error e => simp only [frVi, frErrs]
      | ok vr => obtain ⟨vi, rest⟩ := vr; simp only [frVi, frErrs]
  | cons t0 rest =>
    simp only []
    by_cases ht : (t0 == B "retract") = true
    · simp only [ht, if_true]
      cases hpv : Modfile.parseVersionInterval path rest (some fx) with
      | mk args' res =>
        cases res with
        | error e => simp only [frVi, frErrs]
        | ok vr => obtain ⟨vi, rest⟩ := vr; simp only [frVi, frErrs]
    · have ht' : (t0 == B "retract") = false := by simpa using ht
      simp only [ht', Bool.false_eq_true, if_false]
      cases hpv : Modfile.parseVersionInterval path (t0 :: rest) (some fx) with
      | mk args' res =>
        cases res with
        | error e => simp only [frVi, frErrs]
        | ok vr => obtain ⟨vi, rest⟩ := vr; simp only [frVi, frErrs]

theorem findLine_of_mem {fs : Modfile.FileSyntax} {id : Nat} (h : id ∈ treeIds fs.stmts) : ∃ l, fs.findLine id = some l :=
  Proofs.ModfileC20.findLine_isSome (by
    rw [← Proofs.ModfileC20.allLines_eq, Modfile.Edit.allLines_eq_loc, List.map_map]; exact h)

theorem RLine.unique {ι : Int → Nat} {h : Rule.Heap} {p : Int} {a b : Modfile.Line} (ra : RLine ι h p a) (rb : RLine ι h p b) : a = b := by
  have e : lineG a = lineG b := by have := ra.1; rw [rb.1] at this; exact (Except.ok.inj this).symm
  have := lineG_eq_iff.1 e
  rw [this]
  have hid : a.id = b.id := by rw [← ra.2, ← rb.2]
  rw [hid]

theorem find_retract_line {ι : Int → Nat} {h : Rule.Heap} {x : Int} {fs : Modfile.FileSyntax} (rs : RepSyn ι h x fs) (hi : LineInj ι h)
    {sp : Int} {l : Modfile.Line} (hl : RLine ι h sp l) {id : Nat} (hid : ι sp = id) (hm : id ∈ treeIds fs.stmts) :
    fs.findLine id = some l := by
  obtain ⟨l', hf⟩ := findLine_of_mem hm
  have := rs.findLine_at hi hl.pos hl.le (by rw [hid]; exact hf)
  rw [hf, RLine.unique this hl]

def FixLeaf (ι : Int → Nat) (Q : Modfile.Line → Prop) (F : Nat) (path : Bytes) (fx : Modfile.Fixer) : Prop :=
  ∀ fuel', F ≤ fuel' → ∀ (hc : Rule.Heap) (sp : Int) (l : Modfile.Line), RLine ι hc sp l → Q l →
    ∀ (r : Rule.TokRef), TokView hc r (frSplit l).1 (frSplit l).2 → r.owner = sp → PVIok fuel' hc r (frSplit l).1 (frSplit l).2 path (some fx)

theorem TodoOK.tail_frame {ι : Int → Nat} {h h' : Rule.Heap} {Q : Modfile.Line → Prop}
    (hn : h'.lines.length = h.lines.length) :
    ∀ {qs : List Int} {rs : List Modfile.Retract}, TodoOK ι h Q qs rs →
      (∀ q ∈ qs, heapGet h'.retracts q = heapGet h.retracts q) →
      (∀ q ∈ qs, ∀ obj, heapGet h.retracts q = .ok obj → heapGet h'.lines obj.Syntax = heapGet h.lines obj.Syntax) →
      TodoOK ι h' Q qs rs
  | [], [], _, _, _ => trivial
  | q :: qs, r :: rs, t, h1, h2 => by
    obtain ⟨⟨obj, l, hq, hR, hl, hne, hQ⟩, t'⟩ := t
    refine ⟨⟨obj, l, by rw [h1 q List.mem_cons_self]; exact hq, by rw [hn]; exact hR,
      ⟨by rw [h2 q List.mem_cons_self obj hq]; exact hl.1, hl.2⟩, hne, hQ⟩, ?_⟩
    exact TodoOK.tail_frame hn t' (fun q' hq' => h1 q' (List.mem_cons_of_mem _ hq'))
      (fun q' hq' => h2 q' (List.mem_cons_of_mem _ hq'))
  | [], _ :: _, t, _, _ => t.elim
  | _ :: _, [], t, _, _ => t.elim

theorem TodoOK.length {ι : Int → Nat} {h : Rule.Heap} {Q : Modfile.Line → Prop} :
    ∀ {qs : List Int} {rs : List Modfile.Retract}, TodoOK ι h Q qs rs → qs.length = rs.length
  | [], [], _ => rfl
  | _ :: _, _ :: _, t => by simp [TodoOK.length t.2]
  | [], _ :: _, t => t.elim
  | _ :: _, [], t => t.elim

theorem TodoOK.ids {ι : Int → Nat} {h : Rule.Heap} {Q : Modfile.Line → Prop} :
    ∀ {qs : List Int} {rs : List Modfile.Retract}, TodoOK ι h Q qs rs →
      ∀ q ∈ qs, ∀ obj, heapGet h.retracts q = .ok obj → ι obj.Syntax ∈ rs.map (·.lineId)
  | [], [], _, q, hq, _, _ => by cases hq
  | q0 :: qs, r :: rs, t, q, hq, obj, ho => by
    rcases List.mem_cons.1 hq with rfl | hq'
    · obtain ⟨⟨obj', l, hq0, hR, _⟩, _⟩ := t
      rw [hq0] at ho; cases ho
      simp [hR.2.2.2.id]
    · exact List.mem_cons_of_mem _ (TodoOK.ids t.2 q hq' obj ho)
  | [], _ :: _, t, _, _, _, _ => t.elim
  | _ :: _, [], t, _, _, _, _ => t.elim

abbrev H2 (h : Rule.Heap) (ls : List Rule.Line) (rt : List Rule.Retract) : Rule.Heap := { h with lines := ls, retracts := rt }

theorem FRL_spec {ι : Int → Nat} {fp : Int} {path : Bytes} {fx : Modfile.Fixer} {Q : Modfile.Line → Prop} {F : Nat}
    (hpath : path ≠ []) (hleaf : FixLeaf ι Q F path fx) :
    ∀ (todo : List Int) (rsT : List Modfile.Retract) (done : List Int) (h : Rule.Heap) (errs : List Rule.Error) (fs : Modfile.FileSyntax)
      (errsRev : List Modfile.RuleErr) (o : Rule.File) (rcur : Int) (fuel : Nat),
      F + todo.length + 1 ≤ fuel →
      heapGet h.mods fp = .ok o → RepSyn ι h o.Syntax fs → LineInj ι h → ErrsRep errs errsRev.reverse →
      TodoOK ι h Q todo rsT → todo.Nodup → (rsT.map (·.lineId)).Nodup → (∀ r ∈ rsT, r.lineId ∈ treeIds fs.stmts) →
      ∃ ri errs' h' rc, FRL (done ++ todo) fp (fixG (some fx)) path fuel (done.length : Int) errs h rcur = .ok (Ctl.next (ri, errs', h', rc)) ∧
        (∃ ls' rt', h' = { h with lines := ls', retracts := rt' } ∧ ls'.length = h.lines.length ∧
          ∀ q, q ∉ todo → heapGet rt' q = heapGet h.retracts q) ∧
        RepSyn ι h' o.Syntax (Modfile.fixRetractLoop path fx rsT fs errsRev).2.1 ∧ LineInj ι h' ∧
        ErrsRep errs' (Modfile.fixRetractLoop path fx rsT fs errsRev).2.2.reverse ∧
        REntsL h'.retracts (retractR ι h.lines.length) todo (Modfile.fixRetractLoop path fx rsT fs errsRev).1 ∧
        errs <+: errs' := by
  intro todo
  induction todo with
  | nil =>
    intro rsT done h errs fs errsRev o rcur fuel hf ho hs hi he ht _ _ _
    cases rsT with
    | cons _ _ => exact ht.elim
    | nil =>
      obtain ⟨n, rfl⟩ : ∃ n, fuel = n + 1 := ⟨fuel - 1, by omega⟩
      refine ⟨(done.length : Int), errs, h, rcur, ?_, ⟨h.lines, h.retracts, rfl, rfl, fun _ _ => rfl⟩, hs, hi, he, trivial, List.prefix_refl _⟩
      unfold FRL Rule.File_fixRetract_loop1
      simp only [List.append_nil, not_lt_len_self, decide_false, Bool.false_eq_true, if_false, pure, Except.pure]
  | cons q todo' ih =>
    intro rsT done h errs fs errsRev o rcur fuel hf ho hs hi he ht hnd hndl hmem
    cases rsT with
    | nil => exact ht.elim
    | cons r rsT' =>
    obtain ⟨n, rfl⟩ : ∃ n, fuel = n + 1 := ⟨fuel - 1, by omega⟩
    obtain ⟨⟨obj, l, hq, hR, hl, hne, hQ⟩, ht'⟩ := ht
    obtain ⟨es, hsa⟩ := hs
    have hF := hsa.file
    have hfind : fs.findLine r.lineId = some l :=
      find_retract_line ⟨es, hsa⟩ hi hl hR.2.2.2.id (hmem r List.mem_cons_self)
    rw [fixRetractLoop_cons path fx r rsT' fs errsRev hfind]
    simp only []
    -- the view of the arguments
    obtain ⟨t0, rest, htok⟩ : ∃ t0 rest, l.token = t0 :: rest := by
      cases hlt : l.token with
      | nil => exact absurd hlt hne
      | cons a b => exact ⟨a, b, rfl⟩
    have hmk := TokView.make hl.1 (k := 0) (by omega)
    have V0 : TokView h { owner := obj.Syntax, lo := 0 } [] (t0 :: rest) := by
      have := hmk.2; simp only [lineG_Token, List.take_zero, List.drop_zero, htok] at this; exact this
    have hmk1 : tkMake obj.Syntax 0 h.lines = .ok { owner := obj.Syntax, lo := 0 } := by rw [← TokRef_make_eq]; exact hmk.1
    have hg0 : tkGet { owner := obj.Syntax, lo := 0 } 0 h.lines = .ok t0 := V0.tkGet0 rfl
    have hfuel : F ≤ n := by simp at hf; omega
    -- the view parseVersionInterval gets, and the call
    have hcall : ∃ (r1 : Rule.TokRef), r1.owner = obj.Syntax ∧ TokView h r1 (frSplit l).1 (frSplit l).2 ∧
        (if decide (t0 = ([114, 101, 116, 114, 97, 99, 116] : Bytes)) then tkDrop { owner := obj.Syntax, lo := 0 } 1 h.lines
          else (.ok { owner := obj.Syntax, lo := 0 } : M Rule.TokRef)) = .ok r1 := by
      by_cases h0 : t0 = ([114, 101, 116, 114, 97, 99, 116] : Bytes)
      · have hd := V0.drop (j := 1) (by simp)
        refine ⟨{ ({ owner := obj.Syntax, lo := 0 } : Rule.TokRef) with lo := (0 : Int) + ((1 : Nat) : Int) }, rfl, ?_, ?_⟩
        · have := hd.2
          simp only [frSplit, htok, h0, ← B_retract, beq_self_eq_true, if_true]
          simpa [h0, ← B_retract] using this
        · simp only [h0, decide_true, if_true]; rw [← TokRef_drop_eq]; exact hd.1
      · refine ⟨{ owner := obj.Syntax, lo := 0 }, rfl, ?_, ?_⟩
        · have hb : (t0 == B "retract") = false := by rw [B_retract]; simpa using h0
          simp only [frSplit, htok, hb, Bool.false_eq_true, if_false]
          exact V0
        · simp only [h0, decide_false, Bool.false_eq_true, if_false]
    obtain ⟨r1, hown, V1, hr1⟩ := hcall
    obtain ⟨vi, e, r', h1, ⟨hh1, hout⟩, hpvi⟩ := hleaf n hfuel h obj.Syntax l hl hQ r1 V1 hown
    rw [hown, setToksH_eq_lines] at hh1
    have hpath' : decide (path = ([] : Bytes)) = false := by simpa using hpath
    subst hh1
    have hpvi' := hpvi [114, 101, 116, 114, 97, 99, 116]
    -- the model side of this iteration
    generalize hpv : Modfile.parseVersionInterval path (frSplit l).2 (some fx) = pv at hout hpvi' ⊢
    obtain ⟨toks', res⟩ := pv
    simp only [] at hout hpvi' ⊢
    have hsp : ι obj.Syntax = r.lineId := hR.2.2.2.id
    -- the heap after the token store and the interval store
    have hL1 : heapGet (setToksH h obj.Syntax ((frSplit l).1 ++ toks')).lines obj.Syntax =
        .ok { lineG l with Token := (frSplit l).1 ++ toks' } := heapGet_setToksH_same hl.1 _
    have hnl : (setToksH h obj.Syntax ((frSplit l).1 ++ toks')).lines.length = h.lines.length := by simp
    have hS1 : RepSyn ι (H2 h (setToksH h obj.Syntax ((frSplit l).1 ++ toks')).lines (h.retracts.set (q.toNat - 1) { obj with VersionInterval := vi })) o.Syntax
        (fs.updateLine r.lineId fun x => { x with token := (frSplit l).1 ++ toks' }) := by
      have := RepSyn.setToks (ι := ι) ⟨es, hsa⟩ hi hl.1 ((frSplit l).1 ++ toks')
      rw [hsp] at this
      refine RepSyn.congr (h := setToksH h obj.Syntax ((frSplit l).1 ++ toks')) ?_ ?_ ?_ ?_ this <;> simp []
    have hI1 : LineInj ι (H2 h (setToksH h obj.Syntax ((frSplit l).1 ++ toks')).lines (h.retracts.set (q.toNat - 1) { obj with VersionInterval := vi })) := hi.congr hnl
    have hT1 : TodoOK ι (H2 h (setToksH h obj.Syntax ((frSplit l).1 ++ toks')).lines (h.retracts.set (q.toNat - 1) { obj with VersionInterval := vi })) Q todo' rsT' := by
      refine TodoOK.tail_frame (h := h) (h' := H2 h (setToksH h obj.Syntax ((frSplit l).1 ++ toks')).lines (h.retracts.set (q.toNat - 1) { obj with VersionInterval := vi })) hnl ht' ?_ ?_
      · intro q' hq'
        have : q' ≠ q := by rintro rfl; exact (List.nodup_cons.1 hnd).1 hq'
        exact heapGet_listSet_other _ hq this
      · intro q' hq' obj' ho'
        have hne' : obj'.Syntax ≠ obj.Syntax := by
          intro e
          have := TodoOK.ids ht' q' hq' obj' ho'
          rw [e, hsp] at this
          simp only [List.map_cons, List.nodup_cons] at hndl
          exact hndl.1 this
        exact heapGet_setToksH_other h _ hne'
    have hmem1 : ∀ r' ∈ rsT', r'.lineId ∈ treeIds (fs.updateLine r.lineId fun x => { x with token := (frSplit l).1 ++ toks' }).stmts := by
      intro r' hr'
      rw [Modfile.Edit.treeIds_updateLine fs r.lineId (fun x => { x with token := (frSplit l).1 ++ toks' }) hsa.nodupL (fun _ => rfl)]
      exact hmem r' (List.mem_cons_of_mem _ hr')
    have hndl' : (rsT'.map (·.lineId)).Nodup := by simp only [List.map_cons, List.nodup_cons] at hndl; exact hndl.2
    have hnd' := (List.nodup_cons.1 hnd)
    have hfuel' : F + todo'.length + 1 ≤ n := by simp at hf; omega
    -- the recursive call, for either error list
    have hrec : ∀ (errs2 : List Rule.Error), ErrsRep errs2 (frErrs l res errsRev).reverse →
        retractR ι h.lines.length { obj with VersionInterval := vi } { r with interval := frVi res } → errs <+: errs2 →
        ∃ ri errs' h' rc,
          Rule.File_fixRetract_loop1 isPrintI Quote.quote unquoteI (done ++ q :: todo') fp (fixG (some fx)) path n ((done.length : Int) + 1) errs2
            (H2 h (setToksH h obj.Syntax ((frSplit l).1 ++ toks')).lines (h.retracts.set (q.toNat - 1) { obj with VersionInterval := vi })) q = .ok (Ctl.next (ri, errs', h', rc)) ∧
          (∃ ls' rt', h' = { h with lines := ls', retracts := rt' } ∧ ls'.length = h.lines.length ∧
            ∀ q1, q1 ∉ q :: todo' → heapGet rt' q1 = heapGet h.retracts q1) ∧
          RepSyn ι h' o.Syntax (Modfile.fixRetractLoop path fx rsT'
            (fs.updateLine r.lineId fun x => { x with token := (frSplit l).1 ++ toks' }) (frErrs l res errsRev)).2.1 ∧ LineInj ι h' ∧
          ErrsRep errs' (Modfile.fixRetractLoop path fx rsT'
            (fs.updateLine r.lineId fun x => { x with token := (frSplit l).1 ++ toks' }) (frErrs l res errsRev)).2.2.reverse ∧
          REntsL h'.retracts (retractR ι h.lines.length) (q :: todo')
            ({ r with interval := frVi res } :: (Modfile.fixRetractLoop path fx rsT'
              (fs.updateLine r.lineId fun x => { x with token := (frSplit l).1 ++ toks' }) (frErrs l res errsRev)).1) ∧
          errs <+: errs' := by
      intro errs2 he2 hR2 hp2
      obtain ⟨ri, errs', h', rc, hrun, ⟨ls', rt', rfl, hlen, hframe⟩, hsyn', hinj', herr', hents', hpre'⟩ :=
        ih rsT' (done ++ [q]) (H2 h (setToksH h obj.Syntax ((frSplit l).1 ++ toks')).lines (h.retracts.set (q.toNat - 1) { obj with VersionInterval := vi })) errs2 _ (frErrs l res errsRev) o q n hfuel' ho hS1 hI1 he2 hT1 hnd'.2 hndl' hmem1
      simp only [List.append_assoc, List.singleton_append, List.length_append, List.length_singleton, Int.natCast_add, Int.natCast_one] at hrun
      refine ⟨ri, errs', _, rc, hrun, ⟨ls', rt', rfl, by rw [hlen]; exact hnl, ?_⟩, hsyn', hinj', herr', ?_, hp2.trans hpre'⟩
      · intro q1 hq1
        rw [hframe q1 (fun hm => hq1 (List.mem_cons_of_mem _ hm))]
        exact heapGet_listSet_other _ hq (fun e => hq1 (by rw [e]; exact List.mem_cons_self))
      · refine ⟨⟨_, ?_, hR2⟩, ?_⟩
        · show heapGet rt' q = _
          rw [hframe q hnd'.1]
          exact heapGet_listSet_same _ hq
        · have : (setToksH h obj.Syntax ((frSplit l).1 ++ toks')).lines.length = h.lines.length := hnl
          simp only [this] at hents'
          exact hents'
    have hq1 : heapGet h.retracts q = .ok obj := hq
    unfold FRL Rule.File_fixRetract_loop1
    simp only [lt_len_mid, decide_true, if_true, idxL_mid, hpath', Bool.false_eq_true, if_false, hq, TokRef_make_eq, hmk1, TokRef_get_eq, hg0,
      TokRef_drop_eq, bind, Except.bind, pure, Except.pure]
    by_cases h0 : t0 = ([114, 101, 116, 114, 97, 99, 116] : Bytes)
    all_goals
      simp only [h0, decide_true, decide_false, if_true, Bool.false_eq_true, if_false] at hr1 ⊢
      try (cases hr1)
      first
        | simp only [hr1, hpvi', hq1, heapSet_of_get _ hq1]
        | simp only [hpvi', hq1, heapSet_of_get _ hq1]
      cases res with
      | error k =>
        obtain ⟨hea, rfl⟩ := hout
        have he1 : e.isNone = false := by obtain ⟨s, rfl, _⟩ := hea; rfl
        simp only [he1, Bool.not_false, if_true, fr_wrapError_eq (h := { h with lines := (setToksH h obj.Syntax ((frSplit l).1 ++ toks')).lines }) ho hF hq1 hL1]
        exact hrec _ (by simp only [frErrs]; exact he.snoc_rev (errV_rep' rfl hea)) ⟨rfl, rfl, hR.2.2.1, hR.2.2.2⟩ (List.prefix_append _ _)
      | ok vr =>
        obtain ⟨mvi, rest'⟩ := vr
        obtain ⟨rfl, hlo, hhi, _⟩ := hout
        simp only [Option.isNone_none, Bool.not_true, Bool.false_eq_true, if_false]
        exact hrec _ (by simp only [frErrs]; exact he) ⟨hlo, hhi, hR.2.2.1, hR.2.2.2⟩ (List.prefix_refl _)

theorem _root_.ModVerif.Tie.FnRuleRep.RepTyped.afterFix {ι : Int → Nat} {h : Rule.Heap} {o : Rule.File} {f : Modfile.File} (r : RepTyped ι h o f)
    (ls : List Rule.Line) (rt : List Rule.Retract) (hn : ls.length = h.lines.length) {rs' : List Modfile.Retract} (fs' : Modfile.FileSyntax)
    (hr : REntsL rt (retractR ι h.lines.length) o.Retract rs') :
    RepTyped ι (H2 h ls rt) o { f with retract := rs', syn := fs' } where
  module := by have := r.module; rw [← hn] at this; exact this
  go := by have := r.go; rw [← hn] at this; exact this
  toolchain := by have := r.toolchain; rw [← hn] at this; exact this
  godebug := by have := r.godebug; rw [← hn] at this; exact this
  require := by have := r.require; rw [← hn] at this; exact this
  exclude := by have := r.exclude; rw [← hn] at this; exact this
  replace := by have := r.replace; rw [← hn] at this; exact this
  tool := by have := r.tool; rw [← hn] at this; exact this
  retract := ⟨by rw [← hn] at hr; exact hr, r.retract.nodup⟩

/-- what `fixRetract` needs of the retract entries (`parseToFile` establishes it: `retInv_of`, Proofs/TieFnRuleAddO.lean) -/
structure RetInv (ι : Int → Nat) (h : Rule.Heap) (o : Rule.File) (Q : Modfile.Line → Prop) (st : Modfile.AddState) : Prop where
  todo : TodoOK ι h Q o.Retract st.file.retract
  nodup : (st.file.retract.map (·.lineId)).Nodup
  mem : ∀ r ∈ st.file.retract, r.lineId ∈ treeIds st.file.syn.stmts

/-- the module path `fixRetract` uses -/
def pathOf (st : Modfile.AddState) : Bytes := (st.file.module.map (·.mod.path)).getD []

theorem fixRetract_some (st : Modfile.AddState) (fx : Modfile.Fixer) :
    Modfile.fixRetract st (some fx) =
      (match st.file.retract with
       | [] => st
       | r :: _ =>
         if (pathOf st).isEmpty then
           st.err (((st.file.syn.findLine r.lineId).map (·.start)).getD {}) .retractNoModule
         else
           { file := { st.file with retract := (Modfile.fixRetractLoop (pathOf st) fx st.file.retract st.file.syn st.errsRev).1,
                                    syn := (Modfile.fixRetractLoop (pathOf st) fx st.file.retract st.file.syn st.errsRev).2.1 },
             errsRev := (Modfile.fixRetractLoop (pathOf st) fx st.file.retract st.file.syn st.errsRev).2.2 }) := by
  unfold Modfile.fixRetract pathOf
  cases st.file.module <;> rfl

theorem FR_spec {ι : Int → Nat} {h : Rule.Heap} {fp : Int} {errs : List Rule.Error} {st : Modfile.AddState}
    (R : RepR ι h fp errs st) (fix : Option Modfile.Fixer) (Q : Modfile.Line → Prop) (F fuel : Nat)
    (hfuel : F + st.file.retract.length + 1 ≤ fuel)
    (hinv : ∀ o, heapGet h.mods fp = .ok o → RetInv ι h o Q st)
    (hleaf : ∀ fx m, fix = some fx → st.file.module = some m → m.mod.path ≠ [] → FixLeaf ι Q F m.mod.path fx) :
    ∃ errs' h', FR fuel fp (fixG fix) errs h = .ok (((), errs'), h') ∧ RepR ι h' fp errs' (Modfile.fixRetract st fix) ∧ errs <+: errs' := by
  cases fix with
  | none =>
    refine ⟨errs, h, ?_, R, List.prefix_refl _⟩
    simp [FR, Rule.File_fixRetract, fixG, pure, Except.pure]
  | some fx =>
    obtain ⟨o, ho, rt, rs⟩ := R.obj
    obtain ⟨es, hsa⟩ := rs
    have hI := hinv o ho
    have hlenR : o.Retract.length = st.file.retract.length := hI.todo.length
    obtain ⟨n, rfl⟩ : ∃ n, fuel = n + 1 := ⟨fuel - 1, by omega⟩
    -- the module path
    have hpathG : ∃ path, path = pathOf st ∧
        FR (n + 1) fp (fixG (some fx)) errs h =
          (do let r26 ← FRL o.Retract fp (fixG (some fx)) path (n + 1) 0 errs h 0
              match r26 with
              | Ctl.ret rv27 => pure rv27
              | Ctl.next (ri8, errs, world, r) => pure (((), errs), world)) := by
      refine ⟨_, rfl, ?_⟩
      unfold FR Rule.File_fixRetract
      simp only [fixG, Option.map_some, Option.isNone_some, Bool.false_eq_true, if_false, ho, bind, Except.bind, pure, Except.pure]
      cases hm : st.file.module with
      | none =>
        have h0 : o.Module = 0 := (rt.module.eq_zero_iff).2 hm
        simp only [h0, decide_true, Bool.not_true, Bool.false_eq_true, if_false, pathOf, hm, Option.map_none, Option.getD_none]
        rfl
      | some m =>
        have hmr := rt.module
        rw [hm] at hmr
        obtain ⟨mo, hmo, hmR⟩ := hmr
        have hne : o.Module ≠ 0 := by have := heapGet_pos hmo; omega
        simp only [hne, decide_false, Bool.not_false, if_true, hmo, hmR.1, mvG_Path, pathOf, hm, Option.map_some, Option.getD_some]
        rfl
    obtain ⟨path, hpath, hFR⟩ := hpathG
    rw [hFR, fixRetract_some, ← hpath]
    cases hrs : st.file.retract with
    | nil =>
      have hnil : o.Retract = [] := by rw [hrs] at hlenR; exact List.eq_nil_of_length_eq_zero hlenR
      refine ⟨errs, h, ?_, R, List.prefix_refl _⟩
      rw [hnil]
      unfold FRL Rule.File_fixRetract_loop1
      simp [len_eq, bind, Except.bind, pure, Except.pure]
    | cons r0 rs0 =>
      simp only []
      obtain ⟨q0, qs0, hq0⟩ : ∃ q0 qs0, o.Retract = q0 :: qs0 := by
        cases hor : o.Retract with
        | nil => rw [hor, hrs] at hlenR; simp at hlenR
        | cons a b => exact ⟨a, b, rfl⟩
      have htodo := hI.todo
      rw [hq0, hrs] at htodo
      obtain ⟨⟨obj, l, hq, hR, hl, hne, hQ⟩, _⟩ := htodo
      by_cases hp : path = []
      · -- no module path: only the first retract is reported
        have hfind : st.file.syn.findLine r0.lineId = some l :=
          find_retract_line ⟨es, hsa⟩ R.inj hl hR.2.2.2.id (hI.mem r0 (by rw [hrs]; exact List.mem_cons_self))
        simp only [hp, List.isEmpty_nil, if_true, hfind, Option.map_some, Option.getD_some]
        rw [hq0]
        unfold FRL Rule.File_fixRetract_loop1
        have hlt : (0 : Int) < GoRt.len (q0 :: qs0) := by rw [len_eq]; simp
        have hidx : idxL (q0 :: qs0) 0 = .ok q0 := rfl
        simp only [hlt, decide_true, if_true, hidx, fr_wrapError_eq ho hsa.file hq hl.1, bind, Except.bind, pure, Except.pure]
        refine ⟨_, _, rfl, ?_, List.prefix_append _ _⟩
        exact ⟨⟨o, ho, rt, es, hsa⟩, R.inj, R.errs.snoc_rev (errV_rep (errAbs_some (by decide +kernel)))⟩
      · have hpe : path.isEmpty = false := by cases path <;> simp_all
        simp only [hpe, Bool.false_eq_true, if_false]
        obtain ⟨m, hm⟩ : ∃ m, st.file.module = some m := by
          cases hmm : st.file.module with
          | none => simp only [pathOf, hmm, Option.map_none, Option.getD_none] at hpath; exact absurd hpath hp
          | some m => exact ⟨m, rfl⟩
        have hpm : path = m.mod.path := by simp only [pathOf, hm, Option.map_some, Option.getD_some] at hpath; exact hpath
        have hlf : FixLeaf ι Q F path fx := by rw [hpm]; exact hleaf fx m rfl hm (by rw [← hpm]; exact hp)
        have hnd : o.Retract.Nodup := rt.retract.nodup
        have hf' : F + o.Retract.length + 1 ≤ n + 1 := by rw [hlenR]; exact hfuel
        obtain ⟨ri, errs', h', rc, hrun, ⟨ls', rt', rfl, hlen, hframe⟩, hsyn', hinj', herr', hents', hpre'⟩ :=
          FRL_spec hp hlf o.Retract st.file.retract [] h errs st.file.syn st.errsRev o 0 (n + 1) hf' ho ⟨es, hsa⟩ R.inj R.errs
            hI.todo hnd hI.nodup hI.mem
        simp only [List.nil_append, List.length_nil, Int.natCast_zero] at hrun
        rw [hrun]
        refine ⟨errs', _, rfl, ?_, hpre'⟩
        rw [← hrs]
        exact ⟨⟨o, ho, rt.afterFix ls' rt' hlen _ hents', hsyn'⟩, hinj', herr'⟩

protected theorem idxL_mid {α : Type} (a : List α) (x : α) (b : List α) : idxL (a ++ x :: b) (a.length : Int) = .ok x :=
  GoRt.idxL_mid a x b

protected theorem lt_len_mid {α : Type} (a : List α) (x : α) (b : List α) : ((a.length : Nat) : Int) < GoRt.len (a ++ x :: b) :=
  GoRt.lt_len_mid a x b

protected theorem not_lt_len_self {α : Type} (a : List α) : ¬ (((a.length : Nat) : Int) < GoRt.len a) := GoRt.not_lt_len_self a

end ModVerif.Tie.FnRuleAddF
