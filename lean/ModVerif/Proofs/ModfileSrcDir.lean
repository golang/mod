/-
  End-of-line comments on the SOURCE text: the three clauses under the source condition
  `NoMultiLineToken x` (no token of the input spans two source lines) instead of the tree condition `EolCount`.

  For clause 3 the tree `f.syn` the typed parsers return is the tree of `parse` with the tokens of some lines
  rewritten (`addStmts` / `workStmts`); the comments are untouched, so `EolCount` carries over.
-/
import ModVerif.Proofs.ModfileSrcLine
import ModVerif.Proofs.ModfileEolWork
import ModVerif.Proofs.ModfileFmtCom
namespace ModVerif.Proofs.ModfileSrc
open ModVerif ModVerif.Modfile
open ModVerif.Proofs.ModfileFmtTree ModVerif.Proofs.ModfileFmtDir ModVerif.Proofs.ModfileFmtWork
open ModVerif.Proofs.ModfileEol

/-- ★ clause 1 (`Props.C02.format_parse_syntax_src`) -/
theorem format_parse_syntax_src (name x : Bytes) (t : FileSyntax) (h : parse name x = .ok t)
    (hN : NoMultiLineToken x) :
    ∃ t', parse name (format t) = .ok t' ∧ eraseFile t' = normFileE t ∧ EolCount t' :=
  format_parse_syntax_count name x t h (eolCount_of_single_line_tokens h hN)

/-- ★ clause 2 (`Props.C02.format_idempotent_src`) -/
theorem format_idempotent_src (name x : Bytes) (t t' : FileSyntax) (h : parse name x = .ok t)
    (hN : NoMultiLineToken x) (h' : parse name (format t) = .ok t') : format t' = format t :=
  format_idempotent_count name x t t' h (eolCount_of_single_line_tokens h hN) h'

theorem eolCount_syn_of_parseToFile (name x : Bytes) (fix : Option Fixer) (f : Modfile.File)
    (h : parseToFile name x fix true = .ok f) (hret : fix ≠ none → f.retract = []) (hN : NoMultiLineToken x) :
    EolCount f.syn := by
  obtain ⟨fs, st, stmts, hp, ha, -, rfl⟩ := parseToFile_noret h hret
  have hcfs : EolCount fs := eolCount_of_single_line_tokens hp hN
  refine ⟨hcfs.header, count_of_noTok (ss1 := fs.stmts) ?_ hcfs.stmts⟩
  have := addStmts_noTok fix true fs.stmts { file := { syn := fs } }
  rw [ha] at this
  exact this.symm

theorem eolCount_syn_of_parseWork (name x : Bytes) (fix : Option Fixer) (f : WorkFile)
    (h : parseWork name x fix = .ok f) (hN : NoMultiLineToken x) : EolCount f.syn := by
  obtain ⟨fs, st, stmts, hp, ha, -, rfl⟩ := ModfileParseTo.parseWork_ok_iff.1 h
  have hcfs : EolCount fs := eolCount_of_single_line_tokens hp hN
  refine ⟨hcfs.header, count_of_noTok (ss1 := fs.stmts) ?_ hcfs.stmts⟩
  have := workStmts_noTok fix fs.stmts { file := { syn := fs } }
  rw [ha] at this
  exact this.symm

/-- ★ clause 3, go.mod (`Props.C02.format_preserves_directives_src`) -/
theorem format_preserves_directives_src (name x : Bytes) (fix : Option Fixer) (f : Modfile.File)
    (h : parseToFile name x fix true = .ok f) (hN : NoMultiLineToken x) (hwf : WellFormed f)
    (hfix : FixOK fix) (hne : FixNE fix) (hret : fix ≠ none → f.retract = []) :
    ∃ f', parseToFile name (format f.syn) fix true = .ok f' ∧ values f' = values f :=
  let ⟨f', h1, h2, _⟩ := ModfileFmtCom.format_preserves_directives_com name x fix f h
    (eolCount_syn_of_parseToFile name x fix f h hret hN) hwf hfix hne hret
  ⟨f', h1, h2⟩

/-- ★ clause 3, go.work (`Props.C02.format_preserves_directives_work_src`) -/
theorem format_preserves_directives_work_src (name x : Bytes) (fix : Option Fixer) (f : WorkFile)
    (h : parseWork name x fix = .ok f) (hN : NoMultiLineToken x) (hwf : WorkWellFormed f)
    (hfix : FixOK fix) (hne : FixNE fix) :
    ∃ f', parseWork name (format f.syn) fix = .ok f' ∧ workValues f' = workValues f :=
  format_preserves_directives_work_eol name x fix f h (eolCount_syn_of_parseWork name x fix f h hN) hwf hfix hne

end ModVerif.Proofs.ModfileSrc
